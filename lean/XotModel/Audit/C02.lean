import XotModel.Props.C02
open XotModel.Props
#print axioms C02_content
#print axioms C02_content_at
#print axioms C02_xmlid
#print axioms C02_xmlid_expanded
#print axioms C02_xmlid_expanded_only
#print axioms C02_xmlid_expanded_spelled
#print axioms C02_cdata_line_ends
#print axioms C02_empty_cdata
#print axioms C02_namespace_uri
#print axioms C02_namespace_reserved
#print axioms C02_reserved_iff
#print axioms C02_reserved_not_well
#print axioms C02_local_xmlns
#print axioms C02_merge
#print axioms C02_scope_nearest
#print axioms C02_scope_base
#print axioms C02_scope_unprefixed_attribute
#print axioms C02_scope_invariant
#print axioms C02_scope_strings
#print axioms C02_scope_element
#print axioms C02_scope_attribute
#print axioms C02_spelled_fragment
#print axioms C02_spelled_document
#print axioms C02_fragment_spelled
#print axioms C02_envBase_fresh
#print axioms C02_envBaseNs_fresh
#print axioms C02_spelled_ns_fragment
#print axioms C02_spelled_ns_document
#print axioms spelled_from_ns_readings
#print axioms C02_spelled_from_ns_fragment
#print axioms C02_spelled_from_ns_document
#print axioms C02_spelled_from_ns
#print axioms C02_spelling_is_ns_spelling
#print axioms C02_envBase_weaker
#print axioms C02_fragment_spelled_ns
#print axioms C02_endtag_as_written
#print axioms C02_positions_irrelevant
#print axioms C02_positions_irrelevant_erased
#print axioms C02_accepted_prefixOk
#print axioms C02_erased_prefixOk
#print axioms C02_positions_irrelevant_ok
#print axioms C02_lexical_layout
#print axioms C02_lexical_canonical
#print axioms C02_lexical_fragment
#print axioms C02_lexical_prolog
#print axioms C02_lexical_document
#print axioms C02_lexical_declaration
#print axioms C02_lexical_bom
#print axioms C02_lexical_line_ends
#print axioms C02_comment_line_ends_normalised
#print axioms C02_line_ends_spec
#print axioms C02_pi_target_xml
#print axioms exSns_wellNs
#print axioms exSns_denote
#print axioms exSns_top
#print axioms C02_declaration_reader
#print axioms C02_declaration_reader_utf8
#print axioms C02_declaration_reader_utf16
#print axioms C02_declaration_reader_none
#print axioms C02_declaration_reader_non_ascii_none
#print axioms exDeclLong_ok
#print axioms C02_bytes_utf8
#print axioms C02_encoding_bait
#print axioms C02_encoding_bait_tag
#print axioms C02_pi_lookalike_fixed
#print axioms C02_bytes_utf16
#print axioms C02_bytes_utf16_nobom
#print axioms C02_bytes_latin
#print axioms C02_bytes_document
#print axioms C02_bytes_document_bom
#print axioms LDoc.decl_first
#print axioms C02_bytes_document_utf8
#print axioms C02_bytes_document_utf8_undeclared
#print axioms C02_bytes_document_latin
