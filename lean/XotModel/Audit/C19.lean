import XotModel.Props.C19
open XotModel.Props
#print axioms C19_xhtml_const_defect
#print axioms C19_xhtml_const_actual
#print axioms C19_mathml_const
#print axioms C19_svg_const
#print axioms C19_ns_distinct
#print axioms C19_doctype_const
#print axioms C19_tables_lowercase
#print axioms C19_void_table
#print axioms C19_no_escape_table
#print axioms all_contains_of_sublist
#print axioms filter_not_contains_single
#print axioms C19_tables_consistent
#print axioms increasing_head_lt
#print axioms nodup_of_increasing
#print axioms C19_tables_nodup
#print axioms C19_nopanic_write
#print axioms C19_nopanic
#print axioms C19_doctype_write
#print axioms C19_doctype
#print axioms C19_tags_close
#print axioms C19_tags_void_iff
#print axioms C19_tags_end
#print axioms C19_unprefixed
#print axioms C19_ids_ne_xml
#print axioms C19_embedded_inject
#print axioms C19_text
#print axioms C19_text_escaped
#print axioms C19_text_raw
#print axioms C19_text_cdata
#print axioms C19_attr
#print axioms C19_attr_xmlns
#print axioms C19_pi
#print axioms C19_pi_form
#print axioms C19_pi_refused
#print axioms C19_tokens
#print axioms C19_unprefixed_end
#print axioms C19_embedded
#print axioms getD_of_forall
#print axioms noSpaces_of_tables
#print axioms C19_text_roundtrip
#print axioms C19_attr_roundtrip
#print axioms C19_pretty_tokens
#print axioms C19_pretty_subtree
#print axioms C19_pretty_mixed_element
#print axioms C19_pretty_mixed_iff
#print axioms C19_pretty_where
#print axioms C19_pretty_where_tree
#print axioms C19_pretty_where_tree_mixed
#print axioms C19_pretty_where_tree_preserve
#print axioms C19_normalizer_noop
#print axioms C19_normalizer_outcome
#print axioms C19_normalizer_text
#print axioms C19_normalizer_text_escaped
#print axioms C19_normalizer_text_roundtrip
#print axioms C19_normalizer_attr_escaped
#print axioms C19_normalizer_attr_xmlns
#print axioms C19_normalizer_is_premap
#print axioms C19_normalizer_hypotheses
#print axioms C19_normalizer_fullwidth
#print axioms c19Norm_facts
#print axioms C19_normalizer_bool_necessary
#print axioms C19_normalizer_write
#print axioms C19_write_unlimited
#print axioms C19_write_nopanic_any_writer
#print axioms C19_write_fails_with_io
#print axioms C19_write_error_priority
#print axioms C19_pretty_adds_whitespace
#print axioms C19_pretty_token_kinds
#print axioms C19_pretty_only_whitespace
#print axioms C19_pretty_only_whitespace_any_tree
#print axioms C19_pretty_first_token
#print axioms C19_pretty_void_element_boundary
#print axioms C19_pretty_fragment_text_gets_newline
#print axioms C19_suppress_exact
#print axioms C19_suppress_semantics
#print axioms C19_suppress_early_exit_general
#print axioms C19_suppress_early_exit
#print axioms C19_write_fails_with_io_bytes
#print axioms C19_write_nopanic_any_writer_bytes
#print axioms C19_write_error_priority_bytes
