import XotModel.Props.C01
open XotModel.Props
#print axioms C01_tables_attr
#print axioms C01_tables_text
#print axioms C01_text
#print axioms C01_attr
#print axioms C01_text_lexsafe
#print axioms C01_attr_lexsafe
#print axioms C01_serialised_is_rendering
#print axioms C01_serialised_is_rendering_ok
#print axioms C01_serialised_is_rendering_conv
#print axioms C01_serialised_fails_iff
#print axioms C01_serialised_is_rendering_at
#print axioms C01_lexCanon_document
#print axioms C01_lexCanon_fragment
#print axioms C01_serialised_is_rendering_representable_pi_colon
#print axioms C01_rendering_lexok_pi_colon
#print axioms C01_rendering_lexok_fragment_pi_colon
#print axioms C01_serialised_ok_representable_pi_colon
#print axioms C01_build_pi_colon
#print axioms C01_build_fragment_pi_colon
#print axioms C01_main_identical_pi_colon
#print axioms C01_main_fragment_identical_pi_colon
#print axioms C01_serialises_pi_colon
#print axioms deepEqual_self_pi_colon
#print axioms C01_main_deep_equal_pi_colon
#print axioms C01_main_fragment_deep_equal_pi_colon
#print axioms C01_roundtrip_identical_pi_colon
#print axioms C01_roundtrip_fragment_identical_pi_colon
#print axioms C01_roundtrip_writable_pi_colon
#print axioms C01_serialised_is_rendering_representable
#print axioms C01_rendering_lexok
#print axioms C01_rendering_lexok_fragment
#print axioms C01_rendering_decodes
#print axioms C01_value_spelling
#print axioms c01Doc_representable
#print axioms c01Doc_fragment
#print axioms c01Doc_toXmlString
#print axioms c01Doc_tokens
#print axioms C01_spelling_tokens
#print axioms C01_spelling_denotes
#print axioms C01_spelling_well
#print axioms C01_envBaseNs
#print axioms C01_serialised_ok_representable
#print axioms C01_encode_decode
#print axioms C01_build
#print axioms C01_build_fragment
#print axioms C01_main_identical
#print axioms C01_main_fragment_identical
#print axioms C01_main
#print axioms C01_main_fragment
#print axioms C01_serialises
#print axioms C01_main_writable
#print axioms C01_main_deep_equal
#print axioms C01_main_fragment_deep_equal
#print axioms C01_roundtrip
#print axioms C01_roundtrip_identical
#print axioms C01_roundtrip_fragment
#print axioms C01_roundtrip_fragment_identical
#print axioms C01_roundtrip_writable
#print axioms C01_roundtrip_fragment_writable
#print axioms C01_inner_tokens
#print axioms C01_inner_serialisation
#print axioms C01_inner_serialisation_params
#print axioms C01_inner_standalone_representable
#print axioms C01_inner_serialises
#print axioms C01_roundtrip_inner_nodes
#print axioms C01_roundtrip_inner
#print axioms C01_roundtrip_inner_writable
#print axioms c01InnerDoc_toXmlString
#print axioms C01_inv_roundtrip
#print axioms C01_inv_roundtrip_fragment
#print axioms C01_reachable_roundtrip
#print axioms C01_reachable_roundtrip_fragment
#print axioms C01_reachable_roundtrip_store
#print axioms reachDocRun_facts
#print axioms C01_reachable_roundtrip_full
#print axioms C01_reachable_roundtrip_full_fragment
#print axioms C01_reachable_roundtrip_full_store
#print axioms C01_parse_edit_serialise
#print axioms C01_parse_edit_start
#print axioms C01_parse_serialise
#print axioms C01_edited_values
#print axioms C01_edited_values_static
#print axioms C01_parse_edit_serialise_values
#print axioms fullRun_facts
#print axioms fullRunB_facts
#print axioms fullText_accepted
#print axioms C01_text_unescaped_gt
#print axioms C01_text_unescaped_gt_lexsafe
#print axioms C01_text_unescaped_gt_spelling
#print axioms C01_text_unescaped_gt_input
#print axioms C01_cdata_run
#print axioms C01_cdata_sections_carry
#print axioms C01_cdata_nonXmlChar_unwritable
#print axioms C01_serialised_is_rendering_params
#print axioms C01_text_node_tokens
#print axioms C01_roundtrip_params
#print axioms C01_roundtrip_params_fragment
#print axioms C01_roundtrip_unescaped_gt
#print axioms C01_roundtrip_cdata
#print axioms C01_params_serialises
#print axioms C01_roundtrip_params_writable
#print axioms C01_reachable_roundtrip_params
#print axioms c01ParamDoc_representable
#print axioms c01ParamDoc_serialises
#print axioms C01_roundtrip_pi_colon
#print axioms C01_roundtrip_pi_colon_fragment
#print axioms C01_representable_pi_of_representable
#print axioms C01_reachable_creation_roundtrip
#print axioms C01_reachable_creation_roundtrip_fragment
#print axioms creationDocRoot_mem
