import XotModel.Props.C14
open XotModel.Props
#print axioms C14_cdata_literals
#print axioms C14_cdata_cr_reference
#print axioms C14_cdata
#print axioms C14_gt_tables
#print axioms C14_gt
#print axioms C14_gt_no_cdata_end
#print axioms C14_gt_lexsafe
#print axioms C14_pretty_content
#print axioms C14_pretty_content_conv
#print axioms C14_pretty_string
#print axioms C14_pretty_where_newline
#print axioms C14_pretty_where_mixed
#print axioms C14_pretty_where_entry
#print axioms C14_pretty_where
#print axioms C14_pretty_where_endtag
#print axioms C14_doctype_element
#print axioms C14_doctype_document
#print axioms C14_pretty_where_tree
#print axioms C14_pretty_where_tree_mixed
#print axioms C14_pretty_where_tree_preserve
#print axioms C14_pretty_token_kinds
#print axioms C14_pretty_text_token
#print axioms C14_pretty_only_whitespace
#print axioms C14_pretty_first_token
#print axioms C14_pretty_fragment_text_gets_newline
#print axioms C14_decl_shape
#print axioms C14_decl_rest
#print axioms C14_decl
#print axioms C14_decl_necessary
#print axioms C14_cdata_element_iff
#print axioms C14_cdata_token
#print axioms C14_cdata_tokens
#print axioms C14_serialised_is_rendering
#print axioms C14_rendering_lexok
#print axioms C14_options_gt
#print axioms C14_options_cdata
#print axioms C14_options_cdata_fragment
#print axioms C14_options_serialises
#print axioms C14_options_decl
#print axioms C14_decl_lexed
#print axioms C14_options_decl_fragment
#print axioms c14Doc_serialises
#print axioms C14_options_indent
#print axioms C14_indent_string
#print axioms C14_indent_where
#print axioms c14Ind_serialises
#print axioms C14_indent_inner_serialisation
#print axioms C14_indent_roundtrip_inner_nodes
#print axioms C14_indent_roundtrip_inner
#print axioms c01InnerDoc_serialises_indented
#print axioms C14_normalizer_noop
#print axioms C14_normalizer_is_premap
#print axioms C14_normalizer_is_premap_tokens
#print axioms C14_normalizer_outcome
#print axioms C14_normalizer_hypotheses
#print axioms C14_normalizer_fullwidth
#print axioms C14_normalizer_roundtrip
#print axioms C14_normalizer_roundtrip_indent
#print axioms c14NormDoc_serialises
#print axioms c14NormDoc_domain
#print axioms C14_normalizer_ns_necessary
#print axioms C14_normalizer_space_necessary
#print axioms C14_write_ok_is_complete
#print axioms C14_pretty_only_whitespace_bytes
#print axioms C14_indent_leaf_start
#print axioms C14_indent_leaf_start_doctype
#print axioms C14_indent_leaf_start_roundtrip
#print axioms C14_reachable_indent_roundtrip
#print axioms C14_reachable_indent_roundtrip_store
#print axioms C14_reachable_indent_roundtrip_inner
