import XotModel.Props.C10
open XotModel.Props
#print axioms C10_stack_base
#print axioms C10_stack_base_inScope
#print axioms C10_stack_invariant
#print axioms C10_stack_push
#print axioms C10_stack_pop
#print axioms C10_resolve_lookup
#print axioms C10_sound_prefix
#print axioms C10_sound
#print axioms C10_sound_refused
#print axioms C10_sound_attribute
#print axioms C10_error_element
#print axioms C10_error_attribute
#print axioms C10_stack_traversal
#print axioms C10_sound_tree
#print axioms C10_sound_tree_endtag
#print axioms C10_sound_tree_attribute
#print axioms C10_repair_element
#print axioms C10_repair_refused
#print axioms C10_repair_frame
#print axioms C10_repair_writable
#print axioms C10_repair_fresh_prefixes
#print axioms C10_repair_idem
#print axioms C10_repair_keeps_unique
#print axioms C10_repair_document_frame
#print axioms C10_repair_document_writable
#print axioms C10_repair_document_calls
#print axioms C10_repair_document_idem
#print axioms C10_iter_invariant
#print axioms C10_iter
#print axioms C10_iter_document
#print axioms C10_generated_prefix_injective
#print axioms C10_repair_fuel_suffices
#print axioms C10_repair_never_panics
#print axioms C10_repair_total
#print axioms C10_repair_document_total
#print axioms C10_repair_keeps_declarations
#print axioms C10_repair_keeps_bindings
#print axioms C10_repair_keeps_resolution
#print axioms C10_repair_document_writable_kinds
#print axioms C10_repair_document_valid
#print axioms C10_names_resolve_in_tokens
#print axioms C10_names_resolve_in_tokens_xml
#print axioms C10_repair_representable
#print axioms C10_repair_representable_element
#print axioms C10_repair_representable_fragment
#print axioms repair_fragment_deepEqual
#print axioms C10_repair_roundtrip
#print axioms C10_repair_roundtrip_total
#print axioms C10_repair_roundtrip_fragment
#print axioms C10_repair_roundtrip_element
#print axioms C10_repair_roundtrip_inner
#print axioms c10RtDoc_facts
#print axioms C10_inv_repair_roundtrip
#print axioms C10_reachable_creation_repair_roundtrip
#print axioms C10_reachable_repair_roundtrip
#print axioms c10ReachRun_facts
#print axioms C10_reachable_repair_roundtrip_full
#print axioms c10FullRun_facts
#print axioms C10_repair_document_keeps_declarations
#print axioms C10_repair_document_keeps_bindings
#print axioms C10_writable_run_outcome
#print axioms C10_repair_run_outcome
#print axioms C10_repair_document_run_outcome
#print axioms C10_writable_resolves_everywhere
#print axioms C10_repair_resolves_everywhere
#print axioms C10_repair_keeps_table_hypotheses
#print axioms C10_repair_names_resolve_in_tokens
#print axioms C10_repair_roundtrip_inner_full
