import XotModel.Props.C11
open XotModel.Props
#print axioms C11_insert_existing_keeps_nodes
#print axioms C11_remove_absent
#print axioms C11_nonelement_panics
#print axioms C11_refine_insert
#print axioms C11_insert_nodes
#print axioms C11_refine_remove
#print axioms C11_refine_clear
#print axioms C11_refine_insert_node
#print axioms C11_any_append_entry
#print axioms C11_other_view_untouched
#print axioms C11_children_untouched
#print axioms C11_children_untouched_node
#print axioms C11_refine_remove_node
#print axioms C11_insert_node_existing_key
#print axioms C11_move_node
#print axioms C11_append_own_node
#print axioms C11_unique_keys
#print axioms C11_reference_is_a_map
#print axioms C11_reads
#print axioms C11_histories
#print axioms C11_step
#print axioms C11_preserves_inv
#print axioms C11_entry_or_insert
#print axioms C11_entry_or_default
#print axioms C11_entry_and_modify
#print axioms C11_entry_and_modify_or_insert
#print axioms C11_entry_insert_remove
#print axioms C11_get_mut
#print axioms C11_entry_api
#print axioms C11_entry_or_insert_with_eq
#print axioms C11_entry_or_insert_with
#print axioms C11_entry_into_mut_eq
#print axioms C11_entry_into_mut
#print axioms C11_entry_key_get
#print axioms C11_order
#print axioms C11_get_attribute
#print axioms C11_step_all
#print axioms C11_histories_all
#print axioms C11_kn_views
#print axioms C11_positions_stable
#print axioms C11_positions_history
#print axioms C11_history_keeps_node
#print axioms C11_reads_iter
#print axioms C11_to_hashmap
#print axioms C11_serialisation_applies
#print axioms C11_serialisation_order
#print axioms C11_step_returns
#print axioms C11_histories_returns
#print axioms C11_histories_returns_extends
#print axioms C11_returns_closed
#print axioms C11_step_nodes
#print axioms C11_step_reference
#print axioms C11_histories_reference
#print axioms C11_knFollow
#print axioms C11_not_touching_frame
#print axioms C11_touchesEntries_iff
#print axioms C11_specStep_local
#print axioms C11_histories_interleaved
#print axioms C11_reachable_histories_interleaved_full
#print axioms C11_interleaved_extends
#print axioms c11MixPre_wellKinded
#print axioms c11MixPre_eq
#print axioms c11Mix_ok
#print axioms C11_histories_interleaved_sharp
#print axioms C11_reachable_histories_interleaved_sharp_full
#print axioms C11_step_sharp
#print axioms c11SharpPre_wellKinded
#print axioms c11SharpPre_eq
#print axioms c11Sharp_ok
