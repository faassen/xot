import XotModel.Props.C09
open XotModel.Props
#print axioms C09_in_scope
#print axioms C09_ns_for_prefix
#print axioms C09_ns_for_prefix_in_scope
#print axioms C09_defined
#print axioms C09_prefix_sound
#print axioms C09_prefix_complete
#print axioms C09_prefix_iff
#print axioms C09_node_name_ref
#print axioms C09_unresolved_recursive
#print axioms C09_unresolved_element
#print axioms C09_unresolved_real
#print axioms C09_stack_invariant
#print axioms C09_unresolved
#print axioms C09_unresolved_needs
#print axioms C09_unresolved_unique_needed
#print axioms C09_inherited
#print axioms C09_inherited_sound
#print axioms C09_inherited_iff
#print axioms C09_fullname_string
#print axioms C09_nameref_attribute
#print axioms C09_nameref_element
#print axioms C09_nameref_other_name
#print axioms C09_fullname_attribute
#print axioms C09_fullname_element
#print axioms C09_fullname_other_name
#print axioms C09_fullname
#print axioms C09_namespace_prefix_first
#print axioms C09_prefix_first
#print axioms C09_parse_full_name_inverse
#print axioms C09_parse_full_name_resolves
#print axioms C09_to_owned_round_trip
#print axioms C09_interned_found
#print axioms C09_has_unprefixed_namespace
#print axioms C09_with_suffix
#print axioms C09_with_default_namespace
#print axioms C09_reachable_unique
#print axioms C09_reachable_unresolved
#print axioms C09_reachable_inherited_iff
#print axioms c09ReachRoot_mem
#print axioms C09_reachable_unique_full
#print axioms C09_reachable_unresolved_full
#print axioms C09_reachable_inherited_iff_full
#print axioms c09FullCalls_wellKinded
#print axioms c09FullRun_value
#print axioms c09FullEnv_eq
#print axioms c09FullRoot_mem
#print axioms C09_reachable_creation_unique
#print axioms C09_reachable_creation_unresolved
#print axioms C09_reachable_creation_inherited_iff
#print axioms C09_inv_unresolved
