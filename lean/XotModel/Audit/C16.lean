import XotModel.Props.C16
open XotModel.Props
#print axioms C16_literals
#print axioms streamBytes_eq_flatMap
#print axioms C16_tokens
#print axioms C16_tokens_conv
#print axioms C16_tokens_fail
#print axioms C16_pretty
#print axioms C16_pretty_conv
#print axioms C16_write
#print axioms C16_write_default
#print axioms C16_to_string
#print axioms C16_xml_string_body
#print axioms C16_xml_string
#print axioms C16_xml_string_conv
#print axioms C16_events_start
#print axioms C16_events_element
#print axioms C16_events_inherited
#print axioms C16_events_leaf
#print axioms C16_events_children
#print axioms C16_events_tagged
#print axioms C16_events_order
#print axioms C16_normalizer_tokens
#print axioms C16_normalizer_write
#print axioms C16_normalizer_write_fail
#print axioms C16_normalizer_events
#print axioms C16_write_unlimited
#print axioms C16_write_fails_with_io
#print axioms C16_write_error_priority
#print axioms C16_write_default_any_writer
#print axioms C16_write_fails_with_io_bytes
#print axioms C16_write_error_priority_bytes
#print axioms C16_write_default_any_writer_bytes
#print axioms C16_utf8
