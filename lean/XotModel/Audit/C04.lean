import XotModel.Props.C04
open XotModel.Props
#print axioms C04_init
#print axioms C04_setConsolidation
#print axioms C04_setValue_handles
#print axioms C04_newNode_handles
#print axioms C04_cut_handles
#print axioms C04_dropSubtree_handles
#print axioms C04_spliceOut_handles
#print axioms C04_placeAfter_handles
#print axioms C04_placeBefore_handles
#print axioms C04_placeLast_handles
#print axioms C04_placeFirst_handles
#print axioms C04_newNode
#print axioms C04_newDocument
#print axioms C04_newElement
#print axioms C04_newText
#print axioms C04_newComment
#print axioms C04_newPi
#print axioms C04_newAttributeNode
#print axioms C04_newNamespaceNode
#print axioms C04_removeConsolidate
#print axioms C04_addConsolidate
#print axioms C04_append
#print axioms C04_prepend
#print axioms C04_insertAfter
#print axioms C04_insertBefore
#print axioms C04_detach
#print axioms C04_remove
#print axioms C04_setElementName
#print axioms C04_setText
#print axioms C04_setComment
#print axioms C04_setPiData
#print axioms C04_setValue
#print axioms C04_mapRemove
#print axioms C04_mapClear
#print axioms C04_removeInsignificantWhitespace
#print axioms C04_mapInsert
#print axioms C04_mapInsertNode
#print axioms C04_appendEntryNode
#print axioms C04_anyAppend
#print axioms C04_textContentSet
#print axioms C04_step_le
#print axioms C04_isRemoved_monotone
#print axioms C04_isRemoved_history
#print axioms C04_fresh_handle
#print axioms C04_step
#print axioms C04_handles_step
#print axioms C04_reach
#print axioms C04_reach_bool
#print axioms C04_step_all
#print axioms C04_reach_all
#print axioms C04_reach_all_bool
#print axioms C04_replace_partial
#print axioms C04_replace_gap
#print axioms C04_replace
#print axioms C04_replaceStatement_holds
#print axioms C04_elementWrap
#print axioms C04_elementWrapStatement_holds
#print axioms C04_textGap_off
#print axioms C04_elementUnwrap
#print axioms C04_elementUnwrapStatement_holds
#print axioms C04_cloneInto
#print axioms C04_cloneKids
#print axioms C04_cloneNode_partial
#print axioms C04_cloneNode_guarded
#print axioms C04_cloneTopOK
#print axioms C04_cloneNode
#print axioms C04_cloneNodeStatement_holds
#print axioms C04_value_stable_newNode
#print axioms C04_value_stable_append
#print axioms C04_value_stable_prepend
#print axioms C04_value_stable_insertAfter
#print axioms C04_value_stable_insertBefore
#print axioms C04_value_stable_remove
#print axioms C04_value_stable_detach
#print axioms C04_value_call
#print axioms C04_value_step
#print axioms C04_live_or_removed
#print axioms C04_value_cloneNode
#print axioms C04_value_exact_append
#print axioms C04_value_exact_prepend
#print axioms C04_value_exact_insertAfter
#print axioms C04_value_exact_insertBefore
#print axioms C04_value_exact_detach
#print axioms C04_value_exact_remove
#print axioms C04_value_moved_root
#print axioms C04_value_moved_append
#print axioms C04_value_moved_prepend
#print axioms C04_value_moved_insertAfter
#print axioms C04_value_moved_insertBefore
#print axioms C04_handle_meaning
#print axioms C04_reads_live
#print axioms C04_isRemoved_iff
#print axioms C04_get_live
#print axioms C04_call_inv
#print axioms C04_runCalls
#print axioms C04_step_prefixes
#print axioms C04_step_dedup
#print axioms C04_step_dedup_passes
#print axioms C10_forest_repair_refines_tree
#print axioms C10_forest_repair_element_branch
#print axioms C10_forest_repair_refines_tree_document
#print axioms C10_forest_repair_refusals
#print axioms C10_forest_uniqueBelow
#print axioms C10_forest_repair_writable
#print axioms C15_forest_dedup_pass_refines_tree
#print axioms C15_forest_dedup_refines_tree
#print axioms C15_forest_dedup_passes_refine_tree
#print axioms C15_forest_dedup_only_namespace_nodes_go
#print axioms C15_forest_dedup_idem
#print axioms C15_forest_dedup_serialises
#print axioms C04_xml_id_live
#print axioms C04_xml_id_live_history
#print axioms C04_xml_id_wf
#print axioms C04_xml_id_parse
#print axioms C04_xml_id_index_frozen
#print axioms C04_xml_id_stable
#print axioms C04_parse_inv
#print axioms C04_reach_parse
#print axioms C04_step_creation
#print axioms C04_creation_as_history
#print axioms C04_reach_creation
#print axioms C04_arena_wf_reachable
#print axioms C04_arena_wf_step
#print axioms C04_arena_new_node
#print axioms C04_arena_is_removed_live
#print axioms C04_arena_is_removed_forever
#print axioms C04_arena_is_removed_forever_subtree
#print axioms C04_arena_stamp_saturates
#print axioms C04_arena_refines_detach
#print axioms C04_arena_refines_append
#print axioms C04_arena_refines_prepend
#print axioms C04_arena_refines_insert_after
#print axioms C04_arena_refines_insert_before
#print axioms C04_arena_refines_remove
#print axioms C04_arena_refines_remove_root_one
#print axioms C04_arena_refines_remove_subtree
#print axioms C04_arena_refines_forest_step
#print axioms C04_arena_refines_forest
#print axioms C04_arena_refines_forest_calls
#print axioms C04_live_has_path
#print axioms C04_traversals_live
#print axioms C04_traversals_live_of_live
#print axioms C04_traversal_paths_valid
#print axioms C04_step_cloneWithPrefixes
#print axioms C04_step_ext
#print axioms C04_reach_ext_from
#print axioms C04_reach_ext
#print axioms C04_reach_ext_bool
#print axioms C04_reach_ext_prefix
#print axioms C04_ext_ofOp_wellKinded
#print axioms C04_ext_run_ofOp
#print axioms C04_ext_run_ofStep
#print axioms C04_reach_ext_ops
#print axioms C04_step_le_ext
#print axioms C04_isRemoved_history_ext
#print axioms C04_arena_id_classes
#print axioms C04_arena_removed_stays_removed
#print axioms C04_arena_stale_reads
#print axioms C04_arena_stale_read_only
#print axioms C04_arena_stale_checked
#print axioms C04_arena_stale_checked_classes
#print axioms C04_arena_stale_passes_removed_check
#print axioms C04_arena_foreign_out_of_range
#print axioms C04_arena_stale_detach_partial
#print axioms C04_arena_stale_detach_meta
#print axioms C04_arena_stale_detach_Statement_false
#print axioms C04_arena_stale_detach_breaks_wf
#print axioms C04_arena_stale_remove_double_free
#print axioms C04_arena_stale_remove_Statement_false
#print axioms C04_arena_stale_acts_on_new_occupant
#print axioms C04_arena_one_arg_calls_index_only
#print axioms C04_arena_stale_iterators
#print axioms C04_arena_never_hands_out_removed
#print axioms C04_arena_never_hands_out_removed_reachable
#print axioms C04_arena_get_node_id_at_live
#print axioms C04_inv_structure
#print axioms C04_inv_structValid
#print axioms C04_reachable_structure
#print axioms C04_inv_hypotheses
#print axioms C04_reachable_hypotheses
#print axioms C04_reachable_parse
#print axioms C01_reachable_representable
#print axioms C01_representable_structural
#print axioms exCalls_everOff
#print axioms reachDocCalls_wellKinded
#print axioms reachDocRoot_mem
#print axioms C04_parsed_valid
#print axioms C04_built_valid
#print axioms C04_valid_of_structure
#print axioms C04_step_full
#print axioms C04_reach_full_from
#print axioms C04_reach_full
#print axioms C04_reach_full_bool
#print axioms C04_reach_full_index
#print axioms C04_parse_no_duplicate_id
#print axioms C04_parse_keeps_tables
#print axioms C04_parse_then_edit_tables
#print axioms C04_api_keeps_tables
#print axioms C04_reach_full_index_accepted
#print axioms C04_full_embeds
#print axioms C04_step_le_full
#print axioms C04_isRemoved_history_full
#print axioms C04_xml_id_full
#print axioms C04_reachable_structure_full
#print axioms C04_reachable_hypotheses_full
#print axioms C01_reachable_representable_full
#print axioms fullCalls_wellKinded
#print axioms fullCallsB_wellKinded
#print axioms run_fullText
#print axioms fullRun_eq
#print axioms fullRunBPre_eq
#print axioms fullRunB_eq
#print axioms fullRoots
#print axioms fullRootsB
#print axioms fullRoot_mem
#print axioms fullRootB_mem
#print axioms C04_replace_extended_texts
#print axioms C04_replace_site_extended
#print axioms C04_unwrap_extended_texts
#print axioms C04_unwrap_site_extended
#print axioms C04_strip_extended_texts
#print axioms C04_mapInsert_extended_texts
#print axioms C04_wrap_extended_texts
#print axioms C04_mapRemove_extended_texts
#print axioms C04_mapClear_extended_texts
#print axioms C04_editAt_pairs
#print axioms C04_unwrapSites_simpl
#print axioms C04_unwrapSites_eq
#print axioms C04_unwrap_extended_texts_simpl
#print axioms C04_replaceSites_simpl
#print axioms C04_replace_extended_texts_simpl
#print axioms C04_any_append_returns_live_witness
#print axioms C04_reachable_creation_structure
#print axioms C04_reachable_creation_hypotheses
#print axioms C01_reachable_creation_representable
