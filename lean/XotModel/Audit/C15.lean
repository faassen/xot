import XotModel.Props.C15
open XotModel.Props
#print axioms C15_subset
#print axioms C15_same_nodes
#print axioms C15_frame
#print axioms C15_keeps_undeclarations
#print axioms C15_keeps_undeclarations_at
#print axioms C15_keeps_undeclarations_unique_needed
#print axioms C15_terminates
#print axioms C15_pass_false
#print axioms C15_fuel_suffices
#print axioms C15_idem
#print axioms C15_recursive_form
#print axioms C15_serialises
#print axioms C15_serialises_root
#print axioms C15_serialises_call_node
#print axioms C15_serialises_inside
#print axioms C15_serialises_inside_only_elements_needed
#print axioms C15_serialises_everywhere
#print axioms C15_serialises_unique_needed
#print axioms C15_representable
#print axioms C15_representable_fragment
#print axioms C15_reparses_deep_equal
#print axioms C15_roundtrip
#print axioms C15_roundtrip_text
#print axioms C15_inv_dedup
#print axioms C15_reachable_creation_dedup
#print axioms C15_reachable_dedup
#print axioms c15ReachRun_facts
#print axioms C15_reachable_dedup_full
#print axioms c15FullRun_facts
#print axioms C15_same_start_nodes
#print axioms C15_serialises_from_every_start
#print axioms C15_serialises_from_start_same_path
#print axioms C15_roundtrip_inner_at
#print axioms C15_roundtrip_inner
#print axioms C15_roundtrip_inner_same_path
#print axioms C15_roundtrip_inner_call_node
#print axioms C15_roundtrip_inner_text
#print axioms c15InnerDoc_facts
#print axioms C15_reachable_dedup_inner_full
