import XotModel.Props.C17
open XotModel.Props
#print axioms C17_errors
#print axioms C17_inside
#print axioms C17_errors_content
#print axioms C17_error_step_reserved
#print axioms C17_error_step_invalidTarget
#print axioms C17_error_prefix_reserved
#print axioms C17_error_reserved_origin
#print axioms C17_ordered
#print axioms C17_boundaries
#print axioms C17_span_element_start
#print axioms C17_span_element_end
#print axioms C17_span_attribute
#print axioms C17_span_text_first
#print axioms C17_span_text_next
#print axioms C17_span_comment
#print axioms C17_span_pi
#print axioms C17_total_top
#print axioms C17_total
#print axioms C17_lex_slices
#print axioms C17_lex_sliceOf
#print axioms C17_lex_errpos
#print axioms C17_lex_shape
#print axioms C17_string_boundaries
#print axioms C17_string_inside
#print axioms C17_lex_ordered
#print axioms C17_string_ordered
#print axioms C17_lex_canonical_positions
#print axioms C17_token_delims_document
#print axioms C17_token_delims_fragment
#print axioms C17_token_delims
#print axioms C17_names_whole
#print axioms C17_slice_element
#print axioms C17_slice_attribute
#print axioms C17_scope_frames
#print axioms C17_scope_base_strings
#print axioms C17_scope_strings
#print axioms C17_scope_strings_fresh
#print axioms C17_scope_frames_text
#print axioms C17_scope_strings_text
#print axioms C17_scope_strings_text_attribute
#print axioms scopeWitness_check
#print axioms C17_slice_comment
#print axioms C17_slice_comment_noCr
#print axioms C17_slice_comment_noCr_source
#print axioms C17_slice_pi
#print axioms C17_slice_pi_noCr
#print axioms C17_slice_pi_noCr_source
#print axioms C17_slice_text
#print axioms C17_slice_element_end_name
#print axioms C17_slice_element_end_name_source
#print axioms C17_slice_comment_delimiters
#print axioms C17_slice_pi_delimiters
#print axioms C17_run_mode_from_source
#print axioms C17_decode_text_from_source
#print axioms C17_span_of_every_node
#print axioms C17_error_invalidTarget
#print axioms C17_error_invalidNamespaceDeclaration
