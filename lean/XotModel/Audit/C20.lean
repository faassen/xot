import XotModel.Props.C20
open XotModel.Props
#print axioms C20_good_of_inv
#print axioms C20_fixed_element
#print axioms C20_routeOk_of_spec
#print axioms C20_fixed
#print axioms C20_topdown
#print axioms C20_bottomup
#print axioms C20_rtl
#print axioms C20_routes_agree
#print axioms C20_routes_compose
#print axioms C20_inv_preserved
#print axioms C20_fixed_init
#print axioms C20_any_order
#print axioms C20_any_order_conv
#print axioms C20_any_order_content
#print axioms C20_orders_agree
#print axioms C20_orders_agree_at
#print axioms C20_every_construction
#print axioms C20_every_clean_construction
#print axioms C20_spec_preserves_inv
#print axioms C20_inv_along
#print axioms C20_moveOk_is_the_check
#print axioms C20_illformed_move_refused
#print axioms C20_wellformed_move_ok
#print axioms C20_refusal_exact
#print axioms C20_init_inv
#print axioms C20_progC_constructs
#print axioms C20_representable_wf
#print axioms C20_parse_route
#print axioms C20_parse_route_writable
#print axioms C20_parse_agrees_with_route
#print axioms C20_all_routes_agree
#print axioms docD_representable
#print axioms docD_namesWritable
#print axioms docD_toXmlString
#print axioms C20_parse_route_forest
#print axioms C20_parse_routeOk
#print axioms C20_all_routes_agree_forest
#print axioms C20_program_refines
#print axioms C20_program_spec_preserves_inv
#print axioms C20_program_call
#print axioms C20_any_program
#print axioms C20_programs_agree
#print axioms C20_program_fixed_route
#print axioms C20_program_fixed
#print axioms C20_program_parse_route
#print axioms C20_any_program_conv
#print axioms C20_program_refusal_exact
#print axioms C20_program_checks
#print axioms C20_program_base
#print axioms C20_program_base_constructs
#print axioms C20_progX_constructs
#print axioms C20_program3_refines
#print axioms C20_program3_call
#print axioms C20_any_program3
#print axioms C20_any_program3_at
#print axioms C20_programs3_agree
#print axioms C20_programs3_agree_all
#print axioms C20_program3_no_refusal
#print axioms C20_any_program3_conv
#print axioms C20_program3_ok_denotes
#print axioms C20_program3_refusal_exact
#print axioms C20_program3_call_exact
#print axioms C20_program3_clear_exact
#print axioms C20_program3_old
#print axioms C20_program3_old_constructs
#print axioms C20_program3_navigation
#print axioms C20_storeN_inv
#print axioms C20_progN_constructs
