import XotModel.Props.C13
open XotModel.Props
#print axioms C13_iff
#print axioms C13_attribute_nodes
#print axioms C13_namespace_nodes
#print axioms C13_reflexive
#print axioms C13_symmetric
#print axioms C13_transitive
#print axioms C13_advanced
#print axioms C13_advanced_abnormal
#print axioms C13_advanced_all
#print axioms C13_ignores_declarations
#print axioms C13_ignores_prefix
#print axioms C13_ignores_attribute_order
#print axioms deepEqualXpath_elements
#print axioms C13_xpath
#print axioms C13_xpath_other
#print axioms C13_children
#print axioms C13_shallow_ignore
#print axioms C13_shallow
#print axioms C13_string_value
#print axioms C13_string_value_other
#print axioms C13_stripped_valid
#print axioms C13_xpath_stripped_cmp
#print axioms C13_xpath_stripped
#print axioms C13_xpath_no_text_merge
#print axioms C13_canon_sorted
#print axioms C13_canon_sorted_eq
#print axioms C13_attrs_sorted
#print axioms C13_ignores_attribute_order_deep
#print axioms C13_ignores_declarations_deep
#print axioms C13_text_content
#print axioms C13_text_content_canon
#print axioms C13_text_content_string_value
#print axioms C13_equiv_all_trees
#print axioms C13_equiv_all_trees_needs_unique_names
#print axioms C13_expanded_names
#print axioms C13_expanded_name_ids
#print axioms C13_reachable_valid
#print axioms C13_reachable_iff
#print axioms C13_reachable_equivalence
#print axioms C13_reachable_variants
#print axioms C13_reachable_string_value
#print axioms C13_reachable_valid_full
#print axioms C13_reachable_iff_full
#print axioms C13_reachable_equivalence_full
#print axioms C13_reachable_variants_full
#print axioms C13_reachable_string_value_full
#print axioms C13_reachable_shallow_ignore_full
#print axioms C13_reachable_shallow_full
#print axioms c13FullCalls_wellKinded
#print axioms c13FullRoots
#print axioms c13FullRootA_mem
#print axioms c13FullRootB_mem
#print axioms C13_custom_equivalence
#print axioms C13_custom_equivalence_all_trees
#print axioms C13_custom_reachable_equivalence_full
#print axioms C13_custom_equivalence_converse
#print axioms C13_custom_applies_everywhere
#print axioms C13_custom_single_attribute
#print axioms C13_reachable_creation_valid
#print axioms C13_reachable_creation_iff
#print axioms C13_reachable_creation_equivalence
#print axioms C13_reachable_creation_string_value
#print axioms C13_reachable_creation_variants
#print axioms C13_inv_iff
