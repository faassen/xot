import XotModel.Props.C12
open XotModel.Props
#print axioms C12_total
#print axioms C12_fresh
#print axioms C12_frame
#print axioms C12_frame_get
#print axioms C12_equal
#print axioms C12_equal_strict
#print axioms C12_locality
#print axioms C12_independent
#print axioms C12_prefixes_frame
#print axioms C12_prefixes_non_element
#print axioms C12_prefixes_total
#print axioms C12_prefixes
#print axioms C12_store
#print axioms C12_store_fields
#print axioms exForest_inv
#print axioms C12_serialises_is_to_string
#print axioms C12_clone_roundtrip
#print axioms C12_clone_roundtrip_strict
#print axioms C12_clone_roundtrip_source
#print axioms exClone_representable
#print axioms C12_sepB_of_inv
#print axioms C12_locality_call
#print axioms C12_locality_cloneNode
#print axioms C12_locality_call_root
#print axioms C12_locality_step
#print axioms C12_locality_all
#print axioms C12_locality_ops
#print axioms C12_independent_all
#print axioms C12_locality_xcall
#print axioms C12_locality_ext
#print axioms C12_locality_ext_args
#print axioms C12_locality_xcall_root
#print axioms C12_locality_createMissingPrefixes
#print axioms C12_locality_deduplicateNamespaces
#print axioms C12_locality_removeInsignificantWhitespace
#print axioms C12_locality_cloneWithPrefixes
#print axioms C12_ext_run_ofStep
#print axioms C12_independent_ext
#print axioms C12_locality_pcall
#print axioms C12_locality_full
#print axioms C12_reachable_locality_full
#print axioms C12_reachable_independent_full
#print axioms c12FullRoot_mem
#print axioms c12FullCalls_args
#print axioms C12_clone_with_prefixes_fresh
