/-
  XotModel.Model.LexProgress — every stream primitive and every token parser moves the stream
  FORWARD over whole characters (`Reach s s'`: `s' = s.adv k`), and a parser that returns a
  token has consumed at least one character.  This is what makes the tokenizer loop
  (Model/Lex.lean) terminate, hence the file sits next to the model; the slice theorem
  (Lemmas/LexSlice*.lean) reuses `Reach`.
-/
import XotModel.Model.LexParse

namespace XotModel.Lex

open XotModel.Lex.Stream

theorem strLen_app (a b : Str) : strLen (a ++ b) = strLen a + strLen b := by
  induction a with
  | nil => simp [strLen]
  | cons c cs ih => simp [strLen, ih]; omega

/-- A result chosen by an `if`, taken apart by cases (cheaper than `split` on a long hypothesis). -/
theorem of_ite_eq_some {α : Type} {c : Prop} [Decidable c] {a b : Option α} {x : α} {P : Prop}
    (h : (if c then a else b) = some x) (ha : c → a = some x → P) (hb : ¬c → b = some x → P) : P := by
  by_cases hc : c
  · exact ha hc (by rwa [if_pos hc] at h)
  · exact hb hc (by rwa [if_neg hc] at h)

namespace Stream

@[simp] theorem adv_zero (s : Stream) : s.adv 0 = s := by
  cases s; simp [adv, strLen]

theorem adv_adv (s : Stream) (i j : Nat) : (s.adv i).adv j = s.adv (i + j) := by
  cases s with
  | mk pos rest =>
    simp only [adv, List.take_add, strLen_app, List.drop_drop, Stream.mk.injEq, and_true]
    omega

@[simp] theorem adv_rest (s : Stream) (k : Nat) : (s.adv k).rest = s.rest.drop k := rfl

theorem adv_len (s : Stream) (k : Nat) : (s.adv k).rest.length = s.rest.length - k := by
  simp [adv]

/-- `s'` lies `k` characters further along the same text. -/
def Reach (s s' : Stream) : Prop := ∃ k, s' = s.adv k

theorem Reach.refl (s : Stream) : Reach s s := ⟨0, by simp⟩

theorem Reach.adv (s : Stream) (k : Nat) : Reach s (s.adv k) := ⟨k, rfl⟩

theorem Reach.trans {a b c : Stream} (h1 : Reach a b) (h2 : Reach b c) : Reach a c := by
  obtain ⟨i, rfl⟩ := h1
  obtain ⟨j, rfl⟩ := h2
  exact ⟨i + j, adv_adv a i j⟩

theorem Reach.len_le {a b : Stream} (h : Reach a b) : b.rest.length ≤ a.rest.length := by
  obtain ⟨k, rfl⟩ := h
  simp

theorem Reach.len_lt {a b : Stream} {n : Nat} (h : Reach (a.adv n) b) (hn : 0 < n)
    (ha : a.atEnd = false) : b.rest.length < a.rest.length := by
  have h1 := h.len_le
  rw [adv_len] at h1
  have : a.rest.length ≠ 0 := by
    cases a with
    | mk p r => cases r <;> simp_all [atEnd]
  omega

/-! ### Primitives -/

theorem consumeByte_eq {c : Char} {s s' : Stream} (h : s.consumeByte c = some s') : s' = s.adv 1 := by
  unfold consumeByte at h
  split at h <;> simp_all

theorem consumeByte_reach {c : Char} {s s' : Stream} (h : s.consumeByte c = some s') : Reach s s' :=
  ⟨1, consumeByte_eq h⟩

theorem tryConsumeByte_reach (c : Char) (s : Stream) : Reach s (s.tryConsumeByte c).2 := by
  unfold tryConsumeByte
  split
  · exact Reach.adv s 1
  · exact Reach.refl s

theorem skipString_eq {lit : Str} {s s' : Stream} (h : s.skipString lit = some s') :
    s' = s.adv lit.length := by
  unfold skipString at h
  split at h <;> simp_all

theorem skipString_reach {lit : Str} {s s' : Stream} (h : s.skipString lit = some s') : Reach s s' :=
  ⟨_, skipString_eq h⟩

theorem skipBytes_reach (f : Char → Bool) (s : Stream) : Reach s (s.skipBytes f) := ⟨_, rfl⟩

theorem skipSpaces_reach (s : Stream) : Reach s s.skipSpaces := ⟨_, rfl⟩

theorem skipChars_reach {f : Str → Char → Bool} {s s' : Stream} (h : s.skipChars f = some s') :
    Reach s s' := by
  unfold skipChars at h
  cases hk : scanChars f s.rest with
  | none => simp [hk] at h
  | some k => simp [hk] at h; exact ⟨k, h.symm⟩

theorem consumeSpaces_reach {s s' : Stream} (h : s.consumeSpaces = some s') : Reach s s' := by
  unfold consumeSpaces at h
  split at h
  · simp at h; subst h; exact skipSpaces_reach s
  · simp at h

theorem skipName_reach {s s' : Stream} (h : s.skipName = some s') : Reach s s' := by
  unfold skipName at h
  split at h
  · simp at h; subst h; exact Reach.refl s
  · split at h
    · simp at h; subst h; exact Reach.adv s _
    · simp at h

theorem consumeName_inv {s s' : Stream} {n : StrSpan} (h : s.consumeName = some (n, s')) :
    s.skipName = some s' ∧ n = sliceBack s s' := by
  unfold consumeName at h
  split at h
  · cases h
  · next s1 h1 =>
    refine of_ite_eq_some h (fun _ h => nomatch h) fun _ h => ?_
    obtain ⟨rfl, rfl⟩ := Prod.mk.inj (Option.some.inj h)
    exact ⟨h1, rfl⟩

theorem consumeName_reach {s s' : Stream} {n : StrSpan} (h : s.consumeName = some (n, s')) :
    Reach s s' :=
  skipName_reach (consumeName_inv h).1

theorem stream_split {s : Stream} {x y : Str} (h : s.rest = x ++ y) :
    s.adv x.length = ⟨s.pos + strLen x, y⟩ ∧ ∀ q, sliceBack s ⟨q, y⟩ = ⟨x, s.pos⟩ := by
  obtain ⟨pos, rest⟩ := s
  simp only at h
  subst h
  simp [adv, sliceBack]

/-- The loop of `consume_qname` once the colon has been seen: it reads NCName characters. -/
theorem qnameLoop_some (r : Str) : ∀ (j s0 k : Nat) (sp' : Option Nat),
    qnameLoop r j (some s0) = some (k, sp') →
      sp' = some s0 ∧ ∃ a b, r = a ++ b ∧ k = j + a.length ∧
        a.all (fun c => isNameChar c && c != ':') = true := by
  induction r with
  | nil =>
    intro j s0 k sp' h
    simp only [qnameLoop, Option.some.injEq, Prod.mk.injEq] at h
    exact ⟨h.2.symm, [], [], rfl, by simp [h.1], rfl⟩
  | cons c cs ih =>
    intro j s0 k sp' h
    simp only [qnameLoop] at h
    split at h
    · simp at h
    · next hc =>
      split at h
      · next hn =>
        obtain ⟨h1, a, b, rfl, rfl, ha⟩ := ih (j + 1) s0 k sp' h
        refine ⟨h1, c :: a, b, rfl, by simp only [List.length_cons]; omega, ?_⟩
        simp only [List.all_cons, ha, Bool.and_true, hn, Bool.true_and]
        simpa using hc
      · simp only [Option.some.injEq, Prod.mk.injEq] at h
        exact ⟨h.2.symm, [], c :: cs, rfl, by simp [h.1], rfl⟩

/-- The loop of `consume_qname` from its start: the text read is `a` (no colon) or `a ++ ':' :: b`,
    with the splitter at the colon; `a`, `b` consist of NCName characters. -/
theorem qnameLoop_none (r : Str) : ∀ (j k : Nat) (sp' : Option Nat),
    qnameLoop r j none = some (k, sp') →
      (sp' = none ∧ ∃ a b, r = a ++ b ∧ k = j + a.length ∧
        a.all (fun c => isNameChar c && c != ':') = true) ∨
      (∃ a b c, r = a ++ ':' :: (b ++ c) ∧ sp' = some (j + a.length) ∧ k = j + a.length + 1 + b.length ∧
        a.all (fun c => isNameChar c && c != ':') = true ∧
        b.all (fun c => isNameChar c && c != ':') = true) := by
  induction r with
  | nil =>
    intro j k sp' h
    simp only [qnameLoop, Option.some.injEq, Prod.mk.injEq] at h
    exact .inl ⟨h.2.symm, [], [], rfl, by simp [h.1], rfl⟩
  | cons c cs ih =>
    intro j k sp' h
    simp only [qnameLoop] at h
    split at h
    · next hc =>
      have hc' : c = ':' := by simpa using hc
      subst hc'
      obtain ⟨h1, a, b, rfl, rfl, ha⟩ := qnameLoop_some cs (j + 1) j k sp' h
      exact .inr ⟨[], a, b, rfl, by simpa using h1, by simp, rfl, ha⟩
    · next hc =>
      split at h
      · next hn =>
        have hcc : (isNameChar c && c != ':') = true := by
          simp only [hn, Bool.true_and]; simpa using hc
        rcases ih (j + 1) k sp' h with ⟨h1, a, b, rfl, rfl, ha⟩ | ⟨a, b, d, rfl, h1, rfl, ha, hb⟩
        · exact .inl ⟨h1, c :: a, b, rfl, by simp only [List.length_cons]; omega, by simp [hcc, ha]⟩
        · refine .inr ⟨c :: a, b, d, rfl, ?_, by simp only [List.length_cons]; omega, by simp [hcc, ha], hb⟩
          rw [h1]; simp only [List.length_cons]; congr 1; omega
      · simp only [Option.some.injEq, Prod.mk.injEq] at h
        exact .inl ⟨h.2.symm, [], c :: cs, rfl, by simp [h.1], rfl⟩

theorem not_or_not {a b : Bool} (h : ¬ (a || !b) = true) : a = false ∧ b = true := by
  cases a <;> cases b <;> simp_all

theorem ncNameOK_of {a : Str} {q : Nat} (ha : a.all (fun c => isNameChar c && c != ':') = true)
    (hs : startsName ⟨a, q⟩ = true) : ncNameOK a = true := by
  unfold ncNameOK
  rw [Bool.and_eq_true]
  refine ⟨ha, ?_⟩
  unfold startsName at hs
  cases a with
  | nil => rfl
  | cons c cs => simpa using hs

/-- **`consume_qname` taken apart, with its text.**  The text ahead is `b ++ rest` (no colon: the
    prefix is `"".into()`) or `a ++ ':' :: b ++ rest` (the prefix is `a`; for a name written
    `:local` it is an empty span AT the colon, not `"".into()`); `a`, `b` are NCNames, `b` is
    not empty; `rest` is what the stream holds afterwards. -/
theorem consumeQName_text {s s' : Stream} {p l : StrSpan} (h : s.consumeQName = some (p, l, s')) :
    (∃ b, s.rest = b ++ s'.rest ∧ p = emptySpan ∧ l = ⟨b, s.pos⟩ ∧ s'.pos = s.pos + strLen b ∧
      ncNameOK b = true ∧ b ≠ []) ∨
    (∃ a b, s.rest = a ++ ':' :: (b ++ s'.rest) ∧ p = ⟨a, s.pos⟩ ∧ l = ⟨b, s.pos + strLen a + 1⟩ ∧
      s'.pos = s.pos + strLen a + 1 + strLen b ∧ ncNameOK a = true ∧ ncNameOK b = true ∧ b ≠ []) := by
  unfold consumeQName at h
  split at h
  · cases h
  · next k sp hk =>
    rcases qnameLoop_none s.rest 0 k sp hk with ⟨rfl, a, b, hr, rfl, ha⟩ | ⟨a, b, c, hr, rfl, rfl, ha, hb⟩
    · obtain ⟨e1, e2⟩ := stream_split hr
      simp only [Nat.zero_add, e1, e2] at h
      refine of_ite_eq_some h (fun _ h => nomatch h) fun _ h =>
        of_ite_eq_some h (fun _ h => nomatch h) fun hl h => ?_
      simp only [Option.some.injEq, Prod.mk.injEq] at h
      obtain ⟨rfl, rfl, rfl⟩ := h
      replace hl := not_or_not hl
      exact .inl ⟨a, hr, rfl, rfl, rfl, ncNameOK_of ha hl.2, by simpa using hl.1⟩
    · -- the three places the stream is cut at: before the colon, behind it, behind the local name
      have hr2 : s.rest = (a ++ [':']) ++ (b ++ c) := by simp [hr]
      have hr3 : s.rest = (a ++ ':' :: b) ++ c := by simp [hr]
      obtain ⟨e1, e2⟩ := stream_split hr
      have A2 : s.adv (a.length + 1) = ⟨s.pos + strLen (a ++ [':']), b ++ c⟩ := by
        rw [show a.length + 1 = (a ++ [':']).length by simp]; exact (stream_split hr2).1
      have A3 : s.adv (a.length + 1 + b.length) = ⟨s.pos + strLen (a ++ ':' :: b), c⟩ := by
        rw [show a.length + 1 + b.length = (a ++ ':' :: b).length by simp; omega]
        exact (stream_split hr3).1
      have f2 := (stream_split (s := ⟨s.pos + strLen (a ++ [':']), b ++ c⟩) (x := b) (y := c) rfl).2
      simp only [Nat.zero_add] at h
      simp only [A3, A2, e1, e2, f2] at h
      refine of_ite_eq_some h (fun _ h => nomatch h) fun hp h =>
        of_ite_eq_some h (fun _ h => nomatch h) fun hl h => ?_
      simp only [Option.some.injEq, Prod.mk.injEq] at h
      obtain ⟨rfl, rfl, rfl⟩ := h
      replace hl := not_or_not hl
      have hpos : s.pos + strLen (a ++ [':']) = s.pos + strLen a + 1 := by
        simp [strLen_app, strLen, show utf8Len ':' = 1 by decide, Nat.add_assoc]
      refine .inr ⟨a, b, hr, rfl, by rw [hpos], ?_, ncNameOK_of ha (by simpa using hp),
        ncNameOK_of hb hl.2, by simpa using hl.1⟩
      simp [strLen_app, strLen, show utf8Len ':' = 1 by decide]; omega

theorem consumeQName_reach {s s' : Stream} {p l : StrSpan} (h : s.consumeQName = some (p, l, s')) :
    Reach s s' := by
  rcases consumeQName_text h with ⟨b, hr, -, -, hp, -, -⟩ | ⟨a, b, hr, -, -, hp, -, -, -⟩
  · exact ⟨b.length, by rw [(stream_split hr).1, ← hp]⟩
  · have e : s.pos + strLen (a ++ ':' :: b) = s'.pos := by
      rw [hp]; simp [strLen_app, strLen, show utf8Len ':' = 1 by decide]; omega
    exact ⟨(a ++ ':' :: b).length,
      by rw [(stream_split (x := a ++ ':' :: b) (y := s'.rest) (by simp [hr])).1, e]⟩

theorem consumeEq_reach {s s' : Stream} (h : s.consumeEq = some s') : Reach s s' := by
  unfold consumeEq at h
  split at h
  · simp at h
  · next s1 h1 =>
    simp at h; subst h
    exact ((skipSpaces_reach s).trans (consumeByte_reach h1)).trans (skipSpaces_reach s1)

theorem consumeQuote_eq {s s' : Stream} {q : Char} (h : s.consumeQuote = some (q, s')) :
    s' = s.adv 1 := by
  unfold consumeQuote at h
  split at h
  · simp at h
  · split at h <;> simp at h
    exact h.2.symm

theorem consumeQuote_reach {s s' : Stream} {q : Char} (h : s.consumeQuote = some (q, s')) :
    Reach s s' := ⟨1, consumeQuote_eq h⟩

end Stream

open XotModel.Lex.Stream

/-! ### Token parsers: the stream after the token is reachable from the stream after the
    fixed opening (`<!--`, `<?`, …) -/

theorem declSpaces_reach {s s' : Stream} (h : declSpaces s = some s') : Reach s s' := by
  unfold declSpaces at h
  split at h
  · simp at h; subst h; exact skipSpaces_reach s
  · split at h <;> simp at h
    subst h; exact Reach.refl s

/-- `parse_version_info`: the version is cut out of the text ahead; the stream moves forward. -/
theorem parseVersionInfo_inv {s s' : Stream} {v : StrSpan} (h : parseVersionInfo s = some (v, s')) :
    (∃ a b, Reach s a ∧ v = sliceBack a b) ∧ Reach s s' := by
  simp only [parseVersionInfo, Option.bind_eq_bind, Option.bind_eq_some_iff, Option.some.injEq,
    Prod.mk.injEq] at h
  obtain ⟨s1, h1, s2, h2, ⟨q, s3⟩, h3, s4, h4, s6, h6, rfl, rfl⟩ := h
  have r3 : Reach s s3 := (((skipSpaces_reach s).trans (skipString_reach h1)).trans
    (consumeEq_reach h2)).trans (consumeQuote_reach h3)
  exact ⟨⟨_, _, r3, rfl⟩, (r3.trans (skipString_reach h4)).trans
    ((skipBytes_reach _ _).trans (consumeByte_reach h6))⟩

theorem parseVersionInfo_reach {s s' : Stream} {v : StrSpan}
    (h : parseVersionInfo s = some (v, s')) : Reach s s' :=
  (parseVersionInfo_inv h).2

/-- `parse_encoding_decl`: the name, if there is one, is cut out of the text ahead. -/
theorem parseEncodingDecl_inv {s s' : Stream} {e : Option StrSpan}
    (h : parseEncodingDecl s = some (e, s')) :
    (∀ x, e = some x → ∃ a b, Reach s a ∧ x = sliceBack a b) ∧ Reach s s' := by
  unfold parseEncodingDecl at h
  refine of_ite_eq_some h (fun _ h => ?_) fun _ h => ?_
  · obtain ⟨rfl, rfl⟩ := Prod.mk.inj (Option.some.inj h)
    exact ⟨nofun, Reach.refl s⟩
  · simp only [Option.bind_eq_bind, Option.bind_eq_some_iff, Option.some.injEq,
      Prod.mk.injEq] at h
    obtain ⟨s2, h2, ⟨q, s3⟩, h3, s5, h5, rfl, rfl⟩ := h
    have r3 : Reach s s3 := ((Reach.adv s 8).trans (consumeEq_reach h2)).trans (consumeQuote_reach h3)
    exact ⟨fun x hx => ⟨_, _, r3, (Option.some.inj hx).symm⟩,
      r3.trans ((skipBytes_reach _ _).trans (consumeByte_reach h5))⟩

theorem parseStandalone_reach {s s' : Stream} {e : Option Bool}
    (h : parseStandalone s = some (e, s')) : Reach s s' := by
  unfold parseStandalone at h
  split at h
  · simp at h; obtain ⟨_, rfl⟩ := h; exact Reach.refl s
  · simp only [Option.bind_eq_bind, Option.bind_eq_some_iff, Option.some.injEq,
      Prod.mk.injEq] at h
    obtain ⟨s2, h2, ⟨q, s3⟩, h3, ⟨v, s4⟩, h4, fl, -, s5, h5, -, rfl⟩ := h
    exact ((((Reach.adv s 10).trans (consumeEq_reach h2)).trans (consumeQuote_reach h3)).trans
      (consumeName_reach h4)).trans (consumeByte_reach h5)

/-- `parse_declaration`: the token made (version and encoding cut out of the text ahead), and the
    stream after it. -/
theorem parseDeclaration_shape {s s' : Stream} {t : Token}
    (h : parseDeclaration s = some (t, s')) :
    (∃ v e sa, t = .declaration v e sa (sliceBack s s') ∧ (∃ a b, Reach s a ∧ v = sliceBack a b) ∧
      ∀ x, e = some x → ∃ a b, Reach s a ∧ x = sliceBack a b) ∧ Reach (s.adv 6) s' := by
  simp only [parseDeclaration, Option.bind_eq_bind, Option.bind_eq_some_iff, Option.some.injEq,
    Prod.mk.injEq] at h
  obtain ⟨⟨v, s2⟩, h2, s3, h3, ⟨e, s4⟩, h4, s5, h5, ⟨sa, s6⟩, h6, s7, h7, rfl, rfl⟩ := h
  obtain ⟨⟨a, b, ra, hv⟩, r2⟩ := parseVersionInfo_inv h2
  obtain ⟨he, r4⟩ := parseEncodingDecl_inv h4
  have r3 : Reach (s.adv 6) s3 := r2.trans (declSpaces_reach h3)
  have h5' : Reach s4 s5 := by
    dsimp only at h5
    split at h5
    · exact declSpaces_reach h5
    · simp at h5; subst h5; exact Reach.refl _
  refine ⟨⟨_, _, _, rfl, ⟨a, b, (Reach.adv s 6).trans ra, hv⟩, fun x hx => ?_⟩, ?_⟩
  · obtain ⟨a, b, ra, hx⟩ := he x hx
    exact ⟨a, b, ((Reach.adv s 6).trans r3).trans ra, hx⟩
  · exact ((r3.trans r4).trans h5').trans ((parseStandalone_reach h6).trans
      ((skipSpaces_reach _).trans (skipString_reach h7)))

theorem parseDeclaration_reach {s s' : Stream} {t : Token}
    (h : parseDeclaration s = some (t, s')) : Reach (s.adv 6) s' :=
  (parseDeclaration_shape h).2

/-! The token parsers taken apart once: what a successful call did, step by step, and the token
    it made.  The progress lemmas below and the slice, spelling and delimiter lemmas
    (Lemmas/LexSlice*.lean, LexSpell.lean, LexDelims.lean) are read off these. -/

/-- `parse_comment` taken apart, with the two tests the body passed (no `--` inside, no `-` at
    the end). -/
theorem parseComment_inv_tests {s s' : Stream} {t : Token} (h : parseComment s = some (t, s')) :
    ∃ s2, (s.adv 4).skipChars (fun r c => !(c == '-' && litCommentClose.isPrefixOf r)) = some s2 ∧
      s2.skipString litCommentClose = some s' ∧
      t = .comment (sliceBack (s.adv 4) s2) (sliceBack s s') ∧
      hasInfix litDashDash (sliceBack (s.adv 4) s2).text = false ∧
      ((sliceBack (s.adv 4) s2).text.getLast? == some '-') = false := by
  simp only [parseComment, Option.bind_eq_bind, Option.bind_eq_some_iff] at h
  obtain ⟨s2, h2, s3, h3, h⟩ := h
  split at h
  · cases h
  next hdd =>
  split at h
  · cases h
  next hlast =>
  obtain ⟨rfl, rfl⟩ := Prod.mk.inj (Option.some.inj h)
  exact ⟨s2, h2, h3, rfl, Bool.eq_false_iff.mpr hdd, Bool.eq_false_iff.mpr hlast⟩

theorem parseComment_inv {s s' : Stream} {t : Token} (h : parseComment s = some (t, s')) :
    ∃ s2, (s.adv 4).skipChars (fun r c => !(c == '-' && litCommentClose.isPrefixOf r)) = some s2 ∧
      s2.skipString litCommentClose = some s' ∧
      t = .comment (sliceBack (s.adv 4) s2) (sliceBack s s') := by
  obtain ⟨s2, h2, h3, ht, -, -⟩ := parseComment_inv_tests h
  exact ⟨s2, h2, h3, ht⟩

theorem parseComment_reach {s s' : Stream} {t : Token}
    (h : parseComment s = some (t, s')) : Reach (s.adv 4) s' := by
  obtain ⟨s2, h2, h3, -⟩ := parseComment_inv h
  exact (skipChars_reach h2).trans (skipString_reach h3)

theorem parsePI_inv {s s' : Stream} {t : Token} (h : parsePI s = some (t, s')) :
    ∃ tg s2 s4, (s.adv 2).consumeName = some (tg, s2) ∧
      s2.skipSpaces.skipChars (fun r c => !(c == '?' && litPiClose.isPrefixOf r)) = some s4 ∧
      s4.skipString litPiClose = some s' ∧
      t = .pi tg (if (sliceBack s2.skipSpaces s4).text.isEmpty then none
                  else some (sliceBack s2.skipSpaces s4)) (sliceBack s s') := by
  simp only [parsePI, Option.bind_eq_bind, Option.bind_eq_some_iff, Option.some.injEq,
    Prod.mk.injEq] at h
  obtain ⟨⟨tg, s2⟩, h2, s4, h4, s5, h5, rfl, rfl⟩ := h
  exact ⟨tg, s2, s4, h2, h4, h5, rfl⟩

theorem parsePI_reach {s s' : Stream} {t : Token}
    (h : parsePI s = some (t, s')) : Reach (s.adv 2) s' := by
  obtain ⟨tg, s2, s4, h2, h4, h5, -⟩ := parsePI_inv h
  exact (((consumeName_reach h2).trans (skipSpaces_reach _)).trans (skipChars_reach h4)).trans
    (skipString_reach h5)

theorem parseCdata_inv {s s' : Stream} {t : Token} (h : parseCdata s = some (t, s')) :
    ∃ s2, (s.adv 9).skipChars (fun r c => !(c == ']' && litCdataClose.isPrefixOf r)) = some s2 ∧
      s2.skipString litCdataClose = some s' ∧
      t = .cdata (sliceBack (s.adv 9) s2) (sliceBack s s') := by
  simp only [parseCdata, Option.bind_eq_bind, Option.bind_eq_some_iff, Option.some.injEq,
    Prod.mk.injEq] at h
  obtain ⟨s2, h2, s3, h3, rfl, rfl⟩ := h
  exact ⟨s2, h2, h3, rfl⟩

theorem parseCdata_reach {s s' : Stream} {t : Token}
    (h : parseCdata s = some (t, s')) : Reach (s.adv 9) s' := by
  obtain ⟨s2, h2, h3, -⟩ := parseCdata_inv h
  exact (skipChars_reach h2).trans (skipString_reach h3)

theorem parseText_inv {s s' : Stream} {t : Token} (h : parseText s = some (t, s')) :
    s.skipChars (fun _ c => c != '<') = some s' ∧ t = .text (sliceBack s s') := by
  simp only [parseText, Option.bind_eq_bind, Option.bind_eq_some_iff] at h
  obtain ⟨s1, h1, h⟩ := h
  split at h
  · cases h
  · obtain ⟨rfl, rfl⟩ := Prod.mk.inj (Option.some.inj h)
    exact ⟨h1, rfl⟩

theorem parseText_reach {s s' : Stream} {t : Token}
    (h : parseText s = some (t, s')) : Reach s s' :=
  skipChars_reach (parseText_inv h).1

theorem parseExternalId_reach {s s' : Stream} {b : Bool}
    (h : parseExternalId s = some (b, s')) : Reach s s' := by
  unfold parseExternalId at h
  split at h
  · simp only [Option.bind_eq_bind, Option.bind_eq_some_iff] at h
    obtain ⟨s2, h2, ⟨q, s3⟩, h3, s5, h5, h⟩ := h
    have r5 : Reach s s5 :=
      (((Reach.adv s 6).trans (consumeSpaces_reach h2)).trans (consumeQuote_reach h3)).trans
        ((skipBytes_reach _ _).trans (consumeByte_reach h5))
    split at h
    · simp at h; obtain ⟨_, rfl⟩ := h; exact r5
    · simp only [Option.bind_eq_some_iff, Option.some.injEq,
        Prod.mk.injEq] at h
      obtain ⟨s6, h6, ⟨q2, s7⟩, h7, s9, h9, -, rfl⟩ := h
      exact ((r5.trans (consumeSpaces_reach h6)).trans (consumeQuote_reach h7)).trans
        ((skipBytes_reach _ _).trans (consumeByte_reach h9))
  · simp at h; obtain ⟨_, rfl⟩ := h; exact Reach.refl s

/-- `parse_doctype`: the token made, and the stream after it. -/
theorem parseDoctype_shape {s s' : Stream} {t : Token} (h : parseDoctype s = some (t, s')) :
    (t = .dtdStart (sliceBack s s') ∨ t = .emptyDtd (sliceBack s s')) ∧ Reach (s.adv 9) s' := by
  simp only [parseDoctype, Option.bind_eq_bind, Option.bind_eq_some_iff] at h
  obtain ⟨s2, h2, ⟨n, s3⟩, h3, ⟨b, s4⟩, h4, c, -, h⟩ := h
  have r : Reach (s.adv 9) (s4.skipSpaces.adv 1) :=
    (((consumeSpaces_reach h2).trans (consumeName_reach h3)).trans
      ((skipSpaces_reach _).trans (parseExternalId_reach h4))).trans
      ((skipSpaces_reach _).trans (Reach.adv _ 1))
  split at h
  · cases h
  · split at h
    · obtain ⟨rfl, rfl⟩ := Prod.mk.inj (Option.some.inj h)
      exact ⟨.inl rfl, r⟩
    · obtain ⟨rfl, rfl⟩ := Prod.mk.inj (Option.some.inj h)
      exact ⟨.inr rfl, r⟩

theorem parseDoctype_reach {s s' : Stream} {t : Token}
    (h : parseDoctype s = some (t, s')) : Reach (s.adv 9) s' :=
  (parseDoctype_shape h).2

theorem parseEntityDef_reach {s s' : Stream} {g : Bool}
    (h : parseEntityDef s g = some s') : Reach s s' := by
  simp only [parseEntityDef, Option.bind_eq_bind, Option.bind_eq_some_iff] at h
  obtain ⟨c, -, h⟩ := h
  refine of_ite_eq_some h (fun _ h => ?_) fun _ h => of_ite_eq_some h (fun _ h => ?_) fun _ h => nomatch h
  · -- a quoted entity value
    simp only [Option.bind_eq_some_iff] at h
    obtain ⟨⟨q, s1⟩, h1, h⟩ := h
    exact (consumeQuote_reach h1).trans ((skipBytes_reach _ _).trans (consumeByte_reach h))
  · -- an external id, for a general entity possibly followed by `NDATA name`
    simp only [Option.bind_eq_some_iff] at h
    obtain ⟨⟨b, s1⟩, h1, h⟩ := h
    have r1 := parseExternalId_reach h1
    refine of_ite_eq_some h (fun _ h => nomatch h) fun _ h => of_ite_eq_some h (fun _ h => ?_)
      fun _ h => Option.some.inj h ▸ r1
    refine of_ite_eq_some h (fun _ h => ?_) fun _ h => Option.some.inj h ▸ r1.trans (skipSpaces_reach _)
    simp only [Option.bind_eq_some_iff] at h
    obtain ⟨s3, h3, h⟩ := h
    exact (r1.trans (skipSpaces_reach _)).trans
      (((Reach.adv _ 5).trans (consumeSpaces_reach h3)).trans (skipName_reach h))

/-- `parse_entity_decl`: the token made, and the stream after it. -/
theorem parseEntityDecl_shape {s s' : Stream} {t : Token}
    (h : parseEntityDecl s = some (t, s')) :
    t = .entityDecl (sliceBack s s') ∧ Reach (s.adv 8) s' := by
  simp only [parseEntityDecl, Option.bind_eq_bind, Option.bind_eq_some_iff, Option.some.injEq,
    Prod.mk.injEq] at h
  obtain ⟨s2, h2, s4, h4, ⟨n, s5⟩, h5, s6, h6, s7, h7, s8, h8, rfl, rfl⟩ := h
  refine ⟨rfl, ?_⟩
  have r4 : Reach s2 s4 := by
    split at h4
    · exact (tryConsumeByte_reach '%' s2).trans (consumeSpaces_reach h4)
    · simp at h4; rw [← h4]; exact tryConsumeByte_reach '%' s2
  exact ((((consumeSpaces_reach h2).trans r4).trans (consumeName_reach h5)).trans
    (consumeSpaces_reach h6)).trans ((parseEntityDef_reach h7).trans
    ((skipSpaces_reach _).trans (consumeByte_reach h8)))

theorem parseEntityDecl_reach {s s' : Stream} {t : Token}
    (h : parseEntityDecl s = some (t, s')) : Reach (s.adv 8) s' :=
  (parseEntityDecl_shape h).2

theorem consumeDecl_reach {s s' : Stream} (h : consumeDecl s = some s') : Reach s s' :=
  (skipBytes_reach _ s).trans (consumeByte_reach h)

theorem parseElementStart_inv {s s' : Stream} {t : Token}
    (h : parseElementStart s = some (t, s')) :
    ∃ p l, (s.adv 1).consumeQName = some (p, l, s') ∧ t = .elementStart p l (sliceBack s s') := by
  simp only [parseElementStart, Option.bind_eq_bind, Option.bind_eq_some_iff, Option.some.injEq,
    Prod.mk.injEq] at h
  obtain ⟨⟨p, l, s1⟩, h1, rfl, rfl⟩ := h
  exact ⟨p, l, h1, rfl⟩

theorem parseElementStart_reach {s s' : Stream} {t : Token}
    (h : parseElementStart s = some (t, s')) : Reach (s.adv 1) s' := by
  obtain ⟨p, l, h1, -⟩ := parseElementStart_inv h
  exact consumeQName_reach h1

theorem parseCloseElement_inv {s s' : Stream} {t : Token}
    (h : parseCloseElement s = some (t, s')) :
    ∃ p l s1, (s.adv 2).consumeQName = some (p, l, s1) ∧ s1.skipSpaces.consumeByte '>' = some s' ∧
      t = .elementEnd (.close p l) (sliceBack s s') := by
  simp only [parseCloseElement, Option.bind_eq_bind, Option.bind_eq_some_iff, Option.some.injEq,
    Prod.mk.injEq] at h
  obtain ⟨⟨p, l, s1⟩, h1, s2, h2, rfl, rfl⟩ := h
  exact ⟨p, l, s1, h1, h2, rfl⟩

theorem parseCloseElement_reach {s s' : Stream} {t : Token}
    (h : parseCloseElement s = some (t, s')) : Reach (s.adv 2) s' := by
  obtain ⟨p, l, s1, h1, h2, -⟩ := parseCloseElement_inv h
  exact (consumeQName_reach h1).trans ((skipSpaces_reach _).trans (consumeByte_reach h2))

/-! ### For one call of `parse_next_impl`: a token costs at least one character -/

/-- `s'` lies at least one character further along than `s`. -/
def Adv1 (s s' : Stream) : Prop := ∃ n, 0 < n ∧ Reach (s.adv n) s'

theorem Adv1.reach {s s' : Stream} (h : Adv1 s s') : Reach s s' := by
  obtain ⟨n, _, h⟩ := h
  exact (Reach.adv s n).trans h

theorem Adv1.len_lt {s s' : Stream} (h : Adv1 s s') (hs : s.atEnd = false) :
    s'.rest.length < s.rest.length := by
  obtain ⟨n, hn, h⟩ := h
  exact h.len_lt hn hs

theorem Adv1.trans_reach {a b c : Stream} (h1 : Adv1 a b) (h2 : Reach b c) : Adv1 a c := by
  obtain ⟨n, hn, h⟩ := h1
  exact ⟨n, hn, h.trans h2⟩

theorem Adv1.of_reach {a b c : Stream} (h1 : Reach a b) (h2 : Adv1 b c) : Adv1 a c := by
  obtain ⟨k, rfl⟩ := h1
  obtain ⟨n, hn, j, rfl⟩ := h2
  exact ⟨k + n, by omega, j, by simp [adv_adv]⟩

theorem Adv1.one (s : Stream) : Adv1 s (s.adv 1) := ⟨1, by omega, Reach.refl _⟩

theorem skipSpaces_adv1 {s : Stream} (h : s.startsWithSpace = true) : Adv1 s s.skipSpaces := by
  cases s with
  | mk p r =>
    cases r with
    | nil => simp [startsWithSpace] at h
    | cons c cs =>
      simp only [startsWithSpace] at h
      refine ⟨1, by omega, (cs.takeWhile isXmlSpace).length, ?_⟩
      simp only [skipSpaces, skipBytes, List.takeWhile_cons, h, if_true, List.length_cons, adv_adv]
      congr 1; omega

/-- `skip_chars(f)` forwards: over `a`, where every character passes `f` (given the text from it
    on), up to the end or to an XML character that fails `f`; a character that is not an XML
    character makes it fail. -/
theorem scanChars_app {f : Str → Char → Bool} {a r : Str}
    (ha : ∀ u c v, a = u ++ c :: v → f (c :: (v ++ r)) c = true)
    (hr : r = [] ∨ ∃ c cs, r = c :: cs ∧ isXmlChar c = true ∧ f r c = false) :
    scanChars f (a ++ r) = if a.all isXmlChar then some a.length else none := by
  induction a with
  | nil =>
    rcases hr with rfl | ⟨c, cs, rfl, hx, hf⟩
    · rfl
    · simp [scanChars, hx, hf]
  | cons c cs ih =>
    have := ih (fun u d v e => ha (c :: u) d v (by rw [e]; rfl))
    rw [List.cons_append, scanChars, ha [] c cs rfl, this, List.all_cons, List.length_cons]
    cases isXmlChar c
    · rfl
    · cases cs.all isXmlChar <;> rfl

/-- `skip_chars(f)` backwards: what a successful scan skipped (`a`) and where it stopped. -/
theorem scanChars_some {f : Str → Char → Bool} : ∀ {s : Str} {k : Nat}, scanChars f s = some k →
    ∃ a r, s = a ++ r ∧ a.length = k ∧
      (∀ u c v, a = u ++ c :: v → isXmlChar c = true ∧ f (c :: (v ++ r)) c = true) ∧
      (r = [] ∨ ∃ c cs, r = c :: cs ∧ isXmlChar c = true ∧ f r c = false)
  | [], k, h => by
    cases h
    exact ⟨[], [], rfl, rfl, fun u c v e => (by cases u <;> cases e), .inl rfl⟩
  | c :: cs, k, h => by
    simp only [scanChars] at h
    split at h
    · cases h
    next hx =>
    have hx : isXmlChar c = true := by simpa using hx
    split at h
    next hf =>
      obtain ⟨j, hj, rfl⟩ := Option.map_eq_some_iff.mp h
      obtain ⟨a, r, rfl, rfl, ha, hr⟩ := scanChars_some hj
      refine ⟨c :: a, r, rfl, rfl, ?_, hr⟩
      intro u d v e
      cases u with
      | nil => cases e; exact ⟨hx, hf⟩
      | cons u0 u => rw [List.cons_append, List.cons.injEq] at e; exact ha u d v e.2
    next hf =>
      cases h
      exact ⟨[], c :: cs, rfl, rfl, fun u d v e => (by cases u <;> cases e),
        .inr ⟨c, cs, rfl, hx, by simpa using hf⟩⟩

theorem scanChars_pos {f : Str → Char → Bool} {c : Char} {cs : Str} {k : Nat}
    (h : scanChars f (c :: cs) = some k) (hf : f (c :: cs) c = true) : 0 < k := by
  simp only [scanChars] at h
  split at h
  · simp at h
  · simp only [Option.map_eq_some_iff] at h
    obtain ⟨j, _, rfl⟩ := h
    omega

theorem parseText_adv1 {s s' : Stream} {t : Token} (h : parseText s = some (t, s'))
    (hc : (s.curr? == some '<') = false) (he : s.atEnd = false) : Adv1 s s' := by
  have h1 := (parseText_inv h).1
  cases s with
  | mk p r =>
    cases r with
    | nil => simp [atEnd] at he
    | cons c cs =>
      simp only [skipChars, Option.map_eq_some_iff] at h1
      obtain ⟨k, hk, rfl⟩ := h1
      have hf : (fun (_ : Str) (c : Char) => c != '<') (c :: cs) c = true := by
        simp only [curr?, List.head?_cons] at hc
        simpa using hc
      have := scanChars_pos hk hf
      exact ⟨k, this, Reach.refl _⟩

/-- `parse_attribute` taken apart: `/>`, `>`, or white space and an attribute. -/
theorem parseAttribute_inv {s s' : Stream} {t : Token} (h : parseAttribute s = some (t, s')) :
    (s.skipSpaces.curr? = some '/' ∧ (s.skipSpaces.adv 1).consumeByte '>' = some s' ∧
      t = .elementEnd .empty (sliceBack s.skipSpaces s')) ∨
    (s.skipSpaces.curr? = some '>' ∧ s' = s.skipSpaces.adv 1 ∧
      t = .elementEnd .open (sliceBack s.skipSpaces s')) ∨
    (s.startsWithSpace = true ∧ ∃ p l s2 s3 q s4 s5, s.skipSpaces.consumeQName = some (p, l, s2) ∧
      s2.consumeEq = some s3 ∧ s3.consumeQuote = some (q, s4) ∧
      s4.skipChars (fun _ c => c != q && c != '<') = some s5 ∧ s5.consumeByte q = some s' ∧
      t = .attribute p l (sliceBack s4 s5) (sliceBack s.skipSpaces s')) := by
  unfold parseAttribute at h
  dsimp only at h
  split at h
  · next hc =>
    simp only [Option.bind_eq_bind, Option.bind_eq_some_iff, Option.some.injEq, Prod.mk.injEq] at h
    obtain ⟨s2, h2, rfl, rfl⟩ := h
    exact .inl ⟨eq_of_beq hc, h2, rfl⟩
  · split at h
    · next hc =>
      obtain ⟨rfl, rfl⟩ := Prod.mk.inj (Option.some.inj h)
      exact .inr (.inl ⟨eq_of_beq hc, rfl, rfl⟩)
    · split at h
      · cases h
      · next hsp =>
        simp only [Option.bind_eq_bind, Option.bind_eq_some_iff, Option.some.injEq,
          Prod.mk.injEq] at h
        obtain ⟨⟨p, l, s2⟩, h2, s3, h3, ⟨q, s4⟩, h4, s5, h5, s6, h6, rfl, rfl⟩ := h
        exact .inr (.inr ⟨by simpa using hsp, p, l, s2, s3, q, s4, s5, h2, h3, h4, h5, h6, rfl⟩)

theorem parseAttribute_adv1 {s s' : Stream} {t : Token} (h : parseAttribute s = some (t, s')) :
    Adv1 s s' := by
  rcases parseAttribute_inv h with ⟨-, h2, -⟩ | ⟨-, rfl, -⟩ |
    ⟨hsp, p, l, s2, s3, q, s4, s5, h2, h3, h4, h5, h6, -⟩
  · exact Adv1.of_reach (skipSpaces_reach s) ((Adv1.one _).trans_reach (consumeByte_reach h2))
  · exact Adv1.of_reach (skipSpaces_reach s) (Adv1.one _)
  · exact (skipSpaces_adv1 hsp).trans_reach
      ((((consumeQName_reach h2).trans (consumeEq_reach h3)).trans
        (consumeQuote_reach h4)).trans ((skipChars_reach h5).trans (consumeByte_reach h6)))

theorem Step.ofParse_token {tk tk' : Tokenizer} {r : Option (Token × Stream)} {t : Token}
    (h : Step.ofParse tk r = .token t tk') : ∃ s', r = some (t, s') ∧ tk' = { tk with stream := s' } := by
  cases r with
  | none => simp [Step.ofParse] at h
  | some p =>
    obtain ⟨t0, s0⟩ := p
    simp only [Step.ofParse, Step.token.injEq] at h
    exact ⟨s0, by rw [h.1], h.2.symm⟩

theorem Step.ofParse_skip {tk tk' : Tokenizer} {r : Option (Token × Stream)} :
    Step.ofParse tk r ≠ .skip tk' := by
  cases r <;> simp [Step.ofParse]

theorem miscStep_token {tk tk' : Tokenizer} {other : Step} {t : Token}
    (h : miscStep tk other = .token t tk') :
    Adv1 tk.stream tk'.stream ∨ other = .token t tk' := by
  unfold miscStep at h
  dsimp only at h
  split at h
  · obtain ⟨s', hr, rfl⟩ := Step.ofParse_token h
    exact .inl ⟨4, by omega, parseComment_reach hr⟩
  · split at h
    · split at h
      · simp at h
      · obtain ⟨s', hr, rfl⟩ := Step.ofParse_token h
        exact .inl ⟨2, by omega, parsePI_reach hr⟩
    · exact .inr h

theorem miscStep_skip {tk tk' : Tokenizer} {other : Step}
    (h : miscStep tk other = .skip tk') : other = .skip tk' := by
  unfold miscStep at h
  dsimp only at h
  split at h
  · exact absurd h Step.ofParse_skip
  · split at h
    · split at h
      · simp at h
      · exact absurd h Step.ofParse_skip
    · exact h

/-- `State::Declaration` and `State::AfterDeclaration` can be left without consuming input. -/
def State.rank : State → Nat
  | .declaration => 2
  | .afterDeclaration => 1
  | _ => 0

/-- The quantity that decreases with every call of `parse_next_impl` on a stream not at its end. -/
def Tokenizer.measure (tk : Tokenizer) : Nat := 3 * tk.stream.rest.length + tk.state.rank

end XotModel.Lex
