/-
  XotModel.Model.Lex — the reference tokenizer: `Tokenizer::next` of xmlparser 0.13.6 iterated
  the way `Xot::_parse` (/repo/src/parse.rs) iterates it — `tokenizer.stream().pos()` is read
  before every `next()`, the first `Some(Err(_))` ends the run and is reported with that
  position.

      lexDocument s = (tokens before the first error, some pos | none)     Tokenizer::from(s)
      lexFragment s = …                                       Tokenizer::from_fragment(s, 0..len)

  This is exactly what `harness/src/build_obs.rs::dump_tokens` observes of the real tokenizer
  (correspondence suite `lex`).  The recursion is well-founded on `Tokenizer.measure`; the two
  progress theorems below are what the real code's termination rests on as well.
-/
import XotModel.Model.LexProgress

namespace XotModel.Lex

open XotModel.Lex.Stream

theorem Stream.startsWith_of_curr_next {s : Stream} {a b : Char} (hc : s.curr? = some a)
    (hn : s.next? = some b) : s.startsWith [a, b] = true := by
  obtain ⟨p, r⟩ := s
  rcases r with _ | ⟨x, _ | ⟨y, r'⟩⟩
  · cases hc
  · cases hn
  · simp only [curr?, next?, List.head?_cons, List.tail_cons, Option.some.injEq] at hc hn
    subst hc hn
    simp [startsWith, List.isPrefixOf]

/-! ### One call of `parse_next_impl`, taken apart once -/

/-- The depth after a close tag. -/
def Slice.closeDepth (d : Nat) : Nat := if d > 0 then d - 1 else d

/-- The ways `parse_next_impl` returns a token: which parser, in which state, the test on the
    stream that selected it where one is needed later, and the tokenizer after it. -/
inductive Slice.TokStep (tk : Tokenizer) : Token → Tokenizer → Prop where
  | decl {t s'} : tk.state = .declaration → parseDeclaration tk.stream = some (t, s') →
      TokStep tk t { tk with stream := s', state := .afterDeclaration }
  | doctype {t s'} (st : State) : tk.state = .afterDeclaration →
      parseDoctype tk.stream = some (t, s') →
      (st = .dtd ∨ st = .afterDtd) → TokStep tk t { tk with stream := s', state := st }
  | entity {t s'} : tk.state = .dtd → parseEntityDecl tk.stream = some (t, s') →
      TokStep tk t { tk with stream := s' }
  | comment {t s'} : tk.state ≠ .attributes → parseComment tk.stream = some (t, s') →
      tk.stream.startsWith litCommentOpen = true → TokStep tk t { tk with stream := s' }
  | pi {t s'} : tk.state ≠ .attributes → parsePI tk.stream = some (t, s') →
      tk.stream.startsWith litPiOpen = true → TokStep tk t { tk with stream := s' }
  | dtdEnd {s2} : tk.state = .dtd → Adv1 tk.stream s2 →
      TokStep tk (.dtdEnd (sliceBack tk.stream s2)) { tk with stream := s2, state := .afterDtd }
  | start {t s'} : (tk.state = .afterDtd ∨ tk.state = .elements) →
      parseElementStart tk.stream = some (t, s') →
      TokStep tk t { tk with stream := s', state := .attributes }
  | cdata {t s'} : tk.state = .elements → parseCdata tk.stream = some (t, s') →
      tk.stream.startsWith litCdataOpen = true → TokStep tk t { tk with stream := s' }
  | text {t s'} : tk.state = .elements → parseText tk.stream = some (t, s') →
      (tk.stream.curr? == some '<') = false → TokStep tk t { tk with stream := s' }
  | close {t s'} : tk.state = .elements → parseCloseElement tk.stream = some (t, s') →
      tk.stream.curr? = some '<' → tk.stream.next? = some '/' →
      TokStep tk t { tk with stream := s', depth := closeDepth tk.depth,
                             state := stateAfterTag (closeDepth tk.depth) tk.fragment }
  | attr {t s'} : tk.state = .attributes → parseAttribute tk.stream = some (t, s') →
      (∃ p l v sp, t = .attribute p l v sp) → TokStep tk t { tk with stream := s' }
  | tagOpen {sp s'} : tk.state = .attributes →
      parseAttribute tk.stream = some (.elementEnd .open sp, s') →
      TokStep tk (.elementEnd .open sp)
        { tk with stream := s', depth := tk.depth + 1,
                  state := stateAfterTag (tk.depth + 1) tk.fragment }
  | tagEmpty {sp s'} : tk.state = .attributes →
      parseAttribute tk.stream = some (.elementEnd .empty sp, s') →
      TokStep tk (.elementEnd .empty sp)
        { tk with stream := s', depth := tk.depth,
                  state := stateAfterTag tk.depth tk.fragment }

/-- The ways `parse_next_impl` returns `None`. -/
inductive SkipCase (tk : Tokenizer) : Tokenizer → Prop where
  | noDecl : tk.state = .declaration → SkipCase tk { tk with state := .afterDeclaration }
  | noDoctype : tk.state = .afterDeclaration → SkipCase tk { tk with state := .afterDtd }
  | spaces : tk.state ≠ .elements → tk.state ≠ .attributes → tk.stream.startsWithSpace = true →
      SkipCase tk { tk with stream := tk.stream.skipSpaces }
  | markupDecl {s1} : tk.state = .dtd → consumeDecl tk.stream = some s1 →
      SkipCase tk { tk with stream := s1 }
  | finished : tk.state = .finished → SkipCase tk tk

open Slice (TokStep closeDepth)

/-- `r` is one of the listed results of a call on `tk`. -/
def Step.Listed (tk : Tokenizer) : Step → Prop
  | .token t tk' => TokStep tk t tk'
  | .skip tk' => SkipCase tk tk'
  | .error => True

theorem Step.Listed.ofParse {tk tk1 : Tokenizer} {r : Option (Token × Stream)}
    (h : ∀ t s', r = some (t, s') → TokStep tk t { tk1 with stream := s' }) :
    Step.Listed tk (Step.ofParse tk1 r) := by
  cases r with
  | none => trivial
  | some p => exact h p.1 p.2 rfl

theorem Step.Listed.ite {tk : Tokenizer} {c : Prop} [Decidable c] {a b : Step}
    (ha : c → a.Listed tk) (hb : ¬c → b.Listed tk) : (if c then a else b).Listed tk := by
  split
  · exact ha ‹_›
  · exact hb ‹_›

theorem miscStep_listed {tk : Tokenizer} {other : Step} (hst : tk.state ≠ .attributes)
    (ho : other.Listed tk) : (miscStep tk other).Listed tk :=
  .ite (fun hc => .ofParse fun _ _ hr => .comment hst hr hc) fun _ =>
    .ite (fun hp => .ite (fun _ => trivial) fun _ => .ofParse fun _ _ hr => .pi hst hr hp)
      fun _ => ho

/-- Every exit of `parse_next_impl` other than `Some(Err(_))` is a `TokStep` or a `SkipCase`.
    The `if`s are taken apart with `Step.Listed.ite`: `split` on a goal of this size is slow. -/
theorem parseNextImpl_listed {tk : Tokenizer} (he : tk.stream.atEnd = false) :
    (parseNextImpl tk).Listed tk := by
  unfold parseNextImpl
  simp only [he, Bool.false_eq_true, if_false]
  split
  · next hst =>
    exact .ite (fun _ => .ofParse fun _ _ hr => .decl hst hr) fun _ => SkipCase.noDecl hst
  · next hst =>
    have hna : tk.state ≠ .attributes := by rw [hst]; decide
    refine .ite (fun _ => ?_) fun _ => miscStep_listed hna <|
      .ite (fun hs => SkipCase.spaces (by rw [hst]; decide) hna hs) fun _ => SkipCase.noDoctype hst
    split
    · trivial
    · next t1 s1 hd =>
      rcases (parseDoctype_shape hd).1 with rfl | rfl
      · exact .doctype .dtd hst hd (.inl rfl)
      · exact .doctype .afterDtd hst hd (.inr rfl)
  · next hst =>
    have hna : tk.state ≠ .attributes := by rw [hst]; decide
    refine .ite (fun _ => .ofParse fun _ _ hr => .entity hst hr) fun _ => miscStep_listed hna <|
      .ite (fun _ => .ite (fun _ => ?_) fun _ => trivial) fun _ =>
        .ite (fun hs => SkipCase.spaces (by rw [hst]; decide) hna hs) fun _ =>
          .ite (fun _ => ?_) fun _ => trivial
    · exact .dtdEnd hst ((Adv1.one _).trans_reach ((skipSpaces_reach _).trans (Reach.adv _ 1)))
    · split
      · trivial
      · next s1 hd => exact SkipCase.markupDecl hst hd
  · next hst =>
    have hna : tk.state ≠ .attributes := by rw [hst]; decide
    exact miscStep_listed hna <| .ite (fun _ => trivial) fun _ =>
      .ite (fun _ => .ofParse fun _ _ hr => .start (.inl hst) hr) fun _ =>
        .ite (fun hs => SkipCase.spaces (by rw [hst]; decide) hna hs) fun _ => trivial
  · next hst =>
    have hna : tk.state ≠ .attributes := by rw [hst]; decide
    refine .ite (fun hc => ?_) fun hc => .ofParse fun _ _ hr => .text hst hr (by simpa using hc)
    have hc' : tk.stream.curr? = some '<' := by simpa using hc
    split
    · trivial
    · next c hn =>
      refine .ite (fun _ => ?_) fun _ => .ite (fun hq => ?_) fun _ => .ite (fun hsl => ?_) fun _ => ?_
      · exact .ite (fun ho => .ofParse fun _ _ hr => .comment hna hr ho) fun _ =>
          .ite (fun ho => .ofParse fun _ _ hr => .cdata hst hr ho) fun _ => trivial
      · have hn' : tk.stream.next? = some '?' := by rw [hn, eq_of_beq hq]
        exact .ite (fun _ => .ofParse fun _ _ hr => .pi hna hr (startsWith_of_curr_next hc' hn'))
          fun _ => trivial
      · have hn' : tk.stream.next? = some '/' := by rw [hn, eq_of_beq hsl]
        exact .ofParse fun _ _ hr => .close hst hr hc' hn'
      · exact .ofParse fun _ _ hr => .start (.inr hst) hr
  · next hst =>
    split
    · trivial
    · next t1 s1 ha =>
      rcases parseAttribute_inv ha with ⟨-, -, rfl⟩ | ⟨-, -, rfl⟩ |
        ⟨-, _, _, _, _, _, _, _, -, -, -, -, -, rfl⟩
      · exact .tagEmpty hst ha
      · exact .tagOpen hst ha
      · exact .attr hst ha ⟨_, _, _, _, rfl⟩
  · next hst =>
    have hna : tk.state ≠ .attributes := by rw [hst]; decide
    exact miscStep_listed hna <|
      .ite (fun hs => SkipCase.spaces (by rw [hst]; decide) hna hs) fun _ => trivial
  · next hst => exact SkipCase.finished hst

theorem Slice.parseNextImpl_tokStep' {tk tk' : Tokenizer} {t : Token}
    (he : tk.stream.atEnd = false) (h : parseNextImpl tk = .token t tk') : TokStep tk t tk' := by
  have := parseNextImpl_listed he
  rwa [h] at this

theorem parseNextImpl_skipCase {tk tk' : Tokenizer} (he : tk.stream.atEnd = false)
    (h : parseNextImpl tk = .skip tk') : SkipCase tk tk' := by
  have := parseNextImpl_listed he
  rwa [h] at this

/-- A call of `parse_next_impl` that returns a token has consumed at least one character. -/
theorem parseNextImpl_token {tk tk' : Tokenizer} {t : Token} (he : tk.stream.atEnd = false)
    (h : parseNextImpl tk = .token t tk') : Adv1 tk.stream tk'.stream := by
  cases Slice.parseNextImpl_tokStep' he h with
  | decl _ hr => exact ⟨6, by omega, parseDeclaration_reach hr⟩
  | doctype _ _ hr _ => exact ⟨9, by omega, parseDoctype_reach hr⟩
  | entity _ hr => exact ⟨8, by omega, parseEntityDecl_reach hr⟩
  | comment _ hr _ => exact ⟨4, by omega, parseComment_reach hr⟩
  | pi _ hr _ => exact ⟨2, by omega, parsePI_reach hr⟩
  | dtdEnd _ ha => exact ha
  | start _ hr => exact ⟨1, by omega, parseElementStart_reach hr⟩
  | cdata _ hr _ => exact ⟨9, by omega, parseCdata_reach hr⟩
  | text _ hr hc => exact parseText_adv1 hr hc he
  | close _ hr _ _ => exact ⟨2, by omega, parseCloseElement_reach hr⟩
  | attr _ hr _ => exact parseAttribute_adv1 hr
  | tagOpen _ hr => exact parseAttribute_adv1 hr
  | tagEmpty _ hr => exact parseAttribute_adv1 hr

/-- A call of `parse_next_impl` that returns `None` on a stream not at its end has not moved back, and
    the measure has dropped: it has moved forward or has left `Declaration` / `AfterDeclaration`. -/
theorem parseNextImpl_skip {tk tk' : Tokenizer} (he : tk.stream.atEnd = false)
    (hf : tk.state ≠ .finished) (h : parseNextImpl tk = .skip tk') :
    Reach tk.stream tk'.stream ∧ tk'.measure < tk.measure := by
  cases parseNextImpl_skipCase he h with
  | noDecl hst => exact ⟨Reach.refl _, by simp [Tokenizer.measure, hst, State.rank]⟩
  | noDoctype hst => exact ⟨Reach.refl _, by simp [Tokenizer.measure, hst, State.rank]⟩
  | spaces _ _ hs =>
    have := (skipSpaces_adv1 hs).len_lt he
    exact ⟨skipSpaces_reach _, by simp only [Tokenizer.measure]; omega⟩
  | @markupDecl s1 _ hd =>
    have a : Adv1 tk.stream s1 :=
      Adv1.of_reach (skipBytes_reach _ _) (consumeByte_eq hd ▸ Adv1.one _)
    have := a.len_lt he
    exact ⟨a.reach, by simp only [Tokenizer.measure]; omega⟩
  | finished hst => exact absurd hst hf

theorem Tokenizer.running {tk : Tokenizer} (h : ¬(tk.stream.atEnd = true ∨ tk.state = .finished)) :
    tk.stream.atEnd = false ∧ tk.state ≠ .finished :=
  ⟨Bool.eq_false_iff.mpr fun he => h (.inl he), fun hf => h (.inr hf)⟩

theorem State.rank_le (st : State) : st.rank ≤ 2 := by
  cases st <;> simp [State.rank]

/-- `Tokenizer::next` (`while !at_end && state != End && t.is_none() { t = parse_next_impl() }`)
    iterated as `Xot::_parse` and `dump_tokens` iterate it: `position` is the stream position
    read before the pending `next()`; a token is followed by the next `next()`, `None` ends the
    run, `Some(Err(_))` ends it with `position` (the tokenizer then jumps to the end and enters
    `State::End`, so nothing follows). -/
def lexLoop (tk : Tokenizer) (position : Nat) : List Token × Option Nat :=
  if _hcond : tk.stream.atEnd = true ∨ tk.state = .finished then ([], none)
  else
    match _hs : parseNextImpl tk with
    | .skip tk' => lexLoop tk' position
    | .token t tk' =>
      let r := lexLoop tk' tk'.stream.pos
      (t :: r.1, r.2)
    | .error => ([], some position)
termination_by tk.measure
decreasing_by
  · have he : tk.stream.atEnd = false := by
      cases h : tk.stream.atEnd <;> simp_all
    exact (parseNextImpl_skip he (fun h => _hcond (.inr h)) _hs).2
  · have he : tk.stream.atEnd = false := by
      cases h : tk.stream.atEnd <;> simp_all
    have := (parseNextImpl_token he _hs).len_lt he
    have := State.rank_le tk'.state
    simp only [Tokenizer.measure]
    omega

end XotModel.Lex

namespace XotModel

/-- The reference tokenizer on a document (`Xot::parse`): the tokens before the first tokenizer
    error, and the position `Xot::_parse` reports for that error (`ParseError::XmlParser(_, pos)`),
    if there is one. -/
def lexDocument (s : Str) : List Token × Option Nat :=
  let tk := Lex.Tokenizer.ofStr s
  Lex.lexLoop tk tk.stream.pos

/-- The reference tokenizer on a fragment (`Xot::parse_fragment`). -/
def lexFragment (s : Str) : List Token × Option Nat :=
  let tk := Lex.Tokenizer.ofFragment s
  Lex.lexLoop tk tk.stream.pos

end XotModel
