/-
  XotModel.Model.FanyorderSpec3 — construction programs with NAVIGATION and INPUTS (C20, `Prog3`).

  The programs of `FanyorderSpec2.lean` (`Prog2`, embedded as `Step.old`, run identically) can only name
  a node that one of their own `create` / `wrap` / `clone` steps made.  Here

    * a program starts with INPUTS: `State.env` holds some nodes of the store the program is run in
      (roots of trees that were there before, or any other node), named 0, 1, … like results;
    * NAVIGATION steps produce a RESULT (a new entry of `env`, named by the next index) from an
      earlier one:
        child r k       `xot.children(r).nth(k)`            the k-th normal child
        parent r        `xot.parent(r)`
        attrNode r a    `xot.attributes(r).get_node(a)`     the attribute node with the name `a`
        nsNode r p      `xot.namespaces(r).get_node(p)`     the namespace node with the prefix `p`
      so every later step may address the inside of a cloned template or of an input tree;
      a navigation that finds nothing is `unwrap()` of `None`: `panic` / ill-formed;
    * the update steps that were missing:
        removeAttribute e a   `remove_attribute`  = `attributes_mut(e).remove(a)`
        removeNamespace e p   `remove_namespace`  = `namespaces_mut(e).remove(p)`
        clearAttributes e     `attributes_mut(e).clear()`
        clearNamespaces e     `namespaces_mut(e).clear()`
        nsSetNamespace n ns   `namespace_node_mut(n).set_namespace(ns)`
        piSetTarget n t       `processing_instruction_mut(n).set_target(t)`
      (`set_data` of a processing instruction is `Prog2.Step.setPiData`).

  Two interpreters as before: `runImpl` (xot's calls: `Forest.mapRemove`, `mapClear`,
  `namespaceSetNamespace`, `piSetTarget`, the navigation reads) and `runSpec` (the ordered-tree
  specification: removing an entry = C05's `specRemoveP` of the entry node; `clear` = removing the
  entry nodes one after the other; the setters = `specSetValue`).

  DENOTATION (`denote`, `denoteAt`): what the program is worth as pure trees — the program is run on
  the specification and every result is read off as a `Tree` (`HTree.erase`: no node names left):
  the tree of the ROOT the result lies in, and the subtree of the result itself.
-/
import XotModel.Model.FanyorderSpec2

namespace XotModel
namespace Prog3
open Spec
open Prog (State extend isElementAt)
open Forest (MapKind)

/-- One step; `Nat` node arguments are indices into the list of inputs and results so far. -/
inductive Step where
  | old (s : Prog2.Step)
  /-- `children(r).nth(k)` -/
  | child (r k : Nat)
  /-- `parent(r)` -/
  | parent (r : Nat)
  /-- `attributes(r).get_node(name)` -/
  | attrNode (r name : Nat)
  /-- `namespaces(r).get_node(pfx)` -/
  | nsNode (r pfx : Nat)
  | removeAttribute (e name : Nat)
  | removeNamespace (e pfx : Nat)
  | clearAttributes (e : Nat)
  | clearNamespaces (e : Nat)
  /-- `namespace_node_mut(n).set_namespace(ns)` -/
  | nsSetNamespace (n ns : Nat)
  /-- `processing_instruction_mut(n).set_target(t)` -/
  | piSetTarget (n target : Nat)
  deriving Repr, DecidableEq, Inhabited

abbrev Program := List Step

/-! ### Navigation: reads of the store -/

/-- `children(r).nth(k)`: the k-th NORMAL child (element, text, comment, PI). -/
def childOf (f : Forest) (r k : Nat) : Option Nat :=
  (((f.kidsOf r).filter (fun c => c.value.isNormal))[k]?).map (·.handle)

/-- `parent(r)`. -/
def parentOf (f : Forest) (r : Nat) : Option Nat := f.parent? r

/-- `attributes(r).get_node(name)` / `namespaces(r).get_node(pfx)`. -/
def entryNodeOf (f : Forest) (k : MapKind) (r key : Nat) : Option Nat :=
  (f.mapGetNode k r key).map (·.handle)

/-- A step whose node indices have been resolved to node names (handles); a navigation step is
    resolved to what it FOUND in the store. -/
inductive Call where
  | old (c : Prog2.Call)
  | found (h : Nat)
  | mapRemove (k : MapKind) (e key : Nat)
  | mapClear (k : MapKind) (e : Nat)
  | nsSetNamespace (n ns : Nat)
  | piSetTarget (n target : Nat)
  deriving Repr, DecidableEq, Inhabited

def nav (env : List Nat) (r : Nat) (g : Nat → Option Nat) : Option Call :=
  match env[r]? with
  | some h =>
    match g h with
    | some x => some (.found x)
    | none => none
  | none => none

def at1 (env : List Nat) (n : Nat) (k : Nat → Call) : Option Call :=
  match env[n]? with
  | some h => some (k h)
  | none => none

/-- Resolve the indices — and, for a navigation step, read the store. -/
def Step.resolve (f : Forest) (env : List Nat) : Step → Option Call
  | .old s => (s.resolve env).map .old
  | .child r k => nav env r (fun h => childOf f h k)
  | .parent r => nav env r (parentOf f)
  | .attrNode r name => nav env r (fun h => entryNodeOf f .attributes h name)
  | .nsNode r pfx => nav env r (fun h => entryNodeOf f .namespaces h pfx)
  | .removeAttribute e name => at1 env e (fun h => .mapRemove .attributes h name)
  | .removeNamespace e pfx => at1 env e (fun h => .mapRemove .namespaces h pfx)
  | .clearAttributes e => at1 env e (.mapClear .attributes)
  | .clearNamespaces e => at1 env e (.mapClear .namespaces)
  | .nsSetNamespace n ns => at1 env n (fun h => .nsSetNamespace h ns)
  | .piSetTarget n t => at1 env n (fun h => .piSetTarget h t)

/-! ### The implementation side -/

/-- One call on the forest model: state reached, outcome, result (if any). -/
def Call.impl (f : Forest) : Call → Forest × Res × Option Nat
  | .old c => c.impl f
  | .found h => (f, .ok, some h)
  | .mapRemove k e key => let (f', r) := f.mapRemove k e key; (f', r, none)
  | .mapClear k e => let (f', r) := f.mapClear k e; (f', r, none)
  | .nsSetNamespace n ns => let (f', r) := f.namespaceSetNamespace n ns; (f', r, none)
  | .piSetTarget n t => let (f', r) := f.piSetTarget n t; (f', r, none)

/-- One step.  An index that names nothing, and a navigation that finds nothing (`unwrap()` of
    `None`), cannot be executed: `panic`. -/
def stepImpl (s : State) (st : Step) : State × Res :=
  match st.resolve s.forest s.env with
  | none => (s, .panic)
  | some c =>
    match c.impl s.forest with
    | (f', r, o) => ({ forest := f', env := extend s.env o }, r)

/-- Run a program; stops after the first step whose outcome is not `ok`. -/
def runImpl (s : State) : Program → State × Res
  | [] => (s, .ok)
  | st :: rest =>
    match stepImpl s st with
    | (s', .ok) => runImpl s' rest
    | (s', r) => (s', r)

/-! ### The specification side -/

/-- Remove the nodes `hs` one after the other (`clear()` walks the entry nodes it collected
    first); each must still be there when its turn comes — which is always so for the entry nodes
    of an element (`Prog3.clear_accepted`, Lemmas/FprogNavigation.lean). -/
def specRemoveAll : List Nat → Forest → Option Forest
  | [], f => some f
  | h :: hs, f => if f.isLive h then specRemoveAll hs (specRemoveP h f) else none

/-- The entry nodes of the view `k` of `e`, in order. -/
def entryHandles (f : Forest) (k : MapKind) (e : Nat) : List Nat :=
  match f.get? e with
  | some t => (Forest.mapChildren k t).map (·.handle)
  | none => []

/-- One call on the specification: `none` = ill-formed. -/
def Call.spec (f : Forest) : Call → Option (Forest × Option Nat)
  | .old c => c.spec f
  | .found h => some (f, some h)
  | .mapRemove k e key =>
    if isElementAt f e then
      match f.mapGetNode k e key with
      | some n => some (specRemoveP n.handle f, none)
      | none => some (f, none)
    else none
  | .mapClear k e =>
    if isElementAt f e then (specRemoveAll (entryHandles f k e) f).map (fun f' => (f', none)) else none
  | .nsSetNamespace n ns =>
    match f.value? n with
    | some (.namespace p _) => some (specSetValue n (.namespace p ns) f, none)
    | _ => none
  | .piSetTarget n t =>
    match f.value? n with
    | some (.pi _ d) => some (specSetValue n (.pi t d) f, none)
    | _ => none

def stepSpec (s : State) (st : Step) : Option State :=
  match st.resolve s.forest s.env with
  | none => none
  | some c =>
    match c.spec s.forest with
    | none => none
    | some (f', o) => some { forest := f', env := extend s.env o }

/-- Run a program on the specification; `none`: some step is ill-formed. -/
def runSpec (s : State) : Program → Option State
  | [] => some s
  | st :: rest =>
    match stepSpec s st with
    | none => none
    | some s' => runSpec s' rest

/-- The index of the first step the specification rejects. -/
def firstIllFormed (s : State) : Program → Option Nat
  | [] => none
  | st :: rest =>
    match stepSpec s st with
    | none => some 0
    | some s' => (firstIllFormed s' rest).map (· + 1)

/-- The index of the first step the implementation does not answer `ok`. -/
def firstRefused (s : State) : Program → Option Nat
  | [] => none
  | st :: rest =>
    match stepImpl s st with
    | (s', .ok) => (firstRefused s' rest).map (· + 1)
    | _ => some 0

/-- Calls outside the direction implementation ⇒ specification: what `Prog2.Call.inScope` excludes;
    none of the new calls. -/
def Call.inScope (f : Forest) : Call → Bool
  | .old c => c.inScope f
  | _ => true

def inScope (s : State) : Program → Bool
  | [] => true
  | st :: rest =>
    (match st.resolve s.forest s.env with
     | none => true
     | some c => c.inScope s.forest) &&
    (match stepImpl s st with
     | (s', .ok) => inScope s' rest
     | _ => true)

/-- An extended program (`Prog2`) as a program with navigation. -/
def ofOld (P : Prog2.Program) : Program := P.map .old

/-! ### Reading results off as pure trees -/

/-- The parentless tree the node `h` lies in. -/
def rootOf (f : Forest) (h : Nat) : Option HTree :=
  f.roots.find? (fun r => (HTree.find? h r).isSome)

/-- … as a pure tree. -/
def rootTreeOf (f : Forest) (h : Nat) : Option Tree := (rootOf f h).map HTree.erase

/-- The root trees of all inputs and results (`none`: the node does not exist any more). -/
def rootTrees (s : State) : List (Option Tree) := s.env.map (rootTreeOf s.forest)

/-- The subtrees of all inputs and results. -/
def subTrees (s : State) : List (Option Tree) := s.env.map s.forest.treeAt

/-- **The denotation of a program** run in the store `f` with the inputs `ins`: the root tree of
    every input and result at the end, as pure trees; `none`: the program is ill-formed. -/
def denote (f : Forest) (ins : List Nat) (P : Program) : Option (List (Option Tree)) :=
  (runSpec { forest := f, env := ins } P).map rootTrees

/-- … and the subtree a designated result carries at the end. -/
def denoteAt (f : Forest) (ins : List Nat) (P : Program) (r : Nat) : Option Tree :=
  match runSpec { forest := f, env := ins } P with
  | some s' =>
    match s'.env[r]? with
    | some h => s'.forest.treeAt h
    | none => none
  | none => none

/-! ### Addresses without names (for the statement of what is NOT proved: handle-independence) -/

mutual
  /-- The path of raw child indices from the root of the tree to the node named `h`. -/
  def pathIn (h : Nat) : HTree → Option (List Nat)
    | .node h' _ ks => if h' = h then some [] else pathInList h 0 ks
  /-- … in a child list (or the list of parentless trees) whose first member has the index `i`. -/
  def pathInList (h : Nat) (i : Nat) : List HTree → Option (List Nat)
    | [] => none
    | k :: ks =>
      match pathIn h k with
      | some p => some (i :: p)
      | none => pathInList h (i + 1) ks
end

/-- Where the node `h` lies, said without names: the index of its parentless tree, then the path. -/
def addressOf (f : Forest) (h : Nat) : Option (List Nat) := pathInList h 0 f.roots

/-- Two stores with inputs that cannot be told apart without looking at node names: the same pure
    trees in the same order, the same settings, the inputs at the same places. -/
def SameUpToNames (f1 : Forest) (ins1 : List Nat) (f2 : Forest) (ins2 : List Nat) : Prop :=
  f1.content = f2.content ∧ f1.consolidation = f2.consolidation ∧ f1.everOff = f2.everOff ∧
  ins1.map (addressOf f1) = ins2.map (addressOf f2) ∧ ∀ h ∈ ins1, (addressOf f1 h).isSome

/-- `P`, run in the store `f` with the inputs `ins`, ends in the tree `T` at the result `root`. -/
def Constructs (f : Forest) (ins : List Nat) (P : Program) (root : Nat) (T : Tree) : Prop :=
  denoteAt f ins P root = some T

end Prog3
end XotModel
