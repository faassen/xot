/-
  C11 — Attribute and namespace views behave as insertion-ordered maps.
  Property theorems only.

  The model has a single definition of a view's content (`Forest.mapChildren`), shared by the
  read-only and the mutable view; that the two Rust copies agree with it and with each other is
  the correspondence check (`map_read`, both views, after every step).
-/
import XotModel.Lemmas.HTreeBasic
import XotModel.Lemmas.FmapMove
import XotModel.Lemmas.FmapHistPos
import XotModel.Lemmas.FmapHistSer
import XotModel.Lemmas.FmapRet
import XotModel.Lemmas.FmapNodes
import XotModel.Model.ValueAccess
import XotModel.Lemmas.FmapMix
import XotModel.Lemmas.FframeGeneralMix
import XotModel.Lemmas.ParseWitness
import XotModel.Model.FspecSpec

namespace XotModel.Props
open XotModel

/-- Updating an existing key answers `ok` and leaves the list of all handles of the forest as it is (same
    handles, same order).  The view's entry nodes and values afterwards: `C11_insert_nodes`, `C11_refine_insert`. -/
theorem C11_insert_existing_keeps_nodes (f : Forest) (k : Forest.MapKind) (p : Nat) (entry : Value)
    (n : HTree) (he : f.isElement p = true) (hk : f.mapGetNode k p (Forest.entryKey entry) = some n) :
    (f.mapInsert k p entry).1.allHandles = f.allHandles ∧ (f.mapInsert k p entry).2 = .ok := by
  simp [Forest.mapInsert, he, hk, Forest.allHandles_setValue]

/-- Removing an absent key changes nothing. -/
theorem C11_remove_absent (f : Forest) (k : Forest.MapKind) (p key : Nat)
    (he : f.isElement p = true) (hk : f.mapGetNode k p key = none) :
    f.mapRemove k p key = (f, .ok) := by
  simp [Forest.mapRemove, he, hk]

/-- Map `insert` on a non-element panics and changes nothing (the documented panic of the element-only
    accessors). -/
theorem C11_nonelement_panics (f : Forest) (k : Forest.MapKind) (p : Nat) (entry : Value)
    (he : f.isElement p = false) : f.mapInsert k p entry = (f, .panic) := by
  simp [Forest.mapInsert, he]

/-! ## Refinement to an insertion-ordered map

  `Fmap.abs k f e` (Model/FmapSpec.lean) is the attribute / namespace view of `e` as an
  association list `(key, payload)` in child order; `omInsert` / `omRemove` / `omClear` are the
  reference ordered map (existing key: value replaced in place; new key: appended at the end).
  All theorems below hold for every forest satisfying `Forest.Inv` and every live element. -/

open Fmap

/-- `insert(key, value)` (`set_attribute`, `set_namespace`): the view becomes `omInsert`; no
    panic, no error. -/
theorem C11_refine_insert (f : Forest) (hi : f.Inv) (k : Forest.MapKind) (e : Nat) (entry : Value)
    (he : f.isElement e = true) (hm : k.matches entry = true) :
    abs k (f.mapInsert k e entry).1 e = omInsert (abs k f e) (Forest.entryKey entry) (payloadOf entry) ∧
    (f.mapInsert k e entry).2 = .ok := by
  obtain ⟨hok, t⟩ := touch_mapInsert hi k e entry he hm
  exact ⟨t.same, hok⟩

/-- Updating an existing key keeps every entry node of the view in its position with its
    handle (`nodes()` is unchanged); a new key is carried by a fresh node placed last. -/
theorem C11_insert_nodes (f : Forest) (hi : f.Inv) (k : Forest.MapKind) (e : Nat) (entry : Value)
    (he : f.isElement e = true) (hm : k.matches entry = true) :
    (∀ n, f.mapGetNode k e (Forest.entryKey entry) = some n →
      absNodes k (f.mapInsert k e entry).1 e = absNodes k f e) ∧
    (f.mapGetNode k e (Forest.entryKey entry) = none →
      absNodes k (f.mapInsert k e entry).1 e = absNodes k f e ++ [f.next]) := by
  obtain ⟨nm, N, A, S, h⟩ := minv_of_inv f e hi he
  obtain ⟨s', st, _, _, h1, h2⟩ := mapInsert_step h k entry hm
  constructor
  · intro n hn; rw [st.nodes_same, h1 n hn, h.absNodes_eq]
  · intro hn; rw [st.nodes_same, h2 hn, h.absNodes_eq]

/-- `remove(key)` (`remove_attribute`, `remove_namespace`): the view becomes `omRemove`; the
    remaining entry nodes keep their relative order and handles. -/
theorem C11_refine_remove (f : Forest) (hi : f.Inv) (k : Forest.MapKind) (e key : Nat)
    (he : f.isElement e = true) :
    abs k (f.mapRemove k e key).1 e = omRemove (abs k f e) key ∧
    (f.mapRemove k e key).2 = .ok ∧
    (absNodes k (f.mapRemove k e key).1 e).Sublist (absNodes k f e) := by
  obtain ⟨nm, N, A, S, h⟩ := minv_of_inv f e hi he
  obtain ⟨s', st, hok, hmap, hsub⟩ := mapRemove_step h k key
  refine ⟨?_, hok, ?_⟩
  · rw [st.abs_same, hmap, h.abs_eq]
  · rw [st.nodes_same, h.absNodes_eq]; exact hsub

/-- `clear()`: the view becomes empty. -/
theorem C11_refine_clear (f : Forest) (hi : f.Inv) (k : Forest.MapKind) (e : Nat)
    (he : f.isElement e = true) :
    abs k (f.mapClear k e).1 e = omClear (abs k f e) ∧ (f.mapClear k e).2 = .ok := by
  obtain ⟨nm, N, A, S, h⟩ := minv_of_inv f e hi he
  obtain ⟨st, hok⟩ := mapClear_step h k
  exact ⟨by rw [st.abs_same]; rfl, hok⟩

/-- `append_attribute_node` / `append_namespace_node` of a detached (parentless) entry node
    `nd` with value `v`: the view becomes `omInsert`.  If the key exists, the EXISTING node keeps
    its place and handle, takes the new value and is the node returned, and `nd` stays where it
    was (parentless, same value).  Otherwise `nd` itself becomes the last entry and is returned. -/
theorem C11_refine_insert_node (f : Forest) (hi : f.Inv) (k : Forest.MapKind) (e nd : Nat) (v : Value)
    (he : f.isElement e = true) (hroot : f.isRoot nd = true) (hval : f.value? nd = some v)
    (hm : k.matches v = true) :
    abs k (f.appendEntryNode k e nd).1 e = omInsert (abs k f e) (Forest.entryKey v) (payloadOf v) ∧
    (f.appendEntryNode k e nd).2.1 = .ok ∧
    (∀ n, f.mapGetNode k e (Forest.entryKey v) = some n →
      (f.appendEntryNode k e nd).2.2 = n.handle ∧
      absNodes k (f.appendEntryNode k e nd).1 e = absNodes k f e ∧
      HTree.node nd v [] ∈ (f.appendEntryNode k e nd).1.roots) ∧
    (f.mapGetNode k e (Forest.entryKey v) = none →
      (f.appendEntryNode k e nd).2.2 = nd ∧
      absNodes k (f.appendEntryNode k e nd).1 e = absNodes k f e ++ [nd]) := by
  obtain ⟨nm, N, A, S, h⟩ := minv_of_inv f e hi he
  have hleaf := leafRoot_of_inv f hi k nd v hroot hval hm
  obtain ⟨s', roots0, st, hok, hmap, _, h1, h2⟩ := appendEntryNode_step h k nd v hm hleaf
  refine ⟨by rw [st.abs_same, hmap, h.abs_eq], hok, ?_, ?_⟩
  · intro n hn
    obtain ⟨a, b, c, _⟩ := h1 n hn
    exact ⟨a, by rw [st.nodes_same, b, h.absNodes_eq], c⟩
  · intro hn
    obtain ⟨a, b, _⟩ := h2 hn
    exact ⟨a, by rw [st.nodes_same, b, h.absNodes_eq]⟩

/-- `any_append` of an attribute / namespace node is `append_attribute_node` /
    `append_namespace_node`, so `C11_refine_insert_node` covers it. -/
theorem C11_any_append_entry (f : Forest) (k : Forest.MapKind) (e nd : Nat) (v : Value)
    (hval : f.value? nd = some v) (hm : k.matches v = true) :
    f.anyAppend e nd = f.appendEntryNode k e nd := anyAppend_entry f k e nd v hval hm

/-- An update of one view does not change the other view (content and nodes). -/
theorem C11_other_view_untouched (f : Forest) (hi : f.Inv) (k k' : Forest.MapKind) (e : Nat)
    (he : f.isElement e = true) (hk : k' ≠ k) :
    (∀ entry, k.matches entry = true →
      abs k' (f.mapInsert k e entry).1 e = abs k' f e ∧
      absNodes k' (f.mapInsert k e entry).1 e = absNodes k' f e) ∧
    (∀ key, abs k' (f.mapRemove k e key).1 e = abs k' f e ∧
      absNodes k' (f.mapRemove k e key).1 e = absNodes k' f e) ∧
    (abs k' (f.mapClear k e).1 e = abs k' f e ∧ absNodes k' (f.mapClear k e).1 e = absNodes k' f e) ∧
    (∀ nd v, f.isRoot nd = true → f.value? nd = some v → k.matches v = true →
      abs k' (f.appendEntryNode k e nd).1 e = abs k' f e ∧
      absNodes k' (f.appendEntryNode k e nd).1 e = absNodes k' f e) := by
  obtain ⟨nm, N, A, S, h⟩ := minv_of_inv f e hi he
  refine ⟨?_, ?_, ?_, ?_⟩
  · intro entry hm
    obtain ⟨s', st, _⟩ := mapInsert_step h k entry hm
    exact ⟨st.abs_other h hk, st.nodes_other h hk⟩
  · intro key
    obtain ⟨s', st, _⟩ := mapRemove_step h k key
    exact ⟨st.abs_other h hk, st.nodes_other h hk⟩
  · obtain ⟨st, _⟩ := mapClear_step h k
    exact ⟨st.abs_other h hk, st.nodes_other h hk⟩
  · intro nd v hroot hval hm
    obtain ⟨s', roots0, st, _⟩ :=
      appendEntryNode_step h k nd v hm (leafRoot_of_inv f hi k nd v hroot hval hm)
    exact ⟨st.abs_other h hk, st.nodes_other h hk⟩

/-- Frame.  After `insert` / `remove` / `clear` on view `k` of `e`, the forest is the old
    forest in which only the child list of `e` was replaced (`Fmap.withKids`: every other node,
    every other tree, every handle as before; `next` may have grown), and within that child
    list everything that is not an entry of view `k` — the normal children with their subtrees
    and the other view's nodes — is the same, in the same order. -/
theorem C11_children_untouched (f : Forest) (hi : f.Inv) (k : Forest.MapKind) (e : Nat)
    (he : f.isElement e = true) :
    ∃ nm ks, f.get? e = some (.node e (.element nm) ks) ∧
    ∀ f', ((∃ entry, k.matches entry = true ∧ f' = (f.mapInsert k e entry).1) ∨
           (∃ key, f' = (f.mapRemove k e key).1) ∨ f' = (f.mapClear k e).1) →
      ∃ ks', f' = { f with roots := withKids f.roots e ks', next := f'.next } ∧
        ks'.filter (fun c => !k.matches c.value) = ks.filter (fun c => !k.matches c.value) := by
  obtain ⟨nm, N, A, S, h⟩ := minv_of_inv f e hi he
  refine ⟨nm, _, h.loc.get, ?_⟩
  have fin : ∀ f' s', Fmap.Step f f' e nm N A S k f.roots s' →
      ∃ ks', f' = { f with roots := withKids f.roots e ks', next := f'.next } ∧
        ks'.filter (fun c => !k.matches c.value) =
          (N ++ A ++ S).filter (fun c => !k.matches c.value) := by
    intro f' s' st
    obtain ⟨ks, ks', hg, hst, hfil⟩ := st.frame h
    rw [h.loc.get] at hg
    simp only [Option.some.injEq, HTree.node.injEq, true_and] at hg
    exact ⟨ks', hst, by rw [hfil, hg]⟩
  intro f' hf'
  rcases hf' with ⟨entry, hm, rfl⟩ | ⟨key, rfl⟩ | rfl
  · obtain ⟨s', st, _⟩ := mapInsert_step h k entry hm
    exact fin _ s' st
  · obtain ⟨s', st, _⟩ := mapRemove_step h k key
    exact fin _ s' st
  · obtain ⟨st, _⟩ := mapClear_step h k
    exact fin _ [] st

/-- Frame of the node-style insertion: as above, except that the detached node leaves the
    parentless trees when it is placed (it stays among them when its key already exists). -/
theorem C11_children_untouched_node (f : Forest) (hi : f.Inv) (k : Forest.MapKind) (e nd : Nat)
    (v : Value) (he : f.isElement e = true) (hroot : f.isRoot nd = true)
    (hval : f.value? nd = some v) (hm : k.matches v = true) :
    ∃ nm ks ks' roots0, f.get? e = some (.node e (.element nm) ks) ∧
      (roots0 = f.roots ∨ roots0 = rootsWithout f nd) ∧
      (f.appendEntryNode k e nd).1 = { f with roots := withKids roots0 e ks' } ∧
      ks'.filter (fun c => !k.matches c.value) = ks.filter (fun c => !k.matches c.value) := by
  obtain ⟨nm, N, A, S, h⟩ := minv_of_inv f e hi he
  have hleaf := leafRoot_of_inv f hi k nd v hroot hval hm
  obtain ⟨s', roots0, st, _, _, hnext, h1, h2⟩ := appendEntryNode_step h k nd v hm hleaf
  obtain ⟨ks, ks', hg, hst, hfil⟩ := st.frame h
  refine ⟨nm, ks, ks', roots0, hg, ?_, ?_, hfil⟩
  · cases hn : f.mapGetNode k e (Forest.entryKey v) with
    | none => exact Or.inr (h2 hn).2.2
    | some n => exact Or.inl (h1 n hn).2.2.2
  · rw [hnext] at hst
    exact hst

/-- Node-style removal.  `remove(node)` of an entry node of view `k` of `e` IS `remove(key)` on
    the view, for the key under which `get_node` returns that node (so `C11_refine_remove`
    applies); `detach(node)` has the same effect on the view (`omRemove`), leaves the other view
    alone, and the node becomes a parentless tree keeping its value. -/
theorem C11_refine_remove_node (f : Forest) (hi : f.Inv) (k : Forest.MapKind) (e hd : Nat)
    (he : f.isElement e = true) (hm : hd ∈ absNodes k f e) :
    ∃ n, f.mapGetNode k e (Forest.entryKey n.value) = some n ∧ n.handle = hd ∧
      f.remove hd = f.mapRemove k e (Forest.entryKey n.value) ∧
      abs k (f.detach hd).1 e = omRemove (abs k f e) (Forest.entryKey n.value) ∧
      (f.detach hd).2 = .ok ∧ n ∈ (f.detach hd).1.roots ∧
      (∀ k', k' ≠ k → abs k' (f.detach hd).1 e = abs k' f e) := by
  obtain ⟨nm, N, A, S, h⟩ := minv_of_inv f e hi he
  obtain ⟨n, hg, hh, hrem⟩ := remove_node_eq h k hd hm
  have hn : n ∈ Sect.sec k N A := by
    rw [h.getNode k] at hg
    exact List.mem_of_find?_eq_some hg
  obtain ⟨s', st, hok, hmap, hroot⟩ := detach_node_step h k n hn
  rw [hh] at st hok hroot
  refine ⟨n, hg, hh, hrem, ?_, hok, hroot, fun k' hk => st.abs_other h hk⟩
  rw [st.abs_same, hmap, h.abs_eq k]
  rfl

/-- `append_*_node` / `any_append` of ANY live entry node — detached, or still attached to this
    or another element — whose key the view already has: the view becomes `omInsert`, the
    existing node keeps place and handle, takes the value and is returned, and the forest changes
    by that one value only (the passed node stays where it is). -/
theorem C11_insert_node_existing_key (f : Forest) (hi : f.Inv) (k : Forest.MapKind) (e nd : Nat)
    (v : Value) (n : HTree) (he : f.isElement e = true) (hval : f.value? nd = some v)
    (hm : k.matches v = true) (hn : f.mapGetNode k e (Forest.entryKey v) = some n) :
    f.appendEntryNode k e nd =
      (f.setValue n.handle (Forest.entryUpdate n.value v), .ok, n.handle) ∧
    abs k (f.appendEntryNode k e nd).1 e = omInsert (abs k f e) (Forest.entryKey v) (payloadOf v) ∧
    absNodes k (f.appendEntryNode k e nd).1 e = absNodes k f e ∧
    (f.appendEntryNode k e nd).1.Inv := by
  obtain ⟨nm, N, A, S, h⟩ := minv_of_inv f e hi he
  obtain ⟨s', st, heq, hmap, hnodes⟩ := appendEntryNode_existing h k nd v hval hm n hn
  exact ⟨heq, by rw [st.abs_same, hmap, h.abs_eq], by rw [st.nodes_same, hnodes, h.absNodes_eq],
    Forest.appendEntryNode_inv hi k e nd⟩

/-- `append_*_node` / `any_append` of an entry node that is still attached to ANOTHER element
    `e2`, when the view of `e` lacks its key: the node moves.  `e` gains the entry at the end,
    carried by the same node, which is returned; `e2` loses it (`omRemove`); the other view of
    both elements is untouched; the invariant is kept.  (With the key present in `e`,
    `C11_insert_node_existing_key` applies and the node does not move.) -/
theorem C11_move_node (f : Forest) (hi : f.Inv) (k : Forest.MapKind) (e e2 hd : Nat)
    (he : f.isElement e = true) (he2 : f.isElement e2 = true) (hne : e ≠ e2)
    (hm : hd ∈ absNodes k f e2) :
    ∃ n, f.mapGetNode k e2 (Forest.entryKey n.value) = some n ∧ n.handle = hd ∧
      (f.mapGetNode k e (Forest.entryKey n.value) = none →
        (f.appendEntryNode k e hd).2 = (.ok, hd) ∧
        abs k (f.appendEntryNode k e hd).1 e =
          omInsert (abs k f e) (Forest.entryKey n.value) (payloadOf n.value) ∧
        absNodes k (f.appendEntryNode k e hd).1 e = absNodes k f e ++ [hd] ∧
        abs k (f.appendEntryNode k e hd).1 e2 = omRemove (abs k f e2) (Forest.entryKey n.value) ∧
        (∀ k', k' ≠ k → abs k' (f.appendEntryNode k e hd).1 e = abs k' f e ∧
          abs k' (f.appendEntryNode k e hd).1 e2 = abs k' f e2) ∧
        (f.appendEntryNode k e hd).1.Inv) :=
  move_node f hi k e e2 hd he he2 hne hm

/-- `append_*_node` / `any_append` of a node that already is an entry of this view of this
    element is the identity and returns that node. -/
theorem C11_append_own_node (f : Forest) (hi : f.Inv) (k : Forest.MapKind) (e hd : Nat)
    (he : f.isElement e = true) (hm : hd ∈ absNodes k f e) :
    f.appendEntryNode k e hd = (f, .ok, hd) := by
  obtain ⟨nm, N, A, S, h⟩ := minv_of_inv f e hi he
  rw [h.absNodes_eq k] at hm
  obtain ⟨n, hn, hh⟩ := List.mem_map.mp hm
  rw [← hh]
  exact appendEntryNode_own h k n hn

/-- Keys are distinct in both views of every node of a forest satisfying the invariant. -/
theorem C11_unique_keys (f : Forest) (hi : f.Inv) (k : Forest.MapKind) (e : Nat) :
    omWf (abs k f e) := unique_keys_of_inv f hi k e

/-- The reference map stays a map: `omInsert` / `omRemove` keep keys distinct, a lookup after an
    update sees exactly that update, and `omRemove` leaves no entry of the key. -/
theorem C11_reference_is_a_map (m : OMap Payload) (key : Nat) (p : Payload) (hw : omWf m) :
    omWf (omInsert m key p) ∧ omWf (omRemove m key) ∧
    omGet (omInsert m key p) key = some p ∧ omGet (omRemove m key) key = none ∧
    (∀ k', k' ≠ key → omGet (omInsert m key p) k' = omGet m k' ∧ omGet (omRemove m key) k' = omGet m k') ∧
    omRemove m key = m.filter (fun q => q.1 != key) ∧
    (omGet m key = none → omInsert m key p = m ++ [(key, p)]) :=
  ⟨omWf_insert m key p hw, omWf_remove m key hw, omGet_insert_self m key p,
    omGet_remove_self m key hw,
    fun k' hk => ⟨omGet_insert_other m key k' p hk, omGet_remove_other m key k' hk⟩,
    omRemove_eq_filter m key hw, omInsert_of_get_none m key p⟩

/-- The reads.  `get_node(key)` finds a node of the view carrying the key; `get`, `contains_key`
    agree with the reference lookup; what the driver's `map_read` prints (`len`, `is_empty`, the
    `iter()` pairs = `keys()` zipped with `values()`, `nodes()`) are the reference map's `omLen`,
    `omIsEmpty`, `omKeys`, `omValues` (no hypothesis needed: one definition of the content). -/
theorem C11_reads (f : Forest) (k : Forest.MapKind) (e key : Nat) :
    (f.mapGetNode k e key).map (fun c => payloadOf c.value) = omGet (abs k f e) key ∧
    (f.mapGetNode k e key).isSome = omContainsKey (abs k f e) key ∧
    (∀ n, f.mapGetNode k e key = some n → n.handle ∈ absNodes k f e ∧ Forest.entryKey n.value = key) ∧
    (∀ t, f.get? e = some t →
      (Forest.mapChildren k t).length = omLen (abs k f e) ∧
      (Forest.mapChildren k t).isEmpty = omIsEmpty (abs k f e) ∧
      (Forest.mapChildren k t).map (fun c => Forest.entryKey c.value) = omKeys (abs k f e) ∧
      (Forest.mapChildren k t).map (fun c => payloadOf c.value) = omValues (abs k f e) ∧
      (Forest.mapChildren k t).map (·.handle) = absNodes k f e) :=
  ⟨get_eq f k e key, containsKey_eq f k e key, getNode_mem f k e key, reads_eq f k e⟩

/-- Histories.  Any sequence of map-style updates (`insert`, `remove`, `clear`) and node-style
    updates (a fresh attribute / namespace node appended with `append_*_node` = `any_append`) of
    both views of one element, from any forest satisfying the invariant: no step panics or
    fails, after the history each view equals the reference map fed the steps addressed to
    it (`specOps`), and the whole invariant holds again. -/
theorem C11_histories (f : Forest) (hi : f.Inv) (e : Nat) (he : f.isElement e = true)
    (ops : List MapOp) (hwf : ∀ op ∈ ops, op.wf = true) :
    (∀ r ∈ (runOps e f ops).2, r = .ok) ∧
    (∀ k, abs k (runOps e f ops).1 e = specOps k (abs k f e) ops) ∧
    (∀ k, omWf (abs k (runOps e f ops).1 e)) ∧
    (runOps e f ops).1.isElement e = true ∧ (runOps e f ops).1.Inv := by
  obtain ⟨nm, N, A, S, h⟩ := minv_of_inv f e hi he
  obtain ⟨N', A', h', hok, hv⟩ := runOps_spec e nm S ops f N A h hwf
  refine ⟨hok, hv, ?_, h'.isElement, runOps_inv e ops f hi hwf⟩
  intro k
  rw [h'.abs_eq k]
  have := h'.uniq k
  simpa [omWf, omKeys, List.map_map, Function.comp_def, entryPair_fst] using this

/-- One step of a history, for chaining with other operations: the outcome, both views, and that
    the element is still a live element. -/
theorem C11_step (f : Forest) (hi : f.Inv) (e : Nat) (he : f.isElement e = true) (op : MapOp)
    (hwf : op.wf = true) :
    (op.run e f).2 = .ok ∧ (∀ k, abs k (op.run e f).1 e = op.specFor k (abs k f e)) ∧
    (op.run e f).1.isElement e = true ∧ (op.run e f).1.Inv := by
  obtain ⟨nm, N, A, S, h⟩ := minv_of_inv f e hi he
  obtain ⟨N', A', h', hok, hv⟩ := op_step h op hwf
  exact ⟨hok, hv, h'.isElement, op_inv f hi e op hwf⟩

/-- The map operations preserve the whole invariant of C04 (`Forest.Inv`: distinct handles below
    `next`, every tree structurally valid, …), so they can be chained with any other operation
    proved to preserve it: `insert`, `remove`, `clear`, `append_*_node` of a detached entry node,
    `detach` of an entry node (`remove` of one is `remove(key)`, `C11_refine_remove_node`). -/
theorem C11_preserves_inv (f : Forest) (hi : f.Inv) (k : Forest.MapKind) (e : Nat)
    (he : f.isElement e = true) :
    (∀ entry, k.matches entry = true → (f.mapInsert k e entry).1.Inv) ∧
    (∀ key, (f.mapRemove k e key).1.Inv) ∧ (f.mapClear k e).1.Inv ∧
    (∀ nd v, f.isRoot nd = true → f.value? nd = some v → k.matches v = true →
      (f.appendEntryNode k e nd).1.Inv) ∧
    (∀ hd, hd ∈ absNodes k f e → (f.detach hd).1.Inv) :=
  ⟨fun entry hm => Forest.mapInsert_inv hi k e entry hm, fun key => Forest.mapRemove_inv hi k e key,
    Forest.mapClear_inv hi k e, fun nd _ _ _ _ => Forest.appendEntryNode_inv hi k e nd,
    fun hd _ => Forest.detach_inv hi hd⟩

/-! ### The entry API (nodemap/entry.rs, modelled in Model/FmapEntry.lean) and `get_mut` -/

/-- `entry(key).or_insert(default)` / `or_insert_with` / `or_default`: an occupied entry is left
    alone, a vacant one is inserted last; never panics (the `unwrap`s inside are safe). -/
theorem C11_entry_or_insert (f : Forest) (hi : f.Inv) (k : Forest.MapKind) (e : Nat) (default : Value)
    (he : f.isElement e = true) (hm : k.matches default = true) :
    abs k (f.entryOrInsert k e default).1 e =
      (if omContainsKey (abs k f e) (Forest.entryKey default) then abs k f e
       else omInsert (abs k f e) (Forest.entryKey default) (payloadOf default)) ∧
    (f.entryOrInsert k e default).2 = .ok ∧
    (∀ k', k' ≠ k → abs k' (f.entryOrInsert k e default).1 e = abs k' f e) := by
  obtain ⟨hok, t⟩ := touch_entryOrInsert hi k e default he hm
  exact ⟨t.same, hok, fun _ hk => t.abs_other hk⟩

theorem C11_entry_or_default (f : Forest) (hi : f.Inv) (e name : Nat) (he : f.isElement e = true) :
    abs .attributes (f.entryOrDefault e name).1 e =
      (if omContainsKey (abs .attributes f e) name then abs .attributes f e
       else omInsert (abs .attributes f e) name (.str [])) ∧
    (f.entryOrDefault e name).2 = .ok :=
  let r := C11_entry_or_insert f hi .attributes e (.attribute name []) he rfl
  ⟨r.1, r.2.1⟩

/-- `entry(key).and_modify(g)`: the stored value is rewritten in place, a vacant entry is left. -/
theorem C11_entry_and_modify (f : Forest) (hi : f.Inv) (k : Forest.MapKind) (e key : Nat)
    (g : Value → Value) (he : f.isElement e = true)
    (hg : ∀ v, k.matches v = true → k.matches (g v) = true) :
    abs k (f.entryAndModify k e key g).1 e =
      omModify (abs k f e) key (fun p => payloadOf (g (mkEntry k key p))) ∧
    (f.entryAndModify k e key g).2.1 = .ok ∧
    (∀ k', k' ≠ k → abs k' (f.entryAndModify k e key g).1 e = abs k' f e) := by
  obtain ⟨hok, t⟩ := touch_entryAndModify hi k e key g he hg
  exact ⟨t.same, hok, fun _ hk => t.abs_other hk⟩

/-- `entry(key).and_modify(g).or_insert(default)`. -/
theorem C11_entry_and_modify_or_insert (f : Forest) (hi : f.Inv) (k : Forest.MapKind) (e : Nat)
    (default : Value) (g : Value → Value) (he : f.isElement e = true)
    (hm : k.matches default = true) (hg : ∀ v, k.matches v = true → k.matches (g v) = true) :
    (f.entryAndModifyOrInsert k e default g).2 = .ok ∧
    abs k (f.entryAndModifyOrInsert k e default g).1 e =
      (if omContainsKey (abs k f e) (Forest.entryKey default)
       then omModify (abs k f e) (Forest.entryKey default)
              (fun p => payloadOf (g (mkEntry k (Forest.entryKey default) p)))
       else omInsert (abs k f e) (Forest.entryKey default) (payloadOf default)) ∧
    (∀ k', k' ≠ k → abs k' (f.entryAndModifyOrInsert k e default g).1 e = abs k' f e) := by
  obtain ⟨hok, t⟩ := touch_entryAndModifyOrInsert hi k e default g he hm hg
  exact ⟨hok, t.same, fun _ hk => t.abs_other hk⟩

/-- `match entry(key) { Occupied(o) => o.insert(v), Vacant(va) => va.insert(v) }` is `omInsert`;
    `if let Occupied(o) = entry(key) { o.remove() }` is `omRemove`; neither `unwrap` panics. -/
theorem C11_entry_insert_remove (f : Forest) (hi : f.Inv) (k : Forest.MapKind) (e : Nat)
    (he : f.isElement e = true) :
    (∀ entry, k.matches entry = true →
      abs k (f.entryInsert k e entry).1 e = omInsert (abs k f e) (Forest.entryKey entry) (payloadOf entry) ∧
      (f.entryInsert k e entry).2 = .ok) ∧
    (∀ key, abs k (f.entryRemove k e key).1 e = omRemove (abs k f e) key ∧
      (f.entryRemove k e key).2 = .ok) := by
  constructor
  · intro entry hm
    obtain ⟨hok, t⟩ := touch_entryInsert hi k e entry he hm
    exact ⟨t.same, hok⟩
  · intro key
    obtain ⟨hok, t⟩ := touch_entryRemove hi k e key he
    exact ⟨t.same, hok⟩

/-- `get_mut(key)` and a write through the reference: the stored value changes in place; `None`
    exactly when the key is absent. -/
theorem C11_get_mut (f : Forest) (hi : f.Inv) (k : Forest.MapKind) (e key : Nat) (new : Value)
    (he : f.isElement e = true) (hm : k.matches new = true) :
    abs k (f.mapGetMutSet k e key new).1 e = omModify (abs k f e) key (fun _ => payloadOf new) ∧
    (f.mapGetMutSet k e key new).2.1 = .ok ∧
    (f.mapGetMutSet k e key new).2.2 = omContainsKey (abs k f e) key ∧
    (∀ k', k' ≠ k → abs k' (f.mapGetMutSet k e key new).1 e = abs k' f e) := by
  obtain ⟨hok, t⟩ := touch_getMutSet hi k e key new he hm
  exact ⟨t.same, hok, (mapGetMutSet_found f k e key new he).trans (containsKey_eq f k e key),
    fun _ hk => t.abs_other hk⟩

/-- The entry API in one statement (the conjunction of the theorems above): every entry-API call
    on a live element of a forest satisfying the invariant returns normally and has its
    reference-map meaning. -/
theorem C11_entry_api (f : Forest) (hi : f.Inv) (k : Forest.MapKind) (e : Nat)
    (he : f.isElement e = true) :
    (∀ d, k.matches d = true →
      (f.entryOrInsert k e d).2 = .ok ∧
      abs k (f.entryOrInsert k e d).1 e =
        (if omContainsKey (abs k f e) (Forest.entryKey d) then abs k f e
         else omInsert (abs k f e) (Forest.entryKey d) (payloadOf d))) ∧
    (∀ key g, (∀ v, k.matches v = true → k.matches (g v) = true) →
      (f.entryAndModify k e key g).2.1 = .ok ∧
      abs k (f.entryAndModify k e key g).1 e =
        omModify (abs k f e) key (fun p => payloadOf (g (mkEntry k key p)))) ∧
    (∀ v, k.matches v = true →
      (f.entryInsert k e v).2 = .ok ∧
      abs k (f.entryInsert k e v).1 e = omInsert (abs k f e) (Forest.entryKey v) (payloadOf v)) ∧
    (∀ key, (f.entryRemove k e key).2 = .ok ∧
      abs k (f.entryRemove k e key).1 e = omRemove (abs k f e) key) :=
  ⟨fun d hm => let r := C11_entry_or_insert f hi k e d he hm; ⟨r.2.1, r.1⟩,
   fun key g hg => let r := C11_entry_and_modify f hi k e key g he hg; ⟨r.2.1, r.1⟩,
   fun v hm => let r := (C11_entry_insert_remove f hi k e he).1 v hm; ⟨r.2, r.1⟩,
   fun key => let r := (C11_entry_insert_remove f hi k e he).2 key; ⟨r.2, r.1⟩⟩

/-- `entry(key).or_insert_with(call)` IS `entry(key).or_insert(call())` (same forest, same outcome,
    no hypothesis), except that the closure is only evaluated for a vacant entry: the flag says
    whether it ran.  (`call ()` is the entry value `A::create(key, call())`, so its key is `key`.) -/
theorem C11_entry_or_insert_with_eq (f : Forest) (k : Forest.MapKind) (e key : Nat)
    (call : Unit → Value) (hk : Forest.entryKey (call ()) = key) :
    (f.entryOrInsertWith k e key call).1 = (f.entryOrInsert k e (call ())).1 ∧
    (f.entryOrInsertWith k e key call).2.1 = (f.entryOrInsert k e (call ())).2 ∧
    (f.entryOrInsertWith k e key call).2.2 =
      (f.isElement e && !(f.mapGetNode k e key).isSome) := by
  unfold Forest.entryOrInsertWith Forest.entryOrInsert
  rw [hk]
  cases he : f.isElement e
  · simp
  · simp only [Bool.not_true, Bool.false_eq_true, if_false, Bool.true_and]
    unfold Forest.mapEntry Forest.mapGet
    cases hn : f.mapGetNode k e key <;> simp

/-- The reference-map meaning of `or_insert_with`: an occupied entry is left alone and the closure
    does not run; a vacant one receives the closure's value, last; no panic; the `&mut V` handed
    back refers to the value now stored under the key (the old one, or the closure's). -/
theorem C11_entry_or_insert_with (f : Forest) (hi : f.Inv) (k : Forest.MapKind) (e key : Nat)
    (call : Unit → Value) (he : f.isElement e = true) (hk : Forest.entryKey (call ()) = key)
    (hm : k.matches (call ()) = true) :
    abs k (f.entryOrInsertWith k e key call).1 e =
      (if omContainsKey (abs k f e) key then abs k f e
       else omInsert (abs k f e) key (payloadOf (call ()))) ∧
    (f.entryOrInsertWith k e key call).2.1 = .ok ∧
    (f.entryOrInsertWith k e key call).2.2 = !omContainsKey (abs k f e) key ∧
    omGet (abs k (f.entryOrInsertWith k e key call).1 e) key =
      (omGet (abs k f e) key).or (some (payloadOf (call ()))) ∧
    (∀ k', k' ≠ k → abs k' (f.entryOrInsertWith k e key call).1 e = abs k' f e) := by
  obtain ⟨h1, h2, h3⟩ := C11_entry_or_insert_with_eq f k e key call hk
  obtain ⟨r1, r2, r3⟩ := C11_entry_or_insert f hi k e (call ()) he hm
  rw [hk] at r1
  have hc : (f.mapGetNode k e key).isSome = omContainsKey (abs k f e) key := containsKey_eq f k e key
  refine ⟨by rw [h1]; exact r1, by rw [h2]; exact r2, by rw [h3, he, hc]; rfl, ?_, ?_⟩
  · rw [h1, r1]
    cases hg : omGet (abs k f e) key with
    | some p => simp [omContainsKey, hg]
    | none => simp [omContainsKey, hg, omGet_insert_self]
  · intro k' hk'; rw [h1]; exact r3 k' hk'

/-- `if let Occupied(o) = entry(key) { *o.into_mut() = v }` IS `if let Some(x) = get_mut(key)
    { *x = v }` (no hypothesis): `into_mut` is `get_mut(key).unwrap()` behind a successful `get`. -/
theorem C11_entry_into_mut_eq (f : Forest) (k : Forest.MapKind) (e key : Nat) (new : Value) :
    f.occupiedIntoMutSet k e key new = f.mapGetMutSet k e key new := by
  unfold Forest.occupiedIntoMutSet Forest.mapGetMutSet Forest.mapEntry Forest.mapGet
  cases f.isElement e
  · simp
  · cases hn : f.mapGetNode k e key <;> simp [hn]

/-- The reference-map meaning of `OccupiedEntry::into_mut` and a write through it: the stored
    value changes in place, nothing happens on a vacant entry, the `unwrap` never panics. -/
theorem C11_entry_into_mut (f : Forest) (hi : f.Inv) (k : Forest.MapKind) (e key : Nat) (new : Value)
    (he : f.isElement e = true) (hm : k.matches new = true) :
    abs k (f.occupiedIntoMutSet k e key new).1 e = omModify (abs k f e) key (fun _ => payloadOf new) ∧
    (f.occupiedIntoMutSet k e key new).2.1 = .ok ∧
    (f.occupiedIntoMutSet k e key new).2.2 = omContainsKey (abs k f e) key ∧
    (∀ k', k' ≠ k → abs k' (f.occupiedIntoMutSet k e key new).1 e = abs k' f e) := by
  rw [C11_entry_into_mut_eq]
  exact C11_get_mut f hi k e key new he hm

/-- The read accessors of the entry API.  `entry(key)` is `Occupied` exactly when the reference map
    contains the key, `Vacant` otherwise, and carries that key (`Entry::key`, `OccupiedEntry::key`,
    `VacantEntry::key`); on an occupied entry `get` / `get_mut` / `into_mut` (`get…(key).unwrap()`) do
    not panic and see the reference value.  No hypothesis. -/
theorem C11_entry_key_get (f : Forest) (k : Forest.MapKind) (e key : Nat) :
    (f.mapEntry k e key = (if omContainsKey (abs k f e) key then .occupied key else .vacant key)) ∧
    (omContainsKey (abs k f e) key = true →
      f.occGetMut k e key = .ok ∧ (f.mapGet k e key).map payloadOf = omGet (abs k f e) key) := by
  have hc := containsKey_eq f k e key
  have hg := get_eq f k e key
  unfold Forest.mapEntry Forest.occGetMut Forest.mapGet
  rw [← hc, ← hg]
  cases hn : f.mapGetNode k e key <;> simp

/-! ### Serialisation order -/

/-- What the serialisers iterate for an element (`gen_outputs`: `xot.namespaces(node)` then
    `xot.attributes(node)`, i.e. `Tree.nsDecls` / `Tree.attrs` of the erased element) lists
    exactly the two views, in `abs` order. -/
theorem C11_order (f : Forest) (e : Nat) (t : HTree) (h : f.get? e = some t) :
    (HTree.erase t).nsDecls = absNs f e ∧ (HTree.erase t).attrs = absAttrs f e := by
  unfold absNs absAttrs Fmap.abs
  rw [h]
  exact ⟨nsDecls_erase t, attrs_erase t⟩

/-- The accessor shortcuts of access.rs.  `get_attribute(n, name)` is `attributes(n).get(name)`,
    `get_namespace(n, prefix)` is `namespaces(n).get(prefix)`, `namespace_declarations(n)` is
    `namespaces(n).iter()` collected: for a forest element whose erasure sits at path `p` of a
    tree `T`, they are the lookups in / the list of the reference views (`absAttrs`, `absNs`). -/
theorem C11_get_attribute (f : Forest) (e : Nat) (t : HTree) (h : f.get? e = some t)
    (T : Tree) (p : Path) (hrel : T.at? p = some (HTree.erase t)) (name pfx : Nat) :
    Axes.getAttribute T p name = (absAttrs f e).lookup name ∧
    Axes.getNamespace T p pfx = (absNs f e).lookup pfx ∧
    Axes.namespaceDeclarations T p = absNs f e := by
  obtain ⟨hn, ha⟩ := C11_order f e t h
  have hs : Axes.subAt T p = HTree.erase t := by simp [Axes.subAt, hrel]
  simp [Axes.getAttribute, Axes.getNamespace, Axes.namespaceDeclarations, Tree.getAttribute,
    Tree.getNamespace, hs, hn, ha]

/-! ### Non-vacuity -/

/-- A concrete forest: a document with an element carrying one declaration, two attributes and
    a text, plus a detached attribute node and a detached namespace node. -/
def c11Example : Forest :=
  { roots := [.node 0 .document [.node 1 (.element 2)
      [.node 2 (.namespace 0 2) [], .node 3 (.attribute 3 ['v']) [], .node 4 (.attribute 5 ['w']) [],
       .node 5 (.text ['x']) []]], .node 6 (.attribute 3 ['n']) [], .node 7 (.namespace 1 3) []],
    next := 8 }

example : c11Example.Inv ∧ c11Example.isElement 1 = true ∧
    c11Example.isRoot 6 = true ∧ c11Example.value? 6 = some (.attribute 3 ['n']) :=
  ⟨(Forest.inv_iff _).mp (by decide +kernel), by decide +kernel, by decide +kernel, by decide +kernel⟩

/-- Two elements, for the move. -/
def c11Example2 : Forest :=
  { roots := [.node 0 .document [.node 1 (.element 2)
      [.node 2 (.attribute 3 ['v']) [], .node 3 (.element 4) [.node 4 (.attribute 5 ['w']) []]]]],
    next := 5 }

example : c11Example2.Inv ∧ c11Example2.isElement 1 = true ∧ c11Example2.isElement 3 = true ∧
    2 ∈ absNodes .attributes c11Example2 1 ∧
    abs .attributes (c11Example2.appendEntryNode .attributes 3 2).1 3 = [(5, .str ['w']), (3, .str ['v'])] ∧
    abs .attributes (c11Example2.appendEntryNode .attributes 3 2).1 1 = [] :=
  ⟨(Forest.inv_iff _).mp (by decide +kernel), by decide +kernel, by decide +kernel, by decide +kernel, by decide +kernel, by decide +kernel⟩

example : 3 ∈ absNodes .attributes c11Example 1 ∧ 2 ∈ absNodes .namespaces c11Example 1 := by decide +kernel

/-- `or_insert_with` on an occupied key (closure not run, value kept) and on a vacant one (closure
    run, entry last); `into_mut` on an occupied key (written through) and on a vacant one. -/
example :
    (c11Example.entryOrInsertWith .attributes 1 3 (fun _ => .attribute 3 ['z'])).2 = (.ok, false) ∧
    abs .attributes (c11Example.entryOrInsertWith .attributes 1 3 (fun _ => .attribute 3 ['z'])).1 1 =
      [(3, .str ['v']), (5, .str ['w'])] ∧
    (c11Example.entryOrInsertWith .attributes 1 9 (fun _ => .attribute 9 ['z'])).2 = (.ok, true) ∧
    abs .attributes (c11Example.entryOrInsertWith .attributes 1 9 (fun _ => .attribute 9 ['z'])).1 1 =
      [(3, .str ['v']), (5, .str ['w']), (9, .str ['z'])] ∧
    (c11Example.occupiedIntoMutSet .namespaces 1 0 (.namespace 0 4)).2 = (.ok, true) ∧
    abs .namespaces (c11Example.occupiedIntoMutSet .namespaces 1 0 (.namespace 0 4)).1 1 = [(0, .ns 4)] ∧
    (c11Example.occupiedIntoMutSet .namespaces 1 1 (.namespace 1 4)).2 = (.ok, false) ∧
    abs .namespaces (c11Example.occupiedIntoMutSet .namespaces 1 1 (.namespace 1 4)).1 1 = [(0, .ns 2)] := by
  decide +kernel

example : abs .attributes c11Example 1 = [(3, .str ['v']), (5, .str ['w'])] ∧
    abs .attributes (c11Example.mapInsert .attributes 1 (.attribute 3 ['z'])).1 1 =
      [(3, .str ['z']), (5, .str ['w'])] ∧
    abs .attributes (c11Example.appendEntryNode .attributes 1 6).1 1 =
      [(3, .str ['n']), (5, .str ['w'])] ∧
    abs .namespaces (c11Example.appendEntryNode .namespaces 1 7).1 1 = [(0, .ns 2), (1, .ns 3)] ∧
    (runOps 1 c11Example [.insert .attributes (.attribute 9 []), .remove .attributes 3,
      .insertNode .namespaces (.namespace 0 5), .clear .attributes]).2 = [.ok, .ok, .ok, .ok] := by
  decide +kernel

/-! ## Histories of ALL the updates, on a forest with several elements

  `MapOp2` (Model/FmapSpec2.lean) has one constructor per update the property lists: the
  map-style calls `insert`, `remove`, `clear`, `get_mut` + assignment, the entry API
  (`or_insert`, `or_default`, `and_modify`, `and_modify(..).or_insert`, the `match` on the entry
  with `insert` in both arms, `Occupied::insert`, `Vacant::insert`, `Occupied::remove`), the
  wrappers `set_attribute` / `remove_attribute` / `set_namespace` / `remove_namespace`, and the
  node-style calls `append_attribute_node` / `append_namespace_node` of a new node, of a
  parentless node, of a node that already is an entry of the view, of an entry node of ANOTHER
  element (the move), `any_append` of each of these, `detach` and `remove` of an entry node.
  Each names the element it is addressed to; `MapOp2.ok f op` are the side conditions (live
  elements, entry values of the view's kind, node arguments being what the constructor says),
  evaluated in the state the step starts from.  The reference is a family of ordered maps indexed
  by element and view (`Fam`, `specStep`). -/

/-- One step, every update: it returns `ok`, the invariant holds again, EVERY view of EVERY node
    is the reference family's after `specStep`, elements stay elements (and nothing becomes one),
    and the (key, node) list of every view changes by `KNStep` only. -/
theorem C11_step_all (f : Forest) (hi : f.Inv) (F : Fam) (hF : ∀ x k, abs k f x = F x k)
    (op : MapOp2) (hok : op.ok f = true) :
    (op.run f).2 = .ok ∧ (op.run f).1.Inv ∧
    (∀ x k, abs k (op.run f).1 x = specStep F op x k) ∧
    (∀ x, (op.run f).1.isElement x = f.isElement x) ∧
    (∀ x k, KNStep (absKN k f x) (absKN k (op.run f).1 x)) := by
  obtain ⟨r, s⟩ := step_all hi hF op hok
  exact ⟨r, s.inv, s.agree, s.elem, s.kn⟩

/-- Histories: any interleaving of the updates of `MapOp2`, addressed to any live elements of
    the forest, whose side conditions hold when their turn comes.  No step fails or panics;
    afterwards both views of every node (in particular of every live element) are what the
    reference family gives; keys are distinct; the live elements are those of the start; the
    invariant holds in every state gone through, and consecutive states are `Stable` (every
    view's (key, node) list changes by `KNStep`). -/
theorem C11_histories_all (f : Forest) (hi : f.Inv) (ops : List MapOp2)
    (hok : (runOps2 f ops).2.2 = true) :
    (∀ r ∈ (runOps2 f ops).2.1, r = .ok) ∧
    (∀ e k, abs k (runOps2 f ops).1 e = specOps2 (famOf f) ops e k) ∧
    (∀ e k, omWf (abs k (runOps2 f ops).1 e)) ∧
    (∀ e, (runOps2 f ops).1.isElement e = f.isElement e) ∧
    (runOps2 f ops).1.Inv ∧
    (∀ g ∈ trace2 f ops, g.Inv) ∧ StableTrace (trace2 f ops) := by
  obtain ⟨h1, h2, h3, h4, h5, h6⟩ := history_all ops f (famOf f) hi (fun _ _ => rfl) hok
  exact ⟨h1, h3, fun e k => unique_keys_of_inv _ h2 k e, h4, h2, h5, h6⟩

/-- `absKN` pairs the keys of `abs` with the nodes of `absNodes`. -/
theorem C11_kn_views (f : Forest) (k : Forest.MapKind) (x : Nat) :
    (absKN k f x).map (·.1) = omKeys (abs k f x) ∧ (absKN k f x).map (·.2) = absNodes k f x :=
  ⟨absKN_fst k f x, absKN_snd k f x⟩

/-- Positions and nodes over one step, for every view of every node.  The (key, node) list
    afterwards is a sublist of the one before, or the one before with one new pair at the end.
    Hence: a step that keeps the key list (an update of existing keys) keeps the handle list; an
    entry whose key survives keeps its node; two entries that survive keep their relative
    order. -/
theorem C11_positions_stable (f : Forest) (hi : f.Inv) (op : MapOp2) (hok : op.ok f = true)
    (x : Nat) (k : Forest.MapKind) :
    KNStep (absKN k f x) (absKN k (op.run f).1 x) ∧
    (omKeys (abs k (op.run f).1 x) = omKeys (abs k f x) →
      absNodes k (op.run f).1 x = absNodes k f x) ∧
    (∀ key hd, (key, hd) ∈ absKN k f x → key ∈ omKeys (abs k (op.run f).1 x) →
      (key, hd) ∈ absKN k (op.run f).1 x) ∧
    (∀ p q, p ∈ absKN k f x → q ∈ absKN k f x → p ∈ absKN k (op.run f).1 x →
      q ∈ absKN k (op.run f).1 x →
      ([p, q].Sublist (absKN k f x) ↔ [p, q].Sublist (absKN k (op.run f).1 x))) :=
  positions_stable f hi op hok x k

/-- Positions over a history: two entries (key with its node) that are in the view in every
    state the history goes through — never removed, cleared, detached or moved away — have the
    same relative order at the end as at the start (with `C11_positions_stable`: the same nodes). -/
theorem C11_positions_history (f : Forest) (hi : f.Inv) (ops : List MapOp2)
    (hok : (runOps2 f ops).2.2 = true) (x : Nat) (k : Forest.MapKind) (p q : Nat × Nat)
    (hall : ∀ g ∈ trace2 f ops, p ∈ absKN k g x ∧ q ∈ absKN k g x) :
    [p, q].Sublist (absKN k f x) ↔ [p, q].Sublist (absKN k (runOps2 f ops).1 x) :=
  positions_history f hi ops hok x k p q hall

/-- Nodes over a history: an entry whose key is in the view in every state the history goes
    through (it may be updated, never removed, cleared, detached or moved away) is carried by the
    same node in every state, in particular at the end. -/
theorem C11_history_keeps_node (f : Forest) (hi : f.Inv) (ops : List MapOp2)
    (hok : (runOps2 f ops).2.2 = true) (x : Nat) (k : Forest.MapKind) (key hd : Nat)
    (h0 : (key, hd) ∈ absKN k f x) (hall : ∀ g ∈ trace2 f ops, key ∈ omKeys (abs k g x)) :
    (∀ g ∈ trace2 f ops, (key, hd) ∈ absKN k g x) ∧ (key, hd) ∈ absKN k (runOps2 f ops).1 x :=
  ⟨history_keeps_node f hi ops hok x k key hd h0 hall,
    history_keeps_node f hi ops hok x k key hd h0 hall _ (trace2_last ops f)⟩

/-! ### The remaining reads -/

/-- `iter()` yields the reference map's entries in order, i.e. `keys()` zipped with `values()`;
    `to_vec()` is that list; `to_hashmap()` is the reference's (no hypothesis). -/
theorem C11_reads_iter (f : Forest) (k : Forest.MapKind) (e : Nat) :
    mapIter f k e = abs k f e ∧
    mapIter f k e = (omKeys (abs k f e)).zip (omValues (abs k f e)) ∧
    mapToVec f k e = abs k f e ∧
    mapToHashmap f k e = omToHashmap (abs k f e) :=
  ⟨mapIter_eq f k e, mapIter_zip f k e, mapIter_eq f k e, mapToHashmap_eq f k e⟩

/-- `to_hashmap()` under the invariant IS the reference map as a finite map: shown as the
    key-sorted list, it has strictly increasing keys, the reference's lookup for every key, and
    the reference's size. -/
theorem C11_to_hashmap (f : Forest) (hi : f.Inv) (k : Forest.MapKind) (e : Nat) :
    SortedKeys (mapToHashmap f k e) ∧
    (∀ key, (mapToHashmap f k e).lookup key = omGet (abs k f e) key) ∧
    (mapToHashmap f k e).length = omLen (abs k f e) := by
  rw [mapToHashmap_eq]
  exact omToHashmap_spec _ (unique_keys_of_inv f hi k e)

/-! ### Serialisation order, down to the tokens -/

/-- Every live node of the forest is at some path of the erasure of its tree, so the next theorem
    applies to every live element (with `start = []`, or `start` = any ancestor's path). -/
theorem C11_serialisation_applies (f : Forest) (e : Nat) (t : HTree) (hg : f.get? e = some t) :
    ∃ r ∈ f.roots, ∃ p, (HTree.erase r).at? p = some (HTree.erase t) := by
  obtain ⟨r, hr, hf⟩ := fc_findList?_root e f.roots t hg
  obtain ⟨p, hp⟩ := erase_at_of_find e r t hf
  exact ⟨r, hr, p, hp⟩

/-- Serialisation writes declarations and attributes in view order.  Let the element `e` of the
    forest sit at the path `start ++ rel` of a tree `T` that is serialised from `start`.  In the
    event stream of `gen_outputs` its start tag is one contiguous block: start-tag-open, (if it is
    the top node) the inherited declarations, its declarations in the order of `abs .namespaces`,
    its attributes in the order of `abs .attributes`, start-tag-close (C16_events_element with
    C11_order).  The token stream carries exactly these events in this order, so it has the
    declaration tokens followed by the attribute tokens as one contiguous run, and the string
    serialisation (`to_string`) is the concatenation of the token texts (C16_tokens). -/
theorem C11_serialisation_order (f : Forest) (e name : Nat) (t : HTree) (hg : f.get? e = some t)
    (hv : t.value = .element name) (T : Tree) (start rel : Path) (n : Tree)
    (inScope : List (Nat × Nat)) (hn : T.at? start = some n)
    (hs : namespacesInScope T start = some inScope) (hrel : n.at? rel = some (HTree.erase t)) :
    (∃ pre post, genOutputs T start =
      pre ++ [(start ++ rel, Output.startTagOpen name)]
        ++ (if rel.isEmpty then extraPrefixes inScope (HTree.erase t) else []).map
            (fun o => (start ++ rel, o))
        ++ (absNs f e).map (fun d => (start ++ rel, Output.pfx d.1 d.2))
        ++ (absAttrs f e).map (fun a => (start ++ rel, Output.attribute a.1 a.2))
        ++ [(start ++ rel, Output.startTagClose)] ++ post) ∧
    ∀ (esc : Escapers) (env : Env) (pr : TokenParams) (ks : List (Path × Output × OutputToken)),
      tokensWith esc env pr T start = .ok ks →
      (∃ k1 kd ka k2, ks = k1 ++ kd ++ ka ++ k2 ∧
        kd.map (fun k => (k.1, k.2.1)) = (absNs f e).map (fun d => (start ++ rel, Output.pfx d.1 d.2)) ∧
        ka.map (fun k => (k.1, k.2.1)) =
          (absAttrs f e).map (fun a => (start ++ rel, Output.attribute a.1 a.2))) ∧
      serializeStringWith esc env pr T start =
        .ok (ks.flatMap (fun k => (if k.2.2.space then [' '] else []) ++ k.2.2.text)) :=
  serialisation_order f e name t hg hv T start rel n inScope hn hs hrel

/-! ### Non-vacuity of the history theorems -/

/-- Two elements (1 and its child 5), a parentless attribute node 8. -/
def c11Example3 : Forest :=
  { roots := [.node 0 .document [.node 1 (.element 2)
      [.node 2 (.namespace 0 2) [], .node 3 (.attribute 3 ['v']) [], .node 4 (.attribute 5 ['w']) [],
       .node 5 (.element 4) [.node 6 (.attribute 7 ['x']) []], .node 7 (.text ['t']) []]],
     .node 8 (.attribute 9 ['n']) []],
    next := 9 }

/-- A history with seven different constructors; the third step moves the attribute 5 of
    element 1 to element 5. -/
def c11HistoryA : List MapOp2 :=
  [.setAttribute 1 11 ['a'],
   .entryOrInsert .attributes 5 (.attribute 3 ['q']),
   .appendAttachedNode .attributes 5 1 5,
   .getMutSet .attributes 1 3 (.attribute 3 ['z']),
   .entryAndModify .attributes 5 7 (fun p => match p with | .str s => .str (s ++ ['!']) | p => p),
   .appendDetachedNode .attributes 1 8 (.attribute 9 ['n']),
   .detachEntryNode .namespaces 1 0]

/-- Seven other constructors; the first step moves the attribute 3 of element 1 to element 5
    through `any_append`. -/
def c11HistoryB : List MapOp2 :=
  [.anyAppend 5 (.entry .attributes 1 3),
   .removeEntryNode .attributes 5 7,
   .occupiedInsert .attributes 1 (.attribute 5 ['b']),
   .vacantInsert .namespaces 5 (.namespace 1 3),
   .appendNewNode .namespaces 1 (.namespace 4 4),
   .appendOwnNode .attributes 1 5,
   .clear .attributes 5]

example : c11Example3.Inv ∧ c11Example3.isElement 1 = true ∧ c11Example3.isElement 5 = true ∧
    MapOp2.ok c11Example3 (.appendAttachedNode .attributes 5 1 5) = true :=
  ⟨(Forest.inv_iff _).mp (by decide +kernel), by decide +kernel, by decide +kernel, by decide +kernel⟩

example : (runOps2 c11Example3 c11HistoryA).2 = ([.ok, .ok, .ok, .ok, .ok, .ok, .ok], true) := by
  decide +kernel

example : (runOps2 c11Example3 c11HistoryB).2 = ([.ok, .ok, .ok, .ok, .ok, .ok, .ok], true) := by
  decide +kernel

example : abs .attributes (runOps2 c11Example3 c11HistoryA).1 1 =
      [(3, .str ['z']), (11, .str ['a']), (9, .str ['n'])] ∧
    abs .namespaces (runOps2 c11Example3 c11HistoryA).1 1 = [] ∧
    abs .attributes (runOps2 c11Example3 c11HistoryA).1 5 =
      [(7, .str ['x', '!']), (3, .str ['q']), (5, .str ['w'])] ∧
    absKN .attributes (runOps2 c11Example3 c11HistoryA).1 5 = [(7, 6), (3, 10), (5, 4)] ∧
    absKN .attributes (runOps2 c11Example3 c11HistoryA).1 1 = [(3, 3), (11, 9), (9, 8)] := by
  decide +kernel

example : abs .attributes (runOps2 c11Example3 c11HistoryB).1 1 = [(5, .str ['b'])] ∧
    abs .namespaces (runOps2 c11Example3 c11HistoryB).1 1 = [(0, .ns 2), (4, .ns 4)] ∧
    abs .attributes (runOps2 c11Example3 c11HistoryB).1 5 = [] ∧
    abs .namespaces (runOps2 c11Example3 c11HistoryB).1 5 = [(1, .ns 3)] := by
  decide +kernel

/-- The hypotheses of `C11_positions_history`: the entries (3, node 3) and (5, node 4) of
    element 1 are there in every state of the first two steps. -/
example : ∀ g ∈ trace2 c11Example3 (c11HistoryA.take 2),
    (3, 3) ∈ absKN .attributes g 1 ∧ (5, 4) ∈ absKN .attributes g 1 := by
  decide +kernel

/-- The hypotheses of `C11_history_keeps_node`: key 3 of element 1, carried by node 3, is there in
    every state of history A (its value is rewritten by the fourth step). -/
example : (3, 3) ∈ absKN .attributes c11Example3 1 ∧
    ∀ g ∈ trace2 c11Example3 (c11HistoryA.take 5), 3 ∈ omKeys (abs .attributes g 1) := by
  decide +kernel

/-- The hypotheses of `C11_serialisation_order` on the example: element 1 at path `[0]` of the
    erased document, serialised from the document node. -/
example : ∃ t r, c11Example3.get? 1 = some t ∧ t.value = .element 2 ∧ r ∈ c11Example3.roots ∧
    (HTree.erase r).at? [] = some (HTree.erase r) ∧
    (namespacesInScope (HTree.erase r) []).isSome = true ∧
    (HTree.erase r).at? [0] = some (HTree.erase t) :=
  ⟨_, _, rfl, rfl, List.mem_cons_self, rfl, by decide +kernel, rfl⟩

/-! ## Histories with the values the calls RETURN, and the whole entry API as history steps

  `Ret` (Model/FmapRet.lean) is what a call hands back: `()`, an `Option<V>` (the old value of
  `insert` / `remove` / `OccupiedEntry::insert` / `remove`, the value behind a returned `&V` /
  `&mut V`), an `Option<Node>` (`get_node`, the node `append_*_node` / `any_append` return), a
  `bool`, a key.  `MapOp2.ret f op` is the value the update returns in the state `f`, obtained the
  way the Rust obtains it.  `MapCall` embeds `MapOp2` (`base`) and adds the remaining calls of
  nodemap/entry.rs as history steps — `or_insert_with`, `OccupiedEntry::into_mut` / `get_mut`
  (written through), `OccupiedEntry::get`, `Entry::key` / `OccupiedEntry::key` /
  `VacantEntry::key` — and the reads `get` / `get_node` / `contains_key`.  `MapCall.run` yields
  forest, outcome and returned value; the reference yields the family of ordered maps
  (`MapCall.spec`) and the returned value (`MapCall.specRet`).  Where a node is returned the
  reference says which one relative to the `NodeView` of the state the call starts in (node
  handles are identities of the forest): the carrier of the key if the reference map has the
  key, else the node passed in (`carrier`, `carrierOf`). -/

/-- One call: it returns `ok`, it returns WHAT THE REFERENCE RETURNS, the invariant holds again,
    every view of every node is the reference family's after the call, elements stay elements,
    every view's (key, node) list changes by `KNStep`. -/
theorem C11_step_returns (f : Forest) (hi : f.Inv) (F : Fam) (hF : ∀ x k, abs k f x = F x k)
    (c : MapCall) (hok : c.ok f = true) :
    (c.run f).2.1 = .ok ∧ (c.run f).2.2 = c.specRet F (nodeView f) ∧ (c.run f).1.Inv ∧
    (∀ x k, abs k (c.run f).1 x = c.spec F x k) ∧
    (∀ x, (c.run f).1.isElement x = f.isElement x) ∧
    (∀ x k, KNStep (absKN k f x) (absKN k (c.run f).1 x)) := by
  obtain ⟨r, hret, s⟩ := call_step hi hF c hok
  exact ⟨r, hret, s.inv, s.agree, s.elem, s.kn⟩

/-- Histories with returned values: any interleaving of the calls of `MapCall` — every update of
    `MapOp2`, every call of the entry API, the reads — addressed to any live elements, whose side
    conditions hold when their turn comes (the hypotheses of `C11_histories_all`).  No step fails
    or panics; EVERY STEP RETURNS WHAT THE REFERENCE MAP RETURNS (`specRets`: the old value of
    `insert` / `remove`, the value behind the `&mut V` of `or_insert` …, `Some` / `None` of
    `get_mut`, the node of `append_*_node`, …); afterwards both views of every node are the
    reference family's; keys are distinct; the live elements are those of the start; the
    invariant holds in every state gone through and consecutive states are `Stable`. -/
theorem C11_histories_returns (f : Forest) (hi : f.Inv) (cs : List MapCall)
    (hok : (runCalls f cs).2.2 = true) :
    (∀ r ∈ (runCalls f cs).2.1, r.1 = .ok) ∧
    (runCalls f cs).2.1.map (·.2) = specRets f (famOf f) cs ∧
    (∀ e k, abs k (runCalls f cs).1 e = specCalls (famOf f) cs e k) ∧
    (∀ e k, omWf (abs k (runCalls f cs).1 e)) ∧
    (∀ e, (runCalls f cs).1.isElement e = f.isElement e) ∧
    (runCalls f cs).1.Inv ∧
    (∀ g ∈ traceCalls f cs, g.Inv) ∧ StableTrace (traceCalls f cs) := by
  obtain ⟨h1, hr, h2, h3, h4, h5, h6⟩ := history_calls cs f (famOf f) hi (fun _ _ => rfl) hok
  exact ⟨h1, hr, h3, fun e k => unique_keys_of_inv _ h2 k e, h4, h2, h5, h6⟩

/-- `MapCall` extends `MapOp2`: a history of `MapOp2` IS the history of its `base` calls — same
    final forest, same outcomes, same side conditions, same states gone through, same reference
    family — so `C11_histories_returns` adds the returned values to `C11_histories_all`. -/
theorem C11_histories_returns_extends (f : Forest) (F : Fam) (ops : List MapOp2) :
    (runCalls f (ops.map .base)).1 = (runOps2 f ops).1 ∧
    (runCalls f (ops.map .base)).2.1.map (·.1) = (runOps2 f ops).2.1 ∧
    (runCalls f (ops.map .base)).2.2 = (runOps2 f ops).2.2 ∧
    traceCalls f (ops.map .base) = trace2 f ops ∧
    specCalls F (ops.map .base) = specOps2 F ops :=
  let r := runCalls_base ops f
  ⟨r.1, r.2.1, r.2.2.1, r.2.2.2, specCalls_base F ops⟩

/-- The reference returns in closed form.  The `&mut V` of `or_insert(d)` / `or_insert_with` /
    `or_default` refers to the old value if there is one, else to the default now stored; that of
    `and_modify(g).or_insert(d)` to the modified old value, else to the default; `insert` into
    the reference map makes a following lookup see the new value; a removed key is gone. -/
theorem C11_returns_closed (m : OMap Payload) (hw : omWf m) (k : Forest.MapKind) (d : Value)
    (g : Payload → Payload) :
    omGet (opOrInsert d m) (Forest.entryKey d) =
      some ((omGet m (Forest.entryKey d)).getD (payloadOf d)) ∧
    omGet (opModifyOrInsert k d g m) (Forest.entryKey d) =
      some (match omGet m (Forest.entryKey d) with
        | some p => modP k (Forest.entryKey d) g p
        | none => payloadOf d) ∧
    omGet (opInsert d m) (Forest.entryKey d) = some (payloadOf d) ∧
    omGet (omRemove m (Forest.entryKey d)) (Forest.entryKey d) = none := by
  refine ⟨?_, ?_, omGet_insert_self _ _ _, omGet_remove_self m _ hw⟩
  · unfold opOrInsert omContainsKey
    cases hg : omGet m (Forest.entryKey d) with
    | some p => simp [hg]
    | none => simp [opInsert, omGet_insert_self]
  · unfold opModifyOrInsert omContainsKey
    cases hg : omGet m (Forest.entryKey d) with
    | some p =>
      simp only [Option.isSome_some, if_true]
      rw [omModify_of_get_some m _ _ p hg, omGet_insert_self]
    | none => simp [opInsert, omGet_insert_self]

/-! ### Non-vacuity of the histories with returned values -/

/-- Twelve calls on `c11Example3`: map-style updates with their old values, `or_insert_with` on an
    occupied and on a vacant key, a parentless node appended where its key already exists (the
    carrier is returned, not the node), the move of an attribute node of element 1 to element 5
    (the node itself is returned), `into_mut`, `get`, `key`, `get_node`, `contains_key`. -/
def c11CallsA : List MapCall :=
  [.base (.insert .attributes 1 (.attribute 3 ['q'])),
   .base (.remove .attributes 1 5),
   .base (.remove .attributes 1 5),
   .entryOrInsertWith .attributes 5 7 (fun _ => .attribute 7 ['c']),
   .entryOrInsertWith .attributes 5 9 (fun _ => .attribute 9 ['c']),
   .base (.appendDetachedNode .attributes 5 8 (.attribute 9 ['n'])),
   .base (.appendAttachedNode .attributes 5 1 3),
   .occupiedIntoMutSet .namespaces 1 0 (.namespace 0 4),
   .peekKey .namespaces 1 7,
   .occupiedGet .namespaces 1 0,
   .getNode .attributes 5 3,
   .containsKey .attributes 1 3]

/-- What the model returns along `c11CallsA`; every side condition holds. -/
example : (runCalls c11Example3 c11CallsA).2 =
    ([(.ok, .value (some (.str ['v']))), (.ok, .value (some (.str ['w']))), (.ok, .value none),
      (.ok, .value (some (.str ['x']))), (.ok, .value (some (.str ['c']))), (.ok, .node (some 9)),
      (.ok, .node (some 3)), (.ok, .value (some (.ns 2))), (.ok, .key 7),
      (.ok, .value (some (.ns 4))), (.ok, .node (some 3)), (.ok, .bool false)], true) := by
  decide +kernel

/-- What the reference returns along `c11CallsA`. -/
example : specRets c11Example3 (famOf c11Example3) c11CallsA =
    [.value (some (.str ['v'])), .value (some (.str ['w'])), .value none,
     .value (some (.str ['x'])), .value (some (.str ['c'])), .node (some 9), .node (some 3),
     .value (some (.ns 2)), .key 7, .value (some (.ns 4)), .node (some 3), .bool false] := by
  decide +kernel

example : abs .attributes (runCalls c11Example3 c11CallsA).1 1 = [] ∧
    abs .attributes (runCalls c11Example3 c11CallsA).1 5 =
      [(7, .str ['x']), (9, .str ['n']), (3, .str ['q'])] ∧
    absKN .attributes (runCalls c11Example3 c11CallsA).1 5 = [(7, 6), (9, 9), (3, 3)] ∧
    abs .namespaces (runCalls c11Example3 c11CallsA).1 1 = [(0, .ns 4)] := by
  decide +kernel

/-- The entry updates of `MapOp2` with their returned values: `or_insert` (vacant: the default),
    `and_modify` (occupied), `and_modify(..).or_insert` (occupied: the modified value),
    `Occupied::insert` (old value), `Vacant::insert` on an occupied key (`None`), `Occupied::remove`,
    `get_mut`, a new node appended where the key is absent (the new node, handle 9, is returned). -/
example : (runCalls c11Example3
    [.base (.entryOrInsert .attributes 1 (.attribute 11 ['d'])),
     .base (.entryAndModify .attributes 1 11 (fun _ => .str ['e'])),
     .base (.entryAndModifyOrInsert .attributes 1 (.attribute 11 ['z']) (fun _ => .str ['f'])),
     .base (.occupiedInsert .attributes 1 (.attribute 11 ['g'])),
     .base (.vacantInsert .attributes 1 (.attribute 11 ['h'])),
     .base (.entryRemove .attributes 1 11),
     .base (.getMutSet .namespaces 1 3 (.namespace 3 4)),
     .base (.appendNewNode .namespaces 5 (.namespace 1 3)),
     .base (.clear .attributes 1)]).2 =
    ([(.ok, .value (some (.str ['d']))), (.ok, .bool true), (.ok, .value (some (.str ['f']))),
      (.ok, .value (some (.str ['f']))), (.ok, .value none), (.ok, .value (some (.str ['g']))),
      (.ok, .value none), (.ok, .node (some 10)), (.ok, .unit)], true) := by
  decide +kernel

/-! ## The nodes that carry the entries, exactly

  `NFam` (Model/FmapNodes.lean) is the reference's bookkeeping of WHICH NODE carries which key:
  for every element and view the (key, node) list in order.  It follows the reference maps
  (`knFollow`): after a call the list is the key list of the reference map, each key with the
  node that carried it before, a key that was not there with the node the call GIVES
  (`MapCall.given`: the parentless node passed in, the entry node of the other element, which
  moves, or the node made on the spot, whose handle is the reference's own fresh-handle counter).
  So the reference runs on its own (`RefState`, `refRun`) and returns nodes itself. -/

/-- One call, every view of every node: the (key, node) list afterwards is exactly the
    reference's — the reference map's keys in order, every key that was there carried by the same
    node, a new key by the node the call gives.  In particular every key of the view afterwards
    has its carrier in the view. -/
theorem C11_step_nodes (f : Forest) (hi : f.Inv) (F : Fam) (hF : ∀ x k, abs k f x = F x k)
    (c : MapCall) (hok : c.ok f = true) (x : Nat) (k : Forest.MapKind) :
    absKN k (c.run f).1 x =
      knFollow (absKN k f x) (omKeys (c.spec F x k)) (c.given (nfamOf f) f.next) ∧
    (∀ key ∈ omKeys (c.spec F x k),
      (key, ((absKN k f x).lookup key).getD (c.given (nfamOf f) f.next)) ∈ absKN k (c.run f).1 x) ∧
    (∀ key, getN f k x key = (absKN k f x).lookup key) := by
  have h := call_nodes hi hF c hok x k
  refine ⟨h, ?_, fun key => getN_lookup f k x key⟩
  intro key hkey
  rw [h]
  exact List.mem_map.mpr ⟨key, hkey, rfl⟩

/-- One call on the reference state.  `RefState` = the family of ordered maps, the (key, node)
    lists, the fresh-handle counter; `refOf f` reads it off a forest.  A call whose side
    conditions hold takes the reference state of the forest to the reference state of the new
    forest (`MapCall.refStep`: maps by `MapCall.spec`, nodes by `knFollow`, the counter advanced by
    the number of nodes made), and returns what the reference returns from its own state
    (`MapCall.refRet`). -/
theorem C11_step_reference (f : Forest) (hi : f.Inv) (c : MapCall) (hok : c.ok f = true) :
    refOf (c.run f).1 = c.refStep (refOf f) ∧ (c.run f).2.2 = c.refRet (refOf f) ∧
    (c.run f).1.next = f.next + c.creates (famOf f) :=
  let r := refOf_step hi c hok
  ⟨r.1, r.2, (call_step hi (F := famOf f) (fun _ _ => rfl) c hok).2.2.next⟩

/-- Histories on the reference alone.  Run the history on the reference state of the start
    forest only (`refRun`: no forest is consulted): along every history of calls (the hypotheses
    of `C11_histories_returns`) the model returns, step by step, exactly what that run returns —
    old values, values behind references, NODES — and ends in a forest whose reference state is
    the run's final state: every view of every node (content and order), which node carries
    which key, and the next fresh handle. -/
theorem C11_histories_reference (f : Forest) (hi : f.Inv) (cs : List MapCall)
    (hok : (runCalls f cs).2.2 = true) :
    (runCalls f cs).2.1.map (·.2) = (refRun (refOf f) cs).1 ∧
    (∀ e k, abs k (runCalls f cs).1 e = (refRun (refOf f) cs).2.fam e k) ∧
    (∀ e k, absKN k (runCalls f cs).1 e = (refRun (refOf f) cs).2.nodes e k) ∧
    (runCalls f cs).1.next = (refRun (refOf f) cs).2.fresh := by
  obtain ⟨h1, h2⟩ := history_ref cs f hi hok
  refine ⟨h1, fun e k => ?_, fun e k => ?_, ?_⟩
  · exact congrFun (congrFun (congrArg RefState.fam h2) e) k
  · exact congrFun (congrFun (congrArg RefState.nodes h2) e) k
  · exact congrArg RefState.fresh h2

/-- `knFollow` on its own terms: the keys are the given key list; a key that was there keeps its
    node; a key that was not is carried by `given`. -/
theorem C11_knFollow (old : List (Nat × Nat)) (keys' : List Nat) (given : Nat) :
    (knFollow old keys' given).map (·.1) = keys' ∧
    (∀ key nd, key ∈ keys' → old.lookup key = some nd → (key, nd) ∈ knFollow old keys' given) ∧
    (∀ key, key ∈ keys' → old.lookup key = none → (key, given) ∈ knFollow old keys' given) := by
  unfold knFollow
  refine ⟨by rw [List.map_map]; exact List.map_id' _, ?_, ?_⟩
  · intro key nd hk hl
    exact List.mem_map.mpr ⟨key, hk, by rw [hl]; rfl⟩
  · intro key hk hl
    exact List.mem_map.mpr ⟨key, hk, by rw [hl]; rfl⟩

/-- The history `c11CallsA` run on the reference state of `c11Example3` alone: what it returns,
    nodes included, its node lists at the end, and its counter (one node was made: handle 9). -/
example : (refRun (refOf c11Example3) c11CallsA).1 =
    [.value (some (.str ['v'])), .value (some (.str ['w'])), .value none,
     .value (some (.str ['x'])), .value (some (.str ['c'])), .node (some 9), .node (some 3),
     .value (some (.ns 2)), .key 7, .value (some (.ns 4)), .node (some 3), .bool false] ∧
    (refRun (refOf c11Example3) c11CallsA).2.nodes 5 .attributes = [(7, 6), (9, 9), (3, 3)] ∧
    (refRun (refOf c11Example3) c11CallsA).2.nodes 1 .attributes = [] ∧
    (refRun (refOf c11Example3) c11CallsA).2.fam 5 .attributes =
      [(7, .str ['x']), (9, .str ['n']), (3, .str ['q'])] ∧
    (refRun (refOf c11Example3) c11CallsA).2.fresh = 10 := by
  decide +kernel

end XotModel.Props

/-! ## Interleavings: map updates interleaved with every other call

  The history theorems above (`C11_histories_all`, …) run map updates only.  `Fmap.MixStep`
  (Model/FmapMixSpec.lean) = a map update of `MapOp2` addressed to some element, OR any step of the full histories
  `PCall` (Model/FparseHist.lean): the parse of an ARBITRARY text (accepted or rejected, either mode), or any
  extended API call `Forest.XCall` — append / prepend / insert_after / insert_before / detach / remove / replace /
  element_wrap / element_unwrap / clone_node / the setters / text_content_set / map calls as API calls / node
  creation / set_text_consolidation / remove_insignificant_whitespace / create_missing_prefixes /
  deduplicate_namespaces / clone_with_prefixes.  State: `PStore` (forest + interning tables + xml:id index).

  `C11_histories_interleaved`: for a set `T` of tracked elements, after ANY such history both views of every
  tracked element are what the abstract insertion-ordered maps predict FROM THE MAP STEPS ALONE
  (`specOps2 (famOf start) (mapOpsOf steps)`: the other steps do not occur in the prediction), the invariant holds,
  tracked elements stay elements — given `Fmap.mixOk T`, evaluated step by step in the state the step meets:

    * a map step satisfies its own side conditions `MapOp2.ok` (as in `C11_histories_all`), and `T` is closed
      under it: a move of an attached entry node (`appendAttachedNode`, `anyAppend (.entry …)`) between a tracked
      and an untracked element is excluded (the tracked view would depend on the untracked one) — track both;
    * another step is well-kinded (`PCall.wellKinded`, the one side condition of C04 — so it KEEPS `Forest.Inv`
      by `C04_step_full`; no hypothesis on the invariant is left) and `Fmap.touchesEntries f x c = false` for every
      tracked `x`.

  **Which calls can touch the entries of an element `x`.**  In the code: `remove` / `detach` of an entry node of `x`;
  `replace` of an entry node or by one;
  `append` / `insert_*` / `any_append` that moves an entry node of `x` away or an attribute / namespace node into
  `x`; the map calls on `x` as API calls; `create_missing_prefixes(n)` and `deduplicate_namespaces(n)` for an
  ancestor-or-self `n` of `x` (they add / remove namespace nodes below `n`); `remove` of `x` or of an ancestor
  (the view becomes empty: `x` is no longer live).  EVERY one of these names, as a written argument
  (`Forest.XCall.writeArgs`), a node of the parentless tree that holds `x`.  `touchesEntries f x c` is the decidable
  OVER-approximation "some written node argument of `c` lies in the parentless tree of `f` that holds `x`, or `x`
  is not live" (a parse never touches: it only adds a parentless tree on fresh handles; `clone_node` /
  `clone_with_prefixes` only READ their argument; node creation and `set_text_consolidation` name no node).
  So the theorem covers every call addressed to OTHER parentless trees (other documents, fragments, detached
  subtrees, clones), every creation, every parse.

  NOT covered by this theorem (`touchesEntries = true` although the entries are in fact untouched): calls addressed
  to a node of the SAME parentless tree outside `x` and its entries — e.g. `append` of a text node to a sibling
  element.  For the calls in the domain of `C05_frame_general` the section "Interleaved histories, sharp side
  condition" replaces `touchesEntries` by a predicate that lets them through; every other call (the composites
  `create_missing_prefixes`, `deduplicate_namespaces`, `remove_insignificant_whitespace` among them) stays under
  `touchesEntries`. -/

namespace XotModel.Props
open XotModel Fmap

/-- One non-map step — a parse, or an extended API call — that does not
    `touchesEntries` of `x`, on a store with the invariant: the subtree at `x` (hence both views, and
    `is_element`) is exactly what it was, and the invariant holds again. -/
theorem C11_not_touching_frame (s : PStore) (hi : s.forest.Inv) (c : PCall) (hw : c.wellKinded) (x : Nat)
    (ht : touchesEntries s.forest x c = false) :
    (s.step c).forest.get? x = s.forest.get? x ∧
    (∀ k, abs k (s.step c).forest x = abs k s.forest x) ∧
    (∀ k, absNodes k (s.step c).forest x = absNodes k s.forest x) ∧
    (s.step c).forest.isElement x = s.forest.isElement x ∧
    (s.step c).forest.Inv := by
  have h := get?_step_of_not_touches hi c hw x ht
  refine ⟨h, fun k => abs_step_of_not_touches hi c hw x ht k, fun k => ?_,
    isElement_step_of_not_touches hi c hw x ht, PStore.fph_step_inv hi c hw⟩
  unfold absNodes; rw [h]

/-- What `touchesEntries = false` says. -/
theorem C11_touchesEntries_iff (f : Forest) (x : Nat) (c : PCall) :
    touchesEntries f x c = false ↔
      match c with
      | .parse _ _ => f.isLive x = true
      | .api y => ∃ r, rootOf? f x = some r ∧ ∀ a ∈ y.writeArgs, a ∉ HTree.handles r := by
  cases c with
  | parse m t => simp [touchesEntries]
  | api y =>
    simp only [touchesEntries]
    cases h : rootOf? f x with
    | none => simp
    | some r => simp

/-- The reference step is local: it changes the maps of `MapOp2.elems` only, and reads only those. -/
theorem C11_specStep_local (F G : Fam) (op : MapOp2) :
    (∀ x k, x ∉ op.elems → specStep F op x k = F x k) ∧
    ((∀ y ∈ op.elems, ∀ k, F y k = G y k) → ∀ x ∈ op.elems, ∀ k, specStep F op x k = specStep G op x k) :=
  ⟨fun x k hx => specStep_off F op x k hx,
   fun h x hx k => specStep_congr_on F G op x k h (h x hx k)⟩

/-- **Map updates interleaved with every other call.**  From any store with the
    invariant, along any history of map updates (`MapOp2`, addressed to any elements) and other steps (parses of
    arbitrary texts, extended API calls) satisfying `mixOk T`: the attribute view and the namespace view of every
    tracked element are the reference family's after the MAP steps of the history alone, keys are distinct,
    tracked elements stay elements, and the invariant holds at the end. -/
theorem C11_histories_interleaved (s : PStore) (hi : s.forest.Inv) (T : List Nat) (steps : List MixStep)
    (hok : mixOk T s steps) :
    (∀ x ∈ T, ∀ k, abs k (mixRun s steps).forest x = specOps2 (famOf s.forest) (mapOpsOf steps) x k) ∧
    (∀ x k, omWf (abs k (mixRun s steps).forest x)) ∧
    (∀ x ∈ T, (mixRun s steps).forest.isElement x = s.forest.isElement x) ∧
    (mixRun s steps).forest.Inv := by
  obtain ⟨h1, h2, h3⟩ := mix_history T steps s (famOf s.forest) hi (fun _ _ _ => rfl) hok
  exact ⟨h2, fun x k => unique_keys_of_inv _ h1 k x, h3, h1⟩

/-- … on every store a history of parses and API calls reaches from
    `Xot::new()`: no hypothesis on the invariant at all (`C04_reach_full`). -/
theorem C11_reachable_histories_interleaved_full (env : Env) (pre : List PCall) (hw : ∀ c ∈ pre, c.wellKinded)
    (T : List Nat) (steps : List MixStep) (hok : mixOk T ((PStore.init env).run pre) steps) :
    let s := (PStore.init env).run pre
    (∀ x ∈ T, ∀ k, abs k (mixRun s steps).forest x = specOps2 (famOf s.forest) (mapOpsOf steps) x k) ∧
    (∀ x k, omWf (abs k (mixRun s steps).forest x)) ∧
    (∀ x ∈ T, (mixRun s steps).forest.isElement x = s.forest.isElement x) ∧
    (mixRun s steps).forest.Inv :=
  C11_histories_interleaved _ (PStore.fph_run_inv pre (PStore.fph_init_inv env) hw) T steps hok

/-- A history of map updates only is an interleaved history (`runOps2` of `C11_histories_all`). -/
theorem C11_interleaved_extends (s : PStore) (ops : List MapOp2) :
    (mixRun s (ops.map .map)).forest = (runOps2 s.forest ops).1 ∧ mapOpsOf (ops.map .map) = ops := by
  induction ops generalizing s with
  | nil => exact ⟨rfl, rfl⟩
  | cons op ops ih =>
    obtain ⟨a, b⟩ := ih (MixStep.run s (.map op))
    refine ⟨?_, by simp only [List.map_cons, mapOpsOf, b]⟩
    show (mixRun (MixStep.run s (.map op)) (ops.map .map)).forest = _
    rw [a]; simp [runOps2, MixStep.run]

/-! ### Non-vacuity: two parsed documents, map updates on `r` and `c` of the first interleaved with calls on the
    second, node creation, parses (one of a fragment, one REJECTED), `create_missing_prefixes` on the second

  `<r a="1"><c/></r>` = document 0, `r` 1, `a` 2, `c` 3; `<q><p b="2"/></q>` = document 4, `q` 5, `p` 6, `b` 7.
  Names: 2 `r`, 3 `a`, 4 `c`, 5 `q`, 6 `p`, 7 `b`.  Tracked: `r` and `c` (the last step moves `c`'s attribute to
  `r`, so tracking `r` alone is refused). -/

def c11MixPre : List PCall :=
  [.parse .document "<r a=\"1\"><c/></r>".toList, .parse .document "<q><p b=\"2\"/></q>".toList]
def c11MixSteps : List MixStep := [
  .map (.setAttribute 1 5 ['v']),
  .other (.api (.newNode (.element 4))),
  .other (.api (.call (.append 5 9))),
  .map (.insert .namespaces 1 (.namespace 0 2)),
  .other (.parse .fragment "x<y/>".toList),
  .other (.api (.call (.remove 7))),
  .map (.setAttribute 3 7 ['w']),
  .other (.api (.createMissingPrefixes 4)),
  .other (.parse .document "<a><b></a>".toList),
  .map (.removeAttribute 1 3),
  .map (.appendAttachedNode .attributes 1 3 7)]

theorem c11MixPre_wellKinded : ∀ c ∈ c11MixPre, c.wellKinded := by decide +kernel

/-- The store the two parses reach, written out: the examples below start from it. -/
def c11MixStore : PStore :=
  { forest := { roots := [.node 0 .document [.node 1 (.element 2) [.node 2 (.attribute 3 ['1']) [], .node 3 (.element 4) []]],
      .node 4 .document [.node 5 (.element 5) [.node 6 (.element 6) [.node 7 (.attribute 7 ['2']) []]]]], next := 8 },
    env := { Env.fresh with names := Env.fresh.names ++
      [(['r'], 0), (['a'], 0), (['c'], 0), (['q'], 0), (['p'], 0), (['b'], 0)] } }
theorem c11MixPre_eq : (PStore.init Env.fresh).run c11MixPre = c11MixStore :=
  PStore.ext_fields (by unfold c11MixPre; rw [String.toList_ofList, String.toList_ofList]; decide +kernel)
theorem c11Mix_ok : mixOk [1, 3] ((PStore.init Env.fresh).run c11MixPre) c11MixSteps := by
  unfold c11MixSteps
  rw [c11MixPre_eq, String.toList_ofList, String.toList_ofList]
  decide +kernel

example : ¬ mixOk [1] ((PStore.init Env.fresh).run c11MixPre) c11MixSteps := by
  unfold c11MixSteps
  rw [c11MixPre_eq, String.toList_ofList, String.toList_ofList]
  decide +kernel
example : mapOpsOf c11MixSteps = [.setAttribute 1 5 ['v'], .insert .namespaces 1 (.namespace 0 2),
    .setAttribute 3 7 ['w'], .removeAttribute 1 3, .appendAttachedNode .attributes 1 3 7] := rfl
/-- what the theorem says (the prediction uses the five map steps only) … -/
example : abs .attributes (mixRun ((PStore.init Env.fresh).run c11MixPre) c11MixSteps).forest 1 =
    specOps2 (famOf ((PStore.init Env.fresh).run c11MixPre).forest) (mapOpsOf c11MixSteps) 1 .attributes :=
  (C11_reachable_histories_interleaved_full Env.fresh c11MixPre c11MixPre_wellKinded [1, 3] c11MixSteps c11Mix_ok).1
    1 (by decide +kernel) .attributes
/-- … and what model and reference compute. -/
example :
    abs .attributes (mixRun ((PStore.init Env.fresh).run c11MixPre) c11MixSteps).forest 1 = [(5, .str ['v']), (7, .str ['w'])] ∧
    abs .namespaces (mixRun ((PStore.init Env.fresh).run c11MixPre) c11MixSteps).forest 1 = [(0, .ns 2)] ∧
    abs .attributes (mixRun ((PStore.init Env.fresh).run c11MixPre) c11MixSteps).forest 3 = [] ∧
    specOps2 (famOf ((PStore.init Env.fresh).run c11MixPre).forest) (mapOpsOf c11MixSteps) 1 .attributes =
      [(5, .str ['v']), (7, .str ['w'])] ∧
    (mixRun ((PStore.init Env.fresh).run c11MixPre) c11MixSteps).forest.allHandles =
      [0, 1, 10, 8, 14, 3, 4, 5, 6, 9, 11, 12, 13] := by
  unfold c11MixSteps
  rw [c11MixPre_eq, String.toList_ofList, String.toList_ofList]
  decide +kernel

/-- The hypothesis is needed, and `touchesEntries` sees it: `remove` of the entry node 2, `remove` of `r`,
    `create_missing_prefixes` / `deduplicate_namespaces` on the document of `r`, `replace` of the entry node are
    flagged; after `remove(2)` the view of `r` has changed although no map step was made. -/
example :
    let f := ((PStore.init Env.fresh).run c11MixPre).forest
    touchesEntries f 1 (.api (.call (.remove 2))) = true ∧ touchesEntries f 1 (.api (.call (.remove 1))) = true ∧
    touchesEntries f 1 (.api (.call (.detach 2))) = true ∧ touchesEntries f 1 (.api (.call (.replace 2 7))) = true ∧
    touchesEntries f 1 (.api (.createMissingPrefixes 0)) = true ∧
    touchesEntries f 1 (.api (.deduplicateNamespaces 0)) = true ∧
    touchesEntries f 1 (.api (.call (.remove 7))) = false ∧ touchesEntries f 1 (.api (.createMissingPrefixes 4)) = false ∧
    touchesEntries f 1 (.api (.call (.cloneNode 1))) = false ∧ touchesEntries f 1 (.parse .document []) = false ∧
    abs .attributes (((PStore.init Env.fresh).run c11MixPre).step (.api (.call (.remove 2)))).forest 1 = [] ∧
    abs .attributes f 1 = [(3, .str ['1'])] := by
  rw [c11MixPre_eq]
  decide +kernel

end XotModel.Props


/-! ## Interleaved histories, sharp side condition

  `C11_histories_interleaved` refuses another step as soon as one of its written node arguments lies in the same
  parentless tree as a tracked element (`touchesEntries`).  `sharpTouches` (Model/FframeSpec.lean) asks, for the calls
  of the domain of `C05_frame_general` (the nine structural calls, clone_node, map insert / remove made as plain API
  calls, the value setters, node creation, set_text_consolidation) that answer `ok` on live arguments, only that neither the
  tracked element nor one of its children is in `Forest.XCall.writtenParents`, inside the removed subtree or inside
  the moved subtree; ANY extended call on live arguments that answers an error touches nothing (`C06_atomic_ext`: it
  has changed nothing); for every other step it is `touchesEntries`.  So appending a text node to a SIBLING of a
  tracked element, removing a cousin, or a call the crate refuses does not block the prediction. -/

namespace XotModel.Props
open XotModel Fmap

/-- **Map updates interleaved with every other call, sharp side condition.**
    `C11_histories_interleaved` with `mixOkSharp` (`sharpTouches`) in the place of `mixOk` (`touchesEntries`). -/
theorem C11_histories_interleaved_sharp (s : PStore) (hi : s.forest.Inv) (T : List Nat) (steps : List MixStep)
    (hok : mixOkSharp T s steps) :
    (∀ x ∈ T, ∀ k, abs k (mixRun s steps).forest x = specOps2 (famOf s.forest) (mapOpsOf steps) x k) ∧
    (∀ x k, omWf (abs k (mixRun s steps).forest x)) ∧
    (∀ x ∈ T, (mixRun s steps).forest.isElement x = s.forest.isElement x) ∧
    (mixRun s steps).forest.Inv := by
  obtain ⟨h1, h2, h3⟩ := mix_history_sharp T steps s (famOf s.forest) hi (fun _ _ _ => rfl) hok
  exact ⟨h2, fun x k => unique_keys_of_inv _ h1 k x, h3, h1⟩

/-- … on every store a history of parses and API calls reaches
    from `Xot::new()`. -/
theorem C11_reachable_histories_interleaved_sharp_full (env : Env) (pre : List PCall)
    (hw : ∀ c ∈ pre, c.wellKinded) (T : List Nat) (steps : List MixStep)
    (hok : mixOkSharp T ((PStore.init env).run pre) steps) :
    let s := (PStore.init env).run pre
    (∀ x ∈ T, ∀ k, abs k (mixRun s steps).forest x = specOps2 (famOf s.forest) (mapOpsOf steps) x k) ∧
    (∀ x k, omWf (abs k (mixRun s steps).forest x)) ∧
    (∀ x ∈ T, (mixRun s steps).forest.isElement x = s.forest.isElement x) ∧
    (mixRun s steps).forest.Inv :=
  C11_histories_interleaved_sharp _ (PStore.fph_run_inv pre (PStore.fph_init_inv env) hw) T steps hok

/-- One step: what `sharpTouches = false` guarantees. -/
theorem C11_step_sharp {s : PStore} (hi : s.forest.Inv) (c : PCall) (hw : c.wellKinded) (x : Nat)
    (ht : sharpTouches s x c = false) :
    (∀ k, abs k (s.step c).forest x = abs k s.forest x) ∧
      (s.step c).forest.isElement x = s.forest.isElement x :=
  sharp_step hi c hw x ht

/-! ### Non-vacuity: `<r a="1"><c/><d/></r>` = document 0, `r` 1, `a` 2, `c` 3, `d` 4.  Tracked: `c`.  A new text node
    (handle 6; 5 is the attribute node the first map step creates) is APPENDED TO THE SIBLING `d`, then `d` is removed: both calls write inside the tree of `c`, so the
    coarse condition refuses the history; the sharp one accepts it, and the prediction from the two map steps alone
    is what the model computes.  The second step, `append(c, document)`, is REFUSED by the crate (invalidOperation):
    it names the tracked element itself and touches nothing. -/

def c11SharpPre : List PCall := [.parse .document "<r a=\"1\"><c/><d/></r>".toList]
def c11SharpSteps : List MixStep := [
  .map (.setAttribute 3 5 ['v']),
  .other (.api (.call (.append 3 0))),
  .other (.api (.newNode (.text ['t']))),
  .other (.api (.call (.append 4 6))),
  .map (.setAttribute 3 3 ['w']),
  .other (.api (.call (.remove 4)))]

theorem c11SharpPre_wellKinded : ∀ c ∈ c11SharpPre, c.wellKinded := by decide +kernel

/-- The store the parse reaches, written out: the examples below start from it. -/
def c11SharpStore : PStore :=
  { forest := { roots := [.node 0 .document [.node 1 (.element 2) [.node 2 (.attribute 3 ['1']) [],
      .node 3 (.element 4) [], .node 4 (.element 5) []]]], next := 5 },
    env := { Env.fresh with names := Env.fresh.names ++ [(['r'], 0), (['a'], 0), (['c'], 0), (['d'], 0)] } }
theorem c11SharpPre_eq : (PStore.init Env.fresh).run c11SharpPre = c11SharpStore :=
  PStore.ext_fields (by unfold c11SharpPre; rw [String.toList_ofList]; decide +kernel)
theorem c11Sharp_ok : mixOkSharp [3] ((PStore.init Env.fresh).run c11SharpPre) c11SharpSteps := by
  rw [c11SharpPre_eq]
  decide +kernel

example : ¬ mixOk [3] ((PStore.init Env.fresh).run c11SharpPre) c11SharpSteps := by
  rw [c11SharpPre_eq]
  decide +kernel
example :
    let s := (((PStore.init Env.fresh).run c11SharpPre).step (.api (.newNode (.text ['t']))))
    touchesEntries s.forest 3 (.api (.call (.append 4 5))) = true ∧
    sharpTouches s 3 (.api (.call (.append 4 5))) = false ∧
    (Forest.XCall.call (.append 4 5)).writtenParents s.forest = [4, 5] ∧
    s.forest.kidHandles 1 = [2, 3, 4] ∧
    sharpTouches s 3 (.api (.call (.append 3 5))) = true ∧ sharpTouches s 3 (.api (.call (.remove 1))) = true ∧
    ((PCall.api (.call (.append 3 0))).run s).2 = .api (.err .invalidOperation) ∧
    touchesEntries s.forest 3 (.api (.call (.append 3 0))) = true ∧
    sharpTouches s 3 (.api (.call (.append 3 0))) = false := by
  rw [c11SharpPre_eq]
  decide +kernel
example : abs .attributes (mixRun ((PStore.init Env.fresh).run c11SharpPre) c11SharpSteps).forest 3 =
    specOps2 (famOf ((PStore.init Env.fresh).run c11SharpPre).forest) (mapOpsOf c11SharpSteps) 3 .attributes :=
  (C11_reachable_histories_interleaved_sharp_full Env.fresh c11SharpPre c11SharpPre_wellKinded [3] c11SharpSteps
    c11Sharp_ok).1 3 (by decide +kernel) .attributes
example :
    abs .attributes (mixRun ((PStore.init Env.fresh).run c11SharpPre) c11SharpSteps).forest 3 =
      [(5, .str ['v']), (3, .str ['w'])] ∧
    specOps2 (famOf ((PStore.init Env.fresh).run c11SharpPre).forest) (mapOpsOf c11SharpSteps) 3 .attributes =
      [(5, .str ['v']), (3, .str ['w'])] ∧
    (mixRun ((PStore.init Env.fresh).run c11SharpPre) c11SharpSteps).forest.kidHandles 1 = [2, 3] := by
  rw [c11SharpPre_eq]
  decide +kernel

end XotModel.Props
