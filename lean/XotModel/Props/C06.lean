/-
  C06 — A refused manipulation changes nothing; calls on live nodes do not panic.
  Property theorems only.

  In short (`C06_atomic`, `C06_nopanic`): `f.Inv → c.liveArgs f → (c.run f).2 = .err e → (c.run f).1 = f`, and
  `(c.run f).2 = .panic → c.documentedPanic f` (a documented element-only accessor on a non-element).
  Every refusal produced by the argument checks (which the Rust performs before it
  touches the arena) leaves the state untouched, and for ALL forests satisfying the invariant
  nothing else can go wrong after the checks: no late `NodeError`, no panic (apart from the
  documented element-only accessors on a non-element), `corrupt` never set (the indextree
  primitives are only used inside their list semantics).  `Forest.C06Clauses f r` bundles the three
  clauses for one call; `C06_<op>` proves them, `C06_<op>_atomic`, `C06_no_panic_<op>` and
  `C06_corrupt_unreachable_<op>` are the separate statements.  The proofs are in
  `Lemmas/Fatom*.lean` and only use the weak invariant `Forest.W` (handles distinct and below
  `next`, only elements and documents have children) — except `element_unwrap`, whose `unwrap`
  on `last_child` needs the child ordering of the full invariant.
  WHICH error in WHICH state: `C06_outcomes` (the answer of every call of `Forest.Call` on live arguments is
  `Call.answer`, a decidable function of the state before the call and the arguments: Model/FrefusalSpec.lean),
  `C06_refusal_iff` (error iff `Call.refusal` names one, and that one), `C06_refused_unchanged`,
  `C06_refusal_table` / `C06_refusal_anyAppend` (the conditions, constructor by constructor).
-/
import XotModel.Lemmas.FatomAll
import XotModel.Lemmas.Fcreation
import XotModel.Lemmas.FpxDedup
import XotModel.Lemmas.FhistAtomic
import XotModel.Lemmas.ArenaExamples
import XotModel.Lemmas.ArenaStaleExamples
import XotModel.Lemmas.FparseHistStep
import XotModel.Lemmas.ParseWitness

namespace XotModel.Props
open XotModel

/-- `append`: a failing structure check returns the forest as it was. -/
theorem C06_append_refused (f : Forest) (p c : Nat) (h : f.structureCheck (some p) c = false) :
    f.append p c = (f, .err .invalidOperation) := by
  simp [Forest.append, h]

theorem C06_prepend_refused (f : Forest) (p c : Nat) (h : f.structureCheck (some p) c = false) :
    f.prepend p c = (f, .err .invalidOperation) := by
  simp [Forest.prepend, h]

theorem C06_insertAfter_refused (f : Forest) (r n : Nat)
    (h : f.structureCheck (f.parent? r) n = false ∨ f.siblingReferenceCheck r n = false) :
    f.insertAfter r n = (f, .err .invalidOperation) := by
  unfold Forest.insertAfter
  cases h with
  | inl h => simp [h]
  | inr h => by_cases h1 : f.structureCheck (f.parent? r) n <;> simp [h, h1]

theorem C06_insertBefore_refused (f : Forest) (r n : Nat)
    (h : f.structureCheck (f.parent? r) n = false ∨ f.siblingReferenceCheck r n = false) :
    f.insertBefore r n = (f, .err .invalidOperation) := by
  unfold Forest.insertBefore
  cases h with
  | inl h => simp [h]
  | inr h => by_cases h1 : f.structureCheck (f.parent? r) n <;> simp [h, h1]

/-- A move to the position the node already occupies changes nothing (C05's same-position
    clause, used here: it is also why these calls cannot fail late). -/
theorem C06_append_same_position (f : Forest) (p c : Nat)
    (h1 : f.structureCheck (some p) c = true) (h2 : f.lastChild p = some c) :
    f.append p c = (f, .ok) := by
  simp [Forest.append, h1, h2]

/-- `replace` refuses a document node as the replaced node without touching anything (all its refusals:
    `C06_refusal_table`). -/
theorem C06_replace_refused_document (f : Forest) (a b : Nat) (h : f.isDocument a = true) :
    f.replace a b = (f, .err .invalidOperation) := by
  simp [Forest.replace, h]

/-- `element_wrap` refuses attribute and namespace nodes before detaching anything. -/
theorem C06_wrap_refused_abnormal (f : Forest) (a n : Nat) (h : f.isNormalNode a = false) :
    (f.elementWrap a n).1 = f ∧ (f.elementWrap a n).2.1 = .err .invalidOperation := by
  unfold Forest.elementWrap
  by_cases hd : f.isDocument a <;> simp [hd, h]

/-- `element_unwrap` refuses a parentless element that has children. -/
theorem C06_unwrap_refused_parentless (f : Forest) (a c : Nat)
    (he : f.isElement a = true) (hc : f.firstChild a = some c) (hp : f.parent? a = none) :
    f.elementUnwrap a = (f, .err .invalidOperation) := by
  simp [Forest.elementUnwrap, he, hc, hp]

/-! ## After the checks nothing can go wrong (all forests satisfying the invariant) -/


/-- `append`: refused by the argument checks with the forest unchanged, or carried out; the indextree `checked_*` call cannot be refused (no late `NodeError`), nothing panics, `corrupt` stays false. -/
theorem C06_append (f : Forest) (p c : Nat) (hi : f.Inv) (_hp : f.isLive p = true) (_hc : f.isLive c = true) :
    Forest.C06Clauses f (f.append p c) :=
  (Forest.append_outcome hi.toW p c).clauses hi.notCorrupt

theorem C06_append_atomic (f : Forest) (p c : Nat) (e : XotError) (hi : f.Inv) (_hp : f.isLive p = true) (_hc : f.isLive c = true)
    (h : (f.append p c).2 = .err e) : (f.append p c).1 = f :=
  (C06_append f p c hi _hp _hc).atomic e h

theorem C06_no_panic_append (f : Forest) (p c : Nat) (hi : f.Inv) (_hp : f.isLive p = true) (_hc : f.isLive c = true) :
    (f.append p c).2 ≠ .panic :=
  (C06_append f p c hi _hp _hc).noPanic

theorem C06_corrupt_unreachable_append (f : Forest) (p c : Nat) (hi : f.Inv) (_hp : f.isLive p = true) (_hc : f.isLive c = true) :
    (f.append p c).1.corrupt = false :=
  (C06_append f p c hi _hp _hc).notCorrupt

/-- `prepend`: refused by the argument checks with the forest unchanged, or carried out; the indextree `checked_*` call cannot be refused (no late `NodeError`), nothing panics, `corrupt` stays false. -/
theorem C06_prepend (f : Forest) (p c : Nat) (hi : f.Inv) (_hp : f.isLive p = true) (_hc : f.isLive c = true) :
    Forest.C06Clauses f (f.prepend p c) :=
  (Forest.prepend_outcome hi.toW p c).clauses hi.notCorrupt

theorem C06_prepend_atomic (f : Forest) (p c : Nat) (e : XotError) (hi : f.Inv) (_hp : f.isLive p = true) (_hc : f.isLive c = true)
    (h : (f.prepend p c).2 = .err e) : (f.prepend p c).1 = f :=
  (C06_prepend f p c hi _hp _hc).atomic e h

theorem C06_no_panic_prepend (f : Forest) (p c : Nat) (hi : f.Inv) (_hp : f.isLive p = true) (_hc : f.isLive c = true) :
    (f.prepend p c).2 ≠ .panic :=
  (C06_prepend f p c hi _hp _hc).noPanic

theorem C06_corrupt_unreachable_prepend (f : Forest) (p c : Nat) (hi : f.Inv) (_hp : f.isLive p = true) (_hc : f.isLive c = true) :
    (f.prepend p c).1.corrupt = false :=
  (C06_prepend f p c hi _hp _hc).notCorrupt

/-- `insertAfter`: refused by the argument checks with the forest unchanged, or carried out; the indextree `checked_*` call cannot be refused (no late `NodeError`), nothing panics, `corrupt` stays false. -/
theorem C06_insertAfter (f : Forest) (r n : Nat) (hi : f.Inv) (_hr : f.isLive r = true) (_hn : f.isLive n = true) :
    Forest.C06Clauses f (f.insertAfter r n) :=
  (Forest.insertAfter_outcome hi.toW r n).clauses hi.notCorrupt

theorem C06_insertAfter_atomic (f : Forest) (r n : Nat) (e : XotError) (hi : f.Inv) (_hr : f.isLive r = true) (_hn : f.isLive n = true)
    (h : (f.insertAfter r n).2 = .err e) : (f.insertAfter r n).1 = f :=
  (C06_insertAfter f r n hi _hr _hn).atomic e h

theorem C06_no_panic_insertAfter (f : Forest) (r n : Nat) (hi : f.Inv) (_hr : f.isLive r = true) (_hn : f.isLive n = true) :
    (f.insertAfter r n).2 ≠ .panic :=
  (C06_insertAfter f r n hi _hr _hn).noPanic

theorem C06_corrupt_unreachable_insertAfter (f : Forest) (r n : Nat) (hi : f.Inv) (_hr : f.isLive r = true) (_hn : f.isLive n = true) :
    (f.insertAfter r n).1.corrupt = false :=
  (C06_insertAfter f r n hi _hr _hn).notCorrupt

/-- `insertBefore`: refused by the argument checks with the forest unchanged, or carried out; the indextree `checked_*` call cannot be refused (no late `NodeError`), nothing panics, `corrupt` stays false. -/
theorem C06_insertBefore (f : Forest) (r n : Nat) (hi : f.Inv) (_hr : f.isLive r = true) (_hn : f.isLive n = true) :
    Forest.C06Clauses f (f.insertBefore r n) :=
  (Forest.insertBefore_outcome hi.toW r n).clauses hi.notCorrupt

theorem C06_insertBefore_atomic (f : Forest) (r n : Nat) (e : XotError) (hi : f.Inv) (_hr : f.isLive r = true) (_hn : f.isLive n = true)
    (h : (f.insertBefore r n).2 = .err e) : (f.insertBefore r n).1 = f :=
  (C06_insertBefore f r n hi _hr _hn).atomic e h

theorem C06_no_panic_insertBefore (f : Forest) (r n : Nat) (hi : f.Inv) (_hr : f.isLive r = true) (_hn : f.isLive n = true) :
    (f.insertBefore r n).2 ≠ .panic :=
  (C06_insertBefore f r n hi _hr _hn).noPanic

theorem C06_corrupt_unreachable_insertBefore (f : Forest) (r n : Nat) (hi : f.Inv) (_hr : f.isLive r = true) (_hn : f.isLive n = true) :
    (f.insertBefore r n).1.corrupt = false :=
  (C06_insertBefore f r n hi _hr _hn).notCorrupt

/-- `detach` always succeeds. -/
theorem C06_detach (f : Forest) (n : Nat) (hi : f.Inv) (_hn : f.isLive n = true) :
    Forest.C06Clauses f (f.detach n) :=
  (Forest.detach_ok hi.toW n).clauses hi.notCorrupt

theorem C06_detach_atomic (f : Forest) (n : Nat) (e : XotError) (hi : f.Inv) (_hn : f.isLive n = true)
    (h : (f.detach n).2 = .err e) : (f.detach n).1 = f :=
  (C06_detach f n hi _hn).atomic e h

theorem C06_no_panic_detach (f : Forest) (n : Nat) (hi : f.Inv) (_hn : f.isLive n = true) :
    (f.detach n).2 ≠ .panic :=
  (C06_detach f n hi _hn).noPanic

theorem C06_corrupt_unreachable_detach (f : Forest) (n : Nat) (hi : f.Inv) (_hn : f.isLive n = true) :
    (f.detach n).1.corrupt = false :=
  (C06_detach f n hi _hn).notCorrupt

/-- `remove` always succeeds. -/
theorem C06_remove (f : Forest) (n : Nat) (hi : f.Inv) (_hn : f.isLive n = true) :
    Forest.C06Clauses f (f.remove n) :=
  (Forest.remove_ok hi.toW n).clauses hi.notCorrupt

theorem C06_remove_atomic (f : Forest) (n : Nat) (e : XotError) (hi : f.Inv) (_hn : f.isLive n = true)
    (h : (f.remove n).2 = .err e) : (f.remove n).1 = f :=
  (C06_remove f n hi _hn).atomic e h

theorem C06_no_panic_remove (f : Forest) (n : Nat) (hi : f.Inv) (_hn : f.isLive n = true) :
    (f.remove n).2 ≠ .panic :=
  (C06_remove f n hi _hn).noPanic

theorem C06_corrupt_unreachable_remove (f : Forest) (n : Nat) (hi : f.Inv) (_hn : f.isLive n = true) :
    (f.remove n).1.corrupt = false :=
  (C06_remove f n hi _hn).notCorrupt

/-- `replace`: refused with the forest unchanged (the replaced subtree is only dropped after all checks), or carried out. -/
theorem C06_replace (f : Forest) (a b : Nat) (hi : f.Inv) (_ha : f.isLive a = true) (_hb : f.isLive b = true) :
    Forest.C06Clauses f (f.replace a b) :=
  Forest.clauses_of_outcome hi.notCorrupt (Forest.replace_outcome hi.toW a b)

theorem C06_replace_atomic (f : Forest) (a b : Nat) (e : XotError) (hi : f.Inv) (_ha : f.isLive a = true) (_hb : f.isLive b = true)
    (h : (f.replace a b).2 = .err e) : (f.replace a b).1 = f :=
  (C06_replace f a b hi _ha _hb).atomic e h

theorem C06_no_panic_replace (f : Forest) (a b : Nat) (hi : f.Inv) (_ha : f.isLive a = true) (_hb : f.isLive b = true) :
    (f.replace a b).2 ≠ .panic :=
  (C06_replace f a b hi _ha _hb).noPanic

theorem C06_corrupt_unreachable_replace (f : Forest) (a b : Nat) (hi : f.Inv) (_ha : f.isLive a = true) (_hb : f.isLive b = true) :
    (f.replace a b).1.corrupt = false :=
  (C06_replace f a b hi _ha _hb).notCorrupt

/-- `element_unwrap`: refused with the forest unchanged, or carried out; `last_child` is `Some` whenever `first_child` is (child ordering), so the `unwrap` does not panic. -/
theorem C06_elementUnwrap (f : Forest) (n : Nat) (hi : f.Inv) (_hn : f.isLive n = true) :
    Forest.C06Clauses f (f.elementUnwrap n) :=
  Forest.elementUnwrap_clauses hi n

theorem C06_elementUnwrap_atomic (f : Forest) (n : Nat) (e : XotError) (hi : f.Inv) (_hn : f.isLive n = true)
    (h : (f.elementUnwrap n).2 = .err e) : (f.elementUnwrap n).1 = f :=
  (C06_elementUnwrap f n hi _hn).atomic e h

theorem C06_no_panic_elementUnwrap (f : Forest) (n : Nat) (hi : f.Inv) (_hn : f.isLive n = true) :
    (f.elementUnwrap n).2 ≠ .panic :=
  (C06_elementUnwrap f n hi _hn).noPanic

theorem C06_corrupt_unreachable_elementUnwrap (f : Forest) (n : Nat) (hi : f.Inv) (_hn : f.isLive n = true) :
    (f.elementUnwrap n).1.corrupt = false :=
  (C06_elementUnwrap f n hi _hn).notCorrupt

/-- `text_mut(n).set(s)`. -/
theorem C06_setText (f : Forest) (s : Str) (n : Nat) (hi : f.Inv) (_hn : f.isLive n = true) :
    Forest.C06Clauses f (f.setText n s) :=
  Forest.clauses_of_outcome hi.notCorrupt (Forest.setText_outcome hi.toW n s)

theorem C06_setText_atomic (f : Forest) (s : Str) (n : Nat) (e : XotError) (hi : f.Inv) (_hn : f.isLive n = true)
    (h : (f.setText n s).2 = .err e) : (f.setText n s).1 = f :=
  (C06_setText f s n hi _hn).atomic e h

theorem C06_no_panic_setText (f : Forest) (s : Str) (n : Nat) (hi : f.Inv) (_hn : f.isLive n = true) :
    (f.setText n s).2 ≠ .panic :=
  (C06_setText f s n hi _hn).noPanic

theorem C06_corrupt_unreachable_setText (f : Forest) (s : Str) (n : Nat) (hi : f.Inv) (_hn : f.isLive n = true) :
    (f.setText n s).1.corrupt = false :=
  (C06_setText f s n hi _hn).notCorrupt

/-- `processing_instruction_mut(n).set_data(d)`. -/
theorem C06_setPiData (f : Forest) (d : Option Str) (n : Nat) (hi : f.Inv) (_hn : f.isLive n = true) :
    Forest.C06Clauses f (f.setPiData n d) :=
  Forest.clauses_of_refusal hi.notCorrupt (Forest.setPiData_run hi.toW n d)

theorem C06_setPiData_atomic (f : Forest) (d : Option Str) (n : Nat) (e : XotError) (hi : f.Inv) (_hn : f.isLive n = true)
    (h : (f.setPiData n d).2 = .err e) : (f.setPiData n d).1 = f :=
  (C06_setPiData f d n hi _hn).atomic e h

theorem C06_no_panic_setPiData (f : Forest) (d : Option Str) (n : Nat) (hi : f.Inv) (_hn : f.isLive n = true) :
    (f.setPiData n d).2 ≠ .panic :=
  (C06_setPiData f d n hi _hn).noPanic

theorem C06_corrupt_unreachable_setPiData (f : Forest) (d : Option Str) (n : Nat) (hi : f.Inv) (_hn : f.isLive n = true) :
    (f.setPiData n d).1.corrupt = false :=
  (C06_setPiData f d n hi _hn).notCorrupt

/-- `comment_mut(n).set(s)`: the only errors (`InvalidComment`, not a comment) leave the forest
    unchanged. -/
theorem C06_setComment (f : Forest) (s : Str) (n : Nat) (hi : f.Inv) (_hn : f.isLive n = true) :
    Forest.C06Clauses f (f.setComment n s) :=
  Forest.clauses_of_refusal hi.notCorrupt (Forest.setComment_run hi.toW n s)

/-- `element_wrap`: refused with the forest unchanged (nothing is detached before the checks), or carried out: the append into the fresh wrapper and the insertion of the wrapper at the old position cannot fail. -/
theorem C06_elementWrap (f : Forest) (n name : Nat) (hi : f.Inv) (_hn : f.isLive n = true) :
    Forest.C06Clauses f ((f.elementWrap n name).1, (f.elementWrap n name).2.1) :=
  Forest.clauses_of_outcome3 hi.notCorrupt (Forest.elementWrap_outcome hi.toW n name)

theorem C06_elementWrap_atomic (f : Forest) (n name : Nat) (e : XotError) (hi : f.Inv) (_hn : f.isLive n = true)
    (h : (f.elementWrap n name).2.1 = .err e) : (f.elementWrap n name).1 = f :=
  (C06_elementWrap f n name hi _hn).atomic e h

theorem C06_no_panic_elementWrap (f : Forest) (n name : Nat) (hi : f.Inv) (_hn : f.isLive n = true) :
    (f.elementWrap n name).2.1 ≠ .panic :=
  (C06_elementWrap f n name hi _hn).noPanic

theorem C06_corrupt_unreachable_elementWrap (f : Forest) (n name : Nat) (hi : f.Inv) (_hn : f.isLive n = true) :
    (f.elementWrap n name).1.corrupt = false :=
  (C06_elementWrap f n name hi _hn).notCorrupt

theorem C06_anyAppend (f : Forest) (p c : Nat) (hi : f.Inv) (_hp : f.isLive p = true) (_hc : f.isLive c = true) :
    Forest.C06Clauses f ((f.anyAppend p c).1, (f.anyAppend p c).2.1) :=
  Forest.clauses_of_refusal3 hi.notCorrupt (Forest.anyAppend_run hi.toW p c _hc)

theorem C06_anyAppend_atomic (f : Forest) (p c : Nat) (e : XotError) (hi : f.Inv) (_hp : f.isLive p = true) (_hc : f.isLive c = true)
    (h : (f.anyAppend p c).2.1 = .err e) : (f.anyAppend p c).1 = f :=
  (C06_anyAppend f p c hi _hp _hc).atomic e h

theorem C06_no_panic_anyAppend (f : Forest) (p c : Nat) (hi : f.Inv) (_hp : f.isLive p = true) (_hc : f.isLive c = true) :
    (f.anyAppend p c).2.1 ≠ .panic :=
  (C06_anyAppend f p c hi _hp _hc).noPanic

theorem C06_corrupt_unreachable_anyAppend (f : Forest) (p c : Nat) (hi : f.Inv) (_hp : f.isLive p = true) (_hc : f.isLive c = true) :
    (f.anyAppend p c).1.corrupt = false :=
  (C06_anyAppend f p c hi _hp _hc).notCorrupt

/-- `append_attribute_node` / `append_namespace_node`: placing the node at the insertion point of the map is never refused by indextree. -/
theorem C06_appendEntryNode (f : Forest) (k : Forest.MapKind) (p c : Nat) (hi : f.Inv) (_hp : f.isLive p = true) (_hc : f.isLive c = true) :
    Forest.C06Clauses f ((f.appendEntryNode k p c).1, (f.appendEntryNode k p c).2.1) :=
  Forest.clauses_of_outcome3 hi.notCorrupt (Forest.appendEntryNode_outcome hi.toW k p c _hc)

theorem C06_appendEntryNode_atomic (f : Forest) (k : Forest.MapKind) (p c : Nat) (e : XotError) (hi : f.Inv) (_hp : f.isLive p = true) (_hc : f.isLive c = true)
    (h : (f.appendEntryNode k p c).2.1 = .err e) : (f.appendEntryNode k p c).1 = f :=
  (C06_appendEntryNode f k p c hi _hp _hc).atomic e h

theorem C06_no_panic_appendEntryNode (f : Forest) (k : Forest.MapKind) (p c : Nat) (hi : f.Inv) (_hp : f.isLive p = true) (_hc : f.isLive c = true) :
    (f.appendEntryNode k p c).2.1 ≠ .panic :=
  (C06_appendEntryNode f k p c hi _hp _hc).noPanic

theorem C06_corrupt_unreachable_appendEntryNode (f : Forest) (k : Forest.MapKind) (p c : Nat) (hi : f.Inv) (_hp : f.isLive p = true) (_hc : f.isLive c = true) :
    (f.appendEntryNode k p c).1.corrupt = false :=
  (C06_appendEntryNode f k p c hi _hp _hc).notCorrupt

/-- `attributes_mut(p).insert(..)` / `namespaces_mut(p).insert(..)`: on an element it never panics (`mapPlace` cannot be refused: the insertion point is a child of the element, the new node a fresh root), never errs, never corrupts; on a non-element it is the documented panic with nothing changed. -/
theorem C06_mapInsert (f : Forest) (k : Forest.MapKind) (entry : Value) (p : Nat) (hi : f.Inv) : Forest.ElementOnly f p (f.mapInsert k p entry) :=
  Forest.elementOnly_of hi.notCorrupt (Forest.mapInsert_outcome hi.toW k p entry)

/-- The documented panic, and only that. -/
theorem C06_panic_mapInsert_iff (f : Forest) (k : Forest.MapKind) (entry : Value) (p : Nat) (hi : f.Inv) :
    (f.mapInsert k p entry).2 = .panic ↔ f.isElement p = false :=
  (C06_mapInsert f k entry p hi).panic_iff

theorem C06_corrupt_unreachable_mapInsert (f : Forest) (k : Forest.MapKind) (entry : Value) (p : Nat) (hi : f.Inv) :
    (f.mapInsert k p entry).1.corrupt = false :=
  (C06_mapInsert f k entry p hi).notCorrupt hi.notCorrupt

/-- `attributes_mut(p).remove(key)`. -/
theorem C06_mapRemove (f : Forest) (k : Forest.MapKind) (p key : Nat) (hi : f.Inv) : Forest.ElementOnly f p (f.mapRemove k p key) :=
  Forest.elementOnly_of hi.notCorrupt (Forest.mapRemove_outcome hi.toW k p key)

/-- The documented panic, and only that. -/
theorem C06_panic_mapRemove_iff (f : Forest) (k : Forest.MapKind) (p key : Nat) (hi : f.Inv) :
    (f.mapRemove k p key).2 = .panic ↔ f.isElement p = false :=
  (C06_mapRemove f k p key hi).panic_iff

theorem C06_corrupt_unreachable_mapRemove (f : Forest) (k : Forest.MapKind) (p key : Nat) (hi : f.Inv) :
    (f.mapRemove k p key).1.corrupt = false :=
  (C06_mapRemove f k p key hi).notCorrupt hi.notCorrupt

/-- `attributes_mut(p).clear()`. -/
theorem C06_mapClear (f : Forest) (k : Forest.MapKind) (p : Nat) (hi : f.Inv) : Forest.ElementOnly f p (f.mapClear k p) :=
  Forest.elementOnly_of hi.notCorrupt (Forest.mapClear_outcome hi.toW k p)

/-- The documented panic, and only that. -/
theorem C06_panic_mapClear_iff (f : Forest) (k : Forest.MapKind) (p : Nat) (hi : f.Inv) :
    (f.mapClear k p).2 = .panic ↔ f.isElement p = false :=
  (C06_mapClear f k p hi).panic_iff

theorem C06_corrupt_unreachable_mapClear (f : Forest) (k : Forest.MapKind) (p : Nat) (hi : f.Inv) :
    (f.mapClear k p).1.corrupt = false :=
  (C06_mapClear f k p hi).notCorrupt hi.notCorrupt

theorem C06_setElementName (f : Forest) (n name : Nat) (hi : f.Inv) : Forest.ElementOnly f n (f.setElementName n name) :=
  Forest.elementOnly_of hi.notCorrupt (Forest.setElementName_outcome hi.toW n name)

/-- The documented panic, and only that. -/
theorem C06_panic_setElementName_iff (f : Forest) (n name : Nat) (hi : f.Inv) :
    (f.setElementName n name).2 = .panic ↔ f.isElement n = false :=
  (C06_setElementName f n name hi).panic_iff

theorem C06_corrupt_unreachable_setElementName (f : Forest) (n name : Nat) (hi : f.Inv) :
    (f.setElementName n name).1.corrupt = false :=
  (C06_setElementName f n name hi).notCorrupt hi.notCorrupt


/-- `text_content_mut(n)` + `set(s)`: refused with the forest unchanged, or carried out: on an
    element without normal children the fresh text node is appended and found again as the first
    child, so neither `unwrap` panics. -/
theorem C06_textContentSet (f : Forest) (s : Str) (n : Nat) (hi : f.Inv) (_hn : f.isLive n = true) :
    Forest.C06Clauses f (f.textContentSet n s) :=
  Forest.clauses_of_outcome hi.notCorrupt (Forest.textContentSet_outcome hi.toW n s)

theorem C06_textContentSet_atomic (f : Forest) (s : Str) (n : Nat) (e : XotError) (hi : f.Inv)
    (_hn : f.isLive n = true) (h : (f.textContentSet n s).2 = .err e) : (f.textContentSet n s).1 = f :=
  (C06_textContentSet f s n hi _hn).atomic e h

theorem C06_no_panic_textContentSet (f : Forest) (s : Str) (n : Nat) (hi : f.Inv)
    (_hn : f.isLive n = true) : (f.textContentSet n s).2 ≠ .panic :=
  (C06_textContentSet f s n hi _hn).noPanic

theorem C06_corrupt_unreachable_textContentSet (f : Forest) (s : Str) (n : Nat) (hi : f.Inv)
    (_hn : f.isLive n = true) : (f.textContentSet n s).1.corrupt = false :=
  (C06_textContentSet f s n hi _hn).notCorrupt

/-- `clone_node` of a live node returns a node: none of the `any_append(..).unwrap()` calls of the
    edge replay fails, and the scratch element has a first child. -/
theorem C06_no_panic_cloneNode (f : Forest) (n : Nat) (hi : f.Inv) (hn : f.isLive n = true) :
    (f.cloneNode n).2 ≠ none :=
  (Forest.cloneNode_spec hi hn).1

/-- ... and stays inside the list semantics: the scratch element spliced out at the end is a
    root with exactly one child. -/
theorem C06_corrupt_unreachable_cloneNode (f : Forest) (n : Nat) (hi : f.Inv)
    (hn : f.isLive n = true) : (f.cloneNode n).1.corrupt = false :=
  (Forest.cloneNode_spec hi hn).2

theorem C06_corrupt_unreachable_removeInsignificantWhitespace (f : Forest) (n : Nat) (hi : f.Inv) :
    (f.removeInsignificantWhitespace n).corrupt = false := by
  rw [(Forest.removeInsignificantWhitespace_spec hi.toW n).2]; exact hi.notCorrupt

/-! ## The property for every call at once

`Forest.Call` (Model/FatomSpec.lean) lists the calls of the mutating API with their arguments,
`Call.run` is the model's transition, `Call.liveArgs` says that all node arguments are live,
`Call.documentedPanic` is the documented panic of the element-only accessors on a non-element. -/

/-- A call that returns an error has changed nothing. -/
theorem C06_atomic (f : Forest) (c : Forest.Call) (e : XotError) (hi : f.Inv) (hl : c.liveArgs f)
    (h : (c.run f).2 = .err e) : (c.run f).1 = f :=
  (Forest.call_ran hi c hl).atomic h

/-- The only panics are the documented ones, and they change nothing. -/
theorem C06_nopanic (f : Forest) (c : Forest.Call) (hi : f.Inv) (hl : c.liveArgs f)
    (h : (c.run f).2 = .panic) : c.documentedPanic f = true ∧ (c.run f).1 = f :=
  (Forest.call_ran hi c hl).panic h

/-- The documented panic does happen (so `C06_nopanic` is an equivalence). -/
theorem C06_documentedPanic (f : Forest) (c : Forest.Call) (hi : f.Inv) (hl : c.liveArgs f)
    (h : c.documentedPanic f = true) : (c.run f).2 = .panic := by
  rw [(Forest.call_ran hi c hl).panics h]

/-- No call with live arguments uses an indextree primitive outside
    its list semantics. -/
theorem C06_corrupt_unreachable (f : Forest) (c : Forest.Call) (hi : f.Inv) (hl : c.liveArgs f) :
    (c.run f).1.corrupt = false := by
  rw [(Forest.call_ran hi c hl).corrupt]; exact hi.notCorrupt

/-! ### Non-vacuity: a concrete forest satisfying the invariant, with refused and accepted calls -/

/-- `<doc><e xmlns:p=".." a="v">x</e></doc>` plus an unattached comment. -/
def C06_sample : Forest :=
  { roots := [.node 0 .document [.node 1 (.element 2) [.node 2 (.namespace 0 2) [],
      .node 3 (.attribute 3 ['v']) [], .node 4 (.text ['x']) []]], .node 5 (.comment ['c']) []],
    next := 6 }

example : C06_sample.Inv := (Forest.inv_iff _).1 (by decide +kernel)
example : C06_sample.isLive 1 = true ∧ C06_sample.isLive 4 = true ∧ C06_sample.isLive 5 = true := by decide +kernel
/-- a refused call (append under a text node) -/
example : (C06_sample.append 4 5).2 = .err .invalidOperation := by decide +kernel
/-- a refused call (append an element into itself) -/
example : (C06_sample.append 1 1).2 = .err .invalidOperation := by decide +kernel
/-- accepted calls -/
example : (C06_sample.append 1 5).2 = .ok := by decide +kernel
example : (C06_sample.insertBefore 4 5).2 = .ok := by decide +kernel
example : (C06_sample.replace 4 5).2 = .ok := by decide +kernel
example : (C06_sample.elementWrap 4 7).2.1 = .ok := by decide +kernel
example : (C06_sample.elementUnwrap 1).2 = .ok := by decide +kernel
/-- the documented panic -/
example : (C06_sample.mapInsert .attributes 4 (.attribute 9 [])).2 = .panic := by decide +kernel
example : (C06_sample.mapInsert .attributes 1 (.attribute 9 [])).2 = .ok := by decide +kernel
example : (C06_sample.textContentSet 1 ['y']).2 = .ok := by decide +kernel
example : (C06_sample.cloneNode 5).2 = some 6 := by decide +kernel
example : (({ roots := [.node 0 (.element 1) [.node 1 (.comment ['a']) []]], next := 2 } : Forest).cloneNode 0).2 = some 3 := by decide +kernel
example : (Forest.Call.replace 4 5).liveArgs C06_sample := by
  intro x hx; simp [Forest.Call.args] at hx; rcases hx with h | h <;> subst h <;> decide

/-! ### Which error in which state (`Call.refusal`, Model/FrefusalSpec.lean)

`Call.refusal f c : Option XotError` is a decidable function of the forest and the arguments: the argument checks of
the call in the order the Rust performs them (manipulation.rs, nodemap/core.rs, valueaccess.rs), without the edit.
`Call.answer f c` = `Err(e)` when `refusal f c = some e`, else `panic` when `c.documentedPanic f`, else `Ok`. -/

/-- **What every call of the mutating API answers, exactly**, on live arguments in a forest satisfying
    the invariant: the answer is `Call.answer`, read off the state BEFORE the call and the arguments only.  So, for
    every constructor of `Forest.Call`: the call answers `Err(e)` exactly when its argument checks name `e`
    (`Call.refusal`: `InvalidOperation` everywhere, `InvalidComment` for `comment_mut().set` of a text with `--`);
    it panics exactly on the documented element-only accessors; in every other state it answers `Ok` - after the
    checks nothing fails (no late `NodeError` from indextree, no `unwrap` on `None`). -/
theorem C06_outcomes (f : Forest) (c : Forest.Call) (hi : f.Inv) (hl : c.liveArgs f) :
    (c.run f).2 = c.answer f :=
  Forest.call_answer hi c hl

/-- The call answers an error iff `Call.refusal` names one, and it is that error. -/
theorem C06_refusal_iff (f : Forest) (c : Forest.Call) (hi : f.Inv) (hl : c.liveArgs f) :
    ((∃ e, (c.run f).2 = .err e) ↔ (c.refusal f).isSome = true) ∧
    (∀ e, (c.run f).2 = .err e ↔ c.refusal f = some e) := by
  refine ⟨⟨fun ⟨e, h⟩ => ?_, fun h => ?_⟩, Forest.call_refusal_iff hi c hl⟩
  · rw [(Forest.call_refusal_iff hi c hl e).1 h]; rfl
  · cases hr : c.refusal f with
    | none => rw [hr] at h; cases h
    | some e => exact ⟨e, (Forest.call_refusal_iff hi c hl e).2 hr⟩

/-- With C06_atomic: a call whose checks name an error returns the forest it was given, and that error. -/
theorem C06_refused_unchanged (f : Forest) (c : Forest.Call) (e : XotError) (hi : f.Inv) (hl : c.liveArgs f)
    (h : c.refusal f = some e) : c.run f = (f, .err e) := by
  have h2 := ((C06_refusal_iff f c hi hl).2 e).2 h
  have h1 := C06_atomic f c e hi hl h2
  exact Prod.ext h1 h2

/-- The table behind `Call.refusal`, constructor by constructor (each line holds by definition). -/
theorem C06_refusal_table (f : Forest) :
    (∀ p c, Forest.Call.refusal f (.append p c) =
      if f.structureCheck (some p) c then none else some .invalidOperation) ∧
    (∀ p c, Forest.Call.refusal f (.prepend p c) =
      if f.structureCheck (some p) c then none else some .invalidOperation) ∧
    (∀ r n, Forest.Call.refusal f (.insertAfter r n) =
      if f.structureCheck (f.parent? r) n && f.siblingReferenceCheck r n then none else some .invalidOperation) ∧
    (∀ r n, Forest.Call.refusal f (.insertBefore r n) =
      if f.structureCheck (f.parent? r) n && f.siblingReferenceCheck r n then none else some .invalidOperation) ∧
    (∀ n, Forest.Call.refusal f (.detach n) = none ∧ Forest.Call.refusal f (.remove n) = none ∧
      Forest.Call.refusal f (.cloneNode n) = none) ∧
    (∀ a b, Forest.Call.refusal f (.replace a b) =
      if f.isDocument a ||
        (match f.parent? a with
         | none => true
         | some parent => !f.isNormalNode a || !f.structureCheck (some parent) b || (f.ancestors b).contains a)
      then some .invalidOperation else none) ∧
    (∀ n name, Forest.Call.refusal f (.elementWrap n name) =
      if f.isDocument n || !f.isNormalNode n || (f.hasDocumentParent n && !f.isDocumentElement n)
      then some .invalidOperation else none) ∧
    (∀ n, Forest.Call.refusal f (.elementUnwrap n) =
      if !f.isElement n || ((f.firstChild n).isSome && (f.parent? n).isNone) then some .invalidOperation else none) ∧
    (∀ k p c, Forest.Call.refusal f (.appendEntryNode k p c) =
      if !f.isElement p || (match f.value? c with | some v => !k.matches v | none => false)
      then some .invalidOperation else none) ∧
    (∀ k p e key n name, Forest.Call.refusal f (.mapInsert k p e) = none ∧
      Forest.Call.refusal f (.mapRemove k p key) = none ∧ Forest.Call.refusal f (.mapClear k p) = none ∧
      Forest.Call.refusal f (.setElementName n name) = none) ∧
    (∀ n s, Forest.Call.refusal f (.setText n s) = if f.isText n then none else some .invalidOperation) ∧
    (∀ n s, Forest.Call.refusal f (.setComment n s) =
      match f.value? n with
      | some (.comment _) => if Forest.hasDoubleDash s then some .invalidComment else none
      | _ => some .invalidOperation) ∧
    (∀ n d, Forest.Call.refusal f (.setPiData n d) =
      match f.value? n with
      | some (.pi _ _) => none
      | _ => some .invalidOperation) ∧
    (∀ n s, Forest.Call.refusal f (.textContentSet n s) =
      if (match f.firstChild n with
          | some child => (f.nextSibling child).isSome || !f.isText child
          | none => !f.isElement n)
      then some .invalidOperation else none) :=
  ⟨fun _ _ => rfl, fun _ _ => rfl, fun _ _ => rfl, fun _ _ => rfl, fun _ => ⟨rfl, rfl, rfl⟩, fun _ _ => rfl,
   fun _ _ => rfl, fun _ => rfl, fun _ _ _ => rfl, fun _ _ _ _ _ _ => ⟨rfl, rfl, rfl, rfl⟩, fun _ _ => rfl,
   fun _ _ => rfl, fun _ _ => rfl, fun _ _ => rfl⟩

/-- `any_append` dispatches on the child: a namespace / attribute node goes to `append_namespace_node` /
    `append_attribute_node` (refused iff the parent is not an element), everything else to `append`. -/
theorem C06_refusal_anyAppend (f : Forest) (p c : Nat) :
    Forest.Call.refusal f (.anyAppend p c) =
      match f.value? c with
      | some (.namespace _ _) => Forest.Call.refusal f (.appendEntryNode .namespaces p c)
      | some (.attribute _ _) => Forest.Call.refusal f (.appendEntryNode .attributes p c)
      | _ => Forest.Call.refusal f (.append p c) := by
  simp only [Forest.Call.refusal, Forest.entryRefused]
  split <;> rename_i hv <;> simp [hv, Forest.MapKind.matches] <;> cases f.isElement p <;> rfl

/-- Non-vacuity on `C06_sample` (`<doc><e xmlns:p=".." a="v">x</e></doc>` + an unattached comment 5): refusals of
    both error kinds, the accepted calls of the examples above, the documented panic - as `Call.answer` computes
    them and as the model answers. -/
example : (Forest.Call.append 4 5).refusal C06_sample = some .invalidOperation ∧
    (Forest.Call.append 1 1).refusal C06_sample = some .invalidOperation ∧
    (Forest.Call.insertAfter 0 5).refusal C06_sample = some .invalidOperation ∧
    (Forest.Call.insertBefore 3 5).refusal C06_sample = some .invalidOperation ∧
    (Forest.Call.replace 0 5).refusal C06_sample = some .invalidOperation ∧
    (Forest.Call.replace 5 4).refusal C06_sample = some .invalidOperation ∧
    (Forest.Call.replace 3 5).refusal C06_sample = some .invalidOperation ∧
    (Forest.Call.replace 1 4).refusal C06_sample = some .invalidOperation ∧
    (Forest.Call.elementWrap 3 7).refusal C06_sample = some .invalidOperation ∧
    (Forest.Call.elementUnwrap 4).refusal C06_sample = some .invalidOperation ∧
    (Forest.Call.anyAppend 4 3).refusal C06_sample = some .invalidOperation ∧
    (Forest.Call.appendEntryNode .attributes 1 2).refusal C06_sample = some .invalidOperation ∧
    (Forest.Call.setText 5 ['y']).refusal C06_sample = some .invalidOperation ∧
    (Forest.Call.setComment 5 ['a', '-', '-', 'b']).refusal C06_sample = some .invalidComment ∧
    (Forest.Call.setComment 4 ['a']).refusal C06_sample = some .invalidOperation ∧
    (Forest.Call.setPiData 5 none).refusal C06_sample = some .invalidOperation ∧
    (Forest.Call.textContentSet 0 ['y']).refusal C06_sample = some .invalidOperation := by decide +kernel
example : (Forest.Call.append 1 5).answer C06_sample = .ok ∧ (Forest.Call.replace 4 5).answer C06_sample = .ok ∧
    (Forest.Call.elementWrap 4 7).answer C06_sample = .ok ∧ (Forest.Call.elementUnwrap 1).answer C06_sample = .ok ∧
    (Forest.Call.setComment 5 ['a', '-', 'b']).answer C06_sample = .ok ∧
    (Forest.Call.textContentSet 1 ['y']).answer C06_sample = .ok ∧
    (Forest.Call.mapInsert .attributes 4 (.attribute 9 [])).answer C06_sample = .panic ∧
    (Forest.Call.mapInsert .attributes 1 (.attribute 9 [])).answer C06_sample = .ok := by decide +kernel
example : ((Forest.Call.setComment 5 ['a', '-', '-', 'b']).run C06_sample).2 = .err .invalidComment ∧
    ((Forest.Call.replace 1 4).run C06_sample).2 = .err .invalidOperation ∧
    ((Forest.Call.replace 1 4).run C06_sample).1.allHandles = C06_sample.allHandles := by decide +kernel

/-! ### The convenience calls of the public API (`Model/Fcreation.lean`)

  `append_text` / `append_element` / `append_comment` / `append_processing_instruction` /
  `append_namespace` create their node BEFORE they ask `append` / `append_namespace_node`, so a
  refusal is not literally "nothing changed": the fresh node exists, parentless, and no handle to
  it was ever handed out (`COp.refusedState`).  Every node that existed before is where and what
  it was.  `new_document_with_element` tests `is_element` first: its refusal creates nothing, and
  after the test it cannot fail.  The node-map wrappers panic exactly on a non-element
  (documented), the setters through the typed `_mut` accessors never do.  Proved for ALL forests
  satisfying the invariant and ALL arguments (no liveness hypothesis). -/

theorem C06_creation (f : Forest) (c : Forest.COp) (hi : f.Inv) : Forest.CClauses f c :=
  Forest.COp.run_clauses hi c

theorem C06_creation_atomic (f : Forest) (c : Forest.COp) (e : XotError) (hi : f.Inv)
    (h : (c.run f).2 = .err e) : (c.run f).1 = c.refusedState f :=
  (C06_creation f c hi).atomic e h

/-- What a refusal leaves: the store itself, or the store with one more parentless leaf whose
    handle is the fresh `f.next`. -/
theorem C06_creation_refusedState (f : Forest) (c : Forest.COp) :
    c.refusedState f = f ∨ ∃ v, c.refusedState f = { f with roots := f.roots ++ [.node f.next v []], next := f.next + 1 } := by
  cases c <;> first | exact Or.inl rfl | exact Or.inr ⟨_, rfl⟩

theorem C06_panic_creation_iff (f : Forest) (c : Forest.COp) (hi : f.Inv) :
    (c.run f).2 = .panic ↔ c.documentedPanic f = true :=
  (C06_creation f c hi).panic_iff

theorem C06_panic_creation_unchanged (f : Forest) (c : Forest.COp) (hi : f.Inv) (h : (c.run f).2 = .panic) :
    (c.run f).1 = f :=
  (C06_creation f c hi).panic_same h

theorem C06_corrupt_unreachable_creation (f : Forest) (c : Forest.COp) (hi : f.Inv) :
    (c.run f).1.corrupt = false :=
  (C06_creation f c hi).notCorrupt

/-- `new_document_with_element` of an element always succeeds and returns the new document node;
    of anything else it is refused before a node is created. -/
theorem C06_new_document_with_element (f : Forest) (n : Nat) (hi : f.Inv) :
    (f.isElement n = true → (f.newDocumentWithElement n).2 = (.ok, f.next)) ∧
    (f.isElement n = false → f.newDocumentWithElement n = (f, .err .invalidOperation, 0)) := by
  refine ⟨fun he => ?_, fun he => by simp [Forest.newDocumentWithElement, he]⟩
  obtain ⟨h1, h2⟩ := Forest.newDocumentWithElement_ok hi.toW he
  exact Prod.ext h1 h2

/-- Non-vacuity (same forest as above): refusals with and without a node left behind, the
    documented panic, accepted calls. -/
example : (C06_sample.appendText 4 ['q']).2 = .err .invalidOperation ∧
    (C06_sample.appendText 4 ['q']).1.allHandles = C06_sample.allHandles ++ [6] ∧
    (C06_sample.appendText 4 ['q']).1.isRoot 6 = true ∧
    (C06_sample.newDocumentWithElement 4).2 = (.err .invalidOperation, 0) ∧
    (C06_sample.newDocumentWithElement 4).1.next = 6 ∧
    (C06_sample.newDocumentWithElement 1).2 = (.ok, 6) ∧
    (C06_sample.appendNamespace 4 2 3).2.1 = .err .invalidOperation ∧
    (C06_sample.setAttribute 4 9 []).2 = .panic ∧ (C06_sample.setAttribute 1 9 []).2 = .ok ∧
    (C06_sample.attributeSetValue 3 ['w']).2 = .ok ∧ (C06_sample.attributeSetValue 4 ['w']).2 = .err .invalidOperation ∧
    (C06_sample.appendText 1 ['q']).2 = .ok := by decide +kernel

/-! ### The arena under the forest: indextree 4.7.2, pointer level (`Model/Arena*.lean`) -/

/-- A refused `checked_*` call leaves the arena LITERALLY unchanged (every slot, stamp, free-list
    link and both free-list heads) — for every arena, well-formed or not, and every pair of ids,
    live, removed, stale or out of range: all four functions decide before their first write. -/
theorem C06_arena_refusal_unchanged (a a' : Arena) (x y : Arena.NodeId) (e : Arena.NodeError) :
    (Arena.checkedAppend a x y = .done a' (.error e) → a' = a) ∧
    (Arena.checkedPrepend a x y = .done a' (.error e) → a' = a) ∧
    (Arena.checkedInsertAfter a x y = .done a' (.error e) → a' = a) ∧
    (Arena.checkedInsertBefore a x y = .done a' (.error e) → a' = a) :=
  ⟨Arena.checkedAppend_refused a x y a' e, Arena.checkedPrepend_refused a x y a' e,
   Arena.checkedInsertAfter_refused a x y a' e, Arena.checkedInsertBefore_refused a x y a' e⟩

/-- With live arguments on a well-formed arena `checked_append` always ends without panic. -/
theorem C06_arena_append_no_panic (a : Arena) (w : Arena.Wf a) (p x : Arena.NodeId) (hp : Arena.LiveId a p)
    (hx : Arena.LiveId a x) : ∃ a' res, Arena.checkedAppend a p x = .done a' res := by
  obtain ⟨g, r⟩ := w
  rw [hp.eq, hx.eq]
  by_cases hpx : p.index0 = x.index0
  · rw [hpx, Arena.checkedAppend_self]; exact ⟨_, _, rfl⟩
  · by_cases hanc : Arena.Reach g.par p.index0 x.index0
    · rw [r.checkedAppend_ancestor _ _ hp.2.1 hx.2.1 hpx hanc]; exact ⟨_, _, rfl⟩
    · obtain ⟨a2, h2, _, _⟩ := r.checkedAppend_ok _ _ hp.2.1 hx.2.1 hpx hanc
      exact ⟨_, _, h2⟩

/-- `checked_prepend` with live arguments panics in exactly one situation, before any write: the
    new child already is the first child of the parent. -/
theorem C06_arena_prepend_panic_iff (a : Arena) (g : Arena.Shape) (r : Arena.Rep a g) (p i : Nat)
    (hp : Arena.Live a p) (hi : Arena.Live a i) :
    ((g.kids p).head? = some i → Arena.checkedPrepend a (a.idAt p) (a.idAt i) = .panic a) ∧
    ((g.kids p).head? ≠ some i → ∃ a' res, Arena.checkedPrepend a (a.idAt p) (a.idAt i) = .done a' res) := by
  constructor
  · intro hf
    have hmem : i ∈ g.kids p := List.mem_of_mem_head? hf
    have hpar := (r.kidsLive p i hmem).2.2
    have hne : p ≠ i := r.par_ne hpar
    exact r.checkedPrepend_first_panics p i hp hi hne (fun h => r.acyclic i p hpar h) hf
  · intro hf
    by_cases hpi : p = i
    · rw [hpi, Arena.checkedPrepend_self]; exact ⟨_, _, rfl⟩
    · by_cases hanc : Arena.Reach g.par p i
      · rw [r.checkedPrepend_ancestor p i hp hi hpi hanc]; exact ⟨_, _, rfl⟩
      · obtain ⟨a2, h2, _, _⟩ := r.checkedPrepend_ok p i hp hi hpi hanc hf
        exact ⟨_, _, h2⟩

/-- Non-vacuity: refusals of each kind on closed arenas (self, ancestor, removed id), the
    documented panic, an accepted call — and what is NOT refused: the stale id `2:0` (its slot has
    been reused as `2:1`) passes the `Removed` check, which looks at the slot only; the call moves the
    new occupant and stores the stale id in the neighbour's pointer (the arena is no longer
    well-formed). -/
example : Arena.checkedAppend Arena.sampleB ⟨4, 0⟩ ⟨1, 0⟩ = .done Arena.sampleB (.error .appendAncestor) ∧
    Arena.checkedPrepend Arena.sampleB ⟨4, 0⟩ ⟨2, 0⟩ = .done Arena.sampleB (.error .prependAncestor) ∧
    Arena.checkedInsertAfter Arena.sampleB ⟨3, 0⟩ ⟨3, 0⟩ = .done Arena.sampleB (.error .insertAfterSelf) ∧
    (match Arena.checkedInsertBefore Arena.sampleC ⟨3, 0⟩ ⟨2, 0⟩ with
     | .done a' (.ok ()) => !a'.wf && (a'.get ⟨3, 0⟩).map (·.prev) == some (some ⟨2, 0⟩)
     | _ => false) = true ∧
    Arena.checkedAppend (Arena.sampleB.after (Arena.remove · ⟨3, 0⟩)) ⟨1, 0⟩ ⟨3, 0⟩ =
      .done (Arena.sampleB.after (Arena.remove · ⟨3, 0⟩)) (.error .removed) ∧
    Arena.checkedPrepend Arena.sampleB ⟨1, 0⟩ ⟨2, 0⟩ = .panic Arena.sampleB ∧
    (match Arena.checkedPrepend Arena.sampleB ⟨1, 0⟩ ⟨3, 0⟩ with
     | .done a' (.ok ()) => a'.wf && Arena.children a' ⟨1, 0⟩ 9 == .done a' [⟨3, 0⟩, ⟨2, 0⟩]
     | _ => false) = true := by decide +kernel

end XotModel.Props

/-! ## Prefixes: `create_missing_prefixes` / `deduplicate_namespaces` at forest level

  Model/FatomSpec2.lean: both functions walk the subtree read-only (the tree-level models of C10 / C15 on
  the erased root tree) and then change the store only through `namespaces_mut(h).insert` / `.remove`,
  i.e. through `Forest.Call`s run in the Rust's order (`Forest.runCalls`).  For EVERY forest with the
  invariant, every vocabulary and every node argument (live or not):

    C06_create_missing_prefixes_outcome   the three cases: `NotElement` / `NoElementAtTopLevel` with forest
                                          and interning tables returned as they were, `Ok` otherwise
    C06_create_missing_prefixes_atomic    a refused call changes nothing (both refusals precede the first call)
    C06_no_panic_create_missing_prefixes  never panics (walk: `pushed.pop().unwrap()` unreachable; prefix loop
                                          ends: C10's fuel lemma; every insertion meets an element)
    C06_deduplicate_namespaces_total      never fails, never panics; EVERY pass of its loop issues only `remove`
                                          calls on elements (`dedupCalls` is the call list of one pass, on
                                          whatever forest with the invariant the pass starts from)
    C06_deduplicate_namespaces_passes     the loop `while pass(node) {}` cut off after ANY number of rounds has
                                          neither failed nor panicked and left a forest with the invariant
-/

namespace XotModel.Props
open XotModel

/-- The outcome of `create_missing_prefixes(node)`, case by case. -/
theorem C06_create_missing_prefixes_outcome (f : Forest) (hi : f.Inv) (env : Env) (node : Nat) :
    (f.isDocument node = false → f.isElement node = false →
      f.createMissingPrefixes env node = (f, env, .err .notElement)) ∧
    (f.isDocument node = true → (∀ t, f.get? node = some t → ∀ k ∈ t.kids, k.value.isElement = false) →
      f.createMissingPrefixes env node = (f, env, .err .noElementAtTopLevel)) ∧
    ((f.isElement node = true ∨ (f.isDocument node = true ∧
        ∃ t k, f.get? node = some t ∧ k ∈ t.kids ∧ k.value.isElement = true)) →
      (f.createMissingPrefixes env node).2.2 = .ok) :=
  Forest.fpx_createMissingPrefixes hi env node

/-- The three cases are exhaustive: the outcome is `Ok` or one of the two refusals with NOTHING changed. -/
theorem C06_create_missing_prefixes_cases (f : Forest) (hi : f.Inv) (env : Env) (node : Nat) :
    (f.createMissingPrefixes env node).2.2 = .ok ∨
    f.createMissingPrefixes env node = (f, env, .err .notElement) ∨
    f.createMissingPrefixes env node = (f, env, .err .noElementAtTopLevel) := by
  obtain ⟨h1, h2, h3⟩ := C06_create_missing_prefixes_outcome f hi env node
  cases hd : f.isDocument node with
  | false =>
    cases he : f.isElement node with
    | false => exact Or.inr (Or.inl (h1 hd he))
    | true => exact Or.inl (h3 (Or.inl he))
  | true =>
    by_cases hk : ∃ t k, f.get? node = some t ∧ k ∈ t.kids ∧ k.value.isElement = true
    · exact Or.inl (h3 (Or.inr ⟨hd, hk⟩))
    · refine Or.inr (Or.inr (h2 hd (fun t hg k hkm => ?_)))
      cases hv : k.value.isElement with
      | false => rfl
      | true => exact absurd ⟨t, k, hg, hkm, hv⟩ hk

/-- **A refused `create_missing_prefixes` changes nothing**: if the call answers `Err(e)`, the forest and
    the interning tables are the ones it was called with (and `e` is `NotElement` or
    `NoElementAtTopLevel`: both refusals precede the first `namespaces_mut` call). -/
theorem C06_create_missing_prefixes_atomic (f : Forest) (hi : f.Inv) (env : Env) (node : Nat) (e : XotError)
    (h : (f.createMissingPrefixes env node).2.2 = .err e) :
    (f.createMissingPrefixes env node).1 = f ∧ (f.createMissingPrefixes env node).2.1 = env ∧
    (e = .notElement ∨ e = .noElementAtTopLevel) := by
  rcases C06_create_missing_prefixes_cases f hi env node with h1 | h1 | h1
  · rw [h1] at h; cases h
  · rw [h1] at h ⊢; injection h with h; exact ⟨rfl, rfl, Or.inl h.symm⟩
  · rw [h1] at h ⊢; injection h with h; exact ⟨rfl, rfl, Or.inr h.symm⟩

/-- `create_missing_prefixes` never panics, for every node argument. -/
theorem C06_no_panic_create_missing_prefixes (f : Forest) (hi : f.Inv) (env : Env) (node : Nat) :
    (f.createMissingPrefixes env node).2.2 ≠ .panic := by
  rcases C06_create_missing_prefixes_cases f hi env node with h1 | h1 | h1 <;> rw [h1] <;> exact fun h => by cases h

/-- The calls `create_missing_prefixes_for_element` issues on an element: they exist (no panic before
    the first one) and are namespace insertions on elements of the forest. -/
theorem C06_create_missing_prefixes_calls (f : Forest) (hi : f.Inv) (env : Env) (node : Nat)
    (he : f.isElement node = true) :
    ∃ env' cs, f.repairCalls env node = some (env', cs) ∧ ∀ c ∈ cs, c.isNsEdit f :=
  Forest.fpx_repairCalls hi env he

/-- **`deduplicate_namespaces` never fails and never panics**, for every node argument; the calls of a
    pass (of EVERY pass: `f` is any forest with the invariant, and every pass leaves one,
    `C06_deduplicate_namespaces_passes`) are `namespaces_mut(h).remove(prefix)` on elements `h` of the
    forest (live, hence not removed). -/
theorem C06_deduplicate_namespaces_total (f : Forest) (hi : f.Inv) (env : Env) (node : Nat) :
    (f.deduplicateNamespaces env node).2 = .ok ∧
    (∀ c ∈ f.dedupCalls env node, ∃ h pfx, c = .mapRemove .namespaces h pfx ∧ f.isElement h = true ∧
      f.isLive h = true) := by
  refine ⟨(Forest.fpx_deduplicateNamespaces hi env node).1, fun c hc => ?_⟩
  obtain ⟨h1, h, pfx, rfl⟩ := Forest.fpx_dedupCalls hi env node c hc
  exact ⟨h, pfx, rfl, h1, Forest.Fatom.isLive_of_isElement h1⟩

/-- The loop after any number of rounds (induction on the fuel over the per-pass statement): no
    error, no panic, the invariant holds (so the next pass meets the hypothesis of
    `C06_deduplicate_namespaces_total` again), every node is of the kind it was. -/
theorem C06_deduplicate_namespaces_passes (f : Forest) (hi : f.Inv) (env : Env) (node fuel : Nat) :
    (Forest.dedupLoop env node fuel f).2 = .ok ∧ (Forest.dedupLoop env node fuel f).1.Inv ∧
    ∀ x, (Forest.dedupLoop env node fuel f).1.isElement x = f.isElement x :=
  Forest.fpx_dedupLoop env node fuel hi

/-- `deduplicate_namespaces` leaves every node's kind alone (element stays element, non-element stays non-element). -/
theorem C06_prefix_calls_keep_elements (f : Forest) (hi : f.Inv) (env : Env) (node x : Nat) :
    (f.deduplicateNamespaces env node).1.isElement x = f.isElement x :=
  (Forest.fpx_deduplicateNamespaces hi env node).2.2 x

/-- Non-vacuity on `c06PfxForest` = `<a:e xmlns:p="urn:u"><a:e xmlns:p="urn:u"/></a:e>`: accepted on the
    element, refused with nothing changed on its namespace node; dedup removes the inner duplicate. -/
def c06PfxEnv : Env :=
  { namespaces := [[], ['x'], ['u'], ['w']], prefixes := [[], ['x','m','l'], ['p']],
    names := [(['s'], 1), (['e'], 3)] }
def c06PfxForest : Forest := { roots := [.node 0 (.element 1) [.node 1 (.namespace 2 2) [],
  .node 2 (.element 1) [.node 3 (.namespace 2 2) []]], .node 4 .document [.node 5 (.comment ['c']) []]], next := 6 }
example : c06PfxForest.inv = true := by decide +kernel
example : (c06PfxForest.createMissingPrefixes c06PfxEnv 0).2.2 = .ok ∧
    (c06PfxForest.createMissingPrefixes c06PfxEnv 1).2.2 = .err .notElement ∧
    (c06PfxForest.createMissingPrefixes c06PfxEnv 4).2.2 = .err .noElementAtTopLevel ∧
    (c06PfxForest.createMissingPrefixes c06PfxEnv 4).1.allHandles = c06PfxForest.allHandles ∧
    (c06PfxForest.dedupCalls c06PfxEnv 0).length = 1 ∧
    (c06PfxForest.deduplicateNamespaces c06PfxEnv 0).2 = .ok := by decide +kernel

end XotModel.Props

/-! ## Extended histories: C06 for the composite calls as steps of the histories

  `Forest.XCall` (Model/FhistSpec.lean): a call of `Forest.Call`, node creation, set_text_consolidation,
  remove_insignificant_whitespace, `create_missing_prefixes`, `deduplicate_namespaces`,
  `clone_with_prefixes` (for ANY iteration order of the inherited prefixes); `XCall.run` on a `Store`
  (forest + interning tables) gives the state reached and the outcome.  `XCall.liveArgs`: every node
  argument is live.  `XCall.documentedPanic`: the documented panics of `Forest.Call` (`attributes_mut` /
  `namespaces_mut` / `set_element_name` on a non-element) — the other steps and the composites have none.

  What the composites do, exactly (`C06_outcomes_ext`): `create_missing_prefixes` refuses `NotElement`
  (node neither element nor document) / `NoElementAtTopLevel` (document without an element child)
  BEFORE touching anything — forest and interning tables are returned as they were — and answers `Ok`
  otherwise; `deduplicate_namespaces` never fails; `clone_with_prefixes` of a live node returns a node;
  node creation, set_text_consolidation, remove_insignificant_whitespace return nothing that can fail. -/

namespace XotModel.Props
open XotModel

/-- **An extended call on live arguments that answers an error has changed nothing**:
    neither the forest nor the interning tables. -/
theorem C06_atomic_ext (s : Store) (c : Forest.XCall) (e : XotError) (hi : s.forest.Inv)
    (hl : c.liveArgs s.forest) (h : (c.run s).2 = .err e) : (c.run s).1 = s := by
  rcases Forest.xcall_clauses hi c hl with ⟨_, h'⟩ | ⟨_, h'⟩
  · exact h'.atomic e h
  · rw [h']

/-- **The only panics of extended calls on live arguments are the documented ones**
    (of the element-only accessors on a non-element), and they change nothing.  In particular the
    composites never panic: `pushed.pop().unwrap()` in the walk of `create_missing_prefixes` is
    unreachable and its prefix loop ends, every `namespaces_mut(h)` of both composites meets an
    element, the `unwrap`s inside `clone_node` cannot fail and the insertions of `clone_with_prefixes`
    are made on the clone only if it is an element. -/
theorem C06_nopanic_ext (s : Store) (c : Forest.XCall) (hi : s.forest.Inv) (hl : c.liveArgs s.forest)
    (h : (c.run s).2 = .panic) : c.documentedPanic s.forest = true ∧ (c.run s).1 = s := by
  rcases Forest.xcall_clauses hi c hl with ⟨_, h'⟩ | ⟨h1, h'⟩
  · exact absurd h h'.noPanic
  · exact ⟨h1, by rw [h']⟩

/-- The documented panic does happen (so `C06_nopanic_ext` is an equivalence). -/
theorem C06_documentedPanic_ext (s : Store) (c : Forest.XCall) (hi : s.forest.Inv)
    (hl : c.liveArgs s.forest) (h : c.documentedPanic s.forest = true) : (c.run s).2 = .panic := by
  rcases Forest.xcall_clauses hi c hl with ⟨h1, _⟩ | ⟨_, h'⟩
  · rw [h1] at h; cases h
  · rw [h']

/-- No extended call with live arguments uses an indextree primitive outside its list semantics. -/
theorem C06_corrupt_unreachable_ext (s : Store) (c : Forest.XCall) (hi : s.forest.Inv)
    (hl : c.liveArgs s.forest) : (c.run s).1.forest.corrupt = false := by
  rcases Forest.xcall_clauses hi c hl with ⟨_, h'⟩ | ⟨_, h'⟩
  · exact h'.notCorrupt
  · rw [h']; exact hi.notCorrupt

/-- What the steps that are not calls of `Forest.Call` answer, exactly.  Node
    creation, `set_text_consolidation`, `remove_insignificant_whitespace`, `deduplicate_namespaces`:
    `Ok` for EVERY argument, live or not (and the interning tables are the same).
    `clone_with_prefixes`: `Ok` on a live node, for every iteration order.
    `create_missing_prefixes`, for EVERY argument: `Ok`, or `NotElement` exactly when the node is
    neither an element nor a document, or `NoElementAtTopLevel` exactly when it is a document none of
    whose children is an element — and in both refusals the store (forest AND tables) is returned as
    it was: the refusals precede the first `namespaces_mut` call and the first `add_prefix`. -/
theorem C06_outcomes_ext (s : Store) (hi : s.forest.Inv) :
    (∀ v, ((Forest.XCall.newNode v).run s).2 = .ok) ∧
    (∀ b, ((Forest.XCall.setConsolidation b).run s).2 = .ok) ∧
    (∀ n, ((Forest.XCall.removeInsignificantWhitespace n).run s).2 = .ok) ∧
    (∀ n, ((Forest.XCall.deduplicateNamespaces n).run s).2 = .ok ∧
      ((Forest.XCall.deduplicateNamespaces n).run s).1.env = s.env) ∧
    (∀ n order, s.forest.isLive n = true → ((Forest.XCall.cloneWithPrefixes n order).run s).2 = .ok ∧
      ((Forest.XCall.cloneWithPrefixes n order).run s).1.env = s.env) ∧
    (∀ n, ((Forest.XCall.createMissingPrefixes n).run s).2 = .ok ∨
      (s.forest.isDocument n = false ∧ s.forest.isElement n = false ∧
        (Forest.XCall.createMissingPrefixes n).run s = (s, .err .notElement)) ∨
      (s.forest.isDocument n = true ∧
        (∀ t, s.forest.get? n = some t → ∀ k ∈ t.kids, k.value.isElement = false) ∧
        (Forest.XCall.createMissingPrefixes n).run s = (s, .err .noElementAtTopLevel))) :=
  Forest.xcall_outcomes hi

/-- `clone_with_prefixes` of a live node cannot panic, whatever the iteration order (proved here from
    the C06 lemmas: `clone_node` returns a node, every insertion meets an element). -/
theorem C06_no_panic_cloneWithPrefixes (f : Forest) (hi : f.Inv) (n : Nat) (hn : f.isLive n = true)
    (order : List (Nat × Nat)) : (f.cloneWithPrefixes n order).2 ≠ none := by
  have := Forest.cloneWithPrefixes_isSome hi hn order
  intro h; rw [h] at this; cases this

/-- Along histories: after ANY well-kinded extended history from the empty store (any vocabulary),
    the next extended call with live arguments is atomic and panics only as documented — the
    invariant the step theorems need holds at every point of time (`C04_reach_ext`). -/
theorem C06_atomic_nopanic_reach_ext (env : Env) (pre : List Forest.XCall) (hw : ∀ c ∈ pre, c.wellKinded)
    (c : Forest.XCall) (hl : c.liveArgs ((⟨Forest.init, env⟩ : Store).xrun pre).forest) :
    (∀ e, (c.run ((⟨Forest.init, env⟩ : Store).xrun pre)).2 = .err e →
      (c.run ((⟨Forest.init, env⟩ : Store).xrun pre)).1 = (⟨Forest.init, env⟩ : Store).xrun pre) ∧
    ((c.run ((⟨Forest.init, env⟩ : Store).xrun pre)).2 = .panic →
      c.documentedPanic ((⟨Forest.init, env⟩ : Store).xrun pre).forest = true ∧
      (c.run ((⟨Forest.init, env⟩ : Store).xrun pre)).1 = (⟨Forest.init, env⟩ : Store).xrun pre) := by
  have hi : ((⟨Forest.init, env⟩ : Store).xrun pre).forest.Inv :=
    Store.xrun_inv pre ((Forest.inv_iff _).mp (show Forest.init.inv = true by decide +kernel)) hw
  exact ⟨fun e h => C06_atomic_ext _ c e hi hl h, fun h => C06_nopanic_ext _ c hi hl h⟩

/-- Non-vacuity on `c06PfxForest` (`<a:e xmlns:p="urn:u"><a:e xmlns:p="urn:u"/></a:e>` and a document
    holding only a comment): live arguments; an accepted repair, the two refusals of
    `create_missing_prefixes` with forest and tables as they were, a dedup, a clone with prefixes, the
    documented panic; and a mixed history with its outcomes. -/
def c06XStore : Store := ⟨c06PfxForest, c06PfxEnv⟩
def c06XCalls : List Forest.XCall :=
  [.call (.append 4 2), .createMissingPrefixes 4, .deduplicateNamespaces 4, .cloneWithPrefixes 2 [(2, 2)],
   .createMissingPrefixes 5, .call (.detach 2), .createMissingPrefixes 4, .call (.mapClear .namespaces 5),
   .removeInsignificantWhitespace 0, .deduplicateNamespaces 0]
example : c06XStore.forest.Inv := (Forest.inv_iff _).1 (by decide +kernel)
example : (Forest.XCall.createMissingPrefixes 0).liveArgs c06XStore.forest ∧
    (Forest.XCall.createMissingPrefixes 1).liveArgs c06XStore.forest ∧
    (Forest.XCall.createMissingPrefixes 4).liveArgs c06XStore.forest ∧
    (Forest.XCall.cloneWithPrefixes 2 [(2, 2)]).liveArgs c06XStore.forest := by
  refine ⟨?_, ?_, ?_, ?_⟩ <;> intro x hx <;>
    simp only [Forest.XCall.args, List.mem_singleton] at hx <;> subst hx <;> decide
example : ((Forest.XCall.createMissingPrefixes 0).run c06XStore).2 = .ok ∧
    ((Forest.XCall.createMissingPrefixes 0).run c06XStore).1.env.prefixes = [[], ['x','m','l'], ['p'], ['n', '0']] ∧
    ((Forest.XCall.createMissingPrefixes 1).run c06XStore).2 = .err .notElement ∧
    ((Forest.XCall.createMissingPrefixes 1).run c06XStore).1.forest.allHandles = c06XStore.forest.allHandles ∧
    ((Forest.XCall.createMissingPrefixes 1).run c06XStore).1.env.prefixes = c06XStore.env.prefixes ∧
    ((Forest.XCall.createMissingPrefixes 4).run c06XStore).2 = .err .noElementAtTopLevel ∧
    ((Forest.XCall.deduplicateNamespaces 0).run c06XStore).2 = .ok ∧
    ((Forest.XCall.deduplicateNamespaces 0).run c06XStore).1.forest.allHandles = [0, 1, 2, 4, 5] ∧
    ((Forest.XCall.cloneWithPrefixes 2 [(2, 2)]).run c06XStore).2 = .ok ∧
    ((Forest.XCall.call (.mapClear .namespaces 5)).run c06XStore).2 = .panic ∧
    (Forest.XCall.call (.mapClear .namespaces 5)).documentedPanic c06XStore.forest = true := by
  decide +kernel
example : (∀ c ∈ c06XCalls, c.wellKinded) ∧
    c06XStore.xouts c06XCalls = [.ok, .ok, .ok, .ok, .err .notElement, .ok, .err .noElementAtTopLevel, .panic,
      .ok, .ok] ∧
    (c06XStore.xrun c06XCalls).forest.inv = true := by decide +kernel

end XotModel.Props

/-! ## Stale ids: which arena calls with removed / foreign ids change nothing

  Classes of ids and the slot-level conditions `Freed` / `Stale` / `FreedArg` / `OutOfRangeArg`:
  Lemmas/ArenaStale.lean, ArenaStaleCalls.lean; `Slot.Unlinked`: Lemmas/ArenaStaleCalls.lean; the full
  account of what each call does is in `Props/C04` (section "Stale ids").

  Unchanged — literally the same arena, hence still well-formed — for EVERY arena:
    * every read accessor and every iterator, whatever the id and the limit, also when it panics;
    * `checked_*` and the unchecked wrappers with a freed id in either position (`Err(Removed)` resp. the
      wrapper's `expect` panic), with an id beyond the slot vector (index panic), with the same id twice;
    * `detach` of an id whose slot has no parent / sibling pointers.
  NOT unchanged (no refusal exists in indextree 4.7.2, the functions never look at a stamp):
    * `detach` of an id freed inside a removed subtree (stale pointers are followed and rewritten);
    * `remove`, `remove_subtree` of a freed id (double free); a STALE id in any call (the new occupant
      of the slot is operated on and the stale id is stored in its neighbours).
-/

namespace XotModel.Props
open XotModel

/-- The calls with removed or foreign ids that change nothing. -/
theorem C06_arena_stale_unchanged (a : Arena) (x y : Arena.NodeId) (limit : Nat) :
    -- reads and iterators, every id
    ((Arena.isRemoved a x).arena = a ∧ (Arena.value a x).arena = a ∧
      (Arena.ancestors a x limit).arena = a ∧ (Arena.children a x limit).arena = a ∧
      (Arena.reverseChildren a x limit).arena = a ∧ (Arena.followingSiblings a x limit).arena = a ∧
      (Arena.precedingSiblings a x limit).arena = a ∧ (Arena.traverse a x limit).arena = a ∧
      (Arena.reverseTraverse a x limit).arena = a ∧ (Arena.descendants a x limit).arena = a) ∧
    -- a freed id in either position
    (y ≠ x → Arena.FreedArg a x y →
      Arena.checkedAppend a x y = .done a (.error .removed) ∧ Arena.checkedPrepend a x y = .done a (.error .removed) ∧
      Arena.checkedInsertAfter a x y = .done a (.error .removed) ∧
      Arena.checkedInsertBefore a x y = .done a (.error .removed) ∧
      Arena.append a x y = .panic a ∧ Arena.prepend a x y = .panic a ∧ Arena.insertAfter a x y = .panic a ∧
      Arena.insertBefore a x y = .panic a) ∧
    -- an id beyond the slot vector
    (y ≠ x → Arena.OutOfRangeArg a x y →
      Arena.checkedAppend a x y = .panic a ∧ Arena.checkedPrepend a x y = .panic a ∧
      Arena.checkedInsertAfter a x y = .panic a ∧ Arena.checkedInsertBefore a x y = .panic a) ∧
    -- the same id twice, whatever it is
    (Arena.checkedAppend a x x = .done a (.error .appendSelf) ∧ Arena.checkedPrepend a x x = .done a (.error .prependSelf) ∧
      Arena.checkedInsertAfter a x x = .done a (.error .insertAfterSelf) ∧
      Arena.checkedInsertBefore a x x = .done a (.error .insertBeforeSelf)) ∧
    -- `detach` of an id whose slot has no parent and no siblings
    (∀ s, a.slot x.index0 = some s → s.Unlinked → Arena.detach a x = .done a ()) := by
  obtain ⟨h3, _, h5, _, h7, h8, h9, h10, h11, h12⟩ := Arena.iterators_arena a x limit
  refine ⟨⟨Arena.isRemoved_arena a x, Arena.value_arena a x, h3, h5, h7, h8, h9, h10, h11, h12⟩,
    fun hne hf => ?_, fun hne ho => ?_,
    ⟨Arena.checkedAppend_self a x, Arena.checkedPrepend_self a x, Arena.checkedInsertAfter_self a x,
     Arena.checkedInsertBefore_self a x⟩, fun s hs hu => Arena.detach_unlinked a x s hs hu⟩
  · exact ⟨Arena.checkedAppend_freed hne hf, Arena.checkedPrepend_freed hne hf, Arena.checkedInsertAfter_freed hne hf,
      Arena.checkedInsertBefore_freed hne hf, Arena.append_freed hne hf, Arena.prepend_freed hne hf,
      Arena.insertAfter_freed hne hf, Arena.insertBefore_freed hne hf⟩
  · exact ⟨Arena.checkedAppend_out_of_range hne ho, Arena.checkedPrepend_out_of_range hne ho,
      Arena.checkedInsertAfter_out_of_range hne ho, Arena.checkedInsertBefore_out_of_range hne ho⟩

/-- Hence a well-formed arena is still well-formed after any of these calls (it is the same arena). -/
theorem C06_arena_stale_stays_wf (a : Arena) (w : Arena.Wf a) (x y : Arena.NodeId) (limit : Nat) :
    Arena.Wf (Arena.isRemoved a x).arena ∧ Arena.Wf (Arena.value a x).arena ∧
    Arena.Wf (Arena.ancestors a x limit).arena ∧ Arena.Wf (Arena.children a x limit).arena ∧
    Arena.Wf (Arena.descendants a x limit).arena ∧ Arena.Wf (Arena.traverse a x limit).arena ∧
    Arena.Wf (Arena.reverseTraverse a x limit).arena ∧
    (y ≠ x → (Arena.FreedArg a x y ∨ Arena.OutOfRangeArg a x y) →
      Arena.Wf (Arena.checkedAppend a x y).arena ∧ Arena.Wf (Arena.checkedPrepend a x y).arena ∧
      Arena.Wf (Arena.checkedInsertAfter a x y).arena ∧ Arena.Wf (Arena.checkedInsertBefore a x y).arena) ∧
    (∀ s, a.slot x.index0 = some s → s.Unlinked → Arena.Wf (Arena.detach a x).arena) := by
  obtain ⟨⟨h1, h2, h3, h4, _, _, _, h8, h9, h10⟩, hf, ho, _, hd⟩ := C06_arena_stale_unchanged a x y limit
  refine ⟨by rw [h1]; exact w, by rw [h2]; exact w, by rw [h3]; exact w, by rw [h4]; exact w, by rw [h10]; exact w,
    by rw [h8]; exact w, by rw [h9]; exact w, fun hne h => ?_, fun s hs hu => by rw [hd s hs hu]; exact w⟩
  rcases h with h | h
  · obtain ⟨e1, e2, e3, e4, _⟩ := hf hne h
    rw [e1, e2, e3, e4]; exact ⟨w, w, w, w⟩
  · obtain ⟨e1, e2, e3, e4⟩ := ho hne h
    rw [e1, e2, e3, e4]; exact ⟨w, w, w, w⟩

/-- Full-strength statement (FALSE): every mutating call with a removed id leaves the arena unchanged. -/
def C06_arena_stale_unchanged_Statement : Prop :=
  ∀ (a : Arena) (x : Arena.NodeId), Arena.Wf a → Arena.Removed a x →
    (Arena.detach a x).arena = a ∧ (Arena.remove a x).arena = a ∧ (Arena.removeSubtree a x).arena = a

/-- It fails for each of the three calls: `detach(4:0)` on `sampleG` / `sampleH` (a slot freed inside a
    removed subtree), `remove(3:0)` / `remove_subtree(3:0)` on `sampleF` (double free). -/
theorem C06_arena_stale_unchanged_Statement_false :
    ¬ C06_arena_stale_unchanged_Statement ∧
    (Arena.detach Arena.sampleG ⟨4, 0⟩).arena ≠ Arena.sampleG ∧ (Arena.detach Arena.sampleH ⟨4, 0⟩).arena ≠ Arena.sampleH ∧
    (Arena.remove Arena.sampleF ⟨3, 0⟩).arena ≠ Arena.sampleF ∧
    (Arena.removeSubtree Arena.sampleF ⟨3, 0⟩).arena ≠ Arena.sampleF := by
  have hrem : (Arena.remove Arena.sampleF ⟨3, 0⟩).arena ≠ Arena.sampleF := by decide +kernel
  exact ⟨fun h => hrem (h Arena.sampleF ⟨3, 0⟩ Arena.sampleF_wf (by decide +kernel)).2.1, by decide +kernel,
    by decide +kernel, hrem, by decide +kernel⟩

/-- Non-vacuity: the hypotheses on closed reachable arenas, and the calls evaluated. -/
example : Arena.Wf Arena.sampleF ∧ Arena.FreedArg Arena.sampleF ⟨1, 0⟩ ⟨3, 0⟩ ∧ Arena.FreedArg Arena.sampleF ⟨3, 0⟩ ⟨1, 0⟩ ∧
    Arena.OutOfRangeArg Arena.sampleF ⟨9, 0⟩ ⟨1, 0⟩ ∧
    (∃ s, Arena.sampleF.slot 2 = some s ∧ s.Unlinked) :=
  ⟨Arena.sampleF_wf, Or.inr ⟨⟨_, rfl, by decide +kernel⟩, ⟨_, rfl, by decide +kernel⟩⟩, Or.inl ⟨_, rfl, by decide +kernel⟩, Or.inl rfl,
   ⟨_, rfl, by decide +kernel⟩⟩

example : Arena.checkedInsertAfter Arena.sampleF ⟨1, 0⟩ ⟨3, 0⟩ = .done Arena.sampleF (.error .removed) ∧
    Arena.checkedPrepend Arena.sampleF ⟨3, 0⟩ ⟨1, 0⟩ = .done Arena.sampleF (.error .removed) ∧
    Arena.checkedInsertBefore Arena.sampleF ⟨9, 0⟩ ⟨1, 0⟩ = .panic Arena.sampleF ∧
    Arena.insertBefore Arena.sampleF ⟨1, 0⟩ ⟨3, 0⟩ = .panic Arena.sampleF ∧
    Arena.detach Arena.sampleF ⟨3, 0⟩ = .done Arena.sampleF () ∧
    Arena.detach Arena.sampleG ⟨2, 0⟩ = .done Arena.sampleG () := by decide +kernel

/-- A STALE id is not refused, in either position (`sampleC`: slot 1 reused, `2:0` stale, `2:1` live): as
    `self` of `checked_append` the new occupant `2:1` receives the child, whose `parent` pointer is the
    stale id; as the new sibling (`checked_insert_before`, example further up) the new occupant is
    moved and the stale id is stored in the neighbour — the arena is no longer well-formed. -/
example : Arena.eitherRemoved Arena.sampleC ⟨2, 0⟩ ⟨3, 0⟩ = .done Arena.sampleC false ∧
    (match Arena.checkedAppend Arena.sampleC ⟨2, 0⟩ ⟨3, 0⟩ with
     | .done a' (.ok ()) => !a'.wf && (a'.get ⟨3, 0⟩).map (·.parent) == some (some ⟨2, 0⟩) &&
         (a'.get ⟨2, 1⟩).map (·.first) == some (some ⟨3, 0⟩)
     | _ => false) = true := by decide +kernel

end XotModel.Props

/-! ## Full histories: C06 for histories that parse and edit

  `PCall` (Model/FparseHist.lean): an extended API call (`Forest.XCall`) or `parse mode text` (the text through the
  reference tokenizer and the builder, on the interning tables of the store; an accepted tree installed with
  `IdStore.parseInto`).  State `PStore` = forest + interning tables + xml:id index.

  A refused step — an API call that answers an error, a text that is rejected — leaves the FOREST and the
  xml:id INDEX exactly as they were (`C06_atomic_full`); an API call leaves the interning tables too
  (`C06_atomic_full_api`: the whole store is unchanged).  A rejected TEXT does not: the names, prefixes and
  namespaces the builder interned before it hit the error stay in the tables
  (`C06_rejected_parse_tables_Statement` is false of the code as it is: `<a><b></a>` leaves `a` and `b`
  behind); nothing observable through a node handle depends on that — interning only appends, ids already
  handed out keep their meaning.  The parser itself never panics (`C06_parse_outcomes_full`, from
  `C03_string_nopanic`). -/

namespace XotModel.Props
open XotModel

/-- **A refused step changes neither the forest nor the xml:id index**: an extended API
    call on live arguments that answers an error, or the parse of a text that is rejected (every `?` and
    `return Err` of `_parse` and of the epilogues of `parse` / `parse_fragment`: the half-built tree is
    reachable from no handle, `id_nodes_map.insert` is not reached). -/
theorem C06_atomic_full (s : PStore) (c : PCall) (hi : s.forest.Inv) (hl : c.liveArgs s.forest)
    (h : PCall.refused (c.run s).2) : (c.run s).1.forest = s.forest ∧ (c.run s).1.index = s.index :=
  PStore.fph_refused s c hi hl h

/-- An API step that answers an error has changed NOTHING: forest, interning tables, index. -/
theorem C06_atomic_full_api (s : PStore) (c : Forest.XCall) (e : XotError) (hi : s.forest.Inv)
    (hl : c.liveArgs s.forest) (h : ((PCall.api c).run s).2 = .api (.err e)) : ((PCall.api c).run s).1 = s :=
  PStore.fph_api_refused s c e hi hl h

/-- A parse step that answers an error: the text was rejected with that error (no hypothesis on the
    store at all), the store is as it was except for the interning tables, which are the ones the
    builder left. -/
theorem C06_atomic_full_parse (s : PStore) (m : Mode) (text : Str) (e : ParseErr)
    (h : ((PCall.parse m text).run s).2 = .rejected e) :
    ∃ env', parseString m s.env text = .err e env' ∧ ((PCall.parse m text).run s).1 = { s with env := env' } :=
  PStore.fph_parse_rejected s m text e h

/-- A parse step answers a document node — the store's next handle — or a parse
    error; never a panic. -/
theorem C06_parse_outcomes_full (s : PStore) (m : Mode) (text : Str) :
    (∃ p, parseString m s.env text = .ok p ∧ ((PCall.parse m text).run s).2 = .parsed s.forest.next) ∨
    (∃ e env', parseString m s.env text = .err e env' ∧ ((PCall.parse m text).run s).2 = .rejected e) := by
  rcases PStore.fph_parseString_cases m s.env text with ⟨p, hp⟩ | ⟨e, env', hp⟩
  · exact Or.inl ⟨p, hp, by rw [PStore.fph_run_parse_ok s hp]; rfl⟩
  · exact Or.inr ⟨e, env', hp, by rw [PStore.fph_run_parse_err s hp]⟩

/-- The only panics of the steps of a full history (on live arguments) are the documented ones of the
    element-only accessors, and they change nothing. -/
theorem C06_nopanic_full (s : PStore) (c : Forest.XCall) (hi : s.forest.Inv) (hl : c.liveArgs s.forest)
    (h : ((PCall.api c).run s).2 = .api .panic) :
    c.documentedPanic s.forest = true ∧ ((PCall.api c).run s).1 = s :=
  PStore.fph_api_panic s c hi hl h

/-- Along histories: after ANY well-kinded history of parses and API calls from `Xot::new()` (any
    vocabulary), the next step, if refused, has changed neither forest nor index — the invariant the step
    theorems need holds at every point of time (`C04_reach_full`). -/
theorem C06_atomic_reach_full (env : Env) (pre : List PCall) (hw : ∀ c ∈ pre, c.wellKinded)
    (c : PCall) (hl : c.liveArgs ((PStore.init env).run pre).forest)
    (h : PCall.refused (c.run ((PStore.init env).run pre)).2) :
    (c.run ((PStore.init env).run pre)).1.forest = ((PStore.init env).run pre).forest ∧
    (c.run ((PStore.init env).run pre)).1.index = ((PStore.init env).run pre).index :=
  C06_atomic_full _ c (PStore.fph_run_inv pre (PStore.fph_init_inv env) hw) hl h

/-- The clause at full strength for the tables: a rejected parse leaves the WHOLE store as it was. -/
def C06_rejected_parse_tables_Statement : Prop :=
  ∀ (s : PStore) (m : Mode) (text : Str) (e : ParseErr),
    ((PCall.parse m text).run s).2 = .rejected e → ((PCall.parse m text).run s).1 = s

def c06RejectedText : Str := "<a><b></a>".toList

/-- It does not hold of the code as it is: `<a><b></a>` is rejected (`InvalidCloseTag`) after `a` and `b`
    were interned (`DocumentBuilder::open_element` → `add_name`): the name table has grown by two. -/
theorem C06_rejected_parse_tables_false : ¬ C06_rejected_parse_tables_Statement := by
  intro hall
  have h1 : ∃ e, ((PCall.parse .document c06RejectedText).run (PStore.init Env.fresh)).2 = .rejected e := by
    rcases C06_parse_outcomes_full (PStore.init Env.fresh) .document c06RejectedText with ⟨p, hp, _⟩ | ⟨e, _, _, h⟩
    · have : (parseString .document Env.fresh c06RejectedText).err?.isSome = true := by
        unfold c06RejectedText
        rw [String.toList_ofList]
        decide +kernel
      rw [show (PStore.init Env.fresh).env = Env.fresh from rfl] at hp
      rw [hp] at this; cases this
    · exact ⟨e, h⟩
  obtain ⟨e, he⟩ := h1
  have h2 := congrArg (fun s => s.env.names.length) (hall _ _ _ e he)
  have h3 : ((PCall.parse .document c06RejectedText).run (PStore.init Env.fresh)).1.env.names.length = 4 := by
    unfold c06RejectedText
    rw [String.toList_ofList]
    decide +kernel
  simp only [h3] at h2
  cases h2

/-- Non-vacuity, closed: the history that parses `<r><e xml:id="i">t</e></r>` into `Xot::new()` (document 0, `r` 1,
    `e` 2, its `xml:id` attribute 3, the text 4; the index maps `i` to 2).  On the store it reaches the examples
    below run a `create_missing_prefixes` on the text node (refused) and the parse of a rejected text (refused,
    forest and index as after the first parse); an accepted fragment adds the handles 5 and 6. -/
def c06FullPre : List PCall := [.parse .document "<r><e xml:id=\"i\">t</e></r>".toList]
example : (∀ c ∈ c06FullPre, c.wellKinded) ∧
    ((PStore.init Env.fresh).run c06FullPre).forest.allHandles = [0, 1, 2, 3, 4] ∧
    ((PStore.init Env.fresh).run c06FullPre).index = [((0, ['i']), 2)] := by
  unfold c06FullPre
  rw [String.toList_ofList]
  decide +kernel
example :
    let s := (PStore.init Env.fresh).run c06FullPre
    PCall.refused ((PCall.api (.createMissingPrefixes 4)).run s).2 ∧
    PCall.refused ((PCall.parse .document c06RejectedText).run s).2 ∧
    ((PCall.parse .document c06RejectedText).run s).1.forest.allHandles = [0, 1, 2, 3, 4] ∧
    ((PCall.parse .document c06RejectedText).run s).1.index = [((0, ['i']), 2)] ∧
    ((PCall.parse .fragment ['x']).run s).1.forest.allHandles = [0, 1, 2, 3, 4, 5, 6] := by
  unfold c06FullPre c06RejectedText
  rw [String.toList_ofList, String.toList_ofList]
  decide +kernel

end XotModel.Props
