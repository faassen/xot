/-
  C18 — Whitespace stripping removes exactly the insignificant whitespace.
  Property theorems only; proofs are in Lemmas/Fws*.lean, the specification in Model/FwsSpec.lean.

  Setting.  `f` is ANY forest with the invariant of C04 (`Forest.Inv`) — text consolidation may
  have been switched off, adjacent text nodes may exist.  The start node is any live node:
  `Fws.Occurs f t anc` says that the subtree `t` sits in `f` below the chain of ancestors `anc`
  (nearest first); every live node has such a position (`C18_position`).
  `Fws.specTopRemoved anc t` is the set of handles the rule of the property selects
  (whitespace-only text, no sibling text with other content, innermost `xml:space` not
  `preserve`), `Fws.specTop anc t` what must be left of the subtree (`specStrip`, or nothing when
  the start node itself is such a text node).

  As of /repo 1e1d5fd the removal loop switches text consolidation off around the removals
  (`C18_safe`): removing a whitespace-only text node that stands between two text nodes (possible once
  consolidation has been off) does not merge its neighbours, and the theorems hold without any
  hypothesis on `everOff`.
-/
import XotModel.Generated
import XotModel.Lemmas.FwsMain
import XotModel.Lemmas.FparseHistStep
import XotModel.Lemmas.ParseWitness
import XotModel.Model.FspecSpec

namespace XotModel.Props
open XotModel XotModel.Fws

/-! ### Obligations on the constants read off `src/unpretty.rs` -/

/-- `is_whitespace` tests exactly the four XML whitespace characters (a set, order irrelevant),
    not `char::is_whitespace`. -/
theorem C18_whitespaceChars :
    Gen.whitespaceUnicode = false ∧
    ∀ c : Char, c ∈ Gen.whitespaceChars ↔ (c = ' ' ∨ c = '\t' ∨ c = '\r' ∨ c = '\n') := by
  refine ⟨rfl, fun c => ?_⟩
  simp only [Gen.whitespaceChars, List.mem_cons, List.not_mem_nil, or_false]

/-- The model's `isXmlWhitespace` is "every character is one of the extracted ones". -/
theorem C18_isXmlWhitespace (s : Str) :
    Forest.isXmlWhitespace s = s.all (fun c => decide (c ∈ Gen.whitespaceChars)) := by
  unfold Forest.isXmlWhitespace
  congr 1
  funext c
  rw [Bool.eq_iff_iff]
  simp only [Gen.whitespaceChars, Bool.or_eq_true, beq_iff_eq, decide_eq_true_eq, List.mem_cons,
    List.not_mem_nil, or_false, or_assoc]

/-- … and so is the specification's. -/
theorem C18_spec_whitespace (s : Str) : Fws.allWs s = s.all (fun c => decide (c ∈ Gen.whitespaceChars)) := by
  rw [← Fws.isXmlWhitespace_eq, C18_isXmlWhitespace]

/-- The keyword compared in `in_preserve_space` is the specification's. -/
theorem C18_preserveKeyword : Gen.preserveKeyword = Fws.preserve := rfl

/-- Every live node has a position. -/
theorem C18_position (f : Forest) (node : Nat) (t : HTree) (h : f.get? node = some t) :
    t.handle = node ∧ ∃ anc, Occurs f t anc :=
  ⟨Forest.get?_handle h, occurs_of_get? h⟩

/-- The loop collects, and the call removes, exactly the specification's set; the start node is
    left as `specStrip` of its subtree (or is gone when it is itself such a text node). -/
theorem C18_exact (f : Forest) (hinv : f.Inv)
    (t : HTree) (anc : List HTree) (pos : Occurs f t anc) :
    let g := f.removeInsignificantWhitespace t.handle
    -- the collection phase
    (Forest.descendantsNormal t).filter f.isInsignificantWhitespace = specTopRemoved anc t ∧
    -- what is left, in document order
    g.allHandles = f.allHandles.filter (fun h => !(specTopRemoved anc t).contains h) ∧
    -- the removed set
    (∀ h, f.isLive h = true → (g.isLive h = false ↔ h ∈ specTopRemoved anc t)) ∧
    -- the resulting subtree
    g.get? t.handle = specTop anc t := by
  intro g
  have nd := hinv.nodup
  have hv := hinv.valid
  have hh := strip_handles nd hv pos
  exact ⟨toRemove_eq nd hv pos, hh, fun h hl => strip_removed_iff nd hv pos hl, strip_get? nd hv pos⟩

/-- The specification's set lies inside the start node's subtree and consists of text nodes
    the rule selects at their own position. -/
theorem C18_exact_members (f : Forest) (hinv : f.Inv)
    (t : HTree) (anc : List HTree) (pos : Occurs f t anc) (n : Nat) (hn : n ∈ specTopRemoved anc t) :
    n ∈ HTree.handles t ∧
    ∃ k ancn, Occurs f k ancn ∧ k.handle = n ∧ k.value.isText = true ∧ topDeleted ancn k = true :=
  ⟨specTopRemoved_subset anc t n hn, removed_text hinv.nodup hinv.valid pos hn⟩

/-- Every other node, value and order is untouched; other trees are unchanged; the invariant of
    C04 is kept. -/
theorem C18_frame (f : Forest) (hinv : f.Inv)
    (t : HTree) (anc : List HTree) (pos : Occurs f t anc) :
    let g := f.removeInsignificantWhitespace t.handle
    (g.next = f.next ∧ g.consolidation = f.consolidation ∧ g.everOff = f.everOff ∧ g.corrupt = f.corrupt) ∧
    (∀ h, h ∉ specTopRemoved anc t → g.value? h = f.value? h ∧ g.parent? h = f.parent? h) ∧
    g.allHandles = f.allHandles.filter (fun h => !(specTopRemoved anc t).contains h) ∧
    (∀ r ∈ f.roots, t.handle ∉ HTree.handles r → r ∈ g.roots) ∧
    g.Inv := by
  intro g
  have nd := hinv.nodup
  have hv := hinv.valid
  have e : g = pruned f (fun h => (specTopRemoved anc t).contains h) := strip_eq_pruned nd hv pos
  refine ⟨by rw [e]; exact ⟨rfl, rfl, rfl, rfl⟩, fun h hR => strip_frame nd hv pos hR,
    strip_handles nd hv pos, fun r hr hnot => strip_other_roots nd hv pos hr hnot, ?_⟩
  rw [e]
  refine ⟨hinv.notCorrupt, pruned_nodup _ nd, fun h hm => hinv.below h ((pruned_sublist f _).subset hm), ?_, hinv.consOn⟩
  show validList (!f.everOff) (pruned f _).roots = true
  exact pruned_valid _ hinv.valid

/-- Applying it a second time changes nothing. -/
theorem C18_idem (f : Forest) (hinv : f.Inv)
    (t : HTree) (anc : List HTree) (pos : Occurs f t anc) :
    (f.removeInsignificantWhitespace t.handle).removeInsignificantWhitespace t.handle =
      f.removeInsignificantWhitespace t.handle :=
  strip_idem hinv.nodup hinv.valid pos

/-- The collect-then-remove loop is safe: no node is collected twice; the loop runs on the
    forest with consolidation switched off (`Fws.consOff f`), after any prefix its state is `f`
    minus that prefix, every `remove` is a plain `remove_subtree` (nothing is merged), and every
    node still to be removed is the same text node it was when collected. -/
theorem C18_safe (f : Forest) (hinv : f.Inv)
    (t : HTree) (anc : List HTree) (pos : Occurs f t anc) :
    let toRemove := (Forest.descendantsNormal t).filter f.isInsignificantWhitespace
    toRemove.Nodup ∧
    ∀ pre n post, toRemove = pre ++ n :: post →
      let g := pre.foldl (fun acc x => (acc.remove x).1) (consOff f)
      g = pruned (consOff f) (fun h => pre.contains h) ∧
      (g.remove n).1 = g.dropSubtree n ∧
      ∀ m ∈ n :: post, g.textOf m = f.textOf m ∧ (f.textOf m).isSome = true := by
  intro toRemove
  have nd := hinv.nodup
  have hv := hinv.valid
  have e : toRemove = specTopRemoved anc t := toRemove_eq nd hv pos
  refine ⟨e ▸ removed_nodup nd hv pos, ?_⟩
  intro pre n post hs
  exact strip_safe nd hv pos (e ▸ hs)

/-- While consolidation has never been off, no consolidation could fire even without the
    switch: the previous sibling of a text node (in particular of a collected one) is not a
    text node. -/
theorem C18_safe_separated (f : Forest) (hinv : f.Inv) (hoff : f.everOff = false)
    (k : HTree) (anc : List HTree) (pos : Occurs f k anc) (hk : k.value.isText = true)
    (p : Nat) (hp : f.prevSibling k.handle = some p) : f.textOf p = none :=
  prev_not_text hinv.nodup (strict_of_inv hinv hoff) pos hk hp

/-! ### Non-vacuity -/

example : exampleForest.Inv := (Forest.inv_iff _).1 (by decide +kernel)

/-- The start node `<c>` of `Fws.exampleForest` with its position. -/
example : ∃ t anc, Occurs exampleForest t anc ∧ t.handle = 7 ∧ specTopRemoved anc t = [8, 10] := by
  refine ⟨_, _, .kid (.root (List.Mem.head _)) (List.Mem.tail _ (List.Mem.tail _ (List.Mem.tail _ (List.Mem.tail _ (List.Mem.head _))))), rfl, ?_⟩
  decide +kernel

/-- On the whole of `Fws.exampleForest` = `<a xml:space="default">·<b xml:space="preserve">·</b>x<c>·<d/>\n</c></a>`
    (· = space; Model/FwsSpec.lean): only the two texts under `<c>` go (the first text of `<a>` is kept because of
    the sibling `x`, the one in `<b>` because of `preserve`). -/
example : (exampleForest.removeInsignificantWhitespace 0).allHandles = [0, 1, 2, 3, 4, 5, 6, 7, 9] := by decide +kernel

/-! ### Consolidation has been off: adjacent text nodes -/

/-- `Fws.adjacentWitness`: three adjacent whitespace-only text nodes (consolidation was off while
    they were added, is on again). The hypotheses hold with `everOff = true` … -/
example : adjacentWitness.Inv ∧ adjacentWitness.everOff = true ∧ adjacentWitness.consolidation = true :=
  ⟨(Forest.inv_iff _).1 (by decide +kernel), rfl, rfl⟩

/-- … and stripping at the middle one removes it alone: the two neighbours are not merged
    (node 3 stays, node 1 keeps its content). -/
example :
    (adjacentWitness.removeInsignificantWhitespace 2).allHandles = [0, 1, 3] ∧
    (adjacentWitness.removeInsignificantWhitespace 2).value? 1 = some (.text [' ']) ∧
    (adjacentWitness.removeInsignificantWhitespace 2).value? 3 = some (.text ['\t']) ∧
    (adjacentWitness.removeInsignificantWhitespace 2).consolidation = true := by decide +kernel

/-! ## Reachable stores: the call on any node of any store a history of parses and API calls reaches

  The theorems above assume `Forest.Inv`.  `PCall` histories on `PStore` (Model/FparseHist.lean: a step is the
  parse of an ARBITRARY text, accepted or not, or any extended API call `Forest.XCall`) keep it from
  `Xot::new()` (`PStore.fph_run_inv` = `C04_reach_full`, Props/C04.lean), so for the stores such a history
  reaches the hypothesis is discharged; what is left is `PCall.wellKinded` of the steps (a condition on calls as
  data: `mapInsert` into a view is given an entry of that view's kind) and the position of the start node,
  which every live node has (`C18_reachable_position_full`).

  `remove_insignificant_whitespace(node)` IS a step of these histories (`Forest.XCall.removeInsignificantWhitespace`),
  so the statements are about the store after `cs ++ [strip]` (`C18_reachable_step_full`: forest = the model
  function applied to the reached forest, tables and xml:id index untouched, answer `ok`). -/

def stripCall (node : Nat) : PCall := .api (.removeInsignificantWhitespace node)

/-- The call is a step: it answers `ok`, leaves interning tables and xml:id index
    alone, its forest is `Forest.removeInsignificantWhitespace` of the forest it meets, it is well-kinded, and
    the invariant holds after it. -/
theorem C18_reachable_step_full (env : Env) (cs : List PCall) (hw : ∀ c ∈ cs, c.wellKinded) (node : Nat) :
    let s := (PStore.init env).run cs
    let s' := (PStore.init env).run (cs ++ [stripCall node])
    s'.forest = s.forest.removeInsignificantWhitespace node ∧ s'.env = s.env ∧ s'.index = s.index ∧
    ((stripCall node).run s).2 = .api .ok ∧ (stripCall node).wellKinded ∧ s.forest.Inv ∧ s'.forest.Inv := by
  intro s s'
  have e : s' = s.step (stripCall node) := PStore.run_snoc _ cs _
  have hi : s.forest.Inv := PStore.fph_run_inv cs (PStore.fph_init_inv env) hw
  have hk : (stripCall node).wellKinded := by unfold stripCall PCall.wellKinded Forest.XCall.wellKinded; trivial
  refine ⟨by rw [e]; rfl, by rw [e]; rfl, by rw [e]; rfl, rfl, hk, hi, ?_⟩
  rw [e]; exact PStore.fph_step_inv hi _ hk

/-- Every live node of a reached store has a position (so the theorems below
    apply to every node the caller can name). -/
theorem C18_reachable_position_full (env : Env) (cs : List PCall) (node : Nat) (t : HTree)
    (h : ((PStore.init env).run cs).forest.get? node = some t) :
    t.handle = node ∧ ∃ anc, Occurs ((PStore.init env).run cs).forest t anc := C18_position _ node t h

/-- **`C18_exact` for the call on any node of any store a history of parses and API
    calls reaches**: the call removes exactly the specification's set. -/
theorem C18_reachable_exact_full (env : Env) (cs : List PCall) (hw : ∀ c ∈ cs, c.wellKinded)
    (t : HTree) (anc : List HTree) (pos : Occurs ((PStore.init env).run cs).forest t anc) :
    let f := ((PStore.init env).run cs).forest
    let g := ((PStore.init env).run (cs ++ [stripCall t.handle])).forest
    (Forest.descendantsNormal t).filter f.isInsignificantWhitespace = specTopRemoved anc t ∧
    g.allHandles = f.allHandles.filter (fun h => !(specTopRemoved anc t).contains h) ∧
    (∀ h, f.isLive h = true → (g.isLive h = false ↔ h ∈ specTopRemoved anc t)) ∧
    g.get? t.handle = specTop anc t := by
  intro f g
  have e : g = f.removeInsignificantWhitespace t.handle := (C18_reachable_step_full env cs hw t.handle).1
  rw [e]
  exact C18_exact f (PStore.fph_run_inv cs (PStore.fph_init_inv env) hw) t anc pos

/-- `C18_exact_members` on reached stores. -/
theorem C18_reachable_exact_members_full (env : Env) (cs : List PCall) (hw : ∀ c ∈ cs, c.wellKinded)
    (t : HTree) (anc : List HTree) (pos : Occurs ((PStore.init env).run cs).forest t anc)
    (n : Nat) (hn : n ∈ specTopRemoved anc t) :
    n ∈ HTree.handles t ∧
    ∃ k ancn, Occurs ((PStore.init env).run cs).forest k ancn ∧ k.handle = n ∧ k.value.isText = true ∧
      topDeleted ancn k = true :=
  C18_exact_members _ (PStore.fph_run_inv cs (PStore.fph_init_inv env) hw) t anc pos n hn

/-- **`C18_frame` on reached stores**: every other node, value and order is
    untouched, other trees are unchanged, the settings are as they were. -/
theorem C18_reachable_frame_full (env : Env) (cs : List PCall) (hw : ∀ c ∈ cs, c.wellKinded)
    (t : HTree) (anc : List HTree) (pos : Occurs ((PStore.init env).run cs).forest t anc) :
    let f := ((PStore.init env).run cs).forest
    let g := ((PStore.init env).run (cs ++ [stripCall t.handle])).forest
    (g.next = f.next ∧ g.consolidation = f.consolidation ∧ g.everOff = f.everOff ∧ g.corrupt = f.corrupt) ∧
    (∀ h, h ∉ specTopRemoved anc t → g.value? h = f.value? h ∧ g.parent? h = f.parent? h) ∧
    g.allHandles = f.allHandles.filter (fun h => !(specTopRemoved anc t).contains h) ∧
    (∀ r ∈ f.roots, t.handle ∉ HTree.handles r → r ∈ g.roots) ∧
    g.Inv := by
  intro f g
  have e : g = f.removeInsignificantWhitespace t.handle := (C18_reachable_step_full env cs hw t.handle).1
  rw [e]
  exact C18_frame f (PStore.fph_run_inv cs (PStore.fph_init_inv env) hw) t anc pos

/-- **`C18_idem` on reached stores**: the call twice in a row = the call once. -/
theorem C18_reachable_idem_full (env : Env) (cs : List PCall) (hw : ∀ c ∈ cs, c.wellKinded)
    (t : HTree) (anc : List HTree) (pos : Occurs ((PStore.init env).run cs).forest t anc) :
    ((PStore.init env).run (cs ++ [stripCall t.handle, stripCall t.handle])).forest =
      ((PStore.init env).run (cs ++ [stripCall t.handle])).forest := by
  have e1 : (PStore.init env).run (cs ++ [stripCall t.handle, stripCall t.handle]) =
      (((PStore.init env).run cs).step (stripCall t.handle)).step (stripCall t.handle) := by
    rw [PStore.fph_run_append]; rfl
  rw [e1, PStore.run_snoc]
  exact C18_idem _ (PStore.fph_run_inv cs (PStore.fph_init_inv env) hw) t anc pos

/-- **`C18_safe` on reached stores**: the collect-then-remove loop of the call is
    safe whatever history produced the store. -/
theorem C18_reachable_safe_full (env : Env) (cs : List PCall) (hw : ∀ c ∈ cs, c.wellKinded)
    (t : HTree) (anc : List HTree) (pos : Occurs ((PStore.init env).run cs).forest t anc) :
    let f := ((PStore.init env).run cs).forest
    let toRemove := (Forest.descendantsNormal t).filter f.isInsignificantWhitespace
    toRemove.Nodup ∧
    ∀ pre n post, toRemove = pre ++ n :: post →
      let g := pre.foldl (fun acc x => (acc.remove x).1) (consOff f)
      g = pruned (consOff f) (fun h => pre.contains h) ∧
      (g.remove n).1 = g.dropSubtree n ∧
      ∀ m ∈ n :: post, g.textOf m = f.textOf m ∧ (f.textOf m).isSome = true :=
  C18_safe _ (PStore.fph_run_inv cs (PStore.fph_init_inv env) hw) t anc pos

/-- `C18_safe_separated` on reached stores (`everOff = false` holds of every
    store whose history never called `set_text_consolidation(false)`). -/
theorem C18_reachable_safe_separated_full (env : Env) (cs : List PCall) (hw : ∀ c ∈ cs, c.wellKinded)
    (hoff : ((PStore.init env).run cs).forest.everOff = false)
    (k : HTree) (anc : List HTree) (pos : Occurs ((PStore.init env).run cs).forest k anc)
    (hk : k.value.isText = true) (p : Nat)
    (hp : ((PStore.init env).run cs).forest.prevSibling k.handle = some p) :
    ((PStore.init env).run cs).forest.textOf p = none :=
  C18_safe_separated _ (PStore.fph_run_inv cs (PStore.fph_init_inv env) hw) hoff k anc pos hk p hp

/-! ### Non-vacuity: parse, strip, read back (from the tables of `Xot::new()`, `Env.fresh`)

  `<a> <b xml:space="preserve"> </b>\n</a>`: document 0, `a` = 1, the text ` ` = 2, `b` = 3 with the attribute
  `xml:space` = 4 (name 0 of `Xot::new()`) and the text ` ` = 5, the text `\n` = 6.  Stripping at the document
  removes 2 and 6 and keeps 5 (`preserve`). -/

def c18Text : Str := "<a> <b xml:space=\"preserve\"> </b>\n</a>".toList
def c18Calls : List PCall := [.parse .document c18Text]
def c18Doc : HTree :=
  .node 0 .document [.node 1 (.element 2) [.node 2 (.text [' ']) [],
    .node 3 (.element 3) [.node 4 (.attribute 0 ['p', 'r', 'e', 's', 'e', 'r', 'v', 'e']) [], .node 5 (.text [' ']) []],
    .node 6 (.text ['\n']) []]]
theorem c18Calls_wellKinded : ∀ c ∈ c18Calls, c.wellKinded := by decide +kernel
theorem c18Roots : ((PStore.init Env.fresh).run c18Calls).forest.roots = [c18Doc] := by
  unfold c18Calls c18Text
  rw [String.toList_ofList]
  decide +kernel
theorem c18Pos : Occurs ((PStore.init Env.fresh).run c18Calls).forest c18Doc [] :=
  .root (by rw [c18Roots]; exact List.mem_singleton.mpr rfl)

example : (PStore.init Env.fresh).outs (c18Calls ++ [stripCall 0]) = [.parsed 0, .api .ok] := by
  unfold c18Calls c18Text
  rw [String.toList_ofList]
  decide +kernel
example : specTopRemoved [] c18Doc = [2, 6] := by decide +kernel
/-- read back: what the theorem says … -/
example : ((PStore.init Env.fresh).run (c18Calls ++ [stripCall 0])).forest.allHandles =
    ((PStore.init Env.fresh).run c18Calls).forest.allHandles.filter (fun h => !(specTopRemoved [] c18Doc).contains h) :=
  (C18_reachable_exact_full Env.fresh c18Calls c18Calls_wellKinded c18Doc [] c18Pos).2.1
/-- … and what the model computes. -/
example : ((PStore.init Env.fresh).run (c18Calls ++ [stripCall 0])).forest.roots =
    [.node 0 .document [.node 1 (.element 2)
      [.node 3 (.element 3) [.node 4 (.attribute 0 ['p', 'r', 'e', 's', 'e', 'r', 'v', 'e']) [], .node 5 (.text [' ']) []]]]] ∧
    ((PStore.init Env.fresh).run (c18Calls ++ [stripCall 0])).forest.allHandles = [0, 1, 3, 4, 5] ∧
    ((PStore.init Env.fresh).run (c18Calls ++ [stripCall 0, stripCall 0])).forest.allHandles = [0, 1, 3, 4, 5] := by
  unfold c18Calls c18Text
  rw [String.toList_ofList]
  decide +kernel

end XotModel.Props
