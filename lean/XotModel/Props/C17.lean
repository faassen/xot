/-
  C17 — Source spans and error positions point at the right text.  Property theorems only.

  Proved for every token list satisfying the token-shape contract (no bound):
    C17_errors           every `ParseError` span has both end points in `[0, len]`
    C17_errors_content   positions reported by `parse_content` lie inside the slice it was given,
                         including the `base_position` arithmetic
    C17_inside           every recorded span has both end points in `[0, len]`
    C17_span_*           which token-level span is recorded under each `SpanInfoKey`
    C17_total            every element, attribute, text, comment and PI of an accepted tree has
                         its spans, at every depth (C17_total_top: the top-level instance used
                         by the epilogues)
    C17_ordered          `start ≤ end` for every recorded span and every error span, when the
                         character-data tokens come in source order
    C17_boundaries       every end point is a char boundary of the source, when the token spans are
                         slices of the source
    C17_error_step_reserved   the two reserved-name errors: `InvalidTarget` is raised by the PI arm with the
                         span of the PI's target, `InvalidNamespaceDeclaration` by a namespace-declaration
                         attribute with the span of its NAME (like `DuplicateAttribute`); both are errors of
                         one token of the list (C17_error_reserved_origin), so C17_errors / C17_ordered /
                         C17_boundaries cover them like every other `ParseErr` (`ParseErr.span`)
  For the reference tokenizer (Model/Lex*.lean: xmlparser 0.13.6 as written; tied to the crate by the
  `lex` suite), on EVERY string:
    C17_lex_slices / _sliceOf   every token span is the slice of the text at its byte offsets
    C17_lex_errpos, C17_lex_shape, C17_lex_ordered   error position, token-shape contract, source order
    C17_string_inside / _boundaries / _ordered       the theorems above with no assumption left
    C17_lex_canonical_positions   canonical spelling ⇒ exactly the positions it implies
  AT TOKEN LEVEL, ON EVERY TEXT, accepted or not (Lemmas/LexDelims.lean):
    C17_token_delims_document / _fragment / C17_token_delims   the delimiters of every comment, PI and end-tag token
                         (`Token.Delims`) and the position of every text token (`TextAdj`, `TextFirst`)
  TREE LEVEL ON STRINGS (Lemmas/SpanDesc*.lean: every node is made by a token whose span is the one
  recorded; Lemmas/LexSpell*.lean: what those spans spell; Lemmas/SpanSlice*.lean):
  for every string accepted by `parse` / `parse_fragment` and every node of the tree,
    C17_names_whole      (/repo a5fafb0) in an accepted text no name is written `:local`: the prefix is absent
                         (offset 0) or non-empty and abuts the colon, so the recorded name span covers the
                         WHOLE name as written (`WholeName`)
    C17_slice_element    `ElementStart` slices the source to the WHOLE qualified name as written, whose local
                         name is the node name's and whose prefix is bound (own declarations first,
                         then the enclosing ones) to the node name's namespace; `ElementEnd` slices to
                         `/>` or to a text `</…>`
    C17_slice_attribute  `AttributeName` slices to the WHOLE qualified name as written, `AttributeValue` to the
                         value text, which decodes (`parse_attribute`, ID-normalised for the name id of
                         xml:id) to the attribute node's value
                         (the value span lies between two equal quote characters of the source)
    C17_slice_comment    `Comment` slices to the body AS WRITTEN; the node's value is `normalizeLineEnds` of
                         that slice (CR LF → LF, then CR → LF: `<!--x\r\ny-->` has the value `x\ny` and a
                         span of 4 bytes)
    C17_slice_pi         `PiTarget` slices to the target = the local name of the node's name (never `xml`
                         in any letter case); `PiContent` slices to the data AS WRITTEN, and the node's data
                         is `normalizeLineEnds` of that slice
    C17_slice_comment_noCr / C17_slice_pi_noCr   when the slice (in particular: the text,
                         `…_noCr_source`) contains no CR, the slice IS the value / the data
    C17_slice_text       `Text` slices to the source of the run of text / CDATA tokens behind the node,
                         from inside the first part to inside the last (`runSlice`), and decoding that
                         slice (`decodeRun`) gives the node's value
    C17_span_of_every_node   all of it, for every path at once
  THE BYTES AROUND THE SPANS (Lemmas/LexDelims*.lean: delimiters of every token of the tokenizer;
  Lemmas/SpanDesc*.lean: the loop invariant links an end tag to the start tag through `open_prefixes`;
  Lemmas/SpanSliceDelims.lean):
    C17_slice_element_end_name   for an element closed by an end tag the `ElementEnd` slice is `</` ++ the
                         qualified name EXACTLY AS THE START TAG WROTE IT (the `ElementStart` slice) ++ white
                         space ++ `>`; for an empty-element tag it is `/>` (_source: on slices only)
    C17_slice_comment_delimiters, C17_slice_pi_delimiters   the source reads `<!--` body `-->` resp. `<?` target,
                         white space, data, `?>` around the recorded spans (as a decomposition of the text
                         and as `str::get` of the bytes directly before / after the spans)
    C17_run_mode_from_source   the run behind a text node starts with a CDATA token iff the nine bytes in front
                         of the `Text` span are `<![CDATA[` (`cdataOpenBefore`, the harness oracle's test)
    C17_decode_text_from_source   hence: decoding the `Text` slice, the start mode read off the source, gives the
                         node's value - a statement about the source, the span and the value only
  ERRORS ON STRINGS (Lemmas/SpanReservedErrors.lean): for every string rejected with
    C17_error_invalidTarget   `InvalidTarget(target, span)`: `span` is the target span of a PI token of the text,
                         slices the text to `target`, and `target` is `xml` in some letter case
    C17_error_invalidNamespaceDeclaration   `InvalidNamespaceDeclaration(name, span)`: `span` is the name span of
                         an attribute token `xmlns:p` / `xmlns`, slices the text to that name as written; the
                         attribute's decoded value is reserved for the prefix (`reservedDecl`)
-/
import XotModel.Lemmas.ParseSpans
import XotModel.Lemmas.ParseSpanKeys
import XotModel.Lemmas.ParseSpanTotal
import XotModel.Lemmas.ParseWitnessData
import XotModel.Lemmas.TokenShapeB
import XotModel.Lemmas.LexSlice
import XotModel.Lemmas.LexSliceOrder
import XotModel.Lemmas.LexCanon
import XotModel.Model.ParseString
import XotModel.Lemmas.SpanSlice
import XotModel.Lemmas.SpanSliceDelims
import XotModel.Lemmas.SpanWitness
import XotModel.Lemmas.SpanReservedErrors
import XotModel.Lemmas.ColonWitness
import XotModel.Lemmas.ParseErase
import XotModel.Lemmas.LexDelimsWitness
import XotModel.Lemmas.SpanScope
import XotModel.Props.C03

namespace XotModel.Props
open XotModel XotModel.Witness

/-- Every error span lies in `[0, len]`. -/
theorem C17_errors {m : Mode} {len : Nat} {env env' : Env} {ts : List Token} {lexErr : Option Nat} {e : ParseErr}
    (hshape : TokenShape len ts lexErr) (h : build m len env ts lexErr = .err e env') :
    e.span.InBounds len := by
  have := build_good m env ts lexErr hshape.inside hshape.lexPos
  rw [h] at this; exact this

/-- Every recorded span lies in `[0, len]`. -/
theorem C17_inside {m : Mode} {len : Nat} {env : Env} {ts : List Token} {lexErr : Option Nat} {p : Parsed}
    (hshape : TokenShape len ts lexErr) (h : build m len env ts lexErr = .ok p) :
    ∀ e ∈ p.spans, e.2.InBounds len := by
  have := build_good m env ts lexErr hshape.inside hshape.lexPos
  rw [h] at this; exact this

/-- Error positions of `parse_content(content, attribute, base_position)` lie within
    `[base_position, base_position + content.len()]`. -/
theorem C17_errors_content (attr : Bool) (base : Nat) (s : Str) (e : ContentErr)
    (h : parseContentGo attr base 0 s = .error e) : e.within base (base + strLen s) := by
  simpa using parseGo_error_within h

/-- Non-vacuity: `<a></b>` is rejected with the span of `b` in the end tag, inside `[0, 7]`. -/
example : (build .document mismatchLen Env.fresh mismatch none).errSpan = some ⟨5, 6⟩ := by
  rw [build_eq_buildE]; decide +kernel
example : TokenShape mismatchLen mismatch none := tokenShape_of_B (by decide +kernel)

/-- The two reserved-name errors (`e.isReservedKind`: `InvalidTarget`, `InvalidNamespaceDeclaration`) and
    the token that raises them.  `InvalidTarget` comes from the PI arm of `_parse` and carries the PI's
    target and the TARGET span; `InvalidNamespaceDeclaration` comes from an attribute that is a namespace
    declaration (`IsNsDecl`: `xmlns:p` declares `p`, `xmlns` the empty prefix) whose DECODED value is
    reserved for that prefix, and carries the span of the attribute NAME as written
    (`Span::from_prefix_name`, the span `DuplicateAttribute` uses). No other arm raises either. -/
theorem C17_error_step_reserved {b : Builder} {t : Token} {e : ParseErr} {env' : Env}
    (h : b.step t = .err e env') (hk : e.isReservedKind = true) :
    (∃ tg c w, t = .pi tg c w ∧ e = .invalidTarget tg.text tg.span ∧ isReservedPiTarget tg.text = true) ∨
    (∃ p l v w pfx, t = .attribute p l v w ∧ IsNsDecl p.text l.text pfx ∧
      e = .invalidNamespaceDeclaration (declDisplayName pfx) (Span.fromPrefixName p l) ∧
      ∃ u, parseContentGo true v.start 0 v.text = .ok u ∧ reservedDecl pfx u = true) :=
  step_err_reserved h hk

/-- … and conversely both are raised whenever their condition holds, whatever the builder state. -/
theorem C17_error_step_invalidTarget (b : Builder) (tg : StrSpan) (c : Option StrSpan) (w : StrSpan)
    (h : isReservedPiTarget tg.text = true) :
    b.step (.pi tg c w) = .err (.invalidTarget tg.text tg.span) b.env := by
  simp only [Builder.step, h, if_true]

theorem C17_error_prefix_reserved (b : Builder) (pfx : Str) (uri : StrSpan) (nameSpan : Span) (u : Str)
    (hu : parseContentGo true uri.start 0 uri.text = .ok u) (h : reservedDecl pfx u = true) :
    b.prefix pfx uri nameSpan = .err (.invalidNamespaceDeclaration (declDisplayName pfx) nameSpan) b.env := by
  unfold Builder.prefix
  rw [hu]
  simp only [h, if_true]

/-- A reserved-name error of `parse` / `parse_fragment` is the error of one arm on one of the tokens
    (neither the end of the loop nor the epilogues raise one). -/
theorem C17_error_reserved_origin {m : Mode} {len : Nat} {env env' : Env} {ts : List Token} {lexErr : Option Nat}
    {e : ParseErr} (h : build m len env ts lexErr = .err e env') (hk : e.isReservedKind = true) :
    ∃ t ∈ ts, ∃ b1 : Builder, b1.step t = .err e env' :=
  build_err_reserved h hk

/-- Non-vacuity: `<?XmL d?><a/>` is rejected with `InvalidTarget("XmL", 2..5)`, the span of the target;
    `<a xmlns:p=""/>` with `InvalidNamespaceDeclaration("xmlns:p", 3..10)`, the span of the attribute name
    (the value `""` lies at 12..12). -/
example : (build .document 13 Env.fresh xmlPiDoc none).err? = some (.invalidTarget ['X', 'm', 'L'] ⟨2, 5⟩) := by
  rw [build_eq_buildE]; decide +kernel
example : (build .document 15 Env.fresh undeclDoc none).err? =
    some (.invalidNamespaceDeclaration ['x', 'm', 'l', 'n', 's', ':', 'p'] ⟨3, 10⟩) := by
  rw [build_eq_buildE]; decide +kernel
example : (ParseErr.invalidTarget ['X', 'm', 'L'] ⟨2, 5⟩).isReservedKind = true ∧
    (ParseErr.invalidNamespaceDeclaration ['x', 'm', 'l', 'n', 's', ':', 'p'] ⟨3, 10⟩).isReservedKind = true ∧
    isReservedPiTarget ['X', 'm', 'L'] = true ∧ reservedDecl ['p'] [] = true ∧
    IsNsDecl ['x', 'm', 'l', 'n', 's'] ['p'] ['p'] := ⟨rfl, rfl, by decide +kernel, by decide +kernel, .inl ⟨rfl, rfl⟩⟩
example : TokenShape 13 xmlPiDoc none ∧ TokenShape 15 undeclDoc none :=
  ⟨tokenShape_of_B (by decide +kernel), tokenShape_of_B (by decide +kernel)⟩

/-- Every recorded span and every error span satisfies `start ≤ end`, when prefix
    and local-name spans abut the colon (token-shape contract) and the character-data tokens
    come in source order. -/
theorem C17_ordered {m : Mode} {len : Nat} {env : Env} {ts : List Token} {lexErr : Option Nat}
    (hshape : TokenShape len ts lexErr) (hto : TextOrdered ts) :
    (∀ p, build m len env ts lexErr = .ok p → ∀ e ∈ p.spans, e.2.start ≤ e.2.stop) ∧
    (∀ e env', build m len env ts lexErr = .err e env' → e.span.start ≤ e.span.stop) := by
  have h := build_ord m len env ts lexErr hshape.abuts hto
  constructor
  · intro p hp; rw [hp] at h; exact h
  · intro e env' he; rw [he] at h; exact h

example : TextOrdered goodDoc := textOrdered_of_B _ (by decide +kernel)

/-- When every token span is a slice of the source text `src` (its text occurs in
    `src` at its byte offset — what a tokenizer returns), every recorded span and every error span
    starts and ends on a CHAR BOUNDARY of `src` (in particular inside `[0, len]`), including the
    positions `parse_content` computes inside a slice. -/
theorem C17_boundaries {m : Mode} {src : Str} {env : Env} {ts : List Token} {lexErr : Option Nat}
    (hts : ∀ t ∈ ts, t.All (StrSpan.SliceOf src)) (hlex : ∀ p, lexErr = some p → IsBoundary src p) :
    (∀ p, build m (strLen src) env ts lexErr = .ok p →
      ∀ e ∈ p.spans, IsBoundary src e.2.start ∧ IsBoundary src e.2.stop) ∧
    (∀ e env', build m (strLen src) env ts lexErr = .err e env' →
      IsBoundary src e.span.start ∧ IsBoundary src e.span.stop) := by
  have h := build_boundaries m src env ts lexErr hts hlex
  constructor
  · intro p hp; rw [hp] at h; exact h
  · intro e env' he; rw [he] at h; exact h

/-- Non-vacuity: the tokens of `<a></b>` are slices of that text. -/
example : ∀ t ∈ mismatch, t.All (StrSpan.SliceOf ['<', 'a', '>', '<', '/', 'b', '>']) := by
  intro t ht
  simp only [mismatch, List.mem_cons, List.not_mem_nil, or_false] at ht
  rcases ht with rfl | rfl | rfl
  · exact ⟨⟨[], ['<', 'a', '>', '<', '/', 'b', '>'], rfl, rfl⟩, ⟨['<'], ['>', '<', '/', 'b', '>'], rfl, rfl⟩,
      ⟨[], ['>', '<', '/', 'b', '>'], rfl, rfl⟩⟩
  · exact ⟨['<', 'a'], ['<', '/', 'b', '>'], rfl, rfl⟩
  · exact ⟨⟨[], ['<', 'a', '>', '<', '/', 'b', '>'], rfl, rfl⟩, ⟨['<', 'a', '>', '<', '/'], ['>'], rfl, rfl⟩,
      ⟨['<', 'a', '>'], [], rfl, rfl⟩⟩

/-! ### Which span is recorded under which key -/

/-- `ElementStart`: the qualified name as written — from the start of the prefix (of the local
    name when there is none) to the end of the local name. -/
theorem C17_span_element_start (b b' : Builder) (p l sp : StrSpan)
    (h : (b.element p l).openElement = .ok b') :
    b'.spans.get ⟨b.curPath ++ [b.cur.rkids.length], .elementStart⟩ = some (Span.fromPrefixName p l) :=
  openElement_span (b := b.element p l) (eb := ElementBuilder.new p l) rfl h

/-- `ElementEnd`: the end tag `</q>` or the `/>` — the span of the end token. -/
theorem C17_span_element_end (b b' : Builder) (node : Path) (sp : StrSpan) (h : b.leave node sp = .ok b') :
    b'.spans.get ⟨node, .elementEnd⟩ = some sp.span :=
  leave_span node sp h

/-- `AttributeName` / `AttributeValue`: the qualified name as written and the text between the
    quotes, of the LAST attribute of the element that resolves to this name id. -/
theorem C17_span_attribute (node : Path) (m : SpanMap) (l : List (Nat × Span × Span)) (n : Nat) (s1 s2 : Span) :
    (m.addAttributeSpans node (l ++ [(n, s1, s2)])).get ⟨node, .attributeName n⟩ = some s1 ∧
    (m.addAttributeSpans node (l ++ [(n, s1, s2)])).get ⟨node, .attributeValue n⟩ = some s2 :=
  get_addAttributeSpans_last node m l n s1 s2

/-- The name span and value span in the `AttributeBuilder` that `Builder.attribute` pushes (Model/Parse.lean:
    `nameSpan := Span.fromPrefixName pfx loc, valueSpan := value.span`), the second with `StrSpan.span` unfolded. -/
example (p l v : StrSpan) : (Span.fromPrefixName p l, v.span) = (Span.fromPrefixName p l, ⟨v.start, v.stop⟩) := rfl

/-- `Text`: the first part records its own span; every further merged text / CDATA part keeps
    the start and moves the end to its own end. -/
theorem C17_span_text_first (m : SpanMap) (node : Path) (s : Span) (h : m.get ⟨node, .text⟩ = none) :
    (m.extendText node s).get ⟨node, .text⟩ = some s :=
  extendText_first m node s h

theorem C17_span_text_next (m : SpanMap) (node : Path) (s ex : Span) (h : m.get ⟨node, .text⟩ = some ex) :
    (m.extendText node s).get ⟨node, .text⟩ = some ⟨ex.start, s.stop⟩ :=
  extendText_next m node s ex h

/-- `Comment`: the comment body. -/
theorem C17_span_comment (b : Builder) (t : StrSpan) :
    (b.comment t).spans.get ⟨b.curPath ++ [b.cur.rkids.length], .comment⟩ = some t.span :=
  comment_span b t

/-- `PiTarget` / `PiContent`: target and (if present) content. -/
theorem C17_span_pi (b : Builder) (target : StrSpan) (c : StrSpan) :
    (b.processingInstruction target (some c)).spans.get ⟨b.curPath ++ [b.cur.rkids.length], .piTarget⟩ =
      some target.span ∧
    (b.processingInstruction target (some c)).spans.get ⟨b.curPath ++ [b.cur.rkids.length], .piContent⟩ =
      some c.span :=
  pi_spans b target (some c)

/-- Every element child and every text child of the document node has its span recorded
    (`FwdSpans m i ks`: the children `ks`, numbered from `i`, have their `ElementStart` / `Text` keys). -/
theorem C17_total_top {m : Mode} {len : Nat} {env : Env} {ts : List Token} {lexErr : Option Nat} {p : Parsed}
    (hshape : TokenShape len ts lexErr) (h : build m len env ts lexErr = .ok p) :
    FwdSpans p.spans 0 p.tree.kids :=
  build_total_top h

/-- In whatever is accepted, EVERY node at every depth has its spans (`Covered`):
    elements `ElementStart`, `ElementEnd` and, per attribute name, `AttributeName` /
    `AttributeValue`; text nodes `Text`; comments `Comment`; PIs `PiTarget` and, when they have
    content, `PiContent`. -/
theorem C17_total {m : Mode} {len : Nat} {env : Env} {ts : List Token} {lexErr : Option Nat} {p : Parsed}
    (h : build m len env ts lexErr = .ok p) : Covered p.spans [] p.tree :=
  build_covered h

/-- Non-vacuity on `<p:a xmlns:p='u' b='x&#10;y'><!--c-->t&lt;<![CDATA[c]]></p:a>`: the spans of the
    element name (`p:a`), the end tag, the attribute `b` (name, and value between the quotes), the
    comment body, and the text run from the start of `t&lt;` to the end of the CDATA content. -/
example : let r := build .document goodDocLen Env.fresh goodDoc none
    r.spanOf ⟨[0], .elementStart⟩ = some ⟨1, 4⟩ ∧ r.spanOf ⟨[0], .elementEnd⟩ = some ⟨55, 61⟩ ∧
    r.spanOf ⟨[0], .attributeName 3⟩ = some ⟨17, 18⟩ ∧ r.spanOf ⟨[0], .attributeValue 3⟩ = some ⟨20, 27⟩ ∧
    r.spanOf ⟨[0, 2], .comment⟩ = some ⟨33, 34⟩ ∧ r.spanOf ⟨[0, 3], .text⟩ = some ⟨37, 52⟩ := by
  rw [build_eq_buildE]; decide +kernel

/-! ### The reference tokenizer (Model/Lex.lean, xmlparser 0.13.6 as written; tied to the crate by
the `lex` suite): the tokenizer side of the contract is a THEOREM, for every input string -/

/-- Every span of every token the reference tokenizer returns — for EVERY text `s`, well-formed
    or not, in document and in fragment mode — is the slice of `s` between the span's byte
    offsets (`sliceBytes` = `str::get(start..end)`: defined only on char boundaries inside `s`). -/
theorem C17_lex_slices (m : Mode) (s : Str) :
    ∀ t ∈ (lexMode m s).1, t.All (fun sp => sliceBytes s sp.start sp.stop = some sp.text) := by
  cases m
  · exact lexDocument_slices s
  · exact lexFragment_slices s

/-- … equivalently: the span's text occurs in `s` at the span's byte offset. -/
theorem C17_lex_sliceOf (m : Mode) (s : Str) : ∀ t ∈ (lexMode m s).1, t.All (StrSpan.SliceOf s) := by
  cases m
  · exact lexDocument_sliceOf s
  · exact lexFragment_sliceOf s

/-- The position reported with a tokenizer error (`ParseError::XmlParser(_, pos)`) is a char
    boundary of `s`, in particular `≤ len`. -/
theorem C17_lex_errpos (m : Mode) (s : Str) (p : Nat) (h : (lexMode m s).2 = some p) :
    IsBoundary s p ∧ p ≤ strLen s := by
  have hb : IsBoundary s p := by
    cases m
    · exact lexDocument_errpos s p h
    · exact lexFragment_errpos s p h
  exact ⟨hb, hb.le⟩

/-- The token-shape contract (the assumption of C17_errors / C17_inside / C17_ordered) holds of
    the reference tokenizer's output on every string. -/
theorem C17_lex_shape (m : Mode) (s : Str) : TokenShape (strLen s) (lexMode m s).1 (lexMode m s).2 := by
  cases m
  · exact lexDocument_shape s
  · exact lexFragment_shape s

/-- String level: for EVERY text, every span recorded by `parse` / `parse_fragment` and every
    error span starts and ends on a char boundary of the text (tokenizer and builder composed;
    no assumption left). -/
theorem C17_string_boundaries (m : Mode) (env : Env) (s : Str) :
    (∀ p, parseString m env s = .ok p →
      ∀ e ∈ p.spans, IsBoundary s e.2.start ∧ IsBoundary s e.2.stop) ∧
    (∀ e env', parseString m env s = .err e env' →
      IsBoundary s e.span.start ∧ IsBoundary s e.span.stop) :=
  C17_boundaries (C17_lex_sliceOf m s) (fun p h => (C17_lex_errpos m s p h).1)

/-- String level: every error span and every recorded span lies in `[0, len]`. -/
theorem C17_string_inside (m : Mode) (env : Env) (s : Str) :
    (∀ p, parseString m env s = .ok p → ∀ e ∈ p.spans, e.2.InBounds (strLen s)) ∧
    (∀ e env', parseString m env s = .err e env' → e.span.InBounds (strLen s)) :=
  ⟨fun _ h => C17_inside (C17_lex_shape m s) h, fun _ _ h => C17_errors (C17_lex_shape m s) h⟩

/-- The character-data tokens of the reference tokenizer come in source order (the assumption
    `TextOrdered` of `C17_ordered`), on every string. -/
theorem C17_lex_ordered (m : Mode) (s : Str) : TextOrdered (lexMode m s).1 := by
  cases m
  · exact lexDocument_textOrdered s
  · exact lexFragment_textOrdered s

/-- String level: `start ≤ end` for every recorded span and every error span of
    `parse` / `parse_fragment`, on every string. -/
theorem C17_string_ordered (m : Mode) (env : Env) (s : Str) :
    (∀ p, parseString m env s = .ok p → ∀ e ∈ p.spans, e.2.start ≤ e.2.stop) ∧
    (∀ e env', parseString m env s = .err e env' → e.span.start ≤ e.span.stop) :=
  C17_ordered (C17_lex_shape m s) (C17_lex_ordered m s)

/-- Canonical spelling: the tokenizer reads `renderTokens ts` back as `ts` with every span at the
    byte offset the spelling implies (`placeTokens`), for token lists of every length and depth
    that meet the lexical side conditions `LexOK`. -/
theorem C17_lex_canonical_positions (ts : List Token) :
    (LexOK true ts = true → lexFragment (renderTokens ts) = (placeTokens 0 ts, none)) ∧
    (LexOK false ts = true → lexDocument (renderTokens ts) = (placeTokens 0 ts, none)) :=
  ⟨lexFragment_render ts, lexDocument_render ts⟩

/-- Non-vacuity of `LexOK`: the tokens of `<p:a b="1">x<!--c--></p:a>`, and the positions the
    theorem gives for them. -/
example : LexOK false lexWitness = true ∧ LexOK true lexWitness = true := by decide +kernel
example : renderTokens lexWitness =
    ['<', 'p', ':', 'a', ' ', 'b', '=', '"', '1', '"', '>', 'x', '<', '!', '-', '-', 'c', '-', '-', '>',
     '<', '/', 'p', ':', 'a', '>'] := by decide +kernel
example : (lexDocument (renderTokens lexWitness)).1[1]? =
      some (.attribute ⟨[], 0⟩ ⟨['b'], 5⟩ ⟨['1'], 8⟩ ⟨['b', '=', '"', '1', '"'], 5⟩) ∧
    (lexDocument (renderTokens lexWitness)).1[3]? = some (.text ⟨['x'], 11⟩) ∧
    (lexDocument (renderTokens lexWitness)).1[5]? =
      some (.elementEnd (.close ⟨['p'], 22⟩ ⟨['a'], 24⟩) ⟨['<', '/', 'p', ':', 'a', '>'], 20⟩) := by
  rw [lexDocument_render lexWitness (by decide +kernel)]; decide +kernel

/-! ### The delimiters at TOKEN level, on every input (accepted or not)

`Token.Delims` (Lemmas/LexDelims.lean): a comment token's whole span reads `<!--` body `-->` with the body span 4
bytes in; a PI token's whole span reads `<?` target, white space, content, `?>` with the target span 2 bytes in and
the content span right behind the white space (content empty when the token has none); an end-tag token's whole
span reads `</` name, white space, `>`, the name being `prefix:local` / `local` of the token unless it is written
`:local`.  `TextAdj`: a text token starts where the whole span of the token in front of it ends, and that span ends
with `>` (so never behind `<![CDATA[`); `TextFirst`: a text token at the head of the list starts at byte 0.
The tree-level theorems of the section "The bytes around the spans" below (C17_slice_comment_delimiters,
C17_slice_pi_delimiters, C17_slice_element_end_name, C17_run_mode_from_source) are these facts carried to the nodes of an ACCEPTED text; here they are for every text. -/

/-- Every token `parse` sees, on ANY text. -/
theorem C17_token_delims_document (s : Str) :
    (∀ t ∈ (lexDocument s).1, t.Delims) ∧ AdjChain TextAdj (lexDocument s).1 ∧ TextFirst (lexDocument s).1 :=
  lexDocument_delims s

/-- Every token `parse_fragment` sees, on ANY text. -/
theorem C17_token_delims_fragment (s : Str) :
    (∀ t ∈ (lexFragment s).1, t.Delims) ∧ AdjChain TextAdj (lexFragment s).1 ∧ TextFirst (lexFragment s).1 :=
  lexFragment_delims s

/-- Both at once, by mode (`lexMode` is what `parseString` tokenizes with). -/
theorem C17_token_delims (m : Mode) (s : Str) :
    (∀ t ∈ (lexMode m s).1, t.Delims) ∧ AdjChain TextAdj (lexMode m s).1 ∧ TextFirst (lexMode m s).1 := by
  cases m
  · exact lexDocument_delims s
  · exact lexFragment_delims s

/-- Non-vacuity OUTSIDE the accepted texts: `<a><!--k--><?pi d?>x</b>` is refused by `parse` (the end tag names
    `b`), its token list holds a comment, a PI with content, a text and an end-tag token, and the theorem's clauses
    for them read: `<!--k-->` = `<!--` ++ `k` ++ `-->` with the body at 3 + 4; `<?pi d?>` = `<?` ++ `pi` ++ SP ++ `d`
    ++ `?>` with the target at 8 + 2 and the content at 8 + 2 + 2 + 1; the text `x` (byte 16) starts where the PI
    (8..16) ends; `</b>` = `</` ++ `b` ++ `>`. -/
example : renderTokens delimsRejected =
    ['<', 'a', '>', '<', '!', '-', '-', 'k', '-', '-', '>', '<', '?', 'p', 'i', ' ', 'd', '?', '>', 'x',
     '<', '/', 'b', '>'] := by decide +kernel
example : (parseString .document Env.fresh (renderTokens delimsRejected)).err? =
    some (.invalidCloseTag [] ['b'] ⟨22, 23⟩) := by
  simp only [parseString, lexMode, lexDocument_render delimsRejected (by decide)]; decide +kernel
example : (lexDocument (renderTokens delimsRejected)).1 =
    [.elementStart ⟨[], 0⟩ ⟨['a'], 1⟩ ⟨['<', 'a'], 0⟩, .elementEnd .open ⟨['>'], 2⟩,
     .comment ⟨['k'], 7⟩ ⟨['<', '!', '-', '-', 'k', '-', '-', '>'], 3⟩,
     .pi ⟨['p', 'i'], 13⟩ (some ⟨['d'], 16⟩) ⟨['<', '?', 'p', 'i', ' ', 'd', '?', '>'], 11⟩,
     .text ⟨['x'], 19⟩,
     .elementEnd (.close ⟨[], 0⟩ ⟨['b'], 22⟩) ⟨['<', '/', 'b', '>'], 20⟩] := by
  rw [lexDocument_render delimsRejected (by decide +kernel)]; decide +kernel
example : ∃ c ∈ (lexDocument (renderTokens delimsRejected)).1, c.isTextTok = true ∧
    ∃ t ∈ (lexDocument (renderTokens delimsRejected)).1, (∃ a b, t = .comment a b) ∧ t.Delims :=
  ⟨.text ⟨['x'], 19⟩, by rw [lexDocument_render delimsRejected (by decide +kernel)]; decide +kernel, rfl,
   .comment ⟨['k'], 7⟩ ⟨['<', '!', '-', '-', 'k', '-', '-', '>'], 3⟩,
   by rw [lexDocument_render delimsRejected (by decide +kernel)]; decide +kernel, ⟨_, _, rfl⟩,
   ((C17_token_delims_document _).1 _ (by rw [lexDocument_render delimsRejected (by decide +kernel)]; decide +kernel))⟩

/-! ### Slicing the source with a recorded span yields the item; decoding the slice yields the value

For every text `s` that `parse` / `parse_fragment` accepts (`parseString m env s = .ok p`: reference
tokenizer + builder) and every node `p.tree.at? q`.  `sliceBytes s a b` is `s.get(a..b)`.
`scopeAt p.tree baseStack q` is the namespace stack in force inside the node at `q`: for every element
on the path (the node itself included) its namespace-node children as (prefix id, namespace id) pairs,
innermost first, above the initial bindings of `xml` and the empty prefix; `lookupPrefix` is the
builder's own lookup, "nearest declaration wins" (C02_scope_nearest, C02_scope_strings). -/

/-- The qualified name of a token is written in full inside the recorded name span: the prefix is
    ABSENT (xmlparser's `"".into()`: empty, offset 0 - the name is `loc`), or it is NOT EMPTY and ends
    one byte - the colon - before the local name (the name is `pfx:loc`).  The third spelling the
    tokenizer lets through, `:loc` (an empty prefix positioned at the colon, the colon outside the
    recorded span), is excluded: xot refuses it (as of /repo a5fafb0). -/
def WholeName (pfx loc : StrSpan) : Prop :=
  (pfx.text = [] ∧ pfx.start = 0) ∨ (pfx.text ≠ [] ∧ pfx.stop + 1 = loc.start)

/-- In an ACCEPTED text every element start, attribute and end tag has its name
    written in full (`WholeName`), so `tokQName pfx loc` IS the name as written, colon included.
    (`<:a/>`, `<a :b='1'/>`, where a recorded span `a` resp. `b` would miss the colon, are rejected.) -/
theorem C17_names_whole {m : Mode} {env : Env} {s : Str} {p : Parsed} (h : parseString m env s = .ok p)
    {t : Token} (ht : t ∈ (lexMode m s).1) {pfx loc : StrSpan} (hq : t.qname = some (pfx, loc)) :
    WholeName pfx loc := by
  have hok : t.prefixOk = true := by
    have := build_ok_prefixOk (show build m (strLen s) env (lexMode m s).1 (lexMode m s).2 = .ok p from h)
    simp only [tokensPrefixOk, List.all_eq_true] at this
    exact this t ht
  rw [Token.prefixOk_of_qname hq] at hok
  have hbc : pfx.bareColon = false := by simpa using hok
  have hab : t.Abuts := by
    cases m with
    | document => exact lexDocument_abuts s t ht
    | fragment => exact lexFragment_abuts s t ht
  have hA : Abut pfx loc := by
    rcases Token.qname_elim hq with ⟨v, sp, rfl⟩ | ⟨sp, rfl⟩ | ⟨sp, rfl⟩ <;> exact hab
  rcases hA with h0 | h1
  · exact .inl h0
  · by_cases hp : pfx.text = []
    · left
      refine ⟨hp, ?_⟩
      simp only [StrSpan.bareColon, hp, List.isEmpty_nil, Bool.true_and, bne_eq_false_iff_eq] at hbc
      exact hbc
    · exact .inr ⟨hp, h1⟩

/-- The element at `q` was made by an `ElementStart` token `pfx:loc` of the text
    whose name is written in full (`WholeName`: never `:loc`): the `ElementStart` span slices the text to
    the WHOLE qualified name as written, `pfx:loc` resp. `loc`; `loc` is the local name
    of the node's name, and the namespace of the node's name is what `pfx` is bound to at that place.
    The `ElementEnd` span slices to the whole span of a `/>` or end-tag token: `/>`, or `</` … `>`. -/
theorem C17_slice_element {m : Mode} {env : Env} {s : Str} {p : Parsed} (h : parseString m env s = .ok p)
    {q : Path} {id : Nat} {ks : List Tree} (hat : p.tree.at? q = some (.node (.element id) ks)) :
    (∃ pfx loc wsp, Token.elementStart pfx loc wsp ∈ (lexMode m s).1 ∧ WholeName pfx loc ∧
      (∃ sp, p.spans.get ⟨q, .elementStart⟩ = some sp ∧
        sliceBytes s sp.start sp.stop = some (tokQName pfx.text loc.text)) ∧
      pfx.text ∈ p.env.prefixes ∧
      ∃ ns, p.env.names[id]? = some (loc.text, ns) ∧
        lookupPrefix (scopeAt p.tree baseStack q) (p.env.prefixes.idxOf pfx.text) = some ns) ∧
    ∃ e esp, Token.elementEnd e esp ∈ (lexMode m s).1 ∧ e ≠ .open ∧
      (∃ sp, p.spans.get ⟨q, .elementEnd⟩ = some sp ∧ sliceBytes s sp.start sp.stop = some esp.text) ∧
      (esp.text = ['/', '>'] ∨ ∃ mid, esp.text = '<' :: '/' :: (mid ++ ['>'])) := by
  obtain ⟨⟨pfx, loc, wsp, hmem, hrest⟩, hend⟩ := (parseString_sliced h hat).1
  exact ⟨⟨pfx, loc, wsp, hmem, C17_names_whole h hmem rfl, hrest⟩, hend⟩

/-- Every attribute child `(n, v)` of the element at `q` was made by an
    `Attribute` token whose name is written in full (`WholeName`: never `:loc`): `AttributeName n` slices
    to the WHOLE qualified name as written, `AttributeValue n`
    to its value text `val`, which is the text BETWEEN THE QUOTES (the source reads `qc val qc` there,
    `qc` one of `"` `'`, and the span starts one byte after the first `qc`), `parse_attribute(val)` succeeds and — ID-normalised when `n` is the name
    id of xml:id (expanded name, whatever the prefix) — is the node's value; the local name is the
    name's, an attribute whose prefix has id 0 (the empty prefix) is in no namespace, any other
    prefix is bound to the name's namespace. -/
theorem C17_slice_attribute {m : Mode} {env : Env} {s : Str} {p : Parsed} (h : parseString m env s = .ok p)
    {q : Path} {id : Nat} {ks : List Tree} (hat : p.tree.at? q = some (.node (.element id) ks))
    {k : Tree} (hk : k ∈ ks) {n : Nat} {v : Str} (hv : k.value = .attribute n v) :
    ∃ pfx loc val wsp, Token.attribute pfx loc val wsp ∈ (lexMode m s).1 ∧ WholeName pfx loc ∧
      (∃ sp, p.spans.get ⟨q, .attributeName n⟩ = some sp ∧
        sliceBytes s sp.start sp.stop = some (tokQName pfx.text loc.text)) ∧
      (∃ sp, p.spans.get ⟨q, .attributeValue n⟩ = some sp ∧ sliceBytes s sp.start sp.stop = some val.text ∧
        ∃ a b qc, (qc = '"' ∨ qc = '\'') ∧ s = a ++ qc :: (val.text ++ qc :: b) ∧ sp.start = strLen a + 1) ∧
      (∃ raw, parseAttribute val.text = .ok raw ∧
        v = if n == Env.xmlIdName then normalizeXmlId raw else raw) ∧
      pfx.text ∈ p.env.prefixes ∧
      ∃ ns, p.env.names[n]? = some (loc.text, ns) ∧
        if p.env.prefixes.idxOf pfx.text = Env.emptyPrefix then ns = Env.noNamespace
        else lookupPrefix (scopeAt p.tree baseStack q) (p.env.prefixes.idxOf pfx.text) = some ns := by
  obtain ⟨pfx, loc, val, wsp, hmem, hrest⟩ := (parseString_sliced h hat).2 k hk n v hv
  exact ⟨pfx, loc, val, wsp, hmem, C17_names_whole h hmem rfl, hrest⟩

/-- `<:a/>` and `<a :b='1'/>` are rejected, and the error span slices the text to
    the whole name as written, colon included (`:a`, bytes 1..3; `:b`, bytes 3..5). -/
example : (parseString .document Env.fresh colonElementText).err? = some (.unknownPrefix [] ⟨1, 3⟩) ∧
    sliceBytes colonElementText 1 3 = some [':', 'a'] := by
  refine ⟨?_, by decide +kernel⟩
  simp only [parseString, lexMode, lex_colonElement]; rfl
example : (parseString .document Env.fresh colonAttributeText).err? = some (.unknownPrefix [] ⟨3, 5⟩) ∧
    sliceBytes colonAttributeText 3 5 = some [':', 'b'] := by
  refine ⟨?_, by decide +kernel⟩
  simp only [parseString, lexMode, lex_colonAttribute]; rfl

/-! ### Scoping at STRING level

`C17_slice_element` / `_attribute` resolve the written prefix by `lookupPrefix` over the prefix / namespace
IDS on `scopeAt p.tree baseStack q`.  When the parse starts from tables reachable from `Xot::new()`
(`Interner.Reachable x`: any sequence of `add_name` / `add_namespace` / `add_prefix` / earlier parses /
`clone`; no other hypothesis on the tables), the tables it leaves are duplicate-free, keep the empty prefix at
id 0 and hold every id of the tree (`build_parsedTables`: `Interner.Inv` is kept by a parse, C08), so the ids
stand for their strings and the lookup is, on STRINGS, "the nearest enclosing declaration of this prefix wins":

`scopeStrAt p q` = one frame per element on the path to `q` (the node itself included), innermost first,
holding (prefix, namespace URI) — both strings — of its namespace-node children in document order (what the
builder makes of the `xmlns:p="…"` / `xmlns="…"` attributes of its start tag: the URI is the DECODED value),
above `xml ↦ http://www.w3.org/XML/1998/namespace` and `"" ↦ ""`;
`lookupStr frames pfx` = the LAST declaration of `pfx` in the first frame that declares it. -/

/-- The frames, by recursion on the path: at the root the root's own (none for a document node); at a child
    `k = ks[i]` of the node at `q`, the declarations of `k` (when an element) on top of those at `q`. -/
theorem C17_scope_frames (p : Parsed) :
    (∀ v ks, p.tree = .node v ks → scopeStrAt p [] = strStack p.env (innerStack v ks baseStack)) ∧
    ∀ (q : Path) (i : Nat) (v : Value) (ks : List Tree) (v' : Value) (ks' : List Tree),
      p.tree.at? q = some (.node v ks) → ks[i]? = some (.node v' ks') →
      scopeStrAt p (q ++ [i]) =
        (match v' with
         | .element _ => [(sdDeclsOf ks').map fun d => (p.env.prefixStr d.1, p.env.namespaceStr d.2)]
         | _ => []) ++ scopeStrAt p q := by
  refine ⟨fun v ks ht => by rw [scopeStrAt, ht]; rfl, fun q i v ks v' ks' hat hk => ?_⟩
  have := scopeAt_snoc q i p.tree baseStack hat hk
  rw [scopeStrAt, this, scopeStrAt]
  cases v' <;> rfl

/-- `xml` and the empty prefix at the bottom of every scope, as strings (tables reachable from `Xot::new()`
    keep the four built-in entries: `Xot::new()` registers them first, ids persist). -/
theorem C17_scope_base_strings {x : Interner} (hx : Interner.Reachable x) :
    strStack x.env baseStack = [[(x.env.prefixStr 0, x.env.namespaceStr 0)], [(x.env.prefixStr 1, x.env.namespaceStr 1)]] ∧
    x.env.prefixStr 0 = [] := by
  refine ⟨rfl, ?_⟩
  obtain ⟨r, h1⟩ := hx.envBaseNs.pfx
  simp only [Env.prefixStr, h1, List.getD_cons_zero]

/-- For every text accepted from reachable tables: the element at `q` was made by an
    `ElementStart` token written `pfx:loc` (resp. `loc`: `pfx` empty) whose recorded span slices the text to
    exactly that spelling, its name is (`loc`, `ns`), and the namespace URI STRING of `ns` is what the
    written prefix STRING resolves to over the declared strings in force at `q` — the nearest enclosing
    declaration, the element's own start tag first.  Every attribute of it likewise; an unprefixed
    attribute is in no namespace whatever the default namespace is. -/
theorem C17_scope_strings {x : Interner} (hx : Interner.Reachable x) {m : Mode} {s : Str} {p : Parsed}
    (h : parseString m x.env s = .ok p)
    {q : Path} {id : Nat} {ks : List Tree} (hat : p.tree.at? q = some (.node (.element id) ks)) :
    (∃ pfx loc wsp, Token.elementStart pfx loc wsp ∈ (lexMode m s).1 ∧ WholeName pfx loc ∧
      (∃ sp, p.spans.get ⟨q, .elementStart⟩ = some sp ∧
        sliceBytes s sp.start sp.stop = some (tokQName pfx.text loc.text)) ∧
      ∃ ns, p.env.names[id]? = some (loc.text, ns) ∧
        lookupStr (scopeStrAt p q) pfx.text = some (p.env.namespaceStr ns)) ∧
    ∀ k ∈ ks, ∀ n v, k.value = .attribute n v →
      ∃ pfx loc val wsp, Token.attribute pfx loc val wsp ∈ (lexMode m s).1 ∧ WholeName pfx loc ∧
        (∃ sp, p.spans.get ⟨q, .attributeName n⟩ = some sp ∧
          sliceBytes s sp.start sp.stop = some (tokQName pfx.text loc.text)) ∧
        ∃ ns, p.env.names[n]? = some (loc.text, ns) ∧
          (pfx.text = [] → ns = Env.noNamespace) ∧
          (pfx.text ≠ [] → lookupStr (scopeStrAt p q) pfx.text = some (p.env.namespaceStr ns)) := by
  have ht : ParsedTables p := build_parsedTables hx h
  refine ⟨?_, fun k hk n v hv => ?_⟩
  · obtain ⟨⟨pfx, loc, wsp, hmem, hwhole, hsp, _, ns, hn, hl⟩, _⟩ := C17_slice_element h hat
    exact ⟨pfx, loc, wsp, hmem, hwhole, hsp, ns, hn, lookup_scope_str ht q pfx.text hl⟩
  · obtain ⟨pfx, loc, val, wsp, hmem, hwhole, hsp, _, _, hpm, ns, hn, hif⟩ := C17_slice_attribute h hat hk hv
    refine ⟨pfx, loc, val, wsp, hmem, hwhole, hsp, ns, hn, fun he => ?_, fun hne => ?_⟩
    · rw [if_pos ((idxOf_eq_zero_iff ht.base).2 he)] at hif; exact hif
    · rw [if_neg (fun hz => hne ((idxOf_eq_zero_iff ht.base).1 hz))] at hif
      exact lookup_scope_str ht q pfx.text hif

/-- … from `Xot::new()` itself. -/
theorem C17_scope_strings_fresh {m : Mode} {s : Str} {p : Parsed} (h : parseString m Env.fresh s = .ok p)
    {q : Path} {id : Nat} {ks : List Tree} (hat : p.tree.at? q = some (.node (.element id) ks)) :
    ∃ pfx loc wsp, Token.elementStart pfx loc wsp ∈ (lexMode m s).1 ∧ WholeName pfx loc ∧
      (∃ sp, p.spans.get ⟨q, .elementStart⟩ = some sp ∧
        sliceBytes s sp.start sp.stop = some (tokQName pfx.text loc.text)) ∧
      ∃ ns, p.env.names[id]? = some (loc.text, ns) ∧
        lookupStr (scopeStrAt p q) pfx.text = some (p.env.namespaceStr ns) :=
  (C17_scope_strings Interner.Reachable.new (x := Interner.new) (by rw [interner_new_env]; exact h) hat).1

/-- The frames, read off the TEXT.  The tokens of an accepted text are (up to a
    version-1.0 XML declaration) the tokens of a well-formed spelling `sns` (`WellNsDoc`; C03_string_accepted_is_denoted),
    and for every element at `q` there is a chain of spelled elements `e₁ ∋ … ∋ e_k` (`NsPath sns chain`, outermost
    first: `e₁` a top-level node of `sns`, each next one a child of the one before) such that the frames in force at
    `q` are, innermost first, what the start tags of `e_k, …, e₁` DECLARE — `declsOf`: for every item `xmlns:p="…"` /
    `xmlns="…"` of the start tag, in the order written, (`p` resp. the empty prefix, the value decoded as an attribute
    value) — above `"" ↦ ""` and `xml ↦ http://www.w3.org/XML/1998/namespace`; the innermost element `e_k` of the
    chain is written with the local name of the node at `q`. -/
theorem C17_scope_frames_text {x : Interner} (hx : Interner.Reachable x) {m : Mode} {s : Str} {p : Parsed}
    (h : parseString m x.env s = .ok p)
    {q : Path} {id : Nat} {ks : List Tree} (hat : p.tree.at? q = some (.node (.element id) ks)) :
    ∃ sns chain, WellNsDoc sns ∧ NSNode.tokens.tokensList sns = dropDecls (lexMode m s).1 ∧
      chain ≠ [] ∧ NsPath sns chain ∧
      scopeStrAt p q = chainFrames chain ++ [[([], [])], [(['x', 'm', 'l'], xmlNsUri)]] ∧
      ∃ e, chain.getLast? = some e ∧ e.nameLoc = p.env.localName id := by
  obtain ⟨sns, hw, _, htok, hval, hdec⟩ := C03_string_accepted_is_denoted hx.envBaseNs m s h
  have hbase := strStack_base (build_envBaseNs hx (show build m (strLen s) x.env (lexMode m s).1 (lexMode m s).2 = .ok p from h))
  cases ht : p.tree with
  | node v kids =>
    rw [ht] at hat hval hdec
    simp only [Tree.value] at hval
    subst hval
    obtain ⟨chain, h1, h2, h3, h4⟩ := scope_frames_document (show decodeNs p.env kids = _ from hdec) hat baseStack
    refine ⟨sns, chain, hw, htok, h1, h2, ?_, h4⟩
    rw [scopeStrAt, ht, h3, hbase]

/-- The scoping clause on the text alone: the namespace URI STRING of the element's name is what its prefix AS
    WRITTEN resolves to over the declarations AS WRITTEN (decoded) of its own and its ancestors' start tags,
    nearest first. -/
theorem C17_scope_strings_text {x : Interner} (hx : Interner.Reachable x) {m : Mode} {s : Str} {p : Parsed}
    (h : parseString m x.env s = .ok p)
    {q : Path} {id : Nat} {ks : List Tree} (hat : p.tree.at? q = some (.node (.element id) ks)) :
    ∃ sns chain pfx loc wsp, WellNsDoc sns ∧ NSNode.tokens.tokensList sns = dropDecls (lexMode m s).1 ∧
      chain ≠ [] ∧ NsPath sns chain ∧ (∃ e, chain.getLast? = some e ∧ e.nameLoc = loc.text) ∧
      Token.elementStart pfx loc wsp ∈ (lexMode m s).1 ∧
      (∃ sp, p.spans.get ⟨q, .elementStart⟩ = some sp ∧
        sliceBytes s sp.start sp.stop = some (tokQName pfx.text loc.text)) ∧
      ∃ ns, p.env.names[id]? = some (loc.text, ns) ∧
        lookupStr (chainFrames chain ++ [[([], [])], [(['x', 'm', 'l'], xmlNsUri)]]) pfx.text =
          some (p.env.namespaceStr ns) := by
  obtain ⟨sns, chain, hw, htok, h1, h2, h3, e, he, hloc⟩ := C17_scope_frames_text hx h hat
  obtain ⟨⟨pfx, loc, wsp, hmem, _, hsp, ns, hn, hl⟩, _⟩ := C17_scope_strings hx h hat
  refine ⟨sns, chain, pfx, loc, wsp, hw, htok, h1, h2, ⟨e, he, ?_⟩, hmem, hsp, ns, hn, by rw [← h3]; exact hl⟩
  rw [hloc, localName_of_get hn]

/-- … and for the attributes of the element at `q`, over the same frames: an unprefixed attribute is in no
    namespace; a prefixed one in the namespace its prefix as written resolves to over the declarations as written. -/
theorem C17_scope_strings_text_attribute {x : Interner} (hx : Interner.Reachable x) {m : Mode} {s : Str} {p : Parsed}
    (h : parseString m x.env s = .ok p)
    {q : Path} {id : Nat} {ks : List Tree} (hat : p.tree.at? q = some (.node (.element id) ks)) :
    ∃ sns chain, WellNsDoc sns ∧ NSNode.tokens.tokensList sns = dropDecls (lexMode m s).1 ∧
      chain ≠ [] ∧ NsPath sns chain ∧ (∃ e, chain.getLast? = some e ∧ e.nameLoc = p.env.localName id) ∧
      ∀ k ∈ ks, ∀ n v, k.value = .attribute n v →
        ∃ pfx loc val wsp, Token.attribute pfx loc val wsp ∈ (lexMode m s).1 ∧
          (∃ sp, p.spans.get ⟨q, .attributeName n⟩ = some sp ∧
            sliceBytes s sp.start sp.stop = some (tokQName pfx.text loc.text)) ∧
          ∃ ns, p.env.names[n]? = some (loc.text, ns) ∧
            (pfx.text = [] → ns = Env.noNamespace) ∧
            (pfx.text ≠ [] →
              lookupStr (chainFrames chain ++ [[([], [])], [(['x', 'm', 'l'], xmlNsUri)]]) pfx.text =
                some (p.env.namespaceStr ns)) := by
  obtain ⟨sns, chain, hw, htok, h1, h2, h3, h4⟩ := C17_scope_frames_text hx h hat
  refine ⟨sns, chain, hw, htok, h1, h2, h4, fun k hk n v hv => ?_⟩
  obtain ⟨pfx, loc, val, wsp, hmem, _, hsp, ns, hn, he, hne⟩ := (C17_scope_strings hx h hat).2 k hk n v hv
  exact ⟨pfx, loc, val, wsp, hmem, hsp, ns, hn, he, fun hp => by rw [← h3]; exact hne hp⟩

/-- Non-vacuity, nearest declaration wins: `<p:a xmlns:p='u'><p:b xmlns:p='w'/><p:c/></p:a>` is accepted from
    `Xot::new()`; the frames at `p:b` are `[p ↦ w]` above `[p ↦ u]` and `p` resolves to `w` there (the name of
    the node is (`b`, `w`)); at `p:c` they are `[]` above `[p ↦ u]` and `p` resolves to `u` (name (`c`, `u`)). -/
example : renderTokens scopeWitness =
    ['<', 'p', ':', 'a', ' ', 'x', 'm', 'l', 'n', 's', ':', 'p', '=', '"', 'u', '"', '>',
     '<', 'p', ':', 'b', ' ', 'x', 'm', 'l', 'n', 's', ':', 'p', '=', '"', 'w', '"', '/', '>',
     '<', 'p', ':', 'c', '/', '>', '<', '/', 'p', ':', 'a', '>'] := by decide +kernel
theorem scopeWitness_check :
    scopeWitnessCheck (parseString .document Env.fresh (renderTokens scopeWitness)) = true := by
  have e : lexMode .document (renderTokens scopeWitness) = (placeTokens 0 scopeWitness, none) :=
    lexDocument_render scopeWitness (by decide +kernel)
  unfold parseString
  rw [e, build_eq_buildE]
  decide +kernel
example : scopeWitnessCheck (parseString .document Env.fresh (renderTokens scopeWitness)) = true := scopeWitness_check

/-- … and the frames of `p:b` read off the text by `C17_scope_frames_text`: a chain of spelled elements whose
    start-tag declarations are `[p ↦ w]`, `[p ↦ u]`, the innermost one written with the local name `b`. -/
example : ∃ p, parseString .document Env.fresh (renderTokens scopeWitness) = .ok p ∧
    ∃ sns chain, WellNsDoc sns ∧
      NSNode.tokens.tokensList sns = dropDecls (lexMode .document (renderTokens scopeWitness)).1 ∧
      NsPath sns chain ∧ (chainFrames chain ++ [[([], [])], [(['x', 'm', 'l'], xmlNsUri)]]).take 2 =
        [[(['p'], ['w'])], [(['p'], ['u'])]] ∧
      ∃ e, chain.getLast? = some e ∧ e.nameLoc = ['b'] := by
  obtain ⟨p, hp, ⟨id, ks, hat, hloc⟩, hfr⟩ := scopeWitnessCheck_spec scopeWitness_check
  have hp' : parseString .document Interner.new.env (renderTokens scopeWitness) = .ok p := by
    rw [interner_new_env]; exact hp
  obtain ⟨sns, chain, hw, htok, _, h2, h3, e, he, hl⟩ := C17_scope_frames_text Interner.Reachable.new hp' hat
  exact ⟨p, hp, sns, chain, hw, htok, h2, by rw [← h3]; exact hfr, e, he, by rw [hl, hloc]⟩

/-- The `Comment` span slices to the comment's body AS WRITTEN (`w`); the node's
    value is its line-end normalisation (`content.replace("\r\n", "\n").replace('\r', "\n")`). -/
theorem C17_slice_comment {m : Mode} {env : Env} {s : Str} {p : Parsed} (h : parseString m env s = .ok p)
    {q : Path} {v : Str} {ks : List Tree} (hat : p.tree.at? q = some (.node (.comment v) ks)) :
    ∃ w, (∃ sp, p.spans.get ⟨q, .comment⟩ = some sp ∧ sliceBytes s sp.start sp.stop = some w) ∧
      v = normalizeLineEnds w :=
  parseString_sliced h hat

/-- … full strength when the written body has no CR: the slice IS the value. -/
theorem C17_slice_comment_noCr {m : Mode} {env : Env} {s : Str} {p : Parsed} (h : parseString m env s = .ok p)
    {q : Path} {v : Str} {ks : List Tree} (hat : p.tree.at? q = some (.node (.comment v) ks)) :
    ∃ sp w, p.spans.get ⟨q, .comment⟩ = some sp ∧ sliceBytes s sp.start sp.stop = some w ∧
      ('\r' ∉ w → sliceBytes s sp.start sp.stop = some v) := by
  obtain ⟨w, ⟨sp, hg, hs⟩, rfl⟩ := C17_slice_comment h hat
  exact ⟨sp, w, hg, hs, fun hcr => by rw [normalizeLineEnds_noCr w hcr]; exact hs⟩

/-- … in particular for a text without any CR. -/
theorem C17_slice_comment_noCr_source {m : Mode} {env : Env} {s : Str} {p : Parsed}
    (h : parseString m env s = .ok p) (hcr : '\r' ∉ s)
    {q : Path} {v : Str} {ks : List Tree} (hat : p.tree.at? q = some (.node (.comment v) ks)) :
    ∃ sp, p.spans.get ⟨q, .comment⟩ = some sp ∧ sliceBytes s sp.start sp.stop = some v := by
  obtain ⟨w, hw, rfl⟩ := C17_slice_comment h hat
  exact SlicesTo.normalized_of_noCr hcr hw

/-- `PiTarget` slices to the target = the local name of the node's name (a name in no
    namespace; not `xml` in any letter case — that is `InvalidTarget`); `PiContent` slices to the data AS
    WRITTEN (`w`) when the node has data, and the data is the line-end normalisation of `w`. -/
theorem C17_slice_pi {m : Mode} {env : Env} {s : Str} {p : Parsed} (h : parseString m env s = .ok p)
    {q : Path} {id : Nat} {d : Option Str} {ks : List Tree} (hat : p.tree.at? q = some (.node (.pi id d) ks)) :
    ∃ target, (∃ sp, p.spans.get ⟨q, .piTarget⟩ = some sp ∧ sliceBytes s sp.start sp.stop = some target) ∧
      isReservedPiTarget target = false ∧
      p.env.names[id]? = some (target, Env.noNamespace) ∧
      ∀ c, d = some c → ∃ w, (∃ sp, p.spans.get ⟨q, .piContent⟩ = some sp ∧
        sliceBytes s sp.start sp.stop = some w) ∧ c = normalizeLineEnds w :=
  parseString_sliced h hat

/-- … full strength when the written data has no CR: the slice IS the data. -/
theorem C17_slice_pi_noCr {m : Mode} {env : Env} {s : Str} {p : Parsed} (h : parseString m env s = .ok p)
    {q : Path} {id : Nat} {c : Str} {ks : List Tree} (hat : p.tree.at? q = some (.node (.pi id (some c)) ks)) :
    ∃ sp w, p.spans.get ⟨q, .piContent⟩ = some sp ∧ sliceBytes s sp.start sp.stop = some w ∧
      ('\r' ∉ w → sliceBytes s sp.start sp.stop = some c) := by
  obtain ⟨_, _, _, _, hc⟩ := C17_slice_pi h hat
  obtain ⟨w, ⟨sp, hg, hs⟩, rfl⟩ := hc c rfl
  exact ⟨sp, w, hg, hs, fun hcr => by rw [normalizeLineEnds_noCr w hcr]; exact hs⟩

/-- … in particular for a text without any CR: the statement without normalisation. -/
theorem C17_slice_pi_noCr_source {m : Mode} {env : Env} {s : Str} {p : Parsed}
    (h : parseString m env s = .ok p) (hcr : '\r' ∉ s)
    {q : Path} {id : Nat} {d : Option Str} {ks : List Tree} (hat : p.tree.at? q = some (.node (.pi id d) ks)) :
    ∃ target, (∃ sp, p.spans.get ⟨q, .piTarget⟩ = some sp ∧ sliceBytes s sp.start sp.stop = some target) ∧
      p.env.names[id]? = some (target, Env.noNamespace) ∧
      ∀ c, d = some c → ∃ sp, p.spans.get ⟨q, .piContent⟩ = some sp ∧ sliceBytes s sp.start sp.stop = some c := by
  obtain ⟨target, ht, _, hn, hc⟩ := C17_slice_pi h hat
  refine ⟨target, ht, hn, fun c hd => ?_⟩
  obtain ⟨w, hw, rfl⟩ := hc c hd
  exact SlicesTo.normalized_of_noCr hcr hw

/-- Behind the text node at `q` is a run of CONSECUTIVE tokens of the text, all of
    them text or CDATA tokens (`run`; adjacent in the source, empty CDATA sections included).  The
    `Text` span goes from the start of the first part's text to the end of the last part's text, so
    it slices the source to `runSlice run`: text parts as written, CDATA parts as
    `<![CDATA[` content `]]>` — without the `<![CDATA[` of a FIRST part and the `]]>` of a LAST part,
    which lie outside the span (the builder records the CDATA token's inner text span).  The node's
    value is the concatenation of the decoded parts (`runValue`: `parse_content` of a text part, CR LF /
    CR → LF of a CDATA content), and that is what decoding the slice gives: `decodeRun` splits at
    `<` / `<![CDATA[` / `]]>`, starting inside a section iff the first part is a CDATA token. -/
theorem C17_slice_text {m : Mode} {env : Env} {s : Str} {p : Parsed} (h : parseString m env s = .ok p)
    {q : Path} {v : Str} {ks : List Tree} (hat : p.tree.at? q = some (.node (.text v) ks)) :
    ∃ run, run <:+: (lexMode m s).1 ∧ run ≠ [] ∧ (∀ t ∈ run, t.isCharData = true) ∧
      (∃ sp, p.spans.get ⟨q, .text⟩ = some sp ∧ sliceBytes s sp.start sp.stop = some (runSlice run)) ∧
      runValue run = some v ∧ decodeRun (startsInCdata run) (runSlice run) = some v :=
  parseString_sliced h hat

/-- `runSlice` / `runValue` / `decodeRun` on the three shapes of a two-part run. -/
example (a c : StrSpan) (w : StrSpan) :
    runSlice [.text a, .cdata c w] = a.text ++ (['<', '!', '[', 'C', 'D', 'A', 'T', 'A', '['] ++ c.text) ∧
    runSlice [.cdata c w, .text a] = c.text ++ ([']', ']', '>'] ++ a.text) ∧
    runSlice [.cdata c w] = c.text ∧ runSlice [.text a] = a.text := by
  simp [runSlice, runSliceAux, Lex.litCdataOpen, Lex.litCdataClose]

/-! ### The bytes around the spans -/

/-- The element at `q` was opened by an `ElementStart` token `pfx:loc` (name
    written in full, its span recorded as `ElementStart`, slicing to the qualified name AS WRITTEN) and
    closed by an `ElementEnd` token whose whole span is recorded as `ElementEnd`: either the `/>` of an
    empty-element tag, or an end tag `</pe:le ws>` whose prefix and local name are those of the START
    tag, character for character (`close_element`: same name id and `open_prefixes.last() == prefix`;
    C02_endtag_as_written / C03_reject_endtag_prefix at the level of the accepted string) - so the slice
    reads `</`, the name exactly as the start tag wrote it, optional white space, `>`. -/
theorem C17_slice_element_end_name {m : Mode} {env : Env} {s : Str} {p : Parsed} (h : parseString m env s = .ok p)
    {q : Path} {id : Nat} {ks : List Tree} (hat : p.tree.at? q = some (.node (.element id) ks)) :
    ∃ pfx loc wsp, Token.elementStart pfx loc wsp ∈ (lexMode m s).1 ∧ WholeName pfx loc ∧
      (∃ sp, p.spans.get ⟨q, .elementStart⟩ = some sp ∧
        sliceBytes s sp.start sp.stop = some (tokQName pfx.text loc.text)) ∧
      ∃ e esp, Token.elementEnd e esp ∈ (lexMode m s).1 ∧
        (∃ sp, p.spans.get ⟨q, .elementEnd⟩ = some sp ∧ sliceBytes s sp.start sp.stop = some esp.text) ∧
        ((e = .empty ∧ esp.text = ['/', '>']) ∨
         ∃ pe le ws, e = .close pe le ∧ pe.text = pfx.text ∧ le.text = loc.text ∧
           (∀ c ∈ ws, isXmlSpace c = true) ∧
           esp.text = '<' :: '/' :: (tokQName pfx.text loc.text ++ ws ++ ['>'])) := by
  obtain ⟨pfx, loc, wsp, hmem, hstart, hend⟩ := parseString_element_end h hat
  exact ⟨pfx, loc, wsp, hmem, C17_names_whole h hmem rfl, hstart, hend⟩

/-- … on slices only: what `ElementEnd` slices to, in terms of what `ElementStart` slices to. -/
theorem C17_slice_element_end_name_source {m : Mode} {env : Env} {s : Str} {p : Parsed}
    (h : parseString m env s = .ok p)
    {q : Path} {id : Nat} {ks : List Tree} (hat : p.tree.at? q = some (.node (.element id) ks)) :
    ∃ name spS spE, p.spans.get ⟨q, .elementStart⟩ = some spS ∧ sliceBytes s spS.start spS.stop = some name ∧
      p.spans.get ⟨q, .elementEnd⟩ = some spE ∧
      (sliceBytes s spE.start spE.stop = some ['/', '>'] ∨
       ∃ ws, (∀ c ∈ ws, isXmlSpace c = true) ∧
         sliceBytes s spE.start spE.stop = some ('<' :: '/' :: (name ++ ws ++ ['>']))) := by
  obtain ⟨pfx, loc, wsp, _, _, ⟨spS, hgS, hsS⟩, e, esp, _, ⟨spE, hgE, hsE⟩, hcase⟩ := C17_slice_element_end_name h hat
  refine ⟨_, spS, spE, hgS, hsS, hgE, ?_⟩
  rcases hcase with ⟨_, ht⟩ | ⟨pe, le, ws, _, _, _, hws, ht⟩
  · exact .inl (by rw [hsE, ht])
  · exact .inr ⟨ws, hws, by rw [hsE, ht]⟩

/-- Around the `Comment` span the source reads `<!--` body `-->`: the text is
    `a ++ "<!--" ++ w ++ "-->" ++ b` with the span covering exactly `w` (whose line-end normalisation is
    the node's value); in terms of `str::get`: the four bytes in front of the span are `<!--`, the three
    bytes behind it `-->`. -/
theorem C17_slice_comment_delimiters {m : Mode} {env : Env} {s : Str} {p : Parsed} (h : parseString m env s = .ok p)
    {q : Path} {v : Str} {ks : List Tree} (hat : p.tree.at? q = some (.node (.comment v) ks)) :
    ∃ w sp, p.spans.get ⟨q, .comment⟩ = some sp ∧ sliceBytes s sp.start sp.stop = some w ∧
      v = normalizeLineEnds w ∧
      (∃ a b, s = a ++ ['<', '!', '-', '-'] ++ w ++ ['-', '-', '>'] ++ b ∧ sp.start = strLen a + 4 ∧
        sp.stop = sp.start + strLen w) ∧
      4 ≤ sp.start ∧ sliceBytes s (sp.start - 4) sp.start = some ['<', '!', '-', '-'] ∧
      sliceBytes s sp.stop (sp.stop + 3) = some ['-', '-', '>'] := by
  obtain ⟨w, hb, hv⟩ := parseString_comment_delims h hat
  obtain ⟨sp', hg', hs'⟩ := hb.slicesTo
  obtain ⟨sp, hg, h4, hbefore, hafter⟩ := hb.around
  obtain ⟨sp2, a, b, hg2, hsrc, hst, hstop⟩ := hb
  rw [hg] at hg' hg2
  have e1 : sp = sp' := Option.some.inj hg'
  have e2 : sp = sp2 := Option.some.inj hg2
  subst e1 e2
  have e4 : strLen Lex.litCommentOpen = 4 := by decide +kernel
  have e3 : strLen Lex.litCommentClose = 3 := by decide +kernel
  rw [e4] at h4 hbefore hst
  rw [e3] at hafter
  exact ⟨w, sp, hg, hs', hv, ⟨a, b, hsrc, hst, hstop⟩, h4, hbefore, hafter⟩

/-- Around the spans of the PI at `q` the source reads `<?`, the target (`PiTarget`),
    white space `ws`, the data as written `body` (`PiContent`, when the node has data: `body` is not empty
    then, and the node's data is its line-end normalisation; without data `body` is empty and `ws` may be),
    `?>`.  In terms of `str::get`: `<?` stands directly in front of the target span; with data, the white
    space fills the gap between the two spans and `?>` follows the content span directly. -/
theorem C17_slice_pi_delimiters {m : Mode} {env : Env} {s : Str} {p : Parsed} (h : parseString m env s = .ok p)
    {q : Path} {id : Nat} {d : Option Str} {ks : List Tree} (hat : p.tree.at? q = some (.node (.pi id d) ks)) :
    ∃ target ws body a b, (∀ c ∈ ws, isXmlSpace c = true) ∧
      s = a ++ ['<', '?'] ++ target ++ ws ++ body ++ ['?', '>'] ++ b ∧
      (∃ sp, p.spans.get ⟨q, .piTarget⟩ = some sp ∧ sp.start = strLen a + 2 ∧ sp.stop = sp.start + strLen target ∧
        sliceBytes s (sp.start - 2) sp.start = some ['<', '?'] ∧
        sliceBytes s sp.stop (sp.stop + strLen ws + strLen body + 2) = some (ws ++ body ++ ['?', '>'])) ∧
      (∀ c, d = some c → c = normalizeLineEnds body ∧
        ∃ sp, p.spans.get ⟨q, .piContent⟩ = some sp ∧ sp.start = strLen a + 2 + strLen target + strLen ws ∧
          sp.stop = sp.start + strLen body ∧ sliceBytes s sp.stop (sp.stop + 2) = some ['?', '>']) ∧
      (d = none → body = []) := by
  obtain ⟨target, ws, body, a, b, hws, hsrc0, ⟨spT, hgT, hT1, hT2⟩, hcont, hnone⟩ := parseString_pi_delims h hat
  have hsrc : s = a ++ ['<', '?'] ++ target ++ ws ++ body ++ ['?', '>'] ++ b := hsrc0
  have e2 : strLen (['<', '?'] : Str) = 2 := by decide +kernel
  have e3 : strLen (['?', '>'] : Str) = 2 := by decide +kernel
  refine ⟨target, ws, body, a, b, hws, hsrc, ⟨spT, hgT, hT1, hT2, ?_, ?_⟩, fun c hc => ?_, hnone⟩
  · have := sliceBytes_mid a ['<', '?'] (target ++ ws ++ body ++ ['?', '>'] ++ b)
    have e : strLen a + 2 - 2 = strLen a := by omega
    rw [e2] at this
    rw [hT1, e, hsrc]
    simp only [List.append_assoc] at this ⊢
    exact this
  · have := sliceBytes_mid (a ++ ['<', '?'] ++ target) (ws ++ body ++ ['?', '>']) b
    rw [hT2, hT1, hsrc]
    simp only [Lex.strLen_app, e2, e3] at this
    simp only [List.append_assoc, Nat.add_assoc] at this ⊢
    exact this
  · obtain ⟨hc1, spC, hgC, hC1, hC2⟩ := hcont c hc
    refine ⟨hc1, spC, hgC, hC1, hC2, ?_⟩
    have := sliceBytes_mid (a ++ ['<', '?'] ++ target ++ ws ++ body) ['?', '>'] b
    rw [hC2, hC1, hsrc]
    simp only [Lex.strLen_app, e2, e3] at this
    simp only [List.append_assoc, Nat.add_assoc] at this ⊢
    exact this

/-- Whether the run behind the text node at `q` starts INSIDE a CDATA section
    (its first token is a CDATA token, whose `<![CDATA[` lies in front of the recorded span) is determined
    by the source: it does iff the nine bytes in front of the `Text` span are `<![CDATA[`
    (`cdataOpenBefore s pos` = `s[..pos].ends_with("<![CDATA[")`, the test of the harness oracle).  A run that
    starts with a text token starts at byte 0 or directly behind the `>` that ends the preceding token. -/
theorem C17_run_mode_from_source {m : Mode} {env : Env} {s : Str} {p : Parsed} (h : parseString m env s = .ok p)
    {q : Path} {v : Str} {ks : List Tree} (hat : p.tree.at? q = some (.node (.text v) ks)) :
    ∃ run sp, run <:+: (lexMode m s).1 ∧ run ≠ [] ∧ (∀ t ∈ run, t.isCharData = true) ∧
      p.spans.get ⟨q, .text⟩ = some sp ∧ sliceBytes s sp.start sp.stop = some (runSlice run) ∧
      runValue run = some v ∧ startsInCdata run = cdataOpenBefore s sp.start := by
  obtain ⟨run, sp, h1, h2, h3, h4, h5, h6, h7, _⟩ := parseString_text_mode h hat
  exact ⟨run, sp, h1, h2, h3, h4, h5, h6, h7⟩

/-- `C17_slice_text` with the decoder's start mode computed from the source.  A
    statement about the text, the recorded span and the node's value only: slice the text with the `Text`
    span, look whether `<![CDATA[` stands in front of it, decode - that is the value. -/
theorem C17_decode_text_from_source {m : Mode} {env : Env} {s : Str} {p : Parsed} (h : parseString m env s = .ok p)
    {q : Path} {v : Str} {ks : List Tree} (hat : p.tree.at? q = some (.node (.text v) ks)) :
    ∃ sp w, p.spans.get ⟨q, .text⟩ = some sp ∧ sliceBytes s sp.start sp.stop = some w ∧
      decodeRun (cdataOpenBefore s sp.start) w = some v := by
  obtain ⟨run, sp, _, _, _, hg, hs, _, _, hdec⟩ := parseString_text_mode h hat
  exact ⟨sp, runSlice run, hg, hs, hdec⟩

/-- Non-vacuity, on `<p:a xmlns:p="u" b="x&#10;y">t&lt;<![CDATA[c]]><!--k--><?pi d?></p:a>` (accepted: the `sliceWitnessCheck` example below):
    `ElementEnd` = 63..69 slices to `</p:a>` = `</` ++ the `ElementStart` slice `p:a` (1..4) ++ `>`; the comment
    body 51..52 stands between `<!--` and `-->`; the PI target 57..59 behind `<?`, the data 60..61 in front of
    `?>`; in front of the `Text` span 29..44 stands `>`, not `<![CDATA[`. -/
example : delimWitnessCheck (parseString .document Env.fresh (renderTokens sliceWitness)) = true := by
  have e : lexMode .document (renderTokens sliceWitness) = (placeTokens 0 sliceWitness, none) :=
    lexDocument_render sliceWitness (by decide +kernel)
  unfold parseString
  rw [e, build_eq_buildE]
  decide +kernel

example : sliceBytes (renderTokens sliceWitness) 1 4 = some ['p', ':', 'a'] ∧
    sliceBytes (renderTokens sliceWitness) 63 69 = some ('<' :: '/' :: (['p', ':', 'a'] ++ [] ++ ['>'])) ∧
    sliceBytes (renderTokens sliceWitness) 47 51 = some ['<', '!', '-', '-'] ∧
    sliceBytes (renderTokens sliceWitness) 52 55 = some ['-', '-', '>'] ∧
    sliceBytes (renderTokens sliceWitness) 55 57 = some ['<', '?'] ∧
    sliceBytes (renderTokens sliceWitness) 59 60 = some [' '] ∧
    sliceBytes (renderTokens sliceWitness) 61 63 = some ['?', '>'] ∧
    cdataOpenBefore (renderTokens sliceWitness) 29 = false ∧
    decodeRun false ['t', '&', 'l', 't', ';', '<', '!', '[', 'C', 'D', 'A', 'T', 'A', '[', 'c'] = some ['t', '<', 'c'] := by
  decide +kernel

/-- White space inside the end tag: `<a></a ␣⏎>` is accepted (tokenizer run step by step in the kernel,
    Lemmas/SpanWitness.lean); `ElementEnd` = 3..9 slices to `</` ++ `a` (the `ElementStart` slice 1..2)
    ++ space, line feed ++ `>`. -/
example : wsEndTagCheck (parseString .document Env.fresh wsEndTagText) = true := by
  simp only [parseString, lexMode, lex_wsEndTag]
  rw [build_eq_buildE]
  decide +kernel
example : sliceBytes wsEndTagText 1 2 = some ['a'] ∧
    sliceBytes wsEndTagText 3 9 = some ('<' :: '/' :: (['a'] ++ [' ', '\n'] ++ ['>'])) ∧
    (∀ c ∈ [' ', '\n'], isXmlSpace c = true) := by decide +kernel

/-- … and on `<a><![CDATA[c]]>t</a>`: the text node `ct` has the span 12..17 (`c]]>t`), the nine bytes in front of
    it are `<![CDATA[`, and decoding the slice from inside a section gives `ct`. -/
example : LexOK false cdataFirstWitness = true := by decide +kernel
example : cdataFirstCheck (parseString .document Env.fresh (renderTokens cdataFirstWitness)) = true := by
  have e : lexMode .document (renderTokens cdataFirstWitness) = (placeTokens 0 cdataFirstWitness, none) :=
    lexDocument_render cdataFirstWitness (by decide +kernel)
  unfold parseString
  rw [e, build_eq_buildE]
  decide +kernel
example : cdataOpenBefore (renderTokens cdataFirstWitness) 12 = true ∧
    sliceBytes (renderTokens cdataFirstWitness) 12 17 = some ['c', ']', ']', '>', 't'] ∧
    decodeRun true ['c', ']', ']', '>', 't'] = some ['c', 't'] := by
  decide +kernel

/-- Every element, attribute, text, comment and PI of an accepted tree has
    its spans (C17_total), and they satisfy C17_slice_element / _attribute / _text / _comment / _pi —
    `NodeSliced` (Lemmas/SpanSlice.lean) is the conjunction of exactly those statements, by kind
    of node. -/
theorem C17_span_of_every_node {m : Mode} {env : Env} {s : Str} {p : Parsed} (h : parseString m env s = .ok p) :
    Covered p.spans [] p.tree ∧
    ∀ (q : Path) (v : Value) (ks : List Tree), p.tree.at? q = some (.node v ks) →
      NodeSliced s (lexMode m s).1 p.spans.get p.env (scopeAt p.tree baseStack q) q v ks :=
  ⟨C17_total h, fun _ _ _ hat => parseString_sliced h hat⟩

/-! ### The reserved-name errors on strings -/

/-- A text rejected with `InvalidTarget(target, span)` has a PI token whose target
    is `target`, `xml` in some letter case (`eq_ignore_ascii_case`); `span` is the span of that target and
    slices the text to `target`. -/
theorem C17_error_invalidTarget {m : Mode} {env env' : Env} {s : Str} {target : Str} {sp : Span}
    (h : parseString m env s = .err (.invalidTarget target sp) env') :
    ∃ tg c w, Token.pi tg c w ∈ (lexMode m s).1 ∧ target = tg.text ∧ sp = tg.span ∧
      isReservedPiTarget target = true ∧ sliceBytes s sp.start sp.stop = some target :=
  parseString_invalidTarget h

/-- A text rejected with `InvalidNamespaceDeclaration(name, span)`
    has an attribute token that is a namespace declaration of the prefix `pfx` (`xmlns:pfx`, or `xmlns` for
    the empty one); `span` is the span of the attribute's NAME and slices the text to it as written;
    `name` is `xmlns:pfx` / `xmlns`; the value decodes (`parse_attribute`) to something reserved for `pfx`. -/
theorem C17_error_invalidNamespaceDeclaration {m : Mode} {env env' : Env} {s : Str} {name : Str} {sp : Span}
    (h : parseString m env s = .err (.invalidNamespaceDeclaration name sp) env') :
    ∃ p l v w pfx, Token.attribute p l v w ∈ (lexMode m s).1 ∧ IsNsDecl p.text l.text pfx ∧
      name = declDisplayName pfx ∧ sp = Span.fromPrefixName p l ∧
      sliceBytes s sp.start sp.stop = some (tokQName p.text l.text) ∧
      ∃ u, parseAttribute v.text = .ok u ∧ reservedDecl pfx u = true :=
  parseString_invalidNamespaceDeclaration h

/-- Non-vacuity on the strings `<?XmL d?><a/>` and `<a xmlns:p=""/>` (tokenizer + builder). -/
example : (parseString .document Env.fresh ['<', '?', 'X', 'm', 'L', ' ', 'd', '?', '>', '<', 'a', '/', '>']).err? =
      some (.invalidTarget ['X', 'm', 'L'] ⟨2, 5⟩) ∧
    sliceBytes ['<', '?', 'X', 'm', 'L', ' ', 'd', '?', '>', '<', 'a', '/', '>'] 2 5 = some ['X', 'm', 'L'] := by
  refine ⟨?_, by decide +kernel⟩
  have e : lexMode .document (renderTokens xmlPiDoc) = (placeTokens 0 xmlPiDoc, none) :=
    lexDocument_render xmlPiDoc (by decide +kernel)
  show (parseString .document Env.fresh (renderTokens xmlPiDoc)).err? = _
  unfold parseString
  rw [e, build_eq_buildE]
  decide +kernel

example : (parseString .document Env.fresh
      ['<', 'a', ' ', 'x', 'm', 'l', 'n', 's', ':', 'p', '=', '"', '"', '/', '>']).err? =
      some (.invalidNamespaceDeclaration ['x', 'm', 'l', 'n', 's', ':', 'p'] ⟨3, 10⟩) ∧
    sliceBytes ['<', 'a', ' ', 'x', 'm', 'l', 'n', 's', ':', 'p', '=', '"', '"', '/', '>'] 3 10 =
      some ['x', 'm', 'l', 'n', 's', ':', 'p'] := by
  refine ⟨?_, by decide +kernel⟩
  have e : lexMode .document (renderTokens undeclDoc) = (placeTokens 0 undeclDoc, none) :=
    lexDocument_render undeclDoc (by decide +kernel)
  show (parseString .document Env.fresh (renderTokens undeclDoc)).err? = _
  unfold parseString
  rw [e, build_eq_buildE]
  decide +kernel

/-- Non-vacuity, on `<p:a xmlns:p="u" b="x&#10;y">t&lt;<![CDATA[c]]><!--k--><?pi d?></p:a>`: the text is
    accepted; the tree has the element at `[0]` with its attribute `b` (value `x`, LF, `y`), the
    merged text `t<c` at `[0, 2]`, the comment at `[0, 3]` and the PI at `[0, 4]`. -/
example : LexOK false sliceWitness = true := by decide +kernel

example : sliceWitnessCheck (parseString .document Env.fresh (renderTokens sliceWitness)) = true := by
  have e : lexMode .document (renderTokens sliceWitness) = (placeTokens 0 sliceWitness, none) :=
    lexDocument_render sliceWitness (by decide +kernel)
  unfold parseString
  rw [e, build_eq_buildE]
  decide +kernel

/-- … and the slice of the text node's span `29..44` is `t&lt;<![CDATA[c`, the `runSlice` of its run. -/
example : sliceBytes (renderTokens sliceWitness) 29 44 =
    some (runSlice [.text ⟨['t', '&', 'l', 't', ';'], 29⟩, .cdata ⟨['c'], 43⟩ ⟨[], 34⟩]) := by decide +kernel

/-- Line ends: on `<a><!--x\r\ny--><?p u\rv?></a>` (CR LF inside the comment, a lone CR inside the PI
    data) the comment at `[0, 0]` has the value `x\ny` while its span `7..11` covers the 4 written
    characters `x\r\ny`; the PI at `[0, 1]` has the data `u\nv` while `PiContent` = `18..21` slices to `u\rv`. -/
example : LexOK false crWitness = true := by decide +kernel
example : renderTokens crWitness =
    ['<', 'a', '>', '<', '!', '-', '-', 'x', '\r', '\n', 'y', '-', '-', '>', '<', '?', 'p', ' ', 'u', '\r', 'v',
     '?', '>', '<', '/', 'a', '>'] := by decide +kernel

example : crWitnessCheck (parseString .document Env.fresh (renderTokens crWitness)) = true := by
  have e : lexMode .document (renderTokens crWitness) = (placeTokens 0 crWitness, none) :=
    lexDocument_render crWitness (by decide +kernel)
  unfold parseString
  rw [e, build_eq_buildE]
  decide +kernel

example : sliceBytes (renderTokens crWitness) 7 11 = some ['x', '\r', '\n', 'y'] ∧
    normalizeLineEnds ['x', '\r', '\n', 'y'] = ['x', '\n', 'y'] ∧
    sliceBytes (renderTokens crWitness) 18 21 = some ['u', '\r', 'v'] ∧
    normalizeLineEnds ['u', '\r', 'v'] = ['u', '\n', 'v'] := by decide +kernel

/-- … and the hypothesis of the `_noCr` forms: the slices of `sliceWitness` (`k`, `d`) have no CR. -/
example : '\r' ∉ (['k'] : Str) ∧ '\r' ∉ renderTokens sliceWitness := by decide +kernel

end XotModel.Props
