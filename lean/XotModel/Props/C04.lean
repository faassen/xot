/-
  C04 — Every reachable forest is structurally valid and handles stay meaningful.
  Property theorems only.  `Forest.Inv` (Lemmas/HTreeCore.lean; the Bool `Forest.inv` of Model/ForestInv.lean
  unpacked into propositions, `Forest.inv_iff`; the `_bool` theorems state the Bool) is the invariant: not corrupt,
  handles distinct and below `next`, every tree structurally valid (ordering namespaces /
  attributes / normal, unique attribute names and prefixes per element, attribute and
  namespace nodes only under elements, documents only as roots, leaves are leaves), and no
  adjacent text nodes while consolidation has never been switched off.

  The invariant holds after every history of calls of the forest model from the empty forest
  (`C04_step_all`, `C04_reach_all`), and `isRemoved` is monotone along every history.  All preservation
  theorems hold for arbitrary numbers as handle arguments — no liveness hypothesis is needed,
  because a call on a handle that is not live is refused by the argument checks or is the
  identity; so "non-live arguments" are in scope, not excluded (only the handle bookkeeping of the
  primitives, first section, is stated for live arguments).  (Handles here are creation-order
  numbers; what indextree does with a stale `NodeId` is the subject of the section "Stale ids".)

  After that: what a handle keeps denoting across every call and history (`C04_value_call`, `C04_handle_meaning`);
  the forest models of `create_missing_prefixes` / `deduplicate_namespaces` refine the tree models of C10 / C15;
  the xml:id index; the convenience calls; the arena under the forest (indextree, pointer level), stale ids;
  traversals; the invariant along extended histories (`XCall`) and along full histories with `parse` steps; the
  bridge from the invariant to the structural hypotheses of the tree-level theorems of C01, C07, C09, C10, C13,
  C15; which text nodes a composite call extends.
-/
import XotModel.Lemmas.BasicFacts
import XotModel.Lemmas.FinvStep
import XotModel.Lemmas.FinvStable
import XotModel.Lemmas.FinvExact
import XotModel.Lemmas.FinvEditHV
import XotModel.Lemmas.FinvUnwrapSites
import XotModel.Lemmas.FinvReads
import XotModel.Lemmas.FinvPrefix
import XotModel.Lemmas.FinvIdIndex
import XotModel.Lemmas.Fcreation
import XotModel.Lemmas.FinvTrav
import XotModel.Lemmas.ArenaExamples
import XotModel.Lemmas.ArenaStaleExamples
import XotModel.Lemmas.ArenaSim
import XotModel.Lemmas.ArenaRemove
import XotModel.Lemmas.FpxRefineMain
import XotModel.Lemmas.FpxRefineDedup
import XotModel.Lemmas.FhistExt
import XotModel.Lemmas.ReachHist
import XotModel.Lemmas.ReachAxes
import XotModel.Lemmas.ReachScope
import XotModel.Lemmas.ReachRepresentable
import XotModel.Lemmas.FparseHistIds
import XotModel.Lemmas.FparseHistTables
import XotModel.Lemmas.ParseWitness

namespace XotModel.Props
open XotModel

theorem C04_init : Forest.init.inv = true := by decide +kernel

/-- Switching consolidation on or off preserves the invariant (`everOff` is remembered, so the
    no-adjacent-text clause is only claimed while it has never been off). -/
theorem C04_setConsolidation (f : Forest) (b : Bool) (h : f.inv = true) :
    (f.setConsolidation b).inv = true := by
  rw [Forest.inv_iff] at *
  obtain ⟨h1, h2, h3, h4, h5⟩ := h
  refine ⟨h1, h2, h3, ?_, ?_⟩
  · show validList (!(f.everOff || !b)) f.roots = true
    cases b with
    | true => simpa using h4
    | false => simpa using validList_weaken' _ _ h4
  · show b = true ∨ (f.everOff || !b) = true
    cases b <;> simp

/-- Value updates (`set_element_name`, text / comment / PI setters, map updates of an existing
    key) never create, lose or reorder a handle. -/
theorem C04_setValue_handles (f : Forest) (h : Nat) (v : Value) :
    (f.setValue h v).allHandles = f.allHandles := Forest.allHandles_setValue f h v

/-- Non-vacuity: a concrete non-trivial forest satisfying the invariant. -/
example : ({ roots := [.node 0 .document [.node 1 (.element 2) [.node 2 (.namespace 0 2) [], .node 3 (.attribute 3 ['v']) [], .node 4 (.text ['x']) []]]], next := 5 } : Forest).inv = true := by decide +kernel

/-! ### Handle bookkeeping of the primitives

Arguments that are not live handles are outside the scope of these statements (hypothesis
`isLive` / `get? = some`); for such arguments the primitives are the identity or drop the tree,
see the definitions. -/

/-- `new_node` adds exactly the fresh handle `f.next`. -/
theorem C04_newNode_handles (f : Forest) (v : Value) :
    (f.newNode v).1.allHandles = f.allHandles ++ [f.next] ∧ (f.newNode v).2 = f.next ∧
    (f.newNode v).1.next = f.next + 1 := ⟨Fmap.allHandles_newNode f v, rfl, rfl⟩

/-- `cut` (indextree `detach`): the remaining handles and the handles of the cut subtree
    partition the old handles. -/
theorem C04_cut_handles (f f' : Forest) (h : Nat) (t : HTree) (nd : f.allHandles.Nodup)
    (hc : f.cut h = (f', some t)) : (f'.allHandles ++ HTree.handles t).Perm f.allHandles :=
  Forest.cut_perm nd hc

/-- `remove_subtree`. -/
theorem C04_dropSubtree_handles (f : Forest) (h : Nat) (t : HTree) (nd : f.allHandles.Nodup)
    (hg : f.get? h = some t) : ((f.dropSubtree h).allHandles ++ HTree.handles t).Perm f.allHandles :=
  Forest.dropSubtree_perm nd hg

/-- indextree `remove`: exactly the handle `h` disappears, its children stay. -/
theorem C04_spliceOut_handles (f : Forest) (h : Nat) (nd : f.allHandles.Nodup) (hl : f.isLive h = true) :
    ((f.spliceOut h).allHandles ++ [h]).Perm f.allHandles := Forest.spliceOut_perm nd hl

/-- Raw insertion of a tree next to a live non-root node / under a live node: the new handles
    are the old ones and the tree's. -/
theorem C04_placeAfter_handles (f : Forest) (ref : Nat) (t : HTree) (nd : f.allHandles.Nodup)
    (hl : f.isLive ref = true) (hr : f.isRoot ref = false) :
    (f.placeAfter ref t).allHandles.Perm (f.allHandles ++ HTree.handles t) :=
  Forest.placeAfter_perm t nd hl hr

theorem C04_placeBefore_handles (f : Forest) (ref : Nat) (t : HTree) (nd : f.allHandles.Nodup)
    (hl : f.isLive ref = true) (hr : f.isRoot ref = false) :
    (f.placeBefore ref t).allHandles.Perm (f.allHandles ++ HTree.handles t) :=
  Forest.placeBefore_perm t nd hl hr

theorem C04_placeLast_handles (f : Forest) (p : Nat) (t : HTree) (nd : f.allHandles.Nodup)
    (hl : f.isLive p = true) : (f.placeLast p t).allHandles.Perm (f.allHandles ++ HTree.handles t) :=
  Forest.placeLast_perm t nd hl

theorem C04_placeFirst_handles (f : Forest) (p : Nat) (t : HTree) (nd : f.allHandles.Nodup)
    (hl : f.isLive p = true) : (f.placeFirst p t).allHandles.Perm (f.allHandles ++ HTree.handles t) :=
  Forest.placeFirst_perm t nd hl

/-! ### Preservation of the invariant, operation by operation

Every statement below holds for ALL forests satisfying the invariant and ALL arguments (live
or not: a call on a handle that is not live is refused by the argument checks or is the
identity), and for every outcome of the call (`ok`, `err`, `panic`). -/

theorem C04_newNode (f : Forest) (v : Value) (h : f.Inv) : (f.newNode v).1.Inv := Fcreation.newNode_inv h v
theorem C04_newDocument (f : Forest) (h : f.Inv) : f.newDocument.1.Inv := Fcreation.newNode_inv h _
theorem C04_newElement (f : Forest) (n : Nat) (h : f.Inv) : (f.newElement n).1.Inv := Fcreation.newNode_inv h _
theorem C04_newText (f : Forest) (s : Str) (h : f.Inv) : (f.newText s).1.Inv := Fcreation.newNode_inv h _
theorem C04_newComment (f : Forest) (s : Str) (h : f.Inv) : (f.newComment s).1.Inv := Fcreation.newNode_inv h _
theorem C04_newPi (f : Forest) (t : Nat) (d : Option Str) (h : f.Inv) : (f.newPi t d).1.Inv :=
  Fcreation.newNode_inv h _
theorem C04_newAttributeNode (f : Forest) (n : Nat) (v : Str) (h : f.Inv) :
    (f.newAttributeNode n v).1.Inv := Fcreation.newNode_inv h _
theorem C04_newNamespaceNode (f : Forest) (p n : Nat) (h : f.Inv) :
    (f.newNamespaceNode p n).1.Inv := Fcreation.newNode_inv h _

/-- The text-consolidation helpers of manipulation.rs keep the invariant for all arguments. -/
theorem C04_removeConsolidate (f : Forest) (prev next : Option Nat) (h : f.Inv) :
    (f.removeConsolidate prev next).1.Inv := Forest.removeConsolidate_inv h prev next
theorem C04_addConsolidate (f : Forest) (node : Nat) (prev next : Option Nat) (h : f.Inv) :
    (f.addConsolidate node prev next).1.Inv := Forest.addConsolidate_inv h node prev next

theorem C04_append (f : Forest) (parent child : Nat) (h : f.Inv) : (f.append parent child).1.Inv :=
  Forest.append_inv h parent child

theorem C04_prepend (f : Forest) (parent child : Nat) (h : f.Inv) : (f.prepend parent child).1.Inv :=
  Forest.prepend_inv h parent child

theorem C04_insertAfter (f : Forest) (ref new : Nat) (h : f.Inv) : (f.insertAfter ref new).1.Inv :=
  Forest.insertAfter_inv h ref new

theorem C04_insertBefore (f : Forest) (ref new : Nat) (h : f.Inv) : (f.insertBefore ref new).1.Inv :=
  Forest.insertBefore_inv h ref new

theorem C04_detach (f : Forest) (node : Nat) (h : f.Inv) : (f.detach node).1.Inv :=
  Forest.detach_inv h node

theorem C04_remove (f : Forest) (node : Nat) (h : f.Inv) : (f.remove node).1.Inv :=
  Forest.remove_inv h node

/-- Setters: the kind of the value does not change, so neither does validity; in strict mode
    `setText` keeps "no adjacent text" because text-ness does not change. -/
theorem C04_setElementName (f : Forest) (node name : Nat) (h : f.Inv) : (f.setElementName node name).1.Inv :=
  Forest.setElementName_inv h node name

theorem C04_setText (f : Forest) (node : Nat) (s : Str) (h : f.Inv) : (f.setText node s).1.Inv :=
  Forest.setText_inv h node s

theorem C04_setComment (f : Forest) (node : Nat) (s : Str) (h : f.Inv) : (f.setComment node s).1.Inv :=
  Forest.setComment_inv h node s

theorem C04_setPiData (f : Forest) (node : Nat) (d : Option Str) (h : f.Inv) : (f.setPiData node d).1.Inv :=
  Forest.setPiData_inv h node d

/-- A value update that stays within the kind of the old value. -/
theorem C04_setValue (f : Forest) (n : Nat) (v v' : Value) (h : f.Inv) (hv : f.value? n = some v)
    (hk : SameKind v v') (ha : ∀ x, kidAllowed v' x = kidAllowed v x) : (f.setValue n v').Inv :=
  Forest.setValue_inv h hv hk ha

/-- Map removal and what is built from `remove`. -/
theorem C04_mapRemove (f : Forest) (k : Forest.MapKind) (parent key : Nat) (h : f.Inv) :
    (f.mapRemove k parent key).1.Inv := Forest.mapRemove_inv h k parent key

theorem C04_mapClear (f : Forest) (k : Forest.MapKind) (parent : Nat) (h : f.Inv) :
    (f.mapClear k parent).1.Inv := Forest.mapClear_inv h k parent

theorem C04_removeInsignificantWhitespace (f : Forest) (node : Nat) (h : f.Inv) :
    (f.removeInsignificantWhitespace node).Inv := Forest.removeInsignificantWhitespace_inv h node

/-- Non-vacuity of the move theorems: an invariant forest in strict mode on which `append` has to
    merge text on both sides (`<a>x<b/>y</a>`, `<c>z</c>`; append the element `b` to `c`, then the
    text `y`+`x` merge), checked by evaluation. -/
example : let f : Forest := { roots := [.node 0 (.element 1) [.node 1 (.text ['x']) [], .node 2 (.element 2) [], .node 3 (.text ['y']) []], .node 4 (.element 3) [.node 5 (.text ['z']) []]], next := 6 }
    f.inv = true ∧ (f.append 4 2).2 = .ok ∧ (f.append 4 2).1.inv = true ∧
    (f.append 4 1).2 = .ok ∧ (f.append 4 1).1.inv = true ∧ (f.insertAfter 5 3).1.inv = true := by decide +kernel

/-! ### Node maps, `any_append`, `text_content_mut` -/

/-- `MutableNodeMap::insert(key, value)`.  The entry value must be of the map's kind — the Rust API
    builds it from the key and the value, so it always is; the model's function takes a raw
    `Value`, and for a value of another kind the statement is false (witness below). -/
theorem C04_mapInsert (f : Forest) (k : Forest.MapKind) (parent : Nat) (entry : Value) (h : f.Inv)
    (hm : k.matches entry = true) : (f.mapInsert k parent entry).1.Inv :=
  Forest.mapInsert_inv h k parent entry hm

/-- `MutableNodeMap::insert_node` (crate-private; the public entry points `append_attribute_node`,
    `append_namespace_node`, `any_append` check that the parent is an element first). -/
theorem C04_mapInsertNode (f : Forest) (k : Forest.MapKind) (parent node : Nat) (h : f.Inv)
    (he : f.isElement parent = true) : (f.mapInsertNode k parent node).1.Inv :=
  Forest.mapInsertNode_inv h k node he

theorem C04_appendEntryNode (f : Forest) (k : Forest.MapKind) (parent child : Nat) (h : f.Inv) :
    (f.appendEntryNode k parent child).1.Inv := Forest.appendEntryNode_inv h k parent child

theorem C04_anyAppend (f : Forest) (parent child : Nat) (h : f.Inv) : (f.anyAppend parent child).1.Inv :=
  Forest.anyAppend_inv h parent child

theorem C04_textContentSet (f : Forest) (node : Nat) (s : Str) (h : f.Inv) :
    (f.textContentSet node s).1.Inv := Forest.textContentSet_inv h node s

/-- Outside the API the two guarded statements above are false of the model: a document value
    inserted as an "attribute", and `insert_node` under a text node. -/
example : let f : Forest := { roots := [.node 0 (.element 1) [], .node 1 (.text ['x']) [], .node 2 (.attribute 3 ['v']) []], next := 3 }
    f.inv = true ∧ (f.mapInsert .attributes 0 .document).1.inv = false ∧
    (f.mapInsertNode .attributes 1 2).1.inv = false := by decide +kernel

/-! ### Handles are never re-used: `is_removed` is monotone

`Forest.Le f f'`: `next` has not decreased and every handle of `f'` is a handle of `f` or at least
`f.next`.  It holds for every call of the model — including `replace`, `element_wrap`,
`element_unwrap`, `clone_node` — for all forests and all arguments, without any invariant. -/

theorem C04_step_le (f : Forest) (o : Op) : Forest.Le f (f.step o) := Forest.le_step f o

/-- A removed handle stays removed by any single call … -/
theorem C04_isRemoved_monotone (f : Forest) (o : Op) (h : Nat) (hr : f.isRemoved h = true) :
    (f.step o).isRemoved h = true := Forest.isRemoved_mono (Forest.le_step f o) hr

/-- … and along every history. -/
theorem C04_isRemoved_history (f : Forest) (ops : List Op) (h : Nat) (hr : f.isRemoved h = true) :
    (f.run ops).isRemoved h = true := Forest.isRemoved_mono (Forest.le_run f ops) hr

/-- A handle handed out by a creation call is fresh: it was neither live nor removed before. -/
theorem C04_fresh_handle (f : Forest) (v : Value) (hi : f.Inv) :
    f.isLive (f.newNode v).2 = false ∧ f.isRemoved (f.newNode v).2 = false := by
  constructor
  · cases hl : f.isLive (f.newNode v).2 with
    | false => rfl
    | true => exact absurd (hi.below _ (Forest.mem_allHandles_of_isLive hl)) (Nat.lt_irrefl _)
  · simp [Forest.isRemoved, Forest.newNode]

/-! ### Histories -/

/-- One step: every call in `Op.core` (which is every call) preserves the invariant, whatever
    its arguments and outcome. -/
theorem C04_step (f : Forest) (o : Op) (h : f.Inv) (hc : o.core = true) : (f.step o).Inv :=
  Forest.step_inv h o hc

/-- The handle part of one step: handles stay distinct and below `next`. -/
theorem C04_handles_step (f : Forest) (o : Op) (h : f.Inv) (hc : o.core = true) :
    (f.step o).allHandles.Nodup ∧ ∀ x ∈ (f.step o).allHandles, x < (f.step o).next :=
  ⟨(Forest.step_inv h o hc).nodup, (Forest.step_inv h o hc).below⟩

/-- Every forest reachable from the empty store by calls in `Op.core`, with arbitrary arguments
    (live, removed, or never created), satisfies the invariant. -/
theorem C04_reach (ops : List Op) (hc : ∀ o ∈ ops, o.core = true) : (Forest.init.run ops).Inv :=
  Forest.run_inv ((Forest.inv_iff _).mp C04_init) ops hc

theorem C04_reach_bool (ops : List Op) (hc : ∀ o ∈ ops, o.core = true) : (Forest.init.run ops).inv = true :=
  (Forest.inv_iff _).mpr (C04_reach ops hc)
/-- The same without the side condition: every `Op` is in `Op.core`. -/
theorem C04_step_all (f : Forest) (o : Op) (h : f.Inv) : (f.step o).Inv :=
  Forest.step_inv h o (by cases o <;> rfl)

/-- Every forest reachable from the empty store by any sequence of calls of the mutating API,
    with arbitrary arguments and whatever the calls answer, satisfies the invariant. -/
theorem C04_reach_all (ops : List Op) : (Forest.init.run ops).Inv :=
  C04_reach ops (fun o _ => by cases o <;> rfl)

theorem C04_reach_all_bool (ops : List Op) : (Forest.init.run ops).inv = true :=
  (Forest.inv_iff _).mpr (C04_reach_all ops)

/-- Non-vacuity: a history that creates, moves, merges text, removes, and calls on a removed
    handle; evaluated. -/
example : let ops : List Op := [.newElement 1, .newText ['x'], .newElement 2, .newText ['y'],
      .append 0 1, .append 0 2, .append 0 3, .attrInsert 0 7 ['v'], .remove 2, .append 0 2, .setText 1 ['z']]
    (∀ o ∈ ops, o.core = true) ∧ (Forest.init.run ops).inv = true ∧
    (Forest.init.run ops).isRemoved 2 = true ∧ (Forest.init.run ops).isRemoved 3 = true ∧
    (Forest.init.run ops).allHandles = [0, 4, 1] := by decide +kernel

/-! ### `replace`, `element_wrap`, `element_unwrap`, `clone_node`

These four take a node out *without* consolidating its former neighbours (`remove_subtree`,
raw `detach`, indextree `remove`) and repair the text adjacency in a later step, so their
intermediate states do not satisfy the invariant in strict mode, and the step lemmas of the moves
cannot simply be chained.  All four statements are proved in full:
`element_wrap` / `element_unwrap` by evaluating their steps on the explicit forest;
`replace` in the gap case (`Forest.textGap = true`: the replaced node sits between two text nodes)
by showing that `insert_after` on the state after `remove_subtree(replaced)` is, step by step, the
same step on the valid forest followed by `remove_subtree(replaced)` — a text replacing node is
merged into the left text and the final consolidation then is `remove(replaced)` on a valid
forest; any other replacing node lands exactly in the hole;
`clone_node` with the C06 lemmas for its guard. -/

def C04_replaceStatement : Prop := ∀ (f : Forest) (a b : Nat), f.Inv → (f.replace a b).1.Inv
def C04_elementWrapStatement : Prop := ∀ (f : Forest) (n name : Nat), f.Inv → (f.elementWrap n name).1.Inv
def C04_elementUnwrapStatement : Prop := ∀ (f : Forest) (n : Nat), f.Inv → (f.elementUnwrap n).1.Inv
def C04_cloneNodeStatement : Prop := ∀ (f : Forest) (n : Nat), f.Inv → (f.cloneNode n).1.Inv

/-- `replace` when the replaced node does not sit between two text nodes in strict mode. -/
theorem C04_replace_partial (f : Forest) (a b : Nat) (h : f.Inv) (hg : f.textGap a = false) :
    (f.replace a b).1.Inv := Forest.replace_inv_of_noGap h a b hg

/-- `replace` in the gap case: the final `remove_consolidate_text_nodes(previous, …)` repairs the
    gap (or the replacing node fills it). -/
theorem C04_replace_gap (f : Forest) (a b : Nat) (h : f.Inv) (hg : f.textGap a = true) :
    (f.replace a b).1.Inv := Forest.replace_inv_of_gap h a b hg

/-- `replace`: full statement. -/
theorem C04_replace (f : Forest) (a b : Nat) (h : f.Inv) : (f.replace a b).1.Inv :=
  Forest.replace_inv h a b

theorem C04_replaceStatement_holds : C04_replaceStatement := fun f a b h => C04_replace f a b h
/-- `element_wrap`: full statement (the gap case by evaluating its steps on the explicit forest). -/
theorem C04_elementWrap (f : Forest) (node name : Nat) (h : f.Inv) : (f.elementWrap node name).1.Inv :=
  Forest.elementWrap_inv h node name

theorem C04_elementWrapStatement_holds : C04_elementWrapStatement := fun f n name h => C04_elementWrap f n name h
/-- `textGap`, the case split of `C04_replace_partial` / `C04_replace_gap`, is `false` once consolidation has ever
    been off. -/
theorem C04_textGap_off (f : Forest) (a : Nat) (h : f.everOff = true) : f.textGap a = false := by
  unfold Forest.textGap; cases f.ctx? a <;> simp [h]

/-- `element_unwrap`: full statement (`remove_element` evaluated on the explicit forest, then the
    two consolidations at the seams). -/
theorem C04_elementUnwrap (f : Forest) (node : Nat) (h : f.Inv) : (f.elementUnwrap node).1.Inv :=
  Forest.elementUnwrap_inv h node

theorem C04_elementUnwrapStatement_holds : C04_elementUnwrapStatement := fun f n h => C04_elementUnwrap f n h
/-- The replay loop of `clone_node` (`new_node` + `any_append` per source node) preserves the
    invariant; `clone_node` of a document or of a leaf node does; for an element the state before
    the final indextree `remove` of the temporary top does. -/
theorem C04_cloneInto (f f' : Forest) (current : Nat) (t : HTree) (h : f.Inv)
    (hc : Forest.cloneInto f current t = some f') : f'.Inv := Forest.cloneInto_inv current t f f' h hc

theorem C04_cloneKids (f f' : Forest) (current : Nat) (ks : List HTree) (h : f.Inv)
    (hc : Forest.cloneKids f current ks = some f') : f'.Inv := Forest.cloneKids_inv current ks f f' h hc

theorem C04_cloneNode_partial (f : Forest) (node : Nat) (h : f.Inv) (hne : f.isElement node = false) :
    (f.cloneNode node).1.Inv := Forest.cloneNode_inv_of_not_element h node hne

/-- `clone_node` of an element, under the decidable guard `Forest.cloneTopOK`: after the replay
    the temporary top element is still parentless and has at most one child, which is what the
    final indextree `remove` of the top needs. -/
theorem C04_cloneNode_guarded (f : Forest) (node : Nat) (h : f.Inv) (hok : f.cloneTopOK node = true) :
    (f.cloneNode node).1.Inv := Forest.cloneNode_inv_of_topOK h node hok

/-- The guard always holds under the invariant (the argument of the C06 lemmas: during the replay
    nothing but the clone's root is ever given the scratch element as parent, and the scratch
    element keeps having no parent). -/
theorem C04_cloneTopOK (f : Forest) (node : Nat) (h : f.Inv) : f.cloneTopOK node = true :=
  Forest.cloneTopOK_of_inv h node

/-- `clone_node`: full statement. -/
theorem C04_cloneNode (f : Forest) (node : Nat) (h : f.Inv) : (f.cloneNode node).1.Inv :=
  Forest.cloneNode_inv h node

theorem C04_cloneNodeStatement_holds : C04_cloneNodeStatement := fun f n h => C04_cloneNode f n h
/-- Non-vacuity: a strict forest with a gap (`<a>x<b/>y</a>`, `b` between two texts) and one
    without; the gap case is not empty. -/
def gapForest : Forest := { roots := [.node 0 (.element 1) [.node 1 (.text ['x']) [], .node 2 (.element 2) [], .node 3 (.text ['y']) []], .node 4 (.text ['z']) [], .node 5 (.element 3) []], next := 6 }
example : gapForest.inv = true ∧ gapForest.textGap 2 = true ∧ gapForest.textGap 1 = false := by decide +kernel
example : (gapForest.replace 2 4).1.inv = true := by decide +kernel
example : (gapForest.replace 2 5).1.inv = true := by decide +kernel
example : (gapForest.replace 1 5).1.inv = true := by decide +kernel
example : (gapForest.elementWrap 2 9).1.inv = true := by decide +kernel
example : gapForest.cloneTopOK 0 = true := by decide +kernel

/-! ### A handle keeps denoting the same value

For creation, the four moves, `detach` and `remove`: a live node that is not text and does not lie
in the subtree the call moves or removes has the same value afterwards (so it is still live).
Text nodes are excluded on purpose: text consolidation rewrites the content of the text node next
to the old or the new site, so for a text node only "still a text node, or merged away" holds.
The setters change exactly the value of their target (`C04_setValue`); every other call, and what holds of
text nodes, is the subject of the next section (`C04_value_call`). -/

theorem C04_value_stable_newNode (f : Forest) (w : Value) (h : Nat) (v : Value)
    (hv : f.value? h = some v) : (f.newNode w).1.value? h = some v :=
  Forest.value?_newNode_of_some w hv

theorem C04_value_stable_append (f : Forest) (p c h : Nat) (v : Value) (hi : f.Inv)
    (hv : f.value? h = some v) (hnt : v.isText = false) (hc : c ∉ f.ancestors h) :
    (f.append p c).1.value? h = some v :=
  Forest.value_stable_of_outcome (Forest.append_outcome hi.toW p c) hv hnt hc

theorem C04_value_stable_prepend (f : Forest) (p c h : Nat) (v : Value) (hi : f.Inv)
    (hv : f.value? h = some v) (hnt : v.isText = false) (hc : c ∉ f.ancestors h) :
    (f.prepend p c).1.value? h = some v :=
  Forest.value_stable_of_outcome (Forest.prepend_outcome hi.toW p c) hv hnt hc

theorem C04_value_stable_insertAfter (f : Forest) (r n h : Nat) (v : Value) (hi : f.Inv)
    (hv : f.value? h = some v) (hnt : v.isText = false) (hc : n ∉ f.ancestors h) :
    (f.insertAfter r n).1.value? h = some v :=
  Forest.value_stable_of_outcome (Forest.insertAfter_outcome hi.toW r n) hv hnt hc

theorem C04_value_stable_insertBefore (f : Forest) (r n h : Nat) (v : Value) (hi : f.Inv)
    (hv : f.value? h = some v) (hnt : v.isText = false) (hc : n ∉ f.ancestors h) :
    (f.insertBefore r n).1.value? h = some v :=
  Forest.value_stable_of_outcome (Forest.insertBefore_outcome hi.toW r n) hv hnt hc

theorem C04_value_stable_remove (f : Forest) (n h : Nat) (v : Value) (hi : f.Inv)
    (hv : f.value? h = some v) (hnt : v.isText = false)
    (hsub : ∀ t, f.get? n = some t → h ∉ HTree.handles t) : (f.remove n).1.value? h = some v :=
  Forest.value_stable_remove hi n hv hnt hsub

theorem C04_value_stable_detach (f : Forest) (n h : Nat) (v : Value) (hi : f.Inv)
    (hv : f.value? h = some v) (hnt : v.isText = false)
    (hsub : ∀ t, f.get? n = some t → h ∉ HTree.handles t) : (f.detach n).1.value? h = some v :=
  Forest.value_stable_detach hi n hv hnt hsub

/-- Non-vacuity, and the reason text is excluded: removing `b` from `<a>x<b/>y</a>` keeps the value
    of `a` and rewrites the text `x`. -/
example : (gapForest.remove 2).1.value? 0 = some (.element 1) ∧
    (gapForest.remove 2).1.value? 1 = some (.text ['x', 'y']) := by decide +kernel

/-! ### A handle keeps its meaning: every call, every history

`Forest.Call` / `Forest.HStep` / `Op`: all calls of the mutating API.  `c.targets f`
(Model/FlocalSpec.lean) are the handles whose value the call may overwrite: the argument of
`set_element_name` and of the text / comment / PI setters, the text node `text_content_mut` hands
out, and for a map insertion (`insert`, `append_attribute_node`, `append_namespace_node`,
`any_append` of an entry node) the existing entry node of that key; empty for every other call.
`Forest.TextExt v v'`: both are text and the old content is a contiguous part of the new one (what
consolidation does to the text node that survives a merge: `old ++ merged` when the surviving node
is the earlier one, `merged ++ old` when a text node is placed in front of it). -/

/-- One call, whatever its arguments and outcome: a handle live before and after denotes a node
    of the same kind; unless it is a target its value is the same or, for text, extended; a node
    that is not text and not a target has exactly the same value. -/
theorem C04_value_call (f : Forest) (hi : f.Inv) (c : Forest.Call) (x : Nat) (v v' : Value)
    (hv : f.value? x = some v) (hv' : (c.run f).1.value? x = some v') :
    SameKind v v' ∧ (x ∉ c.targets f → v' = v ∨ Forest.TextExt v v') ∧
    (x ∉ c.targets f → v.isText = false → v' = v) :=
  ((Forest.vstep_call (S := fun y => y ∈ c.targets f) hi c (fun _ h => h)).value hi hv hv').cases_any

/-- The same for the steps that are not calls on nodes (creation, set_text_consolidation,
    remove_insignificant_whitespace: no targets). -/
theorem C04_value_step (f : Forest) (hi : f.Inv) (st : Forest.HStep) (x : Nat) (v v' : Value)
    (hv : f.value? x = some v) (hv' : (f.stepAll st).value? x = some v') :
    SameKind v v' ∧ (x ∉ st.targets f → v' = v ∨ Forest.TextExt v v') ∧
    (x ∉ st.targets f → v.isText = false → v' = v) :=
  ((Forest.vstep_stepAll (S := fun y => y ∈ st.targets f) hi st (fun _ h => h)).value hi hv hv').cases_any

/-- A handle that was live is afterwards live or removed (and then stays removed,
    `C04_isRemoved_history`). -/
theorem C04_live_or_removed (f : Forest) (hi : f.Inv) (st : Forest.HStep) (x : Nat)
    (hl : f.isLive x = true) : (f.stepAll st).isLive x = true ∨ (f.stepAll st).isRemoved x = true :=
  (Forest.vstep_stepAll (S := fun _ => True) hi st (fun _ _ => trivial)).live_or_removed hi hl

/-- `clone_node` changes no value at all. -/
theorem C04_value_cloneNode (f : Forest) (hi : f.Inv) (n x : Nat) (v : Value)
    (hv : f.value? x = some v) (hl : (f.cloneNode n).1.isLive x = true) :
    (f.cloneNode n).1.value? x = some v := by
  rw [Forest.isLive_iff_value?] at hl
  cases hv' : (f.cloneNode n).1.value? x with
  | none => rw [hv'] at hl; cases hl
  | some v' =>
    rcases (Forest.vstep_cloneNode (S := fun _ => False) (T := fun _ => False) hi n).value hi hv hv' with h | h | h
    · rw [h]
    · exact h.1.elim
    · exact h.1.elim

/-- Exactly which values a move can change (text included): `append(p, c)` the previous sibling of
    `c` and the last child of `p` (read after the old-site merge); `prepend` the first child;
    `insert_after` / `insert_before` the reference node and its neighbour on the other side;
    `detach` / `remove` the previous sibling. -/
theorem C04_value_exact_append (f : Forest) (hi : f.Inv) (p c x : Nat) (v v' : Value)
    (hv : f.value? x = some v) (hv' : (f.append p c).1.value? x = some v')
    (hx : x ∉ f.appendSites p c) : v' = v := Forest.append_value_exact hi p c hv hv' hx
theorem C04_value_exact_prepend (f : Forest) (hi : f.Inv) (p c x : Nat) (v v' : Value)
    (hv : f.value? x = some v) (hv' : (f.prepend p c).1.value? x = some v')
    (hx : x ∉ f.prependSites p c) : v' = v := Forest.prepend_value_exact hi p c hv hv' hx
theorem C04_value_exact_insertAfter (f : Forest) (hi : f.Inv) (r c x : Nat) (v v' : Value)
    (hv : f.value? x = some v) (hv' : (f.insertAfter r c).1.value? x = some v')
    (hx : x ∉ f.insertAfterSites r c) : v' = v := Forest.insertAfter_value_exact hi r c hv hv' hx
theorem C04_value_exact_insertBefore (f : Forest) (hi : f.Inv) (r c x : Nat) (v v' : Value)
    (hv : f.value? x = some v) (hv' : (f.insertBefore r c).1.value? x = some v')
    (hx : x ∉ f.insertBeforeSites r c) : v' = v := Forest.insertBefore_value_exact hi r c hv hv' hx
theorem C04_value_exact_detach (f : Forest) (hi : f.Inv) (n x : Nat) (v v' : Value)
    (hv : f.value? x = some v) (hv' : (f.detach n).1.value? x = some v')
    (hx : f.prevSibling n ≠ some x) : v' = v := Forest.detach_value_exact hi n hv hv' hx
theorem C04_value_exact_remove (f : Forest) (hi : f.Inv) (n x : Nat) (v v' : Value)
    (hv : f.value? x = some v) (hv' : (f.remove n).1.value? x = some v')
    (hx : f.prevSibling n ≠ some x) : v' = v := Forest.remove_value_exact hi n hv hv' hx

/-- The root `c` of a moved subtree, if still live after the move, has exactly its old value: a
    text node arriving next to a text node is merged into it and removed (the earlier node, or the
    node already there, survives), otherwise nothing writes to the moved node. -/
theorem C04_value_moved_root (f : Forest) (hi : f.Inv) (a c : Nat) (v v' : Value) (hv : f.value? c = some v) :
    ((f.append a c).1.value? c = some v' → v' = v) ∧ ((f.prepend a c).1.value? c = some v' → v' = v) ∧
    ((f.insertAfter a c).1.value? c = some v' → v' = v) ∧
    ((f.insertBefore a c).1.value? c = some v' → v' = v) :=
  ⟨Forest.append_root_exact hi a c hv, Forest.prepend_root_exact hi a c hv,
   Forest.insertAfter_root_exact hi a c hv, Forest.insertBefore_root_exact hi a c hv⟩
/-- Inside a moved subtree every other node keeps its value exactly, text nodes too. -/
theorem C04_value_moved_append (f : Forest) (hi : f.Inv) (p c x : Nat) (tc : HTree) (v v' : Value)
    (hg : f.get? c = some tc) (hx : x ∈ HTree.handles tc) (hxc : x ≠ c)
    (hv : f.value? x = some v) (hv' : (f.append p c).1.value? x = some v') : v' = v :=
  Forest.append_subtree_exact hi p c hg hx hxc hv hv'
theorem C04_value_moved_prepend (f : Forest) (hi : f.Inv) (p c x : Nat) (tc : HTree) (v v' : Value)
    (hg : f.get? c = some tc) (hx : x ∈ HTree.handles tc) (hxc : x ≠ c)
    (hv : f.value? x = some v) (hv' : (f.prepend p c).1.value? x = some v') : v' = v :=
  Forest.prepend_subtree_exact hi p c hg hx hxc hv hv'
theorem C04_value_moved_insertAfter (f : Forest) (hi : f.Inv) (r c x : Nat) (tc : HTree) (v v' : Value)
    (hg : f.get? c = some tc) (hx : x ∈ HTree.handles tc) (hxc : x ≠ c)
    (hv : f.value? x = some v) (hv' : (f.insertAfter r c).1.value? x = some v') : v' = v :=
  Forest.insertAfter_subtree_exact hi r c hg hx hxc hv hv'
theorem C04_value_moved_insertBefore (f : Forest) (hi : f.Inv) (r c x : Nat) (tc : HTree) (v v' : Value)
    (hg : f.get? c = some tc) (hx : x ∈ HTree.handles tc) (hxc : x ≠ c)
    (hv : f.value? x = some v) (hv' : (f.insertBefore r c).1.value? x = some v') : v' = v :=
  Forest.insertBefore_subtree_exact hi r c hg hx hxc hv hv'

/-- Summary.  Along any history of calls, between any two points of time `pre` and `pre ++ mid` at
    which the handle `h` is live (it is then live throughout, `C04_isRemoved_history`): the node
    kind is the same; if no call in between had `h` among its targets (each call judged in the
    state it is issued in, `Forest.neverTarget`) the value is the same, text content possibly
    extended by consolidation; so a node that is not text has exactly the same value. -/
theorem C04_handle_meaning (f : Forest) (hi : f.Inv) (pre mid : List Op) (h : Nat) (v v' : Value)
    (hv : (f.run pre).value? h = some v) (hv' : ((f.run pre).run mid).value? h = some v') :
    SameKind v v' ∧ ((f.run pre).neverTarget h mid → v' = v ∨ Forest.TextExt v v') ∧
    ((f.run pre).neverTarget h mid → v.isText = false → v' = v) := by
  have hi1 : (f.run pre).Inv := Forest.run_inv hi pre (fun o _ => by cases o <;> rfl)
  have key := Forest.history_value mid hi1 hv hv'
  refine ⟨key.1, key.2, fun hn hnt => ?_⟩
  rcases key.2 hn with e | e
  · exact e
  · exact (e.of_nontext hnt).elim

/-- Non-vacuity: wrap / replace / map update / clone / whitespace removal on `gapForest`
    (`<a>x<b/>y</a>`, text `z`, element 5): element 0 keeps its value, the text 1 is extended when
    `b` is replaced by the text `z`; the attribute update is a target. -/
def hmOps : List Op := [.elementWrap 2 9, .attrInsert 0 7 ['v'], .cloneNode 0, .replace 2 4,
  .removeInsignificantWhitespace 0, .attrInsert 0 7 ['w'], .elementUnwrap 6]
example : gapForest.Inv := (Forest.inv_iff _).mp (by decide +kernel)
example : gapForest.value? 0 = some (.element 1) ∧ (gapForest.run hmOps).value? 0 = some (.element 1) ∧
    gapForest.value? 1 = some (.text ['x']) ∧ (gapForest.run hmOps).value? 1 = some (.text ['x', 'z', 'y']) ∧
    gapForest.neverTarget 0 hmOps ∧ (gapForest.run hmOps).isRemoved 3 = true := by decide +kernel
example : (gapForest.run (hmOps.take 2)).value? 7 = some (.attribute 7 ['v']) ∧
    (gapForest.run hmOps).value? 7 = some (.attribute 7 ['w']) ∧
    ¬ (gapForest.run (hmOps.take 2)).neverTarget 7 (hmOps.drop 2) := by decide +kernel
example : gapForest.appendSites 5 2 = [1] ∧ gapForest.insertAfterSites 3 4 = [3] := by decide +kernel

/-! ### No read hands out a removed node -/

/-- Every handle returned by a node-returning read (`Forest.Read`: parent, first_child, last_child,
    next_sibling, previous_sibling, ancestors, children, descendants, the nodes of the attribute /
    namespace maps, the map lookup, the roots) is live, hence not removed. -/
theorem C04_reads_live (f : Forest) (hi : f.Inv) (r : Forest.Read) (x : Nat) (hx : x ∈ r.result f) :
    f.isLive x = true ∧ f.isRemoved x = false :=
  ⟨Forest.reads_live hi r x hx, Forest.isRemoved_false_of_live (Forest.reads_live hi r x hx)⟩

/-- `is_removed(h)`: handed out earlier and not in the forest any more. -/
theorem C04_isRemoved_iff (f : Forest) (h : Nat) :
    f.isRemoved h = true ↔ h < f.next ∧ f.isLive h = false := by simp [Forest.isRemoved]

/-- What a lookup returns is the node asked for, and all its nodes are live. -/
theorem C04_get_live (f : Forest) (h x : Nat) (t : HTree) (hg : f.get? h = some t)
    (hx : x ∈ HTree.handles t) : t.handle = h ∧ f.isLive x = true :=
  ⟨Forest.get?_handle hg, Forest.live_of_get?_mem hg hx⟩

example : (Forest.Read.children 0).result gapForest = [1, 2, 3] ∧
    (Forest.Read.previousSibling 2).result gapForest = [1] := by decide +kernel

/-! ### `create_missing_prefixes`, `deduplicate_namespaces` in the forest model

Model/FatomSpec2.lean: after a read-only walk (the tree-level models of Repair.lean / Scope.lean on
the erased root tree) both change the store only through `namespaces_mut(n).insert(prefix, ns)` /
`namespaces_mut(n).remove(prefix)`, i.e. through `Forest.Call`s, run in the order the Rust issues
them (`Forest.repairCalls`, `Forest.dedupCalls` — one pass —, `Forest.runCalls`). -/

/-- Every call of `Forest.Call` preserves the invariant (a map insertion carrying an entry of the
    map's kind, as the Rust API constructs it). -/
theorem C04_call_inv (f : Forest) (hi : f.Inv) (c : Forest.Call) (hw : c.wellKinded) : (c.run f).1.Inv :=
  Forest.call_inv hi c hw

/-- … hence every sequence of them. -/
theorem C04_runCalls (f : Forest) (hi : f.Inv) (cs : List Forest.Call) (hw : ∀ c ∈ cs, c.wellKinded) :
    (f.runCalls cs).1.Inv := Forest.runCalls_inv cs hi hw

/-- `create_missing_prefixes(node)`: for every vocabulary, every node (element, document with
    several top-level elements, or a node it refuses), whatever it answers. -/
theorem C04_step_prefixes (f : Forest) (hi : f.Inv) (env : Env) (node : Nat) :
    (f.createMissingPrefixes env node).1.Inv := Forest.createMissingPrefixes_inv hi env node

/-- `deduplicate_namespaces(node)`: passes until one removes nothing; every pass is a sequence of
    `remove` calls, so the invariant holds after each of them and at the end. -/
theorem C04_step_dedup (f : Forest) (hi : f.Inv) (env : Env) (node : Nat) :
    (f.deduplicateNamespaces env node).1.Inv := Forest.deduplicateNamespaces_inv hi env node

/-- … for every pass: the loop cut off after any number of rounds leaves a forest with the invariant. -/
theorem C04_step_dedup_passes (f : Forest) (hi : f.Inv) (env : Env) (node fuel : Nat) :
    (Forest.dedupLoop env node fuel f).1.Inv := Forest.dedupLoop_inv env node fuel hi

/-- Non-vacuity: `<a:e xmlns:p="urn:u"><a:e xmlns:p="urn:u"/></a:e>` with name 1 in namespace 2 and
    no prefix for it in scope … one `n0` declaration is created; the inner duplicate of `p` is removed. -/
def pfxEnv : Env :=
  { namespaces := [[], ['x'], ['u'], ['w']], prefixes := [[], ['x','m','l'], ['p']],
    names := [(['s'], 1), (['e'], 3)] }
def pfxForest : Forest := { roots := [.node 0 (.element 1) [.node 1 (.namespace 2 2) [],
  .node 2 (.element 1) [.node 3 (.namespace 2 2) []]]], next := 4 }
example : pfxForest.inv = true := by decide +kernel
example : ((pfxForest.createMissingPrefixes pfxEnv 0).1.get? 0).map (fun t => t.kids.map (·.value)) =
    some [.namespace 2 2, .namespace 3 3, .element 1] ∧
    (pfxForest.createMissingPrefixes pfxEnv 0).2.2 = .ok ∧
    (pfxForest.createMissingPrefixes pfxEnv 0).2.1.prefixes = [[], ['x','m','l'], ['p'], ['n', '0']] ∧
    (pfxForest.createMissingPrefixes pfxEnv 2).2.2 = .ok ∧
    (pfxForest.createMissingPrefixes pfxEnv 1).2.2 = .err .notElement := by decide +kernel
example : (pfxForest.deduplicateNamespaces pfxEnv 0).1.allHandles = [0, 1, 2] ∧
    (pfxForest.deduplicateNamespaces pfxEnv 0).2 = .ok := by decide +kernel

/-! ### `create_missing_prefixes`: the forest model refines the tree model of C10

The forest model (`Forest.createMissingPrefixes`, Model/FatomSpec2.lean) computes its insertions from
the erased root tree and runs them through handles, re-erasing after every top-level element; the
tree model (`createMissingPrefixes`, Model/Repair.lean, the subject of every `C10_repair_*` theorem in
Props/C10) rebuilds the subtree in one pass and threads the tree through the document loop.  The
theorems below (Lemmas/FpxRefine*.lean) say the two agree on every forest satisfying the invariant:
same interning tables, same outcome, and the erased root tree of the forest model IS the tree model's
result — so the C10 theorems hold of forest histories (`C10_forest_repair_writable`; with the round trip:
`C10_reachable_repair_roundtrip` in Props/C10.lean, which imports this file).  They live here
(not in Props/C10) because they are about handles staying meaningful: the handles of existing nodes
are unchanged, every other parentless tree is untouched.

`r` is the parentless tree containing `node` and `path` the path of `node` in it; both exist for every
live handle (`Forest.rootOf?_of_live`). -/

/-- On an element.  `create_missing_prefixes(node)` on an element of a forest with the invariant answers
    `Ok`; the tree model on `(r.erase, path)` answers `Ok` with the SAME interning tables and the erasure
    of the new root tree `r'`; `r'` is the root tree of `node` afterwards, `node` is found at the same
    path; every other parentless tree is untouched; the handles of `r'` that existed before the call
    are exactly the handles of `r`, in the same document order (new namespace nodes get fresh
    handles); the path of every node that is not strictly below `node` is unchanged. -/
theorem C10_forest_repair_refines_tree (f : Forest) (hi : f.Inv) (env : Env) (node : Nat)
    (he : f.isElement node = true) (r : HTree) (hr : f.rootOf? node = some r) (path : Path)
    (hp : r.pathOf node = some path) :
    ∃ r' : HTree,
      (f.createMissingPrefixes env node).2.2 = .ok ∧
      createMissingPrefixes env r.erase path = .ok ((f.createMissingPrefixes env node).2.1, r'.erase) ∧
      (f.createMissingPrefixes env node).1.rootOf? node = some r' ∧
      r'.pathOf node = some path ∧
      (f.createMissingPrefixes env node).1.roots =
        f.roots.map (fun y => if (y.pathOf node).isSome then r' else y) ∧
      r'.handles.filter (· < f.next) = r.handles ∧
      f.next ≤ (f.createMissingPrefixes env node).1.next ∧
      ∀ x q, r.pathOf x = some q → (path <+: q → q = path) → r'.pathOf x = some q := by
  obtain ⟨r', h1, _, h3, h4, h5, h6, h7, h8, _, h10⟩ := Forest.fpxr_element hi env he hr hp
  exact ⟨r', h1, h3, h4, h5, h6, h7, h8, h10⟩

/-- On an element both models are their `create_missing_prefixes_for_element`. -/
theorem C10_forest_repair_element_branch (f : Forest) (hi : f.Inv) (env : Env) (node : Nat)
    (he : f.isElement node = true) (r : HTree) (hr : f.rootOf? node = some r) (path : Path)
    (hp : r.pathOf node = some path) :
    f.createMissingPrefixes env node = f.repairElementF env node ∧
      createMissingPrefixes env r.erase path = repairElement env r.erase path :=
  Forest.fpxr_cmp_element hi env he hr hp

/-- On a document / fragment with at least one element child: the loop over the top-level elements.  The
    forest model re-erases the root after every element, the tree model threads the tree; they agree
    because a call changes nothing outside the strict subtree of its element.  Same conclusions as
    for an element; paths are unchanged for every node at most one level below `node` (the document,
    its ancestors, its children — the repaired elements themselves). -/
theorem C10_forest_repair_refines_tree_document (f : Forest) (hi : f.Inv) (env : Env) (node : Nat)
    (hd : f.isDocument node = true)
    (hk : ∃ D k, f.get? node = some D ∧ k ∈ D.kids ∧ k.value.isElement = true)
    (r : HTree) (hr : f.rootOf? node = some r) (path : Path) (hp : r.pathOf node = some path) :
    ∃ r' : HTree,
      (f.createMissingPrefixes env node).2.2 = .ok ∧
      createMissingPrefixes env r.erase path = .ok ((f.createMissingPrefixes env node).2.1, r'.erase) ∧
      (f.createMissingPrefixes env node).1.rootOf? node = some r' ∧
      r'.pathOf node = some path ∧
      (f.createMissingPrefixes env node).1.roots =
        f.roots.map (fun y => if (y.pathOf node).isSome then r' else y) ∧
      r'.handles.filter (· < f.next) = r.handles ∧
      f.next ≤ (f.createMissingPrefixes env node).1.next ∧
      ∀ x q, r.pathOf x = some q → q.length ≤ path.length + 1 → r'.pathOf x = some q := by
  obtain ⟨r', h1, _, h3, h4, h5, h6, h7, h8, _, h10⟩ := Forest.fpxr_document hi env hd hk hr hp
  exact ⟨r', h1, h3, h4, h5, h6, h7, h8, h10⟩

/-- Refusals.  `NotElement` (neither element nor document) and `NoElementAtTopLevel` (a document
    without element child): both models refuse with the same error, the forest and the interning
    tables are returned as they were. -/
theorem C10_forest_repair_refusals (f : Forest) (hi : f.Inv) (env : Env) (node : Nat)
    (r : HTree) (hr : f.rootOf? node = some r) (path : Path) (hp : r.pathOf node = some path) :
    (f.isElement node = false → f.isDocument node = false →
      f.createMissingPrefixes env node = (f, env, .err .notElement) ∧
      createMissingPrefixes env r.erase path = .err .notElement) ∧
    (f.isDocument node = true → (∀ D, f.get? node = some D → ∀ k ∈ D.kids, k.value.isElement = false) →
      f.createMissingPrefixes env node = (f, env, .err .noElementAtTopLevel) ∧
      createMissingPrefixes env r.erase path = .err .noElementAtTopLevel) :=
  ⟨fun he hd => Forest.fpxr_cmp_notElement hi env he hd hr hp,
   fun hd hno => (Forest.fpxr_createMissingPrefixes_document hi env hd hr hp).1 hno⟩

/-- The side condition of the tree-level C10 theorems (no element declares a prefix twice below the
    node) holds of the erasure of every live subtree of a forest with the invariant. -/
theorem C10_forest_uniqueBelow (f : Forest) (hi : f.Inv) (node : Nat) (S : HTree) (hg : f.get? node = some S) :
    UniqueBelow S.erase := Forest.fpxr_uniqueBelow hi hg

/-- Corollary (`C10_repair_writable` of C10 for forest histories): after
    `create_missing_prefixes` on a live element of a forest with the invariant, the serialiser's
    `MissingPrefix` checks (`namesWritable`) pass on the erased root tree at the path of the node —
    with no hypothesis on the tree beyond `Forest.Inv`. -/
theorem C10_forest_repair_writable (f : Forest) (hi : f.Inv) (env : Env) (hok : Repair.EnvOk env) (node : Nat)
    (he : f.isElement node = true) (r : HTree) (hr : f.rootOf? node = some r) (path : Path)
    (hp : r.pathOf node = some path) :
    ∃ r' : HTree, (f.createMissingPrefixes env node).1.rootOf? node = some r' ∧ r'.pathOf node = some path ∧
      namesWritable (f.createMissingPrefixes env node).2.1 r'.erase path = some true :=
  Forest.fpxr_element_writable hi env hok he hr hp

/-- Non-vacuity on `pfxForest`: the hypotheses hold for the root element (path `[]`) and the inner
    element (handle 2, path `[1]`: one namespace node before it); before the call the names are not
    writable, the tree model answers `Ok`, afterwards they are writable; the inner element keeps its
    handle and its path shifts by the one new namespace node (it is strictly below the repaired
    element), the old handles keep their order. -/
example : pfxForest.Inv ∧ Repair.EnvOk pfxEnv ∧ pfxForest.isElement 0 = true ∧ pfxForest.isElement 2 = true ∧
    (pfxForest.rootOf? 2).map (·.handle) = some 0 ∧
    (pfxForest.rootOf? 2).bind (·.pathOf 2) = some [1] ∧
    (pfxForest.rootOf? 0).bind (·.pathOf 0) = some [] :=
  ⟨(Forest.inv_iff _).mp (by decide +kernel), rfl, by decide +kernel, by decide +kernel, by decide +kernel, by decide +kernel, by decide +kernel⟩
example : (pfxForest.rootOf? 0).bind (fun r => namesWritable pfxEnv r.erase []) = some false ∧
    (pfxForest.rootOf? 0).map (fun r => match createMissingPrefixes pfxEnv r.erase [] with
      | .ok _ => true
      | _ => false) = some true ∧
    ((pfxForest.createMissingPrefixes pfxEnv 0).1.rootOf? 0).bind
      (fun r' => namesWritable (pfxForest.createMissingPrefixes pfxEnv 0).2.1 r'.erase []) = some true ∧
    ((pfxForest.createMissingPrefixes pfxEnv 0).1.rootOf? 2).bind (·.pathOf 2) = some [2] ∧
    ((pfxForest.createMissingPrefixes pfxEnv 0).1.rootOf? 0).map (·.handles) = some [0, 1, 4, 2, 3] ∧
    ((pfxForest.createMissingPrefixes pfxEnv 2).1.rootOf? 2).bind (·.pathOf 2) = some [1] := by
  decide +kernel

/-- Non-vacuity of the document case: a fragment with two top-level elements, both needing a prefix;
    the second element is found at the same path after the first was repaired. -/
def pfxDocForest : Forest := { roots := [.node 0 .document [.node 1 (.element 1) [],
  .node 2 (.element 1) [.node 3 (.namespace 2 2) []]], .node 4 (.text ['z']) []], next := 5 }
example : pfxDocForest.Inv ∧ pfxDocForest.isDocument 0 = true ∧
    (pfxDocForest.rootOf? 0).bind (·.pathOf 0) = some [] ∧
    (∃ D k, pfxDocForest.get? 0 = some D ∧ k ∈ D.kids ∧ k.value.isElement = true) :=
  ⟨(Forest.inv_iff _).mp (by decide +kernel), by decide +kernel, by decide +kernel,
   ⟨_, .node 1 (.element 1) [], rfl, by simp [HTree.kids], rfl⟩⟩
example : (pfxDocForest.createMissingPrefixes pfxEnv 0).2.2 = .ok ∧
    ((pfxDocForest.createMissingPrefixes pfxEnv 0).1.rootOf? 0).map (·.handles) = some [0, 1, 5, 2, 3, 6] ∧
    ((pfxDocForest.createMissingPrefixes pfxEnv 0).1.rootOf? 2).bind (·.pathOf 2) = some [1] ∧
    (pfxDocForest.createMissingPrefixes pfxEnv 0).1.roots.map (·.handle) = [0, 4] ∧
    (pfxDocForest.createMissingPrefixes pfxEnv 4).2.2 = .err .notElement := by
  decide +kernel

/-! ### `deduplicate_namespaces`: the forest model refines the tree model of C15

The forest model (`Forest.deduplicateNamespaces`, `Forest.dedupLoop`, `Forest.dedupCalls` — one pass —,
Model/FatomSpec2.lean) takes `to_remove` of every pass from the erased root tree (the same
`dedupToRemove` the tree model uses) and removes through HANDLES, in traversal order, as the Rust does;
the tree model (`deduplicateNamespaces`, `dedupLoop`, `dedupPass`, Model/Scope.lean, the subject of every
theorem of Props/C15) names nodes by PATHS of raw child indices, which a removal on an ancestor shifts,
and therefore removes last entry first.  The theorems below (Lemmas/FpxRefineDedup*.lean) say the two
agree on every forest satisfying the invariant — removals on different elements touch different child
lists, two removals on one child list commute (`removeNsKid_comm`) —, pass by pass and for the loop (both
models give it the size of the erased root tree plus one as fuel).  So the C15 theorems hold of forest
histories (`C15_forest_dedup_idem`, `C15_forest_dedup_serialises`; with the reparse clause:
`C15_reachable_dedup` in Props/C15.lean, which imports this file).  They live here because they are about handles
staying meaningful: no handle is created, the handles afterwards are the old ones without those of the
removed namespace nodes, every other parentless tree is untouched.

`r` is the parentless tree containing `node`, `path` the path of `node` in it. -/

/-- One pass (`deduplicate_namespaces_pass`).  Running the calls of one pass (`Forest.dedupCalls`) on a
    forest with the invariant answers `Ok`; the tree-level pass on `(r.erase, path, S.erase)` (`S` the
    subtree of `node`) reports a removal exactly if the forest-level call list is not empty, and its
    tree is the erasure of the new root tree `r'`; `r'` is the root tree of `node` afterwards and `node`
    is found at the same path; every other parentless tree is untouched, `next` is unchanged; the handles
    of `r'` are a sublist of the handles of `r` (document order kept, none new), the `(handle, value)`
    pairs of the nodes that are not namespace nodes are unchanged (`C15_forest_dedup_only_namespace_nodes_go`
    reads this handle by handle); the path of every node that is not strictly below `node` is unchanged. -/
theorem C15_forest_dedup_pass_refines_tree (f : Forest) (hi : f.Inv) (env : Env) (node : Nat)
    (r : HTree) (hr : f.rootOf? node = some r) (path : Path) (hp : r.pathOf node = some path) :
    ∃ S r' : HTree, r.at? path = some S ∧
      (f.runCalls (f.dedupCalls env node)).2 = .ok ∧
      (dedupPass env r.erase path S.erase).2 = !(f.dedupCalls env node).isEmpty ∧
      (dedupPass env r.erase path S.erase).1 = r'.erase ∧
      (f.runCalls (f.dedupCalls env node)).1.rootOf? node = some r' ∧
      r'.pathOf node = some path ∧
      (f.runCalls (f.dedupCalls env node)).1.roots =
        f.roots.map (fun y => if (y.pathOf node).isSome then r' else y) ∧
      (f.runCalls (f.dedupCalls env node)).1.next = f.next ∧
      r'.handles.Sublist r.handles ∧
      (hv r').filter HTree.notNsPair = (hv r).filter HTree.notNsPair ∧
      ∀ x q, r.pathOf x = some q → (path <+: q → q = path) → r'.pathOf x = some q := by
  obtain ⟨S, r', h1, _, h3, h4, h5, _, h7, h8, h9, h10, h11⟩ := Forest.fpxd_pass hi env hr hp
  refine ⟨S, r', h1, by rw [h4], by rw [h3]; rfl, h5.symm, h7, h8, by rw [h4], by rw [h4], h9, h10, h11⟩

/-- **`deduplicate_namespaces(node)`: the forest model refines the tree model.**  On a forest with the
    invariant the call answers `Ok`; the tree model on `(r.erase, path)` returns the erasure of the new
    root tree `r'` — so every theorem of Props/C15 about `deduplicateNamespaces env r.erase path` is a
    theorem about the forest after the call —; `r'` is the root tree of `node` afterwards, `node` is
    found at the same path; every other parentless tree is untouched; `next` is unchanged; the handles
    of `r'` are a sublist of the handles of `r`; the `(handle, value)` pairs of the nodes that are not
    namespace nodes are unchanged; the path of every node not strictly below `node` is unchanged. -/
theorem C15_forest_dedup_refines_tree (f : Forest) (hi : f.Inv) (env : Env) (node : Nat)
    (r : HTree) (hr : f.rootOf? node = some r) (path : Path) (hp : r.pathOf node = some path) :
    ∃ r' : HTree,
      (f.deduplicateNamespaces env node).2 = .ok ∧
      deduplicateNamespaces env r.erase path = some r'.erase ∧
      (f.deduplicateNamespaces env node).1.rootOf? node = some r' ∧
      r'.pathOf node = some path ∧
      (f.deduplicateNamespaces env node).1.roots =
        f.roots.map (fun y => if (y.pathOf node).isSome then r' else y) ∧
      (f.deduplicateNamespaces env node).1.next = f.next ∧
      r'.handles.Sublist r.handles ∧
      (hv r').filter HTree.notNsPair = (hv r).filter HTree.notNsPair ∧
      ∀ x q, r.pathOf x = some q → (path <+: q → q = path) → r'.pathOf x = some q := by
  obtain ⟨r', h1, h2, _, h4, h5, h6, h7, h8⟩ := Forest.fpxd_deduplicateNamespaces hi env hr hp
  exact ⟨r', by rw [h1], h2, h4, h5, by rw [h1], by rw [h1], h6, h7, h8⟩

/-- … the loop cut off after ANY number of rounds (the `fuel` of both models): the forest-level loop
    erases to the tree-level loop with the same fuel. -/
theorem C15_forest_dedup_passes_refine_tree (f : Forest) (hi : f.Inv) (env : Env) (node fuel : Nat)
    (r : HTree) (hr : f.rootOf? node = some r) (path : Path) (hp : r.pathOf node = some path) :
    ∃ r' : HTree,
      (Forest.dedupLoop env node fuel f).2 = .ok ∧
      dedupLoop env path fuel r.erase = r'.erase ∧
      (Forest.dedupLoop env node fuel f).1.rootOf? node = some r' ∧
      r'.pathOf node = some path ∧
      (Forest.dedupLoop env node fuel f).1.roots =
        f.roots.map (fun y => if (y.pathOf node).isSome then r' else y) := by
  obtain ⟨r', h1, h2, _, h4, h5, _⟩ := Forest.fpxd_loop env node path fuel hi hr hp
  exact ⟨r', by rw [h1], h2.symm, h4, h5, by rw [h1]⟩

/-- What the unchanged non-namespace `(handle, value)` pairs say handle by handle: a handle of the old
    root tree that the new root tree lacks was a namespace node; all other handles are kept. -/
theorem C15_forest_dedup_only_namespace_nodes_go (f : Forest) (hi : f.Inv) (r r' : HTree) (hrm : r ∈ f.roots)
    (hv' : (hv r').filter HTree.notNsPair = (hv r).filter HTree.notNsPair) :
    ∀ x ∈ r.handles, x ∉ r'.handles → ∃ p ns, f.value? x = some (.namespace p ns) :=
  Forest.fpxd_only_namespace_nodes_go hi hrm hv'

/-- Corollary (`C15_idem` for forest histories): **a second forest-level call changes nothing** — for
    every forest with the invariant, every vocabulary, every node argument (live or not); the first
    pass of the second call finds nothing to remove. -/
theorem C15_forest_dedup_idem (f : Forest) (hi : f.Inv) (env : Env) (node : Nat) :
    (f.deduplicateNamespaces env node).1.deduplicateNamespaces env node =
      ((f.deduplicateNamespaces env node).1, .ok) :=
  Forest.fpxd_idem hi env node

/-- Corollary (`C15_serialises` for forest histories): **a tree that serialised before still
    serialises** — if the serialiser's `MissingPrefix` checks (`namesWritable` = `to_string` finds a
    prefix for every element and attribute name) passed on the erased root tree before
    `deduplicate_namespaces(node)`, at the root or at the call node, they pass on the erased root tree
    afterwards; more generally for every start path `q` that is not strictly inside the subtree of
    `node`.  No hypothesis beyond `Forest.Inv`: the tree-level side condition (no element declares a
    prefix twice) comes from the invariant (`C10_forest_uniqueBelow`). -/
theorem C15_forest_dedup_serialises (f : Forest) (hi : f.Inv) (env : Env) (node : Nat)
    (r : HTree) (hr : f.rootOf? node = some r) (path : Path) (hp : r.pathOf node = some path) :
    ∃ r' : HTree, (f.deduplicateNamespaces env node).1.rootOf? node = some r' ∧ r'.pathOf node = some path ∧
      (namesWritable env r.erase [] = some true → namesWritable env r'.erase [] = some true) ∧
      (namesWritable env r.erase path = some true → namesWritable env r'.erase path = some true) ∧
      ∀ q, (∀ s, q = path ++ s → s = []) → namesWritable env r.erase q = some true →
        namesWritable env r'.erase q = some true := by
  obtain ⟨r', h1, h2, h3⟩ := Forest.fpxd_serialises hi env hr hp
  exact ⟨r', h1, h2, h3 [] (fun _ h => (List.append_eq_nil_iff.1 h.symm).2),
    h3 path (fun _ h => List.self_eq_append_right.1 h), h3⟩

/-- Non-vacuity: `<r xmlns:q="N" xmlns:r="M"><e xmlns:p="N"><x xmlns:q="M"/></e></r>` (the tree
    `c15TwoPassWitness` of Props/C15 with handles, plus a second parentless tree).  The call on the root
    element needs TWO removing passes: pass 1 issues one call (`remove(q)` on `x`, handle 4), pass 2 one
    call (`remove(p)` on `e`, handle 2), pass 3 none.  The hypotheses hold for the root (path `[]`) and
    for `e` (handle 2, path `[2]`); the names are writable before and after; the innermost element keeps
    its handle 4 while its path changes from `[2, 1]` to `[2, 0]`; the handles of the two removed
    namespace nodes (3 and 5) are gone, the other tree is untouched, a second call changes nothing. -/
def dedupForest : Forest := { roots := [.node 0 (.element 0) [.node 1 (.namespace 2 2) [],
  .node 6 (.namespace 3 3) [], .node 2 (.element 0) [.node 3 (.namespace 4 2) [],
    .node 4 (.element 0) [.node 5 (.namespace 2 3) []]]], .node 7 (.text ['z']) []], next := 8 }
example : dedupForest.Inv ∧
    (dedupForest.rootOf? 0).map (·.handle) = some 0 ∧ (dedupForest.rootOf? 0).bind (·.pathOf 0) = some [] ∧
    (dedupForest.rootOf? 2).map (·.handle) = some 0 ∧ (dedupForest.rootOf? 2).bind (·.pathOf 2) = some [2] :=
  ⟨(Forest.inv_iff _).mp (by decide +kernel), by decide +kernel, by decide +kernel, by decide +kernel, by decide +kernel⟩
/-- A removal call as `(element, prefix)`. -/
def dedupCallView : Forest.Call → Option (Nat × Nat)
  | .mapRemove .namespaces h p => some (h, p)
  | _ => none
example : (dedupForest.dedupCalls {} 0).map dedupCallView = [some (4, 2)] ∧
    ((dedupForest.runCalls (dedupForest.dedupCalls {} 0)).1.dedupCalls {} 0).map dedupCallView = [some (2, 4)] ∧
    (((dedupForest.runCalls (dedupForest.dedupCalls {} 0)).1.runCalls
      ((dedupForest.runCalls (dedupForest.dedupCalls {} 0)).1.dedupCalls {} 0)).1.dedupCalls {} 0).length = 0 := by
  decide +kernel
example : (dedupForest.deduplicateNamespaces {} 0).2 = .ok ∧
    (dedupForest.deduplicateNamespaces {} 0).1.allHandles = [0, 1, 6, 2, 4, 7] ∧
    (dedupForest.deduplicateNamespaces {} 0).1.next = 8 ∧
    ((dedupForest.deduplicateNamespaces {} 0).1.rootOf? 0).map (fun r' => declsOfTree r'.erase) =
      (dedupForest.rootOf? 0).bind (fun r => (deduplicateNamespaces {} r.erase []).map declsOfTree) ∧
    ((dedupForest.deduplicateNamespaces {} 0).1.rootOf? 0).map (fun r' => declsOfTree r'.erase) =
      some [[(2, 2), (3, 3)], [], []] ∧
    (dedupForest.rootOf? 4).bind (·.pathOf 4) = some [2, 1] ∧
    ((dedupForest.deduplicateNamespaces {} 0).1.rootOf? 4).bind (·.pathOf 4) = some [2, 0] ∧
    ((dedupForest.deduplicateNamespaces {} 0).1.rootOf? 2).bind (·.pathOf 2) = some [2] ∧
    (dedupForest.deduplicateNamespaces {} 0).1.roots.map (·.handle) = [0, 7] ∧
    ((dedupForest.deduplicateNamespaces {} 0).1.deduplicateNamespaces {} 0).2 = .ok ∧
    ((dedupForest.deduplicateNamespaces {} 0).1.deduplicateNamespaces {} 0).1.allHandles = [0, 1, 6, 2, 4, 7] ∧
    ((dedupForest.deduplicateNamespaces {} 0).1.dedupCalls {} 0).length = 0 := by
  decide +kernel
example : (dedupForest.rootOf? 0).bind (fun r => namesWritable {} r.erase []) = some true ∧
    ((dedupForest.deduplicateNamespaces {} 0).1.rootOf? 0).bind (fun r' => namesWritable {} r'.erase []) =
      some true ∧
    ((dedupForest.deduplicateNamespaces {} 2).1.rootOf? 2).bind (fun r' => namesWritable {} r'.erase [2]) =
      some true ∧
    (dedupForest.deduplicateNamespaces {} 2).1.allHandles = [0, 1, 6, 2, 3, 4, 5, 7] := by
  decide +kernel

/-! ### The xml:id index: `xml_id_node` never hands out a removed node

`Model/FidIndex.lean`: `IdStore` = forest + index `(document, ID value) ↦ element`, written only by
`parseInto` (= `Xot::parse` / `parse_fragment` into the existing store), read by `xmlIdNode`
(= `Xot::xml_id_node`: lookup, then the liveness filter); histories `IdOp` = any call of `Op`, or a
parse.  Slot reuse is below the model; the `fidx` suite ties `xmlIdNode` to the real accessor on
histories that remove ID elements and refill the freed arena slots. -/

/-- Whatever `xml_id_node` hands out is live, hence not removed: for EVERY store and index (no
    invariant needed), in particular after every history of calls and parses. -/
theorem C04_xml_id_live (s : IdStore) (doc h : Nat) (v : Str) (hx : s.xmlIdNode doc v = some h) :
    s.forest.isLive h = true ∧ s.forest.isRemoved h = false :=
  ⟨((IdStore.xmlIdNode_eq_some_iff s doc v h).mp hx).2,
   Forest.isRemoved_false_of_live ((IdStore.xmlIdNode_eq_some_iff s doc v h).mp hx).2⟩

theorem C04_xml_id_live_history (s : IdStore) (ops : List IdOp) (doc h : Nat) (v : Str)
    (hx : (s.run ops).xmlIdNode doc v = some h) :
    (s.run ops).forest.isLive h = true ∧ (s.run ops).forest.isRemoved h = false :=
  C04_xml_id_live _ doc h v hx

/-- The index invariant (keys and entries were handed out earlier, keys unique) holds of every
    store reachable from the empty one. -/
theorem C04_xml_id_wf (ops : List IdOp) : (IdStore.init.run ops).Wf := IdStore.wf_run IdStore.wf_init ops

/-- Right after a parse (tree without duplicate IDs; `hb` is part of `Forest.Inv`): every ID of the
    tree is found in the new document and what is found is the element that carries an xml:id
    attribute with that value; no other value is found there; other documents answer as before. -/
theorem C04_xml_id_parse (s : IdStore) (hw : s.Wf) (hb : ∀ x ∈ s.forest.allHandles, x < s.forest.next)
    (t : Tree) (hn : (Tree.idValues t).Nodup) :
    (∀ v ∈ Tree.idValues t, ∃ h name ks, (s.parseInto t).1.xmlIdNode (s.parseInto t).2 v = some h ∧
        (s.parseInto t).1.forest.get? h = some (.node h (.element name) ks) ∧ v ∈ HTree.idAttrValues ks) ∧
    (∀ v, v ∉ Tree.idValues t → (s.parseInto t).1.xmlIdNode (s.parseInto t).2 v = none) ∧
    (∀ d v, d ≠ (s.parseInto t).2 → (s.parseInto t).1.lookup d v = s.lookup d v ∧
        (s.parseInto t).1.xmlIdNode d v = s.xmlIdNode d v) := by
  have hfst := idEntries_ofTree_fst s.forest.next 0 t
  refine ⟨fun v hv => ?_, fun v hv => ?_, fun d v hd => ?_⟩
  · obtain ⟨e, he, rfl⟩ := List.mem_map.mp (show v ∈ (HTree.idEntries (HTree.ofTree s.forest.next t)).map (·.1) from hfst ▸ hv)
    obtain ⟨name, ks, hf, hm⟩ := idEntries_ofTree_find _ t e he
    have hmem := idEntries_mem_handles _ e he
    have hl : (s.parseInto t).1.lookup s.forest.next e.1 = some e.2 := by
      rw [IdStore.lookup_parseInto_new]; exact fi_lookup_of_mem_nodup _ (hfst ▸ hn) e he
    have hlive : (s.parseInto t).1.forest.isLive e.2 = true :=
      Forest.isLive_of_mem_allHandles (by rw [IdStore.parseInto_allHandles]; exact List.mem_append_right _ hmem)
    refine ⟨e.2, name, ks, (IdStore.xmlIdNode_eq_some_iff _ _ _ _).mpr ⟨hl, hlive⟩, ?_, hm⟩
    rw [IdStore.get?_parseInto_new s hb t _ (handles_ofTree _ t _ hmem).1]; exact hf
  · apply IdStore.xmlIdNode_of_lookup_none
    show (s.parseInto t).1.lookup s.forest.next v = none
    rw [IdStore.lookup_parseInto_new]; exact lookup_none_of_not_mem _ v (hfst ▸ hv)
  · have hl := IdStore.lookup_parseInto_other s t d v hd
    refine ⟨hl, ?_⟩
    cases hs : s.lookup d v with
    | none => rw [IdStore.xmlIdNode_of_lookup_none _ _ _ (hl.trans hs), IdStore.xmlIdNode_of_lookup_none _ _ _ hs]
    | some h =>
      rw [IdStore.xmlIdNode_of_lookup _ _ _ h (hl.trans hs), IdStore.xmlIdNode_of_lookup _ _ _ h hs,
        IdStore.isLive_parseInto_old s t h (IdStore.lookup_below hw hs).2]

/-- The index is never rewritten: along any history, the entry of an existing document stays. -/
theorem C04_xml_id_index_frozen (s : IdStore) (ops : List IdOp) (d : Nat) (v : Str) (hd : d < s.forest.next) :
    (s.run ops).lookup d v = s.lookup d v := IdStore.lookup_run s ops d v hd

/-- As long as the element is not removed, `xml_id_node(doc, v)` keeps answering the same handle,
    whatever is called or parsed (moving it to another document, renaming it, dropping its
    attribute included); once it is removed the answer is `none` for ever. -/
theorem C04_xml_id_stable (s : IdStore) (hw : s.Wf) (ops : List IdOp) (doc h : Nat) (v : Str)
    (hx : s.xmlIdNode doc v = some h) :
    ((s.run ops).forest.isRemoved h = false → (s.run ops).xmlIdNode doc v = some h) ∧
    ((s.run ops).forest.isRemoved h = true →
      ∀ more : List IdOp, ((s.run ops).run more).xmlIdNode doc v = none) := by
  have hl := ((IdStore.xmlIdNode_eq_some_iff s doc v h).mp hx).1
  have hlt := IdStore.lookup_below hw hl
  -- along every history the entry stays and `h` stays a handle that has been handed out
  have key : ∀ os, (s.run os).lookup doc v = some h ∧ h < (s.run os).forest.next := fun os =>
    ⟨(IdStore.lookup_run s os doc v hlt.1).trans hl, Nat.lt_of_lt_of_le hlt.2 (IdStore.le_run s os).next⟩
  refine ⟨(IdStore.xmlIdNode_of_entry _ doc v h (key ops).1 (key ops).2).1, fun hr more => ?_⟩
  have hr' := Forest.isRemoved_mono (IdStore.le_run (s.run ops) more) hr
  rw [← IdStore.run_append] at hr' ⊢
  exact (IdStore.xmlIdNode_of_entry _ doc v h (key _).1 (key _).2).2 hr'

/-- Parsing into an existing store keeps the forest invariant (for a tree that is valid, which is
    what the parser builds), hence so does every history of calls and such parses. -/
theorem C04_parse_inv (s : IdStore) (hi : s.forest.Inv) (t : Tree) (hv : s.parseOK t) :
    (s.parseInto t).1.forest.Inv := IdStore.inv_parseInto hi t hv

theorem C04_reach_parse (ops : List IdOp) (hok : IdStore.init.runOK ops) : (IdStore.init.run ops).forest.Inv :=
  IdStore.inv_run ((Forest.inv_iff _).mp C04_init) ops hok

/-- Non-vacuity: `<doc><a xml:id="x"><c/></a><b xml:id="y"/></doc>` parsed next to an API-built
    element (handle 0; document 1, doc 2, a 3, its attribute 4, c 5, b 6, its attribute 7). -/
def idDoc : Tree := .node .document [.node (.element 2) [
  .node (.element 3) [.node (.attribute 1 ['x']) [], .node (.element 5) []],
  .node (.element 4) [.node (.attribute 1 ['y']) []]]]
def idOps : List IdOp := [.call (.newElement 9), .parse idDoc]
example : Tree.idValues idDoc = [['x'], ['y']] := by decide +kernel
example : IdStore.init.runOK idOps := ⟨trivial, (by show validTree _ _ = true; decide +kernel), trivial⟩
example : (IdStore.init.run idOps).xmlIdNode 1 ['x'] = some 3 ∧ (IdStore.init.run idOps).xmlIdNode 1 ['y'] = some 6 ∧
    (IdStore.init.run idOps).xmlIdNode 1 ['z'] = none ∧ (IdStore.init.run idOps).xmlIdNode 0 ['x'] = none ∧
    (IdStore.init.run idOps).forest.next = 8 := by decide +kernel
/-- remove a; refill; move b into the API-built element; parse the same text again (document 10). -/
def idOps2 : List IdOp := idOps ++ [.call (.remove 3), .call (.newElement 9), .call (.newText ['t']),
  .call (.append 0 6), .parse idDoc]
example : (IdStore.init.run idOps2).xmlIdNode 1 ['x'] = none ∧ (IdStore.init.run idOps2).forest.isRemoved 3 = true ∧
    (IdStore.init.run idOps2).xmlIdNode 1 ['y'] = some 6 ∧ (IdStore.init.run idOps2).forest.parent? 6 = some 0 ∧
    (IdStore.init.run idOps2).xmlIdNode 10 ['x'] = some 12 ∧ (IdStore.init.run idOps2).forest.inv = true := by
  decide +kernel
/-- a tree with a duplicate ID is refused and the store is unchanged (`DuplicateId`). -/
example : (IdStore.init.parse (.node .document [.node (.element 2) [.node (.attribute 1 ['x']) [],
    .node (.element 3) [.node (.attribute 1 ['x']) []]]])).2 = none := by decide +kernel

/-! ### The convenience calls of the public API (`Model/Fcreation.lean`)

  `new_document_with_element`, `append_text` / `_element` / `_comment` /
  `_processing_instruction`, `append_namespace`, the `set_` / `remove_` `attribute` / `namespace`
  wrappers and the value setters reached through `element_mut`, `attribute_node_mut`,
  `namespace_node_mut`, `processing_instruction_mut().set_target`, `text_mut().get_mut()`,
  `value_mut`.  Each is a composition of calls `C04_step_all` covers (a node creation, then
  `append` / `append_namespace_node`; a node-map `insert` / `remove`; a value written with the
  kind unchanged), so each preserves the invariant — for ALL arguments and whatever it answers. -/

theorem C04_step_creation (f : Forest) (c : Forest.COp) (hi : f.Inv) : (c.run f).1.Inv :=
  Forest.COp.run_inv hi c

/-- The compositions, spelled out as histories of `Op` (so that `C04_handle_meaning`,
    `C04_isRemoved_history` … apply to them as they stand). -/
theorem C04_creation_as_history (f : Forest) :
    (∀ p s, (f.appendText p s).1 = f.run [.newText s, .append p f.next]) ∧
    (∀ p n, (f.appendElement p n).1 = f.run [.newElement n, .append p f.next]) ∧
    (∀ p s, (f.appendComment p s).1 = f.run [.newComment s, .append p f.next]) ∧
    (∀ p t d, (f.appendPi p t d).1 = f.run [.newPi t d, .append p f.next]) ∧
    (∀ p pfx ns, (f.appendNamespace p pfx ns).1 = f.run [.newNamespaceNode pfx ns, .appendNamespaceNode p f.next]) ∧
    (∀ n, f.isElement n = true → (f.newDocumentWithElement n).1 = f.run [.newDocument, .append f.next n]) ∧
    (∀ n, f.isElement n = false → (f.newDocumentWithElement n).1 = f) ∧
    (∀ e k v, (f.setAttribute e k v).1 = f.run [.attrInsert e k v]) ∧
    (∀ e k, (f.removeAttribute e k).1 = f.run [.attrRemove e k]) ∧
    (∀ e p ns, (f.setNamespace e p ns).1 = f.run [.nsInsert e p ns]) ∧
    (∀ e p, (f.removeNamespace e p).1 = f.run [.nsRemove e p]) := by
  refine ⟨fun _ _ => rfl, fun _ _ => rfl, fun _ _ => rfl, fun _ _ _ => rfl, fun _ _ _ => rfl, ?_, ?_,
    fun _ _ _ => rfl, fun _ _ => rfl, fun _ _ _ => rfl, fun _ _ => rfl⟩
  · intro n he; simp [Forest.newDocumentWithElement, he, Forest.run, Forest.step]; rfl
  · intro n he; simp [Forest.newDocumentWithElement, he]

/-- Histories mixing the calls of `Op` and the convenience calls: every reachable forest
    satisfies the invariant. -/
theorem C04_reach_creation (ops : List (Op ⊕ Forest.COp)) :
    (ops.foldl (fun f o => match o with | .inl o => f.step o | .inr c => (c.run f).1) Forest.init).Inv := by
  suffices h : ∀ (f : Forest), f.Inv →
      (ops.foldl (fun f o => match o with | .inl o => f.step o | .inr c => (c.run f).1) f).Inv from
    h _ ((Forest.inv_iff _).mp C04_init)
  induction ops with
  | nil => exact fun f hi => hi
  | cons o ops ih =>
    intro f hi
    rw [List.foldl_cons]
    cases o with
    | inl o => exact ih _ (C04_step_all f o hi)
    | inr c => exact ih _ (C04_step_creation f c hi)

/-- Non-vacuity: `<doc>a<e>x</e>b</doc>`; `new_document_with_element(e)` takes `e` out from between
    two text nodes (they are merged: no adjacent text nodes are left behind), a refused
    `append_text` leaves its fresh node parentless; the invariant holds after each. -/
example :
    let f : Forest := { roots := [.node 0 (.element 2) [.node 1 (.text ['a']) [], .node 2 (.element 3) [.node 3 (.text ['x']) []],
                                    .node 4 (.text ['b']) []]], next := 5 }
    f.inv = true ∧ (f.newDocumentWithElement 2).1.inv = true ∧
      (f.newDocumentWithElement 2).1.allHandles = [0, 1, 5, 2, 3] ∧
      (Forest.COp.run f (.appendNew 1 (.text ['c']))).2 = .err .invalidOperation ∧
      (Forest.COp.run f (.appendNew 1 (.text ['c']))).1.inv = true ∧
      (Forest.COp.run f (.appendNew 1 (.text ['c']))).1.allHandles = [0, 1, 2, 3, 4, 5] ∧
      (Forest.COp.run f (.namespaceSetNamespace 1 3)).2 = .err .invalidOperation := by
  decide +kernel

/-! ### The arena under the forest: indextree 4.7.2, pointer level (`Model/Arena*.lean`)

  `Arena.Rep a g`: the arena `a` (slots with five pointers, stamp, data / free-list link; the two
  free-list heads) stores the list-level content `g : Arena.Shape` (`par`, `kids`, `free`, keyed by
  slot index); `Arena.Wf a := ∃ g, Rep a g` is the pointer invariant.  `Arena.Call a a'`: one call
  (`new_node`, `detach`, `checked_append`, `checked_prepend`, `checked_insert_after`,
  `checked_insert_before`, `remove`, `remove_subtree`) with live arguments — the sibling insertions
  next to a node that has a parent and is not below the inserted node, `remove` of a node with a
  parent or without children: exactly the calls the forest model does not send to its `corrupt`
  sink (except `remove` of a parentless node with exactly one child, which is fine:
  `C04_arena_refines_remove_root_one` below, outside `Arena.Call`).
  `Arena.Abs a g w rs f`: the state `f` of the forest model (`Model/Forest.lean`: `HTree`s with
  creation-order handles) is the arena read through `g`, the handle numbering and values `w`
  (injective on live slots, below `f.next`) and the parentless live slots `rs` in the forest's root
  order.  (`traverse` / `descendants` / `reverse_traverse`: `Props/C07`.) -/

/-- Every arena reached from the empty one by such calls satisfies the pointer invariant. -/
theorem C04_arena_wf_reachable (a : Arena) (h : Arena.Steps {} a) : Arena.Wf a :=
  (h.wf Arena.Wf.empty).1

/-- One call preserves the invariant; no stamp's magnitude decreases. -/
theorem C04_arena_wf_step (a a' : Arena) (w : Arena.Wf a) (c : Arena.Call a a') :
    Arena.Wf a' ∧ Arena.StampMono a a' := by
  obtain ⟨g, r⟩ := w
  exact c.rep r

/-- `new_node` on a well-formed arena cannot panic; the id it hands out is the current id of a live,
    parentless, childless slot that was not live before; no other slot changes; the free list loses
    its head (FIFO reuse: `free_node` appends at the end, see `Arena.FreeNodeOk`). -/
theorem C04_arena_new_node (a : Arena) (g : Arena.Shape) (r : Arena.Rep a g) (v : Nat) :
    ∃ a' id g', Arena.newNode a v = .done a' id ∧ Arena.Rep a' g' ∧ Arena.LiveId a' id ∧
      ¬ Arena.Live a id.index0 ∧ g'.par = g.par ∧ g'.kids = g.kids ∧ g'.par id.index0 = none ∧
      g'.kids id.index0 = [] ∧ g'.free = g.free.tail ∧ (∀ j, j ≠ id.index0 → a'.slot j = a.slot j) := by
  obtain ⟨a', id, g', h, ok⟩ := r.newNode v
  exact ⟨a', id, g', h, ok.rep, ok.liveId, ok.fresh, ok.par, ok.kids, ok.parNone, ok.kidsNil, ok.free, ok.others⟩

/-- `NodeId::is_removed` of a live id is `false`. -/
theorem C04_arena_is_removed_live (a : Arena) (x : Arena.NodeId) (hx : Arena.LiveId a x) :
    Arena.isRemoved a x = .done a false := hx.isRemoved

/-- Removed is for ever: once `remove` has freed a live id whose stamp is below 32767 (the slot has
    been reused fewer than 32767 times), `is_removed` answers `true` after every further history,
    however often the slot is reused; in particular the id is never a live id again. -/
theorem C04_arena_is_removed_forever (a a1 a2 : Arena) (x : Arena.NodeId) (w : Arena.Wf a)
    (hx : Arena.LiveId a x) (hcond : Arena.HasParent a x ∨ Arena.Childless a x) (hlt : x.stamp < 32767)
    (hrm : Arena.remove a x = .done a1 ()) (hist : Arena.Steps a1 a2) :
    Arena.isRemoved a2 x = .done a2 true ∧ ¬ Arena.LiveId a2 x := by
  obtain ⟨g, r⟩ := w
  have hg := r.remove_gone x hx hcond hlt hrm
  have w1 : Arena.Wf a1 := ((Arena.Call.remove x a1 hx hcond hrm).rep r).1
  have hg2 := hg.mono (hist.wf w1).2
  exact ⟨hg2.isRemoved, hg2.not_liveId⟩

/-- The same for `remove_subtree` (what `Xot::remove` calls): every id of the removed subtree. -/
theorem C04_arena_is_removed_forever_subtree (a a1 a2 : Arena) (g : Arena.Shape) (r : Arena.Rep a g)
    (x : Arena.NodeId) (hx : Arena.LiveId a x) (hrm : Arena.removeSubtree a x = .done a1 ()) (u : Nat)
    (hu : Arena.Reach g.par u x.index0) (hlt : (a.idAt u).stamp < 32767) (hist : Arena.Steps a1 a2) :
    Arena.isRemoved a2 (a.idAt u) = .done a2 true ∧ ¬ Arena.LiveId a2 (a.idAt u) := by
  have hg := r.removeSubtree_gone x hx hrm u hu hlt
  have w1 : Arena.Wf a1 := ((Arena.Call.removeSubtree x a1 hx hrm).rep r).1
  have hg2 := hg.mono (hist.wf w1).2
  exact ⟨hg2.isRemoved, hg2.not_liveId⟩

/-- The bound is sharp: a slot whose stamp has reached 32767 hands out the same id again. -/
theorem C04_arena_stamp_saturates :
    let a : Arena := { nodes := [{ stamp := 32767, data := .data 0 }] }
    ∃ a1 a2, Arena.remove a ⟨1, 32767⟩ = .done a1 () ∧ Arena.isRemoved a1 ⟨1, 32767⟩ = .done a1 true ∧
      Arena.newNode a1 7 = .done a2 ⟨1, 32767⟩ ∧ Arena.isRemoved a2 ⟨1, 32767⟩ = .done a2 false :=
  ⟨_, _, rfl, rfl, rfl, rfl⟩

/-- Refinement to list semantics, `detach`: the node leaves its parent's child list. -/
theorem C04_arena_refines_detach (a : Arena) (g : Arena.Shape) (r : Arena.Rep a g) (x : Arena.NodeId)
    (hx : Arena.LiveId a x) :
    ∃ a', Arena.detach a x = .done a' () ∧ Arena.Rep a' (g.detach x.index0) ∧ Arena.MetaEq a a' :=
  r.detach x hx

/-- Refinement, `checked_append` (`p`, `i` live slots): refused exactly for `p = i` (`AppendSelf`)
    and for `i` an ancestor of `p` (`AppendAncestor`); otherwise `i` is detached and becomes the last
    child of `p`. -/
theorem C04_arena_refines_append (a : Arena) (g : Arena.Shape) (r : Arena.Rep a g) (p i : Nat)
    (hp : Arena.Live a p) (hi : Arena.Live a i) :
    (p = i → Arena.checkedAppend a (a.idAt p) (a.idAt i) = .done a (.error .appendSelf)) ∧
    (p ≠ i → Arena.Reach g.par p i →
      Arena.checkedAppend a (a.idAt p) (a.idAt i) = .done a (.error .appendAncestor)) ∧
    (p ≠ i → ¬ Arena.Reach g.par p i → ∃ a', Arena.checkedAppend a (a.idAt p) (a.idAt i) = .done a' (.ok ()) ∧
      Arena.Rep a' (g.append p i) ∧ Arena.MetaEq a a') :=
  ⟨fun e => by rw [e]; exact Arena.checkedAppend_self a _,
   fun hne h => r.checkedAppend_ancestor p i hp hi hne h,
   fun hne h => r.checkedAppend_ok p i hp hi hne h⟩

/-- Refinement, `checked_prepend`: as `checked_append`, except that prepending the node that already
    is the first child panics (`insert_with_neighbors` reports `SiblingsLoop` to an `expect`)
    before anything is written. -/
theorem C04_arena_refines_prepend (a : Arena) (g : Arena.Shape) (r : Arena.Rep a g) (p i : Nat)
    (hp : Arena.Live a p) (hi : Arena.Live a i) (hne : p ≠ i) :
    (Arena.Reach g.par p i → Arena.checkedPrepend a (a.idAt p) (a.idAt i) = .done a (.error .prependAncestor)) ∧
    (¬ Arena.Reach g.par p i → (g.kids p).head? = some i →
      Arena.checkedPrepend a (a.idAt p) (a.idAt i) = .panic a) ∧
    (¬ Arena.Reach g.par p i → (g.kids p).head? ≠ some i →
      ∃ a', Arena.checkedPrepend a (a.idAt p) (a.idAt i) = .done a' (.ok ()) ∧
        Arena.Rep a' (g.prepend p i) ∧ Arena.MetaEq a a') :=
  ⟨fun h => r.checkedPrepend_ancestor p i hp hi hne h,
   fun h hf => r.checkedPrepend_first_panics p i hp hi hne h hf,
   fun h hf => r.checkedPrepend_ok p i hp hi hne h hf⟩

/-- Refinement, `checked_insert_after` / `checked_insert_before` next to a node `ref` with parent `p`
    that is not below the inserted node `i`: `i` is detached and lands right after / before `ref`. -/
theorem C04_arena_refines_insert_after (a : Arena) (g : Arena.Shape) (r : Arena.Rep a g) (ref i p : Nat)
    (hr : Arena.Live a ref) (hi : Arena.Live a i) (hne : ref ≠ i) (hpar : g.par ref = some p)
    (hanc : ¬ Arena.Reach g.par ref i) :
    ∃ a' A B, Arena.checkedInsertAfter a (a.idAt ref) (a.idAt i) = .done a' (.ok ()) ∧
      (g.detach i).kids p = A ++ ref :: B ∧ Arena.Rep a' ((g.detach i).link p (A ++ [ref]) i B) ∧
      Arena.MetaEq a a' :=
  r.checkedInsertAfter_ok ref i p hr hi hne hpar hanc

theorem C04_arena_refines_insert_before (a : Arena) (g : Arena.Shape) (r : Arena.Rep a g) (ref i p : Nat)
    (hr : Arena.Live a ref) (hi : Arena.Live a i) (hne : ref ≠ i) (hpar : g.par ref = some p)
    (hanc : ¬ Arena.Reach g.par ref i) :
    ∃ a' A B, Arena.checkedInsertBefore a (a.idAt ref) (a.idAt i) = .done a' (.ok ()) ∧
      (g.detach i).kids p = A ++ ref :: B ∧ Arena.Rep a' ((g.detach i).link p A i (ref :: B)) ∧
      Arena.MetaEq a a' :=
  r.checkedInsertBefore_ok ref i p hr hi hne hpar hanc

/-- Refinement, `remove`: a childless node is detached and freed; a node with parent `p`
    (`kids p = L ++ i :: R`) and children is replaced by its children in `p`'s child list
    (`kids' p = L ++ kids i ++ R`, each child's parent becomes `p`) and freed; the slot joins the end
    of the free list. -/
theorem C04_arena_refines_remove (a : Arena) (g : Arena.Shape) (r : Arena.Rep a g) (i : Nat) (hi : Arena.Live a i) :
    (g.kids i = [] → ∃ a', Arena.remove a (a.idAt i) = .done a' () ∧ Arena.Rep a' (g.removeLeaf i)) ∧
    (∀ p L R, g.par i = some p → g.kids p = L ++ i :: R → g.kids i ≠ [] →
      ∃ a', Arena.remove a (a.idAt i) = .done a' () ∧ Arena.Rep a' (g.removeInner i p L R)) := by
  refine ⟨fun hk => ?_, fun p L R hp hkp hk => ?_⟩
  · obtain ⟨_, a', _, _, _, h, _, r'⟩ := r.remove_leaf i hi hk
    exact ⟨a', h, r'⟩
  · cases hh : (g.kids i).head? with
    | none => exact absurd (List.head?_eq_none_iff.mp hh) hk
    | some c1 =>
      cases hl : (g.kids i).getLast? with
      | none => exact absurd (List.getLast?_eq_none_iff.mp hl) hk
      | some ck =>
        obtain ⟨_, a', _, _, h, _, r'⟩ := r.remove_inner i p L R c1 ck hi hp hkp hh hl
        exact ⟨a', h, r'⟩

/-- Refinement, `remove` of a PARENTLESS node `i` with exactly one child `c` (the case the forest model
    sends to its `corrupt` sink, and the only parentless-with-children case in which indextree stays
    inside the invariant): no panic; the child becomes a parentless node (its sibling pointers were
    and stay empty), `i` loses its child, is freed and joins the end of the free list; the resulting
    arena is well-formed and stores `g.removeRootOne i c`; nothing else changes at list level.  (With
    two or more children the invariant is lost: closed example below.) -/
theorem C04_arena_refines_remove_root_one (a : Arena) (g : Arena.Shape) (r : Arena.Rep a g) (i c : Nat)
    (hi : Arena.Live a i) (hpar : g.par i = none) (hk : g.kids i = [c]) :
    ∃ a', Arena.remove a (a.idAt i) = .done a' () ∧ Arena.Rep a' (g.removeRootOne i c) ∧
      (g.removeRootOne i c).par c = none ∧ (g.removeRootOne i c).kids i = [] ∧
      (∀ j, j ≠ c → (g.removeRootOne i c).par j = g.par j) ∧
      (∀ q, q ≠ i → (g.removeRootOne i c).kids q = g.kids q) ∧
      (g.removeRootOne i c).free = g.free ++ [i] ∧
      (∀ j, Arena.Live a' j ↔ (Arena.Live a j ∧ j ≠ i)) := by
  obtain ⟨a2, a', hM, _, h, hok, r'⟩ := r.remove_root_one i c hi hpar hk
  refine ⟨a', h, r', by simp [Arena.Shape.removeRootOne], by simp [Arena.Shape.removeRootOne],
    fun j hj => by simp [Arena.Shape.removeRootOne, hj], fun q hq => by simp [Arena.Shape.removeRootOne, hq], rfl,
    fun j => (hok.live j).trans (and_congr_left fun _ => hM.live j)⟩

/-- Refinement, `remove_subtree`: never panics, both loops end; the node is detached and exactly its
    descendants-or-self `l` are freed, in the order `l` (document order), which is the order in which
    `new_node` will reuse the slots. -/
theorem C04_arena_refines_remove_subtree (a : Arena) (g : Arena.Shape) (r : Arena.Rep a g) (i : Nat)
    (hi : Arena.Live a i) :
    ∃ a' l, Arena.removeSubtree a (a.idAt i) = .done a' () ∧ Arena.Rep a' ((g.detach i).prune l) ∧ l.Nodup ∧
      (∀ u, u ∈ l ↔ Arena.Reach g.par u i) ∧ Arena.StampMono a a' := by
  obtain ⟨a', l, h, ok⟩ := r.removeSubtree i hi
  exact ⟨a', l, h, ok.rep, ok.nodup, fun u => (ok.mem u).trans (r.reach_detach_iff i u), ok.mono⟩

/-- Refinement to the forest model: the primitives of `Model/Forest.lean` ARE indextree's
    operations, read through the abstraction.  Every call of `Arena.Call` from an arena that
    abstracts to the forest `f` leads to an arena that abstracts to the result of the corresponding
    forest primitive (`newNode`, `detachRaw`, `checkedAppend`, `checkedPrepend`,
    `checkedInsertAfter`, `checkedInsertBefore`, `spliceOut`, `dropSubtree`), with the handle
    numbering extended at `new_node` by the fresh handle `f.next` — also when the slot is a reused
    one. -/
theorem C04_arena_refines_forest_step (a a' : Arena) (g : Arena.Shape) (w : Arena.View) (rs : List Nat) (f : Forest)
    (h : Arena.Abs a g w rs f) (c : Arena.Call a a') :
    ∃ g' w' rs' f', Arena.Abs a' g' w' rs' f' ∧ Arena.FCall f f' :=
  h.call c

/-- Hence every history of arena calls from the empty arena is simulated by a history of forest
    primitives from the empty forest: the forest model's contract for indextree is a theorem about
    the pointer-level model. -/
theorem C04_arena_refines_forest (a : Arena) (s : Arena.Steps {} a) :
    ∃ g w rs f, Arena.Abs a g w rs f ∧ Arena.FSteps {} f :=
  Arena.Abs.empty.steps s

/-- The single calls, with the forest model's answer next to indextree's: `detach` = `detachRaw`;
    an accepted `checked_append` = `checkedAppend` answering `true`; a refused one (self, ancestor) is
    refused by the forest model too, which then stays as it is. -/
theorem C04_arena_refines_forest_calls (a : Arena) (g : Arena.Shape) (w : Arena.View) (rs : List Nat) (f : Forest)
    (h : Arena.Abs a g w rs f) :
    (∀ x, Arena.LiveId a x → ∃ a', Arena.detach a x = .done a' () ∧
      Arena.Abs a' (g.detach x.index0) w (rs.filter (· ≠ x.index0) ++ [x.index0]) (f.detachRaw (w.rho x.index0))) ∧
    (∀ p c, Arena.Live a p → Arena.Live a c → p ≠ c → ¬ Arena.Reach g.par p c →
      ∃ a', Arena.checkedAppend a (a.idAt p) (a.idAt c) = .done a' (.ok ()) ∧
        (f.checkedAppend (w.rho p) (w.rho c)).2 = true ∧
        Arena.Abs a' (g.append p c) w (rs.filter (· ≠ c)) (f.checkedAppend (w.rho p) (w.rho c)).1) ∧
    (∀ p c, Arena.Live a p → Arena.Live a c → (p = c ∨ Arena.Reach g.par p c) →
      f.checkedAppend (w.rho p) (w.rho c) = (f, false)) ∧
    (∀ i, Arena.Live a i → ∃ a' l, Arena.removeSubtree a (a.idAt i) = .done a' () ∧
      (∀ u, u ∈ l ↔ Arena.Reach g.par u i) ∧
      Arena.Abs a' ((g.detach i).prune l) w (rs.filter (· ≠ i)) (f.dropSubtree (w.rho i))) :=
  ⟨fun x hx => h.detach x hx, fun p c hp hc hne hanc => h.checkedAppend_ok p c hp hc hne hanc,
   fun p c hp hc hr => (h.checkedAppend_refused p c hp hc hr).1, fun i hi => h.removeSubtree i hi⟩

/-- Non-vacuity: closed arenas reached by histories (three nodes `1:0 [2:0, 3:0]`; a grandchild;
    after `remove(2:0)` and a `new_node` that reuses the slot with stamp 1), their invariant, what the
    stale id `2:0` answers, and what indextree does outside the list semantics: `remove` of a
    parentless node with two children leaves two parentless nodes that are still each other's
    siblings; `checked_insert_after` of the parent of the reference node panics after the parent has
    already been detached; `checked_insert_after` of a grandparent builds a parent cycle (the
    `ancestors` iterator then never ends: here cut off by the limit). -/
example : Arena.Wf Arena.sampleA ∧ Arena.Wf Arena.sampleB ∧ Arena.Wf Arena.sampleC :=
  ⟨C04_arena_wf_reachable _ Arena.sampleA_steps, C04_arena_wf_reachable _ Arena.sampleB_steps,
   C04_arena_wf_reachable _ Arena.sampleC_steps⟩

example : ∃ g w rs f, Arena.Abs Arena.sampleC g w rs f ∧ Arena.FSteps {} f :=
  C04_arena_refines_forest _ Arena.sampleC_steps

example : Arena.sampleA.wf = true ∧ Arena.sampleC.wf = true ∧
    Arena.isRemoved Arena.sampleC ⟨2, 0⟩ = .done Arena.sampleC true ∧
    Arena.isRemoved Arena.sampleC ⟨2, 1⟩ = .done Arena.sampleC false ∧
    Arena.children Arena.sampleC ⟨1, 0⟩ 9 = .done Arena.sampleC [⟨4, 0⟩, ⟨3, 0⟩] ∧
    Arena.sampleC.firstFree = none ∧
    (match Arena.removeSubtree Arena.sampleB ⟨2, 0⟩ with
     | .done a' () => a'.wf && a'.firstFree == some 1 && a'.lastFree == some 3 &&
         Arena.isRemoved a' ⟨4, 0⟩ == .done a' true && Arena.children a' ⟨1, 0⟩ 9 == .done a' [⟨3, 0⟩]
     | _ => false) = true := by decide +kernel

/-- Non-vacuity of `C04_arena_refines_remove_root_one`: `sampleD` (`1:0 [2:0]`) is reachable, hence
    well-formed, and every shape it stores has slot 0 parentless with the only child 1; after
    `remove(1:0)` the arena is well-formed, `2:0` is a parentless node without siblings and with its
    payload, `1:0` is removed and slot 0 is the free list. -/
example : ∃ g, Arena.Rep Arena.sampleD g ∧ Arena.Live Arena.sampleD 0 ∧ g.par 0 = none ∧ g.kids 0 = [1] := by
  obtain ⟨g, r⟩ := C04_arena_wf_reachable _ Arena.sampleD_steps
  have h := r.root_one_of_ptrs (i := 0) (x := ⟨2, 0⟩) (s := { first := some ⟨2, 0⟩, last := some ⟨2, 0⟩, data := .data 10 })
    (by decide +kernel) (by decide +kernel) rfl rfl rfl
  exact ⟨g, r, ⟨_, rfl, by decide +kernel⟩, h.1, h.2⟩

example : (match Arena.remove Arena.sampleD ⟨1, 0⟩ with
     | .done a' () => a'.wf && a'.get ⟨2, 0⟩ == some { data := .data 20 } &&
         Arena.isRemoved a' ⟨1, 0⟩ == .done a' true && a'.firstFree == some 0 && a'.lastFree == some 0
     | _ => false) = true := by decide +kernel

example : (Arena.sampleA.after (Arena.remove · ⟨1, 0⟩)).wf = false ∧
    (Arena.sampleA.after (Arena.remove · ⟨1, 0⟩)).get ⟨2, 0⟩ =
      some { next := some ⟨3, 0⟩, data := .data 20 } ∧
    (match Arena.checkedInsertAfter Arena.sampleA ⟨2, 0⟩ ⟨1, 0⟩ with | .panic _ => true | _ => false) = true ∧
    (match Arena.checkedInsertAfter Arena.sampleB ⟨4, 0⟩ ⟨1, 0⟩ with
     | .done a' (.ok ()) => !a'.wf && (Arena.ancestors a' ⟨4, 0⟩ 7).arena == a' &&
         (match Arena.ancestors a' ⟨4, 0⟩ 7 with | .done _ l => l.length == 7 | _ => false)
     | _ => false) = true := by decide +kernel

end XotModel.Props

/-! ## Traversals: the iterators of Model/Axes.lean hand out live nodes

  The axes model names a node by `(Tree, Path)`, the forest model by handle.  Model/FtravSpec.lean
  has `HTree.at?`; `HTree.handleAt r p` (the handle the path `p` denotes in the tree `r`),
  `HTree.pathOf h r` (the path of the handle `h`), `Forest.rootOf? f h` (the parentless tree `h` lives
  in) are those of Model/FatomSpec2.lean.  `Axes.Trav` (Lemmas/AxesValid.lean) enumerates every node-returning entry point of access.rs /
  levelorder.rs — parent, first/last_child, next/previous_sibling, ancestors, children, all_children,
  abnormal_children, namespace nodes, attribute_nodes, reverse_children, descendants, all_descendants,
  following_/preceding_siblings, following, all_following, preceding, reverse_preorder (both),
  traverse / all_traverse / reverse_traverse / reverse_all_traverse (node parts of the edges),
  NodeEdge::next / previous, level_order (node parts), root, top_element, document_element, axis(a) for
  all 12 axes — and `Trav.result t q` lists the node paths in the answer at `q`. -/

namespace XotModel.Props
open XotModel

/-- The bridge is consistent: a live handle has a root tree and a path in it, and the path denotes the
    handle. -/
theorem C04_live_has_path (f : Forest) (h : Nat) (hl : f.isLive h = true) :
    ∃ r q, f.rootOf? h = some r ∧ r ∈ f.roots ∧ HTree.pathOf h r = some q ∧ HTree.handleAt r q = some h := by
  obtain ⟨r, h1, h2, q, h3⟩ := Forest.rootOf?_of_live hl
  obtain ⟨s, hs, rfl⟩ := HTree.ftrav_pathOf_at? _ r q h3
  exact ⟨r, q, h1, h2, h3, by simp [HTree.ftrav_handleAt_eq, hs]⟩

/-- **No traversal hands out a removed node.**  In a forest satisfying the invariant, for a tree `r`
    of the forest and the path `q` of a handle `h` in it: every path `p` that any traversal entry point
    returns for `(r.erase, q)` exists in `r.erase`, denotes a handle `x = HTree.handleAt r p` (whose
    path is `p` again, so distinct paths are distinct nodes), and `x` is live and not removed. -/
theorem C04_traversals_live (f : Forest) (hi : f.Inv) (r : HTree) (hr : r ∈ f.roots) (h : Nat) (q : Path)
    (hq : HTree.pathOf h r = some q) (tr : Axes.Trav) (p : Path) (hp : p ∈ tr.result r.erase q) :
    (r.erase.at? p).isSome = true ∧
    ∃ x, HTree.handleAt r p = some x ∧ HTree.pathOf x r = some p ∧
      f.isLive x = true ∧ f.isRemoved x = false := by
  obtain ⟨s, _, h2, h3, h4, h5, h6⟩ := Forest.traversals_live hi hr hq tr hp
  exact ⟨by rw [h2]; rfl, s.handle, h3, h4, h5, h6⟩

/-- The same from a live handle alone: its root tree and path exist (`C04_live_has_path`) and every
    traversal from there hands out live nodes only. -/
theorem C04_traversals_live_of_live (f : Forest) (hi : f.Inv) (h : Nat) (hl : f.isLive h = true) :
    ∃ r q, f.rootOf? h = some r ∧ HTree.pathOf h r = some q ∧
      ∀ (tr : Axes.Trav) (p : Path), p ∈ tr.result r.erase q →
        ∃ x, HTree.handleAt r p = some x ∧ f.isLive x = true ∧ f.isRemoved x = false := by
  obtain ⟨r, h1, h2, q, h3⟩ := Forest.rootOf?_of_live hl
  refine ⟨r, q, h1, h3, fun tr p hp => ?_⟩
  obtain ⟨_, x, hx, _, h5, h6⟩ := C04_traversals_live f hi r h2 h q h3 tr p hp
  exact ⟨x, hx, h5, h6⟩

/-- The generic fact behind it (tree level, C07's vocabulary): from a valid start path of a well-formed
    tree every traversal returns valid paths of the same tree. -/
theorem C04_traversal_paths_valid {t : Tree} {q : Path} (hw : Axes.wf t = true) (h : Axes.Valid t q)
    (tr : Axes.Trav) : ∀ p ∈ tr.result t q, Axes.Valid t p := Axes.trav_valid hw h tr

/-- Non-vacuity on `gapForest` (`<a>x<b/>y</a>`, text `z`, element): handle 2 (`b`) has path `[1]` in
    the first tree; `preceding_siblings`, the following axis and `traverse` from the root return paths
    that denote the handles 2 1 / 3 / 0 1 1 2 2 3 3 0. -/
example : (gapForest.rootOf? 2).map HTree.handle = some 0 ∧
    HTree.pathOf 2 gapForest.roots.head! = some [1] := by decide +kernel
example : (Axes.Trav.precedingSiblings.result gapForest.roots.head!.erase [1]).map
      (HTree.handleAt gapForest.roots.head!) = [some 2, some 1] ∧
    ((Axes.Trav.axis .following).result gapForest.roots.head!.erase [1]).map
      (HTree.handleAt gapForest.roots.head!) = [some 3] ∧
    (Axes.Trav.traverse.result gapForest.roots.head!.erase []).map
      (HTree.handleAt gapForest.roots.head!) = [some 0, some 1, some 1, some 2, some 2, some 3, some 3, some 0] := by
  decide +kernel

end XotModel.Props

/-! ## Extended histories: the composite calls as steps of the histories

  `Forest.XCall` (Model/FhistSpec.lean) wraps the step type `Forest.HStep` — every call of `Forest.Call`,
  node creation, `set_text_consolidation`, `remove_insignificant_whitespace`; every `Op` is an `XCall`
  through `XCall.ofOp` — and adds the composite public calls that are constructors of none of the other
  history types:

    .createMissingPrefixes node        `create_missing_prefixes`   (`Forest.createMissingPrefixes`)
    .deduplicateNamespaces node        `deduplicate_namespaces`    (`Forest.deduplicateNamespaces`)
    .cloneWithPrefixes node order      `clone_with_prefixes`       (`Forest.cloneWithPrefixes`; `order` = the
                                       iteration order of the hash map `inherited_prefixes(node)`, ANY list)

  A history runs on a `Store` = forest + interning tables (`create_missing_prefixes` extends the tables
  by the prefixes it invents; it and `deduplicate_namespaces` read them): `XCall.run`, `Store.xstep`,
  `Store.xrun`.  The one side condition is the one of `C04_call_inv`: a map insertion given as DATA
  carries an entry of the map's kind (`XCall.wellKinded`, decidable, a condition on the call alone; the
  Rust API builds the entry from key and value, and every `Op` qualifies: `C04_ext_ofOp_wellKinded`).
  Arguments are arbitrary numbers, outcomes are whatever the calls answer (`ok`, `err`, `panic`). -/

namespace XotModel.Props
open XotModel

/-- `clone_with_prefixes(node)` preserves the invariant: for every node argument (live or not), every
    iteration order of the inherited prefixes (any list), every outcome. -/
theorem C04_step_cloneWithPrefixes (f : Forest) (hi : f.Inv) (node : Nat) (order : List (Nat × Nat)) :
    (f.cloneWithPrefixes node order).1.Inv := Forest.cloneWithPrefixes_inv hi node order

/-- One extended call preserves the invariant, whatever its arguments and outcome. -/
theorem C04_step_ext (s : Store) (c : Forest.XCall) (hi : s.forest.Inv) (hw : c.wellKinded) :
    (s.xstep c).forest.Inv := Store.xstep_inv hi c hw

/-- Every extended history from ANY store whose forest has the invariant ends in one. -/
theorem C04_reach_ext_from (s : Store) (hi : s.forest.Inv) (cs : List Forest.XCall)
    (hw : ∀ c ∈ cs, c.wellKinded) : (s.xrun cs).forest.Inv := Store.xrun_inv cs hi hw

/-- **Every forest reachable from the empty store by any history of extended calls** —
    the calls of `Forest.Call`, node creation, set_text_consolidation, remove_insignificant_whitespace,
    create_missing_prefixes, deduplicate_namespaces, clone_with_prefixes, in any order, with arbitrary
    arguments (live, removed or never created), for every vocabulary `env` the store starts with and
    whatever the calls answer — **satisfies the invariant**. -/
theorem C04_reach_ext (env : Env) (cs : List Forest.XCall) (hw : ∀ c ∈ cs, c.wellKinded) :
    ((⟨Forest.init, env⟩ : Store).xrun cs).forest.Inv :=
  Store.xrun_inv cs ((Forest.inv_iff _).mp C04_init) hw

theorem C04_reach_ext_bool (env : Env) (cs : List Forest.XCall) (hw : ∀ c ∈ cs, c.wellKinded) :
    ((⟨Forest.init, env⟩ : Store).xrun cs).forest.inv = true :=
  (Forest.inv_iff _).mpr (C04_reach_ext env cs hw)

/-- … so the invariant holds at EVERY point of time of an extended history (every prefix of a
    history is a history). -/
theorem C04_reach_ext_prefix (env : Env) (pre post : List Forest.XCall)
    (hw : ∀ c ∈ pre ++ post, c.wellKinded) :
    ((⟨Forest.init, env⟩ : Store).xrun pre).forest.Inv ∧
    ((⟨Forest.init, env⟩ : Store).xrun (pre ++ post)).forest.Inv :=
  ⟨C04_reach_ext env pre (fun c h => hw c (List.mem_append_left _ h)), C04_reach_ext env _ hw⟩

/-- The `Op` histories are a sub-language: every `Op` is a well-kinded extended call, running its
    image is `Forest.step` (the interning tables are not touched), and a history of `Op`s run as an
    extended history is `Forest.run` — `C04_reach_all` is `C04_reach_ext` on such histories. -/
theorem C04_ext_ofOp_wellKinded (o : Op) : (Forest.XCall.ofOp o).wellKinded := Store.ofOp_wellKinded o

theorem C04_ext_run_ofOp (s : Store) (ops : List Op) :
    s.xrun (ops.map Forest.XCall.ofOp) = ⟨s.forest.run ops, s.env⟩ := Store.xrun_ofOp ops s

theorem C04_ext_run_ofStep (s : Store) (ss : List Forest.HStep) :
    s.xrun (ss.map Forest.XCall.ofStep) = ⟨s.forest.runAll ss, s.env⟩ := Store.xrun_ofStep ss s

/-- Histories that interleave `Op`s (all 33 constructors) with the three composites need no side
    condition at all. -/
theorem C04_reach_ext_ops (env : Env) (cs : List Forest.XCall)
    (hcs : ∀ c ∈ cs, (∃ o, c = Forest.XCall.ofOp o) ∨ (∃ n, c = .createMissingPrefixes n) ∨
      (∃ n, c = .deduplicateNamespaces n) ∨ (∃ n order, c = .cloneWithPrefixes n order)) :
    ((⟨Forest.init, env⟩ : Store).xrun cs).forest.Inv := by
  refine C04_reach_ext env cs (fun c hc => ?_)
  rcases hcs c hc with ⟨o, rfl⟩ | ⟨n, rfl⟩ | ⟨n, rfl⟩ | ⟨n, order, rfl⟩
  · exact C04_ext_ofOp_wellKinded o
  all_goals trivial

/-- Handles are never re-used along extended histories: for every extended call, all stores and all
    arguments, WITHOUT any invariant or side condition, `next` does not decrease and every handle
    afterwards is an old handle or a fresh one (`Forest.Le`) … -/
theorem C04_step_le_ext (s : Store) (c : Forest.XCall) : Forest.Le s.forest (s.xstep c).forest :=
  Forest.le_xcall s c

/-- … hence a removed handle stays removed along every extended history. -/
theorem C04_isRemoved_history_ext (s : Store) (cs : List Forest.XCall) (h : Nat)
    (hr : s.forest.isRemoved h = true) : (s.xrun cs).forest.isRemoved h = true :=
  Forest.isRemoved_mono (Store.le_xrun cs s) hr

/-- Non-vacuity: a history from the empty store that creates `<a:e><a:e>x</a:e></a:e>` (name 1 in
    namespace 3, no prefix for it), declares `p` twice (`namespaces_mut` insert), REPAIRS
    (`create_missing_prefixes`: invents the prefix `n0`, interned as 3), DEDUPLICATES (the inner `p`, node
    4, goes), CLONES WITH PREFIXES the inner element (the clone 7 gets `n0`; the order handed over is
    the model's `inherited_prefixes`: the call is `faithful`), is refused a repair on a text node
    (`NotElement`), hits the documented panic of `attributes_mut` on a text node, then MOVES the clone
    in front of its source, strips whitespace, removes the source and deduplicates on the removed
    handle.  Evaluated: the outcomes, the invariant at the end, the final handles, the extended tables.
    `xhEnv`, `xhCalls`, `xhStore` are `Reach.exEnv`, `Reach.exCalls`, `⟨Forest.init, Reach.exEnv⟩` of
    Lemmas/ReachHist.lean written out (equal by `rfl`, see "Non-vacuity: the 16-step history `xhCalls`" below). -/
def xhEnv : Env :=
  { namespaces := [[], ['x'], ['u'], ['w']], prefixes := [[], ['x','m','l'], ['p']],
    names := [(['s'], 1), (['e'], 3)] }
def xhCalls : List Forest.XCall :=
  [.newNode (.element 1), .newNode (.element 1), .newNode (.text ['x']),
   .call (.append 0 1), .call (.append 1 2),
   .call (.mapInsert .namespaces 0 (.namespace 2 2)), .call (.mapInsert .namespaces 1 (.namespace 2 2)),
   .createMissingPrefixes 0, .deduplicateNamespaces 0,
   .cloneWithPrefixes 1 [(3, 3)],
   .createMissingPrefixes 2, .call (.mapInsert .attributes 2 (.attribute 1 [])),
   .call (.insertBefore 1 7), .removeInsignificantWhitespace 0, .call (.remove 1), .deduplicateNamespaces 1]
def xhStore : Store := ⟨Forest.init, xhEnv⟩
example : ∀ c ∈ xhCalls, c.wellKinded := by decide +kernel
example : (xhStore.xrun xhCalls).forest.inv = true ∧
    xhStore.xouts xhCalls = [.ok, .ok, .ok, .ok, .ok, .ok, .ok, .ok, .ok, .ok, .err .notElement, .panic,
      .ok, .ok, .ok, .ok] ∧
    (xhStore.xrun xhCalls).forest.allHandles = [0, 3, 5, 7, 9, 8] ∧
    (xhStore.xrun xhCalls).forest.isRemoved 4 = true ∧ (xhStore.xrun xhCalls).forest.isRemoved 1 = true ∧
    (xhStore.xrun xhCalls).env.prefixes = [[], ['x','m','l'], ['p'], ['n', '0']] := by decide +kernel
example : (xhStore.xrun (xhCalls.take 9)).forest.inheritedPrefixes (xhStore.xrun (xhCalls.take 9)).env 1 = [(3, 3)] ∧
    (xhStore.xrun (xhCalls.take 9)).forest.allHandles = [0, 3, 5, 1, 2] ∧
    ((xhStore.xrun (xhCalls.take 10)).forest.get? 7).map (fun t => t.kids.map (·.value)) =
      some [.namespace 3 3, .text ['x']] := by decide +kernel
example : (Forest.XCall.cloneWithPrefixes 1 [(3, 3)]).faithful (xhStore.xrun (xhCalls.take 9)) := by
  have h : (xhStore.xrun (xhCalls.take 9)).forest.inheritedPrefixes (xhStore.xrun (xhCalls.take 9)).env 1 =
      [(3, 3)] := by decide +kernel
  refine ⟨fun b => by rw [h], fun a ha b hb _ => ?_⟩
  rw [List.mem_singleton] at ha hb
  rw [ha, hb]

end XotModel.Props

/-! ## Stale ids: calls with removed / stale / foreign ids at the arena level

  `Arena.classify a x` (Lemmas/ArenaStale.lean) sorts every id into exactly one class with respect to
  the arena: `live` (the current id of a slot that holds a node), `freed` (removed: the slot is on the
  free list and has handed out the id's stamp before), `stale` (removed: the slot holds a node again,
  under a later stamp), `foreign` (never issued: out of range, index 0, negative stamp, or a stamp the
  slot has not reached).  `Arena.Removed` = `freed` or `stale`.  Decidable (a computable function).

  What indextree 4.7.2 DOES with such ids — proved from the definitions of the pointer-level model,
  for all arenas (the correspondence suite `arena` compares the same calls with the crate):

    reads         `NodeId::is_removed`: `true` for every removed id, index panic beyond the slot vector;
                  `Arena::get`: no stamp check — the freed slot itself (`Node::is_removed()` true) resp.
                  the NEW occupant; `arena[id].get()`: `unreachable!` on a freed slot; no accessor and
                  no iterator ever writes (`C04_arena_stale_reads`, `_read_only`);
    `checked_*`   a FREED id in either position: `Err(Removed)`; beyond the slot vector: index panic;
                  the same id twice: the `…Self` error — all before the first write
                  (`C04_arena_stale_checked`).  A STALE id is NOT refused: `Removed` is decided by the
                  sign of the SLOT's stamp, the call goes on with the new occupant
                  (`C04_arena_stale_passes_removed_check`; closed examples in `Props/C06`);
    `detach`      no stamp is looked at.  On a slot without parent / sibling pointers (every slot freed
                  by `remove`, the root freed by `remove_subtree`): `Ok`, arena unchanged
                  (`C04_arena_stale_detach_partial`).  In general pointers only are written
                  (`C04_arena_stale_detach_meta`: stamps, payloads, free list, the class of every id are
                  as before) — but with the stale pointers of a slot freed INSIDE a removed subtree these
                  are the pointers of the former neighbours' slots, whoever occupies them now: the full
                  statement is false (`C04_arena_stale_detach_Statement_false`: a live node loses its
                  children);
    `remove`, `remove_subtree`
                  no stamp is looked at: `free_node` runs again (DOUBLE FREE).  On a freed slot whose
                  five pointers are `None`: `Ok`; the stamp `c < 0` becomes `-c - 1 ≥ 0` over a `NextFree`
                  payload, the slot is linked into the free list a second time; the arena reached is
                  NOT well-formed and the id removed last from that slot is reported NOT removed again
                  (`C04_arena_stale_remove_double_free`; so `C04_arena_stale_remove_Statement` is false);
    one-argument calls with a STALE id
                  `detach`, `remove`, `remove_subtree` use the slot index only: the NEW OCCUPANT of the slot
                  is detached / removed / removed with its subtree, as the refinement theorems say for its
                  current id; the arena stays well-formed (`C04_arena_stale_acts_on_new_occupant`);
    iterators     from a removed id: no refusal; they follow whatever pointers the slot keeps; on a
                  slot whose five pointers are `None` they yield the removed id ITSELF and no children
                  (`C04_arena_stale_iterators`).

  The headline, `C04_arena_never_hands_out_removed`: in every well-formed (hence every reachable)
  arena, every pointer read from a live node and every id yielded by ANY iterator started at a live
  id — for every limit — is a live id; `get_node_id_at` answers live ids only.
-/

namespace XotModel.Props
open XotModel

/-- The classification of ids: `live` is `LiveId`; `freed` / `stale` are the two ways of being
    removed (slot free / slot reused) and exclude `LiveId`; `Removed` is decidable; below saturation
    `Removed` is the `Gone` of the removed-for-ever theorems. -/
theorem C04_arena_id_classes (a : Arena) (x : Arena.NodeId) :
    (a.classify x = .live ↔ Arena.LiveId a x) ∧
    (a.classify x = .freed → Arena.Freed a x ∧ 1 ≤ x.index1 ∧ 0 ≤ x.stamp) ∧
    (a.classify x = .stale → Arena.Stale a x ∧ 1 ≤ x.index1 ∧ 0 ≤ x.stamp) ∧
    (Arena.Removed a x ↔ (a.classify x = .freed ∨ a.classify x = .stale)) ∧
    (Arena.Removed a x → ¬ Arena.LiveId a x) ∧
    (Arena.Gone a x → 1 ≤ x.index1 → Arena.Removed a x) ∧
    (Arena.Removed a x → x.stamp < 32767 → Arena.Gone a x) :=
  ⟨Arena.classify_live_iff a x,
   fun h => ⟨(Arena.classify_freed h).1, (Arena.classify_freed h).2.1, (Arena.classify_freed h).2.2.1⟩,
   fun h => ⟨(Arena.classify_stale h).1, (Arena.classify_stale h).2.1, (Arena.classify_stale h).2.2.1⟩,
   Iff.rfl, Arena.Removed.not_liveId, Arena.Gone.removed,
   fun h hlt => by rcases h.gone with hg | ⟨h32, _⟩; exact hg; omega⟩

/-- Removed is for ever, in terms of the classes: a removed id (slot free or reused) with stamp below
    32767 is a removed id after every further history of calls — whatever happens to its slot. -/
theorem C04_arena_removed_stays_removed (a a' : Arena) (x : Arena.NodeId) (w : Arena.Wf a)
    (h : Arena.Removed a x) (hlt : x.stamp < 32767) (hist : Arena.Steps a a') :
    Arena.Removed a' x ∧ Arena.isRemoved a' x = .done a' true :=
  ⟨h.forever w hlt hist, (h.forever w hlt hist).isRemoved⟩

/-- The read accessors on removed and foreign ids. -/
theorem C04_arena_stale_reads (a : Arena) (x : Arena.NodeId) :
    (Arena.Removed a x → Arena.isRemoved a x = .done a true) ∧
    (a.slot x.index0 = none → Arena.isRemoved a x = .panic a ∧ a.get x = none) ∧
    (Arena.Freed a x → ∃ s, a.get x = some s ∧ s.isRemoved = true) ∧
    (Arena.Stale a x → ∃ s, a.get x = some s ∧ s.isRemoved = false ∧ s.stamp ≠ x.stamp ∧
      Arena.LiveId a ⟨x.index0 + 1, s.stamp⟩) ∧
    (Arena.Wf a → Arena.Freed a x → Arena.value a x = .panic a) ∧
    (Arena.Wf a → Arena.Stale a x → ∃ v, Arena.value a x = .done a v) :=
  ⟨Arena.Removed.isRemoved, fun h => ⟨Arena.isRemoved_out_of_range h, h⟩, Arena.Freed.get, Arena.Stale.get,
   fun ⟨_, r⟩ h => h.value_panics r, fun ⟨_, r⟩ h => h.value r⟩

/-- No read accessor and no iterator writes: for EVERY arena and EVERY id (live, removed, foreign) and
    every limit, the arena reached — also when the call panics — is the arena given. -/
theorem C04_arena_stale_read_only (a : Arena) (x : Arena.NodeId) (limit : Nat) :
    (Arena.isRemoved a x).arena = a ∧ (Arena.value a x).arena = a ∧
    (Arena.ancestors a x limit).arena = a ∧ (Arena.predecessors a x limit).arena = a ∧
    (Arena.children a x limit).arena = a ∧ (Arena.childrenRev a x limit).arena = a ∧
    (Arena.reverseChildren a x limit).arena = a ∧ (Arena.followingSiblings a x limit).arena = a ∧
    (Arena.precedingSiblings a x limit).arena = a ∧ (Arena.traverse a x limit).arena = a ∧
    (Arena.reverseTraverse a x limit).arena = a ∧ (Arena.descendants a x limit).arena = a :=
  ⟨Arena.isRemoved_arena a x, Arena.value_arena a x, Arena.iterators_arena a x limit⟩

/-- `checked_append` / `checked_prepend` / `checked_insert_after` / `checked_insert_before` with a
    FREED id (`FreedArg`: `self`'s slot is free — the other id is then not even looked at — or `self`'s
    slot holds a node and the other id's slot is free): `Err(Removed)`; with an id beyond the slot vector
    (`OutOfRangeArg`): `arena[..]` panics; both with the arena literally unchanged, on EVERY arena. -/
theorem C04_arena_stale_checked (a : Arena) (x y : Arena.NodeId) (hne : y ≠ x) :
    (Arena.FreedArg a x y →
      Arena.checkedAppend a x y = .done a (.error .removed) ∧ Arena.checkedPrepend a x y = .done a (.error .removed) ∧
      Arena.checkedInsertAfter a x y = .done a (.error .removed) ∧
      Arena.checkedInsertBefore a x y = .done a (.error .removed)) ∧
    (Arena.OutOfRangeArg a x y →
      Arena.checkedAppend a x y = .panic a ∧ Arena.checkedPrepend a x y = .panic a ∧
      Arena.checkedInsertAfter a x y = .panic a ∧ Arena.checkedInsertBefore a x y = .panic a) :=
  ⟨fun h => ⟨Arena.checkedAppend_freed hne h, Arena.checkedPrepend_freed hne h, Arena.checkedInsertAfter_freed hne h,
     Arena.checkedInsertBefore_freed hne h⟩,
   fun h => ⟨Arena.checkedAppend_out_of_range hne h, Arena.checkedPrepend_out_of_range hne h,
     Arena.checkedInsertAfter_out_of_range hne h, Arena.checkedInsertBefore_out_of_range hne h⟩⟩

/-- The same in terms of the classes: a `freed` id as `self` with ANY other id, or as the other id with a
    `live` or `stale` `self`; and the unchecked wrappers (`append`, …) then panic on their `expect`. -/
theorem C04_arena_stale_checked_classes (a : Arena) (x y : Arena.NodeId) (hne : y ≠ x)
    (h : a.classify x = .freed ∨ ((a.classify x = .live ∨ a.classify x = .stale) ∧ a.classify y = .freed)) :
    Arena.checkedAppend a x y = .done a (.error .removed) ∧ Arena.checkedPrepend a x y = .done a (.error .removed) ∧
    Arena.checkedInsertAfter a x y = .done a (.error .removed) ∧
    Arena.checkedInsertBefore a x y = .done a (.error .removed) ∧
    Arena.append a x y = .panic a ∧ Arena.prepend a x y = .panic a ∧ Arena.insertAfter a x y = .panic a ∧
    Arena.insertBefore a x y = .panic a :=
  have hf := Arena.freedArg_of_classes h
  ⟨Arena.checkedAppend_freed hne hf, Arena.checkedPrepend_freed hne hf, Arena.checkedInsertAfter_freed hne hf,
   Arena.checkedInsertBefore_freed hne hf, Arena.append_freed hne hf, Arena.prepend_freed hne hf,
   Arena.insertAfter_freed hne hf, Arena.insertBefore_freed hne hf⟩

/-- A STALE id is not refused: the test `arena[self].is_removed() || arena[other].is_removed()` looks at
    the slots, and both slots hold nodes. -/
theorem C04_arena_stale_passes_removed_check (a : Arena) (x y : Arena.NodeId)
    (hx : Arena.LiveId a x ∨ Arena.Stale a x) (hy : Arena.LiveId a y ∨ Arena.Stale a y) :
    Arena.eitherRemoved a x y = .done a false :=
  Arena.eitherRemoved_occupied (hx.elim Arena.LiveId.occupied Arena.Stale.occupied)
    (hy.elim Arena.LiveId.occupied Arena.Stale.occupied)

/-- A FOREIGN id beyond the slot vector: every call panics on its first `arena[id]` (index out of bounds;
    `following_siblings` / `preceding_siblings`: `arena.get(id).unwrap()`), before any write.  (An
    in-range foreign id is treated like a removed one: no function can tell them apart.) -/
theorem C04_arena_foreign_out_of_range (a : Arena) (x : Arena.NodeId) (h : a.slot x.index0 = none) (n : Nat) :
    Arena.detach a x = .panic a ∧ Arena.remove a x = .panic a ∧ Arena.removeSubtree a x = .panic a ∧
    Arena.isRemoved a x = .panic a ∧ Arena.value a x = .panic a ∧
    Arena.children a x n = .panic a ∧ Arena.reverseChildren a x n = .panic a ∧
    Arena.ancestors a x (n + 1) = .panic a ∧ Arena.followingSiblings a x n = .panic a ∧
    Arena.precedingSiblings a x n = .panic a ∧ Arena.traverse a x (n + 1) = .panic a ∧
    Arena.reverseTraverse a x (n + 1) = .panic a ∧ Arena.descendants a x (n + 1) = .panic a :=
  Arena.out_of_range_panics a x h n

/-- Full-strength statement for `detach` (FALSE, see below): a removed id leaves the arena alone. -/
def C04_arena_stale_detach_Statement : Prop :=
  ∀ (a : Arena) (x : Arena.NodeId), Arena.Wf a → Arena.Removed a x → Arena.detach a x = .done a ()

/-- `detach` of an id whose slot has no `parent`, `previous_sibling`, `next_sibling` (every slot freed
    by `remove`; the root freed by `remove_subtree`): `Ok`, arena literally unchanged — every arena. -/
theorem C04_arena_stale_detach_partial (a : Arena) (x : Arena.NodeId) (s : Arena.Slot)
    (hs : a.slot x.index0 = some s) (hu : s.Unlinked) : Arena.detach a x = .done a () :=
  Arena.detach_unlinked a x s hs hu

/-- `detach` of ANY id whose slot exists and whose three neighbour pointers are in range and name other
    slots: `Ok`; only pointers are written: stamps, payloads, the free list and the class of every id
    are as before. -/
theorem C04_arena_stale_detach_meta (a : Arena) (x : Arena.NodeId) (s : Arena.Slot) (hs : a.slot x.index0 = some s)
    (hp : Arena.InRange a s.parent) (hv : Arena.InRange a s.prev) (hn : Arena.InRange a s.next)
    (h1 : ∀ id, s.parent = some id → id.index0 ≠ x.index0) (h2 : ∀ id, s.prev = some id → id.index0 ≠ x.index0)
    (h3 : ∀ id, s.next = some id → id.index0 ≠ x.index0) :
    ∃ a', Arena.detach a x = .done a' () ∧ Arena.MetaEq a a' ∧ ∀ y, a'.classify y = a.classify y := by
  obtain ⟨a', h, m⟩ := Arena.detach_metaEq a x s hs hp hv hn h1 h2 h3
  exact ⟨a', h, m, m.classify⟩

/-- The full statement is false: in `sampleH` (reachable: `1:0`, `2:1 [3:0]`, slot 3 freed inside a
    removed subtree and still naming its former parent `2:0`, whose slot now holds `2:1`), `detach(4:0)`
    clears `first_child` / `last_child` of the live node `2:1`, whose child `3:0` still names it as parent:
    the arena reached is not well-formed. -/
theorem C04_arena_stale_detach_Statement_false : ¬ C04_arena_stale_detach_Statement := by
  intro h
  have := h Arena.sampleH ⟨4, 0⟩ Arena.sampleH_wf (by decide +kernel)
  revert this
  decide +kernel

theorem C04_arena_stale_detach_breaks_wf :
    Arena.Wf Arena.sampleH ∧ Arena.Removed Arena.sampleH ⟨4, 0⟩ ∧
    ∃ a', Arena.detach Arena.sampleH ⟨4, 0⟩ = .done a' () ∧ ¬ Arena.Wf a' := by
  refine ⟨Arena.sampleH_wf, by decide +kernel, _, rfl, ?_⟩
  exact Arena.not_wf_of_orphan (c := 2) (y := ⟨2, 1⟩) rfl (by decide +kernel) rfl rfl (by decide +kernel) rfl

/-- Full-strength statement for `remove` / `remove_subtree` (FALSE): a removed id is refused or at
    least leaves a well-formed arena. -/
def C04_arena_stale_remove_Statement : Prop :=
  ∀ (a : Arena) (x : Arena.NodeId), Arena.Wf a → Arena.Removed a x →
    Arena.Wf (Arena.remove a x).arena ∧ Arena.Wf (Arena.removeSubtree a x).arena

/-- Double free: `remove` and `remove_subtree` of an id whose slot is free with all five pointers `None`
    (what `remove` leaves), on a well-formed arena: both answer `Ok` with the same arena; the slot's
    stamp `c < 0` becomes `-c - 1 ≥ 0`; the arena reached is NOT well-formed; `is_removed` of the id is now
    `false` exactly for the id that was removed last from the slot (stamp `-c - 1`): a removed node is
    handed back as not removed.  No other slot's stamp changes. -/
theorem C04_arena_stale_remove_double_free (a : Arena) (w : Arena.Wf a) (x : Arena.NodeId) (s : Arena.Slot)
    (hs : a.slot x.index0 = some s) (hn : s.stamp < 0) (hc : s.Cleared) :
    ∃ a', Arena.remove a x = .done a' () ∧ Arena.removeSubtree a x = .done a' () ∧ ¬ Arena.Wf a' ∧
      Arena.isRemoved a' x = .done a' (decide (x.stamp ≠ -s.stamp - 1)) ∧
      (∀ j, j ≠ x.index0 → (a'.slot j).map (·.stamp) = (a.slot j).map (·.stamp)) := by
  obtain ⟨g, r⟩ := w
  exact r.remove_freed_cleared x s hs hn hc

theorem C04_arena_stale_remove_Statement_false : ¬ C04_arena_stale_remove_Statement := by
  intro h
  obtain ⟨a', h1, _, h3, _⟩ := C04_arena_stale_remove_double_free Arena.sampleF Arena.sampleF_wf ⟨3, 0⟩
    { stamp := -1, data := .nextFree none } rfl (by decide +kernel) (by decide +kernel)
  have := (h Arena.sampleF ⟨3, 0⟩ Arena.sampleF_wf (by decide +kernel)).1
  rw [h1] at this
  exact h3 this

/-- **A stale id acts on the new occupant.**  `detach`, `remove`, `remove_subtree` (and `children`,
    `reverse_children`) use nothing of their id but the slot index — on EVERY arena the call with any id
    is the call with the current id of that slot.  For a STALE id that current id is a live id of
    ANOTHER node: it is that node which is detached / removed / removed with its whole subtree, exactly
    as the refinement theorems say (`C04_arena_refines_detach`, `_remove`, `_remove_subtree`); the arena
    stays well-formed, nothing is refused. -/
theorem C04_arena_stale_acts_on_new_occupant (a : Arena) (g : Arena.Shape) (r : Arena.Rep a g) (x : Arena.NodeId)
    (hx : Arena.Stale a x) :
    Arena.LiveId a (a.idAt x.index0) ∧ a.idAt x.index0 ≠ x ∧
    Arena.detach a x = Arena.detach a (a.idAt x.index0) ∧ Arena.remove a x = Arena.remove a (a.idAt x.index0) ∧
    Arena.removeSubtree a x = Arena.removeSubtree a (a.idAt x.index0) ∧
    (∀ n, Arena.children a x n = Arena.children a (a.idAt x.index0) n ∧
      Arena.reverseChildren a x n = Arena.reverseChildren a (a.idAt x.index0) n) ∧
    (∃ a', Arena.detach a x = .done a' () ∧ Arena.Rep a' (g.detach x.index0)) ∧
    (∃ a' l, Arena.removeSubtree a x = .done a' () ∧ Arena.Rep a' ((g.detach x.index0).prune l) ∧
      (∀ u, u ∈ l ↔ Arena.Reach g.par u x.index0)) := by
  obtain ⟨hl, hne⟩ := hx.current
  obtain ⟨e1, e2, e3⟩ := Arena.one_arg_current a x
  refine ⟨hl, hne, e1, e2, e3, fun n => Arena.children_index0 a x _ (by simp) n, ?_, ?_⟩
  · obtain ⟨a', h, r', _⟩ := C04_arena_refines_detach a g r _ hl
    rw [Arena.idAt_index0] at r'
    exact ⟨a', e1.trans h, r'⟩
  · obtain ⟨a', l, h, r', _, hm, _⟩ := C04_arena_refines_remove_subtree a g r x.index0 hl.2.1
    exact ⟨a', l, e3.trans h, r', hm⟩

/-- The index-only fact by itself, for every arena and every id. -/
theorem C04_arena_one_arg_calls_index_only (a : Arena) (x y : Arena.NodeId) (h : x.index0 = y.index0) :
    Arena.detach a x = Arena.detach a y ∧ Arena.remove a x = Arena.remove a y ∧
    Arena.removeSubtree a x = Arena.removeSubtree a y :=
  ⟨Arena.detach_index0 a x y h, Arena.remove_index0 a x y h, Arena.removeSubtree_index0 a x y h⟩

/-- The iterators from an id whose slot has all five pointers `None` (a slot freed by `remove`): no
    refusal and no panic; they yield the id ITSELF — a removed id when the slot is free — and no
    children; the arena is unchanged. -/
theorem C04_arena_stale_iterators (a : Arena) (x : Arena.NodeId) (s : Arena.Slot) (hs : a.slot x.index0 = some s)
    (hc : s.Cleared) (n : Nat) :
    Arena.children a x n = .done a [] ∧ Arena.reverseChildren a x n = .done a [] ∧
    Arena.ancestors a x (n + 1) = .done a [x] ∧ Arena.followingSiblings a x (n + 1) = .done a [x] ∧
    Arena.precedingSiblings a x (n + 1) = .done a [x] ∧
    Arena.traverse a x (n + 2) = .done a [.start x, .end x] ∧
    Arena.reverseTraverse a x (n + 2) = .done a [.end x, .start x] ∧
    Arena.descendants a x (n + 2) = .done a [x] :=
  Arena.iterators_cleared a x s hs hc n

/-- **No accessor and no iterator hands out a removed node.**  In a well-formed arena, for a LIVE id `x`:
    every pointer of its slot (`parent`, `previous_sibling`, `next_sibling`, `first_child`,
    `last_child`) is `None` or a live id; every id yielded by `ancestors`, `predecessors`, `children`,
    `children().rev()`, `reverse_children`, `following_siblings`, `preceding_siblings`, `descendants`
    and the node of every edge yielded by `traverse`, `reverse_traverse` is a live id — for EVERY limit,
    also one that cuts the iteration short (with a sufficient limit the results are the list-level
    lists: `C07_arena_iterators`, `C07_arena_traverse`, `C07_arena_reverse_traverse`); a live id is not
    removed and `is_removed` says so. -/
theorem C04_arena_never_hands_out_removed (a : Arena) (w : Arena.Wf a) (x : Arena.NodeId) (hx : Arena.LiveId a x)
    (limit : Nat) :
    (∃ s, a.get x = some s ∧ s.isRemoved = false ∧
      (∀ y, s.parent = some y → Arena.LiveId a y) ∧ (∀ y, s.prev = some y → Arena.LiveId a y) ∧
      (∀ y, s.next = some y → Arena.LiveId a y) ∧ (∀ y, s.first = some y → Arena.LiveId a y) ∧
      (∀ y, s.last = some y → Arena.LiveId a y)) ∧
    (∀ a' l, Arena.ancestors a x limit = .done a' l → ∀ y ∈ l, Arena.LiveId a y) ∧
    (∀ a' l, Arena.predecessors a x limit = .done a' l → ∀ y ∈ l, Arena.LiveId a y) ∧
    (∀ a' l, Arena.children a x limit = .done a' l → ∀ y ∈ l, Arena.LiveId a y) ∧
    (∀ a' l, Arena.childrenRev a x limit = .done a' l → ∀ y ∈ l, Arena.LiveId a y) ∧
    (∀ a' l, Arena.reverseChildren a x limit = .done a' l → ∀ y ∈ l, Arena.LiveId a y) ∧
    (∀ a' l, Arena.followingSiblings a x limit = .done a' l → ∀ y ∈ l, Arena.LiveId a y) ∧
    (∀ a' l, Arena.precedingSiblings a x limit = .done a' l → ∀ y ∈ l, Arena.LiveId a y) ∧
    (∀ a' l, Arena.traverse a x limit = .done a' l → ∀ e ∈ l, Arena.LiveId a e.node) ∧
    (∀ a' l, Arena.reverseTraverse a x limit = .done a' l → ∀ e ∈ l, Arena.LiveId a e.node) ∧
    (∀ a' l, Arena.descendants a x limit = .done a' l → ∀ y ∈ l, Arena.LiveId a y) ∧
    (∀ y, Arena.LiveId a y → ¬ Arena.Removed a y ∧ Arena.isRemoved a y = .done a false) := by
  obtain ⟨g, r⟩ := w
  obtain ⟨s, hs, h0, hp⟩ := r.liveId_ptrs hx
  refine ⟨⟨s, hs, ?_, hp⟩, ?_⟩
  · simp [Arena.Slot.isRemoved, Arena.Stamp.isRemoved]; omega
  · obtain ⟨h1, h2, h3, h4, h5, h6, h7, h8, h9, h10⟩ := r.iterators_live hx limit
    exact ⟨h1, h2, h3, h4, h5, h6, h7, h8, h9, h10, fun y hy => ⟨fun hr => hr.not_liveId hy, hy.isRemoved⟩⟩

/-- The same in every REACHABLE arena (histories of calls with live arguments from the empty arena),
    with what the iterators return: nothing they yield is a removed id. -/
theorem C04_arena_never_hands_out_removed_reachable (a : Arena) (h : Arena.Steps {} a) (x : Arena.NodeId)
    (hx : Arena.LiveId a x) (limit : Nat) :
    (∀ a' l, Arena.ancestors a x limit = .done a' l → ∀ y ∈ l, ¬ Arena.Removed a y) ∧
    (∀ a' l, Arena.children a x limit = .done a' l → ∀ y ∈ l, ¬ Arena.Removed a y) ∧
    (∀ a' l, Arena.reverseChildren a x limit = .done a' l → ∀ y ∈ l, ¬ Arena.Removed a y) ∧
    (∀ a' l, Arena.followingSiblings a x limit = .done a' l → ∀ y ∈ l, ¬ Arena.Removed a y) ∧
    (∀ a' l, Arena.precedingSiblings a x limit = .done a' l → ∀ y ∈ l, ¬ Arena.Removed a y) ∧
    (∀ a' l, Arena.descendants a x limit = .done a' l → ∀ y ∈ l, ¬ Arena.Removed a y) ∧
    (∀ a' l, Arena.traverse a x limit = .done a' l → ∀ e ∈ l, ¬ Arena.Removed a e.node) ∧
    (∀ a' l, Arena.reverseTraverse a x limit = .done a' l → ∀ e ∈ l, ¬ Arena.Removed a e.node) := by
  obtain ⟨_, h1, _, h3, _, h5, h6, h7, h8, h9, h10, _⟩ :=
    C04_arena_never_hands_out_removed a (C04_arena_wf_reachable a h) x hx limit
  exact ⟨fun a' l e y hy hr => hr.not_liveId (h1 a' l e y hy), fun a' l e y hy hr => hr.not_liveId (h3 a' l e y hy),
    fun a' l e y hy hr => hr.not_liveId (h5 a' l e y hy), fun a' l e y hy hr => hr.not_liveId (h6 a' l e y hy),
    fun a' l e y hy hr => hr.not_liveId (h7 a' l e y hy), fun a' l e y hy hr => hr.not_liveId (h10 a' l e y hy),
    fun a' l e y hy hr => hr.not_liveId (h8 a' l e y hy), fun a' l e y hy hr => hr.not_liveId (h9 a' l e y hy)⟩

/-- `Arena::get_node_id_at` (no stamp to compare: it builds the id from the slot) answers live ids only. -/
theorem C04_arena_get_node_id_at_live (a : Arena) (i : Nat) (x : Arena.NodeId) (h1 : 1 ≤ i)
    (h : a.getNodeIdAt i = some x) : Arena.LiveId a x :=
  Arena.getNodeIdAt_live h1 h

/-- Non-vacuity and the examples by evaluation.  `sampleC` (slot 1 reused once): the old id `2:0` is
    stale, the new id `2:1` is live, `2:2` / `5:0` / `2:-1` are foreign; `is_removed`, `get`, `value` on
    them.  `sampleF` (`3:0` removed by `remove`: slot free, pointers cleared), `sampleG` (`2:0`, `4:0`
    removed by `remove_subtree`: stale pointers kept), `sampleH` (slot 1 reused as `2:1` with child `3:0`):
    the classes; `checked_*` refuse the freed id in both positions and panic beyond the slot vector;
    `detach(3:0)` on the cleared slot changes nothing; `detach(4:0)` on `sampleG` rewrites the freed
    slot 1 (the arena changes, still well-formed), on `sampleH` it breaks the live node `2:1`; `remove(3:0)`
    a second time revives `3:0` and leaves an arena that is not well-formed; iterators from removed ids
    yield removed ids (`ancestors(4:0)` = `[4:0, 2:0]` in `sampleG`). -/
example : Arena.sampleC.classify ⟨2, 0⟩ = .stale ∧ Arena.sampleC.classify ⟨2, 1⟩ = .live ∧
    Arena.sampleC.classify ⟨2, 2⟩ = .foreign ∧ Arena.sampleC.classify ⟨5, 0⟩ = .foreign ∧
    Arena.sampleC.classify ⟨2, -1⟩ = .foreign ∧ Arena.sampleC.classify ⟨0, 0⟩ = .foreign ∧
    Arena.Removed Arena.sampleC ⟨2, 0⟩ ∧ ¬ Arena.Removed Arena.sampleC ⟨2, 1⟩ ∧
    Arena.isRemoved Arena.sampleC ⟨2, 0⟩ = .done Arena.sampleC true ∧
    Arena.isRemoved Arena.sampleC ⟨2, 1⟩ = .done Arena.sampleC false ∧
    Arena.isRemoved Arena.sampleC ⟨5, 0⟩ = .panic Arena.sampleC ∧
    Arena.value Arena.sampleC ⟨2, 0⟩ = .done Arena.sampleC 50 ∧
    Arena.sampleC.getNodeIdAt 2 = some ⟨2, 1⟩ := by decide +kernel

example : Arena.sampleF.classify ⟨3, 0⟩ = .freed ∧ Arena.sampleF.classify ⟨3, 1⟩ = .foreign ∧
    Arena.sampleG.classify ⟨2, 0⟩ = .freed ∧ Arena.sampleG.classify ⟨4, 0⟩ = .freed ∧
    Arena.sampleH.classify ⟨2, 0⟩ = .stale ∧ Arena.sampleH.classify ⟨2, 1⟩ = .live ∧
    Arena.sampleH.classify ⟨4, 0⟩ = .freed ∧
    Arena.isRemoved Arena.sampleF ⟨3, 0⟩ = .done Arena.sampleF true ∧
    Arena.value Arena.sampleF ⟨3, 0⟩ = .panic Arena.sampleF ∧
    (Arena.sampleF.get ⟨3, 0⟩).map (·.isRemoved) = some true ∧ Arena.sampleF.getNodeIdAt 3 = none := by decide +kernel

example : Arena.checkedAppend Arena.sampleF ⟨1, 0⟩ ⟨3, 0⟩ = .done Arena.sampleF (.error .removed) ∧
    Arena.checkedAppend Arena.sampleF ⟨3, 0⟩ ⟨1, 0⟩ = .done Arena.sampleF (.error .removed) ∧
    Arena.checkedAppend Arena.sampleF ⟨3, 0⟩ ⟨9, 0⟩ = .done Arena.sampleF (.error .removed) ∧
    Arena.checkedPrepend Arena.sampleF ⟨2, 0⟩ ⟨3, 0⟩ = .done Arena.sampleF (.error .removed) ∧
    Arena.checkedInsertAfter Arena.sampleF ⟨4, 0⟩ ⟨3, 0⟩ = .done Arena.sampleF (.error .removed) ∧
    Arena.checkedInsertBefore Arena.sampleF ⟨3, 0⟩ ⟨4, 0⟩ = .done Arena.sampleF (.error .removed) ∧
    Arena.checkedAppend Arena.sampleF ⟨3, 0⟩ ⟨3, 0⟩ = .done Arena.sampleF (.error .appendSelf) ∧
    Arena.checkedAppend Arena.sampleF ⟨1, 0⟩ ⟨9, 0⟩ = .panic Arena.sampleF ∧
    Arena.checkedAppend Arena.sampleF ⟨9, 0⟩ ⟨3, 0⟩ = .panic Arena.sampleF ∧
    Arena.append Arena.sampleF ⟨1, 0⟩ ⟨3, 0⟩ = .panic Arena.sampleF := by decide +kernel

example : Arena.detach Arena.sampleF ⟨3, 0⟩ = .done Arena.sampleF () ∧
    (match Arena.detach Arena.sampleG ⟨4, 0⟩ with
     | .done a' () => a' != Arena.sampleG && a'.wf && (a'.get ⟨2, 0⟩).map (·.first) == some none
     | _ => false) = true ∧
    (match Arena.detach Arena.sampleH ⟨4, 0⟩ with
     | .done a' () => !a'.wf && (a'.get ⟨2, 1⟩).map (·.first) == some none &&
         (a'.get ⟨3, 0⟩).map (·.parent) == some (some ⟨2, 1⟩)
     | _ => false) = true ∧
    (match Arena.remove Arena.sampleF ⟨3, 0⟩ with
     | .done a' () => !a'.wf && Arena.isRemoved a' ⟨3, 0⟩ == .done a' false &&
         Arena.removeSubtree Arena.sampleF ⟨3, 0⟩ == .done a' ()
     | _ => false) = true ∧
    (match Arena.removeSubtree Arena.sampleG ⟨2, 0⟩ with
     | .done a' () => !a'.wf && Arena.isRemoved a' ⟨2, 0⟩ == .done a' false && Arena.isRemoved a' ⟨4, 0⟩ == .done a' false
     | _ => false) = true := by decide +kernel

example : Arena.children Arena.sampleF ⟨3, 0⟩ 9 = .done Arena.sampleF [] ∧
    Arena.ancestors Arena.sampleF ⟨3, 0⟩ 9 = .done Arena.sampleF [⟨3, 0⟩] ∧
    Arena.descendants Arena.sampleF ⟨3, 0⟩ 9 = .done Arena.sampleF [⟨3, 0⟩] ∧
    Arena.ancestors Arena.sampleG ⟨4, 0⟩ 9 = .done Arena.sampleG [⟨4, 0⟩, ⟨2, 0⟩] ∧
    Arena.children Arena.sampleG ⟨2, 0⟩ 9 = .done Arena.sampleG [⟨4, 0⟩] ∧
    Arena.descendants Arena.sampleG ⟨2, 0⟩ 9 = .done Arena.sampleG [⟨2, 0⟩, ⟨4, 0⟩] ∧
    Arena.children Arena.sampleH ⟨2, 0⟩ 9 = .done Arena.sampleH [⟨3, 0⟩] ∧
    Arena.descendants Arena.sampleH ⟨1, 0⟩ 9 = .done Arena.sampleH [⟨1, 0⟩] ∧
    Arena.descendants Arena.sampleH ⟨2, 1⟩ 9 = .done Arena.sampleH [⟨2, 1⟩, ⟨3, 0⟩] := by decide +kernel

/-- The stale id `2:0` in `sampleH` (`1:0`, `2:1 [3:0]`): `detach`, `remove`, `remove_subtree` with it are the
    calls with `2:1`; `remove_subtree(2:0)` removes the live nodes `2:1` and `3:0`. -/
example : Arena.Stale Arena.sampleH ⟨2, 0⟩ ∧ Arena.sampleH.idAt 1 = ⟨2, 1⟩ :=
  ⟨⟨_, rfl, by decide +kernel, by decide +kernel⟩, rfl⟩
example : Arena.detach Arena.sampleH ⟨2, 0⟩ = Arena.detach Arena.sampleH ⟨2, 1⟩ ∧
    Arena.removeSubtree Arena.sampleH ⟨2, 0⟩ = Arena.removeSubtree Arena.sampleH ⟨2, 1⟩ ∧
    (match Arena.removeSubtree Arena.sampleH ⟨2, 0⟩ with
     | .done a' () => a'.wf && Arena.isRemoved a' ⟨2, 1⟩ == .done a' true && Arena.isRemoved a' ⟨3, 0⟩ == .done a' true
     | _ => false) = true := by decide +kernel

/-- Non-vacuity of the hypotheses: `sampleF`, `sampleG`, `sampleH` are reachable, hence well-formed; the
    freed slot of `sampleF` is `Cleared`, the freed root slot of `sampleG` is `Unlinked` but not
    `Cleared`, the freed inner slot of `sampleG` is not even `Unlinked`; `FreedArg` / `OutOfRangeArg`
    hold for the calls above. -/
example : Arena.Wf Arena.sampleF ∧ Arena.Wf Arena.sampleG ∧ Arena.Wf Arena.sampleH :=
  ⟨Arena.sampleF_wf, Arena.sampleG_wf, Arena.sampleH_wf⟩

example : (∃ s, Arena.sampleF.slot 2 = some s ∧ s.stamp < 0 ∧ s.Cleared) ∧
    (∃ s, Arena.sampleG.slot 1 = some s ∧ s.stamp < 0 ∧ s.Unlinked ∧ ¬ s.Cleared) ∧
    (∃ s, Arena.sampleG.slot 3 = some s ∧ s.stamp < 0 ∧ ¬ s.Unlinked) :=
  ⟨⟨_, rfl, by decide +kernel, by decide +kernel⟩, ⟨_, rfl, by decide +kernel, by decide +kernel, by decide +kernel⟩, ⟨_, rfl, by decide +kernel, by decide +kernel⟩⟩

example : Arena.FreedArg Arena.sampleF ⟨3, 0⟩ ⟨9, 0⟩ ∧ Arena.FreedArg Arena.sampleF ⟨1, 0⟩ ⟨3, 0⟩ ∧
    Arena.OutOfRangeArg Arena.sampleF ⟨1, 0⟩ ⟨9, 0⟩ ∧ Arena.LiveId Arena.sampleH ⟨2, 1⟩ ∧
    Arena.Stale Arena.sampleH ⟨2, 0⟩ :=
  ⟨Or.inl ⟨_, rfl, by decide +kernel⟩, Or.inr ⟨⟨_, rfl, by decide +kernel⟩, ⟨_, rfl, by decide +kernel⟩⟩,
   Or.inr ⟨⟨_, rfl, by decide +kernel⟩, rfl⟩, Arena.liveId_of_isLiveId (by decide +kernel), ⟨_, rfl, by decide +kernel, by decide +kernel⟩⟩

end XotModel.Props

/-! ## Reachable trees: the invariant gives the structural hypotheses of the tree-level theorems (C01, C07, C09, C10, C13, C15)

  Many property theorems are about a plain `Tree` (+ `Path`) and assume structural hypotheses: `wf` /
  `kidsSorted` (C07), `Tree.valid` / `contentLeaves` / `noInnerDocument` (C13), `UniqueDeclsBelow` (C09, C15),
  `UniqueBelow` (C10), `OnlyElementsDeclare` (C15), `StructValid` (C10), the structural part of
  `Representable` (C01).  This section is the BRIDGE: `Forest.Inv f` implies every one of them for the
  erasure `r.erase` of every parentless tree `r` of `f`, at every node (Lemmas/ReachNode.lean: one mutual
  structural induction over `HTree`, `Reach.forall_erase`, turns each local clause of `validTree` into a
  `Tree.Forall` fact; ReachAxes / ReachCompare / ReachScope / ReachRepresentable derive the predicates of
  the single properties from those at the tree level).  With `C04_reach_ext` they hold for every forest
  reachable from the empty store by an extended history, with no hypothesis on the tree at all.

  The restated headline theorems live with their properties: `C07_reachable_*` in Props/C07.lean,
  `C13_reachable_*` in Props/C13.lean, `C09_reachable_*` in Props/C09.lean.  The HYPOTHESES of the C01 / C10 /
  C15 theorems are derived here (`C04_reachable_hypotheses`, `C01_reachable_representable`) next to the
  `C10_forest_*` / `C15_forest_*` refinement theorems; their CONCLUSIONS for reachable forests — the
  end-to-end theorems history ∘ serialise ∘ parse, `C01_reachable_roundtrip`,
  `C10_reachable_repair_roundtrip`, `C15_reachable_dedup` — are in Props/C01.lean, Props/C10.lean,
  Props/C15.lean.  C16 (token / event streams) has no
  structural hypothesis to discharge: its theorems hold for every tree and every start path as they stand. -/

namespace XotModel.Props
open XotModel

/-- **The bridge.**  In a forest with the invariant, at EVERY node (path `p`, value `v`,
    children `ks`) of the erasure of EVERY parentless tree: the children come as namespace nodes,
    then attribute nodes, then normal nodes; text / comment / PI / attribute / namespace nodes are
    leaves; only elements carry attribute and namespace nodes; a document node is never a child
    (documents only at the root); attribute names and declared prefixes are unique per node; and —
    while consolidation has never been switched off — no two adjacent children are text nodes. -/
theorem C04_inv_structure (f : Forest) (hi : f.Inv) :
    ∀ r ∈ f.roots, ∀ (p : Path) (v : Value) (ks : List Tree), r.erase.at? p = some (.node v ks) →
      OrderedKids ks ∧
      (v.isLeafKind = true → ks = []) ∧
      (v.isElement = false → ∀ k ∈ ks, k.value.isNormal = true) ∧
      (∀ k ∈ ks, k.value.isDocument = false) ∧
      (attrNames ks).Nodup ∧ (nsPrefixes ks).Nodup ∧
      (f.everOff = false → noAdjText ks = true) := by
  intro r hr p v ks hat
  have hs := Reach.structural_root hi hr
  have h1 := Tree.forall_at? _ _ p _ hs.ordered hat
  have h2 := Tree.forall_at? _ _ p _ hs.kinds hat
  have h3 := Tree.forall_at? _ _ p _ hs.unique hat
  exact ⟨h1, h2.1, h2.2.1, h2.2.2, h3.1, h3.2,
    fun hoff => Tree.forall_at? _ _ p _ (Reach.noAdjacentText_root hi hoff hr) hat⟩

/-- The same as `Tree.Forall` facts (Model/Valid.lean), `StructValid` for a document root. -/
theorem C04_inv_structValid (f : Forest) (hi : f.Inv) :
    ∀ r ∈ f.roots,
      r.erase.Forall (fun _ ks => OrderedKids ks) ∧ r.erase.Forall KindsOk ∧
      r.erase.Forall (fun _ ks => UniqueKids ks) ∧
      (r.value.isDocument = true → StructValid r.erase) ∧
      (f.everOff = false → NoAdjacentText r.erase) := by
  intro r hr
  have hs := Reach.structural_root hi hr
  exact ⟨hs.ordered, hs.kinds, hs.unique, fun hd => Reach.structValid_root hi hr hd,
    fun hoff => Reach.noAdjacentText_root hi hoff hr⟩

/-- **Every tree the API can build is structurally valid**: for every extended
    history from the empty store (`C04_reach_ext`), every parentless tree of the result, every path. -/
theorem C04_reachable_structure (env : Env) (cs : List Forest.XCall) (hw : ∀ c ∈ cs, c.wellKinded) :
    ∀ r ∈ ((⟨Forest.init, env⟩ : Store).xrun cs).forest.roots,
      (∀ (p : Path) (v : Value) (ks : List Tree), r.erase.at? p = some (.node v ks) →
        OrderedKids ks ∧
        (v.isLeafKind = true → ks = []) ∧
        (v.isElement = false → ∀ k ∈ ks, k.value.isNormal = true) ∧
        (∀ k ∈ ks, k.value.isDocument = false) ∧
        (attrNames ks).Nodup ∧ (nsPrefixes ks).Nodup ∧
        (((⟨Forest.init, env⟩ : Store).xrun cs).forest.everOff = false → noAdjText ks = true)) ∧
      (r.value.isDocument = true → StructValid r.erase) ∧
      (((⟨Forest.init, env⟩ : Store).xrun cs).forest.everOff = false → NoAdjacentText r.erase) := by
  intro r hr
  have hi := C04_reach_ext env cs hw
  exact ⟨C04_inv_structure _ hi r hr, (C04_inv_structValid _ hi r hr).2.2.2.1, (C04_inv_structValid _ hi r hr).2.2.2.2⟩

/-- The structural hypotheses of the tree-level property theorems, from the invariant
    alone (any forest, however it was reached): `wf` and `kidsSorted` at every node (C07), `UniqueBelow`
    (C10), `UniqueDeclsBelow` of every subtree (C09, C15), `OnlyElementsDeclare` (C15). -/
theorem C04_inv_hypotheses (f : Forest) (hi : f.Inv) :
    ∀ r ∈ f.roots,
      Axes.wf r.erase = true ∧
      (∀ p : Path, Axes.kidsSorted (Axes.subAt r.erase p).kids) ∧
      UniqueBelow r.erase ∧
      (∀ (path : Path) (sub : Tree), r.erase.at? path = some sub → UniqueDeclsBelow sub) ∧
      OnlyElementsDeclare r.erase :=
  fun _ hr => ⟨Reach.wf_root hi hr, Reach.kidsSorted_root hi hr, Reach.uniqueBelow_root hi hr,
    fun _ _ hs => Reach.uniqueDeclsBelow_root hi hr hs, Reach.onlyElementsDeclare_root hi hr⟩

/-- **The structural hypotheses of the tree-level property theorems hold of
    every reachable tree**: `wf` and `kidsSorted` at every node (C07), `UniqueBelow` (C10),
    `UniqueDeclsBelow` of every subtree (C09, C15), `OnlyElementsDeclare` (C15).  (`Tree.valid`,
    `contentLeaves`, `noInnerDocument`: `C13_reachable_valid` in Props/C13.lean.) -/
theorem C04_reachable_hypotheses (env : Env) (cs : List Forest.XCall) (hw : ∀ c ∈ cs, c.wellKinded) :
    ∀ r ∈ ((⟨Forest.init, env⟩ : Store).xrun cs).forest.roots,
      Axes.wf r.erase = true ∧
      (∀ p : Path, Axes.kidsSorted (Axes.subAt r.erase p).kids) ∧
      UniqueBelow r.erase ∧
      (∀ (path : Path) (sub : Tree), r.erase.at? path = some sub → UniqueDeclsBelow sub) ∧
      OnlyElementsDeclare r.erase :=
  C04_inv_hypotheses _ (C04_reach_ext env cs hw)

/-- The same for the histories that PARSE (`IdOp`: the calls of `Op` and
    `Xot::parse` of a tree the parser builds, `C04_reach_parse`): every parentless tree of the store —
    the parsed documents included — is structurally valid at every node, `StructValid` when its root
    is a document node, and satisfies the hypotheses of the tree-level theorems. -/
theorem C04_reachable_parse (ops : List IdOp) (hok : IdStore.init.runOK ops) :
    ∀ r ∈ (IdStore.init.run ops).forest.roots,
      (∀ (p : Path) (v : Value) (ks : List Tree), r.erase.at? p = some (.node v ks) →
        OrderedKids ks ∧
        (v.isLeafKind = true → ks = []) ∧
        (v.isElement = false → ∀ k ∈ ks, k.value.isNormal = true) ∧
        (∀ k ∈ ks, k.value.isDocument = false) ∧
        (attrNames ks).Nodup ∧ (nsPrefixes ks).Nodup ∧
        ((IdStore.init.run ops).forest.everOff = false → noAdjText ks = true)) ∧
      (r.value.isDocument = true → StructValid r.erase) ∧
      Axes.wf r.erase = true ∧
      (∀ p : Path, Axes.kidsSorted (Axes.subAt r.erase p).kids) ∧
      UniqueBelow r.erase ∧
      (∀ (path : Path) (sub : Tree), r.erase.at? path = some sub → UniqueDeclsBelow sub) ∧
      OnlyElementsDeclare r.erase := by
  intro r hr
  have hi := C04_reach_parse ops hok
  exact ⟨C04_inv_structure _ hi r hr, (C04_inv_structValid _ hi r hr).2.2.2.1, C04_inv_hypotheses _ hi r hr⟩

/-- **The C01 domain of a reachable tree is a condition on its VALUES only.**
    While consolidation has never been switched off, for every parentless tree of every reachable
    forest and every interning table `env'`: `RepresentableFragment` / `Representable` (Model/SerTokens.lean)
    hold exactly when the tables are well formed (`envOK`), the root is a document node, every node's
    own value is writable (`valueOK`: names are NCNames, text is non-empty XML characters, …), the
    `xml:id` values are distinct and (for `Representable`) there is exactly one top-level element and no
    top-level text — the structural clauses of `nodeOK` (`OrderedKids`, `KindsOk`, `UniqueKids`, `noAdjText`)
    are discharged by the invariant. -/
theorem C01_reachable_representable (env : Env) (cs : List Forest.XCall) (hw : ∀ c ∈ cs, c.wellKinded)
    (hoff : ((⟨Forest.init, env⟩ : Store).xrun cs).forest.everOff = false) :
    ∀ r ∈ ((⟨Forest.init, env⟩ : Store).xrun cs).forest.roots, ∀ env' : Env,
      RepresentableFragment env' r.erase =
        (envOK env' && r.value.isDocument && r.erase.allNodes (fun v _ => valueOK env' v) &&
          decide (xmlIdValues env' r.erase).Nodup) ∧
      Representable env' r.erase =
        (envOK env' && r.value.isDocument && r.erase.allNodes (fun v _ => valueOK env' v) &&
          decide (xmlIdValues env' r.erase).Nodup && singleRoot r.erase) :=
  fun _ hr env' => Reach.representable_root (C04_reach_ext env cs hw) hoff hr env'

/-- Conversely the trees of the C01 domain are among those the bridge describes: a tree satisfying
    `nodeOK` everywhere (in particular a `RepresentableFragment` tree) is structurally valid and has no
    adjacent text nodes. -/
theorem C01_representable_structural (env' : Env) (t : Tree) (h : RepresentableFragment env' t = true) :
    t.Forall (fun _ ks => OrderedKids ks) ∧ t.Forall KindsOk ∧ t.Forall (fun _ ks => UniqueKids ks) ∧
      NoAdjacentText t := by
  obtain ⟨hs, ha⟩ := Reach.structural_of_allNodes_nodeOK env' t ((representableFragment_iff env' t).mp h).2.2.1
  exact ⟨hs.ordered, hs.kinds, hs.unique, ha⟩

/-! ### Non-vacuity: the 16-step history `xhCalls` above

  It IS the closed history of Lemmas/ReachHist.lean (`Reach.exCalls`, whose final forest is the one tree
  `Reach.exRoot` = `<e xmlns:p=".." xmlns:n0=".."><e xmlns:n0="..">x</e></e>`; consolidation never off).  The
  theorems instantiated at it, and their conclusions evaluated. -/

theorem exCalls_everOff : ((⟨Forest.init, Reach.exEnv⟩ : Store).xrun Reach.exCalls).forest.everOff = false := by
  decide +kernel

example : xhCalls = Reach.exCalls ∧ xhEnv = Reach.exEnv ∧ xhStore = ⟨Forest.init, Reach.exEnv⟩ := ⟨rfl, rfl, rfl⟩
example : (xhStore.xrun xhCalls).forest.roots = [Reach.exRoot] ∧ (xhStore.xrun xhCalls).forest.everOff = false := by
  rw [show xhCalls = Reach.exCalls from rfl, show xhStore = ⟨Forest.init, Reach.exEnv⟩ from rfl]
  exact ⟨Reach.exRoots, exCalls_everOff⟩
example : Reach.exRoot.erase.at? [2] =
    some (.node (.element 1) [.node (.namespace 3 3) [], .node (.text ['x']) []]) := by decide +kernel
example : OrderedKids [Tree.node (.namespace 3 3) [], .node (.text ['x']) []] ∧
    (nsPrefixes [Tree.node (.namespace 3 3) [], .node (.text ['x']) []]).Nodup :=
  let h := (C04_reachable_structure Reach.exEnv Reach.exCalls Reach.exCalls_wellKinded Reach.exRoot Reach.exRoot_mem).1
    [2] (.element 1) _ (by decide +kernel)
  ⟨h.1, h.2.2.2.2.2.1⟩
example : Axes.wf Reach.exRoot.erase = true ∧ UniqueBelow Reach.exRoot.erase ∧ OnlyElementsDeclare Reach.exRoot.erase :=
  let h := C04_reachable_hypotheses Reach.exEnv Reach.exCalls Reach.exCalls_wellKinded Reach.exRoot Reach.exRoot_mem
  ⟨h.1, h.2.2.1, h.2.2.2.2⟩
/-- The parsing history `idOps` above (`new_element`, then `parse` of a document with two `xml:id`s): its
    parsed document is `StructValid`, by `C04_reachable_parse`. -/
example : ∀ r ∈ (IdStore.init.run idOps).forest.roots, r.value.isDocument = true → StructValid r.erase :=
  fun r hr => (C04_reachable_parse idOps ⟨trivial, (by show validTree _ _ = true; decide +kernel), trivial⟩ r hr).2.1
example : ((IdStore.init.run idOps).forest.roots.map (fun r => r.value.isDocument)) = [false, true] := by
  decide +kernel
/-- The root of `Reach.exRoot` is an element, not a document: it is outside the C01 domain for that reason
    alone (`C01_reachable_representable` evaluates the right-hand side). -/
example : RepresentableFragment Reach.exEnv Reach.exRoot.erase = false := by
  rw [(C01_reachable_representable Reach.exEnv Reach.exCalls Reach.exCalls_wellKinded exCalls_everOff
    Reach.exRoot Reach.exRoot_mem Reach.exEnv).1]
  decide +kernel
/-- A history that builds a document: `<!--c--><e a="v">x</e>` under a document node; the tree is
    `StructValid`, and inside the C01 domain exactly when the values are (here: the tables are `envOK`,
    every value is writable). -/
def reachDocCalls : List Forest.XCall :=
  [.newNode .document, .newNode (.element 0), .newNode (.text ['x']), .newNode (.comment ['c']),
   .call (.append 0 3), .call (.append 0 1), .call (.append 1 2),
   .call (.mapInsert .attributes 1 (.attribute 2 ['v']))]
def reachDocEnv : Env :=
  { namespaces := [[], xmlNamespaceUri], prefixes := [[], ['x','m','l']],
    names := [(['e'], 0), (['i','d'], 1), (['a'], 0)] }
def reachDocRoot : HTree :=
  .node 0 .document [.node 3 (.comment ['c']) [],
    .node 1 (.element 0) [.node 4 (.attribute 2 ['v']) [], .node 2 (.text ['x']) []]]
theorem reachDocCalls_wellKinded : ∀ c ∈ reachDocCalls, c.wellKinded := by decide +kernel
theorem reachDocRoot_mem :
    reachDocRoot ∈ ((⟨Forest.init, reachDocEnv⟩ : Store).xrun reachDocCalls).forest.roots := by
  have : ((⟨Forest.init, reachDocEnv⟩ : Store).xrun reachDocCalls).forest.roots = [reachDocRoot] := by
    decide +kernel
  rw [this]; exact List.mem_singleton.mpr rfl
example : StructValid reachDocRoot.erase :=
  (C04_reachable_structure reachDocEnv reachDocCalls reachDocCalls_wellKinded reachDocRoot reachDocRoot_mem).2.1 rfl
example : Representable reachDocEnv reachDocRoot.erase = true := by
  rw [(C01_reachable_representable reachDocEnv reachDocCalls reachDocCalls_wellKinded (by decide +kernel)
    reachDocRoot reachDocRoot_mem reachDocEnv).2]
  decide +kernel
/-- … its names are writable and it serialises to the text below; that `parse` gives the tree back is
    `C01_reachable_roundtrip` (Props/C01.lean) instantiated at this history. -/
example : namesWritable reachDocEnv reachDocRoot.erase [] = some true ∧
    toXmlString reachDocEnv reachDocRoot.erase [] = .ok "<!--c--><e a=\"v\">x</e>".toList := by
  rw [String.toList_ofList]
  decide +kernel

end XotModel.Props

/-! ## Full histories: one history type for `parse` and every API call

  The commonest use of the crate is: parse a text, edit the tree through the API, serialise.  The sections
  above have the extended API histories (`Forest.XCall` on a `Store`: `C04_reach_ext`) and,
  separately, the parser histories (`IdOp` on an `IdStore`: `C04_reach_parse`, whose parse step names the
  TREE the builder would return and ASSUMES it valid, `IdStore.parseOK`).  Model/FparseHist.lean has one type
  for both: `PCall` = an extended API call, or `parse mode text` — the text goes through the reference
  tokenizer and the builder (`parseString`) on the interning tables of the store, an accepted tree is
  installed with `IdStore.parseInto` (fresh handles in creation order, the xml:id index of the new document
  node), a rejected one installs nothing (forest and index as they were; the tables keep what the builder
  interned before the error).  The state `PStore` = forest + interning tables + xml:id index.

  `IdStore.parseOK` is a THEOREM (`C04_parsed_valid`): `C03_sound`'s node-by-node facts about every
  accepted tree (`SoundAt`, Lemmas/ParseSound.lean) are exactly the local clauses of `validTree` — the
  converse of the bridge of Lemmas/ReachNode.lean (Lemmas/FparseHistStep.lean).  Hence `C04_reach_full`:
  the invariant after EVERY history of parses (of any text, accepted or not, in either mode) and
  well-kinded API calls, and with it every structural hypothesis of the tree-level theorems for every
  parentless tree of every such store — parsed documents, edited documents, fragments built by hand. -/

namespace XotModel.Props
open XotModel

/-- **The hypothesis `IdStore.parseOK` of `C04_parse_inv` / `C04_reach_parse` holds of
    every tree the parser returns**, for every text, both modes, every vocabulary, every store it is
    parsed into: numbered in creation order from the store's next handle it is `validTree`, strictly (no
    adjacent text nodes, whatever `everOff` says). -/
theorem C04_parsed_valid (s : IdStore) (m : Mode) (env : Env) (text : Str) (p : Parsed)
    (h : parseString m env text = .ok p) : s.parseOK p.tree := fph_parseOK_build s h

/-- … from any token list, not only the reference tokenizer's. -/
theorem C04_built_valid (s : IdStore) (m : Mode) (len : Nat) (env : Env) (ts : List Token) (lexErr : Option Nat)
    (p : Parsed) (h : build m len env ts lexErr = .ok p) : s.parseOK p.tree := fph_parseOK_build s h

/-- The converse of the bridge `C04_inv_structValid`: a handle tree whose ERASURE is ordered, respects the
    kind rules, has unique attribute names and prefixes per node and no adjacent text nodes is valid. -/
theorem C04_valid_of_structure (b : Bool) (r : HTree)
    (h : r.erase.Forall (fun v ks => OrderedKids ks ∧ KindsOk v ks ∧ noAdjText ks = true ∧ UniqueKids ks)) :
    validTree b r = true := fph_validTree_of_erase b r h

/-- One step — an extended API call with arbitrary arguments, or the parse of ANY text —
    preserves the invariant, whatever it answers. -/
theorem C04_step_full (s : PStore) (c : PCall) (hi : s.forest.Inv) (hw : c.wellKinded) :
    (s.step c).forest.Inv := PStore.fph_step_inv hi c hw

theorem C04_reach_full_from (s : PStore) (hi : s.forest.Inv) (cs : List PCall) (hw : ∀ c ∈ cs, c.wellKinded) :
    (s.run cs).forest.Inv := PStore.fph_run_inv cs hi hw

/-- **Every store reachable from `Xot::new()` by any history of parses and API calls** —
    `parse` / `parse_fragment` of arbitrary texts (accepted or rejected), the calls of `Forest.Call`, node
    creation, set_text_consolidation, remove_insignificant_whitespace, create_missing_prefixes,
    deduplicate_namespaces, clone_with_prefixes, in any order, with arbitrary arguments, for every
    vocabulary `env` the store starts with and whatever the steps answer — **satisfies the invariant**;
    and keys and entries of its xml:id index are handles that were handed out (no dangling key can
    appear later: handles are never re-used, `C04_step_le_full`). -/
theorem C04_reach_full (env : Env) (cs : List PCall) (hw : ∀ c ∈ cs, c.wellKinded) :
    ((PStore.init env).run cs).forest.Inv ∧
    (∀ e ∈ ((PStore.init env).run cs).index,
      e.1.1 < ((PStore.init env).run cs).forest.next ∧ e.2 < ((PStore.init env).run cs).forest.next) :=
  ⟨PStore.fph_run_inv cs (PStore.fph_init_inv env) hw, PStore.fph_indexBelow_run cs (PStore.fph_indexBelow_init env)⟩

theorem C04_reach_full_bool (env : Env) (cs : List PCall) (hw : ∀ c ∈ cs, c.wellKinded) :
    ((PStore.init env).run cs).forest.inv = true := (Forest.inv_iff _).mpr (C04_reach_full env cs hw).1

/-- The index invariant of `C04_xml_id_wf` — moreover the KEYS (document, ID value)
    are unique — along every history whose parses run on well-formed interning tables (`envOK`: true of
    `Xot::new()`, kept by every accepted parse, `C04_parse_keeps_tables`).  The test
    `(Tree.idValues t).Nodup` that `IdStore.parse` carries as a stand-in for the builder's `DuplicateId` is
    a theorem there (`C04_parse_no_duplicate_id`). -/
theorem C04_reach_full_index (env : Env) (cs : List PCall) (hok : (PStore.init env).parsesOnOKTables cs) :
    ((PStore.init env).run cs).idStore.Wf := PStore.fph_wf_run cs (PStore.fph_wf_init env) hok

theorem C04_parse_no_duplicate_id (m : Mode) (env : Env) (text : Str) (p : Parsed) (henv : envOK env = true)
    (h : parseString m env text = .ok p) : (Tree.idValues p.tree).Nodup := fph_accepted_idValues_nodup henv h

theorem C04_parse_keeps_tables (m : Mode) (env : Env) (text : Str) (p : Parsed) (henv : envOK env = true)
    (h : parseString m env text = .ok p) : envOK p.env = true := fph_accepted_envOK henv h

/-- "Parse one text, then edit": only the tables of the start state matter. -/
theorem C04_parse_then_edit_tables (env : Env) (henv : envOK env = true) (m : Mode) (text : Str)
    (cs : List Forest.XCall) : (PStore.init env).parsesOnOKTables (.parse m text :: cs.map .api) :=
  PStore.fph_parsesOnOKTables_parse_then_api (PStore.init env) henv m text cs

/-- An extended API call only appends to the PREFIX table (`create_missing_prefixes`; every other call
    leaves the tables alone), for all stores and arguments: well-formed tables stay well formed. -/
theorem C04_api_keeps_tables (s : Store) (c : Forest.XCall) :
    Repair.PrefixExt s.env (c.run s).1.env ∧ (envOK s.env = true → envOK (c.run s).1.env = true) :=
  ⟨Forest.fpht_xcall_ext s c, fun h => Repair.envOK_ext (Forest.fpht_xcall_ext s c) h⟩

/-- From well-formed tables (`Xot::new()`), along every history in which no
    parse is REJECTED (`PStore.noRejected`; any API calls, `create_missing_prefixes` included): the index
    invariant with unique keys, and the tables are well formed at the end. -/
theorem C04_reach_full_index_accepted (env : Env) (henv : envOK env = true) (cs : List PCall)
    (hacc : (PStore.init env).noRejected cs) :
    ((PStore.init env).run cs).idStore.Wf ∧ envOK ((PStore.init env).run cs).env = true := by
  have h := PStore.fpht_parsesOnOKTables_of_noRejected cs (PStore.init env) henv hacc
  exact ⟨C04_reach_full_index env cs h.1, h.2⟩

/-- The other two history types are sub-histories: a history of API calls only is the
    extended history of `Store.xrun` (index untouched); a call of `IdOp` is the step `PCall.ofOp`; the parse
    of a text accepted on well-formed tables is the step `IdOp.parse` of its tree (`IdStore.parseInto`), and
    leaves the builder's tables. -/
theorem C04_full_embeds (s : PStore) :
    (∀ cs : List Forest.XCall, (s.run (cs.map .api)).store = s.store.xrun cs ∧ (s.run (cs.map .api)).index = s.index) ∧
    (∀ o : Op, (s.step (.ofOp o)).idStore = s.idStore.step (.call o)) ∧
    (∀ m text p, envOK s.env = true → parseString m s.env text = .ok p →
      (s.step (.parse m text)).idStore = s.idStore.step (.parse p.tree) ∧ (s.step (.parse m text)).env = p.env ∧
      ((PCall.parse m text).run s).2 = .parsed s.forest.next) :=
  ⟨fun cs => PStore.fph_run_api cs s, fun o => PStore.fph_idStore_step_ofOp s o,
   fun m text p henv h => ⟨PStore.fph_idStore_step_parse_ok s henv h, by rw [PStore.fph_step_parse_ok s h],
     by rw [PStore.fph_run_parse_ok s h]; rfl⟩⟩

/-- Handles are never re-used along full histories, hence a removed handle stays removed. -/
theorem C04_step_le_full (s : PStore) (c : PCall) : Forest.Le s.forest (s.step c).forest := PStore.fph_step_le s c

theorem C04_isRemoved_history_full (s : PStore) (cs : List PCall) (h : Nat)
    (hr : s.forest.isRemoved h = true) : (s.run cs).forest.isRemoved h = true :=
  Forest.isRemoved_mono (PStore.fph_run_le cs s) hr

/-- `xml_id_node` along full histories ("no accessor ever hands out a removed node"): what
    it answers is live; the entry of an existing document is never rewritten; as long as the element is
    not removed the answer stays, whatever is called or parsed; once it is removed the answer is `none`
    for ever. -/
theorem C04_xml_id_full (env : Env) (pre : List PCall) (doc h : Nat) (v : Str)
    (hx : ((PStore.init env).run pre).xmlIdNode doc v = some h) :
    ((PStore.init env).run pre).forest.isLive h = true ∧
    ∀ cs : List PCall,
      (((PStore.init env).run pre).run cs).idStore.lookup doc v = ((PStore.init env).run pre).idStore.lookup doc v ∧
      ((((PStore.init env).run pre).run cs).forest.isRemoved h = false →
        (((PStore.init env).run pre).run cs).xmlIdNode doc v = some h) ∧
      ((((PStore.init env).run pre).run cs).forest.isRemoved h = true →
        ∀ more : List PCall, ((((PStore.init env).run pre).run cs).run more).xmlIdNode doc v = none) := by
  have hw := PStore.fph_indexBelow_run pre (PStore.fph_indexBelow_init env)
  have hl := (IdStore.xmlIdNode_eq_some_iff _ doc v h).mp hx
  refine ⟨hl.2, fun cs => ⟨?_, PStore.fph_xmlIdNode_stable _ hw cs doc h v hx⟩⟩
  exact PStore.fph_lookup_run cs _ doc v (hw _ (lookup_mem hl.1)).1

/-- **Every tree of every store a full history reaches is structurally
    valid**, at every node — the parsed documents, whatever was done to them afterwards, included. -/
theorem C04_reachable_structure_full (env : Env) (cs : List PCall) (hw : ∀ c ∈ cs, c.wellKinded) :
    ∀ r ∈ ((PStore.init env).run cs).forest.roots,
      (∀ (p : Path) (v : Value) (ks : List Tree), r.erase.at? p = some (.node v ks) →
        OrderedKids ks ∧
        (v.isLeafKind = true → ks = []) ∧
        (v.isElement = false → ∀ k ∈ ks, k.value.isNormal = true) ∧
        (∀ k ∈ ks, k.value.isDocument = false) ∧
        (attrNames ks).Nodup ∧ (nsPrefixes ks).Nodup ∧
        (((PStore.init env).run cs).forest.everOff = false → noAdjText ks = true)) ∧
      (r.value.isDocument = true → StructValid r.erase) ∧
      (((PStore.init env).run cs).forest.everOff = false → NoAdjacentText r.erase) := by
  intro r hr
  have hi := (C04_reach_full env cs hw).1
  exact ⟨C04_inv_structure _ hi r hr, (C04_inv_structValid _ hi r hr).2.2.2.1, (C04_inv_structValid _ hi r hr).2.2.2.2⟩

/-- **The structural hypotheses of the tree-level property theorems hold of
    every root of every store a full history reaches**: `wf` and `kidsSorted` at every node (C07),
    `UniqueBelow` (C10), `UniqueDeclsBelow` of every subtree (C09, C15), `OnlyElementsDeclare` (C15). -/
theorem C04_reachable_hypotheses_full (env : Env) (cs : List PCall) (hw : ∀ c ∈ cs, c.wellKinded) :
    ∀ r ∈ ((PStore.init env).run cs).forest.roots,
      Axes.wf r.erase = true ∧
      (∀ p : Path, Axes.kidsSorted (Axes.subAt r.erase p).kids) ∧
      UniqueBelow r.erase ∧
      (∀ (path : Path) (sub : Tree), r.erase.at? path = some sub → UniqueDeclsBelow sub) ∧
      OnlyElementsDeclare r.erase :=
  C04_inv_hypotheses _ (C04_reach_full env cs hw).1

/-- The C01 domain of a tree of such a store is a condition on its
    VALUES only (while consolidation has never been switched off). -/
theorem C01_reachable_representable_full (env : Env) (cs : List PCall) (hw : ∀ c ∈ cs, c.wellKinded)
    (hoff : ((PStore.init env).run cs).forest.everOff = false) :
    ∀ r ∈ ((PStore.init env).run cs).forest.roots, ∀ env' : Env,
      RepresentableFragment env' r.erase =
        (envOK env' && r.value.isDocument && r.erase.allNodes (fun v _ => valueOK env' v) &&
          decide (xmlIdValues env' r.erase).Nodup) ∧
      Representable env' r.erase =
        (envOK env' && r.value.isDocument && r.erase.allNodes (fun v _ => valueOK env' v) &&
          decide (xmlIdValues env' r.erase).Nodup && singleRoot r.erase) :=
  fun _ hr env' => Reach.representable_root (C04_reach_full env cs hw).1 hoff hr env'

/-! ### Non-vacuity: parse `<r xmlns:p="urn:a"><p:a>t</p:a></r>` into `Xot::new()`, then edit

  `fullText` is accepted from the tables of `Xot::new()` (`Env.fresh`): document 0, `r` = 1 (name 2), its
  declaration `xmlns:p` = 2, `p:a` = 3 (name 3 in namespace 2), the text 4.  `fullCalls` then creates a new
  element `{urn:a}a` (handle 5), appends it to `r`, gives it the attribute `p:a="v"` (handle 6) and calls
  `create_missing_prefixes` on the document; `fullCallsB` first REMOVES the declaration of `p`
  (`namespaces_mut(r).remove(p)`), so that the repair has to invent `n0` (handle 7, prefix id 3).  A rejected
  text in between (`<a><b></a>`) changes neither forest nor index, but leaves the names `a`, `b` in the
  tables. -/

def fullText : Str := "<r xmlns:p=\"urn:a\"><p:a>t</p:a></r>".toList
def fullCalls : List PCall :=
  [.parse .document fullText, .api (.newNode (.element 3)), .api (.call (.append 1 5)),
   .api (.call (.mapInsert .attributes 5 (.attribute 3 ['v']))), .api (.createMissingPrefixes 0)]
def fullCallsB : List PCall :=
  [.parse .document fullText, .api (.call (.mapRemove .namespaces 1 2)), .api (.newNode (.element 3)),
   .api (.call (.append 1 5)), .api (.call (.mapInsert .attributes 5 (.attribute 3 ['v']))),
   .parse .document "<a><b></a>".toList, .api (.createMissingPrefixes 0)]
def fullRoot : HTree :=
  .node 0 .document [.node 1 (.element 2) [.node 2 (.namespace 2 2) [],
    .node 3 (.element 3) [.node 4 (.text ['t']) []],
    .node 5 (.element 3) [.node 6 (.attribute 3 ['v']) []]]]
def fullRootB : HTree :=
  .node 0 .document [.node 1 (.element 2) [.node 7 (.namespace 3 2) [],
    .node 3 (.element 3) [.node 4 (.text ['t']) []],
    .node 5 (.element 3) [.node 6 (.attribute 3 ['v']) []]]]

theorem fullCalls_wellKinded : ∀ c ∈ fullCalls, c.wellKinded := by decide +kernel
theorem fullCallsB_wellKinded : ∀ c ∈ fullCallsB, c.wellKinded := by decide +kernel

/-- The stores that the parse of `fullText`, `fullCalls` and `fullCallsB` reach, written out; the closed facts about
    histories that begin with this parse are evaluated on these. -/
def fullEnv : Env :=
  { namespaces := [[], xmlNamespaceUri, ['u','r','n',':','a']], prefixes := [[], ['x','m','l'], ['p']],
    names := [(['s','p','a','c','e'], 1), (['i','d'], 1), (['r'], 0), (['a'], 2)] }
def fullParsed : PStore :=
  { forest := { roots := [.node 0 .document [.node 1 (.element 2) [.node 2 (.namespace 2 2) [],
      .node 3 (.element 3) [.node 4 (.text ['t']) []]]]], next := 5 }, env := fullEnv }
def fullStore : PStore := { forest := { roots := [fullRoot], next := 7 }, env := fullEnv }
def fullStoreB : PStore :=
  { forest := { roots := [fullRootB], next := 8 },
    env := { fullEnv with prefixes := fullEnv.prefixes ++ [['n','0']], names := fullEnv.names ++ [(['a'], 0), (['b'], 0)] } }
theorem run_fullText (cs : List PCall) :
    (PStore.init Env.fresh).run (.parse .document fullText :: cs) = fullParsed.run cs :=
  congrArg (PStore.run · cs)
    (PStore.ext_fields (by unfold fullText; rw [String.toList_ofList]; decide +kernel) :
      (PStore.init Env.fresh).step (.parse .document fullText) = fullParsed)
theorem fullRun_eq : (PStore.init Env.fresh).run fullCalls = fullStore :=
  PStore.ext_fields (by unfold fullCalls; rw [run_fullText]; decide +kernel)
/-- `fullCallsB` before its last step, the repair: the declaration of `p` is gone, the rejected text has left its
    names. -/
def fullStoreBPre : PStore :=
  { forest := { roots := [.node 0 .document [.node 1 (.element 2) [.node 3 (.element 3) [.node 4 (.text ['t']) []],
      .node 5 (.element 3) [.node 6 (.attribute 3 ['v']) []]]]], next := 7 },
    env := { fullEnv with names := fullEnv.names ++ [(['a'], 0), (['b'], 0)] } }
theorem fullRunBPre_eq : (PStore.init Env.fresh).run fullCallsB.dropLast = fullStoreBPre :=
  PStore.ext_fields (by
    rw [show fullCallsB.dropLast = .parse .document fullText :: _ from rfl, run_fullText, String.toList_ofList]
    decide +kernel)
theorem fullRunB_eq : (PStore.init Env.fresh).run fullCallsB = fullStoreB :=
  PStore.ext_fields (by
    rw [show fullCallsB = fullCallsB.dropLast ++ [.api (.createMissingPrefixes 0)] from rfl,
      PStore.fph_run_append, fullRunBPre_eq]
    decide +kernel)

theorem fullRoots : ((PStore.init Env.fresh).run fullCalls).forest.roots = [fullRoot] := by rw [fullRun_eq]; rfl
theorem fullRootsB : ((PStore.init Env.fresh).run fullCallsB).forest.roots = [fullRootB] := by rw [fullRunB_eq]; rfl
theorem fullRoot_mem : fullRoot ∈ ((PStore.init Env.fresh).run fullCalls).forest.roots := by
  rw [fullRoots]; exact List.mem_singleton.mpr rfl
theorem fullRootB_mem : fullRootB ∈ ((PStore.init Env.fresh).run fullCallsB).forest.roots := by
  rw [fullRootsB]; exact List.mem_singleton.mpr rfl

example : ((PStore.init Env.fresh).run fullCalls).forest.inv = true := C04_reach_full_bool _ _ fullCalls_wellKinded
example : ((PStore.init Env.fresh).run fullCallsB).forest.inv = true ∧
    ((PStore.init Env.fresh).run fullCallsB).env.prefixes = [[], ['x', 'm', 'l'], ['p'], ['n', '0']] ∧
    ((PStore.init Env.fresh).run fullCallsB).env.names =
      [(['s', 'p', 'a', 'c', 'e'], 1), (['i', 'd'], 1), (['r'], 0), (['a'], 2), (['a'], 0), (['b'], 0)] := by
  refine ⟨C04_reach_full_bool _ _ fullCallsB_wellKinded, ?_⟩
  rw [fullRunB_eq]
  exact ⟨rfl, rfl⟩
example : StructValid fullRootB.erase :=
  (C04_reachable_structure_full Env.fresh fullCallsB fullCallsB_wellKinded fullRootB fullRootB_mem).2.1 rfl
example : Axes.wf fullRootB.erase = true ∧ UniqueBelow fullRootB.erase ∧ OnlyElementsDeclare fullRootB.erase :=
  let h := C04_reachable_hypotheses_full Env.fresh fullCallsB fullCallsB_wellKinded fullRootB fullRootB_mem
  ⟨h.1, h.2.2.1, h.2.2.2.2⟩
example : (PStore.init Env.fresh).parsesOnOKTables fullCalls := by
  have h : fullCalls = .parse .document fullText :: ([.newNode (.element 3), .call (.append 1 5),
    .call (.mapInsert .attributes 5 (.attribute 3 ['v'])), .createMissingPrefixes 0] : List Forest.XCall).map .api := rfl
  rw [h]
  exact C04_parse_then_edit_tables Env.fresh (by decide +kernel) .document fullText _
/-- A parsed document with an ID: `xml_id_node` finds the element, and no longer after its removal. -/
example :
    let s := (PStore.init Env.fresh).run [.parse .document "<r><e xml:id=\"i\"/></r>".toList]
    s.xmlIdNode 0 ['i'] = some 2 ∧ (s.run [.api (.call (.remove 2)), .api (.newNode (.element 2))]).xmlIdNode 0 ['i'] = none := by
  rw [String.toList_ofList]
  decide +kernel

end XotModel.Props


/-! ## Which text nodes a composite call extends

  `C04_value_call` says of every call: a node that is not a target keeps its value, except that a text node may
  have been extended.  For the moves `C04_value_exact_*` name the handles this can happen to.  The same for the
  composite calls (Lemmas/FinvExact.lean: the relation `Forest.VStep` with `T` = membership in an explicit
  list, threaded through the steps the call consists of; every forest with the invariant, every argument, every
  outcome):

    replace(a, b)                     `Forest.replaceSites f a b`: `b` next to `a` - the call is `remove(a)` -: the previous
                                      sibling of `a`.  Otherwise, with the subtree `a` taken out, the sites of the move of
                                      `b` into the hole (`insert_after` the previous sibling `p` of `a`: the previous sibling
                                      of `b`, the node `b` arrives behind, the node behind that, read after `b`'s old-site
                                      merge; `prepend` when `a` was the first child), and the node standing before `a`'s
                                      former next sibling after that move (the final `remove_consolidate_text_nodes`);
    element_unwrap(n)                 `Forest.unwrapSites f n`: the node standing before the wrapper (it absorbs the
                                      wrapper's first normal child, and the wrapper's right neighbour as well when that
                                      child was the only one) and the wrapper's last child (it absorbs the right neighbour);
                                      a wrapper without children: the call is `remove(n)`, the previous sibling of `n`;
    remove_insignificant_whitespace   none: it only removes (consolidation is off around the loop);
    map insert                        none: only the existing entry node of the key (the target) is rewritten.

  What a site changes to is the value it has in the forest the C05 pair specification gives for the call
  (`C05_pair_replace`: `specReplaceP a b f`, `C05_pair_unwrap`: `specUnwrapP n f`, Props/C05.lean): `mergeAdj` /
  `mergeNew3` write `old ++ absorbed` into the surviving earlier node; here: the old content is a contiguous part
  of the new one (`C04_replace_site_extended`, `C04_unwrap_site_extended`). -/

namespace XotModel.Props
open XotModel

/-- `replace(a, b)`, any arguments, any outcome: a handle live before and after that is
    not in `replaceSites f a b` has exactly its old value - text nodes included. -/
theorem C04_replace_extended_texts (f : Forest) (hi : f.Inv) (a b x : Nat) (v v' : Value)
    (hv : f.value? x = some v) (hv' : (f.replace a b).1.value? x = some v')
    (hx : x ∉ f.replaceSites a b) : v' = v := Forest.replace_value_exact hi a b hv hv' hx

/-- … and a site is extended, not overwritten: same value, or text whose old content is a contiguous part of the
    new one. -/
theorem C04_replace_site_extended (f : Forest) (hi : f.Inv) (a b x : Nat) (v v' : Value)
    (hv : f.value? x = some v) (hv' : (f.replace a b).1.value? x = some v') :
    v' = v ∨ (x ∈ f.replaceSites a b ∧ Forest.TextExt v v') :=
  (Forest.vstep_replace_sites (S := fun _ => False) f a b).site hi hv hv'

/-- `element_unwrap(n)`: only the node before the wrapper and the wrapper's last child
    (`unwrapSites f n`) can change; every other surviving handle has exactly its old value. -/
theorem C04_unwrap_extended_texts (f : Forest) (hi : f.Inv) (n x : Nat) (v v' : Value)
    (hv : f.value? x = some v) (hv' : (f.elementUnwrap n).1.value? x = some v')
    (hx : x ∉ f.unwrapSites n) : v' = v := Forest.elementUnwrap_value_exact hi n hv hv' hx

theorem C04_unwrap_site_extended (f : Forest) (hi : f.Inv) (n x : Nat) (v v' : Value)
    (hv : f.value? x = some v) (hv' : (f.elementUnwrap n).1.value? x = some v') :
    v' = v ∨ (x ∈ f.unwrapSites n ∧ Forest.TextExt v v') :=
  (Forest.vstep_elementUnwrap_sites (S := fun _ => False) f n).site hi hv hv'

/-- `remove_insignificant_whitespace` extends NO text node: every surviving handle has
    exactly its old value. -/
theorem C04_strip_extended_texts (f : Forest) (hi : f.Inv) (node x : Nat) (v v' : Value)
    (hv : f.value? x = some v) (hv' : (f.removeInsignificantWhitespace node).value? x = some v') : v' = v :=
  Forest.strip_value_exact hi node hv hv'

/-- A map insertion (attribute or namespace view) extends no text node: every handle
    other than the existing entry node of the key has exactly its old value. -/
theorem C04_mapInsert_extended_texts (f : Forest) (hi : f.Inv) (k : Forest.MapKind) (e : Nat) (entry : Value)
    (x : Nat) (v v' : Value) (hv : f.value? x = some v) (hv' : (f.mapInsert k e entry).1.value? x = some v')
    (hx : ∀ n, f.mapGetNode k e (Forest.entryKey entry) = some n → n.handle ≠ x) : v' = v :=
  Forest.mapInsert_value_exact hi k e entry hv hv' hx

/-- Non-vacuity on `<e>w x <u>i j<k/>m</u> y z <v/></e>` (handles 0; 1, 2; 3; 4, 5, 6, 7; 8, 9; 10; adjacent text
    nodes present), a parentless text `r` (11): `element_unwrap(u)` has the sites `x` (2) and `m` (7), which become
    `xi` and `my`; `w`, `j`, `z` keep their content.  `replace(u, r)`: the site `x` becomes `xry` (three-way), `w` and
    `z` stay; `replace(v, r)`: the site `z` becomes `zr`. -/
def compWitness : Forest :=
  { roots := [.node 0 (.element 2) [.node 1 (.text ['w']) [], .node 2 (.text ['x']) [],
        .node 3 (.element 3) [.node 4 (.text ['i']) [], .node 5 (.text ['j']) [], .node 6 (.element 6) [],
          .node 7 (.text ['m']) []],
        .node 8 (.text ['y']) [], .node 9 (.text ['z']) [], .node 10 (.element 6) []], .node 11 (.text ['r']) []],
    next := 12, consolidation := true, everOff := true }
example : compWitness.Inv := (Forest.inv_iff _).mp (by decide +kernel)
example : compWitness.unwrapSites 3 = [2, 7] ∧
    (compWitness.elementUnwrap 3).1.value? 2 = some (.text ['x', 'i']) ∧
    (compWitness.elementUnwrap 3).1.value? 7 = some (.text ['m', 'y']) ∧
    (compWitness.elementUnwrap 3).1.value? 1 = some (.text ['w']) ∧
    (compWitness.elementUnwrap 3).1.value? 5 = some (.text ['j']) ∧
    (compWitness.elementUnwrap 3).1.value? 9 = some (.text ['z']) := by decide +kernel
example : compWitness.replaceSites 3 11 = [2, 8, 2] ∧
    (compWitness.replace 3 11).1.value? 2 = some (.text ['x', 'r', 'y']) ∧
    (compWitness.replace 3 11).1.isLive 8 = false ∧
    (compWitness.replace 3 11).1.value? 1 = some (.text ['w']) ∧
    (compWitness.replace 3 11).1.value? 9 = some (.text ['z']) ∧
    compWitness.replaceSites 10 11 = [9] ∧
    (compWitness.replace 10 11).1.value? 9 = some (.text ['z', 'r']) ∧
    (compWitness.replace 10 11).1.value? 8 = some (.text ['y']) := by decide +kernel
example : (compWitness.removeInsignificantWhitespace 0).value? 2 = some (.text ['x']) ∧
    ((compWitness.mapInsert .attributes 0 (.attribute 7 ['v'])).1.value? 2 = some (.text ['x'])) := by
  decide +kernel

end XotModel.Props

/-! ## The calls that extend no text node: element_wrap, map remove, map clear

  `element_wrap`, map `remove` and map `clear` extend no text node (the wrapper and the entry nodes are not text, so
  nothing is merged).  The `VStep` lemmas behind the section above do not give this (`vstep_insertAfter` demands the
  site of the reference node whatever the inserted node is; `vstep_remove` the previous sibling of the removed
  node).  The proofs (Lemmas/FinvEditHV.lean) rest on a predicate-valued containment lemma for the (handle, value)
  pairs under the one-site edit `Forest.editAt` (`Forest.hvList_editAt_sub`: if the list function adds only pairs
  satisfying `P`, so does the edit); "every pair afterwards is an old pair, or carries the fresh handle" is then read
  off the C05 specifications (`specWrap`: `C05_pair_wrap`; `specMapRemove`: `C05_map_remove`) and off the map step
  of C11 (`clear`: the child list of the element without the view's entries). -/

namespace XotModel.Props
open XotModel

/-- An ACCEPTED `element_wrap(n, name)` extends no text node: every handle live before
    and after has exactly its old value (the one new pair is the wrapper, handle `f.next`).  (A call refused by one
    of the three guards returns the forest unchanged.) -/
theorem C04_wrap_extended_texts (f : Forest) (hi : f.Inv) (n name x : Nat) (v v' : Value)
    (hok : (f.elementWrap n name).2.1 = .ok)
    (hv : f.value? x = some v) (hv' : (f.elementWrap n name).1.value? x = some v') : v' = v :=
  Forest.elementWrap_value_exact hi n name hok hv hv'

/-- Map `remove(key)` (attribute or namespace view), any arguments, any outcome:
    every surviving handle has exactly its old value. -/
theorem C04_mapRemove_extended_texts (f : Forest) (hi : f.Inv) (k : Forest.MapKind) (e key x : Nat) (v v' : Value)
    (hv : f.value? x = some v) (hv' : (f.mapRemove k e key).1.value? x = some v') : v' = v :=
  Forest.mapRemove_value_exact hi k e key hv hv'

/-- Map `clear()`, any arguments, any outcome: every surviving handle has exactly
    its old value. -/
theorem C04_mapClear_extended_texts (f : Forest) (hi : f.Inv) (k : Forest.MapKind) (e x : Nat) (v v' : Value)
    (hv : f.value? x = some v) (hv' : (f.mapClear k e).1.value? x = some v') : v' = v :=
  Forest.mapClear_value_exact hi k e hv hv'

/-- The containment lemma the three rest on, as a statement of its own: an edit of one site (`s = none`: the list
    of parentless trees) whose list function adds only pairs satisfying `P` adds only such pairs. -/
theorem C04_editAt_pairs (P : Nat × Value → Prop) (f : Forest) (s : Option Nat) (g : List HTree → List HTree)
    (hg : ∀ L, ∀ p ∈ hvList (g L), p ∈ hvList L ∨ P p) :
    ∀ p ∈ hvList (f.editAt s g).roots, p ∈ hvList f.roots ∨ P p :=
  Forest.hvList_editAt_sub P f s g hg

/-- Non-vacuity on `<e xmlns:p=".." a=".." b="..">x y<u/>z</e>` (handles 0; 1; 2, 3; 4, 5; 6; 7; adjacent text
    nodes `x`, `y`): wrapping `y` (between two text nodes and an element) is accepted and returns handle 8, `x`, `y`,
    `z` keep their content; removing the attribute `b` (the node before the text `x`) and clearing either view leave
    `x` as it is. -/
def wrapWitness : Forest :=
  { roots := [.node 0 (.element 2) [.node 1 (.namespace 3 4) [], .node 2 (.attribute 6 ['v']) [],
        .node 3 (.attribute 7 ['w']) [], .node 4 (.text ['x']) [], .node 5 (.text ['y']) [],
        .node 6 (.element 3) [], .node 7 (.text ['z']) []]],
    next := 8, consolidation := true, everOff := true }
example : wrapWitness.Inv := (Forest.inv_iff _).mp (by decide +kernel)
example : (wrapWitness.elementWrap 5 3).2 = (.ok, 8) ∧
    (wrapWitness.elementWrap 5 3).1.value? 4 = some (.text ['x']) ∧
    (wrapWitness.elementWrap 5 3).1.value? 5 = some (.text ['y']) ∧
    (wrapWitness.elementWrap 5 3).1.value? 7 = some (.text ['z']) ∧
    (wrapWitness.elementWrap 5 3).1.parent? 5 = some 8 := by decide +kernel
example : (wrapWitness.mapRemove .attributes 0 7).2 = .ok ∧
    (wrapWitness.mapRemove .attributes 0 7).1.isLive 3 = false ∧
    (wrapWitness.mapRemove .attributes 0 7).1.value? 4 = some (.text ['x']) ∧
    (wrapWitness.mapClear .attributes 0).1.isLive 2 = false ∧
    (wrapWitness.mapClear .attributes 0).1.value? 4 = some (.text ['x']) ∧
    (wrapWitness.mapClear .namespaces 0).1.isLive 1 = false ∧
    (wrapWitness.mapClear .namespaces 0).1.value? 2 = some (.attribute 6 ['v']) := by decide +kernel

/-- `unwrapSites` reads the node before the wrapper on an intermediate state (the previous
    sibling of the wrapper's first child once the wrapper is spliced out); under the invariant that is the previous
    sibling of the wrapper in the forest BEFORE the call (wrapper with or without a parent). -/
theorem C04_unwrapSites_simpl (f : Forest) (hi : f.Inv) (n first : Nat) (hfc : f.firstChild n = some first) :
    (f.removeElement n).prevSibling first = f.prevSibling n :=
  Forest.removeElement_prevSibling_firstChild hi hfc

/-- The sites of `element_unwrap(n)` are the previous sibling of `n` and the last child of `n`, both read
    before the call (`C04_unwrapSites_simpl` removes the intermediate state from the definition). -/
theorem C04_unwrapSites_eq (f : Forest) (hi : f.Inv) (n : Nat) :
    f.unwrapSites n = (f.prevSibling n).toList ++ (f.lastChild n).toList :=
  Forest.unwrapSites_simpl hi n

/-- `C04_unwrap_extended_texts` without the intermediate state: a surviving handle that is neither the previous
    sibling nor the last child of the wrapper has exactly its old value. -/
theorem C04_unwrap_extended_texts_simpl (f : Forest) (hi : f.Inv) (n x : Nat) (v v' : Value)
    (hv : f.value? x = some v) (hv' : (f.elementUnwrap n).1.value? x = some v')
    (h1 : f.prevSibling n ≠ some x) (h2 : f.lastChild n ≠ some x) : v' = v := by
  apply Forest.elementUnwrap_value_exact hi n hv hv'
  rw [Forest.unwrapSites_simpl hi n]
  intro hx
  rcases List.mem_append.1 hx with h | h
  · exact h1 (by simpa [Option.mem_toList] using h)
  · exact h2 (by simpa [Option.mem_toList] using h)

example : compWitness.firstChild 3 = some 4 ∧ (compWitness.removeElement 3).prevSibling 4 = some 2 ∧
    compWitness.prevSibling 3 = some 2 ∧ compWitness.lastChild 3 = some 7 := by decide +kernel

/-- The extra guard site of `replaceSites` (the previous sibling of `b`, listed once more when
    the reference node of the `insert_after` is `b` itself) is empty under the invariant: with the subtree `a` taken out
    the forest still has distinct handles (`Forest.W` of `f.dropSubtree a`), so no node is its own previous sibling.
    `Forest.replaceSites0` is `replaceSites` with the plain `insertAfterSites`. -/
theorem C04_replaceSites_simpl (f : Forest) (hi : f.Inv) (a b : Nat) : f.replaceSites a b = f.replaceSites0 a b :=
  Forest.replaceSites_simpl hi a b

/-- `C04_replace_extended_texts` over the shorter list. -/
theorem C04_replace_extended_texts_simpl (f : Forest) (hi : f.Inv) (a b x : Nat) (v v' : Value)
    (hv : f.value? x = some v) (hv' : (f.replace a b).1.value? x = some v')
    (hx : x ∉ f.replaceSites0 a b) : v' = v :=
  Forest.replace_value_exact hi a b hv hv' (by rw [Forest.replaceSites_simpl hi a b]; exact hx)

example : compWitness.replaceSites0 3 11 = [2, 8, 2] ∧ compWitness.replaceSites0 10 11 = [9] := by decide +kernel

/-! ## `any_append` hands out a live node (as of /repo b250b94)

  With consolidation on, `any_append(parent, text)` behind a text node merges the given node away; the call answers the
  last child of `parent`, not the node it was given (`Forest.anyAppendRet`).  Closed witness (`<e>a</e>` and the
  parentless text node `b`): the call answers the surviving node 1, which is live; node 2 is gone. -/

/-- the state of the minimal history: `new E; new T a; any_append 0 1; new T b` -/
def anyAppendWitness : Forest :=
  { roots := [.node 0 (.element 2) [.node 1 (.text ['a']) []], .node 2 (.text ['b']) []], next := 3 }

theorem C04_any_append_returns_live_witness :
    anyAppendWitness.inv = true ∧ (anyAppendWitness.anyAppend 0 2).2 = (.ok, 1) ∧
    (anyAppendWitness.anyAppend 0 2).1.isLive 1 = true ∧ (anyAppendWitness.anyAppend 0 2).1.isLive 2 = false ∧
    (anyAppendWitness.anyAppend 0 2).1.inv = true := by decide +kernel

/-! ## The bridge for histories with the convenience calls

  `C04_reach_creation` gives the invariant for histories mixing the calls of `Op` and the convenience calls
  (`Forest.COp`: `append_text`, `append_element`, `new_document_with_element`, `set_attribute`, …); the
  corollaries below write down what it means for the trees reached: the structure at every node and the
  structural hypotheses of the tree-level theorems, as `C04_reachable_structure` / `C04_reachable_hypotheses`
  do for `Forest.XCall` histories. -/

/-- the forest reached by a history mixing the calls of `Op` and the convenience calls -/
def creationRun (ops : List (Op ⊕ Forest.COp)) : Forest :=
  ops.foldl (fun f o => match o with | .inl o => f.step o | .inr c => (c.run f).1) Forest.init

/-- Every tree reached by a history of `Op` calls and convenience calls is
    structurally valid at every node, `StructValid` when its root is a document node, and free of adjacent
    text nodes while consolidation has never been switched off. -/
theorem C04_reachable_creation_structure (ops : List (Op ⊕ Forest.COp)) :
    ∀ r ∈ (creationRun ops).roots,
      (∀ (p : Path) (v : Value) (ks : List Tree), r.erase.at? p = some (.node v ks) →
        OrderedKids ks ∧
        (v.isLeafKind = true → ks = []) ∧
        (v.isElement = false → ∀ k ∈ ks, k.value.isNormal = true) ∧
        (∀ k ∈ ks, k.value.isDocument = false) ∧
        (attrNames ks).Nodup ∧ (nsPrefixes ks).Nodup ∧
        ((creationRun ops).everOff = false → noAdjText ks = true)) ∧
      (r.value.isDocument = true → StructValid r.erase) ∧
      ((creationRun ops).everOff = false → NoAdjacentText r.erase) := by
  intro r hr
  have hi : (creationRun ops).Inv := C04_reach_creation ops
  exact ⟨C04_inv_structure _ hi r hr, (C04_inv_structValid _ hi r hr).2.2.2.1, (C04_inv_structValid _ hi r hr).2.2.2.2⟩

/-- … and satisfies the structural hypotheses of the tree-level property
    theorems (`wf`, `kidsSorted`: C07; `UniqueBelow`: C10; `UniqueDeclsBelow`, `OnlyElementsDeclare`: C09, C15). -/
theorem C04_reachable_creation_hypotheses (ops : List (Op ⊕ Forest.COp)) :
    ∀ r ∈ (creationRun ops).roots,
      Axes.wf r.erase = true ∧
      (∀ p : Path, Axes.kidsSorted (Axes.subAt r.erase p).kids) ∧
      UniqueBelow r.erase ∧
      (∀ (path : Path) (sub : Tree), r.erase.at? path = some sub → UniqueDeclsBelow sub) ∧
      OnlyElementsDeclare r.erase :=
  C04_inv_hypotheses _ (C04_reach_creation ops)

/-- Non-vacuity: `new_element; append_text "a"; append_element; append_text "b"` (all convenience calls but the
    first) reaches one tree `<e>a<e/>b</e>`; its element node has three ordered children. -/
example : (creationRun [.inl (.newElement 2), .inr (.appendNew 0 (.text ['a'])), .inr (.appendNew 0 (.element 2)),
    .inr (.appendNew 0 (.text ['b']))]).roots.map (fun r => r.erase.kids.length) = [3] := by decide +kernel

/-- For a tree reached by a history of `Op` calls and convenience calls, the
    C01 domain is a condition on its VALUES only (while consolidation has never been switched off): the
    structural clauses are discharged by the invariant (`C01_reachable_representable` for these histories). -/
theorem C01_reachable_creation_representable (ops : List (Op ⊕ Forest.COp))
    (hoff : (creationRun ops).everOff = false) :
    ∀ r ∈ (creationRun ops).roots, ∀ env' : Env,
      RepresentableFragment env' r.erase =
        (envOK env' && r.value.isDocument && r.erase.allNodes (fun v _ => valueOK env' v) &&
          decide (xmlIdValues env' r.erase).Nodup) ∧
      Representable env' r.erase =
        (envOK env' && r.value.isDocument && r.erase.allNodes (fun v _ => valueOK env' v) &&
          decide (xmlIdValues env' r.erase).Nodup && singleRoot r.erase) :=
  fun _ hr env' => Reach.representable_root (C04_reach_creation ops) hoff hr env'

end XotModel.Props
