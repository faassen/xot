/-
  C03 — Parser is total, rejects ill-formed text, and accepts only sound trees.
  Property theorems only.  `build` is total by construction (every model function is total).

  Proved for every token list (no bound):
    C03_nopanic, C03_bytes_nopanic   no panic under the token-shape contract (the second at the token-level
                          entry point `parseBytes` = `build .document`; byte input: C03_bytes_total)
    C03_sound             accepted ⇒ `StructValid` (document node at the root only, children
                          ordered namespaces / attributes / normal, kind rules, attribute names and
                          declared prefixes unique per element) and no adjacent text nodes
    C03_sound_document    for `parse` also exactly one element and no text at top level
    C03_reject_*          one theorem per constraint the code enforces
    C03_reject_endtag_prefix, C03_open_prefix_pushed, C03_open_prefixes_step   an end tag repeats the
                          start tag's prefix AS WRITTEN (stack of written prefixes)
  Closed examples (token lists of the real tokenizer, replayed on the implementation by the
  `build` suite) accompany them.

  On STRINGS, through the reference tokenizer (Model/Lex*.lean: xmlparser 0.13.6 as written; tied to
  the crate by the `lex` suite):
    C03_lex_shape, C03_lex_no_stray_close   the token-shape contract is a theorem of its output
    C03_string_nopanic / _sound / _sound_document / _reject_lexerr   `parse(_fragment)` on any string
    C03_lex_reject_*      lexical rejections after the canonical spelling of any `LexOK` token list

  Last sentence of the property ("whatever is accepted … whose serialisation is accepted again and
  reparses deep-equal"), on strings, for every input:
    C03_lex_classes       the lexical classes the tokenizer enforces on EVERY token of EVERY input (`Token.accLex`)
    C03_accepted_tables   an accepted parse keeps the standing facts about the interning tables (`envOK`)
    C03_accepted_representable (+ _fragment), C03_accepted_serialises, C03_accepted_roundtrip (+ _fragment)
                          accepted ⇒ in the C01 domain ⇒ every name writable ⇒ `to_string` succeeds and
                          its text parses back to the SAME tree — under the decidable tree guards
                          `NoReservedDecls` (no declaration of the prefix `xml`: the known finding) and
                          `PlainPiTargets` (targets without a colon)
    C03_accepted_roundtrip_false   the first guard is needed (closed witness: `xml` rebound)
    C03_reject_reserved_declaration, C03_reject_prefixed_undeclaration, C03_reject_pi_target_xml
                          (as of /repo 6153ddf, a5dcf8e, 002854f) reserved declarations, `xmlns:p=""` and the PI
                          target `xml` are rejected, in every builder state; closed examples on strings
    C03_reject_colon_without_prefix, C03_colon_check_passes, C03_reject_colon_tokens   (/repo a5fafb0) a name
                          written with a colon and nothing in front of it - `<:a/>`, `<a :b='1'/>`, `</:a>`,
                          which xmlparser lets through with an empty prefix positioned at the colon - is
                          refused with `UnknownPrefix("", colon .. end of name)` in every builder state, nothing
                          interned; an absent (offset 0) or non-empty prefix passes; the three texts as strings

  COMPLETENESS of the rejection list (section "Completeness"; Lemmas/ParseNsComplete*.lean):
    C03_accepts_iff_well_spelled (+ _erased, _unguarded), C03_accepted_is_denoted, C03_well_spelled_accepted
                          under the token-shape contract and without empty text tokens, `build` accepts a token
                          list IFF it is - up to version-1.0 XML declaration tokens - exactly the token list of a
                          well-formed spelling (`WellNsDoc`, Props/C02.lean), and the tree is the denoted document
    C03_rejects_everything_else   every other such list is refused with an error (no panic, no tree)
    C03_string_accepts_iff, C03_string_accepted_is_denoted, C03_string_rejects_everything_else,
    C03_lex_no_empty_text   the same for `parse` / `parse_fragment` on ANY string (no hypothesis)
    C03_empty_text_token_corner, C03_declaration_skipped   the two token-level corners outside `WellNsDoc`
-/
import XotModel.Lemmas.ParseSound
import XotModel.Lemmas.ParseNoPanic
import XotModel.Lemmas.Parse
import XotModel.Lemmas.ParseContent
import XotModel.Lemmas.ParseWitnessData
import XotModel.Lemmas.TokenShapeB
import XotModel.Lemmas.ParsePrefixes
import XotModel.Lemmas.LexSlice
import XotModel.Lemmas.LexCanon
import XotModel.Model.ParseString
import XotModel.Lemmas.LexReject
import XotModel.Lemmas.AcceptedMain
import XotModel.Lemmas.AcceptedWitness
import XotModel.Props.C01
import XotModel.Lemmas.BytesDecode
import XotModel.Lemmas.ValidDoc
import XotModel.Lemmas.ColonWitness
import XotModel.Lemmas.ParseErase
import XotModel.Lemmas.ParseNsCompleteLex
import XotModel.Lemmas.PiColonC01
import XotModel.Lemmas.PiColonWitness

namespace XotModel.Props
open XotModel XotModel.Witness

/-! ### No panic -/

/-- `build` never panics on a token list with the shape a tokenizer gives it — in document and
    in fragment mode (an end tag at depth 0, which the fragment tokenizer does emit, is an error). -/
theorem C03_nopanic (m : Mode) (len : Nat) (env : Env) (ts : List Token) (lexErr : Option Nat)
    (h : TokenShape len ts lexErr) : build m len env ts lexErr ≠ .panic :=
  build_np m len env ts lexErr h.tags

/-- The token-level entry point `parseBytes` (Model/Parse.lean: `build .document` on what the tokenizer made of
    the decoded text) never panics; for byte input see `C03_bytes_total`. -/
theorem C03_bytes_nopanic (env : Env) (len : Nat) (ts : List Token) (lexErr : Option Nat)
    (h : TokenShape len ts lexErr) : parseBytes env len ts lexErr ≠ .panic :=
  build_np .document len env ts lexErr h.tags

/-- Non-vacuity: the tokens of `</a>` (fragment tokenizer) satisfy the contract; the result is
    `InvalidCloseTag` with the span of `a`. -/
example : TokenShape strayCloseLen strayClose none := tokenShape_of_B (by decide +kernel)
example : (build .fragment strayCloseLen Env.fresh strayClose none).err? =
    some (.invalidCloseTag [] ['a'] ⟨2, 3⟩) := by
  rw [build_eq_buildE]; decide +kernel
/-- … and `<a/></a>`. -/
example : (build .fragment emptyThenCloseLen Env.fresh emptyThenClose none).err? =
    some (.invalidCloseTag [] ['a'] ⟨6, 7⟩) := by
  rw [build_eq_buildE]; decide +kernel
example : TokenShape goodDocLen goodDoc none := tokenShape_of_B (by decide +kernel)

/-! ### Accepted trees are sound -/

/-- Whatever is accepted (from ANY token list) is structurally valid — a document node at the root
    and nowhere else, every element's children ordered namespaces → attributes → normal, attribute
    and namespace nodes under elements only, leaves are leaves, attribute names and declared
    prefixes unique per element — and has no two adjacent text nodes. -/
theorem C03_sound {m : Mode} {len : Nat} {env : Env} {ts : List Token} {lexErr : Option Nat} {p : Parsed}
    (h : build m len env ts lexErr = .ok p) : StructValid p.tree ∧ NoAdjacentText p.tree := by
  obtain ⟨hs, hd⟩ := build_sound h
  refine ⟨⟨by rw [hd]; rfl, Reach.forall_mono (fun _ _ h => h.1) _ hs, Reach.forall_mono (fun _ _ h => h.2.1) _ hs,
    Reach.forall_mono (fun _ _ h => h.2.2.2) _ hs⟩, Reach.forall_mono (fun _ _ h => h.2.2.1) _ hs⟩

/-- … and, for `parse`, what `validate_well_formed_document` checks. -/
theorem C03_sound_document {len : Nat} {env : Env} {ts : List Token} {lexErr : Option Nat} {p : Parsed}
    (h : build .document len env ts lexErr = .ok p) : WellFormedTop p.tree :=
  build_document_wellFormed h

/-- Non-vacuity: `goodDoc` is accepted. -/
example : (build .document goodDocLen Env.fresh goodDoc none).isOk = true := by
  rw [build_eq_buildE]; decide +kernel

/-! ### Rejections -/

/-- The first failing step decides the result, whatever follows. -/
theorem C03_reject_sticky {m : Mode} {len : Nat} {env env' : Env} {pre post : List Token} {t : Token}
    {b1 : Builder} {e : ParseErr} (lexErr : Option Nat)
    (h1 : (Builder.new env).run pre none = .ok b1) (h2 : b1.step t = .err e env') :
    build m len env (pre ++ t :: post) lexErr = .err e env' :=
  build_step_err lexErr h1 h2

/-- A tokenizer error is never turned into a tree. -/
theorem C03_reject_lexerr (m : Mode) (len : Nat) (env : Env) (ts : List Token) (pos : Nat) (p : Parsed) :
    build m len env ts (some pos) ≠ .ok p :=
  build_lexErr_not_ok m len env ts pos p

/-- Any DTD token. -/
theorem C03_reject_dtd (b : Builder) (sp : StrSpan) :
    b.step (.dtdStart sp) = .err (.dtdUnsupported sp.span) b.env ∧
    b.step (.emptyDtd sp) = .err (.dtdUnsupported sp.span) b.env ∧
    b.step (.entityDecl sp) = .err (.dtdUnsupported sp.span) b.env ∧
    b.step (.dtdEnd sp) = .err (.dtdUnsupported sp.span) b.env :=
  ⟨rfl, rfl, rfl, rfl⟩

/-- A version other than `1.0`. -/
theorem C03_reject_version (b : Builder) (v : StrSpan) (e : Option StrSpan) (s : Option Bool) (sp : StrSpan)
    (h : v.text ≠ ['1', '.', '0']) :
    b.step (.declaration v e s sp) = .err (.unsupportedVersion v.text v.span) b.env := by
  simp [Builder.step, h]

/-- An end tag without any open element (fragments). -/
theorem C03_reject_stray_close (b : Builder) (p l sp : StrSpan) (n : Nat) (env1 : Env)
    (hpar : b.parents = [])
    (hname : elementNameId b.env b.nsStack p.text l.text p.span = .ok (env1, n)) :
    b.closeElement p l sp = .err (.invalidCloseTag p.text l.text (Span.fromPrefixName p l)) env1 := by
  unfold Builder.closeElement
  rw [hname]
  simp [hpar]

/-- An end tag whose (expanded) name is not the name of the open element. -/
theorem C03_reject_mismatched_close (b : Builder) (p l sp : StrSpan) (n m : Nat) (env1 : Env)
    (hcur : b.cur.value = .element n)
    (hname : elementNameId b.env b.nsStack p.text l.text p.span = .ok (env1, m)) (hne : n ≠ m) :
    b.closeElement p l sp = .err (.invalidCloseTag p.text l.text (Span.fromPrefixName p l)) env1 := by
  unfold Builder.closeElement
  rw [hname]
  simp only [hcur]
  split
  · rfl
  · simp [hne]

/-- An end tag whose WRITTEN prefix is not the one written in the start
    tag of the open element (`open_prefixes.last()`) is rejected with `InvalidCloseTag`, whatever
    the bindings are — also when both prefixes are bound to one namespace, so that the name ids
    agree (`m = n`), and also default namespace against prefix, in both directions. -/
theorem C03_reject_endtag_prefix (b : Builder) (p l sp : StrSpan) (n m : Nat) (env1 : Env)
    (hcur : b.cur.value = .element n)
    (hname : elementNameId b.env b.nsStack p.text l.text p.span = .ok (env1, m))
    (hpfx : b.openPrefixes.head? ≠ some p.text) :
    b.closeElement p l sp = .err (.invalidCloseTag p.text l.text (Span.fromPrefixName p l)) env1 := by
  unfold Builder.closeElement
  rw [hname]
  simp only [hcur]
  split
  · rfl
  · have : samePrefix b.openPrefixes p.text = false := by
      simp only [samePrefix, beq_eq_false_iff_ne, ne_eq]; exact hpfx
    simp [this]

/-- `open_prefixes` is the stack of the prefixes written in the start tags of the open elements:
    `open_element` pushes the prefix of the pending start tag … -/
theorem C03_open_prefix_pushed {b b1 : Builder} {eb : ElementBuilder} (heb : b.eb = some eb)
    (h : b.openElement = .ok b1) : b1.openPrefixes = eb.pfx :: b.openPrefixes ∧ ∃ n, b1.cur.value = .element n :=
  openElement_openPrefixes heb h

/-- … an accepted end tag pops it (and was written with exactly that prefix), `/>` pushes and pops,
    and no other token touches it. -/
theorem C03_open_prefixes_step {b b' : Builder} {t : Token} (h : b.step t = .ok b') :
    match t with
    | .elementEnd .open _ => ∃ eb, b.eb = some eb ∧ b'.openPrefixes = eb.pfx :: b.openPrefixes
    | .elementEnd (.close p _) _ =>
      (∃ n, b.cur.value = .element n) → b.openPrefixes = p.text :: b'.openPrefixes
    | _ => b'.openPrefixes = b.openPrefixes :=
  openPrefixes_step h

/-- `<p:a xmlns:p='u' xmlns:q='u'></q:a>` and `<a xmlns='u' xmlns:q='u'></q:a>` are rejected at the
    end tag (as of /repo cea05a7). -/
example : (build .document endTagOtherPrefixLen Env.fresh endTagOtherPrefix none).err? =
    some (.invalidCloseTag ['q'] ['a'] ⟨31, 34⟩) := by
  rw [build_eq_buildE]; decide +kernel
example : (build .document endTagDefaultVsPrefixLen Env.fresh endTagDefaultVsPrefix none).err? =
    some (.invalidCloseTag ['q'] ['a'] ⟨27, 30⟩) := by
  rw [build_eq_buildE]; decide +kernel

/-- A prefix that no open element declares (element names, in start and end tags). -/
theorem C03_reject_unknown_prefix (env : Env) (stack : NsStack) (pfx name : Str) (sp : Span)
    (h : lookupPrefix stack (env.internPrefix pfx).2 = none) :
    elementNameId env stack pfx name sp = .err (.unknownPrefix pfx sp) (env.internPrefix pfx).1 := by
  unfold elementNameId
  simp [h]

/-- … and on attributes (a non-empty prefix). -/
theorem C03_reject_unknown_attribute_prefix (env : Env) (stack : NsStack) (pfx name : Str) (sp : Span)
    (hne : (env.internPrefix pfx).2 ≠ Env.emptyPrefix)
    (h : lookupPrefix stack (env.internPrefix pfx).2 = none) :
    attributeNameId env stack pfx name sp = .err (.unknownPrefix pfx sp) (env.internPrefix pfx).1 := by
  unfold attributeNameId
  simp [h, hne]

/-- The same attribute name written twice (same prefix, same local name). -/
theorem C03_reject_duplicate_attribute_as_written (b : Builder) (eb : ElementBuilder) (p l v : StrSpan)
    (heb : b.eb = some eb) (h : ∃ ab ∈ eb.attributes, ab.pfx = p.text ∧ ab.name = l.text) :
    b.attribute p l v =
      .err (.duplicateAttribute (attrDisplayName p.text l.text) (Span.fromPrefixName p l)) b.env := by
  unfold Builder.attribute
  rw [heb]
  obtain ⟨ab, hm, h1, h2⟩ := h
  have : (eb.attributes.any fun ab => ab.pfx == p.text && ab.name == l.text) = true := by
    rw [List.any_eq_true]; exact ⟨ab, hm, by simp [h1, h2]⟩
  simp [this]

/-- An attribute that resolves to a NameId already used on this
    element (same expanded name, however the prefixes are spelled) is a `DuplicateAttribute`. -/
theorem C03_reject_duplicate_expanded (stack : NsStack) (node : Path) (st : AttrLoop) (ab : AttributeBuilder)
    (rest : List AttributeBuilder) (env1 : Env) (n : Nat)
    (hname : attributeNameId st.env stack ab.pfx ab.name ab.prefixSpan = .ok (env1, n))
    (hseen : n ∈ st.seenNames) :
    addAttributes stack node st (ab :: rest) =
      .err (.duplicateAttribute (attrDisplayName ab.pfx ab.name) ab.nameSpan) env1 := by
  simp [addAttributes, hname, hseen]

/-- `<a xmlns:p='u' xmlns:q='u' p:x='1' q:x='2'/>` is rejected at `q:x`. -/
example : (build .document dupExpandedLen Env.fresh dupExpanded none).err? =
    some (.duplicateAttribute ['q', ':', 'x'] ⟨35, 38⟩) := by
  rw [build_eq_buildE]; decide +kernel

/-- A prefix already declared on this start tag. -/
theorem C03_reject_prefix_twice (b : Builder) (eb : ElementBuilder) (pfx : Str) (uri : StrSpan) (sp : Span) (u : Str)
    (heb : b.eb = some eb) (hdec : parseContentGo true uri.start 0 uri.text = .ok u)
    (hres : reservedDecl pfx u = false)
    (hdup : (eb.namespaces.any fun d => d.1 == (b.env.internPrefix pfx).2) = true) :
    b.prefix pfx uri sp = .err (.duplicateAttribute (declDisplayName pfx) sp)
      ((b.env.internPrefix pfx).1.internNamespace u).1 := by
  unfold Builder.prefix
  rw [hdec]
  simp only [hres, Bool.false_eq_true, if_false, heb, hdup, if_true]

/-- As of /repo 6153ddf: a namespace declaration whose DECODED value
    makes it one of the declarations Namespaces in XML reserves — the prefix `xmlns` declared, another
    prefix than `xml` (the default namespace included) bound to the XML namespace name, anything bound
    to the xmlns namespace name — is refused with `InvalidNamespaceDeclaration(attribute name, name
    span)`, in every builder state, before anything is interned and before the duplicate test. -/
theorem C03_reject_reserved_declaration (b : Builder) (pfx : Str) (uri : StrSpan) (sp : Span) (u : Str)
    (hdec : parseContentGo true uri.start 0 uri.text = .ok u)
    (hres : pfx = ['x', 'm', 'l', 'n', 's'] ∨ (pfx ≠ ['x', 'm', 'l'] ∧ u = xmlNamespaceUri) ∨
      u = xmlnsNamespaceUri) :
    b.prefix pfx uri sp = .err (.invalidNamespaceDeclaration (declDisplayName pfx) sp) b.env := by
  have hr : reservedDecl pfx u = true := (C02_reserved_iff pfx u).mpr (hres.imp_right (Or.imp_right .inl))
  unfold Builder.prefix
  rw [hdec]
  simp only [hr, if_true]

/-- As of /repo a5dcf8e: `xmlns:p=""` — a non-empty prefix other than
    `xml` bound to the empty namespace name — is refused the same way (Namespaces in XML 1.0, "No Prefix
    Undeclaring"); only `xmlns=""` undeclares. -/
theorem C03_reject_prefixed_undeclaration (b : Builder) (pfx : Str) (uri : StrSpan) (sp : Span)
    (hdec : parseContentGo true uri.start 0 uri.text = .ok [])
    (hp : pfx ≠ []) (hx : pfx ≠ ['x', 'm', 'l']) :
    b.prefix pfx uri sp = .err (.invalidNamespaceDeclaration (declDisplayName pfx) sp) b.env := by
  have hr : reservedDecl pfx [] = true := (C02_reserved_iff pfx []).mpr (.inr (.inr (.inr ⟨hp, hx, rfl⟩)))
  unfold Builder.prefix
  rw [hdec]
  simp only [hr, if_true]

/-- The converse: a declaration the test lets through is not refused with that variant (what remains
    accepted of the reserved names is the prefix `xml` bound to any name: `reservedDecl` exempts it). -/
theorem C03_reserved_declaration_only (b : Builder) (pfx : Str) (uri : StrSpan) (sp : Span) (u : Str)
    (hdec : parseContentGo true uri.start 0 uri.text = .ok u) (hres : reservedDecl pfx u = false)
    (n : Str) (sp' : Span) (env' : Env) :
    b.prefix pfx uri sp ≠ .err (.invalidNamespaceDeclaration n sp') env' := by
  unfold Builder.prefix
  rw [hdec]
  simp only [hres, Bool.false_eq_true, if_false]
  split
  · simp
  · split <;> simp

example : reservedDecl ['x', 'm', 'l'] ['z'] = false ∧ reservedDecl ['x', 'm', 'l'] [] = false ∧
    reservedDecl ['x', 'm', 'l'] xmlNamespaceUri = false ∧ reservedDecl [] [] = false ∧
    reservedDecl ['p'] ['u'] = false ∧ reservedDecl ['x', 'm', 'l'] xmlnsNamespaceUri = true := by decide +kernel

/-- `<a xmlns:xmlns="u"/>`, `<a xmlns:p="http://www.w3.org/XML/1998/namespace"/>`,
    `<a xmlns="http://www.w3.org/2000/xmlns/"/>`, `<a xmlns:p="http://www.w3.org/2000/xmlns&#x2F;"/>` and
    `<a xmlns:p="" p:xmlns="v"/>` as STRINGS (reference tokenizer + builder, from `Xot::new()`'s tables):
    rejected, with the span of the declaring attribute's name. -/
example :
    (∃ env', parseString .document Env.fresh (renderTokens xmlnsPrefixTokens) =
      .err (.invalidNamespaceDeclaration "xmlns:xmlns".toList ⟨3, 14⟩) env') ∧
    (∃ env', parseString .document Env.fresh (renderTokens xmlUriTokens) =
      .err (.invalidNamespaceDeclaration "xmlns:p".toList ⟨3, 10⟩) env') ∧
    (∃ env', parseString .document Env.fresh (renderTokens xmlnsUriTokens) =
      .err (.invalidNamespaceDeclaration "xmlns".toList ⟨3, 8⟩) env') ∧
    (∃ env', parseString .document Env.fresh (renderTokens xmlnsUriRefTokens) =
      .err (.invalidNamespaceDeclaration "xmlns:p".toList ⟨3, 10⟩) env') ∧
    (∃ env', parseString .document Env.fresh (renderTokens undeclTokens) =
      .err (.invalidNamespaceDeclaration "xmlns:p".toList ⟨3, 10⟩) env') :=
  ⟨rejection_spec reserved_rejected.1.1 reserved_rejected.1.2,
   rejection_spec reserved_rejected.2.1.1 reserved_rejected.2.1.2,
   rejection_spec reserved_rejected.2.2.1.1 reserved_rejected.2.2.1.2,
   rejection_spec reserved_rejected.2.2.2.1 reserved_rejected.2.2.2.2,
   rejection_spec undecl_rejected.1 undecl_rejected.2⟩

/-- As of /repo 002854f: a processing instruction whose target is `xml` in any
    letter case is refused with `InvalidTarget(target, target span)`, in every builder state, and
    nothing is interned.  (xmlparser itself only refuses the literal `<?xml ` outside the prolog.) -/
theorem C03_reject_pi_target_xml (b : Builder) (target : StrSpan) (content : Option StrSpan) (sp : StrSpan)
    (h : target.text.map asciiLowerChar = ['x', 'm', 'l']) :
    b.step (.pi target content sp) = .err (.invalidTarget target.text target.span) b.env := by
  have : isReservedPiTarget target.text = true := by simp [isReservedPiTarget, h]
  simp only [Builder.step, this, if_true]

/-- Any other target goes through to the builder. -/
theorem C03_pi_target_other (b : Builder) (target : StrSpan) (content : Option StrSpan) (sp : StrSpan)
    (h : target.text.map asciiLowerChar ≠ ['x', 'm', 'l']) :
    b.step (.pi target content sp) = .ok (b.processingInstruction target content) := by
  have : isReservedPiTarget target.text = false := by simpa [isReservedPiTarget] using h
  simp only [Builder.step, this, Bool.false_eq_true, if_false]

/-- The tokens of `<a><?xml` TAB `x?></a>` (as the tokenizer returns them) and the text `<a><?XmL?></a>`. -/
example : (build .document 17 Env.fresh xmlPiTokens none).err? = some (.invalidTarget ['x', 'm', 'l'] ⟨5, 8⟩) := by
  rw [build_eq_buildE]; decide +kernel
example : ∃ env', parseString .document Env.fresh (renderTokens xmlPiMixedTokens) =
    .err (.invalidTarget ['X', 'm', 'L'] ⟨5, 8⟩) env' :=
  rejection_spec xmlPi_rejected.2.1 xmlPi_rejected.2.2

/-! ### A name written with a colon and nothing in front of it (/repo a5fafb0)

xmlparser 0.13.6 accepts `<:a/>`, `<a :b='1'/>`, `</:a>` (`consume_qname` returns an EMPTY prefix that is a
slice of the source, positioned at the colon); they are not qualified names (Namespaces in XML 1.0,
`QName ::= PrefixedName | UnprefixedName`, `Prefix ::= NCName`).  As of /repo a5fafb0
`check_qname` refuses them, first thing in the `ElementStart`, `Attribute` and `ElementEnd::Close` arms: an
ABSENT prefix is xmlparser's `"".into()` - offset 0, which no slice of a name can have. -/

/-- In EVERY builder state, an element start, an attribute or an
    end tag whose prefix is empty and positioned in the text (offset ≠ 0) is refused with
    `UnknownPrefix("", colon .. end of the local name)`, and nothing is interned. -/
theorem C03_reject_colon_without_prefix (b : Builder) (pfx loc : StrSpan) (hp : pfx.text = [])
    (hs : pfx.start ≠ 0) :
    (∀ sp, b.step (.elementStart pfx loc sp) = .err (.unknownPrefix [] ⟨pfx.start, loc.stop⟩) b.env) ∧
    (∀ v sp, b.step (.attribute pfx loc v sp) = .err (.unknownPrefix [] ⟨pfx.start, loc.stop⟩) b.env) ∧
    (∀ sp, b.step (.elementEnd (.close pfx loc) sp) =
      .err (.unknownPrefix [] ⟨pfx.start, loc.stop⟩) b.env) := by
  have hb : pfx.bareColon = true := by simp [StrSpan.bareColon, hp, hs]
  exact ⟨fun sp => b.step_refused_of (t := .elementStart pfx loc sp) rfl hb,
    fun v sp => b.step_refused_of (t := .attribute pfx loc v sp) rfl hb,
    fun sp => b.step_refused_of (t := .elementEnd (.close pfx loc) sp) rfl hb⟩

/-- … and only those: an absent prefix (offset 0) or a non-empty one goes on to the builder as before. -/
theorem C03_colon_check_passes (b : Builder) (pfx loc : StrSpan) (h : pfx.text ≠ [] ∨ pfx.start = 0) :
    (∀ sp, b.step (.elementStart pfx loc sp) = .ok (b.element pfx loc)) ∧
    (∀ sp, b.step (.elementEnd (.close pfx loc) sp) = b.closeElement pfx loc sp) := by
  have hb : pfx.bareColon = false := by
    rcases h with h | h
    · exact StrSpan.bareColon_false_of_ne h
    · exact StrSpan.bareColon_false_of_start h
  exact ⟨fun sp => by simp only [Builder.step, hb, Bool.false_eq_true, if_false],
    fun sp => by simp only [Builder.step, hb, Bool.false_eq_true, if_false]⟩

/-- A token list with such a name anywhere is never accepted, whatever else it holds. -/
theorem C03_reject_colon_tokens (m : Mode) (len : Nat) (env : Env) (ts : List Token) (le : Option Nat)
    (h : tokensPrefixOk ts = false) (p : Parsed) : build m len env ts le ≠ .ok p := by
  intro hp
  rw [build_ok_prefixOk hp] at h
  cases h

/-- `<:a/>`, `<a :b='1'/>`, `<a></:a>` as STRINGS: the reference tokenizer accepts them (tokens in
    Lemmas/ColonWitness.lean, evaluated in the kernel), `parse` refuses them with the span of the
    WHOLE name as written - colon included - and the tables of `Xot::new()` are left as they were. -/
example : parseString .document Env.fresh colonElementText = .err (.unknownPrefix [] ⟨1, 3⟩) Env.fresh := by
  simp only [parseString, lexMode, lex_colonElement]; rfl
example : parseString .document Env.fresh colonAttributeText = .err (.unknownPrefix [] ⟨3, 5⟩) Env.fresh := by
  simp only [parseString, lexMode, lex_colonAttribute]; rfl
example : (parseString .document Env.fresh colonEndTagText).err? = some (.unknownPrefix [] ⟨5, 7⟩) := by
  simp only [parseString, lexMode, lex_colonEndTag]
  rw [build_eq_buildE]; decide +kernel
example : colonElementText = "<:a/>".toList ∧ colonAttributeText = "<a :b='1'/>".toList ∧
    colonEndTagText = "<a></:a>".toList := by
  rw [String.toList_ofList, String.toList_ofList, String.toList_ofList]; decide +kernel

/-- `<a xmlns:p='u' xmlns:p='v'/>` is rejected at the second `xmlns:p`. -/
example : (build .document prefixTwiceLen Env.fresh prefixTwice none).err? =
    some (.duplicateAttribute ['x', 'm', 'l', 'n', 's', ':', 'p'] ⟨15, 22⟩) := by
  rw [build_eq_buildE]; decide +kernel

/-- An ill-formed value of a namespace declaration is rejected like any attribute value. -/
theorem C03_reject_declaration_content_error (b : Builder) (pfx : Str) (uri : StrSpan) (sp : Span) (e : ContentErr)
    (h : parseContentGo true uri.start 0 uri.text = .error e) :
    b.prefix pfx uri sp = .err (ParseErr.ofContent e) b.env := by
  unfold Builder.prefix
  rw [h]

/-- Whatever a reference decodes to is an XML `Char`
    (`#x9 | #xA | #xD | [#x20-#xD7FF] | [#xE000-#xFFFD] | [#x10000-#x10FFFF]`): a reference to anything else
    does not decode, and what does not decode is rejected (`C03_reject_bad_reference`). -/
theorem C03_reject_nonchar (ent : Str) (c : Char) (h : decodeEntity ent = some c) :
    isXmlCharCode c.toNat = true :=
  decodeEntity_xmlChar h

/-- A sign is not a digit: a signed numeric reference does not decode (rejected by
    `C03_reject_bad_reference`). -/
theorem C03_reject_signed (rest : Str) :
    decodeEntity ('#' :: '+' :: rest) = none ∧ decodeEntity ('#' :: 'x' :: '+' :: rest) = none :=
  decodeEntity_signed rest

/-- A reference that does not decode (unknown entity, malformed number, sign, not an XML Char,
    surrogate, above U+10FFFF), anywhere after well-spelled content, is rejected … -/
theorem C03_reject_bad_reference (attr : Bool) (base : Nat) (ps : List Piece) (hw : WellSpelled ps)
    (ent rest : Str) (hsemi : ';' ∉ ent) (hdec : decodeEntity ent = none) :
    ∃ a b, parseContentGo attr base 0 (renderPieces ps ++ '&' :: (ent ++ ';' :: rest)) =
      .error (.invalid (entityErrText ent) a b) :=
  parse_pieces_then_invalid attr base 0 ps hw ent rest hsemi hdec

/-- … and so is a `&` that is never closed. -/
theorem C03_reject_unterminated_reference (attr : Bool) (base : Nat) (ps : List Piece) (hw : WellSpelled ps)
    (rest : Str) (hsemi : ';' ∉ rest) :
    ∃ a, parseContentGo attr base 0 (renderPieces ps ++ '&' :: rest) = .error (.unclosed rest a) :=
  parse_pieces_then_unclosed attr base 0 ps hw rest hsemi

/-- A content error in a text token / attribute value is the step's error. -/
theorem C03_reject_content_error (b : Builder) (t : StrSpan) (e : ContentErr)
    (h : parseContentGo false t.start 0 t.text = .error e) :
    b.step (.text t) = .err (ParseErr.ofContent e) b.env := by
  simp [Builder.step, Builder.text, h]

theorem C03_reject_attribute_content_error (b : Builder) (eb : ElementBuilder) (p l v : StrSpan) (e : ContentErr)
    (heb : b.eb = some eb)
    (hnew : (eb.attributes.any fun ab => ab.pfx == p.text && ab.name == l.text) = false)
    (h : parseContentGo true v.start 0 v.text = .error e) :
    b.attribute p l v = .err (ParseErr.ofContent e) b.env := by
  unfold Builder.attribute
  rw [heb]
  simp [hnew, h]

/-- Examples of references that do not decode. -/
example : decodeEntity ['n', 'b', 's', 'p'] = none ∧ decodeEntity ['#'] = none ∧
    decodeEntity ['#', 'x'] = none ∧ decodeEntity ['#', 'x', 'D', '8', '0', '0'] = none ∧
    decodeEntity ['#', 'x', '1', '1', '0', '0', '0', '0'] = none ∧ decodeEntity ['#', 'X', '4', '1'] = none ∧
    decodeEntity ['#', '4', '2', '9', '4', '9', '6', '7', '2', '9', '6'] = none ∧
    decodeEntity ['#', '0'] = none ∧ decodeEntity ['#', 'x', '1'] = none ∧
    decodeEntity ['#', 'x', 'F', 'F', 'F', 'E'] = none ∧ decodeEntity ['#', '+', '6', '5'] = none := by
  decide +kernel

/-- `<a>&#0;</a>` and `<a>&#+65;</a>` are rejected with the span of the reference. -/
example : (build .document nonCharLen Env.fresh nonChar none).err? = some (.invalidEntity ['0'] ⟨3, 7⟩) := by
  rw [build_eq_buildE]; decide +kernel
example : (build .document signedRefLen Env.fresh signedRef none).err? =
    some (.invalidEntity ['+', '6', '5'] ⟨3, 9⟩) := by
  rw [build_eq_buildE]; decide +kernel

/-- A second `xml:id` with a value already seen: an attribute whose NAME ID is that of xml:id
    (expanded name (XML namespace, `id`), whatever prefix spells it) is normalised first, and the
    normalised value is what is compared and reported. -/
theorem C03_reject_duplicate_id (stack : NsStack) (node : Path) (st : AttrLoop) (ab : AttributeBuilder)
    (rest : List AttributeBuilder) (env1 : Env)
    (hname : attributeNameId st.env stack ab.pfx ab.name ab.prefixSpan = .ok (env1, Env.xmlIdName))
    (hnew : ¬ Env.xmlIdName ∈ st.seenNames)
    (hseen : st.seenIds.contains (normalizeXmlId ab.value) = true) :
    addAttributes stack node st (ab :: rest) =
      .err (.duplicateId (normalizeXmlId ab.value) ab.valueSpan) env1 := by
  have hm : normalizeXmlId ab.value ∈ st.seenIds := by simpa using hseen
  have hc : st.seenNames.contains Env.xmlIdName = false := by simpa using hnew
  simp only [addAttributes, hname, hc, Bool.false_eq_true, if_false, xmlIdValue, BEq.rfl, if_true, hseen,
    Bool.and_self]

/-- `<a xml:id='i'><b xml:id='  i '/></a>` is rejected. -/
example : (build .document dupIdSpacesLen Env.fresh dupIdSpaces none).err? =
    some (.duplicateId ['i'] ⟨25, 29⟩) := by
  rw [build_eq_buildE]; decide +kernel

/-- `<a xmlns:p='http://www.w3.org/XML/1998/namespace' p:id=' x '><b xml:id='x'/></a>` is rejected
    at the declaration (another prefix for the XML namespace; as of /repo 6153ddf). -/
example : (build .document dupIdViaOtherPrefixLen Env.fresh dupIdViaOtherPrefix none).err? =
    some (.invalidNamespaceDeclaration ['x', 'm', 'l', 'n', 's', ':', 'p'] ⟨3, 10⟩) := by
  rw [build_eq_buildE]; decide +kernel

/-- Input that ends inside a start tag. -/
theorem C03_reject_truncated (b : Builder) (eb : ElementBuilder) (h : b.eb = some eb) :
    b.run [] none = .err (.unclosedTag eb.span) b.env := by
  simp [Builder.run, h]

/-- `parse_fragment("<x")` is rejected with the span of `x`. -/
example : (build .fragment truncatedTagLen Env.fresh truncatedTag none).err? = some (.unclosedTag ⟨1, 2⟩) := by
  rw [build_eq_buildE]; decide +kernel

/-- An element still open at the end of the input. -/
theorem C03_reject_unclosed (b : Builder) (h : b.isCurrentDocument = false) (len : Nat) (p : Parsed) :
    b.finishDocument len ≠ .ok p ∧ b.finishFragment ≠ .ok p :=
  finish_not_ok_of_open h len p

/-- No root, several roots, text at top level (documents): see `C03_sound_document`; e.g.
    `<a/><b/>` and `<a></b>`. -/
example : (build .document twoRootsLen Env.fresh twoRoots none).err? =
    some (.multipleElementsAtTopLevel ⟨5, 6⟩) := by
  rw [build_eq_buildE]; decide +kernel
example : (build .document mismatchLen Env.fresh mismatch none).err? =
    some (.invalidCloseTag [] ['b'] ⟨5, 6⟩) := by
  rw [build_eq_buildE]; decide +kernel

/-! ### Strings: the reference tokenizer (Model/Lex.lean — xmlparser 0.13.6 as written, total, tied
to the crate by the `lex` suite) composed with the builder -/

/-- The token-shape contract — the hypothesis of `C03_nopanic` — is a theorem about the reference
    tokenizer: it holds of its output on EVERY string, in both modes. -/
theorem C03_lex_shape (m : Mode) (s : Str) : TokenShape (strLen s) (lexMode m s).1 (lexMode m s).2 := by
  cases m
  · exact lexDocument_shape s
  · exact lexFragment_shape s

/-- In document mode the tokenizer never emits an end tag at depth 0 (in fragment mode it does:
    `strayClose` above). -/
theorem C03_lex_no_stray_close (s : Str) : NoStrayClose 0 (lexDocument s).1 :=
  lexDocument_noStrayClose s

/-- `parse` / `parse_fragment` never panic, on ANY string (tokenizer and builder are total
    functions; no panic outcome is reachable). -/
theorem C03_string_nopanic (m : Mode) (env : Env) (s : Str) : parseString m env s ≠ .panic :=
  C03_nopanic m (strLen s) env _ _ (C03_lex_shape m s)

/-- Whatever `parse` / `parse_fragment` accept, from ANY string, is structurally valid and has no
    adjacent text nodes. -/
theorem C03_string_sound {m : Mode} {env : Env} {s : Str} {p : Parsed}
    (h : parseString m env s = .ok p) : StructValid p.tree ∧ NoAdjacentText p.tree :=
  C03_sound h

/-- … and for `parse`: exactly one element and no text at top level. -/
theorem C03_string_sound_document {env : Env} {s : Str} {p : Parsed}
    (h : parseString .document env s = .ok p) : WellFormedTop p.tree :=
  C03_sound_document h

/-- A string on which the tokenizer fails is rejected (with `ParseError::XmlParser`). -/
theorem C03_string_reject_lexerr (m : Mode) (env : Env) (s : Str) (pos : Nat)
    (h : (lexMode m s).2 = some pos) (p : Parsed) : parseString m env s ≠ .ok p := by
  unfold parseString; rw [h]; exact C03_reject_lexerr m _ env _ pos p

/-- Non-vacuity: the canonical spelling of `lexWitness3` (`<a>x</a>`) is accepted as a document,
    through tokenizer and builder. -/
def lexWitness3 : List Token :=
  [.elementStart ⟨[], 0⟩ ⟨['a'], 0⟩ ⟨[], 0⟩, .elementEnd .open ⟨[], 0⟩, .text ⟨['x'], 0⟩,
   .elementEnd (.close ⟨[], 0⟩ ⟨['a'], 0⟩) ⟨[], 0⟩]

example : renderTokens lexWitness3 = ['<', 'a', '>', 'x', '<', '/', 'a', '>'] := by decide +kernel
example : (parseString .document Env.fresh ['<', 'a', '>', 'x', '<', '/', 'a', '>']).isOk = true := by
  have h := lexDocument_render lexWitness3 (by decide +kernel)
  rw [show renderTokens lexWitness3 = ['<', 'a', '>', 'x', '<', '/', 'a', '>'] from by decide +kernel] at h
  simp only [parseString, lexMode]
  rw [h, build_eq_buildE]; decide +kernel

/-! ### Lexical rejections (reference tokenizer)

Shape of every statement: `ts` is ANY token list meeting `LexOK` (every length and depth), spelled
canonically; what follows is ill-formed in the way named; then the tokenizer returns the tokens of
`ts` and fails, the error position being where `ts` ended — so `parse` / `parse_fragment` reject
the text (`C03_string_reject_lexerr`).  `frag = true` is `parse_fragment`, `false` is `parse`;
`ctxAfter` is the tokenizer context `ts` ends in (inside a start tag / element content at depth
`d` / before / after the root element). -/

open XotModel.Lex XotModel.Lex.Canon

/-- A raw `<` inside an attribute value. -/
theorem C03_lex_reject_attr_lt (frag : Bool) (ts : List Token) (d : Nat) (p l v rest : Str)
    (hok : LexOK frag ts = true) (hctx : ctxAfter frag (LexCtx.init frag) ts = .inTag d)
    (hq : qnameOK p l = true) (hv : v.all (fun c => isXmlChar c && c != '"' && c != '<') = true) :
    lexMode (modeOf frag) (renderTokens ts ++ ' ' :: (tokQName p l ++ '=' :: '"' :: (v ++ '<' :: rest))) =
      (placeTokens 0 ts, some (strLen (renderTokens ts))) := by
  refine lexMode_reject_after frag ts _ hok (joinOK_inTag (lexNest_of_lexOK hok) hctx (Stops.cons _ (by decide +kernel))) ?_ ?_
  · intro _ h; subst h; cases frag <;> simp [ctxAfter, LexCtx.init] at hctx
  · rw [hctx]; exact failsAt_attr_lt frag d _ p l v rest hq hv

/-- Element content followed by markup that begins with `<`: the common part of the next four. -/
private theorem reject_content (frag : Bool) (ts : List Token) (d : Nat) (r : Str) (cs : Str)
    (hr : r = '<' :: cs)
    (hok : LexOK frag ts = true) (hctx : ctxAfter frag (LexCtx.init frag) ts = .content d)
    (hbad : FailsAt frag (.content d) (strLen (renderTokens ts)) r) :
    lexMode (modeOf frag) (renderTokens ts ++ r) = (placeTokens 0 ts, some (strLen (renderTokens ts))) := by
  refine lexMode_reject_after frag ts r hok
    (joinOK_markup (lexNest_of_lexOK hok) (by rw [hctx]; intro e; simp) (.inr ⟨cs, hr⟩)) ?_ (by rw [hctx]; exact hbad)
  intro _ _; rw [hr]; simp

theorem C03_lex_reject_unterminated_comment (frag : Bool) (ts : List Token) (d : Nat) (body : Str)
    (hok : LexOK frag ts = true) (hctx : ctxAfter frag (LexCtx.init frag) ts = .content d)
    (h : hasInfix ['-', '-', '>'] body = false) :
    lexMode (modeOf frag) (renderTokens ts ++ (['<', '!', '-', '-'] ++ body)) =
      (placeTokens 0 ts, some (strLen (renderTokens ts))) :=
  reject_content frag ts d _ _ rfl hok hctx (failsAt_unterminated_comment frag d _ body h)

/-- `--` inside a comment, or a comment body ending in `-`. -/
theorem C03_lex_reject_comment_dashes (frag : Bool) (ts : List Token) (d : Nat) (body rest : Str)
    (hok : LexOK frag ts = true) (hctx : ctxAfter frag (LexCtx.init frag) ts = .content d)
    (h : hasInfix ['-', '-', '>'] body = false)
    (hd : hasInfix ['-', '-'] body = true ∨ body.getLast? = some '-') :
    lexMode (modeOf frag) (renderTokens ts ++ (['<', '!', '-', '-'] ++ (body ++ ['-', '-', '>'] ++ rest))) =
      (placeTokens 0 ts, some (strLen (renderTokens ts))) :=
  reject_content frag ts d _ _ rfl hok hctx (failsAt_comment_dashes frag d _ body rest h hd)

theorem C03_lex_reject_unterminated_cdata (frag : Bool) (ts : List Token) (d : Nat) (body : Str)
    (hok : LexOK frag ts = true) (hctx : ctxAfter frag (LexCtx.init frag) ts = .content d)
    (h : hasInfix [']', ']', '>'] body = false) :
    lexMode (modeOf frag) (renderTokens ts ++ (['<', '!', '[', 'C', 'D', 'A', 'T', 'A', '['] ++ body)) =
      (placeTokens 0 ts, some (strLen (renderTokens ts))) :=
  reject_content frag ts d _ _ rfl hok hctx (failsAt_unterminated_cdata frag d _ body h)

theorem C03_lex_reject_unterminated_pi (frag : Bool) (ts : List Token) (d : Nat) (body : Str)
    (hok : LexOK frag ts = true) (hctx : ctxAfter frag (LexCtx.init frag) ts = .content d)
    (h : hasInfix ['?', '>'] body = false) :
    lexMode (modeOf frag) (renderTokens ts ++ (['<', '?'] ++ body)) =
      (placeTokens 0 ts, some (strLen (renderTokens ts))) :=
  reject_content frag ts d _ _ rfl hok hctx (failsAt_unterminated_pi frag d _ body h)

/-- `]]>` in character data (`hj`: the text does not directly follow another text token or a
    start-tag name, which it would extend). -/
theorem C03_lex_reject_cdata_close_in_text (frag : Bool) (ts : List Token) (d : Nat) (body rest : Str)
    (hok : LexOK frag ts = true) (hctx : ctxAfter frag (LexCtx.init frag) ts = .content d)
    (hj : JoinOK ts (body ++ rest)) (hne : body ≠ [])
    (hall : body.all (fun c => isXmlChar c && c != '<') = true)
    (hinf : hasInfix [']', ']', '>'] body = true) (hrest : rest = [] ∨ ∃ cs, rest = '<' :: cs)
    (hbom : body.head? ≠ some '﻿') :
    lexMode (modeOf frag) (renderTokens ts ++ (body ++ rest)) =
      (placeTokens 0 ts, some (strLen (renderTokens ts))) := by
  refine lexMode_reject_after frag ts _ hok hj ?_
    (by rw [hctx]; exact failsAt_text_cdata_close frag d _ body rest hne hall hinf hrest)
  intro _ _
  cases body with
  | nil => exact absurd rfl hne
  | cons c cs => simpa using hbom

/-- Character data before the root element of a document (`ts`: comments and PIs only). -/
theorem C03_lex_reject_text_before_root (ts : List Token) (c : Char) (rest : Str)
    (hok : LexOK false ts = true) (hctx : ctxAfter false .prolog ts = .prolog)
    (hc : c ≠ '<') (hsp : isXmlSpace c = false) (hbom : c ≠ '﻿') :
    lexDocument (renderTokens ts ++ c :: rest) = (placeTokens 0 ts, some (strLen (renderTokens ts))) := by
  refine lexDocument_reject_after ts _ hok (joinOK_outside (lexNest_of_lexOK hok) (.inl hctx)) ?_ ?_
  · intro _; simpa using hbom
  · rw [hctx]; exact failsAt_text_prolog _ c rest hc hsp

/-- Character data after the root element of a document. -/
theorem C03_lex_reject_text_after_root (ts : List Token) (c : Char) (rest : Str)
    (hok : LexOK false ts = true) (hctx : ctxAfter false .prolog ts = .after)
    (hc : c ≠ '<') (hsp : isXmlSpace c = false) :
    lexDocument (renderTokens ts ++ c :: rest) = (placeTokens 0 ts, some (strLen (renderTokens ts))) := by
  refine lexDocument_reject_after ts _ hok (joinOK_outside (lexNest_of_lexOK hok) (.inr hctx)) ?_ ?_
  · intro h; subst h; simp [ctxAfter] at hctx
  · rw [hctx]; exact failsAt_text_after _ c rest hc hsp

/-- A second root element: in document mode this is already a TOKENIZER error (the tokenizer is in
    `AfterElements`), so `parse` reports `XmlParser`, never `MultipleElementsAtTopLevel`, for it. -/
theorem C03_lex_reject_second_root (ts : List Token) (rest : Str)
    (hok : LexOK false ts = true) (hctx : ctxAfter false .prolog ts = .after)
    (h1 : rest.head? ≠ some '!') (h2 : rest.head? ≠ some '?') :
    lexDocument (renderTokens ts ++ '<' :: rest) = (placeTokens 0 ts, some (strLen (renderTokens ts))) := by
  refine lexDocument_reject_after ts _ hok (joinOK_outside (lexNest_of_lexOK hok) (.inr hctx)) ?_ ?_
  · intro h; subst h; simp [ctxAfter] at hctx
  · rw [hctx]; exact failsAt_second_root _ rest h1 h2

/-- Non-vacuity: `<a b="x<"` (raw `<` in a value, after `<a`), `<a><!--x` (unterminated comment in
    content), `<a/><b/>` (second root), `x<a/>` (text before the root). -/
example : LexOK false [.elementStart ⟨[], 0⟩ ⟨['a'], 0⟩ ⟨[], 0⟩] = true ∧
    ctxAfter false (LexCtx.init false) [.elementStart ⟨[], 0⟩ ⟨['a'], 0⟩ ⟨[], 0⟩] = .inTag 0 := by decide +kernel
example : lexDocument ['<', 'a', ' ', 'b', '=', '"', 'x', '<', '"'] =
    ([.elementStart ⟨[], 0⟩ ⟨['a'], 1⟩ ⟨['<', 'a'], 0⟩], some 2) :=
  C03_lex_reject_attr_lt false [.elementStart ⟨[], 0⟩ ⟨['a'], 0⟩ ⟨[], 0⟩] 0 [] ['b'] ['x'] ['"']
    (by decide +kernel) (by decide +kernel) (by decide +kernel) (by decide +kernel)
example : (lexDocument ['<', 'a', '>', '<', '!', '-', '-', 'x']).2 = some 3 := by
  have := C03_lex_reject_unterminated_comment false
    [.elementStart ⟨[], 0⟩ ⟨['a'], 0⟩ ⟨[], 0⟩, .elementEnd .open ⟨[], 0⟩] 1 ['x']
    (by decide +kernel) (by decide +kernel) (by decide +kernel)
  simp only [modeOf, lexMode] at this
  exact congrArg Prod.snd this
example : (lexDocument ['<', 'a', '/', '>', '<', 'b', '/', '>']).2 = some 4 := by
  have := C03_lex_reject_second_root
    [.elementStart ⟨[], 0⟩ ⟨['a'], 0⟩ ⟨[], 0⟩, .elementEnd .empty ⟨[], 0⟩] ['b', '/', '>']
    (by decide +kernel) (by decide +kernel) (by decide +kernel) (by decide +kernel)
  exact congrArg Prod.snd this
example : lexDocument ['x', '<', 'a', '/', '>'] = ([], some 0) :=
  C03_lex_reject_text_before_root [] 'x' ['<', 'a', '/', '>'] (by decide +kernel) (by decide +kernel) (by decide +kernel)
    (by decide +kernel) (by decide +kernel)

/-! ### Accepted ⇒ representable ⇒ serialises ⇒ reparses to the same tree

`envOK env`: the tables hold the built-in values of `Xot::new` at their ids and no value twice — true of
`Xot::new()` (C08) and kept by every interning step (`C03_accepted_tables`; Lemmas/AcceptedDefs `EnvReach`).
Guards, both decidable on the TREE (Lemmas/AcceptedDefs.lean):
* `NoReservedDecls env t`: no namespace node declares the prefix `xml` — the inputs of the known
  findings `C03:xml-prefix-rebound-accepted` / `C03:not-representable-xml-prefix-rebound` (and the
  permitted, never serialised `xmlns:xml="http://www.w3.org/XML/1998/namespace"`).  The other reserved
  declarations and `xmlns:p=""` are rejected (`C03_reject_reserved_declaration`,
  `C03_reject_prefixed_undeclaration`), so the guard does not mention them.
* `PlainPiTargets env t`: every PI target is an NCName (no colon).  xmlparser reads a target with
  `consume_name` (colons allowed): targets such as `a:b` are accepted and do round-trip on the crate,
  but lie outside `Representable` (Model/SerTokens.lean asks for an NCName: narrower than needed).  The
  target `xml` in any letter case is rejected (`C03_reject_pi_target_xml`). -/

/-- What the reference tokenizer enforces, on every token of every input, in both modes. -/
theorem C03_lex_classes (m : Mode) (s : Str) : ∀ t ∈ (lexMode m s).1, t.accLex = true :=
  lexMode_accLex m s

/-- The standing hypotheses on the tables survive every accepted parse; the tables only grow. -/
theorem C03_accepted_tables {m : Mode} {env : Env} {s : Str} {p : Parsed} (henv : envOK env = true)
    (h : parseString m env s = .ok p) : envOK p.env = true ∧ EnvApp env p.env :=
  ⟨Accepted.envOK_of_facts (Accepted.accepted_facts henv h).1, (Accepted.accepted_facts henv h).2.1.app⟩

/-- `parse`: the accepted tree is in the round-trip domain of C01. -/
theorem C03_accepted_representable {env : Env} {s : Str} {p : Parsed} (henv : envOK env = true)
    (h : parseString .document env s = .ok p) (hg : NoReservedDecls p.env p.tree = true)
    (hpi : PlainPiTargets p.env p.tree = true) : Representable p.env p.tree = true :=
  Accepted.accepted_representable henv h hg hpi

/-- `parse_fragment` (any mode). -/
theorem C03_accepted_representable_fragment {m : Mode} {env : Env} {s : Str} {p : Parsed} (henv : envOK env = true)
    (h : parseString m env s = .ok p) (hg : NoReservedDecls p.env p.tree = true)
    (hpi : PlainPiTargets p.env p.tree = true) : RepresentableFragment p.env p.tree = true :=
  Accepted.accepted_representable_fragment henv h hg hpi

/-- Every name the parser resolved can be written — some prefix in scope
    (the one the source used) is bound to its namespace; an attribute in a namespace has a non-empty
    one; an element in no namespace stands under no default namespace (the source wrote `xmlns=""`). -/
theorem C03_accepted_serialises {m : Mode} {env : Env} {s : Str} {p : Parsed} (henv : envOK env = true)
    (h : parseString m env s = .ok p) (hg : NoReservedDecls p.env p.tree = true)
    (hpi : PlainPiTargets p.env p.tree = true) : namesWritable p.env p.tree [] = some true :=
  Accepted.accepted_writable henv h hg hpi

/-- `parse`: whatever is accepted serialises, and the text is accepted again
    and gives the SAME tree (ids, declarations and prefixes included), tables unchanged; `deep_equal`. -/
theorem C03_accepted_roundtrip {env : Env} {s : Str} {p : Parsed} (henv : envOK env = true)
    (h : parseString .document env s = .ok p) (hg : NoReservedDecls p.env p.tree = true)
    (hpi : PlainPiTargets p.env p.tree = true) :
    ∃ s', toXmlString p.env p.tree [] = .ok s' ∧ ∃ p', parseString .document p.env s' = .ok p' ∧
      p'.tree = p.tree ∧ p'.env = p.env ∧ deepEqual p'.tree p.tree = true := by
  obtain ⟨s', p', h1, h2, h3, h4, h5⟩ := C01_roundtrip_writable p.env p.tree
    (C03_accepted_representable henv h hg hpi) (C03_accepted_serialises henv h hg hpi)
  exact ⟨s', h1, p', h2, h3, h4, h5⟩

theorem C03_accepted_roundtrip_fragment {env : Env} {s : Str} {p : Parsed} (henv : envOK env = true)
    (h : parseString .fragment env s = .ok p) (hg : NoReservedDecls p.env p.tree = true)
    (hpi : PlainPiTargets p.env p.tree = true) :
    ∃ s', toXmlString p.env p.tree [] = .ok s' ∧ ∃ p', parseString .fragment p.env s' = .ok p' ∧
      p'.tree = p.tree ∧ p'.env = p.env ∧ deepEqual p'.tree p.tree = true := by
  have hr := C03_accepted_representable_fragment henv h hg hpi
  obtain ⟨s', hs⟩ := (C01_serialises p.env p.tree hr).mpr (C03_accepted_serialises henv h hg hpi)
  exact ⟨s', hs, C01_roundtrip_fragment_identical p.env p.tree hr s' hs⟩

/-- Non-vacuity, closed: `goodText` (default namespace, prefixed names, `xml:id=" i "`, references, a
    CDATA section, a comment, a PI, `xmlns=""`) is accepted inside both guards from `Xot::new()`'s tables. -/
example : ∃ p, parseString .document Env.fresh goodText = .ok p ∧ ∃ s', toXmlString p.env p.tree [] = .ok s' ∧
    ∃ p', parseString .document p.env s' = .ok p' ∧ p'.tree = p.tree ∧ deepEqual p'.tree p.tree = true := by
  obtain ⟨p, h, hg, hpi⟩ := good_spec
  obtain ⟨s', h1, p', h2, h3, _, h5⟩ := C03_accepted_roundtrip good_accepted.2.2.1 h hg hpi
  exact ⟨p, h, s', h1, p', h2, h3, h5⟩

/-! ### PI targets with a colon: the round trip without the guard `PlainPiTargets`

`RepresentablePi env t` (= `PiColon.Representable`, Lemmas/PiColonDefs.lean) is `Representable env t` with ONE clause
widened: a PI target must be what the tokenizer's `consume_name` accepts (`nameOK`: a name-start character,
then name characters, colons allowed) instead of an NCName; `Representable` / `valueOK` themselves are unchanged.
The crate does not refuse such targets (`/repo/src/parse.rs`, `ProcessingInstruction` arm: only `xml` in any
letter case is refused; the target is interned as a name in no namespace and written back as it is).  The C01
round trip and "accepted ⇒ representable" are proved for the widened domain (the lemmas in the namespace
`XotModel.PiColon` of Lemmas/SerTokens*.lean, RoundTrip*.lean, Accepted*.lean, where `valueOK` / `nodeOK` /
`Representable` name the widened definitions); the statements on `Representable` are their instances
(`PiColon.representable_of`), and `Representable = RepresentablePi ∧ PlainPiTargets` node by node
(`PiColon.valueOK_of_valueOK`, `PiColon.valueOK_of_plain`).  The proofs need of a PI target only that the written
target is read back whole by `consume_name` (`nameOK`, which the tokenizer guarantees) and that it is not empty (so
its id is in range). -/

/-- The widened domain contains the original one. -/
theorem C03_representable_pi_of_representable (env : Env) (t : Tree) (h : Representable env t = true) :
    RepresentablePi env t = true :=
  PiColon.representable_of env t h

/-- … and differs from it in the PI-target clause only: with `PlainPiTargets` the two coincide on accepted
    trees (`C03_accepted_representable`). -/
theorem C03_accepted_representable_pi {env : Env} {s : Str} {p : Parsed} (henv : envOK env = true)
    (h : parseString .document env s = .ok p) (hg : NoReservedDecls p.env p.tree = true) :
    RepresentablePi p.env p.tree = true :=
  PiColon.Accepted.accepted_representable henv h hg

theorem C03_accepted_representable_pi_fragment {m : Mode} {env : Env} {s : Str} {p : Parsed}
    (henv : envOK env = true) (h : parseString m env s = .ok p) (hg : NoReservedDecls p.env p.tree = true) :
    RepresentableFragmentPi p.env p.tree = true :=
  PiColon.Accepted.accepted_representable_fragment henv h hg

/-- Every name the parser resolved can be written; no guard on PI targets. -/
theorem C03_accepted_serialises_pi {m : Mode} {env : Env} {s : Str} {p : Parsed} (henv : envOK env = true)
    (h : parseString m env s = .ok p) (hg : NoReservedDecls p.env p.tree = true) :
    namesWritable p.env p.tree [] = some true :=
  PiColon.Accepted.accepted_writable henv h hg

/-- The C01 round trip on the widened domain. -/
theorem C03_roundtrip_pi (env : Env) (t : Tree) (hr : RepresentablePi env t = true)
    (hw : namesWritable env t [] = some true) :
    ∃ s p, toXmlString env t [] = .ok s ∧ parseString .document env s = .ok p ∧ p.tree = t ∧ p.env = env ∧
      deepEqual p.tree t = true :=
  PiColon.C01_roundtrip_writable env t hr hw

/-- `parse`: whatever is accepted — PI targets with a colon included;
    the only guard left is `NoReservedDecls` (the known finding) — serialises, and the text is accepted again
    and gives the SAME tree, tables unchanged; `deep_equal`. -/
theorem C03_accepted_roundtrip_pi_colon {env : Env} {s : Str} {p : Parsed} (henv : envOK env = true)
    (h : parseString .document env s = .ok p) (hg : NoReservedDecls p.env p.tree = true) :
    ∃ s', toXmlString p.env p.tree [] = .ok s' ∧ ∃ p', parseString .document p.env s' = .ok p' ∧
      p'.tree = p.tree ∧ p'.env = p.env ∧ deepEqual p'.tree p.tree = true := by
  obtain ⟨s', p', h1, h2, h3, h4, h5⟩ := C03_roundtrip_pi p.env p.tree
    (C03_accepted_representable_pi henv h hg) (C03_accepted_serialises_pi henv h hg)
  exact ⟨s', h1, p', h2, h3, h4, h5⟩

theorem C03_accepted_roundtrip_pi_colon_fragment {env : Env} {s : Str} {p : Parsed} (henv : envOK env = true)
    (h : parseString .fragment env s = .ok p) (hg : NoReservedDecls p.env p.tree = true) :
    ∃ s', toXmlString p.env p.tree [] = .ok s' ∧ ∃ p', parseString .fragment p.env s' = .ok p' ∧
      p'.tree = p.tree ∧ p'.env = p.env ∧ deepEqual p'.tree p.tree = true := by
  have hr := C03_accepted_representable_pi_fragment henv h hg
  obtain ⟨s', hs⟩ := (PiColon.C01_serialises p.env p.tree hr).mpr (C03_accepted_serialises_pi henv h hg)
  exact ⟨s', hs, C01_roundtrip_fragment_identical_pi_colon p.env p.tree hr s' hs⟩

/-- Non-vacuity OUTSIDE `PlainPiTargets` / `Representable`, closed: `<?a:b x?><r><?c:d?></r>` is accepted from
    `Xot::new()`'s tables, its tree is not `Representable` (the targets `a:b`, `c:d` are no NCNames) but
    `RepresentablePi`, it serialises to the SAME text, which is accepted again and gives the same tree. -/
example : ∃ p, parseString .document Env.fresh piColonText = .ok p ∧ PlainPiTargets p.env p.tree = false ∧
    Representable p.env p.tree = false ∧ RepresentablePi p.env p.tree = true ∧
    toXmlString p.env p.tree [] = .ok piColonText ∧
    ∃ p', parseString .document p.env piColonText = .ok p' ∧ p'.tree = p.tree ∧ deepEqual p'.tree p.tree = true := by
  obtain ⟨p, h, hg, hpi, hnr, hr, hs⟩ := piColon_spec
  obtain ⟨s', h1, p', h2, h3, _, h5⟩ := C03_accepted_roundtrip_pi_colon good_accepted.2.2.1 h hg
  rw [hs] at h1
  obtain rfl := Outcome.ok.inj h1
  exact ⟨p, h, hpi, hnr, hr, hs, p', h2, h3, h5⟩

/-- The clause at full strength: no guard. -/
def C03_accepted_roundtrip_Statement : Prop :=
  ∀ (env : Env) (s : Str) (p : Parsed), envOK env = true → parseString .document env s = .ok p →
    ∃ s', toXmlString p.env p.tree [] = .ok s' ∧ ∃ p', parseString .document p.env s' = .ok p' ∧
      deepEqual p'.tree p.tree = true

/-- It is false, and `NoReservedDecls` is what fails:
    `<a xmlns:xml="zzz"><b xmlns:xml="http://www.w3.org/XML/1998/namespace" xml:id="i"/></a>` — the prefix
    `xml` rebound (known finding C03:xml-prefix-rebound-accepted) and bound back below — is accepted,
    serialises to `<a xmlns:xml="zzz"><b xml:id="i"/></a>` (a binding of the XML namespace is never
    written), that text is accepted again, and the trees are not `deep_equal`: `xml:id` has become
    `{zzz}id` (C03:not-representable-xml-prefix-rebound). -/
theorem C03_accepted_roundtrip_false : ¬ C03_accepted_roundtrip_Statement := by
  intro hall
  obtain ⟨p, h1, _, _, h4, p', h5, h6⟩ :=
    roundTripBroken_spec xmlRebound_broken.1 xmlRebound_broken.2.1 xmlRebound_broken.2.2
  obtain ⟨s', k1, q, k2, k3⟩ := hall Env.fresh _ p good_accepted.2.2.1 h1
  rw [h4] at k1
  cases k1
  rw [h5] at k2
  cases k2
  rw [h6] at k3
  cases k3

example : ∃ p, parseString .document Env.fresh (renderTokens xmlReboundTokens) = .ok p ∧
    NoReservedDecls p.env p.tree = false ∧ ∃ s' p', toXmlString p.env p.tree [] = .ok s' ∧
      parseString .document p.env s' = .ok p' ∧ deepEqual p'.tree p.tree = false := by
  obtain ⟨p, h1, h2, _, h4, p', h5, h6⟩ :=
    roundTripBroken_spec xmlRebound_broken.1 xmlRebound_broken.2.1 xmlRebound_broken.2.2
  exact ⟨p, h1, h2, _, p', h4, h5, h6⟩

/-- The serialisation of a tree with a PI target `xml` would not be accepted again (the tokenizer refuses
    `<?xml ` in element content, in both modes, after ANY canonical prefix) — and, as of /repo 002854f, no
    such tree is accepted (`C03_reject_pi_target_xml`). -/
theorem C03_xml_pi_text_rejected :
    ∀ (frag : Bool) (ts : List Token) (d : Nat) (rest : Str), LexOK frag ts = true →
      ctxAfter frag (LexCtx.init frag) ts = .content d → ∀ (env : Env) (p : Parsed),
        parseString (modeOf frag) env (renderTokens ts ++ (['<', '?', 'x', 'm', 'l', ' '] ++ rest)) ≠ .ok p := by
  intro frag ts d rest hok hctx env p
  have h : lexMode (modeOf frag) (renderTokens ts ++ (['<', '?', 'x', 'm', 'l', ' '] ++ rest)) =
      (placeTokens 0 ts, some (strLen (renderTokens ts))) :=
    reject_content frag ts d _ ('?' :: 'x' :: 'm' :: 'l' :: ' ' :: rest) rfl hok hctx (failsAt_xml_pi frag d _ rest)
  exact C03_string_reject_lexerr _ env _ _ (by rw [h]) p

end XotModel.Props

/-! ### BYTES: `Xot::parse_bytes` on ANY byte sequence

  `Bytes.parseBytes m env bs = (decodeBytes bs).map (parseString m env)` (Model/Bytes.lean: xot's
  `encoding::decode` with the external detector / decoders modelled as written, tied to the real code
  by the `bytes` suite).  `decodeBytes` is a total function; it answers `none` only where the MODEL
  has no decoder (the declaration names one of 34 legacy encodings known by name only, and there is no
  byte order mark) — the real `decode` cannot fail (as of /repo f576658).

    C03_bytes_total          no panic outcome on any byte string
    C03_bytes_decode_total   the model decodes every byte string whose chosen encoding it models
    C03_bytes_sound          what `parse_bytes` accepts is structurally valid, one element at the top
-/

namespace XotModel.Props
open XotModel XotModel.Bytes

/-- On ANY byte sequence the outcome of `parse_bytes` (and of the fragment variant) is
    never a panic: `decode` yields a string, `parse` never panics on a string (`C03_string_nopanic`). -/
theorem C03_bytes_total (m : Mode) (env : Env) (bs : Bytes) :
    ∀ r, Bytes.parseBytes m env bs = some r → r ≠ .panic := by
  intro r hr
  unfold Bytes.parseBytes at hr
  cases hd : decodeBytes bs with
  | none => rw [hd] at hr; cases hr
  | some s =>
    rw [hd] at hr
    simp only [Option.map_some, Option.some.injEq] at hr
    rw [← hr]
    exact C03_string_nopanic m env s

/-- The model has an answer for every byte string that carries a UTF-8 / UTF-16
    byte order mark, and for every byte string for which `encoding()` does not choose one of the
    encodings known by name only (UTF-8, UTF-16LE / BE, windows-1252 and all its labels, replacement,
    x-user-defined, no encoding found: all decoded). -/
theorem C03_bytes_decode_total (bs : Bytes)
    (h : (bomSniff bs).isSome = true ∨ ∀ n, encodingOf bs ≠ some (.other n)) :
    ∃ s, decodeBytes bs = some s := by
  have : (decodeBytes bs).isSome = true := by
    rcases h with h | h
    · exact decodeBytes_isSome_of_bom bs h
    · exact decodeBytes_isSome bs h
  exact Option.isSome_iff_exists.mp this

/-- … in particular whenever xot's reader finds no declaration. -/
theorem C03_bytes_decode_total_undeclared (bs : Bytes) (h : xmlDeclaration bs = none) :
    ∃ s, decodeBytes bs = some s := by
  refine C03_bytes_decode_total bs (.inr fun n hn => ?_)
  -- without a hint the label looked up is `UTF-8`, `utf-8` or that of the BOM information, never a legacy label
  rcases encodingOf_undeclared bs h with h0 | h0 | h0 | ⟨x, l, hl, h0⟩ <;> rw [h0] at hn
  · cases hn
  · rw [forLabel_utf8.2] at hn; cases hn
  · rw [show forLabel ['u', 't', 'f', '-', '8'] = some Enc.utf8 from forLabel_utf8.1] at hn; cases hn
  · rcases forLabel_bomLabel hl with h1 | h1 | h1 | h1 <;> rw [h1] at hn <;> cases hn

/-- Whatever `parse_bytes` accepts, from ANY byte sequence, is structurally valid, has
    no adjacent text nodes and exactly one element and no text at the top level. -/
theorem C03_bytes_sound {env : Env} {bs : Bytes} {p : Parsed}
    (h : Bytes.parseBytes .document env bs = some (.ok p)) :
    StructValid p.tree ∧ NoAdjacentText p.tree ∧ WellFormedTop p.tree := by
  unfold Bytes.parseBytes at h
  cases hd : decodeBytes bs with
  | none => rw [hd] at h; cases h
  | some s =>
    rw [hd] at h
    simp only [Option.map_some, Option.some.injEq] at h
    exact ⟨(C03_string_sound h).1, (C03_string_sound h).2, C03_string_sound_document h⟩

/-- Non-vacuity, by evaluation of the model: arbitrary bytes, fewer than four bytes, a lone UTF-16
    surrogate behind a byte order mark, an unknown label — all decode (U+FFFD for what is ill-formed). -/
example : decodeBytes [0xFF] = some ['\uFFFD'] := by decide +kernel
example : decodeBytes [] = some [] := by decide +kernel
example : decodeBytes [0x3C, 0xC3] = some ['<', '\uFFFD'] := by decide +kernel
example : decodeBytes [0xFF, 0xFE, 0x00, 0xD8, 0x41] = some ['\uFFFD'] := by decide +kernel
example : decodeBytes [0x00, 0x00, 0xFE, 0xFF, 0x41] = some ['\x00', '\x00', '\uFFFD', '\uFFFD', 'A'] := by decide +kernel
/-- the only `none` of the model: a legacy encoding named in the declaration (`<?xml encoding='koi8-r'?>`) -/
example : decodeBytes (asciiBytes ['<', '?', 'x', 'm', 'l', ' ', 'e', 'n', 'c', 'o', 'd', 'i', 'n', 'g', '=', '\'', 'k', 'o', 'i', '8',
    '-', 'r', '\'', '?', '>']) = none ∧
    encodingName (asciiBytes ['<', '?', 'x', 'm', 'l', ' ', 'e', 'n', 'c', 'o', 'd', 'i', 'n', 'g', '=', '\'', 'k', 'o', 'i', '8',
    '-', 'r', '\'', '?', '>']) = some ['K', 'O', 'I', '8', '-', 'R'] := by decide +kernel

end XotModel.Props

/-! ### VALIDATE: `Xot::validate_well_formed_document` (access.rs)

  `validateWellFormedDocument : Tree → Except XotError Unit` (Model/ValidDoc.lean) is the call as
  written (NotDocument first, then the loop over `children(node)` in which the FIRST illegal child
  decides, the element count only afterwards); tied to the crate by the `validdoc` suite (every node
  of generated documents, fragments, unattached nodes; all top-level child sequences up to length 5).

    C03_validate_iff        `.ok ()` iff the decidable `wellFormedDocument`
    C03_validate_errors     each error answer characterised (first offender decides)
    C03_string_validates    what `parse` accepts, from ANY string, passes the call
    C03_tokens_validate     the same from any token list
    C03_fragment_need_not_validate   closed witness: `parse_fragment("x")` is accepted and does not
-/

namespace XotModel.Props
open XotModel

/-- `validate_well_formed_document(node)` answers `Ok(())` iff the node is a document node whose
    normal children are exactly one element plus comments / processing instructions, in any order
    (`wellFormedDocument`, a `Bool`). -/
theorem C03_validate_iff (t : Tree) :
    validateWellFormedDocument t = .ok () ↔ wellFormedDocument t = true :=
  validate_iff t

/-- The specification spelled out. -/
theorem C03_wellFormedDocument_iff (t : Tree) :
    wellFormedDocument t = true ↔
      t.value.isDocument = true ∧
      (∀ k ∈ t.normalKids, k.value.isElement = true ∨ k.value.isCommentOrPi = true) ∧
      (t.normalKids.filter (fun k => k.value.isElement)).length = 1 := by
  simp [wellFormedDocument, and_assoc]

/-- Every error answer: `NotDocument` for a non-document node; otherwise the FIRST child (among
    `children(node)`) that is not an element / comment / PI decides — `TextAtTopLevel` for a text
    node, `IllegalAtTopLevel` for a document / attribute / namespace node; only when there is none, the
    element count: `NoElementAtTopLevel` for 0, `MultipleElementsAtTopLevel` for more than 1. -/
theorem C03_validate_errors (t : Tree) (e : XotError) :
    validateWellFormedDocument t = .error e ↔
      (t.value.isDocument = false ∧ e = .notDocument) ∨
      (t.value.isDocument = true ∧ ∃ pre k post, t.normalKids = pre ++ k :: post ∧ pre.all topOk = true ∧
          topOk k = false ∧ e = topOffence k) ∨
      (t.value.isDocument = true ∧ t.normalKids.all topOk = true ∧ countElements t.normalKids = 0 ∧
          e = .noElementAtTopLevel) ∨
      (t.value.isDocument = true ∧ t.normalKids.all topOk = true ∧ countElements t.normalKids > 1 ∧
          e = .multipleElementsAtTopLevel) :=
  validate_error_iff t e

/-- Whatever `parse` accepts from ANY token list passes `validate_well_formed_document`. -/
theorem C03_tokens_validate {len : Nat} {env : Env} {ts : List Token} {lexErr : Option Nat} {p : Parsed}
    (h : build .document len env ts lexErr = .ok p) : validateWellFormedDocument p.tree = .ok () :=
  validate_of_sound (C03_sound h).1 (C03_sound_document h)

/-- Whatever `parse` accepts from ANY string passes `validate_well_formed_document`. -/
theorem C03_string_validates {env : Env} {s : Str} {p : Parsed}
    (h : parseString .document env s = .ok p) : validateWellFormedDocument p.tree = .ok () :=
  validate_of_sound (C03_string_sound h).1 (C03_string_sound_document h)

/-- Closed instance: `<a>x</a>` is accepted and its tree validates. -/
example : ∃ p, parseString .document Env.fresh ['<', 'a', '>', 'x', '<', '/', 'a', '>'] = .ok p ∧
    validateWellFormedDocument p.tree = .ok () := by
  have h := lexDocument_render lexWitness3 (by decide +kernel)
  rw [show renderTokens lexWitness3 = ['<', 'a', '>', 'x', '<', '/', 'a', '>'] from by decide +kernel] at h
  cases hp : parseString .document Env.fresh ['<', 'a', '>', 'x', '<', '/', 'a', '>'] with
  | ok p => exact ⟨p, rfl, C03_string_validates hp⟩
  | err e env' =>
    exfalso
    have : (parseString .document Env.fresh ['<', 'a', '>', 'x', '<', '/', 'a', '>']).isOk = true := by
      simp only [parseString, lexMode]
      rw [h, build_eq_buildE]; decide +kernel
    rw [hp] at this; cases this
  | panic => exact absurd hp (C03_string_nopanic _ _ _)

/-- The tokens of the fragment text `x`. -/
def fragmentTextTokens : List Token := [.text ⟨['x'], 0⟩]

/-- Closed check behind the witness below: the builder accepts the text `x` in fragment mode and the
    resulting document node is refused by the call with `TextAtTopLevel`. -/
def fragmentTextCheck : Bool :=
  match buildE .fragment 1 Env.fresh (placeTokens 0 fragmentTextTokens) none with
  | .ok p => decide (validateWellFormedDocument p.tree = .error .textAtTopLevel)
  | _ => false

/-- `parse_fragment` output need NOT pass the call: the fragment text `x` is accepted, and its document
    node (one text child, no element) is answered `TextAtTopLevel`. -/
theorem C03_fragment_need_not_validate :
    ∃ p, parseString .fragment Env.fresh ['x'] = .ok p ∧
      validateWellFormedDocument p.tree = .error .textAtTopLevel := by
  have h := lexFragment_render fragmentTextTokens (by decide +kernel)
  rw [show renderTokens fragmentTextTokens = ['x'] from by decide +kernel] at h
  have hc : fragmentTextCheck = true := by decide +kernel
  unfold fragmentTextCheck at hc
  simp only [parseString, lexMode]
  rw [h, build_eq_buildE]
  show ∃ p, buildE .fragment 1 Env.fresh _ none = .ok p ∧ _
  cases hb : buildE .fragment 1 Env.fresh (placeTokens 0 fragmentTextTokens) none with
  | ok p => rw [hb] at hc; exact ⟨p, rfl, by simpa using hc⟩
  | err e env' => rw [hb] at hc; cases hc
  | panic => rw [hb] at hc; cases hc

/-- The other two non-`NotDocument` refusals are reachable for fragments as well (closed trees): no
    element at all; two elements. -/
example : validateWellFormedDocument (.node .document [.node (.comment ['c']) []]) = .error .noElementAtTopLevel := by
  decide +kernel
example : validateWellFormedDocument (.node .document [.node (.element 2) [], .node (.element 3) []]) =
    .error .multipleElementsAtTopLevel := by decide +kernel
/-- A text child decides even when there are two elements before it; an element is `NotDocument`. -/
example : validateWellFormedDocument (.node .document [.node (.element 2) [], .node (.element 3) [],
    .node (.text ['x']) []]) = .error .textAtTopLevel := by decide +kernel
example : validateWellFormedDocument (.node (.element 2) []) = .error .notDocument := by decide +kernel

/-! ### Completeness: the builder accepts EXACTLY the well-formed spellings

`WellNsDoc` (Lemmas/ParseNsDefs.lean) is "what the builder accepts", written as a predicate on
spellings (`NSNode`: prefixes, start-tag items as piece lists, CDATA interleaving, every span).
`Props/C02.lean` proves SOUNDNESS (the tokens of a well-formed spelling are accepted and give the
denoted document).  Here is the converse, by induction over the builder's loop (Lemmas/ParseNsComplete*.lean:
every accepted token list is reconstructed as a spelling, clause by clause of `WellNsDoc`), so the
`C03_reject_*` list above is COMPLETE: a token list is accepted if and only if it is the token list
of a well-formed spelling.

`WellSpelledTokens mode ts` (Lemmas/ParseNsComplete.lean) :=
  every XML-declaration token in `ts` says version 1.0, and `ts` WITHOUT its declaration tokens is
  EXACTLY `tokensList sns` (every span, every byte position) for some `sns` with `WellNsDoc sns` —
  in document mode with exactly one element and no text at top level (`AbstractTopNs`).

The exact gap between `WellNsDoc` and the code, both sides spelled out:
  * XML declaration: `WellNsDoc` spellings have none; the builder lets a version-1.0 declaration
    token pass WHEREVER it stands (`C03_declaration_skipped`; from a string there is at most one, in
    front) and refuses any other version (`C03_reject_version`).  Hence `declsV10` / `dropDecls`
    in `WellSpelledTokens`.
  * EMPTY text token: the builder makes an empty text node of it (`C03_empty_text_token_corner`);
    no spelling has one (`SPart.Well`: a text part has at least one piece) and no tokenizer output
    has one (`C03_lex_no_empty_text`).  It is excluded by the guard `Token.nonEmptyText`, which the
    right-hand side implies (`C03_well_spelled_no_empty_text`) — so the guard only weakens the
    direction accepted ⇒ spelled.
  Nothing else: the prefix `xml` re-bound, PI targets with a colon, `p:xmlns` as an attribute, …
  are INSIDE `WellNsDoc` (it mirrors the code), see its doc comment. -/

/-- Under the token-shape contract (`C03_lex_shape`) and without empty
    text tokens, in both modes, from any base tables: the builder accepts a token list if and only
    if it is — up to version-1.0 XML declarations — exactly the token list of a well-formed
    spelling.  `→` is the reconstruction, `←` is C02_spelled_ns. -/
theorem C03_accepts_iff_well_spelled {env : Env} (h : EnvBaseNs env) (mode : Mode) (len : Nat) (ts : List Token)
    (hs : TokenShape len ts none) (hne : ∀ t ∈ ts, t.nonEmptyText = true) :
    (∃ p, build mode len env ts none = .ok p) ↔ WellSpelledTokens mode ts :=
  build_accepts_iff h mode len ts hs.tags hne

/-- … and the accepted parse IS the document the reconstructed spelling denotes (the tree read back
    through the tables the parse leaves). -/
theorem C03_accepted_is_denoted {env : Env} (h : EnvBaseNs env) (mode : Mode) (len : Nat) (ts : List Token)
    (hs : TokenShape len ts none) (hne : ∀ t ∈ ts, t.nonEmptyText = true) {p : Parsed}
    (hb : build mode len env ts none = .ok p) :
    ∃ sns, WellNsDoc sns ∧ (mode = .document → AbstractTopNs (NSNode.denote.denoteList baseScope sns)) ∧
      NSNode.tokens.tokensList sns = dropDecls ts ∧ p.tree.value = .document ∧
      decodeNs p.env p.tree.kids = some (NSNode.denote.denoteList baseScope sns) :=
  (build_complete h mode len ts hs.tags hne hb).2

/-- The other direction with its result: a well-spelled list is accepted as the denoted document
    (no hypothesis on the list: soundness needs neither the shape contract nor the guard). -/
theorem C03_well_spelled_accepted {env : Env} (h : EnvBaseNs env) (mode : Mode) (len : Nat) (ts : List Token)
    (hd : declsV10 ts) (sns : List NSNode) (hw : WellNsDoc sns)
    (htop : mode = .document → AbstractTopNs (NSNode.denote.denoteList baseScope sns))
    (htok : NSNode.tokens.tokensList sns = dropDecls ts) :
    ∃ p, build mode len env ts none = .ok p ∧ p.tree.value = .document ∧
      decodeNs p.env p.tree.kids = some (NSNode.denote.denoteList baseScope sns) :=
  build_of_spelling h mode len ts hd sns hw htop htok

/-- The same characterisation up to byte positions and whole-token spans (`Token.erase`,
    `C02_positions_irrelevant`): accepted ⇔ the list passes `check_qname` (every empty prefix at
    offset 0, the one position xot reads) and its erased tokens are those of a well-formed spelling. -/
theorem C03_accepts_iff_well_spelled_erased {env : Env} (h : EnvBaseNs env) (mode : Mode) (len : Nat)
    (ts : List Token) (hs : TokenShape len ts none) (hne : ∀ t ∈ ts, t.nonEmptyText = true) :
    (∃ p, build mode len env ts none = .ok p) ↔ SpelledUpToPositions mode ts :=
  build_accepts_iff_erased h mode len ts hs.tags hne

/-- The guard is implied by the right-hand side: a well-spelled list has no empty text token.  So
    without the guard: `(accepted ∧ no empty text token) ↔ well spelled`. -/
theorem C03_well_spelled_no_empty_text {mode : Mode} {ts : List Token} (h : WellSpelledTokens mode ts) :
    ∀ t ∈ ts, t.nonEmptyText = true :=
  h.nonEmptyText

theorem C03_accepts_iff_well_spelled_unguarded {env : Env} (h : EnvBaseNs env) (mode : Mode) (len : Nat)
    (ts : List Token) (hs : TokenShape len ts none) :
    ((∃ p, build mode len env ts none = .ok p) ∧ ∀ t ∈ ts, t.nonEmptyText = true) ↔ WellSpelledTokens mode ts :=
  ⟨fun ⟨ha, hne⟩ => (C03_accepts_iff_well_spelled h mode len ts hs hne).mp ha,
   fun hw => ⟨(C03_accepts_iff_well_spelled h mode len ts hs hw.nonEmptyText).mpr hw, hw.nonEmptyText⟩⟩

/-- The corner the guard excludes, closed: the one-token list `[Text ""]` is accepted by
    `parse_fragment`'s builder (an empty text node) and is the token list of no well-formed
    spelling.  No tokenizer output contains such a token (`C03_lex_no_empty_text`). -/
theorem C03_empty_text_token_corner :
    (build .fragment 0 Env.fresh emptyTextTokens none).isOk = true ∧ ¬ WellSpelledTokens .fragment emptyTextTokens := by
  refine ⟨by rw [build_eq_buildE]; decide +kernel, fun hw => ?_⟩
  have := hw.nonEmptyText (.text ⟨[], 0⟩) (by simp [emptyTextTokens])
  simp [Token.nonEmptyText] at this

/-- The declaration corner: a version-1.0 XML declaration token is skipped in every builder state
    (so also where no tokenizer puts one). -/
theorem C03_declaration_skipped (b : Builder) (v : StrSpan) (e : Option StrSpan) (s : Option Bool) (sp : StrSpan)
    (hv : v.text = ['1', '.', '0']) : b.step (.declaration v e s sp) = .ok b :=
  step_declaration b e s sp hv

/-- A token list (shape contract, no empty text token) that is NOT
    well spelled is refused with an error — never a panic (`C03_nopanic`), never a tree.  The list of
    `C03_reject_*` theorems is complete. -/
theorem C03_rejects_everything_else {env : Env} (h : EnvBaseNs env) (mode : Mode) (len : Nat) (ts : List Token)
    (hs : TokenShape len ts none) (hne : ∀ t ∈ ts, t.nonEmptyText = true) (hnot : ¬ WellSpelledTokens mode ts) :
    ∃ e env', build mode len env ts none = .err e env' := by
  cases hb : build mode len env ts none with
  | ok p => exact absurd ((C03_accepts_iff_well_spelled h mode len ts hs hne).mp ⟨p, hb⟩) hnot
  | err e env' => exact ⟨e, env', rfl⟩
  | panic => exact absurd hb (C03_nopanic mode len env ts none hs)

/-! ### … on strings -/

/-- Every text token of the reference tokenizer is non-empty: the guard holds of every tokenizer
    output, in both modes. -/
theorem C03_lex_no_empty_text (m : Mode) (s : Str) : ∀ t ∈ (lexMode m s).1, t.nonEmptyText = true :=
  fun t ht => nonEmptyText_of_accLex (C03_lex_classes m s t ht)

/-- `parse` / `parse_fragment` accept a STRING if and only if the tokenizer
    comes to its end without error and its tokens are (up to a version-1.0 XML declaration) exactly
    the tokens of a well-formed spelling.  No hypothesis on the string. -/
theorem C03_string_accepts_iff {env : Env} (h : EnvBaseNs env) (m : Mode) (s : Str) :
    (∃ p, parseString m env s = .ok p) ↔ (lexMode m s).2 = none ∧ WellSpelledTokens m (lexMode m s).1 := by
  have hshape := C03_lex_shape m s
  have hne := C03_lex_no_empty_text m s
  unfold parseString
  cases hle : (lexMode m s).2 with
  | none =>
    rw [hle] at hshape
    rw [C03_accepts_iff_well_spelled h m (strLen s) _ hshape hne]
    simp
  | some pos =>
    constructor
    · rintro ⟨p, hp⟩; exact absurd hp (C03_reject_lexerr m _ env _ pos p)
    · rintro ⟨hn, _⟩; cases hn

/-- … and what is accepted is the document the spelling denotes. -/
theorem C03_string_accepted_is_denoted {env : Env} (h : EnvBaseNs env) (m : Mode) (s : Str) {p : Parsed}
    (hp : parseString m env s = .ok p) :
    ∃ sns, WellNsDoc sns ∧ (m = .document → AbstractTopNs (NSNode.denote.denoteList baseScope sns)) ∧
      NSNode.tokens.tokensList sns = dropDecls (lexMode m s).1 ∧ p.tree.value = .document ∧
      decodeNs p.env p.tree.kids = some (NSNode.denote.denoteList baseScope sns) := by
  have hshape := C03_lex_shape m s
  unfold parseString at hp
  cases hle : (lexMode m s).2 with
  | none =>
    rw [hle] at hshape hp
    exact C03_accepted_is_denoted h m _ _ hshape (C03_lex_no_empty_text m s) hp
  | some pos => rw [hle] at hp; exact absurd hp (C03_reject_lexerr m _ env _ pos p)

/-- Every other string is refused with an error: tokenizer error, or a token list that is no
    well-formed spelling. -/
theorem C03_string_rejects_everything_else {env : Env} (h : EnvBaseNs env) (m : Mode) (s : Str)
    (hnot : ¬ ((lexMode m s).2 = none ∧ WellSpelledTokens m (lexMode m s).1)) :
    ∃ e env', parseString m env s = .err e env' := by
  cases hb : parseString m env s with
  | ok p => exact absurd ((C03_string_accepts_iff h m s).mp ⟨p, hb⟩) hnot
  | err e env' => exact ⟨e, env', rfl⟩
  | panic => exact absurd hb (C03_string_nopanic m env s)

/-! ### Non-vacuity -/

section CompletenessExamples
open XotModel.Witness

/-- An accepted list with its reconstructed spelling: `goodDoc`, the tokens of
    `<p:a xmlns:p='u' b='x&#10;y'><!--c-->t&lt;<![CDATA[c]]></p:a>`, IS the token list of
    `goodDocSpelling` (Lemmas/ParseNsCompleteLex.lean), which is well formed; so it is accepted. -/
example : NSNode.tokens.tokensList goodDocSpelling = goodDoc := by decide +kernel
example : WellNsDoc goodDocSpelling := wellNsDocB_sound _ (by decide +kernel)
example : NSNode.denote.denoteList baseScope goodDocSpelling =
    [.elem ['u'] ['a'] [(['p'], ['u'])] [(([], ['b']), ['x', '\n', 'y'])] [.comment ['c'], .text ['t', '<', 'c']]] := by
  rfl
theorem C03_goodDoc_well_spelled : WellSpelledTokens .document goodDoc :=
  ⟨declsV10_of_noDecl (by decide +kernel), goodDocSpelling, wellNsDocB_sound _ (by decide +kernel),
    fun _ => ⟨by decide +kernel, fun d hd => by
      simp only [goodDocSpelling, NSNode.denote.denoteList, NSNode.denote, List.append_nil, List.mem_singleton] at hd
      subst hd; rfl⟩,
    by decide +kernel⟩
example : ∃ p, build .document goodDocLen Env.fresh goodDoc none = .ok p :=
  (C03_accepts_iff_well_spelled envBaseNs_fresh .document goodDocLen goodDoc (tokenShape_of_B (by decide +kernel))
    (by decide +kernel)).mpr C03_goodDoc_well_spelled

/-- A rejected list: `<a></b>` (`mismatch`) is the token list of no well-formed spelling. -/
example : ¬ WellSpelledTokens .document mismatch := fun hw => by
  obtain ⟨p, hp⟩ := (C03_accepts_iff_well_spelled envBaseNs_fresh .document mismatchLen mismatch
    (tokenShape_of_B (by decide +kernel)) (by decide +kernel)).mpr hw
  have he : (build .document mismatchLen Env.fresh mismatch none).err? =
      some (.invalidCloseTag [] ['b'] ⟨5, 6⟩) := by rw [build_eq_buildE]; decide +kernel
  rw [hp] at he; cases he
example : ∃ e env', build .document mismatchLen Env.fresh mismatch none = .err e env' :=
  C03_rejects_everything_else envBaseNs_fresh .document mismatchLen mismatch (tokenShape_of_B (by decide +kernel))
    (by decide +kernel) (fun hw => by
      obtain ⟨p, hp⟩ := (C03_accepts_iff_well_spelled envBaseNs_fresh .document mismatchLen mismatch
        (tokenShape_of_B (by decide +kernel)) (by decide +kernel)).mpr hw
      have he : (build .document mismatchLen Env.fresh mismatch none).err? =
          some (.invalidCloseTag [] ['b'] ⟨5, 6⟩) := by rw [build_eq_buildE]; decide +kernel
      rw [hp] at he; cases he)

/-- The declaration corner, closed: `<?xml version="1.0"?><a/>` as the tokenizer reports it is well
    spelled (the declaration dropped, the rest is `declFirstSpelling`). -/
example : WellSpelledTokens .document declFirstTokens :=
  ⟨fun v e s sp hm => by
      simp only [declFirstTokens, List.mem_cons, Token.declaration.injEq, reduceCtorEq, List.not_mem_nil, or_false] at hm
      rw [hm.1],
    declFirstSpelling, wellNsDocB_sound _ (by decide +kernel),
    fun _ => ⟨by decide +kernel, fun d hd => by
      simp only [declFirstSpelling, NSNode.denote.denoteList, NSNode.denote, List.append_nil, List.mem_singleton] at hd
      subst hd; rfl⟩,
    by decide +kernel⟩

/-- On strings: `<a>x</a>` is accepted (tokenizer and builder), so the tokenizer came to its end and
    its tokens are a well-formed spelling. -/
example : (lexMode .document ['<', 'a', '>', 'x', '<', '/', 'a', '>']).2 = none ∧
    WellSpelledTokens .document (lexMode .document ['<', 'a', '>', 'x', '<', '/', 'a', '>']).1 := by
  apply (C03_string_accepts_iff envBaseNs_fresh .document _).mp
  have hok : (parseString .document Env.fresh ['<', 'a', '>', 'x', '<', '/', 'a', '>']).isOk = true := by
    have h := lexDocument_render lexWitness3 (by decide +kernel)
    rw [show renderTokens lexWitness3 = ['<', 'a', '>', 'x', '<', '/', 'a', '>'] from by decide +kernel] at h
    simp only [parseString, lexMode]
    rw [h, build_eq_buildE]; decide +kernel
  cases hb : parseString .document Env.fresh ['<', 'a', '>', 'x', '<', '/', 'a', '>'] with
  | ok p => exact ⟨p, rfl⟩
  | err e env' => rw [hb] at hok; cases hok
  | panic => rw [hb] at hok; cases hok

/-- … and `<a></b>` (which the tokenizer reads without error) is refused, so its tokens are no
    well-formed spelling. -/
example : ¬ WellSpelledTokens .document (lexMode .document ['<', 'a', '>', '<', '/', 'b', '>']).1 := by
  intro hw
  have h := lexDocument_render [.elementStart ⟨[], 0⟩ ⟨['a'], 0⟩ ⟨[], 0⟩, .elementEnd .open ⟨[], 0⟩,
    .elementEnd (.close ⟨[], 0⟩ ⟨['b'], 0⟩) ⟨[], 0⟩] (by decide +kernel)
  rw [show renderTokens [.elementStart ⟨[], 0⟩ ⟨['a'], 0⟩ ⟨[], 0⟩, .elementEnd .open ⟨[], 0⟩,
    .elementEnd (.close ⟨[], 0⟩ ⟨['b'], 0⟩) ⟨[], 0⟩] = ['<', 'a', '>', '<', '/', 'b', '>'] from by decide +kernel] at h
  have hle : (lexMode .document ['<', 'a', '>', '<', '/', 'b', '>']).2 = none := by
    simp only [lexMode]; rw [h]
  obtain ⟨p, hp⟩ := (C03_string_accepts_iff envBaseNs_fresh .document _).mpr ⟨hle, hw⟩
  have herr : (parseString .document Env.fresh ['<', 'a', '>', '<', '/', 'b', '>']).isOk = false := by
    simp only [parseString, lexMode]
    rw [h, build_eq_buildE]; decide +kernel
  rw [hp] at herr; cases herr

end CompletenessExamples

end XotModel.Props
