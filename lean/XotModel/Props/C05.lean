/-
  C05 — Each manipulation call has exactly the effect an ordered-tree model predicts.
  Property theorems only.  The specification is `Model/FspecSpec.lean` (`specMove`, `specRemove`,
  `specDetach`, `specUnwrap`, `specWrap`, `specReplace`; `Forest.content` = the forest with the
  handles forgotten) and `Model/FspecSpec2.lean` (`specReplaceX`, `specClone`, `specMapInsert`,
  `specMapRemove`, `specSetValue`, `specTextContentSet`); proofs are in `Lemmas/Fspec*.lean`
  (`clone_node` rests on the C12 development, the map updates on the C11 development).
  The PAIR reading (`Model/FspecSpec3.lean`, `FspecSpec4.lean`: `specMoveP`, `specRemoveP`, `specDetachP`,
  `specUnwrapP`, `specReplaceP`) is proved for EVERY forest with the invariant
  (`Lemmas/FspecPair*.lean`): the sections from "Forests that already hold adjacent
  text nodes" on.
-/
import XotModel.Model.FspecSpec
import XotModel.Lemmas.HTreeBasic
import XotModel.Lemmas.FspecChildList
import XotModel.Lemmas.FspecMoveCalls
import XotModel.Lemmas.FspecContent
import XotModel.Lemmas.FspecString
import XotModel.Lemmas.FspecUnwrap
import XotModel.Lemmas.FspecWrap
import XotModel.Model.FspecSpec2
import XotModel.Model.FspecSpec3
import XotModel.Lemmas.FspecReplContent
import XotModel.Lemmas.FspecClone
import XotModel.Lemmas.FspecMapFrame
import XotModel.Lemmas.FspecTextContentSet
import XotModel.Lemmas.FspecPairRemove
import XotModel.Lemmas.FspecPairAppend
import XotModel.Lemmas.FspecPairAfter
import XotModel.Lemmas.FspecPairBefore
import XotModel.Lemmas.FspecPairString
import XotModel.Lemmas.FcreationSpec
import XotModel.Model.FspecSpec4
import XotModel.Lemmas.FspecPairUnwrap
import XotModel.Lemmas.FspecAgreeMove
import XotModel.Lemmas.FspecPairReplace
import XotModel.Lemmas.FspecPairFrame
import XotModel.Lemmas.FspecNormal
import XotModel.Lemmas.FspecReplExamples
import XotModel.Lemmas.FspecFrameComposite
import XotModel.Lemmas.FspecFrameReplace
import XotModel.Lemmas.FparseHistStep
import XotModel.Lemmas.ParseWitness
import XotModel.Lemmas.FframeGeneral
import XotModel.Lemmas.FframeRest

namespace XotModel.Props
open XotModel XotModel.Spec

/-! ### The survivor of a merge: a recorded finding

  Property text: "text nodes that become adjacent are merged into the earlier one".  When a text
  node is placed BEFORE an existing text node (`prepend`, `insert_before`, and `insert_after` a
  non-text node that is followed by text) xot keeps the existing, i.e. LATER, node and destroys
  the node it was asked to move.  Pinned by xot's own unit tests
  (`test_insert_before_consolidate_text`, `test_prepend_consolidate_text`). -/

/-- `<a>y</a>` and a parentless text node `x`. -/
def laterWitness : Forest :=
  { roots := [.node 0 (.element 2) [.node 1 (.text ['y']) []], .node 2 (.text ['x']) []], next := 3 }

/-- The literal clause is false of the code: `prepend(a, x)` succeeds, the moved (earlier) node 2
    is destroyed and the later node 1 carries `xy`; likewise `insert_before(y, x)`. -/
theorem C05_later_survives_witness :
    laterWitness.inv = true ∧
    (laterWitness.prepend 0 2).2 = .ok ∧
    (laterWitness.prepend 0 2).1.isLive 2 = false ∧
    (laterWitness.prepend 0 2).1.value? 1 = some (.text ['x', 'y']) ∧
    (laterWitness.insertBefore 1 2).2 = .ok ∧
    (laterWitness.insertBefore 1 2).1.isLive 2 = false ∧
    (laterWitness.insertBefore 1 2).1.value? 1 = some (.text ['x', 'y']) ∧
    -- the specification with the rule of the property text keeps node 2 instead
    (specMove Keep.earlier (.firstNormalChildOf 0) 2 laterWitness).isLive 2 = true ∧
    -- and both agree once handles are forgotten
    (laterWitness.prepend 0 2).1.content = (specMove Keep.earlier (.firstNormalChildOf 0) 2 laterWitness).content := by
  decide +kernel

/-! ### Scope

  `Forest.Inv` is the C04 invariant.  `Forest.Normal f` says: if consolidation is on, the forest
  holds no adjacent text nodes.  It follows from `Forest.Inv` while consolidation has never been
  switched off (`normal_of_never_off`); after `set_text_consolidation(false)` … `(true)` adjacent
  text nodes may exist, xot then merges only the pair that becomes adjacent while the
  specification merges the whole run, so `Normal` is the boundary of the statements below. -/

theorem normal_of_never_off {f : Forest} (inv : f.Inv) (h : f.everOff = false) : f.Normal := by
  intro _
  have := inv.valid
  rw [h] at this
  exact this

/-! ### remove, detach -/

/-- `remove` destroys exactly the targeted subtree; the two text nodes it separated are merged
    into the earlier one (handle for handle, for either survivor rule). -/
theorem C05_remove {f : Forest} {n : Nat} (inv : f.Inv) (norm : f.Normal) (live : f.isLive n = true) :
    (f.remove n).1 = specRemove Keep.earlier n f ∧ (f.remove n).2 = .ok :=
  ⟨remove_spec (Keep.earlier_spec n) inv norm live, rfl⟩

/-- `detach`: the subtree becomes a parentless tree, nothing else changes but the merge of the two
    text nodes it separated. -/
theorem C05_detach {f : Forest} {n : Nat} (inv : f.Inv) (norm : f.Normal) (live : f.isLive n = true) :
    (f.detach n).1 = specDetach Keep.earlier n f ∧ (f.detach n).2 = .ok :=
  ⟨detach_spec (Keep.earlier_spec n) inv norm live, rfl⟩

/-! ### append -/

/-- A successful `append(p, c)` is the specification's move of `c` to the last position under
    `p`, handle for handle: with the survivor rule of the property text (the earlier node) … -/
theorem C05_append_exact {f : Forest} {p c : Nat} (inv : f.Inv) (norm : f.Normal)
    (hok : (f.append p c).2 = .ok) :
    (f.append p c).1 = specMove Keep.earlier (.lastChildOf p) c f :=
  append_spec (Keep.earlier_spec c) inv norm hok

/-- … and, equally, with xot's rule "the moved node never survives" (for `append` they coincide). -/
theorem C05_append_resident {f : Forest} {p c : Nat} (inv : f.Inv) (norm : f.Normal)
    (hok : (f.append p c).2 = .ok) :
    (f.append p c).1 = specMove (Keep.resident c) (.lastChildOf p) c f :=
  append_spec (Keep.resident_spec c) inv norm hok

/-- The statement with handles forgotten. -/
theorem C05_append {f : Forest} {p c : Nat} (inv : f.Inv) (norm : f.Normal)
    (hok : (f.append p c).2 = .ok) :
    (f.append p c).1.content = (specMove Keep.earlier (.lastChildOf p) c f).content := by
  rw [C05_append_exact inv norm hok]

/-- Same position: `append(p, c)` with `c` already the last child of `p` returns the forest itself. -/
theorem C05_samepos_append {f : Forest} {p c : Nat} (hc : f.structureCheck (some p) c = true)
    (h : f.lastChild p = some c) : f.append p c = (f, .ok) := by
  simp [Forest.append, hc, h]

/-! ### prepend, insert_after, insert_before

  All geometries: the moved node may be a parentless tree, a child of another node or a child of
  the destination parent itself (a reordering within one child list), including the case of
  `insert_after` where the reference node is the very text node that the merge at the old place
  consumes.  For each: the content statement with the survivor rule of the property text, and
  the handle-for-handle statement with xot's rule (`Keep.resident`: the moved node never
  survives a merge — the recorded finding `C05:text-placed-before-text-keeps-later-node`). -/

theorem C05_prepend {f : Forest} {p c : Nat} (inv : f.Inv) (norm : f.Normal)
    (hok : (f.prepend p c).2 = .ok) :
    (f.prepend p c).1.content = (specMove Keep.earlier (.firstNormalChildOf p) c f).content :=
  prepend_content inv norm hok

theorem C05_prepend_resident {f : Forest} {p c : Nat} (inv : f.Inv) (norm : f.Normal)
    (hok : (f.prepend p c).2 = .ok) :
    (f.prepend p c).1 = specMove (Keep.resident c) (.firstNormalChildOf p) c f :=
  prepend_spec inv norm hok

theorem C05_insertAfter {f : Forest} {r c : Nat} (inv : f.Inv) (norm : f.Normal)
    (hok : (f.insertAfter r c).2 = .ok) :
    (f.insertAfter r c).1.content = (specMove Keep.earlier (.after r) c f).content :=
  insertAfter_content inv norm hok

theorem C05_insertAfter_resident {f : Forest} {r c : Nat} (inv : f.Inv) (norm : f.Normal)
    (hok : (f.insertAfter r c).2 = .ok) :
    (f.insertAfter r c).1 = specMove (Keep.resident c) (.after r) c f :=
  insertAfter_spec inv norm hok

theorem C05_insertBefore {f : Forest} {r c : Nat} (inv : f.Inv) (norm : f.Normal)
    (hok : (f.insertBefore r c).2 = .ok) :
    (f.insertBefore r c).1.content = (specMove Keep.earlier (.before r) c f).content :=
  insertBefore_content inv norm hok

theorem C05_insertBefore_resident {f : Forest} {r c : Nat} (inv : f.Inv) (norm : f.Normal)
    (hok : (f.insertBefore r c).2 = .ok) :
    (f.insertBefore r c).1 = specMove (Keep.resident c) (.before r) c f :=
  insertBefore_spec inv norm hok

/-- Non-vacuity and the hard corner: `x<b/>y<c/>` (all children of one element), `insert_after(y, b)`:
    the old-site merge consumes the reference `y`; the call succeeds and gives `xy<b/><c/>`. -/
example :
    let f : Forest := { roots := [.node 0 (.element 2) [.node 1 (.text ['x']) [], .node 2 (.element 3) [],
                          .node 3 (.text ['y']) [], .node 4 (.element 6) []]], next := 5 }
    f.inv = true ∧ (f.insertAfter 3 2).2 = .ok ∧
      (f.insertAfter 3 2).1.content =
        [.node (.element 2) [.node (.text ['x', 'y']) [], .node (.element 3) [], .node (.element 6) []]] := by
  decide +kernel

/-- Same position, the other three moves: a call naming the place the node already occupies
    returns the forest itself. -/
theorem C05_samepos_prepend {f : Forest} {p c : Nat} (hc : f.structureCheck (some p) c = true)
    (h : f.firstChild p = some c) : f.prepend p c = (f, .ok) := by
  simp [Forest.prepend, hc, h]

theorem C05_samepos_insertAfter {f : Forest} {r c : Nat} (hc : f.structureCheck (f.parent? r) c = true)
    (hs : f.siblingReferenceCheck r c = true) (h : f.nextSibling r = some c) : f.insertAfter r c = (f, .ok) := by
  simp [Forest.insertAfter, hc, hs, h]

theorem C05_samepos_insertBefore {f : Forest} {r c : Nat} (hc : f.structureCheck (f.parent? r) c = true)
    (hs : f.siblingReferenceCheck r c = true) (h : f.prevSibling r = some c) : f.insertBefore r c = (f, .ok) := by
  simp [Forest.insertBefore, hc, hs, h]

/-- … and the specification agrees: an occupied destination means "no change". -/
theorem C05_samepos_spec (keep : Keep) (dest : Dest) (c : Nat) (f : Forest) (h : dest.occupiedBy f c = true) :
    specMove keep dest c f = f := by
  unfold specMove; rw [h]; rfl

/-! ### Frame: no other node is lost, reordered or altered

  `Ctx.shape` of a node = (parent handle, handles of the left siblings, own value, handles of the
  right siblings).  A node whose parent is neither the parent the moved subtree leaves nor the one
  it arrives at, and that does not lie in the moved subtree, keeps its shape. -/

theorem C05_frame_append {f : Forest} {p c : Nat} {t : HTree} (inv : f.Inv) (norm : f.Normal)
    (hok : (f.append p c).2 = .ok) (hgc : f.get? c = some t)
    {x : Nat} {cx : HTree.Ctx} (hx : f.ctx? x = some cx)
    (h1 : cx.parent ≠ p) (h2 : some cx.parent ≠ f.parent? c) (h3 : cx.parent ∉ HTree.handles t)
    (h4 : x ∉ HTree.handles t) :
    ∃ cx', (f.append p c).1.ctx? x = some cx' ∧ cx'.shape = cx.shape :=
  append_frame_all inv hok hgc hx h1 h2 h3 h4

theorem C05_frame_prepend {f : Forest} {p c : Nat} {t : HTree} (inv : f.Inv) (norm : f.Normal)
    (hok : (f.prepend p c).2 = .ok) (hgc : f.get? c = some t)
    {x : Nat} {cx : HTree.Ctx} (hx : f.ctx? x = some cx)
    (h1 : cx.parent ≠ p) (h2 : some cx.parent ≠ f.parent? c) (h3 : cx.parent ∉ HTree.handles t)
    (h4 : x ∉ HTree.handles t) :
    ∃ cx', (f.prepend p c).1.ctx? x = some cx' ∧ cx'.shape = cx.shape :=
  prepend_frame_all inv hok hgc hx h1 h2 h3 h4

theorem C05_frame_insertAfter {f : Forest} {r c q : Nat} {t : HTree} (inv : f.Inv) (norm : f.Normal)
    (hok : (f.insertAfter r c).2 = .ok) (hgc : f.get? c = some t) (hq : f.parent? r = some q)
    {x : Nat} {cx : HTree.Ctx} (hx : f.ctx? x = some cx)
    (h1 : cx.parent ≠ q) (h2 : some cx.parent ≠ f.parent? c) (h3 : cx.parent ∉ HTree.handles t)
    (h4 : x ∉ HTree.handles t) :
    ∃ cx', (f.insertAfter r c).1.ctx? x = some cx' ∧ cx'.shape = cx.shape :=
  insertAfter_frame_all inv hok hgc hq hx h1 h2 h3 h4

theorem C05_frame_insertBefore {f : Forest} {r c q : Nat} {t : HTree} (inv : f.Inv) (norm : f.Normal)
    (hok : (f.insertBefore r c).2 = .ok) (hgc : f.get? c = some t) (hq : f.parent? r = some q)
    {x : Nat} {cx : HTree.Ctx} (hx : f.ctx? x = some cx)
    (h1 : cx.parent ≠ q) (h2 : some cx.parent ≠ f.parent? c) (h3 : cx.parent ∉ HTree.handles t)
    (h4 : x ∉ HTree.handles t) :
    ∃ cx', (f.insertBefore r c).1.ctx? x = some cx' ∧ cx'.shape = cx.shape :=
  insertBefore_frame_all inv hok hgc hq hx h1 h2 h3 h4

theorem C05_frame_remove {f : Forest} {n : Nat} {t : HTree} (inv : f.Inv) (norm : f.Normal)
    (hg : f.get? n = some t) {x : Nat} {cx : HTree.Ctx} (hx : f.ctx? x = some cx)
    (h1 : some cx.parent ≠ f.parent? n) (h3 : cx.parent ∉ HTree.handles t) (h4 : x ∉ HTree.handles t) :
    ∃ cx', (f.remove n).1.ctx? x = some cx' ∧ cx'.shape = cx.shape :=
  remove_frame_all inv hg hx h1 h3 h4

/-! ### Which text node survives a merge at the destination (what the code does)

  After a text node: the EARLIER (existing) node survives.  Before a text node: the LATER
  (existing) node survives and the moved, earlier, node is destroyed — against the letter of the
  property ("merged into the earlier one"); recorded finding, pinned by xot's unit tests. -/

theorem C05_survivor_append {f : Forest} {p c a : Nat} {ta tc : Str} (inv : f.Inv) (norm : f.Normal)
    (hc : f.consolidation = true) (hsc : f.structureCheck (some p) c = true)
    (hlast : f.lastChild p = some a) (hac : a ≠ c)
    (hta : f.textOf a = some ta) (htc : f.textOf c = some tc) :
    (f.append p c).2 = .ok ∧ (f.append p c).1.isLive c = false ∧
      (f.append p c).1.value? a = some (.text (ta ++ tc)) :=
  append_survivor inv norm hc hsc hlast hac hta htc

theorem C05_survivor_insertAfter {f : Forest} {r c : Nat} {tr tc : Str} (inv : f.Inv) (norm : f.Normal)
    (hc : f.consolidation = true) (hsc : f.structureCheck (f.parent? r) c = true)
    (hsr : f.siblingReferenceCheck r c = true) (hsame : f.nextSibling r ≠ some c)
    (htr : f.textOf r = some tr) (htc : f.textOf c = some tc) :
    (f.insertAfter r c).2 = .ok ∧ (f.insertAfter r c).1.isLive c = false ∧
      (f.insertAfter r c).1.value? r = some (.text (tr ++ tc)) :=
  insertAfter_survivor inv norm hc hsc hsr hsame htr htc

/-- `prepend`: the LATER node survives. -/
theorem C05_survivor_prepend {f : Forest} {p c b : Nat} {tb tc : Str} (inv : f.Inv) (norm : f.Normal)
    (hc : f.consolidation = true) (hsc : f.structureCheck (some p) c = true)
    (hfirst : f.firstChild p = some b) (hbc : b ≠ c)
    (htb : f.textOf b = some tb) (htc : f.textOf c = some tc) :
    (f.prepend p c).2 = .ok ∧ (f.prepend p c).1.isLive c = false ∧
      (f.prepend p c).1.value? b = some (.text (tc ++ tb)) :=
  prepend_survivor inv norm hc hsc hfirst hbc htb htc

/-- `insert_before`: the LATER node survives (`hprev` holds automatically in a forest without
    adjacent text when `r` is a text node and `c` is not directly before it). -/
theorem C05_survivor_insertBefore {f : Forest} {r c : Nat} {tr tc : Str} (inv : f.Inv) (norm : f.Normal)
    (hc : f.consolidation = true) (hsc : f.structureCheck (f.parent? r) c = true)
    (hsr : f.siblingReferenceCheck r c = true) (hsame : f.prevSibling r ≠ some c)
    (hprev : ∀ a, f.prevSibling r = some a → f.textOf a = none)
    (htr : f.textOf r = some tr) (htc : f.textOf c = some tc) :
    (f.insertBefore r c).2 = .ok ∧ (f.insertBefore r c).1.isLive c = false ∧
      (f.insertBefore r c).1.value? r = some (.text (tc ++ tr)) :=
  insertBefore_survivor inv norm hc hsc hsr hsame hprev htr htc

/-! ### element_unwrap, element_wrap -/

/-- `element_unwrap` destroys exactly the wrapper: its normal children take its place, in order
    (its attribute and namespace nodes go with it), and the text nodes that become adjacent at
    the two seams are merged — including the three-way case `x<w>y</w>z`. Handle for handle, for
    either survivor rule. -/
theorem C05_unwrap {f : Forest} {n : Nat} (inv : f.Inv) (norm : f.Normal)
    (hok : (f.elementUnwrap n).2 = .ok) :
    (f.elementUnwrap n).1 = specUnwrap Keep.earlier n f :=
  unwrap_spec (Keep.earlier_spec n) inv norm hok

/-- `element_wrap` adds exactly one element — the fresh handle `f.next`, which is also the handle it
    returns — at the place of the node, with the node as its only child. -/
theorem C05_wrap {f : Forest} {n name : Nat} (inv : f.Inv) (norm : f.Normal)
    (hok : (f.elementWrap n name).2.1 = .ok) :
    (f.elementWrap n name).1 = specWrap n name f ∧ (f.elementWrap n name).2.2 = f.next :=
  wrap_spec inv norm hok

/-- Non-vacuity: the three-way merge of `element_unwrap` (`x<w>y</w>z` becomes `xyz`) and a wrap. -/
example :
    let f : Forest := { roots := [.node 0 (.element 2) [.node 1 (.text ['x']) [],
                          .node 2 (.element 3) [.node 3 (.attribute 2 ['v']) [], .node 4 (.text ['y']) []],
                          .node 5 (.text ['z']) []]], next := 6 }
    f.inv = true ∧ (f.elementUnwrap 2).2 = .ok ∧
      (f.elementUnwrap 2).1.content = [.node (.element 2) [.node (.text ['x', 'y', 'z']) []]] ∧
      (f.elementWrap 4 6).2.1 = .ok ∧ (f.elementWrap 4 6).2.2 = 6 := by
  decide +kernel

/-! ### String values

  `Forest.strValues` lists (handle, string value) of every node that is not a text node, in
  document order; `plainMove dest c f` is the same move on the plain ordered-tree model with
  consolidation off (cut, graft, nothing merged).  After a successful move every non-text node —
  in particular every ancestor of the old and of the new place — has exactly the string value the
  unmerged move gives it, and the non-text nodes are the same, in the same order. -/

theorem C05_stringvalue_append {f : Forest} {p c : Nat} (inv : f.Inv) (norm : f.Normal)
    (hok : (f.append p c).2 = .ok) :
    (f.append p c).1.strValues = (plainMove (.lastChildOf p) c f).strValues :=
  append_keeps_strValues inv hok

theorem C05_stringvalue_prepend {f : Forest} {p c : Nat} (inv : f.Inv) (norm : f.Normal)
    (hok : (f.prepend p c).2 = .ok) :
    (f.prepend p c).1.strValues = (plainMove (.firstNormalChildOf p) c f).strValues :=
  prepend_keeps_strValues inv hok

theorem C05_stringvalue_insertAfter {f : Forest} {r c : Nat} (inv : f.Inv) (norm : f.Normal)
    (hok : (f.insertAfter r c).2 = .ok) :
    (f.insertAfter r c).1.strValues = (plainMove (.after r) c f).strValues :=
  insertAfter_keeps_strValues inv hok

theorem C05_stringvalue_insertBefore {f : Forest} {r c : Nat} (inv : f.Inv) (norm : f.Normal)
    (hok : (f.insertBefore r c).2 = .ok) :
    (f.insertBefore r c).1.strValues = (plainMove (.before r) c f).strValues :=
  insertBefore_keeps_strValues inv hok

/-- When a text node is appended after a text node, the EARLIER node survives: it keeps its
    handle and carries both data, the appended node is gone. -/
theorem C05_survivor_append_witness :
    let f : Forest := { roots := [.node 0 (.element 2) [.node 1 (.text ['x']) []], .node 2 (.text ['y']) []], next := 3 }
    f.inv = true ∧ (f.append 0 2).2 = .ok ∧ (f.append 0 2).1.isLive 2 = false ∧
      (f.append 0 2).1.value? 1 = some (.text ['x', 'y']) := by
  decide +kernel

/-- Non-vacuity of the hypotheses: a forest satisfying `Inv` and `Normal` on which `append` succeeds
    with a merge at the old place (`x<b/>y` loses `b`) and none at the new one. -/
example :
    let f : Forest := { roots := [.node 0 (.element 2) [.node 1 (.text ['x']) [], .node 2 (.element 3) [], .node 3 (.text ['y']) []],
                                  .node 4 (.element 2) []], next := 5 }
    f.inv = true ∧ (f.append 4 2).2 = .ok ∧ (f.append 4 2).1.value? 1 = some (.text ['x', 'y']) ∧
      (f.append 4 2).1.isLive 3 = false := by
  decide +kernel

/-! ### replace

  `specReplace keep a b f` (`FspecSpec.lean`): the replacing subtree `b` is cut from wherever it is
  (the text nodes it separated there are merged), the replaced subtree `a` disappears, `b` stands
  where `a` stood, and the text runs of the two touched child lists are merged — three-way
  `x b z` when `b` is a text node put between two text nodes.  `specReplaceX` fixes the survivor
  rule xot follows: `b` already next to `a` — the call is `remove(a)` and the earlier node of the
  merged pair survives (also when it is the replacing node); otherwise `b` is moved and, like
  every moved node, never survives a merge (`Keep.resident b`).  Proved for all geometries: `b`
  parentless, in another tree, under another parent, or a sibling of `a`; `a` between two text
  nodes (where `remove_subtree(a)` leaves an intermediate forest with two adjacent text nodes) or
  not; consolidation on or off. -/

/-- A successful `replace(a, b)` is the specification, handle for handle. -/
theorem C05_replace_exact {f : Forest} {a b : Nat} (inv : f.Inv) (norm : f.Normal)
    (hok : (f.replace a b).2 = .ok) :
    (f.replace a b).1 = specReplaceX a b f :=
  replace_spec inv norm hok

/-- … and, handles forgotten, the specification with the survivor rule of the property text. -/
theorem C05_replace {f : Forest} {a b : Nat} (inv : f.Inv) (norm : f.Normal)
    (hok : (f.replace a b).2 = .ok) :
    (f.replace a b).1.content = (specReplace Keep.earlier a b f).content := by
  rw [replace_spec inv norm hok]
  obtain ⟨q, vq, l, A, r, t, ra, _⟩ := replace_unpack inv hok
  exact specReplace_content_keep inv ra _ _

/-- Exactly the replaced subtree is destroyed: handles stay distinct, no handle is created (every
    handle afterwards is an old one outside the replaced subtree `A`, so all of `A` is gone), and
    every other node that is not a text node is still there; no handle is handed out.  (A text
    node can disappear only by being merged into its left neighbour, as in every move — precisely:
    only if it is `b` itself, a child of `a`'s parent or a child of `b`'s old parent.) -/
theorem C05_replace_destroys {f : Forest} {a b : Nat} {A : HTree} (inv : f.Inv) (norm : f.Normal)
    (hok : (f.replace a b).2 = .ok) (hA : f.get? a = some A) :
    (f.replace a b).1.allHandles.Nodup ∧
    (∀ h ∈ (f.replace a b).1.allHandles, h ∈ f.allHandles ∧ h ∉ HTree.handles A) ∧
    (∀ h ∈ f.allHandles, h ∉ HTree.handles A → f.textOf h = none → h ∈ (f.replace a b).1.allHandles) ∧
    (∀ h ∈ f.allHandles, h ∉ HTree.handles A → h ≠ b →
      (∀ p, f.parent? h = some p → some p ≠ f.parent? a ∧ some p ≠ f.parent? b) →
      h ∈ (f.replace a b).1.allHandles) ∧
    (f.replace a b).1.next = f.next := by
  rw [replace_spec inv norm hok]
  obtain ⟨q, vq, l, A', r, t, ra, _⟩ := replace_unpack inv hok
  have e : A' = A := by
    have := ra.live_a; rw [hA] at this; exact (Option.some.inj this).symm
  subst e
  have hq : f.parent? a = some q := Forest.parent?_of_ctx? ra.ctx_a
  refine ⟨specReplace_nodup _ inv ra, specReplace_handles_sub _ inv ra, specReplace_handles_kept _ inv ra, ?_,
    (specReplace_flags _ inv ra).1⟩
  intro h hh hnA hb hp
  apply specReplace_handles_kept_precise _ inv ra hh hnA
  right; right
  refine ⟨hb, fun p e => ?_⟩
  obtain ⟨p1, p2⟩ := hp p e
  exact ⟨fun e' => p1 (by rw [hq, e']), p2⟩

/-- Frame: a node outside the replacing subtree `t` whose parent is neither `a`'s parent nor
    `b`'s old parent (and lies neither in `t` nor in the replaced subtree `A`) keeps its parent,
    its value and the handles of its left and right siblings. -/
theorem C05_frame_replace {f : Forest} {a b q : Nat} {A t : HTree} (inv : f.Inv) (norm : f.Normal)
    (hok : (f.replace a b).2 = .ok) (hA : f.get? a = some A) (hb : f.get? b = some t)
    (hq : f.parent? a = some q)
    {x : Nat} {cx : HTree.Ctx} (hx : f.ctx? x = some cx)
    (h1 : cx.parent ≠ q) (h2 : some cx.parent ≠ f.parent? b) (h3 : cx.parent ∉ HTree.handles t)
    (h4 : x ∉ HTree.handles t) (h5 : cx.parent ∉ HTree.handles A) :
    ∃ cx', (f.replace a b).1.ctx? x = some cx' ∧ cx'.shape = cx.shape := by
  rw [replace_spec inv norm hok]
  obtain ⟨q', vq, l, A', r, t', ra, _⟩ := replace_unpack inv hok
  have e1 : A' = A := by
    have := ra.live_a; rw [hA] at this; exact (Option.some.inj this).symm
  have e2 : t' = t := by
    have := ra.hgb; rw [hb] at this; exact (Option.some.inj this).symm
  have e3 : q' = q := by
    have := Forest.parent?_of_ctx? ra.ctx_a; rw [hq] at this; exact (Option.some.inj this).symm
  subst e1 e2 e3
  exact frame_specReplace _ inv ra hx h1 h2 h3 h4 h5

/-- Non-vacuity and the three-way merge: `<p>x<a/>z</p>` and a parentless text node `y`:
    `replace(a, y)` gives `<p>xyz</p>` in ONE text node, the earlier one (as of /repo f7b549c); the replaced
    node between two text nodes and a replacing element whose removal makes its own neighbours
    merge (`u<b/>v` elsewhere). -/
example :
    let f : Forest := { roots := [.node 0 (.element 2) [.node 1 (.text ['x']) [], .node 2 (.element 3) [],
                          .node 3 (.text ['z']) []], .node 4 (.text ['y']) [],
                          .node 5 (.element 6) [.node 6 (.text ['u']) [], .node 7 (.element 9) [], .node 8 (.text ['v']) []]],
                        next := 9 }
    f.inv = true ∧ (f.replace 2 4).2 = .ok ∧
      (f.replace 2 4).1.content = [.node (.element 2) [.node (.text ['x', 'y', 'z']) []],
        .node (.element 6) [.node (.text ['u']) [], .node (.element 9) [], .node (.text ['v']) []]] ∧
      (f.replace 2 4).1.value? 1 = some (.text ['x', 'y', 'z']) ∧
      (f.replace 2 4).1 = specReplaceX 2 4 f ∧
      (f.replace 2 7).2 = .ok ∧
      (f.replace 2 7).1.content = [.node (.element 2) [.node (.text ['x']) [], .node (.element 9) [], .node (.text ['z']) []],
        .node (.text ['y']) [], .node (.element 6) [.node (.text ['u', 'v']) []]] ∧
      (f.replace 2 7).1 = specReplaceX 2 7 f := by
  decide +kernel

/-! ### clone_node

  "clone_node adds exactly one copy": a corollary of the C12 development (`cloneNode_full`). -/

/-- `clone_node` of a live node cannot panic; the old trees stay, unchanged and in order; exactly
    one tree is added after them, its root is the returned node, all its handles are new; with
    handles forgotten the forest is the old content followed by the copy (`specCloneContent`), and
    handle for handle it is `specClone` (the structural copy numbered from `f.next`). -/
theorem C05_clone_node {f : Forest} {n : Nat} {src : HTree} (inv : f.Inv) (hsrc : f.get? n = some src) :
    ∃ c C, (f.cloneNode n).2 = some c ∧ C.handle = c ∧
      (f.cloneNode n).1.roots = f.roots ++ [C] ∧
      (f.cloneNode n).1.content = specCloneContent n f ∧
      (∀ h ∈ HTree.handles C, f.next ≤ h ∧ h < (f.cloneNode n).1.next ∧ h ∉ f.allHandles) ∧
      (f.cloneNode n).1.consolidation = f.consolidation ∧ (f.cloneNode n).1.everOff = f.everOff ∧
      (f.cloneNode n).1.corrupt = f.corrupt :=
  cloneNode_spec' inv hsrc

theorem C05_clone_node_exact {f : Forest} {n : Nat} {src : HTree} (inv : f.Inv) (hsrc : f.get? n = some src) :
    (f.cloneNode n).1 = specClone n f :=
  cloneNode_eq_specClone inv hsrc

/-- In a forest without adjacent text nodes the copy is literally the source. -/
theorem C05_clone_node_normal {f : Forest} {n : Nat} {src : HTree} (inv : f.Inv) (norm : f.Normal)
    (hsrc : f.get? n = some src) :
    (f.cloneNode n).1.content = f.content ++ [src.erase] := by
  obtain ⟨c, C, _, _, _, h, _⟩ := cloneNode_spec' inv hsrc
  rw [h, specCloneContent_normal norm hsrc]

example :
    let f : Forest := { roots := [.node 0 (.element 2) [.node 1 (.attribute 5 ['v']) [], .node 2 (.text ['x']) [],
                          .node 3 (.element 3) []]], next := 4 }
    f.inv = true ∧ (f.cloneNode 0).2 = some 5 ∧
      (f.cloneNode 0).1.content = f.content ++ f.content ∧ (f.cloneNode 0).1 = specClone 0 f := by
  decide +kernel

/-! ### Attribute and namespace updates touch exactly one entry

  `insert(key, value)` / `remove(key)` on the attribute or namespace view `k` of an element `e`
  (`set_attribute`, `set_namespace`, `remove_attribute`, …). -/

/-- `insert` is the specification: one edit of `e`'s child list. -/
theorem C05_map_insert {f : Forest} {k : Forest.MapKind} {e : Nat} {entry : Value} (inv : f.Inv)
    (he : f.isElement e = true) (hm : k.matches entry = true) :
    f.mapInsert k e entry = (specMapInsert k e entry f, .ok) :=
  mapInsert_spec inv he hm

/-- … the child list of `e` afterwards: an existing key keeps its node (handle, place), only the
    payload changes, nothing is created; a new key is carried by exactly one new leaf `f.next`
    placed after the view's entries; every other child is the same node at the same place. -/
theorem C05_map_insert_entry {f : Forest} {k : Forest.MapKind} {e : Nat} {entry v : Value} {ks : List HTree}
    (inv : f.Inv) (he : f.isElement e = true) (hm : k.matches entry = true)
    (hg : f.get? e = some (.node e v ks)) :
    (∀ n, ks.find? (isEntry k (Forest.entryKey entry)) = some n →
      ∃ X Y, ks = X ++ n :: Y ∧ (∀ c ∈ X, isEntry k (Forest.entryKey entry) c = false) ∧
        (f.mapInsert k e entry).1.get? e =
          some (.node e v (X ++ n.setValue (Forest.entryUpdate n.value entry) :: Y)) ∧
        (f.mapInsert k e entry).1.next = f.next) ∧
    (ks.find? (isEntry k (Forest.entryKey entry)) = none →
      ∃ A B, ks = A ++ B ∧ (∀ c ∈ A, kidRank c ≤ viewRank k) ∧ (∀ c ∈ B, viewRank k < kidRank c) ∧
        (f.mapInsert k e entry).1.get? e = some (.node e v (A ++ .node f.next entry [] :: B)) ∧
        (f.mapInsert k e entry).1.next = f.next + 1) :=
  mapInsert_kids inv he hm hg

/-- `remove` is the specification; the child list of `e` loses exactly the entry with the key. -/
theorem C05_map_remove {f : Forest} {k : Forest.MapKind} {e key : Nat} (inv : f.Inv)
    (he : f.isElement e = true) :
    f.mapRemove k e key = (specMapRemove k e key f, .ok) :=
  mapRemove_spec inv he

theorem C05_map_remove_entry {f : Forest} {k : Forest.MapKind} {e key : Nat} {v : Value} {ks : List HTree}
    (inv : f.Inv) (he : f.isElement e = true) (hg : f.get? e = some (.node e v ks)) :
    (∀ n, ks.find? (isEntry k key) = some n →
      ∃ X Y, ks = X ++ n :: Y ∧ (f.mapRemove k e key).1.get? e = some (.node e v (X ++ Y))) ∧
    (ks.find? (isEntry k key) = none → (f.mapRemove k e key).1.get? e = some (.node e v ks)) ∧
    (f.mapRemove k e key).1.next = f.next :=
  mapRemove_kids inv he hg

/-- Frame of both updates: every node under another parent keeps parent, value and sibling
    handles; the parentless trees are as many as before and those not holding `e` are identical. -/
theorem C05_map_frame {f : Forest} {k : Forest.MapKind} {e : Nat} (inv : f.Inv) (he : f.isElement e = true)
    {x : Nat} {cx : HTree.Ctx} (hx : f.ctx? x = some cx) (hne : cx.parent ≠ e) :
    (∀ entry, k.matches entry = true →
      ∃ cx', (f.mapInsert k e entry).1.ctx? x = some cx' ∧ cx'.shape = cx.shape) ∧
    (∀ key, ∃ cx', (f.mapRemove k e key).1.ctx? x = some cx' ∧ cx'.shape = cx.shape) := by
  constructor
  · intro entry hm
    rw [mapInsert_spec inv he hm]
    exact specMapInsert_ctx_frame inv he hm hx hne
  · intro key
    rw [mapRemove_spec inv he]
    exact specMapRemove_ctx_frame inv he hx hne

theorem C05_map_roots_frame {f : Forest} {k : Forest.MapKind} {e : Nat} (inv : f.Inv) (he : f.isElement e = true)
    {i : Nat} {r : HTree} (hr : f.roots[i]? = some r) (her : e ∉ HTree.handles r) :
    (∀ entry, k.matches entry = true → (f.mapInsert k e entry).1.roots[i]? = some r) ∧
    (∀ key, (f.mapRemove k e key).1.roots[i]? = some r) := by
  constructor
  · intro entry hm
    rw [mapInsert_spec inv he hm]
    exact (specMapInsert_roots_frame k e entry f).2 i r hr her
  · intro key
    rw [mapRemove_spec inv he]
    exact (specMapRemove_roots_frame k e key f).2 i r hr her

example :
    let f : Forest := { roots := [.node 0 (.element 2) [.node 1 (.namespace 2 3) [], .node 2 (.attribute 5 ['v']) [],
                          .node 3 (.text ['x']) []]], next := 4 }
    f.inv = true ∧
      (f.mapInsert .attributes 0 (.attribute 5 ['w'])).1.content =
        [.node (.element 2) [.node (.namespace 2 3) [], .node (.attribute 5 ['w']) [], .node (.text ['x']) []]] ∧
      (f.mapInsert .attributes 0 (.attribute 6 ['w'])).1.content =
        [.node (.element 2) [.node (.namespace 2 3) [], .node (.attribute 5 ['v']) [], .node (.attribute 6 ['w']) [],
          .node (.text ['x']) []]] ∧
      (f.mapRemove .namespaces 0 2).1.content =
        [.node (.element 2) [.node (.attribute 5 ['v']) [], .node (.text ['x']) []]] := by
  decide +kernel

/-! ### Setters: exactly one value changes

  `specSetValue n v f`: the node `n` gets the value `v`; nothing else. -/

theorem C05_setText {f : Forest} {n : Nat} {s : Str} (hok : (f.setText n s).2 = .ok) :
    (f.setText n s).1 = specSetValue n (.text s) f ∧ ∃ old, f.value? n = some (.text old) :=
  setText_spec hok

theorem C05_setComment {f : Forest} {n : Nat} {s : Str} (hok : (f.setComment n s).2 = .ok) :
    (f.setComment n s).1 = specSetValue n (.comment s) f ∧ ∃ old, f.value? n = some (.comment old) :=
  setComment_spec hok

theorem C05_setPiData {f : Forest} {n : Nat} {d : Option Str} (hok : (f.setPiData n d).2 = .ok) :
    ∃ t old, f.value? n = some (.pi t old) ∧ (f.setPiData n d).1 = specSetValue n (.pi t (piData d)) f :=
  setPiData_spec hok

theorem C05_setElementName {f : Forest} {n name : Nat} (hok : (f.setElementName n name).2 = .ok) :
    (f.setElementName n name).1 = specSetValue n (.element name) f ∧ ∃ old, f.value? n = some (.element old) :=
  setElementName_spec hok

/-- What `specSetValue` leaves alone: the handles and their order, the position of every node
    (parent and sibling handles), every other value, every subtree not holding `n`, the counters
    and flags. -/
theorem C05_setValue_frame (f : Forest) (n : Nat) (v : Value) :
    (specSetValue n v f).allHandles = f.allHandles ∧
    (∀ x, ((specSetValue n v f).ctx? x).map HTree.Ctx.place = (f.ctx? x).map HTree.Ctx.place) ∧
    (∀ x, x ≠ n → (specSetValue n v f).value? x = f.value? x) ∧
    (f.isLive n = true → (specSetValue n v f).value? n = some v) ∧
    (∀ x t, f.get? x = some t → n ∉ HTree.handles t → (specSetValue n v f).get? x = some t) ∧
    (specSetValue n v f).next = f.next ∧ (specSetValue n v f).consolidation = f.consolidation :=
  ⟨specSetValue_allHandles n v f, fun x => specSetValue_ctx f n x v,
    fun _ hx => specSetValue_value_other v hx, fun hl => specSetValue_value_self v hl,
    fun _ _ hg hn => specSetValue_get_far v hg hn, rfl, rfl⟩

/-- `text_content_mut(n).set(s)`: an element without normal children gains exactly one text child
    (handle `f.next`, placed last); a node whose only normal child is a text node has that node's
    data replaced; the call cannot panic, and a refusal changes nothing. -/
theorem C05_textContentSet {f : Forest} {n : Nat} {s : Str} (inv : f.Inv)
    (hok : (f.textContentSet n s).2 = .ok) :
    (f.textContentSet n s).1 = specTextContentSet n s f :=
  textContentSet_spec inv hok

theorem C05_textContentSet_total {f : Forest} (inv : f.Inv) (n : Nat) (s : Str) :
    (f.textContentSet n s).2 ≠ .panic ∧ ((f.textContentSet n s).2 ≠ .ok → (f.textContentSet n s).1 = f) :=
  ⟨textContentSet_no_panic inv n s, textContentSet_refused inv⟩

example :
    let f : Forest := { roots := [.node 0 (.element 2) [.node 1 (.attribute 5 ['v']) [], .node 2 (.element 3) [.node 3 (.text ['x']) []]],
                          .node 4 (.comment ['c']) [], .node 5 (.element 3) []], next := 6 }
    f.inv = true ∧ (f.setText 3 ['y']).2 = .ok ∧ (f.setComment 4 ['d']).2 = .ok ∧ (f.setElementName 2 6).2 = .ok ∧
      (f.textContentSet 2 ['k']).1.content =
        [.node (.element 2) [.node (.attribute 5 ['v']) [], .node (.element 3) [.node (.text ['k']) []]],
          .node (.comment ['c']) [], .node (.element 3) []] ∧
      (f.textContentSet 5 ['k']).1.content =
        [.node (.element 2) [.node (.attribute 5 ['v']) [], .node (.element 3) [.node (.text ['x']) []]],
          .node (.comment ['c']) [], .node (.element 3) [.node (.text ['k']) []]] ∧
      (f.textContentSet 0 ['k']).2 = .err .invalidOperation := by
  decide +kernel

/-! ### Forests that already hold adjacent text nodes (after `set_text_consolidation(false)` … `(true)`)

  Outside `Forest.Normal` the specification of `FspecSpec.lean` (merge the maximal runs) is not
  what xot does: xot merges exactly the pair that becomes adjacent.  `Model/FspecSpec3.lean` has
  that PAIR reading of "text nodes that become adjacent are merged" (`specMoveP`, `specRemoveP`,
  `specDetachP`: the two neighbours a leaving node separated, the earlier surviving; the moved text
  node with its new left neighbour if that is text, else with its new right one, the neighbour
  surviving).  Below it is proved for EVERY forest with `Forest.Inv` — no `Forest.Normal` — for
  `remove`, `detach` and all four moves.  In ONE corner (`Spec.selfMerge`: the moved text node
  stands between two text nodes and, once those are merged, already occupies the requested place)
  the helper `add_consolidate_text_nodes` must not take the node itself for its neighbour (finding
  `C05:move-changes-character-data`).  As of /repo eccbbb7 it takes the node's own sibling there, and
  `append` / `insert_before` are the specification in that corner too (`C05_pair_append`,
  `C05_pair_insertBefore`, `C05_selfMerge_append`, `C05_selfMerge_insertBefore`, closed examples below).
  `element_unwrap`, `element_wrap` and `replace` on such forests: section "The composite calls on
  every forest (adjacent text nodes allowed)". -/

theorem C05_pair_remove {f : Forest} {n : Nat} (inv : f.Inv) (live : f.isLive n = true) :
    (f.remove n).1 = specRemoveP n f :=
  remove_pair inv live

theorem C05_pair_detach {f : Forest} {n : Nat} (inv : f.Inv) (live : f.isLive n = true) :
    (f.detach n).1 = specDetachP n f :=
  detach_pair inv live

theorem C05_pair_prepend {f : Forest} {p c : Nat} (inv : f.Inv) (hok : (f.prepend p c).2 = .ok) :
    (f.prepend p c).1 = specMoveP (.firstNormalChildOf p) c f :=
  prepend_pair inv hok

theorem C05_pair_insertAfter {f : Forest} {r c : Nat} (inv : f.Inv) (hok : (f.insertAfter r c).2 = .ok) :
    (f.insertAfter r c).1 = specMoveP (.after r) c f :=
  insertAfter_pair inv hok

/-- `append` against the pair reading, full strength (every forest with the invariant, every
    geometry, the corner `selfMerge` included). -/
theorem C05_pair_append {f : Forest} {p c : Nat} (inv : f.Inv) (hok : (f.append p c).2 = .ok) :
    (f.append p c).1 = specMoveP (.lastChildOf p) c f :=
  append_pair inv hok

/-- `insert_before` against the pair reading, full strength. -/
theorem C05_pair_insertBefore {f : Forest} {r c : Nat} (inv : f.Inv)
    (hok : (f.insertBefore r c).2 = .ok) :
    (f.insertBefore r c).1 = specMoveP (.before r) c f :=
  insertBefore_pair inv hok

/-- `append` and `insert_before` equal the pair specification on every forest with the invariant whenever they
    answer `ok`, the corner `selfMerge` included, stated as propositions (`C05_pair_statements_true`). -/
def C05_pair_appendStatement : Prop :=
  ∀ (f : Forest) (p c : Nat), f.Inv → (f.append p c).2 = .ok → (f.append p c).1 = specMoveP (.lastChildOf p) c f
def C05_pair_insertBeforeStatement : Prop :=
  ∀ (f : Forest) (r c : Nat), f.Inv → (f.insertBefore r c).2 = .ok →
    (f.insertBefore r c).1 = specMoveP (.before r) c f

theorem C05_pair_statements_true : C05_pair_appendStatement ∧ C05_pair_insertBeforeStatement :=
  ⟨fun _ _ _ inv hok => append_pair inv hok, fun _ _ _ inv hok => insertBefore_pair inv hok⟩

/-- In the corner `selfMerge` (the moved TEXT node stands between two text nodes and, once those
    are merged, already occupies the requested place) the call succeeds and is the specification:
    the node is merged into the text node its two neighbours have become (as of /repo eccbbb7). -/
theorem C05_selfMerge_append {f : Forest} {p c : Nat} (inv : f.Inv)
    (h : selfMerge f (.lastChildOf p) c = true) :
    (f.append p c).2 = .ok ∧ (f.append p c).1 = specMoveP (.lastChildOf p) c f :=
  append_selfMerge inv h

theorem C05_selfMerge_insertBefore {f : Forest} {r c : Nat} (inv : f.Inv)
    (h : selfMerge f (.before r) c = true) :
    (f.insertBefore r c).2 = .ok ∧ (f.insertBefore r c).1 = specMoveP (.before r) c f :=
  insertBefore_selfMerge inv h

/-- Non-vacuity: a forest with adjacent text nodes on which the pair reading differs from the
    whole-run reading (`remove` of the element in `w x <b/> y z`: only `x`, `y` are merged). -/
example :
    let f : Forest := { roots := [.node 0 (.element 2) [.node 1 (.text ['w']) [], .node 2 (.text ['x']) [],
        .node 3 (.element 3) [], .node 4 (.text ['y']) [], .node 5 (.text ['z']) []], .node 6 (.text ['q']) []],
                        next := 7, consolidation := true, everOff := true }
    f.inv = true ∧
      (f.remove 3).1.content = [.node (.element 2) [.node (.text ['w']) [], .node (.text ['x', 'y']) [],
        .node (.text ['z']) []], .node (.text ['q']) []] ∧
      (f.remove 3).1 = specRemoveP 3 f ∧ (f.remove 3).1 ≠ specRemove Keep.earlier 3 f ∧
      (f.insertAfter 1 6).2 = .ok ∧ (f.insertAfter 1 6).1 = specMoveP (.after 1) 6 f ∧
      (f.prepend 0 6).2 = .ok ∧ (f.prepend 0 6).1 = specMoveP (.firstNormalChildOf 0) 6 f ∧
      (f.append 0 6).2 = .ok ∧ selfMerge f (.lastChildOf 0) 6 = false ∧
      (f.insertBefore 3 6).2 = .ok ∧ selfMerge f (.before 3) 6 = false := by
  decide +kernel

/-- `<e>abcd</e>` as FOUR adjacent text nodes (consolidation was off when they were appended, and is
    on again). -/
def selfMergeWitness : Forest :=
  { roots := [.node 0 (.element 2) [.node 1 (.text ['a']) [], .node 2 (.text ['b']) [],
      .node 3 (.text ['c']) [], .node 4 (.text ['d']) []]], next := 5, consolidation := true, everOff := true }

/-- `insert_before(d, b)`: `a` and `c` are merged, `b` then already stands before `d`; the helper
    takes `b`'s own previous sibling `ac` and merges `b` into it: `acb`, `d` — the pair reading; no
    character is lost (as of /repo eccbbb7).  Likewise `append(e, b)` on
    the children `a b c` gives `acb`. -/
theorem C05_selfmerge_keeps_text_witness :
    selfMergeWitness.inv = true ∧
    (selfMergeWitness.insertBefore 4 2).2 = .ok ∧
    (selfMergeWitness.insertBefore 4 2).1.content =
      [.node (.element 2) [.node (.text ['a', 'c', 'b']) [], .node (.text ['d']) []]] ∧
    (selfMergeWitness.insertBefore 4 2).1.isLive 2 = false ∧
    (selfMergeWitness.insertBefore 4 2).1 = specMoveP (.before 4) 2 selfMergeWitness ∧
    selfMerge selfMergeWitness (.before 4) 2 = true ∧
    (let g : Forest := { selfMergeWitness with roots := [.node 0 (.element 2) [.node 1 (.text ['a']) [],
        .node 2 (.text ['b']) [], .node 3 (.text ['c']) []]] }
     (g.append 0 2).2 = .ok ∧
     (g.append 0 2).1.content = [.node (.element 2) [.node (.text ['a', 'c', 'b']) []]] ∧
     (g.append 0 2).1 = specMoveP (.lastChildOf 0) 2 g ∧
     selfMerge g (.lastChildOf 0) 2 = true) := by
  decide +kernel

/-- **No move loses (or invents) character data** — for EVERY forest with the invariant, adjacent
    text nodes under consolidation allowed (no `Forest.Normal`), every geometry, every successful
    `append` / `prepend` / `insert_after` / `insert_before`: afterwards the non-text nodes are the
    same, in the same document order, and each of them — every element, every document node, in
    particular every ancestor of the place left and of the place of arrival, and every root — has
    exactly the string value the plain ordered-tree move gives it (`plainMove`: cut the subtree,
    graft it, merge nothing).  Whatever consolidation does to the text NODES (which of two merged
    nodes survives, the pair merged at the old place, the node merged at the new place, the corner
    `selfMerge`), the character DATA is where the move puts it.  (A parentless text node is not in
    `strValues`; it is untouched unless it is the moved node, whose data then is part of the string
    value of its new parent.)  Stated of the code as of /repo eccbbb7. -/
theorem C05_move_keeps_character_data {f : Forest} (inv : f.Inv) :
    (∀ p c, (f.append p c).2 = .ok →
      (f.append p c).1.strValues = (plainMove (.lastChildOf p) c f).strValues) ∧
    (∀ p c, (f.prepend p c).2 = .ok →
      (f.prepend p c).1.strValues = (plainMove (.firstNormalChildOf p) c f).strValues) ∧
    (∀ r c, (f.insertAfter r c).2 = .ok →
      (f.insertAfter r c).1.strValues = (plainMove (.after r) c f).strValues) ∧
    (∀ r c, (f.insertBefore r c).2 = .ok →
      (f.insertBefore r c).1.strValues = (plainMove (.before r) c f).strValues) :=
  ⟨fun _ _ hok => append_keeps_strValues inv hok, fun _ _ hok => prepend_keeps_strValues inv hok,
   fun _ _ hok => insertAfter_keeps_strValues inv hok, fun _ _ hok => insertBefore_keeps_strValues inv hok⟩

/-- The pair reading itself keeps the character data (what the four parts above are proved from). -/
theorem C05_pair_spec_keeps_character_data {f : Forest} {dest : Dest} {c : Nat} {t : HTree} {q : Nat}
    {vq : Value} {Lq : List HTree} (inv : f.Inv) (hgc : f.get? c = some t) (sq : SiteAt f q vq Lq)
    (hqt : q ∉ HTree.handles t) (hvq : vq.isText = false) (hsite : dest.site f = some q) :
    (specMoveP dest c f).strValues = (plainMove dest c f).strValues :=
  specMoveP_strValues inv hgc sq hqt hvq hsite

/-- Non-vacuity, in the corner: `<e>abcd</e>` as four text nodes, `insert_before(d, b)`,
    `insert_after(c, b)`, `append(e, c)` (with `d` last: `b` and `d` merged, `c` last already),
    `prepend(e, b)`: the element's string value is that of the plain move each time. -/
example :
    selfMergeWitness.inv = true ∧
    (selfMergeWitness.insertBefore 4 2).2 = .ok ∧
    (selfMergeWitness.insertBefore 4 2).1.strValues = [(0, ['a', 'c', 'b', 'd'])] ∧
    (plainMove (.before 4) 2 selfMergeWitness).strValues = [(0, ['a', 'c', 'b', 'd'])] ∧
    (selfMergeWitness.insertAfter 3 2).1.strValues = [(0, ['a', 'c', 'b', 'd'])] ∧
    (selfMergeWitness.append 0 3).2 = .ok ∧ selfMerge selfMergeWitness (.lastChildOf 0) 3 = true ∧
    (selfMergeWitness.append 0 3).1.strValues = [(0, ['a', 'b', 'd', 'c'])] ∧
    (plainMove (.lastChildOf 0) 3 selfMergeWitness).strValues = [(0, ['a', 'b', 'd', 'c'])] ∧
    (selfMergeWitness.prepend 0 2).1.strValues = [(0, ['b', 'a', 'c', 'd'])] := by
  decide +kernel

/-! ### The convenience calls: a node creation followed by a move (`Model/Fcreation.lean`)

  `new_document_with_element(n)` = create a document node, then the specification's move of `n`
  to its last (only) place — in particular the place `n` LEAVES is consolidated like after any
  other move; `append_text(p, s)` (`append_element`, `append_comment`,
  `append_processing_instruction`) = create the node, then move it to the last place under `p`,
  where a text node is merged into a trailing text node (the earlier node survives).  Corollaries
  of the `append` theorems: creating a node keeps `Forest.Inv` and `Forest.Normal`. -/

theorem C05_new_document_with_element {f : Forest} {n : Nat} (inv : f.Inv) (norm : f.Normal)
    (hok : (f.newDocumentWithElement n).2.1 = .ok) :
    (f.newDocumentWithElement n).1 = specMove Keep.earlier (.lastChildOf f.next) n f.newDocument.1 ∧
    (f.newDocumentWithElement n).2.2 = f.next ∧ f.isElement n = true := by
  unfold Forest.newDocumentWithElement at hok ⊢
  cases he : f.isElement n with
  | false => rw [he] at hok; simp at hok
  | true =>
    rw [he] at hok
    simp only [Bool.not_true, Bool.false_eq_true, if_false] at hok ⊢
    exact ⟨C05_append_exact (Fcreation.newNode_inv inv _) (Fcreation.newNode_normal norm _) hok, rfl, trivial⟩

/-- … without `Forest.Normal`, against the PAIR reading. -/
theorem C05_pair_new_document_with_element {f : Forest} {n : Nat} (inv : f.Inv)
    (hok : (f.newDocumentWithElement n).2.1 = .ok) :
    (f.newDocumentWithElement n).1 = specMoveP (.lastChildOf f.next) n f.newDocument.1 := by
  unfold Forest.newDocumentWithElement at hok ⊢
  cases he : f.isElement n with
  | false => rw [he] at hok; simp at hok
  | true =>
    rw [he] at hok
    simp only [Bool.not_true, Bool.false_eq_true, if_false] at hok ⊢
    exact C05_pair_append (Fcreation.newNode_inv inv _) hok

/-- `append_text` / `append_element` / `append_comment` / `append_processing_instruction`, by the
    value `v` of the node they create (handle `f.next`). -/
theorem C05_append_new {f : Forest} {p : Nat} {v : Value} (inv : f.Inv) (norm : f.Normal)
    (hok : (f.appendNew p v).2 = .ok) :
    (f.appendNew p v).1 = specMove Keep.earlier (.lastChildOf p) f.next (f.newNode v).1 :=
  C05_append_exact (Fcreation.newNode_inv inv v) (Fcreation.newNode_normal norm v) hok

theorem C05_pair_append_new {f : Forest} {p : Nat} {v : Value} (inv : f.Inv) (hok : (f.appendNew p v).2 = .ok) :
    (f.appendNew p v).1 = specMoveP (.lastChildOf p) f.next (f.newNode v).1 :=
  C05_pair_append (Fcreation.newNode_inv inv v) hok

theorem C05_append_text {f : Forest} {p : Nat} {s : Str} (inv : f.Inv) (norm : f.Normal)
    (hok : (f.appendText p s).2 = .ok) :
    (f.appendText p s).1 = specMove Keep.earlier (.lastChildOf p) f.next (f.newText s).1 :=
  C05_append_new inv norm hok

theorem C05_append_element {f : Forest} {p name : Nat} (inv : f.Inv) (norm : f.Normal)
    (hok : (f.appendElement p name).2 = .ok) :
    (f.appendElement p name).1 = specMove Keep.earlier (.lastChildOf p) f.next (f.newElement name).1 :=
  C05_append_new inv norm hok

theorem C05_append_comment {f : Forest} {p : Nat} {s : Str} (inv : f.Inv) (norm : f.Normal)
    (hok : (f.appendComment p s).2 = .ok) :
    (f.appendComment p s).1 = specMove Keep.earlier (.lastChildOf p) f.next (f.newComment s).1 :=
  C05_append_new inv norm hok

theorem C05_append_processing_instruction {f : Forest} {p t : Nat} {d : Option Str} (inv : f.Inv) (norm : f.Normal)
    (hok : (f.appendPi p t d).2 = .ok) :
    (f.appendPi p t d).1 = specMove Keep.earlier (.lastChildOf p) f.next (f.newPi t d).1 :=
  C05_append_new inv norm hok

/-- `append_namespace(e, prefix, ns)` on an element is `namespaces_mut(e).insert(prefix, ns)`, i.e.
    `specMapInsert`: a new prefix is carried by exactly the node the call creates (handle
    `f.next`, placed last among the namespace nodes), which is returned; for an existing prefix
    the existing node is updated and returned, and the created node stays behind parentless
    (it was never handed out). -/
theorem C05_append_namespace {f : Forest} {e : Nat} (pfx ns : Nat) (inv : f.Inv) (he : f.isElement e = true) :
    (f.appendNamespace e pfx ns).2.1 = .ok ∧
    (f.appendNamespace e pfx ns).1 =
      (match f.mapGetNode .namespaces e pfx with
       | some _ => ((specMapInsert .namespaces e (.namespace pfx ns) f).newNode (.namespace pfx ns)).1
       | none => specMapInsert .namespaces e (.namespace pfx ns) f) ∧
    (f.appendNamespace e pfx ns).2.2 =
      (match f.mapGetNode .namespaces e pfx with | some x => x.handle | none => f.next) := by
  have h := Fcreation.appendNamespace_mapInsert inv he pfx ns
  rw [C05_map_insert inv he rfl] at h
  exact h

/-- The node-map wrappers `set_attribute`, `set_namespace`, `remove_attribute`, `remove_namespace`
    ARE the `insert` / `remove` of the mutable views (definitionally), hence `C05_map_insert` /
    `C05_map_remove`. -/
theorem C05_set_attribute {f : Forest} {e name : Nat} {v : Str} (inv : f.Inv) (he : f.isElement e = true) :
    f.setAttribute e name v = (specMapInsert .attributes e (.attribute name v) f, .ok) :=
  C05_map_insert inv he rfl
theorem C05_set_namespace {f : Forest} {e pfx ns : Nat} (inv : f.Inv) (he : f.isElement e = true) :
    f.setNamespace e pfx ns = (specMapInsert .namespaces e (.namespace pfx ns) f, .ok) :=
  C05_map_insert inv he rfl
theorem C05_remove_attribute {f : Forest} {e name : Nat} (inv : f.Inv) (he : f.isElement e = true) :
    f.removeAttribute e name = (specMapRemove .attributes e name f, .ok) := C05_map_remove inv he
theorem C05_remove_namespace {f : Forest} {e pfx : Nat} (inv : f.Inv) (he : f.isElement e = true) :
    f.removeNamespace e pfx = (specMapRemove .namespaces e pfx f, .ok) := C05_map_remove inv he

/-- The setters behind `element_mut`, `attribute_node_mut`, `namespace_node_mut`,
    `processing_instruction_mut().set_target`, `text_mut().get_mut()`: exactly one value changes,
    and it keeps its kind (name of the attribute, prefix of the declaration, data of the PI). -/
theorem C05_creation_setters {f : Forest} {n : Nat} :
    (∀ name, (f.elementSetName n name).2 = .ok → (f.elementSetName n name).1 = specSetValue n (.element name) f) ∧
    (∀ s, (f.attributeSetValue n s).2 = .ok →
      ∃ k old, f.value? n = some (.attribute k old) ∧ (f.attributeSetValue n s).1 = specSetValue n (.attribute k s) f) ∧
    (∀ ns, (f.namespaceSetNamespace n ns).2 = .ok →
      ∃ p old, f.value? n = some (.namespace p old) ∧ (f.namespaceSetNamespace n ns).1 = specSetValue n (.namespace p ns) f) ∧
    (∀ t, (f.piSetTarget n t).2 = .ok →
      ∃ old d, f.value? n = some (.pi old d) ∧ (f.piSetTarget n t).1 = specSetValue n (.pi t d) f) ∧
    (∀ s, (f.textPush n s).2 = .ok →
      ∃ old, f.value? n = some (.text old) ∧ (f.textPush n s).1 = specSetValue n (.text (old ++ s)) f) := by
  refine ⟨fun name hok => ?_, fun s hok => ?_, fun ns hok => ?_, fun t hok => ?_, fun s hok => ?_⟩
  · unfold Forest.elementSetName at hok ⊢
    split
    · exact setValue_eq_spec f n _
    · rename_i h; rw [if_neg h] at hok; cases hok
  · unfold Forest.attributeSetValue at hok ⊢
    split
    · rename_i k old hv; exact ⟨k, old, hv, setValue_eq_spec f n _⟩
    · rename_i h
      split at hok
      · rename_i k old hv; exact absurd hv (h k old)
      · cases hok
  · unfold Forest.namespaceSetNamespace at hok ⊢
    split
    · rename_i p old hv; exact ⟨p, old, hv, setValue_eq_spec f n _⟩
    · rename_i h
      split at hok
      · rename_i p old hv; exact absurd hv (h p old)
      · cases hok
  · unfold Forest.piSetTarget at hok ⊢
    split
    · rename_i old d hv; exact ⟨old, d, hv, setValue_eq_spec f n _⟩
    · rename_i h
      split at hok
      · rename_i old d hv; exact absurd hv (h old d)
      · cases hok
  · unfold Forest.textPush at hok ⊢
    split
    · rename_i old hv; exact ⟨old, hv, setValue_eq_spec f n _⟩
    · rename_i h
      split at hok
      · rename_i old hv; exact absurd hv (h old)
      · cases hok

/-- `value_mut` as in its documentation: dispatches to the setter of the node's kind. -/
theorem C05_value_mut_set (f : Forest) (n : Nat) (s : Str) :
    f.valueMutSet n s =
      (match f.value? n with
       | some (.text _) => f.setText n s
       | some (.comment _) => f.setComment n s
       | some (.attribute _ _) => f.attributeSetValue n s
       | some (.pi _ _) => f.setPiData n (some s)
       | _ => (f, .err .invalidOperation)) := rfl

/-- Non-vacuity, on a case where moving the element brings two text nodes together: `<doc>a<e>x</e>b</doc>`;
    `new_document_with_element(e)` moves `e` under a new document node (handle 5) AND merges the
    two text nodes it separated (`a` keeps its identity and holds `ab`, `b` is removed); a
    non-element is refused with nothing created; `append_text` after a trailing text node is
    merged into it. -/
example :
    let f : Forest := { roots := [.node 0 (.element 2) [.node 1 (.text ['a']) [], .node 2 (.element 3) [.node 3 (.text ['x']) []],
                                    .node 4 (.text ['b']) []]], next := 5 }
    f.inv = true ∧ (f.newDocumentWithElement 2).2 = (.ok, 5) ∧
      (f.newDocumentWithElement 2).1.roots =
        [.node 0 (.element 2) [.node 1 (.text ['a', 'b']) []], .node 5 .document [.node 2 (.element 3) [.node 3 (.text ['x']) []]]] ∧
      (f.newDocumentWithElement 2).1.isRemoved 4 = true ∧
      (f.newDocumentWithElement 2).1 = specMove Keep.earlier (.lastChildOf 5) 2 f.newDocument.1 ∧
      (f.newDocumentWithElement 2).1 = specMoveP (.lastChildOf 5) 2 f.newDocument.1 ∧
      f.newDocumentWithElement 1 = (f, .err .invalidOperation, 0) ∧
      (f.appendText 0 ['c']).2 = .ok ∧ (f.appendText 0 ['c']).1.value? 4 = some (.text ['b', 'c']) ∧
      (f.appendText 0 ['c']).1.isLive 5 = false ∧
      (f.appendText 1 ['c']).2 = .err .invalidOperation ∧ (f.appendText 1 ['c']).1 = (f.newText ['c']).1 ∧
      (f.appendNamespace 0 2 3).2 = (.ok, 5) ∧ (f.appendNamespace 0 2 3).1 = specMapInsert .namespaces 0 (.namespace 2 3) f := by
  decide +kernel

/-! ### The two readings agree on forests without adjacent text nodes

  Specification against specification (no model function involved): on a forest with `Forest.Inv`
  and `Forest.Normal` the pair reading `specMoveP` IS the whole-run reading `specMove` with xot's
  survivor rule — for every live node `c` and every destination whose parent `q` is not a text
  node and does not lie in the moved subtree (for `after` / `before`: a reference node other than
  `c`); in particular for every move that passes xot's argument checks. -/

theorem C05_specMoveP_eq_specMove_on_normal {f : Forest} {dest : Dest} {c : Nat} {t : HTree} {q : Nat}
    {vq : Value} {Lq : List HTree} (inv : f.Inv) (norm : f.Normal) (hgc : f.get? c = some t)
    (sq : SiteAt f q vq Lq) (hqt : q ∉ HTree.handles t) (hvq : vq.isText = false) (hsite : dest.site f = some q)
    (hrefc : ∀ x, (dest = .after x ∨ dest = .before x) → x ≠ c) :
    specMoveP dest c f = specMove (Keep.resident c) dest c f :=
  PairAll.specMoveP_eq_specMove inv norm hgc sq hqt hvq hsite hrefc

/-- … for `append` / `prepend`, from `add_structure_check`. -/
theorem C05_specMoveP_eq_specMove_under {f : Forest} {p c : Nat} (inv : f.Inv) (norm : f.Normal)
    (hsc : f.structureCheck (some p) c = true) :
    specMoveP (.lastChildOf p) c f = specMove (Keep.resident c) (.lastChildOf p) c f ∧
    specMoveP (.firstNormalChildOf p) c f = specMove (Keep.resident c) (.firstNormalChildOf p) c f :=
  specMoveP_eq_specMove_under inv norm hsc

/-- … for `insert_after` / `insert_before`, from `add_structure_check` and `sibling_reference_check`. -/
theorem C05_specMoveP_eq_specMove_beside {f : Forest} {r c : Nat} (inv : f.Inv) (norm : f.Normal)
    (hsc : f.structureCheck (f.parent? r) c = true) (hsr : f.siblingReferenceCheck r c = true) :
    specMoveP (.after r) c f = specMove (Keep.resident c) (.after r) c f ∧
    specMoveP (.before r) c f = specMove (Keep.resident c) (.before r) c f :=
  specMoveP_eq_specMove_beside inv norm hsc hsr

/-- … and for `remove` (either survivor rule). -/
theorem C05_specRemoveP_eq_specRemove_on_normal {f : Forest} {n : Nat} {t : HTree} (inv : f.Inv) (norm : f.Normal)
    (hg : f.get? n = some t) :
    specRemoveP n f = specRemove Keep.earlier n f ∧ specRemoveP n f = specRemove (Keep.resident n) n f :=
  ⟨specRemoveP_eq_specRemove inv norm (Keep.earlier_spec n) hg, specRemoveP_eq_specRemove inv norm (Keep.resident_spec n) hg⟩

/-- … and for `detach`. -/
theorem C05_specDetachP_eq_specDetach_on_normal {f : Forest} {n : Nat} {t : HTree} (inv : f.Inv) (norm : f.Normal)
    (hg : f.get? n = some t) : specDetachP n f = specDetach Keep.earlier n f :=
  specDetachP_eq_specDetach inv norm (Keep.earlier_spec n) hg

/-- Non-vacuity: `<a>x<b/>y</a><c>z</c>` (no adjacent text), `b` moved behind `z`: both readings
    give `<a>xy</a><c>z<b/></c>`. -/
example :
    let f : Forest := { roots := [.node 0 (.element 2) [.node 1 (.text ['x']) [], .node 2 (.element 3) [],
        .node 3 (.text ['y']) []], .node 4 (.element 6) [.node 5 (.text ['z']) []]], next := 6 }
    f.inv = true ∧ f.structureCheck (f.parent? 5) 2 = true ∧ f.siblingReferenceCheck 5 2 = true ∧
      specMoveP (.after 5) 2 f = specMove (Keep.resident 2) (.after 5) 2 f ∧
      (specMoveP (.after 5) 2 f).content = [.node (.element 2) [.node (.text ['x', 'y']) []],
        .node (.element 6) [.node (.text ['z']) [], .node (.element 3) []]] := by
  decide +kernel

/-! ### The composite calls on every forest (adjacent text nodes allowed)

  `Model/FspecSpec4.lean`: `specUnwrapP` — the wrapper is replaced by its normal children and exactly
  the pairs that have become adjacent are merged (left neighbour / first child, last child / right
  neighbour, and the two neighbours when nothing is left between them); `specWrap` merges nothing, so
  it is its own pair reading; `specReplaceP` — the replacing node leaves (pair merge at the place it
  leaves), the replaced subtree disappears, the replacing node takes its place and is merged with
  its new left neighbour, else its right one, and in the first case the left neighbour then with the
  right one (three-way).  All for EVERY forest with `Forest.Inv`, no `Forest.Normal`. -/

/-- `element_unwrap`, pair reading, every forest with the invariant, handle for handle. -/
theorem C05_pair_unwrap {f : Forest} {n : Nat} (inv : f.Inv) (hok : (f.elementUnwrap n).2 = .ok) :
    (f.elementUnwrap n).1 = specUnwrapP n f :=
  unwrap_pair inv hok

/-- `element_wrap`: exactly one new element, nothing merged — without `Forest.Normal`. -/
theorem C05_pair_wrap {f : Forest} {n name : Nat} (inv : f.Inv) (hok : (f.elementWrap n name).2.1 = .ok) :
    (f.elementWrap n name).1 = specWrap n name f ∧ (f.elementWrap n name).2.2 = f.next := by
  cases hpar : f.parent? n with
  | none => exact wrap_spec_root inv hpar hok
  | some p => exact wrap_spec_kid inv hpar hok

/-- `replace` against the pair reading of the property, FULL strength: every forest with the
    invariant (adjacent text nodes allowed), every geometry, handle for handle, the corner
    `Spec.selfMergeReplace` (finding `C05:replace-selfmerge-leaves-adjacent-text`) included: as of /repo 609b613
    the last consolidation of `replace` looks from the node that followed the replaced node, see the example
    below. -/
theorem C05_pair_replace {f : Forest} {a b : Nat} (inv : f.Inv) (hok : (f.replace a b).2 = .ok) :
    (f.replace a b).1 = specReplaceP a b f :=
  replace_pair inv hok

/-- `<e>x b p <a/> z</e>` with the text nodes `x`, `b`, `p`, `z` separate (consolidation was off when
    they were appended, and is on again). -/
def selfReplaceWitness : Forest :=
  { roots := [.node 0 (.element 2) [.node 1 (.text ['x']) [], .node 2 (.text ['b']) [], .node 3 (.text ['p']) [],
      .node 4 (.element 3) [], .node 5 (.text ['z']) []]], next := 6, consolidation := true, everOff := true }

/-- The corner `Spec.selfMergeReplace`: `replace(a, b)`.  `b` leaves: `x` and `p` are merged
    (`p` disappears); `b`, put in the place of `a`, is merged into `x` — which then stands next to `z`,
    and the two, having BECOME adjacent in this call, are merged as well: ONE text node `xpbz`, the
    earliest node `x` surviving (as of /repo 609b613).  In the ordinary
    geometry (`b` elsewhere) the three nodes `p`, `b`, `z` are merged and `x`, adjacent to `p` before
    the call, stays. -/
example :
    selfReplaceWitness.inv = true ∧ (selfReplaceWitness.replace 4 2).2 = .ok ∧
    selfMergeReplace selfReplaceWitness 4 2 = true ∧
    (selfReplaceWitness.replace 4 2).1.content =
      [.node (.element 2) [.node (.text ['x', 'p', 'b', 'z']) []]] ∧
    (selfReplaceWitness.replace 4 2).1.value? 1 = some (.text ['x', 'p', 'b', 'z']) ∧
    (selfReplaceWitness.replace 4 2).1.allHandles = [0, 1] ∧
    (selfReplaceWitness.replace 4 2).1 = specReplaceP 4 2 selfReplaceWitness ∧
    (selfReplaceWitness.replace 4 2).1.inv = true ∧
    (let g : Forest := { selfReplaceWitness with roots := [.node 0 (.element 2) [.node 1 (.text ['x']) [],
        .node 3 (.text ['p']) [], .node 4 (.element 3) [], .node 5 (.text ['z']) []], .node 2 (.text ['b']) []] }
     (g.replace 4 2).2 = .ok ∧ selfMergeReplace g 4 2 = false ∧
     (g.replace 4 2).1.content = [.node (.element 2) [.node (.text ['x']) [], .node (.text ['p', 'b', 'z']) []]] ∧
     (g.replace 4 2).1 = specReplaceP 4 2 g) := by
  decide +kernel

/-- Non-vacuity on a forest WITH adjacent text nodes: `<e>w x <u>i j<k/>m</u> y z <v/></e>` and a
    parentless text `r`.  `element_unwrap(u)` merges exactly `(x, i)` and `(m, y)` — `w`, `j`, `z` stay;
    `element_wrap(x)` merges nothing; `replace(v, r)` merges `r` into `z` only; `replace(u, r)` gives
    the three-way merge of `x`, `r`, `y` and leaves `w`, `z`. -/
example :
    let f : Forest := { roots := [.node 0 (.element 2) [.node 1 (.text ['w']) [], .node 2 (.text ['x']) [],
        .node 3 (.element 3) [.node 4 (.text ['i']) [], .node 5 (.text ['j']) [], .node 6 (.element 6) [],
          .node 7 (.text ['m']) []],
        .node 8 (.text ['y']) [], .node 9 (.text ['z']) [], .node 10 (.element 6) []], .node 11 (.text ['r']) []],
                        next := 12, consolidation := true, everOff := true }
    f.inv = true ∧
      (f.elementUnwrap 3).2 = .ok ∧ (f.elementUnwrap 3).1 = specUnwrapP 3 f ∧
      (f.elementUnwrap 3).1.content = [.node (.element 2) [.node (.text ['w']) [], .node (.text ['x', 'i']) [],
        .node (.text ['j']) [], .node (.element 6) [], .node (.text ['m', 'y']) [], .node (.text ['z']) [],
        .node (.element 6) []], .node (.text ['r']) []] ∧
      (f.elementUnwrap 3).1 ≠ specUnwrap Keep.earlier 3 f ∧
      (f.elementWrap 2 6).2.1 = .ok ∧ (f.elementWrap 2 6).1 = specWrap 2 6 f ∧
      (f.replace 10 11).2 = .ok ∧ selfMergeReplace f 10 11 = false ∧ (f.replace 10 11).1 = specReplaceP 10 11 f ∧
      (f.replace 10 11).1.value? 9 = some (.text ['z', 'r']) ∧ (f.replace 10 11).1.isLive 8 = true ∧
      (f.replace 3 11).2 = .ok ∧ (f.replace 3 11).1 = specReplaceP 3 11 f ∧
      (f.replace 3 11).1.content = [.node (.element 2) [.node (.text ['w']) [], .node (.text ['x', 'r', 'y']) [],
        .node (.text ['z']) [], .node (.element 6) []]] := by
  decide +kernel

/-! ### String values after the composite calls (every forest with the invariant, no `Forest.Normal`)

  As for the moves (`C05_move_keeps_character_data`): `plainUnwrap n f` / `plainReplace a b f` (Lemmas/FspecPairString.lean)
  are the same edits on the plain ordered-tree model with consolidation off - the wrapper is replaced by its normal
  children, resp. the replacing subtree is cut and put where the replaced one stood - nothing merged.  After a
  successful call every non-text node, in particular every ancestor of the touched places, has exactly the string
  value the unmerged edit gives it, and the non-text nodes are the same, in the same document order (the unwrapped
  element and the replaced subtree are gone from both lists).  Whatever the two resp. three pair merges
  (`specUnwrapP`, `specReplaceP`: three-way case included) do to the text NODES, the character DATA is where the
  edit puts it. -/

/-- `element_unwrap`: every non-text node has the string value of the unmerged unwrap. -/
theorem C05_string_value_unwrap {f : Forest} {n : Nat} (inv : f.Inv) (hok : (f.elementUnwrap n).2 = .ok) :
    (f.elementUnwrap n).1.strValues = (plainUnwrap n f).strValues :=
  unwrap_keeps_strValues inv hok

/-- `replace`, every geometry (replacing node parentless, elsewhere, a sibling, already
    next to the replaced node; text or not): every non-text node has the string value of the unmerged replace. -/
theorem C05_string_value_replace {f : Forest} {a b : Nat} (inv : f.Inv) (hok : (f.replace a b).2 = .ok) :
    (f.replace a b).1.strValues = (plainReplace a b f).strValues :=
  replace_keeps_strValues inv hok

/-- The pair reading of unwrap itself keeps the character data (no hypothesis on the call). -/
theorem C05_pair_unwrap_keeps_character_data {f : Forest} (inv : f.Inv) (n : Nat) :
    (specUnwrapP n f).strValues = (plainUnwrap n f).strValues :=
  specUnwrapP_strValues inv n

/-- Non-vacuity on a forest WITH adjacent text nodes (the forest of the example above: `<e>w x <u>i j<k/>m</u> y z <v/></e>`
    and a parentless text `r`): the string value of `e` after `element_unwrap(u)` is `wxijmyz`, after
    `replace(u, r)` it is `wxryz`, after `replace(v, r)` it is `wxijmyzr` (and `u` keeps `ijm`) - as the unmerged
    edits give them. -/
example :
    let f : Forest := { roots := [.node 0 (.element 2) [.node 1 (.text ['w']) [], .node 2 (.text ['x']) [],
        .node 3 (.element 3) [.node 4 (.text ['i']) [], .node 5 (.text ['j']) [], .node 6 (.element 6) [],
          .node 7 (.text ['m']) []],
        .node 8 (.text ['y']) [], .node 9 (.text ['z']) [], .node 10 (.element 6) []], .node 11 (.text ['r']) []],
                        next := 12, consolidation := true, everOff := true }
    f.inv = true ∧ (f.elementUnwrap 3).2 = .ok ∧ (f.replace 3 11).2 = .ok ∧ (f.replace 10 11).2 = .ok ∧
      (f.elementUnwrap 3).1.strValues = [(0, ['w', 'x', 'i', 'j', 'm', 'y', 'z']), (6, []), (10, [])] ∧
      (plainUnwrap 3 f).strValues = [(0, ['w', 'x', 'i', 'j', 'm', 'y', 'z']), (6, []), (10, [])] ∧
      (f.replace 3 11).1.strValues = [(0, ['w', 'x', 'r', 'y', 'z']), (10, [])] ∧
      (plainReplace 3 11 f).strValues = [(0, ['w', 'x', 'r', 'y', 'z']), (10, [])] ∧
      (f.replace 10 11).1.strValues =
        [(0, ['w', 'x', 'i', 'j', 'm', 'y', 'z', 'r']), (3, ['i', 'j', 'm']), (6, [])] ∧
      (plainReplace 10 11 f).strValues =
        [(0, ['w', 'x', 'i', 'j', 'm', 'y', 'z', 'r']), (3, ['i', 'j', 'm']), (6, [])] ∧
      (plainReplace 10 11 f).content ≠ (f.replace 10 11).1.content := by
  decide +kernel

/-! ### The frame theorems without `Forest.Normal`

  For EVERY forest with the invariant: a node outside the moved subtree whose parent is neither
  the parent the subtree leaves nor the one it arrives at keeps its parent, its value and the
  handles of its left and right siblings (`HTree.Ctx.shape`).  From the frame of the pair reading
  (`C05_frame_specMoveP`, `C05_frame_specRemoveP`) and the pair theorems. -/

theorem C05_frame_specMoveP {f : Forest} {dest : Dest} {c : Nat} {t : HTree} {q : Nat} {vq : Value}
    {Lq : List HTree} (inv : f.Inv) (hgc : f.get? c = some t) (sq : SiteAt f q vq Lq) (hqt : q ∉ HTree.handles t)
    (hvq : vq.isText = false) (hsite : dest.site f = some q)
    {x : Nat} {cx : HTree.Ctx} (hx : f.ctx? x = some cx)
    (h1 : cx.parent ≠ q) (h2 : some cx.parent ≠ f.parent? c) (h3 : cx.parent ∉ HTree.handles t)
    (h4 : x ∉ HTree.handles t) :
    ∃ cx', (specMoveP dest c f).ctx? x = some cx' ∧ cx'.shape = cx.shape :=
  frame_specMoveP inv hgc sq hqt hvq hsite hx h1 h2 h3 h4

theorem C05_frame_specRemoveP {f : Forest} {n : Nat} {t : HTree} (inv : f.Inv)
    (hg : f.get? n = some t) {x : Nat} {cx : HTree.Ctx} (hx : f.ctx? x = some cx)
    (h1 : some cx.parent ≠ f.parent? n) (h3 : cx.parent ∉ HTree.handles t) (h4 : x ∉ HTree.handles t) :
    ∃ cx', (specRemoveP n f).ctx? x = some cx' ∧ cx'.shape = cx.shape :=
  frame_specRemoveP inv hg hx h1 h3 h4

theorem C05_pair_frame_append {f : Forest} {p c : Nat} {t : HTree} (inv : f.Inv)
    (hok : (f.append p c).2 = .ok) (hgc : f.get? c = some t)
    {x : Nat} {cx : HTree.Ctx} (hx : f.ctx? x = some cx)
    (h1 : cx.parent ≠ p) (h2 : some cx.parent ≠ f.parent? c) (h3 : cx.parent ∉ HTree.handles t)
    (h4 : x ∉ HTree.handles t) :
    ∃ cx', (f.append p c).1.ctx? x = some cx' ∧ cx'.shape = cx.shape :=
  append_frame_all inv hok hgc hx h1 h2 h3 h4

theorem C05_pair_frame_prepend {f : Forest} {p c : Nat} {t : HTree} (inv : f.Inv)
    (hok : (f.prepend p c).2 = .ok) (hgc : f.get? c = some t)
    {x : Nat} {cx : HTree.Ctx} (hx : f.ctx? x = some cx)
    (h1 : cx.parent ≠ p) (h2 : some cx.parent ≠ f.parent? c) (h3 : cx.parent ∉ HTree.handles t)
    (h4 : x ∉ HTree.handles t) :
    ∃ cx', (f.prepend p c).1.ctx? x = some cx' ∧ cx'.shape = cx.shape :=
  prepend_frame_all inv hok hgc hx h1 h2 h3 h4

theorem C05_pair_frame_insertAfter {f : Forest} {r c q : Nat} {t : HTree} (inv : f.Inv)
    (hok : (f.insertAfter r c).2 = .ok) (hgc : f.get? c = some t) (hq : f.parent? r = some q)
    {x : Nat} {cx : HTree.Ctx} (hx : f.ctx? x = some cx)
    (h1 : cx.parent ≠ q) (h2 : some cx.parent ≠ f.parent? c) (h3 : cx.parent ∉ HTree.handles t)
    (h4 : x ∉ HTree.handles t) :
    ∃ cx', (f.insertAfter r c).1.ctx? x = some cx' ∧ cx'.shape = cx.shape :=
  insertAfter_frame_all inv hok hgc hq hx h1 h2 h3 h4

theorem C05_pair_frame_insertBefore {f : Forest} {r c q : Nat} {t : HTree} (inv : f.Inv)
    (hok : (f.insertBefore r c).2 = .ok) (hgc : f.get? c = some t) (hq : f.parent? r = some q)
    {x : Nat} {cx : HTree.Ctx} (hx : f.ctx? x = some cx)
    (h1 : cx.parent ≠ q) (h2 : some cx.parent ≠ f.parent? c) (h3 : cx.parent ∉ HTree.handles t)
    (h4 : x ∉ HTree.handles t) :
    ∃ cx', (f.insertBefore r c).1.ctx? x = some cx' ∧ cx'.shape = cx.shape :=
  insertBefore_frame_all inv hok hgc hq hx h1 h2 h3 h4

theorem C05_pair_frame_remove {f : Forest} {n : Nat} {t : HTree} (inv : f.Inv)
    (hg : f.get? n = some t) {x : Nat} {cx : HTree.Ctx} (hx : f.ctx? x = some cx)
    (h1 : some cx.parent ≠ f.parent? n) (h3 : cx.parent ∉ HTree.handles t) (h4 : x ∉ HTree.handles t) :
    ∃ cx', (f.remove n).1.ctx? x = some cx' ∧ cx'.shape = cx.shape :=
  remove_frame_all inv hg hx h1 h3 h4

/-- Non-vacuity on a forest WITH adjacent text nodes: `<e>a b c d</e>` (four text nodes) and
    `<g><h/>k</g>`; `insert_after(c, b)` merges `a`/`c` and `b` into one node — the element `h` and the
    text `k` under `g` keep parent, value and siblings. -/
example :
    let f : Forest := { selfMergeWitness with
      roots := selfMergeWitness.roots ++ [.node 5 (.element 6) [.node 6 (.element 3) [], .node 7 (.text ['k']) []]],
      next := 8 }
    f.inv = true ∧ (f.insertAfter 3 2).2 = .ok ∧ f.parent? 3 = some 0 ∧ f.parent? 2 = some 0 ∧
      (f.ctx? 6).map HTree.Ctx.shape = some (5, [], .element 3, [7]) ∧
      ((f.insertAfter 3 2).1.ctx? 6).map HTree.Ctx.shape = some (5, [], .element 3, [7]) ∧
      ((f.insertAfter 3 2).1.ctx? 7).map HTree.Ctx.shape = (f.ctx? 7).map HTree.Ctx.shape := by
  decide +kernel

/-! ### The frames of `detach`, `element_unwrap`, `element_wrap` without `Forest.Normal`

  For EVERY forest with the invariant (Lemmas/FspecFrameComposite.lean, from the pair readings `specDetachP`, `specUnwrapP`
  and `specWrap`, each ONE edit of one child list plus - for detach and a parentless wrap - a new parentless tree at the
  end of the list):
    detach(n)          a node outside the subtree whose parent is not the parent `n` leaves keeps its place;
    element_unwrap(n)  (`n` has the parent `p`) a node whose parent is neither `p` nor `n` keeps its place - in particular
                       everything deeper inside `n`; a parentless `n` that is accepted has no normal child and the call IS
                       `remove(n)` (`C05_unwrap_parentless`), so `C05_pair_frame_remove` applies;
    element_wrap(n)    a node whose parent is not the parent of `n` keeps its place - everything inside `n` included
                       (`n` itself gets the wrapper as parent); for a parentless `n` every node that has a parent does.
  `replace` on forests with adjacent text: `C05_pair_frame_replace` below (every geometry; `C05_frame_replace` above is
  the same statement under `Forest.Normal`): when the replacing node already stands next to the replaced one the call is
  `remove` (`C05_pair_frame_replace_adjacent`), otherwise the pair reading `specReplaceP` is framed
  (`C05_frame_specReplaceP`). -/

theorem C05_frame_specDetachP {f : Forest} {n : Nat} {t : HTree} (inv : f.Inv)
    (hg : f.get? n = some t) {x : Nat} {cx : HTree.Ctx} (hx : f.ctx? x = some cx)
    (h1 : some cx.parent ≠ f.parent? n) (h3 : cx.parent ∉ HTree.handles t) (h4 : x ∉ HTree.handles t) :
    ∃ cx', (specDetachP n f).ctx? x = some cx' ∧ cx'.shape = cx.shape :=
  frame_specDetachP inv hg hx h1 h3 h4

theorem C05_pair_frame_detach {f : Forest} {n : Nat} {t : HTree} (inv : f.Inv)
    (hg : f.get? n = some t) {x : Nat} {cx : HTree.Ctx} (hx : f.ctx? x = some cx)
    (h1 : some cx.parent ≠ f.parent? n) (h3 : cx.parent ∉ HTree.handles t) (h4 : x ∉ HTree.handles t) :
    ∃ cx', (f.detach n).1.ctx? x = some cx' ∧ cx'.shape = cx.shape :=
  detach_frame_all inv hg hx h1 h3 h4

theorem C05_frame_specUnwrapP {f : Forest} {n p : Nat} (inv : f.Inv) (hp : f.parent? n = some p)
    {x : Nat} {cx : HTree.Ctx} (hx : f.ctx? x = some cx) (h1 : cx.parent ≠ p) (h2 : cx.parent ≠ n) :
    ∃ cx', (specUnwrapP n f).ctx? x = some cx' ∧ cx'.shape = cx.shape :=
  frame_specUnwrapP inv hp hx h1 h2

theorem C05_pair_frame_unwrap {f : Forest} {n p : Nat} (inv : f.Inv) (hok : (f.elementUnwrap n).2 = .ok)
    (hp : f.parent? n = some p) {x : Nat} {cx : HTree.Ctx} (hx : f.ctx? x = some cx)
    (h1 : cx.parent ≠ p) (h2 : cx.parent ≠ n) :
    ∃ cx', (f.elementUnwrap n).1.ctx? x = some cx' ∧ cx'.shape = cx.shape :=
  unwrap_frame_all inv hok hp hx h1 h2

theorem C05_unwrap_parentless {f : Forest} {n : Nat} (hok : (f.elementUnwrap n).2 = .ok)
    (hp : f.parent? n = none) : f.elementUnwrap n = f.remove n :=
  elementUnwrap_parentless hok hp

theorem C05_frame_specWrap {f : Forest} {n : Nat} (name : Nat) {t : HTree} (inv : f.Inv) (hg : f.get? n = some t)
    {x : Nat} {cx : HTree.Ctx} (hx : f.ctx? x = some cx) (h1 : some cx.parent ≠ f.parent? n) :
    ∃ cx', (specWrap n name f).ctx? x = some cx' ∧ cx'.shape = cx.shape :=
  frame_specWrap name inv hg hx h1

theorem C05_pair_frame_wrap {f : Forest} {n name : Nat} {t : HTree} (inv : f.Inv)
    (hok : (f.elementWrap n name).2.1 = .ok) (hg : f.get? n = some t)
    {x : Nat} {cx : HTree.Ctx} (hx : f.ctx? x = some cx) (h1 : some cx.parent ≠ f.parent? n) :
    ∃ cx', (f.elementWrap n name).1.ctx? x = some cx' ∧ cx'.shape = cx.shape :=
  wrap_frame_all inv hok hg hx h1

/-- `<e>w x <u>i j<k/>m</u> y z <v/></e>` (adjacent text nodes), a parentless text `r`, a second tree `<g><h/>q</g>`. -/
def frameWitness : Forest :=
  { roots := [.node 0 (.element 2) [.node 1 (.text ['w']) [], .node 2 (.text ['x']) [],
        .node 3 (.element 3) [.node 4 (.text ['i']) [], .node 5 (.text ['j']) [], .node 6 (.element 6) [],
          .node 7 (.text ['m']) []],
        .node 8 (.text ['y']) [], .node 9 (.text ['z']) [], .node 10 (.element 6) []], .node 11 (.text ['r']) [],
        .node 12 (.element 6) [.node 13 (.element 3) [], .node 14 (.text ['q']) []]],
    next := 15, consolidation := true, everOff := true }

/-- Non-vacuity on a forest WITH adjacent text nodes: `detach(u)` merges `x`/`y`; `element_unwrap(u)` merges `(x, i)` and
    `(m, y)`; `element_wrap(x)` merges nothing - the element `h` under `g` keeps parent, value and siblings each time,
    and so does `k` inside `u` under `detach(u)` and `element_wrap(u)` (`u` itself gets the wrapper 15 as parent). -/
example : frameWitness.inv = true ∧ (frameWitness.detach 3).2 = .ok ∧ (frameWitness.elementUnwrap 3).2 = .ok ∧
    (frameWitness.elementWrap 2 6).2.1 = .ok ∧ (frameWitness.elementWrap 3 6).2.1 = .ok ∧
    frameWitness.parent? 3 = some 0 := by decide +kernel
example : (frameWitness.ctx? 13).map HTree.Ctx.shape = some (12, [], .element 3, [14]) ∧
    ((frameWitness.detach 3).1.ctx? 13).map HTree.Ctx.shape = some (12, [], .element 3, [14]) ∧
    ((frameWitness.elementUnwrap 3).1.ctx? 13).map HTree.Ctx.shape = some (12, [], .element 3, [14]) ∧
    ((frameWitness.elementWrap 2 6).1.ctx? 13).map HTree.Ctx.shape = some (12, [], .element 3, [14]) :=
  ⟨by decide +kernel, by decide +kernel, by decide +kernel, by decide +kernel⟩
example : (frameWitness.ctx? 6).map HTree.Ctx.shape = some (3, [4, 5], .element 6, [7]) ∧
    ((frameWitness.detach 3).1.ctx? 6).map HTree.Ctx.shape = some (3, [4, 5], .element 6, [7]) ∧
    ((frameWitness.elementWrap 3 6).1.ctx? 6).map HTree.Ctx.shape = some (3, [4, 5], .element 6, [7]) ∧
    (frameWitness.detach 3).1.value? 2 = some (.text ['x', 'y']) ∧
    ((frameWitness.elementWrap 3 6).1.ctx? 3).map HTree.Ctx.shape = some (15, [], .element 3, []) :=
  ⟨by decide +kernel, by decide +kernel, by decide +kernel, by decide +kernel, by decide +kernel⟩

/-- `replace` with the replacing node already next to the replaced one is `remove` (whatever the text nodes around):
    the frame of `remove` applies, without `Forest.Normal`. -/
theorem C05_pair_frame_replace_adjacent {f : Forest} {a b : Nat} {A : HTree} (inv : f.Inv)
    (hok : (f.replace a b).2 = .ok) (hadj : adjacentTo f a b = true) (hA : f.get? a = some A)
    {x : Nat} {cx : HTree.Ctx} (hx : f.ctx? x = some cx)
    (h1 : some cx.parent ≠ f.parent? a) (h3 : cx.parent ∉ HTree.handles A) (h4 : x ∉ HTree.handles A) :
    ∃ cx', (f.replace a b).1.ctx? x = some cx' ∧ cx'.shape = cx.shape := by
  rw [replace_pair inv hok]
  unfold specReplaceP
  rw [hadj, if_pos rfl]
  exact frame_specRemoveP inv hA hx h1 h3 h4

/-- **The frame of `replace` without `Forest.Normal`**: every forest with the invariant
    (adjacent text nodes allowed), every geometry.  A node outside the replacing subtree `t` and the replaced subtree
    `A` whose parent is neither `a`'s parent nor `b`'s old parent and lies in neither subtree keeps its parent, its
    value and the handles of its left and right siblings.  (Replacing node next to the replaced one: the call is
    `remove`; otherwise the pair reading `specReplaceP` - cut, put, `mergeLeftAt`, `mergeNew3At` - is framed like a move,
    Lemmas/FspecFrameReplace.lean.) -/
theorem C05_pair_frame_replace {f : Forest} {a b q : Nat} {A t : HTree} (inv : f.Inv)
    (hok : (f.replace a b).2 = .ok) (hA : f.get? a = some A) (hb : f.get? b = some t)
    (hq : f.parent? a = some q)
    {x : Nat} {cx : HTree.Ctx} (hx : f.ctx? x = some cx)
    (h1 : cx.parent ≠ q) (h2 : some cx.parent ≠ f.parent? b) (h3 : cx.parent ∉ HTree.handles t)
    (h4 : x ∉ HTree.handles t) (h5 : cx.parent ∉ HTree.handles A) (h6 : x ∉ HTree.handles A) :
    ∃ cx', (f.replace a b).1.ctx? x = some cx' ∧ cx'.shape = cx.shape :=
  replace_frame_all inv hok hA hb hq hx h1 h2 h3 h4 h5 h6

/-- The pair specification itself, replacing node not next to the replaced one. -/
theorem C05_frame_specReplaceP {f : Forest} {a b q : Nat} {vq : Value} {l : List HTree} {A : HTree}
    {r : List HTree} {t : HTree} (inv : f.Inv) (ra : ReplArgs f a b q vq l A r t)
    (hnadj : adjacentTo f a b = false)
    {x : Nat} {cx : HTree.Ctx} (hx : f.ctx? x = some cx)
    (h1 : cx.parent ≠ q) (h2 : some cx.parent ≠ f.parent? b) (h3 : cx.parent ∉ HTree.handles t)
    (h4 : x ∉ HTree.handles t) (h5 : cx.parent ∉ HTree.handles A) :
    ∃ cx', (specReplaceP a b f).ctx? x = some cx' ∧ cx'.shape = cx.shape :=
  frame_specReplaceP_far inv ra hnadj hx h1 h2 h3 h4 h5

/-- Non-vacuity on a forest with adjacent text nodes: in `frameWitness` the text `y` (8) stands next to `u` (3);
    `replace(u, y)` is accepted and `h` (13) keeps its place; `replace(v, r)` (10, 11: the parentless text `r` is merged into
    `z`) and `replace(u, q)` (3, 14: the text `q` leaves `g`, three-way merge `x q y`) are not adjacent: `k` (6) inside `u`
    resp. `h` keep their places. -/
example : adjacentTo frameWitness 3 8 = true ∧ (frameWitness.replace 3 8).2 = .ok ∧
    ((frameWitness.replace 3 8).1.ctx? 13).map HTree.Ctx.shape = some (12, [], .element 3, [14]) ∧
    (frameWitness.replace 3 8).1.value? 2 = some (.text ['x', 'y']) ∧
    adjacentTo frameWitness 10 11 = false ∧ (frameWitness.replace 10 11).2 = .ok ∧
    ((frameWitness.replace 10 11).1.ctx? 6).map HTree.Ctx.shape = some (3, [4, 5], .element 6, [7]) ∧
    ((frameWitness.replace 10 11).1.ctx? 13).map HTree.Ctx.shape = some (12, [], .element 3, [14]) ∧
    adjacentTo frameWitness 3 11 = false ∧ (frameWitness.replace 3 11).2 = .ok ∧
    (frameWitness.replace 3 11).1.value? 2 = some (.text ['x', 'r', 'y']) ∧
    ((frameWitness.replace 3 11).1.ctx? 13).map HTree.Ctx.shape = some (12, [], .element 3, [14]) :=
  ⟨by decide +kernel, by decide +kernel, by decide +kernel, by decide +kernel, by decide +kernel, by decide +kernel, by decide +kernel, by decide +kernel, by decide +kernel, by decide +kernel,
   by decide +kernel, by decide +kernel⟩
end XotModel.Props


/-! ## Reachable stores: the calls as steps of histories that parse and edit

  The theorems of the sections "every forest with the invariant" (`C05_pair_*`, `C05_clone_node`, `C05_map_insert`,
  `C05_map_remove`) assume `Forest.Inv` and nothing else about the forest.  `PCall` histories on `PStore`
  (Model/FparseHist.lean: a step is the parse of an ARBITRARY text, accepted or not, or any extended API call
  `Forest.XCall`) keep it from `Xot::new()` (`PStore.fph_run_inv` = `C04_reach_full`, Props/C04.lean).  So for the
  store `s` such a history reaches and the call made NEXT, as a step `.api (.call …)` of the same history type,
  the only hypotheses left are `PCall.wellKinded` of the earlier steps and what the originals ask of the call itself
  (it answers `ok`, resp. its argument is live). -/

namespace XotModel.Props
open XotModel Spec

/-- A call of `Forest.Call` as a step of a full history: forest and answer are the model function's. -/
theorem C05_call_as_step (s : PStore) (c : Forest.Call) :
    (s.step (.api (.call c))).forest = (c.run s.forest).1 ∧
    ((PCall.api (.call c)).run s).2 = .api (c.run s.forest).2 ∧
    (s.step (.api (.call c))).env = s.env ∧ (s.step (.api (.call c))).index = s.index := ⟨rfl, rfl, rfl, rfl⟩

/-- **The nine structural calls on every store a history of parses and API calls
    reaches**, each made as the next step: the forest after the step is the PAIR specification applied to the
    forest before, handle for handle (`C05_pair_append` … `C05_pair_replace`, every geometry, adjacent text nodes
    allowed — consolidation may have been switched off earlier in the history). -/
theorem C05_reachable_pair_full (env : Env) (cs : List PCall) (hw : ∀ c ∈ cs, c.wellKinded) :
    let s := (PStore.init env).run cs
    let after := fun (c : Forest.Call) => (s.step (.api (.call c))).forest
    let ok := fun (c : Forest.Call) => ((PCall.api (.call c)).run s).2 = .api .ok
    (∀ p c, ok (.append p c) → after (.append p c) = specMoveP (.lastChildOf p) c s.forest) ∧
    (∀ p c, ok (.prepend p c) → after (.prepend p c) = specMoveP (.firstNormalChildOf p) c s.forest) ∧
    (∀ r c, ok (.insertAfter r c) → after (.insertAfter r c) = specMoveP (.after r) c s.forest) ∧
    (∀ r c, ok (.insertBefore r c) → after (.insertBefore r c) = specMoveP (.before r) c s.forest) ∧
    (∀ n, s.forest.isLive n = true → after (.remove n) = specRemoveP n s.forest) ∧
    (∀ n, s.forest.isLive n = true → after (.detach n) = specDetachP n s.forest) ∧
    (∀ n, ok (.elementUnwrap n) → after (.elementUnwrap n) = specUnwrapP n s.forest) ∧
    (∀ n name, ok (.elementWrap n name) → after (.elementWrap n name) = specWrap n name s.forest) ∧
    (∀ a b, ok (.replace a b) → after (.replace a b) = specReplaceP a b s.forest) := by
  intro s after ok
  have inv : s.forest.Inv := PStore.fph_run_inv cs (PStore.fph_init_inv env) hw
  exact ⟨fun p c h => C05_pair_append inv (PRes.api.inj h), fun p c h => C05_pair_prepend inv (PRes.api.inj h),
    fun r c h => C05_pair_insertAfter inv (PRes.api.inj h), fun r c h => C05_pair_insertBefore inv (PRes.api.inj h),
    fun n h => C05_pair_remove inv h, fun n h => C05_pair_detach inv h,
    fun n h => C05_pair_unwrap inv (PRes.api.inj h), fun n name h => (C05_pair_wrap inv (PRes.api.inj h)).1,
    fun a b h => C05_pair_replace inv (PRes.api.inj h)⟩

/-! ### Non-vacuity: parse `<r>a<b/>c</r>` (document 0, `r` 1, `a` 2, `b` 3, `c` 4), then `append(r, a)`: the text
    `a` leaves its place and is merged into `c` — the forest after the step is the pair specification's. -/

def c05FullCalls : List PCall := [.parse .document "<r>a<b/>c</r>".toList]
theorem c05FullCalls_wellKinded : ∀ c ∈ c05FullCalls, c.wellKinded := by decide +kernel

example : (((PStore.init Env.fresh).run c05FullCalls).step (.api (.call (.append 1 2)))).forest =
    specMoveP (.lastChildOf 1) 2 ((PStore.init Env.fresh).run c05FullCalls).forest :=
  (C05_reachable_pair_full Env.fresh c05FullCalls c05FullCalls_wellKinded).1 1 2 (by decide +kernel)
example : (((PStore.init Env.fresh).run c05FullCalls).step (.api (.call (.append 1 2)))).forest.roots =
    [.node 0 .document [.node 1 (.element 2) [.node 3 (.element 3) [], .node 4 (.text ['c', 'a']) []]]] := by
  unfold c05FullCalls
  rw [String.toList_ofList]
  decide +kernel

end XotModel.Props

/-! ## Reachable stores, continued: `clone_node`, the map updates, the frames

  As `C05_reachable_pair_full`: `s` is the store ANY history of parses and extended API calls reaches from
  `Xot::new()`, the call is made as the next step `.api (.call …)` of the same history; the only hypotheses left
  are `PCall.wellKinded` of the earlier steps and what the originals ask of the call itself. -/

namespace XotModel.Props
open XotModel Spec

/-- `clone_node` of a live node and the attribute / namespace map updates
    (`k : Forest.MapKind`, both views) of an element, each made as the next step on a reached store: the answer is
    `ok`, the forest after the step is the specification (`specClone`, `specMapInsert`, `specMapRemove`) handle for
    handle; for the clone also: the old trees stay, exactly one tree is added after them, all its handles are new. -/
theorem C05_reachable_clone_map_full (env : Env) (cs : List PCall) (hw : ∀ c ∈ cs, c.wellKinded) :
    let s := (PStore.init env).run cs
    let after := fun (c : Forest.Call) => (s.step (.api (.call c))).forest
    let answer := fun (c : Forest.Call) => ((PCall.api (.call c)).run s).2
    (∀ n src, s.forest.get? n = some src →
      after (.cloneNode n) = specClone n s.forest ∧ answer (.cloneNode n) = .api .ok ∧
      ∃ c C, (s.forest.cloneNode n).2 = some c ∧ C.handle = c ∧
        (after (.cloneNode n)).roots = s.forest.roots ++ [C] ∧
        (after (.cloneNode n)).content = specCloneContent n s.forest ∧
        (∀ h ∈ HTree.handles C, s.forest.next ≤ h ∧ h < (after (.cloneNode n)).next ∧ h ∉ s.forest.allHandles)) ∧
    (∀ k e entry, s.forest.isElement e = true → k.matches entry = true →
      after (.mapInsert k e entry) = specMapInsert k e entry s.forest ∧ answer (.mapInsert k e entry) = .api .ok) ∧
    (∀ k e key, s.forest.isElement e = true →
      after (.mapRemove k e key) = specMapRemove k e key s.forest ∧ answer (.mapRemove k e key) = .api .ok) := by
  intro s after answer
  have inv : s.forest.Inv := PStore.fph_run_inv cs (PStore.fph_init_inv env) hw
  refine ⟨fun n src hsrc => ?_, fun k e entry he hm => ?_, fun k e key he => ?_⟩
  · obtain ⟨c, C, h1, h2, h3, h4, h5, _⟩ := C05_clone_node inv hsrc
    refine ⟨C05_clone_node_exact inv hsrc, ?_, c, C, h1, h2, h3, h4, h5⟩
    show PRes.api (if (s.forest.cloneNode n).2.isSome then Res.ok else Res.panic) = _
    rw [h1]; rfl
  · have h := C05_map_insert (k := k) inv he hm
    refine ⟨congrArg Prod.fst h, ?_⟩
    show PRes.api (s.forest.mapInsert k e entry).2 = _
    rw [h]
  · have h := C05_map_remove (k := k) (key := key) inv he
    refine ⟨congrArg Prod.fst h, ?_⟩
    show PRes.api (s.forest.mapRemove k e key).2 = _
    rw [h]

/-- … and the child list of the element afterwards, on a reached store: an existing
    key keeps its node (handle, place), only the payload changes, nothing is created; a new key is carried by exactly
    one new leaf placed after the view's entries; `remove` loses exactly the entry with the key. -/
theorem C05_reachable_map_entry_full (env : Env) (cs : List PCall) (hw : ∀ c ∈ cs, c.wellKinded) :
    let s := (PStore.init env).run cs
    let after := fun (c : Forest.Call) => (s.step (.api (.call c))).forest
    ∀ (k : Forest.MapKind) (e : Nat) (v : Value) (ks : List HTree), s.forest.isElement e = true →
      s.forest.get? e = some (.node e v ks) →
      (∀ entry, k.matches entry = true →
        (∀ n, ks.find? (isEntry k (Forest.entryKey entry)) = some n →
          ∃ X Y, ks = X ++ n :: Y ∧ (∀ c ∈ X, isEntry k (Forest.entryKey entry) c = false) ∧
            (after (.mapInsert k e entry)).get? e =
              some (.node e v (X ++ n.setValue (Forest.entryUpdate n.value entry) :: Y)) ∧
            (after (.mapInsert k e entry)).next = s.forest.next) ∧
        (ks.find? (isEntry k (Forest.entryKey entry)) = none →
          ∃ A B, ks = A ++ B ∧ (∀ c ∈ A, kidRank c ≤ viewRank k) ∧ (∀ c ∈ B, viewRank k < kidRank c) ∧
            (after (.mapInsert k e entry)).get? e = some (.node e v (A ++ .node s.forest.next entry [] :: B)) ∧
            (after (.mapInsert k e entry)).next = s.forest.next + 1)) ∧
      (∀ key,
        (∀ n, ks.find? (isEntry k key) = some n →
          ∃ X Y, ks = X ++ n :: Y ∧ (after (.mapRemove k e key)).get? e = some (.node e v (X ++ Y))) ∧
        (ks.find? (isEntry k key) = none → (after (.mapRemove k e key)).get? e = some (.node e v ks)) ∧
        (after (.mapRemove k e key)).next = s.forest.next) := by
  intro s after k e v ks he hg
  have inv : s.forest.Inv := PStore.fph_run_inv cs (PStore.fph_init_inv env) hw
  exact ⟨fun entry hm => C05_map_insert_entry inv he hm hg, fun key => C05_map_remove_entry inv he hg⟩

/-- **The frame theorems on reached stores**: the call is a step appended to a `PCall`
    history; `x` is a node of the reached store with the context `cx` (parent, left siblings, value, right siblings).
    Under the same conditions on `x` as in `C05_pair_frame_*` / `C05_map_frame` (its parent is not one of the touched
    child lists, it lies in no moved / destroyed subtree) `x` keeps parent, value and sibling handles
    (`HTree.Ctx.shape`) across the step.  No `Forest.Normal`: consolidation may have been off earlier in the
    history.  `clone_node`: every old tree is literally unchanged (`C05_reachable_clone_map_full`: `roots ++ [C]`),
    so every context is. -/
theorem C05_reachable_frame_full (env : Env) (cs : List PCall) (hw : ∀ c ∈ cs, c.wellKinded) :
    let s := (PStore.init env).run cs
    let after := fun (c : Forest.Call) => (s.step (.api (.call c))).forest
    let ok := fun (c : Forest.Call) => ((PCall.api (.call c)).run s).2 = .api .ok
    let kept := fun (c : Forest.Call) (x : Nat) (cx : HTree.Ctx) =>
      ∃ cx', (after c).ctx? x = some cx' ∧ cx'.shape = cx.shape
    ∀ (x : Nat) (cx : HTree.Ctx), s.forest.ctx? x = some cx →
    (∀ p c t, ok (.append p c) → s.forest.get? c = some t → cx.parent ≠ p → some cx.parent ≠ s.forest.parent? c →
      cx.parent ∉ HTree.handles t → x ∉ HTree.handles t → kept (.append p c) x cx) ∧
    (∀ p c t, ok (.prepend p c) → s.forest.get? c = some t → cx.parent ≠ p → some cx.parent ≠ s.forest.parent? c →
      cx.parent ∉ HTree.handles t → x ∉ HTree.handles t → kept (.prepend p c) x cx) ∧
    (∀ r c q t, ok (.insertAfter r c) → s.forest.get? c = some t → s.forest.parent? r = some q → cx.parent ≠ q →
      some cx.parent ≠ s.forest.parent? c → cx.parent ∉ HTree.handles t → x ∉ HTree.handles t →
      kept (.insertAfter r c) x cx) ∧
    (∀ r c q t, ok (.insertBefore r c) → s.forest.get? c = some t → s.forest.parent? r = some q → cx.parent ≠ q →
      some cx.parent ≠ s.forest.parent? c → cx.parent ∉ HTree.handles t → x ∉ HTree.handles t →
      kept (.insertBefore r c) x cx) ∧
    (∀ n t, s.forest.get? n = some t → some cx.parent ≠ s.forest.parent? n → cx.parent ∉ HTree.handles t →
      x ∉ HTree.handles t → kept (.remove n) x cx ∧ kept (.detach n) x cx) ∧
    (∀ n p, ok (.elementUnwrap n) → s.forest.parent? n = some p → cx.parent ≠ p → cx.parent ≠ n →
      kept (.elementUnwrap n) x cx) ∧
    (∀ n name t, ok (.elementWrap n name) → s.forest.get? n = some t → some cx.parent ≠ s.forest.parent? n →
      kept (.elementWrap n name) x cx) ∧
    (∀ a b q A t, ok (.replace a b) → s.forest.get? a = some A → s.forest.get? b = some t →
      s.forest.parent? a = some q → cx.parent ≠ q → some cx.parent ≠ s.forest.parent? b →
      cx.parent ∉ HTree.handles t → x ∉ HTree.handles t → cx.parent ∉ HTree.handles A → x ∉ HTree.handles A →
      kept (.replace a b) x cx) ∧
    (∀ k e, s.forest.isElement e = true → cx.parent ≠ e →
      (∀ entry, k.matches entry = true → kept (.mapInsert k e entry) x cx) ∧
      (∀ key, kept (.mapRemove k e key) x cx)) := by
  intro s after ok kept x cx hx
  have inv : s.forest.Inv := PStore.fph_run_inv cs (PStore.fph_init_inv env) hw
  refine ⟨fun p c t h hg h1 h2 h3 h4 => C05_pair_frame_append inv (PRes.api.inj h) hg hx h1 h2 h3 h4,
    fun p c t h hg h1 h2 h3 h4 => C05_pair_frame_prepend inv (PRes.api.inj h) hg hx h1 h2 h3 h4,
    fun r c q t h hg hq h1 h2 h3 h4 => C05_pair_frame_insertAfter inv (PRes.api.inj h) hg hq hx h1 h2 h3 h4,
    fun r c q t h hg hq h1 h2 h3 h4 => C05_pair_frame_insertBefore inv (PRes.api.inj h) hg hq hx h1 h2 h3 h4,
    fun n t hg h1 h3 h4 => ⟨C05_pair_frame_remove inv hg hx h1 h3 h4, C05_pair_frame_detach inv hg hx h1 h3 h4⟩,
    fun n p h hp h1 h2 => C05_pair_frame_unwrap inv (PRes.api.inj h) hp hx h1 h2,
    fun n name t h hg h1 => C05_pair_frame_wrap inv (PRes.api.inj h) hg hx h1,
    fun a b q A t h hA hb hq h1 h2 h3 h4 h5 h6 =>
      C05_pair_frame_replace inv (PRes.api.inj h) hA hb hq hx h1 h2 h3 h4 h5 h6,
    fun k e he hne => C05_map_frame (k := k) inv he hx hne⟩

/-- The parentless trees under the map updates and `clone_node` on a reached store:
    a tree not holding the element is identical, at the same index; `clone_node` keeps every tree at its index. -/
theorem C05_reachable_roots_frame_full (env : Env) (cs : List PCall) (hw : ∀ c ∈ cs, c.wellKinded) :
    let s := (PStore.init env).run cs
    let after := fun (c : Forest.Call) => (s.step (.api (.call c))).forest
    ∀ (i : Nat) (r : HTree), s.forest.roots[i]? = some r →
    (∀ k e, s.forest.isElement e = true → e ∉ HTree.handles r →
      (∀ entry, k.matches entry = true → (after (.mapInsert k e entry)).roots[i]? = some r) ∧
      (∀ key, (after (.mapRemove k e key)).roots[i]? = some r)) ∧
    (∀ n src, s.forest.get? n = some src → (after (.cloneNode n)).roots[i]? = some r) := by
  intro s after i r hr
  have inv : s.forest.Inv := PStore.fph_run_inv cs (PStore.fph_init_inv env) hw
  refine ⟨fun k e he her => C05_map_roots_frame (k := k) inv he hr her, fun n src hsrc => ?_⟩
  obtain ⟨c, C, _, _, h3, _⟩ := C05_clone_node inv hsrc
  show (s.forest.cloneNode n).1.roots[i]? = some r
  rw [h3, List.getElem?_append_left (List.getElem?_eq_some_iff.mp hr).1]
  exact hr

/-! ### Non-vacuity: parse `<r>a<b/>c</r>` (document 0, `r` 1, `a` 2, `b` 3, `c` 4); then `clone_node(r)`,
    `set_attribute(r, 7, "v")`, and `append(r, a)` seen from `b` (its left sibling `a` leaves: `b` is under the touched
    parent, not framed) and from `r` (parent 0: framed). -/
example : let s := (PStore.init Env.fresh).run c05FullCalls
    s.forest.get? 1 ≠ none ∧ s.forest.isElement 1 = true ∧
    (s.step (.api (.call (.cloneNode 1)))).forest.roots.length = 2 ∧
    ((s.step (.api (.call (.mapInsert .attributes 1 (.attribute 7 ['v']))))).forest.get? 1).map (·.kids.length) = some 4 ∧
    ((PCall.api (.call (.append 1 2))).run s).2 = .api .ok ∧
    (s.forest.ctx? 1).map HTree.Ctx.shape = some (0, [], .element 2, []) ∧
    ((s.step (.api (.call (.append 1 2)))).forest.ctx? 1).map HTree.Ctx.shape = some (0, [], .element 2, []) := by
  unfold c05FullCalls
  rw [String.toList_ofList]
  decide +kernel

end XotModel.Props


/-! ## One general child-list frame for the extended calls

  The frames above are stated per call, each in its own shape, most of them for `ctx?` of a node whose PARENT is
  not touched.  `C05_frame_general` is ONE statement over the extended calls `Forest.XCall`, in the `get?`-of-the-node
  form: `Forest.XCall.writtenParents f c` (Model/FframeSpec.lean) lists the handles whose child list or own value
  the call may change — old and new parent of a moved node with the text children that consolidation may merge, the
  moved node itself when it is a text node, the node for setters, the element and its entry nodes for map updates,
  the wrapper, its parent and the text children of both for element_unwrap,
  the whole subtree for create_missing_prefixes / deduplicate_namespaces / remove_insignificant_whitespace, nothing
  for node creation and the clones.  Every OTHER live node that is not inside a removed subtree
  (`removedHandles`) and not inside the moved subtree (`movedSubtree`) is live afterwards with the same value and
  the same children (same handles, same order: `Forest.kidHandles`), and keeps its parent when the parent is such a
  node too.

  Domain (`XCall.framed`): the nine structural calls append, prepend, insert_after, insert_before, detach, remove,
  replace, element_wrap, element_unwrap; clone_node, clone_with_prefixes; map insert and map remove;
  text_content_mut().set(); the four value setters; node creation; set_text_consolidation.  NOT in `framed`, but in
  `framed2` of the section "The general frame, larger domain" below: any_append, append of an entry node, map clear,
  remove_insignificant_whitespace.  In neither (`writtenParents` is defined for them, the frame is not proved):
  create_missing_prefixes, deduplicate_namespaces.
  Not stated: the nodes strictly inside the moved subtree (they keep value and children too); a parentless node
  staying parentless. -/

namespace XotModel.Props
open XotModel Spec

/-- **No other node is created, lost, reordered or altered** — one statement for the calls of
    the domain `XCall.framed`.  Every forest with the invariant, every call with live arguments that answers `ok`,
    every live node `h` outside `writtenParents`, outside the removed subtree and outside the moved subtree: `h` is
    live afterwards, has the same value and the same children (the same handles in the same order); and if its
    parent `p` is such a node too, `p` is still its parent. -/
theorem C05_frame_general {s : Store} {c : Forest.XCall} (inv : s.forest.Inv) (hw : c.wellKinded)
    (hf : c.framed = true) (hla : c.liveArgs s.forest) (hok : (c.run s).2 = .ok)
    {h : Nat} (hl : s.forest.isLive h = true)
    (hnw : h ∉ c.writtenParents s.forest) (hnr : h ∉ c.removedHandles s.forest)
    (hnm : h ∉ c.movedSubtree s.forest) :
    (c.run s).1.forest.isLive h = true ∧
    (c.run s).1.forest.value? h = s.forest.value? h ∧
    (c.run s).1.forest.kidHandles h = s.forest.kidHandles h ∧
    (∀ p, s.forest.parent? h = some p → p ∉ c.writtenParents s.forest → p ∉ c.removedHandles s.forest →
      p ∉ c.movedSubtree s.forest → (c.run s).1.forest.parent? h = some p) := by
  have e := writtenParents2_of_framed s.forest hf
  have := frame_general2_parent inv hw (framed2_of_framed hf) hla hok hl (e ▸ hnw) hnr hnm
  rwa [e] at this

/-- The setters, node creation and `set_text_consolidation`, whatever they answer: every live node other than the
    one written keeps value, children AND parent (no condition on the parent). -/
theorem C05_frame_general_simple {s : Store} {c : Forest.XCall} (inv : s.forest.Inv) (hs : simpleCall c = true)
    {h : Nat} (hl : s.forest.isLive h = true) (hnw : h ∉ c.writtenParents s.forest) :
    c.framed = true ∧
    (c.run s).1.forest.isLive h = true ∧
    (c.run s).1.forest.value? h = s.forest.value? h ∧
    (c.run s).1.forest.kidHandles h = s.forest.kidHandles h ∧
    (c.run s).1.forest.parent? h = s.forest.parent? h := by
  obtain ⟨fr, hp⟩ := frame_general_framed inv hs hl hnw
  exact ⟨framed_of_simpleCall hs, fr.live, fr.value, fr.kids, hp⟩

/-- Non-vacuity on `frameWitness` (adjacent text nodes; `<e>w x <u>i j<k/>m</u> y z <v/></e>`, the parentless text
    `r` = 11, a second tree): `append(v, r)` — a text node appended to the element `v` = 10.  Written: `v` and `r`.
    The SIBLING element `u` = 3 and the common parent `e` = 0 are framed: same value, same children, `u` keeps the
    parent `e`; `detach(u)` merges `x` and `y`: written are `e` and its text children, `k` = 6 inside `u` is in the
    moved subtree, the element `h` = 13 of the other tree is framed. -/
example :
    let s : Store := ⟨frameWitness, Env.fresh⟩
    let c : Forest.XCall := .call (.append 10 11)
    s.forest.inv = true ∧ c.framed = true ∧ (c.run s).2 = .ok ∧
    c.writtenParents s.forest = [10, 11] ∧ c.removedHandles s.forest = [] ∧ c.movedSubtree s.forest = [11] ∧
    s.forest.kidHandles 3 = [4, 5, 6, 7] ∧ (c.run s).1.forest.kidHandles 3 = [4, 5, 6, 7] ∧
    s.forest.kidHandles 0 = [1, 2, 3, 8, 9, 10] ∧ (c.run s).1.forest.kidHandles 0 = [1, 2, 3, 8, 9, 10] ∧
    (c.run s).1.forest.parent? 3 = some 0 ∧ (c.run s).1.forest.kidHandles 10 = [11] ∧
    (Forest.XCall.call (.detach 3)).writtenParents s.forest = [0, 1, 2, 8, 9] ∧
    (Forest.XCall.call (.detach 3)).movedSubtree s.forest = [3, 4, 5, 6, 7] ∧
    ((Forest.XCall.call (.detach 3)).run s).1.forest.kidHandles 12 = [13, 14] ∧
    ((Forest.XCall.call (.detach 3)).run s).1.forest.kidHandles 0 = [1, 2, 9, 10] := by
  decide +kernel

/-- Non-vacuity, the other structural calls on `frameWitness`: `replace(v, r)` (10 by the parentless text 11, merged
    into `z`): written are `e`, its text children and `r`; `v` is removed; the sibling element `u` = 3 and the other
    tree keep their children.  `element_unwrap(u)`: written are `u`, its text children `i j m`, `e` and its text
    children; the other tree keeps its children, `e` gets the normal children of `u`. -/
example :
    let s : Store := ⟨frameWitness, Env.fresh⟩
    let c : Forest.XCall := .call (.replace 10 11)
    let d : Forest.XCall := .call (.elementUnwrap 3)
    c.framed = true ∧ (c.run s).2 = .ok ∧ c.writtenParents s.forest = [0, 1, 2, 8, 9, 11] ∧
    c.removedHandles s.forest = [10] ∧ c.movedSubtree s.forest = [11] ∧
    (c.run s).1.forest.kidHandles 3 = [4, 5, 6, 7] ∧ (c.run s).1.forest.kidHandles 12 = [13, 14] ∧
    (c.run s).1.forest.value? 3 = s.forest.value? 3 ∧
    d.framed = true ∧ (d.run s).2 = .ok ∧ d.writtenParents s.forest = [3, 4, 5, 7, 0, 1, 2, 8, 9] ∧
    d.removedHandles s.forest = [3] ∧
    (d.run s).1.forest.kidHandles 12 = [13, 14] ∧ (d.run s).1.forest.kidHandles 6 = [] ∧
    (d.run s).1.forest.kidHandles 0 = [1, 2, 5, 6, 7, 9, 10] := by
  decide +kernel

/-- … on every store a history of parses and API calls reaches from
    `Xot::new()`: no hypothesis on the invariant (`C04_reach_full`). -/
theorem C05_reachable_frame_general_full (env : Env) (cs : List PCall) (hw : ∀ c ∈ cs, c.wellKinded)
    (c : Forest.XCall) (hwc : c.wellKinded) (hf : c.framed = true) :
    let s := ((PStore.init env).run cs).store
    c.liveArgs s.forest → (c.run s).2 = .ok →
    ∀ h, s.forest.isLive h = true → h ∉ c.writtenParents s.forest → h ∉ c.removedHandles s.forest →
      h ∉ c.movedSubtree s.forest →
      (c.run s).1.forest.isLive h = true ∧
      (c.run s).1.forest.value? h = s.forest.value? h ∧
      (c.run s).1.forest.kidHandles h = s.forest.kidHandles h := by
  intro s hla hok h hl h1 h2 h3
  have inv : s.forest.Inv := PStore.fph_run_inv cs (PStore.fph_init_inv env) hw
  obtain ⟨a, b, c', _⟩ := C05_frame_general inv hwc hf hla hok hl h1 h2 h3
  exact ⟨a, b, c'⟩

end XotModel.Props


/-! ## The general frame, larger domain

  `C05_frame_general2`: the statement of `C05_frame_general` for the domain `XCall.framed2` = `framed` and
  map clear, append of an entry node (`append_attribute_node` / `append_namespace_node`), `any_append`,
  `remove_insignificant_whitespace` (Model/FframeSpec2.lean), with `writtenParents2 = writtenParents ++ extraWritten`.

  `writtenParents` alone is NOT enough for the append of an entry node whose key is present in the target element: the
  existing entry node of the target takes the value and is neither the target nor a text child
  (`C05_writtenParents_misses_existing_entry`, a closed counterexample); `extraWritten` adds the entry nodes of that
  kind of the target.  Likewise `remove_insignificant_whitespace(n)` removes `n` itself when it is a whitespace text
  node the rule selects, and the parent of `n` is outside the subtree of `n`
  (`C05_writtenParents_misses_parent_of_stripped_text`); `extraWritten` adds the parent.

  NOT in `framed2`: create_missing_prefixes, deduplicate_namespaces.

  Inside the moved subtree: `C05_moved_subtree_intact` (generic: the node carries the same subtree in both forests)
  and its instances `C05_frame_general_moved_detach`, `C05_frame_general_moved_wrap`.  The other moves are not
  instantiated. -/

namespace XotModel.Props
open XotModel Spec

/-- **No other node is created, lost, reordered or altered** — the calls of `XCall.framed2`
    (the 21 kinds of `framed`, map clear, append of an entry node, any_append, remove_insignificant_whitespace).  Every forest with the invariant,
    every call with live arguments that answers `ok`, every live node `h` outside `writtenParents2`, outside the
    removed subtree and outside the moved subtree: `h` is live afterwards, has the same value and the same children
    (the same handles in the same order); and if its parent `p` is such a node too, `p` is still its parent. -/
theorem C05_frame_general2 {s : Store} {c : Forest.XCall} (inv : s.forest.Inv) (hw : c.wellKinded)
    (hf : c.framed2 = true) (hla : c.liveArgs s.forest) (hok : (c.run s).2 = .ok)
    {h : Nat} (hl : s.forest.isLive h = true)
    (hnw : h ∉ c.writtenParents2 s.forest) (hnr : h ∉ c.removedHandles s.forest)
    (hnm : h ∉ c.movedSubtree s.forest) :
    (c.run s).1.forest.isLive h = true ∧
    (c.run s).1.forest.value? h = s.forest.value? h ∧
    (c.run s).1.forest.kidHandles h = s.forest.kidHandles h ∧
    (∀ p, s.forest.parent? h = some p → p ∉ c.writtenParents2 s.forest → p ∉ c.removedHandles s.forest →
      p ∉ c.movedSubtree s.forest → (c.run s).1.forest.parent? h = some p) :=
  frame_general2_parent inv hw hf hla hok hl hnw hnr hnm

/-- `framed2` extends `framed`. -/
theorem C05_framed2_of_framed {c : Forest.XCall} (h : c.framed = true) : c.framed2 = true := framed2_of_framed h

/-- The three constructors by themselves, in the `get?`-free form: **map clear** — every live node other than the
    element and its entry nodes of that kind keeps value and children. -/
theorem C05_frame_mapClear {f : Forest} (inv : f.Inv) {k : Forest.MapKind} {e : Nat}
    (hok : (f.mapClear k e).2 = .ok) {h : Nat} (hl : f.isLive h = true) (hne : h ≠ e)
    (hz : h ∉ f.entryHandles k e) :
    (f.mapClear k e).1.isLive h = true ∧ (f.mapClear k e).1.value? h = f.value? h ∧
    (f.mapClear k e).1.kidHandles h = f.kidHandles h := by
  have fr := (getFrame_mapClear inv (isElement_of_mapClear_ok hok) hne hz).frameAt hl
  exact ⟨fr.live, fr.value, fr.kids⟩

/-- `<e a="1">x</e>` (0; 1; 2), the parentless attribute node `a="2"` (3), `<g b="3"/>` (4; 5). -/
def frameWitness2 : Forest :=
  { roots := [.node 0 (.element 2) [.node 1 (.attribute 5 ['1']) [], .node 2 (.text ['x']) []],
              .node 3 (.attribute 5 ['2']) [],
              .node 4 (.element 3) [.node 5 (.attribute 6 ['3']) []]],
    next := 6 }

/-- `append_attribute_node(e, a="2")` on `frameWitness2`: the key `a` is
    present in `e`, the existing attribute node 1 takes the value `2`; 1 is live, not in `writtenParents`, not in a
    removed or moved subtree — and its value changes.  With `writtenParents2` it is listed. -/
theorem C05_writtenParents_misses_existing_entry :
    let s : Store := ⟨frameWitness2, Env.fresh⟩
    let c : Forest.XCall := .call (.appendEntryNode .attributes 0 3)
    s.forest.inv = true ∧ (c.run s).2 = .ok ∧ s.forest.isLive 1 = true ∧
    c.writtenParents s.forest = [0, 2] ∧ c.removedHandles s.forest = [] ∧ c.movedSubtree s.forest = [3] ∧
    s.forest.value? 1 = some (.attribute 5 ['1']) ∧ (c.run s).1.forest.value? 1 = some (.attribute 5 ['2']) ∧
    c.writtenParents2 s.forest = [0, 2, 1] ∧ c.framed2 = true := by
  decide +kernel

/-- Non-vacuity of `C05_frame_general2` on `frameWitness2`: the attribute node 5 of `g` is appended to `e` (key `b`
    absent): written are `g`, `e`, the text child of `e` and the attribute node of `e`; the node 5 moves; the
    parentless attribute 3 is framed, `g` loses its child, `e` gets it after its attribute.  `any_append` of the same
    node is the same call.  `clear()` of the attributes of `e`: written are `e` and 1; the text 2 stays. -/
example :
    let s : Store := ⟨frameWitness2, Env.fresh⟩
    let c : Forest.XCall := .call (.appendEntryNode .attributes 0 5)
    let d : Forest.XCall := .call (.anyAppend 0 5)
    let m : Forest.XCall := .call (.mapClear .attributes 0)
    c.framed2 = true ∧ (c.run s).2 = .ok ∧ c.writtenParents2 s.forest = [4, 0, 2, 1] ∧
    c.movedSubtree s.forest = [5] ∧ (c.run s).1.forest.value? 3 = s.forest.value? 3 ∧
    (c.run s).1.forest.kidHandles 0 = [1, 5, 2] ∧ (c.run s).1.forest.kidHandles 4 = [] ∧
    d.framed2 = true ∧ (d.run s).2 = .ok ∧ d.writtenParents2 s.forest = [4, 0, 2, 1] ∧
    (d.run s).1.forest.kidHandles 0 = [1, 5, 2] ∧
    m.framed2 = true ∧ (m.run s).2 = .ok ∧ m.writtenParents2 s.forest = [0, 1] ∧
    (m.run s).1.forest.kidHandles 0 = [2] ∧ (m.run s).1.forest.kidHandles 4 = [5] ∧
    (m.run s).1.forest.value? 2 = s.forest.value? 2 := by
  decide +kernel

/-- `remove_insignificant_whitespace(n)` by itself: every live node outside the subtree of `n` that is not the
    parent of `n` keeps value and children. -/
theorem C05_frame_removeInsignificantWhitespace {f : Forest} (inv : f.Inv) {n : Nat} (hn : f.isLive n = true)
    {h : Nat} (hl : f.isLive h = true) (hz : h ∉ f.subtreeHandles n) (hp : some h ≠ f.parent? n) :
    (f.removeInsignificantWhitespace n).isLive h = true ∧
    (f.removeInsignificantWhitespace n).value? h = f.value? h ∧
    (f.removeInsignificantWhitespace n).kidHandles h = f.kidHandles h := by
  obtain ⟨t, hg⟩ := Forest.get?_of_isLive hn
  have fr := (getFrame_riw inv hg (not_mem_handles_of_subtree hg hz) hp).frameAt hl
  exact ⟨fr.live, fr.value, fr.kids⟩

/-- `<e>·<u/></e>` (0; the whitespace text 1; 2) and a second tree `<g>·</g>` (3; 4). -/
def frameWitness3 : Forest :=
  { roots := [.node 0 (.element 2) [.node 1 (.text [' ']) [], .node 2 (.element 3) []],
              .node 3 (.element 4) [.node 4 (.text [' ']) []]],
    next := 5 }

/-- `remove_insignificant_whitespace(1)` on `frameWitness3`, the
    start node being itself a whitespace text node the rule selects: it is removed; its parent 0 is live, not in
    `writtenParents` (the subtree of 1) — and its child list changes.  With `writtenParents2` it is listed.  The other
    tree is framed; the call on `e` itself writes inside `e` only. -/
theorem C05_writtenParents_misses_parent_of_stripped_text :
    let s : Store := ⟨frameWitness3, Env.fresh⟩
    let c : Forest.XCall := .removeInsignificantWhitespace 1
    let d : Forest.XCall := .removeInsignificantWhitespace 0
    s.forest.inv = true ∧ (c.run s).2 = .ok ∧ s.forest.isLive 0 = true ∧
    c.writtenParents s.forest = [1] ∧ c.removedHandles s.forest = [] ∧ c.movedSubtree s.forest = [] ∧
    s.forest.kidHandles 0 = [1, 2] ∧ (c.run s).1.forest.kidHandles 0 = [2] ∧
    c.writtenParents2 s.forest = [1, 0] ∧ c.framed2 = true ∧
    (c.run s).1.forest.kidHandles 3 = [4] ∧
    d.framed2 = true ∧ d.writtenParents2 s.forest = [0, 1, 2] ∧ (d.run s).1.forest.kidHandles 0 = [2] ∧
    (d.run s).1.forest.kidHandles 3 = [4] ∧ (d.run s).1.forest.value? 4 = s.forest.value? 4 := by
  decide +kernel

/-- INSIDE the moved subtree, the generic step: two forests with distinct handles in
    which the node `c` carries the SAME subtree `t` — every node of `t` (the node `c` itself included) is live in the
    second with the same value and the same children. -/
theorem C05_moved_subtree_intact {f f' : Forest} (nd : f.allHandles.Nodup) (nd' : f'.allHandles.Nodup) {c : Nat}
    {t : HTree} (hg : f.get? c = some t) (hg' : f'.get? c = some t) {h : Nat} (hm : h ∈ f.subtreeHandles c) :
    f'.isLive h = true ∧ f'.value? h = f.value? h ∧ f'.kidHandles h = f.kidHandles h := by
  have hz : h ∈ HTree.handles t := by
    unfold Forest.subtreeHandles at hm
    rw [hg] at hm
    exact hm
  have e := get?_inside_of_subtree nd nd' hg hg' hz
  have hl : f.isLive h = true := by
    obtain ⟨anc, o⟩ := Fws.occurs_of_get? hg
    obtain ⟨q, hq⟩ := Option.isSome_iff_exists.1 ((find?_isSome_iff h t).2 hz)
    unfold Forest.isLive
    rw [o.find_local nd h q hq]
    rfl
  have fr := frameAt_of_get?_eq hl e
  exact ⟨fr.live, fr.value, fr.kids⟩

/-- `detach(n)`: every node of the moved subtree (`n` itself included) keeps its
    value and its children. -/
theorem C05_frame_general_moved_detach {f : Forest} (inv : f.Inv) {n : Nat} (hn : f.isLive n = true) {h : Nat}
    (hm : h ∈ (Forest.XCall.call (.detach n)).movedSubtree f) :
    (f.detach n).1.isLive h = true ∧ (f.detach n).1.value? h = f.value? h ∧
    (f.detach n).1.kidHandles h = f.kidHandles h := by
  obtain ⟨t, hg⟩ := Forest.get?_of_isLive hn
  exact C05_moved_subtree_intact inv.nodup (Forest.detach_inv inv n).nodup hg (detach_get_moved inv hg) hm

/-- `element_wrap(n, name)`: every node of the moved subtree (`n` itself included)
    keeps its value and its children. -/
theorem C05_frame_general_moved_wrap {f : Forest} (inv : f.Inv) {n name : Nat} (hn : f.isLive n = true)
    (hok : (f.elementWrap n name).2.1 = .ok) {h : Nat}
    (hm : h ∈ (Forest.XCall.call (.elementWrap n name)).movedSubtree f) :
    (f.elementWrap n name).1.isLive h = true ∧ (f.elementWrap n name).1.value? h = f.value? h ∧
    (f.elementWrap n name).1.kidHandles h = f.kidHandles h := by
  obtain ⟨t, hg⟩ := Forest.get?_of_isLive hn
  exact C05_moved_subtree_intact inv.nodup (Forest.elementWrap_inv inv n name).nodup hg (wrap_get_moved inv hok hg) hm

/-- Non-vacuity on `frameWitness`: `detach(u)` (3, with the children 4 5 6 7). -/
example :
    let f := frameWitness
    f.inv = true ∧ (Forest.XCall.call (.detach 3)).movedSubtree f = [3, 4, 5, 6, 7] ∧
    (f.detach 3).1.kidHandles 3 = [4, 5, 6, 7] ∧ (f.detach 3).1.value? 6 = f.value? 6 ∧
    (f.elementWrap 3 9).2.1 = .ok ∧ (f.elementWrap 3 9).1.kidHandles 3 = [4, 5, 6, 7] ∧
    (f.elementWrap 3 9).1.value? 6 = f.value? 6 := by
  decide +kernel

/-- … on every store a history of parses and API calls reaches from
    `Xot::new()`: no hypothesis on the invariant (`C04_reach_full`). -/
theorem C05_reachable_frame_general2_full (env : Env) (cs : List PCall) (hw : ∀ c ∈ cs, c.wellKinded)
    (c : Forest.XCall) (hwc : c.wellKinded) (hf : c.framed2 = true) :
    let s := ((PStore.init env).run cs).store
    c.liveArgs s.forest → (c.run s).2 = .ok →
    ∀ h, s.forest.isLive h = true → h ∉ c.writtenParents2 s.forest → h ∉ c.removedHandles s.forest →
      h ∉ c.movedSubtree s.forest →
      (c.run s).1.forest.isLive h = true ∧
      (c.run s).1.forest.value? h = s.forest.value? h ∧
      (c.run s).1.forest.kidHandles h = s.forest.kidHandles h := by
  intro s hla hok h hl h1 h2 h3
  have inv : s.forest.Inv := PStore.fph_run_inv cs (PStore.fph_init_inv env) hw
  obtain ⟨a, b, c', _⟩ := C05_frame_general2 inv hwc hf hla hok hl h1 h2 h3
  exact ⟨a, b, c'⟩

end XotModel.Props
