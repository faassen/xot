/-
  C15 — deduplicate_namespaces only removes redundant declarations (as of /repo d434a2d: passes of
  `deduplicate_namespaces_pass` until one removes nothing).
  Property theorems only; for every tree, every path (call node), every environment.

    C15_subset            per node (raw document order, namespace nodes themselves not counted) the
                          declarations after are a sublist of the declarations before: nothing is
                          added, altered or reordered
    C15_frame             the tree without its namespace nodes is unchanged: element names,
                          attributes (names, values, order), text, comments, PIs, shape
    C15_same_nodes        the per-node comparison of C15_subset is between the same nodes
    C15_keeps_undeclarations   no binding to the no-namespace id (xmlns="", xmlns:p="") is ever removed, node
                          by node, any call node, given unique prefixes per element in the call's subtree
                          (C15_keeps_undeclarations_unique_needed: closed witness without it)
    C15_terminates        every pass that reports a removal makes the tree strictly smaller: the
                          `while` loop of the Rust ends
    C15_fuel_suffices     the loop of the model (fuel `t.size + 1`) stops because a pass removed nothing,
                          never because the fuel ran out; more fuel gives the same tree
    C15_idem              a second call removes nothing: deduplicate_namespaces(node) on the result is
                          the identity (full strength, every tree, every call node)
    C15_recursive_form    one pass on ANY node = the recursive rebuild `dpWalk` of the subtree, started
                          from an EMPTY kept stack, put back at the node's place
    C15_serialises        "a tree that serialised before still serialises": for every start node that
                          is not strictly inside the call's subtree (the root, the ancestors of the call
                          node, the call node itself, everything beside it) — `namesWritable` = to_string
                          does not fail with MissingPrefix —, given unique prefixes per element in the
                          call's subtree (C15_serialises_unique_needed: closed witness without it)
    C15_serialises_root / _call_node   the two instances the property names
    C15_serialises_inside for EVERY start node of the tree, those strictly inside the call's subtree too (the raw
                          path of such a node shifts when namespace nodes before it go: the nodes are matched
                          by position in `startPaths`, the raw-order list of non-namespace nodes)
    C15_serialises_everywhere   … hence every start node of every tree in the C01 domain, any call node;
                          C15_serialises_inside_only_elements_needed: closed witness without the second guard
    C15_representable     the call keeps a tree inside the C01 domain (`Representable`, decidable)
    C15_reparses_deep_equal   "… to text that reparses deep-equal to the original": whenever the tree
                          after the call serialises, the text parses back to exactly that tree, which
                          is deep_equal to the tree before the call (corollary of C01_roundtrip)
    C15_roundtrip         the whole sentence: a representable document every name of which `to_string`
                          could write before deduplicate_namespaces(node) — any node — serialises
                          afterwards, and the text parses back to the tree after the call, which is
                          deep_equal to the original (`C15_roundtrip_text`: with "serialised before" as
                          "to_string returned a text")
  An INNER start node (Lemmas/DedupRoundTrip.lean):
    C15_same_start_nodes  the i-th start node (startPaths) before and after: same value, same skeleton
    C15_serialises_from_every_start   to_string(start) returned a text before => it returns one after, EVERY
                          start node of a tree in the C01 domain (inside, above, beside the call node)
    C15_serialises_from_start_same_path   ... a start node not strictly inside keeps its raw path (nodeOK only)
    C15_roundtrip_inner (+ _text, _at)   deduplicate_namespaces(node), to_string(element p), parse: deep_equal
                          to the standalone document of p BEFORE the call; p anywhere, by position
    C15_roundtrip_inner_same_path, _call_node   p not strictly inside the call's subtree: same raw path
    C15_reachable_dedup_inner_full   the same for the erased tree of any store reached by parses and API calls
-/
import XotModel.Lemmas.ScopeDedup
import XotModel.Lemmas.DedupPass
import XotModel.Lemmas.DedupKeep
import XotModel.Lemmas.DedupSerialise
import XotModel.Lemmas.DedupRoundTrip
import XotModel.Props.C01

namespace XotModel.Props
open XotModel

/-- Declarations after ⊆ before, node by node; none added, none altered, order kept. -/
theorem C15_subset (env : Env) (t t' : Tree) (path : Path)
    (h : deduplicateNamespaces env t path = some t') : AllSub (declsOfTree t') (declsOfTree t) :=
  (NsShrink.deduplicateNamespaces env t t' path h).decls

/-- The node lists compared by `C15_subset` have the same length (they are the same nodes: see
    `C15_frame`). -/
theorem C15_same_nodes (env : Env) (t t' : Tree) (path : Path)
    (h : deduplicateNamespaces env t path = some t') : (declsOfTree t').length = (declsOfTree t).length :=
  (C15_subset env t t' path h).length_eq

/-- Names, attributes and content untouched: only namespace-node children are deleted. -/
theorem C15_frame (env : Env) (t t' : Tree) (path : Path)
    (h : deduplicateNamespaces env t path = some t') : stripNs t' = stripNs t ∧ t'.value = t.value :=
  ⟨(NsShrink.deduplicateNamespaces env t t' path h).strip,
   (NsShrink.deduplicateNamespaces env t t' path h).value⟩

/-! ### Undeclarations are never removed -/

/-- For every tree and every call node: node by node (the nodes are the same before and after:
    `C15_frame`, `C15_same_nodes`; `declsOfTree` lists the declarations of every non-namespace node in
    raw document order), every binding to the no-namespace id — `xmlns=""`, and `xmlns:p=""`
    which `Xot` accepts — that was there before is there afterwards (`is_redundant_declaration`
    returns `false` first thing).
    Hypothesis: no element of the call's subtree declares a prefix twice (the removal loop goes by
    prefix and deletes the FIRST namespace node with that key). -/
theorem C15_keeps_undeclarations (env : Env) (t t' : Tree) (path : Path) (sub : Tree)
    (hs : t.at? path = some sub) (hu : UniqueDeclsBelow sub)
    (h : deduplicateNamespaces env t path = some t') : AllKeep (declsOfTree t') (declsOfTree t) :=
  dedup_keeps_undeclarations env t t' path sub hs hu h

/-- `AllKeep` read at the `i`-th node: each pair `(p, no-namespace)` declared there before is
    declared there after. -/
theorem C15_keeps_undeclarations_at (env : Env) (t t' : Tree) (path : Path) (sub : Tree)
    (hs : t.at? path = some sub) (hu : UniqueDeclsBelow sub)
    (h : deduplicateNamespaces env t path = some t') (i : Nat) (before after : List (Nat × Nat))
    (hb : (declsOfTree t)[i]? = some before) (ha : (declsOfTree t')[i]? = some after) (p : Nat)
    (hm : (p, Env.noNamespace) ∈ before) : (p, Env.noNamespace) ∈ after :=
  (C15_keeps_undeclarations env t t' path sub hs hu h).get i after before ha hb _ hm rfl

def c15UndeclWitness : Tree :=
  .node (.element 0) [.node (.namespace 3 2) [],
    .node (.element 0) [.node (.namespace 2 0) [], .node (.namespace 2 2) []]]

/-- The hypothesis is needed: `<a xmlns:q="A"><b xmlns:p="" xmlns:p="A"/></a>` (a prefix declared
    twice on `b`; not constructible through the namespace map of the API): `xmlns:p="A"` is redundant
    on `b`, the loop removes "the declaration of `p`", which is `xmlns:p=""` (and the next pass
    removes `xmlns:p="A"`, still redundant). -/
theorem C15_keeps_undeclarations_unique_needed :
    ¬ ∀ (env : Env) (t t' : Tree), deduplicateNamespaces env t [] = some t' →
        AllKeep (declsOfTree t') (declsOfTree t) := by
  intro h
  have hd : (deduplicateNamespaces {} c15UndeclWitness []).map declsOfTree = some [[(3, 2)], []] := by
    decide +kernel
  cases hx : deduplicateNamespaces {} c15UndeclWitness [] with
  | none => simp [hx] at hd
  | some t' =>
    have hk := h {} c15UndeclWitness t' hx
    simp only [hx, Option.map_some, Option.some.injEq] at hd
    have := hk.get 1 [] [(2, 0), (2, 2)] (by rw [hd]; rfl) (by decide) (2, 0) (by simp) rfl
    simp at this

/-! ### Termination and idempotence -/

/-- **The `while` loop ends**: a pass that returns `true` ("removed something") has removed a node —
    each entry of `to_remove` names an existing element and a prefix among its declarations. -/
theorem C15_terminates (env : Env) (t : Tree) (path : Path) (sub : Tree) (hs : t.at? path = some sub)
    (h : (dedupPass env t path sub).2 = true) : (dedupPass env t path sub).1.size < t.size :=
  dedupPass_size_lt env t path sub hs h

/-- … and a pass that returns `false` has changed nothing. -/
theorem C15_pass_false (env : Env) (t : Tree) (path : Path) (sub : Tree)
    (h : (dedupPass env t path sub).2 = false) : (dedupPass env t path sub).1 = t :=
  dedupPass_of_no_removal env t path sub h

/-- **The fuel of the model suffices** (`deduplicateNamespaces_fixpoint`, `dedupLoop_fuel_irrelevant`): the tree `deduplicate_namespaces`
    returns is one on which a pass from the call node finds nothing to remove — the loop ended because a
    pass returned `false`, not because `t.size + 1` rounds were used up — and any greater fuel gives the
    same tree. -/
theorem C15_fuel_suffices (env : Env) (t t' : Tree) (path : Path)
    (h : deduplicateNamespaces env t path = some t') :
    (∃ sub', t'.at? path = some sub' ∧ dedupToRemove env path sub' = []) ∧
    ∀ extra, dedupLoop env path (t.size + 1 + extra) t = t' := by
  refine ⟨deduplicateNamespaces_fixpoint env t t' path h, fun extra => ?_⟩
  obtain ⟨sub, hs⟩ := deduplicateNamespaces_isSome env t t' path h
  simp only [deduplicateNamespaces, hs, Option.some.injEq] at h
  rw [dedupLoop_fuel_irrelevant env path (t.size + 1) extra t (by omega), h]

/-- **A second call removes nothing**, as the property states it: for every tree, every call node. -/
theorem C15_idem (env : Env) (t t1 : Tree) (path : Path)
    (h : deduplicateNamespaces env t path = some t1) : deduplicateNamespaces env t1 path = some t1 :=
  deduplicateNamespaces_idem env t t1 path h

/-- The three loops of one pass (edge traversal with the kept stack, `to_remove`, removal by prefix) on
    ANY node amount to one recursive rebuild of the subtree — the kept stack starts EMPTY at the node, no
    declaration above it is looked at — put back in place; the flag says whether `to_remove` was
    non-empty. -/
theorem C15_recursive_form (env : Env) (t : Tree) (path : Path) (sub : Tree)
    (hs : t.at? path = some sub) :
    dedupPass env t path sub = (scopeModifyAt (dpWalk env []) t path, !(dpRem env [] sub).isEmpty) :=
  dedupPass_eq env t path sub hs

/-! ### A tree that serialised before still serialises -/

/-- If `to_string(start)` found a prefix for every element and attribute name before
    `deduplicate_namespaces(node)`, it does afterwards — for every start node that is not strictly
    inside the subtree of `node` (`q = path ++ r` only with `r = []`): the root, every ancestor of
    `node`, `node` itself, every node outside its subtree.  Such a node has the same raw path before and
    after the call.  (Start nodes strictly inside: `C15_serialises_inside`.)
    Hypothesis: no element of the call's subtree declares a prefix twice
    (`C15_serialises_unique_needed`). -/
theorem C15_serialises (env : Env) (t t' : Tree) (path : Path) (sub : Tree)
    (hs : t.at? path = some sub) (hu : UniqueDeclsBelow sub)
    (hd : deduplicateNamespaces env t path = some t') (q : Path)
    (hq : ∀ r, q = path ++ r → r = [])
    (hw : namesWritable env t q = some true) : namesWritable env t' q = some true :=
  namesWritable_dedup env t t' path sub hs hu hd q hq hw

/-- `to_string(root)` after a call on any node. -/
theorem C15_serialises_root (env : Env) (t t' : Tree) (path : Path) (sub : Tree)
    (hs : t.at? path = some sub) (hu : UniqueDeclsBelow sub)
    (hd : deduplicateNamespaces env t path = some t')
    (hw : namesWritable env t [] = some true) : namesWritable env t' [] = some true :=
  C15_serialises env t t' path sub hs hu hd [] (fun _ h => (List.append_eq_nil_iff.1 h.symm).2) hw

/-- `to_string(node)` after the call on `node`. -/
theorem C15_serialises_call_node (env : Env) (t t' : Tree) (path : Path) (sub : Tree)
    (hs : t.at? path = some sub) (hu : UniqueDeclsBelow sub)
    (hd : deduplicateNamespaces env t path = some t')
    (hw : namesWritable env t path = some true) : namesWritable env t' path = some true :=
  C15_serialises env t t' path sub hs hu hd path (fun _ h => List.self_eq_append_right.1 h) hw

/-- **Every start node of the tree, matched by position** (needed for the start nodes strictly inside the call's
    subtree: the raw path of such a node may differ before and after — namespace nodes before it or before one of
    its ancestors may be gone).  The nodes are matched by
    their position in `startPaths`: the paths of all nodes that are not namespace nodes (nor inside
    one), in raw document order — the enumeration `declsOfTree` / `C15_subset` use; `C15_frame` says
    the nodes are the same.  For every position `i`: if `to_string` of the `i`-th node found every
    prefix before the call, `to_string` of the `i`-th node finds every prefix after it.
    Hypotheses (on the call's subtree): no element declares a prefix twice, and only elements carry
    namespace nodes (`OnlyElementsDeclare`; the call looks at the declarations of elements only,
    `namespaces_in_scope` at those of every ancestor). -/
theorem C15_serialises_inside (env : Env) (t t' : Tree) (path : Path) (sub : Tree)
    (hs : t.at? path = some sub) (hu : UniqueDeclsBelow sub) (ho : OnlyElementsDeclare sub)
    (hd : deduplicateNamespaces env t path = some t') :
    (startPaths t').length = (startPaths t).length ∧
    ∀ (i : Nat) (q q' : Path), (startPaths t)[i]? = some q → (startPaths t')[i]? = some q' →
      namesWritable env t q = some true → namesWritable env t' q' = some true :=
  namesWritable_dedup_everywhere env t t' path sub hs hu ho hd

def c15OnlyElWitness : Tree :=
  .node (.element 0) [.node (.namespace 3 2) [],
    .node (.comment []) [.node (.namespace 3 3) [],
      .node (.element 1) [.node (.namespace 2 2) []]]]

def c15OnlyElEnv : Env := { namespaces := [], prefixes := [], names := [(['a'], 0), (['a'], 2)] }

/-- `OnlyElementsDeclare` is needed for the start nodes inside: a COMMENT node with children (not
    constructible through the API) `xmlns:q="M"` and `<p:a xmlns:p="N"/>` below `<r xmlns:q="N">`:
    the call does not see the comment's declaration and removes `xmlns:p="N"` (witness `q`), but
    `namespaces_in_scope(p:a)` does see it: started at `p:a`, `to_string` finds a prefix for `N` before
    and none after.  (Started at the root it fails neither before nor after.) -/
theorem C15_serialises_inside_only_elements_needed :
    ¬ ∀ (env : Env) (t t' : Tree), UniqueDeclsBelow t → deduplicateNamespaces env t [] = some t' →
        ∀ (i : Nat) (q q' : Path), (startPaths t)[i]? = some q → (startPaths t')[i]? = some q' →
          namesWritable env t q = some true → namesWritable env t' q' = some true := by
  intro h
  have hu : UniqueDeclsBelow c15OnlyElWitness := uniqueDeclsB_sound _ (by decide +kernel)
  have key : ((deduplicateNamespaces c15OnlyElEnv c15OnlyElWitness []).bind fun t' =>
      ((startPaths t')[2]?).bind fun q' => namesWritable c15OnlyElEnv t' q') = some false := by decide +kernel
  cases hd : deduplicateNamespaces c15OnlyElEnv c15OnlyElWitness [] with
  | none => simp [hd] at key
  | some t' =>
    simp only [hd, Option.bind_some] at key
    cases hq' : (startPaths t')[2]? with
    | none => simp [hq'] at key
    | some q' =>
      have := h c15OnlyElEnv c15OnlyElWitness t' hu hd 2 [1, 1] q' (by decide +kernel) hq' (by decide +kernel)
      simp [hq', this] at key

/-- In the C01 domain (`RepresentableFragment`: every node `nodeOK`, hence unique prefixes per element
    and namespace nodes under elements only) both hypotheses hold for every call node: every start
    node of a representable tree keeps serialising. -/
theorem C15_serialises_everywhere (env : Env) (t t' : Tree) (path : Path)
    (hr : RepresentableFragment env t = true) (hd : deduplicateNamespaces env t path = some t') :
    (startPaths t').length = (startPaths t).length ∧
    ∀ (i : Nat) (q q' : Path), (startPaths t)[i]? = some q → (startPaths t')[i]? = some q' →
      namesWritable env t q = some true → namesWritable env t' q' = some true := by
  obtain ⟨sub, hs⟩ := deduplicateNamespaces_isSome env t t' path hd
  exact C15_serialises_inside env t t' path sub hs
    ((uniqueDeclsBelow_of_representableFragment hr).at hs)
    (OnlyElementsDeclare.at path t sub (onlyElementsDeclare_of_representableFragment hr) hs) hd

def c15DupWitness : Tree :=
  .node (.element 0) [.node (.namespace 3 2) [],
    .node (.element 0) [.node (.namespace 2 3) [], .node (.namespace 2 2) [],
      .node (.element 1) []]]

def c15DupEnv : Env := { namespaces := [], prefixes := [], names := [(['a'], 0), (['a'], 3)] }

/-- The hypothesis is needed: `<a xmlns:q="A"><b xmlns:p="B" xmlns:p="A"><p:a/></b></a>` (`p` declared
    twice on `b`, the serialiser's frame holds both; not constructible through the namespace map of the
    API): `xmlns:p="A"` is redundant (`q`), the loop removes "the declaration of `p`", which is
    `xmlns:p="B"`, and `{B}a` is left without a prefix. -/
theorem C15_serialises_unique_needed :
    ¬ ∀ (env : Env) (t t' : Tree), deduplicateNamespaces env t [] = some t' →
        namesWritable env t [] = some true → namesWritable env t' [] = some true := by
  intro h
  have key : ((deduplicateNamespaces c15DupEnv c15DupWitness []).bind fun t' =>
      namesWritable c15DupEnv t' []) = some false := by decide +kernel
  have hw : namesWritable c15DupEnv c15DupWitness [] = some true := by decide +kernel
  cases hd : deduplicateNamespaces c15DupEnv c15DupWitness [] with
  | none => simp [hd] at key
  | some t' =>
    have := h c15DupEnv c15DupWitness t' hd hw
    simp [hd, this] at key

/-! ### Non-vacuity -/

/-- `<a xmlns:q="A"><b xmlns:p="A" xmlns:q="B"><p:a/></b></a>`: `q` is
    bound to `A` above but re-bound on `b` itself, so `xmlns:p="A"` is KEPT and `{A}a` stays writable. -/
def c15SerWitness : Tree :=
  .node (.element 0) [.node (.namespace 3 2) [],
    .node (.element 0) [.node (.namespace 2 2) [], .node (.namespace 3 3) [],
      .node (.element 1) []]]

def c15SerEnv : Env := { namespaces := [], prefixes := [], names := [(['a'], 0), (['a'], 2)] }

example : namesWritable c15SerEnv c15SerWitness [] = some true ∧
    (deduplicateNamespaces c15SerEnv c15SerWitness []).map declsOfTree =
      some [[(3, 2)], [(2, 2), (3, 3)], []] ∧
    ((deduplicateNamespaces c15SerEnv c15SerWitness []).bind fun t' =>
      namesWritable c15SerEnv t' []) = some true := by decide +kernel

example : UniqueDeclsBelow c15SerWitness := uniqueDeclsB_sound _ (by decide +kernel)

/-- `<r xmlns:q="C" xmlns:p="A"><m xmlns:q="A"><n xmlns:r="C"/></m></r>`: the
    first call removes `xmlns:q="A"` from `m` (witness `p`) AND `xmlns:r="C"` from `n` (witness `q`: the
    kept stack no longer holds `q ↦ A`); the second call removes nothing. -/
def c15IdemWitness : Tree :=
  .node (.element 0) [.node (.namespace 3 4) [], .node (.namespace 2 2) [],
    .node (.element 0) [.node (.namespace 3 2) [],
      .node (.element 0) [.node (.namespace 4 4) []]]]

example : (deduplicateNamespaces {} c15IdemWitness []).map declsOfTree = some [[(3, 4), (2, 2)], [], []] ∧
    ((deduplicateNamespaces {} c15IdemWitness []).bind fun t1 =>
      (deduplicateNamespaces {} t1 []).map declsOfTree) =
      (deduplicateNamespaces {} c15IdemWitness []).map declsOfTree := by decide +kernel

/-- A tree on which the loop needs MORE than one pass:
    `<r xmlns:q="N" xmlns:r="M"><e xmlns:p="N"><x xmlns:q="M"/></e></r>`.  Pass 1 cannot remove
    `xmlns:p="N"` (the only other prefix for `N`, `q`, is re-bound to `M` below `e`) but removes
    `xmlns:q="M"` (witness `r`); pass 2 removes `xmlns:p="N"` (witness `q`, no longer re-bound); pass 3
    removes nothing. -/
def c15TwoPassWitness : Tree :=
  .node (.element 0) [.node (.namespace 2 2) [], .node (.namespace 3 3) [],
    .node (.element 0) [.node (.namespace 4 2) [],
      .node (.element 0) [.node (.namespace 2 3) []]]]

example : declsOfTree (dedupPass {} c15TwoPassWitness [] c15TwoPassWitness).1 =
      [[(2, 2), (3, 3)], [(4, 2)], []] ∧
    (dedupPass {} c15TwoPassWitness [] c15TwoPassWitness).2 = true ∧
    (deduplicateNamespaces {} c15TwoPassWitness []).map declsOfTree =
      some [[(2, 2), (3, 3)], [], []] := by decide +kernel

/-- The raw path of the innermost element of `c15TwoPassWitness` changes (`[2, 1]` before, `[2, 0]`
    after: the namespace node before it is gone); `startPaths` matches the two by position. -/
example : startPaths c15TwoPassWitness = [[], [2], [2, 1]] ∧
    (deduplicateNamespaces {} c15TwoPassWitness []).map startPaths = some [[], [2], [2, 0]] ∧
    namesWritable {} c15TwoPassWitness [2, 1] = some true := by decide +kernel

example : UniqueDeclsBelow c15TwoPassWitness := uniqueDeclsB_sound _ (by decide +kernel)

example : OnlyElementsDeclare c15TwoPassWitness := by
  simp only [OnlyElementsDeclare, c15TwoPassWitness, Tree.Forall, Tree.Forall.forallList, Value.isElement,
    nsDecls_node, declsOfKids, Bool.true_eq_false, false_implies, imp_self, and_self]

/-- `<a xmlns="A" xmlns:p="B"><b xmlns:q="A" q:x=""><c xmlns:r="B"/></b></a>` (a, b in A; x in A;
    c in B): writable, and dedup removes `r` but must keep `q` (the attribute needs a non-empty prefix). -/
def c15AttrWitness : Tree :=
  .node (.element 0) [.node (.namespace 0 2) [], .node (.namespace 2 3) [],
    .node (.element 0) [.node (.namespace 3 2) [], .node (.attribute 1 []) [],
      .node (.element 2) [.node (.namespace 4 3) []]]]

def c15AttrEnv : Env := { namespaces := [], prefixes := [], names := [(['a'], 2), (['x'], 2), (['c'], 3)] }

example : namesWritable c15AttrEnv c15AttrWitness [] = some true ∧
    (deduplicateNamespaces c15AttrEnv c15AttrWitness []).map declsOfTree =
      some [[(0, 2), (2, 3)], [(3, 2)], [], []] := by decide +kernel

example : UniqueDeclsBelow c15AttrWitness := uniqueDeclsB_sound _ (by decide +kernel)

/-- `<a xmlns:p="A"><b xmlns:p="A"/></a>`: the redundant declaration on `b` goes, nothing else. -/
example : (deduplicateNamespaces {} (.node (.element 0) [.node (.namespace 2 2) [],
      .node (.element 0) [.node (.namespace 2 2) []]]) []).map declsOfTree = some [[(2, 2)], []] := by decide +kernel

/-- Inner call on `b` (path `[2]`) of `c15AttrWitness`: `xmlns:r="B"` stays (B is not bound inside
    `b`'s subtree), and `xmlns:q` stays; `to_string(b)` still finds every prefix. -/
example : (deduplicateNamespaces c15AttrEnv c15AttrWitness [2]).map declsOfTree =
      some [[(0, 2), (2, 3)], [(3, 2)], [], [(4, 3)]] ∧
    namesWritable c15AttrEnv c15AttrWitness [2] = some true := by decide +kernel

/-- `<a xmlns:p="A"><b><c xmlns:q="A"/><d xmlns=""/></b></a>`, call on `b` (path `[1]`): nothing
    is known inside `b`, nothing goes; call on the root: `xmlns:q` goes, `xmlns=""` stays. -/
def c15InnerWitness : Tree :=
  .node (.element 0) [.node (.namespace 2 2) [],
    .node (.element 0) [.node (.element 0) [.node (.namespace 3 2) []],
      .node (.element 0) [.node (.namespace 0 0) []]]]

example : (deduplicateNamespaces {} c15InnerWitness [1]).map declsOfTree =
    some [[(2, 2)], [], [(3, 2)], [(0, 0)]] := by decide +kernel
example : (deduplicateNamespaces {} c15InnerWitness []).map declsOfTree =
    some [[(2, 2)], [], [], [(0, 0)]] := by decide +kernel
example : UniqueDeclsBelow c15InnerWitness := uniqueDeclsB_sound _ (by decide +kernel)

/-! ### "… to text that reparses deep-equal to the original" (corollaries of C01_roundtrip) -/

/-- The call keeps a tree inside the C01 domain: removing namespace nodes keeps every clause of
    `Representable` (structure, lexical conditions, unique `xml:id`s, one top-level element). -/
theorem C15_representable (env : Env) (t t' : Tree) (path : Path) (hr : Representable env t = true)
    (h : deduplicateNamespaces env t path = some t') : Representable env t' = true :=
  representable_deduplicateNamespaces t t' path hr h

/-- … and the fragment domain (`parse_fragment`). -/
theorem C15_representable_fragment (env : Env) (t t' : Tree) (path : Path)
    (hr : RepresentableFragment env t = true) (h : deduplicateNamespaces env t path = some t') :
    RepresentableFragment env t' = true :=
  representableFragment_deduplicateNamespaces t t' path hr h

/-- The second half of the sentence: for a representable document and a call on ANY node, whenever the
    tree after the call serialises, the text parses back (same `Xot`) to exactly the tree after the
    call, interning nothing, and that tree is `deep_equal` to the tree BEFORE the call. -/
theorem C15_reparses_deep_equal (env : Env) (t t' : Tree) (path : Path) (hr : Representable env t = true)
    (h : deduplicateNamespaces env t path = some t') (s : Str) (hs : toXmlString env t' [] = .ok s) :
    ∃ p, parseString .document env s = .ok p ∧ p.tree = t' ∧ p.env = env ∧ deepEqual p.tree t = true := by
  have hr' := C15_representable env t t' path hr h
  obtain ⟨p, h1, h2, h3, _⟩ := C01_roundtrip_identical env t' hr' s hs
  refine ⟨p, h1, h2, h3, ?_⟩
  rw [h2]
  exact deepEqual_of_stripNs (allNodes_of_representable env hr') (allNodes_of_representable env hr)
    (C15_frame env t t' path h).1

/-- The whole sentence, full strength: a representable document every name of which
    `to_string` could write before `deduplicate_namespaces(node)` — any node — serialises afterwards,
    and the text parses back to the tree after the call, which is `deep_equal` to the original.
    (`Representable` includes that no element declares a prefix twice.) -/
theorem C15_roundtrip (env : Env) (t t' : Tree) (path : Path) (hr : Representable env t = true)
    (hd : deduplicateNamespaces env t path = some t')
    (hw : namesWritable env t [] = some true) :
    ∃ s p, toXmlString env t' [] = .ok s ∧ parseString .document env s = .ok p ∧ p.tree = t' ∧
      p.env = env ∧ deepEqual p.tree t = true := by
  have hr' := C15_representable env t t' path hr hd
  obtain ⟨sub, hsub⟩ := deduplicateNamespaces_isSome env t t' path hd
  have hw' := C15_serialises_root env t t' path sub hsub
    ((uniqueDeclsBelow_of_representable hr).at hsub) hd hw
  have hfrag := representableFragment_of_representable env hr'
  obtain ⟨s, hs⟩ := (C01_serialises env t' hfrag).mpr hw'
  obtain ⟨p, h1, h2, h3, h4⟩ := C15_reparses_deep_equal env t t' path hr hd s hs
  exact ⟨s, p, hs, h1, h2, h3, h4⟩

/-- With "serialised before" as the property words it (`to_string` returned a text). -/
theorem C15_roundtrip_text (env : Env) (t t' : Tree) (path : Path) (hr : Representable env t = true)
    (hd : deduplicateNamespaces env t path = some t') (s0 : Str)
    (hs0 : toXmlString env t [] = .ok s0) :
    ∃ s p, toXmlString env t' [] = .ok s ∧ parseString .document env s = .ok p ∧ p.tree = t' ∧
      p.env = env ∧ deepEqual p.tree t = true := by
  have hfrag := representableFragment_of_representable env hr
  exact C15_roundtrip env t t' path hr hd ((C01_serialises env t hfrag).mp ⟨s0, hs0⟩)

/-- Non-vacuity, closed: `<r xmlns="urn:a" xmlns:p="urn:b"><p:c xmlns:q="urn:b"/></r>` — `xmlns:q` is
    redundant and removed; the hypotheses hold, the result serialises to
    `<r xmlns="urn:a" xmlns:p="urn:b"><p:c/></r>`. -/
def c15RtEnv : Env where
  namespaces := [[], xmlNamespaceUri, ['u', 'r', 'n', ':', 'a'], ['u', 'r', 'n', ':', 'b']]
  prefixes := [[], ['x', 'm', 'l'], ['p'], ['q']]
  names := [(['s', 'p', 'a', 'c', 'e'], 1), (['i', 'd'], 1), (['r'], 2), (['c'], 3)]

def c15RtDoc : Tree :=
  .node .document [.node (.element 2) [.node (.namespace 0 2) [], .node (.namespace 2 3) [],
    .node (.element 3) [.node (.namespace 3 3) []]]]

example : Representable c15RtEnv c15RtDoc = true ∧ namesWritable c15RtEnv c15RtDoc [] = some true ∧
    (deduplicateNamespaces c15RtEnv c15RtDoc []).map (fun t' => (declsOfTree t', toXmlString c15RtEnv t' [])) =
      some ([[], [(0, 2), (2, 3)], []],
        .ok "<r xmlns=\"urn:a\" xmlns:p=\"urn:b\"><p:c/></r>".toList) := by
  rw [String.toList_ofList]
  decide +kernel

example : ∃ t' s p, deduplicateNamespaces c15RtEnv c15RtDoc [] = some t' ∧
    toXmlString c15RtEnv t' [] = .ok s ∧ parseString .document c15RtEnv s = .ok p ∧ p.tree = t' ∧
    deepEqual p.tree c15RtDoc = true := by
  cases hd : deduplicateNamespaces c15RtEnv c15RtDoc [] with
  | none =>
    have : (deduplicateNamespaces c15RtEnv c15RtDoc []).isSome = true := by decide +kernel
    rw [hd] at this; cases this
  | some t' =>
    obtain ⟨s, p, h1, h2, h3, _, h5⟩ := C15_roundtrip c15RtEnv c15RtDoc t' [] (by decide +kernel) hd (by decide +kernel)
    exact ⟨t', s, p, rfl, h1, h2, h3, h5⟩

/-! ## END TO END: `deduplicate_namespaces` as a step of an API history, then serialise, then parse

`C15_roundtrip` above is about the tree-level model on a `Representable` tree.  Props/C04.lean shows that the
forest-level model (handles; what a history of API calls runs) refines it on every forest with the
invariant (`C15_forest_dedup_refines_tree`), that a second forest-level call changes nothing
(`C15_forest_dedup_idem`), that every reachable forest has the invariant (`C04_reach_ext`) and that
`Representable` of a reachable tree is a condition on its values (`C01_reachable_representable`).
Composed (Props/C04 comes in through Props/C01): -/

section EndToEnd

/-- **`C15_reachable_dedup` from the invariant alone**: for ANY forest with the invariant (however it
    was reached), consolidation never switched off, any tables `E`, any writable document root `r` in the
    value-level domain and any node of it: `deduplicate_namespaces(node)` answers Ok, replaces exactly the tree of
    `r` by `r'` (same path of `node`), erases to the tree-level deduplication, and the result is in the domain,
    writable, and round-trips to a tree `deep_equal` to the one before the call. -/
theorem C15_inv_dedup (f : Forest) (E : Env) (hi : f.Inv) (hoff : f.everOff = false)
    (r : HTree) (hr : r ∈ f.roots) (hdoc : r.value.isDocument = true) (henv : envOK E = true)
    (hval : r.erase.allNodes (fun v _ => valueOK E v) = true)
    (hid : (xmlIdValues E r.erase).Nodup) (hone : singleRoot r.erase = true)
    (hwr : namesWritable E r.erase [] = some true)
    (node : Nat) (hn : node ∈ r.handles) :
    ((Forest.XCall.deduplicateNamespaces node).run ⟨f, E⟩).2 = .ok ∧
    ∃ (r' : HTree) (path : Path), r.pathOf node = some path ∧ r'.pathOf node = some path ∧
      (f.deduplicateNamespaces E node).1.roots = f.roots.map (fun y => if (y.pathOf node).isSome then r' else y) ∧
      (f.deduplicateNamespaces E node).1.rootOf? node = some r' ∧
      deduplicateNamespaces E r.erase path = some r'.erase ∧
      Representable E r'.erase = true ∧ namesWritable E r'.erase [] = some true ∧
      ∃ s p, toXmlString E r'.erase [] = .ok s ∧ parseString .document E s = .ok p ∧
        p.tree = r'.erase ∧ p.env = E ∧ deepEqual p.tree r.erase = true := by
  have hrep := Reach.representable_root_of_values hi hoff hr henv hdoc hval hid hone
  have h1 := Forest.fpxr_rootOf_of_mem hi.nodup hr hn
  obtain ⟨path, h2⟩ := Forest.fpxd_rootOf_path h1
  obtain ⟨r', a1, a2, a3, a4, a5, _, _, _, _⟩ := C15_forest_dedup_refines_tree f hi E node r h1 path h2
  have hrep' := C15_representable _ r.erase r'.erase path hrep a2
  obtain ⟨s, p, k1, k2, k3, k4, k5⟩ := C15_roundtrip _ r.erase r'.erase path hrep a2 hwr
  have hwr' : namesWritable E r'.erase [] = some true := by
    have hfrag := representableFragment_of_representable _ hrep'
    exact (C01_serialises _ r'.erase hfrag).mp ⟨s, k1⟩
  exact ⟨a1, r', path, h2, a4, a5, a3, a2, hrep', hwr', s, p, k1, k2, k3, k4, k5⟩

/-- … in particular for the documents built by histories mixing the calls of `Op`
    with the convenience calls (`creationRun`, `C04_reach_creation`): no side condition on the history. -/
theorem C15_reachable_creation_dedup (ops : List (Op ⊕ Forest.COp)) (E : Env)
    (hoff : (creationRun ops).everOff = false)
    (r : HTree) (hr : r ∈ (creationRun ops).roots) (hdoc : r.value.isDocument = true) (henv : envOK E = true)
    (hval : r.erase.allNodes (fun v _ => valueOK E v) = true)
    (hid : (xmlIdValues E r.erase).Nodup) (hone : singleRoot r.erase = true)
    (hwr : namesWritable E r.erase [] = some true)
    (node : Nat) (hn : node ∈ r.handles) :
    ∃ (r' : HTree) (path : Path), r.pathOf node = some path ∧
      ((creationRun ops).deduplicateNamespaces E node).1.rootOf? node = some r' ∧
      deduplicateNamespaces E r.erase path = some r'.erase ∧
      ∃ s p, toXmlString E r'.erase [] = .ok s ∧ parseString .document E s = .ok p ∧
        p.tree = r'.erase ∧ p.env = E ∧ deepEqual p.tree r.erase = true := by
  obtain ⟨_, r', path, b1, _, _, b4, b5, _, _, s, p, c1, c2, c3, c4, c5⟩ :=
    C15_inv_dedup (creationRun ops) E (C04_reach_creation ops) hoff r hr hdoc henv hval hid hone hwr node hn
  exact ⟨r', path, b1, b4, b5, s, p, c1, c2, c3, c4, c5⟩

/-- **`deduplicate_namespaces(node)` as a step of an API history keeps
    serialisability, is idempotent, and the text reparses deep-equal.**  `S` is the store after any
    extended history `cs` from the empty store (well-kinded steps, consolidation never switched off), `r`
    a parentless tree of it whose root is a document node, whose VALUES are in the XML domain for the
    tables of the store (`envOK`, `valueOK` everywhere, distinct `xml:id`s, one top-level element and no
    top-level text) and every name of which `to_string` can write (`namesWritable`); `node` is ANY node of
    `r` (the document, an element, a leaf).  `S'` is the store after the history extended by
    `deduplicate_namespaces(node)`.  Then
      * the call answers `Ok`, the tables are untouched, `S'` has the invariant;
      * the SAME call once more changes nothing at all (store equality) and answers `Ok`;
      * the tree `r'` that `r` has become (`node` at the same path; it is the tree model's answer on the
        erased tree) is still `Representable`, every name is still writable, `to_string` succeeds, and
        `parse` of the text gives back exactly `r'` erased — tables unchanged — which is `deep_equal`
        to the tree BEFORE the call. -/
theorem C15_reachable_dedup (env : Env) (cs : List Forest.XCall) (hw : ∀ c ∈ cs, c.wellKinded)
    (S : Store) (hS : S = (⟨Forest.init, env⟩ : Store).xrun cs) (hoff : S.forest.everOff = false)
    (r : HTree) (hr : r ∈ S.forest.roots) (hdoc : r.value.isDocument = true) (henv : envOK S.env = true)
    (hval : r.erase.allNodes (fun v _ => valueOK S.env v) = true)
    (hid : (xmlIdValues S.env r.erase).Nodup) (hone : singleRoot r.erase = true)
    (hwr : namesWritable S.env r.erase [] = some true)
    (node : Nat) (hn : node ∈ r.handles)
    (S' : Store) (hS' : S' = (⟨Forest.init, env⟩ : Store).xrun (cs ++ [.deduplicateNamespaces node])) :
    ((Forest.XCall.deduplicateNamespaces node).run S).2 = .ok ∧ S'.env = S.env ∧ S'.forest.Inv ∧
    (Forest.XCall.deduplicateNamespaces node).run S' = (S', .ok) ∧
    ∃ (r' : HTree) (path : Path), r.pathOf node = some path ∧ r'.pathOf node = some path ∧
      S'.forest.roots = S.forest.roots.map (fun y => if (y.pathOf node).isSome then r' else y) ∧
      S'.forest.rootOf? node = some r' ∧
      deduplicateNamespaces S.env r.erase path = some r'.erase ∧
      Representable S.env r'.erase = true ∧ namesWritable S.env r'.erase [] = some true ∧
      ∃ s p, toXmlString S.env r'.erase [] = .ok s ∧ parseString .document S.env s = .ok p ∧
        p.tree = r'.erase ∧ p.env = S.env ∧ deepEqual p.tree r.erase = true := by
  have hi : S.forest.Inv := hS ▸ C04_reach_ext env cs hw
  rw [Store.xrun_snoc, ← hS] at hS'
  subst hS'
  obtain ⟨a1, rest⟩ := C15_inv_dedup S.forest S.env hi hoff r hr hdoc henv hval hid hone hwr node hn
  refine ⟨a1, rfl, C04_step_ext S _ hi trivial, ?_, rest⟩
  simp only [Store.xstep, Forest.XCall.run]
  rw [C15_forest_dedup_idem _ hi S.env node]

/-! Non-vacuity, closed: an 8-step history (three node creations, two `append`s, three
    `namespaces_mut().insert`) builds the document `c15RtDoc` above,
    `<r xmlns="urn:a" xmlns:p="urn:b"><p:c xmlns:q="urn:b"/></r>`, with handles; every hypothesis holds by
    evaluation; after the step `deduplicate_namespaces(doc)` the redundant `xmlns:q` is gone (handle 5) and
    the document serialises to `<r xmlns="urn:a" xmlns:p="urn:b"><p:c/></r>`. -/

def c15ReachCalls : List Forest.XCall :=
  [.newNode .document, .newNode (.element 2), .newNode (.element 3), .call (.append 0 1), .call (.append 1 2),
   .call (.mapInsert .namespaces 1 (.namespace 0 2)), .call (.mapInsert .namespaces 1 (.namespace 2 3)),
   .call (.mapInsert .namespaces 2 (.namespace 3 3))]
def c15ReachRoot : HTree :=
  .node 0 .document [.node 1 (.element 2) [.node 3 (.namespace 0 2) [], .node 4 (.namespace 2 3) [],
    .node 2 (.element 3) [.node 5 (.namespace 3 3) []]]]

/-- The store reached by `c15ReachCalls`, evaluated once. -/
theorem c15ReachRun_facts : (∀ c ∈ c15ReachCalls, c.wellKinded) ∧
    ((⟨Forest.init, c15RtEnv⟩ : Store).xrun c15ReachCalls).forest.everOff = false ∧
    ((⟨Forest.init, c15RtEnv⟩ : Store).xrun c15ReachCalls).forest.roots = [c15ReachRoot] ∧
    c15ReachRoot.erase = c15RtDoc ∧
    c15ReachRoot.value.isDocument = true ∧ envOK c15RtEnv = true ∧
    c15ReachRoot.erase.allNodes (fun v _ => valueOK c15RtEnv v) = true ∧
    (xmlIdValues c15RtEnv c15ReachRoot.erase).Nodup ∧ singleRoot c15ReachRoot.erase = true ∧
    namesWritable c15RtEnv c15ReachRoot.erase [] = some true ∧ 0 ∈ c15ReachRoot.handles := by
  decide +kernel

example : (∀ c ∈ c15ReachCalls, c.wellKinded) ∧
    ((⟨Forest.init, c15RtEnv⟩ : Store).xrun c15ReachCalls).forest.everOff = false ∧
    ((⟨Forest.init, c15RtEnv⟩ : Store).xrun c15ReachCalls).forest.roots = [c15ReachRoot] ∧
    c15ReachRoot.erase = c15RtDoc ∧
    c15ReachRoot.value.isDocument = true ∧ envOK c15RtEnv = true ∧
    c15ReachRoot.erase.allNodes (fun v _ => valueOK c15RtEnv v) = true ∧
    (xmlIdValues c15RtEnv c15ReachRoot.erase).Nodup ∧ singleRoot c15ReachRoot.erase = true ∧
    namesWritable c15RtEnv c15ReachRoot.erase [] = some true ∧ 0 ∈ c15ReachRoot.handles :=
  c15ReachRun_facts

example :
    let S' := (⟨Forest.init, c15RtEnv⟩ : Store).xrun (c15ReachCalls ++ [.deduplicateNamespaces 0])
    S'.forest.allHandles = [0, 1, 3, 4, 2] ∧
    S'.forest.roots.map (fun r' => toXmlString c15RtEnv r'.erase []) =
      [.ok "<r xmlns=\"urn:a\" xmlns:p=\"urn:b\"><p:c/></r>".toList] := by
  rw [String.toList_ofList]
  decide +kernel

example : ∃ r' s p,
    let S' := (⟨Forest.init, c15RtEnv⟩ : Store).xrun (c15ReachCalls ++ [.deduplicateNamespaces 0])
    (Forest.XCall.deduplicateNamespaces 0).run S' = (S', .ok) ∧
    S'.forest.rootOf? 0 = some r' ∧ toXmlString c15RtEnv r'.erase [] = .ok s ∧
      parseString .document c15RtEnv s = .ok p ∧ p.tree = r'.erase ∧ deepEqual p.tree c15RtDoc = true := by
  obtain ⟨hw, hoff, hroots, _, hdoc, henv, hval, hid, hone, hwr, hn⟩ := c15ReachRun_facts
  obtain ⟨_, _, _, hidem, r', _, _, _, _, h3, _, _, _, s, p, k1, k2, k3, _, k5⟩ :=
    C15_reachable_dedup c15RtEnv c15ReachCalls hw _ rfl hoff
      c15ReachRoot (by rw [hroots]; exact List.mem_singleton_self _) hdoc henv hval hid hone hwr 0 hn _ rfl
  exact ⟨r', s, p, hidem, h3, k1, k2, k3, k5⟩

end EndToEnd

/-! ## END TO END over histories that parse: parse ∘ API edits ∘ `deduplicate_namespaces` ∘ serialise ∘ parse

The same composition with the bridges for FULL histories (`C04_reach_full`,
`C01_reachable_representable_full`, Props/C04.lean): the history may contain `parse` / `parse_fragment` steps
of arbitrary texts anywhere. -/

section EndToEndFull

/-- **… over histories that PARSE and edit.**  The statement of `C15_reachable_dedup`
    with `S` the store after any FULL history `cs` from `Xot::new()` with the tables `env` (`PCall`,
    Model/FparseHist.lean: `parse` / `parse_fragment` of ARBITRARY texts, accepted or rejected, and well-kinded
    extended API calls in any order; consolidation never switched off), `r` any parentless tree of it whose
    root is a document node — a parsed document, edited or not, or one built by hand — in the value-level
    domain for the tables of the store and writable, `node` ANY node of `r`, `S'` the store after the history
    extended by the step `deduplicate_namespaces(node)`.  Same conclusion (the step answers `Ok`, tables
    untouched, invariant, the same step once more changes nothing — store equality, index included —, `r'`
    is the tree model's answer, `Representable`, writable, `to_string` ∘ `parse` gives back `r'` erased,
    `deep_equal` to the tree before the call); moreover the xml:id index of the store is untouched. -/
theorem C15_reachable_dedup_full (env : Env) (cs : List PCall) (hw : ∀ c ∈ cs, c.wellKinded)
    (S : PStore) (hS : S = (PStore.init env).run cs) (hoff : S.forest.everOff = false)
    (r : HTree) (hr : r ∈ S.forest.roots) (hdoc : r.value.isDocument = true) (henv : envOK S.env = true)
    (hval : r.erase.allNodes (fun v _ => valueOK S.env v) = true)
    (hid : (xmlIdValues S.env r.erase).Nodup) (hone : singleRoot r.erase = true)
    (hwr : namesWritable S.env r.erase [] = some true)
    (node : Nat) (hn : node ∈ r.handles)
    (S' : PStore) (hS' : S' = (PStore.init env).run (cs ++ [.api (.deduplicateNamespaces node)])) :
    ((PCall.api (.deduplicateNamespaces node)).run S).2 = .api .ok ∧ S'.env = S.env ∧ S'.index = S.index ∧
    S'.forest.Inv ∧
    (PCall.api (.deduplicateNamespaces node)).run S' = (S', .api .ok) ∧
    ∃ (r' : HTree) (path : Path), r.pathOf node = some path ∧ r'.pathOf node = some path ∧
      S'.forest.roots = S.forest.roots.map (fun y => if (y.pathOf node).isSome then r' else y) ∧
      S'.forest.rootOf? node = some r' ∧
      deduplicateNamespaces S.env r.erase path = some r'.erase ∧
      Representable S.env r'.erase = true ∧ namesWritable S.env r'.erase [] = some true ∧
      ∃ s p, toXmlString S.env r'.erase [] = .ok s ∧ parseString .document S.env s = .ok p ∧
        p.tree = r'.erase ∧ p.env = S.env ∧ deepEqual p.tree r.erase = true := by
  have hi : S.forest.Inv := hS ▸ (C04_reach_full env cs hw).1
  rw [PStore.run_snoc, ← hS] at hS'
  subst hS'
  obtain ⟨a1, rest⟩ := C15_inv_dedup S.forest S.env hi hoff r hr hdoc henv hval hid hone hwr node hn
  refine ⟨congrArg PRes.api a1, rfl, rfl, C04_step_full S _ hi trivial, ?_, rest⟩
  simp only [PStore.step, PCall.run, Forest.XCall.run, PStore.store]
  rw [C15_forest_dedup_idem _ hi S.env node]

/-! Non-vacuity, closed, from the tables of `Xot::new()` (`Env.fresh`): PARSE `fullText` of Props/C04.lean,
    `<r xmlns:p="urn:a"><p:a>t</p:a></r>`, then EDIT: `namespaces_mut(p:a).insert(p, urn:a)` — a redundant
    declaration (new handle 5); the document serialises with it.  Every hypothesis holds by evaluation; after
    the step `deduplicate_namespaces(doc)` handle 5 is gone and the document serialises to `fullText` again,
    which reparses to it, `deep_equal` to the tree before the call. -/

def c15FullCalls : List PCall :=
  [.parse .document fullText, .api (.call (.mapInsert .namespaces 3 (.namespace 2 2)))]
def c15FullRoot : HTree :=
  .node 0 .document [.node 1 (.element 2) [.node 2 (.namespace 2 2) [],
    .node 3 (.element 3) [.node 5 (.namespace 2 2) [], .node 4 (.text ['t']) []]]]

/-- The stores before and after the step, evaluated once: the document before; the document after; the inner
    element `p:a` (section InnerStartFull) before and after. -/
theorem c15FullRun_facts :
    let S := (PStore.init Env.fresh).run c15FullCalls
    let S' := (PStore.init Env.fresh).run (c15FullCalls ++ [.api (.deduplicateNamespaces 0)])
    (∀ c ∈ c15FullCalls, c.wellKinded) ∧ S.forest.everOff = false ∧ S.forest.roots = [c15FullRoot] ∧
    c15FullRoot.value.isDocument = true ∧ envOK S.env = true ∧
    c15FullRoot.erase.allNodes (fun v _ => valueOK S.env v) = true ∧
    (xmlIdValues S.env c15FullRoot.erase).Nodup ∧ singleRoot c15FullRoot.erase = true ∧
    namesWritable S.env c15FullRoot.erase [] = some true ∧ 0 ∈ c15FullRoot.handles ∧
    toXmlString S.env c15FullRoot.erase [] = .ok "<r xmlns:p=\"urn:a\"><p:a xmlns:p=\"urn:a\">t</p:a></r>".toList ∧
    S'.forest.allHandles = [0, 1, 2, 3, 4] ∧
    S'.forest.roots.map (fun r' => toXmlString S'.env r'.erase []) = [.ok fullText] ∧
    startPaths c15FullRoot.erase = [[], [0], [0, 1], [0, 1, 1]] ∧
    S'.forest.roots.map (fun r' => startPaths r'.erase) = [[[], [0], [0, 1], [0, 1, 0]]] ∧
    c15FullRoot.erase.at? [0, 1] = some (.node (.element 3) [.node (.namespace 2 2) [], .node (.text ['t']) []]) ∧
    namesWritable S.env c15FullRoot.erase [0, 1] = some true ∧
    toXmlString S.env c15FullRoot.erase [0, 1] = .ok "<p:a xmlns:p=\"urn:a\">t</p:a>".toList ∧
    S'.forest.roots.map (fun r' => toXmlString S'.env r'.erase [0, 1]) =
      [.ok "<p:a xmlns:p=\"urn:a\">t</p:a>".toList] := by
  unfold c15FullCalls
  rw [String.toList_ofList, String.toList_ofList, List.cons_append, run_fullText, run_fullText]
  unfold fullText
  rw [String.toList_ofList]
  decide +kernel

example :
    let S := (PStore.init Env.fresh).run c15FullCalls
    (∀ c ∈ c15FullCalls, c.wellKinded) ∧ S.forest.everOff = false ∧ S.forest.roots = [c15FullRoot] ∧
    c15FullRoot.value.isDocument = true ∧ envOK S.env = true ∧
    c15FullRoot.erase.allNodes (fun v _ => valueOK S.env v) = true ∧
    (xmlIdValues S.env c15FullRoot.erase).Nodup ∧ singleRoot c15FullRoot.erase = true ∧
    namesWritable S.env c15FullRoot.erase [] = some true ∧ 0 ∈ c15FullRoot.handles ∧
    toXmlString S.env c15FullRoot.erase [] = .ok "<r xmlns:p=\"urn:a\"><p:a xmlns:p=\"urn:a\">t</p:a></r>".toList := by
  obtain ⟨hw, hoff, hroots, hdoc, henv, hval, hid, hone, hwr, hn, hs, _⟩ := c15FullRun_facts
  exact ⟨hw, hoff, hroots, hdoc, henv, hval, hid, hone, hwr, hn, hs⟩

example :
    let S' := (PStore.init Env.fresh).run (c15FullCalls ++ [.api (.deduplicateNamespaces 0)])
    S'.forest.allHandles = [0, 1, 2, 3, 4] ∧
    S'.forest.roots.map (fun r' => toXmlString S'.env r'.erase []) = [.ok fullText] := by
  obtain ⟨_, _, _, _, _, _, _, _, _, _, _, hh, hs', _⟩ := c15FullRun_facts
  exact ⟨hh, hs'⟩

example : ∃ r' s p,
    let S := (PStore.init Env.fresh).run c15FullCalls
    let S' := (PStore.init Env.fresh).run (c15FullCalls ++ [.api (.deduplicateNamespaces 0)])
    (PCall.api (.deduplicateNamespaces 0)).run S' = (S', .api .ok) ∧
    S'.forest.rootOf? 0 = some r' ∧ toXmlString S.env r'.erase [] = .ok s ∧
      parseString .document S.env s = .ok p ∧ p.tree = r'.erase ∧ deepEqual p.tree c15FullRoot.erase = true := by
  obtain ⟨hw, hoff, hroots, hdoc, henv, hval, hid, hone, hwr, hn, _⟩ := c15FullRun_facts
  obtain ⟨_, _, _, _, hidem, r', _, _, _, _, h3, _, _, _, s, p, k1, k2, k3, _, k5⟩ :=
    C15_reachable_dedup_full Env.fresh c15FullCalls hw _ rfl hoff
      c15FullRoot (by rw [hroots]; exact List.mem_singleton_self _) hdoc henv hval hid hone hwr 0 hn _ rfl
  exact ⟨r', s, p, hidem, h3, k1, k2, k3, k5⟩

end EndToEndFull

/-! ## An INNER start node: `deduplicate_namespaces(node)` then `to_string(element p)` then `parse`

`to_string(p)` for an element `p` that has ancestors writes the declarations in scope at `p` on its start tag
and parses back to the STANDALONE document of `p` (`standalone`, Model/InnerStartSpec.lean; `C01_roundtrip_inner`).
The call may delete namespace nodes before `p` or before an ancestor of `p`, so the raw path of `p` may differ
before (`q`) and after (`q'`): as in `C15_serialises_inside` the node is named by its position `i` in `startPaths`
(raw document order of the nodes that are not namespace nodes; `C15_frame`: the same nodes before and after).
WHERE `p` is relative to `node`: ANYWHERE — the root, an ancestor of `node`, `node` itself, a node strictly
inside its subtree, a node beside it; for the positions that are not strictly inside, `q' = q`
(`C15_roundtrip_inner_same_path`). -/

section InnerStart

/-- The `i`-th start nodes before and after the call are the same node: same value, same skeleton (the subtrees
    differ in namespace nodes only) — every tree, every call node. -/
theorem C15_same_start_nodes (env : Env) (t t' : Tree) (path : Path)
    (hd : deduplicateNamespaces env t path = some t') (i : Nat) (q q' : Path)
    (hq : (startPaths t)[i]? = some q) (hq' : (startPaths t')[i]? = some q') :
    ∃ s s', t.at? q = some s ∧ t'.at? q' = some s' ∧ s'.value = s.value ∧ stripNs s' = stripNs s := by
  obtain ⟨s, s', h1, h2, h3⟩ := startPaths_match (C15_frame env t t' path hd).1 i q q' hq hq'
  refine ⟨s, s', h1, h2, ?_, h3⟩
  rw [← dis_stripNs_value s', h3, dis_stripNs_value]

/-- **After the call `to_string` succeeds from every start node from which it
    succeeded before** — with "serialises" as the property words it (`to_string` returned a text): `t` in the
    C01 domain (document or fragment), `node` ANY node, the start node ANY node that is not a namespace node
    (element or not; inside the call's subtree, above it, beside it), matched by position in `startPaths`.  No
    `MissingPrefix` appears anywhere.  (`C15_serialises_inside` is this statement with `namesWritable` and
    already ranges over the start nodes of the WHOLE tree, not only those inside the call's subtree; its two
    hypotheses are about the call's subtree and hold in the C01 domain.) -/
theorem C15_serialises_from_every_start (env : Env) (t t' : Tree) (path : Path)
    (hr : RepresentableFragment env t = true) (hd : deduplicateNamespaces env t path = some t') :
    (startPaths t').length = (startPaths t).length ∧
    ∀ (i : Nat) (q q' : Path), (startPaths t)[i]? = some q → (startPaths t')[i]? = some q' →
      ∀ s0, toXmlString env t q = .ok s0 → ∃ s, toXmlString env t' q' = .ok s := by
  obtain ⟨hlen, hall⟩ := C15_serialises_everywhere env t t' path hr hd
  refine ⟨hlen, fun i q q' hq hq' s0 hs0 => ?_⟩
  obtain ⟨sub, sub', h1, h2, _, _⟩ := C15_same_start_nodes env t t' path hd i q q' hq hq'
  obtain ⟨henv, _, hn, _⟩ := (representableFragment_iff env t).mp hr
  have hr' := C15_representable_fragment env t t' path hr hd
  obtain ⟨_, _, hn', _⟩ := (representableFragment_iff env t').mp hr'
  exact (C01_inner_serialises env t' q' sub' henv hn' h2).mpr
    (hall i q q' hq hq' ((C01_inner_serialises env t q sub henv hn h1).mp ⟨s0, hs0⟩))

/-- … for a start node that is not strictly inside the call's subtree (root, ancestors of `node`, `node`
    itself, everything beside it) the path is the same before and after; hypotheses on the tables and the
    nodes only (`nodeOK` everywhere: no document root, no distinct `xml:id`s needed). -/
theorem C15_serialises_from_start_same_path (env : Env) (t t' : Tree) (path : Path) (henv : envOK env = true)
    (hok : t.allNodes (nodeOK env) = true) (hd : deduplicateNamespaces env t path = some t') (q : Path)
    (hq : ∀ r, q = path ++ r → r = []) (sub : Tree) (hat : t.at? q = some sub)
    (s0 : Str) (hs0 : toXmlString env t q = .ok s0) :
    ∃ sub' s, t'.at? q = some sub' ∧ sub'.value = sub.value ∧ stripNs sub' = stripNs sub ∧
      toXmlString env t' q = .ok s := by
  obtain ⟨csub, hcs⟩ := deduplicateNamespaces_isSome env t t' path hd
  have hok' := (keeps_deduplicateNamespaces t t' path hok hd).ok
  obtain ⟨sub', hat', hsh⟩ := deduplicateNamespaces_at?_outside env t t' path hd q hq sub hat
  obtain ⟨s, hs⟩ := (C01_inner_serialises env t' q sub' henv hok' hat').mpr
    (C15_serialises env t t' path csub hcs ((uniqueDeclsBelow_of_allNodes t hok).at hcs) hd q hq
      ((C01_inner_serialises env t q sub henv hok hat).mp ⟨s0, hs0⟩))
  exact ⟨sub', s, hat', hsh.value, hsh.strip, hs⟩

/-- The general form, whatever the paths: `q` an element before the call, `q'` a path after the call at which
    an element with the same name and the same skeleton sits and from which every name is writable. -/
theorem C15_roundtrip_inner_at (env : Env) (t t' : Tree) (path : Path) (hr : RepresentableFragment env t = true)
    (hd : deduplicateNamespaces env t path = some t') (q q' : Path)
    (name : Nat) (ks ks' : List Tree) (hat : t.at? q = some (.node (.element name) ks))
    (hat' : t'.at? q' = some (.node (.element name) ks'))
    (hst : stripNs (.node (.element name) ks') = stripNs (.node (.element name) ks))
    (hw' : namesWritable env t' q' = some true) :
    ∃ s p X X', toXmlString env t' q' = .ok s ∧
      standalone t q = some (.node .document [.node (.element name) (nsLeaves X ++ ks)]) ∧
      standalone t' q' = some (.node .document [.node (.element name) (nsLeaves X' ++ ks')]) ∧
      parseString .document env s = .ok p ∧
      p.tree = .node .document [.node (.element name) (nsLeaves X' ++ ks')] ∧ p.env = env ∧
      deepEqual p.tree (.node .document [.node (.element name) (nsLeaves X ++ ks)]) = true ∧
      deepEqual (.node (.element name) (nsLeaves X' ++ ks')) (.node (.element name) ks) = true := by
  have hr' := C15_representable_fragment env t t' path hr hd
  obtain ⟨henv, _, hn, hid⟩ := (representableFragment_iff env t).mp hr
  obtain ⟨s, p, X', k1, k2, k3, k4, k5, k6, _⟩ := C01_roundtrip_inner_writable env t' hr' q' name ks' hat' hw'
  obtain ⟨X, j1, j2⟩ := C01_inner_standalone_representable env t q name ks henv hn hat
    (hid.sublist (xmlIdValues_at?_sublist q t _ hat))
  refine ⟨s, p, X, X', k1, j1, k2, k4, k5, k6, ?_, ?_⟩
  · rw [k5]
    apply deepEqual_of_stripNs (allNodes_of_representable env k3) (allNodes_of_representable env j2)
    rw [stripNs_standalone_doc, stripNs_standalone_doc, hst]
  · apply deepEqual_of_stripNs (allNodes_kid (allNodes_of_representable env k3) (by simp)) (allNodes_at? q t _ hn hat)
    have e1 := stripNs_standalone_doc name X' ks'
    have e2 := stripNs_standalone_doc name [] ks'
    simp only [nsLeaves, List.map_nil, List.nil_append] at e2
    rw [← hst]
    have := e1.trans e2.symm
    simp only [stripNs, stripNs.stripNsList] at this
    simpa [stripNs, Value.category, Tree.value] using this

/-- **`deduplicate_namespaces(node)`, then `to_string(element p)`, then `parse`: deep-equal
    to the standalone document of `p` BEFORE the call.**  `t` in the C01 domain (document or fragment), `node`
    ANY node (`path`), `p` ANY element of the tree — at, below, above or beside `node` —: the `i`-th start node,
    at `q` before the call and at `q'` after it.  If `to_string(p)` found every prefix before the call
    (`namesWritable`), then after the call the `i`-th start node is the same element (same name, same skeleton),
    `to_string` of it succeeds, and parsing the text — same `Xot`, nothing interned — gives exactly the
    standalone document of `p` in the tree AFTER the call, which is `deep_equal` to the standalone document of
    `p` in the tree BEFORE the call (and its document element to the element `p` before the call). -/
theorem C15_roundtrip_inner (env : Env) (t t' : Tree) (path : Path) (hr : RepresentableFragment env t = true)
    (hd : deduplicateNamespaces env t path = some t') (i : Nat) (q q' : Path)
    (hq : (startPaths t)[i]? = some q) (hq' : (startPaths t')[i]? = some q')
    (name : Nat) (ks : List Tree) (hat : t.at? q = some (.node (.element name) ks))
    (hw : namesWritable env t q = some true) :
    ∃ ks' s p X X', t'.at? q' = some (.node (.element name) ks') ∧
      stripNs (.node (.element name) ks') = stripNs (.node (.element name) ks) ∧
      toXmlString env t' q' = .ok s ∧
      standalone t q = some (.node .document [.node (.element name) (nsLeaves X ++ ks)]) ∧
      standalone t' q' = some (.node .document [.node (.element name) (nsLeaves X' ++ ks')]) ∧
      parseString .document env s = .ok p ∧
      p.tree = .node .document [.node (.element name) (nsLeaves X' ++ ks')] ∧ p.env = env ∧
      deepEqual p.tree (.node .document [.node (.element name) (nsLeaves X ++ ks)]) = true ∧
      deepEqual (.node (.element name) (nsLeaves X' ++ ks')) (.node (.element name) ks) = true := by
  obtain ⟨_, hall⟩ := C15_serialises_everywhere env t t' path hr hd
  have hw' := hall i q q' hq hq' hw
  obtain ⟨sub, sub', h1, h2, hv, hst⟩ := C15_same_start_nodes env t t' path hd i q q' hq hq'
  rw [hat, Option.some.injEq] at h1
  subst h1
  obtain ⟨v', ks'⟩ := sub'
  simp only [Tree.value] at hv
  subst hv
  obtain ⟨s, p, X, X', k⟩ := C15_roundtrip_inner_at env t t' path hr hd q q' name ks ks' hat h2 hst hw'
  exact ⟨ks', s, p, X, X', h2, hst, k⟩

/-- The element `p` NOT strictly inside the subtree of `node` — the document
    element when `node` is below it, any ancestor of `node`, `node` itself (`q = path`), an element beside it —:
    it keeps its raw path `q`, no enumeration needed. -/
theorem C15_roundtrip_inner_same_path (env : Env) (t t' : Tree) (path : Path)
    (hr : RepresentableFragment env t = true) (hd : deduplicateNamespaces env t path = some t') (q : Path)
    (hq : ∀ r, q = path ++ r → r = [])
    (name : Nat) (ks : List Tree) (hat : t.at? q = some (.node (.element name) ks))
    (hw : namesWritable env t q = some true) :
    ∃ ks' s p X X', t'.at? q = some (.node (.element name) ks') ∧
      stripNs (.node (.element name) ks') = stripNs (.node (.element name) ks) ∧
      toXmlString env t' q = .ok s ∧
      standalone t q = some (.node .document [.node (.element name) (nsLeaves X ++ ks)]) ∧
      standalone t' q = some (.node .document [.node (.element name) (nsLeaves X' ++ ks')]) ∧
      parseString .document env s = .ok p ∧
      p.tree = .node .document [.node (.element name) (nsLeaves X' ++ ks')] ∧ p.env = env ∧
      deepEqual p.tree (.node .document [.node (.element name) (nsLeaves X ++ ks)]) = true ∧
      deepEqual (.node (.element name) (nsLeaves X' ++ ks')) (.node (.element name) ks) = true := by
  obtain ⟨csub, hcs⟩ := deduplicateNamespaces_isSome env t t' path hd
  have hw' := C15_serialises env t t' path csub hcs ((uniqueDeclsBelow_of_representableFragment hr).at hcs) hd q hq hw
  obtain ⟨sub', h2, hsh⟩ := deduplicateNamespaces_at?_outside env t t' path hd q hq _ hat
  obtain ⟨v', ks'⟩ := sub'
  have hv := hsh.value
  simp only [Tree.value] at hv
  subst hv
  obtain ⟨s, p, X, X', k⟩ := C15_roundtrip_inner_at env t t' path hr hd q q name ks ks' hat h2 hsh.strip hw'
  exact ⟨ks', s, p, X, X', h2, hsh.strip, k⟩

/-- `to_string(node)` after the call on the element `node` itself. -/
theorem C15_roundtrip_inner_call_node (env : Env) (t t' : Tree) (path : Path)
    (hr : RepresentableFragment env t = true) (hd : deduplicateNamespaces env t path = some t')
    (name : Nat) (ks : List Tree) (hat : t.at? path = some (.node (.element name) ks))
    (hw : namesWritable env t path = some true) :
    ∃ ks' s p X X', t'.at? path = some (.node (.element name) ks') ∧
      stripNs (.node (.element name) ks') = stripNs (.node (.element name) ks) ∧
      toXmlString env t' path = .ok s ∧
      standalone t path = some (.node .document [.node (.element name) (nsLeaves X ++ ks)]) ∧
      standalone t' path = some (.node .document [.node (.element name) (nsLeaves X' ++ ks')]) ∧
      parseString .document env s = .ok p ∧
      p.tree = .node .document [.node (.element name) (nsLeaves X' ++ ks')] ∧ p.env = env ∧
      deepEqual p.tree (.node .document [.node (.element name) (nsLeaves X ++ ks)]) = true ∧
      deepEqual (.node (.element name) (nsLeaves X' ++ ks')) (.node (.element name) ks) = true :=
  C15_roundtrip_inner_same_path env t t' path hr hd path (fun _ h => List.self_eq_append_right.1 h) name ks hat hw

/-- With "serialised before" as the property words it (`to_string(p)` returned a text). -/
theorem C15_roundtrip_inner_text (env : Env) (t t' : Tree) (path : Path) (hr : RepresentableFragment env t = true)
    (hd : deduplicateNamespaces env t path = some t') (i : Nat) (q q' : Path)
    (hq : (startPaths t)[i]? = some q) (hq' : (startPaths t')[i]? = some q')
    (name : Nat) (ks : List Tree) (hat : t.at? q = some (.node (.element name) ks))
    (s0 : Str) (hs0 : toXmlString env t q = .ok s0) :
    ∃ ks' s p X X', t'.at? q' = some (.node (.element name) ks') ∧
      stripNs (.node (.element name) ks') = stripNs (.node (.element name) ks) ∧
      toXmlString env t' q' = .ok s ∧
      standalone t q = some (.node .document [.node (.element name) (nsLeaves X ++ ks)]) ∧
      standalone t' q' = some (.node .document [.node (.element name) (nsLeaves X' ++ ks')]) ∧
      parseString .document env s = .ok p ∧
      p.tree = .node .document [.node (.element name) (nsLeaves X' ++ ks')] ∧ p.env = env ∧
      deepEqual p.tree (.node .document [.node (.element name) (nsLeaves X ++ ks)]) = true ∧
      deepEqual (.node (.element name) (nsLeaves X' ++ ks')) (.node (.element name) ks) = true := by
  obtain ⟨henv, _, hn, _⟩ := (representableFragment_iff env t).mp hr
  exact C15_roundtrip_inner env t t' path hr hd i q q' hq hq' name ks hat
    ((C01_inner_serialises env t q _ henv hn hat).mp ⟨s0, hs0⟩)

/-! Non-vacuity, closed (tables `c15RtEnv`): `<r xmlns="urn:a" xmlns:p="urn:b"><q:c xmlns:q="urn:b"><q:c/></q:c></r>`;
    the call on the document removes the redundant `xmlns:q`.  The INNERMOST element is the start node: position
    3 of `startPaths`, raw path `[0, 2, 1]` before the call and `[0, 2, 0]` after it (the namespace node before it
    is gone).  Before the call `to_string` of it writes three inherited declarations, after the call two; both
    texts stand for deep-equal standalone documents. -/

def c15InnerDoc : Tree :=
  .node .document [.node (.element 2) [.node (.namespace 0 2) [], .node (.namespace 2 3) [],
    .node (.element 3) [.node (.namespace 3 3) [], .node (.element 3) []]]]

theorem c15InnerDoc_facts : RepresentableFragment c15RtEnv c15InnerDoc = true ∧
    startPaths c15InnerDoc = [[], [0], [0, 2], [0, 2, 1]] ∧
    (deduplicateNamespaces c15RtEnv c15InnerDoc []).map startPaths = some [[], [0], [0, 2], [0, 2, 0]] ∧
    namesWritable c15RtEnv c15InnerDoc [0, 2, 1] = some true ∧
    toXmlString c15RtEnv c15InnerDoc [0, 2, 1] =
      .ok "<p:c xmlns:q=\"urn:b\" xmlns=\"urn:a\" xmlns:p=\"urn:b\"/>".toList ∧
    (deduplicateNamespaces c15RtEnv c15InnerDoc []).map (fun t' => toXmlString c15RtEnv t' [0, 2, 0]) =
      some (.ok "<p:c xmlns=\"urn:a\" xmlns:p=\"urn:b\"/>".toList) ∧
    standalone c15InnerDoc [0, 2, 1] = some (.node .document [.node (.element 3)
      [.node (.namespace 3 3) [], .node (.namespace 0 2) [], .node (.namespace 2 3) []]]) ∧
    (deduplicateNamespaces c15RtEnv c15InnerDoc []).bind (fun t' => standalone t' [0, 2, 0]) =
      some (.node .document [.node (.element 3) [.node (.namespace 0 2) [], .node (.namespace 2 3) []]]) := by
  rw [String.toList_ofList, String.toList_ofList]
  decide +kernel

example : RepresentableFragment c15RtEnv c15InnerDoc = true ∧
    startPaths c15InnerDoc = [[], [0], [0, 2], [0, 2, 1]] ∧
    (deduplicateNamespaces c15RtEnv c15InnerDoc []).map startPaths = some [[], [0], [0, 2], [0, 2, 0]] ∧
    namesWritable c15RtEnv c15InnerDoc [0, 2, 1] = some true ∧
    toXmlString c15RtEnv c15InnerDoc [0, 2, 1] =
      .ok "<p:c xmlns:q=\"urn:b\" xmlns=\"urn:a\" xmlns:p=\"urn:b\"/>".toList ∧
    (deduplicateNamespaces c15RtEnv c15InnerDoc []).map (fun t' => toXmlString c15RtEnv t' [0, 2, 0]) =
      some (.ok "<p:c xmlns=\"urn:a\" xmlns:p=\"urn:b\"/>".toList) ∧
    standalone c15InnerDoc [0, 2, 1] = some (.node .document [.node (.element 3)
      [.node (.namespace 3 3) [], .node (.namespace 0 2) [], .node (.namespace 2 3) []]]) ∧
    (deduplicateNamespaces c15RtEnv c15InnerDoc []).bind (fun t' => standalone t' [0, 2, 0]) =
      some (.node .document [.node (.element 3) [.node (.namespace 0 2) [], .node (.namespace 2 3) []]]) :=
  c15InnerDoc_facts

/-- The call node itself as start node (`q:c`, path `[0, 2]`, call on it: nothing is known inside, nothing goes)
    and as a start node above the removal (call on the document: `xmlns:q` goes, `to_string(q:c)` switches to
    `p`). -/
example : namesWritable c15RtEnv c15InnerDoc [0, 2] = some true ∧
    toXmlString c15RtEnv c15InnerDoc [0, 2] =
      .ok "<q:c xmlns=\"urn:a\" xmlns:p=\"urn:b\" xmlns:q=\"urn:b\"><q:c/></q:c>".toList ∧
    (deduplicateNamespaces c15RtEnv c15InnerDoc [0, 2]).map (fun t' => toXmlString c15RtEnv t' [0, 2]) =
      some (.ok "<q:c xmlns=\"urn:a\" xmlns:p=\"urn:b\" xmlns:q=\"urn:b\"><q:c/></q:c>".toList) ∧
    (deduplicateNamespaces c15RtEnv c15InnerDoc []).map (fun t' => toXmlString c15RtEnv t' [0, 2]) =
      some (.ok "<p:c xmlns=\"urn:a\" xmlns:p=\"urn:b\"><p:c/></p:c>".toList) := by
  rw [String.toList_ofList, String.toList_ofList]
  decide +kernel

/-- `C15_roundtrip_inner` applied, closed: the text of the innermost element after the call parses to a
    document that is `deep_equal` to its standalone document before the call. -/
example : ∃ t' s p, deduplicateNamespaces c15RtEnv c15InnerDoc [] = some t' ∧
    toXmlString c15RtEnv t' [0, 2, 0] = .ok s ∧ parseString .document c15RtEnv s = .ok p ∧
    p.env = c15RtEnv ∧
    deepEqual p.tree (.node .document [.node (.element 3)
      [.node (.namespace 3 3) [], .node (.namespace 0 2) [], .node (.namespace 2 3) []]]) = true := by
  obtain ⟨hfrag, hsp, hp, hwq, _, _, hX, _⟩ := c15InnerDoc_facts
  cases hd : deduplicateNamespaces c15RtEnv c15InnerDoc [] with
  | none => rw [hd] at hp; cases hp
  | some t' =>
    rw [hd, Option.map_some, Option.some.injEq] at hp
    obtain ⟨ks', s, p, X, X', _, _, k3, k4, _, k6, _, k8, k9, _⟩ :=
      C15_roundtrip_inner c15RtEnv c15InnerDoc t' [] hfrag hd 3 [0, 2, 1] [0, 2, 0] (by rw [hsp]; rfl)
        (by rw [hp]; rfl) 3 [] (by decide +kernel) hwq
    rw [hX, Option.some.injEq] at k4
    rw [← k4] at k9
    exact ⟨t', s, p, rfl, k3, k6, k8, k9⟩

/-- `C15_roundtrip_inner_call_node` applied, closed: call on `q:c` (path `[0, 2]`), start node `q:c`. -/
example : ∃ t' ks' s p, deduplicateNamespaces c15RtEnv c15InnerDoc [0, 2] = some t' ∧
    t'.at? [0, 2] = some (.node (.element 3) ks') ∧
    toXmlString c15RtEnv t' [0, 2] = .ok s ∧ parseString .document c15RtEnv s = .ok p ∧
    deepEqual p.tree.kids.head! (.node (.element 3) [.node (.namespace 3 3) [], .node (.element 3) []]) = true := by
  cases hd : deduplicateNamespaces c15RtEnv c15InnerDoc [0, 2] with
  | none =>
    have : (deduplicateNamespaces c15RtEnv c15InnerDoc [0, 2]).isSome = true := by decide +kernel
    rw [hd] at this; cases this
  | some t' =>
    obtain ⟨ks', s, p, X, X', k1, _, k3, _, _, k6, k7, _, _, k10⟩ :=
      C15_roundtrip_inner_call_node c15RtEnv c15InnerDoc t' [0, 2] (by decide +kernel) hd 3 _ rfl (by decide +kernel)
    refine ⟨t', ks', s, p, rfl, k1, k3, k6, ?_⟩
    rw [k7]
    exact k10

end InnerStart

/-! ## END TO END for an inner start node: parse ∘ API edits ∘ `deduplicate_namespaces(node)` ∘ `to_string(element)` ∘ parse

`C15_roundtrip_inner` on the erased tree of a store reached by parses and API calls: `C15_forest_dedup_refines_tree`
∘ `C15_roundtrip_inner` ∘ `C01_reachable_representable_full` ∘ `C04_reach_full`.  (Fragments allowed: the C01
domain needed is `RepresentableFragment`, no condition on the number of top-level elements.) -/

section InnerStartFull

/-- `S` the store after any FULL history `cs` from `Xot::new()` with the tables
    `env` (`parse` / `parse_fragment` of ARBITRARY texts and well-kinded extended API calls in any order;
    consolidation never switched off), `r` any parentless tree of it with a document root and VALUES in the XML
    domain for the tables of the store (`envOK`, `valueOK` everywhere, distinct `xml:id`s), `node` ANY node of `r`,
    `S'` the store after the history extended by the step `deduplicate_namespaces(node)`.  The step answers `Ok`,
    tables and xml:id index untouched, invariant; the tree `r'` that `r` has become is the tree model's answer on
    the erased tree and stays in the C01 domain; and for EVERY element `p` of `r` (the `i`-th start node of the
    erased tree: at, below, above or beside `node`) from which `to_string` found every prefix before the step:
    after the step the `i`-th start node is the same element, `to_string` of it succeeds and `parse` of the text
    — tables unchanged — gives its standalone document, `deep_equal` to the standalone document of `p` BEFORE the
    step. -/
theorem C15_reachable_dedup_inner_full (env : Env) (cs : List PCall) (hw : ∀ c ∈ cs, c.wellKinded)
    (S : PStore) (hS : S = (PStore.init env).run cs) (hoff : S.forest.everOff = false)
    (r : HTree) (hr : r ∈ S.forest.roots) (hdoc : r.value.isDocument = true) (henv : envOK S.env = true)
    (hval : r.erase.allNodes (fun v _ => valueOK S.env v) = true)
    (hid : (xmlIdValues S.env r.erase).Nodup)
    (node : Nat) (hn : node ∈ r.handles)
    (S' : PStore) (hS' : S' = (PStore.init env).run (cs ++ [.api (.deduplicateNamespaces node)])) :
    ((PCall.api (.deduplicateNamespaces node)).run S).2 = .api .ok ∧ S'.env = S.env ∧ S'.index = S.index ∧
    S'.forest.Inv ∧
    ∃ (r' : HTree) (path : Path), r.pathOf node = some path ∧ r'.pathOf node = some path ∧
      S'.forest.roots = S.forest.roots.map (fun y => if (y.pathOf node).isSome then r' else y) ∧
      S'.forest.rootOf? node = some r' ∧
      deduplicateNamespaces S.env r.erase path = some r'.erase ∧
      RepresentableFragment S.env r'.erase = true ∧
      (startPaths r'.erase).length = (startPaths r.erase).length ∧
      ∀ (i : Nat) (q q' : Path) (name : Nat) (ks : List Tree),
        (startPaths r.erase)[i]? = some q → (startPaths r'.erase)[i]? = some q' →
        r.erase.at? q = some (.node (.element name) ks) → namesWritable S.env r.erase q = some true →
        ∃ ks' s p X X', r'.erase.at? q' = some (.node (.element name) ks') ∧
          stripNs (.node (.element name) ks') = stripNs (.node (.element name) ks) ∧
          toXmlString S.env r'.erase q' = .ok s ∧
          standalone r.erase q = some (.node .document [.node (.element name) (nsLeaves X ++ ks)]) ∧
          standalone r'.erase q' = some (.node .document [.node (.element name) (nsLeaves X' ++ ks')]) ∧
          parseString .document S.env s = .ok p ∧
          p.tree = .node .document [.node (.element name) (nsLeaves X' ++ ks')] ∧ p.env = S.env ∧
          deepEqual p.tree (.node .document [.node (.element name) (nsLeaves X ++ ks)]) = true ∧
          deepEqual (.node (.element name) (nsLeaves X' ++ ks')) (.node (.element name) ks) = true := by
  rw [PStore.run_snoc, ← hS] at hS'
  subst hS' hS
  have hi := (C04_reach_full env cs hw).1
  have hfrag := Reach.representableFragment_root_of_values hi hoff hr henv hdoc hval hid
  have h1 := Forest.fpxr_rootOf_of_mem hi.nodup hr hn
  obtain ⟨path, h2⟩ := Forest.fpxd_rootOf_path h1
  obtain ⟨r', a1, a2, a3, a4, a5, _, _, _, _⟩ := C15_forest_dedup_refines_tree _ hi
    ((PStore.init env).run cs).env node r h1 path h2
  have hfrag' := C15_representable_fragment _ r.erase r'.erase path hfrag a2
  have hlen := (C15_serialises_everywhere _ r.erase r'.erase path hfrag a2).1
  exact ⟨congrArg PRes.api a1, rfl, rfl, C04_step_full _ _ hi trivial, r', path, h2, a4, a5, a3, a2, hfrag', hlen,
    fun i q q' name ks hq hq' hat hwq =>
      C15_roundtrip_inner _ r.erase r'.erase path hfrag a2 i q q' hq hq' name ks hat hwq⟩

/-! Non-vacuity, closed: the history `c15FullCalls` of section EndToEndFull (parse `<r xmlns:p="urn:a"><p:a>t</p:a></r>`,
    then `namespaces_mut(p:a).insert(p, urn:a)`: redundant declaration, handle 5).  Start node: the inner element
    `p:a` (handle 3), position 2 of `startPaths`, path `[0, 1]` before and after; `to_string(p:a)` is
    `<p:a xmlns:p="urn:a">t</p:a>` before and after the step `deduplicate_namespaces(doc)` (before: its own
    declaration; after: the inherited one). -/

example :
    let S := (PStore.init Env.fresh).run c15FullCalls
    let S' := (PStore.init Env.fresh).run (c15FullCalls ++ [.api (.deduplicateNamespaces 0)])
    startPaths c15FullRoot.erase = [[], [0], [0, 1], [0, 1, 1]] ∧
    S'.forest.roots.map (fun r' => startPaths r'.erase) = [[[], [0], [0, 1], [0, 1, 0]]] ∧
    c15FullRoot.erase.at? [0, 1] = some (.node (.element 3) [.node (.namespace 2 2) [], .node (.text ['t']) []]) ∧
    namesWritable S.env c15FullRoot.erase [0, 1] = some true ∧
    toXmlString S.env c15FullRoot.erase [0, 1] = .ok "<p:a xmlns:p=\"urn:a\">t</p:a>".toList ∧
    S'.forest.roots.map (fun r' => toXmlString S'.env r'.erase [0, 1]) =
      [.ok "<p:a xmlns:p=\"urn:a\">t</p:a>".toList] := by
  obtain ⟨_, _, _, _, _, _, _, _, _, _, _, _, _, h⟩ := c15FullRun_facts
  exact h

example : ∃ r' ks' s p,
    let S := (PStore.init Env.fresh).run c15FullCalls
    let S' := (PStore.init Env.fresh).run (c15FullCalls ++ [.api (.deduplicateNamespaces 0)])
    S'.forest.rootOf? 0 = some r' ∧ r'.erase.at? [0, 1] = some (.node (.element 3) ks') ∧
      toXmlString S.env r'.erase [0, 1] = .ok s ∧ parseString .document S.env s = .ok p ∧ p.env = S.env ∧
      deepEqual p.tree.kids.head! (.node (.element 3) [.node (.namespace 2 2) [], .node (.text ['t']) []]) = true := by
  obtain ⟨hw, hoff, hr0, _, henv, hval, hid, _, _, hn, _, _, _, hsp, hroots, hat, hwq, _⟩ := c15FullRun_facts
  obtain ⟨_, _, _, _, r', path, _, _, b3, b4, _, _, _, hall⟩ :=
    C15_reachable_dedup_inner_full Env.fresh c15FullCalls hw _ rfl hoff
      c15FullRoot (by rw [hr0]; exact List.mem_singleton_self _) rfl henv hval hid 0 hn _ rfl
  rw [b3, hr0] at hroots
  have hp0 : (c15FullRoot.pathOf 0).isSome = true := by decide +kernel
  simp only [List.map_cons, List.map_nil, hp0, if_true, List.cons.injEq, and_true] at hroots
  obtain ⟨ks', s, p, X, X', k1, _, k3, _, _, k6, k7, k8, _, k10⟩ :=
    hall 2 [0, 1] [0, 1] 3 [.node (.namespace 2 2) [], .node (.text ['t']) []] (by rw [hsp]; rfl) (by rw [hroots]; rfl)
      hat hwq
  refine ⟨r', ks', s, p, b4, k1, k3, k6, k8, ?_⟩
  rw [k7]
  exact k10

end InnerStartFull

end XotModel.Props
