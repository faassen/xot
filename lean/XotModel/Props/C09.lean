/-
  C09 — Namespace scope queries agree with nearest-declaration-wins scoping.
  Property theorems only; for every tree, every path, every prefix / namespace / name id.

  Specification: `scopeSpec t path p` (Model/Scope.lean) — recursion on the ancestor-or-self chain,
  nearest declaration of `p` wins, `xmlns=""` removes the default binding, `xml` bound above the root.

    C09_in_scope                  namespaces_in_scope enumerates exactly scopeSpec, each prefix once,
                                  never xmlns="", always xml
    C09_ns_for_prefix             namespace_for_prefix = scopeSpec (full strength, as of /repo debae56:
                                  only xmlns="" hides a binding; all trees, nodes, prefixes)
    C09_ns_for_prefix_in_scope    namespace_for_prefix(p) = Some(ns) iff namespaces_in_scope lists (p, ns)
    C09_defined                   is_prefix_defined is implied by a binding
    C09_prefix_sound              prefix_for_namespace(ns) = p, ns real  ⇒  p is bound to ns
    C09_prefix_complete           whenever some prefix is bound to ns, prefix_for_namespace finds one
                                  (full strength, as of /repo 6df2c0f: a shadowed prefix is skipped);
                                  C09_prefix_iff: for a real namespace, Some(_) iff bound
    C09_fullname_string           full_name is the spelling of name_ref's prefix
    C09_node_name_ref             node_name_ref reports the node's own name with name_ref's prefix
    C09_inherited_sound           inherited_prefixes ⊆ bindings in scope at the parent
    C09_unresolved_recursive      unresolved_namespaces = a recursive function of the declarations inside the
                                  subtree only (name stack starts empty)
    C09_unresolved_element        per element, under the stack invariant: exactly the namespace of its name if
                                  real, not XML and bound to no prefix, and the namespaces of its attribute
                                  names that are real, not XML and bound to no NON-EMPTY prefix
    C09_unresolved_real           the no-namespace id and the XML namespace are never reported
    C09_stack_invariant           FullnameSerializer: top frame = nearest-declaration bindings of the
                                  frames pushed (unique prefixes per element)
    C09_unresolved                ONE path-indexed iff over the whole subtree: ns is reported iff some
                                  element e of the subtree has a name in ns that the declarations on the
                                  way from the node to e (inclusive, EMPTY frame below) give no usable prefix
    C09_unresolved_unique_needed  closed witness: with a prefix declared twice on one element the iff fails
    C09_inherited                 inherited_prefixes = ALL bindings in scope at the parent (default prefix
                                  included, every prefix of a namespace) whose namespace is reported
                                  unresolved; each prefix once
    C09_inherited_iff             … = bindings of the parent's scope that some name of the subtree needs
    C09_prefix_first / C09_namespace_prefix_first   WHICH prefix: for a real namespace, the prefix of the
                                  first pair namespaces_in_scope yields with that namespace (attribute
                                  nodes: the first such pair with a NON-EMPTY prefix)
  Qualified names, full strength as of /repo 7303420 + 84c8828 (no guards, every tree, every node):
    C09_nameref_attribute / C09_fullname_attribute   context = attribute node (any name): Ok(p) ⇒ p non-empty
                                  for a real namespace and p reads back (attribute rule: unprefixed = no
                                  namespace) as the name's namespace; Err ⇔ real namespace with no NON-EMPTY
                                  prefix bound to it, and then MissingPrefix(ns)
    C09_nameref_element / C09_fullname_element       context = element, its OWN name: Ok(p) ⇒ p reads back
                                  (element rule: unprefixed = default namespace if any) as the name's
                                  namespace; Err ⇔ (real namespace, no prefix at all bound) or (no namespace,
                                  default namespace in scope), and then MissingPrefix(ns) / MissingPrefix("")
    C09_nameref_other_name / C09_fullname_other_name context not an attribute node, name not its own element
                                  name: exactly prefix_for_namespace (default prefix included); a
                                  no-namespace name is never refused
    C09_fullname                  the property as worded, for node_name_ref on every element / attribute node
  The name types that consume these results (xmlname/*.rs, Model/XmlName.lean):
    C09_parse_full_name_inverse   OwnedName::parse_full_name / CreateName::parse_full_name with the element-rule
                                  lookup of the node's scope give back exactly what name_ref + to_owned
                                  reported, for the string full_name wrote — whenever that lookup resolves the
                                  written prefix to the name's namespace; C09_parse_full_name_resolves: which is
                                  always the case for a name in a real namespace, and for a no-namespace name
                                  iff no default namespace is in scope (the attribute-style spelling)
    C09_to_owned_round_trip       to_owned then to_ref / maybe_to_ref / to_create returns the ids, tables unchanged
                                  (C09_interned_found: the side conditions hold for duplicate-free tables)
    C09_has_unprefixed_namespace  = in_default_namespace of to_owned
    C09_with_suffix, C09_with_default_namespace
-/
import XotModel.Lemmas.Scope
import XotModel.Lemmas.ScopeWalk
import XotModel.Lemmas.ScopeUnres
import XotModel.Lemmas.ScopeName
import XotModel.Lemmas.XmlName
import XotModel.Lemmas.ReachScope
import XotModel.Lemmas.ReachHist
import XotModel.Props.C04

namespace XotModel.Props
open XotModel

/-- `namespaces_in_scope(node)` enumerates exactly the specification: `(p, ns)` is yielded iff `p`
    is bound to `ns`; each prefix at most once; `xmlns=""` never; `xml` always. -/
theorem C09_in_scope (t : Tree) (path : Path) (l : List (Nat × Nat))
    (h : namespacesInScope t path = some l) :
    (∀ p ns, (p, ns) ∈ l ↔ scopeSpec t path p = some ns) ∧
    (l.map Prod.fst).Nodup ∧
    (Env.emptyPrefix, Env.noNamespace) ∉ l ∧
    ∃ ns, (Env.xmlPrefix, ns) ∈ l := by
  simp only [namespacesInScope, Option.map_eq_some_iff] at h
  obtain ⟨chain, hc, rfl⟩ := h
  refine ⟨fun p ns => by rw [scopeSpec_of_chain hc]; exact mem_namespacesInScopeChain chain p ns,
    namespacesInScopeChain_nodup chain, ?_, ?_⟩
  · intro hm
    exact scopeSpecChain_empty_ne chain ((mem_namespacesInScopeChain chain _ _).1 hm)
  · obtain ⟨ns, hns⟩ := scopeSpecChain_xml chain
    exact ⟨ns, (mem_namespacesInScopeChain chain _ _).2 hns⟩

/-- `namespace_for_prefix(p)` is the specification's binding of `p` (as of /repo debae56; a non-empty
    prefix bound to the empty URI is reported as `Some("")`, as `namespaces_in_scope` lists it): every tree,
    every node, every prefix. -/
theorem C09_ns_for_prefix (t : Tree) (path : Path) (p : Nat) (r : Option Nat)
    (h : namespaceForPrefix t path p = some r) :
    r = scopeSpec t path p := by
  simp only [namespaceForPrefix, Option.map_eq_some_iff] at h
  obtain ⟨chain, hc, rfl⟩ := h
  simp [scopeSpec, hc, namespaceForPrefixChain_eq]

/-- `namespace_for_prefix` and `namespaces_in_scope` agree: `Some(ns)` iff the pair is listed. -/
theorem C09_ns_for_prefix_in_scope (t : Tree) (path : Path) (p ns : Nat) (l : List (Nat × Nat))
    (hl : namespacesInScope t path = some l) :
    namespaceForPrefix t path p = some (some ns) ↔ (p, ns) ∈ l := by
  rw [(C09_in_scope t path l hl).1 p ns]
  simp only [namespacesInScope, Option.map_eq_some_iff] at hl
  obtain ⟨chain, hc, _⟩ := hl
  simp [namespaceForPrefix, scopeSpec, hc, namespaceForPrefixChain_eq]

/-- `is_prefix_defined` holds for every bound prefix. -/
theorem C09_defined (t : Tree) (path : Path) (p ns : Nat) (h : scopeSpec t path p = some ns) :
    isPrefixDefined t path p = some true := by
  obtain ⟨chain, hc, h⟩ := scopeSpec_eq_some h
  simp [isPrefixDefined, hc, isPrefixDefinedChain_eq, scopeSpecChain_some_lookup h]

/-- Soundness of `prefix_for_namespace` for a real namespace. -/
theorem C09_prefix_sound (t : Tree) (path : Path) (ns p : Nat)
    (h : prefixForNamespace t path ns = some (some p)) (hns : ns ≠ Env.noNamespace) :
    scopeSpec t path p = some ns := by
  simp only [prefixForNamespace, Option.map_eq_some_iff] at h
  obtain ⟨chain, hc, h⟩ := h
  rw [scopeSpec_of_chain hc]
  exact (namespacePrefixChain_sound (by simpa [prefixForNamespaceChain] using h) hns).1

/-- Completeness, at full strength: if some prefix is bound to `ns` in the node's scope,
    `prefix_for_namespace` returns a prefix, and (for a real namespace) one bound to `ns`. -/
theorem C09_prefix_complete (t : Tree) (path : Path) (ns : Nat)
    (hex : ∃ p, scopeSpec t path p = some ns) :
    ∃ p, prefixForNamespace t path ns = some (some p) ∧
      (ns ≠ Env.noNamespace → scopeSpec t path p = some ns) := by
  obtain ⟨q, hq⟩ := hex
  obtain ⟨chain, hc, hq⟩ := scopeSpec_eq_some hq
  obtain ⟨p, hp⟩ := namespacePrefixChain_complete (ne := false) ⟨q, hq, rfl⟩
  have hres : prefixForNamespace t path ns = some (some p) := by
    simp [prefixForNamespace, hc, prefixForNamespaceChain, hp]
  exact ⟨p, hres, fun hns => C09_prefix_sound t path ns p hres hns⟩

/-- For a real namespace: `prefix_for_namespace` answers `Some(_)` exactly when the namespace is
    bound in the node's scope. -/
theorem C09_prefix_iff (t : Tree) (path : Path) (ns : Nat) (hns : ns ≠ Env.noNamespace) :
    (∃ p, prefixForNamespace t path ns = some (some p)) ↔ ∃ p, scopeSpec t path p = some ns :=
  ⟨fun ⟨p, hp⟩ => ⟨p, C09_prefix_sound t path ns p hp hns⟩,
   fun h => let ⟨p, hp, _⟩ := C09_prefix_complete t path ns h; ⟨p, hp⟩⟩

/-! ### `node_name_ref` -/

/-- `node_name_ref(node)` reports the node's own name (`node_name`) with `name_ref`'s prefix. -/
theorem C09_node_name_ref (env : Env) (t : Tree) (path : Path) (chain : List Tree) (sub : Tree)
    (name p : Nat) (hc : t.ancestorsOrSelf path = some chain) (hs : t.at? path = some sub)
    (h : nodeNameRef env t path = some (.ok (some (name, p)))) :
    nodeName sub.value = some name ∧ nameRefChain env chain name = .ok p := by
  have hh := ancestorsOrSelf_head path t chain hc
  rw [hs] at hh
  simp only [nodeNameRef, hc, Option.map_some, Option.some.injEq, nodeNameRefChain, hh] at h
  cases hn : nodeName sub.value with
  | none => simp [hn] at h
  | some n =>
    simp only [hn] at h
    cases hr : nameRefChain env chain n with
    | error e => simp [hr] at h
    | ok q =>
      simp only [hr, Except.ok.injEq, Option.some.injEq, Prod.mk.injEq] at h
      obtain ⟨rfl, rfl⟩ := h
      exact ⟨rfl, hr⟩

/-- `unresolved_namespaces(node)` depends on the subtree only and is the recursive function
    `unresolvedRec` started from an EMPTY frame: the edge loop, the push-if-non-empty /
    pop-if-had-declarations discipline are discharged. -/
theorem C09_unresolved_recursive (env : Env) (t : Tree) (path : Path) :
    unresolvedNamespaces env t path = (t.at? path).map (unresolvedRec env []) := by
  unfold unresolvedNamespaces
  cases t.at? path <;> simp [unresolvedNamespacesSub_eq]

/-- What one element contributes, read against the nearest-declaration bindings of the frames
    pushed inside the subtree (stack invariant of `C09_stack_invariant`): the namespace of the
    element name if it is real, not the XML namespace and bound to no prefix; the namespace of an
    attribute name if it is real, not the XML namespace and bound to no non-empty prefix. -/
theorem C09_unresolved_element (env : Env) (s : FStack) (frames : List (List (Nat × Nat)))
    (h : FrameInv s.top frames) (t : Tree) (name ns : Nat) :
    ns ∈ unresolvedOfElement env s.top t name ↔
      (env.nsOfName name = ns ∧ ns ≠ Env.noNamespace ∧ ns ≠ Env.xmlNamespace ∧
        ∀ p, scopeOf frames p ≠ some ns) ∨
      (∃ a ∈ t.attrs.map (·.1), env.nsOfName a = ns ∧ ns ≠ Env.noNamespace ∧
        ns ≠ Env.xmlNamespace ∧ ∀ p, p ≠ Env.emptyPrefix → scopeOf frames p ≠ some ns) :=
  mem_unresolvedOfElement_gen env s.top frames h t name ns

/-- The no-namespace id and the XML namespace are never reported as unresolved. -/
theorem C09_unresolved_real (env : Env) (t : Tree) (path : Path) (l : List Nat)
    (h : unresolvedNamespaces env t path = some l) (ns : Nat) (hm : ns ∈ l) :
    ns ≠ Env.noNamespace ∧ ns ≠ Env.xmlNamespace := by
  rw [C09_unresolved_recursive] at h
  cases hs : t.at? path with
  | none => simp [hs] at h
  | some sub =>
    simp only [hs, Option.map_some, Option.some.injEq] at h
    subst h
    exact unresolvedRec_real env ns sub [] hm

/-- The name stack of the serialisers (`FullnameSerializer`): after pushing the declarations of
    the elements `frames` (innermost first, unique prefixes per element) the top frame holds
    exactly the nearest-declaration bindings, each prefix once; `pop` undoes `push`. -/
theorem C09_stack_invariant (s : FStack) (frames : List (List (Nat × Nat))) (decls : List (Nat × Nat))
    (h : FrameInv s.top frames) (hd : (decls.map Prod.fst).Nodup) :
    FrameInv (s.push decls).top (decls :: frames) ∧ (s.push decls).pop (!decls.isEmpty) = s :=
  ⟨h.push decls hd, FStack.pop_push s decls⟩

/-! ### `unresolved_namespaces` and `inherited_prefixes` over the whole subtree -/

/-- `unresolved_namespaces(node)`, one statement for the whole subtree.  The result is a list in
    document order WITH repetitions (one entry per name that cannot be written; the code does not
    deduplicate), so the statement is about membership: `ns` is reported iff there is an element
    `e` (at raw path `q` below `node`, `chain` = the nodes from `e` up to `node`) with
    `NeedsNs … e ns`: `ns` is real and not the XML namespace, and either `e`'s element name is in
    `ns` and NO prefix is bound to `ns`, or one of `e`'s attribute names is in `ns` and no
    NON-EMPTY prefix is bound to `ns` — bindings read by the nearest-declaration rule `scopeOf`
    over the declarations of the elements of `chain` only (`elementFrames chain`, innermost first):
    the name stack starts from an EMPTY frame, nothing above `node` counts.
    Hypothesis: no element of the subtree declares a prefix twice. -/
theorem C09_unresolved (env : Env) (t : Tree) (path : Path) (sub : Tree) (l : List Nat)
    (hs : t.at? path = some sub) (hu : UniqueDeclsBelow sub)
    (h : unresolvedNamespaces env t path = some l) (ns : Nat) :
    ns ∈ l ↔ ∃ q chain e, sub.ancestorsOrSelf q = some chain ∧ sub.at? q = some e ∧
      NeedsNs env (scopeOf (elementFrames chain)) e ns := by
  simp only [unresolvedNamespaces, hs, Option.map_some, Option.some.injEq] at h
  subst h
  rw [mem_unresolvedNamespacesSub env sub hu ns]
  simp [UnresolvedIn]

/-- `NeedsNs` spelled out. -/
theorem C09_unresolved_needs (env : Env) (sc : Nat → Option Nat) (e : Tree) (ns : Nat) :
    NeedsNs env sc e ns ↔
      ∃ name, e.value = .element name ∧ ns ≠ Env.noNamespace ∧ ns ≠ Env.xmlNamespace ∧
        ((env.nsOfName name = ns ∧ ∀ p, sc p ≠ some ns) ∨
         (∃ a ∈ e.attrs.map (·.1), env.nsOfName a = ns ∧
            ∀ p, p ≠ Env.emptyPrefix → sc p ≠ some ns)) := Iff.rfl

/-- The hypothesis of `C09_unresolved` is needed: `<a xmlns:p="A" xmlns:p="B"/>` with `a` in `B`
    (a state the namespace map of the API cannot produce). `FullnameInfo::new` keeps both entries,
    so `B` counts as bound, while a lookup of `p` gives `A`. -/
theorem C09_unresolved_unique_needed :
    ¬ ∀ (env : Env) (sub : Tree) (ns : Nat), ns ∈ unresolvedNamespacesSub env sub ↔ UnresolvedIn env [] sub ns := by
  intro h
  have h1 := (h { namespaces := [], prefixes := [], names := [(['a'], 3)] }
    (.node (.element 0) [.node (.namespace 2 2) [], .node (.namespace 2 3) []]) 3).2
    ⟨[], _, _, rfl, rfl, 0, rfl, by decide +kernel, by decide +kernel, .inl ⟨by decide +kernel, by
      intro p
      have hd : (Tree.node (.element 0) [.node (.namespace 2 2) [], .node (.namespace 2 3) []]).nsDecls =
          [(2, 2), (2, 3)] := by decide +kernel
      simp only [elementFrames, Tree.value, Value.isElement, List.filter_cons_of_pos, List.filter_nil,
        List.map_cons, List.map_nil, List.append_nil, scopeOf, hd]
      by_cases hp : p = 2
      · subst hp; decide +kernel
      · have : (p == 2) = false := by simpa using hp
        simp [List.lookup, this]⟩⟩
  revert h1
  decide +kernel

/-- `inherited_prefixes(node)`, exactly: the pairs `(p, ns)` such that `p` is bound to `ns` in the
    PARENT's scope (`scopeSpec`, so never `xmlns=""`, and including the `xml` binding in
    principle — but see `C09_unresolved_real`: the XML namespace is never reported) and `ns` is
    among `unresolved_namespaces(node)`.  Nothing is selected per namespace: if several prefixes
    are bound to a needed namespace ALL of them are inherited, and the default prefix is inherited
    like any other (also when the only name needing `ns` is an attribute name, which the default
    prefix cannot serve).  Each prefix occurs once; a root (no parent) inherits nothing. -/
theorem C09_inherited (env : Env) (t : Tree) (path : Path) (l : List (Nat × Nat))
    (h : inheritedPrefixes env t path = some l) :
    (∀ p ns, (p, ns) ∈ l ↔
      path ≠ [] ∧ scopeSpec t path.dropLast p = some ns ∧
        ∃ u, unresolvedNamespaces env t path = some u ∧ ns ∈ u) ∧
    (l.map Prod.fst).Nodup := by
  unfold inheritedPrefixes at h
  cases hs : t.at? path with
  | none => simp [hs] at h
  | some sub =>
    simp only [hs, Option.some.injEq] at h
    subst h
    simp only [unresolvedNamespaces, hs, Option.map_some, Option.some.injEq, exists_eq_left']
    cases path with
    | nil => simp
    | cons i rest =>
      simp only [List.isEmpty_cons, Bool.false_eq_true, ↓reduceIte, ne_eq, reduceCtorEq,
        not_false_eq_true, true_and, List.mem_filter, List.contains_eq_mem, decide_eq_true_eq]
      cases hn : namespacesInScope t (i :: rest).dropLast with
      | none =>
        have : t.ancestorsOrSelf (i :: rest).dropLast = none := by
          simpa [namespacesInScope] using hn
        simp [scopeSpec, this]
      | some l' =>
        obtain ⟨hmem, hnd, _, _⟩ := C09_in_scope t _ l' hn
        simp only [Option.getD_some]
        refine ⟨fun p ns => by rw [hmem], ?_⟩
        exact (List.filter_sublist.map Prod.fst).nodup hnd

/-- `inherited_prefixes(node)` only lists bindings in scope at the parent. -/
theorem C09_inherited_sound (env : Env) (t : Tree) (path : Path) (l : List (Nat × Nat))
    (h : inheritedPrefixes env t path = some l) (p ns : Nat) (hm : (p, ns) ∈ l) :
    path ≠ [] ∧ scopeSpec t path.dropLast p = some ns :=
  let ⟨h1, h2, _⟩ := ((C09_inherited env t path l h).1 p ns).mp hm
  ⟨h1, h2⟩

/-- "A binding is inherited iff some name in the subtree needs it": with `C09_unresolved`. -/
theorem C09_inherited_iff (env : Env) (t : Tree) (path : Path) (sub : Tree) (l : List (Nat × Nat))
    (hs : t.at? path = some sub) (hu : UniqueDeclsBelow sub)
    (h : inheritedPrefixes env t path = some l) (p ns : Nat) :
    (p, ns) ∈ l ↔
      path ≠ [] ∧ scopeSpec t path.dropLast p = some ns ∧
        ∃ q chain e, sub.ancestorsOrSelf q = some chain ∧ sub.at? q = some e ∧
          NeedsNs env (scopeOf (elementFrames chain)) e ns := by
  rw [(C09_inherited env t path l h).1 p ns]
  simp only [unresolvedNamespaces, hs, Option.map_some, Option.some.injEq, exists_eq_left']
  rw [C09_unresolved env t path sub _ hs hu (by simp [unresolvedNamespaces, hs]) ns]

/-! ### Qualified names (`full_name`, `name_ref`, `node_name_ref`; `/repo` 7303420, 84c8828) -/

/-- `full_name` spells the prefix `name_ref` reports: `prefix:local`, or `local` for the empty
    prefix string; the same error otherwise. -/
theorem C09_fullname_string (env : Env) (chain : List Tree) (name : Nat) :
    fullNameChain env chain name =
      match nameRefChain env chain name with
      | .ok p => .ok (qnameSpelling env p name)
      | .error e => .error e := fullNameChain_eq env chain name

/-- `name_ref(name, a)` where the context `a` is an ATTRIBUTE NODE (`chain` = `a` and its ancestors),
    for ANY name, in particular `a`'s own.  `Ok(p)`: `p` is non-empty for a name in a real namespace
    and reads back — by the attribute rule, unprefixed = no namespace — as the name's namespace.
    `Err(e)` exactly when the name is in a real namespace to which no NON-EMPTY prefix is bound in
    `a`'s scope, and then `e = MissingPrefix(ns)`.  So: `Ok` iff the name can be written. -/
theorem C09_nameref_attribute (env : Env) (chain : List Tree) (a : Tree) (n : Nat) (v : Str)
    (name : Nat) (hh : chain.head? = some a) (hv : a.value = .attribute n v) :
    (∀ p, nameRefChain env chain name = .ok p →
      (env.nsOfName name ≠ Env.noNamespace → p ≠ Env.emptyPrefix) ∧
      resolveQName chain true p = some (env.nsOfName name)) ∧
    (∀ e, nameRefChain env chain name = .error e ↔
      e = .missingPrefix (env.nsOfName name) ∧ env.nsOfName name ≠ Env.noNamespace ∧
      ∀ q, q ≠ Env.emptyPrefix → scopeSpecChain chain q ≠ some (env.nsOfName name)) ∧
    ((∃ p, nameRefChain env chain name = .ok p) ↔
      env.nsOfName name = Env.noNamespace ∨
      ∃ q, q ≠ Env.emptyPrefix ∧ scopeSpecChain chain q = some (env.nsOfName name)) :=
  nameRefChain_attribute env chain a n v name hh hv

/-- `name_ref(name, e)` where the context `e` is an ELEMENT and `name` is its OWN name.  `Ok(p)`: `p`
    (possibly empty) reads back — by the element rule, unprefixed = the default namespace if any —
    as the name's namespace.  `Err(e)` exactly when (real namespace, NO prefix at all bound to it)
    or (no namespace, a default namespace in scope: nothing can say "no namespace" there), and then
    `e = MissingPrefix(ns)` (`MissingPrefix("")` in the second case). -/
theorem C09_nameref_element (env : Env) (chain : List Tree) (e : Tree) (name : Nat)
    (hh : chain.head? = some e) (hv : e.value = .element name) :
    (∀ p, nameRefChain env chain name = .ok p →
      resolveQName chain false p = some (env.nsOfName name)) ∧
    (∀ err, nameRefChain env chain name = .error err ↔
      err = .missingPrefix (env.nsOfName name) ∧
      ((env.nsOfName name ≠ Env.noNamespace ∧
          ∀ q, scopeSpecChain chain q ≠ some (env.nsOfName name)) ∨
       (env.nsOfName name = Env.noNamespace ∧
          ∃ d, scopeSpecChain chain Env.emptyPrefix = some d))) :=
  nameRefChain_element env chain e name hh hv

/-- What the code does when the context `c` is NOT an attribute node (an element, but also a
    document, text, comment, processing instruction or namespace node) and `name` is NOT its own
    element name — e.g. one of an element's attribute names queried with the element as context.
    A name in no namespace gets the empty prefix, whatever is in scope (no refusal under a default
    namespace).  A name in a real namespace gets exactly `prefix_for_namespace(c, ns)`: the first
    unshadowed prefix bound to `ns`, the DEFAULT PREFIX INCLUDED (element rule, also for a name
    that is an attribute name), and `MissingPrefix(ns)` exactly when no prefix is bound to `ns`. -/
theorem C09_nameref_other_name (env : Env) (chain : List Tree) (c : Tree) (name : Nat)
    (hh : chain.head? = some c) (hna : valueIsAttribute c.value = false)
    (hne : c.value ≠ .element name) :
    (env.nsOfName name = Env.noNamespace → nameRefChain env chain name = .ok Env.emptyPrefix) ∧
    (env.nsOfName name ≠ Env.noNamespace →
      (nameRefChain env chain name =
        match prefixForNamespaceChain chain (env.nsOfName name) with
        | some p => .ok p
        | none => .error (.missingPrefix (env.nsOfName name))) ∧
      (∀ p, nameRefChain env chain name = .ok p →
        resolveQName chain false p = some (env.nsOfName name)) ∧
      (∀ e, nameRefChain env chain name = .error e ↔
        e = .missingPrefix (env.nsOfName name) ∧
        ∀ q, scopeSpecChain chain q ≠ some (env.nsOfName name))) :=
  nameRefChain_other_name env chain c name hh hna hne

/-! #### The same for `full_name`, for every tree and every node -/

/-- `full_name(a, name)` for an ATTRIBUTE NODE `a` of any tree (any `name`; `name = n` is `a`'s own
    name).  `Ok(s)`: `s` spells a prefix `p` (the one `name_ref` reports) that is non-empty if the
    name is in a real namespace and that resolves in `a`'s scope, by the attribute rule, to the
    name's namespace.  `Err(e)` exactly when the name is in a real namespace with no non-empty
    prefix bound to it in `a`'s scope (`scopeSpec`), and then `e = MissingPrefix(ns)`. -/
theorem C09_fullname_attribute (env : Env) (t : Tree) (path : Path) (chain : List Tree) (a : Tree)
    (n : Nat) (v : Str) (name : Nat) (hc : t.ancestorsOrSelf path = some chain)
    (ha : t.at? path = some a) (hv : a.value = .attribute n v) :
    (∀ s, fullName env t path name = some (.ok s) →
      ∃ p, nameRef env t path name = some (.ok p) ∧ s = qnameSpelling env p name ∧
        (env.nsOfName name ≠ Env.noNamespace → p ≠ Env.emptyPrefix) ∧
        resolveQName chain true p = some (env.nsOfName name)) ∧
    (∀ e, fullName env t path name = some (.error e) ↔
      e = .missingPrefix (env.nsOfName name) ∧ env.nsOfName name ≠ Env.noNamespace ∧
      ∀ q, q ≠ Env.emptyPrefix → scopeSpec t path q ≠ some (env.nsOfName name)) := by
  have hh : chain.head? = some a := (ancestorsOrSelf_head path t chain hc).trans ha
  obtain ⟨hok, herr, _⟩ := C09_nameref_attribute env chain a n v name hh hv
  simp only [fullName, nameRef, hc, Option.map_some, Option.some.injEq, scopeSpec_of_chain hc]
  refine ⟨fun s hs => ?_, fun e => ?_⟩
  · obtain ⟨p, hp, rfl⟩ := (fullNameChain_ok_iff env chain name s).1 hs
    exact ⟨p, hp, rfl, hok p hp⟩
  · rw [fullNameChain_error_iff]; exact herr e

/-- `full_name(e, name)` for an ELEMENT `e` of any tree and its OWN name.  `Ok(s)`: `s` spells a
    prefix `p` (possibly empty) that resolves in `e`'s scope, by the element rule, to the name's
    namespace.  `Err(err)` exactly when (real namespace, no prefix at all bound to it) or
    (no namespace, a default namespace in scope), and then `err = MissingPrefix(ns)`. -/
theorem C09_fullname_element (env : Env) (t : Tree) (path : Path) (chain : List Tree) (e : Tree)
    (name : Nat) (hc : t.ancestorsOrSelf path = some chain)
    (he : t.at? path = some e) (hv : e.value = .element name) :
    (∀ s, fullName env t path name = some (.ok s) →
      ∃ p, nameRef env t path name = some (.ok p) ∧ s = qnameSpelling env p name ∧
        resolveQName chain false p = some (env.nsOfName name)) ∧
    (∀ err, fullName env t path name = some (.error err) ↔
      err = .missingPrefix (env.nsOfName name) ∧
      ((env.nsOfName name ≠ Env.noNamespace ∧
          ∀ q, scopeSpec t path q ≠ some (env.nsOfName name)) ∨
       (env.nsOfName name = Env.noNamespace ∧
          ∃ d, scopeSpec t path Env.emptyPrefix = some d))) := by
  have hh : chain.head? = some e := (ancestorsOrSelf_head path t chain hc).trans he
  obtain ⟨hok, herr⟩ := C09_nameref_element env chain e name hh hv
  simp only [fullName, nameRef, hc, Option.map_some, Option.some.injEq, scopeSpec_of_chain hc]
  refine ⟨fun s hs => ?_, fun err => ?_⟩
  · obtain ⟨p, hp, rfl⟩ := (fullNameChain_ok_iff env chain name s).1 hs
    exact ⟨p, hp, rfl, hok p hp⟩
  · rw [fullNameChain_error_iff]; exact herr err

/-- `full_name(c, name)` where `c` is not an attribute node and `name` is not `c`'s own element
    name: exactly the spelling of `prefix_for_namespace(c, ns)` (default prefix included) for a
    name in a real namespace, `MissingPrefix(ns)` iff that is `None`; the bare local name for a
    name in no namespace, whatever default namespace is in scope. -/
theorem C09_fullname_other_name (env : Env) (t : Tree) (path : Path) (chain : List Tree) (c : Tree)
    (name : Nat) (hc : t.ancestorsOrSelf path = some chain) (hs : t.at? path = some c)
    (hna : valueIsAttribute c.value = false) (hne : c.value ≠ .element name) :
    (env.nsOfName name = Env.noNamespace →
      fullName env t path name = some (.ok (qnameSpelling env Env.emptyPrefix name))) ∧
    (env.nsOfName name ≠ Env.noNamespace →
      ∃ r, prefixForNamespace t path (env.nsOfName name) = some r ∧
        fullName env t path name = some (match r with
          | some p => .ok (qnameSpelling env p name)
          | none => .error (.missingPrefix (env.nsOfName name)))) := by
  have hh : chain.head? = some c := (ancestorsOrSelf_head path t chain hc).trans hs
  obtain ⟨h0, h1⟩ := C09_nameref_other_name env chain c name hh hna hne
  simp only [fullName, prefixForNamespace, hc, Option.map_some, Option.some.injEq, exists_eq_left']
  refine ⟨fun h => ?_, fun h => ?_⟩
  · rw [fullNameChain_eq, h0 h]
  · rw [fullNameChain_eq, (h1 h).1]
    cases prefixForNamespaceChain chain (env.nsOfName name) <;> rfl

/-- The property as worded: the qualified name `node_name_ref` reports for an element or attribute
    node uses a prefix which, resolved in that node's scope by the XML-Namespaces rule for its
    kind, gives back the node's expanded name.  Full strength: every tree, every such node. -/
theorem C09_fullname (env : Env) (t : Tree) (path : Path) (chain : List Tree) (sub : Tree)
    (name p : Nat) (hc : t.ancestorsOrSelf path = some chain) (hs : t.at? path = some sub)
    (hk : sub.value.isElement = true ∨ valueIsAttribute sub.value = true)
    (h : nodeNameRef env t path = some (.ok (some (name, p)))) :
    nodeName sub.value = some name ∧
      resolveQName chain (valueIsAttribute sub.value) p = some (env.nsOfName name) := by
  obtain ⟨hn, hr⟩ := C09_node_name_ref env t path chain sub name p hc hs h
  have hh : chain.head? = some sub := (ancestorsOrSelf_head path t chain hc).trans hs
  refine ⟨hn, ?_⟩
  rcases hk with hk | hk
  · obtain ⟨m, hv⟩ : ∃ m, sub.value = .element m := by
      cases hv : sub.value <;> simp_all [Value.isElement]
    simp only [hv, nodeName, Option.some.injEq] at hn
    subst hn
    rw [hv]
    exact (C09_nameref_element env chain sub m hh hv).1 p hr
  · obtain ⟨m, v, hv⟩ : ∃ m v, sub.value = .attribute m v := by
      cases hv : sub.value <;> simp_all [valueIsAttribute]
    rw [hv]
    exact ((C09_nameref_attribute env chain sub m v name hh hv).1 p hr).2

/-- WHICH prefix `namespace_prefix(node, ns, non_empty)` reports for a real namespace: the prefix
    of the first pair `namespaces_in_scope(node)` yields with that namespace — with `non_empty`
    (attribute nodes) the first such pair with a non-empty prefix. -/
theorem C09_namespace_prefix_first (t : Tree) (path : Path) (ns : Nat) (nonEmpty : Bool)
    (hns : ns ≠ Env.noNamespace) (l : List (Nat × Nat)) (h : namespacesInScope t path = some l) :
    namespacePrefix t path ns nonEmpty =
      some ((l.find? (fun kv => kv.2 == ns && !(nonEmpty && kv.1 == Env.emptyPrefix))).map Prod.fst) := by
  simp only [namespacesInScope, Option.map_eq_some_iff] at h
  obtain ⟨chain, hc, rfl⟩ := h
  simp only [namespacePrefix, hc, Option.map_some, namespacePrefixChain_eq_find chain ns nonEmpty hns]
  rfl

/-- WHICH prefix `prefix_for_namespace` reports for a real namespace: the prefix of the first pair
    `namespaces_in_scope(node)` yields with that namespace (nearest element first, declaration
    order within an element, shadowed declarations skipped). -/
theorem C09_prefix_first (t : Tree) (path : Path) (ns : Nat) (hns : ns ≠ Env.noNamespace)
    (l : List (Nat × Nat)) (h : namespacesInScope t path = some l) :
    prefixForNamespace t path ns = some ((l.find? (fun kv => kv.2 == ns)).map Prod.fst) := by
  simp only [namespacesInScope, Option.map_eq_some_iff] at h
  obtain ⟨chain, hc, rfl⟩ := h
  simp [prefixForNamespace, hc, prefixForNamespaceChain_eq_find chain ns hns]

/-! ### Non-vacuity -/

/-- `<a xmlns:p="A" xmlns:q="B"><b xmlns:p="C"/></a>` at `b`, namespace `B`: found past the
    shadowed `p`. -/
example : prefixForNamespace (.node (.element 2) [.node (.namespace 2 2) [], .node (.namespace 3 3) [],
    .node (.element 3) [.node (.namespace 2 4) []]]) [2] 3 = some (some 3) := by decide +kernel

example : namespacesInScope (.node (.element 2) [.node (.namespace 2 2) [], .node (.namespace 0 0) [],
    .node (.element 3) [.node (.namespace 2 4) []]]) [2] = some [(2, 4), (1, 1)] := by decide +kernel

/-- `<a xmlns:p=""/>` (only reachable through the API: the parser refuses it): `namespaces_in_scope`
    lists `(p, "")` and `namespace_for_prefix(p)` is `Some("")`; `xmlns=""` hides. -/
example : namespaceForPrefix (.node (.element 2) [.node (.namespace 2 0) []]) [] 2 = some (some 0) := by decide +kernel
example : namespacesInScope (.node (.element 2) [.node (.namespace 2 0) []]) [] = some [(2, 0), (1, 1)] := by decide +kernel
example : namespaceForPrefix (.node (.element 2) [.node (.namespace 0 3) [],
    .node (.element 2) [.node (.namespace 0 0) []]]) [1] 0 = some none := by decide +kernel

/-- `<a xmlns:p="A"><b B:x=""/></a>` (b in A, x in B): unique declarations; `B` is reported for the
    whole tree, `A` only for `b` alone, and `b` inherits exactly `p ↦ A`. -/
def c09UnresTree : Tree :=
  .node (.element 0) [.node (.namespace 2 2) [], .node (.element 0) [.node (.attribute 1 []) []]]
def c09UnresEnv : Env := { namespaces := [], prefixes := [], names := [(['a'], 2), (['x'], 3)] }

example : UniqueDeclsBelow c09UnresTree := uniqueDeclsB_sound _ (by decide +kernel)
example : unresolvedNamespaces c09UnresEnv c09UnresTree [] = some [3] := by decide +kernel
example : unresolvedNamespaces c09UnresEnv c09UnresTree [1] = some [2, 3] := by decide +kernel
example : inheritedPrefixes c09UnresEnv c09UnresTree [1] = some [(2, 2)] := by decide +kernel

/-- Two prefixes and the default bound to the needed namespace: all three are inherited. -/
example : inheritedPrefixes c09UnresEnv (.node (.element 5) [.node (.namespace 2 2) [], .node (.namespace 3 2) [],
    .node (.namespace 0 2) [], .node (.element 0) []]) [3] = some [(2, 2), (3, 2), (0, 2)] := by decide +kernel

/-- `<a xmlns:p="A"><A:b/></a>`: element `b` in `A`, bound only by prefix: `Ok(p)`; unbound `B`: error. -/
example : nameRefChain c09UnresEnv [.node (.element 0) [], c09UnresTree] 0 = .ok 2 := by rfl
example : nameRefChain c09UnresEnv [.node (.element 1) [], c09UnresTree] 1 = .error (.missingPrefix 3) := by rfl

/-! #### Qualified names.  Names: 0 = `{A}x`, 1 = `b`, 2 = `c` (no
    namespace), 3 = `{A}a`; namespace `A` = 2; prefixes `""` = 0, `xml` = 1, `p` = 2. -/
def c09QnEnv : Env :=
  { namespaces := [[], ['X'], ['A']], prefixes := [[], ['x', 'm', 'l'], ['p']],
    names := [(['x'], 2), (['b'], 0), (['c'], 0), (['a'], 2)] }
def c09Attr : Tree := .node (.attribute 0 []) []
def c09El (name : Nat) (decls : List (Nat × Nat)) (kids : List Tree) : Tree :=
  .node (.element name) (decls.map (fun d => .node (.namespace d.1 d.2) []) ++ kids)

/-- `<a xmlns="A" A:x=""/>` at the attribute: `A` is bound only as default
    namespace, which an attribute cannot use: `MissingPrefix(A)` (not `Ok("")`, which would read `x`). -/
example : nameRefChain c09QnEnv [c09Attr, c09El 3 [(0, 2)] [c09Attr]] 0 = .error (.missingPrefix 2) := by rfl
example : fullName c09QnEnv (c09El 3 [(0, 2)] [c09Attr]) [1] 0 = some (.error (.missingPrefix 2)) := by rfl
/-- Default AND prefix, both declaration orders, and across ancestor levels: the prefix `p`. -/
example : nameRefChain c09QnEnv [c09Attr, c09El 3 [(0, 2), (2, 2)] [c09Attr]] 0 = .ok 2 := by rfl
example : nameRefChain c09QnEnv [c09Attr, c09El 3 [(2, 2), (0, 2)] [c09Attr]] 0 = .ok 2 := by rfl
example : nameRefChain c09QnEnv [c09Attr, c09El 3 [(0, 2)] [c09Attr], c09El 1 [(2, 2)] []] 0 = .ok 2 := by rfl
example : nameRefChain c09QnEnv [c09Attr, c09El 3 [(2, 2)] [c09Attr], c09El 3 [(0, 2)] []] 0 = .ok 2 := by rfl
example : fullName c09QnEnv (c09El 3 [(0, 2), (2, 2)] [c09Attr]) [2] 0 = some (.ok ['p', ':', 'x']) := by rfl
example : resolveQName [c09Attr, c09El 3 [(0, 2), (2, 2)] [c09Attr]] true 2 = some 2 := by decide +kernel
/-- a no-namespace name at an attribute node: unprefixed. -/
example : nameRefChain c09QnEnv [c09Attr, c09El 3 [(0, 2)] [c09Attr]] 2 = .ok 0 := by rfl

/-- `<a xmlns="A"><b/></a>` at `b` (in no namespace), default namespace at
    distance 0, 1, 2: `MissingPrefix("")` (not `Ok("")`, which there means `{A}b`). -/
example : nameRefChain c09QnEnv [c09El 1 [(0, 2)] []] 1 = .error (.missingPrefix 0) := by rfl
example : nameRefChain c09QnEnv [c09El 1 [] [], c09El 3 [(0, 2)] []] 1 = .error (.missingPrefix 0) := by rfl
example : nameRefChain c09QnEnv [c09El 1 [] [], c09El 3 [] [], c09El 3 [(0, 2)] []] 1 =
    .error (.missingPrefix 0) := by rfl
example : fullName c09QnEnv (c09El 3 [(0, 2)] [c09El 1 [] []]) [1] 1 = some (.error (.missingPrefix 0)) := by rfl
/-- … with `xmlns=""` on the element or in between: unprefixed, and that reads back as no namespace. -/
example : nameRefChain c09QnEnv [c09El 1 [(0, 0)] [], c09El 3 [(0, 2)] []] 1 = .ok 0 := by rfl
example : nameRefChain c09QnEnv [c09El 1 [] [], c09El 2 [(0, 0)] [], c09El 3 [(0, 2)] []] 1 = .ok 0 := by rfl
example : resolveQName [c09El 1 [] [], c09El 2 [(0, 0)] [], c09El 3 [(0, 2)] []] false 0 = some 0 := by decide +kernel
/-- an element in `A` under `xmlns="A"`: the empty prefix, read back by the element rule as `A`;
    nothing bound: `MissingPrefix(A)`. -/
example : nameRefChain c09QnEnv [c09El 3 [(0, 2)] []] 3 = .ok 0 := by rfl
example : resolveQName [c09El 3 [(0, 2)] []] false 0 = some 2 := by decide +kernel
example : nameRefChain c09QnEnv [c09El 3 [] []] 3 = .error (.missingPrefix 2) := by rfl

/-- Other names at an element `b` under `xmlns="A"`: the no-namespace name `c` is NOT refused, and
    the attribute name `{A}x` queried with the element as context gets the default prefix. -/
example : nameRefChain c09QnEnv [c09El 1 [] [], c09El 3 [(0, 2)] []] 2 = .ok 0 := by rfl
example : nameRefChain c09QnEnv [c09El 1 [] [], c09El 3 [(0, 2)] []] 0 = .ok 0 := by rfl
example : fullName c09QnEnv (c09El 3 [(0, 2)] [c09El 1 [] []]) [1] 0 = some (.ok ['x']) := by rfl

/-- `node_name_ref` on the attribute of `<a xmlns="A" xmlns:p="A" p:x=""/>`. -/
example : nodeNameRef c09QnEnv (c09El 3 [(0, 2), (2, 2)] [c09Attr]) [2] = some (.ok (some (0, 2))) := by rfl

/-- `namespace_prefix(…, A, non_empty)` on `<a xmlns="A" xmlns:p="A"/>`: `""` without, `p` with. -/
example : namespacePrefix (c09El 3 [(0, 2), (2, 2)] []) [] 2 false = some (some 0) := by decide +kernel
example : namespacePrefix (c09El 3 [(0, 2), (2, 2)] []) [] 2 true = some (some 2) := by decide +kernel

/-! ### The name types (xmlname/*.rs, Model/XmlName.lean): how `name_ref` / `full_name` are consumed -/

/-- **`parse_full_name` is the inverse of `full_name` in the scope that produced it.**  If
    `name_ref(name, node) = Ok(p)`, then `full_name(node, name)` is the `full_name()` of
    `to_owned()`, and parsing that string back with the element-rule lookup of the node's scope
    (`elementLookup`: a known prefix bound here; the empty prefix without default namespace = no
    namespace) gives the same `OwnedName` — local name, namespace AND prefix — and, through
    `CreateName::parse_full_name`, the same name id without touching the tables.  Hypotheses: neither
    the prefix nor the local name contains `:` (the parser splits at the first colon), and the lookup
    resolves the written prefix to the name's namespace (`C09_parse_full_name_resolves`). -/
theorem C09_parse_full_name_inverse (env : Env) (chain : List Tree) (name p : Nat)
    (hp : nameRefChain env chain name = .ok p)
    (hcp : ':' ∉ env.prefixStr p) (hcl : ':' ∉ env.localName name)
    (hres : elementLookup env chain (env.prefixStr p) = some (env.nsOfName name)) :
    fullNameChain env chain name = .ok (RefName.toOwned env ⟨name, p⟩).fullName ∧
    OwnedName.parseFullName (RefName.toOwned env ⟨name, p⟩).fullName (elementLookupStr env chain) =
      .ok (RefName.toOwned env ⟨name, p⟩) ∧
    (env.nameId? (env.localName name) (env.nsOfName name) = some name →
      createParseFullName env (RefName.toOwned env ⟨name, p⟩).fullName (elementLookup env chain) =
        .ok (env, name)) := by
  have hsplit : splitFullName (RefName.toOwned env ⟨name, p⟩).fullName = (env.prefixStr p, env.localName name) := by
    unfold OwnedName.fullName RefName.toOwned
    cases he : (env.prefixStr p).isEmpty
    · simp only [Bool.not_false, if_true]
      exact splitFullName_prefixed _ _ hcp
    · simp only [Bool.not_true, Bool.false_eq_true, if_false]
      rw [splitFullName_nocolon _ hcl, List.isEmpty_iff.mp he]
  refine ⟨?_, ?_, ?_⟩
  · rw [fullNameChain_eq, hp, toOwned_fullName]
  · unfold OwnedName.parseFullName OwnedName.prefixed elementLookupStr
    rw [hsplit]
    simp [hres, RefName.toOwned]
  · intro hname
    unfold createParseFullName createPrefixed
    rw [hsplit]
    simp [hres, Env.addNameNs, hname]

/-- When the lookup of `C09_parse_full_name_inverse` resolves the reported prefix (`hfound`: the prefix
    string is found again under its id, true for duplicate-free tables, `C09_interned_found`).  A name
    in a REAL namespace: always — the prefix `name_ref` reports is bound to the namespace
    (`C09_prefix_sound`), the default prefix included.  A name in NO namespace is written unprefixed
    and reads back (element rule) as no namespace exactly when no default namespace is in scope;
    under a default namespace the unprefixed spelling — which `full_name` uses for attribute-style
    names — parses into that default namespace: there the inverse does not hold, by design. -/
theorem C09_parse_full_name_resolves (env : Env) (chain : List Tree) (name p : Nat)
    (hp : nameRefChain env chain name = .ok p)
    (hfound : env.prefixId? (env.prefixStr p) = some p) :
    (env.nsOfName name ≠ Env.noNamespace →
      elementLookup env chain (env.prefixStr p) = some (env.nsOfName name)) ∧
    (env.nsOfName name = Env.noNamespace → env.prefixStr Env.emptyPrefix = [] →
      (elementLookup env chain (env.prefixStr p) = some (env.nsOfName name) ↔
        namespaceForPrefixChain chain Env.emptyPrefix = none)) := by
  refine ⟨fun hns => elementLookup_of_nameRef env chain name p hp hns hfound, ?_⟩
  intro hns hempty
  have hp0 := nameRef_noNamespace env chain name p hp hns
  subst hp0
  simp only [elementLookup, hfound, hns]
  cases hq : namespaceForPrefixChain chain Env.emptyPrefix with
  | none => simp [hempty]
  | some ns' =>
    have hne : ns' ≠ Env.noNamespace := by
      intro e
      have := scopeSpecChain_empty_ne chain
      rw [← namespaceForPrefixChain_eq, hq, e] at this
      exact this rfl
    simpa using hne

/-- `to_owned` followed by `to_ref` / `maybe_to_ref` / `to_create` gives the ids back and leaves the
    tables alone, when each of the three strings is found again under its id. -/
theorem C09_to_owned_round_trip (env : Env) (r : RefName)
    (hp : env.prefixId? (env.prefixStr r.prefixId) = some r.prefixId)
    (hn : env.namespaceId? (env.namespaceStr (env.nsOfName r.nameId)) = some (env.nsOfName r.nameId))
    (hname : env.nameId? (env.localName r.nameId) (env.nsOfName r.nameId) = some r.nameId) :
    (r.toOwned env).toRef env = (env, r) ∧ (r.toOwned env).maybeToRef env = some r ∧
    (r.toOwned env).toCreate env = (env, r.nameId) := by
  have hp' : List.findIdx? (fun x => x == env.prefixStr r.prefixId) env.prefixes = some r.prefixId := hp
  refine ⟨?_, ?_, ?_⟩
  · simp [OwnedName.toRef, RefName.toOwned, Env.addPrefix, Env.addNamespace, Env.addNameNs, hp', hn, hname]
  · simp [OwnedName.maybeToRef, RefName.toOwned, hp, hn, hname]
  · simp [OwnedName.toCreate, RefName.toOwned, Env.addNamespace, Env.addNameNs, hn, hname]

/-- The side conditions above hold for every id in range of duplicate-free tables (interning: C08). -/
theorem C09_interned_found (env : Env) :
    (env.prefixes.Nodup → ∀ p, p < env.prefixes.length → env.prefixId? (env.prefixStr p) = some p) ∧
    (env.namespaces.Nodup → ∀ ns, ns < env.namespaces.length →
      env.namespaceId? (env.namespaceStr ns) = some ns) ∧
    (env.names.Nodup → ∀ n, n < env.names.length →
      env.nameId? (env.localName n) (env.nsOfName n) = some n) := by
  refine ⟨fun hnd p h => ?_, fun hnd ns h => ?_, fun hnd n h => ?_⟩
  · have := findIdx?_getElem_of_nodup env.prefixes p h hnd
    simpa [Env.prefixId?, Env.prefixStr, List.getD_eq_getElem?_getD, h] using this
  · have := findIdx?_getElem_of_nodup env.namespaces ns h hnd
    simpa [Env.namespaceId?, Env.namespaceStr, List.getD_eq_getElem?_getD, h] using this
  · have := findIdx?_getElem_of_nodup env.names n h hnd
    simpa [Env.nameId?, Env.localName, Env.nsOfName, List.getD_eq_getElem?_getD, h] using this

/-- `RefName::has_unprefixed_namespace` (on ids) is `OwnedName::in_default_namespace` (on strings) of
    `to_owned()`, when only the no-namespace id has the empty URI and only the empty prefix id the
    empty string. -/
theorem C09_has_unprefixed_namespace (env : Env) (r : RefName)
    (hns : env.namespaceStr (env.nsOfName r.nameId) = [] ↔ env.nsOfName r.nameId = Env.noNamespace)
    (hpf : env.prefixStr r.prefixId = [] ↔ r.prefixId = Env.emptyPrefix) :
    r.hasUnprefixedNamespace env = (r.toOwned env).inDefaultNamespace := by
  unfold RefName.hasUnprefixedNamespace OwnedName.inDefaultNamespace RefName.toOwned
  have a : (env.nsOfName r.nameId != Env.noNamespace) = !(env.namespaceStr (env.nsOfName r.nameId)).isEmpty := by
    cases hE : (env.namespaceStr (env.nsOfName r.nameId)).isEmpty
    · have : env.nsOfName r.nameId ≠ Env.noNamespace := fun e => by
        have := hns.mpr e
        simp [this] at hE
      simpa using this
    · have := hns.mp (List.isEmpty_iff.mp hE)
      simp [this]
  have b : (Env.emptyPrefix == r.prefixId) = (env.prefixStr r.prefixId).isEmpty := by
    cases hE : (env.prefixStr r.prefixId).isEmpty
    · have : Env.emptyPrefix ≠ r.prefixId := fun e => by
        have := hpf.mpr e.symm
        simp [this] at hE
      simpa using this
    · have := hpf.mp (List.isEmpty_iff.mp hE)
      simp [this]
  simp only [a, b]

/-- `with_suffix` appends `*` to the local name only: same namespace, same prefix, and the written
    name gets the `*` at its end. -/
theorem C09_with_suffix (o : OwnedName) :
    o.withSuffix.fullName = o.fullName ++ ['*'] ∧ o.withSuffix.namespaceStr = o.namespaceStr ∧
    o.withSuffix.prefixStr = o.prefixStr ∧ o.withSuffix.localName = o.localName ++ ['*'] := by
  unfold OwnedName.withSuffix OwnedName.fullName
  cases o.prefixStr.isEmpty <;> simp

/-- `with_default_namespace(ns)` puts an unprefixed no-namespace name into `ns` (it is then
    `in_default_namespace` for a non-empty `ns`) and leaves every other name alone. -/
theorem C09_with_default_namespace (o : OwnedName) (ns : Str) :
    (o.prefixStr = [] → o.namespaceStr = [] →
      o.withDefaultNamespace ns = { o with namespaceStr := ns } ∧
      (o.withDefaultNamespace ns).inDefaultNamespace = !ns.isEmpty) ∧
    (¬ (o.prefixStr = [] ∧ o.namespaceStr = []) → o.withDefaultNamespace ns = o) := by
  unfold OwnedName.withDefaultNamespace OwnedName.inDefaultNamespace
  constructor
  · intro h1 h2; simp [h1, h2]
  · intro h
    by_cases h1 : o.prefixStr = []
    · have h2 : o.namespaceStr ≠ [] := fun e => h ⟨h1, e⟩
      simp [h1, h2]
    · simp [h1]

/-- Non-vacuity, on `<a xmlns="A" xmlns:p="A" p:x=""/>` at the attribute: `{A}x` is written `p:x`, parsed
    back to `(x, A, p)` and to name id 0; the tables of `c09QnEnv` are duplicate-free; the element `a`
    itself is written unprefixed and parsed back through the default namespace. -/
example : nameRefChain c09QnEnv [c09Attr, c09El 3 [(0, 2), (2, 2)] [c09Attr]] 0 = .ok 2 ∧
    (RefName.toOwned c09QnEnv ⟨0, 2⟩) = ⟨['x'], ['A'], ['p']⟩ ∧
    OwnedName.parseFullName ['p', ':', 'x']
      (elementLookupStr c09QnEnv [c09Attr, c09El 3 [(0, 2), (2, 2)] [c09Attr]]) = .ok ⟨['x'], ['A'], ['p']⟩ ∧
    (createParseFullName c09QnEnv ['p', ':', 'x']
      (elementLookup c09QnEnv [c09Attr, c09El 3 [(0, 2), (2, 2)] [c09Attr]])).toOption.map (·.2) = some 0 ∧
    c09QnEnv.prefixes.Nodup ∧ c09QnEnv.namespaces.Nodup ∧ c09QnEnv.names.Nodup ∧
    nameRefChain c09QnEnv [c09El 3 [(0, 2)] []] 3 = .ok 0 ∧
    OwnedName.parseFullName ['a'] (elementLookupStr c09QnEnv [c09El 3 [(0, 2)] []]) = .ok ⟨['a'], ['A'], []⟩ :=
  ⟨by rfl, by decide +kernel, by rfl, by rfl, by decide +kernel, by decide +kernel, by decide +kernel, by rfl, by rfl⟩
/-- The limit: the no-namespace name `c` at an element under `xmlns="A"` is written `c` (attribute
    style) and parses, by the element rule, into `A`. -/
example : nameRefChain c09QnEnv [c09El 1 [] [], c09El 3 [(0, 2)] []] 2 = .ok 0 ∧
    OwnedName.parseFullName ['c'] (elementLookupStr c09QnEnv [c09El 1 [] [], c09El 3 [(0, 2)] []]) =
      .ok ⟨['c'], ['A'], []⟩ ∧
    namespaceForPrefixChain [c09El 1 [] [], c09El 3 [(0, 2)] []] Env.emptyPrefix = some 2 :=
  ⟨by rfl, by rfl, by decide +kernel⟩
example : (RefName.toOwned c09QnEnv ⟨0, 2⟩).withSuffix.fullName = ['p', ':', 'x', '*'] ∧
    (OwnedName.withDefaultNamespace ⟨['c'], [], []⟩ ['B']).inDefaultNamespace = true ∧
    (RefName.hasUnprefixedNamespace c09QnEnv ⟨3, 0⟩) = true := by decide +kernel

end XotModel.Props

/-! ## Reachable trees: the hypothesis `UniqueDeclsBelow` is a theorem

  Most theorems of this file have NO structural hypothesis (`C09_in_scope`: `namespaces_in_scope` =
  `scopeSpec`, `C09_ns_for_prefix`, `C09_prefix_*`, `C09_fullname*`, `C09_nameref_*`, `C09_inherited`, … hold for
  every tree and every path, ill-ordered trees included).  Two do: `C09_unresolved` and
  `C09_inherited_iff` assume `UniqueDeclsBelow sub` — no element of the subtree declares a prefix twice —
  and `C09_unresolved_unique_needed` shows the assumption cannot be dropped for arbitrary trees.  The
  public API cannot build such a tree: every forest reachable from the empty store by an extended
  history (`Store.xrun` over `Forest.XCall`, Model/FhistSpec.lean; arbitrary arguments, every outcome)
  has the invariant `Forest.Inv` (`C04_reach_ext` = `Reach.inv_reachable`), whose clause `keysUnique
  .namespace` at every node gives `UniqueDeclsBelow` of every subtree of the erasure of every parentless
  tree (Lemmas/ReachNode.lean, ReachScope.lean).  The two theorems restated with NO structural
  hypothesis; `env'` (the name table the names are read in) is arbitrary, in particular the table of
  the store after the history. -/

namespace XotModel.Props
open XotModel

/-- No element of any subtree of any parentless tree of any reachable forest
    declares a prefix twice. -/
theorem C09_reachable_unique (env : Env) (cs : List Forest.XCall) (hw : ∀ c ∈ cs, c.wellKinded) :
    ∀ r ∈ ((⟨Forest.init, env⟩ : Store).xrun cs).forest.roots, ∀ (path : Path) (sub : Tree),
      r.erase.at? path = some sub → UniqueDeclsBelow sub :=
  fun _ hr _ _ hs => Reach.uniqueDeclsBelow_root (Reach.inv_reachable env cs hw) hr hs

/-- **`unresolved_namespaces(node)` for every node of every reachable tree**:
    `ns` is reported iff some element `e` of the subtree (at raw path `q` below the node, `chain` = the
    nodes from `e` up to the node) needs it — its own name or one of its attribute names is in `ns`,
    real and not the XML namespace, and the declarations on the way from the node to `e` (EMPTY frame
    below) give no usable prefix. -/
theorem C09_reachable_unresolved (env : Env) (cs : List Forest.XCall) (hw : ∀ c ∈ cs, c.wellKinded) :
    ∀ r ∈ ((⟨Forest.init, env⟩ : Store).xrun cs).forest.roots, ∀ (path : Path) (sub : Tree),
      r.erase.at? path = some sub → ∀ (env' : Env) (l : List Nat),
      unresolvedNamespaces env' r.erase path = some l → ∀ ns : Nat,
      (ns ∈ l ↔ ∃ q chain e, sub.ancestorsOrSelf q = some chain ∧ sub.at? q = some e ∧
        NeedsNs env' (scopeOf (elementFrames chain)) e ns) :=
  fun r hr path sub hs env' l hl ns =>
    C09_unresolved env' r.erase path sub l hs (C09_reachable_unique env cs hw r hr path sub hs) hl ns

/-- **`inherited_prefixes(node)` for every node of every reachable tree**: a
    binding `(p, ns)` is inherited iff the node is not a root, `p` is bound to `ns` in the parent's
    scope (`scopeSpec`: nearest declaration wins) and some name of the subtree needs `ns`. -/
theorem C09_reachable_inherited_iff (env : Env) (cs : List Forest.XCall) (hw : ∀ c ∈ cs, c.wellKinded) :
    ∀ r ∈ ((⟨Forest.init, env⟩ : Store).xrun cs).forest.roots, ∀ (path : Path) (sub : Tree),
      r.erase.at? path = some sub → ∀ (env' : Env) (l : List (Nat × Nat)),
      inheritedPrefixes env' r.erase path = some l → ∀ p ns : Nat,
      ((p, ns) ∈ l ↔
        path ≠ [] ∧ scopeSpec r.erase path.dropLast p = some ns ∧
          ∃ q chain e, sub.ancestorsOrSelf q = some chain ∧ sub.at? q = some e ∧
            NeedsNs env' (scopeOf (elementFrames chain)) e ns) :=
  fun r hr path sub hs env' l hl p ns =>
    C09_inherited_iff env' r.erase path sub l hs (C09_reachable_unique env cs hw r hr path sub hs) hl p ns

/-! ### Non-vacuity: the history of Props/C04 (`Reach.exCalls`) after 7 steps — before the repair

  `<e xmlns:p="u"><e xmlns:p="u">x</e></e>`, name `e` in namespace 3 (`w`), for which no prefix is declared:
  `unresolved_namespaces` reports 3 (twice: one entry per name) at the root and at the inner element;
  the inner element inherits nothing (its parent's scope has no binding for 3).  After the whole
  history the repaired tree `Reach.exRoot` has nothing unresolved, and before the clone the inner
  element inherits `n0 ↦ w` — the order handed to `clone_with_prefixes` in the history. -/

def c09ReachRoot : HTree :=
  .node 0 (.element 1) [.node 3 (.namespace 2 2) [],
    .node 1 (.element 1) [.node 4 (.namespace 2 2) [], .node 2 (.text ['x']) []]]
theorem c09ReachRoot_mem :
    c09ReachRoot ∈ ((⟨Forest.init, Reach.exEnv⟩ : Store).xrun (Reach.exCalls.take 7)).forest.roots := by
  have : ((⟨Forest.init, Reach.exEnv⟩ : Store).xrun (Reach.exCalls.take 7)).forest.roots = [c09ReachRoot] := by
    decide +kernel
  rw [this]; exact List.mem_singleton.mpr rfl

example : unresolvedNamespaces Reach.exEnv c09ReachRoot.erase [] = some [3, 3] ∧
    unresolvedNamespaces Reach.exEnv c09ReachRoot.erase [1] = some [3] ∧
    inheritedPrefixes Reach.exEnv c09ReachRoot.erase [1] = some [] := by decide +kernel
example : ∃ q chain e, c09ReachRoot.erase.ancestorsOrSelf q = some chain ∧ c09ReachRoot.erase.at? q = some e ∧
    NeedsNs Reach.exEnv (scopeOf (elementFrames chain)) e 3 :=
  (C09_reachable_unresolved Reach.exEnv (Reach.exCalls.take 7) (Reach.exCalls_take_wellKinded 7)
    c09ReachRoot c09ReachRoot_mem [] _ rfl Reach.exEnv [3, 3] (by decide +kernel) 3).mp (by decide +kernel)
example : unresolvedNamespaces Reach.exEnv Reach.exRoot.erase [] = some [] ∧
    inheritedPrefixes Reach.exEnv Reach.exRootA.erase [2] = some [(3, 3)] := by decide +kernel
example : scopeSpec Reach.exRootA.erase [] 3 = some 3 :=
  ((C09_reachable_inherited_iff Reach.exEnv (Reach.exCalls.take 10) (Reach.exCalls_take_wellKinded 10)
    Reach.exRootA Reach.exRootA_mem [2] (.node (.element 1) [.node (.text ['x']) []]) (by decide +kernel) Reach.exEnv [(3, 3)] (by decide +kernel) 3 3).mp (by decide +kernel)).2.1

end XotModel.Props

/-! ## Reachable trees, histories that parse and edit

  The restatements above quantify over extended API histories (`Forest.XCall` on a `Store`).  Model/FparseHist.lean
  has the history type with BOTH kinds of step — `PCall` = an extended API call, or `parse mode text` of an
  ARBITRARY text (reference tokenizer + builder on the tables of the store; an accepted tree is installed,
  a rejected one leaves forest and index alone) — on `PStore`; Props/C04.lean proves the invariant for every
  such history from `Xot::new()` (`C04_reach_full`) and the bridge `C04_reachable_hypotheses_full`
  (`UniqueDeclsBelow` of every subtree of every tree of every such store).  The same restatements over them;
  `env'` is arbitrary, in particular the tables of the store after the history (parses intern names). -/

namespace XotModel.Props
open XotModel

/-- No element of any subtree of any parentless tree of any store a full history
    reaches — parsed documents, whatever was done to them afterwards, included — declares a prefix twice. -/
theorem C09_reachable_unique_full (env : Env) (cs : List PCall) (hw : ∀ c ∈ cs, c.wellKinded) :
    ∀ r ∈ ((PStore.init env).run cs).forest.roots, ∀ (path : Path) (sub : Tree),
      r.erase.at? path = some sub → UniqueDeclsBelow sub :=
  fun r hr => (C04_reachable_hypotheses_full env cs hw r hr).2.2.2.1

/-- **`unresolved_namespaces(node)` for every node of every tree of every store a
    history of parses and API calls reaches**: the statement of `C09_reachable_unresolved`. -/
theorem C09_reachable_unresolved_full (env : Env) (cs : List PCall) (hw : ∀ c ∈ cs, c.wellKinded) :
    ∀ r ∈ ((PStore.init env).run cs).forest.roots, ∀ (path : Path) (sub : Tree),
      r.erase.at? path = some sub → ∀ (env' : Env) (l : List Nat),
      unresolvedNamespaces env' r.erase path = some l → ∀ ns : Nat,
      (ns ∈ l ↔ ∃ q chain e, sub.ancestorsOrSelf q = some chain ∧ sub.at? q = some e ∧
        NeedsNs env' (scopeOf (elementFrames chain)) e ns) :=
  fun r hr path sub hs env' l hl ns =>
    C09_unresolved env' r.erase path sub l hs (C09_reachable_unique_full env cs hw r hr path sub hs) hl ns

/-- **`inherited_prefixes(node)` for every node of every tree of every store a
    history of parses and API calls reaches**: the statement of `C09_reachable_inherited_iff`. -/
theorem C09_reachable_inherited_iff_full (env : Env) (cs : List PCall) (hw : ∀ c ∈ cs, c.wellKinded) :
    ∀ r ∈ ((PStore.init env).run cs).forest.roots, ∀ (path : Path) (sub : Tree),
      r.erase.at? path = some sub → ∀ (env' : Env) (l : List (Nat × Nat)),
      inheritedPrefixes env' r.erase path = some l → ∀ p ns : Nat,
      ((p, ns) ∈ l ↔
        path ≠ [] ∧ scopeSpec r.erase path.dropLast p = some ns ∧
          ∃ q chain e, sub.ancestorsOrSelf q = some chain ∧ sub.at? q = some e ∧
            NeedsNs env' (scopeOf (elementFrames chain)) e ns) :=
  fun r hr path sub hs env' l hl p ns =>
    C09_inherited_iff env' r.erase path sub l hs (C09_reachable_unique_full env cs hw r hr path sub hs) hl p ns

/-! ### Non-vacuity: parse, edit, ask (`fullCalls` / `fullCallsB` of Props/C04.lean, from the tables of `Xot::new()`)

  `c09FullCalls` = `fullCallsB` without its last step (the repair): PARSE `<r xmlns:p="urn:a"><p:a>t</p:a></r>`,
  REMOVE the declaration of `p`, create a new element `{urn:a}a`, append it, give it the attribute `p:a="v"`,
  parse a REJECTED text.  Namespace 2 (`urn:a`) now has no prefix: `unresolved_namespaces` reports it three
  times at the document (two element names, one attribute name), twice at the new element, which inherits
  nothing.  After the repair (`fullCallsB`) nothing is unresolved; in `fullCalls` (declaration kept) the new
  element inherits `p ↦ urn:a`, bound in its parent's scope. -/

def c09FullCalls : List PCall := fullCallsB.dropLast
def c09FullRoot : HTree :=
  .node 0 .document [.node 1 (.element 2) [
    .node 3 (.element 3) [.node 4 (.text ['t']) []],
    .node 5 (.element 3) [.node 6 (.attribute 3 ['v']) []]]]
def c09FullEnv : Env := ((PStore.init Env.fresh).run c09FullCalls).env
theorem c09FullCalls_wellKinded : ∀ c ∈ c09FullCalls, c.wellKinded := by decide +kernel

/-- The tables after `c09FullCalls`: `urn:a`, `p`, `r` and `{urn:a}a` from the accepted text, `a` and `b` from the
    rejected one. -/
def c09FullTables : Env :=
  { namespaces := Env.fresh.namespaces ++ [['u', 'r', 'n', ':', 'a']]
    prefixes := Env.fresh.prefixes ++ [['p']]
    names := Env.fresh.names ++ [(['r'], 0), (['a'], 2), (['a'], 0), (['b'], 0)] }

/-- The store reached by `c09FullCalls`, evaluated once. -/
theorem c09FullRun_value :
    let S := (PStore.init Env.fresh).run c09FullCalls
    S.forest.roots = [c09FullRoot] ∧ S.env.namespaces = c09FullTables.namespaces ∧
    S.env.prefixes = c09FullTables.prefixes ∧ S.env.names = c09FullTables.names := by
  unfold c09FullCalls
  rw [fullRunBPre_eq]
  decide +kernel

/-- `c09FullEnv` is an unevaluated run; the closed facts below are evaluated against its value. -/
theorem c09FullEnv_eq : c09FullEnv = c09FullTables := by
  obtain ⟨_, hn, hp, hm⟩ := c09FullRun_value
  cases h : c09FullEnv
  rw [c09FullEnv] at h
  rw [h] at hn hp hm
  cases hn; cases hp; cases hm; rfl

theorem c09FullRoot_mem : c09FullRoot ∈ ((PStore.init Env.fresh).run c09FullCalls).forest.roots := by
  rw [c09FullRun_value.1]; exact List.mem_singleton.mpr rfl

example : c09FullCalls ++ [.api (.createMissingPrefixes 0)] = fullCallsB := rfl
example : c09FullEnv.names =
    [(['s', 'p', 'a', 'c', 'e'], 1), (['i', 'd'], 1), (['r'], 0), (['a'], 2), (['a'], 0), (['b'], 0)] := by
  rw [c09FullEnv_eq]; decide +kernel
example : unresolvedNamespaces c09FullEnv c09FullRoot.erase [] = some [2, 2, 2] ∧
    unresolvedNamespaces c09FullEnv c09FullRoot.erase [0, 1] = some [2, 2] ∧
    inheritedPrefixes c09FullEnv c09FullRoot.erase [0, 1] = some [] := by
  rw [c09FullEnv_eq]; decide +kernel
example : ∃ q chain e, c09FullRoot.erase.ancestorsOrSelf q = some chain ∧ c09FullRoot.erase.at? q = some e ∧
    NeedsNs c09FullEnv (scopeOf (elementFrames chain)) e 2 :=
  (C09_reachable_unresolved_full Env.fresh c09FullCalls c09FullCalls_wellKinded
    c09FullRoot c09FullRoot_mem [] _ rfl c09FullEnv [2, 2, 2] (by rw [c09FullEnv_eq]; decide +kernel) 2).mp
    (by decide +kernel)
example : unresolvedNamespaces ((PStore.init Env.fresh).run fullCallsB).env fullRootB.erase [] = some [] ∧
    inheritedPrefixes ((PStore.init Env.fresh).run fullCalls).env fullRoot.erase [0, 2] = some [(2, 2)] := by
  rw [fullRunB_eq, fullRun_eq]
  decide +kernel
example : scopeSpec fullRoot.erase [0] 2 = some 2 :=
  ((C09_reachable_inherited_iff_full Env.fresh fullCalls fullCalls_wellKinded fullRoot fullRoot_mem [0, 2]
    (.node (.element 3) [.node (.attribute 3 ['v']) []]) (by decide +kernel) c09FullTables
    [(2, 2)] (by decide +kernel) 2 2).mp (by decide +kernel)).2.1

/-! ## Histories with the convenience calls

  The same for histories mixing the calls of `Op` and the convenience calls (`Forest.COp`; `creationRun`,
  `C04_reach_creation` in Props/C04.lean): no side condition at all. -/

/-- No element of any subtree of any tree reached by a history of `Op` calls and
    convenience calls (`set_namespace`, `append_namespace`, … included) declares a prefix twice. -/
theorem C09_reachable_creation_unique (ops : List (Op ⊕ Forest.COp)) :
    ∀ r ∈ (creationRun ops).roots, ∀ (path : Path) (sub : Tree),
      r.erase.at? path = some sub → UniqueDeclsBelow sub :=
  fun _ hr _ _ hs => Reach.uniqueDeclsBelow_root (C04_reach_creation ops) hr hs

/-- `unresolved_namespaces(node)` for every node of every such tree
    (`C09_reachable_unresolved` for these histories). -/
theorem C09_reachable_creation_unresolved (ops : List (Op ⊕ Forest.COp)) :
    ∀ r ∈ (creationRun ops).roots, ∀ (path : Path) (sub : Tree),
      r.erase.at? path = some sub → ∀ (env' : Env) (l : List Nat),
      unresolvedNamespaces env' r.erase path = some l → ∀ ns : Nat,
      (ns ∈ l ↔ ∃ q chain e, sub.ancestorsOrSelf q = some chain ∧ sub.at? q = some e ∧
        NeedsNs env' (scopeOf (elementFrames chain)) e ns) :=
  fun r hr path sub hs env' l hl ns =>
    C09_unresolved env' r.erase path sub l hs (C09_reachable_creation_unique ops r hr path sub hs) hl ns

/-- `inherited_prefixes(node)` for every node of every such tree
    (`C09_reachable_inherited_iff` for these histories). -/
theorem C09_reachable_creation_inherited_iff (ops : List (Op ⊕ Forest.COp)) :
    ∀ r ∈ (creationRun ops).roots, ∀ (path : Path) (sub : Tree),
      r.erase.at? path = some sub → ∀ (env' : Env) (l : List (Nat × Nat)),
      inheritedPrefixes env' r.erase path = some l → ∀ p ns : Nat,
      ((p, ns) ∈ l ↔
        path ≠ [] ∧ scopeSpec r.erase path.dropLast p = some ns ∧
          ∃ q chain e, sub.ancestorsOrSelf q = some chain ∧ sub.at? q = some e ∧
            NeedsNs env' (scopeOf (elementFrames chain)) e ns) :=
  fun r hr path sub hs env' l hl p ns =>
    C09_inherited_iff env' r.erase path sub l hs (C09_reachable_creation_unique ops r hr path sub hs) hl p ns

/-- **`unresolved_namespaces` from the invariant alone**: the characterisation of
    `C09_reachable_unresolved` at every node of every tree of ANY forest with `Forest.Inv` (however it was reached). -/
theorem C09_inv_unresolved (f : Forest) (hi : f.Inv) :
    ∀ r ∈ f.roots, ∀ (path : Path) (sub : Tree),
      r.erase.at? path = some sub → ∀ (env' : Env) (l : List Nat),
      unresolvedNamespaces env' r.erase path = some l → ∀ ns : Nat,
      (ns ∈ l ↔ ∃ q chain e, sub.ancestorsOrSelf q = some chain ∧ sub.at? q = some e ∧
        NeedsNs env' (scopeOf (elementFrames chain)) e ns) :=
  fun r hr path sub hs env' l hl ns =>
    C09_unresolved env' r.erase path sub l hs (Reach.uniqueDeclsBelow_root hi hr hs) hl ns

end XotModel.Props
