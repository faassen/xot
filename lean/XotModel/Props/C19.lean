/-
  C19 — HTML5 serialisation follows the HTML rules and never panics.  Property theorems only.

  Tables: obligations on the constants and name tables `extract.py` reads off
  `output/html5elements.rs`, `output/html5_serializer.rs` and `serialize.rs`.
  The serialiser: for every tree, start node, environment and parameter set — never a panic, the doctype,
  tags (`>` only, end tag ⇔ not void), unprefixed HTML / MathML / SVG names, text and attribute
  escaping, refusal of processing instructions containing `>`, and (full strength, as of /repo
  f19bbd2) MathML / SVG / XHTML elements under a default-namespace declaration (`C19_embedded`).
  Normalizers (`C19_normalizer_*`, Model/Normalizer.lean): the `*_with_normalizer` entry points, for EVERY normalizer —
  same outcome as without one, never a panic, what is written is the escaping of the NORMALISED string (markup
  characters the normalizer produces are escaped), and — under exactly stated side conditions — the output is the
  output for the normalised tree without a normalizer.
  A failing writer (`C19_write_nopanic_any_writer`, `C19_write_fails_with_io`, `C19_write_error_priority`): `serialize_write`
  in front of a writer that refuses a `write_all` call — `Error::Io`, never a panic.
  At byte level (`C19_write_fails_with_io_bytes`, `C19_write_nopanic_any_writer_bytes`, `C19_write_error_priority_bytes`): the
  same in front of a BYTE-level writer (a refused call lets through `k` bytes, possibly ending inside a character).
  Defect kept visible: `C19_xhtml_const_defect` (so "XHTML_NS" below is the namespace the crate's
  constant names, the `https` spelling: the partial form of the property).
-/
import XotModel.Lemmas.Html5Esc
import XotModel.Lemmas.Html5Names
import XotModel.Lemmas.Html5Stream
import XotModel.Lemmas.Html5Token
import XotModel.Lemmas.Html5Default
import XotModel.Lemmas.Html5Decode
import XotModel.Lemmas.Html5Pretty
import XotModel.Lemmas.NormalizerFullwidth
import XotModel.Lemmas.WriterHtml
import XotModel.Lemmas.WriterBytes
import XotModel.Lemmas.Output

namespace XotModel.Props
open XotModel XotModel.Gen

/-! ### Constants -/

/-- The XHTML namespace URI (the property names it). -/
def realXhtmlNs : Str :=
  ['h','t','t','p',':','/','/','w','w','w','.','w','3','.','o','r','g','/','1','9','9','9','/','x','h','t','m','l']

/-- Full-strength obligation on the crate's `XHTML_NS`. -/
def C19_xhtml_const_Statement : Prop := xhtmlNs = realXhtmlNs

/-- Defect (src/output/html5elements.rs:8): the constant is `https://www.w3.org/1999/xhtml`, so the
    obligation is false.  Elements in the real XHTML namespace are not recognised as HTML elements. -/
theorem C19_xhtml_const_defect : ¬ C19_xhtml_const_Statement := by
  unfold C19_xhtml_const_Statement; decide +kernel

/-- What the constant is instead. -/
theorem C19_xhtml_const_actual : xhtmlNs = ['h','t','t','p','s'] ++ realXhtmlNs.drop 4 := by decide +kernel

theorem C19_mathml_const :
    mathmlNs = ['h','t','t','p',':','/','/','w','w','w','.','w','3','.','o','r','g','/','1','9','9','8','/',
                'M','a','t','h','/','M','a','t','h','M','L'] := by decide +kernel

theorem C19_svg_const :
    svgNs = ['h','t','t','p',':','/','/','w','w','w','.','w','3','.','o','r','g','/','2','0','0','0','/','s','v','g'] := by
  decide +kernel

/-- The three namespaces that must be written unprefixed are pairwise different and none is the
    empty (no-namespace) URI or the XML namespace. -/
theorem C19_ns_distinct :
    xhtmlNs ≠ mathmlNs ∧ xhtmlNs ≠ svgNs ∧ mathmlNs ≠ svgNs ∧
    xhtmlNs ≠ [] ∧ mathmlNs ≠ [] ∧ svgNs ≠ [] ∧
    xhtmlNs ≠ xmlNs ∧ mathmlNs ≠ xmlNs ∧ svgNs ≠ xmlNs := by decide +kernel

/-- The HTML doctype. -/
theorem C19_doctype_const :
    htmlDoctype = ['<','!','D','O','C','T','Y','P','E',' ','h','t','m','l','>'] := by decide +kernel

/-! ### Name tables -/

/-- ASCII lower-case letters, digits: what an HTML element name of the tables consists of. -/
def lowerName (n : Str) : Bool :=
  !n.isEmpty && n.all (fun c => ('a' ≤ c && c ≤ 'z') || ('0' ≤ c && c ≤ '9'))

/-- Every table holds lower-case names only (the lookup lower-cases the element's local name and
    compares with the table, so an upper-case entry would never match). -/
theorem C19_tables_lowercase :
    html5Names.all lowerName = true ∧ voidNames.all lowerName = true ∧
    phrasingContentNames.all lowerName = true ∧ formattedNames.all lowerName = true ∧
    noEscapeNames.all lowerName = true := by decide +kernel

/-- The void elements of the HTML standard (13.1.2 "Void elements"). -/
def specVoid : List Str :=
  [['a','r','e','a'], ['b','a','s','e'], ['b','r'], ['c','o','l'], ['e','m','b','e','d'], ['h','r'], ['i','m','g'],
   ['i','n','p','u','t'], ['l','i','n','k'], ['m','e','t','a'], ['s','o','u','r','c','e'], ['t','r','a','c','k'],
   ['w','b','r']]

/-- Every void element of the standard is in `void_names`; what the table has in addition are the
    void elements of older HTML versions the serialisation specification lists. -/
theorem C19_void_table :
    specVoid.all (voidNames.contains ·) = true ∧
    voidNames.filter (fun n => !specVoid.contains n) =
      [['k','e','y','g','e','n'], ['p','a','r','a','m'], ['b','a','s','e','f','o','n','t'], ['f','r','a','m','e'],
       ['i','s','i','n','d','e','x']] := by decide +kernel

/-- Raw-text elements: exactly `script` and `style`. -/
theorem C19_no_escape_table :
    noEscapeNames = [['s','c','r','i','p','t'], ['s','t','y','l','e']] := by decide +kernel

/-- Between two tables in the same order containment is one pass: a sublist is contained member by member … -/
theorem all_contains_of_sublist {α : Type} [BEq α] [LawfulBEq α] {a b : List α} (h : a.Sublist b) :
    a.all (b.contains ·) = true := by
  rw [List.all_eq_true]
  exact fun x hx => List.contains_iff_mem.mpr (h.subset hx)

/-- … and if `a` without its `k`-th member `x` is a sublist of `b` and `x` is not in `b`, then `x` is all of `a`
    that `b` lacks. -/
theorem filter_not_contains_single {α : Type} [BEq α] [LawfulBEq α] {a b : List α} (k : Nat) {x : α}
    (hk : a[k]? = some x) (hs : (a.eraseIdx k).Sublist b) (hx : b.contains x = false) :
    a.filter (fun n => !b.contains n) = [x] := by
  obtain ⟨hlt, rfl⟩ := List.getElem?_eq_some_iff.mp hk
  rw [List.eraseIdx_eq_take_drop_succ] at hs
  have hin : ∀ y ∈ a.take k ++ a.drop (k + 1), ¬ (!b.contains y) = true := fun y hy => by
    rw [List.contains_iff_mem.mpr (hs.subset hy)]; exact Bool.false_ne_true
  conv => lhs; rw [← List.take_append_drop k a, List.drop_eq_getElem_cons hlt]
  rw [List.filter_append, List.filter_cons, hx,
    List.filter_eq_nil_iff.mpr (fun y hy => hin y (List.mem_append_left _ hy)),
    List.filter_eq_nil_iff.mpr (fun y hy => hin y (List.mem_append_right _ hy))]
  rfl

/-- `script` and `style` are formatted (no indentation inside) as well; the formatted elements are
    HTML elements; the current void elements are HTML elements. -/
theorem C19_tables_consistent :
    noEscapeNames.all (formattedNames.contains ·) = true ∧
    formattedNames.all (html5Names.contains ·) = true ∧
    specVoid.all (html5Names.contains ·) = true ∧
    (phrasingContentNames.filter (fun n => !html5Names.contains n)) = [['s','v','g']] :=
  -- The two small tables are compared name by name.  The void, phrasing and element tables are sorted alike, so what
  -- is evaluated for them is: `specVoid <+ html5Names`; `phrasingContentNames[45] = svg`, the phrasing table without
  -- that entry `<+ html5Names`, `svg ∉ html5Names`.  The two lemmas above turn these into the clauses as stated.
  ⟨by decide +kernel, by decide +kernel, all_contains_of_sublist (by decide +kernel),
    filter_not_contains_single 45 (by decide +kernel) (by decide +kernel) (by decide +kernel)⟩

/-- Strictly increasing in the lexicographic order, checked along the list. -/
def increasing : List Str → Bool
  | a :: b :: l => decide (a < b) && increasing (b :: l)
  | _ => true

theorem increasing_head_lt : ∀ (a : Str) (l : List Str), increasing (a :: l) = true → ∀ x ∈ l, a < x
  | a, b :: l, h, x, hx => by
    simp only [increasing, Bool.and_eq_true, decide_eq_true_eq] at h
    rcases List.mem_cons.mp hx with rfl | hx
    · exact h.1
    · exact List.lt_trans h.1 (increasing_head_lt b l h.2 x hx)

/-- One pass along a sorted table, where deciding `Nodup` compares every pair of names. -/
theorem nodup_of_increasing : ∀ l : List Str, increasing l = true → l.Nodup
  | [], _ => List.nodup_nil
  | [a], _ => List.nodup_cons.mpr ⟨List.not_mem_nil, List.nodup_nil⟩
  | a :: b :: l, h =>
    List.nodup_cons.mpr ⟨fun ha => List.lt_irrefl a (increasing_head_lt a _ h a ha),
      nodup_of_increasing (b :: l) (by simp only [increasing, Bool.and_eq_true] at h; exact h.2)⟩

/-- No table lists a name twice (the two long tables are sorted). -/
theorem C19_tables_nodup :
    html5Names.Nodup ∧ voidNames.Nodup ∧ phrasingContentNames.Nodup ∧ formattedNames.Nodup ∧
    noEscapeNames.Nodup :=
  ⟨nodup_of_increasing _ (by decide +kernel), by decide +kernel, nodup_of_increasing _ (by decide +kernel),
    by decide +kernel, by decide +kernel⟩

/-! ## The serialiser.  Token-level theorems quantify over *every* call of `render_output`
(any state of the name stack, any node, any event), hence over every token of every serialisation. -/

/-! ### Never panics -/

/-- `serialize_write` never panics: any tree, any start path, any vocabulary, any parameters. -/
theorem C19_nopanic_write (env : Env) (p : HtmlParams) (t : Tree) (start : Path) :
    (serializeHtmlWrite env p t start).2 ≠ .panic := by
  have hall : ∀ po ∈ genOutputs t start, ∀ s, renderHtmlAt (htmlCtx env p) t s po.1 po.2 ≠ .panic :=
    fun po hpo s => renderHtmlAt_ne_panic _ t start s po.1 po.2 hpo
  unfold serializeHtmlWrite
  cases hi : p.indentation with
  | none => exact writeHtmlGo_ne_panic _ t _ hall _
  | some sup => exact writeHtmlPrettyGo_ne_panic _ sup t _ hall _ _

/-- `serialize_string` / `to_string` never panic. -/
theorem C19_nopanic (env : Env) (p : HtmlParams) (t : Tree) (start : Path) :
    serializeHtmlString env p t start ≠ .panic :=
  fun h => C19_nopanic_write env p t start ((bufferToString_panic_iff _).mp h)

/-! ### Doctype -/

/-- Whatever is written starts with the doctype … -/
theorem C19_doctype_write (env : Env) (p : HtmlParams) (t : Tree) (start : Path) :
    ∃ body, (serializeHtmlWrite env p t start).1 = htmlDoctype ++ body := ⟨_, rfl⟩

/-- … so every returned string starts with `<!DOCTYPE html>`. -/
theorem C19_doctype (env : Env) (p : HtmlParams) (t : Tree) (start : Path) (out : Str)
    (h : serializeHtmlString env p t start = .ok out) :
    ∃ body, out = ['<','!','D','O','C','T','Y','P','E',' ','h','t','m','l','>'] ++ body := by
  obtain ⟨body, hb⟩ := C19_doctype_write env p t start
  rw [(bufferToString_ok_iff _ out).mp h, C19_doctype_const] at hb
  exact ⟨body, hb⟩

/-! ### Tags -/

/-- A start tag is always closed by `>`: there is no self-closing form. -/
theorem C19_tags_close (c : HtmlCtx) (s : HState) (node : Tree) (parent : Option Tree) :
    renderHtml c s node parent .startTagClose = .ok (s, ⟨false, ['>']⟩) := rfl

/-- Which elements are void: HTML namespace (none or `XHTML_NS`) and the lower-cased local name in
    the table. -/
theorem C19_tags_void_iff (c : HtmlCtx) (name : Nat) :
    c.h.void.matches c.env name =
      (c.h.isHtmlElement c.env name && voidNames.contains (asciiLower (c.env.localName name))) :=
  void_matches_eq c.h c.env name

/-- The end-tag token is empty exactly for void elements; otherwise it is `</name>`. -/
theorem C19_tags_end (c : HtmlCtx) (s s' : HState) (node : Tree) (parent : Option Tree) (name : Nat)
    (tok : OutputToken) (h : renderHtml c s node parent (.endTag name) = .ok (s', tok)) :
    (tok.text = [] ↔ c.h.void.matches c.env name = true) ∧
    (c.h.void.matches c.env name = false →
      ∃ full, s.stack.elementFullname c.env name = .ok full ∧ tok.text = ['<','/'] ++ full ++ ['>']) :=
  c19_tags_end c s s' node parent name tok h

/-! ### Unprefixed names -/

/-- An element in no namespace, in `XHTML_NS`, in the MathML or in the SVG namespace is written
    with its bare local name: `<name`, or `<name xmlns="…"` when the serialiser injects the default
    declaration.  (`hxml`: the namespace is not the XML namespace — true of every `Xot`, see
    `C19_ids_ne_xml`.) -/
theorem C19_unprefixed (c : HtmlCtx) (s s' : HState) (node : Tree) (parent : Option Tree) (name : Nat)
    (tok : OutputToken)
    (hns : c.h.isHtmlNamespace (c.env.nsOfName name) = true ∨ c.h.mustBeUnprefixed (c.env.nsOfName name) = true)
    (hxml : c.env.nsOfName name ≠ Env.xmlNamespace)
    (h : renderHtml c s node parent (.startTagOpen name) = .ok (s', tok)) :
    tok.text = ['<'] ++ c.env.localName name ∨
    tok.text = ['<'] ++ c.env.localName name ++ [' ','x','m','l','n','s','=','"']
      ++ serializeAttributeHtml (c.env.namespaceStr (c.env.nsOfName name)) ++ ['"'] :=
  c19_unprefixed c s s' node parent name tok hns hxml h

/-- The ids `xot.html5()` uses for the three namespaces are not the XML namespace's, in every
    environment that has the built-in registrations of `Xot::new`. -/
theorem C19_ids_ne_xml (env : Env) (p : HtmlParams) (hxml : env.namespaces[Env.xmlNamespace]? = some xmlNs) :
    (htmlCtx env p).h.xhtml ≠ Env.xmlNamespace ∧ (htmlCtx env p).h.mathml ≠ Env.xmlNamespace ∧
    (htmlCtx env p).h.svg ≠ Env.xmlNamespace := html5_new_ne_xml env hxml

/-- Token level: the default declaration of the element's own namespace is written into the start
    tag whenever the name stack (after the element's own written declarations) holds no default
    binding for that namespace; the binding gets a frame of its own. -/
theorem C19_embedded_inject (c : HtmlCtx) (s : HState) (node : Tree) (parent : Option Tree) (name : Nat)
    (hm : c.h.mustBeUnprefixed (c.env.nsOfName name) = true)
    (hno : (s.stack.push (htmlDeclarations node (c.env.nsOfName name))).hasEmptyPrefix (c.env.nsOfName name) = false) :
    ∃ s', renderHtml c s node parent (.startTagOpen name) = .ok (s',
      ⟨false, ['<'] ++ c.env.localName name ++ [' ','x','m','l','n','s','=','"']
        ++ serializeAttributeHtml (c.env.namespaceStr (c.env.nsOfName name)) ++ ['"']⟩) := by
  refine ⟨⟨(s.stack.push (htmlDeclarations node (c.env.nsOfName name))).push [(Env.emptyPrefix, c.env.nsOfName name)],
    ((if (htmlDeclarations node (c.env.nsOfName name)).isEmpty then 0 else 1) + 1) :: s.frames⟩, ?_⟩
  simp only [renderHtml, hm, hno]
  simp [fmt, fmtHtmlStartTagOpenNs]

/-! ### Text -/

/-- The text token is the text run through the function its parent selects. -/
theorem C19_text (c : HtmlCtx) (s s' : HState) (node : Tree) (parent : Option Tree) (text : Str)
    (tok : OutputToken) (h : renderHtml c s node parent (.text text) = .ok (s', tok)) :
    tok.space = false ∧ tok.text = htmlTextValue c parent text := by
  simp only [renderHtml, Outcome.ok.injEq, Prod.mk.injEq] at h
  obtain ⟨_, rfl⟩ := h
  exact ⟨rfl, rfl⟩

/-- Unless the parent is a raw-text element or a requested CDATA-section element, the token holds
    no `<`, and every `&` in it starts a character reference (`&amp;`, `&lt;`, `&gt;`, `&nbsp;`,
    `&#xD;`).  Text without an element parent (under a document node, detached) is included. -/
theorem C19_text_escaped (c : HtmlCtx) (parent : Option Tree) (text : Str)
    (hp : ∀ pn, parentElementName parent = some pn →
      c.h.noEscape.matches c.env pn = false ∧ c.cdata.contains pn = false) :
    '<' ∉ htmlTextValue c parent text ∧ refsOnly knownRefs (htmlTextValue c parent text) = true := by
  rcases htmlTextValue_escaped c parent text hp with h | h <;> rw [h]
  · exact serializeText_false_safe text
  · exact serializeTextHtml_safe text

/-- Raw-text parents are exactly `script` / `style` (any letter case) in no namespace or `XHTML_NS`;
    their text is written verbatim. -/
theorem C19_text_raw (c : HtmlCtx) (parent : Option Tree) (text : Str) (pn : Nat)
    (hpn : parentElementName parent = some pn) :
    (c.h.noEscape.matches c.env pn =
      (c.h.isHtmlElement c.env pn && noEscapeNames.contains (asciiLower (c.env.localName pn)))) ∧
    (c.h.noEscape.matches c.env pn = true → htmlTextValue c parent text = text) := by
  refine ⟨noEscape_matches_eq c.h c.env pn, ?_⟩
  intro h
  simp [htmlTextValue, hpn, h]

/-- A requested CDATA-section element (not `script` / `style`): the text is written as CDATA
    sections, each ending at its first `]]>` (and `&#xD;` between sections for a carriage return),
    which read back as the text. -/
theorem C19_text_cdata (c : HtmlCtx) (parent : Option Tree) (text : Str) (pn : Nat)
    (hpn : parentElementName parent = some pn) (hraw : c.h.noEscape.matches c.env pn = false)
    (hcd : c.cdata.contains pn = true) :
    htmlTextValue c parent text = serializeCdata text ∧
    cdataSectionsContent (htmlTextValue c parent text) = some text :=
  c19_text_cdata c parent text pn hpn hraw hcd

/-! ### Attribute values -/

/-- An attribute token is the bare name (boolean attribute) or `name="value"` where the value
    holds no `"` and every `&` in it starts a character reference. -/
theorem C19_attr (c : HtmlCtx) (s s' : HState) (node : Tree) (parent : Option Tree) (name : Nat)
    (value : Str) (tok : OutputToken)
    (h : renderHtml c s node parent (.attribute name value) = .ok (s', tok)) :
    ∃ full, s.stack.attributeFullname c.env name = .ok full ∧ tok.space = true ∧
      ((tok.text = full ∧ asciiLower (c.env.localName name) = asciiLower value) ∨
       (∃ v, tok.text = full ++ ['=','"'] ++ v ++ ['"'] ∧ '"' ∉ v ∧ refsOnly knownRefs v = true)) :=
  c19_attr c s s' node parent name value tok h

/-- A namespace-declaration token is empty, `xmlns="uri"` or `xmlns:prefix="uri"`; the URI is
    escaped like an attribute value. -/
theorem C19_attr_xmlns (c : HtmlCtx) (s s' : HState) (node : Tree) (parent : Option Tree) (p ns : Nat)
    (tok : OutputToken) (h : renderHtml c s node parent (.pfx p ns) = .ok (s', tok)) :
    tok.text = [] ∨
    ∃ v, (tok.text = ['x','m','l','n','s','=','"'] ++ v ++ ['"'] ∨
          tok.text = ['x','m','l','n','s',':'] ++ c.env.prefixStr p ++ ['=','"'] ++ v ++ ['"']) ∧
      '"' ∉ v ∧ refsOnly knownRefs v = true :=
  c19_attr_xmlns c s s' node parent p ns tok h

/-! ### Processing instructions -/

/-- A processing instruction whose data contains `>` is refused, in every state. -/
theorem C19_pi (c : HtmlCtx) (s : HState) (node : Tree) (parent : Option Tree) (target : Nat) (d : Str)
    (hd : '>' ∈ d) : ∃ e, renderHtml c s node parent (.pi target (some d)) = .err e := by
  have hc : d.contains htmlPiForbidden = true := by
    simpa [htmlPiForbidden] using hd
  simp only [renderHtml]
  split
  · exact ⟨_, rfl⟩
  · exact ⟨_, rfl⟩

/-- Otherwise it is written `<?target data>` / `<?target>` (no `?` before the `>`). -/
theorem C19_pi_form (c : HtmlCtx) (s : HState) (node : Tree) (parent : Option Tree) (target : Nat)
    (data : Option Str) (s' : HState) (tok : OutputToken)
    (h : renderHtml c s node parent (.pi target data) = .ok (s', tok)) :
    (c.env.namespaceStr (c.env.nsOfName target)).isEmpty = true ∧
    match data with
    | some d => '>' ∉ d ∧ tok.text = ['<','?'] ++ c.env.localName target ++ [' '] ++ d ++ ['>']
    | none => tok.text = ['<','?'] ++ c.env.localName target ++ ['>'] :=
  c19_pi_form c s node parent target data s' tok h

/-- Stream level: if any processing instruction among the serialised nodes has `>` in its data,
    the whole call returns an error (never a string), with or without indentation. -/
theorem C19_pi_refused (env : Env) (p : HtmlParams) (t : Tree) (start : Path) (path : Path) (target : Nat)
    (d : Str) (hin : (path, Output.pi target (some d)) ∈ genOutputs t start) (hd : '>' ∈ d) :
    ∃ e, serializeHtmlString env p t start = .err e := by
  have hnot : (serializeHtmlWrite env p t start).2 ≠ .ok () := by
    intro hok
    have hall : ∃ s1 r, renderHtmlAt (htmlCtx env p) t s1 path (Output.pi target (some d)) = .ok r := by
      unfold serializeHtmlWrite at hok
      cases hi : p.indentation with
      | none =>
        rw [hi] at hok
        exact writeHtmlGo_ok_all _ t _ _ hok _ hin
      | some sup =>
        rw [hi] at hok
        exact writeHtmlPrettyGo_ok_all _ sup t _ _ _ hok _ hin
    obtain ⟨s1, r, hr⟩ := hall
    cases hat : t.at? path with
    | none => simp [renderHtmlAt, hat] at hr
    | some node =>
      simp only [renderHtmlAt, hat] at hr
      obtain ⟨e, he⟩ := C19_pi (htmlCtx env p) s1 node (t.parentAt? path) target d hd
      rw [he] at hr; cases hr
  cases hs : serializeHtmlString env p t start with
  | ok s => exact absurd (congrArg Prod.snd ((bufferToString_ok_iff _ s).mp hs)) hnot
  | err e => exact ⟨e, rfl⟩
  | panic => exact absurd hs (C19_nopanic env p t start)

/-! ### The written string consists of the rendered tokens -/

/-- A returned string is the doctype followed by the tokens of `render_output` in event order
    (each preceded by a space when flagged; with indentation, each also decorated with leading
    spaces and possibly a trailing newline), and every token is the result of one `render_output`
    call — so the token-level theorems above speak about every piece of every output. -/
theorem C19_tokens (env : Env) (p : HtmlParams) (t : Tree) (start : Path) (out : Str)
    (h : serializeHtmlString env p t start = .ok out) :
    ∃ l, renderHtmlAll (htmlCtx env p) t (htmlInitState (htmlCtx env p) t start) (genOutputs t start) = .ok l ∧
      (∀ k ∈ l, ∃ s1 s2 node, t.at? k.1 = some node ∧
        renderHtml (htmlCtx env p) s1 node (t.parentAt? k.1) k.2.1 = .ok (s2, k.2.2)) ∧
      ∃ decor : List (Nat × Bool), decor.length = l.length ∧
        (p.indentation = none → ∀ d ∈ decor, d = (0, false)) ∧
        out = htmlDoctype ++ (List.zip decor l).flatMap (fun dk =>
          (if dk.1.1 > 0 then htmlIndentBytes dk.1.1 else []) ++ htmlTokenBytes dk.2.2.2
            ++ (if dk.1.2 then htmlNewline else [])) :=
  c19_tokens env p t start out h

/-- End tags: in every successful serialisation, the end tag of an element in no namespace, in
    `XHTML_NS`, MathML or SVG is `</local>` — the bare local name, like its start tag
    (`C19_unprefixed`) — or nothing at all when the element is void (`C19_tags_end`).  This is a
    property of the whole run: the frames an element's start tag pushes are exactly the frames its
    end tag pops, so the name stack at the end tag is the one right after the start tag. -/
theorem C19_unprefixed_end (env : Env) (p : HtmlParams) (t : Tree) (start : Path)
    (l : List (Path × Output × OutputToken))
    (hl : renderHtmlAll (htmlCtx env p) t (htmlInitState (htmlCtx env p) t start) (genOutputs t start) = .ok l) :
    ∀ k ∈ l, ∀ name, k.2.1 = .endTag name →
      ((htmlCtx env p).h.isHtmlNamespace ((htmlCtx env p).env.nsOfName name) = true ∨
        (htmlCtx env p).h.mustBeUnprefixed ((htmlCtx env p).env.nsOfName name) = true) →
      (htmlCtx env p).env.nsOfName name ≠ Env.xmlNamespace →
      k.2.2.text = [] ∨ k.2.2.text = ['<','/'] ++ (htmlCtx env p).env.localName name ++ ['>'] := by
  intro k hk name hname hns hxml
  exact (run_top False (fun h => h.elim) (fun h => h.elim) t start l hl).2 k hk name hname ⟨hns, hxml⟩

/-! ### MathML / SVG / XHTML under a default-namespace declaration -/

/-- Full strength.  In every successful serialisation — any tree, start node, parameter set —
    every start tag of an element in the MathML, SVG or `XHTML_NS` namespace is written (unprefixed,
    `C19_unprefixed`) while the default namespace declared by the written start tags around it, its
    own included, is the element's namespace: `embeddedUnderDefault` replays the tokens, tracking
    only `xmlns="…"` as written.  Hypotheses on the vocabulary: namespace 1 is the XML namespace
    (`Xot::new`), and no local name or prefix contains a space (the replay tells `<name xmlns="…"`
    from `<name` by its text).
    Proof: the default binding on top of the name stack is, at every event, the default namespace
    the output has in force (`DefaultInv`) — the injected binding has a frame of its own that
    replaces older default bindings and ends with its element, and declarations the `Prefix` arm
    hides never enter the stack. -/
theorem C19_embedded (env : Env) (p : HtmlParams) (t : Tree) (start : Path)
    (l : List (Path × Output × OutputToken))
    (hxml : env.namespaces[Env.xmlNamespace]? = some xmlNs) (hsp : NoSpaces env)
    (hl : renderHtmlAll (htmlCtx env p) t (htmlInitState (htmlCtx env p) t start) (genOutputs t start) = .ok l) :
    embeddedUnderDefault (htmlCtx env p) l = true := by
  have hsp' : NoSpaces (htmlCtx env p).env := by
    obtain ⟨hn, hp⟩ := htmlCtx_names env p
    exact ⟨fun n => by simpa [Env.localName, hn] using hsp.1 n, fun q => by simpa [Env.prefixStr, hp] using hsp.2 q⟩
  have h := (run_top True (fun _ => htmlCtx_xml_not_unprefixed env p hxml) (fun _ => hsp') t start l hl).1 trivial
  simp [embeddedUnderDefault, h]

/-- The vocabulary of the examples: namespaces `""`, XML, SVG, `XHTML_NS`; names `div` (none),
    `svg` (SVG), `p` (`XHTML_NS`). -/
def witnessEnv : Env :=
  ⟨[[], xmlNs, svgNs, xhtmlNs], [[], ['x','m','l']],
   [(['s','p','a','c','e'], 1), (['i','d'], 1), (['d','i','v'], 0), (['s','v','g'], 2), (['p'], 3)]⟩

theorem getD_of_forall {α : Type} {P : α → Prop} {l : List α} {d : α} (hd : P d) (h : ∀ x ∈ l, P x) (n : Nat) :
    P (l.getD n d) := by
  rw [List.getD_eq_getElem?_getD]
  cases hx : l[n]? with
  | none => exact hd
  | some x => exact h x (List.mem_of_getElem? hx)

/-- `NoSpaces` is a condition on the entries of the two tables (an id out of range stands for the empty string). -/
theorem noSpaces_of_tables (env : Env) (hn : ∀ x ∈ env.names, ' ' ∉ x.1) (hp : ∀ p ∈ env.prefixes, ' ' ∉ p) :
    NoSpaces env :=
  ⟨getD_of_forall (P := fun x : Str × Nat => ' ' ∉ x.1) List.not_mem_nil hn,
    getD_of_forall (P := fun p : Str => ' ' ∉ p) List.not_mem_nil hp⟩

/-- The hypotheses of `C19_embedded` hold of it. -/
example : witnessEnv.namespaces[Env.xmlNamespace]? = some xmlNs ∧ NoSpaces witnessEnv :=
  ⟨by decide +kernel, noSpaces_of_tables _ (by decide +kernel) (by decide +kernel)⟩

/-- The replay does refuse a bare `<svg>` with no declaration around it (so `embeddedUnderDefault` rules out
    writing the second `svg` of `<div><svg/><svg/></div>` without its declaration). -/
example : embeddedUnderDefault (htmlCtx witnessEnv {})
    [([], .startTagOpen 3, ⟨false, ['<','s','v','g']⟩), ([], .startTagClose, ⟨false, ['>']⟩)] = false := by decide +kernel

/-- Three shapes on which the declaration must not be lost (as of /repo f19bbd2).
    `<div><svg/><svg/></div>`: each `svg` declares its namespace; -/
example : toHtmlString witnessEnv (.node (.element 2) [.node (.element 3) [], .node (.element 3) []]) [] = .ok
    ['<','!','D','O','C','T','Y','P','E',' ','h','t','m','l','>','<','d','i','v','>','<','s','v','g',' ','x','m','l','n','s','=','"','h','t','t','p',':','/','/','w','w','w','.','w','3','.','o','r','g','/','2','0','0','0','/','s','v','g','"','>','<','/','s','v','g','>','<','s','v','g',' ','x','m','l','n','s','=','"','h','t','t','p',':','/','/','w','w','w','.','w','3','.','o','r','g','/','2','0','0','0','/','s','v','g','"','>','<','/','s','v','g','>','<','/','d','i','v','>'] := by decide +kernel

/-- `svg > p > svg` with `p` in `XHTML_NS`: the inner `svg` declares its namespace again; -/
example : toHtmlString witnessEnv (.node (.element 3) [.node (.element 4) [.node (.element 3) []]]) [] = .ok
    ['<','!','D','O','C','T','Y','P','E',' ','h','t','m','l','>','<','s','v','g',' ','x','m','l','n','s','=','"','h','t','t','p',':','/','/','w','w','w','.','w','3','.','o','r','g','/','2','0','0','0','/','s','v','g','"','>','<','p',' ','x','m','l','n','s','=','"','h','t','t','p','s',':','/','/','w','w','w','.','w','3','.','o','r','g','/','1','9','9','9','/','x','h','t','m','l','"','>','<','s','v','g',' ','x','m','l','n','s','=','"','h','t','t','p',':','/','/','w','w','w','.','w','3','.','o','r','g','/','2','0','0','0','/','s','v','g','"','>','<','/','s','v','g','>','<','/','p','>','<','/','s','v','g','>'] := by decide +kernel

/-- `<div xmlns="…svg"><svg/></div>` with `div` in no namespace: the hidden declaration is no binding. -/
example :
    toHtmlString witnessEnv (.node (.element 2) [.node (.namespace 0 2) [], .node (.element 3) []]) [] = .ok
      ['<','!','D','O','C','T','Y','P','E',' ','h','t','m','l','>','<','d','i','v','>','<','s','v','g',' ','x','m','l','n','s','=','"','h','t','t','p',':','/','/','w','w','w','.','w','3','.','o','r','g','/','2','0','0','0','/','s','v','g','"','>','<','/','s','v','g','>','<','/','d','i','v','>'] := by decide +kernel

/-! ### Round trip: reading the escaped tokens back

`htmlDecode` (Lemmas/Html5Decode) is a strict reader of character references: `none` as soon as
an `&` does not start a complete `&amp; &lt; &gt; &quot; &apos; &nbsp;` or numeric reference. -/

/-- Text: unless the parent is a raw-text or requested CDATA-section element, decoding the token
    gives the text node's value back (so nothing is lost, and no `&` is raw). -/
theorem C19_text_roundtrip (c : HtmlCtx) (parent : Option Tree) (text : Str)
    (hp : ∀ pn, parentElementName parent = some pn →
      c.h.noEscape.matches c.env pn = false ∧ c.cdata.contains pn = false) :
    htmlDecode (htmlTextValue c parent text) = some text := by
  rcases htmlTextValue_escaped c parent text hp with h | h <;> rw [h]
  · exact htmlDecode_serializeText text
  · exact htmlDecode_serializeTextHtml text

/-- Attribute values (the `v` of `C19_attr` is `htmlAttrValue`) and namespace URIs in `xmlns`
    tokens: decoding gives the value back. -/
theorem C19_attr_roundtrip (c : HtmlCtx) (name : Nat) (value uri : Str) :
    htmlDecode (htmlAttrValue c name value) = some value ∧
    htmlDecode (serializeAttributeHtml uri) = some uri := by
  refine ⟨?_, htmlDecode_serializeAttributeHtml uri⟩
  unfold htmlAttrValue
  split
  · exact htmlDecode_serializeAttribute value
  · exact htmlDecode_serializeAttributeHtml value

/-- The reader is strict: a raw `&`, an unknown name, an unterminated reference are refused. -/
example : htmlDecode ['a','&','b'] = none ∧ htmlDecode ['&','x','y',';'] = none ∧
    htmlDecode ['&','a','m','p'] = none ∧
    htmlDecode ['&','n','b','s','p',';','&','l','t',';'] = some ['\u00a0','<'] := by
  refine ⟨?_, ?_, ?_, ?_⟩ <;>
    simp [htmlDecode, splitSemi, htmlEntity, decodeEntity, namedEntity, namedEntities, List.lookup]

/-! ### Where indentation goes

With indentation, `serialize_pretty` decorates every token with `htmlPrettyTrace`: the
(indentation, newline) pairs `Pretty::prettify` computes along the event stream. -/

/-- The pretty string is the doctype and the rendered tokens decorated by `htmlPrettyTrace`. -/
theorem C19_pretty_tokens (env : Env) (p : HtmlParams) (sup : List Nat) (t : Tree) (start : Path) (out : Str)
    (hi : p.indentation = some sup) (h : serializeHtmlString env p t start = .ok out) :
    ∃ l, renderHtmlAll (htmlCtx env p) t (htmlInitState (htmlCtx env p) t start) (genOutputs t start) = .ok l ∧
      l.length = (genOutputs t start).length ∧
      out = htmlDoctype ++ (List.zip (htmlPrettyTrace (htmlCtx env p) sup t [] (genOutputs t start)) l).flatMap
        (fun dk => (if dk.1.1 > 0 then htmlIndentBytes dk.1.1 else []) ++ htmlTokenBytes dk.2.2.2
          ++ (if dk.1.2 then htmlNewline else [])) := by
  have hw := (bufferToString_ok_iff _ out).mp h
  unfold serializeHtmlWrite at hw
  rw [hi] at hw
  obtain ⟨l, hl, hlen, hb⟩ := writeHtmlPrettyGo_trace _ sup t _ _ _ (congrArg Prod.snd hw)
  exact ⟨l, hl, hlen, (congrArg Prod.fst hw).symm.trans (congrArg (htmlDoctype ++ ·) hb)⟩

/-- The events of any subtree leave the `Pretty` stack as they found it (what `>` pushes the end
    tag pops), and inside mixed content — below an element with a text or inline-element child, a
    formatted element or a suppressed name, at any depth — no event gets indentation or a newline. -/
theorem C19_pretty_subtree (c : HtmlCtx) (sup : List Nat) (t : Tree) (inScope : List (Nat × Nat)) (n : Tree)
    (isTop : Bool) (path : Path) (ps : PStack) :
    htmlPrettyFinal c sup t ps (genNode inScope isTop path n) = ps ∧
    (ps.inMixed = true → htmlPrettyTrace c sup t ps (genNode inScope isTop path n) =
      List.replicate (genNode inScope isTop path n).length (0, false)) :=
  pretty_subtree c sup t inScope n isTop path ps

/-- A mixed element is written on one line: of all its events, children included, only the start
    tag can be indented and only the end tag can be followed by a newline (both as the content
    around the element decides) — so pretty printing never adds a character to its content. -/
theorem C19_pretty_mixed_element (c : HtmlCtx) (sup : List Nat) (t : Tree) (inScope : List (Nat × Nat))
    (name : Nat) (ks : List Tree) (isTop : Bool) (path : Path) (ps : PStack)
    (hat : t.at? path = some (.node (.element name) ks))
    (hc : (Tree.node (.element name) ks).firstChild?.isSome = true)
    (hm : htmlHasInlineChild c (.node (.element name) ks) = true ∨ htmlIsSuppressed c sup name = true) :
    htmlPrettyTrace c sup t ps (genNode inScope isTop path (.node (.element name) ks)) =
      (ps.getIndentation, false) ::
        (List.replicate ((declEvents inScope isTop path (.node (.element name) ks)).length + 1
          + (genNode.genKids inScope path 0 ks).length) (0, false) ++ [(0, ps.getNewline)]) :=
  mixed_element_trace c sup t inScope name ks isTop path ps hat hc hm

/-- What makes an element mixed, in terms of the tables: a text child or a child element that is
    inline (HTML namespace and phrasing content, or HTML namespace and not an HTML element name at
    all); suppressed = formatted (`pre`, `script`, `style`, `title`, `textarea` in the HTML
    namespace, any letter case) or matched by the suppress list. -/
theorem C19_pretty_mixed_iff (c : HtmlCtx) (sup : List Nat) (node : Tree) (name : Nat) :
    (htmlHasInlineChild c node = node.normalKids.any (fun k => match k.value with
      | .text _ => true
      | .element n => c.h.isHtmlElement c.env n &&
          (phrasingContentNames.contains (asciiLower (c.env.localName n))
            || !html5Names.contains (asciiLower (c.env.localName n)))
      | _ => false)) ∧
    (htmlIsSuppressed c sup name =
      ((c.h.isHtmlElement c.env name && formattedNames.contains (asciiLower (c.env.localName name)))
        || htmlMatchesSuppress c.h c.env sup name)) := by
  refine ⟨?_, by rw [htmlIsSuppressed, formatted_matches_eq]⟩
  unfold htmlHasInlineChild
  congr 1
  funext k
  cases k.value <;> simp only [isInline_eq]

/-- Outside mixed content the placement is the XML one (C14): indentation or a newline only where
    the stack is neither mixed nor in `xml:space="preserve"` scope. -/
theorem C19_pretty_where (ps : PStack) (h : ps.getIndentation > 0 ∨ ps.getNewline = true) :
    ps.inMixed = false ∧ ps.inSpacePreserve = false := by
  rcases h with h | h
  · cases hm : ps.inMixed <;> cases hp : ps.inSpacePreserve <;> simp [PStack.getIndentation, hm, hp] at h ⊢
  · simpa [PStack.getNewline] using h

/-- Exact indentation as a function of the tree (analogue of `C14_pretty_where_tree`): along the
    HTML run the `Pretty` stack before every event is `hpentriesFor` — the entries of the open
    elements (those with children) between the start node and the event's node, `Mixed` for a
    text / inline-element child, a formatted element or a suppressed name, else
    `Unmixed(xml:space)`.  So every decoration of `C19_pretty_tokens` (paired with its event) is
    `prettify` on that explicit function of the tree. -/
theorem C19_pretty_where_tree (c : HtmlCtx) (sup : List Nat) (t : Tree) (start : Path) (n : Tree)
    (inScope : List (Nat × Nat)) (hat : t.at? start = some n)
    (hs : namespacesInScope t start = some inScope) (x : (Nat × Bool) × Path × Output)
    (hx : x ∈ List.zip (htmlPrettyTrace c sup t [] (genOutputs t start)) (genOutputs t start)) :
    ∃ rel node, x.2.1 = start ++ rel ∧ n.at? rel = some node ∧
      x.1 = (prettifyHtml c sup (hpentriesFor c sup x.2.2 n rel) node x.2.2).2 := by
  obtain ⟨rel, node, h1, h2, h3, _⟩ := html_pretty_where_tree c sup t start n inScope hat hs x hx
  exact ⟨rel, node, h1, h2, h3⟩

/-- Mixed content in HTML's sense, on trees, full strength: an event is decorated with indentation
    or a newline only if no open element strictly above its node has a text or inline (phrasing)
    element child, is a formatted element, or matches the suppress list — at any depth. -/
theorem C19_pretty_where_tree_mixed (c : HtmlCtx) (sup : List Nat) (t : Tree) (start : Path) (n : Tree)
    (inScope : List (Nat × Nat)) (hat : t.at? start = some n)
    (hs : namespacesInScope t start = some inScope) (x : (Nat × Bool) × Path × Output)
    (hx : x ∈ List.zip (htmlPrettyTrace c sup t [] (genOutputs t start)) (genOutputs t start))
    (hw : x.1.1 > 0 ∨ x.1.2 = true) :
    ∃ rel, x.2.1 = start ++ rel ∧
      ∀ a name, OpenAbove n rel a → a.value = .element name → a.firstChild?.isSome = true →
        htmlHasInlineChild c a = false ∧ htmlIsSuppressed c sup name = false :=
  html_pretty_where_tree_mixed c sup t start n inScope hat hs x hx hw

/-- `xml:space="preserve"` on trees: indentation only if the entries the event finds (its own
    element's included for an end tag) are not in `preserve` scope, a newline only if the entries
    it lands in (its own element's included for `>`) are not. -/
theorem C19_pretty_where_tree_preserve (c : HtmlCtx) (sup : List Nat) (t : Tree) (start : Path) (n : Tree)
    (inScope : List (Nat × Nat)) (hat : t.at? start = some n)
    (hs : namespacesInScope t start = some inScope) (x : (Nat × Bool) × Path × Output)
    (hx : x ∈ List.zip (htmlPrettyTrace c sup t [] (genOutputs t start)) (genOutputs t start)) :
    ∃ rel, x.2.1 = start ++ rel ∧
      (x.1.1 > 0 → PStack.inSpacePreserve (hpentriesFor c sup x.2.2 n rel) = false) ∧
      (x.1.2 = true → PStack.inSpacePreserve (hpentriesAfter c sup x.2.2 n rel) = false) := by
  obtain ⟨rel, node, h1, _, _, h4, h5⟩ := html_pretty_where_tree c sup t start n inScope hat hs x hx
  exact ⟨rel, h1, fun h => (h4 h).2, fun h => (h5 h).2⟩

/-- Non-vacuity: in `<div><p>a</p><ul><li/></ul></div>` events are decorated (`<p` indentation 1,
    `<li` indentation 2, newlines) while nothing inside the mixed `p` is. -/
example :
    htmlPrettyTrace (htmlCtx ⟨[[], xmlNs], [[], ['x','m','l']],
        [(['s','p','a','c','e'], 1), (['i','d'], 1), (['d','i','v'], 0), (['p'], 0), (['b'], 0), (['u','l'], 0), (['l','i'], 0)]⟩
        ⟨some [], []⟩) []
      (.node (.element 2) [.node (.element 3) [.node (.text ['a']) []], .node (.element 5) [.node (.element 6) []]]) []
      (genOutputs (.node (.element 2) [.node (.element 3) [.node (.text ['a']) []], .node (.element 5) [.node (.element 6) []]]) [])
    = [(0, false), (0, false), (0, true), (1, false), (0, false), (0, false), (0, true), (1, false),
       (0, true), (2, false), (0, false), (0, true), (1, true), (0, true)] := by decide +kernel

/-- `<div><p>a<b>c</b></p><ul><li>x</li></ul></div>`: `p` and `li` are mixed (one line each), `div`
    and `ul` are not. -/
example :
    (serializeHtmlString
      ⟨[[], xmlNs], [[], ['x','m','l']],
       [(['s','p','a','c','e'], 1), (['i','d'], 1), (['d','i','v'], 0), (['p'], 0), (['b'], 0), (['u','l'], 0), (['l','i'], 0)]⟩
      ⟨some [], []⟩
      (.node (.element 2) [.node (.element 3) [.node (.text ['a']) [], .node (.element 4) [.node (.text ['c']) []]],
        .node (.element 5) [.node (.element 6) [.node (.text ['x']) []]]]) [])
    = .ok ['<','!','D','O','C','T','Y','P','E',' ','h','t','m','l','>','<','d','i','v','>','\n',' ',' ','<','p','>','a','<','b','>','c','<','/','b','>','<','/','p','>','\n',' ',' ','<','u','l','>','\n',' ',' ',' ',' ','<','l','i','>','x','<','/','l','i','>','\n',' ',' ','<','/','u','l','>','\n','<','/','d','i','v','>','\n'] := by decide +kernel

/-! ### Non-vacuity -/

/-- Void, raw text, nbsp, boolean attribute, upper-case names: `<div><BR></BR>…` never appears. -/
example :
    toHtmlString
      ⟨[[], xmlNs], [[], ['x','m','l']],
       [(['s','p','a','c','e'], 1), (['i','d'], 1), (['d','i','v'], 0), (['B','R'], 0), (['s','c','r','i','p','t'], 0),
        (['c','h','e','c','k','e','d'], 0), (['p'], 0)]⟩
      (.node (.element 2) [.node (.attribute 5 ['C','H','E','C','K','E','D']) [],
        .node (.element 3) [], .node (.element 4) [.node (.text ['a','<','b','&']) []],
        .node (.element 6) [.node (.text ['a','<','b','&','\u00a0','"']) []]]) []
    = .ok ['<','!','D','O','C','T','Y','P','E',' ','h','t','m','l','>','<','d','i','v',' ','c','h','e','c','k','e','d','>','<','B','R','>','<','s','c','r','i','p','t','>','a','<','b','&','<','/','s','c','r','i','p','t','>','<','p','>','a','&','l','t',';','b','&','a','m','p',';','&','n','b','s','p',';','"','<','/','p','>','<','/','d','i','v','>'] := by decide +kernel

/-- `C19_pi` / `C19_pi_refused` are not vacuous: `<?pi a>b>` is refused. -/
example :
    toHtmlString ⟨[[], xmlNs], [[], ['x','m','l']], [(['s','p','a','c','e'], 1), (['i','d'], 1), (['p','i'], 0)]⟩
      (.node .document [.node (.pi 2 (some ['a','>','b'])) []]) [] = .err .processingInstructionGtInHtml := by decide +kernel

/-- Text directly under a document node and a detached text node are escaped as XML text. -/
example :
    toHtmlString ⟨[[], xmlNs], [[], ['x','m','l']], [(['s','p','a','c','e'], 1), (['i','d'], 1)]⟩
      (.node .document [.node (.text ['a','<','&']) []]) [] = .ok ['<','!','D','O','C','T','Y','P','E',' ','h','t','m','l','>','a','&','l','t',';','&','a','m','p',';'] := by decide +kernel

/-- `C19_unprefixed` / `C19_ids_ne_xml`: the hypotheses hold in the witness vocabulary. -/
example : (htmlCtx witnessEnv {}).h.mustBeUnprefixed ((htmlCtx witnessEnv {}).env.nsOfName 3) = true ∧
    (htmlCtx witnessEnv {}).h.isHtmlNamespace ((htmlCtx witnessEnv {}).env.nsOfName 2) = true := by decide +kernel

/-! ### C19_normalizer: `serialize_string_with_normalizer` / `serialize_write_with_normalizer`

`serializeHtmlStringN N` (Model/Normalizer.lean) is the serialiser with the caller's normalizer `N` passed to
every escaping call, as `Html5Serializer<N>` does: character data, attribute values, the namespace URI of a
written or injected `xmlns` declaration.  Everything above is the `N = id` (`NoopNormalizer`) instance. -/

/-- `NoopNormalizer` is the `id` instance. -/
theorem C19_normalizer_noop (env : Env) (p : HtmlParams) (t : Tree) (start : Path) :
    serializeHtmlStringN id env p t start = serializeHtmlString env p t start ∧
    serializeHtmlWriteN id env p t start = serializeHtmlWrite env p t start :=
  ⟨serializeHtmlStringN_id env p t start, serializeHtmlWriteN_id env p t start⟩

/-- Under EVERY normalizer the call ends as it ends without one — success or the same error — hence never
    panics, and what is written starts with the doctype. -/
theorem C19_normalizer_outcome (N : Str → Str) (env : Env) (p : HtmlParams) (t : Tree) (start : Path) :
    (serializeHtmlWriteN N env p t start).2 = (serializeHtmlWrite env p t start).2 ∧
    serializeHtmlStringN N env p t start ≠ .panic ∧
    ∃ body, (serializeHtmlWriteN N env p t start).1 = htmlDoctype ++ body := by
  have ho := serializeHtmlWriteN_outcome N env p t start
  refine ⟨ho, ?_, ⟨_, rfl⟩⟩
  exact fun h => C19_nopanic_write env p t start (ho ▸ (bufferToString_panic_iff _).mp h)

/-- Text under EVERY normalizer: the token is the function the parent selects applied to the NORMALISED text. -/
theorem C19_normalizer_text (N : Str → Str) (c : HtmlCtx) (s s' : HState) (node : Tree) (parent : Option Tree)
    (text : Str) (tok : OutputToken) (h : renderHtmlN N c s node parent (.text text) = .ok (s', tok)) :
    tok.space = false ∧ tok.text = htmlTextValue c parent (N text) := by
  simp only [renderHtmlN, Outcome.ok.injEq, Prod.mk.injEq] at h
  obtain ⟨_, rfl⟩ := h
  exact ⟨rfl, htmlTextValueN_eq N c parent text⟩

/-- `C19_text_escaped` holds of the output under ANY normalizer — unless the
    parent is a raw-text or requested CDATA-section element, the token holds no `<` and every `&` in it starts a
    character reference, whatever characters the normalizer produces (normalise first, THEN escape). -/
theorem C19_normalizer_text_escaped (N : Str → Str) (c : HtmlCtx) (parent : Option Tree) (text : Str)
    (hp : ∀ pn, parentElementName parent = some pn →
      c.h.noEscape.matches c.env pn = false ∧ c.cdata.contains pn = false) :
    '<' ∉ htmlTextValueN N c parent text ∧ refsOnly knownRefs (htmlTextValueN N c parent text) = true := by
  rw [htmlTextValueN_eq]
  exact C19_text_escaped c parent (N text) hp

/-- Decoding the escaped token gives back the NORMALISED text. -/
theorem C19_normalizer_text_roundtrip (N : Str → Str) (c : HtmlCtx) (parent : Option Tree) (text : Str)
    (hp : ∀ pn, parentElementName parent = some pn →
      c.h.noEscape.matches c.env pn = false ∧ c.cdata.contains pn = false) :
    htmlDecode (htmlTextValueN N c parent text) = some (N text) := by
  rw [htmlTextValueN_eq]
  exact C19_text_roundtrip c parent (N text) hp

/-- `C19_attr` under ANY normalizer — the bare name (decided on the value as
    stored) or `name="v"` where `v` is the escaping of the NORMALISED value: no `"`, every `&` a reference. -/
theorem C19_normalizer_attr_escaped (N : Str → Str) (c : HtmlCtx) (s s' : HState) (node : Tree)
    (parent : Option Tree) (name : Nat) (value : Str) (tok : OutputToken)
    (h : renderHtmlN N c s node parent (.attribute name value) = .ok (s', tok)) :
    ∃ full, s.stack.attributeFullname c.env name = .ok full ∧ tok.space = true ∧
      ((tok.text = full ∧ asciiLower (c.env.localName name) = asciiLower value) ∨
       (tok.text = full ++ ['=','"'] ++ htmlAttrValue c name (N value) ++ ['"'] ∧
        '"' ∉ htmlAttrValue c name (N value) ∧ refsOnly knownRefs (htmlAttrValue c name (N value)) = true)) :=
  c19n_attr N c s s' node parent name value tok h

/-- `C19_attr_xmlns` under ANY normalizer: the URI is normalised, then escaped like an attribute value. -/
theorem C19_normalizer_attr_xmlns (N : Str → Str) (c : HtmlCtx) (s s' : HState) (node : Tree)
    (parent : Option Tree) (p ns : Nat) (tok : OutputToken)
    (h : renderHtmlN N c s node parent (.pfx p ns) = .ok (s', tok)) :
    tok.text = [] ∨
    ∃ v, (tok.text = ['x','m','l','n','s','=','"'] ++ v ++ ['"'] ∨
          tok.text = ['x','m','l','n','s',':'] ++ c.env.prefixStr p ++ ['=','"'] ++ v ++ ['"']) ∧
      v = serializeAttributeHtml (N (c.env.namespaceStr ns)) ∧ '"' ∉ v ∧ refsOnly knownRefs v = true :=
  c19n_attr_xmlns N c s s' node parent p ns tok h

/-- Serialising WITH the normalizer gives — same string or same error, same
    bytes written — what serialising the normalised tree gives without one, for every parameter set.
    Hypotheses, the weakest that work (`C19_normalizer_bool_necessary`; `hns` / `hsp` as for XML):
    `hns` — `N` fixes the namespace URIs of the serialiser's table (the caller's and the XHTML / MathML / SVG
    URIs `xot.html5()` registers): they are written through `serialize_attribute_html(.., normalizer)`;
    `hb` — `N` does not change the outcome of the boolean-attribute test, which compares the attribute's local
    name with the value AS STORED (`value.to_ascii_lowercase()`), for attributes in an HTML namespace;
    `hsp` — only with indentation: `N` leaves `element_space` (the `xml:space` attribute as stored) alone. -/
theorem C19_normalizer_is_premap (N : Str → Str) (env : Env) (p : HtmlParams) (t : Tree) (start : Path)
    (hns : ∀ ns, N ((htmlCtx env p).env.namespaceStr ns) = (htmlCtx env p).env.namespaceStr ns)
    (hb : BoolKept N (htmlCtx env p) (genOutputs t start))
    (hsp : p.indentation ≠ none → SpaceKept N t (genOutputs t start)) :
    serializeHtmlStringN N env p t start = serializeHtmlString env p (t.mapText N) start ∧
    serializeHtmlWriteN N env p t start = serializeHtmlWrite env p (t.mapText N) start :=
  ⟨serializeHtmlStringN_norm N env p t start hns hb hsp, serializeHtmlWriteN_norm N env p t start hns hb hsp⟩

/-- `hns` holds as soon as `N` fixes `""`, the strings of the caller's namespace table and the three URIs. -/
theorem C19_normalizer_hypotheses (N : Str → Str) (env : Env) (p : HtmlParams)
    (h0 : N [] = []) (h : ∀ u ∈ env.namespaces, N u = u)
    (hx : N xhtmlNs = xhtmlNs) (hm : N mathmlNs = mathmlNs) (hs : N svgNs = svgNs) :
    ∀ ns, N ((htmlCtx env p).env.namespaceStr ns) = (htmlCtx env p).env.namespaceStr ns :=
  fixes_htmlCtx_namespaceStr N env p h0 h hx hm hs

/-- `fullwidthNorm` on a namespace table without the five fullwidth forms: only the boolean-attribute
    condition remains. -/
theorem C19_normalizer_fullwidth (env : Env) (hc : nsClean env = true) (p : HtmlParams) (t : Tree) (start : Path)
    (hb : BoolKept fullwidthNorm (htmlCtx env p) (genOutputs t start)) :
    serializeHtmlStringN fullwidthNorm env p t start = serializeHtmlString env p (t.mapText fullwidthNorm) start :=
  (C19_normalizer_is_premap fullwidthNorm env p t start (fullwidthNorm_fixes_html_ns env p hc) hb
    (fun _ => spaceKept_of_stable _ fullwidthNorm_spaceStable t _)).1

/-- Non-vacuity, closed (`witnessEnv`): `<div div="＂a＆">＜x＆y＞<svg/></div>` under `fullwidthNorm`; `>` is not
    escaped in HTML text, the SVG URI is written through the normalizer. -/
def c19NormDoc : Tree :=
  .node (.element 2) [.node (.attribute 2 ['\uff02', 'a', '\uff06']) [],
    .node (.text ['\uff1c', 'x', '\uff06', 'y', '\uff1e']) [], .node (.element 3) []]
def c19NormText : Str :=
  "<!DOCTYPE html><div div=\"&quot;a&amp;\">&lt;x&amp;y><svg xmlns=\"http://www.w3.org/2000/svg\"></svg></div>".toList

/-- The serialisation under the normalizer and the two hypotheses of `C19_normalizer_fullwidth`, evaluated once;
    what the serialiser gives on the normalised tree then follows from the theorem. -/
theorem c19Norm_facts :
    serializeHtmlStringN fullwidthNorm witnessEnv {} c19NormDoc [] = .ok c19NormText ∧ nsClean witnessEnv = true ∧
      BoolKept fullwidthNorm (htmlCtx witnessEnv {}) (genOutputs c19NormDoc []) := by
  unfold c19NormText; rw [String.toList_ofList]; decide +kernel

example : serializeHtmlStringN fullwidthNorm witnessEnv {} c19NormDoc [] = .ok c19NormText := c19Norm_facts.1
example : serializeHtmlString witnessEnv {} (c19NormDoc.mapText fullwidthNorm) [] = .ok c19NormText :=
  (C19_normalizer_fullwidth witnessEnv c19Norm_facts.2.1 {} c19NormDoc [] c19Norm_facts.2.2).symm.trans c19Norm_facts.1
example : nsClean witnessEnv = true ∧ BoolKept fullwidthNorm (htmlCtx witnessEnv {}) (genOutputs c19NormDoc []) :=
  c19Norm_facts.2
example : serializeHtmlStringN fullwidthNorm witnessEnv {} c19NormDoc [] =
    serializeHtmlString witnessEnv {} (c19NormDoc.mapText fullwidthNorm) [] :=
  C19_normalizer_fullwidth witnessEnv c19Norm_facts.2.1 {} c19NormDoc [] c19Norm_facts.2.2

/-- `hb` is necessary: an attribute whose local name `a＜` (U+FF1C is an XML name character) equals its value is
    written as a boolean attribute under the normalizer; in the normalised tree the value is `a<`, no longer the
    name, and is written out. -/
def c19BoolEnv : Env :=
  ⟨[[], xmlNs], [[], ['x','m','l']],
   [(['s','p','a','c','e'], 1), (['i','d'], 1), (['d','i','v'], 0), (['a', '\uff1c'], 0)]⟩
theorem C19_normalizer_bool_necessary :
    let t : Tree := .node (.element 2) [.node (.attribute 3 ['a', '\uff1c']) []]
    serializeHtmlStringN fullwidthNorm c19BoolEnv {} t [] =
      .ok ("<!DOCTYPE html><div a".toList ++ ['\uff1c'] ++ "></div>".toList) ∧
    serializeHtmlString c19BoolEnv {} (t.mapText fullwidthNorm) [] =
      .ok ("<!DOCTYPE html><div a".toList ++ ['\uff1c'] ++ "=\"a<\"></div>".toList) ∧
    ¬ BoolKept fullwidthNorm (htmlCtx c19BoolEnv {}) (genOutputs t []) := by
  rw [String.toList_ofList, String.toList_ofList, String.toList_ofList]
  decide +kernel

/-- `serialize_write_with_normalizer`, the `Write` entry point called directly: `serialize_string_with_normalizer`
    is its output collected in a `Vec` — when the write succeeds having written `w` the string variant returns
    `w`, and conversely; the two fail together with the same error; and what reaches the sink always starts with
    the doctype line (written before anything can fail). -/
theorem C19_normalizer_write (N : Str → Str) (env : Env) (p : HtmlParams) (t : Tree) (start : Path) :
    (∀ w, serializeHtmlWriteN N env p t start = (w, .ok ()) → serializeHtmlStringN N env p t start = .ok w) ∧
    (∀ s, serializeHtmlStringN N env p t start = .ok s → serializeHtmlWriteN N env p t start = (s, .ok ())) ∧
    (∀ e, (serializeHtmlWriteN N env p t start).2 = .err e ↔ serializeHtmlStringN N env p t start = .err e) ∧
    (∃ body, (serializeHtmlWriteN N env p t start).1 = htmlDoctype ++ body) :=
  ⟨fun w => (bufferToString_ok_iff _ w).mpr, fun s => (bufferToString_ok_iff _ s).mp,
    fun e => (bufferToString_err_iff _ e).symm, ⟨_, rfl⟩⟩

example : serializeHtmlWriteN fullwidthNorm witnessEnv {} c19NormDoc [] = (c19NormText, .ok ()) :=
  (C19_normalizer_write fullwidthNorm witnessEnv {} c19NormDoc []).2.1 _ c19Norm_facts.1

/-! ## A writer that fails

`serializeHtmlWriteNW P N` (Model/Normalizer.lean; `serializeHtmlWriteW P` without normalizer, Model/Html5.lean) is
`Html5::serialize_write_with_normalizer` in front of ANY writer `P` (`WriterPolicy`, Model/Writer.lean: what the
writer answers to each `write_all` call given the calls it accepted so far), threaded through the calls in the order
the Rust makes them — the doctype, then per event indentation / token space / token text / newline, each one
`w.write_all(..)?`.  `serializeHtmlCallsN` lists those calls as they happen when none is refused.  The model of
the sections above (`serializeHtmlWrite`, `serializeHtmlWriteN`) is the writer that never fails. -/

/-- The never-failing model is the unlimited-budget instance, and `N = id` is the entry point without normalizer. -/
theorem C19_write_unlimited (N : Str → Str) (env : Env) (p : HtmlParams) (t : Tree) (start : Path) :
    serializeHtmlWriteNW WriterPolicy.unlimited N env p t start = serializeHtmlWriteN N env p t start ∧
    serializeHtmlWriteNW (WriterPolicy.budget none) N env p t start = serializeHtmlWriteN N env p t start ∧
    serializeHtmlWriteW WriterPolicy.unlimited env p t start = serializeHtmlWrite env p t start ∧
    (∀ P, serializeHtmlWriteNW P id env p t start = serializeHtmlWriteW P env p t start) :=
  ⟨serializeHtmlWriteNW_unlimited N env p t start, serializeHtmlWriteNW_unlimited N env p t start,
   serializeHtmlWriteW_unlimited env p t start, fun P => serializeHtmlWriteNW_id P env p t start⟩

/-- **`serialize_write` never panics whatever the writer does**: any writer, any normalizer, any tree, start path,
    vocabulary and parameter set. -/
theorem C19_write_nopanic_any_writer (P : WriterPolicy) (N : Str → Str) (env : Env) (p : HtmlParams) (t : Tree)
    (start : Path) :
    (serializeHtmlWriteNW P N env p t start).2 ≠ .panic ∧ (serializeHtmlWriteW P env p t start).2 ≠ .panic := by
  have key : ∀ N, (serializeHtmlWriteNW P N env p t start).2 ≠ .panic := by
    intro N h
    rw [serializeHtmlWriteNW_eq_replayCalls] at h
    have h2 := replayCalls_panic P [] _ h
    have h3 : (serializeHtmlCallsN N env p t start).2 = (serializeHtmlWriteN N env p t start).2 :=
      congrArg Prod.snd (serializeHtmlCallsN_eq N env p t start)
    rw [h3, serializeHtmlWriteN_outcome] at h2
    exact C19_nopanic_write env p t start h2
  refine ⟨key N, ?_⟩
  rw [← serializeHtmlWriteNW_id]
  exact key id

/-- **A failing writer gives `Error::Io`.**  For every writer and normalizer:
    (1) either the writer refuses one of the calls — the call returns `Err(Io)`, the writer holding what it had
        accepted — or it accepts them all and the result is that of the never-failing writer;
    (2) what the writer holds when the call returns is a PREFIX of what the never-failing writer receives, in
        particular of the string `serialize_string_with_normalizer` returns;
    (3) unless the call ends in `Io`, what was written starts with the doctype;
    (4) `FailingWriter { fail_at_call: k }`: enough budget gives the old result; less gives `Io` with exactly the
        first `k` calls held; `k = 0` refuses the doctype itself. -/
theorem C19_write_fails_with_io (P : WriterPolicy) (N : Str → Str) (env : Env) (p : HtmlParams) (t : Tree)
    (start : Path) :
    ((∃ b, writeCalls P [] (serializeHtmlCallsN N env p t start).1 = .error b ∧
          serializeHtmlWriteNW P N env p t start = (b, .err .io)) ∨
      (writeCalls P [] (serializeHtmlCallsN N env p t start).1 = .ok (serializeHtmlCallsN N env p t start).1 ∧
          serializeHtmlWriteNW P N env p t start = serializeHtmlWriteN N env p t start)) ∧
    (∃ rest, (serializeHtmlWriteN N env p t start).1 = (serializeHtmlWriteNW P N env p t start).1 ++ rest) ∧
    (∀ s, serializeHtmlStringN N env p t start = .ok s →
        ∃ rest, s = (serializeHtmlWriteNW P N env p t start).1 ++ rest) ∧
    ((serializeHtmlWriteNW P N env p t start).2 ≠ .err .io →
        ∃ body, (serializeHtmlWriteNW P N env p t start).1 = htmlDoctype ++ body) ∧
    (∀ k, (serializeHtmlCallsN N env p t start).1.length ≤ k →
        serializeHtmlWriteNW (WriterPolicy.budget (some k)) N env p t start = serializeHtmlWriteN N env p t start) ∧
    (∀ k, k < (serializeHtmlCallsN N env p t start).1.length →
        serializeHtmlWriteNW (WriterPolicy.budget (some k)) N env p t start
          = (((serializeHtmlCallsN N env p t start).1.take k).flatten, .err .io)) ∧
    serializeHtmlWriteNW (WriterPolicy.budget (some 0)) N env p t start = ([], .err .io) := by
  have hlen : 0 < (serializeHtmlCallsN N env p t start).1.length := by
    unfold serializeHtmlCallsN; simp
  simp only [serializeHtmlWriteNW_eq_replayCalls, ← serializeHtmlCallsN_eq N env p t start]
  obtain ⟨h1, _, h3, h4, h5⟩ := replayCalls_writer P (serializeHtmlCallsN N env p t start)
  refine ⟨h1, h3, fun s hs => ?_, fun hne => ?_, h4, h5, ?_⟩
  · have hw := (C19_normalizer_write N env p t start).2.1 s hs
    rw [← serializeHtmlCallsN_eq N env p t start] at hw
    obtain ⟨rest, h⟩ := h3
    exact ⟨rest, (congrArg Prod.fst hw).symm.trans h⟩
  · rcases h1 with ⟨b, _, hb⟩ | ⟨_, hall⟩
    · rw [hb] at hne; exact absurd rfl hne
    · rw [hall, serializeHtmlCallsN_eq]; exact ⟨_, rfl⟩
  · rw [h5 0 hlen]; rfl

/-- **Which error wins** when the serialisation itself fails (`ProcessingInstructionGtInHtml`, `MissingPrefix`,
    `NamespaceInProcessingInstruction`): whichever comes first in the event order.  The error `e` of the string entry
    point arises after exactly the calls `serializeHtmlCallsN.1` — the doctype first, so at least one; a writer that
    accepts all of them sees `e` reported as the string entry point reports it, a writer that refuses one of them
    makes the call return `Io`. -/
theorem C19_write_error_priority (P : WriterPolicy) (N : Str → Str) (env : Env) (p : HtmlParams) (t : Tree)
    (start : Path) (e : XotError) (he : serializeHtmlStringN N env p t start = .err e) :
    (writeCalls P [] (serializeHtmlCallsN N env p t start).1 = .ok (serializeHtmlCallsN N env p t start).1 →
        serializeHtmlWriteNW P N env p t start = ((serializeHtmlCallsN N env p t start).1.flatten, .err e)) ∧
    (∀ b, writeCalls P [] (serializeHtmlCallsN N env p t start).1 = .error b →
        serializeHtmlWriteNW P N env p t start = (b, .err .io)) ∧
    (∀ k, (serializeHtmlCallsN N env p t start).1.length ≤ k →
        (serializeHtmlWriteNW (WriterPolicy.budget (some k)) N env p t start).2 = .err e) ∧
    (∀ k, k < (serializeHtmlCallsN N env p t start).1.length →
        (serializeHtmlWriteNW (WriterPolicy.budget (some k)) N env p t start).2 = .err .io) := by
  have h2 : (serializeHtmlCallsN N env p t start).2 = .err e := by
    rw [← ((C19_normalizer_write N env p t start).2.2.1 e).2 he]
    exact congrArg Prod.snd (serializeHtmlCallsN_eq N env p t start)
  refine ⟨fun hw => ?_, fun b hw => ?_, fun k hk => ?_, fun k hk => ?_⟩
  · rw [serializeHtmlWriteNW_eq_replayCalls, replayCalls_ok hw, h2]
  · rw [serializeHtmlWriteNW_eq_replayCalls, replayCalls_error hw]
  · rw [serializeHtmlWriteNW_eq_replayCalls, replayCalls_budget, if_pos hk]; exact h2
  · rw [serializeHtmlWriteNW_eq_replayCalls, replayCalls_budget, if_neg (by omega)]

/-- Non-vacuity: `<?pi a>b?>` in a document.  The calls before `ProcessingInstructionGtInHtml` arises are the doctype
    alone: the writer that refuses its first call gives `Io`, every other one the serialisation error. -/
example :
    let env : Env := ⟨[[], xmlNs], [[], ['x','m','l']], [(['s','p','a','c','e'], 1), (['i','d'], 1), (['p','i'], 0)]⟩
    let t : Tree := .node .document [.node (.pi 2 (some ['a','>','b'])) []]
    (serializeHtmlCalls env {} t []).1 = [htmlDoctype] ∧
    serializeHtmlWriteW (.budget (some 0)) env {} t [] = ([], .err .io) ∧
    serializeHtmlWriteW (.budget (some 1)) env {} t [] = (htmlDoctype, .err .processingInstructionGtInHtml) ∧
    serializeHtmlWriteW (.budget none) env {} t [] = (htmlDoctype, .err .processingInstructionGtInHtml) := by decide +kernel

/-- `<div><p>a</p></div>` with indentation: the calls (the third is the empty token of the inherited `xml` prefix
    event of the top element: the call is made all the same), a writer that fails in the middle, and one with
    enough budget. -/
example :
    let env : Env := ⟨[[], xmlNs], [[], ['x','m','l']],
       [(['s','p','a','c','e'], 1), (['i','d'], 1), (['d','i','v'], 0), (['p'], 0)]⟩
    let t : Tree := .node (.element 2) [.node (.element 3) [.node (.text ['a']) []]]
    let p : HtmlParams := ⟨some [], []⟩
    (serializeHtmlCalls env p t []).1.map String.ofList
      = ["<!DOCTYPE html>", "<div", "", ">", "\n", "  ", "<p", ">", "a", "</p>", "\n", "</div>", "\n"] ∧
    (fun r : Str × Outcome XotError Unit => (String.ofList r.1, r.2)) (serializeHtmlWriteW (.budget (some 6)) env p t [])
      = ("<!DOCTYPE html><div>\n  ", .err .io) ∧
    (fun r : Str × Outcome XotError Unit => (String.ofList r.1, r.2)) (serializeHtmlWriteW (.budget (some 13)) env p t [])
      = ("<!DOCTYPE html><div>\n  <p>a</p>\n</div>\n", .ok ()) := by decide +kernel

/-! ## The inserted whitespace stands between markup tokens; what the suppress list means

`serialize_pretty` (html5_serializer.rs) writes, per event, `" ".repeat(indentation * 2)`, the token, `"\n"` —
`(indentation, newline)` from `Pretty::prettify` (pretty.rs) with the HTML closures.  The decorated token stream
below is the list `C19_pretty_tokens` flattens: `List.zip (htmlPrettyTrace …) l`, `l` the rendered tokens. -/

/-- Every character the pretty machine adds is a space or a newline. -/
theorem C19_pretty_adds_whitespace (n : Nat) :
    (∀ ch ∈ htmlIndentBytes n, ch = ' ') ∧ htmlNewline = ['\n'] ∧ (htmlIndentBytes n).length = 2 * n := by
  refine ⟨?_, rfl, ?_⟩
  · intro ch h
    simp only [htmlIndentBytes, htmlIndentUnit, List.mem_flatten, List.mem_replicate] at h
    obtain ⟨l, ⟨_, rfl⟩, hc⟩ := h
    simpa using hc
  · simp [htmlIndentBytes, htmlIndentUnit, htmlIndentWidth, Nat.mul_comm]

/-- Per event, EVERY tree, any state of the `Pretty` stack: indentation is written only in front of an event that
    opens markup (`<name`, end tag, comment, PI), a newline only behind one that closes markup (`>`, end tag,
    comment, PI).  In particular text, attribute and `xmlns` tokens are never decorated. -/
theorem C19_pretty_token_kinds (c : HtmlCtx) (sup : List Nat) (t : Tree) (ps : PStack) (evs : List (Path × Output))
    (x : (Nat × Bool) × Path × Output) (hx : x ∈ List.zip (htmlPrettyTrace c sup t ps evs) evs) :
    (x.1.1 > 0 → x.2.2.opensMarkup = true) ∧ (x.1.2 = true → x.2.2.closesMarkup = true) := by
  rw [htmlPrettyTrace_zip] at hx
  obtain ⟨y, _, rfl⟩ := List.mem_map.mp hx
  exact ⟨fun h => (hpb_indent_before c sup t _ _ _ h).1, fun h => (hpb_newline_after c sup t _ _ _ h).1⟩

/-- The HTML counterpart of `C14_pretty_only_whitespace`.  On the trees the
    indentation clause ranges over (`TextOk`: leaf kinds are leaves, no text directly under a document node —
    well-formed documents and element-rooted subtrees), any start node, suppress list, serializer state: if the
    pretty writer puts whitespace between two consecutive tokens `x1 x2` of a successful run (a newline behind
    `x1` or indentation in front of `x2`), then
    * `x1` closes markup and its text ends with `>`, `x2` opens markup, has no space flag and its text begins
      with `<` — the one markup token without characters being the EMPTY end-tag token of a void element
      (`C19_tags_end`; what that exception amounts to: `C19_pretty_void_element_boundary`);
    * the stack between them (the entries of the open elements the whitespace lands in, `x2`'s own element
      included for an end tag) is neither mixed nor in `xml:space="preserve"` scope; so NO open element strictly
      above `x2`'s node has a text or inline (phrasing / unknown HTML) element child, is a formatted element
      (`pre`, `script`, `style`, `title`, `textarea` in the HTML namespaces, any letter case) or matches the
      suppress list (`C19_pretty_mixed_iff` reads both predicates off the tables).
    So an HTML parser reads every inserted run as inter-element whitespace between two tags, comments or PIs. -/
theorem C19_pretty_only_whitespace (c : HtmlCtx) (sup : List Nat) (t : Tree) (start : Path) (n : Tree)
    (inScope : List (Nat × Nat)) (hat : t.at? start = some n) (hs : namespacesInScope t start = some inScope)
    (hok : TextOk n) (s0 : HState) (l : List (Path × Output × OutputToken))
    (hl : renderHtmlAll c t s0 (genOutputs t start) = .ok l)
    (pre post : List ((Nat × Bool) × Path × Output × OutputToken)) (x1 x2 : (Nat × Bool) × Path × Output × OutputToken)
    (hz : List.zip (htmlPrettyTrace c sup t [] (genOutputs t start)) l = pre ++ x1 :: x2 :: post)
    (hw : x1.1.2 = true ∨ x2.1.1 > 0) :
    (x1.2.2.1.closesMarkup = true ∧
      (x1.2.2.2.text.getLast? = some '>' ∨
        (∃ name, x1.2.2.1 = .endTag name ∧ c.h.void.matches c.env name = true) ∧ x1.2.2.2.text = [])) ∧
    (x2.2.2.1.opensMarkup = true ∧ x2.2.2.2.space = false ∧
      (x2.2.2.2.text.head? = some '<' ∨
        (∃ name, x2.2.2.1 = .endTag name ∧ c.h.void.matches c.env name = true) ∧ x2.2.2.2.text = [])) ∧
    ∃ rel, x2.2.1 = start ++ rel ∧
      PStack.inMixed (hpentriesFor c sup x2.2.2.1 n rel) = false ∧
      PStack.inSpacePreserve (hpentriesFor c sup x2.2.2.1 n rel) = false ∧
      ∀ a name, OpenAbove n rel a → a.value = .element name → a.firstChild?.isSome = true →
        htmlHasInlineChild c a = false ∧ htmlIsSuppressed c sup name = false :=
  hpb_between_tokens_ok c sup t start n inScope hat hs hok s0 l hl pre post x1 x2 hz hw

/-- The same for EVERY tree (no `TextOk`): each of the two tokens is a markup token as above or the token of a
    text node that is NOT the child of an element (a text node directly under a document node, under a node that
    should be a leaf, or the start node itself with children) — around a text node whose parent is an element the
    stack holds that parent's `Mixed` entry, so nothing is ever inserted next to it. -/
theorem C19_pretty_only_whitespace_any_tree (c : HtmlCtx) (sup : List Nat) (t : Tree) (start : Path) (n : Tree)
    (inScope : List (Nat × Nat)) (hat : t.at? start = some n) (hs : namespacesInScope t start = some inScope)
    (s0 : HState) (l : List (Path × Output × OutputToken))
    (hl : renderHtmlAll c t s0 (genOutputs t start) = .ok l)
    (pre post : List ((Nat × Bool) × Path × Output × OutputToken)) (x1 x2 : (Nat × Bool) × Path × Output × OutputToken)
    (hz : List.zip (htmlPrettyTrace c sup t [] (genOutputs t start)) l = pre ++ x1 :: x2 :: post)
    (hw : x1.1.2 = true ∨ x2.1.1 > 0) :
    ((x1.2.2.1.closesMarkup = true ∧
        (x1.2.2.2.text.getLast? = some '>' ∨
          (∃ name, x1.2.2.1 = .endTag name ∧ c.h.void.matches c.env name = true) ∧ x1.2.2.2.text = [])) ∨
      ∃ x rel node, x1.2.2.1 = .text x ∧ x1.2.1 = start ++ rel ∧ n.at? rel = some node ∧ node.value = .text x ∧
        ∀ rel0 i a name, rel = rel0 ++ [i] → n.at? rel0 = some a → a.value ≠ .element name) ∧
    ((x2.2.2.1.opensMarkup = true ∧ x2.2.2.2.space = false ∧
        (x2.2.2.2.text.head? = some '<' ∨
          (∃ name, x2.2.2.1 = .endTag name ∧ c.h.void.matches c.env name = true) ∧ x2.2.2.2.text = [])) ∨
      ∃ x rel node, x2.2.2.1 = .text x ∧ x2.2.1 = start ++ rel ∧ n.at? rel = some node ∧ node.value = .text x ∧
        ∀ rel0 i a name, rel = rel0 ++ [i] → n.at? rel0 = some a → a.value ≠ .element name) ∧
    ∃ rel, x2.2.1 = start ++ rel ∧
      PStack.inMixed (hpentriesFor c sup x2.2.2.1 n rel) = false ∧
      PStack.inSpacePreserve (hpentriesFor c sup x2.2.2.1 n rel) = false :=
  hpb_between_tokens c sup t start n inScope hat hs s0 l hl pre post x1 x2 hz hw

/-- Nothing is written in front of the first token (the `Pretty` stack starts empty). -/
theorem C19_pretty_first_token (c : HtmlCtx) (sup : List Nat) (t : Tree) (p : Path) (o : Output)
    (rest : List (Path × Output)) :
    (htmlPrettyTrace c sup t [] ((p, o) :: rest)).head?.map (·.1) = some 0 := by
  simp only [htmlPrettyTrace, List.head?_cons, Option.map_some, Option.some.injEq]
  unfold prettifyHtmlAt
  cases t.at? p with
  | none => rfl
  | some node =>
    cases o <;> simp [prettifyHtml, PStack.getIndentation, PStack.inMixed, PStack.inSpacePreserve]
    split
    · split <;> rfl
    · rfl

/-- The vocabulary of the examples of this section: `div p hr ul li` in no namespace (2 … 6), `g circle` in SVG. -/
def c19WsEnv : Env :=
  ⟨[[], xmlNs, svgNs], [[], ['x','m','l']],
   [(['s','p','a','c','e'], 1), (['i','d'], 1), (['d','i','v'], 0), (['p'], 0), (['h','r'], 0), (['u','l'], 0),
    (['l','i'], 0), (['g'], 2), (['c','i','r','c','l','e'], 2)]⟩

/-- Non-vacuity of `C19_pretty_only_whitespace`: `<div><hr><p/></div>` satisfies `TextOk`; its decorated tokens
    (decoration, text) — whitespace behind `>`, `</p>`, `</div>` and behind the EMPTY end-tag token of the void `hr`
    (whose start tag was closed by the `>` just before it), indentation in front of `<hr`, `<p`. -/
example : TextOk (.node (.element 2) [.node (.element 4) [], .node (.element 3) []]) := by
  simp only [TextOk, Tree.Forall, Tree.Forall.forallList, TextOkAt, Value.isLeafKind, Value.isText, Tree.value,
    Bool.false_eq_true, reduceCtorEq, List.mem_cons, List.not_mem_nil, or_false, forall_eq_or_imp, forall_eq,
    imp_self, implies_true, false_implies, and_self]

example :
    let t : Tree := .node (.element 2) [.node (.element 4) [], .node (.element 3) []]
    let c := htmlCtx c19WsEnv ⟨some [], []⟩
    (List.zip (htmlPrettyTrace c [] t [] (genOutputs t []))
        ((renderHtmlAll c t (htmlInitState c t []) (genOutputs t [])).okValue?.getD [])).map
      (fun x => (x.1, String.ofList x.2.2.2.text))
    = [((0, false), "<div"), ((0, false), ""), ((0, true), ">"), ((1, false), "<hr"), ((0, false), ">"),
       ((0, true), ""), ((1, false), "<p"), ((0, false), ">"), ((0, true), "</p>"), ((0, true), "</div>")] := by
  decide +kernel

/-- What the exception for the empty end-tag token of a VOID element amounts to (closed; `hr` is void and not
    phrasing content).  A void element without children: the token before the empty one is its `>`.  A void element
    WITH children (not valid HTML; the tree API allows it) is treated by `Pretty` like any element: with a text
    child the newline behind the empty end tag follows the text directly (`<hr>x⏎`), with a comment child the
    indentation of the empty end tag gives a whitespace-only line. -/
theorem C19_pretty_void_element_boundary :
    serializeHtmlString c19WsEnv ⟨some [], []⟩ (.node (.element 2) [.node (.element 4) [], .node (.element 3) []]) []
      = .ok "<!DOCTYPE html><div>\n  <hr>\n  <p></p>\n</div>\n".toList ∧
    serializeHtmlString c19WsEnv ⟨some [], []⟩
        (.node (.element 2) [.node (.element 4) [.node (.text ['x']) []], .node (.element 3) []]) []
      = .ok "<!DOCTYPE html><div>\n  <hr>x\n  <p></p>\n</div>\n".toList ∧
    serializeHtmlString c19WsEnv ⟨some [], []⟩
        (.node (.element 2) [.node (.element 4) [.node (.comment ['c']) []], .node (.element 3) []]) []
      = .ok "<!DOCTYPE html><div>\n  <hr>\n    <!--c-->\n  \n  <p></p>\n</div>\n".toList := by
  rw [String.toList_ofList, String.toList_ofList, String.toList_ofList]
  decide +kernel

/-- Why `TextOk` excludes text directly under a document node (a fragment): `Pretty` keeps no stack entry for the
    document node, so in the fragment `<div></div>x` the newline behind `</div>` lands in front of the text. -/
theorem C19_pretty_fragment_text_gets_newline :
    serializeHtmlString c19WsEnv ⟨some [], []⟩ (.node .document [.node (.element 2) [], .node (.text ['x']) []]) []
      = .ok "<!DOCTYPE html><div></div>\nx".toList := by
  rw [String.toList_ofList]; decide +kernel

/-! ### The suppress list -/

/-- **What `html_matches_suppress` computes**, every suppress list, every element name.  The two `return false`
    of the loop leave the whole search, so: for an element in the HTML namespaces (no namespace or `XHTML_NS`,
    one class) only the listed names BEFORE the first listed name outside the HTML namespaces count, compared by
    local name up to ASCII case; for an element outside the HTML namespaces only the FIRST listed name counts,
    compared by id. -/
theorem C19_suppress_exact (h : Html5Elements) (env : Env) (sup : List Nat) (name : Nat) :
    htmlMatchesSuppress h env sup name =
      if h.isHtmlNamespace (env.nsOfName name) then
        (sup.takeWhile (fun s => h.isHtmlNamespace (env.nsOfName s))).any
          (fun s => asciiLower (env.localName s) == asciiLower (env.localName name))
      else sup.head? == some name :=
  c19sup_exact h env sup name

/-- For a suppress list all of whose names are in the HTML namespaces the function is
    "some listed name equals the element's name up to ASCII case and the HTML namespaces": the element is in an
    HTML namespace and its lower-cased local name is the lower-cased local name of a listed name. -/
theorem C19_suppress_semantics (h : Html5Elements) (env : Env) (sup : List Nat) (name : Nat)
    (hall : ∀ s ∈ sup, h.isHtmlNamespace (env.nsOfName s) = true) :
    htmlMatchesSuppress h env sup name =
      (h.isHtmlNamespace (env.nsOfName name) &&
        sup.any (fun s => asciiLower (env.localName s) == asciiLower (env.localName name))) ∧
    (htmlMatchesSuppress h env sup name = true ↔
      ∃ s ∈ sup, h.isHtmlNamespace (env.nsOfName s) = true ∧ h.isHtmlNamespace (env.nsOfName name) = true ∧
        asciiLower (env.localName s) = asciiLower (env.localName name)) := by
  have h1 := c19sup_html_list h env sup name hall
  refine ⟨h1, ?_⟩
  rw [h1]
  simp only [Bool.and_eq_true, List.any_eq_true, beq_iff_eq]
  constructor
  · rintro ⟨hn, s, hs, he⟩; exact ⟨s, hs, hall s hs, hn, he⟩
  · rintro ⟨s, hs, _, hn, he⟩; exact ⟨hn, s, hs, he⟩

/-- The early exit, general form: a listed name outside the HTML namespaces that is not the element's own name
    ends the search — whatever follows it in the list; and an element outside the HTML namespaces is matched by
    the first listed name or not at all. -/
theorem C19_suppress_early_exit_general (h : Html5Elements) (env : Env) (f : Nat) (rest sup : List Nat) (name : Nat) :
    (h.isHtmlNamespace (env.nsOfName f) = false → name ≠ f → htmlMatchesSuppress h env (f :: rest) name = false) ∧
    (h.isHtmlNamespace (env.nsOfName name) = false →
      htmlMatchesSuppress h env sup name = (sup.head? == some name)) := by
  refine ⟨fun hf hne => by simp [htmlMatchesSuppress, hf, hne], fun hn => ?_⟩
  rw [c19sup_exact]; simp [hn]

/-- Closed witness (`c19WsEnv`: `ul` = 5 in no namespace, `g` = 7 in SVG): a non-HTML
    name in front hides a later HTML name; alone, or in front of it, the HTML name matches; and a non-HTML name is
    honoured in first position only.  The real crate does the same: the model is `html_matches_suppress` as
    written, and the `html` suite's corpus serialises `<div><ul><li/></ul>…</div>` under exactly these lists and
    compares the bytes with the model (harness/src/suite_html.rs, "C19_suppress_early_exit"). -/
theorem C19_suppress_early_exit :
    let c := htmlCtx c19WsEnv {}
    htmlMatchesSuppress c.h c.env [7, 5] 5 = false ∧
    htmlMatchesSuppress c.h c.env [5] 5 = true ∧ htmlMatchesSuppress c.h c.env [5, 7] 5 = true ∧
    htmlMatchesSuppress c.h c.env [7, 5] 7 = true ∧ htmlMatchesSuppress c.h c.env [5, 7] 7 = false ∧
    c.h.isHtmlNamespace (c.env.nsOfName 5) = true ∧ c.h.isHtmlNamespace (c.env.nsOfName 7) = false := by decide +kernel

/-- The same seen in the output, `<div><ul><li/></ul><g><circle/></g></div>` with indentation: under `[ul]` and
    `[ul, g]` the `ul` is written on one line and `g` is not; under `[g, ul]` it is the other way round. -/
example :
    let t : Tree := .node (.element 2) [.node (.element 5) [.node (.element 6) []], .node (.element 7) [.node (.element 8) []]]
    serializeHtmlString c19WsEnv ⟨some [5], []⟩ t [] = .ok "<!DOCTYPE html><div>\n  <ul><li></li></ul>\n  <g xmlns=\"http://www.w3.org/2000/svg\">\n    <circle></circle>\n  </g>\n</div>\n".toList ∧
    serializeHtmlString c19WsEnv ⟨some [5, 7], []⟩ t [] = serializeHtmlString c19WsEnv ⟨some [5], []⟩ t [] ∧
    serializeHtmlString c19WsEnv ⟨some [7, 5], []⟩ t [] = .ok "<!DOCTYPE html><div>\n  <ul>\n    <li></li>\n  </ul>\n  <g xmlns=\"http://www.w3.org/2000/svg\"><circle></circle></g>\n</div>\n".toList := by
  rw [String.toList_ofList, String.toList_ofList]
  decide +kernel

/-- `C19_suppress_semantics` is not vacuous: `[ul, div]` is a list of HTML names. -/
example : ∀ s ∈ [5, 2], (htmlCtx c19WsEnv {}).h.isHtmlNamespace ((htmlCtx c19WsEnv {}).env.nsOfName s) = true := by
  decide +kernel

/-! ## A writer that fails, at BYTE level

The section "A writer that fails" counts what a refused call lets through in CHARACTERS.  A real `io::Write` receives the UTF-8 bytes of each
piece and may stop anywhere, also inside a multi-byte character.  `Model/WriterBytes.lean`: `utf8` (the encoder; it is
Lean's `String.toUTF8` for every text, `Lemmas/WriterBytes.lean: utf8_toUTF8`), `BytePolicy` (`some k` = refused
after `k` BYTES of this call), `serializeHtmlWriteNB B N` / `serializeHtmlWriteB B` = the trace `serializeHtmlCallsN`
replayed against `B`.  The trace is the same for every writer (`serializeHtmlWriteNW_eq_replayCalls`: for every
character-level writer the threaded function is this trace replayed); (6) ties the byte-level result back to the
threaded function in front of `B.chars`. -/

/-- **A failing BYTE-level writer gives `Error::Io`, never a panic**, and holds a prefix of the UTF-8 bytes of the
    string serialisation — possibly ending inside a character.  For every byte-level writer `B`, normalizer, tree,
    start path, vocabulary and parameter set:
    (1) either one call is refused: the calls are `pre ++ c :: post`, `B` accepts `pre` and answers `some k` to `c`;
        the call returns `Err(Io)` and the writer holds the bytes of `pre` followed by the first `k` bytes of `c`;
        or none is, and the result is that of the never-failing writer as bytes;
    (2) never a panic;
    (3) what the writer holds is a PREFIX of `utf8` of what the never-failing writer receives;
    (4) when `serialize_string_with_normalizer` returns `Ok(s)`: no refusal gives `Ok` with exactly `utf8 s`, a
        refusal gives `Io`, and in both cases the writer holds a prefix of `utf8 s`;
    (5) `ByteBudgetWriter { remaining: n }`: enough budget gives the old result; less gives `Io` and the writer
        holds exactly the first `n` bytes — wherever in a character that falls;
    (6) the character level: the outcome is that of the threaded `serializeHtmlWriteNW` in front of `B.chars`, the
        bytes held are the `utf8` of the characters that one holds plus at most 3 bytes (none unless `Io`);
    (7) the never-failing writer holds `utf8` of the never-failing model's text;
    (8) `N = id` is the entry point without normalizer. -/
theorem C19_write_fails_with_io_bytes (B : BytePolicy) (N : Str → Str) (env : Env) (p : HtmlParams) (t : Tree)
    (start : Path) :
    ((∃ pre c post k, (serializeHtmlCallsN N env p t start).1 = pre ++ c :: post ∧
          writeCallsB B [] pre = .ok (pre.map utf8) ∧ B (pre.map utf8) (utf8 c) = some k ∧
          serializeHtmlWriteNB B N env p t start = (utf8 pre.flatten ++ (utf8 c).take k, .err .io)) ∨
      (writeCallsB B [] (serializeHtmlCallsN N env p t start).1 = .ok ((serializeHtmlCallsN N env p t start).1.map utf8) ∧
          serializeHtmlWriteNB B N env p t start
            = (utf8 (serializeHtmlWriteN N env p t start).1, (serializeHtmlWriteN N env p t start).2))) ∧
    (serializeHtmlWriteNB B N env p t start).2 ≠ .panic ∧
    (∃ rest, utf8 (serializeHtmlWriteN N env p t start).1 = (serializeHtmlWriteNB B N env p t start).1 ++ rest) ∧
    (∀ s, serializeHtmlStringN N env p t start = .ok s →
        (writeCallsB B [] (serializeHtmlCallsN N env p t start).1 = .ok ((serializeHtmlCallsN N env p t start).1.map utf8) →
          serializeHtmlWriteNB B N env p t start = (utf8 s, .ok ())) ∧
        (∀ b, writeCallsB B [] (serializeHtmlCallsN N env p t start).1 = .error b →
          serializeHtmlWriteNB B N env p t start = (b, .err .io)) ∧
        ∃ rest, utf8 s = (serializeHtmlWriteNB B N env p t start).1 ++ rest) ∧
    (∀ n, serializeHtmlWriteNB (BytePolicy.byteBudget n) N env p t start =
        if (utf8 (serializeHtmlWriteN N env p t start).1).length ≤ n
        then (utf8 (serializeHtmlWriteN N env p t start).1, (serializeHtmlWriteN N env p t start).2)
        else ((utf8 (serializeHtmlWriteN N env p t start).1).take n, .err .io)) ∧
    ((serializeHtmlWriteNB B N env p t start).2 = (serializeHtmlWriteNW B.chars N env p t start).2 ∧
      ∃ tail, (serializeHtmlWriteNB B N env p t start).1
          = utf8 (serializeHtmlWriteNW B.chars N env p t start).1 ++ tail ∧ tail.length ≤ 3 ∧
        ((serializeHtmlWriteNB B N env p t start).2 ≠ .err .io → tail = [])) ∧
    serializeHtmlWriteNB BytePolicy.unlimited N env p t start
      = (utf8 (serializeHtmlWriteN N env p t start).1, (serializeHtmlWriteN N env p t start).2) ∧
    serializeHtmlWriteNB B id env p t start = serializeHtmlWriteB B env p t start := by
  unfold serializeHtmlWriteNB
  simp only [serializeHtmlWriteNW_eq_replayCalls, ← serializeHtmlCallsN_eq N env p t start]
  obtain ⟨h1, h2, h3, h4, h5, h6⟩ := replayCallsB_writer B (serializeHtmlCallsN N env p t start)
  refine ⟨h1, fun h => ?_, h3, fun s hs => ?_, h4, h5, h6, ?_⟩
  · have h3 := h2 h
    rw [congrArg Prod.snd (serializeHtmlCallsN_eq N env p t start), serializeHtmlWriteN_outcome] at h3
    exact C19_nopanic_write env p t start h3
  · have hw := (C19_normalizer_write N env p t start).2.1 s hs
    rw [← serializeHtmlCallsN_eq N env p t start] at hw
    have hs1 : (serializeHtmlCallsN N env p t start).1.flatten = s := congrArg Prod.fst hw
    refine ⟨fun hok => ?_, fun b hb => replayCallsB_error hb, hs1 ▸ h3⟩
    rw [replayCallsB_ok hok, ← utf8_flatten, hs1, congrArg Prod.snd hw]
  · unfold serializeHtmlWriteB
    rw [serializeHtmlCallsN_id]

/-- `serialize_write` never panics whatever the byte-level writer does (with or without normalizer). -/
theorem C19_write_nopanic_any_writer_bytes (B : BytePolicy) (N : Str → Str) (env : Env) (p : HtmlParams) (t : Tree)
    (start : Path) :
    (serializeHtmlWriteNB B N env p t start).2 ≠ .panic ∧ (serializeHtmlWriteB B env p t start).2 ≠ .panic := by
  refine ⟨(C19_write_fails_with_io_bytes B N env p t start).2.1, ?_⟩
  rw [← (C19_write_fails_with_io_bytes B N env p t start).2.2.2.2.2.2.2]
  exact (C19_write_fails_with_io_bytes B id env p t start).2.1

/-- **Which error wins, byte level**: when the string entry point fails with `e`, a byte-level writer that accepts
    every call made before `e` arises (the doctype, the tokens before) sees `e`; one that refuses any of them — after
    however many bytes — makes the call return `Io`; with a byte budget the boundary is the byte length of those
    calls. -/
theorem C19_write_error_priority_bytes (B : BytePolicy) (N : Str → Str) (env : Env) (p : HtmlParams) (t : Tree)
    (start : Path) (e : XotError) (he : serializeHtmlStringN N env p t start = .err e) :
    (writeCallsB B [] (serializeHtmlCallsN N env p t start).1 = .ok ((serializeHtmlCallsN N env p t start).1.map utf8) →
        serializeHtmlWriteNB B N env p t start = (utf8 (serializeHtmlCallsN N env p t start).1.flatten, .err e)) ∧
    (∀ b, writeCallsB B [] (serializeHtmlCallsN N env p t start).1 = .error b →
        serializeHtmlWriteNB B N env p t start = (b, .err .io)) ∧
    (∀ n, (utf8 (serializeHtmlCallsN N env p t start).1.flatten).length ≤ n →
        (serializeHtmlWriteNB (BytePolicy.byteBudget n) N env p t start).2 = .err e) ∧
    (∀ n, n < (utf8 (serializeHtmlCallsN N env p t start).1.flatten).length →
        serializeHtmlWriteNB (BytePolicy.byteBudget n) N env p t start
          = ((utf8 (serializeHtmlCallsN N env p t start).1.flatten).take n, .err .io)) := by
  have h2 : (serializeHtmlCallsN N env p t start).2 = .err e := by
    rw [← ((C19_normalizer_write N env p t start).2.2.1 e).2 he]
    exact congrArg Prod.snd (serializeHtmlCallsN_eq N env p t start)
  unfold serializeHtmlWriteNB
  refine ⟨fun hok => ?_, fun b hb => replayCallsB_error hb, fun n hn => ?_, fun n hn => ?_⟩
  · rw [replayCallsB_ok hok, ← utf8_flatten, h2]
  · rw [replayCallsB_byteBudget, if_pos hn]; exact h2
  · rw [replayCallsB_byteBudget, if_neg (by omega)]

/-- Non-vacuity: `<p>é😀</p>` (env: name 2 = `p`): the calls are the doctype (15 bytes), `<p`, the empty token of the
    inherited `xml` prefix, `>`, `é😀` (2 + 4 bytes), `</p>`: 28 bytes.  Budget 14 stops inside the doctype; 19 inside
    `é`, 22 inside `😀` (the character-level writer seen through it holds only `…<p>é`); 28 is enough. -/
example :
    let env : Env := ⟨[[], xmlNs], [[], ['x','m','l']], [(['s','p','a','c','e'], 1), (['i','d'], 1), (['p'], 0)]⟩
    let t : Tree := .node (.element 2) [.node (.text ['é', '😀']) []]
    (serializeHtmlCalls env {} t []).1.map String.ofList = ["<!DOCTYPE html>", "<p", "", ">", "é😀", "</p>"] ∧
    serializeHtmlWriteB (.byteBudget 14) env {} t [] = (utf8 "<!DOCTYPE html".toList, .err .io) ∧
    serializeHtmlWriteB (.byteBudget 19) env {} t [] = (utf8 "<!DOCTYPE html><p>".toList ++ [0xC3], .err .io) ∧
    serializeHtmlWriteB (.byteBudget 22) env {} t [] = (utf8 "<!DOCTYPE html><p>é".toList ++ [0xF0, 0x9F], .err .io) ∧
    serializeHtmlWriteW (BytePolicy.byteBudget 22).chars env {} t [] = ("<!DOCTYPE html><p>é".toList, .err .io) ∧
    serializeHtmlWriteB (.byteBudget 27) env {} t [] = (utf8 "<!DOCTYPE html><p>é😀</p".toList, .err .io) ∧
    serializeHtmlWriteB (.byteBudget 28) env {} t [] = (utf8 "<!DOCTYPE html><p>é😀</p>".toList, .ok ()) ∧
    "<!DOCTYPE html><p>é😀</p>".toUTF8.data.toList = utf8 "<!DOCTYPE html><p>é😀</p>".toList := by
  rw [String.toList_ofList, String.toList_ofList, String.toList_ofList, String.toList_ofList, String.toList_ofList]
  decide +kernel

/-- Error priority at byte level: `<?pi a>b?>` in a document fails with `ProcessingInstructionGtInHtml` after the
    doctype's 15 bytes: budget 14 gives `Io`, budget 15 the serialisation error. -/
example :
    let env : Env := ⟨[[], xmlNs], [[], ['x','m','l']], [(['s','p','a','c','e'], 1), (['i','d'], 1), (['p','i'], 0)]⟩
    let t : Tree := .node .document [.node (.pi 2 (some ['a','>','b'])) []]
    (serializeHtmlWriteB (.byteBudget 14) env {} t []).2 = .err .io ∧
    (serializeHtmlWriteB (.byteBudget 14) env {} t []).1.length = 14 ∧
    serializeHtmlWriteB (.byteBudget 15) env {} t [] = (utf8 htmlDoctype, .err .processingInstructionGtInHtml) := by decide +kernel

end XotModel.Props
