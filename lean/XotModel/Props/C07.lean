/-
  C07 — Axes and traversals obey the XPath document-order laws.  Property theorems only.

  Nodes are paths of raw child indices (`Path`); `Valid t p` says `p` names a node of `t`.
  Specification vocabulary (Lemmas/AxesPreorder.lean):
    `allPre t`   all nodes of `t` in document order (pre-order of the raw child lists)
    `pre t`      the normal nodes in document order  (`allPre t` filtered by `is_normal`)
    `docLt p q`  document order on paths (= the lexicographic `<`, a proper prefix first)
    `p.isPrefixOf q`   `p` is an ancestor-or-self of `q`
    `wf t`       non-normal nodes are leaves and no normal child precedes a non-normal one
  No bound on size or depth.  The theorems marked "well-formed trees" take `wf t`, a few take `kidsSorted` at the
  node; both hold of every parentless tree of a forest with `Forest.Inv` (`C07_inv_wf`), and the `C07_reachable_*`
  theorems state the laws for such trees without structural hypothesis.
-/
import XotModel.Lemmas.AxesCats
import XotModel.Lemmas.ArenaExamples
import XotModel.Lemmas.ArenaTraverse
import XotModel.Lemmas.ArenaPred
import XotModel.Model.ValueAccess
import XotModel.Lemmas.AxesChildLists
import XotModel.Lemmas.FparseHistStep
import XotModel.Lemmas.ReachAxes
import XotModel.Lemmas.ReachHist
import XotModel.Lemmas.FinvTrav

namespace XotModel.Props
open XotModel XotModel.Axes

/-! ## Document order -/

/-- `docLt` is the lexicographic order on index paths. -/
theorem C07_docLt_iff_lt (p q : Path) : docLt p q = true ↔ p < q := docLt_iff_lt p q

/-- `allPre t` lists exactly the nodes of `t`, strictly increasing in document order. -/
theorem C07_allPre (t : Tree) :
    (∀ p, p ∈ allPre t ↔ Valid t p) ∧ (allPre t).Pairwise (fun a b => docLt a b = true) :=
  ⟨mem_allPre_iff t, allPre_sorted t⟩

/-- `pre t` lists exactly the normal nodes, strictly increasing in document order. -/
theorem C07_pre (t : Tree) :
    (∀ p, p ∈ pre t ↔ Valid t p ∧ isNormalAt t p = true) ∧
    (pre t).Pairwise (fun a b => docLt a b = true) ∧ (pre t).Nodup :=
  ⟨mem_pre_iff t, pre_sorted t, pre_nodup t⟩

/-! ## The big axes equal their document-order specifications -/

/-- `descendants` (= `axis(DescendantOrSelf)`): normal nodes at or below `p`, document order.
    Any tree, any node (also attribute / namespace nodes). -/
theorem C07_descendants {t : Tree} {p : Path} (h : Valid t p) :
    descendants t p = (pre t).filter (fun q => p.isPrefixOf q) ∧
    axis t .descendantOrSelf p = descendants t p ∧
    allDescendants t p = (allPre t).filter (fun q => p.isPrefixOf q) :=
  ⟨descendants_eq h, rfl, arenaDescendants_eq h⟩

/-- `axis(Descendant)` at a normal node: normal nodes strictly below `p`, document order. -/
theorem C07_axis_descendant {t : Tree} {p : Path} (h : Valid t p) (hn : isNormalAt t p = true) :
    axis t .descendant p = (pre t).filter (fun q => p.isPrefixOf q && q != p) :=
  axis_descendant_spec h hn

/-- `axis(Descendant)` at an attribute / namespace node of a well-formed tree: nothing. -/
theorem C07_axis_descendant_abnormal {t : Tree} {p : Path} (hw : wf t = true) (h : Valid t p)
    (hn : isNormalAt t p = false) : axis t .descendant p = [] :=
  (axis_descendant_abnormal hw h hn).1

/-- The `Following` iterator: `following` (= `axis(Following)`) yields, in document order, the normal
    nodes after `p` that are not below `p`; `all_following` the same over
    all nodes. Any tree, any start node (also attribute / namespace nodes); the fuel (node
    count) the model gives the machine is adequate. -/
theorem C07_following {t : Tree} {p : Path} (h : Valid t p) :
    following t p = (pre t).filter (fun q => docLt p q && !p.isPrefixOf q) ∧
    axis t .following p = following t p ∧
    allFollowing t p = (allPre t).filter (fun q => docLt p q && !p.isPrefixOf q) :=
  ⟨following_eq h, rfl, allFollowing_eq h⟩

/-- `preceding` (= `axis(Preceding)`): the normal nodes before `p` that are not ancestors of
    `p`, in reverse document order. Well-formed trees, any node. -/
theorem C07_preceding {t : Tree} {p : Path} (hw : wf t = true) (h : Valid t p) :
    preceding t p = ((pre t).filter (fun q => docLt q p && !q.isPrefixOf p)).reverse ∧
    axis t .preceding p = preceding t p :=
  ⟨preceding_eq hw h, rfl⟩

/-- `axis(Ancestor)`: the proper prefixes of `p`, nearest first — for every node, attribute and
    namespace nodes included (they have a parent and ancestors); in a well-formed tree these
    are the normal nodes that are proper ancestors, in reverse document order. -/
theorem C07_axis_ancestor {t : Tree} {p : Path} (hw : wf t = true) (h : Valid t p) :
    axis t .ancestor p = ((pre t).filter (fun q => q.isPrefixOf p && q != p)).reverse ∧
    axis t .ancestorOrSelf p = p :: axis t .ancestor p ∧ ancestors p = axis t .ancestorOrSelf p := by
  refine ⟨axis_ancestor_spec hw h, ?_, rfl⟩
  rw [axis_ancestor_eq]; exact ancestors_eq p

/-! ## Partition law -/

/-- For a normal node `n`: ancestors, `n`, descendants, preceding and following together are
    exactly the normal nodes of the tree, each once. -/
theorem C07_partition {t : Tree} {p : Path} (hw : wf t = true) (h : Valid t p)
    (hn : isNormalAt t p = true) :
    (axis t .ancestor p ++ (p :: axis t .descendant p) ++ axis t .preceding p ++
      axis t .following p).Perm (pre t) :=
  partition_normal hw h hn

/-- Pairwise disjointness (and no repetition inside a part): the concatenation has no duplicates. -/
theorem C07_partition_disjoint {t : Tree} {p : Path} (hw : wf t = true) (h : Valid t p)
    (hn : isNormalAt t p = true) :
    (axis t .ancestor p ++ (p :: axis t .descendant p) ++ axis t .preceding p ++
      axis t .following p).Nodup :=
  (partition_normal hw h hn).nodup_iff.mpr (pre_nodup t)

/-- For an attribute or namespace node the four axes alone partition the normal nodes. -/
theorem C07_partition_abnormal {t : Tree} {p : Path} (hw : wf t = true) (h : Valid t p)
    (hn : isNormalAt t p = false) :
    (axis t .ancestor p ++ axis t .descendant p ++ axis t .preceding p ++ axis t .following p).Perm (pre t) ∧
    (axis t .ancestor p ++ axis t .descendant p ++ axis t .preceding p ++ axis t .following p).Nodup :=
  ⟨partition_abnormal hw h hn, (partition_abnormal hw h hn).nodup_iff.mpr (pre_nodup t)⟩

/-- Descendants and following come in document order, ancestors and preceding in reverse. -/
theorem C07_order {t : Tree} {p : Path} (hw : wf t = true) (h : Valid t p) :
    (axis t .descendantOrSelf p).Pairwise (fun a b => docLt a b = true) ∧
    (axis t .following p).Pairwise (fun a b => docLt a b = true) ∧
    (axis t .ancestor p).Pairwise (fun a b => docLt b a = true) ∧
    (axis t .preceding p).Pairwise (fun a b => docLt b a = true) := by
  refine ⟨?_, ?_, ?_, ?_⟩
  · show (descendants t p).Pairwise _
    rw [descendants_eq h]; exact (pre_sorted t).filter _
  · show (following t p).Pairwise _
    rw [following_eq h]; exact (pre_sorted t).filter _
  · rw [axis_ancestor_spec hw h, List.pairwise_reverse]; exact (pre_sorted t).filter _
  · show (preceding t p).Pairwise _
    rw [preceding_eq hw h, List.pairwise_reverse]; exact (pre_sorted t).filter _

/-! ## The other machines equal their specifications -/

/-- The `ReversePreorder` iterator: `reverse_preorder` yields the normal nodes up to and
    including `p`, last first; `all_reverse_preorder` the same over all nodes. Any tree, any
    start node; the fuel is adequate. -/
theorem C07_revpre {t : Tree} {p : Path} (h : Valid t p) :
    reversePreorder t p = ((pre t).filter (fun q => docLt q p || q == p)).reverse ∧
    allReversePreorder t p = ((allPre t).filter (fun q => docLt q p || q == p)).reverse :=
  ⟨reversePreorder_eq h, allReversePreorder_eq h⟩

/-- `NodeEdge::next` from `Start(n)`, n a normal node of a well-formed tree, enumerates
    `traverse(n)` and then continues with the successor of `End(n)`; from the root it is
    exactly `traverse(root)` however long one goes on calling `next`. -/
theorem C07_edges_next {t : Tree} {p : Path} (hw : wf t = true) (h : Valid t p)
    (hn : isNormalAt t p = true) (m : Nat) :
    edgeWalk (Edge.next t) ((traverse t p).length + m) (.start p) =
      traverse t p ++ contN t m (Edge.next t (.stop p)) ∧
    (isNormalAt t [] = true →
      edgeWalk (Edge.next t) ((traverse t []).length + m) (.start []) = traverse t []) :=
  ⟨edgeWalk_next_eq hw h hn m, fun h0 => edgeWalk_next_root hw h0 m⟩

/-- `NodeEdge::previous` from `End(n)` enumerates `reverse_traverse(n)` (= `traverse(n)`
    reversed) and then continues with the predecessor of `Start(n)`. -/
theorem C07_edges_previous {t : Tree} {p : Path} (hw : wf t = true) (h : Valid t p)
    (hn : isNormalAt t p = true) (m : Nat) :
    edgeWalk (Edge.previous t) ((reverseTraverse t p).length + m) (.stop p) =
      reverseTraverse t p ++ contP t m (Edge.previous t (.start p)) ∧
    reverseTraverse t p = (traverse t p).reverse ∧
    reverseAllTraverse t p = (allTraverse t p).reverse ∧
    (isNormalAt t [] = true →
      edgeWalk (Edge.previous t) ((reverseTraverse t []).length + m) (.stop []) = reverseTraverse t []) :=
  ⟨edgeWalk_previous_eq hw h hn m, reverseTraverse_eq t p, rfl, fun h0 => edgeWalk_previous_root hw h0 m⟩

/-- `traverse` / `all_traverse` (indextree's `traverse`, by contract the Start/End edge list of the
    subtree): the nodes whose `Start` edge is yielded are `descendants` / `all_descendants`, in
    the same order. Any tree, any node. -/
theorem C07_traverse_starts (t : Tree) (p : Path) :
    (traverse t p).filterMap Edge.start? = descendants t p ∧
    (allTraverse t p).filterMap Edge.start? = allDescendants t p := traverse_starts t p

/-- `level_order`: the levels below `p` (`p`; its children; their children; …) one after the
    other, with `End` before every node whose parent differs from that of the node before it
    and at the very end. Any tree, any start node; levels from the node count on are empty and
    the fuel the model gives the queue loop is adequate. -/
theorem C07_level {t : Tree} {p : Path} (h : Valid t p) :
    levelOrder t p = withEnds p (bfsOrder t p) ∧ (∀ k, t.size ≤ k → levelAt t p k = []) :=
  ⟨levelOrder_eq h, levelAt_size h⟩

/-! ## Children, siblings, child_index -/

/-- `children` (= `axis(Child)`): the normal nodes whose parent is `p`, in document order;
    `first_child` / `last_child` are its first / last. Well-formed trees. -/
theorem C07_children {t : Tree} {p : Path} (hw : wf t = true) (h : Valid t p) :
    children t p = (pre t).filter (fun q => parent q == some p) ∧
    axis t .child p = children t p ∧
    firstChild t p = (children t p).head? ∧
    lastChild t p = (children t p).getLast? :=
  ⟨children_spec hw h, rfl, firstChild_eq t p, lastChild_eq hw h⟩

/-- `reverse_children` (walks `previous_sibling` from the raw last child, `take_while(is_normal)`):
    the raw children of `p` last first up to the first non-normal one (any tree; the fuel is
    adequate), i.e. `children` reversed in a well-formed tree. -/
theorem C07_reverse_children {t : Tree} {p : Path} (h : Valid t p) :
    reverseChildren t p = (rawChildPaths t p).reverse.takeWhile (isNormalAt t) ∧
    (wf t = true → reverseChildren t p = (children t p).reverse) :=
  ⟨reverseChildren_eq_spec h, fun hw => reverseChildren_eq hw h⟩

/-- Siblings of a non-root node `π ++ [i]`, of any category: `following_siblings` /
    `preceding_siblings` are the node followed by its later / earlier raw siblings of the same
    category (nearest first); the sibling axes drop the node. Attribute and namespace nodes
    have same-kind siblings. Any tree. -/
theorem C07_siblings {t : Tree} {π : Path} {i : Nat} (h : Valid t (π ++ [i])) :
    followingSiblings t (π ++ [i]) = (π ++ [i]) ::
      ((rawChildPaths t π).drop (i + 1)).filter (fun s => categoryAt t s == categoryAt t (π ++ [i])) ∧
    axis t .followingSibling (π ++ [i]) =
      ((rawChildPaths t π).drop (i + 1)).filter (fun s => categoryAt t s == categoryAt t (π ++ [i])) ∧
    precedingSiblings t (π ++ [i]) = (π ++ [i]) ::
      (((rawChildPaths t π).take i).filter (fun s => categoryAt t s == categoryAt t (π ++ [i]))).reverse ∧
    axis t .precedingSibling (π ++ [i]) =
      (((rawChildPaths t π).take i).filter (fun s => categoryAt t s == categoryAt t (π ++ [i]))).reverse :=
  ⟨(followingSiblings_snoc h).1, (followingSiblings_snoc h).2, (precedingSiblings_snoc h).1,
    (precedingSiblings_snoc h).2⟩

/-- The root has no siblings. -/
theorem C07_siblings_root (t : Tree) :
    followingSiblings t [] = [[]] ∧ precedingSiblings t [] = [[]] ∧
    axis t .followingSibling [] = [] ∧ axis t .precedingSibling [] = [] ∧
    nextSibling t [] = none ∧ previousSibling t [] = none := siblings_root t

/-- `next_sibling` of a normal node of a well-formed tree: the first of its following
    siblings, i.e. the next raw sibling if there is one. `previous_sibling` of any node: the
    previous raw sibling if it has the node's category. -/
theorem C07_next_previous_sibling {t : Tree} {π : Path} {i : Nat} (hw : wf t = true)
    (h : Valid t (π ++ [i])) (hn : isNormalAt t (π ++ [i]) = true) :
    nextSibling t (π ++ [i]) = (axis t .followingSibling (π ++ [i])).head? ∧
    (nextSibling t (π ++ [i]) = if i + 1 < (subAt t π).kids.length then some (π ++ [i + 1]) else none) ∧
    previousSibling t (π ++ [i]) =
      (if i = 0 then none
       else if categoryAt t (π ++ [i - 1]) == categoryAt t (π ++ [i]) then some (π ++ [i - 1]) else none) :=
  ⟨(nextSibling_normal hw h hn).1, (nextSibling_normal hw h hn).2, previousSibling_snoc t π i⟩

/-- Under the `StructValid` ordering of the children (namespaces, attributes, normal):
    `next_sibling` / `previous_sibling` of ANY node, attribute and namespace nodes included, is
    the nearest following / preceding sibling of the node's category. -/
theorem C07_next_previous_sibling_any {t : Tree} {π : Path} {i : Nat} (h : Valid t (π ++ [i]))
    (hs : kidsSorted (subAt t π).kids) :
    nextSibling t (π ++ [i]) = (axis t .followingSibling (π ++ [i])).head? ∧
    previousSibling t (π ++ [i]) = (axis t .precedingSibling (π ++ [i])).head? :=
  ⟨nextSibling_sorted h hs, previousSibling_sorted h hs⟩

/-- `child_index(parent, child) = Some(i)` iff `child` is the `i`-th of `children(parent)`;
    `None` when `parent` is not the parent of `child`. -/
theorem C07_child_index {t : Tree} {par child : Path} (hw : wf t = true) (h : Valid t par) :
    (∀ i, childIndex t par child = some i ↔ (children t par)[i]? = some child) ∧
    (parent child ≠ some par → childIndex t par child = none) :=
  ⟨childIndex_iff hw h, childIndex_none_of_not_child⟩

/-! ## Plain variants, `all_*` variants, the attribute axis -/

/-- The plain variants never yield a namespace or attribute node: everything they yield is a
    normal node of the tree. (`descendants`, `following`, `reverse_preorder`, `traverse`,
    `reverse_traverse`: any tree; `preceding`, `children`, the ancestor axis, `level_order` below
    its start node: well-formed trees. The start node itself is yielded by `ancestors`,
    `axis(Self)`, `level_order`, the `*_siblings` whatever its category.) -/
theorem C07_plain_normal {t : Tree} {p : Path} (hw : wf t = true) (h : Valid t p) :
    (∀ q ∈ descendants t p, Valid t q ∧ isNormalAt t q = true) ∧
    (∀ q ∈ following t p, Valid t q ∧ isNormalAt t q = true) ∧
    (∀ q ∈ preceding t p, Valid t q ∧ isNormalAt t q = true) ∧
    (∀ q ∈ reversePreorder t p, Valid t q ∧ isNormalAt t q = true) ∧
    (∀ q ∈ children t p, Valid t q ∧ isNormalAt t q = true) ∧
    (∀ q ∈ axis t .ancestor p, Valid t q ∧ isNormalAt t q = true) ∧
    (∀ e ∈ traverse t p, isNormalAt t e.node = true) ∧
    (∀ e ∈ reverseTraverse t p, isNormalAt t e.node = true) ∧
    (∀ k, ∀ q ∈ levelAt t p (k + 1), Valid t q ∧ isNormalAt t q = true) :=
  ⟨descendants_normal_only h, following_normal_only h, preceding_normal_only hw h,
    reversePreorder_normal_only h, children_normal_only hw h, ancestor_normal_only hw h,
    (traverse_normal_only t p).1, (traverse_normal_only t p).2, levelAt_normal_only hw h⟩

/-- Sibling stepping never leaves the category of the node: attribute and namespace nodes have
    same-kind siblings only, normal nodes normal siblings only. Any tree, any node. -/
theorem C07_sibling_category (t : Tree) (p : Path) :
    (∀ s, nextSibling t p = some s → categoryAt t s = categoryAt t p) ∧
    (∀ s, previousSibling t p = some s → categoryAt t s = categoryAt t p) ∧
    (∀ s ∈ followingSiblings t p, categoryAt t s = categoryAt t p) ∧
    (∀ s ∈ precedingSiblings t p, categoryAt t s = categoryAt t p) := sibling_same_category t p

/-- The `all_*` variants: under the `StructValid` ordering of the children (namespaces,
    attributes, normal) `all_descendants` is the node, then the subtrees of its namespace
    nodes, its attribute nodes, its children, in this order; `all_traverse` likewise between
    `Start` and `End`; and the raw child list is the concatenation of the three views. -/
theorem C07_all {t : Tree} {p : Path} (hs : kidsSorted (subAt t p).kids) :
    (subAt t p).kids = (subAt t p).namespaceNodes ++ (subAt t p).attributeNodes ++ (subAt t p).normalKids ∧
    allDescendants t p = p :: (allPreList 0
      ((subAt t p).namespaceNodes ++ (subAt t p).attributeNodes ++ (subAt t p).normalKids)).map (p ++ ·) ∧
    allTraverse t p = .start p :: ((rawEdgesList 0
      ((subAt t p).namespaceNodes ++ (subAt t p).attributeNodes ++ (subAt t p).normalKids)).map
        (Edge.mapPath (p ++ ·)) ++ [.stop p]) :=
  ⟨kids_eq_ns_attr_normal _ hs, allDescendants_order hs, allTraverse_order hs⟩

/-- `attribute_nodes` (= `axis(Attribute)`): only attribute children of `p` (any tree); under the
    `StructValid` ordering exactly the attribute children, in order. -/
theorem C07_attribute_axis {t : Tree} {p : Path} (h : Valid t p) :
    axis t .attribute p = attributeNodes t p ∧
    (∀ q ∈ attributeNodes t p, categoryAt t q = .attribute ∧ parent q = some p ∧ Valid t q) ∧
    (kidsSorted (subAt t p).kids →
      attributeNodes t p = (rawChildPaths t p).filter (fun q => categoryAt t q == .attribute)) :=
  ⟨rfl, fun _ hq => attributeNodes_sound h hq, attributeNodes_eq h⟩

/-! ## root, document_element, top_element, parent, self -/

theorem C07_root (p : Path) : root p = .ok [] := by
  have : (ancestors p).getLast? = some [] := by
    rw [ancestors_eq]
    cases p with
    | nil => simp [ancRel]
    | cons i p =>
      simp only [ancRel, List.reverse_cons]
      rw [← List.cons_append, List.getLast?_concat]
  simp [root, this]

/-- `parent`, `axis(Parent)`, `axis(Self)`: every node but the root has a parent, attribute and
    namespace nodes included. -/
theorem C07_parent_self (t : Tree) (π : Path) (i : Nat) :
    parent (π ++ [i]) = some π ∧ parent [] = none ∧
    axis t .parent (π ++ [i]) = [π] ∧ axis t .parent [] = [] ∧ axis t .self π = [π] := by
  simp [axis]

/-- `document_element(p) = Ok(c)`: `p` is a document node and `c` is its first element child;
    the two errors; it never panics. -/
theorem C07_document_element {t : Tree} {p : Path} (hw : wf t = true) (h : Valid t p) :
    (∀ c, documentElement t p = .ok c →
      (valueAt t p).isDocument = true ∧ c ∈ children t p ∧ (valueAt t c).isElement = true ∧
      ∀ c' ∈ children t p, docLt c' c = true → (valueAt t c').isElement = false) ∧
    (documentElement t p = .err .notDocument ↔ (valueAt t p).isDocument = false) ∧
    (documentElement t p = .err .noElementAtTopLevel ↔
      (valueAt t p).isDocument = true ∧ ∀ c ∈ children t p, (valueAt t c).isElement = false) ∧
    documentElement t p ≠ .panic :=
  ⟨fun _ hc => documentElement_ok hw h hc, (documentElement_err t p).1, (documentElement_err t p).2.1,
    (documentElement_err t p).2.2⟩

/-- `top_element` is total: it never panics. On a document node it is the first element child
    (what `document_element` returns), the document node itself if there is none; on any other
    node it is the first element on the way from the root down to the node, the node itself
    if there is none. Any tree, any node. -/
theorem C07_top_element (t : Tree) (p : Path) :
    topElement t p ≠ .panic ∧
    ((valueAt t p).isDocument = true →
      topElement t p = .ok (((children t p).find? (fun c => (valueAt t c).isElement)).getD p)) ∧
    ((valueAt t p).isDocument = true → ∀ c, documentElement t p = .ok c → topElement t p = .ok c) ∧
    ((valueAt t p).isDocument = false →
      topElement t p = .ok (((ancRel p ++ [p]).find? (fun a => (valueAt t a).isElement)).getD p)) :=
  topElement_eq t p

/-! ## The per-node read accessors of valueaccess.rs (Model/ValueAccess.lean) -/

/-- `has_document_parent(n)`: the parent of `n` is a document node.  `is_document_element(n)` ⇔ `n` is
    an element and one of the (normal) children of a document node — the document's element child
    in a well-formed document.  The root of a tree has no parent: both are `false`. -/
theorem C07_is_document_element {t : Tree} {π : Path} {i : Nat} (hw : wf t = true)
    (h : Valid t (π ++ [i])) :
    hasDocumentParent t (π ++ [i]) = (valueAt t π).isDocument ∧
    (isDocumentElement t (π ++ [i]) = true ↔
      (valueAt t π).isDocument = true ∧ (π ++ [i]) ∈ children t π ∧
      (valueAt t (π ++ [i])).isElement = true) ∧
    hasDocumentParent t [] = false ∧ isDocumentElement t [] = false := by
  refine ⟨by simp [hasDocumentParent], ?_, by simp [hasDocumentParent], by simp [isDocumentElement]⟩
  simp only [isDocumentElement, parent_snoc, Bool.and_eq_true]
  constructor
  · rintro ⟨hd, he⟩
    refine ⟨hd, ?_, he⟩
    rw [children_spec hw (valid_prefix h), List.mem_filter]
    refine ⟨(mem_pre_iff t _).mpr ⟨h, ?_⟩, by simp⟩
    unfold isNormalAt
    cases hv : valueAt t (π ++ [i]) <;> simp_all [Value.isElement, Value.isNormal, Value.category]
  · rintro ⟨hd, _, he⟩
    exact ⟨hd, he⟩

/-- What `document_element(p)` returns is a document element in the sense of `is_document_element`
    (and has a document parent). -/
theorem C07_document_element_is {t : Tree} {p c : Path} (hw : wf t = true) (h : Valid t p)
    (hc : documentElement t p = .ok c) :
    isDocumentElement t c = true ∧ hasDocumentParent t c = true := by
  obtain ⟨hd, hmem, he, _⟩ := documentElement_ok hw h hc
  rw [children_spec hw h, List.mem_filter] at hmem
  have hp : parent c = some p := by simpa using hmem.2
  simp [isDocumentElement, hasDocumentParent, hp, hd, he]

/-- Conversely, an `is_document_element` node that is the ONLY element child of its parent (a
    well-formed document has exactly one) is what `document_element(parent)` returns. -/
theorem C07_is_document_element_unique {t : Tree} {π : Path} {i : Nat} (hw : wf t = true)
    (h : Valid t (π ++ [i])) (hde : isDocumentElement t (π ++ [i]) = true)
    (huniq : ∀ c ∈ children t π, (valueAt t c).isElement = true → c = π ++ [i]) :
    documentElement t π = .ok (π ++ [i]) := by
  obtain ⟨hd, hmem, he⟩ := (C07_is_document_element hw h).2.1.mp hde
  unfold documentElement
  simp only [hd, Bool.not_true, Bool.false_eq_true, if_false]
  cases hf : (children t π).find? (fun c => (valueAt t c).isElement) with
  | none =>
    have := List.find?_eq_none.mp hf _ hmem
    simp [he] at this
  | some c =>
    have hc := huniq c (List.mem_of_find?_eq_some hf) (by simpa using List.find?_some hf)
    simp [hc]

/-- `get_element_name` panics exactly on a non-element; the typed value accessors (`comment_str`,
    `processing_instruction`, `namespace_node`, `attribute_node`) are `Some` exactly on a value of
    their kind and then return its fields. -/
theorem C07_value_accessors (t : Tree) (p : Path) :
    (∀ n, getElementName t p = .ok n ↔ valueAt t p = .element n) ∧
    (getElementName t p = .panic ↔ (valueAt t p).isElement = false) ∧
    (∀ s, commentStr t p = some s ↔ valueAt t p = .comment s) ∧
    (∀ tg d, processingInstruction t p = some (tg, d) ↔ valueAt t p = .pi tg d) ∧
    (∀ pf ns, namespaceNode t p = some (pf, ns) ↔ valueAt t p = .namespace pf ns) ∧
    (∀ n v, attributeNode t p = some (n, v) ↔ valueAt t p = .attribute n v) := by
  unfold getElementName commentStr processingInstruction namespaceNode attributeNode
  cases valueAt t p <;> simp [Value.isElement]

/-! ## Non-vacuity -/

/-- `<a xmlns:p=".." x=".."><b><c/></b>text<d/></a>` in a document, with a comment after. -/
def exTree : Tree :=
  .node .document [
    .node (.element 2) [
      .node (.namespace 2 2) [], .node (.attribute 3 ['v']) [],
      .node (.element 3) [.node (.element 4) []],
      .node (.text ['t']) [],
      .node (.element 5) []],
    .node (.comment ['c']) []]

example : wf exTree = true := by decide +kernel
example : Valid exTree [0, 2] ∧ isNormalAt exTree [0, 2] = true := by decide +kernel
example : Valid exTree [0, 1] ∧ isNormalAt exTree [0, 1] = false := by decide +kernel
example : axis exTree .following [0, 2] = [[0, 3], [0, 4], [1]] := by decide +kernel
example : axis exTree .preceding [0, 4] = [[0, 3], [0, 2, 0], [0, 2]] := by decide +kernel
example : axis exTree .following [0, 1] = [[0, 2], [0, 2, 0], [0, 3], [0, 4], [1]] := by decide +kernel
example : kidsSorted (subAt exTree [0]).kids := by decide +kernel
example : axis exTree .attribute [0] = [[0, 1]] := by decide +kernel
example : levelOrder exTree [] =
    [.node [], .stop, .node [0], .node [1], .stop, .node [0, 2], .node [0, 3], .node [0, 4], .stop,
     .node [0, 2, 0], .stop] := by decide +kernel
example : edgeWalk (Edge.next exTree) 20 (.start [0, 2]) =
    [.start [0, 2], .start [0, 2, 0], .stop [0, 2, 0], .stop [0, 2], .start [0, 3], .stop [0, 3],
     .start [0, 4], .stop [0, 4], .stop [0], .start [1], .stop [1], .stop []] := by decide +kernel
example : documentElement exTree [] = .ok [0] ∧ topElement exTree [0, 2, 0] = .ok [0] := by decide +kernel
example : reverseChildren exTree [0] = [[0, 4], [0, 3], [0, 2]] := by decide +kernel
example : topElement (.node .document [.node (.comment []) []]) [] = .ok [] := by decide +kernel
example : isDocumentElement exTree [0] = true ∧ hasDocumentParent exTree [1] = true ∧
    isDocumentElement exTree [1] = false ∧ isDocumentElement exTree [0, 2] = false ∧
    getElementName exTree [0] = .ok 2 ∧ getElementName exTree [1] = .panic ∧
    commentStr exTree [1] = some ['c'] ∧ namespaceNode exTree [0, 0] = some (2, 2) ∧
    attributeNode exTree [0, 1] = some (3, ['v']) ∧
    (∀ c ∈ children exTree [], (valueAt exTree c).isElement = true → c = [] ++ [0]) := by decide +kernel

/-! ### indextree's iterators on the real data structure (pointer level, `Model/ArenaIter.lean`)

  The theorems above take indextree's iterators "by contract" (`children`, `ancestors`, … = the
  obvious lists).  For a well-formed arena (`Arena.Rep a g`, see `Props/C04`) the pointer walks of
  `traverse.rs` are proved to yield exactly those lists, within their limit, without panic
  (`reverse_traverse` included: `C07_arena_reverse_traverse`; the unused `predecessors`: `C07_arena_predecessors`). -/

/-- `children`, `reverse_children` (also what xot's own `reverse_children` walks), `ancestors`
    (the node first, the root last), `following_siblings` / `preceding_siblings` (the node first) of a live node are the
    list-level children / reversed children / parent chain / rest of the sibling list, as current
    ids; `count` (resp. any bound on the length) suffices as limit; every id yielded is live. -/
theorem C07_arena_iterators (a : Arena) (g : Arena.Shape) (r : Arena.Rep a g) (p : Nat) (hp : Arena.Live a p)
    (limit : Nat) (hlim : a.count ≤ limit) :
    Arena.children a (a.idAt p) limit = .done a ((g.kids p).map a.idAt) ∧
    Arena.reverseChildren a (a.idAt p) limit = .done a ((g.kids p).reverse.map a.idAt) ∧
    (∃ l, Arena.UpChain g.par p l ∧ Arena.ancestors a (a.idAt p) limit = .done a (l.map a.idAt) ∧
      ∀ q, q ∈ l ↔ Arena.Reach g.par p q) ∧
    (∀ q L R, g.par p = some q → g.kids q = L ++ p :: R →
      Arena.followingSiblings a (a.idAt p) limit = .done a ((p :: R).map a.idAt)) ∧
    (g.par p = none → 1 ≤ limit → Arena.followingSiblings a (a.idAt p) limit = .done a [a.idAt p]) ∧
    (∀ q L R, g.par p = some q → g.kids q = L ++ p :: R →
      Arena.precedingSiblings a (a.idAt p) limit = .done a ((p :: L.reverse).map a.idAt)) ∧
    (∀ c, c ∈ g.kids p → Arena.LiveId a (a.idAt c)) := by
  have hk : (g.kids p).length ≤ limit := Nat.le_trans (r.kids_length_le p) hlim
  refine ⟨r.children_eq p hp limit hk, r.reverseChildren_eq p hp limit hk, ?_, ?_, ?_, ?_, ?_⟩
  · obtain ⟨l, hl, hlen⟩ := r.upChain p hp
    exact ⟨l, hl, r.ancestors_chain p l hl hp limit (Nat.le_trans hlen hlim), fun q => hl.mem_iff q⟩
  · intro q L R hq hkq
    refine r.followingSiblings_eq p q L R hp hq hkq limit ?_
    have h1 := r.kids_length_le q
    rw [hkq] at h1
    simp at h1 ⊢
    have : a.count = a.nodes.length := rfl
    omega
  · intro hq h1
    exact r.followingSiblings_root p hp hq limit h1
  · intro q L R hq hkq
    refine r.precedingSiblings_eq p q L R hp hq hkq limit ?_
    have h1 := r.kids_length_le q
    rw [hkq] at h1
    simp at h1 ⊢
    have : a.count = a.nodes.length := rfl
    omega
  · intro c hc
    exact Arena.LiveId.idAt (r.kidsLive p c hc).2.1

/-- `traverse` from a live node yields exactly the edges of its subtree in document order
    (`Arena.EdgesOf`: `Start(c)`, the edges of the children's subtrees in order, `End(c)`), and
    `descendants` the nodes of its `Start` edges (the subtree in document order), whenever the limit
    is at least the number of edges; no panic. -/
theorem C07_arena_traverse (a : Arena) (g : Arena.Shape) (r : Arena.Rep a g) (c : Nat) (hc : Arena.Live a c) :
    ∃ l, Arena.EdgesOf g c l ∧ ∀ limit, l.length ≤ limit →
      Arena.traverse a (a.idAt c) limit = .done a (l.map (Arena.toEdge a)) ∧
      Arena.descendants a (a.idAt c) limit = .done a ((l.filter (·.1)).map (fun e => a.idAt e.2)) := by
  obtain ⟨l, hl⟩ := r.edges_exists c hc
  exact ⟨l, hl, fun limit hlim => ⟨r.traverse_eq hl hc limit hlim, r.descendants_eq hl hc limit hlim⟩⟩

/-- `reverse_traverse` (`ReverseTraverse::next` over `NodeEdge::prev_traverse`: from `End(c)` to
    `End(last child)` / `Start(node)`, from `Start(n)` to `End(previous sibling)` / `Start(parent)`,
    stopping after `Start(c)`) from a live node yields exactly the edge list of its subtree
    BACKWARDS — the reverse of what `traverse` yields, `Start` / `End` tags unchanged: `End(c)`, …,
    `Start(c)` — whenever the limit is at least the number of edges; arena unchanged, no panic. -/
theorem C07_arena_reverse_traverse (a : Arena) (g : Arena.Shape) (r : Arena.Rep a g) (c : Nat) (hc : Arena.Live a c) :
    ∃ l, Arena.EdgesOf g c l ∧ ∀ limit, l.length ≤ limit →
      Arena.reverseTraverse a (a.idAt c) limit = .done a (l.reverse.map (Arena.toEdge a)) ∧
      ∃ es, Arena.traverse a (a.idAt c) limit = .done a es ∧
        Arena.reverseTraverse a (a.idAt c) limit = .done a es.reverse := by
  obtain ⟨l, hl⟩ := r.edges_exists c hc
  exact ⟨l, hl, fun limit hlim =>
    ⟨r.reverseTraverse_eq hl hc limit hlim, r.reverseTraverse_eq_reverse hl hc limit hlim⟩⟩

/-- Indextree's `predecessors` (`Iter` along `previous_sibling.or(parent)`; xot does not call
    it) from a live node of a well-formed arena is its list-level definition `Arena.PredChain g p` (Lemmas/ArenaPred.lean):
    the node, the siblings before it nearest first (`L.reverse` where `kids (parent) = L ++ p :: R`), then the same for
    its parent, … up to the parentless node at the top, which has no siblings.  The chain exists, has no repetition and
    at most `count` members, so `count` suffices as limit (no panic, nothing cut off); its members are exactly the
    siblings-before-or-self of the ancestors-or-self, all live. -/
theorem C07_arena_predecessors (a : Arena) (g : Arena.Shape) (r : Arena.Rep a g) (p : Nat) (hp : Arena.Live a p)
    (limit : Nat) (hlim : a.count ≤ limit) :
    ∃ l, Arena.PredChain g p l ∧ Arena.predecessors a (a.idAt p) limit = .done a (l.map a.idAt) ∧
      l.Nodup ∧ l.length ≤ a.count ∧
      (∀ z ∈ l, Arena.LiveId a (a.idAt z) ∧ ∃ y, Arena.Reach g.par p y ∧ g.par z = g.par y) := by
  obtain ⟨l, hl, hlen⟩ := r.predChain p hp
  exact ⟨l, hl, r.predecessors_chain p l hl hp limit (Nat.le_trans hlen hlim), r.predChain_nodup hl hp, hlen,
    fun z hz => ⟨Arena.LiveId.idAt (r.predChain_mem hl z hz hp).1, (r.predChain_mem hl z hz hp).2⟩⟩

/-- The two cases of the list-level definition, as equations of the walk: a parentless node yields itself; a node
    with parent `q`, `kids q = L ++ p :: R`, yields itself, `L` reversed, then what `q` yields. -/
theorem C07_arena_predecessors_step (a : Arena) (g : Arena.Shape) (r : Arena.Rep a g) (p : Nat) (hp : Arena.Live a p)
    (limit : Nat) (hlim : a.count ≤ limit) :
    (g.par p = none → Arena.predecessors a (a.idAt p) limit = .done a [a.idAt p]) ∧
    (∀ q L R, g.par p = some q → g.kids q = L ++ p :: R →
      ∃ lq, Arena.predecessors a (a.idAt q) limit = .done a (lq.map a.idAt) ∧
        Arena.predecessors a (a.idAt p) limit = .done a ((p :: L.reverse ++ lq).map a.idAt)) := by
  constructor
  · intro hq
    have hl : Arena.PredChain g p [p] := .root hq
    exact r.predecessors_chain p [p] hl hp limit (Nat.le_trans (r.predChain_length hl hp) hlim)
  · intro q L R hq hk
    have hql := (r.live_of_par hq).2
    obtain ⟨lq, hlq, hlen⟩ := r.predChain q hql
    have hl : Arena.PredChain g p (p :: L.reverse ++ lq) := .step hq hk hlq
    exact ⟨lq, r.predecessors_chain q lq hlq hql limit (Nat.le_trans hlen hlim),
      r.predecessors_chain p _ hl hp limit (Nat.le_trans (r.predChain_length hl hp) hlim)⟩

/-- Non-vacuity: in `sampleB` (`1:0 [2:0 [4:0], 3:0]`) `predecessors(3:0)` = `3:0`, its sibling `2:0`, the root;
    `predecessors(4:0)` climbs two levels; in `sampleC` (`1:0 [4:0, 3:0]`) likewise; a limit below the length cuts
    the list off (`Take`). -/
example : Arena.predecessors Arena.sampleB ⟨3, 0⟩ 4 = .done Arena.sampleB [⟨3, 0⟩, ⟨2, 0⟩, ⟨1, 0⟩] ∧
    Arena.predecessors Arena.sampleB ⟨4, 0⟩ 4 = .done Arena.sampleB [⟨4, 0⟩, ⟨2, 0⟩, ⟨1, 0⟩] ∧
    Arena.predecessors Arena.sampleC ⟨3, 0⟩ 4 = .done Arena.sampleC [⟨3, 0⟩, ⟨4, 0⟩, ⟨1, 0⟩] ∧
    Arena.predecessors Arena.sampleB ⟨1, 0⟩ 4 = .done Arena.sampleB [⟨1, 0⟩] ∧
    Arena.predecessors Arena.sampleB ⟨3, 0⟩ 2 = .done Arena.sampleB [⟨3, 0⟩, ⟨2, 0⟩] := by
  decide +kernel
example : Arena.Wf Arena.sampleB ∧ Arena.Live Arena.sampleB 2 ∧ Arena.sampleB.count ≤ 4 :=
  ⟨(Arena.Steps.wf Arena.sampleB_steps Arena.Wf.empty).1, ⟨_, rfl, by decide +kernel⟩, by decide +kernel⟩

/-- Non-vacuity on closed arenas (`sampleC`: `1:0 [4:0, 3:0]`, slot 2 reused as `2:1`): the
    iterators, and the defect of `Children::next_back` in 4.7.2 (`children().rev()` keeps yielding
    the last child — cut off by the limit here; xot does not call it). -/
example : Arena.children Arena.sampleC ⟨1, 0⟩ 4 = .done Arena.sampleC [⟨4, 0⟩, ⟨3, 0⟩] ∧
    Arena.reverseChildren Arena.sampleC ⟨1, 0⟩ 4 = .done Arena.sampleC [⟨3, 0⟩, ⟨4, 0⟩] ∧
    Arena.ancestors Arena.sampleB ⟨4, 0⟩ 4 = .done Arena.sampleB [⟨4, 0⟩, ⟨2, 0⟩, ⟨1, 0⟩] ∧
    Arena.followingSiblings Arena.sampleC ⟨4, 0⟩ 4 = .done Arena.sampleC [⟨4, 0⟩, ⟨3, 0⟩] ∧
    Arena.precedingSiblings Arena.sampleC ⟨3, 0⟩ 4 = .done Arena.sampleC [⟨3, 0⟩, ⟨4, 0⟩] ∧
    Arena.descendants Arena.sampleB ⟨1, 0⟩ 9 = .done Arena.sampleB [⟨1, 0⟩, ⟨2, 0⟩, ⟨4, 0⟩, ⟨3, 0⟩] ∧
    Arena.traverse Arena.sampleB ⟨2, 0⟩ 9 =
      .done Arena.sampleB [.start ⟨2, 0⟩, .start ⟨4, 0⟩, .end ⟨4, 0⟩, .end ⟨2, 0⟩] ∧
    Arena.childrenRev Arena.sampleC ⟨1, 0⟩ 5 = .done Arena.sampleC [⟨3, 0⟩, ⟨3, 0⟩, ⟨3, 0⟩, ⟨3, 0⟩, ⟨3, 0⟩] := by
  decide +kernel

/-- Non-vacuity of `C07_arena_reverse_traverse`: `sampleB` (`1:0 [2:0 [4:0], 3:0]`) is a
    well-formed arena with live slots 0 and 1; `reverse_traverse` from `1:0` and from the inner node
    `2:0` (the walk must stop at `Start(2:0)`, not run on to `Start(1:0)`) gives the reversed edge
    lists; with a limit below the number of edges the list is cut off (`Take`). -/
example : Arena.Wf Arena.sampleB ∧ Arena.Live Arena.sampleB 0 ∧ Arena.Live Arena.sampleB 1 :=
  ⟨(Arena.Steps.wf Arena.sampleB_steps Arena.Wf.empty).1, ⟨_, rfl, by decide +kernel⟩, ⟨_, rfl, by decide +kernel⟩⟩
example : Arena.reverseTraverse Arena.sampleB ⟨1, 0⟩ 9 =
      .done Arena.sampleB [.end ⟨1, 0⟩, .end ⟨3, 0⟩, .start ⟨3, 0⟩, .end ⟨2, 0⟩, .end ⟨4, 0⟩, .start ⟨4, 0⟩,
        .start ⟨2, 0⟩, .start ⟨1, 0⟩] ∧
    Arena.traverse Arena.sampleB ⟨1, 0⟩ 9 =
      .done Arena.sampleB [.start ⟨1, 0⟩, .start ⟨2, 0⟩, .start ⟨4, 0⟩, .end ⟨4, 0⟩, .end ⟨2, 0⟩, .start ⟨3, 0⟩,
        .end ⟨3, 0⟩, .end ⟨1, 0⟩] ∧
    Arena.reverseTraverse Arena.sampleB ⟨2, 0⟩ 9 =
      .done Arena.sampleB [.end ⟨2, 0⟩, .end ⟨4, 0⟩, .start ⟨4, 0⟩, .start ⟨2, 0⟩] ∧
    Arena.reverseTraverse Arena.sampleC ⟨1, 0⟩ 9 =
      .done Arena.sampleC [.end ⟨1, 0⟩, .end ⟨3, 0⟩, .start ⟨3, 0⟩, .end ⟨4, 0⟩, .start ⟨4, 0⟩, .start ⟨1, 0⟩] ∧
    Arena.reverseTraverse Arena.sampleB ⟨2, 0⟩ 3 =
      .done Arena.sampleB [.end ⟨2, 0⟩, .end ⟨4, 0⟩, .start ⟨4, 0⟩] := by
  decide +kernel

end XotModel.Props

/-! ## Child-list accessors; the remaining restatements for reachable trees; full histories

  (1) The accessors that hand out the nodes of ONE raw child list — `all_children`, `abnormal_children`
  (access.rs, `pub(crate)`), `namespaces(node).nodes()`, `attributes(node).nodes()` (nodemap/),
  `attribute_nodes`, `children` — as the `take_while` / `skip_while` code the crate has
  (Model/AxesChildLists.lean, Model/Axes.lean; suite `axes` asks for all of them at every node).
  (2) The theorems of this file that take `wf` / `kidsSorted` and are not restated in the section "Reachable trees"
  at the end of the file.
  (3) Every `C07_reachable_*` theorem once more over FULL histories (`PCall`, Model/FparseHist.lean: `parse` /
  `parse_fragment` of ARBITRARY texts — accepted or rejected — interleaved with the extended API calls of
  `Forest.XCall`), suffix `_full`: the trees that enter the store through the parser are covered, whatever is
  done to them afterwards.  All of it rests on one forest-level fact, `C07_inv_wf`: the erasure of every
  parentless tree of a forest with `Forest.Inv` satisfies both structural hypotheses. -/

namespace XotModel.Props
open XotModel XotModel.Axes

/-- Both structural hypotheses of this file hold of every parentless tree of every forest with the
    invariant of C04 (`Forest.Inv`): `wf`, and `kidsSorted` at EVERY node. -/
theorem C07_inv_wf (f : Forest) (hi : f.Inv) :
    ∀ r ∈ f.roots, wf r.erase = true ∧ ∀ p : Path, kidsSorted (subAt r.erase p).kids :=
  fun _ hr => ⟨Reach.wf_root hi hr, Reach.kidsSorted_root hi hr⟩

/-! ## The child-list accessors -/

/-- On EVERY tree (ill-ordered ones included), at every node: `all_children` is the raw child list — the
    nodes whose parent is `p`, in document order, no node twice; it is `abnormal_children` followed by
    `children` (`take_while` / `skip_while` of one predicate); `attributes(node).nodes()` is
    `attribute_nodes(node)`; namespace nodes followed by attribute nodes are a PREFIX of it; and whatever
    `namespaces(node).nodes()` / `attribute_nodes` yield is a namespace / attribute child of `p`. -/
theorem C07_all_children {t : Tree} {p : Path} (h : Valid t p) :
    allChildrenPaths t p = rawChildPaths t p ∧
    allChildrenPaths t p = (allPre t).filter (fun q => parent q == some p) ∧
    (allChildrenPaths t p).Nodup ∧
    (allChildrenPaths t p).Pairwise (fun a b => docLt a b = true) ∧
    allChildrenPaths t p = abnormalChildrenPaths t p ++ children t p ∧
    attributesNodes t p = attributeNodes t p ∧
    namespaceNodes t p ++ attributeNodes t p <+: allChildrenPaths t p ∧
    (∀ q ∈ namespaceNodes t p, categoryAt t q = .namespace ∧ parent q = some p ∧ Valid t q) ∧
    (∀ q ∈ attributeNodes t p, categoryAt t q = .attribute ∧ parent q = some p ∧ Valid t q) := by
  refine ⟨allChildrenPaths_eq t p, allChildrenPaths_spec h, ?_, ?_, allChildrenPaths_split t p,
    attributesNodes_eq t p, nsAttr_prefix t p, fun _ hq => namespaceNodes_sound h hq,
    fun _ hq => attributeNodes_sound h hq⟩
  · rw [allChildrenPaths_eq]; exact rawChildPaths_nodup t p
  · rw [allChildrenPaths_eq]; exact rawChildPaths_sorted h

/-- **The partition of the raw child list** under the `StructValid` ordering of
    the children of `p` (namespaces, attributes, normal): `all_children` = namespace nodes ++ attribute
    nodes ++ children, in document order; the three lists are pairwise disjoint and without repetition
    (the concatenation has no duplicates), so every raw child — every normal child in particular — occurs
    in it exactly once; `abnormal_children` = namespace nodes ++ attribute nodes; and each of the three
    is the list of the raw children of its category. -/
theorem C07_all_children_partition {t : Tree} {p : Path} (h : Valid t p) (hs : kidsSorted (subAt t p).kids) :
    allChildrenPaths t p = namespaceNodes t p ++ attributeNodes t p ++ children t p ∧
    (namespaceNodes t p ++ attributeNodes t p ++ children t p).Nodup ∧
    (namespaceNodes t p ++ attributeNodes t p ++ children t p).Pairwise (fun a b => docLt a b = true) ∧
    (∀ q ∈ rawChildPaths t p, (namespaceNodes t p ++ attributeNodes t p ++ children t p).count q = 1) ∧
    abnormalChildrenPaths t p = namespaceNodes t p ++ attributeNodes t p ∧
    namespaceNodes t p = (rawChildPaths t p).filter (fun q => categoryAt t q == .namespace) ∧
    attributeNodes t p = (rawChildPaths t p).filter (fun q => categoryAt t q == .attribute) ∧
    children t p = (rawChildPaths t p).filter (isNormalAt t) := by
  have e := allChildrenPaths_partition hs
  have e' : namespaceNodes t p ++ attributeNodes t p ++ children t p = rawChildPaths t p := by
    rw [← e, allChildrenPaths_eq]
  refine ⟨e, ?_, ?_, ?_, abnormalChildrenPaths_eq hs, namespaceNodes_eq h hs, attributeNodes_eq h hs,
    children_eq_sorted h hs⟩
  · rw [e']; exact rawChildPaths_nodup t p
  · rw [e']; exact rawChildPaths_sorted h
  · intro q hq
    rw [e']
    have h1 := List.nodup_iff_count.mp (rawChildPaths_nodup t p) q
    have h2 := List.count_pos_iff.mpr hq
    omega

/-- Non-vacuity on `exTree` (`<a xmlns:p=".." x=".."><b><c/></b>text<d/></a>`): the lists at the element `[0]`;
    and an ILL-ordered node (a text before an attribute before a namespace node) where the partition fails
    but `C07_all_children` still holds: the adapters stop at the first child of another category. -/
example : allChildrenPaths exTree [0] = [[0, 0], [0, 1], [0, 2], [0, 3], [0, 4]] ∧
    namespaceNodes exTree [0] = [[0, 0]] ∧ attributesNodes exTree [0] = [[0, 1]] ∧
    abnormalChildrenPaths exTree [0] = [[0, 0], [0, 1]] ∧ children exTree [0] = [[0, 2], [0, 3], [0, 4]] := by decide +kernel
example : let t : Tree := .node (.element 2) [.node (.text ['x']) [], .node (.attribute 3 []) [], .node (.namespace 2 2) []]
    ¬ kidsSorted (subAt t []).kids ∧ namespaceNodes t [] = [] ∧ attributeNodes t [] = [] ∧
    abnormalChildrenPaths t [] = [] ∧ children t [] = [[0], [1], [2]] ∧ allChildrenPaths t [] = [[0], [1], [2]] := by decide +kernel

/-! ## The remaining restatements for reachable trees (extended API histories, `Forest.XCall`) -/

/-- **The child-list accessors, for every node of every reachable tree**:
    `all_children` = `namespaces(node).nodes()` ++ `attribute_nodes(node)` ++ `children(node)`, in document
    order, no node twice — the three lists are disjoint and every raw child occurs exactly once;
    `abnormal_children` is the first two; each list is the list of the raw children of its category. -/
theorem C07_reachable_child_lists (env : Env) (cs : List Forest.XCall) (hw : ∀ c ∈ cs, c.wellKinded) :
    ∀ r ∈ ((⟨Forest.init, env⟩ : Store).xrun cs).forest.roots, ∀ p : Path, Valid r.erase p →
      allChildrenPaths r.erase p = namespaceNodes r.erase p ++ attributeNodes r.erase p ++ children r.erase p ∧
      (namespaceNodes r.erase p ++ attributeNodes r.erase p ++ children r.erase p).Nodup ∧
      (namespaceNodes r.erase p ++ attributeNodes r.erase p ++ children r.erase p).Pairwise
        (fun a b => docLt a b = true) ∧
      (∀ q ∈ rawChildPaths r.erase p,
        (namespaceNodes r.erase p ++ attributeNodes r.erase p ++ children r.erase p).count q = 1) ∧
      abnormalChildrenPaths r.erase p = namespaceNodes r.erase p ++ attributeNodes r.erase p ∧
      attributesNodes r.erase p = attributeNodes r.erase p ∧
      namespaceNodes r.erase p = (rawChildPaths r.erase p).filter (fun q => categoryAt r.erase q == .namespace) ∧
      attributeNodes r.erase p = (rawChildPaths r.erase p).filter (fun q => categoryAt r.erase q == .attribute) ∧
      children r.erase p = (rawChildPaths r.erase p).filter (isNormalAt r.erase) := by
  intro r hr p hp
  obtain ⟨a1, a2, a3, a4, a5, a6, a7, a8⟩ :=
    C07_all_children_partition hp ((C07_inv_wf _ (Reach.inv_reachable env cs hw) r hr).2 p)
  exact ⟨a1, a2, a3, a4, a5, attributesNodes_eq _ _, a6, a7, a8⟩

/-- `axis(Descendant)` at an attribute / namespace node of a
    reachable tree: nothing. -/
theorem C07_reachable_axis_descendant_abnormal (env : Env) (cs : List Forest.XCall) (hw : ∀ c ∈ cs, c.wellKinded) :
    ∀ r ∈ ((⟨Forest.init, env⟩ : Store).xrun cs).forest.roots, ∀ p : Path, Valid r.erase p →
      isNormalAt r.erase p = false → axis r.erase .descendant p = [] :=
  fun r hr _ hp hn => C07_axis_descendant_abnormal (C07_inv_wf _ (Reach.inv_reachable env cs hw) r hr).1 hp hn

/-- `child_index(parent, child)` for every node `p` of every reachable
    tree and EVERY `child`: `Some(i)` iff `child` is the `i`-th of `children(p)`, `None` when `p` is
    not the parent of `child`. -/
theorem C07_reachable_child_index (env : Env) (cs : List Forest.XCall) (hw : ∀ c ∈ cs, c.wellKinded) :
    ∀ r ∈ ((⟨Forest.init, env⟩ : Store).xrun cs).forest.roots, ∀ p : Path, Valid r.erase p → ∀ child : Path,
      (∀ i, childIndex r.erase p child = some i ↔ (children r.erase p)[i]? = some child) ∧
      (parent child ≠ some p → childIndex r.erase p child = none) :=
  fun r hr _ hp _ => C07_child_index (C07_inv_wf _ (Reach.inv_reachable env cs hw) r hr).1 hp

/-- `document_element`, for every node of every reachable tree:
    `Ok(c)` means `p` is a document node and `c` its first element child — and then `c` satisfies
    `is_document_element` and `has_document_parent`; the two errors; it never panics. -/
theorem C07_reachable_document_element (env : Env) (cs : List Forest.XCall) (hw : ∀ c ∈ cs, c.wellKinded) :
    ∀ r ∈ ((⟨Forest.init, env⟩ : Store).xrun cs).forest.roots, ∀ p : Path, Valid r.erase p →
      (∀ c, documentElement r.erase p = .ok c →
        (valueAt r.erase p).isDocument = true ∧ c ∈ children r.erase p ∧ (valueAt r.erase c).isElement = true ∧
        (∀ c' ∈ children r.erase p, docLt c' c = true → (valueAt r.erase c').isElement = false) ∧
        isDocumentElement r.erase c = true ∧ hasDocumentParent r.erase c = true) ∧
      (documentElement r.erase p = .err .notDocument ↔ (valueAt r.erase p).isDocument = false) ∧
      (documentElement r.erase p = .err .noElementAtTopLevel ↔
        (valueAt r.erase p).isDocument = true ∧ ∀ c ∈ children r.erase p, (valueAt r.erase c).isElement = false) ∧
      documentElement r.erase p ≠ .panic := by
  intro r hr p hp
  have hwf := (C07_inv_wf _ (Reach.inv_reachable env cs hw) r hr).1
  obtain ⟨d1, d2, d3, d4⟩ := C07_document_element hwf hp
  refine ⟨fun c hc => ?_, d2, d3, d4⟩
  obtain ⟨e1, e2, e3, e4⟩ := d1 c hc
  exact ⟨e1, e2, e3, e4, C07_document_element_is hwf hp hc⟩

/-- `has_document_parent` / `is_document_element`, for every non-root
    node `p ++ [i]` of every reachable tree: the parent is a document node; resp. moreover the node is an
    element among the children of that document node — and when it is the ONLY element child, it is what
    `document_element(parent)` returns.  (At a root both are `false`: `C07_is_document_element`.) -/
theorem C07_reachable_is_document_element (env : Env) (cs : List Forest.XCall) (hw : ∀ c ∈ cs, c.wellKinded) :
    ∀ r ∈ ((⟨Forest.init, env⟩ : Store).xrun cs).forest.roots, ∀ (p : Path) (i : Nat), Valid r.erase (p ++ [i]) →
      hasDocumentParent r.erase (p ++ [i]) = (valueAt r.erase p).isDocument ∧
      (isDocumentElement r.erase (p ++ [i]) = true ↔
        (valueAt r.erase p).isDocument = true ∧ (p ++ [i]) ∈ children r.erase p ∧
        (valueAt r.erase (p ++ [i])).isElement = true) ∧
      (isDocumentElement r.erase (p ++ [i]) = true →
        (∀ c ∈ children r.erase p, (valueAt r.erase c).isElement = true → c = p ++ [i]) →
        documentElement r.erase p = .ok (p ++ [i])) := by
  intro r hr p i hp
  have hwf := (C07_inv_wf _ (Reach.inv_reachable env cs hw) r hr).1
  exact ⟨(C07_is_document_element hwf hp).1, (C07_is_document_element hwf hp).2.1,
    fun hde hu => C07_is_document_element_unique hwf hp hde hu⟩

/-- The root-walk clauses of `C07_edges_next` / `_previous`, for every reachable
    tree whose root is a normal node: from `Start(root)` the `NodeEdge::next` walk is exactly
    `traverse(root)`, from `End(root)` the `previous` walk exactly `reverse_traverse(root)`, however long one
    goes on stepping; and at every node `reverse_traverse` / `reverse_all_traverse` are `traverse` /
    `all_traverse` reversed. -/
theorem C07_reachable_edges_root (env : Env) (cs : List Forest.XCall) (hw : ∀ c ∈ cs, c.wellKinded) :
    ∀ r ∈ ((⟨Forest.init, env⟩ : Store).xrun cs).forest.roots,
      (isNormalAt r.erase [] = true → ∀ m : Nat,
        edgeWalk (Edge.next r.erase) ((traverse r.erase []).length + m) (.start []) = traverse r.erase [] ∧
        edgeWalk (Edge.previous r.erase) ((reverseTraverse r.erase []).length + m) (.stop []) =
          reverseTraverse r.erase []) ∧
      (∀ p : Path, reverseTraverse r.erase p = (traverse r.erase p).reverse ∧
        reverseAllTraverse r.erase p = (allTraverse r.erase p).reverse) := by
  intro r hr
  have hwf := (C07_inv_wf _ (Reach.inv_reachable env cs hw) r hr).1
  exact ⟨fun h0 m => ⟨edgeWalk_next_root hwf h0 m, edgeWalk_previous_root hwf h0 m⟩,
    fun p => ⟨reverseTraverse_eq r.erase p, rfl⟩⟩

/-- `level_order`, for every node of every reachable tree: the levels below the
    node with their `End` markers (the fuel is adequate, levels from the node count on are empty), and every
    level below the start node holds normal nodes of the tree only. -/
theorem C07_reachable_level (env : Env) (cs : List Forest.XCall) (hw : ∀ c ∈ cs, c.wellKinded) :
    ∀ r ∈ ((⟨Forest.init, env⟩ : Store).xrun cs).forest.roots, ∀ p : Path, Valid r.erase p →
      levelOrder r.erase p = withEnds p (bfsOrder r.erase p) ∧
      (∀ k, r.erase.size ≤ k → levelAt r.erase p k = []) ∧
      (∀ k, ∀ q ∈ levelAt r.erase p (k + 1), Valid r.erase q ∧ isNormalAt r.erase q = true) := by
  intro r hr p hp
  exact ⟨(C07_level hp).1, (C07_level hp).2, levelAt_normal_only (C07_inv_wf _ (Reach.inv_reachable env cs hw) r hr).1 hp⟩

/-! ## FULL histories (`PCall`): parses of arbitrary texts interleaved with extended API calls

  `(PStore.init env).run cs`: the store `Xot::new()` with the vocabulary `env`, after the steps `cs`, each an
  extended API call (`.api c`) or `Xot::parse` / `parse_fragment` of ANY text (`.parse m text`; a rejected text
  leaves the forest alone).  `C04_reach_full` (Props/C04; here `PStore.fph_run_inv`): the forest has `Forest.Inv`.
  First the theorems of the last section of this file (`C07_reachable_wf` … `C07_reachable_edges`) over these
  histories, then the restatements above. -/

/-- Both structural hypotheses of this file hold of every parentless tree of every
    reachable forest: `wf`, and `kidsSorted` at EVERY node. -/
theorem C07_reachable_wf_full (env : Env) (cs : List PCall) (hw : ∀ c ∈ cs, c.wellKinded) :
    ∀ r ∈ ((PStore.init env).run cs).forest.roots,
      wf r.erase = true ∧ ∀ p : Path, kidsSorted (subAt r.erase p).kids :=
  fun _ hr => ⟨Reach.wf_root (PStore.fph_run_inv cs (PStore.fph_init_inv env) hw) hr,
    Reach.kidsSorted_root (PStore.fph_run_inv cs (PStore.fph_init_inv env) hw) hr⟩

/-- Every live handle of a reachable forest is a node of one of its trees: it has a path `q` there, the
    path is `Valid` in the erased tree and leads back to the handle.  (So "for all roots `r`, for all
    `Valid` paths" below ranges over every live node of the store — and over nothing else:
    `C04_traversals_live`.) -/
theorem C07_reachable_nodes_full (env : Env) (cs : List PCall) (h : Nat)
    (hl : ((PStore.init env).run cs).forest.isLive h = true) :
    ∃ r ∈ ((PStore.init env).run cs).forest.roots, ∃ q : Path,
      HTree.pathOf h r = some q ∧ Valid r.erase q ∧ HTree.handleAt r q = some h := by
  obtain ⟨r, _, hr, q, hq⟩ := Forest.rootOf?_of_live hl
  obtain ⟨s, hs, rfl⟩ := HTree.ftrav_pathOf_at? _ r q hq
  exact ⟨r, hr, q, hq, (Reach.valid_erase_iff r q).mpr (by rw [hs]; rfl),
    by simp [HTree.ftrav_handleAt_eq, hs]⟩

/-- **The partition law, for every node of every reachable tree.**  For a
    normal node: ancestors, the node, descendants, preceding and following together are exactly the
    normal nodes of its tree, each once; for an attribute or namespace node the four axes alone. -/
theorem C07_reachable_partition_full (env : Env) (cs : List PCall) (hw : ∀ c ∈ cs, c.wellKinded) :
    ∀ r ∈ ((PStore.init env).run cs).forest.roots, ∀ p : Path, Valid r.erase p →
      (isNormalAt r.erase p = true →
        (axis r.erase .ancestor p ++ (p :: axis r.erase .descendant p) ++ axis r.erase .preceding p ++
          axis r.erase .following p).Perm (pre r.erase) ∧
        (axis r.erase .ancestor p ++ (p :: axis r.erase .descendant p) ++ axis r.erase .preceding p ++
          axis r.erase .following p).Nodup) ∧
      (isNormalAt r.erase p = false →
        (axis r.erase .ancestor p ++ axis r.erase .descendant p ++ axis r.erase .preceding p ++
          axis r.erase .following p).Perm (pre r.erase) ∧
        (axis r.erase .ancestor p ++ axis r.erase .descendant p ++ axis r.erase .preceding p ++
          axis r.erase .following p).Nodup) := by
  intro r hr p hp
  have hwf := (C07_reachable_wf_full env cs hw r hr).1
  exact ⟨fun hn => ⟨C07_partition hwf hp hn, C07_partition_disjoint hwf hp hn⟩,
    fun hn => C07_partition_abnormal hwf hp hn⟩

/-- **Document order, for every node of every reachable tree**: descendants and
    following are the normal nodes below / after the node in document order, ancestors and preceding
    the proper ancestors / the nodes before it that are not ancestors in REVERSE document order — as
    equations with the document-order specifications, and as sortedness. -/
theorem C07_reachable_order_full (env : Env) (cs : List PCall) (hw : ∀ c ∈ cs, c.wellKinded) :
    ∀ r ∈ ((PStore.init env).run cs).forest.roots, ∀ p : Path, Valid r.erase p →
      axis r.erase .descendantOrSelf p = (pre r.erase).filter (fun q => p.isPrefixOf q) ∧
      axis r.erase .following p = (pre r.erase).filter (fun q => docLt p q && !p.isPrefixOf q) ∧
      axis r.erase .preceding p = ((pre r.erase).filter (fun q => docLt q p && !q.isPrefixOf p)).reverse ∧
      axis r.erase .ancestor p = ((pre r.erase).filter (fun q => q.isPrefixOf p && q != p)).reverse ∧
      (axis r.erase .descendantOrSelf p).Pairwise (fun a b => docLt a b = true) ∧
      (axis r.erase .following p).Pairwise (fun a b => docLt a b = true) ∧
      (axis r.erase .ancestor p).Pairwise (fun a b => docLt b a = true) ∧
      (axis r.erase .preceding p).Pairwise (fun a b => docLt b a = true) := by
  intro r hr p hp
  have hwf := (C07_reachable_wf_full env cs hw r hr).1
  obtain ⟨o1, o2, o3, o4⟩ := C07_order hwf hp
  exact ⟨(C07_descendants hp).1, (C07_following hp).1, (C07_preceding hwf hp).1, (C07_axis_ancestor hwf hp).1,
    o1, o2, o3, o4⟩

/-- **The `all_*` variants and the attribute axis, for every node of every reachable
    tree**: the raw child list is namespace nodes ++ attribute nodes ++ children; `all_descendants` is
    the node, then the subtrees of its namespace nodes, its attribute nodes, its children, in this
    order, `all_traverse` likewise between `Start` and `End`; `attribute_nodes` are exactly the
    attribute children in order; `next_sibling` / `previous_sibling` of ANY node (attribute and
    namespace nodes included) is the nearest following / preceding sibling of its category. -/
theorem C07_reachable_all_full (env : Env) (cs : List PCall) (hw : ∀ c ∈ cs, c.wellKinded) :
    ∀ r ∈ ((PStore.init env).run cs).forest.roots, ∀ p : Path, Valid r.erase p →
      (subAt r.erase p).kids =
        (subAt r.erase p).namespaceNodes ++ (subAt r.erase p).attributeNodes ++ (subAt r.erase p).normalKids ∧
      allDescendants r.erase p = p :: (allPreList 0
        ((subAt r.erase p).namespaceNodes ++ (subAt r.erase p).attributeNodes ++
          (subAt r.erase p).normalKids)).map (p ++ ·) ∧
      allTraverse r.erase p = .start p :: ((rawEdgesList 0
        ((subAt r.erase p).namespaceNodes ++ (subAt r.erase p).attributeNodes ++
          (subAt r.erase p).normalKids)).map (Edge.mapPath (p ++ ·)) ++ [.stop p]) ∧
      attributeNodes r.erase p = (rawChildPaths r.erase p).filter (fun q => categoryAt r.erase q == .attribute) ∧
      (∀ i : Nat, Valid r.erase (p ++ [i]) →
        nextSibling r.erase (p ++ [i]) = (axis r.erase .followingSibling (p ++ [i])).head? ∧
        previousSibling r.erase (p ++ [i]) = (axis r.erase .precedingSibling (p ++ [i])).head?) := by
  intro r hr p hp
  have hs := (C07_reachable_wf_full env cs hw r hr).2 p
  obtain ⟨a1, a2, a3⟩ := C07_all hs
  exact ⟨a1, a2, a3, (C07_attribute_axis hp).2.2 hs, fun i hi => C07_next_previous_sibling_any hi hs⟩

/-- **Children, for every node of every reachable tree**: `children` are the normal
    nodes whose parent is the node, in document order, `first_child` / `last_child` its ends,
    `reverse_children` its reverse, `child_index` the position in it; and every plain iterator from
    the node yields normal nodes of the tree only. -/
theorem C07_reachable_children_full (env : Env) (cs : List PCall) (hw : ∀ c ∈ cs, c.wellKinded) :
    ∀ r ∈ ((PStore.init env).run cs).forest.roots, ∀ p : Path, Valid r.erase p →
      children r.erase p = (pre r.erase).filter (fun q => parent q == some p) ∧
      firstChild r.erase p = (children r.erase p).head? ∧
      lastChild r.erase p = (children r.erase p).getLast? ∧
      reverseChildren r.erase p = (children r.erase p).reverse ∧
      (∀ child i, childIndex r.erase p child = some i ↔ (children r.erase p)[i]? = some child) ∧
      (∀ q ∈ preceding r.erase p, Valid r.erase q ∧ isNormalAt r.erase q = true) ∧
      (∀ q ∈ children r.erase p, Valid r.erase q ∧ isNormalAt r.erase q = true) ∧
      (∀ q ∈ axis r.erase .ancestor p, Valid r.erase q ∧ isNormalAt r.erase q = true) := by
  intro r hr p hp
  have hwf := (C07_reachable_wf_full env cs hw r hr).1
  obtain ⟨c1, _, c3, c4⟩ := C07_children hwf hp
  obtain ⟨_, _, n3, _, n5, n6, _⟩ := C07_plain_normal hwf hp
  exact ⟨c1, c3, c4, (C07_reverse_children hp).2 hwf, fun child i => (C07_child_index hwf hp).1 i, n3, n5, n6⟩

/-- **`NodeEdge::next` / `previous`, for every normal node of every reachable tree**:
    the walks enumerate `traverse` / `reverse_traverse` and continue with the successor of `End` /
    the predecessor of `Start`. -/
theorem C07_reachable_edges_full (env : Env) (cs : List PCall) (hw : ∀ c ∈ cs, c.wellKinded) :
    ∀ r ∈ ((PStore.init env).run cs).forest.roots, ∀ p : Path, Valid r.erase p →
      isNormalAt r.erase p = true → ∀ m : Nat,
      edgeWalk (Edge.next r.erase) ((traverse r.erase p).length + m) (.start p) =
        traverse r.erase p ++ contN r.erase m (Edge.next r.erase (.stop p)) ∧
      edgeWalk (Edge.previous r.erase) ((reverseTraverse r.erase p).length + m) (.stop p) =
        reverseTraverse r.erase p ++ contP r.erase m (Edge.previous r.erase (.start p)) := by
  intro r hr p hp hn m
  have hwf := (C07_reachable_wf_full env cs hw r hr).1
  exact ⟨(C07_edges_next hwf hp hn m).1, (C07_edges_previous hwf hp hn m).1⟩

/-- `C07_reachable_child_lists` over full histories (`PCall`). -/
theorem C07_reachable_child_lists_full (env : Env) (cs : List PCall) (hw : ∀ c ∈ cs, c.wellKinded) :
    ∀ r ∈ ((PStore.init env).run cs).forest.roots, ∀ p : Path, Valid r.erase p →
      allChildrenPaths r.erase p = namespaceNodes r.erase p ++ attributeNodes r.erase p ++ children r.erase p ∧
      (namespaceNodes r.erase p ++ attributeNodes r.erase p ++ children r.erase p).Nodup ∧
      (namespaceNodes r.erase p ++ attributeNodes r.erase p ++ children r.erase p).Pairwise
        (fun a b => docLt a b = true) ∧
      (∀ q ∈ rawChildPaths r.erase p,
        (namespaceNodes r.erase p ++ attributeNodes r.erase p ++ children r.erase p).count q = 1) ∧
      abnormalChildrenPaths r.erase p = namespaceNodes r.erase p ++ attributeNodes r.erase p ∧
      attributesNodes r.erase p = attributeNodes r.erase p ∧
      namespaceNodes r.erase p = (rawChildPaths r.erase p).filter (fun q => categoryAt r.erase q == .namespace) ∧
      attributeNodes r.erase p = (rawChildPaths r.erase p).filter (fun q => categoryAt r.erase q == .attribute) ∧
      children r.erase p = (rawChildPaths r.erase p).filter (isNormalAt r.erase) := by
  intro r hr p hp
  obtain ⟨a1, a2, a3, a4, a5, a6, a7, a8⟩ :=
    C07_all_children_partition hp ((C07_inv_wf _ (PStore.fph_run_inv cs (PStore.fph_init_inv env) hw) r hr).2 p)
  exact ⟨a1, a2, a3, a4, a5, attributesNodes_eq _ _, a6, a7, a8⟩

/-- `C07_reachable_axis_descendant_abnormal` over full histories (`PCall`). -/
theorem C07_reachable_axis_descendant_abnormal_full (env : Env) (cs : List PCall) (hw : ∀ c ∈ cs, c.wellKinded) :
    ∀ r ∈ ((PStore.init env).run cs).forest.roots, ∀ p : Path, Valid r.erase p →
      isNormalAt r.erase p = false → axis r.erase .descendant p = [] :=
  fun r hr _ hp hn => C07_axis_descendant_abnormal (C07_inv_wf _ (PStore.fph_run_inv cs (PStore.fph_init_inv env) hw) r hr).1 hp hn

/-- `C07_reachable_child_index` over full histories (`PCall`). -/
theorem C07_reachable_child_index_full (env : Env) (cs : List PCall) (hw : ∀ c ∈ cs, c.wellKinded) :
    ∀ r ∈ ((PStore.init env).run cs).forest.roots, ∀ p : Path, Valid r.erase p → ∀ child : Path,
      (∀ i, childIndex r.erase p child = some i ↔ (children r.erase p)[i]? = some child) ∧
      (parent child ≠ some p → childIndex r.erase p child = none) :=
  fun r hr _ hp _ => C07_child_index (C07_inv_wf _ (PStore.fph_run_inv cs (PStore.fph_init_inv env) hw) r hr).1 hp

/-- `C07_reachable_document_element` over full histories (`PCall`). -/
theorem C07_reachable_document_element_full (env : Env) (cs : List PCall) (hw : ∀ c ∈ cs, c.wellKinded) :
    ∀ r ∈ ((PStore.init env).run cs).forest.roots, ∀ p : Path, Valid r.erase p →
      (∀ c, documentElement r.erase p = .ok c →
        (valueAt r.erase p).isDocument = true ∧ c ∈ children r.erase p ∧ (valueAt r.erase c).isElement = true ∧
        (∀ c' ∈ children r.erase p, docLt c' c = true → (valueAt r.erase c').isElement = false) ∧
        isDocumentElement r.erase c = true ∧ hasDocumentParent r.erase c = true) ∧
      (documentElement r.erase p = .err .notDocument ↔ (valueAt r.erase p).isDocument = false) ∧
      (documentElement r.erase p = .err .noElementAtTopLevel ↔
        (valueAt r.erase p).isDocument = true ∧ ∀ c ∈ children r.erase p, (valueAt r.erase c).isElement = false) ∧
      documentElement r.erase p ≠ .panic := by
  intro r hr p hp
  have hwf := (C07_inv_wf _ (PStore.fph_run_inv cs (PStore.fph_init_inv env) hw) r hr).1
  obtain ⟨d1, d2, d3, d4⟩ := C07_document_element hwf hp
  refine ⟨fun c hc => ?_, d2, d3, d4⟩
  obtain ⟨e1, e2, e3, e4⟩ := d1 c hc
  exact ⟨e1, e2, e3, e4, C07_document_element_is hwf hp hc⟩

/-- `C07_reachable_is_document_element` over full histories (`PCall`). -/
theorem C07_reachable_is_document_element_full (env : Env) (cs : List PCall) (hw : ∀ c ∈ cs, c.wellKinded) :
    ∀ r ∈ ((PStore.init env).run cs).forest.roots, ∀ (p : Path) (i : Nat), Valid r.erase (p ++ [i]) →
      hasDocumentParent r.erase (p ++ [i]) = (valueAt r.erase p).isDocument ∧
      (isDocumentElement r.erase (p ++ [i]) = true ↔
        (valueAt r.erase p).isDocument = true ∧ (p ++ [i]) ∈ children r.erase p ∧
        (valueAt r.erase (p ++ [i])).isElement = true) ∧
      (isDocumentElement r.erase (p ++ [i]) = true →
        (∀ c ∈ children r.erase p, (valueAt r.erase c).isElement = true → c = p ++ [i]) →
        documentElement r.erase p = .ok (p ++ [i])) := by
  intro r hr p i hp
  have hwf := (C07_inv_wf _ (PStore.fph_run_inv cs (PStore.fph_init_inv env) hw) r hr).1
  exact ⟨(C07_is_document_element hwf hp).1, (C07_is_document_element hwf hp).2.1,
    fun hde hu => C07_is_document_element_unique hwf hp hde hu⟩

/-- `C07_reachable_edges_root` over full histories (`PCall`). -/
theorem C07_reachable_edges_root_full (env : Env) (cs : List PCall) (hw : ∀ c ∈ cs, c.wellKinded) :
    ∀ r ∈ ((PStore.init env).run cs).forest.roots,
      (isNormalAt r.erase [] = true → ∀ m : Nat,
        edgeWalk (Edge.next r.erase) ((traverse r.erase []).length + m) (.start []) = traverse r.erase [] ∧
        edgeWalk (Edge.previous r.erase) ((reverseTraverse r.erase []).length + m) (.stop []) =
          reverseTraverse r.erase []) ∧
      (∀ p : Path, reverseTraverse r.erase p = (traverse r.erase p).reverse ∧
        reverseAllTraverse r.erase p = (allTraverse r.erase p).reverse) := by
  intro r hr
  have hwf := (C07_inv_wf _ (PStore.fph_run_inv cs (PStore.fph_init_inv env) hw) r hr).1
  exact ⟨fun h0 m => ⟨edgeWalk_next_root hwf h0 m, edgeWalk_previous_root hwf h0 m⟩,
    fun p => ⟨reverseTraverse_eq r.erase p, rfl⟩⟩

/-- `C07_reachable_level` over full histories (`PCall`). -/
theorem C07_reachable_level_full (env : Env) (cs : List PCall) (hw : ∀ c ∈ cs, c.wellKinded) :
    ∀ r ∈ ((PStore.init env).run cs).forest.roots, ∀ p : Path, Valid r.erase p →
      levelOrder r.erase p = withEnds p (bfsOrder r.erase p) ∧
      (∀ k, r.erase.size ≤ k → levelAt r.erase p k = []) ∧
      (∀ k, ∀ q ∈ levelAt r.erase p (k + 1), Valid r.erase q ∧ isNormalAt r.erase q = true) := by
  intro r hr p hp
  exact ⟨(C07_level hp).1, (C07_level hp).2, levelAt_normal_only (C07_inv_wf _ (PStore.fph_run_inv cs (PStore.fph_init_inv env) hw) r hr).1 hp⟩

/-! ### Non-vacuity of the `_full` theorems: parse a text, then edit

  `Xot::new()`; `parse("<r xmlns:p=\"urn:a\" a=\"1\" b=\"2\"><p:a>t</p:a><!--c--></r>")`; `new_element`; `append` it to
  `r`.  One tree: the document 0 with `r` = 1 holding the namespace node 2, the attribute nodes 3 and 4, `p:a` = 5
  (text 6), the comment 7 and the appended element 8. -/

def c07FullEnv : Env :=
  { namespaces := [[], xmlNamespaceUri], prefixes := [[], ['x', 'm', 'l']],
    names := [(['s', 'p', 'a', 'c', 'e'], 1), (['i', 'd'], 1)] }
def c07FullCalls : List PCall :=
  [.parse .document "<r xmlns:p=\"urn:a\" a=\"1\" b=\"2\"><p:a>t</p:a><!--c--></r>".toList,
   .api (.newNode (.element 3)), .api (.call (.append 1 8))]
def c07FullRoot : HTree :=
  .node 0 .document [.node 1 (.element 2) [.node 2 (.namespace 2 2) [], .node 3 (.attribute 3 ['1']) [],
    .node 4 (.attribute 4 ['2']) [], .node 5 (.element 5) [.node 6 (.text ['t']) []], .node 7 (.comment ['c']) [],
    .node 8 (.element 3) []]]
theorem c07FullCalls_wellKinded : ∀ c ∈ c07FullCalls, c.wellKinded := by decide +kernel
theorem c07FullRoot_mem : c07FullRoot ∈ ((PStore.init c07FullEnv).run c07FullCalls).forest.roots := by
  have : ((PStore.init c07FullEnv).run c07FullCalls).forest.roots = [c07FullRoot] := by
    unfold c07FullCalls
    rw [String.toList_ofList]
    decide +kernel
  rw [this]; exact List.mem_singleton.mpr rfl

example : wf c07FullRoot.erase = true ∧ kidsSorted (subAt c07FullRoot.erase [0]).kids :=
  ⟨(C07_reachable_wf_full _ _ c07FullCalls_wellKinded _ c07FullRoot_mem).1,
   (C07_reachable_wf_full _ _ c07FullCalls_wellKinded _ c07FullRoot_mem).2 [0]⟩
example : Valid c07FullRoot.erase [0] ∧ Valid c07FullRoot.erase [0, 3] ∧ isNormalAt c07FullRoot.erase [0, 3] = true ∧
    Valid c07FullRoot.erase [0, 1] ∧ isNormalAt c07FullRoot.erase [0, 1] = false ∧ isNormalAt c07FullRoot.erase [] = true := by
  decide +kernel
example : allChildrenPaths c07FullRoot.erase [0] =
    namespaceNodes c07FullRoot.erase [0] ++ attributeNodes c07FullRoot.erase [0] ++ children c07FullRoot.erase [0] :=
  (C07_reachable_child_lists_full _ _ c07FullCalls_wellKinded _ c07FullRoot_mem [0] (by decide +kernel)).1
example : namespaceNodes c07FullRoot.erase [0] = [[0, 0]] ∧ attributesNodes c07FullRoot.erase [0] = [[0, 1], [0, 2]] ∧
    children c07FullRoot.erase [0] = [[0, 3], [0, 4], [0, 5]] ∧ abnormalChildrenPaths c07FullRoot.erase [0] = [[0, 0], [0, 1], [0, 2]] ∧
    axis c07FullRoot.erase .descendant [0, 1] = [] ∧ axis c07FullRoot.erase .following [0, 1] = [[0, 3], [0, 3, 0], [0, 4], [0, 5]] ∧
    documentElement c07FullRoot.erase [] = .ok [0] ∧ isDocumentElement c07FullRoot.erase [0] = true ∧
    childIndex c07FullRoot.erase [0] [0, 4] = some 1 ∧ childIndex c07FullRoot.erase [0] [0, 1] = none ∧
    levelOrder c07FullRoot.erase [0] = [.node [0], .stop, .node [0, 3], .node [0, 4], .node [0, 5], .stop, .node [0, 3, 0], .stop] := by
  decide +kernel
example : (axis c07FullRoot.erase .ancestor [0, 3] ++ ([0, 3] :: axis c07FullRoot.erase .descendant [0, 3]) ++
    axis c07FullRoot.erase .preceding [0, 3] ++ axis c07FullRoot.erase .following [0, 3]).Perm (pre c07FullRoot.erase) :=
  ((C07_reachable_partition_full _ _ c07FullCalls_wellKinded _ c07FullRoot_mem [0, 3] (by decide +kernel)).1 (by decide +kernel)).1
/-- The restatements over `Forest.XCall` histories at the 16-step history of Props/C04 (`Reach.exCalls`, its tree
    `<e xmlns:p=".." xmlns:n0=".."><e xmlns:n0="..">x</e></e>`). -/
example : allChildrenPaths Reach.exRoot.erase [] =
    namespaceNodes Reach.exRoot.erase [] ++ attributeNodes Reach.exRoot.erase [] ++ children Reach.exRoot.erase [] :=
  (C07_reachable_child_lists _ _ Reach.exCalls_wellKinded _ Reach.exRoot_mem [] (by decide +kernel)).1
example : namespaceNodes Reach.exRoot.erase [] = [[0], [1]] ∧ children Reach.exRoot.erase [] = [[2]] ∧
    axis Reach.exRoot.erase .descendant [1] = [] ∧ isNormalAt Reach.exRoot.erase [] = true := by decide +kernel

end XotModel.Props

/-! ## Reachable trees: the structural hypotheses `wf` / `kidsSorted` are theorems

  The theorems above that assume `wf t` (non-normal nodes are leaves, no normal child before a
  non-normal one) or `kidsSorted` (namespaces, attributes, normal nodes) say nothing about ill-ordered
  trees.  The public API cannot build such a tree: every forest reachable from the empty store by an
  extended history (`Store.xrun` over `Forest.XCall`, Model/FhistSpec.lean: the whole mutating API on
  nodes, node creation, set_text_consolidation, remove_insignificant_whitespace,
  create_missing_prefixes, deduplicate_namespaces, clone_with_prefixes; arbitrary arguments, every
  outcome) has the invariant `Forest.Inv` (`C04_reach_ext` = `Reach.inv_reachable`), and the erasure of
  every parentless tree of such a forest satisfies both hypotheses at every node (Lemmas/ReachNode.lean,
  ReachAxes.lean).  The headline theorems restated for reachable trees, with NO structural hypothesis:
  the only side condition left is `XCall.wellKinded` (a map insertion given as DATA carries an entry of
  the map's kind; the Rust API builds the entry itself), and `Valid r.erase p` — `p` names a node. -/

namespace XotModel.Props
open XotModel XotModel.Axes

/-- `C07_reachable_wf_full` for the histories of extended calls (`Forest.XCall`, no parse step). -/
theorem C07_reachable_wf (env : Env) (cs : List Forest.XCall) (hw : ∀ c ∈ cs, c.wellKinded) :
    ∀ r ∈ ((⟨Forest.init, env⟩ : Store).xrun cs).forest.roots,
      wf r.erase = true ∧ ∀ p : Path, kidsSorted (subAt r.erase p).kids :=
  fun _ hr => ⟨Reach.wf_root (Reach.inv_reachable env cs hw) hr,
    Reach.kidsSorted_root (Reach.inv_reachable env cs hw) hr⟩

/-- `C07_reachable_nodes_full` for the histories of extended calls (`Forest.XCall`, no parse step). -/
theorem C07_reachable_nodes (env : Env) (cs : List Forest.XCall) (h : Nat)
    (hl : ((⟨Forest.init, env⟩ : Store).xrun cs).forest.isLive h = true) :
    ∃ r ∈ ((⟨Forest.init, env⟩ : Store).xrun cs).forest.roots, ∃ q : Path,
      HTree.pathOf h r = some q ∧ Valid r.erase q ∧ HTree.handleAt r q = some h := by
  obtain ⟨r, _, hr, q, hq⟩ := Forest.rootOf?_of_live hl
  obtain ⟨s, hs, rfl⟩ := HTree.ftrav_pathOf_at? _ r q hq
  exact ⟨r, hr, q, hq, (Reach.valid_erase_iff r q).mpr (by rw [hs]; rfl),
    by simp [HTree.ftrav_handleAt_eq, hs]⟩

/-- `C07_reachable_partition_full` for the histories of extended calls (`Forest.XCall`, no parse step). -/
theorem C07_reachable_partition (env : Env) (cs : List Forest.XCall) (hw : ∀ c ∈ cs, c.wellKinded) :
    ∀ r ∈ ((⟨Forest.init, env⟩ : Store).xrun cs).forest.roots, ∀ p : Path, Valid r.erase p →
      (isNormalAt r.erase p = true →
        (axis r.erase .ancestor p ++ (p :: axis r.erase .descendant p) ++ axis r.erase .preceding p ++
          axis r.erase .following p).Perm (pre r.erase) ∧
        (axis r.erase .ancestor p ++ (p :: axis r.erase .descendant p) ++ axis r.erase .preceding p ++
          axis r.erase .following p).Nodup) ∧
      (isNormalAt r.erase p = false →
        (axis r.erase .ancestor p ++ axis r.erase .descendant p ++ axis r.erase .preceding p ++
          axis r.erase .following p).Perm (pre r.erase) ∧
        (axis r.erase .ancestor p ++ axis r.erase .descendant p ++ axis r.erase .preceding p ++
          axis r.erase .following p).Nodup) := by
  intro r hr p hp
  have hwf := (C07_reachable_wf env cs hw r hr).1
  exact ⟨fun hn => ⟨C07_partition hwf hp hn, C07_partition_disjoint hwf hp hn⟩,
    fun hn => C07_partition_abnormal hwf hp hn⟩

/-- `C07_reachable_order_full` for the histories of extended calls (`Forest.XCall`, no parse step). -/
theorem C07_reachable_order (env : Env) (cs : List Forest.XCall) (hw : ∀ c ∈ cs, c.wellKinded) :
    ∀ r ∈ ((⟨Forest.init, env⟩ : Store).xrun cs).forest.roots, ∀ p : Path, Valid r.erase p →
      axis r.erase .descendantOrSelf p = (pre r.erase).filter (fun q => p.isPrefixOf q) ∧
      axis r.erase .following p = (pre r.erase).filter (fun q => docLt p q && !p.isPrefixOf q) ∧
      axis r.erase .preceding p = ((pre r.erase).filter (fun q => docLt q p && !q.isPrefixOf p)).reverse ∧
      axis r.erase .ancestor p = ((pre r.erase).filter (fun q => q.isPrefixOf p && q != p)).reverse ∧
      (axis r.erase .descendantOrSelf p).Pairwise (fun a b => docLt a b = true) ∧
      (axis r.erase .following p).Pairwise (fun a b => docLt a b = true) ∧
      (axis r.erase .ancestor p).Pairwise (fun a b => docLt b a = true) ∧
      (axis r.erase .preceding p).Pairwise (fun a b => docLt b a = true) := by
  intro r hr p hp
  have hwf := (C07_reachable_wf env cs hw r hr).1
  obtain ⟨o1, o2, o3, o4⟩ := C07_order hwf hp
  exact ⟨(C07_descendants hp).1, (C07_following hp).1, (C07_preceding hwf hp).1, (C07_axis_ancestor hwf hp).1,
    o1, o2, o3, o4⟩

/-- `C07_reachable_all_full` for the histories of extended calls (`Forest.XCall`, no parse step). -/
theorem C07_reachable_all (env : Env) (cs : List Forest.XCall) (hw : ∀ c ∈ cs, c.wellKinded) :
    ∀ r ∈ ((⟨Forest.init, env⟩ : Store).xrun cs).forest.roots, ∀ p : Path, Valid r.erase p →
      (subAt r.erase p).kids =
        (subAt r.erase p).namespaceNodes ++ (subAt r.erase p).attributeNodes ++ (subAt r.erase p).normalKids ∧
      allDescendants r.erase p = p :: (allPreList 0
        ((subAt r.erase p).namespaceNodes ++ (subAt r.erase p).attributeNodes ++
          (subAt r.erase p).normalKids)).map (p ++ ·) ∧
      allTraverse r.erase p = .start p :: ((rawEdgesList 0
        ((subAt r.erase p).namespaceNodes ++ (subAt r.erase p).attributeNodes ++
          (subAt r.erase p).normalKids)).map (Edge.mapPath (p ++ ·)) ++ [.stop p]) ∧
      attributeNodes r.erase p = (rawChildPaths r.erase p).filter (fun q => categoryAt r.erase q == .attribute) ∧
      (∀ i : Nat, Valid r.erase (p ++ [i]) →
        nextSibling r.erase (p ++ [i]) = (axis r.erase .followingSibling (p ++ [i])).head? ∧
        previousSibling r.erase (p ++ [i]) = (axis r.erase .precedingSibling (p ++ [i])).head?) := by
  intro r hr p hp
  have hs := (C07_reachable_wf env cs hw r hr).2 p
  obtain ⟨a1, a2, a3⟩ := C07_all hs
  exact ⟨a1, a2, a3, (C07_attribute_axis hp).2.2 hs, fun i hi => C07_next_previous_sibling_any hi hs⟩

/-- `C07_reachable_children_full` for the histories of extended calls (`Forest.XCall`, no parse step). -/
theorem C07_reachable_children (env : Env) (cs : List Forest.XCall) (hw : ∀ c ∈ cs, c.wellKinded) :
    ∀ r ∈ ((⟨Forest.init, env⟩ : Store).xrun cs).forest.roots, ∀ p : Path, Valid r.erase p →
      children r.erase p = (pre r.erase).filter (fun q => parent q == some p) ∧
      firstChild r.erase p = (children r.erase p).head? ∧
      lastChild r.erase p = (children r.erase p).getLast? ∧
      reverseChildren r.erase p = (children r.erase p).reverse ∧
      (∀ child i, childIndex r.erase p child = some i ↔ (children r.erase p)[i]? = some child) ∧
      (∀ q ∈ preceding r.erase p, Valid r.erase q ∧ isNormalAt r.erase q = true) ∧
      (∀ q ∈ children r.erase p, Valid r.erase q ∧ isNormalAt r.erase q = true) ∧
      (∀ q ∈ axis r.erase .ancestor p, Valid r.erase q ∧ isNormalAt r.erase q = true) := by
  intro r hr p hp
  have hwf := (C07_reachable_wf env cs hw r hr).1
  obtain ⟨c1, _, c3, c4⟩ := C07_children hwf hp
  obtain ⟨_, _, n3, _, n5, n6, _⟩ := C07_plain_normal hwf hp
  exact ⟨c1, c3, c4, (C07_reverse_children hp).2 hwf, fun child i => (C07_child_index hwf hp).1 i, n3, n5, n6⟩

/-- `C07_reachable_edges_full` for the histories of extended calls (`Forest.XCall`, no parse step). -/
theorem C07_reachable_edges (env : Env) (cs : List Forest.XCall) (hw : ∀ c ∈ cs, c.wellKinded) :
    ∀ r ∈ ((⟨Forest.init, env⟩ : Store).xrun cs).forest.roots, ∀ p : Path, Valid r.erase p →
      isNormalAt r.erase p = true → ∀ m : Nat,
      edgeWalk (Edge.next r.erase) ((traverse r.erase p).length + m) (.start p) =
        traverse r.erase p ++ contN r.erase m (Edge.next r.erase (.stop p)) ∧
      edgeWalk (Edge.previous r.erase) ((reverseTraverse r.erase p).length + m) (.stop p) =
        reverseTraverse r.erase p ++ contP r.erase m (Edge.previous r.erase (.start p)) := by
  intro r hr p hp hn m
  have hwf := (C07_reachable_wf env cs hw r hr).1
  exact ⟨(C07_edges_next hwf hp hn m).1, (C07_edges_previous hwf hp hn m).1⟩

/-! ### Non-vacuity: the 16-step history of Props/C04 (`Reach.exCalls`)

  Final forest: one tree, `<e xmlns:p=".." xmlns:n0=".."><e xmlns:n0="..">x</e></e>` (`Reach.exRoot`).  The
  reachable-tree theorems instantiated at it: the hypotheses hold, the node `[2]` (the inner element)
  and the namespace node `[1]` are valid, and the conclusions evaluate to the expected lists. -/

example : ∀ c ∈ Reach.exCalls, c.wellKinded := Reach.exCalls_wellKinded
example : Reach.exRoot ∈ ((⟨Forest.init, Reach.exEnv⟩ : Store).xrun Reach.exCalls).forest.roots := Reach.exRoot_mem
example : Valid Reach.exRoot.erase [2] ∧ isNormalAt Reach.exRoot.erase [2] = true ∧
    Valid Reach.exRoot.erase [1] ∧ isNormalAt Reach.exRoot.erase [1] = false := by decide +kernel
example : wf Reach.exRoot.erase = true ∧ kidsSorted (subAt Reach.exRoot.erase []).kids :=
  ⟨(C07_reachable_wf _ _ Reach.exCalls_wellKinded _ Reach.exRoot_mem).1,
   (C07_reachable_wf _ _ Reach.exCalls_wellKinded _ Reach.exRoot_mem).2 []⟩
example : (axis Reach.exRoot.erase .ancestor [2] ++ ([2] :: axis Reach.exRoot.erase .descendant [2]) ++
    axis Reach.exRoot.erase .preceding [2] ++ axis Reach.exRoot.erase .following [2]).Perm (pre Reach.exRoot.erase) :=
  ((C07_reachable_partition _ _ Reach.exCalls_wellKinded _ Reach.exRoot_mem [2] (by decide +kernel)).1 (by decide +kernel)).1
example : pre Reach.exRoot.erase = [[], [2], [2, 1]] ∧ axis Reach.exRoot.erase .ancestor [2, 1] = [[2], []] ∧
    axis Reach.exRoot.erase .following [1] = [[2], [2, 1]] ∧
    allDescendants Reach.exRoot.erase [] = [[], [0], [1], [2], [2, 0], [2, 1]] ∧
    nextSibling Reach.exRoot.erase [0] = some [1] ∧ nextSibling Reach.exRoot.erase [1] = none := by decide +kernel
example : HTree.pathOf 8 Reach.exRoot = some [2, 1] ∧ HTree.handleAt Reach.exRoot [2, 1] = some 8 := by decide +kernel

/-- **The partition law from the invariant alone**: in ANY forest with `Forest.Inv` (however it was
    reached), for every node of every parentless tree, ancestors / self / descendants / preceding / following
    partition the normal nodes of its tree (for an attribute or namespace node: the four axes alone). -/
theorem C07_inv_partition (f : Forest) (hi : f.Inv) :
    ∀ r ∈ f.roots, ∀ p : Path, Valid r.erase p →
      (isNormalAt r.erase p = true →
        (axis r.erase .ancestor p ++ (p :: axis r.erase .descendant p) ++ axis r.erase .preceding p ++
          axis r.erase .following p).Perm (pre r.erase) ∧
        (axis r.erase .ancestor p ++ (p :: axis r.erase .descendant p) ++ axis r.erase .preceding p ++
          axis r.erase .following p).Nodup) ∧
      (isNormalAt r.erase p = false →
        (axis r.erase .ancestor p ++ axis r.erase .descendant p ++ axis r.erase .preceding p ++
          axis r.erase .following p).Perm (pre r.erase) ∧
        (axis r.erase .ancestor p ++ axis r.erase .descendant p ++ axis r.erase .preceding p ++
          axis r.erase .following p).Nodup) := by
  intro r hr p hp
  have hwf := Reach.wf_root hi hr
  exact ⟨fun hn => ⟨C07_partition hwf hp hn, C07_partition_disjoint hwf hp hn⟩,
    fun hn => C07_partition_abnormal hwf hp hn⟩

end XotModel.Props
