/-
  C14 — Serialisation options change the spelling, never the content.  Property theorems only.

  Character level: CDATA-section splitting and `unescaped_gt`, for every string.
  Tree level (Pretty): `C14_pretty_content*` — indentation only adds fields to the token stream, it
  never changes a token; `C14_pretty_where*` — the `Pretty` stack machine grants indentation / a
  newline only outside mixed / suppressed content and outside `xml:space="preserve"` scope, at
  every depth (full strength, as of /repo 98e9b00), on stacks and read off the tree.
  Doctype: `C14_doctype_*` — the doctype names the root element as its start tag spells it
  (as of /repo 5f64b4d).
  Round trip (`C14_options_*`, Lemmas/SerOpt*.lean, LexDecl.lean): with any CDATA-section elements,
  `unescaped_gt` on or off, with or without an XML declaration, `parse(serialize_xml_string(doc))` is the
  original tree (reference tokenizer + builder, as C01_roundtrip); with indentation it is `prettyTree sup doc`
  (Lemmas/SerIndent*.lean, LexLines.lean): the original plus whitespace-only text nodes, none inside mixed
  or suppressed content nor in `xml:space="preserve"` scope (`C14_options_indent`, `C14_indent_where`).
  Inner start node (`C14_indent_inner_serialisation`, `C14_indent_roundtrip_inner(_nodes)`, Lemmas/SerIndentInner.lean):
  an ELEMENT anywhere inside a tree, serialised with indentation, gives the text of its standalone document
  (Model/InnerStartSpec.lean, as C01_roundtrip_inner) serialised with indentation, and parses to `prettyTree sup` of it.
  Normalizer (`C14_normalizer_*`, Model/Normalizer.lean, Lemmas/Normalizer*.lean): for EVERY caller-supplied
  normalizer `N`, `serialize_xml_string_with_normalizer` = `serialize_xml_string` of the tree with `N` applied
  to its text and attribute values — the normalizer runs BEFORE the escaping — under exactly two side
  conditions (`N` fixes the namespace URIs that get written; with indentation, `N` does not touch the meaning
  of `xml:space` values), both necessary; hence the round trips above for the normalised tree.
  Failing writer (`C14_write_ok_is_complete`): the Write entry point in front of a writer that may refuse any
  `write_all` call answers `Ok` only when the writer holds the complete string serialisation — a truncated
  document is never reported as a success, so every round trip above holds of whatever a successful
  `serialize_xml_write` left in ANY writer.
-/
import XotModel.Lemmas.Entity
import XotModel.Lemmas.Output
import XotModel.Lemmas.PrettyStack
import XotModel.Lemmas.PrettyTrace
import XotModel.Lemmas.Doctype
import XotModel.Lemmas.PrettyBetween
import XotModel.Lemmas.Prolog
import XotModel.Lemmas.XmlDeclRest
import XotModel.Lemmas.C14Proofs
import XotModel.Lemmas.SerOptMain
import XotModel.Lemmas.SerIndentDoc
import XotModel.Lemmas.SerIndentInner
import XotModel.Lemmas.NormalizerFullwidth
import XotModel.Lemmas.WriterXml
import XotModel.Lemmas.SerIndentLeaf
import XotModel.Lemmas.PrettyBytes
import XotModel.Props.C01
import XotModel.Props.C16

namespace XotModel.Props
open XotModel XotModel.Gen

/-- Obligations on the literals `extract.py` read off `serialize_cdata`. -/
theorem C14_cdata_literals :
    cdataOpen = ['<','!','[','C','D','A','T','A','['] ∧
    cdataSplit = [']',']',']',']','>'] ++ cdataOpen ++ ['>'] ∧
    cdataCr = [']',']','>'] ++ ['&','#','x','D',';'] ++ cdataOpen ∧
    cdataClose = [']',']','>'] := by decide +kernel

/-- The reference written between sections for a carriage return decodes to a carriage return. -/
theorem C14_cdata_cr_reference : refOk '\r' ['&','#','x','D',';'] = true := by decide +kernel

/-- `serialize_cdata s` is a sequence of well-formed CDATA sections — each one ends at its first
    `]]>`, so none contains `]]>` — with the reference `&#xD;` between sections for every carriage
    return; read back (section contents verbatim, the reference as CR) it spells `s`; for every
    `s`, in particular every run of `]` and `>`. -/
theorem C14_cdata (s : Str) : cdataSectionsContent (serializeCdata s) = some s :=
  cdata_sections_roundtrip s

theorem C14_gt_tables :
    tableOk textEscapes = true ∧ tableCovers false textEscapes = true ∧
    refOk '>' textGtEscape = true ∧ tableNoGtBracket textEscapes = true ∧
    textGtEscape.contains '>' = false := by decide +kernel

/-- With `unescaped_gt` the text still decodes to the original value … -/
theorem C14_gt (s : Str) : parseText (serializeText true s) = .ok s :=
  gt_text_roundtrip s

/-- … and never contains `]]>`, nor a raw `<`. -/
theorem C14_gt_no_cdata_end (s : Str) : hasCdataEnd (serializeText true s) = false :=
  gt_no_cdata_end s

theorem C14_gt_lexsafe (s : Str) : '<' ∉ serializeText true s := by
  unfold serializeText
  simp only [if_true]
  rw [serializeTextGtGo_eq]
  simpa using gtOut_hides (c := '<') (by decide) (by decide) (by decide) s []

/-- Sanity: the pinned examples of the unit tests come out of the model. -/
example : serializeCdata [']',']','>'] = "<![CDATA[]]]]><![CDATA[>]]>".toList := by
  rw [String.toList_ofList]; decide +kernel
example : serializeText true [']',']','>'] = "]]&gt;".toList := by
  rw [String.toList_ofList]; decide +kernel

/-! ### Pretty printing changes no token -/

/-- Erasing the indentation and newline fields of the pretty token stream gives back the plain
    token stream (same nodes, same events, same texts and space flags), for every tree, start
    node, parameter set and suppress list, and for arbitrary escaping functions. -/
theorem C14_pretty_content (esc : Escapers) (env : Env) (pr : TokenParams) (sup : List Nat) (t : Tree)
    (start : Path) (ks : List (Path × Output × PrettyOutputToken))
    (h : prettyTokensWith esc env pr sup t start = .ok ks) :
    tokensWith esc env pr t start = .ok (ks.map erasePretty) :=
  pretty_content esc env pr sup t start ks h

/-- Conversely: whenever the plain token stream exists, so does the pretty one, and it erases to it. -/
theorem C14_pretty_content_conv (esc : Escapers) (env : Env) (pr : TokenParams) (sup : List Nat)
    (t : Tree) (start : Path) (l : List (Path × Output × OutputToken))
    (h : tokensWith esc env pr t start = .ok l) :
    ∃ ks, prettyTokensWith esc env pr sup t start = .ok ks ∧ ks.map erasePretty = l :=
  pretty_content_conv esc env pr sup t start l h

/-- The pretty string therefore consists of the plain tokens plus, per token, `2·indentation`
    spaces in front and at most one line feed behind: nothing else is added or removed. -/
theorem C14_pretty_string (esc : Escapers) (env : Env) (pr : TokenParams) (sup : List Nat) (t : Tree)
    (start : Path) (s : Str) (h : serializePrettyWith esc env pr sup t start = .ok s) :
    ∃ ks : List (Path × Output × PrettyOutputToken),
      tokensWith esc env pr t start = .ok (ks.map erasePretty) ∧
      s = ks.flatMap (fun k => prettyTokenBytes k.2.2) ∧
      ∀ k ∈ ks, prettyTokenBytes k.2.2 =
        (if k.2.2.indentation > 0 then indentBytes k.2.2.indentation else [])
          ++ tokenBytes (erasePretty k).2.2 ++ (if k.2.2.newline then prettyNewline else []) :=
  pretty_string_bytes esc env pr sup t start s h

/-! ### Where `Pretty` grants whitespace (the stack machine of pretty.rs)

The stack holds one entry per open element that has children: `Mixed` when it has a text child or
is named in the suppress list, otherwise `Unmixed(xml:space of the element)`. -/

/-- A newline is granted only outside mixed / suppressed content and outside the scope of
    `xml:space="preserve"` (innermost `preserve` / `default` decides). -/
theorem C14_pretty_where_newline (ps : PStack) (h : ps.getNewline = true) :
    ps.inMixed = false ∧ ps.inSpacePreserve = false := by
  simpa [PStack.getNewline] using h

/-- Inside mixed or suppressed content (at any depth) there is neither indentation nor a newline. -/
theorem C14_pretty_where_mixed (ps : PStack) (h : ps.inMixed = true) :
    ps.getIndentation = 0 ∧ ps.getNewline = false := by
  simp [PStack.getIndentation, PStack.getNewline, h]

/-- What `StartTagClose` pushes for an element with children. -/
theorem C14_pretty_where_entry (sup : List Nat) (ps : PStack) (name : Nat) (ks : List Tree)
    (hc : (Tree.node (.element name) ks).firstChild?.isSome = true) :
    (prettify sup ps (.node (.element name) ks) .startTagClose).1 =
      (if hasInlineChild (.node (.element name) ks) || sup.contains name then StackEntry.mixed
       else StackEntry.unmixed (elementSpace (.node (.element name) ks))) :: ps :=
  pretty_where_entry sup ps name ks hc

/-- Placement rule, full strength (all stacks): indentation or a newline is granted only outside
    mixed / suppressed content and outside the scope of `xml:space="preserve"` (the innermost
    `preserve` / `default` among the open elements decides) — at any depth. -/
theorem C14_pretty_where (ps : PStack) (h : ps.getIndentation > 0 ∨ ps.getNewline = true) :
    ps.inMixed = false ∧ ps.inSpacePreserve = false := by
  rcases h with h | h
  · exact ⟨getIndentation_pos h, getIndentation_pos_preserve h⟩
  · exact ⟨getNewline_true h, getNewline_true_preserve h⟩

/-- The end tag of an element with children is indented only if the element itself is neither
    mixed / suppressed nor in `preserve` scope (decided before its entry is popped). -/
theorem C14_pretty_where_endtag (sup : List Nat) (ps : PStack) (node : Tree) (name : Nat)
    (hc : node.firstChild?.isSome = true)
    (h : (prettify sup ps node (.endTag name)).2.1 > 0) :
    ps.inMixed = false ∧ ps.inSpacePreserve = false := by
  simp only [prettify, hc, if_true] at h
  cases hm : ps.inMixed <;> cases hp : ps.inSpacePreserve <;> simp [hm, hp] at h ⊢

/-- End to end: pretty-printing
    `<d><a xml:space="preserve"><b><c/></b></a></d>` (names: d=5, a=2, b=3, c=4; `xml:space` is
    name 0).  Per token: node, indentation, newline — nothing inside the `preserve` element `a`
    (node 0.0) is indented, its own end tag included, and no newline is written inside it. -/
example :
    (prettyTokens {} {} []
      (.node .document [.node (.element 5) [.node (.element 2)
        [.node (.attribute 0 Gen.spacePreserve) [], .node (.element 3) [.node (.element 4) []]]]]) []
      ).okValue?.map (fun l => l.map (fun k => (k.1, k.2.2.indentation, k.2.2.newline)))
    = some [([0], 0, false), ([0], 0, true),
            ([0, 0], 1, false), ([0, 0], 0, false), ([0, 0], 0, false),
            ([0, 0, 1], 0, false), ([0, 0, 1], 0, false),
            ([0, 0, 1, 0], 0, false), ([0, 0, 1, 0], 0, false), ([0, 0, 1, 0], 0, false),
            ([0, 0, 1], 0, false), ([0, 0], 0, true), ([0], 0, true)] := by decide +kernel

/-! ### The doctype writer -/

/-- XML 1.0 VC "Root Element Type", element-rooted serialisation: the name written in
    `<!DOCTYPE name …>` is the name written in the start tag of the element — the doctype writer
    spells it with the stack the serialiser holds there (for arbitrary escaping functions and
    token parameters). -/
theorem C14_doctype_element (esc : Escapers) (env : Env) (pr : TokenParams) (t : Tree) (start : Path)
    (name : Nat) (ks : List Tree) (hat : t.at? start = some (.node (.element name) ks))
    (dn : Str) (toks : List (Path × Output × OutputToken))
    (hd : doctypeName env t start = .ok dn)
    (ht : tokensWith esc env pr t start = .ok toks) :
    toks.head?.map (fun k => (k.1, k.2.1, k.2.2.text)) =
      some (start, Output.startTagOpen name, fmt Gen.fmtStartTagOpen [dn]) :=
  doctype_element esc env pr t start name ks hat dn toks hd ht

/-- Document-rooted serialisation: the stack the doctype writer builds for the document element
    (`namespaces_in_scope(element)` + the element's declarations) has the same top frame as the
    stack the serialiser holds after pushing that element's declarations onto
    `namespaces_in_scope(document)`; `element_fullname` reads only the top frame, and the events
    before the document element (comments, PIs) leave the stack alone (`C10_stack_traversal`). -/
theorem C14_doctype_document (t : Tree) (start : Path) (i : Nat) (doc el : Tree)
    (hdoc : t.at? start = some doc) (hel : t.at? (start ++ [i]) = some el) :
    (doctypeStack t (start ++ [i]) el).top = ((initStack t start).push el.nsDecls).top :=
  doctype_document_top t start i doc el hdoc hel

/-! ### The same rules read off the tree -/

/-- Traversal invariant of the `Pretty` stack: the indentation and newline of every pretty token
    are `prettify` evaluated on the entries of the open elements (those with children) between the
    start node and the token's node — `pentriesFor`, an explicit function of the tree; each such
    element contributes `Mixed` if it has a text child or is suppressed, else `Unmixed(xml:space)`. -/
theorem C14_pretty_where_tree (esc : Escapers) (env : Env) (pr : TokenParams) (sup : List Nat) (t : Tree)
    (start : Path) (n : Tree) (inScope : List (Nat × Nat)) (hat : t.at? start = some n)
    (hs : namespacesInScope t start = some inScope)
    (ks : List (Path × Output × PrettyOutputToken))
    (h : prettyTokensWith esc env pr sup t start = .ok ks)
    (k : Path × Output × PrettyOutputToken) (hk : k ∈ ks) :
    ∃ rel, k.1 = start ++ rel ∧
      (k.2.2.indentation, k.2.2.newline) =
        (prettifyAt sup t (pentriesFor sup k.2.1 n rel) k.1 k.2.1).2 := by
  obtain ⟨rel, h1, _, h2⟩ := pretty_token_entries sup t esc env pr start n inScope hat hs ks h k hk
  exact ⟨rel, h1, h2⟩

/-- Mixed content and suppress list, on trees, full strength: a token receives indentation or a
    newline only if no open element strictly above its node has a text child or is named in the
    suppress list — at any depth. -/
theorem C14_pretty_where_tree_mixed (esc : Escapers) (env : Env) (pr : TokenParams) (sup : List Nat)
    (t : Tree) (start : Path) (n : Tree) (inScope : List (Nat × Nat)) (hat : t.at? start = some n)
    (hs : namespacesInScope t start = some inScope)
    (ks : List (Path × Output × PrettyOutputToken))
    (h : prettyTokensWith esc env pr sup t start = .ok ks)
    (k : Path × Output × PrettyOutputToken) (hk : k ∈ ks)
    (hw : k.2.2.indentation > 0 ∨ k.2.2.newline = true) :
    ∃ rel, k.1 = start ++ rel ∧
      ∀ a name, OpenAbove n rel a → a.value = .element name → a.firstChild?.isSome = true →
        hasInlineChild a = false ∧ sup.contains name = false :=
  pretty_where_tree_mixed esc env pr sup t start n inScope hat hs ks h k hk hw

/-- `xml:space="preserve"` on trees, full strength: a token is indented only if the entries of the
    open elements its whitespace lands in (its own element's included for an end tag) are not in
    `preserve` scope, and is followed by a newline only if the entries the newline lands in (its
    own element's included for `>`) are not. -/
theorem C14_pretty_where_tree_preserve (esc : Escapers) (env : Env) (pr : TokenParams) (sup : List Nat)
    (t : Tree) (start : Path) (n : Tree) (inScope : List (Nat × Nat)) (hat : t.at? start = some n)
    (hs : namespacesInScope t start = some inScope)
    (ks : List (Path × Output × PrettyOutputToken))
    (h : prettyTokensWith esc env pr sup t start = .ok ks)
    (k : Path × Output × PrettyOutputToken) (hk : k ∈ ks) :
    ∃ rel, k.1 = start ++ rel ∧
      (k.2.2.indentation > 0 → PStack.inSpacePreserve (pentriesFor sup k.2.1 n rel) = false) ∧
      (k.2.2.newline = true → PStack.inSpacePreserve (pentriesNewline sup k.2.1 n rel) = false) :=
  pretty_where_notPreserve sup t esc env pr start n inScope hat hs ks h k hk

/-- Non-vacuity: in `<d><a>t<b/></a></d>` (d=5, a=2, b=3) tokens do receive whitespace (`>` of `d`
    gets a newline, `<a` indentation 1) while nothing inside the mixed element `a` does. -/
example :
    (prettyTokens {} {} []
      (.node .document [.node (.element 5) [.node (.element 2) [.node (.text ['t']) [], .node (.element 3) []]]]) []
      ).okValue?.map (fun l => l.map (fun k => (k.1, k.2.2.indentation, k.2.2.newline)))
    = some [([0], 0, false), ([0], 0, true), ([0, 0], 1, false), ([0, 0], 0, false),
            ([0, 0, 0], 0, false), ([0, 0, 1], 0, false), ([0, 0, 1], 0, false), ([0, 0, 1], 0, false),
            ([0, 0], 0, true), ([0], 0, true)] := by decide +kernel

/-! ### Whitespace lands only between markup tokens (never inside a tag, never next to text) -/

/-- Per token, every tree: indentation is written only in front of a token that opens markup
    (`<name`, end tag, comment, PI) and a newline only behind one that closes markup (`>` / `/>`,
    end tag, comment, PI).  In particular a text / CDATA token has indentation 0 and no newline,
    and so have the attribute and `xmlns` tokens inside a start tag. -/
theorem C14_pretty_token_kinds (esc : Escapers) (env : Env) (pr : TokenParams) (sup : List Nat)
    (t : Tree) (start : Path) (ks : List (Path × Output × PrettyOutputToken))
    (h : prettyTokensWith esc env pr sup t start = .ok ks)
    (k : Path × Output × PrettyOutputToken) (hk : k ∈ ks) :
    (k.2.2.indentation > 0 → k.2.1.opensMarkup = true) ∧
    (k.2.2.newline = true → k.2.1.closesMarkup = true) :=
  pretty_token_kinds sup t esc env pr start ks h k hk

theorem C14_pretty_text_token (esc : Escapers) (env : Env) (pr : TokenParams) (sup : List Nat)
    (t : Tree) (start : Path) (ks : List (Path × Output × PrettyOutputToken))
    (h : prettyTokensWith esc env pr sup t start = .ok ks)
    (p : Path) (c : Str) (tok : PrettyOutputToken) (hk : (p, Output.text c, tok) ∈ ks) :
    tok.indentation = 0 ∧ tok.newline = false :=
  pretty_text_token_plain esc env pr sup t start ks h p c tok hk

/-- Between tokens, on the trees the indentation clause ranges over (`TextOk`: well-formed
    documents and element-rooted subtrees — leaf kinds are leaves, no text directly under a
    document node): if the pretty writer puts whitespace between two consecutive tokens `k1 k2`
    (a newline behind `k1` or indentation in front of `k2`) then `k1` closes markup and its text
    ends with `>`, `k2` opens markup and its text begins with `<` (the empty end-tag token of an
    element written `<e/>` is the only markup token without characters), and the stack between
    them — the entries of the open elements the whitespace lands in — is neither mixed /
    suppressed nor in `xml:space="preserve"` scope.  So a parser reads every inserted run as (part
    of) a whitespace-only text node between two pieces of markup, or outside the root. -/
theorem C14_pretty_only_whitespace (esc : Escapers) (env : Env) (pr : TokenParams) (sup : List Nat)
    (t : Tree) (start : Path) (n : Tree) (inScope : List (Nat × Nat)) (hat : t.at? start = some n)
    (hs : namespacesInScope t start = some inScope) (hok : TextOk n)
    (ks pre post : List (Path × Output × PrettyOutputToken)) (k1 k2 : Path × Output × PrettyOutputToken)
    (h : prettyTokensWith esc env pr sup t start = .ok ks) (hks : ks = pre ++ k1 :: k2 :: post)
    (hw : k1.2.2.newline = true ∨ k2.2.2.indentation > 0) :
    (k1.2.1.closesMarkup = true ∧
      (k1.2.2.text.getLast? = some '>' ∨ ((∃ name, k1.2.1 = .endTag name) ∧ k1.2.2.text = []))) ∧
    (k2.2.1.opensMarkup = true ∧ k2.2.2.space = false ∧
      (k2.2.2.text.head? = some '<' ∨ ((∃ name, k2.2.1 = .endTag name) ∧ k2.2.2.text = []))) ∧
    ∃ rel, k2.1 = start ++ rel ∧
      PStack.inMixed (pentriesFor sup k2.2.1 n rel) = false ∧
      PStack.inSpacePreserve (pentriesFor sup k2.2.1 n rel) = false := by
  obtain ⟨c1, c2, hrel⟩ := pretty_between sup t esc env pr start n inScope hat hs hok ks pre post k1 k2 h hks hw
  have s1 := (pretty_token_shape sup t esc env pr start ks h k1 (by simp [hks])).2 c1
  have s2 := (pretty_token_shape sup t esc env pr start ks h k2 (by simp [hks])).1 c2
  exact ⟨⟨c1, s1⟩, ⟨c2, s2.1, s2.2⟩, hrel⟩

/-- Nothing is written in front of the first token. -/
theorem C14_pretty_first_token (esc : Escapers) (env : Env) (pr : TokenParams) (sup : List Nat)
    (t : Tree) (start : Path) (k : Path × Output × PrettyOutputToken)
    (ks : List (Path × Output × PrettyOutputToken))
    (h : prettyTokensWith esc env pr sup t start = .ok (k :: ks)) : k.2.2.indentation = 0 :=
  pretty_first_token sup t esc env pr start k ks h

/-- Non-vacuity of `C14_pretty_only_whitespace`: `<d><a/><!--c--></d>` (d=5, a=2) satisfies
    `TextOk` and its tokens `<d` `>`⏎ ␣␣`<a` `/>` ``⏎ ␣␣`<!--c-->`⏎ `</d>`⏎ receive whitespace (the empty
    environment spells every name as the empty string). -/
example : TextOk (.node .document [.node (.element 5) [.node (.element 2) [], .node (.comment ['c']) []]]) := by
  simp [TextOk, Tree.Forall, Tree.Forall.forallList, TextOkAt, Value.isLeafKind, Value.isText, Tree.value]

example :
    (prettyTokens {} {} []
      (.node .document [.node (.element 5) [.node (.element 2) [], .node (.comment ['c']) []]]) []
      ).okValue?.map (fun l => l.map (fun k => (k.2.2.indentation, String.ofList k.2.2.text, k.2.2.newline)))
    = some [(0, "<", false), (0, ">", true), (1, "<", false), (0, "/>", false), (0, "", true),
            (1, "<!--c-->", true), (0, "</>", true)] := by decide +kernel

/-- Why `TextOk` excludes text directly under a document node (a fragment; outside the
    indentation clause of the property): `Pretty` keeps no stack entry for the document node, so in
    the fragment `<a/>x` the newline behind `<a/>` lands in front of the text token. -/
theorem C14_pretty_fragment_text_gets_newline :
    (prettyTokens {} {} [] (.node .document [.node (.element 2) [], .node (.text ['x']) []]) []
      ).okValue?.map (fun l => l.map (fun k => (k.2.2.indentation, String.ofList k.2.2.text, k.2.2.newline)))
    = some [(0, "<", false), (0, "/>", false), (0, "", true), (0, "x", false)] := by decide +kernel

/-! ### The prolog: declaration and doctype (`Declaration::serialize`, `DocType::serialize`) -/

/-- Shape: the declaration is `<?xml version="1.0"[ encoding="E"][ standalone="yes|no"]?>` + LF,
    the doctype `<!DOCTYPE name PUBLIC "P" "S">` / `<!DOCTYPE name SYSTEM "S">` + LF, the parameter
    strings copied literally. -/
theorem C14_decl_shape (d : Declaration) (dt : DocType) (name : Str) :
    d.bytes =
      ['<','?','x','m','l',' ','v','e','r','s','i','o','n','=','"','1','.','0','"']
      ++ (match d.encoding with
          | some e => [' ','e','n','c','o','d','i','n','g','=','"'] ++ e ++ ['"']
          | none => [])
      ++ (match d.standalone with
          | some true => [' ','s','t','a','n','d','a','l','o','n','e','=','"','y','e','s','"']
          | some false => [' ','s','t','a','n','d','a','l','o','n','e','=','"','n','o','"']
          | none => [])
      ++ ['?','>','\n'] ∧
    dt.bytes name =
      ['<','!','D','O','C','T','Y','P','E',' '] ++ name
      ++ (match dt with
          | .pub p s => [' ','P','U','B','L','I','C',' ','"'] ++ p ++ ['"',' ','"'] ++ s ++ ['"']
          | .sys s => [' ','S','Y','S','T','E','M',' ','"'] ++ s ++ ['"'])
      ++ ['>','\n'] :=
  ⟨Prolog.declaration_bytes d, Prolog.doctype_bytes dt name⟩

/-- The prolog never changes the content: a successful `serialize_xml_string` is the
    declaration bytes, the doctype bytes (for the name `doctypeName` computes) and then exactly
    the output of the same call without declaration and doctype — and conversely. -/
theorem C14_decl_rest (esc : Escapers) (env : Env) (p : XmlParams) (t : Tree) (start : Path) :
    (∀ s, serializeXmlStringWith esc env p t start = .ok s →
      ∃ dt body, DoctypeWritten env p t start dt ∧
        serializeXmlStringWith esc env p.body t start = .ok body ∧ s = p.declBytes ++ dt ++ body) ∧
    (∀ dt body, DoctypeWritten env p t start dt →
      serializeXmlStringWith esc env p.body t start = .ok body →
      serializeXmlStringWith esc env p t start = .ok (p.declBytes ++ dt ++ body)) :=
  ⟨fun s h => xmlString_split esc env p t start s h,
   fun dt body h1 h2 => xmlString_join esc env p t start dt body h1 h2⟩

/-- Well-formedness of the prolog against the XML 1.0 grammar (`Prolog.xmlDecl`: productions
    23–26, 32, 80, 81; `Prolog.doctypeDecl`: 28, 75, 11–13, 5).  Caller's side: the encoding is an
    `EncName`, the public identifier consists of `PubidChar`s, the system identifier has no `"`;
    and the root element's written name is an XML `Name`.  Then the output starts with an `XMLDecl`
    (when requested) followed by a `doctypedecl` (when requested), each read exactly up to the
    line break the writer appends, and what follows is the output without prolog. -/
theorem C14_decl (esc : Escapers) (env : Env) (p : XmlParams) (t : Tree) (start : Path) (s : Str)
    (h : serializeXmlStringWith esc env p t start = .ok s)
    (henc : ∀ d e, p.declaration = some d → d.encoding = some e → Prolog.isEncName e = true)
    (hids : ∀ d, p.doctype = some d → Prolog.idsOk d = true)
    (hname : ∀ name, doctypeName env t start = .ok name → Prolog.isXmlName name = true) :
    ∃ dt body, serializeXmlStringWith esc env p.body t start = .ok body ∧
      s = p.declBytes ++ dt ++ body ∧
      (∀ d, p.declaration = some d → Prolog.xmlDecl s = some ('\n' :: (dt ++ body))) ∧
      (p.declaration = none → p.declBytes = []) ∧
      (∀ d, p.doctype = some d → Prolog.doctypeDecl (dt ++ body) = some ('\n' :: body)) ∧
      (p.doctype = none → dt = []) :=
  decl_grammar esc env p t start s h henc hids hname

/-- The hypotheses of `C14_decl` are necessary, by closed witnesses: the strings are copied
    literally, so an encoding or identifier containing `"` ends its literal early, and a quote-free
    encoding that is no `EncName` (`é`, the empty string, `a b`) or a public identifier with a
    non-`PubidChar` (`<`) is no `XMLDecl` / `doctypedecl` either. -/
theorem C14_decl_necessary :
    (⟨some ['x','"','y'], none⟩ : Declaration).bytes =
      ['<','?','x','m','l',' ','v','e','r','s','i','o','n','=','"','1','.','0','"',
       ' ','e','n','c','o','d','i','n','g','=','"','x','"','y','"','?','>','\n'] ∧
    Prolog.xmlDecl ((⟨some ['x','"','y'], none⟩ : Declaration).bytes) = none ∧
    Prolog.xmlDecl ((⟨some ['é'], none⟩ : Declaration).bytes) = none ∧
    Prolog.xmlDecl ((⟨some [], none⟩ : Declaration).bytes) = none ∧
    Prolog.xmlDecl ((⟨some ['a',' ','b'], some true⟩ : Declaration).bytes) = none ∧
    Prolog.doctypeDecl ((DocType.sys ['x','"','y']).bytes ['a']) = none ∧
    Prolog.doctypeDecl ((DocType.pub ['p','"','q'] ['d']).bytes ['a']) = none ∧
    Prolog.doctypeDecl ((DocType.pub ['p','<','q'] ['d']).bytes ['a']) = none :=
  ⟨Prolog.xmlDecl_quote_witness.1, Prolog.xmlDecl_quote_witness.2, Prolog.xmlDecl_encname_witness.1,
   Prolog.xmlDecl_encname_witness.2.1, Prolog.xmlDecl_encname_witness.2.2,
   Prolog.doctypeDecl_quote_witness.1, Prolog.doctypeDecl_quote_witness.2.1,
   Prolog.doctypeDecl_quote_witness.2.2⟩

/-- Non-vacuity of `C14_decl`: `<?xml version="1.0" encoding="UTF-8" standalone="no"?>` and
    a doctype `a:b` with a W3C-style public identifier and the system identifier `a>b<c.dtd` are accepted. -/
example : Prolog.xmlDecl ((⟨some ['U','T','F','-','8'], some false⟩ : Declaration).bytes ++ ['<','a','/','>'])
    = some ['\n','<','a','/','>'] := by decide +kernel
example : Prolog.isEncName ['U','T','F','-','8'] = true ∧
    Prolog.idsOk (.pub ['-','/','/','W','3','C','/','/','D','T','D',' ','X',' ','1','.','0','/','/','E','N']
      ['a','>','b','<','c','.','d','t','d']) = true ∧ Prolog.isXmlName ['a',':','b'] = true := by decide +kernel

/-! ### `cdata_section_elements`, token level over trees -/

/-- "The parent is a CDATA-section element": an element parent whose name is listed (a text node
    without an element parent — detached, or directly under a document — never is). -/
theorem C14_cdata_element_iff (pr : TokenParams) (parent : Option Tree) :
    isCdataElement pr parent = true ↔
      ∃ par name, parent = some par ∧ par.value = .element name ∧ name ∈ pr.cdataSectionElements :=
  isCdataElement_iff pr parent

/-- Every text token of `Xot::tokens` (any tree, start node, parameter set) belongs to a text node
    with the event's value; for a text node under a listed element the token is
    `serialize_cdata text` and the CDATA / character-reference section reader decodes it to the
    node's text (`C14_cdata`); for every other text node it is `serialize_text` (with or without
    `unescaped_gt`) and `parse_text token = text`. -/
theorem C14_cdata_token (env : Env) (pr : TokenParams) (t : Tree) (start : Path)
    (ks : List (Path × Output × OutputToken)) (h : tokens env pr t start = .ok ks)
    (p : Path) (c : Str) (tok : OutputToken) (hk : (p, Output.text c, tok) ∈ ks) :
    (∃ node, t.at? p = some node ∧ node.value = .text c) ∧ tok.space = false ∧
    (if isCdataElement pr (t.parentAt? p) then
       tok.text = serializeCdata c ∧ cdataSectionsContent tok.text = some c
     else tok.text = serializeText pr.unescapedGt c ∧ parseText tok.text = .ok c) :=
  cdata_token env pr t start ks h p c tok hk

/-- Non-vacuity: `<a>]]></a><b>]]></b>` with `a` (name 2) listed and `unescaped_gt`: one token of
    each kind. -/
example :
    (tokens {} ⟨[2], true⟩ (.node .document [.node (.element 5)
        [.node (.element 2) [.node (.text [']',']','>']) []], .node (.element 3) [.node (.text [']',']','>']) []]]]) []
      ).okValue?.map (fun l => (l.filter (fun k => k.2.1 == Output.text [']',']','>'])).map
        (fun k => (k.1, String.ofList k.2.2.text)))
    = some [([0, 0, 0], "<![CDATA[]]]]><![CDATA[>]]>"), ([0, 1, 0], "]]&gt;")] := by decide +kernel

/-! ### C14_options: the output reparses to the original tree

The default round trip (C01_roundtrip) transported along "same spelling up to the character data runs"
(`NSNode.Resp`): a text node under a CDATA-section element is the run `cdataTokens` (sections cut inside
every `]]>`, `&#xD;` as a text token between two sections), elsewhere one text token `serialize_text`. -/

/-- `serialize_cdata s` IS the canonical rendering of an alternation of CDATA tokens and `&#xD;` text
    tokens that (a) may stand where a text token stands — every token meets the tokenizer's side
    condition, no `]]>` in a section, no two text tokens in a row — and (b) denotes `s` for the builder
    (no CR inside a section, so line-end normalisation changes nothing). -/
theorem C14_cdata_tokens (s : Str) (hs : s.all isXmlChar = true) :
    renderTokens (cdataTokens s) = serializeCdata s ∧ GoodRun (cdataTokens s) ∧
    partsValue (cdataPartsGo [] s) = s ∧ (∀ p ∈ cdataPartsGo [] s, p.Well) ∧
    ∀ t j, SPart.cd t j ∈ cdataPartsGo [] s → '\r' ∉ t.text :=
  ⟨renderTokens_cdataTokens s, cdataTokens_goodRun s hs, by simpa using partsValue_cdataPartsGo s [] (by simp),
   cdataPartsGo_well s [], cdataPartsGo_noCr s [] (by simp)⟩

/-- `serialize_xml_string` under ANY token parameters and for any start node is the canonical rendering
    of `serTokensAtO` (extends C01_serialised_is_rendering_at to CDATA-section elements). -/
theorem C14_serialised_is_rendering (env : Env) (pr : TokenParams) (t : Tree) (start : Path)
    (hx : env.prefixStr Env.xmlPrefix ≠ []) (ht : t.allNodes (declsNamed env) = true) :
    serializeString env pr t start =
      (match serTokensAtO env pr t start with
       | .ok ts => .ok (renderTokens ts)
       | .error e => .err e) :=
  serializeString_serTokensAtO env pr t start hx ht

/-- The token list meets the tokenizer contract, also with `unescaped_gt` and CDATA-section elements. -/
theorem C14_rendering_lexok (env : Env) (pr : TokenParams) (t : Tree) (hr : Representable env t = true)
    (ts : List Token) (h : serTokensAtO env pr t [] = .ok ts) : LexOK false ts = true :=
  options_lexOK env pr hr h

/-- `unescaped_gt = true`. -/
theorem C14_options_gt (env : Env) (t : Tree) (hr : Representable env t = true) (s : Str)
    (hs : serializeString env { unescapedGt := true } t [] = .ok s) :
    ∃ p, parseString .document env s = .ok p ∧ p.tree = t ∧ p.env = env :=
  options_roundtrip env _ hr hs

/-- Any set of CDATA-section elements, `unescaped_gt` on or off: the output
    reparses to the ORIGINAL tree (ids, declarations, prefixes), tables unchanged; hence `deep_equal`. -/
theorem C14_options_cdata (env : Env) (pr : TokenParams) (t : Tree) (hr : Representable env t = true) (s : Str)
    (hs : serializeString env pr t [] = .ok s) :
    ∃ p, parseString .document env s = .ok p ∧ p.tree = t ∧ p.env = env ∧ deepEqual p.tree t = true := by
  obtain ⟨p, h1, h2, h3⟩ := options_roundtrip env pr hr hs
  refine ⟨p, h1, h2, h3, ?_⟩
  rw [h2]
  exact deepEqual_self_representable env (representableFragment_of_representable env hr)

/-- `parse_fragment` of a representable fragment (several top-level elements, top-level text). -/
theorem C14_options_cdata_fragment (env : Env) (pr : TokenParams) (t : Tree)
    (hr : RepresentableFragment env t = true) (s : Str) (hs : serializeString env pr t [] = .ok s) :
    ∃ p, parseString .fragment env s = .ok p ∧ p.tree = t ∧ p.env = env :=
  options_roundtrip_fragment env pr hr hs

/-- The parameters never decide about success: it is `namesWritable` (C01_serialises). -/
theorem C14_options_serialises (env : Env) (pr : TokenParams) (t : Tree) (hr : RepresentableFragment env t = true) :
    (∃ s, serializeString env pr t [] = .ok s) ↔ namesWritable env t [] = some true :=
  options_serialises env pr hr

/-- With or without an XML declaration (encoding an `EncName` or absent, any
    standalone), any token parameters, no doctype (xot refuses to parse one: `DtdUnsupported`), no
    indentation: `parse` of the output returns the original tree. -/
theorem C14_options_decl (env : Env) (p : XmlParams) (t : Tree) (hr : Representable env t = true)
    (hdt : p.doctype = none) (hind : p.indentation = none)
    (henc : ∀ d e, p.declaration = some d → d.encoding = some e → Prolog.isEncName e = true)
    (s : Str) (hs : serializeXmlString env p t [] = .ok s) :
    ∃ q, parseString .document env s = .ok q ∧ q.tree = t ∧ q.env = env ∧ deepEqual q.tree t = true := by
  obtain ⟨q, h1, h2, h3⟩ := options_decl_roundtrip env p hr hdt hind henc hs
  refine ⟨q, h1, h2, h3, ?_⟩
  rw [h2]
  exact deepEqual_self_representable env (representableFragment_of_representable env hr)

/-- The tokenizer on the written declaration: one `Declaration` token with version `1.0`, then the tokens
    of the body (the line feed behind `?>` is skipped). -/
theorem C14_decl_lexed (d : Declaration) (ts : List Token) (h : LexOK false ts = true)
    (henc : ∀ e, d.encoding = some e → Prolog.isEncName e = true) :
    ∃ v e sa sp ts', lexDocument (d.bytes ++ renderTokens ts) =
        (.declaration ⟨['1', '.', '0'], v⟩ e sa sp :: ts', none) ∧
      ts'.map Token.erase = ts.map Token.erase ∧ tokensPrefixOk ts' = true :=
  lexDocument_declaration_erase d ts h (fun e he => isEncName_encChar (henc e he))

/-- Declaration + `parse_fragment` (a fragment start node serialised with a declaration): rejected by the
    tokenizer at position 0, whatever follows — `<?xml ` is an error inside element content. -/
theorem C14_options_decl_fragment (env : Env) (d : Declaration) (r : Str) :
    parseString .fragment env (d.bytes ++ r) = .err (.xmlParser 0) env :=
  options_decl_fragment_rejected env d r

/-- Non-vacuity, closed: `<r xmlns="urn:a">]]>CR</r>` (tables of Props/C01) with `r` (name 2) as
    CDATA-section element, `unescaped_gt` and a declaration: three sections and one reference. -/
def c14Doc : Tree :=
  .node .document [.node (.element 2) [.node (.namespace 0 2) [], .node (.text [']', ']', '>', '\r']) []]]
def c14Params : XmlParams :=
  { cdataSectionElements := [2], unescapedGt := true, declaration := some ⟨some ['U','T','F','-','8'], none⟩ }
def c14Text : Str :=
  "<?xml version=\"1.0\" encoding=\"UTF-8\"?>\n<r xmlns=\"urn:a\"><![CDATA[]]]]><![CDATA[>]]>&#xD;<![CDATA[]]></r>".toList

theorem c14Doc_serialises : serializeXmlString c01Env c14Params c14Doc [] = .ok c14Text := by
  unfold c14Text; rw [String.toList_ofList]; decide +kernel

example : serializeXmlString c01Env c14Params c14Doc [] = .ok c14Text := c14Doc_serialises
example : ∃ q, parseString .document c01Env c14Text = .ok q ∧ q.tree = c14Doc ∧ q.env = c01Env := by
  obtain ⟨q, h1, h2, h3, _⟩ := C14_options_decl c01Env c14Params c14Doc (by decide +kernel) rfl rfl
    (by intro d e hd he; cases hd; cases he; decide +kernel) c14Text c14Doc_serialises
  exact ⟨q, h1, h2, h3⟩

/-! ### C14_options_indent: with indentation the output reparses to the tree plus white space

`prettyTree sup t` (Lemmas/SerIndentRun.lean) is `t` with one text node of line feed + blanks in front of
every child and behind the last child of every element whose content the `Pretty` stack grants white space
to.  White space between the top-level nodes is skipped by the tokenizer (Lemmas/LexLines.lean). -/

/-- Document start node: indentation with any suppress list, any token
    parameters, with or without declaration, no doctype: `parse` of the output returns `prettyTree sup t`,
    which differs from `t` only by added whitespace-only text nodes (`AddsWs`); tables unchanged. -/
theorem C14_options_indent (env : Env) (p : XmlParams) (sup : List Nat) (t : Tree) (hr : Representable env t = true)
    (hdt : p.doctype = none) (hind : p.indentation = some sup)
    (henc : ∀ d e, p.declaration = some d → d.encoding = some e → Prolog.isEncName e = true)
    (s : Str) (hs : serializeXmlString env p t [] = .ok s) :
    ∃ q, parseString .document env s = .ok q ∧ q.tree = prettyTree sup t ∧ q.env = env ∧ AddsWs t q.tree := by
  obtain ⟨q, h1, h2, h3⟩ := indent_decl_roundtrip env sup p hr hdt hind henc hs
  exact ⟨q, h1, h2, h3, by rw [h2]; exact addsWs_prettyTree sup t⟩

/-- The indented string itself: the top-level nodes, spelled with the white space runs inside the elements
    (`spellNodeP`), one per line; and `prettyTree` of a representable document is representable. -/
theorem C14_indent_string (env : Env) (pr : TokenParams) (sup : List Nat) (ks : List Tree)
    (hr : Representable env (.node .document ks) = true) (s : Str)
    (hs : serializePretty env pr sup (.node .document ks) [] = .ok s) :
    s = Lex.Canon.renderLines (spellTopP env pr sup ks) ∧ Representable env (prettyTree sup (.node .document ks)) = true :=
  ⟨(serializePretty_document env pr sup hr hs).1, representable_prettyTree env sup hr⟩

/-- Where no white space node is added.  For an element `n` written in content whose
    `Pretty` stack is `ps` (the entries of the open elements around it):
    (a) `n` has a text child or is named in the suppress list: nothing is added anywhere inside `n`;
    (b) an open element around `n` is such an element (`ps.inMixed`): likewise, at any depth;
    (c) `n` is in `xml:space="preserve"` scope (innermost `preserve` / `default`, its own attribute
        included): no white space node among its children (a descendant with `xml:space="default"` may
        get some again). -/
theorem C14_indent_where (sup : List Nat) (ps : PStack) (name : Nat) (ks : List Tree) :
    ((hasInlineChild (.node (.element name) ks) = true ∨ sup.contains name = true) →
      prettyNode sup ps (.node (.element name) ks) = .node (.element name) ks) ∧
    (ps.inMixed = true → ∀ n, prettyNode sup ps n = n) ∧
    (PStack.inSpacePreserve (entryFor sup (.node (.element name) ks) :: ps) = true →
      prettyNode sup ps (.node (.element name) ks) =
        .node (.element name) (ks.map (prettyNode sup (entryFor sup (.node (.element name) ks) :: ps)))) :=
  ⟨prettyNode_mixed_element sup ps name ks, fun h n => prettyNode_mixed sup n ps h, prettyNode_preserve sup ps name ks⟩

/-- Non-vacuity, closed (tables of Props/C01; `k` = name 4, `t` = name 5, both in no namespace):
    `<k><t>x<k/></t><t/></k>` is written on four lines; nothing is added inside the mixed element `t`. -/
def c14Ind : Tree :=
  .node .document [.node (.element 4) [.node (.element 5) [.node (.text ['x']) [], .node (.element 4) []],
    .node (.element 5) []]]

def c14IndText : Str := "<k>\n  <t>x<k/></t>\n  <t/>\n</k>\n".toList

theorem c14Ind_serialises : serializeXmlString c01Env { indentation := some [] } c14Ind [] = .ok c14IndText := by
  unfold c14IndText; rw [String.toList_ofList]; decide +kernel

example : serializeXmlString c01Env { indentation := some [] } c14Ind [] = .ok c14IndText := c14Ind_serialises
example : prettyTree [] c14Ind =
    .node .document [.node (.element 4) [.node (.text ['\n', ' ', ' ']) [],
      .node (.element 5) [.node (.text ['x']) [], .node (.element 4) []], .node (.text ['\n', ' ', ' ']) [],
      .node (.element 5) [], .node (.text ['\n']) []]] := by rfl
example : ∃ q, parseString .document c01Env c14IndText = .ok q ∧ q.tree = prettyTree [] c14Ind := by
  obtain ⟨q, h1, h2, _⟩ := C14_options_indent c01Env { indentation := some [] } [] c14Ind (by decide +kernel) rfl rfl
    (by intro d e hd; cases hd) c14IndText c14Ind_serialises
  exact ⟨q, h1, h2⟩

/-! ### Indentation for an element start node INSIDE a tree

`serialize_xml_string(element, indentation)` for an element that has ancestors: `XmlSerializer::new` seeds the
name stack with `namespaces_in_scope(element)`, the start tag also writes the inherited declarations (C01, "a start
node inside a tree"), and the `Pretty` stack starts empty at the element.  `standalone t q` = `D [ e' ]`, `e'` the
element with one namespace node per inherited declaration in front of its children. -/

/-- `C01_inner_serialisation` with indentation: the call on the inner element IS the call on the root of its standalone
    document — the same text (white space included) or the same error — any suppress list, any token parameters,
    with or without declaration, no doctype; the standalone document is in the round-trip domain. -/
theorem C14_indent_inner_serialisation (env : Env) (p : XmlParams) (sup : List Nat) (t : Tree) (q : Path)
    (name : Nat) (ks : List Tree) (henv : envOK env = true) (hok : t.allNodes (nodeOK env) = true)
    (hat : t.at? q = some (.node (.element name) ks))
    (hids : (xmlIdValues env (.node (.element name) ks)).Nodup)
    (hdt : p.doctype = none) (hind : p.indentation = some sup) :
    ∃ X, standalone t q = some (.node .document [.node (.element name) (nsLeaves X ++ ks)]) ∧
      Representable env (.node .document [.node (.element name) (nsLeaves X ++ ks)]) = true ∧
      serializeXmlString env p t q =
        serializeXmlString env p (.node .document [.node (.element name) (nsLeaves X ++ ks)]) [] := by
  obtain ⟨X, h1, h2, h3, _⟩ := indent_inner_roundtrip env sup p t q name ks henv hok hat hids hdt hind
  exact ⟨X, h1, h2, h3⟩

/-- The general form of `C14_indent_roundtrip_inner`: `t` any tree that is `nodeOK` everywhere (a document, a
    fragment, a parentless element), sane tables, no repeated `xml:id` value below the start element: `parse` of
    the indented text of the element at `q` gives `prettyTree sup` of the standalone document, which differs
    from it only by added whitespace-only text nodes; tables unchanged. -/
theorem C14_indent_roundtrip_inner_nodes (env : Env) (p : XmlParams) (sup : List Nat) (t : Tree) (q : Path)
    (name : Nat) (ks : List Tree) (henv : envOK env = true) (hok : t.allNodes (nodeOK env) = true)
    (hat : t.at? q = some (.node (.element name) ks))
    (hids : (xmlIdValues env (.node (.element name) ks)).Nodup)
    (hdt : p.doctype = none) (hind : p.indentation = some sup)
    (henc : ∀ d e, p.declaration = some d → d.encoding = some e → Prolog.isEncName e = true)
    (s : Str) (hs : serializeXmlString env p t q = .ok s) :
    ∃ r X, standalone t q = some (.node .document [.node (.element name) (nsLeaves X ++ ks)]) ∧
      Representable env (.node .document [.node (.element name) (nsLeaves X ++ ks)]) = true ∧
      parseString .document env s = .ok r ∧
      r.tree = prettyTree sup (.node .document [.node (.element name) (nsLeaves X ++ ks)]) ∧ r.env = env ∧
      AddsWs (.node .document [.node (.element name) (nsLeaves X ++ ks)]) r.tree := by
  obtain ⟨X, h1, h2, _, h4⟩ := indent_inner_roundtrip env sup p t q name ks henv hok hat hids hdt hind
  obtain ⟨r, k1, k2, k3⟩ := h4 s henc hs
  exact ⟨r, X, h1, h2, k1, k2, k3, by rw [k2]; exact addsWs_prettyTree sup _⟩

/-- An element anywhere inside a representable document or fragment, under
    the hypotheses of `C14_options_indent`. -/
theorem C14_indent_roundtrip_inner (env : Env) (p : XmlParams) (sup : List Nat) (t : Tree)
    (hr : RepresentableFragment env t = true) (q : Path) (name : Nat) (ks : List Tree)
    (hat : t.at? q = some (.node (.element name) ks))
    (hdt : p.doctype = none) (hind : p.indentation = some sup)
    (henc : ∀ d e, p.declaration = some d → d.encoding = some e → Prolog.isEncName e = true)
    (s : Str) (hs : serializeXmlString env p t q = .ok s) :
    ∃ r X, standalone t q = some (.node .document [.node (.element name) (nsLeaves X ++ ks)]) ∧
      Representable env (.node .document [.node (.element name) (nsLeaves X ++ ks)]) = true ∧
      parseString .document env s = .ok r ∧
      r.tree = prettyTree sup (.node .document [.node (.element name) (nsLeaves X ++ ks)]) ∧ r.env = env ∧
      AddsWs (.node .document [.node (.element name) (nsLeaves X ++ ks)]) r.tree := by
  obtain ⟨henv, _, hn, hid⟩ := (representableFragment_iff env t).mp hr
  exact C14_indent_roundtrip_inner_nodes env p sup t q name ks henv hn hat
    (hid.sublist (xmlIdValues_at?_sublist q t _ hat)) hdt hind henc s hs

/-- Non-vacuity, closed (tree and tables of Props/C01, "a start node inside a tree"): the inner element `m`
    (path `[0, 4]`) with indentation writes the inherited `xmlns="urn:a" xmlns:q="urn:b"` and three lines. -/
def c14InnerText : Str :=
  "<m xmlns=\"urn:a\" xmlns:q=\"urn:b\" xmlns:p=\"urn:a\" q:w=\"v\">\n  <q:c/>\n</m>\n".toList

theorem c01InnerDoc_serialises_indented :
    serializeXmlString c01InnerEnv { indentation := some [] } c01InnerDoc [0, 4] = .ok c14InnerText := by
  unfold c14InnerText; rw [String.toList_ofList]; decide +kernel

example : serializeXmlString c01InnerEnv { indentation := some [] } c01InnerDoc [0, 4] = .ok c14InnerText :=
  c01InnerDoc_serialises_indented
example : serializeXmlString c01InnerEnv { indentation := some [] } c01InnerStandalone [] = .ok c14InnerText := by
  unfold c14InnerText; rw [String.toList_ofList]; decide +kernel
example : ∃ r, parseString .document c01InnerEnv c14InnerText = .ok r ∧ r.tree = prettyTree [] c01InnerStandalone ∧
    r.env = c01InnerEnv := by
  obtain ⟨r, X, h1, _, h2, h3, h4, _⟩ := C14_indent_roundtrip_inner c01InnerEnv { indentation := some [] } []
    c01InnerDoc (by decide +kernel) [0, 4] 4 _ rfl rfl rfl (by intro d e hd; cases hd) c14InnerText c01InnerDoc_serialises_indented
  have hX : standalone c01InnerDoc [0, 4] = some c01InnerStandalone := rfl
  rw [hX, Option.some.injEq] at h1
  rw [← h1] at h3
  exact ⟨r, h2, h3, h4⟩
example : prettyTree [] c01InnerStandalone =
    .node .document [.node (.element 4) [.node (.namespace 0 2) [], .node (.namespace 3 3) [], .node (.namespace 2 2) [],
      .node (.attribute 5 ['v']) [], .node (.text ['\n', ' ', ' ']) [], .node (.element 3) [],
      .node (.text ['\n']) []]] := by rfl

/-! ### C14_normalizer: the `*_with_normalizer` entry points

`normEscapers N` (Model/Normalizer.lean) is entity.rs with the caller's normalizer `N`: normalise, then escape
the result; the identity normalizer (`NoopNormalizer`) gives `xmlEscapers`, the functions of all theorems above.
`Tree.mapText N` applies `N` to the text node values and the attribute values of a tree. -/

/-- `NoopNormalizer` is the `id` instance. -/
theorem C14_normalizer_noop : normEscapers id = xmlEscapers := rfl

/-- For every normalizer `N`, environment, parameter set (CDATA-section elements,
    `unescaped_gt`, indentation with any suppress list, declaration, doctype), tree and start node:
    serialising WITH the normalizer gives — same string or same error, same bytes written — what serialising
    the normalised tree gives without one.  Hypotheses, the weakest that work (both are necessary:
    `C14_normalizer_ns_necessary`, `C14_normalizer_space_necessary`):
    `hns` — `N` fixes the namespace URIs written by the `xmlns` declarations of the output (they go through
    `serialize_attribute(.., normalizer)` but are no strings of the tree);
    `hsp` — only with indentation: `N` leaves `element_space` of the serialised elements alone (`Pretty` reads
    `xml:space` as stored).  CDATA-section elements, `unescaped_gt`, `has_inline_child`, the suppress list and
    the doctype never look at a string `N` changes. -/
theorem C14_normalizer_is_premap (N : Str → Str) (env : Env) (p : XmlParams) (t : Tree) (start : Path)
    (hns : NsWritten N env (genOutputs t start))
    (hsp : p.indentation ≠ none → SpaceKept N t (genOutputs t start)) :
    serializeXmlStringWith (normEscapers N) env p t start = serializeXmlString env p (t.mapText N) start ∧
    serializeXmlWriteWith (normEscapers N) env p t start = serializeXmlWrite env p (t.mapText N) start :=
  ⟨serializeXmlStringWith_norm N env p t start hns hsp, serializeXmlWriteWith_norm N env p t start hns hsp⟩

/-- Token level (`Xot::tokens(node, parameters, normalizer)` and `pretty_tokens`): the token streams of the
    normalised tree are the token streams under the normalizer, event by event (the events carry the
    normalised strings: `tokMapText`), with the same texts, space flags, indentation and newlines. -/
theorem C14_normalizer_is_premap_tokens (N : Str → Str) (env : Env) (pr : TokenParams) (t : Tree) (start : Path)
    (hns : NsWritten N env (genOutputs t start)) :
    tokens env pr (t.mapText N) start =
        (tokensWith (normEscapers N) env pr t start).mapOk (List.map (tokMapText N)) ∧
    ∀ sup, SpaceKept N t (genOutputs t start) →
      prettyTokens env pr sup (t.mapText N) start =
        (prettyTokensWith (normEscapers N) env pr sup t start).mapOk (List.map (tokMapText N)) :=
  ⟨tokensWith_norm N env pr t start hns, fun sup hs => prettyTokensWith_norm N env pr sup t start hns hs⟩

/-- Without any hypothesis: under EVERY normalizer the call ends as it ends without one — it succeeds on the
    same trees and returns the same error otherwise (only token texts depend on the escaping functions). -/
theorem C14_normalizer_outcome (N : Str → Str) (env : Env) (p : XmlParams) (t : Tree) (start : Path) :
    (serializeXmlWriteWith (normEscapers N) env p t start).2 = (serializeXmlWrite env p t start).2 ∧
    ((∃ s, serializeXmlStringWith (normEscapers N) env p t start = .ok s) ↔
      ∃ s, serializeXmlString env p t start = .ok s) := by
  have h := serializeXmlWriteWith_outcome (normEscapers N) xmlEscapers env p t start
  refine ⟨h, ?_⟩
  unfold serializeXmlString serializeXmlStringWith bufferToString
  rw [h]
  cases (serializeXmlWriteWith xmlEscapers env p t start).2 <;> simp

/-- The hypotheses hold on every tree and start node as soon as `N` fixes the strings of the namespace table
    (and `""`), and maps exactly `preserve` to `preserve` and `default` to `default`. -/
theorem C14_normalizer_hypotheses (N : Str → Str) (env : Env) (t : Tree) (outs : List (Path × Output)) :
    ((N [] = [] ∧ ∀ u ∈ env.namespaces, N u = u) → NsWritten N env outs) ∧
    (SpaceStable N → SpaceKept N t outs) :=
  ⟨fun h => nsWritten_of_fixed N env (fixes_namespaceStr N env h.1 h.2) outs, fun h => spaceKept_of_stable N h t outs⟩

/-- `fullwidthNorm` (U+FF1C U+FF06 U+FF02 U+FF1E U+FF07 to `<` `&` `"` `>` `'`) meets them whenever the
    namespace table holds none of the five fullwidth forms. -/
theorem C14_normalizer_fullwidth (env : Env) (hc : nsClean env = true) (p : XmlParams) (t : Tree) (start : Path) :
    serializeXmlStringWith (normEscapers fullwidthNorm) env p t start =
      serializeXmlString env p (t.mapText fullwidthNorm) start :=
  (C14_normalizer_is_premap fullwidthNorm env p t start
    (nsWritten_of_fixed _ env (fullwidthNorm_fixes_ns env hc) _)
    (fun _ => spaceKept_of_stable _ fullwidthNorm_spaceStable t _)).1

/-- If the NORMALISED tree is representable, the output of
    `serialize_xml_string_with_normalizer` (any token parameters, declaration or not, no doctype, no
    indentation) parses back to the normalised tree; markup characters the normalizer produces are escaped. -/
theorem C14_normalizer_roundtrip (N : Str → Str) (env : Env) (p : XmlParams) (t : Tree)
    (hr : Representable env (t.mapText N) = true) (hns : NsWritten N env (genOutputs t []))
    (hdt : p.doctype = none) (hind : p.indentation = none)
    (henc : ∀ d e, p.declaration = some d → d.encoding = some e → Prolog.isEncName e = true)
    (s : Str) (hs : serializeXmlStringWith (normEscapers N) env p t [] = .ok s) :
    ∃ q, parseString .document env s = .ok q ∧ q.tree = t.mapText N ∧ q.env = env ∧
      deepEqual q.tree (t.mapText N) = true := by
  rw [(C14_normalizer_is_premap N env p t [] hns (fun h => absurd hind h)).1] at hs
  exact C14_options_decl env p (t.mapText N) hr hdt hind henc s hs

/-- With indentation: the output parses back to the normalised tree plus the white space of `prettyTree`. -/
theorem C14_normalizer_roundtrip_indent (N : Str → Str) (env : Env) (p : XmlParams) (sup : List Nat) (t : Tree)
    (hr : Representable env (t.mapText N) = true) (hns : NsWritten N env (genOutputs t []))
    (hsp : SpaceKept N t (genOutputs t []))
    (hdt : p.doctype = none) (hind : p.indentation = some sup)
    (henc : ∀ d e, p.declaration = some d → d.encoding = some e → Prolog.isEncName e = true)
    (s : Str) (hs : serializeXmlStringWith (normEscapers N) env p t [] = .ok s) :
    ∃ q, parseString .document env s = .ok q ∧ q.tree = prettyTree sup (t.mapText N) ∧ q.env = env ∧
      AddsWs (t.mapText N) q.tree := by
  rw [(C14_normalizer_is_premap N env p t [] hns (fun _ => hsp)).1] at hs
  exact C14_options_indent env p sup (t.mapText N) hr hdt hind henc s hs

/-- Non-vacuity, closed (tables of Props/C01): `<k t="＂a＆">＜x＆y＞</k>` under `fullwidthNorm`. -/
def c14NormDoc : Tree :=
  .node .document [.node (.element 4) [.node (.attribute 5 ['\uff02', 'a', '\uff06']) [],
    .node (.text ['\uff1c', 'x', '\uff06', 'y', '\uff1e']) []]]
def c14NormText : Str := "<k t=\"&quot;a&amp;\">&lt;x&amp;y&gt;</k>".toList

theorem c14NormDoc_serialises :
    serializeXmlStringWith (normEscapers fullwidthNorm) c01Env {} c14NormDoc [] = .ok c14NormText := by
  unfold c14NormText; rw [String.toList_ofList]; decide +kernel

example : serializeXmlStringWith (normEscapers fullwidthNorm) c01Env {} c14NormDoc [] = .ok c14NormText :=
  c14NormDoc_serialises
example : serializeXmlString c01Env {} (c14NormDoc.mapText fullwidthNorm) [] = .ok c14NormText := by
  unfold c14NormText; rw [String.toList_ofList]; decide +kernel
/-- Without the normalizer the fullwidth forms are written as they are. -/
example : serializeXmlString c01Env {} c14NormDoc [] =
    .ok ("<k t=\"".toList ++ ['\uff02', 'a', '\uff06'] ++ "\">".toList ++ ['\uff1c', 'x', '\uff06', 'y', '\uff1e']
      ++ "</k>".toList) := by
  rw [String.toList_ofList, String.toList_ofList, String.toList_ofList]; decide +kernel
/-- With `k` as CDATA-section element and indentation. -/
example : serializeXmlStringWith (normEscapers fullwidthNorm) c01Env
    { indentation := some [], cdataSectionElements := [4] } c14NormDoc [] =
    .ok "<k t=\"&quot;a&amp;\"><![CDATA[<x&y>]]></k>\n".toList := by
  rw [String.toList_ofList]; decide +kernel
theorem c14NormDoc_domain :
    nsClean c01Env = true ∧ Representable c01Env (c14NormDoc.mapText fullwidthNorm) = true := by decide +kernel
example : nsClean c01Env = true ∧ Representable c01Env (c14NormDoc.mapText fullwidthNorm) = true := c14NormDoc_domain
example : ∃ q, parseString .document c01Env c14NormText = .ok q ∧ q.tree = c14NormDoc.mapText fullwidthNorm := by
  obtain ⟨q, h1, h2, _⟩ := C14_normalizer_roundtrip fullwidthNorm c01Env {} c14NormDoc c14NormDoc_domain.2
    (nsWritten_of_fixed _ _ (fullwidthNorm_fixes_ns c01Env c14NormDoc_domain.1) _) rfl rfl
    (by intro d e hd; cases hd) c14NormText c14NormDoc_serialises
  exact ⟨q, h1, h2⟩

/-- `hns` is necessary: a namespace URI with a fullwidth ampersand is normalised (and then escaped) on its way
    into the `xmlns` declaration, but is no string of the tree. -/
def c14NsEnv : Env :=
  ⟨[[], xmlNamespaceUri, ['u', '\uff06']], [[], ['x', 'm', 'l']],
   [(['s', 'p', 'a', 'c', 'e'], 1), (['i', 'd'], 1), (['r'], 2)]⟩
theorem C14_normalizer_ns_necessary :
    let t : Tree := .node (.element 2) [.node (.namespace 0 2) []]
    serializeXmlStringWith (normEscapers fullwidthNorm) c14NsEnv {} t [] = .ok "<r xmlns=\"u&amp;\"/>".toList ∧
    serializeXmlString c14NsEnv {} (t.mapText fullwidthNorm) [] = .ok ("<r xmlns=\"u".toList ++ ['\uff06'] ++ "\"/>".toList) ∧
    ¬ NsWritten fullwidthNorm c14NsEnv (genOutputs t []) := by
  rw [String.toList_ofList, String.toList_ofList, String.toList_ofList]; decide +kernel

/-- `hsp` is necessary: a normalizer that turns `x` into `preserve` writes `xml:space="preserve"`, but `Pretty`
    has read `x` and indents the content; the normalised tree is not indented. -/
def c14SpaceNorm (s : Str) : Str := if s = ['x'] then spacePreserve else s
theorem C14_normalizer_space_necessary :
    let t : Tree := .node (.element 4) [.node (.attribute 0 ['x']) [], .node (.element 5) []]
    serializeXmlStringWith (normEscapers c14SpaceNorm) c01Env { indentation := some [] } t [] =
      .ok "<k xml:space=\"preserve\">\n  <t/>\n</k>\n".toList ∧
    serializeXmlString c01Env { indentation := some [] } (t.mapText c14SpaceNorm) [] =
      .ok "<k xml:space=\"preserve\"><t/></k>\n".toList ∧
    elementSpace (t.mapText c14SpaceNorm) ≠ elementSpace t := by
  rw [String.toList_ofList, String.toList_ofList]; decide +kernel

/-! ### A writer that fails (`WriterPolicy` of Model/Writer.lean, `serializeXmlWriteW` of Model/XmlDecl.lean) -/

/-- The options theorems above speak about the string `serialize_xml_string` returns.  They transfer to the
    Write-based entry point in front of ANY writer (one that may refuse a `write_all` call at any point, after
    letting part of the bytes through): if `serialize_xml_write(_with_normalizer)` returns `Ok(())`, the writer
    holds exactly the string serialisation under the same parameters (declaration, doctype, indentation, CDATA
    elements, unescaped_gt) — never a truncated one; otherwise the call returned an error (`Io` at the refused
    call, or the serialisation's own) and what the writer holds is a prefix of that string. -/
theorem C14_write_ok_is_complete (P : WriterPolicy) (esc : Escapers) (env : Env) (p : XmlParams) (t : Tree)
    (start : Path) :
    ((serializeXmlWriteW P esc env p t start).2 = .ok () →
        serializeXmlStringWith esc env p t start = .ok (serializeXmlWriteW P esc env p t start).1) ∧
    (∀ s, serializeXmlStringWith esc env p t start = .ok s →
        (serializeXmlWriteW P esc env p t start = (s, .ok ()) ∨
         ((serializeXmlWriteW P esc env p t start).2 = .err .io ∧
          ∃ rest, s = (serializeXmlWriteW P esc env p t start).1 ++ rest))) := by
  obtain ⟨h1, _, _, h4, _⟩ := C16_write_fails_with_io P esc env p t start
  rcases h1 with ⟨b, _, hio⟩ | ⟨_, hall⟩
  · exact ⟨fun hok => (by rw [hio] at hok; cases hok), fun s hs => .inr ⟨by rw [hio], h4 s hs⟩⟩
  · rw [hall]
    exact ⟨fun hok => (bufferToString_ok_iff _ _).mpr (Prod.ext rfl hok),
      fun s hs => .inl ((bufferToString_ok_iff _ s).mp hs)⟩

/-- Non-vacuity: `<k><t/></k>` with indentation and a declaration; a writer with a budget of 6 calls is left
    with a truncated document and the call says `Io`; with enough budget it holds the string serialisation. -/
example :
    let p : XmlParams := { indentation := some [], declaration := some {} }
    let t : Tree := .node (.element 4) [.node (.element 5) []]
    (fun r : Str × Outcome XotError Unit => (String.ofList r.1, r.2)) (serializeXmlWriteW (.budget (some 6)) xmlEscapers c01Env p t [])
      = ("<?xml version=\"1.0\"?>\n<k>\n", .err .io) ∧
    (fun r : Str × Outcome XotError Unit => (String.ofList r.1, r.2)) (serializeXmlWriteW (.budget (some 40)) xmlEscapers c01Env p t [])
      = ("<?xml version=\"1.0\"?>\n<k>\n  <t/>\n</k>\n", .ok ()) ∧
    (serializeXmlString c01Env p t []).okValue?.map String.ofList = some "<?xml version=\"1.0\"?>\n<k>\n  <t/>\n</k>\n" := by
  decide +kernel

/-! ### C14_pretty_only_whitespace on the CONCATENATED bytes

`C14_pretty_only_whitespace` speaks per token: `k1` ends with `>` OR is the empty end-tag token of an element
written `<e/>`.  Here the empty token is looked through (Lemmas/PrettyBytes.lean: on `TextOk` trees the end-tag
event of a childless element directly follows that element's `startTagClose` event — token `/>`, no newline — and
`prettify` gives the empty token indentation 0), so the statement is about the two STRINGS.  `prettyBody k` is what
`serialize_node` writes for the token (`tokenBytes (erasePretty k).2.2`): the plain output is `ks.flatMap prettyBody`
(`C14_pretty_content`), the indented one `ks.flatMap (prettyTokenBytes ·.2.2)` (`C14_pretty_string`). -/

/-- (`TextOk` start nodes — well-formed documents and element-rooted
    subtrees —, every tree around them, every parameter set, arbitrary escaping functions).  Cut both strings
    between two consecutive tokens `k1 k2` that the indenting writer separates (newline behind `k1` or indentation
    in front of `k2`); `run` = the characters the indented output has there and the plain output lacks.  Then
    (a) the indented string is `A ++ run ++ B` and the plain string `A' ++ B'` with `A'`, `B'` the plain bytes of
        the tokens up to `k1` / from `k2` on;
    (b) `run` consists of line feeds and blanks;
    (c) the plain bytes before the run END WITH `>` (`A'.getLast? = some '>'`: not only "the token `k1`", which may
        be empty);
    (d) the plain bytes behind the run BEGIN WITH `<`, and so does the token `k2` itself, without a blank in
        front: the run is maximal in the indented string (`B` begins with `<`).
    Outside `TextOk` the statement fails: `C14_pretty_fragment_text_gets_newline` (fragment `<a/>x`: the run
    behind `<a/>` is followed by `x`).  The run behind the LAST token (`…>` + LF at the end of the output) has no
    `k2`: for it `C14_pretty_token_kinds` (the token closes markup) is the statement on record. -/
theorem C14_pretty_only_whitespace_bytes (esc : Escapers) (env : Env) (pr : TokenParams) (sup : List Nat)
    (t : Tree) (start : Path) (n : Tree) (inScope : List (Nat × Nat)) (hat : t.at? start = some n)
    (hs : namespacesInScope t start = some inScope) (hok : TextOk n)
    (ks pre post : List (Path × Output × PrettyOutputToken)) (k1 k2 : Path × Output × PrettyOutputToken)
    (h : prettyTokensWith esc env pr sup t start = .ok ks) (hks : ks = pre ++ k1 :: k2 :: post)
    (hw : k1.2.2.newline = true ∨ k2.2.2.indentation > 0) :
    (ks.flatMap (fun k => prettyTokenBytes k.2.2) =
      (pre.flatMap (fun k => prettyTokenBytes k.2.2)
          ++ (if k1.2.2.indentation > 0 then indentBytes k1.2.2.indentation else []) ++ prettyBody k1)
        ++ ((if k1.2.2.newline then prettyNewline else [])
          ++ (if k2.2.2.indentation > 0 then indentBytes k2.2.2.indentation else []))
        ++ (prettyBody k2 ++ (if k2.2.2.newline then prettyNewline else [])
          ++ post.flatMap (fun k => prettyTokenBytes k.2.2))) ∧
    ks.flatMap prettyBody = (pre ++ [k1]).flatMap prettyBody ++ (k2 :: post).flatMap prettyBody ∧
    (∀ k, prettyBody k = tokenBytes (erasePretty k).2.2) ∧
    ((if k1.2.2.newline then prettyNewline else [])
      ++ (if k2.2.2.indentation > 0 then indentBytes k2.2.2.indentation else [])).all isWsChar = true ∧
    ((pre ++ [k1]).flatMap prettyBody).getLast? = some '>' ∧
    ((k2 :: post).flatMap prettyBody).head? = some '<' ∧
    (prettyBody k2).head? = some '<' := by
  obtain ⟨a, b, c⟩ := pretty_whitespace_bytes sup t esc env pr start n inScope hat hs hok ks pre post k1 k2 h hks hw
  refine ⟨?_, ?_, fun _ => rfl, pretty_run_ws k1.2.2 k2.2.2, a, b, c⟩
  · subst hks
    simp only [List.flatMap_append, List.flatMap_cons, prettyTokenBytes, prettyBody, List.append_assoc]
  · subst hks
    simp only [List.flatMap_append, List.flatMap_cons, List.flatMap_nil, List.append_nil, List.append_assoc]

/-- Non-vacuity, closed: `<d><a/><!--c--></d>` (the example of `C14_pretty_only_whitespace`): between the EMPTY
    end-tag token of `<a/>` (newline behind it) and `<!--c-->` (indentation 1) the run is LF + two blanks; the
    plain bytes before it are `<><` + `/>` — ending with `>` although the token `k1` is empty. -/
example :
    let t : Tree := .node .document [.node (.element 5) [.node (.element 2) [], .node (.comment ['c']) []]]
    ∃ ks pre post k1 k2, prettyTokens {} {} [] t [] = .ok ks ∧ ks = pre ++ k1 :: k2 :: post ∧
      k1.2.2.text = [] ∧ k1.2.2.newline = true ∧ k2.2.2.indentation = 1 ∧
      (pre ++ [k1]).flatMap prettyBody = "<></>".toList ∧ (k2 :: post).flatMap prettyBody = "<!--c--></>".toList := by
  refine ⟨_, [_, _, _, _], [_], _, _, rfl, rfl, ?_⟩
  rw [String.toList_ofList, String.toList_ofList]
  decide +kernel

/-! ### Indentation with a comment / processing-instruction / text START node (anywhere in any tree)

`gen_outputs(node)` of such a node is its single event and `Pretty::new` starts with the EMPTY stack whatever
is open above the node: `prettify` answers `(get_indentation(), get_newline()) = (0, true)` for `Comment` /
`ProcessingInstruction` and `(0, false)` for `Text`.  So a comment or PI start node is written with one line
feed behind it — also when it sits in mixed content, under `xml:space="preserve"` or under a suppressed element
of the tree it is taken from — and a text start node is written exactly as without indentation.
(`leafText`, `leafNewline`, `leafFragment`: Lemmas/SerIndentLeaf.lean; the crate agrees on
the `ser` suite's single-node and inner-path cases, e.g. `C s:` with `i` gives `<!---->` + LF.) -/

/-- For a comment / PI / text start node at ANY path of ANY tree (the node is a
    leaf; nothing is assumed about the rest of the tree), any escaping functions, any token parameters, any
    suppress list, with or without declaration, no doctype, indentation on:
    (a) the exact outcome: declaration ++ the node's token ++ `leafNewline` (LF behind a comment or PI, nothing
        behind a text node), or the token's error (`NamespaceInProcessingInstruction`);
    (b) it is the outcome of the same call WITHOUT indentation with that `leafNewline` appended: the two
        outputs differ by at most one trailing line feed, and not at all for a text node. -/
theorem C14_indent_leaf_start (esc : Escapers) (env : Env) (p : XmlParams) (sup : List Nat) (t : Tree)
    (start : Path) (v : Value) (hat : t.at? start = some (.node v [])) (hv : v.isLeafStart = true)
    (hdt : p.doctype = none) (hind : p.indentation = some sup) :
    serializeXmlStringWith esc env p t start =
      Outcome.prependOk p.declBytes
        ((leafText esc env p.tokenParams (t.parentAt? start) v).appendOk (leafNewline v)) ∧
    serializeXmlStringWith esc env p t start =
      (serializeXmlStringWith esc env { p with indentation := none } t start).appendOk (leafNewline v) ∧
    (leafNewline v = [] ∨ leafNewline v = ['\n']) ∧ (v.isText = true → leafNewline v = []) := by
  have h1 := serializeXmlString_leaf esc env p t start v hat hv
  simp only [hdt, hind] at h1
  have aux : ∀ p' : XmlParams, p'.doctype = none → p'.indentation = none → p'.declBytes = p.declBytes →
      p'.tokenParams = p.tokenParams → serializeXmlStringWith esc env p' t start =
        Outcome.prependOk p.declBytes ((leafText esc env p.tokenParams (t.parentAt? start) v).appendOk []) := by
    intro p' a b c d
    rw [serializeXmlString_leaf esc env p' t start v hat hv, a, b, c, d]
  have h2 := aux { p with indentation := none } hdt rfl rfl rfl
  refine ⟨h1, ?_, ?_, ?_⟩
  · rw [h1, h2]
    cases leafText esc env p.tokenParams (t.parentAt? start) v <;> simp [Outcome.appendOk, Outcome.prependOk]
  · cases v <;> simp [leafNewline, prettyNewline]
  · cases v <;> simp [leafNewline, Value.isText]

/-- With a doctype the call on such a node answers `NotElement`, indentation or not. -/
theorem C14_indent_leaf_start_doctype (esc : Escapers) (env : Env) (p : XmlParams) (t : Tree)
    (start : Path) (v : Value) (hat : t.at? start = some (.node v [])) (hv : v.isLeafStart = true)
    (d : DocType) (hdt : p.doctype = some d) :
    serializeXmlStringWith esc env p t start = .err .notElement := by
  rw [serializeXmlString_leaf esc env p t start v hat hv, hdt]

/-- **C14_indent_leaf_start, round trip** (`parse_fragment`; `parse` rejects a text without a root element):
    `t` any tree that is `nodeOK` everywhere, sane tables, the start node `n` a comment, a PI or a text node
    that is not the child of a CDATA-section element, no declaration (with one `parse_fragment` rejects the text
    at position 0: `C14_options_decl_fragment`), no doctype, indentation on: `parse_fragment` of the output
    returns `leafFragment` of the node, tables unchanged:
      * text start node: `D [ n ]` — exactly the node;
      * comment / PI start node: `D [ n, T "\n" ]` — the node and ONE whitespace-only text node, at the TOP
        level (the trailing line feed; `parse_fragment` keeps top-level white space).  It differs from `D [ n ]`
        only by that added whitespace-only text node (`AddsWs`), as the indentation clause demands, but the
        node is added at top level of a fragment — the case the property's quantifier leaves out ("the
        indentation clause ranges over well-formed documents and element-rooted subtrees").
    A text node under a CDATA-section element: its output is the same with and without indentation
    (`C14_indent_leaf_start` (b)); the reparse of that string as a fragment is not stated here. -/
theorem C14_indent_leaf_start_roundtrip (env : Env) (p : XmlParams) (sup : List Nat) (t : Tree) (start : Path)
    (n : Tree) (henv : envOK env = true) (hok : t.allNodes (nodeOK env) = true)
    (hat : t.at? start = some n) (hv : n.value.isLeafStart = true)
    (hpar : leafPlainParent p.tokenParams (t.parentAt? start) n.value = true)
    (hdecl : p.declaration = none) (hdt : p.doctype = none) (hind : p.indentation = some sup)
    (s : Str) (hs : serializeXmlString env p t start = .ok s) :
    ∃ q, parseString .fragment env s = .ok q ∧ q.tree = leafFragment n.value ∧ q.env = env ∧
      AddsWs (.node .document [n]) q.tree := by
  have hn := subtree_allNodes (nodeOK env) t start n hat hok
  obtain ⟨v, ks⟩ := n
  have hleaf : ks = [] := allNodes_leaf env hn (by cases v <;> simp_all [Tree.value, Value.isLeafStart, Value.isLeafKind])
  subst hleaf
  simp only [Tree.value] at hv hpar ⊢
  obtain ⟨body, hb, rfl⟩ := xmlString_decl_pretty env p t start hdt sup hind s hs
  simp only [XmlParams.declBytes, hdecl, List.nil_append]
  obtain ⟨q, h1, h2, h3⟩ := leaf_indent_roundtrip env p.tokenParams sup t start v hat hv henv
    (allNodes_value env hn) hpar body hb
  refine ⟨q, h1, h2, h3, ?_⟩
  rw [h2]
  cases v <;> simp [Value.isLeafStart] at hv
  · exact AddsWs.refl _
  · exact .node _ (.cons (AddsWs.refl _) (.ins (by decide +kernel) .nil))
  · exact .node _ (.cons (AddsWs.refl _) (.ins (by decide +kernel) .nil))

/-- Non-vacuity, closed (tables of Props/C01; `k` = name 4, `t` = name 5): in `<k><t>x<!--c-->y</t></k>` the
    comment sits in mixed content (no white space may be added there when the document is serialised), yet as a
    START node with indentation it is written `<!--c-->` + LF; the text node `x` is written `x`. -/
def c14LeafDoc : Tree :=
  .node .document [.node (.element 4) [.node (.element 5)
    [.node (.text ['x']) [], .node (.comment ['c']) [], .node (.text ['y']) []]]]

example : serializeXmlString c01Env { indentation := some [] } c14LeafDoc [] = .ok "<k>\n  <t>x<!--c-->y</t>\n</k>\n".toList := by
  rw [String.toList_ofList]; decide +kernel
example : serializeXmlString c01Env { indentation := some [] } c14LeafDoc [0, 0, 1] = .ok "<!--c-->\n".toList := by
  rw [String.toList_ofList]; decide +kernel
example : serializeXmlString c01Env {} c14LeafDoc [0, 0, 1] = .ok "<!--c-->".toList := by
  rw [String.toList_ofList]; decide +kernel
example : serializeXmlString c01Env { indentation := some [] } c14LeafDoc [0, 0, 0] = .ok "x".toList := by
  rw [String.toList_ofList]; decide +kernel
example : serializeXmlString c01Env { indentation := some [], doctype := some (.sys ['d']) } c14LeafDoc [0, 0, 1] =
    .err .notElement := by decide +kernel
example : ∃ q, parseString .fragment c01Env "<!--c-->\n".toList = .ok q ∧
    q.tree = .node .document [.node (.comment ['c']) [], .node (.text ['\n']) []] ∧ q.env = c01Env := by
  obtain ⟨q, h1, h2, h3, _⟩ := C14_indent_leaf_start_roundtrip c01Env { indentation := some [] } [] c14LeafDoc [0, 0, 1]
    (.node (.comment ['c']) []) (by decide +kernel) (by decide +kernel) rfl rfl (by decide +kernel) rfl rfl rfl "<!--c-->\n".toList
    (by rw [String.toList_ofList]; decide +kernel)
  exact ⟨q, h1, h2, h3⟩

/-! ### C14_reachable_indent_roundtrip: indentation on the stores a history can build -/

/-- `C14_options_indent` for every document of every store reached by a
    `PCall` history from `Xot::new()` — `parse` / `parse_fragment` of arbitrary texts and well-kinded extended API
    calls in any order (`C04_reach_full`), text consolidation never switched off.  For every parentless tree `r`
    of the resulting forest whose root is a document node: if the tables are well formed, every node's own VALUE
    is in the XML domain, the `xml:id` values are pairwise different and there is exactly one top-level element
    and no top-level text — value-level conditions only, no structural hypothesis on the tree
    (`C01_reachable_representable_full`) — then for any suppress list, any token parameters, with or without
    declaration, no doctype: `parse` of the indented output returns `prettyTree sup` of the tree, which differs
    from it only by added whitespace-only text nodes; tables unchanged.  The serialisation succeeds iff
    `namesWritable` (second theorem). -/
theorem C14_reachable_indent_roundtrip (env : Env) (cs : List PCall) (hw : ∀ c ∈ cs, c.wellKinded)
    (hoff : ((PStore.init env).run cs).forest.everOff = false)
    (r : HTree) (hr : r ∈ ((PStore.init env).run cs).forest.roots)
    (hdoc : r.value.isDocument = true) (env' : Env) (henv : envOK env' = true)
    (hval : r.erase.allNodes (fun v _ => valueOK env' v) = true)
    (hid : (xmlIdValues env' r.erase).Nodup) (hone : singleRoot r.erase = true)
    (p : XmlParams) (sup : List Nat) (hdt : p.doctype = none) (hind : p.indentation = some sup)
    (henc : ∀ d e, p.declaration = some d → d.encoding = some e → Prolog.isEncName e = true)
    (s : Str) (hs : serializeXmlString env' p r.erase [] = .ok s) :
    ∃ q, parseString .document env' s = .ok q ∧ q.tree = prettyTree sup r.erase ∧ q.env = env' ∧
      AddsWs r.erase q.tree := by
  have hrep := Reach.representable_root_of_values (C04_reach_full env cs hw).1 hoff hr henv hdoc hval hid hone
  exact C14_options_indent env' p sup r.erase hrep hdt hind henc s hs

/-- The instance the property talks about: the tables the history itself leaves in the store. -/
theorem C14_reachable_indent_roundtrip_store (env : Env) (cs : List PCall) (hw : ∀ c ∈ cs, c.wellKinded)
    (S : PStore) (hS : S = (PStore.init env).run cs) (hoff : S.forest.everOff = false)
    (r : HTree) (hr : r ∈ S.forest.roots) (hdoc : r.value.isDocument = true) (henv : envOK S.env = true)
    (hval : r.erase.allNodes (fun v _ => valueOK S.env v) = true)
    (hid : (xmlIdValues S.env r.erase).Nodup) (hone : singleRoot r.erase = true)
    (p : XmlParams) (sup : List Nat) (hdt : p.doctype = none) (hind : p.indentation = some sup)
    (henc : ∀ d e, p.declaration = some d → d.encoding = some e → Prolog.isEncName e = true)
    (s : Str) (hs : serializeXmlString S.env p r.erase [] = .ok s) :
    ∃ q, parseString .document S.env s = .ok q ∧ q.tree = prettyTree sup r.erase ∧ q.env = S.env ∧
      AddsWs r.erase q.tree := by
  subst hS
  exact C14_reachable_indent_roundtrip env cs hw hoff r hr hdoc _ henv hval hid hone p sup hdt hind henc s hs

/-- Elements inside a reachable tree: `C14_indent_roundtrip_inner` for an element at any path of any parentless
    tree of a reachable store whose root is a document node (standalone document of the element). -/
theorem C14_reachable_indent_roundtrip_inner (env : Env) (cs : List PCall) (hw : ∀ c ∈ cs, c.wellKinded)
    (hoff : ((PStore.init env).run cs).forest.everOff = false)
    (r : HTree) (hr : r ∈ ((PStore.init env).run cs).forest.roots)
    (hdoc : r.value.isDocument = true) (env' : Env) (henv : envOK env' = true)
    (hval : r.erase.allNodes (fun v _ => valueOK env' v) = true)
    (hid : (xmlIdValues env' r.erase).Nodup)
    (p : XmlParams) (sup : List Nat) (q : Path) (name : Nat) (ks : List Tree)
    (hat : r.erase.at? q = some (.node (.element name) ks))
    (hdt : p.doctype = none) (hind : p.indentation = some sup)
    (henc : ∀ d e, p.declaration = some d → d.encoding = some e → Prolog.isEncName e = true)
    (s : Str) (hs : serializeXmlString env' p r.erase q = .ok s) :
    ∃ x X, standalone r.erase q = some (.node .document [.node (.element name) (nsLeaves X ++ ks)]) ∧
      Representable env' (.node .document [.node (.element name) (nsLeaves X ++ ks)]) = true ∧
      parseString .document env' s = .ok x ∧
      x.tree = prettyTree sup (.node .document [.node (.element name) (nsLeaves X ++ ks)]) ∧ x.env = env' ∧
      AddsWs (.node .document [.node (.element name) (nsLeaves X ++ ks)]) x.tree := by
  have hrep := Reach.representableFragment_root_of_values (C04_reach_full env cs hw).1 hoff hr henv hdoc hval hid
  exact C14_indent_roundtrip_inner env' p sup r.erase hrep q name ks hat hdt hind henc s hs

/-- Non-vacuity, closed: parse `<k><t>x<k/></t><t/></k>` (`c14Ind`) into the store of `Xot::new()` over the tables
    of Props/C01 — the history `[parse]` —, serialise the document the store then holds with indentation, parse
    again: `prettyTree [] c14Ind`. -/
example : ∃ S r q, S = (PStore.init c01Env).run [.parse .document "<k><t>x<k/></t><t/></k>".toList] ∧
    S.forest.roots = [r] ∧ r.erase = c14Ind ∧ S.env = c01Env ∧
    serializeXmlString S.env { indentation := some [] } r.erase [] = .ok c14IndText ∧
    parseString .document S.env c14IndText = .ok q ∧ q.tree = prettyTree [] c14Ind := by
  obtain ⟨p, hp, ht, he, _⟩ := C14_options_cdata c01Env {} c14Ind (by decide +kernel) "<k><t>x<k/></t><t/></k>".toList
    (by rw [String.toList_ofList]; decide +kernel)
  obtain ⟨h1, h2, _, h4, h5, _⟩ := C01_parse_edit_start c01Env _ p hp
  rw [ht] at h1 h2
  rw [he] at h5
  have hs : serializeXmlString ((PStore.init c01Env).run [.parse .document "<k><t>x<k/></t><t/></k>".toList]).env
      { indentation := some [] } (HTree.ofTree 0 c14Ind).erase [] = .ok c14IndText := by
    rw [h5, h2]; exact c14Ind_serialises
  obtain ⟨q, k1, k2, _⟩ := C14_reachable_indent_roundtrip_store c01Env [.parse .document "<k><t>x<k/></t><t/></k>".toList]
    (fun c hc => by rcases List.mem_singleton.mp hc with rfl; trivial) _ rfl h4 (HTree.ofTree 0 c14Ind) (by rw [h1]; simp)
    (by rw [HTree.value_ofTree]; rfl) (by rw [h5]; decide +kernel) (by rw [h5, h2]; decide +kernel) (by rw [h5, h2]; decide +kernel)
    (by rw [h2]; decide +kernel) { indentation := some [] } [] rfl rfl (by intro d e hd; cases hd) c14IndText hs
  exact ⟨_, _, q, rfl, h1, h2, h5, hs, k1, by rw [k2, h2]⟩

end XotModel.Props
