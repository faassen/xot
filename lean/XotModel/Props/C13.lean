/-
  C13 — deep_equal is canonical-form equivalence; its variants relax it as documented.
  Property theorems only (helper lemmas and the specification-side definitions `stripCommentsPis`,
  `Canon.relPos`, `AttrPerm`, `DeclEdit`, `attrViewsNodup`, `canonStr`: `XotModel/Lemmas/Compare*.lean`).

  `Tree.valid` is the structural hypothesis: at every node the children come as namespaces,
  attributes, normal nodes; attribute names are unique per node; attribute / namespace nodes
  are leaves.  A name id stands for the expanded name (interning is one-to-one, C08).
-/
import XotModel.Lemmas.CompareCanon
import XotModel.Lemmas.CompareVariants
import XotModel.Lemmas.CompareShallow
import XotModel.Lemmas.CompareText
import XotModel.Lemmas.CompareStrip
import XotModel.Lemmas.CompareCustom
import XotModel.Lemmas.CompareNames
import XotModel.Lemmas.ReachCompare
import XotModel.Lemmas.ReachHist
import XotModel.Props.C04

namespace XotModel.Props
open XotModel

/-! ### deep_equal ⇔ equal canonical forms -/

/-- For every pair of nodes of structurally valid trees — documents, elements, text, comments, PIs,
    and also attribute nodes (canonical form: name, value) and namespace nodes (prefix,
    namespace) — `deep_equal` holds exactly when the canonical forms are equal. -/
theorem C13_iff (a b : Tree) (va : a.valid = true) (vb : b.valid = true) :
    deepEqual a b = true ↔ canon a = canon b := deepEqual_iff_canon a b va vb

/-- Attribute nodes are compared by name and value (as of /repo a361fb0). -/
theorem C13_attribute_nodes (n m : Nat) (v w : Str) :
    deepEqual (.node (.attribute n v) []) (.node (.attribute m w) []) = true ↔ n = m ∧ v = w := by
  rw [C13_iff _ _ (by simp [Tree.valid, orderedKids, attrNamesNodup, attrPairs, Tree.valid.validList])
    (by simp [Tree.valid, orderedKids, attrNamesNodup, attrPairs, Tree.valid.validList])]
  simp [canon, cvalue, canon.canonList]

/-- Namespace nodes are compared by prefix and namespace. -/
theorem C13_namespace_nodes (p q n m : Nat) :
    deepEqual (.node (.namespace p n) []) (.node (.namespace q m) []) = true ↔ p = q ∧ n = m := by
  rw [C13_iff _ _ (by simp [Tree.valid, orderedKids, attrNamesNodup, attrPairs, Tree.valid.validList])
    (by simp [Tree.valid, orderedKids, attrNamesNodup, attrPairs, Tree.valid.validList])]
  simp [canon, cvalue, canon.canonList]

/-! ### Equivalence relation (every node kind) -/

theorem C13_reflexive (a : Tree) (va : a.valid = true) : deepEqual a a = true :=
  (C13_iff a a va va).mpr rfl

theorem C13_symmetric (a b : Tree) (va : a.valid = true) (vb : b.valid = true) :
    deepEqual a b = deepEqual b a := by
  have h1 := C13_iff a b va vb
  have h2 := C13_iff b a vb va
  cases hab : deepEqual a b <;> cases hba : deepEqual b a <;> simp_all

theorem C13_transitive (a b c : Tree) (va : a.valid = true) (vb : b.valid = true) (vc : c.valid = true)
    (hab : deepEqual a b = true) (hbc : deepEqual b c = true) : deepEqual a c = true :=
  (C13_iff a c va vc).mpr (((C13_iff a b va vb).mp hab).trans ((C13_iff b c vb vc).mp hbc))

/-! ### The filtered / custom comparison -/

/-- `advanced_deep_equal(a, b, filter, cmp)` on two normal nodes, for all trees, filters and
    comparisons, is structural equality (`compareValue cmp` node by node) of the forests of kept
    nodes, children of dropped nodes hoisted in place (`proj`). -/
theorem C13_advanced (f : NodeFilter) (cmp : TextCmp) (a b : Tree)
    (na : a.value.isNormal = true) (nb : b.value.isNormal = true) :
    advancedDeepEqual f cmp a b = forestEqv cmp (proj f a) (proj f b) := advancedDeepEqual_eq f cmp a b na nb

/-- As soon as one node is an attribute / namespace node the two nodes are compared by value,
    whatever the filter. -/
theorem C13_advanced_abnormal (f : NodeFilter) (cmp : TextCmp) (a b : Tree)
    (h : ¬ a.value.isNormal = true ∨ ¬ b.value.isNormal = true) :
    advancedDeepEqual f cmp a b = compareValue cmp a b := advancedDeepEqual_abnormal f cmp a b h

/-- With no filter and any text comparison, any two nodes of valid trees: the canonical forms are
    related up to `cmp` (`Canon.rel`: same kinds and names, attribute maps of the same size with
    `cmp`-related values name by name, `cmp` on text and PI data, children pairwise). -/
theorem C13_advanced_all (cmp : TextCmp) (a b : Tree) (va : a.valid = true) (vb : b.valid = true) :
    advancedDeepEqual (fun _ => true) cmp a b = Canon.rel cmp (canon a) (canon b) :=
  advancedDeepEqual_all_rel cmp a b va vb

/-! ### What deep_equal does not see: prefixes, declarations, attribute order -/

/-- Namespace nodes (declarations, hence also the prefixes they bind) are invisible: two trees
    that agree after erasing every namespace node are `deep_equal`. -/
theorem C13_ignores_declarations (a b : Tree) (va : a.valid = true) (vb : b.valid = true)
    (h : cmpStripNs a = cmpStripNs b) : deepEqual a b = true :=
  (C13_iff a b va vb).mpr (by rw [← canon_stripNs a, ← canon_stripNs b, h])

/-- Prefix only: rebinding the prefix of a declaration anywhere changes nothing. (Names carry no
    prefix in xot: a prefix lives only in a namespace node.) -/
theorem C13_ignores_prefix (v : Value) (pre rest : List Tree) (p q ns : Nat)
    (va : (Tree.node v (pre ++ .node (.namespace p ns) [] :: rest)).valid = true)
    (vb : (Tree.node v (pre ++ .node (.namespace q ns) [] :: rest)).valid = true) :
    deepEqual (.node v (pre ++ .node (.namespace p ns) [] :: rest))
              (.node v (pre ++ .node (.namespace q ns) [] :: rest)) = true := by
  refine C13_ignores_declarations _ _ va vb ?_
  have h : ∀ (l : List Tree) (x : Nat), stripNsList (l ++ .node (.namespace x ns) [] :: rest) = stripNsList (l ++ rest) := by
    intro l x
    induction l with
    | nil => simp [stripNsList, Tree.value, Value.category]
    | cons k ks ih => simp only [List.cons_append, stripNsList, ih]
  simp only [cmpStripNs, h]

/-- Attribute order only: permuting the attribute nodes of the compared node changes nothing
    (at any depth the canonical form holds the attributes sorted by name: `canon`). -/
theorem C13_ignores_attribute_order (v : Value) (pre A A' rest : List Tree) (p : A.Perm A')
    (hA : ∀ k ∈ A, ¬ k.value.isNormal = true)
    (va : (Tree.node v (pre ++ A ++ rest)).valid = true) (vb : (Tree.node v (pre ++ A' ++ rest)).valid = true) :
    deepEqual (.node v (pre ++ A ++ rest)) (.node v (pre ++ A' ++ rest)) = true :=
  (C13_iff _ _ va vb).mpr (canon_attr_perm v pre A A' rest p hA (valid_node va).2.1)

/-! ### deep_equal_xpath -/

/-- On two elements `deep_equal_xpath` takes the first arm of its match. -/
theorem deepEqualXpath_elements (cmp : TextCmp) (a b : Tree) (ea : a.value.isElement = true)
    (eb : b.value.isElement = true) : deepEqualXpath cmp a b = advancedDeepEqual xpathFilter cmp a b := by
  obtain ⟨n, hn⟩ : ∃ n, a.value = .element n := by
    cases h : a.value <;> simp [h, Value.isElement] at ea ⊢
  obtain ⟨m, hm⟩ : ∃ m, b.value = .element m := by
    cases h : b.value <;> simp [h, Value.isElement] at eb ⊢
  unfold deepEqualXpath
  rw [hn, hm]

/-- On two elements or two documents `deep_equal_xpath` relates, up to the supplied comparison,
    the canonical forms of the trees with comments and PIs (everything but elements and text)
    discarded below the compared nodes.  `validRootFor xpathKeep`: well-ordered children, unique
    attribute names, and the discarded nodes and attribute / namespace nodes are leaves. -/
theorem C13_xpath (cmp : TextCmp) (a b : Tree) (va : a.validRootFor xpathKeep = true)
    (vb : b.validRootFor xpathKeep = true)
    (h : (a.value.isElement = true ∧ b.value.isElement = true) ∨ (a.value = .document ∧ b.value = .document)) :
    deepEqualXpath cmp a b = Canon.rel cmp (canon (discard xpathKeep a)) (canon (discard xpathKeep b)) := by
  rcases h with ⟨ea, eb⟩ | ⟨da, db⟩
  · rw [deepEqualXpath_elements cmp a b ea eb]; exact xpath_elements_rel cmp a b va vb ea eb
  · have : deepEqualXpath cmp a b = advancedDeepEqual xpathFilter cmp a b := by
      simp [deepEqualXpath, da, db]
    rw [this]; exact xpath_documents_rel cmp a b va vb da db

/-- Any other pair of nodes (a comment, a PI, a text, an attribute, mixed kinds …): the two nodes
    themselves are compared, with `cmp` on text, attribute value and PI data. -/
theorem C13_xpath_other (cmp : TextCmp) (a b : Tree)
    (oa : orderedKids a.kids = true) (ob : orderedKids b.kids = true) (nb : attrNamesNodup b.kids = true)
    (h : ¬ ((a.value.isElement = true ∧ b.value.isElement = true) ∨ (a.value = .document ∧ b.value = .document))) :
    deepEqualXpath cmp a b = CValue.rel cmp (canon a).value (canon b).value := by
  have : deepEqualXpath cmp a b = compareValue cmp a b := by
    unfold deepEqualXpath
    split
    · next h1 h2 => exact absurd (Or.inl ⟨by rw [h1]; rfl, by rw [h2]; rfl⟩) h
    · next h1 h2 => exact absurd (Or.inr ⟨h1, h2⟩) h
    · rfl
  rw [this, compareValue_eq_rel oa ob nb]
  cases a; cases b; rfl

/-! ### deep_equal_children -/

/-- `deep_equal_children` compares the child sequences only. -/
theorem C13_children (a b : Tree) (va : a.valid = true) (vb : b.valid = true) :
    deepEqualChildren a b = true ↔ (canon a).kids = (canon b).kids := deepEqualChildren_iff a b va vb

/-! ### shallow_equal, shallow_equal_ignore_attributes -/

/-- `shallow_equal_ignore_attributes` compares the node itself and its attributes except the
    listed names — for every ignore list, with repeated and absent names (as of /repo 3b5a0f1).
    Only the compared nodes' own children have to be well
    ordered with unique attribute names; `a`'s attribute list must have machine size (its counter
    is a `usize`). -/
theorem C13_shallow_ignore (a b : Tree) (ign : List Nat)
    (oa : orderedKids a.kids = true) (ob : orderedKids b.kids = true)
    (na : attrNamesNodup a.kids = true) (nb : attrNamesNodup b.kids = true)
    (la : a.attrLen < usizeModulus) :
    shallowEqualIgnoreAttributes a b ign = true ↔
      cvalueIgnoring ign a.value a.kids = cvalueIgnoring ign b.value b.kids :=
  shallowEqualIgnore_iff a b ign oa ob na nb la

/-- `shallow_equal` compares the node itself and its attributes (any two nodes, attribute and
    namespace nodes included). -/
theorem C13_shallow (a b : Tree)
    (oa : orderedKids a.kids = true) (ob : orderedKids b.kids = true)
    (na : attrNamesNodup a.kids = true) (nb : attrNamesNodup b.kids = true)
    (la : a.attrLen < usizeModulus) :
    shallowEqual a b = true ↔ (canon a).value = (canon b).value := by
  have h := shallowEqualIgnore_iff a b [] oa ob na nb la
  rw [cvalueIgnoring_nil, cvalueIgnoring_nil] at h
  cases a; cases b; exact h

/-! ### string_value -/

/-- `string_value` of a document or element is the concatenation of its descendant text in
    document order (`Canon.text` of the canonical form). `contentLeaves`: text, comment and PI
    nodes have no children. -/
theorem C13_string_value (env : Env) (t : Tree) (hv : t.valid = true) (hl : t.contentLeaves = true)
    (h : t.value = .document ∨ ∃ n, t.value = .element n) :
    stringValue env t = (canon t).text := by
  have hn : t.value.isNormal = true := by
    rcases h with h | ⟨n, h⟩ <;> simp [h, Value.isNormal, Value.category]
  have hs := textSpec t hv hl
  rw [hn] at hs
  simp only [↓reduceIte] at hs
  rw [← hs, ← descendantsToString_eq]
  rcases h with h | ⟨n, h⟩ <;> simp [stringValue, h]

/-- … and of any other node its own content. -/
theorem C13_string_value_other (env : Env) (ks : List Tree) (s : Str) (n p ns : Nat) (d : Option Str) :
    stringValue env (.node (.text s) ks) = s ∧ stringValue env (.node (.comment s) ks) = s ∧
    stringValue env (.node (.pi n d) ks) = d.getD [] ∧ stringValue env (.node (.attribute n s) ks) = s ∧
    stringValue env (.node (.namespace p ns) ks) = env.namespaceStr ns :=
  ⟨rfl, rfl, rfl, rfl, rfl⟩

/-! ### Non-vacuity -/

/-- Non-vacuity: a valid pair of elements differing in prefixes, declarations and attribute order. -/
example :
    deepEqual (.node (.element 6) [.node (.namespace 2 2) [], .node (.attribute 3 ['v']) [], .node (.attribute 4 []) [],
                                   .node (.text ['x']) []])
              (.node (.element 6) [.node (.attribute 4 []) [], .node (.attribute 3 ['v']) [], .node (.text ['x']) []]) = true :=
  (C13_iff _ _ (by decide +kernel) (by decide +kernel)).mpr rfl


/-- `C13_ignores_prefix` / `C13_ignores_attribute_order` / `C13_children`: the hypotheses hold of
    concrete trees. -/
example : deepEqual (.node (.element 2) [.node (.namespace 2 2) [], .node (.text ['x']) []])
    (.node (.element 2) [.node (.namespace 3 2) [], .node (.text ['x']) []]) = true :=
  C13_ignores_prefix (.element 2) [] [.node (.text ['x']) []] 2 3 2 (by decide +kernel) (by decide +kernel)

example : deepEqual (.node (.element 2) [.node (.attribute 3 ['v']) [], .node (.attribute 4 []) [], .node (.text ['x']) []])
    (.node (.element 2) [.node (.attribute 4 []) [], .node (.attribute 3 ['v']) [], .node (.text ['x']) []]) = true :=
  C13_ignores_attribute_order (.element 2) [] [.node (.attribute 3 ['v']) [], .node (.attribute 4 []) []]
    [.node (.attribute 4 []) [], .node (.attribute 3 ['v']) []] [.node (.text ['x']) []]
    (List.Perm.swap _ _ _) (by decide +kernel) (by decide +kernel) (by decide +kernel)

example : deepEqualChildren (.node (.element 2) [.node (.attribute 3 ['v']) [], .node (.text ['x']) []])
    (.node .document [.node (.text ['x']) []]) = true :=
  (C13_children _ _ (by decide +kernel) (by decide +kernel)).mpr rfl

/-- `C13_xpath`: two valid elements that differ in a comment and in the case of a text. -/
example : Tree.validRootFor xpathKeep
    (.node (.element 2) [.node (.attribute 3 ['v']) [], .node (.comment ['c']) [], .node (.text ['x']) []]) = true := by
  decide +kernel

/-- `C13_shallow_ignore`: an ignore list with a repeated and an absent name; then `<a/>` vs
    `<a b="v"/>` ignoring `[b, b]`. -/
example : shallowEqualIgnoreAttributes (.node (.element 2) [.node (.attribute 3 ['v']) []])
    (.node (.element 2) [.node (.attribute 4 ['w']) [], .node (.attribute 3 ['v']) []]) [4, 17, 4] = true :=
  (C13_shallow_ignore _ _ _ (by decide +kernel) (by decide +kernel) (by decide +kernel) (by decide +kernel) (by decide +kernel)).mpr rfl

example : shallowEqualIgnoreAttributes (.node (.element 2) []) (.node (.element 2) [.node (.attribute 3 ['v']) []])
    [3, 3] = true :=
  (C13_shallow_ignore _ _ _ (by decide +kernel) (by decide +kernel) (by decide +kernel) (by decide +kernel) (by decide +kernel)).mpr rfl

/-- `C13_iff` on attribute nodes: two attribute nodes that differ in name and value are not equal. -/
example : deepEqual (.node (.attribute 3 ['v']) []) (.node (.attribute 4 ['w']) []) = false := by
  have := C13_attribute_nodes 3 4 ['v'] ['w']
  cases h : deepEqual (.node (.attribute 3 ['v']) []) (.node (.attribute 4 ['w']) [])
  · rfl
  · exact absurd (this.mp h).1 (by decide +kernel)

/-- `C13_string_value` on a valid element with nested text, a comment and an attribute. -/
example : stringValue {} (.node (.element 2) [.node (.attribute 3 ['v']) [], .node (.text ['x']) [],
    .node (.element 3) [.node (.text ['y']) []], .node (.comment ['c']) []]) = ['x', 'y'] :=
  (C13_string_value {} _ (by decide +kernel) (by decide +kernel) (Or.inr ⟨2, rfl⟩)).trans rfl

/-! ### deep_equal_xpath = the plain comparison of the trees without comments and PIs -/

/-- Deleting every comment and PI (with whatever hangs under it) from a structurally valid tree
    gives a structurally valid tree. -/
theorem C13_stripped_valid (a : Tree) (va : a.valid = true) : a.stripCommentsPis.valid = true :=
  valid_stripCommentsPis a va

/-- `deep_equal_xpath(a, b, cmp)` on element/element or document/document IS
    `advanced_deep_equal(strip a, strip b, |_| true, cmp)`: the unfiltered comparison, with the
    supplied text comparison, of the trees with every comment and PI below the compared nodes
    deleted.  Nothing is merged: where a comment separated two text nodes the stripped tree has two
    adjacent text nodes, and they are compared as two nodes (see `C13_xpath_no_text_merge`).
    Hypotheses: children well ordered, attribute names unique, comments / PIs / attribute /
    namespace nodes are leaves (`validRootFor xpathKeep`); no document node below the root. -/
theorem C13_xpath_stripped_cmp (cmp : TextCmp) (a b : Tree) (va : a.validRootFor xpathKeep = true)
    (vb : b.validRootFor xpathKeep = true) (da : a.noInnerDocument = true) (db : b.noInnerDocument = true)
    (h : (a.value.isElement = true ∧ b.value.isElement = true) ∨ (a.value = .document ∧ b.value = .document)) :
    deepEqualXpath cmp a b = advancedDeepEqual (fun _ => true) cmp a.stripCommentsPis b.stripCommentsPis := by
  have : deepEqualXpath cmp a b = advancedDeepEqual xpathFilter cmp a b := by
    rcases h with ⟨ea, eb⟩ | ⟨da', db'⟩
    · exact deepEqualXpath_elements cmp a b ea eb
    · simp [deepEqualXpath, da', db']
  rw [this, strip_eq_discard a da, strip_eq_discard b db]
  exact xpath_eq_advanced_discard cmp a b va vb h

/-- With `==` as the text comparison, on structurally valid trees whose text / comment / PI nodes
    are leaves and that hold no document node below the root:
    `deep_equal_xpath(a, b, ==) = deep_equal(strip a, strip b)`, "the same relation after
    discarding comments and PIs below the compared nodes" (and `strip a`, `strip b` are valid). -/
theorem C13_xpath_stripped (a b : Tree) (va : a.valid = true) (vb : b.valid = true)
    (la : a.contentLeaves = true) (lb : b.contentLeaves = true)
    (da : a.noInnerDocument = true) (db : b.noInnerDocument = true)
    (h : (a.value.isElement = true ∧ b.value.isElement = true) ∨ (a.value = .document ∧ b.value = .document)) :
    deepEqualXpath strEq a b = deepEqual a.stripCommentsPis b.stripCommentsPis :=
  C13_xpath_stripped_cmp strEq a b (validRootFor_xpathKeep_of_valid a va la da)
    (validRootFor_xpathKeep_of_valid b vb lb db) da db h

/-- "Discarding" deletes nodes and merges nothing.  `<e>x<!--c-->y</e>` against `<e>xy</e>`:
    `deep_equal_xpath` is false (the stripped tree has the two text children `x`, `y`), although
    the string values agree and although removing the comment through `Xot::remove` (which
    consolidates adjacent text) yields a tree `deep_equal` to `<e>xy</e>`.  Observed on /repo
    (same answers).  This is XPath F&O 3.1 fn:deep-equal ("the presence of a comment … if it
    causes a text node to be split into two text nodes, may affect the result"). -/
theorem C13_xpath_no_text_merge :
    let a := Tree.node (.element 2) [.node (.text ['x']) [], .node (.comment ['c']) [], .node (.text ['y']) []]
    let b := Tree.node (.element 2) [.node (.text ['x', 'y']) []]
    deepEqualXpath strEq a b = false ∧
    a.stripCommentsPis = .node (.element 2) [.node (.text ['x']) [], .node (.text ['y']) []] ∧
    deepEqual a.stripCommentsPis b = false ∧ stringValue {} a = stringValue {} b := by
  intro a b
  exact ⟨by decide +kernel, rfl, by decide +kernel, by decide +kernel⟩

/-- `C13_xpath_stripped`: hypotheses satisfiable, both outcomes occur. -/
example : deepEqualXpath strEq
    (.node (.element 2) [.node (.attribute 3 ['v']) [], .node (.comment ['c']) [], .node (.text ['x']) []])
    (.node (.element 2) [.node (.attribute 3 ['v']) [], .node (.text ['x']) [], .node (.pi 4 none) []]) = true := by
  rw [C13_xpath_stripped _ _ (by decide +kernel) (by decide +kernel) (by decide +kernel) (by decide +kernel) (by decide +kernel) (by decide +kernel) (Or.inl ⟨rfl, rfl⟩)]
  decide +kernel

example : (Tree.node (.element 2) [.node (.attribute 3 ['v']) [], .node (.comment ['c']) [], .node (.text ['x']) []]
    ).stripCommentsPis.valid = true :=
  C13_stripped_valid _ (by decide +kernel)

/-! ### The canonical form is a sorted normal form -/

/-- In the canonical form of a valid tree every element's attribute list is strictly sorted by
    name (`Canon.sorted`), and on such forms the finite-map relation `Canon.rel` (attribute maps:
    same size + lookup) IS the plain simultaneous walk `Canon.relPos` comparing the attribute lists
    position by position; so is `advanced_deep_equal` without filter, for every comparison. -/
theorem C13_canon_sorted (cmp : TextCmp) (a b : Tree) (va : a.valid = true) (vb : b.valid = true) :
    (canon a).sorted ∧ Canon.rel cmp (canon a) (canon b) = Canon.relPos cmp (canon a) (canon b) ∧
    advancedDeepEqual (fun _ => true) cmp a b = Canon.relPos cmp (canon a) (canon b) := by
  have h := Canon.rel_eq_relPos cmp _ _ (canon_sorted a va) (canon_sorted b vb)
  exact ⟨canon_sorted a va, h, (C13_advanced_all cmp a b va vb).trans h⟩

/-- With `==` the position-wise walk is literally equality of the normal forms (all forms). -/
theorem C13_canon_sorted_eq (x y : Canon) : Canon.relPos strEq x y = true ↔ x = y :=
  Canon.relPos_strEq_iff x y

/-- The underlying fact on attribute lists: strictly sorted by name ⇒ "same size and every entry
    of the first found in the second with a related value" = position-wise comparison. -/
theorem C13_attrs_sorted (cmp : TextCmp) (a b : List (Nat × Str)) (ha : strictSorted a) (hb : strictSorted b) :
    attrsRel cmp a b = attrsRelPos cmp a b := attrsRel_eq_attrsRelPos cmp ha hb

example : Canon.relPos strEq
    (canon (.node (.element 6) [.node (.attribute 4 []) [], .node (.attribute 3 ['v']) []]))
    (canon (.node (.element 6) [.node (.attribute 3 ['v']) [], .node (.attribute 4 []) []])) = true := by
  rw [← (C13_canon_sorted strEq _ _ (by decide +kernel) (by decide +kernel)).2.2]; decide +kernel

/-! ### Attribute order and declarations, at every depth -/

/-- `a'` = `a` with the attribute children of any set of nodes (at any depth) permuted: still
    structurally valid, same canonical form, `deep_equal`. -/
theorem C13_ignores_attribute_order_deep (a a' : Tree) (h : AttrPerm a a') (va : a.valid = true) :
    a'.valid = true ∧ canon a = canon a' ∧ deepEqual a a' = true :=
  ⟨(h.spec va).2, (h.spec va).1, (C13_iff a a' va (h.spec va).2).mpr (h.spec va).1⟩

/-- `a'` = `a` after namespace nodes were added, removed or replaced anywhere, any number of
    times (`DeclEdit`): `deep_equal` (both trees valid: a declaration may not be put after an
    attribute). -/
theorem C13_ignores_declarations_deep (a a' : Tree) (h : DeclEdit a a') (va : a.valid = true)
    (va' : a'.valid = true) : deepEqual a a' = true :=
  C13_ignores_declarations a a' va va' h.stripNs_eq

/-- Non-vacuity: attributes swapped one level down, a declaration added one level down. -/
example : deepEqual
    (.node .document [.node (.element 2) [.node (.attribute 3 ['v']) [], .node (.attribute 4 []) [], .node (.text ['x']) []]])
    (.node .document [.node (.element 2) [.node (.attribute 4 []) [], .node (.attribute 3 ['v']) [], .node (.text ['x']) []]])
    = true :=
  (C13_ignores_attribute_order_deep _ _
    (.node .document [] [] [] []
      [.node (.element 2) [.node (.attribute 3 ['v']) [], .node (.attribute 4 []) [], .node (.text ['x']) []]]
      [.node (.element 2) [.node (.attribute 4 []) [], .node (.attribute 3 ['v']) [], .node (.text ['x']) []]]
      .nil (fun _ h => nomatch h) (.refl _)
      (.cons (.node (.element 2) [] [] [.node (.attribute 3 ['v']) [], .node (.attribute 4 []) []]
          [.node (.attribute 4 []) [], .node (.attribute 3 ['v']) []] [.node (.text ['x']) []] [.node (.text ['x']) []]
          .nil (by decide +kernel) (.swap _ _ _) (AttrPermList.refl _)) .nil))
    (by decide +kernel)).2.2

example : deepEqual (.node .document [.node (.element 2) [.node (.text ['x']) []]])
    (.node .document [.node (.element 2) [.node (.namespace 2 2) [], .node (.text ['x']) []]]) = true :=
  C13_ignores_declarations_deep _ _
    (.child .document [] [] _ _ (.add (.element 2) [] [.node (.text ['x']) []] (.node (.namespace 2 2) []) rfl))
    (by decide +kernel) (by decide +kernel)

/-! ### text_content, text_content_str -/

/-- `text_content_str` (for any node whose children are well ordered): `Some("")` without
    children, the text of an only child that is a text node, `None` otherwise; `text_content`
    likewise but `None` without children. -/
theorem C13_text_content (v : Value) (ks : List Tree) (ho : orderedKids ks = true) :
    textContentStr (.node v ks) = (match (Tree.node v ks).normalKids with
      | [] => some []
      | [c] => c.textStr
      | _ => none) ∧
    textContent (.node v ks) = (match (Tree.node v ks).normalKids with
      | [c] => c.textStr
      | _ => none) :=
  ⟨textContentStr_of_normalKids (normalKids_normal ho), textContent_of_normalKids (normalKids_normal ho)⟩

/-- On the canonical form (valid tree, text / comment / PI nodes are leaves): `Some(s)` exactly
    when there is no child and `s` is empty, or the only child is the text node `s`. -/
theorem C13_text_content_canon (t : Tree) (hv : t.valid = true) (hl : t.contentLeaves = true) (s : Str) :
    (textContentStr t = some s ↔ ((canon t).kids = [] ∧ s = []) ∨ (canon t).kids = [.node (.text s) []]) ∧
    (textContent t = some s ↔ (canon t).kids = [.node (.text s) []]) :=
  ⟨textContentStr_iff_canon t hv hl s, textContent_iff_canon t hv hl s⟩

/-- Relation to `string_value`: when `text_content_str` of a document or element answers, it
    answers the string value (the converse fails: `<a><b>x</b></a>` has string value `x`). -/
theorem C13_text_content_string_value (env : Env) (t : Tree) (hv : t.valid = true) (hl : t.contentLeaves = true)
    (h : t.value = .document ∨ ∃ n, t.value = .element n) (s : Str) (hs : textContentStr t = some s) :
    stringValue env t = s := by
  rw [C13_string_value env t hv hl h]
  obtain ⟨v, ks⟩ := t
  have hk := (textContentStr_iff_canon _ hv hl s).mp hs
  simp only [canon, Canon.kids] at hk
  have hval : cvalue v ks = .document ∨ ∃ n a, cvalue v ks = .element n a := by
    rcases h with h | ⟨n, h⟩ <;> simp only [Tree.value] at h <;> subst h
    · exact Or.inl rfl
    · exact Or.inr ⟨_, _, rfl⟩
  rcases hk with ⟨hk, rfl⟩ | hk <;> rcases hval with hc | ⟨n, a, hc⟩ <;>
    simp [canon, hk, hc, Canon.text, Canon.text.textList]

example : textContentStr (.node (.element 2) [.node (.attribute 3 ['v']) []]) = some [] ∧
    textContentStr (.node (.element 2) [.node (.attribute 3 ['v']) [], .node (.text ['x']) []]) = some ['x'] ∧
    textContentStr (.node (.element 2) [.node (.text ['x']) [], .node (.comment []) []]) = none ∧
    textContentStr (.node (.element 2) [.node (.element 3) [.node (.text ['x']) []]]) = none ∧
    stringValue {} (.node (.element 2) [.node (.element 3) [.node (.text ['x']) []]]) = ['x'] := by decide +kernel

example : stringValue {} (.node (.element 2) [.node (.attribute 3 ['v']) [], .node (.text ['x']) []]) = ['x'] :=
  C13_text_content_string_value {} _ (by decide +kernel) (by decide +kernel) (Or.inr ⟨2, rfl⟩) _ (by decide +kernel)

/-! ### deep_equal on arbitrary (possibly ill-formed) trees -/

/-- Without any hypothesis on the trees (children in any order, children below attribute /
    namespace nodes, repeated attribute names): `deep_equal` is transitive; it is reflexive and
    symmetric as soon as no node's attribute view repeats a name (`attrViewsNodup`, implied by
    `valid`). -/
theorem C13_equiv_all_trees :
    (∀ a b c : Tree, deepEqual a b = true → deepEqual b c = true → deepEqual a c = true) ∧
    (∀ a : Tree, a.attrViewsNodup = true → deepEqual a a = true) ∧
    (∀ a b : Tree, a.attrViewsNodup = true → b.attrViewsNodup = true → deepEqual a b = deepEqual b a) ∧
    (∀ a : Tree, a.valid = true → a.attrViewsNodup = true) :=
  ⟨deepEqual_trans_all, deepEqual_refl_all, deepEqual_symm_all, attrViewsNodup_of_valid⟩

/-- The hypothesis cannot be dropped: with a repeated attribute name (`<e n3="v" n3="w"/>`, which
    no parse or `attributes_mut` insertion produces) `deep_equal(a, a)` is false, and
    `deep_equal(<e n3="x" n3="x"/>, <e n3="x" n4="y"/>)` is true one way and false the other. -/
theorem C13_equiv_all_trees_needs_unique_names :
    ¬ (∀ a : Tree, deepEqual a a = true) ∧ ¬ (∀ a b : Tree, deepEqual a b = deepEqual b a) := by
  refine ⟨fun h => ?_, fun h => ?_⟩
  · exact absurd (h (.node (.element 2) [.node (.attribute 3 ['v']) [], .node (.attribute 3 ['w']) []])) (by decide +kernel)
  · exact absurd (h (.node (.element 2) [.node (.attribute 3 ['x']) [], .node (.attribute 3 ['x']) []])
      (.node (.element 2) [.node (.attribute 3 ['x']) [], .node (.attribute 4 ['y']) []])) (by decide +kernel)

/-- Non-vacuity: an ill-ordered tree (attribute after text, child under an attribute node) that is
    not `valid` but satisfies `attrViewsNodup`. -/
example : (Tree.node (.element 2) [.node (.text ['x']) [], .node (.attribute 3 ['v']) [.node (.comment []) []]]).valid = false ∧
    deepEqual (.node (.element 2) [.node (.text ['x']) [], .node (.attribute 3 ['v']) [.node (.comment []) []]])
      (.node (.element 2) [.node (.text ['x']) [], .node (.attribute 3 ['v']) [.node (.comment []) []]]) = true :=
  ⟨by decide +kernel, C13_equiv_all_trees.2.1 _ (by decide +kernel)⟩

/-! ### Expanded names as strings (tie to C08) -/

/-- With the interning tables duplicate-free (the C08 invariant `Env.DupFree`; `Env.dupFree_of_inv`
    derives it from `Interner.Inv`) and all ids of the two trees ids of this `Xot`: `deep_equal`
    holds exactly when the canonical forms with every name resolved to its (namespace URI, local
    name) strings are equal. -/
theorem C13_expanded_names (e : Env) (hd : e.DupFree) (a b : Tree) (va : a.valid = true) (vb : b.valid = true)
    (ia : a.idsIn e = true) (ib : b.idsIn e = true) :
    deepEqual a b = true ↔ canonStr e a = canonStr e b :=
  (C13_iff a b va vb).trans (canon_eq_iff_canonStr_eq hd ia ib)

/-- Names alone: ids in range are equal exactly when the expanded names are. -/
theorem C13_expanded_name_ids (e : Env) (hd : e.DupFree) (n m : Nat) (hn : n < e.names.length)
    (hm : m < e.names.length) : n = m ↔ e.expanded n = e.expanded m :=
  ⟨fun h => h ▸ rfl, Env.expanded_inj hd hn hm⟩

/-- Non-vacuity (`envEx`: a duplicate-free table with the local name `a` in two namespaces).
    Same local name `a`, attributes in either order: equal over strings; the same local name in
    another namespace (`{u}a`): different. -/
example : deepEqual (.node (.element 1) [.node (.attribute 2 ['v']) [], .node (.attribute 0 []) []])
    (.node (.element 1) [.node (.attribute 0 []) [], .node (.attribute 2 ['v']) []]) = true :=
  (C13_expanded_names envEx envEx_dupFree _ _ (by decide +kernel) (by decide +kernel) (by decide +kernel) (by decide +kernel)).mpr rfl

example : envEx.expanded 0 = ([], ['a']) ∧ envEx.expanded 1 = (['u'], ['a']) ∧
    ¬ canonStr envEx (.node (.element 0) []) = canonStr envEx (.node (.element 1) []) := by
  refine ⟨rfl, rfl, fun h => ?_⟩
  have := (C13_expanded_names envEx envEx_dupFree (.node (.element 0) []) (.node (.element 1) [])
    (by decide +kernel) (by decide +kernel) (by decide +kernel) (by decide +kernel)).mpr h
  exact absurd this (by decide +kernel)

end XotModel.Props

/-! ## Reachable trees: the structural hypothesis `Tree.valid` is a theorem

  `Tree.valid` (children ordered, attribute names unique, attribute / namespace nodes are leaves),
  `contentLeaves` (text, comment and PI nodes are leaves), `noInnerDocument`, `validRootFor xpathKeep` are
  hypotheses of the theorems above.  Every tree the public API can build satisfies them at every node:
  every forest reachable from the empty store by an extended history (`Store.xrun` over
  `Forest.XCall`, Model/FhistSpec.lean; arbitrary arguments, every outcome) has the invariant
  `Forest.Inv` (`C04_reach_ext` = `Reach.inv_reachable`), and every node of the erasure of every
  parentless tree of such a forest satisfies them (Lemmas/ReachNode.lean, ReachCompare.lean).  The
  headline theorems restated with NO structural hypothesis; the two compared nodes are ANY two nodes of
  the store (of one tree or of two: `r₁`, `r₂` range over all parentless trees, `p₁`, `p₂` over all
  paths), of every kind, attribute and namespace nodes included.  The only side condition left is
  `XCall.wellKinded` (a map insertion given as DATA carries an entry of the map's kind). -/

namespace XotModel.Props
open XotModel

/-- Every node of every parentless tree of every reachable forest satisfies the
    structural hypotheses of this file. -/
theorem C13_reachable_valid (env : Env) (cs : List Forest.XCall) (hw : ∀ c ∈ cs, c.wellKinded) :
    ∀ r ∈ ((⟨Forest.init, env⟩ : Store).xrun cs).forest.roots, ∀ (p : Path) (a : Tree),
      r.erase.at? p = some a →
      a.valid = true ∧ a.contentLeaves = true ∧ a.noInnerDocument = true ∧
        a.validRootFor xpathKeep = true ∧ orderedKids a.kids = true ∧ attrNamesNodup a.kids = true :=
  fun _ hr _ _ ha => Reach.compare_hyps_root (Reach.inv_reachable env cs hw) hr ha

/-- **`deep_equal` is canonical-form equivalence between any two nodes of reachable
    trees**: for every extended history, any two parentless trees `r₁`, `r₂` of the store (the same or
    not) and any two nodes `a`, `b` of them, `deep_equal(a, b)` holds exactly when the canonical forms
    are equal. -/
theorem C13_reachable_iff (env : Env) (cs : List Forest.XCall) (hw : ∀ c ∈ cs, c.wellKinded) :
    ∀ r₁ ∈ ((⟨Forest.init, env⟩ : Store).xrun cs).forest.roots,
    ∀ r₂ ∈ ((⟨Forest.init, env⟩ : Store).xrun cs).forest.roots,
    ∀ (p₁ p₂ : Path) (a b : Tree), r₁.erase.at? p₁ = some a → r₂.erase.at? p₂ = some b →
      (deepEqual a b = true ↔ canon a = canon b) :=
  fun r₁ h₁ r₂ h₂ p₁ p₂ a b ha hb =>
    C13_iff a b (C13_reachable_valid env cs hw r₁ h₁ p₁ a ha).1 (C13_reachable_valid env cs hw r₂ h₂ p₂ b hb).1

/-- … hence an equivalence relation on the nodes of a reachable store, of
    every kind: reflexive, symmetric, transitive. -/
theorem C13_reachable_equivalence (env : Env) (cs : List Forest.XCall) (hw : ∀ c ∈ cs, c.wellKinded) :
    (∀ r ∈ ((⟨Forest.init, env⟩ : Store).xrun cs).forest.roots, ∀ (p : Path) (a : Tree),
      r.erase.at? p = some a → deepEqual a a = true) ∧
    (∀ r₁ ∈ ((⟨Forest.init, env⟩ : Store).xrun cs).forest.roots,
     ∀ r₂ ∈ ((⟨Forest.init, env⟩ : Store).xrun cs).forest.roots,
     ∀ (p₁ p₂ : Path) (a b : Tree), r₁.erase.at? p₁ = some a → r₂.erase.at? p₂ = some b →
      deepEqual a b = deepEqual b a) ∧
    (∀ r₁ ∈ ((⟨Forest.init, env⟩ : Store).xrun cs).forest.roots,
     ∀ r₂ ∈ ((⟨Forest.init, env⟩ : Store).xrun cs).forest.roots,
     ∀ r₃ ∈ ((⟨Forest.init, env⟩ : Store).xrun cs).forest.roots,
     ∀ (p₁ p₂ p₃ : Path) (a b c : Tree), r₁.erase.at? p₁ = some a → r₂.erase.at? p₂ = some b →
      r₃.erase.at? p₃ = some c → deepEqual a b = true → deepEqual b c = true → deepEqual a c = true) :=
  ⟨fun r h p a ha => C13_reflexive a (C13_reachable_valid env cs hw r h p a ha).1,
   fun r₁ h₁ r₂ h₂ p₁ p₂ a b ha hb =>
     C13_symmetric a b (C13_reachable_valid env cs hw r₁ h₁ p₁ a ha).1 (C13_reachable_valid env cs hw r₂ h₂ p₂ b hb).1,
   fun r₁ h₁ r₂ h₂ r₃ h₃ p₁ p₂ p₃ a b c ha hb hc =>
     C13_transitive a b c (C13_reachable_valid env cs hw r₁ h₁ p₁ a ha).1
       (C13_reachable_valid env cs hw r₂ h₂ p₂ b hb).1 (C13_reachable_valid env cs hw r₃ h₃ p₃ c hc).1⟩

/-- **The variants, between any two nodes of reachable trees**: with any text
    comparison the unfiltered `advanced_deep_equal` relates the canonical forms up to `cmp`;
    `deep_equal_children` compares the canonical child sequences; `deep_equal_xpath` on two elements
    or two documents is, with `==`, `deep_equal` of the trees with comments and PIs deleted (nothing
    merged), and with any comparison the unfiltered comparison of those stripped trees. -/
theorem C13_reachable_variants (env : Env) (cs : List Forest.XCall) (hw : ∀ c ∈ cs, c.wellKinded) :
    ∀ r₁ ∈ ((⟨Forest.init, env⟩ : Store).xrun cs).forest.roots,
    ∀ r₂ ∈ ((⟨Forest.init, env⟩ : Store).xrun cs).forest.roots,
    ∀ (p₁ p₂ : Path) (a b : Tree), r₁.erase.at? p₁ = some a → r₂.erase.at? p₂ = some b →
      (∀ cmp : TextCmp, advancedDeepEqual (fun _ => true) cmp a b = Canon.rel cmp (canon a) (canon b)) ∧
      (deepEqualChildren a b = true ↔ (canon a).kids = (canon b).kids) ∧
      (((a.value.isElement = true ∧ b.value.isElement = true) ∨ (a.value = .document ∧ b.value = .document)) →
        deepEqualXpath strEq a b = deepEqual a.stripCommentsPis b.stripCommentsPis ∧
        ∀ cmp : TextCmp, deepEqualXpath cmp a b =
          advancedDeepEqual (fun _ => true) cmp a.stripCommentsPis b.stripCommentsPis) := by
  intro r₁ h₁ r₂ h₂ p₁ p₂ a b ha hb
  obtain ⟨va, la, da, xa, _, _⟩ := C13_reachable_valid env cs hw r₁ h₁ p₁ a ha
  obtain ⟨vb, lb, db, xb, _, _⟩ := C13_reachable_valid env cs hw r₂ h₂ p₂ b hb
  exact ⟨fun cmp => C13_advanced_all cmp a b va vb, C13_children a b va vb,
    fun h => ⟨C13_xpath_stripped a b va vb la lb da db h,
      fun cmp => C13_xpath_stripped_cmp cmp a b xa xb da db h⟩⟩

/-- `string_value` of every document or element node of a reachable tree is
    the concatenated text of its canonical form; `text_content_str`, when it answers, answers it. -/
theorem C13_reachable_string_value (env : Env) (cs : List Forest.XCall) (hw : ∀ c ∈ cs, c.wellKinded) :
    ∀ r ∈ ((⟨Forest.init, env⟩ : Store).xrun cs).forest.roots, ∀ (p : Path) (a : Tree),
      r.erase.at? p = some a → (a.value = .document ∨ ∃ n, a.value = .element n) →
      ∀ env' : Env, stringValue env' a = (canon a).text ∧
        ∀ s, textContentStr a = some s → stringValue env' a = s := by
  intro r hr p a ha hk env'
  obtain ⟨va, la, _⟩ := C13_reachable_valid env cs hw r hr p a ha
  exact ⟨C13_string_value env' a va la hk, fun s hs => C13_text_content_string_value env' a va la hk s hs⟩

/-! ### Non-vacuity: the history of Props/C04 (`Reach.exCalls`), after its first 10 steps

  Two trees: `<e xmlns:p=".." xmlns:n0=".."><e>x</e></e>` (`Reach.exRootA`) and the clone made by
  `clone_with_prefixes`, `<e xmlns:n0="..">x</e>` (`Reach.exRootB`).  The inner element of the first (path
  `[2]`) and the clone differ in a declaration only: `deep_equal`, by `C13_reachable_iff`; the outer
  element and the clone are not (so their canonical forms differ). -/

example : ∀ c ∈ Reach.exCalls.take 10, c.wellKinded := Reach.exCalls_take_wellKinded 10
example : Reach.exRootA.erase.at? [2] = some (.node (.element 1) [.node (.text ['x']) []]) ∧
    Reach.exRootB.erase.at? [] = some (.node (.element 1) [.node (.namespace 3 3) [], .node (.text ['x']) []]) := by
  decide +kernel
example : deepEqual (.node (.element 1) [.node (.text ['x']) []])
    (.node (.element 1) [.node (.namespace 3 3) [], .node (.text ['x']) []]) = true :=
  (C13_reachable_iff Reach.exEnv (Reach.exCalls.take 10) (Reach.exCalls_take_wellKinded 10)
    Reach.exRootA Reach.exRootA_mem Reach.exRootB Reach.exRootB_mem [2] [] _ _ (by decide +kernel) (by decide +kernel)).mpr rfl
example : canon Reach.exRootA.erase ≠ canon Reach.exRootB.erase := fun h =>
  absurd ((C13_reachable_iff Reach.exEnv (Reach.exCalls.take 10) (Reach.exCalls_take_wellKinded 10)
    Reach.exRootA Reach.exRootA_mem Reach.exRootB Reach.exRootB_mem [] [] _ _ rfl rfl).mpr h) (by decide +kernel)
example : stringValue {} Reach.exRootA.erase = ['x'] :=
  ((C13_reachable_string_value Reach.exEnv (Reach.exCalls.take 10) (Reach.exCalls_take_wellKinded 10)
    Reach.exRootA Reach.exRootA_mem [] _ rfl (Or.inr ⟨1, rfl⟩) {}).1).trans (by decide +kernel)

end XotModel.Props

/-! ## Reachable trees, histories that parse and edit

  The restatements above quantify over extended API histories (`Forest.XCall` on a `Store`).  Model/FparseHist.lean
  has the history type with BOTH kinds of step — `PCall` = an extended API call, or `parse mode text` of an
  ARBITRARY text (reference tokenizer + builder on the tables of the store; an accepted tree is installed,
  a rejected one leaves forest and index alone) — on `PStore`; Props/C04.lean proves the invariant for every
  such history from `Xot::new()` (`C04_reach_full`), and `Reach.compare_hyps_root` needs the invariant only.
  The same restatements over them: the two compared nodes are ANY two nodes of the store — of a parsed
  document (edited or not), of a tree built by hand, of one tree or of two. -/

namespace XotModel.Props
open XotModel

/-- Every node of every parentless tree of every store a full history reaches —
    parsed documents, whatever was done to them afterwards, included — satisfies the structural hypotheses
    of this file. -/
theorem C13_reachable_valid_full (env : Env) (cs : List PCall) (hw : ∀ c ∈ cs, c.wellKinded) :
    ∀ r ∈ ((PStore.init env).run cs).forest.roots, ∀ (p : Path) (a : Tree),
      r.erase.at? p = some a →
      a.valid = true ∧ a.contentLeaves = true ∧ a.noInnerDocument = true ∧
        a.validRootFor xpathKeep = true ∧ orderedKids a.kids = true ∧ attrNamesNodup a.kids = true :=
  fun _ hr _ _ ha => Reach.compare_hyps_root (C04_reach_full env cs hw).1 hr ha

/-- **`deep_equal` is canonical-form equivalence between any two nodes of a store
    reached by parses and API calls** (a node of a parsed document against a node of a tree built by hand,
    …): the statement of `C13_reachable_iff`. -/
theorem C13_reachable_iff_full (env : Env) (cs : List PCall) (hw : ∀ c ∈ cs, c.wellKinded) :
    ∀ r₁ ∈ ((PStore.init env).run cs).forest.roots,
    ∀ r₂ ∈ ((PStore.init env).run cs).forest.roots,
    ∀ (p₁ p₂ : Path) (a b : Tree), r₁.erase.at? p₁ = some a → r₂.erase.at? p₂ = some b →
      (deepEqual a b = true ↔ canon a = canon b) :=
  fun r₁ h₁ r₂ h₂ p₁ p₂ a b ha hb =>
    C13_iff a b (C13_reachable_valid_full env cs hw r₁ h₁ p₁ a ha).1 (C13_reachable_valid_full env cs hw r₂ h₂ p₂ b hb).1

/-- … hence an equivalence relation on the nodes of such a store. -/
theorem C13_reachable_equivalence_full (env : Env) (cs : List PCall) (hw : ∀ c ∈ cs, c.wellKinded) :
    (∀ r ∈ ((PStore.init env).run cs).forest.roots, ∀ (p : Path) (a : Tree),
      r.erase.at? p = some a → deepEqual a a = true) ∧
    (∀ r₁ ∈ ((PStore.init env).run cs).forest.roots,
     ∀ r₂ ∈ ((PStore.init env).run cs).forest.roots,
     ∀ (p₁ p₂ : Path) (a b : Tree), r₁.erase.at? p₁ = some a → r₂.erase.at? p₂ = some b →
      deepEqual a b = deepEqual b a) ∧
    (∀ r₁ ∈ ((PStore.init env).run cs).forest.roots,
     ∀ r₂ ∈ ((PStore.init env).run cs).forest.roots,
     ∀ r₃ ∈ ((PStore.init env).run cs).forest.roots,
     ∀ (p₁ p₂ p₃ : Path) (a b c : Tree), r₁.erase.at? p₁ = some a → r₂.erase.at? p₂ = some b →
      r₃.erase.at? p₃ = some c → deepEqual a b = true → deepEqual b c = true → deepEqual a c = true) :=
  ⟨fun r h p a ha => C13_reflexive a (C13_reachable_valid_full env cs hw r h p a ha).1,
   fun r₁ h₁ r₂ h₂ p₁ p₂ a b ha hb =>
     C13_symmetric a b (C13_reachable_valid_full env cs hw r₁ h₁ p₁ a ha).1
       (C13_reachable_valid_full env cs hw r₂ h₂ p₂ b hb).1,
   fun r₁ h₁ r₂ h₂ r₃ h₃ p₁ p₂ p₃ a b c ha hb hc =>
     C13_transitive a b c (C13_reachable_valid_full env cs hw r₁ h₁ p₁ a ha).1
       (C13_reachable_valid_full env cs hw r₂ h₂ p₂ b hb).1 (C13_reachable_valid_full env cs hw r₃ h₃ p₃ c hc).1⟩

/-- The variants (`advanced_deep_equal` unfiltered, `deep_equal_children`,
    `deep_equal_xpath`) between any two nodes of such a store: the statement of `C13_reachable_variants`. -/
theorem C13_reachable_variants_full (env : Env) (cs : List PCall) (hw : ∀ c ∈ cs, c.wellKinded) :
    ∀ r₁ ∈ ((PStore.init env).run cs).forest.roots,
    ∀ r₂ ∈ ((PStore.init env).run cs).forest.roots,
    ∀ (p₁ p₂ : Path) (a b : Tree), r₁.erase.at? p₁ = some a → r₂.erase.at? p₂ = some b →
      (∀ cmp : TextCmp, advancedDeepEqual (fun _ => true) cmp a b = Canon.rel cmp (canon a) (canon b)) ∧
      (deepEqualChildren a b = true ↔ (canon a).kids = (canon b).kids) ∧
      (((a.value.isElement = true ∧ b.value.isElement = true) ∨ (a.value = .document ∧ b.value = .document)) →
        deepEqualXpath strEq a b = deepEqual a.stripCommentsPis b.stripCommentsPis ∧
        ∀ cmp : TextCmp, deepEqualXpath cmp a b =
          advancedDeepEqual (fun _ => true) cmp a.stripCommentsPis b.stripCommentsPis) := by
  intro r₁ h₁ r₂ h₂ p₁ p₂ a b ha hb
  obtain ⟨va, la, da, xa, _, _⟩ := C13_reachable_valid_full env cs hw r₁ h₁ p₁ a ha
  obtain ⟨vb, lb, db, xb, _, _⟩ := C13_reachable_valid_full env cs hw r₂ h₂ p₂ b hb
  exact ⟨fun cmp => C13_advanced_all cmp a b va vb, C13_children a b va vb,
    fun h => ⟨C13_xpath_stripped a b va vb la lb da db h,
      fun cmp => C13_xpath_stripped_cmp cmp a b xa xb da db h⟩⟩

/-- `string_value` of every document or element node of such a store: the
    statement of `C13_reachable_string_value`. -/
theorem C13_reachable_string_value_full (env : Env) (cs : List PCall) (hw : ∀ c ∈ cs, c.wellKinded) :
    ∀ r ∈ ((PStore.init env).run cs).forest.roots, ∀ (p : Path) (a : Tree),
      r.erase.at? p = some a → (a.value = .document ∨ ∃ n, a.value = .element n) →
      ∀ env' : Env, stringValue env' a = (canon a).text ∧
        ∀ s, textContentStr a = some s → stringValue env' a = s := by
  intro r hr p a ha hk env'
  obtain ⟨va, la, _⟩ := C13_reachable_valid_full env cs hw r hr p a ha
  exact ⟨C13_string_value env' a va la hk, fun s hs => C13_text_content_string_value env' a va la hk s hs⟩

/-- `shallow_equal_ignore_attributes` between any two nodes of a store reached
    by parses and API calls, for EVERY ignore list: equality of the canonical values with the listed names
    removed — `C13_shallow_ignore` with its four structural hypotheses discharged by the history.  What remains
    is the machine-size hypothesis (the counter of the Rust loop is a `usize`): the first node has fewer than
    2^64 attributes, which no history of fewer than 2^64 calls can violate but which is not a structural fact. -/
theorem C13_reachable_shallow_ignore_full (env : Env) (cs : List PCall) (hw : ∀ c ∈ cs, c.wellKinded) :
    ∀ r₁ ∈ ((PStore.init env).run cs).forest.roots,
    ∀ r₂ ∈ ((PStore.init env).run cs).forest.roots,
    ∀ (p₁ p₂ : Path) (a b : Tree), r₁.erase.at? p₁ = some a → r₂.erase.at? p₂ = some b →
      a.attrLen < usizeModulus → ∀ ign : List Nat,
      (shallowEqualIgnoreAttributes a b ign = true ↔
        cvalueIgnoring ign a.value a.kids = cvalueIgnoring ign b.value b.kids) := by
  intro r₁ h₁ r₂ h₂ p₁ p₂ a b ha hb la ign
  obtain ⟨_, _, _, _, oa, na⟩ := C13_reachable_valid_full env cs hw r₁ h₁ p₁ a ha
  obtain ⟨_, _, _, _, ob, nb⟩ := C13_reachable_valid_full env cs hw r₂ h₂ p₂ b hb
  exact C13_shallow_ignore a b ign oa ob na nb la

/-- `shallow_equal` between any two nodes of such a store (any kinds, attribute and
    namespace nodes included): equality of the canonical VALUES (kind, name, the attribute map; nothing about
    children) — `C13_shallow` with the structural hypotheses discharged. -/
theorem C13_reachable_shallow_full (env : Env) (cs : List PCall) (hw : ∀ c ∈ cs, c.wellKinded) :
    ∀ r₁ ∈ ((PStore.init env).run cs).forest.roots,
    ∀ r₂ ∈ ((PStore.init env).run cs).forest.roots,
    ∀ (p₁ p₂ : Path) (a b : Tree), r₁.erase.at? p₁ = some a → r₂.erase.at? p₂ = some b →
      a.attrLen < usizeModulus →
      (shallowEqual a b = true ↔ (canon a).value = (canon b).value) := by
  intro r₁ h₁ r₂ h₂ p₁ p₂ a b ha hb la
  obtain ⟨_, _, _, _, oa, na⟩ := C13_reachable_valid_full env cs hw r₁ h₁ p₁ a ha
  obtain ⟨_, _, _, _, ob, nb⟩ := C13_reachable_valid_full env cs hw r₂ h₂ p₂ b hb
  exact C13_shallow a b oa ob na nb la

/-! ### Non-vacuity: parse, edit, ask (from the tables of `Xot::new()`, `Env.fresh`)

  PARSE `fullText` of Props/C04.lean, `<r xmlns:p="urn:a"><p:a>t</p:a></r>` (handles 0..4), then build by hand
  a second tree: `new_element({urn:a}a)` (5), `new_text("t")` (6), `append`, `namespaces_mut(5).insert(p, urn:a)`
  (7).  The PARSED inner element (path `[0, 1]` of the document) and the HAND-BUILT element differ in a
  declaration only: `deep_equal`, by `C13_reachable_iff_full`; the document and the element are not (their
  canonical forms differ); `string_value` of the parsed document is `t`. -/

def c13FullCalls : List PCall :=
  [.parse .document fullText, .api (.newNode (.element 3)), .api (.newNode (.text ['t'])),
   .api (.call (.append 5 6)), .api (.call (.mapInsert .namespaces 5 (.namespace 2 2)))]
def c13FullRootA : HTree :=
  .node 0 .document [.node 1 (.element 2) [.node 2 (.namespace 2 2) [],
    .node 3 (.element 3) [.node 4 (.text ['t']) []]]]
def c13FullRootB : HTree :=
  .node 5 (.element 3) [.node 7 (.namespace 2 2) [], .node 6 (.text ['t']) []]
theorem c13FullCalls_wellKinded : ∀ c ∈ c13FullCalls, c.wellKinded := by decide +kernel
theorem c13FullRoots : ((PStore.init Env.fresh).run c13FullCalls).forest.roots = [c13FullRootA, c13FullRootB] := by
  unfold c13FullCalls
  rw [run_fullText]
  decide +kernel
theorem c13FullRootA_mem : c13FullRootA ∈ ((PStore.init Env.fresh).run c13FullCalls).forest.roots := by
  rw [c13FullRoots]; exact List.mem_cons_self
theorem c13FullRootB_mem : c13FullRootB ∈ ((PStore.init Env.fresh).run c13FullCalls).forest.roots := by
  rw [c13FullRoots]; exact List.mem_cons_of_mem _ List.mem_cons_self

example : c13FullRootA.erase.at? [0, 1] = some (.node (.element 3) [.node (.text ['t']) []]) ∧
    c13FullRootB.erase.at? [] = some (.node (.element 3) [.node (.namespace 2 2) [], .node (.text ['t']) []]) := by
  decide +kernel
example : deepEqual (.node (.element 3) [.node (.text ['t']) []])
    (.node (.element 3) [.node (.namespace 2 2) [], .node (.text ['t']) []]) = true :=
  (C13_reachable_iff_full Env.fresh c13FullCalls c13FullCalls_wellKinded
    c13FullRootA c13FullRootA_mem c13FullRootB c13FullRootB_mem [0, 1] [] _ _ (by decide +kernel) (by decide +kernel)).mpr rfl
example : canon c13FullRootA.erase ≠ canon c13FullRootB.erase := fun h =>
  absurd ((C13_reachable_iff_full Env.fresh c13FullCalls c13FullCalls_wellKinded
    c13FullRootA c13FullRootA_mem c13FullRootB c13FullRootB_mem [] [] _ _ rfl rfl).mpr h) (by decide +kernel)
example : stringValue {} c13FullRootA.erase = ['t'] :=
  ((C13_reachable_string_value_full Env.fresh c13FullCalls c13FullCalls_wellKinded
    c13FullRootA c13FullRootA_mem [] _ rfl (Or.inl rfl) {}).1).trans (by decide +kernel)
/-- The parsed inner element and the hand-built element (one more declaration) are `shallow_equal`, by
    `C13_reachable_shallow_full`. -/
example : shallowEqual (.node (.element 3) [.node (.text ['t']) []])
    (.node (.element 3) [.node (.namespace 2 2) [], .node (.text ['t']) []]) = true :=
  (C13_reachable_shallow_full Env.fresh c13FullCalls c13FullCalls_wellKinded
    c13FullRootA c13FullRootA_mem c13FullRootB c13FullRootB_mem [0, 1] [] _ _ (by decide +kernel) (by decide +kernel)
    (by decide +kernel)).mpr (by decide +kernel)

end XotModel.Props

/-! ## Custom text comparisons

  `advanced_deep_equal(a, b, filter, text_compare)` and `deep_equal_xpath(a, b, text_compare)` take the text
  comparison from the caller.  Where it is consulted (read off `advanced_compare_value` /
  `advanced_compare_attributes` in /repo/src/valueaccess.rs): text nodes; the data of two processing
  instructions that both have data; the value of an attribute NODE; the values of the attributes of two
  elements, name by name.  Everything else is `==`: element / attribute names, PI targets, prefixes and
  namespaces of namespace nodes — and COMMENT data (`a.get() == b.get()`; the documentation of
  `advanced_deep_equal` promises the supplied comparison for "text nodes and attributes" only).
  Lemmas: Lemmas/CompareCustom.lean. -/

namespace XotModel.Props
open XotModel

/-- **The laws of the supplied comparison carry over to the trees, for every filter.**
    `cmp` reflexive on strings ⇒ `advanced_deep_equal(·, ·, filter, cmp)` reflexive on valid trees; `cmp`
    symmetric ⇒ symmetric on valid trees; `cmp` transitive ⇒ transitive on ALL trees.  Each law of the tree
    comparison needs only the same law of `cmp`. -/
theorem C13_custom_equivalence (f : NodeFilter) (cmp : TextCmp) :
    ((∀ s, cmp s s = true) → ∀ a : Tree, a.valid = true → advancedDeepEqual f cmp a a = true) ∧
    ((∀ s t, cmp s t = true → cmp t s = true) → ∀ a b : Tree, a.valid = true → b.valid = true →
      advancedDeepEqual f cmp a b = advancedDeepEqual f cmp b a) ∧
    ((∀ s t u, cmp s t = true → cmp t u = true → cmp s u = true) → ∀ a b c : Tree,
      advancedDeepEqual f cmp a b = true → advancedDeepEqual f cmp b c = true →
      advancedDeepEqual f cmp a c = true) :=
  ⟨fun hr a va => advancedDeepEqual_refl f hr a (attrViewsNodup_of_valid a va),
   fun hs a b va vb => advancedDeepEqual_symm f hs a b (attrViewsNodup_of_valid a va) (attrViewsNodup_of_valid b vb),
   fun ht a b c => advancedDeepEqual_trans f ht a b c⟩

/-- Reflexivity and symmetry need less than validity: no node's attribute
    view (`skip_while` namespace / `take_while` attribute) repeats a name — whatever the order of the
    children and whatever hangs under attribute / namespace nodes (`C13_equiv_all_trees` is the `==`
    instance with the trivial filter). -/
theorem C13_custom_equivalence_all_trees (f : NodeFilter) (cmp : TextCmp) :
    ((∀ s, cmp s s = true) → ∀ a : Tree, a.attrViewsNodup = true → advancedDeepEqual f cmp a a = true) ∧
    ((∀ s t, cmp s t = true → cmp t s = true) → ∀ a b : Tree, a.attrViewsNodup = true →
      b.attrViewsNodup = true → advancedDeepEqual f cmp a b = advancedDeepEqual f cmp b a) :=
  ⟨fun hr a va => advancedDeepEqual_refl f hr a va, fun hs a b va vb => advancedDeepEqual_symm f hs a b va vb⟩

/-- … in particular between ANY nodes of a store reached by parses and
    API calls, with no structural hypothesis. -/
theorem C13_custom_reachable_equivalence_full (env : Env) (cs : List PCall) (hw : ∀ c ∈ cs, c.wellKinded)
    (f : NodeFilter) (cmp : TextCmp) :
    ((∀ s, cmp s s = true) → ∀ r ∈ ((PStore.init env).run cs).forest.roots, ∀ (p : Path) (a : Tree),
      r.erase.at? p = some a → advancedDeepEqual f cmp a a = true) ∧
    ((∀ s t, cmp s t = true → cmp t s = true) →
     ∀ r₁ ∈ ((PStore.init env).run cs).forest.roots,
     ∀ r₂ ∈ ((PStore.init env).run cs).forest.roots,
     ∀ (p₁ p₂ : Path) (a b : Tree), r₁.erase.at? p₁ = some a → r₂.erase.at? p₂ = some b →
      advancedDeepEqual f cmp a b = advancedDeepEqual f cmp b a) :=
  ⟨fun hr r h p a ha => (C13_custom_equivalence f cmp).1 hr a (C13_reachable_valid_full env cs hw r h p a ha).1,
   fun hs r₁ h₁ r₂ h₂ p₁ p₂ a b ha hb => (C13_custom_equivalence f cmp).2.1 hs a b
     (C13_reachable_valid_full env cs hw r₁ h₁ p₁ a ha).1 (C13_reachable_valid_full env cs hw r₂ h₂ p₂ b hb).1⟩

/-- **Conversely** the laws of the tree comparison (already on valid trees,
    for any one filter) force the laws of `cmp`: two attribute nodes of the same name compare as `cmp` of
    their values, whatever the filter.  So `advanced_deep_equal(·, ·, filter, cmp)` is reflexive /
    symmetric / transitive on valid trees IF AND ONLY IF `cmp` is, law by law. -/
theorem C13_custom_equivalence_converse (f : NodeFilter) (cmp : TextCmp) :
    (∀ (n : Nat) (s t : Str),
      advancedDeepEqual f cmp (.node (.attribute n s) []) (.node (.attribute n t) []) = cmp s t) ∧
    ((∀ a : Tree, a.valid = true → advancedDeepEqual f cmp a a = true) → ∀ s, cmp s s = true) ∧
    ((∀ a b : Tree, a.valid = true → b.valid = true →
        advancedDeepEqual f cmp a b = advancedDeepEqual f cmp b a) → ∀ s t, cmp s t = cmp t s) ∧
    ((∀ a b c : Tree, a.valid = true → b.valid = true → c.valid = true →
        advancedDeepEqual f cmp a b = true → advancedDeepEqual f cmp b c = true →
        advancedDeepEqual f cmp a c = true) →
      ∀ s t u, cmp s t = true → cmp t u = true → cmp s u = true) := by
  have key : ∀ (n : Nat) (s t : Str),
      advancedDeepEqual f cmp (.node (.attribute n s) []) (.node (.attribute n t) []) = cmp s t := by
    intro n s t
    rw [advancedDeepEqual_abnormal f cmp _ _ (Or.inl (by simp [Tree.value, Value.isNormal, Value.category]))]
    simp [compareValue, Tree.value]
  have hv : ∀ (n : Nat) (s : Str), (Tree.node (.attribute n s) []).valid = true := by
    intro n s; simp [Tree.valid, orderedKids, attrNamesNodup, attrPairs, Tree.valid.validList]
  refine ⟨key, fun h s => ?_, fun h s t => ?_, fun h s t u h1 h2 => ?_⟩
  · rw [← key 0 s s]; exact h _ (hv 0 s)
  · rw [← key 0 s t, ← key 0 t s]; exact h _ _ (hv 0 s) (hv 0 t)
  · rw [← key 0 s u]
    exact h _ _ _ (hv 0 s) (hv 0 t) (hv 0 u) ((key 0 s t).trans h1) ((key 0 t u).trans h2)

/-- A comparison that is NOT symmetric (`s` is not longer than `t`) gives a non-symmetric tree comparison:
    `<e>x</e>` against `<e>xy</e>` is true, the other way round false. -/
def lenLe : TextCmp := fun s t => decide (s.length ≤ t.length)

example : advancedDeepEqual (fun _ => true) lenLe
      (.node (.element 2) [.node (.text ['x']) []]) (.node (.element 2) [.node (.text ['x', 'y']) []]) = true ∧
    advancedDeepEqual (fun _ => true) lenLe
      (.node (.element 2) [.node (.text ['x', 'y']) []]) (.node (.element 2) [.node (.text ['x']) []]) = false := by
  decide +kernel

/-! ### Where the supplied comparison decides -/

/-- **The node-by-node test of `advanced_deep_equal` with the supplied
    comparison** (`advanced_compare_value`; by `C13_advanced` the whole comparison of two normal nodes is this
    test on the kept nodes pairwise, by `C13_advanced_abnormal` it is this test on the two nodes otherwise):
    * text against text: `cmp` of the two strings, nothing else;
    * attribute node against attribute node: same name and `cmp` of the two values;
    * PI against PI, both with data: same target and `cmp` of the data; both without: same target;
    * element against element: same name, the same NUMBER of attributes, and every attribute of the first has
      an attribute of the same name in the second whose value `cmp` relates to it — `cmp` is the only thing
      asked of the two values (in particular not their lengths: the closed example below has values of
      different byte length);
    * comment against comment: `==` on the data, NOT `cmp` (as written in the Rust, and as documented: "Text
      nodes and attributes are compared using the provided comparison function");
    * namespace node against namespace node: `==` on prefix and namespace; document against document: true;
      different kinds: false. -/
theorem C13_custom_applies_everywhere (cmp : TextCmp) :
    (∀ (s t : Str) (ka kb : List Tree),
      compareValue cmp (.node (.text s) ka) (.node (.text t) kb) = cmp s t) ∧
    (∀ (n m : Nat) (v w : Str) (ka kb : List Tree),
      compareValue cmp (.node (.attribute n v) ka) (.node (.attribute m w) kb) = (n == m && cmp v w)) ∧
    (∀ (tg tg' : Nat) (s t : Str) (ka kb : List Tree),
      compareValue cmp (.node (.pi tg (some s)) ka) (.node (.pi tg' (some t)) kb) = (tg == tg' && cmp s t)) ∧
    (∀ (tg tg' : Nat) (ka kb : List Tree),
      compareValue cmp (.node (.pi tg none) ka) (.node (.pi tg' none) kb) = (tg == tg')) ∧
    (∀ (n m : Nat) (ka kb : List Tree),
      (compareValue cmp (.node (.element n) ka) (.node (.element m) kb) = true ↔
        n = m ∧ (Tree.node (.element n) ka).attrs.length = (Tree.node (.element m) kb).attrs.length ∧
          ∀ kv ∈ (Tree.node (.element n) ka).attrs,
            ∃ w, (Tree.node (.element m) kb).attrs.lookup kv.1 = some w ∧ cmp kv.2 w = true)) ∧
    (∀ (s t : Str) (ka kb : List Tree),
      compareValue cmp (.node (.comment s) ka) (.node (.comment t) kb) = (s == t)) ∧
    (∀ (p q n m : Nat) (ka kb : List Tree),
      compareValue cmp (.node (.namespace p n) ka) (.node (.namespace q m) kb) = (p == q && n == m)) ∧
    (∀ a b : Tree, compareValue cmp a b = true → a.value.category = b.value.category) := by
  refine ⟨fun _ _ _ _ => rfl, fun _ _ _ _ _ _ => rfl, ?_, ?_, ?_, fun _ _ _ _ => rfl, fun _ _ _ _ _ _ => rfl, ?_⟩
  · intro tg tg' s t ka kb
    by_cases h : tg = tg' <;> simp [compareValue, Tree.value, h]
  · intro tg tg' ka kb
    by_cases h : tg = tg' <;> simp [compareValue, Tree.value, h]
  · intro n m ka kb
    rw [← compareAttributes_true_iff]
    simp [compareValue, Tree.value]
  · intro a b h
    rw [compareValue_cases] at h
    rcases h with ⟨h1, h2⟩ | ⟨n, h1, h2, _⟩ | ⟨s, t, h1, h2, _⟩ | ⟨s, h1, h2⟩ | ⟨t, h1, h2⟩ |
      ⟨tg, s, t, h1, h2, _⟩ | ⟨n, s, t, h1, h2, _⟩ | ⟨p, n, h1, h2⟩ <;> rw [h1, h2] <;> rfl

/-- Two elements of the same name with one attribute each, of the same name:
    the unfiltered comparison IS `cmp` of the two values, whatever they are (equal or different length). -/
theorem C13_custom_single_attribute (cmp : TextCmp) (n k : Nat) (v w : Str) :
    advancedDeepEqual (fun _ => true) cmp (.node (.element n) [.node (.attribute k v) []])
      (.node (.element n) [.node (.attribute k w) []]) = cmp v w := by
  rw [C13_advanced_all cmp (.node (.element n) [.node (.attribute k v) []])
    (.node (.element n) [.node (.attribute k w) []]) rfl rfl]
  simp [canon, canon.canonList, cvalue, attrPairs, sortAttrs, insertAttr, Canon.rel, Canon.relList, CValue.rel,
    attrsRel, cmpFound, Tree.value, Value.isNormal, Value.category, List.lookup]

/-- A trim-insensitive comparison (leading / trailing spaces do not count): an equivalence relation on
    strings that relates strings of DIFFERENT length. -/
def trimSpaces (s : Str) : Str := ((s.dropWhile (· == ' ')).reverse.dropWhile (· == ' ')).reverse
def trimEq : TextCmp := fun s t => trimSpaces s == trimSpaces t

/-- The hypotheses of `C13_custom_equivalence` are satisfiable by a comparison other than `==`. -/
example : (∀ s, trimEq s s = true) ∧ (∀ s t, trimEq s t = true → trimEq t s = true) ∧
    (∀ s t u, trimEq s t = true → trimEq t u = true → trimEq s u = true) := by
  refine ⟨fun s => by simp [trimEq], fun s t h => ?_, fun s t u h1 h2 => ?_⟩
  · simp only [trimEq, beq_iff_eq] at *; exact h.symm
  · simp only [trimEq, beq_iff_eq] at *; exact h1.trans h2

/-- `<e a=" v "/>` against `<e a="v"/>` (attribute values of 3 and 1 bytes) under the trim-insensitive
    comparison: equal — by `C13_custom_single_attribute` the answer is `trimEq " v " "v"`; `deep_equal`
    (`==`) tells them apart.  Likewise text, PI data and the value of an attribute node; comment data is
    compared with `==` whatever the comparison. -/
example : advancedDeepEqual (fun _ => true) trimEq
      (.node (.element 2) [.node (.attribute 3 [' ', 'v', ' ']) []])
      (.node (.element 2) [.node (.attribute 3 ['v']) []]) = true :=
  (C13_custom_single_attribute trimEq 2 3 _ _).trans (by decide +kernel)
example : deepEqual (.node (.element 2) [.node (.attribute 3 [' ', 'v', ' ']) []])
    (.node (.element 2) [.node (.attribute 3 ['v']) []]) = false := by decide +kernel
example : advancedDeepEqual (fun _ => true) trimEq
      (.node (.element 2) [.node (.text [' ', 'v']) [], .node (.pi 4 (some ['d', ' '])) []])
      (.node (.element 2) [.node (.text ['v', ' ', ' ']) [], .node (.pi 4 (some ['d'])) []]) = true ∧
    advancedDeepEqual (fun _ => true) trimEq (.node (.attribute 3 [' ', 'v']) []) (.node (.attribute 3 ['v']) []) = true ∧
    advancedDeepEqual (fun _ => true) trimEq
      (.node (.element 2) [.node (.comment [' ', 'c']) []]) (.node (.element 2) [.node (.comment ['c']) []]) = false := by
  decide +kernel

/-! ## Histories with the convenience calls

  The statements on reachable trees (the structural hypotheses at every node, `deep_equal` as canonical-form
  equivalence, the equivalence relation, `string_value`, the variants) for histories mixing the calls of `Op` and the
  convenience calls (`Forest.COp`; `creationRun`, `C04_reach_creation` in Props/C04.lean): no side condition at all.
  Last, `C13_inv_iff`: canonical-form equivalence in any forest with `Forest.Inv`, whatever history reached it. -/

/-- Every node of every parentless tree reached by a history of `Op` calls and
    convenience calls satisfies the structural hypotheses of this file. -/
theorem C13_reachable_creation_valid (ops : List (Op ⊕ Forest.COp)) :
    ∀ r ∈ (creationRun ops).roots, ∀ (p : Path) (a : Tree),
      r.erase.at? p = some a →
      a.valid = true ∧ a.contentLeaves = true ∧ a.noInnerDocument = true ∧
        a.validRootFor xpathKeep = true ∧ orderedKids a.kids = true ∧ attrNamesNodup a.kids = true :=
  fun _ hr _ _ ha => Reach.compare_hyps_root (C04_reach_creation ops) hr ha

/-- … hence `deep_equal` is canonical-form equivalence between any two nodes of the
    trees such a history reaches. -/
theorem C13_reachable_creation_iff (ops : List (Op ⊕ Forest.COp)) :
    ∀ r₁ ∈ (creationRun ops).roots, ∀ r₂ ∈ (creationRun ops).roots,
    ∀ (p₁ p₂ : Path) (a b : Tree), r₁.erase.at? p₁ = some a → r₂.erase.at? p₂ = some b →
      (deepEqual a b = true ↔ canon a = canon b) :=
  fun r₁ h₁ r₂ h₂ p₁ p₂ a b ha hb =>
    C13_iff a b (C13_reachable_creation_valid ops r₁ h₁ p₁ a ha).1 (C13_reachable_creation_valid ops r₂ h₂ p₂ b hb).1

/-- … an equivalence relation on the nodes such a history reaches: reflexive,
    symmetric, transitive. -/
theorem C13_reachable_creation_equivalence (ops : List (Op ⊕ Forest.COp)) :
    (∀ r ∈ (creationRun ops).roots, ∀ (p : Path) (a : Tree), r.erase.at? p = some a → deepEqual a a = true) ∧
    (∀ r₁ ∈ (creationRun ops).roots, ∀ r₂ ∈ (creationRun ops).roots,
     ∀ (p₁ p₂ : Path) (a b : Tree), r₁.erase.at? p₁ = some a → r₂.erase.at? p₂ = some b →
      deepEqual a b = deepEqual b a) ∧
    (∀ r₁ ∈ (creationRun ops).roots, ∀ r₂ ∈ (creationRun ops).roots, ∀ r₃ ∈ (creationRun ops).roots,
     ∀ (p₁ p₂ p₃ : Path) (a b c : Tree), r₁.erase.at? p₁ = some a → r₂.erase.at? p₂ = some b →
      r₃.erase.at? p₃ = some c → deepEqual a b = true → deepEqual b c = true → deepEqual a c = true) :=
  ⟨fun r h p a ha => C13_reflexive a (C13_reachable_creation_valid ops r h p a ha).1,
   fun r₁ h₁ r₂ h₂ p₁ p₂ a b ha hb =>
     C13_symmetric a b (C13_reachable_creation_valid ops r₁ h₁ p₁ a ha).1 (C13_reachable_creation_valid ops r₂ h₂ p₂ b hb).1,
   fun r₁ h₁ r₂ h₂ r₃ h₃ p₁ p₂ p₃ a b c ha hb hc =>
     C13_transitive a b c (C13_reachable_creation_valid ops r₁ h₁ p₁ a ha).1
       (C13_reachable_creation_valid ops r₂ h₂ p₂ b hb).1 (C13_reachable_creation_valid ops r₃ h₃ p₃ c hc).1⟩

/-- `string_value` of every document or element node such a history reaches
    is the concatenated text of its canonical form; `text_content_str`, when it answers, answers it. -/
theorem C13_reachable_creation_string_value (ops : List (Op ⊕ Forest.COp)) :
    ∀ r ∈ (creationRun ops).roots, ∀ (p : Path) (a : Tree),
      r.erase.at? p = some a → (a.value = .document ∨ ∃ n, a.value = .element n) →
      ∀ env' : Env, stringValue env' a = (canon a).text ∧
        ∀ s, textContentStr a = some s → stringValue env' a = s := by
  intro r hr p a ha hk env'
  obtain ⟨va, la, _⟩ := C13_reachable_creation_valid ops r hr p a ha
  exact ⟨C13_string_value env' a va la hk, fun s hs => C13_text_content_string_value env' a va la hk s hs⟩

/-- Non-vacuity: `new_element; append_text "a"; append_element; append_text "b"` reaches `<e>a<e/>b</e>`, whose
    root is an element; its string value is "ab". -/
example : (creationRun [.inl (.newElement 2), .inr (.appendNew 0 (.text ['a'])), .inr (.appendNew 0 (.element 2)),
    .inr (.appendNew 0 (.text ['b']))]).roots.map (fun r => (canon r.erase).text) = [['a', 'b']] := by decide +kernel

/-- The variants (`advanced_deep_equal` unfiltered, `deep_equal_children`,
    `deep_equal_xpath`) between any two nodes of the trees a history with the convenience calls reaches
    (`C13_reachable_variants` for these histories). -/
theorem C13_reachable_creation_variants (ops : List (Op ⊕ Forest.COp)) :
    ∀ r₁ ∈ (creationRun ops).roots, ∀ r₂ ∈ (creationRun ops).roots,
    ∀ (p₁ p₂ : Path) (a b : Tree), r₁.erase.at? p₁ = some a → r₂.erase.at? p₂ = some b →
      (∀ cmp : TextCmp, advancedDeepEqual (fun _ => true) cmp a b = Canon.rel cmp (canon a) (canon b)) ∧
      (deepEqualChildren a b = true ↔ (canon a).kids = (canon b).kids) ∧
      (((a.value.isElement = true ∧ b.value.isElement = true) ∨ (a.value = .document ∧ b.value = .document)) →
        deepEqualXpath strEq a b = deepEqual a.stripCommentsPis b.stripCommentsPis ∧
        ∀ cmp : TextCmp, deepEqualXpath cmp a b =
          advancedDeepEqual (fun _ => true) cmp a.stripCommentsPis b.stripCommentsPis) := by
  intro r₁ h₁ r₂ h₂ p₁ p₂ a b ha hb
  obtain ⟨va, la, da, xa, _, _⟩ := C13_reachable_creation_valid ops r₁ h₁ p₁ a ha
  obtain ⟨vb, lb, db, xb, _, _⟩ := C13_reachable_creation_valid ops r₂ h₂ p₂ b hb
  exact ⟨fun cmp => C13_advanced_all cmp a b va vb, C13_children a b va vb,
    fun h => ⟨C13_xpath_stripped a b va vb la lb da db h,
      fun cmp => C13_xpath_stripped_cmp cmp a b xa xb da db h⟩⟩

/-- **`deep_equal` is canonical-form equivalence from the invariant alone**: between any two nodes of
    ANY forest with `Forest.Inv` (however it was reached). -/
theorem C13_inv_iff (f : Forest) (hi : f.Inv) :
    ∀ r₁ ∈ f.roots, ∀ r₂ ∈ f.roots,
    ∀ (p₁ p₂ : Path) (a b : Tree), r₁.erase.at? p₁ = some a → r₂.erase.at? p₂ = some b →
      (deepEqual a b = true ↔ canon a = canon b) :=
  fun _ h₁ _ h₂ _ _ a b ha hb =>
    C13_iff a b (Reach.compare_hyps_root hi h₁ ha).1 (Reach.compare_hyps_root hi h₂ hb).1

end XotModel.Props
