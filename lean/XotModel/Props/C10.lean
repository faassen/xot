/-
  C10 — Serialisation never changes a name's meaning; missing prefixes can be repaired.
  Property theorems only.

  First sentence of the property.  The serialiser chooses prefixes from the top frame of the `FullnameSerializer` stack.  The
  theorems show that this frame is the nearest-declaration-wins scope of the declarations pushed
  (`C10_stack_*`), hence the chosen prefix, looked up by XML-Namespaces rules in the scope built
  from the same declarations, gives back the name's namespace (`C10_sound_*`), and that an error
  is returned exactly when no usable prefix is in scope (`C10_error_*`).
  `C10_stack_traversal` / `C10_sound_tree_*` carry this to the serialisation run itself: before
  every event of `genOutputs` the stack stands for the declaration lists of the open elements between
  the start node and the event's node on top of `namespaces_in_scope(start)`, so every start tag,
  end tag and attribute name the run renders resolves, in exactly those declarations, to the
  node's name (for every tree whose elements declare no prefix twice, every start node).
  Names in the XML namespace are always written with the reserved `xml` prefix (/repo 061eba4).
  Element names hold at full strength (as of /repo a32c6f4): `render_output` refuses
  (`MissingPrefix("")`) a no-namespace element inside the scope of a default-namespace declaration
  instead of writing it unprefixed (`C10_sound`, `C10_sound_refused`).

  Second and third sentence (`C10_repair_*`, `C10_iter`): `create_missing_prefixes` (Model/Repair, as
  of /repo afee7b1) on an element of any tree whose elements declare no prefix twice: only
  namespace nodes change (`_frame`), every name of the subtree is then writable by the serialiser
  (`_writable`, via the serialiser's own check `namesWritable`), the prefixes added are bound nowhere
  in scope of the element nor declared in its subtree (`_fresh_prefixes`), a second call is the
  identity (`_idem`).

  Section "… serialisation succeeds and reparses deep-equal" (`C10_repair_representable`, `C10_repair_roundtrip`, `_total`, `_fragment`): the clause
  "serialisation succeeds and reparses deep-equal" as a corollary of the closed loop C01_roundtrip: the
  call keeps a document inside the C01 domain `Representable` (of the grown tables), so the text the
  repaired document serialises to parses back to exactly the repaired tree, which is deep_equal to the
  tree before the call.

  Section InnerFull (end of file): `C10_repair_roundtrip_inner_full`, the call on an ELEMENT anywhere inside a
  document of a store reached by parses and API calls, then `to_string(element)`, then `parse`: the standalone
  document of the repaired element, deep_equal to the element before the call.
-/
import XotModel.Lemmas.FStack
import XotModel.Lemmas.Scope
import XotModel.Lemmas.ScopeSound
import XotModel.Lemmas.ScopeWalk
import XotModel.Lemmas.TraceInv
import XotModel.Lemmas.RepairDocument
import XotModel.Lemmas.RepairKeep
import XotModel.Lemmas.RepairValid
import XotModel.Lemmas.SerResolve
import XotModel.Lemmas.RepairRoundTrip
import XotModel.Lemmas.RoundTripElement
import XotModel.Lemmas.RepairRun
import XotModel.Lemmas.RepairDeclsOk
import XotModel.Props.C01

namespace XotModel.Props
open XotModel


/-! ### The stack invariant -/

/-- The serialiser starts from the scope of the start node: one frame, its own flattening. -/
theorem C10_stack_base (d : List (Nat × Nat)) (hu : UniquePrefixes d) : StackInv (FStack.new d) [d] :=
  StackInv.base d hu

/-- `namespaces_in_scope` never yields a prefix twice, so `XmlSerializer::new` meets the hypothesis
    of `C10_stack_base` for every tree and start node. -/
theorem C10_stack_base_inScope (t : Tree) (start : Path) (d : List (Nat × Nat))
    (h : namespacesInScope t start = some d) : UniquePrefixes d :=
  namespacesInScope_unique t start d h

/-- Entries of `top` = nearest-declaration-wins scope of the frames pushed. -/
theorem C10_stack_invariant (s : FStack) (fs : Frames) (h : StackInv s fs) :
    UniquePrefixes s.top ∧ ∀ p n, (p, n) ∈ s.top ↔ lookupFrames fs p = some n :=
  h.flat

/-- `push` (StartTagOpen) keeps the invariant when the element declares no prefix twice. -/
theorem C10_stack_push (s : FStack) (fs : Frames) (decls : List (Nat × Nat)) (h : StackInv s fs)
    (hu : UniquePrefixes decls) : StackInv (s.push decls) (decls :: fs) :=
  h.push' hu

/-- `pop` (EndTag) restores the stack of before the element's `push`. -/
theorem C10_stack_pop (s : FStack) (decls : List (Nat × Nat)) :
    (s.push decls).pop (!decls.isEmpty) = s :=
  FStack.pop_push s decls

/-! ### Soundness of the chosen prefix -/

/-- Under the reserved-prefix constraint, XML-Namespaces resolution of a prefix is its nearest
    declaration.  (`resolvePrefix`, `resolveElementName`, `resolveAttributeName`, `XmlPrefixReserved`:
    Lemmas/ScopeSound.lean.) -/
theorem C10_resolve_lookup {fs : Frames} (hx : XmlPrefixReserved fs) {q ns : Nat}
    (hl : lookupFrames fs q = some ns) : resolvePrefix fs q = some ns :=
  resolve_lookup hx hl

/-- The prefix `element_prefix` answers resolves to the name's namespace whenever the check of the
    `StartTagOpen` arm passes (the name is not a no-namespace name while `has_default_namespace`).
    Names in the XML namespace get the reserved `xml` prefix whatever the stack holds. -/
theorem C10_sound_prefix (env : Env) (s : FStack) (fs : Frames) (name : Nat) (p : Option Nat)
    (hinv : StackInv s fs) (hx : XmlPrefixReserved fs) (h : s.elementPrefix env name = .ok p)
    (hcheck : ¬ (env.nsOfName name = Env.noNamespace ∧ s.hasDefaultNamespace = true)) :
    resolveElementName fs p = some (env.nsOfName name) :=
  sound_prefix env s fs name p hinv hx h hcheck

/-- Element names, FULL strength (no guard): whenever `render_output` renders a `StartTagOpen`, the
    token is `<` + the qualified name built from a prefix that resolves — in the declarations of the
    open elements, the element's own included — to the element's namespace.  In particular a name
    in no namespace is written unprefixed only where no default namespace is in scope. -/
theorem C10_sound (esc : Escapers) (env : Env) (pr : TokenParams) (s s' : FStack) (fs : Frames)
    (node : Tree) (parent : Option Tree) (name : Nat) (tok : OutputToken)
    (hinv : StackInv (s.push node.nsDecls) fs) (hx : XmlPrefixReserved fs)
    (h : renderXmlWith esc env pr s node parent (.startTagOpen name) = .ok (s', tok)) :
    ∃ p, (s.push node.nsDecls).elementPrefix env name = .ok p ∧ s' = s.push node.nsDecls ∧
      tok = ⟨false, fmt Gen.fmtStartTagOpen [qname env p name]⟩ ∧
      resolveElementName fs p = some (env.nsOfName name) := by
  obtain ⟨p, hp, hs', htok, hcheck⟩ := renderXmlWith_startTagOpen_ok esc env pr h
  exact ⟨p, hp, hs', htok, C10_sound_prefix env _ fs name p hinv hx hp hcheck⟩

/-- The other half: an element in no namespace whose scope (its own declarations included) binds
    the empty prefix to a namespace is refused with `MissingPrefix("")`, not written. -/
theorem C10_sound_refused (esc : Escapers) (env : Env) (pr : TokenParams) (s : FStack) (fs : Frames)
    (node : Tree) (parent : Option Tree) (name n : Nat)
    (hinv : StackInv (s.push node.nsDecls) fs) (hname : env.nsOfName name = Env.noNamespace)
    (hl : lookupFrames fs Env.emptyPrefix = some n) (hn : n ≠ Env.noNamespace) :
    renderXmlWith esc env pr s node parent (.startTagOpen name) =
      .err (.missingPrefix Env.noNamespace) := by
  have hd : (s.push node.nsDecls).hasDefaultNamespace = true :=
    (hasDefaultNamespace_iff hinv.flat).mpr ⟨n, hl, hn⟩
  simp [renderXmlWith, hname, hd]

/-- Attribute names: full strength, no guard — the chosen prefix resolves to the attribute's
    namespace, and an attribute is written unprefixed only when it is in no namespace. -/
theorem C10_sound_attribute (env : Env) (s : FStack) (fs : Frames) (name : Nat) (p : Option Nat)
    (hinv : StackInv s fs) (hx : XmlPrefixReserved fs) (h : s.attributePrefix env name = .ok p) :
    resolveAttributeName fs p = some (env.nsOfName name) ∧ p ≠ some Env.emptyPrefix :=
  sound_attribute env s fs name p hinv hx h

/-! ### Errors: exactly when no usable prefix is in scope -/

/-- `element_prefix` fails (always with `MissingPrefix` of the name's namespace) iff the name is in
    a namespace other than the XML namespace that no prefix in scope — empty or not — is bound to. -/
theorem C10_error_element (env : Env) (s : FStack) (fs : Frames) (name : Nat) (hinv : StackInv s fs) :
    (∃ e, s.elementPrefix env name = .error e) ↔
      (env.nsOfName name ≠ Env.noNamespace ∧ env.nsOfName name ≠ Env.xmlNamespace ∧
        ∀ p, lookupFrames fs p ≠ some (env.nsOfName name)) := by
  rw [← exceptIsOk_eq_false_iff, elementPrefix_top, sc_elementPrefix_ok, Bool.or_eq_false_iff,
    Bool.or_eq_false_iff, beq_eq_false_iff_ne, beq_eq_false_iff_ne, ← Bool.not_eq_true, knownIn_iff, and_assoc]
  simp only [hinv.flat.2, not_exists]

/-- `attribute_prefix` fails iff the name is in a namespace other than the XML namespace that no
    non-empty prefix in scope is bound to (a default-namespace declaration does not help an
    attribute). -/
theorem C10_error_attribute (env : Env) (s : FStack) (fs : Frames) (name : Nat) (hinv : StackInv s fs) :
    (∃ e, s.attributePrefix env name = .error e) ↔
      (env.nsOfName name ≠ Env.noNamespace ∧ env.nsOfName name ≠ Env.xmlNamespace ∧
        ∀ p, p ≠ Env.emptyPrefix → lookupFrames fs p ≠ some (env.nsOfName name)) := by
  rw [← exceptIsOk_eq_false_iff, attributePrefix_top, sc_attributePrefix_ok, Bool.or_eq_false_iff,
    Bool.or_eq_false_iff, beq_eq_false_iff_ne, beq_eq_false_iff_ne, ← Bool.not_eq_true, attrKnownIn_iff, and_assoc]
  simp only [hinv.flat.2, not_exists, not_and]

/-! ### The serialisation run -/

/-- Traversal invariant: whenever the run reaches an event of node `p = start ++ rel` holding the
    stack `s`, then `s` stands for the frames of the open nodes from the start node down to `p`
    (without `p`'s own frame before its `StartTagOpen`), on top of the scope in force at the start
    node — for every tree whose elements declare no prefix twice. -/
theorem C10_stack_traversal (esc : Escapers) (env : Env) (pr : TokenParams) (t : Tree) (start : Path)
    (n : Tree) (inScope : List (Nat × Nat)) (hat : t.at? start = some n)
    (hs : namespacesInScope t start = some inScope) (hu : UniqueBelow n)
    (s : FStack) (p : Path) (o : Output)
    (hx : (s, p, o) ∈ stackTrace esc env pr t (initStack t start) (genOutputs t start)) :
    ∃ rel, p = start ++ rel ∧ StackInv s (framesFor o (framesAlong n rel) ++ [inScope]) :=
  (genOutputs_trace esc env pr t start n inScope hat hs hu (s, p, o) hx).1

/-- Start tags of the run, full strength: every `StartTagOpen` event the run renders is written
    with a prefix that resolves, in the declarations of the open elements (the element's own
    included), to the element's namespace. -/
theorem C10_sound_tree (esc : Escapers) (env : Env) (pr : TokenParams) (t : Tree) (start : Path)
    (n : Tree) (inScope : List (Nat × Nat)) (hat : t.at? start = some n)
    (hs : namespacesInScope t start = some inScope) (hu : UniqueBelow n)
    (s s' : FStack) (p : Path) (name : Nat) (node : Tree)
    (hx : (s, p, .startTagOpen name) ∈ stackTrace esc env pr t (initStack t start) (genOutputs t start))
    (hnode : t.at? p = some node)
    (hstep : stepStack esc env pr t s (p, .startTagOpen name) = some s') :
    ∃ rel pfx, p = start ++ rel ∧ (s.push node.nsDecls).elementPrefix env name = .ok pfx ∧
      (XmlPrefixReserved (framesAlong n rel ++ [inScope]) →
        resolveElementName (framesAlong n rel ++ [inScope]) pfx = some (env.nsOfName name)) := by
  obtain ⟨rel, node', hp, hrel, hnode', hown, hinv, _⟩ :=
    genOutputs_trace_node esc env pr t start n inScope hat hs hu s p _ hx
  obtain rfl : node = node' := Option.some.inj (hnode.symm.trans hnode')
  -- the node is an element named `name`
  have hval := ownEvent_startTagOpen hown
  have hframe : frameOf node = node.nsDecls := by simp [frameOf, hval]
  obtain ⟨rest, hfr⟩ := framesAlong_head n rel node hrel
  have hun : UniquePrefixes node.nsDecls := by rw [← hframe]; exact hu rel node hrel
  rw [hfr, hframe] at hinv
  simp only [framesFor, List.tail_cons] at hinv
  have hinv' := hinv.push' hun
  obtain ⟨node', tok, hn', hr⟩ := stepStack_some esc env pr t s s' p _ hstep
  rw [hnode] at hn'
  cases hn'
  -- without the reserved-prefix hypothesis the prefix is still the one `element_prefix` answers
  obtain ⟨pfx, hpfx, _, _, hcheck⟩ := renderXmlWith_startTagOpen_ok esc env pr hr
  refine ⟨rel, pfx, hp, hpfx, fun hxr => ?_⟩
  rw [hfr, hframe] at hxr ⊢
  exact C10_sound_prefix env _ _ name pfx hinv' (by simpa using hxr) hpfx hcheck

/-- End tags of the run, full strength: an `EndTag` event is only reached after the element's
    `StartTagOpen` was rendered with the same stack, so the name it writes resolves the same way. -/
theorem C10_sound_tree_endtag (esc : Escapers) (env : Env) (pr : TokenParams) (t : Tree)
    (start : Path) (n : Tree) (inScope : List (Nat × Nat)) (hat : t.at? start = some n)
    (hs : namespacesInScope t start = some inScope) (hu : UniqueBelow n)
    (s : FStack) (p : Path) (name : Nat) (pfx : Option Nat)
    (hx : (s, p, .endTag name) ∈ stackTrace esc env pr t (initStack t start) (genOutputs t start))
    (hpfx : s.elementPrefix env name = .ok pfx) :
    ∃ rel, p = start ++ rel ∧
      (XmlPrefixReserved (framesAlong n rel ++ [inScope]) →
        resolveElementName (framesAlong n rel ++ [inScope]) pfx = some (env.nsOfName name)) := by
  obtain ⟨⟨rel, hp, hinv⟩, hend⟩ := genOutputs_trace esc env pr t start n inScope hat hs hu _ hx
  simp only [framesFor] at hp hinv
  exact ⟨rel, hp, fun hxr => C10_sound_prefix env _ _ name pfx hinv hxr hpfx (hend name rfl)⟩

/-- Attribute names of the run: full strength — the prefix used resolves to the attribute's
    namespace in the declarations of the open elements (its own element included). -/
theorem C10_sound_tree_attribute (esc : Escapers) (env : Env) (pr : TokenParams) (t : Tree)
    (start : Path) (n : Tree) (inScope : List (Nat × Nat)) (hat : t.at? start = some n)
    (hs : namespacesInScope t start = some inScope) (hu : UniqueBelow n)
    (s : FStack) (p : Path) (name : Nat) (v : Str) (pfx : Option Nat)
    (hx : (s, p, .attribute name v) ∈ stackTrace esc env pr t (initStack t start) (genOutputs t start))
    (hpfx : s.attributePrefix env name = .ok pfx) :
    ∃ rel, p = start ++ rel ∧
      (XmlPrefixReserved (framesAlong n rel ++ [inScope]) →
        resolveAttributeName (framesAlong n rel ++ [inScope]) pfx = some (env.nsOfName name)) := by
  obtain ⟨⟨rel, hp, hinv⟩, _⟩ := genOutputs_trace esc env pr t start n inScope hat hs hu _ hx
  simp only [framesFor] at hp hinv
  exact ⟨rel, hp, fun hxr => (C10_sound_attribute env _ _ name pfx hinv hxr hpfx).1⟩

/-! ## `create_missing_prefixes` (second and third sentence of the property) -/

section Repair
open XotModel.Repair

/-- On an element the call is `create_missing_prefixes_for_element`. -/
theorem C10_repair_element (env : Env) (t : Tree) (path : Path) (name : Nat) (ks : List Tree)
    (hat : t.at? path = some (.node (.element name) ks)) :
    createMissingPrefixes env t path = repairElement env t path := by
  simp [createMissingPrefixes, hat, Tree.value, Value.isDocument, Value.isElement]

/-- Anything that is neither a document nor an element is refused, a document without element
    child too, and nothing changes (the result carries no tree). -/
theorem C10_repair_refused (env : Env) (t : Tree) (path : Path) (node : Tree) (hat : t.at? path = some node) :
    (node.value.isDocument = false → node.value.isElement = false →
      createMissingPrefixes env t path = .err .notElement) ∧
    (node.value.isDocument = true → elementKidIndices node.kids = [] →
      createMissingPrefixes env t path = .err .noElementAtTopLevel) := by
  constructor
  · intro h1 h2; simp [createMissingPrefixes, hat, h1, h2]
  · intro h1 h2; simp [createMissingPrefixes, hat, h1, h2]

/-- Frame: the call changes namespace nodes only — the tree without its namespace nodes (every
    node's value, i.e. element names, attribute names and values, text, comments, PIs, and the
    order of everything) is the same before and after; names and namespaces keep their ids. -/
theorem C10_repair_frame (env : Env) (hok : EnvOk env) (t : Tree) (path : Path) (name : Nat)
    (ks : List Tree) (hat : t.at? path = some (.node (.element name) ks))
    (hu : UniqueBelow (.node (.element name) ks)) (env' : Env) (t' : Tree)
    (h : createMissingPrefixes env t path = .ok (env', t')) :
    Repair.stripNs t' = Repair.stripNs t ∧ env'.names = env.names ∧ env'.namespaces = env.namespaces := by
  rw [C10_repair_element env t path name ks hat] at h
  have hf := repairElement_facts env hok t path name ks hat hu env' t' h
  exact ⟨facts_frame hat hf, hf.names, hf.namespaces⟩

/-- Writable: after the call the serialiser finds a usable prefix for every element and attribute
    name of the subtree, and meets no no-namespace element under a default namespace:
    `namesWritable` — the `MissingPrefix` checks of `render_output` run over the subtree with the
    name stack `XmlSerializer::new` builds — answers `true`. -/
theorem C10_repair_writable (env : Env) (hok : EnvOk env) (t : Tree) (path : Path) (name : Nat)
    (ks : List Tree) (hat : t.at? path = some (.node (.element name) ks))
    (hu : UniqueBelow (.node (.element name) ks)) (env' : Env) (t' : Tree)
    (h : createMissingPrefixes env t path = .ok (env', t')) :
    namesWritable env' t' path = some true := by
  rw [C10_repair_element env t path name ks hat] at h
  exact facts_writable hat (repairElement_facts env hok t path name ks hat hu env' t' h)

/-- Fresh prefixes: the declarations of the repaired element after the call are its old ones plus
    a list `nd` of new `(prefix, namespace)` pairs (plus `xmlns=""`, replacing its own default
    declaration, when the element is in no namespace under a default namespace); the new prefixes
    are pairwise different, not the empty prefix, bound NOWHERE in scope of the element and declared
    NOWHERE in its subtree — so no binding that a name depends on is overridden or shadowed. -/
theorem C10_repair_fresh_prefixes (env : Env) (hok : EnvOk env) (t : Tree) (path : Path) (name : Nat)
    (ks : List Tree) (hat : t.at? path = some (.node (.element name) ks))
    (hu : UniqueBelow (.node (.element name) ks)) (env' : Env) (t' : Tree)
    (h : createMissingPrefixes env t path = .ok (env', t')) :
    ∃ (nd : List (Nat × Nat)) (E' : Tree), t'.at? path = some E' ∧
      (∀ q m, (q, m) ∈ E'.nsDecls ↔
        if needsUndeclare env.nsOfName (inheritedDecls t path) (.node (.element name) ks) name = true then
          (q ≠ Env.emptyPrefix ∧ ((q, m) ∈ (Tree.node (.element name) ks).nsDecls ∨ (q, m) ∈ nd)) ∨
            (q = Env.emptyPrefix ∧ m = Env.noNamespace)
        else (q, m) ∈ (Tree.node (.element name) ks).nsDecls ∨ (q, m) ∈ nd) ∧
      (nd.map Prod.fst).Nodup ∧ (∀ d ∈ nd, d.1 ≠ Env.emptyPrefix) ∧
      (∀ p ∈ nd.map Prod.fst, ∀ scope, namespacesInScope t path = some scope → p ∉ scope.map Prod.fst) ∧
      (∀ p ∈ nd.map Prod.fst, ∀ rel y nm, (Tree.node (.element name) ks).at? rel = some y →
        y.value = .element nm → p ∉ y.nsDecls.map Prod.fst) := by
  rw [C10_repair_element env t path name ks hat] at h
  have hf := repairElement_facts env hok t path name ks hat hu env' t' h
  obtain ⟨nd, hat', _, h2, h3, h4, h5, _⟩ := hf.nd
  refine ⟨nd, _, hat', ?_, h2, h3, ?_, h5⟩
  · intro q m
    exact mem_nsDecls_rebuild_top env.nsOfName nd name ks _ (uniqueBelow_self hu) h2
      (fun p hp => h5 p hp [] _ name rfl rfl) q m
  · intro p hp scope hs
    have := h4 p hp
    rwa [hs] at this

/-- Idempotent: a second call returns the same tree and registers no prefix. -/
theorem C10_repair_idem (env : Env) (hok : EnvOk env) (t : Tree) (path : Path) (name : Nat)
    (ks : List Tree) (hat : t.at? path = some (.node (.element name) ks))
    (hu : UniqueBelow (.node (.element name) ks)) (env' : Env) (t' : Tree)
    (h : createMissingPrefixes env t path = .ok (env', t')) :
    createMissingPrefixes env' t' path = .ok (env', t') := by
  rw [C10_repair_element env t path name ks hat] at h
  have hf := repairElement_facts env hok t path name ks hat hu env' t' h
  obtain ⟨ks', hat', _⟩ := facts_element hf
  rw [C10_repair_element env' t' path name ks' hat']
  exact facts_idem hat hf

/-- The call keeps the hypothesis of all these theorems: no element of the tree declares a prefix
    twice, and the empty prefix keeps id 0 — so the call can be repeated, anywhere. -/
theorem C10_repair_keeps_unique (env : Env) (hok : EnvOk env) (t : Tree) (path : Path) (name : Nat)
    (ks : List Tree) (hat : t.at? path = some (.node (.element name) ks)) (hu : UniqueBelow t)
    (env' : Env) (t' : Tree) (h : createMissingPrefixes env t path = .ok (env', t')) :
    EnvOk env' ∧ UniqueBelow t' := by
  rw [C10_repair_element env t path name ks hat] at h
  have hsub : UniqueBelow (.node (.element name) ks) := hu.sub hat
  have hf := repairElement_facts env hok t path name ks hat hsub env' t' h
  exact ⟨hf.envOk, facts_unique hat hf hu⟩

/-! ### Documents and fragments: every element child is repaired, in order -/

/-- Frame for a document or fragment (any number of top-level elements): only namespace nodes
    change; the hypotheses of the theorems are kept. -/
theorem C10_repair_document_frame (env : Env) (hok : EnvOk env) (t : Tree) (path : Path) (doc : Tree)
    (hat : t.at? path = some doc) (hdoc : doc.value.isDocument = true)
    (hu : ∀ (i : Nat) (k : Tree), doc.kids[i]? = some k → k.value.isElement = true → UniqueBelow k)
    (env' : Env) (t' : Tree) (h : createMissingPrefixes env t path = .ok (env', t')) :
    Repair.stripNs t' = Repair.stripNs t ∧ env'.names = env.names ∧ env'.namespaces = env.namespaces ∧
      EnvOk env' ∧ (UniqueBelow t → UniqueBelow t') := by
  have hf := document_facts env hok t path doc hat hdoc hu env' t' h
  exact ⟨hf.frame, hf.names, hf.namespaces, hf.envOk, hf.unique⟩

/-- Writable for a document or fragment whose children other than elements are leaves (text,
    comments, processing instructions): after the call `namesWritable` answers `true` for the
    document node — every top-level element was repaired and stays repaired while its siblings are. -/
theorem C10_repair_document_writable (env : Env) (hok : EnvOk env) (t : Tree) (path : Path) (doc : Tree)
    (hat : t.at? path = some doc) (hdoc : doc.value.isDocument = true)
    (hu : ∀ (i : Nat) (k : Tree), doc.kids[i]? = some k → k.value.isElement = true → UniqueBelow k)
    (hleaf : ∀ (i : Nat) (k : Tree), doc.kids[i]? = some k → k.value.isElement = false → k.kids = [])
    (env' : Env) (t' : Tree) (h : createMissingPrefixes env t path = .ok (env', t')) :
    namesWritable env' t' path = some true :=
  docFacts_writable doc hat hdoc hleaf (document_facts env hok t path doc hat hdoc hu env' t' h)

/-- Every top-level element is repaired by its own `create_missing_prefixes_for_element` call, to
    which `C10_repair_fresh_prefixes` applies: the loop of the document branch is the sequence of
    those calls, each on the tree the previous one left (and an element-less document is refused). -/
theorem C10_repair_document_calls (env : Env) (t : Tree) (path : Path) (doc : Tree)
    (hat : t.at? path = some doc) (hdoc : doc.value.isDocument = true) (env' : Env) (t' : Tree)
    (h : createMissingPrefixes env t path = .ok (env', t')) :
    elementKidIndices doc.kids ≠ [] ∧
      repairElements (elementKidIndices doc.kids) path env t = .ok (env', t') :=
  createMissingPrefixes_document env t path doc hat hdoc env' t' h

/-- Idempotent for a document or fragment. -/
theorem C10_repair_document_idem (env : Env) (hok : EnvOk env) (t : Tree) (path : Path) (doc : Tree)
    (hat : t.at? path = some doc) (hdoc : doc.value.isDocument = true)
    (hu : ∀ (i : Nat) (k : Tree), doc.kids[i]? = some k → k.value.isElement = true → UniqueBelow k)
    (env' : Env) (t' : Tree) (h : createMissingPrefixes env t path = .ok (env', t')) :
    createMissingPrefixes env' t' path = .ok (env', t') :=
  docFacts_idem doc hat hdoc (createMissingPrefixes_document env t path doc hat hdoc env' t' h).1
    (document_facts env hok t path doc hat hdoc hu env' t' h)

/-- States reachable by histories that alternate arbitrary edits — the tree and the interning tables
    are replaced by any tree whose elements declare no prefix twice (nodes in new namespaces added,
    subtrees moved or cloned away from their declarations, declarations added or removed: whatever
    the editing API produces) — with successful `create_missing_prefixes` calls on elements. -/
inductive RepairReachable : Env × Tree → Prop
  | edit (env : Env) (t : Tree) : EnvOk env → UniqueBelow t → RepairReachable (env, t)
  | repair (env : Env) (t : Tree) (path : Path) (name : Nat) (ks : List Tree) (env' : Env) (t' : Tree) :
      RepairReachable (env, t) → t.at? path = some (.node (.element name) ks) →
      createMissingPrefixes env t path = .ok (env', t') → RepairReachable (env', t')
  | repairDocument (env : Env) (t : Tree) (path : Path) (doc : Tree) (env' : Env) (t' : Tree) :
      RepairReachable (env, t) → t.at? path = some doc → doc.value.isDocument = true →
      createMissingPrefixes env t path = .ok (env', t') → RepairReachable (env', t')

/-- Iteration, invariant: however often nodes are added and the call is repeated, the state meets
    the hypotheses of the per-call theorems again. -/
theorem C10_iter_invariant (s : Env × Tree) (h : RepairReachable s) : EnvOk s.1 ∧ UniqueBelow s.2 := by
  induction h with
  | edit env t hok hu => exact ⟨hok, hu⟩
  | repair env t path name ks env' t' _ hat hcall ih =>
    exact C10_repair_keeps_unique env ih.1 t path name ks hat ih.2 env' t' hcall
  | repairDocument env t path doc env' t' _ hat hdoc hcall ih =>
    have hu : ∀ (i : Nat) (k : Tree), doc.kids[i]? = some k → k.value.isElement = true → UniqueBelow k := by
      intro i k hk _
      cases doc with
      | node v ks => exact (ih.2.sub hat).kid hk
    have := C10_repair_document_frame env ih.1 t path doc hat hdoc hu env' t' hcall
    exact ⟨this.2.2.2.1, this.2.2.2.2 ih.2⟩

/-- Iteration: in every reachable state, every successful call on an element leaves names,
    attributes and content alone, makes every name of the subtree writable, is the identity when
    repeated, and leads to a reachable state again. -/
theorem C10_iter (s : Env × Tree) (h : RepairReachable s) (path : Path) (name : Nat) (ks : List Tree)
    (hat : s.2.at? path = some (.node (.element name) ks)) (env' : Env) (t' : Tree)
    (hcall : createMissingPrefixes s.1 s.2 path = .ok (env', t')) :
    Repair.stripNs t' = Repair.stripNs s.2 ∧ namesWritable env' t' path = some true ∧
      createMissingPrefixes env' t' path = .ok (env', t') ∧ RepairReachable (env', t') := by
  obtain ⟨hok, hu⟩ := C10_iter_invariant s h
  have hsub : UniqueBelow (.node (.element name) ks) := hu.sub hat
  obtain ⟨env, t⟩ := s
  exact ⟨(C10_repair_frame env hok t path name ks hat hsub env' t' hcall).1,
    C10_repair_writable env hok t path name ks hat hsub env' t' hcall,
    C10_repair_idem env hok t path name ks hat hsub env' t' hcall,
    RepairReachable.repair env t path name ks env' t' h hat hcall⟩

/-- Iteration, documents and fragments: the same for calls on a document node of a reachable
    state (writability under the leaf hypothesis on the non-element children). -/
theorem C10_iter_document (s : Env × Tree) (h : RepairReachable s) (path : Path) (doc : Tree)
    (hat : s.2.at? path = some doc) (hdoc : doc.value.isDocument = true) (env' : Env) (t' : Tree)
    (hcall : createMissingPrefixes s.1 s.2 path = .ok (env', t')) :
    Repair.stripNs t' = Repair.stripNs s.2 ∧
      ((∀ (i : Nat) (k : Tree), doc.kids[i]? = some k → k.value.isElement = false → k.kids = []) →
        namesWritable env' t' path = some true) ∧
      createMissingPrefixes env' t' path = .ok (env', t') ∧ RepairReachable (env', t') := by
  obtain ⟨hok, hu⟩ := C10_iter_invariant s h
  obtain ⟨env, t⟩ := s
  have hu' : ∀ (i : Nat) (k : Tree), doc.kids[i]? = some k → k.value.isElement = true → UniqueBelow k := by
    intro i k hk _
    cases doc with
    | node v ks => exact (hu.sub hat).kid hk
  exact ⟨(C10_repair_document_frame env hok t path doc hat hdoc hu' env' t' hcall).1,
    fun hleaf => C10_repair_document_writable env hok t path doc hat hdoc hu' hleaf env' t' hcall,
    C10_repair_document_idem env hok t path doc hat hdoc hu' env' t' hcall,
    RepairReachable.repairDocument env t path doc env' t' h hat hdoc hcall⟩

/-- Non-vacuity: `<{ns2}a xmlns="ns3" {ns3}x="v"><b/><n0:c xmlns:n0="ns2"/></a>` (b in no namespace,
    c in ns2): the element and the attribute get new prefixes (n0, id 5, is declared below, so n1 and
    a newly registered n2 are used), `b` gets `xmlns=""`, and the result is writable. -/
example :
    let env : Env := ⟨[[], ['x'], ['u'], ['v']], [[], ['x','m','l'], ['p'], ['q'], ['r'], ['n','0'], ['n','1']],
      [(['a'], 2), (['x'], 3), (['b'], 0), (['c'], 2)]⟩
    let t : Tree := .node .document [.node (.element 0) [.node (.namespace 0 3) [], .node (.attribute 1 ['v']) [],
      .node (.element 2) [], .node (.element 3) [.node (.namespace 5 2) []]]]
    (match createMissingPrefixes env t [0] with
      | .ok (env', t') => (env'.prefixes.length, (t'.at? [0]).map Tree.nsDecls,
          (t'.at? [0, 4]).map Tree.nsDecls, namesWritable env t [0], namesWritable env' t' [0])
      | _ => (0, none, none, none, none)) =
    (8, some [(0, 3), (6, 2), (7, 3)], some [(0, 0)], some false, some true) := by decide +kernel

/-! ### The `n{counter}` loop cannot run out: the call never panics -/

/-- `format!("n{}", counter)` is injective: different counters give different prefix strings. -/
theorem C10_generated_prefix_injective (a b : Nat) (h : generatedPrefixName a = generatedPrefixName b) :
    a = b :=
  generatedPrefixName_inj h

/-- The loop `loop { p = add_prefix("n{counter}"); counter += 1; if !used.contains(p) { break } }`
    ends within `used.length + 1` iterations — the fuel the model gives it — for EVERY interning
    table (duplicate entries included), counter and `used` set: each iteration that does not break
    names a different member of `used` (pigeonhole over the injective decimal spellings). -/
theorem C10_repair_fuel_suffices (used : List Nat) (env : Env) (counter : Nat) :
    ∃ env1 p counter1, freshPrefix used (used.length + 1) env counter = some (env1, p, counter1) := by
  have h := freshPrefix_fuel used env counter
  cases hf : freshPrefix used (used.length + 1) env counter with
  | none => rw [hf] at h; cases h
  | some r => exact ⟨r.1, r.2.1, r.2.2, rfl⟩

/-- Never panics, and exactly when the call fails: for every tree, every interning table (no
    hypothesis at all) and every existing node, `create_missing_prefixes` answers
    `Err(NotElement)` on a node that is neither document nor element, `Err(NoElementAtTopLevel)` on a
    document without element child, and `Ok` in every other case — the panic outcomes of the model
    (`pushed.pop().unwrap()`, the fuel of the `n{counter}` loop) are unreachable. -/
theorem C10_repair_never_panics (env : Env) (t : Tree) (path : Path) (node : Tree)
    (hat : t.at? path = some node) :
    createMissingPrefixes env t path ≠ .panic ∧
    (node.value.isDocument = false → node.value.isElement = false →
      createMissingPrefixes env t path = .err .notElement) ∧
    (node.value.isDocument = true → elementKidIndices node.kids = [] →
      createMissingPrefixes env t path = .err .noElementAtTopLevel) ∧
    ((node.value.isElement = true ∨
        (node.value.isDocument = true ∧ elementKidIndices node.kids ≠ [])) →
      ∃ env' t', createMissingPrefixes env t path = .ok (env', t')) := by
  obtain ⟨h1, h2, h3⟩ := createMissingPrefixes_total env t path node hat
  refine ⟨?_, h1, h2, h3⟩
  cases hd : node.value.isDocument with
  | false =>
    cases he : node.value.isElement with
    | false => rw [h1 hd he]; exact fun h => by cases h
    | true => obtain ⟨e, t', h⟩ := h3 (Or.inl he); rw [h]; exact fun h => by cases h
  | true =>
    by_cases hk : elementKidIndices node.kids = []
    · rw [h2 hd hk]; exact fun h => by cases h
    · obtain ⟨e, t', h⟩ := h3 (Or.inr ⟨hd, hk⟩); rw [h]; exact fun h => by cases h

/-- The element theorems without "for a call that returns Ok": on an element of a tree whose
    elements declare no prefix twice the call SUCCEEDS, changes namespace nodes only, makes every
    name of the subtree writable, and is the identity when repeated. -/
theorem C10_repair_total (env : Env) (hok : EnvOk env) (t : Tree) (path : Path) (name : Nat)
    (ks : List Tree) (hat : t.at? path = some (.node (.element name) ks))
    (hu : UniqueBelow (.node (.element name) ks)) :
    ∃ env' t', createMissingPrefixes env t path = .ok (env', t') ∧
      Repair.stripNs t' = Repair.stripNs t ∧ env'.names = env.names ∧ env'.namespaces = env.namespaces ∧
      namesWritable env' t' path = some true ∧
      createMissingPrefixes env' t' path = .ok (env', t') := by
  obtain ⟨env', t', h⟩ := (createMissingPrefixes_total env t path _ hat).2.2 (Or.inl rfl)
  obtain ⟨f1, f2, f3⟩ := C10_repair_frame env hok t path name ks hat hu env' t' h
  exact ⟨env', t', h, f1, f2, f3, C10_repair_writable env hok t path name ks hat hu env' t' h,
    C10_repair_idem env hok t path name ks hat hu env' t' h⟩

/-- The same for a document or fragment with at least one element child. -/
theorem C10_repair_document_total (env : Env) (hok : EnvOk env) (t : Tree) (path : Path) (doc : Tree)
    (hat : t.at? path = some doc) (hdoc : doc.value.isDocument = true)
    (hel : elementKidIndices doc.kids ≠ [])
    (hu : ∀ (i : Nat) (k : Tree), doc.kids[i]? = some k → k.value.isElement = true → UniqueBelow k) :
    ∃ env' t', createMissingPrefixes env t path = .ok (env', t') ∧
      Repair.stripNs t' = Repair.stripNs t ∧ env'.names = env.names ∧ env'.namespaces = env.namespaces ∧
      createMissingPrefixes env' t' path = .ok (env', t') := by
  obtain ⟨env', t', h⟩ := (createMissingPrefixes_total env t path _ hat).2.2 (Or.inr ⟨hdoc, hel⟩)
  obtain ⟨f1, f2, f3, _⟩ := C10_repair_document_frame env hok t path doc hat hdoc hu env' t' h
  exact ⟨env', t', h, f1, f2, f3, C10_repair_document_idem env hok t path doc hat hdoc hu env' t' h⟩

/-- Non-vacuity of the pigeonhole: every candidate `n0`, `n1`, `n2` is registered (ids 2, 4, 3) and
    used; the loop registers `n3` (id 5) at the fourth iteration — the last the fuel allows. -/
example : (freshPrefix [2, 3, 4] 4 ⟨[], [[], ['x'], ['n','0'], ['n','2'], ['n','1']], []⟩ 0).map
      (fun r => (r.1.prefixes, r.2)) =
    some ([[], ['x'], ['n','0'], ['n','2'], ['n','1'], ['n','3']], 5, 4) := by decide +kernel
example : createMissingPrefixes ⟨[], [], []⟩ (.node (.text ['x']) []) [] = .err .notElement := rfl
example : createMissingPrefixes ⟨[], [], []⟩ (.node .document [.node (.text ['x']) []]) [] =
    .err .noElementAtTopLevel := rfl

/-! ### Descendants' declarations and the bindings in force are kept

Raw child indices shift when namespace nodes are inserted, so nodes are identified by their position
in document order among the nodes that are not namespace nodes: `nodesBelow F E` lists the nodes
below `E` in that order, each with the declaration frames in force at it — its own declarations (an
element) or nothing (another node) first, then those of its ancestors up to `E`, then `F`.  Here
`F = [inheritedDecls t path]`: what the repaired element inherits (`namespaces_in_scope(parent)`,
or the `xml` binding for a parentless element). -/

/-- Descendants' declarations: the call inserts namespace nodes only (same number of other nodes
    below the repaired element, each with its value), and the declaration list of every node other
    than the repaired element is its list before — except that an element in no namespace at which
    (frames around it AFTER the call, plus its own declarations) the empty prefix is bound to a
    namespace gets `insert("", no namespace)` (`insertDecl`: its own `xmlns="…"` is overwritten in
    place, otherwise `xmlns=""` is appended), and exactly then. -/
theorem C10_repair_keeps_declarations (env : Env) (hok : EnvOk env) (t : Tree) (path : Path) (name : Nat)
    (ks : List Tree) (hat : t.at? path = some (.node (.element name) ks))
    (hu : UniqueBelow (.node (.element name) ks)) (env' : Env) (t' : Tree)
    (h : createMissingPrefixes env t path = .ok (env', t')) :
    ∃ E', t'.at? path = some E' ∧ E'.value = .element name ∧
      (nodesBelow [inheritedDecls t path] (.node (.element name) ks)).length =
        (nodesBelow [inheritedDecls t path] E').length ∧
      ∀ (k : Nat) (b a : Frames × Tree),
        (nodesBelow [inheritedDecls t path] (.node (.element name) ks))[k]? = some b →
        (nodesBelow [inheritedDecls t path] E')[k]? = some a →
        a.2.value = b.2.value ∧
        ((NeedsUndeclaration env.nsOfName a.1.tail b.2 ∧
            a.2.nsDecls = insertDecl Env.emptyPrefix Env.noNamespace b.2.nsDecls) ∨
          (¬ NeedsUndeclaration env.nsOfName a.1.tail b.2 ∧ a.2.nsDecls = b.2.nsDecls)) := by
  rw [C10_repair_element env t path name ks hat] at h
  obtain ⟨E', h1, h2, _, h4⟩ := facts_kept hat hu (repairElement_facts env hok t path name ks hat hu env' t' h)
  obtain ⟨hl, hall⟩ := allPairs_iff_getElem.mp h4
  exact ⟨E', h1, h2, hl, fun k b a hb ha => ⟨(hall k b a hb ha).1, (hall k b a hb ha).2.1⟩⟩

/-- Bindings: at the repaired element and at every node below it, every binding of a non-empty prefix
    in force before the call is in force after it (same prefix, same namespace), and the empty
    prefix means what it meant or — below an element in no namespace that got `xmlns=""` — a default
    namespace has become "no namespace" (`BindingsKept`).  Nothing else is overridden: the prefixes
    the call adds are bound nowhere in scope and declared nowhere in the subtree
    (`C10_repair_fresh_prefixes`). -/
theorem C10_repair_keeps_bindings (env : Env) (hok : EnvOk env) (t : Tree) (path : Path) (name : Nat)
    (ks : List Tree) (hat : t.at? path = some (.node (.element name) ks))
    (hu : UniqueBelow (.node (.element name) ks)) (env' : Env) (t' : Tree)
    (h : createMissingPrefixes env t path = .ok (env', t')) :
    ∃ E', t'.at? path = some E' ∧
      BindingsKept ((Tree.node (.element name) ks).nsDecls :: [inheritedDecls t path])
        (E'.nsDecls :: [inheritedDecls t path]) ∧
      ∀ (k : Nat) (b a : Frames × Tree),
        (nodesBelow [inheritedDecls t path] (.node (.element name) ks))[k]? = some b →
        (nodesBelow [inheritedDecls t path] E')[k]? = some a → BindingsKept b.1 a.1 := by
  rw [C10_repair_element env t path name ks hat] at h
  obtain ⟨E', h1, _, h3, h4⟩ := facts_kept hat hu (repairElement_facts env hok t path name ks hat hu env' t' h)
  exact ⟨E', h1, h3, fun k b a hb ha => ((allPairs_iff_getElem.mp h4).2 k b a hb ha).2.2⟩

/-- What `BindingsKept` means for names: a prefixed element name, and every attribute name, that
    resolved to a namespace before resolves — written with the SAME prefix — to the same namespace
    after; an unprefixed element name resolves to the same namespace or to no namespace. -/
theorem C10_repair_keeps_resolution (fb fa : Frames) (hk : BindingsKept fb fa) :
    (∀ p ns, p ≠ Env.emptyPrefix → resolveElementName fb (some p) = some ns →
      resolveElementName fa (some p) = some ns) ∧
    (∀ pfx ns, pfx ≠ some Env.emptyPrefix → resolveAttributeName fb pfx = some ns →
      resolveAttributeName fa pfx = some ns) ∧
    (resolveElementName fa none = resolveElementName fb none ∨
      resolveElementName fa none = some Env.noNamespace) := by
  have hp : ∀ p ns, p ≠ Env.emptyPrefix → resolvePrefix fb p = some ns → resolvePrefix fa p = some ns := by
    intro p ns hpe hr
    unfold resolvePrefix at hr ⊢
    split
    · rename_i hx; simpa [hx] using hr
    · rename_i hx; simp only [hx] at hr; exact hk.1 p hpe ns hr
  refine ⟨fun p ns hpe hr => hp p ns hpe hr, fun pfx ns hpe hr => ?_, ?_⟩
  · cases pfx with
    | none => exact hr
    | some p => exact hp p ns (fun h => hpe (by rw [h])) hr
  · simp only [resolveElementName]
    rcases hk.2 with h | ⟨h, _⟩
    · left; rw [h]
    · right; rw [h]; rfl

/-- Non-vacuity, and the one binding the call does change: `<a xmlns="u"><b><c/></b><d xmlns:p="v"/></a>`
    with `a`, `c` in namespace `u` (id 2), `b`, `d` in none.  `b` and `d` get `xmlns=""` (appended after
    `d`'s own declaration), so below `b` the empty prefix no longer means `u`; `c`, which was written
    unprefixed, is now written with the new prefix `n0` (id 3) declared on `a`.  The declarations of
    `c` are untouched and the binding of `p` (id 2) at `d` is kept.  Listed per node below `a`:
    declarations; binding of the empty prefix; binding of `p`. -/
example :
    let env : Env := ⟨[[], ['x'], ['u'], ['v']], [[], ['x','m','l'], ['p']],
      [(['a'], 2), (['b'], 0), (['c'], 2), (['d'], 0)]⟩
    let E : Tree := .node (.element 0) [.node (.namespace 0 2) [],
      .node (.element 1) [.node (.element 2) []], .node (.element 3) [.node (.namespace 2 3) []]]
    ((nodesBelow [basePrefixes] E).map (fun x => x.2.nsDecls) = [[], [], [(2, 3)]] ∧
      (nodesBelow [basePrefixes] E).map (fun x => lookupFrames x.1 0) = [some 2, some 2, some 2] ∧
      (nodesBelow [basePrefixes] E).map (fun x => lookupFrames x.1 2) = [none, none, some 3]) ∧
    (match createMissingPrefixes env E [] with
      | .ok (_, E') => decide (
        E'.nsDecls = [(0, 2), (3, 2)] ∧
        (nodesBelow [basePrefixes] E').map (fun x => x.2.nsDecls) = [[(0, 0)], [], [(2, 3), (0, 0)]] ∧
        (nodesBelow [basePrefixes] E').map (fun x => lookupFrames x.1 0) = [some 0, some 0, some 0] ∧
        (nodesBelow [basePrefixes] E').map (fun x => lookupFrames x.1 2) = [none, none, some 3])
      | _ => false) = true := by decide +kernel

/-! ### Document-level writability from structural validity -/

/-- Writable for a document or fragment, the leaf hypothesis of `C10_repair_document_writable`
    discharged by `KindsOk` (Model/Valid: text, comment and PI nodes have no children, a document
    node is never a child) at the document node and its children. -/
theorem C10_repair_document_writable_kinds (env : Env) (hok : EnvOk env) (t : Tree) (path : Path) (doc : Tree)
    (hat : t.at? path = some doc) (hdoc : doc.value.isDocument = true)
    (hu : ∀ (i : Nat) (k : Tree), doc.kids[i]? = some k → k.value.isElement = true → UniqueBelow k)
    (hkinds : doc.Forall KindsOk)
    (env' : Env) (t' : Tree) (h : createMissingPrefixes env t path = .ok (env', t')) :
    namesWritable env' t' path = some true :=
  C10_repair_document_writable env hok t path doc hat hdoc hu (leaves_of_kindsOk doc hkinds) env' t' h

/-- For every structurally valid document (or fragment) with an element child, and interning tables
    with the empty prefix at id 0 — no other hypothesis: the call on the root SUCCEEDS, changes
    namespace nodes only, makes every name of the document writable, and is the identity when
    repeated. -/
theorem C10_repair_document_valid (env : Env) (hok : EnvOk env) (t : Tree) (hv : StructValid t)
    (hel : elementKidIndices t.kids ≠ []) :
    ∃ env' t', createMissingPrefixes env t [] = .ok (env', t') ∧
      Repair.stripNs t' = Repair.stripNs t ∧ env'.names = env.names ∧ env'.namespaces = env.namespaces ∧
      namesWritable env' t' [] = some true ∧
      createMissingPrefixes env' t' [] = .ok (env', t') := by
  have hub := uniqueBelow_of_uniqueKids t hv.2.2.2
  have hu : ∀ (i : Nat) (k : Tree), t.kids[i]? = some k → k.value.isElement = true → UniqueBelow k := by
    intro i k hk _
    cases t with
    | node v ks => exact hub.kid hk
  obtain ⟨env', t', h, f1, f2, f3, f4⟩ := C10_repair_document_total env hok t [] t rfl hv.1 hel hu
  exact ⟨env', t', h, f1, f2, f3,
    C10_repair_document_writable_kinds env hok t [] t rfl hv.1 hu hv.2.2.1 env' t' h, f4⟩

/-- The leaf hypothesis cannot simply be dropped in the model: a (structurally invalid) text child of
    the document holding an element in an undeclared namespace is not repaired — only element
    children of the document are. -/
example :
    let env : Env := ⟨[[], ['x'], ['u']], [[], ['x','m','l']], [(['a'], 0), (['e'], 2)]⟩
    let t : Tree := .node .document [.node (.text ['x']) [.node (.element 1) []], .node (.element 0) []]
    (match createMissingPrefixes env t [] with
      | .ok (env', t') => namesWritable env' t' []
      | _ => none) = some false := by decide +kernel
/-- Non-vacuity of `C10_repair_document_valid`: `<a/>` with `a` in an undeclared namespace. -/
example : StructValid (.node .document [.node (.element 0) []]) ∧
    elementKidIndices (Tree.node .document [.node (.element 0) []]).kids ≠ [] := by
  refine ⟨⟨rfl, ?_, ?_, ?_⟩, by decide +kernel⟩
  · simp only [Tree.Forall, Tree.Forall.forallList, OrderedKids, Tree.value, List.pairwise_cons, List.not_mem_nil,
      List.Pairwise.nil, false_implies, implies_true, and_self]
  · simp only [Tree.Forall, Tree.Forall.forallList, KindsOk, Value.isLeafKind, Value.isElement, Value.isDocument,
      Value.isNormal, Value.category, Tree.value, List.mem_cons, List.not_mem_nil, List.cons_ne_self, beq_iff_eq,
      Bool.false_eq_true, Bool.true_eq_false, or_false, forall_eq, imp_self, implies_true, false_implies, and_self]
  · simp only [Tree.Forall, Tree.Forall.forallList, UniqueKids, attrNames, nsPrefixes, Tree.value,
      List.filterMap_cons_none, List.filterMap_nil, List.nodup_nil, and_self]

end Repair

/-! ## Names resolve in the token TEXTS (first sentence, one step closer to the bytes)

`SerResolve.resolveGo` is an independent XML-Namespaces resolver over the token stream of
`Xot::tokens` (Lemmas/SerResolve; the Lean counterpart of the `ser` suite's oracle): of every token it
is told the kind and the TEXT.  It reads `xmlns="…"` / `xmlns:p="…"` declarations back out of the
texts (value unescaped), keeps them per open start tag, splits qualified names at the first colon
and resolves the prefix string in the declarations read so far (`xml` reserved; unprefixed element
→ default namespace; unprefixed attribute → none).  `SerResolve.expectedGo` lists, for the same
run, the expanded names of the nodes as strings through the interning tables. -/

section Resolve
open XotModel.SerResolve

/-- First sentence of the property, at the level of token texts: whenever the run succeeds, the resolver's answers —
    for every start-tag name, every attribute name and every written end-tag name, in order — are the
    expanded names `(namespace URI, local name)` of the nodes.  For every tree whose elements declare
    no prefix twice, declare registered prefixes only and do not rebind `xml` (`DeclsOkBelow`;
    likewise the bindings in scope at the start node), a start node that is an element or has only
    `xml` bindings in scope (a document node: nothing else could be declared in its output), any
    parameters, any escaping function that the unescaper inverts, interning tables with pairwise
    different prefix strings, the built-in entries, and no `:` / `=` in prefixes and local names. -/
theorem C10_names_resolve_in_tokens (esc : Escapers) (env : Env) (pr : TokenParams) (t : Tree)
    (unesc : Str → Str) (henv : EnvStrings env) (hue : ∀ u, unesc (esc.attr u) = u) (start : Path)
    (n : Tree) (inScope : List (Nat × Nat)) (hat : t.at? start = some n)
    (hs : namespacesInScope t start = some inScope) (hu : UniqueBelow n) (hdk : DeclsOkBelow env n)
    (hin : DeclsOk env inScope) (hstart : n.value.isElement = true ∨ OnlyXmlInScope inScope)
    (toks : List (Path × Output × OutputToken)) (hr : tokensWith esc env pr t start = .ok toks) :
    resolveGo unesc [] none (view toks) = expectedGo env none (evs toks) :=
  tokens_resolve esc env pr t unesc henv hue start n inScope hat hs hu hdk hin hstart toks
    ((tokensWith_ok_iff esc env pr t start toks).mp hr)

/-- The same for the crate's own escaping (`serialize_attribute`), read back with the crate's
    `parse_attribute`. -/
theorem C10_names_resolve_in_tokens_xml (env : Env) (pr : TokenParams) (t : Tree)
    (henv : EnvStrings env) (start : Path)
    (n : Tree) (inScope : List (Nat × Nat)) (hat : t.at? start = some n)
    (hs : namespacesInScope t start = some inScope) (hu : UniqueBelow n) (hdk : DeclsOkBelow env n)
    (hin : DeclsOk env inScope) (hstart : n.value.isElement = true ∨ OnlyXmlInScope inScope)
    (toks : List (Path × Output × OutputToken)) (hr : tokens env pr t start = .ok toks) :
    resolveGo unescapeValue [] none (view toks) = expectedGo env none (evs toks) :=
  C10_names_resolve_in_tokens xmlEscapers env pr t unescapeValue henv unescapeValue_serializeAttribute
    start n inScope hat hs hu hdk hin hstart toks hr

/-- Non-vacuity: `<p:a xmlns:p="u" p:x="1"><b/></p:a>` as a document (`a`, `x` in namespace `u`, `b` in
    none), escaping functions = identity so that the run is closed under `decide`: the token texts,
    and what the resolver answers on them (= the expected expanded names). -/
example :
    let env : Env := ⟨[[], Gen.xmlNs, ['u']], [[], ['x','m','l'], ['p']], [(['a'], 2), (['x'], 2), (['b'], 0)]⟩
    let t : Tree := .node .document [.node (.element 0) [.node (.namespace 2 2) [],
      .node (.attribute 1 ['1']) [], .node (.element 2) []]]
    let esc : Escapers := ⟨fun s => s, fun _ s => s, fun s => s⟩
    (match tokensWith esc env {} t [] with
      | .ok toks => decide (
          toks.map (fun x => x.2.2.text) =
            [['<','p',':','a'], ['x','m','l','n','s',':','p','=','"','u','"'], ['p',':','x','=','"','1','"'], ['>'],
             ['<','b'], ['/','>'], [], ['<','/','p',':','a','>']] ∧
          resolveGo (fun s => s) [] none (view toks) =
            [(false, some ['u'], ['a']), (true, some ['u'], ['x']), (false, some [], ['b']),
             (false, some ['u'], ['a'])] ∧
          expectedGo env none (evs toks) = resolveGo (fun s => s) [] none (view toks))
      | _ => false) = true := by decide +kernel
/-- The hypothesis on the interning tables holds for the tables of that example. -/
example : EnvStrings ⟨[[], Gen.xmlNs, ['u']], [[], ['x','m','l'], ['p']], [(['a'], 2), (['x'], 2), (['b'], 0)]⟩ :=
  ⟨by decide +kernel, rfl, rfl, rfl, rfl, by decide +kernel⟩

end Resolve

/-- Non-vacuity: `<a xmlns:p="2"><p:b/></a>`-like scope — name 0 = `b` in namespace 2, prefix 5
    bound to it two frames up, an unrelated frame in between. -/
example : resolveElementName [[(4, 3)], [], [(5, 2)]] (some 5) = some 2 := by decide +kernel
example : (FStack.new [(5, 2)]).elementPrefix ⟨[], [], [(['b'], 2)]⟩ 0 = .ok (some 5) := rfl
/-- `xml:lang` (namespace 1) with another prefix bound to the XML namespace: the `xml` prefix is used. -/
example : (FStack.new [(1, 1), (2, 1)]).attributePrefix ⟨[], [], [(['l'], 1)]⟩ 0 = .ok (some 1) := rfl

/-- `<a xmlns="ns2"><b/></a>` with `b` in no namespace: the start tag of `b` is refused; with
    `xmlns=""` on `b` it is written unprefixed. -/
example : renderXml ⟨[], [], [(['b'], 0)]⟩ {} [[(0, 2)]] (.node (.element 0) []) none (.startTagOpen 0)
    = .err (.missingPrefix 0) := rfl
example : (renderXml ⟨[], [], [(['b'], 0)]⟩ {} [[(0, 2)]]
      (.node (.element 0) [.node (.namespace 0 0) []]) none (.startTagOpen 0)).okValue?.map (·.1)
    = some [[(0, 0)], [(0, 2)]] := rfl

/-- Non-vacuity of the tree-level theorems: in `<a xmlns:p5="ns2"><b/></a>` (both names in
    namespace 2) the run reaches `<b` holding the stack `[[xml, p5↦2], [xml]]`; `b` is written with
    prefix 5, which the frames of the open elements resolve to namespace 2. -/
example :
    let env : Env := ⟨[], [], [(['a'], 2), (['b'], 2)]⟩
    let t : Tree := .node .document [.node (.element 0) [.node (.namespace 5 2) [], .node (.element 1) []]]
    (([[(1, 1), (5, 2)], [(1, 1)]], [0, 1], Output.startTagOpen 1) ∈
        stackTrace xmlEscapers env {} t (initStack t []) (genOutputs t [])) ∧
      resolveElementName (framesAlong t [0, 1] ++ [[(1, 1)]]) (some 5) = some 2 := by decide +kernel

/-! ## "… serialisation succeeds and reparses deep-equal" (corollaries of C01_roundtrip)

`Representable env t` (Model/SerTokens.lean, decidable) is the C01 domain; it does not ask that names be
writable — that is what the call establishes.  One more hypothesis on the tables:
`Repair.nameTableOK env` (decidable; Lemmas/RepairRoundTrip.lean): the namespace of every registered name
has a URI that can be declared (XML Chars, non-empty unless it is the no-namespace id, and — as of /repo
6153ddf — not the xmlns namespace name `http://www.w3.org/2000/xmlns/`, to which nothing can be bound).
It is needed: a `Representable` tree may hold an element whose namespace URI is U+0001, or the xmlns
namespace name (nothing declares it), and the call would add `xmlns:n0="&#x1;"`, which no XML parser
accepts, resp. `xmlns:n0="http://www.w3.org/2000/xmlns/"`, which the parser refuses. -/

section RepairRoundTrip
open XotModel.Repair

/-- The call on the root of a document keeps it inside the C01 domain of the tables it leaves: it only
    adds namespace nodes whose prefix `n{k}` is an NCName other than `xmlns` and whose namespace is a
    name's namespace other than none / XML, and `xmlns=""`; per element the prefixes stay pairwise
    distinct, namespace nodes stay in front; nothing else changes (`xml:id` values, text, names).  Of the
    tables only the prefix table grows, by appending new strings. -/
theorem C10_repair_representable (env : Env) (t : Tree) (hr : Representable env t = true)
    (htab : nameTableOK env = true) (env' : Env) (t' : Tree)
    (h : createMissingPrefixes env t [] = .ok (env', t')) :
    Representable env' t' = true ∧ nameTableOK env' = true ∧ env'.names = env.names ∧
      env'.namespaces = env.namespaces ∧ ∃ e, env'.prefixes = env.prefixes ++ e := by
  obtain ⟨e, h1, h2⟩ := createMissingPrefixes_representable env t hr htab env' t' h
  exact ⟨h1, h2, e.names, e.namespaces, e.ext⟩

/-- The same for a call on an ELEMENT anywhere in a representable document (the whole document stays
    in the domain) and for a fragment. -/
theorem C10_repair_representable_element (env : Env) (t : Tree) (hr : Representable env t = true)
    (htab : nameTableOK env = true) (path : Path) (name : Nat) (ks : List Tree)
    (hat : t.at? path = some (.node (.element name) ks)) (env' : Env) (t' : Tree)
    (h : createMissingPrefixes env t path = .ok (env', t')) :
    Representable env' t' = true ∧ nameTableOK env' = true :=
  (createMissingPrefixes_element_representable env t hr htab path name ks hat env' t' h).2

theorem C10_repair_representable_fragment (env : Env) (t : Tree) (hr : RepresentableFragment env t = true)
    (htab : nameTableOK env = true) (env' : Env) (t' : Tree)
    (h : createMissingPrefixes env t [] = .ok (env', t')) :
    RepresentableFragment env' t' = true ∧ nameTableOK env' = true :=
  (createMissingPrefixes_representableFragment env t hr htab env' t' h).2

/-- The call on the root of a tree in the fragment domain: the tree stays in the domain, every name is writable
    afterwards, and the repaired tree differs from the old one in namespace nodes only, hence is `deep_equal`
    to it. -/
theorem repair_fragment_deepEqual (env : Env) (t : Tree) (hr : RepresentableFragment env t = true)
    (htab : nameTableOK env = true) (env' : Env) (t' : Tree)
    (h : createMissingPrefixes env t [] = .ok (env', t')) :
    RepresentableFragment env' t' = true ∧ namesWritable env' t' [] = some true ∧
      Repair.stripNs t' = Repair.stripNs t ∧ deepEqual t' t = true := by
  obtain ⟨e, hfrag', _⟩ := createMissingPrefixes_representableFragment env t hr htab env' t' h
  obtain ⟨h1, h2, h3⟩ := allNodes_of_representableFragment hr
  obtain ⟨_, _, h3'⟩ := allNodes_of_representableFragment hfrag'
  have hok := envOk_of_envOK h1
  have hframe := (C10_repair_document_frame env hok t [] t rfl h2 (kids_unique_of_allNodes h3) env' t' h).1
  exact ⟨hfrag', C10_repair_document_writable env hok t [] t rfl h2 (kids_unique_of_allNodes h3)
    (kids_leaves_of_allNodes h3 h2) env' t' h, hframe, deepEqual_of_stripNs h3' (allNodes_ext e t h3) hframe⟩

/-- After `create_missing_prefixes(document)` on a representable document
    (names need NOT be writable before): every name is writable, serialisation succeeds, the text parses
    back — into the same `Xot`, interning nothing — to exactly the repaired tree, and that tree is
    `deep_equal` to the tree BEFORE the call (it differs from it in namespace nodes only). -/
theorem C10_repair_roundtrip (env : Env) (t : Tree) (hr : Representable env t = true)
    (htab : nameTableOK env = true) (env' : Env) (t' : Tree)
    (h : createMissingPrefixes env t [] = .ok (env', t')) :
    namesWritable env' t' [] = some true ∧
    ∃ s p, toXmlString env' t' [] = .ok s ∧ parseString .document env' s = .ok p ∧ p.tree = t' ∧
      p.env = env' ∧ deepEqual p.tree t' = true ∧ deepEqual p.tree t = true ∧ Repair.stripNs p.tree = Repair.stripNs t := by
  obtain ⟨_, hr', _⟩ := createMissingPrefixes_representable env t hr htab env' t' h
  obtain ⟨_, hw, hframe, hde⟩ :=
    repair_fragment_deepEqual env t (representableFragment_of_representable env hr) htab env' t' h
  obtain ⟨s, p, k1, k2, k3, k4, k5⟩ := C01_roundtrip_writable env' t' hr' hw
  exact ⟨hw, s, p, k1, k2, k3, k4, k5, k3 ▸ hde, k3 ▸ hframe⟩

/-- Without "for a call that returns Ok": on a representable document the call SUCCEEDS (it has its one
    top-level element), and then all of the above. -/
theorem C10_repair_roundtrip_total (env : Env) (t : Tree) (hr : Representable env t = true)
    (htab : nameTableOK env = true) :
    ∃ env' t' s p, createMissingPrefixes env t [] = .ok (env', t') ∧ Representable env' t' = true ∧
      namesWritable env' t' [] = some true ∧ toXmlString env' t' [] = .ok s ∧
      parseString .document env' s = .ok p ∧ p.tree = t' ∧ p.env = env' ∧ deepEqual p.tree t = true := by
  obtain ⟨hfrag, hone⟩ := (representable_iff env t).mp hr
  obtain ⟨_, h2, _⟩ := allNodes_of_representableFragment hfrag
  obtain ⟨k, hk, hke⟩ := singleRoot_element_kid hone
  obtain ⟨i, hi⟩ := List.getElem?_of_mem hk
  have hel : elementKidIndices t.kids ≠ [] := List.ne_nil_of_mem (mem_elementKidIndices.mpr ⟨k, hi, hke⟩)
  obtain ⟨env', t', h⟩ := (C10_repair_never_panics env t [] t rfl).2.2.2 (Or.inr ⟨h2, hel⟩)
  obtain ⟨hw, s, p, k1, k2, k3, k4, _, k6, _⟩ := C10_repair_roundtrip env t hr htab env' t' h
  exact ⟨env', t', s, p, h, (C10_repair_representable env t hr htab env' t' h).1, hw, k1, k2, k3, k4, k6⟩

/-- Fragments (any number of top-level elements, top-level text): the same with `parse_fragment`. -/
theorem C10_repair_roundtrip_fragment (env : Env) (t : Tree) (hr : RepresentableFragment env t = true)
    (htab : nameTableOK env = true) (env' : Env) (t' : Tree)
    (h : createMissingPrefixes env t [] = .ok (env', t')) :
    namesWritable env' t' [] = some true ∧
    ∃ s p, toXmlString env' t' [] = .ok s ∧ parseString .fragment env' s = .ok p ∧ p.tree = t' ∧
      p.env = env' ∧ deepEqual p.tree t = true := by
  obtain ⟨hfrag', hw, _, hde⟩ := repair_fragment_deepEqual env t hr htab env' t' h
  obtain ⟨s, p, hs, k2, k3, k4, _⟩ := C01_roundtrip_fragment_writable env' t' hfrag' hw
  exact ⟨hw, s, p, hs, k2, k3, k4, k3 ▸ hde⟩

/-- A PARENTLESS element (a clone, a freshly built subtree) whose one-element document is representable:
    after `create_missing_prefixes(element)` the element serialises ON ITS OWN (`to_string(element)`) and
    the text parses back to the document holding exactly the repaired element, `deep_equal` to the
    document holding the element before the call.  (For an element INSIDE a document see
    `C10_repair_representable_element`: the document stays in the domain and the element's subtree is
    writable, `C10_repair_writable`; `to_string(inner element)`, which also writes the declarations in
    scope, is `C10_repair_roundtrip_inner` below.) -/
theorem C10_repair_roundtrip_element (env : Env) (name : Nat) (ks : List Tree)
    (hr : Representable env (.node .document [.node (.element name) ks]) = true)
    (htab : nameTableOK env = true) (env' : Env) (T' : Tree)
    (h : createMissingPrefixes env (.node (.element name) ks) [] = .ok (env', T')) :
    Representable env' (.node .document [T']) = true ∧ namesWritable env' T' [] = some true ∧
    ∃ s p, toXmlString env' T' [] = .ok s ∧ parseString .document env' s = .ok p ∧
      p.tree = .node .document [T'] ∧ p.env = env' ∧
      deepEqual p.tree (.node .document [.node (.element name) ks]) = true := by
  obtain ⟨e, k, hr'⟩ := createMissingPrefixes_root_element_keeps env name ks hr htab env' T' h
  obtain ⟨he, _, hok⟩ := allNodes_of_representableFragment (representableFragment_of_representable env hr)
  have hokT : (Tree.node (.element name) ks).allNodes (nodeOK env) = true := allNodes_kid hok (by simp)
  have hu := uniqueBelow_of_allNodes _ hokT
  have hEnvOk := envOk_of_envOK he
  have hw := C10_repair_writable env hEnvOk _ [] name ks rfl hu env' T' h
  have hframe := (C10_repair_frame env hEnvOk _ [] name ks rfl hu env' T' h).1
  have hel' : T'.value.isElement = true := by rw [k.value]; rfl
  obtain ⟨name', ks', rfl⟩ := isElement_node hel'
  have hwd : namesWritable env' (.node .document [.node (.element name') ks']) [] = some true := by
    rw [namesWritable_wrap]; exact hw
  obtain ⟨s, p, k1, k2, k3, k4, _⟩ := roundtrip_element_writable env' _
    (by simp only [RepresentableElement, Bool.and_eq_true]; exact ⟨rfl, hr'⟩) hwd
  refine ⟨hr', hw, s, p, k1, k2, k3, k4, ?_⟩
  rw [k3]
  exact deepEqual_of_stripNs
    (allNodes_of_representableFragment (representableFragment_of_representable env' hr')).2.2
    (allNodes_of_representableFragment (representableFragment_of_representable env' (representable_ext e hr))).2.2
    (stripNs_wrap rfl rfl hframe)

/-- The call on an ELEMENT anywhere inside a representable document (or
    fragment).  The document stays in the C01 domain, every name below the element is writable, and
    `to_string(element)` — which writes the declarations in scope at the element before the element's own —
    succeeds and parses back to the STANDALONE document of the repaired element (`standalone`,
    Model/InnerStartSpec.lean: the element with the inherited declarations as namespace nodes in front;
    `C01_roundtrip_inner`); the reparsed document element is `deep_equal` to the repaired element and to the
    element BEFORE the call (which differs from it in namespace nodes only). -/
theorem C10_repair_roundtrip_inner (env : Env) (t : Tree) (hr : RepresentableFragment env t = true)
    (htab : nameTableOK env = true) (path : Path) (name : Nat) (ks : List Tree)
    (hat : t.at? path = some (.node (.element name) ks)) (env' : Env) (t' : Tree)
    (h : createMissingPrefixes env t path = .ok (env', t')) :
    RepresentableFragment env' t' = true ∧ namesWritable env' t' path = some true ∧
    ∃ ks' s p X, t'.at? path = some (.node (.element name) ks') ∧
      Repair.stripNs (.node (.element name) ks') = Repair.stripNs (.node (.element name) ks) ∧
      toXmlString env' t' path = .ok s ∧
      standalone t' path = some (.node .document [.node (.element name) (nsLeaves X ++ ks')]) ∧
      parseString .document env' s = .ok p ∧
      p.tree = .node .document [.node (.element name) (nsLeaves X ++ ks')] ∧ p.env = env' ∧
      deepEqual (.node (.element name) (nsLeaves X ++ ks')) (.node (.element name) ks') = true ∧
      deepEqual (.node (.element name) (nsLeaves X ++ ks')) (.node (.element name) ks) = true := by
  obtain ⟨h1, _, h3⟩ := allNodes_of_representableFragment hr
  obtain ⟨e, k⟩ := createMissingPrefixes_element_keeps env h1 htab t h3 path name ks hat env' t' h
  have hfrag' : RepresentableFragment env' t' = true :=
    representableFragment_of_keeps (representableFragment_ext e hr) k
  have hsub : (Tree.node (.element name) ks).allNodes (nodeOK env) = true := allNodes_at? path t _ h3 hat
  have hu := uniqueBelow_of_allNodes _ hsub
  have hEnvOk := envOk_of_envOK h1
  have hw := C10_repair_writable env hEnvOk t path name ks hat hu env' t' h
  have h' := h
  rw [C10_repair_element env t path name ks hat] at h'
  obtain ⟨ks', hat', hstrip⟩ := facts_element (repairElement_facts env hEnvOk t path name ks hat hu env' t' h')
  obtain ⟨s, p, X, k1, k2, k3, k4, k5, k6, k7⟩ :=
    C01_roundtrip_inner_writable env' t' hfrag' path name ks' hat' hw
  refine ⟨hfrag', hw, ks', s, p, X, hat', hstrip, k1, k2, k4, k5, k6, k7, ?_⟩
  obtain ⟨_, _, hn, _⟩ := (representableFragment_iff env' _).mp (representableFragment_of_representable env' k3)
  have hne : (Tree.node (.element name) (nsLeaves X ++ ks')).allNodes (nodeOK env') = true :=
    allNodes_kid hn (by simp)
  apply deepEqual_of_dropNs _ _ (valid_of_nodeOK _ hne) (valid_of_nodeOK _ (allNodes_ext e _ hsub))
  rw [← stripNs_eq_dropNs (.node (.element name) ks), ← hstrip, stripNs_eq_dropNs]
  simp only [dropNs, dropNsList_nsLeaves_append]

/-- Non-vacuity, closed (tables `c01Env` of Props/C01): `<!--h--><r k="v"><c/><t/></r>` with `r` in
    `urn:a`, `c` in `urn:b`, nothing declared: representable, NOT writable; the call registers `n0`, `n1`
    and the result serialises to `<!--h--><n0:r xmlns:n0="urn:a" xmlns:n1="urn:b" k="v"><n1:c/><t/></n0:r>`. -/
def c10RtDoc : Tree :=
  .node .document [.node (.comment ['h']) [],
    .node (.element 2) [.node (.attribute 4 ['v']) [], .node (.element 3) [], .node (.element 5) []]]

theorem c10RtDoc_facts : Representable c01Env c10RtDoc = true ∧ nameTableOK c01Env = true ∧
    namesWritable c01Env c10RtDoc [] = some false ∧
    (match createMissingPrefixes c01Env c10RtDoc [] with
      | .ok (env', t') => some (env'.prefixes, toXmlString env' t' [])
      | _ => none) =
    some ([[], ['x', 'm', 'l'], ['p'], ['n', '0'], ['n', '1']],
      .ok "<!--h--><n0:r xmlns:n0=\"urn:a\" xmlns:n1=\"urn:b\" k=\"v\"><n1:c/><t/></n0:r>".toList) := by
  rw [String.toList_ofList]
  decide +kernel

example : Representable c01Env c10RtDoc = true ∧ nameTableOK c01Env = true ∧
    namesWritable c01Env c10RtDoc [] = some false ∧
    (match createMissingPrefixes c01Env c10RtDoc [] with
      | .ok (env', t') => some (env'.prefixes, toXmlString env' t' [])
      | _ => none) =
    some ([[], ['x', 'm', 'l'], ['p'], ['n', '0'], ['n', '1']],
      .ok "<!--h--><n0:r xmlns:n0=\"urn:a\" xmlns:n1=\"urn:b\" k=\"v\"><n1:c/><t/></n0:r>".toList) :=
  c10RtDoc_facts

example : ∃ env' t' s p, createMissingPrefixes c01Env c10RtDoc [] = .ok (env', t') ∧
    Representable env' t' = true ∧ namesWritable env' t' [] = some true ∧ toXmlString env' t' [] = .ok s ∧
    parseString .document env' s = .ok p ∧ p.tree = t' ∧ p.env = env' ∧ deepEqual p.tree c10RtDoc = true :=
  C10_repair_roundtrip_total c01Env c10RtDoc c10RtDoc_facts.1 c10RtDoc_facts.2.1

example : ∃ env' T' s p, createMissingPrefixes c01Env (.node (.element 2) [.node (.element 3) []]) [] = .ok (env', T') ∧
    toXmlString env' T' [] = .ok s ∧ parseString .document env' s = .ok p ∧
    deepEqual p.tree (.node .document [.node (.element 2) [.node (.element 3) []]]) = true := by
  obtain ⟨env', T', h⟩ := (C10_repair_never_panics c01Env (.node (.element 2) [.node (.element 3) []]) [] _ rfl).2.2.2
    (Or.inl rfl)
  obtain ⟨_, _, s, p, k1, k2, _, _, k5⟩ := C10_repair_roundtrip_element c01Env 2 _ (by decide +kernel) c10RtDoc_facts.2.1 env' T' h
  exact ⟨env', T', s, p, h, k1, k2, k5⟩

/-- Non-vacuity of `C10_repair_roundtrip_inner`, closed: `<r xmlns="urn:a"><c/></r>` with `c` in `urn:b`
    (not writable); the call on the INNER element `c` registers `n0`; `to_string(c)` then writes the
    inherited default declaration before the new one. -/
def c10InnerDoc : Tree :=
  .node .document [.node (.element 2) [.node (.namespace 0 2) [], .node (.element 3) []]]

example : RepresentableFragment c01Env c10InnerDoc = true ∧ namesWritable c01Env c10InnerDoc [0, 1] = some false ∧
    (match createMissingPrefixes c01Env c10InnerDoc [0, 1] with
      | .ok (env', t') => some (toXmlString env' t' [0, 1], (standalone t' [0, 1]).map (toXmlString env' · []))
      | _ => none) =
    some (.ok "<n0:c xmlns=\"urn:a\" xmlns:n0=\"urn:b\"/>".toList,
      some (.ok "<n0:c xmlns=\"urn:a\" xmlns:n0=\"urn:b\"/>".toList)) := by
  rw [String.toList_ofList]
  decide +kernel

example : ∃ env' t' ks' s p X, createMissingPrefixes c01Env c10InnerDoc [0, 1] = .ok (env', t') ∧
    t'.at? [0, 1] = some (.node (.element 3) ks') ∧ toXmlString env' t' [0, 1] = .ok s ∧
    parseString .document env' s = .ok p ∧
    p.tree = .node .document [.node (.element 3) (nsLeaves X ++ ks')] ∧
    deepEqual (.node (.element 3) (nsLeaves X ++ ks')) (.node (.element 3) []) = true := by
  obtain ⟨env', t', h⟩ := (C10_repair_never_panics c01Env c10InnerDoc [0, 1] _ rfl).2.2.2 (Or.inl rfl)
  obtain ⟨_, _, ks', s, p, X, k1, _, k3, _, k5, k6, _, _, k9⟩ :=
    C10_repair_roundtrip_inner c01Env c10InnerDoc (by decide +kernel) c10RtDoc_facts.2.1 [0, 1] 3 [] rfl env' t' h
  exact ⟨env', t', ks', s, p, X, h, k1, k3, k5, k6, k9⟩

/-- `nameTableOK` is needed (closed): with a name in the namespace `U+0001` the document is representable,
    the call succeeds, and the repaired document is no longer representable (`xmlns:n0="&#x1;"`). -/
example :
    let env : Env := { c01Env with namespaces := c01Env.namespaces ++ [[Char.ofNat 1]],
                                   names := c01Env.names ++ [(['e'], 4)] }
    let t : Tree := .node .document [.node (.element 6) []]
    Representable env t = true ∧ nameTableOK env = false ∧
    (match createMissingPrefixes env t [] with
      | .ok (env', t') => some (Representable env' t')
      | _ => none) = some false := by
  decide +kernel

/-- … and likewise with a name in the xmlns namespace name: the call adds a declaration the parser refuses
    (`C03_reject_reserved_declaration`). -/
example :
    let env : Env := { c01Env with namespaces := c01Env.namespaces ++ [xmlnsNamespaceUri],
                                   names := c01Env.names ++ [(['e'], 4)] }
    let t : Tree := .node .document [.node (.element 6) []]
    Representable env t = true ∧ nameTableOK env = false ∧
    (match createMissingPrefixes env t [] with
      | .ok (env', t') => some (Representable env' t')
      | _ => none) = some false := by
  decide +kernel

end RepairRoundTrip

/-! ## END TO END: `create_missing_prefixes` as a step of an API history, then serialise, then parse

`C10_repair_roundtrip` above is about the tree-level model on a `Representable` tree.  Props/C04.lean shows
that the forest-level model (handles; what a history of API calls runs) refines it on every forest with the
invariant (`C10_forest_repair_refines_tree_document`), that every reachable forest has the invariant
(`C04_reach_ext`) and that `Representable` of a reachable tree is a condition on its values
(`C01_reachable_representable`).  Composed (Props/C04 comes in through Props/C01): -/

section EndToEnd
open XotModel.Repair

/-- **`C10_reachable_repair_roundtrip` from the invariant alone**: for ANY forest with the
    invariant (however it was reached), consolidation never switched off, any tables `E` and any document root
    `r` in the value-level domain with `nameTableOK E`: `create_missing_prefixes(r)` answers Ok, replaces exactly
    the tree of `r` by `r'` (old handles kept, in order), erases to the tree-level repair, and the repaired
    document is in the domain, writable, and round-trips to a tree `deep_equal` to the one before the call that
    differs from it in namespace nodes only. -/
theorem C10_inv_repair_roundtrip (f : Forest) (E : Env) (hi : f.Inv) (hoff : f.everOff = false)
    (r : HTree) (hr : r ∈ f.roots) (hdoc : r.value.isDocument = true) (henv : envOK E = true)
    (hval : r.erase.allNodes (fun v _ => valueOK E v) = true)
    (hid : (xmlIdValues E r.erase).Nodup) (hone : singleRoot r.erase = true)
    (htab : nameTableOK E = true) :
    ((Forest.XCall.createMissingPrefixes r.handle).run ⟨f, E⟩).2 = .ok ∧
    ∃ r' : HTree, r'.handle = r.handle ∧
      (f.createMissingPrefixes E r.handle).1.roots =
        f.roots.map (fun y => if (y.pathOf r.handle).isSome then r' else y) ∧
      (f.createMissingPrefixes E r.handle).1.rootOf? r.handle = some r' ∧
      r'.handles.filter (· < f.next) = r.handles ∧
      createMissingPrefixes E r.erase [] = .ok ((f.createMissingPrefixes E r.handle).2.1, r'.erase) ∧
      Representable (f.createMissingPrefixes E r.handle).2.1 r'.erase = true ∧
      namesWritable (f.createMissingPrefixes E r.handle).2.1 r'.erase [] = some true ∧
      ∃ s p, toXmlString (f.createMissingPrefixes E r.handle).2.1 r'.erase [] = .ok s ∧
        parseString .document (f.createMissingPrefixes E r.handle).2.1 s = .ok p ∧
        p.tree = r'.erase ∧ p.env = (f.createMissingPrefixes E r.handle).2.1 ∧ deepEqual p.tree r.erase = true ∧
        Repair.stripNs p.tree = Repair.stripNs r.erase := by
  have hrep := Reach.representable_root_of_values hi hoff hr henv hdoc hval hid hone
  obtain ⟨h1, h2, hg, hd, _⟩ := Reach.root_located hi hr
  obtain ⟨k, hk, hke⟩ := Reach.element_kid_of_singleRoot hone
  obtain ⟨r', a1, a2, a3, a4, a5, a6, _, _⟩ := C10_forest_repair_refines_tree_document f hi
    E r.handle (by rw [hd]; exact hdoc) ⟨r, k, hg, hk, hke⟩ r h1 [] h2
  obtain ⟨hwr, s, p, k1, k2, k3, k4, _, k6, k7⟩ := C10_repair_roundtrip _ r.erase hrep htab _ _ a2
  have hrep' := (C10_repair_representable _ r.erase hrep htab _ _ a2).1
  exact ⟨a1, r', Reach.handle_of_pathOf_nil a4, a5, a3, a6, a2, hrep', hwr, s, p, k1, k2, k3, k4, k6, k7⟩

/-- … in particular for the documents built by histories mixing the calls
    of `Op` with the convenience calls (`creationRun`, `C04_reach_creation`): no side condition on the history. -/
theorem C10_reachable_creation_repair_roundtrip (ops : List (Op ⊕ Forest.COp)) (E : Env)
    (hoff : (creationRun ops).everOff = false)
    (r : HTree) (hr : r ∈ (creationRun ops).roots) (hdoc : r.value.isDocument = true) (henv : envOK E = true)
    (hval : r.erase.allNodes (fun v _ => valueOK E v) = true)
    (hid : (xmlIdValues E r.erase).Nodup) (hone : singleRoot r.erase = true)
    (htab : nameTableOK E = true) :
    ∃ r' : HTree, r'.handle = r.handle ∧
      createMissingPrefixes E r.erase [] = .ok (((creationRun ops).createMissingPrefixes E r.handle).2.1, r'.erase) ∧
      ((creationRun ops).createMissingPrefixes E r.handle).1.rootOf? r.handle = some r' ∧
      ∃ s p, toXmlString ((creationRun ops).createMissingPrefixes E r.handle).2.1 r'.erase [] = .ok s ∧
        parseString .document ((creationRun ops).createMissingPrefixes E r.handle).2.1 s = .ok p ∧
        p.tree = r'.erase ∧ deepEqual p.tree r.erase = true ∧ Repair.stripNs p.tree = Repair.stripNs r.erase := by
  obtain ⟨_, r', b1, _, b3, _, b5, _, _, s, p, c1, c2, c3, _, c5, c6⟩ :=
    C10_inv_repair_roundtrip (creationRun ops) E (C04_reach_creation ops) hoff r hr hdoc henv hval hid hone htab
  exact ⟨r', b1, b5, b3, s, p, c1, c2, c3, c5, c6⟩

/-- **After `create_missing_prefixes(doc)` as a step of an API history
    the document serialises and reparses deep-equal.**  `S` is the store after any extended history `cs`
    from the empty store (well-kinded steps, consolidation never switched off), `r` a parentless tree of
    it whose root is a document node and whose VALUES are in the XML domain for the tables of the store
    (`envOK`, `valueOK` everywhere, distinct `xml:id`s, one top-level element and no top-level text) —
    the names need NOT be writable —, and every registered name's namespace can be declared
    (`nameTableOK`).  `S'` is the store after the history extended by `create_missing_prefixes(r)`.  Then
    the call answers `Ok`, `S'` has the invariant, and the tree `r'` that `r` has become (same root
    handle, in `r`'s place among the parentless trees, every old handle kept in document order, new
    namespace nodes on fresh handles) is `Representable` for the tables of `S'`, every name is writable,
    `to_string` succeeds and `parse` of the text gives back exactly `r'` erased — tables of `S'`
    unchanged — which is `deep_equal` to the tree BEFORE the call and differs from it in namespace nodes
    only. -/
theorem C10_reachable_repair_roundtrip (env : Env) (cs : List Forest.XCall) (hw : ∀ c ∈ cs, c.wellKinded)
    (S : Store) (hS : S = (⟨Forest.init, env⟩ : Store).xrun cs) (hoff : S.forest.everOff = false)
    (r : HTree) (hr : r ∈ S.forest.roots) (hdoc : r.value.isDocument = true) (henv : envOK S.env = true)
    (hval : r.erase.allNodes (fun v _ => valueOK S.env v) = true)
    (hid : (xmlIdValues S.env r.erase).Nodup) (hone : singleRoot r.erase = true)
    (htab : nameTableOK S.env = true)
    (S' : Store) (hS' : S' = (⟨Forest.init, env⟩ : Store).xrun (cs ++ [.createMissingPrefixes r.handle])) :
    ((Forest.XCall.createMissingPrefixes r.handle).run S).2 = .ok ∧ S'.forest.Inv ∧
    ∃ r' : HTree, r'.handle = r.handle ∧
      S'.forest.roots = S.forest.roots.map (fun y => if (y.pathOf r.handle).isSome then r' else y) ∧
      S'.forest.rootOf? r.handle = some r' ∧
      r'.handles.filter (· < S.forest.next) = r.handles ∧
      createMissingPrefixes S.env r.erase [] = .ok (S'.env, r'.erase) ∧
      Representable S'.env r'.erase = true ∧ namesWritable S'.env r'.erase [] = some true ∧
      ∃ s p, toXmlString S'.env r'.erase [] = .ok s ∧ parseString .document S'.env s = .ok p ∧
        p.tree = r'.erase ∧ p.env = S'.env ∧ deepEqual p.tree r.erase = true ∧
        Repair.stripNs p.tree = Repair.stripNs r.erase := by
  have hi : S.forest.Inv := hS ▸ C04_reach_ext env cs hw
  rw [Store.xrun_snoc, ← hS] at hS'
  subst hS'
  obtain ⟨a1, rest⟩ := C10_inv_repair_roundtrip S.forest S.env hi hoff r hr hdoc henv hval hid hone htab
  exact ⟨a1, C04_step_ext S _ hi trivial, rest⟩

/-! Non-vacuity, closed: the history `new_document`, `new_element(e)` with `e` in the namespace `urn:a`,
    `append` — no prefix is declared for `urn:a`, the document is in the value-level domain and NOT
    writable.  Every hypothesis holds by evaluation; after the step `create_missing_prefixes(doc)` the
    tables have the new prefix `n0` and the document serialises to `<n0:e xmlns:n0="urn:a"/>`. -/

def c10ReachEnv : Env :=
  { namespaces := [[], xmlNamespaceUri, ['u','r','n',':','a']], prefixes := [[], ['x','m','l']],
    names := [(['s','p','a','c','e'], 1), (['i','d'], 1), (['e'], 2)] }
def c10ReachCalls : List Forest.XCall := [.newNode .document, .newNode (.element 2), .call (.append 0 1)]
def c10ReachRoot : HTree := .node 0 .document [.node 1 (.element 2) []]

/-- The store reached by `c10ReachCalls`, evaluated once. -/
theorem c10ReachRun_facts : (∀ c ∈ c10ReachCalls, c.wellKinded) ∧
    ((⟨Forest.init, c10ReachEnv⟩ : Store).xrun c10ReachCalls).forest.everOff = false ∧
    ((⟨Forest.init, c10ReachEnv⟩ : Store).xrun c10ReachCalls).forest.roots = [c10ReachRoot] ∧
    c10ReachRoot.value.isDocument = true ∧ envOK c10ReachEnv = true ∧
    c10ReachRoot.erase.allNodes (fun v _ => valueOK c10ReachEnv v) = true ∧
    (xmlIdValues c10ReachEnv c10ReachRoot.erase).Nodup ∧ singleRoot c10ReachRoot.erase = true ∧
    nameTableOK c10ReachEnv = true ∧ namesWritable c10ReachEnv c10ReachRoot.erase [] = some false := by
  decide +kernel

example : (∀ c ∈ c10ReachCalls, c.wellKinded) ∧
    ((⟨Forest.init, c10ReachEnv⟩ : Store).xrun c10ReachCalls).forest.everOff = false ∧
    ((⟨Forest.init, c10ReachEnv⟩ : Store).xrun c10ReachCalls).forest.roots = [c10ReachRoot] ∧
    c10ReachRoot.value.isDocument = true ∧ envOK c10ReachEnv = true ∧
    c10ReachRoot.erase.allNodes (fun v _ => valueOK c10ReachEnv v) = true ∧
    (xmlIdValues c10ReachEnv c10ReachRoot.erase).Nodup ∧ singleRoot c10ReachRoot.erase = true ∧
    nameTableOK c10ReachEnv = true ∧ namesWritable c10ReachEnv c10ReachRoot.erase [] = some false :=
  c10ReachRun_facts

example :
    let S' := (⟨Forest.init, c10ReachEnv⟩ : Store).xrun (c10ReachCalls ++ [.createMissingPrefixes 0])
    S'.env.prefixes = [[], ['x','m','l'], ['n','0']] ∧
    S'.forest.roots.map (fun r' => toXmlString S'.env r'.erase []) =
      [.ok "<n0:e xmlns:n0=\"urn:a\"/>".toList] := by
  rw [String.toList_ofList]
  decide +kernel

example : ∃ r' s p,
    let S' := (⟨Forest.init, c10ReachEnv⟩ : Store).xrun (c10ReachCalls ++ [.createMissingPrefixes 0])
    S'.forest.rootOf? 0 = some r' ∧ toXmlString S'.env r'.erase [] = .ok s ∧
      parseString .document S'.env s = .ok p ∧ p.tree = r'.erase ∧ deepEqual p.tree c10ReachRoot.erase = true := by
  obtain ⟨hw, hoff, hroots, hdoc, henv, hval, hid, hone, htab, _⟩ := c10ReachRun_facts
  obtain ⟨_, _, r', _, _, h3, _, _, _, _, s, p, k1, k2, k3, _, k5, _⟩ :=
    C10_reachable_repair_roundtrip c10ReachEnv c10ReachCalls hw _ rfl hoff
      c10ReachRoot (by rw [hroots]; exact List.mem_singleton_self _) hdoc henv hval hid hone htab _ rfl
  exact ⟨r', s, p, h3, k1, k2, k3, k5⟩

end EndToEnd

/-! ## END TO END over histories that parse: parse ∘ API edits ∘ `create_missing_prefixes` ∘ serialise ∘ parse

The same composition with the bridges for FULL histories (`C04_reach_full`,
`C01_reachable_representable_full`, Props/C04.lean): the history may contain `parse` / `parse_fragment` steps
of arbitrary texts anywhere. -/

section EndToEndFull
open XotModel.Repair

/-- **… over histories that PARSE and edit.**  The statement of
    `C10_reachable_repair_roundtrip` with `S` the store after any FULL history `cs` from `Xot::new()` with the
    tables `env` (`PCall`, Model/FparseHist.lean: `parse` / `parse_fragment` of ARBITRARY texts, accepted or
    rejected, and well-kinded extended API calls in any order; consolidation never switched off), `r` any
    parentless tree of it whose root is a document node — a parsed document, edited or not, or one built by
    hand — with values in the XML domain for the tables of the store, `nameTableOK`; `S'` the store after
    the history extended by the step `create_missing_prefixes(r)`.  Same conclusion (the step answers `Ok`,
    invariant, `r'` in `r`'s place, `Representable`, writable, `to_string` ∘ `parse` gives back `r'` erased,
    `deep_equal` to the tree before the call, namespace nodes the only difference); moreover the xml:id
    index of the store is untouched. -/
theorem C10_reachable_repair_roundtrip_full (env : Env) (cs : List PCall) (hw : ∀ c ∈ cs, c.wellKinded)
    (S : PStore) (hS : S = (PStore.init env).run cs) (hoff : S.forest.everOff = false)
    (r : HTree) (hr : r ∈ S.forest.roots) (hdoc : r.value.isDocument = true) (henv : envOK S.env = true)
    (hval : r.erase.allNodes (fun v _ => valueOK S.env v) = true)
    (hid : (xmlIdValues S.env r.erase).Nodup) (hone : singleRoot r.erase = true)
    (htab : nameTableOK S.env = true)
    (S' : PStore) (hS' : S' = (PStore.init env).run (cs ++ [.api (.createMissingPrefixes r.handle)])) :
    ((PCall.api (.createMissingPrefixes r.handle)).run S).2 = .api .ok ∧ S'.forest.Inv ∧ S'.index = S.index ∧
    ∃ r' : HTree, r'.handle = r.handle ∧
      S'.forest.roots = S.forest.roots.map (fun y => if (y.pathOf r.handle).isSome then r' else y) ∧
      S'.forest.rootOf? r.handle = some r' ∧
      r'.handles.filter (· < S.forest.next) = r.handles ∧
      createMissingPrefixes S.env r.erase [] = .ok (S'.env, r'.erase) ∧
      Representable S'.env r'.erase = true ∧ namesWritable S'.env r'.erase [] = some true ∧
      ∃ s p, toXmlString S'.env r'.erase [] = .ok s ∧ parseString .document S'.env s = .ok p ∧
        p.tree = r'.erase ∧ p.env = S'.env ∧ deepEqual p.tree r.erase = true ∧
        Repair.stripNs p.tree = Repair.stripNs r.erase := by
  have hi : S.forest.Inv := hS ▸ (C04_reach_full env cs hw).1
  rw [PStore.run_snoc, ← hS] at hS'
  subst hS'
  obtain ⟨a1, rest⟩ := C10_inv_repair_roundtrip S.forest S.env hi hoff r hr hdoc henv hval hid hone htab
  exact ⟨congrArg PRes.api a1, C04_step_full S _ hi trivial, rfl, rest⟩

/-! Non-vacuity, closed: `fullCallsB` of Props/C04.lean without its last step.  From the tables of `Xot::new()`:
    PARSE `<r xmlns:p="urn:a"><p:a>t</p:a></r>`, REMOVE the declaration of `p`, create a new element `{urn:a}a`,
    append it, give it the attribute `p:a="v"`, parse a text that is REJECTED (`<a><b></a>`: it leaves the names
    `a`, `b` in the tables).  The document is in the value-level domain and NOT writable; every hypothesis
    holds by evaluation; the step `create_missing_prefixes(doc)` gives `fullRootB` (declaration `n0`), which
    serialises and reparses to itself, `deep_equal` to the tree before the call. -/

def c10FullCalls : List PCall :=
  [.parse .document fullText, .api (.call (.mapRemove .namespaces 1 2)), .api (.newNode (.element 3)),
   .api (.call (.append 1 5)), .api (.call (.mapInsert .attributes 5 (.attribute 3 ['v']))),
   .parse .document "<a><b></a>".toList]
def c10FullRoot : HTree :=
  .node 0 .document [.node 1 (.element 2) [
    .node 3 (.element 3) [.node 4 (.text ['t']) []],
    .node 5 (.element 3) [.node 6 (.attribute 3 ['v']) []]]]

example : c10FullCalls ++ [.api (.createMissingPrefixes c10FullRoot.handle)] = fullCallsB := rfl

/-- The store reached by `c10FullCalls`, evaluated once: as seen from the document node, and (the last four) from
    the inner element 5 of section InnerFull. -/
theorem c10FullRun_facts :
    let S := (PStore.init Env.fresh).run c10FullCalls
    (∀ c ∈ c10FullCalls, c.wellKinded) ∧ S.forest.everOff = false ∧ S.forest.roots = [c10FullRoot] ∧
    c10FullRoot.value.isDocument = true ∧ envOK S.env = true ∧
    c10FullRoot.erase.allNodes (fun v _ => valueOK S.env v) = true ∧
    (xmlIdValues S.env c10FullRoot.erase).Nodup ∧ singleRoot c10FullRoot.erase = true ∧
    nameTableOK S.env = true ∧ namesWritable S.env c10FullRoot.erase [] = some false ∧
    (match (PStore.outs (PStore.init Env.fresh) c10FullCalls).getLast? with
      | some (.rejected _) => true | _ => false) = true ∧
    5 ∈ c10FullRoot.handles ∧ S.forest.isElement 5 = true ∧ c10FullRoot.pathOf 5 = some [0, 1] ∧
    namesWritable S.env c10FullRoot.erase [0, 1] = some false := by
  decide +kernel

example :
    let S := (PStore.init Env.fresh).run c10FullCalls
    (∀ c ∈ c10FullCalls, c.wellKinded) ∧ S.forest.everOff = false ∧ S.forest.roots = [c10FullRoot] ∧
    c10FullRoot.value.isDocument = true ∧ envOK S.env = true ∧
    c10FullRoot.erase.allNodes (fun v _ => valueOK S.env v) = true ∧
    (xmlIdValues S.env c10FullRoot.erase).Nodup ∧ singleRoot c10FullRoot.erase = true ∧
    nameTableOK S.env = true ∧ namesWritable S.env c10FullRoot.erase [] = some false ∧
    (match (PStore.outs (PStore.init Env.fresh) c10FullCalls).getLast? with
      | some (.rejected _) => true | _ => false) = true := by
  obtain ⟨hw, hoff, hroots, hdoc, henv, hval, hid, hone, htab, hnw, hrej, _⟩ := c10FullRun_facts
  exact ⟨hw, hoff, hroots, hdoc, henv, hval, hid, hone, htab, hnw, hrej⟩

example : ∃ r' s p,
    let S' := (PStore.init Env.fresh).run fullCallsB
    S'.forest.rootOf? 0 = some r' ∧ r'.erase = fullRootB.erase ∧ toXmlString S'.env r'.erase [] = .ok s ∧
      parseString .document S'.env s = .ok p ∧ p.tree = r'.erase ∧ deepEqual p.tree c10FullRoot.erase = true := by
  obtain ⟨hw, hoff, hroots, hdoc, henv, hval, hid, hone, htab, _⟩ := c10FullRun_facts
  obtain ⟨_, _, _, r', _, h2, h3, _, _, _, _, s, p, k1, k2, k3, _, k5, _⟩ :=
    C10_reachable_repair_roundtrip_full Env.fresh c10FullCalls hw _ rfl hoff
      c10FullRoot (by rw [hroots]; exact List.mem_singleton_self _) hdoc henv hval hid hone htab _ rfl
  refine ⟨r', s, p, h3, ?_, k1, k2, k3, k5⟩
  have hr : ((PStore.init Env.fresh).run fullCallsB).forest.rootOf? 0 = some fullRootB := by
    rw [Forest.rootOf?, fullRootsB]; rfl
  rw [show c10FullCalls ++ [.api (.createMissingPrefixes c10FullRoot.handle)] = fullCallsB from rfl,
    show c10FullRoot.handle = 0 from rfl, hr] at h3
  cases h3; rfl

end EndToEndFull

/-! ## The call on a DOCUMENT node: declarations and bindings kept; every tree: what holds after repair -/

section DocumentKeepsAndEveryTree
open XotModel.Repair

/-- Descendants' declarations, call on a document (or fragment) node — `C10_repair_keeps_declarations` composed
    with `C10_repair_document_calls`: the document node keeps its value, its children keep their values and
    order, the bindings in scope at it are the same; every child that is NOT an element is untouched, subtree
    and all; and for every ELEMENT child `k` (at index `i`, unchanged by the calls on its siblings) the statement
    of `C10_repair_keeps_declarations` holds between `k` as it was BEFORE the call on the document and the node
    `E'` in its place after it, relative to the declarations `k` inherited before the call (which are the
    bindings in scope at the document node): same number of nodes other than namespace nodes below, each with
    its value, each with its declaration list — or `insert("", no namespace)` into it exactly at a no-namespace
    element under a default namespace. -/
theorem C10_repair_document_keeps_declarations (env : Env) (hok : EnvOk env) (t : Tree) (path : Path) (doc : Tree)
    (hat : t.at? path = some doc) (hdoc : doc.value.isDocument = true)
    (hu : ∀ (i : Nat) (k : Tree), doc.kids[i]? = some k → k.value.isElement = true → UniqueBelow k)
    (env' : Env) (t' : Tree) (h : createMissingPrefixes env t path = .ok (env', t')) :
    (∃ doc', t'.at? path = some doc' ∧ doc'.value = doc.value ∧
      doc'.kids.map Tree.value = doc.kids.map Tree.value) ∧
    namespacesInScope t' path = namespacesInScope t path ∧
    (∀ (j : Nat) (k : Tree), doc.kids[j]? = some k → k.value.isElement = false →
      ∀ r, t'.at? (path ++ j :: r) = t.at? (path ++ j :: r)) ∧
    ∀ (i : Nat) (k : Tree) (name : Nat), doc.kids[i]? = some k → k.value = .element name →
      ∃ E', t'.at? (path ++ [i]) = some E' ∧ E'.value = .element name ∧
        (nodesBelow [inheritedDecls t (path ++ [i])] k).length =
          (nodesBelow [inheritedDecls t (path ++ [i])] E').length ∧
        ∀ (m : Nat) (b a : Frames × Tree),
          (nodesBelow [inheritedDecls t (path ++ [i])] k)[m]? = some b →
          (nodesBelow [inheritedDecls t (path ++ [i])] E')[m]? = some a →
          a.2.value = b.2.value ∧
          ((NeedsUndeclaration env.nsOfName a.1.tail b.2 ∧
              a.2.nsDecls = insertDecl Env.emptyPrefix Env.noNamespace b.2.nsDecls) ∨
            (¬ NeedsUndeclaration env.nsOfName a.1.tail b.2 ∧ a.2.nsDecls = b.2.nsDecls)) := by
  have hf := document_facts env hok t path doc hat hdoc hu env' t' h
  obtain ⟨k1, k2⟩ := rdk_document_kept env hok t path doc hat hdoc hu env' t' h
  refine ⟨docFacts_node hf doc hat, hf.scope, k2, ?_⟩
  intro i k name hk hv
  obtain ⟨E', e1, e2, _, e4⟩ := k1 i k hk (by rw [hv]; rfl)
  rw [inheritedDecls_child]
  obtain ⟨hl, hall⟩ := allPairs_iff_getElem.mp e4
  exact ⟨E', e1, by rw [e2, hv], hl, fun m b a hb ha => ⟨(hall m b a hb ha).1, (hall m b a hb ha).2.1⟩⟩

/-- Bindings, call on a document (or fragment) node — `C10_repair_keeps_bindings` composed with
    `C10_repair_document_calls`: at every element child and at every node below it, every binding of a
    non-empty prefix in force before the call on the document is in force after it, and the empty prefix means
    what it meant or a default namespace has become "no namespace" (`BindingsKept`; what that means for names:
    `C10_repair_keeps_resolution`).  The other children and the bindings in scope at the document node are
    untouched (`C10_repair_document_keeps_declarations`). -/
theorem C10_repair_document_keeps_bindings (env : Env) (hok : EnvOk env) (t : Tree) (path : Path) (doc : Tree)
    (hat : t.at? path = some doc) (hdoc : doc.value.isDocument = true)
    (hu : ∀ (i : Nat) (k : Tree), doc.kids[i]? = some k → k.value.isElement = true → UniqueBelow k)
    (env' : Env) (t' : Tree) (h : createMissingPrefixes env t path = .ok (env', t')) :
    ∀ (i : Nat) (k : Tree), doc.kids[i]? = some k → k.value.isElement = true →
      ∃ E', t'.at? (path ++ [i]) = some E' ∧
        BindingsKept (k.nsDecls :: [inheritedDecls t (path ++ [i])])
          (E'.nsDecls :: [inheritedDecls t (path ++ [i])]) ∧
        ∀ (m : Nat) (b a : Frames × Tree),
          (nodesBelow [inheritedDecls t (path ++ [i])] k)[m]? = some b →
          (nodesBelow [inheritedDecls t (path ++ [i])] E')[m]? = some a → BindingsKept b.1 a.1 := by
  intro i k hk hv
  obtain ⟨E', e1, _, e3, e4⟩ := (rdk_document_kept env hok t path doc hat hdoc hu env' t' h).1 i k hk hv
  rw [inheritedDecls_child]
  exact ⟨E', e1, e3, fun m b a hb ha => ((allPairs_iff_getElem.mp e4).2 m b a hb ha).2.2⟩

/-- Non-vacuity, closed: the fragment `<a xmlns="u"><b/></a><!--c--><d xmlns:p="v"><e/></d>` (`a`, `e` in `u`,
    `b`, `d` in no namespace; call on the document node): `b` gets `xmlns=""`, `d` gets the new `xmlns:n0="u"`
    for `e` and keeps `xmlns:p`; the comment is untouched. -/
def c10DocKeepEnv : Env :=
  ⟨[[], ['x'], ['u'], ['v']], [[], ['x','m','l'], ['p']], [(['a'], 2), (['b'], 0), (['d'], 0), (['e'], 2)]⟩
def c10DocKeepDoc : Tree :=
  .node .document [
    .node (.element 0) [.node (.namespace 0 2) [], .node (.element 1) []],
    .node (.comment ['c']) [],
    .node (.element 2) [.node (.namespace 2 3) [], .node (.element 3) []]]

example :
    (match createMissingPrefixes c10DocKeepEnv c10DocKeepDoc [] with
      | .ok (env', t') => some (env'.prefixes.length, (t'.at? [0]).map Tree.nsDecls, (t'.at? [0, 1]).map Tree.nsDecls)
      | _ => none) = some (4, some [(0, 2)], some [(0, 0)]) := by decide +kernel

example :
    (match createMissingPrefixes c10DocKeepEnv c10DocKeepDoc [] with
      | .ok (env', t') => some ((t'.at? [2]).map Tree.nsDecls, namesWritable env' t' [], toXmlString env' t' [])
      | _ => none) =
    some (some [(2, 3), (3, 2)], some true,
      .ok "<a xmlns=\"u\"><b xmlns=\"\"/></a><!--c--><d xmlns:p=\"v\" xmlns:n0=\"u\"><n0:e/></d>".toList) := by
  rw [String.toList_ofList]
  decide +kernel

/-! ### Every tree (no `Representable`): after the call the run never fails on a name, and every name resolves -/

/-- **What `namesWritable` means for the run itself**, EVERY tree, start node, vocabulary, escaping function and
    parameter set — no well-formedness, no `Representable`: if the serialiser's `MissingPrefix` checks pass
    (`namesWritable`, what `create_missing_prefixes` establishes), then every event of the run that is reached is
    rendered `Ok`, except that a processing instruction whose target is in a namespace is refused with
    `NamespaceInProcessingInstruction` — the one error of `XmlSerializer::render_output` that is not about a
    name's prefix.  So the rendered stream, and `serialize_xml_string` / `to_string`, end `Ok` or with that
    error — never `MissingPrefix`, never a panic — and `Ok` when no processing instruction of the subtree has a
    namespaced target. -/
theorem C10_writable_run_outcome (esc : Escapers) (env : Env) (pr : TokenParams) (t : Tree) (start : Path)
    (hw : namesWritable env t start = some true) :
    (∀ x ∈ stackTrace esc env pr t (initStack t start) (genOutputs t start), rrun_StepFine esc env pr t x) ∧
    ((∃ l, renderAllWith esc env pr t (initStack t start) (genOutputs t start) = .ok l ∧
        serializeStringWith esc env pr t start = .ok (streamBytes l)) ∨
      (renderAllWith esc env pr t (initStack t start) (genOutputs t start) = .err .namespaceInProcessingInstruction ∧
        serializeStringWith esc env pr t start = .err .namespaceInProcessingInstruction)) ∧
    ((∀ p tg d, (p, Output.pi tg d) ∈ genOutputs t start → (env.namespaceStr (env.nsOfName tg)).isEmpty = true) →
      ∃ l, renderAllWith esc env pr t (initStack t start) (genOutputs t start) = .ok l ∧
        serializeStringWith esc env pr t start = .ok (streamBytes l)) := by
  have hfine := rrun_of_namesWritable esc env pr t start hw
  have hout := rrun_outcome esc env pr t _ _ hfine
  refine ⟨hfine, ?_, ?_⟩
  · rcases hout with ⟨l, hl⟩ | he
    · exact Or.inl ⟨l, hl, by rw [serializeStringWith_eq_renderAll, hl]⟩
    · exact Or.inr ⟨he, by rw [serializeStringWith_eq_renderAll, he]⟩
  · intro hpi
    obtain ⟨l, hl⟩ := rrun_ok_of_no_pi esc env pr t _ _ hfine hpi
    exact ⟨l, hl, by rw [serializeStringWith_eq_renderAll, hl]⟩

/-- For EVERY tree whose elements declare no prefix twice — empty or adjacent text
    nodes, non-XML characters in values, names that are no NCNames, repeated `xml:id`s included — after
    `create_missing_prefixes(element)`, `to_string(element)` (any escaping functions and token parameters) returns
    `Ok` or `Err(NamespaceInProcessingInstruction)`: never `MissingPrefix`, never a panic; and `Ok` when no
    processing instruction below the element has a namespaced target. -/
theorem C10_repair_run_outcome (esc : Escapers) (pr : TokenParams) (env : Env) (hok : EnvOk env) (t : Tree)
    (path : Path) (name : Nat) (ks : List Tree) (hat : t.at? path = some (.node (.element name) ks))
    (hu : UniqueBelow (.node (.element name) ks)) (env' : Env) (t' : Tree)
    (h : createMissingPrefixes env t path = .ok (env', t')) :
    ((∃ l, renderAllWith esc env' pr t' (initStack t' path) (genOutputs t' path) = .ok l ∧
        serializeStringWith esc env' pr t' path = .ok (streamBytes l)) ∨
      (renderAllWith esc env' pr t' (initStack t' path) (genOutputs t' path) = .err .namespaceInProcessingInstruction ∧
        serializeStringWith esc env' pr t' path = .err .namespaceInProcessingInstruction)) ∧
    ((∀ p tg d, (p, Output.pi tg d) ∈ genOutputs t' path → (env'.namespaceStr (env'.nsOfName tg)).isEmpty = true) →
      ∃ l, renderAllWith esc env' pr t' (initStack t' path) (genOutputs t' path) = .ok l ∧
        serializeStringWith esc env' pr t' path = .ok (streamBytes l)) :=
  (C10_writable_run_outcome esc env' pr t' path
    (C10_repair_writable env hok t path name ks hat hu env' t' h)).2

/-- The same for the call on a document or fragment whose children other than elements are leaves. -/
theorem C10_repair_document_run_outcome (esc : Escapers) (pr : TokenParams) (env : Env) (hok : EnvOk env) (t : Tree)
    (path : Path) (doc : Tree) (hat : t.at? path = some doc) (hdoc : doc.value.isDocument = true)
    (hu : ∀ (i : Nat) (k : Tree), doc.kids[i]? = some k → k.value.isElement = true → UniqueBelow k)
    (hleaf : ∀ (i : Nat) (k : Tree), doc.kids[i]? = some k → k.value.isElement = false → k.kids = [])
    (env' : Env) (t' : Tree) (h : createMissingPrefixes env t path = .ok (env', t')) :
    ((∃ l, renderAllWith esc env' pr t' (initStack t' path) (genOutputs t' path) = .ok l ∧
        serializeStringWith esc env' pr t' path = .ok (streamBytes l)) ∨
      (renderAllWith esc env' pr t' (initStack t' path) (genOutputs t' path) = .err .namespaceInProcessingInstruction ∧
        serializeStringWith esc env' pr t' path = .err .namespaceInProcessingInstruction)) ∧
    ((∀ p tg d, (p, Output.pi tg d) ∈ genOutputs t' path → (env'.namespaceStr (env'.nsOfName tg)).isEmpty = true) →
      ∃ l, renderAllWith esc env' pr t' (initStack t' path) (genOutputs t' path) = .ok l ∧
        serializeStringWith esc env' pr t' path = .ok (streamBytes l)) :=
  (C10_writable_run_outcome esc env' pr t' path
    (C10_repair_document_writable env hok t path doc hat hdoc hu hleaf env' t' h)).2

/-- **Every name of a writable subtree resolves to its own expanded name** (`C10_sound`-style, on the token
    stream of the run): EVERY tree whose elements declare no prefix twice, every start node at which
    `namesWritable` holds.  At every event `(s, p, o)` the run reaches (`s` the name stack it holds there):
    * a `StartTagOpen` is rendered — the token is `<` + the qualified name built from the prefix `element_prefix`
      answers on the stack with the element's declarations pushed — and that prefix resolves, by XML-Namespaces
      rules in the declarations of the open elements (the element's own included) on top of the bindings in scope
      at the start node, to the element's namespace;
    * an `Attribute` is rendered as `qname="…"` with the prefix `attribute_prefix` answers, never the empty
      prefix, resolving to the attribute's namespace;
    * the `EndTag` of an element with children writes the same qualified name, resolving the same way.
    (`XmlPrefixReserved`: the tree does not rebind `xml`; without it the prefixes are still the ones the
    serialiser's lookups answer.) -/
theorem C10_writable_resolves_everywhere (esc : Escapers) (env : Env) (pr : TokenParams) (t : Tree) (start : Path)
    (n : Tree) (inScope : List (Nat × Nat)) (hat : t.at? start = some n)
    (hs : namespacesInScope t start = some inScope) (hu : UniqueBelow n)
    (hw : namesWritable env t start = some true)
    (s : FStack) (p : Path) (o : Output)
    (hx : (s, p, o) ∈ stackTrace esc env pr t (initStack t start) (genOutputs t start)) :
    ∃ rel node, p = start ++ rel ∧ n.at? rel = some node ∧
      (∀ nm, o = .startTagOpen nm → ∃ pfx, (s.push node.nsDecls).elementPrefix env nm = .ok pfx ∧
        renderAtWith esc env pr t s p o =
          .ok (s.push node.nsDecls, ⟨false, fmt Gen.fmtStartTagOpen [qname env pfx nm]⟩) ∧
        (XmlPrefixReserved (framesAlong n rel ++ [inScope]) →
          resolveElementName (framesAlong n rel ++ [inScope]) pfx = some (env.nsOfName nm))) ∧
      (∀ nm v, o = .attribute nm v → ∃ pfx, s.attributePrefix env nm = .ok pfx ∧ pfx ≠ some Env.emptyPrefix ∧
        renderAtWith esc env pr t s p o = .ok (s, ⟨true, fmt Gen.fmtAttribute [qname env pfx nm, esc.attr v]⟩) ∧
        (XmlPrefixReserved (framesAlong n rel ++ [inScope]) →
          resolveAttributeName (framesAlong n rel ++ [inScope]) pfx = some (env.nsOfName nm))) ∧
      (∀ nm, o = .endTag nm → node.firstChild?.isSome = true → ∃ pfx, s.elementPrefix env nm = .ok pfx ∧
        renderAtWith esc env pr t s p o =
          .ok (s.pop node.hasNsDecls, ⟨false, fmt Gen.fmtEndTag [qname env pfx nm]⟩) ∧
        (XmlPrefixReserved (framesAlong n rel ++ [inScope]) →
          resolveElementName (framesAlong n rel ++ [inScope]) pfx = some (env.nsOfName nm))) := by
  have hfine := (C10_writable_run_outcome esc env pr t start hw).1 _ hx
  obtain ⟨rel', node, hp, hnode, hnodeT, _, hinv, _⟩ :=
    genOutputs_trace_node esc env pr t start n inScope hat hs hu s p o hx
  refine ⟨rel', node, hp, hnode, ?_, ?_, ?_⟩
  · intro nm ho
    subst ho
    obtain ⟨pfx, h1, h2⟩ := rrun_fine_open esc env pr t s p nm node hnodeT hfine
    refine ⟨pfx, h1, h2, ?_⟩
    have hstep := stepStack_of_ok esc env pr t h2
    obtain ⟨rel2, pfx2, hp2, hpfx2, hres⟩ :=
      C10_sound_tree esc env pr t start n inScope hat hs hu s _ p nm node hx hnodeT hstep
    have : rel2 = rel' := List.append_cancel_left (hp2.symm.trans hp)
    subst this
    rw [h1] at hpfx2
    cases hpfx2
    exact hres
  · intro nm v ho
    subst ho
    obtain ⟨pfx, h1, h2⟩ := rrun_fine_attribute esc env pr t s p nm v node hnodeT hfine
    simp only [framesFor] at hinv
    exact ⟨pfx, h1, rrun_attributePrefix_ne_empty env s nm pfx h1, h2,
      fun hxr => (C10_sound_attribute env _ _ nm pfx hinv hxr h1).1⟩
  · intro nm ho hc
    subst ho
    obtain ⟨pfx, h1, h2⟩ := rrun_fine_end esc env pr t s p nm node hnodeT hc hfine
    obtain ⟨rel2, hp2, hres⟩ := C10_sound_tree_endtag esc env pr t start n inScope hat hs hu s p nm pfx hx h1
    have : rel2 = rel' := List.append_cancel_left (hp2.symm.trans hp)
    subst this
    exact ⟨pfx, h1, h2, hres⟩

/-- `C10_writable_resolves_everywhere` for the tree
    `create_missing_prefixes(element)` leaves — for EVERY tree whose elements declare no prefix twice (nothing
    else: no `Representable`).  After the call, at every event the run of `to_string(element)` reaches, the start
    tag / attribute / end tag name is rendered, through the prefix the serialiser picks, and that prefix resolves
    to the name's own namespace; together with `C10_repair_run_outcome` (the run reaches every event unless a
    processing instruction with a namespaced target stops it) and `C10_repair_frame` (names and namespaces of
    the nodes are unchanged). -/
theorem C10_repair_resolves_everywhere (esc : Escapers) (pr : TokenParams) (env : Env) (hok : EnvOk env) (t : Tree)
    (path : Path) (name : Nat) (ks : List Tree) (hat : t.at? path = some (.node (.element name) ks))
    (hu : UniqueBelow t) (env' : Env) (t' : Tree) (h : createMissingPrefixes env t path = .ok (env', t')) :
    ∃ E' inScope, t'.at? path = some E' ∧ namespacesInScope t' path = some inScope ∧
      ∀ s p o, (s, p, o) ∈ stackTrace esc env' pr t' (initStack t' path) (genOutputs t' path) →
        ∃ rel node, p = path ++ rel ∧ E'.at? rel = some node ∧
          (∀ nm, o = .startTagOpen nm → ∃ pfx, (s.push node.nsDecls).elementPrefix env' nm = .ok pfx ∧
            renderAtWith esc env' pr t' s p o =
              .ok (s.push node.nsDecls, ⟨false, fmt Gen.fmtStartTagOpen [qname env' pfx nm]⟩) ∧
            (XmlPrefixReserved (framesAlong E' rel ++ [inScope]) →
              resolveElementName (framesAlong E' rel ++ [inScope]) pfx = some (env'.nsOfName nm))) ∧
          (∀ nm v, o = .attribute nm v → ∃ pfx, s.attributePrefix env' nm = .ok pfx ∧
            pfx ≠ some Env.emptyPrefix ∧
            renderAtWith esc env' pr t' s p o =
              .ok (s, ⟨true, fmt Gen.fmtAttribute [qname env' pfx nm, esc.attr v]⟩) ∧
            (XmlPrefixReserved (framesAlong E' rel ++ [inScope]) →
              resolveAttributeName (framesAlong E' rel ++ [inScope]) pfx = some (env'.nsOfName nm))) ∧
          (∀ nm, o = .endTag nm → node.firstChild?.isSome = true → ∃ pfx, s.elementPrefix env' nm = .ok pfx ∧
            renderAtWith esc env' pr t' s p o =
              .ok (s.pop node.hasNsDecls, ⟨false, fmt Gen.fmtEndTag [qname env' pfx nm]⟩) ∧
            (XmlPrefixReserved (framesAlong E' rel ++ [inScope]) →
              resolveElementName (framesAlong E' rel ++ [inScope]) pfx = some (env'.nsOfName nm))) := by
  have hsub : UniqueBelow (.node (.element name) ks) := hu.sub hat
  have hw := C10_repair_writable env hok t path name ks hat hsub env' t' h
  obtain ⟨_, hu'⟩ := C10_repair_keeps_unique env hok t path name ks hat hu env' t' h
  obtain ⟨nd, E', hat', _⟩ := C10_repair_fresh_prefixes env hok t path name ks hat hsub env' t' h
  obtain ⟨rest, hs'⟩ := namespacesInScope_of_at? t' path E' hat'
  have huE : UniqueBelow E' := hu'.sub hat'
  exact ⟨E', _, hat', hs', fun s p o hx =>
    C10_writable_resolves_everywhere esc env' pr t' path E' _ hat' hs' huE hw s p o hx⟩

/-- The call keeps the hypotheses of `C10_names_resolve_in_tokens` and of the `XmlPrefixReserved` clauses, for
    EVERY tree: it only registers prefix strings `n<k>` that were not in the table (pairwise different strings
    stay pairwise different; `n` + decimal digits holds no `:` and no `=`), and the declarations it inserts are
    `xmlns=""` and prefixes just registered that are bound nowhere in scope of the element — in particular not
    the `xml` prefix, which is bound in every scope.  So: `EnvStrings` of the tables, `DeclsOkBelow` of the
    repaired element, `DeclsOk` of the bindings in scope at it, and hence `XmlPrefixReserved` of the frames of
    every event of its run. -/
theorem C10_repair_keeps_table_hypotheses (env : Env) (henv : SerResolve.EnvStrings env) (t : Tree) (path : Path)
    (name : Nat) (ks : List Tree) (hat : t.at? path = some (.node (.element name) ks))
    (hdk : SerResolve.DeclsOkBelow env (.node (.element name) ks))
    (hinh : SerResolve.DeclsOk env (inheritedDecls t path)) (env' : Env) (t' : Tree)
    (h : createMissingPrefixes env t path = .ok (env', t')) :
    SerResolve.EnvStrings env' ∧
    ∃ E' inScope, t'.at? path = some E' ∧ E'.value = .element name ∧ namespacesInScope t' path = some inScope ∧
      SerResolve.DeclsOkBelow env' E' ∧ SerResolve.DeclsOk env' inScope ∧
      ∀ rel, XmlPrefixReserved (framesAlong E' rel ++ [inScope]) := by
  rw [C10_repair_element env t path name ks hat] at h
  obtain ⟨h1, E', h2, h3, h4, h5⟩ := rdo_repairElement env henv t path name ks hat hdk hinh env' t' h
  obtain ⟨rest, hs'⟩ := namespacesInScope_of_at? t' path E' h2
  exact ⟨h1, E', _, h2, h3, hs', h4, h5 _ hs', fun rel => rdo_xmlPrefixReserved E' _ h4 (h5 _ hs') rel⟩

/-- **At the level of token TEXTS, every tree** — `C10_names_resolve_in_tokens` composed with
    `C10_repair_run_outcome` and `C10_repair_keeps_table_hypotheses`, all hypotheses on the state BEFORE the
    call: interning tables with pairwise different prefix strings, the built-in entries and no `:` / `=` in
    prefixes and local names (`EnvStrings`); a tree whose elements declare no prefix twice, declare registered
    prefixes only and do not rebind `xml`, likewise the declarations the element inherits.  Nothing else — no
    `Representable`, names need not be writable.  After `create_missing_prefixes(element)`, when no processing
    instruction of the run has a namespaced target, the token stream of the repaired element exists and the
    independent XML-Namespaces resolver, run over the token TEXTS, answers the expanded names of the nodes. -/
theorem C10_repair_names_resolve_in_tokens (esc : Escapers) (pr : TokenParams) (unesc : Str → Str)
    (hue : ∀ u, unesc (esc.attr u) = u) (env : Env) (hok : EnvOk env) (henv : SerResolve.EnvStrings env)
    (t : Tree) (path : Path) (name : Nat) (ks : List Tree) (hat : t.at? path = some (.node (.element name) ks))
    (hu : UniqueBelow t) (hdk : SerResolve.DeclsOkBelow env (.node (.element name) ks))
    (hinh : SerResolve.DeclsOk env (inheritedDecls t path))
    (env' : Env) (t' : Tree) (h : createMissingPrefixes env t path = .ok (env', t'))
    (hpi : ∀ p tg d, (p, Output.pi tg d) ∈ genOutputs t' path →
      (env'.namespaceStr (env'.nsOfName tg)).isEmpty = true) :
    ∃ toks, tokensWith esc env' pr t' path = .ok toks ∧
      SerResolve.resolveGo unesc [] none (SerResolve.view toks) =
        SerResolve.expectedGo env' none (SerResolve.evs toks) := by
  have hsub : UniqueBelow (.node (.element name) ks) := hu.sub hat
  obtain ⟨l, hl, _⟩ := (C10_repair_run_outcome esc pr env hok t path name ks hat hsub env' t' h).2 hpi
  have htoks := (tokensWith_ok_iff esc env' pr t' path l).mpr hl
  obtain ⟨_, hu'⟩ := C10_repair_keeps_unique env hok t path name ks hat hu env' t' h
  obtain ⟨henv', E', inScope, hat', hval, hs', hdk', hin', _⟩ :=
    C10_repair_keeps_table_hypotheses env henv t path name ks hat hdk hinh env' t' h
  have huE : UniqueBelow E' := hu'.sub hat'
  exact ⟨l, htoks, C10_names_resolve_in_tokens esc env' pr t' unesc henv' hue path E' _ hat' hs' huE
    hdk' hin' (Or.inl (by rw [hval]; rfl)) l htoks⟩

/-- Non-vacuity of the hypotheses of `C10_repair_names_resolve_in_tokens` (closed): the tables and the tree
    of the example below, where nothing is declared. -/
example :
    let env : Env := ⟨[[], Gen.xmlNs, ['u'], ['v']], [[], ['x','m','l']],
      [(['a'], 2), (['b'], 0), (['c'], 3), (['t'], 0)]⟩
    SerResolve.EnvStrings env ∧ SerResolve.DeclsOk env (inheritedDecls (.node (.element 0) []) []) :=
  ⟨⟨by decide +kernel, rfl, rfl, rfl, rfl, by decide +kernel⟩, by
    intro x hx
    simp only [inheritedDecls, List.isEmpty_nil, if_true, basePrefixes, List.mem_singleton] at hx
    subst hx
    exact ⟨by decide +kernel, fun _ => rfl⟩⟩

/-- Non-vacuity, closed, OUTSIDE `Representable`: `<a><b c="x"/><?t?></a>` with `a` in namespace `u`, the
    attribute `c` in namespace `v`, an EMPTY text node next to a text node holding U+0001 inside `b`, nothing
    declared.  Not representable, not writable; after the call `to_string` succeeds and the names are written
    `n0:a`, `n1:c` under the new declarations (U+0001 is written as it is: the text is no XML). -/
example :
    let env : Env := ⟨[[], Gen.xmlNs, ['u'], ['v']], [[], ['x','m','l']],
      [(['a'], 2), (['b'], 0), (['c'], 3), (['t'], 0)]⟩
    let t : Tree := .node (.element 0) [.node (.element 1) [.node (.attribute 2 ['x']) [],
      .node (.text []) [], .node (.text [Char.ofNat 1]) []], .node (.pi 3 none) []]
    RepresentableFragment env (.node .document [t]) = false ∧ namesWritable env t [] = some false ∧
    (match createMissingPrefixes env t [] with
      | .ok (env', t') => some (namesWritable env' t' [], toXmlString env' t' [])
      | _ => none) =
    some (some true, .ok ("<n0:a xmlns:n0=\"u\" xmlns:n1=\"v\"><b n1:c=\"x\">".toList ++ [Char.ofNat 1]
      ++ "</b><?t?></n0:a>".toList)) := by
  rw [String.toList_ofList, String.toList_ofList]
  decide +kernel

/-- … and the one error that remains: a processing instruction whose target is in a namespace. -/
example :
    let env : Env := ⟨[[], Gen.xmlNs, ['u']], [[], ['x','m','l']], [(['a'], 2), (['t'], 2)]⟩
    let t : Tree := .node (.element 0) [.node (.pi 1 none) []]
    (match createMissingPrefixes env t [] with
      | .ok (env', t') => some (namesWritable env' t' [], toXmlString env' t' [])
      | _ => none) = some (some true, .err .namespaceInProcessingInstruction) := by
  decide +kernel

end DocumentKeepsAndEveryTree

/-! ## An INNER element over histories that parse: parse ∘ API edits ∘ `create_missing_prefixes(element)` ∘
       `to_string(element)` ∘ parse

`C10_repair_roundtrip_inner` (section RepairRoundTrip) is about the tree-level model on a tree in the C01 domain;
`C10_reachable_repair_roundtrip_full` is the call on the DOCUMENT node of a reachable tree.  The twin for the call
on an ELEMENT anywhere inside a reachable document: `C10_forest_repair_refines_tree` (element branch of the
refinement, Props/C04.lean) ∘ `C10_repair_roundtrip_inner` ∘ `C01_reachable_representable_full` ∘ `C04_reach_full`. -/

section InnerFull
open XotModel.Repair

/-- **`create_missing_prefixes(element)` as a step of a history that parses
    and edits, then `to_string(element)`, then `parse`.**  `S` is the store after any FULL history `cs` from
    `Xot::new()` with the tables `env` (`PCall`: `parse` / `parse_fragment` of ARBITRARY texts, accepted or
    rejected, and well-kinded extended API calls in any order; consolidation never switched off), `r` any
    parentless tree of it whose root is a document node, with VALUES in the XML domain for the tables of the
    store (`envOK`, `valueOK` everywhere, distinct `xml:id`s; fragments allowed: NO condition on the number of
    top-level elements; the names need NOT be writable), `nameTableOK`; `node` ANY live ELEMENT of `r`; `S'` the
    store after the history extended by the step `create_missing_prefixes(node)`.  Then the step answers `Ok`,
    `S'` has the invariant, the xml:id index is untouched; the tree `r'` that `r` has become (in `r`'s place,
    `node` at the same path, every old handle kept in document order, new namespace nodes on fresh handles) is
    the tree model's answer on the erased tree, is in the C01 domain for the tables of `S'`, every name below
    `node` is writable, and `to_string(node)` — which writes the declarations in scope at `node` before its own —
    succeeds and parses back, tables of `S'` unchanged, to the STANDALONE document of the repaired element,
    whose document element is `deep_equal` to the repaired element and to the element BEFORE the call (from
    which it differs in namespace nodes only). -/
theorem C10_repair_roundtrip_inner_full (env : Env) (cs : List PCall) (hw : ∀ c ∈ cs, c.wellKinded)
    (S : PStore) (hS : S = (PStore.init env).run cs) (hoff : S.forest.everOff = false)
    (r : HTree) (hr : r ∈ S.forest.roots) (hdoc : r.value.isDocument = true) (henv : envOK S.env = true)
    (hval : r.erase.allNodes (fun v _ => valueOK S.env v) = true)
    (hid : (xmlIdValues S.env r.erase).Nodup) (htab : nameTableOK S.env = true)
    (node : Nat) (hn : node ∈ r.handles) (hel : S.forest.isElement node = true)
    (S' : PStore) (hS' : S' = (PStore.init env).run (cs ++ [.api (.createMissingPrefixes node)])) :
    ((PCall.api (.createMissingPrefixes node)).run S).2 = .api .ok ∧ S'.forest.Inv ∧ S'.index = S.index ∧
    ∃ (r' : HTree) (path : Path) (name : Nat) (ks ks' : List Tree),
      r.pathOf node = some path ∧ r'.pathOf node = some path ∧
      S'.forest.roots = S.forest.roots.map (fun y => if (y.pathOf node).isSome then r' else y) ∧
      S'.forest.rootOf? node = some r' ∧
      r'.handles.filter (· < S.forest.next) = r.handles ∧
      createMissingPrefixes S.env r.erase path = .ok (S'.env, r'.erase) ∧
      r.erase.at? path = some (.node (.element name) ks) ∧
      r'.erase.at? path = some (.node (.element name) ks') ∧
      Repair.stripNs (.node (.element name) ks') = Repair.stripNs (.node (.element name) ks) ∧
      RepresentableFragment S'.env r'.erase = true ∧ namesWritable S'.env r'.erase path = some true ∧
      ∃ s p X, toXmlString S'.env r'.erase path = .ok s ∧
        standalone r'.erase path = some (.node .document [.node (.element name) (nsLeaves X ++ ks')]) ∧
        parseString .document S'.env s = .ok p ∧
        p.tree = .node .document [.node (.element name) (nsLeaves X ++ ks')] ∧ p.env = S'.env ∧
        deepEqual (.node (.element name) (nsLeaves X ++ ks')) (.node (.element name) ks') = true ∧
        deepEqual (.node (.element name) (nsLeaves X ++ ks')) (.node (.element name) ks) = true := by
  have hstep : S' = ⟨(S.forest.createMissingPrefixes S.env node).1,
      (S.forest.createMissingPrefixes S.env node).2.1, S.index⟩ := by
    rw [hS', PStore.run_snoc, ← hS]; rfl
  subst hS
  have hi := (C04_reach_full env cs hw).1
  have hi' : S'.forest.Inv := hstep ▸ C04_step_full _ (.api (.createMissingPrefixes node)) hi trivial
  have hfrag := Reach.representableFragment_root_of_values hi hoff hr henv hdoc hval hid
  have h1 := Forest.fpxr_rootOf_of_mem hi.nodup hr hn
  obtain ⟨path, h2⟩ := Forest.fpxd_rootOf_path h1
  obtain ⟨D, _, hg, _, _, hDe⟩ := Forest.fpxr_locate hi h1 h2
  have hDel : D.erase.value.isElement = true := by
    simp only [Forest.isElement, Forest.value?, hg, Option.map_some, beq_iff_eq, Option.some.injEq] at hel
    cases D with | node h v ks => exact hel
  obtain ⟨name, ks, hDk⟩ := isElement_node hDel
  rw [hDk] at hDe
  obtain ⟨r', a1, a2, a3, a4, a5, a6, _, _⟩ := C10_forest_repair_refines_tree _ hi
    ((PStore.init env).run cs).env node hel r h1 path h2
  obtain ⟨b1, b2, ks', s, p, X, c1, c2, c3, c4, c5, c6, c7, c8, c9⟩ :=
    C10_repair_roundtrip_inner _ r.erase hfrag htab path name ks hDe _ _ a2
  subst hstep
  refine ⟨?_, hi', rfl, r', path, name, ks, ks', h2, a4, a5, a3, a6, a2, hDe, c1, c2, b1, b2,
    s, p, X, c3, c4, c5, c6, c7, c8, c9⟩
  simp only [PCall.run, Forest.XCall.run, PStore.store]
  rw [a1]

/-! Non-vacuity, closed: the history `c10FullCalls` of section EndToEndFull (PARSE `<r xmlns:p="urn:a"><p:a>t</p:a></r>`,
    remove the declaration of `p`, create the element `{urn:a}a` (handle 5), append it to `r`, give it the
    attribute `p:a="v"`, a REJECTED parse).  The INNER element 5 sits at path `[0, 1]`; its names are not writable.
    The step `create_missing_prefixes(5)` registers `n0` and declares it on the element (new handle 7, before the
    attribute 6); `to_string(5)` is `<n0:a xmlns:n0="urn:a" n0:a="v"/>`, which parses to the standalone document. -/

example :
    let S := (PStore.init Env.fresh).run c10FullCalls
    (∀ c ∈ c10FullCalls, c.wellKinded) ∧ S.forest.everOff = false ∧ S.forest.roots = [c10FullRoot] ∧
    c10FullRoot.value.isDocument = true ∧ envOK S.env = true ∧
    c10FullRoot.erase.allNodes (fun v _ => valueOK S.env v) = true ∧
    (xmlIdValues S.env c10FullRoot.erase).Nodup ∧ nameTableOK S.env = true ∧
    5 ∈ c10FullRoot.handles ∧ S.forest.isElement 5 = true ∧ c10FullRoot.pathOf 5 = some [0, 1] ∧
    namesWritable S.env c10FullRoot.erase [0, 1] = some false := by
  obtain ⟨hw, hoff, hroots, hdoc, henv, hval, hid, _, htab, _, _, hmem, hel, hp, hnw⟩ := c10FullRun_facts
  exact ⟨hw, hoff, hroots, hdoc, henv, hval, hid, htab, hmem, hel, hp, hnw⟩

example :
    let S' := (PStore.init Env.fresh).run (c10FullCalls ++ [.api (.createMissingPrefixes 5)])
    S'.env.prefixes = [[], ['x','m','l'], ['p'], ['n','0']] ∧
    S'.forest.roots.map (·.handles) = [[0, 1, 3, 4, 5, 7, 6]] ∧
    S'.forest.roots.map (fun r' => toXmlString S'.env r'.erase [0, 1]) =
      [.ok "<n0:a xmlns:n0=\"urn:a\" n0:a=\"v\"/>".toList] ∧
    S'.forest.roots.map (fun r' => standalone r'.erase [0, 1]) =
      [some (.node .document [.node (.element 3) [.node (.namespace 3 2) [], .node (.attribute 3 ['v']) []]])] := by
  rw [String.toList_ofList, PStore.fph_run_append, show c10FullCalls = fullCallsB.dropLast from rfl, fullRunBPre_eq]
  decide +kernel

example : ∃ r' ks' s p X,
    let S' := (PStore.init Env.fresh).run (c10FullCalls ++ [.api (.createMissingPrefixes 5)])
    S'.forest.rootOf? 5 = some r' ∧ r'.erase.at? [0, 1] = some (.node (.element 3) ks') ∧
      toXmlString S'.env r'.erase [0, 1] = .ok s ∧ parseString .document S'.env s = .ok p ∧
      p.tree = .node .document [.node (.element 3) (nsLeaves X ++ ks')] ∧ p.env = S'.env ∧
      deepEqual (.node (.element 3) (nsLeaves X ++ ks')) (.node (.element 3) [.node (.attribute 3 ['v']) []]) = true := by
  obtain ⟨hw, hoff, hroots, _, henv, hval, hid, _, htab, _, _, hmem, hel, hp, _⟩ := c10FullRun_facts
  obtain ⟨_, _, _, r', path, name, ks, ks', h1, _, _, h4, _, _, h7, h8, _, _, _, s, p, X, k1, _, k3, k4, k5, _, k7⟩ :=
    C10_repair_roundtrip_inner_full Env.fresh c10FullCalls hw _ rfl hoff
      c10FullRoot (by rw [hroots]; exact List.mem_singleton_self _) rfl henv hval hid htab 5 hmem hel _ rfl
  rw [hp, Option.some.injEq] at h1
  subst h1
  have he : c10FullRoot.erase.at? [0, 1] = some (.node (.element 3) [.node (.attribute 3 ['v']) []]) := by decide +kernel
  rw [he, Option.some.injEq] at h7
  injection h7 with hv hk
  injection hv with hname
  subst hname hk
  exact ⟨r', ks', s, p, X, h4, h8, k1, k3, k4, k5, k7⟩

end InnerFull

end XotModel.Props
