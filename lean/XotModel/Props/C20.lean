/-
  C20 — The same document built three ways is the same tree.  Property theorems only.

  Abstract documents (`FDocument`, Model/Fixed.lean) mirror `fixed::Document`; names, prefixes and
  namespaces are the interning ids (`add_name_ns` / `add_prefix` / `add_namespace` are the identity
  on ids; that interning is a stable bijection is C08).  `treeOf d` is the tree `d` denotes: a
  document node whose children are the `before` items, the document element, the `after` items, in
  that order; an element's children are its namespace nodes, its attribute nodes, its content.

  Hypothesis on the document, `d.wf strict` with `strict` = the store's text-consolidation flag:
  * per element, pairwise distinct prefixes and pairwise distinct attribute names — the node-map
    `insert` of a key that is already present updates the existing node instead of adding one, so
    a repeated key would give fewer nodes than `treeOf d` has;
  * when consolidation is on, no two adjacent text children — `append` / `prepend` /
    `insert_before` merge a text node into an adjacent text node, so `treeOf d` (which does not
    merge) would differ.  With consolidation off nothing is required of text.
  Empty text items are NOT excluded: every API route creates and keeps an empty text node.  They
  only matter for the parse route (an empty text node serialises to nothing): its theorems (section
  "The parse route") assume the C01 domain, which excludes them (`FContent.noEmptyText`, `C20_representable_wf`).

  Hypothesis on the store: ANY forest whose handles are pairwise distinct and below `next`
  (`Good f`; implied by the C04 invariant `Forest.Inv`, `C20_good_of_inv`) — not only the empty
  one.  Every route adds exactly one new root and leaves every other tree, the flags and all
  existing handles alone, and never panics (`RouteOk`).

  From a store satisfying `Forest.Inv` every route ends in a store satisfying `Forest.Inv`
  (`C20_inv_preserved`: the new tree is structurally valid in the sense of C04).

  The parse route (`C20_parse_route`, `C20_all_routes_agree`) is a corollary of the closed
  loop C01_roundtrip_identical: for a document whose tree is in the C01 domain (`Representable env
  (treeOf d)`: XML-expressible strings, no empty text, …) and serialises, parsing the text gives
  `treeOf d` itself, ids included, in the same tables.

  ANY construction order (section "Every construction order"): `Model/FanyorderSpec.lean` defines construction
  programs (steps `create`, `append`, `prepend`, `insertAfter`, `insertBefore`, `anyAppend`,
  `setAttribute`, `setNamespace`; nodes named by the index of the `create` step that made them)
  with two interpreters, `Prog.runImpl` (the forest model's functions) and `Prog.runSpec` (the
  ordered-tree specification of C05: cut, graft, merge adjacent text; entries replaced in place or
  added at the end of their block).
-/
import XotModel.Lemmas.FfixedValid
import XotModel.Lemmas.FanyorderCall
import XotModel.Props.C01
import XotModel.Lemmas.FfixedRepresentable
import XotModel.Lemmas.FparseRoute
import XotModel.Model.FparseRouteSpec
import XotModel.Lemmas.FprogNavigation

namespace XotModel.Props
open XotModel

/-- Well-formedness of an abstract document relative to a store (see the header). -/
def FWellFormed (f : Forest) (d : FDocument) : Prop := d.wf f.consolidation = true

/-- What every construction route delivers: it does not panic; the store afterwards is the store
    before plus ONE new root `t` (flags and all other trees unchanged, `next` advanced by the
    number of nodes); the returned handle is `t`'s; `t` erases to `treeOf d`; looking the handle up
    gives that tree; handles stay pairwise distinct and below `next`. -/
def RouteOk (route : Forest → FDocument → Option (Forest × Nat)) (f : Forest) (d : FDocument) : Prop :=
  ∃ t : HTree,
    route f d = some ({ f with roots := f.roots ++ [t], next := f.next + d.size }, t.handle) ∧
    t.erase = treeOf d ∧
    ({ f with roots := f.roots ++ [t], next := f.next + d.size } : Forest).treeAt t.handle = some (treeOf d) ∧
    Good { f with roots := f.roots ++ [t], next := f.next + d.size }

/-- The C04 invariant gives what the construction routes need (`Good`: handles pairwise distinct
    and below `next`). -/
theorem C20_good_of_inv (f : Forest) (h : f.Inv) : Good f :=
  Good.of_nodup_below h.nodup h.below

/-- `fixed::Element::xotify` (and `Content::xotify`) from any store with distinct handles: no
    panic, one new root whose handle is returned, that root erases to the element's tree, the
    rest is untouched. -/
theorem C20_fixed_element (f : Forest) (e : FElement) (hg : Good f)
    (hwf : e.toContent.wf f.consolidation = true) :
    ∃ t : HTree,
      f.xotifyElement e =
        some ({ f with roots := f.roots ++ [t], next := f.next + e.toContent.size }, t.handle) ∧
      t.erase = treeOfContent e.toContent ∧
      ({ f with roots := f.roots ++ [t], next := f.next + e.toContent.size } : Forest).treeAt t.handle
        = some (treeOfContent e.toContent) ∧
      Good { f with roots := f.roots ++ [t], next := f.next + e.toContent.size } := by
  obtain ⟨t, hb, hx⟩ := Forest.xotifyContent_spec e.toContent f hg hwf
  have hg' := Forest.good_add_root hg hb
  refine ⟨t, ?_, hb.erase, ?_, hg'⟩
  · unfold Forest.xotifyElement; rw [hx, hb.handle]
  · rw [Forest.treeAt_new_root f t _ hg', hb.erase]

theorem C20_routeOk_of_spec {route : Forest → FDocument → Option (Forest × Nat)} {f : Forest} {d : FDocument}
    (h : ∃ t, route f d = some ({ f with roots := f.roots ++ [t], next := f.next + d.size }, t.handle) ∧
        t.erase = treeOf d ∧ Good { f with roots := f.roots ++ [t], next := f.next + d.size }) :
    RouteOk route f d := by
  obtain ⟨t, hx, he, hg'⟩ := h
  exact ⟨t, hx, he, by rw [Forest.treeAt_new_root f t _ hg', he], hg'⟩

/-- `fixed::Document::xotify`: the result is one new document root that erases to `treeOf d` — the
    `before` and `after` items are siblings of the document element, before and after it, in the
    given order. -/
theorem C20_fixed (f : Forest) (d : FDocument) (hg : Good f) (hwf : FWellFormed f d) :
    RouteOk Forest.xotifyDocument f d :=
  C20_routeOk_of_spec (Forest.xotifyDocument_spec f d hg hwf)

/-- Top-down: create a node, append it to its already attached parent, descend; left to right. -/
theorem C20_topdown (f : Forest) (d : FDocument) (hg : Good f) (hwf : FWellFormed f d) :
    RouteOk Forest.topDownDocument f d :=
  C20_routeOk_of_spec (Forest.topDownDocument_spec f d hg hwf)

/-- Bottom-up: children first (each finished), then the parent, then `append` in order. -/
theorem C20_bottomup (f : Forest) (d : FDocument) (hg : Good f) (hwf : FWellFormed f d) :
    RouteOk Forest.bottomUpDocument f d :=
  C20_routeOk_of_spec (Forest.bottomUpDocument_spec f d hg hwf)

/-- Right-to-left: the last child is attached with `prepend`, every earlier one with
    `insert_before` the sibling attached just before. -/
theorem C20_rtl (f : Forest) (d : FDocument) (hg : Good f) (hwf : FWellFormed f d) :
    RouteOk Forest.rtlDocument f d :=
  C20_routeOk_of_spec (Forest.rtlDocument_spec f d hg hwf)

/-- All four routes succeed and give the same tree (namely `treeOf d`), whatever else the store
    holds. -/
theorem C20_routes_agree (f : Forest) (d : FDocument) (hg : Good f) (hwf : FWellFormed f d) :
    ∃ fa ra ft rt fb rb fr rr,
      f.xotifyDocument d = some (fa, ra) ∧ f.topDownDocument d = some (ft, rt) ∧
      f.bottomUpDocument d = some (fb, rb) ∧ f.rtlDocument d = some (fr, rr) ∧
      fa.treeAt ra = some (treeOf d) ∧ ft.treeAt rt = fa.treeAt ra ∧
      fb.treeAt rb = fa.treeAt ra ∧ fr.treeAt rr = fa.treeAt ra := by
  obtain ⟨ta, ha, _, hta, _⟩ := C20_fixed f d hg hwf
  obtain ⟨tt, ht, _, htt, _⟩ := C20_topdown f d hg hwf
  obtain ⟨tb, hb, _, htb, _⟩ := C20_bottomup f d hg hwf
  obtain ⟨tr, hr, _, htr, _⟩ := C20_rtl f d hg hwf
  exact ⟨_, _, _, _, _, _, _, _, ha, ht, hb, hr, hta, by rw [htt, hta], by rw [htb, hta], by rw [htr, hta]⟩

/-- The routes can be run one after another in the same store (as the `ffixed` suite does): each
    leaves a store the next one accepts, with the same consolidation flag. -/
theorem C20_routes_compose (route : Forest → FDocument → Option (Forest × Nat)) (f : Forest)
    (d : FDocument) (h : RouteOk route f d) :
    ∃ f' root, route f d = some (f', root) ∧ Good f' ∧ f'.consolidation = f.consolidation ∧
      (∀ r ∈ f.roots, r ∈ f'.roots) := by
  obtain ⟨t, hx, _, _, hg'⟩ := h
  exact ⟨_, _, hx, hg', rfl, fun r hr => List.mem_append_left _ hr⟩

/-- From the C04 invariant to the C04 invariant: the tree a route adds is structurally valid
    (children ordered namespaces / attributes / normal, unique keys, no adjacent text while
    consolidation has never been off, leaves are leaves), its handles are fresh. -/
theorem C20_inv_preserved (route : Forest → FDocument → Option (Forest × Nat)) (f : Forest)
    (d : FDocument) (hinv : f.Inv) (hwf : FWellFormed f d) (h : RouteOk route f d) :
    ∃ f' root, route f d = some (f', root) ∧ f'.Inv ∧ f'.treeAt root = some (treeOf d) := by
  obtain ⟨t, hx, he, ht, hg'⟩ := h
  exact ⟨_, _, hx, Forest.inv_add_root f hinv d t _ he hwf hg', ht⟩

/-- The statement in the form of the property text, from the empty store. -/
theorem C20_fixed_init (d : FDocument) (hwf : d.wf true = true) (f : Forest) (root : Nat)
    (h : Forest.init.xotifyDocument d = some (f, root)) : f.treeAt root = some (treeOf d) := by
  have hinv : Forest.init.Inv := (Forest.inv_iff _).1 (by decide +kernel)
  obtain ⟨t, hx, _, ht, _⟩ := C20_fixed Forest.init d (C20_good_of_inv _ hinv) hwf
  rw [hx] at h
  cases h
  exact ht

/-- Non-vacuity: a well-formed document with leading and trailing items, namespaces, attributes,
    nested content; and a store that satisfies the invariant and is not empty. -/
example :
    ({ roots := [.node 0 (.element 2) [.node 1 (.text ['t']) []], .node 2 (.comment []) []], next := 3 } : Forest).inv = true ∧
    ({ before := [.comment ['a'], .pi 17 none], documentElement := { name := 2, prefixes := [(2, 3), (0, 2)], attributes := [(3, ['v']), (4, [])], children := [.text ['x'], .element 3 [(2, 2)] [(3, ['w'])] [.comment [], .text ['y']], .text ['z']] }, after := [.pi 17 (some ['q']), .comment ['b']] } : FDocument).wf true = true := by
  decide +kernel

/-! ## Every construction order

  `Prog.State` = store + the nodes created so far (`env`; a program started by `runImplF` /
  `runSpecF` starts with none).  Hypotheses on the start store: the C04 invariant `Forest.Inv`, and
  `Prog.FlagsOk f`: text consolidation has never been switched off, or it is off (in both cases the
  store holds no adjacent text nodes while consolidation is on — the scope of the C05 theorems;
  programs do not change the setting).  No hypothesis on the program in the direction
  specification ⇒ implementation.  In the direction implementation ⇒ specification,
  `Prog.inScope s P`: no step is an `any_append` of an attribute / namespace node that is still
  attached to an element (xot then moves the entry between two elements; the specification only
  attaches parentless entry nodes and calls the step ill-formed).

  How it is proved (`Lemmas/Fanyorder*.lean`): per call, C05 (`append_spec` … : a successful move IS
  `specMove`, handle for handle) and C11 (node-map insertion); the invariant along the run is
  obtained on the SPECIFICATION side (`specMove_inv`: cut, graft and merge keep every child list
  ordered, keys unique, members allowed, handles distinct, and the two touched lists free of
  adjacent text); after the argument checks there is no late `NodeError` (C06, `Prog.moveImpl_ok`).
  Whole programs: once, for the programs of the last section (`Prog3`), of which these are a part
  (`Lemmas/FprogNavigation.lean`). -/

open XotModel.Prog

/-- **Refinement (any order).**  A program the ordered-tree specification accepts is carried out by
    the implementation without a refusal, and the implementation's final state IS the
    specification's: same trees, same node names (handles), same created nodes. -/
theorem C20_any_order (s s' : State) (P : Program) (inv : s.forest.Inv) (hfl : FlagsOk s.forest)
    (h : runSpec s P = some s') : runImpl s P = (s', .ok) :=
  run_spec_impl P s s' inv hfl h

/-- Conversely, a program every step of which the implementation answers `ok` is well-formed for the
    specification (and then `C20_any_order` applies). -/
theorem C20_any_order_conv (s : State) (P : Program) (inv : s.forest.Inv) (hfl : FlagsOk s.forest)
    (hsc : inScope s P = true) (hok : (runImpl s P).2 = .ok) : runSpec s P = some (runImpl s P).1 :=
  (run_refine_inv P s inv hfl hsc hok).1

/-- The content form: names forgotten — node kinds and order, element names, attributes and
    namespace declarations in order, merged text. -/
theorem C20_any_order_content (f g : Forest) (P : Program) (inv : f.Inv) (hfl : FlagsOk f)
    (h : runSpecF f P = some g) : (runImplF f P).2 = .ok ∧ (runImplF f P).1.content = g.content := by
  unfold runSpecF at h
  cases hs : runSpec { forest := f } P with
  | none => rw [hs] at h; cases h
  | some s' =>
    rw [hs] at h
    simp only [Option.map_some, Option.some.injEq] at h
    have := run_spec_impl P _ s' inv hfl hs
    unfold runImplF
    rw [this, ← h]
    exact ⟨rfl, rfl⟩

/-- **Any two orders.**  Two programs that the specification takes to stores with the same content
    are both carried out by the implementation, and taken to stores with the same content — whatever
    the order of their steps, however the text was cut into pieces, whenever the attributes and
    namespaces were set. -/
theorem C20_orders_agree (f g1 g2 : Forest) (P1 P2 : Program) (inv : f.Inv) (hfl : FlagsOk f)
    (h1 : runSpecF f P1 = some g1) (h2 : runSpecF f P2 = some g2) (hc : g1.content = g2.content) :
    (runImplF f P1).2 = .ok ∧ (runImplF f P2).2 = .ok ∧
      (runImplF f P1).1.content = (runImplF f P2).1.content := by
  obtain ⟨a1, a2⟩ := C20_any_order_content f g1 P1 inv hfl h1
  obtain ⟨b1, b2⟩ := C20_any_order_content f g2 P2 inv hfl h2
  exact ⟨a1, b1, by rw [a2, b2, hc]⟩

/-- The same for the subtrees of two designated nodes (e.g. the two document nodes), and any
    observation `obs` of a tree: equal in the specification's final states ⇒ equal in the
    implementation's.  With `obs` the identity: the trees are `deep_equal` and carry the same
    declarations; with `obs` the serialiser (`toXmlString env · []`, a function of the erased tree
    `HTree.erase`, C16): they serialise identically. -/
theorem C20_orders_agree_at {α : Type} (obs : Tree → α) (f : Forest) (P1 P2 : Program) (r1 r2 : Nat)
    (inv : f.Inv) (hfl : FlagsOk f) (s1 s2 : State)
    (h1 : runSpec { forest := f } P1 = some s1) (h2 : runSpec { forest := f } P2 = some s2)
    (a b : Nat) (ha : s1.env[r1]? = some a) (hb : s2.env[r2]? = some b)
    (heq : s1.forest.treeAt a = s2.forest.treeAt b) :
    (runImpl { forest := f } P1).2 = .ok ∧ (runImpl { forest := f } P2).2 = .ok ∧
    (runImpl { forest := f } P1).1.env[r1]? = some a ∧ (runImpl { forest := f } P2).1.env[r2]? = some b ∧
      ((runImpl { forest := f } P1).1.forest.treeAt a).map obs =
        ((runImpl { forest := f } P2).1.forest.treeAt b).map obs := by
  rw [run_spec_impl P1 _ s1 inv hfl h1, run_spec_impl P2 _ s2 inv hfl h2]
  exact ⟨rfl, rfl, ha, hb, by rw [heq]⟩

/-- **Closed form.**  `Prog.Constructs f P root d` says, with the specification only: every step of
    `P` is well-formed and at the end the node created by the `root`-th `create` step carries
    `treeOf d` (unused nodes and merged-away text pieces are of no concern).  Then the
    implementation answers every step `ok`, that node carries `treeOf d`, and the store still
    satisfies the invariant: every construction of `d`, in ANY order, with the text supplied in ANY
    split into pieces, yields `treeOf d`.  (`C20_topdown`, `C20_bottomup`, `C20_rtl` are three
    particular orders.) -/
theorem C20_every_construction (f : Forest) (P : Program) (root : Nat) (d : FDocument)
    (hc : Constructs f P root d) (inv : f.Inv) (hfl : FlagsOk f) :
    (runImpl { forest := f } P).2 = .ok ∧ (runImpl { forest := f } P).1.forest.Inv ∧
    ∃ h, (runImpl { forest := f } P).1.env[root]? = some h ∧
      (runImpl { forest := f } P).1.forest.treeAt h = some (treeOf d) := by
  obtain ⟨s', hs, h, he, ht⟩ := hc
  rw [run_spec_impl P _ s' inv hfl hs]
  exact ⟨rfl, (runSpec_inv P _ s' inv hfl hs).1, h, he, ht⟩

/-- … and when the specification's final store is the store before plus exactly `treeOf d`
    (nothing left over), so is the implementation's. -/
theorem C20_every_clean_construction (f : Forest) (P : Program) (d : FDocument)
    (hc : ConstructsClean f P d) (inv : f.Inv) (hfl : FlagsOk f) :
    (runImplF f P).2 = .ok ∧ (runImplF f P).1.content = f.content ++ [treeOf d] := by
  obtain ⟨s', hs, hcont⟩ := hc
  have := C20_any_order_content f s'.forest P inv hfl (by unfold runSpecF; rw [hs]; rfl)
  exact ⟨this.1, by rw [this.2, hcont]⟩

/-- The specification preserves the C04 invariant (its moves: `specMove_inv`), hence so does every
    successful implementation run: the invariant holds in every state passed through. -/
theorem C20_spec_preserves_inv (s s' : State) (P : Program) (inv : s.forest.Inv) (hfl : FlagsOk s.forest)
    (h : runSpec s P = some s') : s'.forest.Inv ∧ FlagsOk s'.forest :=
  runSpec_inv P s s' inv hfl h

theorem C20_inv_along (s : State) (P : Program) (inv : s.forest.Inv) (hfl : FlagsOk s.forest)
    (hsc : inScope s P = true) : InvAlong s P :=
  invAlong P s inv

/-! ### The refusal side -/

/-- The specification's well-formedness test of a move IS xot's argument check
    (`add_structure_check`, for `insert_*` also `sibling_reference_check`), as a Boolean. -/
theorem C20_moveOk_is_the_check (f : Forest) (d : Dest) (n : Nat) :
    moveOk d n f = implCheck f d n := moveOk_eq f d n

/-- A move the specification calls ill-formed is refused by the implementation with
    `InvalidOperation` and an unchanged store … -/
theorem C20_illformed_move_refused (f : Forest) (d : Dest) (n : Nat) (h : moveOk d n f = false) :
    moveImpl f d n = (f, .err .invalidOperation) :=
  moveImpl_refused (by rw [← moveOk_eq]; exact h)

/-- … and a well-formed move is answered `ok` (after the argument checks nothing goes wrong: no
    late `NodeError` from indextree, no panic) and is the specification's move. -/
theorem C20_wellformed_move_ok (f : Forest) (d : Dest) (n : Nat) (inv : f.Inv) (hfl : FlagsOk f)
    (h : moveOk d n f = true) :
    moveImpl f d n = (Spec.specMove (Keep.resident n) d n f, .ok) := by
  have norm := normal_of_flags inv hfl
  have hok := moveImpl_ok inv (by rw [← moveOk_eq]; exact h)
  rw [← moveImpl_spec inv norm hok, ← hok]

/-- **Refusals are exact**: the first step the implementation does not answer `ok` is the first step
    the specification calls ill-formed (both `none` for a program carried out completely). -/
theorem C20_refusal_exact (s : State) (P : Program) (inv : s.forest.Inv) (hfl : FlagsOk s.forest)
    (hsc : inScope s P = true) : firstRefused s P = firstIllFormed s P :=
  firstRefused_eq P s inv hfl hsc

/-! ### Non-vacuity: `<a c="v">x<b/>yz</a>` by two different programs

  `progA`: top-down, left to right, the attribute set first, `yz` delivered as `y` then `z`.
  `progB`: the pieces first (`z` before `y`), the element `a` created third, `y` inserted between
  `<b/>` and `z` (it merges into `z`: the LATER node survives), `x` prepended last, the attribute
  attached as a node at the very end. -/

def progA : Program :=
  [.create (.element 2), .setAttribute 0 4 ['v'], .create (.text ['x']), .append 0 1,
   .create (.element 3), .append 0 2, .create (.text ['y']), .append 0 3, .create (.text ['z']), .append 0 4]

def progB : Program :=
  [.create (.text ['z']), .create (.element 3), .create (.element 2), .append 2 1,
   .create (.text ['y']), .append 2 0, .insertAfter 1 3, .create (.text ['x']), .prepend 2 4,
   .create (.attribute 4 ['v']), .anyAppend 2 5]

theorem C20_init_inv : Forest.init.Inv ∧ FlagsOk Forest.init :=
  ⟨(Forest.inv_iff _).1 (by decide +kernel), Or.inl rfl⟩

/-- Both programs are accepted by the specification from the empty store and end in different
    states (other names survive) with the same content `<a c="v">x<b/>yz</a>`; the implementation
    model, evaluated, does what the theorems say; both are in scope. -/
example :
    (runSpecF Forest.init progA).map Forest.content =
      some [.node (.element 2) [.node (.attribute 4 ['v']) [], .node (.text ['x']) [], .node (.element 3) [],
        .node (.text ['y', 'z']) []]] ∧
    (runSpecF Forest.init progB).map Forest.content = (runSpecF Forest.init progA).map Forest.content ∧
    runSpecF Forest.init progB ≠ runSpecF Forest.init progA ∧
    (runImplF Forest.init progA).2 = .ok ∧ (runImplF Forest.init progB).2 = .ok ∧
    (runImplF Forest.init progA).1.content = (runImplF Forest.init progB).1.content ∧
    inScope { forest := Forest.init } progA = true ∧ inScope { forest := Forest.init } progB = true := by
  decide +kernel

/-- The abstract document `<!--l--><a c="v">x<b/>yz</a>` and a construction of it that creates the
    document node LAST, delivers `yz` in two pieces and sets the attribute after the children. -/
def docC : FDocument :=
  { before := [.comment ['l']],
    documentElement := { name := 2, attributes := [(4, ['v'])], children := [.text ['x'], .element 3 [] [] [], .text ['y', 'z']] } }

def progC : Program :=
  [.create (.text ['z']), .create (.element 3), .create (.element 2), .append 2 1,
   .create (.text ['y']), .append 2 0, .insertAfter 1 3, .create (.text ['x']), .prepend 2 4,
   .setAttribute 2 4 ['v'], .create (.comment ['l']), .create .document, .append 6 2, .insertBefore 2 5]

theorem C20_progC_constructs : Constructs Forest.init progC 6 docC ∧ ConstructsClean Forest.init progC docC := by
  have h2 : (runSpec { forest := Forest.init } progC).map
      (fun s' => ((s'.env[6]?).bind s'.forest.treeAt, s'.forest.content)) =
      some (some (treeOf docC), Forest.init.content ++ [treeOf docC]) := by decide +kernel
  cases hs : runSpec { forest := Forest.init } progC with
  | none => rw [hs] at h2; cases h2
  | some s' =>
    rw [hs] at h2
    simp only [Option.map_some, Option.some.injEq, Prod.mk.injEq] at h2
    obtain ⟨h3, h4⟩ := h2
    refine ⟨⟨s', hs, ?_⟩, ⟨s', hs, h4⟩⟩
    cases he : s'.env[6]? with
    | none => rw [he] at h3; cases h3
    | some h => rw [he] at h3; exact ⟨h, rfl, h3⟩

/-- `C20_every_construction` applied: the model's run of `progC` is `ok` and its 7th created node
    carries `treeOf docC`. -/
example : (runImpl { forest := Forest.init } progC).2 = .ok ∧
    ∃ h, (runImpl { forest := Forest.init } progC).1.env[6]? = some h ∧
      (runImpl { forest := Forest.init } progC).1.forest.treeAt h = some (treeOf docC) := by
  obtain ⟨a, _, b⟩ := C20_every_construction Forest.init progC 6 docC C20_progC_constructs.1 C20_init_inv.1 C20_init_inv.2
  exact ⟨a, b⟩

/-- A program the specification rejects (an element appended to itself), refused by the model at
    the same step. -/
example : runSpec { forest := Forest.init } [.create (.element 2), .append 0 0] = none ∧
    (runImpl { forest := Forest.init } [.create (.element 2), .append 0 0]).2 = .err .invalidOperation ∧
    firstRefused { forest := Forest.init } [.create (.element 2), .append 0 0] = some 1 ∧
    firstIllFormed { forest := Forest.init } [.create (.element 2), .append 0 0] = some 1 := by
  decide +kernel

/-! ## The parse route

  `treeOf d` is a tree over interning ids; `env` is the `Xot`'s tables, in which every name, prefix and
  namespace of `d` has been interned (by `fixed::…::xotify`'s `add_name_ns` / `add_prefix` /
  `add_namespace`, or by the caller of the stepwise API).  The parse route — `parse(text)` into the SAME
  `Xot` — interns nothing new and hands every id back (`p.env = env`), so its tree can be compared
  with the other routes' literally.  Hypothesis `Representable env (treeOf d)` (decidable,
  Model/SerTokens.lean): the C01 domain — it implies the well-formedness the API routes need
  (`C20_representable_wf`) and moreover: no empty text item (`FContent.noEmptyText`), XML Chars,
  NCName local names and prefixes, comment / PI conditions, normalised unique `xml:id`s, sane tables.
  The parse route's tree is the builder's `Parsed.tree` (Model/Parse.lean); putting it into the store as
  a new root is `Xot::parse`'s last step (`IdStore.parseInto`): section "Parse route at forest level". -/

/-- The C01 domain implies what the API routes need: a document whose tree is `Representable` is well
    formed relative to EVERY store (text consolidation on or off), and has no empty text item. -/
theorem C20_representable_wf (env : Env) (f : Forest) (d : FDocument)
    (hr : Representable env (treeOf d) = true) :
    FWellFormed f d ∧ d.documentElement.toContent.noEmptyText = true := by
  exact FDocument.wf_of_representable f.consolidation d (representableFragment_of_representable env hr)

/-- The text of an abstract document — the serialisation of the tree it denotes
    (which is what every API route builds: `RouteOk`) — parses to exactly that tree: same node kinds
    and order, same ids for names, prefixes and namespaces, tables unchanged; `deep_equal` answers
    `true`. -/
theorem C20_parse_route (env : Env) (d : FDocument) (hr : Representable env (treeOf d) = true) (s : Str)
    (hs : toXmlString env (treeOf d) [] = .ok s) :
    ∃ p, parseString .document env s = .ok p ∧ p.tree = treeOf d ∧ p.env = env ∧
      deepEqual p.tree (treeOf d) = true :=
  C01_roundtrip_identical env (treeOf d) hr s hs

/-- … and the text exists exactly when every namespaced name of `d` has a usable prefix in scope. -/
theorem C20_parse_route_writable (env : Env) (d : FDocument) (hr : Representable env (treeOf d) = true)
    (hw : namesWritable env (treeOf d) [] = some true) :
    ∃ s p, toXmlString env (treeOf d) [] = .ok s ∧ parseString .document env s = .ok p ∧
      p.tree = treeOf d ∧ p.env = env ∧ deepEqual p.tree (treeOf d) = true :=
  C01_roundtrip_writable env (treeOf d) hr hw

/-- The parse route next to ANY route that delivers `treeOf d` (`RouteOk`: `C20_fixed`, `C20_topdown`,
    `C20_bottomup`, `C20_rtl`, and every construction program by `C20_every_construction`): the tree
    `T` the route leaves in the store serialises to the text `s` of `d`, and parsing `s` gives a tree
    that IS `T`, hence `deep_equal` to it and serialising identically. -/
theorem C20_parse_agrees_with_route (env : Env) (route : Forest → FDocument → Option (Forest × Nat))
    (f : Forest) (d : FDocument) (h : RouteOk route f d) (hr : Representable env (treeOf d) = true)
    (s : Str) (hs : toXmlString env (treeOf d) [] = .ok s) :
    ∃ f' root T p, route f d = some (f', root) ∧ f'.treeAt root = some T ∧
      toXmlString env T [] = .ok s ∧ parseString .document env s = .ok p ∧ p.tree = T ∧ p.env = env ∧
      deepEqual p.tree T = true ∧ toXmlString p.env p.tree [] = .ok s := by
  obtain ⟨t, hx, _, ht, _⟩ := h
  obtain ⟨p, h1, h2, h3, h4⟩ := C20_parse_route env d hr s hs
  exact ⟨_, _, treeOf d, p, hx, ht, hs, h1, h2, h3, h4, by rw [h2, h3]; exact hs⟩

/-- **All routes agree, the parse route included**: `fixed::Document::xotify`, top-down, bottom-up and
    right-to-left construction all leave `treeOf d`; it serialises to one text `s`; `parse(s)` returns
    `treeOf d` again — so the five trees are pairwise equal as id trees (a fortiori `deep_equal`) and
    serialise to the same text.  Hypotheses: a store with distinct handles, the C01 domain (which gives
    the routes' well-formedness, `C20_representable_wf`), every namespaced name has a prefix in scope. -/
theorem C20_all_routes_agree (env : Env) (f : Forest) (d : FDocument) (hg : Good f)
    (hr : Representable env (treeOf d) = true) (hw : namesWritable env (treeOf d) [] = some true) :
    ∃ fa ra ft rt fb rb fr rr s p,
      f.xotifyDocument d = some (fa, ra) ∧ f.topDownDocument d = some (ft, rt) ∧
      f.bottomUpDocument d = some (fb, rb) ∧ f.rtlDocument d = some (fr, rr) ∧
      toXmlString env (treeOf d) [] = .ok s ∧ parseString .document env s = .ok p ∧ p.env = env ∧
      fa.treeAt ra = some p.tree ∧ ft.treeAt rt = some p.tree ∧ fb.treeAt rb = some p.tree ∧
      fr.treeAt rr = some p.tree ∧ p.tree = treeOf d ∧ deepEqual p.tree (treeOf d) = true ∧
      toXmlString p.env p.tree [] = .ok s := by
  obtain ⟨fa, ra, ft, rt, fb, rb, fr, rr, ha, ht, hb, hr', k1, k2, k3, k4⟩ :=
    C20_routes_agree f d hg (C20_representable_wf env f d hr).1
  obtain ⟨s, p, hs, h1, h2, h3, h4⟩ := C20_parse_route_writable env d hr hw
  refine ⟨fa, ra, ft, rt, fb, rb, fr, rr, s, p, ha, ht, hb, hr', hs, h1, h3, ?_, ?_, ?_, ?_, h2, h4, ?_⟩
  · rw [k1, h2]
  · rw [k2, k1, h2]
  · rw [k3, k1, h2]
  · rw [k4, k1, h2]
  · rw [h2, h3]; exact hs

/-- Non-vacuity, closed: `<!--l--><r xmlns="urn:a" xmlns:p="urn:b" k="v">x<p:c/>yz</r>` over the
    tables `c01Env` of Props/C01. -/
def docD : FDocument :=
  { before := [.comment ['l']],
    documentElement := { name := 2, prefixes := [(0, 2), (2, 3)], attributes := [(4, ['v'])],
                         children := [.text ['x'], .element 3 [] [] [], .text ['y', 'z']] } }

theorem docD_representable : Representable c01Env (treeOf docD) = true := by decide +kernel

theorem docD_namesWritable : namesWritable c01Env (treeOf docD) [] = some true := by decide +kernel

theorem docD_toXmlString : toXmlString c01Env (treeOf docD) [] =
    .ok "<!--l--><r xmlns=\"urn:a\" xmlns:p=\"urn:b\" k=\"v\">x<p:c/>yz</r>".toList := by
  rw [String.toList_ofList]
  decide +kernel

example : Representable c01Env (treeOf docD) = true ∧ namesWritable c01Env (treeOf docD) [] = some true ∧
    FWellFormed Forest.init docD ∧
    toXmlString c01Env (treeOf docD) [] =
      .ok "<!--l--><r xmlns=\"urn:a\" xmlns:p=\"urn:b\" k=\"v\">x<p:c/>yz</r>".toList :=
  ⟨docD_representable, docD_namesWritable, by unfold FWellFormed; decide +kernel, docD_toXmlString⟩

example : ∃ p, parseString .document c01Env
      "<!--l--><r xmlns=\"urn:a\" xmlns:p=\"urn:b\" k=\"v\">x<p:c/>yz</r>".toList = .ok p ∧
    p.tree = treeOf docD ∧ p.env = c01Env ∧ deepEqual p.tree (treeOf docD) = true :=
  C20_parse_route c01Env docD docD_representable _ docD_toXmlString

end XotModel.Props

/-! ## Parse route at forest level

  `C20_parse_route` above is a statement about trees.  Here the text is parsed INTO an existing store
  (`IdStore.parseInto`, Model/FidIndex.lean = what `Xot::parse` does to the arena and the xml:id index;
  `IdStore.parseRoute` / `Forest.parseRoute`, Model/FparseRouteSpec.lean = serialise `treeOf d`, parse the
  text into the store): the parse route is a `RouteOk` route in the same sense as `xotify` and the
  stepwise routes — one new root erasing to `treeOf d`, `d.size` fresh handles, every other tree and the
  flags untouched, `Forest.Inv` kept — and `C20_all_routes_agree_forest` lists the five new roots with
  equal erasures.  (`Forest.Inv` of the result is by `Forest.inv_add_root` as for the other routes, in
  agreement with `C04_parse_inv`; the facts about `HTree.ofTree`: Lemmas/OfTree.lean.) -/

namespace XotModel.Props
open XotModel

/-- For a store `s` (forest + xml:id index) whose forest satisfies the C04
    invariant and a document in the C01 domain with text `text`: the text parses (tables unchanged),
    and parsing it INTO `s` adds exactly one new root `t` — handles `next … next + d.size - 1` — that
    erases to `treeOf d`; the returned document node is `t`'s handle and looks up `treeOf d`; every other
    tree, the flags and all existing handles are as before; the result satisfies `Forest.Inv`. -/
theorem C20_parse_route_forest (env : Env) (s : IdStore) (d : FDocument) (hi : s.forest.Inv)
    (hr : Representable env (treeOf d) = true) (text : Str) (hs : toXmlString env (treeOf d) [] = .ok text) :
    ∃ p t, parseString .document env text = .ok p ∧ p.env = env ∧
      s.parseRoute env d = some (s.parseInto p.tree) ∧
      (s.parseInto p.tree).1.forest =
        { s.forest with roots := s.forest.roots ++ [t], next := s.forest.next + d.size } ∧
      (s.parseInto p.tree).2 = t.handle ∧ t.erase = treeOf d ∧
      (s.parseInto p.tree).1.forest.treeAt t.handle = some (treeOf d) ∧
      (s.parseInto p.tree).1.forest.Inv := by
  obtain ⟨p, h1, h2, h3, _⟩ := C20_parse_route env d hr text hs
  obtain ⟨t, k1, k2, k3, k4⟩ := IdStore.fpr_parseInto_spec s d (C20_good_of_inv _ hi)
  refine ⟨p, t, h1, h3, ?_, ?_, ?_, k3, ?_, ?_⟩
  · simp only [IdStore.parseRoute, hs, h1]
  · rw [h2]; exact k1
  · rw [h2]; exact k2
  · rw [h2, k1, Forest.treeAt_new_root s.forest t _ k4, k3]
  · rw [h2, k1]
    exact Forest.inv_add_root s.forest hi d t _ k3 (C20_representable_wf env s.forest d hr).1 k4

/-- The parse route is a `RouteOk` route: same conclusion as `C20_fixed`, `C20_topdown`, `C20_bottomup`,
    `C20_rtl` (and hence `C20_inv_preserved` applies to it), whatever the xml:id index holds. -/
theorem C20_parse_routeOk (env : Env) (index : List ((Nat × Str) × Nat)) (f : Forest) (d : FDocument)
    (hg : Good f) (hr : Representable env (treeOf d) = true)
    (hw : namesWritable env (treeOf d) [] = some true) :
    RouteOk (Forest.parseRoute env index) f d := by
  obtain ⟨text, p, hs, h1, h2, _, _⟩ := C20_parse_route_writable env d hr hw
  obtain ⟨t, k1, k2, k3, k4⟩ := IdStore.fpr_parseInto_spec ⟨f, index⟩ d hg
  apply C20_routeOk_of_spec
  refine ⟨t, ?_, k3, k4⟩
  simp only [Forest.parseRoute, IdStore.parseRoute, hs, h1, Option.map_some, h2]
  rw [show ((IdStore.mk f index).parseInto (treeOf d)).1.forest = _ from k1,
    show ((IdStore.mk f index).parseInto (treeOf d)).2 = _ from k2]

/-- **All five routes agree at forest level**: from any store satisfying `Forest.Inv`, for a document in
    the C01 domain whose names are writable, `fixed::Document::xotify`, top-down, bottom-up, right-to-left
    construction and serialise-then-parse each add ONE new root to the store (and change nothing else);
    the five roots have the same erasure, `treeOf d`, and each resulting store satisfies `Forest.Inv`. -/
theorem C20_all_routes_agree_forest (env : Env) (index : List ((Nat × Str) × Nat)) (f : Forest)
    (d : FDocument) (hi : f.Inv) (hr : Representable env (treeOf d) = true)
    (hw : namesWritable env (treeOf d) [] = some true) :
    ∃ ta tt tb tr tp : HTree,
      f.xotifyDocument d = some ({ f with roots := f.roots ++ [ta], next := f.next + d.size }, ta.handle) ∧
      f.topDownDocument d = some ({ f with roots := f.roots ++ [tt], next := f.next + d.size }, tt.handle) ∧
      f.bottomUpDocument d = some ({ f with roots := f.roots ++ [tb], next := f.next + d.size }, tb.handle) ∧
      f.rtlDocument d = some ({ f with roots := f.roots ++ [tr], next := f.next + d.size }, tr.handle) ∧
      f.parseRoute env index d = some ({ f with roots := f.roots ++ [tp], next := f.next + d.size }, tp.handle) ∧
      ta.erase = treeOf d ∧ tt.erase = ta.erase ∧ tb.erase = ta.erase ∧ tr.erase = ta.erase ∧
      tp.erase = ta.erase ∧
      (∀ t ∈ [ta, tt, tb, tr, tp],
        ({ f with roots := f.roots ++ [t], next := f.next + d.size } : Forest).Inv ∧
        ({ f with roots := f.roots ++ [t], next := f.next + d.size } : Forest).treeAt t.handle = some (treeOf d)) := by
  have hg := C20_good_of_inv f hi
  have hwf := (C20_representable_wf env f d hr).1
  obtain ⟨ta, ha, ea, la, ga⟩ := C20_fixed f d hg hwf
  obtain ⟨tt, ht, et, lt, gt⟩ := C20_topdown f d hg hwf
  obtain ⟨tb, hb, eb, lb, gb⟩ := C20_bottomup f d hg hwf
  obtain ⟨tr, hr', er, lr, gr⟩ := C20_rtl f d hg hwf
  obtain ⟨tp, hp, ep, lp, gp⟩ := C20_parse_routeOk env index f d hg hr hw
  refine ⟨ta, tt, tb, tr, tp, ha, ht, hb, hr', hp, ea, by rw [et, ea], by rw [eb, ea], by rw [er, ea],
    by rw [ep, ea], ?_⟩
  intro t hmem
  simp only [List.mem_cons, List.not_mem_nil, or_false] at hmem
  rcases hmem with rfl | rfl | rfl | rfl | rfl
  · exact ⟨Forest.inv_add_root f hi d _ _ ea hwf ga, la⟩
  · exact ⟨Forest.inv_add_root f hi d _ _ et hwf gt, lt⟩
  · exact ⟨Forest.inv_add_root f hi d _ _ eb hwf gb, lb⟩
  · exact ⟨Forest.inv_add_root f hi d _ _ er hwf gr, lr⟩
  · exact ⟨Forest.inv_add_root f hi d _ _ ep hwf gp, lp⟩

/-- Non-vacuity, closed: `docD` parsed into a store that already holds an element and a comment. -/
example :
    let f : Forest := { roots := [.node 0 (.element 2) [.node 1 (.text ['t']) []], .node 2 (.comment []) []], next := 3 }
    f.inv = true ∧ Representable c01Env (treeOf docD) = true ∧
      namesWritable c01Env (treeOf docD) [] = some true ∧ docD.size = 9 :=
  ⟨by decide +kernel, docD_representable, docD_namesWritable, by decide +kernel⟩
example : ∃ t : HTree,
    Forest.parseRoute c01Env []
      { roots := [.node 0 (.element 2) [.node 1 (.text ['t']) []], .node 2 (.comment []) []], next := 3 } docD =
      some ({ roots := [.node 0 (.element 2) [.node 1 (.text ['t']) []], .node 2 (.comment []) [], t], next := 12 }, 3) ∧
    t.handle = 3 ∧ t.erase = treeOf docD := by
  obtain ⟨t, h1, h2, _, _⟩ := C20_parse_routeOk c01Env []
    { roots := [.node 0 (.element 2) [.node 1 (.text ['t']) []], .node 2 (.comment []) []], next := 3 } docD
    (C20_good_of_inv _ ((Forest.inv_iff _).mp (by decide +kernel))) docD_representable docD_namesWritable
  have hh : t.handle = 3 := by
    have := congrArg (fun o => o.map (·.2)) h1
    simp only [Forest.parseRoute, IdStore.parseRoute] at this
    revert this
    cases toXmlString c01Env (treeOf docD) [] with
    | ok text =>
      simp only
      cases parseString .document c01Env text with
      | ok p => simp only [Option.map_some, IdStore.parseInto, Option.some.injEq]; intro e; exact e.symm
      | err e env' => simp
      | panic => simp
    | err e => simp
    | panic => simp
  refine ⟨t, ?_, hh, h2⟩
  rw [h1, hh]
  rfl

end XotModel.Props

/-! ## Extended construction programs: every kind of step

  A realistic construction order also MOVES things.  `Model/FanyorderSpec2.lean` (`Prog2`) extends the
  programs of `Model/FanyorderSpec.lean` (embedded as `Prog2.Step.base`) by `detach`, `remove` (helper
  nodes), `replace` (a placeholder by the real node), `wrap` (`element_wrap`), `unwrap` (`element_unwrap`
  of a helper wrapper), the value setters `setText`, `setElementName`, `setAttributeValue`, `setComment`,
  `setPiData`, and `clone` (`clone_node` of a template); nodes are named by the index of the step that
  CREATED them (`create`, `wrap`, `clone`).  Two interpreters: `Prog2.runImpl` (the calls as xot performs
  them, `Model/Manip.lean` / `Manip2.lean` / `Fcreation.lean`) and `Prog2.runSpec` — the ordered-tree
  SPECIFICATION C05 proves each call against: `specDetachP`, `specRemoveP`, `specReplaceP`, `specUnwrapP`
  (the pair reading of "text nodes that become adjacent are merged", `Model/FspecSpec3.lean` /
  `FspecSpec4.lean`), `specWrap`, `specSetValue`, `specClone`; whether a step makes sense is decided on the
  ordered tree (`Prog2.replaceOk`, `wrapOk`, `unwrapOk`, the kind of the node for a setter, liveness for
  `detach` / `remove` / `clone`).

  Hypotheses, as for the eight-step programs: the C04 invariant `Forest.Inv` of the START store and
  `Prog.FlagsOk` (text consolidation never switched off, or off — the store then never holds adjacent text
  nodes while consolidation is on, which is where C05's pair reading, its whole-run reading and xot agree).
  Nothing is assumed about the intermediate stores: the SPECIFICATION preserves `Forest.Inv`
  (`C20_program_spec_preserves_inv`; per call `Lemmas/SpecSideComposite.lean`, proved on the
  ordered-tree side; setters and `clone_node` through C04), and after the ordered-tree test of a step nothing
  goes wrong in the implementation (`Lemmas/FprogExtended.lean`: `element_unwrap`, `element_wrap`, `replace`
  answer `ok`; C06).
  Per call the C05 theorems are used by name (`Prog2.call_spec_impl`). -/

namespace XotModel.Props
open XotModel

/-- **Refinement along a whole extended program**: a program the ordered-tree specification accepts is
    carried out by the implementation without a refusal, and the implementation's final state IS the
    specification's: same trees, same node names (handles), same created nodes. -/
theorem C20_program_refines (s s' : Prog.State) (P : Prog2.Program) (inv : s.forest.Inv)
    (hfl : Prog.FlagsOk s.forest) (h : Prog2.runSpec s P = some s') : Prog2.runImpl s P = (s', .ok) :=
  Prog2.run_spec_impl P s s' inv hfl h

/-- The specification preserves the C04 invariant and the flag condition, step by step. -/
theorem C20_program_spec_preserves_inv (s s' : Prog.State) (P : Prog2.Program) (inv : s.forest.Inv)
    (hfl : Prog.FlagsOk s.forest) (h : Prog2.runSpec s P = some s') :
    s'.forest.Inv ∧ Prog.FlagsOk s'.forest :=
  Prog2.runSpec_inv P s s' inv hfl h

/-- One call: what the specification accepts the implementation answers `ok`, with the specification's
    store and created node (per kind of call: the C05 theorem of that call). -/
theorem C20_program_call (f f' : Forest) (c : Prog2.Call) (o : Option Nat) (inv : f.Inv) (hfl : Prog.FlagsOk f)
    (h : c.spec f = some (f', o)) : c.impl f = (f', .ok, o) ∧ f'.Inv ∧ Prog.FlagsOk f' := by
  obtain ⟨i, a, b⟩ := Prog2.spec_inv inv hfl h
  exact ⟨Prog2.call_spec_impl inv hfl c h, i, hfl.of_eq a b⟩

/-- Every extended program that ends in the abstract document `d` according to the
    SPECIFICATION semantics (`Prog2.Constructs`: every step well-formed; at the end the node created by the
    `root`-th creating step carries `treeOf d`), run on the forest model, is answered `ok` at every step
    and ends in a store that satisfies the invariant and in which that node is the root of a subtree
    erasing to `treeOf d`. -/
theorem C20_any_program (f : Forest) (P : Prog2.Program) (root : Nat) (d : FDocument)
    (hc : Prog2.Constructs f P root d) (inv : f.Inv) (hfl : Prog.FlagsOk f) :
    (Prog2.runImpl { forest := f } P).2 = .ok ∧ (Prog2.runImpl { forest := f } P).1.forest.Inv ∧
    ∃ h t, (Prog2.runImpl { forest := f } P).1.env[root]? = some h ∧
      (Prog2.runImpl { forest := f } P).1.forest.get? h = some t ∧ t.erase = treeOf d ∧
      (Prog2.runImpl { forest := f } P).1.forest.treeAt h = some (treeOf d) := by
  obtain ⟨s', hs, h, he, ht⟩ := hc
  rw [Prog2.run_spec_impl P _ s' inv hfl hs]
  refine ⟨rfl, (Prog2.runSpec_inv P _ s' inv hfl hs).1, h, ?_⟩
  have ht' := ht
  unfold Forest.treeAt at ht'
  cases hg : s'.forest.get? h with
  | none => rw [hg] at ht'; cases ht'
  | some t =>
    rw [hg] at ht'
    exact ⟨t, he, rfl, Option.some.inj ht', ht⟩

/-- Two extended programs that end in the same abstract document — whatever was
    detached and re-attached, wrapped and unwrapped, replaced, set late or cloned on the way — are both
    carried out, and the two document nodes carry the same tree: `deep_equal`, the same declarations, and
    (any observation `obs` of the erased tree, e.g. the serialiser) the same serialisation. -/
theorem C20_programs_agree {α : Type} (obs : Tree → α) (f : Forest) (P1 P2 : Prog2.Program) (r1 r2 : Nat)
    (d : FDocument) (h1 : Prog2.Constructs f P1 r1 d) (h2 : Prog2.Constructs f P2 r2 d)
    (inv : f.Inv) (hfl : Prog.FlagsOk f) :
    (Prog2.runImpl { forest := f } P1).2 = .ok ∧ (Prog2.runImpl { forest := f } P2).2 = .ok ∧
    ∃ a b, (Prog2.runImpl { forest := f } P1).1.env[r1]? = some a ∧
      (Prog2.runImpl { forest := f } P2).1.env[r2]? = some b ∧
      (Prog2.runImpl { forest := f } P1).1.forest.treeAt a = some (treeOf d) ∧
      (Prog2.runImpl { forest := f } P2).1.forest.treeAt b =
        (Prog2.runImpl { forest := f } P1).1.forest.treeAt a ∧
      ((Prog2.runImpl { forest := f } P1).1.forest.treeAt a).map obs =
        ((Prog2.runImpl { forest := f } P2).1.forest.treeAt b).map obs := by
  obtain ⟨o1, _, a, _, ea, _, _, ta⟩ := C20_any_program f P1 r1 d h1 inv hfl
  obtain ⟨o2, _, b, _, eb, _, _, tb⟩ := C20_any_program f P2 r2 d h2 inv hfl
  exact ⟨o1, o2, a, b, ea, eb, ta, by rw [tb, ta], by rw [ta, tb]⟩

/-- … and agrees with `fixed::Document::xotify` (`C20_fixed`; likewise with every `RouteOk` route). -/
theorem C20_program_fixed_route (route : Forest → FDocument → Option (Forest × Nat)) (f : Forest)
    (P : Prog2.Program) (root : Nat) (d : FDocument) (hc : Prog2.Constructs f P root d) (inv : f.Inv)
    (hfl : Prog.FlagsOk f) (hr : RouteOk route f d) :
    ∃ fa ra h, route f d = some (fa, ra) ∧ (Prog2.runImpl { forest := f } P).2 = .ok ∧
      (Prog2.runImpl { forest := f } P).1.env[root]? = some h ∧
      (Prog2.runImpl { forest := f } P).1.forest.treeAt h = fa.treeAt ra ∧
      fa.treeAt ra = some (treeOf d) := by
  obtain ⟨t, hx, _, ht, _⟩ := hr
  obtain ⟨o1, _, h, _, eh, _, _, th⟩ := C20_any_program f P root d hc inv hfl
  exact ⟨_, _, h, hx, o1, eh, by rw [th, ht], ht⟩

theorem C20_program_fixed (f : Forest) (P : Prog2.Program) (root : Nat) (d : FDocument)
    (hc : Prog2.Constructs f P root d) (inv : f.Inv) (hfl : Prog.FlagsOk f) (hwf : FWellFormed f d) :
    ∃ fa ra h, f.xotifyDocument d = some (fa, ra) ∧ (Prog2.runImpl { forest := f } P).2 = .ok ∧
      (Prog2.runImpl { forest := f } P).1.env[root]? = some h ∧
      (Prog2.runImpl { forest := f } P).1.forest.treeAt h = fa.treeAt ra ∧
      fa.treeAt ra = some (treeOf d) :=
  C20_program_fixed_route Forest.xotifyDocument f P root d hc inv hfl (C20_fixed f d (C20_good_of_inv f inv) hwf)

/-- … and with the parse route (`C20_parse_route`): for a document in the C01 domain with text `s`, the
    tree `T` the program leaves serialises to `s`, and parsing `s` gives a tree that IS `T` (same ids,
    tables unchanged), hence `deep_equal` to it and serialising identically. -/
theorem C20_program_parse_route (env : Env) (f : Forest) (P : Prog2.Program) (root : Nat) (d : FDocument)
    (hc : Prog2.Constructs f P root d) (inv : f.Inv) (hfl : Prog.FlagsOk f)
    (hr : Representable env (treeOf d) = true) (s : Str) (hs : toXmlString env (treeOf d) [] = .ok s) :
    ∃ h T p, (Prog2.runImpl { forest := f } P).2 = .ok ∧
      (Prog2.runImpl { forest := f } P).1.env[root]? = some h ∧
      (Prog2.runImpl { forest := f } P).1.forest.treeAt h = some T ∧
      toXmlString env T [] = .ok s ∧ parseString .document env s = .ok p ∧ p.tree = T ∧ p.env = env ∧
      deepEqual p.tree T = true ∧ toXmlString p.env p.tree [] = .ok s := by
  obtain ⟨o1, _, h, _, eh, _, _, th⟩ := C20_any_program f P root d hc inv hfl
  obtain ⟨p, k1, k2, k3, k4⟩ := C20_parse_route env d hr s hs
  exact ⟨h, treeOf d, p, o1, eh, th, hs, k1, k2, k3, k4, by rw [k2, k3]; exact hs⟩

/-- **Conversely**: an extended program every step of which the implementation answers `ok` is well-formed
    for the specification, with the same final state (then `C20_program_refines` / `C20_any_program`
    apply).  `Prog2.inScope`: what `Prog.inScope` excludes, and `detach` / `remove` of a node that does not
    exist any more (the model answers `ok` and changes nothing). -/
theorem C20_any_program_conv (s : Prog.State) (P : Prog2.Program) (inv : s.forest.Inv)
    (hfl : Prog.FlagsOk s.forest) (hsc : Prog2.inScope s P = true) (hok : (Prog2.runImpl s P).2 = .ok) :
    Prog2.runSpec s P = some (Prog2.runImpl s P).1 :=
  Prog2.run_impl_spec P s inv hfl hsc hok

/-- **Refusals are exact** for extended programs: the first step the implementation does not answer `ok`
    is the first step the specification calls ill-formed — the ordered-tree tests `Prog2.replaceOk`,
    `wrapOk`, `unwrapOk` and the kind tests of the setters are exactly xot's argument checks, and after
    them nothing goes wrong. -/
theorem C20_program_refusal_exact (s : Prog.State) (P : Prog2.Program) (inv : s.forest.Inv)
    (hfl : Prog.FlagsOk s.forest) (hsc : Prog2.inScope s P = true) :
    Prog2.firstRefused s P = Prog2.firstIllFormed s P :=
  Prog2.firstRefused_eq P s inv hfl hsc

/-- The well-formedness tests of the composite calls against xot's outcome, one call at a time. -/
theorem C20_program_checks (f : Forest) (inv : f.Inv) (hfl : Prog.FlagsOk f) :
    (∀ a b, Prog2.replaceOk f a b = true ↔ (f.replace a b).2 = .ok) ∧
    (∀ n name, Prog2.wrapOk f n = true ↔ (f.elementWrap n name).2.1 = .ok) ∧
    (∀ n, Prog2.unwrapOk f n = true ↔ (f.elementUnwrap n).2 = .ok) :=
  ⟨fun _ _ => ⟨Prog2.replace_ok inv, Prog2.replaceOk_of_ok⟩,
   fun _ name => ⟨Prog2.elementWrap_ok name inv, Prog2.wrapOk_of_ok⟩,
   fun _ => ⟨Prog2.elementUnwrap_ok inv, Prog2.unwrapOk_of_ok⟩⟩

/-- The eight-step programs are the extended programs without a new step (the extension is
    conservative): same run on the specification, same run on the implementation. -/
theorem C20_program_base (s : Prog.State) (P : Prog.Program) :
    Prog2.runSpec s (Prog2.ofBase P) = Prog.runSpec s P ∧ Prog2.runImpl s (Prog2.ofBase P) = Prog.runImpl s P :=
  Prog2.run_base s P

theorem C20_program_base_constructs (f : Forest) (P : Prog.Program) (root : Nat) (d : FDocument)
    (h : Prog.Constructs f P root d) : Prog2.Constructs f (Prog2.ofBase P) root d := by
  obtain ⟨s', hs, x⟩ := h
  exact ⟨s', by rw [(C20_program_base _ P).1]; exact hs, x⟩

/-! ### Non-vacuity: `<!--l--><a c="v">x<b/>yz</a>` (`docC`) by a program that uses every new kind of step

  `?` is wrapped in the element `a`; a placeholder comment `p` and a helper wrapper `W[yz]` are appended;
  `W` is unwrapped; a template element is cloned, the copy renamed to `b` and put in the place of the
  placeholder; the template is removed; the text is set to `x`; the attribute is set; the document node
  is created last, the leading comment appended at the wrong place, detached and inserted before `a`. -/

def progX : Prog2.Program :=
  [.base (.create (.text ['?'])),          -- 0
   .wrap 0 2,                              -- 1: <a>?</a>
   .base (.create (.comment ['p'])),       -- 2
   .base (.append 1 2),
   .base (.create (.element 9)),           -- 3: helper wrapper
   .base (.create (.text ['y', 'z'])),     -- 4
   .base (.append 3 4),
   .base (.append 1 3),                    -- <a>?<!--p--><W>yz</W></a>
   .unwrap 3,                              -- <a>?<!--p-->yz</a>
   .base (.create (.element 7)),           -- 5: template
   .clone 5,                               -- 6
   .setElementName 6 3,
   .replace 2 6,                           -- <a>?<b/>yz</a>
   .remove 5,
   .setText 0 ['x'],
   .base (.setAttribute 1 4 ['v']),
   .base (.create (.comment ['?'])),       -- 7
   .setComment 7 ['l'],
   .base (.create .document),              -- 8
   .base (.append 8 1),
   .base (.append 8 7),                    -- at the wrong place
   .detach 7,
   .base (.insertBefore 1 7)]

theorem C20_progX_constructs : Prog2.Constructs Forest.init progX 8 docC := by
  have h2 : (Prog2.runSpec { forest := Forest.init } progX).map
      (fun s' => (s'.env[8]?).bind s'.forest.treeAt) = some (some (treeOf docC)) := by decide +kernel
  cases hs : Prog2.runSpec { forest := Forest.init } progX with
  | none => rw [hs] at h2; cases h2
  | some s' =>
    rw [hs] at h2
    simp only [Option.map_some, Option.some.injEq] at h2
    refine ⟨s', hs, ?_⟩
    cases he : s'.env[8]? with
    | none => rw [he] at h2; cases h2
    | some h => rw [he] at h2; exact ⟨h, rfl, h2⟩

/-- `C20_any_program` applied; nothing is left over but the document; and the eight-step program `progC`
    (embedded) and `progX` agree. -/
example : (Prog2.runImpl { forest := Forest.init } progX).2 = .ok ∧
    ∃ h, (Prog2.runImpl { forest := Forest.init } progX).1.env[8]? = some h ∧
      (Prog2.runImpl { forest := Forest.init } progX).1.forest.treeAt h = some (treeOf docC) := by
  obtain ⟨a, _, h, _, b, _, _, c⟩ := C20_any_program Forest.init progX 8 docC C20_progX_constructs C20_init_inv.1 C20_init_inv.2
  exact ⟨a, h, b, c⟩

example : (Prog2.runImplF Forest.init progX).2 = .ok ∧
    (Prog2.runImplF Forest.init progX).1.content = [treeOf docC] ∧
    (Prog2.runSpecF Forest.init progX).map Forest.content = some [treeOf docC] := by
  decide +kernel

example : Prog2.inScope { forest := Forest.init } progX = true ∧
    Prog2.firstRefused { forest := Forest.init } progX = none ∧
    Prog2.firstRefused { forest := Forest.init } [.base (.create (.element 2)), .setText 0 ['x']] = some 1 ∧
    Prog2.firstIllFormed { forest := Forest.init } [.base (.create (.element 2)), .setText 0 ['x']] = some 1 := by
  decide +kernel

example : ∃ a b, (Prog2.runImpl { forest := Forest.init } progX).1.env[8]? = some a ∧
    (Prog2.runImpl { forest := Forest.init } (Prog2.ofBase progC)).1.env[6]? = some b ∧
    (Prog2.runImpl { forest := Forest.init } (Prog2.ofBase progC)).1.forest.treeAt b =
      (Prog2.runImpl { forest := Forest.init } progX).1.forest.treeAt a := by
  obtain ⟨_, _, a, b, ea, eb, _, e, _⟩ := C20_programs_agree id Forest.init progX (Prog2.ofBase progC) 8 6 docC
    C20_progX_constructs (C20_program_base_constructs _ _ _ _ C20_progC_constructs.1) C20_init_inv.1 C20_init_inv.2
  exact ⟨a, b, ea, eb, e⟩

/-- Ill-formed steps are refused at the same place: wrapping a comment that is a child of a document node
    (xot: `InvalidOperation`), replacing a node by its own ancestor, unwrapping a parentless element that
    has children, setting the text of an element. -/
example :
    Prog2.runSpec { forest := Forest.init } [.base (.create .document), .base (.create (.comment [])), .base (.append 0 1), .wrap 1 2] = none ∧
    (Prog2.runImpl { forest := Forest.init } [.base (.create .document), .base (.create (.comment [])), .base (.append 0 1), .wrap 1 2]).2 = .err .invalidOperation ∧
    Prog2.runSpec { forest := Forest.init } [.base (.create (.element 2)), .base (.create (.text [])), .base (.append 0 1), .replace 1 0] = none ∧
    (Prog2.runImpl { forest := Forest.init } [.base (.create (.element 2)), .base (.create (.text [])), .base (.append 0 1), .replace 1 0]).2 = .err .invalidOperation ∧
    Prog2.runSpec { forest := Forest.init } [.base (.create (.element 2)), .base (.create (.text [])), .base (.append 0 1), .unwrap 0] = none ∧
    (Prog2.runImpl { forest := Forest.init } [.base (.create (.element 2)), .base (.create (.text [])), .base (.append 0 1), .unwrap 0]).2 = .err .invalidOperation ∧
    Prog2.runSpec { forest := Forest.init } [.base (.create (.element 2)), .setText 0 ['x']] = none ∧
    (Prog2.runImpl { forest := Forest.init } [.base (.create (.element 2)), .setText 0 ['x']]).2 = .err .invalidOperation := by
  decide +kernel

end XotModel.Props

/-! ## Construction programs with navigation and inputs

  `Model/FanyorderSpec3.lean` (`Prog3`): the extended programs (`Prog2`, embedded as `Step.old`, run
  identically: `C20_program3_old`) can only name nodes they created themselves.  A `Prog3` program starts
  with INPUTS (`State.env` = some nodes of the store it is run in — roots of trees that were there before,
  e.g. a parsed document, or any other node) and has NAVIGATION steps whose result is a new named node:
  `child r k` (`children(r).nth(k)`), `parent r`, `attrNode r name` (`attributes(r).get_node(name)`),
  `nsNode r prefix` (`namespaces(r).get_node(prefix)`), `r` an input or an earlier result — so the inside of
  a cloned template and of a tree that was in the store before can be edited.  New update steps:
  `removeAttribute`, `removeNamespace`, `clearAttributes`, `clearNamespaces` (`MutableNodeMap::remove` /
  `clear`), `nsSetNamespace` (`namespace_node_mut().set_namespace`), `piSetTarget`
  (`processing_instruction_mut().set_target`; `set_data` is `Prog2.Step.setPiData`).

  The DENOTATION of a program (`Prog3.denote` / `denoteAt`) is a list of pure trees (`Tree`, no node names):
  the program is run on the ordered-tree specification (C05's, as for `Prog2`; removing an entry =
  `specRemoveP` of the entry node, the setters = `specSetValue`) and the tree of the ROOT every input /
  result lies in — or the subtree of one designated result — is read off with `HTree.erase`.  Not provided: a
  denotation that is computed on `Tree`s alone (no named nodes inside the computation); it is listed under
  `not_proved` in bin/props/C20.json. -/

namespace XotModel.Props
open XotModel

/-- **Refinement along a whole program with navigation**: a program the specification accepts is carried
    out by the implementation without a refusal — every navigation finds a node — and the implementation's
    final state IS the specification's (trees, node names, results); `Forest.Inv` holds at the end. -/
theorem C20_program3_refines (s s' : Prog.State) (P : Prog3.Program) (inv : s.forest.Inv)
    (hfl : Prog.FlagsOk s.forest) (h : Prog3.runSpec s P = some s') :
    Prog3.runImpl s P = (s', .ok) ∧ s'.forest.Inv ∧ Prog.FlagsOk s'.forest :=
  Prog3.run_spec_impl P s s' inv hfl h

/-- One call (navigation resolved): accepted by the specification ⇒ answered `ok`, with the specification's
    store and result; invariant and flags kept. -/
theorem C20_program3_call (f f' : Forest) (c : Prog3.Call) (o : Option Nat) (inv : f.Inv) (hfl : Prog.FlagsOk f)
    (h : c.spec f = some (f', o)) : c.impl f = (f', .ok, o) ∧ f'.Inv ∧ Prog.FlagsOk f' := by
  obtain ⟨e, i, a, b⟩ := Prog3.call_spec_impl inv hfl h
  exact ⟨e, i, hfl.of_eq a b⟩

/-- For ANY store `f` satisfying `Forest.Inv` (and the flag condition), any inputs
    `ins` and any program with navigation that has a denotation `D` (= the specification accepts every
    step): the forest model answers `ok` at every step, the final store satisfies the invariant, and the
    final ROOT TREE of every input and result is the tree the program denotes. -/
theorem C20_any_program3 (f : Forest) (ins : List Nat) (P : Prog3.Program) (D : List (Option Tree))
    (hd : Prog3.denote f ins P = some D) (inv : f.Inv) (hfl : Prog.FlagsOk f) :
    (Prog3.runImpl { forest := f, env := ins } P).2 = .ok ∧
    (Prog3.runImpl { forest := f, env := ins } P).1.forest.Inv ∧
    Prog3.rootTrees (Prog3.runImpl { forest := f, env := ins } P).1 = D := by
  unfold Prog3.denote at hd
  cases hs : Prog3.runSpec { forest := f, env := ins } P with
  | none => rw [hs] at hd; cases hd
  | some s' =>
    rw [hs] at hd
    simp only [Option.map_some, Option.some.injEq] at hd
    obtain ⟨e, i, _⟩ := Prog3.run_spec_impl P _ s' inv hfl hs
    rw [e]
    exact ⟨rfl, i, hd⟩

/-- … and for one designated result (the shape of `C20_any_program`): if the program ends in the tree `T`
    at the result `root` according to the denotation, the model's run is `ok` throughout and that result is
    the root of a subtree erasing to `T`. -/
theorem C20_any_program3_at (f : Forest) (ins : List Nat) (P : Prog3.Program) (root : Nat) (T : Tree)
    (hc : Prog3.Constructs f ins P root T) (inv : f.Inv) (hfl : Prog.FlagsOk f) :
    (Prog3.runImpl { forest := f, env := ins } P).2 = .ok ∧
    (Prog3.runImpl { forest := f, env := ins } P).1.forest.Inv ∧
    ∃ h t, (Prog3.runImpl { forest := f, env := ins } P).1.env[root]? = some h ∧
      (Prog3.runImpl { forest := f, env := ins } P).1.forest.get? h = some t ∧ t.erase = T ∧
      (Prog3.runImpl { forest := f, env := ins } P).1.forest.treeAt h = some T := by
  unfold Prog3.Constructs Prog3.denoteAt at hc
  cases hs : Prog3.runSpec { forest := f, env := ins } P with
  | none => rw [hs] at hc; cases hc
  | some s' =>
    rw [hs] at hc
    simp only at hc
    obtain ⟨e, i, _⟩ := Prog3.run_spec_impl P _ s' inv hfl hs
    rw [e]
    refine ⟨rfl, i, ?_⟩
    cases he : s'.env[root]? with
    | none => rw [he] at hc; cases hc
    | some h =>
      rw [he] at hc
      simp only at hc
      have hc' := hc
      unfold Forest.treeAt at hc'
      cases hg : s'.forest.get? h with
      | none => rw [hg] at hc'; cases hc'
      | some t =>
        rw [hg] at hc'
        exact ⟨h, t, rfl, hg, Option.some.inj hc', hc⟩

/-- Two programs with the same denotation at their designated results — run in
    the same store or in two different stores, with different inputs, one building top-down from nothing,
    one editing a parsed document in place through navigation, one going bottom-up through clones — are both
    carried out, and the two results carry the same tree: `deep_equal`, same declarations, and for any
    observation `obs` of the erased tree (the serialiser) the same answer. -/
theorem C20_programs3_agree {α : Type} (obs : Tree → α) (f1 f2 : Forest) (ins1 ins2 : List Nat)
    (P1 P2 : Prog3.Program) (r1 r2 : Nat) (T : Tree)
    (h1 : Prog3.Constructs f1 ins1 P1 r1 T) (h2 : Prog3.Constructs f2 ins2 P2 r2 T)
    (inv1 : f1.Inv) (hfl1 : Prog.FlagsOk f1) (inv2 : f2.Inv) (hfl2 : Prog.FlagsOk f2) :
    (Prog3.runImpl { forest := f1, env := ins1 } P1).2 = .ok ∧
    (Prog3.runImpl { forest := f2, env := ins2 } P2).2 = .ok ∧
    ∃ a b, (Prog3.runImpl { forest := f1, env := ins1 } P1).1.env[r1]? = some a ∧
      (Prog3.runImpl { forest := f2, env := ins2 } P2).1.env[r2]? = some b ∧
      (Prog3.runImpl { forest := f1, env := ins1 } P1).1.forest.treeAt a = some T ∧
      (Prog3.runImpl { forest := f2, env := ins2 } P2).1.forest.treeAt b =
        (Prog3.runImpl { forest := f1, env := ins1 } P1).1.forest.treeAt a ∧
      ((Prog3.runImpl { forest := f1, env := ins1 } P1).1.forest.treeAt a).map obs =
        ((Prog3.runImpl { forest := f2, env := ins2 } P2).1.forest.treeAt b).map obs := by
  obtain ⟨o1, _, a, _, ea, _, _, ta⟩ := C20_any_program3_at f1 ins1 P1 r1 T h1 inv1 hfl1
  obtain ⟨o2, _, b, _, eb, _, _, tb⟩ := C20_any_program3_at f2 ins2 P2 r2 T h2 inv2 hfl2
  exact ⟨o1, o2, a, b, ea, eb, ta, by rw [tb, ta], by rw [ta, tb]⟩

/-- … for ALL inputs and results at once: equal denotations give equal lists of final root trees. -/
theorem C20_programs3_agree_all (f1 f2 : Forest) (ins1 ins2 : List Nat) (P1 P2 : Prog3.Program)
    (D : List (Option Tree)) (h1 : Prog3.denote f1 ins1 P1 = some D) (h2 : Prog3.denote f2 ins2 P2 = some D)
    (inv1 : f1.Inv) (hfl1 : Prog.FlagsOk f1) (inv2 : f2.Inv) (hfl2 : Prog.FlagsOk f2) :
    (Prog3.runImpl { forest := f1, env := ins1 } P1).2 = .ok ∧
    (Prog3.runImpl { forest := f2, env := ins2 } P2).2 = .ok ∧
    Prog3.rootTrees (Prog3.runImpl { forest := f1, env := ins1 } P1).1 =
      Prog3.rootTrees (Prog3.runImpl { forest := f2, env := ins2 } P2).1 := by
  obtain ⟨o1, _, t1⟩ := C20_any_program3 f1 ins1 P1 D h1 inv1 hfl1
  obtain ⟨o2, _, t2⟩ := C20_any_program3 f2 ins2 P2 D h2 inv2 hfl2
  exact ⟨o1, o2, by rw [t1, t2]⟩

/-- A well-formed program has no refused and no ill-formed step (`firstRefused = firstIllFormed = none`). -/
theorem C20_program3_no_refusal (s s' : Prog.State) (P : Prog3.Program) (inv : s.forest.Inv)
    (hfl : Prog.FlagsOk s.forest) (h : Prog3.runSpec s P = some s') :
    Prog3.firstRefused s P = none ∧ Prog3.firstIllFormed s P = none :=
  Prog3.firstRefused_none P s s' inv hfl h

/-- **Conversely**: a program with navigation every step of which the implementation answers `ok` — in
    particular every navigation found a node — is accepted by the specification, with the same final state
    (then `C20_program3_refines` / `C20_any_program3` apply).  `Prog3.inScope`: what `Prog2.inScope` excludes
    (none of the new steps). -/
theorem C20_any_program3_conv (s : Prog.State) (P : Prog3.Program) (inv : s.forest.Inv)
    (hfl : Prog.FlagsOk s.forest) (hsc : Prog3.inScope s P = true) (hok : (Prog3.runImpl s P).2 = .ok) :
    Prog3.runSpec s P = some (Prog3.runImpl s P).1 :=
  Prog3.run_impl_spec P s inv hfl hsc hok

/-- … so an `ok` run HAS a denotation, and it is what the model's final store shows. -/
theorem C20_program3_ok_denotes (f : Forest) (ins : List Nat) (P : Prog3.Program) (inv : f.Inv)
    (hfl : Prog.FlagsOk f) (hsc : Prog3.inScope { forest := f, env := ins } P = true)
    (hok : (Prog3.runImpl { forest := f, env := ins } P).2 = .ok) :
    Prog3.denote f ins P = some (Prog3.rootTrees (Prog3.runImpl { forest := f, env := ins } P).1) := by
  unfold Prog3.denote
  rw [C20_any_program3_conv _ P inv hfl hsc hok]
  rfl

/-- **Refusals are exact** for programs with navigation: the first step the implementation does not answer
    `ok` — a failed navigation included — is the first step the specification calls ill-formed. -/
theorem C20_program3_refusal_exact (s : Prog.State) (P : Prog3.Program) (inv : s.forest.Inv)
    (hfl : Prog.FlagsOk s.forest) (hsc : Prog3.inScope s P = true) :
    Prog3.firstRefused s P = Prog3.firstIllFormed s P :=
  Prog3.firstRefused_eq P s inv hfl hsc

/-- Per call, acceptance by the specification is EXACTLY the model's outcome `ok` (navigation resolved; for
    the new calls `Prog3.Call.inScope` is `true`): `remove(key)` and `clear()` are well-formed on elements
    and nowhere else — the entry nodes `clear()` collected are all still there when their turn comes
    (`Prog3.clear_accepted`) —, `set_namespace` on namespace nodes, `set_target` on processing instructions. -/
theorem C20_program3_call_exact (f : Forest) (c : Prog3.Call) (inv : f.Inv) (hfl : Prog.FlagsOk f)
    (hs : c.inScope f = true) : (c.spec f).isSome = true ↔ (c.impl f).2.1 = .ok := by
  constructor
  · intro h
    cases hc : c.spec f with
    | none => rw [hc] at h; cases h
    | some fo =>
      obtain ⟨f', o⟩ := fo
      rw [(Prog3.call_spec_impl inv hfl hc).1]
  · intro h
    cases hi : c.impl f with
    | mk f' ro =>
      obtain ⟨r, o⟩ := ro
      rw [hi] at h
      simp only at h
      subst h
      obtain ⟨g, o', hsp⟩ := Prog3.spec_of_ok inv hfl c hs hi
      rw [hsp]; rfl

theorem C20_program3_clear_exact (f : Forest) (inv : f.Inv) (hfl : Prog.FlagsOk f) (k : Forest.MapKind) (e : Nat) :
    ((Prog3.Call.mapClear k e).spec f).isSome = f.isElement e :=
  Prog3.mapClear_spec_isSome inv hfl k e

/-- The extension is conservative: an extended program (`Prog2`) runs identically as a `Prog3` program … -/
theorem C20_program3_old (s : Prog.State) (P : Prog2.Program) :
    Prog3.runSpec s (Prog3.ofOld P) = Prog2.runSpec s P ∧ Prog3.runImpl s (Prog3.ofOld P) = Prog2.runImpl s P :=
  Prog3.run_old s P

/-- … and every `Prog2.Constructs` construction of an abstract document `d` is a `Prog3` construction of
    `treeOf d` (no inputs). -/
theorem C20_program3_old_constructs (f : Forest) (P : Prog2.Program) (root : Nat) (d : FDocument)
    (h : Prog2.Constructs f P root d) : Prog3.Constructs f [] (Prog3.ofOld P) root (treeOf d) := by
  obtain ⟨s', hs, x, hx, ht⟩ := h
  unfold Prog3.Constructs Prog3.denoteAt
  rw [(C20_program3_old _ P).1, hs]
  simp only [hx, ht]

/-- Navigation is a READ of the current store: what the steps resolve to. -/
theorem C20_program3_navigation (f : Forest) (env : List Nat) (r h : Nat) (hr : env[r]? = some h) :
    (∀ k, (Prog3.Step.child r k).resolve f env =
      ((((f.kidsOf h).filter (fun c => c.value.isNormal))[k]?).map (fun c => Prog3.Call.found c.handle))) ∧
    ((Prog3.Step.parent r).resolve f env = (f.parent? h).map Prog3.Call.found) ∧
    (∀ a, (Prog3.Step.attrNode r a).resolve f env =
      (f.mapGetNode .attributes h a).map (fun c => Prog3.Call.found c.handle)) ∧
    (∀ p, (Prog3.Step.nsNode r p).resolve f env =
      (f.mapGetNode .namespaces h p).map (fun c => Prog3.Call.found c.handle)) := by
  refine ⟨fun k => ?_, ?_, fun a => ?_, fun p => ?_⟩
  · simp only [Prog3.Step.resolve, Prog3.nav, hr, Prog3.childOf]
    cases ((f.kidsOf h).filter (fun c => c.value.isNormal))[k]? <;> rfl
  · simp only [Prog3.Step.resolve, Prog3.nav, hr, Prog3.parentOf]
    cases f.parent? h <;> rfl
  · simp only [Prog3.Step.resolve, Prog3.nav, hr, Prog3.entryNodeOf]
    cases f.mapGetNode .attributes h a <;> rfl
  · simp only [Prog3.Step.resolve, Prog3.nav, hr, Prog3.entryNodeOf]
    cases f.mapGetNode .namespaces h p <;> rfl

/-- **NOT PROVED — the full-strength, handle-free reading of the denotation.**  `Prog3.denote` is computed on
    the ordered-tree specification, whose nodes carry names; that the result does not depend on the names —
    two stores holding the same pure trees, with the inputs at the same places (`Prog3.SameUpToNames`), give
    the same denotation for every program — is what would make `denote` a function of `Tree`s and paths
    alone.  It needs the invariance of every specification function (`specMoveP`, `specRemoveP`,
    `specReplaceP`, `specUnwrapP`, `specWrap`, `specClone`, …) under renaming of handles; a closed instance
    is checked below (`storeN` against a renamed copy). -/
def C20_program3_handle_free_Statement : Prop :=
  ∀ (f1 f2 : Forest) (ins1 ins2 : List Nat) (P : Prog3.Program), f1.Inv → f2.Inv → Prog.FlagsOk f1 →
    Prog3.SameUpToNames f1 ins1 f2 ins2 → Prog3.denote f1 ins1 P = Prog3.denote f2 ins2 P

/-! ### Non-vacuity: `docC` = `<!--l--><a c="v">x<b/>yz</a>` once more, by EDITING A DOCUMENT IN PLACE

  The store `storeN` holds a document `<a xmlns:p="…" c="o" d="w">x<g>q</g><?t d?></a>` (as a parse would
  have left it) and a template `<T><b/>yz</T>`.  `progN` gets the document node and the template as inputs,
  navigates to the document element, its namespace node (`set_namespace`, then `clear`), its attribute
  node `c` (`set_value`), removes the attribute `d`, navigates to `<g>` and its text (removed), renames
  `<g>`, navigates to the PI (`set_target`), goes back up with `parent`, clones the template, navigates INTO
  THE COPY to the text `yz`, replaces the PI by it, removes the rest of the copy, and inserts a new comment
  before the document element. -/

def storeN : Forest :=
  { roots := [.node 0 .document [.node 1 (.element 2) [.node 2 (.namespace 2 3) [], .node 3 (.attribute 4 ['o']) [],
                .node 4 (.attribute 5 ['w']) [], .node 5 (.text ['x']) [],
                .node 6 (.element 7) [.node 7 (.text ['q']) []], .node 8 (.pi 17 (some ['d'])) []]],
              .node 9 (.element 9) [.node 10 (.element 3) [], .node 11 (.text ['y', 'z']) []]],
    next := 12 }

def progN : Prog3.Program :=
  [.child 0 0,                              -- 2: <a>
   .nsNode 2 2,                             -- 3: xmlns:p
   .nsSetNamespace 3 5,
   .clearNamespaces 2,
   .removeNamespace 2 2,                    -- nothing left to remove
   .attrNode 2 4,                           -- 4: c="o"
   .old (.setAttributeValue 4 ['v']),
   .removeAttribute 2 5,
   .child 2 1,                              -- 5: <g>
   .child 5 0,                              -- 6: q
   .old (.remove 6),
   .old (.setElementName 5 3),
   .child 2 2,                              -- 7: <?t d?>
   .piSetTarget 7 18,
   .parent 7,                               -- 8: <a> again
   .old (.clone 1),                         -- 9: copy of <T>
   .child 9 1,                              -- 10: yz inside the copy
   .old (.replace 7 10),
   .old (.remove 9),
   .old (.base (.create (.comment ['l']))), -- 11
   .old (.base (.insertBefore 8 11))]

theorem C20_storeN_inv : storeN.Inv ∧ Prog.FlagsOk storeN :=
  ⟨(Forest.inv_iff _).mp (by decide +kernel), Or.inl rfl⟩

/-- The editing program, the embedded eight-step program `progC` and the embedded extended program `progX`
    (both run next to the old trees, no inputs) denote the same tree `treeOf docC`. -/
theorem C20_progN_constructs :
    Prog3.Constructs storeN [0, 9] progN 0 (treeOf docC) ∧
    Prog3.Constructs storeN [] (Prog3.ofOld (Prog2.ofBase progC)) 6 (treeOf docC) ∧
    Prog3.Constructs Forest.init [] (Prog3.ofOld progX) 8 (treeOf docC) := by
  unfold Prog3.Constructs
  decide +kernel

/-- `C20_programs3_agree` applied: editing in place (in `storeN`) and building from nothing (in the empty
    store) give the same tree. -/
example : ∃ a b, (Prog3.runImpl { forest := storeN, env := [0, 9] } progN).1.env[0]? = some a ∧
    (Prog3.runImpl { forest := Forest.init, env := [] } (Prog3.ofOld progX)).1.env[8]? = some b ∧
    (Prog3.runImpl { forest := Forest.init, env := [] } (Prog3.ofOld progX)).1.forest.treeAt b =
      (Prog3.runImpl { forest := storeN, env := [0, 9] } progN).1.forest.treeAt a := by
  obtain ⟨_, _, a, b, ea, eb, _, e, _⟩ := C20_programs3_agree id storeN Forest.init [0, 9] [] progN (Prog3.ofOld progX) 0 8
    (treeOf docC) C20_progN_constructs.1 C20_progN_constructs.2.2 C20_storeN_inv.1 C20_storeN_inv.2
    C20_init_inv.1 C20_init_inv.2
  exact ⟨a, b, ea, eb, e⟩

/-- The whole denotation of `progN`: the document and all nodes navigated to inside it lie in the root tree
    `treeOf docC`; the template is untouched; removed nodes have no tree. -/
example :
    Prog3.denote storeN [0, 9] progN =
      some [some (treeOf docC), some (.node (.element 9) [.node (.element 3) [], .node (.text ['y', 'z']) []]),
            some (treeOf docC), none, some (treeOf docC), some (treeOf docC), none, none, some (treeOf docC),
            none, some (treeOf docC), some (treeOf docC)] ∧
    (Prog3.runImpl { forest := storeN, env := [0, 9] } progN).2 = .ok ∧
    Prog3.firstRefused { forest := storeN, env := [0, 9] } progN = none ∧
    Prog3.inScope { forest := storeN, env := [0, 9] } progN = true := by
  decide +kernel

/-- `storeN` with every node renamed (and another `next`): the same pure trees, the inputs at the same
    places — and `progN` has the same denotation (an instance of `C20_program3_handle_free_Statement`). -/
def storeN' : Forest :=
  { roots := [.node 40 .document [.node 7 (.element 2) [.node 31 (.namespace 2 3) [], .node 2 (.attribute 4 ['o']) [],
                .node 19 (.attribute 5 ['w']) [], .node 0 (.text ['x']) [],
                .node 12 (.element 7) [.node 11 (.text ['q']) []], .node 3 (.pi 17 (some ['d'])) []]],
              .node 25 (.element 9) [.node 5 (.element 3) [], .node 33 (.text ['y', 'z']) []]],
    next := 57 }

example : storeN'.inv = true ∧ Prog3.denote storeN' [40, 25] progN = Prog3.denote storeN [0, 9] progN ∧
    Prog3.denoteAt storeN' [40, 25] progN 0 = some (treeOf docC) := by
  decide +kernel

example : Prog3.SameUpToNames storeN [0, 9] storeN' [40, 25] :=
  ⟨by decide +kernel, rfl, rfl, by decide +kernel, by decide +kernel⟩

/-- Ill-formed programs are refused where the specification rejects them: a navigation that finds nothing
    (`children(a).nth(3)`, the parent of a root, a missing attribute / prefix) is `unwrap()` of `None`;
    `set_namespace` on an attribute node and `set_target` on a comment are `InvalidOperation`; `clear` of
    the attributes of a document node panics. -/
example :
    Prog3.runSpec { forest := storeN, env := [0, 9] } [.child 0 0, .child 2 3] = none ∧
    (Prog3.runImpl { forest := storeN, env := [0, 9] } [.child 0 0, .child 2 3]).2 = .panic ∧
    Prog3.firstRefused { forest := storeN, env := [0, 9] } [.child 0 0, .child 2 3] = some 1 ∧
    Prog3.firstIllFormed { forest := storeN, env := [0, 9] } [.child 0 0, .child 2 3] = some 1 ∧
    Prog3.runSpec { forest := storeN, env := [0, 9] } [.parent 1] = none ∧
    (Prog3.runImpl { forest := storeN, env := [0, 9] } [.parent 1]).2 = .panic ∧
    Prog3.runSpec { forest := storeN, env := [0, 9] } [.child 0 0, .attrNode 2 7] = none ∧
    Prog3.runSpec { forest := storeN, env := [0, 9] } [.child 0 0, .nsNode 2 0] = none ∧
    Prog3.runSpec { forest := storeN, env := [0, 9] } [.child 0 0, .attrNode 2 4, .nsSetNamespace 3 2] = none ∧
    (Prog3.runImpl { forest := storeN, env := [0, 9] } [.child 0 0, .attrNode 2 4, .nsSetNamespace 3 2]).2 =
      .err .invalidOperation ∧
    Prog3.runSpec { forest := storeN, env := [0, 9] } [.clearAttributes 0] = none ∧
    (Prog3.runImpl { forest := storeN, env := [0, 9] } [.clearAttributes 0]).2 = .panic := by
  decide +kernel

end XotModel.Props
