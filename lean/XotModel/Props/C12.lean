/-
  C12 — A clone is equal to its source and shares nothing with it.
  Property theorems only (proofs by reference to Lemmas/Fclone*.lean).

  For ALL forests satisfying the invariant `Forest.Inv` (C04) and every live source node of any
  kind.  `cloneNode` is the edge replay of manipulation.rs `clone_node` through `any_append`
  (Model/Manip2.lean); the lemmas prove it equal to a structural copy with fresh handles
  (`copyRoot`, Model/FcloneSpec.lean) and read the statements below off that copy.
-/
import XotModel.Lemmas.BasicFacts
import XotModel.Lemmas.FcloneMain
import XotModel.Lemmas.FlocalAll
import XotModel.Lemmas.FhistLocal
import XotModel.Lemmas.FparseHistLocal
import XotModel.Lemmas.FclonePrefixMain
import XotModel.Lemmas.FcloneRoundTrip
import XotModel.Model.FcloneModel
import XotModel.Generated

namespace XotModel.Props
open XotModel

/-- `clone_node` of a live node does not panic (the `any_append(...).unwrap()` and
    `first_child(top).unwrap()` inside it cannot fail) and returns a parentless node. -/
theorem C12_total (f : Forest) (inv : f.Inv) (node : Nat) (live : f.isLive node = true) :
    ∃ c, (f.cloneNode node).2 = some c ∧ (f.cloneNode node).1.isRoot c = true := by
  obtain ⟨src, hsrc⟩ := (Forest.isLive_iff f node).mp live
  obtain ⟨C, f', h1, h2, -⟩ := cloneNode_full f inv node src hsrc
  refine ⟨C.handle, by rw [h1], ?_⟩
  rw [h1]
  show f'.isRoot C.handle = true
  unfold Forest.isRoot
  rw [h2]
  simp

/-- Every handle of the clone is at least the old `next`: it was never handed out before, so the
    clone is made entirely of new nodes (none live, none removed earlier). -/
theorem C12_fresh (f : Forest) (inv : f.Inv) (node c : Nat) (live : f.isLive node = true)
    (hc : (f.cloneNode node).2 = some c) :
    ∃ C, (f.cloneNode node).1.get? c = some C ∧
      ∀ h ∈ HTree.handles C, f.next ≤ h ∧ h < (f.cloneNode node).1.next ∧ h ∉ f.allHandles ∧
        f.isRemoved h = false := by
  obtain ⟨src, hsrc⟩ := (Forest.isLive_iff f node).mp live
  obtain ⟨C, f', h1, h2, h3, h4, -⟩ := cloneNode_full f inv node src hsrc
  rw [h1] at hc ⊢
  cases hc
  refine ⟨C, h3, ?_⟩
  intro h hm
  obtain ⟨a, b⟩ := h4 h hm
  refine ⟨a, b, ?_, ?_⟩
  · intro hh
    have := inv.below h hh
    omega
  · simp [Forest.isRemoved]
    intro hlt
    omega

/-- Cloning changes nothing that existed: the old roots are, unchanged and in the same order, the
    roots of the new forest, followed by exactly one new root, the clone; the consolidation flag
    and the corruption flag are untouched. In particular the source subtree is unchanged. -/
theorem C12_frame (f : Forest) (inv : f.Inv) (node c : Nat) (live : f.isLive node = true)
    (hc : (f.cloneNode node).2 = some c) :
    ∃ C, (f.cloneNode node).1.roots = f.roots ++ [C] ∧ C.handle = c ∧
      (f.cloneNode node).1.consolidation = f.consolidation ∧
      (f.cloneNode node).1.everOff = f.everOff ∧ (f.cloneNode node).1.corrupt = f.corrupt := by
  obtain ⟨src, hsrc⟩ := (Forest.isLive_iff f node).mp live
  obtain ⟨C, f', h1, h2, _, _, _, _, h7, h8, h9, _⟩ := cloneNode_full f inv node src hsrc
  rw [h1] at hc ⊢
  cases hc
  exact ⟨C, h2, rfl, h7, h8, h9⟩

/-- Every node that was live keeps its subtree. -/
theorem C12_frame_get (f : Forest) (inv : f.Inv) (node h : Nat) (t : HTree)
    (live : f.isLive node = true) (ht : f.get? h = some t) :
    (f.cloneNode node).1.get? h = some t := by
  obtain ⟨src, hsrc⟩ := (Forest.isLive_iff f node).mp live
  obtain ⟨C, f', h1, h2, -⟩ := cloneNode_full f inv node src hsrc
  rw [h1]
  unfold Forest.get? at ht ⊢
  rw [h2]
  exact fi_findList?_append_left ht

/-- The clone, handles forgotten, is the source with every run of adjacent text nodes merged when
    consolidation is on, and the source itself when it is off: same values, same namespace
    declarations and attributes in the same order, for every kind of source node. -/
theorem C12_equal (f : Forest) (inv : f.Inv) (node c : Nat) (src : HTree)
    (hsrc : f.get? node = some src) (hc : (f.cloneNode node).2 = some c) :
    ∃ C, (f.cloneNode node).1.get? c = some C ∧
      C.erase = (if f.consolidation then mergeAdjacentText src.erase else src.erase) := by
  obtain ⟨C, f', h1, _, h3, _, _, h6, -⟩ := cloneNode_full f inv node src hsrc
  rw [h1] at hc ⊢
  cases hc
  exact ⟨C, h3, h6⟩

/-- While consolidation has never been switched off (`everOff = false`) a forest has no adjacent
    text nodes, so the clone is literally equal to the source. -/
theorem C12_equal_strict (f : Forest) (inv : f.Inv) (hoff : f.everOff = false) (node c : Nat)
    (src : HTree) (hsrc : f.get? node = some src) (hc : (f.cloneNode node).2 = some c) :
    ∃ C, (f.cloneNode node).1.get? c = some C ∧ C.erase = src.erase := by
  obtain ⟨C, f', h1, _, h3, _, _, h6, -⟩ := cloneNode_full f inv node src hsrc
  rw [h1] at hc ⊢
  cases hc
  refine ⟨C, h3, ?_⟩
  rw [h6]
  have hv := inv.valid_get hsrc
  rw [hoff] at hv
  exact expectedClone_strict _ src hv

/-- Locality: a root that shares no handle with the other roots is left exactly as it is by any
    history of `append / prepend / insert_after / insert_before / detach / remove` and of the
    text / comment / PI / element-name setters whose node arguments all lie outside it (whatever
    the calls return). -/
theorem C12_locality (f : Forest) (r : HTree) (ops : List EditOp) (hs : Sep r f)
    (hargs : ∀ op ∈ ops, ∀ a ∈ op.args, a ∉ HTree.handles r) :
    r ∈ (f.edits ops).roots ∧ Sep r (f.edits ops) :=
  ⟨(hs.edits ops hargs).mem, hs.edits ops hargs⟩

/-- Independence: after `clone_node`, any later history of such calls on nodes outside the clone
    (in particular: on the source's tree) leaves the clone untouched, and any history on nodes
    outside an old tree `r` (in particular: on the clone; `r` = the tree containing the source)
    leaves `r` untouched. -/
theorem C12_independent (f : Forest) (inv : f.Inv) (node c : Nat) (live : f.isLive node = true)
    (hc : (f.cloneNode node).2 = some c) :
    ∃ C, (f.cloneNode node).1.get? c = some C ∧
      (∀ ops : List EditOp, (∀ op ∈ ops, ∀ a ∈ op.args, a ∉ HTree.handles C) →
        C ∈ ((f.cloneNode node).1.edits ops).roots) ∧
      (∀ r ∈ f.roots, ∀ ops : List EditOp, (∀ op ∈ ops, ∀ a ∈ op.args, a ∉ HTree.handles r) →
        r ∈ ((f.cloneNode node).1.edits ops).roots) := by
  obtain ⟨src, hsrc⟩ := (Forest.isLive_iff f node).mp live
  obtain ⟨C, f', h1, h2, h3, h4, -⟩ := cloneNode_full f inv node src hsrc
  obtain ⟨g3, g4⟩ := sep_after_clone f inv C f' h2 (fun a ha => (h4 a ha).1)
  rw [h1] at hc ⊢
  cases hc
  exact ⟨C, h3, fun ops h => (g3.edits ops h).mem, fun r hr ops h => ((g4 r hr).edits ops h).mem⟩

/-- `clone_with_prefixes`, for EVERY iteration order of the hash map returned by
    `inherited_prefixes` (`order` is any list at all): every tree that existed before is still a
    root of the resulting forest, unchanged. -/
theorem C12_prefixes_frame (f : Forest) (inv : f.Inv) (node : Nat) (live : f.isLive node = true)
    (order : List (Nat × Nat)) :
    ∀ r ∈ f.roots, r ∈ (f.cloneWithPrefixes node order).1.roots := by
  obtain ⟨src, hsrc⟩ := (Forest.isLive_iff f node).mp live
  exact cloneWithPrefixes_frame f inv node src hsrc order

/-- On a source that is not an element (document, text, comment, PI, attribute or namespace
    node) `clone_with_prefixes` is `clone_node`, whatever the order. -/
theorem C12_prefixes_non_element (f : Forest) (inv : f.Inv) (node : Nat) (src : HTree)
    (hsrc : f.get? node = some src) (hne : src.value.isElement = false) (order : List (Nat × Nat)) :
    f.cloneWithPrefixes node order = f.cloneNode node := by
  obtain ⟨C, f', h1, _, h3, _, _, h6, -⟩ := cloneNode_full f inv node src hsrc
  unfold Forest.cloneWithPrefixes
  rw [h1]
  have hv : C.value.isElement = false := by
    have e : C.erase.value = (expectedClone f.consolidation src.erase).value := by rw [h6]
    have e1 : (expectedClone f.consolidation src.erase).value = src.value := by
      unfold expectedClone
      cases src with
      | node h v ks => cases f.consolidation <;> simp [HTree.erase, mergeAdjacentText, Tree.value, HTree.value]
    rw [Reach.erase_value, e1] at e
    rw [e]; exact hne
  have : f'.isElement C.handle = false := by
    simp [Forest.isElement, Forest.value?, h3, hv]
  simp [this]

/-- `clone_with_prefixes` of a live node cannot panic, whatever the iteration order: on an
    element the insertion loop is `addSpec` (each missing prefix becomes a new namespace node
    right after the namespace nodes already there). -/
theorem C12_prefixes_total (f : Forest) (inv : f.Inv) (node : Nat) (live : f.isLive node = true)
    (order : List (Nat × Nat)) : ∃ c, (f.cloneWithPrefixes node order).2 = some c := by
  obtain ⟨src, hsrc⟩ := (Forest.isLive_iff f node).mp live
  exact cloneWithPrefixes_total f inv node src hsrc order

/-- The clone serialises on its own whenever the source serialised in place: if `to_string` of the
    root of the tree containing the source element succeeds (`serialises` = no `MissingPrefix`, no
    namespaced PI target), then `to_string(clone_with_prefixes(source))` succeeds — for EVERY
    enumeration `order` of the hash map `inherited_prefixes(source)` (same entries, each prefix
    once), every vocabulary `env`, and whether or not adjacent text nodes get merged in the clone. -/
theorem C12_prefixes (env : Env) (f : Forest) (inv : f.Inv)
    (node : Nat) (src : HTree) (rest : List HTree) (hpath : f.pathTo node = src :: rest)
    (hel : src.value.isElement = true)
    (hroot : ∀ r ∈ f.roots, HTree.pathTo node r = some (src :: rest) → f.serialises env r.handle = true)
    (order : List (Nat × Nat)) (hord : ∀ b, b ∈ order ↔ b ∈ f.inheritedPrefixes env node)
    (hfun : ∀ a ∈ order, ∀ b ∈ order, a.1 = b.1 → a = b) :
    ∃ c, (f.cloneWithPrefixes node order).2 = some c ∧
      (f.cloneWithPrefixes node order).1.serialises env c = true := by
  obtain ⟨hs, name, Ks, rfl⟩ := HTree.eq_node_element hel
  exact cloneWithPrefixes_serialises env f inv node hs name Ks rest hpath
    (fun r hr hp => by rw [← serialises_root env f inv r hr]; exact hroot r hr hp) order hord hfun

/-- `Xot::clone()` is the identity on the model value … -/
theorem C12_store (s : Store) : s.clone = s := rfl

/-- … which is what `#[derive(Clone)]` gives because every field of `struct Xot` is owned data:
    the field list read off xotdata.rs is the one the model accounts for (arena and consolidation
    flag = `Forest`; the three lookups = `Env`; `id_nodes_map` is a cache keyed by node; the six
    ids are constants of `Xot::new`), `Clone` is derived, and the extractor found no component
    type that could share ownership. -/
theorem C12_store_fields :
    Gen.xotDerivesClone = true ∧ Gen.xotFields.all (fun x => x.2.2) = true ∧
    Gen.xotFields.map (fun x => String.ofList x.1) =
      ["arena", "id_nodes_map", "namespace_lookup", "prefix_lookup", "name_lookup", "no_namespace_id",
       "empty_prefix_id", "xml_namespace_id", "xml_prefix_id", "xml_space_id", "xml_id_id",
       "text_consolidation"] := by
  decide +kernel

/-! ### Non-vacuity -/

/-- A forest with declarations on an ancestor, attributes, and text. -/
def exForest : Forest :=
  { roots := [.node 0 .document [.node 1 (.element 2) [.node 2 (.namespace 2 2) [],
      .node 3 (.element 6) [.node 4 (.attribute 3 ['v']) [], .node 5 (.text ['x']) []]]]], next := 6 }

theorem exForest_inv : exForest.Inv := (Forest.inv_iff _).mp (by decide +kernel)
example : exForest.Inv := exForest_inv
example : exForest.isLive 3 = true := by decide +kernel
example : (exForest.cloneNode 3).2 = some 7 := by decide +kernel
example : (exForest.cloneNode 0).2 = some 6 := by decide +kernel
example : exForest.everOff = false := rfl
/-- a vocabulary in which name 6 lies in namespace 2 (declared with prefix 2 on the ancestor) -/
def exEnv : Env :=
  { namespaces := [[], ['x'], ['u']], prefixes := [[], ['x','m','l'], ['p']],
    names := [(['s'], 1), (['i'], 1), (['a'], 0), (['b'], 0), (['c'], 0), (['d'], 0), (['a'], 2)] }
example : (exForest.pathTo 3).map HTree.handle = [3, 1, 0] := by decide +kernel
example : exForest.serialises exEnv 0 = true := by decide +kernel
example : exForest.inheritedPrefixes exEnv 3 = [(2, 2)] := by decide +kernel
example : (exForest.cloneNode 3).1.serialises exEnv 7 = false := by decide +kernel
example : (exForest.cloneWithPrefixes 3 [(2, 2)]).1.serialises exEnv 7 = true := by decide +kernel
/-- a history on the source's tree whose arguments avoid the clone -/
example : ∀ op ∈ [EditOp.setText 5 ['y'], EditOp.remove 4, EditOp.append 1 5], ∀ a ∈ op.args, a < 6 := by decide +kernel

/-! ### The clone reparses: `parse(to_string(clone_with_prefixes(source)))`

`Forest.serialises` IS "`to_string(node)` succeeds" for a parentless node (`C12_serialises_is_to_string`),
`to_string` of a parentless element writes what `to_string` of the document holding just that element
writes (Lemmas/RoundTripElement.lean), so the tree-level round trip C01_roundtrip_identical applies to
the clone. -/

/-- What `Forest.serialises` means for a root (a parentless node, e.g. a clone): `to_string(root)`
    succeeds — for every table set in which `xml` and the declared prefixes have a spelling. -/
theorem C12_serialises_is_to_string (env : Env) (f : Forest) (inv : f.Inv) (r : HTree) (hr : r ∈ f.roots)
    (hx : env.prefixStr Env.xmlPrefix ≠ []) (ht : r.erase.allNodes (declsNamed env) = true) :
    f.serialises env r.handle = true ↔ ∃ s, toXmlString env r.erase [] = .ok s := by
  rw [serialises_root env f inv r hr]
  exact (serializeString_root_ok_iff (env := env) {} rfl r.erase hx ht).symm

/-- Under the hypotheses of `C12_prefixes` (the source element serialises in
    place; `order` is any enumeration of `inherited_prefixes(source)`), if moreover the CLONE lies in
    the round-trip domain of C01 (`hrep`: the document holding just the erased clone is
    `Representable`: tables with the built-in values, `nodeOK` at every node of the clone — the added
    namespace nodes included —, no repeated `xml:id` value), then: the clone `c` is a parentless
    element, `to_string(c)` succeeds with some text `s`, `parse(s)` succeeds, the parsed tree is the
    document holding exactly the clone — id for id, the added declarations included —, the interning
    tables are unchanged, and the parsed document is `deep_equal` to the document holding the source
    subtree (with adjacent text nodes merged when consolidation is on, as `clone_node` does:
    C12_equal).  Proved with the hypothesis on the clone; `C12_clone_roundtrip_strict` replaces the
    merged source by the source itself. -/
theorem C12_clone_roundtrip (env : Env) (f : Forest) (inv : f.Inv)
    (node : Nat) (src : HTree) (rest : List HTree) (hpath : f.pathTo node = src :: rest)
    (hel : src.value.isElement = true)
    (hroot : ∀ r ∈ f.roots, HTree.pathTo node r = some (src :: rest) → f.serialises env r.handle = true)
    (order : List (Nat × Nat)) (hord : ∀ b, b ∈ order ↔ b ∈ f.inheritedPrefixes env node)
    (hfun : ∀ a ∈ order, ∀ b ∈ order, a.1 = b.1 → a = b)
    (hrep : ∀ c C, (f.cloneWithPrefixes node order).2 = some c →
      (f.cloneWithPrefixes node order).1.get? c = some C →
      Representable env (.node .document [C.erase]) = true) :
    ∃ c C s p, (f.cloneWithPrefixes node order).2 = some c ∧
      (f.cloneWithPrefixes node order).1.get? c = some C ∧
      (f.cloneWithPrefixes node order).1.isRoot c = true ∧ C.value.isElement = true ∧
      serializeString env {} C.erase [] = .ok s ∧ parseString .document env s = .ok p ∧
      p.tree = .node .document [C.erase] ∧ p.env = env ∧
      deepEqual p.tree (.node .document
        [if f.consolidation then mergeAdjacentText src.erase else src.erase]) = true := by
  obtain ⟨hs, name, Ks, rfl⟩ := HTree.eq_node_element hel
  obtain ⟨c, C, s, p, h1, h2, h3, h4, h5, h6, h7, h8, h9⟩ :=
    cloneWithPrefixes_roundtrip env f inv node hs name Ks rest hpath
      (fun r hr hp => by rw [← serialises_root env f inv r hr]; exact hroot r hr hp) order hord hfun hrep
  exact ⟨c, C, s, p, h1, h2, h3, by rw [h4]; rfl, h5, h6, h7, h8, h9⟩

/-- While consolidation has never been switched off (no adjacent text nodes anywhere) the reparsed
    clone is `deep_equal` to the document holding the source subtree itself. -/
theorem C12_clone_roundtrip_strict (env : Env) (f : Forest) (inv : f.Inv) (hoff : f.everOff = false)
    (node : Nat) (src : HTree) (rest : List HTree) (hpath : f.pathTo node = src :: rest)
    (hel : src.value.isElement = true)
    (hroot : ∀ r ∈ f.roots, HTree.pathTo node r = some (src :: rest) → f.serialises env r.handle = true)
    (order : List (Nat × Nat)) (hord : ∀ b, b ∈ order ↔ b ∈ f.inheritedPrefixes env node)
    (hfun : ∀ a ∈ order, ∀ b ∈ order, a.1 = b.1 → a = b)
    (hrep : ∀ c C, (f.cloneWithPrefixes node order).2 = some c →
      (f.cloneWithPrefixes node order).1.get? c = some C →
      Representable env (.node .document [C.erase]) = true) :
    ∃ c C s p, (f.cloneWithPrefixes node order).2 = some c ∧
      (f.cloneWithPrefixes node order).1.get? c = some C ∧
      serializeString env {} C.erase [] = .ok s ∧ parseString .document env s = .ok p ∧
      p.tree = .node .document [C.erase] ∧ p.env = env ∧
      deepEqual p.tree (.node .document [src.erase]) = true := by
  obtain ⟨c, C, s, p, h1, h2, _, _, h5, h6, h7, h8, h9⟩ :=
    C12_clone_roundtrip env f inv node src rest hpath hel hroot order hord hfun hrep
  refine ⟨c, C, s, p, h1, h2, h5, h6, h7, h8, ?_⟩
  obtain ⟨hget, _⟩ := Forest.get?_of_pathTo hpath
  have hv := inv.valid_get hget
  rw [hoff] at hv
  have := expectedClone_strict f.consolidation src hv
  unfold expectedClone at this
  rw [this] at h9
  exact h9

/-- **C12_clone_roundtrip with the hypothesis on the SOURCE** instead of the clone: if the tables
    hold the built-in values (`envOK`), every node of the root tree containing the source is `nodeOK`
    (Model/SerTokens.lean: structure, no adjacent text, well-formed names and character data,
    declarations XML can express) and no `xml:id` value is repeated inside the source, then the clone
    — the copy of the source plus one namespace node per inherited prefix — lies in the round-trip
    domain (`cloneWithPrefixes_representable`: every added declaration is a declaration of an ancestor,
    no prefix is declared twice), so: `to_string(clone)` succeeds, the text parses, the parsed tree is
    the document holding exactly the clone, tables unchanged, and it is `deep_equal` to the document
    holding the source subtree itself. -/
theorem C12_clone_roundtrip_source (env : Env) (f : Forest) (inv : f.Inv)
    (node : Nat) (src : HTree) (rest : List HTree) (hpath : f.pathTo node = src :: rest)
    (hel : src.value.isElement = true)
    (hroot : ∀ r ∈ f.roots, HTree.pathTo node r = some (src :: rest) → f.serialises env r.handle = true)
    (order : List (Nat × Nat)) (hord : ∀ b, b ∈ order ↔ b ∈ f.inheritedPrefixes env node)
    (hfun : ∀ a ∈ order, ∀ b ∈ order, a.1 = b.1 → a = b)
    (henv : envOK env = true)
    (hok : ∀ r ∈ f.roots, HTree.pathTo node r = some (src :: rest) → r.erase.allNodes (nodeOK env) = true)
    (hids : (xmlIdValues env src.erase).Nodup) :
    ∃ c C s p, (f.cloneWithPrefixes node order).2 = some c ∧
      (f.cloneWithPrefixes node order).1.get? c = some C ∧
      (f.cloneWithPrefixes node order).1.isRoot c = true ∧ C.value.isElement = true ∧
      Representable env (.node .document [C.erase]) = true ∧
      serializeString env {} C.erase [] = .ok s ∧ parseString .document env s = .ok p ∧
      p.tree = .node .document [C.erase] ∧ p.env = env ∧
      deepEqual p.tree (.node .document [src.erase]) = true := by
  have hrep : ∀ c C, (f.cloneWithPrefixes node order).2 = some c →
      (f.cloneWithPrefixes node order).1.get? c = some C →
      Representable env (.node .document [C.erase]) = true ∧
        expectedClone f.consolidation src.erase = src.erase := by
    obtain ⟨hs, name, Ks, rfl⟩ := HTree.eq_node_element hel
    exact cloneWithPrefixes_representable env f inv node hs name Ks rest hpath order
      (fun b hb => (hord b).mp hb) henv hok hids
  obtain ⟨c, C, s, p, h1, h2, h3, h4, h5, h6, h7, h8, h9⟩ :=
    C12_clone_roundtrip env f inv node src rest hpath hel hroot order hord hfun
      (fun c C hc hC => (hrep c C hc hC).1)
  have hfix := (hrep c C h1 h2).2
  unfold expectedClone at hfix
  rw [hfix] at h9
  exact ⟨c, C, s, p, h1, h2, h3, h4, (hrep c C h1 h2).1, h5, h6, h7, h8, h9⟩

/-- Non-vacuity, closed: tables with the built-in values in which name 6 lies in namespace 2,
    declared with prefix 2 on the ancestor of the source (element 3 of `exForest`); the clone with the
    inherited declaration is `<p:a xmlns:p="u" b="v">x</p:a>`, and every hypothesis of
    `C12_clone_roundtrip` / `_strict` holds by evaluation. -/
def exEnvR : Env :=
  { namespaces := [[], xmlNamespaceUri, ['u']], prefixes := [[], ['x', 'm', 'l'], ['p']],
    names := [(['s', 'p', 'a', 'c', 'e'], 1), (['i', 'd'], 1), (['a'], 0), (['b'], 0), (['c'], 0), (['d'], 0),
      (['a'], 2)] }

/-- the clone: handles 7 (root), 10 (the added declaration), 8, 9 -/
example : (exForest.cloneWithPrefixes 3 [(2, 2)]).2 = some 7 ∧
    ((exForest.cloneWithPrefixes 3 [(2, 2)]).1.get? 7).map HTree.handles = some [7, 10, 8, 9] := by
  decide +kernel
theorem exClone_representable : ((exForest.cloneWithPrefixes 3 [(2, 2)]).1.get? 7).map
    (fun C => Representable exEnvR (.node .document [C.erase])) = some true := by decide +kernel
example : ((exForest.cloneWithPrefixes 3 [(2, 2)]).1.get? 7).map
    (fun C => Representable exEnvR (.node .document [C.erase])) = some true := exClone_representable
example : ((exForest.cloneWithPrefixes 3 [(2, 2)]).1.get? 7).map
    (fun C => serializeString exEnvR {} C.erase []) =
      some (.ok "<p:a xmlns:p=\"u\" b=\"v\">x</p:a>".toList) := by
  rw [String.toList_ofList]
  decide +kernel

example : ∃ c C s p, (exForest.cloneWithPrefixes 3 [(2, 2)]).2 = some c ∧
    (exForest.cloneWithPrefixes 3 [(2, 2)]).1.get? c = some C ∧
    serializeString exEnvR {} C.erase [] = .ok s ∧ parseString .document exEnvR s = .ok p ∧
    p.tree = .node .document [C.erase] ∧ p.env = exEnvR ∧
    deepEqual p.tree (.node .document [.node (.element 6)
      [.node (.attribute 3 ['v']) [], .node (.text ['x']) []]]) = true := by
  have hp : exForest.pathTo 3 =
      [.node 3 (.element 6) [.node 4 (.attribute 3 ['v']) [], .node 5 (.text ['x']) []],
       .node 1 (.element 2) [.node 2 (.namespace 2 2) [],
         .node 3 (.element 6) [.node 4 (.attribute 3 ['v']) [], .node 5 (.text ['x']) []]],
       .node 0 .document [.node 1 (.element 2) [.node 2 (.namespace 2 2) [],
         .node 3 (.element 6) [.node 4 (.attribute 3 ['v']) [], .node 5 (.text ['x']) []]]]] := by
    rfl
  have hc1 : (exForest.cloneWithPrefixes 3 [(2, 2)]).2 = some 7 := by decide +kernel
  have hc2 := exClone_representable
  exact C12_clone_roundtrip_strict exEnvR exForest exForest_inv rfl 3 _ _ hp rfl
    (fun r hr _ => by
      have : r = .node 0 .document [.node 1 (.element 2) [.node 2 (.namespace 2 2) [],
          .node 3 (.element 6) [.node 4 (.attribute 3 ['v']) [], .node 5 (.text ['x']) []]]] := by
        simpa [exForest] using hr
      subst this
      decide +kernel)
    [(2, 2)]
    (by rw [show exForest.inheritedPrefixes exEnvR 3 = [(2, 2)] from by decide +kernel]; intro b; exact Iff.rfl)
    (by decide +kernel)
    (fun c C h1 h2 => by
      rw [hc1] at h1
      cases h1
      rw [h2] at hc2
      simpa using hc2)

/-- The same from the hypotheses on the source (`C12_clone_roundtrip_source`), closed. -/
example : ∃ c C s p, (exForest.cloneWithPrefixes 3 [(2, 2)]).2 = some c ∧
    (exForest.cloneWithPrefixes 3 [(2, 2)]).1.get? c = some C ∧
    (exForest.cloneWithPrefixes 3 [(2, 2)]).1.isRoot c = true ∧ C.value.isElement = true ∧
    Representable exEnvR (.node .document [C.erase]) = true ∧
    serializeString exEnvR {} C.erase [] = .ok s ∧ parseString .document exEnvR s = .ok p ∧
    p.tree = .node .document [C.erase] ∧ p.env = exEnvR ∧
    deepEqual p.tree (.node .document [.node (.element 6)
      [.node (.attribute 3 ['v']) [], .node (.text ['x']) []]]) = true := by
  have hp : exForest.pathTo 3 =
      [.node 3 (.element 6) [.node 4 (.attribute 3 ['v']) [], .node 5 (.text ['x']) []],
       .node 1 (.element 2) [.node 2 (.namespace 2 2) [],
         .node 3 (.element 6) [.node 4 (.attribute 3 ['v']) [], .node 5 (.text ['x']) []]],
       .node 0 .document [.node 1 (.element 2) [.node 2 (.namespace 2 2) [],
         .node 3 (.element 6) [.node 4 (.attribute 3 ['v']) [], .node 5 (.text ['x']) []]]]] := by
    rfl
  have hr : ∀ r ∈ exForest.roots, r = .node 0 .document [.node 1 (.element 2) [.node 2 (.namespace 2 2) [],
      .node 3 (.element 6) [.node 4 (.attribute 3 ['v']) [], .node 5 (.text ['x']) []]]] := by
    intro r hr
    simpa [exForest] using hr
  exact C12_clone_roundtrip_source exEnvR exForest exForest_inv 3 _ _ hp rfl
    (fun r h _ => by rw [hr r h]; decide +kernel)
    [(2, 2)]
    (by rw [show exForest.inheritedPrefixes exEnvR 3 = [(2, 2)] from by decide +kernel]; intro b; exact Iff.rfl)
    (by decide +kernel) (by decide +kernel)
    (fun r h _ => by rw [hr r h]; decide +kernel)
    (by decide +kernel)

/-- … and the hypotheses on the source of `C12_clone_roundtrip_source` hold for it as well. -/
example : envOK exEnvR = true ∧
    (Tree.node .document [.node (.element 2) [.node (.namespace 2 2) [],
      .node (.element 6) [.node (.attribute 3 ['v']) [], .node (.text ['x']) []]]]).allNodes (nodeOK exEnvR) = true ∧
    (xmlIdValues exEnvR (.node (.element 6) [.node (.attribute 3 ['v']) [], .node (.text ['x']) []])).Nodup := by
  decide +kernel

/-! ### Locality for EVERY call

`Forest.HStep` (Model/FlocalSpec.lean): a call of `Forest.Call` — append, prepend, insert_after,
insert_before, detach, remove, replace, element_wrap, element_unwrap, clone_node, any_append,
append_attribute_node / append_namespace_node, attributes_mut / namespaces_mut insert / remove /
clear, the setters, text_content_mut().set — or node creation, set_text_consolidation,
remove_insignificant_whitespace.  `SepB r f`: `r` is a root of `f`, shares no handle with another
root, and all its handles are below `f.next` (true of every root of a forest with the invariant,
`C12_sepB_of_inv`).  No invariant is needed for the step itself; the statements hold whatever the
call answers (`ok`, `err`, `panic`), and for arguments that are not live. -/

/-- Every root of a forest with the invariant qualifies. -/
theorem C12_sepB_of_inv (f : Forest) (inv : f.Inv) (r : HTree) (hr : r ∈ f.roots) : SepB r f :=
  SepB.of_inv inv hr

/-- One call none of whose node arguments is a node of the root tree `r` leaves `r`, handle for
    handle and value for value, a root of the forest (and still separated, so this iterates).
    For `clone_node` the source may even lie in `r`: cloning only reads it (`Call.args` lists it, so
    the hypothesis below asks more than needed; `C12_locality_cloneNode`). -/
theorem C12_locality_call (f : Forest) (r : HTree) (c : Forest.Call) (hs : SepB r f)
    (hargs : ∀ a ∈ c.args, a ∉ HTree.handles r) :
    r ∈ (c.run f).1.roots ∧ SepB r (c.run f).1 :=
  ⟨(hs.call c hargs).sep.mem, hs.call c hargs⟩

theorem C12_locality_cloneNode (f : Forest) (r : HTree) (n : Nat) (hs : SepB r f) :
    r ∈ (f.cloneNode n).1.roots ∧ SepB r (f.cloneNode n).1 :=
  ⟨(hs.cloneNode n).sep.mem, hs.cloneNode n⟩

/-- The same with the hypothesis read as "the root of every argument is not `r`". -/
theorem C12_locality_call_root (f : Forest) (inv : f.Inv) (r : HTree) (hr : r ∈ f.roots)
    (c : Forest.Call) (hargs : ∀ a ∈ c.args, ∀ t ∈ f.roots, a ∈ HTree.handles t → t ≠ r) :
    r ∈ (c.run f).1.roots :=
  (C12_locality_call f r c (SepB.of_inv inv hr) (fun a ha har => hargs a ha r hr har rfl)).1

/-- One step of a history (calls, node creation, set_text_consolidation,
    remove_insignificant_whitespace). -/
theorem C12_locality_step (f : Forest) (r : HTree) (st : Forest.HStep) (hs : SepB r f)
    (hargs : ∀ a ∈ st.args, a ∉ HTree.handles r) :
    r ∈ (f.stepAll st).roots ∧ SepB r (f.stepAll st) :=
  ⟨(hs.stepAll st hargs).sep.mem, hs.stepAll st hargs⟩

/-- Arbitrary histories: a root tree none of whose nodes is ever named as an argument is, at the
    end, exactly the tree it was. -/
theorem C12_locality_all (f : Forest) (r : HTree) (ss : List Forest.HStep) (hs : SepB r f)
    (hargs : ∀ st ∈ ss, ∀ a ∈ st.args, a ∉ HTree.handles r) :
    r ∈ (f.runAll ss).roots ∧ SepB r (f.runAll ss) :=
  ⟨(hs.runAll ss hargs).sep.mem, hs.runAll ss hargs⟩

/-- … in particular along the histories of C04 (`Op`, `Forest.run`). -/
theorem C12_locality_ops (f : Forest) (inv : f.Inv) (r : HTree) (hr : r ∈ f.roots) (ops : List Op)
    (hargs : ∀ o ∈ ops, ∀ a ∈ o.args, a ∉ HTree.handles r) : r ∈ (f.run ops).roots := by
  rw [Forest.run_eq_runAll]
  refine (C12_locality_all f r _ (SepB.of_inv inv hr) ?_).1
  intro st hst a ha
  obtain ⟨o, ho, rfl⟩ := List.mem_map.mp hst
  exact hargs o ho a ha

/-- Independence under arbitrary later histories: the clone is untouched by whatever is done to
    nodes outside it (in particular to the source and its tree), and every old tree (in particular
    the source's) is untouched by whatever is done to nodes outside it (in particular to the clone). -/
theorem C12_independent_all (f : Forest) (inv : f.Inv) (node c : Nat) (live : f.isLive node = true)
    (hc : (f.cloneNode node).2 = some c) :
    ∃ C, (f.cloneNode node).1.get? c = some C ∧
      (∀ ss : List Forest.HStep, (∀ st ∈ ss, ∀ a ∈ st.args, a ∉ HTree.handles C) →
        C ∈ ((f.cloneNode node).1.runAll ss).roots) ∧
      (∀ r ∈ f.roots, ∀ ss : List Forest.HStep, (∀ st ∈ ss, ∀ a ∈ st.args, a ∉ HTree.handles r) →
        r ∈ ((f.cloneNode node).1.runAll ss).roots) := by
  obtain ⟨src, hsrc⟩ := (Forest.isLive_iff f node).mp live
  obtain ⟨C, f', h1, h2, h3, h4, -⟩ := cloneNode_full f inv node src hsrc
  obtain ⟨g3, g4⟩ := sepB_after_clone f inv C f' h2 h4
  rw [h1] at hc ⊢
  cases hc
  exact ⟨C, h3, fun ss h => (g3.runAll ss h).sep.mem, fun r hr ss h => ((g4 r hr).runAll ss h).sep.mem⟩

/-- Non-vacuity: composite calls, map calls, whitespace removal, creation and a second cloning on the
    source's tree (handles below 6) leave the clone (root 7, handles 7, 8, 9) as it was, and the other
    way round; evaluated. -/
def exSteps : List Forest.HStep :=
  [.call (.elementWrap 3 9), .call (.mapInsert .attributes 3 (.attribute 4 ['w'])),
   .call (.replace 5 4), .removeInsignificantWhitespace 0, .newNode (.text []),
   .call (.cloneNode 3), .setConsolidation false, .call (.elementUnwrap 1), .call (.mapClear .namespaces 1)]
example : ∀ st ∈ exSteps, ∀ a ∈ st.args, a < 6 := by decide +kernel
example : (((exForest.cloneNode 3).1.get? 7).map HTree.handles = some [7, 8, 9]) ∧
    ((((exForest.cloneNode 3).1.runAll exSteps).get? 7).map HTree.handles = some [7, 8, 9]) ∧
    ((exForest.cloneNode 3).1.runAll exSteps).allHandles ≠ (exForest.cloneNode 3).1.allHandles := by
  decide +kernel
example : ∀ st ∈ [Forest.HStep.call (.setText 9 ['q']), .call (.elementWrap 7 3), .call (.remove 8)],
    ∀ a ∈ st.args, 6 ≤ a := by decide +kernel

end XotModel.Props

/-! ## Extended histories: locality for the composite calls as steps of the histories

  `Forest.XCall` (Model/FhistSpec.lean): a call of `Forest.Call`, node creation, set_text_consolidation,
  remove_insignificant_whitespace — i.e. the steps of `Forest.HStep` — and the composites
  `create_missing_prefixes`, `deduplicate_namespaces`, `clone_with_prefixes` (ANY iteration order of the
  inherited prefixes), run on a `Store` (forest + interning tables; `XCall.run`, `Store.xrun`).
  `XCall.args`: the node arguments; `XCall.writeArgs`: those the call may write below — all of them,
  except that `clone_node` and `clone_with_prefixes` only READ their source, so they have none.

  As for `C12_locality_step`, no invariant is needed, only `SepB r f` (`r` is a root sharing no handle
  with another root, all its handles below `next`: true of every root of a forest with the invariant,
  `C12_sepB_of_inv`); the statements hold whatever the calls answer and for arguments that are not live.
  For the composites this says: the root tree of the argument is the only root that can change — the
  `namespaces_mut(h).insert / remove` calls they consist of all have their target `h` in that tree, and
  `clone_with_prefixes` changes no existing root at all. -/

namespace XotModel.Props
open XotModel

/-- One extended call none of whose WRITTEN node arguments is a node of the root tree `r` leaves `r`,
    handle for handle and value for value, a root of the forest (and still separated, so this
    iterates). -/
theorem C12_locality_xcall (s : Store) (r : HTree) (c : Forest.XCall) (hs : SepB r s.forest)
    (hargs : ∀ a ∈ c.writeArgs, a ∉ HTree.handles r) :
    r ∈ (c.run s).1.forest.roots ∧ SepB r (c.run s).1.forest :=
  ⟨(hs.xcall c hargs).sep.mem, hs.xcall c hargs⟩

/-- **Arbitrary extended histories**: a root tree none of whose nodes is ever named
    as a written argument — of a move, a setter, a map call, `remove_insignificant_whitespace`,
    `create_missing_prefixes`, `deduplicate_namespaces`, … — is, at the end, exactly the tree it was.
    (Sources of `clone_node` / `clone_with_prefixes` may lie in `r`.) -/
theorem C12_locality_ext (s : Store) (r : HTree) (cs : List Forest.XCall) (hs : SepB r s.forest)
    (hargs : ∀ c ∈ cs, ∀ a ∈ c.writeArgs, a ∉ HTree.handles r) :
    r ∈ (s.xrun cs).forest.roots ∧ SepB r (s.xrun cs).forest :=
  ⟨(hs.xrun cs hargs).sep.mem, hs.xrun cs hargs⟩

/-- The same with the hypothesis on ALL node arguments (the form of `C12_locality_all`). -/
theorem C12_locality_ext_args (s : Store) (r : HTree) (cs : List Forest.XCall) (hs : SepB r s.forest)
    (hargs : ∀ c ∈ cs, ∀ a ∈ c.args, a ∉ HTree.handles r) :
    r ∈ (s.xrun cs).forest.roots ∧ SepB r (s.xrun cs).forest :=
  C12_locality_ext s r cs hs (fun c hc a ha => hargs c hc a (c.writeArgs_sub a ha))

/-- From a forest with the invariant, with the hypothesis read as "the root of every written argument
    is not `r`". -/
theorem C12_locality_xcall_root (s : Store) (inv : s.forest.Inv) (r : HTree) (hr : r ∈ s.forest.roots)
    (c : Forest.XCall)
    (hargs : ∀ a ∈ c.writeArgs, ∀ t ∈ s.forest.roots, a ∈ HTree.handles t → t ≠ r) :
    r ∈ (c.run s).1.forest.roots :=
  (C12_locality_xcall s r c (SepB.of_inv inv hr) (fun a ha har => hargs a ha r hr har rfl)).1

/-- The composites one by one, on a forest with the invariant: **the root of the argument is the only
    root that changes** — every root tree that does not contain `node` is a root afterwards, unchanged
    (for every vocabulary, for `node` live or not, whatever the call answers). -/
theorem C12_locality_createMissingPrefixes (f : Forest) (inv : f.Inv) (env : Env) (node : Nat) :
    ∀ r ∈ f.roots, node ∉ HTree.handles r → r ∈ (f.createMissingPrefixes env node).1.roots :=
  fun _ hr hn => ((SepB.of_inv inv hr).createMissingPrefixes env hn).sep.mem

theorem C12_locality_deduplicateNamespaces (f : Forest) (inv : f.Inv) (env : Env) (node : Nat) :
    ∀ r ∈ f.roots, node ∉ HTree.handles r → r ∈ (f.deduplicateNamespaces env node).1.roots :=
  fun _ hr hn => ((SepB.of_inv inv hr).deduplicateNamespaces env hn).sep.mem

theorem C12_locality_removeInsignificantWhitespace (f : Forest) (inv : f.Inv) (node : Nat) :
    ∀ r ∈ f.roots, node ∉ HTree.handles r → r ∈ (f.removeInsignificantWhitespace node).roots :=
  fun r hr hn => ((SepB.of_inv inv hr).stepAll (.removeInsignificantWhitespace node)
    (fun a ha => by simp only [Forest.HStep.args, List.mem_singleton] at ha; subst ha; exact hn)).sep.mem

/-- `clone_with_prefixes(node)`, for ANY node (in `r` or not, live or not) and any iteration order,
    leaves every separated root as it is; the node it returns lies outside every such root (so the
    declarations are added outside them). -/
theorem C12_locality_cloneWithPrefixes (f : Forest) (r : HTree) (n : Nat) (order : List (Nat × Nat))
    (hs : SepB r f) :
    r ∈ (f.cloneWithPrefixes n order).1.roots ∧ SepB r (f.cloneWithPrefixes n order).1 ∧
    ∀ c, (f.cloneNode n).2 = some c → c ∉ HTree.handles r :=
  ⟨(hs.cloneWithPrefixes n order).sep.mem, hs.cloneWithPrefixes n order, fun _ hc => hs.cloneNode_result n hc⟩

/-- The `HStep` histories of `C12_locality_all` are the extended histories without composites. -/
theorem C12_ext_run_ofStep (s : Store) (ss : List Forest.HStep) :
    s.xrun (ss.map Forest.XCall.ofStep) = ⟨s.forest.runAll ss, s.env⟩ := Store.xrun_ofStep ss s

/-- Independence under arbitrary later EXTENDED histories: after `clone_node`, the clone is untouched
    by whatever is done — repairs, deduplications, whitespace stripping, further clonings included — to
    nodes outside it, and every old tree (in particular the source's) is untouched by whatever is done
    to nodes outside it (in particular to the clone); for every vocabulary. -/
theorem C12_independent_ext (f : Forest) (inv : f.Inv) (env : Env) (node c : Nat) (live : f.isLive node = true)
    (hc : (f.cloneNode node).2 = some c) :
    ∃ C, (f.cloneNode node).1.get? c = some C ∧
      (∀ cs : List Forest.XCall, (∀ x ∈ cs, ∀ a ∈ x.writeArgs, a ∉ HTree.handles C) →
        C ∈ ((⟨(f.cloneNode node).1, env⟩ : Store).xrun cs).forest.roots) ∧
      (∀ r ∈ f.roots, ∀ cs : List Forest.XCall, (∀ x ∈ cs, ∀ a ∈ x.writeArgs, a ∉ HTree.handles r) →
        r ∈ ((⟨(f.cloneNode node).1, env⟩ : Store).xrun cs).forest.roots) := by
  obtain ⟨src, hsrc⟩ := (Forest.isLive_iff f node).mp live
  obtain ⟨C, f', h1, h2, h3, h4, -⟩ := cloneNode_full f inv node src hsrc
  obtain ⟨g3, g4⟩ := sepB_after_clone f inv C f' h2 h4
  rw [h1] at hc ⊢
  cases hc
  exact ⟨C, h3, fun cs h => (SepB.xrun (st := ⟨f', env⟩) cs g3 h).sep.mem,
    fun r hr cs h => (SepB.xrun (st := ⟨f', env⟩) cs (g4 r hr) h).sep.mem⟩

/-- Non-vacuity.  Start: `exForest` after `clone_with_prefixes(3)` (the clone is the root 7 with the nodes
    7, 10, 8, 9).  An extended history on the SOURCE's tree (written arguments below 6): a duplicate
    declaration is inserted and DEDUPLICATED away, the ancestor's declaration is removed and the
    document REPAIRED (`create_missing_prefixes` invents `n0`, interned as prefix 3), the source is
    CLONED WITH PREFIXES once more (second clone, root 14), then moves, a removal, whitespace stripping,
    creation, set_text_consolidation and an unwrap.  Every call answers `Ok`; the first clone is, node
    for node, what it was, while the source's tree has changed. -/
def exXStore : Store := ⟨(exForest.cloneWithPrefixes 3 [(2, 2)]).1, exEnv⟩
def exXCalls : List Forest.XCall :=
  [.call (.mapInsert .namespaces 3 (.namespace 2 2)), .deduplicateNamespaces 0,
   .call (.mapRemove .namespaces 1 2), .createMissingPrefixes 0,
   .cloneWithPrefixes 3 [(3, 2)], .call (.insertBefore 3 5), .call (.remove 4),
   .removeInsignificantWhitespace 0, .newNode (.text []), .setConsolidation false, .call (.elementUnwrap 3)]
example : ∀ c ∈ exXCalls, ∀ a ∈ c.writeArgs, a < 6 := by decide +kernel
/-- all there is to see of a tree of depth one: the node and its children, handle and value -/
def exXView (t : HTree) : Nat × Value × List (Nat × Value × Nat) :=
  (t.handle, t.value, t.kids.map (fun k => (k.handle, k.value, k.kids.length)))
example : (exXStore.forest.get? 7).map HTree.handles = some [7, 10, 8, 9] ∧
    exXStore.forest.isRoot 7 = true ∧ (exXStore.xrun exXCalls).forest.isRoot 7 = true ∧
    ((exXStore.xrun exXCalls).forest.get? 7).map exXView = (exXStore.forest.get? 7).map exXView ∧
    exXStore.xouts exXCalls = [.ok, .ok, .ok, .ok, .ok, .ok, .ok, .ok, .ok, .ok, .ok] ∧
    ((exXStore.xrun exXCalls).forest.get? 0).map HTree.handles = some [0, 1, 12, 5] ∧
    ((exXStore.xrun exXCalls).forest.get? 14).map (fun t => t.kids.map (·.value)) =
      some [.namespace 3 2, .attribute 3 ['v'], .text ['x']] ∧
    (exXStore.xrun exXCalls).env.prefixes = [[], ['x','m','l'], ['p'], ['n', '0']] := by
  decide +kernel
/-- … the order handed to the second cloning is the model's `inherited_prefixes` in that state. -/
example : (exXStore.xrun (exXCalls.take 4)).forest.inheritedPrefixes (exXStore.xrun (exXCalls.take 4)).env 3 =
    [(3, 2)] := by decide +kernel
/-- … and the other way round: calls on the clone (arguments 7 … 10). -/
example : ∀ c ∈ [Forest.XCall.createMissingPrefixes 7, .deduplicateNamespaces 7, .call (.remove 9),
    .removeInsignificantWhitespace 7], ∀ a ∈ c.writeArgs, 6 ≤ a := by decide +kernel

end XotModel.Props

/-! ## Full histories: locality along histories that parse and edit

  `PCall` on `PStore` (Model/FparseHist.lean): an extended API call, or `parse mode text` of an ARBITRARY text
  (an accepted tree is installed as a new parentless tree on fresh handles, `IdStore.parseInto`; a rejected
  one leaves the forest alone).  A parse step names no node, so it writes below none: locality and
  independence hold along these histories with the condition on the API steps only
  (Lemmas/FparseHistLocal.lean: `SepB` is kept by `parseInto` because the new handles are ≥ `next`). -/

namespace XotModel.Props
open XotModel

/-- One step of a full history — an extended call none of whose WRITTEN node arguments is a node of the
    root tree `r`, or the parse of ANY text (accepted: a new root on fresh handles; rejected: nothing) —
    leaves `r`, handle for handle and value for value, a root of the forest (and still separated). -/
theorem C12_locality_pcall (s : PStore) (r : HTree) (c : PCall) (hs : SepB r s.forest)
    (hargs : ∀ x, c = .api x → ∀ a ∈ x.writeArgs, a ∉ HTree.handles r) :
    r ∈ (s.step c).forest.roots ∧ SepB r (s.step c).forest :=
  ⟨(hs.fphl_step c hargs).sep.mem, hs.fphl_step c hargs⟩

/-- **Arbitrary histories of parses and API calls**: a root tree none of whose nodes is
    ever named as a written argument of an API step is, at the end, exactly the tree it was — whatever is
    parsed in between, whatever the steps answer.  (`C12_locality_ext` with parse steps; no invariant.) -/
theorem C12_locality_full (s : PStore) (r : HTree) (cs : List PCall) (hs : SepB r s.forest)
    (hargs : ∀ c ∈ cs, ∀ x, c = .api x → ∀ a ∈ x.writeArgs, a ∉ HTree.handles r) :
    r ∈ (s.run cs).forest.roots ∧ SepB r (s.run cs).forest :=
  ⟨(hs.fphl_run cs hargs).sep.mem, hs.fphl_run cs hargs⟩

/-- … from `Xot::new()`: `SepB` is a theorem for every parentless tree of every
    store a full history `pre` reaches (`SepB.of_inv`, the invariant by `PStore.fph_run_inv` = `C04_reach_full`);
    the only side condition is `PCall.wellKinded` of the steps of `pre`. -/
theorem C12_reachable_locality_full (env : Env) (pre : List PCall) (hw : ∀ c ∈ pre, c.wellKinded)
    (r : HTree) (hr : r ∈ ((PStore.init env).run pre).forest.roots) (cs : List PCall)
    (hargs : ∀ c ∈ cs, ∀ x, c = .api x → ∀ a ∈ x.writeArgs, a ∉ HTree.handles r) :
    r ∈ (((PStore.init env).run pre).run cs).forest.roots :=
  (C12_locality_full _ r cs
    (SepB.of_inv (PStore.fph_run_inv pre (PStore.fph_init_inv env) hw) hr) hargs).1

/-- **Independence of a clone, in a store reached by parses and API calls, under
    arbitrary later histories of parses and API calls**: after `clone_node(node)` as a step (of a live
    node — of a parsed document, say), the clone is untouched by whatever is done or parsed later as long
    as no API step writes below one of ITS nodes, and every tree that existed before (in particular the
    source's) is untouched as long as no API step writes below one of its nodes (`C12_independent_ext`
    with parse steps, from `Xot::new()`). -/
theorem C12_reachable_independent_full (env : Env) (pre : List PCall) (hw : ∀ c ∈ pre, c.wellKinded)
    (node c : Nat) (live : ((PStore.init env).run pre).forest.isLive node = true)
    (hc : (((PStore.init env).run pre).forest.cloneNode node).2 = some c) :
    ∃ C, ((PStore.init env).run (pre ++ [.api (.call (.cloneNode node))])).forest.get? c = some C ∧
      (∀ cs : List PCall, (∀ y ∈ cs, ∀ x, y = .api x → ∀ a ∈ x.writeArgs, a ∉ HTree.handles C) →
        C ∈ ((PStore.init env).run (pre ++ .api (.call (.cloneNode node)) :: cs)).forest.roots) ∧
      (∀ r ∈ ((PStore.init env).run pre).forest.roots, ∀ cs : List PCall,
        (∀ y ∈ cs, ∀ x, y = .api x → ∀ a ∈ x.writeArgs, a ∉ HTree.handles r) →
        r ∈ ((PStore.init env).run (pre ++ .api (.call (.cloneNode node)) :: cs)).forest.roots) := by
  have inv := PStore.fph_run_inv pre (PStore.fph_init_inv env) hw
  generalize hS : (PStore.init env).run pre = S at inv live hc
  have hstep : ∀ cs : List PCall, (PStore.init env).run (pre ++ .api (.call (.cloneNode node)) :: cs) =
      (⟨(S.forest.cloneNode node).1, S.env, S.index⟩ : PStore).run cs := by
    intro cs
    rw [PStore.fph_run_append, hS, PStore.fph_run_cons]
    rfl
  obtain ⟨src, hsrc⟩ := (Forest.isLive_iff S.forest node).mp live
  obtain ⟨C, f', h1, h2, h3, h4, -⟩ := cloneNode_full S.forest inv node src hsrc
  obtain ⟨g3, g4⟩ := sepB_after_clone S.forest inv C f' h2 h4
  have e1 : (S.forest.cloneNode node).1 = f' := by rw [h1]
  rw [h1] at hc
  cases hc
  refine ⟨C, ?_, fun cs h => ?_, fun r hr cs h => ?_⟩
  · rw [hstep [], e1]; exact h3
  · rw [hstep cs, e1]
    exact (SepB.fphl_run (st := ⟨f', S.env, S.index⟩) cs g3 h).sep.mem
  · rw [hstep cs, e1]
    exact (SepB.fphl_run (st := ⟨f', S.env, S.index⟩) cs (g4 r hr) h).sep.mem

/-! Non-vacuity, closed, from the tables of `Xot::new()` (`Env.fresh`).  `pre`: PARSE
    `<r xmlns:p="urn:a"><p:a>t</p:a></r>` (the root `c12FullRoot`, handles 0 … 4).  Then twelve steps whose written
    arguments are all ≥ 5: a new element (5), a REJECTED parse, an accepted parse of `<x/>` (6, 7), a new text
    (8) appended to 5, a declaration on 5 (9), `clone_node(3)` — the SOURCE is a node of the parsed document,
    which is only read —, `deduplicate_namespaces(5)`, `create_missing_prefixes(6)`,
    `remove_insignificant_whitespace(6)`, `set_text_consolidation(false)`, `remove(7)`.  The parsed document
    is, node for node, what it was (by the theorem); the store around it has changed (evaluated). -/

def c12FullText : Str := "<r xmlns:p=\"urn:a\"><p:a>t</p:a></r>".toList
def c12FullPre : List PCall := [.parse .document c12FullText]
def c12FullRoot : HTree :=
  .node 0 .document [.node 1 (.element 2) [.node 2 (.namespace 2 2) [],
    .node 3 (.element 3) [.node 4 (.text ['t']) []]]]
def c12FullCalls : List PCall :=
  [.api (.newNode (.element 3)), .parse .document "<a><b></a>".toList, .parse .document "<x/>".toList,
   .api (.newNode (.text ['u'])), .api (.call (.append 5 8)),
   .api (.call (.mapInsert .namespaces 5 (.namespace 2 2))), .api (.call (.cloneNode 3)),
   .api (.deduplicateNamespaces 5), .api (.createMissingPrefixes 6), .api (.removeInsignificantWhitespace 6),
   .api (.setConsolidation false), .api (.call (.remove 7))]
/-- the written node arguments of a step (a parse has none) -/
def c12WriteArgs : PCall → List Nat
  | .api x => x.writeArgs
  | .parse _ _ => []

theorem c12FullRoot_mem : c12FullRoot ∈ ((PStore.init Env.fresh).run c12FullPre).forest.roots := by
  have : ((PStore.init Env.fresh).run c12FullPre).forest.roots = [c12FullRoot] := by
    unfold c12FullPre c12FullText
    rw [String.toList_ofList]
    decide +kernel
  rw [this]; exact List.mem_singleton.mpr rfl
theorem c12FullCalls_args : ∀ c ∈ c12FullCalls, ∀ a ∈ c12WriteArgs c, 5 ≤ a := by decide +kernel

example : c12FullRoot ∈ (((PStore.init Env.fresh).run c12FullPre).run c12FullCalls).forest.roots :=
  C12_reachable_locality_full Env.fresh c12FullPre (by decide +kernel) c12FullRoot c12FullRoot_mem c12FullCalls
    (fun c hc x hx a ha har => by
      subst hx
      have h1 := c12FullCalls_args _ hc a ha
      have h2 : ∀ b ∈ HTree.handles c12FullRoot, b < 5 := by decide +kernel
      exact absurd (h2 a har) (by omega))
example :
    let S := ((PStore.init Env.fresh).run c12FullPre).run c12FullCalls
    S.forest.roots.map HTree.handles = [[0, 1, 2, 3, 4], [5, 9, 8], [6], [11, 12]] ∧
    (PStore.outs ((PStore.init Env.fresh).run c12FullPre) c12FullCalls).map (fun o => decide (PCall.refused o)) =
      [false, true, false, false, false, false, false, false, false, false, false, false] ∧
    S.env.names = [(['s', 'p', 'a', 'c', 'e'], 1), (['i', 'd'], 1), (['r'], 0), (['a'], 2), (['a'], 0), (['b'], 0),
      (['x'], 0)] := by
  unfold c12FullPre c12FullText c12FullCalls
  rw [String.toList_ofList, String.toList_ofList, String.toList_ofList]
  decide +kernel

end XotModel.Props

/-! ## The namespace nodes `clone_with_prefixes` adds are new

  `addSpec` (Lemmas/FclonePrefixLoop.lean) is the insertion loop of `clone_with_prefixes` as a function on the
  children of the clone's root; that the nodes it inserts are NEW is visible in it (handles `next`, `next+1`, …)
  and restated here as a property of `clone_with_prefixes` itself.  Lemmas: Lemmas/FclonePrefixMain.lean. -/

namespace XotModel.Props
open XotModel HTree

/-- `clone_with_prefixes(source)` on a live element, for EVERY iteration order
    of the inherited prefixes.  Let `c`, root of `A ++ B`, be what `clone_node(source)` builds (`A` its namespace
    children, `B` the rest, which does not begin with a namespace node), `f1` the forest after it.  Then:
    * the answer is `c`, and the forest is the old trees, UNCHANGED and in place (the source's tree among them),
      followed by ONE new tree: `c` with children `A ++ New ++ B` — the added nodes are children of the clone's
      root only, after the namespace nodes it had and before its first non-namespace child; nothing else of the
      clone differs from the plain clone;
    * `New` are namespace leaves for (prefix, namespace) pairs of `order`;
    * their handles are `f1.next, f1.next + 1, …` in order: pairwise distinct, not below the allocation counter
      before the call (`f.next ≤ f1.next ≤ h`), hence handles of no node that existed before and of no other
      node of the clone (those lie in `[f.next, f1.next)`); the counter ends right after them. -/
theorem C12_clone_with_prefixes_fresh (f : Forest) (inv : f.Inv) (node : Nat) (src : HTree)
    (hsrc : f.get? node = some src) (hel : src.value.isElement = true) (order : List (Nat × Nat)) :
    ∃ (c : Nat) (A New B : List HTree) (f1 : Forest),
      f.cloneNode node = (f1, some c) ∧ f1.roots = f.roots ++ [.node c src.value (A ++ B)] ∧
      (∀ x ∈ A, x.value.category = .namespace) ∧ (∀ y, B.head? = some y → y.value.category ≠ .namespace) ∧
      (f.cloneWithPrefixes node order).2 = some c ∧
      (f.cloneWithPrefixes node order).1.roots = f.roots ++ [.node c src.value (A ++ New ++ B)] ∧
      (∀ r ∈ f.roots, r ∈ (f.cloneWithPrefixes node order).1.roots) ∧
      (∀ x ∈ New, ∃ h p ns, x = .node h (.namespace p ns) [] ∧ (p, ns) ∈ order) ∧
      handlesList New = List.range' f1.next New.length ∧ (handlesList New).Nodup ∧
      (f.cloneWithPrefixes node order).1.next = f1.next + New.length ∧
      (∀ h ∈ handlesList New, f.next ≤ h ∧ f1.next ≤ h ∧ h < (f.cloneWithPrefixes node order).1.next) ∧
      (∀ h ∈ f.allHandles, h < f.next) ∧
      (∀ h ∈ handles (.node c src.value (A ++ B)), f.next ≤ h ∧ h < f1.next) := by
  obtain ⟨hs, name, Ks, rfl⟩ := HTree.eq_node_element hel
  obtain ⟨c, Kc, f1, New, h1, h2, h3, h4, h5, h6, h7, h8⟩ := cloneWithPrefixes_fresh f inv node hs name Ks hsrc order
  have hsplit : Kc.takeWhile (fun k => k.value.category == .namespace) ++
      Kc.dropWhile (fun k => k.value.category == .namespace) = Kc := List.takeWhile_append_dropWhile
  have hrange := nsLeavesFrom_handles f1.next New
  refine ⟨c, _, nsLeavesFrom f1.next New, _, f1, h1, by rw [hsplit]; exact h2, ?_, ?_, h5, h6, ?_, ?_, ?_, ?_,
    ?_, ?_, ?_, by rw [hsplit]; exact h4⟩
  · intro x hx; simpa using mem_takeWhile_imp _ Kc x hx
  · intro y hy; simpa using head_dropWhile_not _ Kc y hy
  · intro r hr; rw [h6]; exact List.mem_append_left _ hr
  · intro x hx
    obtain ⟨h, p, ns, rfl, _, _, hm⟩ := nsLeavesFrom_mem _ _ x hx
    exact ⟨h, p, ns, rfl, h8 _ hm⟩
  · rw [hrange, nsLeavesFrom_length]
  · rw [hrange]; exact List.nodup_range'
  · rw [h7, nsLeavesFrom_length]
  · intro h hh
    rw [hrange, List.mem_range'_1] at hh
    rw [h7]; omega
  · intro h hh; exact inv.below h hh

/-- Non-vacuity (`exForest`, allocation counter 6; source = the inner element 3, whose prefix 2 is declared on
    its parent): `clone_node` builds 7 [8, 9] and leaves the counter at 10; `clone_with_prefixes` adds the ONE
    namespace leaf 10 in front of the attribute 8, the counter ends at 11, the document tree is untouched. -/
example : (exForest.cloneNode 3).1.next = 10 ∧
    (exForest.cloneWithPrefixes 3 [(2, 2)]).1.roots.map handles = [[0, 1, 2, 3, 4, 5], [7, 10, 8, 9]] ∧
    ((exForest.cloneWithPrefixes 3 [(2, 2)]).1.get? 7).map (fun t => t.kids.map (·.value)) =
      some [.namespace 2 2, .attribute 3 ['v'], .text ['x']] ∧
    (exForest.cloneWithPrefixes 3 [(2, 2)]).1.next = 11 ∧
    (exForest.cloneWithPrefixes 3 [(2, 2)]).1.roots.head? = exForest.roots.head? := by
  decide +kernel

end XotModel.Props
