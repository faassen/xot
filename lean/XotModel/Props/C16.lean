/-
  C16 — Token and output-event streams reproduce the string serialisation.
  Property theorems only; all of them for every tree, every start node, every parameter set, and
  for ARBITRARY escaping functions (`esc`), so they do not depend on the entity layer.

    C16_tokens, C16_tokens_conv, C16_tokens_fail   token stream  <-> string serialisation
    C16_pretty, C16_pretty_conv                    pretty token stream <-> pretty string
    C16_write, C16_write_default, C16_to_string    `Write` entry points = string entry points
    C16_xml_string, C16_xml_string_conv            full parameter set: prolog ++ (pretty) tokens
    C16_events_*                                   structure of the output-event stream
    C16_write_fails_with_io, C16_write_error_priority,
    C16_write_unlimited, C16_write_default_any_writer
                                                   a writer that refuses a `write_all` call: `Error::Io`, never a panic; what it
                                                   holds is a prefix of the string serialisation; which error is reported when
                                                   the serialisation itself fails too (the first in event order)
    C16_write_fails_with_io_bytes, C16_write_error_priority_bytes,
    C16_write_default_any_writer_bytes, C16_utf8   the same in front of a BYTE-level writer (`BytePolicy`, Model/WriterBytes.lean): a
                                                   refused call lets through `k` bytes, possibly ending inside a multi-byte
                                                   character; the writer holds a prefix of `utf8` of the string serialisation
    C16_normalizer_*                               the instances for a caller-supplied normalizer: `Xot::tokens(.., normalizer)`
                                                   <-> `serialize_xml_string_with_normalizer`; the event stream of the
                                                   normalised tree
-/
import XotModel.Lemmas.Output
import XotModel.Lemmas.Events
import XotModel.Lemmas.XmlDeclRest
import XotModel.Lemmas.NormalizerXml
import XotModel.Lemmas.WriterXml
import XotModel.Lemmas.WriterBytes

namespace XotModel.Props
open XotModel XotModel.Gen

/-- The literals `serialize_node` / `serialize_pretty` write around a token. -/
theorem C16_literals : tokenSpace = [' '] ∧ prettyNewline = ['\n'] ∧ indentUnit = [' '] ∧ indentWidth = 2 := by
  decide +kernel

theorem streamBytes_eq_flatMap (l : List (Path × Output × OutputToken)) :
    streamBytes l = l.flatMap (fun k => (if k.2.2.space then [' '] else []) ++ k.2.2.text) := by
  simp [streamBytes, tokenBytes, C16_literals.1]

/-- Concatenating the token texts, each preceded by one space when so flagged, gives the string
    serialisation under the same parameters. -/
theorem C16_tokens (esc : Escapers) (env : Env) (pr : TokenParams) (t : Tree) (start : Path)
    (ks : List (Path × Output × OutputToken)) (h : tokensWith esc env pr t start = .ok ks) :
    serializeStringWith esc env pr t start =
      .ok (ks.flatMap (fun k => (if k.2.2.space then [' '] else []) ++ k.2.2.text)) := by
  rw [serializeStringWith_eq_renderAll, (tokensWith_ok_iff esc env pr t start ks).mp h]
  exact congrArg Outcome.ok (streamBytes_eq_flatMap ks)

/-- Conversely every string serialisation is the concatenation of a token stream. -/
theorem C16_tokens_conv (esc : Escapers) (env : Env) (pr : TokenParams) (t : Tree) (start : Path)
    (s : Str) (h : serializeStringWith esc env pr t start = .ok s) :
    ∃ ks, tokensWith esc env pr t start = .ok ks ∧
      s = ks.flatMap (fun k => (if k.2.2.space then [' '] else []) ++ k.2.2.text) := by
  rw [serializeStringWith_eq_renderAll] at h
  split at h <;> cases h
  rename_i ks hr
  exact ⟨ks, (tokensWith_ok_iff esc env pr t start ks).mpr hr, streamBytes_eq_flatMap ks⟩

/-- Outside the domain: when the string serialisation returns an error the token stream panics
    (`render_output(..).unwrap()` in `Xot::tokens`). -/
theorem C16_tokens_fail (esc : Escapers) (env : Env) (pr : TokenParams) (t : Tree) (start : Path)
    (e : XotError) (h : serializeStringWith esc env pr t start = .err e) :
    tokensWith esc env pr t start = .panic := by
  rw [serializeStringWith_eq_renderAll] at h
  unfold tokensWith
  split at h <;> cases h
  rename_i hr
  rw [hr]

/-- The pretty token stream with its indentation and newline fields applied gives the
    pretty-printed string. -/
theorem C16_pretty (esc : Escapers) (env : Env) (pr : TokenParams) (sup : List Nat) (t : Tree)
    (start : Path) (ks : List (Path × Output × PrettyOutputToken))
    (h : prettyTokensWith esc env pr sup t start = .ok ks) :
    serializePrettyWith esc env pr sup t start =
      .ok (ks.flatMap (fun k =>
        (if k.2.2.indentation > 0 then (List.replicate (k.2.2.indentation * 2) [' ']).flatten else [])
          ++ (if k.2.2.space then [' '] else []) ++ k.2.2.text
          ++ (if k.2.2.newline then ['\n'] else []))) := by
  rw [serializePrettyWith_eq_prettyAll, (prettyTokensWith_ok_iff esc env pr t sup start ks).mp h]
  obtain ⟨h1, h2, h3, h4⟩ := C16_literals
  simp [prettyStreamBytes, prettyTokenBytes, indentBytes, h1, h2, h3, h4]

/-- Conversely a pretty string is the rendering of a pretty token stream. -/
theorem C16_pretty_conv (esc : Escapers) (env : Env) (pr : TokenParams) (sup : List Nat) (t : Tree)
    (start : Path) (s : Str) (h : serializePrettyWith esc env pr sup t start = .ok s) :
    ∃ ks, prettyTokensWith esc env pr sup t start = .ok ks := by
  rw [serializePrettyWith_eq_prettyAll] at h
  split at h <;> cases h
  rename_i ks hr
  exact ⟨ks, (prettyTokensWith_ok_iff esc env pr t sup start ks).mpr hr⟩

/-- The `Write`-based entry point emits the bytes of the string-based one: whenever
    `serialize_xml_write` succeeds having written `w`, `serialize_xml_string` returns `w`, for every
    parameter set (declaration, doctype, indentation, CDATA elements, unescaped_gt); and the two
    fail together. -/
theorem C16_write (esc : Escapers) (env : Env) (p : XmlParams) (t : Tree) (start : Path) :
    (∀ w, serializeXmlWriteWith esc env p t start = (w, .ok ()) →
        serializeXmlStringWith esc env p t start = .ok w) ∧
    (∀ s, serializeXmlStringWith esc env p t start = .ok s →
        serializeXmlWriteWith esc env p t start = (s, .ok ())) ∧
    (∀ e, (serializeXmlWriteWith esc env p t start).2 = .err e ↔
        serializeXmlStringWith esc env p t start = .err e) :=
  ⟨fun w => (bufferToString_ok_iff _ w).mpr, fun s => (bufferToString_ok_iff _ s).mp,
    fun e => (bufferToString_err_iff _ e).symm⟩

/-- With the default parameters (`Xot::write`) nothing but the token bytes is written. -/
theorem C16_write_default (esc : Escapers) (env : Env) (t : Tree) (start : Path) :
    serializeXmlWriteWith esc env {} t start = serializeWriteWith esc env {} t start := by
  unfold serializeXmlWriteWith
  simp [XmlParams.tokenParams]

/-- `Xot::to_string` = `serialize_xml_string` with default parameters = the token fold. -/
theorem C16_to_string (env : Env) (t : Tree) (start : Path) :
    toXmlString env t start = serializeXmlString env {} t start := by
  unfold toXmlString serializeXmlString serializeXmlStringWith serializeString serializeStringWith
  rw [C16_write_default]

/-- The body of `serialize_xml_string`: without declaration and doctype it is the pretty string
    when indentation is requested, else the plain string, under the token parameters. -/
theorem C16_xml_string_body (esc : Escapers) (env : Env) (p : XmlParams) (t : Tree) (start : Path) :
    serializeXmlStringWith esc env p.body t start =
      (match p.indentation with
       | some sup => serializePrettyWith esc env p.tokenParams sup t start
       | none => serializeStringWith esc env p.tokenParams t start) := by
  unfold serializeXmlStringWith
  rw [body_write]
  cases p.indentation <;> rfl

/-- Full parameter set (declaration, doctype, indentation, CDATA elements, unescaped_gt): a
    successful `serialize_xml_string` is the declaration bytes, the doctype bytes and then the
    token stream of `Xot::pretty_tokens` (indentation on; fields applied) resp. `Xot::tokens`
    (indentation off) under the same token parameters. -/
theorem C16_xml_string (esc : Escapers) (env : Env) (p : XmlParams) (t : Tree) (start : Path) (s : Str)
    (h : serializeXmlStringWith esc env p t start = .ok s) :
    ∃ dt, DoctypeWritten env p t start dt ∧
      (match p.indentation with
       | some sup => ∃ ks, prettyTokensWith esc env p.tokenParams sup t start = .ok ks ∧
           s = p.declBytes ++ dt ++ ks.flatMap (fun k =>
             (if k.2.2.indentation > 0 then (List.replicate (k.2.2.indentation * 2) [' ']).flatten else [])
               ++ (if k.2.2.space then [' '] else []) ++ k.2.2.text
               ++ (if k.2.2.newline then ['\n'] else []))
       | none => ∃ ks, tokensWith esc env p.tokenParams t start = .ok ks ∧
           s = p.declBytes ++ dt ++
             ks.flatMap (fun k => (if k.2.2.space then [' '] else []) ++ k.2.2.text)) := by
  obtain ⟨dt, body, hdt, hb, hs⟩ := xmlString_split esc env p t start s h
  refine ⟨dt, hdt, ?_⟩
  rw [C16_xml_string_body] at hb
  cases hi : p.indentation with
  | some sup =>
    simp only [hi] at hb ⊢
    obtain ⟨ks, hk⟩ := C16_pretty_conv esc env p.tokenParams sup t start body hb
    refine ⟨ks, hk, ?_⟩
    rw [C16_pretty esc env p.tokenParams sup t start ks hk] at hb
    cases hb
    exact hs
  | none =>
    simp only [hi] at hb ⊢
    obtain ⟨ks, hk, hbody⟩ := C16_tokens_conv esc env p.tokenParams t start body hb
    exact ⟨ks, hk, by rw [hs, hbody]⟩

/-- Conversely: whenever the doctype block succeeds (or no doctype is requested) and the token
    stream exists, `serialize_xml_string` returns exactly prolog ++ rendered tokens. -/
theorem C16_xml_string_conv (esc : Escapers) (env : Env) (p : XmlParams) (t : Tree) (start : Path)
    (dt : Str) (hdt : DoctypeWritten env p t start dt) :
    (∀ sup ks, p.indentation = some sup → prettyTokensWith esc env p.tokenParams sup t start = .ok ks →
      serializeXmlStringWith esc env p t start = .ok (p.declBytes ++ dt ++ ks.flatMap (fun k =>
        (if k.2.2.indentation > 0 then (List.replicate (k.2.2.indentation * 2) [' ']).flatten else [])
          ++ (if k.2.2.space then [' '] else []) ++ k.2.2.text
          ++ (if k.2.2.newline then ['\n'] else [])))) ∧
    (∀ ks, p.indentation = none → tokensWith esc env p.tokenParams t start = .ok ks →
      serializeXmlStringWith esc env p t start = .ok (p.declBytes ++ dt ++
        ks.flatMap (fun k => (if k.2.2.space then [' '] else []) ++ k.2.2.text))) := by
  constructor
  · intro sup ks hi hk
    apply xmlString_join esc env p t start dt _ hdt
    rw [C16_xml_string_body, hi]
    exact C16_pretty esc env p.tokenParams sup t start ks hk
  · intro ks hi hk
    apply xmlString_join esc env p t start dt _ hdt
    rw [C16_xml_string_body, hi]
    exact C16_tokens esc env p.tokenParams t start ks hk

/-- Non-vacuity: declaration + doctype + indentation on `<d><a/></d>` serialised from the document
    (the empty environment spells every name as the empty string). -/
example :
    (serializeXmlString {} { indentation := some [], declaration := some {}, doctype := some (.sys ['s']) }
      (.node .document [.node (.element 5) [.node (.element 2) []]]) []).okValue?.map String.ofList
    = some "<?xml version=\"1.0\"?>\n<!DOCTYPE  SYSTEM \"s\">\n<>\n  </>\n</>\n" := by decide +kernel

/-! ### The output-event stream -/

/-- `outputs(node)` is the traversal of the subtree at the start node, the start node being the
    top node, with the declarations in scope at it. -/
theorem C16_events_start (t : Tree) (start : Path) (n : Tree) (inScope : List (Nat × Nat))
    (hn : t.at? start = some n) (hs : namespacesInScope t start = some inScope) :
    genOutputs t start = genNode inScope true start n :=
  genOutputs_eq_genNode hn hs

/-- An element contributes exactly: start-tag-open; on the top element the in-scope declarations
    it does not declare itself; its declarations in view order; its attributes in view order
    (C11, last clause); start-tag-close; the events of its children; end-tag — all tagged with
    the element. -/
theorem C16_events_element (inScope : List (Nat × Nat)) (isTop : Bool) (path : Path) (name : Nat)
    (ks : List Tree) :
    genNode inScope isTop path (.node (.element name) ks) =
      [(path, Output.startTagOpen name)]
        ++ (if isTop then extraPrefixes inScope (.node (.element name) ks) else []).map (fun o => (path, o))
        ++ (Tree.node (.element name) ks).nsDecls.map (fun d => (path, Output.pfx d.1 d.2))
        ++ (Tree.node (.element name) ks).attrs.map (fun a => (path, Output.attribute a.1 a.2))
        ++ [(path, Output.startTagClose)]
        ++ genNode.genKids inScope path 0 ks
        ++ [(path, Output.endTag name)] :=
  genNode_element inScope isTop path name ks

/-- The inherited declarations of the top element are the in-scope bindings whose prefix the
    element does not declare, in `namespaces_in_scope` order. -/
theorem C16_events_inherited (inScope : List (Nat × Nat)) (n : Tree) :
    extraPrefixes inScope n =
      (inScope.filter (fun d => !(n.nsDecls.any (fun e => e.1 == d.1)))).map (fun d => Output.pfx d.1 d.2) := rfl

/-- Text, comment and processing-instruction nodes contribute exactly one event; a document
    node, an attribute node and a namespace node none of their own. -/
theorem C16_events_leaf (inScope : List (Nat × Nat)) (isTop : Bool) (path : Path) (ks : List Tree) :
    (∀ s, genNode inScope isTop path (.node (.text s) ks) =
        (path, Output.text s) :: genNode.genKids inScope path 0 ks) ∧
    (∀ s, genNode inScope isTop path (.node (.comment s) ks) =
        (path, Output.comment s) :: genNode.genKids inScope path 0 ks) ∧
    (∀ tg d, genNode inScope isTop path (.node (.pi tg d) ks) =
        (path, Output.pi tg d) :: genNode.genKids inScope path 0 ks) ∧
    genNode inScope isTop path (.node .document ks) = genNode.genKids inScope path 0 ks ∧
    (∀ a v, genNode inScope isTop path (.node (.attribute a v) ks) = genNode.genKids inScope path 0 ks) ∧
    (∀ p ns, genNode inScope isTop path (.node (.namespace p ns) ks) = genNode.genKids inScope path 0 ks) :=
  ⟨fun s => genNode_text inScope isTop path s ks, fun s => genNode_comment inScope isTop path s ks,
   fun tg d => genNode_pi inScope isTop path tg d ks, genNode_document inScope isTop path ks,
   fun a v => genNode_attribute inScope isTop path a v ks,
   fun p ns => genNode_namespace inScope isTop path p ns ks⟩

/-- Children are visited in order, the `j`-th child under the path extended by `j`, never as top. -/
theorem C16_events_children (inScope : List (Nat × Nat)) (path : Path) (ks : List Tree) :
    genNode.genKids inScope path 0 ks =
      ks.zipIdx.flatMap (fun kj => genNode inScope false (path ++ [kj.2]) kj.1) :=
  genKids_eq inScope path 0 ks

/-- Every event is tagged with a normal node at or below the start node and is one of the events
    that node emits itself (`gen_edge_start` / `gen_edge_end` of that node). -/
theorem C16_events_tagged (t : Tree) (start : Path) (inScope : List (Nat × Nat))
    (hs : namespacesInScope t start = some inScope) (p : Path) (o : Output)
    (h : (p, o) ∈ genOutputs t start) :
    ∃ rel n', p = start ++ rel ∧ t.at? p = some n' ∧ n'.value.isNormal = true ∧
      OwnEvent inScope (rel.isEmpty) n' o := by
  cases hn : t.at? start with
  | none => simp [genOutputs, hn] at h
  | some n =>
    rw [C16_events_start t start n inScope hn hs] at h
    obtain ⟨rel, n', hp, hat, hnorm, hown⟩ := genNode_tagged inScope true start n p o h
    refine ⟨rel, n', hp, ?_, hnorm, by simpa using hown⟩
    rw [hp, at?_append, hn]
    exact hat

/-- Document order: the opening events (start-tag-open, text, comment, PI) are exactly the normal
    non-document nodes of the subtree in pre-order, each carrying its own value and its path. -/
theorem C16_events_order (t : Tree) (start : Path) (n : Tree) (inScope : List (Nat × Nat))
    (hn : t.at? start = some n) (hs : namespacesInScope t start = some inScope) :
    (genOutputs t start).filter (fun po => po.2.isOpening) =
      (normalPreorder start n).filterMap (fun pn => (openingEvent pn.2).map (fun o => (pn.1, o))) := by
  rw [C16_events_start t start n inScope hn hs]
  exact genNode_opening inScope true start n

/-- Sanity: the event stream of the unit test `test_iter_mkgen` (`<doc a="A">Text</doc>`,
    serialised from the element). -/
example :
    genOutputs (.node .document [.node (.element 2) [.node (.attribute 3 ['A']) [], .node (.text ['T']) []]]) [0] =
      [([0], .startTagOpen 2), ([0], .pfx 1 1), ([0], .attribute 3 ['A']), ([0], .startTagClose),
       ([0, 1], .text ['T']), ([0], .endTag 2)] := by decide +kernel

/-! ### C16_normalizer: a caller-supplied normalizer

Every theorem above is for arbitrary escaping functions; `normEscapers N` (Model/Normalizer.lean: entity.rs
with the normalizer `N`, `NoopNormalizer` = `id`) is one instance.  Spelled out for the two stream entry
points that take a normalizer, `Xot::tokens(node, parameters, normalizer)` and
`serialize_xml_string_with_normalizer`. -/

/-- The token stream under the normalizer `N`, concatenated, is the string serialisation under `N`, for the
    full parameter set; and conversely. -/
theorem C16_normalizer_tokens (N : Str → Str) (env : Env) (pr : TokenParams) (t : Tree) (start : Path) :
    (∀ ks, tokensWith (normEscapers N) env pr t start = .ok ks →
      serializeStringWith (normEscapers N) env pr t start =
        .ok (ks.flatMap (fun k => (if k.2.2.space then [' '] else []) ++ k.2.2.text))) ∧
    (∀ s, serializeStringWith (normEscapers N) env pr t start = .ok s →
      ∃ ks, tokensWith (normEscapers N) env pr t start = .ok ks ∧
        s = ks.flatMap (fun k => (if k.2.2.space then [' '] else []) ++ k.2.2.text)) ∧
    (∀ e, serializeStringWith (normEscapers N) env pr t start = .err e →
      tokensWith (normEscapers N) env pr t start = .panic) :=
  ⟨fun ks h => C16_tokens _ env pr t start ks h, fun s h => C16_tokens_conv _ env pr t start s h,
   fun e h => C16_tokens_fail _ env pr t start e h⟩

/-- The `Write` entry point with a normalizer writes what the string entry point with it returns. -/
theorem C16_normalizer_write (N : Str → Str) (env : Env) (p : XmlParams) (t : Tree) (start : Path) :
    (∀ w, serializeXmlWriteWith (normEscapers N) env p t start = (w, .ok ()) →
        serializeXmlStringWith (normEscapers N) env p t start = .ok w) ∧
    (∀ s, serializeXmlStringWith (normEscapers N) env p t start = .ok s →
        serializeXmlWriteWith (normEscapers N) env p t start = (s, .ok ())) :=
  ⟨(C16_write _ env p t start).1, (C16_write _ env p t start).2.1⟩

/-- … and `serialize_xml_write_with_normalizer`, called directly, fails exactly when the string entry point
    fails, with the same error (what was written before the failure stays in the sink: the driver's
    `ser xml_write_norm` line compares those bytes with the implementation's). -/
theorem C16_normalizer_write_fail (N : Str → Str) (env : Env) (p : XmlParams) (t : Tree) (start : Path) (e : XotError) :
    (serializeXmlWriteWith (normEscapers N) env p t start).2 = .err e ↔
      serializeXmlStringWith (normEscapers N) env p t start = .err e :=
  (C16_write _ env p t start).2.2 e

/-- The event stream of the normalised tree is the event stream of the tree with `N` applied to the strings of
    the `Text` and `Attribute` events: same events, same nodes, same order. -/
theorem C16_normalizer_events (N : Str → Str) (t : Tree) (start : Path) :
    genOutputs (t.mapText N) start = (genOutputs t start).map (fun po => (po.1, po.2.mapText N)) :=
  genOutputs_mapText N t start

/-! ### C16_write_fails: a writer that fails

`serializeXmlWriteW P` (Model/XmlDecl.lean) is `serialize_xml_write_with_normalizer` in front of ANY writer `P`
(`WriterPolicy`: what the writer answers to each `write_all` given the calls it accepted before — accept, or refuse
after letting some of the bytes through), threaded through the calls in the order the Rust makes them: the pieces of
the declaration, the pieces of the doctype, then per event indentation / token space / token text / newline, each one
`w.write_all(..)?`.  `serializeXmlCalls` lists those calls as they happen when none is refused, and how the call then
ends; `serializeXmlWriteWith` — the model every theorem above is about — is the writer that never fails.  All of it
for arbitrary escaping functions, hence for `Xot::write`, `serialize_xml_write` and `…_with_normalizer`. -/

/-- The never-failing model is the unlimited-budget instance (`Vec<u8>`; `budget none`), and its bytes are the
    calls concatenated. -/
theorem C16_write_unlimited (esc : Escapers) (env : Env) (p : XmlParams) (t : Tree) (start : Path) :
    serializeXmlWriteW WriterPolicy.unlimited esc env p t start = serializeXmlWriteWith esc env p t start ∧
    serializeXmlWriteW (WriterPolicy.budget none) esc env p t start = serializeXmlWriteWith esc env p t start ∧
    ((serializeXmlCalls esc env p t start).1.flatten, (serializeXmlCalls esc env p t start).2)
      = serializeXmlWriteWith esc env p t start :=
  ⟨serializeXmlWriteW_unlimited esc env p t start, serializeXmlWriteW_unlimited esc env p t start,
   serializeXmlCalls_eq esc env p t start⟩

/-- **A failing writer gives `Error::Io`, never a panic.**  For every writer, every tree, start node and parameter
    set (declaration, doctype, indentation on or off):
    (1) either the writer refuses one of the calls the serialisation makes — then the call returns `Err(Io)` and the
        writer holds what it had accepted — or it accepts them all and the result is that of the never-failing
        writer (same bytes, same `Ok` / error);
    (2) the writer never causes a panic: the call panics only where the string entry point does;
    (3) whatever the writer holds when the call returns is a PREFIX of what the never-failing writer receives, in
        particular of the string `serialize_xml_string` returns;
    (4) `FailingWriter { fail_at_call: k }`: with `k` at least the number of calls the result is the old one; with
        fewer it is `Io` and the writer holds exactly the first `k` calls. -/
theorem C16_write_fails_with_io (P : WriterPolicy) (esc : Escapers) (env : Env) (p : XmlParams) (t : Tree)
    (start : Path) :
    ((∃ b, writeCalls P [] (serializeXmlCalls esc env p t start).1 = .error b ∧
          serializeXmlWriteW P esc env p t start = (b, .err .io)) ∨
      (writeCalls P [] (serializeXmlCalls esc env p t start).1 = .ok (serializeXmlCalls esc env p t start).1 ∧
          serializeXmlWriteW P esc env p t start = serializeXmlWriteWith esc env p t start)) ∧
    ((serializeXmlWriteW P esc env p t start).2 = .panic → (serializeXmlWriteWith esc env p t start).2 = .panic) ∧
    (∃ rest, (serializeXmlWriteWith esc env p t start).1 = (serializeXmlWriteW P esc env p t start).1 ++ rest) ∧
    (∀ s, serializeXmlStringWith esc env p t start = .ok s →
        ∃ rest, s = (serializeXmlWriteW P esc env p t start).1 ++ rest) ∧
    (∀ k, (serializeXmlCalls esc env p t start).1.length ≤ k →
        serializeXmlWriteW (WriterPolicy.budget (some k)) esc env p t start = serializeXmlWriteWith esc env p t start) ∧
    (∀ k, k < (serializeXmlCalls esc env p t start).1.length →
        serializeXmlWriteW (WriterPolicy.budget (some k)) esc env p t start
          = (((serializeXmlCalls esc env p t start).1.take k).flatten, .err .io)) := by
  simp only [serializeXmlWriteW_eq_replayCalls, ← serializeXmlCalls_eq esc env p t start]
  obtain ⟨h1, h2, h3, h4, h5⟩ := replayCalls_writer P (serializeXmlCalls esc env p t start)
  refine ⟨h1, h2, h3, fun s hs => ?_, h4, h5⟩
  have hw := (C16_write esc env p t start).2.1 s hs
  rw [← serializeXmlCalls_eq esc env p t start] at hw
  obtain ⟨rest, h⟩ := h3
  exact ⟨rest, (congrArg Prod.fst hw).symm.trans h⟩

/-- **Which error wins** when the serialisation itself fails (`MissingPrefix`, `NamespaceInProcessingInstruction`,
    `NotElement` / `NoElementAtTopLevel` of the doctype block): whichever comes first in the event order.  The
    serialisation error `e` of the string entry point arises after exactly the calls `serializeXmlCalls.1` (the
    declaration, the events rendered before, the indentation of the failing event).  A writer that accepts all of
    those sees `e` reported, exactly as the string entry point reports it; a writer that refuses one of them makes
    the call return `Io` — the serialisation never gets to the failing event.  In particular an error that arises
    before the first write (no calls) is reported whatever the writer does. -/
theorem C16_write_error_priority (P : WriterPolicy) (esc : Escapers) (env : Env) (p : XmlParams) (t : Tree)
    (start : Path) (e : XotError) (he : serializeXmlStringWith esc env p t start = .err e) :
    (writeCalls P [] (serializeXmlCalls esc env p t start).1 = .ok (serializeXmlCalls esc env p t start).1 →
        serializeXmlWriteW P esc env p t start = ((serializeXmlCalls esc env p t start).1.flatten, .err e)) ∧
    (∀ b, writeCalls P [] (serializeXmlCalls esc env p t start).1 = .error b →
        serializeXmlWriteW P esc env p t start = (b, .err .io)) ∧
    (∀ k, (serializeXmlCalls esc env p t start).1.length ≤ k →
        (serializeXmlWriteW (WriterPolicy.budget (some k)) esc env p t start).2 = .err e) ∧
    (∀ k, k < (serializeXmlCalls esc env p t start).1.length →
        (serializeXmlWriteW (WriterPolicy.budget (some k)) esc env p t start).2 = .err .io) ∧
    ((serializeXmlCalls esc env p t start).1 = [] → (serializeXmlWriteW P esc env p t start).2 = .err e) := by
  have h2 : (serializeXmlCalls esc env p t start).2 = .err e := by
    rw [← ((C16_write esc env p t start).2.2 e).2 he]
    exact congrArg Prod.snd (serializeXmlCalls_eq esc env p t start)
  refine ⟨fun hw => ?_, fun b hw => ?_, fun k hk => ?_, fun k hk => ?_, fun hnil => ?_⟩
  · rw [serializeXmlWriteW_eq_replayCalls, replayCalls_ok hw, h2]
  · rw [serializeXmlWriteW_eq_replayCalls, replayCalls_error hw]
  · rw [serializeXmlWriteW_eq_replayCalls, replayCalls_budget, if_pos hk]; exact h2
  · rw [serializeXmlWriteW_eq_replayCalls, replayCalls_budget, if_neg (by omega)]
  · rw [serializeXmlWriteW_eq_replayCalls, replayCalls_ok (h := []) (by rw [hnil]; rfl)]; exact h2

/-- `Xot::write(node, w)` (default parameters) in front of any writer is the token loop alone. -/
theorem C16_write_default_any_writer (P : WriterPolicy) (esc : Escapers) (env : Env) (t : Tree) (start : Path) :
    serializeXmlWriteW P esc env {} t start = serializeWriteW P esc env {} t start :=
  serializeXmlWriteW_default P esc env t start

/-- Non-vacuity.  `<a><b:… /></a>` with `b`'s namespace undeclared, written with a declaration: the calls before
    `MissingPrefix` arises are `<?xml version="1.0"`, `?>\n`, `<a`, `>` (env: name 2 = `a` in no namespace,
    name 3 = `b` in namespace 2 = `u`).  Budgets 0 … 3 give `Io` with the writer holding the first calls, budget 4
    and the never-failing writer give `MissingPrefix`. -/
example :
    let env : Env := ⟨[[], xmlNs, ['u']], [[], ['x','m','l']], [(['s','p','a','c','e'], 1), (['i','d'], 1), (['a'], 0), (['b'], 2)]⟩
    let t : Tree := .node .document [.node (.element 2) [.node (.element 3) []]]
    let p : XmlParams := { declaration := some {} }
    (serializeXmlCalls xmlEscapers env p t []).1.map String.ofList = ["<?xml version=\"1.0\"", "?>\n", "<a", ">"] ∧
    serializeXmlString env p t [] = .err (.missingPrefix 2) ∧
    (fun r : Str × Outcome XotError Unit => (String.ofList r.1, r.2)) (serializeXmlWriteW (.budget (some 0)) xmlEscapers env p t [])
      = ("", .err .io) ∧
    (fun r : Str × Outcome XotError Unit => (String.ofList r.1, r.2)) (serializeXmlWriteW (.budget (some 3)) xmlEscapers env p t [])
      = ("<?xml version=\"1.0\"?>\n<a", .err .io) ∧
    (fun r : Str × Outcome XotError Unit => (String.ofList r.1, r.2)) (serializeXmlWriteW (.budget (some 4)) xmlEscapers env p t [])
      = ("<?xml version=\"1.0\"?>\n<a>", .err (.missingPrefix 2)) ∧
    (fun r : Str × Outcome XotError Unit => (String.ofList r.1, r.2)) (serializeXmlWriteW (.budget none) xmlEscapers env p t [])
      = ("<?xml version=\"1.0\"?>\n<a>", .err (.missingPrefix 2)) := by decide +kernel

/-- An error that arises before the first write wins against every writer: a doctype asked for a text node
    (`NotElement`, no declaration) — even the writer that refuses its first call sees `NotElement`; with a
    declaration in front the same writer gives `Io`. -/
example :
    (serializeXmlWriteW (.budget (some 0)) xmlEscapers {} { doctype := some (.sys ['s']) }
        (.node (.text ['x']) []) []) = ([], .err .notElement) ∧
    (serializeXmlWriteW (.budget (some 0)) xmlEscapers {} { doctype := some (.sys ['s']), declaration := some {} }
        (.node (.text ['x']) []) []) = ([], .err .io) := by decide +kernel

/-- Pretty printing: `<d><a/></d>` with indentation makes the calls `<`, `>`, `\n`, `  `, `<`, `/>`, `` (the empty
    end-tag token of a childless element: the call is made all the same), `\n`, `</>`, `\n` (the empty environment
    spells every name as the empty string); a writer that refuses its 5th call holds `<>\n  `, enough budget gives
    the pretty string. -/
example :
    let t : Tree := .node .document [.node (.element 5) [.node (.element 2) []]]
    let p : XmlParams := { indentation := some [] }
    (serializeXmlCalls xmlEscapers {} p t []).1.map String.ofList = ["<", ">", "\n", "  ", "<", "/>", "", "\n", "</>", "\n"] ∧
    (fun r : Str × Outcome XotError Unit => (String.ofList r.1, r.2)) (serializeXmlWriteW (.budget (some 4)) xmlEscapers {} p t [])
      = ("<>\n  ", .err .io) ∧
    (fun r : Str × Outcome XotError Unit => (String.ofList r.1, r.2)) (serializeXmlWriteW (.budget (some 9)) xmlEscapers {} p t [])
      = ("<>\n  </>\n</>", .err .io) ∧
    (fun r : Str × Outcome XotError Unit => (String.ofList r.1, r.2)) (serializeXmlWriteW (.budget (some 10)) xmlEscapers {} p t [])
      = ("<>\n  </>\n</>\n", .ok ()) := by decide +kernel

/-! ### C16_write_fails … _bytes: the failing writer at BYTE level

The theorems above count what a refused call lets through in CHARACTERS.  A real `io::Write` receives the UTF-8
bytes of each piece (`w.write_all(s.as_bytes())`) and may stop anywhere, also inside a multi-byte character.
`Model/WriterBytes.lean`: `utf8` (the encoder, equal to Lean's `String.toUTF8` for every text:
`Lemmas/WriterBytes.lean: utf8_toUTF8`), `BytePolicy` (`some k` = refused after `k` BYTES of this call),
`serializeXmlWriteB B` = the trace `serializeXmlCalls` replayed against `B`.  That the trace is the same for every
writer is `serializeXmlWriteW_eq_replayCalls` (for every character-level writer the threaded function is this trace
replayed), and (6) below ties the byte-level result back to the threaded function run in front of `B.chars`. -/

/-- **A failing BYTE-level writer gives `Error::Io`, never a panic**, and holds a prefix of the UTF-8 bytes of the
    string serialisation — possibly ending inside a character.  For every byte-level writer `B`, every tree, start
    node and parameter set:
    (1) either one call is refused: the calls are `pre ++ c :: post`, `B` accepts `pre` and answers `some k` to `c`;
        the call returns `Err(Io)` and the writer holds the bytes of `pre` followed by the first `k` bytes of `c`;
        or no call is refused and the result is that of the never-failing writer, as bytes: `utf8` of its text,
        its outcome;
    (2) never a panic caused by the writer;
    (3) what the writer holds is a PREFIX of `utf8` of what the never-failing writer receives;
    (4) when `serialize_xml_string` returns `Ok(s)`: no refusal gives `Ok` with exactly `utf8 s`, a refusal gives
        `Io`, and in both cases the writer holds a prefix of `utf8 s`;
    (5) `ByteBudgetWriter { remaining: n }`: enough budget gives the old result; less gives `Io` and the writer
        holds exactly the first `n` bytes — wherever in a character that falls;
    (6) the character level: the outcome is that of the threaded `serializeXmlWriteW` in front of `B.chars`, and
        the bytes held are the `utf8` of the characters that one holds plus at most 3 bytes (none unless `Io`);
    (7) the never-failing writer holds `utf8` of the never-failing model's text. -/
theorem C16_write_fails_with_io_bytes (B : BytePolicy) (esc : Escapers) (env : Env) (p : XmlParams) (t : Tree)
    (start : Path) :
    ((∃ pre c post k, (serializeXmlCalls esc env p t start).1 = pre ++ c :: post ∧
          writeCallsB B [] pre = .ok (pre.map utf8) ∧ B (pre.map utf8) (utf8 c) = some k ∧
          serializeXmlWriteB B esc env p t start = (utf8 pre.flatten ++ (utf8 c).take k, .err .io)) ∨
      (writeCallsB B [] (serializeXmlCalls esc env p t start).1 = .ok ((serializeXmlCalls esc env p t start).1.map utf8) ∧
          serializeXmlWriteB B esc env p t start
            = (utf8 (serializeXmlWriteWith esc env p t start).1, (serializeXmlWriteWith esc env p t start).2))) ∧
    ((serializeXmlWriteB B esc env p t start).2 = .panic → (serializeXmlWriteWith esc env p t start).2 = .panic) ∧
    (∃ rest, utf8 (serializeXmlWriteWith esc env p t start).1 = (serializeXmlWriteB B esc env p t start).1 ++ rest) ∧
    (∀ s, serializeXmlStringWith esc env p t start = .ok s →
        (writeCallsB B [] (serializeXmlCalls esc env p t start).1 = .ok ((serializeXmlCalls esc env p t start).1.map utf8) →
          serializeXmlWriteB B esc env p t start = (utf8 s, .ok ())) ∧
        (∀ b, writeCallsB B [] (serializeXmlCalls esc env p t start).1 = .error b →
          serializeXmlWriteB B esc env p t start = (b, .err .io)) ∧
        ∃ rest, utf8 s = (serializeXmlWriteB B esc env p t start).1 ++ rest) ∧
    (∀ n, serializeXmlWriteB (BytePolicy.byteBudget n) esc env p t start =
        if (utf8 (serializeXmlWriteWith esc env p t start).1).length ≤ n
        then (utf8 (serializeXmlWriteWith esc env p t start).1, (serializeXmlWriteWith esc env p t start).2)
        else ((utf8 (serializeXmlWriteWith esc env p t start).1).take n, .err .io)) ∧
    ((serializeXmlWriteB B esc env p t start).2 = (serializeXmlWriteW B.chars esc env p t start).2 ∧
      ∃ tail, (serializeXmlWriteB B esc env p t start).1
          = utf8 (serializeXmlWriteW B.chars esc env p t start).1 ++ tail ∧ tail.length ≤ 3 ∧
        ((serializeXmlWriteB B esc env p t start).2 ≠ .err .io → tail = [])) ∧
    serializeXmlWriteB BytePolicy.unlimited esc env p t start
      = (utf8 (serializeXmlWriteWith esc env p t start).1, (serializeXmlWriteWith esc env p t start).2) := by
  unfold serializeXmlWriteB
  simp only [serializeXmlWriteW_eq_replayCalls, ← serializeXmlCalls_eq esc env p t start]
  obtain ⟨h1, h2, h3, h4, h5, h6⟩ := replayCallsB_writer B (serializeXmlCalls esc env p t start)
  refine ⟨h1, h2, h3, fun s hs => ?_, h4, h5, h6⟩
  have hw := (C16_write esc env p t start).2.1 s hs
  rw [← serializeXmlCalls_eq esc env p t start] at hw
  have hs1 : (serializeXmlCalls esc env p t start).1.flatten = s := congrArg Prod.fst hw
  refine ⟨fun hok => ?_, fun b hb => replayCallsB_error hb, hs1 ▸ h3⟩
  rw [replayCallsB_ok hok, ← utf8_flatten, hs1, congrArg Prod.snd hw]

/-- **Which error wins, byte level** (the priority of `C16_write_error_priority`): when the string entry point fails
    with `e`, a byte-level writer that accepts every call made before `e` arises sees `e` reported (and holds all
    those calls' bytes); one that refuses any of them — after however many bytes — makes the call return `Io`; with
    a byte budget the boundary is the byte length of those calls; and an error that arises before the first write
    is reported whatever the writer does. -/
theorem C16_write_error_priority_bytes (B : BytePolicy) (esc : Escapers) (env : Env) (p : XmlParams) (t : Tree)
    (start : Path) (e : XotError) (he : serializeXmlStringWith esc env p t start = .err e) :
    (writeCallsB B [] (serializeXmlCalls esc env p t start).1 = .ok ((serializeXmlCalls esc env p t start).1.map utf8) →
        serializeXmlWriteB B esc env p t start = (utf8 (serializeXmlCalls esc env p t start).1.flatten, .err e)) ∧
    (∀ b, writeCallsB B [] (serializeXmlCalls esc env p t start).1 = .error b →
        serializeXmlWriteB B esc env p t start = (b, .err .io)) ∧
    (∀ n, (utf8 (serializeXmlCalls esc env p t start).1.flatten).length ≤ n →
        (serializeXmlWriteB (BytePolicy.byteBudget n) esc env p t start).2 = .err e) ∧
    (∀ n, n < (utf8 (serializeXmlCalls esc env p t start).1.flatten).length →
        serializeXmlWriteB (BytePolicy.byteBudget n) esc env p t start
          = ((utf8 (serializeXmlCalls esc env p t start).1.flatten).take n, .err .io)) ∧
    ((serializeXmlCalls esc env p t start).1 = [] → serializeXmlWriteB B esc env p t start = ([], .err e)) := by
  have h2 : (serializeXmlCalls esc env p t start).2 = .err e := by
    rw [← ((C16_write esc env p t start).2.2 e).2 he]
    exact congrArg Prod.snd (serializeXmlCalls_eq esc env p t start)
  unfold serializeXmlWriteB
  refine ⟨fun hok => ?_, fun b hb => replayCallsB_error hb, fun n hn => ?_, fun n hn => ?_, fun hnil => ?_⟩
  · rw [replayCallsB_ok hok, ← utf8_flatten, h2]
  · rw [replayCallsB_byteBudget, if_pos hn]; exact h2
  · rw [replayCallsB_byteBudget, if_neg (by omega)]
  · rw [replayCallsB_ok (h := []) (by rw [hnil]; rfl), h2]; rfl

/-- `Xot::write(node, w)` in front of a byte-level writer is the default-parameter instance, and with the
    character-level bridge: same outcome as `serializeWriteW B.chars`. -/
theorem C16_write_default_any_writer_bytes (B : BytePolicy) (esc : Escapers) (env : Env) (t : Tree) (start : Path) :
    serializeWriteB B esc env t start = serializeXmlWriteB B esc env {} t start ∧
    (serializeWriteB B esc env t start).2 = (serializeWriteW B.chars esc env {} t start).2 :=
  ⟨rfl, by
    rw [← C16_write_default_any_writer]
    exact (C16_write_fails_with_io_bytes B esc env {} t start).2.2.2.2.2.1.1⟩

/-- `utf8` is `str::as_bytes`: a morphism, Lean's own `String.toUTF8` for every text, `strLen` long. -/
theorem C16_utf8 :
    (∀ a b : Str, utf8 (a ++ b) = utf8 a ++ utf8 b) ∧
    (∀ s : Str, (String.ofList s).toUTF8 = (utf8 s).toByteArray) ∧
    (∀ s : Str, (utf8 s).length = strLen s) ∧
    (∀ c : Char, 1 ≤ (utf8Char c).length ∧ (utf8Char c).length ≤ 4) :=
  ⟨utf8_append, utf8_toUTF8, utf8_length, fun c => ⟨utf8Char_length_pos c, utf8Char_length_le c⟩⟩

/-- The encoder against `String.toUTF8` on closed texts with 1-, 2-, 3- and 4-byte characters. -/
example : "aé€😀".toUTF8.data.toList = utf8 ['a', 'é', '€', '😀'] ∧
    utf8 ['a', 'é', '€', '😀'] = [0x61, 0xC3, 0xA9, 0xE2, 0x82, 0xAC, 0xF0, 0x9F, 0x98, 0x80] ∧
    "<?xml version=\"1.0\"?>\n<ü>߿ࠀ￿𐀀😀</ü>".toUTF8.data.toList
      = utf8 "<?xml version=\"1.0\"?>\n<ü>߿ࠀ￿𐀀😀</ü>".toList := by
  rw [String.toList_ofList]; decide +kernel

/-- Non-vacuity: `<a>é€</a>` (the text is 2 characters, 5 bytes; env: name 2 = `a`).  The calls are `<a`, `>`, `é€`,
    `</a>`, 12 bytes.  Byte budgets 4, 5, 7 stop before, inside `é` and inside `€`: `Io`, the writer holds
    `<a>` + 1, 2, 4 bytes of the text; the character-level writer seen through the same budget holds `<a>`, `<a>`,
    `<a>é`; budget 12 gives `Ok` and all 12 bytes. -/
example :
    let env : Env := ⟨[[], xmlNs], [[], ['x','m','l']], [(['s','p','a','c','e'], 1), (['i','d'], 1), (['a'], 0)]⟩
    let t : Tree := .node .document [.node (.element 2) [.node (.text ['é', '€']) []]]
    (serializeXmlCalls xmlEscapers env {} t []).1.map String.ofList = ["<a", ">", "é€", "</a>"] ∧
    serializeXmlWriteB (.byteBudget 4) xmlEscapers env {} t [] = ([0x3C, 0x61, 0x3E, 0xC3], .err .io) ∧
    serializeXmlWriteB (.byteBudget 5) xmlEscapers env {} t [] = ([0x3C, 0x61, 0x3E, 0xC3, 0xA9], .err .io) ∧
    serializeXmlWriteB (.byteBudget 7) xmlEscapers env {} t [] = ([0x3C, 0x61, 0x3E, 0xC3, 0xA9, 0xE2, 0x82], .err .io) ∧
    (serializeXmlWriteW (BytePolicy.byteBudget 4).chars xmlEscapers env {} t []) = (['<', 'a', '>'], .err .io) ∧
    (serializeXmlWriteW (BytePolicy.byteBudget 7).chars xmlEscapers env {} t []) = (['<', 'a', '>', 'é'], .err .io) ∧
    serializeXmlWriteB (.byteBudget 11) xmlEscapers env {} t []
      = ([0x3C, 0x61, 0x3E, 0xC3, 0xA9, 0xE2, 0x82, 0xAC, 0x3C, 0x2F, 0x61], .err .io) ∧
    serializeXmlWriteB (.byteBudget 12) xmlEscapers env {} t []
      = ([0x3C, 0x61, 0x3E, 0xC3, 0xA9, 0xE2, 0x82, 0xAC, 0x3C, 0x2F, 0x61, 0x3E], .ok ()) := by decide +kernel

/-- Error priority at byte level: `<a><b:…/></a>`, `b`'s namespace undeclared, with a declaration: `MissingPrefix`
    arises after 25 bytes (`<?xml version="1.0"?>\n<a>`).  Budget 24 gives `Io`, budget 25 `MissingPrefix`. -/
example :
    let env : Env := ⟨[[], xmlNs, ['u']], [[], ['x','m','l']], [(['s','p','a','c','e'], 1), (['i','d'], 1), (['a'], 0), (['b'], 2)]⟩
    let t : Tree := .node .document [.node (.element 2) [.node (.element 3) []]]
    let p : XmlParams := { declaration := some {} }
    (utf8 (serializeXmlCalls xmlEscapers env p t []).1.flatten).length = 25 ∧
    (serializeXmlWriteB (.byteBudget 24) xmlEscapers env p t []).2 = .err .io ∧
    (serializeXmlWriteB (.byteBudget 24) xmlEscapers env p t []).1.length = 24 ∧
    (serializeXmlWriteB (.byteBudget 25) xmlEscapers env p t []).2 = .err (.missingPrefix 2) := by decide +kernel

end XotModel.Props
