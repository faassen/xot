/-
  C01 — Serialise-then-parse returns the same tree.  Property theorems only.

  For a tree in the round-trip domain (`Representable` / `RepresentableFragment`, Model/SerTokens.lean) whose names
  are writable (`namesWritable`: the serialiser's own `MissingPrefix` checks), `to_string` succeeds and `parse` /
  `parse_fragment` of the text returns the SAME tree, id for id, with the interning tables unchanged; hence
  `deep_equal`.  The escape tables and entity names are the ones `extract.py` read off `/repo/src/entity.rs`.

  Sections, in order:
    character level         `parse_content` of `serialize_text s` / `serialize_attribute s` is `s`; lexical safety
    the serialiser's side   `to_string` IS `renderTokens (serTokensTop …)`, one equation for success and errors
    the widened domain      the round trip on `RepresentablePi` (PI targets with a colon, Lemmas/PiColonDefs.lean):
                            the `C01_*_pi_colon` chain; every later theorem on `Representable` is its instance,
                            beginning with: the token list of a representable tree satisfies `LexOK`
    the round trip          the tree as a spelling (`spellTop`), lemmas A / B / C
    the reparsed tree IS the original (the builder on the tokens, any tokenizer meeting `LexCanon`); what it reads
    back as; when serialisation succeeds; `deep_equal`
    the closed loop         `parseString` (reference tokenizer feeding the builder) on `to_string tree`
    a start node INSIDE the tree (`standalone`, Model/InnerStartSpec.lean)
    the round trip from the forest invariant alone (every forest with `Forest.Inv`, however reached)
    end to end              every tree an API history can build, with and without parse steps in the history:
                            the invariant form at the invariant of the history
    non-default token parameters (`unescaped_gt`, CDATA-section elements)
    PI targets with a colon: the property as one statement on the widened domain, a closed witness outside
                            `Representable`
    documents built with the convenience calls
-/
import XotModel.Lemmas.Entity
import XotModel.Lemmas.SerTokensLex
import XotModel.Lemmas.SerTokensDecode
import XotModel.Lemmas.SerTokensPieces
import XotModel.Lemmas.RoundTripTokens
import XotModel.Lemmas.RoundTripEncode
import XotModel.Lemmas.RoundTripSerialises
import XotModel.Lemmas.RoundTripDeepEqual
import XotModel.Lemmas.LexCanon
import XotModel.Lemmas.InnerStartRoundTrip
import XotModel.Model.ParseString
import XotModel.Props.C02
import XotModel.Props.C04
import XotModel.Lemmas.ReachE2E
import XotModel.Lemmas.FparseHistReach
import XotModel.Lemmas.FparseValsReach
import XotModel.Lemmas.RepairRoundTrip
import XotModel.Lemmas.RoundTripParams
import XotModel.Lemmas.AcceptedMain
import XotModel.Lemmas.PiColonWitness

namespace XotModel.Props
open XotModel XotModel.Gen

/-- Obligations on the generated tables (re-checked whenever the source changes). -/
theorem C01_tables_attr : tableOk attrEscapes = true ∧ tableCovers true attrEscapes = true := by decide +kernel
theorem C01_tables_text :
    tableOk (('>', textGtEscape) :: textEscapes) = true ∧
    tableCovers false (('>', textGtEscape) :: textEscapes) = true := by decide +kernel

/-- Text: `parse_text (serialize_text s) = s` for every string, including CR, LF, TAB, `<`, `&`,
    `>`, quotes, `]]>` and non-BMP characters. -/
theorem C01_text (s : Str) : parseText (serializeText false s) = .ok s := by
  unfold parseText parseContent
  rw [serializeText_false_eq]
  exact parse_escape_roundtrip false _ C01_tables_text.1 C01_tables_text.2 s 0 0

/-- Attribute values: `parse_attribute (serialize_attribute s) = s` for every string. -/
theorem C01_attr (s : Str) : parseAttribute (serializeAttribute s) = .ok s :=
  parse_escape_roundtrip true _ C01_tables_attr.1 C01_tables_attr.2 s 0 0

/-- The serialised text never contains a raw `<`. -/
theorem C01_text_lexsafe (s : Str) : '<' ∉ serializeText false s := by
  have h : tableHides (('>', textGtEscape) :: textEscapes) '<' = true := by decide +kernel
  rw [serializeText_false_eq]; exact flatMap_escape_hides h s

/-- The serialised attribute value never contains a raw `<` or `"` (it is written between
    double quotes), nor a raw TAB, LF or CR. -/
theorem C01_attr_lexsafe (s : Str) :
    '<' ∉ serializeAttribute s ∧ '"' ∉ serializeAttribute s ∧
    '\t' ∉ serializeAttribute s ∧ '\n' ∉ serializeAttribute s ∧ '\r' ∉ serializeAttribute s :=
  ⟨flatMap_escape_hides (by decide +kernel) s, flatMap_escape_hides (by decide +kernel) s,
   flatMap_escape_hides (by decide +kernel) s, flatMap_escape_hides (by decide +kernel) s,
   flatMap_escape_hides (by decide +kernel) s⟩

/-- A concrete string with every special character. -/
example : parseAttribute (serializeAttribute ['a','\t','\n','\r','<','&','"','\'','>',']']) =
    .ok ['a','\t','\n','\r','<','&','"','\'','>',']'] := C01_attr _

/-! ### Tree level: the serialised string is the canonical rendering of `serTokensTop` -/

/-- `Xot::to_string(root)` is the canonical rendering (`renderTokens`, Model/TokenRender.lean) of
    the token list `serTokensTop` reads off the tree, and fails exactly where that fails, with
    the same error; it never panics.  For every table set in which `xml` and the prefixes the
    tree declares have a non-empty spelling (`declsNamed`; implied by `Representable`; needed:
    see the counterexample below), every tree, sound or not. -/
theorem C01_serialised_is_rendering (env : Env) (t : Tree) (hx : env.prefixStr Env.xmlPrefix ≠ [])
    (ht : t.allNodes (declsNamed env) = true) :
    toXmlString env t [] =
      (match serTokensTop env t with
       | .ok ts => .ok (renderTokens ts)
       | .error e => .err e) :=
  toXmlString_serTokensTop env t hx ht

theorem C01_serialised_is_rendering_ok (env : Env) (t : Tree) (hx : env.prefixStr Env.xmlPrefix ≠ [])
    (ht : t.allNodes (declsNamed env) = true) (s : Str) (h : toXmlString env t [] = .ok s) :
    ∃ ts, serTokensTop env t = .ok ts ∧ s = renderTokens ts := by
  rw [C01_serialised_is_rendering env t hx ht] at h
  cases hts : serTokensTop env t with
  | ok ts => rw [hts] at h; cases h; exact ⟨ts, rfl, rfl⟩
  | error e => rw [hts] at h; cases h

theorem C01_serialised_is_rendering_conv (env : Env) (t : Tree) (hx : env.prefixStr Env.xmlPrefix ≠ [])
    (ht : t.allNodes (declsNamed env) = true) (ts : List Token) (h : serTokensTop env t = .ok ts) :
    toXmlString env t [] = .ok (renderTokens ts) := by
  rw [C01_serialised_is_rendering env t hx ht, h]

theorem C01_serialised_fails_iff (env : Env) (t : Tree) (hx : env.prefixStr Env.xmlPrefix ≠ [])
    (ht : t.allNodes (declsNamed env) = true) (e : XotError) :
    toXmlString env t [] = .err e ↔ serTokensTop env t = .error e := by
  rw [C01_serialised_is_rendering env t hx ht]
  cases serTokensTop env t <;> simp

/-- Any start node, `unescaped_gt` on or off (no CDATA-section elements): `serialize_xml_string`
    is the rendering of `serTokensAt`; a start element also writes the declarations in scope. -/
theorem C01_serialised_is_rendering_at (env : Env) (pr : TokenParams) (t : Tree) (start : Path)
    (hcd : pr.cdataSectionElements = []) (hx : env.prefixStr Env.xmlPrefix ≠ [])
    (ht : t.allNodes (declsNamed env) = true) :
    serializeString env pr t start =
      (match serTokensAt env pr.unescapedGt t start with
       | .ok ts => .ok (renderTokens ts)
       | .error e => .err e) :=
  serializeString_serTokensAt env pr t hcd start hx ht

/-! ## The round trip on the widened domain, then on `Representable`

  The tokenizer's `consume_name` accepts a colon in a PI target (`<?a:b x?>`), and `Representable` asks an NCName of
  it: such a tree is accepted by the parser (C03) but is not `Representable`.  The widened domain `RepresentablePi` /
  `RepresentableFragmentPi` (Lemmas/PiColonDefs.lean: `valueOK` asks of a PI target what `consume_name` accepts,
  `nameOK`; every other clause the same) contains `Representable` (`PiColon.representable_of`) and carries the same
  round trip: the lemmas (Lemmas/SerTokens*.lean, RoundTrip*.lean, namespace `XotModel.PiColon`) are proved for it,
  the theorems `C01_x_pi_colon` below state the round trip on it, and each `C01_x` on `Representable` is its
  instance. -/

/-- The reference tokenizer meets the tokenizer contract `LexCanon` (Lemmas/LexCanon.lean: on the canonical
    rendering of a `LexOK` token list the tokenizer returns that list up to byte positions), in both modes. -/
theorem C01_lexCanon_document : LexCanon false lexDocument := fun ts h => lexDocument_render_erase ts h
theorem C01_lexCanon_fragment : LexCanon true lexFragment := fun ts h => lexFragment_render_erase ts h

/-- On the round-trip domain no side condition is left. -/
theorem C01_serialised_is_rendering_representable_pi_colon (env : Env) (t : Tree)
    (hr : PiColon.RepresentableFragment env t = true) :
    toXmlString env t [] =
      (match serTokensTop env t with
       | .ok ts => .ok (renderTokens ts)
       | .error e => .err e) := by
  obtain ⟨henv, _, hn, _⟩ := (PiColon.representableFragment_iff env t).mp hr
  apply C01_serialised_is_rendering env t
  · rw [envOK_xmlPrefix env henv]; simp
  · exact PiColon.nodeOK_declsNamed env t hn
/-- The tokens of a representable document whose serialisation succeeds satisfy the side
    conditions of the tokenizer contract in document mode: NCName prefixes and local names,
    attribute values without `<` and `"`, non-empty text without `<` and `]]>`, XML Chars only,
    comment and PI conditions, attributes only inside start tags, balanced tags, no two text
    tokens in a row, comments / PIs around exactly one top-level element. -/
theorem C01_rendering_lexok_pi_colon (env : Env) (t : Tree) (hr : PiColon.Representable env t = true)
    (ts : List Token) (h : serTokensTop env t = .ok ts) : LexOK false ts = true :=
  PiColon.lexOK_document env t hr ts h
/-- Fragment mode (`parse_fragment`): any well-formed content under the document node. -/
theorem C01_rendering_lexok_fragment_pi_colon (env : Env) (t : Tree) (hr : PiColon.RepresentableFragment env t = true)
    (ts : List Token) (h : serTokensTop env t = .ok ts) : LexOK true ts = true :=
  PiColon.lexOK_fragment env t hr ts h
theorem C01_serialised_ok_representable_pi_colon {env : Env} {t : Tree} (hr : PiColon.RepresentableFragment env t = true) {s : Str}
    (hs : toXmlString env t [] = .ok s) : ∃ ts, serTokensTop env t = .ok ts ∧ s = renderTokens ts := by
  rw [C01_serialised_is_rendering_representable_pi_colon env t hr] at hs
  cases hts : serTokensTop env t with
  | ok ts => rw [hts] at hs; cases hs; exact ⟨ts, rfl, rfl⟩
  | error e => rw [hts] at hs; cases hs
/-- `parse` without the tokenizer: the builder, run on the tokens `to_string` renders
    (any source length, any byte positions: `C02_positions_irrelevant`), returns the original tree
    and leaves the interning tables unchanged. -/
theorem C01_build_pi_colon (env : Env) (t : Tree) (hr : PiColon.Representable env t = true) (ts : List Token)
    (h : serTokensTop env t = .ok ts) (len : Nat) :
    ∃ p, build .document len env ts none = .ok p ∧ p.tree = t ∧ p.env = env := by
  obtain ⟨hfrag, hsingle⟩ := (PiColon.representable_iff env t).mp hr
  obtain ⟨ks, rfl, hf⟩ := PiColon.topFacts hfrag h
  obtain ⟨p0, hb, ht, he⟩ := build_document_spelled_ns hf.he.envBaseNs len
    (spellTop env (.node .document ks)) (spellTop_well hf)
    (wellFormedTop_of_abstractNs (spellTop_abstractTop hf hsingle))
  rw [spell_tokens env _ ts h] at hb
  rw [spellTop_encode hf] at ht he
  exact ⟨p0, hb, ht, he⟩
/-- `parse_fragment` without the tokenizer. -/
theorem C01_build_fragment_pi_colon (env : Env) (t : Tree) (hr : PiColon.RepresentableFragment env t = true)
    (ts : List Token) (h : serTokensTop env t = .ok ts) (len : Nat) :
    ∃ p, build .fragment len env ts none = .ok p ∧ p.tree = t ∧ p.env = env := by
  obtain ⟨ks, rfl, hf⟩ := PiColon.topFacts hr h
  obtain ⟨p0, hb, ht, he⟩ := build_fragment_spelled_ns hf.he.envBaseNs len
    (spellTop env (.node .document ks)) (spellTop_well hf)
  rw [spell_tokens env _ ts h] at hb
  rw [spellTop_encode hf] at ht he
  exact ⟨p0, hb, ht, he⟩
/-- `parse` with any tokenizer meeting `LexCanon`: the reparsed tree is the original tree, node for node and id
    for id — names, attribute sets and values, character data, comments, PIs, namespace declarations
    on the same elements with the same prefix-to-URI bindings — and the interning tables are
    unchanged. -/
theorem C01_main_identical_pi_colon (env : Env) (t : Tree) (hr : PiColon.Representable env t = true)
    (lex : Str → List Token × Option Nat) (hlex : LexCanon false lex) (s : Str)
    (hs : toXmlString env t [] = .ok s) :
    ∃ ts p, lex s = (ts, none) ∧ build .document (strLen s) env ts none = .ok p ∧
      p.tree = t ∧ p.env = env := by
  have hfrag := PiColon.representableFragment_of_representable env hr
  obtain ⟨ts0, hser, rfl⟩ := C01_serialised_ok_representable_pi_colon hfrag hs
  obtain ⟨ts, hl, her⟩ := hlex ts0 (C01_rendering_lexok_pi_colon env t hr ts0 hser)
  obtain ⟨p0, hb, ht, he⟩ := C01_build_pi_colon env t hr ts0 hser (strLen (renderTokens ts0))
  obtain ⟨p, hp, h1, h2, _⟩ := C02_positions_irrelevant_ok .document _ (strLen (renderTokens ts0)) env ts0 ts
    her.1.symm her.2 p0 hb
  exact ⟨ts, p, hl, hp, by rw [h1, ht], by rw [h2, he]⟩
/-- The same for `parse_fragment`. -/
theorem C01_main_fragment_identical_pi_colon (env : Env) (t : Tree) (hr : PiColon.RepresentableFragment env t = true)
    (lex : Str → List Token × Option Nat) (hlex : LexCanon true lex) (s : Str)
    (hs : toXmlString env t [] = .ok s) :
    ∃ ts p, lex s = (ts, none) ∧ build .fragment (strLen s) env ts none = .ok p ∧
      p.tree = t ∧ p.env = env := by
  obtain ⟨ts0, hser, rfl⟩ := C01_serialised_ok_representable_pi_colon hr hs
  obtain ⟨ts, hl, her⟩ := hlex ts0 (C01_rendering_lexok_fragment_pi_colon env t hr ts0 hser)
  obtain ⟨p0, hb, ht, he⟩ := C01_build_fragment_pi_colon env t hr ts0 hser (strLen (renderTokens ts0))
  obtain ⟨p, hp, h1, h2, _⟩ := C02_positions_irrelevant_ok .fragment _ (strLen (renderTokens ts0)) env ts0 ts
    her.1.symm her.2 p0 hb
  exact ⟨ts, p, hl, hp, by rw [h1, ht], by rw [h2, he]⟩
/-- For a representable document or fragment, `to_string` succeeds exactly when
    every namespaced name has a usable prefix in scope — `namesWritable` (Model/Scope.lean), the
    serialiser's own `MissingPrefix` checks run over the tree with the name stack
    `XmlSerializer::new` builds: no element in no namespace under a default namespace,
    `element_fullname` and every `attribute_fullname` answer (C10_error_element / _attribute say when;
    `create_missing_prefixes` establishes it: C10_repair_document_writable).  The hypothesis
    `toXmlString … = .ok s` of `C01_main_identical_pi_colon` is therefore this decidable condition on the tree. -/
theorem C01_serialises_pi_colon (env : Env) (t : Tree) (hr : PiColon.RepresentableFragment env t = true) :
    (∃ s, toXmlString env t [] = .ok s) ↔ namesWritable env t [] = some true := by
  rw [← PiColon.serTokensTop_ok_iff hr, C01_serialised_is_rendering_representable_pi_colon env t hr]
  cases serTokensTop env t <;> simp [exceptIsOk]
/-- Every tree of the widened fragment domain is `deep_equal` to itself. -/
theorem deepEqual_self_pi_colon {env : Env} {t : Tree} (hr : PiColon.RepresentableFragment env t = true) :
    deepEqual t t = true := by
  obtain ⟨_, _, hn, _⟩ := (PiColon.representableFragment_iff env t).mp hr
  have hv := PiColon.valid_of_nodeOK t hn
  exact (deepEqual_iff_canon t t hv hv).mpr rfl
/-- The round trip as the property words it: the reparsed tree is `deep_equal` (Model/Compare.lean,
    the crate's own comparison; canonical-form equality by C13_iff) to the original.  A corollary of
    the literal equality `C01_main_identical_pi_colon`, which says more (declarations and prefixes too). -/
theorem C01_main_deep_equal_pi_colon (env : Env) (t : Tree) (hr : PiColon.Representable env t = true)
    (lex : Str → List Token × Option Nat) (hlex : LexCanon false lex) (s : Str)
    (hs : toXmlString env t [] = .ok s) :
    ∃ ts p, lex s = (ts, none) ∧ build .document (strLen s) env ts none = .ok p ∧
      deepEqual p.tree t = true := by
  obtain ⟨ts, p, h1, h2, h3, _⟩ := C01_main_identical_pi_colon env t hr lex hlex s hs
  exact ⟨ts, p, h1, h2, by
    rw [h3]; exact deepEqual_self_pi_colon (PiColon.representableFragment_of_representable env hr)⟩
theorem C01_main_fragment_deep_equal_pi_colon (env : Env) (t : Tree) (hr : PiColon.RepresentableFragment env t = true)
    (lex : Str → List Token × Option Nat) (hlex : LexCanon true lex) (s : Str)
    (hs : toXmlString env t [] = .ok s) :
    ∃ ts p, lex s = (ts, none) ∧ build .fragment (strLen s) env ts none = .ok p ∧
      deepEqual p.tree t = true := by
  obtain ⟨ts, p, h1, h2, h3, _⟩ := C01_main_fragment_identical_pi_colon env t hr lex hlex s hs
  exact ⟨ts, p, h1, h2, by rw [h3]; exact deepEqual_self_pi_colon hr⟩
/-- The reparsed tree IS the original tree — node kinds and order, name
    ids (expanded names), attribute sets and values, character data, comments, PIs, namespace
    declarations on the same elements with the same prefix-to-URI bindings — the interning tables are
    unchanged, and `deep_equal` answers `true`. -/
theorem C01_roundtrip_identical_pi_colon (env : Env) (t : Tree) (hr : PiColon.Representable env t = true) (s : Str)
    (hs : toXmlString env t [] = .ok s) :
    ∃ p, parseString .document env s = .ok p ∧ p.tree = t ∧ p.env = env ∧ deepEqual p.tree t = true := by
  obtain ⟨ts, p, h1, h2, h3, h4⟩ := C01_main_identical_pi_colon env t hr lexDocument C01_lexCanon_document s hs
  refine ⟨p, ?_, h3, h4, by
    rw [h3]; exact deepEqual_self_pi_colon (PiColon.representableFragment_of_representable env hr)⟩
  simp only [parseString, lexMode, h1]
  exact h2
theorem C01_roundtrip_fragment_identical_pi_colon (env : Env) (t : Tree) (hr : PiColon.RepresentableFragment env t = true)
    (s : Str) (hs : toXmlString env t [] = .ok s) :
    ∃ p, parseString .fragment env s = .ok p ∧ p.tree = t ∧ p.env = env ∧ deepEqual p.tree t = true := by
  obtain ⟨ts, p, h1, h2, h3, h4⟩ :=
    C01_main_fragment_identical_pi_colon env t hr lexFragment C01_lexCanon_fragment s hs
  refine ⟨p, ?_, h3, h4, by rw [h3]; exact deepEqual_self_pi_colon hr⟩
  simp only [parseString, lexMode, h1]
  exact h2
/-- The property as one statement on the tree: a representable document every namespaced name of which
    has a usable prefix in scope serialises, and the text parses back to the same tree. -/
theorem C01_roundtrip_writable_pi_colon (env : Env) (t : Tree) (hr : PiColon.Representable env t = true)
    (hw : namesWritable env t [] = some true) :
    ∃ s p, toXmlString env t [] = .ok s ∧ parseString .document env s = .ok p ∧ p.tree = t ∧ p.env = env ∧
      deepEqual p.tree t = true := by
  have hfrag := PiColon.representableFragment_of_representable env hr
  obtain ⟨s, hs⟩ := (C01_serialises_pi_colon env t hfrag).mpr hw
  obtain ⟨p, h1, h2, h3, h4⟩ := C01_roundtrip_identical_pi_colon env t hr s hs
  exact ⟨s, p, hs, h1, h2, h3, h4⟩


/-- `C01_serialised_is_rendering_representable_pi_colon` at a `RepresentableFragment` tree. -/
theorem C01_serialised_is_rendering_representable (env : Env) (t : Tree)
    (hr : RepresentableFragment env t = true) :
    toXmlString env t [] =
      (match serTokensTop env t with
       | .ok ts => .ok (renderTokens ts)
       | .error e => .err e) :=
  C01_serialised_is_rendering_representable_pi_colon env t (PiColon.representableFragment_of env t hr)

/-- `C01_rendering_lexok_pi_colon` at a `Representable` tree. -/
theorem C01_rendering_lexok (env : Env) (t : Tree) (hr : Representable env t = true)
    (ts : List Token) (h : serTokensTop env t = .ok ts) : LexOK false ts = true :=
  C01_rendering_lexok_pi_colon env t (PiColon.representable_of env t hr) ts h

/-- `C01_rendering_lexok_fragment_pi_colon` at a `RepresentableFragment` tree. -/
theorem C01_rendering_lexok_fragment (env : Env) (t : Tree) (hr : RepresentableFragment env t = true)
    (ts : List Token) (h : serTokensTop env t = .ok ts) : LexOK true ts = true :=
  C01_rendering_lexok_fragment_pi_colon env t (PiColon.representableFragment_of env t hr) ts h

/-- Every attribute token (namespace declarations included) carries `serialize_attribute x` for a
    string `x` and `parse_attribute` gives `x` back; every text token carries
    `serialize_text x` and `parse_text` gives `x` back (C01_attr, C01_text inside the token list;
    no side condition). -/
theorem C01_rendering_decodes (env : Env) (t : Tree) (ts : List Token)
    (h : serTokensTop env t = .ok ts) : ∀ k ∈ ts, k.Decodes :=
  serTokensTop_decodes env t ts h

/-- The escaped strings as spellings-as-data (`Piece`, the vocabulary of the builder theorems
    C02_spelled*): one piece per character — literal, predefined entity or upper-case hexadecimal
    reference — rendering to what the serialiser writes, denoting the value, well spelled. -/
theorem C01_value_spelling (v : Str) :
    (renderPieces (attrPieces v) = serializeAttribute v ∧ valueOf true (attrPieces v) = v ∧
      WellSpelled (attrPieces v)) ∧
    (renderPieces (textPieces v) = serializeText false v ∧ valueOf false (textPieces v) = v ∧
      WellSpelled (textPieces v)) :=
  ⟨⟨renderPieces_attrPieces v, valueOf_attrPieces v, wellSpelled_attrPieces v⟩,
   ⟨renderPieces_textPieces v, valueOf_textPieces v, wellSpelled_textPieces v⟩⟩

/-! Non-vacuity: a document with a default namespace, a prefixed child, an attribute value
    `<&"` TAB, a text `]]>` CR, a comment and two PIs. -/

def c01Env : Env where
  namespaces := [[], xmlNamespaceUri, ['u', 'r', 'n', ':', 'a'], ['u', 'r', 'n', ':', 'b']]
  prefixes := [[], ['x', 'm', 'l'], ['p']]
  names := [(['s', 'p', 'a', 'c', 'e'], 1), (['i', 'd'], 1), (['r'], 2), (['c'], 3), (['k'], 0), (['t'], 0)]

def c01Doc : Tree :=
  .node .document [
    .node (.comment ['h', 'i']) [],
    .node (.element 2) [
      .node (.namespace 0 2) [], .node (.namespace 2 3) [],
      .node (.attribute 4 ['<', '&', '"', '\t']) [],
      .node (.element 3) [],
      .node (.text [']', ']', '>', '\r']) [],
      .node (.pi 5 (some ['d'])) []],
    .node (.pi 5 none) []]

/-- `<!--hi--><r xmlns="urn:a" xmlns:p="urn:b" k="&lt;&amp;&quot;&#x9;"><p:c/>]]&gt;&#xD;<?t d?></r><?t?>` -/
def c01Text : Str :=
  "<!--hi--><r xmlns=\"urn:a\" xmlns:p=\"urn:b\" k=\"&lt;&amp;&quot;&#x9;\"><p:c/>]]&gt;&#xD;<?t d?></r><?t?>".toList

theorem c01Doc_representable : Representable c01Env c01Doc = true := by decide +kernel
theorem c01Doc_fragment : RepresentableFragment c01Env c01Doc = true := by decide +kernel
/-- The literal is turned into its character list first: compared as `"…".toList`, the kernel would encode it
    to UTF-8 and decode it again inside the comparison. -/
theorem c01Doc_toXmlString : toXmlString c01Env c01Doc [] = .ok c01Text := by
  unfold c01Text
  rw [String.toList_ofList]
  decide +kernel

/-- The serialisation of `c01Doc` as a token list, obtained once for the examples below. -/
theorem c01Doc_tokens : ∃ ts, serTokensTop c01Env c01Doc = .ok ts ∧ c01Text = renderTokens ts :=
  C01_serialised_is_rendering_ok c01Env c01Doc (by decide +kernel) (by decide +kernel) c01Text c01Doc_toXmlString

example : Representable c01Env c01Doc = true := c01Doc_representable
example : toXmlString c01Env c01Doc [] = .ok c01Text := c01Doc_toXmlString
example : ∃ ts, serTokensTop c01Env c01Doc = .ok ts ∧ renderTokens ts = c01Text ∧ LexOK false ts = true := by
  obtain ⟨ts, h1, h2⟩ := c01Doc_tokens
  exact ⟨ts, h1, h2.symm, C01_rendering_lexok c01Env c01Doc c01Doc_representable ts h1⟩

/-- The side condition of `C01_serialised_is_rendering` is needed: with a declared prefix whose
    spelling is empty (impossible for the tables of a real `Xot`: ids are a one-to-one interning,
    C08) the serialiser writes `<:a xmlns:="u"/>`, which is no canonical rendering of
    (prefix, local name) tokens. -/
example :
    let env : Env := { namespaces := [[], xmlNamespaceUri, ['u']], prefixes := [[], ['x', 'm', 'l'], []],
                       names := [([], 0), ([], 0), (['a'], 2)] }
    let t : Tree := .node .document [.node (.element 2) [.node (.namespace 2 2) []]]
    toXmlString env t [] = .ok "<:a xmlns:=\"u\"/>".toList ∧
    (serTokensTop env t).toOption.map renderTokens = some "<a xmlns:=\"u\"/>".toList := by
  rw [String.toList_ofList, String.toList_ofList]
  decide +kernel

/-! ### Tree level: the round trip

`spellTop env t` (Lemmas/RoundTripDefs.lean) is the SPELLING of the tree: the
`NSNode`s (vocabulary of C02_spelled_ns) with the serialiser's prefix choices, one `Piece` per character.
  A  `C01_spelling_tokens`   its tokens are the tokens `to_string` renders (`serTokensTop`)
  B  `C01_spelling_denotes`  what it denotes by XML-Namespaces scoping over the declarations as written
                             (strings) is what the ORIGINAL tree reads back as through its tables
                             (the bridge from the id-level scoping of C10 to strings)
  C  `C01_spelling_well`     the builder admits it (`WellNsDoc`) -/

/-- A: the tokens of the spelling are the serialiser's tokens (every tree, sound or not). -/
theorem C01_spelling_tokens (env : Env) (t : Tree) (ts : List Token) (h : serTokensTop env t = .ok ts) :
    NSNode.tokens.tokensList (spellTop env t) = ts :=
  spell_tokens env t ts h

/-- B: the spelling denotes, in the base scope, the abstract document the tree reads back as. -/
theorem C01_spelling_denotes (env : Env) (t : Tree) (hr : RepresentableFragment env t = true)
    (ts : List Token) (h : serTokensTop env t = .ok ts) :
    decodeNs env t.kids = some (NSNode.denote.denoteList baseScope (spellTop env t)) := by
  obtain ⟨ks, rfl, hf⟩ := topFacts hr h
  exact (spellTop_denote hf).1

/-- C: the builder admits the spelling. -/
theorem C01_spelling_well (env : Env) (t : Tree) (hr : RepresentableFragment env t = true)
    (ts : List Token) (h : serTokensTop env t = .ok ts) : WellNsDoc (spellTop env t) := by
  obtain ⟨ks, rfl, hf⟩ := topFacts hr h
  exact spellTop_well hf

/-- `envOK` (part of `Representable`) implies the hypothesis of the builder theorems. -/
theorem C01_envBaseNs (env : Env) (h : envOK env = true) : EnvBaseNs env :=
  (envFacts_of_envOK h).envBaseNs

theorem C01_serialised_ok_representable {env : Env} {t : Tree} (hr : RepresentableFragment env t = true) {s : Str}
    (hs : toXmlString env t [] = .ok s) : ∃ ts, serTokensTop env t = .ok ts ∧ s = renderTokens ts :=
  C01_serialised_ok_representable_pi_colon (PiColon.representableFragment_of env t hr) hs

/-! ### The reparsed tree IS the original tree

Every string of `t` is interned in `env` already (an id outside the tables cannot occur in a
`Representable` tree the serialiser accepts), so reparsing into the same `Xot` interns nothing and
every id comes back: literal equality of the id trees, declarations and prefixes included. -/

/-- Encoding the abstract document `t` reads back as (ids interned in document order, as the
    parser does) gives `t` back and leaves the tables alone. -/
theorem C01_encode_decode (env : Env) (t : Tree) (hr : RepresentableFragment env t = true)
    (ts : List Token) (h : serTokensTop env t = .ok ts) :
    NPNode.encode.encodeList env (NSNode.denote.denoteList baseScope (spellTop env t)) = (env, t.kids) := by
  obtain ⟨ks, rfl, hf⟩ := topFacts hr h
  exact spellTop_encode hf

/-- `C01_build_pi_colon` at a `Representable` tree. -/
theorem C01_build (env : Env) (t : Tree) (hr : Representable env t = true) (ts : List Token)
    (h : serTokensTop env t = .ok ts) (len : Nat) :
    ∃ p, build .document len env ts none = .ok p ∧ p.tree = t ∧ p.env = env :=
  C01_build_pi_colon env t (PiColon.representable_of env t hr) ts h len

/-- `C01_build_fragment_pi_colon` at a `RepresentableFragment` tree. -/
theorem C01_build_fragment (env : Env) (t : Tree) (hr : RepresentableFragment env t = true)
    (ts : List Token) (h : serTokensTop env t = .ok ts) (len : Nat) :
    ∃ p, build .fragment len env ts none = .ok p ∧ p.tree = t ∧ p.env = env :=
  C01_build_fragment_pi_colon env t (PiColon.representableFragment_of env t hr) ts h len

/-- `C01_main_identical_pi_colon` at a `Representable` tree. -/
theorem C01_main_identical (env : Env) (t : Tree) (hr : Representable env t = true)
    (lex : Str → List Token × Option Nat) (hlex : LexCanon false lex) (s : Str)
    (hs : toXmlString env t [] = .ok s) :
    ∃ ts p, lex s = (ts, none) ∧ build .document (strLen s) env ts none = .ok p ∧
      p.tree = t ∧ p.env = env :=
  C01_main_identical_pi_colon env t (PiColon.representable_of env t hr) lex hlex s hs

/-- `C01_main_fragment_identical_pi_colon` at a `RepresentableFragment` tree. -/
theorem C01_main_fragment_identical (env : Env) (t : Tree) (hr : RepresentableFragment env t = true)
    (lex : Str → List Token × Option Nat) (hlex : LexCanon true lex) (s : Str)
    (hs : toXmlString env t [] = .ok s) :
    ∃ ts p, lex s = (ts, none) ∧ build .fragment (strLen s) env ts none = .ok p ∧
      p.tree = t ∧ p.env = env :=
  C01_main_fragment_identical_pi_colon env t (PiColon.representableFragment_of env t hr) lex hlex s hs

/-! A corollary of the literal equality: what the reparsed tree reads back as (`decodeNs`). -/

/-- `parse`: for every representable document whose default serialisation succeeds
    (every namespaced name has a usable prefix in scope), and every tokenizer meeting the contract:
    the serialised text is tokenized without error, the builder accepts the tokens, and the reparsed
    document reads back — through the interning tables the parse leaves — as exactly the abstract
    document the original tree reads back as: node kinds and order, expanded names (namespace URI
    and local name as strings), per element the declarations (prefix, URI) in order, the
    attributes in order with their values, text, comments, processing instructions. -/
theorem C01_main (env : Env) (t : Tree) (hr : Representable env t = true)
    (lex : Str → List Token × Option Nat) (hlex : LexCanon false lex) (s : Str)
    (hs : toXmlString env t [] = .ok s) :
    ∃ ts p, lex s = (ts, none) ∧ build .document (strLen s) env ts none = .ok p ∧
      p.tree.value = .document ∧ decodeNs p.env p.tree.kids = decodeNs env t.kids := by
  obtain ⟨ts, p, h1, h2, h3, h4⟩ := C01_main_identical env t hr lex hlex s hs
  refine ⟨ts, p, h1, h2, ?_, by rw [h3, h4]⟩
  rw [h3]
  exact BuilderCases.Value.eq_document_of_isDocument
    ((representableFragment_iff env t).mp (representableFragment_of_representable env hr)).2.1

/-- `parse_fragment`: the same for any well-formed content under the
    document node (several top-level elements, top-level text). -/
theorem C01_main_fragment (env : Env) (t : Tree) (hr : RepresentableFragment env t = true)
    (lex : Str → List Token × Option Nat) (hlex : LexCanon true lex) (s : Str)
    (hs : toXmlString env t [] = .ok s) :
    ∃ ts p, lex s = (ts, none) ∧ build .fragment (strLen s) env ts none = .ok p ∧
      p.tree.value = .document ∧ decodeNs p.env p.tree.kids = decodeNs env t.kids := by
  obtain ⟨ts, p, h1, h2, h3, h4⟩ := C01_main_fragment_identical env t hr lex hlex s hs
  refine ⟨ts, p, h1, h2, ?_, by rw [h3, h4]⟩
  rw [h3]
  exact BuilderCases.Value.eq_document_of_isDocument ((representableFragment_iff env t).mp hr).2.1

/-! Non-vacuity (the document `c01Doc` above: default namespace, prefixed child, attribute value with
    `<&"` TAB, text `]]>` CR, comment, PIs): the hypotheses hold by `decide`; it reads back as the
    abstract document below; the builder on its tokens returns it; so does `parse` with any tokenizer
    meeting the contract. -/

example : decodeNs c01Env c01Doc.kids = some
    [.comment ['h', 'i'],
     .elem ['u', 'r', 'n', ':', 'a'] ['r'] [([], ['u', 'r', 'n', ':', 'a']), (['p'], ['u', 'r', 'n', ':', 'b'])]
       [(([], ['k']), ['<', '&', '"', '\t'])]
       [.elem ['u', 'r', 'n', ':', 'b'] ['c'] [] [] [], .text [']', ']', '>', '\r'], .pi ['t'] (some ['d'])],
     .pi ['t'] none] := rfl

example : ∃ ts p, serTokensTop c01Env c01Doc = .ok ts ∧ renderTokens ts = c01Text ∧
    build .document (strLen c01Text) c01Env ts none = .ok p ∧ p.tree = c01Doc ∧ p.env = c01Env := by
  obtain ⟨ts, h1, h2⟩ := c01Doc_tokens
  obtain ⟨p, h3, h4, h5⟩ := C01_build c01Env c01Doc c01Doc_representable ts h1 (strLen c01Text)
  exact ⟨ts, p, h1, h2.symm, h3, h4, h5⟩

example (lex : Str → List Token × Option Nat) (hlex : LexCanon false lex) :
    ∃ ts p, lex c01Text = (ts, none) ∧ build .document (strLen c01Text) c01Env ts none = .ok p ∧
      p.tree = c01Doc ∧ p.env = c01Env :=
  C01_main_identical c01Env c01Doc c01Doc_representable lex hlex c01Text c01Doc_toXmlString

example : WellNsDoc (spellTop c01Env c01Doc) := by
  obtain ⟨ts, h1, _⟩ := c01Doc_tokens
  exact C01_spelling_well c01Env c01Doc c01Doc_fragment ts h1

/-! ### When does serialisation succeed? -/

/-- `C01_serialises_pi_colon` at a `RepresentableFragment` tree. -/
theorem C01_serialises (env : Env) (t : Tree) (hr : RepresentableFragment env t = true) :
    (∃ s, toXmlString env t [] = .ok s) ↔ namesWritable env t [] = some true :=
  C01_serialises_pi_colon env t (PiColon.representableFragment_of env t hr)

/-- `C01_main_identical` with the decidable condition `namesWritable` in place of "serialisation succeeds". -/
theorem C01_main_writable (env : Env) (t : Tree) (hr : Representable env t = true)
    (hw : namesWritable env t [] = some true)
    (lex : Str → List Token × Option Nat) (hlex : LexCanon false lex) :
    ∃ s ts p, toXmlString env t [] = .ok s ∧ lex s = (ts, none) ∧
      build .document (strLen s) env ts none = .ok p ∧ p.tree = t ∧ p.env = env := by
  have hfrag := representableFragment_of_representable env hr
  obtain ⟨s, hs⟩ := (C01_serialises env t hfrag).mpr hw
  obtain ⟨ts, p, h1, h2, h3, h4⟩ := C01_main_identical env t hr lex hlex s hs
  exact ⟨s, ts, p, hs, h1, h2, h3, h4⟩

example : namesWritable c01Env c01Doc [] = some true := by decide +kernel

/-! ### `deep_equal` -/

/-- `C01_main_deep_equal_pi_colon` at a `Representable` tree. -/
theorem C01_main_deep_equal (env : Env) (t : Tree) (hr : Representable env t = true)
    (lex : Str → List Token × Option Nat) (hlex : LexCanon false lex) (s : Str)
    (hs : toXmlString env t [] = .ok s) :
    ∃ ts p, lex s = (ts, none) ∧ build .document (strLen s) env ts none = .ok p ∧
      deepEqual p.tree t = true :=
  C01_main_deep_equal_pi_colon env t (PiColon.representable_of env t hr) lex hlex s hs

theorem C01_main_fragment_deep_equal (env : Env) (t : Tree) (hr : RepresentableFragment env t = true)
    (lex : Str → List Token × Option Nat) (hlex : LexCanon true lex) (s : Str)
    (hs : toXmlString env t [] = .ok s) :
    ∃ ts p, lex s = (ts, none) ∧ build .fragment (strLen s) env ts none = .ok p ∧
      deepEqual p.tree t = true :=
  C01_main_fragment_deep_equal_pi_colon env t (PiColon.representableFragment_of env t hr) lex hlex s hs

/-! ### The closed loop: `parse (to_string tree)` on STRINGS

`parseString` (Model/ParseString.lean) = the reference tokenizer (Model/Lex.lean: the Lean model of
xmlparser, correspondence-checked against the crate's tokenizer by the lex suite) feeding the builder,
as `Xot::_parse` wires them.  It meets the contract `LexCanon` (Lemmas/LexCanon.lean), so the theorems
above hold for it without hypothesis. -/

/-- `parse(to_string(doc))`: for every representable document whose default
    serialisation succeeds, parsing the serialised STRING succeeds and the reparsed document reads
    back, through the tables the parse leaves, as exactly the abstract document the original reads
    back as. -/
theorem C01_roundtrip (env : Env) (t : Tree) (hr : Representable env t = true) (s : Str)
    (hs : toXmlString env t [] = .ok s) :
    ∃ p, parseString .document env s = .ok p ∧ p.tree.value = .document ∧
      decodeNs p.env p.tree.kids = decodeNs env t.kids := by
  obtain ⟨ts, p, h1, h2, h3, h4⟩ := C01_main env t hr lexDocument C01_lexCanon_document s hs
  refine ⟨p, ?_, h3, h4⟩
  simp only [parseString, lexMode, h1]
  exact h2

/-- `C01_roundtrip_identical_pi_colon` at a `Representable` tree. -/
theorem C01_roundtrip_identical (env : Env) (t : Tree) (hr : Representable env t = true) (s : Str)
    (hs : toXmlString env t [] = .ok s) :
    ∃ p, parseString .document env s = .ok p ∧ p.tree = t ∧ p.env = env ∧ deepEqual p.tree t = true :=
  C01_roundtrip_identical_pi_colon env t (PiColon.representable_of env t hr) s hs

/-- `parse_fragment(to_string(doc))`. -/
theorem C01_roundtrip_fragment (env : Env) (t : Tree) (hr : RepresentableFragment env t = true) (s : Str)
    (hs : toXmlString env t [] = .ok s) :
    ∃ p, parseString .fragment env s = .ok p ∧ p.tree.value = .document ∧
      decodeNs p.env p.tree.kids = decodeNs env t.kids := by
  obtain ⟨ts, p, h1, h2, h3, h4⟩ := C01_main_fragment env t hr lexFragment C01_lexCanon_fragment s hs
  refine ⟨p, ?_, h3, h4⟩
  simp only [parseString, lexMode, h1]
  exact h2

theorem C01_roundtrip_fragment_identical (env : Env) (t : Tree) (hr : RepresentableFragment env t = true)
    (s : Str) (hs : toXmlString env t [] = .ok s) :
    ∃ p, parseString .fragment env s = .ok p ∧ p.tree = t ∧ p.env = env ∧ deepEqual p.tree t = true :=
  C01_roundtrip_fragment_identical_pi_colon env t (PiColon.representableFragment_of env t hr) s hs

/-- The property as one statement on the tree: `C01_roundtrip_writable_pi_colon` at a `Representable` tree. -/
theorem C01_roundtrip_writable (env : Env) (t : Tree) (hr : Representable env t = true)
    (hw : namesWritable env t [] = some true) :
    ∃ s p, toXmlString env t [] = .ok s ∧ parseString .document env s = .ok p ∧ p.tree = t ∧ p.env = env ∧
      deepEqual p.tree t = true :=
  C01_roundtrip_writable_pi_colon env t (PiColon.representable_of env t hr) hw

/-- … and for `parse_fragment`: a representable fragment whose names are writable. -/
theorem C01_roundtrip_fragment_writable (env : Env) (t : Tree) (hr : RepresentableFragment env t = true)
    (hw : namesWritable env t [] = some true) :
    ∃ s p, toXmlString env t [] = .ok s ∧ parseString .fragment env s = .ok p ∧ p.tree = t ∧ p.env = env ∧
      deepEqual p.tree t = true := by
  obtain ⟨s, hs⟩ := (C01_serialises env t hr).mpr hw
  obtain ⟨p, h1, h2, h3, h4⟩ := C01_roundtrip_fragment_identical env t hr s hs
  exact ⟨s, p, hs, h1, h2, h3, h4⟩

/-- Non-vacuity, closed: the document `c01Doc` meets the hypotheses by `decide`, so its serialisation
    `c01Text` parses back to it. -/
example : ∃ p, parseString .document c01Env c01Text = .ok p ∧ p.tree = c01Doc ∧ p.env = c01Env ∧
    deepEqual p.tree c01Doc = true :=
  C01_roundtrip_identical c01Env c01Doc c01Doc_representable c01Text c01Doc_toXmlString

/-! ### A start node INSIDE the tree: `to_string(element)` for an element that has ancestors

`XmlSerializer::new` seeds the name stack with `namespaces_in_scope(node)` and `gen_edge_start` writes, on the
start element, one declaration per in-scope binding the element does not declare itself — before its own
declarations, nearest ancestor first.  `standalone t q` (Model/InnerStartSpec.lean) is the document this text
stands for: `D [ e' ]`, `e'` = the element at `q` with one namespace node per inherited declaration in front
of its children (all in-scope bindings not declared by the element, except the built-in `xml` binding). -/

/-- The tokens `to_string(node at q)` renders are the tokens of the standalone
    document serialised from its root — for EVERY tree (sound or not), every path to an element,
    `unescaped_gt` on or off; the two fail together, with the same error. -/
theorem C01_inner_tokens (env : Env) (ugt : Bool) (t : Tree) (q : Path) (name : Nat) (ks : List Tree)
    (hat : t.at? q = some (.node (.element name) ks)) :
    ∃ t', standalone t q = some t' ∧ serTokensAt env ugt t q = serTokensAt env ugt t' [] :=
  serTokensAt_standalone ugt t q name ks hat

/-- `to_string(inner element)` IS `to_string(standalone document)`
    — the same text, or the same error.  Side condition as in `C01_serialised_is_rendering`: `xml` and the
    prefixes the tree declares have a non-empty spelling (implied by `nodeOK` everywhere). -/
theorem C01_inner_serialisation (env : Env) (t : Tree) (q : Path) (name : Nat) (ks : List Tree)
    (hx : env.prefixStr Env.xmlPrefix ≠ []) (ht : t.allNodes (declsNamed env) = true)
    (hat : t.at? q = some (.node (.element name) ks)) :
    ∃ t', standalone t q = some t' ∧ toXmlString env t q = toXmlString env t' [] :=
  serializeString_standalone {} t q name ks hx ht hat

/-- … for any token parameters without CDATA-section elements (`unescaped_gt`). -/
theorem C01_inner_serialisation_params (env : Env) (pr : TokenParams) (hcd : pr.cdataSectionElements = [])
    (t : Tree) (q : Path) (name : Nat) (ks : List Tree)
    (hx : env.prefixStr Env.xmlPrefix ≠ []) (ht : t.allNodes (declsNamed env) = true)
    (hat : t.at? q = some (.node (.element name) ks)) :
    ∃ t', standalone t q = some t' ∧ serializeString env pr t q = serializeString env pr t' [] :=
  serializeString_standalone pr t q name ks hx ht hat

/-- The standalone document of an element of a tree that is `nodeOK` everywhere (ancestors included: the
    inherited declarations are their namespace nodes) is in the C01 domain: the inherited declarations
    are well-formed, their prefixes pairwise distinct and not declared by the element. -/
theorem C01_inner_standalone_representable (env : Env) (t : Tree) (q : Path) (name : Nat) (ks : List Tree)
    (henv : envOK env = true) (hok : t.allNodes (nodeOK env) = true)
    (hat : t.at? q = some (.node (.element name) ks))
    (hids : (xmlIdValues env (.node (.element name) ks)).Nodup) :
    ∃ X, standalone t q = some (.node .document [.node (.element name) (nsLeaves X ++ ks)]) ∧
      Representable env (.node .document [.node (.element name) (nsLeaves X ++ ks)]) = true :=
  standalone_representable henv t q name ks hok hat hids

/-- `to_string(node at q)` succeeds exactly when every namespaced name below the node has a usable prefix
    in scope (`namesWritable env t q`: the serialiser's `MissingPrefix` checks with the name stack started
    from `namespaces_in_scope(node)`) — any node kind, any path that exists. -/
theorem C01_inner_serialises (env : Env) (t : Tree) (q : Path) (sub : Tree) (henv : envOK env = true)
    (hok : t.allNodes (nodeOK env) = true) (hat : t.at? q = some sub) :
    (∃ s, toXmlString env t q = .ok s) ↔ namesWritable env t q = some true := by
  rw [← serTokensAt_ok_iff henv false t q sub hok hat]
  have hx : env.prefixStr Env.xmlPrefix ≠ [] := by rw [envOK_xmlPrefix env henv]; simp
  have h := C01_serialised_is_rendering_at env {} t q rfl hx (nodeOK_declsNamed env t hok)
  show (∃ s, serializeString env {} t q = .ok s) ↔ _
  rw [h]
  cases serTokensAt env false t q <;> simp [exceptIsOk]

/-- The general form of `C01_roundtrip_inner`: `t` any tree that is `nodeOK` everywhere (a document, a fragment, or a
    parentless element with the start node below it), sane tables, no repeated `xml:id` value below the start
    element.  If `to_string(element at q)` succeeds, parsing the text succeeds and gives — id for id, tables
    unchanged — the standalone document; its document element is the start element with the inherited
    declarations in front, and `deep_equal` to the start element. -/
theorem C01_roundtrip_inner_nodes (env : Env) (t : Tree) (q : Path) (name : Nat) (ks : List Tree)
    (henv : envOK env = true) (hok : t.allNodes (nodeOK env) = true)
    (hat : t.at? q = some (.node (.element name) ks))
    (hids : (xmlIdValues env (.node (.element name) ks)).Nodup) (s : Str)
    (hs : toXmlString env t q = .ok s) :
    ∃ p X, standalone t q = some (.node .document [.node (.element name) (nsLeaves X ++ ks)]) ∧
      Representable env (.node .document [.node (.element name) (nsLeaves X ++ ks)]) = true ∧
      parseString .document env s = .ok p ∧
      p.tree = .node .document [.node (.element name) (nsLeaves X ++ ks)] ∧ p.env = env ∧
      deepEqual (.node (.element name) (nsLeaves X ++ ks)) (.node (.element name) ks) = true := by
  obtain ⟨X, h1, hr⟩ := standalone_representable henv t q name ks hok hat hids
  have hx : env.prefixStr Env.xmlPrefix ≠ [] := by rw [envOK_xmlPrefix env henv]; simp
  obtain ⟨t', h2, h3⟩ := C01_inner_serialisation env t q name ks hx (nodeOK_declsNamed env t hok) hat
  rw [h1, Option.some.injEq] at h2
  subst h2
  rw [h3] at hs
  obtain ⟨p, k1, k2, k3, _⟩ := C01_roundtrip_identical env _ hr s hs
  refine ⟨p, X, h1, hr, k1, k2, k3, ?_⟩
  have hfrag := representableFragment_of_representable env hr
  obtain ⟨_, _, hn, _⟩ := (representableFragment_iff env _).mp hfrag
  exact deepEqual_prepend_ns name ks X (allNodes_kid hn (by simp)) (allNodes_at? q t _ hok hat)

/-- For an element anywhere inside a representable document or
    fragment: if `to_string(element)` succeeds, parsing the text gives the standalone document, and the
    reparsed document element is `deep_equal` to the inner element (deep equality does not see
    declarations). -/
theorem C01_roundtrip_inner (env : Env) (t : Tree) (hr : RepresentableFragment env t = true) (q : Path)
    (name : Nat) (ks : List Tree) (hat : t.at? q = some (.node (.element name) ks)) (s : Str)
    (hs : toXmlString env t q = .ok s) :
    ∃ p X, standalone t q = some (.node .document [.node (.element name) (nsLeaves X ++ ks)]) ∧
      Representable env (.node .document [.node (.element name) (nsLeaves X ++ ks)]) = true ∧
      parseString .document env s = .ok p ∧
      p.tree = .node .document [.node (.element name) (nsLeaves X ++ ks)] ∧ p.env = env ∧
      deepEqual (.node (.element name) (nsLeaves X ++ ks)) (.node (.element name) ks) = true := by
  obtain ⟨henv, _, hn, hid⟩ := (representableFragment_iff env t).mp hr
  exact C01_roundtrip_inner_nodes env t q name ks henv hn hat
    (hid.sublist (xmlIdValues_at?_sublist q t _ hat)) s hs

/-- The same from the decidable condition: an element of a representable document every namespaced name
    below which has a usable prefix in scope serialises on its own, and the text parses back to the
    standalone document. -/
theorem C01_roundtrip_inner_writable (env : Env) (t : Tree) (hr : RepresentableFragment env t = true)
    (q : Path) (name : Nat) (ks : List Tree) (hat : t.at? q = some (.node (.element name) ks))
    (hw : namesWritable env t q = some true) :
    ∃ s p X, toXmlString env t q = .ok s ∧
      standalone t q = some (.node .document [.node (.element name) (nsLeaves X ++ ks)]) ∧
      Representable env (.node .document [.node (.element name) (nsLeaves X ++ ks)]) = true ∧
      parseString .document env s = .ok p ∧
      p.tree = .node .document [.node (.element name) (nsLeaves X ++ ks)] ∧ p.env = env ∧
      deepEqual (.node (.element name) (nsLeaves X ++ ks)) (.node (.element name) ks) = true := by
  obtain ⟨henv, _, hn, _⟩ := (representableFragment_iff env t).mp hr
  obtain ⟨s, hs⟩ := (C01_inner_serialises env t q _ henv hn hat).mpr hw
  obtain ⟨p, X, h1, h0, h2, h3, h4, h5⟩ := C01_roundtrip_inner env t hr q name ks hat s hs
  exact ⟨s, p, X, hs, h1, h0, h2, h3, h4, h5⟩

/-! Non-vacuity: `<r xmlns="urn:a" xmlns:p="urn:b" xmlns:q="urn:b">x<m xmlns:p="urn:a" q:w="v"><q:c/></m></r>`;
    the inner element `m` inherits the default namespace and `q` and RE-DECLARES `p`: `to_string(m)` writes
    `xmlns="urn:a" xmlns:q="urn:b"` (inherited, in scope order) before its own `xmlns:p="urn:a"`. -/

def c01InnerEnv : Env where
  namespaces := [[], xmlNamespaceUri, ['u', 'r', 'n', ':', 'a'], ['u', 'r', 'n', ':', 'b']]
  prefixes := [[], ['x', 'm', 'l'], ['p'], ['q']]
  names := [(['s', 'p', 'a', 'c', 'e'], 1), (['i', 'd'], 1), (['r'], 2), (['c'], 3), (['m'], 2), (['w'], 3)]

def c01InnerDoc : Tree :=
  .node .document [
    .node (.element 2) [
      .node (.namespace 0 2) [], .node (.namespace 2 3) [], .node (.namespace 3 3) [],
      .node (.text ['x']) [],
      .node (.element 4) [
        .node (.namespace 2 2) [],
        .node (.attribute 5 ['v']) [],
        .node (.element 3) []]]]

/-- The standalone document of `m` (path `[0, 4]`). -/
def c01InnerStandalone : Tree :=
  .node .document [
    .node (.element 4) [
      .node (.namespace 0 2) [], .node (.namespace 3 3) [],
      .node (.namespace 2 2) [],
      .node (.attribute 5 ['v']) [],
      .node (.element 3) []]]

def c01InnerText : Str :=
  "<m xmlns=\"urn:a\" xmlns:q=\"urn:b\" xmlns:p=\"urn:a\" q:w=\"v\"><q:c/></m>".toList

example : Representable c01InnerEnv c01InnerDoc = true := by decide +kernel
example : namespacesInScope c01InnerDoc [0, 4] = some [(2, 2), (0, 2), (3, 3), (1, 1)] := by decide +kernel
example : standalone c01InnerDoc [0, 4] = some c01InnerStandalone := rfl
theorem c01InnerDoc_toXmlString : toXmlString c01InnerEnv c01InnerDoc [0, 4] = .ok c01InnerText := by
  unfold c01InnerText; rw [String.toList_ofList]; decide +kernel

example : toXmlString c01InnerEnv c01InnerDoc [0, 4] = .ok c01InnerText := c01InnerDoc_toXmlString
example : toXmlString c01InnerEnv c01InnerStandalone [] = .ok c01InnerText := by
  unfold c01InnerText; rw [String.toList_ofList]; decide +kernel
example : namesWritable c01InnerEnv c01InnerDoc [0, 4] = some true := by decide +kernel

/-- Closed: the text of the inner element parses to its standalone document. -/
example : ∃ p, parseString .document c01InnerEnv c01InnerText = .ok p ∧ p.tree = c01InnerStandalone ∧
    p.env = c01InnerEnv ∧
    deepEqual (.node (.element 4) c01InnerStandalone.kids.head!.kids)
      (.node (.element 4) [.node (.namespace 2 2) [], .node (.attribute 5 ['v']) [], .node (.element 3) []]) = true := by
  obtain ⟨p, X, h1, _, h2, h3, h4, h5⟩ := C01_roundtrip_inner c01InnerEnv c01InnerDoc (by decide +kernel) [0, 4] 4 _ rfl
    c01InnerText c01InnerDoc_toXmlString
  have hX : standalone c01InnerDoc [0, 4] = some c01InnerStandalone := rfl
  rw [hX, Option.some.injEq] at h1
  rw [← h1] at h3
  exact ⟨p, h2, h3, h4, by decide +kernel⟩

/-- The whole document, for comparison: in place `m` writes only its own declaration. -/
example : toXmlString c01InnerEnv c01InnerDoc [] =
    .ok "<r xmlns=\"urn:a\" xmlns:p=\"urn:b\" xmlns:q=\"urn:b\">x<m xmlns:p=\"urn:a\" q:w=\"v\"><q:c/></m></r>".toList := by
  rw [String.toList_ofList]
  decide +kernel

/-! ## The round trip from the invariant alone

  The history is not part of the statement: ANY forest with the invariant of C04 (`Forest.Inv`), however it
  was reached — by `XCall`, `PCall`, `IdOp` or `Op ⊕ COp` histories, for each of which the invariant is a theorem. -/

/-- Every document root of a forest with the invariant, consolidation never switched off, whose
    values are in the XML domain and whose names are writable, serialises and parses back to exactly that tree. -/
theorem C01_inv_roundtrip (f : Forest) (hi : f.Inv) (hoff : f.everOff = false)
    (r : HTree) (hr : r ∈ f.roots)
    (hdoc : r.value.isDocument = true) (env' : Env) (henv : envOK env' = true)
    (hval : r.erase.allNodes (fun v _ => valueOK env' v) = true)
    (hid : (xmlIdValues env' r.erase).Nodup) (hone : singleRoot r.erase = true)
    (hwr : namesWritable env' r.erase [] = some true) :
    ∃ s p, toXmlString env' r.erase [] = .ok s ∧ parseString .document env' s = .ok p ∧
      p.tree = r.erase ∧ p.env = env' ∧ deepEqual p.tree r.erase = true :=
  C01_roundtrip_writable env' r.erase (Reach.representable_root_of_values hi hoff hr henv hdoc hval hid hone) hwr

/-- The same for `parse_fragment` (any number of top-level elements, top-level text allowed). -/
theorem C01_inv_roundtrip_fragment (f : Forest) (hi : f.Inv) (hoff : f.everOff = false)
    (r : HTree) (hr : r ∈ f.roots)
    (hdoc : r.value.isDocument = true) (env' : Env) (henv : envOK env' = true)
    (hval : r.erase.allNodes (fun v _ => valueOK env' v) = true)
    (hid : (xmlIdValues env' r.erase).Nodup)
    (hwr : namesWritable env' r.erase [] = some true) :
    ∃ s p, toXmlString env' r.erase [] = .ok s ∧ parseString .fragment env' s = .ok p ∧
      p.tree = r.erase ∧ p.env = env' ∧ deepEqual p.tree r.erase = true :=
  C01_roundtrip_fragment_writable env' r.erase
    (Reach.representableFragment_root_of_values hi hoff hr henv hdoc hval hid) hwr

/-! ## END TO END: API histories ∘ serialise ∘ parse

Everything above is about a plain `Tree` inside the domain `Representable` (Model/SerTokens.lean), whose
STRUCTURAL clauses (namespace nodes, then attribute nodes, then the rest; leaves; unique attribute names
and prefixes per element; no two adjacent text nodes; documents only at the root) are hypotheses there.
For the trees that the public API can build they are THEOREMS: Props/C04.lean proves the forest invariant
for every extended history (`C04_reach_ext`: the whole mutating API on nodes, node creation,
`set_text_consolidation`, `remove_insignificant_whitespace`, `create_missing_prefixes`,
`deduplicate_namespaces`, `clone_with_prefixes`) and reduces `Representable` of a reachable tree to
conditions on its VALUES (`C01_reachable_representable`).  This section composes the two halves of the
development:

    history of API calls  —erase→  tree  —to_string→  text  —parse→  the same tree.

`env'` is any pair of interning tables; the intended instance is the tables of the store itself
(`C01_reachable_roundtrip_store`). -/

section EndToEnd

/-- **Every document the API can build round-trips.**  For every extended
    history `cs` from the empty store, every step well-kinded (`C04_reach_ext`; a condition on map
    insertions as DATA that the Rust API cannot violate), text consolidation never switched off, and every
    parentless tree `r` of the resulting forest whose root is a document node: if
      * the tables are well formed (`envOK`),
      * every node's own VALUE is in the XML domain (`valueOK`: names are NCNames, text / comment / PI /
        attribute values are XML characters without the forbidden sequences, text is not empty, …),
      * the `xml:id` values are pairwise different,
      * there is exactly one top-level element and no top-level text (`singleRoot`), and
      * every namespaced name has a usable prefix in scope (`namesWritable`: the serialiser's own
        `MissingPrefix` checks),
    then `to_string` of the tree succeeds, and `parse` of the text succeeds and returns EXACTLY that
    tree — node kinds and order, name ids, attributes, character data, comments, PIs, namespace nodes —,
    the interning tables unchanged, `deep_equal`.  No structural hypothesis on the tree. -/
theorem C01_reachable_roundtrip (env : Env) (cs : List Forest.XCall) (hw : ∀ c ∈ cs, c.wellKinded)
    (hoff : ((⟨Forest.init, env⟩ : Store).xrun cs).forest.everOff = false)
    (r : HTree) (hr : r ∈ ((⟨Forest.init, env⟩ : Store).xrun cs).forest.roots)
    (hdoc : r.value.isDocument = true) (env' : Env) (henv : envOK env' = true)
    (hval : r.erase.allNodes (fun v _ => valueOK env' v) = true)
    (hid : (xmlIdValues env' r.erase).Nodup) (hone : singleRoot r.erase = true)
    (hwr : namesWritable env' r.erase [] = some true) :
    ∃ s p, toXmlString env' r.erase [] = .ok s ∧ parseString .document env' s = .ok p ∧
      p.tree = r.erase ∧ p.env = env' ∧ deepEqual p.tree r.erase = true :=
  C01_inv_roundtrip _ (C04_reach_ext env cs hw) hoff r hr hdoc env' henv hval hid hone hwr

/-- The same for `parse_fragment`: any number of top-level elements, top-level text allowed. -/
theorem C01_reachable_roundtrip_fragment (env : Env) (cs : List Forest.XCall) (hw : ∀ c ∈ cs, c.wellKinded)
    (hoff : ((⟨Forest.init, env⟩ : Store).xrun cs).forest.everOff = false)
    (r : HTree) (hr : r ∈ ((⟨Forest.init, env⟩ : Store).xrun cs).forest.roots)
    (hdoc : r.value.isDocument = true) (env' : Env) (henv : envOK env' = true)
    (hval : r.erase.allNodes (fun v _ => valueOK env' v) = true)
    (hid : (xmlIdValues env' r.erase).Nodup)
    (hwr : namesWritable env' r.erase [] = some true) :
    ∃ s p, toXmlString env' r.erase [] = .ok s ∧ parseString .fragment env' s = .ok p ∧
      p.tree = r.erase ∧ p.env = env' ∧ deepEqual p.tree r.erase = true :=
  C01_inv_roundtrip_fragment _ (C04_reach_ext env cs hw) hoff r hr hdoc env' henv hval hid hwr

/-- The instance the property talks about: the tables are the ones the
    history itself leaves in the store (`create_missing_prefixes` steps may have added prefixes). -/
theorem C01_reachable_roundtrip_store (env : Env) (cs : List Forest.XCall) (hw : ∀ c ∈ cs, c.wellKinded)
    (S : Store) (hS : S = (⟨Forest.init, env⟩ : Store).xrun cs) (hoff : S.forest.everOff = false)
    (r : HTree) (hr : r ∈ S.forest.roots) (hdoc : r.value.isDocument = true) (henv : envOK S.env = true)
    (hval : r.erase.allNodes (fun v _ => valueOK S.env v) = true)
    (hid : (xmlIdValues S.env r.erase).Nodup) (hone : singleRoot r.erase = true)
    (hwr : namesWritable S.env r.erase [] = some true) :
    ∃ s p, toXmlString S.env r.erase [] = .ok s ∧ parseString .document S.env s = .ok p ∧
      p.tree = r.erase ∧ p.env = S.env ∧ deepEqual p.tree r.erase = true := by
  subst hS
  exact C01_reachable_roundtrip env cs hw hoff r hr hdoc _ henv hval hid hone hwr

/-! Non-vacuity, closed: the 8-step history `reachDocCalls` of Props/C04.lean (`new_document`, `new_element`,
    `new_text`, `new_comment`, three `append`s, one `attributes_mut().insert`) from the empty store builds
    `<!--c--><e a="v">x</e>`; every hypothesis of `C01_reachable_roundtrip` holds by evaluation, the
    text is the one below, and it parses back to the erased tree. -/

def c01ReachText : Str := "<!--c--><e a=\"v\">x</e>".toList

/-- The store reached by `reachDocCalls`, evaluated once. -/
theorem reachDocRun_facts : (∀ c ∈ reachDocCalls, c.wellKinded) ∧
    ((⟨Forest.init, reachDocEnv⟩ : Store).xrun reachDocCalls).forest.everOff = false ∧
    ((⟨Forest.init, reachDocEnv⟩ : Store).xrun reachDocCalls).forest.roots = [reachDocRoot] ∧
    reachDocRoot.value.isDocument = true ∧ envOK reachDocEnv = true ∧
    reachDocRoot.erase.allNodes (fun v _ => valueOK reachDocEnv v) = true ∧
    (xmlIdValues reachDocEnv reachDocRoot.erase).Nodup ∧ singleRoot reachDocRoot.erase = true ∧
    namesWritable reachDocEnv reachDocRoot.erase [] = some true ∧
    toXmlString reachDocEnv reachDocRoot.erase [] = .ok c01ReachText := by
  unfold c01ReachText; rw [String.toList_ofList]; decide +kernel

example : (∀ c ∈ reachDocCalls, c.wellKinded) ∧
    ((⟨Forest.init, reachDocEnv⟩ : Store).xrun reachDocCalls).forest.everOff = false ∧
    ((⟨Forest.init, reachDocEnv⟩ : Store).xrun reachDocCalls).forest.roots = [reachDocRoot] ∧
    reachDocRoot.value.isDocument = true ∧ envOK reachDocEnv = true ∧
    reachDocRoot.erase.allNodes (fun v _ => valueOK reachDocEnv v) = true ∧
    (xmlIdValues reachDocEnv reachDocRoot.erase).Nodup ∧ singleRoot reachDocRoot.erase = true ∧
    namesWritable reachDocEnv reachDocRoot.erase [] = some true ∧
    toXmlString reachDocEnv reachDocRoot.erase [] = .ok c01ReachText :=
  reachDocRun_facts

/-- No step of this history touches the interning tables. -/
example : ((⟨Forest.init, reachDocEnv⟩ : Store).xrun reachDocCalls).env = reachDocEnv := rfl

example : ∃ p, parseString .document reachDocEnv c01ReachText = .ok p ∧ p.tree = reachDocRoot.erase ∧
    p.env = reachDocEnv ∧ deepEqual p.tree reachDocRoot.erase = true := by
  obtain ⟨hw, hoff, _, _, henv, hval, hid, hone, hwr, hser⟩ := reachDocRun_facts
  obtain ⟨s, p, h1, h2, h3, h4, h5⟩ := C01_reachable_roundtrip reachDocEnv reachDocCalls hw
    hoff reachDocRoot reachDocRoot_mem rfl reachDocEnv henv hval hid hone hwr
  rw [hser] at h1
  obtain rfl := Outcome.ok.inj h1
  exact ⟨p, h2, h3, h4, h5⟩

end EndToEnd

/-! ## END TO END, with the parser in the history: parse ∘ API edits ∘ serialise ∘ parse

The commonest use of the crate: parse a text, edit the tree through the API, serialise.  `PCall`
(Model/FparseHist.lean) is the history type that has BOTH kinds of step — `parse mode text` (reference tokenizer
+ builder on the interning tables of the store, the accepted tree installed as a new parentless tree,
`IdStore.parseInto`) and every extended API call.  Props/C04.lean proves the forest invariant for every such
history (`C04_reach_full`: the tree an accepted text installs IS valid, `C04_parsed_valid`) and reduces
`Representable` of every reachable tree to conditions on its values (`C01_reachable_representable_full`).
Composed with the round trip:

    parse(text), API calls  —erase→  tree  —to_string→  text'  —parse→  the same tree.

What remains as hypotheses are the VALUE-level conditions on the tree that is serialised (`envOK`, `valueOK`
at every node, distinct `xml:id` values, `singleRoot`, `namesWritable`).  For the UNEDITED document they are
consequences of acceptance outside the two recorded guards (`C01_parse_serialise`).  For EDITED trees:
`singleRoot`, distinct `xml:id`s and `namesWritable` can be destroyed by edits (append a second element to
the document node; copy an attribute `xml:id`; remove a declaration — `create_missing_prefixes` restores the
last one, `C10_reachable_repair_roundtrip`), so they are conditions on the result by nature.  `envOK` and
`valueOK` at every node are THEOREMS when "the values handed to the API are in the XML domain"
(`Forest.XCall.argValuesOK`, Model/FparseHist.lean, for the tables at the time of each call:
`Store.argValuesOKAlong`) — `C01_edited_values`: every value of the edited store is a value of the parsed tree,
a value handed to a call, a concatenation of text values (consolidation) or a declaration generated by
`create_missing_prefixes` (a namespace of a registered name under a generated NCName; needs `nameTableOK`:
every such namespace is declarable); value provenance for EVERY call of the forest model, Lemmas/FparseVals*.lean.
`C01_parse_edit_serialise_values` is the composition: acceptance outside the guards + arguments in the domain +
`singleRoot`, distinct `xml:id`s, `namesWritable` of the edited document ⇒ it round-trips. -/

section ParseEditSerialise
open XotModel.Repair

/-- **Every document a history of parses and API calls can build
    round-trips.**  For every history `cs` from `Xot::new()` — `parse` / `parse_fragment` of arbitrary texts
    and well-kinded extended API calls in any order (`C04_reach_full`) —, text consolidation never switched
    off, and every parentless tree `r` of the resulting forest whose root is a document node (a parsed
    document, edited or not; a document built by hand): if the tables are well formed (`envOK`), every
    node's own VALUE is in the XML domain (`valueOK`), the `xml:id` values are pairwise different, there is
    exactly one top-level element and no top-level text (`singleRoot`), and every namespaced name has a
    usable prefix in scope (`namesWritable`), then `to_string` succeeds, and `parse` of the text succeeds
    and returns EXACTLY that tree, the interning tables unchanged, `deep_equal`.  No structural
    hypothesis on the tree. -/
theorem C01_reachable_roundtrip_full (env : Env) (cs : List PCall) (hw : ∀ c ∈ cs, c.wellKinded)
    (hoff : ((PStore.init env).run cs).forest.everOff = false)
    (r : HTree) (hr : r ∈ ((PStore.init env).run cs).forest.roots)
    (hdoc : r.value.isDocument = true) (env' : Env) (henv : envOK env' = true)
    (hval : r.erase.allNodes (fun v _ => valueOK env' v) = true)
    (hid : (xmlIdValues env' r.erase).Nodup) (hone : singleRoot r.erase = true)
    (hwr : namesWritable env' r.erase [] = some true) :
    ∃ s p, toXmlString env' r.erase [] = .ok s ∧ parseString .document env' s = .ok p ∧
      p.tree = r.erase ∧ p.env = env' ∧ deepEqual p.tree r.erase = true :=
  C01_inv_roundtrip _ (C04_reach_full env cs hw).1 hoff r hr hdoc env' henv hval hid hone hwr

/-- The same for `parse_fragment`: any number of top-level elements, top-level text allowed. -/
theorem C01_reachable_roundtrip_full_fragment (env : Env) (cs : List PCall) (hw : ∀ c ∈ cs, c.wellKinded)
    (hoff : ((PStore.init env).run cs).forest.everOff = false)
    (r : HTree) (hr : r ∈ ((PStore.init env).run cs).forest.roots)
    (hdoc : r.value.isDocument = true) (env' : Env) (henv : envOK env' = true)
    (hval : r.erase.allNodes (fun v _ => valueOK env' v) = true)
    (hid : (xmlIdValues env' r.erase).Nodup)
    (hwr : namesWritable env' r.erase [] = some true) :
    ∃ s p, toXmlString env' r.erase [] = .ok s ∧ parseString .fragment env' s = .ok p ∧
      p.tree = r.erase ∧ p.env = env' ∧ deepEqual p.tree r.erase = true :=
  C01_inv_roundtrip_fragment _ (C04_reach_full env cs hw).1 hoff r hr hdoc env' henv hval hid hwr

/-- The instance the property talks about: the tables are the ones the
    history itself leaves in the store (parses intern names, prefixes and namespaces;
    `create_missing_prefixes` steps may add prefixes). -/
theorem C01_reachable_roundtrip_full_store (env : Env) (cs : List PCall) (hw : ∀ c ∈ cs, c.wellKinded)
    (S : PStore) (hS : S = (PStore.init env).run cs) (hoff : S.forest.everOff = false)
    (r : HTree) (hr : r ∈ S.forest.roots) (hdoc : r.value.isDocument = true) (henv : envOK S.env = true)
    (hval : r.erase.allNodes (fun v _ => valueOK S.env v) = true)
    (hid : (xmlIdValues S.env r.erase).Nodup) (hone : singleRoot r.erase = true)
    (hwr : namesWritable S.env r.erase [] = some true) :
    ∃ s p, toXmlString S.env r.erase [] = .ok s ∧ parseString .document S.env s = .ok p ∧
      p.tree = r.erase ∧ p.env = S.env ∧ deepEqual p.tree r.erase = true := by
  subst hS
  exact C01_reachable_roundtrip_full env cs hw hoff r hr hdoc _ henv hval hid hone hwr

/-- **Parse, edit, serialise.**  Parse an accepted text into `Xot::new()`, apply ANY
    well-kinded history of extended API calls to the store (arbitrary arguments, whatever the calls
    answer), serialise a document of the resulting store — in particular the parsed, now edited one —
    with the tables the store has by then: if the value-level conditions hold of the EDITED tree, the text
    parses back to exactly the edited tree.  (Acceptance of `text` is not even needed: a rejected text
    installs nothing, and the theorem is then about the documents the API calls built.) -/
theorem C01_parse_edit_serialise (env : Env) (text : Str) (cs : List Forest.XCall) (hw : ∀ c ∈ cs, c.wellKinded)
    (S : PStore) (hS : S = (PStore.init env).run (.parse .document text :: cs.map .api))
    (hoff : S.forest.everOff = false)
    (r : HTree) (hr : r ∈ S.forest.roots) (hdoc : r.value.isDocument = true) (henv : envOK S.env = true)
    (hval : r.erase.allNodes (fun v _ => valueOK S.env v) = true)
    (hid : (xmlIdValues S.env r.erase).Nodup) (hone : singleRoot r.erase = true)
    (hwr : namesWritable S.env r.erase [] = some true) :
    ∃ s p, toXmlString S.env r.erase [] = .ok s ∧ parseString .document S.env s = .ok p ∧
      p.tree = r.erase ∧ p.env = S.env ∧ deepEqual p.tree r.erase = true := by
  refine C01_reachable_roundtrip_full_store env _ ?_ S hS hoff r hr hdoc henv hval hid hone hwr
  intro c hc
  rcases List.mem_cons.mp hc with rfl | hc
  · trivial
  · obtain ⟨x, hx, rfl⟩ := List.mem_map.mp hc
    exact hw x hx

/-- What the parse step of `C01_parse_edit_serialise` contributes: for an ACCEPTED text the store the edits start
    from holds exactly the parsed document — handle 0, erasing to the builder's tree —, the builder's
    tables, consolidation on. -/
theorem C01_parse_edit_start (env : Env) (text : Str) (p : Parsed) (h : parseString .document env text = .ok p) :
    ((PStore.init env).run [.parse .document text]).forest.roots = [HTree.ofTree 0 p.tree] ∧
    (HTree.ofTree 0 p.tree).erase = p.tree ∧ (HTree.ofTree 0 p.tree).handle = 0 ∧
    ((PStore.init env).run [.parse .document text]).forest.everOff = false ∧
    ((PStore.init env).run [.parse .document text]).env = p.env ∧
    ∀ cs : List Forest.XCall, (PStore.init env).run (.parse .document text :: cs.map .api) =
      ((PStore.init env).run [.parse .document text]).run (cs.map .api) := by
  obtain ⟨h1, h2, h3⟩ := PStore.fph_parse_init env h
  exact ⟨h1, fph_erase_ofTree _ _, HTree.handle_ofTree _ _, h2, h3, fun _ => rfl⟩

/-- **The unedited document: no value-level hypothesis is left.**  A text accepted by
    `parse` on well-formed tables, outside the two recorded guards (`NoReservedDecls`: no declaration of
    the prefix `xml`, the known findings C03:xml-prefix-rebound-accepted / C03:not-representable-xml-prefix-
    rebound; `PlainPiTargets`: no colon in a PI target): the store then holds one document; its
    serialisation succeeds and parses back to exactly that tree (`C03_accepted_roundtrip`, here through the
    store). -/
theorem C01_parse_serialise (env : Env) (henv : envOK env = true) (text : Str) (p : Parsed)
    (h : parseString .document env text = .ok p) (hg : NoReservedDecls p.env p.tree = true)
    (hpi : PlainPiTargets p.env p.tree = true)
    (S : PStore) (hS : S = (PStore.init env).run [.parse .document text]) :
    ∃ r, S.forest.roots = [r] ∧ r.erase = p.tree ∧ S.env = p.env ∧
      ∃ s p', toXmlString S.env r.erase [] = .ok s ∧ parseString .document S.env s = .ok p' ∧
        p'.tree = r.erase ∧ p'.env = S.env ∧ deepEqual p'.tree r.erase = true := by
  obtain ⟨h1, h2, h3⟩ := PStore.fph_parse_init env h
  obtain ⟨c1, c2, c3, c4, c5⟩ := fph_accepted_value_conditions henv h hg hpi
  subst hS
  refine ⟨HTree.ofTree 0 p.tree, h1, fph_erase_ofTree _ _, h3, ?_⟩
  have hd : (HTree.ofTree 0 p.tree).value.isDocument = true := by
    rw [HTree.value_ofTree, fph_parsed_document h]; rfl
  refine C01_reachable_roundtrip_full env [.parse .document text] (fun _ _ => ?_) h2 _ (by rw [h1]; simp) hd _
    (by rw [h3]; exact c1) (by rw [h3, fph_erase_ofTree]; exact c2) (by rw [h3, fph_erase_ofTree]; exact c3)
    (by rw [fph_erase_ofTree]; exact c4) (by rw [h3, fph_erase_ofTree]; exact c5)
  rename_i c hc
  rcases List.mem_singleton.mp hc with rfl
  trivial

/-- **The values of an edited tree are in the XML domain when the values handed to the API
    are.**  A text accepted by `parse` on well-formed tables outside the two guards, every namespace of a
    registered name declarable (`nameTableOK` of the tables after the parse: what `create_missing_prefixes`
    may have to declare), then ANY well-kinded history of extended API calls whose argument values are in
    the domain of the tables at the time of the call (`Store.argValuesOKAlong`: the value of a created node,
    the entry of a map insertion, the strings of `set_text` / `set_comment` / `set_pi_data` / `set_text_content`,
    the names of `element_wrap` / `set_element_name`, the declarations handed to `clone_with_prefixes`):
    the tables of the resulting store are well formed (`envOK`; only the prefix table has grown since the
    parse) and EVERY node of EVERY tree of the store has a value in the domain of those tables — the
    hypotheses `henv`, `hval` of `C01_parse_edit_serialise`. -/
theorem C01_edited_values (env : Env) (henv : envOK env = true) (text : Str) (p : Parsed)
    (h : parseString .document env text = .ok p) (hg : NoReservedDecls p.env p.tree = true)
    (hpi : PlainPiTargets p.env p.tree = true) (htab : nameTableOK p.env = true)
    (cs : List Forest.XCall) (hw : ∀ c ∈ cs, c.wellKinded)
    (ha : ((PStore.init env).run [.parse .document text]).store.argValuesOKAlong cs)
    (S : PStore) (hS : S = (PStore.init env).run (.parse .document text :: cs.map .api)) :
    envOK S.env = true ∧ PrefixExt p.env S.env ∧
      ∀ r ∈ S.forest.roots, r.erase.allNodes (fun v _ => valueOK S.env v) = true := by
  subst hS
  exact fpvd_parse_then_edit henv h hg hpi htab cs hw ha

/-- Without `create_missing_prefixes` steps the tables stay the parser's: the condition on the arguments
    is a condition for those tables, stated once. -/
theorem C01_edited_values_static (env : Env) (henv : envOK env = true) (text : Str) (p : Parsed)
    (h : parseString .document env text = .ok p) (hg : NoReservedDecls p.env p.tree = true)
    (hpi : PlainPiTargets p.env p.tree = true) (htab : nameTableOK p.env = true)
    (cs : List Forest.XCall) (hw : ∀ c ∈ cs, c.wellKinded)
    (hne : ∀ c ∈ cs, ∀ n, c ≠ .createMissingPrefixes n) (ha : ∀ c ∈ cs, c.argValuesOK p.env)
    (S : PStore) (hS : S = (PStore.init env).run (.parse .document text :: cs.map .api)) :
    envOK S.env = true ∧ ∀ r ∈ S.forest.roots, r.erase.allNodes (fun v _ => valueOK S.env v) = true := by
  have h3 : ((PStore.init env).run [.parse .document text]).store.env = p.env := (PStore.fph_parse_init env h).2.2
  obtain ⟨h1, _, h2⟩ := C01_edited_values env henv text p h hg hpi htab cs hw
    (Store.fpvd_argValuesOKAlong_static cs _ hne (by rw [h3]; exact ha)) S hS
  exact ⟨h1, h2⟩

/-- **Parse, edit with values of the XML domain, serialise.**  What is left as
    hypothesis on the EDITED document `r` is what edits can destroy and no argument condition can
    guarantee: one top-level element and no top-level text (`singleRoot`), pairwise different `xml:id`
    values, a usable prefix in scope for every namespaced name (`namesWritable`; `create_missing_prefixes`
    as last step establishes it) — and that consolidation was never switched off.  Then `to_string`
    succeeds and `parse` returns exactly the edited tree. -/
theorem C01_parse_edit_serialise_values (env : Env) (henv : envOK env = true) (text : Str) (p : Parsed)
    (h : parseString .document env text = .ok p) (hg : NoReservedDecls p.env p.tree = true)
    (hpi : PlainPiTargets p.env p.tree = true) (htab : nameTableOK p.env = true)
    (cs : List Forest.XCall) (hw : ∀ c ∈ cs, c.wellKinded)
    (ha : ((PStore.init env).run [.parse .document text]).store.argValuesOKAlong cs)
    (S : PStore) (hS : S = (PStore.init env).run (.parse .document text :: cs.map .api))
    (hoff : S.forest.everOff = false)
    (r : HTree) (hr : r ∈ S.forest.roots) (hdoc : r.value.isDocument = true)
    (hid : (xmlIdValues S.env r.erase).Nodup) (hone : singleRoot r.erase = true)
    (hwr : namesWritable S.env r.erase [] = some true) :
    ∃ s p', toXmlString S.env r.erase [] = .ok s ∧ parseString .document S.env s = .ok p' ∧
      p'.tree = r.erase ∧ p'.env = S.env ∧ deepEqual p'.tree r.erase = true := by
  obtain ⟨h1, _, h2⟩ := C01_edited_values env henv text p h hg hpi htab cs hw ha S hS
  exact C01_parse_edit_serialise env text cs hw S hS hoff r hr hdoc h1 (h2 r hr) hid hone hwr

/-! Non-vacuity, closed (`decide +kernel`), from the tables of `Xot::new()` (`Env.fresh`): the histories `fullCalls`
    / `fullCallsB` of Props/C04.lean.  PARSE `<r xmlns:p="urn:a"><p:a>t</p:a></r>`, create a NEW ELEMENT `{urn:a}a`
    and APPEND it to `r`, SET AN ATTRIBUTE `p:a="v"` on it, `CREATE_MISSING_PREFIXES` on the document, SERIALISE,
    REPARSE.  In `fullCallsB` the declaration of `p` is removed first (and a rejected text is parsed in
    between): the repair invents `n0`, the text differs, the round trip holds all the same.  Every hypothesis
    of `C01_parse_edit_serialise` holds by evaluation. -/

def c01FullText : Str := "<r xmlns:p=\"urn:a\"><p:a>t</p:a><p:a p:a=\"v\"/></r>".toList
def c01FullTextB : Str := "<r xmlns:n0=\"urn:a\"><n0:a>t</n0:a><n0:a n0:a=\"v\"/></r>".toList
def c01FullEdits : List Forest.XCall :=
  [.newNode (.element 3), .call (.append 1 5), .call (.mapInsert .attributes 5 (.attribute 3 ['v'])),
   .createMissingPrefixes 0]

example : fullCalls = .parse .document fullText :: c01FullEdits.map .api := rfl

/-- The store reached by `fullCalls`, evaluated once. -/
theorem fullRun_facts :
    let S := (PStore.init Env.fresh).run fullCalls
    (∀ c ∈ c01FullEdits, c.wellKinded) ∧ S.forest.everOff = false ∧ S.forest.roots = [fullRoot] ∧
    fullRoot.value.isDocument = true ∧ envOK S.env = true ∧
    fullRoot.erase.allNodes (fun v _ => valueOK S.env v) = true ∧
    (xmlIdValues S.env fullRoot.erase).Nodup ∧ singleRoot fullRoot.erase = true ∧
    namesWritable S.env fullRoot.erase [] = some true ∧
    toXmlString S.env fullRoot.erase [] = .ok c01FullText := by
  unfold c01FullText
  rw [String.toList_ofList, fullRun_eq]
  decide +kernel

example :
    let S := (PStore.init Env.fresh).run fullCalls
    (∀ c ∈ c01FullEdits, c.wellKinded) ∧ S.forest.everOff = false ∧ S.forest.roots = [fullRoot] ∧
    fullRoot.value.isDocument = true ∧ envOK S.env = true ∧
    fullRoot.erase.allNodes (fun v _ => valueOK S.env v) = true ∧
    (xmlIdValues S.env fullRoot.erase).Nodup ∧ singleRoot fullRoot.erase = true ∧
    namesWritable S.env fullRoot.erase [] = some true ∧
    toXmlString S.env fullRoot.erase [] = .ok c01FullText := fullRun_facts

/-- The edited document parses back to exactly the edited tree: `C01_parse_edit_serialise` instantiated. -/
example : ∃ p, parseString .document ((PStore.init Env.fresh).run fullCalls).env c01FullText = .ok p ∧
    p.tree = fullRoot.erase ∧ p.env = ((PStore.init Env.fresh).run fullCalls).env ∧
    deepEqual p.tree fullRoot.erase = true := by
  obtain ⟨hw, hoff, _, hdoc, henv, hval, hid, hone, hwr, hser⟩ := fullRun_facts
  obtain ⟨s, p, h1, h2, h3, h4, h5⟩ := C01_parse_edit_serialise Env.fresh fullText c01FullEdits hw
    ((PStore.init Env.fresh).run fullCalls) rfl hoff fullRoot fullRoot_mem hdoc henv hval hid hone hwr
  rw [hser] at h1
  obtain rfl := Outcome.ok.inj h1
  exact ⟨p, h2, h3, h4, h5⟩

/-- … and by evaluation of the parser on the serialised text. -/
example : (match parseString .document ((PStore.init Env.fresh).run fullCalls).env c01FullText with
    | .ok p => p.tree == fullRoot.erase | _ => false) = true := by
  have h : c01FullText = _ := String.toList_ofList
  rewrite [h, fullRun_eq]
  decide +kernel

/-- `fullCallsB`: declaration removed, a rejected parse in between, the repair invents `n0`. -/
theorem fullRunB_facts :
    let S := (PStore.init Env.fresh).run fullCallsB
    (∀ c ∈ fullCallsB, c.wellKinded) ∧ S.forest.everOff = false ∧ S.forest.roots = [fullRootB] ∧
    envOK S.env = true ∧ fullRootB.erase.allNodes (fun v _ => valueOK S.env v) = true ∧
    (xmlIdValues S.env fullRootB.erase).Nodup ∧ singleRoot fullRootB.erase = true ∧
    namesWritable S.env fullRootB.erase [] = some true ∧
    toXmlString S.env fullRootB.erase [] = .ok c01FullTextB := by
  unfold c01FullTextB
  rw [String.toList_ofList, fullRunB_eq]
  decide +kernel

example :
    let S := (PStore.init Env.fresh).run fullCallsB
    (∀ c ∈ fullCallsB, c.wellKinded) ∧ S.forest.everOff = false ∧ S.forest.roots = [fullRootB] ∧
    envOK S.env = true ∧ fullRootB.erase.allNodes (fun v _ => valueOK S.env v) = true ∧
    (xmlIdValues S.env fullRootB.erase).Nodup ∧ singleRoot fullRootB.erase = true ∧
    namesWritable S.env fullRootB.erase [] = some true ∧
    toXmlString S.env fullRootB.erase [] = .ok c01FullTextB := fullRunB_facts

example : ∃ p, parseString .document ((PStore.init Env.fresh).run fullCallsB).env c01FullTextB = .ok p ∧
    p.tree = fullRootB.erase ∧ deepEqual p.tree fullRootB.erase = true := by
  obtain ⟨_, hoff, _, henv, hval, hid, hone, hwr, hser⟩ := fullRunB_facts
  obtain ⟨s, p, h1, h2, h3, _, h5⟩ := C01_reachable_roundtrip_full_store Env.fresh fullCallsB fullCallsB_wellKinded
    ((PStore.init Env.fresh).run fullCallsB) rfl hoff fullRootB fullRootB_mem rfl henv hval hid hone hwr
  rw [hser] at h1
  obtain rfl := Outcome.ok.inj h1
  exact ⟨p, h2, h3, h5⟩

/-- `fullText` is accepted from the tables of `Xot::new()` inside both guards, and the tables after the parse are
    `nameTableOK`: the parse is evaluated here for the two examples that follow. -/
theorem fullText_accepted : ∃ p, parseString .document Env.fresh fullText = .ok p ∧
    NoReservedDecls p.env p.tree = true ∧ PlainPiTargets p.env p.tree = true ∧ nameTableOK p.env = true := by
  have h : (match parseString .document Env.fresh fullText with
      | .ok p => NoReservedDecls p.env p.tree && PlainPiTargets p.env p.tree && nameTableOK p.env
      | _ => false) = true := by decide +kernel
  cases hp : parseString .document Env.fresh fullText with
  | ok p =>
    rw [hp] at h
    simp only [Bool.and_eq_true] at h
    exact ⟨p, rfl, h.1.1, h.1.2, h.2⟩
  | err e env' => rw [hp] at h; cases h
  | panic => rw [hp] at h; cases h

/-- The unedited document (`C01_parse_serialise`): `fullText` is accepted from `Xot::new()`'s tables inside both
    guards; no value-level hypothesis is left. -/
example : ∃ p, parseString .document Env.fresh fullText = .ok p ∧ NoReservedDecls p.env p.tree = true ∧
    PlainPiTargets p.env p.tree = true ∧ envOK Env.fresh = true :=
  let ⟨p, hp, h1, h2, _⟩ := fullText_accepted
  ⟨p, hp, h1, h2, by decide +kernel⟩

/-- `C01_parse_edit_serialise_values` instantiated at `fullCalls` (parse, new element, append, set attribute,
    `create_missing_prefixes`): the text is accepted inside the guards, the tables after the parse are
    `nameTableOK`, the values handed to the three editing calls are in the domain of the tables at the time
    (`Store.argValuesOKAlong`), consolidation was never off, the edited document has one root, no `xml:id`
    twice, writable names — so it serialises and parses back to itself.  No `valueOK` / `envOK` hypothesis
    on the edited tree is evaluated. -/
example : ∃ s p', toXmlString ((PStore.init Env.fresh).run fullCalls).env fullRoot.erase [] = .ok s ∧
    parseString .document ((PStore.init Env.fresh).run fullCalls).env s = .ok p' ∧ p'.tree = fullRoot.erase := by
  obtain ⟨p, hp, hg, hpi, htab⟩ := fullText_accepted
  -- the two values handed in, each in the tables of its moment
  have hv : let S0 := ((PStore.init Env.fresh).run [.parse .document fullText]).store
      valueOK S0.env (.element 3) = true ∧
      valueOK ((S0.xstep (.newNode (.element 3))).xstep (.call (.append 1 5))).env (.attribute 3 ['v']) = true := by
    rw [run_fullText]
    decide +kernel
  have ha : ((PStore.init Env.fresh).run [.parse .document fullText]).store.argValuesOKAlong c01FullEdits :=
    ⟨hv.1, trivial, hv.2, trivial, trivial⟩
  obtain ⟨hw, hoff, _, hdoc, _, _, hid, hone, hwr, _⟩ := fullRun_facts
  obtain ⟨s, p', h1, h2, h3, _, _⟩ := C01_parse_edit_serialise_values Env.fresh (by decide +kernel) fullText p hp
    hg hpi htab c01FullEdits hw ha ((PStore.init Env.fresh).run fullCalls) rfl
    hoff fullRoot fullRoot_mem hdoc hid hone hwr
  exact ⟨s, p', h1, h2, h3⟩

end ParseEditSerialise

/-! ## NON-DEFAULT TOKEN PARAMETERS: `unescaped_gt`, CDATA-section elements

`xml::Parameters { cdata_section_elements, unescaped_gt, .. }` change how TEXT NODES are written and nothing
else (`XmlSerializer::render_output`, `Output::Text` arm): a text child of a listed element is written by
`serialize_cdata` — one or more `<![CDATA[…]]>` sections, cut between `]]` and `>` of every `]]>` and at every
carriage return, which stands BETWEEN two sections as the reference `&#xD;` —, any other text node by
`serialize_text(unescaped_gt)`.  The tokenizer returns several CDATA (and `&#xD;` text) tokens for such a run;
the builder (`Cdata` / `Text` arms of `Xot::_parse`: CDATA content becomes text, neighbouring character data
is consolidated) makes ONE text node of it.  The proof transports the default round trip along "same spelling
up to the character data runs" (`NSNode.Resp`, Lemmas/SerOptDefs.lean); pretty printing, XML declaration and
doctype are C14's. -/

section Params

/-! ### Character level -/

/-- `unescaped_gt = true`: the text still decodes to the value — a raw `>` is read back as `>`. -/
theorem C01_text_unescaped_gt (s : Str) : parseText (serializeText true s) = .ok s :=
  gt_text_roundtrip s

/-- … and the output contains neither a raw `<` nor the sequence `]]>`: the `>` of a `]]>` IS escaped. -/
theorem C01_text_unescaped_gt_lexsafe (s : Str) :
    '<' ∉ serializeText true s ∧ hasCdataEnd (serializeText true s) = false := by
  refine ⟨?_, gt_no_cdata_end s⟩
  unfold serializeText
  simp only [if_true]
  rw [serializeTextGtGo_eq]
  simpa using gtOut_hides (c := '<') (by decide) (by decide) (by decide) s []

/-- What `serialize_text(unescaped_gt = true)` writes, as a spelling: one piece per character
    (`gtPieces`, Lemmas/SerOptDefs.lean) — a `>` is the literal `>` unless the OUTPUT written so far ends with
    `]]` (the code's `result.chars().rev().take(2)`), in which case it is `&gt;`; every other character as
    without the flag.  It renders to the serialised text, denotes the value and is well spelled. -/
theorem C01_text_unescaped_gt_spelling (s : Str) :
    renderPieces (gtPieces [] s) = serializeText true s ∧ valueOf false (gtPieces [] s) = s ∧
      WellSpelled (gtPieces [] s) :=
  ⟨renderPieces_txtPieces true s, valueOf_gtPieces s [], wellSpelled_gtPieces s []⟩

/-- The same rule on the INPUT (`gtIn`, Lemmas/RoundTripParams.lean: `rin` = the characters read so far,
    reversed): a `>` is written `&gt;` exactly when the two characters of the text before it are `]]`, raw
    otherwise — the output ends with `]]` iff the input read so far does. -/
theorem C01_text_unescaped_gt_input (s : Str) : serializeText true s = gtIn [] s :=
  serializeText_true_input s

example : serializeText true "a]]>b>c".toList = "a]]&gt;b>c".toList := by
  rw [String.toList_ofList, String.toList_ofList]; decide +kernel
example : serializeText true "]>]]]>>".toList = "]>]]]&gt;>".toList := by
  rw [String.toList_ofList, String.toList_ofList]; decide +kernel
example : serializeText false "a]]>b>c".toList = "a]]&gt;b&gt;c".toList := by
  rw [String.toList_ofList, String.toList_ofList]; decide +kernel

/-- `serialize_cdata s` is the canonical rendering of the token run `cdataTokens s`: CDATA tokens and
    `&#xD;` text tokens, beginning with a CDATA token, no two text tokens in a row; for a text of XML
    characters every token meets the tokenizer's side condition, and the run denotes `s` for the builder. -/
theorem C01_cdata_run (s : Str) (hs : s.all isXmlChar = true) :
    renderTokens (cdataTokens s) = serializeCdata s ∧ GoodRun (cdataTokens s) ∧
    (∃ t rest, cdataPartsGo [] s = .cd t noSpan :: rest) ∧
    partsValue (cdataPartsGo [] s) = s ∧ (∀ p ∈ cdataPartsGo [] s, p.Well) ∧
    (∀ ps st, SPart.txt ps st ∈ cdataPartsGo [] s → SPart.txt ps st = crPart) :=
  ⟨renderTokens_cdataTokens s, cdataTokens_goodRun s hs, cdataPartsGo_head [] s,
   by simpa using partsValue_cdataPartsGo s [] (by simp), cdataPartsGo_well s [], cdataPartsGo_txt s []⟩

/-- **Which characters a section carries**: XML characters of the text, written as they are (no escaping
    exists inside a section), never the sequence `]]>` (the run is cut inside it), never a carriage return
    (it would be read back as a line feed: it is the reference between two sections). -/
theorem C01_cdata_sections_carry (s : Str) (hs : s.all isXmlChar = true) (t j : StrSpan)
    (hm : SPart.cd t j ∈ cdataPartsGo [] s) :
    t.text.all isXmlChar = true ∧ hasCdataEnd t.text = false ∧ '\r' ∉ t.text ∧ ∀ c ∈ t.text, c ∈ s :=
  cdata_sections_carry s hs t j hm

/-- A character that is no XML character cannot be written: `serialize_cdata` puts it raw into a section
    (as `serialize_text` puts it raw into the text), and that token violates the tokenizer's side condition
    (`Representable` excludes such texts; the rt suite's `non-xml-char` mutation shows the reparse fail). -/
theorem C01_cdata_nonXmlChar_unwritable (s : Str) (c : Char) (hc : c ∈ s) (hx : isXmlChar c = false) :
    ∃ k ∈ cdataTokens s, k.lexOK = false :=
  cdata_nonXmlChar_unwritable s c hc hx

example : serializeCdata "a]]>b>c".toList = "<![CDATA[a]]]]><![CDATA[>b>c]]>".toList := by
  rw [String.toList_ofList, String.toList_ofList]; decide +kernel
example : cdataTokens "a]]>b>c".toList =
    [.cdata (sp0 "a]]".toList) noSpan, .cdata (sp0 ">b>c".toList) noSpan] := by
  rw [String.toList_ofList, String.toList_ofList, String.toList_ofList]; decide +kernel
example : cdataTokens "]]\r>".toList =
    [.cdata (sp0 "]]".toList) noSpan, .text (sp0 "&#xD;".toList), .cdata (sp0 ">".toList) noSpan] := by
  rw [String.toList_ofList, String.toList_ofList, String.toList_ofList, String.toList_ofList]; decide +kernel

/-! ### Tree level -/

/-- `serialize_xml_string` under ANY token parameters, any start node, is the canonical rendering of
    `serTokensAtO` (Lemmas/SerOptDefs.lean), failing together with the same error — the extension of
    `C01_serialised_is_rendering_at` to CDATA-section elements. -/
theorem C01_serialised_is_rendering_params (env : Env) (pr : TokenParams) (t : Tree) (start : Path)
    (hx : env.prefixStr Env.xmlPrefix ≠ []) (ht : t.allNodes (declsNamed env) = true) :
    serializeString env pr t start =
      (match serTokensAtO env pr t start with
       | .ok ts => .ok (renderTokens ts)
       | .error e => .err e) :=
  serializeString_serTokensAtO env pr t start hx ht

/-- `serTokensAtO` differs from `serTokensAt` in the text nodes only: a text leaf whose parent is a listed
    element (`cd = true`) contributes the run `cdataTokens`, any other ONE text token
    `serialize_text(unescaped_gt)`. -/
theorem C01_text_node_tokens (env : Env) (pr : TokenParams) (inScope : List (Nat × Nat)) (isTop : Bool)
    (s : FStack) (str : Str) :
    serNodeO env pr inScope isTop s true (.node (.text str) []) = .ok (cdataTokens str) ∧
    serNodeO env pr inScope isTop s false (.node (.text str) []) =
      .ok [.text (sp0 (serializeText pr.unescapedGt str))] := by
  rw [serNodeO_text_leaf, serNodeO_text_leaf, textTokens_cdata, textTokens_plain]
  exact ⟨rfl, rfl⟩

/-- `parse`: for EVERY token parameter set, every table set and every
    representable document: if `serialize_xml_string` succeeds, `parse` of the string succeeds and returns
    the ORIGINAL tree, id for id — in particular ONE text node with the original content where several
    CDATA sections were written —, tables unchanged, `deep_equal`. -/
theorem C01_roundtrip_params (env : Env) (pr : TokenParams) (t : Tree) (hr : Representable env t = true)
    (s : Str) (hs : serializeString env pr t [] = .ok s) :
    ∃ p, parseString .document env s = .ok p ∧ p.tree = t ∧ p.env = env ∧ deepEqual p.tree t = true := by
  obtain ⟨_, _, p, _, _, _, _, _, h1, h2, h3, h4⟩ := params_roundtrip_full env pr hr hs
  exact ⟨p, h1, h2, h3, h4⟩

/-- `parse_fragment` (several top-level elements, top-level text — never CDATA: a text node directly under
    the document node has no element parent). -/
theorem C01_roundtrip_params_fragment (env : Env) (pr : TokenParams) (t : Tree)
    (hr : RepresentableFragment env t = true) (s : Str) (hs : serializeString env pr t [] = .ok s) :
    ∃ p, parseString .fragment env s = .ok p ∧ p.tree = t ∧ p.env = env ∧ deepEqual p.tree t = true := by
  obtain ⟨_, _, p, _, _, _, _, _, h1, h2, h3, h4⟩ := params_roundtrip_full_fragment env pr hr hs
  exact ⟨p, h1, h2, h3, h4⟩

/-- `unescaped_gt = true`. -/
theorem C01_roundtrip_unescaped_gt (env : Env) (t : Tree) (hr : Representable env t = true) (s : Str)
    (hs : serializeString env { unescapedGt := true } t [] = .ok s) :
    ∃ p, parseString .document env s = .ok p ∧ p.tree = t ∧ p.env = env ∧ deepEqual p.tree t = true :=
  C01_roundtrip_params env _ t hr s hs

/-- Any list `cd` of CDATA-section elements (`unescaped_gt` on or off).  With the
    intermediate stations: the string is the rendering of `serTokensAtO` (text children of listed elements
    = `cdataTokens`); the reference tokenizer returns exactly these tokens, several CDATA tokens per such
    text node, up to byte positions; the builder gives back the original tree. -/
theorem C01_roundtrip_cdata (env : Env) (cd : List Nat) (ugt : Bool) (t : Tree)
    (hr : Representable env t = true) (s : Str)
    (hs : serializeString env { cdataSectionElements := cd, unescapedGt := ugt } t [] = .ok s) :
    ∃ ts ts' p, serTokensAtO env { cdataSectionElements := cd, unescapedGt := ugt } t [] = .ok ts ∧
      s = renderTokens ts ∧ lexDocument s = (ts', none) ∧ ts'.map Token.erase = ts.map Token.erase ∧
      parseString .document env s = .ok p ∧ p.tree = t ∧ p.env = env ∧ deepEqual p.tree t = true := by
  obtain ⟨ts, ts', p, h1, h2, _, h4, h5, h6, h7, h8, h9⟩ := params_roundtrip_full env _ hr hs
  exact ⟨ts, ts', p, h1, h2, h4, h5, h6, h7, h8, h9⟩

/-- The parameters never decide about success: `serialize_xml_string` succeeds iff `to_string` does, iff
    every namespaced name has a usable prefix in scope. -/
theorem C01_params_serialises (env : Env) (pr : TokenParams) (t : Tree)
    (hr : RepresentableFragment env t = true) :
    (∃ s, serializeString env pr t [] = .ok s) ↔ namesWritable env t [] = some true :=
  options_serialises env pr hr

/-- The property as one statement on the tree, for every parameter set. -/
theorem C01_roundtrip_params_writable (env : Env) (pr : TokenParams) (t : Tree)
    (hr : Representable env t = true) (hw : namesWritable env t [] = some true) :
    ∃ s p, serializeString env pr t [] = .ok s ∧ parseString .document env s = .ok p ∧ p.tree = t ∧
      p.env = env ∧ deepEqual p.tree t = true := by
  have hfrag := representableFragment_of_representable env hr
  obtain ⟨s, hs⟩ := (C01_params_serialises env pr t hfrag).mpr hw
  obtain ⟨p, h1, h2, h3, h4⟩ := C01_roundtrip_params env pr t hr s hs
  exact ⟨s, p, hs, h1, h2, h3, h4⟩

/-- End to end under any token parameters: every document an API history can build (hypotheses as in
    `C01_reachable_roundtrip`: value-level conditions and writable names only) serialises, and the text
    parses back to exactly that tree. -/
theorem C01_reachable_roundtrip_params (env : Env) (pr : TokenParams) (cs : List Forest.XCall)
    (hw : ∀ c ∈ cs, c.wellKinded)
    (hoff : ((⟨Forest.init, env⟩ : Store).xrun cs).forest.everOff = false)
    (r : HTree) (hr : r ∈ ((⟨Forest.init, env⟩ : Store).xrun cs).forest.roots)
    (hdoc : r.value.isDocument = true) (env' : Env) (henv : envOK env' = true)
    (hval : r.erase.allNodes (fun v _ => valueOK env' v) = true)
    (hid : (xmlIdValues env' r.erase).Nodup) (hone : singleRoot r.erase = true)
    (hwr : namesWritable env' r.erase [] = some true) :
    ∃ s p, serializeString env' pr r.erase [] = .ok s ∧ parseString .document env' s = .ok p ∧
      p.tree = r.erase ∧ p.env = env' ∧ deepEqual p.tree r.erase = true :=
  C01_roundtrip_params_writable env' pr r.erase
    (Reach.representable_root_of_values (C04_reach_ext env cs hw) hoff hr henv hdoc hval hid hone) hwr

/-! Non-vacuity, closed (tables `c01Env`: name 4 = `k`, name 5 = `t`, both in no namespace): the text
    `a]]>b>c` under the listed element `k` and under the unlisted element `t`. -/

def c01ParamDoc : Tree :=
  .node .document [.node (.element 5) [
    .node (.element 4) [.node (.text ['a', ']', ']', '>', 'b', '>', 'c']) []],
    .node (.element 5) [.node (.text ['a', ']', ']', '>', 'b', '>', 'c']) []]]]

def c01Params : TokenParams := { cdataSectionElements := [4], unescapedGt := true }

/-- listed: two sections, cut between `]]` and `>`; unlisted with `unescaped_gt`: only the `>` of `]]>`
    is escaped. -/
def c01ParamText : Str := "<t><k><![CDATA[a]]]]><![CDATA[>b>c]]></k><t>a]]&gt;b>c</t></t>".toList

theorem c01ParamDoc_representable : Representable c01Env c01ParamDoc = true := by decide +kernel
theorem c01ParamDoc_serialises : serializeString c01Env c01Params c01ParamDoc [] = .ok c01ParamText := by
  unfold c01ParamText; rw [String.toList_ofList]; decide +kernel

example : Representable c01Env c01ParamDoc = true := c01ParamDoc_representable
example : serializeString c01Env c01Params c01ParamDoc [] = .ok c01ParamText := c01ParamDoc_serialises
example : serializeString c01Env { cdataSectionElements := [4] } c01ParamDoc [] =
    .ok "<t><k><![CDATA[a]]]]><![CDATA[>b>c]]></k><t>a]]&gt;b&gt;c</t></t>".toList := by
  rw [String.toList_ofList]; decide +kernel
example : serializeString c01Env { unescapedGt := true } c01ParamDoc [] =
    .ok "<t><k>a]]&gt;b>c</k><t>a]]&gt;b>c</t></t>".toList := by
  rw [String.toList_ofList]; decide +kernel
example : toXmlString c01Env c01ParamDoc [] =
    .ok "<t><k>a]]&gt;b&gt;c</k><t>a]]&gt;b&gt;c</t></t>".toList := by
  rw [String.toList_ofList]; decide +kernel

/-- The tokens: two CDATA tokens for the text under `k`, one text token for the text under `t`. -/
example : (serTokensAtO c01Env c01Params c01ParamDoc []).toOption = some
    [.elementStart (sp0 []) (sp0 ['t']) noSpan, .elementEnd .open noSpan,
     .elementStart (sp0 []) (sp0 ['k']) noSpan, .elementEnd .open noSpan,
     .cdata (sp0 "a]]".toList) noSpan, .cdata (sp0 ">b>c".toList) noSpan,
     .elementEnd (.close (sp0 []) (sp0 ['k'])) noSpan,
     .elementStart (sp0 []) (sp0 ['t']) noSpan, .elementEnd .open noSpan,
     .text (sp0 "a]]&gt;b>c".toList),
     .elementEnd (.close (sp0 []) (sp0 ['t'])) noSpan,
     .elementEnd (.close (sp0 []) (sp0 ['t'])) noSpan] := by
  rw [String.toList_ofList, String.toList_ofList, String.toList_ofList]; decide +kernel

/-- Closed: the text parses back to the document — ONE text node `a]]>b>c` under `k`. -/
example : ∃ p, parseString .document c01Env c01ParamText = .ok p ∧ p.tree = c01ParamDoc ∧ p.env = c01Env ∧
    deepEqual p.tree c01ParamDoc = true :=
  C01_roundtrip_params c01Env c01Params c01ParamDoc c01ParamDoc_representable c01ParamText c01ParamDoc_serialises

example : ∃ p, parseString .document c01Env "<t><k>a]]&gt;b>c</k><t>a]]&gt;b>c</t></t>".toList = .ok p ∧
    p.tree = c01ParamDoc ∧ p.env = c01Env ∧ deepEqual p.tree c01ParamDoc = true :=
  C01_roundtrip_unescaped_gt c01Env c01ParamDoc c01ParamDoc_representable _
    (by rw [String.toList_ofList]; decide +kernel)

example : ∃ ts ts' p, serTokensAtO c01Env { cdataSectionElements := [4], unescapedGt := false } c01ParamDoc [] = .ok ts ∧
    "<t><k><![CDATA[a]]]]><![CDATA[>b>c]]></k><t>a]]&gt;b&gt;c</t></t>".toList = renderTokens ts ∧
    lexDocument "<t><k><![CDATA[a]]]]><![CDATA[>b>c]]></k><t>a]]&gt;b&gt;c</t></t>".toList = (ts', none) ∧
    ts'.map Token.erase = ts.map Token.erase ∧
    parseString .document c01Env "<t><k><![CDATA[a]]]]><![CDATA[>b>c]]></k><t>a]]&gt;b&gt;c</t></t>".toList = .ok p ∧
    p.tree = c01ParamDoc ∧ p.env = c01Env ∧ deepEqual p.tree c01ParamDoc = true :=
  C01_roundtrip_cdata c01Env [4] false c01ParamDoc c01ParamDoc_representable _
    (by rw [String.toList_ofList]; decide +kernel)

end Params

end XotModel.Props

/-! ## PI targets with a colon: the property as one statement on the widened domain, and a closed witness outside
    `Representable` (`<?a:b x?><r><?c:d?></r>`) -/

namespace XotModel.Props
open XotModel XotModel.Gen XotModel.Witness

/-- `parse`: a document of the widened domain - PI targets with a colon allowed - every
    namespaced name of which has a usable prefix in scope serialises, and the text parses back to the SAME tree,
    tables unchanged; `deep_equal`.  (Twin of `C01_roundtrip_writable`.) -/
theorem C01_roundtrip_pi_colon (env : Env) (t : Tree) (hr : RepresentablePi env t = true)
    (hw : namesWritable env t [] = some true) :
    ∃ s p, toXmlString env t [] = .ok s ∧ parseString .document env s = .ok p ∧ p.tree = t ∧ p.env = env ∧
      deepEqual p.tree t = true :=
  C01_roundtrip_writable_pi_colon env t hr hw

/-- `parse_fragment`: the same for any well-formed content under the document node. -/
theorem C01_roundtrip_pi_colon_fragment (env : Env) (t : Tree) (hr : RepresentableFragmentPi env t = true)
    (hw : namesWritable env t [] = some true) :
    ∃ s p, toXmlString env t [] = .ok s ∧ parseString .fragment env s = .ok p ∧ p.tree = t ∧ p.env = env ∧
      deepEqual p.tree t = true := by
  obtain ⟨s, hs⟩ := (C01_serialises_pi_colon env t hr).mpr hw
  obtain ⟨p, h1, h2, h3, h4⟩ := C01_roundtrip_fragment_identical_pi_colon env t hr s hs
  exact ⟨s, p, hs, h1, h2, h3, h4⟩

/-- The widened domain contains the original one: every `C01_x` above is `C01_x_pi_colon` at such a tree. -/
theorem C01_representable_pi_of_representable (env : Env) (t : Tree) (h : Representable env t = true) :
    RepresentablePi env t = true :=
  PiColon.representable_of env t h

/-- Non-vacuity OUTSIDE `Representable`, closed: the tree the parser builds from `<?a:b x?><r><?c:d?></r>` (tables of
    `Xot::new()`) is not `Representable` (the targets `a:b`, `c:d` are no NCNames) but `RepresentablePi`; it
    serialises to that very text, and the text parses back to the same tree, tables unchanged. -/
example : ∃ p, parseString .document Env.fresh piColonText = .ok p ∧ Representable p.env p.tree = false ∧
    RepresentablePi p.env p.tree = true ∧ namesWritable p.env p.tree [] = some true ∧
    toXmlString p.env p.tree [] = .ok piColonText ∧
    ∃ p', parseString .document p.env piColonText = .ok p' ∧ p'.tree = p.tree ∧ p'.env = p.env ∧
      deepEqual p'.tree p.tree = true := by
  obtain ⟨p, h, _, _, hnr, hr, hs⟩ := piColon_spec
  have hfrag : RepresentableFragmentPi p.env p.tree = true :=
    PiColon.representableFragment_of_representable _ hr
  have hw := (C01_serialises_pi_colon p.env p.tree hfrag).mp ⟨_, hs⟩
  obtain ⟨s', p', h1, h2, h3, h4, h5⟩ := C01_roundtrip_pi_colon p.env p.tree hr hw
  rw [hs] at h1
  obtain rfl := Outcome.ok.inj h1
  exact ⟨p, h, hnr, hr, hw, hs, p', h2, h3, h4, h5⟩

/-! ## Documents built with the convenience calls

  `C01_reachable_roundtrip` for histories mixing the calls of `Op` with the convenience calls (`Forest.COp`:
  `new_document_with_element`, `append_text`, `append_element`, `set_attribute`, `set_namespace`, …;
  `creationRun`, `C04_reach_creation`, `C01_reachable_creation_representable` in Props/C04.lean).  No side
  condition on the history beyond consolidation never having been switched off; the value-level hypotheses
  are the same as there. -/

/-- Every document such a history reaches, if its values are in the XML domain
    and its names are writable, serialises, and the text parses back to exactly that tree. -/
theorem C01_reachable_creation_roundtrip (ops : List (Op ⊕ Forest.COp))
    (hoff : (creationRun ops).everOff = false)
    (r : HTree) (hr : r ∈ (creationRun ops).roots)
    (hdoc : r.value.isDocument = true) (env' : Env) (henv : envOK env' = true)
    (hval : r.erase.allNodes (fun v _ => valueOK env' v) = true)
    (hid : (xmlIdValues env' r.erase).Nodup) (hone : singleRoot r.erase = true)
    (hwr : namesWritable env' r.erase [] = some true) :
    ∃ s p, toXmlString env' r.erase [] = .ok s ∧ parseString .document env' s = .ok p ∧
      p.tree = r.erase ∧ p.env = env' ∧ deepEqual p.tree r.erase = true :=
  C01_inv_roundtrip _ (C04_reach_creation ops) hoff r hr hdoc env' henv hval hid hone hwr

/-- The same for `parse_fragment`: any number of top-level elements, top-level text allowed. -/
theorem C01_reachable_creation_roundtrip_fragment (ops : List (Op ⊕ Forest.COp))
    (hoff : (creationRun ops).everOff = false)
    (r : HTree) (hr : r ∈ (creationRun ops).roots)
    (hdoc : r.value.isDocument = true) (env' : Env) (henv : envOK env' = true)
    (hval : r.erase.allNodes (fun v _ => valueOK env' v) = true)
    (hid : (xmlIdValues env' r.erase).Nodup)
    (hwr : namesWritable env' r.erase [] = some true) :
    ∃ s p, toXmlString env' r.erase [] = .ok s ∧ parseString .fragment env' s = .ok p ∧
      p.tree = r.erase ∧ p.env = env' ∧ deepEqual p.tree r.erase = true :=
  C01_inv_roundtrip_fragment _ (C04_reach_creation ops) hoff r hr hdoc env' henv hval hid hwr

/-! Non-vacuity, closed: `new_element; new_document_with_element; append_text "x"; set_attribute a="v";
    append_comment "c"` (all but the first are convenience calls) over the tables `reachDocEnv` of Props/C04.lean
    reaches the one document `<e a="v">x</e><!--c-->`; every hypothesis evaluates to true, the text parses back. -/

def creationDocOps : List (Op ⊕ Forest.COp) :=
  [.inl (.newElement 0), .inr (.newDocumentWithElement 0), .inr (.appendNew 0 (.text ['x'])),
   .inr (.setAttribute 0 2 ['v']), .inr (.appendNew 1 (.comment ['c']))]
def creationDocRoot : HTree :=
  .node 1 .document [.node 0 (.element 0) [.node 3 (.attribute 2 ['v']) [], .node 2 (.text ['x']) []],
    .node 4 (.comment ['c']) []]
def creationDocText : Str := "<e a=\"v\">x</e><!--c-->".toList
theorem creationDocRoot_mem : creationDocRoot ∈ (creationRun creationDocOps).roots := by
  have : (creationRun creationDocOps).roots = [creationDocRoot] := by decide +kernel
  rw [this]; exact List.mem_singleton.mpr rfl

example : ∃ p, parseString .document reachDocEnv creationDocText = .ok p ∧ p.tree = creationDocRoot.erase ∧
    p.env = reachDocEnv ∧ deepEqual p.tree creationDocRoot.erase = true := by
  obtain ⟨s, p, h1, h2, h3, h4, h5⟩ := C01_reachable_creation_roundtrip creationDocOps (by decide +kernel)
    creationDocRoot creationDocRoot_mem rfl reachDocEnv (by decide +kernel) (by decide +kernel)
    (by decide +kernel) (by decide +kernel) (by decide +kernel)
  have hser : toXmlString reachDocEnv creationDocRoot.erase [] = .ok creationDocText := by
    unfold creationDocText; rw [String.toList_ofList]; decide +kernel
  rw [hser] at h1
  obtain rfl := Outcome.ok.inj h1
  exact ⟨p, h2, h3, h4, h5⟩

end XotModel.Props
