/-
  C02 — Parsing yields exactly the document the text denotes.  Property theorems only.

  Proved for every input (no bound):
    C02_content           decoding of every well-spelled piece list (literals, the five named
                          entities, decimal / hex references to XML characters with case and
                          leading zeros, CR / CRLF line ends, attribute-value normalisation)
                          gives the denoted value
    C02_xmlid             normalize_xml_id = strip all leading / trailing spaces + collapse runs
    C02_xmlid_expanded    an attribute whose EXPANDED name is xml:id is stored (node, seen ids, id
                          index) normalised whatever prefix spells it; _only: no other attribute is;
                          _spelled: the same on spellings (feeds C02_spelled_ns_*).  As of /repo 6153ddf
                          only the prefix `xml` can be bound to the XML namespace, so the parser reaches
                          them through `xml:id` alone (closed example: another prefix is refused)
    C02_cdata_line_ends   a CDATA part contributes its content with CR LF / CR turned into LF
    C02_empty_cdata       an empty CDATA section changes nothing at all
    C02_namespace_uri     a declaration that is not reserved registers the DECODED attribute value as
                          namespace; C02_namespace_reserved: a reserved one (`C02_reserved_iff`: prefix
                          `xmlns`, another prefix than `xml` for the XML namespace name, anything for the
                          xmlns namespace name, `xmlns:p=""`; tested on the decoded value) is refused with
                          InvalidNamespaceDeclaration(name as written, name span), nothing interned;
                          C02_reserved_not_well: no well-formed spelling contains one.  `xmlns:xml='zzz'`
                          is accepted (known finding C03:xml-prefix-rebound-accepted)
    C02_pi_target_xml     a processing instruction whose target is `xml` in any letter case is refused
                          with InvalidTarget(target, target span) (/repo 002854f)
    C02_local_xmlns       only an unprefixed `xmlns` (or the `xmlns:` prefix) is a declaration
    C02_merge, C02_scope_nearest / _base / _unprefixed_attribute   builder-side pieces of merging
                          and XML-Namespaces scoping
    C02_scope_invariant, C02_scope_strings, C02_scope_element, C02_scope_attribute   for EVERY token
                          list: the id-level prefix lookup is "nearest enclosing declaration wins" on
                          the declared (decoded) prefix / URI STRINGS
    C02_spelled_fragment / C02_spelled_document   TREE LEVEL, documents without namespaces: for every
                          abstract document and every spelling of it (pieces, CDATA interleaving,
                          empty-element tags, all positions) `parse_fragment` / `parse` on its tokens
                          yields exactly that document
    C02_fragment_spelled  parse_fragment(t) and parse(<w>t</w>) read back as the same content
    C02_spelled_ns_fragment / C02_spelled_ns_document   TREE LEVEL, documents WITH namespaces: for every
                          spelling with prefixes and namespace declarations (`NSNode`) that the builder's
                          rules admit (`WellNsDoc`), `parse_fragment` / `parse` on its tokens yields a tree
                          that reads back (`decodeNs`) as exactly the abstract document with expanded
                          names, declarations and attributes that XML-Namespaces scoping gives (`denote`;
                          comment text and PI data with line ends normalised).  `WellNsDoc` / `Well`
                          exclude reserved declarations and the PI target `xml`
    C02_fragment_spelled_ns   the same relation between parse_fragment(t) and parse(<w>t</w>) with namespaces
    C02_positions_irrelevant  byte positions and whole-token spans of the tokens do not influence the
                          tree, the interning tables or the id map a parse returns, nor whether it fails -
                          for lists in which every empty prefix has offset 0 (`tokensPrefixOk`: the ONE
                          position xot reads, as of /repo a5fafb0: `check_qname`; true of every accepted
                          list, every erased list and every layout the tokenizer reads back);
                          `_erased`: the erased list decides; closed counterexample without the hypothesis
    C02_lexical_layout / _fragment / _document / _prolog / _declaration / _bom   ON STRINGS, through the
                          reference tokenizer (Model/Lex*.lean, tied to xmlparser by the `lex` suite): for
                          every well-formed spelling and EVERY layout of its tokens — either quote per
                          attribute, any white space (blank, TAB, LF, CR) before attributes, around `=`,
                          before `>` / `/>`, in end tags, in PIs, between and after the top-level items,
                          XML declaration (any layout, version 1.0) or not, BOM or not — `parse` /
                          `parse_fragment` of the TEXT returns exactly the denoted document
    C02_lexical_line_ends line ends inside tags are white space
    C02_comment_line_ends_normalised   in every builder state a comment token / a PI token adds a node
                          whose text / data is the token's with CR LF and lone CR turned into LF (XML 1.0
                          2.11; /repo f8655b7), so it holds no CR and is the text as written when that has none
  Closed examples (token lists of the real tokenizer, replayed on the implementation by the
  `build` suite) accompany each of them.
-/
import XotModel.Lemmas.ParseContent
import XotModel.Lemmas.Parse
import XotModel.Lemmas.ParseWitnessData
import XotModel.Lemmas.ParseSpell
import XotModel.Lemmas.ParseScope
import XotModel.Lemmas.ParseNs
import XotModel.Lemmas.ParseNsCheck
import XotModel.Lemmas.ParseErase
import XotModel.Lemmas.LexFreeTop
import XotModel.Lemmas.LexFreeExample
import XotModel.Lemmas.BytesDecode
import XotModel.Lemmas.BytesBait
import XotModel.Lemmas.C02Spellings
import XotModel.Lemmas.LineEnds
import XotModel.Lemmas.SpellFromNs

namespace XotModel.Props
open XotModel XotModel.Witness

/-- `parse_content` decodes every well-spelled piece list to the value it denotes,
    for text and for attribute values. -/
theorem C02_content (attr : Bool) (ps : List Piece) (h : WellSpelled ps) :
    parseContent attr (renderPieces ps) = .ok (valueOf attr ps) :=
  parse_pieces attr 0 ps 0 h

/-- The form in which the builder calls it (`parse_text(content, content.start())`). -/
theorem C02_content_at (attr : Bool) (base : Nat) (ps : List Piece) (h : WellSpelled ps) :
    parseContentGo attr base 0 (renderPieces ps) = .ok (valueOf attr ps) :=
  parse_pieces attr base ps 0 h

/-- Non-vacuity: `a&lt;&#x0041;&#66;` + CR LF + a bare CR + TAB is well spelled; as text it is
    `a<AB` LF LF TAB, as an attribute value `a<AB` and three spaces. -/
example : WellSpelled [.lit 'a', .named ['l', 't'], .hex [(0, false), (0, false), (4, false), (1, false)],
    .dec [6, 6], .crlf, .cr, .lit '\t'] := by
  refine ⟨⟨by decide +kernel, by decide +kernel⟩, ⟨by decide +kernel, (fun r h => by cases h), by decide +kernel⟩, ⟨by decide +kernel, by decide +kernel, by decide +kernel⟩,
    ⟨by decide +kernel, by decide +kernel, by decide +kernel⟩, trivial, by decide +kernel, ⟨by decide +kernel, by decide +kernel⟩, trivial⟩

example : valueOf false [.lit 'a', .named ['l', 't'], .hex [(0, false), (0, false), (4, false), (1, false)],
    .dec [6, 6], .crlf, .cr, .lit '\t'] = ['a', '<', 'A', 'B', '\n', '\n', '\t'] := by decide +kernel

example : valueOf true [.lit 'a', .named ['l', 't'], .hex [(0, false), (0, false), (4, false), (1, false)],
    .dec [6, 6], .crlf, .cr, .lit '\t'] = ['a', '<', 'A', 'B', ' ', ' ', ' '] := by decide +kernel

/-! ### xml:id -/

/-- `normalize_xml_id` is the normalisation of https://www.w3.org/TR/xml-id/#id-avn. -/
theorem C02_xmlid (s : Str) : normalizeXmlId s = xmlIdSpec s :=
  normalizeXmlId_spec s

example : normalizeXmlId [' ', ' ', 'x', ' ', ' ', 'y', ' '] = ['x', ' ', 'y'] := by decide +kernel

/-- `<a xml:id='  x   y '/>`: the attribute node carries `x y` (name id 1 = xml:id). -/
example : (build .document idSpacesLen Env.fresh idSpaces none).flat =
    some [(0, .document), (1, .element 2), (2, .attribute 1 ['x', ' ', 'y'])] := by
  rw [build_eq_buildE]; decide +kernel

/-- Builder level: an attribute whose name RESOLVES to the name id of xml:id
    — expanded name (XML namespace, `id`), whatever prefix is written — is stored normalised:
    attribute node, `seen_ids` and the `xml_id_node` index all get `normalize_xml_id(value)`.
    (As of /repo 6153ddf `DocumentBuilder::prefix` refuses to bind another prefix than `xml` to the
    XML namespace, so from a parse the hypothesis is met by `xml:id` only; the statement itself does
    not depend on that.) -/
theorem C02_xmlid_expanded (stack : NsStack) (node : Path) (st : AttrLoop) (ab : AttributeBuilder)
    (rest : List AttributeBuilder) (env1 : Env)
    (hname : attributeNameId st.env stack ab.pfx ab.name ab.prefixSpan = .ok (env1, Env.xmlIdName))
    (hnew : ¬ Env.xmlIdName ∈ st.seenNames)
    (hfresh : ¬ normalizeXmlId ab.value ∈ st.seenIds) :
    addAttributes stack node st (ab :: rest) =
      addAttributes stack node
        { env := env1, seenIds := normalizeXmlId ab.value :: st.seenIds,
          idNodes := insertId st.idNodes (normalizeXmlId ab.value) node,
          seenNames := st.seenNames ++ [Env.xmlIdName],
          rkids := .node (.attribute Env.xmlIdName (normalizeXmlId ab.value)) [] :: st.rkids,
          aspans := st.aspans ++ [(Env.xmlIdName, ab.nameSpan, ab.valueSpan)] } rest := by
  have hc : st.seenNames.contains Env.xmlIdName = false := by simpa using hnew
  have hf : st.seenIds.contains (normalizeXmlId ab.value) = false := by simpa using hfresh
  rw [addAttributes]
  simp only [hname, hc, Bool.false_eq_true, if_false, xmlIdValue, BEq.rfl, if_true, hf, Bool.and_false]

/-- … and any other attribute is stored as decoded (also one WRITTEN `xml:id` whose prefix `xml`
    is — against Namespaces in XML — bound to another namespace). -/
theorem C02_xmlid_expanded_only (stack : NsStack) (node : Path) (st : AttrLoop) (ab : AttributeBuilder)
    (rest : List AttributeBuilder) (env1 : Env) (n : Nat)
    (hname : attributeNameId st.env stack ab.pfx ab.name ab.prefixSpan = .ok (env1, n))
    (hn : n ≠ Env.xmlIdName) (hnew : ¬ n ∈ st.seenNames) :
    addAttributes stack node st (ab :: rest) =
      addAttributes stack node
        { env := env1, seenIds := st.seenIds, idNodes := st.idNodes, seenNames := st.seenNames ++ [n],
          rkids := .node (.attribute n ab.value) [] :: st.rkids,
          aspans := st.aspans ++ [(n, ab.nameSpan, ab.valueSpan)] } rest := by
  have hc : st.seenNames.contains n = false := by simpa using hnew
  have hb : (n == Env.xmlIdName) = false := by simpa using hn
  rw [addAttributes]
  simp only [hname, hc, Bool.false_eq_true, if_false, xmlIdValue, hb, Bool.false_and]

/-- `C02_xmlid_expanded` at spelling level (what `C02_spelled_ns_*` return for such an attribute): an
    attribute whose prefix is bound to the XML namespace and whose local name is `id` denotes the
    expanded name (XML namespace, `id`) with the value stripped and collapsed. -/
theorem C02_xmlid_expanded_spelled (scope : Scope) (a : NSAttr) (hp : scope.attrNs a.pfx.text = xmlNsUri)
    (hl : a.loc.text = ['i', 'd']) :
    a.denote scope = ((xmlNsUri, ['i', 'd']), xmlIdSpec (valueOf true a.pieces)) := by
  simp only [NSAttr.denote, NSAttr.value, hp, hl, BEq.rfl, if_true, normalizeXmlId_spec]

/-- `<a xmlns:p='http://www.w3.org/XML/1998/namespace' p:id='  x   y '/>`, an xml:id written through
    another prefix: refused at the declaration (span of the name `xmlns:p`), see `C02_namespace_reserved`.
    Through the prefix `xml` itself: the example after `C02_xmlid` and `spelledTwinExample` below. -/
example : (build .document idViaOtherPrefixLen Env.fresh idViaOtherPrefix none).err? =
    some (.invalidNamespaceDeclaration ['x', 'm', 'l', 'n', 's', ':', 'p'] ⟨3, 10⟩) := by
  rw [build_eq_buildE]; decide +kernel

/-! ### CDATA -/

/-- A non-empty CDATA token adds its content with `CR LF` and `CR` replaced
    by `LF` (and nothing else decoded) to the current text run. -/
theorem C02_cdata_line_ends (b : Builder) (t : StrSpan) (h : t.text ≠ []) :
    b.cdata t = .ok { (b.addText (replaceCr (replaceCrLf t.text))).1 with
      spans := (b.addText (replaceCr (replaceCrLf t.text))).1.spans.extendText
        (b.addText (replaceCr (replaceCrLf t.text))).2 t.span } := by
  unfold Builder.cdata
  cases ht : t.text with
  | nil => exact absurd ht h
  | cons c cs => rfl

example : replaceCr (replaceCrLf ['x', '\r', '\n', 'y', '\r', 'z', '\r', '\r', '\n']) =
    ['x', '\n', 'y', '\n', 'z', '\n', '\n'] := by decide +kernel

/-- `<a><![CDATA[x CR LF y]]></a>`: the text node is `x LF y`. -/
example : (build .document cdataCrLfLen Env.fresh cdataCrLf none).flat =
    some [(0, .document), (1, .element 2), (2, .text ['x', '\n', 'y'])] := by
  rw [build_eq_buildE]; decide +kernel

/-- An empty CDATA section is skipped entirely (no node, no span). -/
theorem C02_empty_cdata (b : Builder) (start : Nat) (sp : StrSpan) : b.step (.cdata ⟨[], start⟩ sp) = .ok b := rfl

/-- `<a><![CDATA[]]></a>`: no text node. -/
example : (build .document emptyCdataLen Env.fresh emptyCdata none).flat =
    some [(0, .document), (1, .element 2)] := by
  rw [build_eq_buildE]; decide +kernel

/-! ### Namespace declarations -/

/-- The namespace a declaration binds is the DECODED attribute value
    (`parse_attribute(value, value.start())`), registered after the prefix — unless the declaration
    is a reserved one (`C02_namespace_reserved`). -/
theorem C02_namespace_uri (b : Builder) (eb : ElementBuilder) (pfx : Str) (uri : StrSpan) (sp : Span) (u : Str)
    (heb : b.eb = some eb) (hdec : parseContentGo true uri.start 0 uri.text = .ok u)
    (hres : reservedDecl pfx u = false)
    (hnew : (eb.namespaces.any fun d => d.1 == (b.env.internPrefix pfx).2) = false) :
    b.prefix pfx uri sp = .ok { b with
      env := ((b.env.internPrefix pfx).1.internNamespace u).1,
      eb := some { eb with namespaces := eb.namespaces ++
        [((b.env.internPrefix pfx).2, ((b.env.internPrefix pfx).1.internNamespace u).2)] } } := by
  unfold Builder.prefix
  rw [hdec]
  simp only [hres, heb, hnew, Bool.false_eq_true, if_false]

/-- A reserved declaration — judged on the prefix as written and the DECODED
    value — is refused with `InvalidNamespaceDeclaration` (the attribute name as written, its span);
    nothing is interned, whatever the builder state. -/
theorem C02_namespace_reserved (b : Builder) (pfx : Str) (uri : StrSpan) (sp : Span) (u : Str)
    (hdec : parseContentGo true uri.start 0 uri.text = .ok u) (hres : reservedDecl pfx u = true) :
    b.prefix pfx uri sp = .err (.invalidNamespaceDeclaration (declDisplayName pfx) sp) b.env := by
  unfold Builder.prefix
  rw [hdec]
  simp only [hres, if_true]

/-- Which declarations are reserved (Namespaces in XML 1.0, sections 3 and 2.2 /
    errata NE05): the prefix `xmlns`; the XML namespace name for another prefix than `xml` (the
    default namespace included); the xmlns namespace name for anything; the empty URI for a
    non-empty prefix other than `xml`.  (`xmlns:xml` with ANY value is not: known finding.) -/
theorem C02_reserved_iff (pfx uri : Str) :
    reservedDecl pfx uri = true ↔
      pfx = ['x', 'm', 'l', 'n', 's'] ∨ (pfx ≠ ['x', 'm', 'l'] ∧ uri = xmlNamespaceUri) ∨ uri = xmlnsNamespaceUri ∨
      (pfx ≠ [] ∧ pfx ≠ ['x', 'm', 'l'] ∧ uri = []) := by
  simp only [reservedDecl, Bool.or_eq_true, Bool.and_eq_true, beq_iff_eq, bne_iff_ne, ne_eq,
    Bool.not_eq_true', List.isEmpty_iff, or_assoc]
  constructor <;> intro h <;> rcases h with h | h | h | h <;> simp_all

/-- A start tag with a reserved declaration is not a well-formed spelling
    (the second clause of `attrsWellNs`), in any scope. -/
theorem C02_reserved_not_well {scope : Scope} {attrs : List NSAttr} (d : Str × Str) (hd : d ∈ declsOf attrs)
    (hres : reservedDecl d.1 d.2 = true) : ¬ attrsWellNs scope attrs :=
  fun h => absurd (h.2.1 d hd) (by simp [hres])

/-- `<a xmlns:p='x&amp;y'/>`: the namespace registered is `x&y`. -/
example : (build .document uriRefLen Env.fresh uriRef none).namespaces.getLast? = some ['x', '&', 'y'] := by
  rw [build_eq_buildE]; decide +kernel

/-- The reserved shapes `<a xmlns:xmlns='u'/>`, `<a xmlns='http://www.w3.org/2000/xmlns/'/>`,
    `<a xmlns:p=''/>` (spellings with their byte positions: Lemmas/C02Spellings.lean) are no
    well-formed spellings … -/
example : ¬ WellNsDoc declXmlnsPrefix ∧ ¬ WellNsDoc declXmlnsUri ∧ ¬ WellNsDoc declEmptyUri :=
  ⟨fun h => C02_reserved_not_well (['x', 'm', 'l', 'n', 's'], ['u']) (by decide +kernel) (by decide +kernel) h.1.1.1,
   fun h => C02_reserved_not_well ([], xmlnsNamespaceUri) (by decide +kernel) (by decide +kernel) h.1.1.1,
   fun h => C02_reserved_not_well (['p'], []) (by decide +kernel) (by decide +kernel) h.1.1.1⟩

/-- … and `parse` refuses their tokens at the name of the declaration. -/
example : (build .document declXmlnsPrefixLen Env.fresh (NSNode.tokens.tokensList declXmlnsPrefix) none).err? =
    some (.invalidNamespaceDeclaration ['x', 'm', 'l', 'n', 's', ':', 'x', 'm', 'l', 'n', 's'] ⟨3, 14⟩) := by
  rw [build_eq_buildE]; decide +kernel
example : (build .document declXmlnsUriLen Env.fresh (NSNode.tokens.tokensList declXmlnsUri) none).err? =
    some (.invalidNamespaceDeclaration ['x', 'm', 'l', 'n', 's'] ⟨3, 8⟩) := by
  rw [build_eq_buildE]; decide +kernel
example : (build .document declEmptyUriLen Env.fresh (NSNode.tokens.tokensList declEmptyUri) none).err? =
    some (.invalidNamespaceDeclaration ['x', 'm', 'l', 'n', 's', ':', 'p'] ⟨3, 10⟩) := by
  rw [build_eq_buildE]; decide +kernel

/-- `<a xmlns:xml='zzz'/>` is a well-formed spelling and parses (namespace node: prefix
    id 1 = `xml` ↦ namespace id 2 = `zzz`): known finding C03:xml-prefix-rebound-accepted. -/
example : WellNsDoc declXmlRebound := wellNsDocB_sound _ (by decide +kernel)
example : (build .document declXmlReboundLen Env.fresh (NSNode.tokens.tokensList declXmlRebound) none).flat =
    some [(0, .document), (1, .element 2), (2, .namespace 1 2)] := by
  rw [build_eq_buildE]; decide +kernel

/-- An attribute token is a namespace declaration only if its prefix is `xmlns`
    or it is the unprefixed `xmlns`; every other attribute — also `p:xmlns` — is an attribute. -/
theorem C02_local_xmlns (b : Builder) (p l v sp : StrSpan) (hp : p.text ≠ ['x', 'm', 'l', 'n', 's'])
    (hne : p.text ≠ []) : b.step (.attribute p l v sp) = b.attribute p l v := by
  have h1 : (p.text == ['x', 'm', 'l', 'n', 's']) = false := by simpa using hp
  have h2 : p.text.isEmpty = false := by cases hpt : p.text <;> simp_all
  simp [Builder.step, h1, h2, StrSpan.bareColon]

/-- `<a xmlns:p='u' p:xmlns='v'/>`: `a` stays in no namespace (name id 2 = (`a`, namespace 0)) and
    gets an attribute node `{u}xmlns = v`. -/
example : (build .document localXmlnsLen Env.fresh localXmlns none).flat =
    some [(0, .document), (1, .element 2), (2, .namespace 2 2), (2, .attribute 3 ['v'])] := by
  rw [build_eq_buildE]; decide +kernel

/-- A well-formed text with every kind of spelling:
    `<p:a xmlns:p='u' b='x&#10;y'><!--c-->t&lt;<![CDATA[c]]></p:a>`. -/
example : (build .document goodDocLen Env.fresh goodDoc none).flat =
    some [(0, .document), (1, .element 2), (2, .namespace 2 2), (2, .attribute 3 ['x', '\n', 'y']),
      (2, .comment ['c']), (2, .text ['t', '<', 'c'])] := by
  rw [build_eq_buildE]; decide +kernel

/-! ### Merging and scoping at builder level -/

/-- Builder side: feeding two pieces of character data one after the other yields the
    same single text node (same path) as feeding their concatenation.  That a run of text and CDATA
    tokens becomes one text node holding the concatenation of the parts is part of `C02_spelled_fragment`. -/
theorem C02_merge (b : Builder) (c1 c2 : Str) : (b.addText c1).1.addText c2 = b.addText (c1 ++ c2) :=
  addText_addText b c1 c2

/-- Nearest declaration wins: a prefix is looked up on the element's own start tag
    first, then on the enclosing elements. -/
theorem C02_scope_nearest (d : List (Nat × Nat)) (st : NsStack) (p : Nat) :
    lookupPrefix (d :: st) p = (match findInDecls p d with | some ns => some ns | none => lookupPrefix st p) :=
  lookupPrefix_cons d st p

/-- `xml` is bound to the XML namespace and the empty prefix to no namespace at the outset. -/
theorem C02_scope_base (env : Env) :
    lookupPrefix (Builder.new env).nsStack Env.xmlPrefix = some Env.xmlNamespace ∧
    lookupPrefix (Builder.new env).nsStack Env.emptyPrefix = some Env.noNamespace :=
  ⟨lookup_xml_new env, lookup_default_new env⟩

/-- An unprefixed attribute is in no namespace, whatever the default namespace is. -/
theorem C02_scope_unprefixed_attribute (env : Env) (stack : NsStack) (name : Str) (sp : Span)
    (h : env.prefixes.head? = some []) :
    attributeNameId env stack [] name sp = .ok (env.internName name Env.noNamespace) :=
  attributeNameId_unprefixed env stack name sp h

example : Env.fresh.prefixes.head? = some [] := rfl

/-! ### Scoping on strings: names are resolved by XML-Namespaces scoping, for EVERY token list

`strStack env stack` reads the builder's namespace stack back as frames of (prefix, URI) strings —
one frame per open element, holding the declarations its start tag wrote, decoded — and `lookupStr`
is "the nearest enclosing declaration of this prefix wins". -/

/-- The invariant holds in every state the token loop reaches from a duplicate-free `Env`. -/
theorem C02_scope_invariant {env : Env} (hp : env.prefixes.Nodup) (hn : env.namespaces.Nodup)
    (h2p : 2 ≤ env.prefixes.length) (h2n : 2 ≤ env.namespaces.length)
    (ts : List Token) (lexErr : Option Nat) (b : Builder) (hr : (Builder.new env).run ts lexErr = .ok b) :
    ScopeOk b :=
  run_scopeOk ts lexErr (scopeOk_new hp hn h2p h2n) hr

/-- The namespace id a prefix resolves to names the URI string that scoping gives. -/
theorem C02_scope_strings {env : Env} (hn : env.prefixes.Nodup) (p : Str) (stack : NsStack) (hs : StackValid env stack) :
    (lookupPrefix stack (env.internPrefix p).2).map env.namespaceStr = lookupStr (strStack env stack) p :=
  lookupPrefix_str hn p stack hs

/-- An element is named (local name as written, namespace = what scoping gives for its prefix as
    written over its own and its ancestors' declarations). -/
theorem C02_scope_element {b : Builder} (h : ScopeOk b) (eb : ElementBuilder) (heb : b.eb = some eb)
    {env1 : Env} {id : Nat}
    (hname : elementNameId b.env (eb.namespaces :: b.nsStack) eb.pfx eb.name eb.prefixSpan = .ok (env1, id)) :
    ∃ nid, env1.names[id]? = some (eb.name, nid) ∧
      some (b.env.namespaceStr nid) = lookupStr (strStack b.env (eb.namespaces :: b.nsStack)) eb.pfx :=
  elementNameId_str h (fun d hd => by
    simp only [List.mem_cons] at hd
    rcases hd with rfl | hd
    · exact h.eb eb heb
    · exact h.stack d hd) hname

/-- An attribute: unprefixed = no namespace (whatever the default namespace is), prefixed = scoping. -/
theorem C02_scope_attribute {b : Builder} (h : ScopeOk b) {stack : NsStack} (hs : StackValid b.env stack)
    {pfx name : Str} {sp : Span} {env1 : Env} {id : Nat} (hp0 : b.env.prefixes.head? = some [])
    (hname : attributeNameId b.env stack pfx name sp = .ok (env1, id)) :
    ∃ nid, env1.names[id]? = some (name, nid) ∧ (pfx = [] → nid = Env.noNamespace) ∧
      (pfx ≠ [] → some (b.env.namespaceStr nid) = lookupStr (strStack b.env stack) pfx) :=
  attributeNameId_str h hs hp0 hname

example : Env.fresh.prefixes.Nodup ∧ Env.fresh.namespaces.Nodup := by decide +kernel

/-! ### C02_spelled: every spelling of every namespace-free document parses to that document

`SNode` is a spelling (Lemmas/ParseSpellDefs.lean): which pieces spell each attribute value and each
run of character data, where CDATA sections (possibly empty, possibly with CR / CR LF) are
interleaved, `<a/>` or `<a></a>`, every byte position and every whole-token span (all arbitrary).
`denote` is the abstract document (`PNode`) it stands for, `tokens` what a tokenizer makes of
it.  The result is read back through the interning tables the parse leaves behind. -/

/-- `parse_fragment`: the children of the document node, read back, are exactly the denoted nodes. -/
theorem C02_spelled_fragment {env : Env} (h : EnvBase env) (len : Nat) (sns : List SNode)
    (hw : SNode.Well.wellList sns) (hadj : noAdjChars sns = true) :
    ∃ p, build .fragment len env (SNode.tokens.tokensList sns) none = .ok p ∧
      p.tree.value = .document ∧
      decodeTree.decodeList p.env p.tree.kids = some ((SNode.denote.denoteList sns).map Sum.inr) := by
  obtain ⟨p, hb, ht, he⟩ := build_fragment_spelled h len sns hw hadj
  refine ⟨p, hb, by rw [ht]; rfl, ?_⟩
  rw [ht, he]
  exact decodeList_encodeList _ env _ (EnvExt.refl _)

/-- `parse`: the same, when the denoted top level has exactly one element and no text. -/
theorem C02_spelled_document {env : Env} (h : EnvBase env) (len : Nat) (sns : List SNode)
    (hw : SNode.Well.wellList sns) (hadj : noAdjChars sns = true)
    (htop : AbstractTop (SNode.denote.denoteList sns)) :
    ∃ p, build .document len env (SNode.tokens.tokensList sns) none = .ok p ∧
      p.tree.value = .document ∧
      decodeTree.decodeList p.env p.tree.kids = some ((SNode.denote.denoteList sns).map Sum.inr) := by
  obtain ⟨p, hb, ht, he⟩ := build_document_spelled h len sns hw hadj (wellFormedTop_of_abstract htop)
  refine ⟨p, hb, by rw [ht]; rfl, ?_⟩
  rw [ht, he]
  exact decodeList_encodeList _ env _ (EnvExt.refl _)

/-- Namespace-free spellings: `parse_fragment` of a text and `parse` of the same text
    wrapped in one element `<w>…</w>` denote the same content — the fragment's nodes read back as
    `ds`, the wrapped document reads back as the single element `w` with children `ds`. -/
theorem C02_fragment_spelled {env : Env} (h : EnvBase env) (len len' : Nat) (sns : List SNode)
    (hw : SNode.Well.wellList sns) (hadj : noAdjChars sns = true)
    (w : StrSpan) (pstart : Nat) (junk openSp : StrSpan) (cw : StrSpan) (cpstart : Nat) (closeSp : StrSpan)
    (hcw : cw.text = w.text) (hps : pstart = 0) (hcps : cpstart = 0) :
    ∃ p pw, build .fragment len env (SNode.tokens.tokensList sns) none = .ok p ∧
      build .document len' env (SNode.elem w pstart junk [] openSp sns cw cpstart closeSp).tokens none = .ok pw ∧
      decodeTree.decodeList p.env p.tree.kids = some ((SNode.denote.denoteList sns).map Sum.inr) ∧
      decodeTree.decodeList pw.env pw.tree.kids =
        some [Sum.inr (.elem w.text [] (SNode.denote.denoteList sns))] := by
  obtain ⟨p, hp, _, hdp⟩ := C02_spelled_fragment h len sns hw hadj
  have hwell : SNode.Well.wellList [SNode.elem w pstart junk [] openSp sns cw cpstart closeSp] :=
    ⟨⟨⟨fun a ha => by simp at ha, List.nodup_nil⟩, hcw, hadj, hw, hps, hcps⟩, trivial⟩
  obtain ⟨pw, hpw, _, hdw⟩ := C02_spelled_document h len' [SNode.elem w pstart junk [] openSp sns cw cpstart closeSp]
    hwell rfl ⟨rfl, fun d hd => by
      simp only [SNode.denote.denoteList, SNode.denote, List.append_nil, List.mem_singleton] at hd
      subst hd; rfl⟩
  refine ⟨p, pw, hp, ?_, hdp, ?_⟩
  · simpa [SNode.tokens.tokensList] using hpw
  · simpa [SNode.denote.denoteList, SNode.denote] using hdw

/-- The tables of a fresh `Xot` satisfy the hypothesis. -/
theorem C02_envBase_fresh : EnvBase Env.fresh := ⟨rfl, ⟨['i', 'd'], 1, rfl, by decide +kernel⟩⟩

/-- Non-vacuity: `<a k="x&amp;"><!--c-->t<![CDATA[ CR LF ]]><b/></a>` as a spelling
    (`spelledExample`, Lemmas/C02Spellings.lean); it is well formed and denotes
    `a[k="x&"](comment c, text "t LF", b)`. -/
example : SNode.Well.wellList spelledExample ∧ noAdjChars spelledExample = true := by
  refine ⟨⟨⟨⟨?_, by decide⟩, rfl, by decide, ⟨trivial, ?_, ⟨⟨fun a ha => by simp at ha, by decide⟩, rfl⟩, trivial⟩, rfl, rfl⟩, trivial⟩, by decide⟩
  · intro a ha
    simp only [List.mem_singleton] at ha
    subst ha
    exact ⟨⟨⟨by decide +kernel, by decide +kernel⟩, ⟨by decide +kernel, (fun r h => by cases h), by decide +kernel⟩, trivial⟩, by decide +kernel, rfl⟩
  · intro p hp
    simp only [List.mem_cons, List.mem_singleton, List.not_mem_nil, or_false] at hp
    rcases hp with rfl | rfl
    · exact ⟨by decide +kernel, ⟨by decide +kernel, by decide +kernel⟩, trivial⟩
    · trivial

example : SNode.denote.denoteList spelledExample =
    [.elem ['a'] [(['k'], ['x', '&'])] [.comment ['c'], .text ['t', '\n'], .elem ['b'] [] []]] := by
  rfl

/-! ### C02_spelled_ns: every spelling of every document WITH namespaces parses to that document

`NSNode` (Lemmas/ParseNsDefs.lean) is a spelling with prefixes: every start / end tag has a prefix span
and a local span, the items of a start tag are ordinary attributes and namespace declarations mixed as
written (which is which is decided by `NSAttr.declares`, the test `_parse` makes), values and URIs are
piece lists, all positions arbitrary - except that an EMPTY prefix span has offset 0, which is how the
tokenizer reports an absent prefix (as of /repo a5fafb0 xot takes an empty prefix at another offset for
the spelling `:local` and refuses it: `C03_reject_colon_without_prefix`).  `denote scope` threads the in-scope bindings the XML-Namespaces
way (own declarations first, nearest wins, default namespace for element names only, `xmlns=""`
undeclares) and yields `NPNode`s: expanded element name, declarations as written, attributes by
expanded name with normalised values, content.  `WellNsDoc` is what the builder's rules admit.
`EnvBaseNs` is what `Xot::new` guarantees about the interning tables and interning keeps. -/

/-- The tables of a fresh `Xot` satisfy the hypothesis. -/
theorem C02_envBaseNs_fresh : EnvBaseNs Env.fresh :=
  ⟨⟨[], rfl⟩, ⟨[], rfl⟩, ⟨(['s', 'p', 'a', 'c', 'e'], 1), [], rfl, by decide +kernel⟩⟩

/-- `parse_fragment`: the children of the document node, read back through the tables the parse
    leaves, are exactly the denoted nodes. -/
theorem C02_spelled_ns_fragment {env : Env} (h : EnvBaseNs env) (len : Nat) (sns : List NSNode)
    (hw : WellNsDoc sns) :
    ∃ p, build .fragment len env (NSNode.tokens.tokensList sns) none = .ok p ∧
      p.tree.value = .document ∧
      decodeNs p.env p.tree.kids = some (NSNode.denote.denoteList baseScope sns) := by
  obtain ⟨p, hb, ht, he⟩ := build_fragment_spelled_ns h len sns hw
  refine ⟨p, hb, by rw [ht]; rfl, ?_⟩
  rw [ht, he]
  exact decodeNs_encodeList _ env

/-- `parse`: the same, when the denoted top level has exactly one element and no text. -/
theorem C02_spelled_ns_document {env : Env} (h : EnvBaseNs env) (len : Nat) (sns : List NSNode)
    (hw : WellNsDoc sns) (htop : AbstractTopNs (NSNode.denote.denoteList baseScope sns)) :
    ∃ p, build .document len env (NSNode.tokens.tokensList sns) none = .ok p ∧
      p.tree.value = .document ∧
      decodeNs p.env p.tree.kids = some (NSNode.denote.denoteList baseScope sns) := by
  obtain ⟨p, hb, ht, he⟩ := build_document_spelled_ns h len sns hw (wellFormedTop_of_abstractNs htop)
  refine ⟨p, hb, by rw [ht]; rfl, ?_⟩
  rw [ht, he]
  exact decodeNs_encodeList _ env

/-! ### The namespace-free theorems as the special case of the namespaced ones

A namespace-free spelling `sns : List SNode` IS the namespaced spelling `SNode.toNs.toNsList sns` (every prefix
absent, at the offset the `SNode` carries; no item of a start tag is a declaration): the same tokens
(`SNode.toNsList_tokens`), a `WellNsDoc` when the `SNode`s are well formed (`wellNsDoc_toNs`: no declarations,
every attribute in no namespace, hence different as written = different by expanded name, no ID values), denoting
the same abstract document with every name in no namespace and no declarations (`SNode.toNsList_denote`,
`PNode.toNs`), which is encoded to the same id tree over the same tables because the empty URI is namespace 0
(`PNode.toNsList_encode`).  So under `EnvBaseNs env`, the hypothesis of the namespaced theorems, `C02_spelled_ns_*`
give both readings of a namespace-free spelling (`C02_spelled_from_ns_*`).  The namespace-free theorems
`C02_spelled_*` are nevertheless not instances: they have the weaker hypothesis AND the weaker conclusion.
* hypothesis: they ask `EnvBase env` only (the empty prefix has id 0, name 1 is in some namespace other than 0),
  which `EnvBaseNs env` implies (`EnvBaseNs.base`) and which is strictly weaker (`C02_envBase_weaker`: tables
  holding the empty prefix only, no `xml`, no namespace at all) — the namespace-free builder run never looks at
  a namespace string or at the prefix `xml`;
* conclusion: they give the namespace-free reading `decodeTree` (local names only), which says less than the
  namespaced reading `decodeNs` (expanded names, declarations). -/

/-- The namespaced builder run on the spelling sent into the namespaced vocabulary (`SNode.toNs`), read both ways:
    the tokens are those of the spelling itself, and the id tree decodes to the namespace-free document and to its
    namespaced image. -/
theorem spelled_from_ns_readings {env : Env} (h : EnvBaseNs env) (sns : List SNode) (hw : SNode.Well.wellList sns)
    {m : Mode} {len : Nat} {p : Parsed}
    (hb : build m len env (NSNode.tokens.tokensList (SNode.toNs.toNsList sns)) none = .ok p)
    (ht : p.tree = .node .document
      (NPNode.encode.encodeList env (NSNode.denote.denoteList baseScope (SNode.toNs.toNsList sns))).2)
    (he : p.env = (NPNode.encode.encodeList env (NSNode.denote.denoteList baseScope (SNode.toNs.toNsList sns))).1) :
    build m len env (SNode.tokens.tokensList sns) none = .ok p ∧ p.tree.value = .document ∧
      decodeTree.decodeList p.env p.tree.kids = some ((SNode.denote.denoteList sns).map Sum.inr) ∧
      decodeNs p.env p.tree.kids = some (PNode.toNs.toNsList (SNode.denote.denoteList sns)) := by
  rw [SNode.toNsList_tokens] at hb
  rw [SNode.toNsList_denote sns hw] at ht he
  have hd : decodeNs p.env p.tree.kids = some (PNode.toNs.toNsList (SNode.denote.denoteList sns)) := by
    rw [ht, he]; exact decodeNs_encodeList _ env
  rw [(PNode.toNsList_encode _ env h.ns0).1] at ht he
  refine ⟨hb, by rw [ht]; rfl, ?_, hd⟩
  rw [ht, he]
  exact decodeList_encodeList _ env _ (EnvExt.refl _)

/-- `parse_fragment`, derived from `C02_spelled_ns_fragment` alone: the namespace-free conclusion of
    `C02_spelled_fragment` and, moreover, the namespaced reading — every name in no namespace, no declarations. -/
theorem C02_spelled_from_ns_fragment {env : Env} (h : EnvBaseNs env) (len : Nat) (sns : List SNode)
    (hw : SNode.Well.wellList sns) (hadj : noAdjChars sns = true) :
    ∃ p, build .fragment len env (SNode.tokens.tokensList sns) none = .ok p ∧
      p.tree.value = .document ∧
      decodeTree.decodeList p.env p.tree.kids = some ((SNode.denote.denoteList sns).map Sum.inr) ∧
      decodeNs p.env p.tree.kids = some (PNode.toNs.toNsList (SNode.denote.denoteList sns)) := by
  obtain ⟨p, hb, ht, he⟩ := build_fragment_spelled_ns h len (SNode.toNs.toNsList sns) (wellNsDoc_toNs hw hadj)
  exact ⟨p, spelled_from_ns_readings h sns hw hb ht he⟩

/-- `parse`, derived from the namespaced machinery alone. -/
theorem C02_spelled_from_ns_document {env : Env} (h : EnvBaseNs env) (len : Nat) (sns : List SNode)
    (hw : SNode.Well.wellList sns) (hadj : noAdjChars sns = true)
    (htop : AbstractTop (SNode.denote.denoteList sns)) :
    ∃ p, build .document len env (SNode.tokens.tokensList sns) none = .ok p ∧
      p.tree.value = .document ∧
      decodeTree.decodeList p.env p.tree.kids = some ((SNode.denote.denoteList sns).map Sum.inr) ∧
      decodeNs p.env p.tree.kids = some (PNode.toNs.toNsList (SNode.denote.denoteList sns)) := by
  have htop' : WellFormedTop (.node .document (NPNode.encode.encodeList env
      (NSNode.denote.denoteList baseScope (SNode.toNs.toNsList sns))).2) := by
    rw [SNode.toNsList_denote sns hw, (PNode.toNsList_encode _ env h.ns0).1]
    exact wellFormedTop_of_abstract htop
  obtain ⟨p, hb, ht, he⟩ := build_document_spelled_ns h len (SNode.toNs.toNsList sns) (wellNsDoc_toNs hw hadj) htop'
  exact ⟨p, spelled_from_ns_readings h sns hw hb ht he⟩

/-- The instance: `C02_spelled_fragment` / `_document` restricted to `EnvBaseNs` follow from the theorems above
    (which use the namespaced machinery only). -/
theorem C02_spelled_from_ns {env : Env} (h : EnvBaseNs env) (len : Nat) (sns : List SNode)
    (hw : SNode.Well.wellList sns) (hadj : noAdjChars sns = true) :
    (∃ p, build .fragment len env (SNode.tokens.tokensList sns) none = .ok p ∧ p.tree.value = .document ∧
      decodeTree.decodeList p.env p.tree.kids = some ((SNode.denote.denoteList sns).map Sum.inr)) ∧
    (AbstractTop (SNode.denote.denoteList sns) →
      ∃ p, build .document len env (SNode.tokens.tokensList sns) none = .ok p ∧ p.tree.value = .document ∧
        decodeTree.decodeList p.env p.tree.kids = some ((SNode.denote.denoteList sns).map Sum.inr)) := by
  refine ⟨?_, fun htop => ?_⟩
  · obtain ⟨p, h1, h2, h3, _⟩ := C02_spelled_from_ns_fragment h len sns hw hadj
    exact ⟨p, h1, h2, h3⟩
  · obtain ⟨p, h1, h2, h3, _⟩ := C02_spelled_from_ns_document h len sns hw hadj htop
    exact ⟨p, h1, h2, h3⟩

/-- The namespace-free spelling as a namespaced one: same tokens, `WellNsDoc`, same denotation in no namespace. -/
theorem C02_spelling_is_ns_spelling (sns : List SNode) (hw : SNode.Well.wellList sns) (hadj : noAdjChars sns = true) :
    NSNode.tokens.tokensList (SNode.toNs.toNsList sns) = SNode.tokens.tokensList sns ∧
    WellNsDoc (SNode.toNs.toNsList sns) ∧
    NSNode.denote.denoteList baseScope (SNode.toNs.toNsList sns) =
      PNode.toNs.toNsList (SNode.denote.denoteList sns) :=
  ⟨SNode.toNsList_tokens sns, wellNsDoc_toNs hw hadj, SNode.toNsList_denote sns hw⟩

/-- Why the namespace-free theorems are not LITERALLY instances: their hypothesis on the tables is strictly
    weaker than `EnvBaseNs`. -/
theorem C02_envBase_weaker : (∀ env, EnvBaseNs env → EnvBase env) ∧ ∃ env, EnvBase env ∧ ¬ EnvBaseNs env :=
  ⟨fun _ h => h.base, envBaseOnly, envBaseOnly_spec⟩

/-- Non-vacuity: `Xot::new()`'s tables meet `EnvBaseNs`. -/
example : EnvBaseNs Env.fresh := C02_envBaseNs_fresh

/-- Spellings with namespaces: `parse_fragment` of a text and `parse` of the same text wrapped in
    one unprefixed element without attributes `<w>…</w>` denote the same content. -/
theorem C02_fragment_spelled_ns {env : Env} (h : EnvBaseNs env) (len len' : Nat) (sns : List NSNode)
    (hw : WellNsDoc sns)
    (w : StrSpan) (pstart : Nat) (junk openSp : StrSpan) (cw : StrSpan) (cpstart : Nat) (closeSp : StrSpan)
    (hcw : cw.text = w.text) (hps : pstart = 0) (hcps : cpstart = 0) :
    ∃ p pw, build .fragment len env (NSNode.tokens.tokensList sns) none = .ok p ∧
      build .document len' env (NSNode.elem ⟨[], pstart⟩ w junk [] openSp sns ⟨[], cpstart⟩ cw closeSp).tokens none =
        .ok pw ∧
      decodeNs p.env p.tree.kids = some (NSNode.denote.denoteList baseScope sns) ∧
      decodeNs pw.env pw.tree.kids = some [.elem [] w.text [] [] (NSNode.denote.denoteList baseScope sns)] := by
  obtain ⟨p, hp, _, hdp⟩ := C02_spelled_ns_fragment h len sns hw
  obtain ⟨pw, hpw, _, hdw⟩ := C02_spelled_ns_document h len'
    [NSNode.elem ⟨[], pstart⟩ w junk [] openSp sns ⟨[], cpstart⟩ cw closeSp]
    (wellNsDoc_wrap hw w pstart junk openSp cw cpstart closeSp hcw hps hcps)
    ⟨rfl, fun d hd => by
      simp only [NSNode.denote.denoteList, NSNode.denote, List.append_nil, List.mem_singleton] at hd
      subst hd; rfl⟩
  refine ⟨p, pw, hp, ?_, hdp, ?_⟩
  · simpa [NSNode.tokens.tokensList] using hpw
  · rw [hdw]; rfl

/-- The end-tag clause of `Well`: a well-formed spelling's end tags repeat the start tag's name as
    written, prefix and local name (another prefix bound to the same URI is rejected:
    `C03_reject_endtag_prefix`). -/
theorem C02_endtag_as_written {scope : Scope} {pfx loc junk : StrSpan} {attrs : List NSAttr} {openSp : StrSpan}
    {kids : List NSNode} {cpfx cloc closeSp : StrSpan}
    (h : (NSNode.elem pfx loc junk attrs openSp kids cpfx cloc closeSp).Well scope) :
    cpfx.text = pfx.text ∧ cloc.text = loc.text :=
  ⟨h.2.2.1, h.2.2.2.1⟩

/-- Non-vacuity (`spelledNsExample`, Lemmas/C02Spellings.lean).  As a spelling:
    `<a xmlns="d" xmlns:p="u" p:k="v&amp;"><p:b xmlns:p="w" p:j="1"/><c xmlns="" xml:id=" i "/>t</a>`
    — a default namespace, a prefixed element, prefixed attributes, `p` shadowed on the nested
    element, `xmlns=""`, an `xml:id`. -/
example : WellNsDoc spelledNsExample := wellNsDocB_sound _ (by decide +kernel)

example : NSNode.denote.denoteList baseScope spelledNsExample =
    [.elem ['d'] ['a'] [([], ['d']), (['p'], ['u'])] [((['u'], ['k']), ['v', '&'])]
      [.elem ['w'] ['b'] [(['p'], ['w'])] [((['w'], ['j']), ['1'])] [],
       .elem [] ['c'] [([], [])] [((xmlNsUri, ['i', 'd']), ['i'])] [],
       .text ['t']]] := by
  rfl

example : AbstractTopNs (NSNode.denote.denoteList baseScope spelledNsExample) := ⟨rfl, fun d hd => by
  simp only [spelledNsExample, NSNode.denote.denoteList, NSNode.denote, List.append_nil, List.mem_singleton] at hd
  subst hd; rfl⟩

/-- Non-vacuity of the end-tag clause and of xml:id under a written declaration of `xml`
    (`spelledTwinExample`).  As a spelling:
    `<p:a xmlns:p="u" xmlns:q="u" xmlns:xml="http://www.w3.org/XML/1998/namespace"><q:a xml:id=" i  j "></q:a></p:a>`
    — two prefixes for one namespace used for different elements, every end tag as its start tag;
    `xml` declared again (the only prefix that may name the XML namespace) and an `xml:id` in its scope. -/
example : WellNsDoc spelledTwinExample := wellNsDocB_sound _ (by decide +kernel)

example : NSNode.denote.denoteList baseScope spelledTwinExample =
    [.elem ['u'] ['a'] [(['p'], ['u']), (['q'], ['u']), (['x', 'm', 'l'], xmlNsUri)] []
      [.elem ['u'] ['a'] [] [((xmlNsUri, ['i', 'd']), ['i', ' ', 'j'])] []]] := by
  rfl

/-- … whereas `<p:a xmlns:p="u" xmlns:q="u"></q:a>` is no well-formed spelling in any scope. -/
example (scope : Scope) (junk openSp closeSp : StrSpan) (attrs : List NSAttr) :
    ¬ (NSNode.elem ⟨['p'], 1⟩ ⟨['a'], 3⟩ junk attrs openSp [] ⟨['q'], 31⟩ ⟨['a'], 33⟩ closeSp).Well scope :=
  fun h => absurd (C02_endtag_as_written h).1 (by decide +kernel)

/-! ### Positions do not matter -/

/-- Two token lists that differ only in byte positions and whole-token
    spans (`Token.erase` forgets exactly those) are both rejected, or both accepted with the same
    tree, the same interning tables and the same id map (`BuildResult.okPart`); source lengths may
    differ too.  (Which error, and the spans inside it, may differ.)
    As of /repo a5fafb0 xot reads ONE byte position: `check_qname` takes an empty prefix at a
    non-zero offset for a colon with nothing in front of it (`<:a/>`), whereas the tokenizer
    reports an absent prefix at offset 0.  The statement is therefore about lists in which every
    empty prefix has offset 0 (`tokensPrefixOk`: true of the erased list, of every layout the
    tokenizer reads back - `C02_lexical_layout` - and of every accepted list,
    `C02_accepted_prefixOk`); a list that fails the test is refused (`C03_reject_colon_without_prefix`). -/
theorem C02_positions_irrelevant (mode : Mode) (len len' : Nat) (env : Env) (ts ts' : List Token)
    (h : ts.map Token.erase = ts'.map Token.erase)
    (hq : tokensPrefixOk ts = true) (hq' : tokensPrefixOk ts' = true) :
    (build mode len env ts none).okPart = (build mode len' env ts' none).okPart :=
  build_erase mode len len' env ts ts' h hq hq'

/-- One-directional form without a hypothesis on `ts`: the erased list decides. -/
theorem C02_positions_irrelevant_erased (mode : Mode) (len len' : Nat) (env : Env) (ts : List Token)
    (hq : tokensPrefixOk ts = true) :
    (build mode len env ts none).okPart = (build mode len' env (ts.map Token.erase) none).okPart :=
  build_erase_self mode len len' env ts hq

/-- Every accepted token list passes the test, and so does every erased list. -/
theorem C02_accepted_prefixOk {mode : Mode} {len : Nat} {env : Env} {ts : List Token} {le : Option Nat}
    {p : Parsed} (hp : build mode len env ts le = .ok p) : tokensPrefixOk ts = true :=
  build_ok_prefixOk hp

theorem C02_erased_prefixOk (ts : List Token) : tokensPrefixOk (ts.map Token.erase) = true :=
  tokensPrefixOk_erase ts

theorem C02_positions_irrelevant_ok (mode : Mode) (len len' : Nat) (env : Env) (ts ts' : List Token)
    (h : ts.map Token.erase = ts'.map Token.erase) (hq' : tokensPrefixOk ts' = true)
    (p : Parsed) (hp : build mode len env ts none = .ok p) :
    ∃ p', build mode len' env ts' none = .ok p' ∧ p'.tree = p.tree ∧ p'.env = p.env ∧ p'.ids = p.ids :=
  build_erase_ok mode len len' env ts ts' h hq' p hp

/-- The hypothesis cannot be dropped: `<:a/>` and `<a/>` have the same erased tokens; the first is
    refused, the second accepted. -/
example :
    let bad : List Token := [.elementStart ⟨[], 1⟩ ⟨['a'], 2⟩ ⟨['<', ':', 'a'], 0⟩, .elementEnd .empty ⟨['/', '>'], 3⟩]
    let good : List Token := [.elementStart ⟨[], 0⟩ ⟨['a'], 1⟩ ⟨['<', 'a'], 0⟩, .elementEnd .empty ⟨['/', '>'], 2⟩]
    bad.map Token.erase = good.map Token.erase ∧
      (build .document 5 Env.fresh bad none).okPart = none ∧
      (build .document 4 Env.fresh good none).okPart ≠ none := by
  refine ⟨rfl, ?_, ?_⟩
  · rw [build_eq_buildE]; decide +kernel
  · rw [build_eq_buildE]; decide +kernel

/-! ### The lexical layer: quotes, in-tag white space, XML declaration, BOM

`LToken` (Lemmas/LexFreeDefs.lean) = a token plus the layout freedom XML leaves when writing it
(`lead`: white space before an attribute name / before `>` `/>` / between top-level items of a
document; `ws1`, `ws2`: around `=`, inside an end tag, inside a PI; `single`: the quote);
`renderL` writes a list of them; `LexOKL` = the tokenizer's side conditions with the value
condition for the quote actually used.  `LDoc` adds BOM, XML declaration (`LDecl`, own layout) and
trailing white space.  The statements below are about `parseString` = the reference tokenizer
(xmlparser 0.13.6 as written, correspondence suite `lex`) feeding the builder, as `Xot::_parse`
wires them. -/

/-- The tokenizer reads every layout of a token list back as that token list
    (up to byte positions; every empty prefix at offset 0, so that `check_qname` lets it pass), in
    both modes, without error. -/
theorem C02_lexical_layout (m : Mode) (lts : List LToken) (h : LexOKL m.isFragment lts = true) :
    (lexMode m (renderL lts)).1.map Token.erase = (lts.map LToken.token).map Token.erase ∧
      tokensPrefixOk (lexMode m (renderL lts)).1 = true ∧
      (lexMode m (renderL lts)).2 = none :=
  ⟨(lexMode_layout m lts h).1.1, (lexMode_layout m lts h).1.2, (lexMode_layout m lts h).2⟩

/-- The canonical spelling (`renderTokens`: one blank, double quotes) is one of the layouts. -/
theorem C02_lexical_canonical (ts : List Token) : renderL (ts.map LToken.canonical) = renderTokens ts :=
  renderL_canonical ts

/-- `parse_fragment` of the TEXT of any layout of any well-formed spelling
    returns exactly the denoted nodes. -/
theorem C02_lexical_fragment {env : Env} (h : EnvBaseNs env) (sns : List NSNode) (hw : WellNsDoc sns)
    (lts : List LToken)
    (hl : lts.map (Token.erase ∘ LToken.token) = (NSNode.tokens.tokensList sns).map Token.erase)
    (hok : LexOKL true lts = true) :
    ∃ p, parseString .fragment env (renderL lts) = .ok p ∧
      decodeNs p.env p.tree.kids = some (NSNode.denote.denoteList baseScope sns) := by
  obtain ⟨p0, hb, _, hd⟩ := C02_spelled_ns_fragment h 0 sns hw
  have hlex := lexMode_layout .fragment lts hok
  have hlex' : ReadAsList (lexMode .fragment (renderL lts)).1 (NSNode.tokens.tokensList sns) :=
    ⟨hlex.1.1.trans (by rw [← hl, List.map_map]), hlex.1.2⟩
  obtain ⟨p, hp, ht, he, _⟩ := parseString_of_lex .fragment env _ _ 0 p0 ⟨hlex', hlex.2⟩ hb
  exact ⟨p, hp, by rw [ht, he, hd]⟩

/-- `parse` of the TEXT of a whole document — BOM or not, XML declaration of
    version 1.0 in any layout or not, any layout of the tokens of a well-formed spelling, white
    space between the top-level items and at the end — returns exactly the denoted document. -/
theorem C02_lexical_prolog {env : Env} (h : EnvBaseNs env) (sns : List NSNode) (hw : WellNsDoc sns)
    (htop : AbstractTopNs (NSNode.denote.denoteList baseScope sns)) (d : LDoc)
    (hl : d.items.map (Token.erase ∘ LToken.token) = (NSNode.tokens.tokensList sns).map Token.erase)
    (hok : d.ok = true) (hver : ∀ x, d.decl = some x → x.minor = ['0']) :
    ∃ p, parseString .document env d.render = .ok p ∧
      decodeNs p.env p.tree.kids = some (NSNode.denote.denoteList baseScope sns) := by
  obtain ⟨p0, hb, _, hd⟩ := C02_spelled_ns_document h 0 sns hw htop
  obtain ⟨p, hp, ht, hev⟩ := parseString_of_ldoc env _ p0 hb d hl hok hver
  exact ⟨p, hp, by rw [ht, hev, hd]⟩

/-- `parse` of the text of any layout of a well-formed spelling (no BOM, no
    declaration). -/
theorem C02_lexical_document {env : Env} (h : EnvBaseNs env) (sns : List NSNode) (hw : WellNsDoc sns)
    (htop : AbstractTopNs (NSNode.denote.denoteList baseScope sns)) (lts : List LToken)
    (hl : lts.map (Token.erase ∘ LToken.token) = (NSNode.tokens.tokensList sns).map Token.erase)
    (hok : LexOKL false lts = true) :
    ∃ p, parseString .document env (renderL lts) = .ok p ∧
      decodeNs p.env p.tree.kids = some (NSNode.denote.denoteList baseScope sns) := by
  have := C02_lexical_prolog h sns hw htop { items := lts } hl (by simp [LDoc.ok, hok, trailOK, isWs])
    (fun x hx => by simp at hx)
  simpa [LDoc.render, LDoc.declText] using this

/-- An XML declaration of version 1.0 — any quotes, any white space, with or
    without `encoding` and `standalone` — in front of the document: the same document. -/
theorem C02_lexical_declaration {env : Env} (h : EnvBaseNs env) (sns : List NSNode) (hw : WellNsDoc sns)
    (htop : AbstractTopNs (NSNode.denote.denoteList baseScope sns)) (lts : List LToken)
    (hl : lts.map (Token.erase ∘ LToken.token) = (NSNode.tokens.tokensList sns).map Token.erase)
    (hok : LexOKL false lts = true) (x : LDecl) (hx : x.ok = true) (hv : x.minor = ['0']) :
    ∃ p, parseString .document env (x.render ++ renderL lts) = .ok p ∧
      decodeNs p.env p.tree.kids = some (NSNode.denote.denoteList baseScope sns) := by
  have := C02_lexical_prolog h sns hw htop { decl := some x, items := lts } hl
    (by simp [LDoc.ok, hok, hx, trailOK, isWs]) (fun y hy => by simp at hy; rw [← hy]; exact hv)
  simpa [LDoc.render, LDoc.declText] using this

/-- U+FEFF in front of the document (with or without a declaration after it): the
    same document.  `Tokenizer::from` skips it, and `Xot::parse` hands the text to it as it is.
    (`parse_fragment` uses `Tokenizer::from_fragment`, which does NOT: see the example below.) -/
theorem C02_lexical_bom {env : Env} (h : EnvBaseNs env) (sns : List NSNode) (hw : WellNsDoc sns)
    (htop : AbstractTopNs (NSNode.denote.denoteList baseScope sns)) (lts : List LToken)
    (hl : lts.map (Token.erase ∘ LToken.token) = (NSNode.tokens.tokensList sns).map Token.erase)
    (hok : LexOKL false lts = true) (x : Option LDecl) (hx : ∀ y, x = some y → y.ok = true ∧ y.minor = ['0']) :
    ∃ p, parseString .document env ('\uFEFF' :: ((match x with | some y => y.render | none => []) ++ renderL lts)) =
        .ok p ∧
      decodeNs p.env p.tree.kids = some (NSNode.denote.denoteList baseScope sns) := by
  cases x with
  | none =>
    have := C02_lexical_prolog h sns hw htop { bom := true, items := lts } hl
      (by simp [LDoc.ok, hok, trailOK, isWs]) (fun y hy => by simp at hy)
    simpa [LDoc.render, LDoc.declText] using this
  | some y =>
    have := C02_lexical_prolog h sns hw htop { bom := true, decl := some y, items := lts } hl
      (by simp [LDoc.ok, hok, (hx y rfl).1, trailOK, isWs])
      (fun z hz => by simp at hz; rw [← hz]; exact (hx y rfl).2)
    simpa [LDoc.render, LDoc.declText] using this

/-- Inside tags LF, CR and CR LF are white space like blank and TAB (the
    tokenizer does not normalise anything: `LexOKL` admits every string over these four characters
    at every layout position); in character data and attribute values line ends are
    `parse_content`'s (`C02_content`), in CDATA sections `C02_cdata_line_ends`. -/
theorem C02_lexical_line_ends (w : Str) (h : ∀ c ∈ w, c = ' ' ∨ c = '\t' ∨ c = '\n' ∨ c = '\r') :
    isWs w = true := by
  simp only [isWs, List.all_eq_true]
  intro c hc
  rcases h c hc with rfl | rfl | rfl | rfl <;> decide +kernel

/-- In every builder state a comment token adds, under the
    current node, a comment whose text is the token's with `CR LF` and lone `CR` replaced by `LF`,
    and a processing-instruction token (target not `xml`) a PI whose data is normalised likewise
    (XML 1.0 section 2.11; as of /repo f8655b7). -/
theorem C02_comment_line_ends_normalised (b : Builder) (t sp : StrSpan) (target : StrSpan) (c : Option StrSpan)
    (ht : isReservedPiTarget target.text = false) :
    (∃ b', b.step (.comment t sp) = .ok b' ∧
      b'.cur.rkids = .node (.comment (normalizeLineEnds t.text)) [] :: b.cur.rkids) ∧
    (∃ b', b.step (.pi target c sp) = .ok b' ∧
      b'.cur.rkids = .node (.pi (b.env.internName target.text Env.noNamespace).2
        (c.map fun x => normalizeLineEnds x.text)) [] :: b.cur.rkids) := by
  refine ⟨⟨_, rfl, rfl⟩, ⟨b.processingInstruction target c, ?_, rfl⟩⟩
  simp only [Builder.step, ht, Bool.false_eq_true, if_false]

/-- What is stored holds no CR, and is the text as written when that holds none. -/
theorem C02_line_ends_spec (s : Str) :
    '\r' ∉ normalizeLineEnds s ∧ ('\r' ∉ s → normalizeLineEnds s = s) :=
  ⟨normalizeLineEnds_no_cr s, normalizeLineEnds_noCr s⟩

/-- `<!--x CR LF y-->` as a fragment: the comment node holds `x LF y`. -/
example : (build .fragment 12 Env.fresh
    [.comment ⟨['x', '\r', '\n', 'y'], 4⟩ ⟨['<', '!', '-', '-', 'x', '\r', '\n', 'y', '-', '-', '>'], 0⟩] none).flat =
    some [(0, .document), (1, .comment ['x', '\n', 'y'])] := by
  rw [build_eq_buildE]; decide +kernel

/-- `<!--x CR y CR-->`: lone CRs become LF. -/
example : (build .fragment 11 Env.fresh
    [.comment ⟨['x', '\r', 'y', '\r'], 4⟩ ⟨['<', '!', '-', '-', 'x', '\r', 'y', '\r', '-', '-', '>'], 0⟩] none).flat =
    some [(0, .document), (1, .comment ['x', '\n', 'y', '\n'])] := by
  rw [build_eq_buildE]; decide +kernel

/-- `<?p a CR LF b CR?>`: the PI data is `a LF b LF` (name id 2 = the target `p`). -/
example : (build .fragment 11 Env.fresh
    [.pi ⟨['p'], 2⟩ (some ⟨['a', '\r', '\n', 'b', '\r'], 4⟩)
      ⟨['<', '?', 'p', ' ', 'a', '\r', '\n', 'b', '\r', '?', '>'], 0⟩] none).flat =
    some [(0, .document), (1, .pi 2 (some ['a', '\n', 'b', '\n']))] := by
  rw [build_eq_buildE]; decide +kernel

/-- A processing instruction whose target is `xml` in any letter case is refused
    with `InvalidTarget` (target as written, its span), in every builder state (/repo 002854f;
    `Well` of a spelling excludes it). -/
theorem C02_pi_target_xml (b : Builder) (target : StrSpan) (c : Option StrSpan) (sp : StrSpan)
    (ht : isReservedPiTarget target.text = true) :
    b.step (.pi target c sp) = .err (.invalidTarget target.text target.span) b.env := by
  simp only [Builder.step, ht, if_true]

/-- `<?xml TAB x?>` and `<?XmL?>` handed over as PI tokens (Lemmas/C02Spellings.lean). -/
example : (build .fragment 9 Env.fresh piXml none).err? = some (.invalidTarget ['x', 'm', 'l'] ⟨2, 5⟩) := by
  rw [build_eq_buildE]; decide +kernel
example : (build .fragment 7 Env.fresh piXmlMixed none).err? = some (.invalidTarget ['X', 'm', 'L'] ⟨2, 5⟩) := by
  rw [build_eq_buildE]; decide +kernel
example (scope : Scope) (c : Option StrSpan) (junk : StrSpan) : ¬ (NSNode.pi ⟨['X', 'm', 'L'], 2⟩ c junk).Well scope :=
  fun h => absurd (show isReservedPiTarget ['X', 'm', 'L'] = false from h) (by decide +kernel)

/-- Non-vacuity (Lemmas/LexFreeExample.lean).  The text
    `U+FEFF<?xml version = '1.0' encoding="UTF-8" ?>LF<!--c-->LF<p:a LF TAB xmlns:p='u' k = CR LF "v&amp;" TAB><b LF/>t</p:a LF>LF`
    is a layout of the spelling `<!--c--><p:a xmlns:p="u" k="v&amp;"><b/>t</p:a>`. -/
example : exDoc.render = exText := by decide +kernel

example : exDoc.ok = true := by decide +kernel
example : exDoc.items.map (Token.erase ∘ LToken.token) = (NSNode.tokens.tokensList exSns).map Token.erase := by decide +kernel
theorem exSns_wellNs : WellNsDoc exSns := wellNsDocB_sound _ (by decide +kernel)
theorem exSns_denote : NSNode.denote.denoteList baseScope exSns =
    [.comment ['c'],
     .elem ['u'] ['a'] [(['p'], ['u'])] [(([], ['k']), ['v', '&'])] [.elem [] ['b'] [] [] [], .text ['t']]] := by
  rfl
/-- One element and no text at the top level. -/
theorem exSns_top : AbstractTopNs (NSNode.denote.denoteList baseScope exSns) :=
  ⟨rfl, fun d hd => by
    rw [exSns_denote] at hd
    simp only [List.mem_cons, List.not_mem_nil, or_false] at hd
    rcases hd with rfl | rfl <;> rfl⟩

example : WellNsDoc exSns := exSns_wellNs
example : NSNode.denote.denoteList baseScope exSns =
    [.comment ['c'],
     .elem ['u'] ['a'] [(['p'], ['u'])] [(([], ['k']), ['v', '&'])] [.elem [] ['b'] [] [] [], .text ['t']]] :=
  exSns_denote

/-- … hence `parse` of that text returns that document (from a fresh `Xot`). -/
example : ∃ p, parseString .document Env.fresh exDoc.render = .ok p ∧
    decodeNs p.env p.tree.kids = some
      [.comment ['c'],
       .elem ['u'] ['a'] [(['p'], ['u'])] [(([], ['k']), ['v', '&'])] [.elem [] ['b'] [] [] [], .text ['t']]] :=
  C02_lexical_prolog C02_envBaseNs_fresh exSns exSns_wellNs exSns_top
    exDoc (by decide +kernel) (by decide +kernel) (fun x hx => by cases hx; rfl)

/-- `parse_fragment` does not skip a byte-order mark: `U+FEFF<a/>` lexes, in fragment mode, as a text
    token holding U+FEFF followed by the element (so the fragment gets a text node U+FEFF); in
    document mode the same text is the document `<a/>`. -/
example : (lexMode .fragment ('\uFEFF' :: ['<', 'a', '/', '>'])).1.map Token.erase =
    [.text ⟨['\uFEFF'], 0⟩, .elementStart ⟨[], 0⟩ ⟨['a'], 0⟩ ⟨[], 0⟩, .elementEnd .empty ⟨[], 0⟩] :=
  (C02_lexical_layout .fragment
    [{ token := .text ⟨['\uFEFF'], 0⟩ }, { token := .elementStart ⟨[], 0⟩ ⟨['a'], 0⟩ ⟨[], 0⟩ },
     { token := .elementEnd .empty ⟨[], 0⟩ }] (by decide +kernel)).1

end XotModel.Props

/-! ### BYTES: `Xot::parse_bytes` — "supplied as bytes in a declared encoding"

  Model: Model/Bytes.lean (`xmlDeclaration` = xot's own `encoding::xml_declaration`, statement by
  statement; `detectHead` = xhtmlchardet on the 5-byte head; `forLabel`, the decoders and the BOM
  sniffing of encoding_rs: external crates modelled as written / as specified), tied to the real
  code by the `bytes` suite.  Encoders (`encodeUtf8`, `encodeUtf16`) are the specification side.

    C02_declaration_reader        bytes that SPELL a rendered declaration (`LDecl`: any quotes, white
                                  space around `=`, optional standalone) of ANY length — ASCII /
                                  UTF-8, UTF-16 or UCS-4 code units in either byte order (NUL bytes
                                  between the characters), a byte order mark or none in front —
                                  followed by anything: the reader answers the label, `none` when
                                  there is no `encoding` (as of /repo 41ece46, c3fcdf4)
    C02_declaration_reader_utf8 / _utf16   the two concrete forms
    C02_declaration_reader_none   what the loop collects does not begin `<?xml`: `none`
    C02_declaration_reader_non_ascii_none   a byte ≥ 0x80 after the byte order mark and before the
                                  first `>`: `none`
    C02_bytes_utf8                UTF-8: with byte order mark (any text); without, declared `UTF-8` /
                                  no label / unknown label; `decodeBytes (encode t) = some t`
    C02_encoding_bait             UTF-8 without declaration, `encoding=` / `charset=` bait anywhere
    C02_bytes_utf16               UTF-16LE / BE with byte order mark (any text, any declaration)
    C02_bytes_utf16_nobom         … without byte order mark, declared `UTF-16` (`<?` pattern)
    C02_bytes_latin               declared iso-8859-1 / latin1 / windows-1252 / us-ascii / …
    C02_bytes_document            bytes that decode to the text of a well-formed spelling parse to
                                  exactly that document (with C02_lexical_prolog); _utf8 / _utf16 /
                                  _latin instances
    C02_pi_lookalike_fixed        `<?éxml encoding="latin1"?>…` as UTF-8 is decoded as UTF-8 (/repo 41ece46)
-/

namespace XotModel.Props
open XotModel XotModel.Witness XotModel.Bytes

/-- After a byte order mark the reader removes, or none (`declBoms`: EF BB BF,
    FF FE, FE FF, 00 00 FE FF, 00 00 FF FE), the bytes `pre` spell (`Spells`: one byte per character in
    order; NUL bytes anywhere in between, e.g. the zero bytes of UTF-16 / UCS-4) a declaration rendered
    in ANY `LDecl` layout, of any length; whatever follows, `xml_declaration` answers the `encoding`
    label, `none` when the declaration has none. -/
theorem C02_declaration_reader (d : LDecl) (hok : d.ok = true) (bom pre tail : Bytes)
    (hbom : bom ∈ declBoms) (hs : Spells pre d.render) :
    xmlDeclaration (bom ++ (pre ++ tail)) = d.encoding :=
  xmlDeclaration_spelled d hok bom pre tail hbom hs

/-- … in the ASCII-compatible single-byte / UTF-8 form, with or without the UTF-8 byte order mark. -/
theorem C02_declaration_reader_utf8 (d : LDecl) (hok : d.ok = true) (bom : Bool) (tail : Bytes) :
    xmlDeclaration ((if bom then bom8 else []) ++ (encodeUtf8 d.render ++ tail)) = d.encoding :=
  xmlDeclaration_spelled d hok _ _ tail (by cases bom <;> simp [declBoms, bom8]) (spells_utf8 _ (render_ascii d hok))

/-- … as UTF-16 code units in either byte order, with or without the matching byte order mark. -/
theorem C02_declaration_reader_utf16 (d : LDecl) (hok : d.ok = true) (be bom : Bool) (tail : Bytes) :
    xmlDeclaration ((if bom then bom16 be else []) ++ (encodeUtf16 be d.render ++ tail)) = d.encoding :=
  xmlDeclaration_spelled d hok _ _ tail (by cases bom <;> cases be <;> simp [declBoms, bom16])
    (spells_utf16 be _ (render_ascii d hok))

/-- No declaration: what the loop collects after the byte order mark (the ASCII bytes up to the first
    `>`) does not begin `<?xml`. -/
theorem C02_declaration_reader_none (data : Bytes)
    (h : ∀ a, collectAscii (stripDeclBom data) = some a → (['<', '?', 'x', 'm', 'l'].isPrefixOf a) = false) :
    xmlDeclaration data = none :=
  xmlDeclaration_none data h

/-- As of /repo 41ece46: after the byte order mark, a byte ≥ 0x80
    before the first `>` (in front of it only bytes < 0x80 other than `>`): not a declaration. -/
theorem C02_declaration_reader_non_ascii_none (data p rest : Bytes) (b : Nat)
    (hd : stripDeclBom data = p ++ b :: rest) (hb : 0x80 ≤ b) (hp : ∀ x ∈ p, x < 0x80 ∧ x ≠ 0x3E) :
    xmlDeclaration data = none :=
  xmlDeclaration_non_ascii_none data p rest b hd hb hp

/-- The layout used in the examples: `<?xml version="1.0" encoding ='latin1' standalone="yes"?>` with
    a blank before and a TAB after the `=` of `encoding`, single quotes. -/
def exDeclLatin : LDecl :=
  { encoding := some ['l', 'a', 't', 'i', 'n', '1'], eEq := { before := [' '], after := ['\t'], single := true },
    standalone := some true }

example : exDeclLatin.ok = true := by decide +kernel
/-- direct evaluation of the model: single-byte form followed by a non-ASCII byte … -/
example : xmlDeclaration (asciiBytes exDeclLatin.render ++ [0xE9]) = some ['l', 'a', 't', 'i', 'n', '1'] := by decide +kernel
/-- … UTF-16LE code units behind a byte order mark … -/
example : xmlDeclaration (bom16 false ++ encodeUtf16 false exDeclLatin.render) = some ['l', 'a', 't', 'i', 'n', '1'] := by
  decide +kernel
/-- … no `encoding`: none; no declaration: none. -/
example : xmlDeclaration (asciiBytes ({ standalone := some false } : LDecl).render ++ [0x3C, 0x61, 0x2F, 0x3E]) = none := by
  decide +kernel
example : xmlDeclaration [0x3C, 0x61, 0x20, 0x65, 0x6E, 0x63, 0x6F, 0x64, 0x69, 0x6E, 0x67, 0x3D, 0x27, 0x78, 0x27, 0x2F, 0x3E] = none := by
  decide +kernel

/-- `<?` C3 A9 `xml encoding="latin1"?>` (a processing instruction with target `éxml`), and a label with a
    non-ASCII byte in it: not declarations. -/
example : xmlDeclaration ([0x3C, 0x3F, 0xC3, 0xA9] ++ asciiBytes ['x', 'm', 'l', ' ', 'e', 'n', 'c', 'o', 'd', 'i', 'n', 'g', '=',
    '"', 'l', 'a', 't', 'i', 'n', '1', '"', '?', '>']) = none := by decide +kernel
example : xmlDeclaration (asciiBytes ['<', '?', 'x', 'm', 'l', ' ', 'e', 'n', 'c', 'o', 'd', 'i', 'n', 'g', '=', '"', 'l'] ++ [0xE9] ++
    asciiBytes ['"', '?', '>']) = none :=
  C02_declaration_reader_non_ascii_none _ (asciiBytes ['<', '?', 'x', 'm', 'l', ' ', 'e', 'n', 'c', 'o', 'd', 'i', 'n', 'g', '=', '"', 'l'])
    (asciiBytes ['"', '?', '>']) 0xE9 (by decide +kernel) (by decide +kernel) (by decide +kernel)

/-- No limit on the length (as of /repo c3fcdf4): 1100 blanks before `encoding` push the
    end of the declaration beyond byte 1024, the label is read. -/
def exDeclLong : LDecl := { exDeclLatin with wEnc := List.replicate 1100 ' ' }
theorem exDeclLong_ok : exDeclLong.ok = true := by decide +kernel
example : exDeclLong.ok = true := exDeclLong_ok
example : xmlDeclaration (asciiBytes exDeclLong.render ++ [0xE9]) = some ['l', 'a', 't', 'i', 'n', '1'] := by
  have := C02_declaration_reader_utf8 exDeclLong exDeclLong_ok false [0xE9]
  rw [encodeUtf8_ascii _ (fun c hc => (render_ascii exDeclLong exDeclLong_ok c hc).2)] at this
  exact this

/-- (1) behind the UTF-8 byte order mark EVERY text comes back, the mark removed;
    (2) without the mark, a text that starts with a declaration — labelled with any label `for_label`
    maps to UTF-8 (`UTF-8`, `utf8`, …) or does not know, or without label — comes back. -/
theorem C02_bytes_utf8 :
    (∀ t : Str, decodeBytes (bom8 ++ encodeUtf8 t) = some t) ∧
    (∀ (d : LDecl) (body : Str), d.ok = true →
      (∀ L, d.encoding = some L → (forLabel (normalise L)).getD .utf8 = .utf8) →
      decodeBytes (encodeUtf8 (d.render ++ body)) = some (d.render ++ body)) :=
  ⟨decodeBytes_bom8, fun d body hok hl => decodeBytes_utf8_declared d hok hl body⟩

/-- The labels of the suite meet the label hypothesis. -/
example : ∀ L ∈ [['U', 'T', 'F', '-', '8'], ['u', 't', 'f', '-', '8'], ['u', 't', 'f', '8'], ['U', 'T', 'F', '8'],
    ['x', '-', 'u', 'n', 'k', 'n', 'o', 'w', 'n', '-', 'z', 'z'], ['U', 'T', 'F', '-', '7']],
    (forLabel (normalise L)).getD .utf8 = .utf8 := by decide +kernel

/-- UTF-8 bytes WITHOUT declaration (with or without byte order mark) decode as
    UTF-8 whatever `encoding=` / `charset=` text they contain (/repo 72a40b0, 41ece46).  "Without
    declaration" as the reader sees it (`hasDeclLookalike t = false`): after the byte order mark, the
    characters up to the first `>` are not all ASCII or do not begin `<?xml`. -/
theorem C02_encoding_bait (t : Str) (h : hasDeclLookalike t = false) :
    decodeBytes (encodeUtf8 t) = some (stripBom t) :=
  decodeBytes_utf8_undeclared t h

/-- … in particular every text that begins with `<` and an ASCII character other than `?`. -/
theorem C02_encoding_bait_tag (c : Char) (r : Str) (h0 : 0 < c.toNat) (h1 : c.toNat < 0x80) (hq : c ≠ '?') :
    decodeBytes (encodeUtf8 ('<' :: c :: r)) = some ('<' :: c :: r) :=
  decodeBytes_utf8_undeclared _ (noLookalike_of_lt c r h0 h1 hq)

/-- `<!-- encoding="latin1" --><a>é</a>` and `<?t charset='utf-16'?><a>é</a>`: not lookalikes. -/
example : hasDeclLookalike (['<', '!', '-', '-', ' ', 'e', 'n', 'c', 'o', 'd', 'i', 'n', 'g', '=', '"', 'l', 'a', 't', 'i', 'n', '1',
    '"', ' ', '-', '-', '>', '<', 'a', '>', 'é', '<', '/', 'a', '>']) = false := by decide +kernel
example : hasDeclLookalike (['<', '?', 't', ' ', 'c', 'h', 'a', 'r', 's', 'e', 't', '=', '\'', 'u', 't', 'f', '-', '1', '6', '\'',
    '?', '>', '<', 'a', '>', 'é', '<', '/', 'a', '>']) = false := by decide +kernel

/-- As of /repo 41ece46: the UTF-8 text `<?éxml encoding="latin1"?>é` — a processing
    instruction, not a declaration — is no declaration lookalike (`hasDeclLookalike`) and comes back as it is. -/
theorem C02_pi_lookalike_fixed :
    decodeBytes (encodeUtf8 ['<', '?', 'é', 'x', 'm', 'l', ' ', 'e', 'n', 'c', 'o', 'd', 'i', 'n', 'g', '=', '"', 'l', 'a', 't',
      'i', 'n', '1', '"', '?', '>', 'é']) =
      some ['<', '?', 'é', 'x', 'm', 'l', ' ', 'e', 'n', 'c', 'o', 'd', 'i', 'n', 'g', '=', '"', 'l', 'a', 't',
        'i', 'n', '1', '"', '?', '>', 'é'] :=
  C02_encoding_bait _ (by decide +kernel)

/-- Behind the UTF-16 byte order mark of either byte order EVERY text comes back
    (declared `UTF-16`, declared anything else, or not declared at all: `Encoding::decode` sniffs the
    mark before it looks at the label). -/
theorem C02_bytes_utf16 (be : Bool) (t : Str) : decodeBytes (bom16 be ++ encodeUtf16 be t) = some t :=
  decodeBytes_bom16 be t

/-- UTF-16 WITHOUT byte order mark, the text starting with a declaration whose
    label is `UTF-16` / `utf-16` (`label16_utf16`; generally any label that `for_label` maps to the
    UTF-16 of this byte order after `normalise` and `endianify`): the detector's `<?` pattern gives the
    byte order and the text comes back. -/
theorem C02_bytes_utf16_nobom (be : Bool) (d : LDecl) (hok : d.ok = true)
    (L : Str) (hL : d.encoding = some L) (hlabel : forLabel (label16 be L) = some (enc16 be)) (body : Str) :
    decodeBytes (encodeUtf16 be (d.render ++ body)) = some (d.render ++ body) :=
  decodeBytes_utf16_declared be d hok L hL hlabel body

example (be : Bool) : forLabel (label16 be ['U', 'T', 'F', '-', '1', '6']) = some (enc16 be) := (label16_utf16 be).1

/-- A text that starts with a declaration labelled iso-8859-1 / latin1 / windows-1252 /
    cp1252 / us-ascii / … (any label `for_label` maps to windows-1252), the declaration in ASCII and the
    rest ANY bytes: it decodes to the declaration followed by those bytes read through the
    windows-1252 table (`win1252`: ASCII and 0xA0..0xFF are the code point itself = ISO-8859-1;
    0x80..0x9F by the table).  A text is "within the code page" iff it is `body.map win1252`. -/
theorem C02_bytes_latin (d : LDecl) (hok : d.ok = true) (L : Str)
    (hL : d.encoding = some L) (hlabel : forLabel (normalise L) = some .windows1252) (body : Bytes) :
    decodeBytes (asciiBytes d.render ++ body) = some (d.render ++ body.map win1252) :=
  decodeBytes_latin d hok L hL hlabel body

example : ∀ L ∈ [['I', 'S', 'O', '-', '8', '8', '5', '9', '-', '1'], ['i', 's', 'o', '-', '8', '8', '5', '9', '-', '1'],
    ['l', 'a', 't', 'i', 'n', '1'], ['w', 'i', 'n', 'd', 'o', 'w', 's', '-', '1', '2', '5', '2'], ['c', 'p', '1', '2', '5', '2'],
    ['U', 'S', '-', 'A', 'S', 'C', 'I', 'I'], ['u', 's', '-', 'a', 's', 'c', 'i', 'i'], ['a', 's', 'c', 'i', 'i']],
    forLabel (normalise L) = some .windows1252 := by decide +kernel
example : [0x41, 0xE9, 0x80, 0x9F, 0xFF].map win1252 = ['A', 'é', '€', 'Ÿ', 'ÿ'] := by decide +kernel
/-- direct evaluation: `…encoding ='latin1'…?>` + `<a>` E9 80 `</a>` -/
example : decodeBytes (asciiBytes exDeclLatin.render ++ [0x3C, 0x61, 0x3E, 0xE9, 0x80, 0x3C, 0x2F, 0x61, 0x3E]) =
    some (exDeclLatin.render ++ ['<', 'a', '>', 'é', '€', '<', '/', 'a', '>']) := by decide +kernel

/-- Bytes that `decode` turns into the text of a whole document — any layout of a
    well-formed spelling, XML declaration or not (`LDoc`) — parse, through `parse_bytes`, to exactly
    the document the spelling denotes. -/
theorem C02_bytes_document {env : Env} (h : EnvBaseNs env) (sns : List NSNode) (hw : WellNsDoc sns)
    (htop : AbstractTopNs (NSNode.denote.denoteList baseScope sns)) (d : LDoc)
    (hl : d.items.map (Token.erase ∘ LToken.token) = (NSNode.tokens.tokensList sns).map Token.erase)
    (hok : d.ok = true) (hver : ∀ x, d.decl = some x → x.minor = ['0'])
    (bs : Bytes) (hdec : decodeBytes bs = some d.render) :
    ∃ p, Bytes.parseBytes .document env bs = some (.ok p) ∧
      decodeNs p.env p.tree.kids = some (NSNode.denote.denoteList baseScope sns) := by
  obtain ⟨p, hp, hd⟩ := C02_lexical_prolog h sns hw htop d hl hok hver
  exact ⟨p, by rw [Bytes.parseBytes, hdec, Option.map_some, hp], hd⟩

/-- … as UTF-16 in either byte order behind its byte order mark, or as UTF-8 behind its mark: every
    document (whatever its declaration says). -/
theorem C02_bytes_document_bom {env : Env} (h : EnvBaseNs env) (sns : List NSNode) (hw : WellNsDoc sns)
    (htop : AbstractTopNs (NSNode.denote.denoteList baseScope sns)) (d : LDoc)
    (hl : d.items.map (Token.erase ∘ LToken.token) = (NSNode.tokens.tokensList sns).map Token.erase)
    (hok : d.ok = true) (hver : ∀ x, d.decl = some x → x.minor = ['0'])
    (bs : Bytes) (hbs : bs = bom8 ++ encodeUtf8 d.render ∨ ∃ be, bs = bom16 be ++ encodeUtf16 be d.render) :
    ∃ p, Bytes.parseBytes .document env bs = some (.ok p) ∧
      decodeNs p.env p.tree.kids = some (NSNode.denote.denoteList baseScope sns) := by
  refine C02_bytes_document h sns hw htop d hl hok hver bs ?_
  rcases hbs with rfl | ⟨be, rfl⟩
  · exact decodeBytes_bom8 _
  · exact decodeBytes_bom16 be _

/-- A laid-out document without byte order mark whose declaration is `x`: `x` is well laid out, and the text starts
    with it. -/
theorem LDoc.decl_first {d : LDoc} {x : LDecl} (hok : d.ok = true) (hx : d.decl = some x) (hbom : d.bom = false) :
    x.ok = true ∧ d.render = x.render ++ (renderL d.items ++ d.trail) := by
  refine ⟨?_, by simp [LDoc.render, LDoc.declText, hx, hbom]⟩
  simp only [LDoc.ok, hx, Bool.and_eq_true] at hok
  exact hok.1.1

/-- … as UTF-8 without byte order mark, the document starting with its declaration (label UTF-8,
    none, or unknown to `for_label`). -/
theorem C02_bytes_document_utf8 {env : Env} (h : EnvBaseNs env) (sns : List NSNode) (hw : WellNsDoc sns)
    (htop : AbstractTopNs (NSNode.denote.denoteList baseScope sns)) (d : LDoc)
    (hl : d.items.map (Token.erase ∘ LToken.token) = (NSNode.tokens.tokensList sns).map Token.erase)
    (hok : d.ok = true) (hver : ∀ x, d.decl = some x → x.minor = ['0'])
    (x : LDecl) (hx : d.decl = some x) (hbom : d.bom = false)
    (hlabel : ∀ L, x.encoding = some L → (forLabel (normalise L)).getD .utf8 = .utf8) :
    ∃ p, Bytes.parseBytes .document env (encodeUtf8 d.render) = some (.ok p) ∧
      decodeNs p.env p.tree.kids = some (NSNode.denote.denoteList baseScope sns) := by
  refine C02_bytes_document h sns hw htop d hl hok hver _ ?_
  obtain ⟨hxok, hr⟩ := LDoc.decl_first hok hx hbom
  rw [hr]
  exact decodeBytes_utf8_declared x hxok hlabel _

/-- … as UTF-8 without declaration and without byte order mark (with the mark: `C02_bytes_document_bom`),
    under the reader's notion of "no declaration" (`C02_encoding_bait`).  `hfirst`: the text does not
    begin with U+FEFF (it begins with white space or `<`). -/
theorem C02_bytes_document_utf8_undeclared {env : Env} (h : EnvBaseNs env) (sns : List NSNode) (hw : WellNsDoc sns)
    (htop : AbstractTopNs (NSNode.denote.denoteList baseScope sns)) (d : LDoc)
    (hl : d.items.map (Token.erase ∘ LToken.token) = (NSNode.tokens.tokensList sns).map Token.erase)
    (hok : d.ok = true) (hdecl : d.decl = none) (hfirst : d.render.head? ≠ some '\uFEFF')
    (hno : hasDeclLookalike d.render = false) :
    ∃ p, Bytes.parseBytes .document env (encodeUtf8 d.render) = some (.ok p) ∧
      decodeNs p.env p.tree.kids = some (NSNode.denote.denoteList baseScope sns) := by
  have hdec := decodeBytes_utf8_undeclared d.render hno
  have hstrip : stripBom d.render = d.render := by
    cases hr : d.render with
    | nil => rfl
    | cons c r =>
      have hne : c ≠ '\uFEFF' := by
        intro e; subst e; rw [hr] at hfirst; exact hfirst rfl
      simp [stripBom, hne]
  rw [hstrip] at hdec
  exact C02_bytes_document h sns hw htop d hl hok (fun x hx => by simp [hdecl] at hx) _ hdec

/-- … in a single-byte encoding: the declaration (label mapped to windows-1252) in ASCII, the rest of
    the text = the remaining bytes through the windows-1252 table. -/
theorem C02_bytes_document_latin {env : Env} (h : EnvBaseNs env) (sns : List NSNode) (hw : WellNsDoc sns)
    (htop : AbstractTopNs (NSNode.denote.denoteList baseScope sns)) (d : LDoc)
    (hl : d.items.map (Token.erase ∘ LToken.token) = (NSNode.tokens.tokensList sns).map Token.erase)
    (hok : d.ok = true) (hver : ∀ x, d.decl = some x → x.minor = ['0'])
    (x : LDecl) (hx : d.decl = some x) (hbom : d.bom = false)
    (L : Str) (hL : x.encoding = some L) (hlabel : forLabel (normalise L) = some .windows1252)
    (body : Bytes) (hbody : body.map win1252 = renderL d.items ++ d.trail) :
    ∃ p, Bytes.parseBytes .document env (asciiBytes x.render ++ body) = some (.ok p) ∧
      decodeNs p.env p.tree.kids = some (NSNode.denote.denoteList baseScope sns) := by
  refine C02_bytes_document h sns hw htop d hl hok hver _ ?_
  obtain ⟨hxok, hr⟩ := LDoc.decl_first hok hx hbom
  rw [hr, ← hbody]
  exact decodeBytes_latin x hxok L hL hlabel body

/-- Non-vacuity: the document of the C02_lexical_prolog example (`exDoc`: byte order mark, declaration
    `version = '1.0' encoding="UTF-8" ?`, comment, namespaced element), written as UTF-16BE behind its
    byte order mark, parses through `parse_bytes` to that document. -/
example : ∃ p, Bytes.parseBytes .document Env.fresh (bom16 true ++ encodeUtf16 true exDoc.render) = some (.ok p) ∧
    decodeNs p.env p.tree.kids = some
      [.comment ['c'],
       .elem ['u'] ['a'] [(['p'], ['u'])] [(([], ['k']), ['v', '&'])] [.elem [] ['b'] [] [] [], .text ['t']]] :=
  C02_bytes_document_bom C02_envBaseNs_fresh exSns exSns_wellNs exSns_top
    exDoc (by decide +kernel) (by decide +kernel) (fun x hx => by cases hx; rfl) _ (Or.inr ⟨true, rfl⟩)

end XotModel.Props
