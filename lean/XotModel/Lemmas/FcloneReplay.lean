/-
  The edge replay of `clone_node` builds exactly the structural copy: what of a valid source is
  still to come fits what has been copied (`Pending`), so no `unwrap` fires (`cloneInto_spec`,
  `cloneKids_spec` over `Cloning`), and `cloneNode_spec`: the new forest is the old roots followed
  by `copyRoot`.
-/
import XotModel.Lemmas.FcloneStep

/-! ## Each child of a valid source is admissible after the copies of its left siblings -/

namespace XotModel
open HTree

/-- What ordering and key uniqueness look at: rank of the category, key of an entry node. -/
def Value.sig (v : Value) : Nat × Nat :=
  (v.category.rank, if v.category = .normal then 0 else Forest.entryKey v)

/-- Two children in this order are compatible. -/
def sigRel (a b : Nat × Nat) : Prop := a.1 ≤ b.1 ∧ (a.1 = b.1 → a.1 ≠ 2 → a.2 ≠ b.2)

/-- The children copied so far followed by the source children still to come form an ordered
    list without duplicate keys, and what is to come may sit under `vc`. -/
def Pending (vc : Value) (K ks : List HTree) : Prop :=
  ((K ++ ks).map (fun t => t.value.sig)).Pairwise sigRel ∧ ∀ k ∈ ks, kidAllowed vc k.value = true

theorem rank_eq_iff (a b : Category) : a.rank = b.rank ↔ a = b := by
  cases a <;> cases b <;> simp [Category.rank]

theorem keysUnique_pairwise (c : Category) (ks : List HTree) (h : keysUnique c ks = true) :
    ks.Pairwise (fun a b => a.value.category = c → b.value.category = c →
      Forest.entryKey a.value ≠ Forest.entryKey b.value) := by
  unfold keysUnique at h
  simp only [decide_eq_true_eq] at h
  rw [List.nodup_iff_pairwise_ne, List.pairwise_map, List.pairwise_filter] at h
  refine h.imp ?_
  intro a b hab ha hb
  exact hab (by simp [ha]) (by simp [hb])

theorem pending_init (b : Bool) (h : Nat) (v : Value) (ks : List HTree)
    (hv : validTree b (.node h v ks) = true) : Pending v [] ks := by
  simp only [validTree, Bool.and_eq_true, List.all_eq_true] at hv
  obtain ⟨⟨⟨⟨⟨h1, h2⟩, h3⟩, h4⟩, _⟩, _⟩ := hv
  refine ⟨?_, h1⟩
  simp only [List.nil_append]
  rw [List.pairwise_map]
  have p1 := (Fmap.kidsOrdered_iff ks).mp h2
  have p2 := keysUnique_pairwise .attribute ks h3
  have p3 := keysUnique_pairwise .namespace ks h4
  refine (p1.and (p2.and p3)).imp ?_
  intro a b ⟨q1, q2, q3⟩
  refine ⟨q1, ?_⟩
  intro e ne
  simp only [Value.sig] at e ne ⊢
  have ec : a.value.category = b.value.category := (rank_eq_iff _ _).mp e
  cases hc : a.value.category with
  | normal => simp [hc, Category.rank] at ne
  | «attribute» =>
    have hb : b.value.category = .attribute := by rw [← ec, hc]
    simp only [hc, hb, reduceCtorEq, if_false]
    exact q2 hc hb
  | «namespace» =>
    have hb : b.value.category = .namespace := by rw [← ec, hc]
    simp only [hc, hb, reduceCtorEq, if_false]
    exact q3 hc hb

theorem validTree_kids (b : Bool) (h : Nat) (v : Value) (ks : List HTree)
    (hv : validTree b (.node h v ks) = true) : validList b ks = true := by
  simp only [validTree, Bool.and_eq_true] at hv
  exact hv.2

theorem fc_kidAllowed_cases {vc v : Value} (h : kidAllowed vc v = true) :
    v.isDocument = false ∧
      (vc.isElement = true ∨ vc.isDocument = true ∧ v.category = .normal) := by
  cases vc <;> simp_all [kidAllowed, Value.isElement, Value.isDocument, Value.isNormal]

/-- Ordered entries split into namespaces then attributes: the sections of `Fmap.sect_of_ordered`,
    the third of which is empty. -/
theorem sorted_decomp (K : List HTree)
    (hp : K.Pairwise (fun a b => a.value.category.rank ≤ b.value.category.rank))
    (hr : ∀ x ∈ K, x.value.category.rank ≤ 1) :
    ∃ Kn Ka, K = Kn ++ Ka ∧ (∀ k ∈ Kn, k.value.category = .namespace) ∧
      (∀ k ∈ Ka, k.value.category = .attribute) := by
  have h := Fmap.sect_of_ordered K ((Fmap.kidsOrdered_iff K).mpr hp)
  have hS : (K.dropWhile Fmap.isNs).dropWhile Fmap.isAt = [] := by
    apply List.eq_nil_iff_forall_not_mem.mpr
    intro x hx
    have := hr x (by rw [h.eq]; exact List.mem_append_right _ hx)
    rw [h.allNm x hx] at this
    exact absurd this (by decide)
  refine ⟨_, _, ?_, h.allNs, h.allAt⟩
  have := h.eq
  rw [hS, List.append_nil] at this
  exact this

theorem Pending.admissible {vc : Value} {K : List HTree} {k : HTree} {ks : List HTree}
    (p : Pending vc K (k :: ks)) : Admissible vc K k.value := by
  obtain ⟨pw, al⟩ := p
  obtain ⟨hnd, hpar⟩ := fc_kidAllowed_cases (al k List.mem_cons_self)
  have hnormal : vc.isElement = true ∨ vc.isDocument = true := hpar.imp_right (·.1)
  rw [List.map_append, List.pairwise_append] at pw
  obtain ⟨pK, _, cross⟩ := pw
  have crossk : ∀ x ∈ K, sigRel x.value.sig k.value.sig := fun x hx =>
    cross _ (List.mem_map.mpr ⟨x, hx, rfl⟩) _ List.mem_cons_self
  cases hv : k.value with
  | document => rw [hv] at hnd; exact absurd hnd (by decide)
  | «namespace» p ns =>
    have hel : vc.isElement = true := hpar.resolve_right (by simp [hv, Value.category])
    have ksig : k.value.sig = (0, p) := by rw [hv]; rfl
    have cat0 : ∀ x ∈ K, x.value.category = .namespace := by
      intro x hx
      have := (crossk x hx).1
      rw [ksig] at this
      exact (rank_eq_iff _ .namespace).mp (Nat.le_zero.mp this)
    refine ⟨hel, cat0, ?_⟩
    intro x hx e
    have r := crossk x hx
    have hs : x.value.sig = (0, Forest.entryKey x.value) := by
      simp [Value.sig, cat0 x hx, Category.rank]
    rw [ksig, hs] at r
    exact r.2 rfl (by simp) e
  | «attribute» a s =>
    have hel : vc.isElement = true := hpar.resolve_right (by simp [hv, Value.category])
    have ksig : k.value.sig = (1, a) := by rw [hv]; rfl
    have hr : ∀ x ∈ K, x.value.category.rank ≤ 1 := by
      intro x hx
      have := (crossk x hx).1
      rwa [ksig] at this
    have pK' : K.Pairwise (fun a b => a.value.category.rank ≤ b.value.category.rank) :=
      (List.pairwise_map.mp pK).imp (fun r => r.1)
    obtain ⟨Kn, Ka, rfl, hn, ha⟩ := sorted_decomp K pK' hr
    refine ⟨hel, Kn, Ka, rfl, hn, ?_⟩
    intro x hx
    refine ⟨ha x hx, ?_⟩
    intro e
    have r := crossk x (by simp [hx])
    have hs : x.value.sig = (1, Forest.entryKey x.value) := by
      simp [Value.sig, ha x hx, Category.rank]
    rw [ksig, hs] at r
    exact r.2 rfl (by simp) e
  | _ => exact hnormal

/-- After the step the rest is still pending: an absorbed text node leaves the signatures of the
    children copied so far as they were. -/
theorem Pending.step {vc : Value} {K : List HTree} {k : HTree} {ks : List HTree} (cons : Bool) (n : Nat)
    (p : Pending vc K (k :: ks)) (kids : List HTree) :
    Pending vc (snocClone cons K (.node n k.value [])) ks ∧
    Pending vc (K ++ [.node n k.value kids]) ks := by
  obtain ⟨pw, al⟩ := p
  have al' : ∀ x ∈ ks, kidAllowed vc x.value = true := fun x hx => al x (List.mem_cons_of_mem _ hx)
  have e1 : ∀ kids, ((K ++ [HTree.node n k.value kids]) ++ ks).map (fun t => t.value.sig) =
      (K ++ k :: ks).map (fun t => t.value.sig) := by
    intro kids
    simp only [List.map_append, List.map_cons, List.append_assoc, List.cons_append, List.nil_append,
      HTree.value]
  refine ⟨⟨?_, al'⟩, ⟨by rw [e1]; exact pw, al'⟩⟩
  rcases snocClone_cases cons K (.node n k.value []) with e | ⟨s, K', m, ps, mk, _, _, rfl, e⟩
  · rw [e, e1]
    exact pw
  · rw [e]
    refine List.Pairwise.sublist ?_ pw
    simp only [List.map_append, List.map_cons, List.append_assoc, List.cons_append, List.nil_append]
    exact List.Sublist.append (List.Sublist.refl _)
      (List.Sublist.cons₂ _ (List.sublist_cons_self _ _))

end XotModel

/-! ## `cloneInto` / `cloneKids` equal `copyInto` / `copyKids` and never hit the `unwrap` panic -/

namespace XotModel
open HTree

/-- The forest between two steps of the replay: old roots `R`, then the work tree, focus `c`. -/
structure Cloning (g : Forest) (R : List HTree) (fs : List CFrame) (c : Nat) (vc : Value)
    (K : List HTree) : Prop where
  roots : g.roots = R ++ [fcPlug fs (.node c vc K)]
  nodup : (handlesList R ++ (frameHandles fs ++ c :: handlesList K)).Nodup
  below : ∀ h ∈ handlesList R ++ (frameHandles fs ++ c :: handlesList K), h < g.next

/-- Flags that the replay never touches. -/
def SameFlags (g g' : Forest) : Prop :=
  g'.consolidation = g.consolidation ∧ g'.everOff = g.everOff ∧ g'.corrupt = g.corrupt

theorem SameFlags.refl (g : Forest) : SameFlags g g := ⟨rfl, rfl, rfl⟩
theorem SameFlags.trans {a b c : Forest} (h1 : SameFlags a b) (h2 : SameFlags b c) : SameFlags a c :=
  ⟨h2.1.trans h1.1, h2.2.1.trans h1.2.1, h2.2.2.trans h1.2.2⟩

theorem focus_handles_eq (fs : List CFrame) (c : Nat) (vc : Value) (K' : List HTree) (m : Nat) (vm : Value)
    (mk : List HTree) :
    frameHandles (fs ++ [⟨c, vc, K'⟩]) ++ m :: handlesList mk =
      frameHandles fs ++ c :: handlesList (K' ++ [.node m vm mk]) := by
  simp [frameHandles_append, frameHandles, handlesList_append, handlesList, handles]

theorem handlesList_snocClone (b : Bool) (K : List HTree) (n : Nat) (v : Value) :
    handlesList (snocClone b K (.node n v [])) = handlesList K ++ [n] ∨
    handlesList (snocClone b K (.node n v [])) = handlesList K := by
  rcases snocClone_cases b K (.node n v []) with e | ⟨s, K', m, ps, mk, _, _, rfl, e⟩
  · left
    rw [e, handlesList_append]
    rfl
  · right
    rw [e, handlesList_append, handlesList_append]
    rfl

namespace Cloning

variable {g : Forest} {R : List HTree} {fs : List CFrame} {c : Nat} {vc : Value} {K : List HTree}

theorem work (cl : Cloning g R fs c vc K) (v : Value) :
    Work (g.newNode v).1 R fs c vc K g.next v := by
  refine ⟨?_, cl.nodup, ?_⟩
  · simp [Forest.newNode, cl.roots]
  · intro h
    exact Nat.lt_irrefl _ (cl.below _ h)

/-- After `new_node` + `any_append`. -/
theorem afterStep (cl : Cloning g R fs c vc K) (v : Value) (K1 : List HTree)
    (hK : handlesList K1 = handlesList K ++ [g.next] ∨ handlesList K1 = handlesList K) :
    Cloning ((g.newNode v).1.withRoots (R ++ [fcPlug fs (.node c vc K1)])) R fs c vc K1 := by
  have hn : ((g.newNode v).1.withRoots (R ++ [fcPlug fs (.node c vc K1)])).next = g.next + 1 := rfl
  refine ⟨rfl, ?_, ?_⟩
  · rcases hK with e | e
    · rw [e]
      have : handlesList R ++ (frameHandles fs ++ c :: (handlesList K ++ [g.next])) =
          (handlesList R ++ (frameHandles fs ++ c :: handlesList K)) ++ [g.next] := by
        simp [List.append_assoc]
      rw [this, List.nodup_append]
      refine ⟨cl.nodup, by simp, ?_⟩
      intro a ha b hb
      simp only [List.mem_singleton] at hb
      have := cl.below a ha
      omega
    · rw [e]; exact cl.nodup
  · intro h hh
    rw [hn]
    rcases hK with e | e
    · rw [e] at hh
      simp only [List.mem_append, List.mem_cons, List.mem_singleton, List.mem_nil_iff, or_false] at hh
      rcases hh with h1 | h1 | h1 | h1 | h1
      · have := cl.below h (by simp [h1]); omega
      · have := cl.below h (by simp [h1]); omega
      · have := cl.below h (by simp [h1]); omega
      · have := cl.below h (by simp [h1]); omega
      · omega
    · rw [e] at hh
      have := cl.below h hh; omega

theorem descend {n : Nat} {v : Value} {K2 : List HTree} (cl : Cloning g R fs c vc (K ++ [.node n v K2])) :
    Cloning g R (fs ++ [⟨c, vc, K⟩]) n v K2 := by
  have e := focus_handles_eq fs c vc K n v K2
  refine ⟨?_, ?_, ?_⟩
  · rw [cl.roots, fcPlug_append]
  · rw [e]; exact cl.nodup
  · rw [e]; exact cl.below

theorem ascend {n : Nat} {v : Value} {K2 : List HTree} (cl : Cloning g R (fs ++ [⟨c, vc, K⟩]) n v K2) :
    Cloning g R fs c vc (K ++ [.node n v K2]) := by
  have e := focus_handles_eq fs c vc K n v K2
  refine ⟨?_, ?_, ?_⟩
  · rw [cl.roots, fcPlug_append]
  · rw [← e]; exact cl.nodup
  · rw [← e]; exact cl.below

end Cloning

/-- What one source node turns into: absorbed / appended leaf, or an element with copied kids. -/
theorem copyInto_shape (cons : Bool) (K : List HTree) (n h : Nat) (v : Value) (ks : List HTree)
    (hd : v.isDocument = false) :
    (copyInto cons K n (.node h v ks)).1 = snocClone cons K (.node n v []) ∨
    ∃ kids, (copyInto cons K n (.node h v ks)).1 = K ++ [.node n v kids] := by
  cases v <;> simp_all [copyInto, Value.isDocument]

theorem copyInto_leaf (cons : Bool) (K : List HTree) (n h : Nat) (v : Value) (ks : List HTree)
    (hne : v.isElement = false) (hnd : v.isDocument = false) :
    copyInto cons K n (.node h v ks) = (snocClone cons K (.node n v []), n + 1) := by
  cases v <;> simp_all [copyInto, Value.isElement, Value.isDocument]

@[simp] theorem Forest.newNode_snd (g : Forest) (v : Value) : (g.newNode v).2 = g.next := rfl

/-- A leaf of the source: one `new_node`, one `any_append`. -/
theorem cloneInto_leaf {g : Forest} {R : List HTree} {fs : List CFrame} {c : Nat} {vc : Value}
    {K : List HTree} (cl : Cloning g R fs c vc K) (h : Nat) (v : Value) (adm : Admissible vc K v)
    (hne : v.isElement = false) :
    ∃ g', Forest.cloneInto g c (.node h v []) = some g' ∧
      Cloning g' R fs c vc (snocClone g.consolidation K (.node g.next v [])) ∧
      g'.next = g.next + 1 ∧ SameFlags g g' := by
  have w := cl.work v
  obtain ⟨_, step⟩ := w.anyAppend_fresh adm
  have cl2 := cl.afterStep v _ (handlesList_snocClone g.consolidation K g.next v)
  have hcons : (g.newNode v).1.consolidation = g.consolidation := rfl
  rw [hcons] at step
  refine ⟨_, ?_, cl2, rfl, ⟨rfl, rfl, rfl⟩⟩
  cases v with
  | document => exact absurd adm (by simp [Admissible])
  | element e => simp [Value.isElement] at hne
  | _ => simp only [Forest.cloneInto, Forest.newNode_snd, step, Forest.cloneKids]

mutual
  theorem cloneInto_spec (b : Bool) : ∀ (t : HTree) (g : Forest) (R : List HTree) (fs : List CFrame)
      (c : Nat) (vc : Value) (K : List HTree), Cloning g R fs c vc K → validTree b t = true →
      Admissible vc K t.value →
      ∃ g', Forest.cloneInto g c t = some g' ∧
        Cloning g' R fs c vc (copyInto g.consolidation K g.next t).1 ∧
        g'.next = (copyInto g.consolidation K g.next t).2 ∧ SameFlags g g'
    | .node h v ks, g, R, fs, c, vc, K, cl, hv, adm => by
      by_cases hel : v.isElement = true
      · cases v with
        | element e =>
          have w := cl.work (.element e)
          obtain ⟨_, step⟩ := w.anyAppend_fresh adm
          have cl2 := cl.afterStep (.element e) _
            (handlesList_snocClone g.consolidation K g.next (.element e))
          have hcons : (g.newNode (.element e)).1.consolidation = g.consolidation := rfl
          rw [hcons] at step
          rw [snocClone_nontext _ _ _ rfl] at step cl2
          have cl3 := cl2.descend
          obtain ⟨g3, h3, cl4, hn, hf⟩ := cloneKids_spec b ks _ R (fs ++ [⟨c, vc, K⟩]) g.next
            (.element e) [] cl3 (validTree_kids b h _ ks hv) (pending_init b h _ ks hv)
          refine ⟨g3, ?_, ?_, ?_, ?_⟩
          · simp only [Forest.cloneInto, Forest.newNode_snd, step, Value.isElement, if_true]
            exact h3
          · simp only [copyInto]
            exact cl4.ascend
          · simp only [copyInto]
            exact hn
          · exact hf
        | _ => simp [Value.isElement] at hel
      · have hel' : v.isElement = false := by simpa using hel
        have hd : v.isDocument = false := adm.not_document
        have hk : ks = [] := kids_nil_of_valid hv hel' hd
        subst hk
        obtain ⟨g', h1, cl1, hn, hf⟩ := cloneInto_leaf cl h v adm hel'
        refine ⟨g', h1, ?_, ?_, hf⟩
        · rw [copyInto_leaf _ _ _ _ _ _ hel' hd]; exact cl1
        · rw [copyInto_leaf _ _ _ _ _ _ hel' hd]; exact hn
  theorem cloneKids_spec (b : Bool) : ∀ (ks : List HTree) (g : Forest) (R : List HTree) (fs : List CFrame)
      (c : Nat) (vc : Value) (K : List HTree), Cloning g R fs c vc K → validList b ks = true →
      Pending vc K ks →
      ∃ g', Forest.cloneKids g c ks = some g' ∧
        Cloning g' R fs c vc (copyKids g.consolidation K g.next ks).1 ∧
        g'.next = (copyKids g.consolidation K g.next ks).2 ∧ SameFlags g g'
    | [], g, R, fs, c, vc, K, cl, _, _ =>
      ⟨g, by simp [Forest.cloneKids], by simpa [copyKids] using cl, by simp [copyKids], SameFlags.refl g⟩
    | k :: ks, g, R, fs, c, vc, K, cl, hv, pend => by
      obtain ⟨hvk, hvks⟩ := fc_validList_cons b k ks hv
      obtain ⟨g1, h1, cl1, hn1, hf1⟩ := cloneInto_spec b k g R fs c vc K cl hvk pend.admissible
      have pend1 : Pending vc (copyInto g.consolidation K g.next k).1 ks := by
        cases k with
        | node h v ks' =>
          have hd : v.isDocument = false := pend.admissible.not_document
          rcases copyInto_shape g.consolidation K g.next h v ks' hd with e | ⟨kids, e⟩
          · rw [e]; exact (pend.step g.consolidation g.next []).1
          · rw [e]; exact (pend.step g.consolidation g.next kids).2
      obtain ⟨g2, h2, cl2, hn2, hf2⟩ := cloneKids_spec b ks g1 R fs c vc _ cl1 hvks pend1
      refine ⟨g2, ?_, ?_, ?_, hf1.trans hf2⟩
      · simp only [Forest.cloneKids, h1]
        exact h2
      · simp only [copyKids]
        rw [hf1.1, hn1] at cl2
        exact cl2
      · simp only [copyKids]
        rw [hf1.1, hn1] at hn2
        exact hn2
end

end XotModel

/-! ## `clone_node` adds `copyRoot` as a new last root; nothing else changes, no panic -/

namespace XotModel
open HTree

theorem validTree_find (b : Bool) (h : Nat) : ∀ t : HTree, validTree b t = true →
    ∀ s, find? h t = some s → validTree b s = true :=
  fun t hv s hs => find?_valid b h t s hv hs

theorem Forest.Inv.valid_get {f : Forest} (inv : f.Inv) {h : Nat} {s : HTree} (hs : f.get? h = some s) :
    validTree (!f.everOff) s = true :=
  findList?_valid _ h f.roots s inv.valid hs

/-- The state right after the temporary top node was created. -/
theorem Cloning.init {f : Forest} (inv : f.Inv) (vt : Value) :
    Cloning (f.newNode vt).1 f.roots [] f.next vt [] := by
  refine ⟨rfl, ?_, ?_⟩
  · simp only [frameHandles, handlesList, List.nil_append]
    rw [List.nodup_append]
    refine ⟨inv.nodup, by simp, ?_⟩
    intro a ha b hb
    simp only [List.mem_singleton] at hb
    have := inv.below a ha
    omega
  · intro h hh
    simp only [frameHandles, handlesList, List.nil_append, List.mem_append, List.mem_singleton] at hh
    show h < f.next + 1
    rcases hh with h1 | h1
    · have := inv.below h h1; omega
    · omega

theorem top_get? (g : Forest) (R : List HTree) (top : Nat) (vt : Value) (Kt : List HTree)
    (hr : g.roots = R ++ [.node top vt Kt]) (hn : top ∉ handlesList R) :
    g.get? top = some (.node top vt Kt) := by
  unfold Forest.get?
  rw [hr, findList?_append_of_not_mem top _ _ hn, fc_findList?_cons_self]

theorem top_spliceOut (g : Forest) (R : List HTree) (top : Nat) (vt : Value) (C : HTree)
    (hr : g.roots = R ++ [.node top vt [C]]) (hn : top ∉ handlesList R) :
    g.spliceOut top = g.withRoots (R ++ [C]) := by
  unfold Forest.spliceOut
  rw [top_get? g R top vt [C] hr hn]
  have hroot : g.isRoot top = true := by
    unfold Forest.isRoot
    rw [hr]
    simp [HTree.handle]
  simp only [hroot, if_true, HTree.kids, List.length_singleton, Nat.le_refl]
  rw [hr, List.filter_append, filter_handle_ne_of_not_mem top R hn]
  have h2 : (HTree.node top vt [C]).handle = top := rfl
  simp [List.filter_cons, h2, Forest.withRoots]

/-- `clone_node` = `copyRoot`. -/
theorem cloneNode_spec (f : Forest) (inv : f.Inv) (node : Nat) (src : HTree)
    (hsrc : f.get? node = some src) :
    ∃ f', f.cloneNode node = (f', some (copyRoot f.consolidation f.next src).1.handle) ∧
      f'.roots = f.roots ++ [(copyRoot f.consolidation f.next src).1] ∧
      f'.next = (copyRoot f.consolidation f.next src).2 ∧ SameFlags f f' ∧
      (handlesList f.roots ++ handles (copyRoot f.consolidation f.next src).1).Nodup := by
  have hleaf : ∀ v : Value, (handlesList f.roots ++ handles (.node f.next v [])).Nodup := fun v => by
    simpa [frameHandles, handles, handlesList] using (Cloning.init inv v).nodup
  have hvalid := inv.valid_get hsrc
  unfold Forest.cloneNode
  rw [hsrc]
  cases src with
  | node h v ks =>
    cases v with
    | document =>
      have init := Cloning.init inv .document
      obtain ⟨g2, h2, cl2, hn2, hf2⟩ := cloneKids_spec _ ks _ f.roots [] f.next .document [] init
        (validTree_kids _ h _ ks hvalid) (pending_init _ h _ ks hvalid)
      refine ⟨g2, ?_, ?_, ?_, hf2, ?_⟩
      · simp only [HTree.value, Forest.newDocument, HTree.kids]
        have : (f.newNode .document) = ((f.newNode .document).1, f.next) := rfl
        rw [this]
        simp only [h2]
        rfl
      · rw [cl2.roots]; rfl
      · rw [hn2]; rfl
      · have := cl2.nodup
        have e1 : (f.newNode Value.document).1.consolidation = f.consolidation := rfl
        have e2 : (f.newNode Value.document).1.next = f.next + 1 := rfl
        rw [e1, e2] at this
        simpa [frameHandles, copyRoot, handles] using this
    | element e =>
      have init := Cloning.init inv (.element e)
      obtain ⟨g2, h2, cl2, hn2, hf2⟩ := cloneInto_spec _ (.node h (.element e) ks) _ f.roots []
        f.next (.element e) [] init hvalid (Or.inl rfl)
      have e1 : (copyInto (f.newNode (.element e)).1.consolidation [] (f.newNode (.element e)).1.next
          (.node h (.element e) ks)).1 =
          [.node (f.next + 1) (.element e) (copyKids f.consolidation [] (f.next + 2) ks).1] := by
        simp [copyInto, Forest.newNode]
      rw [e1] at cl2
      have hr : g2.roots = f.roots ++ [.node f.next (.element e)
          [.node (f.next + 1) (.element e) (copyKids f.consolidation [] (f.next + 2) ks).1]] := cl2.roots
      have htop : f.next ∉ handlesList f.roots := fun hh => Nat.lt_irrefl _ (inv.below _ hh)
      have hfc : g2.firstChild f.next = some (f.next + 1) := by
        unfold Forest.firstChild
        rw [top_get? g2 f.roots f.next _ _ hr htop]
        simp [HTree.kids, HTree.value, Value.isNormal, Value.category, HTree.handle]
      refine ⟨g2.withRoots (f.roots ++ [.node (f.next + 1) (.element e)
          (copyKids f.consolidation [] (f.next + 2) ks).1]), ?_, rfl, ?_, hf2, ?_⟩
      · simp only [HTree.value, Forest.newElement]
        have : (f.newNode (.element e)) = ((f.newNode (.element e)).1, f.next) := rfl
        rw [this]
        simp only [h2, hfc, top_spliceOut g2 f.roots f.next _ _ hr htop]
        rfl
      · show g2.next = _
        rw [hn2]
        simp [copyInto, copyRoot, Forest.newNode]
      · have hnd := cl2.nodup
        simp only [frameHandles, List.nil_append, handlesList, List.append_nil] at hnd
        refine List.Nodup.sublist ?_ hnd
        simp only [copyRoot]
        exact List.Sublist.append (List.Sublist.refl _) (List.sublist_cons_self _ _)
    | _ => exact ⟨_, rfl, rfl, rfl, ⟨rfl, rfl, rfl⟩, hleaf _⟩

end XotModel
