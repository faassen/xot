/-
  Lemmas for C11: the part of the invariant the map theorems use (`MInv`), and the
  map operations `get_node` and `insert` of an existing key in normal form with their reference-map
  meaning.
-/
import XotModel.Lemmas.FmapPrims

namespace XotModel
namespace Fmap
open HTree
open Forest (MapKind entryKey mapChildren)

def keyOf (c : HTree) : Nat := entryKey c.value

/-! ### Sections by kind -/

def preK (k : MapKind) (N : List HTree) : List HTree :=
  match k with | .namespaces => [] | .attributes => N
def postK (k : MapKind) (A S : List HTree) : List HTree :=
  match k with | .namespaces => A ++ S | .attributes => S
def setSecN (k : MapKind) (N s' : List HTree) : List HTree :=
  match k with | .namespaces => s' | .attributes => N
def setSecA (k : MapKind) (A s' : List HTree) : List HTree :=
  match k with | .namespaces => A | .attributes => s'

theorem split_kids (k : MapKind) (N A S : List HTree) :
    N ++ A ++ S = preK k N ++ Sect.sec k N A ++ postK k A S := by
  cases k <;> simp [preK, postK, Sect.sec]

theorem setSec_kids (k : MapKind) (N A S s' : List HTree) :
    setSecN k N s' ++ setSecA k A s' ++ S = preK k N ++ s' ++ postK k A S := by
  cases k <;> simp [preK, postK, setSecN, setSecA]

@[simp] theorem sec_setSec (k : MapKind) (N A s' : List HTree) :
    Sect.sec k (setSecN k N s') (setSecA k A s') = s' := by
  cases k <;> rfl

theorem sec_setSec_other (k k' : MapKind) (N A s' : List HTree) (h : k' ≠ k) :
    Sect.sec k' (setSecN k N s') (setSecA k A s') = Sect.sec k' N A := by
  cases k <;> cases k' <;> first | rfl | exact absurd rfl h

theorem kindCat_ne_normal (k : MapKind) : kindCat k ≠ .normal := by
  cases k <;> simp [kindCat]

theorem Sect.sec_cat {ks N A S : List HTree} (h : Sect ks N A S) (k : MapKind) :
    ∀ x ∈ Sect.sec k N A, x.value.category = kindCat k := by
  cases k
  · exact h.allAt
  · exact h.allNs

theorem Sect.setSec {ks N A S : List HTree} (h : Sect ks N A S) (k : MapKind) (s' : List HTree)
    (hs : ∀ x ∈ s', x.value.category = kindCat k) :
    Sect (setSecN k N s' ++ setSecA k A s' ++ S) (setSecN k N s') (setSecA k A s') S := by
  cases k
  · exact ⟨rfl, h.allNs, hs, h.allNm⟩
  · exact ⟨rfl, hs, h.allAt, h.allNm⟩

/-! ### The invariant at the element -/

/-- What the map theorems use of `Forest.Inv` at the element `e` (named `nm`), whose children
    are the namespace nodes `N`, the attribute nodes `A` and the normal nodes `S`. -/
structure MInv (f : Forest) (e nm : Nat) (N A S : List HTree) : Prop where
  loc : Located f e (.element nm) (N ++ A ++ S)
  sect : Sect (N ++ A ++ S) N A S
  uniq : ∀ k, ((Sect.sec k N A).map keyOf).Nodup
  below : ∀ h ∈ f.allHandles, h < f.next
  /-- attribute and namespace nodes have no children -/
  leaf : ∀ k, ∀ x ∈ Sect.sec k N A, x.kids = []

theorem isElement_of_get (f : Forest) (e nm : Nat) (ks : List HTree)
    (h : f.get? e = some (.node e (.element nm) ks)) : f.isElement e = true := by
  simp only [Forest.isElement, Forest.value?, h, Option.map_some, HTree.value, Value.isElement, BEq.rfl]

theorem minv_of_inv (f : Forest) (e : Nat) (hi : f.Inv) (he : f.isElement e = true) :
    ∃ nm N A S, MInv f e nm N A S := by
  unfold Forest.isElement Forest.value? at he
  cases hg : f.get? e with
  | none => rw [hg] at he; simp at he
  | some t =>
    rw [hg] at he
    cases t with
    | node h v ks =>
      have hh : h = e := findList?_handle e f.roots _ hg
      subst hh
      cases v with
      | element nm =>
        have hv := findList?_valid _ h f.roots _ hi.valid hg
        simp only [validTree, Bool.and_eq_true] at hv
        obtain ⟨⟨⟨⟨⟨_, ho⟩, hua⟩, hun⟩, _⟩, hvk⟩ := hv
        have hs := sect_of_ordered ks ho
        refine ⟨nm, ks.takeWhile isNs, (ks.dropWhile isNs).takeWhile isAt,
          (ks.dropWhile isNs).dropWhile isAt, ⟨hi.nodup, ?_⟩, ?_, ?_, hi.below, ?_⟩
        · rw [hg]; congr 2; exact hs.eq
        · rw [← hs.eq]; exact hs
        · intro k
          cases k
          · exact hs.keysUnique_at.mp hua
          · exact hs.keysUnique_ns.mp hun
        · intro k x hx
          have hxk : x ∈ ks := by
            rw [hs.eq]
            cases k
            · exact List.mem_append_left _ (List.mem_append_right _ hx)
            · exact List.mem_append_left _ (List.mem_append_left _ hx)
          have hcat := hs.sec_cat k x hx
          exact kids_nil_of_not_normal (validList_all _ ks hvk x hxk) (by rw [hcat]; exact kindCat_ne_normal k)
      | _ => cases he

theorem MInv.isElement {f : Forest} {e nm : Nat} {N A S : List HTree} (h : MInv f e nm N A S) :
    f.isElement e = true := isElement_of_get f e nm _ h.loc.get

theorem MInv.abs_eq {f : Forest} {e nm : Nat} {N A S : List HTree} (h : MInv f e nm N A S)
    (k : MapKind) : abs k f e = (Sect.sec k N A).map entryPair := by
  unfold Fmap.abs absT
  rw [h.loc.get]
  simp only
  rw [Sect.mapChildren (K := .node e (.element nm) (N ++ A ++ S)) h.sect]

theorem MInv.absNodes_eq {f : Forest} {e nm : Nat} {N A S : List HTree} (h : MInv f e nm N A S)
    (k : MapKind) : absNodes k f e = (Sect.sec k N A).map (·.handle) := by
  unfold Fmap.absNodes
  rw [h.loc.get]
  simp only
  rw [Sect.mapChildren (K := .node e (.element nm) (N ++ A ++ S)) h.sect]

theorem MInv.getNode {f : Forest} {e nm : Nat} {N A S : List HTree} (h : MInv f e nm N A S)
    (k : MapKind) (key : Nat) :
    f.mapGetNode k e key = (Sect.sec k N A).find? (fun c => entryKey c.value == key) :=
  Sect.getNode h.loc.get h.sect k key

theorem MInv.update {f f' : Forest} {e nm : Nat} {N A S : List HTree} (h : MInv f e nm N A S)
    (k : MapKind) (s' : List HTree) (hleaf : ∀ x ∈ s', x.kids = [])
    (hloc : Located f' e (.element nm) (preK k N ++ s' ++ postK k A S))
    (hcat : ∀ x ∈ s', x.value.category = kindCat k)
    (huniq : (s'.map keyOf).Nodup)
    (hbelow : ∀ h ∈ f'.allHandles, h < f'.next) :
    MInv f' e nm (setSecN k N s') (setSecA k A s') S := by
  refine ⟨?_, h.sect.setSec k s' hcat, ?_, hbelow, ?_⟩
  · rw [setSec_kids]; exact hloc
  · intro k'
    by_cases hk : k' = k
    · subst hk; rw [sec_setSec]; exact huniq
    · rw [sec_setSec_other k k' N A s' hk]; exact h.uniq k'
  · intro k'
    by_cases hk : k' = k
    · subst hk; rw [sec_setSec]; exact hleaf
    · rw [sec_setSec_other k k' N A s' hk]; exact h.leaf k'

/-- The same when entries only go: what is asked of the members of the new section holds of the
    old one's. -/
theorem MInv.update_sublist {f f' : Forest} {e nm : Nat} {N A S : List HTree}
    (h : MInv f e nm N A S) (k : MapKind) {s' : List HTree} (hsub : s'.Sublist (Sect.sec k N A))
    (hloc : Located f' e (.element nm) (preK k N ++ s' ++ postK k A S))
    (hbelow : ∀ h ∈ f'.allHandles, h < f'.next) :
    MInv f' e nm (setSecN k N s') (setSecA k A s') S :=
  h.update k s' (fun x hx => h.leaf k x (hsub.subset hx)) hloc
    (fun x hx => h.sect.sec_cat k x (hsub.subset hx)) ((h.uniq k).sublist (hsub.map _)) hbelow

/-- Giving `e` some of its children as its children brings no handle that was not there. -/
theorem MInv.below_withKids {f : Forest} {e nm : Nat} {N A S : List HTree} (h : MInv f e nm N A S)
    (k : MapKind) {s' : List HTree} (hsub : s'.Sublist (Sect.sec k N A)) :
    ∀ x ∈ handlesList (withKids f.roots e (preK k N ++ s' ++ postK k A S)), x < f.next := by
  intro x hx
  apply h.below
  rcases mem_withKids _ e _ _ h.loc.nodup h.loc.get x hx with hx | hx
  · exact hx
  · apply findList?_handles_sub e f.roots _ h.loc.get
    rw [split_kids k N A S]
    exact List.mem_cons_of_mem _ ((handlesList_sublist (((List.Sublist.refl _).append hsub).append
      (List.Sublist.refl _))).subset hx)

theorem MInv.abs_update {f' : Forest} {e nm : Nat} {N A S s' : List HTree} {k : MapKind}
    (h' : MInv f' e nm (setSecN k N s') (setSecA k A s') S) :
    abs k f' e = s'.map entryPair := by
  rw [h'.abs_eq k, sec_setSec]

theorem MInv.abs_update_other {f f' : Forest} {e nm : Nat} {N A S s' : List HTree} {k k' : MapKind}
    (h : MInv f e nm N A S)
    (h' : MInv f' e nm (setSecN k N s') (setSecA k A s') S) (hk : k' ≠ k) :
    abs k' f' e = abs k' f e := by
  rw [h'.abs_eq k', h.abs_eq k', sec_setSec_other k k' N A s' hk]

/-! ### Entry values -/

theorem entryUpdate_key (k : MapKind) (old new : Value) (ho : old.category = kindCat k)
    (hn : k.matches new = true) :
    entryKey (Forest.entryUpdate old new) = entryKey old ∧
    payloadOf (Forest.entryUpdate old new) = payloadOf new ∧
    (Forest.entryUpdate old new).category = kindCat k := by
  cases k <;> cases old <;> cases ho <;> cases new <;> cases hn <;> exact ⟨rfl, rfl, rfl⟩

theorem find?_key_split (s : List HTree) (key : Nat) (n : HTree)
    (hf : s.find? (fun c => entryKey c.value == key) = some n) :
    keyOf n = key ∧ ∃ s1 s2, s = s1 ++ n :: s2 ∧ ∀ a ∈ s1, keyOf a ≠ key := by
  obtain ⟨hp, s1, s2, hs, hn⟩ := List.find?_eq_some_iff_append.mp hf
  refine ⟨by simpa [keyOf] using hp, s1, s2, hs, ?_⟩
  intro a ha
  have := hn a ha
  simpa [keyOf] using this

theorem find?_key_none (s : List HTree) (key : Nat)
    (hf : s.find? (fun c => entryKey c.value == key) = none) : ∀ a ∈ s, keyOf a ≠ key := by
  intro a ha
  have := List.find?_eq_none.mp hf a ha
  simpa [keyOf] using this

theorem entryPair_fst (c : HTree) : (entryPair c).1 = keyOf c := rfl

/-! ### `insert`, existing key -/

theorem kids_around (k : MapKind) (N A S s1 s2 : List HTree) (n : HTree)
    (hs : Sect.sec k N A = s1 ++ n :: s2) :
    N ++ A ++ S = (preK k N ++ s1) ++ n :: (s2 ++ postK k A S) := by
  rw [split_kids k, hs]; simp

theorem insert_existing {f : Forest} {e nm : Nat} {N A S : List HTree} (h : MInv f e nm N A S)
    (k : MapKind) (entry : Value) (hm : k.matches entry = true) (n : HTree) (s1 s2 : List HTree)
    (hs : Sect.sec k N A = s1 ++ n :: s2) (key : Nat) (hkey : keyOf n = key)
    (hs1 : ∀ a ∈ s1, keyOf a ≠ key) :
    let n' := n.setValue (Forest.entryUpdate n.value entry)
    let f' : Forest := { f with roots := withKids f.roots e (preK k N ++ (s1 ++ n' :: s2) ++ postK k A S) }
    f.setValue n.handle (Forest.entryUpdate n.value entry) = f' ∧
    MInv f' e nm (setSecN k N (s1 ++ n' :: s2)) (setSecA k A (s1 ++ n' :: s2)) S ∧
    (s1 ++ n' :: s2).map entryPair = omInsert ((Sect.sec k N A).map entryPair) key (payloadOf entry) ∧
    (s1 ++ n' :: s2).map (·.handle) = (Sect.sec k N A).map (·.handle) := by
  intro n' f'
  have hloc : Located f e (.element nm) ((preK k N ++ s1) ++ n :: (s2 ++ postK k A S)) := by
    rw [← kids_around k N A S s1 s2 n hs]; exact h.loc
  have hncat : n.value.category = kindCat k :=
    h.sect.sec_cat k n (by rw [hs]; exact List.mem_append_right _ List.mem_cons_self)
  have hu := entryUpdate_key k n.value entry hncat hm
  have hn'v : n'.value = Forest.entryUpdate n.value entry := by
    cases n; rfl
  have hn'h : n'.handle = n.handle := by cases n; rfl
  have heq : f.setValue n.handle (Forest.entryUpdate n.value entry) = f' := by
    rw [setValue_child hloc]
    show _ = f'
    simp only [f', n']
    congr 2
    simp
  have hnmem : n ∈ Sect.sec k N A := by rw [hs]; exact List.mem_append_right _ List.mem_cons_self
  -- a member of the new section is the updated node or a member of the old one
  have hmem : ∀ x ∈ s1 ++ n' :: s2, x = n' ∨ x ∈ Sect.sec k N A := by
    intro x hx
    rw [hs]
    rcases List.mem_append.mp hx with hx | hx
    · exact Or.inr (List.mem_append_left _ hx)
    · rcases List.mem_cons.mp hx with hx | hx
      · exact Or.inl hx
      · exact Or.inr (List.mem_append_right _ (List.mem_cons_of_mem _ hx))
  refine ⟨heq, ?_, ?_, ?_⟩
  · apply h.update k (s1 ++ n' :: s2)
    · intro x hx
      rcases hmem x hx with rfl | hx
      · have : n'.kids = n.kids := by cases n; rfl
        rw [this]; exact h.leaf k n hnmem
      · exact h.leaf k x hx
    · constructor
      · rw [← heq]
        show (f.setValue _ _).allHandles.Nodup
        rw [Forest.allHandles_setValue]; exact h.loc.nodup
      · exact get_withKids f.roots e _ e _ _ h.loc.get
    · intro x hx
      rcases hmem x hx with rfl | hx
      · rw [hn'v]; exact hu.2.2
      · exact h.sect.sec_cat k x hx
    · have := h.uniq k
      rw [hs] at this
      simp only [List.map_append, List.map_cons] at this ⊢
      have hk' : keyOf n' = keyOf n := by
        simp only [keyOf, hn'v]; exact hu.1
      rw [hk']; exact this
    · rw [← heq]
      show ∀ x ∈ (f.setValue _ _).allHandles, x < f.next
      rw [Forest.allHandles_setValue]; exact h.below
  · rw [hs]
    simp only [List.map_append, List.map_cons]
    have e1 : entryPair n = (key, payloadOf n.value) := by
      simp only [entryPair]; rw [← hkey]; rfl
    have e2 : entryPair n' = (key, payloadOf entry) := by
      simp only [entryPair, hn'v, hu.1, hu.2.1]; rw [← hkey]; rfl
    rw [e1, e2, omInsert_split]
    intro a ha
    obtain ⟨x, hx, rfl⟩ := List.mem_map.mp ha
    exact hs1 x hx
  · rw [hs]; simp [hn'h]

end Fmap
end XotModel
