/-
  The parse route of C20 at forest level: `IdStore.parseInto s (treeOf d)` (what `Xot::parse` does to an
  existing store when the builder's result is `treeOf d`, Model/FidIndex.lean) adds exactly one new root
  that erases to `treeOf d`, with `d.size` fresh handles, to a store with distinct handles (`Good`).
-/
import XotModel.Lemmas.BasicFacts
import XotModel.Model.FidIndex
import XotModel.Lemmas.FfixedValid
import XotModel.Lemmas.OfTree

namespace XotModel
open HTree

theorem fpr_nodup_handlesList_ofTreeList (n : Nat) : ∀ ks : List Tree, (handlesList (ofTreeList n ks)).Nodup :=
  nodup_handlesList_ofTreeList n

theorem fpr_eraseList_ofTreeList (n : Nat) : ∀ ks : List Tree, eraseList (ofTreeList n ks) = ks :=
  fph_eraseList_ofTreeList n

theorem fpr_sizeList_leaves {α : Type} (g : α → Tree) (hg : ∀ a, (g a).size = 1) (l : List α) :
    Tree.size.sizeList (l.map g) = l.length := by
  induction l with
  | nil => simp [Tree.size.sizeList]
  | cons x l ih => simp [Tree.size.sizeList, ih, hg]; omega

mutual
  theorem fpr_size_treeOfContent : ∀ c : FContent, (treeOfContent c).size = c.size
    | .text s => by simp [treeOfContent, Tree.size, Tree.size.sizeList, FContent.size]
    | .comment s => by simp [treeOfContent, Tree.size, Tree.size.sizeList, FContent.size]
    | .pi t d => by simp [treeOfContent, Tree.size, Tree.size.sizeList, FContent.size]
    | .element n ps as cs => by
      rw [treeOfContent, Tree.size, fpr_sizeList_append, fpr_sizeList_append,
        fpr_sizeList_leaves nsTree (fun _ => by simp [nsTree, Tree.size, Tree.size.sizeList]),
        fpr_sizeList_leaves attrTree (fun _ => by simp [attrTree, Tree.size, Tree.size.sizeList]),
        fpr_sizeList_treeOfList cs, FContent.size]
      omega
  theorem fpr_sizeList_treeOfList : ∀ cs : List FContent,
      Tree.size.sizeList (treeOfList cs) = FContent.sizeList cs
    | [] => by simp [treeOfList, Tree.size.sizeList, FContent.sizeList]
    | c :: cs => by
      rw [treeOfList, Tree.size.sizeList, fpr_size_treeOfContent c, fpr_sizeList_treeOfList cs, FContent.sizeList]
end

theorem fpr_size_treeOf (d : FDocument) : (treeOf d).size = d.size := by
  rw [treeOf, Tree.size, fpr_sizeList_treeOfList, FDocument.size]

/-- **Parsing INTO a store**: one new root with the handles `next, …, next + d.size - 1`, erasing to
    `treeOf d`; every other tree and the flags untouched; handles stay distinct and below `next`; the
    returned document node is the new root's handle. -/
theorem IdStore.fpr_parseInto_spec (s : IdStore) (d : FDocument) (hg : Good s.forest) :
    ∃ t : HTree,
      (s.parseInto (treeOf d)).1.forest =
        { s.forest with roots := s.forest.roots ++ [t], next := s.forest.next + d.size } ∧
      (s.parseInto (treeOf d)).2 = t.handle ∧ t.erase = treeOf d ∧
      Good { s.forest with roots := s.forest.roots ++ [t], next := s.forest.next + d.size } := by
  refine ⟨ofTree s.forest.next (treeOf d), ?_, ?_, fph_erase_ofTree _ _, ?_⟩
  · show ({ s.forest with roots := _, next := s.forest.next + (treeOf d).size } : Forest) = _
    rw [fpr_size_treeOf]
  · rw [HTree.handle_ofTree]; rfl
  · refine hg.add_roots [_] _ (by simpa [handlesList] using nodup_handles_ofTree s.forest.next (treeOf d))
      ?_ (by omega)
    intro h hh
    simp only [handlesList, List.append_nil] at hh
    have := handles_ofTree s.forest.next (treeOf d) h hh
    rw [fpr_size_treeOf] at this
    exact this

end XotModel
