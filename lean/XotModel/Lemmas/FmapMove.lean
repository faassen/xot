/-
  Lemmas for C11: appending an entry node that is still attached to another element
  (the node moves).  The call computes the same as `detach` of the node followed by the append
  of the now parentless node.
-/
import XotModel.Lemmas.FmapShallow

namespace XotModel
namespace Fmap
open HTree
open Forest (MapKind entryKey mapChildren)

/-! ### The forest after the detachment -/

theorem map_handle_mapAtList (e : Nat) (F : List HTree → List HTree) (ks : List HTree) :
    (mapAtList e (atKids F) ks).map (·.handle) = ks.map (·.handle) :=
  HTree.mapAtList_handle e _ (atKids_handle F) ks

theorem isRoot_detached (f : Forest) (e2 : Nat) (ks2' : List HTree) (n : HTree) (ip : Nat)
    (hne : n.handle ≠ ip) (hr : f.isRoot ip = false) :
    ({ f with roots := withKids f.roots e2 ks2' ++ [n] } : Forest).isRoot ip = false := by
  unfold Forest.isRoot at hr ⊢
  simp only [List.any_append, List.any_cons, List.any_nil, Bool.or_false, Bool.or_eq_false_iff]
  constructor
  · rw [List.any_eq_false] at hr ⊢
    intro x hx
    unfold withKids at hx
    rw [mapAtList_eq_map] at hx
    obtain ⟨y, hy, rfl⟩ := List.mem_map.mp hx
    rw [mapAt_atKids_handle]
    exact hr y hy
  · simpa using hne

theorem rootsWithout_detached (f : Forest) (e2 : Nat) (ks2' : List HTree) (n : HTree)
    (hfresh : n.handle ∉ handlesList (withKids f.roots e2 ks2')) :
    rootsWithout { f with roots := withKids f.roots e2 ks2' ++ [n] } n.handle =
      withKids f.roots e2 ks2' := by
  simp only [rootsWithout, List.filter_append]
  have h1 : (withKids f.roots e2 ks2').filter (fun r => r.handle != n.handle) =
      withKids f.roots e2 ks2' := by
    apply List.filter_eq_self.mpr
    intro r hr
    have : r.handle ≠ n.handle := fun hh =>
      hfresh (hh ▸ rootHandle_mem_handlesList hr)
    simpa using this
  rw [h1]
  simp

/-- The situation: `n` is a leaf child of `e2`. -/
structure Attached (f : Forest) (e2 : Nat) (ev2 : Value) (l2 r2 : List HTree) (n : HTree) : Prop where
  loc : Located f e2 ev2 (l2 ++ n :: r2)
  leaf : n.kids = []

def Attached.fd {f : Forest} {e2 : Nat} {ev2 : Value} {l2 r2 : List HTree} {n : HTree}
    (_ : Attached f e2 ev2 l2 r2 n) : Forest :=
  { f with roots := withKids f.roots e2 (l2 ++ r2) ++ [n] }

theorem Attached.node_eq {f : Forest} {e2 : Nat} {ev2 : Value} {l2 r2 : List HTree} {n : HTree}
    (a : Attached f e2 ev2 l2 r2 n) : n = .node n.handle n.value [] := by
  cases n with
  | node h v ks =>
    have := a.leaf
    simp only [HTree.kids] at this
    subst this
    rfl

theorem Attached.fd_nodup {f : Forest} {e2 : Nat} {ev2 : Value} {l2 r2 : List HTree} {n : HTree}
    (a : Attached f e2 ev2 l2 r2 n) : a.fd.allHandles.Nodup :=
  (located_after_detach a.loc).nodup

theorem Attached.fresh {f : Forest} {e2 : Nat} {ev2 : Value} {l2 r2 : List HTree} {n : HTree}
    (a : Attached f e2 ev2 l2 r2 n) : n.handle ∉ handlesList (withKids f.roots e2 (l2 ++ r2)) := by
  have hnd := a.fd_nodup
  unfold Attached.fd Forest.allHandles at hnd
  simp only at hnd
  rw [handlesList_append] at hnd
  intro hx
  exact (List.nodup_append.mp hnd).2.2 _ hx _
    (by simp only [handlesList, List.append_nil]; exact handle_mem_handles n) rfl

theorem Attached.root_mem {f : Forest} {e2 : Nat} {ev2 : Value} {l2 r2 : List HTree} {n : HTree}
    (a : Attached f e2 ev2 l2 r2 n) : HTree.node n.handle n.value [] ∈ a.fd.roots := by
  unfold Attached.fd
  simp only [List.mem_append, List.mem_singleton]
  exact Or.inr a.node_eq.symm

/-- `checked_insert_after(ip, node)` computes the same before and after the detachment. -/
theorem checkedInsertAfter_detached {f : Forest} {e2 : Nat} {ev2 : Value} {l2 r2 : List HTree}
    {n : HTree} (a : Attached f e2 ev2 l2 r2 n) (ip : Nat) (hne : ip ≠ n.handle)
    (hr : f.isRoot ip = false) :
    f.checkedInsertAfter ip n.handle = a.fd.checkedInsertAfter ip n.handle := by
  have hgn : f.get? n.handle = some n := a.loc.childFound n (by simp)
  have hfdr : a.fd.isRoot ip = false := isRoot_detached f e2 _ n ip (fun h => hne h.symm) hr
  unfold Forest.checkedInsertAfter
  rw [if_neg hne, if_neg hne, ancestors_not_leaf f a.loc.nodup n.handle ip n hgn a.leaf hne, hr,
    ancestors_not_leafRoot a.fd a.fd_nodup n.handle ip n.value a.root_mem hne, hfdr]
  simp only [Bool.or_self, Bool.false_eq_true, if_false]
  rw [cut_child a.loc, cut_leafRoot a.fd a.fd_nodup n.handle n.value a.root_mem]
  simp only
  have hrw : rootsWithout a.fd n.handle = withKids f.roots e2 (l2 ++ r2) :=
    rootsWithout_detached f e2 _ n a.fresh
  rw [hrw, ← a.node_eq]
  rfl

/-- `checked_prepend(p, node)` likewise. -/
theorem checkedPrepend_detached {f : Forest} {e2 : Nat} {ev2 : Value} {l2 r2 : List HTree}
    {n : HTree} (a : Attached f e2 ev2 l2 r2 n) (p : Nat) (hne : p ≠ n.handle) :
    f.checkedPrepend p n.handle = a.fd.checkedPrepend p n.handle := by
  have hgn : f.get? n.handle = some n := a.loc.childFound n (by simp)
  unfold Forest.checkedPrepend
  rw [ancestors_not_leaf f a.loc.nodup n.handle p n hgn a.leaf hne,
    ancestors_not_leafRoot a.fd a.fd_nodup n.handle p n.value a.root_mem hne]
  simp only [Bool.or_false, decide_eq_true_eq, if_neg hne]
  rw [cut_child a.loc, cut_leafRoot a.fd a.fd_nodup n.handle n.value a.root_mem]
  simp only
  have hrw : rootsWithout a.fd n.handle = withKids f.roots e2 (l2 ++ r2) :=
    rootsWithout_detached f e2 _ n a.fresh
  rw [hrw, ← a.node_eq]
  rfl


/-! ### The insertion point depends on the shallow view of the element only -/

theorem insertionPoint_shallow (f : Forest) (k : MapKind) (e : Nat) :
    f.mapInsertionPoint k e =
      match (f.get? e).map shallow with
      | none => none
      | some sh =>
        match ((kidsOfP k sh.2).map (·.1)).getLast? with
        | some h => some h
        | none =>
          match k with
          | .namespaces => none
          | .attributes => ((kidsOfP .namespaces sh.2).map (·.1)).getLast? := by
  unfold Forest.mapInsertionPoint
  cases hg : f.get? e with
  | none => rfl
  | some t =>
    simp only [Option.map_some]
    rw [← nodes_of_shallow k t, ← nodes_of_shallow .namespaces t, List.getLast?_map, List.getLast?_map]
    cases (mapChildren k t).getLast? with
    | some l => rfl
    | none =>
      cases k with
      | namespaces => rfl
      | attributes => rfl

theorem insertionPoint_of_shallow (f f' : Forest) (k : MapKind) (e : Nat)
    (h : (f'.get? e).map shallow = (f.get? e).map shallow) :
    f'.mapInsertionPoint k e = f.mapInsertionPoint k e := by
  rw [insertionPoint_shallow, insertionPoint_shallow, h]

theorem insertionPoint_child {f : Forest} {e nm : Nat} {N A S : List HTree} (h : MInv f e nm N A S)
    (k : MapKind) (ip : Nat) (hip : f.mapInsertionPoint k e = some ip) :
    ∃ l r c, N ++ A ++ S = l ++ c :: r ∧ c.handle = ip := by
  rw [insertionPoint_spec h.loc h.sect k] at hip
  cases hl : (Sect.sec k N A).getLast? with
  | some c =>
    rw [hl] at hip
    simp only [Option.some.injEq] at hip
    obtain ⟨s0, hs0⟩ := List.getLast?_eq_some_iff.mp hl
    refine ⟨preK k N ++ s0, postK k A S, c, ?_, hip⟩
    rw [split_kids k, hs0]; simp
  | none =>
    rw [hl] at hip
    cases k with
    | namespaces => cases hip
    | attributes =>
      simp only at hip
      cases hN : N.getLast? with
      | none => rw [hN] at hip; cases hip
      | some c =>
        rw [hN] at hip
        simp only [Option.map_some, Option.some.injEq] at hip
        obtain ⟨N0, hN0⟩ := List.getLast?_eq_some_iff.mp hN
        exact ⟨N0, A ++ S, c, by rw [hN0]; simp, hip⟩

theorem parent_unique {f : Forest} {e e2 : Nat} {ev ev2 : Value} {l r l2 r2 : List HTree}
    {c n : HTree} (h1 : Located f e ev (l ++ c :: r)) (h2 : Located f e2 ev2 (l2 ++ n :: r2))
    (hh : c.handle = n.handle) : e = e2 := by
  have c1 := h1.site.ctx
  have c2 := h2.site.ctx
  rw [hh, c2] at c1
  simp only [Option.some.injEq, HTree.Ctx.mk.injEq] at c1
  exact c1.1.symm

theorem Attached.shallow_eq {f : Forest} {e2 : Nat} {ev2 : Value} {l2 r2 : List HTree} {n : HTree}
    (a : Attached f e2 ev2 l2 r2 n) (e' : Nat) (h1 : e' ≠ e2) (h2 : n.handle ≠ e') :
    (a.fd.get? e').map shallow = (f.get? e').map shallow := by
  have hH : (findList? e' (l2 ++ r2)).map shallow = (findList? e' (l2 ++ n :: r2)).map shallow := by
    rw [findList?_skip_leaf e' l2 r2 n a.leaf h2]
  have hG := shallow_findList?_withKids e2 e' ev2 _ _ h1 hH f.roots a.loc.nodup a.loc.get
  have hn : find? e' n = none := by
    apply find?_none_of_not_mem
    rw [handles_eq, a.leaf]
    simp only [handlesList, List.mem_cons, List.not_mem_nil, or_false]
    exact fun h => h2 h.symm
  show (findList? e' (withKids f.roots e2 (l2 ++ r2) ++ [n])).map shallow = _
  rw [findList?_append]
  simp only [findList?, hn]
  unfold withKids
  show _ = (findList? e' f.roots).map shallow
  cases hw : findList? e' (mapAtList e2 (atKids fun _ => l2 ++ r2) f.roots) with
  | none => rw [hw] at hG; simpa using hG
  | some t => rw [hw] at hG; simpa using hG

theorem appendEntryNode_attached_eq {f : Forest} {e nm : Nat} {N A S : List HTree}
    (h : MInv f e nm N A S) {e2 : Nat} {ev2 : Value} {l2 r2 : List HTree} {n : HTree}
    (a : Attached f e2 ev2 l2 r2 n) (hne : e ≠ e2) (k : MapKind) (hm : k.matches n.value = true)
    (habs : f.mapGetNode k e (entryKey n.value) = none) :
    f.appendEntryNode k e n.handle = a.fd.appendEntryNode k e n.handle := by
  have hgn : f.get? n.handle = some n := a.loc.childFound n (by simp)
  have hen : n.handle ≠ e := by
    intro hh
    rw [hh, h.loc.get] at hgn
    simp only [Option.some.injEq] at hgn
    rw [← hgn] at hm
    cases k <;> simp [MapKind.matches, HTree.value] at hm
  have hsh := a.shallow_eq e hne hen
  obtain ⟨habs', _, hel, _⟩ := views_of_shallow f a.fd e hsh
  have hv1 := Prog2.value_of_get hgn
  have hv2 : a.fd.value? n.handle = some n.value := by
    have := leafRoot_get a.fd a.fd_nodup n.handle n.value a.root_mem
    simp [Forest.value?, this, HTree.value]
  have habs2 : a.fd.mapGetNode k e (entryKey n.value) = none := by
    have c1 := containsKey_eq f k e (entryKey n.value)
    have c2 := containsKey_eq a.fd k e (entryKey n.value)
    rw [habs' k, ← c1, habs] at c2
    cases hx : a.fd.mapGetNode k e (entryKey n.value) with
    | none => rfl
    | some _ => rw [hx] at c2; cases c2
  rw [appendEntryNode_place h.isElement hv1 hm habs,
    appendEntryNode_place (hel.trans h.isElement) hv2 hm habs2]
  -- the placement
  have hplace : f.mapPlace k e n.handle = a.fd.mapPlace k e n.handle := by
    unfold Forest.mapPlace
    rw [insertionPoint_of_shallow f a.fd k e hsh]
    cases hip : f.mapInsertionPoint k e with
    | some ip =>
      obtain ⟨l, r, c, hks, hc⟩ := insertionPoint_child h k ip hip
      have hloc : Located f e (.element nm) (l ++ c :: r) := by rw [← hks]; exact h.loc
      have hipn : ip ≠ n.handle := by
        intro hh
        exact hne (parent_unique hloc a.loc (hc.trans hh))
      have hr : f.isRoot ip = false := by rw [← hc]; exact hloc.isRoot_child
      simp only
      rw [checkedInsertAfter_detached a ip hipn hr]
    | none =>
      simp only
      rw [checkedPrepend_detached a e (fun hh => hen hh.symm)]
  rw [hplace]


/-- `append_*_node` of a parentless entry node whose key is absent, with the new state explicit. -/
theorem appendEntryNode_absent {f : Forest} {e nm : Nat} {N A S : List HTree} (h : MInv f e nm N A S)
    (k : MapKind) (nd : Nat) (v : Value) (hm : k.matches v = true)
    (hroot : HTree.node nd v [] ∈ f.roots) (habs : f.mapGetNode k e (entryKey v) = none) :
    let s' := Sect.sec k N A ++ [.node nd v []]
    let f' : Forest := { f with roots := withKids (rootsWithout f nd) e (preK k N ++ s' ++ postK k A S) }
    f.appendEntryNode k e nd = (f', .ok, nd) ∧
    MInv f' e nm (setSecN k N s') (setSecA k A s') S ∧
    s'.map entryPair = omInsert ((Sect.sec k N A).map entryPair) (entryKey v) (payloadOf v) ∧
    s'.map (·.handle) = (Sect.sec k N A).map (·.handle) ++ [nd] := by
  intro s' f'
  have hne := leafRoot_ne_elem h k nd v hm hroot
  have hval : f.value? nd = some v := by
    simp [Forest.value?, leafRoot_get f h.loc.nodup nd v hroot, HTree.value]
  have habs' := find?_key_none _ _ (by rw [← h.getNode k]; exact habs)
  obtain ⟨hplace, hinv, hmap, hnodes⟩ := place_absent h k nd v hm hroot hne habs'
  refine ⟨?_, hinv, hmap, hnodes⟩
  rw [appendEntryNode_place h.isElement hval hm habs, hplace]

end Fmap
end XotModel
