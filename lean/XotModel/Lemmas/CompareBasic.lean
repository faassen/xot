/-
  C13, the common ground: the two filtered edge streams of `advanced_deep_equal` as forests of kept nodes (`proj`,
  `fedges`) and `zipEdges` on them as `forestEqv`; attribute lists as finite maps (lookup, permutation, `sortAttrs`);
  the attribute view of a node, `compareAttributes`, what `Tree.valid` says about one node, `canonList`.
-/
import XotModel.Model.Compare
import XotModel.Lemmas.BasicFacts

/-! ## The zip of two filtered edge streams is structural equality of the filtered forests (every pair of trees, every filter, every text comparison) -/

namespace XotModel

/-- A node of the filtered forest: the original node (value and attributes are read off it)
    and the kept nodes below it, children of dropped nodes hoisted in place. -/
inductive FNode where
  | mk (orig : Tree) (kids : List FNode)

/-- A node's edges survive both filters of `advanced_deep_equal`. -/
def keepNode (f : NodeFilter) (t : Tree) : Bool := t.value.isNormal && f t

mutual
/-- The filtered forest below (and including) a node. -/
def proj (f : NodeFilter) : Tree → List FNode
  | .node v ks => if keepNode f (.node v ks) then [.mk (.node v ks) (projList f ks)] else projList f ks
def projList (f : NodeFilter) : List Tree → List FNode
  | [] => []
  | k :: ks => proj f k ++ projList f ks
end

mutual
def fedges : FNode → List Edge
  | .mk o ks => .start o :: (fedgesList ks ++ [.stop o])
def fedgesList : List FNode → List Edge
  | [] => []
  | k :: ks => fedges k ++ fedgesList ks
end

mutual
/-- Structural equality of filtered nodes / forests up to `compareValue`. -/
def nodeEqv (cmp : TextCmp) : FNode → FNode → Bool
  | .mk a ka, .mk b kb => compareValue cmp a b && forestEqv cmp ka kb
def forestEqv (cmp : TextCmp) : List FNode → List FNode → Bool
  | [], [] => true
  | [], _ :: _ => false
  | _ :: _, [] => false
  | x :: xs, y :: ys => nodeEqv cmp x y && forestEqv cmp xs ys
end

theorem fedgesList_append (a b : List FNode) : fedgesList (a ++ b) = fedgesList a ++ fedgesList b := by
  induction a with
  | nil => simp [fedgesList]
  | cons x xs ih => simp [fedgesList, ih]

mutual
theorem filter_allEdges (f : NodeFilter) : ∀ t : Tree,
    ((allEdges t).filter normalEdge).filter (filterEdge f) = fedgesList (proj f t)
  | .node v ks => by
    have ih := filter_allEdgesList f ks
    simp only [allEdges, proj, List.filter_cons, List.filter_append, List.filter_nil]
    by_cases hn : (Tree.node v ks).value.isNormal = true
    · by_cases hf : f (.node v ks) = true
      · simp [normalEdge, filterEdge, Edge.node, keepNode, hn, hf, ih, fedgesList, fedges]
      · simp [normalEdge, filterEdge, Edge.node, keepNode, hn, hf, ih]
    · simp [normalEdge, Edge.node, keepNode, hn, ih]
theorem filter_allEdgesList (f : NodeFilter) : ∀ ks : List Tree,
    ((allEdges.allEdgesList ks).filter normalEdge).filter (filterEdge f) = fedgesList (projList f ks)
  | [] => by simp [allEdges.allEdgesList, projList, fedgesList]
  | k :: ks => by
    simp only [allEdges.allEdgesList, projList, List.filter_append, fedgesList_append]
    rw [filter_allEdges f k, filter_allEdgesList f ks]
end

theorem traverse_filter_eq (f : NodeFilter) (t : Tree) :
    (traverseEdges t).filter (filterEdge f) = fedgesList (proj f t) := filter_allEdges f t

/-! ### The zip loop on the edges of two forests -/

theorem zipEdges_stop_stop (cmp : TextCmp) (a b : Tree) (ra rb : List Edge) :
    zipEdges cmp (.stop a :: ra) (.stop b :: rb) = zipEdges cmp ra rb := by
  simp [zipEdges]

theorem zipEdges_start_start (cmp : TextCmp) (a b : Tree) (ra rb : List Edge) :
    zipEdges cmp (.start a :: ra) (.start b :: rb) = (compareValue cmp a b && zipEdges cmp ra rb) := by
  simp only [zipEdges]
  cases compareValue cmp a b <;> simp

theorem zipEdges_start_stop (cmp : TextCmp) (a b : Tree) (ra rb : List Edge) :
    zipEdges cmp (.start a :: ra) (.stop b :: rb) = false := by
  simp [zipEdges]

theorem zipEdges_stop_start (cmp : TextCmp) (a b : Tree) (ra rb : List Edge) :
    zipEdges cmp (.stop a :: ra) (.start b :: rb) = false := by
  simp [zipEdges]

theorem fedges_eq_cons (x : FNode) : ∃ o rest, fedges x = .start o :: rest ∧ rest ≠ [] := by
  cases x with
  | mk o ks => exact ⟨o, fedgesList ks ++ [.stop o], by simp [fedges], by simp⟩

mutual
theorem zipEdges_node (cmp : TextCmp) : ∀ (x y : FNode) (r₁ r₂ : List Edge),
    zipEdges cmp (fedges x ++ r₁) (fedges y ++ r₂) = (nodeEqv cmp x y && zipEdges cmp r₁ r₂)
  | .mk a ka, .mk b kb, r₁, r₂ => by
    have ih := zipEdges_forest cmp ka kb a b r₁ r₂
    simp only [fedges, List.cons_append, List.append_assoc, List.nil_append, zipEdges_start_start, ih, nodeEqv,
      Bool.and_assoc]
theorem zipEdges_forest (cmp : TextCmp) : ∀ (xs ys : List FNode) (o₁ o₂ : Tree) (r₁ r₂ : List Edge),
    zipEdges cmp (fedgesList xs ++ .stop o₁ :: r₁) (fedgesList ys ++ .stop o₂ :: r₂)
      = (forestEqv cmp xs ys && zipEdges cmp r₁ r₂)
  | [], [], o₁, o₂, r₁, r₂ => by simp [fedgesList, forestEqv, zipEdges_stop_stop]
  | [], y :: ys, o₁, o₂, r₁, r₂ => by
    obtain ⟨o, rest, h, _⟩ := fedges_eq_cons y
    simp [fedgesList, forestEqv, h, zipEdges_stop_start]
  | x :: xs, [], o₁, o₂, r₁, r₂ => by
    obtain ⟨o, rest, h, _⟩ := fedges_eq_cons x
    simp [fedgesList, forestEqv, h, zipEdges_start_stop]
  | x :: xs, y :: ys, o₁, o₂, r₁, r₂ => by
    have h1 := zipEdges_node cmp x y (fedgesList xs ++ .stop o₁ :: r₁) (fedgesList ys ++ .stop o₂ :: r₂)
    have h2 := zipEdges_forest cmp xs ys o₁ o₂ r₁ r₂
    simp only [fedgesList, List.append_assoc, h1, h2, forestEqv, Bool.and_assoc]
end

/-- Two whole forests (no enclosing End edge): the left-over tests of `advanced_deep_equal`.
    An edge list of a forest never has exactly one element more than another one, so the edge
    `zip` drops is never the last. -/
theorem zipEdges_top (cmp : TextCmp) : ∀ (xs ys : List FNode),
    zipEdges cmp (fedgesList xs) (fedgesList ys) = forestEqv cmp xs ys
  | [], [] => by simp [fedgesList, forestEqv, zipEdges]
  | [], y :: ys => by
    obtain ⟨o, rest, h, _⟩ := fedges_eq_cons y
    simp [fedgesList, forestEqv, h, zipEdges]
  | x :: xs, [] => by
    obtain ⟨o, rest, h, hne⟩ := fedges_eq_cons x
    simp [fedgesList, forestEqv, h, zipEdges, hne]
  | x :: xs, y :: ys => by
    have h1 := zipEdges_node cmp x y (fedgesList xs) (fedgesList ys)
    simp only [fedgesList, h1, zipEdges_top cmp xs ys, forestEqv]

/-- `advanced_deep_equal` on two normal nodes is structural equality of the filtered forests. -/
theorem advancedDeepEqual_eq (f : NodeFilter) (cmp : TextCmp) (a b : Tree)
    (na : a.value.isNormal = true) (nb : b.value.isNormal = true) :
    advancedDeepEqual f cmp a b = forestEqv cmp (proj f a) (proj f b) := by
  unfold advancedDeepEqual
  simp only [na, nb, Bool.not_true, Bool.or_self, Bool.false_eq_true, ↓reduceIte]
  rw [traverse_filter_eq, traverse_filter_eq, zipEdges_top]

/-- … and the direct value comparison as soon as one of them is an attribute / namespace node. -/
theorem advancedDeepEqual_abnormal (f : NodeFilter) (cmp : TextCmp) (a b : Tree)
    (h : ¬ a.value.isNormal = true ∨ ¬ b.value.isNormal = true) :
    advancedDeepEqual f cmp a b = compareValue cmp a b := by
  unfold advancedDeepEqual
  rcases h with h | h <;> simp [h]

end XotModel

/-! ## Attribute lists as finite maps. `sortAttrs` is a canonical representative of a key-unique association list up to permutation; "same length and every entry of the first found in the second" is permutation. -/

namespace XotModel

abbrev Attrs := List (Nat × Str)

def keysNodup (l : Attrs) : Prop := (l.map (·.1)).Nodup

theorem keysNodup_cons {x : Nat × Str} {l : Attrs} :
    keysNodup (x :: l) ↔ (∀ y ∈ l, y.1 ≠ x.1) ∧ keysNodup l := by
  unfold keysNodup
  simp only [List.map_cons, List.nodup_cons, List.mem_map, not_exists, not_and]

theorem eq_of_key_eq {l : Attrs} (h : keysNodup l) {a b : Nat × Str} (ha : a ∈ l) (hb : b ∈ l)
    (hk : a.1 = b.1) : a = b := by
  induction l with
  | nil => cases ha
  | cons x xs ih =>
    rw [keysNodup_cons] at h
    rcases List.mem_cons.mp ha with rfl | ha' <;> rcases List.mem_cons.mp hb with rfl | hb'
    · rfl
    · exact absurd hk.symm (h.1 b hb')
    · exact absurd hk (h.1 a ha')
    · exact ih h.2 ha' hb'

theorem keysNodup_perm {l₁ l₂ : Attrs} (p : l₁.Perm l₂) (h : keysNodup l₁) : keysNodup l₂ :=
  List.Perm.nodup (p.map (fun x : Nat × Str => x.1)) h

theorem nodup_of_keysNodup {l : Attrs} (h : keysNodup l) : l.Nodup := by
  induction l with
  | nil => exact List.nodup_nil
  | cons x xs ih =>
    rw [keysNodup_cons] at h
    refine List.nodup_cons.mpr ⟨fun hx => h.1 x hx rfl, ih h.2⟩

theorem mem_of_lookup {l : Attrs} {k : Nat} {v : Str} (h : l.lookup k = some v) : (k, v) ∈ l := by
  induction l with
  | nil => simp at h
  | cons x xs ih =>
    obtain ⟨k', v'⟩ := x
    rw [List.lookup_cons] at h
    by_cases hk : k = k'
    · subst hk; simp at h; subst h; exact List.mem_cons_self
    · have : (k == k') = false := by simpa using hk
      rw [this] at h
      exact List.mem_cons_of_mem _ (ih h)

theorem lookup_of_mem {l : Attrs} (hl : keysNodup l) {k : Nat} {v : Str} (h : (k, v) ∈ l) :
    l.lookup k = some v := by
  induction l with
  | nil => cases h
  | cons x xs ih =>
    obtain ⟨k', v'⟩ := x
    rw [keysNodup_cons] at hl
    rw [List.lookup_cons]
    rcases List.mem_cons.mp h with heq | h'
    · cases heq; simp
    · have hne : k ≠ k' := hl.1 (k, v) h'
      have : (k == k') = false := by simpa using hne
      rw [this]; exact ih hl.2 h'

/-! ### length + inclusion = permutation -/

theorem perm_of_subset_length {α} [DecidableEq α] {l₁ l₂ : List α} (h₁ : l₁.Nodup) (hs : ∀ x ∈ l₁, x ∈ l₂)
    (hlen : l₁.length = l₂.length) : l₁.Perm l₂ := by
  induction l₁ generalizing l₂ with
  | nil =>
    have : l₂ = [] := List.eq_nil_of_length_eq_zero (by simpa using hlen.symm)
    subst this; exact List.Perm.refl _
  | cons x xs ih =>
    have hx : x ∈ l₂ := hs x List.mem_cons_self
    have hp : l₂.Perm (x :: l₂.erase x) := List.perm_cons_erase hx
    rw [List.nodup_cons] at h₁
    have hsub : ∀ y ∈ xs, y ∈ l₂.erase x := by
      intro y hy
      have hne : y ≠ x := fun e => h₁.1 (e ▸ hy)
      exact (List.mem_erase_of_ne hne).mpr (hs y (List.mem_cons_of_mem _ hy))
    have hl : xs.length = (l₂.erase x).length := by
      have := hp.length_eq
      simp only [List.length_cons] at this hlen
      omega
    exact ((ih h₁.2 hsub hl).cons x).trans hp.symm

/-- The comparison `advanced_compare_attributes` makes (with `==` on the values), on key-unique
    lists, is permutation. -/
theorem attrs_lookup_iff_perm {l₁ l₂ : Attrs} (h₁ : keysNodup l₁) (h₂ : keysNodup l₂) :
    (l₁.length = l₂.length ∧ ∀ kv ∈ l₁, l₂.lookup kv.1 = some kv.2) ↔ l₁.Perm l₂ := by
  constructor
  · rintro ⟨hlen, hl⟩
    exact perm_of_subset_length (nodup_of_keysNodup h₁) (fun x hx => mem_of_lookup (hl x hx)) hlen
  · intro p
    exact ⟨p.length_eq, fun kv hkv => lookup_of_mem h₂ (p.subset hkv)⟩

theorem insertAttr_perm (x : Nat × Str) (l : Attrs) : (insertAttr x l).Perm (x :: l) := by
  induction l with
  | nil => exact List.Perm.refl _
  | cons y ys ih =>
    unfold insertAttr
    split
    · exact List.Perm.refl _
    · exact (ih.cons y).trans (List.Perm.swap x y ys)

theorem sortAttrs_perm (l : Attrs) : (sortAttrs l).Perm l := by
  induction l with
  | nil => exact List.Perm.refl _
  | cons x xs ih => exact (insertAttr_perm x _).trans (ih.cons x)

def keyLe (a b : Nat × Str) : Prop := a.1 ≤ b.1

theorem insertAttr_sorted (x : Nat × Str) (l : Attrs) (h : l.Pairwise keyLe) :
    (insertAttr x l).Pairwise keyLe := by
  induction l with
  | nil => simp [insertAttr]
  | cons y ys ih =>
    unfold insertAttr
    rw [List.pairwise_cons] at h
    split
    · rename_i hle
      refine List.pairwise_cons.mpr ⟨?_, List.pairwise_cons.mpr h⟩
      intro z hz
      rcases List.mem_cons.mp hz with rfl | hz'
      · exact hle
      · exact Nat.le_trans hle (h.1 z hz')
    · rename_i hnle
      refine List.pairwise_cons.mpr ⟨?_, ih h.2⟩
      intro z hz
      rcases List.mem_cons.mp ((insertAttr_perm x ys).subset hz) with rfl | hz'
      · exact Nat.le_of_lt (Nat.lt_of_not_le hnle)
      · exact h.1 z hz'

theorem sortAttrs_sorted (l : Attrs) : (sortAttrs l).Pairwise keyLe := by
  induction l with
  | nil => exact List.Pairwise.nil
  | cons x xs ih => exact insertAttr_sorted x _ ih

theorem sortAttrs_eq_iff_perm {l₁ l₂ : Attrs} (h₁ : keysNodup l₁) :
    sortAttrs l₁ = sortAttrs l₂ ↔ l₁.Perm l₂ := by
  constructor
  · intro h
    exact (sortAttrs_perm l₁).symm.trans (h ▸ sortAttrs_perm l₂)
  · intro p
    have ps : (sortAttrs l₁).Perm (sortAttrs l₂) := (sortAttrs_perm l₁).trans (p.trans (sortAttrs_perm l₂).symm)
    have hn : keysNodup (sortAttrs l₁) := keysNodup_perm (sortAttrs_perm l₁).symm h₁
    refine List.Perm.eq_of_pairwise (le := keyLe) ?_ (sortAttrs_sorted l₁) (sortAttrs_sorted l₂) ps
    intro a b ha hb hab hba
    exact eq_of_key_eq hn ha (ps.symm.subset hb) (Nat.le_antisymm hab hba)

theorem attrs_lookup_iff_sort {l₁ l₂ : Attrs} (h₁ : keysNodup l₁) (h₂ : keysNodup l₂) :
    (l₁.length = l₂.length ∧ ∀ kv ∈ l₁, l₂.lookup kv.1 = some kv.2) ↔ sortAttrs l₁ = sortAttrs l₂ :=
  (attrs_lookup_iff_perm h₁ h₂).trans (sortAttrs_eq_iff_perm h₁).symm

end XotModel

/-! ## The attribute view of a node with well-ordered children, `compareAttributes` and structural validity unfolded -/

namespace XotModel

/-! ### Attribute views on well-ordered children -/

theorem attrPairs_append (a b : List Tree) : attrPairs (a ++ b) = attrPairs a ++ attrPairs b := by
  induction a with
  | nil => rfl
  | cons k ks ih =>
    simp only [List.cons_append, attrPairs]
    split <;> simp [ih]

theorem attrPairs_eq_nil {l : List Tree} (h : ∀ k ∈ l, k.value.category ≠ .attribute) : attrPairs l = [] := by
  induction l with
  | nil => rfl
  | cons k ks ih =>
    have hk := h k List.mem_cons_self
    have ih' := ih (fun x hx => h x (List.mem_cons_of_mem _ hx))
    simp only [attrPairs]
    split
    · rename_i n v hv; simp [hv, Value.category] at hk
    · exact ih'

theorem attrPairs_length_of_all {l : List Tree} (h : ∀ k ∈ l, k.value.category = .attribute) :
    (attrPairs l).length = l.length := by
  induction l with
  | nil => rfl
  | cons k ks ih =>
    have hk := h k List.mem_cons_self
    have ih' := ih (fun x hx => h x (List.mem_cons_of_mem _ hx))
    simp only [attrPairs]
    split
    · simp [ih']
    · rename_i hne
      cases hv : k.value <;> simp [hv, Value.category] at hk
      exact absurd hv (hne _ _)

theorem attrs_eq_attrPairs (t : Tree) : t.attrs = attrPairs t.attributeNodes := by
  unfold Tree.attrs
  generalize t.attributeNodes = l
  induction l with
  | nil => rfl
  | cons k ks ih =>
    rw [List.filterMap_cons, attrPairs, ih]
    cases k.value <;> rfl

theorem mem_attributeNodes_category (t : Tree) : ∀ k ∈ t.attributeNodes, k.value.category = .attribute := by
  intro k hk
  unfold Tree.attributeNodes at hk
  have := mem_takeWhile_imp _ _ _ hk
  simpa using this

theorem dropAttrs_normal : ∀ ks : List Tree, OrderedKids ks → (∀ k ∈ ks, 1 ≤ k.value.phase) →
    ((ks.dropWhile (fun k => k.value.category == .attribute)).all (fun k => k.value.isNormal)) = true
  | [], _, _ => rfl
  | a :: ks, h, h1 => by
    unfold OrderedKids at h
    rw [List.pairwise_cons] at h
    by_cases ha : (a.value.category == .attribute) = true
    · simp only [List.dropWhile_cons, ha, if_true]
      exact dropAttrs_normal ks h.2 (fun k hk => h1 k (List.mem_cons_of_mem _ hk))
    · have ha1 : ¬ a.value.phase = 1 := fun h' => ha ((category_attribute_iff _).mpr h')
      have ha2 : 2 ≤ a.value.phase := by have := h1 a (List.mem_cons_self ..); omega
      simp only [List.dropWhile_cons, ha, if_false, List.all_cons, Bool.and_eq_true, List.all_eq_true,
        Bool.false_eq_true]
      refine ⟨isNormal_of_two_le_phase ha2, fun k hk => isNormal_of_two_le_phase ?_⟩
      exact Nat.le_trans ha2 (h.1 k hk)

theorem orderedKids_of_ordered : ∀ ks : List Tree, OrderedKids ks → orderedKids ks = true
  | [], _ => rfl
  | a :: ks, h => by
    unfold orderedKids
    by_cases ha : (a.value.category == .namespace) = true
    · simp only [List.dropWhile_cons, ha, if_true]
      have h' : OrderedKids ks := by
        unfold OrderedKids at h ⊢; exact (List.pairwise_cons.mp h).2
      exact orderedKids_of_ordered ks h'
    · have ha0 : ¬ a.value.phase = 0 := fun h' => ha ((category_namespace_iff _).mpr h')
      rw [List.dropWhile_cons_of_neg (p := fun k : Tree => k.value.category == .namespace) ha]
      refine dropAttrs_normal (a :: ks) h (fun k hk => ?_)
      rcases List.mem_cons.mp hk with rfl | hk
      · omega
      · have := (List.pairwise_cons.mp h).1 k hk
        omega

/-- Well-ordered children are namespace nodes, then attribute nodes (the `skip_while`/`take_while` view), then
    normal nodes. -/
theorem Compare.orderedKids_split {ks : List Tree} (h : orderedKids ks = true) :
    ∃ N A R, ks = N ++ (A ++ R) ∧
      (ks.dropWhile (fun k => k.value.category == .namespace)).takeWhile (fun k => k.value.category == .attribute) = A ∧
      (∀ k ∈ N, k.value.category = .namespace) ∧ (∀ k ∈ A, k.value.category = .attribute) ∧
      ∀ k ∈ R, k.value.isNormal = true :=
  ⟨_, _, _, by rw [List.takeWhile_append_dropWhile, List.takeWhile_append_dropWhile], rfl,
    fun _ hk => by simpa using mem_takeWhile_imp _ _ _ hk, fun _ hk => by simpa using mem_takeWhile_imp _ _ _ hk,
    fun k hk => List.all_eq_true.mp h k hk⟩

/-- On well-ordered children the `skip_while`/`take_while` view sees every attribute child. -/
theorem attrPairs_attributeNodes {v : Value} {ks : List Tree} (h : orderedKids ks = true) :
    attrPairs (Tree.node v ks).attributeNodes = attrPairs ks := by
  obtain ⟨N, A, R, e, hA', hN, _, hR⟩ := Compare.orderedKids_split h
  simp only [Tree.attributeNodes, Tree.kids]
  rw [hA']
  conv => rhs; rw [e, attrPairs_append, attrPairs_append,
    attrPairs_eq_nil (l := N) (fun k hk => by rw [hN k hk]; exact nofun),
    attrPairs_eq_nil (l := R) (fun k hk => by rw [beq_iff_eq.mp (hR k hk)]; exact nofun)]
  rw [List.nil_append, List.append_nil]

theorem attrs_of_ordered {v : Value} {ks : List Tree} (h : orderedKids ks = true) :
    (Tree.node v ks).attrs = attrPairs ks := by
  rw [attrs_eq_attrPairs, attrPairs_attributeNodes h]

theorem attrLen_of_ordered {v : Value} {ks : List Tree} (h : orderedKids ks = true) :
    (Tree.node v ks).attrLen = (attrPairs ks).length := by
  unfold Tree.attrLen
  rw [← attrPairs_attributeNodes (v := v) h, attrPairs_length_of_all (mem_attributeNodes_category _)]

theorem attrLen_eq_attrs_length (t : Tree) : t.attrLen = t.attrs.length := by
  unfold Tree.attrLen
  rw [attrs_eq_attrPairs, attrPairs_length_of_all (mem_attributeNodes_category t)]

/-- `advanced_compare_attributes` with any comparison: same number of entries, and every entry of `a` has
    an entry of the same name in `b` whose value the SUPPLIED comparison relates to it — nothing else about
    the two values (length, bytes) is looked at. -/
theorem compareAttributes_true_iff (cmp : TextCmp) (a b : Tree) :
    compareAttributes cmp a b = true ↔
      a.attrs.length = b.attrs.length ∧
        ∀ kv ∈ a.attrs, ∃ w, b.attrs.lookup kv.1 = some w ∧ cmp kv.2 w = true := by
  unfold compareAttributes
  rw [attrLen_eq_attrs_length, attrLen_eq_attrs_length]
  unfold Tree.getAttribute
  by_cases hlen : a.attrs.length = b.attrs.length
  · simp only [hlen, bne_self_eq_false, Bool.false_eq_true, ↓reduceIte, List.all_eq_true, true_and]
    constructor
    · intro h kv hkv
      have := h kv hkv
      cases hl : List.lookup kv.1 b.attrs with
      | none => rw [hl] at this; simp [cmpFound] at this
      | some v => rw [hl] at this; exact ⟨v, rfl, by simpa [cmpFound] using this⟩
    · intro h kv hkv
      obtain ⟨w, hw, hc⟩ := h kv hkv
      rw [hw]; simpa [cmpFound] using hc
  · have : (a.attrs.length != b.attrs.length) = true := by simpa using hlen
    simp [this, hlen]

theorem validList_iff (ks : List Tree) : Tree.valid.validList ks = true ↔ ∀ k ∈ ks, k.valid = true := by
  induction ks with
  | nil => simp [Tree.valid.validList]
  | cons k ks ih => simp [Tree.valid.validList, ih]

theorem valid_node {v : Value} {ks : List Tree} (h : (Tree.node v ks).valid = true) :
    orderedKids ks = true ∧ attrNamesNodup ks = true ∧ (v.isNormal = true ∨ ks = []) ∧
      ∀ k ∈ ks, k.valid = true := by
  simp only [Tree.valid, Bool.and_eq_true, Bool.or_eq_true, List.isEmpty_iff, validList_iff] at h
  exact ⟨h.1.1.1, h.1.1.2, h.1.2, h.2⟩

theorem canonList_cons_normal {k : Tree} {ks : List Tree} (h : k.value.isNormal = true) :
    canon.canonList (k :: ks) = canon k :: canon.canonList ks := by
  simp [canon.canonList, h]

theorem canonList_cons_abnormal {k : Tree} {ks : List Tree} (h : ¬ k.value.isNormal = true) :
    canon.canonList (k :: ks) = canon.canonList ks := by
  simp [canon.canonList, h]

theorem Compare.canonList_eq_filter_map (l : List Tree) :
    canon.canonList l = (l.filter (fun k => k.value.isNormal)).map canon := by
  induction l with
  | nil => rfl
  | cons k ks ih =>
    rw [canon.canonList, List.filter_cons, ih]
    cases k.value.isNormal <;> rfl

theorem canonList_append (a b : List Tree) :
    canon.canonList (a ++ b) = canon.canonList a ++ canon.canonList b := by
  simp only [Compare.canonList_eq_filter_map, List.filter_append, List.map_append]

theorem canonList_eq_nil {l : List Tree} (h : ∀ k ∈ l, ¬ k.value.isNormal = true) : canon.canonList l = [] := by
  rw [Compare.canonList_eq_filter_map, List.filter_eq_nil_iff.mpr h, List.map_nil]

theorem canonList_eq_map {l : List Tree} (h : ∀ k ∈ l, k.value.isNormal = true) :
    canon.canonList l = l.map canon := by
  rw [Compare.canonList_eq_filter_map, List.filter_eq_self.mpr h]

theorem kids_nil_of_abnormal {t : Tree} (hv : t.valid = true) (h : ¬ t.value.isNormal = true) : t.kids = [] := by
  obtain ⟨v, ks⟩ := t
  obtain ⟨_, _, hl, _⟩ := valid_node hv
  rcases hl with hl | hl
  · exact absurd hl h
  · exact hl

end XotModel
