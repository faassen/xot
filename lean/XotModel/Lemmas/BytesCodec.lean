/-
  The ENCODERS (specification side: `char::encode_utf8`,
  `char::encode_utf16` in either byte order) and the round trips through the model's decoders
  (Model/Bytes.lean: the decoders of encoding_rs as specified):
      decodeUtf8 (encodeUtf8 t) = t          decodeUtf16 be (encodeUtf16 be t) = t
  for every string `t` (every `Char` is a Unicode scalar value, so the encoders never fail).
-/
import XotModel.Model.Bytes

namespace XotModel.Bytes

theorem char_range (c : Char) : c.toNat < 0xD800 ∨ (0xDFFF < c.toNat ∧ c.toNat < 0x110000) := c.valid

theorem ofNat_eq (c : Char) (n : Nat) (h : n = c.toNat) : Char.ofNat n = c := by
  subst h; exact Char.ofNat_toNat c

/-- `char::encode_utf8`. -/
def utf8Bytes (c : Char) : Bytes :=
  let n := c.toNat
  if n < 0x80 then [n]
  else if n < 0x800 then [0xC0 + n / 64, 0x80 + n % 64]
  else if n < 0x10000 then [0xE0 + n / 4096, 0x80 + n / 64 % 64, 0x80 + n % 64]
  else [0xF0 + n / 262144, 0x80 + n / 4096 % 64, 0x80 + n / 64 % 64, 0x80 + n % 64]

/-- `str::as_bytes`: the UTF-8 form of a string. -/
def encodeUtf8 : Str → Bytes
  | [] => []
  | c :: cs => utf8Bytes c ++ encodeUtf8 cs

theorem band_true {a b : Prop} [Decidable a] [Decidable b] (h : a ∧ b) : (decide a && decide b) = true := by
  simp [h.1, h.2]

theorem band_false {a b : Prop} [Decidable a] [Decidable b] (h : ¬ b) : (decide a && decide b) = false := by
  rw [Bool.and_eq_false_iff]; exact .inr (decide_eq_false h)

/-! The decoder on a well-formed sequence of one to four bytes, written with the payload of each
    byte (`q` in the lead byte, six bits `k m l < 64` in the continuation bytes). -/

theorem decodeUtf8_one {b0 : Nat} {r : Bytes} (h0 : b0 < 0x80) :
    decodeUtf8 (b0 :: r) = Char.ofNat b0 :: decodeUtf8 r := by
  rw [decodeUtf8.eq_def]
  simp only [h0, if_true]

/-- A continuation byte: `10xxxxxx`. -/
theorem cont_range {l : Nat} (h : l < 64) : 0x80 ≤ 0x80 + l ∧ 0x80 + l ≤ 0xBF := by omega

theorem decodeUtf8_two {q l : Nat} {r : Bytes} (hq : 2 ≤ q ∧ q < 32) (hl : l < 64) :
    decodeUtf8 ((0xC0 + q) :: (0x80 + l) :: r) = Char.ofNat (q * 64 + l) :: decodeUtf8 r := by
  rw [decodeUtf8.eq_def]
  have e : ¬ 0xC0 + q < 0x80 := by omega
  simp only [e, band_true (show 0xC2 ≤ 0xC0 + q ∧ 0xC0 + q ≤ 0xDF by omega),
    band_true (cont_range hl), if_false, if_true,
    Nat.add_sub_cancel_left]

/-- The range of the second byte `0x80 + m` after the lead byte `b0`: narrowed after `lo`
    (overlong forms) and after `hi` (surrogates, or beyond U+10FFFF). -/
theorem second_range {b0 m lo hi l h : Nat} (hm : m < 64) (hlo : b0 = lo → l ≤ 0x80 + m)
    (hhi : b0 = hi → 0x80 + m ≤ h) :
    (decide ((if (b0 == lo) = true then l else 0x80) ≤ 0x80 + m) &&
      decide (0x80 + m ≤ if (b0 == hi) = true then h else 0xBF)) = true := by
  refine band_true ⟨?_, ?_⟩
  · split
    · exact hlo (eq_of_beq ‹_›)
    · exact Nat.le_add_right _ _
  · split
    · exact hhi (eq_of_beq ‹_›)
    · omega

theorem decodeUtf8_three {q m l : Nat} {r : Bytes} (hq : q < 16) (hm : m < 64) (hl : l < 64)
    (hlo : q = 0 → 32 ≤ m) (hhi : q = 13 → m < 32) :
    decodeUtf8 ((0xE0 + q) :: (0x80 + m) :: (0x80 + l) :: r) =
      Char.ofNat (q * 4096 + m * 64 + l) :: decodeUtf8 r := by
  rw [decodeUtf8.eq_def]
  have e : ¬ 0xE0 + q < 0x80 := by omega
  simp only [e, band_false (show ¬ 0xE0 + q ≤ 0xDF by omega),
    band_true (show 0xE0 ≤ 0xE0 + q ∧ 0xE0 + q ≤ 0xEF by omega),
    second_range hm (b0 := 0xE0 + q) (lo := 0xE0) (l := 0xA0) (hi := 0xED) (h := 0x9F)
      (fun h => by have := hlo (by omega); omega) (fun h => by have := hhi (by omega); omega),
    band_true (cont_range hl), if_false, if_true,
    Bool.false_eq_true, Nat.add_sub_cancel_left]

theorem decodeUtf8_four {q k m l : Nat} {r : Bytes} (hq : q < 5) (hk : k < 64) (hm : m < 64)
    (hl : l < 64) (hlo : q = 0 → 16 ≤ k) (hhi : q = 4 → k < 16) :
    decodeUtf8 ((0xF0 + q) :: (0x80 + k) :: (0x80 + m) :: (0x80 + l) :: r) =
      Char.ofNat (q * 262144 + k * 4096 + m * 64 + l) :: decodeUtf8 r := by
  rw [decodeUtf8.eq_def]
  have e : ¬ 0xF0 + q < 0x80 := by omega
  simp only [e, band_false (show ¬ 0xF0 + q ≤ 0xDF by omega),
    band_false (show ¬ 0xF0 + q ≤ 0xEF by omega),
    band_true (show 0xF0 ≤ 0xF0 + q ∧ 0xF0 + q ≤ 0xF4 by omega),
    second_range hk (b0 := 0xF0 + q) (lo := 0xF0) (l := 0x90) (hi := 0xF4) (h := 0x8F)
      (fun h => by have := hlo (by omega); omega) (fun h => by have := hhi (by omega); omega),
    band_true (cont_range hm),
    band_true (cont_range hl), if_false, if_true,
    Bool.false_eq_true, Nat.add_sub_cancel_left]

theorem base64_digits (n : Nat) :
    n % 64 < 64 ∧ n / 64 % 64 < 64 ∧ n / 4096 % 64 < 64 ∧ n = n / 64 * 64 + n % 64 ∧
      n / 64 = n / 4096 * 64 + n / 64 % 64 ∧ n / 4096 = n / 262144 * 64 + n / 4096 % 64 := by
  omega

theorem three_payload {n q2 q3 m l : Nat} (e1 : n = q2 * 64 + l) (e2 : q2 = q3 * 64 + m)
    (hl : l < 64) (hm : m < 64) (h1 : ¬ n < 0x800) (h2 : n < 0x10000)
    (hs : n < 0xD800 ∨ 0xDFFF < n ∧ n < 0x110000) :
    q3 < 16 ∧ (q3 = 0 → 32 ≤ m) ∧ (q3 = 13 → m < 32) ∧ q3 * 4096 + m * 64 + l = n := by
  omega

theorem four_payload {n q2 q3 q4 k m l : Nat} (e1 : n = q2 * 64 + l) (e2 : q2 = q3 * 64 + m)
    (e3 : q3 = q4 * 64 + k) (hl : l < 64) (hm : m < 64) (hk : k < 64) (h1 : ¬ n < 0x10000)
    (hs : n < 0xD800 ∨ 0xDFFF < n ∧ n < 0x110000) :
    q4 < 5 ∧ (q4 = 0 → 16 ≤ k) ∧ (q4 = 4 → k < 16) ∧
      q4 * 262144 + k * 4096 + m * 64 + l = n := by
  omega

/-- The UTF-8 form of a character, by length: the payload of each byte, the conditions the
    decoder tests, and the value spelt.  The six bits after a lead payload 0 are ≥ 32 (≥ 16 in
    the four-byte form) because shorter forms take the smaller values; after `ED` they are < 32
    because `n` is no surrogate, after `F4` they are < 16 because `n < 0x110000`. -/
theorem utf8Bytes_form (c : Char) :
    (c.toNat < 0x80 ∧ utf8Bytes c = [c.toNat]) ∨
    (∃ q l, utf8Bytes c = [0xC0 + q, 0x80 + l] ∧ (2 ≤ q ∧ q < 32) ∧ l < 64 ∧ q * 64 + l = c.toNat) ∨
    (∃ q m l, utf8Bytes c = [0xE0 + q, 0x80 + m, 0x80 + l] ∧ q < 16 ∧ m < 64 ∧ l < 64 ∧
      (q = 0 → 32 ≤ m) ∧ (q = 13 → m < 32) ∧ q * 4096 + m * 64 + l = c.toNat) ∨
    (∃ q k m l, utf8Bytes c = [0xF0 + q, 0x80 + k, 0x80 + m, 0x80 + l] ∧ q < 5 ∧ k < 64 ∧ m < 64 ∧
      l < 64 ∧ (q = 0 → 16 ≤ k) ∧ (q = 4 → k < 16) ∧
      q * 262144 + k * 4096 + m * 64 + l = c.toNat) := by
  have hr := char_range c
  obtain ⟨hl, hm, hk, e1, e2, e3⟩ := base64_digits c.toNat
  by_cases h1 : c.toNat < 0x80
  · exact .inl ⟨h1, if_pos h1⟩
  by_cases h2 : c.toNat < 0x800
  · exact .inr (.inl ⟨_, _, (if_neg h1).trans (if_pos h2), by omega, hl, e1.symm⟩)
  by_cases h3 : c.toNat < 0x10000
  · have := three_payload e1 e2 hl hm h2 h3 hr
    exact .inr (.inr (.inl ⟨_, _, _, (if_neg h1).trans ((if_neg h2).trans (if_pos h3)),
      this.1, hm, hl, this.2⟩))
  · have := four_payload e1 e2 e3 hl hm hk h3 hr
    exact .inr (.inr (.inr ⟨_, _, _, _, (if_neg h1).trans ((if_neg h2).trans (if_neg h3)),
      this.1, hk, hm, hl, this.2⟩))

theorem decodeUtf8_char (c : Char) (rest : Bytes) :
    decodeUtf8 (utf8Bytes c ++ rest) = c :: decodeUtf8 rest := by
  rcases utf8Bytes_form c with ⟨h0, e⟩ | ⟨q, l, e, hq, hl, hv⟩ |
    ⟨q, m, l, e, hq, hm, hl, hlo, hhi, hv⟩ | ⟨q, k, m, l, e, hq, hk, hm, hl, hlo, hhi, hv⟩
  · rw [e, List.singleton_append, decodeUtf8_one h0, Char.ofNat_toNat]
  · rw [e, List.cons_append, List.singleton_append, decodeUtf8_two hq hl, hv, Char.ofNat_toNat]
  · rw [e, List.cons_append, List.cons_append, List.singleton_append,
      decodeUtf8_three hq hm hl hlo hhi, hv, Char.ofNat_toNat]
  · rw [e, List.cons_append, List.cons_append, List.cons_append, List.singleton_append,
      decodeUtf8_four hq hk hm hl hlo hhi, hv, Char.ofNat_toNat]

theorem decodeUtf8_encode (t : Str) : decodeUtf8 (encodeUtf8 t) = t := by
  induction t with
  | nil => rw [encodeUtf8, decodeUtf8.eq_def]
  | cons c cs ih => rw [encodeUtf8, decodeUtf8_char, ih]

theorem encodeUtf8_append (s t : Str) : encodeUtf8 (s ++ t) = encodeUtf8 s ++ encodeUtf8 t := by
  induction s with
  | nil => rfl
  | cons c cs ih => simp only [List.cons_append, encodeUtf8, ih, List.append_assoc]

theorem encodeUtf8_ascii (s : Str) (h : ∀ c ∈ s, c.toNat < 0x80) : encodeUtf8 s = s.map Char.toNat := by
  induction s with
  | nil => rfl
  | cons c cs ih =>
    have hc := h c (List.mem_cons_self)
    rw [encodeUtf8, ih (fun x hx => h x (List.mem_cons_of_mem _ hx))]
    simp [utf8Bytes, hc]

/-- The shape of a UTF-8 form, without the payloads: an ASCII byte alone, or a lead byte
    0xC2..0xF4 followed by at least one continuation byte. -/
theorem utf8Bytes_shape (c : Char) : ∃ b r, utf8Bytes c = b :: r ∧ (∀ x ∈ r, 0x80 ≤ x ∧ x ≤ 0xBF) ∧
    ((c.toNat < 0x80 ∧ b = c.toNat ∧ r = []) ∨ (0x80 ≤ c.toNat ∧ 0xC2 ≤ b ∧ b ≤ 0xF4 ∧ r ≠ [])) := by
  have hr : c.toNat < 0x110000 := by have := char_range c; omega
  have cont : ∀ n x : Nat, x = 0x80 + n % 64 → 0x80 ≤ x ∧ x ≤ 0xBF :=
    fun n x e => e ▸ cont_range (Nat.mod_lt n (by decide))
  unfold utf8Bytes
  by_cases h1 : c.toNat < 0x80
  · exact ⟨_, _, if_pos h1, nofun, .inl ⟨h1, rfl, rfl⟩⟩
  by_cases h2 : c.toNat < 0x800
  · refine ⟨_, _, (if_neg h1).trans (if_pos h2), fun x hx => ?_, .inr ⟨by omega, by omega, by omega, nofun⟩⟩
    exact cont _ x (List.mem_singleton.mp hx)
  by_cases h3 : c.toNat < 0x10000
  · refine ⟨_, _, (if_neg h1).trans ((if_neg h2).trans (if_pos h3)), fun x hx => ?_,
      .inr ⟨by omega, by omega, by omega, nofun⟩⟩
    simp only [List.mem_cons, List.not_mem_nil, or_false] at hx
    rcases hx with e | e <;> exact cont _ x e
  · refine ⟨_, _, (if_neg h1).trans ((if_neg h2).trans (if_neg h3)), fun x hx => ?_,
      .inr ⟨by omega, by omega, by omega, nofun⟩⟩
    simp only [List.mem_cons, List.not_mem_nil, or_false] at hx
    rcases hx with e | e | e <;> exact cont _ x e

/-- Every byte of a UTF-8 form is a byte, and never 0xF8..0xFF. -/
theorem utf8Bytes_lt (c : Char) : ∀ b ∈ utf8Bytes c, b < 0xF8 := by
  obtain ⟨b, r, e, hr, h⟩ := utf8Bytes_shape c
  rw [e]
  intro x hx
  rcases List.mem_cons.mp hx with rfl | hx
  · rcases h with ⟨h, rfl, _⟩ | ⟨_, _, h, _⟩ <;> omega
  · have := (hr x hx).2; omega

theorem encodeUtf8_lt (t : Str) : ∀ b ∈ encodeUtf8 t, b < 0xF8 := by
  induction t with
  | nil => intro b hb; cases hb
  | cons c cs ih =>
    intro b hb
    rw [encodeUtf8, List.mem_append] at hb
    rcases hb with hb | hb
    · exact utf8Bytes_lt c b hb
    · exact ih b hb

theorem utf8Bytes_head (c : Char) :
    (c.toNat < 0x80 ∧ utf8Bytes c = [c.toNat]) ∨
      (0x80 ≤ c.toNat ∧ ∃ b r, utf8Bytes c = b :: r ∧ 0xC2 ≤ b ∧ r ≠ [] ∧ ∀ x ∈ r, 0x80 ≤ x ∧ x ≤ 0xBF) := by
  obtain ⟨b, r, e, hr, ⟨h, rfl, rfl⟩ | ⟨h, hb, _, hne⟩⟩ := utf8Bytes_shape c
  · exact .inl ⟨h, e⟩
  · exact .inr ⟨h, b, r, e, hb, hne, hr⟩

/-! ### UTF-16 -/

def unit16 (be : Bool) (u : Nat) : Bytes := if be then [u / 256, u % 256] else [u % 256, u / 256]

def utf16Bytes (be : Bool) (c : Char) : Bytes :=
  if c.toNat < 0x10000 then unit16 be c.toNat
  else unit16 be (0xD800 + (c.toNat - 0x10000) / 1024) ++ unit16 be (0xDC00 + (c.toNat - 0x10000) % 1024)

theorem decodeUtf16Go_unit (be : Bool) (lead : Option Nat) (u : Nat) (rest : Bytes) :
    decodeUtf16Go be lead (unit16 be u ++ rest) =
      match lead with
      | none =>
        if isHighSurrogate u then decodeUtf16Go be (some u) rest
        else if isLowSurrogate u then replacementChar :: decodeUtf16Go be none rest
        else Char.ofNat u :: decodeUtf16Go be none rest
      | some h =>
        if isHighSurrogate u then replacementChar :: decodeUtf16Go be (some u) rest
        else if isLowSurrogate u then
          Char.ofNat (0x10000 + (h - 0xD800) * 0x400 + (u - 0xDC00)) :: decodeUtf16Go be none rest
        else replacementChar :: Char.ofNat u :: decodeUtf16Go be none rest := by
  have hu : u / 256 * 256 + u % 256 = u := by omega
  cases be
  · simp only [unit16, Bool.false_eq_true, if_false, List.cons_append, List.nil_append]
    rw [decodeUtf16Go.eq_def]
    simp only [Bool.false_eq_true, if_false, hu]
    cases lead <;> rfl
  · simp only [unit16, if_true, List.cons_append, List.nil_append]
    rw [decodeUtf16Go.eq_def]
    simp only [if_true, hu]
    cases lead <;> rfl

theorem decodeUtf16_char (be : Bool) (c : Char) (rest : Bytes) :
    decodeUtf16Go be none (utf16Bytes be c ++ rest) = c :: decodeUtf16Go be none rest := by
  have hr := char_range c
  unfold utf16Bytes
  split
  · rename_i h
    rw [decodeUtf16Go_unit]
    have h1 : isHighSurrogate c.toNat = false := by simp [isHighSurrogate]; omega
    have h2 : isLowSurrogate c.toNat = false := by simp [isLowSurrogate]; omega
    simp only [h1, h2, Bool.false_eq_true, if_false, Char.ofNat_toNat]
  · rename_i h
    rw [List.append_assoc, decodeUtf16Go_unit]
    have h1 : isHighSurrogate (0xD800 + (c.toNat - 0x10000) / 1024) = true := by simp [isHighSurrogate]; omega
    simp only [h1, if_true]
    rw [decodeUtf16Go_unit]
    have h2 : isHighSurrogate (0xDC00 + (c.toNat - 0x10000) % 1024) = false := by simp [isHighSurrogate]; omega
    have h3 : isLowSurrogate (0xDC00 + (c.toNat - 0x10000) % 1024) = true := by simp [isLowSurrogate]; omega
    simp only [h2, h3, if_true, Bool.false_eq_true, if_false]
    rw [ofNat_eq c]
    omega

/-- `str::encode_utf16` written out in one byte order. -/
def encodeUtf16 (be : Bool) : Str → Bytes
  | [] => []
  | c :: cs => utf16Bytes be c ++ encodeUtf16 be cs

theorem decodeUtf16_encode (be : Bool) (t : Str) : decodeUtf16 be (encodeUtf16 be t) = t := by
  unfold decodeUtf16
  induction t with
  | nil => rw [encodeUtf16, decodeUtf16Go.eq_def]; rfl
  | cons c cs ih => rw [encodeUtf16, decodeUtf16_char, ih]

theorem encodeUtf16_append (be : Bool) (s t : Str) :
    encodeUtf16 be (s ++ t) = encodeUtf16 be s ++ encodeUtf16 be t := by
  induction s with
  | nil => rfl
  | cons c cs ih => simp only [List.cons_append, encodeUtf16, ih, List.append_assoc]

/-- The byte order marks as bytes. -/
def bom8 : Bytes := [0xEF, 0xBB, 0xBF]
def bom16 (be : Bool) : Bytes := if be then [0xFE, 0xFF] else [0xFF, 0xFE]

end XotModel.Bytes
