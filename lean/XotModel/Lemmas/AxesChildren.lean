/-
  Children, first and last child, the sibling axes, `reverse_children` and `child_index` as positions in the raw
  child list of the parent, for well-formed trees.
-/
import XotModel.Lemmas.AxesPartition

/-! ## children, first/last child, siblings: what follows from the parent/child structure. -/

namespace XotModel.Axes

/-- Raw child paths of `p`. -/
def rawChildPaths (t : Tree) (p : Path) : List Path :=
  (List.range (subAt t p).kids.length).map (fun j => p ++ [j])

theorem kidPaths_map_fst (p : Path) : ∀ (i : Nat) (ks : List Tree),
    (kidPaths p i ks).map (·.1) = (List.range' i ks.length).map (fun j => p ++ [j])
  | _, [] => by simp [kidPaths]
  | i, k :: ks => by simp [kidPaths, kidPaths_map_fst p (i + 1) ks, List.range'_succ]

theorem kidPaths_append (p : Path) : ∀ (i : Nat) (a b : List Tree),
    kidPaths p i (a ++ b) = kidPaths p i a ++ kidPaths p (i + a.length) b
  | _, [], b => by simp [kidPaths]
  | i, k :: a, b => by
    simp only [List.cons_append, kidPaths, kidPaths_append p (i + 1) a b, List.length_cons]
    congr 3; omega

theorem kidPaths_dropWhile (p : Path) (f : Tree → Bool) : ∀ (i : Nat) (ks : List Tree),
    (kidPaths p i ks).dropWhile (fun x => f x.2) =
      kidPaths p (i + (ks.takeWhile f).length) (ks.dropWhile f)
  | _, [] => by simp [kidPaths]
  | i, k :: ks => by
    by_cases hk : f k = true
    · simp only [kidPaths, List.dropWhile_cons, hk, if_true, List.takeWhile_cons, List.length_cons]
      rw [kidPaths_dropWhile p f (i + 1) ks]; congr 1; omega
    · simp [kidPaths, hk]

theorem dropWhile_abnormal_eq_filter {α : Type} (f : α → Tree) (l : List α) (ho : kidsOrdered (l.map f) = true) :
    l.dropWhile (fun x => !(f x).value.isNormal) = l.filter (fun x => (f x).value.isNormal) := by
  rw [(takeWhile_dropWhile_eq_filter (fun x => !(f x).value.isNormal) l
    ((List.pairwise_map.mp ((kidsOrdered_iff_pairwise _).mp ho)).imp (fun hab hb => by
      rw [Bool.not_eq_true'] at hb ⊢
      exact Bool.eq_false_iff.mpr (fun ha => Bool.eq_false_iff.mp hb (hab ha))))).2]
  simp only [Bool.not_not]

theorem dropWhile_eq_filter_of_ordered : ∀ (ks : List Tree), kidsOrdered ks = true →
    ks.dropWhile (fun k => !k.value.isNormal) = ks.filter (fun k => k.value.isNormal) :=
  fun ks ho => dropWhile_abnormal_eq_filter id ks (by rw [List.map_id]; exact ho)

theorem kidPaths_map_snd (p : Path) : ∀ (i : Nat) (ks : List Tree), (kidPaths p i ks).map (·.2) = ks
  | _, [] => rfl
  | i, k :: ks => by rw [kidPaths, List.map_cons, kidPaths_map_snd p (i + 1) ks]

theorem kidPaths_dropWhile_filter (p : Path) (i : Nat) (ks : List Tree) (ho : kidsOrdered ks = true) :
    (kidPaths p i ks).dropWhile (fun x => !itemNormal x) = (kidPaths p i ks).filter itemNormal :=
  dropWhile_abnormal_eq_filter (fun x : Path × Tree => x.2) _ (by rw [kidPaths_map_snd]; exact ho)

theorem mem_kidPaths {p : Path} : ∀ {i : Nat} {ks : List Tree} {x : Path × Tree}, x ∈ kidPaths p i ks →
    ∃ j, ∃ hj : j < ks.length, x = (p ++ [i + j], ks[j])
  | _, [], _, h => by simp [kidPaths] at h
  | i, k :: ks, x, h => by
    simp only [kidPaths, List.mem_cons] at h
    rcases h with rfl | h
    · exact ⟨0, by simp, by simp⟩
    · obtain ⟨j, hj, rfl⟩ := mem_kidPaths h
      exact ⟨j + 1, by simp; omega, by simp; omega⟩

theorem allChildren_item {t : Tree} {p : Path} (h : Valid t p) {x : Path × Tree}
    (hx : x ∈ allChildren t p) : subAt t x.1 = x.2 ∧ Valid t x.1 ∧ parent x.1 = some p := by
  unfold allChildren at hx
  obtain ⟨j, hj, rfl⟩ := mem_kidPaths hx
  simp only [Nat.zero_add]
  exact ⟨subAt_snoc h hj, (valid_snoc_iff h j).mpr hj, parent_snoc p j⟩

theorem allChildren_paths (t : Tree) (p : Path) :
    (allChildren t p).map (·.1) = rawChildPaths t p := by
  simp [allChildren, kidPaths_map_fst, rawChildPaths, List.range_eq_range']

theorem filter_items {t : Tree} {p : Path} (h : Valid t p) (f : Tree → Bool) :
    ((allChildren t p).filter (fun x => f x.2)).map (·.1) =
      (rawChildPaths t p).filter (fun q => f (subAt t q)) := by
  rw [← allChildren_paths, List.filter_map]
  congr 1
  apply List.filter_congr
  intro x hx
  simp [(allChildren_item h hx).1]

/-- `children` below an ordered child list: the normal ones among the raw children, in order. -/
theorem children_eq_of_ordered {t : Tree} {p : Path} (h : Valid t p) (ho : kidsOrdered (subAt t p).kids = true) :
    children t p = (rawChildPaths t p).filter (isNormalAt t) := by
  unfold children normalChildren
  rw [show (allChildren t p).dropWhile (fun x => !itemNormal x) = (allChildren t p).filter itemNormal from
    kidPaths_dropWhile_filter p 0 _ ho]
  exact filter_items h (fun k => k.value.isNormal)

/-- `children` in a well-formed tree. -/
theorem children_eq {t : Tree} {p : Path} (hw : wf t = true) (h : Valid t p) :
    children t p = (rawChildPaths t p).filter (isNormalAt t) :=
  children_eq_of_ordered h (kidsOrdered_subAt hw h)

theorem parent_eq_some_iff (y p : Path) : parent y = some p ↔ ∃ j, y = p ++ [j] := by
  constructor
  · intro h
    rcases path_cases y with rfl | ⟨q, i, rfl⟩
    · simp at h
    · simp at h; subst h; exact ⟨i, rfl⟩
  · rintro ⟨j, rfl⟩; simp

theorem parent_append_eq (p x : Path) : parent (p ++ x) = some p ↔ ∃ j, x = [j] := by
  rw [parent_eq_some_iff]
  constructor
  · rintro ⟨j, h⟩; exact ⟨j, List.append_cancel_left h⟩
  · rintro ⟨j, rfl⟩; exact ⟨j, rfl⟩

theorem filter_parent_allPreList (p : Path) : ∀ (ks : List Tree) (j : Nat),
    ((allPreList j ks).map (p ++ ·)).filter (fun q => parent q == some p) =
      (List.range' j ks.length).map (fun i => p ++ [i])
  | [], _ => by simp [allPreList]
  | k :: ks, j => by
    cases k with
    | node v kk =>
      simp only [allPreList, allPre, List.map_append, List.map_cons, List.map_map, List.filter_append,
        List.filter_cons, parent_snoc, beq_self_eq_true, if_true, List.length_cons, List.range'_succ]
      rw [filter_parent_allPreList p ks (j + 1)]
      have : ((allPreList 0 kk).map ((fun x => p ++ x) ∘ fun x => j :: x)).filter
          (fun q => parent q == some p) = [] := by
        apply List.filter_eq_nil_iff.mpr
        intro x hx
        obtain ⟨y, hy, rfl⟩ := List.mem_map.mp hx
        obtain ⟨j', q', rfl, _⟩ := mem_allPreList hy
        simp only [Function.comp, beq_iff_eq]
        intro h
        obtain ⟨i, hi⟩ := (parent_append_eq p _).mp h
        simp at hi
      rw [this]; simp

theorem filter_parent_allPre {t : Tree} {p : Path} (h : Valid t p) :
    (allPre t).filter (fun q => parent q == some p) = rawChildPaths t p := by
  rw [allPre_split t p h, List.filter_append, List.filter_append]
  have e1 : (beforeRel t p).filter (fun q => parent q == some p) = [] := by
    apply List.filter_eq_nil_iff.mpr
    intro x hx hpx
    obtain ⟨j, rfl⟩ := (parent_eq_some_iff x p).mp (by simpa using hpx)
    have h1 := mem_beforeRel t p _ hx
    have h2 : docLt p (p ++ [j]) = true := docLt_of_prefix (by simp) (by simp)
    rw [docLt_asymm h2] at h1; cases h1
  have e3 : (afterRel t p).filter (fun q => parent q == some p) = [] := by
    apply List.filter_eq_nil_iff.mpr
    intro x hx hpx
    obtain ⟨j, rfl⟩ := (parent_eq_some_iff x p).mp (by simpa using hpx)
    have := (mem_afterRel t p _ hx).2
    rw [mem_sub_prefix] at this; cases this
  rw [e1, e3]
  cases hs : subAt t p with
  | node v ks =>
    have hp : (parent p == some p) = false := by
      cases hpp : parent p == some p
      · rfl
      · obtain ⟨j, hj⟩ := (parent_eq_some_iff p p).mp (by simpa using hpp)
        have := congrArg List.length hj; simp at this
    simp only [allPre, List.map_cons, List.append_nil, List.filter_cons, hp, Bool.false_eq_true, if_false,
      List.nil_append]
    rw [filter_parent_allPreList p ks 0]
    simp [rawChildPaths, hs, Tree.kids, List.range_eq_range']

/-- `children` = the normal nodes whose parent is `p`, in document order. -/
theorem children_spec {t : Tree} {p : Path} (hw : wf t = true) (h : Valid t p) :
    children t p = (pre t).filter (fun q => parent q == some p) := by
  rw [children_eq hw h, ← filter_parent_allPre h]
  unfold pre
  rw [List.filter_filter, List.filter_filter]
  congr 1; funext q; exact Bool.and_comm _ _

theorem firstChild_eq (t : Tree) (p : Path) : firstChild t p = (children t p).head? := by
  simp [firstChild, children, List.head?_map]

/-- `last_child` in a well-formed tree is the last of `children`. -/
theorem lastChild_eq {t : Tree} {p : Path} (hw : wf t = true) (h : Valid t p) :
    lastChild t p = (children t p).getLast? := by
  have hord := kidsOrdered_subAt hw h
  unfold lastChild children normalChildren
  rw [show (allChildren t p).dropWhile (fun x => !itemNormal x) = (allChildren t p).filter itemNormal from
    kidPaths_dropWhile_filter p 0 _ hord]
  have hp : (allChildren t p).Pairwise (fun a b => itemNormal a = true → itemNormal b = true) := by
    have := (kidsOrdered_iff_pairwise _).mp hord
    rwa [← kidPaths_map_snd p 0 (subAt t p).kids, List.pairwise_map] at this
  rcases List.eq_nil_or_concat (allChildren t p) with hnil | ⟨l, x, hl⟩
  · simp [hnil]
  · rw [hl, List.concat_eq_append] at hp ⊢
    rw [List.getLast?_concat, List.filter_append]
    by_cases hx : itemNormal x = true
    · simp [hx]
    · -- the last raw child is not normal: no child is
      have : l.filter itemNormal = [] := List.filter_eq_nil_iff.mpr (fun y hy hyn =>
        hx ((List.pairwise_append.mp hp).2.2 y hy x (List.mem_singleton_self x) hyn))
      simp [hx, this]

end XotModel.Axes

/-! ## Siblings, `reverse_children` (= `children` reversed, on a well-formed tree), `child_index` -/

namespace XotModel.Axes

theorem arenaFollowingSiblings_snoc (t : Tree) (π : Path) (i : Nat) :
    arenaFollowingSiblings t (π ++ [i]) = (rawChildPaths t π).drop i := by
  simp [arenaFollowingSiblings, rawChildPaths, List.range_eq_range', ← List.map_drop, List.drop_range']

theorem arenaPrecedingSiblings_snoc (t : Tree) (π : Path) (i : Nat)
    (hi : i < (subAt t π).kids.length) :
    arenaPrecedingSiblings (π ++ [i]) = ((rawChildPaths t π).take (i + 1)).reverse := by
  simp only [arenaPrecedingSiblings, splitLast_snoc, rawChildPaths, ← List.map_take, List.take_range,
    List.map_reverse]
  rw [Nat.min_eq_left (by omega)]

theorem rawChildPaths_getElem? (t : Tree) (π : Path) (i : Nat) (hi : i < (subAt t π).kids.length) :
    (rawChildPaths t π)[i]? = some (π ++ [i]) := by
  simp [rawChildPaths, hi]

/-- `following_siblings`: the node, then its later raw siblings of the same category.
    `axis(FollowingSibling)`: without the node. Every node (also attribute and namespace nodes:
    they have same-kind siblings). -/
theorem followingSiblings_snoc {t : Tree} {π : Path} {i : Nat} (h : Valid t (π ++ [i])) :
    followingSiblings t (π ++ [i]) = (π ++ [i]) ::
      ((rawChildPaths t π).drop (i + 1)).filter (fun s => categoryAt t s == categoryAt t (π ++ [i])) ∧
    axis t .followingSibling (π ++ [i]) =
      ((rawChildPaths t π).drop (i + 1)).filter (fun s => categoryAt t s == categoryAt t (π ++ [i])) := by
  have hi := (valid_snoc_iff (valid_prefix h) i).mp h
  have h1 : followingSiblings t (π ++ [i]) = (π ++ [i]) ::
      ((rawChildPaths t π).drop (i + 1)).filter (fun s => categoryAt t s == categoryAt t (π ++ [i])) := by
    unfold followingSiblings
    rw [arenaFollowingSiblings_snoc, List.drop_eq_getElem_cons (by simpa [rawChildPaths] using hi)]
    have := rawChildPaths_getElem? t π i hi
    rw [List.getElem?_eq_getElem (by simpa [rawChildPaths] using hi)] at this
    rw [Option.some.inj this]
    simp
  exact ⟨h1, by simp [axis, h1]⟩

/-- `preceding_siblings`: the node, then its earlier raw siblings of the same category, nearest
    first. `axis(PrecedingSibling)`: without the node. -/
theorem precedingSiblings_snoc {t : Tree} {π : Path} {i : Nat} (h : Valid t (π ++ [i])) :
    precedingSiblings t (π ++ [i]) = (π ++ [i]) ::
      (((rawChildPaths t π).take i).filter (fun s => categoryAt t s == categoryAt t (π ++ [i]))).reverse ∧
    axis t .precedingSibling (π ++ [i]) =
      (((rawChildPaths t π).take i).filter (fun s => categoryAt t s == categoryAt t (π ++ [i]))).reverse := by
  have hi := (valid_snoc_iff (valid_prefix h) i).mp h
  have h1 : precedingSiblings t (π ++ [i]) = (π ++ [i]) ::
      (((rawChildPaths t π).take i).filter (fun s => categoryAt t s == categoryAt t (π ++ [i]))).reverse := by
    unfold precedingSiblings
    rw [arenaPrecedingSiblings_snoc t π i hi, List.take_add_one, rawChildPaths_getElem? t π i hi]
    simp [List.filter_reverse]
  exact ⟨h1, by simp [axis, h1]⟩

theorem siblings_root (t : Tree) :
    followingSiblings t [] = [[]] ∧ precedingSiblings t [] = [[]] ∧
    axis t .followingSibling [] = [] ∧ axis t .precedingSibling [] = [] ∧
    nextSibling t [] = none ∧ previousSibling t [] = none := by
  simp [followingSiblings, precedingSiblings, arenaFollowingSiblings, arenaPrecedingSiblings, axis,
    nextSibling, previousSibling, internalPreviousSibling]

/-- `next_sibling` is the first of the following siblings as soon as the node's category does not come back
    behind a sibling of another category (the categories of the raw children come in blocks). -/
theorem nextSibling_eq_head? {t : Tree} {π : Path} {i : Nat} (h : Valid t (π ++ [i]))
    (hblock : ∀ j, i + 1 < j → j < (subAt t π).kids.length →
      categoryAt t (π ++ [i + 1]) ≠ categoryAt t (π ++ [i]) → categoryAt t (π ++ [j]) ≠ categoryAt t (π ++ [i])) :
    nextSibling t (π ++ [i]) = (axis t .followingSibling (π ++ [i])).head? := by
  have hat := (valid_prefix h).at?
  rw [tree_eta (subAt t π)] at hat
  rw [(followingSiblings_snoc h).2]
  unfold nextSibling
  rw [internalNextSibling_snoc hat]
  by_cases hlt : i + 1 < (subAt t π).kids.length
  · simp only [hlt, if_true]
    rw [List.drop_eq_getElem_cons (by simpa [rawChildPaths] using hlt)]
    have hget : (rawChildPaths t π)[i + 1]'(by simpa [rawChildPaths] using hlt) = π ++ [i + 1] := by
      simp [rawChildPaths]
    rw [hget, List.filter_cons]
    by_cases hc : categoryAt t (π ++ [i]) = categoryAt t (π ++ [i + 1])
    · simp [hc]
    · have hne : ¬ categoryAt t (π ++ [i + 1]) = categoryAt t (π ++ [i]) := fun e => hc e.symm
      simp only [bne_iff_ne, ne_eq, hc, not_false_eq_true, if_true, beq_iff_eq, hne, if_false]
      symm
      rw [List.head?_eq_none_iff]
      apply List.filter_eq_nil_iff.mpr
      intro x hx
      obtain ⟨n, hn, rfl⟩ := List.getElem_of_mem hx
      have hn' : i + 1 + 1 + n < (subAt t π).kids.length := by simp [rawChildPaths] at hn; omega
      have hx' : ((rawChildPaths t π).drop (i + 1 + 1))[n] = π ++ [i + 1 + 1 + n] := by simp [rawChildPaths]
      rw [hx', beq_iff_eq]
      exact hblock _ (by omega) hn' hne
  · have : (rawChildPaths t π).drop (i + 1) = [] := by
      apply List.drop_eq_nil_of_le; simp [rawChildPaths]; omega
    simp [hlt, this]

/-- `next_sibling` of a normal node in a well-formed tree: the first of its following siblings. -/
theorem nextSibling_normal {t : Tree} {π : Path} {i : Nat} (hw : wf t = true)
    (h : Valid t (π ++ [i])) (hn : isNormalAt t (π ++ [i]) = true) :
    nextSibling t (π ++ [i]) = (axis t .followingSibling (π ++ [i])).head? ∧
    nextSibling t (π ++ [i]) = if i + 1 < (subAt t π).kids.length then some (π ++ [i + 1]) else none := by
  have hπ := valid_prefix h
  have hi := (valid_snoc_iff hπ i).mp h
  have hat := hπ.at?
  rw [tree_eta (subAt t π)] at hat
  have hord := kidsOrdered_subAt hw hπ
  have hki : (subAt t π).kids[i]? = some (subAt t π).kids[i] := List.getElem?_eq_getElem hi
  have hni : (subAt t π).kids[i].value.isNormal = true := by rw [← isNormalAt_snoc hat hki]; exact hn
  refine ⟨nextSibling_eq_head? h ?_, nextSibling_normal_child hat hord hi hni⟩
  intro j hj hjl hne
  -- child `i + 1` is normal like child `i`
  have hlt : i + 1 < (subAt t π).kids.length := Nat.lt_trans hj hjl
  have hk1 : (subAt t π).kids[i + 1]? = some (subAt t π).kids[i + 1] := List.getElem?_eq_getElem hlt
  rw [categoryAt_snoc hat hk1, categoryAt_snoc hat hki] at hne
  exact absurd (category_eq_of_normal (kidsOrdered_mono _ hord i (i + 1) _ _ (Nat.le_succ i) hki hk1 hni) hni) hne

/-- `previous_sibling` of child `i`: the previous raw sibling if that one has the same category. -/
theorem previousSibling_snoc (t : Tree) (π : Path) (i : Nat) :
    previousSibling t (π ++ [i]) =
      if i = 0 then none
      else if categoryAt t (π ++ [i - 1]) == categoryAt t (π ++ [i]) then some (π ++ [i - 1]) else none := by
  unfold previousSibling
  rw [internalPreviousSibling_snoc]
  by_cases h0 : i = 0
  · simp [h0]
  · simp only [h0, if_false]
    by_cases hc : categoryAt t (π ++ [i]) = categoryAt t (π ++ [i - 1])
    · simp [hc]
    · have : ¬ categoryAt t (π ++ [i - 1]) = categoryAt t (π ++ [i]) := fun e => hc e.symm
      simp [hc, this]

/-- The raw children of `p`, last first, up to the first non-normal one (specification). -/
def reverseChildrenSpec (t : Tree) (p : Path) : List Path :=
  (rawChildPaths t p).reverse.takeWhile (isNormalAt t)

/-- Walking `previous_sibling` from child `i` of `π` lists the children `i, i-1, …, 0`. -/
theorem backwardSiblings_snoc (π : Path) : ∀ (i fuel : Nat), i + 1 ≤ fuel →
    backwardSiblings fuel (some (π ++ [i])) = (List.range (i + 1)).reverse.map (fun j => π ++ [j])
  | _, 0, h => by omega
  | 0, fuel + 1, _ => by
    cases fuel <;> simp [backwardSiblings, internalPreviousSibling_snoc]
  | i + 1, fuel + 1, h => by
    simp only [backwardSiblings, internalPreviousSibling_snoc, Nat.add_one_ne_zero, if_false,
      Nat.add_sub_cancel]
    rw [backwardSiblings_snoc π i fuel (by omega), List.range_succ (n := i + 1)]
    simp

theorem internalLastChild_eq (t : Tree) (p : Path) :
    internalLastChild t p =
      if (subAt t p).kids.length = 0 then none else some (p ++ [(subAt t p).kids.length - 1]) := by
  unfold internalLastChild
  rw [← List.getLast?_map, allChildren_paths, rawChildPaths]
  cases hn : (subAt t p).kids.length with
  | zero => simp
  | succ n => simp [List.range_succ]

/-- `reverse_children` walks all raw children backwards and stops at the first non-normal one;
    the fuel is adequate. -/
theorem reverseChildren_eq_spec {t : Tree} {p : Path} (h : Valid t p) :
    reverseChildren t p = reverseChildrenSpec t p := by
  unfold reverseChildren reverseChildrenSpec
  rw [internalLastChild_eq]
  cases hn : (subAt t p).kids.length with
  | zero => simp [rawChildPaths, hn]; cases t.size <;> rfl
  | succ n =>
    have hfuel : n + 1 ≤ t.size := by
      have h1 := kids_length_lt_size (subAt t p)
      have h2 := size_at?_le t p _ h.at?
      omega
    simp only [Nat.add_one_ne_zero, if_false, Nat.add_sub_cancel]
    rw [backwardSiblings_snoc p n t.size hfuel]
    simp [rawChildPaths, hn, List.map_reverse]

/-- `reverse_children` = `children` reversed (well-formed trees). -/
theorem reverseChildren_eq {t : Tree} {p : Path} (hw : wf t = true) (h : Valid t p) :
    reverseChildren t p = (children t p).reverse := by
  rw [reverseChildren_eq_spec h]
  have hord := kidsOrdered_subAt hw h
  rw [children_eq hw h]
  unfold reverseChildrenSpec
  -- reversed, an ordered list is: normal ... normal, then non-normal ... non-normal
  rw [← List.filter_reverse]
  apply (takeWhile_dropWhile_eq_filter (isNormalAt t) _ ?_).1
  rw [List.pairwise_reverse]
  unfold rawChildPaths
  rw [List.pairwise_map]
  apply List.Pairwise.imp_of_mem _ List.pairwise_lt_range
  intro a b ha hb hab hxn
  have hat := h.at?
  rw [tree_eta (subAt t p)] at hat
  have hla' : a < (subAt t p).kids.length := by simpa using ha
  have hlb' : b < (subAt t p).kids.length := by simpa using hb
  have hka := List.getElem?_eq_getElem hla'
  have hkb := List.getElem?_eq_getElem hlb'
  rw [isNormalAt_snoc hat hka] at hxn
  rw [isNormalAt_snoc hat hkb]
  exact kidsOrdered_mono _ hord a b _ _ (by omega) hka hkb hxn


/-- `child_index(parent, child)`: the position of `child` among the normal children of `parent`. -/
theorem childIndex_iff {t : Tree} {par child : Path} (hw : wf t = true) (h : Valid t par) (i : Nat) :
    childIndex t par child = some i ↔ (children t par)[i]? = some child := by
  have hnd : (children t par).Nodup := by
    rw [children_spec hw h]; exact (pre_nodup t).filter _
  have hpar : ∀ c ∈ children t par, parent c = some par := by
    intro c hc
    rw [children_spec hw h] at hc
    simpa using (List.mem_filter.mp hc).2
  unfold childIndex
  constructor
  · intro hci
    split at hci
    · cases hci
    · rw [List.findIdx?_eq_some_iff_getElem] at hci
      obtain ⟨hlt, heq, _⟩ := hci
      rw [List.getElem?_eq_getElem hlt]
      simpa using heq
  · intro hget
    obtain ⟨hlt, heq⟩ := List.getElem?_eq_some_iff.mp hget
    have hmem : child ∈ children t par := by rw [← heq]; exact List.getElem_mem hlt
    have hp := hpar child hmem
    simp only [hp, bne_self_eq_false, Bool.false_eq_true, if_false]
    rw [List.findIdx?_eq_some_iff_getElem]
    refine ⟨hlt, by simp [heq], ?_⟩
    intro j hj
    have hjlt : j < (children t par).length := by omega
    have : (children t par)[j] ≠ (children t par)[i] := by
      intro e
      have := (List.getElem_inj (h₀ := hjlt) (h₁ := hlt) hnd).mp e
      omega
    rw [heq] at this
    simpa using this

theorem childIndex_none_of_not_child {t : Tree} {par child : Path} (hne : parent child ≠ some par) :
    childIndex t par child = none := by
  unfold childIndex
  have : (parent child != some par) = true := by simpa using hne
  simp [this]

end XotModel.Axes
