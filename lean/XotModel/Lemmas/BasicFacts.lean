/-
  Facts that need no forest: lists (`takeWhile`, `dropWhile`, `lookup`, `getElem?`, prefixes), the kinds of a
  `Value`, and plain trees (induction with the hypothesis for every child, `Tree.size`, `Tree.Forall` at a path).
-/
import XotModel.Model.Tree
import XotModel.Model.Valid

/-! ### Lists -/

namespace XotModel

theorem takeWhile_eq_self_of_all {α : Type} (p : α → Bool) :
    ∀ (l : List α), (∀ x ∈ l, p x = true) → l.takeWhile p = l
  | [], _ => rfl
  | x :: l, h => by
    rw [List.takeWhile_cons, h x (by simp), if_pos rfl,
      takeWhile_eq_self_of_all p l (fun y hy => h y (by simp [hy]))]

theorem dropWhile_nil_imp {α : Type} (p : α → Bool) : ∀ (l : List α), l.dropWhile p = [] →
    ∀ a ∈ l, p a = true
  | [], _, a, h => by cases h
  | b :: l, h, a, ha => by
    rw [List.dropWhile_cons] at h
    cases hp : p b with
    | false => rw [hp] at h; simp at h
    | true =>
      rw [hp] at h
      simp only [if_true] at h
      rcases List.mem_cons.1 ha with e | e
      · rw [e]; exact hp
      · exact dropWhile_nil_imp p l h a e

theorem dropWhile_all {α} (p : α → Bool) (l : List α) (h : ∀ a ∈ l, p a = true) : l.dropWhile p = [] := by
  have := List.dropWhile_append_of_pos (p := p) (l₁ := l) (l₂ := []) h
  simpa using this

theorem getElem?_ext {α : Type} {l ext : List α} {i : Nat} {x : α} (h : l[i]? = some x) :
    (l ++ ext)[i]? = some x := by
  have hlt : i < l.length := by
    rcases Nat.lt_or_ge i l.length with h' | h'
    · exact h'
    · rw [List.getElem?_eq_none h'] at h; cases h
  rw [List.getElem?_append_left hlt]; exact h

theorem prefix_getElem? {α : Type} {l1 l2 : List α} (h : l1 <+: l2) {i : Nat} {x : α}
    (hx : l1[i]? = some x) : l2[i]? = some x := by
  obtain ⟨t, rfl⟩ := h
  exact getElem?_ext hx

theorem lookup_mem {α β : Type} [BEq α] [LawfulBEq α] {l : List (α × β)} {k : α} {v : β}
    (h : l.lookup k = some v) : (k, v) ∈ l := by
  induction l with
  | nil => simp at h
  | cons x xs ih =>
    obtain ⟨a, b⟩ := x
    simp only [List.lookup] at h
    split at h
    · rename_i heq
      simp only [Option.some.injEq] at h
      have : k = a := by simpa using heq
      subst this; subst h; simp
    · exact List.mem_cons_of_mem _ (ih h)

theorem mem_takeWhile_imp {α} (p : α → Bool) : ∀ (l : List α) (x : α), x ∈ l.takeWhile p → p x = true :=
  fun l => List.all_eq_true.mp (List.all_takeWhile (l := l) (p := p))

end XotModel

namespace XotModel.Repair

theorem snoc_not_prefix_self (pre : Path) (i : Nat) : ¬ (pre ++ [i]) <+: pre := by
  intro h
  have := h.length_le
  simp at this
  omega

end XotModel.Repair

/-! ### `Value` kinds -/

namespace XotModel

theorem phase_le_two (v : Value) : v.phase ≤ 2 := by
  cases v <;> simp [Value.phase]

theorem category_namespace_iff (v : Value) : (v.category == .namespace) = true ↔ v.phase = 0 := by
  cases v <;> simp [Value.category, Value.phase]

theorem category_attribute_iff (v : Value) : (v.category == .attribute) = true ↔ v.phase = 1 := by
  cases v <;> simp [Value.category, Value.phase]

theorem isNormal_iff_phase (v : Value) : v.isNormal = true ↔ v.phase = 2 := by
  cases v <;> simp [Value.isNormal, Value.category, Value.phase]

theorem isNormal_of_two_le_phase {v : Value} (h : 2 ≤ v.phase) : v.isNormal = true :=
  (isNormal_iff_phase v).mpr (Nat.le_antisymm (phase_le_two v) h)

theorem exists_text_of_isText {v : Value} (h : v.isText = true) : ∃ s, v = .text s := by
  cases v with
  | text s => exact ⟨s, rfl⟩
  | _ => cases h

theorem category_normal_of_isText {v : Value} (h : v.isText = true) : v.category = .normal := by
  obtain ⟨s, rfl⟩ := exists_text_of_isText h; rfl

theorem isText_false_of_kind {pv : Value} (h : pv.isElement = true ∨ pv.isDocument = true) :
    pv.isText = false := by
  cases pv with
  | text s => rcases h with h | h <;> cases h
  | _ => rfl

theorem Compare.isNormal_of_isElement {v : Value} (h : v.isElement = true) : v.isNormal = true := by
  cases v with
  | element n => rfl
  | _ => cases h

end XotModel

namespace XotModel.Forest

theorem normal_of_isText {v : Value} (h : v.isText = true) : v.isNormal = true := by
  obtain ⟨s, rfl⟩ := exists_text_of_isText h; rfl

end XotModel.Forest

namespace XotModel.Repair

theorem eq_element_of_isElement {v : Value} (h : v.isElement = true) : ∃ name, v = .element name := by
  cases v with
  | element name => exact ⟨name, rfl⟩
  | _ => cases h

end XotModel.Repair

namespace XotModel.Spec

theorem isNormal_iff {v : Value} : v.isNormal = true ↔ v.category = .normal := by
  simp [Value.isNormal]

end XotModel.Spec

/-! ### Plain trees -/

namespace XotModel

mutual
theorem Tree.induct_mem {P : Tree → Prop} (h : ∀ v ks, (∀ k ∈ ks, P k) → P (.node v ks)) : ∀ t, P t
  | .node v ks => h v ks (Tree.induct_auxList h ks)
theorem Tree.induct_auxList {P : Tree → Prop} (h : ∀ v ks, (∀ k ∈ ks, P k) → P (.node v ks)) :
    ∀ ks : List Tree, ∀ k ∈ ks, P k
  | [] => fun _ hk => nomatch hk
  | k :: ks => fun x hx =>
    (List.mem_cons.mp hx).elim (fun e => e ▸ Tree.induct_mem h k) (Tree.induct_auxList h ks x)
end

mutual
  theorem Reach.forall_mono {p q : Value → List Tree → Prop} (h : ∀ v ks, p v ks → q v ks) :
      ∀ t : Tree, t.Forall p → t.Forall q
    | .node v ks, ht => by
      rw [Tree.Forall] at ht ⊢
      exact ⟨h v ks ht.1, Reach.forallList_mono h ks ht.2⟩
  theorem Reach.forallList_mono {p q : Value → List Tree → Prop} (h : ∀ v ks, p v ks → q v ks) :
      ∀ ks : List Tree, Tree.Forall.forallList p ks → Tree.Forall.forallList q ks
    | [], _ => trivial
    | k :: ks, hk => ⟨Reach.forall_mono h k hk.1, Reach.forallList_mono h ks hk.2⟩
end

theorem Tree.size_pos (t : Tree) : 0 < t.size := by
  cases t; rw [Tree.size]; omega

theorem fpr_sizeList_append (a b : List Tree) :
    Tree.size.sizeList (a ++ b) = Tree.size.sizeList a + Tree.size.sizeList b := by
  induction a with
  | nil => simp [Tree.size.sizeList]
  | cons x a ih => simp [Tree.size.sizeList, ih]; omega

/-! ### `noAdjText`, `Tree.Forall` along a path -/

theorem noAdjText_tail {k : Tree} {l : List Tree} (h : noAdjText (k :: l) = true) : noAdjText l = true := by
  cases l with
  | nil => rfl
  | cons b r => simp only [noAdjText, Bool.and_eq_true] at h; exact h.2

theorem Tree.forall_sub (p : Value → List Tree → Prop) : ∀ (rel : Path) (t s : Tree), t.Forall p →
    t.at? rel = some s → s.Forall p
  | [], t, s, h, hat => by
    simp only [Tree.at?, Option.some.injEq] at hat
    subst hat; exact h
  | i :: rel, .node v ks, s, h, hat => by
    simp only [Tree.at?] at hat
    cases hk : ks[i]? with
    | none => rw [hk] at hat; cases hat
    | some k =>
      rw [hk] at hat
      exact Tree.forall_sub p rel k s (((Tree.forall_node p v ks).mp h).2 k (List.mem_of_getElem? hk)) hat

theorem Tree.forall_at? (p : Value → List Tree → Prop) (n : Tree) (rel : Path) (a : Tree)
    (h : n.Forall p) (hat : n.at? rel = some a) : p a.value a.kids := by
  cases a with
  | node v ks => exact ((Tree.forall_node p v ks).mp (Tree.forall_sub p rel n _ h hat)).1

end XotModel
