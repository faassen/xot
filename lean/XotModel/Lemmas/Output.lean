/-
  The serialiser's stream folds (Model/Output, Model/Pretty):
  the token stream, the pretty token stream and the `Write` folds are one traversal.
-/
import XotModel.Model.XmlDecl

namespace XotModel
open Gen

variable (esc : Escapers) (env : Env) (pr : TokenParams) (t : Tree)

/-- Bytes of a rendered stream, as `serialize_node` writes them. -/
def streamBytes (l : List (Path × Output × OutputToken)) : Str :=
  l.flatMap (fun k => tokenBytes k.2.2)

/-- Bytes of a pretty stream, as `serialize_pretty` writes them. -/
def prettyStreamBytes (l : List (Path × Output × PrettyOutputToken)) : Str :=
  l.flatMap (fun k => prettyTokenBytes k.2.2)

/-- Forget the two fields `Pretty` adds. -/
def erasePretty (k : Path × Output × PrettyOutputToken) : Path × Output × OutputToken :=
  (k.1, k.2.1, ⟨k.2.2.space, k.2.2.text⟩)

theorem renderAll_cons_ok {s : FStack} {p : Path} {o : Output} {rest : List (Path × Output)}
    {toks : List (Path × Output × OutputToken)} (h : renderAllWith esc env pr t s ((p, o) :: rest) = .ok toks) :
    ∃ s' tok l, renderAtWith esc env pr t s p o = .ok (s', tok) ∧
      renderAllWith esc env pr t s' rest = .ok l ∧ toks = (p, o, tok) :: l := by
  simp only [renderAllWith] at h
  cases h1 : renderAtWith esc env pr t s p o with
  | ok r =>
    obtain ⟨s', tok⟩ := r
    simp only [h1] at h
    cases h2 : renderAllWith esc env pr t s' rest with
    | ok l =>
      simp only [h2, Outcome.ok.injEq] at h
      exact ⟨s', tok, l, rfl, h2, h.symm⟩
    | err e => simp [h2] at h
    | panic => simp [h2] at h
  | err e => simp [h1] at h
  | panic => simp [h1] at h

namespace Ser

/-- `serialize` writes what `tokens` yields, and ends as the rendering ends. -/
theorem writeGo_of_renderAll (s : FStack) (outs : List (Path × Output)) :
    (match renderAllWith esc env pr t s outs with
     | .ok l => writeGoWith esc env pr t s outs = (streamBytes l, .ok ())
     | .err e => (writeGoWith esc env pr t s outs).2 = .err e
     | .panic => (writeGoWith esc env pr t s outs).2 = .panic) := by
  induction outs generalizing s with
  | nil => rfl
  | cons po rest ih =>
    obtain ⟨p, o⟩ := po
    simp only [renderAllWith, writeGoWith]
    cases renderAtWith esc env pr t s p o with
    | ok st =>
      obtain ⟨s', tok⟩ := st
      have := ih s'
      simp only []
      cases hrest : renderAllWith esc env pr t s' rest with
      | ok l =>
        simp only [hrest] at this
        simp [this, streamBytes]
      | err e | panic =>
        simp only [hrest] at this
        exact this
    | err e => rfl
    | panic => rfl

end Ser

theorem writeGo_of_renderAll_ok (s : FStack) (outs : List (Path × Output))
    (l : List (Path × Output × OutputToken))
    (h : renderAllWith esc env pr t s outs = .ok l) :
    writeGoWith esc env pr t s outs = (streamBytes l, .ok ()) := by
  have := Ser.writeGo_of_renderAll esc env pr t s outs
  rwa [h] at this

theorem writeGo_of_renderAll_err (s : FStack) (outs : List (Path × Output)) (e : XotError)
    (h : renderAllWith esc env pr t s outs = .err e) :
    (writeGoWith esc env pr t s outs).2 = .err e := by
  have := Ser.writeGo_of_renderAll esc env pr t s outs
  rwa [h] at this

theorem writeGo_of_renderAll_panic (s : FStack) (outs : List (Path × Output))
    (h : renderAllWith esc env pr t s outs = .panic) :
    (writeGoWith esc env pr t s outs).2 = .panic := by
  have := Ser.writeGo_of_renderAll esc env pr t s outs
  rwa [h] at this

theorem prettyAll_erase (sup : List Nat) (ps : PStack) (s : FStack) (outs : List (Path × Output)) :
    (match prettyAllWith esc env pr sup t ps s outs with
     | .ok l => renderAllWith esc env pr t s outs = .ok (l.map erasePretty)
     | .err e => renderAllWith esc env pr t s outs = .err e
     | .panic => renderAllWith esc env pr t s outs = .panic) := by
  induction outs generalizing ps s with
  | nil => simp [prettyAllWith, renderAllWith]
  | cons po rest ih =>
    obtain ⟨p, o⟩ := po
    simp only [prettyAllWith, renderAllWith]
    cases hr : renderAtWith esc env pr t s p o with
    | ok st =>
      obtain ⟨s', tok⟩ := st
      simp only []
      have := ih (prettifyAt sup t ps p o).1 s'
      cases hp : prettyAllWith esc env pr sup t (prettifyAt sup t ps p o).1 s' rest with
      | ok l => simp only [hp] at this; simp [this, erasePretty]
      | err e => simp only [hp] at this; simp [this]
      | panic => simp only [hp] at this; simp [this]
    | err e => simp
    | panic => simp

theorem renderAll_lift_pretty (sup : List Nat) (ps : PStack) (s : FStack) (outs : List (Path × Output))
    (l : List (Path × Output × OutputToken)) (h : renderAllWith esc env pr t s outs = .ok l) :
    ∃ ks, prettyAllWith esc env pr sup t ps s outs = .ok ks ∧ ks.map erasePretty = l := by
  have := prettyAll_erase esc env pr t sup ps s outs
  cases hp : prettyAllWith esc env pr sup t ps s outs with
  | ok ks =>
    simp only [hp] at this
    rw [this] at h
    cases h
    exact ⟨ks, rfl, rfl⟩
  | err e => simp only [hp] at this; rw [this] at h; cases h
  | panic => simp only [hp] at this; rw [this] at h; cases h

namespace Ser

/-- `serialize_pretty` writes what `pretty_tokens` yields, and ends as the rendering ends. -/
theorem writePrettyGo_of_prettyAll (sup : List Nat) (ps : PStack) (s : FStack) (outs : List (Path × Output)) :
    (match prettyAllWith esc env pr sup t ps s outs with
     | .ok l => writePrettyGoWith esc env pr sup t ps s outs = (prettyStreamBytes l, .ok ())
     | .err e => (writePrettyGoWith esc env pr sup t ps s outs).2 = .err e
     | .panic => (writePrettyGoWith esc env pr sup t ps s outs).2 = .panic) := by
  induction outs generalizing ps s with
  | nil => rfl
  | cons po rest ih =>
    obtain ⟨p, o⟩ := po
    simp only [prettyAllWith, writePrettyGoWith]
    cases renderAtWith esc env pr t s p o with
    | ok st =>
      obtain ⟨s', tok⟩ := st
      have := ih (prettifyAt sup t ps p o).1 s'
      simp only []
      cases hrest : prettyAllWith esc env pr sup t (prettifyAt sup t ps p o).1 s' rest with
      | ok l =>
        simp only [hrest] at this
        simp [this, prettyStreamBytes, prettyTokenBytes, tokenBytes]
      | err e | panic =>
        simp only [hrest] at this
        exact this
    | err e => rfl
    | panic => rfl

end Ser

theorem writePrettyGo_of_prettyAll_ok (sup : List Nat) (ps : PStack) (s : FStack)
    (outs : List (Path × Output)) (l : List (Path × Output × PrettyOutputToken))
    (h : prettyAllWith esc env pr sup t ps s outs = .ok l) :
    writePrettyGoWith esc env pr sup t ps s outs = (prettyStreamBytes l, .ok ()) := by
  have := Ser.writePrettyGo_of_prettyAll esc env pr t sup ps s outs
  rwa [h] at this

theorem writePrettyGo_outcome (sup : List Nat) (ps : PStack) (s : FStack) (outs : List (Path × Output)) :
    (writePrettyGoWith esc env pr sup t ps s outs).2 =
      (match prettyAllWith esc env pr sup t ps s outs with
       | .ok _ => .ok ()
       | .err e => .err e
       | .panic => .panic) := by
  have := Ser.writePrettyGo_of_prettyAll esc env pr t sup ps s outs
  cases h : prettyAllWith esc env pr sup t ps s outs with
  | ok l => rw [h] at this; rw [this]
  | err e => rw [h] at this; exact this
  | panic => rw [h] at this; exact this

/-! ### The string entry points, read off the rendered stream -/

/-- `let mut buf = Vec::new(); write(.., &mut buf)?; Ok(String::from_utf8(buf).unwrap())` answers `Ok(s)` exactly
    when the write returned `Ok(())` having written `s` … -/
theorem bufferToString_ok_iff (r : Str × Outcome XotError Unit) (s : Str) :
    bufferToString r = .ok s ↔ r = (s, .ok ()) := by
  obtain ⟨w, _ | _ | _⟩ := r <;> simp [bufferToString]

/-- … and fails exactly as the write fails. -/
theorem bufferToString_err_iff (r : Str × Outcome XotError Unit) (e : XotError) :
    bufferToString r = .err e ↔ r.2 = .err e := by
  obtain ⟨w, _ | _ | _⟩ := r <;> simp [bufferToString]

theorem bufferToString_panic_iff (r : Str × Outcome XotError Unit) : bufferToString r = .panic ↔ r.2 = .panic := by
  obtain ⟨w, _ | _ | _⟩ := r <;> simp [bufferToString]

/-- `Xot::tokens` unwraps every rendering: it yields a stream exactly when the rendering succeeds. -/
theorem tokensWith_ok_iff (start : Path) (ks : List (Path × Output × OutputToken)) :
    tokensWith esc env pr t start = .ok ks ↔
      renderAllWith esc env pr t (initStack t start) (genOutputs t start) = .ok ks := by
  unfold tokensWith
  split <;> simp [*]

theorem prettyTokensWith_ok_iff (sup : List Nat) (start : Path) (ks : List (Path × Output × PrettyOutputToken)) :
    prettyTokensWith esc env pr sup t start = .ok ks ↔
      prettyAllWith esc env pr sup t [] (initStack t start) (genOutputs t start) = .ok ks := by
  unfold prettyTokensWith
  split <;> simp [*]

/-- `serialize_xml_string` under token parameters is the bytes of the rendered stream, or the failure of the
    rendering. -/
theorem serializeStringWith_eq_renderAll (start : Path) :
    serializeStringWith esc env pr t start =
      match renderAllWith esc env pr t (initStack t start) (genOutputs t start) with
      | .ok l => .ok (streamBytes l)
      | .err e => .err e
      | .panic => .panic := by
  unfold serializeStringWith serializeWriteWith bufferToString
  cases hr : renderAllWith esc env pr t (initStack t start) (genOutputs t start) with
  | ok l => rw [writeGo_of_renderAll_ok esc env pr t _ _ l hr]
  | err e => rw [writeGo_of_renderAll_err esc env pr t _ _ e hr]
  | panic => rw [writeGo_of_renderAll_panic esc env pr t _ _ hr]

/-- … and with indentation the bytes of the pretty stream. -/
theorem serializePrettyWith_eq_prettyAll (sup : List Nat) (start : Path) :
    serializePrettyWith esc env pr sup t start =
      match prettyAllWith esc env pr sup t [] (initStack t start) (genOutputs t start) with
      | .ok l => .ok (prettyStreamBytes l)
      | .err e => .err e
      | .panic => .panic := by
  unfold serializePrettyWith serializePrettyWriteWith bufferToString
  rw [writePrettyGo_outcome]
  cases hr : prettyAllWith esc env pr sup t [] (initStack t start) (genOutputs t start) with
  | ok l => rw [writePrettyGo_of_prettyAll_ok esc env pr t sup _ _ _ l hr]
  | err e => rfl
  | panic => rfl

end XotModel
