/-
  `Kept f f' x` (same ancestor chain, parent and value up to text content), packaged per operation so that composite
  edits carry their argument checks from one state to the next; `detach`, `remove`, `replace`: `OkRes`, `replace_run`.
-/
import XotModel.Lemmas.FatomMoves
import XotModel.Model.FrefusalSpec

/-! ## `Kept f f' x`: the node `x` has the same ancestor chain, parent and value (up to text content) in `f'` as in `f` -/

namespace XotModel
open HTree

namespace Forest

structure Kept (f f' : Forest) (x : Nat) : Prop where
  anc : f'.ancestors x = f.ancestors x
  parent : f'.parent? x = f.parent? x
  shape : (f'.value? x).map Value.shape = (f.value? x).map Value.shape

theorem Kept.trans {f f' f'' : Forest} {x : Nat} (a : Kept f f' x) (b : Kept f' f'' x) :
    Kept f f'' x :=
  ⟨b.anc.trans a.anc, b.parent.trans a.parent, b.shape.trans a.shape⟩

theorem Kept.viaShape {f f' : Forest} {x : Nat} (a : Kept f f' x) {β : Type} (g : Value → β)
    (hg : ∀ v, g v.shape = g v) : (f'.value? x).map g = (f.value? x).map g := by
  have := a.shape
  cases h1 : f'.value? x <;> cases h2 : f.value? x <;> simp [h1, h2] at this ⊢
  rw [← hg, this, hg]

theorem Kept.isLive {f f' : Forest} {x : Nat} (a : Kept f f' x) : f'.isLive x = f.isLive x := by
  rw [isLive_iff_value?, isLive_iff_value?]
  have := a.shape
  cases h1 : f'.value? x <;> cases h2 : f.value? x <;> simp [h1, h2] at this ⊢

theorem Kept.isElement {f f' : Forest} {x : Nat} (a : Kept f f' x) :
    f'.isElement x = f.isElement x := by
  unfold Forest.isElement; rw [a.viaShape _ shape_isElement]

theorem Kept.isDocument {f f' : Forest} {x : Nat} (a : Kept f f' x) :
    f'.isDocument x = f.isDocument x := by
  unfold Forest.isDocument; rw [a.viaShape _ shape_isDocument]

theorem Kept.isNormalNode {f f' : Forest} {x : Nat} (a : Kept f f' x) :
    f'.isNormalNode x = f.isNormalNode x := by
  unfold Forest.isNormalNode; rw [a.viaShape _ shape_isNormal]

theorem ancestors_live {f : Forest} (w : f.W) {x y : Nat} (h : y ∈ f.ancestors x) :
    f.isLive y = true := by
  by_cases e : y = x
  · subst e
    cases hl : f.isLive y with
    | true => rfl
    | false => rw [ancestors_dead hl] at h; cases h
  · obtain ⟨t, hg, _⟩ := ancestors_proper_kids w _ x y rfl h e
    exact isLive_of_get? hg

theorem Frame.kept {f f' : Forest} {P : List Nat} (fr : Frame f f' P) (w : f.W) (w' : f'.W)
    {x : Nat} (hl : f.isLive x = true) (hch : ∀ y ∈ f.ancestors x, y ∉ P) : Kept f f' x := by
  have hx : x ∉ P := hch x (self_mem_ancestors w hl)
  exact ⟨fr.ancestors' w w' hl hch, fr.parent x hx, fr.shape x hx⟩

theorem newNode_kept {f : Forest} (w : f.W) (v : Value) {x : Nat} (hl : f.isLive x = true) :
    Kept f (f.newNode v).1 x := by
  obtain ⟨_, w1, fr, _, _, hd⟩ := newNode_spec w v
  refine fr.kept w w1 hl ?_
  intro y hy hyn
  simp only [List.mem_singleton] at hyn
  subst hyn
  rw [ancestors_live w hy] at hd; cases hd

/-- Cutting, dropping or detaching the subtree at `h` keeps every node that does not have `h`
    among its ancestors. -/
theorem Frame.keptOutside {f f1 : Forest} {h : Nat} {t : HTree} (fr : Frame f f1 (handles t))
    (w : f.W) (w1 : f1.W) (hg : f.get? h = some t) {x : Nat} (hl : f.isLive x = true)
    (hx : h ∉ f.ancestors x) : Kept f f1 x := by
  refine fr.kept w w1 hl ?_
  intro y hy hyt
  exact hx (ancestors_trans w (mem_ancestors_of_subtree w hg hyt) hy)

theorem MoveOk.kept {f : Forest} {r : Forest × Res} {c : Nat} (m : MoveOk f r c) (w : f.W)
    {x : Nat} (hl : f.isLive x = true) (hc : c ∉ f.ancestors x) (hn : f.nextSibling c ≠ some x) :
    Kept f r.1 x := by
  obtain ⟨P, fr, hP⟩ := m.frame
  refine fr.kept w m.w hl ?_
  intro y hy hyP
  rcases hP y hyP with h' | ⟨h1, h2⟩
  · exact hc (ancestors_trans w h' hy)
  · exact text_not_ancestor w h2 (fun e : y = x => hn (e ▸ h1)) hy

theorem removeConsolidate_kept {f : Forest} (w : f.W) (prev next : Option Nat) {x : Nat}
    (hl : f.isLive x = true) (hx : next ≠ some x) : Kept f (f.removeConsolidate prev next).1 x := by
  obtain ⟨w1, _, P, hP, fr⟩ := removeConsolidate_spec w prev next
  refine fr.kept w w1 hl ?_
  intro y hy hyP
  obtain ⟨h1, h2, _⟩ := hP y hyP
  exact text_not_ancestor w h2 (fun e : y = x => hx (e ▸ h1)) hy

/-! ### The structure check as a proposition, and its transfer -/

theorem Checked.transfer {f f' : Forest} {p c : Nat} (h : Checked f p c) (kp : Kept f f' p)
    (kc : (f'.value? c).map Value.shape = (f.value? c).map Value.shape) : Checked f' p c := by
  refine ⟨by rw [kp.isElement, kp.isDocument]; exact h.container, by rw [kp.anc]; exact h.notAnc, ?_⟩
  obtain ⟨v, hv, hcat, hdoc⟩ := h.normal
  rw [hv] at kc
  cases hv' : f'.value? c with
  | none => rw [hv'] at kc; cases kc
  | some v' =>
    rw [hv'] at kc
    simp only [Option.map_some, Option.some.injEq] at kc
    refine ⟨v', rfl, ?_, ?_⟩
    · rw [← shape_category, kc, shape_category]; exact hcat
    · rw [← shape_isDocument, kc, shape_isDocument]; exact hdoc

theorem parent?_container {f : Forest} (w : f.W) {x q : Nat} (h : f.parent? x = some q) :
    f.isElement q = true ∨ f.isDocument q = true := by
  obtain ⟨c, hc, hcp⟩ := ctx?_of_parent? h
  obtain ⟨⟨v, hg⟩, _⟩ := ctx?_spec w hc
  rw [hcp] at hg
  have hl := findList?_leafOk q f.roots _ w.leaves hg
  have hv : f.value? q = some v := by unfold value?; rw [hg]; rfl
  simp only [leafOk, Bool.and_eq_true, Bool.or_eq_true] at hl
  unfold isElement isDocument
  rw [hv]
  rcases hl.1 with (h' | h') | h'
  · simp at h'
  · exact Or.inl (by simp [h'])
  · exact Or.inr (by simp [h'])

end Forest
end XotModel

/-! ## `detach`, `remove`, `replace`: refused with nothing changed, or carried out -/

namespace XotModel
open HTree

namespace Forest

/-- A call that went through: `ok`, invariant kept, `corrupt` untouched. -/
structure OkRes (f : Forest) (r : Forest × Res) : Prop where
  ok : r.2 = .ok
  w : r.1.W
  corrupt : r.1.corrupt = f.corrupt

theorem okRes_consolidate {f f1 : Forest} (w1 : f1.W) (hc : f1.corrupt = f.corrupt)
    (prev next : Option Nat) : OkRes f ((f1.removeConsolidate prev next).1, .ok) := by
  obtain ⟨w2, _, P, _, fr⟩ := removeConsolidate_spec w1 prev next
  exact ⟨rfl, w2, by rw [fr.corrupt, hc]⟩

theorem detach_ok {f : Forest} (w : f.W) (n : Nat) : OkRes f (f.detach n) := by
  unfold detach
  cases hg : f.get? n with
  | none => rw [detachRaw_dead hg]; exact okRes_consolidate w rfl _ _
  | some t =>
    obtain ⟨w1, fr, _⟩ := detachRaw_spec w hg
    exact okRes_consolidate w1 fr.corrupt _ _

theorem dropSubtree_spec {f : Forest} (w : f.W) (n : Nat) :
    (f.dropSubtree n).W ∧ (f.dropSubtree n).corrupt = f.corrupt := by
  unfold dropSubtree
  cases hg : f.get? n with
  | none => rw [cut_dead hg]; exact ⟨w, rfl⟩
  | some t =>
    obtain ⟨_, w1, _, fr, _⟩ := cut_spec w hg
    exact ⟨w1, fr.corrupt⟩

theorem remove_ok {f : Forest} (w : f.W) (n : Nat) : OkRes f (f.remove n) := by
  unfold remove
  obtain ⟨w1, hc⟩ := dropSubtree_spec w n
  exact okRes_consolidate w1 hc _ _

theorem isNormalNode_cat {f : Forest} {x : Nat} (h : f.isNormalNode x = true) :
    (f.value? x).map Value.category = some .normal := by
  unfold isNormalNode at h
  cases hv : f.value? x with
  | none => rw [hv] at h; simp at h
  | some v =>
    rw [hv] at h
    simp only [Option.map_some, beq_iff_eq, Option.some.injEq, Value.isNormal] at h
    simp [h]

theorem isNormalNode_of_cat {f : Forest} {x : Nat}
    (h : (f.value? x).map Value.category = some .normal) : f.isNormalNode x = true := by
  unfold isNormalNode
  cases hv : f.value? x with
  | none => rw [hv] at h; simp at h
  | some v =>
    rw [hv] at h
    simp only [Option.map_some, Option.some.injEq] at h
    simp [Value.isNormal, h]

/-- Putting `x` where `a` was, when `a` has a previous sibling `p`: `insert_after(p, x)` is accepted in
    any forest `g` that keeps what lies outside the subtree of `a`. -/
theorem Fatom.insertAfter_prev_ok {f g : Forest} (w : f.W) (wg : g.W) {a parent x p : Nat}
    (hpa : f.parent? a = some parent) (hna : f.isNormalNode a = true)
    (hs : g.structureCheck (some parent) x = true)
    (keep : ∀ y, f.isLive y = true → a ∉ f.ancestors y → Kept f g y)
    (hprev : f.prevSibling a = some p) (hpx : p ≠ x) : MoveOk g (g.insertAfter p x) x := by
  have sib := prevSibling_sib w hprev
  obtain ⟨q, hq1, hq2⟩ := sib.parent
  have hqp : q = parent := Option.some.inj (hq1.symm.trans hpa)
  rw [hqp] at hq2
  have hanp : a ∉ f.ancestors p := by
    rw [ancestors_step w hq2]
    intro h'
    rcases List.mem_cons.1 h' with e | e
    · exact sib.ne e.symm
    · exact not_mem_ancestors_parent w hpa e
  have kp := keep p sib.live hanp
  have hpp : g.parent? p = some parent := by rw [kp.parent]; exact hq2
  have hsr : g.siblingReferenceCheck p x = true := by
    unfold siblingReferenceCheck
    rw [kp.isNormalNode]
    have : f.isNormalNode p = true :=
      isNormalNode_of_cat (by rw [sib.cat]; exact isNormalNode_cat hna)
    simp [hpx, this]
  exact insertAfter_ok wg hpp hs hsr

/-- `replace` after its five checks: carried out. -/
theorem replace_accepted {f : Forest} (w : f.W) {a b parent : Nat} (hd : f.isDocument a = false)
    (hpa : f.parent? a = some parent) (hna : f.isNormalNode a = true)
    (hs : f.structureCheck (some parent) b = true) (hanc : (f.ancestors b).contains a = false) :
    OkRes f (f.replace a b) := by
  unfold replace
  simp only [hd, hpa, hna, hs, hanc, Bool.false_eq_true, if_false, Bool.not_true]
  cases hsame : (f.prevSibling a == some b || f.nextSibling a == some b) with
  | true => simp only [if_true]; exact remove_ok w a
  | false =>
    simp only [Bool.false_eq_true, if_false]
    have ck := structureCheck_some hs
    have hab : a ∉ f.ancestors b := by simpa using hanc
    obtain ⟨hla, _⟩ := parent?_live hpa
    obtain ⟨t, hg⟩ := get?_of_isLive hla
    obtain ⟨_, w1, _, fr, _⟩ := cut_spec w hg
    have hf1 : f.dropSubtree a = (f.cut a).1 := rfl
    rw [hf1]
    have hap : a ∉ f.ancestors parent := not_mem_ancestors_parent w hpa
    have kpar : Kept f (f.cut a).1 parent := fr.keptOutside w w1 hg ck.liveP hap
    have kb : Kept f (f.cut a).1 b := fr.keptOutside w w1 hg ck.liveC hab
    have ck1 : Checked (f.cut a).1 parent b := ck.transfer kpar kb.shape
    have hs1 := structureCheck_of_checked ck1
    generalize (f.cut a).1 = f1 at w1 fr kpar kb ck1 hs1 ⊢
    cases hprev : f.prevSibling a with
    | none =>
      simp only
      have m := prepend_ok w1 hs1
      exact ⟨m.ok, m.w, by rw [m.corrupt, fr.corrupt]⟩
    | some p =>
      simp only
      have hpb : p ≠ b := by
        intro e
        rw [hprev, e] at hsame
        simp at hsame
      have m := Fatom.insertAfter_prev_ok w w1 hpa hna hs1
        (fun y hy hay => fr.keptOutside w w1 hg hy hay) hprev hpb
      rcases hres : f1.insertAfter p b with ⟨f2, r⟩
      rw [hres] at m
      have hr : r = .ok := m.ok
      subst hr
      simp only
      cases f.nextSibling a with
      | none => exact ⟨rfl, m.w, by rw [m.corrupt, fr.corrupt]⟩
      | some n => exact okRes_consolidate m.w (by rw [m.corrupt, fr.corrupt]) _ _

/-- `replace` is refused, with nothing changed, exactly when one of its five checks fails
    (`replaceRefused`); otherwise it is carried out. -/
theorem replace_run {f : Forest} (w : f.W) (a b : Nat) :
    if f.replaceRefused a b then f.replace a b = (f, .err .invalidOperation) else OkRes f (f.replace a b) := by
  rcases replace_shape f a b with ⟨hr, e⟩ | ⟨hr, parent, hd, hpa, hna, hs, hanc, _⟩
  · rw [if_pos hr]; exact e
  · rw [hr]; exact replace_accepted w hd hpa hna hs hanc

theorem OkRes.outcome_of_refused {f : Forest} {r : Forest × Res} {b : Bool}
    (h : if b then r = (f, .err .invalidOperation) else OkRes f r) :
    r = (f, .err .invalidOperation) ∨ OkRes f r := by
  cases b with
  | true => exact .inl h
  | false => exact .inr h

theorem replace_outcome {f : Forest} (w : f.W) (a b : Nat) :
    f.replace a b = (f, .err .invalidOperation) ∨ OkRes f (f.replace a b) :=
  OkRes.outcome_of_refused (replace_run w a b)

end Forest
end XotModel
