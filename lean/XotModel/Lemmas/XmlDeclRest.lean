/-
  `serialize_xml_string` with declaration / doctype = declaration bytes ++ doctype bytes ++ the
  output without them: the prolog never changes the content (Model/XmlDecl).
-/
import XotModel.Model.XmlDecl

namespace XotModel

/-- The same parameters without declaration and doctype. -/
def XmlParams.body (p : XmlParams) : XmlParams := { p with declaration := none, doctype := none }

/-- What `Declaration::serialize` contributes. -/
def XmlParams.declBytes (p : XmlParams) : Str :=
  match p.declaration with
  | some d => d.bytes
  | none => []

/-- `dt` is what the `if let Some(doctype)` block wrote (successfully). -/
def DoctypeWritten (env : Env) (p : XmlParams) (t : Tree) (start : Path) (dt : Str) : Prop :=
  match p.doctype with
  | some d => ∃ name, doctypeName env t start = .ok name ∧ dt = d.bytes name
  | none => dt = []

variable (esc : Escapers) (env : Env)

theorem body_write (p : XmlParams) (t : Tree) (start : Path) :
    serializeXmlWriteWith esc env p.body t start =
      (match p.indentation with
       | some suppress => serializePrettyWriteWith esc env p.tokenParams suppress t start
       | none => serializeWriteWith esc env p.tokenParams t start) := by
  unfold serializeXmlWriteWith
  simp only [XmlParams.body, XmlParams.tokenParams, List.nil_append]
  cases p.indentation <;> rfl

/-- `serialize_xml_write` in terms of the same call without declaration and doctype. -/
theorem xmlWrite_eq (p : XmlParams) (t : Tree) (start : Path) :
    serializeXmlWriteWith esc env p t start =
      (match p.doctype with
       | none => (p.declBytes ++ (serializeXmlWriteWith esc env p.body t start).1,
                  (serializeXmlWriteWith esc env p.body t start).2)
       | some d =>
         match doctypeName env t start with
         | .ok name => (p.declBytes ++ d.bytes name ++ (serializeXmlWriteWith esc env p.body t start).1,
                        (serializeXmlWriteWith esc env p.body t start).2)
         | .err e => (p.declBytes, .err e)
         | .panic => (p.declBytes, .panic)) := by
  rw [body_write]
  unfold serializeXmlWriteWith XmlParams.declBytes
  cases hd : p.doctype with
  | none => cases hc : p.declaration <;> cases hi : p.indentation <;> simp
  | some d =>
    cases hn : doctypeName env t start with
    | ok name => cases hc : p.declaration <;> cases hi : p.indentation <;> simp
    | err e => cases hc : p.declaration <;> simp
    | panic => cases hc : p.declaration <;> simp

/-- Prepend to a successful outcome. -/
def Outcome.prependOk {ε : Type} (x : Str) (r : Outcome ε Str) : Outcome ε Str :=
  match r with
  | .ok s => .ok (x ++ s)
  | .err e => .err e
  | .panic => .panic

theorem Outcome.prependOk_eq_ok {ε : Type} {x s : Str} {r : Outcome ε Str} (h : Outcome.prependOk x r = .ok s) :
    ∃ body, r = .ok body ∧ s = x ++ body := by
  cases r with
  | ok body => exact ⟨body, rfl, by cases h; rfl⟩
  | err e => cases h
  | panic => cases h

/-- `serialize_xml_string` puts the declaration and doctype bytes in front of the same call without
    them; it fails as the doctype name fails, then as that call fails. -/
theorem xmlString_eq (p : XmlParams) (t : Tree) (start : Path) :
    serializeXmlStringWith esc env p t start =
      (match p.doctype with
       | none => Outcome.prependOk p.declBytes (serializeXmlStringWith esc env p.body t start)
       | some d =>
         match doctypeName env t start with
         | .ok name => Outcome.prependOk (p.declBytes ++ d.bytes name)
             (serializeXmlStringWith esc env p.body t start)
         | .err e => .err e
         | .panic => .panic) := by
  unfold serializeXmlStringWith
  rw [xmlWrite_eq]
  generalize serializeXmlWriteWith esc env p.body t start = bw
  obtain ⟨w, r⟩ := bw
  cases p.doctype with
  | none => rcases r with ⟨⟨⟩⟩ | e | _ <;> rfl
  | some d => cases doctypeName env t start <;> rcases r with ⟨⟨⟩⟩ | e | _ <;> rfl

theorem xmlString_split (p : XmlParams) (t : Tree) (start : Path) (s : Str)
    (h : serializeXmlStringWith esc env p t start = .ok s) :
    ∃ dt body, DoctypeWritten env p t start dt ∧
      serializeXmlStringWith esc env p.body t start = .ok body ∧
      s = p.declBytes ++ dt ++ body := by
  rw [xmlString_eq] at h
  unfold DoctypeWritten
  cases hd : p.doctype with
  | none =>
    rw [hd] at h
    obtain ⟨body, hb, rfl⟩ := Outcome.prependOk_eq_ok h
    exact ⟨[], body, rfl, hb, by simp⟩
  | some d =>
    rw [hd] at h
    cases hn : doctypeName env t start with
    | ok name =>
      rw [hn] at h
      obtain ⟨body, hb, rfl⟩ := Outcome.prependOk_eq_ok h
      exact ⟨d.bytes name, body, ⟨name, rfl, rfl⟩, hb, rfl⟩
    | err e => rw [hn] at h; cases h
    | panic => rw [hn] at h; cases h

theorem xmlString_join (p : XmlParams) (t : Tree) (start : Path) (dt body : Str)
    (hdt : DoctypeWritten env p t start dt)
    (hb : serializeXmlStringWith esc env p.body t start = .ok body) :
    serializeXmlStringWith esc env p t start = .ok (p.declBytes ++ dt ++ body) := by
  rw [xmlString_eq, hb]
  unfold DoctypeWritten at hdt
  cases hd : p.doctype with
  | none =>
    rw [hd] at hdt
    subst hdt
    simp [Outcome.prependOk]
  | some d =>
    rw [hd] at hdt
    obtain ⟨name, hn, rfl⟩ := hdt
    simp only [hn, Outcome.prependOk]

namespace Ser

/-- Without doctype `serialize_xml_string` is the declaration bytes in front of the body, indented or not, for
    any start node; it fails as the body fails. -/
theorem serializeXmlString_noDoctype (esc : Escapers) (env : Env) (p : XmlParams) (t : Tree) (start : Path)
    (hdt : p.doctype = none) :
    serializeXmlStringWith esc env p t start =
      Outcome.prependOk p.declBytes
        (match p.indentation with
         | some sup => serializePrettyWith esc env p.tokenParams sup t start
         | none => serializeStringWith esc env p.tokenParams t start) := by
  unfold serializeXmlStringWith serializeXmlWriteWith serializePrettyWith serializeStringWith
  cases hind : p.indentation with
  | some sup =>
    simp only [hdt, bufferToString, XmlParams.declBytes, List.append_nil]
    cases (serializePrettyWriteWith esc env p.tokenParams sup t start).2 <;> rfl
  | none =>
    simp only [hdt, bufferToString, XmlParams.declBytes, List.append_nil]
    cases (serializeWriteWith esc env p.tokenParams t start).2 <;> rfl

end Ser

end XotModel
