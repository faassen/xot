/-
  No read hands out a removed node.  Every handle returned by the navigation
  functions and the node-map views of the forest is a live handle (hence not removed).
-/
import XotModel.Lemmas.FinvHistory

namespace XotModel
open HTree

namespace Forest

theorem kid_handle_mem {t k : HTree} (hk : k ∈ t.kids) : k.handle ∈ handles t := by
  rw [handles_eq]
  exact List.mem_cons_of_mem _ (handles_subset_handlesList hk _ (handle_mem_handles k))

theorem live_of_get?_mem {f : Forest} {n x : Nat} {t : HTree} (hg : f.get? n = some t)
    (hx : x ∈ handles t) : f.isLive x = true :=
  isLive_of_mem_allHandles (findList?_handles_sub n f.roots t hg x hx)

theorem isRemoved_false_of_live {f : Forest} {x : Nat} (h : f.isLive x = true) : f.isRemoved x = false := by
  simp [isRemoved, h]

theorem reads_live {f : Forest} (hi : f.Inv) (r : Read) : ∀ x ∈ r.result f, f.isLive x = true := by
  have w := hi.toW
  intro x hx
  cases r with
  | parent n =>
    simp only [Read.result, Option.mem_toList] at hx
    exact (parent?_live hx).2
  | firstChild n =>
    simp only [Read.result, Option.mem_toList] at hx
    exact (parent?_live (firstChild_parent w hx)).1
  | lastChild n =>
    simp only [Read.result, Option.mem_toList] at hx
    exact (parent?_live (lastChild_parent w hx)).1
  | nextSibling n =>
    simp only [Read.result, Option.mem_toList] at hx
    exact (nextSibling_sib w hx).live
  | previousSibling n =>
    simp only [Read.result, Option.mem_toList] at hx
    exact (prevSibling_sib w hx).live
  | ancestors n =>
    simp only [Read.result] at hx
    cases hl : f.isLive x with
    | true => rfl
    | false =>
      exfalso
      have h1 := ancestors_live w hx
      rw [hl] at h1
      cases h1
  | children n =>
    simp only [Read.result] at hx
    cases hg : f.get? n with
    | none => rw [hg] at hx; simp at hx
    | some t =>
      rw [hg] at hx
      simp only [Option.map_some, Option.getD_some, List.mem_map] at hx
      obtain ⟨k, hk, rfl⟩ := hx
      exact live_of_get?_mem hg (kid_handle_mem hk)
  | descendants n =>
    simp only [Read.result] at hx
    cases hg : f.get? n with
    | none => rw [hg] at hx; simp at hx
    | some t =>
      rw [hg] at hx
      simp only [Option.map_some, Option.getD_some] at hx
      exact live_of_get?_mem hg hx
  | mapNodes k n =>
    simp only [Read.result] at hx
    cases hg : f.get? n with
    | none => rw [hg] at hx; simp at hx
    | some t =>
      rw [hg] at hx
      simp only [Option.map_some, Option.getD_some, List.mem_map] at hx
      obtain ⟨c, hc, rfl⟩ := hx
      exact live_of_get?_mem hg (kid_handle_mem (Forest.mapChildren_sub k t c hc))
  | mapGetNode k n key =>
    simp only [Read.result, Option.mem_toList, Option.map_eq_some_iff] at hx
    obtain ⟨c, hc, rfl⟩ := hx
    exact isLive_of_hv (hv_of_mapGetNode hc)
  | roots =>
    simp only [Read.result, List.mem_map] at hx
    obtain ⟨t, ht, rfl⟩ := hx
    exact isLive_of_mem_allHandles (handles_subset_handlesList ht _ (handle_mem_handles t))

end Forest
end XotModel
