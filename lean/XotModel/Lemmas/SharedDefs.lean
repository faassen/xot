/-
  Small specification-side definitions that both the TEXT half (tokenizer, builder, serialiser,
  round trip: `ParseNs*`, `RoundTrip*`, `SerOpt*`, `LexSpell*`) and the comparison / id-map lemmas
  (`Compare*`, `IdMap*`) state theorems with.  Declared once here so that the two families can be
  imported together; nothing else lives in this file.
-/
import XotModel.Model.ParseTypes

namespace XotModel

/-- The expanded name of a name id: (namespace URI, local name) =
    `(namespace_str(namespace_for_name(n)), local_name_str(n))`. -/
def Env.expanded (env : Env) (n : Nat) : Str × Str := (env.namespaceStr (env.nsOfName n), env.localName n)

/-- Character data tokens: text and CDATA sections. -/
def Token.isCharData : Token → Bool
  | .text _ => true
  | .cdata _ _ => true
  | _ => false

end XotModel
