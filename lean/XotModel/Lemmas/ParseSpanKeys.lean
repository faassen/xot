/-
  The keys of the span map: which keys are present (`HasKey`, `KeysSub`), the path of an open frame
  (`framesPath`), and which token-level span ends up under which `SpanInfoKey` (C17_span_*).
-/
import XotModel.Lemmas.ParseSound

namespace XotModel

/-! ### Keys of the span map -/

/-- The span map has an entry under the key. -/
def HasKey (m : SpanMap) (k : SpanKey) : Prop := (m.get k).isSome = true

/-- No key is lost from `m` to `m'`. -/
def KeysSub (m m' : SpanMap) : Prop := ∀ k, HasKey m k → HasKey m' k

theorem lookup_filter_ne (m : SpanMap) (k k' : SpanKey) (h : k' ≠ k) :
    (m.filter (fun e => e.1 != k)).lookup k' = m.lookup k' := by
  induction m with
  | nil => rfl
  | cons x xs ih =>
    obtain ⟨a, s⟩ := x
    by_cases ha : a = k
    · subst ha
      have : (k' == a) = false := by simpa using h
      simp [List.filter, List.lookup, this, ih]
    · have hne : (a != k) = true := by simpa using ha
      simp only [List.filter, hne, List.lookup]
      split <;> simp_all

/-! ### Span presence -/

/-- Path of the frame sitting on top of the given chain of frames. -/
def framesPath (l : List Frame) : Path := (l.map (fun f => f.rkids.length)).reverse

theorem curPath_eq (b : Builder) : b.curPath = framesPath b.parents := rfl


theorem get_add_self (m : SpanMap) (k : SpanKey) (s : Span) : (m.add k s).get k = some s := by
  simp [SpanMap.get, SpanMap.add, List.lookup]

theorem get_add_other (m : SpanMap) (k k' : SpanKey) (s : Span) (h : k' ≠ k) : (m.add k s).get k' = m.get k' := by
  have : (k' == k) = false := by simpa using h
  simp only [SpanMap.get, SpanMap.add, List.lookup, this]
  exact lookup_filter_ne m k k' h

theorem hasKey_add_cases {m : SpanMap} {k k' : SpanKey} {s : Span} (h : HasKey (m.add k s) k') :
    k' = k ∨ HasKey m k' := by
  by_cases hk : k' = k
  · exact .inl hk
  · right
    unfold HasKey at h ⊢
    rw [get_add_other _ _ _ _ hk] at h
    exact h

theorem hasKey_of_get {m : SpanMap} {k : SpanKey} {s : Span} (h : m.get k = some s) : HasKey m k := by
  unfold HasKey; rw [h]; rfl

theorem get_none_of_not_hasKey {m : SpanMap} {k : SpanKey} (h : ¬ HasKey m k) : m.get k = none := by
  unfold HasKey at h
  cases hg : m.get k with
  | none => rfl
  | some s => rw [hg] at h; exact absurd rfl h

theorem get_addAttributeSpans_notin (node : Path) (k : SpanKey) : ∀ (l : List (Nat × Span × Span)) (m : SpanMap),
    (∀ a ∈ l, k ≠ ⟨node, .attributeName a.1⟩ ∧ k ≠ ⟨node, .attributeValue a.1⟩) →
      (m.addAttributeSpans node l).get k = m.get k := by
  intro l
  induction l with
  | nil => intro m _; rfl
  | cons a rest ih =>
    intro m h
    obtain ⟨n, s1, s2⟩ := a
    simp only [SpanMap.addAttributeSpans]
    have ha := h (n, s1, s2) (by simp)
    rw [ih _ (fun x hx => h x (by simp [hx])), get_add_other _ _ _ _ ha.2, get_add_other _ _ _ _ ha.1]

theorem get_addAttributeSpans_path (node : Path) (k : SpanKey) (hk : k.path ≠ node)
    (l : List (Nat × Span × Span)) (m : SpanMap) : (m.addAttributeSpans node l).get k = m.get k :=
  get_addAttributeSpans_notin node k l m (fun a _ =>
    ⟨fun h => hk (by rw [h]), fun h => hk (by rw [h])⟩)

theorem addAttributeSpans_append (node : Path) (l1 l2 : List (Nat × Span × Span)) :
    ∀ m : SpanMap, m.addAttributeSpans node (l1 ++ l2) = (m.addAttributeSpans node l1).addAttributeSpans node l2 := by
  induction l1 with
  | nil => intro m; rfl
  | cons a rest ih =>
    intro m
    obtain ⟨n, s1, s2⟩ := a
    simp only [List.cons_append, SpanMap.addAttributeSpans]
    exact ih _

/-- The LAST attribute with a given name id decides both of its keys (`HashMap::insert`). -/
theorem get_addAttributeSpans_last (node : Path) (m : SpanMap) (l : List (Nat × Span × Span))
    (n : Nat) (s1 s2 : Span) :
    (m.addAttributeSpans node (l ++ [(n, s1, s2)])).get ⟨node, .attributeName n⟩ = some s1 ∧
    (m.addAttributeSpans node (l ++ [(n, s1, s2)])).get ⟨node, .attributeValue n⟩ = some s2 := by
  rw [addAttributeSpans_append]
  simp only [SpanMap.addAttributeSpans]
  refine ⟨?_, get_add_self _ _ _⟩
  rw [get_add_other _ _ _ _ (by simp), get_add_self]

/-- `ElementStart(node)` after `open_element`: the span kept by the `ElementBuilder`. -/
theorem openElement_span {b b' : Builder} {eb : ElementBuilder} (heb : b.eb = some eb)
    (h : b.openElement = .ok b') :
    b'.spans.get ⟨b.curPath ++ [b.cur.rkids.length], .elementStart⟩ = some eb.span := by
  obtain ⟨eb', _, _, _, heb', _, _, rfl⟩ := Builder.openElement_ok_inv h
  cases heb.symm.trans heb'
  show SpanMap.get (SpanMap.addAttributeSpans _ _ _) _ = _
  rw [get_addAttributeSpans_notin _ _ _ _ (fun a _ => ⟨by simp, by simp⟩), get_add_self]

/-- `ElementEnd(node)`: the span of the end token. -/
theorem leave_span {b b' : Builder} (node : Path) (sp : StrSpan) (h : b.leave node sp = .ok b') :
    b'.spans.get ⟨node, .elementEnd⟩ = some sp.span := by
  obtain ⟨b2, _, rfl⟩ := Builder.leave_ok_inv h
  exact get_add_self _ _ _

theorem extendText_some {m : SpanMap} {node : Path} {s ex : Span} (h : m.get ⟨node, .text⟩ = some ex) :
    m.extendText node s = m.add ⟨node, .text⟩ ⟨ex.start, s.stop⟩ := by
  unfold SpanMap.extendText; rw [h]

theorem extendText_none {m : SpanMap} {node : Path} {s : Span} (h : m.get ⟨node, .text⟩ = none) :
    m.extendText node s = m.add ⟨node, .text⟩ s := by
  unfold SpanMap.extendText; rw [h]

/-- `Text(node)`: a first part records its own span … -/
theorem extendText_first (m : SpanMap) (node : Path) (s : Span) (h : m.get ⟨node, .text⟩ = none) :
    (m.extendText node s).get ⟨node, .text⟩ = some s := by
  rw [extendText_none h]; exact get_add_self _ _ _

/-- … every further part keeps the start and moves the end. -/
theorem extendText_next (m : SpanMap) (node : Path) (s ex : Span) (h : m.get ⟨node, .text⟩ = some ex) :
    (m.extendText node s).get ⟨node, .text⟩ = some ⟨ex.start, s.stop⟩ := by
  rw [extendText_some h]; exact get_add_self _ _ _

theorem comment_span (b : Builder) (t : StrSpan) :
    (b.comment t).spans.get ⟨b.curPath ++ [b.cur.rkids.length], .comment⟩ = some t.span := by
  simp only [Builder.comment, Builder.addLeaf]
  exact get_add_self _ _ _

theorem pi_spans (b : Builder) (target : StrSpan) (content : Option StrSpan) :
    (b.processingInstruction target content).spans.get ⟨b.curPath ++ [b.cur.rkids.length], .piTarget⟩ =
      some target.span ∧
    (b.processingInstruction target content).spans.get ⟨b.curPath ++ [b.cur.rkids.length], .piContent⟩ =
      (match content with
       | some c => some c.span
       | none => b.spans.get ⟨b.curPath ++ [b.cur.rkids.length], .piContent⟩) := by
  simp only [Builder.processingInstruction, Builder.addLeaf, Builder.curPath]
  cases content with
  | none =>
    exact ⟨get_add_self _ _ _, get_add_other _ _ _ _ (by simp)⟩
  | some c =>
    refine ⟨?_, get_add_self _ _ _⟩
    rw [get_add_other _ _ _ _ (by simp)]
    exact get_add_self _ _ _

end XotModel
