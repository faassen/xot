/-
  Lexical rejections: after the canonical spelling of any token list `ts` (every length and depth,
  `LexOK`), text on which the tokenizer fails at once (`FailsAt`) makes the run end with the tokens
  read so far and the error at the position where the last good token ended.  The shapes:
  unterminated and malformed comments, CDATA sections and PIs, `]]>` in text, `<` in an attribute
  value, character data or a second root element outside the root element.
-/
import XotModel.Lemmas.LexCanon
import XotModel.Model.ParseString

namespace XotModel.Lex.Canon

open XotModel.Lex XotModel.Lex.Stream

/-! ### The scheme -/

/-- The tokenizer fails at once, whatever position is pending. -/
def FailsAt (frag : Bool) (ctx : LexCtx) (pos : Nat) (r : Str) : Prop :=
  ∀ (tk : Tokenizer) (p : Nat), Matches frag ctx tk → tk.stream = ⟨pos, r⟩ → lexLoop tk p = ([], some p)

theorem lexLoop_reject_after (frag : Bool) (ts : List Token) (r : Str) (tk : Tokenizer)
    (hm : Matches frag (LexCtx.init frag) tk) (hs : tk.stream = ⟨0, renderTokens ts ++ r⟩)
    (hok : LexOK frag ts = true) (hj : JoinOK ts r)
    (hbad : FailsAt frag (ctxAfter frag (LexCtx.init frag) ts) (strLen (renderTokens ts)) r) :
    lexLoop tk 0 = (placeTokens 0 ts, some (strLen (renderTokens ts))) := by
  simp only [LexOK, Bool.and_eq_true] at hok
  obtain ⟨tk', hm', hst', e⟩ := lexLoop_render_app frag ts r (LexCtx.init frag) tk 0 hm hok.1 hok.2
    (by rw [hs]) hj
  rw [hs] at hst' e
  simp only [Nat.zero_add] at hst' e
  have hp : (if ts.isEmpty then 0 else tk'.stream.pos) = strLen (renderTokens ts) := by
    split
    · next h =>
      have : ts = [] := by simpa using h
      subst this; rfl
    · rw [hst']
  rw [hp, hbad tk' _ hm' hst'] at e
  simpa using e

end XotModel.Lex.Canon

namespace XotModel

open XotModel.Lex XotModel.Lex.Canon

theorem lexFragment_reject_after (ts : List Token) (r : Str) (hok : LexOK true ts = true)
    (hj : JoinOK ts r)
    (hbad : FailsAt true (ctxAfter true (.content 0) ts) (strLen (renderTokens ts)) r) :
    lexFragment (renderTokens ts ++ r) = (placeTokens 0 ts, some (strLen (renderTokens ts))) :=
  lexLoop_reject_after true ts r (Tokenizer.ofFragment (renderTokens ts ++ r)) ⟨rfl, rfl, rfl⟩ rfl hok hj hbad

/-- **Rejection scheme, document mode** (the text does not begin with a byte-order mark). -/
theorem lexDocument_reject_after (ts : List Token) (r : Str) (hok : LexOK false ts = true)
    (hj : JoinOK ts r) (hbom : ts = [] → r.head? ≠ some '\uFEFF')
    (hbad : FailsAt false (ctxAfter false .prolog ts) (strLen (renderTokens ts)) r) :
    lexDocument (renderTokens ts ++ r) = (placeTokens 0 ts, some (strLen (renderTokens ts))) := by
  have hb : ((Stream.ofStr (renderTokens ts ++ r)).curr? == some '\uFEFF') = false := by
    cases ts with
    | nil => simpa [renderTokens, Stream.ofStr, Stream.curr?] using hbom rfl
    | cons t ts =>
      simp only [LexOK, Bool.and_eq_true] at hok
      have := prolog_no_bom hok.2
      rw [renderTokens_cons] at this ⊢
      have hne := render_ne_nil (t := t) (by have := hok.1; simp only [List.all_cons, Bool.and_eq_true] at this; exact this.1)
      cases hr : renderToken t with
      | nil => exact absurd hr hne
      | cons c cs => rw [hr] at this; simpa [Stream.ofStr, Stream.curr?] using this
  rw [lexDocument_noBom hb]
  exact lexLoop_reject_after false ts r _ ⟨rfl, rfl, .inl rfl⟩ rfl hok hj hbad

end XotModel

/-! ### The ill-formed shapes, one lemma each; Props/C03.lean combines them with the scheme -/

namespace XotModel.Lex.Canon

open XotModel.Lex XotModel.Lex.Stream

/-! ### Scanning without finding the terminator -/

/-- After scanning a body that does not contain the terminator, `skip_string(terminator)` fails. -/
theorem skip_close_fails {close : Str} {c0 : Char} (pos : Nat) {body : Str} (hne : close ≠ [])
    (h : hasInfix close body = false) :
    (skipChars (fun r c => !(c == c0 && close.isPrefixOf r)) ⟨pos, body⟩).bind (skipString close) = none := by
  -- the scan runs to the end of the text
  have e := scanChars_app (f := fun r c => !(c == c0 && close.isPrefixOf r)) (a := body) (r := [])
    (fun u c v e => by simp [hasInfix_false h u (c :: v) (by simpa using e)]) (.inl rfl)
  rw [List.append_nil] at e
  unfold skipChars
  rw [e]
  split
  · have : (Stream.mk pos body).adv body.length = ⟨pos + strLen body, []⟩ := by
      have := adv_app pos body [] body.length rfl
      simpa using this
    simp only [Option.map_some, Option.bind_some, this, skipString, startsWith]
    cases close with
    | nil => exact absurd rfl hne
    | cons x xs => simp [List.isPrefixOf]
  · rfl

theorem parseComment_unterminated (pos : Nat) (body : Str) (h : hasInfix litCommentClose body = false) :
    parseComment ⟨pos, litCommentOpen ++ body⟩ = none := by
  have e4 : (Stream.mk pos (litCommentOpen ++ body)).adv 4 = ⟨pos + 4, body⟩ := by
    rw [adv_app pos _ _ 4 rfl]; rfl
  have := skip_close_fails (c0 := '-') (pos + 4) (by simp [litCommentClose]) h
  simp only [Option.bind_eq_none_iff] at this
  simp only [parseComment, e4, Option.bind_eq_bind, Option.bind_eq_none_iff]
  intro s2 h2 s3 h3
  rw [this s2 h2] at h3; cases h3

theorem parseCdata_unterminated (pos : Nat) (body : Str) (h : hasInfix litCdataClose body = false) :
    parseCdata ⟨pos, litCdataOpen ++ body⟩ = none := by
  have e9 : (Stream.mk pos (litCdataOpen ++ body)).adv 9 = ⟨pos + 9, body⟩ := by
    rw [adv_app pos _ _ 9 rfl]; rfl
  have := skip_close_fails (c0 := ']') (pos + 9) (by simp [litCdataClose]) h
  simp only [Option.bind_eq_none_iff] at this
  simp only [parseCdata, e9, Option.bind_eq_bind, Option.bind_eq_none_iff]
  intro s2 h2 s3 h3
  rw [this s2 h2] at h3; cases h3

theorem hasInfix_drop {close body : Str} (k : Nat) (h : hasInfix close body = false) :
    hasInfix close (body.drop k) = false := by
  induction k generalizing body with
  | zero => simpa using h
  | succ n ih =>
    cases body with
    | nil => simpa using h
    | cons c cs =>
      simp only [hasInfix, Bool.or_eq_false_iff] at h
      simpa using ih h.2

theorem parsePI_unterminated (pos : Nat) (body : Str) (h : hasInfix litPiClose body = false) :
    parsePI ⟨pos, litPiOpen ++ body⟩ = none := by
  have e2 : (Stream.mk pos (litPiOpen ++ body)).adv 2 = ⟨pos + 2, body⟩ := by
    rw [adv_app pos _ _ 2 rfl]; rfl
  simp only [parsePI, e2, Option.bind_eq_bind, Option.bind_eq_none_iff]
  intro ⟨target, s2⟩ h2 s4 h4 s5 h5
  obtain ⟨k, hk⟩ := (consumeName_reach h2).trans (skipSpaces_reach s2)
  have hrest : s2.skipSpaces.rest = body.drop k := by rw [hk]; rfl
  have hno := hasInfix_drop k h
  rw [← hrest] at hno
  have := skip_close_fails (c0 := '?') s2.skipSpaces.pos (by simp [litPiClose]) hno
  simp only [Option.bind_eq_none_iff] at this
  have h4' : skipChars (fun r c => !(c == '?' && litPiClose.isPrefixOf r))
      ⟨s2.skipSpaces.pos, s2.skipSpaces.rest⟩ = some s4 := h4
  rw [this s4 h4'] at h5; cases h5

/-- `<!-- … -->` whose body contains `--` or ends with `-` (and does not contain `-->`). -/
theorem parseComment_dashes (pos : Nat) (body rest : Str) (h : hasInfix litCommentClose body = false)
    (hd : hasInfix litDashDash body = true ∨ body.getLast? = some '-') :
    parseComment ⟨pos, litCommentOpen ++ (body ++ litCommentClose ++ rest)⟩ = none := by
  have e4 : (Stream.mk pos (litCommentOpen ++ (body ++ litCommentClose ++ rest))).adv 4 =
      ⟨pos + 4, body ++ litCommentClose ++ rest⟩ := by
    rw [adv_app pos _ _ 4 rfl]; rfl
  have e := scanChars_close (r := rest) unbordered_commentClose ⟨_, rfl⟩ (by decide) h
  rw [← List.append_assoc] at e
  simp only [parseComment, e4, Option.bind_eq_bind]
  unfold skipChars
  rw [e]
  split
  · have ea : (Stream.mk (pos + 4) (body ++ litCommentClose ++ rest)).adv body.length =
        ⟨pos + 4 + strLen body, litCommentClose ++ rest⟩ := by
      rw [List.append_assoc, adv_app _ _ _ _ rfl]
    simp only [Option.map_some, Option.bind_some, ea, skipString_app]
    rw [sliceBack_eq body (by simp)]
    rcases hd with hd | hd
    · simp [hd]
    · simp [hd]
  · rfl

/-! ### Element content (`State::Elements`) -/

theorem failsAt_content_of_markup {frag : Bool} {d pos : Nat} {r : Str} {c : Char} {cs : Str}
    (hr : r = '<' :: c :: cs)
    (h : ∀ tk : Tokenizer, tk.state = .elements → tk.stream = ⟨pos, r⟩ → parseNextImpl tk = .error) :
    FailsAt frag (.content d) pos r := by
  intro tk p hm hs
  have he : tk.stream.atEnd = false := by rw [hs, hr]; rfl
  exact lexLoop_error p he (by rw [hm.2.2]; simp) (h tk hm.2.2 hs)

theorem failsAt_unterminated_comment (frag : Bool) (d pos : Nat) (body : Str)
    (h : hasInfix litCommentClose body = false) :
    FailsAt frag (.content d) pos (litCommentOpen ++ body) := by
  refine failsAt_content_of_markup (c := '!') (cs := '-' :: '-' :: body) rfl ?_
  intro tk hst hs
  rw [parseNextImpl_comment (.inl hst) (x := body) (by rw [hs]; rfl), hs, parseComment_unterminated pos body h]
  rfl

theorem failsAt_comment_dashes (frag : Bool) (d pos : Nat) (body rest : Str)
    (h : hasInfix litCommentClose body = false)
    (hd : hasInfix litDashDash body = true ∨ body.getLast? = some '-') :
    FailsAt frag (.content d) pos (litCommentOpen ++ (body ++ litCommentClose ++ rest)) := by
  refine failsAt_content_of_markup (c := '!') (cs := '-' :: '-' :: (body ++ litCommentClose ++ rest)) rfl ?_
  intro tk hst hs
  rw [parseNextImpl_comment (.inl hst) (x := body ++ litCommentClose ++ rest) (by rw [hs]; rfl), hs,
    parseComment_dashes pos body rest h hd]
  rfl

theorem failsAt_unterminated_cdata (frag : Bool) (d pos : Nat) (body : Str)
    (h : hasInfix litCdataClose body = false) :
    FailsAt frag (.content d) pos (litCdataOpen ++ body) := by
  refine failsAt_content_of_markup (c := '!') (cs := '[' :: 'C' :: 'D' :: 'A' :: 'T' :: 'A' :: '[' :: body) rfl ?_
  intro tk hst hs
  rw [parseNextImpl_cdata hst (x := body) (by rw [hs]), hs, parseCdata_unterminated pos body h]
  rfl

theorem failsAt_unterminated_pi (frag : Bool) (d pos : Nat) (body : Str)
    (h : hasInfix litPiClose body = false) :
    FailsAt frag (.content d) pos (litPiOpen ++ body) := by
  refine failsAt_content_of_markup (c := '?') (cs := body) rfl ?_
  intro tk hst hs
  rw [parseNextImpl_pi (.inl hst) (x := body) (by rw [hs]; rfl), hs, parsePI_unterminated pos body h]
  split <;> rfl

theorem failsAt_text_cdata_close (frag : Bool) (d pos : Nat) (body rest : Str) (hne : body ≠ [])
    (hall : body.all (fun c => isXmlChar c && c != '<') = true)
    (hinf : hasInfix litCdataClose body = true) (hrest : StartsMarkup rest) :
    FailsAt frag (.content d) pos (body ++ rest) := by
  intro tk p hm hs
  obtain ⟨c, cs, hc⟩ := List.exists_cons_of_ne_nil hne
  have hall' := hall
  rw [hc] at hall'
  simp only [List.all_cons, Bool.and_eq_true, bne_iff_ne, ne_eq] at hall'
  have he : tk.stream.atEnd = false := by rw [hs, hc]; rfl
  have hcur : (tk.stream.curr? == some '<') = false := by
    rw [hs, hc]; simp [curr?, hall'.1.2]
  have hr' : rest = [] ∨ ∃ c cs, rest = c :: cs ∧ isXmlChar c = true ∧ (fun c => c != '<') c = false := by
    rcases hrest with rfl | ⟨cs, rfl⟩
    · exact .inl rfl
    · exact .inr ⟨'<', cs, rfl, by decide, by decide⟩
  have hscan := scanChars_simple (g := fun c => c != '<') (a := body) (r := rest) hall hr'
  have e := skipChars_of_scan (f := fun _ c => c != '<') pos hscan
  have hgt : body.contains '>' = true := by
    clear hscan e hr' hcur he hall' hc hall hne hs hm
    induction body with
    | nil => simp [hasInfix, litCdataClose] at hinf
    | cons x xs ih =>
      simp only [hasInfix, Bool.or_eq_true] at hinf
      rcases hinf with h | h
      · rcases xs with _ | ⟨y, _ | ⟨z, zs⟩⟩ <;>
          simp [litCdataClose, List.isPrefixOf_cons_cons] at h
        simp [h.2.2.symm]
      · have := ih h
        simp only [List.contains_cons, Bool.or_eq_true] at this ⊢
        exact .inr this
  apply lexLoop_error p he (by rw [hm.2.2]; simp)
  rw [parseNextImpl_text hm.2.2 he hcur, hs]
  simp only [parseText, e, Option.bind_eq_bind, Option.bind_some, sliceBack_app, hgt, hinf,
    Bool.and_self, if_true, Step.ofParse]

/-! ### Inside a start tag (`State::Attributes`) -/

theorem parseAttribute_lt (pos : Nat) (p l v rest : Str) (h : qnameOK p l = true)
    (hv : v.all (fun c => isXmlChar c && c != '"' && c != '<') = true) :
    parseAttribute ⟨pos, ' ' :: (tokQName p l ++ '=' :: '"' :: (v ++ '<' :: rest))⟩ = none := by
  obtain ⟨qc, qs, hq, hqc⟩ := tokQName_head h
  have heq : Stops isNameChar ('=' :: '"' :: (v ++ '<' :: rest)) := Stops.cons _ (by decide)
  have hs3 : Stops isXmlSpace ('"' :: (v ++ '<' :: rest)) := Stops.cons _ (by decide)
  have hv' : v.all (fun c => isXmlChar c && (fun c => c != '"' && c != '<') c) = true := by
    simpa [Bool.and_assoc] using hv
  have hscan := scanChars_simple (g := fun c => c != '"' && c != '<') (a := v) (r := '<' :: rest) hv'
    (.inr ⟨'<', rest, rfl, by decide, by decide⟩)
  have e5 := fun q => skipChars_of_scan (f := fun _ c => c != '"' && c != '<') q hscan
  rw [show ' ' :: (tokQName p l ++ '=' :: '"' :: (v ++ '<' :: rest)) =
      [' '] ++ (tokQName p l ++ '=' :: '"' :: (v ++ '<' :: rest)) from rfl,
    Free.parseAttribute_name pos (w := [' ']) (by decide) (by simp) (by rw [hq]; rfl) hqc]
  simp only [Option.bind_eq_bind, consumeQName_app _ h heq, Option.bind_some, consumeEq_eq _ _ hs3,
    consumeQuote_dq, e5]
  simp [consumeByte, curr?]
theorem failsAt_attr_lt (frag : Bool) (d pos : Nat) (p l v rest : Str) (h : qnameOK p l = true)
    (hv : v.all (fun c => isXmlChar c && c != '"' && c != '<') = true) :
    FailsAt frag (.inTag d) pos (' ' :: (tokQName p l ++ '=' :: '"' :: (v ++ '<' :: rest))) := by
  intro tk q hm hs
  have he : tk.stream.atEnd = false := by rw [hs]; rfl
  exact lexLoop_error q he (by rw [hm.2.2]; simp)
    (parseNextImpl_attr_none hm.2.2 he (by rw [hs, parseAttribute_lt pos p l v rest h hv]))

/-! ### Outside the root element of a document -/

theorem failsAt_text_prolog (pos : Nat) (c : Char) (rest : Str) (hc : c ≠ '<')
    (hsp : isXmlSpace c = false) : FailsAt false .prolog pos (c :: rest) := by
  -- the three prolog states, last first
  have s3 : ∀ (tk : Tokenizer) (q : Nat), tk.state = .afterDtd → tk.stream = ⟨pos, c :: rest⟩ →
      lexLoop tk q = ([], some q) := by
    intro tk q hst hs
    have hb : tk.stream.rest = c :: rest := by rw [hs]
    have he : tk.stream.atEnd = false := by rw [hs]; rfl
    apply lexLoop_error q he (by rw [hst]; simp)
    unfold parseNextImpl
    simp only [he, Bool.false_eq_true, if_false, hst, miscStep_other _ hb (.inl hc),
      startsWith_lt_false hb hc (lit := litBang) rfl, startsWith_lt_false hb hc (lit := litLt) rfl]
    simp [hs, startsWithSpace, hsp]
  have s2 : ∀ (tk : Tokenizer) (q : Nat), tk.state = .afterDeclaration → tk.stream = ⟨pos, c :: rest⟩ →
      lexLoop tk q = ([], some q) := by
    intro tk q hst hs
    have hb : tk.stream.rest = c :: rest := by rw [hs]
    have he : tk.stream.atEnd = false := by rw [hs]; rfl
    have hstep : parseNextImpl tk = .skip { tk with state := .afterDtd } := by
      unfold parseNextImpl
      simp only [he, Bool.false_eq_true, if_false, hst, miscStep_other _ hb (.inl hc),
        startsWith_lt_false hb hc (lit := litDoctype) rfl]
      simp [hs, startsWithSpace, hsp]
    rw [lexLoop_skip q he (by rw [hst]; simp) hstep]
    exact s3 _ q rfl hs
  intro tk q hm hs
  obtain ⟨_, _, hst | hst | hst⟩ := hm
  · have he : tk.stream.atEnd = false := by rw [hs]; rfl
    rw [loop_declaration tk q hst he (startsWith_lt_false (by rw [hs]) hc rfl)]
    exact s2 _ q rfl hs
  · exact s2 tk q hst hs
  · exact s3 tk q hst hs

theorem failsAt_text_after (pos : Nat) (c : Char) (rest : Str) (hc : c ≠ '<')
    (hsp : isXmlSpace c = false) : FailsAt false .after pos (c :: rest) := by
  intro tk q hm hs
  have he : tk.stream.atEnd = false := by rw [hs]; rfl
  apply lexLoop_error q he (by rw [hm.2]; simp)
  unfold parseNextImpl
  simp only [he, Bool.false_eq_true, if_false, hm.2, miscStep_other _ (by rw [hs]) (.inl hc)]
  rw [hs]
  simp [startsWithSpace, hsp]

/-- A second root element (any `<` that does not open a comment or a PI) after the root element
    of a document. -/
theorem failsAt_second_root (pos : Nat) (rest : Str) (h1 : rest.head? ≠ some '!')
    (h2 : rest.head? ≠ some '?') : FailsAt false .after pos ('<' :: rest) := by
  intro tk q hm hs
  have he : tk.stream.atEnd = false := by rw [hs]; rfl
  apply lexLoop_error q he (by rw [hm.2]; simp)
  have hsp : tk.stream.startsWithSpace = false := by rw [hs]; rfl
  unfold parseNextImpl
  simp only [he, Bool.false_eq_true, if_false, hm.2, hsp, miscStep_other _ (by rw [hs]) (.inr ⟨h1, h2⟩)]

/-! ### `JoinOK` from the context a token list ends in -/

theorem lexNest_append_right {frag : Bool} (a b : List Token) :
    ∀ ctx, lexNest frag ctx (a ++ b) = true → lexNest frag (ctxAfter frag ctx a) b = true := by
  induction a with
  | nil => exact fun _ h => h
  | cons t a ih => exact fun ctx h => ih _ (lexNest_cons h)

theorem ctxAfter_concat (frag : Bool) (ctx : LexCtx) (a : List Token) (t : Token) :
    ctxAfter frag ctx (a ++ [t]) = ctxStep frag (ctxAfter frag ctx a) t := by
  simp [ctxAfter, List.foldl_append]

theorem closed_ne_inTag (frag : Bool) (d e : Nat) : LexCtx.closed frag d ≠ .inTag e := by
  unfold LexCtx.closed; split <;> simp

/-- What may follow a token list, read off the context it ends in: inside a start tag no name
    character, in element content markup or the end, outside the root element anything.  (Only a
    start-tag name and a text token can be extended, and they leave these two contexts.) -/
theorem joinOK_of_ctx {frag : Bool} {ctx : LexCtx} {ts : List Token} {r : Str}
    (hn : lexNest frag ctx ts = true)
    (h1 : ∀ d, ctxAfter frag ctx ts = .inTag d → Stops isNameChar r)
    (h2 : ∀ d, ctxAfter frag ctx ts = .content d → StartsMarkup r) : JoinOK ts r := by
  rcases List.eq_nil_or_concat ts with rfl | ⟨a, t, rfl⟩
  · simp [JoinOK]
  · rw [List.concat_eq_append] at hn h1 h2 ⊢
    have hl := lexNest_append_right a [t] ctx hn
    rw [ctxAfter_concat] at h1 h2
    unfold JoinOK
    rw [List.getLast?_concat]
    cases t with
    | elementStart p l sp =>
      cases hca : ctxAfter frag ctx a with
      | prolog => exact h1 0 (by rw [hca]; rfl)
      | content e => exact h1 e (by rw [hca]; rfl)
      | _ => rw [hca] at hl; cases hl
    | text x =>
      cases hca : ctxAfter frag ctx a with
      | content e => exact h2 e (by rw [hca]; rfl)
      | _ => rw [hca] at hl; cases hl
    | _ => trivial

theorem joinOK_inTag {frag : Bool} {ctx : LexCtx} {ts : List Token} {r : Str} {d : Nat}
    (hn : lexNest frag ctx ts = true) (hc : ctxAfter frag ctx ts = .inTag d)
    (hr : Stops isNameChar r) : JoinOK ts r :=
  joinOK_of_ctx hn (fun _ _ => hr) (fun e he => by rw [hc] at he; cases he)

theorem joinOK_markup {frag : Bool} {ctx : LexCtx} {ts : List Token} {r : Str}
    (hn : lexNest frag ctx ts = true) (hc : ∀ d, ctxAfter frag ctx ts ≠ .inTag d)
    (hr : StartsMarkup r) : JoinOK ts r :=
  joinOK_of_ctx hn (fun d hd => absurd hd (hc d)) (fun _ _ => hr)

theorem joinOK_outside {frag : Bool} {ctx : LexCtx} {ts : List Token} {r : Str}
    (hn : lexNest frag ctx ts = true)
    (hc : ctxAfter frag ctx ts = .prolog ∨ ctxAfter frag ctx ts = .after) : JoinOK ts r :=
  joinOK_of_ctx hn (fun d hd => by rcases hc with h | h <;> rw [h] at hd <;> cases hd)
    (fun d hd => by rcases hc with h | h <;> rw [h] at hd <;> cases hd)

end XotModel.Lex.Canon

namespace XotModel

open XotModel.Lex XotModel.Lex.Canon

/-- `true` ↦ `parse_fragment`, `false` ↦ `parse`. -/
def modeOf (frag : Bool) : Mode := if frag then .fragment else .document

/-- **Rejection scheme** in either mode: after the canonical spelling of `ts`, a continuation on
    which the tokenizer fails in the context `ts` ends in makes the whole text fail, with the
    tokens of `ts` before the error and the end of `ts` as error position. -/
theorem lexMode_reject_after (frag : Bool) (ts : List Token) (r : Str) (hok : LexOK frag ts = true)
    (hj : JoinOK ts r) (hbom : frag = false → ts = [] → r.head? ≠ some '\uFEFF')
    (hbad : FailsAt frag (ctxAfter frag (LexCtx.init frag) ts) (strLen (renderTokens ts)) r) :
    lexMode (modeOf frag) (renderTokens ts ++ r) = (placeTokens 0 ts, some (strLen (renderTokens ts))) := by
  cases frag with
  | true => exact lexFragment_reject_after ts r hok hj hbad
  | false => exact lexDocument_reject_after ts r hok hj (hbom rfl) hbad

theorem lexNest_of_lexOK {frag : Bool} {ts : List Token} (h : LexOK frag ts = true) :
    lexNest frag (LexCtx.init frag) ts = true := by
  simp only [LexOK, Bool.and_eq_true] at h
  exact h.2

end XotModel
