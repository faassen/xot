/-
  Closed arenas, each reached from the empty arena by a history of `Arena.Call`s (`sampleX_steps`),
  for the non-vacuity examples of the arena theorems in `Props/C04`, `C06`, `C07`.  Nothing here uses
  `ArenaRefusal`: it is imported for `Props/C04` and `Props/C06`, which take its `checked*_refused` theorems
  from here.
-/
import XotModel.Lemmas.ArenaHistory
import XotModel.Lemmas.ArenaRefusal

namespace XotModel
namespace Arena

/-- The arena reached by `f`, whatever the outcome. -/
def after (a : Arena) (f : Arena → Step α) : Arena := (f a).arena

theorem liveId_of_isLiveId {a : Arena} {id : NodeId} (h : a.isLiveId id = true) : LiveId a id := by
  simp only [isLiveId, Bool.and_eq_true, decide_eq_true_eq] at h
  obtain ⟨⟨h1, h2⟩, h3⟩ := h
  refine ⟨h1, ?_, h3⟩
  unfold liveAt at h2
  unfold Live slot
  cases hs : a.nodes[id.index0]? with
  | none => rw [hs] at h2; cases h2
  | some s =>
    rw [hs] at h2
    refine ⟨s, rfl, ?_⟩
    simp [Slot.isRemoved, Stamp.isRemoved] at h2
    exact h2

/-- Three nodes: 1 with children 2, 3 (ids `1:0`, `2:0`, `3:0`). -/
def sampleA : Arena :=
  ((((({} : Arena).after (newNode · 10)).after (newNode · 20)).after (newNode · 30)).after
    (checkedAppend · ⟨1, 0⟩ ⟨2, 0⟩)).after (checkedAppend · ⟨1, 0⟩ ⟨3, 0⟩)

/-- `sampleA` plus a grandchild `4:0` under `2:0`. -/
def sampleB : Arena := (sampleA.after (newNode · 40)).after (checkedAppend · ⟨2, 0⟩ ⟨4, 0⟩)

/-- `sampleB` after `remove(2:0)` (its child `4:0` takes its place) and a `new_node` that reuses
    slot 2 with stamp 1. -/
def sampleC : Arena := (sampleB.after (remove · ⟨2, 0⟩)).after (newNode · 50)

/-- Two nodes: 1 with the only child 2 (ids `1:0`, `2:0`); 1 is parentless. -/
def sampleD : Arena :=
  ((({} : Arena).after (newNode · 10)).after (newNode · 20)).after (checkedAppend · ⟨1, 0⟩ ⟨2, 0⟩)

theorem sampleA_steps : Steps {} sampleA := by
  refine .tail (.tail (.tail (.tail (.tail (.refl _) (.newNode 10 ⟨1, 0⟩ _ rfl)) (.newNode 20 ⟨2, 0⟩ _ rfl))
    (.newNode 30 ⟨3, 0⟩ _ rfl)) (.append ⟨1, 0⟩ ⟨2, 0⟩ (.ok ()) _ ?_ ?_ rfl)) (.append ⟨1, 0⟩ ⟨3, 0⟩ (.ok ()) _ ?_ ?_ rfl)
  all_goals exact liveId_of_isLiveId (by decide)

theorem sampleD_steps : Steps {} sampleD := by
  refine .tail (.tail (.tail (.refl _) (.newNode 10 ⟨1, 0⟩ _ rfl)) (.newNode 20 ⟨2, 0⟩ _ rfl))
    (.append ⟨1, 0⟩ ⟨2, 0⟩ (.ok ()) _ ?_ ?_ rfl)
  all_goals exact liveId_of_isLiveId (by decide)

theorem sampleB_steps : Steps {} sampleB := by
  refine .tail (.tail sampleA_steps (.newNode 40 ⟨4, 0⟩ _ rfl)) (.append ⟨2, 0⟩ ⟨4, 0⟩ (.ok ()) _ ?_ ?_ rfl)
  all_goals exact liveId_of_isLiveId (by decide)

theorem sampleC_steps : Steps {} sampleC := by
  refine .tail (.tail sampleB_steps (.remove ⟨2, 0⟩ _ (liveId_of_isLiveId (by decide)) (Or.inl ⟨_, rfl, rfl⟩) rfl))
    (.newNode 50 ⟨2, 1⟩ _ rfl)

end Arena
end XotModel
