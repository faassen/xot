/-
  Round trip for an ELEMENT start node that is the root of its own tree (a parentless element, e.g.
  the result of `clone_node` / `clone_with_prefixes`): `to_string(element)` writes exactly what
  `to_string` of a document node holding just that element writes, so the text parses back to that
  document (C01_roundtrip_identical); and the same after `create_missing_prefixes(element)`.

  This is the inner-start round trip (Lemmas/InnerStartTokens.lean, InnerStartRoundTrip.lean) at the path
  `[]`: a parentless element inherits nothing but the built-in `xml` binding, which is never a node, so its
  standalone document is the document holding just it (`standalone_root`).
-/
import XotModel.Props.C01
import XotModel.Lemmas.RepairRoundTrip

namespace XotModel
open XotModel.Repair

variable {env : Env}

/-- Below the start node the tokens depend on the top frame only (a case of `serNode_topRel`). -/
theorem serNode_congr (ugt : Bool) (i1 i2 : List (Nat × Nat)) (n : Tree) (s1 s2 : FStack)
    (h : s1.top = s2.top) :
    serNode env ugt i1 false s1 n = serNode env ugt i2 false s2 n :=
  serNode_topRel ugt i1 i2 n s1 s2 (h ▸ TopRel.refl _)

/-- A parentless element inherits nothing but the built-in `xml` binding. -/
theorem inheritedExtra_root (e : Tree) : inheritedExtra (namespacesInScopeChain [e]) e = [] := by
  rw [inheritedExtra, List.filter_eq_nil_iff]
  rintro ⟨p, n⟩ hm
  have hs := (mem_namespacesInScopeChain [e] p n).mp hm
  simp only [scopeSpecChain] at hs
  cases hl : e.nsDecls.lookup p with
  | some m =>
    have : e.declaresPrefix p = true := by
      rw [Tree.declaresPrefix, any_key_iff, ← lookup_isSome_iff_mem_keys, hl]; rfl
    simp only [this, Bool.not_true, Bool.false_and, Bool.false_eq_true, not_false_eq_true]
  | none =>
    rw [hl] at hs
    by_cases hp : (p == Env.xmlPrefix) = true
    · simp only [hp, if_true, Option.some.injEq] at hs
      simp only [isBaseXml, hp, ← hs, beq_self_eq_true, Bool.and_self, Bool.not_true, Bool.and_false,
        Bool.false_eq_true, not_false_eq_true]
    · simp only [hp] at hs
      cases hs

/-- … so its standalone document is the document holding just it. -/
theorem standalone_root (name : Nat) (ks : List Tree) :
    standalone (.node (.element name) ks) [] = some (.node .document [.node (.element name) ks]) := by
  simp only [standalone, Tree.at?, namespacesInScope, Tree.ancestorsOrSelf, Option.map_some, standaloneElement,
    inheritedExtra_root, nsLeaves, List.map_nil, List.nil_append]

/-- **The tokens of a parentless element are the tokens of the document holding just it**: the case
    `q = []` of `serTokensAt_standalone` (the two hypotheses are not needed). -/
theorem serTokensAt_element_root (ugt : Bool) (name : Nat) (ks : List Tree)
    (hnd : ((Tree.node (.element name) ks).nsDecls.map Prod.fst).Nodup)
    (hx : Env.xmlPrefix ∉ (Tree.node (.element name) ks).nsDecls.map Prod.fst) :
    serTokensAt env ugt (.node (.element name) ks) [] =
      serTokensAt env ugt (.node .document [.node (.element name) ks]) [] := by
  obtain ⟨t', h1, h2⟩ := serTokensAt_standalone (env := env) ugt (.node (.element name) ks) [] name ks rfl
  rw [standalone_root, Option.some.injEq] at h1
  rw [h2, h1]

/-- The domain of the element round trip: the document holding just the element is `Representable`
    (tables with the built-in values, `nodeOK` at every node, no repeated `xml:id` value). -/
def RepresentableElement (env : Env) (t : Tree) : Bool :=
  t.value.isElement && Representable env (.node .document [t])

/-- `to_string(element)` of a parentless element IS `to_string(document holding just it)`: same text,
    same error, whatever the token parameters (no CDATA-section elements). -/
theorem serializeString_element_root (pr : TokenParams) (hcd : pr.cdataSectionElements = []) (t : Tree)
    (hel : t.value.isElement = true) (hr : RepresentableFragment env (.node .document [t]) = true) :
    serializeString env pr t [] = serializeString env pr (.node .document [t]) [] := by
  obtain ⟨henv, -, hn, -⟩ := (representableFragment_iff env _).mp hr
  have hx : env.prefixStr Env.xmlPrefix ≠ [] := by rw [envOK_xmlPrefix env henv]; simp
  obtain ⟨name, ks, rfl⟩ := Repair.isElement_node hel
  obtain ⟨t', h1, h2⟩ := serializeString_standalone pr _ [] name ks hx
    (nodeOK_declsNamed env _ (allNodes_kid hn (by simp))) rfl
  rw [standalone_root, Option.some.injEq] at h1
  rw [h2, h1]

theorem toXmlString_element_root (t : Tree) (hel : t.value.isElement = true)
    (hr : RepresentableFragment env (.node .document [t]) = true) :
    toXmlString env t [] = toXmlString env (.node .document [t]) [] := by
  unfold toXmlString
  exact serializeString_element_root {} rfl t hel hr

/-- **Round trip of a parentless element**: if the document holding just the element `t` is
    `Representable` and `to_string(t)` succeeds, then parsing the text gives that document — the
    reparsed tree is `.node .document [t]`, id for id (declarations and prefixes included), the
    interning tables are unchanged, and `deep_equal` answers `true`. -/
theorem roundtrip_element (env : Env) (t : Tree) (hr : Representable env (.node .document [t]) = true)
    (hel : t.value.isElement = true) (s : Str) (hs : serializeString env {} t [] = .ok s) :
    ∃ p, parseString .document env s = .ok p ∧ p.tree = .node .document [t] ∧ p.env = env ∧
      deepEqual p.tree (.node .document [t]) = true := by
  have hfrag := ((representable_iff env _).mp hr).1
  rw [serializeString_element_root {} rfl t hel hfrag] at hs
  exact Props.C01_roundtrip_identical env _ hr s hs

/-- The same from the decidable condition: a parentless representable element every namespaced
    name of which has a usable prefix among its own declarations serialises, and the text parses
    back to the document holding it. -/
theorem roundtrip_element_writable (env : Env) (t : Tree) (hr : RepresentableElement env t = true)
    (hw : namesWritable env (.node .document [t]) [] = some true) :
    ∃ s p, toXmlString env t [] = .ok s ∧ parseString .document env s = .ok p ∧
      p.tree = .node .document [t] ∧ p.env = env ∧ deepEqual p.tree (.node .document [t]) = true := by
  simp only [RepresentableElement, Bool.and_eq_true] at hr
  have hfrag := ((representable_iff env _).mp hr.2).1
  obtain ⟨s, p, h1, h2⟩ := Props.C01_roundtrip_writable env _ hr.2 hw
  exact ⟨s, p, by rw [toXmlString_element_root t hr.1 hfrag]; exact h1, h2⟩

end XotModel

/-! ### After `create_missing_prefixes` on a parentless element

  C10 and the round trip: `create_missing_prefixes` on a PARENTLESS element (a clone, a freshly
  built subtree): the document holding just the repaired element is in the C01 domain, and the
  serialiser's check on the wrapped document is the check on the element itself.
-/

namespace XotModel.Repair
open XotModel

/-- `to_string` finds a prefix for every name of the document holding just `T` iff it does for the
    parentless element `T` serialised on its own. -/
theorem namesWritable_wrap (env : Env) (name : Nat) (ks : List Tree) :
    namesWritable env (.node .document [.node (.element name) ks]) [] =
      namesWritable env (.node (.element name) ks) [] := by
  have h1 := pushTop_inScope_child (.node .document [.node (.element name) ks]) []
  have h2 := pushTop_inScope_child (.node (.element name) ks) []
  rw [nsDecls_document_single] at h1
  simp only [pushTop, List.isEmpty_nil, if_true] at h1
  simp only [namesWritable, Tree.ancestorsOrSelf, Tree.at?, namesWritableChain_eq, h1, Option.some.injEq]
  rw [okRec_other _ _ .document _ rfl]
  simp only [okKids, Bool.and_true, okRec, h2]

theorem stripNs_wrap {a b : Tree} (ha : a.value.isElement = true) (hb : b.value.isElement = true)
    (h : stripNs a = stripNs b) : stripNs (.node .document [a]) = stripNs (.node .document [b]) := by
  have ca : (a.value.category == Category.namespace) = false := by
    cases hv : a.value <;> simp [hv, Value.isElement, Value.category] at ha ⊢
  have cb : (b.value.category == Category.namespace) = false := by
    cases hv : b.value <;> simp [hv, Value.isElement, Value.category] at hb ⊢
  simp only [stripNs, stripNsKids, ca, cb, Bool.false_eq_true, if_false, h]

/-- The call on a parentless element whose one-element document is representable: the repaired
    element's one-element document is representable in the new tables. -/
theorem createMissingPrefixes_root_element_keeps (env : Env) (name : Nat) (ks : List Tree)
    (hr : Representable env (.node .document [.node (.element name) ks]) = true)
    (htab : nameTableOK env = true) (env' : Env) (T' : Tree)
    (h : createMissingPrefixes env (.node (.element name) ks) [] = .ok (env', T')) :
    PrefixExt env env' ∧ Keeps env' T' (.node (.element name) ks) ∧
      Representable env' (.node .document [T']) = true := by
  obtain ⟨he, _, hok⟩ := allNodes_of_representableFragment ((representable_iff env _).mp hr).1
  have hokT : (Tree.node (.element name) ks).allNodes (nodeOK env) = true := allNodes_kid hok List.mem_cons_self
  obtain ⟨e, k⟩ := createMissingPrefixes_element_keeps env he htab _ hokT [] name ks rfl env' T' h
  have hr1 := representable_ext e hr
  obtain ⟨_, _, hok1⟩ := allNodes_of_representableFragment ((representable_iff env' _).mp hr1).1
  have kd : Keeps env' (.node .document [T']) (.node .document [.node (.element name) ks]) :=
    keeps_node .document (.cons k .nil) (nodeOK_of_allNodes hok1)
  exact ⟨e, k, representable_of_keeps hr1 kd⟩

end XotModel.Repair
