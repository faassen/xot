/-
  Extended histories: C06 for every extended call (`Forest.XCall`,
  Model/FhistSpec.lean): an error leaves forest AND interning tables as they were, the only panics
  are the documented ones of `Forest.Call`, no indextree primitive is used outside its list
  semantics; what exactly the composites answer.
-/
import XotModel.Lemmas.FhistExt
import XotModel.Lemmas.FatomAll
import XotModel.Lemmas.FpxDedup

namespace XotModel
namespace Forest

/-- C06 for one extended call with result `r` from state `s`. -/
structure XClauses (s : Store) (r : Store × Res) : Prop where
  atomic : ∀ e, r.2 = .err e → r.1 = s
  noPanic : r.2 ≠ .panic
  notCorrupt : r.1.forest.corrupt = false

/-- The three cases of `create_missing_prefixes` are exhaustive: `Ok`, or one of the two refusals with
    NOTHING changed. -/
theorem fpx_createMissingPrefixes_cases {f : Forest} (hi : f.Inv) (env : Env) (node : Nat) :
    (f.createMissingPrefixes env node).2.2 = .ok ∨
    (f.isDocument node = false ∧ f.isElement node = false ∧
      f.createMissingPrefixes env node = (f, env, .err .notElement)) ∨
    (f.isDocument node = true ∧ (∀ t, f.get? node = some t → ∀ k ∈ t.kids, k.value.isElement = false) ∧
      f.createMissingPrefixes env node = (f, env, .err .noElementAtTopLevel)) := by
  obtain ⟨h1, h2, h3⟩ := fpx_createMissingPrefixes hi env node
  cases hd : f.isDocument node with
  | false =>
    cases he : f.isElement node with
    | false => exact Or.inr (Or.inl ⟨rfl, rfl, h1 hd he⟩)
    | true => exact Or.inl (h3 (Or.inl he))
  | true =>
    by_cases hk : ∃ t k, f.get? node = some t ∧ k ∈ t.kids ∧ k.value.isElement = true
    · exact Or.inl (h3 (Or.inr ⟨hd, hk⟩))
    · have hno : ∀ t, f.get? node = some t → ∀ k ∈ t.kids, k.value.isElement = false := by
        intro t hg k hkm
        cases hv : k.value.isElement with
        | false => rfl
        | true => exact absurd ⟨t, k, hg, hkm, hv⟩ hk
      exact Or.inr (Or.inr ⟨rfl, hno, h2 hd hno⟩)

/-- The insertion loop of `clone_with_prefixes` on an ELEMENT of a forest with the invariant runs to its
    end: every `namespaces_mut(clone).insert` answers `Ok`. -/
theorem addPrefixes_ok : ∀ (order : List (Nat × Nat)) {f : Forest}, f.Inv → ∀ c : Nat,
    f.isElement c = true → (f.addPrefixes c order).2 = .ok
  | [], _, _, _, _ => rfl
  | (p, ns) :: rest, f, hi, c, he => by
    unfold addPrefixes
    split
    · exact addPrefixes_ok rest hi c he
    · obtain ⟨h1, h2, h3⟩ := fpx_call_ok hi (c := .mapInsert .namespaces c (.namespace p ns)) he
      change (f.mapInsert .namespaces c (.namespace p ns)).2 = .ok at h1
      change (f.mapInsert .namespaces c (.namespace p ns)).1.Inv at h2
      change ∀ x, (f.mapInsert .namespaces c (.namespace p ns)).1.isElement x = f.isElement x at h3
      rcases hm : f.mapInsert .namespaces c (.namespace p ns) with ⟨f', r⟩
      rw [hm] at h1 h2 h3
      simp only at h1 h2 h3
      subst h1
      exact addPrefixes_ok rest h2 c (by rw [h3]; exact he)

/-- `clone_with_prefixes` of a live node returns a node: `clone_node` does (`cloneNode_spec`), and the
    insertions are made on the clone only if it is an element. -/
theorem cloneWithPrefixes_isSome {f : Forest} (hi : f.Inv) {node : Nat} (hl : f.isLive node = true)
    (order : List (Nat × Nat)) : (f.cloneWithPrefixes node order).2.isSome = true := by
  have h0 := (cloneNode_spec hi hl).1
  have h1 : (f.cloneNode node).1.Inv := step_inv hi (.cloneNode node) rfl
  unfold cloneWithPrefixes
  rcases hc : f.cloneNode node with ⟨f1, oc⟩
  rw [hc] at h0 h1
  cases oc with
  | none => exact absurd rfl h0
  | some c =>
    simp only
    split
    · rename_i he
      have h2 := addPrefixes_ok order h1 c he
      rcases ha : f1.addPrefixes c order with ⟨f2, r⟩
      rw [ha] at h2
      simp only at h2
      subst h2
      rfl
    · rfl

/-- What the steps that are not calls of `Forest.Call` answer, exactly: node creation,
    `set_text_consolidation`, `remove_insignificant_whitespace` and `deduplicate_namespaces` answer
    `Ok` for EVERY argument (live or not); `clone_with_prefixes` answers `Ok` on a live node;
    `create_missing_prefixes` answers `Ok` or refuses with `NotElement` (node neither element nor
    document) / `NoElementAtTopLevel` (document without element child) — for every argument, live or
    not — with forest and interning tables returned as they were. -/
theorem xcall_outcomes {s : Store} (hi : s.forest.Inv) :
    (∀ v, ((XCall.newNode v).run s).2 = .ok) ∧
    (∀ b, ((XCall.setConsolidation b).run s).2 = .ok) ∧
    (∀ n, ((XCall.removeInsignificantWhitespace n).run s).2 = .ok) ∧
    (∀ n, ((XCall.deduplicateNamespaces n).run s).2 = .ok ∧
      ((XCall.deduplicateNamespaces n).run s).1.env = s.env) ∧
    (∀ n order, s.forest.isLive n = true → ((XCall.cloneWithPrefixes n order).run s).2 = .ok ∧
      ((XCall.cloneWithPrefixes n order).run s).1.env = s.env) ∧
    (∀ n, ((XCall.createMissingPrefixes n).run s).2 = .ok ∨
      (s.forest.isDocument n = false ∧ s.forest.isElement n = false ∧
        (XCall.createMissingPrefixes n).run s = (s, .err .notElement)) ∨
      (s.forest.isDocument n = true ∧
        (∀ t, s.forest.get? n = some t → ∀ k ∈ t.kids, k.value.isElement = false) ∧
        (XCall.createMissingPrefixes n).run s = (s, .err .noElementAtTopLevel))) := by
  refine ⟨fun _ => rfl, fun _ => rfl, fun _ => rfl,
    fun n => ⟨(fpx_deduplicateNamespaces hi s.env n).1, rfl⟩, fun n order hl => ⟨?_, rfl⟩, fun n => ?_⟩
  · show (if (s.forest.cloneWithPrefixes n order).2.isSome then Res.ok else Res.panic) = .ok
    rw [cloneWithPrefixes_isSome hi hl order]; rfl
  · rcases fpx_createMissingPrefixes_cases hi s.env n with h1 | ⟨h0, h0', h1⟩ | ⟨h0, h0', h1⟩
    · exact Or.inl h1
    · refine Or.inr (Or.inl ⟨h0, h0', ?_⟩)
      show ((⟨(s.forest.createMissingPrefixes s.env n).1, (s.forest.createMissingPrefixes s.env n).2.1⟩ : Store),
        (s.forest.createMissingPrefixes s.env n).2.2) = _
      rw [h1]
    · refine Or.inr (Or.inr ⟨h0, h0', ?_⟩)
      show ((⟨(s.forest.createMissingPrefixes s.env n).1, (s.forest.createMissingPrefixes s.env n).2.1⟩ : Store),
        (s.forest.createMissingPrefixes s.env n).2.2) = _
      rw [h1]

theorem XClauses.of_ok {s : Store} {r : Store × Res} (h : r.2 = .ok)
    (hc : r.1.forest.corrupt = false) : XClauses s r :=
  ⟨fun e he => (by rw [h] at he; cases he), fun hp => (by rw [h] at hp; cases hp), hc⟩

/-- The three clauses, or the documented panic with nothing changed: the calls of `Forest.Call` by
    `call_ran`, the other steps by what they answer (`xcall_outcomes`). -/
theorem xcall_clauses {s : Store} (hi : s.forest.Inv) (c : XCall) (hl : c.liveArgs s.forest) :
    (c.documentedPanic s.forest = false ∧ XClauses s (c.run s)) ∨
    (c.documentedPanic s.forest = true ∧ c.run s = (s, .panic)) := by
  obtain ⟨o1, o2, o3, o4, o5, o6⟩ := xcall_outcomes hi
  cases c with
  | call c =>
    have h := call_ran hi c hl
    cases hp : c.documentedPanic s.forest with
    | false =>
      refine Or.inl ⟨hp, ⟨fun e he => ?_, fun hpan => ?_, h.corrupt.trans hi.notCorrupt⟩⟩
      · show (⟨(c.run s.forest).1, s.env⟩ : Store) = s
        rw [h.atomic he]
      · rw [(h.panic hpan).1] at hp; cases hp
    | true =>
      refine Or.inr ⟨hp, ?_⟩
      show ((⟨(c.run s.forest).1, s.env⟩ : Store), (c.run s.forest).2) = (s, .panic)
      rw [h.panics hp]
  | newNode v => exact Or.inl ⟨rfl, .of_ok (o1 v) (Fcreation.newNode_inv hi v).notCorrupt⟩
  | setConsolidation b => exact Or.inl ⟨rfl, .of_ok (o2 b) (setConsolidation_inv hi b).notCorrupt⟩
  | removeInsignificantWhitespace n =>
    exact Or.inl ⟨rfl, .of_ok (o3 n) (removeInsignificantWhitespace_inv hi n).notCorrupt⟩
  | deduplicateNamespaces n =>
    exact Or.inl ⟨rfl, .of_ok (o4 n).1 (deduplicateNamespaces_inv hi s.env n).notCorrupt⟩
  | cloneWithPrefixes n order =>
    exact Or.inl ⟨rfl, .of_ok (o5 n order (hl n (by simp [XCall.args]))).1
      (cloneWithPrefixes_inv hi n order).notCorrupt⟩
  | createMissingPrefixes n =>
    refine Or.inl ⟨rfl, ?_⟩
    rcases o6 n with h | ⟨-, -, h⟩ | ⟨-, -, h⟩
    · exact .of_ok h (createMissingPrefixes_inv hi s.env n).notCorrupt
    · rw [h]; exact ⟨fun _ _ => rfl, fun hp => (by cases hp), hi.notCorrupt⟩
    · rw [h]; exact ⟨fun _ _ => rfl, fun hp => (by cases hp), hi.notCorrupt⟩

end Forest
end XotModel
