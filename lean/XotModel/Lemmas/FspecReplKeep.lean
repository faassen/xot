/-
  C05 for `replace`: which survivor rule applies (`Spec.replaceKeep`).
-/
import XotModel.Lemmas.BasicFacts
import XotModel.Lemmas.FspecReplArgs
import XotModel.Model.FspecSpec2

namespace XotModel
open HTree Spec

namespace ReplArgs
variable {f : Forest} {a b q : Nat} {vq : Value} {l : List HTree} {A : HTree} {r : List HTree} {t : HTree}

theorem catA (h : ReplArgs f a b q vq l A r t) : A.value.category = .normal :=
  isNormal_iff.1 h.hAn

theorem catT (h : ReplArgs f a b q vq l A r t) : t.value.category = .normal :=
  isNormal_iff.1 h.htn

theorem adjacentTo_eq (h : ReplArgs f a b q vq l A r t) :
    adjacentTo f a b = ((l.getLast?.map (·.handle)) == some b || (r.head?.map (·.handle)) == some b) := by
  unfold adjacentTo
  rw [h.ctx_a]

theorem prevOf_iff (h : ReplArgs f a b q vq l A r t) :
    prevOf l A = some b ↔ (l.getLast?.map (·.handle)) = some b := by
  unfold prevOf
  cases hl : l.getLast? with
  | none => simp
  | some x =>
    simp only [Option.map_some, Option.some.injEq]
    constructor
    · intro e
      split at e
      · exact Option.some.inj e
      · cases e
    · intro e
      have hx : x ∈ l ++ A :: r := List.mem_append_left _ (List.mem_of_getLast? hl)
      have := h.kid_eq hx e
      subst this
      rw [h.catT, h.catA]
      simp [e]

theorem nextOf_iff (h : ReplArgs f a b q vq l A r t) :
    nextOf r A = some b ↔ (r.head?.map (·.handle)) = some b := by
  unfold nextOf
  cases hr : r.head? with
  | none => simp
  | some x =>
    simp only [Option.map_some, Option.some.injEq]
    constructor
    · intro e
      split at e
      · exact Option.some.inj e
      · cases e
    · intro e
      have hx : x ∈ l ++ A :: r :=
        List.mem_append_right _ (List.mem_cons_of_mem _ (List.mem_of_mem_head? hr))
      have := h.kid_eq hx e
      subst this
      rw [h.catT, h.catA]
      simp [e]

/-- Next to the replaced node: the call is `remove`, the earlier node of a merged pair survives. -/
theorem keep_adjacent (h : ReplArgs f a b q vq l A r t) (hadj : prevOf l A = some b ∨ nextOf r A = some b) :
    replaceKeep f a b = Keep.earlier := by
  unfold replaceKeep
  rw [h.adjacentTo_eq]
  rcases hadj with e | e
  · rw [h.prevOf_iff.1 e]; simp
  · rw [h.nextOf_iff.1 e]; simp

/-- Elsewhere: the replacing node is moved and never survives a merge. -/
theorem keep_moved (h : ReplArgs f a b q vq l A r t) (h1 : prevOf l A ≠ some b) (h2 : nextOf r A ≠ some b) :
    replaceKeep f a b = Keep.resident b := by
  unfold replaceKeep
  rw [h.adjacentTo_eq]
  have e1 : ((l.getLast?.map (·.handle)) == some b) = false := by
    cases hh : (l.getLast?.map (·.handle)) == some b with
    | false => rfl
    | true => exact absurd (h.prevOf_iff.2 (by simpa using hh)) h1
  have e2 : ((r.head?.map (·.handle)) == some b) = false := by
    cases hh : (r.head?.map (·.handle)) == some b with
    | false => rfl
    | true => exact absurd (h.nextOf_iff.2 (by simpa using hh)) h2
  rw [e1, e2]
  rfl

end ReplArgs
end XotModel
