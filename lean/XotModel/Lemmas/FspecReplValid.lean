/-
  Validity through one edit, for the intermediate forests of `replace`
  (`remove_subtree(a)`; `insert_after(previous, b)` or `prepend(parent, b)`):

  * `validTree_drop_mid`, `SiteAt.valid_edit`: a node stays valid when one child is dropped, and
    a forest when one child list is replaced by a list valid in its place;
  * `cleanT` / `cleanL`: no node has two adjacent text children; strictly valid trees are clean, subtrees
    of clean trees are clean, and one edit whose result has no adjacent text keeps a tree clean.
    (That a move keeps distinct handles and the absence of adjacent text is `Prog.specMove_inv`,
    `Prog.specMove_normal`; for `insert_after` and `prepend` at the end of `SpecSideMove.lean`.)
-/
import XotModel.Lemmas.BasicFacts
import XotModel.Lemmas.FmapNode
import XotModel.Lemmas.FspecMapUpd
import XotModel.Lemmas.FspecReplArgs

namespace XotModel
open HTree Spec

/-! ### Validity after the raw removal of one child -/

theorem sublist_drop_mid (l : List HTree) (A : HTree) (r : List HTree) : (l ++ r).Sublist (l ++ A :: r) :=
  (List.Sublist.refl l).append (List.sublist_cons_self A r)

theorem keysUnique_sublist {c : Category} {ks ks' : List HTree} (hs : ks'.Sublist ks)
    (h : keysUnique c ks = true) : keysUnique c ks' = true := by
  simp only [keysUnique, decide_eq_true_eq] at h ⊢
  exact ((hs.filter _).map _).nodup h

theorem kidsOrdered_sublist {ks ks' : List HTree} (hs : ks'.Sublist ks)
    (h : kidsOrdered ks = true) : kidsOrdered ks' = true :=
  (Fmap.kidsOrdered_iff ks').2 (((Fmap.kidsOrdered_iff ks).1 h).sublist hs)

theorem validTree_drop_mid {b : Bool} {q : Nat} {vq : Value} {l : List HTree} {A : HTree} {r : List HTree}
    (hv : validTree b (.node q vq (l ++ A :: r)) = true)
    (hng : b = true → ∀ x y, l.getLast? = some x → r.head? = some y →
      ¬ (x.value.isText = true ∧ y.value.isText = true)) :
    validTree b (.node q vq (l ++ r)) = true := by
  have hs := sublist_drop_mid l A r
  simp only [validTree, Bool.and_eq_true, Bool.or_eq_true, Bool.not_eq_true'] at hv ⊢
  obtain ⟨⟨⟨⟨⟨h1, h2⟩, h3⟩, h4⟩, h5⟩, h6⟩ := hv
  refine ⟨⟨⟨⟨⟨?_, kidsOrdered_sublist hs h2⟩, keysUnique_sublist hs h3⟩, keysUnique_sublist hs h4⟩, ?_⟩, ?_⟩
  · rw [List.all_eq_true] at h1 ⊢
    exact fun k hk => h1 k (hs.subset hk)
  · cases b with
    | false => exact Or.inl rfl
    | true =>
      right
      cases h5 with
      | inl h => cases h
      | inr h =>
        obtain ⟨a1, a2, _⟩ := noAdj_append.1 h
        exact noAdj_append.2 ⟨a1, noAdj_tail a2, hng rfl⟩
  · rw [Fmap.validList_append] at h6 ⊢
    rw [validList_cons] at h6
    simp only [Bool.and_eq_true] at h6 ⊢
    exact ⟨h6.1, h6.2.2⟩

theorem SiteAt.valid_edit {f : Forest} {q : Nat} {vq : Value} {L : List HTree} (s : SiteAt f q vq L)
    (g : List HTree → List HTree) {b : Bool} (hv : validList b f.roots = true)
    (hnew : validTree b (.node q vq (g L)) = true) :
    validList b (f.editAt (some q) g).roots = true := by
  rw [s.editAt_eq_withKids]
  exact Fmap.validList_withKids b q vq L (g L) hnew f.roots s.nd s.kids hv

/-! ### No adjacent text nodes anywhere -/

mutual
  /-- No node of the subtree has two adjacent text children. -/
  def cleanT : HTree → Bool
    | .node _ _ ks => noAdjacentText ks && cleanL ks
  def cleanL : List HTree → Bool
    | [] => true
    | k :: ks => cleanT k && cleanL ks
end

theorem cleanT_node (h : Nat) (v : Value) (ks : List HTree) :
    cleanT (.node h v ks) = (noAdjacentText ks && cleanL ks) := by simp [cleanT]

theorem cleanL_nil : cleanL [] = true := by simp [cleanL]

theorem cleanL_cons (k : HTree) (ks : List HTree) : cleanL (k :: ks) = (cleanT k && cleanL ks) := by
  simp [cleanL]

mutual
  theorem cleanT_of_valid : ∀ t : HTree, validTree true t = true → cleanT t = true
    | .node h v ks => by
      intro hv
      obtain ⟨_, _, h3, h4⟩ := validTree_node hv
      rw [cleanT_node, Bool.and_eq_true]
      exact ⟨h3 rfl, cleanL_of_valid ks h4⟩
  theorem cleanL_of_valid : ∀ ks : List HTree, validList true ks = true → cleanL ks = true
    | [] => fun _ => cleanL_nil
    | k :: ks => by
      intro hv
      rw [validList_cons, Bool.and_eq_true] at hv
      rw [cleanL_cons, Bool.and_eq_true]
      exact ⟨cleanT_of_valid k hv.1, cleanL_of_valid ks hv.2⟩
end

mutual
  theorem cleanT_find {x : Nat} : ∀ (t u : HTree), cleanT t = true → find? x t = some u → cleanT u = true
    | .node h v ks, u => by
      intro hc e
      rw [find?_node] at e
      by_cases hh : h = x
      · rw [if_pos hh] at e
        cases e
        exact hc
      · rw [if_neg hh] at e
        rw [cleanT_node, Bool.and_eq_true] at hc
        exact cleanL_find ks u hc.2 e
  theorem cleanL_find {x : Nat} : ∀ (ks : List HTree) (u : HTree), cleanL ks = true → findList? x ks = some u →
      cleanT u = true
    | [], u => by intro _ e; rw [findList?_nil] at e; cases e
    | k :: ks, u => by
      intro hc e
      rw [cleanL_cons, Bool.and_eq_true] at hc
      cases hk : find? x k with
      | some t =>
        rw [findList?_cons_some hk] at e
        cases e
        exact cleanT_find k _ hc.1 hk
      | none =>
        rw [findList?_cons_none hk] at e
        exact cleanL_find ks u hc.2 e
end

/-! ### One edit whose result has no adjacent text keeps the tree clean -/

mutual
  theorem cleanT_editAt {s : Nat} {G : List HTree → List HTree}
      (hG : ∀ L, cleanL L = true → cleanL (G L) = true ∧ noAdjacentText (G L) = true) :
      ∀ t : HTree, cleanT t = true → cleanT (HTree.editAt s G t) = true
    | .node h v ks => by
      intro hc
      rw [cleanT_node, Bool.and_eq_true] at hc
      rw [editAt_node]
      by_cases hh : h = s
      · rw [if_pos hh, cleanT_node, Bool.and_eq_true]
        exact ⟨(hG ks hc.2).2, (hG ks hc.2).1⟩
      · rw [if_neg hh, cleanT_node, Bool.and_eq_true, noAdj_map (kidMap_editAt s G)]
        exact ⟨hc.1, cleanL_editAt hG ks hc.2⟩
  theorem cleanL_editAt {s : Nat} {G : List HTree → List HTree}
      (hG : ∀ L, cleanL L = true → cleanL (G L) = true ∧ noAdjacentText (G L) = true) :
      ∀ ks : List HTree, cleanL ks = true → cleanL (ks.map (HTree.editAt s G)) = true
    | [] => fun h => h
    | k :: ks => by
      intro hc
      rw [cleanL_cons, Bool.and_eq_true] at hc
      rw [List.map_cons, cleanL_cons, cleanT_editAt hG k hc.1, cleanL_editAt hG ks hc.2]; rfl
end

theorem Forest.mergeAt_consolidation (f : Forest) (keep : Keep) (s : Option Nat) :
    (f.mergeAt keep s).consolidation = f.consolidation := by
  cases s with
  | none => rfl
  | some p =>
    rw [mergeAt_some]
    split
    · exact Forest.editAt_consolidation _ _ _
    · rfl

/-! ### Non-vacuity -/

/-- `<e0>a<e2/><!--c-->d</e0>` (children: text 1, element 2, comment 3, text 4) and a parentless
    text node 5. -/
def replValidWitness : Forest :=
  { roots := [.node 0 (.element 5) [.node 1 (.text ['a']) [], .node 2 (.element 6) [],
                .node 3 (.comment ['c']) [], .node 4 (.text ['d']) []],
              .node 5 (.text ['b']) []], next := 6 }

/-- A forest with `Inv` and `Normal` and a child whose two neighbours are not both text: the
    element 2 (between the text 1 and the comment 3). -/
example : ∃ (f : Forest) (q : Nat) (vq : Value) (l : List HTree) (A : HTree) (r : List HTree),
    f.Inv ∧ f.Normal ∧ SiteAt f q vq (l ++ A :: r) ∧
    (f.consolidation = true → ∀ x y, l.getLast? = some x → r.head? = some y →
      ¬ (x.value.isText = true ∧ y.value.isText = true)) :=
  ⟨replValidWitness, 0, .element 5, [.node 1 (.text ['a']) []], .node 2 (.element 6) [],
    [.node 3 (.comment ['c']) [], .node 4 (.text ['d']) []],
    (Forest.inv_iff _).1 (by decide +kernel), fun _ => by decide +kernel, ⟨by decide +kernel, by decide +kernel⟩,
    fun _ x y hx hy => by cases hx; cases hy; decide⟩

/-- The hypotheses of `insertAfter_nodup` / `insertAfter_noAdj` (Lemmas/SpecSideMove.lean, which imports this file:
    invariant, `Normal`, an `ok` answer) are satisfiable: `insert_after(1, 5)` succeeds on the witness. -/
example : replValidWitness.Inv ∧ replValidWitness.Normal ∧ (replValidWitness.insertAfter 1 5).2 = .ok :=
  ⟨(Forest.inv_iff _).1 (by decide +kernel), fun _ => by decide +kernel, by decide +kernel⟩

/-- The same, evaluated: the forest after the raw removal of 2 satisfies the invariant; the text 5
    is merged into the text 1 by `insert_after(1, 5)`, and the final consolidation of 1 with its
    next sibling does nothing. -/
example :
    replValidWitness.inv = true ∧ validList true replValidWitness.roots = true ∧
    (replValidWitness.editAt (some 0) (dropTop 2)).inv = true ∧
    validList true (replValidWitness.editAt (some 0) (dropTop 2)).roots = true ∧
    (replValidWitness.insertAfter 1 5).2 = .ok ∧
    (replValidWitness.insertAfter 1 5).1.value? 1 = some (.text ['a', 'b']) ∧
    (replValidWitness.insertAfter 1 5).1.nextSibling 1 = some 2 ∧
    ((replValidWitness.insertAfter 1 5).1.removeConsolidate (some 1)
      ((replValidWitness.insertAfter 1 5).1.nextSibling 1)).2 = false := by
  decide +kernel

end XotModel
