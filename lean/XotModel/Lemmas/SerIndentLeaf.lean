/-
  C14_indent_leaf_start: `serialize_xml_string` with indentation for a start node that is a comment, a
  processing instruction or a text node, anywhere in any tree, and what `parse_fragment` reads that output as.
-/
import XotModel.Model.XmlDecl
import XotModel.Lemmas.Doctype
import XotModel.Lemmas.XmlDeclRest
import XotModel.Lemmas.SerOptMain

/-! ## What is written

  `gen_outputs(node)` is the single event of the node; `Pretty::new` starts with the empty stack, so
  `prettify` answers `(get_indentation(), get_newline()) = (0, true)` for `Comment` / `ProcessingInstruction`
  and `(0, false)` for `Text`: the comment and the PI get one line feed behind, the text node nothing.
  (`leafText` is specification vocabulary, not a model of Rust code.)
-/

namespace XotModel
open Gen

/-- Comment, processing instruction or text. -/
def Value.isLeafStart : Value → Bool
  | .comment _ => true
  | .pi _ _ => true
  | .text _ => true
  | _ => false

/-- What `render_output` answers for the single event of a comment / PI / text node whose parent is
    `parent`: the token text, or the error. -/
def leafText (esc : Escapers) (env : Env) (pr : TokenParams) (parent : Option Tree) : Value → Outcome XotError Str
  | .comment c => .ok (fmt fmtComment [c])
  | .pi target data =>
    if !(env.namespaceStr (env.nsOfName target)).isEmpty then .err .namespaceInProcessingInstruction
    else match data with
      | some d => .ok (fmt fmtPiData [env.localName target, d])
      | none => .ok (fmt fmtPi [env.localName target])
  | .text s => if isCdataElement pr parent then .ok (esc.cdata s) else .ok (esc.txt pr.unescapedGt s)
  | _ => .ok []

/-- The line feed `serialize_pretty` writes behind a comment / PI start node; nothing behind a text node. -/
def leafNewline : Value → Str
  | .comment _ => prettyNewline
  | .pi _ _ => prettyNewline
  | _ => []

/-- Append to a successful outcome. -/
def Outcome.appendOk {ε : Type} (r : Outcome ε Str) (x : Str) : Outcome ε Str :=
  match r with
  | .ok s => .ok (s ++ x)
  | .err e => .err e
  | .panic => .panic

theorem genOutputs_leaf (t : Tree) (start : Path) (v : Value) (hat : t.at? start = some (.node v []))
    (hv : v.isLeafStart = true) :
    ∃ o, genOutputs t start = [(start, o)] ∧ openingEvent (.node v []) = some o := by
  obtain ⟨rest, hr⟩ := namespacesInScope_of_at? t start _ hat
  cases v <;> first | cases hv | skip
  all_goals
    exact ⟨_, by simp [genOutputs_eq_genNode hat hr, genNode, genNode.genKids, edgeStart, edgeEnd,
      Tree.value, Value.isNormal, Value.category], rfl⟩

namespace Ser

/-- `render_output` on the one event of a comment / PI / text node: the stack is untouched, the token has no
    leading space and its text is `leafText`. -/
theorem renderAt_leaf (esc : Escapers) (env : Env) (pr : TokenParams) (t : Tree) (s : FStack) (start : Path)
    (v : Value) (o : Output) (hat : t.at? start = some (.node v [])) (hv : v.isLeafStart = true)
    (ho : openingEvent (.node v []) = some o) :
    renderAtWith esc env pr t s start o =
      (match leafText esc env pr (t.parentAt? start) v with
       | .ok w => .ok (s, ⟨false, w⟩)
       | .err e => .err e
       | .panic => .panic) := by
  simp only [renderAtWith, hat]
  cases v <;> first | cases hv | skip
  all_goals cases ho
  · by_cases hc : isCdataElement pr (t.parentAt? start) = true <;> simp [renderXmlWith, leafText, hc]
  · rename_i tg d
    by_cases hn : (env.namespaceStr (env.nsOfName tg)).isEmpty = true
    · cases d <;> simp [renderXmlWith, leafText, hn]
    · simp [renderXmlWith, leafText, hn]
  · rfl

/-- `Pretty::new` starts with the empty stack: `(get_indentation(), get_newline()) = (0, true)` for a comment or
    a PI, `(0, false)` for a text node. -/
theorem prettify_leaf (sup : List Nat) (n : Tree) (v : Value) (o : Output) (hv : v.isLeafStart = true)
    (ho : openingEvent (.node v []) = some o) :
    ∃ nl, prettify sup [] n o = ([], 0, nl) ∧ (if nl then prettyNewline else []) = leafNewline v := by
  cases v <;> first | cases hv | skip
  all_goals
    cases ho
    exact ⟨_, rfl, rfl⟩

end Ser

/-- **Plain output** of a comment / PI / text start node: the one token. -/
theorem serializeString_leaf (esc : Escapers) (env : Env) (pr : TokenParams) (t : Tree) (start : Path) (v : Value)
    (hat : t.at? start = some (.node v [])) (hv : v.isLeafStart = true) :
    serializeStringWith esc env pr t start = leafText esc env pr (t.parentAt? start) v := by
  obtain ⟨o, hg, ho⟩ := genOutputs_leaf t start v hat hv
  simp only [serializeStringWith, serializeWriteWith, hg, writeGoWith, Ser.renderAt_leaf esc env pr t _ start v o hat hv ho]
  cases leafText esc env pr (t.parentAt? start) v <;> simp [bufferToString, tokenBytes]

/-- **Indented output** of a comment / PI / text start node: the same token, plus one line feed behind a
    comment or a PI. -/
theorem serializePretty_leaf (esc : Escapers) (env : Env) (pr : TokenParams) (sup : List Nat) (t : Tree)
    (start : Path) (v : Value) (hat : t.at? start = some (.node v [])) (hv : v.isLeafStart = true) :
    serializePrettyWith esc env pr sup t start =
      (leafText esc env pr (t.parentAt? start) v).appendOk (leafNewline v) := by
  obtain ⟨o, hg, ho⟩ := genOutputs_leaf t start v hat hv
  obtain ⟨nl, hp, hnl⟩ := Ser.prettify_leaf sup (.node v []) v o hv ho
  simp only [serializePrettyWith, serializePrettyWriteWith, hg, writePrettyGoWith, prettifyAt, hat, hp,
    Ser.renderAt_leaf esc env pr t _ start v o hat hv ho]
  cases leafText esc env pr (t.parentAt? start) v <;> simp [bufferToString, tokenBytes, Outcome.appendOk, hnl]

namespace Ser

theorem appendOk_nil {ε : Type} (r : Outcome ε Str) : r.appendOk [] = r := by
  cases r <;> simp [Outcome.appendOk]

end Ser

/-- **`serialize_xml_string` on a comment / PI / text start node**, every parameter set:
    with a doctype the call answers `NotElement`; otherwise declaration ++ token (++ line feed when indenting
    and the node is a comment or PI). -/
theorem serializeXmlString_leaf (esc : Escapers) (env : Env) (p : XmlParams) (t : Tree) (start : Path) (v : Value)
    (hat : t.at? start = some (.node v [])) (hv : v.isLeafStart = true) :
    serializeXmlStringWith esc env p t start =
      (match p.doctype with
       | some _ => .err .notElement
       | none =>
         Outcome.prependOk p.declBytes
           ((leafText esc env p.tokenParams (t.parentAt? start) v).appendOk
             (match p.indentation with
              | some _ => leafNewline v
              | none => []))) := by
  cases hdt : p.doctype with
  | some d =>
    have hname : doctypeName env t start = .err .notElement := by
      cases v <;> simp [Value.isLeafStart] at hv <;> simp [doctypeName, hat, Tree.value]
    simp [serializeXmlStringWith, serializeXmlWriteWith, hdt, hname, bufferToString]
  | none =>
    rw [Ser.serializeXmlString_noDoctype esc env p t start hdt]
    cases p.indentation with
    | none => simp only [serializeString_leaf esc env _ t start v hat hv, Ser.appendOk_nil]
    | some sup => simp only [serializePretty_leaf esc env _ sup t start v hat hv]

end XotModel

/-! ## What `parse_fragment` reads

  The output IS the plain serialisation of the fragment `leafFragment v`
  (`D [ node, T "\n" ]` for a comment or a PI, `D [ node ]` for a text node), which is in the C01 fragment domain
  as soon as the tables are sane and the node's own value is in the XML domain.
-/

namespace XotModel
open Gen

/-- The fragment the indented output of the start node is read as (specification side). -/
def leafFragment (v : Value) : Tree :=
  match v with
  | .text _ => .node .document [.node v []]
  | _ => .node .document [.node v [], .node (.text prettyNewline) []]

theorem serializeText_newline (b : Bool) : serializeText b prettyNewline = prettyNewline := by
  cases b <;> decide

/-- The plain serialisation of `leafFragment v` is the token of `v` plus the line feed of `leafNewline`
    (a text node directly under a document node is never in a CDATA-section element: `parent = none` says the
    same). -/
theorem serializeString_leafFragment (env : Env) (pr : TokenParams) (v : Value) (hv : v.isLeafStart = true) :
    serializeString env pr (leafFragment v) [] = (leafText xmlEscapers env pr none v).appendOk (leafNewline v) := by
  cases v <;> simp [Value.isLeafStart] at hv
  · -- text
    rename_i s
    have hg : genOutputs (.node .document [.node (.text s) []]) [] = [([0], .text s)] := by
      simp [genOutputs, Tree.at?, namespacesInScope, Tree.ancestorsOrSelf, genNode, genNode.genKids,
        edgeStart, edgeEnd, Tree.value, Value.isNormal, Value.category]
    simp only [leafFragment]
    simp [serializeString, serializeStringWith, serializeWriteWith, hg, writeGoWith, renderAtWith, leafFragment,
      Tree.at?, Tree.parentAt?, renderXmlWith, isCdataElement, Tree.value, bufferToString, tokenBytes, leafText,
      Outcome.appendOk, leafNewline, Tree.kids]
  · -- pi
    rename_i tg d
    have hg : genOutputs (.node .document [.node (.pi tg d) [], .node (.text prettyNewline) []]) [] =
        [([0], .pi tg d), ([1], .text prettyNewline)] := by
      simp [genOutputs, Tree.at?, namespacesInScope, Tree.ancestorsOrSelf, genNode, genNode.genKids,
        edgeStart, edgeEnd, Tree.value, Value.isNormal, Value.category]
    by_cases hn : (env.namespaceStr (env.nsOfName tg)).isEmpty = true
    · simp only [leafFragment]
      cases d <;>
        simp [serializeString, serializeStringWith, serializeWriteWith, hg, writeGoWith, renderAtWith,
          Tree.at?, Tree.parentAt?, renderXmlWith, isCdataElement, Tree.value, bufferToString, tokenBytes, leafText,
          Outcome.appendOk, leafNewline, Tree.kids, hn, xmlEscapers, serializeText_newline]
    · simp only [leafFragment]
      simp [serializeString, serializeStringWith, serializeWriteWith, hg, writeGoWith, renderAtWith, leafFragment,
        Tree.at?, Tree.parentAt?, renderXmlWith, Tree.value, bufferToString, leafText,
        Outcome.appendOk, Tree.kids, hn]
  · -- comment
    rename_i c
    have hg : genOutputs (.node .document [.node (.comment c) [], .node (.text prettyNewline) []]) [] =
        [([0], .comment c), ([1], .text prettyNewline)] := by
      simp [genOutputs, Tree.at?, namespacesInScope, Tree.ancestorsOrSelf, genNode, genNode.genKids,
        edgeStart, edgeEnd, Tree.value, Value.isNormal, Value.category]
    simp only [leafFragment]
    simp [serializeString, serializeStringWith, serializeWriteWith, hg, writeGoWith, renderAtWith, leafFragment,
      Tree.at?, Tree.parentAt?, renderXmlWith, isCdataElement, Tree.value, bufferToString, tokenBytes, leafText,
      Outcome.appendOk, leafNewline, Tree.kids, xmlEscapers, serializeText_newline]

namespace Ser

theorem nodeOK_nil (env : Env) (v : Value) : nodeOK env v [] = valueOK env v := by
  simp [nodeOK, OrderedKids, KindsOk, UniqueKids, attrNames, nsPrefixes, noAdjText]

end Ser

theorem representableFragment_leafFragment (env : Env) (v : Value) (hv : v.isLeafStart = true)
    (henv : envOK env = true) (hval : valueOK env v = true) :
    RepresentableFragment env (leafFragment v) = true := by
  have hnl : valueOK env (.text prettyNewline) = true := by simp [valueOK]; decide
  have hdoc : ∀ ks, nodeOK env .document ks = true →
      (Tree.node .document ks).allNodes (nodeOK env) = Tree.allNodes.allList (nodeOK env) ks := by
    intro ks h
    simp only [Tree.allNodes, h, Bool.true_and]
  cases v <;> first | cases hv | skip
  all_goals
    simp only [RepresentableFragment, leafFragment, henv, Tree.value, Value.isDocument, Bool.true_and]
    -- the document node over one or two childless normal nodes, the first not a text node: by evaluation
    rw [hdoc _ rfl]
    simp only [Tree.allNodes.allList, Tree.allNodes, Ser.nodeOK_nil, hval, hnl, Bool.true_and]
    rfl

/-- `parentAt?` under which the token of a text node is `serialize_text` (not a CDATA section); always true for a
    comment or a PI. -/
def leafPlainParent (pr : TokenParams) (parent : Option Tree) (v : Value) : Bool :=
  !(v.isText && isCdataElement pr parent)

theorem leafText_parent (esc : Escapers) (env : Env) (pr : TokenParams) (parent : Option Tree) (v : Value)
    (h : leafPlainParent pr parent v = true) : leafText esc env pr parent v = leafText esc env pr none v := by
  cases v with
  | text s =>
    have hc : isCdataElement pr parent = false := by simpa [leafPlainParent, Value.isText] using h
    simp only [leafText, hc]
    rfl
  | _ => rfl

/-- **Round trip of the indented output of a comment / PI / text start node** (no declaration, no doctype, any
    token parameters, any suppress list): `parse_fragment` of the output gives `leafFragment v` — the node, and
    behind a comment or a PI one text node holding the line feed —, tables unchanged.  A text node under a
    CDATA-section element is excluded (its output is the same with and without indentation). -/
theorem leaf_indent_roundtrip (env : Env) (pr : TokenParams) (sup : List Nat) (t : Tree) (start : Path) (v : Value)
    (hat : t.at? start = some (.node v [])) (hv : v.isLeafStart = true)
    (henv : envOK env = true) (hval : valueOK env v = true)
    (hpar : leafPlainParent pr (t.parentAt? start) v = true)
    (s : Str) (hs : serializePretty env pr sup t start = .ok s) :
    ∃ q, parseString .fragment env s = .ok q ∧ q.tree = leafFragment v ∧ q.env = env := by
  have h1 := serializePretty_leaf xmlEscapers env pr sup t start v hat hv
  rw [leafText_parent _ _ _ _ _ hpar, ← serializeString_leafFragment env pr v hv] at h1
  have h2 : serializeString env pr (leafFragment v) [] = .ok s := by
    rw [← h1]; exact hs
  exact options_roundtrip_fragment env pr (representableFragment_leafFragment env v hv henv hval) h2

end XotModel
