/-
  An accepted `element_wrap`, map `remove` and map `clear` leave the value of every surviving handle exactly as it was
  (`elementWrap_value_exact`, `mapRemove_value_exact`, `mapClear_value_exact`).  The analysis primitive by primitive
  (Lemmas/FinvVStep.lean) does not give these calls a `VStep` with an empty site list, so it is read off the C05
  specifications `specWrap` / `specMapRemove` and off the map step of C11 (`clear`), through a containment lemma for
  the (handle, value) pairs under the one-site edit `Forest.editAt` (`hvList_editAt_sub`).
-/
import XotModel.Lemmas.FinvExact
import XotModel.Lemmas.FspecWrap
import XotModel.Lemmas.FspecMapUpd
import XotModel.Lemmas.FmapNext

namespace XotModel
open HTree Spec

/-! ### (handle, value) pairs under `editAt` -/

theorem hvList_editAt_sub' (P : Nat × Value → Prop) (s : Nat) (g : List HTree → List HTree)
    (hg : ∀ L, ∀ p ∈ hvList (g L), p ∈ hvList L ∨ P p) :
    ∀ ks : List HTree, ∀ p ∈ hvList (mapAtList s (fun n => n.setKids (g n.kids)) ks), p ∈ hvList ks ∨ P p := by
  refine hvList_mapAtList_sub_of s _ P (fun k _ p hp => ?_)
  rw [Forest.hv_setKids, List.mem_cons] at hp
  rw [hv_eq k, List.mem_cons]
  rcases hp with hp | hp
  · exact Or.inl (Or.inl hp)
  · exact (hg k.kids p hp).imp Or.inr id

namespace Forest

theorem hvList_editAt_sub (P : Nat × Value → Prop) (f : Forest) (s : Option Nat) (g : List HTree → List HTree)
    (hg : ∀ L, ∀ p ∈ hvList (g L), p ∈ hvList L ∨ P p) :
    ∀ p ∈ hvList (f.editAt s g).roots, p ∈ hvList f.roots ∨ P p := by
  cases s with
  | none => exact hg f.roots
  | some q =>
    intro p hp
    simp only [Forest.editAt, HTree.editAt, ← mapAtList_eq_map] at hp
    exact hvList_editAt_sub' P q g hg f.roots p hp

variable {S T : Nat → Prop}

theorem VStep.of_sub_fresh {f f' : Forest} (hn : f.next ≤ f'.next)
    (hs : ∀ p ∈ hvList f'.roots, p ∈ hvList f.roots ∨ f.next ≤ p.1) : VStep S T f f' :=
  ⟨hn, fun x v' h => by
    rcases hs _ h with h1 | h1
    · exact VOrigin.of_mem h1
    · exact Or.inl h1⟩

/-- No site, no target: every surviving handle keeps its value exactly. -/
theorem VStep.exact0 {f f' : Forest} (h : VStep (fun _ => False) (fun _ => False) f f') (hi : f.Inv)
    {x : Nat} {v v' : Value} (hv : f.value? x = some v) (hv' : f'.value? x = some v') : v' = v := by
  rcases h.value hi hv hv' with h1 | h1 | h1
  · exact h1
  · exact h1.1.elim
  · exact h1.1.elim

/-! ### The list functions of `specWrap` / `specMapRemove` -/

theorem hvList_replaceTop_wrap (n w name : Nat) : ∀ L : List HTree,
    ∀ p ∈ hvList (replaceTop n (fun k => [HTree.node w (.element name) [k]]) L), p ∈ hvList L ∨ w ≤ p.1
  | [] => by intro p hp; simp [replaceTop] at hp
  | k :: ks => by
    intro p hp
    simp only [replaceTop] at hp
    split at hp
    · simp only [List.cons_append, List.nil_append, hvList_cons, hv_node, hvList_nil, List.append_nil,
        List.mem_append, List.mem_cons] at hp ⊢
      rcases hp with hp | hp | hp
      · exact Or.inr (by rw [hp]; exact Nat.le_refl _)
      · exact Or.inl (Or.inl hp)
      · exact Or.inl (Or.inr hp)
    · simp only [hvList_cons, List.mem_append] at hp ⊢
      rcases hp with hp | hp
      · exact Or.inl (Or.inl hp)
      · rcases hvList_replaceTop_wrap n w name ks p hp with h1 | h1
        · exact Or.inl (Or.inr h1)
        · exact Or.inr h1

theorem hvList_dropTop (n : Nat) : ∀ L : List HTree, ∀ p ∈ hvList (dropTop n L), p ∈ hvList L
  | [] => by intro p hp; simp [dropTop] at hp
  | k :: ks => by
    intro p hp
    simp only [dropTop] at hp
    split at hp
    · simp only [hvList_cons, List.mem_append]
      exact Or.inr (hvList_dropTop n ks p hp)
    · simp only [hvList_cons, List.mem_append] at hp ⊢
      rcases hp with hp | hp
      · exact Or.inl hp
      · exact Or.inr (hvList_dropTop n ks p hp)

theorem hvList_sublist {a b : List HTree} (h : a.Sublist b) : ∀ p ∈ hvList a, p ∈ hvList b := by
  induction h with
  | slnil => intro p hp; exact hp
  | cons k _ ih =>
    intro p hp
    simp only [hvList_cons, List.mem_append]
    exact Or.inr (ih p hp)
  | cons_cons k _ ih =>
    intro p hp
    simp only [hvList_cons, List.mem_append] at hp ⊢
    rcases hp with hp | hp
    · exact Or.inl hp
    · exact Or.inr (ih p hp)

/-! ### element_wrap -/

/-- The specification of `element_wrap` adds the wrapper's pair only. -/
theorem vstep_specWrap (f : Forest) (n name : Nat) : VStep S T f (specWrap n name f) := by
  unfold specWrap
  cases hg : f.get? n with
  | none => exact VStep.refl f
  | some t =>
    simp only
    cases f.parent? n with
    | some p =>
      simp only
      refine VStep.of_sub_fresh (Nat.le_succ _) ?_
      exact hvList_editAt_sub (fun p => f.next ≤ p.1) f (some p) _ (hvList_replaceTop_wrap n f.next name)
    | none =>
      simp only
      refine VStep.of_sub_fresh (Nat.le_succ _) ?_
      intro p hp
      simp only [Forest.editAt, insertLast, hvList_append, hvList_cons, hv_node, hvList_nil, List.append_nil,
        List.mem_append, List.mem_cons] at hp
      rcases hp with hp | hp | hp
      · exact Or.inl (hvList_dropTop n f.roots p hp)
      · exact Or.inr (by rw [hp]; exact Nat.le_refl _)
      · exact Or.inl (hv_of_get? hg p hp)

/-- **element_wrap extends no text node**: an accepted call leaves the value of every surviving
    handle exactly as it was (the one new pair is the wrapper, handle `f.next`). -/
theorem elementWrap_value_exact {f : Forest} (hi : f.Inv) (n name : Nat)
    (hok : (f.elementWrap n name).2.1 = .ok) {x : Nat} {v v' : Value}
    (hv : f.value? x = some v) (hv' : (f.elementWrap n name).1.value? x = some v') : v' = v := by
  have e : (f.elementWrap n name).1 = specWrap n name f := by
    cases hpar : f.parent? n with
    | none => exact (wrap_spec_root hi hpar hok).1
    | some p => exact (wrap_spec_kid hi hpar hok).1
  rw [e] at hv'
  exact (vstep_specWrap f n name).exact0 hi hv hv'

/-! ### map remove -/

theorem vstep_specMapRemove (f : Forest) (k : MapKind) (e key : Nat) :
    VStep S T f (specMapRemove k e key f) := by
  rw [specMapRemove_eq]
  refine VStep.of_sub rfl (fun p hp => ?_)
  rcases hvList_editAt_sub (fun _ => False) f (some e) _
    (fun L p hp => Or.inl (hvList_sublist (removeEntry_sublist k key L) p hp)) p hp with h1 | h1
  · exact h1
  · exact h1.elim

/-- **map `remove(key)` extends no text node**, any arguments: a refused call (not an element) changes
    nothing, an accepted one is `specMapRemove` — one child list filtered. -/
theorem mapRemove_value_exact {f : Forest} (hi : f.Inv) (k : MapKind) (e key : Nat) {x : Nat} {v v' : Value}
    (hv : f.value? x = some v) (hv' : (f.mapRemove k e key).1.value? x = some v') : v' = v := by
  cases he : f.isElement e with
  | false =>
    have e0 : (f.mapRemove k e key).1 = f := by
      unfold mapRemove
      simp [he]
    rw [e0, hv] at hv'
    cases hv'; rfl
  | true =>
    rw [mapRemove_spec hi he] at hv'
    exact (vstep_specMapRemove f k e key).exact0 hi hv hv'

/-! ### map clear -/

/-- **map `clear()` extends no text node**, any arguments: the child list of the element loses the
    view's entries, every other pair is an old pair. -/
theorem mapClear_value_exact {f : Forest} (hi : f.Inv) (k : MapKind) (e : Nat) {x : Nat} {v v' : Value}
    (hv : f.value? x = some v) (hv' : (f.mapClear k e).1.value? x = some v') : v' = v := by
  cases he : f.isElement e with
  | false =>
    have e0 : (f.mapClear k e).1 = f := by
      unfold mapClear
      simp [he]
    rw [e0, hv] at hv'
    cases hv'; rfl
  | true =>
    obtain ⟨nm, N, A, Sx, h⟩ := Fmap.minv_of_inv f e hi he
    obtain ⟨st, _⟩ := Fmap.mapClear_step h k
    have hr : (f.mapClear k e).1.roots = Fmap.withKids f.roots e (Fmap.preK k N ++ [] ++ Fmap.postK k A Sx) :=
      congrArg Forest.roots st.state
    have s := MInv_site h
    have hr2 : (f.mapClear k e).1.roots =
        (f.editAt (some e) (fun _ => Fmap.preK k N ++ [] ++ Fmap.postK k A Sx)).roots := by
      rw [hr, s.editAt_eq_withKids]
    have hsub : (Fmap.preK k N ++ [] ++ Fmap.postK k A Sx).Sublist (N ++ A ++ Sx) := by
      cases k with
      | namespaces =>
        simp only [Fmap.preK, Fmap.postK, List.append_nil, List.nil_append, List.append_assoc]
        exact List.sublist_append_right _ _
      | attributes =>
        simp only [Fmap.preK, Fmap.postK, List.append_nil, List.append_assoc]
        exact List.Sublist.append (List.Sublist.refl _) (List.sublist_append_right _ _)
    have hkids : ∀ p ∈ hvList (N ++ A ++ Sx), p ∈ hvList f.roots := by
      intro p hp
      exact hv_of_get? s.kids p (by simp only [hv_node, List.mem_cons]; exact Or.inr hp)
    have hstep : VStep (fun _ => False) (fun _ => False) f (f.mapClear k e).1 := by
      refine VStep.of_sub (Fmap.nx_mapClear f k e) (fun p hp => ?_)
      rw [hr2] at hp
      rcases hvList_editAt_sub (fun p => p ∈ hvList f.roots) f (some e) _
        (fun L p hp => Or.inr (hkids p (hvList_sublist hsub p hp))) p hp with h1 | h1
      · exact h1
      · exact h1
    exact hstep.exact0 hi hv hv'

end Forest
end XotModel
