/-
  The frame: an edit of one child list does not change any other node (`NodeFrame`: same value, same
  children — handles and values, in order), hence not the value, parent or position (the handles of
  the siblings to the left and to the right) of any node whose parent is another node (`Ctx.shape`);
  lookups through the specification's list functions.
-/
import XotModel.Lemmas.FspecContent
import XotModel.Lemmas.FspecMergeRunsAlgebra

namespace XotModel
open HTree Spec

/-- What identifies the place of a node: parent, handles of the left siblings, own value,
    handles of the right siblings. -/
def HTree.Ctx.shape (c : Ctx) : Nat × List Nat × Value × List Nat :=
  (c.parent, c.left.map (·.handle), c.self.value, c.right.map (·.handle))

/-- The node `z`, if live in `f`, is live in `f'` with the same value and the same children (handles
    and values, in order): the same `Fmap.shallow` view. -/
def NodeFrame (f f' : Forest) (z : Nat) : Prop :=
  ∀ t, f.get? z = some t → ∃ t', f'.get? z = some t' ∧ Fmap.shallow t' = Fmap.shallow t

theorem NodeFrame.of_shallow {f f' : Forest} {z : Nat}
    (h : (f'.get? z).map Fmap.shallow = (f.get? z).map Fmap.shallow) : NodeFrame f f' z := by
  intro t ht
  rw [ht] at h
  cases hg' : f'.get? z with
  | none => rw [hg'] at h; cases h
  | some t' => rw [hg'] at h; exact ⟨t', rfl, Option.some.inj h⟩

theorem Fmap.map_handle_of_hv {L L' : List HTree} (h : L'.map Fmap.hv = L.map Fmap.hv) :
    L'.map (·.handle) = L.map (·.handle) := by
  have := congrArg (List.map Prod.fst) h
  simpa [List.map_map, Function.comp_def, Fmap.hv] using this

theorem NodeFrame.refl (f : Forest) (z : Nat) : NodeFrame f f z := fun t h => ⟨t, h, rfl⟩

theorem NodeFrame.trans {f g h : Forest} {z : Nat} (a : NodeFrame f g z) (b : NodeFrame g h z) :
    NodeFrame f h z := by
  intro t ht
  obtain ⟨t1, h1, s1⟩ := a t ht
  obtain ⟨t2, h2, s2⟩ := b t1 h1
  exact ⟨t2, h2, s2.trans s1⟩

/-- A child of a framed node keeps its parent, the handles of its left and right siblings and its own
    value. -/
theorem NodeFrame.ctxShape {f f' : Forest} (nd : f.allHandles.Nodup) (nd' : f'.allHandles.Nodup)
    {x : Nat} {cx : Ctx} (hx : f.ctx? x = some cx) (a : NodeFrame f f' cx.parent) :
    ∃ cx', f'.ctx? x = some cx' ∧ cx'.shape = cx.shape := by
  obtain ⟨e0, vx, sx⟩ := SiteAt.of_ctx nd hx
  obtain ⟨t', hg', hs⟩ := a _ sx.kids
  have hk := congrArg Prod.snd hs
  have hth : t'.handle = cx.parent := (findList?_some f'.roots t' hg').1
  obtain ⟨h', v', ks'⟩ := t'
  simp only [Fmap.shallow, HTree.kids, HTree.handle] at hk hth
  subst hth
  -- the child list of the parent splits where the old one does
  rw [List.map_append, List.map_cons] at hk
  obtain ⟨l', m', hks, hl, hm⟩ := List.map_eq_append_iff.1 hk
  obtain ⟨k', r', hm', hk', hr⟩ := List.map_eq_cons_iff.1 hm
  subst hks hm'
  have hctx := Forest.ctx_of_kids nd' hg'
  have hkh : k'.handle = x := (congrArg Prod.fst hk').trans e0
  rw [hkh] at hctx
  have hkv : k'.value = cx.self.value := congrArg Prod.snd hk'
  exact ⟨_, hctx, by simp only [HTree.Ctx.shape, Fmap.map_handle_of_hv hl, Fmap.map_handle_of_hv hr, hkv]⟩

/-- One edit of the child list of `s`: every other node below which nothing is lost is framed. -/
theorem SiteAt.nodeFrame {f : Forest} {s : Nat} {vs : Value} {L : List HTree} (ss : SiteAt f s vs L)
    (g : List HTree → List HTree) {z : Nat} (hne : z ≠ s) (hlook : findList? z (g L) = findList? z L) :
    NodeFrame f (f.editAt (some s) g) z := by
  intro t ht
  have hget := Forest.get?_editAt_other (g := g) hne ss.nd (by
    intro v' L' e
    rw [ss.kids] at e
    have e' := Option.some.inj e
    injection e' with _ _ e3
    subst e3
    exact hlook)
  rw [ht, Option.map_some] at hget
  have hth : t.handle = z := (findList?_some f.roots t ht).1
  have hk := kidMap_editAt s g
  refine ⟨_, hget, Prod.ext (hk.value t) ?_⟩
  cases t with
  | node h v ks =>
    have hh : h ≠ s := fun e => hne (hth.symm.trans e)
    rw [editAt_node, if_neg hh]
    show (ks.map (HTree.editAt s g)).map Fmap.hv = ks.map Fmap.hv
    rw [List.map_map]
    apply List.map_congr_left
    intro k _
    simp only [Function.comp, Fmap.hv, hk.handle, hk.value]

theorem SiteAt.frame {f : Forest} {s : Nat} {vs : Value} {L : List HTree} (ss : SiteAt f s vs L)
    (g : List HTree → List HTree) (hnd : (f.editAt (some s) g).allHandles.Nodup)
    {x : Nat} {cx : Ctx} (hx : f.ctx? x = some cx) (hne : cx.parent ≠ s)
    (hlook : findList? cx.parent (g L) = findList? cx.parent L) :
    ∃ cx', (f.editAt (some s) g).ctx? x = some cx' ∧ cx'.shape = cx.shape :=
  (ss.nodeFrame g hne hlook).ctxShape ss.nd hnd hx

theorem frame_root {f : Forest} {s : Nat} (g : List HTree → List HTree)
    (hnd : (f.editAt (some s) g).allHandles.Nodup) {x : Nat} (hx : f.isRoot x = true) :
    (f.editAt (some s) g).ctx? x = none := by
  apply Forest.ctx_none_of_root hnd
  unfold Forest.isRoot at hx ⊢
  rw [Forest.editAt_some_roots, List.any_map]
  simpa [Function.comp, editAt_handle] using hx

/-! ### Handles and lookups through `mergeRuns` -/

theorem handlesList_mergeRuns_sublist (keep : Keep) (L : List HTree) :
    (handlesList (mergeRuns keep L)).Sublist (handlesList L) :=
  (TextMerge.of_mergeRuns keep L).handles_sublist

theorem find?_join {keep : Keep} {a b : HTree} {x y : Str} {z : Nat} (ha : a.kids = []) (hb : b.kids = [])
    (hza : a.handle ≠ z) (hzb : b.handle ≠ z) : find? z (join keep a b x y) = none := by
  unfold join
  split
  · exact find?_leaf (by cases a; exact ha) (by rw [setValue_handle]; exact hza)
  · exact find?_leaf (by cases b; exact hb) (by rw [setValue_handle]; exact hzb)

theorem findList?_mergeRuns (keep : Keep) {z : Nat} {L : List HTree}
    (h : ∀ k ∈ L, k.value.isText = true → k.kids = [] ∧ k.handle ≠ z) :
    findList? z (mergeRuns keep L) = findList? z L :=
  ((TextMerge.of_mergeRuns keep L).leafZ h).2

/-! ### Counting handles through an edit -/

mutual
  theorem count_editAt {p : Nat} {v : Value} {L : List HTree} {g : List HTree → List HTree} (z : Nat) :
      ∀ t : HTree, (handles t).Nodup → find? p t = some (.node p v L) →
      (handles (HTree.editAt p g t)).count z + (handlesList L).count z =
        (handles t).count z + (handlesList (g L)).count z
    | .node h v' ks => by
      intro nd e
      obtain ⟨n1, n2⟩ := nodup_handles_node nd
      rw [find?_node] at e
      rw [editAt_node]
      by_cases hh : h = p
      · rw [if_pos hh] at e
        have e' := Option.some.inj e
        injection e' with _ _ e3
        subst e3
        rw [if_pos hh, handles_node, handles_node, List.count_cons, List.count_cons]
        omega
      · rw [if_neg hh] at e
        rw [if_neg hh, handles_node, handles_node, List.count_cons, List.count_cons]
        have := count_editAt_list (g := g) z ks n2 e
        omega
  theorem count_editAt_list {p : Nat} {v : Value} {L : List HTree} {g : List HTree → List HTree} (z : Nat) :
      ∀ ks : List HTree, (handlesList ks).Nodup → findList? p ks = some (.node p v L) →
      (handlesList (ks.map (HTree.editAt p g))).count z + (handlesList L).count z =
        (handlesList ks).count z + (handlesList (g L)).count z
    | [] => by intro _ e; rw [findList?_nil] at e; cases e
    | k :: ks => by
      intro nd e
      obtain ⟨n1, n2, n3⟩ := Fws.nodup_handlesList_cons nd
      rw [List.map_cons, handlesList_cons, handlesList_cons, List.count_append, List.count_append]
      cases hk : find? p k with
      | some t =>
        rw [findList?_cons_some hk] at e
        have e' := Option.some.inj e
        subst e'
        have hpn : p ∉ handlesList ks := n3 p (find?_some_mem hk)
        rw [map_editAt_of_not_mem ks hpn]
        have := count_editAt (g := g) z k n1 hk
        omega
      | none =>
        rw [findList?_cons_none hk] at e
        have hpk : p ∉ handles k := (find?_none_iff _ k).1 hk
        rw [editAt_of_not_mem k hpk]
        have := count_editAt_list (g := g) z ks n2 e
        omega
end

theorem SiteAt.count {f : Forest} {p : Nat} {v : Value} {L : List HTree} (s : SiteAt f p v L)
    (g : List HTree → List HTree) (z : Nat) :
    (f.editAt (some p) g).allHandles.count z + (handlesList L).count z =
      f.allHandles.count z + (handlesList (g L)).count z :=
  count_editAt_list z f.roots s.nd s.kids

/-- The edit keeps handles distinct if the new child list uses each handle at most as often as
    the forest can afford. -/
theorem SiteAt.nodup_of_count {f : Forest} {p : Nat} {v : Value} {L : List HTree} (s : SiteAt f p v L)
    (g : List HTree → List HTree)
    (h : ∀ z, f.allHandles.count z + (handlesList (g L)).count z ≤ 1 + (handlesList L).count z) :
    (f.editAt (some p) g).allHandles.Nodup := by
  rw [List.nodup_iff_count]
  intro z
  have := s.count g z
  have := h z
  omega

theorem count_handles_mid (z : Nat) (l : List HTree) (t : HTree) (r : List HTree) :
    (handlesList (l ++ t :: r)).count z = (handlesList (l ++ r)).count z + (handles t).count z := by
  simp only [handlesList_append, handlesList_cons, List.count_append]
  omega

theorem count_insert_le (z : Nat) (dest : Dest) (t : HTree) (L : List HTree) :
    (handlesList (dest.insert t L)).count z ≤ (handlesList L).count z + (handles t).count z := by
  rcases dest.insert_cases t L with ⟨_, e⟩ | ⟨A, B, e1, e2, _⟩
  · rw [e]; exact Nat.le_add_right _ _
  · rw [e2, e1, count_handles_mid]; exact Nat.le_refl _

/-! ### Lookups through the specification's list functions -/

theorem findList?_insert {z : Nat} {t : HTree} (hz : z ∉ handles t) (dest : Dest) (L : List HTree) :
    findList? z (dest.insert t L) = findList? z L := by
  rcases dest.insert_cases t L with ⟨_, e⟩ | ⟨A, B, e1, e2, _⟩
  · rw [e]
  · rw [e2, e1, Fmap.findList?_append, Fmap.findList?_append, findList?_cons, find?_none_of_not_mem _ t hz]
    rfl

/-- Optional merge (consolidation on / off). -/
def mergeOpt (b : Bool) (keep : Keep) : List HTree → List HTree := if b then mergeRuns keep else id

theorem Spec.TextMerge.of_mergeOpt (b : Bool) (keep : Keep) (L : List HTree) : TextMerge L (mergeOpt b keep L) := by
  cases b
  · exact .refl L
  · exact .of_mergeRuns keep L

theorem mergeOpt_sublist (b : Bool) (keep : Keep) (L : List HTree) :
    (handlesList (mergeOpt b keep L)).Sublist (handlesList L) :=
  (TextMerge.of_mergeOpt b keep L).handles_sublist

theorem findList?_mergeOpt (b : Bool) (keep : Keep) {z : Nat} {L : List HTree}
    (h : ∀ k ∈ L, k.value.isText = true → k.kids = [] ∧ k.handle ≠ z) :
    findList? z (mergeOpt b keep L) = findList? z L :=
  ((TextMerge.of_mergeOpt b keep L).leafZ h).2

theorem mergeAt_eq_mergeOpt (f : Forest) (keep : Keep) (p : Nat) :
    f.mergeAt keep (some p) = f.editAt (some p) (mergeOpt f.consolidation keep) := by
  rw [mergeAt_some]
  cases hc : f.consolidation
  · simp only [Bool.false_eq_true, if_false, mergeOpt]
    exact (Forest.editAt_id f (some p)).symm
  · simp [mergeOpt]

theorem ReplFrame.natFor_mergeOpt {φ : HTree → HTree} (hφ : KidMap φ) (c : Bool) (keep : Keep) :
    NatFor φ (mergeOpt c keep) := by
  cases c
  · exact natFor_id φ
  · exact natFor_mergeRuns hφ keep

theorem not_text_leaf_of_parent {f : Forest} {x : Nat} {cx : Ctx} (nd : f.allHandles.Nodup)
    (hx : f.ctx? x = some cx) {k : HTree} (hk : f.get? k.handle = some k) (hleaf : k.kids = []) :
    k.handle ≠ cx.parent := by
  intro e
  obtain ⟨_, v, e1⟩ := Forest.kids_of_ctx nd hx
  rw [← e, hk] at e1
  have := Option.some.inj e1
  rw [this] at hleaf
  simp only [HTree.kids] at hleaf
  cases hl : cx.left <;> rw [hl] at hleaf <;> cases hleaf

theorem ctx_dropRoot {x n : Nat} : ∀ rs : List HTree, (∀ k ∈ rs, k.handle = n → x ∉ handles k) →
    (dropTop n rs).findSome? (ctxBelow x) = rs.findSome? (ctxBelow x)
  | [] => fun _ => rfl
  | k :: ks => by
    intro h
    rw [dropTop_cons]
    have ih := ctx_dropRoot ks (fun k' hk' => h k' (List.mem_cons_of_mem _ hk'))
    by_cases hk : k.handle = n
    · rw [if_pos hk, ih, List.findSome?_cons, ctxBelow_none_of_not_mem _ k (h k List.mem_cons_self hk)]
    · rw [if_neg hk, List.findSome?_cons, List.findSome?_cons, ih]

theorem root_is {f : Forest} {c : Nat} {t : HTree} (nd : f.allHandles.Nodup) (hc : f.get? c = some t) :
    ∀ k ∈ f.roots, k.handle = c → k = t := by
  intro k hk hkc
  obtain ⟨A, B, hAB⟩ := List.append_of_mem hk
  unfold Forest.allHandles at nd
  rw [hAB] at nd
  obtain ⟨m1, _⟩ := nodup_mid nd
  have : f.get? k.handle = some k := by
    rw [Forest.get?_eq, hAB]
    exact findList?_mid (m1 _ (handle_mem_handles k))
  rw [hkc, hc] at this
  exact (Option.some.inj this).symm

theorem count_dropTop_root {f : Forest} {c : Nat} {t : HTree} (nd : f.allHandles.Nodup) (hc : f.get? c = some t)
    (hroot : f.isRoot c = true) (z : Nat) :
    (handlesList (dropTop c f.roots)).count z + (handles t).count z = f.allHandles.count z := by
  unfold Forest.isRoot at hroot
  obtain ⟨k, hk, hkc⟩ := List.any_eq_true.1 hroot
  have hkc' : k.handle = c := by simpa using hkc
  have hkt := root_is nd hc k hk hkc'
  subst hkt
  obtain ⟨A, B, hAB⟩ := List.append_of_mem hk
  unfold Forest.allHandles at nd ⊢
  rw [hAB] at nd ⊢
  obtain ⟨tl, tr⟩ := tops_ne_of_nodup nd
  rw [dropTop_mid hkc' (fun k' h' => hkc' ▸ tl k' h') (fun k' h' => hkc' ▸ tr k' h'), count_handles_mid]

theorem specRemove_root {f : Forest} {keep : Keep} {n : Nat} (h : f.parent? n = none) :
    specRemove keep n f = f.editAt none (dropTop n) := by
  unfold specRemove; rw [h]; rfl

theorem specRemove_kid {f : Forest} {keep : Keep} {n p : Nat} (h : f.parent? n = some p) :
    specRemove keep n f = f.editAt (some p) (mergeOpt f.consolidation keep ∘ dropTop n) := by
  unfold specRemove
  rw [h, mergeAt_eq_mergeOpt, Forest.editAt_consolidation, Forest.editAt_editAt]

/-- The child list of another parent `q` after the child `k` has left the child list of `po` and
    that list has been tidied by a list function `G` that touches text leaves only (the merge of
    the runs, or of the one pair `k` separated): the children of `q` are edited below, if at all. -/
theorem SiteAt.after_leave {f : Forest} {po q : Nat} {vo vq : Value} {l r Lq : List HTree} {k : HTree}
    (so : SiteAt f po vo (l ++ k :: r)) (sq : SiteAt f q vq Lq) {b : Bool} (hv : validList b f.roots = true)
    (hne : po ≠ q) (hqk : q ∉ handles k) (hvq : vq.isText = false) (G : List HTree → List HTree)
    (hsub : ∀ L, (handlesList (G L)).Sublist (handlesList L))
    (hfind : ∀ L, (∀ k' ∈ L, k'.value.isText = true → k'.kids = [] ∧ k'.handle ≠ q) →
      findList? q (G L) = findList? q L) :
    SiteAt (f.editAt (some po) (G ∘ dropTop k.handle)) q vq (Lq.map (HTree.editAt po (G ∘ dropTop k.handle))) := by
  obtain ⟨tl, tr⟩ := tops_ne_of_nodup so.nodupKids.1
  refine so.other sq.kids (fun e => hne e.symm) _ ((hsub _).trans (handlesList_dropTop_sublist _ _)) ?_
  simp only [Function.comp]
  rw [hfind, findList?_dropTop]
  · intro k' hk' hkc
    rw [fs_eq_of_mem_of_handle so.nodupKids.1 hk' hkc]
    exact hqk
  · intro k' hk' hkt
    rw [dropTop_eq_filter] at hk'
    have hk'L := (List.mem_filter.1 hk').1
    refine ⟨so.leaf hv k' hk'L hkt, fun e => ?_⟩
    -- a text child of `po` is not the node `q`, whose value is not text
    obtain ⟨A, B, hAB⟩ := List.append_of_mem hk'L
    have := (hAB ▸ so : SiteAt f po vo (A ++ k' :: B)).getKid
    rw [e, sq.kids] at this
    rw [← Option.some.inj this] at hkt
    simp only [HTree.value] at hkt
    rw [hvq] at hkt; cases hkt

/-- Handles after the child `k` has left the child list of `po` and a list function `G` that adds
    no handle has tidied that list: those of `k` are gone. -/
theorem SiteAt.count_leave {f : Forest} {po : Nat} {vo : Value} {l r : List HTree} {k : HTree}
    (so : SiteAt f po vo (l ++ k :: r)) (G : List HTree → List HTree)
    (hsub : ∀ L, (handlesList (G L)).Sublist (handlesList L)) (z : Nat) :
    (f.editAt (some po) (G ∘ dropTop k.handle)).allHandles.count z + (handles k).count z ≤
      f.allHandles.count z := by
  obtain ⟨tl, tr⟩ := tops_ne_of_nodup so.nodupKids.1
  have h1 := so.count (G ∘ dropTop k.handle) z
  simp only [Function.comp] at h1
  rw [dropTop_mid rfl tl tr] at h1
  have h2 := (hsub (l ++ r)).count_le z
  have h3 := count_handles_mid z l k r
  omega

/-- A move from the child list of `po` to that of another node `q`: the merge at the place left
    can be done before the graft. -/
theorem specMove_far {f : Forest} {keep : Keep} {po q : Nat} {vo : Value} {l : List HTree} {t : HTree}
    {r : List HTree} (so : SiteAt f po vo (l ++ t :: r)) (hne : po ≠ q) {dest : Dest}
    (hocc : dest.occupiedBy f t.handle = false) (hsite : dest.site f = some q) :
    specMove keep dest t.handle f =
      (((f.editAt (some po) (dropTop t.handle)).mergeAt keep (some po)).editAt (some q) (dest.insert t)).mergeAt keep
        (some q) := by
  rw [specMove_unfold hocc so.getKid hsite, Forest.parent?_of_ctx? so.ctx]
  have hnat : NatFor (HTree.editAt po (mergeRuns keep)) (dest.insert t) :=
    natFor_insert (kidMap_editAt _ _) (editAt_of_not_mem t so.not_mem_kid) dest
  cases hc : f.consolidation with
  | true =>
    have c1 : ((f.editAt (some po) (dropTop t.handle)).editAt (some q) (dest.insert t)).consolidation = true := by
      rw [Forest.editAt_consolidation, Forest.editAt_consolidation]; exact hc
    have c2 : (f.editAt (some po) (dropTop t.handle)).consolidation = true := by
      rw [Forest.editAt_consolidation]; exact hc
    rw [mergeAt_on c1, mergeAt_on c2,
      Forest.editAt_comm _ hne (natFor_mergeRuns (kidMap_editAt _ _) keep) hnat]
  | false =>
    have c1 : ((f.editAt (some po) (dropTop t.handle)).editAt (some q) (dest.insert t)).consolidation = false := by
      rw [Forest.editAt_consolidation, Forest.editAt_consolidation]; exact hc
    have c2 : (f.editAt (some po) (dropTop t.handle)).consolidation = false := by
      rw [Forest.editAt_consolidation]; exact hc
    rw [mergeAt_off c1, mergeAt_off c2]

/-- Handles after `specRemove`: those of the removed subtree are gone (and at most one merged text node). -/
theorem count_specRemove {f : Forest} {keep : Keep} {n : Nat} {t : HTree} (nd : f.allHandles.Nodup)
    (hg : f.get? n = some t) (z : Nat) :
    (specRemove keep n f).allHandles.count z + (handles t).count z ≤ f.allHandles.count z := by
  rcases Forest.root_or_ctx hg with hroot | ⟨c, hctx⟩
  · rw [specRemove_root (Forest.parent?_of_no_ctx (Forest.ctx_none_of_root nd hroot))]
    exact Nat.le_of_eq (count_dropTop_root nd hg hroot z)
  · obtain ⟨p, v, l, k, r, rfl, rfl, e0, so⟩ := SiteAt.of_get_ctx nd hg hctx
    subst e0
    have hpar : f.parent? k.handle = some p := Forest.parent?_of_ctx? hctx
    rw [specRemove_kid hpar]
    exact so.count_leave _ (mergeOpt_sublist _ keep) z

/-- Frame of `specRemove` (and of the first half of a move). -/
theorem frame_specRemove {f : Forest} {keep : Keep} {n : Nat} {t : HTree} (inv : f.Inv)
    (hg : f.get? n = some t) {x : Nat} {cx : Ctx} (hx : f.ctx? x = some cx)
    (h1 : some cx.parent ≠ f.parent? n) (h3 : cx.parent ∉ handles t) (h4 : x ∉ handles t) :
    ∃ cx', (specRemove keep n f).ctx? x = some cx' ∧ cx'.shape = cx.shape := by
  have nd := inv.nodup
  rcases Forest.root_or_ctx hg with hroot | ⟨c, hctx⟩
  · rw [specRemove_root (Forest.parent?_of_no_ctx (Forest.ctx_none_of_root nd hroot))]
    refine ⟨cx, ?_, rfl⟩
    show (dropTop n f.roots).findSome? (ctxBelow x) = some cx
    rw [ctx_dropRoot f.roots (by
      intro k hk hkn
      rw [root_is nd hg k hk hkn]; exact h4)]
    exact hx
  · obtain ⟨p, v, l, k, r, rfl, rfl, e0, so⟩ := SiteAt.of_get_ctx nd hg hctx
    subst e0
    have hpar : f.parent? k.handle = some p := Forest.parent?_of_ctx? hctx
    rw [hpar] at h1
    have hne : cx.parent ≠ p := fun e => h1 (by rw [e])
    rw [specRemove_kid hpar]
    obtain ⟨ndL, _⟩ := so.nodupKids
    obtain ⟨tl, tr⟩ := tops_ne_of_nodup ndL
    have hleaf := so.leaf inv.valid
    apply so.frame _ _ hx hne
    · simp only [Function.comp]
      rw [findList?_mergeOpt, findList?_dropTop]
      · intro k' hk' hkc
        have : k' = k := fs_eq_of_mem_of_handle so.nodupKids.1 hk' hkc
        rw [this]; exact h3
      · intro k' hk' hkt
        rw [dropTop_mid rfl tl tr] at hk'
        have hk'L : k' ∈ l ++ k :: r := by
          exact fs_mem_mid_of_mem _ hk'
        have hkl := hleaf k' hk'L hkt
        refine ⟨hkl, ?_⟩
        obtain ⟨A, B, hAB⟩ := List.append_of_mem hk'L
        have so' : SiteAt f p v (A ++ k' :: B) := hAB ▸ so
        exact not_text_leaf_of_parent nd hx so'.getKid hkl
    · apply Forest.nodup_editAt nd
      intro L
      exact (mergeOpt_sublist _ _ _).trans (handlesList_dropTop_sublist _ _)

end XotModel
