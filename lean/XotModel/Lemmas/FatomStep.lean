/-
  C06 lemmas: where a node inserted next to another ends up (`replaceBelow_parent_inserted`), `append` of a parentless
  node (`append_root`), `append_*_node` on an element as update-or-place; `Step`: what one step of `clone_node` (a
  fresh childless root `m` added under `cur`) leaves untouched.
-/
import XotModel.Lemmas.FatomText

namespace XotModel
open HTree

mutual
  theorem replaceBelow_parent_inserted (ref : Nat) (t : HTree) (F : HTree → List HTree)
      (hF : ∀ (r : HTree) (rest : List HTree) (q : Nat), t.handle ∉ handles r →
        parentKids t.handle q (F r ++ rest) = some q) : ∀ T : HTree, t.handle ∉ handles T →
      parentBelow t.handle (replaceBelow ref F T) = parentBelow ref T
    | .node h v ks => by
      intro hm
      simp only [replaceBelow, parentBelow]
      exact replaceKids_parent_inserted ref t F hF h ks
        (fun h' => hm (by unfold handles; exact List.mem_cons_of_mem _ h'))
  theorem replaceKids_parent_inserted (ref : Nat) (t : HTree) (F : HTree → List HTree)
      (hF : ∀ (r : HTree) (rest : List HTree) (q : Nat), t.handle ∉ handles r →
        parentKids t.handle q (F r ++ rest) = some q) (q : Nat) : ∀ ks : List HTree,
      t.handle ∉ handlesList ks →
      parentKids t.handle q (replaceKids ref F ks) = parentKids ref q ks
    | [] => by simp [replaceKids, parentKids]
    | k :: ks => by
      intro hm
      unfold handlesList at hm
      have hmk : t.handle ∉ handles k := fun h' => hm (List.mem_append_left _ h')
      have hmks : t.handle ∉ handlesList ks := fun h' => hm (List.mem_append_right _ h')
      unfold replaceKids
      by_cases hk : k.handle = ref
      · simp only [hk, if_true]
        rw [hF k ks q hmk]
        simp [parentKids, hk]
      · simp only [hk, if_false]
        have hne : ¬ k.handle = t.handle := fun e => hmk (e ▸ handle_mem_handles k)
        simp only [parentKids, handle_replaceBelow, hne, hk, if_false]
        rw [replaceBelow_parent_inserted ref t F hF k hmk,
          replaceKids_parent_inserted ref t F hF q ks hmks]
end

namespace Forest

theorem placeFirst_get? (f : Forest) (p : Nat) (t : HTree) :
    (f.placeFirst p t).get? p = (f.get? p).map (fun n => n.setKids (t :: n.kids)) := by
  unfold placeFirst get?
  simp only
  rw [← mapAtList_eq_map]
  exact ff_findList?_mapAtList_self p _ (insertsFirst t).handle f.roots

end Forest
end XotModel

/-! ## `append` of a parentless node; `append_*_node` on an element; `Step` -/

namespace XotModel
open HTree

namespace Forest

/-- What one step of `clone_node` guarantees (`m` the node added, `cur` the node it is added under):
    the weak invariant holds again, only `m` is touched (parents, liveness; containers are `Kept`), and
    if `m` has a parent afterwards it is `cur`. -/
structure Step (f1 f2 : Forest) (m cur : Nat) : Prop where
  w : f2.W
  corrupt : f2.corrupt = f1.corrupt
  par : ∀ x, x ≠ m → f2.parent? x = f1.parent? x
  live : ∀ x, x ≠ m → f2.isLive x = f1.isLive x
  kept : ∀ x, x ≠ m → f1.isLive x = true →
    (f1.isElement x = true ∨ f1.isDocument x = true) → Kept f1 f2 x
  newpar : ∀ q, f2.parent? m = some q → q = cur

/-- `append` of a parentless node: either it is placed last under the parent, or it was a text
    node merged into the parent's last child and is gone. -/
theorem append_root {f : Forest} (w : f.W) {p t : Nat} {tt : HTree} (ck : Checked f p t)
    (hroot : f.isRoot t = true) (hg : f.get? t = some tt) :
    ((f.append p t).1 = (f.cut t).1.placeLast p tt ∨ (f.append p t).1.isLive t = false) ∧
    (f.textOf t = none → (f.append p t).1 = (f.cut t).1.placeLast p tt) := by
  have hpn : f.parent? t = none := isRoot_noParent w hroot
  have hlc : (f.lastChild p == some t) = false := by
    cases h : f.lastChild p with
    | none => rfl
    | some c =>
      have := lastChild_parent w h
      by_cases e : c = t
      · rw [e, hpn] at this; cases this
      · simp [e]
  have hX : f.afterOldSite t = f := afterOldSite_of_prevSibling_none (prevSibling_none_of_root hpn)
  have happ : f.append p t =
      f.moveTail t (fun g => g.lastChild p) (fun _ => none) (fun g => g.checkedAppend p t) := by
    rw [append_eq]
    simp only [structureCheck_of_checked ck, hlc, Bool.not_true, Bool.false_eq_true, if_false]
  obtain ⟨_, hsame, _, hdead⟩ := addConsolidate_spec w t (f.lastChild p) none
  -- not merged into the last child: placed
  have hform : (f.addConsolidate t (f.lastChild p) none).2 = false →
      f.append p t = ((f.cut t).1.placeLast p tt, .ok) := by
    intro hc2
    rw [happ]
    exact moveTail_of_placed hX (Prod.ext (hsame hc2) hc2) (checkedAppend_eq hg w (ck.ne w) ck.notAnc)
  constructor
  · cases hc2 : (f.addConsolidate t (f.lastChild p) none).2 with
    | false => exact Or.inl (congrArg Prod.fst (hform hc2))
    | true =>
      right
      rw [happ, moveTail_fst, hX, if_pos hc2]
      exact hdead hc2
  · intro hnt
    exact congrArg Prod.fst (hform (by rw [Forest.addConsolidate_not_text hnt]))

theorem appendEntryNode_eq {f : Forest} {k : MapKind} {cur m : Nat} {v : Value}
    (hel : f.isElement cur = true) (hv : f.value? m = some v) (hm : k.matches v = true) :
    f.appendEntryNode k cur m =
      match f.mapGetNode k cur (entryKey v) with
      | some e => (f.setValue e.handle (entryUpdate e.value v), .ok, e.handle)
      | none => ((f.mapPlace k cur m).1, (f.mapPlace k cur m).2, m) := by
  unfold appendEntryNode mapInsertNode
  simp only [hel, hv, hm, Bool.not_true, Bool.false_eq_true, if_false]
  cases f.mapGetNode k cur (entryKey v) <;> rfl

end Forest
end XotModel
