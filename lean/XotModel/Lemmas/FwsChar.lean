/-
  What `is_insignificant_whitespace` computes at a position of a valid forest:
  exactly the rule of the property (`Fws.topDeleted`).
-/
import XotModel.Lemmas.FmapKids

namespace XotModel
namespace Fws
open HTree Fmap

/-! ### characters -/

theorem isXmlWhitespace_eq (s : Str) : Forest.isXmlWhitespace s = allWs s := by
  unfold Forest.isXmlWhitespace allWs
  congr 1
  funext c
  simp only [wsChars, List.contains_cons, List.contains_nil, Bool.or_false, Bool.or_assoc]

theorem isSignificantText_eq (t : HTree) : Forest.isSignificantText t = isOtherText t := by
  unfold Forest.isSignificantText isOtherText
  cases t.value <;> simp [isXmlWhitespace_eq]

theorem isOtherText_normal {t : HTree} (h : isOtherText t = true) : t.value.category = .normal := by
  unfold isOtherText at h
  cases hv : t.value <;> rw [hv] at h <;> simp [Value.category] at h ⊢

/-! ### child order -/

def rank (t : HTree) : Nat := t.value.category.rank

theorem kidsOrdered_pairwise {ks : List HTree} (h : kidsOrdered ks = true) :
    ks.Pairwise (fun a b => rank a ≤ rank b) :=
  (Fmap.kidsOrdered_iff ks).mp h

theorem rank_normal {t : HTree} : rank t = 2 ↔ t.value.category = .normal := by
  unfold rank; cases t.value.category <;> simp [Category.rank]

theorem rank_le_two (t : HTree) : rank t ≤ 2 := fi_rank_le_two _

theorem kidsOrdered_of_valid {b : Bool} {t : HTree} (hv : validTree b t = true) : kidsOrdered t.kids = true := by
  cases t with
  | node h v ks =>
    simp only [validTree, Bool.and_eq_true] at hv
    exact hv.1.1.1.1.2

theorem text_no_kids {b : Bool} {t : HTree} (hv : validTree b t = true) {s : Str} (ht : t.value = .text s) :
    t.kids = [] := by
  cases t with
  | node h v ks =>
    simp only [HTree.value] at ht
    subst ht
    simp only [validTree, Bool.and_eq_true] at hv
    have := hv.1.1.1.1.1
    cases ks with
    | nil => rfl
    | cons k ks => simp [kidAllowed] at this

theorem parent_not_text {b : Bool} {p k : HTree} (hv : validTree b p = true) (hk : k ∈ p.kids) :
    p.value.isText = false := by
  cases hp : p.value with
  | text s => rw [text_no_kids hv hp] at hk; cases hk
  | _ => rfl

/-! ### the `xml:space` attribute -/

/-- The attribute test used by both lookups. -/
def spaceOfKid (c : HTree) : Option Str :=
  match c.value with
  | .attribute n v => if n == 0 then some v else none
  | _ => none

theorem spaceAttr_eq (t : HTree) : spaceAttr t = t.kids.findSome? spaceOfKid := by
  unfold spaceAttr
  congr 1

theorem xmlSpaceOf_eq' (t : HTree) : Forest.xmlSpaceOf t = (Forest.mapChildren .attributes t).findSome? spaceOfKid := by
  unfold Forest.xmlSpaceOf
  congr 1

theorem spaceOfKid_none {c : HTree} (h : c.value.category ≠ .attribute) : spaceOfKid c = none := by
  unfold spaceOfKid
  cases hv : c.value <;> simp [hv, Value.category] at h ⊢

theorem findSome_spaceOfKid_none {ks : List HTree} (h : ∀ k ∈ ks, k.value.category ≠ .attribute) :
    ks.findSome? spaceOfKid = none := by
  rw [List.findSome?_eq_none_iff]
  exact fun x hx => spaceOfKid_none (h x hx)

/-- On a well-ordered node the `take_while`/`skip_while` lookup finds the attribute: only the
    attribute section of the children can hold it. -/
theorem xmlSpaceOf_eq {t : HTree} (ho : kidsOrdered t.kids = true) : Forest.xmlSpaceOf t = spaceAttr t := by
  obtain ⟨N, A, S, hs⟩ : ∃ N A S, Sect t.kids N A S := ⟨_, _, _, sect_of_ordered t.kids ho⟩
  have hN : N.findSome? spaceOfKid = none :=
    findSome_spaceOfKid_none (fun k hk => by rw [hs.allNs k hk]; exact Category.noConfusion)
  have hS : S.findSome? spaceOfKid = none :=
    findSome_spaceOfKid_none (fun k hk => by rw [hs.allNm k hk]; exact Category.noConfusion)
  rw [xmlSpaceOf_eq', spaceAttr_eq, mapChildren_eq, hs.kidsOf_at, hs.eq, List.findSome?_append,
    List.findSome?_append, hN, hS]
  cases A.findSome? spaceOfKid <;> rfl

/-! ### scope -/

theorem preserve_go {f : Forest} {b : Bool} (nd : f.allHandles.Nodup) (hv : validList b f.roots = true)
    {t : HTree} {anc : List HTree} (o : Occurs f t anc) :
    Forest.inPreserveSpace.go f ((t :: anc).map HTree.handle) = chainScope (t :: anc) := by
  induction o with
  | @root r hr =>
    have o : Occurs f r [] := .root hr
    simp only [List.map_cons, List.map_nil, Forest.inPreserveSpace.go, o.get? nd,
      xmlSpaceOf_eq (kidsOrdered_of_valid (o.valid hv)), chainScope, scope]
    cases spaceAttr r <;> simp [preserve]
  | @kid p k anc op hk ih =>
    have o : Occurs f k (p :: anc) := .kid op hk
    rw [List.map_cons, Forest.inPreserveSpace.go]
    simp only [o.get? nd, xmlSpaceOf_eq (kidsOrdered_of_valid (o.valid hv))]
    rw [ih]
    conv => rhs; rw [chainScope, scope]
    cases spaceAttr k <;> simp [preserve]

theorem inPreserveSpace_eq {f : Forest} {b : Bool} (nd : f.allHandles.Nodup) (hv : validList b f.roots = true)
    {t : HTree} {anc : List HTree} (o : Occurs f t anc) :
    f.inPreserveSpace t.handle = chainScope (t :: anc) := by
  unfold Forest.inPreserveSpace
  rw [o.ancestors nd]
  exact preserve_go nd hv o

/-! ### sibling look-around -/

theorem any_other_of_lt {l : List HTree} (h : ∀ x ∈ l, rank x < 2) : l.any isOtherText = false := by
  rw [Bool.eq_false_iff]
  intro ht
  obtain ⟨x, hx, hs⟩ := List.any_eq_true.1 ht
  have := rank_normal.2 (isOtherText_normal hs)
  have := h x hx
  omega

theorem any_filter_normal (l : List HTree) :
    (l.filter (fun k => k.value.category == Category.normal)).any Forest.isSignificantText = l.any isOtherText := by
  rw [List.any_filter]
  congr 1
  funext a
  rw [isSignificantText_eq]
  cases h : isOtherText a
  · simp
  · simp [isOtherText_normal h]

theorem before_eq {f : Forest} (nd : f.allHandles.Nodup) {k p : HTree} {anc l r : List HTree}
    (o : Occurs f k (p :: anc)) (hs : p.kids = l ++ k :: r) (kn : k.value.category = .normal)
    (ho : kidsOrdered p.kids = true) :
    (match f.prevSibling k.handle with
      | some q => (f.precedingSiblings q).any Forest.isSignificantText
      | none => false) = l.any isOtherText := by
  obtain ⟨op, _⟩ := o.parent
  unfold Forest.prevSibling
  rw [o.ctx nd hs]
  simp only
  rcases List.eq_nil_or_concat l with rfl | ⟨l', q, rfl⟩
  · simp
  · rw [List.concat_eq_append] at hs ⊢
    rw [List.getLast?_concat]
    simp only [kn]
    by_cases hq : q.value.category = .normal
    · simp only [hq, beq_self_eq_true, if_true]
      have hs' : p.kids = l' ++ q :: (k :: r) := by rw [hs]; simp
      have oq : Occurs f q (p :: anc) := .kid op (by rw [hs']; simp)
      unfold Forest.precedingSiblings
      rw [oq.ctx nd hs']
      simp only [hq]
      rw [any_filter_normal]
      simp only [List.any_cons, List.any_reverse, List.any_append, List.any_nil, Bool.or_false]
      exact Bool.or_comm _ _
    · have : (q.value.category == Category.normal) = false := by simp [hq]
      simp only [this]
      symm
      apply any_other_of_lt
      have hp := kidsOrdered_pairwise ho
      rw [hs] at hp
      have hqlt : rank q < 2 := by
        have := rank_le_two q
        have : rank q ≠ 2 := fun e => hq (rank_normal.1 e)
        omega
      intro x hx
      rcases List.mem_append.1 hx with hx | hx
      · have h1 := (List.pairwise_append.1 (List.pairwise_append.1 hp).1).2.2 x hx q (by simp)
        omega
      · simp only [List.mem_singleton] at hx
        subst hx; exact hqlt

theorem after_eq {f : Forest} (nd : f.allHandles.Nodup) {k p : HTree} {anc l r : List HTree}
    (o : Occurs f k (p :: anc)) (hs : p.kids = l ++ k :: r) (kn : k.value.category = .normal)
    (ho : kidsOrdered p.kids = true) :
    (match f.nextSibling k.handle with
      | some q => (f.followingSiblings q).any Forest.isSignificantText
      | none => false) = r.any isOtherText := by
  obtain ⟨op, _⟩ := o.parent
  unfold Forest.nextSibling
  rw [o.ctx nd hs]
  simp only
  cases r with
  | nil => simp
  | cons q r' =>
    simp only [List.head?_cons, kn]
    have hp := kidsOrdered_pairwise ho
    rw [hs] at hp
    have hq : q.value.category = .normal := by
      have h1 := (List.pairwise_cons.1 (List.pairwise_append.1 hp).2.1).1 q List.mem_cons_self
      have := rank_normal.2 kn
      have := rank_le_two q
      exact rank_normal.1 (by omega)
    simp only [hq, beq_self_eq_true, if_true]
    have hs' : p.kids = (l ++ [k]) ++ q :: r' := by rw [hs]; simp
    have oq : Occurs f q (p :: anc) := .kid op (by rw [hs']; simp)
    unfold Forest.followingSiblings
    rw [oq.ctx nd hs']
    simp only [hq]
    rw [any_filter_normal]

/-! ### the characterisation -/

theorem textOf_at {f : Forest} (nd : f.allHandles.Nodup) {t : HTree} {anc : List HTree} (o : Occurs f t anc) :
    f.textOf t.handle = (match t.value with | .text s => some s | _ => none) := by
  unfold Forest.textOf Forest.value?
  rw [o.get? nd]
  simp only [Option.map_some]
  cases t.value <;> rfl

theorem insig_bool (P W B A : Bool) :
    (if P then false else if !W then false else if B then false else !A) =
      (W && !(B || (!W || A)) && !P) := by
  cases P <;> cases W <;> cases B <;> cases A <;> rfl

/-- `is_insignificant_whitespace` at a position of a valid forest is the rule of the property. -/
theorem isInsig_eq {f : Forest} {b : Bool} (nd : f.allHandles.Nodup) (hv : validList b f.roots = true)
    {t : HTree} {anc : List HTree} (o : Occurs f t anc) :
    f.isInsignificantWhitespace t.handle = topDeleted anc t := by
  unfold Forest.isInsignificantWhitespace topDeleted deletable isWsOnlyText
  rw [textOf_at nd o]
  cases htv : t.value with
  | text s =>
    simp only
    have hk : t.kids = [] := text_no_kids (o.valid hv) htv
    have hsc : chainScope (t :: anc) = chainScope anc := by
      rw [chainScope, scope, spaceAttr_eq, hk]; rfl
    rw [inPreserveSpace_eq nd hv o, hsc, isXmlWhitespace_eq]
    have kn : t.value.category = .normal := by rw [htv]; rfl
    cases anc with
    | nil =>
      have hc := o.ctx_root nd
      simp only [Forest.prevSibling, Forest.nextSibling, hc, otherSibling]
      cases chainScope [] <;> cases allWs s <;> rfl
    | cons p anc =>
      obtain ⟨op, hkp⟩ := o.parent
      obtain ⟨l, r, hs⟩ := List.append_of_mem hkp
      have ho := kidsOrdered_of_valid (op.valid hv)
      have hb := before_eq nd o hs kn ho
      have ha := after_eq nd o hs kn ho
      simp only [otherSibling]
      rw [hs]
      simp only [List.any_append, List.any_cons]
      have : isOtherText t = !allWs s := by unfold isOtherText; rw [htv]
      rw [this, ← hb, ← ha]
      cases f.prevSibling t.handle <;> cases f.nextSibling t.handle <;> exact insig_bool _ _ _ _
  | _ => simp

end Fws
end XotModel
