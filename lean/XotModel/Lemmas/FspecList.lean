/-
  Facts about ONE child list: `noAdjacentText`, `kidsOrdered`, the specification's
  list functions (`dropTop`, `mergeRuns`, insertions) on a list split at a child.
-/
import XotModel.Lemmas.BasicFacts
import XotModel.Lemmas.FspecSite

namespace XotModel
open HTree Spec

/-- The character data of a text node. -/
def textData (t : HTree) : Option Str :=
  match t.value with
  | .text s => some s
  | _ => none

theorem textData_some {t : HTree} {x : Str} (h : textData t = some x) : t.value = .text x := by
  unfold textData at h
  split at h
  · rename_i s hs; rw [hs]; cases h; rfl
  · cases h

theorem textData_of_value {t : HTree} {x : Str} (h : t.value = .text x) : textData t = some x := by
  unfold textData; rw [h]

theorem isText_iff_textData {t : HTree} : t.value.isText = true ↔ ∃ x, textData t = some x := by
  constructor
  · intro h
    cases hv : t.value <;> simp [hv, Value.isText] at h
    exact ⟨_, textData_of_value hv⟩
  · intro ⟨x, hx⟩
    rw [textData_some hx]; rfl

theorem not_text_of_textData_none {t : HTree} (h : textData t = none) : ¬ t.value.isText = true := by
  intro ht
  obtain ⟨z, hz⟩ := isText_iff_textData.1 ht
  rw [h] at hz; cases hz

theorem textData_none_of_not_text {k : HTree} (h : ¬ k.value.isText = true) : textData k = none := by
  cases h' : textData k with
  | none => rfl
  | some z => exact absurd (isText_iff_textData.2 ⟨z, h'⟩) h

/-! ### `noAdjacentText` -/

theorem noAdj_nil : noAdjacentText [] = true := rfl
theorem noAdj_single (a : HTree) : noAdjacentText [a] = true := rfl
theorem noAdj_cons_cons (a b : HTree) (rest : List HTree) :
    noAdjacentText (a :: b :: rest) = (!(a.value.isText && b.value.isText) && noAdjacentText (b :: rest)) := rfl

theorem noAdj_tail {a : HTree} {rest : List HTree} (h : noAdjacentText (a :: rest) = true) :
    noAdjacentText rest = true := by
  cases rest with
  | nil => rfl
  | cons b rest => rw [noAdj_cons_cons, Bool.and_eq_true] at h; exact h.2

theorem noAdj_cons_cons_iff (a b : HTree) (rest : List HTree) :
    noAdjacentText (a :: b :: rest) = true ↔
      ¬ (a.value.isText = true ∧ b.value.isText = true) ∧ noAdjacentText (b :: rest) = true := by
  rw [noAdj_cons_cons, Bool.and_eq_true]
  cases a.value.isText <;> cases b.value.isText <;> simp

theorem noAdj_append {l r : List HTree} :
    noAdjacentText (l ++ r) = true ↔
      noAdjacentText l = true ∧ noAdjacentText r = true ∧
      ∀ a b, l.getLast? = some a → r.head? = some b → ¬ (a.value.isText = true ∧ b.value.isText = true) := by
  induction l with
  | nil => simp [noAdj_nil]
  | cons a l ih =>
    cases l with
    | nil =>
      cases r with
      | nil => simp [noAdj_single, noAdj_nil]
      | cons b r =>
        simp only [List.cons_append, List.nil_append, noAdj_cons_cons_iff, noAdj_single,
          List.getLast?_singleton, List.head?_cons, Option.some.injEq, true_and]
        constructor
        · intro ⟨h1, h2⟩
          refine ⟨h2, ?_⟩
          intro a' b' ea eb; subst ea eb
          exact h1
        · intro ⟨h2, h3⟩
          exact ⟨h3 a b rfl rfl, h2⟩
    | cons c l =>
      have ih' := ih
      simp only [List.cons_append] at ih' ⊢
      rw [noAdj_cons_cons, noAdj_cons_cons, Bool.and_eq_true, Bool.and_eq_true, ih']
      have : (a :: c :: l).getLast? = (c :: l).getLast? := by simp [List.getLast?_cons_cons]
      rw [this]
      constructor
      · intro ⟨h1, h2, h3, h4⟩; exact ⟨⟨h1, h2⟩, h3, h4⟩
      · intro ⟨⟨h1, h2⟩, h3, h4⟩; exact ⟨h1, h2, h3, h4⟩

/-! ### `mergeRuns` -/

theorem mergeInto_nil (keep : Keep) (cur : HTree) : mergeInto keep cur [] = [cur] := rfl

theorem mergeInto_cons_text {keep : Keep} {cur b : HTree} {rest : List HTree} {x y : Str}
    (hx : cur.value = .text x) (hy : b.value = .text y) :
    mergeInto keep cur (b :: rest) = mergeInto keep (join keep cur b x y) rest := by
  rw [mergeInto]; simp [hx, hy]

theorem mergeInto_cons_other {keep : Keep} {cur b : HTree} {rest : List HTree}
    (h : ¬ (cur.value.isText = true ∧ b.value.isText = true)) :
    mergeInto keep cur (b :: rest) = cur :: mergeInto keep b rest := by
  rw [mergeInto]
  split
  · rename_i x y hx hy
    exact absurd ⟨by rw [hx]; rfl, by rw [hy]; rfl⟩ h
  · rfl

theorem mergeInto_id (keep : Keep) : ∀ (rest : List HTree) (cur : HTree),
    noAdjacentText (cur :: rest) = true → mergeInto keep cur rest = cur :: rest
  | [], cur => fun _ => rfl
  | b :: rest, cur => by
    intro h
    obtain ⟨h1, h2⟩ := (noAdj_cons_cons_iff _ _ _).1 h
    rw [mergeInto_cons_other h1, mergeInto_id keep rest b h2]

theorem mergeRuns_id (keep : Keep) {L : List HTree} (h : noAdjacentText L = true) : mergeRuns keep L = L := by
  cases L with
  | nil => rfl
  | cons a rest => exact mergeInto_id keep rest a h

theorem join_value (keep : Keep) (a b : HTree) (x y : Str) : (join keep a b x y).value = .text (x ++ y) := by
  unfold join
  split
  · cases a; rfl
  · cases b; rfl

theorem noAdj_head {b c : HTree} {r : List HTree} (h : noAdjacentText (b :: r) = true)
    (e : c.value.isText = b.value.isText) : noAdjacentText (c :: r) = true := by
  cases r with
  | nil => rfl
  | cons d r => rw [noAdj_cons_cons] at h ⊢; rw [e]; exact h

/-- One seam `… a b …` of two text nodes behind a part without adjacent text: the merging goes
    on from the joined node (nothing is assumed about what follows). -/
theorem mergeInto_seam' (keep : Keep) {a b : HTree} {x y : Str} {r : List HTree}
    (hx : a.value = .text x) (hy : b.value = .text y) :
    ∀ (l : List HTree) (cur : HTree), noAdjacentText (cur :: (l ++ [a])) = true →
    mergeInto keep cur (l ++ a :: b :: r) = cur :: (l ++ mergeInto keep (join keep a b x y) r)
  | [], cur => by
    intro h
    rw [List.nil_append, mergeInto_cons_other ((noAdj_cons_cons_iff _ _ _).1 h).1, mergeInto_cons_text hx hy]
    rfl
  | d :: l, cur => by
    intro h
    obtain ⟨h1, h2⟩ := (noAdj_cons_cons_iff _ _ _).1 h
    rw [List.cons_append, mergeInto_cons_other h1, mergeInto_seam' keep hx hy l d h2]
    rfl

theorem mergeRuns_seam' (keep : Keep) {a b : HTree} {x y : Str} {l r : List HTree}
    (hx : a.value = .text x) (hy : b.value = .text y) (hl : noAdjacentText (l ++ [a]) = true) :
    mergeRuns keep (l ++ a :: b :: r) = l ++ mergeInto keep (join keep a b x y) r := by
  cases l with
  | nil => exact mergeInto_cons_text hx hy
  | cons c l => exact mergeInto_seam' keep hx hy l c hl

theorem mergeInto_join_id (keep : Keep) {a b : HTree} {x y : Str} {r : List HTree} (hy : b.value = .text y)
    (hr : noAdjacentText (b :: r) = true) : mergeInto keep (join keep a b x y) r = join keep a b x y :: r :=
  mergeInto_id keep r _ (noAdj_head hr (by rw [join_value, hy]; rfl))

theorem mergeRuns_seam (keep : Keep) {a b : HTree} {x y : Str} {l r : List HTree}
    (hx : a.value = .text x) (hy : b.value = .text y)
    (hl : noAdjacentText (l ++ [a]) = true) (hr : noAdjacentText (b :: r) = true) :
    mergeRuns keep (l ++ a :: b :: r) = l ++ join keep a b x y :: r := by
  rw [mergeRuns_seam' keep hx hy hl, mergeInto_join_id keep hy hr]

theorem fs_mem_mid_of_mem {l r : List HTree} (k : HTree) {k' : HTree} (h : k' ∈ l ++ r) : k' ∈ l ++ k :: r := by
  cases List.mem_append.1 h with
  | inl h => exact List.mem_append_left _ h
  | inr h => exact List.mem_append_right _ (List.mem_cons_of_mem _ h)

/-! ### `dropTop` -/

theorem dropTop_nil (n : Nat) : dropTop n [] = [] := rfl
theorem dropTop_cons (n : Nat) (k : HTree) (ks : List HTree) :
    dropTop n (k :: ks) = if k.handle = n then dropTop n ks else k :: dropTop n ks := rfl

theorem dropTop_eq_filter (n : Nat) : ∀ L : List HTree, dropTop n L = L.filter (fun r => r.handle != n)
  | [] => rfl
  | k :: ks => by
    rw [dropTop_cons, List.filter_cons, dropTop_eq_filter n ks]
    by_cases h : k.handle = n <;> simp [h]

theorem dropTop_of_not_top {n : Nat} : ∀ L : List HTree, (∀ k ∈ L, k.handle ≠ n) → dropTop n L = L
  | [] => fun _ => rfl
  | k :: ks => by
    intro h
    rw [dropTop_cons, if_neg (h k List.mem_cons_self),
      dropTop_of_not_top ks (fun k' hk' => h k' (List.mem_cons_of_mem _ hk'))]

theorem dropTop_append (n : Nat) (a b : List HTree) : dropTop n (a ++ b) = dropTop n a ++ dropTop n b := by
  induction a with
  | nil => rfl
  | cons k ks ih =>
    rw [List.cons_append, dropTop_cons, dropTop_cons, ih]
    split <;> rfl

theorem dropTop_mid {n : Nat} {l : List HTree} {s : HTree} {r : List HTree} (hs : s.handle = n)
    (hl : ∀ k ∈ l, k.handle ≠ n) (hr : ∀ k ∈ r, k.handle ≠ n) : dropTop n (l ++ s :: r) = l ++ r := by
  rw [dropTop_append, dropTop_cons, if_pos hs, dropTop_of_not_top l hl, dropTop_of_not_top r hr]

theorem tops_ne_of_nodup {l : List HTree} {s : HTree} {r : List HTree}
    (nd : (handlesList (l ++ s :: r)).Nodup) :
    (∀ k ∈ l, k.handle ≠ s.handle) ∧ (∀ k ∈ r, k.handle ≠ s.handle) := by
  obtain ⟨m1, m2, _⟩ := nodup_mid nd
  exact ⟨fun k hk e => m1 _ (handle_mem_handles s) (e ▸ rootHandle_mem_handlesList hk),
    fun k hk e => m2 _ (handle_mem_handles s) (e ▸ rootHandle_mem_handlesList hk)⟩

theorem fs_eq_of_mem_of_handle {l : List HTree} {s : HTree} {r : List HTree} {k : HTree}
    (nd : (handlesList (l ++ s :: r)).Nodup) (hk : k ∈ l ++ s :: r) (e : k.handle = s.handle) : k = s := by
  obtain ⟨tl, tr⟩ := tops_ne_of_nodup nd
  cases List.mem_append.1 hk with
  | inl h => exact absurd e (tl k h)
  | inr h =>
    cases List.mem_cons.1 h with
    | inl h' => exact h'
    | inr h' => exact absurd e (tr k h')

/-! ### `kidsOrdered` -/

theorem kidsOrdered_cons_cons (a b : HTree) (rest : List HTree) :
    kidsOrdered (a :: b :: rest) = (decide (a.value.category.rank ≤ b.value.category.rank) && kidsOrdered (b :: rest)) := rfl

theorem kidsOrdered_tail {a : HTree} {rest : List HTree} (h : kidsOrdered (a :: rest) = true) :
    kidsOrdered rest = true := by
  cases rest with
  | nil => rfl
  | cons b rest => rw [kidsOrdered_cons_cons, Bool.and_eq_true] at h; exact h.2

theorem kidsOrdered_drop : ∀ (l : List HTree) {r : List HTree}, kidsOrdered (l ++ r) = true → kidsOrdered r = true
  | [], _ => fun h => h
  | a :: l, _ => fun h => kidsOrdered_drop l (kidsOrdered_tail h)

theorem kidsOrdered_rank_le {a : HTree} : ∀ (rest : List HTree), kidsOrdered (a :: rest) = true →
    ∀ b ∈ rest, a.value.category.rank ≤ b.value.category.rank
  | [], _ => by intro b hb; cases hb
  | c :: rest, h => by
    rw [kidsOrdered_cons_cons, Bool.and_eq_true, decide_eq_true_eq] at h
    intro b hb
    cases List.mem_cons.1 hb with
    | inl e => rw [e]; exact h.1
    | inr e => exact Nat.le_trans h.1 (kidsOrdered_rank_le rest h.2 b e)

theorem rank_normal {v : Value} : v.category.rank = 2 ↔ v.category = .normal := by
  cases hv : v.category <;> simp [Category.rank]

theorem isNormal_iff_rank {v : Value} : v.isNormal = true ↔ v.category.rank = 2 := by
  rw [rank_normal]; unfold Value.isNormal; simp

theorem between_texts_normal {l : List HTree} {a k b : HTree} {r : List HTree}
    (ho : kidsOrdered (l ++ a :: k :: b :: r) = true) (ha : a.value.isText = true) :
    k.value.category = .normal := by
  have h1 := kidsOrdered_drop l ho
  have := kidsOrdered_rank_le _ h1 k List.mem_cons_self
  rw [rank_normal.2 (category_normal_of_isText ha)] at this
  exact rank_normal.1 (Nat.le_antisymm (fi_rank_le_two _) this)

theorem rank_le_of_ordered : ∀ (l : List HTree) {x : HTree} {rest : List HTree},
    kidsOrdered (l ++ x :: rest) = true → ∀ k ∈ l, k.value.category.rank ≤ x.value.category.rank
  | [], _, _, _ => by intro k hk; cases hk
  | a :: l, x, rest, h => by
    intro k hk
    cases List.mem_cons.1 hk with
    | inl e => rw [e]; exact kidsOrdered_rank_le _ h x (by simp)
    | inr e => exact rank_le_of_ordered l (kidsOrdered_tail h) k e

theorem insertFirstNormal_split (wt : HTree) : ∀ (l r : List HTree), (∀ k ∈ l, k.value.isNormal = false) →
    (∀ k ∈ r, k.value.isNormal = true) → insertFirstNormal wt (l ++ r) = l ++ wt :: r
  | [], [], _, _ => rfl
  | [], k :: r, _, hr => by simp [insertFirstNormal, hr k]
  | a :: l, r, hl, hr => by
    simp only [List.cons_append, insertFirstNormal, hl a List.mem_cons_self, Bool.false_eq_true, if_false]
    rw [insertFirstNormal_split wt l r (fun k hk => hl k (List.mem_cons_of_mem _ hk)) hr]

end XotModel
