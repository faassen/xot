/-
  Construction programs with navigation and inputs (`Prog3`): one call (navigation is a read of the store; `remove` /
  `clear` of entries through the `remove` call; `clear()` always accepted on an element), then whole programs in both
  directions and exact refusals.  The programs of the two earlier generations are embedded (`Step.old`, `Step.base`)
  and run as before, so their whole-program theorems are these, read back.
-/
import XotModel.Model.FanyorderSpec3
import XotModel.Lemmas.FprogExtended
import XotModel.Lemmas.FmapSteps

/-! ### One call, then whole programs: specification ⇒ implementation

Programs with navigation and inputs (`Model/FanyorderSpec3.lean`):
per call "specification ⇒ implementation" and "the specification preserves `Forest.Inv`", then the
whole run.

* `Step.old`: `Prog2.call_spec_impl` / `Prog2.spec_inv` (C05 per call, by name).
* navigation: the same read of the same store on both sides — nothing to prove once the two
  states are equal, which is what the induction maintains;
* `remove_attribute` / `remove_namespace`: `MutableNodeMap::remove` finds the entry node with
  `get_node` and calls `remove` on it; the entry node is live (`mapGetNode_live`), so the call IS the
  `remove` call of `Prog2` (`C05_pair_remove`);
* `clear()`: the same, once per entry node (`clear_run`);
* `namespace_node_mut().set_namespace`, `processing_instruction_mut().set_target`:
  `Forest.setValue` = `specSetValue` and the value keeps its kind (`Prog2.specSetValue_inv`). -/

namespace XotModel
namespace Prog3
open HTree Spec Prog XotModel.Props
open Forest (MapKind)

theorem kid_live {f : Forest} (inv : f.Inv) {e : Nat} {t c : HTree} (hg : f.get? e = some t)
    (hc : c ∈ t.kids) : f.get? c.handle = some c := by
  have he : t.handle = e := (findList?_some f.roots t hg).1
  cases t with
  | node h v ks =>
    simp only [HTree.handle] at he
    subst he
    exact PairAfter.site_getKid (f := f) (p := h) (v := v) (L := ks) ⟨inv.nodup, hg⟩ hc

theorem mapGetNode_live {f : Forest} (inv : f.Inv) {k : MapKind} {e key : Nat} {n : HTree}
    (h : f.mapGetNode k e key = some n) : f.get? n.handle = some n := by
  unfold Forest.mapGetNode at h
  cases hg : f.get? e with
  | none => rw [hg] at h; cases h
  | some t =>
    rw [hg] at h
    simp only at h
    exact kid_live inv hg (Forest.mapChildren_sub k t _ (List.mem_of_find?_eq_some h))

theorem remove_call {f : Forest} (inv : f.Inv) {n : Nat} (hl : f.isLive n = true) :
    f.remove n = (specRemoveP n f, .ok) ∧ (specRemoveP n f).Inv ∧
      (specRemoveP n f).consolidation = f.consolidation ∧ (specRemoveP n f).everOff = f.everOff := by
  have e : (f.remove n).1 = specRemoveP n f := C05_pair_remove inv hl
  refine ⟨Prod.ext e rfl, ?_, (Finv.specRemoveP_fields n f).1, (Finv.specRemoveP_fields n f).2.1⟩
  rw [← e]
  exact Forest.remove_inv inv n

/-- `clear()`: the entry nodes are removed one after the other. -/
theorem clear_run : ∀ (L : List HTree) (f f' : Forest), f.Inv → FlagsOk f →
    specRemoveAll (L.map (·.handle)) f = some f' →
    L.foldl (fun acc c => (acc.remove c.handle).1) f = f' ∧ f'.Inv ∧
      f'.consolidation = f.consolidation ∧ f'.everOff = f.everOff
  | [] => by
    intro f f' inv _ h
    simp only [List.map_nil, specRemoveAll, Option.some.injEq] at h
    subst h
    exact ⟨rfl, inv, rfl, rfl⟩
  | c :: L => by
    intro f f' inv hfl h
    simp only [List.map_cons, specRemoveAll] at h
    split at h
    · rename_i hl
      obtain ⟨e, i1, a1, b1⟩ := remove_call inv hl
      obtain ⟨r, i2, a2, b2⟩ := clear_run L _ f' i1 (hfl.of_eq a1 b1) h
      refine ⟨?_, i2, a2.trans a1, b2.trans b1⟩
      simp only [List.foldl_cons, e]
      exact r
    · cases h

/-- A call the specification accepts is answered `ok` by the implementation, with the
    specification's store and result; the store satisfies the invariant again, flags unchanged. -/
theorem call_spec_impl {f f' : Forest} {c : Call} {o : Option Nat} (inv : f.Inv) (hfl : FlagsOk f)
    (h : c.spec f = some (f', o)) :
    c.impl f = (f', .ok, o) ∧ f'.Inv ∧ f'.consolidation = f.consolidation ∧ f'.everOff = f.everOff := by
  cases c with
  | old c => exact ⟨Prog2.call_spec_impl inv hfl c h, Prog2.spec_inv inv hfl h⟩
  | found x =>
    simp only [Call.spec, Option.some.injEq, Prod.mk.injEq] at h
    obtain ⟨h1, h2⟩ := h
    subst h1 h2
    exact ⟨rfl, inv, rfl, rfl⟩
  | mapRemove k e key =>
    simp only [Call.spec] at h
    split at h
    · rename_i he
      rw [isElementAt_eq] at he
      simp only [Call.impl]
      unfold Forest.mapRemove
      rw [he]
      simp only [Bool.not_true, Bool.false_eq_true, if_false]
      cases hn : f.mapGetNode k e key with
      | none =>
        rw [hn] at h
        simp only [Option.some.injEq, Prod.mk.injEq] at h
        obtain ⟨h1, h2⟩ := h
        subst h1 h2
        exact ⟨rfl, inv, rfl, rfl⟩
      | some n =>
        rw [hn] at h
        simp only [Option.some.injEq, Prod.mk.injEq] at h
        obtain ⟨h1, h2⟩ := h
        subst h1 h2
        obtain ⟨e1, i1, a1, b1⟩ := remove_call inv (Forest.isLive_of_get? (mapGetNode_live inv hn))
        simp only [e1]
        exact ⟨trivial, i1, a1, b1⟩
    · cases h
  | mapClear k e =>
    simp only [Call.spec] at h
    split at h
    · rename_i he
      rw [isElementAt_eq] at he
      cases hr : specRemoveAll (entryHandles f k e) f with
      | none => rw [hr] at h; cases h
      | some g =>
        rw [hr] at h
        simp only [Option.map_some, Option.some.injEq, Prod.mk.injEq] at h
        obtain ⟨h1, h2⟩ := h
        subst h1 h2
        simp only [Call.impl]
        unfold Forest.mapClear
        rw [he]
        simp only [Bool.not_true, Bool.false_eq_true, if_false]
        unfold entryHandles at hr
        cases hg : f.get? e with
        | none =>
          rw [hg] at hr
          simp only [specRemoveAll, Option.some.injEq] at hr
          subst hr
          exact ⟨rfl, inv, rfl, rfl⟩
        | some t =>
          rw [hg] at hr
          simp only at hr
          obtain ⟨r, i1, a1, b1⟩ := clear_run _ f g inv hfl hr
          simp only [r]
          exact ⟨trivial, i1, a1, b1⟩
    · cases h
  | nsSetNamespace n ns =>
    simp only [Call.spec] at h
    split at h
    · rename_i p x hv
      simp only [Option.some.injEq, Prod.mk.injEq] at h
      obtain ⟨h1, h2⟩ := h
      subst h1 h2
      simp only [Call.impl]
      unfold Forest.namespaceSetNamespace
      rw [hv]
      simp only [setValue_eq_spec]
      exact ⟨trivial, Prog2.specSetValue_inv inv hv (by simp [Prog2.sameKind]), rfl, rfl⟩
    · cases h
  | piSetTarget n t =>
    simp only [Call.spec] at h
    split at h
    · rename_i x d hv
      simp only [Option.some.injEq, Prod.mk.injEq] at h
      obtain ⟨h1, h2⟩ := h
      subst h1 h2
      simp only [Call.impl]
      unfold Forest.piSetTarget
      rw [hv]
      simp only [setValue_eq_spec]
      exact ⟨trivial, Prog2.specSetValue_inv inv hv rfl, rfl, rfl⟩
    · cases h

theorem step_spec_impl {s s' : State} {st : Step} (inv : s.forest.Inv) (hfl : FlagsOk s.forest)
    (h : stepSpec s st = some s') : stepImpl s st = (s', .ok) ∧ s'.forest.Inv ∧ FlagsOk s'.forest := by
  unfold stepSpec at h
  unfold stepImpl
  cases hr : st.resolve s.forest s.env with
  | none => rw [hr] at h; cases h
  | some c =>
    rw [hr] at h
    simp only at h ⊢
    cases hc : c.spec s.forest with
    | none => rw [hc] at h; cases h
    | some fo =>
      obtain ⟨f', o⟩ := fo
      rw [hc] at h
      simp only [Option.some.injEq] at h
      obtain ⟨e, i, a, b⟩ := call_spec_impl inv hfl hc
      rw [e, ← h]
      exact ⟨rfl, i, hfl.of_eq a b⟩

/-- **Refinement, specification ⇒ implementation**, for programs with navigation and inputs: a
    program the specification accepts is carried out by the implementation without a refusal and
    ends in the specification's state — same trees, same node names, same results (so every later
    navigation finds the same node on both sides); the invariant holds at the end. -/
theorem run_spec_impl : ∀ (P : Program) (s s' : State), s.forest.Inv → FlagsOk s.forest →
    runSpec s P = some s' → runImpl s P = (s', .ok) ∧ s'.forest.Inv ∧ FlagsOk s'.forest
  | [] => by
    intro s s' inv hfl h
    simp only [runSpec, Option.some.injEq] at h
    subst h
    exact ⟨rfl, inv, hfl⟩
  | st :: rest => by
    intro s s' inv hfl h
    simp only [runSpec] at h
    cases hs : stepSpec s st with
    | none => rw [hs] at h; cases h
    | some s1 =>
      rw [hs] at h
      obtain ⟨e1, i1, f1⟩ := step_spec_impl inv hfl hs
      simp only [runImpl, e1]
      exact run_spec_impl rest s1 s' i1 f1 h

/-- The first refused step is not before the first ill-formed step … and a well-formed program has
    no refused step. -/
theorem firstRefused_none : ∀ (P : Program) (s s' : State), s.forest.Inv → FlagsOk s.forest →
    runSpec s P = some s' → firstRefused s P = none ∧ firstIllFormed s P = none
  | [] => fun _ _ _ _ _ => ⟨rfl, rfl⟩
  | st :: rest => by
    intro s s' inv hfl h
    simp only [runSpec] at h
    cases hs : stepSpec s st with
    | none => rw [hs] at h; cases h
    | some s1 =>
      rw [hs] at h
      obtain ⟨e1, i1, f1⟩ := step_spec_impl inv hfl hs
      obtain ⟨a, b⟩ := firstRefused_none rest s1 s' i1 f1 h
      simp only [firstRefused, firstIllFormed, e1, hs, a, b, Option.map_none]
      first | exact ⟨rfl, rfl⟩ | trivial

theorem old_steps (s : State) (st : Prog2.Step) :
    stepSpec s (.old st) = Prog2.stepSpec s st ∧ stepImpl s (.old st) = Prog2.stepImpl s st := by
  constructor
  · unfold stepSpec Prog2.stepSpec
    simp only [Step.resolve]
    cases st.resolve s.env <;> rfl
  · unfold stepImpl Prog2.stepImpl
    simp only [Step.resolve]
    cases st.resolve s.env <;> rfl

theorem run_old (s : State) (P : Prog2.Program) :
    runSpec s (ofOld P) = Prog2.runSpec s P ∧ runImpl s (ofOld P) = Prog2.runImpl s P := by
  induction P generalizing s with
  | nil => exact ⟨rfl, rfl⟩
  | cons st rest ih =>
    obtain ⟨e1, e2⟩ := old_steps s st
    constructor
    · simp only [ofOld, List.map_cons, runSpec, Prog2.runSpec, e1]
      cases Prog2.stepSpec s st with
      | none => rfl
      | some s1 => exact (ih s1).1
    · simp only [ofOld, List.map_cons, runImpl, Prog2.runImpl, e2]
      cases h : Prog2.stepImpl s st with
      | mk s1 r =>
        cases r with
        | ok => exact (ih s1).2
        | err e => rfl
        | panic => rfl

end Prog3
end XotModel

/-! ### `clear()` on an element is always accepted

`clear()` of the attribute / namespace view of an ELEMENT is always
accepted by the specification — each entry node collected at the start is still there when its turn
comes (`Prog3.specRemoveAll` tests that): removing an entry node removes exactly that child
(`Fmap.remove_child`), the element stays located with the remaining children (`Fmap.located_after_cut`). -/

namespace XotModel
namespace Prog3
open HTree Spec Prog XotModel.Props Fmap
open Forest (MapKind)

theorem removeAll_accepted (e : Nat) (ev : Value) (pre post : List HTree) :
    ∀ (cs : List HTree) (f : Forest), f.Inv → Located f e ev (pre ++ cs ++ post) →
      (∀ c ∈ cs, c.value.category ≠ .normal) → ∃ g, specRemoveAll (cs.map (·.handle)) f = some g
  | [] => fun f _ _ _ => ⟨f, rfl⟩
  | c :: cs => by
    intro f inv hl hc
    have hl' : Located f e ev (pre ++ c :: (cs ++ post)) := by
      have : pre ++ c :: cs ++ post = pre ++ c :: (cs ++ post) := by simp
      rw [← this]; exact hl
    have hrem := remove_child hl' (hc c List.mem_cons_self)
    have hl1 := located_after_cut hl'
    have hk : pre ++ (cs ++ post) = pre ++ cs ++ post := by simp
    rw [hk] at hrem hl1
    have hlive : f.isLive c.handle = true :=
      Forest.isLive_of_get? (PairAfter.site_getKid (f := f) (p := e) (v := ev) ⟨hl'.nodup, hl'.get⟩ (by simp))
    obtain ⟨e1, i1, _⟩ := remove_call inv hlive
    have e2 : specRemoveP c.handle f = { f with roots := withKids f.roots e (pre ++ cs ++ post) } := by
      have := congrArg (·.1) (e1.symm.trans hrem)
      exact this
    simp only [List.map_cons, specRemoveAll, hlive, if_true]
    rw [e2] at i1 ⊢
    exact removeAll_accepted e ev pre post cs _ i1 hl1
      (fun x hx => hc x (List.mem_cons_of_mem _ hx))

/-- **`clear()` on an element is well-formed**: the specification accepts it. -/
theorem clear_accepted {f : Forest} (inv : f.Inv) (hfl : FlagsOk f) (k : MapKind) {e : Nat}
    (he : f.isElement e = true) : ∃ g, specRemoveAll (entryHandles f k e) f = some g := by
  obtain ⟨nm, N, A, S, h⟩ := minv_of_inv f e inv he
  unfold entryHandles
  rw [h.loc.get]
  simp only
  rw [mapChildren_eq]
  simp only [HTree.kids]
  rw [h.sect.kidsOf]
  have hl : Located f e (.element nm) (preK k N ++ Sect.sec k N A ++ postK k A S) := by
    rw [← split_kids]; exact h.loc
  exact removeAll_accepted e _ (preK k N) (postK k A S) (Sect.sec k N A) f inv hl
    (fun c hc => by rw [h.sect.sec_cat k c hc]; exact kindCat_ne_normal k)

/-- `clear()` is accepted exactly on elements. -/
theorem mapClear_spec_isSome {f : Forest} (inv : f.Inv) (hfl : FlagsOk f) (k : MapKind) (e : Nat) :
    ((Call.mapClear k e).spec f).isSome = f.isElement e := by
  simp only [Call.spec, isElementAt_eq]
  by_cases he : f.isElement e = true
  · obtain ⟨g, hg⟩ := clear_accepted inv hfl k he
    simp [he, hg]
  · simp [he]

end Prog3
end XotModel

/-! ### Implementation ⇒ specification; refusals are exact

The converse direction: a
program every step of which the implementation answers `ok` is accepted by the specification, with
the same final state; refusals are exact.  As for `Prog2` (`Lemmas/FprogExtended.lean`): "answered ok ⇒
accepted" per call (`spec_of_ok`), then `call_spec_impl` gives the equality of the results.
Navigation: a navigation that finds nothing is a `panic`, so an `ok` run has resolved every step. -/

namespace XotModel
namespace Prog3
open HTree Spec Prog XotModel.Props
open Forest (MapKind)

theorem spec_of_ok {f : Forest} (inv : f.Inv) (hfl : FlagsOk f) (c : Call) (hs : c.inScope f = true)
    {f' : Forest} {o : Option Nat} (h : c.impl f = (f', .ok, o)) : ∃ g o', c.spec f = some (g, o') := by
  cases c with
  | old c => exact ⟨f', o, Prog2.call_impl_spec inv hfl c hs h⟩
  | found x => exact ⟨f, some x, rfl⟩
  | mapRemove k e key =>
    have he : f.isElement e = true := by
      cases hh : f.isElement e with
      | true => rfl
      | false =>
        simp only [Call.impl] at h
        unfold Forest.mapRemove at h
        simp [hh] at h
    simp only [Call.spec, isElementAt_eq, he, if_true]
    cases f.mapGetNode k e key with
    | none => exact ⟨_, _, rfl⟩
    | some n => exact ⟨_, _, rfl⟩
  | mapClear k e =>
    have he : f.isElement e = true := by
      cases hh : f.isElement e with
      | true => rfl
      | false =>
        simp only [Call.impl] at h
        unfold Forest.mapClear at h
        simp [hh] at h
    simp only [Call.spec, isElementAt_eq, he, if_true]
    obtain ⟨g, hg⟩ := clear_accepted inv hfl k he
    rw [hg]
    exact ⟨g, none, rfl⟩
  | nsSetNamespace n ns =>
    have hok : (f.namespaceSetNamespace n ns).2 = .ok := congrArg (fun x => x.2.1) h
    obtain ⟨p, old, hv, _⟩ := (C05_creation_setters (f := f) (n := n)).2.2.1 ns hok
    exact ⟨specSetValue n (.namespace p ns) f, none, by simp only [Call.spec, hv]⟩
  | piSetTarget n t =>
    have hok : (f.piSetTarget n t).2 = .ok := congrArg (fun x => x.2.1) h
    obtain ⟨old, d, hv, _⟩ := (C05_creation_setters (f := f) (n := n)).2.2.2.1 t hok
    exact ⟨specSetValue n (.pi t d) f, none, by simp only [Call.spec, hv]⟩

/-- **One call, implementation ⇒ specification**, same store, same result. -/
theorem call_impl_spec {f : Forest} (inv : f.Inv) (hfl : FlagsOk f) (c : Call) (hs : c.inScope f = true)
    {f' : Forest} {o : Option Nat} (h : c.impl f = (f', .ok, o)) : c.spec f = some (f', o) := by
  obtain ⟨g, o', hsp⟩ := spec_of_ok inv hfl c hs h
  have := (call_spec_impl inv hfl hsp).1
  rw [h] at this
  simp only [Prod.mk.injEq, true_and] at this
  rw [hsp, this.1, this.2]

theorem step_impl_spec {s s' : State} {st : Step} (inv : s.forest.Inv) (hfl : FlagsOk s.forest)
    (hsc : ∀ c, st.resolve s.forest s.env = some c → c.inScope s.forest = true)
    (h : stepImpl s st = (s', .ok)) : stepSpec s st = some s' := by
  unfold stepImpl at h
  unfold stepSpec
  cases hr : st.resolve s.forest s.env with
  | none => rw [hr] at h; simp at h
  | some c =>
    rw [hr] at h
    simp only at h ⊢
    cases hi : c.impl s.forest with
    | mk f' ro =>
      obtain ⟨r, o⟩ := ro
      rw [hi] at h
      simp only [Prod.mk.injEq] at h
      obtain ⟨h1, h2⟩ := h
      subst h2
      rw [call_impl_spec inv hfl c (hsc c hr) hi]
      simp only
      rw [← h1]

/-- **Refinement, implementation ⇒ specification**, programs with navigation and inputs. -/
theorem run_impl_spec : ∀ (P : Program) (s : State), s.forest.Inv → FlagsOk s.forest → inScope s P = true →
    (runImpl s P).2 = .ok → runSpec s P = some (runImpl s P).1
  | [] => fun _ _ _ _ _ => rfl
  | st :: rest => by
    intro s inv hfl hsc hok
    simp only [runImpl] at hok ⊢
    simp only [runSpec]
    simp only [inScope, Bool.and_eq_true] at hsc
    obtain ⟨hsc1, hsc2⟩ := hsc
    cases hst : stepImpl s st with
    | mk s' r =>
      rw [hst] at hok hsc2
      cases r with
      | ok =>
        simp only at hok hsc2 ⊢
        have hsc' : ∀ c, st.resolve s.forest s.env = some c → c.inScope s.forest = true := by
          intro c hc; rw [hc] at hsc1; exact hsc1
        have e1 := step_impl_spec inv hfl hsc' hst
        rw [e1]
        obtain ⟨_, i1, f1⟩ := step_spec_impl inv hfl e1
        exact run_impl_spec rest s' i1 f1 hsc2 hok
      | err e => simp at hok
      | panic => simp at hok

/-- The first step the implementation does not answer `ok` is the first step the specification calls
    ill-formed (a navigation that finds nothing included). -/
theorem firstRefused_eq : ∀ (P : Program) (s : State), s.forest.Inv → FlagsOk s.forest → inScope s P = true →
    firstRefused s P = firstIllFormed s P
  | [] => fun _ _ _ _ => rfl
  | st :: rest => by
    intro s inv hfl hsc
    simp only [inScope, Bool.and_eq_true] at hsc
    obtain ⟨hsc1, hsc2⟩ := hsc
    simp only [firstRefused, firstIllFormed]
    cases hs : stepSpec s st with
    | some s1 =>
      obtain ⟨hi, i1, f1⟩ := step_spec_impl inv hfl hs
      rw [hi] at hsc2 ⊢
      simp only at hsc2 ⊢
      rw [firstRefused_eq rest s1 i1 f1 hsc2]
    | none =>
      cases hst : stepImpl s st with
      | mk s' r =>
        cases r with
        | ok =>
          exfalso
          have hsc' : ∀ c, st.resolve s.forest s.env = some c → c.inScope s.forest = true := by
            intro c hc; rw [hc] at hsc1; exact hsc1
          have := step_impl_spec inv hfl hsc' hst
          rw [hs] at this; cases this
        | err e => rfl
        | panic => rfl

end Prog3
end XotModel

/-! ### Whole programs of the first two generations

`Prog.Step ⊂ Prog2.Step ⊂ Prog3.Step` (`Step.base`, `Step.old`), on one state type, and an embedded
step runs as it did (`Prog2.base_steps`, `Prog3.old_steps`).  So the run theorems are proved once,
for `Prog3` (the parts above), and read back along the embeddings. -/

namespace XotModel
open Spec Prog

/-! ### `Prog2` inside `Prog3` -/

namespace Prog3

theorem first_old (s : State) (P : Prog2.Program) :
    firstIllFormed s (ofOld P) = Prog2.firstIllFormed s P ∧
    firstRefused s (ofOld P) = Prog2.firstRefused s P ∧
    inScope s (ofOld P) = Prog2.inScope s P := by
  induction P generalizing s with
  | nil => exact ⟨rfl, rfl, rfl⟩
  | cons st rest ih =>
    obtain ⟨e1, e2⟩ := old_steps s st
    refine ⟨?_, ?_, ?_⟩
    · simp only [ofOld, List.map_cons, firstIllFormed, Prog2.firstIllFormed, e1]
      cases Prog2.stepSpec s st with
      | none => rfl
      | some s1 => exact congrArg (Option.map (· + 1)) (ih s1).1
    · simp only [ofOld, List.map_cons, firstRefused, Prog2.firstRefused, e2]
      cases h : Prog2.stepImpl s st with
      | mk s1 r => cases r <;> first | rfl | exact congrArg (Option.map (· + 1)) (ih s1).2.1
    · simp only [ofOld, List.map_cons, inScope, Prog2.inScope, e2, Step.resolve]
      congr 1
      · cases st.resolve s.env <;> rfl
      · cases h : Prog2.stepImpl s st with
        | mk s1 r => cases r <;> first | rfl | exact (ih s1).2.2

end Prog3

namespace Prog2

theorem run_spec_impl (P : Program) (s s' : State) (inv : s.forest.Inv) (hfl : FlagsOk s.forest)
    (h : runSpec s P = some s') : runImpl s P = (s', .ok) := by
  rw [← (Prog3.run_old s P).1] at h
  rw [← (Prog3.run_old s P).2]
  exact (Prog3.run_spec_impl _ s s' inv hfl h).1

theorem runSpec_inv (P : Program) (s s' : State) (inv : s.forest.Inv) (hfl : FlagsOk s.forest)
    (h : runSpec s P = some s') : s'.forest.Inv ∧ FlagsOk s'.forest := by
  rw [← (Prog3.run_old s P).1] at h
  exact (Prog3.run_spec_impl _ s s' inv hfl h).2

theorem run_impl_spec (P : Program) (s : State) (inv : s.forest.Inv) (hfl : FlagsOk s.forest)
    (hsc : inScope s P = true) (hok : (runImpl s P).2 = .ok) : runSpec s P = some (runImpl s P).1 := by
  rw [← (Prog3.first_old s P).2.2] at hsc
  rw [← (Prog3.run_old s P).1, ← (Prog3.run_old s P).2] at *
  exact Prog3.run_impl_spec _ s inv hfl hsc hok

theorem firstRefused_eq (P : Program) (s : State) (inv : s.forest.Inv) (hfl : FlagsOk s.forest)
    (hsc : inScope s P = true) : firstRefused s P = firstIllFormed s P := by
  rw [← (Prog3.first_old s P).2.2] at hsc
  rw [← (Prog3.first_old s P).1, ← (Prog3.first_old s P).2.1]
  exact Prog3.firstRefused_eq _ s inv hfl hsc

/-! ### `Prog` inside `Prog2` -/

theorem base_steps (s : State) (st : Prog.Step) :
    stepSpec s (.base st) = Prog.stepSpec s st ∧ stepImpl s (.base st) = Prog.stepImpl s st := by
  constructor
  · unfold stepSpec Prog.stepSpec
    simp only [Step.resolve]
    cases st.resolve s.env <;> rfl
  · unfold stepImpl Prog.stepImpl
    simp only [Step.resolve]
    cases st.resolve s.env <;> rfl

theorem run_base (s : State) (P : Prog.Program) :
    runSpec s (ofBase P) = Prog.runSpec s P ∧ runImpl s (ofBase P) = Prog.runImpl s P := by
  induction P generalizing s with
  | nil => exact ⟨rfl, rfl⟩
  | cons st rest ih =>
    obtain ⟨e1, e2⟩ := base_steps s st
    constructor
    · simp only [ofBase, List.map_cons, runSpec, Prog.runSpec, e1]
      cases Prog.stepSpec s st with
      | none => rfl
      | some s1 => exact (ih s1).1
    · simp only [ofBase, List.map_cons, runImpl, Prog.runImpl, e2]
      cases h : Prog.stepImpl s st with
      | mk s1 r => cases r <;> first | rfl | exact (ih s1).2

theorem first_base (s : State) (P : Prog.Program) :
    firstIllFormed s (ofBase P) = Prog.firstIllFormed s P ∧
    firstRefused s (ofBase P) = Prog.firstRefused s P ∧
    inScope s (ofBase P) = Prog.inScope s P := by
  induction P generalizing s with
  | nil => exact ⟨rfl, rfl, rfl⟩
  | cons st rest ih =>
    obtain ⟨e1, e2⟩ := base_steps s st
    refine ⟨?_, ?_, ?_⟩
    · simp only [ofBase, List.map_cons, firstIllFormed, Prog.firstIllFormed, e1]
      cases Prog.stepSpec s st with
      | none => rfl
      | some s1 => exact congrArg (Option.map (· + 1)) (ih s1).1
    · simp only [ofBase, List.map_cons, firstRefused, Prog.firstRefused, e2]
      cases h : Prog.stepImpl s st with
      | mk s1 r => cases r <;> first | rfl | exact congrArg (Option.map (· + 1)) (ih s1).2.1
    · simp only [ofBase, List.map_cons, inScope, Prog.inScope, e2, Step.resolve]
      congr 1
      · cases st.resolve s.env <;> rfl
      · cases h : Prog.stepImpl s st with
        | mk s1 r => cases r <;> first | rfl | exact (ih s1).2.2

end Prog2

namespace Prog

theorem run_spec_impl (P : Program) (s s' : State) (inv : s.forest.Inv) (hfl : FlagsOk s.forest)
    (h : runSpec s P = some s') : runImpl s P = (s', .ok) := by
  rw [← (Prog2.run_base s P).1] at h
  rw [← (Prog2.run_base s P).2]
  exact Prog2.run_spec_impl _ s s' inv hfl h

theorem runSpec_inv (P : Program) (s s' : State) (inv : s.forest.Inv) (hfl : FlagsOk s.forest)
    (h : runSpec s P = some s') : s'.forest.Inv ∧ FlagsOk s'.forest := by
  rw [← (Prog2.run_base s P).1] at h
  exact Prog2.runSpec_inv _ s s' inv hfl h

/-- **Refinement** from the invariant of the start store alone. -/
theorem run_refine_inv (P : Program) (s : State) (inv : s.forest.Inv) (hfl : FlagsOk s.forest)
    (hsc : inScope s P = true) (hok : (runImpl s P).2 = .ok) :
    runSpec s P = some (runImpl s P).1 ∧ (runImpl s P).1.forest.Inv ∧ FlagsOk (runImpl s P).1.forest := by
  have h : runSpec s P = some (runImpl s P).1 := by
    rw [← (Prog2.first_base s P).2.2] at hsc
    rw [← (Prog2.run_base s P).1, ← (Prog2.run_base s P).2] at *
    exact Prog2.run_impl_spec _ s inv hfl hsc hok
  exact ⟨h, runSpec_inv P s _ inv hfl h⟩

theorem firstRefused_eq (P : Program) (s : State) (inv : s.forest.Inv) (hfl : FlagsOk s.forest)
    (hsc : inScope s P = true) : firstRefused s P = firstIllFormed s P := by
  rw [← (Prog2.first_base s P).2.2] at hsc
  rw [← (Prog2.first_base s P).1, ← (Prog2.first_base s P).2.1]
  exact Prog2.firstRefused_eq _ s inv hfl hsc

theorem stepImpl_inv {s : State} (inv : s.forest.Inv) (st : Step) : (stepImpl s st).1.forest.Inv := by
  unfold stepImpl
  cases st.resolve s.env with
  | none => exact inv
  | some c => exact Call.impl_inv inv c

/-- **C04 along a run**: from a store satisfying `Forest.Inv` every state the implementation passes through
    satisfies it: every call of a program is one of the calls of C04. -/
theorem invAlong : ∀ (P : Program) (s : State), s.forest.Inv → InvAlong s P
  | [] => fun _ inv => inv
  | st :: rest => by
    intro s inv
    refine ⟨inv, ?_⟩
    have i1 := stepImpl_inv inv st
    cases hst : stepImpl s st with
    | mk s' r =>
      rw [hst] at i1
      cases r with
      | ok => exact invAlong rest s' i1
      | err e => trivial
      | panic => trivial

end Prog
end XotModel
