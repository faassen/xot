/-
  String values (`HTree.text`, `strValues`) through an edit of one child list: "every text
  child is a leaf" at every depth (`kl`), merging two adjacent text leaves changes no string
  value; the unmerged move `plainMove`.
-/
import XotModel.Lemmas.FspecSurvivor

namespace XotModel
open HTree Spec

theorem text_node (h : Nat) (v : Value) (ks : List HTree) :
    HTree.text (.node h v ks) = v.textStr ++ textList ks := by
  simp [HTree.text]

theorem textList_nil : textList [] = [] := by simp [textList]
theorem textList_cons (k : HTree) (ks : List HTree) : textList (k :: ks) = HTree.text k ++ textList ks := by
  simp [textList]

theorem strValues_node (h : Nat) (v : Value) (ks : List HTree) :
    strValues (.node h v ks) = (if v.isText then [] else [(h, HTree.text (.node h v ks))]) ++ strValuesList ks := by
  simp [strValues]
theorem strValuesList_nil : strValuesList [] = [] := by simp [strValuesList]
theorem strValuesList_cons (k : HTree) (ks : List HTree) :
    strValuesList (k :: ks) = strValues k ++ strValuesList ks := by simp [strValuesList]

/-! ### "Every text child is a leaf", at every depth -/

/-- The text nodes among these children are leaves. -/
def TopLeaf (L : List HTree) : Prop := ∀ k ∈ L, k.value.isText = true → k.kids = []

mutual
  def kl : HTree → Bool
    | .node _ _ ks => klList ks
  /-- all text nodes among these trees' descendants-or-selves-as-children are leaves -/
  def klList : List HTree → Bool
    | [] => true
    | k :: ks => (!k.value.isText || k.kids.isEmpty) && kl k && klList ks
end

theorem kl_node (h : Nat) (v : Value) (ks : List HTree) : kl (.node h v ks) = klList ks := by simp [kl]
theorem klList_nil : klList [] = true := by simp [klList]
theorem klList_cons (k : HTree) (ks : List HTree) :
    klList (k :: ks) = ((!k.value.isText || k.kids.isEmpty) && kl k && klList ks) := by simp [klList]

theorem klList_iff {L : List HTree} :
    klList L = true ↔ TopLeaf L ∧ ∀ k ∈ L, kl k = true := by
  induction L with
  | nil => simp [klList_nil, TopLeaf]
  | cons a L ih =>
    rw [klList_cons]
    simp only [Bool.and_eq_true, Bool.or_eq_true, Bool.not_eq_true', List.isEmpty_iff, ih, TopLeaf,
      List.mem_cons, forall_eq_or_imp]
    constructor
    · intro ⟨⟨h1, h2⟩, h3, h4⟩
      refine ⟨⟨?_, h3⟩, h2, h4⟩
      intro ht
      cases h1 with
      | inl h => rw [ht] at h; cases h
      | inr h => exact h
    · intro ⟨⟨h1, h3⟩, h2, h4⟩
      refine ⟨⟨?_, h2⟩, h3, h4⟩
      cases ht : a.value.isText with
      | false => exact Or.inl rfl
      | true => exact Or.inr (h1 ht)

mutual
  theorem kl_of_valid {b : Bool} : ∀ t : HTree, validTree b t = true → kl t = true
    | .node h v ks => by
      intro hv
      rw [kl_node]
      exact klList_of_valid ks (validTree_node hv).2.2.2
  theorem klList_of_valid {b : Bool} : ∀ ks : List HTree, validList b ks = true → klList ks = true
    | [] => fun _ => klList_nil
    | k :: ks => by
      intro hv
      rw [validList_cons, Bool.and_eq_true] at hv
      rw [klList_cons, kl_of_valid k hv.1, klList_of_valid ks hv.2]
      simp only [Bool.and_true, Bool.or_eq_true, Bool.not_eq_true', List.isEmpty_iff]
      cases ht : k.value.isText with
      | false => exact Or.inl rfl
      | true =>
        right
        exact kids_nil_of_text hv.1 ht
end

mutual
  theorem kl_find {x : Nat} : ∀ (t u : HTree), kl t = true → find? x t = some u → kl u = true
    | .node h v ks, u => by
      intro hk e
      rw [find?_node] at e
      by_cases hh : h = x
      · rw [if_pos hh] at e
        have := Option.some.inj e
        subst this
        exact hk
      · rw [if_neg hh] at e
        rw [kl_node] at hk
        exact klList_find ks u hk e
  theorem klList_find {x : Nat} : ∀ (ks : List HTree) (u : HTree), klList ks = true →
      findList? x ks = some u → kl u = true
    | [], u => by intro _ e; rw [findList?_nil] at e; cases e
    | k :: ks, u => by
      intro hk e
      obtain ⟨_, h2⟩ := klList_iff.1 hk
      cases hf : find? x k with
      | some w =>
        rw [findList?_cons_some hf] at e
        have := Option.some.inj e
        subst this
        exact kl_find k w (h2 k List.mem_cons_self) hf
      | none =>
        rw [findList?_cons_none hf] at e
        rw [klList_cons, Bool.and_eq_true] at hk
        exact klList_find ks u hk.2 e
end

/-! ### The list functions of the specification keep the property -/

theorem klList_dropTop (n : Nat) {L : List HTree} (h : klList L = true) : klList (dropTop n L) = true := by
  obtain ⟨h1, h2⟩ := klList_iff.1 h
  have hsub : ∀ k ∈ dropTop n L, k ∈ L := by
    intro k hk
    rw [dropTop_eq_filter] at hk
    exact (List.mem_filter.1 hk).1
  exact klList_iff.2 ⟨fun k hk => h1 k (hsub k hk), fun k hk => h2 k (hsub k hk)⟩

theorem klList_insert (dest : Dest) {t : HTree} {L : List HTree} (h : klList L = true) (ht : kl t = true)
    (htl : t.value.isText = true → t.kids = []) : klList (dest.insert t L) = true := by
  obtain ⟨h1, h2⟩ := klList_iff.1 h
  apply klList_iff.2
  constructor
  · intro k hk hkt
    cases mem_insert hk with
    | inl e => rw [e] at hkt ⊢; exact htl hkt
    | inr e => exact h1 k e hkt
  · intro k hk
    cases mem_insert hk with
    | inl e => rw [e]; exact ht
    | inr e => exact h2 k e

theorem text_of_text_leaf {k : HTree} {s : Str} (hv : k.value = .text s) (hk : k.kids = []) : HTree.text k = s := by
  cases k with
  | node h v ks =>
    simp only [HTree.value] at hv
    simp only [HTree.kids] at hk
    subst hv hk
    simp [text_node, textList_nil, Value.textStr]

theorem strValues_of_text_leaf {k : HTree} (hv : k.value.isText = true) (hk : k.kids = []) : strValues k = [] := by
  cases k with
  | node h v ks =>
    simp only [HTree.value] at hv
    simp only [HTree.kids] at hk
    subst hk
    simp [strValues_node, hv, strValuesList_nil]

theorem kl_of_leaf {k : HTree} (hk : k.kids = []) : kl k = true := by
  cases k with
  | node h v ks =>
    simp only [HTree.kids] at hk
    subst hk
    rw [kl_node, klList_nil]

theorem klList_tail {k : HTree} {ks : List HTree} (h : klList (k :: ks) = true) : klList ks = true := by
  rw [klList_cons, Bool.and_eq_true] at h; exact h.2

theorem klList_cons_of {k : HTree} {ks : List HTree} (h1 : k.value.isText = true → k.kids = [])
    (h2 : kl k = true) (h3 : klList ks = true) : klList (k :: ks) = true := by
  rw [klList_cons, h2, h3]
  cases ht : k.value.isText with
  | false => rfl
  | true => simp [h1 ht]

theorem pair_keeps {x y j : HTree} {s u : Str} {rest : List HTree} (hx : x.value = .text s)
    (hy : y.value = .text u) (hjv : j.value = .text (s ++ u)) (hjk : j.kids = [])
    (h : klList (x :: y :: rest) = true) :
    textList (j :: rest) = textList (x :: y :: rest) ∧
    strValuesList (j :: rest) = strValuesList (x :: y :: rest) ∧ klList (j :: rest) = true := by
  obtain ⟨h1, _⟩ := klList_iff.1 h
  have hxt : x.value.isText = true := by rw [hx]; rfl
  have hyt : y.value.isText = true := by rw [hy]; rfl
  have hjt : j.value.isText = true := by rw [hjv]; rfl
  have xk := h1 x (by simp) hxt
  have yk := h1 y (by simp) hyt
  refine ⟨?_, ?_, ?_⟩
  · rw [textList_cons, textList_cons, textList_cons, text_of_text_leaf hjv hjk, text_of_text_leaf hx xk,
      text_of_text_leaf hy yk, List.append_assoc]
  · rw [strValuesList_cons, strValuesList_cons, strValuesList_cons, strValues_of_text_leaf hjt hjk,
      strValues_of_text_leaf hxt xk, strValues_of_text_leaf hyt yk]
    rfl
  · exact klList_cons_of (fun _ => hjk) (kl_of_leaf hjk) (klList_tail (klList_tail h))

theorem cons_keeps {x : HTree} {L L' : List HTree} (hx : klList (x :: L) = true)
    (h : textList L' = textList L ∧ strValuesList L' = strValuesList L ∧ klList L' = true) :
    textList (x :: L') = textList (x :: L) ∧ strValuesList (x :: L') = strValuesList (x :: L) ∧
    klList (x :: L') = true := by
  obtain ⟨h1, h2, h3⟩ := h
  obtain ⟨t1, t2⟩ := klList_iff.1 hx
  refine ⟨?_, ?_, ?_⟩
  · rw [textList_cons, textList_cons, h1]
  · rw [strValuesList_cons, strValuesList_cons, h2]
  · exact klList_cons_of (t1 x (by simp)) (t2 x (by simp)) h3

/-- Merging adjacent text leaves keeps the character data, the string values of the non-text nodes
    and the leaf property of text nodes. -/
theorem Spec.TextMerge.keeps {L L' : List HTree} (h : TextMerge L L') (hk : klList L = true) :
    textList L' = textList L ∧ strValuesList L' = strValuesList L ∧ klList L' = true := by
  induction h with
  | refl L => exact ⟨rfl, rfl, hk⟩
  | cons k _ ih => exact cons_keeps hk (ih (klList_tail hk))
  | @join a b j x y L ha hb hj =>
    have hl := (klList_iff.1 hk).1
    rcases hj with rfl | rfl
    · exact pair_keeps ha hb (setValue_value _ a) (by rw [setValue_kids]; exact hl a (by simp) (by rw [ha]; rfl)) hk
    · exact pair_keeps ha hb (setValue_value _ b) (by rw [setValue_kids]; exact hl b (by simp) (by rw [hb]; rfl)) hk
  | trans _ _ ih1 ih2 =>
    obtain ⟨a1, a2, a3⟩ := ih1 hk
    obtain ⟨b1, b2, b3⟩ := ih2 a3
    exact ⟨b1.trans a1, b2.trans a2, b3⟩

theorem mergeRuns_text (keep : Keep) {L : List HTree} (h : klList L = true) :
    textList (mergeRuns keep L) = textList L ∧ strValuesList (mergeRuns keep L) = strValuesList L ∧
    klList (mergeRuns keep L) = true :=
  (TextMerge.of_mergeRuns keep L).keeps h

/-- A function on child lists that keeps the character data, the string values of the non-text
    nodes and the leaf property of text nodes. -/
def TextKeeping (g : List HTree → List HTree) : Prop :=
  ∀ L, klList L = true →
    textList (g L) = textList L ∧ strValuesList (g L) = strValuesList L ∧ klList (g L) = true

theorem textKeeping_id : TextKeeping id := fun _ h => ⟨rfl, rfl, h⟩

mutual
  theorem text_editAt_keep (p : Nat) {g : List HTree → List HTree} (hg : TextKeeping g) :
      ∀ t : HTree, kl t = true →
      HTree.text (HTree.editAt p g t) = HTree.text t ∧ strValues (HTree.editAt p g t) = strValues t
    | .node h v ks => by
      intro hk
      rw [kl_node] at hk
      rw [editAt_node]
      by_cases hh : h = p
      · rw [if_pos hh]
        obtain ⟨i1, i2, _⟩ := hg ks hk
        rw [text_node, text_node, strValues_node, strValues_node, text_node, text_node, i1, i2]
        exact ⟨rfl, rfl⟩
      · rw [if_neg hh]
        obtain ⟨i1, i2⟩ := textList_editAt_keep p hg ks hk
        rw [text_node, text_node, strValues_node, strValues_node, text_node, text_node, i1, i2]
        exact ⟨rfl, rfl⟩
  theorem textList_editAt_keep (p : Nat) {g : List HTree → List HTree} (hg : TextKeeping g) :
      ∀ ks : List HTree, klList ks = true →
      textList (ks.map (HTree.editAt p g)) = textList ks ∧
      strValuesList (ks.map (HTree.editAt p g)) = strValuesList ks
    | [] => fun _ => ⟨rfl, rfl⟩
    | k :: ks => by
      intro hl
      obtain ⟨_, h2⟩ := klList_iff.1 hl
      have hks : klList ks = true := by
        rw [klList_cons, Bool.and_eq_true] at hl; exact hl.2
      obtain ⟨i1, i2⟩ := text_editAt_keep p hg k (h2 k List.mem_cons_self)
      obtain ⟨j1, j2⟩ := textList_editAt_keep p hg ks hks
      rw [List.map_cons, textList_cons, textList_cons, strValuesList_cons, strValuesList_cons, i1, i2, j1, j2]
      exact ⟨rfl, rfl⟩
end

theorem text_editAt_merge (p : Nat) (keep : Keep) : ∀ t : HTree, kl t = true →
    HTree.text (HTree.editAt p (mergeRuns keep) t) = HTree.text t ∧
    strValues (HTree.editAt p (mergeRuns keep) t) = strValues t :=
  text_editAt_keep p (fun _ h => mergeRuns_text keep h)

/-! ### No text node carries the handle of the edited site -/

mutual
  /-- No text node of the tree has handle `p`. -/
  def siteOk (p : Nat) : HTree → Bool
    | .node h v ks => (h != p || !v.isText) && siteOkList p ks
  def siteOkList (p : Nat) : List HTree → Bool
    | [] => true
    | k :: ks => siteOk p k && siteOkList p ks
end

theorem siteOk_node (p h : Nat) (v : Value) (ks : List HTree) :
    siteOk p (.node h v ks) = ((h != p || !v.isText) && siteOkList p ks) := by simp [siteOk]
theorem siteOkList_nil (p : Nat) : siteOkList p [] = true := by simp [siteOkList]
theorem siteOkList_cons (p : Nat) (k : HTree) (ks : List HTree) :
    siteOkList p (k :: ks) = (siteOk p k && siteOkList p ks) := by simp [siteOkList]

theorem siteOkList_iff {p : Nat} {L : List HTree} : siteOkList p L = true ↔ ∀ k ∈ L, siteOk p k = true := by
  induction L with
  | nil => simp [siteOkList_nil]
  | cons a L ih => rw [siteOkList_cons]; simp [ih]

theorem siteOk_top {p : Nat} {k : HTree} (h : siteOk p k = true) (ht : k.value.isText = true) : k.handle ≠ p := by
  cases k with
  | node kh kv ks =>
    simp only [HTree.value] at ht
    rw [siteOk_node, Bool.and_eq_true] at h
    intro e
    simp only [HTree.handle] at e
    have := h.1
    simp [e, ht] at this

mutual
  theorem siteOk_of_not_mem {p : Nat} : ∀ t : HTree, p ∉ handles t → siteOk p t = true
    | .node h v ks => by
      intro hn
      rw [handles_node] at hn
      simp only [List.mem_cons, not_or] at hn
      rw [siteOk_node, siteOkList_of_not_mem ks hn.2]
      have : (h != p) = true := by simpa using fun e => hn.1 e.symm
      simp [this]
  theorem siteOkList_of_not_mem {p : Nat} : ∀ ks : List HTree, p ∉ handlesList ks → siteOkList p ks = true
    | [] => fun _ => siteOkList_nil p
    | k :: ks => by
      intro hn
      rw [handlesList_cons] at hn
      simp only [List.mem_append, not_or] at hn
      rw [siteOkList_cons, siteOk_of_not_mem k hn.1, siteOkList_of_not_mem ks hn.2]
      rfl
end

mutual
  theorem siteOk_of_find {p : Nat} {u : HTree} (hu : u.value.isText = false) : ∀ t : HTree, (handles t).Nodup →
      find? p t = some u → siteOk p t = true
    | .node h v ks => by
      intro nd e
      obtain ⟨n1, n2⟩ := nodup_handles_node nd
      rw [find?_node] at e
      rw [siteOk_node]
      by_cases hh : h = p
      · rw [if_pos hh] at e
        have := Option.some.inj e
        subst this
        simp only [HTree.value] at hu
        rw [siteOkList_of_not_mem ks (hh ▸ n1)]
        simp [hu]
      · rw [if_neg hh] at e
        rw [siteOkList_of_find hu ks n2 e]
        have : (h != p) = true := by simpa using hh
        simp [this]
  theorem siteOkList_of_find {p : Nat} {u : HTree} (hu : u.value.isText = false) : ∀ ks : List HTree,
      (handlesList ks).Nodup → findList? p ks = some u → siteOkList p ks = true
    | [] => by intro _ e; rw [findList?_nil] at e; cases e
    | k :: ks => by
      intro nd e
      obtain ⟨n1, n2, n3⟩ := Fws.nodup_handlesList_cons nd
      rw [siteOkList_cons]
      cases hk : find? p k with
      | some w =>
        rw [findList?_cons_some hk] at e
        have := Option.some.inj e
        subst this
        rw [siteOk_of_find hu k n1 hk, siteOkList_of_not_mem ks (n3 p (find?_some_mem hk))]
        rfl
      | none =>
        rw [findList?_cons_none hk] at e
        have hpk : p ∉ handles k := (find?_none_iff _ k).1 hk
        rw [siteOk_of_not_mem k hpk, siteOkList_of_find hu ks n2 e]
        rfl
end

mutual
  theorem kl_editAt {p : Nat} {g : List HTree → List HTree} (hg : ∀ L, klList L = true → klList (g L) = true) :
      ∀ t : HTree, kl t = true → siteOk p t = true → kl (HTree.editAt p g t) = true
    | .node h v ks => by
      intro hk hs
      rw [kl_node] at hk
      rw [siteOk_node, Bool.and_eq_true] at hs
      rw [editAt_node]
      by_cases hh : h = p
      · rw [if_pos hh, kl_node]; exact hg ks hk
      · rw [if_neg hh, kl_node]; exact klList_editAt hg ks hk hs.2
  theorem klList_editAt {p : Nat} {g : List HTree → List HTree} (hg : ∀ L, klList L = true → klList (g L) = true) :
      ∀ ks : List HTree, klList ks = true → siteOkList p ks = true →
      klList (ks.map (HTree.editAt p g)) = true
    | [] => fun _ _ => klList_nil
    | k :: ks => by
      intro hk hs
      rw [klList_cons, Bool.and_eq_true, Bool.and_eq_true] at hk
      rw [siteOkList_cons, Bool.and_eq_true] at hs
      rw [List.map_cons, klList_cons, kl_editAt hg k hk.1.2 hs.1, klList_editAt hg ks hk.2 hs.2, editAt_value]
      simp only [Bool.and_true, Bool.or_eq_true, Bool.not_eq_true', List.isEmpty_iff]
      cases ht : k.value.isText with
      | false => exact Or.inl rfl
      | true =>
        right
        have hkp := siteOk_top hs.1 ht
        have hkl : k.kids = [] := by
          have := hk.1.1
          simpa [ht] using this
        cases k with
        | node kh kv kks =>
          simp only [HTree.kids] at hkl
          simp only [HTree.handle] at hkp
          subst hkl
          rw [editAt_node, if_neg hkp]
          rfl
end

mutual
  theorem siteOk_editAt {p s : Nat} {g : List HTree → List HTree}
      (hg : ∀ L, siteOkList p L = true → siteOkList p (g L) = true) :
      ∀ t : HTree, siteOk p t = true → siteOk p (HTree.editAt s g t) = true
    | .node h v ks => by
      intro hs
      rw [siteOk_node, Bool.and_eq_true] at hs
      rw [editAt_node]
      by_cases hh : h = s
      · rw [if_pos hh, siteOk_node, hs.1, hg ks hs.2]; rfl
      · rw [if_neg hh, siteOk_node, hs.1, siteOkList_editAt hg ks hs.2]; rfl
  theorem siteOkList_editAt {p s : Nat} {g : List HTree → List HTree}
      (hg : ∀ L, siteOkList p L = true → siteOkList p (g L) = true) :
      ∀ ks : List HTree, siteOkList p ks = true → siteOkList p (ks.map (HTree.editAt s g)) = true
    | [] => fun _ => siteOkList_nil p
    | k :: ks => by
      intro hs
      rw [siteOkList_cons, Bool.and_eq_true] at hs
      rw [List.map_cons, siteOkList_cons, siteOk_editAt hg k hs.1, siteOkList_editAt hg ks hs.2]
      rfl
end

theorem siteOkList_dropTop (p n : Nat) {L : List HTree} (h : siteOkList p L = true) :
    siteOkList p (dropTop n L) = true := by
  rw [siteOkList_iff] at h ⊢
  intro k hk
  rw [dropTop_eq_filter] at hk
  exact h k (List.mem_filter.1 hk).1

theorem siteOkList_insert (p : Nat) (dest : Dest) {t : HTree} {L : List HTree} (h : siteOkList p L = true)
    (ht : siteOk p t = true) : siteOkList p (dest.insert t L) = true := by
  rw [siteOkList_iff] at h ⊢
  intro k hk
  cases mem_insert hk with
  | inl e => rw [e]; exact ht
  | inr e => exact h k e

/-- The parent of a node is not a text node, so no text node carries its handle. -/
theorem siteOkList_parent {f : Forest} (inv : f.Inv) {n po : Nat} (hpar : f.parent? n = some po) :
    siteOkList po f.roots = true := by
  cases hctx : f.ctx? n with
  | none => rw [Forest.parent?_of_no_ctx hctx] at hpar; cases hpar
  | some cx =>
    obtain ⟨_, vo, so⟩ := SiteAt.of_ctx inv.nodup hctx
    rw [Forest.parent?_of_ctx? hctx] at hpar
    cases hpar
    have hvo : vo.isText = false := site_not_text so inv.valid
    exact siteOkList_of_find (by simpa [HTree.value] using hvo) f.roots inv.nodup so.kids

/-- After cutting the subtree `c` (tree `t`): the leaf property, the site condition of any non-text node `q`,
    and the site condition of the parent `c` leaves - which is not inside `t`. -/
theorem cut_keeps_leaves {f : Forest} (inv : f.Inv) {c q : Nat} {t : HTree} (hgc : f.get? c = some t)
    (hsq : siteOkList q f.roots = true) :
    klList (f.editAt (f.parent? c) (dropTop c)).roots = true ∧
    siteOkList q (f.editAt (f.parent? c) (dropTop c)).roots = true ∧
    (∀ po, f.parent? c = some po → siteOkList po (f.editAt (f.parent? c) (dropTop c)).roots = true ∧
      siteOk po t = true) := by
  have nd := inv.nodup
  have hklf : klList f.roots = true := klList_of_valid f.roots inv.valid
  cases hpar : f.parent? c with
  | none =>
    exact ⟨klList_dropTop c hklf, siteOkList_dropTop q c hsq, fun po h => by cases h⟩
  | some po =>
    have hspo : siteOkList po f.roots = true := siteOkList_parent inv hpar
    have hpot : po ∉ handles t := parent_not_mem_subtree nd hgc hpar
    refine ⟨klList_editAt (fun L h => klList_dropTop c h) f.roots hklf hspo,
      siteOkList_editAt (fun L h => siteOkList_dropTop q c h) f.roots hsq, ?_⟩
    intro po' h
    have := Option.some.inj h
    subst this
    exact ⟨siteOkList_editAt (fun L h => siteOkList_dropTop _ c h) f.roots hspo, siteOk_of_not_mem t hpot⟩

/-- The unmerged move. -/
def plainMove (dest : Dest) (c : Nat) (f : Forest) : Forest :=
  specMove Keep.earlier dest c { f with consolidation := false }

end XotModel
