/-
  C05 on forests without adjacent text nodes (`Forest.Normal`), against the whole-run reading of
  the specification (`specMove keep`, `specRemove`, `specDetach` of `Model/FspecSpec.lean`).
  The model is compared with the pair reading only (`append_pair` …, every forest with the
  invariant); here each statement is that one and the agreement of the two readings on such
  forests (`specMoveP_eq_specMove_keep`, `specRemoveP_eq_specRemove`, `specDetachP_eq_specDetach`,
  `specUnwrapP_eq_specUnwrap`, `specReplaceP_eq_specReplaceX`).
-/
import XotModel.Lemmas.FspecPairFrame
import XotModel.Lemmas.FspecPairRemove
import XotModel.Lemmas.FspecPairAfter
import XotModel.Lemmas.FspecAgreeReplace
import XotModel.Lemmas.FspecAgreeUnwrap
import XotModel.Lemmas.FspecPairReplace

namespace XotModel
open HTree Spec PairAll

/-! ### remove, detach -/

theorem remove_spec {f : Forest} {n : Nat} {keep : Keep} (hkeep : ∀ a b, a ≠ n → keep a b = true)
    (inv : f.Inv) (norm : f.Normal) (live : f.isLive n = true) :
    (f.remove n).1 = specRemove keep n f := by
  obtain ⟨t, hg⟩ := Option.isSome_iff_exists.1 live
  rw [remove_pair inv live, specRemoveP_eq_specRemove inv norm hkeep hg]

theorem detach_spec {f : Forest} {n : Nat} {keep : Keep} (hkeep : ∀ a b, a ≠ n → keep a b = true)
    (inv : f.Inv) (norm : f.Normal) (live : f.isLive n = true) :
    (f.detach n).1 = specDetach keep n f := by
  obtain ⟨t, hg⟩ := Option.isSome_iff_exists.1 live
  rw [detach_pair inv live, specDetachP_eq_specDetach inv norm hkeep hg]

/-! ### The four moves, handle for handle -/

/-- **append**: the appended node becomes the last child, so it is never the earlier node of a
    merged pair: any survivor rule that keeps a resident earlier node will do (`KeepAt.last`). -/
theorem append_spec {f : Forest} {p c : Nat} {keep : Keep} (hkeep : ∀ a b, a ≠ c → keep a b = true) (inv : f.Inv)
    (norm : f.Normal) (hok : (f.append p c).2 = .ok) :
    (f.append p c).1 = specMove keep (.lastChildOf p) c f := by
  obtain ⟨q, vq, Lq, t, sq, hgc, hqt, hvq, hsite⟩ := append_args inv.nodup hok
  rw [append_pair inv hok]
  exact specMoveP_eq_specMove_keep (KeepAt.last hkeep) inv norm hgc sq hqt hvq hsite
    (fun x h => by rcases h with h | h <;> cases h)

theorem prepend_spec {f : Forest} {p c : Nat} (inv : f.Inv) (norm : f.Normal)
    (hok : (f.prepend p c).2 = .ok) :
    (f.prepend p c).1 = specMove (Keep.resident c) (.firstNormalChildOf p) c f := by
  rw [prepend_pair inv hok, (specMoveP_eq_specMove_under inv norm (prepend_ok_check hok)).2]

theorem insertAfter_spec {f : Forest} {ref c : Nat} (inv : f.Inv) (norm : f.Normal)
    (hok : (f.insertAfter ref c).2 = .ok) :
    (f.insertAfter ref c).1 = specMove (Keep.resident c) (.after ref) c f := by
  obtain ⟨hsc, hsr⟩ := insertAfter_ok_checks hok
  rw [insertAfter_pair inv hok, (specMoveP_eq_specMove_beside inv norm hsc hsr).1]

theorem insertBefore_spec {f : Forest} {ref c : Nat} (inv : f.Inv) (norm : f.Normal)
    (hok : (f.insertBefore ref c).2 = .ok) :
    (f.insertBefore ref c).1 = specMove (Keep.resident c) (.before ref) c f := by
  obtain ⟨hsc, hsr⟩ := insertBefore_ok_checks hok
  rw [insertBefore_pair inv hok, (specMoveP_eq_specMove_beside inv norm hsc hsr).2]

/-! ### … and, handles forgotten, with the survivor rule of the property text -/

/-- The content of the specification of a move does not depend on the survivor rule (any geometry).
    Coming from another child list, the two rules merge the same pair at the place left
    (`specRemoveP_eq_specRemove`), so the graft starts from the same forest. -/
theorem specMove_content_keep {f : Forest} {c : Nat} {t : HTree} {q : Nat} {vq : Value} {Lq : List HTree}
    (inv : f.Inv) (norm : f.Normal) (hgc : f.get? c = some t) (sq : SiteAt f q vq Lq) (hqt : q ∉ handles t)
    (hvq : vq.isText = false) (dest : Dest) (hsite : dest.site f = some q) :
    (specMove (Keep.resident c) dest c f).content = (specMove Keep.earlier dest c f).content := by
  cases hocc : dest.occupiedBy f c with
  | true => unfold specMove; rw [hocc, if_pos rfl, if_pos rfl]
  | false =>
    have hleafL := sq.leaf inv.valid
    have hleaft : t.value.isText = true → t.kids = [] := leaf_of_text inv.valid hgc
    have htc : t.handle = c := (findList?_some f.roots t hgc).1
    subst htc
    rcases sq.mover hgc with hno | ⟨l, r, _, hL⟩ | ⟨po, vo, l, r, hpo, hctx, so⟩
    · have F := fun keep => far_root (keep := keep) hgc hno sq hqt
      exact content_keep_of_graft (f := f) (F Keep.earlier).ysite rfl hleafL hleaft
        ((F _).spec dest hocc hsite) ((F _).spec dest hocc hsite)
    · subst hL
      have F := fun keep => far_same (keep := keep) sq
      exact content_keep_of_graft (f := f) (F Keep.earlier).ysite (Forest.editAt_consolidation _ _ _)
        (fun k' hk' => hleafL k' (fs_mem_mid_of_mem t hk')) hleaft
        ((F _).spec dest hocc hsite) ((F _).spec dest hocc hsite)
    · have hpar := Forest.parent?_of_ctx? hctx
      have hY : (f.editAt (some po) (dropTop t.handle)).mergeAt (Keep.resident t.handle) (some po) =
          (f.editAt (some po) (dropTop t.handle)).mergeAt Keep.earlier (some po) := by
        have h1 := specRemoveP_eq_specRemove inv norm (Keep.resident_spec t.handle) hgc
        have h2 := specRemoveP_eq_specRemove inv norm (Keep.earlier_spec t.handle) hgc
        unfold specRemove at h1 h2
        rw [hpar] at h1 h2
        exact h1.symm.trans h2
      have sY := so.after_leave sq inv.valid hpo hqt hvq (mergeOpt f.consolidation Keep.earlier)
        (mergeOpt_sublist _ _) (fun _ h => findList?_mergeOpt _ _ h)
      rw [← specRemove_kid hpar] at sY
      unfold specRemove at sY
      rw [hpar] at sY
      refine content_keep_of_graft sY (by rw [Forest.mergeAt_consolidation, Forest.editAt_consolidation]) ?_ hleaft
        (hY ▸ specMove_far so hpo hocc hsite) (specMove_far so hpo hocc hsite)
      -- text children of the destination are still leaves
      intro k hk htx
      obtain ⟨k0, hk0, e⟩ := List.mem_map.1 hk
      subst e
      rw [editAt_value] at htx
      have hl0 := hleafL k0 hk0 htx
      exact ReplGapNF.editAt_kids_leaf hl0 (PairAfter.leaf_ne_site so (PairAfter.site_getKid sq hk0) hl0)

theorem prepend_content {f : Forest} {p c : Nat} (inv : f.Inv) (norm : f.Normal)
    (hok : (f.prepend p c).2 = .ok) :
    (f.prepend p c).1.content = (specMove Keep.earlier (.firstNormalChildOf p) c f).content := by
  rw [prepend_spec inv norm hok]
  obtain ⟨q, vq, Lq, t, sq, hgc, hqt, hvq, hsite⟩ := prepend_args inv.nodup hok
  exact specMove_content_keep inv norm hgc sq hqt hvq _ hsite

theorem prepend_content_far {f : Forest} {p c : Nat} (inv : f.Inv) (norm : f.Normal)
    (hfar : f.parent? c ≠ some p) (hok : (f.prepend p c).2 = .ok) :
    (f.prepend p c).1.content = (specMove Keep.earlier (.firstNormalChildOf p) c f).content :=
  prepend_content inv norm hok

theorem insertAfter_content {f : Forest} {ref c : Nat} (inv : f.Inv) (norm : f.Normal)
    (hok : (f.insertAfter ref c).2 = .ok) :
    (f.insertAfter ref c).1.content = (specMove Keep.earlier (.after ref) c f).content := by
  rw [insertAfter_spec inv norm hok]
  obtain ⟨q, vq, Lq, t, sq, hgc, hqt, hvq, hsite⟩ := insertAfter_args inv.nodup hok
  exact specMove_content_keep inv norm hgc sq hqt hvq _ hsite

theorem insertAfter_content_far {f : Forest} {ref c : Nat} (inv : f.Inv) (norm : f.Normal)
    (hfar : f.parent? c ≠ f.parent? ref) (hok : (f.insertAfter ref c).2 = .ok) :
    (f.insertAfter ref c).1.content = (specMove Keep.earlier (.after ref) c f).content :=
  insertAfter_content inv norm hok

theorem insertBefore_content {f : Forest} {ref c : Nat} (inv : f.Inv) (norm : f.Normal)
    (hok : (f.insertBefore ref c).2 = .ok) :
    (f.insertBefore ref c).1.content = (specMove Keep.earlier (.before ref) c f).content := by
  rw [insertBefore_spec inv norm hok]
  obtain ⟨q, vq, Lq, t, sq, hgc, hqt, hvq, hsite⟩ := insertBefore_args inv.nodup hok
  exact specMove_content_keep inv norm hgc sq hqt hvq _ hsite

theorem insertBefore_content_far {f : Forest} {ref c : Nat} (inv : f.Inv) (norm : f.Normal)
    (hfar : f.parent? c ≠ f.parent? ref) (hok : (f.insertBefore ref c).2 = .ok) :
    (f.insertBefore ref c).1.content = (specMove Keep.earlier (.before ref) c f).content :=
  insertBefore_content inv norm hok

/-! ### element_unwrap -/

/-- **element_unwrap**: a successful call replaces the element by its normal children and merges
    the text runs this creates. -/
theorem unwrap_spec {f : Forest} {n : Nat} {keep : Keep} (hkeep : ∀ a b, a ≠ n → keep a b = true)
    (inv : f.Inv) (norm : f.Normal) (hok : (f.elementUnwrap n).2 = .ok) :
    (f.elementUnwrap n).1 = specUnwrap keep n f := by
  rw [unwrap_pair inv hok, specUnwrapP_eq_specUnwrap hkeep inv norm]

/-! ### replace -/

/-- **replace**, handle for handle. -/
theorem replace_spec {f : Forest} {a b : Nat} (inv : f.Inv) (norm : f.Normal)
    (hok : (f.replace a b).2 = .ok) :
    (f.replace a b).1 = specReplaceX a b f := by
  obtain ⟨q, vq, l, A, r, t, ra, _⟩ := replace_unpack inv hok
  rw [replace_pair inv hok, specReplaceP_eq_specReplaceX inv norm ra]

end XotModel
