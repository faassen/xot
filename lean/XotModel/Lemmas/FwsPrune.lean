/-
  `Fws.pruneText` (delete the text nodes in a set): identity, composition, congruence, what
  survives, structural validity kept; and one iteration of the removal loop: with consolidation
  off, or in a strictly valid forest, `remove` of a text node deletes that node and nothing else
  (`pruned`).
-/
import XotModel.Lemmas.FwsChar
import XotModel.Lemmas.ManipShape
import XotModel.Lemmas.FinvValid

/-! ## `Fws.pruneText` -/

namespace XotModel
namespace Fws
open HTree Fmap

theorem pruneText_handle (S : Nat → Bool) (t : HTree) : (pruneText S t).handle = t.handle := by
  cases t; simp [pruneText, HTree.handle]

theorem pruneText_value (S : Nat → Bool) (t : HTree) : (pruneText S t).value = t.value := by
  cases t; simp [pruneText, HTree.value]

theorem pruneText_kids (S : Nat → Bool) (t : HTree) : (pruneText S t).kids = pruneTextKids S t.kids := by
  cases t; simp [pruneText, HTree.kids]

theorem pruneTextKids_eq (S : Nat → Bool) : ∀ ks : List HTree,
    pruneTextKids S ks = (ks.filter (fun k => !(k.value.isText && S k.handle))).map (pruneText S)
  | [] => rfl
  | k :: ks => by
    simp only [pruneTextKids, List.filter_cons]
    rw [pruneTextKids_eq S ks]
    cases k.value.isText && S k.handle <;> simp

theorem pruneTextKids_append (S : Nat → Bool) (l r : List HTree) :
    pruneTextKids S (l ++ r) = pruneTextKids S l ++ pruneTextKids S r := by
  simp [pruneTextKids_eq]

mutual
  theorem pruneText_id (S : Nat → Bool) : ∀ t : HTree, (∀ h ∈ handles t, S h = false) → pruneText S t = t
    | .node h v ks, hs => by
      simp only [pruneText]
      rw [pruneTextKids_id S ks (fun x hx => hs x (by simp [handles, hx]))]
  theorem pruneTextKids_id (S : Nat → Bool) : ∀ ks : List HTree, (∀ h ∈ handlesList ks, S h = false) →
      pruneTextKids S ks = ks
    | [], _ => rfl
    | k :: ks, hs => by
      have hk : S k.handle = false := hs _ (by simp [handlesList, handle_mem_handles])
      simp only [pruneTextKids, hk, Bool.and_false]
      rw [pruneText_id S k (fun x hx => hs x (by simp [handlesList, hx])),
        pruneTextKids_id S ks (fun x hx => hs x (by simp [handlesList, hx]))]
      rfl
end

mutual
  theorem pruneText_congr (S S' : Nat → Bool) : ∀ t : HTree, (∀ h ∈ handles t, S h = S' h) →
      pruneText S t = pruneText S' t
    | .node h v ks, hs => by
      simp only [pruneText]
      rw [pruneTextKids_congr S S' ks (fun x hx => hs x (by simp [handles, hx]))]
  theorem pruneTextKids_congr (S S' : Nat → Bool) : ∀ ks : List HTree, (∀ h ∈ handlesList ks, S h = S' h) →
      pruneTextKids S ks = pruneTextKids S' ks
    | [], _ => rfl
    | k :: ks, hs => by
      have hk : S k.handle = S' k.handle := hs _ (by simp [handlesList, handle_mem_handles])
      simp only [pruneTextKids, hk]
      rw [pruneText_congr S S' k (fun x hx => hs x (by simp [handlesList, hx])),
        pruneTextKids_congr S S' ks (fun x hx => hs x (by simp [handlesList, hx]))]
end

mutual
  theorem pruneText_comp (S1 S2 : Nat → Bool) : ∀ t : HTree,
      pruneText S2 (pruneText S1 t) = pruneText (fun h => S1 h || S2 h) t
    | .node h v ks => by
      simp only [pruneText]
      rw [pruneTextKids_comp S1 S2 ks]
  theorem pruneTextKids_comp (S1 S2 : Nat → Bool) : ∀ ks : List HTree,
      pruneTextKids S2 (pruneTextKids S1 ks) = pruneTextKids (fun h => S1 h || S2 h) ks
    | [] => rfl
    | k :: ks => by
      have ihk := pruneText_comp S1 S2 k
      have ihks := pruneTextKids_comp S1 S2 ks
      simp only [pruneTextKids]
      by_cases h1 : (k.value.isText && S1 k.handle) = true
      · have h3 : (k.value.isText && (S1 k.handle || S2 k.handle)) = true := by
          simp only [Bool.and_eq_true, Bool.or_eq_true] at h1 ⊢
          exact ⟨h1.1, Or.inl h1.2⟩
        simp only [h1, h3, if_true]
        exact ihks
      · simp only [h1, Bool.false_eq_true, if_false, pruneTextKids, pruneText_value, pruneText_handle]
        by_cases h2 : (k.value.isText && S2 k.handle) = true
        · have h3 : (k.value.isText && (S1 k.handle || S2 k.handle)) = true := by
            simp only [Bool.and_eq_true, Bool.or_eq_true] at h2 ⊢
            exact ⟨h2.1, Or.inr h2.2⟩
          simp only [h2, h3, if_true]
          exact ihks
        · have h3 : ¬ (k.value.isText && (S1 k.handle || S2 k.handle)) = true := by
            simp only [Bool.and_eq_true, Bool.or_eq_true, not_and] at h1 h2 ⊢
            intro ht hh
            rcases hh with hh | hh
            · exact h1 ht hh
            · exact h2 ht hh
          simp only [h2, h3, Bool.false_eq_true, if_false, ihk, ihks]
end

/-! ### handles of the result -/

mutual
  theorem pruneText_sublist (S : Nat → Bool) : ∀ t : HTree, (handles (pruneText S t)).Sublist (handles t)
    | .node h v ks => by
      simp only [pruneText, handles]
      exact (pruneTextKids_sublist S ks).cons_cons h
  theorem pruneTextKids_sublist (S : Nat → Bool) : ∀ ks : List HTree,
      (handlesList (pruneTextKids S ks)).Sublist (handlesList ks)
    | [] => List.Sublist.refl _
    | k :: ks => by
      simp only [pruneTextKids, handlesList]
      cases k.value.isText && S k.handle
      · simp only [Bool.false_eq_true, if_false, handlesList]
        exact (pruneText_sublist S k).append (pruneTextKids_sublist S ks)
      · simp only [if_true]
        exact (pruneTextKids_sublist S ks).trans (List.sublist_append_right _ _)
end

mutual
  /-- Whatever is found in the pruned tree is the pruned image of what the original holds there,
      and it was not deleted. -/
  theorem find_pruneText (S : Nat → Bool) (h : Nat) : ∀ (t x : HTree), (handles t).Nodup →
      find? h (pruneText S t) = some x → h ≠ t.handle →
      ∃ q, find? h t = some q ∧ x = pruneText S q ∧ (q.value.isText && S h) = false
    | .node h' v ks, x, nd, hx, hne => by
      simp only [HTree.handle] at hne
      have e : ¬ h' = h := fun e => hne e.symm
      simp only [pruneText, find?, e, if_false] at hx ⊢
      exact findList_pruneText S h ks x (nodup_kids (t := .node h' v ks) nd).2 hx
  theorem findList_pruneText (S : Nat → Bool) (h : Nat) : ∀ (ks : List HTree) (x : HTree), (handlesList ks).Nodup →
      findList? h (pruneTextKids S ks) = some x →
      ∃ q, findList? h ks = some q ∧ x = pruneText S q ∧ (q.value.isText && S h) = false
    | [], x, _, hx => by cases hx
    | k :: ks, x, nd, hx => by
      obtain ⟨ndk, ndks, disj⟩ := nodup_handlesList_cons nd
      have inRest : findList? h (pruneTextKids S ks) = some x →
          ∃ q, findList? h (k :: ks) = some q ∧ x = pruneText S q ∧ (q.value.isText && S h) = false := by
        intro hx'
        obtain ⟨q, hq, e1, e2⟩ := findList_pruneText S h ks x ndks hx'
        have hin : h ∈ handlesList ks := mem_of_findList?_some hq
        have : find? h k = none := find?_none_of_not_mem h k (fun hk => disj h hk hin)
        exact ⟨q, by simp [findList?, this, hq], e1, e2⟩
      simp only [pruneTextKids] at hx
      cases hd : k.value.isText && S k.handle
      · simp only [hd, Bool.false_eq_true, if_false, findList?] at hx
        cases hf : find? h (pruneText S k) with
        | some y =>
          rw [hf] at hx
          simp only [Option.some.injEq] at hx
          subst hx
          by_cases e : h = k.handle
          · subst e
            rw [← pruneText_handle S k, find?_root] at hf
            simp only [Option.some.injEq] at hf
            exact ⟨k, by simp [findList?, find?_root], hf.symm, hd⟩
          · obtain ⟨q, hq, e1, e2⟩ := find_pruneText S h k y ndk hf e
            exact ⟨q, by simp [findList?, hq], e1, e2⟩
        | none =>
          rw [hf] at hx
          exact inRest hx
      · simp only [hd, if_true] at hx
        exact inRest hx
end

/-! ### validity is preserved -/

/-- Is the first tree of a list a text node? -/
def headIsText : List HTree → Bool
  | [] => false
  | b :: _ => b.value.isText

theorem noAdj_cons (a : HTree) (xs : List HTree) :
    noAdjacentText (a :: xs) = (!(a.value.isText && headIsText xs) && noAdjacentText xs) := by
  cases xs with
  | nil => simp [noAdjacentText, headIsText]
  | cons b rest => simp [noAdjacentText, headIsText]

theorem noAdj_prune (S : Nat → Bool) : ∀ ks : List HTree, noAdjacentText ks = true →
    noAdjacentText (pruneTextKids S ks) = true
  | [], _ => rfl
  | a :: xs, h => by
    rw [noAdj_cons] at h
    simp only [Bool.and_eq_true, Bool.not_eq_true'] at h
    have ih := noAdj_prune S xs h.2
    simp only [pruneTextKids]
    cases hd : a.value.isText && S a.handle
    · simp only [Bool.false_eq_true, if_false]
      rw [noAdj_cons, pruneText_value]
      simp only [Bool.and_eq_true, Bool.not_eq_true', ih, and_true]
      cases hat : a.value.isText
      · simp
      · have hx : headIsText xs = false := by simpa [hat] using h.1
        cases xs with
        | nil => simp [pruneTextKids, headIsText]
        | cons b rest =>
          simp only [headIsText] at hx
          simp [pruneTextKids, hx, headIsText, pruneText_value]
    · simpa using ih

/-- Pruning keeps a sublist of the children (as far as their values go) and drops only text nodes: the local
    conditions of the child list stay (`KidsOK.of_sublist`). -/
theorem kidsOK_prune (b : Bool) (v : Value) (S : Nat → Bool) (ks : List HTree) (h : kidsOK b v ks = true) :
    kidsOK b v (pruneTextKids S ks) = true := by
  have hval : (pruneTextKids S ks).map HTree.value =
      (ks.filter (fun k => !(k.value.isText && S k.handle))).map HTree.value := by
    rw [pruneTextKids_eq, List.map_map]
    exact List.map_congr_left (fun k _ => pruneText_value S k)
  have hadj : b = true → noAdjB (textFlags (ks.filter (fun k => !(k.value.isText && S k.handle)))) = true := by
    intro hb
    have h5 := ((kidsOK_iff b v ks).1 h).text hb
    rw [← noAdjacentText_eq] at h5
    have := noAdj_prune S ks h5
    rw [noAdjacentText_eq] at this
    have e : textFlags (pruneTextKids S ks) = textFlags (ks.filter (fun k => !(k.value.isText && S k.handle))) := by
      have := congrArg (List.map Value.isText) hval
      simpa [textFlags, List.map_map, Function.comp_def] using this
    rwa [e] at this
  rw [kidsOK_congr b v _ _ hval, kidsOK_iff]
  exact ((kidsOK_iff b v ks).1 h).of_sublist List.filter_sublist hadj

mutual
  theorem validTree_prune (b : Bool) (S : Nat → Bool) : ∀ t : HTree, validTree b t = true →
      validTree b (pruneText S t) = true
    | .node h v ks, hv => by
      rw [fi_validTree_node, Bool.and_eq_true] at hv
      rw [pruneText, fi_validTree_node, Bool.and_eq_true]
      exact ⟨kidsOK_prune b v S ks hv.1, validList_prune b S ks hv.2⟩
  theorem validList_prune (b : Bool) (S : Nat → Bool) : ∀ ks : List HTree, validList b ks = true →
      validList b (pruneTextKids S ks) = true
    | [], _ => rfl
    | k :: ks, hv => by
      simp only [validList, Bool.and_eq_true] at hv
      simp only [pruneTextKids]
      cases k.value.isText && S k.handle
      · simp only [Bool.false_eq_true, if_false, validList, Bool.and_eq_true]
        exact ⟨validTree_prune b S k hv.1, validList_prune b S ks hv.2⟩
      · simpa using validList_prune b S ks hv.2
end

end Fws
end XotModel

/-! ## One iteration of the removal loop

The loop runs with consolidation off (/repo 1e1d5fd); the statement also covers a strictly valid forest (no
adjacent text nodes).  No consolidation fires; positions of everything that is not deleted survive. -/

namespace XotModel
namespace Fws
open HTree Fmap

/-! ### the pruned forest -/

theorem pruned_sublist (f : Forest) (S : Nat → Bool) : (pruned f S).allHandles.Sublist f.allHandles :=
  pruneTextKids_sublist S f.roots

theorem pruned_nodup {f : Forest} (S : Nat → Bool) (nd : f.allHandles.Nodup) : (pruned f S).allHandles.Nodup :=
  (pruned_sublist f S).nodup nd

theorem pruned_valid {f : Forest} {b : Bool} (S : Nat → Bool) (hv : validList b f.roots = true) :
    validList b (pruned f S).roots = true := validList_prune b S f.roots hv

theorem pruned_pruned (f : Forest) (S1 S2 : Nat → Bool) :
    pruned (pruned f S1) S2 = pruned f (fun h => S1 h || S2 h) := by
  unfold pruned
  simp only [pruneTextKids_comp]

theorem pruned_get? {f : Forest} (S : Nat → Bool) (nd : f.allHandles.Nodup) {h : Nat} {x : HTree}
    (hx : (pruned f S).get? h = some x) :
    ∃ q, f.get? h = some q ∧ x = pruneText S q ∧ (q.value.isText && S h) = false :=
  findList_pruneText S h f.roots x nd hx

theorem pruned_textOf {f : Forest} (S : Nat → Bool) (nd : f.allHandles.Nodup) {h : Nat} {s : Str}
    (hs : (pruned f S).textOf h = some s) : f.textOf h = some s := by
  unfold Forest.textOf Forest.value? at hs ⊢
  cases hx : (pruned f S).get? h with
  | none => rw [hx] at hs; simp at hs
  | some x =>
    obtain ⟨q, hq, e, _⟩ := pruned_get? S nd hx
    rw [hx] at hs
    rw [hq]
    simp only [Option.map_some] at hs ⊢
    rw [e, pruneText_value] at hs
    exact hs

/-- Ancestors have children, so they are not text nodes. -/
theorem Occurs.anc_not_text {f : Forest} {b : Bool} (hv : validList b f.roots = true) {t : HTree} {anc : List HTree}
    (o : Occurs f t anc) : ∀ a ∈ anc, a.value.isText = false := by
  induction o with
  | root _ => intro a ha; cases ha
  | @kid p k anc op hk ih =>
    intro a ha
    rcases List.mem_cons.1 ha with rfl | ha
    · exact parent_not_text (op.valid hv) hk
    · exact ih a ha

theorem Occurs.prune {f : Forest} {b : Bool} (S : Nat → Bool) (hv : validList b f.roots = true)
    {t : HTree} {anc : List HTree} (o : Occurs f t anc) (hk : (t.value.isText && S t.handle) = false) :
    Occurs (pruned f S) (pruneText S t) (anc.map (pruneText S)) := by
  induction o with
  | @root r hr =>
    refine .root ?_
    show pruneText S r ∈ pruneTextKids S f.roots
    rw [pruneTextKids_eq]
    exact List.mem_map.2 ⟨r, List.mem_filter.2 ⟨hr, by simp [hk]⟩, rfl⟩
  | @kid p k anc op hkp ih =>
    have hp : (p.value.isText && S p.handle) = false := by
      rw [parent_not_text (op.valid hv) hkp]; rfl
    refine .kid (ih hp) ?_
    rw [pruneText_kids, pruneTextKids_eq]
    exact List.mem_map.2 ⟨k, List.mem_filter.2 ⟨hkp, by simp [hk]⟩, rfl⟩

/-! ### `cut` of a text node is a pruning -/

theorem pruneTextKids_of_not_mem {n : Nat} {l : List HTree} (h : n ∉ handlesList l) :
    pruneTextKids (fun x => x == n) l = l :=
  pruneTextKids_id _ l (fun x hx => by
    simp only [beq_eq_false_iff_ne, ne_eq]; rintro rfl; exact h hx)

theorem pruneTextKids_plug (n : Nat) : ∀ (path : List ZipFrame) (X : List HTree), n ∉ pathHandles path →
    pruneTextKids (fun x => x == n) (plug path X) = plug path (pruneTextKids (fun x => x == n) X)
  | [], _, _ => rfl
  | fr :: rest, X, hn => by
    simp only [pathHandles, List.mem_append, List.mem_cons, not_or] at hn
    obtain ⟨hl, hh, hrest, hr⟩ := hn
    have hb : (fr.h == n) = false := by simpa using fun e : fr.h = n => hh e.symm
    rw [plug_cons, plug_cons, pruneTextKids_append, pruneTextKids_of_not_mem hl]
    simp only [pruneTextKids, HTree.handle, hb, Bool.and_false, Bool.false_eq_true, if_false, pruneText,
      pruneTextKids_of_not_mem hr, pruneTextKids_plug n rest X hrest]

theorem replaceKids_prune (n : Nat) : ∀ ks : List HTree, (handlesList ks).Nodup → n ∈ handlesList ks →
    (∀ q, findList? n ks = some q → q.value.isText = true) →
    replaceKids n (fun _ => []) ks = pruneTextKids (fun h => h == n) ks := by
  intro ks nd hn ht
  obtain ⟨t, hf⟩ := Option.isSome_iff_exists.1 ((findList?_isSome_iff n ks).2 hn)
  have htt : t.value.isText = true := ht t hf
  have a := At.of_find n ks t nd hf
  clear nd hn ht hf
  induction a with
  | @top l r he hl hr =>
    rw [replaceKids_split n _ l r t he hl, pruneTextKids_append, pruneTextKids_of_not_mem hl]
    simp only [pruneTextKids, htt, he, beq_self_eq_true, Bool.and_self, if_true,
      pruneTextKids_of_not_mem hr, List.append_nil]
  | @under l r cs h v hne hl hr _ ih =>
    have hb : (h == n) = false := by simpa using hne
    rw [replaceKids_around n _ l r (.node h v cs) hl hr hne, pruneTextKids_append,
      pruneTextKids_of_not_mem hl]
    simp only [pruneTextKids, HTree.handle, hb, Bool.and_false, Bool.false_eq_true, if_false,
      pruneTextKids_of_not_mem hr, replaceBelow, pruneText, ih]

theorem replaceBelow_prune (n : Nat) : ∀ t : HTree, (handles t).Nodup → n ∈ handlesList t.kids →
      (∀ q, find? n t = some q → q.value.isText = true) →
      replaceBelow n (fun _ => []) t = pruneText (fun h => h == n) t
  | .node h v ks, nd, hn, ht => by
    obtain ⟨hne, ndk⟩ := nodup_kids nd
    have e : ¬ h = n := fun e => hne (e ▸ hn)
    simp only [replaceBelow, pruneText]
    rw [replaceKids_prune n ks ndk hn (fun q hq => ht q (by simp only [find?, if_neg e, hq]))]

/-! ### no consolidation -/

theorem removeConsolidate_noop (f : Forest) (prev next : Option Nat)
    (h : ∀ ph, prev = some ph → f.textOf ph = none) : (f.removeConsolidate prev next).1 = f := by
  rcases Forest.removeConsolidate_outcome f prev next with e | ⟨p, _, _, _, hp, _, _, htp, _⟩
  · rw [e]
  · rw [h p hp] at htp; cases htp

theorem noAdj_split (l : List HTree) (q k : HTree) (r : List HTree)
    (h : noAdjacentText (l ++ q :: k :: r) = true) : (q.value.isText && k.value.isText) = false := by
  rw [noAdjacentText_eq, textFlags, List.map_append, noAdjB_append, List.map_cons, List.map_cons, noAdjB_cons] at h
  simp only [Bool.and_eq_true, Bool.not_eq_true'] at h
  exact h.1.2.1

theorem noAdj_of_valid {t : HTree} (hv : validTree true t = true) : noAdjacentText t.kids = true := by
  cases t with
  | node h v ks =>
    simp only [validTree, Bool.and_eq_true] at hv
    simpa [HTree.kids] using hv.1.2

/-- `remove_subtree` of a text node deletes exactly that node. -/
theorem dropSubtree_text {g : Forest} (nd : g.allHandles.Nodup)
    {k : HTree} {anc : List HTree} (o : Occurs g k anc) (hk : k.value.isText = true) :
    g.dropSubtree k.handle = pruned g (fun h => h == k.handle) := by
  obtain ⟨path, l, r, lc, _⟩ := o.loc
  have fr := lc.fresh nd
  unfold Forest.dropSubtree pruned
  rw [Forest.cut_of_loc lc nd]
  congr 1
  -- the pruning passes the path and the siblings and deletes `k`
  conv => rhs; rw [lc.eq]
  rw [pruneTextKids_plug _ path _ fr.path, pruneTextKids_append, pruneTextKids_of_not_mem fr.left]
  simp only [pruneTextKids, hk, beq_self_eq_true, Bool.and_self, if_true, pruneTextKids_of_not_mem fr.right]

/-- In a forest without adjacent text nodes the previous sibling of a text node is not text. -/
theorem prev_not_text {g : Forest} (nd : g.allHandles.Nodup) (hv : validList true g.roots = true)
    {k : HTree} {anc : List HTree} (o : Occurs g k anc) (hk : k.value.isText = true) {ph : Nat}
    (hph : g.prevSibling k.handle = some ph) : g.textOf ph = none := by
  cases anc with
  | nil =>
    simp [Forest.prevSibling, o.ctx_root nd] at hph
  | cons p anc =>
    obtain ⟨op, hkp⟩ := o.parent
    obtain ⟨l, r, hs⟩ := List.append_of_mem hkp
    unfold Forest.prevSibling at hph
    rw [o.ctx nd hs] at hph
    simp only at hph
    rcases List.eq_nil_or_concat l with rfl | ⟨l', q, rfl⟩
    · simp at hph
    · rw [List.concat_eq_append] at hs hph
      rw [List.getLast?_concat] at hph
      simp only at hph
      split at hph
      · cases hph
        have hs' : p.kids = l' ++ q :: k :: r := by rw [hs]; simp
        have hq : q.value.isText = false := by
          have := noAdj_split l' q k r (hs' ▸ noAdj_of_valid (op.valid hv))
          simpa [hk] using this
        have oq : Occurs g q (p :: anc) := .kid op (by rw [hs']; simp)
        rw [textOf_at nd oq]
        cases hqv : q.value <;> rw [hqv] at hq <;> simp [Value.isText] at hq ⊢
      · cases hph

/-- No consolidation: `remove` of a text node is `remove_subtree`. -/
theorem remove_eq_drop {g : Forest} (nd : g.allHandles.Nodup) (hv : validList true g.roots = true)
    {k : HTree} {anc : List HTree} (o : Occurs g k anc) (hk : k.value.isText = true) :
    (g.remove k.handle).1 = g.dropSubtree k.handle := by
  unfold Forest.remove
  simp only
  apply removeConsolidate_noop
  intro ph hph
  have h1 := prev_not_text nd hv o hk hph
  rw [dropSubtree_text nd o hk]
  cases ht : (pruned g (fun h => h == k.handle)).textOf ph with
  | none => rfl
  | some s => rw [pruned_textOf _ nd ht] at h1; cases h1

/-- `remove` of a text node in a forest without adjacent text nodes deletes exactly that node. -/
theorem remove_text {g : Forest} (nd : g.allHandles.Nodup) (hv : validList true g.roots = true)
    {k : HTree} {anc : List HTree} (o : Occurs g k anc) (hk : k.value.isText = true) :
    (g.remove k.handle).1 = pruned g (fun h => h == k.handle) := by
  rw [remove_eq_drop nd hv o hk, dropSubtree_text nd o hk]

/-! ### the loop runs with consolidation switched off -/

/-- `remove` of a text node with consolidation off deletes exactly that node — whatever its
    neighbours are. -/
theorem remove_text_off {g : Forest} (nd : g.allHandles.Nodup) (hc : g.consolidation = false)
    {k : HTree} {anc : List HTree} (o : Occurs g k anc) (hk : k.value.isText = true) :
    (g.remove k.handle).1 = pruned g (fun h => h == k.handle) := by
  rw [Forest.remove_consOff hc, dropSubtree_text nd o hk]

theorem Occurs.of_roots_eq {f f' : Forest} (h : f.roots = f'.roots) {t : HTree} {anc : List HTree}
    (o : Occurs f t anc) : Occurs f' t anc := by
  induction o with
  | root hr => exact .root (h ▸ hr)
  | kid _ hk ih => exact .kid ih hk

end Fws
end XotModel
