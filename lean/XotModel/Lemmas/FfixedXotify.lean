/-
  `Element::xotify`: the head of an element (`newElementWithMaps`, `headKids`), the `append` loop, and what every route
  produces: handle-labelled copies of `treeOfContent c` whose handles fill a given range (`BuiltC`, `BuiltL`, `Built`).
  `xotifyContent` / `xotifyList` build exactly these as new parentless trees.
-/
import XotModel.Lemmas.FfixedMaps
import XotModel.Lemmas.FinvValid

/-! ### The pieces of `Element::xotify`

Text adjacency on handle-labelled copies of `treeOfList cs`, the head of an element, the `append` loop. -/

namespace XotModel
open HTree

theorem Good.add_roots {f : Forest} (hg : Good f) (ts : List HTree) (n' : Nat)
    (hnd : (handlesList ts).Nodup) (hb : ∀ h ∈ handlesList ts, f.next ≤ h ∧ h < n') (hn : f.next ≤ n') :
    Good { f with roots := f.roots ++ ts, next := n' } :=
  hg.of_count_add _ n' (handlesList ts)
    (fun a => by rw [handlesList_append, List.count_append]) hnd hb hn

theorem noAdjacentText_last (k1 : List HTree) (k t : HTree) (r : List HTree)
    (h : noAdjacentText (k1 ++ k :: t :: r) = true) : ¬ (k.value.isText = true ∧ t.value.isText = true) := by
  rw [noAdjacentText_eq, textFlags, List.map_append, noAdjB_append, List.map_cons, List.map_cons, noAdjB_cons] at h
  simp only [Bool.and_eq_true, Bool.not_eq_true'] at h
  intro ⟨h1, h2⟩
  have h3 : (k.value.isText && t.value.isText) = false := h.1.2.1
  rw [h1, h2] at h3
  cases h3

theorem noAdjacentText_append_nontext : ∀ (K ts : List HTree), (∀ k ∈ K, k.value.isText = false) →
    noAdjacentText ts = true → noAdjacentText (K ++ ts) = true
  | [] => fun ts _ h => h
  | [a] => by
    intro ts hK h
    cases ts with
    | nil => rfl
    | cons t ts =>
      simp only [List.cons_append, List.nil_append, noAdjacentText, Bool.and_eq_true]
      exact ⟨by simp [hK a (by simp)], h⟩
  | a :: b :: K => by
    intro ts hK h
    simp only [List.cons_append, noAdjacentText, Bool.and_eq_true]
    refine ⟨by simp [hK a (by simp)], ?_⟩
    exact noAdjacentText_append_nontext (b :: K) ts (fun k hk => hK k (List.mem_cons_of_mem _ hk)) h

theorem treeOfContent_isText (c : FContent) : (treeOfContent c).value.isText = c.isText := by
  cases c <;> simp [treeOfContent, Tree.value, Value.isText, FContent.isText]

theorem treeOfContent_normal (c : FContent) :
    (treeOfContent c).value.isNormal = true ∧ (treeOfContent c).value.isDocument = false := by
  cases c <;> simp [treeOfContent, Tree.value, Value.isNormal, Value.category, Value.isDocument]

theorem noAdjacentFText_tail {c : FContent} {cs : List FContent} (h : noAdjacentFText (c :: cs) = true) :
    noAdjacentFText cs = true := by
  cases cs with
  | nil => rfl
  | cons c' cs' =>
    simp only [noAdjacentFText, Bool.and_eq_true] at h
    exact h.2

theorem noAdjacentFText_head {c c' : FContent} {cs : List FContent}
    (h : noAdjacentFText (c :: c' :: cs) = true) : (c.isText && c'.isText) = false := by
  simp only [noAdjacentFText, Bool.and_eq_true, Bool.not_eq_true'] at h
  exact h.1

theorem FContent.wf_element {b : Bool} {nm : Nat} {ps : List (Nat × Nat)} {as : List (Nat × Str)}
    {cs : List FContent} (h : (FContent.element nm ps as cs).wf b = true) :
    (ps.map (·.1)).Nodup ∧ (as.map (·.1)).Nodup ∧ (b = true → noAdjacentFText cs = true) ∧
      FContent.wfList b cs = true := by
  simp only [FContent.wf, Bool.and_eq_true, decide_eq_true_eq, Bool.or_eq_true, Bool.not_eq_true'] at h
  obtain ⟨⟨⟨hps, has⟩, hadj⟩, hwfl⟩ := h
  exact ⟨hps, has, fun hb => hadj.resolve_left (by rw [hb]; exact Bool.noConfusion), hwfl⟩

theorem built_normal : ∀ (ts : List HTree) (cs : List FContent), eraseList ts = treeOfList cs →
    ∀ t ∈ ts, t.value.isNormal = true ∧ t.value.isDocument = false
  | [], _, _ => by intro t ht; cases ht
  | t :: ts, [], h => by simp [eraseList, treeOfList] at h
  | t :: ts, c :: cs, h => by
    simp only [eraseList, treeOfList, List.cons.injEq] at h
    intro x hx
    rw [List.mem_cons] at hx
    rcases hx with rfl | hx
    · rw [← Reach.erase_value, h.1]; exact treeOfContent_normal c
    · exact built_normal ts cs h.2 x hx

theorem built_noAdjacentText : ∀ (ts : List HTree) (cs : List FContent), eraseList ts = treeOfList cs →
    noAdjacentFText cs = true → noAdjacentText ts = true
  | [], _, _, _ => rfl
  | [t], _, _, _ => rfl
  | t :: u :: ts, [], h, _ => by simp [eraseList, treeOfList] at h
  | t :: u :: ts, [c], h, _ => by simp [eraseList, treeOfList] at h
  | t :: u :: ts, c :: d :: cs, h, hn => by
    simp only [eraseList, treeOfList, List.cons.injEq] at h
    simp only [noAdjacentFText, Bool.and_eq_true] at hn
    simp only [noAdjacentText, Bool.and_eq_true]
    refine ⟨?_, built_noAdjacentText (u :: ts) (d :: cs) (by simp [eraseList, treeOfList, h.2.1, h.2.2]) hn.2⟩
    rw [← Reach.erase_value t, ← Reach.erase_value u, h.1, h.2.1, treeOfContent_isText, treeOfContent_isText]
    exact hn.1

namespace Forest

/-- The head of an element: its namespace and attribute leaves. -/
def headKids (n : Nat) (ps : List (Nat × Nat)) (as : List (Nat × Str)) : List HTree :=
  leavesFrom (n + 1) (ps.map nsVal ++ as.map attrVal)

theorem headKids_nontext {n : Nat} {ps : List (Nat × Nat)} {as : List (Nat × Str)} :
    ∀ k ∈ headKids n ps as, k.value.isText = false ∧ k.value.isNormal = false := by
  intro k hk
  have := (mem_leavesFrom hk).1
  rw [List.mem_append, List.mem_map, List.mem_map] at this
  rcases this with ⟨p, _, e⟩ | ⟨a, _, e⟩ <;> rw [← e] <;>
    simp [nsVal, attrVal, Value.isText, Value.isNormal, Value.category]

theorem eraseList_headKids (n : Nat) (ps : List (Nat × Nat)) (as : List (Nat × Str)) :
    eraseList (headKids n ps as) = ps.map nsTree ++ as.map attrTree := by
  unfold headKids
  rw [eraseList_leavesFrom, List.map_append, List.map_map, List.map_map]
  rfl

theorem mem_handlesList_headKids {n h : Nat} {ps : List (Nat × Nat)} {as : List (Nat × Str)} :
    h ∈ handlesList (headKids n ps as) ↔ n + 1 ≤ h ∧ h < n + 1 + ps.length + as.length := by
  unfold headKids
  rw [mem_handlesList_leavesFrom]
  simp only [List.length_append, List.length_map]
  omega

theorem newElementWithMaps_spec (f : Forest) (hg : Good f) (nm : Nat) (ps : List (Nat × Nat))
    (as : List (Nat × Str)) (hps : (ps.map (·.1)).Nodup) (has : (as.map (·.1)).Nodup) :
    f.newElementWithMaps nm ps as =
      some ({ f with roots := f.roots ++ [HTree.node f.next (.element nm) (headKids f.next ps as)],
                     next := f.next + 1 + ps.length + as.length }, f.next) := by
  unfold newElementWithMaps newElement
  have hg1 := hg.newNode (.element nm)
  simp only [newNode] at hg1 ⊢
  rw [insertPrefixes_spec (A := f.roots) (el := f.next) (nm := nm) ps _ [] rfl hg1
    (by intro c hc; cases hc) (by simpa using hps)]
  simp only [List.nil_append]
  have hns : ∀ c ∈ leavesFrom (f.next + 1) (ps.map nsVal), c.value.category = .namespace := by
    intro c hc
    have := (mem_leavesFrom hc).1
    rw [List.mem_map] at this
    obtain ⟨p, _, e⟩ := this
    rw [← e]; rfl
  have hg2 : Good { f with roots := f.roots ++ [HTree.node f.next (.element nm) (leavesFrom (f.next + 1) (ps.map nsVal))],
                           next := f.next + 1 + ps.length } := by
    have := hg.add_roots [HTree.node f.next (.element nm) (leavesFrom (f.next + 1) (ps.map nsVal))]
      (f.next + 1 + ps.length)
      (by
        simp only [handlesList, handles, List.append_nil, List.nodup_cons]
        refine ⟨?_, nodup_handlesList_leavesFrom _ _⟩
        rw [mem_handlesList_leavesFrom]; omega)
      (by
        intro h hh
        simp only [handlesList, handles, List.append_nil, List.mem_cons] at hh
        rcases hh with rfl | hh
        · omega
        · rw [mem_handlesList_leavesFrom, List.length_map] at hh; omega)
      (by omega)
    exact this
  rw [insertAttributes_spec (A := f.roots) (el := f.next) (nm := nm) hns as _ [] (by simp) hg2
    (by intro c hc; cases hc) (by simpa using has)]
  simp only [List.nil_append, headKids, leavesFrom_append, List.length_map]

theorem appendOk_eq {f f' : Forest} {p c : Nat} (h : f.append p c = (f', .ok)) :
    f.appendOk p c = some f' := by
  unfold appendOk; rw [h]

/-- The `append` loop: the roots `ts` right after the root `p` become its last children. -/
theorem appendAllOk_after {A B : List HTree} {p : Nat} {v : Value}
    (hpv : v.isElement = true ∨ v.isDocument = true) : ∀ (ts : List HTree) (f : Forest)
    (ks : List HTree), f.roots = A ++ HTree.node p v ks :: (ts ++ B) → Good f →
    (∀ t ∈ ts, t.value.isNormal = true ∧ t.value.isDocument = false) →
    (f.consolidation = true → noAdjacentText (ks ++ ts) = true) →
    f.appendAllOk p (ts.map HTree.handle) = some { f with roots := A ++ HTree.node p v (ks ++ ts) :: B }
  | [] => by
    intro f ks hroots _ _ _
    simp only [List.map_nil, appendAllOk, List.append_nil]
    simp only [List.nil_append] at hroots
    rw [← hroots]
  | t :: ts => by
    intro f ks hroots hg hnorm htext
    have hR : RootAt f (A ++ [HTree.node p v ks]) t (ts ++ B) := ⟨by simp [hroots], hg.nodup⟩
    have hXY : (A ++ [HTree.node p v ks]) ++ (ts ++ B) = A ++ HTree.node p v ks :: (ts ++ B) := by simp
    have happ := hR.append_root hXY hpv (hnorm t (by simp)).1 (hnorm t (by simp)).2 (by
      intro hc ht k hk
      obtain ⟨k1, rfl⟩ := List.getLast?_eq_some_iff.1 hk
      have := noAdjacentText_last k1 k t ts (by simpa using htext hc)
      cases hkt : k.value.isText with
      | false => rfl
      | true => exact absurd ⟨hkt, ht⟩ this)
    simp only [List.map_cons, appendAllOk]
    rw [appendOk_eq happ]
    simp only
    have hg' : Good { f with roots := A ++ HTree.node p v (ks ++ [t]) :: (ts ++ B) } := by
      refine Good.of_count_eq (f' := { f with roots := A ++ HTree.node p v (ks ++ [t]) :: (ts ++ B) })
        hg (Nat.le_refl f.next) ?_
      intro a
      show (handlesList (A ++ HTree.node p v (ks ++ [t]) :: (ts ++ B))).count a = _
      rw [count_move_last hXY a, hR.roots]
    rw [appendAllOk_after hpv ts _ (ks ++ [t]) rfl hg'
      (fun x hx => hnorm x (List.mem_cons_of_mem _ hx))
      (by intro hc; simpa using htext hc)]
    simp

end Forest
end XotModel

/-! ### What every route produces

How the copies are put together: leaf, element from head and children, list from head and tail. -/

namespace XotModel
open HTree

/-- `t` is a handle-labelled copy of the tree of `c`, with handles in `[n, n + size)`. -/
structure BuiltC (n : Nat) (c : FContent) (t : HTree) : Prop where
  handle : t.handle = n
  erase : t.erase = treeOfContent c
  bounds : ∀ h ∈ handles t, n ≤ h ∧ h < n + c.size
  nodup : (handles t).Nodup

structure BuiltL (n : Nat) (cs : List FContent) (ts : List HTree) : Prop where
  erase : eraseList ts = treeOfList cs
  bounds : ∀ h ∈ handlesList ts, n ≤ h ∧ h < n + FContent.sizeList cs
  nodup : (handlesList ts).Nodup

/-- `t` is a handle-labelled copy of the tree of `c`, with handles in `[n, n + size)`
    (no claim about which of them is the root's). -/
structure Built (n : Nat) (c : FContent) (t : HTree) : Prop where
  erase : t.erase = treeOfContent c
  bounds : ∀ h ∈ handles t, n ≤ h ∧ h < n + c.size
  nodup : (handles t).Nodup

theorem BuiltC.toBuilt {n : Nat} {c : FContent} {t : HTree} (h : BuiltC n c t) : Built n c t :=
  ⟨h.erase, h.bounds, h.nodup⟩

theorem Built.isText {n : Nat} {c : FContent} {t : HTree} (h : Built n c t) : t.value.isText = c.isText := by
  rw [← treeOfContent_isText, ← h.erase, Reach.erase_value]

theorem Built.leaf (n : Nat) (c : FContent) (v : Value) (hc : treeOfContent c = .node v [])
    (hs : c.size = 1) : Built n c (.node n v []) := by
  refine ⟨by rw [hc]; rfl, ?_, by simp [handles, handlesList]⟩
  intro h hh
  simp only [handles, handlesList, List.mem_singleton] at hh
  omega

theorem BuiltC.leaf (n : Nat) (c : FContent) (v : Value) (hc : treeOfContent c = .node v [])
    (hs : c.size = 1) : BuiltC n c (.node n v []) :=
  let b := Built.leaf n c v hc hs
  ⟨rfl, b.erase, b.bounds, b.nodup⟩

theorem BuiltL.nil (n : Nat) : BuiltL n [] [] :=
  ⟨rfl, fun _ hh => (nomatch hh), List.nodup_nil⟩

/-- A list from a copy of its head with handles from `a` and a copy of its tail with handles from
    `b`, the two ranges disjoint and inside `[n, n + size)`. -/
theorem BuiltL.cons_of_disjoint {n a b : Nat} {c : FContent} {cs : List FContent} {t : HTree}
    {ts : List HTree} (ht : Built a c t) (hts : BuiltL b cs ts)
    (ha : n ≤ a ∧ a + c.size ≤ n + (c.size + FContent.sizeList cs))
    (hb : n ≤ b ∧ b + FContent.sizeList cs ≤ n + (c.size + FContent.sizeList cs))
    (hd : a + c.size ≤ b ∨ b + FContent.sizeList cs ≤ a) : BuiltL n (c :: cs) (t :: ts) := by
  refine ⟨?_, ?_, ?_⟩
  · simp only [eraseList, treeOfList, ht.erase, hts.erase]
  · intro h hh
    simp only [handlesList, List.mem_append, FContent.sizeList] at hh ⊢
    rcases hh with hh | hh
    · have := ht.bounds h hh; omega
    · have := hts.bounds h hh; omega
  · simp only [handlesList]
    refine List.nodup_append.2 ⟨ht.nodup, hts.nodup, ?_⟩
    intro x hx y hy e
    have h1 := ht.bounds x hx
    have h2 := hts.bounds y hy
    omega

/-- Head first, tail after it. -/
theorem BuiltL.cons {n : Nat} {c : FContent} {cs : List FContent} {t : HTree} {ts : List HTree}
    (ht : Built n c t) (hts : BuiltL (n + c.size) cs ts) : BuiltL n (c :: cs) (t :: ts) :=
  BuiltL.cons_of_disjoint ht hts (by omega) (by omega) (Or.inl (Nat.le_refl _))

/-- Tail first, head after it. -/
theorem BuiltL.cons_rev {n : Nat} {c : FContent} {cs : List FContent} {t : HTree} {ts : List HTree}
    (ht : Built (n + FContent.sizeList cs) c t) (hts : BuiltL n cs ts) : BuiltL n (c :: cs) (t :: ts) :=
  BuiltL.cons_of_disjoint ht hts (by omega) (by omega) (Or.inr (Nat.le_refl _))

namespace Forest

/-- The head of an element created at `el`: the element node with its namespace and attribute
    leaves has the handles `[el, el + 1 + |ps| + |as|)`, each once. -/
theorem headTree_handles (el nm : Nat) (ps : List (Nat × Nat)) (as : List (Nat × Str)) :
    (handles (HTree.node el (.element nm) (headKids el ps as))).Nodup ∧
    ∀ h ∈ handles (HTree.node el (.element nm) (headKids el ps as)),
      el ≤ h ∧ h < el + 1 + ps.length + as.length := by
  constructor
  · simp only [handles, List.nodup_cons]
    refine ⟨?_, nodup_handlesList_leavesFrom _ _⟩
    rw [mem_handlesList_headKids]; omega
  · intro h hh
    simp only [handles, List.mem_cons] at hh
    rcases hh with rfl | hh
    · omega
    · rw [mem_handlesList_headKids] at hh; omega

theorem good_add_head {f : Forest} (hg : Good f) (nm : Nat) (ps : List (Nat × Nat))
    (as : List (Nat × Str)) :
    Good { f with roots := f.roots ++ [HTree.node f.next (.element nm) (headKids f.next ps as)],
                  next := f.next + 1 + ps.length + as.length } := by
  obtain ⟨hnd, hb⟩ := headTree_handles f.next nm ps as
  refine hg.add_roots [_] _ ?_ ?_ (by omega)
  · simpa only [handlesList, List.append_nil] using hnd
  · simpa only [handlesList, List.append_nil] using hb

theorem good_add_built {f : Forest} (hg : Good f) {c : FContent} {t : HTree} (hb : Built f.next c t) :
    Good { f with roots := f.roots ++ [t], next := f.next + c.size } :=
  hg.add_roots [t] _ (by simpa [handlesList] using hb.nodup)
    (by intro h hh; simp only [handlesList, List.append_nil] at hh; exact hb.bounds h hh) (by omega)

theorem good_add_root {f : Forest} (hg : Good f) {c : FContent} {t : HTree} (hb : BuiltC f.next c t) :
    Good { f with roots := f.roots ++ [t], next := f.next + c.size } :=
  good_add_built hg hb.toBuilt

theorem built_element {n el : Nat} {nm : Nat} {ps : List (Nat × Nat)} {as : List (Nat × Str)}
    {cs : List FContent} {ts : List HTree} (lo : Nat) (hts : BuiltL lo cs ts)
    (hel : n ≤ el ∧ el + 1 + ps.length + as.length ≤ n + (FContent.element nm ps as cs).size)
    (hlo : n ≤ lo ∧ lo + FContent.sizeList cs ≤ n + (FContent.element nm ps as cs).size)
    (hdisj : lo + FContent.sizeList cs ≤ el ∨ el + 1 + ps.length + as.length ≤ lo) :
    Built n (.element nm ps as cs) (HTree.node el (.element nm) (headKids el ps as ++ ts)) := by
  have hKn : (handlesList (headKids el ps as)).Nodup := nodup_handlesList_leavesFrom _ _
  refine ⟨?_, ?_, ?_⟩
  · simp only [erase, treeOfContent, eraseList_append, hts.erase, eraseList_headKids,
      List.append_assoc]
  · intro h hh
    simp only [handles, handlesList_append, List.mem_cons, List.mem_append] at hh
    rcases hh with rfl | hh | hh
    · omega
    · rw [mem_handlesList_headKids] at hh; omega
    · have := hts.bounds h hh; omega
  · simp only [handles, handlesList_append, List.nodup_cons, List.mem_append, not_or]
    refine ⟨⟨?_, ?_⟩, List.nodup_append.2 ⟨hKn, hts.nodup, ?_⟩⟩
    · rw [mem_handlesList_headKids]; omega
    · intro hh; have := hts.bounds _ hh; omega
    · intro a ha b hb e
      rw [mem_handlesList_headKids] at ha
      have := hts.bounds _ hb; omega

/-- With consolidation on, the children of a well-formed element have no two adjacent text nodes:
    the head kids are not text, and the built children mirror `cs`. -/
theorem element_adjacency {f : Forest} {el : Nat} {ps : List (Nat × Nat)} {as : List (Nat × Str)}
    {cs : List FContent} {ts : List HTree} (he : eraseList ts = treeOfList cs)
    (hadj : f.consolidation = true → noAdjacentFText cs = true) :
    f.consolidation = true → noAdjacentText (headKids el ps as ++ ts) = true := fun hc =>
  noAdjacentText_append_nontext _ _ (fun k hk => (headKids_nontext k hk).1)
    (built_noAdjacentText ts cs he (hadj hc))

end Forest
end XotModel

/-! ### `xotifyContent` / `xotifyList` -/

namespace XotModel
open HTree

namespace Forest

mutual
  theorem xotifyContent_spec : ∀ (c : FContent) (f : Forest), Good f → c.wf f.consolidation = true →
      ∃ t, BuiltC f.next c t ∧
        xotifyContent f c = some ({ f with roots := f.roots ++ [t], next := f.next + c.size }, f.next)
    | .text s => fun f _ _ => ⟨.node f.next (.text s) [], BuiltC.leaf _ _ _ rfl rfl, rfl⟩
    | .comment s => fun f _ _ => ⟨.node f.next (.comment s) [], BuiltC.leaf _ _ _ rfl rfl, rfl⟩
    | .pi t d => fun f _ _ => ⟨.node f.next (.pi t d) [], BuiltC.leaf _ _ _ rfl rfl, rfl⟩
    | .element nm ps as cs => by
      intro f hg hwf
      obtain ⟨hps, has, hadj, hwfl⟩ := FContent.wf_element hwf
      have hhead := newElementWithMaps_spec f hg nm ps as hps has
      let K := headKids f.next ps as
      let f1 : Forest := { f with roots := f.roots ++ [HTree.node f.next (.element nm) K],
                                  next := f.next + 1 + ps.length + as.length }
      have hg1 : Good f1 := good_add_head hg nm ps as
      obtain ⟨ts, hts, hlist⟩ := xotifyList_spec cs f1 hg1 hwfl
      let f2 : Forest := { f1 with roots := f1.roots ++ ts, next := f1.next + FContent.sizeList cs }
      have hg2 : Good f2 := hg1.add_roots ts _ hts.nodup hts.bounds (by omega)
      have hroots2 : f2.roots = f.roots ++ HTree.node f.next (.element nm) K :: (ts ++ []) := by
        simp [f2, f1]
      have happ := appendAllOk_after (A := f.roots) (B := []) (p := f.next) (v := .element nm)
        (Or.inl rfl) ts f2 K hroots2 hg2 (built_normal ts cs hts.erase)
        (element_adjacency (f := f) hts.erase hadj)
      have hb := built_element (n := f.next) (el := f.next) (nm := nm) f1.next hts
        (by simp only [FContent.size]; omega) (by simp only [f1, FContent.size]; omega)
        (Or.inr (Nat.le_refl _))
      refine ⟨HTree.node f.next (.element nm) (K ++ ts), ⟨rfl, hb.erase, hb.bounds, hb.nodup⟩, ?_⟩
      · unfold xotifyContent
        rw [hhead]
        simp only
        rw [hlist]
        simp only
        rw [happ]
        simp only [f2, f1, FContent.size, Option.some.injEq, Prod.mk.injEq, and_true]
        congr 1
        omega
  theorem xotifyList_spec : ∀ (cs : List FContent) (f : Forest), Good f →
      FContent.wfList f.consolidation cs = true →
      ∃ ts, BuiltL f.next cs ts ∧
        xotifyList f cs = some ({ f with roots := f.roots ++ ts, next := f.next + FContent.sizeList cs },
          ts.map HTree.handle)
    | [] => fun f _ _ => ⟨[], BuiltL.nil _, by simp [xotifyList, FContent.sizeList]⟩
    | c :: cs => by
      intro f hg hwf
      simp only [FContent.wfList, Bool.and_eq_true] at hwf
      obtain ⟨t, ht, hc⟩ := xotifyContent_spec c f hg hwf.1
      let f1 : Forest := { f with roots := f.roots ++ [t], next := f.next + c.size }
      obtain ⟨ts, hts, hl⟩ := xotifyList_spec cs f1 (good_add_root hg ht) hwf.2
      refine ⟨t :: ts, BuiltL.cons ht.toBuilt hts, ?_⟩
      · unfold xotifyList
        rw [hc]
        simp only
        rw [hl]
        simp only [f1, List.map_cons, ht.handle, FContent.sizeList, List.append_assoc,
          List.cons_append, List.nil_append, Option.some.injEq, Prod.mk.injEq, and_true]
        congr 1
        omega
end

end Forest
end XotModel
