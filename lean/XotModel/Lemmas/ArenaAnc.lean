/-
  Walking up the `parent` pointers of a well-formed arena: the chain
  of ancestors of a live node exists, has no repetition, hence at most `count` members
  (pigeonhole), so the fuel `count + 1` of `ancestors().any(..)` and the limit of the
  `ancestors` iterator are never exhausted; the walk yields exactly that chain.
-/
import XotModel.Lemmas.ArenaTransplant

namespace XotModel
namespace Arena

theorem nodup_bounded : ∀ (n : Nat) (l : List Nat), l.Nodup → (∀ x ∈ l, x < n) → l.length ≤ n
  | 0, l, _, hb => by
    cases l with
    | nil => simp
    | cons x xs => exact absurd (hb x (by simp)) (by omega)
  | n + 1, l, hn, hb => by
    have h1 : (l.erase n).Nodup := hn.erase n
    have h2 : ∀ x ∈ l.erase n, x < n := by
      intro x hx
      have hx' := (List.Nodup.mem_erase_iff hn).mp hx
      have := hb x hx'.2
      omega
    have h3 := nodup_bounded n (l.erase n) h1 h2
    by_cases hm : n ∈ l
    · rw [List.length_erase_of_mem hm] at h3; omega
    · rw [List.erase_of_not_mem hm] at h3; omega

/-- `l` is the chain `c, parent c, parent (parent c), …` up to a parentless node. -/
inductive UpChain (par : Nat → Option Nat) : Nat → List Nat → Prop where
  | root {c : Nat} : par c = none → UpChain par c [c]
  | step {c q : Nat} {l : List Nat} : par c = some q → UpChain par q l → UpChain par c (c :: l)

theorem UpChain.mem_iff {par : Nat → Option Nat} {c : Nat} {l : List Nat} (h : UpChain par c l) (t : Nat) :
    t ∈ l ↔ Reach par c t := by
  induction h with
  | @root c hc =>
    constructor
    · intro hm; simp at hm; subst hm; exact .refl _
    · intro hr
      cases hr with
      | refl => simp
      | step hp _ => rw [hc] at hp; cases hp
  | @step c q l hc _ ih =>
    constructor
    · intro hm
      rcases List.mem_cons.mp hm with h | h
      · subst h; exact .refl _
      · exact .step hc (ih.mp h)
    · intro hr
      cases hr with
      | refl => simp
      | step hp hr' =>
        rw [hc] at hp; cases hp
        exact List.mem_cons_of_mem _ (ih.mpr hr')

theorem UpChain.head {par : Nat → Option Nat} {c : Nat} {l : List Nat} (h : UpChain par c l) :
    ∃ rest, l = c :: rest := by
  cases h with
  | root _ => exact ⟨[], rfl⟩
  | step _ _ => exact ⟨_, rfl⟩

/-- The chain exists and is short (fuel argument with the set of nodes already passed). -/
theorem Rep.upChain_aux {a : Arena} {g : Shape} (r : Rep a g) :
    ∀ (fuel : Nat) (path : List Nat) (c : Nat), Live a c → path.Nodup →
      (∀ v ∈ path, v < a.nodes.length ∧ ∃ v', g.par v = some v' ∧ Reach g.par v' c) →
      a.nodes.length ≤ fuel + path.length →
      ∃ l, UpChain g.par c l ∧ l.length ≤ fuel := by
  intro fuel
  induction fuel with
  | zero =>
    intro path c hc hnd hinv hlen
    exfalso
    obtain ⟨s, hs, _⟩ := hc
    have hcn := lt_of_slot hs
    have hcp : c ∉ path := by
      intro hm
      obtain ⟨_, v', hv', hr⟩ := hinv c hm
      exact r.acyclic c v' hv' hr
    have := nodup_bounded a.nodes.length (c :: path) (List.nodup_cons.mpr ⟨hcp, hnd⟩) (by
      intro x hx
      rcases List.mem_cons.mp hx with h | h
      · subst h; exact hcn
      · exact (hinv x h).1)
    simp at this
    omega
  | succ n ih =>
    intro path c hc hnd hinv hlen
    cases hp : g.par c with
    | none => exact ⟨[c], .root hp, by simp⟩
    | some q =>
      have hq : Live a q := (r.live_of_par hp).2
      obtain ⟨s, hs, _⟩ := hc
      have hcn := lt_of_slot hs
      have hcp : c ∉ path := by
        intro hm
        obtain ⟨_, v', hv', hr⟩ := hinv c hm
        exact r.acyclic c v' hv' hr
      obtain ⟨l, hl, hlen'⟩ := ih (c :: path) q hq (List.nodup_cons.mpr ⟨hcp, hnd⟩) (by
        intro v hv
        rcases List.mem_cons.mp hv with h | h
        · subst h; exact ⟨hcn, q, hp, .refl _⟩
        · obtain ⟨h1, v', hv', hr⟩ := hinv v h
          exact ⟨h1, v', hv', hr.trans (.single hp)⟩) (by simp; omega)
      exact ⟨c :: l, .step hp hl, by simp; omega⟩

theorem Rep.upChain {a : Arena} {g : Shape} (r : Rep a g) (c : Nat) (hc : Live a c) :
    ∃ l, UpChain g.par c l ∧ l.length ≤ a.nodes.length :=
  r.upChain_aux a.nodes.length [] c hc List.nodup_nil (by intro v hv; cases hv) (by simp)

/-- `self.ancestors(arena).any(|n| n == target)` along the chain. -/
theorem Rep.ancestorsAny_chain {a : Arena} {g : Shape} (r : Rep a g) (t : Nat) :
    ∀ (c : Nat) (l : List Nat), UpChain g.par c l → Live a c → ∀ fuel, l.length < fuel →
      ancestorsAny fuel a (some (a.idAt c)) (a.idAt t) = .done a (decide (t ∈ l)) := by
  intro c l h
  induction h with
  | @root c hc =>
    intro hl fuel hf
    obtain ⟨s, hs, h0⟩ := hl
    obtain ⟨n, rfl⟩ : ∃ n, fuel = n + 2 := ⟨fuel - 2, by simp at hf; omega⟩
    unfold ancestorsAny
    simp only []
    rw [rd_idAt a a hs]
    have hpar : s.parent = none := by rw [(r.ptrs c s hs h0).parent, hc]; rfl
    by_cases htc : t = c
    · subst htc; simp
    · have : a.idAt t ≠ a.idAt c := idAt_ne a htc
      simp only [this, if_false, hpar]
      unfold ancestorsAny
      simp [htc]
  | @step c q l hc _ ih =>
    intro hl fuel hf
    obtain ⟨s, hs, h0⟩ := hl
    obtain ⟨n, rfl⟩ : ∃ n, fuel = n + 1 := ⟨fuel - 1, by simp at hf; omega⟩
    unfold ancestorsAny
    simp only []
    rw [rd_idAt a a hs]
    have hpar : s.parent = some (a.idAt q) := by rw [(r.ptrs c s hs h0).parent, hc]; rfl
    by_cases htc : t = c
    · subst htc; simp
    · have : a.idAt t ≠ a.idAt c := idAt_ne a htc
      simp only [this, if_false, hpar]
      rw [ih (r.live_of_par hc).2 n (by simp at hf; omega)]
      simp [htc]

/-- The check of `checked_append` / `checked_prepend` on live ids: it ends, writes nothing, and
    answers whether `t` is `c` or an ancestor of `c`. -/
theorem Rep.ancestorsAny_spec {a : Arena} {g : Shape} (r : Rep a g) (c t : Nat) (hc : Live a c) :
    ∃ b, ancestorsAny a.fuel a (some (a.idAt c)) (a.idAt t) = .done a b ∧ (b = true ↔ Reach g.par c t) := by
  obtain ⟨l, hl, hlen⟩ := r.upChain c hc
  refine ⟨decide (t ∈ l), r.ancestorsAny_chain t c l hl hc a.fuel (by unfold fuel; omega), ?_⟩
  simp [hl.mem_iff t]

theorem Rep.links_parent {a : Arena} {g : Shape} (r : Rep a g) {c : Nat} {l : List Nat} (h : UpChain g.par c l)
    (hc : Live a c) : Links a a (·.parent) l := by
  induction h with
  | @root c hp =>
    obtain ⟨s, hs, h0⟩ := hc
    exact ⟨⟨s, hs, by show s.parent = _; rw [(r.ptrs c s hs h0).parent, hp]; rfl⟩, trivial⟩
  | @step c q l hp hl ih =>
    obtain ⟨s, hs, h0⟩ := hc
    obtain ⟨rest, rfl⟩ := hl.head
    exact ⟨⟨s, hs, by show s.parent = _; rw [(r.ptrs c s hs h0).parent, hp]; rfl⟩, ih (r.live_of_par hp).2⟩

/-- The `ancestors` iterator yields the chain (the node itself first, the root last). -/
theorem Rep.ancestors_chain {a : Arena} {g : Shape} (r : Rep a g) :
    ∀ (c : Nat) (l : List Nat), UpChain g.par c l → Live a c → ∀ limit, l.length ≤ limit →
      ancestors a (a.idAt c) limit = .done a (l.map a.idAt) := fun c l h hc limit hlim => by
  obtain ⟨rest, rfl⟩ := h.head
  rw [← List.take_of_length_le hlim]
  exact walk_links a _ _ limit (r.links_parent h hc)

end Arena
end XotModel
