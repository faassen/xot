/-
  `insert_before` against the pair reading (`specMoveP`), for every forest with the invariant:
  the package `Tail` (what the second half of the call reads and does) and `tail_core`, the three
  geometries of the moved node, `insertBefore_pair`, and the call in the corner
  `Spec.selfMerge f (.before r) c` (`insertBefore_selfMerge`).
-/
import XotModel.Lemmas.BasicFacts
import XotModel.Lemmas.FspecPairStage
import XotModel.Lemmas.FatomMoves

/-! ## The package `Tail` and the second half of the call -/

namespace XotModel
open HTree Spec

namespace PairBefore

theorem natFor_mergeNew {φ : HTree → HTree} (hφ : KidMap φ) (n : Nat) : NatFor φ (mergeNew n) :=
  mergeNew_map hφ n

theorem prevOf_map {φ : HTree → HTree} (hφ : KidMap φ) (A : List HTree) (kr : HTree) :
    prevOf (A.map φ) (φ kr) = prevOf A kr := by
  unfold prevOf
  rw [List.getLast?_map]
  cases A.getLast? with
  | none => rfl
  | some a => simp only [Option.map_some, hφ.value, hφ.handle]

/-! ### The second half of `insert_before` -/

/-- The node before the reference is not the moved node: the helper takes it as it is. -/
theorem selfPrev_prevOf {X : Forest} {c : Nat} {A : List HTree} {kr : HTree}
    (hnot : ∀ k ∈ A, k.handle ≠ c) (h : X.prevSibling kr.handle = prevOf A kr) :
    X.selfPrev c (X.prevSibling kr.handle) = prevOf A kr := by
  rw [h]
  apply Forest.selfPrev_of_ne
  intro e
  obtain ⟨A2, k, eA, ek, _⟩ := prevOf_eq_some e
  exact hnot k (by rw [eA]; simp) ek

/-- What the second half of `insert_before(kr, c)` reads from the state `X` (after the
    old-place consolidation) and what its way of placing the node does, in terms of the forest
    `Y` = `X` without the moved subtree, whose child list of `q` is `A ++ kr :: B`. -/
structure Tail (X Y : Forest) (c : Nat) (t : HTree) (q : Nat) (vq : Value) (A : List HTree) (kr : HTree)
    (B : List HTree) : Prop where
  stage : PairAppend.Stage X Y q c t vq (A ++ kr :: B)
  place : X.checkedInsertBefore kr.handle c = (Y.editAt (some q) (insertBeforeTop kr.handle t), true)
  prev : t.value.isText = true → X.selfPrev c (X.prevSibling kr.handle) = prevOf A kr

/-- The second half of `insert_before`: the node is inserted into `Y` before `kr` and merged with
    the text node it now stands next to (pair reading). -/
theorem tail_core {f X Y : Forest} {c : Nat} {t : HTree} {q : Nat} {vq : Value} {A : List HTree} {kr : HTree}
    {B : List HTree} (hX : f.afterOldSite c = X) (T : Tail X Y c t q vq A kr B) (htc : t.handle = c)
    (hkrn : kr.value.isNormal = true) (hleafT : t.value.isText = true → t.kids = []) :
    (f.moveTail c (fun g => g.prevSibling kr.handle) (fun _ => some kr.handle)
        (fun g => g.checkedInsertBefore kr.handle c)).1 =
      (Y.editAt (some q) (insertBeforeTop kr.handle t)).mergeNewAt q c := by
  subst htc
  have S := T.stage
  have hI : insertBeforeTop kr.handle t (A ++ kr :: B) = A ++ t :: kr :: B :=
    insertBeforeTop_mid t (tops_ne_of_nodup S.ysite.nodupKids.1).1
  have hAt : ∀ x ∈ A, x.handle ≠ t.handle := fun x hx => S.ynot x (List.mem_append_left _ hx)
  have hXtext : X.textOf t.handle = textData t := Forest.textOf_of_get S.xget
  -- the helper works with `selfPrev` of the node before the reference
  have hprevS : X.addConsolidate t.handle (X.prevSibling kr.handle) (some kr.handle) =
      X.addConsolidate t.handle (prevOf A kr) (some kr.handle) :=
    Forest.addConsolidate_congr_prev hXtext (fun _ => T.prev) (fun e => by
      obtain ⟨A2, ka, eA, eka, _⟩ := prevOf_eq_some e
      exact hAt ka (by rw [eA]; simp) eka)
  exact S.moveTail hX hleafT hprevS
    (fun ka hka hkat => by
      obtain ⟨A2, rfl⟩ := List.getLast?_eq_some_iff.1 hka
      exact prevOf_snoc_normal _ (Forest.normal_of_isText hkat) hkrn)
    (fun a h => by
      obtain ⟨A2, ka, rfl, eka, _⟩ := prevOf_eq_some h
      exact ⟨ka, by simp, eka⟩)
    (fun _ => ⟨fun kb h _ => by cases h; rfl, fun b h => ⟨kr, rfl, Option.some.inj h⟩⟩)
    hI (fun _ => T.place)

end PairBefore
end XotModel

/-! ## `Tail` in the three geometries -/

namespace XotModel
open HTree Spec

namespace PairBefore

/-! ### `Tail` when the moved node is a parentless tree -/

theorem tail_root {f : Forest} {c : Nat} {t : HTree} {q : Nat} {vq : Value} {A : List HTree} {kr : HTree}
    {B : List HTree} (sq : SiteAt f q vq (A ++ kr :: B)) (hgc : f.get? c = some t)
    (hroot : f.ctx? c = none) (hq : q ∉ handles t) (hrc : kr.handle ≠ c) :
    Tail f (f.editAt none (dropTop c)) c t q vq A kr B := by
  have S := PairAppend.stage_root sq hgc hroot hq
  refine ⟨S, ?_, fun _ => selfPrev_prevOf (fun k hk => S.ynot k (List.mem_append_left _ hk))
    (Forest.prevSibling_of_ctx sq.ctx)⟩
  rw [Forest.checkedInsertBefore_ok hgc sq hq hrc, Forest.parent?_of_no_ctx hroot,
    Forest.placeBefore_of_ctx t S.ysite.nd S.ysite.ctx]

/-! ### `Tail` when the moved node is a child of another node -/

theorem tail_kid {X : Forest} {po q : Nat} {vo vq : Value} {l : List HTree} {t : HTree} {r : List HTree}
    {A : List HTree} {kr : HTree} {B : List HTree}
    (so : SiteAt X po vo (l ++ t :: r)) (sq : SiteAt X q vq (A ++ kr :: B)) (hne : po ≠ q) (hq : q ∉ handles t) :
    ∃ A' kr' B', kr'.handle = kr.handle ∧ kr'.value = kr.value ∧
      Tail X (X.editAt (some po) (dropTop t.handle)) t.handle t q vq A' kr' B' := by
  let φ : HTree → HTree := HTree.editAt po (dropTop t.handle)
  have hφ : KidMap φ := kidMap_editAt _ _
  have S : PairAppend.Stage X (X.editAt (some po) (dropTop t.handle)) q t.handle t vq
      (A.map φ ++ φ kr :: B.map φ) := by
    simpa using PairAppend.stage_kid so sq hne hq
  have hrc : kr.handle ≠ t.handle := by
    have := S.ynot (φ kr) (by simp)
    rwa [hφ.handle] at this
  refine ⟨A.map φ, φ kr, B.map φ, hφ.handle kr, hφ.value kr, S, ?_, ?_⟩
  · rw [hφ.handle, Forest.checkedInsertBefore_ok so.getKid sq hq hrc, Forest.parent?_of_ctx? so.ctx]
    have hctx := S.ysite.ctx
    rw [hφ.handle] at hctx
    rw [Forest.placeBefore_of_ctx t S.ysite.nd hctx]
  · intro _
    apply selfPrev_prevOf (fun k' hk' => S.ynot k' (List.mem_append_left _ hk'))
    rw [hφ.handle, prevOf_map hφ]
    exact Forest.prevSibling_of_ctx sq.ctx

/-! ### `Tail` when the moved node is a child of the reference's parent -/

theorem tail_same {X : Forest} {q : Nat} {vq : Value} {l1 : List HTree} {t : HTree} {r1 : List HTree}
    {A : List HTree} {kr : HTree} {B : List HTree}
    (sX : SiteAt X q vq (l1 ++ t :: r1)) (hAB : l1 ++ r1 = A ++ kr :: B)
    (hprev : t.value.isText = true → X.selfPrev t.handle (X.prevSibling kr.handle) = prevOf A kr) :
    Tail X (X.editAt (some q) (dropTop t.handle)) t.handle t q vq A kr B := by
  have S : PairAppend.Stage X (X.editAt (some q) (dropTop t.handle)) q t.handle t vq (A ++ kr :: B) :=
    hAB ▸ PairAppend.stage_same sX
  have hkrL : kr ∈ l1 ++ t :: r1 := by
    have : kr ∈ l1 ++ r1 := by rw [hAB]; simp
    exact List.mem_append.2 ((List.mem_append.1 this).imp_right (List.mem_cons_of_mem _))
  obtain ⟨P, Q, _, s'⟩ := PairAfter.site_split sX hkrL
  refine ⟨S, ?_, hprev⟩
  rw [Forest.checkedInsertBefore_ok sX.getKid s' sX.not_mem_kid (S.ynot kr (by simp)),
    Forest.parent?_of_ctx? sX.ctx, Forest.placeBefore_of_ctx t S.ysite.nd S.ysite.ctx]

end PairBefore
end XotModel

/-! ## The three geometries; `insertBefore_pair` -/

namespace XotModel
open HTree Spec

namespace PairBefore

/-! ### The moved node is a parentless tree -/

theorem pair_root {f : Forest} {c : Nat} {t : HTree} {q : Nat} {vq : Value} {A : List HTree} {kr : HTree}
    {B : List HTree} (inv : f.Inv) (sq : SiteAt f q vq (A ++ kr :: B)) (hgc : f.get? c = some t)
    (hroot : f.ctx? c = none) (hqt : q ∉ handles t) (hrc : kr.handle ≠ c) (hkrn : kr.value.isNormal = true)
    (hocc : Dest.occupiedBy f c (.before kr.handle) = false) :
    (f.moveTail c (fun g => g.prevSibling kr.handle) (fun _ => some kr.handle)
        (fun g => g.checkedInsertBefore kr.handle c)).1 =
      specMoveP (.before kr.handle) c f := by
  have htc : t.handle = c := (findList?_some f.roots t hgc).1
  have hsite : Dest.site f (.before kr.handle) = some q := by
    simp only [Dest.site]; exact Forest.parent?_of_ctx? sq.ctx
  have T := tail_root sq hgc hroot hqt hrc
  rw [tail_core (Forest.afterOldSite_of_no_ctx hroot) T htc hkrn (leaf_of_text inv.valid hgc),
    specMoveP_unfold hocc hgc hsite, Forest.parent?_of_no_ctx hroot, Forest.mergeLeftAt_none]
  rfl

/-! ### The moved node is a child of another node than the reference's parent -/

theorem pair_far {f : Forest} {po q : Nat} {vo vq : Value} {l : List HTree} {t : HTree} {r : List HTree}
    {A : List HTree} {kr : HTree} {B : List HTree} (inv : f.Inv)
    (so : SiteAt f po vo (l ++ t :: r)) (sq : SiteAt f q vq (A ++ kr :: B)) (hne : po ≠ q)
    (hqt : q ∉ handles t) (hvq : vq.isText = false) (hkrn : kr.value.isNormal = true)
    (hocc : Dest.occupiedBy f t.handle (.before kr.handle) = false) :
    (f.moveTail t.handle (fun g => g.prevSibling kr.handle) (fun _ => some kr.handle)
        (fun g => g.checkedInsertBefore kr.handle t.handle)).1 = specMoveP (.before kr.handle) t.handle f := by
  have hgc : f.get? t.handle = some t := so.getKid
  have hsite : Dest.site f (.before kr.handle) = some q := by
    simp only [Dest.site]; exact Forest.parent?_of_ctx? sq.ctx
  obtain ⟨X, l1, r1, M, hrcX, O⟩ := oldP inv so
  -- the destination child list in `X`
  let φ : HTree → HTree := HTree.editAt po (fun _ => l1 ++ t :: r1)
  have hφ : KidMap φ := kidMap_editAt _ _
  have sXq : SiteAt X q vq (A.map φ ++ φ kr :: B.map φ) := by
    simpa using O.dest so sq hne hvq
  obtain ⟨A', kr', B', hh, hv, T⟩ := tail_kid O.site sXq hne hqt
  have hcore := tail_core ((Forest.afterOldSite_of_ctx so.ctx).trans hrcX) T rfl (by rw [hv, hφ.value]; exact hkrn)
    (leaf_of_text inv.valid hgc)
  rw [hh, hφ.handle] at hcore
  rw [hcore]
  exact (O.spec_far so hne hocc hsite (fun ψ hk hψ => natFor_insertBeforeTop hk _ hψ)).symm

/-! ### The moved node is a child of the reference's parent -/

/-- `a t b kr` with `a`, `t`, `b` text nodes, `t` to be moved before `kr`, is the `selfMerge` corner. -/
theorem selfMerge_true {f : Forest} {q : Nat} {vq : Value} {l' : List HTree} {a t b kr : HTree} {B : List HTree}
    (so : SiteAt f q vq ((l' ++ [a]) ++ t :: b :: kr :: B)) (hc : f.consolidation = true)
    (hat : a.value.isText = true) (htt : t.value.isText = true) (hbt : b.value.isText = true) :
    selfMerge f (.before kr.handle) t.handle = true := by
  unfold selfMerge
  rw [so.ctx]
  simp [hc, hat, htt, hbt]

/-- What the helper takes as the node before the reference `kr` when the moved node `t` is a
    sibling of `kr`: the node before `kr` in the child list without `t` (when `t` stands directly
    before `kr`, the helper takes `t`'s own previous sibling). -/
theorem selfPrev_same {X : Forest} {q : Nat} {vq : Value} {l1 : List HTree} {t : HTree} {r1 A : List HTree}
    {kr : HTree} {B : List HTree} (sX : SiteAt X q vq (l1 ++ t :: r1)) (hAB : l1 ++ r1 = A ++ kr :: B)
    (htn : t.value.isNormal = true) (hkn : kr.value.isNormal = true) :
    X.selfPrev t.handle (X.prevSibling kr.handle) = prevOf A kr := by
  obtain ⟨tl, tr⟩ := tops_ne_of_nodup sX.nodupKids.1
  have hnot : ∀ k ∈ A, k.handle ≠ t.handle := fun k hk => by
    have : k ∈ l1 ++ r1 := by rw [hAB]; exact List.mem_append_left _ hk
    exact (List.mem_append.1 this).elim (tl k) (tr k)
  -- `kr` directly behind `t`
  have direct : r1 = kr :: B → A = l1 → X.selfPrev t.handle (X.prevSibling kr.handle) = prevOf A kr := by
    intro hr hA
    subst hr hA
    have sX' : SiteAt X q vq ((A ++ [t]) ++ kr :: B) := by
      have e : (A ++ [t]) ++ kr :: B = A ++ t :: kr :: B := by simp
      rw [e]; exact sX
    rw [Forest.prevSibling_of_ctx sX'.ctx]
    simp only
    rw [prevOf_snoc_normal _ htn hkn, Forest.selfPrev_self, Forest.prevSibling_of_ctx sX.ctx]
    simp only [prevOf, isNormal_iff.1 htn, isNormal_iff.1 hkn]
  rcases List.append_eq_append_iff.1 hAB with ⟨m, hA, hr⟩ | ⟨m, hl, hB⟩
  · cases m with
    | nil => exact direct (by simpa using hr) (by simpa using hA)
    | cons x m' =>
      subst hA hr
      have sX' : SiteAt X q vq ((l1 ++ t :: x :: m') ++ kr :: B) := by
        have e : (l1 ++ t :: x :: m') ++ kr :: B = l1 ++ t :: (x :: m' ++ kr :: B) := by simp
        rw [e]; exact sX
      refine selfPrev_prevOf hnot ?_
      rw [Forest.prevSibling_of_ctx sX'.ctx]
      exact prevOf_insert_ne_nil l1 t kr (by simp)
  · cases m with
    | nil => exact direct (by simpa using hB.symm) (by simpa using hl.symm)
    | cons x m' =>
      simp only [List.cons_append] at hB
      injection hB with e1 e2
      subst e1 hl e2
      have sX' : SiteAt X q vq (A ++ kr :: (m' ++ t :: r1)) := by
        have e : A ++ kr :: (m' ++ t :: r1) = (A ++ kr :: m') ++ t :: r1 := by simp
        rw [e]; exact sX
      exact selfPrev_prevOf hnot (Forest.prevSibling_of_ctx sX'.ctx)

/-- Within one child list.  `kr'` is the reference as it stands in the state `X` after the
    old-place step (the surviving text node when the reference was the left one of a merged pair);
    `hadj` is the list fact that the old-place merge commutes with the insertion. -/
theorem pair_same {f : Forest} {q : Nat} {vq : Value} {l : List HTree} {t : HTree} {r : List HTree} {kr : HTree}
    {X : Forest} {l1 r1 : List HTree} {M : List HTree → List HTree} (inv : f.Inv)
    (so : SiteAt f q vq (l ++ t :: r)) (hsite : Dest.site f (.before kr.handle) = some q)
    (htn : t.value.isNormal = true) (hocc : Dest.occupiedBy f t.handle (.before kr.handle) = false)
    (hX : f.afterOldSite t.handle = X) (O : OldP f q vq l t r X l1 r1 M) {kr' : HTree} (hh : kr'.handle = kr.handle)
    (hn : kr'.value.isNormal = true) (hmem : kr' ∈ l1 ++ r1)
    (hadj : M (insertBeforeTop kr.handle t (l ++ r)) = insertBeforeTop kr.handle t (l1 ++ r1)) :
    (f.moveTail t.handle (fun g => g.prevSibling kr.handle) (fun _ => some kr.handle)
        (fun g => g.checkedInsertBefore kr.handle t.handle)).1 = specMoveP (.before kr.handle) t.handle f := by
  obtain ⟨A', B', hAB1⟩ := List.append_of_mem hmem
  have hcore := tail_core hX (tail_same O.site hAB1 (fun _ => selfPrev_same O.site hAB1 htn hn)) rfl hn
    (leaf_of_text inv.valid so.getKid)
  rw [hh] at hcore
  rw [hcore]
  exact (O.spec_same so hocc hsite hadj).symm

end PairBefore

open PairBefore

/-- `insert_before` after its argument checks and the same-position exit, all geometries of the
    moved node (parentless, child of another node, sibling of the reference). -/
theorem insertBefore_pair_tail {f : Forest} {c : Nat} {t : HTree} {q : Nat} {vq : Value} {A : List HTree}
    {kr : HTree} {B : List HTree} (inv : f.Inv) (sq : SiteAt f q vq (A ++ kr :: B))
    (hkrn : kr.value.isNormal = true) (hrc : kr.handle ≠ c) (hgc : f.get? c = some t) (hqt : q ∉ handles t)
    (hnorm : t.value.isNormal = true) (hvq : vq.isText = false)
    (hsame : ¬ prevOf A kr = some c)
    (hocc : Dest.occupiedBy f c (.before kr.handle) = false) :
    (f.moveTail c (fun g => g.prevSibling kr.handle) (fun _ => some kr.handle)
        (fun g => g.checkedInsertBefore kr.handle c)).1 =
      specMoveP (.before kr.handle) c f := by
  have htc : t.handle = c := (findList?_some f.roots t hgc).1
  rcases sq.mover hgc with hno | ⟨l, r, hctx, hAB⟩ | ⟨po, vo, l, r, hpo, hctx, so⟩
  · exact pair_root inv sq hgc hno hqt hrc hkrn hocc
  · subst htc
    have so : SiteAt f q vq (l ++ t :: r) := hAB ▸ sq
    have hsite : Dest.site f (.before kr.handle) = some q := by
      simp only [Dest.site]; exact Forest.parent?_of_ctx? sq.ctx
    obtain ⟨X, l1, r1, M, hrcX, O⟩ := oldP inv so
    have hX := (Forest.afterOldSite_of_ctx hctx).trans hrcX
    obtain ⟨ndL, _⟩ := so.nodupKids
    have hkrL : kr ∈ l ++ t :: r := by rw [← hAB]; simp
    have hkrLR : kr ∈ l ++ r := mem_without_of_ne hkrL hrc
    rcases O.cases with ⟨e1, e2, _, hnoop, _⟩ | ⟨l', a, b, r', x, y, el, er, hx, hy, _, e1, e2, eM⟩
    · subst e1 e2
      exact pair_same inv so hsite hnorm hocc hX O rfl hkrn hkrLR
        (hnoop _ (fun x hx => mem_of_mem_insert (fun k y hy => by simpa [or_comm] using hy) hx))
    · subst el er e1 e2 eM
      obtain ⟨tl, tr⟩ := tops_ne_of_nodup ndL
      have e1 : (l' ++ [a]) ++ t :: b :: r1 = l' ++ a :: (t :: b :: r1) := by simp
      have e2 : (l' ++ [a]) ++ t :: b :: r1 = ((l' ++ [a]) ++ [t]) ++ b :: r1 := by simp
      obtain ⟨ta, _⟩ := tops_ne_of_nodup (e1 ▸ ndL)
      obtain ⟨tb, _⟩ := tops_ne_of_nodup (e2 ▸ ndL)
      -- the reference is not the consumed text node: that would be the same position
      have hkrb : kr.handle ≠ b.handle := by
        intro e
        apply hsame
        have s2 : SiteAt f q vq (((l' ++ [a]) ++ [t]) ++ b :: r1) := e2 ▸ so
        have h1 := sq.ctx
        rw [e, s2.ctx] at h1
        injection (Option.some.inj h1) with _ eA _ _
        rw [← eA]
        exact prevOf_snoc_normal _ hnorm hkrn
      have hadj : mergeAdj a.handle b.handle (insertBeforeTop kr.handle t ((l' ++ [a]) ++ b :: r1)) =
          insertBeforeTop kr.handle t ((l' ++ [a.setValue (.text (x ++ y))]) ++ r1) := by
        have e3 : (l' ++ [a.setValue (.text (x ++ y))]) ++ r1 = l' ++ a.setValue (.text (x ++ y)) :: r1 := by simp
        have e4 : (l' ++ [a]) ++ b :: r1 = l' ++ a :: b :: r1 := by simp
        rw [e3, e4]
        have := mergeAdj_replaceTop hx hy (tb a (by simp)) (F := fun k => [t, k]) (P := [t]) (Q := [])
          (h := kr.handle) (fun _ => rfl) (fun k hk => by
            have : k = t := by simpa using hk
            rw [this]; exact fun e => tl a (by simp) e.symm)
          (fun _ => rfl) (fun e => absurd e hkrb) r1 l' (fun k hk => ⟨ta k hk, tb k (by simp [hk])⟩)
        rw [if_neg hkrb] at this
        exact this
      by_cases ha : kr.handle = a.handle
      · -- the reference is the surviving text node
        exact pair_same inv so hsite hnorm hocc hX O (kr' := a.setValue (.text (x ++ y)))
          (by rw [setValue_handle, ha]) (by rw [setValue_value]; rfl) (by simp) hadj
      · exact pair_same inv so hsite hnorm hocc hX O rfl hkrn (mem_merged _ hkrLR ha hkrb) hadj
  · subst htc
    exact pair_far inv so sq hpo hqt hvq hkrn hocc

/-- **insert_before** against the pair reading of the consolidation clause, for every forest
    satisfying the invariant (adjacent text nodes allowed); also in the corner `selfMerge` (the
    old-place merge brings the node before the reference already: the helper then merges it into
    its own previous sibling; as of /repo eccbbb7). -/
theorem insertBefore_pair {f : Forest} {r c : Nat} (inv : f.Inv) (hok : (f.insertBefore r c).2 = .ok) :
    (f.insertBefore r c).1 = specMoveP (.before r) c f := by
  have nd := inv.nodup
  obtain ⟨hsc, hsr⟩ := insertBefore_ok_checks hok
  obtain ⟨q, vq, A, kr, B, t, sq, ekr, hkrn, hrc, hgc, hqt, hnorm, hndoc, hvq⟩ := sibling_checks_unpack nd hsc hsr
  subst ekr
  have hprev : f.prevSibling kr.handle = prevOf A kr := Forest.prevSibling_of_ctx sq.ctx
  have hoccIff := occupied_before sq hgc hnorm hkrn
  by_cases hsame : prevOf A kr = some c
  · rw [specMoveP_occupied (hoccIff.2 hsame), Forest.insertBefore_eq]
    simp [hsc, hsr, hprev, hsame]
  · have hocc : Dest.occupiedBy f c (.before kr.handle) = false := by
      cases h : Dest.occupiedBy f c (.before kr.handle) with
      | false => rfl
      | true => exact absurd (hoccIff.1 h) hsame
    rw [Forest.insertBefore_eq]
    simp only [hsc, hsr, hprev, Bool.not_true, Bool.false_eq_true, if_false, beq_iff_eq, hsame]
    exact insertBefore_pair_tail inv sq hkrn hrc hgc hqt hnorm hvq hsame hocc

/-- The hypotheses are satisfiable on a forest WITH adjacent text nodes (consolidation on after
    having been off): a text node moved next to a run (merged into its left neighbour only), the
    neighbours of a leaving node merged, a move within one child list; and the corner `selfMerge`
    (`2` between `1` and `3`, moved before `4`: merged into `1`, which then reads `acb`). -/
example :
    let f : Forest := { roots := [.node 0 (.element 2) [.node 1 (.text ['a']) [], .node 2 (.text ['b']) [],
                          .node 3 (.text ['c']) [], .node 4 (.element 3) [], .node 5 (.text ['d']) []],
                          .node 6 (.text ['e']) [],
                          .node 7 (.element 2) [.node 8 (.text ['x']) [], .node 9 (.comment ['k']) [],
                            .node 10 (.text ['y']) [], .node 11 (.text ['z']) []]],
                        next := 12, consolidation := true, everOff := true }
    f.inv = true ∧
      (f.insertBefore 3 6).2 = .ok ∧ selfMerge f (.before 3) 6 = false ∧
      (f.insertBefore 3 6).1 = specMoveP (.before 3) 6 f ∧
      (f.insertBefore 3 6).1.value? 2 = some (.text ['b', 'e']) ∧ (f.insertBefore 3 6).1.value? 3 = some (.text ['c']) ∧
      (f.insertBefore 4 9).2 = .ok ∧ selfMerge f (.before 4) 9 = false ∧
      (f.insertBefore 4 9).1 = specMoveP (.before 4) 9 f ∧
      (f.insertBefore 4 9).1.value? 8 = some (.text ['x', 'y']) ∧ (f.insertBefore 4 9).1.value? 11 = some (.text ['z']) ∧
      (f.insertBefore 1 5).2 = .ok ∧ selfMerge f (.before 1) 5 = false ∧
      (f.insertBefore 1 5).1 = specMoveP (.before 1) 5 f ∧
      selfMerge f (.before 4) 2 = true ∧ (f.insertBefore 4 2).2 = .ok ∧ (f.insertBefore 4 2).1.isLive 2 = false ∧
      (f.insertBefore 4 2).1 = specMoveP (.before 4) 2 f ∧
      (f.insertBefore 4 2).1.value? 1 = some (.text ['a', 'c', 'b']) := by
  decide +kernel

end XotModel

/-! ## The corner `Spec.selfMerge` -/

namespace XotModel
open HTree Spec

namespace PairBefore

theorem selfMerge_unpack {f : Forest} {r c : Nat} (nd : f.allHandles.Nodup)
    (h : selfMerge f (.before r) c = true) :
    f.consolidation = true ∧ ∃ p vo l' a t b kr B, SiteAt f p vo ((l' ++ [a]) ++ t :: b :: kr :: B) ∧
      t.handle = c ∧ kr.handle = r ∧ a.value.isText = true ∧ t.value.isText = true ∧ b.value.isText = true := by
  unfold selfMerge at h
  rw [Bool.and_eq_true] at h
  obtain ⟨hc, h⟩ := h
  refine ⟨hc, ?_⟩
  cases hctx : f.ctx? c with
  | none => rw [hctx] at h; cases h
  | some cx =>
    rw [hctx] at h
    obtain ⟨e0, vo, so⟩ := SiteAt.of_ctx nd hctx
    obtain ⟨p, l, t, rr⟩ := cx
    simp only at e0 so h
    rw [Bool.and_eq_true, Bool.and_eq_true] at h
    obtain ⟨⟨htt, hl⟩, hr⟩ := h
    cases hla : l.getLast? with
    | none => rw [hla] at hl; cases hl
    | some a =>
      rw [hla] at hl
      simp only at hl
      obtain ⟨l', el⟩ := List.getLast?_eq_some_iff.1 hla
      subst el
      cases rr with
      | nil => cases hr
      | cons b rest =>
        simp only [Bool.and_eq_true, beq_iff_eq] at hr
        obtain ⟨hbt, hrest⟩ := hr
        cases rest with
        | nil => simp at hrest
        | cons kr B =>
          simp only [List.head?_cons, Option.map_some, Option.some.injEq] at hrest
          exact ⟨p, vo, l', a, t, b, kr, B, so, e0, hrest, hl, htt, hbt⟩

end PairBefore

open PairBefore

/-- In the `selfMerge` corner `insert_before` succeeds and
    is the specification: the moved text node is merged into the text node its two neighbours have
    become. -/
theorem insertBefore_selfMerge {f : Forest} {r c : Nat} (inv : f.Inv) (h : selfMerge f (.before r) c = true) :
    (f.insertBefore r c).2 = .ok ∧ (f.insertBefore r c).1 = specMoveP (.before r) c f := by
  have nd := inv.nodup
  obtain ⟨_, p, vo, l', a, t, b, kr, B, so, e0, e1, _, htt, hbt⟩ := selfMerge_unpack nd h
  subst e0 e1
  obtain ⟨_, tr⟩ := tops_ne_of_nodup so.nodupKids.1
  -- the reference behind a text node is a normal node
  have hkrn : kr.value.isNormal = true := by
    have hord := (validTree_node (so.valid inv.valid)).2.1
    have e : (l' ++ [a]) ++ t :: b :: kr :: B = ((l' ++ [a]) ++ [t]) ++ b :: kr :: B := by simp
    rw [e] at hord
    have h2 := kidsOrdered_rank_le _ (kidsOrdered_drop _ hord) kr List.mem_cons_self
    rw [rank_normal.2 (category_normal_of_isText hbt)] at h2
    have := rank_normal.1 (Nat.le_antisymm (fi_rank_le_two _) h2)
    simp [Value.isNormal, this]
  have skr : SiteAt f p vo ((((l' ++ [a]) ++ [t]) ++ [b]) ++ kr :: B) := by
    have e : (((l' ++ [a]) ++ [t]) ++ [b]) ++ kr :: B = (l' ++ [a]) ++ t :: b :: kr :: B := by simp
    rw [e]; exact so
  -- the arguments pass both checks, so the call is carried out
  have hok : (f.insertBefore kr.handle t.handle).2 = .ok :=
    (Forest.insertBefore_ok inv.toW (Forest.parent?_of_ctx? skr.ctx)
      (ReplGapNF.structureCheck_pack nd so.kids (so.parent_kind inv.valid) so.getKid so.not_mem_kid
        (Forest.normal_of_isText htt) (isDocument_false_of_isText htt))
      (ReplGapNF.siblingReferenceCheck_pack (tr kr (by simp)) skr.getKid hkrn)).ok
  exact ⟨hok, insertBefore_pair inv hok⟩

end XotModel

namespace XotModel
open HTree Spec

/-- The corner exists in a forest satisfying the invariant: `a b c <e/>`, `insert_before(e, b)`
    gives `acb <e/>`; the node `b` is gone, its data is not. -/
example :
    let f : Forest := { roots := [.node 0 (.element 2) [.node 1 (.text ['a']) [], .node 2 (.text ['b']) [],
                          .node 3 (.text ['c']) [], .node 4 (.element 3) []]],
                        next := 5, consolidation := true, everOff := true }
    f.inv = true ∧ selfMerge f (.before 4) 2 = true ∧ (f.insertBefore 4 2).2 = .ok ∧
      (f.insertBefore 4 2).1.isLive 2 = false ∧
      (f.insertBefore 4 2).1 = specMoveP (.before 4) 2 f ∧
      (f.insertBefore 4 2).1.content =
        [.node (.element 2) [.node (.text ['a', 'c', 'b']) [], .node (.element 3) []]] := by
  decide +kernel

end XotModel
