/-
  Set-level reading of the name stack and of `namespaces_mut(node).insert`: which pairs a pushed
  frame holds, when the name checks succeed, what `insert` does to the declarations of a node.
-/
import XotModel.Lemmas.RepairWalk
import XotModel.Lemmas.Scope

namespace XotModel.Repair
open XotModel

/-- Prefixes declared by a declaration list. -/
abbrev keys (d : List (Nat × Nat)) : List Nat := d.map Prod.fst

theorem mem_keys {d : List (Nat × Nat)} {p : Nat} : p ∈ keys d ↔ ∃ n, (p, n) ∈ d := by
  simp only [keys, List.mem_map]
  constructor
  · rintro ⟨⟨q, n⟩, h, rfl⟩; exact ⟨n, h⟩
  · rintro ⟨n, h⟩; exact ⟨(p, n), h, rfl⟩

theorem mem_pushTop (top D : List (Nat × Nat)) (p n : Nat) :
    (p, n) ∈ pushTop top D ↔ ((p, n) ∈ top ∧ p ∉ keys D) ∨ (p, n) ∈ D := by
  unfold pushTop
  cases D with
  | nil => simp
  | cons d ds =>
    simp only [List.isEmpty_cons, Bool.false_eq_true, if_false]
    exact mem_fullnameInfoNew (d :: ds) top p n

theorem elemOk_iff (ns : Nat) (top : List (Nat × Nat)) :
    elemOk ns top = true ↔ ns = Env.noNamespace ∨ ns = Env.xmlNamespace ∨ ∃ p, (p, ns) ∈ top := by
  simp only [elemOk, Bool.or_eq_true, beq_iff_eq, or_assoc, elementPrefixByNamespace_isSome_iff]

theorem attrOk_iff (ns : Nat) (top : List (Nat × Nat)) :
    attrOk ns top = true ↔
      ns = Env.noNamespace ∨ ns = Env.xmlNamespace ∨ ∃ p, p ≠ Env.emptyPrefix ∧ (p, ns) ∈ top := by
  simp only [attrOk, Bool.or_eq_true, beq_iff_eq, or_assoc, attributePrefixByNamespace_isSome_iff]

theorem hasDefault_iff (top : List (Nat × Nat)) :
    hasDefault top = true ↔ ∃ n, n ≠ Env.noNamespace ∧ (Env.emptyPrefix, n) ∈ top :=
  hasDefaultNamespace_top_iff [top]

/-! ### `insert` on the declarations of a node -/

/-- `NodeMap::insert` on the `(prefix, namespace)` view. -/
def insertDecl (p ns : Nat) : List (Nat × Nat) → List (Nat × Nat)
  | [] => [(p, ns)]
  | (q, m) :: rest => if q == p then (q, ns) :: rest else (q, m) :: insertDecl p ns rest

/-- The declarations read off a child list. -/
def declsOfKids (ks : List Tree) : List (Nat × Nat) :=
  (ks.takeWhile (fun k => k.value.category == .namespace)).filterMap fun k => match k.value with
    | .namespace p n => some (p, n)
    | _ => none

theorem nsDecls_node (v : Value) (ks : List Tree) : (Tree.node v ks).nsDecls = declsOfKids ks := rfl

/-- The three ways `insert` acts on a child list: a new first child when no namespace node leads
    the list, an overwrite at the node that declares `p`, a step past a node declaring another prefix. -/
theorem insertNsKid_induct (p ns : Nat) {motive : List Tree → List Tree → Prop}
    (front : ∀ ks, (∀ k ∈ ks.head?, k.value.category ≠ .namespace) →
      motive ks (.node (.namespace p ns) [] :: ks))
    (hit : ∀ m kk ks, motive (.node (.namespace p m) kk :: ks) (.node (.namespace p ns) kk :: ks))
    (step : ∀ q m kk ks, q ≠ p → motive ks (insertNsKid p ns ks) →
      motive (.node (.namespace q m) kk :: ks) (.node (.namespace q m) kk :: insertNsKid p ns ks)) :
    ∀ ks, motive ks (insertNsKid p ns ks)
  | [] => front [] (fun _ h => by cases h)
  | .node (.namespace q m) kk :: ks => by
    by_cases hq : q = p
    · subst hq
      simpa only [insertNsKid, Tree.value, Tree.kids, beq_self_eq_true, if_true] using hit m kk ks
    · simpa only [insertNsKid, Tree.value, beq_iff_eq, hq, if_false] using
        step q m kk ks hq (insertNsKid_induct p ns front hit step ks)
  | .node .document kk :: ks | .node (.element _) kk :: ks | .node (.text _) kk :: ks
  | .node (.comment _) kk :: ks | .node (.pi _ _) kk :: ks | .node (.attribute _ _) kk :: ks =>
    front _ (fun _ h => by cases h; simp [Tree.value, Value.category])

theorem declsOfKids_cons_ns (q m : Nat) (kk ks : List Tree) :
    declsOfKids (.node (.namespace q m) kk :: ks) = (q, m) :: declsOfKids ks := rfl

theorem declsOfKids_front {ks : List Tree} (h : ∀ k ∈ ks.head?, k.value.category ≠ .namespace) :
    declsOfKids ks = [] := by
  cases ks with
  | nil => rfl
  | cons k ks =>
    have : (k.value.category == Category.namespace) = false := by simpa using h k rfl
    simp only [declsOfKids, List.takeWhile_cons, this]
    rfl

theorem declsOfKids_insertNsKid (p ns : Nat) (ks : List Tree) :
    declsOfKids (insertNsKid p ns ks) = insertDecl p ns (declsOfKids ks) := by
  refine insertNsKid_induct p ns (motive := fun ks r => declsOfKids r = insertDecl p ns (declsOfKids ks))
    (fun ks h => ?_) (fun m kk ks => ?_) (fun q m kk ks hq ih => ?_) ks
  · rw [declsOfKids_cons_ns, declsOfKids_front h, insertDecl]
  · rw [declsOfKids_cons_ns, declsOfKids_cons_ns, insertDecl, if_pos (beq_self_eq_true p)]
  · rw [declsOfKids_cons_ns, declsOfKids_cons_ns, insertDecl, if_neg (by simpa using hq), ih]

theorem nsDecls_insertNamespace (p ns : Nat) (t : Tree) :
    (insertNamespace p ns t).nsDecls = insertDecl p ns t.nsDecls := by
  cases t with
  | node v ks => simp only [insertNamespace, nsDecls_node, declsOfKids_insertNsKid]

/-- What `insert` does to a declaration list: the first declaration of `p` is overwritten in place,
    or, if there is none, `(p, ns)` is appended. -/
theorem insertDecl_outcome (p ns : Nat) : ∀ D : List (Nat × Nat),
    (p ∉ keys D ∧ insertDecl p ns D = D ++ [(p, ns)]) ∨
      ∃ l m r, D = l ++ (p, m) :: r ∧ p ∉ keys l ∧ insertDecl p ns D = l ++ (p, ns) :: r
  | [] => Or.inl ⟨List.not_mem_nil, rfl⟩
  | (q, m) :: rest => by
    by_cases hq : q = p
    · subst hq
      exact Or.inr ⟨[], m, rest, rfl, List.not_mem_nil, by rw [insertDecl, if_pos (beq_self_eq_true q)]; rfl⟩
    · have hs : insertDecl p ns ((q, m) :: rest) = (q, m) :: insertDecl p ns rest := by
        rw [insertDecl, if_neg (by simpa using hq)]
      have hk : ∀ l : List (Nat × Nat), p ∉ keys l → p ∉ keys ((q, m) :: l) := fun l h => by
        simp only [keys, List.map_cons, List.mem_cons, not_or]
        exact ⟨fun e => hq e.symm, h⟩
      rcases insertDecl_outcome p ns rest with ⟨h1, h2⟩ | ⟨l, m', r, h1, h2, h3⟩
      · exact Or.inl ⟨hk rest h1, by rw [hs, h2]; rfl⟩
      · exact Or.inr ⟨(q, m) :: l, m', r, by rw [h1]; rfl, hk l h2, by rw [hs, h3]; rfl⟩

theorem keys_insertDecl (p ns : Nat) (D : List (Nat × Nat)) :
    keys (insertDecl p ns D) = if p ∈ keys D then keys D else keys D ++ [p] := by
  rcases insertDecl_outcome p ns D with ⟨h1, h2⟩ | ⟨l, m, r, rfl, _, h3⟩
  · rw [if_neg h1, h2]; simp [keys]
  · rw [h3, if_pos (by simp [keys])]; simp [keys]

theorem nodup_insertDecl (p ns : Nat) (D : List (Nat × Nat)) (hu : (keys D).Nodup) :
    (keys (insertDecl p ns D)).Nodup := by
  rw [keys_insertDecl]
  split
  · exact hu
  · rename_i h
    exact List.nodup_append.mpr ⟨hu, List.pairwise_singleton _ _,
      fun a ha b hb hab => h (List.mem_singleton.mp hb ▸ hab ▸ ha)⟩

theorem mem_insertDecl_sub (p ns : Nat) (D : List (Nat × Nat)) (x : Nat × Nat)
    (h : x ∈ insertDecl p ns D) : x ∈ D ∨ x = (p, ns) := by
  rcases insertDecl_outcome p ns D with ⟨_, h2⟩ | ⟨l, m, r, rfl, _, h3⟩
  · rw [h2, List.mem_append, List.mem_singleton] at h; exact h
  · rw [h3, List.mem_append, List.mem_cons] at h
    rcases h with h | h | h
    · exact Or.inl (List.mem_append_left _ h)
    · exact Or.inr h
    · exact Or.inl (List.mem_append_right _ (List.mem_cons_of_mem _ h))

theorem lookup_insertDecl_self (p ns : Nat) (D : List (Nat × Nat)) :
    List.lookup p (insertDecl p ns D) = some ns := by
  rcases insertDecl_outcome p ns D with ⟨h1, h2⟩ | ⟨l, m, r, _, h2, h3⟩
  · rw [h2, List.lookup_append, (lookup_none_iff p D).mpr h1]; simp [List.lookup]
  · rw [h3, List.lookup_append, (lookup_none_iff p l).mpr h2]; simp [List.lookup]

theorem lookup_insertDecl_ne (p ns q : Nat) (h : q ≠ p) (D : List (Nat × Nat)) :
    List.lookup q (insertDecl p ns D) = List.lookup q D := by
  have hb : (q == p) = false := beq_false_of_ne h
  rcases insertDecl_outcome p ns D with ⟨_, h2⟩ | ⟨l, m, r, rfl, _, h3⟩
  · rw [h2, List.lookup_append]; simp [List.lookup, hb]
  · rw [h3, List.lookup_append, List.lookup_append]; simp [List.lookup, hb]

theorem mem_insertDecl (p ns : Nat) (D : List (Nat × Nat)) (hu : (keys D).Nodup) (q m : Nat) :
    (q, m) ∈ insertDecl p ns D ↔ (q ≠ p ∧ (q, m) ∈ D) ∨ (q = p ∧ m = ns) := by
  -- under unique keys membership is `lookup`
  rw [← lookup_some_iff (nodup_insertDecl p ns D hu), ← lookup_some_iff hu]
  by_cases hq : q = p
  · subst hq; rw [lookup_insertDecl_self]; simp [eq_comm]
  · rw [lookup_insertDecl_ne p ns q hq]; simp [hq]

theorem foldl_insertDecl_fresh : ∀ (nd D : List (Nat × Nat)), (keys nd).Nodup →
    (∀ p ∈ keys nd, p ∉ keys D) → nd.foldl (fun D d => insertDecl d.1 d.2 D) D = D ++ nd
  | [], D, _, _ => (List.append_nil D).symm
  | (p, ns) :: nd, D, hn, hd => by
    simp only [keys, List.map_cons, List.nodup_cons] at hn
    have hpD : p ∉ keys D := hd p List.mem_cons_self
    have h1 : insertDecl p ns D = D ++ [(p, ns)] := by
      rcases insertDecl_outcome p ns D with ⟨_, h⟩ | ⟨l, m, r, rfl, _, _⟩
      · exact h
      · exact absurd (mem_keys.mpr ⟨m, List.mem_append_right _ List.mem_cons_self⟩) hpD
    rw [List.foldl_cons, h1, foldl_insertDecl_fresh nd _ hn.2 (fun q hq hq' => ?_), List.append_assoc]
    · rfl
    · rw [keys, List.map_append, List.mem_append] at hq'
      rcases hq' with h | h
      · exact hd q (List.mem_cons_of_mem _ hq) h
      · rw [List.map_singleton, List.mem_singleton] at h
        subst h
        exact hn.1 hq

theorem mem_foldl_insertDecl (nd : List (Nat × Nat)) (D : List (Nat × Nat)) (hu : (keys D).Nodup)
    (hn : (keys nd).Nodup) (hd : ∀ p ∈ keys nd, p ∉ keys D) :
    (keys (nd.foldl (fun D d => insertDecl d.1 d.2 D) D)).Nodup ∧
      ∀ q m, (q, m) ∈ nd.foldl (fun D d => insertDecl d.1 d.2 D) D ↔ (q, m) ∈ D ∨ (q, m) ∈ nd := by
  rw [foldl_insertDecl_fresh nd D hn hd]
  refine ⟨?_, fun q m => List.mem_append⟩
  rw [keys, List.map_append]
  exact List.nodup_append.mpr ⟨hu, hn, fun a ha b hb hab => hd b hb (hab ▸ ha)⟩

/-! ### What `insert` leaves alone -/

theorem value_insertNamespace (p ns : Nat) (t : Tree) : (insertNamespace p ns t).value = t.value := by
  cases t; rfl

/-- What one `insert` leaves alone, a list of them leaves alone. -/
theorem insertNamespaces_invariant {α : Type} (g : Tree → α)
    (h : ∀ p ns t, g (insertNamespace p ns t) = g t) (nd : List (Nat × Nat)) (t : Tree) :
    g (insertNamespaces nd t) = g t := by
  unfold insertNamespaces
  induction nd generalizing t with
  | nil => rfl
  | cons d nd ih => simp only [List.foldl_cons]; rw [ih, h]

theorem value_insertNamespaces (nd : List (Nat × Nat)) (t : Tree) : (insertNamespaces nd t).value = t.value :=
  insertNamespaces_invariant Tree.value value_insertNamespace nd t

theorem nsDecls_insertNamespaces (nd : List (Nat × Nat)) (t : Tree) :
    (insertNamespaces nd t).nsDecls = nd.foldl (fun D d => insertDecl d.1 d.2 D) t.nsDecls := by
  unfold insertNamespaces
  induction nd generalizing t with
  | nil => rfl
  | cons d nd ih => simp only [List.foldl_cons]; rw [ih, nsDecls_insertNamespace]

/-- The attribute view starts after the run of namespace nodes, which `insert` extends or keeps. -/
theorem dropWhile_insertNsKid (p ns : Nat) (ks : List Tree) :
    (insertNsKid p ns ks).dropWhile (fun k => k.value.category == .namespace) =
      ks.dropWhile (fun k => k.value.category == .namespace) :=
  insertNsKid_induct p ns (motive := fun ks r => r.dropWhile (fun k => k.value.category == .namespace) =
      ks.dropWhile (fun k => k.value.category == .namespace))
    (fun _ _ => rfl) (fun _ _ _ => rfl) (fun _ _ _ _ _ ih => ih) ks

theorem attrs_insertNamespace (p ns : Nat) (t : Tree) : (insertNamespace p ns t).attrs = t.attrs := by
  cases t with
  | node v ks =>
    simp only [insertNamespace, Tree.attrs, Tree.attributeNodes, Tree.kids, dropWhile_insertNsKid]

theorem attrs_insertNamespaces (nd : List (Nat × Nat)) (t : Tree) : (insertNamespaces nd t).attrs = t.attrs :=
  insertNamespaces_invariant Tree.attrs attrs_insertNamespace nd t

theorem declsOfKids_congr {ks ks' : List Tree} (h : ks.map Tree.value = ks'.map Tree.value) :
    declsOfKids ks = declsOfKids ks' :=
  nsDecls_of_values (v := .document) (v' := .document) h

end XotModel.Repair
