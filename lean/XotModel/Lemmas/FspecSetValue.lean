/-
  C05, last clause: the value setters.  A setter changes exactly one value
  (`Spec.specSetValue`) and nothing else: handles, positions, every other value and every subtree
  that does not hold the node stay; a refused call changes nothing.
  (`text_content_mut().set` is in `FspecTextContentSet.lean`.)
-/
import XotModel.Model.FspecSpec2
import XotModel.Lemmas.FspecFrame
import XotModel.Lemmas.FspecWrap

namespace XotModel
open HTree Spec

/-! ### The model's `setValue` is the specification's -/

theorem setValue_eq_spec (f : Forest) (n : Nat) (v : Value) : f.setValue n v = Spec.specSetValue n v f := by
  unfold Forest.setValue Spec.specSetValue
  rw [mapAtList_eq_map]

namespace Forest

end Forest

/-! ### The four plain setters -/

theorem setText_spec {f : Forest} {n : Nat} {s : Str} (hok : (f.setText n s).2 = .ok) :
    (f.setText n s).1 = Spec.specSetValue n (.text s) f ∧ ∃ old, f.value? n = some (.text old) := by
  unfold Forest.setText at hok ⊢
  cases h : f.isText n with
  | false => rw [h] at hok; simp at hok
  | true =>
    simp only [if_true]
    exact ⟨setValue_eq_spec f n _, Forest.value?_of_isText h⟩

theorem setText_refused {f : Forest} {n : Nat} {s : Str} (h : (f.setText n s).2 ≠ .ok) :
    (f.setText n s).1 = f := by
  unfold Forest.setText at h ⊢
  cases ht : f.isText n with
  | false => simp
  | true => rw [ht] at h; simp at h

theorem setElementName_spec {f : Forest} {n name : Nat} (hok : (f.setElementName n name).2 = .ok) :
    (f.setElementName n name).1 = Spec.specSetValue n (.element name) f ∧
      ∃ old, f.value? n = some (.element old) := by
  unfold Forest.setElementName at hok ⊢
  cases h : f.isElement n with
  | false => rw [h] at hok; simp at hok
  | true =>
    simp only [if_true]
    exact ⟨setValue_eq_spec f n _, Forest.value?_of_isElement h⟩

theorem setElementName_refused {f : Forest} {n name : Nat} (h : (f.setElementName n name).2 ≠ .ok) :
    (f.setElementName n name).1 = f := by
  unfold Forest.setElementName at h ⊢
  cases ht : f.isElement n with
  | false => simp
  | true => rw [ht] at h; simp at h

/-- `set_element_name` on an element never panics. -/
theorem setElementName_ok {f : Forest} {n name old : Nat} (h : f.value? n = some (.element old)) :
    (f.setElementName n name).2 = .ok := by
  unfold Forest.setElementName Forest.isElement
  rw [h]
  rfl

theorem setComment_spec {f : Forest} {n : Nat} {s : Str} (hok : (f.setComment n s).2 = .ok) :
    (f.setComment n s).1 = Spec.specSetValue n (.comment s) f ∧ ∃ old, f.value? n = some (.comment old) := by
  unfold Forest.setComment at hok ⊢
  cases hv : f.value? n with
  | none => rw [hv] at hok; simp at hok
  | some v =>
    rw [hv] at hok
    cases v with
    | comment old =>
      simp only at hok ⊢
      cases hd : Forest.hasDoubleDash s with
      | true => rw [hd] at hok; simp at hok
      | false =>
        simp only [Bool.false_eq_true, if_false]
        exact ⟨setValue_eq_spec f n _, old, rfl⟩
    | _ => simp at hok

theorem setComment_refused {f : Forest} {n : Nat} {s : Str} (h : (f.setComment n s).2 ≠ .ok) :
    (f.setComment n s).1 = f := by
  unfold Forest.setComment at h ⊢
  cases hv : f.value? n with
  | none => rfl
  | some v =>
    rw [hv] at h
    cases v with
    | comment old =>
      simp only at h ⊢
      cases hd : Forest.hasDoubleDash s with
      | true => simp
      | false => rw [hd] at h; simp at h
    | _ => rfl

theorem setPiData_spec {f : Forest} {n : Nat} {d : Option Str} (hok : (f.setPiData n d).2 = .ok) :
    ∃ t old, f.value? n = some (.pi t old) ∧
      (f.setPiData n d).1 = Spec.specSetValue n (.pi t (Spec.piData d)) f := by
  unfold Forest.setPiData at hok ⊢
  cases hv : f.value? n with
  | none => rw [hv] at hok; simp at hok
  | some v =>
    rw [hv] at hok
    cases v with
    | pi t old =>
      refine ⟨t, old, rfl, ?_⟩
      simp only
      rw [← setValue_eq_spec]
      cases d with
      | none => rfl
      | some l => cases l <;> rfl
    | _ => simp at hok

theorem setPiData_refused {f : Forest} {n : Nat} {d : Option Str} (h : (f.setPiData n d).2 ≠ .ok) :
    (f.setPiData n d).1 = f := by
  unfold Forest.setPiData at h ⊢
  cases hv : f.value? n with
  | none => rfl
  | some v =>
    rw [hv] at h
    cases v with
    | pi t old => simp at h
    | _ => rfl

/-! ### The frame of `specSetValue`: nothing else is created, lost, reordered or altered -/

theorem specSetValue_allHandles (n : Nat) (v : Value) (f : Forest) :
    (Spec.specSetValue n v f).allHandles = f.allHandles := by
  rw [← setValue_eq_spec]; exact Forest.allHandles_setValue f n v

theorem specSetValue_next (n : Nat) (v : Value) (f : Forest) : (Spec.specSetValue n v f).next = f.next := rfl
theorem specSetValue_consolidation (n : Nat) (v : Value) (f : Forest) :
    (Spec.specSetValue n v f).consolidation = f.consolidation := rfl
theorem specSetValue_everOff (n : Nat) (v : Value) (f : Forest) :
    (Spec.specSetValue n v f).everOff = f.everOff := rfl
theorem specSetValue_corrupt (n : Nat) (v : Value) (f : Forest) :
    (Spec.specSetValue n v f).corrupt = f.corrupt := rfl

theorem mapAtList_setValue_handles (n : Nat) (v : Value) : ∀ ks : List HTree,
    (mapAtList n (HTree.setValue v) ks).map (·.handle) = ks.map (·.handle) :=
  HTree.mapAtList_handle n _ (setValue_handle v)

theorem mapAtList_cons (n : Nat) (G : HTree → HTree) (k : HTree) (ks : List HTree) :
    mapAtList n G (k :: ks) = mapAt n G k :: mapAtList n G ks := by simp [mapAtList]

theorem mapAtList_nil (n : Nat) (G : HTree → HTree) : mapAtList n G [] = [] := by simp [mapAtList]

/-! #### lookups -/

theorem find?_mapAt_setValue_self (n : Nat) (v : Value) : ∀ t : HTree,
    find? n (mapAt n (HTree.setValue v) t) = (find? n t).map (HTree.setValue v) :=
  ffx_find?_mapAt_self n _ (setValue_handle v)

mutual
  theorem find?_mapAt_setValue_far {n x : Nat} {u : HTree} (v : Value) (hn : n ∉ handles u) : ∀ t : HTree,
      find? x t = some u → find? x (mapAt n (HTree.setValue v) t) = some u
    | .node h v' ks => by
      intro e
      have hxu : u.handle = x := (find?_some _ u e).1
      have hxn : x ≠ n := fun e' => hn (e' ▸ hxu ▸ handle_mem_handles u)
      rw [find?_node] at e
      rw [mapAt_node]
      by_cases hh : h = n
      · rw [if_pos hh]
        have hhx : ¬ h = x := fun e' => hxn (e'.symm.trans hh)
        rw [if_neg hhx] at e
        simp only [HTree.setValue]
        rw [find?_node, if_neg hhx]
        exact e
      · rw [if_neg hh, find?_node]
        by_cases hhx : h = x
        · rw [if_pos hhx] at e
          have e' := Option.some.inj e
          subst e'
          rw [if_pos hhx]
          rw [handles_node] at hn
          rw [mapAtList_of_not_mem _ _ ks (fun hm => hn (List.mem_cons_of_mem _ hm))]
        · rw [if_neg hhx] at e
          rw [if_neg hhx]
          exact findList?_mapAtList_setValue_far v hn ks e
  theorem findList?_mapAtList_setValue_far {n x : Nat} {u : HTree} (v : Value) (hn : n ∉ handles u) :
      ∀ ks : List HTree, findList? x ks = some u → findList? x (mapAtList n (HTree.setValue v) ks) = some u
    | [] => by intro e; rw [findList?_nil] at e; cases e
    | k :: ks => by
      intro e
      rw [mapAtList_cons]
      cases hk : find? x k with
      | some t =>
        rw [findList?_cons_some hk] at e
        have e' := Option.some.inj e
        subst e'
        exact findList?_cons_some (find?_mapAt_setValue_far v hn k hk)
      | none =>
        rw [findList?_cons_none hk] at e
        have hx : x ∉ handles (mapAt n (HTree.setValue v) k) := by
          rw [handles_mapAt_setValue]
          exact (find?_none_iff _ k).1 hk
        rw [findList?_cons_none (find?_none_of_not_mem _ _ hx)]
        exact findList?_mapAtList_setValue_far v hn ks e
end

/-- Content: every subtree of the new forest is the old subtree with the value at `n` replaced
    (same handles, same shape, same order, every other value the same). -/
theorem specSetValue_get {f : Forest} (nd : f.allHandles.Nodup) (n x : Nat) (v : Value) :
    (Spec.specSetValue n v f).get? x = (f.get? x).map (mapAt n (HTree.setValue v)) :=
  findList?_mapAtList_setValue_any n x v f.roots nd

theorem specSetValue_get_far {f : Forest} {n x : Nat} {t : HTree} (v : Value)
    (hx : f.get? x = some t) (hn : n ∉ handles t) : (Spec.specSetValue n v f).get? x = some t :=
  findList?_mapAtList_setValue_far v hn f.roots hx

theorem specSetValue_get_self (f : Forest) (n : Nat) (v : Value) :
    (Spec.specSetValue n v f).get? n = (f.get? n).map (HTree.setValue v) :=
  ff_findList?_mapAtList_self n _ (setValue_handle v) f.roots

theorem specSetValue_value_self {f : Forest} {n : Nat} (v : Value) (hl : f.isLive n = true) :
    (Spec.specSetValue n v f).value? n = some v := by
  unfold Forest.value?
  rw [specSetValue_get_self]
  unfold Forest.isLive at hl
  cases hg : f.get? n with
  | none => rw [hg] at hl; cases hl
  | some t => cases t; rfl

theorem find?_value_mapAt_setValue {n x : Nat} (v : Value) (hx : x ≠ n) : ∀ t : HTree,
    (find? x (mapAt n (HTree.setValue v) t)).map HTree.value = (find? x t).map HTree.value :=
  fun t => (find?_mapAt_setValue x n v t).trans (if_neg hx)

theorem specSetValue_value_other {f : Forest} {n x : Nat} (v : Value) (hx : x ≠ n) :
    (Spec.specSetValue n v f).value? x = f.value? x :=
  (findList?_mapAtList_setValue x n v f.roots).trans (if_neg hx)

theorem specSetValue_isLive (f : Forest) (n x : Nat) (v : Value) :
    (Spec.specSetValue n v f).isLive x = f.isLive x := by
  by_cases hx : x = n
  · subst hx
    unfold Forest.isLive
    rw [specSetValue_get_self]
    cases f.get? x <;> rfl
  · have := congrArg Option.isSome (specSetValue_value_other (f := f) v hx)
    unfold Forest.value? at this
    rwa [Option.isSome_map, Option.isSome_map] at this

/-! #### positions -/

/-- The place of a node: parent, handles of the siblings before and after it. -/
def HTree.Ctx.place (c : Ctx) : Nat × List Nat × List Nat :=
  (c.parent, c.left.map (·.handle), c.right.map (·.handle))

mutual
  theorem ctxBelow_mapAt_setValue (n x : Nat) (v : Value) : ∀ t : HTree,
      (ctxBelow x (mapAt n (HTree.setValue v) t)).map HTree.Ctx.place = (ctxBelow x t).map HTree.Ctx.place
    | .node h v' ks => by
      rw [mapAt_node]
      by_cases hh : h = n
      · rw [if_pos hh]; rfl
      · rw [if_neg hh, ctxBelow_node, ctxBelow_node]
        exact ctxKids_mapAtList_setValue n x v h [] [] ks rfl
  theorem ctxKids_mapAtList_setValue (n x : Nat) (v : Value) (p : Nat) : ∀ (left left' ks : List HTree),
      left'.map (·.handle) = left.map (·.handle) →
      (ctxKids x p left' (mapAtList n (HTree.setValue v) ks)).map HTree.Ctx.place =
        (ctxKids x p left ks).map HTree.Ctx.place
    | left, left', [] => by intro _; rw [mapAtList_nil, ctxKids_nil, ctxKids_nil]
    | left, left', k :: ks => by
      intro hl
      rw [mapAtList_cons]
      by_cases hk : k.handle = x
      · rw [ctxKids_cons_hit hk, ctxKids_cons_hit ((handle_mapAt_setValue n v k).trans hk)]
        simp only [Option.map_some, HTree.Ctx.place, hl, mapAtList_setValue_handles]
      · have hk' : (mapAt n (HTree.setValue v) k).handle ≠ x := by rw [handle_mapAt_setValue]; exact hk
        rw [ctxKids_cons, ctxKids_cons, if_neg hk', if_neg hk, Option.map_or, Option.map_or,
          ctxBelow_mapAt_setValue n x v k]
        congr 1
        apply ctxKids_mapAtList_setValue n x v p (left ++ [k]) (left' ++ [mapAt n (HTree.setValue v) k]) ks
        rw [List.map_append, List.map_append, hl]
        simp only [List.map_cons, List.map_nil, handle_mapAt_setValue]
end

theorem findSome_ctxBelow_setValue (n x : Nat) (v : Value) : ∀ rs : List HTree,
    ((mapAtList n (HTree.setValue v) rs).findSome? (ctxBelow x)).map HTree.Ctx.place =
      (rs.findSome? (ctxBelow x)).map HTree.Ctx.place
  | [] => by rw [mapAtList_nil]
  | k :: rs => by
    have hor : ∀ (t : HTree) (ts : List HTree), (t :: ts).findSome? (ctxBelow x) =
        (ctxBelow x t).or (ts.findSome? (ctxBelow x)) := by
      intro t ts; rw [List.findSome?_cons]; cases ctxBelow x t <;> rfl
    rw [mapAtList_cons, hor, hor, Option.map_or, Option.map_or, ctxBelow_mapAt_setValue n x v k,
      findSome_ctxBelow_setValue n x v rs]

/-- Every node (the node `n` included) keeps its place: same parent, same siblings before and
    after it, in the same order; a parentless node stays parentless. -/
theorem specSetValue_ctx (f : Forest) (n x : Nat) (v : Value) :
    ((Spec.specSetValue n v f).ctx? x).map HTree.Ctx.place = (f.ctx? x).map HTree.Ctx.place :=
  findSome_ctxBelow_setValue n x v f.roots

theorem specSetValue_parent (f : Forest) (n x : Nat) (v : Value) :
    (Spec.specSetValue n v f).parent? x = f.parent? x := by
  have := congrArg (Option.map Prod.fst) (specSetValue_ctx f n x v)
  rw [Option.map_map, Option.map_map] at this
  exact this

theorem specSetValue_roots (f : Forest) (n : Nat) (v : Value) :
    (Spec.specSetValue n v f).roots.map (·.handle) = f.roots.map (·.handle) :=
  mapAtList_setValue_handles n v f.roots

theorem specSetValue_dead {f : Forest} {n : Nat} (v : Value) (h : f.isLive n = false) :
    Spec.specSetValue n v f = f := by
  unfold Spec.specSetValue
  have : n ∉ handlesList f.roots := by
    intro hm
    have := (findList?_isSome_iff _ f.roots).2 hm
    unfold Forest.isLive Forest.get? at h
    rw [h] at this; cases this
  rw [mapAtList_of_not_mem _ _ f.roots this]

end XotModel
