/-
  Cutting a subtree and placing it again, on the zipper.  The text merge of `remove_consolidate_text_nodes` at a
  known place and "cut a subtree, then consolidate its former neighbours" (`detach`, `remove`); `replaceKids` pushed
  through a decomposition at another handle (`rk`, `rb`, `cutPath`), ancestors and subtrees; `cut_inv` under `CutOK`,
  and `checked_insert_after` / `checked_prepend` for a node of any category (the node maps place attribute and
  namespace entries with them); what a context says of ancestors and values.
-/
import XotModel.Lemmas.BasicFacts
import XotModel.Lemmas.FinvCons

/-! ## The text merge at a known place; cut, then consolidate the former neighbours -/

namespace XotModel
open HTree

theorem exists_of_lastText {l : List HTree} (h : lastText l = true) :
    ∃ l0 P, l = l0 ++ [P] ∧ P.value.isText = true := by
  rcases fi_nil_or_snoc l with rfl | ⟨l0, P, rfl⟩
  · simp at h
  · exact ⟨l0, P, rfl, by simpa using h⟩

theorem exists_of_headText {r : List HTree} (h : headText r = true) :
    ∃ N r0, r = N :: r0 ∧ N.value.isText = true := by
  cases r with
  | nil => simp at h
  | cons N r0 => exact ⟨N, r0, rfl, by simpa using h⟩

theorem rankOf_normal {k : HTree} (h : k.value.category = .normal) : rankOf k = 2 := by
  simp [rankOf, h, Category.rank]

theorem KidsOK.headText_after_text {s : Bool} {v : Value} {a : List HTree} {N : HTree} {r0 : List HTree}
    (h : KidsOK s v (a ++ N :: r0)) (hs : s = true) (hN : N.value.isText = true) :
    headText r0 = false := by
  have h5 := h.text hs
  simp only [textFlags_append, textFlags_cons, noAdjB_append, noAdjB_cons, Bool.and_eq_true,
    Bool.not_eq_true', hN, Bool.true_and] at h5
  exact h5.1.2.1

theorem KidsOK.lastText_before_text {s : Bool} {v : Value} {a : List HTree} {N : HTree} {r0 : List HTree}
    (h : KidsOK s v (a ++ N :: r0)) (hs : s = true) (hN : N.value.isText = true) :
    lastText a = false := by
  have h5 := h.text hs
  simp only [textFlags_append, textFlags_cons, noAdjB_append, noAdjB_cons, Bool.and_eq_true,
    Bool.not_eq_true', hN, headB, List.head?_cons, Option.getD_some, Bool.and_true] at h5
  exact h5.2

theorem KidsOK.normal_after_normal {s : Bool} {v : Value} {a : List HTree} {P k : HTree} {b : List HTree}
    (h : KidsOK s v (a ++ P :: k :: b)) (hP : P.value.category = .normal) :
    k.value.category = .normal := by
  have h2 := h.sorted
  unfold Sorted at h2
  simp only [List.map_append, List.map_cons, List.pairwise_append, List.pairwise_cons,
    List.mem_cons] at h2
  have := h2.2.1.1 (rankOf k) (Or.inl rfl)
  rw [rankOf_normal hP] at this
  exact (fa_rank_normal _).1 this

/-- Extra roots after a plugged forest can be moved into the outermost frame. -/
theorem plug_snoc_append_extra (path : List ZipFrame) (fr : ZipFrame) (E : List HTree) :
    ∃ path' fr', (∀ X, plug (path ++ [fr]) X ++ E = plug (path' ++ [fr']) X) ∧ fr'.h = fr.h ∧ fr'.v = fr.v := by
  cases path with
  | nil => exact ⟨[], ⟨fr.l, fr.h, fr.v, fr.r ++ E⟩, by intro X; simp, rfl, rfl⟩
  | cons fr0 rest =>
    exact ⟨⟨fr0.l, fr0.h, fr0.v, fr0.r ++ E⟩ :: rest, fr, by intro X; simp, rfl, rfl⟩

namespace Forest

theorem prevSibling_of_loc_snoc {f : Forest} {h : Nat} {rest : List ZipFrame} {fr : ZipFrame} {l k r}
    (lc : Loc f.roots h (rest ++ [fr]) l k r) (nd : f.allHandles.Nodup) :
    f.prevSibling h = l.getLast?.bind
      (fun p => if p.value.category == k.value.category then some p.handle else none) := by
  unfold prevSibling
  rw [ctx?_of_loc_snoc lc nd]
  simp only
  cases l.getLast? <;> rfl

theorem nextSibling_of_loc_snoc {f : Forest} {h : Nat} {rest : List ZipFrame} {fr : ZipFrame} {l k r}
    (lc : Loc f.roots h (rest ++ [fr]) l k r) (nd : f.allHandles.Nodup) :
    f.nextSibling h = r.head?.bind
      (fun n => if n.value.category == k.value.category then some n.handle else none) := by
  unfold nextSibling
  rw [ctx?_of_loc_snoc lc nd]
  simp only
  cases r.head? <;> rfl

/-- The merge performed by `remove_consolidate_text_nodes(P, N)` on two text children of the same
    parent (`m` is what lies between them). -/
theorem removeConsolidate_merge {f : Forest} (nd : f.allHandles.Nodup) (hc : f.consolidation = true)
    {path : List ZipFrame} {fr : ZipFrame} {l0 m r0 : List HTree} {P N : HTree} {ps ns : Str}
    (he : f.roots = plug (path ++ [fr]) (l0 ++ P :: (m ++ N :: r0)))
    (hP : P.value = .text ps) (hN : N.value = .text ns) (hNk : N.kids = []) :
    f.removeConsolidate (some P.handle) (some N.handle) =
      ({ f with roots := plug (path ++ [fr]) (l0 ++ P.setValue (.text (ps ++ ns)) :: (m ++ r0)) }, true) := by
  have lcP : Loc f.roots P.handle (path ++ [fr]) l0 P (m ++ N :: r0) := ⟨he, rfl⟩
  have lcN : Loc f.roots N.handle (path ++ [fr]) (l0 ++ P :: m) N r0 := ⟨by rw [he]; simp, rfl⟩
  have tP : f.textOf P.handle = some ps := by
    rw [textOf_eq_some_iff, value?_of_loc lcP nd, hP]
  have tN : f.textOf N.handle = some ns := by
    rw [textOf_eq_some_iff, value?_of_loc lcN nd, hN]
  unfold removeConsolidate
  simp only [hc, Bool.not_true, Bool.false_eq_true, if_false, tP, tN]
  have hg := setValue_of_loc (.text (ps ++ ns)) lcP nd
  have nd' : (f.setValue P.handle (.text (ps ++ ns))).allHandles.Nodup := by
    rw [allHandles_setValue]; exact nd
  have lcN' : Loc (f.setValue P.handle (.text (ps ++ ns))).roots N.handle (path ++ [fr])
      (l0 ++ P.setValue (.text (ps ++ ns)) :: m) N r0 := ⟨by rw [hg]; simp, rfl⟩
  rw [spliceOut_of_loc_ne lcN' (by simp) nd', hNk, hg]
  simp [hc]

/-- Cut the located subtree `k` (keeping it as the extra roots `E`, or not), then run
    `remove_consolidate_text_nodes` on its former neighbours: the invariant holds again. -/
theorem cut_then_consolidate_inv {f : Forest} (hi : f.Inv) {node : Nat} {path l k r}
    (lc : Loc f.roots node path l k r) (E : List HTree) (X : List Nat)
    (hE : (handlesList E ++ X).Perm (handles k)) (hEv : validList (!f.everOff) E = true) :
    (({ f with roots := plug path (l ++ r) ++ E } : Forest).removeConsolidate
      (f.prevSibling node) (f.nextSibling node)).1.Inv := by
  obtain ⟨k1, k2⟩ := hi.kids_at lc.eq
  have k2' := validList_mid k2
  -- handles of the cut state
  have perm1 : ∀ ks' : List HTree, ∀ Y : List Nat, (handlesList ks' ++ Y).Perm (handlesList l ++ handlesList r) →
      (handlesList (plug path ks' ++ E) ++ (Y ++ X)).Perm f.allHandles := by
    intro ks' Y hY
    unfold allHandles
    rw [lc.eq]
    refine List.Perm.trans ?_ (handlesList_plug_perm path _).symm
    simp only [handlesList_append, handlesList_cons, List.append_assoc]
    have a1 : (handlesList (plug path ks') ++ (handlesList E ++ (Y ++ X))).Perm
        (pathHandles path ++ (handlesList ks' ++ Y) ++ (handlesList E ++ X)) := by
      refine ((handlesList_plug_perm path ks').append_right _).trans ?_
      simp only [List.append_assoc]
      refine List.Perm.append_left _ (List.Perm.append_left _ ?_)
      rw [← List.append_assoc, ← List.append_assoc]
      exact List.Perm.append_right _ List.perm_append_comm
    refine a1.trans ?_
    simp only [List.append_assoc]
    refine List.Perm.append_left _ ?_
    rw [← List.append_assoc]
    refine ((hY.append hE)).trans ?_
    simp only [List.append_assoc]
    exact List.Perm.append_left _ List.perm_append_comm
  -- the easy case: the cut state satisfies the invariant
  have easy : (f.everOff = false → (lastText l && headText r) = false ∨ path = []) →
      (({ f with roots := plug path (l ++ r) ++ E } : Forest).removeConsolidate
        (f.prevSibling node) (f.nextSibling node)).1.Inv := by
    intro hcond
    apply removeConsolidate_inv
    apply hi.with_roots _ ([] ++ X) (perm1 (l ++ r) [] (by simp))
    rw [Fmap.validList_append, Bool.and_eq_true]
    refine ⟨?_, hEv⟩
    have hv := hi.valid
    rw [lc.eq] at hv
    apply valid_plug_replace _ path _ _ hv
    · cases hiv : innerValue path with
      | none => rfl
      | some pv =>
        rw [hiv] at k1
        refine (kidsOK_iff _ _ _).mpr (((kidsOK_iff _ _ _).mp k1).remove ?_)
        intro hs
        have hoff : f.everOff = false := by simpa using hs
        cases hcond hoff with
        | inl h => exact h
        | inr h => subst h; simp at hiv
    · simp [k2'.1, k2'.2.2]
  by_cases hoff : f.everOff = false
  · by_cases htt : (lastText l && headText r) = false
    · exact easy (fun _ => Or.inl htt)
    · rcases List.eq_nil_or_concat path with hpath | ⟨init, fr, hpath⟩
      · exact easy (fun _ => Or.inr hpath)
      · -- strict mode, both neighbours are text, not a root: the merge happens
        rw [List.concat_eq_append] at hpath
        subst hpath
        simp only [Bool.not_eq_false, Bool.and_eq_true] at htt
        obtain ⟨l0, P, rfl, hPt⟩ := exists_of_lastText htt.1
        obtain ⟨N, r0, rfl, hNt⟩ := exists_of_headText htt.2
        obtain ⟨ps, hP⟩ := exists_text_of_isText hPt
        obtain ⟨ns, hN⟩ := exists_text_of_isText hNt
        have hs : (!f.everOff) = true := by simp [hoff]
        have hcons : f.consolidation = true := by
          cases hi.consOn with
          | inl h => exact h
          | inr h => rw [hoff] at h; cases h
        rw [innerValue_snoc] at k1
        have K := (kidsOK_iff _ _ _).mp k1
        have hPn : P.value.category = .normal := category_normal_of_isText hPt
        have hNn : N.value.category = .normal := category_normal_of_isText hNt
        have hkn : k.value.category = .normal := by
          have K' : KidsOK (!f.everOff) fr.v (l0 ++ P :: k :: (N :: r0)) := by simpa using K
          exact K'.normal_after_normal hPn
        have hNkids : N.kids = [] := by
          have : validTree (!f.everOff) N = true := by
            have := k2'.2.2; simp only [validList_cons, Bool.and_eq_true] at this; exact this.1
          exact kids_nil_of_text this hNt
        have eprev : f.prevSibling node = some P.handle := by
          rw [prevSibling_of_loc_snoc lc hi.nodup]
          simp [hPn, hkn]
        have enext : f.nextSibling node = some N.handle := by
          rw [nextSibling_of_loc_snoc lc hi.nodup]
          simp [hNn, hkn]
        rw [eprev, enext]
        obtain ⟨path', fr', hplug, _, hfv⟩ := plug_snoc_append_extra init fr E
        have nd1 : (({ f with roots := plug (init ++ [fr]) (l0 ++ [P] ++ N :: r0) ++ E } : Forest)).allHandles.Nodup := by
          have := perm1 (l0 ++ [P] ++ N :: r0) [] (by simp)
          exact List.Nodup.sublist (List.sublist_append_left _ _) (this.symm.nodup hi.nodup)
        have hroots : ({ f with roots := plug (init ++ [fr]) (l0 ++ [P] ++ N :: r0) ++ E } : Forest).roots
            = plug (path' ++ [fr']) (l0 ++ P :: ([] ++ N :: r0)) := by
          show plug (init ++ [fr]) (l0 ++ [P] ++ N :: r0) ++ E = _
          rw [hplug]; simp
        rw [removeConsolidate_merge nd1 hcons hroots hP hN hNkids]
        show ({ f with roots := plug (path' ++ [fr']) (l0 ++ P.setValue (.text (ps ++ ns)) :: ([] ++ r0)) } : Forest).Inv
        rw [← hplug]
        apply hi.with_roots _ ([N.handle] ++ X)
        · apply perm1
          simp only [handlesList_append, handlesList_cons, setValue_handles, List.nil_append,
            handlesList_nil, List.append_nil, handles_eq N, hNkids, List.append_assoc]
          refine List.Perm.append_left _ (List.Perm.append_left _ ?_)
          exact List.perm_append_comm
        · rw [Fmap.validList_append, Bool.and_eq_true]
          refine ⟨?_, hEv⟩
          have hv := hi.valid
          rw [lc.eq] at hv
          apply valid_plug_replace _ (init ++ [fr]) _ _ hv
          · rw [innerValue_snoc]
            refine (kidsOK_iff _ _ _).mpr ?_
            -- remove N (text), then k (now between P and the non-text head of r0), then retag P
            have K1 : KidsOK (!f.everOff) fr.v ((l0 ++ [P] ++ [k]) ++ N :: r0) := by simpa using K
            have hr0 : headText r0 = false := K1.headText_after_text hs hNt
            have K2 : KidsOK (!f.everOff) fr.v ((l0 ++ [P]) ++ k :: r0) := by
              simpa using K1.remove_text hNt
            have K3 : KidsOK (!f.everOff) fr.v (l0 ++ P :: r0) := by
              simpa using K2.remove (fun _ => by simp [hr0])
            have : KidsOK (!f.everOff) fr.v (l0 ++ P.setValue (.text (ps ++ ns)) :: r0) :=
              K3.sameKind (by rw [setValue_value, hP]; exact ⟨rfl, rfl, rfl, rfl⟩)
            simpa using this
          · have hl0 : validList (!f.everOff) l0 = true ∧ validTree (!f.everOff) P = true := by
              have := k2'.1; simpa only [Fmap.validList_append, validList_cons, validList_nil,
                Bool.and_true, Bool.and_eq_true] using this
            have hr0' : validList (!f.everOff) r0 = true := by
              have := k2'.2.2; simp only [validList_cons, Bool.and_eq_true] at this; exact this.2
            simp only [Fmap.validList_append, validList_cons, List.nil_append, Bool.and_eq_true]
            exact ⟨hl0.1, validTree_setValue hl0.2 (by rw [hP]; intro x; rfl), hr0'⟩
  · exact easy (fun h => absurd h hoff)

end Forest
end XotModel

/-! ## `replaceKids` through a decomposition at another handle; ancestors and subtrees -/

namespace XotModel
open HTree

theorem replaceKids_append_of_nodup (c : Nat) (g : HTree → List HTree) (a b : List HTree)
    (nd : (handlesList (a ++ b)).Nodup) :
    replaceKids c g (a ++ b) = replaceKids c g a ++ replaceKids c g b := by
  induction a with
  | nil => simp [replaceKids]
  | cons k a' ih =>
    have nd' : (handlesList (a' ++ b)).Nodup := by
      simp only [List.cons_append, handlesList_cons] at nd
      exact (List.nodup_append.mp nd).2.1
    rw [List.cons_append, replaceKids_cons, replaceKids_cons]
    by_cases hk : k.handle = c
    · rw [if_pos hk, if_pos hk]
      have hb : c ∉ handlesList b := by
        intro hc
        simp only [List.cons_append, handlesList_cons, handlesList_append] at nd
        have := (List.nodup_append.mp nd).2.2 c (hk ▸ handle_mem_handles k) c (by simp [hc])
        exact this rfl
      rw [fc_replaceKids_of_not_mem c g b hb]
      simp
    · rw [if_neg hk, if_neg hk, ih nd']
      simp

/-- Apply `F` to the sibling lists of a frame. -/
def ZipFrame.mapKids (F : List HTree → List HTree) (fr : ZipFrame) : ZipFrame := ⟨F fr.l, fr.h, fr.v, F fr.r⟩

@[simp] theorem ZipFrame.mapKids_h (F : List HTree → List HTree) (fr : ZipFrame) : (fr.mapKids F).h = fr.h := rfl
@[simp] theorem ZipFrame.mapKids_v (F : List HTree → List HTree) (fr : ZipFrame) : (fr.mapKids F).v = fr.v := rfl

theorem innerValue_map_mapKids (F : List HTree → List HTree) (path : List ZipFrame) :
    innerValue (path.map (ZipFrame.mapKids F)) = innerValue path := by
  unfold innerValue
  rw [List.getLast?_map]
  cases path.getLast? <;> rfl

theorem replaceKids_plug_off (c : Nat) (g : HTree → List HTree) (path : List ZipFrame) (ks : List HTree)
    (nd : (handlesList (plug path ks)).Nodup) (hoff : ∀ fr ∈ path, fr.h ≠ c) :
    replaceKids c g (plug path ks) =
      plug (path.map (ZipFrame.mapKids (replaceKids c g))) (replaceKids c g ks) := by
  induction path with
  | nil => rfl
  | cons fr rest ih =>
    rw [plug_cons] at nd ⊢
    have nd1 := nd
    rw [handlesList_append] at nd1
    have nd2 : (handlesList (HTree.node fr.h fr.v (plug rest ks) :: fr.r)).Nodup :=
      (List.nodup_append.mp nd1).2.1
    have nd3 : (handlesList (plug rest ks)).Nodup := by
      simp only [handlesList_cons, handles_node, List.cons_append] at nd2
      have := (List.nodup_cons.mp nd2).2
      exact (List.nodup_append.mp this).1
    rw [replaceKids_append_of_nodup c g _ _ nd, replaceKids_cons,
      if_neg (by simpa using hoff fr (by simp)), replaceBelow,
      ih nd3 (fun fr' h' => hoff fr' (by simp [h']))]
    rfl

/-- Remove the node `c` from a child list / from below a tree (what `cut` does). -/
abbrev rk (c : Nat) : List HTree → List HTree := replaceKids c (fun _ => [])
abbrev rb (c : Nat) : HTree → HTree := replaceBelow c (fun _ => [])
abbrev cutPath (c : Nat) (path : List ZipFrame) : List ZipFrame := path.map (ZipFrame.mapKids (rk c))

namespace Forest

theorem cut_eq_replaceKids {f : Forest} {c : Nat} {path l k r} (lc : Loc f.roots c path l k r)
    (nd : f.allHandles.Nodup) :
    f.cut c = ({ f with roots := replaceKids c (fun _ => []) f.roots }, some k) := by
  have hf := lc.fresh nd
  rw [cut_of_loc lc nd]
  congr 2
  rw [lc.eq, replaceKids_plug c _ path l k r lc.hk hf.path hf.left]
  simp

/-- The context of `p` after `c` (not `p`, not above `p`) has been cut. -/
theorem cut_of_loc_other {f : Forest} {p c : Nat} {path lp K rp} (lp' : Loc f.roots p path lp K rp)
    (nd : f.allHandles.Nodup) (hc : c ∈ f.allHandles) (hanc : (f.ancestors p).contains c = false) :
    ∃ t, f.get? c = some t ∧
      f.cut c = ({ f with roots := plug (cutPath c path) (rk c lp ++ rb c K :: rk c rp) }, some t) := by
  obtain ⟨pathc, lc, C, rc, locc⟩ := exists_loc hc
  refine ⟨C, get?_of_loc locc nd, ?_⟩
  rw [cut_eq_replaceKids locc nd]
  rw [ancestors_of_loc lp' nd] at hanc
  have hne : p ≠ c ∧ ∀ fr ∈ path, fr.h ≠ c := by
    simp only [List.contains_eq_mem, List.mem_cons, List.mem_reverse, List.mem_map,
      decide_eq_false_iff_not, not_or, not_exists, not_and] at hanc
    exact ⟨fun e => hanc.1 e.symm, fun fr hfr e => hanc.2 fr hfr e⟩
  have nd' : (handlesList (plug path (lp ++ K :: rp))).Nodup := by
    have := nd; unfold allHandles at this; rwa [lp'.eq] at this
  have nd2 : (handlesList (lp ++ K :: rp)).Nodup := by
    have := nodup_plug.mp nd'
    exact (List.nodup_append.mp this).2.1
  congr 2
  rw [lp'.eq, replaceKids_plug_off c _ path _ nd' hne.2, replaceKids_append_of_nodup c _ _ _ nd2,
    replaceKids_cons, if_neg (by rw [lp'.hk]; exact hne.1)]

theorem mem_subtree_of_anc {f : Forest} {c x : Nat} {path l C r} (lc : Loc f.roots c path l C r)
    (nd : f.allHandles.Nodup) (hx : x ∈ f.allHandles) (ha : (f.ancestors x).contains c = true) :
    x ∈ handles C := by
  obtain ⟨pathx, lx, X, rx, locx⟩ := exists_loc hx
  rw [ancestors_of_loc locx nd] at ha
  simp only [List.contains_eq_mem, List.mem_cons, List.mem_reverse, List.mem_map,
    decide_eq_true_eq] at ha
  rcases ha with ha | ⟨fr, hfr, ha⟩
  · subst ha
    have e1 := get?_of_loc lc nd
    have e2 := get?_of_loc locx nd
    rw [e1] at e2; cases e2
    rw [handles_eq, lc.hk]; simp
  · obtain ⟨p1, p2, hp⟩ := List.append_of_mem hfr
    have lc2 : Loc f.roots c p1 fr.l (.node fr.h fr.v (plug p2 (lx ++ X :: rx))) fr.r := by
      refine ⟨?_, ha⟩
      rw [locx.eq, hp, plug_append]; rfl
    have e1 := get?_of_loc lc nd
    have e2 := get?_of_loc lc2 nd
    rw [e1] at e2; cases e2
    rw [handles_node]
    refine List.mem_cons_of_mem _ (mem_handlesList_plug.mpr (Or.inr ?_))
    simp only [handlesList_append, handlesList_cons, List.mem_append]
    exact Or.inr (Or.inl (locx.hk ▸ handle_mem_handles X))

end Forest
end XotModel

/-! ## Cutting a subtree and placing it again -/

namespace XotModel
open HTree

/-! ### What `rk c` (removing `c` from a child list) keeps -/

theorem rb_eq (c : Nat) (K : HTree) : rb c K = .node K.handle K.value (rk c K.kids) := by
  cases K; simp [rb, rk, replaceBelow]

@[simp] theorem rb_handle (c : Nat) (K : HTree) : (rb c K).handle = K.handle := by rw [rb_eq]; rfl
@[simp] theorem rb_value (c : Nat) (K : HTree) : (rb c K).value = K.value := by rw [rb_eq]; rfl
@[simp] theorem rb_kids (c : Nat) (K : HTree) : (rb c K).kids = rk c K.kids := by rw [rb_eq]; rfl

theorem rk_cons_ne (c : Nat) (k : HTree) (ks : List HTree) (h : k.handle ≠ c) :
    rk c (k :: ks) = rb c k :: rk c ks := by
  simp only [rk, rb]; rw [replaceKids_cons, if_neg h]

theorem rk_cons_eq (c : Nat) (k : HTree) (ks : List HTree) (h : k.handle = c) :
    rk c (k :: ks) = ks := by
  simp only [rk]; rw [replaceKids_cons, if_pos h]; rfl

theorem mem_rk {c : Nat} {ks : List HTree} {x : HTree} (hx : x ∈ rk c ks) :
    ∃ y ∈ ks, x.value = y.value ∧ x.handle = y.handle := by
  induction ks with
  | nil => simp [rk, replaceKids] at hx
  | cons k ks ih =>
    by_cases hk : k.handle = c
    · rw [rk_cons_eq c k ks hk] at hx
      exact ⟨x, by simp [hx], rfl, rfl⟩
    · rw [rk_cons_ne c k ks hk, List.mem_cons] at hx
      rcases hx with hx | hx
      · exact ⟨k, by simp, by simp [hx], by simp [hx]⟩
      · obtain ⟨y, hy, h1, h2⟩ := ih hx
        exact ⟨y, by simp [hy], h1, h2⟩

theorem headText_rk {c : Nat} {ks : List HTree}
    (h : ∀ n rest, ks = n :: rest → n.handle ≠ c ∧ n.value.isText = false) : headText (rk c ks) = false := by
  cases ks with
  | nil => simp [rk, replaceKids]
  | cons n rest =>
    obtain ⟨h1, h2⟩ := h n rest rfl
    rw [rk_cons_ne c n rest h1]; simp [h2]

namespace Forest

theorem ctx?_some_loc {f : Forest} (nd : f.allHandles.Nodup) {x : Nat} {ctx : Ctx}
    (h : f.ctx? x = some ctx) :
    ∃ init fr, Loc f.roots x (init ++ [fr]) ctx.left ctx.self ctx.right ∧ fr.h = ctx.parent := by
  have hx : x ∈ f.allHandles := by
    apply Classical.byContradiction
    intro hn
    rw [Fws.ctx?_none hn] at h; cases h
  obtain ⟨path, l, k, r, lc⟩ := exists_loc hx
  rcases fi_nil_or_snoc path with rfl | ⟨init, fr, rfl⟩
  · rw [ctx?_of_loc_nil lc nd] at h; cases h
  rw [ctx?_of_loc_snoc lc nd] at h
  cases h
  exact ⟨init, fr, lc, rfl⟩

theorem ancestors_of_ctx? {f : Forest} (nd : f.allHandles.Nodup) {x : Nat} {ctx : Ctx}
    (h : f.ctx? x = some ctx) : f.ancestors x = x :: f.ancestors ctx.parent := by
  obtain ⟨init, fr, lc, hfr⟩ := ctx?_some_loc nd h
  have lcp : Loc f.roots fr.h init fr.l (.node fr.h fr.v (ctx.left ++ ctx.self :: ctx.right)) fr.r :=
    ⟨by rw [lc.eq, plug_append]; rfl, rfl⟩
  rw [ancestors_of_loc lc nd, ← hfr, ancestors_of_loc lcp nd]
  simp

theorem value?_of_ctx_self {f : Forest} (nd : f.allHandles.Nodup) {x : Nat} {ctx : Ctx}
    (h : f.ctx? x = some ctx) : f.value? x = some ctx.self.value := by
  obtain ⟨init, fr, lc, _⟩ := ctx?_some_loc nd h
  exact value?_of_loc lc nd

theorem value?_of_isNormalNode {f : Forest} {x : Nat} (h : f.isNormalNode x = true) :
    ∃ sv, f.value? x = some sv ∧ sv.category = .normal := by
  unfold isNormalNode at h
  cases hv : f.value? x with
  | none => rw [hv] at h; simp at h
  | some sv =>
    rw [hv] at h
    refine ⟨sv, rfl, ?_⟩
    simpa [Value.isNormal] using h

theorem value?_of_mem_kids {f : Forest} (nd : f.allHandles.Nodup) {p : Nat} {K n : HTree}
    (hK : f.get? p = some K) (hn : n ∈ K.kids) : f.value? n.handle = some n.value := by
  have hl := Forest.isLive_of_get? hK
  obtain ⟨path, l, K', r, lc⟩ := exists_loc (mem_allHandles_of_isLive hl)
  have := get?_of_loc lc nd
  rw [hK] at this; cases this
  obtain ⟨a, b, hab⟩ := List.append_of_mem hn
  have lcn : Loc f.roots n.handle (path ++ [⟨l, K.handle, K.value, r⟩]) a n b := by
    refine ⟨?_, rfl⟩
    rw [plug_append, lc.eq, ← hab]
    simp [node_eta]
  exact value?_of_loc lcn nd

/-- In strict mode the neighbours of `c` are not both text, so that `c` may be cut. -/
def CutOK (f : Forest) (c : Nat) : Prop :=
  f.everOff = false → ∀ ctx, f.ctx? c = some ctx → (lastText ctx.left && headText ctx.right) = false

theorem cut_inv {f : Forest} (hi : f.Inv) {c : Nat} {path l C r} (lc : Loc f.roots c path l C r)
    (hcut : f.CutOK c) : ({ f with roots := plug path (l ++ r) } : Forest).Inv := by
  obtain ⟨k1, k2⟩ := hi.kids_at lc.eq
  apply hi.edit (handles C) lc.eq
  · simp only [handlesList_append, handlesList_cons, List.append_assoc]
    exact List.Perm.append_left _ List.perm_append_comm
  · cases hiv : innerValue path with
    | none => rfl
    | some pv =>
      rw [hiv] at k1
      have hne : path ≠ [] := by intro h; subst h; simp at hiv
      obtain ⟨pp, hctx⟩ := ctx?_of_loc_ne lc hne hi.nodup
      refine (kidsOK_iff _ _ _).mpr (((kidsOK_iff _ _ _).mp k1).remove ?_)
      intro hs
      exact hcut (by simpa using hs) _ hctx
  · simp only [Fmap.validList_append, validList_cons, Bool.and_eq_true] at k2 ⊢
    exact ⟨k2.1, k2.2.2⟩

theorem Inv.of_perm {f f' : Forest} (hi : f.Inv) (hc : f'.corrupt = f.corrupt) (hn : f'.next = f.next)
    (he : f'.everOff = f.everOff) (hco : f'.consolidation = f.consolidation)
    (hp : f'.allHandles.Perm f.allHandles) (hv : validList (!f.everOff) f'.roots = true) : f'.Inv := by
  obtain ⟨h1, h2, h3, _, h5⟩ := hi
  refine ⟨by rw [hc]; exact h1, hp.symm.nodup h2, ?_, by rw [he]; exact hv, by rw [hco, he]; exact h5⟩
  intro h hh
  rw [hn]; exact h3 h (hp.subset hh)

/-- The state after cutting `c`, seen from another located node `x` that is not inside `c`. -/
theorem place_after_cut {g : Forest} (hi : g.Inv) {c x : Nat} {cv : Value}
    (hcv : g.value? c = some cv) (hcut : g.CutOK c)
    {path lx K rx} (lx' : Loc g.roots x path lx K rx) (hanc : (g.ancestors x).contains c = false) :
    ∃ g' t, g.cut c = (g', some t) ∧ g'.Inv ∧ t.value = cv ∧ validTree (!g.everOff) t = true ∧
      (g'.allHandles ++ handles t).Perm g.allHandles ∧
      g'.roots = plug (cutPath c path) (rk c lx ++ rb c K :: rk c rx) ∧
      g'.corrupt = g.corrupt ∧ g'.next = g.next ∧ g'.everOff = g.everOff ∧
      g'.consolidation = g.consolidation := by
  have hc : c ∈ g.allHandles := mem_allHandles_of_value? hcv
  obtain ⟨t, hget, hcutEq⟩ := cut_of_loc_other lx' hi.nodup hc hanc
  obtain ⟨pathc, lc, C, rc, locc⟩ := exists_loc hc
  have e1 := cut_of_loc locc hi.nodup
  have hg := get?_of_loc locc hi.nodup
  rw [hget] at hg; cases hg
  have hinv := cut_inv hi locc hcut
  rw [hcutEq] at e1
  simp only [Prod.mk.injEq, and_true] at e1
  refine ⟨_, t, hcutEq, ?_, ?_, hi.validTree_of_loc locc, cut_perm hi.nodup hcutEq, rfl, rfl, rfl, rfl, rfl⟩
  · rw [e1]; exact hinv
  · have := value?_of_loc locc hi.nodup
    rw [hcv] at this; exact (Option.some.inj this).symm

/-- Finish: new content `ks'` in the hole of the cut state, containing the cut tree `t` again. -/
theorem Inv.place {g g' : Forest} (hi : g.Inv) (hi' : g'.Inv) {t : HTree}
    (hperm : (g'.allHandles ++ handles t).Perm g.allHandles)
    (hc : g'.corrupt = g.corrupt) (hn : g'.next = g.next) (he : g'.everOff = g.everOff)
    (hco : g'.consolidation = g.consolidation)
    {path' : List ZipFrame} {ks ks' : List HTree} (hroots : g'.roots = plug path' ks)
    (hks : (handlesList ks').Perm (handlesList ks ++ handles t))
    (hk : kidsOKopt (!g.everOff) (innerValue path') ks' = true)
    (hl : validList (!g.everOff) ks' = true) : ({ g' with roots := plug path' ks' } : Forest).Inv := by
  refine Inv.of_perm (f' := { g' with roots := plug path' ks' }) hi hc hn he hco ?_ ?_
  · refine List.Perm.trans ?_ hperm
    unfold allHandles
    simp only
    rw [hroots]
    refine (handlesList_plug_perm path' ks').trans
      (List.Perm.trans ?_ ((handlesList_plug_perm path' ks).symm.append_right _))
    rw [List.append_assoc]
    exact List.Perm.append_left _ hks
  · have hv := hi'.valid
    rw [hroots, he] at hv
    exact valid_plug_replace _ path' ks ks' hv hk hl

/-- Local conditions for placing a node with value `cv` right after the node of context `ctx`
    under a parent with value `pv`. -/
structure AfterOK (g : Forest) (c : Nat) (cv sv pv : Value) (ctx : Ctx) : Prop where
  allowed : kidAllowed pv cv = true
  rankL : ∀ y ∈ ctx.left ++ [ctx.self], y.value.category.rank ≤ cv.category.rank
  rankR : ∀ y ∈ ctx.right, cv.category.rank ≤ y.value.category.rank
  keys : cv.category = .normal ∨ ∀ y ∈ ctx.left ++ ctx.self :: ctx.right,
    y.value.category = cv.category → entryKey y.value ≠ entryKey cv
  text : g.everOff = false → cv.isText = true → sv.isText = false ∧
    ∀ n rest, ctx.right = n :: rest → n.handle ≠ c ∧ n.value.isText = false

theorem checkedInsertAfter_gen {g : Forest} (hi : g.Inv) {ref c : Nat} {cv sv : Value}
    (hcv : g.value? c = some cv) (hsv : g.value? ref = some sv)
    (hroot : g.isRoot ref = false) (hanc : (g.ancestors ref).contains c = false)
    (hcut : g.CutOK c)
    (hloc : ∀ ctx pv, g.ctx? ref = some ctx → g.value? ctx.parent = some pv → AfterOK g c cv sv pv ctx) :
    (g.checkedInsertAfter ref c).1.Inv := by
  unfold checkedInsertAfter
  split
  · exact hi
  · simp only [hanc, hroot, Bool.or_self, Bool.false_eq_true, if_false]
    obtain ⟨path, lr, S, rr, locr⟩ := exists_loc (mem_allHandles_of_value? hsv)
    rcases fi_nil_or_snoc path with rfl | ⟨init, fr, rfl⟩
    · rw [isRoot_of_loc_nil locr] at hroot; cases hroot
    have hne : init ++ [fr] ≠ [] := by simp
    have hctx := ctx?_of_loc_snoc locr hi.nodup
    have lcp : Loc g.roots fr.h init fr.l (.node fr.h fr.v (lr ++ S :: rr)) fr.r :=
      ⟨by rw [locr.eq, plug_append]; rfl, rfl⟩
    have hpv : g.value? fr.h = some fr.v := value?_of_loc lcp hi.nodup
    have A := hloc _ _ hctx hpv
    obtain ⟨g', t, hcutEq, hi', htv, htvalid, hperm, hroots, h1, h2, h3, h4⟩ :=
      place_after_cut hi hcv hcut locr hanc
    rw [hcutEq]
    simp only
    have locr' : Loc g'.roots ref (cutPath c (init ++ [fr])) (rk c lr) (rb c S) (rk c rr) :=
      ⟨hroots, by simp [locr.hk]⟩
    have hne' : cutPath c (init ++ [fr]) ≠ [] := by simp [cutPath]
    rw [placeAfter_of_loc_ne t locr' hne' hi'.nodup]
    have hSv : S.value = sv := value_of_loc locr hi.nodup hsv
    obtain ⟨k1, k2⟩ := hi'.kids_at hroots
    rw [h3] at k1 k2
    have hfin : rk c lr ++ rb c S :: t :: rk c rr = (rk c lr ++ [rb c S]) ++ t :: rk c rr := by simp
    rw [hfin]
    have hiv : innerValue (cutPath c (init ++ [fr])) = some fr.v := by
      simp [cutPath, innerValue_map_mapKids]
    apply hi.place hi' hperm h1 h2 h3 h4 hroots
    · simp only [handlesList_append, handlesList_cons, handlesList_nil, List.append_nil, List.append_assoc]
      refine List.Perm.append_left _ (List.Perm.append_left _ ?_)
      exact List.perm_append_comm
    · rw [hiv] at k1 ⊢
      refine (kidsOK_iff _ _ _).mpr ?_
      have K0 := (kidsOK_iff _ _ _).mp k1
      have K1 : KidsOK (!g.everOff) fr.v ((rk c lr ++ [rb c S]) ++ rk c rr) := by simpa using K0
      refine K1.insert (by rw [htv]; exact A.allowed) ?_ ?_ ?_ ?_
      · intro y hy
        rw [List.mem_append, List.mem_singleton] at hy
        simp only [rankOf, htv]
        rcases hy with hy | hy
        · obtain ⟨z, hz, e1, _⟩ := mem_rk hy
          rw [e1]; exact A.rankL z (by simp [hz])
        · subst hy; rw [rb_value]; exact A.rankL S (by simp)
      · intro y hy
        obtain ⟨z, hz, e1, _⟩ := mem_rk hy
        simp only [rankOf, htv, e1]
        exact A.rankR z hz
      · cases A.keys with
        | inl h => exact Or.inl (by rw [htv]; exact h)
        | inr h =>
          refine Or.inr ?_
          intro y hy hcat
          rw [htv] at hcat ⊢
          simp only [List.append_assoc, List.mem_append, List.mem_singleton, List.cons_append,
            List.nil_append, List.mem_cons] at hy
          rcases hy with hy | hy | hy
          · obtain ⟨z, hz, e1, _⟩ := mem_rk hy
            rw [e1] at hcat ⊢; exact h z (by simp [hz]) hcat
          · subst hy; rw [rb_value] at hcat ⊢; exact h S (by simp) hcat
          · obtain ⟨z, hz, e1, _⟩ := mem_rk hy
            rw [e1] at hcat ⊢; exact h z (by simp [hz]) hcat
      · intro hs htt
        obtain ⟨e1, e2⟩ := A.text (by simpa using hs) (by rw [← htv]; exact htt)
        refine ⟨by simp [hSv, e1], ?_⟩
        apply headText_rk
        exact e2
    · simp only [Fmap.validList_append, validList_cons, validList_nil, Bool.and_true, Bool.and_eq_true] at k2 ⊢
      exact ⟨⟨k2.1, k2.2.1⟩, htvalid, k2.2.2⟩

/-- Local conditions for making a node with value `cv` the first child of `K`. -/
structure FirstOK (g : Forest) (c : Nat) (cv : Value) (K : HTree) : Prop where
  allowed : kidAllowed K.value cv = true
  rankR : ∀ y ∈ K.kids, cv.category.rank ≤ y.value.category.rank
  keys : cv.category = .normal ∨ ∀ y ∈ K.kids,
    y.value.category = cv.category → entryKey y.value ≠ entryKey cv
  text : g.everOff = false → cv.isText = true →
    ∀ n rest, K.kids = n :: rest → n.handle ≠ c ∧ n.value.isText = false

theorem checkedPrepend_gen {g : Forest} (hi : g.Inv) {p c : Nat} {cv : Value}
    (hcv : g.value? c = some cv) (hp : p ∈ g.allHandles) (hcut : g.CutOK c)
    (hloc : ∀ K, g.get? p = some K → FirstOK g c cv K) :
    (g.checkedPrepend p c).1.Inv := by
  unfold checkedPrepend
  split
  · exact hi
  · rename_i hcond
    have hanc : (g.ancestors p).contains c = false := by
      simp only [Bool.or_eq_true, decide_eq_true_eq, not_or, Bool.not_eq_true] at hcond
      exact hcond.2
    obtain ⟨path, lp, K, rp, locp⟩ := exists_loc hp
    have A := hloc K (get?_of_loc locp hi.nodup)
    obtain ⟨g', t, hcutEq, hi', htv, htvalid, hperm, hroots, h1, h2, h3, h4⟩ :=
      place_after_cut hi hcv hcut locp hanc
    rw [hcutEq]
    simp only
    have locp' : Loc g'.roots p (cutPath c path) (rk c lp) (rb c K) (rk c rp) :=
      ⟨hroots, by simp [locp.hk]⟩
    rw [placeFirst_of_loc t locp' hi'.nodup]
    have hroots2 : g'.roots = plug (cutPath c path ++ [⟨rk c lp, p, K.value, rk c rp⟩]) (rk c K.kids) := by
      rw [hroots, plug_append, rb_eq, locp.hk]; rfl
    have hfin : plug (cutPath c path) (rk c lp ++ (rb c K).setKids (t :: (rb c K).kids) :: rk c rp)
        = plug (cutPath c path ++ [⟨rk c lp, p, K.value, rk c rp⟩]) ([] ++ t :: rk c K.kids) := by
      rw [plug_append, rb_eq, locp.hk]; rfl
    rw [hfin]
    obtain ⟨k1, k2⟩ := hi'.kids_at hroots2
    rw [h3] at k1 k2
    apply hi.place hi' hperm h1 h2 h3 h4 hroots2
    · simp only [List.nil_append, handlesList_cons]
      exact List.perm_append_comm
    · rw [innerValue_snoc] at k1 ⊢
      refine (kidsOK_iff _ _ _).mpr ?_
      have K0 : KidsOK (!g.everOff) K.value ([] ++ rk c K.kids) := by simpa using (kidsOK_iff _ _ _).mp k1
      refine K0.insert (by rw [htv]; exact A.allowed) (by simp) ?_ ?_ ?_
      · intro y hy
        obtain ⟨z, hz, e1, _⟩ := mem_rk hy
        simp only [rankOf, htv, e1]
        exact A.rankR z hz
      · cases A.keys with
        | inl h => exact Or.inl (by rw [htv]; exact h)
        | inr h =>
          refine Or.inr ?_
          intro y hy hcat
          rw [htv] at hcat ⊢
          rw [List.nil_append] at hy
          obtain ⟨z, hz, e1, _⟩ := mem_rk hy
          rw [e1] at hcat ⊢; exact h z hz hcat
      · intro hs htt
        refine ⟨rfl, ?_⟩
        apply headText_rk
        exact A.text (by simpa using hs) (by rw [← htv]; exact htt)
    · simp [k2, htvalid]

end Forest
end XotModel
