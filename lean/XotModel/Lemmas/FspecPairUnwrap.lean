/-
  C05 for `element_unwrap` against the PAIR reading (`Spec.specUnwrapP`,
  `Model/FspecSpec4.lean`), for EVERY forest satisfying the invariant — adjacent text nodes allowed
  (no `Forest.Normal`).  The consolidation steps of xot (`Forest.unwrapBody` of `ManipShape.lean`, each
  step read as a pair merge by `SiteAt.seam_outcome`) against the three pair merges of the
  specification.
-/
import XotModel.Lemmas.BasicFacts
import XotModel.Lemmas.FspecPairList
import XotModel.Lemmas.FspecPairRemove
import XotModel.Lemmas.ManipShape
import XotModel.Model.FspecSpec4

namespace XotModel
open HTree Spec

namespace PairAll

theorem step_noop {g : Forest} {p : Nat} {v : Value} {L : List HTree} (s : SiteAt g p v L)
    (oa ob : Option Nat) (h : ∀ a b, oa = some a → ob = some b → mergeAdj a b L = L) :
    g.mergeLeftAt (some p) (oa, ob) = g := by
  cases oa with
  | none => exact Forest.mergeLeftAt_none_left _ _ _
  | some a =>
    cases ob with
    | none => exact Forest.mergeLeftAt_none_right _ _ _
    | some b =>
      rw [Forest.mergeLeftAt_some]
      split
      · rw [s.congr (g := mergeAdj a b) (g' := id) (h a b rfl rfl), Forest.editAt_id]
      · rfl

theorem step_merge {g : Forest} {p : Nat} {v : Value} {L L' : List HTree} (s : SiteAt g p v L)
    (hc : g.consolidation = true) {a b : Nat} (h : mergeAdj a b L = L') :
    g.mergeLeftAt (some p) (some a, some b) = g.editAt (some p) (fun _ => L') := by
  rw [s.mergeLeftAt_on hc, h]

/-- The three pair merges of `specUnwrapP`, on the forest after `remove_element`. -/
def unwrapMerges (f1 : Forest) (p : Nat) (a first last b : Option Nat) : Forest :=
  ((f1.mergeLeftAt (some p) (a, first)).mergeLeftAt (some p) (last, b)).mergeLeftAt (some p) (a, b)

theorem head_of_snoc {Nm'' : List HTree} {kf kl : HTree} {Nm' : List HTree} (h : kf :: Nm' = Nm'' ++ [kl])
    (R : List HTree) : ∃ Y, Nm'' ++ kl :: R = kf :: Y := by
  cases Nm'' with
  | nil =>
    simp only [List.nil_append] at h ⊢
    injection h with h1 _
    exact ⟨R, by rw [h1]⟩
  | cons c N =>
    simp only [List.cons_append] at h ⊢
    injection h with h1 _
    exact ⟨N ++ kl :: R, by rw [h1]⟩

theorem seam_noop {g : Forest} {p : Nat} {v : Value} {X Y : List HTree} {a : HTree}
    (s : SiteAt g p v (X ++ a :: Y))
    (h : ∀ b, Y.head? = some b → ¬ (a.value.isText = true ∧ b.value.isText = true)) :
    g.mergeLeftAt (some p) (some a.handle, Y.head?.map (·.handle)) = g := by
  cases Y with
  | nil => exact Forest.mergeLeftAt_none_right _ _ _
  | cons b Y' =>
    refine step_noop s _ _ (fun _ _ ea eb => ?_)
    cases ea
    cases eb
    exact mergeAdj_mid_other (h b rfl) Y' (tops_ne_of_nodup s.nodupKids.1).1

theorem seam_merge {g : Forest} {p : Nat} {v : Value} {X Y : List HTree} {a b : HTree} {x y : Str}
    (s : SiteAt g p v (X ++ a :: b :: Y)) (hc : g.consolidation = true)
    (hx : a.value = .text x) (hy : b.value = .text y) :
    g.mergeLeftAt (some p) (some a.handle, some b.handle) =
      g.editAt (some p) (fun _ => X ++ a.setValue (.text (x ++ y)) :: Y) :=
  step_merge s hc (mergeAdj_mid_text hx hy Y (tops_ne_of_nodup s.nodupKids.1).1)

/-- The child `a` and the first child of `r` are not adjacent while a child with the handle of
    `kl` (or a child before it) stands between them: their merge does nothing. -/
theorem apart_noop {g : Forest} {p : Nat} {v : Value} {P0 P1 R r : List HTree} {a kl : HTree}
    (sg : SiteAt g p v ((P0 ++ a :: P1) ++ R)) (hR : ∀ c, R.head? = some c → c.handle = kl.handle)
    (hb : ∀ c ∈ P1 ++ [kl], ∀ b ∈ r, c.handle ≠ b.handle) :
    g.mergeLeftAt (some p) (some a.handle, r.head?.map (·.handle)) = g := by
  cases hr : r.head? with
  | none => exact Forest.mergeLeftAt_none_right _ _ _
  | some b =>
    have hbr : b ∈ r := List.mem_of_head? hr
    have e : (P0 ++ a :: P1) ++ R = P0 ++ a :: (P1 ++ R) := by simp
    rw [e] at sg
    obtain ⟨t1, t2⟩ := tops_ne_of_nodup sg.nodupKids.1
    refine step_noop sg _ _ (fun _ _ ea eb => ?_)
    cases ea
    cases eb
    refine mergeAdj_sep _ (fun c hc => ?_) t2 _ t1
    cases P1 with
    | nil => rw [hR c hc]; exact hb kl (by simp) b hbr
    | cons c' N =>
      simp only [List.cons_append, List.head?_cons, Option.some.injEq] at hc
      subst hc
      exact hb c' List.mem_cons_self b hbr

/-- xot's step at the seam behind the last unwrapped child `kl` is the specification's merge
    there; the specification's merge `nb` after it does nothing, given that it does nothing
    wherever the children `P` before `kl` are still followed by a child with the handle of `kl`. -/
theorem last_steps {g : Forest} {p : Nat} {v : Value} {P r : List HTree} {kl : HTree}
    (sg : SiteAt g p v (P ++ kl :: r))
    (hleaf : ∀ t ∈ r, t.value.isText = true → t.kids = []) (nb : Option Nat × Option Nat)
    (h3 : ∀ (g' : Forest) (R : List HTree), SiteAt g' p v (P ++ R) →
      (∀ c, R.head? = some c → c.handle = kl.handle) → g'.mergeLeftAt (some p) nb = g') :
    (g.removeConsolidate (some kl.handle) (g.nextSibling kl.handle)).1 =
      (g.mergeLeftAt (some p) (some kl.handle, r.head?.map (·.handle))).mergeLeftAt (some p) nb := by
  have sg' : SiteAt g p v ((P ++ [kl]) ++ r) := by simpa using sg
  rw [sg.removeConsolidate_next hleaf]
  symm
  rcases sg'.seam_outcome kl hleaf (fun a _ ha _ hat _ => by
      rw [List.getLast?_concat] at ha; cases ha; exact category_normal_of_isText hat)
    with ⟨_, h2, _⟩ | ⟨A', a, b, B', x, y, eA, _, _, _, _, h2, s2⟩
  · rw [List.getLast?_concat, Option.map_some] at h2
    rw [h2]
    exact h3 g (kl :: r) sg (fun c hc => by cases hc; rfl)
  · obtain ⟨rfl, ea⟩ := List.append_inj' eA rfl
    cases ea
    rw [List.getLast?_concat, Option.map_some] at h2
    rw [h2]
    exact h3 _ (kl.setValue (.text (x ++ y)) :: B') s2 (fun c hc => by cases hc; exact setValue_handle _ _)

/-- xot's consolidation steps after `remove_element` (`Forest.unwrapBody`) are the specification's
    three pair merges. -/
theorem steps_specP {f : Forest} {n p : Nat} {v : Value} {l Nm r : List HTree} {first last : Nat}
    (s1 : SiteAt (f.removeElement n) p v (l ++ Nm ++ r))
    (hfirst : Nm.head?.map (·.handle) = some first) (hlast : Nm.getLast?.map (·.handle) = some last)
    (hleaf : ∀ t ∈ Nm ++ r, t.value.isText = true → t.kids = []) :
    (f.unwrapBody n first last).1 =
      unwrapMerges (f.removeElement n) p (l.getLast?.map (·.handle)) (some first) (some last)
        (r.head?.map (·.handle)) := by
  unfold unwrapMerges Forest.unwrapBody
  generalize f.removeElement n = f1 at s1 ⊢
  dsimp only
  cases hcc : f1.consolidation with
  | false =>
    rw [Forest.mergeLeftAt_off hcc, Forest.mergeLeftAt_off hcc, Forest.mergeLeftAt_off hcc,
      Forest.removeConsolidate_off hcc]
    simp only [Bool.false_eq_true, if_false]
    rw [Forest.removeConsolidate_off hcc]
  | true =>
    cases Nm with
    | nil => simp at hfirst
    | cons kf Nm' =>
    simp only [List.head?_cons, Option.map_some, Option.some.injEq] at hfirst
    subst hfirst
    obtain ⟨Nm'', kl, hsplit⟩ : ∃ Nm'' kl, kf :: Nm' = Nm'' ++ [kl] := by
      rcases List.eq_nil_or_concat (kf :: Nm') with h | ⟨L, b, h⟩
      · cases h
      · exact ⟨L, b, by rw [h, List.concat_eq_append]⟩
    have hlast' : kl.handle = last := by
      rw [hsplit] at hlast; simpa using hlast
    subst hlast'
    have hleafr : ∀ t ∈ r, t.value.isText = true → t.kids = [] :=
      fun t ht => hleaf t (List.mem_append_right _ ht)
    have s1a : SiteAt f1 p v (l ++ kf :: (Nm' ++ r)) := by simpa using s1
    have s1b : SiteAt f1 p v ((l ++ Nm'') ++ kl :: r) := by
      rw [hsplit] at s1
      simpa using s1
    obtain ⟨ndLa, _⟩ := s1a.nodupKids
    obtain ⟨tla, tra⟩ := tops_ne_of_nodup ndLa
    have hprev : f1.prevSibling kf.handle = prevOf l kf := Forest.prevSibling_of_ctx s1a.ctx
    have hnx : nextOf (kf :: (Nm' ++ r)) kf = some kf.handle := by simp [nextOf]
    -- an unwrapped child does not carry the handle of a node behind the last one
    have hNm_r : ∀ c ∈ Nm'' ++ [kl], ∀ b ∈ r, c.handle ≠ b.handle := by
      intro c hc b hb
      rw [← hsplit] at hc
      have e : l ++ kf :: (Nm' ++ r) = (l ++ kf :: Nm') ++ r := by simp
      exact handle_ne_of_nodup_append (e ▸ ndLa) (List.mem_append_right _ hc) hb
    rw [hprev]
    rcases s1a.seam_outcome kf (fun t ht => hleaf t (by simpa using ht)) (by
        intro a b _ h2 _ h4
        simp only [List.head?_cons, Option.some.injEq] at h2
        subst h2
        exact category_normal_of_isText h4) with ⟨h1, m1, _⟩ | ⟨A', a, b0, B', x, y, eA, eB, hx, hy, h3, m3, s2⟩
    · -- no merge at the first seam, in xot and in the specification
      rw [hnx] at h1
      rw [h1, show f1.mergeLeftAt (some p) (l.getLast?.map (·.handle), some kf.handle) = f1 from m1]
      simp only [Bool.false_eq_true, if_false]
      refine last_steps s1b hleafr _ (fun g R sg hRh => ?_)
      cases hl : l.getLast? with
      | none => exact Forest.mergeLeftAt_none_left _ _ _
      | some a =>
        obtain ⟨l', rfl⟩ := List.getLast?_eq_some_iff.1 hl
        exact apart_noop (P0 := l') (P1 := Nm'') (by simpa using sg) hRh hNm_r
    · -- the first unwrapped child is merged into the text before it
      subst eA
      cases eB
      rw [hnx] at h3
      rw [h3, show f1.mergeLeftAt (some p) ((A' ++ [a]).getLast?.map (·.handle), some kf.handle) = _ from m3]
      simp only [if_true]
      have hc2 : (f1.editAt (some p) (fun _ => A' ++ a.setValue (.text (x ++ y)) :: (Nm' ++ r))).consolidation
          = true := by rw [Forest.editAt_consolidation]; exact hcc
      rcases List.eq_nil_or_concat Nm' with hN | ⟨Nm3, kl2, hN⟩
      · -- exactly one unwrapped child: it is gone, and `a` now stands before `b`
        subst hN
        obtain ⟨e3, e4⟩ := List.append_inj' (s₁ := []) (t₁ := [kf]) hsplit rfl
        cases e4
        subst e3
        rw [if_pos (beq_self_eq_true _), Forest.nextSibling_of_ctx s1a.ctx]
        simp only [List.nil_append] at s2 ⊢
        have s2' : SiteAt (f1.editAt (some p) (fun _ => A' ++ a.setValue (.text (x ++ y)) :: r)) p v
            ((A' ++ [a.setValue (.text (x ++ y))]) ++ r) := by simpa using s2
        have st2 : (f1.editAt (some p) (fun _ => A' ++ a.setValue (.text (x ++ y)) :: r)).mergeLeftAt (some p)
            (some kf.handle, r.head?.map (·.handle)) =
            f1.editAt (some p) (fun _ => A' ++ a.setValue (.text (x ++ y)) :: r) := by
          refine step_noop s2 _ _ (fun _ _ ea _ => ?_)
          cases ea
          apply mergeAdj_of_not_top
          intro k hk
          cases List.mem_append.1 hk with
          | inl h => exact tla k (List.mem_append_left _ h)
          | inr h =>
            cases List.mem_cons.1 h with
            | inl h' =>
              rw [h', setValue_handle]
              exact tla a (by simp)
            | inr h' => exact tra k (by simpa using h')
        have hp2 : prevOf (A' ++ [a]) kf = prevOf (A' ++ [a.setValue (.text (x ++ y))]) kf := by
          simp [prevOf, setValue_value, setValue_handle, hx, Value.category]
        rw [st2, hp2, s2'.removeConsolidate_seam kf hleafr (fun _ _ _ _ _ _ => by rw [hy]; rfl)]
        simp only [List.getLast?_concat, Option.map_some, setValue_handle]
      · -- several unwrapped children: the last one is looked at separately
        rw [List.concat_eq_append] at hN
        subst hN
        obtain ⟨e3, e4⟩ := List.append_inj' (s₁ := kf :: Nm3) (t₁ := [kl2]) hsplit rfl
        cases e4
        subst e3
        have hne : ¬ (kf.handle == kl.handle) = true := fun e => tra kl (by simp) (beq_iff_eq.1 e).symm
        rw [if_neg hne]
        have s2b : SiteAt (f1.editAt (some p) (fun _ => A' ++ a.setValue (.text (x ++ y)) :: (Nm3 ++ [kl] ++ r))) p v
            ((A' ++ a.setValue (.text (x ++ y)) :: Nm3) ++ kl :: r) := by simpa using s2
        refine last_steps s2b hleafr _ (fun g R sg hRh => ?_)
        have := apart_noop sg hRh (fun c hc => hNm_r c (List.mem_cons_of_mem _ hc))
        rw [setValue_handle] at this
        simpa using this

theorem editAt_unwrap_eq_drop {f : Forest} {n : Nat} {w : HTree} (nd : f.allHandles.Nodup)
    (hg : f.get? n = some w) (hF : w.kids.filter (fun k => k.value.isNormal) = []) :
    f.editAt (f.parent? n) (replaceTop n (fun w => w.kids.filter (fun k => k.value.isNormal))) =
      f.editAt (f.parent? n) (dropTop n) := by
  rcases PairAll.root_or_site nd hg with hroot | ⟨p, v, l, r, hctx, s⟩
  · rw [Forest.parent?_of_no_ctx (Forest.ctx_none_of_root nd hroot)]
    unfold Forest.isRoot at hroot
    obtain ⟨k, hk, hkc⟩ := List.any_eq_true.1 hroot
    have hkc' : k.handle = n := by simpa using hkc
    have hkt := root_is nd hg k hk hkc'
    subst hkt
    obtain ⟨A, B, hAB⟩ := List.append_of_mem hk
    have nd' := nd
    unfold Forest.allHandles at nd'
    rw [hAB] at nd'
    obtain ⟨tl, tr⟩ := tops_ne_of_nodup nd'
    simp only [Forest.editAt]
    rw [hAB, replaceTop_eq_dropTop hkc' (fun k' h' => hkc' ▸ tl k' h') (fun k' h' => hkc' ▸ tr k' h') hF]
  · have e0 : w.handle = n := (findList?_some f.roots w hg).1
    rw [Forest.parent?_of_ctx? hctx]
    obtain ⟨tl, tr⟩ := tops_ne_of_nodup s.nodupKids.1
    apply s.congr
    exact replaceTop_eq_dropTop e0 (fun k hk => e0 ▸ tl k hk) (fun k hk => e0 ▸ tr k hk) hF

theorem specUnwrapP_eq_specRemoveP {f : Forest} {n : Nat} {w : HTree} (nd : f.allHandles.Nodup)
    (hg : f.get? n = some w) (hF : w.kids.filter (fun k => k.value.isNormal) = []) :
    specUnwrapP n f = specRemoveP n f := by
  unfold specUnwrapP specRemoveP
  have hK : (f.kidsOf n).filter (fun k => k.value.isNormal) = [] := by
    unfold Forest.kidsOf; rw [hg]; exact hF
  simp only [hK, List.head?_nil, List.getLast?_nil, Option.map_none]
  rw [Forest.mergeLeftAt_none_right, Forest.mergeLeftAt_none_left, editAt_unwrap_eq_drop nd hg hF]

/-- `element_unwrap` of an element with a parent and normal children, pair reading. -/
theorem unwrap_coreP {f : Forest} {p n : Nat} {v vn : Value} {l K r : List HTree} {first last : Nat}
    (inv : f.Inv) (s : SiteAt f p v (l ++ .node n vn K :: r))
    (hfc : ((K.dropWhile abn).head?).map (·.handle) = some first) (hlc : Forest.lastOf K = some last) :
    (f.unwrapBody n first last).1 = specUnwrapP n f := by
  have hctx : f.ctx? n = some ⟨p, l, .node n vn K, r⟩ := s.ctx
  have hpar : f.parent? n = some p := Forest.parent?_of_ctx? hctx
  obtain ⟨ndL, _⟩ := s.nodupKids
  obtain ⟨tl, _⟩ := tops_ne_of_nodup ndL
  have hwmem : HTree.node n vn K ∈ l ++ .node n vn K :: r := List.mem_append_right _ List.mem_cons_self
  have hvp := s.valid inv.valid
  have hvw := validList_all _ _ (validTree_node hvp).2.2.2 _ hwmem
  have hordK := (validTree_node hvw).2.1
  have hvK := (validTree_node hvw).2.2.2
  have hleafAb : ∀ k ∈ K.takeWhile abn, k.kids = [] := fun k hk =>
    abn_leaf (validList_all _ _ hvK k ((List.takeWhile_sublist _).subset hk)) (takeWhile_abn_all K k hk)
  have hleafK : ∀ t ∈ K, t.value.isText = true → t.kids = [] :=
    SiteAt.leaf (f := f) (p := n) (v := vn) ⟨s.nd, s.getKid⟩ inv.valid
  have hleafr : ∀ t ∈ r, t.value.isText = true → t.kids = [] :=
    fun t ht => s.leaf inv.valid t (List.mem_append_right _ (List.mem_cons_of_mem _ ht))
  obtain ⟨e1, s1⟩ := Forest.removeElement_site s hleafAb
  have hNmK : ∀ t ∈ K.dropWhile abn, t ∈ K := fun t ht => (List.dropWhile_sublist _).subset ht
  have hK : K = K.takeWhile abn ++ K.dropWhile abn := List.takeWhile_append_dropWhile.symm
  have hlast : (K.dropWhile abn).getLast?.map (·.handle) = some last := by
    cases hNl : (K.dropWhile abn).getLast? with
    | none =>
      rw [List.getLast?_eq_none_iff.1 hNl] at hfc
      cases hfc
    | some z =>
      have : K.getLast? = some z := by
        rw [hK, List.getLast?_append, hNl]; rfl
      unfold Forest.lastOf at hlc
      rw [this] at hlc
      simp only at hlc
      split at hlc
      · simpa using hlc
      · cases hlc
  have hstep := steps_specP s1 hfc hlast (by
    intro t ht
    cases List.mem_append.1 ht with
    | inl h => exact hleafK t (hNmK t h)
    | inr h => exact hleafr t h)
  rw [hstep]
  unfold specUnwrapP unwrapMerges
  have hedit : f.editAt (some p) (replaceTop n (fun w => w.kids.filter (fun k => k.value.isNormal))) =
      f.removeElement n := by
    rw [e1]
    apply s.congr
    rw [replaceTop_mid (h := n) (s := .node n vn K) rfl tl]
    simp only [HTree.kids]
    rw [filter_normal_eq_dropWhile hordK]
  have hnb : f.nbOf n = (l.getLast?.map (·.handle), r.head?.map (·.handle)) := s.nbOf
  have hgn : f.get? n = some (.node n vn K) := s.getKid
  have hkids : f.kidsOf n = K := Forest.kidsOf_of_get hgn
  simp only [hpar, hnb, hedit]
  rw [hkids, filter_normal_eq_dropWhile hordK, hfc, hlast]

end PairAll

/-- **C05, `element_unwrap`, pair reading**: for EVERY forest satisfying the invariant (adjacent
    text nodes allowed), a successful call replaces the element by its normal children and merges
    exactly the pairs of text nodes that have become adjacent, the earlier node surviving. -/
theorem unwrap_pair {f : Forest} {n : Nat} (inv : f.Inv) (hok : (f.elementUnwrap n).2 = .ok) :
    (f.elementUnwrap n).1 = specUnwrapP n f := by
  have nd := inv.nodup
  rcases Forest.elementUnwrap_shape f n with
    ⟨_, e⟩ | ⟨_, hel, ⟨hfc, e⟩ | ⟨first, hfc, hpar, ⟨_, e⟩ | ⟨last, hlc, e⟩⟩⟩
  · rw [e] at hok; cases hok
  · -- no normal child: the call is `remove`
    obtain ⟨nm, K, hg⟩ := Forest.get_of_isElement hel
    rw [e, remove_pair inv (Forest.isLive_of_get? hg)]
    symm
    apply PairAll.specUnwrapP_eq_specRemoveP nd hg
    rw [Forest.firstChild_of_get hg] at hfc
    simp only [HTree.kids]
    have hd : K.dropWhile abn = [] := by
      cases h : K.dropWhile abn with
      | nil => rfl
      | cons a t => rw [h] at hfc; simp at hfc
    have htk : K.takeWhile abn = K := by
      have := List.takeWhile_append_dropWhile (p := abn) (l := K)
      rw [hd, List.append_nil] at this
      exact this
    rw [List.filter_eq_nil_iff]
    intro k hk
    rw [← htk] at hk
    rw [takeWhile_abn_all K k hk]
    simp
  · rw [e] at hok; cases hok
  · obtain ⟨nm, K, hg⟩ := Forest.get_of_isElement hel
    rw [e]
    rcases PairAll.root_or_site nd hg with hroot | ⟨p, v, l, r, _, s⟩
    · rw [Forest.parent?_of_no_ctx (Forest.ctx_none_of_root nd hroot)] at hpar; cases hpar
    · exact PairAll.unwrap_coreP inv s (by rw [← Forest.firstChild_of_get hg]; exact hfc)
        (by rw [← Forest.lastChild_of_get hg]; exact hlc)

end XotModel
