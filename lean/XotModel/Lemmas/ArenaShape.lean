/-
  The list-level content of an arena (`Shape`: parent function, ordered child lists, free list, keyed
  by slot index) and the pointer invariant `Rep a g` / `Wf a`, with the lemmas that carry `PtrOk` of a
  slot to another arena: same ids (`PtrOk.congr`, `PtrOk.transfer`), pointer-only updates (`MetaEq`), a
  rewritten child list (`seam_split`, `PtrOk.seam`, `PtrOk.embed`).  `Arena::new_node` keeps the
  invariant and hands out the id of a slot that was not live.
-/
import XotModel.Lemmas.ArenaBasic

/-! ### The list-level content and the pointer invariant

  `Shape` is the list-level content of an arena, keyed by slot index: `par i` the parent of
  slot `i`, `kids i` its children in order, `free` the free list in order.  `Rep a g` says that
  the arena `a` stores exactly `g`: every pointer of every live slot is the one `g` dictates
  (as the CURRENT id of the slot pointed to), the children lists and the parent function agree,
  there is no parent cycle, the free list is threaded through the removed slots.  `Wf a` is
  `∃ g, Rep a g`.  Pointers kept in removed slots are unconstrained (indextree leaves them
  stale); nothing below reads them.
-/

namespace XotModel
namespace Arena

/-- The list-level content of an arena. -/
structure Shape where
  par : Nat → Option Nat
  kids : Nat → List Nat
  free : List Nat

/-- `i` reaches `j` by following parents upwards (reflexive). -/
inductive Reach (par : Nat → Option Nat) : Nat → Nat → Prop where
  | refl (i : Nat) : Reach par i i
  | step {i q j : Nat} : par i = some q → Reach par q j → Reach par i j

theorem Reach.trans {par : Nat → Option Nat} {i j k : Nat} (h1 : Reach par i j) (h2 : Reach par j k) :
    Reach par i k := by
  induction h1 with
  | refl => exact h2
  | step hp _ ih => exact .step hp (ih h2)

theorem Reach.single {par : Nat → Option Nat} {i q : Nat} (h : par i = some q) : Reach par i q :=
  .step h (.refl q)

theorem Reach.eq_of_root {par : Nat → Option Nat} {k i : Nat} (hk : par k = none) (h : Reach par k i) : i = k := by
  cases h with
  | refl => rfl
  | step hp _ => rw [hk] at hp; cases hp

theorem Reach.not_of_root {par : Nat → Option Nat} {k i p : Nat} (hk : par k = none) (hi : par i = some p) :
    ¬ Reach par k i := fun h => by
  rw [Reach.eq_of_root hk h, hk] at hi; cases hi

theorem Reach.par_below_root {par : Nat → Option Nat} {i c q : Nat} (hi : par i = none) (hp : par c = some q)
    (h : Reach par c i) : Reach par q i := by
  cases h with
  | refl => rw [hi] at hp; cases hp
  | step hp' hr => rw [hp] at hp'; cases hp'; exact hr

/-- Slot `i` exists and is not removed. -/
def Live (a : Arena) (i : Nat) : Prop := ∃ s, a.slot i = some s ∧ 0 ≤ s.stamp

theorem idAt_of_slot {a : Arena} {i : Nat} {s : Slot} (h : a.slot i = some s) : a.idAt i = ⟨i + 1, s.stamp⟩ := by
  unfold idAt; unfold slot at h; rw [h]

@[simp] theorem idAt_index0 (a : Arena) (i : Nat) : (a.idAt i).index0 = i := by
  simp [idAt, NodeId.index0]

theorem idAt_inj (a : Arena) {i j : Nat} (h : a.idAt i = a.idAt j) : i = j := by
  simpa using congrArg NodeId.index0 h

theorem idAt_ne (a : Arena) {i j : Nat} (h : i ≠ j) : a.idAt i ≠ a.idAt j := fun e => h (idAt_inj a e)

/-- A pointer that the shape dictates, read back as a slot index. -/
theorem eq_some_of_map_idAt {a : Arena} {o : Option Nat} {id : NodeId} (h : o.map a.idAt = some id) :
    o = some id.index0 := by
  cases o with
  | none => cases h
  | some j => cases h; rw [idAt_index0]

theorem rd_idAt {α : Type} (a b : Arena) {k : Nat} {f : Slot → Step α} {s : Slot} (hs : a.slot k = some s) :
    rd a (b.idAt k) f = f s :=
  rd_some _ _ _ _ (by rw [idAt_index0]; exact hs)

/-- The free list `fl` is threaded through the removed slots of `a`. -/
structure FreeOk (a : Arena) (fl : List Nat) : Prop where
  nodup : fl.Nodup
  mem : ∀ i, i ∈ fl ↔ ∃ s, a.slot i = some s ∧ s.stamp < 0
  head : a.firstFree = fl.head?
  last : a.lastFree = fl.getLast?
  link : ∀ k i, fl[k]? = some i → ∃ s, a.slot i = some s ∧ s.data = .nextFree fl[k + 1]?

/-- The pointers of live slot `i` (slot value `s`) are those the shape dictates. -/
structure PtrOk (a : Arena) (g : Shape) (i : Nat) (s : Slot) : Prop where
  parent : s.parent = (g.par i).map a.idAt
  first : s.first = (g.kids i).head?.map a.idAt
  last : s.last = (g.kids i).getLast?.map a.idAt
  root : g.par i = none → s.prev = none ∧ s.next = none
  sib : ∀ p, g.par i = some p → ∃ L R, g.kids p = L ++ i :: R ∧
          s.prev = L.getLast?.map a.idAt ∧ s.next = R.head?.map a.idAt

/-- The arena `a` stores the shape `g`. -/
structure Rep (a : Arena) (g : Shape) : Prop where
  stampRange : ∀ i s, a.slot i = some s → -32767 ≤ s.stamp ∧ s.stamp ≤ 32767
  dataLive : ∀ i s, a.slot i = some s → (0 ≤ s.stamp ↔ ∃ v, s.data = .data v)
  free : FreeOk a g.free
  kidsLive : ∀ p c, c ∈ g.kids p → Live a p ∧ Live a c ∧ g.par c = some p
  parKids : ∀ c p, g.par c = some p → Live a c ∧ c ∈ g.kids p
  kidsNodup : ∀ p, (g.kids p).Nodup
  acyclic : ∀ i q, g.par i = some q → ¬ Reach g.par q i
  ptrs : ∀ i s, a.slot i = some s → 0 ≤ s.stamp → PtrOk a g i s

/-- The pointer invariant. -/
def Wf (a : Arena) : Prop := ∃ g, Rep a g

/-- `id` is the current id of a live slot. -/
def LiveId (a : Arena) (id : NodeId) : Prop := 1 ≤ id.index1 ∧ Live a id.index0 ∧ a.idAt id.index0 = id

theorem LiveId.idAt {a : Arena} {i : Nat} (h : Live a i) : LiveId a (a.idAt i) := by
  refine ⟨by simp [Arena.idAt], by simpa using h, by simp⟩

theorem LiveId.eq {a : Arena} {id : NodeId} (h : LiveId a id) : id = a.idAt id.index0 := h.2.2.symm

def Shape.empty : Shape := { par := fun _ => none, kids := fun _ => [], free := [] }

theorem Rep.empty : Rep {} Shape.empty := by
  refine ⟨?_, ?_, ⟨by simp [Shape.empty], ?_, rfl, rfl, ?_⟩, ?_, ?_, ?_, ?_, ?_⟩
  · intro i s h; simp [slot] at h
  · intro i s h; simp [slot] at h
  · intro i; simp [Shape.empty, slot]
  · intro k i h; simp [Shape.empty] at h
  · intro p c h; simp [Shape.empty] at h
  · intro c p h; simp [Shape.empty] at h
  · intro p; simp [Shape.empty]
  · intro i q h; simp [Shape.empty] at h
  · intro i s h; simp [slot] at h

theorem Wf.empty : Wf {} := ⟨_, Rep.empty⟩

namespace Rep

variable {a : Arena} {g : Shape}

theorem live_of_par (r : Rep a g) {c p : Nat} (h : g.par c = some p) : Live a c ∧ Live a p := by
  obtain ⟨hc, hm⟩ := r.parKids c p h
  exact ⟨hc, (r.kidsLive p c hm).1⟩

theorem live_kid (r : Rep a g) (p c : Nat) (h : c ∈ g.kids p) : Live a c := (r.kidsLive p c h).2.1

theorem par_ne (r : Rep a g) {c p : Nat} (h : g.par c = some p) : p ≠ c := by
  intro e
  subst e
  exact r.acyclic _ _ h (.refl _)

theorem kid_ne (r : Rep a g) {p c : Nat} (h : c ∈ g.kids p) : c ≠ p :=
  fun e => r.par_ne (r.kidsLive p c h).2.2 e.symm

theorem root_not_kid (r : Rep a g) {i : Nat} (h : g.par i = none) (q : Nat) : i ∉ g.kids q := fun hm => by
  have := (r.kidsLive q i hm).2.2
  rw [h] at this; cases this

theorem not_live_of_neg {i : Nat} {s : Slot} (hs : a.slot i = some s) (hn : s.stamp < 0) : ¬ Live a i := by
  rintro ⟨s', hs', h0⟩
  rw [hs] at hs'; cases hs'; omega

/-- A live slot has no parent and no children outside the live slots; a dead one has none. -/
theorem par_none_of_not_live (r : Rep a g) {i : Nat} (h : ¬ Live a i) : g.par i = none := by
  cases hp : g.par i with
  | none => rfl
  | some p => exact absurd (r.live_of_par hp).1 h

theorem kids_nil_of_not_live (r : Rep a g) {i : Nat} (h : ¬ Live a i) : g.kids i = [] := by
  cases hk : g.kids i with
  | nil => rfl
  | cons c cs => exact absurd (r.kidsLive i c (by simp [hk])).1 h

theorem not_mem_kids_of_not_live (r : Rep a g) {i p : Nat} (h : ¬ Live a i) : i ∉ g.kids p :=
  fun hm => h (r.kidsLive p i hm).2.1

/-- Every pointer stored in a live slot is in range. -/
theorem inRange_map (o : Option Nat) (h : ∀ j, o = some j → Live a j) : InRange a (o.map a.idAt) := by
  intro id hid
  cases o with
  | none => simp at hid
  | some j =>
    simp only [Option.map_some, Option.some.injEq] at hid
    subst hid
    obtain ⟨s, hs, _⟩ := h j rfl
    exact ⟨s, by simpa using hs⟩

end Rep

end Arena
end XotModel

/-! ### `Arena::new_node`

  Never panics; the slot handed out is live, parentless and childless (a fresh slot, or the head of the free list
  with its stamp negated back); the free list is popped and no other slot changes.
-/

namespace XotModel
namespace Arena

theorem wrap16_id (x : Int) (h1 : -32768 ≤ x) (h2 : x ≤ 32767) : wrap16 x = x := by
  unfold wrap16; omega

theorem slot_setSlot (a : Arena) (i j : Nat) (s s' : Slot) (h : a.slot i = some s) :
    (a.setSlot i s').slot j = if i = j then some s' else a.slot j := by
  rw [setSlot_eq_mod a i s (fun _ => s') h, slot_mod]
  by_cases hij : i = j
  · subst hij; simp [h]
  · simp [hij]

/-- Ids of live slots are the same in `a'` as in `a`. -/
def IdAgree (a a' : Arena) : Prop := ∀ k, Live a k → a'.idAt k = a.idAt k

/-- Transfer of the pointer facts of slot `i` to an arena that gives the same ids to the slots they
    mention: the parent, the children and the siblings of `i`. -/
theorem PtrOk.congr {a a' : Arena} {g g' : Shape} {i : Nat} {s : Slot} (h : PtrOk a g i s)
    (hid : ∀ k, (g.par i = some k ∨ k ∈ g.kids i ∨ ∃ p, g.par i = some p ∧ k ∈ g.kids p) → a'.idAt k = a.idAt k)
    (hpar : g'.par i = g.par i) (hkids : g'.kids i = g.kids i)
    (hpk : ∀ p, g.par i = some p → g'.kids p = g.kids p) : PtrOk a' g' i s := by
  have mapc : ∀ o : Option Nat, (∀ k, o = some k → a'.idAt k = a.idAt k) → o.map a'.idAt = o.map a.idAt := by
    intro o ho
    cases o with
    | none => rfl
    | some k => exact congrArg some (ho k rfl)
  refine ⟨?_, ?_, ?_, fun hn => h.root (hpar ▸ hn), fun p hp => ?_⟩
  · rw [h.parent, hpar]; exact (mapc _ fun k hk => hid k (Or.inl hk)).symm
  · rw [h.first, hkids]; exact (mapc _ fun k hk => hid k (Or.inr (Or.inl (List.mem_of_mem_head? hk)))).symm
  · rw [h.last, hkids]; exact (mapc _ fun k hk => hid k (Or.inr (Or.inl (List.mem_of_getLast? hk)))).symm
  · rw [hpar] at hp
    obtain ⟨L, R, hk, hprev, hnext⟩ := h.sib p hp
    refine ⟨L, R, (hpk p hp).trans hk, ?_, ?_⟩
    · rw [hprev]
      exact (mapc _ fun k hk' => hid k (Or.inr (Or.inr ⟨p, hp, hk ▸ List.mem_append_left _
        (List.mem_of_getLast? hk')⟩))).symm
    · rw [hnext]
      exact (mapc _ fun k hk' => hid k (Or.inr (Or.inr ⟨p, hp, hk ▸ List.mem_append_right _
        (List.mem_cons_of_mem _ (List.mem_of_mem_head? hk'))⟩))).symm

theorem PtrOk.transfer {a a' : Arena} {g g' : Shape} {i : Nat} {s : Slot} (r : Rep a g)
    (h : PtrOk a g i s) (hid : IdAgree a a')
    (hpar : g'.par i = g.par i) (hkids : g'.kids i = g.kids i)
    (hpk : ∀ p, g.par i = some p → g'.kids p = g.kids p) : PtrOk a' g' i s := by
  refine h.congr (fun k hk => hid k ?_) hpar hkids hpk
  rcases hk with hk | hk | ⟨p, _, hk⟩
  · exact (r.live_of_par hk).2
  · exact (r.kidsLive i k hk).2.1
  · exact (r.kidsLive p k hk).2.1

/-- What `new_node` guarantees. -/
structure NewNodeOk (a : Arena) (g : Shape) (v : Nat) (a' : Arena) (id : NodeId) (g' : Shape) : Prop where
  rep : Rep a' g'
  liveId : LiveId a' id
  fresh : ¬ Live a id.index0
  par : g'.par = g.par
  kids : g'.kids = g.kids
  parNone : g'.par id.index0 = none
  kidsNil : g'.kids id.index0 = []
  value : ∃ s, a'.slot id.index0 = some s ∧ s.data = .data v
  others : ∀ j, j ≠ id.index0 → a'.slot j = a.slot j
  free : g'.free = g.free.tail
  slotFresh : g.free = [] → id = ⟨a.nodes.length + 1, 0⟩
  slotReuse : ∀ i rest, g.free = i :: rest → ∃ s, a.slot i = some s ∧ id = ⟨i + 1, -s.stamp⟩

theorem slot_push (a : Arena) (s : Slot) (j : Nat) :
    ({ a with nodes := a.nodes ++ [s] } : Arena).slot j =
      if j = a.nodes.length then some s else a.slot j := by
  unfold slot
  simp only
  by_cases h : j = a.nodes.length
  · subst h; simp
  · rcases Nat.lt_or_gt_of_ne h with h1 | h1
    · simp [List.getElem?_append_left h1, h]
    · have h2 : a.nodes.length ≤ j := Nat.le_of_lt h1
      rw [List.getElem?_append_right h2]
      have : j - a.nodes.length ≠ 0 := by omega
      simp [h, List.getElem?_eq_none h2]
      cases hj : j - a.nodes.length with
      | zero => omega
      | succ m => simp

theorem lt_of_slot {a : Arena} {j : Nat} {s : Slot} (h : a.slot j = some s) : j < a.nodes.length := by
  unfold slot at h
  exact (List.getElem?_eq_some_iff.mp h).1

/-- A slot that was not live becomes a live node without links (payload `v`, stamp `t`); all other
    slots stay, and the free list of the arena reached is `fl'`: the arena stores the same tree shape. -/
theorem Rep.occupy {a a' : Arena} {g : Shape} (r : Rep a g) {n v : Nat} {t : Int} {fl' : List Nat}
    (hnl : ¬ Live a n) (hslot : ∀ j, a'.slot j = if n = j then some { stamp := t, data := .data v } else a.slot j)
    (h0 : 0 ≤ t) (h1 : t ≤ 32767) (hfree : FreeOk a' fl') :
    Rep a' { g with free := fl' } ∧ LiveId a' ⟨n + 1, t⟩ := by
  have hold : ∀ j s, Live a j → a.slot j = some s → a'.slot j = some s := fun j s hl hs => by
    rw [hslot, if_neg (fun (e : n = j) => hnl (e ▸ hl))]; exact hs
  have hlive : ∀ j, Live a j → Live a' j := fun j hl => by
    obtain ⟨s, hs, h0⟩ := hl
    exact ⟨s, hold j s ⟨s, hs, h0⟩ hs, h0⟩
  have hid : IdAgree a a' := fun k hl => by
    obtain ⟨s, hs, h0⟩ := hl
    rw [idAt_of_slot hs, idAt_of_slot (hold k s ⟨s, hs, h0⟩ hs)]
  have hn : a'.slot n = some { stamp := t, data := .data v } := by rw [hslot, if_pos rfl]
  refine ⟨⟨?_, ?_, hfree, ?_, ?_, r.kidsNodup, r.acyclic, ?_⟩, Nat.le_add_left 1 n, ⟨_, hn, h0⟩, idAt_of_slot hn⟩
  · intro j s hs
    rw [hslot] at hs
    by_cases hj : n = j
    · rw [if_pos hj] at hs; cases hs; exact ⟨Int.le_trans (by decide) h0, h1⟩
    · rw [if_neg hj] at hs; exact r.stampRange j s hs
  · intro j s hs
    rw [hslot] at hs
    by_cases hj : n = j
    · rw [if_pos hj] at hs; cases hs; exact ⟨fun _ => ⟨v, rfl⟩, fun _ => h0⟩
    · rw [if_neg hj] at hs; exact r.dataLive j s hs
  · intro p c hc
    obtain ⟨h1, h2, h3⟩ := r.kidsLive p c hc
    exact ⟨hlive p h1, hlive c h2, h3⟩
  · intro c p hp
    obtain ⟨h1, h2⟩ := r.parKids c p hp
    exact ⟨hlive c h1, h2⟩
  · intro j s hs hs0
    rw [hslot] at hs
    by_cases hj : n = j
    · rw [if_pos hj] at hs
      cases hs
      have hp : g.par j = none := hj ▸ r.par_none_of_not_live hnl
      have hk : g.kids j = [] := hj ▸ r.kids_nil_of_not_live hnl
      exact ⟨by rw [hp]; rfl, by rw [hk]; rfl, by rw [hk]; rfl, fun _ => ⟨rfl, rfl⟩,
        fun p hp' => by rw [hp] at hp'; cases hp'⟩
    · rw [if_neg hj] at hs
      exact (r.ptrs j s hs hs0).transfer r hid rfl rfl (fun _ _ => rfl)

theorem Rep.newNode_fresh {a : Arena} {g : Shape} (r : Rep a g) (v : Nat) (hf : g.free = []) :
    ∃ a' id, newNode a v = .done a' id ∧ NewNodeOk a g v a' id g := by
  have hff : a.firstFree = none := by rw [r.free.head, hf]; rfl
  have hnew : newNode a v = .done { a with nodes := a.nodes ++ [Slot.new v] } ⟨a.nodes.length + 1, 0⟩ := by
    unfold newNode popFrontFreeNode
    rw [hff]
    rfl
  refine ⟨_, _, hnew, ?_⟩
  have hnl : ¬ Live a a.nodes.length := fun ⟨s, hs, _⟩ => Nat.lt_irrefl _ (lt_of_slot hs)
  have hslot : ∀ j, ({ a with nodes := a.nodes ++ [Slot.new v] } : Arena).slot j =
      if a.nodes.length = j then some (Slot.new v) else a.slot j := fun j => by
    rw [slot_push]
    by_cases hj : j = a.nodes.length
    · rw [if_pos hj, if_pos hj.symm]
    · rw [if_neg hj, if_neg (Ne.symm hj)]
  have hold : ∀ j s, a.slot j = some s → ({ a with nodes := a.nodes ++ [Slot.new v] } : Arena).slot j = some s :=
    fun j s hs => by rw [hslot, if_neg (Nat.ne_of_gt (lt_of_slot hs))]; exact hs
  have hfree : FreeOk { a with nodes := a.nodes ++ [Slot.new v] } g.free := by
    refine ⟨r.free.nodup, fun i => ?_, r.free.head, r.free.last, fun k i hk => ?_⟩
    · rw [hf]
      refine ⟨fun h => (by cases h), fun ⟨s, hs, hneg⟩ => ?_⟩
      rw [hslot] at hs
      by_cases hi : a.nodes.length = i
      · rw [if_pos hi] at hs; cases hs; exact absurd hneg (Int.lt_irrefl 0)
      · rw [if_neg hi] at hs
        have := (r.free.mem i).mpr ⟨s, hs, hneg⟩
        rw [hf] at this; cases this
    · obtain ⟨s, hs, hd⟩ := r.free.link k i hk
      exact ⟨s, hold i s hs, hd⟩
  obtain ⟨rep, lid⟩ := r.occupy hnl hslot (Int.le_refl 0) (by decide) hfree
  exact ⟨rep, lid, hnl, rfl, rfl, r.par_none_of_not_live hnl, r.kids_nil_of_not_live hnl,
    ⟨_, by rw [hslot]; exact if_pos rfl, rfl⟩, fun j hj => by rw [hslot]; exact if_neg (Ne.symm hj),
    by rw [hf]; rfl, fun _ => rfl, fun i rest h => (by rw [hf] at h; cases h)⟩

theorem Rep.newNode_reuse {a : Arena} {g : Shape} (r : Rep a g) (v : Nat) (i : Nat) (rest : List Nat)
    (hf : g.free = i :: rest) :
    ∃ a' id, newNode a v = .done a' id ∧ NewNodeOk a g v a' id { g with free := rest } := by
  have hff : a.firstFree = some i := by rw [r.free.head, hf]; rfl
  obtain ⟨s, hs, hdata⟩ := r.free.link 0 i (by rw [hf]; rfl)
  have hnf : (g.free)[0 + 1]? = rest.head? := by rw [hf]; simp [List.head?_eq_getElem?]
  rw [hnf] at hdata
  have hneg : s.stamp < 0 := by
    obtain ⟨s', hs', hn⟩ := (r.free.mem i).mp (by rw [hf]; exact List.mem_cons_self)
    rw [hs] at hs'; cases hs'; exact hn
  obtain ⟨hlo, hhi⟩ := r.stampRange i s hs
  have hst : Stamp.reuse s.stamp = -s.stamp := wrap16_id _ (by omega) (by omega)
  have hnodes : a.nodes[i]? = some s := hs
  have hnew : newNode a v = .done
      (Arena.setSlot ({ a with firstFree := rest.head?, lastFree := if rest.head?.isNone then none else a.lastFree } : Arena) i (s.reuse v))
      ⟨i + 1, -s.stamp⟩ := by
    unfold newNode popFrontFreeNode
    simp only [hff, hnodes, hdata, Step.bind_done]
    have hst' : (s.reuse v).stamp = -s.stamp := hst
    by_cases hh : rest.head?.isNone = true
    · simp only [hh, if_true, hnodes]; rw [hst']
    · have hh' : rest.head?.isNone = false := by simpa using hh
      simp only [hh', Bool.false_eq_true, if_false, hnodes]; rw [hst']
  refine ⟨_, _, hnew, ?_⟩
  generalize ha' : (Arena.setSlot ({ a with firstFree := rest.head?, lastFree := if rest.head?.isNone then none else a.lastFree } : Arena) i (s.reuse v)) = a'
  have hslot : ∀ j, a'.slot j = if i = j then some { stamp := -s.stamp, data := .data v } else a.slot j :=
    fun j => by
      rw [← ha', ← hst]
      exact slot_setSlot _ i j s _ hs
  have hff' : a'.firstFree = rest.head? := by rw [← ha']; rfl
  have hlf' : a'.lastFree = if rest.head?.isNone then none else a.lastFree := by rw [← ha']; rfl
  have hnd : (i :: rest).Nodup := hf ▸ r.free.nodup
  have hirest : i ∉ rest := (List.nodup_cons.mp hnd).1
  have hnl : ¬ Live a i := Rep.not_live_of_neg hs hneg
  have hfree : FreeOk a' rest := by
    refine ⟨(List.nodup_cons.mp hnd).2, fun j => ?_, hff', ?_, fun k j hk => ?_⟩
    · rw [hslot]
      by_cases hij : i = j
      · rw [if_pos hij]
        exact ⟨fun hm => absurd (hij ▸ hm) hirest, fun ⟨s', hs', hn⟩ => by cases hs'; exact absurd hn (by show ¬ (-s.stamp < 0); omega)⟩
      · rw [if_neg hij, ← r.free.mem j, hf, List.mem_cons]
        exact ⟨Or.inr, fun h => h.resolve_left (Ne.symm hij)⟩
    · rw [hlf']
      cases rest with
      | nil => rfl
      | cons b bs => rw [r.free.last, hf]; rfl
    · obtain ⟨s', hs', hd⟩ := r.free.link (k + 1) j (by rw [hf]; exact hk)
      have hji : i ≠ j := fun e => hirest (e ▸ List.mem_of_getElem? hk)
      refine ⟨s', by rw [hslot, if_neg hji]; exact hs', ?_⟩
      rw [hd, hf]; rfl
  obtain ⟨rep, lid⟩ := r.occupy hnl hslot (by omega) (by omega) hfree
  exact ⟨rep, lid, hnl, rfl, rfl, r.par_none_of_not_live hnl, r.kids_nil_of_not_live hnl,
    ⟨_, by rw [hslot]; exact if_pos rfl, rfl⟩, fun j hj => by rw [hslot]; exact if_neg (Ne.symm hj),
    by rw [hf]; rfl, fun h => (by rw [hf] at h; cases h),
    fun i' rest' h => (by rw [hf] at h; cases h; exact ⟨s, hs, rfl⟩)⟩

/-- `new_node` on a well-formed arena. -/
theorem Rep.newNode {a : Arena} {g : Shape} (r : Rep a g) (v : Nat) :
    ∃ a' id g', Arena.newNode a v = .done a' id ∧ NewNodeOk a g v a' id g' := by
  cases hf : g.free with
  | nil =>
    obtain ⟨a', id, h1, h2⟩ := r.newNode_fresh v hf
    exact ⟨a', id, g, h1, h2⟩
  | cons i rest =>
    obtain ⟨a', id, h1, h2⟩ := r.newNode_reuse v i rest hf
    exact ⟨a', id, _, h1, h2⟩

end Arena
end XotModel

/-! ### Pointer-only updates; a rewritten child list

  An arena whose slots carry the same stamps and data as another one (and the same free-list heads) has the same
  live slots, the same ids, the same free list.  List facts about splitting a list without repetition at an element,
  and what they mean for the sibling pointers of a child whose parent's child list is rewritten
  (`PtrOk.seam`, `PtrOk.embed`): every operation that edits one child list uses these two.
-/

namespace XotModel
namespace Arena

/-- Same stamps, data and free-list heads (the pointers may differ). -/
structure MetaEq (a a' : Arena) : Prop where
  stamp : ∀ j, (a'.slot j).map (·.stamp) = (a.slot j).map (·.stamp)
  data : ∀ j, (a'.slot j).map (·.data) = (a.slot j).map (·.data)
  first : a'.firstFree = a.firstFree
  last : a'.lastFree = a.lastFree

/-- `f` writes pointers only. -/
def PtrOnly (f : Slot → Slot) : Prop := ∀ s, (f s).stamp = s.stamp ∧ (f s).data = s.data

theorem idAt_congr {a a' : Arena} {j : Nat} (h : (a'.slot j).map (·.stamp) = (a.slot j).map (·.stamp)) :
    a'.idAt j = a.idAt j := by
  unfold Arena.idAt
  unfold slot at h
  cases ha : a.nodes[j]? <;> cases ha' : a'.nodes[j]? <;> rw [ha, ha'] at h <;> simp at h ⊢
  exact h

theorem MetaEq.refl (a : Arena) : MetaEq a a := ⟨fun _ => rfl, fun _ => rfl, rfl, rfl⟩

theorem MetaEq.trans {a b c : Arena} (h1 : MetaEq a b) (h2 : MetaEq b c) : MetaEq a c :=
  ⟨fun j => (h2.stamp j).trans (h1.stamp j), fun j => (h2.data j).trans (h1.data j),
   h2.first.trans h1.first, h2.last.trans h1.last⟩

theorem MetaEq.mod (a : Arena) (i : Nat) {f : Slot → Slot} (hf : PtrOnly f) : MetaEq a (a.mod i f) := by
  refine ⟨fun j => ?_, fun j => ?_, rfl, rfl⟩
  · rw [slot_mod]; split
    · cases a.slot j <;> simp [(hf _).1]
    · rfl
  · rw [slot_mod]; split
    · cases a.slot j <;> simp [(hf _).2]
    · rfl

theorem MetaEq.modOpt (a : Arena) (o : Option NodeId) {f : Slot → Slot} (hf : PtrOnly f) :
    MetaEq a (a.modOpt o f) := by
  cases o with
  | none => exact MetaEq.refl a
  | some id => exact MetaEq.mod a _ hf

namespace MetaEq
variable {a a' : Arena}

theorem slot_some (h : MetaEq a a') {j : Nat} {s : Slot} (hs : a.slot j = some s) :
    ∃ s', a'.slot j = some s' ∧ s'.stamp = s.stamp ∧ s'.data = s.data := by
  have h1 := h.stamp j
  have h2 := h.data j
  rw [hs] at h1 h2
  cases hs' : a'.slot j with
  | none => rw [hs'] at h1; simp at h1
  | some s' =>
    rw [hs'] at h1 h2
    simp at h1 h2
    exact ⟨s', rfl, h1, h2⟩

theorem slot_some' (h : MetaEq a a') {j : Nat} {s' : Slot} (hs : a'.slot j = some s') :
    ∃ s, a.slot j = some s ∧ s'.stamp = s.stamp ∧ s'.data = s.data := by
  have h1 := h.stamp j
  have h2 := h.data j
  rw [hs] at h1 h2
  cases hs' : a.slot j with
  | none => rw [hs'] at h1; simp at h1
  | some s =>
    rw [hs'] at h1 h2
    simp at h1 h2
    exact ⟨s, rfl, h1, h2⟩

theorem live (h : MetaEq a a') (j : Nat) : Live a' j ↔ Live a j := by
  constructor
  · rintro ⟨s', hs', h0⟩
    obtain ⟨s, hs, hst, _⟩ := h.slot_some' hs'
    exact ⟨s, hs, by omega⟩
  · rintro ⟨s, hs, h0⟩
    obtain ⟨s', hs', hst, _⟩ := h.slot_some hs
    exact ⟨s', hs', by omega⟩

theorem idAt (h : MetaEq a a') (j : Nat) : a'.idAt j = a.idAt j := idAt_congr (h.stamp j)

/-- Both arenas have a slot exactly where the other has one. -/
theorem length (h : MetaEq a a') : a'.nodes.length = a.nodes.length := by
  have key : ∀ {x y : Arena}, (∀ j, (y.slot j).map (·.stamp) = (x.slot j).map (·.stamp)) →
      ¬ x.nodes.length < y.nodes.length := by
    intro x y hxy hlt
    have h1 : x.slot x.nodes.length = none := List.getElem?_eq_none (Nat.le_refl _)
    have h2 := hxy x.nodes.length
    rw [h1, show y.slot x.nodes.length = some y.nodes[x.nodes.length] from List.getElem?_eq_getElem hlt] at h2
    cases h2
  exact Nat.le_antisymm (Nat.le_of_not_lt (key h.stamp)) (Nat.le_of_not_lt (key fun j => (h.stamp j).symm))

theorem idAgree (h : MetaEq a a') : IdAgree a a' := fun k _ => h.idAt k

theorem freeOk (h : MetaEq a a') {fl : List Nat} (f : FreeOk a fl) : FreeOk a' fl := by
  refine ⟨f.nodup, ?_, by rw [h.first]; exact f.head, by rw [h.last]; exact f.last, ?_⟩
  · intro i
    rw [f.mem i]
    constructor
    · rintro ⟨s, hs, hn⟩
      obtain ⟨s', hs', hst, _⟩ := h.slot_some hs
      exact ⟨s', hs', by omega⟩
    · rintro ⟨s', hs', hn⟩
      obtain ⟨s, hs, hst, _⟩ := h.slot_some' hs'
      exact ⟨s, hs, by omega⟩
  · intro k i hk
    obtain ⟨s, hs, hd⟩ := f.link k i hk
    obtain ⟨s', hs', _, hdd⟩ := h.slot_some hs
    exact ⟨s', hs', by rw [hdd, hd]⟩

theorem stampRange (h : MetaEq a a') (r : ∀ i s, a.slot i = some s → -32767 ≤ s.stamp ∧ s.stamp ≤ 32767) :
    ∀ i s, a'.slot i = some s → -32767 ≤ s.stamp ∧ s.stamp ≤ 32767 := by
  intro i s' hs'
  obtain ⟨s, hs, hst, _⟩ := h.slot_some' hs'
  have := r i s hs
  omega

theorem dataLive (h : MetaEq a a') (r : ∀ i s, a.slot i = some s → (0 ≤ s.stamp ↔ ∃ v, s.data = .data v)) :
    ∀ i s, a'.slot i = some s → (0 ≤ s.stamp ↔ ∃ v, s.data = .data v) := by
  intro i s' hs'
  obtain ⟨s, hs, hst, hd⟩ := h.slot_some' hs'
  rw [hst, hd]
  exact r i s hs

end MetaEq

/-! ### Splitting a list without repetition at an element -/

theorem split_unique {x : Nat} : ∀ {L R L' R' : List Nat}, (L ++ x :: R).Nodup → L ++ x :: R = L' ++ x :: R' →
    L = L' ∧ R = R'
  | [], R, [], R', _, h => by simp at h; exact ⟨rfl, h⟩
  | [], R, y :: L', R', hn, h => by
    simp only [List.nil_append, List.cons_append, List.cons.injEq] at h
    obtain ⟨hxy, hR⟩ := h
    simp only [List.nil_append, List.nodup_cons] at hn
    exact absurd (by rw [hR]; simp) hn.1
  | y :: L, R, [], R', hn, h => by
    simp only [List.nil_append, List.cons_append, List.cons.injEq] at h
    obtain ⟨hxy, hR⟩ := h
    subst hxy
    simp only [List.cons_append, List.nodup_cons] at hn
    exact absurd (by simp) hn.1
  | y :: L, R, z :: L', R', hn, h => by
    simp only [List.cons_append, List.cons.injEq] at h
    obtain ⟨hyz, hrest⟩ := h
    simp only [List.cons_append, List.nodup_cons] at hn
    obtain ⟨h1, h2⟩ := split_unique hn.2 hrest
    exact ⟨by rw [hyz, h1], h2⟩

theorem PtrOk.at {a : Arena} {g : Shape} {p k : Nat} {s : Slot} {pre suf : List Nat} (P : PtrOk a g k s)
    (hnd : (g.kids p).Nodup) (hp : g.par k = some p) (hk : g.kids p = pre ++ k :: suf) :
    s.prev = pre.getLast?.map a.idAt ∧ s.next = suf.head?.map a.idAt := by
  obtain ⟨L, R, e, e2, e3⟩ := P.sib p hp
  obtain ⟨hL, hR⟩ := split_unique (e ▸ hnd) (e.symm.trans hk)
  exact ⟨hL ▸ e2, hR ▸ e3⟩

theorem Rep.child_slot {a : Arena} {g : Shape} (r : Rep a g) {p k : Nat} {pre suf : List Nat}
    (hk : g.kids p = pre ++ k :: suf) :
    ∃ s, a.slot k = some s ∧ 0 ≤ s.stamp ∧ g.par k = some p ∧ s.parent = some (a.idAt p) ∧
      s.prev = pre.getLast?.map a.idAt ∧ s.next = suf.head?.map a.idAt := by
  have hm : k ∈ g.kids p := hk ▸ List.mem_append_right _ List.mem_cons_self
  obtain ⟨_, ⟨s, hs, h0⟩, hp⟩ := r.kidsLive p k hm
  have P := r.ptrs k s hs h0
  exact ⟨s, hs, h0, hp, by rw [P.parent, hp]; rfl, P.at (r.kidsNodup p) hp hk⟩

theorem erase_split {x : Nat} {L R : List Nat} (hn : (L ++ x :: R).Nodup) : (L ++ x :: R).erase x = L ++ R := by
  have hx : x ∉ L := by
    intro hm
    have := List.nodup_append.mp hn
    exact this.2.2 x hm x (by simp) rfl
  rw [List.erase_append_right _ hx]
  simp

theorem exists_split_of_mem {x : Nat} {l : List Nat} (h : x ∈ l) : ∃ L R, l = L ++ x :: R :=
  List.append_of_mem h

theorem getLast?_append_cons (A : List Nat) (c : Nat) (B : List Nat) :
    (A ++ c :: B).getLast? = (c :: B).getLast? := by
  rw [List.getLast?_append]
  cases h : (c :: B).getLast? with
  | none => simp at h
  | some l => rfl

/-- The child list `L ++ M ++ R` is rewritten to `L ++ M' ++ R`: an element `j` of `L` or `R` keeps its
    neighbours, except that the last of `L` and the first of `R` now border on `M'`. -/
theorem seam_split {j : Nat} {L M R L1 R1 : List Nat} (hnd : (L ++ M ++ R).Nodup)
    (e : L ++ M ++ R = L1 ++ j :: R1) (hj : j ∈ L ∨ j ∈ R) (M' : List Nat) :
    ∃ L1' R1', L ++ M' ++ R = L1' ++ j :: R1' ∧
      L1'.getLast? = (if R.head? = some j then (L ++ M').getLast? else L1.getLast?) ∧
      R1'.head? = (if L.getLast? = some j then (M' ++ R).head? else R1.head?) := by
  have hd := List.nodup_append.mp hnd
  have hdL := List.nodup_append.mp hd.1
  rcases hj with hj | hj
  · obtain ⟨A, B, rfl⟩ := List.append_of_mem hj
    have hR : R.head? ≠ some j := fun h =>
      hd.2.2 j (List.mem_append_left _ hj) j (List.mem_of_mem_head? h) rfl
    obtain ⟨h1, h2⟩ := split_unique (L' := A) (R' := B ++ M ++ R) (by rw [← e]; exact hnd)
      (e.symm.trans (by simp only [List.append_assoc, List.cons_append]))
    rw [h1, h2]
    refine ⟨A, B ++ M' ++ R, by simp only [List.append_assoc, List.cons_append], by rw [if_neg hR], ?_⟩
    cases B with
    | nil => simp
    | cons b B' =>
      have hjB : j ∉ b :: B' := (List.nodup_cons.mp (List.nodup_append.mp hdL.1).2.1).1
      have : (A ++ j :: b :: B').getLast? ≠ some j := by
        rw [getLast?_append_cons, List.getLast?_cons_cons]
        exact fun h => hjB (List.mem_of_getLast? h)
      rw [if_neg this]; rfl
  · obtain ⟨A, B, rfl⟩ := List.append_of_mem hj
    have hL : L.getLast? ≠ some j := fun h =>
      hd.2.2 j (List.mem_append_left _ (List.mem_of_getLast? h)) j hj rfl
    obtain ⟨h1, h2⟩ := split_unique (L' := L ++ M ++ A) (R' := B) (by rw [← e]; exact hnd)
      (e.symm.trans (by simp only [List.append_assoc]))
    rw [h1, h2]
    refine ⟨L ++ M' ++ A, B, by simp only [List.append_assoc], ?_, by rw [if_neg hL]⟩
    cases A with
    | nil => simp
    | cons c A' =>
      have hjA : j ∉ c :: A' := fun hm =>
        (List.nodup_append.mp hd.2.1).2.2 j hm j (List.mem_cons_self) rfl
      have : (c :: A' ++ j :: B).head? ≠ some j := by
        intro h; simp only [List.cons_append, List.head?_cons, Option.some.injEq] at h
        exact hjA (h ▸ List.mem_cons_self)
      rw [if_neg this, getLast?_append_cons, getLast?_append_cons]

/-- The list `K` is placed between `L` and `R`: an element of `K` keeps its neighbours inside `K`;
    the first borders on `L`, the last on `R`. -/
theorem embed_split {j : Nat} {K K1 K2 : List Nat} (hnd : K.Nodup) (e : K = K1 ++ j :: K2) (L R : List Nat) :
    (L ++ K1).getLast? = (if K.head? = some j then L.getLast? else K1.getLast?) ∧
    (K2 ++ R).head? = (if K.getLast? = some j then R.head? else K2.head?) := by
  subst e
  have hd := List.nodup_append.mp hnd
  constructor
  · cases K1 with
    | nil => simp
    | cons c K1' =>
      have : c ≠ j := fun h => hd.2.2 c List.mem_cons_self j List.mem_cons_self h
      rw [getLast?_append_cons]
      simp [this]
  · cases K2 with
    | nil => simp
    | cons c K2' =>
      have hj : j ∉ c :: K2' := (List.nodup_cons.mp hd.2.1).1
      have : (K1 ++ j :: c :: K2').getLast? ≠ some j := by
        rw [getLast?_append_cons, List.getLast?_cons_cons]
        exact fun h => hj (List.mem_of_getLast? h)
      rw [if_neg this]; rfl

/-- A child `j` of `p` outside the rewritten part `M` of `p`'s child list keeps its pointers, except at
    the seams with the new part `M'`. -/
theorem PtrOk.seam {a D : Arena} {g g' : Shape} {j p : Nat} {sj s' : Slot} {L M M' R : List Nat}
    (h : PtrOk a g j sj) (hid : D.idAt = a.idAt) (hp : g.par j = some p)
    (hk : g.kids p = L ++ M ++ R) (hnd : (g.kids p).Nodup) (hj : j ∈ L ∨ j ∈ R)
    (hp' : g'.par j = some p) (hk' : g'.kids p = L ++ M' ++ R) (hkj : g'.kids j = g.kids j)
    (hparent : s'.parent = sj.parent) (hfirst : s'.first = sj.first) (hlast : s'.last = sj.last)
    (hprev : s'.prev = if R.head? = some j then (L ++ M').getLast?.map a.idAt else sj.prev)
    (hnext : s'.next = if L.getLast? = some j then (M' ++ R).head?.map a.idAt else sj.next) :
    PtrOk D g' j s' := by
  obtain ⟨L1, R1, e, e2, e3⟩ := h.sib p hp
  obtain ⟨L1', R1', e', e2', e3'⟩ := seam_split (by rw [← hk]; exact hnd) (hk.symm.trans e) hj M'
  refine ⟨by rw [hparent, h.parent, hp', hp, hid], by rw [hfirst, h.first, hkj, hid],
    by rw [hlast, h.last, hkj, hid], fun hn => (by rw [hp'] at hn; cases hn), fun q hq => ?_⟩
  rw [hp'] at hq
  cases hq
  refine ⟨L1', R1', hk'.trans e', ?_, ?_⟩
  · rw [hid, hprev, e2', e2, apply_ite (Option.map a.idAt)]
  · rw [hid, hnext, e3', e3, apply_ite (Option.map a.idAt)]

/-- A node `j` of the sibling chain `K` (first `c1`, last `ck`) that is placed under `p` between `L` and
    `R` keeps its neighbours inside `K`. -/
theorem PtrOk.embed {a D : Arena} {g g' : Shape} {j p c1 ck : Nat} {sj s' : Slot} {L K K1 K2 R : List Nat}
    (h : PtrOk a g j sj) (hid : D.idAt = a.idAt) (hK : K = K1 ++ j :: K2) (hnd : K.Nodup)
    (hc1 : K.head? = some c1) (hck : K.getLast? = some ck)
    (hsv : sj.prev = K1.getLast?.map a.idAt) (hsn : sj.next = K2.head?.map a.idAt)
    (hp' : g'.par j = some p) (hk' : g'.kids p = L ++ K ++ R) (hkj : g'.kids j = g.kids j)
    (hparent : s'.parent = some (a.idAt p)) (hfirst : s'.first = sj.first) (hlast : s'.last = sj.last)
    (hprev : s'.prev = if c1 = j then L.getLast?.map a.idAt else sj.prev)
    (hnext : s'.next = if ck = j then R.head?.map a.idAt else sj.next) :
    PtrOk D g' j s' := by
  obtain ⟨e1, e2⟩ := embed_split hnd hK L R
  refine ⟨by rw [hparent, hp', hid]; rfl, by rw [hfirst, h.first, hkj, hid],
    by rw [hlast, h.last, hkj, hid], fun hn => (by rw [hp'] at hn; cases hn), fun q hq => ?_⟩
  rw [hp'] at hq
  cases hq
  refine ⟨L ++ K1, K2 ++ R, by rw [hk', hK]; simp only [List.append_assoc, List.cons_append], ?_, ?_⟩
  · rw [hid, hprev, e1, hc1, hsv, apply_ite (Option.map a.idAt)]
    simp only [Option.some.injEq]
  · rw [hid, hnext, e2, hck, hsn, apply_ite (Option.map a.idAt)]
    simp only [Option.some.injEq]

end Arena
end XotModel
