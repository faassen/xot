/-
  No accessor and no iterator hands out a removed id.

  In a well-formed arena every pointer stored in a LIVE slot (`parent`, `previous_sibling`,
  `next_sibling`, `first_child`, `last_child`) is the current id of a live slot
  (`Rep.ptr_liveId`).  Every iterator of `traverse.rs` pulls its next item from a pointer of the slot
  of the item before; so, started at a live id, everything it yields is live — for EVERY limit (also
  one that cuts the walk short), by induction on the limit, without knowing what the result is
  (`Props/C07` says what it is when the limit suffices).
-/
import XotModel.Lemmas.ArenaStale

namespace XotModel
namespace Arena

theorem liveId_of_map {a : Arena} (o : Option Nat) (ho : ∀ j, o = some j → Live a j) (y : NodeId)
    (h : o.map a.idAt = some y) : LiveId a y := by
  cases o with
  | none => simp at h
  | some j =>
    simp only [Option.map_some, Option.some.injEq] at h
    subst h
    exact LiveId.idAt (ho j rfl)

theorem Rep.ptr_liveId {a : Arena} {g : Shape} (r : Rep a g) {i : Nat} {s : Slot} (hs : a.slot i = some s)
    (h0 : 0 ≤ s.stamp) :
    (∀ y, s.parent = some y → LiveId a y) ∧ (∀ y, s.prev = some y → LiveId a y) ∧
    (∀ y, s.next = some y → LiveId a y) ∧ (∀ y, s.first = some y → LiveId a y) ∧
    (∀ y, s.last = some y → LiveId a y) := by
  have P := r.ptrs i s hs h0
  have kl : ∀ p c, c ∈ g.kids p → Live a c := fun p c hc => (r.kidsLive p c hc).2.1
  refine ⟨fun y h => ?_, fun y h => ?_, fun y h => ?_, fun y h => ?_, fun y h => ?_⟩
  · rw [P.parent] at h
    exact liveId_of_map _ (fun j hj => (r.live_of_par hj).2) y h
  · cases hp : g.par i with
    | none => rw [(P.root hp).1] at h; cases h
    | some p =>
      obtain ⟨L, R, e, hv, _⟩ := P.sib p hp
      rw [hv] at h
      exact liveId_of_map _ (fun j hj => kl p j (by rw [e]; exact List.mem_append_left _ (List.mem_of_getLast? hj))) y h
  · cases hp : g.par i with
    | none => rw [(P.root hp).2] at h; cases h
    | some p =>
      obtain ⟨L, R, e, _, hn⟩ := P.sib p hp
      rw [hn] at h
      exact liveId_of_map _ (fun j hj => kl p j (by
        rw [e]; exact List.mem_append_right _ (List.mem_cons_of_mem _ (List.mem_of_mem_head? hj)))) y h
  · rw [P.first] at h
    exact liveId_of_map _ (fun j hj => kl i j (List.mem_of_mem_head? hj)) y h
  · rw [P.last] at h
    exact liveId_of_map _ (fun j hj => kl i j (List.mem_of_getLast? hj)) y h

theorem Rep.liveId_ptrs {a : Arena} {g : Shape} (r : Rep a g) {x : NodeId} (hx : LiveId a x) :
    ∃ s, a.slot x.index0 = some s ∧ 0 ≤ s.stamp ∧
      (∀ y, s.parent = some y → LiveId a y) ∧ (∀ y, s.prev = some y → LiveId a y) ∧
      (∀ y, s.next = some y → LiveId a y) ∧ (∀ y, s.first = some y → LiveId a y) ∧
      (∀ y, s.last = some y → LiveId a y) := by
  obtain ⟨s, hs, h0⟩ := hx.2.1
  exact ⟨s, hs, h0, r.ptr_liveId hs h0⟩

/-- `next` picks one of the five pointers. -/
def PicksPtr (next : Slot → Option NodeId) : Prop :=
  ∀ s y, next s = some y → s.parent = some y ∨ s.prev = some y ∨ s.next = some y ∨ s.first = some y ∨ s.last = some y

theorem PicksPtr.live {a : Arena} {g : Shape} (r : Rep a g) {next : Slot → Option NodeId} (hp : PicksPtr next)
    {x : NodeId} (hx : LiveId a x) {s : Slot} (hs : a.slot x.index0 = some s) (y : NodeId) (h : next s = some y) :
    LiveId a y := by
  obtain ⟨s', hs', _, h1, h2, h3, h4, h5⟩ := r.liveId_ptrs hx
  rw [hs] at hs'; cases hs'
  rcases hp s y h with e | e | e | e | e
  · exact h1 y e
  · exact h2 y e
  · exact h3 y e
  · exact h4 y e
  · exact h5 y e

theorem picks_parent : PicksPtr (·.parent) := fun _ _ h => Or.inl h
theorem picks_prev : PicksPtr (·.prev) := fun _ _ h => Or.inr (Or.inl h)
theorem picks_next : PicksPtr (·.next) := fun _ _ h => Or.inr (Or.inr (Or.inl h))
theorem picks_prev_or_parent : PicksPtr (fun s => s.prev.or s.parent) := fun s y h => by
  have h' : s.prev.or s.parent = some y := h
  cases hp : s.prev with
  | none => rw [hp] at h'; exact Or.inl (by simpa using h')
  | some p => rw [hp] at h'; simp at h'; exact Or.inr (Or.inl (by rw [← h']))

/-- The yield step shared by all iterators: `x` is emitted, the rest comes from the walk `w`. -/
theorem cons_all {β : Type} {P : β → Prop} {a a' : Arena} {x : β} {w : Step (List β)} {l : List β}
    (h : (w.bind fun _ rest => Step.done a (x :: rest)) = .done a' l) (hx : P x)
    (hw : ∀ b rest, w = .done b rest → ∀ y ∈ rest, P y) : ∀ y ∈ l, P y := by
  obtain ⟨b, rest, e, h⟩ := Step.bind_eq_done h
  cases h
  intro y hy
  rcases List.mem_cons.mp hy with q | q
  · exact q ▸ hx
  · exact hw b rest e y q

/-- `Iter` walks (`ancestors`, `predecessors`, `reverse_children`) from a live id or `None`. -/
theorem Rep.walk_live {a : Arena} {g : Shape} (r : Rep a g) {next : Slot → Option NodeId} (hp : PicksPtr next) :
    ∀ (limit : Nat) (cur : Option NodeId) (a' : Arena) (l : List NodeId), (∀ y, cur = some y → LiveId a y) →
      walk a next limit cur = .done a' l → ∀ y ∈ l, LiveId a y
  | 0, _, _, l, _, h => by unfold walk at h; cases h; simp
  | limit + 1, cur, a', l, hc, h => by
    unfold walk at h
    cases cur with
    | none => cases h; simp
    | some node =>
      simp only [] at h
      have hn := hc node rfl
      obtain ⟨s, hs, _⟩ := hn.2.1
      rw [rd_some _ _ _ _ hs] at h
      exact cons_all h hn fun b rest hw => r.walk_live hp limit (next s) b rest (fun y h => hp.live r hn hs y h) hw

/-- `DoubleEndedIter` forward walks (`children`, `following_siblings`, `preceding_siblings`). -/
theorem Rep.walkTo_live {a : Arena} {g : Shape} (r : Rep a g) {next : Slot → Option NodeId} (hp : PicksPtr next) :
    ∀ (limit : Nat) (head tail : Option NodeId) (a' : Arena) (l : List NodeId), (∀ y, head = some y → LiveId a y) →
      walkTo a next limit head tail = .done a' l → ∀ y ∈ l, LiveId a y
  | 0, _, _, _, l, _, h => by unfold walkTo at h; cases h; simp
  | limit + 1, head, tail, a', l, hc, h => by
    unfold walkTo at h
    cases head with
    | none => cases h; simp
    | some hd =>
      have hn := hc hd rfl
      obtain ⟨s, hs, _⟩ := hn.2.1
      have step : ∀ t, (rd a hd fun s => (walkTo a next limit (next s) t).bind fun _ rest => Step.done a (hd :: rest))
          = .done a' l → ∀ y ∈ l, LiveId a y := by
        intro t h
        rw [rd_some _ _ _ _ hs] at h
        exact cons_all h hn fun b rest hw =>
          r.walkTo_live hp limit (next s) t b rest (fun y h => hp.live r hn hs y h) hw
      cases tail with
      | none => exact step none h
      | some t =>
        simp only [] at h
        split at h
        · cases h
          intro y hy
          simp at hy; rw [hy]; exact hn
        · exact step (some t) h

/-- `next_back` walks (`children().rev()`, defective in 4.7.2 and not used by xot): only the tail is
    ever yielded. -/
theorem Rep.walkBack_live {a : Arena} {g : Shape} (r : Rep a g) (nb : Slot → Option NodeId) :
    ∀ (limit : Nat) (head tail : Option NodeId) (a' : Arena) (l : List NodeId), (∀ y, tail = some y → LiveId a y) →
      walkBack a nb limit head tail = .done a' l → ∀ y ∈ l, LiveId a y
  | 0, _, _, _, l, _, h => by unfold walkBack at h; cases h; simp
  | limit + 1, head, tail, a', l, hc, h => by
    unfold walkBack at h
    cases tail with
    | none => cases head <;> (cases h; simp)
    | some t =>
      have hn := hc t rfl
      obtain ⟨s, hs, _⟩ := hn.2.1
      have step : (rd a t fun s => (walkBack a nb limit (nb s) (some t)).bind fun _ rest => Step.done a (t :: rest))
          = .done a' l → ∀ y ∈ l, LiveId a y := by
        intro h
        rw [rd_some _ _ _ _ hs] at h
        exact cons_all h hn fun b rest hw => r.walkBack_live nb limit (nb s) (some t) b rest hc hw
      cases head with
      | none => exact step h
      | some hd =>
        simp only [] at h
        split at h
        · rename_i heq
          cases h
          intro y hy
          simp at hy; rw [hy, heq]; exact hn
        · exact step h

/-- The node of an edge. -/
def NodeEdge.node : NodeEdge → NodeId
  | .start n => n
  | .end n => n

/-- `NodeEdge::next_traverse` from an edge of a live node continues with an edge of a live node. -/
theorem Rep.nextTraverse_live {a : Arena} {g : Shape} (r : Rep a g) {α : Type} (e : NodeEdge) (he : LiveId a e.node)
    (k : Option NodeEdge → Step α) :
    ∃ o, nextTraverse a e k = k o ∧ ∀ e', o = some e' → LiveId a e'.node := by
  obtain ⟨s, hs, _, h1, _, h3, h4, _⟩ := r.liveId_ptrs he
  unfold nextTraverse
  cases e with
  | start n =>
    simp only [NodeEdge.node] at hs he
    simp only []
    rw [rd_some _ _ _ _ hs]
    cases hf : s.first with
    | none => exact ⟨_, rfl, fun e' h => by cases h; exact he⟩
    | some fc => exact ⟨_, rfl, fun e' h => by cases h; exact h4 fc hf⟩
  | «end» n =>
    simp only [NodeEdge.node] at hs he
    simp only []
    rw [rd_some _ _ _ _ hs]
    cases hn : s.next with
    | some ns => exact ⟨_, rfl, fun e' h => by cases h; exact h3 ns hn⟩
    | none =>
      refine ⟨_, rfl, fun e' h => ?_⟩
      cases hp : s.parent with
      | none => rw [hp] at h; cases h
      | some p => rw [hp] at h; cases h; exact h1 p hp

/-- `NodeEdge::prev_traverse` likewise. -/
theorem Rep.prevTraverse_live {a : Arena} {g : Shape} (r : Rep a g) {α : Type} (e : NodeEdge) (he : LiveId a e.node)
    (k : Option NodeEdge → Step α) :
    ∃ o, prevTraverse a e k = k o ∧ ∀ e', o = some e' → LiveId a e'.node := by
  obtain ⟨s, hs, _, h1, h2, _, _, h5⟩ := r.liveId_ptrs he
  unfold prevTraverse
  cases e with
  | «end» n =>
    simp only [NodeEdge.node] at hs he
    simp only []
    rw [rd_some _ _ _ _ hs]
    cases hl : s.last with
    | none => exact ⟨_, rfl, fun e' h => by cases h; exact he⟩
    | some lc => exact ⟨_, rfl, fun e' h => by cases h; exact h5 lc hl⟩
  | start n =>
    simp only [NodeEdge.node] at hs he
    simp only []
    rw [rd_some _ _ _ _ hs]
    cases hv : s.prev with
    | some ps => exact ⟨_, rfl, fun e' h => by cases h; exact h2 ps hv⟩
    | none =>
      refine ⟨_, rfl, fun e' h => ?_⟩
      cases hp : s.parent with
      | none => rw [hp] at h; cases h
      | some p => rw [hp] at h; cases h; exact h1 p hp

/-- `Traverse` from an edge of a live node: every edge yielded is an edge of a live node. -/
theorem Rep.traverseGo_live {a : Arena} {g : Shape} (r : Rep a g) (root : NodeId) :
    ∀ (limit : Nat) (cur : Option NodeEdge) (a' : Arena) (l : List NodeEdge), (∀ e, cur = some e → LiveId a e.node) →
      traverseGo a root limit cur = .done a' l → ∀ e ∈ l, LiveId a e.node
  | 0, _, _, l, _, h => by unfold traverseGo at h; cases h; simp
  | limit + 1, cur, a', l, hc, h => by
    unfold traverseGo at h
    cases cur with
    | none => cases h; simp
    | some e =>
      have he := hc e rfl
      simp only [] at h
      have fin : ∀ o, (∀ e', o = some e' → LiveId a e'.node) →
          ((traverseGo a root limit o).bind fun _ rest => Step.done a (e :: rest)) = .done a' l →
          ∀ e' ∈ l, LiveId a e'.node := by
        intro o ho h
        exact cons_all h he fun b rest hw => r.traverseGo_live root limit o b rest ho hw
      split at h
      · exact fin none (fun e' h => by cases h) h
      · obtain ⟨o, ho, hl⟩ := r.nextTraverse_live e he
          (fun nx => (traverseGo a root limit nx).bind fun _ rest => Step.done a (e :: rest))
        rw [ho] at h
        exact fin o hl h

/-- `ReverseTraverse` likewise. -/
theorem Rep.reverseTraverseGo_live {a : Arena} {g : Shape} (r : Rep a g) (root : NodeId) :
    ∀ (limit : Nat) (cur : Option NodeEdge) (a' : Arena) (l : List NodeEdge), (∀ e, cur = some e → LiveId a e.node) →
      reverseTraverseGo a root limit cur = .done a' l → ∀ e ∈ l, LiveId a e.node
  | 0, _, _, l, _, h => by unfold reverseTraverseGo at h; cases h; simp
  | limit + 1, cur, a', l, hc, h => by
    unfold reverseTraverseGo at h
    cases cur with
    | none => cases h; simp
    | some e =>
      have he := hc e rfl
      simp only [] at h
      have fin : ∀ o, (∀ e', o = some e' → LiveId a e'.node) →
          ((reverseTraverseGo a root limit o).bind fun _ rest => Step.done a (e :: rest)) = .done a' l →
          ∀ e' ∈ l, LiveId a e'.node := by
        intro o ho h
        exact cons_all h he fun b rest hw => r.reverseTraverseGo_live root limit o b rest ho hw
      split at h
      · exact fin none (fun e' h => by cases h) h
      · obtain ⟨o, ho, hl⟩ := r.prevTraverse_live e he
          (fun nx => (reverseTraverseGo a root limit nx).bind fun _ rest => Step.done a (e :: rest))
        rw [ho] at h
        exact fin o hl h

/-- All the iterators, started at a live id, for every limit: every id yielded is live. -/
theorem Rep.iterators_live {a : Arena} {g : Shape} (r : Rep a g) {x : NodeId} (hx : LiveId a x) (limit : Nat) :
    (∀ a' l, ancestors a x limit = .done a' l → ∀ y ∈ l, LiveId a y) ∧
    (∀ a' l, predecessors a x limit = .done a' l → ∀ y ∈ l, LiveId a y) ∧
    (∀ a' l, children a x limit = .done a' l → ∀ y ∈ l, LiveId a y) ∧
    (∀ a' l, childrenRev a x limit = .done a' l → ∀ y ∈ l, LiveId a y) ∧
    (∀ a' l, reverseChildren a x limit = .done a' l → ∀ y ∈ l, LiveId a y) ∧
    (∀ a' l, followingSiblings a x limit = .done a' l → ∀ y ∈ l, LiveId a y) ∧
    (∀ a' l, precedingSiblings a x limit = .done a' l → ∀ y ∈ l, LiveId a y) ∧
    (∀ a' l, traverse a x limit = .done a' l → ∀ e ∈ l, LiveId a e.node) ∧
    (∀ a' l, reverseTraverse a x limit = .done a' l → ∀ e ∈ l, LiveId a e.node) ∧
    (∀ a' l, descendants a x limit = .done a' l → ∀ y ∈ l, LiveId a y) := by
  obtain ⟨s, hs, _, _, _, _, h4, h5⟩ := r.liveId_ptrs hx
  have hsome : ∀ y, some x = some y → LiveId a y := fun y h => by cases h; exact hx
  refine ⟨fun a' l h => r.walk_live picks_parent limit _ a' l hsome h,
    fun a' l h => r.walk_live picks_prev_or_parent limit _ a' l hsome h, fun a' l h => ?_, fun a' l h => ?_,
    fun a' l h => ?_, fun a' l h => ?_, fun a' l h => ?_,
    fun a' l h => r.traverseGo_live x limit _ a' l (fun e h => by cases h; exact hx) h,
    fun a' l h => r.reverseTraverseGo_live x limit _ a' l (fun e h => by cases h; exact hx) h, fun a' l h => ?_⟩
  · unfold children at h
    rw [rd_some _ _ _ _ hs] at h
    exact r.walkTo_live picks_next limit _ _ a' l h4 h
  · unfold childrenRev at h
    rw [rd_some _ _ _ _ hs] at h
    exact r.walkBack_live _ limit _ _ a' l h5 h
  · unfold reverseChildren at h
    rw [rd_some _ _ _ _ hs] at h
    exact r.walk_live picks_prev limit _ a' l h5 h
  · unfold followingSiblings parentField at h
    split at h
    · cases h
    · split at h
      · exact r.walkTo_live picks_next limit _ _ a' l hsome h
      · split at h <;> exact r.walkTo_live picks_next limit _ _ a' l hsome h
  · unfold precedingSiblings parentField at h
    split at h
    · cases h
    · split at h
      · exact r.walkTo_live picks_prev limit _ _ a' l hsome h
      · split at h <;> exact r.walkTo_live picks_prev limit _ _ a' l hsome h
  · unfold descendants at h
    obtain ⟨b, es, ht, h⟩ := Step.bind_eq_done h
    cases h
    intro y hy
    obtain ⟨e, he, hey⟩ := List.mem_filterMap.mp hy
    have hl := r.traverseGo_live x limit _ b es (fun e h => by cases h; exact hx) ht e he
    cases e with
    | start n => cases hey; exact hl
    | «end» n => cases hey

end Arena
end XotModel
