/-
  The clone of `clone_with_prefixes`, serialised on its own and parsed back, is the document
  holding the clone and `deep_equal` to the copy of the source; and it lies in the round-trip
  domain of C01 whenever the tree holding the source does.
-/
import XotModel.Lemmas.FclonePrefixMain
import XotModel.Lemmas.FcloneSerialises

/-! ## The clone, serialised on its own and parsed back

The reparsed document is `deep_equal` to the document holding `clone_node`'s copy of the source because namespace
nodes are invisible to `deep_equal`. -/

namespace XotModel
open HTree

/-! ### Namespace leaves are invisible to `canon` and harmless for `valid` -/

theorem fcr_not_normal {x : Tree} (h : (x.value.category == Category.namespace) = true) :
    x.value.isNormal = false := by
  cases hv : x.value <;> simp [hv, Value.category, Value.isNormal] at h ⊢

theorem fcr_not_attr {x : Tree} (h : (x.value.category == Category.namespace) = true) :
    x.value.category ≠ .attribute := by
  cases hv : x.value <;> simp [hv, Value.category] at h ⊢

theorem fcr_canonList_ns (n : List Tree) (h : ∀ x ∈ n, (x.value.category == Category.namespace) = true) :
    canon.canonList n = [] :=
  canonList_eq_nil (fun x hx => by rw [fcr_not_normal (h x hx)]; exact Bool.false_ne_true)

theorem fcr_attrPairs_insert (a n b : List Tree)
    (hn : ∀ x ∈ n, (x.value.category == Category.namespace) = true) :
    attrPairs (a ++ n ++ b) = attrPairs (a ++ b) := by
  rw [attrPairs_append, attrPairs_append, attrPairs_append, attrPairs_eq_nil (fun k hk => fcr_not_attr (hn k hk)),
    List.append_nil]

theorem fcr_canon_insert (v : Value) (a n b : List Tree)
    (hn : ∀ x ∈ n, (x.value.category == Category.namespace) = true) :
    canon (.node v (a ++ n ++ b)) = canon (.node v (a ++ b)) := by
  have h1 : cvalue v (a ++ n ++ b) = cvalue v (a ++ b) := by
    cases v <;> simp only [cvalue, fcr_attrPairs_insert a n b hn]
  simp only [canon, h1, canonList_append, fcr_canonList_ns n hn, List.append_nil]

theorem fcr_dropWhile_ns (a b : List Tree) (ha : ∀ x ∈ a, (x.value.category == Category.namespace) = true) :
    (a ++ b).dropWhile (fun k => k.value.category == .namespace) =
      b.dropWhile (fun k => k.value.category == .namespace) := by
  rw [List.dropWhile_append_of_pos ha]

theorem fcr_valid_remove (v : Value) (a n b : List Tree)
    (ha : ∀ x ∈ a, (x.value.category == Category.namespace) = true)
    (hn : ∀ x ∈ n, (x.value.category == Category.namespace) = true)
    (h : (Tree.node v (a ++ n ++ b)).valid = true) : (Tree.node v (a ++ b)).valid = true := by
  obtain ⟨h1, h2, h3, h4⟩ := valid_node h
  have han : ∀ x ∈ a ++ n, (x.value.category == Category.namespace) = true := by
    intro x hx
    rcases List.mem_append.mp hx with hx | hx
    · exact ha x hx
    · exact hn x hx
  simp only [Tree.valid, Bool.and_eq_true, Bool.or_eq_true, List.isEmpty_iff, validList_iff]
  refine ⟨⟨⟨?_, ?_⟩, ?_⟩, ?_⟩
  · unfold orderedKids at h1 ⊢
    rw [fcr_dropWhile_ns (a ++ n) b han] at h1
    rw [fcr_dropWhile_ns a b ha]
    exact h1
  · unfold attrNamesNodup at h2 ⊢
    rw [fcr_attrPairs_insert a n b hn] at h2
    exact h2
  · rcases h3 with h3 | h3
    · exact Or.inl h3
    · right
      simp only [List.append_eq_nil_iff] at h3 ⊢
      exact ⟨h3.1.1, h3.2⟩
  · intro k hk
    apply h4 k
    rcases List.mem_append.mp hk with hk | hk
    · simp [hk]
    · simp [hk]

theorem fcr_canon_doc_single (t t' : Tree) (hn : t.value.isNormal = true) (hn' : t'.value.isNormal = true)
    (h : canon t = canon t') : canon (.node .document [t]) = canon (.node .document [t']) := by
  simp [canon, canon.canonList, cvalue, hn, hn', h]

theorem fcr_valid_doc_single (t : Tree) (hn : t.value.isNormal = true) (hv : t.valid = true) :
    (Tree.node .document [t]).valid = true := by
  simp only [Tree.valid, Bool.and_eq_true, Bool.or_eq_true, List.isEmpty_iff, validList_iff]
  refine ⟨⟨⟨?_, ?_⟩, Or.inl rfl⟩, ?_⟩
  · have hc : t.value.category = .normal := beq_iff_eq.mp hn
    simp [orderedKids, hc, hn]
  · have hna : attrPairs [t] = [] := by
      unfold attrPairs
      split
      · next ha => rw [ha] at hn; cases hn
      · rfl
    simp [attrNamesNodup, hna]
  · intro k hk
    simp only [List.mem_singleton] at hk
    subst hk
    exact hv

theorem fcr_erase_cat (L : List HTree) (h : ∀ x ∈ L, (x.value.category == Category.namespace) = true) :
    ∀ y ∈ eraseList L, (y.value.category == Category.namespace) = true := by
  intro y hy
  rw [eraseList_map] at hy
  obtain ⟨x, hx, rfl⟩ := List.mem_map.mp hy
  rw [Reach.erase_value]
  exact h x hx

/-! ### The round trip of the clone -/

/-- `clone_with_prefixes`, serialised on its own and parsed back.  `hrep`: the clone is in the
    round-trip domain (`Representable` of the document holding just it). -/
theorem cloneWithPrefixes_roundtrip (env : Env) (f : Forest) (inv : f.Inv)
    (node : Nat) (hs : Nat) (name : Nat) (Ks : List HTree) (rest : List HTree)
    (hpath : f.pathTo node = .node hs (.element name) Ks :: rest)
    (hser : ∀ r ∈ f.roots, HTree.pathTo node r = some (.node hs (.element name) Ks :: rest) →
      writableTree env (FStack.new (namespacesInScopeChain [r.erase])) r.erase = true)
    (order : List (Nat × Nat))
    (hord : ∀ b, b ∈ order ↔ b ∈ f.inheritedPrefixes env node)
    (hfun : ∀ a ∈ order, ∀ b ∈ order, a.1 = b.1 → a = b)
    (hrep : ∀ c C, (f.cloneWithPrefixes node order).2 = some c →
      (f.cloneWithPrefixes node order).1.get? c = some C →
      Representable env (.node .document [C.erase]) = true) :
    ∃ c C s p, (f.cloneWithPrefixes node order).2 = some c ∧
      (f.cloneWithPrefixes node order).1.get? c = some C ∧
      (f.cloneWithPrefixes node order).1.isRoot c = true ∧ C.value = .element name ∧
      serializeString env {} C.erase [] = .ok s ∧ parseString .document env s = .ok p ∧
      p.tree = .node .document [C.erase] ∧ p.env = env ∧
      deepEqual p.tree (.node .document [expectedClone f.consolidation
        (erase (.node hs (.element name) Ks))]) = true := by
  obtain ⟨f2, c, A, New, B, hres, hR, hg2, hp2, hA, hB, hNew, h6, -, -⟩ :=
    cloneWithPrefixes_shape f inv node hs name Ks rest hpath order
  obtain ⟨c', hc', hser'⟩ := cloneWithPrefixes_serialises env f inv node hs name Ks rest hpath hser order hord hfun
  have hr := hrep c (.node c (.element name) (A ++ New ++ B)) (by rw [hres]) (by rw [hres]; exact hg2)
  rw [hres] at hc' hser' ⊢
  cases hc'
  -- `serialises` is `to_string(clone)` succeeding
  unfold Forest.serialises at hser'
  simp only [hg2] at hser'
  unfold Forest.prefixesInScope Forest.chain at hser'
  rw [hp2] at hser'
  simp only [List.map_cons, List.map_nil] at hser'
  have hfrag := ((representable_iff env _).mp hr).1
  obtain ⟨henv, -, hn, -⟩ := (representableFragment_iff env _).mp hfrag
  have hx : env.prefixStr Env.xmlPrefix ≠ [] := by rw [envOK_xmlPrefix env henv]; simp
  have hnt : (erase (.node c (.element name) (A ++ New ++ B))).allNodes (nodeOK env) = true :=
    allNodes_kid hn List.mem_cons_self
  obtain ⟨s, hs'⟩ := (serializeString_root_ok_iff (env := env) {} rfl _ hx (nodeOK_declsNamed env _ hnt)).mpr hser'
  obtain ⟨p, hp, hpt, hpe, -⟩ := roundtrip_element env _ hr rfl s hs'
  refine ⟨c, _, s, p, rfl, hg2, ?_, rfl, hs', hp, hpt, hpe, ?_⟩
  · unfold Forest.isRoot
    rw [hR]
    simp [HTree.handle]
  · -- deep_equal ignores the added declaration leaves
    have hNc : ∀ y ∈ eraseList New, (y.value.category == Category.namespace) = true :=
      fcr_erase_cat New (fun x hx => (hNew x hx).cat)
    have hAc := fcr_erase_cat A hA
    have hT : erase (.node c (.element name) (A ++ New ++ B)) =
        .node (.element name) (eraseList A ++ eraseList New ++ eraseList B) := by
      simp only [erase, eraseList_append]
    have hT' : expectedClone f.consolidation (erase (.node hs (.element name) Ks)) =
        .node (.element name) (eraseList A ++ eraseList B) := by
      rw [← h6]; simp only [erase, eraseList_append]
    rw [hpt, hT, hT']
    have hvdoc := valid_of_nodeOK _ hn
    rw [hT] at hvdoc
    have hvT : (Tree.node (.element name) (eraseList A ++ eraseList New ++ eraseList B)).valid = true :=
      (valid_node hvdoc).2.2.2 _ List.mem_cons_self
    have hvT' := fcr_valid_remove _ _ _ _ hAc hNc hvT
    rw [deepEqual_iff_canon _ _ hvdoc (fcr_valid_doc_single _ rfl hvT')]
    exact fcr_canon_doc_single _ _ rfl rfl (fcr_canon_insert _ _ _ _ hNc)

end XotModel

/-! ## Tree-level lemmas for the round-trip domain

A tree without adjacent text nodes is a fixed point of `mergeAdjacentText`; inserting `valueOK` declaration leaves
with new prefixes after the namespace nodes of a `nodeOK` element keeps it `nodeOK` and keeps its `xml:id` values;
the subtrees on `HTree.pathTo` inherit every per-node condition. -/

namespace XotModel
open HTree

variable {env : Env}

/-! ### `mergeAdjacentText` on a tree without adjacent text nodes -/

def noAdjNode (_ : Value) (ks : List Tree) : Bool := noAdjText ks

mutual
  theorem mergeAdjacentText_fix : ∀ t : Tree, t.allNodes noAdjNode = true → mergeAdjacentText t = t
    | .node v ks => by
      intro hv
      rw [allNodes_node, Bool.and_eq_true, List.all_eq_true] at hv
      simp only [mergeAdjacentText]
      rw [mergeInto_fix ks [] hv.2 hv.1 (by intro A' x k ks' h; simp at h)]
      rfl
  theorem mergeInto_fix : ∀ (ks : List Tree) (A : List Tree), (∀ k ∈ ks, k.allNodes noAdjNode = true) →
      noAdjText ks = true →
      (∀ A' x k ks', A = A' ++ [x] → ks = k :: ks' → (x.value.isText && k.value.isText) = false) →
      mergeInto A ks = A ++ ks
    | [], A, _, _, _ => by simp [mergeInto]
    | k :: ks, A, hv, hna, hj => by
      simp only [mergeInto]
      rw [mergeAdjacentText_fix k (hv k List.mem_cons_self)]
      rw [snocMerge_plain A k (by
        intro A' x hA
        exact hj A' x k ks hA rfl)]
      have hna' : noAdjText ks = true := by
        cases ks with
        | nil => rfl
        | cons b rest =>
          simp only [noAdjText, Bool.and_eq_true] at hna
          exact hna.2
      rw [mergeInto_fix ks (A ++ [k]) (fun k' hk' => hv k' (List.mem_cons_of_mem _ hk')) hna' (by
        intro A' x k' ks' hA hks
        have hx : x = k := by
          have := List.append_inj_right' hA rfl
          simpa using this.symm
        subst hx
        subst hks
        simp only [noAdjText, Bool.and_eq_true, Bool.not_eq_true'] at hna
        exact hna.1)]
      simp
end

theorem nodeOK_noAdjNode (t : Tree) (h : t.allNodes (nodeOK env) = true) : t.allNodes noAdjNode = true := by
  refine allNodes_mono ?_ t h
  intro v ks hv
  exact ((nodeOK_iff env v ks).mp hv).2.2.2.1

theorem expectedClone_of_nodeOK (cons : Bool) (t : Tree) (h : t.allNodes (nodeOK env) = true) :
    expectedClone cons t = t := by
  unfold expectedClone
  cases cons
  · rfl
  · simp [mergeAdjacentText_fix t (nodeOK_noAdjNode t h)]

/-! ### Inserting declaration leaves -/

/-- A leaf carrying a declaration. -/
def IsNsLeafT (x : Tree) : Prop := ∃ p ns, x = .node (.namespace p ns) []

theorem IsNsLeafT.cat {x : Tree} (hx : IsNsLeafT x) : (x.value.category == Category.namespace) = true := by
  obtain ⟨p, ns, rfl⟩ := hx; rfl

theorem fcr_noAdjText_skip (l b : List Tree) (hl : ∀ x ∈ l, x.value.isText = false) :
    noAdjText (l ++ b) = noAdjText b := by
  induction l with
  | nil => rfl
  | cons x l ih =>
    have ih' := ih (fun y hy => hl y (List.mem_cons_of_mem _ hy))
    have hx := hl x List.mem_cons_self
    cases hlb : l ++ b with
    | nil =>
      have hb : b = [] := (List.append_eq_nil_iff.mp hlb).2
      simp [hb, noAdjText] at ih' ⊢
      rw [(List.append_eq_nil_iff.mp hlb).1]
      rfl
    | cons y rest =>
      rw [List.cons_append, hlb, noAdjText, hx, ← hlb, ih']
      simp

theorem fcr_not_text {x : Tree} (h : (x.value.category == Category.namespace) = true) :
    x.value.isText = false := by
  cases hv : x.value <;> simp [hv, Value.category, Value.isText] at h ⊢

theorem fcr_not_doc {x : Tree} (h : (x.value.category == Category.namespace) = true) :
    x.value.isDocument = false := by
  cases hv : x.value <;> simp [hv, Value.category, Value.isDocument] at h ⊢

theorem fcr_attrNames_ns (n : List Tree) (hn : ∀ x ∈ n, (x.value.category == Category.namespace) = true) :
    attrNames n = [] := by
  simp only [attrNames, List.filterMap_eq_nil_iff]
  intro x hx
  have := hn x hx
  cases hv : x.value <;> simp [hv, Value.category] at this ⊢

theorem fcr_nsPrefixes_tail (a b : List Tree) (hord : OrderedKids (a ++ b))
    (hb : ∀ y, b.head? = some y → (y.value.category == Category.namespace) = false) : nsPrefixes b = [] := by
  cases b with
  | nil => rfl
  | cons y rest =>
    have hy := hb y rfl
    have hy' : y.value.phase ≠ 0 := by
      intro h0
      rw [(category_namespace_iff y.value).mpr h0] at hy
      cases hy
    have hpb : OrderedKids (y :: rest) := (List.pairwise_append.mp hord).2.1
    simp only [nsPrefixes, List.filterMap_eq_nil_iff]
    intro x hx
    have hxp : y.value.phase ≤ x.value.phase := by
      rcases List.mem_cons.mp hx with rfl | hx'
      · exact Nat.le_refl _
      · exact List.rel_of_pairwise_cons hpb hx'
    cases hv : x.value <;> simp only []
    simp [hv, Value.phase] at hxp
    exact absurd hxp hy'

/-- Inserting `valueOK` declaration leaves with new, pairwise distinct prefixes right after the
    namespace nodes of a `nodeOK` element gives a `nodeOK` element. -/
theorem nodeOK_insert_ns (name : Nat) (a n b : List Tree)
    (hS : (Tree.node (.element name) (a ++ b)).allNodes (nodeOK env) = true)
    (ha : ∀ x ∈ a, (x.value.category == Category.namespace) = true)
    (hb : ∀ y, b.head? = some y → (y.value.category == Category.namespace) = false)
    (hn : ∀ x ∈ n, ∃ p ns, x = .node (.namespace p ns) [] ∧ valueOK env (.namespace p ns) = true)
    (hnd : (nsPrefixes (a ++ n)).Nodup) :
    (Tree.node (.element name) (a ++ n ++ b)).allNodes (nodeOK env) = true := by
  obtain ⟨hord, hkinds, huniq, hnoadj, hval⟩ := nodeOK_root hS
  have hncat : ∀ x ∈ n, (x.value.category == Category.namespace) = true := by
    intro x hx
    obtain ⟨p, ns, rfl, -⟩ := hn x hx
    rfl
  have hancat : ∀ x ∈ a ++ n, (x.value.category == Category.namespace) = true := by
    intro x hx
    rcases List.mem_append.mp hx with h | h
    · exact ha x h
    · exact hncat x h
  rw [allNodes_node, Bool.and_eq_true, List.all_eq_true]
  refine ⟨(nodeOK_iff env _ _).mpr ⟨?_, ?_, ?_, ?_, hval⟩, ?_⟩
  · -- ordered
    unfold OrderedKids
    rw [List.pairwise_append]
    refine ⟨?_, (List.pairwise_append.mp hord).2.1, ?_⟩
    · have : ∀ x ∈ a ++ n, x.value.phase = 0 := fun x hx => (category_namespace_iff _).mp (hancat x hx)
      exact List.pairwise_of_forall_mem_list (fun x hx y hy => by rw [this x hx, this y hy]; exact Nat.le_refl _)
    · intro x hx y _
      rw [(category_namespace_iff _).mp (hancat x hx)]
      exact Nat.zero_le _
  · refine ⟨fun h => (by cases h), fun h => (by cases h), ?_⟩
    intro k hk
    rcases List.mem_append.mp hk with h | h
    · rcases List.mem_append.mp h with h | h
      · exact hkinds.2.2 k (by simp [h])
      · exact fcr_not_doc (hncat k h)
    · exact hkinds.2.2 k (by simp [h])
  · constructor
    · rw [attrNames_append, attrNames_append, fcr_attrNames_ns n hncat, List.append_nil,
        ← attrNames_append]
      exact huniq.1
    · rw [nsPrefixes_append, fcr_nsPrefixes_tail a b hord hb, List.append_nil]
      exact hnd
  · rw [fcr_noAdjText_skip (a ++ n) b (fun x hx => fcr_not_text (hancat x hx))]
    rw [fcr_noAdjText_skip a b (fun x hx => fcr_not_text (ha x hx))] at hnoadj
    exact hnoadj
  · intro k hk
    rcases List.mem_append.mp hk with h | h
    · rcases List.mem_append.mp h with h | h
      · exact allNodes_kid hS (by simp [h])
      · obtain ⟨p, ns, rfl, hv⟩ := hn k h
        exact nodeOK_namespace_leaf hv
    · exact allNodes_kid hS (by simp [h])

theorem fcr_idsList_nsLeaves (n : List Tree) (hn : ∀ x ∈ n, IsNsLeafT x) : xmlIdValues.idsList env n = [] := by
  induction n with
  | nil => rfl
  | cons k ks ih =>
    obtain ⟨p, ns, rfl⟩ := hn k List.mem_cons_self
    simp [xmlIdValues.idsList, xmlIdValues, ih (fun x hx => hn x (List.mem_cons_of_mem _ hx))]

theorem xmlIdValues_insert_ns (v : Value) (a n b : List Tree) (hn : ∀ x ∈ n, IsNsLeafT x) :
    xmlIdValues env (.node v (a ++ n ++ b)) = xmlIdValues env (.node v (a ++ b)) := by
  simp only [xmlIdValues, xmlIds_append, fcr_idsList_nsLeaves n hn, List.append_nil]

/-! ### The subtrees on the path to a node -/

theorem fcr_allNodes_erase_kid (p : Value → List Tree → Bool) {h : Nat} {v : Value} {ks : List HTree}
    (hv : (erase (.node h v ks)).allNodes p = true) : ∀ k ∈ ks, (erase k).allNodes p = true :=
  fun k hk => allNodes_kid hv (by rw [eraseList_map]; exact List.mem_map_of_mem hk)

theorem pathTo_allNodes (p : Value → List Tree → Bool) (h : Nat) (t : HTree) (l : List HTree)
    (hv : (erase t).allNodes p = true) (hl : HTree.pathTo h t = some l) :
    ∀ x ∈ l, (erase x).allNodes p = true :=
  (fc_pathTo_spec (fun t => (erase t).allNodes p = true) (fcr_allNodes_erase_kid p) h t l hv hl).2.2

theorem pathToList_allNodes (p : Value → List Tree → Bool) (h : Nat) : ∀ (ks : List HTree) (l : List HTree),
    (∀ k ∈ ks, (erase k).allNodes p = true) → HTree.pathToList h ks = some l →
    ∀ x ∈ l, (erase x).allNodes p = true :=
  fun ks l hv hl =>
    (fc_pathToList_spec (fun t => (erase t).allNodes p = true) (fcr_allNodes_erase_kid p) h ks l hv hl).2

end XotModel

/-! ## The clone lies in the round-trip domain of C01 whenever the tree containing the source does

The added declarations have pairwise distinct prefixes the copy does not declare, and each of them is a declaration
of an ancestor of the source (hence `valueOK`). -/

namespace XotModel
open HTree

variable {env : Env}

theorem nsPrefixes_eraseList (L : List HTree) :
    nsPrefixes (eraseList L) = (L.filterMap (fun k => fcNsPair k.value)).map Prod.fst := by
  rw [eraseList_map, nsPrefixes, List.filterMap_map, List.map_filterMap]
  congr 1
  funext k
  obtain ⟨h, v, ks⟩ := k
  cases v <;> rfl

theorem valueOK_of_nsDecls (a : Tree) (ha : a.allNodes (nodeOK env) = true) (d : Nat × Nat)
    (hd : d ∈ a.nsDecls) : valueOK env (.namespace d.1 d.2) = true := by
  rw [nsDecls_eq] at hd
  obtain ⟨k, hk, hkd⟩ := List.mem_filterMap.mp hd
  have hk' : k ∈ a.kids := (List.takeWhile_sublist _).subset hk
  cases a with
  | node v ks =>
    have hval := allNodes_value env (allNodes_kid ha hk')
    cases hv : k.value <;> simp only [hv, fcNsPair, reduceCtorEq, Option.some.injEq] at hkd
    subst hkd
    rw [hv] at hval
    exact hval

/-- Every inherited prefix is a declaration of an ancestor. -/
theorem inheritedPrefixes_valueOK (f : Forest) (node : Nat) (src : HTree) (rest : List HTree)
    (hpath : f.pathTo node = src :: rest) (hget : f.get? node = some src)
    (hok : ∀ x ∈ rest, (erase x).allNodes (nodeOK env) = true)
    (b : Nat × Nat) (hb : b ∈ f.inheritedPrefixes env node) : valueOK env (.namespace b.1 b.2) = true := by
  unfold Forest.inheritedPrefixes at hb
  rw [hpath] at hb
  have hun : f.unresolvedNamespaces env node = unresolvedTree env (FStack.new []) (erase src) := by
    unfold Forest.unresolvedNamespaces
    rw [hget]
  cases rest with
  | nil => simp at hb
  | cons q rest' =>
    simp only [List.mem_filter] at hb
    obtain ⟨hin, hu⟩ := hb
    rw [hun] at hu
    have hnt := unresolvedTree_nontrivial env _ _ b.2 (by simpa using hu)
    rcases namespacesInScopeChain_origin _ b hin with h | ⟨a, ha, hda⟩
    · simp only [basePrefixes, List.mem_singleton] at h
      exact absurd (congrArg Prod.snd h) hnt.2
    · obtain ⟨x, hx, rfl⟩ := List.mem_map.mp ha
      exact valueOK_of_nsDecls _ (hok x hx) b hda

/-- **The clone is in the round-trip domain** when the tree containing the source is: tables with
    the built-in values, `nodeOK` at every node of the source's root tree, no repeated `xml:id` value
    inside the source. -/
theorem cloneWithPrefixes_representable (env : Env) (f : Forest) (inv : f.Inv)
    (node : Nat) (hs : Nat) (name : Nat) (Ks : List HTree) (rest : List HTree)
    (hpath : f.pathTo node = .node hs (.element name) Ks :: rest)
    (order : List (Nat × Nat))
    (hord : ∀ b ∈ order, b ∈ f.inheritedPrefixes env node)
    (henv : envOK env = true)
    (hok : ∀ r ∈ f.roots, HTree.pathTo node r = some (.node hs (.element name) Ks :: rest) →
      (erase r).allNodes (nodeOK env) = true)
    (hids : (xmlIdValues env (erase (.node hs (.element name) Ks))).Nodup) :
    ∀ c C, (f.cloneWithPrefixes node order).2 = some c →
      (f.cloneWithPrefixes node order).1.get? c = some C →
      Representable env (.node .document [C.erase]) = true ∧
        expectedClone f.consolidation (erase (.node hs (.element name) Ks)) =
          erase (.node hs (.element name) Ks) := by
  intro c0 C0 hc0 hC0
  obtain ⟨hget, r, hr, hp⟩ := Forest.get?_of_pathTo hpath
  have hpathok := pathTo_allNodes (nodeOK env) node r _ (hok r hr hp) hp
  have hsrcok : (erase (.node hs (.element name) Ks)).allNodes (nodeOK env) = true := hpathok _ List.mem_cons_self
  have hfix := expectedClone_of_nodeOK (env := env) f.consolidation _ hsrcok
  refine ⟨?_, hfix⟩
  obtain ⟨f2, c, A, New, B, hres, -, hg2, -, hA, hB, hNew, h6, hsub, hnodup⟩ :=
    cloneWithPrefixes_shape f inv node hs name Ks rest hpath order
  rw [hres] at hc0 hC0
  have hcc : c = c0 := Option.some.inj hc0
  subst hcc
  rw [hg2] at hC0
  have hCC : HTree.node c (.element name) (A ++ New ++ B) = C0 := Option.some.inj hC0
  subst hCC
  rw [hfix] at h6
  -- the source, as the copy sees it
  have hS : (Tree.node (.element name) (eraseList A ++ eraseList B)).allNodes (nodeOK env) = true := by
    have : erase (.node c (.element name) (A ++ B)) = .node (.element name) (eraseList A ++ eraseList B) := by
      simp only [erase, eraseList_append]
    rw [← this, h6]; exact hsrcok
  have hAc := fcr_erase_cat A hA
  have hBc : ∀ y, (eraseList B).head? = some y → (y.value.category == Category.namespace) = false := by
    intro y hy
    cases B with
    | nil => simp [eraseList] at hy
    | cons b B' =>
      simp only [eraseList, List.head?_cons, Option.some.injEq] at hy
      subst hy
      rw [Reach.erase_value]
      exact hB b rfl
  have hAN : ∀ x ∈ A ++ New, (x.value.category == Category.namespace) = true := by
    intro x hx
    rcases List.mem_append.mp hx with h | h
    · exact hA x h
    · exact (hNew x h).cat
  have hdecls : fcDeclsOfKids (A ++ New ++ B) = (A ++ New).filterMap (fun k => fcNsPair k.value) :=
    declsOfKids_split (A ++ New) B hAN hB
  -- the new leaves
  have hNl : ∀ x ∈ eraseList New, ∃ p ns, x = .node (.namespace p ns) [] ∧ valueOK env (.namespace p ns) = true := by
    intro x hx
    rw [eraseList_map] at hx
    obtain ⟨y, hy, rfl⟩ := List.mem_map.mp hx
    obtain ⟨h, p, ns, rfl⟩ := hNew y hy
    refine ⟨p, ns, rfl, ?_⟩
    have hmem : (p, ns) ∈ fcDeclsOfKids (A ++ New ++ B) := by
      rw [hdecls]
      exact List.mem_filterMap.mpr ⟨_, List.mem_append_right _ hy, rfl⟩
    rcases hsub _ hmem with h1 | ⟨h1, -⟩
    · -- declared by the copy: a namespace child of the source
      obtain ⟨k, hk, hkd⟩ := List.mem_filterMap.mp h1
      have hk' : erase k ∈ eraseList A ++ eraseList B := by
        rw [eraseList_map]; exact List.mem_append_left _ (List.mem_map_of_mem hk)
      have hval := allNodes_value env (allNodes_kid hS hk')
      rw [Reach.erase_value] at hval
      cases hv : k.value <;> simp only [hv, fcNsPair, reduceCtorEq, Option.some.injEq] at hkd
      cases hkd
      rw [hv] at hval
      exact hval
    · exact inheritedPrefixes_valueOK f node _ rest hpath hget
        (fun x hx => hpathok x (List.mem_cons_of_mem _ hx)) (p, ns) (hord _ h1)
  -- distinct prefixes
  have hnd : (nsPrefixes (eraseList A ++ eraseList New)).Nodup := by
    rw [← eraseList_append, nsPrefixes_eraseList, ← hdecls]
    obtain ⟨-, -, huniq, -, -⟩ := nodeOK_root hS
    have hAnd : ((A.filterMap (fun k => fcNsPair k.value)).map Prod.fst).Nodup := by
      rw [← nsPrefixes_eraseList]
      have := huniq.2
      rw [nsPrefixes_append] at this
      exact (List.nodup_append.mp this).1
    exact hnodup hAnd
  have hT : erase (.node c (.element name) (A ++ New ++ B)) =
      .node (.element name) (eraseList A ++ eraseList New ++ eraseList B) := by
    simp only [erase, eraseList_append]
  rw [hT]
  apply representable_document_single henv
  · exact nodeOK_insert_ns name _ _ _ hS hAc hBc hNl hnd
  · rw [xmlIdValues_insert_ns _ _ _ _ (fun x hx => by
      obtain ⟨p, ns, rfl, -⟩ := hNl x hx; exact ⟨p, ns, rfl⟩)]
    have : erase (.node c (.element name) (A ++ B)) = .node (.element name) (eraseList A ++ eraseList B) := by
      simp only [erase, eraseList_append]
    rw [← this, h6]
    exact hids

end XotModel
