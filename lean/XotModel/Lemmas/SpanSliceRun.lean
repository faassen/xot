/-
  The run of tokens behind a text node, on a tokenizer's output:
  it consists of character-data tokens only, they are adjacent in the source, and the recorded
  `Text` span (first part's text start … last part's text end) slices the source to `runSlice run`:
  text parts as written, CDATA parts as `<![CDATA[` … `]]>` — except that the `<![CDATA[` of a
  FIRST part and the `]]>` of a LAST part lie outside the span.
-/
import XotModel.Lemmas.LexSpell
import XotModel.Lemmas.SpanDescDefs

namespace XotModel

/-! ### Chains -/

theorem AdjChain.tail {R : Token → Token → Prop} : ∀ {a : Token} {l : List Token}, AdjChain R (a :: l) → AdjChain R l
  | _, [], _ => trivial
  | _, _ :: _, h => h.2

theorem AdjChain.drop {R : Token → Token → Prop} : ∀ (pre : List Token) {l : List Token},
    AdjChain R (pre ++ l) → AdjChain R l
  | [], _, h => h
  | _ :: pre, _, h => AdjChain.drop pre (AdjChain.tail h)

theorem AdjChain.take {R : Token → Token → Prop} : ∀ (l post : List Token), AdjChain R (l ++ post) → AdjChain R l
  | [], _, _ => trivial
  | [_], _, _ => trivial
  | a :: b :: l, post, h => ⟨h.1, AdjChain.take (b :: l) post h.2⟩

theorem AdjChain.infix {R : Token → Token → Prop} {run ts : List Token} (h : AdjChain R ts) (hi : run <:+: ts) :
    AdjChain R run := by
  obtain ⟨pre, post, rfl⟩ := hi
  rw [List.append_assoc] at h
  exact AdjChain.take run post (AdjChain.drop pre h)

theorem AdjChain.and {R S : Token → Token → Prop} : ∀ {l : List Token}, AdjChain R l → AdjChain S l →
    AdjChain (fun a b => R a b ∧ S a b) l
  | [], _, _ => trivial
  | [_], _, _ => trivial
  | _ :: _ :: _, h1, h2 => ⟨⟨h1.1, h2.1⟩, AdjChain.and h1.2 h2.2⟩

/-- From the tag bookkeeping: character data never follows an element start or an attribute. -/
def TagAdj (a b : Token) : Prop :=
  b.isCharData = true → (∀ p l sp, a ≠ .elementStart p l sp) ∧ (∀ p l v sp, a ≠ .attribute p l v sp)

theorem AdjChain.cons_of_head {R : Token → Token → Prop} {a : Token} : ∀ {l : List Token},
    (∀ b rest, l = b :: rest → R a b) → AdjChain R l → AdjChain R (a :: l)
  | [], _, _ => trivial
  | b :: rest, h, hl => ⟨h b rest rfl, hl⟩

/-- Inside a start tag the next token is an attribute or the end of the tag. -/
theorem tagsOk_true_head {b : Token} {rest : List Token} (h : TagsOk true (b :: rest)) : b.isCharData = false := by
  cases b with
  | text _ => exact h.elim
  | cdata _ _ => exact h.elim
  | _ => rfl

theorem tagsOk_adj (ts : List Token) (inTag : Bool) : TagsOk inTag ts → AdjChain TagAdj ts := by
  -- a token that is neither an element start nor an attribute may stand before anything
  have other : ∀ {a : Token}, (∀ p l sp, a ≠ .elementStart p l sp) → (∀ p l v sp, a ≠ .attribute p l v sp) →
      ∀ {l : List Token}, AdjChain TagAdj l → AdjChain TagAdj (a :: l) :=
    fun h1 h2 => .cons_of_head fun _ _ _ _ => ⟨h1, h2⟩
  -- inside the tag no character data follows
  have intag : ∀ {a : Token} {l : List Token}, TagsOk true l → AdjChain TagAdj l → AdjChain TagAdj (a :: l) :=
    fun h => .cons_of_head fun b rest e hcd => by
      rw [e] at h
      rw [tagsOk_true_head h] at hcd
      cases hcd
  fun_induction TagsOk inTag ts with
  | case1 => exact fun _ => trivial
  | case2 _ _ _ _ ih => exact fun h => intag h (ih h)
  | case3 | case4 | case5 => exact False.elim
  | case6 _ _ h1 h2 _ _ ih => exact fun h => other (fun p l sp e => h1 p l sp e) (fun p l v sp e => h2 p l v sp e) (ih h)
  | case7 _ _ _ _ _ ih => exact fun h => intag h (ih h)
  | case8 _ _ ih =>
    intro h
    refine other ?_ ?_ (ih h)
    · intro p l sp e; cases e
    · intro p l v sp e; cases e
  | case9 _ _ ih =>
    intro h
    refine other ?_ ?_ (ih h)
    · intro p l sp e; cases e
    · intro p l v sp e; cases e
  | case10 => exact False.elim

/-! ### A run consists of character data only -/

theorem run_charData : ∀ (run : List Token),
    AdjChain (fun a b => CharAdj a b ∧ TagAdj a b) run → (∀ t ∈ run, t.isRunTok = true) →
    (∃ t, run.getLast? = some t ∧ t.isCharData = true) → ∀ t ∈ run, t.isCharData = true
  | [], _, _, _ => fun t ht => by cases ht
  | [x], _, _, ⟨t, he, ht⟩ => by
    cases he
    intro t' ht'
    rw [List.mem_singleton.mp ht']
    exact ht
  | a :: b :: rest, hc, htoks, hl => by
    have ih := run_charData (b :: rest) hc.2 (fun t ht => htoks t (by simp [ht]))
      (by rwa [List.getLast?_cons_cons] at hl)
    have hb := ih b (by simp)
    obtain ⟨hdecl, htag⟩ := hc.1
    obtain ⟨hd, _⟩ := hdecl hb
    obtain ⟨hs, hat⟩ := htag hb
    have ha : a.isCharData = true := by
      have hrt := htoks a (by simp)
      cases a with
      | text _ => rfl
      | cdata _ _ => rfl
      | declaration v e sa sp => simp [Token.isDecl] at hd
      | elementStart p l sp => exact absurd rfl (hs p l sp)
      | «attribute» p l v sp => exact absurd rfl (hat p l v sp)
      | _ => simp [Token.isRunTok, Token.isReal, Token.passive] at hrt
    intro t ht
    simp only [List.mem_cons] at ht
    rcases ht with rfl | ht
    · exact ha
    · exact ih t (by simpa using ht)

theorem Token.isCharData_of_isReal {t : Token} (h : t.isReal = true) : t.isCharData = true := by
  cases t <;> simp_all [Token.isReal, Token.isCharData]

/-! ### The source of a run -/

/-- The run as written in the source, from inside the first part to inside the last part:
    `skipOpen` = the `<![CDATA[` of the first token is not included. -/
def runSliceAux : Bool → List Token → Str
  | _, [] => []
  | _, .text t :: rest => t.text ++ runSliceAux false rest
  | skipOpen, .cdata t _ :: rest =>
    (if skipOpen then [] else Lex.litCdataOpen) ++ t.text ++
      (if rest.isEmpty then [] else Lex.litCdataClose ++ runSliceAux false rest)
  | _, _ :: rest => runSliceAux false rest

def runSlice (run : List Token) : Str := runSliceAux true run

/-- The whole-token texts of the run, concatenated. -/
def runWhole (run : List Token) : Str := run.flatMap (fun t => t.wholeSpan.text)

def Token.isCdataTok : Token → Bool
  | .cdata _ _ => true
  | _ => false

def openOf (t : Token) : Str := if t.isCdataTok then Lex.litCdataOpen else []
def closeOf (t : Token) : Str := if t.isCdataTok then Lex.litCdataClose else []

theorem prefix_eq_of_strLen : ∀ (a a' x x' : Str), a ++ x = a' ++ x' → strLen a = strLen a' → a = a'
  | [], [], _, _, _, _ => rfl
  | [], c :: cs, _, _, _, h => by
    have := utf8Len_pos c
    simp only [strLen] at h; omega
  | c :: cs, [], _, _, _, h => by
    have := utf8Len_pos c
    simp only [strLen] at h; omega
  | c :: cs, d :: ds, x, x', he, h => by
    simp only [List.cons_append, List.cons.injEq] at he
    obtain ⟨rfl, he⟩ := he
    simp only [strLen] at h
    rw [prefix_eq_of_strLen cs ds x x' he (by omega)]

theorem sliceOf_append {src x y : Str} {i : Nat} (hx : StrSpan.SliceOf src ⟨x, i⟩)
    (hy : StrSpan.SliceOf src ⟨y, i + strLen x⟩) : StrSpan.SliceOf src ⟨x ++ y, i⟩ := by
  obtain ⟨a, b, hsrc, hst⟩ := hx
  obtain ⟨a', b', hsrc', hst'⟩ := hy
  -- `a'` is `a ++ x`: two prefixes of `src` of the same byte length
  have ha' : a' = a ++ x :=
    prefix_eq_of_strLen a' (a ++ x) (y ++ b') b (by rw [← List.append_assoc, ← hsrc', hsrc])
      (by rw [Lex.strLen_app, ← hst, ← hst'])
  exact ⟨a, b', by rw [hsrc', ha']; simp only [List.append_assoc], hst⟩

theorem sliceOf_mid {src a x b : Str} {i : Nat} (h : StrSpan.SliceOf src ⟨a ++ x ++ b, i⟩) :
    StrSpan.SliceOf src ⟨x, i + strLen a⟩ := by
  obtain ⟨u, v, hsrc, hst⟩ := h
  exact ⟨u ++ a, b ++ v, by rw [hsrc]; simp only [List.append_assoc], by rw [Lex.strLen_app, ← hst]⟩

/-- `runWhole`, for a run of spelled character-data tokens, in terms of `runSliceAux`. -/
theorem runWhole_eq {src : Str} : ∀ (run : List Token) (tl : Token), run.getLast? = some tl →
    (∀ t ∈ run, t.isCharData = true ∧ t.Spelled src) →
    runWhole run = runSliceAux false run ++ closeOf tl
  | [], _, h, _ => nomatch h
  | [a], tl, h, hall => by
    cases h
    have ha := hall a (by simp)
    cases a with
    | text t => simp [runWhole, runSliceAux, closeOf, Token.isCdataTok, Token.wholeSpan]
    | cdata t sp =>
      obtain ⟨hsp, _, _⟩ := ha.2
      simp [runWhole, runSliceAux, closeOf, Token.isCdataTok, Token.wholeSpan, hsp]
    | _ => simp [Token.isCharData] at ha
  | a :: b :: rest, tl, h, hall => by
    have ha := hall a (by simp)
    have hrw : runWhole (a :: b :: rest) = a.wholeSpan.text ++ runWhole (b :: rest) := by simp [runWhole]
    rw [hrw, runWhole_eq (b :: rest) tl (by rwa [List.getLast?_cons_cons] at h) (fun t ht => hall t (by simp [ht]))]
    cases a with
    | text t => simp [runSliceAux, Token.wholeSpan]
    | cdata t sp =>
      obtain ⟨hsp, _, _⟩ := ha.2
      simp [runSliceAux, Token.wholeSpan, hsp]
    | _ => simp [Token.isCharData] at ha

theorem runSliceAux_open (t0 : Token) (r0 : List Token) (hc : t0.isCharData = true) :
    runSliceAux false (t0 :: r0) = openOf t0 ++ runSliceAux true (t0 :: r0) := by
  cases t0 <;> simp_all [Token.isCharData, runSliceAux, openOf, Token.isCdataTok]

/-- Adjacent character-data tokens, each a slice of the source: their concatenation is the slice
    from the first one's start, and ends where the last one stops. -/
theorem runWhole_slice {src : Str} : ∀ (x : Token) (rest : List Token),
    (∀ t ∈ x :: rest, t.isCharData = true ∧ t.wholeSpan.SliceOf src) → AdjChain CharAdj (x :: rest) →
    StrSpan.SliceOf src ⟨runWhole (x :: rest), x.wholeSpan.start⟩ ∧
      ∀ tl, (x :: rest).getLast? = some tl →
        tl.wholeSpan.stop = x.wholeSpan.start + strLen (runWhole (x :: rest))
  | x, [], hall, _ => by
    refine ⟨by simpa [runWhole] using (hall x (by simp)).2, fun tl hl => ?_⟩
    cases hl
    simp [runWhole, StrSpan.stop]
  | x, y :: r1, hall, hadj => by
    obtain ⟨hxc, hx⟩ := hall x (by simp)
    have hrw : runWhole (x :: y :: r1) = x.wholeSpan.text ++ runWhole (y :: r1) := by simp [runWhole]
    obtain ⟨hsl, hlast⟩ := runWhole_slice y r1 (fun t ht => hall t (by simp [ht])) hadj.2
    -- `y` starts where `x` stops
    have hxy : y.wholeSpan.start = x.wholeSpan.start + strLen x.wholeSpan.text :=
      ((hadj.1 (hall y (by simp)).1).2.1 hxc).symm
    rw [hxy] at hsl hlast
    refine ⟨by rw [hrw]; exact sliceOf_append hx hsl, fun tl hl => ?_⟩
    rw [hlast tl (by rwa [List.getLast?_cons_cons] at hl), hrw, Lex.strLen_app, Nat.add_assoc]

theorem strLen_cdataOpen : strLen Lex.litCdataOpen = 9 := by decide
theorem strLen_cdataClose : strLen Lex.litCdataClose = 3 := by decide

/-- The text of a character-data token inside its whole span: behind `<![CDATA[`, in front of `]]>`. -/
theorem textSpan_in_whole {src : Str} {t : Token} {f : StrSpan} (hc : t.isCharData = true)
    (hs : t.Spelled src) (hf : t.textSpan? = some f) :
    f.start = t.wholeSpan.start + strLen (openOf t) ∧ f.stop + strLen (closeOf t) = t.wholeSpan.stop := by
  cases t with
  | text t =>
    cases hf
    simp [openOf, closeOf, Token.isCdataTok, Token.wholeSpan, strLen]
  | cdata t sp0 =>
    cases hf
    obtain ⟨htx, hs9, _⟩ := hs
    simp only [openOf, closeOf, Token.isCdataTok, Token.wholeSpan, if_true, strLen_cdataOpen, strLen_cdataClose,
      StrSpan.stop, htx, Lex.strLen_app, hs9]
    exact ⟨trivial, by omega⟩
  | _ => simp [Token.isCharData] at hc

/-- The recorded `Text` span slices the source to `runSlice run`. -/
theorem run_slice {src : Str} {run : List Token} {sp : Span}
    (hall : ∀ t ∈ run, t.isCharData = true ∧ t.Spelled src ∧ t.wholeSpan.SliceOf src)
    (hadj : AdjChain CharAdj run) (hok : RunOk run sp) :
    (⟨runSlice run, sp.start⟩ : StrSpan).SliceOf src ∧ sp.stop = sp.start + strLen (runSlice run) := by
  obtain ⟨t0, r0, f, hrun, _, hf, hstart⟩ := hok.first
  obtain ⟨pre, tl, l, hrun', _, hl, hstop⟩ := hok.last
  subst hrun
  have hlast : (t0 :: r0).getLast? = some tl := by rw [hrun']; simp
  have h0 := hall t0 (by simp)
  have hL := hall tl (by rw [hrun']; simp)
  obtain ⟨hsl, hstop'⟩ := runWhole_slice t0 r0 (fun t ht => ⟨(hall t ht).1, (hall t ht).2.2⟩) hadj
  replace hstop' := hstop' tl hlast
  have hw := runWhole_eq (src := src) _ tl hlast (fun t ht => ⟨(hall t ht).1, (hall t ht).2.1⟩)
  rw [runSliceAux_open t0 r0 h0.1] at hw
  -- start of the first part's text, end of the last part's text
  have hfs := (textSpan_in_whole h0.1 h0.2.1 hf).1
  have hls := (textSpan_in_whole hL.1 hL.2.1 hl).2
  rw [hw] at hsl hstop'
  rw [hstop, hstart, hfs]
  refine ⟨sliceOf_mid hsl, ?_⟩
  rw [Lex.strLen_app, Lex.strLen_app] at hstop'
  simp only [runSlice]
  omega

end XotModel
