/-
  Lemmas for C11, serialisation order: in the output-event stream of `gen_outputs` the events of
  one element's start tag form one contiguous block (`genNode_block`), and the token stream
  carries exactly the events of `gen_outputs`, in order (`renderAll_events`).
-/
import XotModel.Lemmas.Events
import XotModel.Lemmas.Output
import XotModel.Lemmas.FmapReads

namespace XotModel
namespace Fmap
open XotModel.Gen

/-- The tokens are the events, in order, each with its rendering. -/
theorem renderAll_events (esc : Escapers) (env : Env) (pr : TokenParams) (t : Tree) :
    ∀ (outs : List (Path × Output)) (s : FStack) (l : List (Path × Output × OutputToken)),
      renderAllWith esc env pr t s outs = .ok l → l.map (fun k => (k.1, k.2.1)) = outs
  | [], s, l => by
    intro h
    simp only [renderAllWith] at h
    cases h
    rfl
  | (p, o) :: rest, s, l => by
    intro h
    obtain ⟨s', tok, l', _, h2, rfl⟩ := renderAll_cons_ok esc env pr t h
    rw [List.map_cons, renderAll_events esc env pr t rest s' l' h2]

theorem tokens_events (esc : Escapers) (env : Env) (pr : TokenParams) (t : Tree) (start : Path)
    (ks : List (Path × Output × OutputToken)) (h : tokensWith esc env pr t start = .ok ks) :
    ks.map (fun k => (k.1, k.2.1)) = genOutputs t start :=
  renderAll_events esc env pr t _ _ _ ((tokensWith_ok_iff esc env pr t start ks).mp h)

theorem genKids_split (inScope : List (Nat × Nat)) (path : Path) :
    ∀ (ks : List Tree) (j i : Nat) (k : Tree), ks[i]? = some k →
      ∃ pre post, genNode.genKids inScope path j ks =
        pre ++ genNode inScope false (path ++ [j + i]) k ++ post
  | [], j, i, k => by simp
  | k0 :: ks, j, 0, k => by
    intro h
    simp only [List.getElem?_cons_zero, Option.some.injEq] at h
    subst h
    refine ⟨[], genNode.genKids inScope path (j + 1) ks, ?_⟩
    simp [genNode.genKids]
  | k0 :: ks, j, i + 1, k => by
    intro h
    simp only [List.getElem?_cons_succ] at h
    obtain ⟨pre, post, hp⟩ := genKids_split inScope path ks (j + 1) i k h
    refine ⟨genNode inScope false (path ++ [j]) k0 ++ pre, post, ?_⟩
    have : j + 1 + i = j + (i + 1) := by omega
    rw [this] at hp
    simp only [genNode.genKids, hp, List.append_assoc]

/-- The events a normal node emits when it is entered are one contiguous block of the stream of
    any subtree that contains it. -/
theorem genNode_block (inScope : List (Nat × Nat)) :
    ∀ (rel : Path) (isTop : Bool) (path : Path) (n n' : Tree), n.at? rel = some n' →
      n'.value.isNormal = true →
      ∃ pre post, genNode inScope isTop path n =
        pre ++ (edgeStart inScope (isTop && rel.isEmpty) n').map (fun o => (path ++ rel, o)) ++ post
  | [], isTop, path, n, n' => by
    intro h hn
    simp only [Tree.at?, Option.some.injEq] at h
    subst h
    cases n with
    | node v ks =>
      simp only [Tree.value] at hn
      refine ⟨[], genNode.genKids inScope path 0 ks ++
        (edgeEnd (.node v ks)).map (fun o => (path, o)), ?_⟩
      unfold genNode
      simp [hn]
  | i :: rel, isTop, path, n, n' => by
    intro h hn
    cases n with
    | node v ks =>
      rw [at?_cons] at h
      cases hk : ks[i]? with
      | none => rw [hk] at h; simp at h
      | some k =>
        rw [hk] at h
        simp only [Option.bind_some] at h
        obtain ⟨pre1, post1, h1⟩ := genNode_block inScope rel false (path ++ [i]) k n' h hn
        obtain ⟨pre2, post2, h2⟩ := genKids_split inScope path ks 0 i k hk
        simp only [Nat.zero_add] at h2
        have hpath : path ++ [i] ++ rel = path ++ i :: rel := by simp
        have hb : (isTop && (i :: rel).isEmpty) = false := by simp
        rw [hb]
        simp only [Bool.false_and] at h1
        rw [hpath] at h1
        unfold genNode
        rw [h2, h1]
        by_cases hv : v.isNormal = true
        · simp only [hv, if_true]
          exact ⟨(edgeStart inScope isTop (.node v ks)).map (fun o => (path, o)) ++ pre2 ++ pre1,
            post1 ++ post2 ++ (edgeEnd (.node v ks)).map (fun o => (path, o)), by simp⟩
        · simp only [hv]
          exact ⟨pre2 ++ pre1, post1 ++ post2, by simp⟩

/-- The start tag of the element at `start ++ rel` in the event stream of `gen_outputs(start)`:
    start-tag-open, (on the top node) the inherited declarations, the element's declarations,
    its attributes, start-tag-close, contiguous and in that order. -/
theorem genOutputs_startTag (t : Tree) (start rel : Path) (n n' : Tree) (inScope : List (Nat × Nat))
    (name : Nat) (hn : t.at? start = some n) (hs : namespacesInScope t start = some inScope)
    (hrel : n.at? rel = some n') (hv : n'.value = .element name) :
    ∃ pre post, genOutputs t start =
      pre ++ [(start ++ rel, Output.startTagOpen name)]
        ++ (if rel.isEmpty then extraPrefixes inScope n' else []).map (fun o => (start ++ rel, o))
        ++ n'.nsDecls.map (fun d => (start ++ rel, Output.pfx d.1 d.2))
        ++ n'.attrs.map (fun a => (start ++ rel, Output.attribute a.1 a.2))
        ++ [(start ++ rel, Output.startTagClose)] ++ post := by
  have hnorm : n'.value.isNormal = true := by rw [hv]; rfl
  obtain ⟨pre, post, h⟩ := genNode_block inScope rel true start n n' hrel hnorm
  refine ⟨pre, post, ?_⟩
  simp only [genOutputs, hn, hs, h, edgeStart, hv, Bool.true_and, List.map_append, List.map_cons,
    List.map_nil, List.map_map, List.append_assoc]
  rfl

open HTree in
mutual
  theorem erase_at_of_find (e : Nat) : ∀ (r t : HTree), find? e r = some t →
      ∃ p, (erase r).at? p = some (erase t)
    | .node h v ks, t => by
      intro hf
      simp only [find?] at hf
      split at hf
      · cases hf; exact ⟨[], rfl⟩
      · obtain ⟨i, p, hi⟩ := erase_at_of_findList e ks t hf
        refine ⟨i :: p, ?_⟩
        simp only [erase]
        rw [at?_cons]
        exact hi
  theorem erase_at_of_findList (e : Nat) : ∀ (ks : List HTree) (t : HTree),
      findList? e ks = some t →
      ∃ (i : Nat) (p : Path), (eraseList ks)[i]?.bind (fun (k : Tree) => k.at? p) = some (erase t)
    | [], t => by intro hf; cases hf
    | k :: ks, t => by
      intro hf
      simp only [findList?] at hf
      cases hk : find? e k with
      | some t' =>
        rw [hk] at hf
        cases hf
        obtain ⟨p, hp⟩ := erase_at_of_find e k _ hk
        exact ⟨0, p, by simp [eraseList, hp]⟩
      | none =>
        rw [hk] at hf
        obtain ⟨i, p, h⟩ := erase_at_of_findList e ks t hf
        exact ⟨i + 1, p, by simpa [eraseList] using h⟩
end


/-- The string serialisation is the concatenation of the token texts, each preceded by one
    space when so flagged (this is `C16_tokens`). -/
theorem tokens_string (esc : Escapers) (env : Env) (pr : TokenParams) (t : Tree) (start : Path)
    (ks : List (Path × Output × OutputToken)) (h : tokensWith esc env pr t start = .ok ks) :
    serializeStringWith esc env pr t start =
      .ok (ks.flatMap (fun k => (if k.2.2.space then [' '] else []) ++ k.2.2.text)) := by
  have hsp : tokenSpace = [' '] := by decide
  rw [serializeStringWith_eq_renderAll, (tokensWith_ok_iff esc env pr t start ks).mp h]
  simp [streamBytes, tokenBytes, hsp]

open Forest (MapKind) in
/-- The start tag of a forest element in the event stream, the token stream and the string. -/
theorem serialisation_order (f : Forest) (e name : Nat) (t : HTree) (hg : f.get? e = some t)
    (hv : t.value = .element name) (T : Tree) (start rel : Path) (n : Tree)
    (inScope : List (Nat × Nat)) (hn : T.at? start = some n)
    (hs : namespacesInScope T start = some inScope) (hrel : n.at? rel = some (HTree.erase t)) :
    (∃ pre post, genOutputs T start =
      pre ++ [(start ++ rel, Output.startTagOpen name)]
        ++ (if rel.isEmpty then extraPrefixes inScope (HTree.erase t) else []).map
            (fun o => (start ++ rel, o))
        ++ (absNs f e).map (fun d => (start ++ rel, Output.pfx d.1 d.2))
        ++ (absAttrs f e).map (fun a => (start ++ rel, Output.attribute a.1 a.2))
        ++ [(start ++ rel, Output.startTagClose)] ++ post) ∧
    ∀ (esc : Escapers) (env : Env) (pr : TokenParams) (ks : List (Path × Output × OutputToken)),
      tokensWith esc env pr T start = .ok ks →
      (∃ k1 kd ka k2, ks = k1 ++ kd ++ ka ++ k2 ∧
        kd.map (fun k => (k.1, k.2.1)) = (absNs f e).map (fun d => (start ++ rel, Output.pfx d.1 d.2)) ∧
        ka.map (fun k => (k.1, k.2.1)) =
          (absAttrs f e).map (fun a => (start ++ rel, Output.attribute a.1 a.2))) ∧
      serializeStringWith esc env pr T start =
        .ok (ks.flatMap (fun k => (if k.2.2.space then [' '] else []) ++ k.2.2.text)) := by
  have hve : (HTree.erase t).value = .element name := by rw [Reach.erase_value, hv]
  obtain ⟨pre, post, hev⟩ := genOutputs_startTag T start rel n _ inScope name hn hs hrel hve
  have hns : (HTree.erase t).nsDecls = absNs f e := by
    unfold absNs Fmap.abs; rw [hg]; exact nsDecls_erase t
  have hat : (HTree.erase t).attrs = absAttrs f e := by
    unfold absAttrs Fmap.abs; rw [hg]; exact attrs_erase t
  rw [hns, hat] at hev
  refine ⟨⟨pre, post, hev⟩, ?_⟩
  intro esc env pr ks hk
  refine ⟨?_, tokens_string esc env pr T start ks hk⟩
  have hm := tokens_events esc env pr T start ks hk
  rw [hev] at hm
  obtain ⟨l1, k2a, h1, _, h2⟩ := List.map_eq_append_iff.mp (by
    simpa only [List.append_assoc] using hm : ks.map (fun k => (k.1, k.2.1)) =
      (pre ++ ([(start ++ rel, Output.startTagOpen name)] ++
        (if rel.isEmpty then extraPrefixes inScope (HTree.erase t) else []).map
          (fun o => (start ++ rel, o)))) ++ _)
  obtain ⟨kd, k2b, h3, h4, h5⟩ := List.map_eq_append_iff.mp h2
  obtain ⟨ka, k2, h6, h7, _⟩ := List.map_eq_append_iff.mp h5
  exact ⟨l1, kd, ka, k2, by rw [h1, h3, h6]; simp, h4, h7⟩

end Fmap
end XotModel
