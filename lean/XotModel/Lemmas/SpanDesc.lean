/-
  The C17 description invariant `DInv` through the run: `Desc` and the frame invariants survive changes of
  the span map outside the keys they read and growth of the tables; name resolution and text runs under one
  more token; the builder operations that add a leaf, extend the last text child, close or open an element;
  every arm of `_parse`, the token loop and the epilogues (`build_desc`); the description of one node of the
  tree (`desc_at`).
-/
import XotModel.Lemmas.BasicFacts
import XotModel.Lemmas.SpanDescDefs
import XotModel.Lemmas.ParseScope
import XotModel.Lemmas.ParseOps

/-! ## What the description does not read

  `Desc` and the frame invariants survive a change of the span map
  outside the keys they read (`Prot`), and growth of the interning tables (`SdEnvApp`); which paths
  are not `Frozen`; closing a frame.
-/

namespace XotModel

/-! ### Tables -/

theorem NameFacts.mono {env env' : Env} (he : SdEnvApp env env') {stack : NsStack} {attr : Bool} {id : Nat}
    {p l : Str} (h : NameFacts env stack attr id p l) : NameFacts env' stack attr id p l := by
  obtain ⟨hm, ns, hn, hl⟩ := h
  obtain ⟨x, hx⟩ := he.pfx
  obtain ⟨z, hz⟩ := he.nm
  refine ⟨by rw [hx]; exact List.mem_append_left _ hm, ns, by rw [hz]; exact getElem?_ext hn, ?_⟩
  rw [hx, idxOf_ext hm]
  exact hl

/-! ### Facts read `g` only at keys of their own path -/

theorem AttrFacts.mono {ts : List Token} {g g' : SpanKey → Option Span} {env env' : Env} (he : SdEnvApp env env')
    {stack : NsStack} {path : Path} {n : Nat} {v : Str} (hg : ∀ kind, g' ⟨path, kind⟩ = g ⟨path, kind⟩)
    (h : AttrFacts ts g env stack path n v) : AttrFacts ts g' env' stack path n v := by
  obtain ⟨p, l, val, sp, hm, h1, h2, h3, h4⟩ := h
  exact ⟨p, l, val, sp, hm, by rw [hg]; exact h1, by rw [hg]; exact h2, h3, h4.mono he⟩

theorem StartFacts.mono {ts : List Token} {g g' : SpanKey → Option Span} {env env' : Env} (he : SdEnvApp env env')
    {stack : NsStack} {path : Path} {id : Nat} {ks : List Tree}
    (hg : ∀ kind, kind ≠ .elementEnd → g' ⟨path, kind⟩ = g ⟨path, kind⟩)
    (h : StartFacts ts g env stack path id ks) : StartFacts ts g' env' stack path id ks := by
  obtain ⟨⟨p, l, sp, hm, h1, h2⟩, ha⟩ := h
  refine ⟨⟨p, l, sp, hm, by rw [hg _ (by simp)]; exact h1, h2.mono he⟩, fun k hk n v hv => ?_⟩
  obtain ⟨p, l, val, sp, hm, h1, h2, h3, h4⟩ := ha k hk n v hv
  exact ⟨p, l, val, sp, hm, by rw [hg _ (by simp)]; exact h1, by rw [hg _ (by simp)]; exact h2, h3, h4.mono he⟩

theorem StartFacts.of_perm {ts : List Token} {g : SpanKey → Option Span} {env : Env}
    {stack : NsStack} {path : Path} {id : Nat} {ks ks' : List Tree} (hsub : ∀ k ∈ ks', k ∈ ks)
    (h : StartFacts ts g env stack path id ks) : StartFacts ts g env stack path id ks' :=
  ⟨h.1, fun k hk => h.2 k (hsub k hk)⟩

theorem NodeFacts.mono {ts : List Token} {g g' : SpanKey → Option Span} {env env' : Env} (he : SdEnvApp env env')
    {stack : NsStack} {path : Path} {v : Value} {ks : List Tree} (hg : ∀ kind, g' ⟨path, kind⟩ = g ⟨path, kind⟩)
    (h : NodeFacts ts g env stack path v ks) : NodeFacts ts g' env' stack path v ks := by
  cases v with
  | element id =>
    obtain ⟨h1, e, sp, hm, hne, h2, h3⟩ := h
    refine ⟨h1.mono he (fun kind _ => hg kind), e, sp, hm, hne, by rw [hg]; exact h2, fun p l hpl => ?_⟩
    obtain ⟨ps, ls, wsp, a, b, c, d⟩ := h3 p l hpl
    exact ⟨ps, ls, wsp, a, by rw [hg]; exact b, c, d⟩
  | text s =>
    obtain ⟨run, sp, h1, h2, h3, h4⟩ := h
    exact ⟨run, sp, h1, h2, h3, by rw [hg]; exact h4⟩
  | comment s =>
    obtain ⟨t, sp, h1, h2, h3⟩ := h
    exact ⟨t, sp, h1, by rw [hg]; exact h2, h3⟩
  | pi id d =>
    obtain ⟨tg, c, sp, h1, h2, h3, h4, h5, h6⟩ := h
    obtain ⟨z, hz⟩ := he.nm
    exact ⟨tg, c, sp, h1, by rw [hg]; exact h2, by rw [hz]; exact getElem?_ext h3, h4,
      fun x hx => by rw [hg]; exact h5 x hx, h6⟩
  | _ => trivial

mutual
theorem desc_mono {ts : List Token} {g g' : SpanKey → Option Span} {env env' : Env} (he : SdEnvApp env env') :
    ∀ (t : Tree) (stack : NsStack) (path : Path), (∀ k, path <+: k.path → g' k = g k) →
      Desc ts g env stack path t → Desc ts g' env' stack path t
  | .node v ks, stack, path, hg, hd => by
    rw [Desc] at hd ⊢
    exact ⟨hd.1.mono he (fun kind => hg _ (List.prefix_refl _)),
      descList_mono he ks _ path 0 (fun k j hk => hg k ((List.prefix_append path [j]).trans hk)) hd.2⟩
/-- The children read only keys strictly below `path`. -/
theorem descList_mono {ts : List Token} {g g' : SpanKey → Option Span} {env env' : Env} (he : SdEnvApp env env') :
    ∀ (ks : List Tree) (stack : NsStack) (path : Path) (i : Nat),
      (∀ k j, (path ++ [j]) <+: k.path → g' k = g k) →
      Desc.descList ts g env stack path i ks → Desc.descList ts g' env' stack path i ks
  | [], _, _, _, _, _ => trivial
  | k :: ks, stack, path, i, hg, hd =>
    ⟨desc_mono he k stack _ (fun x hx => hg x i hx) hd.1,
      descList_mono he ks stack path (i + 1) hg hd.2⟩
end

/-! ### Frames -/

theorem descR_mono {ts : List Token} {g g' : SpanKey → Option Span} {env env' : Env} (he : SdEnvApp env env')
    {stack : NsStack} {path : Path} : ∀ (l : List Tree),
      (∀ k, (∃ i, i < l.length ∧ (path ++ [i]) <+: k.path) → g' k = g k) →
      DescR ts g env stack path l → DescR ts g' env' stack path l
  | [], _, _ => trivial
  | k :: rest, hg, ⟨a, b⟩ =>
    ⟨desc_mono he k stack _ (fun x hx => hg x ⟨rest.length, by simp, hx⟩) a,
      descR_mono he rest (fun x ⟨i, hi, hx⟩ => hg x ⟨i, by simp only [List.length_cons]; omega, hx⟩) b⟩

theorem frameDesc_mono {ts : List Token} {g g' : SpanKey → Option Span} {env env' : Env} (he : SdEnvApp env env')
    {stack : NsStack} {path : Path} {f : Frame}
    (hg1 : ∀ k, (∃ i, i < f.rkids.length ∧ (path ++ [i]) <+: k.path) → g' k = g k)
    (hg2 : ∀ kind, kind ≠ .elementEnd → g' ⟨path, kind⟩ = g ⟨path, kind⟩)
    (h : FrameDesc ts g env stack path f) : FrameDesc ts g' env' stack path f := by
  refine ⟨descR_mono he _ hg1 h.1, ?_⟩
  have h2 := h.2
  cases hv : f.value with
  | element id => rw [hv] at h2; exact ⟨h2.1.mono he hg2, h2.2⟩
  | _ => rw [hv] at h2; exact h2

theorem prot_cons {f : Frame} {rest : List Frame} {k : SpanKey} (h : Prot rest k) : Prot (f :: rest) k := by
  rcases h with h | h
  · exact .inl (.inr h)
  · exact .inr (.inr h)

theorem stackDesc_mono {ts : List Token} {g g' : SpanKey → Option Span} {env env' : Env} (he : SdEnvApp env env') :
    ∀ (l : List Frame) (stack : NsStack), (∀ k, Prot l k → g' k = g k) →
      StackDesc ts g env stack l → StackDesc ts g' env' stack l
  | [], _, _, _ => trivial
  | f :: rest, stack, hg, ⟨a, b⟩ =>
    ⟨frameDesc_mono he (fun k hk => hg k (.inl (.inl hk)))
        (fun kind hkind => hg ⟨framesPath rest, kind⟩ (.inr (.inl ⟨rfl, hkind⟩))) a,
      stackDesc_mono he rest _ (fun k hk => hg k (prot_cons hk)) b⟩

/-- `PfxDesc` reads the span map only at the `ElementStart` keys of the open frames. -/
theorem pfxDesc_mono {ts : List Token} {g g' : SpanKey → Option Span} {env env' : Env} (he : SdEnvApp env env') :
    ∀ (l : List Frame) (ops : List Str), (∀ k, OwnKey l k → g' k = g k) →
      PfxDesc ts g env l ops → PfxDesc ts g' env' l ops
  | [], _, _, _ => trivial
  | f :: rest, ops, hg, h => by
    unfold PfxDesc at h ⊢
    cases hv : f.value with
    | element id =>
      rw [hv] at h
      simp only at h ⊢
      obtain ⟨⟨p, l, sp, a, b, c, ns, d⟩, h2⟩ := h
      obtain ⟨z, hz⟩ := he.nm
      exact ⟨⟨p, l, sp, a, by rw [hg _ (.inl ⟨rfl, by simp⟩)]; exact b, c, ns,
        by rw [hz]; exact getElem?_ext d⟩,
        pfxDesc_mono he rest _ (fun k hk => hg k (.inr hk)) h2⟩
    | _ => rw [hv] at h; exact pfxDesc_mono he rest _ (fun k hk => hg k (.inr hk)) h

theorem pfxDesc_head {ts : List Token} {g : SpanKey → Option Span} {env : Env} {f f' : Frame} {rest : List Frame}
    {ops : List Str} (hv : f'.value = f.value) (h : PfxDesc ts g env (f :: rest) ops) :
    PfxDesc ts g env (f' :: rest) ops := by
  unfold PfxDesc at h ⊢
  rw [hv]
  exact h

theorem pfxDesc_cons_element {ts : List Token} {g : SpanKey → Option Span} {env : Env} {f : Frame}
    {rest : List Frame} {ops : List Str} {id : Nat} (hv : f.value = .element id) :
    PfxDesc ts g env (f :: rest) ops ↔
      (∃ p l sp, Token.elementStart p l sp ∈ ts ∧
        g ⟨framesPath rest, .elementStart⟩ = some (Span.fromPrefixName p l) ∧ ops.head? = some p.text ∧
        ∃ ns, env.names[id]? = some (l.text, ns)) ∧ PfxDesc ts g env rest ops.tail := by
  rw [PfxDesc, hv]

/-! ### Paths -/

theorem framesPath_cons (f : Frame) (rest : List Frame) :
    framesPath (f :: rest) = framesPath rest ++ [f.rkids.length] := by
  simp [framesPath]

theorem framesPath_length (l : List Frame) : (framesPath l).length = l.length := by
  simp [framesPath]

theorem prefix_snoc_ne {a x r : Path} {i j : Nat} (h1 : (a ++ [i]) <+: x) (h2 : x <+: a ++ j :: r) : i = j := by
  have h := h1.trans h2
  have e : a ++ j :: r = a ++ ([j] ++ r) := by simp
  rw [e, List.prefix_append_right_inj] at h
  obtain ⟨t, ht⟩ := h
  simp only [List.cons_append, List.nil_append, List.cons.injEq] at ht
  exact ht.1

/-- A prefix of (an extension of) the path of the top frame is in no finished subtree. -/
theorem not_frozen : ∀ (l : List Frame) (x r : Path), x <+: framesPath l ++ r → ¬ Frozen l x
  | [], _, _, _, h => h
  | f :: rest, x, r, hx, h => by
    rw [framesPath_cons, List.append_assoc] at hx
    rcases h with ⟨i, hi, hp⟩ | h
    · have := prefix_snoc_ne hp hx
      omega
    · exact not_frozen rest x _ hx h

theorem not_ownKey_of_length : ∀ (l : List Frame) (k : SpanKey), l.length ≤ k.path.length → ¬ OwnKey l k
  | [], _, _, h => h
  | f :: rest, k, hl, h => by
    rcases h with ⟨hp, _⟩ | h
    · have := framesPath_length rest
      rw [← hp] at this
      simp only [List.length_cons] at hl
      omega
    · exact not_ownKey_of_length rest k (by simp only [List.length_cons] at hl; omega) h

/-- Keys at the path of the NEXT node (`framesPath l`), or below it, are not protected. -/
theorem not_prot_new (l : List Frame) (k : SpanKey) (r : Path) (hk : k.path = framesPath l ++ r) : ¬ Prot l k := by
  rintro (h | h)
  · exact not_frozen l k.path r (by rw [hk]; exact List.prefix_refl _) h
  · exact not_ownKey_of_length l k (by rw [hk, List.length_append, framesPath_length]; omega) h

/-- The `ElementEnd` key of the current node is not protected. -/
theorem not_prot_end (f : Frame) (rest : List Frame) : ¬ Prot (f :: rest) ⟨framesPath rest, .elementEnd⟩ := by
  rintro (h | h)
  · exact not_frozen (f :: rest) (framesPath rest) [f.rkids.length]
      (by rw [framesPath_cons, List.append_assoc]; exact List.prefix_append _ _) h
  · rcases h with ⟨_, hk⟩ | h
    · exact hk rfl
    · exact not_ownKey_of_length rest ⟨framesPath rest, .elementEnd⟩ (by simp [framesPath_length]) h

/-! ### Closing -/

theorem descList_snoc {ts : List Token} {g : SpanKey → Option Span} {env : Env} (stack : NsStack) (path : Path)
    (k : Tree) : ∀ (l : List Tree) (i : Nat), Desc.descList ts g env stack path i l →
      Desc ts g env stack (path ++ [i + l.length]) k → Desc.descList ts g env stack path i (l ++ [k]) := by
  intro l
  induction l with
  | nil => intro i _ hk; exact ⟨by simpa using hk, trivial⟩
  | cons x xs ih =>
    intro i h hk
    refine ⟨h.1, ih (i + 1) h.2 ?_⟩
    have : i + 1 + xs.length = i + (x :: xs).length := by simp; omega
    rw [this]; exact hk

theorem descList_of_R {ts : List Token} {g : SpanKey → Option Span} {env : Env} (stack : NsStack) (path : Path) :
    ∀ rk : List Tree, DescR ts g env stack path rk → Desc.descList ts g env stack path 0 rk.reverse := by
  intro rk
  induction rk with
  | nil => intro _; trivial
  | cons k rest ih =>
    intro h
    rw [List.reverse_cons]
    exact descList_snoc stack path k _ 0 (ih h.2) (by simpa using h.1)

theorem sdDeclsOf_append (a b : List Tree) : sdDeclsOf (a ++ b) = sdDeclsOf a ++ sdDeclsOf b := by
  simp [sdDeclsOf, List.filterMap_append]

theorem declsOf_reverse_cons {k : Tree} (l : List Tree) (h : ∀ p n, k.value ≠ .namespace p n) :
    sdDeclsOf (k :: l).reverse = sdDeclsOf l.reverse := by
  rw [List.reverse_cons, sdDeclsOf_append]
  suffices sdDeclsOf [k] = [] by rw [this, List.append_nil]
  rw [sdDeclsOf, List.filterMap_cons]
  cases hv : k.value with
  | «namespace» p n => exact absurd hv (h p n)
  | _ => rfl

end XotModel

/-! ## Tables, text runs, document order

  What does not look at the tree: interning only appends (`SdEnvApp`) and name resolution delivers
  `NameFacts`; text runs (`runValue`, `RunOk`, `OpenText`) under one more token; the order of paths.
-/

namespace XotModel

/-! ### Interning -/

theorem sd_internPrefix_app (e : Env) (p : Str) : SdEnvApp e (e.internPrefix p).1 :=
  ⟨internIn_ext e.prefixes p, ⟨[], by simp [Env.internPrefix]⟩, ⟨[], by simp [Env.internPrefix]⟩⟩

theorem sd_internNamespace_app (e : Env) (u : Str) : SdEnvApp e (e.internNamespace u).1 :=
  ⟨⟨[], by simp [Env.internNamespace]⟩, internIn_ext e.namespaces u, ⟨[], by simp [Env.internNamespace]⟩⟩

theorem sd_internName_app (e : Env) (a : Str) (ns : Nat) : SdEnvApp e (e.internName a ns).1 :=
  ⟨⟨[], by simp [Env.internName]⟩, ⟨[], by simp [Env.internName]⟩, internIn_ext e.names (a, ns)⟩

theorem elementNameId_facts {env env1 : Env} {stack : NsStack} {pfx name : Str} {sp : Span} {id : Nat}
    (h : elementNameId env stack pfx name sp = .ok (env1, id)) :
    SdEnvApp env env1 ∧ NameFacts env1 stack false id pfx name := by
  obtain ⟨ns, hns, he⟩ := BuilderCases.elementNameId_ok h
  obtain ⟨rfl, rfl⟩ := Prod.ext_iff.mp he
  have hm := internIn_mem env.prefixes pfx
  have hidx := internIn_idx env.prefixes pfx
  refine ⟨(sd_internPrefix_app env pfx).trans (sd_internName_app _ name ns), hm, ns, internName_get _ name ns, ?_⟩
  rw [if_neg (by simp)]
  show lookupPrefix stack ((internIn env.prefixes pfx).1.idxOf pfx) = some ns
  rw [hidx]; exact hns

theorem attributeNameId_facts {env env1 : Env} {stack : NsStack} {pfx name : Str} {sp : Span} {id : Nat}
    (h : attributeNameId env stack pfx name sp = .ok (env1, id)) :
    SdEnvApp env env1 ∧ NameFacts env1 stack true id pfx name := by
  obtain ⟨ns, hns, he⟩ := BuilderCases.attributeNameId_ok h
  obtain ⟨rfl, rfl⟩ := Prod.ext_iff.mp he
  have hm := internIn_mem env.prefixes pfx
  have hidx := internIn_idx env.prefixes pfx
  refine ⟨(sd_internPrefix_app env pfx).trans (sd_internName_app _ name ns), hm, ns, internName_get _ name ns, ?_⟩
  show if true = true ∧ (internIn env.prefixes pfx).1.idxOf pfx = Env.emptyPrefix then ns = Env.noNamespace
    else lookupPrefix stack ((internIn env.prefixes pfx).1.idxOf pfx) = some ns
  simp only [hidx, eq_self, true_and]
  exact hns

/-! ### Runs -/

theorem runValue_append (a b : List Token) : ∀ (va vb : Str), runValue a = some va → runValue b = some vb →
    runValue (a ++ b) = some (va ++ vb) := by
  fun_induction runValue a with
  | case1 => intro va vb ha hb; cases ha; exact hb
  | case2 t r v w hr hp ih =>
    intro va vb ha hb
    cases ha
    rw [List.cons_append, runValue, hp, ih w vb hr hb, List.append_assoc]
  | case3 => intro va vb ha; cases ha
  | case4 t sp r ih =>
    intro va vb ha hb
    obtain ⟨w, hr, rfl⟩ := Option.map_eq_some_iff.mp ha
    rw [List.cons_append, runValue, ih w vb hr hb, Option.map_some, List.append_assoc]
  | case5 head r h1 h2 ih =>
    intro va vb ha hb
    rw [List.cons_append, runValue.eq_4 _ _ h1 h2]
    exact ih va vb ha hb

theorem replaceCrLf_nil : replaceCrLf [] = [] := by unfold replaceCrLf; rfl

theorem runValue_passive : ∀ (l : List Token), (∀ t ∈ l, t.passive = true) → runValue l = some [] := by
  intro l
  induction l with
  | nil => intro _; rfl
  | cons t r ih =>
    intro h
    have ht := h t (by simp)
    have hr := ih (fun x hx => h x (by simp [hx]))
    cases t with
    | text s => simp [Token.passive] at ht
    | cdata s sp =>
      simp only [Token.passive] at ht
      have : s.text = [] := by simpa using ht
      simp only [runValue, hr, this, replaceCrLf_nil, replaceCr]
      rfl
    | _ => simp only [runValue]; exact hr

theorem Token.passive_isRunTok {t : Token} (h : t.passive = true) : t.isRunTok = true := by
  simp [Token.isRunTok, h]

theorem runOk_single {t : Token} {sp : StrSpan} (hr : t.isReal = true) (hs : t.textSpan? = some sp) :
    RunOk [t] sp.span :=
  ⟨fun x hx => by simp only [List.mem_singleton] at hx; subst hx; simp [Token.isRunTok, hr],
    ⟨t, [], sp, rfl, hr, hs, rfl⟩, ⟨[], t, sp, rfl, hr, hs, rfl⟩⟩

theorem RunOk.extend {run skips : List Token} {sp : Span} {t : Token} {st : StrSpan} (h : RunOk run sp)
    (hsk : ∀ x ∈ skips, x.passive = true) (hr : t.isReal = true) (hs : t.textSpan? = some st) :
    RunOk (run ++ skips ++ [t]) ⟨sp.start, st.stop⟩ := by
  obtain ⟨t0, rest, f, he, h1, h2, h3⟩ := h.first
  refine ⟨?_, ⟨t0, rest ++ skips ++ [t], f, by rw [he]; simp, h1, h2, h3⟩, ⟨run ++ skips, t, st, rfl, hr, hs, rfl⟩⟩
  intro x hx
  simp only [List.mem_append, List.mem_singleton] at hx
  rcases hx with (hx | hx) | rfl
  · exact h.toks x hx
  · exact Token.passive_isRunTok (hsk x hx)
  · simp [Token.isRunTok, hr]

theorem OpenText.toFacts {ts done : List Token} {g : SpanKey → Option Span} {path : Path} {v : Str}
    (hpre : done <+: ts) (h : OpenText done g path v) : TextFacts ts g path v := by
  obtain ⟨run, skips, sp, hsuf, _, hok, hv, hg⟩ := h
  refine ⟨run, sp, ?_, hok, hv, hg⟩
  exact (List.infix_append_left.trans hsuf.isInfix).trans hpre.isInfix

theorem OpenText.skip {done : List Token} {g : SpanKey → Option Span} {path : Path} {v : Str} {t : Token}
    (ht : t.passive = true) (h : OpenText done g path v) : OpenText (done ++ [t]) g path v := by
  obtain ⟨run, skips, sp, hsuf, hsk, hok, hv, hg⟩ := h
  refine ⟨run, skips ++ [t], sp, ?_, ?_, hok, hv, hg⟩
  · obtain ⟨pre, hp⟩ := hsuf
    exact ⟨pre, by rw [← hp]; simp⟩
  · intro x hx
    simp only [List.mem_append, List.mem_singleton] at hx
    rcases hx with hx | rfl
    · exact hsk x hx
    · exact ht

theorem OpenText.congr {done : List Token} {g g' : SpanKey → Option Span} {path : Path} {v : Str}
    (hg : g' ⟨path, .text⟩ = g ⟨path, .text⟩) (h : OpenText done g path v) : OpenText done g' path v := by
  obtain ⟨run, skips, sp, hsuf, hsk, hok, hv, hgg⟩ := h
  exact ⟨run, skips, sp, hsuf, hsk, hok, hv, by rw [hg]; exact hgg⟩

/-! ### Finished subtrees, document order -/

theorem Frozen.tail {f : Frame} {rest : List Frame} {x : Path} (h : Frozen rest x) : Frozen (f :: rest) x := .inr h

/-- One more child on the top frame: the node that would be made next comes later. -/
theorem framesPath_lt_grow {f f' : Frame} (rest : List Frame) (hl : f.rkids.length < f'.rkids.length) :
    framesPath (f :: rest) < framesPath (f' :: rest) := by
  rw [framesPath_cons, framesPath_cons]
  exact List.append_left_lt (List.cons_lt_cons_iff.mpr (.inl hl))

/-- A new frame on top: what is made next lies below the node made last. -/
theorem framesPath_lt_push (f : Frame) (l : List Frame) : framesPath l < framesPath (f :: l) := by
  have := List.append_left_lt (l₁ := framesPath l) (List.nil_lt_cons f.rkids.length [])
  rwa [List.append_nil, ← framesPath_cons] at this

/-- The top frame closed into its parent: everything below the closed node comes before its next sibling. -/
theorem framesPath_lt_pop {c p p' : Frame} (rest : List Frame) (hl : p.rkids.length < p'.rkids.length) :
    framesPath (c :: p :: rest) < framesPath (p' :: rest) := by
  rw [framesPath_cons, framesPath_cons, framesPath_cons, List.append_assoc]
  exact List.append_left_lt (List.cons_lt_cons_iff.mpr (.inl hl))

end XotModel

/-! ## Leaves, text, closing -/

namespace XotModel

open BuilderCases

/-! ### The next node -/

theorem nextPath_eq (b : Builder) : framesPath (b.cur :: b.parents) = b.curPath ++ [b.cur.rkids.length] := by
  rw [framesPath_cons, curPath_eq]

/-- A key whose path is not the next node's path is not touched ⇒ protected keys are not touched. -/
theorem prot_of_next {b : Builder} {g' : SpanKey → Option Span}
    (hget : ∀ k : SpanKey, k.path ≠ b.curPath ++ [b.cur.rkids.length] → g' k = b.spans.get k) :
    ∀ k, Prot (b.cur :: b.parents) k → g' k = b.spans.get k := by
  intro k hk
  refine hget k (fun he => ?_)
  exact not_prot_new (b.cur :: b.parents) k [] (by rw [he, nextPath_eq]; simp) hk

/-- `m'` differs from `m` only in keys of the node at `node`: what a step that makes a node records. -/
structure WritesAt (node : Path) (m m' : SpanMap) : Prop where
  get : ∀ k : SpanKey, k.path ≠ node → m'.get k = m.get k
  keys : ∀ k, HasKey m' k → HasKey m k ∨ k.path = node

theorem WritesAt.refl (node : Path) (m : SpanMap) : WritesAt node m m := ⟨fun _ _ => rfl, fun _ h => .inl h⟩

theorem WritesAt.add {node : Path} {m m' : SpanMap} (h : WritesAt node m m') (kind : SpanKind) (s : Span) :
    WritesAt node m (m'.add ⟨node, kind⟩ s) := by
  refine ⟨fun k hk => (get_add_other _ _ _ _ (fun he => hk (by rw [he]))).trans (h.get k hk), fun k hk => ?_⟩
  rcases hasKey_add_cases hk with rfl | hk
  · exact .inr rfl
  · exact h.keys k hk

theorem WritesAt.addAttributeSpans {node : Path} {m : SpanMap} : ∀ (l : List (Nat × Span × Span)) {m' : SpanMap},
    WritesAt node m m' → WritesAt node m (m'.addAttributeSpans node l)
  | [], _, h => h
  | (n, s1, s2) :: rest, _, h =>
    WritesAt.addAttributeSpans rest ((h.add (.attributeName n) s1).add (.attributeValue n) s2)

/-! ### One more finished child -/

theorem frameDesc_cons {ts : List Token} {g : SpanKey → Option Span} {env : Env} {stack : NsStack} {path : Path}
    {f : Frame} {k : Tree} (h : FrameDesc ts g env stack path f)
    (hk : Desc ts g env stack (path ++ [f.rkids.length]) k)
    (hattr : ∀ n w, k.value ≠ .attribute n w) (hns : ∀ p n, k.value ≠ .namespace p n) :
    FrameDesc ts g env stack path { f with rkids := k :: f.rkids } := by
  refine ⟨⟨hk, h.1⟩, ?_⟩
  have h2 := h.2
  show (match f.value with
    | .element id => StartFacts ts g env stack path id (k :: f.rkids) ∧
        stack.head? = some (sdDeclsOf (k :: f.rkids).reverse)
    | _ => stack = baseStack)
  cases hv : f.value with
  | element id =>
    rw [hv] at h2
    refine ⟨⟨h2.1.1, fun x hx n v hxv => ?_⟩, by rw [declsOf_reverse_cons _ hns]; exact h2.2⟩
    simp only [List.mem_cons] at hx
    rcases hx with rfl | hx
    · exact absurd hxv (hattr n v)
    · exact h2.1.2 x hx n v hxv
  | _ => rw [hv] at h2; exact h2

theorem frameDesc_tail {ts : List Token} {g : SpanKey → Option Span} {env : Env} {stack : NsStack} {path : Path}
    {f : Frame} {k : Tree} (hns : ∀ p n, k.value ≠ .namespace p n)
    (h : FrameDesc ts g env stack path { f with rkids := k :: f.rkids }) :
    FrameDesc ts g env stack path f ∧ Desc ts g env stack (path ++ [f.rkids.length]) k := by
  refine ⟨⟨h.1.2, ?_⟩, h.1.1⟩
  have h2 : (match f.value with
    | .element id => StartFacts ts g env stack path id (k :: f.rkids) ∧
        stack.head? = some (sdDeclsOf (k :: f.rkids).reverse)
    | _ => stack = baseStack) := h.2
  cases hv : f.value with
  | element id =>
    rw [hv] at h2
    exact ⟨h2.1.of_perm fun x hx => List.mem_cons_of_mem _ hx, by rw [← declsOf_reverse_cons _ hns]; exact h2.2⟩
  | _ => rw [hv] at h2; exact h2

theorem desc_leaf {ts : List Token} {g : SpanKey → Option Span} {env : Env} {stack : NsStack} {path : Path}
    {v : Value} (h : NodeFacts ts g env (innerStack v [] stack) path v []) :
    Desc ts g env stack path (.node v []) := by
  rw [Desc]; exact ⟨h, trivial⟩

/-! ### `add` of a leaf -/

theorem addLeaf_dinv {ts done done' : List Token} {b : Builder} (h : DInv ts done b)
    (hpre : done' <+: ts) (v : Value) (m' : SpanMap) (env' : Env) (he : SdEnvApp b.env env')
    (hattr : ∀ n w, v ≠ .attribute n w) (hns : ∀ p n, v ≠ .namespace p n)
    (hw : WritesAt (b.curPath ++ [b.cur.rkids.length]) b.spans m')
    (hfacts : NodeFacts ts m'.get env' (innerStack v [] b.nsStack) (b.curPath ++ [b.cur.rkids.length]) v [])
    (hopn : ∀ s, v = .text s → OpenText done' m'.get (b.curPath ++ [b.cur.rkids.length]) s) :
    DInv ts done' { (b.addLeaf v).1 with spans := m', env := env' } := by
  have hprot := prot_of_next (g' := m'.get) hw.get
  obtain ⟨hcur, hpar⟩ := stackDesc_mono he _ _ hprot h.stack
  have hpfx : PfxDesc ts m'.get env' ({ b.cur with rkids := .node v [] :: b.cur.rkids } :: b.parents) b.openPrefixes :=
    pfxDesc_head (f := b.cur) rfl (pfxDesc_mono he _ _ (fun k hk => hprot k (.inr hk)) h.pfx)
  refine ⟨hpre, ⟨frameDesc_cons hcur (desc_leaf (by rw [← curPath_eq]; exact hfacts)) hattr hns, hpar⟩, hpfx, h.eb,
    ?_, ?_⟩
  · intro s ks more hr
    simp only [Builder.addLeaf, List.cons.injEq, Tree.node.injEq] at hr
    obtain ⟨⟨hv, _⟩, hm⟩ := hr
    subst hm
    exact hopn s hv
  · intro k hk
    have hnext : framesPath (b.cur :: b.parents) <
        framesPath ({ b.cur with rkids := .node v [] :: b.cur.rkids } :: b.parents) :=
      framesPath_lt_grow _ (Nat.lt_succ_self _)
    rcases hw.keys k hk with hk | hk
    · exact List.lt_trans (h.seen k hk) hnext
    · rw [hk, ← nextPath_eq]
      exact hnext

/-! ### Extending the last text child -/

/-- `consolidate_text` + `extend_text_span`: the token `t` (text, or CDATA with content) extends the text child. -/
theorem mergeText_dinv {ts done : List Token} {b : Builder} (h : DInv ts done b) {t : Token} {tsp : StrSpan}
    {content s : Str} {ks more : List Tree}
    (hpre : done ++ [t] <+: ts) (hreal : t.isReal = true) (hspan : t.textSpan? = some tsp)
    (hval : runValue [t] = some content) (hr : b.cur.rkids = .node (.text s) ks :: more) :
    DInv ts (done ++ [t]) { b with
      cur := { b.cur with rkids := .node (.text (s ++ content)) ks :: more }
      spans := b.spans.extendText (b.curPath ++ [more.length]) tsp.span } := by
  obtain ⟨run, skips, sp, hsuf, hsk, hok, hv, hg⟩ := h.opn s ks more hr
  rw [extendText_some hg]
  have hkey : ∀ k : SpanKey, k ≠ ⟨b.curPath ++ [more.length], .text⟩ →
      (b.spans.add ⟨b.curPath ++ [more.length], .text⟩ ⟨sp.start, tsp.span.stop⟩).get k = b.spans.get k :=
    fun k hk => get_add_other _ _ _ _ hk
  -- the new description of the text node
  have hopen : OpenText (done ++ [t]) (b.spans.add ⟨b.curPath ++ [more.length], .text⟩ ⟨sp.start, tsp.span.stop⟩).get
      (b.curPath ++ [more.length]) (s ++ content) := by
    refine ⟨run ++ skips ++ [t], [], ⟨sp.start, tsp.stop⟩, ?_, (fun x hx => by cases hx),
      hok.extend hsk hreal hspan, ?_, get_add_self _ _ _⟩
    · obtain ⟨pre, hp⟩ := hsuf
      exact ⟨pre, by rw [← hp]; simp⟩
    · have h1 := runValue_append run skips s [] hv (runValue_passive skips hsk)
      rw [List.append_nil] at h1
      exact runValue_append (run ++ skips) [t] s content h1 hval
  obtain ⟨hcur, hpar⟩ := h.stack
  have hlen : (b.cur.rkids).length = more.length + 1 := by rw [hr]; rfl
  have hcp : b.curPath = framesPath b.parents := rfl
  refine ⟨hpre, ⟨?_, ?_⟩, ?_, h.eb, ?_, ?_⟩
  · -- the current frame: the text child taken off, the rest read in the new map, the extended child put on
    have hcur' : FrameDesc ts b.spans.get b.env b.nsStack (framesPath b.parents)
        { ({ b.cur with rkids := more } : Frame) with rkids := .node (.text s) ks :: more } := by
      rw [← hr]; exact hcur
    obtain ⟨hf0, hhead⟩ := frameDesc_tail (by intro p n hh; cases hh) hcur'
    refine frameDesc_cons (f := { b.cur with rkids := more }) (frameDesc_mono (SdEnvApp.refl _) ?_ ?_ hf0) ?_
      (by intro n w hh; cases hh) (by intro p n hh; cases hh)
    · intro k ⟨i, hi, hpf⟩
      refine hkey k (fun hkk => ?_)
      rw [hkk, hcp] at hpf
      exact Nat.ne_of_lt hi (prefix_snoc_ne (r := []) hpf (List.prefix_refl _))
    · intro kind _
      refine hkey _ (fun hkk => ?_)
      have := congrArg (fun k : SpanKey => k.path.length) hkk
      simp [hcp] at this
    · rw [Desc] at hhead ⊢
      refine ⟨by rw [← hcp]; exact hopen.toFacts hpre, ?_⟩
      refine descList_mono (SdEnvApp.refl _) ks _ _ 0 (fun k j hk => hkey k (fun hkk => ?_)) hhead.2
      rw [hkk, hcp] at hk
      exact Repair.snoc_not_prefix_self _ j hk
  · refine stackDesc_mono (SdEnvApp.refl _) b.parents _ (fun k hk => hkey k (fun hkk => ?_)) hpar
    exact not_prot_new b.parents k [more.length] (by rw [hkk, hcp]) hk
  · refine pfxDesc_head (f := b.cur) rfl (pfxDesc_mono (SdEnvApp.refl _) _ _ (fun k hk => hkey k (fun hkk => ?_)) h.pfx)
    refine not_ownKey_of_length (b.cur :: b.parents) k ?_ hk
    rw [hkk]
    simp [Builder.curPath]
  · intro s' ks' more' hr'
    simp only [List.cons.injEq, Tree.node.injEq, Value.text.injEq] at hr'
    obtain ⟨⟨rfl, _⟩, rfl⟩ := hr'
    exact hopen
  · intro k hk
    have : HasKey b.spans k := by
      rcases hasKey_add_cases hk with rfl | hk
      · exact hasKey_of_get hg
      · exact hk
    have := h.seen k this
    rw [framesPath_cons, hlen] at this
    rw [framesPath_cons]
    exact this

/-! ### Closing the current element -/

theorem desc_close {ts : List Token} {g : SpanKey → Option Span} {env : Env} {stack : NsStack} {path : Path}
    {f : Frame} {id : Nat} (hv : f.value = .element id) (h : FrameDesc ts g env stack path f)
    (hend : EndFacts ts g path) : Desc ts g env stack.tail path f.close := by
  have h2 := h.2
  rw [hv] at h2
  have hst : sdDeclsOf f.rkids.reverse :: stack.tail = stack := by
    cases hs : stack with
    | nil => rw [hs] at h2; simp at h2
    | cons d rest => rw [hs] at h2; simp only [List.head?_cons, Option.some.injEq] at h2; rw [h2.2]; rfl
  unfold Frame.close
  rw [Desc, hv]
  show NodeFacts ts g env (sdDeclsOf f.rkids.reverse :: stack.tail) path (.element id) f.rkids.reverse ∧
    Desc.descList ts g env (sdDeclsOf f.rkids.reverse :: stack.tail) path 0 f.rkids.reverse
  rw [hst]
  exact ⟨⟨h2.1.of_perm (fun k hk => by simpa using hk), hend⟩, descList_of_R stack path _ h.1⟩

/-- `close_element` / `close_element_immediate` after the name checks: the current element, whose
    start tag is described, moves under its parent and gets its `ElementEnd` span. -/
theorem leave_dinv {ts done done' : List Token} {b b' : Builder} (h : DInv ts done b) (hpre : done' <+: ts)
    {id : Nat} (hel : b.cur.value = .element id) {e : ElementEnd} {sp : StrSpan}
    (htok : Token.elementEnd e sp ∈ ts) (hne : e ≠ .open) {env1 : Env} (he : SdEnvApp b.env env1)
    (hlink : ∀ p l, e = .close p l →
      b.openPrefixes.head? = some p.text ∧ ∃ ns, env1.names[id]? = some (l.text, ns))
    (hr : ({ b with env := env1, nsStack := b.nsStack.tail, openPrefixes := b.openPrefixes.tail } : Builder).leave
      b.curPath sp = .ok b') : DInv ts done' b' := by
  obtain ⟨p, rest, hp, rfl⟩ := Builder.leave_ok hr
  replace hp : b.parents = p :: rest := hp
  have hcp : b.curPath = framesPath (p :: rest) := by rw [curPath_eq, hp]
  have hkey : ∀ k : SpanKey, k ≠ ⟨b.curPath, .elementEnd⟩ →
      (b.spans.add ⟨b.curPath, .elementEnd⟩ sp.span).get k = b.spans.get k :=
    fun k hk => get_add_other _ _ _ _ hk
  have hprot : ∀ k, Prot (b.cur :: p :: rest) k →
      (b.spans.add ⟨b.curPath, .elementEnd⟩ sp.span).get k = b.spans.get k := by
    intro k hk
    refine hkey k (fun hkk => ?_)
    rw [hkk, hcp] at hk
    exact not_prot_end b.cur (p :: rest) hk
  obtain ⟨_, hst, hpf0, heb, _, hseen⟩ := h
  rw [hp] at hst hpf0 hseen
  -- every frame read in the new map
  obtain ⟨hc', hpf', hrest⟩ := stackDesc_mono he _ _ hprot hst
  have hos : outerStack b.cur.value b.nsStack = b.nsStack.tail := by rw [hel]; rfl
  rw [hos] at hpf' hrest
  obtain ⟨⟨ps, ls, wsp, hstok, hsg, hshead, nss, hsname⟩, hprest⟩ :=
    (pfxDesc_cons_element hel).mp (pfxDesc_mono he _ _ (fun k hk => hprot k (.inr hk)) hpf0)
  have hlnk : EndLink ts (b.spans.add ⟨b.curPath, .elementEnd⟩ sp.span).get (framesPath (p :: rest)) e := by
    intro q l hql
    obtain ⟨hh, ns', hn'⟩ := hlink q l hql
    rw [hshead] at hh
    rw [hsname] at hn'
    exact ⟨ps, ls, wsp, hstok, hsg, Option.some.inj hh, congrArg Prod.fst (Option.some.inj hn')⟩
  have hclosed := desc_close hel hc' ⟨e, sp, htok, hne, by rw [← hcp]; exact get_add_self _ _ _, hlnk⟩
  have hval : b.cur.close.value = .element id := hel
  refine ⟨hpre, ⟨?_, hrest⟩, pfxDesc_head (f := p) rfl hprest, heb, ?_, ?_⟩
  · exact frameDesc_cons hpf' (by rw [← framesPath_cons]; exact hclosed)
      (by rw [hval]; intro n w hh; cases hh) (by rw [hval]; intro q n hh; cases hh)
  · intro s ks more hr'
    simp only [List.cons.injEq] at hr'
    have := congrArg Tree.value hr'.1
    rw [hval] at this
    cases this
  · intro k hk
    rcases hasKey_add_cases hk with rfl | hk
    · rw [hcp]
      exact framesPath_lt_grow rest (Nat.lt_succ_self _)
    · exact List.lt_trans (hseen k hk) (framesPath_lt_pop rest (Nat.lt_succ_self _))

end XotModel

/-! ## Opening an element

  The attribute loop (name resolution, xml:id normalisation, `attribute_spans`) and the new frame.
-/

namespace XotModel

open BuilderCases

/-! ### `add_attribute_spans` -/

/-- With pairwise different name ids every entry decides its two keys. -/
theorem get_addAttributeSpans_mem (node : Path) : ∀ (l : List (Nat × Span × Span)) (m : SpanMap),
    (l.map (fun a => a.1)).Nodup → ∀ n s1 s2, (n, s1, s2) ∈ l →
      (m.addAttributeSpans node l).get ⟨node, .attributeName n⟩ = some s1 ∧
      (m.addAttributeSpans node l).get ⟨node, .attributeValue n⟩ = some s2 := by
  intro l
  induction l with
  | nil => intro m _ n s1 s2 h; cases h
  | cons a rest ih =>
    intro m hn n s1 s2 hmem
    obtain ⟨x, t1, t2⟩ := a
    simp only [List.map_cons, List.nodup_cons] at hn
    simp only [SpanMap.addAttributeSpans]
    simp only [List.mem_cons, Prod.mk.injEq] at hmem
    rcases hmem with ⟨rfl, rfl, rfl⟩ | hmem
    · have hnot : ∀ a ∈ rest, a.1 ≠ n := by
        intro a ha he
        exact hn.1 (by rw [← he]; exact List.mem_map_of_mem ha)
      rw [get_addAttributeSpans_notin node _ rest _ (fun a ha => ⟨by simp [Ne.symm (hnot a ha)], by simp⟩),
        get_addAttributeSpans_notin node _ rest _ (fun a ha => ⟨by simp, by simp [Ne.symm (hnot a ha)]⟩)]
      refine ⟨?_, get_add_self _ _ _⟩
      rw [get_add_other _ _ _ _ (by simp), get_add_self]
    · exact ih _ hn.2 n s1 s2 hmem

/-! ### The attribute loop -/

/-- What the loop has established for the attribute children made so far. -/
structure AttrInv (ts : List Token) (stack : NsStack) (st : AttrLoop) : Prop where
  names : st.aspans.map (fun a => a.1) = st.seenNames
  nodup : st.seenNames.Nodup
  kids : ∀ k ∈ st.rkids, ∀ n v, k.value = .attribute n v →
    ∃ p l val sp, Token.attribute p l val sp ∈ ts ∧ (n, Span.fromPrefixName p l, val.span) ∈ st.aspans ∧
      (∃ raw, parseContentGo true val.start 0 val.text = .ok raw ∧ v = xmlIdValue n raw) ∧
      NameFacts st.env stack true n p.text l.text
  leaves : ∀ k ∈ st.rkids, k.kids = [] ∧ k.value.phase < 2

theorem addAttributes_inv {ts : List Token} (stack : NsStack) (node : Path) (abs : List AttributeBuilder)
    (st st' : AttrLoop) (habs : ∀ ab ∈ abs, AbFacts ts ab) (h : AttrInv ts stack st)
    (hr : addAttributes stack node st abs = .ok st') :
    AttrInv ts stack st' ∧ SdEnvApp st.env st'.env ∧
      sdDeclsOf st'.rkids.reverse = sdDeclsOf st.rkids.reverse := by
  refine addAttributes_ok_induct (P := fun s => AttrInv ts stack s ∧ SdEnvApp st.env s.env ∧
    sdDeclsOf s.rkids.reverse = sdDeclsOf st.rkids.reverse) ?_ ⟨h, SdEnvApp.refl _, rfl⟩ hr
  intro s ab env1 nameId hm hn hnotin _ ⟨hs, happ0, hdecl⟩
  obtain ⟨happ, hname⟩ := attributeNameId_facts hn
  obtain ⟨p, l, val, sp, htok, e1, e2, e3, e4, e5⟩ := habs ab hm
  refine ⟨⟨?_, ?_, ?_, ?_⟩, happ0.trans happ, (declsOf_reverse_cons _ (by intro q n hh; cases hh)).trans hdecl⟩
  · simp only [AttrLoop.push, List.map_append, List.map_cons, List.map_nil, hs.names]
  · rw [AttrLoop.push, List.nodup_append]
    refine ⟨hs.nodup, by simp, ?_⟩
    intro a ha c hc
    simp only [List.mem_singleton] at hc
    subst hc
    intro hac; subst hac
    exact hnotin ha
  · intro k hk n v hkv
    simp only [AttrLoop.push, List.mem_cons] at hk
    rcases hk with rfl | hk
    · simp only [Tree.value, Value.attribute.injEq] at hkv
      obtain ⟨rfl, rfl⟩ := hkv
      refine ⟨p, l, val, sp, htok, ?_, ⟨ab.value, e5, rfl⟩, ?_⟩
      · rw [← e3, ← e4]
        exact List.mem_append_right _ (List.mem_singleton.mpr rfl)
      · rw [← e1, ← e2]; exact hname
    · obtain ⟨p', l', val', sp', a1, a2, a3, a4⟩ := hs.kids k hk n v hkv
      exact ⟨p', l', val', sp', a1, by simp [AttrLoop.push, a2], a3, a4.mono happ⟩
  · intro k hk
    simp only [AttrLoop.push, List.mem_cons] at hk
    rcases hk with rfl | hk
    · exact ⟨rfl, by simp [Tree.value, Value.phase]⟩
    · exact hs.leaves k hk

theorem declsOf_namespaceKids (decls : List (Nat × Nat)) : sdDeclsOf (namespaceKids decls).reverse = decls := by
  simp only [namespaceKids, List.reverse_reverse]
  induction decls with
  | nil => rfl
  | cons d ds ih =>
    simp only [List.map_cons, sdDeclsOf, List.filterMap_cons, Tree.value] at ih ⊢
    rw [ih]

/-- Namespace and attribute nodes carry no facts of their own. -/
theorem NodeFacts.of_phase_lt {ts : List Token} {g : SpanKey → Option Span} {env : Env} {stack : NsStack} {path : Path}
    {ks : List Tree} : ∀ {v : Value}, v.phase < 2 → NodeFacts ts g env stack path v ks
  | .attribute _ _, _ => trivial
  | .namespace _ _, _ => trivial
  | .document, h | .element _, h | .text _, h | .pi _ _, h | .comment _, h => absurd h (Nat.lt_irrefl 2)

theorem descR_leaves {ts : List Token} {g : SpanKey → Option Span} {env : Env} (stack : NsStack) (path : Path) :
    ∀ (l : List Tree), (∀ k ∈ l, k.kids = [] ∧ k.value.phase < 2) → DescR ts g env stack path l := by
  intro l
  induction l with
  | nil => intro _; trivial
  | cons k rest ih =>
    intro h
    refine ⟨?_, ih (fun x hx => h x (List.mem_cons_of_mem _ hx))⟩
    obtain ⟨hk, hph⟩ := h k List.mem_cons_self
    cases k with
    | node v ks =>
      subst hk
      rw [Desc]
      exact ⟨.of_phase_lt hph, trivial⟩

/-! ### `open_element` -/

theorem openElement_dinv {ts done done' : List Token} {b b' : Builder} (h : DInv ts done b)
    (hpre : done' <+: ts) (hr : b.openElement = .ok b') : DInv ts done' b' := by
  obtain ⟨eb, env1, nameId, st, heb, hn, hst, rfl⟩ := Builder.openElement_ok_inv hr
  obtain ⟨happ1, hname⟩ := elementNameId_facts hn
  obtain ⟨⟨p, l, sp, htok, e1, e2, e3⟩, habs⟩ := h.eb eb heb
  have hinv0 : AttrInv ts (eb.namespaces :: b.nsStack)
      { env := env1, seenIds := b.seenIds, idNodes := b.idNodes, seenNames := [],
        rkids := namespaceKids eb.namespaces, aspans := [] } := by
    refine ⟨rfl, List.nodup_nil, ?_, ?_⟩
    · intro k hk n v hkv
      simp only [namespaceKids, List.mem_reverse, List.mem_map] at hk
      obtain ⟨d, _, rfl⟩ := hk
      cases hkv
    · intro k hk
      simp only [namespaceKids, List.mem_reverse, List.mem_map] at hk
      obtain ⟨d, _, rfl⟩ := hk
      exact ⟨rfl, by simp [Tree.value, Value.phase]⟩
  obtain ⟨hinv, happ2, hdecl⟩ := addAttributes_inv _ _ _ _ st habs hinv0 hst
  have happ : SdEnvApp b.env st.env := happ1.trans happ2
  have hnp := nextPath_eq b
  -- the span map afterwards
  have hw : WritesAt (b.curPath ++ [b.cur.rkids.length]) b.spans
      ((b.spans.add ⟨b.curPath ++ [b.cur.rkids.length], .elementStart⟩ eb.span).addAttributeSpans
        (b.curPath ++ [b.cur.rkids.length]) st.aspans) :=
    .addAttributeSpans _ ((WritesAt.refl _ _).add .elementStart _)
  have hprot := prot_of_next hw.get
  have hstartKey : ((b.spans.add ⟨b.curPath ++ [b.cur.rkids.length], .elementStart⟩ eb.span).addAttributeSpans
        (b.curPath ++ [b.cur.rkids.length]) st.aspans).get ⟨b.curPath ++ [b.cur.rkids.length], .elementStart⟩ =
      some (Span.fromPrefixName p l) := by
    rw [get_addAttributeSpans_notin _ _ _ _ (fun a _ => ⟨by simp, by simp⟩), get_add_self, e3]
  have hpfx : PfxDesc ts ((b.spans.add ⟨b.curPath ++ [b.cur.rkids.length], .elementStart⟩ eb.span).addAttributeSpans
        (b.curPath ++ [b.cur.rkids.length]) st.aspans).get st.env
      (⟨.element nameId, st.rkids⟩ :: b.cur :: b.parents) (eb.pfx :: b.openPrefixes) := by
    refine (pfxDesc_cons_element (id := nameId) rfl).mpr ⟨⟨p, l, sp, htok, by rw [hnp]; exact hstartKey, by rw [e1]; rfl, ?_⟩, ?_⟩
    · obtain ⟨_, ns, hns, _⟩ := hname.mono happ2
      exact ⟨ns, by rw [← e2]; exact hns⟩
    · exact pfxDesc_mono happ _ _ (fun k hk => hprot k (.inr hk)) h.pfx
  refine ⟨hpre, ⟨⟨descR_leaves _ _ _ hinv.leaves, ?_, ?_⟩, ?_⟩, hpfx, (fun e he => by cases he), ?_, ?_⟩
  · -- the start tag
    show StartFacts ts _ st.env (eb.namespaces :: b.nsStack) (framesPath (b.cur :: b.parents)) nameId st.rkids
    rw [hnp]
    refine ⟨⟨p, l, sp, htok, hstartKey, ?_⟩, ?_⟩
    · rw [← e1, ← e2]; exact hname.mono happ2
    · intro k hk n v hkv
      obtain ⟨p', l', val', sp', a1, a2, a3, a4⟩ := hinv.kids k hk n v hkv
      obtain ⟨g1, g2⟩ := get_addAttributeSpans_mem (b.curPath ++ [b.cur.rkids.length]) st.aspans
        (b.spans.add ⟨b.curPath ++ [b.cur.rkids.length], .elementStart⟩ eb.span)
        (by rw [hinv.names]; exact hinv.nodup) n _ _ a2
      exact ⟨p', l', val', sp', a1, g1, g2, a3, a4⟩
  · show (eb.namespaces :: b.nsStack).head? = some (sdDeclsOf st.rkids.reverse)
    rw [hdecl, declsOf_namespaceKids]; rfl
  · exact stackDesc_mono happ (b.cur :: b.parents) _ hprot h.stack
  · intro s ks more hrk
    have := (hinv.leaves (.node (.text s) ks) (by
      show Tree.node (.text s) ks ∈ st.rkids
      rw [show st.rkids = Tree.node (.text s) ks :: more from hrk]; simp)).2
    simp [Tree.value, Value.phase] at this
  · intro k hk
    rcases hw.keys k hk with hk | hk
    · exact List.lt_trans (h.seen k hk) (framesPath_lt_push _ _)
    · rw [hk, ← hnp]
      exact framesPath_lt_push _ _

end XotModel

/-! ## The token loop

  An accepted tree is described, node by node, by the tokens.
-/

namespace XotModel

open BuilderCases

theorem prefix_of_snoc_prefix {α : Type} {done ts : List α} {t : α} (h : done ++ [t] <+: ts) : done <+: ts :=
  (List.prefix_append done [t]).trans h

/-- A token that changes neither the tree nor the spans: the tables may grow, the pending start tag change. -/
theorem passive_dinv {ts done : List Token} {b : Builder} {t : Token} (h : DInv ts done b)
    (hpre : done ++ [t] <+: ts) (ht : t.passive = true) {env' : Env} (he : SdEnvApp b.env env')
    {eb' : Option ElementBuilder} (heb : ∀ e, eb' = some e → EbFacts ts e) :
    DInv ts (done ++ [t]) { b with env := env', eb := eb' } :=
  ⟨hpre, stackDesc_mono he _ _ (fun _ _ => rfl) h.stack, pfxDesc_mono he _ _ (fun _ _ => rfl) h.pfx, heb,
    fun s ks more hr => (h.opn s ks more hr).skip ht, h.seen⟩

/-- `DocumentBuilder::text` / `cdata_text` + `extend_text_span` for a token with content. -/
theorem addText_dinv {ts done : List Token} {b : Builder} (h : DInv ts done b) {t : Token} {tsp : StrSpan}
    {content : Str} (hpre : done ++ [t] <+: ts) (hreal : t.isReal = true) (hspan : t.textSpan? = some tsp)
    (hval : runValue [t] = some content) :
    DInv ts (done ++ [t])
      { (b.addText content).1 with
        spans := (b.addText content).1.spans.extendText (b.addText content).2 tsp.span } := by
  unfold Builder.addText
  split
  · next s ks more hr =>
    exact mergeText_dinv h hpre hreal hspan hval hr
  · -- a new text node
    have hnone : b.spans.get ⟨b.curPath ++ [b.cur.rkids.length], .text⟩ = none := by
      apply get_none_of_not_hasKey
      intro hk
      have := h.seen _ hk
      rw [← nextPath_eq] at this
      exact List.lt_irrefl _ this
    have hm : b.spans.extendText (b.curPath ++ [b.cur.rkids.length]) tsp.span =
        b.spans.add ⟨b.curPath ++ [b.cur.rkids.length], .text⟩ tsp.span := extendText_none hnone
    have hopen : OpenText (done ++ [t])
        (b.spans.extendText (b.curPath ++ [b.cur.rkids.length]) tsp.span).get
        (b.curPath ++ [b.cur.rkids.length]) content :=
      ⟨[t], [], tsp.span, ⟨done, by simp⟩, (fun x hx => by cases hx), runOk_single hreal hspan, hval,
        by rw [hm]; exact get_add_self _ _ _⟩
    exact addLeaf_dinv (done' := done ++ [t]) h hpre (.text content) _ b.env (SdEnvApp.refl _)
      (by intro n w hh; cases hh) (by intro p n hh; cases hh)
      (by rw [hm]; exact (WritesAt.refl _ _).add .text _)
      (hopen.toFacts hpre)
      (fun s hs => by
        simp only [Value.text.injEq] at hs
        subst hs
        exact hopen)

theorem step_dinv {ts done : List Token} {b b' : Builder} (t : Token) (hok : BuilderOk b) (h : DInv ts done b)
    (hpre : done ++ [t] <+: ts) (hr : b.step t = .ok b') : DInv ts (done ++ [t]) b' := by
  have helem : b.parents ≠ [] → ∃ id, b.cur.value = .element id := by
    intro hne
    have hs := hok.2.2.1
    cases hp : b.parents with
    | nil => exact absurd hp hne
    | cons g gs =>
      rw [hp] at hs
      exact Repair.eq_element_of_isElement hs.1
  revert hpre
  refine Builder.step_ok_cases (motive := fun t b' => done ++ [t] <+: ts → DInv ts (done ++ [t]) b') hr
    ?_ ?_ ?_ ?_ ?_ ?_ ?_ ?_ ?_ ?_ ?_ ?_
  · intro pfx loc value sp p _ hr hpre
    obtain ⟨uri, eb, _, _, heb, _, rfl⟩ := Builder.prefix_ok_inv hr
    refine passive_dinv h hpre rfl ((sd_internPrefix_app _ _).trans (sd_internNamespace_app _ _)) ?_
    intro e he
    cases he
    exact h.eb eb heb
  · intro pfx loc value sp _ hr hpre
    obtain ⟨eb, v, heb, _, hv, rfl⟩ := Builder.attribute_ok_inv hr
    refine passive_dinv h hpre rfl (SdEnvApp.refl _) ?_
    intro e he
    cases he
    obtain ⟨h1, h2⟩ := h.eb eb heb
    refine ⟨h1, fun ab hab => ?_⟩
    rcases List.mem_append.mp hab with hab | hab
    · exact h2 ab hab
    · cases List.mem_singleton.mp hab
      exact ⟨pfx, loc, value, sp, mem_of_snoc_prefix hpre, rfl, rfl, rfl, rfl, hv⟩
  · intro s content hc hpre
    refine addText_dinv h hpre rfl rfl ?_
    simp only [runValue, hc, List.append_nil]
  · intro s sp hemp hpre
    exact passive_dinv h hpre (by simp [Token.passive, hemp]) (SdEnvApp.refl _) h.eb
  · intro s sp hne hpre
    refine addText_dinv h hpre (by simpa [Token.isReal] using hne) rfl ?_
    simp only [runValue, Option.map_some, List.append_nil]
  · intro pfx loc sp hpre
    refine passive_dinv h hpre rfl (SdEnvApp.refl _) ?_
    intro e he
    cases he
    exact ⟨⟨pfx, loc, sp, mem_of_snoc_prefix hpre, rfl, rfl, rfl⟩, fun ab hab => nomatch hab⟩
  · exact fun sp hr hpre => openElement_dinv h hpre hr
  · intro pfx loc sp hr hpre
    obtain ⟨env1, nameId, hn, hne, ⟨hid, hsame, hr⟩ | ⟨hnel, _⟩⟩ := Builder.closeElement_ok_inv hr
    · refine leave_dinv h hpre hid (mem_of_snoc_prefix hpre) (by intro hh; cases hh) (elementNameId_facts hn).1 ?_ hr
      intro q l hql
      cases hql
      refine ⟨by simpa [samePrefix] using hsame, ?_⟩
      obtain ⟨_, ns, hns, _⟩ := (elementNameId_facts hn).2
      exact ⟨ns, hns⟩
    · obtain ⟨id, hid⟩ := helem hne
      rw [hid] at hnel
      cases hnel
  · intro sp b1 hb hr hpre
    obtain ⟨id, hid⟩ := openElement_cur hb
    have hel : b1.cur.value.isElement = true := by rw [hid]; rfl
    simp only [Builder.closeImmediate, hel, if_true] at hr
    exact leave_dinv (openElement_dinv h hpre hb) hpre hid (mem_of_snoc_prefix hpre) (by intro hh; cases hh)
      (SdEnvApp.refl _) (fun _ _ hh => by cases hh) hr
  · intro t sp hpre
    exact addLeaf_dinv (done' := done ++ [.comment t sp]) h hpre (.comment (normalizeLineEnds t.text)) _ b.env
      (SdEnvApp.refl _) (by intro n w hh; cases hh) (by intro p n hh; cases hh)
      ((WritesAt.refl _ _).add .comment _)
      ⟨t, sp, mem_of_snoc_prefix hpre, get_add_self _ _ _, rfl⟩
      (fun s hs => by cases hs)
  · intro target content sp hres hpre
    refine addLeaf_dinv (done' := done ++ [.pi target content sp]) h hpre
      (.pi (b.env.internName target.text Env.noNamespace).2 (content.map (fun c => normalizeLineEnds c.text))) _
      (b.env.internName target.text Env.noNamespace).1 (sd_internName_app _ _ _)
      (by intro n w hh; cases hh) (by intro p n hh; cases hh) ?_ ?_ (fun s hs => by cases hs)
    · cases content with
      | none => exact (WritesAt.refl _ _).add .piTarget _
      | some c => exact ((WritesAt.refl _ _).add .piTarget _).add .piContent _
    · refine ⟨target, content, sp, mem_of_snoc_prefix hpre, ?_, internName_get _ _ _, rfl, ?_, hres⟩
      · cases content with
        | none => exact get_add_self _ _ _
        | some c =>
          exact (get_add_other _ _ _ _ (by intro hh; cases hh)).trans (get_add_self _ _ _)
      · intro c hc
        subst hc
        exact get_add_self _ _ _
  · exact fun v e s sp hpre => passive_dinv h hpre rfl (SdEnvApp.refl _) h.eb

theorem dinv_new (ts : List Token) (env : Env) : DInv ts [] (Builder.new env) := by
  refine ⟨List.nil_prefix, ⟨⟨trivial, rfl⟩, trivial⟩, ?_, (fun e he => by cases he), ?_, ?_⟩
  · simp [Builder.new, PfxDesc]
  · intro s ks more hr; cases hr
  · intro k hk; simp [HasKey, Builder.new, SpanMap.get] at hk

theorem run_dinv (ts : List Token) (lexErr : Option Nat) {b b' : Builder} (hok : BuilderOk b) (h : DInv ts [] b)
    (hr : b.run ts lexErr = .ok b') : DInv ts ts b' := by
  refine (Builder.run_ok_induct (P := fun done b1 => BuilderOk b1 ∧ DInv ts done b1) ⟨hok, h⟩ ?_ hr).2
  intro done t b1 b2 hpre hp hs
  exact ⟨step_ok t hp.1 hs, step_dinv t hp.1 hp.2 hpre hs⟩

/-- Every node of an accepted tree is described by a token of the input. -/
theorem build_desc {m : Mode} {len : Nat} {env : Env} {ts : List Token} {lexErr : Option Nat} {p : Parsed}
    (h : build m len env ts lexErr = .ok p) : Desc ts p.spans.get p.env baseStack [] p.tree := by
  obtain ⟨b, hb, rfl, hdoc⟩ := build_ok_parsed h
  have hok := run_ok ts lexErr (builderOk_new env) hb
  have hd := run_dinv ts lexErr (builderOk_new env) (dinv_new ts env) hb
  have hval : b.cur.value = .document := Value.eq_document_of_isDocument hdoc
  have hpar : b.parents = [] := by
    cases hq : b.parents with
    | nil => rfl
    | cons q rest =>
      have hs := hok.2.2.1
      rw [hq] at hs
      have hel : b.cur.value.isElement = true := hs.1
      rw [hval] at hel
      cases hel
  obtain ⟨hc, _⟩ := hd.stack
  rw [hpar] at hc
  have htree : b.parsed.tree = .node .document b.cur.rkids.reverse := by
    simp [Builder.parsed, Builder.root, hpar, zipInto, Frame.close, hval]
  have hstack : b.nsStack = baseStack := by
    have := hc.2
    rw [hval] at this
    exact this
  rw [htree, Desc]
  refine ⟨trivial, ?_⟩
  show Desc.descList ts b.spans.get b.env baseStack [] 0 b.cur.rkids.reverse
  rw [← hstack]
  exact descList_of_R _ _ _ (by simpa [framesPath] using hc.1)

/-! ### From the whole tree to one node -/

/-- The declarations in force inside the node at path `q` of `t` (`stack` = those around `t`). -/
def scopeAt : Tree → NsStack → Path → NsStack
  | .node v ks, stack, [] => innerStack v ks stack
  | .node v ks, stack, i :: rest =>
    match ks[i]? with
    | some k => scopeAt k (innerStack v ks stack) rest
    | none => innerStack v ks stack

theorem descList_get {ts : List Token} {g : SpanKey → Option Span} {env : Env} {stack : NsStack} {path : Path} :
    ∀ (ks : List Tree) (j i : Nat) (k : Tree), Desc.descList ts g env stack path j ks → ks[i]? = some k →
      Desc ts g env stack (path ++ [j + i]) k := by
  intro ks
  induction ks with
  | nil => intro j i k _ hk; simp at hk
  | cons x xs ih =>
    intro j i k h hk
    cases i with
    | zero =>
      simp only [List.getElem?_cons_zero, Option.some.injEq] at hk
      subst hk
      exact h.1
    | succ i' =>
      simp only [List.getElem?_cons_succ] at hk
      have := ih (j + 1) i' k h.2 hk
      have e : j + 1 + i' = j + (i' + 1) := by omega
      rw [e] at this
      exact this

theorem desc_at {ts : List Token} {g : SpanKey → Option Span} {env : Env} :
    ∀ (q : Path) (t : Tree) (stack : NsStack) (path : Path) (v : Value) (ks : List Tree),
      Desc ts g env stack path t → t.at? q = some (.node v ks) →
      NodeFacts ts g env (scopeAt t stack q) (path ++ q) v ks := by
  intro q
  induction q with
  | nil =>
    intro t stack path v ks h hat
    simp only [Tree.at?, Option.some.injEq] at hat
    subst hat
    rw [Desc] at h
    simpa [scopeAt] using h.1
  | cons i rest ih =>
    intro t stack path v ks h hat
    cases t with
    | node v0 ks0 =>
      simp only [Tree.at?] at hat
      cases hk : ks0[i]? with
      | none => rw [hk] at hat; cases hat
      | some k =>
        rw [hk] at hat
        simp only at hat
        rw [Desc] at h
        have hd := descList_get ks0 0 i k h.2 hk
        rw [Nat.zero_add] at hd
        have := ih k _ _ v ks hd hat
        simp only [scopeAt, hk]
        rw [List.append_assoc] at this
        exact this

end XotModel
