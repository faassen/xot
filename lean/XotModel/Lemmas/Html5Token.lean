/-
  One `render_output` call of the HTML serialiser per kind of event, and the token stream of a whole run
  (`c19_tokens`); Props/C19.lean restates these as property theorems.
-/
import XotModel.Lemmas.Html5Esc
import XotModel.Lemmas.Html5Names
import XotModel.Lemmas.Html5Stream
import XotModel.Lemmas.NormalizerHtml

namespace XotModel
open Gen

theorem c19_unprefixed (c : HtmlCtx) (s s' : HState) (node : Tree) (parent : Option Tree) (name : Nat)
    (tok : OutputToken)
    (hns : c.h.isHtmlNamespace (c.env.nsOfName name) = true ∨ c.h.mustBeUnprefixed (c.env.nsOfName name) = true)
    (hxml : c.env.nsOfName name ≠ Env.xmlNamespace)
    (h : renderHtml c s node parent (.startTagOpen name) = .ok (s', tok)) :
    tok.text = ['<'] ++ c.env.localName name ∨
    tok.text = ['<'] ++ c.env.localName name ++ [' ','x','m','l','n','s','=','"']
      ++ serializeAttributeHtml (c.env.namespaceStr (c.env.nsOfName name)) ++ ['"'] := by
  simp only [renderHtml] at h
  split at h
  · simp only [Outcome.ok.injEq, Prod.mk.injEq] at h
    obtain ⟨_, rfl⟩ := h
    right
    simp [fmt, fmtHtmlStartTagOpenNs]
  · rename_i hcond
    left
    have hfull := elementFullname_bare c.env
      (s.stack.push (htmlDeclarations node (c.env.nsOfName name))) name hxml (by
        by_cases h0 : c.env.nsOfName name = Env.noNamespace
        · exact Or.inl h0
        · exact Or.inr (by simpa [Html5Elements.mustBeUnprefixed_of_html hns h0] using hcond))
    rw [hfull] at h
    simp only [Outcome.ok.injEq, Prod.mk.injEq] at h
    obtain ⟨_, rfl⟩ := h
    simp [fmt, fmtHtmlStartTagOpen]

theorem c19_attr (c : HtmlCtx) (s s' : HState) (node : Tree) (parent : Option Tree) (name : Nat)
    (value : Str) (tok : OutputToken)
    (h : renderHtml c s node parent (.attribute name value) = .ok (s', tok)) :
    ∃ full, s.stack.attributeFullname c.env name = .ok full ∧ tok.space = true ∧
      ((tok.text = full ∧ asciiLower (c.env.localName name) = asciiLower value) ∨
       (∃ v, tok.text = full ++ ['=','"'] ++ v ++ ['"'] ∧ '"' ∉ v ∧ refsOnly knownRefs v = true)) := by
  rw [← renderHtmlN_id] at h
  obtain ⟨full, hf, hsp, h1⟩ := c19n_attr id c s s' node parent name value tok h
  exact ⟨full, hf, hsp, h1.imp id (fun h2 => ⟨_, h2⟩)⟩

theorem c19_attr_xmlns (c : HtmlCtx) (s s' : HState) (node : Tree) (parent : Option Tree) (p ns : Nat)
    (tok : OutputToken) (h : renderHtml c s node parent (.pfx p ns) = .ok (s', tok)) :
    tok.text = [] ∨
    ∃ v, (tok.text = ['x','m','l','n','s','=','"'] ++ v ++ ['"'] ∨
          tok.text = ['x','m','l','n','s',':'] ++ c.env.prefixStr p ++ ['=','"'] ++ v ++ ['"']) ∧
      '"' ∉ v ∧ refsOnly knownRefs v = true := by
  rw [← renderHtmlN_id] at h
  exact (c19n_attr_xmlns id c s s' node parent p ns tok h).imp id
    (fun ⟨v, h1, _, h2⟩ => ⟨v, h1, h2⟩)

theorem c19_pi_form (c : HtmlCtx) (s : HState) (node : Tree) (parent : Option Tree) (target : Nat)
    (data : Option Str) (s' : HState) (tok : OutputToken)
    (h : renderHtml c s node parent (.pi target data) = .ok (s', tok)) :
    (c.env.namespaceStr (c.env.nsOfName target)).isEmpty = true ∧
    match data with
    | some d => '>' ∉ d ∧ tok.text = ['<','?'] ++ c.env.localName target ++ [' '] ++ d ++ ['>']
    | none => tok.text = ['<','?'] ++ c.env.localName target ++ ['>'] := by
  simp only [renderHtml] at h
  split at h
  · cases h
  · rename_i hns
    refine ⟨by simpa using hns, ?_⟩
    cases data with
    | none =>
      simp only [Outcome.ok.injEq, Prod.mk.injEq] at h
      obtain ⟨_, rfl⟩ := h
      simp [fmt, fmtHtmlPi]
    | some d =>
      simp only at h
      split at h
      · cases h
      · rename_i hgt
        simp only [Outcome.ok.injEq, Prod.mk.injEq] at h
        obtain ⟨_, rfl⟩ := h
        refine ⟨by simpa [htmlPiForbidden] using hgt, by simp [fmt, fmtHtmlPiData]⟩

theorem c19_tokens (env : Env) (p : HtmlParams) (t : Tree) (start : Path) (out : Str)
    (h : serializeHtmlString env p t start = .ok out) :
    ∃ l, renderHtmlAll (htmlCtx env p) t (htmlInitState (htmlCtx env p) t start) (genOutputs t start) = .ok l ∧
      (∀ k ∈ l, ∃ s1 s2 node, t.at? k.1 = some node ∧
        renderHtml (htmlCtx env p) s1 node (t.parentAt? k.1) k.2.1 = .ok (s2, k.2.2)) ∧
      ∃ decor : List (Nat × Bool), decor.length = l.length ∧
        (p.indentation = none → ∀ d ∈ decor, d = (0, false)) ∧
        out = htmlDoctype ++ (List.zip decor l).flatMap (fun dk =>
          (if dk.1.1 > 0 then htmlIndentBytes dk.1.1 else []) ++ htmlTokenBytes dk.2.2.2
            ++ (if dk.1.2 then htmlNewline else [])) := by
  unfold serializeHtmlString bufferToString at h
  cases hr : (serializeHtmlWrite env p t start).2 with
  | err e => rw [hr] at h; cases h
  | panic => rw [hr] at h; cases h
  | ok u =>
    cases u
    rw [hr] at h
    simp only [Outcome.ok.injEq] at h
    subst h
    unfold serializeHtmlWrite at hr ⊢
    cases hi : p.indentation with
    | some sup =>
      rw [hi] at hr
      simp only at hr ⊢
      obtain ⟨l, hl, hlen, hb⟩ := writeHtmlPrettyGo_trace _ sup t _ _ _ hr
      exact ⟨l, hl, (renderHtmlAll_ok _ t _ _ l hl).2, _, (htmlPrettyTrace_length _ sup t _ _).trans hlen.symm,
        by simp, by rw [hb]⟩
    | none =>
      rw [hi] at hr
      simp only at hr ⊢
      obtain ⟨l, hl, hb⟩ := writeHtmlGo_tokens _ t _ _ hr
      refine ⟨l, hl, (renderHtmlAll_ok _ t _ _ l hl).2, List.replicate l.length (0, false), by simp,
        fun _ d hd => (List.eq_of_mem_replicate hd), ?_⟩
      rw [hb]
      congr 1
      clear hb hl hr
      induction l with
      | nil => rfl
      | cons k l ih =>
        simp only [List.length_cons, List.replicate_succ, List.zip_cons_cons, List.flatMap_cons]
        rw [ih]
        simp

theorem c19_text_cdata (c : HtmlCtx) (parent : Option Tree) (text : Str) (pn : Nat)
    (hpn : parentElementName parent = some pn) (hraw : c.h.noEscape.matches c.env pn = false)
    (hcd : c.cdata.contains pn = true) :
    htmlTextValue c parent text = serializeCdata text ∧
    cdataSectionsContent (htmlTextValue c parent text) = some text := by
  have hv : htmlTextValue c parent text = serializeCdata text := by
    simp only [htmlTextValue, hpn, hraw, hcd, Bool.false_eq_true, if_false, if_true]
  refine ⟨hv, ?_⟩
  rw [hv]
  have hO : cdataOpen = ['<','!','[','C','D','A','T','A','['] := by decide
  have hS : cdataSplit = [']',']',']',']','>'] ++ cdataOpen ++ ['>'] := by decide
  have hR : cdataCr = [']',']','>'] ++ ['&','#','x','D',';'] ++ cdataOpen := by decide
  have hC : cdataClose = [']',']','>'] := by decide
  have h := cdataGo_sections hO hS hR hC text 0 0 (by omega) (by intro; rfl)
  simp only [List.replicate_zero, List.nil_append, Nat.zero_add] at h
  unfold cdataSectionsContent serializeCdata
  rw [hO]
  simp only [List.cons_append, List.nil_append]
  rw [afterSection_open, h]

theorem c19_tags_end (c : HtmlCtx) (s s' : HState) (node : Tree) (parent : Option Tree) (name : Nat)
    (tok : OutputToken) (h : renderHtml c s node parent (.endTag name) = .ok (s', tok)) :
    (tok.text = [] ↔ c.h.void.matches c.env name = true) ∧
    (c.h.void.matches c.env name = false →
      ∃ full, s.stack.elementFullname c.env name = .ok full ∧ tok.text = ['<','/'] ++ full ++ ['>']) := by
  simp only [renderHtml] at h
  by_cases hv : c.h.void.matches c.env name = true
  · simp only [hv, if_true, Outcome.ok.injEq, Prod.mk.injEq] at h
    obtain ⟨_, rfl⟩ := h
    simp [hv, litHtmlVoidEndTag]
  · have hv' : c.h.void.matches c.env name = false := by simpa using hv
    simp only [hv', Bool.false_eq_true, if_false] at h
    cases hf : s.stack.elementFullname c.env name with
    | error e => rw [hf] at h; cases h
    | ok full =>
      rw [hf] at h
      simp only [Outcome.ok.injEq, Prod.mk.injEq] at h
      obtain ⟨_, rfl⟩ := h
      simp [hv', fmt, fmtHtmlEndTag]

end XotModel
