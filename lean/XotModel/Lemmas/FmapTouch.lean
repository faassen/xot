/-
  `Touch`: what a change of one view of one element establishes (invariant, reference meaning,
  (key, node) step, other view, frame for every other node); `Change`: a `Touch` with the node that
  carries a new entry and the number of nodes made.  The primitive changes behind every `MapOp2`,
  and every model function of the map and entry API as a `Change`.
-/
import XotModel.Lemmas.FmapNext
import XotModel.Model.FmapRet

/-! ## The primitive forest changes behind every `MapOp2`

Rewrite of an entry's value, removal, clearing, a new parentless entry node, placement of a parentless entry node,
detachment. -/

namespace XotModel
namespace Fmap
open HTree
open Forest (MapKind entryKey mapChildren)

def knOf (c : HTree) : Nat × Nat := (entryKey c.value, c.handle)

theorem MInv.absHV_eq {f : Forest} {e nm : Nat} {N A S : List HTree} (h : MInv f e nm N A S)
    (k : MapKind) : absHV k f e = (Sect.sec k N A).map hv := by
  unfold absHV
  rw [h.loc.get]
  simp only
  rw [Sect.mapChildren (K := .node e (.element nm) (N ++ A ++ S)) h.sect]

theorem MInv.absKN_eq {f : Forest} {e nm : Nat} {N A S : List HTree} (h : MInv f e nm N A S)
    (k : MapKind) : absKN k f e = (Sect.sec k N A).map knOf := by
  rw [absKN_of_absHV, h.absHV_eq k, List.map_map]
  rfl

theorem KNStep.refl (l : List (Nat × Nat)) : KNStep l l := Or.inl (List.Sublist.refl _)

theorem KNStep.of_eq {a b : List (Nat × Nat)} (h : b = a) : KNStep a b := h ▸ KNStep.refl a

/-- Summary of one change of view `k` of the element `e`: the reference meaning `m'` of the view
    afterwards. -/
structure Touch (f f' : Forest) (e : Nat) (k : MapKind) (m' : OMap Payload) : Prop where
  inv : f'.Inv
  elem : f'.isElement e = true
  same : abs k f' e = m'
  kn : KNStep (absKN k f e) (absKN k f' e)
  other : ∀ k', k' ≠ k → absHV k' f' e = absHV k' f e
  frame : ∀ x, x ≠ e → SameViews f f' x

theorem Touch.refl {f : Forest} (hi : f.Inv) {e : Nat} (he : f.isElement e = true) (k : MapKind) :
    Touch f f e k (abs k f e) :=
  ⟨hi, he, rfl, KNStep.refl _, fun _ _ => rfl, fun x _ => SameViews.refl f x⟩

theorem Touch.cast {f f' : Forest} {e : Nat} {k : MapKind} {m' m'' : OMap Payload}
    (t : Touch f f' e k m') (h : m' = m'') : Touch f f' e k m'' := h ▸ t

theorem Touch.precomp {f f1 f' : Forest} {e : Nat} {k : MapKind} {m' : OMap Payload}
    (s : ∀ x, SameViews f f1 x) (t : Touch f1 f' e k m') : Touch f f' e k m' :=
  ⟨t.inv, t.elem, t.same, by rw [← (s e).kn k]; exact t.kn,
    fun k' hk => (t.other k' hk).trans ((s e).hv k'),
    fun x hx => (s x).trans (t.frame x hx)⟩

theorem Touch.abs_other {f f' : Forest} {e : Nat} {k k' : MapKind} {m' : OMap Payload}
    (t : Touch f f' e k m') (hk : k' ≠ k) : abs k' f' e = abs k' f e := by
  rw [abs_of_absHV, abs_of_absHV, t.other k' hk]

/-! ### When a view grows -/

/-- View `k` of `x` has one more entry, `p`, in `f'` than in `f`. -/
def Grows (f f' : Forest) (x : Nat) (k : MapKind) (p : Nat × Nat) : Prop :=
  absKN k f' x = absKN k f x ++ [p]

theorem absKN_length (k : MapKind) (f : Forest) (x : Nat) :
    (absKN k f x).length = (abs k f x).length := by
  rw [absKN_of_absHV, abs_of_absHV, List.length_map, List.length_map]

theorem Grows.absurd_of_le {f f' : Forest} {x : Nat} {k : MapKind} {p : Nat × Nat}
    (h : Grows f f' x k p) (hl : (abs k f' x).length ≤ (abs k f x).length) : False := by
  have := congrArg List.length h
  rw [List.length_append, absKN_length, absKN_length] at this
  simp at this
  omega

theorem Grows.absurd_of_kn {f f' : Forest} {x : Nat} {k : MapKind} {p : Nat × Nat}
    (h : Grows f f' x k p) (hl : absKN k f' x = absKN k f x) : False := by
  unfold Grows at h
  rw [hl] at h
  have := congrArg List.length h
  simp at this

/-- A `Touch` together with what the reference's bookkeeping of nodes needs: a new last entry of
    the view is carried by the node `given`, and `made` nodes have been created. -/
structure Change (f f' : Forest) (e : Nat) (k : MapKind) (m' : OMap Payload) (given made : Nat) :
    Prop extends Touch f f' e k m' where
  carrier : ∀ p, Grows f f' e k p → p.2 = given
  next : f'.next = f.next + made

theorem Change.refl {f : Forest} (hi : f.Inv) {e : Nat} (he : f.isElement e = true) (k : MapKind)
    (given : Nat) : Change f f e k (abs k f e) given 0 :=
  ⟨Touch.refl hi he k, fun _ h => (h.absurd_of_kn rfl).elim, rfl⟩

/-- A `Touch` whose reference meaning is not longer than the view was gives the view no new entry:
    any node will do as the carrier. -/
theorem Touch.noGrow {f f' : Forest} {e : Nat} {k : MapKind} {m' : OMap Payload}
    (t : Touch f f' e k m') (hle : m'.length ≤ (abs k f e).length) (hn : f'.next = f.next)
    (given : Nat) : Change f f' e k m' given 0 :=
  ⟨t, fun _ h => (h.absurd_of_le (by rw [t.same]; exact hle)).elim, hn⟩

theorem Change.afterNew {f f' : Forest} {e : Nat} {k : MapKind} {m' : OMap Payload} {v : Value}
    {given made : Nat} (s : ∀ x, SameViews f (f.newNode v).1 x)
    (t : Change (f.newNode v).1 f' e k m' given made) : Change f f' e k m' given (made + 1) :=
  ⟨t.toTouch.precomp s,
    fun p hg => t.carrier p (by unfold Grows at hg ⊢; rw [(s e).kn k]; exact hg),
    by rw [t.next, newNode_eq]; simp only []; omega⟩

theorem sec_flags {f : Forest} {e nm : Nat} {N A S : List HTree} (h : MInv f e nm N A S)
    (k : MapKind) : ∀ c ∈ Sect.sec k N A, c.kids = [] ∧ c.value.isElement = false := by
  intro c hc
  refine ⟨h.leaf k c hc, isElement_false_of_cat _ ?_⟩
  rw [h.sect.sec_cat k c hc]
  exact kindCat_ne_normal k

theorem matches_not_element (k : MapKind) (v : Value) (hm : k.matches v = true) :
    v.isElement = false :=
  isElement_false_of_cat v (by rw [(matches_iff_cat k v).mp hm]; exact kindCat_ne_normal k)

theorem touch_mk {f f' : Forest} {e nm : Nat} {N A S s' : List HTree} {k : MapKind}
    (hi' : f'.Inv) (h : MInv f e nm N A S)
    (h' : MInv f' e nm (setSecN k N s') (setSecA k A s') S)
    (hkn : KNStep ((Sect.sec k N A).map knOf) (s'.map knOf))
    (hframe : ∀ x, x ≠ e → SameViews f f' x) : Touch f f' e k (s'.map entryPair) := by
  refine ⟨hi', h'.isElement, MInv.abs_update h', ?_, ?_, hframe⟩
  · rw [h.absKN_eq k, h'.absKN_eq k, sec_setSec]
    exact hkn
  · intro k' hk
    rw [h'.absHV_eq k', h.absHV_eq k', sec_setSec_other k k' N A s' hk]

theorem frame_same_roots {f f' : Forest} {e nm : Nat} {N A S s' : List HTree} {k : MapKind}
    (h : MInv f e nm N A S) (h' : MInv f' e nm (setSecN k N s') (setSecA k A s') S)
    (hr : f'.roots = withKids f.roots e (preK k N ++ s' ++ postK k A S))
    (hnew : ∀ c ∈ s', c.handle ∈ (Sect.sec k N A).map (·.handle) ∨ f.get? c.handle = none)
    (x : Nat) (hx : x ≠ e) : SameViews f f' x := by
  have hl : Located f e (.element nm) (preK k N ++ Sect.sec k N A ++ postK k A S) := by
    rw [← split_kids]; exact h.loc
  have hl' : Located f' e (.element nm) (preK k N ++ s' ++ postK k A S) := by
    rw [← setSec_kids]; exact h'.loc
  have hm' : ∀ c ∈ s', c.kids = [] ∧ c.value.isElement = false := by
    have := sec_flags h' k
    rwa [sec_setSec] at this
  exact frame_withKids _ _ _ _ hl hr hl' (sec_flags h k) hm' hnew x hx

theorem contains_of_getNode {f : Forest} {k : MapKind} {e key : Nat} {n : HTree}
    (h : f.mapGetNode k e key = some n) : omContainsKey (abs k f e) key = true := by
  rw [← containsKey_eq, h]; rfl

/-! ### The value of an existing entry is rewritten -/

theorem change_setValue {f : Forest} (hi : f.Inv) {e nm : Nat} {N A S : List HTree}
    (h : MInv f e nm N A S) (k : MapKind) (key : Nat) (n : HTree) (entry : Value)
    (hm : k.matches entry = true) (hf : f.mapGetNode k e key = some n) (given : Nat) :
    Change f (f.setValue n.handle (Forest.entryUpdate n.value entry)) e k
      (omInsert (abs k f e) key (payloadOf entry)) given 0 := by
  have hinvF := Forest.mapUpdate_inv hi entry hf
  have hlen := omInsert_length_contains _ _ (payloadOf entry) (contains_of_getNode hf)
  rw [h.getNode k] at hf
  obtain ⟨hkey, s1, s2, hs, hs1⟩ := find?_key_split _ _ _ hf
  obtain ⟨heq, hinv, hmap, hnodes⟩ := insert_existing h k entry hm n s1 s2 hs key hkey hs1
  rw [heq] at hinvF ⊢
  have hncat : n.value.category = kindCat k := h.sect.sec_cat k n (by rw [hs]; simp)
  have hkn : (s1 ++ n.setValue (Forest.entryUpdate n.value entry) :: s2).map knOf =
      (Sect.sec k N A).map knOf := by
    rw [hs]
    simp only [List.map_append, List.map_cons]
    congr 2
    cases n with
    | node hh vv kk =>
      simp only [knOf, HTree.setValue, HTree.value, HTree.handle]
      rw [(entryUpdate_key k vv entry hncat hm).1]
  have := touch_mk hinvF h hinv (KNStep.of_eq hkn)
    (frame_same_roots h hinv rfl (fun c hc => Or.inl (by
      rw [← hnodes]; exact List.mem_map.mpr ⟨c, hc, rfl⟩)))
  rw [hmap, ← h.abs_eq k] at this
  exact this.noGrow (Nat.le_of_eq hlen) rfl given

/-! ### An entry is removed -/

theorem change_remove {f : Forest} (hi : f.Inv) {e nm : Nat} {N A S : List HTree}
    (h : MInv f e nm N A S) (k : MapKind) (key : Nat) (n : HTree)
    (hf : f.mapGetNode k e key = some n) (given : Nat) :
    (f.remove n.handle).2 = .ok ∧
    Change f (f.remove n.handle).1 e k (omRemove (abs k f e) key) given 0 := by
  rw [h.getNode k] at hf
  obtain ⟨hkey, s1, s2, hs, hs1⟩ := find?_key_split _ _ _ hf
  obtain ⟨hrem, hinv, hmap⟩ := remove_present h k key n s1 s2 hs hkey hs1
  have hinvF := Forest.remove_inv hi n.handle
  rw [hrem] at hinvF ⊢
  refine ⟨rfl, ?_⟩
  simp only at hinvF ⊢
  have hkn : ((s1 ++ s2).map knOf).Sublist ((Sect.sec k N A).map knOf) := by
    rw [hs]
    simp only [List.map_append, List.map_cons]
    exact List.Sublist.append (List.Sublist.refl _) (List.sublist_cons_self _ _)
  have := touch_mk hinvF h hinv (Or.inl hkn)
    (frame_same_roots h hinv rfl (fun c hc => Or.inl (by
      rw [hs]
      simp only [List.mem_append] at hc
      simp only [List.map_append, List.map_cons, List.mem_append, List.mem_cons]
      rcases hc with hc | hc
      · exact Or.inl (List.mem_map.mpr ⟨c, hc, rfl⟩)
      · exact Or.inr (Or.inr (List.mem_map.mpr ⟨c, hc, rfl⟩)))))
  rw [hmap, ← h.abs_eq k] at this
  exact this.noGrow (omRemove_length_le _ _) rfl given

/-! ### The view is cleared -/

theorem change_clear {f : Forest} (hi : f.Inv) {e nm : Nat} {N A S : List HTree}
    (h : MInv f e nm N A S) (k : MapKind) (given : Nat) :
    (f.mapClear k e).2 = .ok ∧ Change f (f.mapClear k e).1 e k [] given 0 := by
  obtain ⟨st, hok⟩ := mapClear_step h k
  refine ⟨hok, Touch.noGrow ?_ (Nat.zero_le _) (nx_mapClear f k e) given⟩
  have hr : (f.mapClear k e).1.roots = withKids f.roots e (preK k N ++ [] ++ postK k A S) := by
    have := congrArg Forest.roots st.state
    exact this
  exact touch_mk (s' := []) (Forest.mapClear_inv hi k e) h st.inv (Or.inl (List.nil_sublist _))
    (frame_same_roots h st.inv hr (fun c hc => by cases hc))

/-! ### A new parentless entry node -/

theorem newNode_sameViews (f : Forest) (hi : f.Inv) (v : Value) (hv : v.isElement = false)
    (x : Nat) : SameViews f (f.newNode v).1 x := by
  have hfresh : f.next ∉ f.allHandles := fun hx => Nat.lt_irrefl _ (hi.below _ hx)
  by_cases hx : x = f.next
  · subst hx
    apply sameViews_of_entryish
    · exact entryish_of_none (findList?_none_of_not_mem _ _ hfresh)
    · have hg : (f.newNode v).1.get? f.next = some (.node f.next v []) :=
        findList?_direct _ (Fcreation.newNode_inv hi v).nodup (.node f.next v []) (by simp [newNode_eq])
      exact entryish_of_get hg rfl hv
  · apply sameViews_of_get
    show findList? x (f.roots ++ [.node f.next v []]) = findList? x f.roots
    rw [findList?_append]
    have : findList? x [HTree.node f.next v []] = none := by
      apply findList?_none_of_not_mem
      simp [handlesList, handles, hx]
    rw [this]
    simp

/-! ### A parentless entry node whose key is absent is placed last -/

theorem change_place {f : Forest} (hi : f.Inv) {e nm : Nat} {N A S : List HTree}
    (h : MInv f e nm N A S) (k : MapKind) (nd : Nat) (v : Value) (hm : k.matches v = true)
    (hroot : HTree.node nd v [] ∈ f.roots) (habs : f.mapGetNode k e (entryKey v) = none) :
    (f.appendEntryNode k e nd).2 = (.ok, nd) ∧
    Change f (f.appendEntryNode k e nd).1 e k (omInsert (abs k f e) (entryKey v) (payloadOf v))
      nd 0 ∧
    absKN k (f.appendEntryNode k e nd).1 e = absKN k f e ++ [(entryKey v, nd)] := by
  have hne := leafRoot_ne_elem h k nd v hm hroot
  have hget := leafRoot_get f hi.nodup nd v hroot
  have hinvF := Forest.appendEntryNode_inv hi k e nd
  obtain ⟨hcall, hinv, hmap, _⟩ := appendEntryNode_absent h k nd v hm hroot habs
  rw [hcall] at hinvF ⊢
  simp only at hinvF ⊢
  have hkn : (Sect.sec k N A ++ [HTree.node nd v []]).map knOf =
      (Sect.sec k N A).map knOf ++ [(entryKey v, nd)] := by
    simp [knOf, HTree.value, HTree.handle]
  -- the frame: first forget the parentless node, then replace the children of `e`
  let f0 : Forest := { f with roots := rootsWithout f nd }
  have h0 : Located f0 e (.element nm) (N ++ A ++ S) := located_without h.loc nd v hroot hne
  have hnd0 : f0.get? nd = none :=
    findList?_none_of_not_mem _ _ (not_mem_handlesList_filter_leafRoot f.roots hi.nodup nd v hroot)
  have s0 : ∀ x, SameViews f f0 x := by
    intro x
    by_cases hx : x = nd
    · subst hx
      exact sameViews_of_entryish (entryish_of_get hget rfl (matches_not_element k v hm))
        (entryish_of_none hnd0)
    · exact sameViews_of_get (find?_leafRoot_filter f.roots hi.nodup nd x v hroot hx)
  let ksF := preK k N ++ (Sect.sec k N A ++ [HTree.node nd v []]) ++ postK k A S
  let fF : Forest := { f with roots := withKids (rootsWithout f nd) e ksF }
  have hfr : ∀ x, x ≠ e → SameViews f fF x := by
    intro x hx
    refine (s0 x).trans ?_
    have hl0 : Located f0 e (.element nm) (preK k N ++ Sect.sec k N A ++ postK k A S) := by
      rw [← split_kids]; exact h0
    have hl' := hinv.loc
    rw [setSec_kids] at hl'
    have hm' : ∀ c ∈ Sect.sec k N A ++ [HTree.node nd v []],
        c.kids = [] ∧ c.value.isElement = false := by
      have := sec_flags hinv k
      rwa [sec_setSec] at this
    refine frame_withKids (f := f0) _ _ _ _ hl0 rfl hl' (sec_flags h k) hm' ?_ x hx
    intro c hc
    simp only [List.mem_append, List.mem_singleton] at hc
    rcases hc with hc | hc
    · exact Or.inl (List.mem_map.mpr ⟨c, hc, rfl⟩)
    · right; rw [hc]; exact hnd0
  have t := touch_mk hinvF h hinv (Or.inr ⟨_, hkn⟩) hfr
  rw [hmap, ← h.abs_eq k] at t
  have hgrow : absKN k fF e = absKN k f e ++ [(entryKey v, nd)] := by
    rw [hinv.absKN_eq k, sec_setSec, hkn, h.absKN_eq k]
  refine ⟨trivial, ⟨t, fun p hg => ?_, rfl⟩, hgrow⟩
  -- the one new pair is `(key, nd)`
  have := List.append_cancel_left (hg.symm.trans hgrow)
  simp only [List.cons.injEq, and_true] at this
  rw [this]

/-! ### An entry node is detached -/

theorem change_detach {f : Forest} (hi : f.Inv) {e nm : Nat} {N A S : List HTree}
    (h : MInv f e nm N A S) (k : MapKind) (key : Nat) (n : HTree)
    (hf : f.mapGetNode k e key = some n) (given : Nat) :
    (f.detach n.handle).2 = .ok ∧
    Change f (f.detach n.handle).1 e k (omRemove (abs k f e) key) given 0 ∧
    HTree.node n.handle n.value [] ∈ (f.detach n.handle).1.roots ∧
    k.matches n.value = true ∧ entryKey n.value = key := by
  have hf' := hf
  rw [h.getNode k] at hf'
  obtain ⟨hkey, s1, s2, hs, hs1⟩ := find?_key_split _ _ _ hf'
  have hn : n ∈ Sect.sec k N A := by rw [hs]; simp
  have hncat : n.value.category = kindCat k := h.sect.sec_cat k n hn
  have hmv : k.matches n.value = true := (matches_iff_cat k _).mpr hncat
  have hloc : Located f e (.element nm) ((preK k N ++ s1) ++ n :: (s2 ++ postK k A S)) := by
    rw [← kids_around k N A S s1 s2 n hs]; exact h.loc
  have a : Attached f e (.element nm) (preK k N ++ s1) (s2 ++ postK k A S) n := ⟨hloc, h.leaf k n hn⟩
  have hdet := detach_child hloc (by rw [hncat]; exact kindCat_ne_normal k)
  have hfd : (f.detach n.handle).1 = a.fd := by rw [hdet]; rfl
  have hinvF := Forest.detach_inv hi n.handle
  obtain ⟨s', st, hok, hmap, _⟩ := detach_node_step h k n hn
  -- the new section is the old one without `n`
  have hs' : s' = s1 ++ s2 := by
    have g1 := st.inv.loc.get
    have g2 := (located_after_detach hloc).get
    rw [hfd] at g1
    have g2' : a.fd.get? e = _ := g2
    rw [g2'] at g1
    simp only [Option.some.injEq, HTree.node.injEq, true_and] at g1
    rw [setSec_kids] at g1
    have : preK k N ++ (s1 ++ s2) ++ postK k A S = preK k N ++ s' ++ postK k A S := by
      rw [← g1]; simp
    exact (List.append_cancel_left (List.append_cancel_right this)).symm
  subst hs'
  have hkn : ((s1 ++ s2).map knOf).Sublist ((Sect.sec k N A).map knOf) := by
    rw [hs]
    simp only [List.map_append, List.map_cons]
    exact List.Sublist.append (List.Sublist.refl _) (List.sublist_cons_self _ _)
  have hne : n.handle ≠ e := by
    intro hx
    apply hloc.kidsNodup.2
    rw [← hx, handlesList_append]
    simp only [handlesList, List.mem_append]
    exact Or.inr (Or.inl (handle_mem_handles n))
  have hfr : ∀ x, x ≠ e → SameViews f (f.detach n.handle).1 x := by
    intro x hx
    rw [hfd]
    by_cases hxn : n.handle = x
    · subst hxn
      refine sameViews_of_entryish
        (entryish_of_get (hloc.childFound n (by simp)) (h.leaf k n hn) (matches_not_element k _ hmv))
        (entryish_of_get (leafRoot_get a.fd a.fd_nodup n.handle n.value a.root_mem) rfl
          (matches_not_element k _ hmv))
    · exact sameViews_of_shallow (a.shallow_eq x hx hxn)
  have t := touch_mk hinvF h st.inv (Or.inl hkn) hfr
  rw [hmap, ← h.abs_eq k] at t
  have hkey' : keyOf n = key := hkey
  rw [hkey'] at t
  refine ⟨hok, t.noGrow (omRemove_length_le _ _) (nx_detach f n.handle) given, ?_, hmv, hkey⟩
  rw [hfd]
  exact a.root_mem

end Fmap
end XotModel

/-! ## Every model function behind a `MapOp2` as a `Change`

The meaning is the reference-map operation of `specStep`, the carrier of a new entry the node `MapOp2.given`
names, the number of nodes made `MapOp2.creates`. -/

namespace XotModel
namespace Fmap
open HTree
open Forest (MapKind entryKey mapChildren MapEntry)

/-! ### Reference-map facts -/

theorem omModify_of_get_some (m : OMap Payload) (key : Nat) (G : Payload → Payload) (p0 : Payload)
    (h : omGet m key = some p0) : omModify m key G = omInsert m key (G p0) := by
  induction m with
  | nil => simp [omGet] at h
  | cons a m ih =>
    obtain ⟨ka, va⟩ := a
    simp only [omModify, omInsert]
    by_cases hk : ka = key
    · subst hk
      simp only [omGet, List.lookup, beq_self_eq_true, Option.some.injEq] at h
      subst h
      simp
    · simp only [if_neg hk]
      have hb : (key == ka) = false := by simpa using fun hh : key = ka => hk hh.symm
      simp only [omGet, List.lookup, hb] at h
      rw [ih h]

theorem contains_iff_get (m : OMap Payload) (key : Nat) :
    omContainsKey m key = true ↔ ∃ p, omGet m key = some p := by
  unfold omContainsKey
  cases omGet m key <;> simp

theorem get_none_of_not_contains (m : OMap Payload) (key : Nat) (h : omContainsKey m key = false) :
    omGet m key = none := by
  unfold omContainsKey at h
  cases hg : omGet m key with
  | none => rfl
  | some _ => rw [hg] at h; cases h

theorem getNode_none_iff (f : Forest) (k : MapKind) (e key : Nat) :
    f.mapGetNode k e key = none ↔ omContainsKey (abs k f e) key = false := by
  rw [← containsKey_eq]
  cases f.mapGetNode k e key <;> simp

theorem getNode_payload (f : Forest) (k : MapKind) (e key : Nat) (n : HTree)
    (h : f.mapGetNode k e key = some n) : omGet (abs k f e) key = some (payloadOf n.value) := by
  rw [← get_eq, h]; rfl

theorem mkEntry_matches (k : MapKind) (key : Nat) (p : Payload) : k.matches (mkEntry k key p) = true := by
  cases k <;> cases p <;> rfl

theorem mkEntry_key (k : MapKind) (key : Nat) (p : Payload) : entryKey (mkEntry k key p) = key := by
  cases k <;> cases p <;> rfl

theorem liftP_matches (k : MapKind) (g : Payload → Payload) (v : Value) :
    k.matches (liftP k g v) = true := mkEntry_matches _ _ _

/-! ### `get_node` as a handle -/

theorem getN_of_absHV (f : Forest) (k : MapKind) (e key : Nat) :
    getN f k e key = ((absHV k f e).find? (fun p => entryKey p.2 == key)).map (·.1) := by
  unfold getN Forest.mapGetNode absHV
  cases f.get? e with
  | none => rfl
  | some t =>
    simp only [List.find?_map, Option.map_map]
    rfl

theorem SameViews.getN {f f' : Forest} {x : Nat} (s : SameViews f f' x) (k : MapKind) (key : Nat) :
    Fmap.getN f' k x key = Fmap.getN f k x key := by
  rw [getN_of_absHV, getN_of_absHV, s.hv k]

theorem getN_some {f : Forest} {k : MapKind} {e key : Nat} {n : HTree}
    (h : f.mapGetNode k e key = some n) : getN f k e key = some n.handle := by
  simp [getN, h]

theorem getN_none {f : Forest} {k : MapKind} {e key : Nat}
    (h : f.mapGetNode k e key = none) : getN f k e key = none := by
  simp [getN, h]

/-! ### `insert` -/

theorem mapInsert_found (f : Forest) (k : MapKind) (e : Nat) (v : Value) (n : HTree)
    (he : f.isElement e = true) (hn : f.mapGetNode k e (entryKey v) = some n) :
    f.mapInsert k e v = (f.setValue n.handle (Forest.entryUpdate n.value v), .ok) := by
  simp [Forest.mapInsert, he, hn]

/-- A parentless entry leaf is appended: the key's entry takes the value and its node is returned,
    or the node becomes the last entry and is returned itself. -/
theorem change_appendLeafRoot {f : Forest} (hi : f.Inv) (k : MapKind) (e nd : Nat) (v : Value)
    (he : f.isElement e = true) (hm : k.matches v = true) (hroot : HTree.node nd v [] ∈ f.roots) :
    (f.appendEntryNode k e nd).2.1 = .ok ∧
    some (f.appendEntryNode k e nd).2.2 = carrier (famOf f) (nodeView f) k e (entryKey v) nd ∧
    Change f (f.appendEntryNode k e nd).1 e k (opInsert v (abs k f e)) nd 0 := by
  obtain ⟨nm, N, A, S, h⟩ := minv_of_inv f e hi he
  have hval : f.value? nd = some v := by
    simp [Forest.value?, leafRoot_get f hi.nodup nd v hroot, HTree.value]
  show _ ∧ _ = (if omContainsKey (abs k f e) (entryKey v) then getN f k e (entryKey v)
    else some nd) ∧ _
  cases hn : f.mapGetNode k e (entryKey v) with
  | some n =>
    obtain ⟨_, _, heq, _, _⟩ := appendEntryNode_existing h k nd v hval hm n hn
    rw [heq, contains_of_getNode hn, getN_some hn]
    exact ⟨rfl, rfl, change_setValue hi h k (entryKey v) n v hm hn nd⟩
  | none =>
    obtain ⟨hr, t, _⟩ := change_place hi h k nd v hm hroot hn
    rw [hr, (getNode_none_iff f k e _).mp hn]
    exact ⟨rfl, rfl, t⟩

/-- `new_*_node(v)` followed by `append_*_node`. -/
theorem change_appendNew {f : Forest} (hi : f.Inv) (k : MapKind) (e : Nat) (v : Value)
    (he : f.isElement e = true) (hm : k.matches v = true) :
    ((f.newNode v).1.appendEntryNode k e f.next).2.1 = .ok ∧
    some ((f.newNode v).1.appendEntryNode k e f.next).2.2 =
      carrier (famOf f) (nodeView f) k e (entryKey v) f.next ∧
    Change f ((f.newNode v).1.appendEntryNode k e f.next).1 e k (opInsert v (abs k f e))
      f.next 1 := by
  have s := newNode_sameViews f hi v (matches_not_element k v hm)
  obtain ⟨hok, hret, t⟩ := change_appendLeafRoot (Fcreation.newNode_inv hi v) k e f.next v
    (isElement_newNode f v e he) hm (by simp [newNode_eq])
  rw [(s e).abs k] at t
  refine ⟨hok, hret.trans ?_, t.afterNew s⟩
  show (if omContainsKey (abs k (f.newNode v).1 e) _ then getN (f.newNode v).1 k e _ else _) =
    (if omContainsKey (abs k f e) _ then getN f k e _ else _)
  rw [(s e).abs k, (s e).getN k]

theorem mapInsert_absent_eq (f : Forest) (hi : f.Inv) (k : MapKind) (e : Nat) (v : Value)
    (he : f.isElement e = true) (hm : k.matches v = true)
    (hn : f.mapGetNode k e (entryKey v) = none) :
    f.mapInsert k e v = res3 ((f.newNode v).1.appendEntryNode k e f.next) := by
  have he1 := isElement_newNode f v e he
  have hval := newNode_value hi v
  have hn1 : (f.newNode v).1.mapGetNode k e (entryKey v) = none := by
    rw [getNode_none_iff] at hn ⊢
    rw [(newNode_sameViews f hi v (matches_not_element k v hm) e).abs k]
    exact hn
  simp only [Forest.mapInsert, he, hn, Forest.appendEntryNode, he1, hval, hm, Forest.mapInsertNode,
    hn1, res3, Bool.not_true, Bool.false_eq_true, if_false]
  rfl

/-- `insert`: a node is made exactly when the view lacks the key, and it carries the new entry. -/
theorem change_mapInsert {f : Forest} (hi : f.Inv) (k : MapKind) (e : Nat) (v : Value)
    (he : f.isElement e = true) (hm : k.matches v = true) :
    (f.mapInsert k e v).2 = .ok ∧
    Change f (f.mapInsert k e v).1 e k (opInsert v (abs k f e)) f.next
      (if omContainsKey (abs k f e) (entryKey v) then 0 else 1) := by
  cases hn : f.mapGetNode k e (entryKey v) with
  | some n =>
    obtain ⟨nm, N, A, S, h⟩ := minv_of_inv f e hi he
    rw [mapInsert_found f k e v n he hn, contains_of_getNode hn]
    exact ⟨rfl, change_setValue hi h k (entryKey v) n v hm hn _⟩
  | none =>
    rw [mapInsert_absent_eq f hi k e v he hm hn, (getNode_none_iff f k e _).mp hn]
    exact ⟨(change_appendNew hi k e v he hm).1, (change_appendNew hi k e v he hm).2.2⟩

theorem touch_mapInsert {f : Forest} (hi : f.Inv) (k : MapKind) (e : Nat) (v : Value)
    (he : f.isElement e = true) (hm : k.matches v = true) :
    (f.mapInsert k e v).2 = .ok ∧ Touch f (f.mapInsert k e v).1 e k (opInsert v (abs k f e)) :=
  (change_mapInsert hi k e v he hm).imp_right (·.toTouch)

/-! ### `remove`, `clear` -/

theorem omRemove_absent_get (f : Forest) (k : MapKind) (e key : Nat)
    (hn : f.mapGetNode k e key = none) : omRemove (abs k f e) key = abs k f e :=
  omRemove_of_not_contains _ _ ((getNode_none_iff f k e key).mp hn)

theorem change_mapRemove {f : Forest} (hi : f.Inv) (k : MapKind) (e key : Nat)
    (he : f.isElement e = true) (given : Nat) :
    (f.mapRemove k e key).2 = .ok ∧
    Change f (f.mapRemove k e key).1 e k (omRemove (abs k f e) key) given 0 := by
  cases hn : f.mapGetNode k e key with
  | some n =>
    obtain ⟨nm, N, A, S, h⟩ := minv_of_inv f e hi he
    have : f.mapRemove k e key = f.remove n.handle := by simp [Forest.mapRemove, he, hn]
    rw [this]
    exact change_remove hi h k key n hn given
  | none =>
    have : f.mapRemove k e key = (f, .ok) := by simp [Forest.mapRemove, he, hn]
    rw [this, omRemove_absent_get f k e key hn]
    exact ⟨rfl, Change.refl hi he k given⟩

theorem touch_mapRemove {f : Forest} (hi : f.Inv) (k : MapKind) (e key : Nat)
    (he : f.isElement e = true) :
    (f.mapRemove k e key).2 = .ok ∧
    Touch f (f.mapRemove k e key).1 e k (omRemove (abs k f e) key) :=
  (change_mapRemove hi k e key he 0).imp_right (·.toTouch)

/-! ### Writing through `get_mut` / `and_modify` -/

/-- The forest after the payload of the entry under `key` was overwritten with `G` of it. -/
theorem change_modify {f : Forest} (hi : f.Inv) (k : MapKind) (e key : Nat) (n : HTree)
    (entry : Value) (G : Payload → Payload) (he : f.isElement e = true)
    (hm : k.matches entry = true) (hn : f.mapGetNode k e key = some n)
    (hG : payloadOf entry = G (payloadOf n.value)) (given : Nat) :
    Change f (f.setValue n.handle (Forest.entryUpdate n.value entry)) e k
      (omModify (abs k f e) key G) given 0 := by
  obtain ⟨nm, N, A, S, h⟩ := minv_of_inv f e hi he
  rw [omModify_of_get_some _ key G _ (getNode_payload f k e key n hn), ← hG]
  exact change_setValue hi h k key n entry hm hn given

theorem omModify_absent_get (f : Forest) (k : MapKind) (e key : Nat) (G : Payload → Payload)
    (hn : f.mapGetNode k e key = none) : omModify (abs k f e) key G = abs k f e :=
  omModify_of_get_none _ _ _ (get_none_of_not_contains _ _ ((getNode_none_iff f k e key).mp hn))

theorem change_getMutSet {f : Forest} (hi : f.Inv) (k : MapKind) (e key : Nat) (new : Value)
    (he : f.isElement e = true) (hm : k.matches new = true) (given : Nat) :
    (f.mapGetMutSet k e key new).2.1 = .ok ∧
    Change f (f.mapGetMutSet k e key new).1 e k
      (omModify (abs k f e) key (fun _ => payloadOf new)) given 0 := by
  cases hn : f.mapGetNode k e key with
  | some n =>
    have : f.mapGetMutSet k e key new =
        (f.setValue n.handle (Forest.entryUpdate n.value new), .ok, true) := by
      simp [Forest.mapGetMutSet, he, hn]
    rw [this]
    exact ⟨rfl, change_modify hi k e key n new _ he hm hn rfl given⟩
  | none =>
    have : f.mapGetMutSet k e key new = (f, .ok, false) := by
      simp [Forest.mapGetMutSet, he, hn]
    rw [this, omModify_absent_get f k e key _ hn]
    exact ⟨rfl, Change.refl hi he k given⟩

theorem touch_getMutSet {f : Forest} (hi : f.Inv) (k : MapKind) (e key : Nat) (new : Value)
    (he : f.isElement e = true) (hm : k.matches new = true) :
    (f.mapGetMutSet k e key new).2.1 = .ok ∧
    Touch f (f.mapGetMutSet k e key new).1 e k
      (omModify (abs k f e) key (fun _ => payloadOf new)) :=
  (change_getMutSet hi k e key new he hm 0).imp_right (·.toTouch)

theorem getNode_cat {f : Forest} (hi : f.Inv) (k : MapKind) (e key : Nat) (n : HTree)
    (he : f.isElement e = true) (hn : f.mapGetNode k e key = some n) :
    n.value.category = kindCat k ∧ entryKey n.value = key := by
  obtain ⟨nm, N, A, S, h⟩ := minv_of_inv f e hi he
  have hn' := hn
  rw [h.getNode k] at hn'
  exact ⟨h.sect.sec_cat k n (List.mem_of_find?_eq_some hn'), (getNode_mem f k e key n hn).2⟩

theorem entryAndModify_found (f : Forest) (k : MapKind) (e key : Nat) (g : Value → Value) (n : HTree)
    (he : f.isElement e = true) (hn : f.mapGetNode k e key = some n) :
    f.entryAndModify k e key g =
      (f.setValue n.handle (Forest.entryUpdate n.value (g n.value)), .ok, .occupied key) := by
  simp only [Forest.entryAndModify, he, mapEntry_eq, contains_of_getNode hn, hn, Bool.not_true,
    Bool.false_eq_true, if_false, if_true]

theorem entryAndModify_absent (f : Forest) (k : MapKind) (e key : Nat) (g : Value → Value)
    (he : f.isElement e = true) (hn : f.mapGetNode k e key = none) :
    f.entryAndModify k e key g = (f, .ok, .vacant key) := by
  have hc := (getNode_none_iff f k e key).mp hn
  simp only [Forest.entryAndModify, he, mapEntry_eq, hc, Bool.not_true, Bool.false_eq_true,
    if_false]

/-- `entry(key).and_modify(g)` for any `g` that keeps an entry value in its view (the closures of
    `MapOp2` are `liftP k g`, which does, and `modP k key g` is this payload function for them). -/
theorem change_entryAndModify {f : Forest} (hi : f.Inv) (k : MapKind) (e key : Nat)
    (g : Value → Value) (he : f.isElement e = true)
    (hg : ∀ v, k.matches v = true → k.matches (g v) = true) (given : Nat) :
    (f.entryAndModify k e key g).2.1 = .ok ∧
    Change f (f.entryAndModify k e key g).1 e k
      (omModify (abs k f e) key (fun p => payloadOf (g (mkEntry k key p)))) given 0 := by
  cases hn : f.mapGetNode k e key with
  | some n =>
    rw [entryAndModify_found f k e key _ n he hn]
    obtain ⟨hc, hk⟩ := getNode_cat hi k e key n he hn
    refine ⟨rfl, change_modify hi k e key n _ _ he (hg _ ((matches_iff_cat k _).mpr hc)) hn ?_ given⟩
    rw [← hk, mkEntry_self k n.value hc]
  | none =>
    rw [entryAndModify_absent f k e key _ he hn, omModify_absent_get f k e key _ hn]
    exact ⟨rfl, Change.refl hi he k given⟩

theorem touch_entryAndModify {f : Forest} (hi : f.Inv) (k : MapKind) (e key : Nat)
    (g : Value → Value) (he : f.isElement e = true)
    (hg : ∀ v, k.matches v = true → k.matches (g v) = true) :
    (f.entryAndModify k e key g).2.1 = .ok ∧
    Touch f (f.entryAndModify k e key g).1 e k
      (omModify (abs k f e) key (fun p => payloadOf (g (mkEntry k key p)))) :=
  (change_entryAndModify hi k e key g he hg 0).imp_right (·.toTouch)

/-! ### The entry API -/

theorem opInsert_of_contains_false (v : Value) (m : OMap Payload)
    (h : omContainsKey m (entryKey v) = false) : opOrInsert v m = opInsert v m := by
  simp [opOrInsert, h]

/-- `VacantEntry::insert` is `insert`: the `unwrap` of the look-up after the insertion is safe, the
    view has the key. -/
theorem change_vacInsert {f : Forest} (hi : f.Inv) (k : MapKind) (e : Nat) (v : Value)
    (he : f.isElement e = true) (hm : k.matches v = true) :
    (f.vacInsert k e v).2 = .ok ∧
    Change f (f.vacInsert k e v).1 e k (opInsert v (abs k f e)) f.next
      (if omContainsKey (abs k f e) (entryKey v) then 0 else 1) := by
  obtain ⟨hok, t⟩ := change_mapInsert hi k e v he hm
  refine ⟨?_, by rw [vacInsert_fst]; exact t⟩
  unfold Forest.vacInsert
  generalize f.mapInsert k e v = r at hok t
  obtain ⟨f1, res⟩ := r
  simp only at hok t ⊢
  subst hok
  simp only
  rw [occGetMut_eq, t.same]
  simp [opInsert, contains_insert_self]

/-- `OccupiedEntry::insert` is `insert`: the `unwrap` of the old value is safe, the key was there. -/
theorem change_occInsert {f : Forest} (hi : f.Inv) (k : MapKind) (e : Nat) (v : Value)
    (he : f.isElement e = true) (hm : k.matches v = true)
    (hc : omContainsKey (abs k f e) (entryKey v) = true) :
    (f.occInsert k e v).2 = .ok ∧
    Change f (f.occInsert k e v).1 e k (opInsert v (abs k f e)) f.next 0 := by
  obtain ⟨hok, t⟩ := change_mapInsert hi k e v he hm
  rw [hc] at t
  refine ⟨?_, by rw [occInsert_fst]; exact t⟩
  unfold Forest.occInsert
  rw [containsKey_eq, hc]
  generalize f.mapInsert k e v = r at hok
  obtain ⟨f1, res⟩ := r
  simp only at hok ⊢
  subst hok
  rfl

/-- `OccupiedEntry::remove` is `remove`, likewise. -/
theorem change_occRemove {f : Forest} (hi : f.Inv) (k : MapKind) (e key : Nat)
    (he : f.isElement e = true) (hc : omContainsKey (abs k f e) key = true) (given : Nat) :
    (f.occRemove k e key).2 = .ok ∧
    Change f (f.occRemove k e key).1 e k (omRemove (abs k f e) key) given 0 := by
  obtain ⟨hok, t⟩ := change_mapRemove hi k e key he given
  refine ⟨?_, by rw [occRemove_fst]; exact t⟩
  unfold Forest.occRemove
  rw [containsKey_eq, hc]
  generalize f.mapRemove k e key = r at hok
  obtain ⟨f1, res⟩ := r
  simp only at hok ⊢
  subst hok
  rfl

theorem change_vacantInsert {f : Forest} (hi : f.Inv) (k : MapKind) (e : Nat) (d : Value)
    (he : f.isElement e = true) (hm : k.matches d = true) :
    (f.vacantInsert k e d).2 = .ok ∧
    Change f (f.vacantInsert k e d).1 e k (opOrInsert d (abs k f e)) f.next
      (if omContainsKey (abs k f e) (entryKey d) then 0 else 1) := by
  unfold Forest.vacantInsert opOrInsert
  rw [he, mapEntry_eq]
  cases hc : omContainsKey (abs k f e) (entryKey d) with
  | true => exact ⟨rfl, Change.refl hi he k _⟩
  | false =>
    have := change_vacInsert hi k e d he hm
    rw [hc] at this
    exact this

/-- With an occupied entry `or_insert` only re-borrows the value, which is there. -/
theorem entryOrInsert_eq_vacantInsert (f : Forest) (k : MapKind) (e : Nat) (d : Value)
    (he : f.isElement e = true) : f.entryOrInsert k e d = f.vacantInsert k e d := by
  unfold Forest.entryOrInsert Forest.vacantInsert
  rw [he, mapEntry_eq]
  cases hc : omContainsKey (abs k f e) (entryKey d) with
  | true => simp only [Bool.not_true, Bool.false_eq_true, if_false, if_true, occGetMut_eq, hc]
  | false => rfl

theorem change_entryOrInsert {f : Forest} (hi : f.Inv) (k : MapKind) (e : Nat) (d : Value)
    (he : f.isElement e = true) (hm : k.matches d = true) :
    (f.entryOrInsert k e d).2 = .ok ∧
    Change f (f.entryOrInsert k e d).1 e k (opOrInsert d (abs k f e)) f.next
      (if omContainsKey (abs k f e) (entryKey d) then 0 else 1) := by
  rw [entryOrInsert_eq_vacantInsert f k e d he]
  exact change_vacantInsert hi k e d he hm

theorem touch_entryOrInsert {f : Forest} (hi : f.Inv) (k : MapKind) (e : Nat) (d : Value)
    (he : f.isElement e = true) (hm : k.matches d = true) :
    (f.entryOrInsert k e d).2 = .ok ∧
    Touch f (f.entryOrInsert k e d).1 e k (opOrInsert d (abs k f e)) :=
  (change_entryOrInsert hi k e d he hm).imp_right (·.toTouch)

theorem change_occupiedInsert {f : Forest} (hi : f.Inv) (k : MapKind) (e : Nat) (v : Value)
    (he : f.isElement e = true) (hm : k.matches v = true) :
    (f.occupiedInsert k e v).2 = .ok ∧
    Change f (f.occupiedInsert k e v).1 e k (opOccInsert v (abs k f e)) f.next 0 := by
  unfold Forest.occupiedInsert opOccInsert
  rw [he, mapEntry_eq]
  cases hc : omContainsKey (abs k f e) (entryKey v) with
  | true => exact change_occInsert hi k e v he hm hc
  | false => exact ⟨rfl, Change.refl hi he k _⟩

/-- `match entry { Occupied(o) => o.insert(v), Vacant(va) => va.insert(v) }` is `insert`. -/
theorem change_entryInsert {f : Forest} (hi : f.Inv) (k : MapKind) (e : Nat) (v : Value)
    (he : f.isElement e = true) (hm : k.matches v = true) :
    (f.entryInsert k e v).2 = .ok ∧
    Change f (f.entryInsert k e v).1 e k (opInsert v (abs k f e)) f.next
      (if omContainsKey (abs k f e) (entryKey v) then 0 else 1) := by
  unfold Forest.entryInsert
  rw [he, mapEntry_eq]
  cases hc : omContainsKey (abs k f e) (entryKey v) with
  | true => exact change_occInsert hi k e v he hm hc
  | false =>
    have := change_vacInsert hi k e v he hm
    rw [hc] at this
    exact this

theorem touch_entryInsert {f : Forest} (hi : f.Inv) (k : MapKind) (e : Nat) (v : Value)
    (he : f.isElement e = true) (hm : k.matches v = true) :
    (f.entryInsert k e v).2 = .ok ∧ Touch f (f.entryInsert k e v).1 e k (opInsert v (abs k f e)) :=
  (change_entryInsert hi k e v he hm).imp_right (·.toTouch)

theorem change_entryRemove {f : Forest} (hi : f.Inv) (k : MapKind) (e key : Nat)
    (he : f.isElement e = true) (given : Nat) :
    (f.entryRemove k e key).2 = .ok ∧
    Change f (f.entryRemove k e key).1 e k (omRemove (abs k f e) key) given 0 := by
  unfold Forest.entryRemove
  rw [he, mapEntry_eq]
  cases hc : omContainsKey (abs k f e) key with
  | true => exact change_occRemove hi k e key he hc given
  | false =>
    rw [omRemove_of_not_contains _ _ hc]
    exact ⟨rfl, Change.refl hi he k given⟩

theorem touch_entryRemove {f : Forest} (hi : f.Inv) (k : MapKind) (e key : Nat)
    (he : f.isElement e = true) :
    (f.entryRemove k e key).2 = .ok ∧
    Touch f (f.entryRemove k e key).1 e k (omRemove (abs k f e) key) :=
  (change_entryRemove hi k e key he 0).imp_right (·.toTouch)

/-- `entry(key).and_modify(g).or_insert(default)`, for `g` as in `change_entryAndModify`
    (`opModifyOrInsert k d g` is this map function for `liftP k g`): with the key it is
    `and_modify`, without it `insert`. -/
theorem change_entryAndModifyOrInsert {f : Forest} (hi : f.Inv) (k : MapKind) (e : Nat)
    (d : Value) (g : Value → Value) (he : f.isElement e = true) (hm : k.matches d = true)
    (hg : ∀ v, k.matches v = true → k.matches (g v) = true) :
    (f.entryAndModifyOrInsert k e d g).2 = .ok ∧
    Change f (f.entryAndModifyOrInsert k e d g).1 e k
      (if omContainsKey (abs k f e) (entryKey d)
       then omModify (abs k f e) (entryKey d) (fun p => payloadOf (g (mkEntry k (entryKey d) p)))
       else omInsert (abs k f e) (entryKey d) (payloadOf d)) f.next
      (if omContainsKey (abs k f e) (entryKey d) then 0 else 1) := by
  obtain ⟨_, t⟩ := change_entryAndModify hi k e (entryKey d) g he hg f.next
  unfold Forest.entryAndModifyOrInsert
  cases hn : f.mapGetNode k e (entryKey d) with
  | some n =>
    have hc := contains_of_getNode hn
    rw [entryAndModify_found f k e _ _ n he hn] at t ⊢
    simp only [hc, if_true] at t ⊢
    -- the value is re-borrowed from the map as it then is: it still has the key
    exact ⟨by rw [occGetMut_eq, t.same, omContainsKey_modify, hc]; rfl, t⟩
  | none =>
    have hc := (getNode_none_iff f k e (entryKey d)).mp hn
    rw [entryAndModify_absent f k e _ _ he hn]
    have := change_vacInsert hi k e d he hm
    rw [hc] at this ⊢
    exact this

theorem touch_entryAndModifyOrInsert {f : Forest} (hi : f.Inv) (k : MapKind) (e : Nat) (d : Value)
    (g : Value → Value) (he : f.isElement e = true) (hm : k.matches d = true)
    (hg : ∀ v, k.matches v = true → k.matches (g v) = true) :
    (f.entryAndModifyOrInsert k e d g).2 = .ok ∧
    Touch f (f.entryAndModifyOrInsert k e d g).1 e k
      (if omContainsKey (abs k f e) (entryKey d)
       then omModify (abs k f e) (entryKey d) (fun p => payloadOf (g (mkEntry k (entryKey d) p)))
       else omInsert (abs k f e) (entryKey d) (payloadOf d)) :=
  (change_entryAndModifyOrInsert hi k e d g he hm hg).imp_right (·.toTouch)

/-! ### Node-style removal -/

theorem change_detachEntry {f : Forest} (hi : f.Inv) (k : MapKind) (e key : Nat)
    (he : f.isElement e = true) (given : Nat) :
    let r : Forest × Res := match f.mapGetNode k e key with
      | some n => f.detach n.handle
      | none => (f, .ok)
    r.2 = .ok ∧ Change f r.1 e k (omRemove (abs k f e) key) given 0 := by
  intro r
  cases hn : f.mapGetNode k e key with
  | some n =>
    obtain ⟨nm, N, A, S, h⟩ := minv_of_inv f e hi he
    obtain ⟨hok, t, _⟩ := change_detach hi h k key n hn given
    simp only [r, hn]
    exact ⟨hok, t⟩
  | none =>
    simp only [r, hn]
    rw [omRemove_absent_get f k e key hn]
    exact ⟨trivial, Change.refl hi he k given⟩

theorem change_removeEntry {f : Forest} (hi : f.Inv) (k : MapKind) (e key : Nat)
    (he : f.isElement e = true) (given : Nat) :
    let r : Forest × Res := match f.mapGetNode k e key with
      | some n => f.remove n.handle
      | none => (f, .ok)
    r.2 = .ok ∧ Change f r.1 e k (omRemove (abs k f e) key) given 0 := by
  intro r
  cases hn : f.mapGetNode k e key with
  | some n =>
    obtain ⟨nm, N, A, S, h⟩ := minv_of_inv f e hi he
    simp only [r, hn]
    exact change_remove hi h k key n hn given
  | none =>
    simp only [r, hn]
    rw [omRemove_absent_get f k e key hn]
    exact ⟨trivial, Change.refl hi he k given⟩

end Fmap
end XotModel
