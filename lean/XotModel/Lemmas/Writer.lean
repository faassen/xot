/-
  The failing writer (`Model/Writer.lean`): a threaded loop is its trace
  replayed; a replay ends `Io` or as the trace ends; what the writer holds is a prefix of the trace's
  bytes; the call budget.
-/
import XotModel.Model.Writer

namespace XotModel

/-- An optional single call (`if cond { w.write_all(x)?; }`) concatenated. -/
theorem Writer.flatten_ite_singleton {α : Type} (c : Prop) [Decidable c] (x : List α) :
    (if c then [x] else ([] : List (List α))).flatten = if c then x else [] := by
  split <;> simp

theorem writeCalls_append (P : WriterPolicy) (hist a b : List Str) :
    writeCalls P hist (a ++ b) =
      (match writeCalls P hist a with
       | .ok h => writeCalls P h b
       | .error e => .error e) := by
  induction a generalizing hist with
  | nil => simp [writeCalls]
  | cons c cs ih =>
    simp only [List.cons_append, writeCalls]
    cases P hist c with
    | none => exact ih _
    | some k => rfl

theorem writeCalls_ok (P : WriterPolicy) (hist cs h : List Str) (hw : writeCalls P hist cs = .ok h) :
    h = hist ++ cs := by
  induction cs generalizing hist with
  | nil => simp [writeCalls] at hw; simp [hw]
  | cons c cs ih =>
    simp only [writeCalls] at hw
    cases hp : P hist c with
    | none => rw [hp] at hw; simp only [] at hw; rw [ih _ hw]; simp
    | some k => rw [hp] at hw; cases hw

theorem writeCalls_error (P : WriterPolicy) (hist cs : List Str) (b : Str)
    (hw : writeCalls P hist cs = .error b) : ∃ rest, (hist ++ cs).flatten = b ++ rest := by
  induction cs generalizing hist with
  | nil => simp [writeCalls] at hw
  | cons c cs ih =>
    simp only [writeCalls] at hw
    cases hp : P hist c with
    | none =>
      rw [hp] at hw; simp only [] at hw
      obtain ⟨rest, h⟩ := ih _ hw
      exact ⟨rest, by rw [← h]; simp⟩
    | some k =>
      rw [hp] at hw; simp only [] at hw
      injection hw with hw
      refine ⟨c.drop k ++ cs.flatten, ?_⟩
      rw [← hw]
      simp only [List.flatten_append, List.flatten_cons, List.append_assoc]
      rw [← List.append_assoc (c.take k), List.take_append_drop]

theorem writeCalls_unlimited (hist cs : List Str) :
    writeCalls WriterPolicy.unlimited hist cs = .ok (hist ++ cs) := by
  induction cs generalizing hist with
  | nil => simp [writeCalls]
  | cons c cs ih => simp only [writeCalls, WriterPolicy.unlimited]; rw [ih]; simp

/-- The call budget: everything is accepted while the budget lasts; the call after the last
    budgeted one is refused and the writer holds the calls before it. -/
theorem writeCalls_budget (k : Nat) (hist cs : List Str) (hk : hist.length ≤ k) :
    writeCalls (WriterPolicy.budget (some k)) hist cs =
      if hist.length + cs.length ≤ k then .ok (hist ++ cs)
      else .error (hist ++ cs.take (k - hist.length)).flatten := by
  induction cs generalizing hist with
  | nil =>
    simp only [writeCalls, List.length_nil, Nat.add_zero, List.append_nil, List.take_nil]
    rw [if_pos hk]
  | cons c cs ih =>
    simp only [writeCalls, WriterPolicy.budget]
    by_cases hlt : hist.length < k
    · rw [if_pos hlt]
      simp only []
      have := ih (hist ++ [c]) (by simp; omega)
      simp only [WriterPolicy.budget] at this
      rw [this]
      simp only [List.length_append, List.length_cons, List.length_nil, Nat.zero_add]
      by_cases hle : hist.length + (cs.length + 1) ≤ k
      · have hle' : hist.length + 1 + cs.length ≤ k := by omega
        rw [if_pos hle, if_pos hle']; simp
      · have hle' : ¬ hist.length + 1 + cs.length ≤ k := by omega
        rw [if_neg hle, if_neg hle']
        have e2 : k - hist.length = (k - (hist.length + 1)) + 1 := by omega
        rw [e2, List.take_succ_cons]
        simp
    · rw [if_neg hlt]
      simp only [List.length_cons]
      have hn : ¬ (hist.length + (cs.length + 1) ≤ k) := by omega
      rw [if_neg hn]
      have e2 : k - hist.length = 0 := by omega
      rw [e2]
      simp

/-! ### Replaying a trace -/

theorem replayCalls_append (P : WriterPolicy) (hist a b : List Str) (r : Outcome XotError Unit) :
    replayCalls P hist (a ++ b, r) =
      (match writeCalls P hist a with
       | .ok h => replayCalls P h (b, r)
       | .error e => (e, .err .io)) := by
  simp only [replayCalls, writeCalls_append]
  cases writeCalls P hist a <;> rfl

theorem writeLoopW_eq_replayCalls {σ α : Type} (P : WriterPolicy)
    (step : σ → α → List Str × Outcome XotError σ) (hist : List Str) (s : σ) (items : List α) :
    writeLoopW P step hist s items = replayCalls P hist (callsLoop step s items) := by
  induction items generalizing hist s with
  | nil => simp [writeLoopW, callsLoop, replayCalls, writeCalls]
  | cons a rest ih =>
    simp only [writeLoopW, callsLoop]
    cases hr : (step s a).2 with
    | ok s' =>
      simp only []
      rw [replayCalls_append]
      cases hw : writeCalls P hist (step s a).1 with
      | ok h => simp only []; exact ih h s'
      | error e => rfl
    | err e =>
      simp only [replayCalls]
      cases hw : writeCalls P hist (step s a).1 <;> rfl
    | panic =>
      simp only [replayCalls]
      cases hw : writeCalls P hist (step s a).1 <;> rfl

theorem replayCalls_outcome (P : WriterPolicy) (hist : List Str) (tr : List Str × Outcome XotError Unit) :
    (replayCalls P hist tr = ((hist ++ tr.1).flatten, tr.2)) ∨ (replayCalls P hist tr).2 = .err .io := by
  unfold replayCalls
  cases hw : writeCalls P hist tr.1 with
  | ok h => left; rw [writeCalls_ok P _ _ _ hw]
  | error b => right; rfl

theorem replayCalls_prefix (P : WriterPolicy) (hist : List Str) (tr : List Str × Outcome XotError Unit) :
    ∃ rest, (hist ++ tr.1).flatten = (replayCalls P hist tr).1 ++ rest := by
  unfold replayCalls
  cases hw : writeCalls P hist tr.1 with
  | ok h => exact ⟨[], by rw [writeCalls_ok P _ _ _ hw]; simp⟩
  | error b => exact writeCalls_error P _ _ _ hw

theorem replayCalls_panic (P : WriterPolicy) (hist : List Str) (tr : List Str × Outcome XotError Unit)
    (h : (replayCalls P hist tr).2 = .panic) : tr.2 = .panic := by
  rcases replayCalls_outcome P hist tr with h' | h'
  · rw [h'] at h; exact h
  · rw [h'] at h; cases h

theorem replayCalls_unlimited (hist : List Str) (tr : List Str × Outcome XotError Unit) :
    replayCalls WriterPolicy.unlimited hist tr = ((hist ++ tr.1).flatten, tr.2) := by
  simp [replayCalls, writeCalls_unlimited]

/-- Call budget `k`, from an empty history: enough budget gives the trace's own end with all its bytes;
    otherwise `Io`, the writer holding exactly the first `k` calls. -/
theorem replayCalls_budget (k : Nat) (tr : List Str × Outcome XotError Unit) :
    replayCalls (WriterPolicy.budget (some k)) [] tr =
      if tr.1.length ≤ k then (tr.1.flatten, tr.2) else ((tr.1.take k).flatten, .err .io) := by
  simp only [replayCalls, writeCalls_budget k [] tr.1 (Nat.zero_le _), List.length_nil, Nat.zero_add,
    List.nil_append, Nat.sub_zero]
  by_cases h : tr.1.length ≤ k
  · rw [if_pos h, if_pos h]
  · rw [if_neg h, if_neg h]

/-! ### A fact about a loop is a fact about its step -/

theorem callsLoop_congr_map {σ α β : Type} (f : α → β) (stepA : σ → α → List Str × Outcome XotError σ)
    (stepB : σ → β → List Str × Outcome XotError σ) :
    ∀ (items : List α), (∀ a ∈ items, ∀ s, stepA s a = stepB s (f a)) →
      ∀ s, callsLoop stepA s items = callsLoop stepB s (items.map f)
  | [], _, _ => rfl
  | a :: rest, h, s => by
    have ih := callsLoop_congr_map f stepA stepB rest (fun b hb => h b (List.mem_cons_of_mem _ hb))
    simp only [List.map_cons, callsLoop, h a List.mem_cons_self s]
    cases (stepB s (f a)).2 <;> simp only [ih]

theorem callsLoop_snd_congr {σ α : Type} (stepA stepB : σ → α → List Str × Outcome XotError σ) :
    ∀ (items : List α), (∀ a ∈ items, ∀ s, (stepA s a).2 = (stepB s a).2) →
      ∀ s, (callsLoop stepA s items).2 = (callsLoop stepB s items).2
  | [], _, _ => rfl
  | a :: rest, h, s => by
    have ih := callsLoop_snd_congr stepA stepB rest (fun b hb => h b (List.mem_cons_of_mem _ hb))
    simp only [callsLoop, h a List.mem_cons_self s]
    cases (stepB s a).2 <;> simp only [ih]

/-! ### Everything a writer can do to a trace

The serialisers enter the writer theorems only through "the threaded function is its trace replayed"; what a
writer policy can do to a trace is said here once, about `replayCalls` alone. -/

theorem replayCalls_ok {P : WriterPolicy} {hist h : List Str} {tr : List Str × Outcome XotError Unit}
    (hw : writeCalls P hist tr.1 = .ok h) : replayCalls P hist tr = (h.flatten, tr.2) := by
  simp only [replayCalls, hw]

theorem replayCalls_error {P : WriterPolicy} {hist : List Str} {b : Str} {tr : List Str × Outcome XotError Unit}
    (hw : writeCalls P hist tr.1 = .error b) : replayCalls P hist tr = (b, .err .io) := by
  simp only [replayCalls, hw]

/-- From an empty history: one call is refused and the result is `Io` with what the writer held, or all are accepted
    and the replay is the trace; no panic of the writer's making; the writer holds a prefix of the trace's text; a call
    budget of at least the number of calls changes nothing, a smaller one gives `Io` after exactly that many calls. -/
theorem replayCalls_writer (P : WriterPolicy) (tr : List Str × Outcome XotError Unit) :
    ((∃ b, writeCalls P [] tr.1 = .error b ∧ replayCalls P [] tr = (b, .err .io)) ∨
      (writeCalls P [] tr.1 = .ok tr.1 ∧ replayCalls P [] tr = (tr.1.flatten, tr.2))) ∧
    ((replayCalls P [] tr).2 = .panic → tr.2 = .panic) ∧
    (∃ rest, tr.1.flatten = (replayCalls P [] tr).1 ++ rest) ∧
    (∀ k, tr.1.length ≤ k → replayCalls (WriterPolicy.budget (some k)) [] tr = (tr.1.flatten, tr.2)) ∧
    (∀ k, k < tr.1.length →
      replayCalls (WriterPolicy.budget (some k)) [] tr = ((tr.1.take k).flatten, .err .io)) := by
  refine ⟨?_, replayCalls_panic P [] tr, replayCalls_prefix P [] tr, fun k hk => ?_, fun k hk => ?_⟩
  · cases hw : writeCalls P [] tr.1 with
    | error b => exact Or.inl ⟨b, rfl, replayCalls_error hw⟩
    | ok h =>
      obtain rfl : h = tr.1 := writeCalls_ok P _ _ _ hw
      exact Or.inr ⟨rfl, replayCalls_ok hw⟩
  · rw [replayCalls_budget, if_pos hk]
  · rw [replayCalls_budget, if_neg (by omega)]

end XotModel
