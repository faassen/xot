/-
  The round trip, meaning: what the spelling of a tree DENOTES (`NSNode.denote`: XML-Namespaces
  scoping over the declarations as written, as strings) is what the tree itself reads back as through
  the interning tables (`decodeNsTree` / `decodeNs`), for every `nodeOK` tree the serialiser accepts.
-/
import XotModel.Lemmas.RoundTripItems
import XotModel.Lemmas.LineEnds

namespace XotModel

variable {env : Env}

theorem denoteList_append (sc : Scope) (a b : List NSNode) :
    NSNode.denote.denoteList sc (a ++ b) = NSNode.denote.denoteList sc a ++ NSNode.denote.denoteList sc b := by
  induction a with
  | nil => rfl
  | cons k ks ih => simp [NSNode.denote.denoteList, ih]

theorem denoteList_cons (sc : Scope) (k : NSNode) (ks : List NSNode) :
    NSNode.denote.denoteList sc (k :: ks) = k.denote sc ++ NSNode.denote.denoteList sc ks := rfl

theorem spellKids_abnormal (inScope : List (Nat × Nat)) (s : FStack) :
    ∀ (ks : List Tree), (∀ k ∈ ks, k.value.isNormal = false ∧ k.kids = []) →
      spellNode.spellKids env inScope s ks = []
  | [], _ => rfl
  | .node v kk :: ks, h => by
    obtain ⟨hv, rfl⟩ : v.isNormal = false ∧ kk = [] := h (.node v kk) List.mem_cons_self
    rw [spellNode.spellKids, spellKids_abnormal inScope s ks (fun k hk => h k (List.mem_cons_of_mem _ hk))]
    cases v with
    | «attribute» a b => rfl
    | «namespace» a b => rfl
    | _ => cases hv

namespace PiColon

/-- The spelled content of an element the serialiser writes `<a/>`. -/
theorem spellKids_empty {name : Nat} {ks : List Tree}
    (hn : (Tree.node (.element name) ks).allNodes (nodeOK env) = true)
    (hfc : (Tree.node (.element name) ks).firstChild?.isNone = true) (inScope : List (Nat × Nat))
    (s : FStack) : spellNode.spellKids env inScope s ks = [] :=
  spellKids_abnormal inScope s ks (emptyElement_kids env hn hfc)

end PiColon

theorem partsValue_text (str : Str) : partsValue [.txt (textPieces str) 0] = str := by
  simp [partsValue, SPart.value, valueOf_textPieces]

theorem option_map_sp0_text (data : Option Str) : (data.map sp0).map (fun c => c.text) = data := by
  cases data <;> rfl

theorem decodeItems_cons (env : Env) (k : Tree) (ks : List Tree) (a : NItem) (as : List NItem)
    (hk : decodeNsTree env k = some a) (hks : decodeNsTree.decodeItems env ks = some as) :
    decodeNsTree.decodeItems env (k :: ks) = some (a :: as) := by
  simp only [decodeNsTree.decodeItems, hk, hks]

namespace PiColon

theorem spell_denote_rec (he : EnvFacts env) (inScope : List (Nat × Nat)) :
    (∀ (n : Tree) (s : FStack) (fs : Frames) (sc : Scope), ScopeRel env s fs sc →
      n.allNodes (nodeOK env) = true → n.value.isDocument = false →
      ∀ ts, serNode env false inScope false s n = .ok ts →
      ∃ item, decodeNsTree env n = some item ∧
        [item].filterMap NItem.decl? = (kidDecls [n]).map (declStr env) ∧
        [item].filterMap NItem.attr? = (kidAttrs [n]).map (attrStr env) ∧
        NSNode.denote.denoteList sc (spellNode env inScope false s n) = [item].filterMap NItem.node?) ∧
    ∀ (ks : List Tree) (s : FStack) (fs : Frames) (sc : Scope), ScopeRel env s fs sc →
      (∀ k ∈ ks, k.allNodes (nodeOK env) = true) → (∀ k ∈ ks, k.value.isDocument = false) →
      ∀ ts, serNode.serKids env false inScope s ks = .ok ts →
      ∃ items, decodeNsTree.decodeItems env ks = some items ∧
        items.filterMap NItem.decl? = (kidDecls ks).map (declStr env) ∧
        items.filterMap NItem.attr? = (kidAttrs ks).map (attrStr env) ∧
        NSNode.denote.denoteList sc (spellNode.spellKids env inScope s ks) =
          items.filterMap NItem.node? := by
  refine tree_induction_both ?_ ?_ ?_
  · intro v ks ih s fs sc hrel hn hdoc ts h
    have hval := allNodes_value env hn
    cases v with
    | document => simp [Tree.value, Value.isDocument] at hdoc
    | «attribute» a b =>
      have hl := allNodes_leaf env hn rfl
      subst hl
      exact ⟨.attr (env.expanded a, b), rfl, rfl, rfl, rfl⟩
    | «namespace» a b =>
      have hl := allNodes_leaf env hn rfl
      subst hl
      exact ⟨.decl (env.prefixStr a, env.namespaceStr b), rfl, rfl, rfl, rfl⟩
    | text str =>
      have hl := allNodes_leaf env hn rfl
      subst hl
      refine ⟨.node (.text str), rfl, rfl, rfl, ?_⟩
      simp only [Tree.value, valueOK, Bool.and_eq_true, Bool.not_eq_true', List.isEmpty_eq_false_iff] at hval
      simp only [spellNode, spellNode.spellKids, denoteList_cons, NSNode.denote, partsValue_text, hval.1,
        if_false, NSNode.denote.denoteList]
      rfl
    | comment str =>
      have hl := allNodes_leaf env hn rfl
      subst hl
      refine ⟨.node (.comment str), rfl, rfl, rfl, ?_⟩
      -- no CR in the comment text (`valueOK`): the parser's line-end normalisation is the identity
      have hcr : str.contains '\r' = false := by
        simp only [Tree.value, valueOK, Bool.and_eq_true, Bool.not_eq_true'] at hval
        exact hval.2
      simp only [spellNode, spellNode.spellKids, denoteList_cons, NSNode.denote, sp0,
        NSNode.denote.denoteList, normalizeLineEnds_noCr' str hcr]
      rfl
    | pi target data =>
      have hl := allNodes_leaf env hn rfl
      subst hl
      refine ⟨.node (.pi (env.localName target) data), rfl, rfl, rfl, ?_⟩
      have hdata : (data.map sp0).map (fun c => normalizeLineEnds c.text) = data := by
        cases data with
        | none => rfl
        | some d =>
          simp only [Tree.value, valueOK, Bool.and_eq_true, Bool.not_eq_true'] at hval
          simp only [Option.map_some, sp0, normalizeLineEnds_noCr' d hval.2.2]
      simp only [spellNode, spellNode.spellKids, denoteList_cons, NSNode.denote, hdata,
        NSNode.denote.denoteList]
      rfl
    | element name =>
      obtain ⟨p, ats, content, hcheck, hp, ha, hk, _⟩ := serNode_element_ok env h
      obtain ⟨hord, hkinds, _, _, _⟩ := nodeOK_root hn
      have hdecls := declsOK_of_nodeOK hn
      have hrel' := hrel.push he hdecls
      obtain ⟨items, hitems, hid, hia, hin⟩ := ih _ _ _ hrel'
        (fun k hk' => allNodes_kid hn hk') hkinds.2.2 content hk
      have hfacts := spellItems_facts he hrel' inScope (Tree.node (.element name) ks) hdecls
        (fun a ha' => attrs_valueOK env hn ha') (attrTokens_prefixes _ ats ha)
      obtain ⟨hdo, hao, _⟩ := hfacts
      have hres := (hrel'.element he hp hcheck).1
      refine ⟨.node (.elem (env.expanded name).1 (env.expanded name).2 (items.filterMap NItem.decl?)
        (items.filterMap NItem.attr?) (items.filterMap NItem.node?)), ?_, rfl, rfl, ?_⟩
      · simp only [decodeNsTree, hitems]
      · rw [← nsDecls_eq_kidDecls (.element name) ks hord] at hid
        rw [← attrs_eq_kidAttrs (.element name) ks hord] at hia
        simp only [spellNode, hp, okPrefix]
        by_cases hfc : (Tree.node (.element name) ks).firstChild?.isNone = true
        · have hempty := spellKids_empty hn hfc inScope
            (s.push (Tree.node (.element name) ks).nsDecls)
          rw [hempty] at hin
          simp only [hfc, if_true, hempty, denoteList_cons, NSNode.denote, NSNode.denote.denoteList,
            List.append_nil, hdo, hao, sp0, Scope.resolve, hres, Option.getD_some,
            List.filterMap_cons, List.filterMap_nil, NItem.node?, Env.expanded]
          rw [hid, hia, ← hin]
          rfl
        · simp only [hfc, Bool.false_eq_true, if_false, denoteList_cons, NSNode.denote,
            NSNode.denote.denoteList, List.append_nil, hdo, hao, sp0, Scope.resolve, hres, Option.getD_some,
            hin, List.filterMap_cons, List.filterMap_nil, NItem.node?, Env.expanded]
          rw [hid, hia]
  · intro s fs sc _ _ _ ts _
    exact ⟨[], rfl, rfl, rfl, rfl⟩
  · intro k ks ihk ihks s fs sc hrel hn hdoc ts h
    obtain ⟨x, y, hx, hy, _⟩ := serKids_cons_ok env h
    obtain ⟨item, h1, h2, h3, h4⟩ := ihk s fs sc hrel (hn k (by simp))
      (hdoc k (by simp)) x hx
    obtain ⟨items, k1, k2, k3, k4⟩ := ihks s fs sc hrel
      (fun k' hk' => hn k' (by simp [hk'])) (fun k' hk' => hdoc k' (by simp [hk'])) y hy
    refine ⟨item :: items, decodeItems_cons env k ks item items h1 k1, ?_, ?_, ?_⟩
    · rw [filterMap_cons_append NItem.decl?, h2, k2, kidDecls_cons k ks, List.map_append]
    · rw [filterMap_cons_append NItem.attr?, h3, k3, kidAttrs_cons k ks, List.map_append]
    · rw [spellNode.spellKids, denoteList_append, h4, k4]
      exact (filterMap_cons_append NItem.node? item items).symm

theorem spellNode_denote (he : EnvFacts env) (inScope : List (Nat × Nat)) (n : Tree) (s : FStack)
    (fs : Frames) (sc : Scope) (hrel : ScopeRel env s fs sc) (hn : n.allNodes (nodeOK env) = true)
    (hdoc : n.value.isDocument = false) (ts : List Token)
    (h : serNode env false inScope false s n = .ok ts) :
    ∃ item, decodeNsTree env n = some item ∧
      [item].filterMap NItem.decl? = (kidDecls [n]).map (declStr env) ∧
      [item].filterMap NItem.attr? = (kidAttrs [n]).map (attrStr env) ∧
      NSNode.denote.denoteList sc (spellNode env inScope false s n) = [item].filterMap NItem.node? :=
  (spell_denote_rec he inScope).1 n s fs sc hrel hn hdoc ts h

theorem spellKids_denote (he : EnvFacts env) (inScope : List (Nat × Nat)) (ks : List Tree) (s : FStack)
    (fs : Frames) (sc : Scope) (hrel : ScopeRel env s fs sc) (hn : ∀ k ∈ ks, k.allNodes (nodeOK env) = true)
    (hdoc : ∀ k ∈ ks, k.value.isDocument = false) (ts : List Token)
    (h : serNode.serKids env false inScope s ks = .ok ts) :
    ∃ items, decodeNsTree.decodeItems env ks = some items ∧
      items.filterMap NItem.decl? = (kidDecls ks).map (declStr env) ∧
      items.filterMap NItem.attr? = (kidAttrs ks).map (attrStr env) ∧
      NSNode.denote.denoteList sc (spellNode.spellKids env inScope s ks) = items.filterMap NItem.node? :=
  (spell_denote_rec he inScope).2 ks s fs sc hrel hn hdoc ts h

end PiColon

theorem spellNode_denote (he : EnvFacts env) (inScope : List (Nat × Nat)) (n : Tree) (s : FStack)
    (fs : Frames) (sc : Scope) (hrel : ScopeRel env s fs sc) (hn : n.allNodes (nodeOK env) = true)
    (hdoc : n.value.isDocument = false) (ts : List Token)
    (h : serNode env false inScope false s n = .ok ts) :
    ∃ item, decodeNsTree env n = some item ∧
      [item].filterMap NItem.decl? = (kidDecls [n]).map (declStr env) ∧
      [item].filterMap NItem.attr? = (kidAttrs [n]).map (attrStr env) ∧
      NSNode.denote.denoteList sc (spellNode env inScope false s n) = [item].filterMap NItem.node? :=
  PiColon.spellNode_denote he inScope n s fs sc hrel (PiColon.allNodes_of_allNodes env n hn) hdoc ts h

end XotModel
