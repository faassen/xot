/-
  C02_spelled_ns: interning facts for all three tables, and the correspondence between
  the builder's namespace stack (ids) and the in-scope bindings as strings.
-/
import XotModel.Lemmas.BasicFacts
import XotModel.Lemmas.ParseNsDefs
import XotModel.Lemmas.ParseSpell
import XotModel.Lemmas.ParseScope

namespace XotModel

/-! ### Tables that only grow by appending -/

def EnvApp (e e' : Env) : Prop :=
  (∃ x, e'.prefixes = e.prefixes ++ x) ∧ (∃ x, e'.namespaces = e.namespaces ++ x) ∧
    (∃ x, e'.names = e.names ++ x)

theorem EnvApp.refl (e : Env) : EnvApp e e := ⟨⟨[], by simp⟩, ⟨[], by simp⟩, ⟨[], by simp⟩⟩

theorem EnvApp.trans {a b c : Env} (h1 : EnvApp a b) (h2 : EnvApp b c) : EnvApp a c := by
  obtain ⟨⟨p1, hp1⟩, ⟨n1, hn1⟩, ⟨x1, hx1⟩⟩ := h1
  obtain ⟨⟨p2, hp2⟩, ⟨n2, hn2⟩, ⟨x2, hx2⟩⟩ := h2
  exact ⟨⟨p1 ++ p2, by rw [hp2, hp1, List.append_assoc]⟩, ⟨n1 ++ n2, by rw [hn2, hn1, List.append_assoc]⟩,
    ⟨x1 ++ x2, by rw [hx2, hx1, List.append_assoc]⟩⟩

theorem EnvExt.app {e e' : Env} (h : EnvExt e e') : EnvApp e e' :=
  ⟨⟨[], by rw [h.1]; simp⟩, ⟨[], by rw [h.2.1]; simp⟩, h.2.2⟩

theorem internPrefix_app (e : Env) (p : Str) : EnvApp e (e.internPrefix p).1 :=
  ⟨internIn_ext e.prefixes p, ⟨[], by simp [Env.internPrefix]⟩, ⟨[], by simp [Env.internPrefix]⟩⟩

theorem internNamespace_app (e : Env) (u : Str) : EnvApp e (e.internNamespace u).1 :=
  ⟨⟨[], by simp [Env.internNamespace]⟩, internIn_ext e.namespaces u, ⟨[], by simp [Env.internNamespace]⟩⟩

theorem internName_app (e : Env) (a : Str) (ns : Nat) : EnvApp e (e.internName a ns).1 :=
  (internName_ext e a ns).app

theorem EnvApp.names_get {e e' : Env} (h : EnvApp e e') {i : Nat} {x : Str × Nat} (hx : e.names[i]? = some x) :
    e'.names[i]? = some x :=
  getElem?_app h.2.2 hx

theorem EnvApp.namespaces_get {e e' : Env} (h : EnvApp e e') {i : Nat} {x : Str} (hx : e.namespaces[i]? = some x) :
    e'.namespaces[i]? = some x :=
  getElem?_app h.2.1 hx

theorem EnvApp.prefixes_get {e e' : Env} (h : EnvApp e e') {i : Nat} {x : Str} (hx : e.prefixes[i]? = some x) :
    e'.prefixes[i]? = some x :=
  getElem?_app h.1 hx

theorem get_idxOf {α : Type} [BEq α] [LawfulBEq α] {l : List α} {v : α} (h : v ∈ l) : l[l.idxOf v]? = some v := by
  have hlt := List.idxOf_lt_length_of_mem h
  rw [List.getElem?_eq_getElem hlt]
  simp [List.getElem_idxOf]

theorem idxOf_inj {α : Type} [BEq α] [LawfulBEq α] {l : List α} {a b : α} (ha : a ∈ l) (h : l.idxOf a = l.idxOf b) :
    a = b := by
  have hb : b ∈ l := by
    rw [← List.idxOf_lt_length_iff, ← h]; exact List.idxOf_lt_length_of_mem ha
  have h1 := get_idxOf ha
  have h2 := get_idxOf hb
  rw [h] at h1
  rw [h1] at h2
  exact Option.some.inj h2

theorem internPrefix_of_mem {e : Env} {p : Str} (h : p ∈ e.prefixes) :
    e.internPrefix p = (e, e.prefixes.idxOf p) := by
  unfold Env.internPrefix
  rw [internIn_of_mem h]

theorem internNamespace_of_mem {e : Env} {u : Str} (h : u ∈ e.namespaces) :
    e.internNamespace u = (e, e.namespaces.idxOf u) := by
  unfold Env.internNamespace
  rw [internIn_of_mem h]

theorem internPrefix_mem (e : Env) (p : Str) : p ∈ (e.internPrefix p).1.prefixes := internIn_mem e.prefixes p

theorem internNamespace_mem (e : Env) (u : Str) : u ∈ (e.internNamespace u).1.namespaces :=
  internIn_mem e.namespaces u

theorem internPrefix_idx (e : Env) (p : Str) : (e.internPrefix p).1.prefixes.idxOf p = (e.internPrefix p).2 :=
  internIn_idx e.prefixes p

theorem internNamespace_idx (e : Env) (u : Str) :
    (e.internNamespace u).1.namespaces.idxOf u = (e.internNamespace u).2 := internIn_idx e.namespaces u

theorem internNamespace_get (e : Env) (u : Str) :
    (e.internNamespace u).1.namespaces[(e.internNamespace u).2]? = some u := internIn_get e.namespaces u

theorem internPrefix_get (e : Env) (p : Str) :
    (e.internPrefix p).1.prefixes[(e.internPrefix p).2]? = some p := internIn_get e.prefixes p

/-! ### The base tables -/

theorem EnvBaseNs.app {e e' : Env} (h : EnvBaseNs e) (hx : EnvApp e e') : EnvBaseNs e' := by
  obtain ⟨⟨r1, h1⟩, ⟨r2, h2⟩, ⟨n0, r3, h3, hne⟩⟩ := h
  obtain ⟨⟨x1, e1⟩, ⟨x2, e2⟩, ⟨x3, e3⟩⟩ := hx
  exact ⟨⟨r1 ++ x1, by rw [e1, h1]; rfl⟩, ⟨r2 ++ x2, by rw [e2, h2]; rfl⟩, ⟨n0, r3 ++ x3, by rw [e3, h3]; rfl, hne⟩⟩

theorem EnvBaseNs.base {e : Env} (h : EnvBaseNs e) : EnvBase e := by
  obtain ⟨⟨r1, h1⟩, _, ⟨n0, r3, h3, _⟩⟩ := h
  exact ⟨by rw [h1]; rfl, ⟨['i', 'd'], 1, by rw [h3]; rfl, by decide⟩⟩

theorem EnvBaseNs.pfx_empty {e : Env} (h : EnvBaseNs e) : ([] : Str) ∈ e.prefixes ∧ e.prefixes.idxOf ([] : Str) = 0 := by
  obtain ⟨⟨r1, h1⟩, _, _⟩ := h
  rw [h1]; exact ⟨by simp, by simp⟩

theorem EnvBaseNs.pfx_xml {e : Env} (h : EnvBaseNs e) :
    ['x', 'm', 'l'] ∈ e.prefixes ∧ e.prefixes.idxOf ['x', 'm', 'l'] = 1 := by
  obtain ⟨⟨r1, h1⟩, _, _⟩ := h
  rw [h1]; exact ⟨by simp, by simp [List.idxOf_cons]⟩

theorem EnvBaseNs.ns_empty {e : Env} (h : EnvBaseNs e) : ([] : Str) ∈ e.namespaces ∧ e.namespaces.idxOf ([] : Str) = 0 := by
  obtain ⟨_, ⟨r1, h1⟩, _⟩ := h
  rw [h1]; exact ⟨by simp, by simp⟩

theorem EnvBaseNs.ns_xml {e : Env} (h : EnvBaseNs e) : xmlNsUri ∈ e.namespaces ∧ e.namespaces.idxOf xmlNsUri = 1 := by
  obtain ⟨_, ⟨r1, h1⟩, _⟩ := h
  rw [h1]
  refine ⟨by simp, ?_⟩
  have : (([] : Str) == xmlNsUri) = false := by decide
  simp [List.idxOf_cons, this]

theorem EnvBaseNs.name_id {e : Env} (h : EnvBaseNs e) :
    e.names[1]? = some (['i', 'd'], 1) ∧ e.names.idxOf ((['i', 'd'], 1) : Str × Nat) = 1 := by
  obtain ⟨_, _, ⟨n0, r3, h3, hne⟩⟩ := h
  rw [h3]
  refine ⟨rfl, ?_⟩
  have : (n0 == ((['i', 'd'], 1) : Str × Nat)) = false := by simpa using hne
  simp [List.idxOf_cons, this]

/-- The id of a freshly resolved name is the id of `xml:id` exactly when the name is (`id`, XML
    namespace id). -/
theorem internName_eq_xmlId {e : Env} (h : EnvBaseNs e) (a : Str) (ns : Nat) :
    ((e.internName a ns).2 == Env.xmlIdName) = ((a, ns) == ((['i', 'd'], 1) : Str × Nat)) := by
  by_cases heq : (a, ns) = ((['i', 'd'], 1) : Str × Nat)
  · have h2 : ((a, ns) == ((['i', 'd'], 1) : Str × Nat)) = true := by simp [heq]
    rw [h2]
    simp only [Prod.mk.injEq] at heq
    obtain ⟨rfl, rfl⟩ := heq
    have : (e.internName ['i', 'd'] 1).2 = e.names.idxOf ((['i', 'd'], 1) : Str × Nat) := rfl
    rw [this, h.name_id.2]; rfl
  · have h2 : ((a, ns) == ((['i', 'd'], 1) : Str × Nat)) = false := by simpa using heq
    rw [h2, beq_eq_false_iff_ne]
    intro hid
    have hget := internName_get e a ns
    have h1 := (internName_app e a ns).names_get h.name_id.1
    rw [hid] at hget
    rw [show Env.xmlIdName = 1 from rfl, h1] at hget
    exact heq (Option.some.inj hget).symm

/-! ### Frames of bindings as strings, and their ids -/

/-- The ids of a frame of (prefix, URI) bindings whose strings are interned. -/
def idFrame (env : Env) (f : List (Str × Str)) : List (Nat × Nat) :=
  f.map fun pu => (env.prefixes.idxOf pu.1, env.namespaces.idxOf pu.2)

def FrameIn (env : Env) (f : List (Str × Str)) : Prop := ∀ pu ∈ f, pu.1 ∈ env.prefixes ∧ pu.2 ∈ env.namespaces

def FramesIn (env : Env) (frames : List (List (Str × Str))) : Prop := ∀ f ∈ frames, FrameIn env f

/-- The bindings in scope: one frame per open element (the declarations of its start tag, in the
    order written), nearest element first; at the bottom the two base frames. -/
def flatScope : List (List (Str × Str)) → Scope
  | [] => []
  | f :: fs => f.reverse ++ flatScope fs

theorem flatScope_push (d : List (Str × Str)) (frames : List (List (Str × Str))) :
    flatScope (d :: frames) = (flatScope frames).push d := rfl

theorem FrameIn.app {e e' : Env} (hx : EnvApp e e') {f : List (Str × Str)} (h : FrameIn e f) : FrameIn e' f :=
  fun pu hpu => ⟨mem_ext hx.1 (h pu hpu).1, mem_ext hx.2.1 (h pu hpu).2⟩

theorem FramesIn.app {e e' : Env} (hx : EnvApp e e') {fs : List (List (Str × Str))} (h : FramesIn e fs) :
    FramesIn e' fs := fun f hf => (h f hf).app hx

theorem idFrame_app {e e' : Env} (hx : EnvApp e e') {f : List (Str × Str)} (h : FrameIn e f) :
    idFrame e' f = idFrame e f := by
  unfold idFrame
  apply List.map_congr_left
  intro pu hpu
  rw [idxOf_app hx.1 (h pu hpu).1, idxOf_app hx.2.1 (h pu hpu).2]

theorem idFrames_app {e e' : Env} (hx : EnvApp e e') {fs : List (List (Str × Str))} (h : FramesIn e fs) :
    fs.map (idFrame e') = fs.map (idFrame e) := by
  apply List.map_congr_left
  intro f hf
  exact idFrame_app hx (h f hf)

theorem find_idFrame (env : Env) (p : Str) : ∀ (l : List (Str × Str)), FrameIn env l →
    ((idFrame env l).find? (fun d => d.1 == env.prefixes.idxOf p)).map (fun d => d.2) =
      (l.lookup p).map env.namespaces.idxOf
  | [], _ => rfl
  | (q, u) :: rest, h => by
    have hq := (h (q, u) (by simp)).1
    have ih := find_idFrame env p rest (fun x hx => h x (by simp [hx]))
    simp only [idFrame, List.map_cons, List.find?_cons, List.lookup_cons]
    by_cases hpq : p = q
    · subst hpq; simp
    · have h1 : (env.prefixes.idxOf q == env.prefixes.idxOf p) = false := by
        rw [beq_eq_false_iff_ne]
        exact fun he => hpq (idxOf_inj hq he).symm
      have h2 : (p == q) = false := by simpa using hpq
      rw [h1, h2]
      exact ih

theorem findInDecls_idFrame (env : Env) (p : Str) (f : List (Str × Str)) (h : FrameIn env f) :
    findInDecls (env.prefixes.idxOf p) (idFrame env f) = (f.reverse.lookup p).map env.namespaces.idxOf := by
  unfold findInDecls
  have : (idFrame env f).reverse = idFrame env f.reverse := by simp [idFrame]
  rw [this]
  exact find_idFrame env p f.reverse (fun x hx => h x (by simpa using hx))

/-- Prefix lookup on the id stack IS lookup in the string scope. -/
theorem lookupPrefix_frames (env : Env) (p : Str) : ∀ (frames : List (List (Str × Str))), FramesIn env frames →
    lookupPrefix (frames.map (idFrame env)) (env.prefixes.idxOf p) =
      ((flatScope frames).lookup p).map env.namespaces.idxOf
  | [], _ => rfl
  | f :: fs, h => by
    have ih := lookupPrefix_frames env p fs (fun x hx => h x (by simp [hx]))
    simp only [List.map_cons, flatScope]
    rw [lookupPrefix_cons, findInDecls_idFrame env p f (h f (by simp)), List.lookup_append]
    cases f.reverse.lookup p with
    | some u => rfl
    | none => simpa using ih

theorem mem_flatScope {frames : List (List (Str × Str))} {pu : Str × Str} (h : pu ∈ flatScope frames) :
    ∃ f ∈ frames, pu ∈ f := by
  induction frames with
  | nil => simp [flatScope] at h
  | cons f fs ih =>
    simp only [flatScope, List.mem_append, List.mem_reverse] at h
    rcases h with h | h
    · exact ⟨f, by simp, h⟩
    · obtain ⟨g, hg, hm⟩ := ih h; exact ⟨g, by simp [hg], hm⟩

theorem resolve_ok {env : Env} {frames : List (List (Str × Str))} (h : FramesIn env frames) {p u : Str}
    (hl : (flatScope frames).lookup p = some u) :
    p ∈ env.prefixes ∧ u ∈ env.namespaces ∧
      lookupPrefix (frames.map (idFrame env)) (env.prefixes.idxOf p) = some (env.namespaces.idxOf u) := by
  obtain ⟨f, hf, hm⟩ := mem_flatScope (lookup_mem hl)
  have := h f hf (p, u) hm
  refine ⟨this.1, this.2, ?_⟩
  rw [lookupPrefix_frames env p frames h, hl]; rfl

theorem elementNameId_ns {env : Env} {frames : List (List (Str × Str))} (h : FramesIn env frames) {p u : Str}
    (hl : (flatScope frames).lookup p = some u) (name : Str) (sp : Span) :
    elementNameId env (frames.map (idFrame env)) p name sp =
      .ok ((env.internNamespace u).1.internName name (env.internNamespace u).2) := by
  obtain ⟨hp, hu, hlook⟩ := resolve_ok h hl
  unfold elementNameId
  rw [internPrefix_of_mem hp, internNamespace_of_mem hu]
  simp only [hlook]

/-- An attribute name: unprefixed = no namespace, prefixed = the URI the prefix is bound to. -/
theorem attributeNameId_ns {env : Env} (hb : EnvBaseNs env) {frames : List (List (Str × Str))}
    (h : FramesIn env frames) {p : Str}
    (hl : p ≠ [] → ((flatScope frames).lookup p).isSome = true) (name : Str) (sp : Span) :
    attributeNameId env (frames.map (idFrame env)) p name sp =
      .ok ((env.internNamespace ((flatScope frames).attrNs p)).1.internName name
        (env.internNamespace ((flatScope frames).attrNs p)).2) ∧
    (flatScope frames).attrNs p ∈ env.namespaces := by
  by_cases hp : p = []
  · subst hp
    have h0 := hb.ns_empty
    simp only [Scope.attrNs, if_true]
    refine ⟨?_, h0.1⟩
    rw [internNamespace_of_mem h0.1, h0.2]
    exact attributeNameId_unprefixed env _ name sp hb.base.pfx0
  · obtain ⟨u, hu⟩ := Option.isSome_iff_exists.mp (hl hp)
    obtain ⟨_, hum, _⟩ := resolve_ok h hu
    have hns : (flatScope frames).attrNs p = u := by simp [Scope.attrNs, hp, Scope.resolve, hu]
    rw [hns]
    refine ⟨?_, hum⟩
    rw [attributeNameId_eq, if_neg (c := ((env.internPrefix p).2 == Env.emptyPrefix) = true)
      fun hz => hp ((internPrefix_zero_iff hb.base.pfx0 p).mp (beq_iff_eq.mp hz))]
    exact elementNameId_ns h hu name sp

/-! ### Name resolution succeeded: the prefix is bound -/

theorem elementNameId_bound {env : Env} {frames : List (List (Str × Str))} (h : FramesIn env frames) {p name : Str}
    {sp : Span} {r : Env × Nat} (hr : elementNameId env (frames.map (idFrame env)) p name sp = .ok r) :
    ((flatScope frames).lookup p).isSome = true := by
  obtain ⟨ns, hns, _⟩ := BuilderCases.elementNameId_ok (env1 := r.1) (id := r.2) hr
  have hid : (env.internPrefix p).2 = env.prefixes.idxOf p := rfl
  rw [hid, lookupPrefix_frames env p frames h] at hns
  cases hl : (flatScope frames).lookup p with
  | some u => rfl
  | none => rw [hl] at hns; cases hns

theorem attributeNameId_bound {env : Env} (hb : EnvBaseNs env) {frames : List (List (Str × Str))}
    (h : FramesIn env frames) {p name : Str} {sp : Span} {r : Env × Nat}
    (hr : attributeNameId env (frames.map (idFrame env)) p name sp = .ok r) (hp : p ≠ []) :
    ((flatScope frames).lookup p).isSome = true := by
  rw [attributeNameId_eq, if_neg (c := ((env.internPrefix p).2 == Env.emptyPrefix) = true)
      fun hz => hp ((internPrefix_zero_iff hb.base.pfx0 p).mp (beq_iff_eq.mp hz))] at hr
  exact elementNameId_bound h hr

end XotModel
