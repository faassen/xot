/-
  What follows from the order namespace < attribute < normal among the children (`kidsSorted`): the `all_*` variants
  in raw order, the attribute axis, next / previous sibling of any node; the plain variants yield normal nodes only;
  `document_element`, `top_element`; the start edges of `traverse`.
-/
import XotModel.Lemmas.BasicFacts
import XotModel.Lemmas.AxesLevel

/-! ## Categories: the raw order of the `all_*` variants and the attribute axis -/

namespace XotModel.Axes

/-- The place of a category in the child order the arena keeps: namespace, attribute, normal. -/
def catRank : Category → Nat
  | .namespace => 0
  | .attribute => 1
  | .normal => 2

/-- Namespace nodes, then attribute nodes, then normal nodes (`StructValid` ordering). -/
def kidsSorted (ks : List Tree) : Prop :=
  (ks.map (fun k => catRank k.value.category)).Pairwise (· ≤ ·)

instance (ks : List Tree) : Decidable (kidsSorted ks) := by unfold kidsSorted; infer_instance

/-! ### Generic facts about a list sorted by a rank in {0, 1, 2} -/

section Sorted
variable {α : Type}

variable (r : α → Nat)

theorem takeWhile_zero_eq_filter (l : List α) (hs : (l.map r).Pairwise (· ≤ ·)) :
    l.takeWhile (fun x => r x == 0) = l.filter (fun x => r x == 0) :=
  (takeWhile_dropWhile_eq_filter _ l ((List.pairwise_map.mp hs).imp (fun hab hb => by
    rw [beq_iff_eq] at hb ⊢; omega))).1

theorem dropWhile_zero_eq_filter (l : List α) (hs : (l.map r).Pairwise (· ≤ ·)) :
    l.dropWhile (fun x => r x == 0) = l.filter (fun x => !(r x == 0)) :=
  (takeWhile_dropWhile_eq_filter _ l ((List.pairwise_map.mp hs).imp (fun hab hb => by
    rw [beq_iff_eq] at hb ⊢; omega))).2

/-- After the rank-0 run only ranks ≥ 1 are left, and among them rank 1 comes first. -/
theorem pairwise_one_after_zero (l : List α) (hs : (l.map r).Pairwise (· ≤ ·)) :
    (l.filter (fun x => !(r x == 0))).Pairwise (fun a b => (r b == 1) = true → (r a == 1) = true) :=
  List.pairwise_filter.mpr ((List.pairwise_map.mp hs).imp (fun hab ha _ hb => by
    simp only [Bool.not_eq_true', beq_eq_false_iff_ne, ne_eq, beq_iff_eq] at ha hb ⊢; omega))

theorem dropWhile_zero_takeWhile_one (l : List α) (hs : (l.map r).Pairwise (· ≤ ·)) :
    (l.dropWhile (fun x => r x == 0)).takeWhile (fun x => r x == 1) = l.filter (fun x => r x == 1) := by
  rw [dropWhile_zero_eq_filter r l hs, (takeWhile_dropWhile_eq_filter _ _ (pairwise_one_after_zero r l hs)).1,
    List.filter_filter]
  exact List.filter_congr (fun x _ => by
    rw [Bool.eq_iff_iff]
    simp only [Bool.and_eq_true, Bool.not_eq_true', beq_eq_false_iff_ne, ne_eq, beq_iff_eq]; omega)

theorem dropWhile_not_two_eq_filter (l : List α) (hs : (l.map r).Pairwise (· ≤ ·)) (h2 : ∀ y ∈ l, r y ≤ 2) :
    l.dropWhile (fun x => !(r x == 2)) = l.filter (fun x => r x == 2) := by
  rw [(takeWhile_dropWhile_eq_filter (fun x => !(r x == 2)) l ((List.pairwise_map.mp hs).imp_of_mem
    (fun _ hb hab h => by
      have := h2 _ hb
      simp only [Bool.not_eq_true', beq_eq_false_iff_ne, ne_eq] at h ⊢; omega))).2]
  simp only [Bool.not_not]

theorem dropWhile_zero_one_eq (l : List α) (hs : (l.map r).Pairwise (· ≤ ·)) (h2 : ∀ y ∈ l, r y ≤ 2) :
    (l.dropWhile (fun x => r x == 0)).dropWhile (fun x => r x == 1) = l.dropWhile (fun x => !(r x == 2)) := by
  rw [dropWhile_zero_eq_filter r l hs, (takeWhile_dropWhile_eq_filter _ _ (pairwise_one_after_zero r l hs)).2,
    List.filter_filter, dropWhile_not_two_eq_filter r l hs h2]
  exact List.filter_congr (fun x hx => by
    have := h2 x hx
    rw [Bool.eq_iff_iff]
    simp only [Bool.and_eq_true, Bool.not_eq_true', beq_eq_false_iff_ne, ne_eq, beq_iff_eq]; omega)

end Sorted

theorem catRank_le_two (c : Category) : catRank c ≤ 2 := by cases c <;> simp [catRank]
theorem catRank_eq_zero (c : Category) : (catRank c == 0) = (c == .namespace) := by cases c <;> rfl
theorem catRank_eq_one (c : Category) : (catRank c == 1) = (c == .attribute) := by cases c <;> rfl
theorem catRank_eq_two (v : Value) : (catRank v.category == 2) = v.isNormal := by
  unfold Value.isNormal; cases v.category <;> rfl

/-- Sorted by rank, the normal children (rank 2, the largest) stand last: the list is ordered. -/
theorem kidsOrdered_of_kidsSorted {ks : List Tree} (hs : kidsSorted ks) : kidsOrdered ks = true :=
  (kidsOrdered_iff_pairwise ks).mpr ((List.pairwise_map.mp hs).imp (fun {a b} hab ha => by
    rw [← catRank_eq_two, beq_iff_eq] at ha ⊢
    exact Nat.le_antisymm (catRank_le_two _) (ha ▸ hab)))

/-! ### The raw child order: namespaces, attributes, children -/

/-- Under the `StructValid` ordering the raw child list is the namespace nodes, then the
    attribute nodes, then the normal children (the three views of `Model/Tree.lean`). -/
theorem kids_eq_ns_attr_normal (s : Tree) (hs : kidsSorted s.kids) :
    s.kids = s.namespaceNodes ++ s.attributeNodes ++ s.normalKids := by
  unfold Tree.namespaceNodes Tree.attributeNodes Tree.normalKids
  have h2 : ∀ y ∈ s.kids, catRank y.value.category ≤ 2 := fun y _ => catRank_le_two _
  have e := dropWhile_zero_one_eq (fun k : Tree => catRank k.value.category) s.kids hs h2
  simp only [catRank_eq_zero, catRank_eq_one, catRank_eq_two] at e
  rw [← e, List.append_assoc, List.takeWhile_append_dropWhile, List.takeWhile_append_dropWhile]

/-- `all_descendants`: the node, then (the subtrees of) its namespace nodes, its attribute nodes,
    its children, in this order. -/
theorem allDescendants_order {t : Tree} {p : Path} (hs : kidsSorted (subAt t p).kids) :
    allDescendants t p = p :: (allPreList 0
      ((subAt t p).namespaceNodes ++ (subAt t p).attributeNodes ++ (subAt t p).normalKids)).map (p ++ ·) := by
  rw [← kids_eq_ns_attr_normal _ hs]
  unfold allDescendants arenaDescendants
  cases subAt t p with
  | node v ks => simp [allPre, Tree.kids]

/-- `all_traverse`: `Start(node)`, the edges of its namespace nodes, attribute nodes, children,
    `End(node)`. -/
theorem allTraverse_order {t : Tree} {p : Path} (hs : kidsSorted (subAt t p).kids) :
    allTraverse t p = .start p :: ((rawEdgesList 0
      ((subAt t p).namespaceNodes ++ (subAt t p).attributeNodes ++ (subAt t p).normalKids)).map
        (Edge.mapPath (p ++ ·)) ++ [.stop p]) := by
  rw [← kids_eq_ns_attr_normal _ hs]
  unfold allTraverse arenaTraverse
  cases subAt t p with
  | node v ks => simp [rawEdges, Tree.kids, Edge.mapPath]

theorem allChildren_sorted {t : Tree} {p : Path} (hs : kidsSorted (subAt t p).kids) :
    ((allChildren t p).map (fun x => catRank (itemCategory x))).Pairwise (· ≤ ·) := by
  have : (allChildren t p).map (fun x => catRank (itemCategory x)) =
      ((allChildren t p).map (·.2)).map (fun k => catRank k.value.category) := by
    simp [List.map_map, Function.comp_def, itemCategory]
  rw [this]; unfold allChildren; rw [kidPaths_map_snd]; exact hs

/-- `attribute_nodes` (= `axis(Attribute)`) under the `StructValid` ordering: the raw children of
    category attribute, in order. -/
theorem attributeNodes_eq {t : Tree} {p : Path} (h : Valid t p) (hs : kidsSorted (subAt t p).kids) :
    attributeNodes t p = (rawChildPaths t p).filter (fun q => categoryAt t q == .attribute) := by
  unfold attributeNodes
  have e := dropWhile_zero_takeWhile_one (fun x : Path × Tree => catRank (itemCategory x)) _ (allChildren_sorted hs)
  simp only [catRank_eq_zero, catRank_eq_one] at e
  rw [e]
  exact filter_items h (fun k => k.value.category == .attribute)

theorem item_sound {t : Tree} {p : Path} (h : Valid t p) {x : Path × Tree} (hx : x ∈ allChildren t p)
    {c : Category} (hc : itemCategory x = c) : categoryAt t x.1 = c ∧ parent x.1 = some p ∧ Valid t x.1 := by
  have := allChildren_item h hx
  exact ⟨by simpa [categoryAt, valueAt, this.1, itemCategory] using hc, this.2.2, this.2.1⟩

/-- Without any ordering assumption: everything `attribute_nodes` yields is an attribute child. -/
theorem attributeNodes_sound {t : Tree} {p : Path} (h : Valid t p) {q : Path}
    (hq : q ∈ attributeNodes t p) : categoryAt t q = .attribute ∧ parent q = some p ∧ Valid t q := by
  unfold attributeNodes at hq
  obtain ⟨x, hx, rfl⟩ := List.mem_map.mp hq
  exact item_sound h ((List.dropWhile_sublist _).subset ((List.takeWhile_sublist _).subset hx))
    (by simpa using mem_takeWhile_imp _ _ _ hx)

end XotModel.Axes

/-! ## The plain variants; `document_element`, `top_element` -/

namespace XotModel.Axes

/-! ### Plain variants yield normal nodes only -/

theorem mem_pre_filter {t : Tree} {P : Path → Bool} {q : Path} (h : q ∈ (pre t).filter P) :
    Valid t q ∧ isNormalAt t q = true := (mem_pre_iff t q).mp (List.mem_filter.mp h).1

theorem descendants_normal_only {t : Tree} {p : Path} (h : Valid t p) :
    ∀ q ∈ descendants t p, Valid t q ∧ isNormalAt t q = true := by
  intro q hq; rw [descendants_eq h] at hq; exact mem_pre_filter hq

theorem following_normal_only {t : Tree} {p : Path} (h : Valid t p) :
    ∀ q ∈ following t p, Valid t q ∧ isNormalAt t q = true := by
  intro q hq; rw [following_eq h] at hq; exact mem_pre_filter hq

theorem preceding_normal_only {t : Tree} {p : Path} (hw : wf t = true) (h : Valid t p) :
    ∀ q ∈ preceding t p, Valid t q ∧ isNormalAt t q = true := by
  intro q hq; rw [preceding_eq hw h, List.mem_reverse] at hq; exact mem_pre_filter hq

theorem reversePreorder_normal_only {t : Tree} {p : Path} (h : Valid t p) :
    ∀ q ∈ reversePreorder t p, Valid t q ∧ isNormalAt t q = true := by
  intro q hq; rw [reversePreorder_eq h, List.mem_reverse] at hq; exact mem_pre_filter hq

theorem children_normal_only {t : Tree} {p : Path} (hw : wf t = true) (h : Valid t p) :
    ∀ q ∈ children t p, Valid t q ∧ isNormalAt t q = true := by
  intro q hq; rw [children_spec hw h] at hq; exact mem_pre_filter hq

theorem ancestor_normal_only {t : Tree} {p : Path} (hw : wf t = true) (h : Valid t p) :
    ∀ q ∈ axis t .ancestor p, Valid t q ∧ isNormalAt t q = true := by
  intro q hq; rw [axis_ancestor_spec hw h, List.mem_reverse] at hq; exact mem_pre_filter hq

theorem traverse_normal_only (t : Tree) (p : Path) :
    (∀ e ∈ traverse t p, isNormalAt t e.node = true) ∧
    (∀ e ∈ reverseTraverse t p, isNormalAt t e.node = true) := by
  constructor
  · intro e he; exact (List.mem_filter.mp he).2
  · intro e he; exact (List.mem_filter.mp he).2

/-- Sibling stepping stays within the category of the node (any tree, any node). -/
theorem sibling_same_category (t : Tree) (p : Path) :
    (∀ s, nextSibling t p = some s → categoryAt t s = categoryAt t p) ∧
    (∀ s, previousSibling t p = some s → categoryAt t s = categoryAt t p) ∧
    (∀ s ∈ followingSiblings t p, categoryAt t s = categoryAt t p) ∧
    (∀ s ∈ precedingSiblings t p, categoryAt t s = categoryAt t p) := by
  refine ⟨fun s hs => (nextSibling_eq_some.mp hs).2, fun s hs => (previousSibling_eq_some.mp hs).2, ?_, ?_⟩
  · intro s hs; simpa using (List.mem_filter.mp hs).2
  · intro s hs; simpa using (List.mem_filter.mp hs).2

/-- `level_order` below the start node yields normal nodes only (well-formed trees). -/
theorem levelAt_normal_only {t : Tree} {p : Path} (hw : wf t = true) (h : Valid t p) (k : Nat) :
    ∀ q ∈ levelAt t p (k + 1), Valid t q ∧ isNormalAt t q = true := by
  intro q hq
  simp only [levelAt, List.mem_flatMap] at hq
  obtain ⟨m, hm, hq⟩ := hq
  exact children_normal_only hw (levelAt_valid h k m hm).1 q hq

/-- The result of `document_element` on a document node, from the search for an element child. -/
def docElemOf : Option Path → Outcome AxErr Path
  | some c => .ok c
  | none => .err .noElementAtTopLevel

theorem documentElement_eq (t : Tree) (p : Path) :
    documentElement t p =
      if (valueAt t p).isDocument then docElemOf ((children t p).find? (fun c => (valueAt t c).isElement))
      else .err .notDocument := by
  unfold documentElement
  cases (valueAt t p).isDocument
  · simp
  · cases h : (children t p).find? (fun c => (valueAt t c).isElement) <;> simp [docElemOf]

/-- `document_element(p) = Ok(c)`: `p` is a document node and `c` is its first element child. -/
theorem documentElement_ok {t : Tree} {p c : Path} (hw : wf t = true) (h : Valid t p)
    (hc : documentElement t p = .ok c) :
    (valueAt t p).isDocument = true ∧ c ∈ children t p ∧ (valueAt t c).isElement = true ∧
    ∀ c' ∈ children t p, docLt c' c = true → (valueAt t c').isElement = false := by
  rw [documentElement_eq] at hc
  cases hd : (valueAt t p).isDocument with
  | false => rw [hd] at hc; simp at hc
  | true =>
    rw [hd] at hc
    simp only [if_true] at hc
    cases hf : (children t p).find? (fun c => (valueAt t c).isElement) with
    | none => rw [hf] at hc; cases hc
    | some c0 =>
      rw [hf] at hc
      simp only [docElemOf] at hc
      injection hc with hc; subst hc
      obtain ⟨he, as, bs, hl, has⟩ := List.find?_eq_some_iff_append.mp hf
      refine ⟨rfl, by rw [hl]; simp, he, ?_⟩
      intro c' hc' hlt
      have hsorted : (children t p).Pairwise (fun a b => docLt a b = true) := by
        rw [children_spec hw h]; exact (pre_sorted t).filter _
      rw [hl] at hc' hsorted
      rcases List.mem_append.mp hc' with hin | hin
      · simpa using has c' hin
      · rcases List.mem_cons.mp hin with rfl | hin
        · rw [docLt_irrefl] at hlt; cases hlt
        · have := (List.pairwise_append.mp hsorted).2.1
          rw [List.pairwise_cons] at this
          have := docLt_asymm (this.1 c' hin)
          rw [this] at hlt; cases hlt

/-- `document_element` errors: not a document node; or a document node without element child. -/
theorem documentElement_err (t : Tree) (p : Path) :
    (documentElement t p = .err .notDocument ↔ (valueAt t p).isDocument = false) ∧
    (documentElement t p = .err .noElementAtTopLevel ↔
      (valueAt t p).isDocument = true ∧ ∀ c ∈ children t p, (valueAt t c).isElement = false) ∧
    documentElement t p ≠ .panic := by
  rw [documentElement_eq]
  cases hd : (valueAt t p).isDocument
  · simp
  · cases hf : (children t p).find? (fun c => (valueAt t c).isElement) with
    | none => simpa [docElemOf, List.find?_eq_none] using hf
    | some c0 =>
      have h1 := List.find?_some hf
      have h2 := List.mem_of_find?_eq_some hf
      simp only [if_true, docElemOf]
      refine ⟨by simp, ?_, by simp⟩
      constructor
      · intro h; cases h
      · intro h; have := h.2 c0 h2; rw [h1] at this; cases this

/-- `fold`ing "take the ancestor if it is an element" over a list keeps the last element. -/
theorem foldl_last (P : Path → Bool) : ∀ (l : List Path) (init : Path),
    l.foldl (fun top a => if P a then a else top) init = (l.reverse.find? P).getD init
  | [], _ => rfl
  | x :: l, init => by
    rw [List.foldl_cons, foldl_last P l, List.reverse_cons, List.find?_append]
    cases l.reverse.find? P with
    | some a => simp
    | none => by_cases hx : P x = true <;> simp [hx]

/-- `top_element` never panics. On a document node it is the first element child
    (`document_element`), the document node itself if there is none; on any other node it is
    the first element on the way from the root down to the node, the node itself if there is
    none (access.rs notes that in an unattached tree this need not be an element). -/
theorem topElement_eq (t : Tree) (p : Path) :
    topElement t p ≠ .panic ∧
    ((valueAt t p).isDocument = true →
      topElement t p = .ok (((children t p).find? (fun c => (valueAt t c).isElement)).getD p)) ∧
    ((valueAt t p).isDocument = true → ∀ c, documentElement t p = .ok c → topElement t p = .ok c) ∧
    ((valueAt t p).isDocument = false →
      topElement t p = .ok (((ancRel p ++ [p]).find? (fun a => (valueAt t a).isElement)).getD p)) := by
  have hdoc : (valueAt t p).isDocument = true →
      topElement t p = .ok (((children t p).find? (fun c => (valueAt t c).isElement)).getD p) := by
    intro hd
    unfold topElement
    rw [documentElement_eq]
    cases hf : (children t p).find? (fun c => (valueAt t c).isElement) <;> simp [hd, docElemOf]
  have hnd : (valueAt t p).isDocument = false →
      topElement t p = .ok (((ancRel p ++ [p]).find? (fun a => (valueAt t a).isElement)).getD p) := by
    intro hd
    unfold topElement
    rw [foldl_last, ancestors_eq]
    simp [hd]
  refine ⟨?_, hdoc, ?_, hnd⟩
  · cases hd : (valueAt t p).isDocument
    · rw [hnd hd]; intro h; cases h
    · rw [hdoc hd]; intro h; cases h
  · intro hd c hc
    rw [hdoc hd]
    rw [documentElement_eq, hd] at hc
    simp only [if_true] at hc
    cases hf : (children t p).find? (fun c => (valueAt t c).isElement) with
    | none => rw [hf] at hc; cases hc
    | some c0 => rw [hf] at hc; simp only [docElemOf] at hc; injection hc with hc; subst hc; rfl

end XotModel.Axes

/-! ## `next_sibling` / `previous_sibling` of any node (attribute and namespace nodes included) under the `StructValid` ordering; the start edges of `traverse` are `descendants`. -/

namespace XotModel.Axes

theorem catRank_inj {a b : Category} (h : catRank a = catRank b) : a = b := by
  cases a <;> cases b <;> simp [catRank] at h <;> rfl

theorem kidsSorted_le {ks : List Tree} (hs : kidsSorted ks) {i j : Nat} (hij : i < j) (hj : j < ks.length) :
    catRank ks[i].value.category ≤ catRank ks[j].value.category := by
  unfold kidsSorted at hs
  have := List.pairwise_iff_getElem.mp hs i j (by simp; omega) (by simpa using hj) hij
  simpa using this

theorem categoryAt_child {t : Tree} {π : Path} (h : Valid t π) {i : Nat} (hi : i < (subAt t π).kids.length) :
    categoryAt t (π ++ [i]) = (subAt t π).kids[i].value.category := by
  simp [categoryAt, valueAt, subAt_snoc h hi]

/-- `next_sibling` of any node: the first of its following siblings (of its category). -/
theorem nextSibling_sorted {t : Tree} {π : Path} {i : Nat} (h : Valid t (π ++ [i]))
    (hs : kidsSorted (subAt t π).kids) :
    nextSibling t (π ++ [i]) = (axis t .followingSibling (π ++ [i])).head? := by
  have hπ := valid_prefix h
  have hi := (valid_snoc_iff hπ i).mp h
  -- sorted by rank: behind a sibling of larger rank every rank is larger
  refine nextSibling_eq_head? h (fun j hj hjl hne e => ?_)
  rw [categoryAt_child hπ (show i + 1 < _ by omega), categoryAt_child hπ hi] at hne
  rw [categoryAt_child hπ hjl, categoryAt_child hπ hi] at e
  have h1 := kidsSorted_le hs (show i < i + 1 by omega) (show i + 1 < _ by omega)
  have h2 := kidsSorted_le hs hj hjl
  rw [e] at h2
  exact hne (catRank_inj (Nat.le_antisymm h2 h1))

/-- `previous_sibling` of any node: the first of its preceding siblings (of its category). -/
theorem previousSibling_sorted {t : Tree} {π : Path} {i : Nat} (h : Valid t (π ++ [i]))
    (hs : kidsSorted (subAt t π).kids) :
    previousSibling t (π ++ [i]) = (axis t .precedingSibling (π ++ [i])).head? := by
  have hπ := valid_prefix h
  have hi := (valid_snoc_iff hπ i).mp h
  rw [(precedingSiblings_snoc h).2, previousSibling_snoc]
  cases i with
  | zero => simp
  | succ i =>
    have hi' : i < (subAt t π).kids.length := by omega
    simp only [Nat.add_one_ne_zero, if_false, Nat.add_sub_cancel]
    rw [List.take_add_one, rawChildPaths_getElem? t π i hi']
    simp only [Option.toList_some, List.filter_append, List.filter_cons, List.filter_nil,
      List.reverse_append]
    by_cases hc : categoryAt t (π ++ [i]) = categoryAt t (π ++ [i + 1])
    · simp [hc]
    · simp only [beq_iff_eq, hc, if_false, List.reverse_nil, List.nil_append]
      symm
      rw [List.head?_eq_none_iff, List.reverse_eq_nil_iff]
      apply List.filter_eq_nil_iff.mpr
      intro x hx
      obtain ⟨n, hn, rfl⟩ := List.getElem_of_mem hx
      have hn' : n < i := by simp [rawChildPaths] at hn; omega
      have hx' : ((rawChildPaths t π).take i)[n] = π ++ [n] := by simp [rawChildPaths]
      have hnk : n < (subAt t π).kids.length := by omega
      rw [hx', categoryAt_child hπ hnk, categoryAt_child hπ hi]
      rw [categoryAt_child hπ hi', categoryAt_child hπ hi] at hc
      have h1 := kidsSorted_le hs (show i < i + 1 by omega) hi
      have h2 := kidsSorted_le hs hn' hi'
      have h3 : catRank (subAt t π).kids[i].value.category ≠ catRank (subAt t π).kids[i + 1].value.category :=
        fun e => hc (catRank_inj e)
      simp only [beq_iff_eq]
      intro e
      rw [e] at h2; omega

/-! ### The start edges of `traverse` -/

def Edge.start? : Edge → Option Path
  | .start p => some p
  | .stop _ => none

mutual
  theorem starts_rawEdges : ∀ s : Tree, (rawEdges s).filterMap Edge.start? = allPre s
    | .node v ks => by
      simp [rawEdges, allPre, List.filterMap_cons, List.filterMap_append, Edge.start?,
        starts_rawEdgesList ks 0]
  theorem starts_rawEdgesList : ∀ (ks : List Tree) (i : Nat),
      (rawEdgesList i ks).filterMap Edge.start? = allPreList i ks
    | [], _ => by simp [rawEdgesList, allPreList]
    | k :: ks, i => by
      simp only [rawEdgesList, allPreList, List.filterMap_append, starts_rawEdgesList ks (i + 1)]
      congr 1
      rw [← starts_rawEdges k, List.filterMap_map, List.map_filterMap]
      congr 1; funext e; cases e <;> rfl
end

/-- The nodes whose `Start` edge `traverse` (`all_traverse`) yields are `descendants`
    (`all_descendants`), in the same order. -/
theorem traverse_starts (t : Tree) (p : Path) :
    (traverse t p).filterMap Edge.start? = descendants t p ∧
    (allTraverse t p).filterMap Edge.start? = allDescendants t p := by
  have hall : (allTraverse t p).filterMap Edge.start? = allDescendants t p := by
    unfold allTraverse arenaTraverse allDescendants arenaDescendants
    rw [← starts_rawEdges, List.filterMap_map, List.map_filterMap]
    congr 1; funext e; cases e <;> rfl
  refine ⟨?_, hall⟩
  unfold traverse descendants
  rw [← show allDescendants t p = arenaDescendants t p from rfl, ← hall,
    show arenaTraverse t p = allTraverse t p from rfl]
  generalize allTraverse t p = l
  induction l with
  | nil => rfl
  | cons e l ih =>
    have hstop : ∀ (q : Path) (l' : List Edge),
        (Edge.stop q :: l').filterMap Edge.start? = l'.filterMap Edge.start? := by
      intro q l'; rw [List.filterMap_cons]; rfl
    have hstart : ∀ (q : Path) (l' : List Edge),
        (Edge.start q :: l').filterMap Edge.start? = q :: l'.filterMap Edge.start? := by
      intro q l'; rw [List.filterMap_cons]; rfl
    cases e with
    | start q =>
      rw [hstart, List.filter_cons, List.filter_cons]
      by_cases hq : isNormalAt t q = true
      · simp only [edgeNormal, Edge.node, hq, if_true, hstart, ih]
      · simp only [edgeNormal, Edge.node, hq, Bool.false_eq_true, if_false, ih]
    | stop q =>
      rw [hstop, List.filter_cons]
      by_cases hq : isNormalAt t q = true
      · simp only [edgeNormal, Edge.node, hq, if_true, hstop, ih]
      · simp only [edgeNormal, Edge.node, hq, Bool.false_eq_true, if_false, ih]

end XotModel.Axes
