/-
  The four moves after their guards (`Forest.append_eq` … `insertBefore_eq`, `Forest.moveTail` of
  `ManipShape.lean`): what a successful call says about its argument checks (`*_ok_check(s)`,
  `*_args`, `sibling_checks_unpack`), indextree's checked insertions as the cut followed by the plain
  list insertion, when the node already stands at the requested place, and the placement of
  `prepend`.
-/
import XotModel.Lemmas.BasicFacts
import XotModel.Lemmas.FspecMove

/-! ## `append` -/

namespace XotModel
open HTree Spec

theorem lastOf_append_cons {l : List HTree} {t k : HTree} {r : List HTree} :
    Forest.lastOf (l ++ t :: (r ++ [k])) = Forest.lastOf ((l ++ r) ++ [k]) := by
  unfold Forest.lastOf
  have e1 : l ++ t :: (r ++ [k]) = (l ++ t :: r) ++ [k] := by simp
  rw [e1, List.getLast?_concat, List.getLast?_concat]

theorem occupied_lastChild {f : Forest} {p c : Nat} {vp : Value} {Lp : List HTree} {t : HTree}
    (sp : SiteAt f p vp Lp) (hgc : f.get? c = some t) (hnorm : t.value.isNormal = true) :
    Dest.occupiedBy f c (.lastChildOf p) = true ↔ Forest.lastOf Lp = some c := by
  simp only [Dest.occupiedBy, Forest.kidsOf_of_get sp.kids, beq_iff_eq]
  constructor
  · intro h
    cases hl : Lp.getLast? with
    | none => rw [hl] at h; cases h
    | some k =>
      rw [hl] at h
      simp only [Option.map_some, Option.some.injEq] at h
      obtain ⟨L', e⟩ := List.getLast?_eq_some_iff.1 hl
      subst e
      have sk : SiteAt f p vp (L' ++ k :: []) := sp
      have := sk.getKid
      rw [h, hgc] at this
      have := Option.some.inj this
      subst this
      unfold Forest.lastOf
      rw [hl]
      simp [hnorm, h]
  · intro h
    obtain ⟨L', ka, e, eka, _⟩ := lastOf_eq_some h
    subst e
    rw [List.getLast?_concat]
    simp [eka]

theorem append_args {f : Forest} {p c : Nat} (nd : f.allHandles.Nodup) (hok : (f.append p c).2 = .ok) :
    MoveArgs f (.lastChildOf p) c :=
  MoveArgs.of_structureCheck nd (Forest.append_ok_check hok) (fun h => by simp [Dest.site, h])

end XotModel

/-! ## indextree's checked insertions at a child -/

namespace XotModel
open HTree Spec

theorem parent_inside {Z : Forest} {c : Nat} {t : HTree} {q : Nat} {vq : Value} {A : List HTree} {w : HTree}
    {B : List HTree} (hgc : Z.get? c = some t) (sq : SiteAt Z q vq (A ++ w :: B))
    (hin : w.handle ∈ handles t) (hne : w.handle ≠ c) : q ∈ handles t := by
  have nd := sq.nd
  have htc : t.handle = c := (findList?_some Z.roots t hgc).1
  have ndt : (handles t).Nodup := (findList?_sublist _ Z.roots t hgc).nodup nd
  have hsome := (find?_isSome_iff _ t).2 hin
  cases hf : find? w.handle t with
  | none => rw [hf] at hsome; cases hsome
  | some w' =>
    rcases find?_root_or_ctx t w' hf with h | h
    · exact absurd (h.symm.trans htc) hne
    · cases hb : ctxBelow w.handle t with
      | none => rw [hb] at h; cases h
      | some c' =>
        obtain ⟨e0, v', e1⟩ := ctxBelow_find t c' ndt hb
        have hpin : c'.parent ∈ handles t := find?_some_mem e1
        have hget : Z.get? c'.parent = some (.node c'.parent v' (c'.left ++ c'.self :: c'.right)) := by
          rw [Forest.get?_eq, findList?_inside Z.roots t nd hgc hpin]; exact e1
        have hctx1 := Forest.ctx_of_kids nd hget
        rw [e0, sq.ctx] at hctx1
        have := Option.some.inj hctx1
        injection this with ep _ _ _
        rw [ep]; exact hpin

/-- indextree's two refusals for `checked_insert_after/before` do not arise. -/
theorem insert_guard {Z : Forest} {c : Nat} {t : HTree} {q : Nat} {vq : Value} {A : List HTree} {w : HTree}
    {B : List HTree} (hgc : Z.get? c = some t) (sq : SiteAt Z q vq (A ++ w :: B))
    (hq : q ∉ handles t) (hne : w.handle ≠ c) :
    ((Z.ancestors w.handle).contains c || Z.isRoot w.handle) = false := by
  rw [Forest.isRoot_of_ctx sq.nd sq.ctx, Bool.or_false]
  cases h : (Z.ancestors w.handle).contains c with
  | false => rfl
  | true =>
    obtain ⟨u, hu, hin⟩ := (Forest.ancestors_contains_iff sq.nd).1 h
    rw [hgc] at hu
    have := Option.some.inj hu
    subst this
    exact absurd (parent_inside hgc sq hin hne) hq

namespace Forest

theorem checkedInsertAfter_ok {Z : Forest} {c : Nat} {t : HTree} {q : Nat} {vq : Value} {A : List HTree} {w : HTree}
    {B : List HTree} (hgc : Z.get? c = some t) (sq : SiteAt Z q vq (A ++ w :: B))
    (hq : q ∉ handles t) (hne : w.handle ≠ c) :
    Z.checkedInsertAfter w.handle c = ((Z.editAt (Z.parent? c) (dropTop c)).placeAfter w.handle t, true) := by
  unfold checkedInsertAfter
  rw [if_neg hne, insert_guard hgc sq hq hne]
  simp only [Bool.false_eq_true, if_false]
  rw [cut_any sq.nd hgc]

theorem checkedInsertBefore_ok {Z : Forest} {c : Nat} {t : HTree} {q : Nat} {vq : Value} {A : List HTree} {w : HTree}
    {B : List HTree} (hgc : Z.get? c = some t) (sq : SiteAt Z q vq (A ++ w :: B))
    (hq : q ∉ handles t) (hne : w.handle ≠ c) :
    Z.checkedInsertBefore w.handle c = ((Z.editAt (Z.parent? c) (dropTop c)).placeBefore w.handle t, true) := by
  unfold checkedInsertBefore
  rw [if_neg hne, insert_guard hgc sq hq hne]
  simp only [Bool.false_eq_true, if_false]
  rw [cut_any sq.nd hgc]

end Forest

theorem insertAfterTop_mid {A : List HTree} {w : HTree} {B : List HTree} (t : HTree)
    (hA : ∀ k ∈ A, k.handle ≠ w.handle) : insertAfterTop w.handle t (A ++ w :: B) = A ++ w :: t :: B := by
  unfold insertAfterTop
  rw [replaceTop_mid rfl hA]; simp

theorem insertBeforeTop_mid {A : List HTree} {w : HTree} {B : List HTree} (t : HTree)
    (hA : ∀ k ∈ A, k.handle ≠ w.handle) : insertBeforeTop w.handle t (A ++ w :: B) = A ++ t :: w :: B := by
  unfold insertBeforeTop
  rw [replaceTop_mid rfl hA]; simp

end XotModel

/-! ## `insert_after` -/

namespace XotModel
open HTree Spec

theorem insertAfter_ok_checks {f : Forest} {ref c : Nat} (hok : (f.insertAfter ref c).2 = .ok) :
    f.structureCheck (f.parent? ref) c = true ∧ f.siblingReferenceCheck ref c = true := by
  cases hsc : f.structureCheck (f.parent? ref) c with
  | false => rw [Forest.insertAfter_eq] at hok; simp [hsc] at hok
  | true =>
    cases hsr : f.siblingReferenceCheck ref c with
    | false => rw [Forest.insertAfter_eq] at hok; simp [hsc, hsr] at hok
    | true => exact ⟨rfl, rfl⟩

theorem textData_map {φ : HTree → HTree} (hφ : KidMap φ) (k : HTree) : textData (φ k) = textData k := by
  unfold textData; rw [hφ.value]

/-- What the two argument checks of `insert_after` / `insert_before` say. -/
theorem sibling_checks_unpack {f : Forest} {ref c : Nat} (nd : f.allHandles.Nodup)
    (hsc : f.structureCheck (f.parent? ref) c = true) (hsr : f.siblingReferenceCheck ref c = true) :
    ∃ q vq A kr B t, SiteAt f q vq (A ++ kr :: B) ∧ kr.handle = ref ∧ kr.value.isNormal = true ∧ ref ≠ c ∧
      f.get? c = some t ∧ q ∉ handles t ∧ t.value.isNormal = true ∧ t.value.isDocument = false ∧
      vq.isText = false := by
  cases hp : f.parent? ref with
  | none => rw [hp] at hsc; simp [Forest.structureCheck] at hsc
  | some q =>
    rw [hp] at hsc
    obtain ⟨vq, Lq, t, hgq, hgc, hqt, hnorm, hndoc, hvq⟩ := Forest.structureCheck_unpack nd hsc
    unfold Forest.parent? at hp
    cases hctx : f.ctx? ref with
    | none => rw [hctx] at hp; cases hp
    | some cx =>
      rw [hctx] at hp
      simp only [Option.map_some, Option.some.injEq] at hp
      obtain ⟨e0, v', s⟩ := SiteAt.of_ctx nd hctx
      obtain ⟨p', A, kr, B⟩ := cx
      simp only at hp e0 s
      subst hp
      have : v' = vq := by
        have := s.kids; rw [hgq] at this
        have := Option.some.inj this
        injection this with _ e2 _
        exact e2.symm
      subst this
      unfold Forest.siblingReferenceCheck at hsr
      simp only [Bool.and_eq_true, bne_iff_ne, ne_eq] at hsr
      have hkrn : kr.value.isNormal = true := by
        have h2 := hsr.2
        unfold Forest.isNormalNode Forest.value? at h2
        rw [← e0, s.getKid] at h2
        simpa using h2
      exact ⟨p', v', A, kr, B, t, s, e0, hkrn, hsr.1, hgc, hqt, hnorm, hndoc, isText_false_of_kind hvq⟩

theorem insertAfter_args {f : Forest} {ref c : Nat} (nd : f.allHandles.Nodup) (hok : (f.insertAfter ref c).2 = .ok) :
    MoveArgs f (.after ref) c := by
  obtain ⟨hsc, hsr⟩ := insertAfter_ok_checks hok
  obtain ⟨q, vq, A, kr, B, t, sq, ekr, _, _, hgc, hqt, _, _, hvq⟩ := sibling_checks_unpack nd hsc hsr
  exact ⟨q, vq, _, t, sq, hgc, hqt, hvq, ekr ▸ Forest.parent?_of_ctx? sq.ctx⟩

theorem occupied_after {f : Forest} {c : Nat} {t : HTree} {q : Nat} {vq : Value} {A : List HTree} {kr : HTree}
    {B : List HTree} (sq : SiteAt f q vq (A ++ kr :: B)) (hgc : f.get? c = some t)
    (hnorm : t.value.isNormal = true) (hkrn : kr.value.isNormal = true) :
    Dest.occupiedBy f c (.after kr.handle) = true ↔ nextOf B kr = some c := by
  simp only [Dest.occupiedBy, sq.ctx, beq_iff_eq]
  constructor
  · intro h
    cases hB : B.head? with
    | none => rw [hB] at h; cases h
    | some kb =>
      rw [hB] at h
      simp only [Option.map_some, Option.some.injEq] at h
      obtain ⟨B2, e⟩ := List.head?_eq_some_iff.1 hB
      subst e
      have skb : SiteAt f q vq ((A ++ [kr]) ++ kb :: B2) := by
        have : (A ++ [kr]) ++ kb :: B2 = A ++ kr :: kb :: B2 := by simp
        rw [this]; exact sq
      have := skb.getKid
      rw [h, hgc] at this
      have := Option.some.inj this
      subst this
      rw [nextOf_cons_normal _ hnorm hkrn, h]
  · intro h
    obtain ⟨kb, B2, e, ekb, _⟩ := nextOf_eq_some h
    subst e
    simp [ekb]

namespace ReplGapNF

theorem siblingReferenceCheck_pack {f : Forest} {ref c : Nat} {w : HTree} (hne : ref ≠ c)
    (hg : f.get? ref = some w) (hwn : w.value.isNormal = true) : f.siblingReferenceCheck ref c = true := by
  unfold Forest.siblingReferenceCheck Forest.isNormalNode Forest.value?
  rw [hg]
  simp [hne, hwn]

end ReplGapNF

end XotModel

/-! ## `insert_before` -/

namespace XotModel
open HTree Spec

theorem insertBefore_ok_checks {f : Forest} {ref c : Nat} (hok : (f.insertBefore ref c).2 = .ok) :
    f.structureCheck (f.parent? ref) c = true ∧ f.siblingReferenceCheck ref c = true := by
  cases hsc : f.structureCheck (f.parent? ref) c with
  | false => rw [Forest.insertBefore_eq] at hok; simp [hsc] at hok
  | true =>
    cases hsr : f.siblingReferenceCheck ref c with
    | false => rw [Forest.insertBefore_eq] at hok; simp [hsc, hsr] at hok
    | true => exact ⟨rfl, rfl⟩

theorem insertBefore_args {f : Forest} {ref c : Nat} (nd : f.allHandles.Nodup) (hok : (f.insertBefore ref c).2 = .ok) :
    MoveArgs f (.before ref) c := by
  obtain ⟨hsc, hsr⟩ := insertBefore_ok_checks hok
  obtain ⟨q, vq, A, kr, B, t, sq, ekr, _, _, hgc, hqt, _, _, hvq⟩ := sibling_checks_unpack nd hsc hsr
  exact ⟨q, vq, _, t, sq, hgc, hqt, hvq, ekr ▸ Forest.parent?_of_ctx? sq.ctx⟩

theorem occupied_before {f : Forest} {c : Nat} {t : HTree} {q : Nat} {vq : Value} {A : List HTree} {kr : HTree}
    {B : List HTree} (sq : SiteAt f q vq (A ++ kr :: B)) (hgc : f.get? c = some t)
    (hnorm : t.value.isNormal = true) (hkrn : kr.value.isNormal = true) :
    Dest.occupiedBy f c (.before kr.handle) = true ↔ prevOf A kr = some c := by
  simp only [Dest.occupiedBy, sq.ctx, beq_iff_eq]
  constructor
  · intro h
    cases hA : A.getLast? with
    | none => rw [hA] at h; cases h
    | some ka =>
      rw [hA] at h
      simp only [Option.map_some, Option.some.injEq] at h
      obtain ⟨A2, e⟩ := List.getLast?_eq_some_iff.1 hA
      subst e
      have ska : SiteAt f q vq (A2 ++ ka :: (kr :: B)) := by
        have : A2 ++ ka :: (kr :: B) = (A2 ++ [ka]) ++ kr :: B := by simp
        rw [this]; exact sq
      have := ska.getKid
      rw [h, hgc] at this
      have := Option.some.inj this
      subst this
      rw [prevOf_snoc_normal _ hnorm hkrn, h]
  · intro h
    obtain ⟨A2, ka, e, eka, _⟩ := prevOf_eq_some h
    subst e
    simp [eka]

theorem prevOf_insert_ne_nil {m : List HTree} (l : List HTree) (t kr : HTree) (hm : m ≠ []) :
    prevOf (l ++ t :: m) kr = prevOf (l ++ m) kr := by
  obtain ⟨W, z, em⟩ : ∃ W z, m = W ++ [z] := by
    cases hlm : m.getLast? with
    | none => exact absurd (List.getLast?_eq_none_iff.1 hlm) hm
    | some k => exact ⟨_, k, (List.getLast?_eq_some_iff.1 hlm).choose_spec⟩
  subst em
  have e1 : l ++ t :: (W ++ [z]) = (l ++ t :: W) ++ [z] := by simp
  have e2 : l ++ (W ++ [z]) = (l ++ W) ++ [z] := by simp
  unfold prevOf
  rw [e1, e2, List.getLast?_concat, List.getLast?_concat]

end XotModel

/-! ## `prepend` -/

namespace XotModel
open HTree Spec

/-- namespace and attribute nodes -/
def abn (k : HTree) : Bool := !k.value.isNormal

theorem insertFirstNormal_eq (t : HTree) : ∀ L : List HTree,
    insertFirstNormal t L = L.takeWhile abn ++ t :: L.dropWhile abn
  | [] => rfl
  | k :: ks => by
    rw [List.takeWhile_cons, List.dropWhile_cons]
    cases h : k.value.isNormal with
    | true => simp [insertFirstNormal, abn, h]
    | false =>
      simp only [insertFirstNormal, abn, h, Bool.false_eq_true, if_false, Bool.not_false, if_true, List.cons_append]
      rw [insertFirstNormal_eq t ks]

theorem abn_map {φ : HTree → HTree} (hφ : KidMap φ) (k : HTree) : abn (φ k) = abn k := by
  simp [abn, hφ.value]

theorem takeWhile_abn_map {φ : HTree → HTree} (hφ : KidMap φ) : ∀ L : List HTree,
    (L.map φ).takeWhile abn = (L.takeWhile abn).map φ
  | [] => rfl
  | k :: ks => by
    rw [List.map_cons, List.takeWhile_cons, List.takeWhile_cons, abn_map hφ]
    cases abn k
    · rfl
    · simp only [if_true, List.map_cons]; rw [takeWhile_abn_map hφ ks]

theorem dropWhile_abn_map {φ : HTree → HTree} (hφ : KidMap φ) : ∀ L : List HTree,
    (L.map φ).dropWhile abn = (L.dropWhile abn).map φ
  | [] => rfl
  | k :: ks => by
    rw [List.map_cons, List.dropWhile_cons, List.dropWhile_cons, abn_map hφ]
    cases abn k
    · rfl
    · simp only [if_true]; rw [dropWhile_abn_map hφ ks]

theorem abn_of_mem_takeWhile {L : List HTree} {k : HTree} (h : k ∈ L.takeWhile abn) : abn k = true :=
  mem_takeWhile_imp abn L k h

theorem not_text_of_abn {k : HTree} (h : abn k = true) : ¬ k.value.isText = true := by
  intro ht
  have := Forest.normal_of_isText ht
  simp [abn, this] at h

namespace Forest

theorem firstChild_of_get {f : Forest} {p : Nat} {v : Value} {L : List HTree}
    (e : f.get? p = some (.node p v L)) : f.firstChild p = ((L.dropWhile abn).head?).map (·.handle) := by
  unfold firstChild
  rw [e]
  rfl

theorem prependPoint_of_get {f : Forest} {p : Nat} {v : Value} {L : List HTree}
    (e : f.get? p = some (.node p v L)) : f.prependPoint p = ((L.takeWhile abn).getLast?).map (·.handle) := by
  unfold prependPoint
  rw [e]
  rfl

theorem checkedPrepend_ok {f : Forest} {p c : Nat} {t : HTree} (nd : f.allHandles.Nodup)
    (hg : f.get? c = some t) (hok : (f.checkedPrepend p c).2 = true) :
    (f.checkedPrepend p c).1 = (f.editAt (f.parent? c) (dropTop c)).editAt (some p) (fun ks => t :: ks) := by
  unfold checkedPrepend at hok ⊢
  split
  · rename_i h; rw [if_pos h] at hok; cases hok
  · rw [cut_any nd hg]
    rfl

end Forest

theorem prepend_ok_check {f : Forest} {p c : Nat} (hok : (f.prepend p c).2 = .ok) :
    f.structureCheck (some p) c = true := by
  cases h : f.structureCheck (some p) c with
  | true => rfl
  | false => rw [Forest.prepend_eq] at hok; simp [h] at hok

theorem prepend_args {f : Forest} {p c : Nat} (nd : f.allHandles.Nodup) (hok : (f.prepend p c).2 = .ok) :
    MoveArgs f (.firstNormalChildOf p) c :=
  MoveArgs.of_structureCheck nd (prepend_ok_check hok) (fun h => by simp [Dest.site, h])

theorem occupied_firstNormal {f : Forest} {p c : Nat} {vp : Value} {Lp : List HTree} (sp : SiteAt f p vp Lp) :
    Dest.occupiedBy f c (.firstNormalChildOf p) = (((Lp.dropWhile abn).head?).map (·.handle) == some c) := by
  simp only [Dest.occupiedBy, Forest.kidsOf_of_get sp.kids]
  rfl

/-! ### `prepend` of a child of the same parent -/

theorem takeWhile_abn_append_of_normal {l : List HTree} (X : List HTree) (h : ∃ k ∈ l, abn k = false) :
    (l ++ X).takeWhile abn = l.takeWhile abn := by
  induction l with
  | nil => obtain ⟨k, hk, _⟩ := h; cases hk
  | cons a l ih =>
    rw [List.cons_append, List.takeWhile_cons, List.takeWhile_cons]
    cases ha : abn a with
    | false => rfl
    | true =>
      simp only [if_true]
      congr 1
      apply ih
      obtain ⟨k, hk, hkn⟩ := h
      cases List.mem_cons.1 hk with
      | inl e => rw [e, ha] at hkn; cases hkn
      | inr e => exact ⟨k, e, hkn⟩

theorem dropWhile_abn_append_of_normal {l : List HTree} (X : List HTree) (h : ∃ k ∈ l, abn k = false) :
    (l ++ X).dropWhile abn = l.dropWhile abn ++ X := by
  induction l with
  | nil => obtain ⟨k, hk, _⟩ := h; cases hk
  | cons a l ih =>
    rw [List.cons_append, List.dropWhile_cons, List.dropWhile_cons]
    cases ha : abn a with
    | false => rfl
    | true =>
      simp only [if_true]
      apply ih
      obtain ⟨k, hk, hkn⟩ := h
      cases List.mem_cons.1 hk with
      | inl e => rw [e, ha] at hkn; cases hkn
      | inr e => exact ⟨k, e, hkn⟩

theorem dropWhile_abn_ne_nil_of_normal {l : List HTree} (h : ∃ k ∈ l, abn k = false) : l.dropWhile abn ≠ [] := by
  induction l with
  | nil => obtain ⟨k, hk, _⟩ := h; cases hk
  | cons a l ih =>
    rw [List.dropWhile_cons]
    cases ha : abn a with
    | false => simp
    | true =>
      simp only [if_true]
      apply ih
      obtain ⟨k, hk, hkn⟩ := h
      cases List.mem_cons.1 hk with
      | inl e => rw [e, ha] at hkn; cases hkn
      | inr e => exact ⟨k, e, hkn⟩

theorem normal_before {l : List HTree} {t : HTree} {r : List HTree} (hnt : t.value.isNormal = true)
    (hsame : ¬ (((l ++ t :: r).dropWhile abn).head?).map (·.handle) = some t.handle) :
    ∃ k ∈ l, abn k = false := by
  apply Classical.byContradiction
  intro hno
  apply hsame
  have hall : ∀ k ∈ l, abn k = true := by
    intro k hk
    cases h : abn k with
    | true => rfl
    | false => exact absurd ⟨k, hk, h⟩ hno
  have : (l ++ t :: r).dropWhile abn = t :: r := by
    clear hsame hno
    induction l with
    | nil => simp [List.dropWhile_cons, abn, hnt]
    | cons a l ih =>
      rw [List.cons_append, List.dropWhile_cons, hall a List.mem_cons_self]
      simp only [if_true]
      exact ih (fun k hk => hall k (List.mem_cons_of_mem _ hk))
  rw [this]; rfl

theorem Forest.afterOldSite_of_no_ctx {f : Forest} {c : Nat} (h : f.ctx? c = none) : f.afterOldSite c = f :=
  Forest.afterOldSite_of_prevSibling_none (Forest.prevSibling_of_no_ctx h)

theorem Forest.afterOldSite_of_ctx {f : Forest} {c : Nat} {cx : Ctx} (h : f.ctx? c = some cx) :
    f.afterOldSite c = (f.removeConsolidate (prevOf cx.left cx.self) (nextOf cx.right cx.self)).1 := by
  unfold Forest.afterOldSite
  rw [Forest.prevSibling_of_ctx h, Forest.nextSibling_of_ctx h]

/-- A move that is carried out and does not merge the node at its new place has placed it: the
    placement `k` was accepted and its forest is the result. -/
theorem Forest.moveTail_placed {f X : Forest} {c : Nat} {prev next : Forest → Option Nat}
    {k : Forest → Forest × Bool} (hX : f.afterOldSite c = X)
    (hno : X.addConsolidate c (prev X) (next X) = (X, false)) (hok : (f.moveTail c prev next k).2 = .ok) :
    (k X).2 = true ∧ (f.moveTail c prev next k).1 = (k X).1 := by
  rw [Forest.moveTail_of_no_merge hX hno] at hok ⊢
  cases h : (k X).2 with
  | true => simp
  | false => simp [h] at hok

/-- The indextree insertion of `prepend`, once accepted: behind the last namespace / attribute node
    if there is one, else in front.  `LY` is the child list of `p` after the cut; the moved node is
    normal, so the namespace / attribute prefix is the same. -/
theorem prepend_place {X Y : Forest} {p c : Nat} {vp : Value} {t : HTree} {LX LY : List HTree}
    (hget : X.get? c = some t) (hcut : X.editAt (X.parent? c) (dropTop c) = Y) (hpt : p ∉ handles t)
    (sX : SiteAt X p vp LX) (sY : SiteAt Y p vp LY)
    (hpre : (LY.takeWhile abn).map (·.handle) = (LX.takeWhile abn).map (·.handle))
    (hnc : ∀ k ∈ LX.takeWhile abn, k.handle ≠ c)
    (hok : (match X.prependPoint p with
      | some ip => X.checkedInsertAfter ip c
      | none => X.checkedPrepend p c).2 = true) :
    (match X.prependPoint p with
      | some ip => X.checkedInsertAfter ip c
      | none => X.checkedPrepend p c) = (Y.editAt (some p) (insertFirstNormal t), true) := by
  rw [Forest.prependPoint_of_get sX.kids] at hok ⊢
  cases hl : (LX.takeWhile abn).getLast? with
  | none =>
    rw [hl] at hok
    simp only [Option.map_none] at hok ⊢
    refine Prod.ext ?_ hok
    rw [Forest.checkedPrepend_ok sX.nd hget hok, hcut]
    apply sY.congr
    have hnil : LY.takeWhile abn = [] := by
      rw [List.getLast?_eq_none_iff.1 hl] at hpre
      exact List.map_eq_nil_iff.1 hpre
    have hdw := List.takeWhile_append_dropWhile (p := abn) (l := LY)
    rw [hnil, List.nil_append] at hdw
    rw [insertFirstNormal_eq, hnil, hdw]
    rfl
  | some kip =>
    simp only [Option.map_some]
    obtain ⟨Ab, eAb⟩ := List.getLast?_eq_some_iff.1 hl
    have sX' : SiteAt X p vp (Ab ++ kip :: LX.dropWhile abn) := by
      have : Ab ++ kip :: LX.dropWhile abn = LX := by
        calc Ab ++ kip :: LX.dropWhile abn = LX.takeWhile abn ++ LX.dropWhile abn := by rw [eAb]; simp
          _ = LX := List.takeWhile_append_dropWhile
      rw [this]; exact sX
    rw [Forest.checkedInsertAfter_ok hget sX' hpt (hnc kip (List.mem_of_getLast? hl)), hcut]
    congr 1
    -- in `Y` the last namespace / attribute node carries the same handle
    obtain ⟨Ab', kip', eAb', hk'⟩ : ∃ Ab' kip', LY.takeWhile abn = Ab' ++ [kip'] ∧ kip'.handle = kip.handle := by
      rw [eAb, List.map_append, List.map_cons, List.map_nil] at hpre
      rcases List.eq_nil_or_concat (LY.takeWhile abn) with h | ⟨L, b, h⟩
      · rw [h] at hpre; simp at hpre
      · rw [h, List.concat_eq_append, List.map_append] at hpre
        exact ⟨L, b, by rw [h, List.concat_eq_append], by simpa using (List.append_inj' hpre rfl).2⟩
    have hLY : LY = Ab' ++ kip' :: LY.dropWhile abn := by
      calc LY = LY.takeWhile abn ++ LY.dropWhile abn := List.takeWhile_append_dropWhile.symm
        _ = Ab' ++ kip' :: LY.dropWhile abn := by rw [eAb']; simp
    have sY' : SiteAt Y p vp (Ab' ++ kip' :: LY.dropWhile abn) := by rw [← hLY]; exact sY
    have hctx := sY'.ctx
    rw [hk'] at hctx
    rw [Forest.placeAfter_of_ctx t sY'.nd hctx]
    apply sY.congr
    have hI := insertAfterTop_mid (B := LY.dropWhile abn) t (tops_ne_of_nodup sY'.nodupKids.1).1
    rw [hk'] at hI
    rw [insertFirstNormal_eq, eAb']
    conv => lhs; rw [hLY]
    rw [hI]
    simp

/-- … when the node is a child of `p` already, with a normal child before it. -/
theorem prepend_place_kid {X : Forest} {p : Nat} {vp : Value} {lx : List HTree} {t : HTree} {rx : List HTree}
    (sX : SiteAt X p vp (lx ++ t :: rx)) (hN : ∃ k ∈ lx, abn k = false)
    (hok : (match X.prependPoint p with
      | some ip => X.checkedInsertAfter ip t.handle
      | none => X.checkedPrepend p t.handle).2 = true) :
    (match X.prependPoint p with
      | some ip => X.checkedInsertAfter ip t.handle
      | none => X.checkedPrepend p t.handle) =
      ((X.editAt (some p) (dropTop t.handle)).editAt (some p) (insertFirstNormal t), true) := by
  obtain ⟨tl, _⟩ := tops_ne_of_nodup sX.nodupKids.1
  refine prepend_place sX.getKid (by rw [Forest.parent?_of_ctx? sX.ctx]) sX.not_mem_kid sX sX.dropKid ?_ ?_ hok
  · rw [takeWhile_abn_append_of_normal _ hN, takeWhile_abn_append_of_normal _ hN]
  · intro k hk
    rw [takeWhile_abn_append_of_normal _ hN] at hk
    exact tl k ((List.takeWhile_sublist _).subset hk)

end XotModel
