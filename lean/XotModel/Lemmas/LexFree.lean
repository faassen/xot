/-
  The layout theorem of the reference tokenizer: for every token list that meets `LexOKL`, of every
  length and nesting depth and with EVERY layout, the tokenizer reads `renderL lts` back as
  `placeL 0 lts` (the same tokens at the byte positions the layout implies), without error.  First
  where the tokenizer stands while it reads a token list (`Matches`) and what may follow a list
  (`JoinOK`); then one token (`loop_one`) and the induction (`lexLoop_layout_app`).
-/
import XotModel.Lemmas.LexCanonStep
import XotModel.Lemmas.LexFreeStep

/-! ### Where the tokenizer stands, and what may follow a token list

  `Matches`: state and depth against the context of `lexNest`; how the tokenizer gets through the prolog to
  the state in which a token is read; `JoinOK`: what may follow a token list without extending its last token.
-/

namespace XotModel.Lex.Canon

open XotModel.Lex XotModel.Lex.Stream

/-- The tokenizer stands where the context of `lexNest` says. -/
def Matches (frag : Bool) : LexCtx → Tokenizer → Prop
  | .prolog, tk => tk.fragment = frag ∧ tk.depth = 0 ∧
      (tk.state = .declaration ∨ tk.state = .afterDeclaration ∨ tk.state = .afterDtd)
  | .inTag d, tk => tk.fragment = frag ∧ tk.depth = d ∧ tk.state = .attributes
  | .content d, tk => tk.fragment = frag ∧ tk.depth = d ∧ tk.state = .elements
  | .after, tk => tk.fragment = frag ∧ tk.state = .afterElements

theorem matches_closed (frag : Bool) (d : Nat) (s : Stream) :
    Matches frag (LexCtx.closed frag d) ⟨s, stateAfterTag d frag, d, frag⟩ := by
  unfold LexCtx.closed stateAfterTag
  split <;> simp [Matches]

/-! ### What follows a token, read off `lexNest` -/

theorem nest_inTag_stops {frag : Bool} {d : Nat} {ts : List Token}
    (h : lexNest frag (.inTag d) ts = true) : Stops isNameChar (renderTokens ts) := by
  cases ts with
  | nil => exact Stops.nil _
  | cons t ts =>
    rw [renderTokens_cons]
    cases t with
    | «attribute» p l v sp => exact Stops.cons _ (by decide)
    | elementEnd e sp =>
      cases e with
      | «open» => exact Stops.cons _ (by decide)
      | empty => exact Stops.cons _ (by decide)
      | close p l => simp [lexNest] at h
    | _ => simp [lexNest] at h

theorem nest_after_text {frag : Bool} {d : Nat} {a : StrSpan} {ts : List Token}
    (h : lexNest frag (.content d) (.text a :: ts) = true) :
    StartsMarkup (renderTokens ts) ∧ lexNest frag (.content d) ts = true := by
  cases ts with
  | nil => exact ⟨.inl rfl, rfl⟩
  | cons t ts =>
    rw [renderTokens_cons]
    cases t with
    | text b => simp [lexNest] at h
    | cdata b sp => exact ⟨.inr ⟨_, rfl⟩, by simpa [lexNest] using h⟩
    | comment b sp => exact ⟨.inr ⟨_, rfl⟩, by simpa [lexNest] using h⟩
    | pi b c sp => cases c <;> exact ⟨.inr ⟨_, rfl⟩, by simpa [lexNest] using h⟩
    | elementStart p l sp => exact ⟨.inr ⟨_, rfl⟩, by simpa [lexNest] using h⟩
    | elementEnd e sp =>
      cases e with
      | close p l => exact ⟨.inr ⟨_, rfl⟩, by simpa [lexNest] using h⟩
      | «open» => simp [lexNest] at h
      | empty => simp [lexNest] at h
    | _ => simp [lexNest] at h

/-! ### One token, then the rest -/

theorem loop_step {tk tk' : Tokenizer} {t : Token} {ts : List Token} {r : Str} (position : Nat)
    (he : tk.stream.atEnd = false) (hf : tk.state ≠ .finished)
    (hstep : parseNextImpl tk = .token (t.place tk.stream.pos) tk')
    (hs' : tk'.stream = ⟨tk.stream.pos + strLen (renderToken t), r⟩)
    (ih : lexLoop tk' tk'.stream.pos = (placeTokens tk'.stream.pos ts, none)) :
    lexLoop tk position = (placeTokens tk.stream.pos (t :: ts), none) := by
  rw [lexLoop_token position he hf hstep, ih, hs']
  rfl

/-! ### The prolog: reaching the state in which the token is read -/

theorem loop_declaration (tk : Tokenizer) (position : Nat) (hst : tk.state = .declaration)
    (he : tk.stream.atEnd = false) (hx : tk.stream.startsWith litXmlDecl = false) :
    lexLoop tk position = lexLoop { tk with state := .afterDeclaration } position :=
  lexLoop_skip position he (by rw [hst]; simp) (step_declaration_skip tk hst he hx)

theorem loop_prolog_misc {frag : Bool} (tk : Tokenizer) (position : Nat) (hm : Matches frag .prolog tk)
    (he : tk.stream.atEnd = false) (hx : tk.stream.startsWith litXmlDecl = false) :
    ∃ st, MiscState st ∧ (st = .afterDeclaration ∨ st = .afterDtd) ∧
      lexLoop tk position = lexLoop { tk with state := st } position := by
  obtain ⟨_, _, h | h | h⟩ := hm
  · exact ⟨.afterDeclaration, .inl rfl, .inl rfl, loop_declaration tk position h he hx⟩
  · refine ⟨.afterDeclaration, .inl rfl, .inl rfl, ?_⟩
    rw [← h]
  · refine ⟨.afterDtd, .inr (.inl rfl), .inr rfl, ?_⟩
    rw [← h]

theorem loop_prolog_start {frag : Bool} (tk : Tokenizer) (position pos : Nat) (p l sp : StrSpan) (r : Str)
    (hm : Matches frag .prolog tk)
    (hs : tk.stream = ⟨pos, renderToken (.elementStart p l sp) ++ r⟩)
    (hok : (Token.elementStart p l sp).lexOK = true) :
    lexLoop tk position = lexLoop { tk with state := .afterDtd } position := by
  obtain ⟨qc, qs, hq, hqc⟩ := tokQName_head hok
  have n2 : ¬ '?' = qc := fun e => nameStart_ne hqc (d := '?') (by decide) e.symm
  have he : tk.stream.atEnd = false := by rw [hs]; rfl
  have hx : tk.stream.startsWith litXmlDecl = false := by
    rw [hs]; simp [renderToken, hq, startsWith, litXmlDecl, List.isPrefixOf_cons_cons, n2]
  have step2 : ∀ tk1 : Tokenizer, tk1.state = .afterDeclaration → tk1.stream = tk.stream →
      lexLoop tk1 position = lexLoop { tk1 with state := .afterDtd } position := by
    intro tk1 h1 hs1
    exact lexLoop_skip position (by rw [hs1]; exact he) (by rw [h1]; simp)
      (step_afterDeclaration_start tk1 pos p l sp r h1 (by rw [hs1]; exact hs) hok)
  obtain ⟨_, _, h | h | h⟩ := hm
  · rw [loop_declaration tk position h he hx]
    exact step2 { tk with state := .afterDeclaration } rfl rfl
  · exact step2 tk h rfl
  · rw [← h]

theorem render_ne_nil {t : Token} (h : t.lexOK = true) : renderToken t ≠ [] := by
  cases t with
  | text a =>
    simp only [Token.lexOK, Bool.and_eq_true, Bool.not_eq_true', List.isEmpty_eq_false_iff] at h
    exact h.1.1
  | elementEnd e sp => cases e <;> simp [renderToken]
  | pi a c sp => cases c <;> simp [renderToken]
  | declaration => simp [Token.lexOK] at h
  | dtdStart => simp [Token.lexOK] at h
  | emptyDtd => simp [Token.lexOK] at h
  | entityDecl => simp [Token.lexOK] at h
  | dtdEnd => simp [Token.lexOK] at h
  | _ => simp [renderToken]

theorem atEnd_of_render {tk : Tokenizer} {t : Token} {pos : Nat} {r : Str} (h : t.lexOK = true)
    (hs : tk.stream = ⟨pos, renderToken t ++ r⟩) : tk.stream.atEnd = false := by
  rw [hs]
  have := render_ne_nil h
  cases hr : renderToken t with
  | nil => exact absurd hr this
  | cons c cs => rfl

theorem comment_not_xmldecl (a sp : StrSpan) (r : Str) :
    litXmlDecl.isPrefixOf (renderToken (.comment a sp) ++ r) = false := by
  simp [renderToken, litXmlDecl, List.isPrefixOf_cons_cons]

/-! ### Contexts along a token list, and what may follow it -/

theorem lexNest_cons {frag : Bool} {ctx : LexCtx} {t : Token} {ts : List Token}
    (h : lexNest frag ctx (t :: ts) = true) : lexNest frag (ctxStep frag ctx t) ts = true := by
  cases ctx with
  | prolog =>
    cases t with
    | comment => exact h
    | pi => exact h
    | elementStart => exact h
    | _ => cases h
  | inTag d =>
    cases t with
    | «attribute» => exact h
    | elementEnd e sp =>
      cases e with
      | «open» => exact h
      | empty => exact h
      | close => cases h
    | _ => cases h
  | content d =>
    cases t with
    | text x => exact (nest_after_text h).2
    | cdata => exact h
    | comment => exact h
    | pi => exact h
    | elementStart => exact h
    | elementEnd e sp =>
      cases e with
      | close => exact h
      | «open» => cases h
      | empty => cases h
    | _ => cases h
  | after =>
    cases t with
    | comment => exact h
    | pi => exact h
    | _ => cases h

/-- The text `r` after the canonical spelling of `ts` does not extend the last token: after a
    start-tag name it does not begin with a name character, after a text token it is empty or
    begins with `<`. -/
def JoinOK (ts : List Token) (r : Str) : Prop :=
  match ts.getLast? with
  | some (.elementStart _ _ _) => Stops isNameChar r
  | some (.text _) => StartsMarkup r
  | _ => True

theorem JoinOK.tail {t : Token} {ts : List Token} {r : Str} (h : JoinOK (t :: ts) r) : JoinOK ts r := by
  cases ts with
  | nil => simp [JoinOK]
  | cons u us => simpa [JoinOK, List.getLast?_cons_cons] using h

theorem JoinOK.nil_right (ts : List Token) : JoinOK ts [] := by
  unfold JoinOK
  split
  · exact Stops.nil _
  · exact .inl rfl
  · trivial

theorem stops_of_join {frag : Bool} {d : Nat} {p l sp : StrSpan} {ts : List Token} {r : Str}
    (hn : lexNest frag (.inTag d) ts = true) (hj : JoinOK (.elementStart p l sp :: ts) r) :
    Stops isNameChar (renderTokens ts ++ r) := by
  cases ts with
  | nil => simpa [JoinOK, renderTokens] using hj
  | cons u us =>
    have := nest_inTag_stops hn
    rw [renderTokens_cons] at this ⊢
    intro c hc
    apply this c
    cases hu : renderToken u with
    | nil =>
      rw [hu] at this
      cases u with
      | «attribute» => simp [renderToken] at hu
      | elementEnd e sp => cases e <;> simp [renderToken] at hu <;> simp [lexNest] at hn
      | _ => cases hn
    | cons x xs => rw [hu] at hc; simpa using hc

theorem markup_of_join {frag : Bool} {d : Nat} {a : StrSpan} {ts : List Token} {r : Str}
    (hn : lexNest frag (.content d) (.text a :: ts) = true) (hj : JoinOK (.text a :: ts) r) :
    StartsMarkup (renderTokens ts ++ r) ∧ lexNest frag (.content d) ts = true := by
  obtain ⟨h1, h2⟩ := nest_after_text hn
  refine ⟨?_, h2⟩
  cases ts with
  | nil => simpa [JoinOK, renderTokens] using hj
  | cons u us =>
    rcases h1 with h1 | ⟨cs, h1⟩
    · -- the rendering of a non-empty legal continuation is not empty
      rw [renderTokens_cons] at h1
      have : renderToken u = [] := (List.append_eq_nil_iff.mp h1).1
      cases u with
      | text b => cases hn
      | elementEnd e sp => cases e <;> simp [renderToken] at this <;> simp [lexNest] at h2
      | pi b c sp => cases c <;> simp [renderToken] at this
      | cdata => simp [renderToken] at this
      | comment => simp [renderToken] at this
      | elementStart => simp [renderToken] at this
      | _ => simp [lexNest] at h2
    · exact .inr ⟨cs ++ r, by rw [h1]; rfl⟩

end XotModel.Lex.Canon

/-! ### The layout theorem

  EVERY layout: either quote per attribute, any white space (blank, TAB, LF, CR) before attributes, around
  `=`, before `>` / `/>`, inside end tags, inside PIs, between the top-level items of a document and after
  the last one.  `loop_one` is the case analysis over context and token kind; `lexLoop_layout_app` allows
  any text `r` behind the list that does not extend its last token (`FollowL`).
  The canonical rendering is the layout `LToken.canonical` (Lemmas/LexCanon.lean).
-/

namespace XotModel.Lex.Free

open XotModel.Lex XotModel.Lex.Stream XotModel.Lex.Canon

theorem renderL_cons (lt : LToken) (lts : List LToken) : renderL (lt :: lts) = renderLT lt ++ renderL lts := by
  simp [renderL]

theorem stream_eq {s : Stream} {X : Str} (h : s.rest = X) : s = ⟨s.pos, X⟩ := by
  cases s; simp_all

/-! ### White space at the top level of a document -/

theorem ws_not_xmldecl {w X : Str} (hw : isWs w = true) (hne : w ≠ []) :
    litXmlDecl.isPrefixOf (w ++ X) = false := by
  obtain ⟨c, cs, rfl⟩ := List.exists_cons_of_ne_nil hne
  have hc := (isWs_cons hw).1
  have : c ≠ '<' := by intro e; rw [e] at hc; revert hc; decide
  simp [litXmlDecl, List.isPrefixOf_cons_cons, Ne.symm this]

/-- Outside the root element of a document the tokenizer skips white space: it reaches the text
    after it in a state of the same context. -/
theorem loop_lead {frag : Bool} {ctx : LexCtx} (hctx : ctx = .prolog ∨ ctx = .after) (tk : Tokenizer)
    (position : Nat) (w X : Str) (hm : Matches frag ctx tk) (hs : tk.stream.rest = w ++ X)
    (hw : isWs w = true) (hX : Stops isXmlSpace X) :
    ∃ tk0, Matches frag ctx tk0 ∧ tk0.stream = ⟨tk.stream.pos + strLen w, X⟩ ∧
      lexLoop tk position = lexLoop tk0 position := by
  by_cases hne : w = []
  · subst hne; exact ⟨tk, hm, by rw [stream_eq hs]; simp [strLen], rfl⟩
  have hs' := stream_eq hs
  have hend : tk.stream.atEnd = false := by
    rw [hs']; obtain ⟨c, cs, rfl⟩ := List.exists_cons_of_ne_nil hne; rfl
  have skip : ∀ tk1 : Tokenizer, MiscState tk1.state → tk1.stream = tk.stream →
      lexLoop tk1 position = lexLoop { tk1 with stream := ⟨tk.stream.pos + strLen w, X⟩ } position := by
    intro tk1 h1 hs1
    exact lexLoop_skip position (by rw [hs1]; exact hend)
      (by rcases h1 with h | h | h <;> simp [h])
      (step_misc_space tk1 tk.stream.pos w X h1 (by rw [hs1]; exact hs') hw hne hX)
  rcases hctx with rfl | rfl
  · obtain ⟨hfr, hd, h | h | h⟩ := hm
    · have hx : tk.stream.startsWith litXmlDecl = false := by
        rw [hs']; exact ws_not_xmldecl hw hne
      refine ⟨{ tk with state := .afterDeclaration, stream := ⟨tk.stream.pos + strLen w, X⟩ },
        ⟨hfr, hd, .inr (.inl rfl)⟩, rfl, ?_⟩
      rw [loop_declaration tk position h hend hx]
      exact skip { tk with state := .afterDeclaration } (.inl rfl) rfl
    · exact ⟨{ tk with stream := ⟨tk.stream.pos + strLen w, X⟩ }, ⟨hfr, hd, .inr (.inl h)⟩, rfl,
        skip tk (.inl h) rfl⟩
    · exact ⟨{ tk with stream := ⟨tk.stream.pos + strLen w, X⟩ }, ⟨hfr, hd, .inr (.inr h)⟩, rfl,
        skip tk (.inr (.inl h)) rfl⟩
  · obtain ⟨hfr, h⟩ := hm
    exact ⟨{ tk with stream := ⟨tk.stream.pos + strLen w, X⟩ }, ⟨hfr, h⟩, rfl, skip tk (.inr (.inr h)) rfl⟩

/-- Only white space is left at the top level of a document: no more tokens, no error. -/
theorem loop_trail {frag : Bool} {ctx : LexCtx} (hctx : ctx = .prolog ∨ ctx = .after) (tk : Tokenizer)
    (position : Nat) (w : Str) (hm : Matches frag ctx tk) (hs : tk.stream.rest = w) (hw : isWs w = true) :
    lexLoop tk position = ([], none) := by
  obtain ⟨tk0, _, hs0, e⟩ := loop_lead hctx tk position w [] hm (by simpa using hs) hw (Stops.nil _)
  rw [e]
  exact lexLoop_end position (by simp [atEnd, hs0])

/-! ### What follows a token -/

theorem renderL_cons_app (lt : LToken) (lts : List LToken) (trail : Str) :
    renderL (lt :: lts) ++ trail = lt.lead ++ (lt.body ++ (renderL lts ++ trail)) := by
  simp [renderL_cons, renderLT]

/-- After a start-tag name (and after an attribute) comes white space, `>`, `/>` or the end. -/
theorem tail_stops_name {frag : Bool} {d : Nat} {lts : List LToken} {trail : Str}
    (hok : lts.all LToken.okL = true) (hn : lexNest frag (.inTag d) (lts.map LToken.token) = true)
    (hl : leadsOK frag (.inTag d) lts = true) (ht : isWs trail = true) :
    Stops isNameChar (renderL lts ++ trail) := by
  cases lts with
  | nil => simpa [renderL] using stops_ws_app (fun _ => space_not_nameChar) ht (Stops.nil _)
  | cons lt rest =>
    rw [renderL_cons_app]
    simp only [List.all_cons, Bool.and_eq_true] at hok
    obtain ⟨tok, w, e1, e2, b⟩ := lt
    have hw : isWs w = true := by
      have := hok.1; simp only [LToken.okL, Bool.and_eq_true] at this; exact this.1
    simp only [List.map_cons] at hn
    cases tok with
    | «attribute» p l v sp =>
      simp only [leadsOK, leadOK, Bool.and_eq_true, Bool.not_eq_true', List.isEmpty_eq_false_iff] at hl
      obtain ⟨c, cs, rfl⟩ := List.exists_cons_of_ne_nil hl.1
      exact Stops.cons _ (space_not_nameChar (isWs_cons hw).1)
    | elementEnd e sp =>
      cases e with
      | «open» => exact stops_ws_app (fun _ => space_not_nameChar) hw (Stops.cons _ (by decide))
      | empty => exact stops_ws_app (fun _ => space_not_nameChar) hw (Stops.cons _ (by decide))
      | close p l => cases hn
    | _ => cases hn

/-- After character data comes markup or the end. -/
theorem tail_markup {frag : Bool} {d : Nat} {a : StrSpan} {lts : List LToken} {trail : Str}
    (hn : lexNest frag (.content d) (.text a :: lts.map LToken.token) = true)
    (hl : leadsOK frag (.content d) lts = true)
    (ht : trailOK frag (.content d) (lts.map LToken.token) trail = true) :
    StartsMarkup (renderL lts ++ trail) := by
  cases lts with
  | nil =>
    have : trail = [] := by
      have := ht; simp [trailOK, ctxAfter] at this; exact this.2
    subst this; exact .inl rfl
  | cons lt rest =>
    rw [renderL_cons_app]
    obtain ⟨tok, w, e1, e2, b⟩ := lt
    simp only [leadsOK, leadOK, Bool.and_eq_true, List.isEmpty_iff] at hl
    obtain ⟨rfl, _⟩ := hl
    simp only [List.map_cons] at hn
    cases tok with
    | text b => cases hn
    | cdata b sp => exact .inr ⟨_, rfl⟩
    | comment b sp => exact .inr ⟨_, rfl⟩
    | pi b c sp => cases c <;> exact .inr ⟨_, rfl⟩
    | elementStart p l sp => exact .inr ⟨_, rfl⟩
    | elementEnd e sp =>
      cases e with
      | close p l => exact .inr ⟨_, rfl⟩
      | «open» => cases hn
      | empty => cases hn
    | _ => cases hn

theorem stops_space_lt (r : Str) : Stops isXmlSpace ('<' :: r) := Stops.cons r (by decide)

theorem trailOK_cons (frag : Bool) (ctx : LexCtx) (t : Token) (ts : List Token) (trail : Str) :
    trailOK frag ctx (t :: ts) trail = trailOK frag (ctxStep frag ctx t) ts trail := rfl

/-! ### One token -/

/-- What must follow a token for it to end where its spelling ends. -/
def Follow : Token → Str → Prop
  | .elementStart _ _ _, r => Stops isNameChar r
  | .text _, r => StartsMarkup r
  | _, _ => True

/-- `Follow` along a list: each token is followed by the spelling of the rest, then `r`. -/
def FollowL : List LToken → Str → Prop
  | [], _ => True
  | lt :: lts, r => Follow lt.token (renderL lts ++ r) ∧ FollowL lts r

/-- The shape every case of `loop_one` is brought to. -/
theorem loop_tok {tk tk0 tk1 : Tokenizer} {t : Token} {position : Nat}
    (e0 : lexLoop tk position = lexLoop tk0 position) (he0 : tk0.stream.atEnd = false)
    (hf0 : tk0.state ≠ .finished) (hstep : parseNextImpl tk0 = .token t tk1) :
    lexLoop tk position = (t :: (lexLoop tk1 tk1.stream.pos).1, (lexLoop tk1 tk1.stream.pos).2) := by
  rw [e0, lexLoop_token position he0 hf0 hstep]

/-- For a token kind without layout freedom `okL` asks what `lexOK` asks. -/
theorem okL_lexOK {lt : LToken} (h : lt.okL = true)
    (hk : match lt.token with
      | .attribute _ _ _ _ => False | .elementEnd (.close _ _) _ => False | .pi _ _ _ => False | _ => True) :
    lt.token.lexOK = true := by
  obtain ⟨tok, w, e1, e2, b⟩ := lt
  simp only [LToken.okL, Bool.and_eq_true] at h
  cases tok with
  | «attribute» => cases hk
  | pi => cases hk
  | elementEnd e sp =>
    cases e with
    | close => cases hk
    | «open» => exact h.2
    | empty => exact h.2
  | _ => exact h.2

/-- **One token.**  In the context `ctx`, on the spelling of `lt` (any layout) followed by text
    that does not extend it, the loop skips what `ctx` lets it skip, reads `lt` at its place and
    stands behind it in the context after it. -/
theorem loop_one (frag : Bool) (ctx : LexCtx) (tk : Tokenizer) (position : Nat) (lt : LToken)
    (ts : List Token) (r : Str) (hm : Matches frag ctx tk) (hok : lt.okL = true)
    (hn : lexNest frag ctx (lt.token :: ts) = true) (hl : leadOK ctx lt = true)
    (hs : tk.stream.rest = renderLT lt ++ r) (hf : Follow lt.token r) :
    ∃ tk1, Matches frag (ctxStep frag ctx lt.token) tk1 ∧
      tk1.stream = ⟨tk.stream.pos + strLen (renderLT lt), r⟩ ∧
      lexLoop tk position =
        (lt.place tk.stream.pos :: (lexLoop tk1 tk1.stream.pos).1, (lexLoop tk1 tk1.stream.pos).2) := by
  have hwl : isWs lt.lead = true := by
    simp only [LToken.okL, Bool.and_eq_true] at hok; exact hok.1
  obtain ⟨tok, w, e1, e2, b⟩ := lt
  simp only [renderLT, List.append_assoc] at hs
  simp only at hwl hn hf
  -- outside the root element: the white space in front is skipped first
  have outside : ∀ (hctx : ctx = .prolog ∨ ctx = .after) (rest : Str),
      LToken.body ⟨tok, w, e1, e2, b⟩ = '<' :: rest →
      ∃ tk0, Matches frag ctx tk0 ∧
        tk0.stream = ⟨tk.stream.pos + strLen w, LToken.body ⟨tok, w, e1, e2, b⟩ ++ r⟩ ∧
        lexLoop tk position = lexLoop tk0 position := by
    intro hctx rest hb
    exact loop_lead hctx tk position w _ hm hs hwl (by rw [hb]; exact stops_space_lt _)
  have len : ∀ q : Nat, q + strLen (renderLT ⟨tok, w, e1, e2, b⟩) =
      q + strLen w + strLen (LToken.body ⟨tok, w, e1, e2, b⟩) := by
    intro q; simp only [renderLT, strLen_app]; omega
  cases ctx with
  | prolog =>
    cases tok with
    | comment a sp =>
      obtain ⟨tk0, hm0, hs0, e0⟩ := outside (.inl rfl) _ rfl
      have he0 : tk0.stream.atEnd = false := by rw [hs0]; rfl
      have hx : tk0.stream.startsWith litXmlDecl = false := by
        rw [hs0]; exact comment_not_xmldecl a sp _
      obtain ⟨st, hms, hst2, e⟩ := loop_prolog_misc tk0 position hm0 he0 hx
      have hstep := step_comment { tk0 with state := st } _ a sp _ (.inr hms) hs0
        (okL_lexOK hok trivial)
      refine ⟨_, ?_, ?_, loop_tok (e0.trans e) he0 (by rcases hst2 with h | h <;> simp [h]) hstep⟩
      · exact ⟨hm0.1, hm0.2.1, by rcases hst2 with h | h <;> simp [h]⟩
      · rw [len]; rfl
    | pi a c sp =>
      obtain ⟨rest, hb, _⟩ := pi_body ⟨.pi a c sp, w, e1, e2, b⟩ a c sp rfl hok
      obtain ⟨tk0, hm0, hs0, e0⟩ := outside (.inl rfl) _ hb
      have he0 : tk0.stream.atEnd = false := by rw [hs0, hb]; rfl
      have hx : tk0.stream.startsWith litXmlDecl = false := by
        rw [hs0]; exact pi_not_xmldeclL _ a c sp _ rfl hok
      obtain ⟨st, hms, hst2, e⟩ := loop_prolog_misc tk0 position hm0 he0 hx
      have hstep := step_piL { tk0 with state := st } _ _ a c sp _ rfl hok (.inr hms) hs0
      refine ⟨_, ?_, ?_, loop_tok (e0.trans e) he0 (by rcases hst2 with h | h <;> simp [h]) hstep⟩
      · exact ⟨hm0.1, hm0.2.1, by rcases hst2 with h | h <;> simp [h]⟩
      · rw [len]
    | elementStart p l sp =>
      obtain ⟨tk0, hm0, hs0, e0⟩ := outside (.inl rfl) _ rfl
      have he0 : tk0.stream.atEnd = false := by rw [hs0]; rfl
      have hokt := okL_lexOK hok trivial
      have e := loop_prolog_start tk0 position _ p l sp _ hm0 hs0 hokt
      have hstep := step_start { tk0 with state := .afterDtd } _ p l sp _ (.inr rfl) hs0 hokt hf
      refine ⟨_, ?_, ?_, loop_tok (e0.trans e) he0 (by simp) hstep⟩
      · exact ⟨hm0.1, hm0.2.1, rfl⟩
      · rw [len]; rfl
    | _ => cases hn
  | inTag d =>
    obtain ⟨hfr, hd, hst⟩ := hm
    have hfin : tk.state ≠ .finished := by simp [hst]
    have hs' : tk.stream = ⟨tk.stream.pos, renderLT ⟨tok, w, e1, e2, b⟩ ++ r⟩ := by
      rw [stream_eq hs]; simp [renderLT]
    cases tok with
    | «attribute» p l v sp =>
      have hne : w ≠ [] := by simpa [leadOK] using hl
      have he : tk.stream.atEnd = false := by
        rw [stream_eq hs]; obtain ⟨c, cs, rfl⟩ := List.exists_cons_of_ne_nil hne; rfl
      have hstep := step_attr_attrL tk _ _ p l v sp _ rfl hok hne hst hs'
      refine ⟨_, ?_, ?_, loop_tok rfl he hfin hstep⟩
      · exact ⟨hfr, hd, hst⟩
      · exact rfl
    | elementEnd e sp =>
      cases e with
      | «open» =>
        have he : tk.stream.atEnd = false := by rw [stream_eq hs]; exact atEnd_app_cons _ _ _ _
        have hstep := step_attr_openL tk _ _ sp _ rfl hok hst hs'
        refine ⟨_, ?_, ?_, loop_tok rfl he hfin hstep⟩
        · exact ⟨hfr, by simp [hd], rfl⟩
        · exact rfl
      | empty =>
        have he : tk.stream.atEnd = false := by rw [stream_eq hs]; exact atEnd_app_cons _ _ _ _
        have hstep := step_attr_emptyL tk _ _ sp _ rfl hok hst hs'
        refine ⟨_, ?_, ?_, loop_tok rfl he hfin hstep⟩
        · rw [hd, hfr]; exact matches_closed frag d _
        · rfl
      | close p l => cases hn
    | _ => cases hn
  | content d =>
    obtain ⟨hfr, hd, hst⟩ := hm
    have hfin : tk.state ≠ .finished := by simp [hst]
    have hw0 : w = [] := by simpa [leadOK] using hl
    subst hw0
    have hs' : tk.stream = ⟨tk.stream.pos, LToken.body ⟨tok, [], e1, e2, b⟩ ++ r⟩ := by
      rw [stream_eq hs]; simp
    cases tok with
    | text a =>
      have hok' := okL_lexOK hok trivial
      have hstep := step_el_text tk _ a _ hst hs' hok' hf
      refine ⟨_, ?_, ?_, loop_tok rfl (atEnd_of_render hok' hs') hfin hstep⟩
      · exact ⟨hfr, hd, hst⟩
      · exact rfl
    | cdata a sp =>
      have hok' := okL_lexOK hok trivial
      have hstep := step_el_cdata tk _ a sp _ hst hs' hok'
      refine ⟨_, ?_, ?_, loop_tok rfl (atEnd_of_render hok' hs') hfin hstep⟩
      · exact ⟨hfr, hd, hst⟩
      · exact rfl
    | comment a sp =>
      have hok' := okL_lexOK hok trivial
      have hstep := step_comment tk _ a sp _ (.inl hst) hs' hok'
      refine ⟨_, ?_, ?_, loop_tok rfl (atEnd_of_render hok' hs') hfin hstep⟩
      · exact ⟨hfr, hd, hst⟩
      · exact rfl
    | pi a c sp =>
      obtain ⟨rest, hb, _⟩ := pi_body ⟨.pi a c sp, [], e1, e2, b⟩ a c sp rfl hok
      have he : tk.stream.atEnd = false := by rw [hs', hb]; rfl
      have hstep := step_piL tk _ _ a c sp _ rfl hok (.inl hst) hs'
      refine ⟨_, ?_, ?_, loop_tok rfl he hfin hstep⟩
      · exact ⟨hfr, hd, hst⟩
      · simp [renderLT]
    | elementStart p l sp =>
      have hok' := okL_lexOK hok trivial
      have hstep := step_start tk _ p l sp _ (.inl hst) hs' hok' hf
      refine ⟨_, ?_, ?_, loop_tok rfl (atEnd_of_render hok' hs') hfin hstep⟩
      · exact ⟨hfr, hd, rfl⟩
      · exact rfl
    | elementEnd e sp =>
      cases e with
      | close p l =>
        have he : tk.stream.atEnd = false := by rw [hs']; rfl
        have hstep := step_el_closeL tk _ _ p l sp _ rfl hok hst hs'
        refine ⟨_, ?_, ?_, loop_tok rfl he hfin hstep⟩
        · rw [hd, hfr]; exact matches_closed frag (d - 1) _
        · simp [renderLT]
      | «open» => cases hn
      | empty => cases hn
    | _ => cases hn
  | after =>
    cases tok with
    | comment a sp =>
      obtain ⟨tk0, ⟨hfr, hst⟩, hs0, e0⟩ := outside (.inr rfl) _ rfl
      have he0 : tk0.stream.atEnd = false := by rw [hs0]; rfl
      have hstep := step_comment tk0 _ a sp _ (.inr (.inr (.inr hst))) hs0 (okL_lexOK hok trivial)
      refine ⟨_, ?_, ?_, loop_tok e0 he0 (by simp [hst]) hstep⟩
      · exact ⟨hfr, hst⟩
      · rw [len]; rfl
    | pi a c sp =>
      obtain ⟨rest, hb, _⟩ := pi_body ⟨.pi a c sp, w, e1, e2, b⟩ a c sp rfl hok
      obtain ⟨tk0, ⟨hfr, hst⟩, hs0, e0⟩ := outside (.inr rfl) _ hb
      have he0 : tk0.stream.atEnd = false := by rw [hs0, hb]; rfl
      have hstep := step_piL tk0 _ _ a c sp _ rfl hok (.inr (.inr (.inr hst))) hs0
      refine ⟨_, ?_, ?_, loop_tok e0 he0 (by simp [hst]) hstep⟩
      · exact ⟨hfr, hst⟩
      · rw [len]
    | _ => cases hn

theorem strLen_renderL_cons (lt : LToken) (lts : List LToken) :
    strLen (renderL (lt :: lts)) = strLen (renderLT lt) + strLen (renderL lts) := by
  rw [renderL_cons, strLen_app]

/-- **Layout theorem with positions and a continuation.**  On `renderL lts` followed by any text
    `r` that does not extend the last token, the tokenizer reads `lts` back at their places and
    then continues on `r` from the context `lts` ends in. -/
theorem lexLoop_layout_app (frag : Bool) (lts : List LToken) (r : Str) :
    ∀ (ctx : LexCtx) (tk : Tokenizer) (position : Nat), Matches frag ctx tk →
      lts.all LToken.okL = true → lexNest frag ctx (lts.map LToken.token) = true →
      leadsOK frag ctx lts = true → tk.stream.rest = renderL lts ++ r → FollowL lts r →
      ∃ tk', Matches frag (ctxAfter frag ctx (lts.map LToken.token)) tk' ∧
        tk'.stream = ⟨tk.stream.pos + strLen (renderL lts), r⟩ ∧
        lexLoop tk position =
          (placeL tk.stream.pos lts ++
              (lexLoop tk' (if lts.isEmpty then position else tk'.stream.pos)).1,
            (lexLoop tk' (if lts.isEmpty then position else tk'.stream.pos)).2) := by
  induction lts with
  | nil =>
    intro ctx tk position hm _ _ _ hs _
    refine ⟨tk, hm, ?_, by simp [placeL]⟩
    rw [stream_eq hs]; simp [renderL, strLen]
  | cons lt lts ih =>
    intro ctx tk position hm hok hn hl hs hf
    simp only [List.all_cons, Bool.and_eq_true] at hok
    simp only [leadsOK, Bool.and_eq_true] at hl
    simp only [List.map_cons] at hn
    rw [renderL_cons, List.append_assoc] at hs
    obtain ⟨tk1, hm1, hs1, e1⟩ := loop_one frag ctx tk position lt _ _ hm hok.1 hn hl.1 hs hf.1
    obtain ⟨tk', hm', hs', e'⟩ :=
      ih _ tk1 tk1.stream.pos hm1 hok.2 (lexNest_cons hn) hl.2 (by rw [hs1]) hf.2
    have hif : (if lts.isEmpty then tk1.stream.pos else tk'.stream.pos) = tk'.stream.pos := by
      split
      · next h =>
        have : lts = [] := by simpa using h
        subst this
        simp [hs', renderL, strLen]
      · rfl
    rw [hif] at e'
    refine ⟨tk', by simpa [ctxAfter] using hm', ?_, ?_⟩
    · rw [hs', hs1, strLen_renderL_cons]; simp [Nat.add_assoc]
    · rw [e1, e', hs1]; rfl

/-! ### The layout conditions give what follows each token; the theorem up to positions -/

theorem followL_of_layout {frag : Bool} : ∀ (lts : List LToken) (ctx : LexCtx) (trail : Str),
    lts.all LToken.okL = true → lexNest frag ctx (lts.map LToken.token) = true →
    leadsOK frag ctx lts = true → trailOK frag ctx (lts.map LToken.token) trail = true →
    FollowL lts trail := by
  intro lts
  induction lts with
  | nil => intros; trivial
  | cons lt lts ih =>
    intro ctx trail hok hn hl ht
    simp only [List.all_cons, Bool.and_eq_true] at hok
    simp only [leadsOK, Bool.and_eq_true] at hl
    simp only [List.map_cons] at hn ht
    rw [trailOK_cons] at ht
    have hwt : isWs trail = true := by
      simp only [trailOK, Bool.and_eq_true] at ht; exact ht.1
    refine ⟨?_, ih _ trail hok.2 (lexNest_cons hn) hl.2 ht⟩
    obtain ⟨tok, w, e1, e2, b⟩ := lt
    simp only at hn hl ht ⊢
    cases tok with
    | elementStart p l sp =>
      cases ctx with
      | prolog => exact tail_stops_name hok.2 hn (by simpa [ctxStep] using hl.2) hwt
      | content d => exact tail_stops_name hok.2 hn (by simpa [ctxStep] using hl.2) hwt
      | inTag d => cases hn
      | after => cases hn
    | text a =>
      cases ctx with
      | content d => exact tail_markup hn (by simpa [ctxStep] using hl.2) (by simpa [ctxStep] using ht)
      | prolog => cases hn
      | inTag d => cases hn
      | after => cases hn
    | _ => trivial

/-- **Layout theorem at loop level**, up to positions: after `renderL lts` only the trailing white
    space is left. -/
theorem lexLoop_layout (frag : Bool) (lts : List LToken) (trail : Str) (ctx : LexCtx) (tk : Tokenizer)
    (position : Nat) (hm : Matches frag ctx tk) (hok : lts.all LToken.okL = true)
    (hn : lexNest frag ctx (lts.map LToken.token) = true) (hl : leadsOK frag ctx lts = true)
    (ht : trailOK frag ctx (lts.map LToken.token) trail = true)
    (hs : tk.stream.rest = renderL lts ++ trail) :
    ∃ ts', lexLoop tk position = (ts', none) ∧ ReadAsList ts' (lts.map LToken.token) := by
  obtain ⟨tk', hm', hs', e⟩ := lexLoop_layout_app frag lts trail ctx tk position hm hok hn hl hs
    (followL_of_layout lts ctx trail hok hn hl ht)
  -- only the trailing white space is left
  have hend : ∀ p, lexLoop tk' p = ([], none) := by
    intro p
    simp only [trailOK, Bool.and_eq_true, Bool.or_eq_true, List.isEmpty_iff] at ht
    rcases ht.2 with rfl | h
    · exact lexLoop_end p (by rw [hs']; rfl)
    · revert hm' h
      cases ctxAfter frag ctx (lts.map LToken.token) with
      | prolog => intro hm' _; exact loop_trail (.inl rfl) tk' p trail hm' (by rw [hs']) ht.1
      | after => intro hm' _; exact loop_trail (.inr rfl) tk' p trail hm' (by rw [hs']) ht.1
      | inTag d => intro _ h; simp at h
      | content d => intro _ h; simp at h
  refine ⟨placeL tk.stream.pos lts, ?_, placeL_readAs _ lts⟩
  rw [e, hend]; simp

end XotModel.Lex.Free
