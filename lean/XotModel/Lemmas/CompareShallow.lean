/-
  C13: shallow_equal_ignore_attributes (any ignore list) compares the canonical values with the listed names disregarded.
-/
import XotModel.Lemmas.CompareCanon

namespace XotModel

def notIgnored (ign : List Nat) (kv : Nat × Str) : Bool := !ign.contains kv.1

theorem keysNodup_filter {l : Attrs} (p : Nat × Str → Bool) (h : keysNodup l) : keysNodup (l.filter p) := by
  unfold keysNodup at *
  exact List.Nodup.sublist ((List.filter_sublist (p := p) (l := l)).map _) h

theorem filter_notIgnored_mem {ign : List Nat} {k : Nat} (v : Str) (xs : Attrs) (h : k ∈ ign) :
    ((k, v) :: xs).filter (notIgnored ign) = xs.filter (notIgnored ign) := by
  have : notIgnored ign (k, v) = false := by simp [notIgnored, h]
  rw [List.filter_cons, this]; rfl

theorem filter_notIgnored_not_mem {ign : List Nat} {k : Nat} (v : Str) (xs : Attrs) (h : k ∉ ign) :
    ((k, v) :: xs).filter (notIgnored ign) = (k, v) :: xs.filter (notIgnored ign) := by
  have : notIgnored ign (k, v) = true := by simp [notIgnored, h]
  rw [List.filter_cons, this]; rfl

theorem lookup_filter_notIgnored (ign : List Nat) (B : Attrs) {k : Nat} (hk : k ∉ ign) :
    (B.filter (notIgnored ign)).lookup k = B.lookup k := by
  induction B with
  | nil => rfl
  | cons x xs ih =>
    obtain ⟨k', v'⟩ := x
    by_cases hi : k' ∈ ign
    · have hkk : (k == k') = false := by
        simp only [beq_eq_false_iff_ne, ne_eq]; intro e; exact hk (e ▸ hi)
      rw [filter_notIgnored_mem v' xs hi, ih, List.lookup_cons, hkk]
    · rw [filter_notIgnored_not_mem v' xs hi, List.lookup_cons, List.lookup_cons, ih]

/-- The first loop: all non-ignored entries of `a` are found in `b` with the same value, and
    their number modulo 2^64. -/
theorem shallowCountLoop_eq (ign : List Nat) (b : Tree) (l : Attrs) : ∀ (c : Nat), c < usizeModulus →
    shallowCountLoop ign b l c =
      if (l.filter (notIgnored ign)).all (fun kv => b.getAttribute kv.1 == some kv.2)
      then some ((c + (l.filter (notIgnored ign)).length) % usizeModulus) else none := by
  induction l with
  | nil => intro c hc; simp [shallowCountLoop, Nat.mod_eq_of_lt hc]
  | cons x xs ih =>
    intro c hc
    obtain ⟨k, v⟩ := x
    by_cases hi : k ∈ ign
    · have hc' : ign.contains k = true := by simpa using hi
      rw [filter_notIgnored_mem v xs hi, ← ih c hc]
      simp only [shallowCountLoop, hc', ↓reduceIte]
    · have hc' : ign.contains k = false := by simpa using hi
      rw [filter_notIgnored_not_mem v xs hi]
      by_cases hm : b.getAttribute k = some v
      · have hlt : usizeWrap (c + 1) < usizeModulus := Nat.mod_lt _ (by decide)
        simp only [shallowCountLoop, hc', Bool.false_eq_true, ↓reduceIte, hm, bne_self_eq_false,
          ih _ hlt, List.all_cons, beq_self_eq_true, Bool.true_and, List.length_cons]
        simp only [usizeWrap, Nat.mod_add_mod]
        have : c + 1 + (List.filter (notIgnored ign) xs).length =
            c + ((List.filter (notIgnored ign) xs).length + 1) := by omega
        rw [this]
      · have hne : (some v != b.getAttribute k) = true := by
          simp only [bne_iff_ne, ne_eq]
          exact fun e => hm e.symm
        have hne' : (b.getAttribute k == some v) = false := by
          simp only [beq_eq_false_iff_ne, ne_eq]; exact hm
        simp only [shallowCountLoop, hc', Bool.false_eq_true, ↓reduceIte, hne, List.all_cons, hne',
          Bool.false_and]

/-- `b_attributes.keys().filter(..).count()` is the number of non-ignored entries of `b`. -/
theorem shallowCompareCount_eq (ign : List Nat) (b : Tree) :
    shallowCompareCount ign b = (b.attrs.filter (notIgnored ign)).length := by
  unfold shallowCompareCount
  rw [List.filter_map, List.length_map]; rfl

/-- The element / element case of `shallow_equal_ignore_attributes`, on the attribute lists:
    every ignore list, repeated and absent names included. -/
theorem shallowIgnore_core (ign : List Nat) (A B : Attrs) (b : Tree) (hb : b.attrs = B)
    (hA : keysNodup A) (hB : keysNodup B) (la : A.length < usizeModulus) :
    (match shallowCountLoop ign b A 0 with
      | none => false
      | some count => count == shallowCompareCount ign b) = true ↔
    sortAttrs (A.filter (notIgnored ign)) = sortAttrs (B.filter (notIgnored ign)) := by
  have hA' := keysNodup_filter (notIgnored ign) hA
  have hB' := keysNodup_filter (notIgnored ign) hB
  have hget : ∀ k, b.getAttribute k = B.lookup k := by intro k; unfold Tree.getAttribute; rw [hb]
  rw [← attrs_lookup_iff_sort hA' hB']
  have hfa : (A.filter (notIgnored ign)).length ≤ A.length := List.length_filter_le _ _
  rw [shallowCountLoop_eq ign b A 0 (by decide), shallowCompareCount_eq, hb]
  have hall : ((A.filter (notIgnored ign)).all (fun kv => b.getAttribute kv.1 == some kv.2) = true) ↔
      ∀ kv ∈ A.filter (notIgnored ign), (B.filter (notIgnored ign)).lookup kv.1 = some kv.2 := by
    simp only [List.all_eq_true, beq_iff_eq]
    constructor
    · intro h kv hkv
      have hk : kv.1 ∉ ign := by
        have := (List.mem_filter.mp hkv).2
        simpa [notIgnored] using this
      rw [lookup_filter_notIgnored ign B hk, ← hget]; exact h kv hkv
    · intro h kv hkv
      have hk : kv.1 ∉ ign := by
        have := (List.mem_filter.mp hkv).2
        simpa [notIgnored] using this
      rw [hget, ← lookup_filter_notIgnored ign B hk]; exact h kv hkv
  by_cases hm : (A.filter (notIgnored ign)).all (fun kv => b.getAttribute kv.1 == some kv.2) = true
  · simp only [hm, ↓reduceIte, Nat.zero_add, beq_iff_eq]
    have : (A.filter (notIgnored ign)).length % usizeModulus = (A.filter (notIgnored ign)).length :=
      Nat.mod_eq_of_lt (Nat.lt_of_le_of_lt hfa la)
    rw [this]
    exact ⟨fun h => ⟨h, hall.mp hm⟩, fun h => h.1⟩
  · simp only [hm, Bool.false_eq_true, ↓reduceIte, false_iff, not_and]
    exact fun _ h => hm (hall.mpr h)

theorem filter_const_true {α} (l : List α) : l.filter (fun _ => true) = l := by
  induction l with
  | nil => rfl
  | cons x xs ih => simp [ih]

theorem cvalueIgnoring_nil (v : Value) (ks : List Tree) : cvalueIgnoring [] v ks = cvalue v ks := by
  cases v <;> simp [cvalueIgnoring, cvalue, filter_const_true]

/-- `shallow_equal_ignore_attributes`, every ignore list, any two nodes whose own children are
    well ordered with unique attribute names (`a` with a machine-size attribute list). -/
theorem shallowEqualIgnore_iff (a b : Tree) (ign : List Nat)
    (oa : orderedKids a.kids = true) (ob : orderedKids b.kids = true)
    (na : attrNamesNodup a.kids = true) (nb : attrNamesNodup b.kids = true)
    (la : a.attrLen < usizeModulus) :
    shallowEqualIgnoreAttributes a b ign = true ↔
      cvalueIgnoring ign a.value a.kids = cvalueIgnoring ign b.value b.kids := by
  obtain ⟨va, ka⟩ := a
  obtain ⟨vb, kb⟩ := b
  simp only [Tree.value, Tree.kids] at *
  unfold shallowEqualIgnoreAttributes
  split
  next n m ha hb =>
    simp only [Tree.value] at ha hb
    subst ha hb
    have na' : keysNodup (attrPairs ka) := by simpa [attrNamesNodup, keysNodup] using na
    have nb' : keysNodup (attrPairs kb) := by simpa [attrNamesNodup, keysNodup] using nb
    rw [attrLen_of_ordered oa] at la
    have core := shallowIgnore_core ign (attrPairs ka) (attrPairs kb) (.node (.element m) kb)
      (attrs_of_ordered ob) na' nb' la
    simp only [attrs_of_ordered oa, cvalueIgnoring, CValue.element.injEq]
    by_cases hnm : n = m
    · subst hnm
      simp only [bne_self_eq_false, Bool.false_eq_true, ↓reduceIte, true_and]
      exact core
    · have : (n != m) = true := by simpa using hnm
      simp [this, hnm]
  next he =>
    -- not both elements: the listed names play no part
    have h2 := compareValue_strEq_iff (a := .node va ka) (b := .node vb kb) oa ob na nb
    simp only [Tree.value, Tree.kids] at h2 he
    rw [h2]
    cases va <;> cases vb <;> first | exact Iff.rfl | simp [cvalueIgnoring, cvalue] at he ⊢

end XotModel
