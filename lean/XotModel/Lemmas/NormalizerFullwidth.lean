/-
  Sufficient conditions for the hypotheses of the pre-map theorems (`NsWritten`, `SpaceKept`, `BoolKept`):
  for every normalizer that fixes the strings of the namespace table, and for the concrete `fullwidthNorm`
  (it fixes every string without fullwidth markup characters, and keeps `preserve` / `default` apart from
  everything else); decidability of the stream-level hypotheses for closed examples.
-/
import XotModel.Lemmas.NormalizerHtml

namespace XotModel
open Gen

/-! ### Namespace tables -/

/-- `N` fixes the URI of every namespace id as soon as it fixes the strings of the table and `""`
    (the URI the model gives an id outside the table). -/
theorem fixes_namespaceStr (N : Str → Str) (env : Env) (h0 : N [] = [])
    (h : ∀ u ∈ env.namespaces, N u = u) (ns : Nat) : N (env.namespaceStr ns) = env.namespaceStr ns := by
  unfold Env.namespaceStr
  by_cases hlt : ns < env.namespaces.length
  · simp only [List.getD_eq_getElem?_getD, List.getElem?_eq_getElem hlt, Option.getD_some]
    exact h _ (List.getElem_mem hlt)
  · simp only [List.getD_eq_getElem?_getD, List.getElem?_eq_none (Nat.le_of_not_lt hlt), Option.getD_none, h0]

theorem addNamespace_mem (nss : List Str) (uri u : Str) (h : u ∈ (addNamespace nss uri).1) :
    u ∈ nss ∨ u = uri := by
  unfold addNamespace at h
  split at h
  · exact Or.inl h
  · simpa using h

/-- The serialiser's table: the caller's plus the three URIs `xot.html5()` registers. -/
theorem htmlCtx_namespaces_mem (env : Env) (p : HtmlParams) (u : Str)
    (h : u ∈ (htmlCtx env p).env.namespaces) :
    u ∈ env.namespaces ∨ u = xhtmlNs ∨ u = mathmlNs ∨ u = svgNs := by
  simp only [htmlCtx, Html5Elements.new] at h
  rcases addNamespace_mem _ _ _ h with h | h
  · rcases addNamespace_mem _ _ _ h with h | h
    · rcases addNamespace_mem _ _ _ h with h | h
      · exact Or.inl h
      · exact Or.inr (Or.inl h)
    · exact Or.inr (Or.inr (Or.inl h))
  · exact Or.inr (Or.inr (Or.inr h))

theorem fixes_htmlCtx_namespaceStr (N : Str → Str) (env : Env) (p : HtmlParams) (h0 : N [] = [])
    (h : ∀ u ∈ env.namespaces, N u = u) (hx : N xhtmlNs = xhtmlNs) (hm : N mathmlNs = mathmlNs)
    (hs : N svgNs = svgNs) (ns : Nat) :
    N ((htmlCtx env p).env.namespaceStr ns) = (htmlCtx env p).env.namespaceStr ns := by
  apply fixes_namespaceStr N _ h0
  intro u hu
  rcases htmlCtx_namespaces_mem env p u hu with hu | rfl | rfl | rfl
  · exact h u hu
  · exact hx
  · exact hm
  · exact hs

/-! ### `fullwidthNorm` -/

/-- No fullwidth form of a markup character in the string. -/
def strClean (u : Str) : Bool := u.all (fun c => fullwidthMap c == c)

theorem fullwidthNorm_clean {u : Str} (h : strClean u = true) : fullwidthNorm u = u := by
  induction u with
  | nil => rfl
  | cons c u ih =>
    simp only [strClean, List.all_cons, Bool.and_eq_true, beq_iff_eq] at h
    simp only [fullwidthNorm, List.map_cons, h.1]
    congr 1
    exact ih (by simpa [strClean] using h.2)

/-- The namespace table holds no fullwidth form of a markup character. -/
def nsClean (env : Env) : Bool := env.namespaces.all strClean

theorem fullwidthNorm_fixes_ns (env : Env) (h : nsClean env = true) (ns : Nat) :
    fullwidthNorm (env.namespaceStr ns) = env.namespaceStr ns :=
  fixes_namespaceStr fullwidthNorm env rfl
    (fun u hu => fullwidthNorm_clean (by simpa [nsClean] using (List.all_eq_true.mp h) u hu)) ns

theorem fullwidthNorm_fixes_html_ns (env : Env) (p : HtmlParams) (h : nsClean env = true) (ns : Nat) :
    fullwidthNorm ((htmlCtx env p).env.namespaceStr ns) = (htmlCtx env p).env.namespaceStr ns :=
  fixes_htmlCtx_namespaceStr fullwidthNorm env p rfl
    (fun u hu => fullwidthNorm_clean (by simpa [nsClean] using (List.all_eq_true.mp h) u hu))
    (fullwidthNorm_clean (by decide +kernel)) (fullwidthNorm_clean (by decide +kernel))
    (fullwidthNorm_clean (by decide +kernel)) ns

/-- A character that is neither a markup character nor a fullwidth form of one is the image of itself only. -/
theorem fullwidthMap_eq_iff {c : Char} (h1 : fullwidthMap c = c)
    (h2 : c ≠ '<' ∧ c ≠ '&' ∧ c ≠ '"' ∧ c ≠ '>' ∧ c ≠ '\'') (d : Char) : fullwidthMap d = c ↔ d = c := by
  constructor
  · intro h
    obtain ⟨a1, a2, a3, a4, a5⟩ := h2
    unfold fullwidthMap at h
    by_cases e1 : (d == '\uff1c') = true
    · rw [if_pos e1] at h; exact absurd h.symm a1
    rw [if_neg e1] at h
    by_cases e2 : (d == '\uff06') = true
    · rw [if_pos e2] at h; exact absurd h.symm a2
    rw [if_neg e2] at h
    by_cases e3 : (d == '\uff02') = true
    · rw [if_pos e3] at h; exact absurd h.symm a3
    rw [if_neg e3] at h
    by_cases e4 : (d == '\uff1e') = true
    · rw [if_pos e4] at h; exact absurd h.symm a4
    rw [if_neg e4] at h
    by_cases e5 : (d == '\uff07') = true
    · rw [if_pos e5] at h; exact absurd h.symm a5
    rw [if_neg e5] at h
    exact h
  · intro h; subst h; exact h1

theorem map_fullwidth_eq_iff (w : Str)
    (hw : ∀ c ∈ w, fullwidthMap c = c ∧ (c ≠ '<' ∧ c ≠ '&' ∧ c ≠ '"' ∧ c ≠ '>' ∧ c ≠ '\'')) (v : Str) :
    fullwidthNorm v = w ↔ v = w := by
  induction v generalizing w with
  | nil => simp [fullwidthNorm]
  | cons d v ih =>
    cases w with
    | nil => simp [fullwidthNorm]
    | cons c w =>
      have hc := hw c (by simp)
      have ih' := ih w (fun x hx => hw x (by simp [hx]))
      simp only [fullwidthNorm, List.map_cons, List.cons.injEq] at ih' ⊢
      rw [fullwidthMap_eq_iff hc.1 hc.2 d, ih']

/-- `fullwidthNorm` maps exactly `preserve` to `preserve` and exactly `default` to `default`. -/
theorem fullwidthNorm_spaceStable : SpaceStable fullwidthNorm := by
  intro v
  have h1 := map_fullwidth_eq_iff spacePreserve (by decide +kernel) v
  have h2 := map_fullwidth_eq_iff spaceDefault (by decide +kernel) v
  refine ⟨?_, ?_⟩
  · rw [Bool.eq_iff_iff]; simpa using h1
  · rw [Bool.eq_iff_iff]; simpa using h2

/-! ### Decidability of the stream-level hypotheses (closed examples) -/

instance (N : Str → Str) (env : Env) (o : Output) : Decidable (Output.nsFixed N env o) := by
  cases o <;> simp only [Output.nsFixed] <;> infer_instance

instance (N : Str → Str) (env : Env) (outs : List (Path × Output)) : Decidable (NsWritten N env outs) := by
  unfold NsWritten; infer_instance

instance (N : Str → Str) (c : HtmlCtx) (o : Output) : Decidable (Output.boolKept N c o) := by
  cases o <;> simp only [Output.boolKept] <;> infer_instance

instance (N : Str → Str) (c : HtmlCtx) (outs : List (Path × Output)) : Decidable (BoolKept N c outs) := by
  unfold BoolKept; infer_instance

end XotModel
