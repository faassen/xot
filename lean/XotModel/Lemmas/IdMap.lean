/-
  The interning tables (Model/IdMap).

  `Inv bits m`: `by_id` has no duplicates and `by_value` is the graph of
  `v ↦ toId bits (index of v in by_id)`.  It holds of the empty table and is preserved by
  `getIdMut`; with at most `2^bits` entries `toId` is the identity on indices, which gives the
  one-to-one statements; `toId (2^bits) = 0` gives the wrap.
-/
import XotModel.Model.IdMap

namespace XotModel

theorem toId_of_lt {bits n : Nat} (h : n < 2 ^ bits) : toId bits n = n := Nat.mod_eq_of_lt h

theorem toId_pow (bits : Nat) : toId bits (2 ^ bits) = 0 := Nat.mod_self _

theorem toId_add_pow (bits n : Nat) : toId bits (n + 2 ^ bits) = toId bits n := by
  simp [toId]

namespace IdMap
variable {α : Type} [DecidableEq α]

theorem idxOf_append_of_mem {l₁ l₂ : List α} {a : α} (h : a ∈ l₁) :
    (l₁ ++ l₂).idxOf a = l₁.idxOf a := by
  rw [List.idxOf_append, if_pos h]

theorem idxOf_inj {l : List α} {a b : α} (ha : a ∈ l) (h : l.idxOf a = l.idxOf b) : a = b := by
  have h1 : l.idxOf a < l.length := List.idxOf_lt_length_of_mem ha
  have h2 : l.idxOf b < l.length := by rw [← h]; exact h1
  have e1 : l[l.idxOf a] = a := List.getElem_idxOf h1
  have e2 : l[l.idxOf b] = b := List.getElem_idxOf h2
  rw [← e1, ← e2]
  congr 1

theorem idxOf_getElem {l : List α} (hnd : l.Nodup) {i : Nat} (hi : i < l.length) :
    l.idxOf l[i] = i := by
  have hm : l[i] ∈ l := List.getElem_mem hi
  have h1 : l.idxOf l[i] < l.length := List.idxOf_lt_length_of_mem hm
  have e1 : l[l.idxOf l[i]] = l[i] := List.getElem_idxOf h1
  exact (List.getElem_inj hnd).1 e1

theorem lookup_none_of_forall_ne {l : List (α × Nat)} {k : α} (h : ∀ p ∈ l, p.1 ≠ k) :
    l.lookup k = none := by
  induction l with
  | nil => rfl
  | cons p ps ih =>
    rw [List.lookup_cons]
    have hne : (k == p.1) = false := by
      apply Bool.eq_false_iff.2
      intro heq
      have : k = p.1 := by simpa using heq
      exact h p (by simp) this.symm
    rw [hne]
    exact ih (fun q hq => h q (by simp [hq]))

/-- `by_id` has no duplicates and `by_value` is the graph of `v ↦ toId (index of v in by_id)`. -/
structure Inv (bits : Nat) (m : IdMap α) : Prop where
  nodup : m.byId.Nodup
  graph : ∀ v, m.byValue.lookup v =
    if v ∈ m.byId then some (toId bits (m.byId.idxOf v)) else none

theorem inv_empty (bits : Nat) : Inv bits (empty : IdMap α) :=
  ⟨List.nodup_nil, fun v => by simp [empty]⟩

theorem getIdMut_of_mem {bits : Nat} {m : IdMap α} (h : Inv bits m) {v : α} (hv : v ∈ m.byId) :
    getIdMut bits m v = (m, toId bits (m.byId.idxOf v)) := by
  unfold getIdMut
  rw [h.graph v, if_pos hv]

theorem getIdMut_of_not_mem {bits : Nat} {m : IdMap α} (h : Inv bits m) {v : α} (hv : v ∉ m.byId) :
    getIdMut bits m v =
      ({ byId := m.byId ++ [v], byValue := (v, toId bits m.byId.length) :: m.byValue },
        toId bits m.byId.length) := by
  unfold getIdMut
  rw [h.graph v, if_neg hv]

theorem getIdMut_inv {bits : Nat} {m : IdMap α} (h : Inv bits m) (v : α) :
    Inv bits (getIdMut bits m v).1 := by
  by_cases hv : v ∈ m.byId
  · rw [getIdMut_of_mem h hv]; exact h
  · rw [getIdMut_of_not_mem h hv]
    constructor
    · show (m.byId ++ [v]).Nodup
      rw [List.nodup_append]
      refine ⟨h.nodup, by simp, ?_⟩
      intro a ha b hb
      simp at hb
      subst hb
      intro hab
      exact hv (hab ▸ ha)
    · intro w
      show ((v, toId bits m.byId.length) :: m.byValue).lookup w = _
      rw [List.lookup_cons]
      by_cases hwv : w = v
      · subst hwv
        simp [List.idxOf_append, hv]
      · have hne : (w == v) = false := by simpa using hwv
        rw [hne]
        simp only [h.graph w, List.mem_append, List.mem_singleton, hwv, or_false]
        by_cases hw : w ∈ m.byId
        · simp [hw, idxOf_append_of_mem hw]
        · simp [hw]

/-- The id `get_id_mut` returns is the (truncated) index of the value in the table it returns. -/
theorem getIdMut_id {bits : Nat} {m : IdMap α} (h : Inv bits m) (v : α) :
    (getIdMut bits m v).2 = toId bits ((getIdMut bits m v).1.byId.idxOf v) ∧
    v ∈ (getIdMut bits m v).1.byId := by
  by_cases hv : v ∈ m.byId
  · rw [getIdMut_of_mem h hv]; exact ⟨rfl, hv⟩
  · rw [getIdMut_of_not_mem h hv]
    simp [List.idxOf_append, hv]

/-- `by_id` only grows, at the end. -/
theorem getIdMut_prefix (bits : Nat) (m : IdMap α) (v : α) :
    ∃ t, (getIdMut bits m v).1.byId = m.byId ++ t ∧ (t = [] ∨ t = [v]) := by
  unfold getIdMut
  split
  · exact ⟨[], by simp, Or.inl rfl⟩
  · exact ⟨[v], rfl, Or.inr rfl⟩

theorem getIdMut_mem {bits : Nat} {m : IdMap α} (h : Inv bits m) (v w : α) :
    w ∈ (getIdMut bits m v).1.byId ↔ w ∈ m.byId ∨ w = v := by
  by_cases hv : v ∈ m.byId
  · rw [getIdMut_of_mem h hv]
    constructor
    · exact Or.inl
    · rintro (h1 | h1)
      · exact h1
      · exact h1 ▸ hv
  · rw [getIdMut_of_not_mem h hv]; simp

/-! ### monotonicity: nothing already in the table changes (no bound, no invariant needed) -/

theorem getValue_getIdMut_mono {bits : Nat} {m : IdMap α} {id : Nat} {v : α} (w : α)
    (h : getValue m id = some v) : getValue (getIdMut bits m w).1 id = some v := by
  obtain ⟨t, ht, _⟩ := getIdMut_prefix bits m w
  unfold getValue at *
  rw [ht]
  have hlt : id < m.byId.length := by
    have := (List.getElem?_eq_some_iff.1 h).1
    exact this
  rw [List.getElem?_append_left hlt]
  exact h

theorem getId_getIdMut_mono {bits : Nat} {m : IdMap α} {id : Nat} {v : α} (w : α)
    (h : getId m v = some id) : getId (getIdMut bits m w).1 v = some id := by
  unfold getId at *
  unfold getIdMut
  split
  · exact h
  · rename_i hw
    show ((w, _) :: m.byValue).lookup v = some id
    rw [List.lookup_cons]
    have hne : (v == w) = false := by
      apply Bool.eq_false_iff.2
      intro heq
      have : v = w := by simpa using heq
      subst this
      rw [hw] at h
      cases h
    rw [hne]
    exact h

theorem registerAll_inv {bits : Nat} {m : IdMap α} (h : Inv bits m) (vs : List α) :
    Inv bits (registerAll bits m vs).1 := by
  induction vs generalizing m with
  | nil => exact h
  | cons v vs ih => exact ih (getIdMut_inv h v)

theorem registerAll_length (bits : Nat) (m : IdMap α) (vs : List α) :
    (registerAll bits m vs).2.length = vs.length := by
  induction vs generalizing m with
  | nil => rfl
  | cons v vs ih => simp [registerAll, ih]

theorem registerAll_prefix (bits : Nat) (m : IdMap α) (vs : List α) :
    ∃ t, (registerAll bits m vs).1.byId = m.byId ++ t := by
  induction vs generalizing m with
  | nil => exact ⟨[], by simp [registerAll]⟩
  | cons v vs ih =>
    obtain ⟨t1, h1, _⟩ := getIdMut_prefix bits m v
    obtain ⟨t2, h2⟩ := ih (getIdMut bits m v).1
    exact ⟨t1 ++ t2, by simp only [registerAll]; rw [h2, h1, List.append_assoc]⟩

theorem registerAll_mem {bits : Nat} {m : IdMap α} (h : Inv bits m) (vs : List α) (w : α) :
    w ∈ (registerAll bits m vs).1.byId ↔ w ∈ m.byId ∨ w ∈ vs := by
  induction vs generalizing m with
  | nil => simp [registerAll]
  | cons v vs ih =>
    simp only [registerAll]
    rw [ih (getIdMut_inv h v), getIdMut_mem h]
    rw [List.mem_cons, or_assoc]

/-- Every id returned along a history is the truncated index of its value in the *final* table. -/
theorem registerAll_ids {bits : Nat} {m : IdMap α} (h : Inv bits m) (vs : List α) :
    (registerAll bits m vs).2 =
      vs.map (fun v => toId bits ((registerAll bits m vs).1.byId.idxOf v)) := by
  induction vs generalizing m with
  | nil => rfl
  | cons v vs ih =>
    simp only [registerAll, List.map_cons]
    rw [← ih (getIdMut_inv h v)]
    congr 1
    obtain ⟨hid, hmem⟩ := getIdMut_id h v
    obtain ⟨t, ht⟩ := registerAll_prefix bits (getIdMut bits m v).1 vs
    rw [hid, ht, idxOf_append_of_mem hmem]

theorem registerAll_getValue_mono {bits : Nat} {m : IdMap α} {id : Nat} {v : α} (vs : List α)
    (h : getValue m id = some v) : getValue (registerAll bits m vs).1 id = some v := by
  induction vs generalizing m with
  | nil => exact h
  | cons w vs ih => exact ih (getValue_getIdMut_mono w h)

theorem registerAll_getId_mono {bits : Nat} {m : IdMap α} {id : Nat} {v : α} (vs : List α)
    (h : getId m v = some id) : getId (registerAll bits m vs).1 v = some id := by
  induction vs generalizing m with
  | nil => exact h
  | cons w vs ih => exact ih (getId_getIdMut_mono w h)

theorem registerAll_append (bits : Nat) (m : IdMap α) (xs ys : List α) :
    registerAll bits m (xs ++ ys) =
      ((registerAll bits (registerAll bits m xs).1 ys).1,
       (registerAll bits m xs).2 ++ (registerAll bits (registerAll bits m xs).1 ys).2) := by
  induction xs generalizing m with
  | nil => simp [registerAll]
  | cons x xs ih => simp [registerAll, ih]

/-! ### below capacity the table is one-to-one -/

section bounded
variable {bits : Nat} {m : IdMap α}

theorem getId_eq_some_iff (h : Inv bits m) (hb : m.byId.length ≤ 2 ^ bits) (v : α) (id : Nat) :
    getId m v = some id ↔ v ∈ m.byId ∧ id = m.byId.idxOf v := by
  unfold getId
  rw [h.graph v]
  by_cases hv : v ∈ m.byId
  · have hlt : m.byId.idxOf v < 2 ^ bits :=
      Nat.lt_of_lt_of_le (List.idxOf_lt_length_of_mem hv) hb
    simp [hv, toId_of_lt hlt, eq_comm]
  · simp [hv]

theorem getId_isSome_iff (h : Inv bits m) (v : α) : (getId m v).isSome ↔ v ∈ m.byId := by
  unfold getId
  rw [h.graph v]
  by_cases hv : v ∈ m.byId <;> simp [hv]

/-- `get_value` and `get_id` are inverse to each other. -/
theorem getValue_eq_some_iff (h : Inv bits m) (hb : m.byId.length ≤ 2 ^ bits) (v : α) (id : Nat) :
    getValue m id = some v ↔ getId m v = some id := by
  rw [getId_eq_some_iff h hb]
  unfold getValue
  constructor
  · intro hg
    obtain ⟨hlt, hv⟩ := List.getElem?_eq_some_iff.1 hg
    subst hv
    exact ⟨List.getElem_mem hlt, (idxOf_getElem h.nodup hlt).symm⟩
  · rintro ⟨hv, rfl⟩
    have hlt := List.idxOf_lt_length_of_mem hv
    rw [List.getElem?_eq_getElem hlt, List.getElem_idxOf hlt]

theorem getId_inj (h : Inv bits m) (hb : m.byId.length ≤ 2 ^ bits) {v w : α} {id : Nat}
    (hv : getId m v = some id) (hw : getId m w = some id) : v = w := by
  obtain ⟨hv1, hv2⟩ := (getId_eq_some_iff h hb v id).1 hv
  obtain ⟨_, hw2⟩ := (getId_eq_some_iff h hb w id).1 hw
  exact idxOf_inj hv1 (hv2 ▸ hw2)

end bounded

/-! ### fresh values: closed form, and the wrap -/

theorem registerAll_fresh (bits : Nat) (m : IdMap α) (vs : List α) (hnd : vs.Nodup)
    (hfresh : ∀ v ∈ vs, m.byValue.lookup v = none) :
    registerAll bits m vs = registerFresh bits m vs := by
  induction vs generalizing m with
  | nil => simp [registerAll, registerFresh]
  | cons v vs ih =>
    have hv : m.byValue.lookup v = none := hfresh v (by simp)
    rw [List.nodup_cons] at hnd
    have hstep : getIdMut bits m v =
        ({ byId := m.byId ++ [v], byValue := (v, toId bits m.byId.length) :: m.byValue },
          toId bits m.byId.length) := by
      unfold getIdMut; rw [hv]
    simp only [registerAll, hstep]
    rw [ih _ hnd.2]
    · simp only [registerFresh, List.length_cons, List.range_succ_eq_map, List.map_cons,
        List.map_map, List.zip_cons_cons, List.reverse_cons, List.length_append,
        List.length_nil, Nat.add_zero, Nat.zero_add]
      have hf : ((fun i => toId bits (m.byId.length + 1 + i)) : Nat → Nat) =
          (fun i => toId bits (m.byId.length + i)) ∘ Nat.succ := by
        funext i; simp only [Function.comp]; congr 1; omega
      simp [hf]
    · intro w hw
      show ((v, _) :: m.byValue).lookup w = none
      rw [List.lookup_cons]
      have hne : (w == v) = false := by
        apply Bool.eq_false_iff.2
        intro heq
        have : w = v := by simpa using heq
        exact hnd.1 (this ▸ hw)
      rw [hne]
      exact hfresh w (by simp [hw])

omit [DecidableEq α] in
theorem nodup_map_range {f : Nat → α} (hf : ∀ i j, f i = f j → i = j) (n : Nat) :
    ((List.range n).map f).Nodup := by
  rw [List.nodup_iff_pairwise_ne, List.pairwise_map]
  exact List.Pairwise.imp (fun hij h => hij (hf _ _ h)) List.nodup_range

/-- The driver's fast path for the long history computes the model's `registerAll`. -/
theorem registerRange_eq (bits : Nat) (m : IdMap α) (f : Nat → α)
    (hf : ∀ i j, f i = f j → i = j) (n : Nat) :
    registerRange bits m f n = registerAll bits m ((List.range n).map f) := by
  by_cases hall : ((List.range n).map f).all (fun v => (m.byValue.lookup v).isNone) = true
  · simp only [registerRange, hall, if_true]
    rw [registerAll_fresh bits m _ (nodup_map_range hf n)]
    intro v hv
    have := List.all_eq_true.1 hall v hv
    simpa using this
  · simp only [registerRange, hall]
    rfl

/-- Ids of a run of fresh values: consecutive indices, truncated. -/
theorem registerAll_fresh_ids (bits : Nat) (m : IdMap α) (vs : List α) (hnd : vs.Nodup)
    (hfresh : ∀ v ∈ vs, m.byValue.lookup v = none) (k : Nat) (hk : k < vs.length) :
    (registerAll bits m vs).2[k]? = some (toId bits (m.byId.length + k)) := by
  rw [registerAll_fresh bits m vs hnd hfresh]
  simp [registerFresh, hk]

theorem registerAll_fresh_byId (bits : Nat) (m : IdMap α) (vs : List α) (hnd : vs.Nodup)
    (hfresh : ∀ v ∈ vs, m.byValue.lookup v = none) :
    (registerAll bits m vs).1.byId = m.byId ++ vs := by
  rw [registerAll_fresh bits m vs hnd hfresh]; rfl

/-- The wrap: in a table of `n ≤ 2^bits` entries, the `(2^bits - n + 1)`-th fresh value
    registered receives id `0` — the id of the very first entry. -/
theorem wraps_from (bits : Nat) (m : IdMap α) (f : Nat → α) (hf : ∀ i j, f i = f j → i = j)
    (hfresh : ∀ i, m.byValue.lookup (f i) = none) (hlen : m.byId.length ≤ 2 ^ bits) :
    (registerAll bits m ((List.range (2 ^ bits - m.byId.length + 1)).map f)).2[2 ^ bits - m.byId.length]?
      = some 0 := by
  rw [registerAll_fresh_ids bits m _ (nodup_map_range hf _)
    (by intro v hv; obtain ⟨i, _, rfl⟩ := List.mem_map.1 hv; exact hfresh i) _ (by simp)]
  have : m.byId.length + (2 ^ bits - m.byId.length) = 2 ^ bits := by omega
  rw [this, toId_pow]

/-! ### histories below capacity -/

/-- Below capacity the ids of a history are the plain indices in the final table. -/
theorem registerAll_ids_bounded {bits : Nat} {m : IdMap α} (h : Inv bits m) (vs : List α)
    (hb : (registerAll bits m vs).1.byId.length ≤ 2 ^ bits) :
    (registerAll bits m vs).2 = vs.map (fun v => (registerAll bits m vs).1.byId.idxOf v) := by
  conv => lhs; rw [registerAll_ids h vs]
  apply List.map_congr_left
  intro v hv
  apply toId_of_lt
  have hm : v ∈ (registerAll bits m vs).1.byId := (registerAll_mem h vs v).2 (Or.inr hv)
  exact Nat.lt_of_lt_of_le (List.idxOf_lt_length_of_mem hm) hb

/-- Below capacity, every value of the history is found by both lookups under the id it got. -/
theorem registerAll_lookup_bounded {bits : Nat} {m : IdMap α} (h : Inv bits m) (vs : List α)
    (hb : (registerAll bits m vs).1.byId.length ≤ 2 ^ bits) {v : α} (hv : v ∈ vs) :
    getId (registerAll bits m vs).1 v = some ((registerAll bits m vs).1.byId.idxOf v) ∧
    getValue (registerAll bits m vs).1 ((registerAll bits m vs).1.byId.idxOf v) = some v := by
  have hinv := registerAll_inv h vs
  have hm : v ∈ (registerAll bits m vs).1.byId := (registerAll_mem h vs v).2 (Or.inr hv)
  have h1 : getId (registerAll bits m vs).1 v = some ((registerAll bits m vs).1.byId.idxOf v) :=
    (getId_eq_some_iff hinv hb v _).2 ⟨hm, rfl⟩
  exact ⟨h1, (getValue_eq_some_iff hinv hb v _).2 h1⟩

end IdMap

/-! ### the three tables of a `Xot` -/

namespace Interner
open IdMap Gen

/-- All three tables satisfy the invariant at their own id width. -/
structure Inv (x : Interner) : Prop where
  ns : IdMap.Inv namespaceIdBits x.namespaceLookup
  pf : IdMap.Inv prefixIdBits x.prefixLookup
  nm : IdMap.Inv nameIdBits x.nameLookup

theorem step_inv (s : NewState) (r : BuiltinReg)
    (h : IdMap.Inv namespaceIdBits s.ns ∧ IdMap.Inv prefixIdBits s.pf ∧ IdMap.Inv nameIdBits s.nm) :
    IdMap.Inv namespaceIdBits (s.step r).ns ∧ IdMap.Inv prefixIdBits (s.step r).pf ∧
      IdMap.Inv nameIdBits (s.step r).nm := by
  obtain ⟨h1, h2, h3⟩ := h
  unfold NewState.step
  split
  · exact ⟨getIdMut_inv h1 _, h2, h3⟩
  · exact ⟨h1, getIdMut_inv h2 _, h3⟩
  · exact ⟨h1, h2, getIdMut_inv h3 _⟩

theorem foldl_step_inv (regs : List BuiltinReg) (s : NewState)
    (h : IdMap.Inv namespaceIdBits s.ns ∧ IdMap.Inv prefixIdBits s.pf ∧ IdMap.Inv nameIdBits s.nm) :
    IdMap.Inv namespaceIdBits (regs.foldl NewState.step s).ns ∧
      IdMap.Inv prefixIdBits (regs.foldl NewState.step s).pf ∧
      IdMap.Inv nameIdBits (regs.foldl NewState.step s).nm := by
  induction regs generalizing s with
  | nil => exact h
  | cons r rs ih => exact ih _ (step_inv s r h)

/-- `Xot::new()` satisfies the invariant, whatever `builtinRegistrations` says. -/
theorem inv_new : Inv Interner.new := by
  have h := foldl_step_inv builtinRegistrations {}
    ⟨IdMap.inv_empty _, IdMap.inv_empty _, IdMap.inv_empty _⟩
  exact ⟨h.1, h.2.1, h.2.2⟩

theorem inv_addNameNs {x : Interner} (h : Inv x) (l : Str) (ns : Nat) : Inv (x.addNameNs l ns).1 :=
  ⟨h.ns, h.pf, getIdMut_inv h.nm _⟩

theorem inv_addNamespace {x : Interner} (h : Inv x) (s : Str) : Inv (x.addNamespace s).1 :=
  ⟨getIdMut_inv h.ns _, h.pf, h.nm⟩

theorem inv_addPrefix {x : Interner} (h : Inv x) (s : Str) : Inv (x.addPrefix s).1 :=
  ⟨h.ns, getIdMut_inv h.pf _, h.nm⟩

/-- Everything a program can reach from `Xot::new()`: the public registration calls, the
    `get_id_mut` calls `parse` and `html5()` make on the same three tables (the same three
    constructors), and `clone`. -/
inductive Reachable : Interner → Prop where
  | new : Reachable Interner.new
  | addNameNs (x : Interner) (l : Str) (ns : Nat) : Reachable x → Reachable (x.addNameNs l ns).1
  | addNamespace (x : Interner) (s : Str) : Reachable x → Reachable (x.addNamespace s).1
  | addPrefix (x : Interner) (s : Str) : Reachable x → Reachable (x.addPrefix s).1
  | clone (x : Interner) : Reachable x → Reachable x.clone

theorem Reachable.inv {x : Interner} (h : Reachable x) : Inv x := by
  induction h with
  | new => exact inv_new
  | addNameNs x l ns _ ih => exact inv_addNameNs ih l ns
  | addNamespace x s _ ih => exact inv_addNamespace ih s
  | addPrefix x s _ ih => exact inv_addPrefix ih s
  | clone x _ ih => exact ih

end Interner

/-! ### the values of the long history are pairwise distinct -/

theorem bulkValue_inj (p : Str) (i j : Nat) (h : bulkValue p i = bulkValue p j) : i = j := by
  unfold bulkValue at h
  have h' := List.append_cancel_left h
  have hi := Nat.ofDigitChars_toDigits (b := 10) (n := i) (by omega) (by omega)
  have hj := Nat.ofDigitChars_toDigits (b := 10) (n := j) (by omega) (by omega)
  rw [h'] at hi
  omega

end XotModel
