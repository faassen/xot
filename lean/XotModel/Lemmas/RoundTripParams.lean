/-
  C01 under non-default token parameters (`unescaped_gt`,
  CDATA-section elements): what the tokens of a text node are, which characters a CDATA section written by
  `serialize_cdata` carries, and the closed loop bundled (string → tokens → tree).  The tree induction is
  the one of C14_options (Lemmas/SerOpt*.lean: `serTokensAtO`, `spellAtO`, `NSNode.Resp`); this file adds
  the statements Props/C01.lean exports.
-/
import XotModel.Lemmas.SerOptMain
import XotModel.Lemmas.C14Proofs

namespace XotModel
open Gen

/-- Under a CDATA-section element: the run `cdataTokens` (`unescaped_gt` plays no role). -/
theorem textTokens_cdata (pr : TokenParams) (str : Str) : textTokens pr true str = cdataTokens str := by
  simp [textTokens, textParts, cdataTokens]

theorem serNodeO_text_leaf (env : Env) (pr : TokenParams) (inScope : List (Nat × Nat)) (isTop : Bool)
    (s : FStack) (cd : Bool) (str : Str) :
    serNodeO env pr inScope isTop s cd (.node (.text str) []) = .ok (textTokens pr cd str) := by
  simp [serNodeO, serNodeO.serKidsO, appendOk]

/-- The characters of every section are characters of the text (or of the section already begun):
    nothing is escaped, nothing is added. -/
theorem cdataPartsGo_chars (s : Str) (rc : Str) (t j : StrSpan) (hm : SPart.cd t j ∈ cdataPartsGo rc s) :
    ∀ c ∈ t.text, c ∈ rc ∨ c ∈ s :=
  Ser.cdataPartsGo_forall (I := fun r => ∀ c ∈ r, c ∈ rc ∨ c ∈ s)
    (P := fun p => ∀ t j, p = .cd t j → ∀ c ∈ t.text, c ∈ rc ∨ c ∈ s) s
    (fun hg c hc => .inr (List.mem_singleton.mp hc ▸ hg)) (fun c hc => nomatch hc)
    (fun r h t j e c hc => by cases e; exact h c (by simpa [sp0] using hc)) (fun t j e => by simp [crPart] at e)
    (fun d hd r h _ _ c hc => (List.mem_cons.mp hc).elim (fun e => .inr (e ▸ hd)) (h c))
    rc (fun c hc => .inl hc) _ hm t j rfl

/-- The only text part of the run is the reference `&#xD;`. -/
theorem cdataPartsGo_txt (s : Str) (rc : Str) (ps : List Piece) (st : Nat)
    (hm : SPart.txt ps st ∈ cdataPartsGo rc s) : SPart.txt ps st = crPart :=
  Ser.cdataPartsGo_forall (I := fun _ => True) (P := fun p => ∀ ps st, p = .txt ps st → p = crPart) s
    (fun _ => trivial) trivial (fun _ _ ps st e => nomatch e) (fun _ _ _ => rfl) (fun _ _ _ _ _ _ => trivial)
    rc trivial _ hm ps st rfl

/-- **What a section carries.**  For a text of XML characters, every CDATA token of the run
    `serialize_cdata` stands for consists of XML characters of the text, written as they are, contains no
    `]]>` and no carriage return. -/
theorem cdata_sections_carry (s : Str) (hs : s.all isXmlChar = true) (t j : StrSpan)
    (hm : SPart.cd t j ∈ cdataPartsGo [] s) :
    t.text.all isXmlChar = true ∧ hasCdataEnd t.text = false ∧ '\r' ∉ t.text ∧ ∀ c ∈ t.text, c ∈ s := by
  have hsub : ∀ c ∈ t.text, c ∈ s := by
    intro c hc
    rcases cdataPartsGo_chars s [] t j hm c hc with h | h
    · simp at h
    · exact h
  have hok := cdataPartsGo_lexOK s hs [] rfl rfl _ hm
  simp only [SPart.token, Token.lexOK, Bool.and_eq_true, Bool.not_eq_true', hasInfix_cdataEnd] at hok
  exact ⟨hok.1, hok.2, cdataPartsGo_noCr s [] (by simp) t j hm, hsub⟩

/-- **No escaping inside a section**: a character of the text that is no XML character (it is not the
    carriage return, which is one) is written raw into some section, and that CDATA token violates the
    tokenizer's side condition — the crate has no way to write it. -/
theorem cdata_nonXmlChar_unwritable (s : Str) (c : Char) (hc : c ∈ s) (hx : isXmlChar c = false) :
    ∃ k ∈ cdataTokens s, k.lexOK = false := by
  have hv := partsValue_cdataPartsGo s [] (by simp)
  simp only [List.reverse_nil, List.nil_append] at hv
  rw [← hv, partsValue, List.mem_flatMap] at hc
  obtain ⟨p, hp, hcp⟩ := hc
  cases p with
  | txt ps st =>
    rw [cdataPartsGo_txt s [] ps st hp, crPart_value, List.mem_singleton] at hcp
    subst hcp
    exact absurd hx (by decide)
  | cd t j =>
    have hcr := cdataPartsGo_noCr s [] (by simp) t j hp
    have hval : SPart.value (.cd t j) = t.text := by
      simp only [SPart.value]
      rw [replaceCrLf_noCr _ hcr, replaceCr_noCr _ hcr]
    rw [hval] at hcp
    refine ⟨SPart.token (.cd t j), List.mem_map.mpr ⟨_, hp, rfl⟩, ?_⟩
    simp only [SPart.token, Token.lexOK, Bool.and_eq_false_iff]
    left
    rw [List.all_eq_false]
    exact ⟨c, hcp, by simp [hx]⟩

/-- `serialize_text(unescaped_gt = true)` described on the INPUT: `rin` = the characters read so far,
    reversed; a `>` is escaped exactly when the two characters before it are `]]`. -/
def gtIn : Str → Str → Str
  | _, [] => []
  | rin, c :: cs =>
    (if c = '>' then (if startsBrBr rin then textGtEscape else ['>']) else escapeWith textEscapes c) ++
      gtIn (c :: rin) cs

theorem startsBrBr_head {l : Str} (h : startsBrBr l = true) : l.head? = some ']' := by
  match l with
  | [] => simp [startsBrBr] at h
  | [a] => simp [startsBrBr] at h
  | a :: b :: r =>
    simp only [startsBrBr, Bool.and_eq_true, beq_iff_eq] at h
    simp [h.1]

theorem startsBrBr_cons_bracket (l : Str) : startsBrBr (']' :: l) = decide (l.head? = some ']') := by
  match l with
  | [] => simp [startsBrBr]
  | b :: r => by_cases h : b = ']' <;> simp [startsBrBr, h]

theorem startsBrBr_of_head_ne {l : Str} (h : l.head? ≠ some ']') : startsBrBr l = false := by
  cases hb : startsBrBr l with
  | false => rfl
  | true => exact absurd (startsBrBr_head hb) h

/-- What an escaped character leaves at the end of the output: `]` only for `]` itself. -/
theorem escape_last (c : Char) (hc : c ≠ ']') (racc : Str) :
    ((escapeWith textEscapes c).reverse ++ racc).head? ≠ some ']' := by
  unfold escapeWith textEscapes
  simp only [List.lookup]
  -- an escape ends with `;`, an unescaped character is written as it is
  cases c == '&' with
  | true => exact fun h => absurd (Option.some.inj h) (by decide)
  | false =>
    cases c == '<' with
    | true => exact fun h => absurd (Option.some.inj h) (by decide)
    | false =>
      cases c == '\r' with
      | true => exact fun h => absurd (Option.some.inj h) (by decide)
      | false => exact fun h => hc (Option.some.inj h)

theorem gtOut_eq_gtIn (s : Str) : ∀ (racc rin : Str), startsBrBr racc = startsBrBr rin →
    (racc.head? = some ']' ↔ rin.head? = some ']') → gtOut racc s = gtIn rin s := by
  induction s with
  | nil => intro racc rin _ _; rfl
  | cons c cs ih =>
    intro racc rin h1 h2
    unfold gtOut gtIn
    by_cases hg : c = '>'
    · subst hg
      -- neither `>` nor `&gt;` ends with `]`
      have hne : ((if startsBrBr rin = true then textGtEscape else ['>']).reverse ++ racc).head? ≠ some ']' := by
        cases startsBrBr rin <;> exact fun h => absurd (Option.some.inj h) (by decide)
      have hgt : ('>' :: rin).head? ≠ some ']' := fun h => absurd (Option.some.inj h) (by decide)
      rw [gtPiece_gt, h1]
      refine congrArg _ (ih _ _ ?_ ⟨fun h => absurd h hne, fun h => absurd h hgt⟩)
      rw [startsBrBr_of_head_ne hne, startsBrBr_of_head_ne hgt]
    · have hp : gtPiece racc c = escapeWith textEscapes c := if_neg hg
      rw [hp, if_neg hg]
      refine congrArg _ ?_
      by_cases hb : c = ']'
      · subst hb
        refine ih _ _ ?_ ⟨fun _ => rfl, fun _ => rfl⟩
        show startsBrBr (']' :: racc) = startsBrBr (']' :: rin)
        rw [startsBrBr_cons_bracket, startsBrBr_cons_bracket]
        exact decide_eq_decide.mpr h2
      · have hin : (c :: rin).head? ≠ some ']' := fun h => hb (Option.some.inj h)
        refine ih _ _ ?_ ⟨fun h => absurd h (escape_last c hb racc), fun h => absurd h hin⟩
        rw [startsBrBr_of_head_ne (escape_last c hb racc), startsBrBr_of_head_ne hin]
theorem serializeText_true_input (s : Str) : serializeText true s = gtIn [] s := by
  rw [serializeText_true_eq]
  exact gtOut_eq_gtIn s [] [] rfl (by simp)


variable (env : Env) (pr : TokenParams)

/-- Everything the round trip under token parameters says, in one statement (`parse`): the string is the
    canonical rendering of `serTokensAtO`; the reference tokenizer returns exactly those tokens (up to
    byte positions) without error; the builder turns them into the original tree, tables unchanged. -/
theorem params_roundtrip_full {t : Tree} (hr : Representable env t = true) {s : Str}
    (hs : serializeString env pr t [] = .ok s) :
    ∃ ts ts' p, serTokensAtO env pr t [] = .ok ts ∧ s = renderTokens ts ∧ LexOK false ts = true ∧
      lexDocument s = (ts', none) ∧ ts'.map Token.erase = ts.map Token.erase ∧
      parseString .document env s = .ok p ∧ p.tree = t ∧ p.env = env ∧ deepEqual p.tree t = true := by
  have hfrag := ((representable_iff env _).mp hr).1
  obtain ⟨ts, hser, rfl⟩ := serializeString_ok_representable env pr hfrag [] hs
  have hl := options_lexOK env pr hr hser
  obtain ⟨ts', h1, h2, _⟩ := lexDocument_render_erase ts hl
  obtain ⟨p, hp, ht, he⟩ := options_roundtrip env pr hr hs
  refine ⟨ts, ts', p, hser, rfl, hl, h1, h2, hp, ht, he, ?_⟩
  rw [ht]
  exact deepEqual_self_representable env hfrag

theorem params_roundtrip_full_fragment {t : Tree} (hr : RepresentableFragment env t = true) {s : Str}
    (hs : serializeString env pr t [] = .ok s) :
    ∃ ts ts' p, serTokensAtO env pr t [] = .ok ts ∧ s = renderTokens ts ∧ LexOK true ts = true ∧
      lexFragment s = (ts', none) ∧ ts'.map Token.erase = ts.map Token.erase ∧
      parseString .fragment env s = .ok p ∧ p.tree = t ∧ p.env = env ∧ deepEqual p.tree t = true := by
  obtain ⟨ts, hser, rfl⟩ := serializeString_ok_representable env pr hr [] hs
  have hl := options_lexOK_fragment env pr hr hser
  obtain ⟨ts', h1, h2, _⟩ := lexFragment_render_erase ts hl
  obtain ⟨p, hp, ht, he⟩ := options_roundtrip_fragment env pr hr hs
  refine ⟨ts, ts', p, hser, rfl, hl, h1, h2, hp, ht, he, ?_⟩
  rw [ht]
  exact deepEqual_self_representable env hr

end XotModel
