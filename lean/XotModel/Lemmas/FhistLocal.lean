/-
  Extended histories: locality (C12) for every extended call (`Forest.XCall`,
  Model/FhistSpec.lean).  A separated root `r` (`SepB r f`, Lemmas/FlocalAll.lean) none of whose
  nodes is named as an argument the call writes below is left exactly as it is.  No invariant is
  needed: the composites `create_missing_prefixes` / `deduplicate_namespaces` are lists of
  `namespaces_mut(h).insert / remove` calls whose targets `h` lie in the root tree of the argument
  (`handleAt` of a path of that tree), `clone_with_prefixes` is `clone_node` followed by insertions on
  the clone, which lies outside every old tree.
-/
import XotModel.Lemmas.FlocalAll
import XotModel.Lemmas.FhistBasic

namespace XotModel
open HTree

/-! ### Handles found through paths lie in the tree -/

theorem fhl_handleAt_mem : ∀ (p : Path) (r : HTree) (h : Nat), r.handleAt p = some h → h ∈ handles r
  | [], node h' v ks, h, hh => by
    simp only [handleAt, Option.some.injEq] at hh
    subst hh; simp [handles]
  | i :: p, node h' v ks, h, hh => by
    simp only [handleAt] at hh
    cases hk : ks[i]? with
    | none => rw [hk] at hh; cases hh
    | some k =>
      rw [hk] at hh
      have := fhl_handleAt_mem p k h hh
      simp only [handles, List.mem_cons]
      exact Or.inr (fhl_getElem?_handles ks i k hk h this)

mutual
  theorem fhl_pathOf_mem (h : Nat) : ∀ (r : HTree), (pathOf h r).isSome = true → h ∈ handles r
    | node h' v ks, hs => by
      simp only [pathOf] at hs
      simp only [handles, List.mem_cons]
      split at hs
      · rename_i e; exact Or.inl e.symm
      · exact Or.inr (fhl_pathOfList_mem h ks 0 hs)
  theorem fhl_pathOfList_mem (h : Nat) : ∀ (ks : List HTree) (j : Nat),
      (pathOfList h j ks).isSome = true → h ∈ handlesList ks
    | [], _, hs => by simp [pathOfList] at hs
    | k :: ks, j, hs => by
      simp only [pathOfList] at hs
      simp only [handlesList, List.mem_append]
      cases hp : pathOf h k with
      | some p => exact Or.inl (fhl_pathOf_mem h k (by rw [hp]; rfl))
      | none =>
        rw [hp] at hs
        exact Or.inr (fhl_pathOfList_mem h ks (j + 1) hs)
end

namespace Forest

theorem fhl_rootOf? {f : Forest} {h : Nat} {r0 : HTree} (hr : f.rootOf? h = some r0) :
    r0 ∈ f.roots ∧ h ∈ handles r0 := by
  unfold rootOf? at hr
  have hp := List.find?_some (p := fun r => (pathOf h r).isSome) hr
  exact ⟨List.mem_of_find?_eq_some hr, fhl_pathOf_mem h r0 hp⟩

end Forest

namespace SepB

variable {r : HTree} {f : Forest}

theorem handleAt_disj (s : SepB r f) {node : Nat} (hn : node ∉ handles r) {r0 : HTree}
    (hr : f.rootOf? node = some r0) {p : Path} {h : Nat} (hh : r0.handleAt p = some h) :
    h ∉ handles r := by
  obtain ⟨hm, hnm⟩ := Forest.fhl_rootOf? hr
  have hne : r0 ≠ r := fun e => hn (e ▸ hnm)
  exact fun har => s.sep.disj r0 hm hne h har (fhl_handleAt_mem p r0 h hh)

/-- The insertions `create_missing_prefixes_for_element(node)` decides on are made on `node` and on
    nodes of its root tree. -/
theorem repairCalls_args (s : SepB r f) (env : Env) {node : Nat} (hn : node ∉ handles r)
    {env' : Env} {cs : List Forest.Call} (hc : f.repairCalls env node = some (env', cs)) :
    ∀ c ∈ cs, ∀ a ∈ c.args, a ∉ handles r := by
  intro c hcm a ha
  rcases Forest.mem_repairCalls hc hcm with ⟨d, rfl⟩ | ⟨r0, up, hd, hr, hh, rfl⟩
  · simp only [Forest.nsInsertCall, Forest.Call.args, List.mem_singleton] at ha
    subst ha
    exact hn
  · simp only [Forest.nsInsertCall, Forest.Call.args, List.mem_singleton] at ha
    subst ha
    exact s.handleAt_disj hn hr hh

theorem repairElementF (s : SepB r f) (env : Env) {node : Nat} (hn : node ∉ handles r) :
    SepB r (f.repairElementF env node).1 :=
  Forest.Closed.repairElementF_keeps (ok := fun c => ∀ a ∈ c.args, a ∉ handles r) (fun c s h => s.call c h) s
    (fun _ _ hc => s.repairCalls_args env hn hc)

/-- `create_missing_prefixes(node)` with `node` outside `r`. -/
theorem createMissingPrefixes (s : SepB r f) (env : Env) {node : Nat} (hn : node ∉ handles r) :
    SepB r (f.createMissingPrefixes env node).1 :=
  Forest.Closed.createMissingPrefixes_keeps (A := (· ∉ handles r)) (fun env _ s he => s.repairElementF env he) s hn
    (fun _ hg k hk => s.sep.kids_disj hn hg k hk _ (handle_mem_handles k))

/-- The removals of one pass of `deduplicate_namespaces(node)` are made on nodes of the root tree of
    `node`. -/
theorem dedupCalls_args (s : SepB r f) (env : Env) {node : Nat} (hn : node ∉ handles r) :
    ∀ c ∈ f.dedupCalls env node, ∀ a ∈ c.args, a ∉ handles r := by
  intro c hcm a ha
  obtain ⟨r0, _, _, rm, hd, hr, -, -, -, hh, rfl⟩ := Forest.mem_dedupCalls hcm
  simp only [Forest.Call.args, List.mem_singleton] at ha
  subst ha
  exact s.handleAt_disj hn hr hh

theorem dedupLoop (env : Env) {node : Nat} (hn : node ∉ handles r) : ∀ (fuel : Nat) {f : Forest},
    SepB r f → SepB r (Forest.dedupLoop env node fuel f).1 :=
  Forest.Closed.dedupLoop_keeps (ok := fun c => ∀ a ∈ c.args, a ∉ handles r) (fun c s h => s.call c h) env node
    (fun s => s.dedupCalls_args env hn)

/-- `deduplicate_namespaces(node)` with `node` outside `r`. -/
theorem deduplicateNamespaces (s : SepB r f) (env : Env) {node : Nat} (hn : node ∉ handles r) :
    SepB r (f.deduplicateNamespaces env node).1 :=
  dedupLoop env hn _ s

/-- `clone_with_prefixes(node)`, for any source node at all (inside `r` or not): cloning only reads the
    source, the declarations are added to the clone, which lies outside `r`. -/
theorem cloneWithPrefixes (s : SepB r f) (n : Nat) (order : List (Nat × Nat)) :
    SepB r (f.cloneWithPrefixes n order).1 :=
  Forest.Closed.cloneWithPrefixes_keeps (s.cloneNode n) fun c hc =>
    Forest.Closed.addPrefixes_keeps c order (s.cloneNode n) fun b _ _ sg =>
      sg.call (.mapInsert .namespaces c (.namespace b.1 b.2)) fun a ha =>
        List.mem_singleton.mp ha ▸ s.cloneNode_result n hc

/-- **One extended call** none of whose written node arguments lies in `r`. -/
theorem xcall {st : Store} (s : SepB r st.forest) (c : Forest.XCall)
    (h : ∀ a ∈ c.writeArgs, a ∉ handles r) : SepB r (c.run st).1.forest := by
  cases c with
  | call c =>
    cases c with
    | cloneNode n => exact s.cloneNode n
    | _ => exact s.call _ h
  | newNode v => exact (s.newNode v).1
  | setConsolidation b => exact ⟨s.sep.setConsolidation b, s.below⟩
  | removeInsignificantWhitespace n =>
    exact s.stepAll (.removeInsignificantWhitespace n) h
  | createMissingPrefixes n => exact s.createMissingPrefixes st.env (h n (by simp [Forest.XCall.writeArgs, Forest.XCall.args]))
  | deduplicateNamespaces n => exact s.deduplicateNamespaces st.env (h n (by simp [Forest.XCall.writeArgs, Forest.XCall.args]))
  | cloneWithPrefixes n order => exact s.cloneWithPrefixes n order

/-- **Any extended history.** -/
theorem xrun : ∀ (cs : List Forest.XCall) {st : Store}, SepB r st.forest →
    (∀ c ∈ cs, ∀ a ∈ c.writeArgs, a ∉ handles r) → SepB r (st.xrun cs).forest
  | [], _, s, _ => s
  | c :: cs, st, s, h =>
    xrun cs (st := st.xstep c) (s.xcall c (h c List.mem_cons_self)) (fun c' h' => h c' (List.mem_cons_of_mem _ h'))

end SepB

theorem Forest.XCall.writeArgs_sub (c : Forest.XCall) : ∀ a ∈ c.writeArgs, a ∈ c.args := by
  cases c with
  | call c => cases c <;> simp [Forest.XCall.writeArgs]
  | cloneWithPrefixes n order => simp [Forest.XCall.writeArgs]
  | _ => simp [Forest.XCall.writeArgs]

end XotModel
