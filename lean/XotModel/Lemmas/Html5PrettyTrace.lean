/-
  The `Pretty` stack along the HTML run (`prettifyHtml`): the instance of Lemmas/PrettyStack with
  the HTML closures — an element is `Mixed` when it has a text or inline-element child, is
  formatted, or matches the suppress list.
-/
import XotModel.Model.Html5
import XotModel.Lemmas.PrettyStack

namespace XotModel

variable (c : HtmlCtx) (sup : List Nat) (t : Tree)

/-- The stack after `prettify` of one event. -/
def hstep (ps : PStack) (po : Path × Output) : PStack := (prettifyHtmlAt c sup t ps po.1 po.2).1

/-- The stack after a list of events. -/
def hrun : PStack → List (Path × Output) → PStack
  | ps, [] => ps
  | ps, po :: rest => hrun (hstep c sup t ps po) rest

/-- The stack held before each event. -/
def htrace : PStack → List (Path × Output) → List (PStack × Path × Output)
  | _, [] => []
  | ps, po :: rest => (ps, po.1, po.2) :: htrace (hstep c sup t ps po) rest

/-- The entry `StartTagClose` pushes for an element with children (HTML closures): `Mixed` for a
    text or inline-element child, a formatted element or a suppressed name. -/
def hentryFor (node : Tree) : StackEntry :=
  if htmlHasInlineChild c node then .mixed
  else if (match node.value with
           | .element name => htmlIsSuppressed c sup name
           | _ => false) then .mixed
  else .unmixed (elementSpace node)

/-- What an open node has on the stack: elements with children one entry, anything else nothing. -/
def hopenEntryOf (node : Tree) : PStack :=
  match node.value with
  | .element _ => if node.firstChild?.isSome then [hentryFor c sup node] else []
  | _ => []

/-- Entries of the nodes from `n` down to the parent of the node at `rel`, innermost first. -/
def hpentriesAbove : Tree → Path → PStack
  | _, [] => []
  | n, i :: rel =>
    match n.kids[i]? with
    | some k => hpentriesAbove k rel ++ hopenEntryOf c sup n
    | none => []

/-- … down to the node at `rel` itself. -/
def hpentriesIncl : Tree → Path → PStack
  | n, [] => hopenEntryOf c sup n
  | n, i :: rel =>
    match n.kids[i]? with
    | some k => hpentriesIncl k rel ++ hopenEntryOf c sup n
    | none => hopenEntryOf c sup n

/-- The stack an event of the node at `rel` sees: the end tag is handled with the element's own
    entry still on the stack. -/
def hpentriesFor (o : Output) (n : Tree) (rel : Path) : PStack :=
  match o with
  | .endTag _ => hpentriesIncl c sup n rel
  | _ => hpentriesAbove c sup n rel

/-! ### These are the `Pretty.*` of Lemmas/PrettyStack for the HTML closures
  (`hentryFor c sup`, `hopenEntryOf c sup` by unfolding) -/

theorem prettifyHtml_eq_with :
    prettifyHtml c sup = prettifyWith (htmlHasInlineChild c) (htmlIsSuppressed c sup) := by
  funext s node o
  cases o <;> rfl

theorem prettifyHtmlAt_eq_with :
    prettifyHtmlAt c sup = prettifyAtWith (htmlHasInlineChild c) (htmlIsSuppressed c sup) := by
  funext t s p o
  unfold prettifyHtmlAt prettifyAtWith
  rw [prettifyHtml_eq_with]
  rfl

theorem hstep_eq_pretty :
    hstep c sup t = Pretty.step (htmlHasInlineChild c) (htmlIsSuppressed c sup) t := by
  funext ps po
  rw [hstep, prettifyHtmlAt_eq_with]
  rfl

theorem hrun_eq_foldl (ps : PStack) (evs : List (Path × Output)) :
    hrun c sup t ps evs = evs.foldl (hstep c sup t) ps := by
  induction evs generalizing ps with
  | nil => rfl
  | cons po evs ih => exact ih _

theorem htrace_eq_pretty : htrace c sup t = Pretty.trace (hstep c sup t) := by
  funext ps evs
  induction evs generalizing ps with
  | nil => rfl
  | cons po evs ih => rw [htrace, Pretty.trace, ih]

theorem hpentriesAbove_eq_pretty :
    hpentriesAbove c sup = Pretty.entriesAbove (htmlHasInlineChild c) (htmlIsSuppressed c sup) := by
  funext n rel
  induction rel generalizing n with
  | nil => rfl
  | cons i rel ih =>
    rw [hpentriesAbove, Pretty.entriesAbove]
    cases n.kids[i]? with
    | none => rfl
    | some k => exact congrArg (· ++ _) (ih k)

theorem hpentriesIncl_eq_pretty :
    hpentriesIncl c sup = Pretty.entriesIncl (htmlHasInlineChild c) (htmlIsSuppressed c sup) := by
  funext n rel
  induction rel generalizing n with
  | nil => rfl
  | cons i rel ih =>
    rw [hpentriesIncl, Pretty.entriesIncl]
    cases n.kids[i]? with
    | none => rfl
    | some k => exact congrArg (· ++ _) (ih k)

theorem hpentriesFor_eq_pretty :
    hpentriesFor c sup = Pretty.entriesFor (htmlHasInlineChild c) (htmlIsSuppressed c sup) := by
  funext o n rel
  cases o <;>
    simp only [hpentriesFor, Pretty.entriesFor, hpentriesAbove_eq_pretty, hpentriesIncl_eq_pretty]

theorem genKids_htrace (inScope : List (Nat × Nat)) (path : Path) (i : Nat) (ks : List Tree)
    (hat : ∀ (j : Nat) (k : Tree), ks[j]? = some k → t.at? (path ++ [i + j]) = some k) (ps : PStack) :
    (∀ x ∈ htrace c sup t ps (genNode.genKids inScope path i ks),
        ∃ (j : Nat) (k : Tree) (rel : Path), ks[j]? = some k ∧ x.2.1 = path ++ (i + j) :: rel ∧
          x.1 = hpentriesFor c sup x.2.2 k rel ++ ps) ∧
    hrun c sup t ps (genNode.genKids inScope path i ks) = ps := by
  rw [hrun_eq_foldl, htrace_eq_pretty, hstep_eq_pretty, hpentriesFor_eq_pretty]
  exact Pretty.genKids_trace _ _ t inScope path i ks hat ps

theorem mem_hopenEntryOf {a : Tree} {e : StackEntry} (h : e ∈ hopenEntryOf c sup a) :
    (∃ name, a.value = .element name) ∧ a.firstChild?.isSome = true ∧ e = hentryFor c sup a :=
  Pretty.mem_openEntryOf _ _ h

theorem mem_hpentriesAbove (n : Tree) (rel : Path) (node : Tree) (hat : n.at? rel = some node)
    (e : StackEntry) (h : e ∈ hpentriesAbove c sup n rel) :
    ∃ a, OpenAbove n rel a ∧ e ∈ hopenEntryOf c sup a := by
  rw [hpentriesAbove_eq_pretty] at h
  exact Pretty.mem_entriesAbove _ _ n rel node hat e h

end XotModel
