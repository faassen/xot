/-
  `deep_equal` does not see namespace nodes, stated on a neutral eraser `dropNs`: the erasers of the
  C10 (`Repair.stripNs`), C13 (`cmpStripNs`) and C15 (`stripNs` of Lemmas/ScopeDedup.lean)
  developments are this function under their own names.  Two valid trees that agree after erasing
  every namespace node are `deep_equal`.
-/
import XotModel.Lemmas.CompareCanon

namespace XotModel

mutual
/-- Erase every namespace node below the root. -/
def dropNs : Tree → Tree
  | .node v ks => .node v (dropNsList ks)
def dropNsList : List Tree → List Tree
  | [] => []
  | k :: ks => if k.value.category == .namespace then dropNsList ks else dropNs k :: dropNsList ks
end

theorem dropNs_value (t : Tree) : (dropNs t).value = t.value := by
  cases t; simp [dropNs, Tree.value]

mutual
theorem canon_dropNs : ∀ t : Tree, canon (dropNs t) = canon t
  | .node v ks => by
    have h := canonList_dropNsList ks
    simp only [dropNs, canon, h.1]
    cases v <;> simp [cvalue, h.2]
theorem canonList_dropNsList : ∀ ks : List Tree,
    canon.canonList (dropNsList ks) = canon.canonList ks ∧ attrPairs (dropNsList ks) = attrPairs ks
  | [] => by simp [dropNsList]
  | k :: ks => by
    have hk := canon_dropNs k
    have hks := canonList_dropNsList ks
    by_cases hn : k.value.category = .namespace
    · have hnn : ¬ k.value.isNormal = true := by simp [Value.isNormal, hn]
      have hv : ∀ n s, k.value ≠ .attribute n s := by
        intro n s h; rw [h] at hn; simp [Value.category] at hn
      simp only [dropNsList, hn, beq_self_eq_true, ↓reduceIte, canonList_cons_abnormal hnn, hks.1, true_and]
      rw [hks.2]
      simp only [attrPairs]
    · have hb : (k.value.category == Category.namespace) = false := by simpa using hn
      simp only [dropNsList, hb, Bool.false_eq_true, ↓reduceIte]
      constructor
      · simp only [canon.canonList, dropNs_value, hk, hks.1]
      · simp only [attrPairs, dropNs_value, hks.2]
end

/-- Namespace nodes (declarations, hence the prefixes they bind) are invisible to `deep_equal`. -/
theorem deepEqual_of_dropNs (a b : Tree) (va : a.valid = true) (vb : b.valid = true)
    (h : dropNs a = dropNs b) : deepEqual a b = true :=
  (deepEqual_iff_canon a b va vb).mpr (by rw [← canon_dropNs a, ← canon_dropNs b, h])

end XotModel
