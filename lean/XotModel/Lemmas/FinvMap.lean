/-
  The invariant under the calls that are proved on the zipper: the value setters, `detach`, `remove`, and the node
  maps.  `mapRemove` and `mapClear` are `remove`s of entry nodes; `mapInsert`, `mapInsertNode` and `appendEntryNode`
  place an entry node at the insertion point (`mapPlace`) or update the payload of the entry with the same key.  For
  every forest with the invariant and all arguments (`mapInsertNode`: element parents).
-/
import XotModel.Lemmas.FinvCut
import XotModel.Lemmas.BasicFacts
import XotModel.Lemmas.FmapKids

/-! ## Setters, `detach`, `remove`, `mapRemove`, `mapClear` -/

namespace XotModel
open HTree

namespace Forest

/-! ### Setters -/

theorem setElementName_inv {f : Forest} (hi : f.Inv) (node name : Nat) : (f.setElementName node name).1.Inv := by
  unfold setElementName
  split
  · rename_i he
    obtain ⟨n, hv⟩ := value?_of_isElement he
    exact setValue_inv hi hv ⟨rfl, rfl, rfl, rfl⟩ (fun x => rfl)
  · exact hi

theorem setText_inv {f : Forest} (hi : f.Inv) (node : Nat) (s : Str) : (f.setText node s).1.Inv := by
  unfold setText
  split
  · rename_i he
    obtain ⟨n, hv⟩ := value?_of_isText he
    exact setValue_inv hi hv ⟨rfl, rfl, rfl, rfl⟩ (fun x => rfl)
  · exact hi

theorem setComment_inv {f : Forest} (hi : f.Inv) (node : Nat) (s : Str) : (f.setComment node s).1.Inv := by
  unfold setComment
  split
  · rename_i c hv
    split
    · exact hi
    · exact setValue_inv hi hv ⟨rfl, rfl, rfl, rfl⟩ (fun x => rfl)
  · exact hi

theorem setPiData_inv {f : Forest} (hi : f.Inv) (node : Nat) (d : Option Str) : (f.setPiData node d).1.Inv := by
  unfold setPiData
  split
  · rename_i t d0 hv
    exact setValue_inv hi hv ⟨rfl, rfl, rfl, rfl⟩ (fun x => rfl)
  · exact hi

/-! ### `detach`, `remove` -/

theorem cut_of_not_mem {f : Forest} {h : Nat} (hn : h ∉ f.allHandles) : f.cut h = (f, none) := by
  unfold cut get?
  rw [findList?_none_of_not_mem h _ hn]

theorem detach_inv {f : Forest} (hi : f.Inv) (node : Nat) : (f.detach node).1.Inv := by
  unfold detach detachRaw
  by_cases hm : node ∈ f.allHandles
  · obtain ⟨path, l, k, r, lc⟩ := exists_loc hm
    rw [cut_of_loc lc hi.nodup]
    have := cut_then_consolidate_inv hi lc [k] [] (by simp)
      (by simp [hi.validTree_of_loc lc])
    exact this
  · rw [cut_of_not_mem hm]
    exact removeConsolidate_inv hi _ _

theorem remove_inv {f : Forest} (hi : f.Inv) (node : Nat) : (f.remove node).1.Inv := by
  unfold remove dropSubtree
  by_cases hm : node ∈ f.allHandles
  · obtain ⟨path, l, k, r, lc⟩ := exists_loc hm
    rw [cut_of_loc lc hi.nodup]
    have := cut_then_consolidate_inv hi lc [] (handles k) (by simp) (by simp)
    simpa using this
  · rw [cut_of_not_mem hm]
    exact removeConsolidate_inv hi _ _

theorem mapRemove_inv {f : Forest} (hi : f.Inv) (k : MapKind) (parent key : Nat) :
    (f.mapRemove k parent key).1.Inv := by
  unfold mapRemove
  split
  · exact hi
  · split
    · exact remove_inv hi _
    · exact hi

theorem foldl_remove_inv {α : Type} (g : α → Nat) (xs : List α) {f : Forest} (hi : f.Inv) :
    (xs.foldl (fun acc c => (acc.remove (g c)).1) f).Inv := by
  induction xs generalizing f with
  | nil => exact hi
  | cons x xs ih => exact ih (remove_inv hi _)

theorem mapClear_inv {f : Forest} (hi : f.Inv) (k : MapKind) (parent : Nat) :
    (f.mapClear k parent).1.Inv := by
  unfold mapClear
  split
  · exact hi
  · split
    · exact hi
    · exact foldl_remove_inv (fun c : HTree => c.handle) _ hi

end Forest
end XotModel

/-! ## Placing an entry node -/

namespace XotModel
open HTree

theorem Sorted.sublist {a b : List HTree} (h : Sorted b) (hs : a.Sublist b) : Sorted a :=
  List.Pairwise.sublist (hs.map _) h

theorem mem_sec_of_cat {ks N A S : List HTree} (h : Fmap.Sect ks N A S) (k : Forest.MapKind) {t : HTree}
    (ht : t ∈ N ++ A ++ S) (hc : t.value.category = Fmap.kindCat k) : t ∈ Fmap.Sect.sec k N A := by
  rcases List.mem_append.1 ht with h1 | h1
  · rcases List.mem_append.1 h1 with h2 | h2
    · have := h.allNs t h2
      cases k
      · rw [this] at hc; cases hc
      · exact h2
    · have := h.allAt t h2
      cases k
      · exact h2
      · rw [this] at hc; cases hc
  · have := h.allNm t h1
    rw [this] at hc
    cases k <;> cases hc

namespace Forest

theorem fi_leaf_not_ancestor {g : Forest} (hi : g.Inv) {node x : Nat} {ev : Value}
    (hnv : g.value? node = some ev) (he : ev.isElement = false) (hd : ev.isDocument = false)
    (hx : x ∈ g.allHandles) (hne : x ≠ node) : (g.ancestors x).contains node = false := by
  cases hc : (g.ancestors x).contains node with
  | false => rfl
  | true =>
    exfalso
    obtain ⟨path, l, C, r, lc⟩ := exists_loc (mem_allHandles_of_value? hnv)
    have hmem := mem_subtree_of_anc lc hi.nodup hx hc
    have hCv : C.value = ev := value_of_loc lc hi.nodup hnv
    have hkids : C.kids = [] := kids_nil_of_valid (hi.validTree_of_loc lc) (by rw [hCv]; exact he) (by rw [hCv]; exact hd)
    rw [handles_eq, hkids, lc.hk] at hmem
    simp at hmem
    exact hne hmem

theorem cutOK_of_abnormal {g : Forest} (hi : g.Inv) {c : Nat} {cv : Value} (hcv : g.value? c = some cv)
    (hcn : cv.category ≠ .normal) : g.CutOK c := by
  intro hoff ctx hctx
  obtain ⟨init, fr, lc, _⟩ := ctx?_some_loc hi.nodup hctx
  have hself := value?_of_ctx_self hi.nodup hctx
  rw [hcv] at hself
  have hsv : ctx.self.value = cv := (Option.some.inj hself).symm
  have K0 := (hi.kidsOK_snoc lc.eq).1
  cases hl : lastText ctx.left with
  | false => rfl
  | true =>
    exfalso
    obtain ⟨l0, P, hl0, hPt⟩ := exists_of_lastText hl
    rw [hl0] at K0
    have K1 : KidsOK (!g.everOff) fr.v (l0 ++ P :: ctx.self :: ctx.right) := by simpa using K0
    have := K1.normal_after_normal (category_normal_of_isText hPt)
    rw [hsv] at this
    exact hcn this

theorem entry_facts {k : MapKind} {ev : Value} (hm : k.matches ev = true) :
    ev.category ≠ .normal ∧ ev.isDocument = false ∧ ev.isElement = false ∧ ev.isText = false := by
  cases k <;> cases ev <;> simp_all [MapKind.matches, Value.category, Value.isDocument, Value.isElement, Value.isText]

theorem mapPlace_after {g : Forest} (hi : g.Inv) {parent node : Nat} {en : Nat} {ev : Value}
    {path lp K rp} (locp : Loc g.roots parent path lp K rp) (hKv : K.value = .element en)
    {left : List HTree} {IP : HTree} {right : List HTree} (hkids : K.kids = left ++ IP :: right)
    (hnv : g.value? node = some ev) (hcn : ev.category ≠ .normal) (hd : ev.isDocument = false)
    (he : ev.isElement = false) (ht : ev.isText = false) (hne : IP.handle ≠ node)
    (hrankL : ∀ y ∈ left ++ [IP], y.value.category.rank ≤ ev.category.rank)
    (hrankR : ∀ y ∈ right, ev.category.rank ≤ y.value.category.rank)
    (hkeys : ∀ y ∈ K.kids, y.value.category = ev.category → entryKey y.value ≠ entryKey ev) :
    (g.checkedInsertAfter IP.handle node).1.Inv := by
  have nd := hi.nodup
  have locip : Loc g.roots IP.handle (path ++ [⟨lp, parent, .element en, rp⟩]) left IP right := by
    refine ⟨?_, rfl⟩
    rw [plug_append, locp.eq, ← hkids, ← hKv, ← locp.hk]
    simp [node_eta]
  have hctxip := ctx?_of_loc_snoc locip nd
  have hpar : parent ∈ g.allHandles := by
    unfold allHandles; rw [locp.eq, mem_handlesList_plug]
    refine Or.inr ?_
    simp only [handlesList_append, handlesList_cons, List.mem_append]
    exact Or.inr (Or.inl (locp.hk ▸ handle_mem_handles K))
  have hpv : g.value? parent = some (.element en) := by rw [value?_of_loc locp nd, hKv]
  apply checkedInsertAfter_gen hi hnv (value?_of_loc locip nd)
    (isRoot_of_loc_ne locip (by simp) nd) ?_ (cutOK_of_abnormal hi hnv hcn)
  · intro ctx pv hctx hpv'
    rw [hctxip] at hctx; cases hctx
    simp only at hpv'
    rw [hpv] at hpv'; cases hpv'
    refine ⟨by simp [kidAllowed, hd], hrankL, hrankR, Or.inr ?_, ?_⟩
    · intro y hy; exact hkeys y (by rw [hkids]; exact hy)
    · intro _ htt; rw [ht] at htt; cases htt
  · rw [ancestors_of_ctx? nd hctxip]
    simp only [List.contains_cons, Bool.or_eq_false_iff, beq_eq_false_iff_ne, ne_eq]
    refine ⟨fun e => hne e.symm, ?_⟩
    apply fi_leaf_not_ancestor hi hnv he hd hpar
    intro e
    rw [e, hnv] at hpv; cases hpv; cases he

/-- The insertion point of a view is the last of the children that rank at most as the view's entries
    (the namespace section; for attributes, the namespace and the attribute section). -/
theorem mapInsertionPoint_sect {f : Forest} {parent : Nat} {K : HTree} {N A S : List HTree}
    (hK : f.get? parent = some K) (hs : Fmap.Sect K.kids N A S) (k : MapKind) :
    ∃ left right, K.kids = left ++ right ∧
      f.mapInsertionPoint k parent = left.getLast?.map (·.handle) ∧
      (∀ y ∈ left, y.value.category.rank ≤ (Fmap.kindCat k).rank) ∧
      (∀ y ∈ right, (Fmap.kindCat k).rank ≤ y.value.category.rank) := by
  rw [Fmap.Sect.insertionPoint hK hs k]
  cases k with
  | namespaces =>
    simp only [Fmap.Sect.sec]
    refine ⟨N, A ++ S, by rw [hs.eq, List.append_assoc], by cases N.getLast? <;> rfl, ?_, ?_⟩
    · intro y hy; rw [hs.allNs y hy]; exact Nat.le_refl _
    · intro y hy; exact Nat.zero_le _
  | attributes =>
    simp only [Fmap.Sect.sec]
    refine ⟨N ++ A, S, hs.eq, ?_, ?_, ?_⟩
    · rw [List.getLast?_append]
      cases A.getLast? <;> rfl
    · intro y hy
      rcases List.mem_append.1 hy with h | h
      · rw [hs.allNs y h]; decide
      · rw [hs.allAt y h]; exact Nat.le_refl _
    · intro y hy; rw [hs.allNm y hy]; decide

/-- `mapPlace`: put the entry node `node` (whose key is not yet in the map) at the insertion
    point of the element `parent`. -/
theorem mapPlace_inv {g : Forest} (hi : g.Inv) {k : MapKind} {parent node en : Nat} {ev : Value}
    (hpe : g.value? parent = some (.element en)) (hnv : g.value? node = some ev)
    (hm : k.matches ev = true) (hget : g.mapGetNode k parent (entryKey ev) = none) :
    (g.mapPlace k parent node).1.Inv := by
  have nd := hi.nodup
  obtain ⟨hcn, hd, he, ht⟩ := entry_facts hm
  have hevc : ev.category = Fmap.kindCat k := (Fmap.matches_iff_cat k ev).1 hm
  have hpar : parent ∈ g.allHandles := mem_allHandles_of_value? hpe
  obtain ⟨path, lp, K, rp, locp⟩ := exists_loc hpar
  have hK := get?_of_loc locp nd
  have hKv : K.value = .element en := value_of_loc locp nd hpe
  have hKvalid := hi.validTree_of_loc locp
  rw [validTree_eq, Bool.and_eq_true] at hKvalid
  have hs := Fmap.sect_of_ordered K.kids ((kidsOrdered_iff _).2 ((kidsOK_iff _ _ _).mp hKvalid.1).sorted)
  -- the children of the entry's category are the children in the map, and none of those has the key
  have hkeys : ∀ y ∈ K.kids, y.value.category = ev.category → entryKey y.value ≠ entryKey ev := by
    intro y hy hcat
    unfold mapGetNode at hget
    rw [hK] at hget
    simp only [List.find?_eq_none, beq_iff_eq] at hget
    apply hget
    rw [Fmap.mapChildren_eq, hs.kidsOf k]
    exact mem_sec_of_cat hs k (hs.eq ▸ hy) (hcat.trans hevc)
  -- so the node is none of the children: its key would be in the map
  have hnotin : ∀ y ∈ K.kids, y.handle ≠ node := by
    intro y hy e
    have := value?_of_mem_kids nd hK hy
    rw [e, hnv] at this
    cases this
    exact hkeys y hy rfl rfl
  obtain ⟨left, right, hkids, hip, hL, hR⟩ := mapInsertionPoint_sect hK hs k
  rw [← hevc] at hL hR
  have finish : ∀ r : Forest × Bool, r.1.Inv → (if r.2 = true then (r.1, Res.ok) else (r.1, Res.panic)).1.Inv := by
    intro r h; split <;> exact h
  unfold mapPlace
  apply finish
  rw [hip]
  rcases fi_nil_or_snoc left with rfl | ⟨a, IP, rfl⟩
  · apply checkedPrepend_gen hi hnv hpar (cutOK_of_abnormal hi hnv hcn)
    intro K' hK'
    rw [hK] at hK'; cases hK'
    exact ⟨by simp [hKv, kidAllowed, hd], fun y hy => hR y (by rw [hkids] at hy; exact hy), Or.inr hkeys,
      fun _ htt => by rw [ht] at htt; cases htt⟩
  · have hkids' : K.kids = a ++ IP :: right := by rw [hkids, List.append_assoc]; rfl
    rw [List.getLast?_append, List.getLast?_singleton]
    exact mapPlace_after hi locp hKv hkids' hnv hcn hd he ht (hnotin IP (by rw [hkids']; simp)) hL hR hkeys

end Forest
end XotModel

/-! ## `mapInsert`, `mapInsertNode`, `appendEntryNode` -/

namespace XotModel
open HTree

namespace Forest

theorem value?_newNode_of_some {f : Forest} {x : Nat} {w : Value} (v : Value) (h : f.value? x = some w) :
    (f.newNode v).1.value? x = some w := by
  unfold value? at h ⊢
  cases hg : f.get? x with
  | none => rw [hg] at h; cases h
  | some t => rw [hg] at h; rw [get?_newNode_of_some v hg]; exact h

theorem mapGetNode_newNode {f : Forest} (k : MapKind) {parent : Nat} {K : HTree} (key : Nat) (v : Value)
    (hK : f.get? parent = some K) :
    (f.newNode v).1.mapGetNode k parent key = f.mapGetNode k parent key := by
  unfold mapGetNode
  rw [get?_newNode_of_some v hK, hK]

theorem mapUpdate_inv {f : Forest} (hi : f.Inv) {k : MapKind} {parent key : Nat} {n : HTree} (v : Value)
    (hg : f.mapGetNode k parent key = some n) : (f.setValue n.handle (entryUpdate n.value v)).Inv := by
  unfold mapGetNode at hg
  cases hK : f.get? parent with
  | none => rw [hK] at hg; cases hg
  | some K =>
    rw [hK] at hg
    simp only at hg
    have hmem : n ∈ K.kids := Forest.mapChildren_sub k K n (List.mem_of_find?_eq_some hg)
    have hv := value?_of_mem_kids hi.nodup hK hmem
    obtain ⟨h1, h2⟩ := sameKind_entryUpdate n.value v
    exact setValue_inv hi hv h1 h2

theorem mapInsertNode_inv {f : Forest} (hi : f.Inv) (k : MapKind) {parent : Nat} (node : Nat)
    (he : f.isElement parent = true) : (f.mapInsertNode k parent node).1.Inv := by
  unfold mapInsertNode
  cases hv : f.value? node with
  | none => exact hi
  | some v =>
    simp only
    split
    · exact hi
    · rename_i hm
      cases hg : f.mapGetNode k parent (entryKey v) with
      | some e => exact mapUpdate_inv hi v hg
      | none =>
        obtain ⟨en, hpe⟩ := value?_of_isElement he
        exact mapPlace_inv hi hpe hv (by simpa using hm) hg

/-- `MutableNodeMap::insert(key, value)`; the entry value must be of the map's kind (the Rust API
    builds it from the key and the value, so it always is). -/
theorem mapInsert_inv {f : Forest} (hi : f.Inv) (k : MapKind) (parent : Nat) (entry : Value)
    (hm : k.matches entry = true) : (f.mapInsert k parent entry).1.Inv := by
  unfold mapInsert
  split
  · exact hi
  · rename_i he
    cases hg : f.mapGetNode k parent (entryKey entry) with
    | some n => exact mapUpdate_inv hi entry hg
    | none =>
      simp only
      obtain ⟨en, hpe⟩ := value?_of_isElement (by simpa using he)
      have hK : ∃ K, f.get? parent = some K := by
        unfold value? at hpe
        cases h : f.get? parent with
        | none => rw [h] at hpe; cases hpe
        | some K => exact ⟨K, rfl⟩
      obtain ⟨K, hK⟩ := hK
      apply mapPlace_inv (Fcreation.newNode_inv hi entry) (value?_newNode_of_some entry hpe)
        (Fmap.newNode_value hi entry) hm
      rw [mapGetNode_newNode k _ entry hK]; exact hg

theorem appendEntryNode_inv {f : Forest} (hi : f.Inv) (k : MapKind) (parent child : Nat) :
    (f.appendEntryNode k parent child).1.Inv := by
  unfold appendEntryNode
  split
  · exact hi
  · rename_i he
    cases hv : f.value? child with
    | none => exact hi
    | some v =>
      simp only
      split
      · exact hi
      · exact mapInsertNode_inv hi k child (by simpa using he)

end Forest
end XotModel
