/-
  Closed arenas with freed slots, reached by histories of calls
  with live arguments (hence well-formed), for the examples about removed ids in `Props/C04`, `C06`;
  and two ways of recognising an arena that is NOT well-formed.
-/
import XotModel.Lemmas.ArenaExamples
import XotModel.Lemmas.ArenaStaleCalls
import XotModel.Lemmas.ArenaStaleLive

namespace XotModel
namespace Arena

/-- `sampleB` (`1:0 [2:0 [4:0], 3:0]`) after `remove(3:0)`: slot 2 is free, all its pointers are
    `None`; `3:0` is a removed id. -/
def sampleF : Arena := sampleB.after (remove · ⟨3, 0⟩)

/-- `sampleB` after `remove_subtree(2:0)`: slots 1 and 3 are free (`2:0`, `4:0` are removed ids); slot 1
    keeps `first_child = last_child = 4:0`, slot 3 keeps `parent = 2:0`. -/
def sampleG : Arena := sampleB.after (removeSubtree · ⟨2, 0⟩)

/-- `sampleG` after `new_node` (slot 1 is reused: `2:1`) and `2:1.checked_append(3:0)`:
    `1:0 []`, `2:1 [3:0]`; slot 3 is still free and still says `parent = 2:0`. -/
def sampleH : Arena := (sampleG.after (newNode · 50)).after (checkedAppend · ⟨2, 1⟩ ⟨3, 0⟩)

theorem sampleF_steps : Steps {} sampleF :=
  .tail sampleB_steps (.remove ⟨3, 0⟩ _ (liveId_of_isLiveId (by decide)) (Or.inl ⟨_, rfl, rfl⟩) rfl)

theorem sampleG_steps : Steps {} sampleG :=
  .tail sampleB_steps (.removeSubtree ⟨2, 0⟩ _ (liveId_of_isLiveId (by decide)) rfl)

theorem sampleH_steps : Steps {} sampleH := by
  refine .tail (.tail sampleG_steps (.newNode 50 ⟨2, 1⟩ _ rfl)) (.append ⟨2, 1⟩ ⟨3, 0⟩ (.ok ()) _ ?_ ?_ rfl)
  all_goals exact liveId_of_isLiveId (by decide)

theorem sampleF_wf : Wf sampleF := (sampleF_steps.wf Wf.empty).1
theorem sampleG_wf : Wf sampleG := (sampleG_steps.wf Wf.empty).1
theorem sampleH_wf : Wf sampleH := (sampleH_steps.wf Wf.empty).1

/-- A live slot that names a live parent whose `first_child` is `None`: not well-formed. -/
theorem not_wf_of_orphan {a : Arena} {c : Nat} {sc sp : Slot} {y : NodeId} (hc : a.slot c = some sc) (h0 : 0 ≤ sc.stamp)
    (hp : sc.parent = some y) (hsp : a.slot y.index0 = some sp) (h0p : 0 ≤ sp.stamp) (hf : sp.first = none) :
    ¬ Wf a := by
  rintro ⟨g, r⟩
  have P := r.ptrs c sc hc h0
  rw [P.parent] at hp
  cases hpar : g.par c with
  | none => rw [hpar] at hp; cases hp
  | some p =>
    rw [hpar] at hp
    simp only [Option.map_some, Option.some.injEq] at hp
    have hpi : y.index0 = p := by rw [← hp]; simp
    rw [hpi] at hsp
    have hm := (r.parKids c p hpar).2
    have Pp := r.ptrs p sp hsp h0p
    rw [Pp.first] at hf
    cases hk : g.kids p with
    | nil => rw [hk] at hm; cases hm
    | cons k ks => rw [hk] at hf; cases hf

end Arena
end XotModel
