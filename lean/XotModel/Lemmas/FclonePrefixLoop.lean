/-
  The insertion loop of `clone_with_prefixes` as a function on the clone's child list (`addSpec`):
  `addPrefixes_spec`, where the new declaration leaves go and what is declared afterwards; the
  lookups `pathTo`, `unresolved_namespaces`, `namespaces_in_scope` on a parentless element.
-/
import XotModel.Lemmas.FcloneMain
import XotModel.Model.FcloneModel
import XotModel.Lemmas.BasicFacts
import XotModel.Lemmas.FclonePrefixPath

/-! ## The insertion loop is `addSpec`

For any order of the inherited prefixes: each missing prefix becomes a new namespace node right after the namespace
nodes already there; no panic. -/

namespace XotModel
open HTree

/-- The loop of `clone_with_prefixes` on the child list `K` of the clone's root, new handles
    from `n`. -/
def addSpec (K : List HTree) (n : Nat) : List (Nat × Nat) → List HTree × Nat
  | [] => (K, n)
  | (p, ns) :: rest =>
    if ((K.takeWhile (fun c => c.value.category == .namespace)).find?
        (fun c => Forest.entryKey c.value == p)).isSome then addSpec K n rest
    else addSpec (K.takeWhile (fun c => c.value.category == .namespace) ++
      [.node n (.namespace p ns) []] ++ K.dropWhile (fun c => c.value.category == .namespace)) (n + 1) rest

namespace Work

variable {g : Forest} {R : List HTree} {c : Nat} {vc : Value} {n : Nat} {v : Value}

theorem checkedInsertAfter_mid {A B : List HTree} {x : HTree}
    (w : Work g R [] c vc (A ++ x :: B) n v) :
    g.checkedInsertAfter x.handle n =
      (g.withRoots (R ++ [.node c vc (A ++ [x, .node n v []] ++ B)]), true) := by
  have hxK : x.handle ∈ handlesList (A ++ x :: B) := by
    rw [handlesList_append]
    simp [handlesList, handle_mem_handles]
  have hxR := w.kR hxK
  have hxc := w.kc hxK
  have hxn := w.kn hxK
  have hxA : x.handle ∉ handlesList A := by
    have hnd := w.nodupK
    rw [handlesList_append] at hnd
    intro hm
    exact (List.nodup_append.mp hnd).2.2 _ hm _ (by simp [handlesList, handle_mem_handles]) rfl
  have hanc : g.ancestors x.handle = [x.handle, c] := by
    unfold Forest.ancestors
    rw [w.roots, List.findSome?_append, findSome?_ancestorsOf_none _ R hxR]
    simp only [fcPlug]
    rw [List.findSome?_cons, ancestorsOf_node_ne _ _ (Ne.symm hxc),
      ancestorsOfList_append_of_not_mem _ _ _ hxA]
    have : ancestorsOf x.handle x = some [x.handle] := by
      cases x with
      | node hx vx kx => simp [ancestorsOf, HTree.handle]
    simp [ancestorsOfList, this]
  have hroot : g.isRoot x.handle = false := by
    unfold Forest.isRoot
    rw [w.roots]
    have h2 : (HTree.node n v []).handle = n := rfl
    have h3 : (fcPlug [] (.node c vc (A ++ x :: B))).handle = c := rfl
    simp only [List.any_append, any_handle_eq_false_of_not_mem _ R hxR, List.any_cons, h2, h3,
      List.any_nil, Bool.or_false, Bool.false_or, Ne.symm hxc, Ne.symm hxn, decide_false]
  unfold Forest.checkedInsertAfter
  have h1 : (x.handle = n) = False := by simp [hxn]
  have hcont : (g.ancestors x.handle).contains n = false := by
    rw [hanc]
    simp [Ne.symm hxn, w.nc]
  simp only [h1, if_false, hcont, hroot, Bool.or_false, Bool.false_eq_true, w.cut_n]
  unfold Forest.placeAfter
  simp only [Forest.withRoots_roots, List.map_append, List.map_cons, List.map_nil, fcPlug]
  rw [map_replaceBelow_of_not_mem _ _ R hxR]
  have : replaceBelow x.handle (fun r => [r, .node n v []]) (.node c vc (A ++ x :: B)) =
      .node c vc (A ++ [x, .node n v []] ++ B) := by
    simp only [replaceBelow]
    rw [replaceKids_split _ _ A B x rfl hxA]
  rw [this]
  rfl

end Work

namespace Cloning

variable {g : Forest} {R : List HTree} {c : Nat} {vc : Value} {K : List HTree}

theorem get?_c (cl : Cloning g R [] c vc K) : g.get? c = some (.node c vc K) := by
  have hc : c ∉ handlesList R := by
    intro h
    exact (List.nodup_append.mp cl.nodup).2.2 c h c (by simp [frameHandles]) rfl
  exact top_get? g R c vc K cl.roots hc

/-- After `new_node` and a placement that keeps all handles (in any position). -/
theorem afterInsert (cl : Cloning g R [] c vc K) (v : Value) (K1 : List HTree)
    (hK : (handlesList K1).Perm (handlesList K ++ [g.next])) :
    Cloning ((g.newNode v).1.withRoots (R ++ [.node c vc K1])) R [] c vc K1 := by
  have hperm : (handlesList R ++ (frameHandles [] ++ c :: handlesList K1)).Perm
      ((handlesList R ++ (frameHandles [] ++ c :: handlesList K)) ++ [g.next]) := by
    simp only [frameHandles, List.nil_append, List.append_assoc, List.cons_append]
    exact List.Perm.append_left _ (List.Perm.cons _ hK)
  refine ⟨rfl, ?_, ?_⟩
  · rw [hperm.nodup_iff, List.nodup_append]
    refine ⟨cl.nodup, by simp, ?_⟩
    intro a ha b hb
    simp only [List.mem_singleton] at hb
    have := cl.below a ha
    omega
  · intro h hh
    have hm := hperm.mem_iff.mp hh
    show h < g.next + 1
    rcases List.mem_append.mp hm with h1 | h1
    · have := cl.below h h1; omega
    · simp only [List.mem_singleton] at h1; omega

end Cloning

theorem mapInsert_ns_spec {g : Forest} {R : List HTree} {c : Nat} {vc : Value} {K : List HTree}
    (cl : Cloning g R [] c vc K) (hel : vc.isElement = true) (p ns : Nat)
    (hmiss : ((K.takeWhile (fun c => c.value.category == .namespace)).find?
        (fun c => Forest.entryKey c.value == p)) = none) :
    ∃ g', g.mapInsert .namespaces c (.namespace p ns) = (g', .ok) ∧
      Cloning g' R [] c vc (K.takeWhile (fun c => c.value.category == .namespace) ++
        [.node g.next (.namespace p ns) []] ++ K.dropWhile (fun c => c.value.category == .namespace)) ∧
      g'.next = g.next + 1 ∧ SameFlags g g' := by
  have hsplit : K = K.takeWhile (fun c => c.value.category == .namespace) ++
      K.dropWhile (fun c => c.value.category == .namespace) := List.takeWhile_append_dropWhile.symm
  generalize hKn : K.takeWhile (fun c => c.value.category == .namespace) = Kn at hmiss hsplit ⊢
  generalize hKr : K.dropWhile (fun c => c.value.category == .namespace) = Kr at hsplit ⊢
  have hget : g.mapGetNode .namespaces c (Forest.entryKey (.namespace p ns)) = none := by
    unfold Forest.mapGetNode
    rw [cl.get?_c]
    simp only [Forest.mapChildren, HTree.kids, hKn, Forest.entryKey]
    exact hmiss
  have hiel : g.isElement c = true := by
    simp [Forest.isElement, Forest.value?, cl.get?_c, HTree.value, hel]
  have w := cl.work (.namespace p ns)
  have hip : (g.newNode (.namespace p ns)).1.mapInsertionPoint .namespaces c =
      Kn.getLast?.map (·.handle) := by
    unfold Forest.mapInsertionPoint
    rw [w.get?_c]
    simp only [Forest.mapChildren, HTree.kids, hKn]
    cases Kn.getLast? <;> rfl
  have hperm : (handlesList (Kn ++ [HTree.node g.next (.namespace p ns) []] ++ Kr)).Perm
      (handlesList K ++ [g.next]) := by
    rw [hsplit]
    simp only [handlesList_append, handlesList_singleton, handles, handlesList, List.append_assoc,
      List.cons_append, List.nil_append]
    exact List.Perm.append_left _ (List.perm_append_singleton _ _).symm
  have place : (g.newNode (.namespace p ns)).1.mapPlace .namespaces c g.next =
      ((g.newNode (.namespace p ns)).1.withRoots (R ++ [.node c vc (Kn ++
        [.node g.next (.namespace p ns) []] ++ Kr)]), .ok) := by
    unfold Forest.mapPlace
    rw [hip]
    rcases List.eq_nil_or_concat Kn with rfl | ⟨Kn', x, rfl⟩
    · simp only [List.getLast?_nil, Option.map_none]
      rw [w.checkedPrepend_fresh]
      simp [fcPlug, hsplit]
    · rw [List.concat_eq_append] at hsplit ⊢
      simp only [List.getLast?_concat, Option.map_some]
      have w' : Work (g.newNode (.namespace p ns)).1 R [] c vc (Kn' ++ x :: Kr) g.next (.namespace p ns) := by
        have : K = Kn' ++ x :: Kr := by rw [hsplit]; simp
        rw [← this]; exact w
      rw [w'.checkedInsertAfter_mid]
      simp
  refine ⟨_, ?_, cl.afterInsert (.namespace p ns) _ hperm, rfl, ⟨rfl, rfl, rfl⟩⟩
  unfold Forest.mapInsert
  simp only [hiel, Bool.not_true, Bool.false_eq_true, if_false, hget]
  have : g.newNode (.namespace p ns) = ((g.newNode (.namespace p ns)).1, g.next) := rfl
  rw [this]
  simp only [place]

/-- The whole loop, for any order: `addSpec`, no panic. -/
theorem addPrefixes_spec : ∀ (order : List (Nat × Nat)) {g : Forest} {R : List HTree} {c : Nat}
    {vc : Value} {K : List HTree}, Cloning g R [] c vc K → vc.isElement = true →
    ∃ g', g.addPrefixes c order = (g', .ok) ∧ Cloning g' R [] c vc (addSpec K g.next order).1 ∧
      g'.next = (addSpec K g.next order).2 ∧ SameFlags g g'
  | [], g, _, _, _, _, cl, _ => ⟨g, rfl, cl, rfl, SameFlags.refl g⟩
  | (p, ns) :: rest, g, R, c, vc, K, cl, hel => by
    unfold Forest.addPrefixes
    have hg : g.mapGetNode .namespaces c p =
        (K.takeWhile (fun c => c.value.category == .namespace)).find?
          (fun c => Forest.entryKey c.value == p) := by
      unfold Forest.mapGetNode
      rw [cl.get?_c]
      rfl
    rw [hg]
    simp only [addSpec]
    by_cases hs : ((K.takeWhile (fun c => c.value.category == .namespace)).find?
        (fun c => Forest.entryKey c.value == p)).isSome = true
    · rw [if_pos hs, if_pos hs]
      exact addPrefixes_spec rest cl hel
    · rw [if_neg hs, if_neg hs]
      have hnone : ((K.takeWhile (fun c => c.value.category == .namespace)).find?
          (fun c => Forest.entryKey c.value == p)) = none := by
        simpa using hs
      obtain ⟨g1, h1, cl1, hn1, hf1⟩ := mapInsert_ns_spec cl hel p ns hnone
      obtain ⟨g2, h2, cl2, hn2, hf2⟩ := addPrefixes_spec rest cl1 hel
      rw [h1]
      simp only
      rw [hn1] at cl2 hn2
      exact ⟨g2, h2, cl2, hn2, hf1.trans hf2⟩

end XotModel

/-! ## What `addSpec` does to the declarations, the attributes and the writability of the clone's root. -/

namespace XotModel
open HTree

/-- A node that only carries a declaration. -/
def IsNsLeaf (x : HTree) : Prop := ∃ h p ns, x = .node h (.namespace p ns) []

theorem IsNsLeaf.cat {x : HTree} (hx : IsNsLeaf x) : (x.value.category == Category.namespace) = true := by
  obtain ⟨h, p, ns, rfl⟩ := hx
  rfl

theorem head_dropWhile_not {α} (p : α → Bool) (l : List α) (y : α)
    (h : (l.dropWhile p).head? = some y) : p y = false := by
  have := List.head?_dropWhile_not p l
  rw [h] at this
  exact this

theorem takeWhile_split {α} (p : α → Bool) (A B : List α) (hA : ∀ x ∈ A, p x = true)
    (hB : ∀ y, B.head? = some y → p y = false) :
    (A ++ B).takeWhile p = A ∧ (A ++ B).dropWhile p = B := by
  refine ⟨?_, ?_⟩
  · rw [List.takeWhile_append_of_pos hA]
    cases B with
    | nil => simp
    | cons y B => simp [List.takeWhile_cons, hB y rfl]
  · rw [List.dropWhile_append_of_pos hA]
    cases B with
    | nil => simp
    | cons y B => simp [List.dropWhile_cons, hB y rfl]

/-- One round of the loop on a child list split where its namespace nodes end: a prefix that one of
    them declares is skipped, any other gets a new leaf after them. -/
theorem addSpec_cons (A B : List HTree) (n p ns : Nat) (rest : List (Nat × Nat))
    (hA : ∀ x ∈ A, (x.value.category == Category.namespace) = true)
    (hB : ∀ y, B.head? = some y → (y.value.category == Category.namespace) = false) :
    addSpec (A ++ B) n ((p, ns) :: rest) =
      if (A.find? (fun c => Forest.entryKey c.value == p)).isSome then addSpec (A ++ B) n rest
      else addSpec ((A ++ [.node n (.namespace p ns) []]) ++ B) (n + 1) rest := by
  obtain ⟨ht, hd⟩ := takeWhile_split (fun c : HTree => c.value.category == .namespace) A B hA hB
  simp only [addSpec, ht, hd]

theorem fc_nsCat_snoc {A : List HTree} (hA : ∀ x ∈ A, (x.value.category == Category.namespace) = true)
    (n p ns : Nat) :
    ∀ x ∈ A ++ [HTree.node n (.namespace p ns) []], (x.value.category == Category.namespace) = true := by
  intro x hx
  rcases List.mem_append.mp hx with h | h
  · exact hA x h
  · rw [List.mem_singleton.mp h]
    rfl

theorem fc_nsPairs_snoc (A : List HTree) (n p ns : Nat) :
    (A ++ [HTree.node n (.namespace p ns) []]).filterMap (fun k => fcNsPair k.value) =
      A.filterMap (fun k => fcNsPair k.value) ++ [(p, ns)] := by
  rw [List.filterMap_append]
  rfl

theorem addSpec_shape : ∀ (order : List (Nat × Nat)) (A B : List HTree) (n : Nat),
    (∀ x ∈ A, (x.value.category == Category.namespace) = true) →
    (∀ y, B.head? = some y → (y.value.category == Category.namespace) = false) →
    ∃ New, (∀ x ∈ New, IsNsLeaf x) ∧ (addSpec (A ++ B) n order).1 = A ++ New ++ B
  | [], A, B, n, _, _ => ⟨[], by simp, by simp [addSpec]⟩
  | (p, ns) :: rest, A, B, n, hA, hB => by
    rw [addSpec_cons A B n p ns rest hA hB]
    split
    · exact addSpec_shape rest A B n hA hB
    · obtain ⟨New, h1, h2⟩ :=
        addSpec_shape rest (A ++ [HTree.node n (.namespace p ns) []]) B (n + 1) (fc_nsCat_snoc hA n p ns) hB
      refine ⟨.node n (.namespace p ns) [] :: New, ?_, ?_⟩
      · intro x hx
        rcases List.mem_cons.mp hx with rfl | h
        · exact ⟨n, p, ns, rfl⟩
        · exact h1 x h
      · rw [h2]; simp

theorem declsOfKids_split (A B : List HTree)
    (hA : ∀ x ∈ A, (x.value.category == Category.namespace) = true)
    (hB : ∀ y, B.head? = some y → (y.value.category == Category.namespace) = false) :
    fcDeclsOfKids (A ++ B) = A.filterMap (fun k => fcNsPair k.value) := by
  unfold fcDeclsOfKids
  rw [(takeWhile_split _ A B hA hB).1]

/-- The loop's test: is the prefix declared by a namespace child? -/
theorem find_key_iff (A : List HTree) (hA : ∀ x ∈ A, (x.value.category == Category.namespace) = true)
    (p : Nat) :
    (A.find? (fun c => Forest.entryKey c.value == p)).isSome = true ↔
      ∃ b ∈ A.filterMap (fun k => fcNsPair k.value), b.1 = p := by
  rw [List.find?_isSome]
  constructor
  · rintro ⟨x, hx, hk⟩
    obtain ⟨ns, e⟩ := fcNsPair_of_ns (hA x hx)
    exact ⟨_, List.mem_filterMap.mpr ⟨x, hx, e⟩, beq_iff_eq.mp hk⟩
  · rintro ⟨b, hb, rfl⟩
    obtain ⟨x, hx, hp⟩ := List.mem_filterMap.mp hb
    refine ⟨x, hx, ?_⟩
    rw [fcNsPair_some hp]
    exact beq_self_eq_true b.1

/-- Every prefix of `order` whose only declarations so far are itself ends up declared. -/
theorem addSpec_declares : ∀ (order : List (Nat × Nat)) (A B : List HTree) (n : Nat),
    (∀ x ∈ A, (x.value.category == Category.namespace) = true) →
    (∀ y, B.head? = some y → (y.value.category == Category.namespace) = false) →
    (∀ a ∈ order, ∀ b ∈ order, a.1 = b.1 → a = b) →
    (∀ x ∈ A.filterMap (fun k => fcNsPair k.value), x ∈ fcDeclsOfKids (addSpec (A ++ B) n order).1) ∧
    ∀ b ∈ order, (∀ x ∈ A.filterMap (fun k => fcNsPair k.value), x.1 = b.1 → x = b) →
      b ∈ fcDeclsOfKids (addSpec (A ++ B) n order).1
  | [], A, B, n, hA, hB, _ => by
    simp only [addSpec]
    rw [declsOfKids_split A B hA hB]
    exact ⟨fun x hx => hx, fun b hb => by cases hb⟩
  | (p, ns) :: rest, A, B, n, hA, hB, hfun => by
    have hfun' : ∀ a ∈ rest, ∀ b ∈ rest, a.1 = b.1 → a = b :=
      fun a ha b hb => hfun a (List.mem_cons_of_mem _ ha) b (List.mem_cons_of_mem _ hb)
    rw [addSpec_cons A B n p ns rest hA hB]
    split
    · next hs =>
      obtain ⟨mono, ih⟩ := addSpec_declares rest A B n hA hB hfun'
      refine ⟨mono, ?_⟩
      intro b hb hyp
      rcases List.mem_cons.mp hb with rfl | hb'
      · obtain ⟨x, hx, hk⟩ := (find_key_iff A hA _).mp hs
        rw [← hyp x hx hk]
        exact mono _ hx
      · exact ih b hb' hyp
    · obtain ⟨mono, ih⟩ := addSpec_declares rest (A ++ [HTree.node n (.namespace p ns) []]) B (n + 1)
        (fc_nsCat_snoc hA n p ns) hB hfun'
      rw [fc_nsPairs_snoc] at mono ih
      refine ⟨fun x hx => mono x (List.mem_append_left _ hx), ?_⟩
      intro b hb hyp
      rcases List.mem_cons.mp hb with rfl | hb'
      · exact mono _ (List.mem_append_right _ (List.mem_singleton.mpr rfl))
      · apply ih b hb'
        intro x hx hk
        rcases List.mem_append.mp hx with h | h
        · exact hyp x h hk
        · rw [List.mem_singleton.mp h] at hk ⊢
          exact hfun _ List.mem_cons_self b hb hk

/-- Every declaration of the result was there before or comes from `order` (and then its prefix
    was not declared before). -/
theorem addSpec_decls_sub : ∀ (order : List (Nat × Nat)) (A B : List HTree) (n : Nat),
    (∀ x ∈ A, (x.value.category == Category.namespace) = true) →
    (∀ y, B.head? = some y → (y.value.category == Category.namespace) = false) →
    ∀ b ∈ fcDeclsOfKids (addSpec (A ++ B) n order).1,
      b ∈ A.filterMap (fun k => fcNsPair k.value) ∨
      (b ∈ order ∧ ∀ x ∈ A.filterMap (fun k => fcNsPair k.value), x.1 ≠ b.1)
  | [], A, B, n, hA, hB => by
    intro b hb
    simp only [addSpec] at hb
    rw [declsOfKids_split A B hA hB] at hb
    exact Or.inl hb
  | (p, ns) :: rest, A, B, n, hA, hB => by
    rw [addSpec_cons A B n p ns rest hA hB]
    intro b hb
    split at hb
    · rcases addSpec_decls_sub rest A B n hA hB b hb with h | ⟨h1, h2⟩
      · exact Or.inl h
      · exact Or.inr ⟨List.mem_cons_of_mem _ h1, h2⟩
    · next hs =>
      have hnokey : ∀ x ∈ A.filterMap (fun k => fcNsPair k.value), x.1 ≠ p :=
        fun x hx e' => hs ((find_key_iff A hA p).mpr ⟨x, hx, e'⟩)
      rcases addSpec_decls_sub rest (A ++ [HTree.node n (.namespace p ns) []]) B (n + 1)
        (fc_nsCat_snoc hA n p ns) hB b hb with h | ⟨h1, h2⟩
      · rw [fc_nsPairs_snoc] at h
        rcases List.mem_append.mp h with h' | h'
        · exact Or.inl h'
        · rw [List.mem_singleton.mp h']
          exact Or.inr ⟨List.mem_cons_self, hnokey⟩
      · rw [fc_nsPairs_snoc] at h2
        exact Or.inr ⟨List.mem_cons_of_mem _ h1, fun x hx => h2 x (List.mem_append_left _ hx)⟩

/-! #### attributes and writability do not see the new declaration leaves -/

theorem attrs_eq (t : Tree) : t.attrs = t.attributeNodes.filterMap (fun k => match k.value with
    | .attribute n v => some (n, v)
    | _ => none) := rfl

theorem attributeNodes_insert (v : Value) (A New B : List HTree)
    (hA : ∀ x ∈ A, (x.value.category == Category.namespace) = true)
    (hN : ∀ x ∈ New, IsNsLeaf x) :
    (Tree.node v (eraseList (A ++ New ++ B))).attributeNodes = (Tree.node v (eraseList (A ++ B))).attributeNodes := by
  simp only [Tree.attributeNodes, Tree.kids, eraseList_map, List.map_append]
  have h1 : ∀ a ∈ A.map erase ++ New.map erase, (a.value.category == Category.namespace) = true := by
    intro a ha
    rcases List.mem_append.mp ha with h | h
    · obtain ⟨x, hx, rfl⟩ := List.mem_map.mp h
      rw [Reach.erase_value]; exact hA x hx
    · obtain ⟨x, hx, rfl⟩ := List.mem_map.mp h
      rw [Reach.erase_value]; exact (hN x hx).cat
  have h2 : ∀ a ∈ A.map erase, (a.value.category == Category.namespace) = true :=
    fun a ha => h1 a (List.mem_append_left _ ha)
  rw [List.dropWhile_append_of_pos h1, List.dropWhile_append_of_pos h2]

theorem writableList_append (env : Env) (s : FStack) (A B : List Tree) :
    writableList env s (A ++ B) = (writableList env s A && writableList env s B) := by
  induction A with
  | nil => simp [writableList]
  | cons a A ih => simp [writableList, ih, Bool.and_assoc]

theorem writableList_nsLeaves (env : Env) (s : FStack) (New : List HTree) (hN : ∀ x ∈ New, IsNsLeaf x) :
    writableList env s (eraseList New) = true := by
  induction New with
  | nil => rfl
  | cons x New ih =>
    obtain ⟨h, p, ns, rfl⟩ := hN x List.mem_cons_self
    simp only [eraseList, erase, writableList, writableTree, Bool.true_and]
    exact ih (fun y hy => hN y (List.mem_cons_of_mem _ hy))

theorem writableList_insert (env : Env) (s : FStack) (A New B : List HTree) (hN : ∀ x ∈ New, IsNsLeaf x) :
    writableList env s (eraseList (A ++ New ++ B)) = writableList env s (eraseList (A ++ B)) := by
  simp only [eraseList_append, writableList_append, writableList_nsLeaves env s New hN, Bool.and_true]

end XotModel

/-! ## Small facts about `pathTo`, `unresolved_namespaces`, and the clone as a root of the result. -/

namespace XotModel
open HTree

mutual
  theorem pathTo_find (h : Nat) : ∀ (t : HTree),
      (∀ s rest, HTree.pathTo h t = some (s :: rest) → find? h t = some s) ∧
      (HTree.pathTo h t = none → find? h t = none) ∧ (find? h t = none → HTree.pathTo h t = none)
    | .node h' v ks => by
      obtain ⟨i1, i2, i3⟩ := pathToList_find h ks
      unfold HTree.pathTo find?
      by_cases e : h' = h
      · simp only [if_pos e]
        refine ⟨?_, ?_, ?_⟩
        · intro s rest hs
          simp only [Option.some.injEq, List.cons.injEq] at hs
          rw [hs.1]
        · intro hn; cases hn
        · intro hn; cases hn
      · simp only [if_neg e]
        refine ⟨?_, ?_, ?_⟩
        · intro s rest hs
          cases hp : HTree.pathToList h ks with
          | none => rw [hp] at hs; cases hs
          | some l =>
            rw [hp] at hs
            obtain ⟨s', rest', rfl, _⟩ := pathToList_head h ks l hp
            simp only [List.cons_append, Option.some.injEq, List.cons.injEq] at hs
            rw [← hs.1]
            exact i1 s' rest' hp
        · intro hn
          cases hp : HTree.pathToList h ks with
          | none => exact i2 hp
          | some l => rw [hp] at hn; cases hn
        · intro hn
          rw [i3 hn]
  theorem pathToList_find (h : Nat) : ∀ (ks : List HTree),
      (∀ s rest, HTree.pathToList h ks = some (s :: rest) → findList? h ks = some s) ∧
      (HTree.pathToList h ks = none → findList? h ks = none) ∧
      (findList? h ks = none → HTree.pathToList h ks = none)
    | [] => by simp [HTree.pathToList, findList?]
    | k :: ks => by
      obtain ⟨i1, i2, i3⟩ := pathTo_find h k
      obtain ⟨j1, j2, j3⟩ := pathToList_find h ks
      unfold HTree.pathToList findList?
      cases hp : HTree.pathTo h k with
      | some l =>
        obtain ⟨s', rest', rfl, _⟩ := pathTo_head h k l hp
        have := i1 s' rest' hp
        simp only [this]
        refine ⟨?_, ?_, ?_⟩
        · intro s rest hs
          simp only [Option.some.injEq, List.cons.injEq] at hs
          rw [hs.1]
        · intro hn; cases hn
        · intro hn; cases hn
      | none =>
        simp only [i2 hp]
        exact ⟨j1, j2, j3⟩
end

theorem findSome?_pathTo (h : Nat) (src : HTree) (rest : List HTree) : ∀ (L : List HTree),
    L.findSome? (HTree.pathTo h) = some (src :: rest) →
    findList? h L = some src ∧ ∃ r ∈ L, HTree.pathTo h r = some (src :: rest)
  | [], hs => by simp at hs
  | t :: L, hs => by
    rw [List.findSome?_cons] at hs
    simp only [findList?]
    cases hpt : HTree.pathTo h t with
    | some l =>
      rw [hpt] at hs
      cases hs
      rw [(pathTo_find h t).1 src rest hpt]
      exact ⟨rfl, t, by simp, hpt⟩
    | none =>
      rw [hpt] at hs
      rw [(pathTo_find h t).2.1 hpt]
      obtain ⟨h1, r, hr, h2⟩ := findSome?_pathTo h src rest L hs
      exact ⟨h1, r, by simp [hr], h2⟩

theorem Forest.get?_of_pathTo {f : Forest} {h : Nat} {src : HTree} {rest : List HTree}
    (hp : f.pathTo h = src :: rest) :
    f.get? h = some src ∧ ∃ r ∈ f.roots, HTree.pathTo h r = some (src :: rest) := by
  unfold Forest.pathTo at hp
  unfold Forest.get?
  have hs : f.roots.findSome? (HTree.pathTo h) = some (src :: rest) := by
    cases hfs : f.roots.findSome? (HTree.pathTo h) with
    | none => rw [hfs] at hp; simp at hp
    | some l => rw [hfs] at hp; simp at hp; rw [hp]
  exact findSome?_pathTo h src rest f.roots hs

theorem pathTo_top (g : Forest) (R : List HTree) (c : Nat) (vc : Value) (K : List HTree)
    (hr : g.roots = R ++ [.node c vc K]) (hn : c ∉ handlesList R) : g.pathTo c = [.node c vc K] := by
  unfold Forest.pathTo
  rw [hr, List.findSome?_append]
  have : R.findSome? (HTree.pathTo c) = none := by
    clear hr
    induction R with
    | nil => rfl
    | cons a R ih =>
      simp only [handlesList, List.mem_append, not_or] at hn
      rw [List.findSome?_cons, (pathTo_find c a).2.2 (find?_none_of_not_mem c a hn.1)]
      exact ih hn.2
  rw [this]
  simp [HTree.pathTo]

/-! #### unresolved namespaces are never the empty or the XML namespace -/

theorem unresolvedHere_nontrivial (env : Env) (s : FStack) (name : Nat) (attrs : List Nat) :
    ∀ n ∈ unresolvedHere env s name attrs, n ≠ Env.noNamespace ∧ n ≠ Env.xmlNamespace := by
  intro n hn
  unfold unresolvedHere at hn
  rcases List.mem_append.mp hn with h | h
  · split at h
    · rename_i herr
      simp only [List.mem_singleton] at h
      subst h
      have : ¬ NameOK env s.top name false := by
        rw [← elementPrefix_ok]; simp [herr]
      exact ⟨fun e => this (Or.inl e), fun e => this (Or.inr (Or.inl e))⟩
    · cases h
  · obtain ⟨a, _, ha⟩ := List.mem_filterMap.mp h
    split at ha
    · rename_i herr
      cases ha
      have : ¬ NameOK env s.top a true := by
        rw [← attributePrefix_ok]; simp [herr]
      exact ⟨fun e => this (Or.inl e), fun e => this (Or.inr (Or.inl e))⟩
    · cases ha

mutual
  theorem unresolvedTree_nontrivial (env : Env) : ∀ (t : Tree) (s : FStack),
      ∀ n ∈ unresolvedTree env s t, n ≠ Env.noNamespace ∧ n ≠ Env.xmlNamespace
    | .node v ks, s => by
      intro n hn
      cases v with
      | element name =>
        simp only [unresolvedTree, List.mem_append] at hn
        rcases hn with h | h
        · exact unresolvedHere_nontrivial env _ _ _ n h
        · exact unresolvedList_nontrivial env ks _ n h
      | _ => exact unresolvedList_nontrivial env ks s n (by simpa [unresolvedTree] using hn)
  theorem unresolvedList_nontrivial (env : Env) : ∀ (ks : List Tree) (s : FStack),
      ∀ n ∈ unresolvedList env s ks, n ≠ Env.noNamespace ∧ n ≠ Env.xmlNamespace
    | [], _ => by intro n hn; simp [unresolvedList] at hn
    | k :: ks, s => by
      intro n hn
      simp only [unresolvedList, List.mem_append] at hn
      rcases hn with h | h
      · exact unresolvedTree_nontrivial env k s n h
      · exact unresolvedList_nontrivial env ks s n h
end

/-- What `namespaces_in_scope` lists for a single tree comes from its declarations or is the `xml`
    binding. -/
theorem inScope_single (t : Tree) (b : Nat × Nat) (hb : b ∈ namespacesInScopeChain [t]) :
    b ∈ t.nsDecls ∨ b = (Env.xmlPrefix, Env.xmlNamespace) := by
  unfold namespacesInScopeChain at hb
  simp only [traverseChain, List.append_nil, List.mem_append, List.mem_filter] at hb
  rcases hb with h | ⟨h, _⟩
  · exact Or.inl (traverseDecls_out_sub t.nsDecls [] b h)
  · simp only [basePrefixes, List.mem_singleton] at h
    exact Or.inr h

end XotModel
