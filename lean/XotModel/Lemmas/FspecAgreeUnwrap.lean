/-
  The two readings of `element_unwrap` agree on forests without adjacent text nodes:
  `specUnwrapP = specUnwrap keep` (spec against spec, no model).  One child list: the normal
  children `K` of the wrapper between its left siblings `l` and its right siblings `r`, all three
  free of adjacent text.  The first pair merge is the whole-run merge of `l ++ K`; what it leaves
  is again free of adjacent text, so the whole-run merge of the list is one more pair merge at
  the seam before `r` — the second of the pair reading, or the third when the only child has
  vanished into the last of `l` (`mergeRuns_eq_three`).
-/
import XotModel.Lemmas.FspecAgreeMove
import XotModel.Lemmas.FspecFrameComposite
import XotModel.Lemmas.FspecMergeRunsAlgebra

namespace XotModel
open HTree Spec

namespace PairAll

theorem mergeAdj_append_right {a b : Nat} {Q : List HTree} (hQ : ∀ y ∈ Q, y.handle ≠ b) :
    ∀ (P : List HTree), mergeAdj a b (P ++ Q) = mergeAdj a b P ++ Q
  | [] => by rw [List.nil_append, mergeAdj_nil, List.nil_append]; exact mergeAdj_no_b Q hQ
  | [x] => by
    rw [mergeAdj_single]
    cases Q with
    | nil => exact mergeAdj_single a b x
    | cons y Q' =>
      show mergeAdj a b (x :: y :: Q') = x :: y :: Q'
      rw [mergeAdj_cons_cons, if_neg (fun e => hQ y (by simp) e.2), mergeAdj_no_b (y :: Q') hQ]
  | x :: y :: P' => by
    show mergeAdj a b (x :: y :: (P' ++ Q)) = mergeAdj a b (x :: y :: P') ++ Q
    rw [mergeAdj_cons_cons, mergeAdj_cons_cons]
    split
    · cases joinLeft x y <;> rfl
    · have ih := mergeAdj_append_right (a := a) hQ (y :: P')
      rw [List.cons_append] at ih
      rw [ih]; rfl

theorem mergeAdj_other_pred {a bh : Nat} {z b : HTree} {R : List HTree} (hz : z.handle ≠ a)
    (hR : ∀ y ∈ R, y.handle ≠ bh) (hzb : z.handle ≠ bh) :
    ∀ (Z0 : List HTree), (∀ y ∈ Z0, y.handle ≠ bh) → mergeAdj a bh (Z0 ++ z :: b :: R) = Z0 ++ z :: b :: R
  | [], _ => by
    have hb : mergeAdj a bh (b :: R) = b :: R := by
      cases R with
      | nil => exact mergeAdj_single a bh b
      | cons y R' =>
        rw [mergeAdj_cons_cons, if_neg (fun e => hR y (by simp) e.2), mergeAdj_no_b (y :: R') hR]
    rw [List.nil_append, mergeAdj_cons_cons, if_neg (fun e => hz e.1), hb]
  | x :: Z0', h => by
    have ih := mergeAdj_other_pred (b := b) hz hR hzb Z0' (fun y hy => h y (List.mem_cons_of_mem _ hy))
    cases Z0' with
    | nil =>
      show mergeAdj a bh (x :: z :: b :: R) = _
      rw [mergeAdj_cons_cons, if_neg (fun e => hzb e.2)]
      rw [List.nil_append] at ih
      rw [ih]; rfl
    | cons y Z0'' =>
      show mergeAdj a bh (x :: y :: (Z0'' ++ z :: b :: R)) = _
      rw [mergeAdj_cons_cons, if_neg (fun e => h y (by simp) e.2)]
      rw [List.cons_append] at ih
      rw [ih]; rfl

theorem adjOpt_none_left (b : Option Nat) : adjOpt (none, b) = id := rfl
theorem adjOpt_none_right (a : Option Nat) : adjOpt (a, none) = id := by cases a <;> rfl

/-- After the pair merge of the last child `z` of `Z` with the child `b` behind it, `b` does not
    follow a child called `a ≠ z`: a pair merge `a b` finds nothing. -/
theorem mergeAdj_after_last {a : Nat} {Z0 : List HTree} {z b : HTree} {R : List HTree}
    (nd : (handlesList (Z0 ++ z :: b :: R)).Nodup) (hz : z.handle ≠ a) :
    mergeAdj a b.handle (mergeAdj z.handle b.handle (Z0 ++ z :: b :: R)) =
      mergeAdj z.handle b.handle (Z0 ++ z :: b :: R) := by
  obtain ⟨tz0, tzR⟩ := tops_ne_of_nodup nd
  have e : Z0 ++ z :: b :: R = (Z0 ++ [z]) ++ b :: R := by simp
  obtain ⟨tb0, tbR⟩ := tops_ne_of_nodup (e ▸ nd)
  have hzb : z.handle ≠ b.handle := tb0 z (by simp)
  have hZ0b : ∀ y ∈ Z0, y.handle ≠ b.handle := fun y hy => tb0 y (by simp [hy])
  by_cases hb : z.value.isText = true ∧ b.value.isText = true
  · obtain ⟨x, hx⟩ := text_of_isText hb.1
    obtain ⟨y, hy⟩ := text_of_isText hb.2
    rw [mergeAdj_mid_text hx hy R tz0]
    apply mergeAdj_no_b
    intro k hk
    rcases List.mem_append.1 hk with h | h
    · exact hZ0b k h
    · rcases List.mem_cons.1 h with h | h
      · rw [h, setValue_handle]; exact hzb
      · exact tbR k h
  · rw [mergeAdj_mid_other hb R tz0]
    exact mergeAdj_other_pred hz tbR hzb Z0 hZ0b

/-- **The wrapper's children at its place**: `K` (free of adjacent text) put between `l` and `r`
    (each free of adjacent text).  Merging the maximal runs is the three pair merges of the pair
    reading: `(last l, head K)`, `(last K, head r)`, and `(last l, head r)` for the case that
    nothing is left between the two (no child at all, or an only child merged into `last l`). -/
theorem mergeRuns_eq_three {keep : Keep} {l K r : List HTree} (hl : noAdjacentText l = true)
    (hK : noAdjacentText K = true) (hr : noAdjacentText r = true) (nd : (handlesList ((l ++ K) ++ r)).Nodup)
    (hkeep : ∀ x ∈ l ++ K, ∀ b, keep x.handle b = true) :
    adjOpt (l.getLast?.map (·.handle), r.head?.map (·.handle))
      (adjOpt (K.getLast?.map (·.handle), r.head?.map (·.handle))
        (adjOpt (l.getLast?.map (·.handle), K.head?.map (·.handle)) ((l ++ K) ++ r))) =
      mergeRuns keep ((l ++ K) ++ r) := by
  have nd' := nd
  rw [handlesList_append] at nd'
  obtain ⟨ndlK, _, hdisj⟩ := List.nodup_append.1 nd'
  have hdis : ∀ x ∈ l ++ K, ∀ y ∈ r, x.handle ≠ y.handle := fun x hx y hy =>
    hdisj _ (IsTop.mem_handlesList ⟨x, hx, rfl⟩) _ (IsTop.mem_handlesList ⟨y, hy, rfl⟩)
  -- the first merge is the whole-run merge of `l ++ K`; what it leaves is free of adjacent text
  have hZ := mergeRuns_eq_mergeAdj (keep := keep) hl hK ndlK
    (fun a ha => hkeep a (List.mem_append_left _ (List.mem_of_getLast? ha)))
  have hnZ := noAdj_mergeRuns keep (l ++ K)
  have ndZr : (handlesList (mergeRuns keep (l ++ K) ++ r)).Nodup := by
    rw [handlesList_append]
    exact ((handlesList_mergeRuns_sublist keep _).append (List.Sublist.refl _)).nodup nd'
  have hkeepZ : ∀ z, (mergeRuns keep (l ++ K)).getLast? = some z → ∀ b, keep z.handle b = true := by
    intro z hz b
    obtain ⟨k', hk', e⟩ := mergeRuns_tops keep (List.mem_of_getLast? hz)
    rw [e]; exact hkeep k' hk' b
  have step1 : adjOpt (l.getLast?.map (·.handle), K.head?.map (·.handle)) ((l ++ K) ++ r) =
      mergeRuns keep (l ++ K) ++ r := by
    rw [hZ]
    cases hla : l.getLast? with
    | none => rfl
    | some a =>
      cases hkf : K.head? with
      | none => rfl
      | some k =>
        exact mergeAdj_append_right
          (fun y hy e => hdis k (List.mem_append_right _ (List.mem_of_head? hkf)) y hy e.symm) (l ++ K)
  rw [step1, ← mergeRuns_mergeRuns_append keep (l ++ K) r, mergeRuns_eq_mergeAdj hnZ hr ndZr hkeepZ]
  generalize hZdef : mergeRuns keep (l ++ K) = Z at hZ ndZr
  cases r with
  | nil => simp only [List.head?_nil, Option.map_none, adjOpt_none_right]; rfl
  | cons b r' =>
  simp only [List.head?_cons, Option.map_some]
  rcases List.eq_nil_or_concat K with eK | ⟨K0, kl, eK⟩
  · -- no child: the third merge is the only one
    subst eK
    rw [List.getLast?_nil, Option.map_none, adjOpt_none_left, List.head?_nil, Option.map_none, adjOpt_none_right,
      List.append_nil] at *
    rw [hZ]; rfl
  · rw [List.concat_eq_append] at eK
    subst eK
    have hklast : (K0 ++ [kl]).getLast? = some kl := List.getLast?_concat
    rw [hklast, Option.map_some]
    cases hla : l.getLast? with
    | none =>
      -- nothing before the children
      have : l = [] := List.getLast?_eq_none_iff.1 hla
      subst this
      rw [hla, Option.map_none, adjOpt_none_left] at hZ
      rw [Option.map_none, adjOpt_none_left, hZ]
      simp only [id, List.nil_append, hklast, Option.map_some]
    | some a =>
      obtain ⟨l', rfl⟩ := List.getLast?_eq_some_iff.1 hla
      rw [hla, Option.map_some] at hZ
      rw [Option.map_some]
      have e0 : l' ++ [a] ++ (K0 ++ [kl]) = l' ++ a :: (K0 ++ [kl]) := by simp
      rw [e0] at ndlK hZ
      obtain ⟨tl', tK⟩ := tops_ne_of_nodup ndlK
      have hkla : kl.handle ≠ a.handle := tK kl (by simp)
      -- the last child is still there after the first merge: the third merge finds nothing
      have finish : ∀ Z0, Z = Z0 ++ [kl] →
          adjOpt (some a.handle, some b.handle) (adjOpt (some kl.handle, some b.handle) (Z ++ b :: r')) =
            adjOpt (Option.map (fun x => x.handle) Z.getLast?, some b.handle) (Z ++ b :: r') := by
        intro Z0 e
        have e2 : (Z0 ++ [kl]) ++ b :: r' = Z0 ++ kl :: b :: r' := by simp
        rw [e, List.getLast?_concat, e2]
        rw [e, e2] at ndZr
        exact mergeAdj_after_last ndZr hkla
      cases K0 with
      | nil =>
        simp only [List.nil_append, List.head?_cons, Option.map_some, adjOpt] at hZ
        by_cases hb : a.value.isText = true ∧ kl.value.isText = true
        · -- the only child is merged into `a`: the second merge finds nothing, the third is the merge of `Z`'s end
          obtain ⟨x, hx⟩ := text_of_isText hb.1
          obtain ⟨y, hy⟩ := text_of_isText hb.2
          rw [mergeAdj_mid_text hx hy [] tl'] at hZ
          have hno : adjOpt (some kl.handle, some b.handle) (Z ++ b :: r') = Z ++ b :: r' := by
            apply mergeAdj_of_not_top
            intro k hk e
            rw [hZ] at hk
            rcases List.mem_append.1 hk with h | h
            · rcases List.mem_append.1 h with h | h
              · have := (tops_ne_of_nodup (show (handlesList ((l' ++ [a]) ++ kl :: [])).Nodup by simpa using ndlK)).1 k
                  (List.mem_append_left _ h)
                exact this e
              · simp only [List.mem_singleton] at h
                rw [h, setValue_handle] at e
                exact hkla e.symm
            · exact hdis kl (by simp) k h e.symm
          rw [hno, hZ, List.getLast?_concat, Option.map_some, setValue_handle]
        · rw [mergeAdj_mid_other hb [] tl'] at hZ
          exact finish (l' ++ [a]) (by rw [hZ]; simp)
      | cons k1 K0' =>
        simp only [List.cons_append, List.head?_cons, Option.map_some, adjOpt] at hZ
        by_cases hb : a.value.isText = true ∧ k1.value.isText = true
        · obtain ⟨x, hx⟩ := text_of_isText hb.1
          obtain ⟨y, hy⟩ := text_of_isText hb.2
          rw [mergeAdj_mid_text hx hy _ tl'] at hZ
          exact finish (l' ++ a.setValue (.text (x ++ y)) :: K0') (by rw [hZ]; simp)
        · rw [mergeAdj_mid_other hb _ tl'] at hZ
          exact finish (l' ++ a :: k1 :: K0') (by rw [hZ]; simp)

end PairAll

open PairAll

/-- **The two readings of `element_unwrap` agree on forests without adjacent text nodes** (any
    survivor rule that keeps a node other than the wrapper when it is the earlier one). -/
theorem specUnwrapP_eq_specUnwrap {f : Forest} {n : Nat} {keep : Keep} (hkeep : ∀ a b, a ≠ n → keep a b = true)
    (inv : f.Inv) (norm : f.Normal) : specUnwrapP n f = specUnwrap keep n f := by
  have nd := inv.nodup
  cases hctx : f.ctx? n with
  | none =>
    have hpar := Forest.parent?_of_no_ctx hctx
    unfold specUnwrapP specUnwrap
    rw [hpar]
    rfl
  | some c =>
    obtain ⟨e0, v, s⟩ := SiteAt.of_ctx nd hctx
    obtain ⟨p, l, W, r⟩ := c
    simp only at e0 s
    subst e0
    have hpar : f.parent? W.handle = some p := Forest.parent?_of_ctx? hctx
    obtain ⟨ndL, _⟩ := s.nodupKids
    obtain ⟨tl, tr⟩ := tops_ne_of_nodup ndL
    rw [specUnwrapP_kid hpar]
    unfold specUnwrap
    rw [hpar]
    simp only
    rw [mergeAt_eq_mergeOpt, Forest.editAt_consolidation, Forest.editAt_editAt]
    apply s.congr
    simp only [Function.comp]
    cases hc : f.consolidation with
    | false => rfl
    | true =>
      show adjOpt _ (adjOpt _ (adjOpt _ _)) = mergeRuns keep _
      have hstrict : validList true f.roots = true := norm hc
      have hnoL : noAdjacentText (l ++ W :: r) = true := (validTree_node (s.valid hstrict)).2.2.1 rfl
      obtain ⟨hnl, hnWr, _⟩ := noAdj_append.1 hnoL
      have hnr : noAdjacentText r = true := noAdj_tail hnWr
      have hvW := validList_all _ _ (validTree_node (s.valid hstrict)).2.2.2 W
        (List.mem_append_right _ List.mem_cons_self)
      have hW : kidsOrdered W.kids = true ∧ noAdjacentText W.kids = true := by
        cases W with
        | node h v ks => exact ⟨(validTree_node hvW).2.1, (validTree_node hvW).2.2.1 rfl⟩
      have hnK : noAdjacentText (W.kids.filter (fun k => k.value.isNormal)) = true := by
        have h := hW.2
        rw [← List.takeWhile_append_dropWhile (p := abn) (l := W.kids)] at h
        rw [filter_normal_eq_dropWhile hW.1]
        exact (noAdj_append.1 h).2.1
      have hkids : f.kidsOf W.handle = W.kids := by
        unfold Forest.kidsOf
        rw [s.getKid]
      rw [s.nbOf, hkids, replaceTop_mid rfl tl]
      refine mergeRuns_eq_three hnl hnK hnr ?_ (fun x hx b => hkeep _ _ ?_)
      · -- the children of the wrapper are among its handles
        refine List.Sublist.nodup ?_ ndL
        simp only [handlesList_append, handlesList_cons, handles_eq W, List.append_assoc]
        refine (List.Sublist.refl _).append (List.Sublist.append ?_ (List.Sublist.refl _))
        exact List.Sublist.cons _ (Fmap.handlesList_filter_sublist _ _)
      · rcases List.mem_append.1 hx with h | h
        · exact tl x h
        · intro e
          have hxW : x.handle ∈ handlesList W.kids := IsTop.mem_handlesList ⟨x, (List.mem_filter.1 h).1, rfl⟩
          have ndW : (handles W).Nodup := (Fmap.handles_sublist_of_mem (show W ∈ l ++ W :: r by simp)).nodup ndL
          rw [handles_eq W, List.nodup_cons] at ndW
          exact ndW.1 (e ▸ hxW)

end XotModel
