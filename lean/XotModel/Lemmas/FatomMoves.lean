/-
  The four moves: the indextree `checked_*` calls under their list-semantics preconditions, what a passed structure
  check says (`Checked`), the old-site consolidation (`OldSite`), `moveTail_ok`, `append_ok … insertBefore_ok`, and
  `*_run` / `*_outcome` (refused with nothing changed exactly when the checks fail, otherwise `MoveOk`).
-/
import XotModel.Lemmas.FatomNav
import XotModel.Lemmas.FatomPlace
import XotModel.Lemmas.ManipShape

/-! ## The `checked_*` calls, the structure check, the old-site consolidation -/

namespace XotModel
open HTree

namespace Forest

theorem cut_of_isLive {f : Forest} (w : f.W) {c : Nat} (hl : f.isLive c = true) :
    ∃ f' t, f.cut c = (f', some t) ∧ f'.corrupt = f.corrupt := by
  obtain ⟨t, hg⟩ := get?_of_isLive hl
  obtain ⟨h1, _, _, fr, _⟩ := cut_spec w hg
  refine ⟨(f.cut c).1, t, ?_, fr.corrupt⟩
  rw [← h1]

/-! ### The indextree `checked_*` calls under their list-semantics preconditions -/

/-- Result of a successful `checked_*`: accepted, invariant kept, only the moved subtree touched. -/
structure CheckedOk (f : Forest) (r : Forest × Bool) (c : Nat) : Prop where
  ok : r.2 = true
  w : r.1.W
  frame : ∀ tc, f.get? c = some tc → Frame f r.1 (handles tc)
  count : ∀ a, r.1.allHandles.count a = f.allHandles.count a

/-! The accepted `checked_*` calls written out: cut, then place. -/

theorem checkedAppend_eq {f : Forest} {p c : Nat} {tc : HTree} (hg : f.get? c = some tc)
    (w : f.W) (hpc : p ≠ c) (ha : c ∉ f.ancestors p) :
    f.checkedAppend p c = ((f.cut c).1.placeLast p tc, true) := by
  have h1 := (cut_spec w hg).1
  unfold checkedAppend
  have hcond : (p = c || (f.ancestors p).contains c) = false := by simp [hpc, ha]
  simp only [hcond, Bool.false_eq_true, if_false]
  rcases hc : f.cut c with ⟨f', o⟩
  rw [hc] at h1; simp only at h1; subst h1; rfl

theorem checkedPrepend_eq {f : Forest} {p c : Nat} {tc : HTree} (hg : f.get? c = some tc)
    (w : f.W) (hpc : p ≠ c) (ha : c ∉ f.ancestors p) :
    f.checkedPrepend p c = ((f.cut c).1.placeFirst p tc, true) := by
  have h1 := (cut_spec w hg).1
  unfold checkedPrepend
  have hcond : (p = c || (f.ancestors p).contains c) = false := by simp [hpc, ha]
  simp only [hcond, Bool.false_eq_true, if_false]
  rcases hc : f.cut c with ⟨f', o⟩
  rw [hc] at h1; simp only at h1; subst h1; rfl

theorem checkedInsertAfter_eq {f : Forest} {r n : Nat} {tn : HTree} (hg : f.get? n = some tn)
    (w : f.W) (hrn : r ≠ n) (ha : n ∉ f.ancestors r) (hr : f.isRoot r = false) :
    f.checkedInsertAfter r n = ((f.cut n).1.placeAfter r tn, true) := by
  have h1 := (cut_spec w hg).1
  unfold checkedInsertAfter
  have hcond : ((f.ancestors r).contains n || f.isRoot r) = false := by simp [ha, hr]
  simp only [hrn, hcond, Bool.false_eq_true, if_false]
  rcases hc : f.cut n with ⟨f', o⟩
  rw [hc] at h1; simp only at h1; subst h1; rfl

theorem checkedInsertBefore_eq {f : Forest} {r n : Nat} {tn : HTree} (hg : f.get? n = some tn)
    (w : f.W) (hrn : r ≠ n) (ha : n ∉ f.ancestors r) (hr : f.isRoot r = false) :
    f.checkedInsertBefore r n = ((f.cut n).1.placeBefore r tn, true) := by
  have h1 := (cut_spec w hg).1
  unfold checkedInsertBefore
  have hcond : ((f.ancestors r).contains n || f.isRoot r) = false := by simp [ha, hr]
  simp only [hrn, hcond, Bool.false_eq_true, if_false]
  rcases hc : f.cut n with ⟨f', o⟩
  rw [hc] at h1; simp only at h1; subst h1; rfl

/-- Cut, then place: the frames and the counts of the two steps add up. -/
theorem CheckedOk.of_place {f f2 : Forest} (w : f.W) {c : Nat} {tc : HTree} (hg : f.get? c = some tc)
    (h2 : f2.W ∧ (∀ a, f2.allHandles.count a = (f.cut c).1.allHandles.count a + (handles tc).count a) ∧
      Frame (f.cut c).1 f2 (handles tc)) : CheckedOk f (f2, true) c := by
  obtain ⟨_, _, hcount, fr1, _⟩ := cut_spec w hg
  obtain ⟨w2, hc2, fr2⟩ := h2
  refine ⟨rfl, w2, ?_, fun a => by have h3 := hcount a; have h4 := hc2 a; simp only; omega⟩
  intro tc' e
  rw [hg] at e; injection e with e; subst e
  exact (fr1.trans fr2).mono (fun x hx => by simpa using hx)

theorem checkedUnder_ok {f : Forest} (w : f.W) {p c : Nat} (hpc : p ≠ c)
    (ha : c ∉ f.ancestors p) (hl : f.isLive c = true) (hp : f.isLive p = true)
    (hc : f.isElement p = true ∨ f.isDocument p = true) :
    CheckedOk f (f.checkedAppend p c) c ∧ CheckedOk f (f.checkedPrepend p c) c := by
  obtain ⟨tc, hg⟩ := get?_of_isLive hl
  obtain ⟨_, w1, _, fr1, _⟩ := cut_spec w hg
  have fresh := cut_fresh w hg
  have hpt : p ∉ handles tc := not_mem_subtree w hg ha
  have hp1 : (f.cut c).1.isLive p = true := by rw [fr1.live p hpt]; exact hp
  have hc1 : (f.cut c).1.isElement p = true ∨ (f.cut c).1.isDocument p = true := by
    rw [fr1.isElement hpt, fr1.isDocument hpt]; exact hc
  constructor
  · rw [checkedAppend_eq hg w hpc ha]
    exact .of_place w hg (placeLast_spec w1 fresh hp1 hc1)
  · rw [checkedPrepend_eq hg w hpc ha]
    exact .of_place w hg (placeFirst_spec w1 fresh hp1 hc1)

theorem checkedBeside_ok {f : Forest} (w : f.W) {r n : Nat} (hrn : r ≠ n)
    (ha : n ∉ f.ancestors r) (hr : f.isRoot r = false) (hl : f.isLive n = true)
    (hlr : f.isLive r = true) :
    CheckedOk f (f.checkedInsertAfter r n) n ∧ CheckedOk f (f.checkedInsertBefore r n) n := by
  obtain ⟨tc, hg⟩ := get?_of_isLive hl
  obtain ⟨_, w1, _, fr1, _⟩ := cut_spec w hg
  have fresh := cut_fresh w hg
  have hrt : r ∉ handles tc := not_mem_subtree w hg ha
  have hr1 : (f.cut n).1.isLive r = true := by rw [fr1.live r hrt]; exact hlr
  have hroot1 : (f.cut n).1.isRoot r = false := by rw [fr1.isRoot w w1 hrt]; exact hr
  constructor
  · rw [checkedInsertAfter_eq hg w hrn ha hr]
    exact .of_place w hg (placeAfter_spec w1 fresh hr1 hroot1)
  · rw [checkedInsertBefore_eq hg w hrn ha hr]
    exact .of_place w hg (placeBefore_spec w1 fresh hr1 hroot1)

/-! ### What a passed structure check says -/

theorem Fatom.isLive_of_isElement {f : Forest} {p : Nat} (h : f.isElement p = true) :
    f.isLive p = true := by
  rw [isLive_iff_value?]; obtain ⟨n, e⟩ := Forest.value?_of_isElement h; rw [e]; rfl

theorem isDocument_value {f : Forest} {p : Nat} (h : f.isDocument p = true) :
    f.value? p = some .document := by
  unfold isDocument at h
  cases hv : f.value? p with
  | none => rw [hv] at h; cases h
  | some v =>
    rw [hv] at h
    cases v with
    | document => rfl
    | _ => cases h

structure Checked (f : Forest) (p c : Nat) : Prop where
  container : f.isElement p = true ∨ f.isDocument p = true
  notAnc : c ∉ f.ancestors p
  normal : ∃ v, f.value? c = some v ∧ v.category = .normal ∧ v.isDocument = false

theorem Fatom.structureCheck_iff {f : Forest} {p c : Nat} :
    f.structureCheck (some p) c = true ↔ Checked f p c := by
  rw [structureCheck_some_iff, List.contains_eq_mem, decide_eq_false_iff_not]
  exact ⟨fun ⟨h1, h2, h3⟩ => ⟨h1, h2, h3⟩, fun ⟨h1, h2, h3⟩ => ⟨h1, h2, h3⟩⟩

theorem structureCheck_some {f : Forest} {p c : Nat} (h : f.structureCheck (some p) c = true) :
    Checked f p c := Fatom.structureCheck_iff.1 h

theorem structureCheck_of_checked {f : Forest} {p c : Nat} (h : Checked f p c) :
    f.structureCheck (some p) c = true := Fatom.structureCheck_iff.2 h

theorem structureCheck_none {f : Forest} {c : Nat} : f.structureCheck none c = false := rfl

theorem Checked.liveP {f : Forest} {p c : Nat} (h : Checked f p c) : f.isLive p = true := by
  rw [isLive_iff_value?]
  rcases h.container with h' | h'
  · obtain ⟨n, e⟩ := Forest.value?_of_isElement h'; rw [e]; rfl
  · rw [isDocument_value h']; rfl

theorem Checked.liveC {f : Forest} {p c : Nat} (h : Checked f p c) : f.isLive c = true := by
  rw [isLive_iff_value?]
  obtain ⟨v, e, _⟩ := h.normal; rw [e]; rfl

theorem Checked.textNone {f : Forest} {p c : Nat} (h : Checked f p c) : f.textOf p = none := by
  unfold textOf
  rcases h.container with h' | h'
  · obtain ⟨n, e⟩ := Forest.value?_of_isElement h'; rw [e]
  · rw [isDocument_value h']

theorem Checked.ne {f : Forest} (w : f.W) {p c : Nat} (h : Checked f p c) : p ≠ c := by
  intro e; subst e
  exact h.notAnc (self_mem_ancestors w h.liveP)

/-! ### The old-site consolidation step of a move -/

/-- Frames that only delete text leaves keep the chain of every surviving node. -/
theorem Frame.keepAll {f f1 : Forest} {P : List Nat} (fr : Frame f f1 P) (w : f.W)
    (w1 : f1.W) (hP : ∀ x ∈ P, (f.textOf x).isSome = true) {q : Nat} (hq : f.isLive q = true)
    (hqP : q ∉ P) :
    f1.ancestors q = f.ancestors q ∧ f1.parent? q = f.parent? q ∧ f1.isLive q = true := by
  refine ⟨fr.ancestors' w w1 hq ?_, fr.parent q hqP, by rw [fr.live q hqP]; exact hq⟩
  intro y hy hyP
  exact text_not_ancestor w (hP y hyP) (fun e : y = q => hqP (e ▸ hyP)) hy

/-- The state after `remove_consolidate_text_nodes(prev(c), next(c))`, as seen by a move of `c`:
    at most the next sibling (a text leaf) is gone. -/
structure OldSite (f f1 : Forest) (c : Nat) (P : List Nat) : Prop where
  w : f1.W
  fr : Frame f f1 P
  next : ∀ x ∈ P, f.nextSibling c = some x ∧ (f.textOf x).isSome = true

theorem OldSite.cP {f f1 : Forest} {c : Nat} {P : List Nat} (os : OldSite f f1 c P) (w : f.W) :
    c ∉ P := fun h' => (nextSibling_sib w (os.next c h').1).ne rfl

theorem OldSite.keep {f f1 : Forest} {c : Nat} {P : List Nat} (os : OldSite f f1 c P) (w : f.W)
    {q : Nat} (hq : f.isLive q = true) (hqP : q ∉ P) :
    f1.ancestors q = f.ancestors q ∧ f1.parent? q = f.parent? q ∧ f1.isLive q = true :=
  os.fr.keepAll w os.w (fun x hx => (os.next x hx).2) hq hqP

/-- A container (element or document) is never consumed by consolidation. -/
theorem OldSite.notText {f f1 : Forest} {c : Nat} {P : List Nat} (os : OldSite f f1 c P)
    {q : Nat} (hqt : f.textOf q = none) : q ∉ P :=
  fun h' => by have := (os.next q h').2; rw [hqt] at this; cases this

theorem oldSite {f : Forest} (w : f.W) (c : Nat) :
    ∃ P, OldSite f (f.removeConsolidate (f.prevSibling c) (f.nextSibling c)).1 c P := by
  obtain ⟨w1, _, P, hP, fr⟩ := removeConsolidate_spec w (f.prevSibling c) (f.nextSibling c)
  exact ⟨P, w1, fr, fun x hx => ⟨(hP x hx).1, (hP x hx).2.1⟩⟩

/-- What a carried-out move guarantees: outcome `ok`, the invariant, and a frame: only the moved
    subtree and (by consolidation at the old site) the moved node's next sibling are touched. -/
structure MoveOk (f : Forest) (r : Forest × Res) (c : Nat) : Prop where
  ok : r.2 = .ok
  w : r.1.W
  frame : ∃ P, Frame f r.1 P ∧
    ∀ x ∈ P, c ∈ f.ancestors x ∨ (f.nextSibling c = some x ∧ (f.textOf x).isSome = true)

theorem MoveOk.corrupt {f : Forest} {r : Forest × Res} {c : Nat} (m : MoveOk f r c) :
    r.1.corrupt = f.corrupt := by
  obtain ⟨P, fr, _⟩ := m.frame; exact fr.corrupt

theorem moveOk_same {f : Forest} (w : f.W) (c : Nat) : MoveOk f (f, .ok) c :=
  ⟨rfl, w, [], Frame.refl _ _, fun _ h => by cases h⟩

/-- The move ends with the new-site consolidation deleting the moved text node. -/
theorem moveOk_of_added {f f1 f2 : Forest} {c : Nat} {P : List Nat} (w : f.W)
    (os : OldSite f f1 c P) (hlc : f.isLive c = true) (w2 : f2.W) (fr2 : Frame f1 f2 [c]) :
    MoveOk f (f2, .ok) c := by
  refine ⟨rfl, w2, P ++ [c], os.fr.trans fr2, ?_⟩
  intro x hx
  rcases List.mem_append.1 hx with h' | h'
  · exact Or.inr (os.next x h')
  · simp only [List.mem_singleton] at h'; subst h'
    exact Or.inl (self_mem_ancestors w hlc)

/-- The move ends with an accepted indextree `checked_*` call. -/
theorem moveOk_of_checked {f f1 : Forest} {c : Nat} {P : List Nat} (w : f.W)
    (os : OldSite f f1 c P) (hlc : f.isLive c = true) {r : Forest × Bool}
    (ck : CheckedOk f1 r c) : MoveOk f (r.1, .ok) c := by
  have hl1 : f1.isLive c = true := (os.keep w hlc (os.cP w)).2.2
  obtain ⟨tc, hg⟩ := get?_of_isLive hl1
  refine ⟨rfl, ck.w, P ++ handles tc, os.fr.trans (ck.frame tc hg), ?_⟩
  intro x hx
  by_cases hxP : x ∈ P
  · exact Or.inr (os.next x hxP)
  · rcases List.mem_append.1 hx with h' | h'
    · exact absurd h' hxP
    · left
      have h1 : c ∈ f1.ancestors x := mem_ancestors_of_subtree os.w hg h'
      have hx1 : f1.isLive x = true :=
        (isLive_iff_mem f1 x).2 (findList?_handles_sub c f1.roots tc hg x h')
      have hx0 : f.isLive x = true := by rw [← os.fr.live x hxP]; exact hx1
      rw [(os.keep w hx0 hxP).1] at h1
      exact h1

end Forest
end XotModel

/-! ## Outcome of the four moves under the weak invariant -/

namespace XotModel
open HTree

namespace Forest

/-- The common tail of the four moves cannot fail once the final `checked_*` call is accepted in the state
    the old-site consolidation leaves. -/
theorem moveTail_ok {f : Forest} (w : f.W) {c : Nat} (hlc : f.isLive c = true) (prev next : Forest → Option Nat)
    (k : Forest → Forest × Bool)
    (hk : ∀ P, OldSite f (f.afterOldSite c) c P → CheckedOk (f.afterOldSite c) (k (f.afterOldSite c)) c) :
    MoveOk f (f.moveTail c prev next k) c := by
  obtain ⟨P, os⟩ := oldSite w c
  have os : OldSite f (f.afterOldSite c) c P := os
  have ck := hk P os
  unfold moveTail
  dsimp only
  generalize f.afterOldSite c = f1 at os ck ⊢
  obtain ⟨w2, hsame, fr2, _⟩ := addConsolidate_spec os.w c (prev f1) (next f1)
  cases hc2 : (f1.addConsolidate c (prev f1) (next f1)).2 with
  | true => simp only [if_true]; exact moveOk_of_added w os hlc w2 fr2
  | false =>
    simp only [Bool.false_eq_true, if_false]
    rw [hsame hc2]
    simp only [ck.ok, if_true]
    exact moveOk_of_checked w os hlc ck

/-- `append` once the structure check has passed: the container survives the old-site consolidation. -/
theorem append_ok {f : Forest} (w : f.W) {p c : Nat} (hs : f.structureCheck (some p) c = true) :
    MoveOk f (f.append p c) c := by
  have ck := structureCheck_some hs
  rw [append_eq]
  simp only [hs, Bool.not_true, Bool.false_eq_true, if_false]
  split
  · exact moveOk_same w c
  · refine moveTail_ok w ck.liveC _ _ _ (fun P os => ?_)
    have hpP := os.notText ck.textNone
    obtain ⟨k1, _, k3⟩ := os.keep w ck.liveP hpP
    exact (checkedUnder_ok os.w (ck.ne w) (by rw [k1]; exact ck.notAnc) (os.keep w ck.liveC (os.cP w)).2.2 k3
      (by rw [os.fr.isElement hpP, os.fr.isDocument hpP]; exact ck.container)).1

/-- `prepend` once the structure check has passed. -/
theorem prepend_ok {f : Forest} (w : f.W) {p c : Nat} (hs : f.structureCheck (some p) c = true) :
    MoveOk f (f.prepend p c) c := by
  have ck := structureCheck_some hs
  rw [prepend_eq]
  simp only [hs, Bool.not_true, Bool.false_eq_true, if_false]
  split
  · exact moveOk_same w c
  · refine moveTail_ok w ck.liveC _ _ _ (fun P os => ?_)
    have hpP := os.notText ck.textNone
    obtain ⟨k1, _, k3⟩ := os.keep w ck.liveP hpP
    have hlc1 := (os.keep w ck.liveC (os.cP w)).2.2
    generalize f.afterOldSite c = f1 at os k1 k3 hlc1 ⊢
    cases hpp : f1.prependPoint p with
    | none =>
      exact (checkedUnder_ok os.w (ck.ne w) (by rw [k1]; exact ck.notAnc) hlc1 k3
        (by rw [os.fr.isElement hpP, os.fr.isDocument hpP]; exact ck.container)).2
    | some ip =>
      -- the insertion point is a non-normal child of `p`, hence not the moved node
      obtain ⟨hip, v, hv, hcat⟩ := prependPoint_spec os.w hpp
      have hne : ip ≠ c := by
        intro e; subst e
        obtain ⟨v', hv', hn', _⟩ := ck.normal
        have := os.fr.category (os.cP w)
        rw [hv, hv'] at this
        simp only [Option.map_some, Option.some.injEq] at this
        exact hcat (this.trans hn')
      have hanc : c ∉ f1.ancestors ip := by
        rw [ancestors_step os.w hip, k1]
        intro h'
        rcases List.mem_cons.1 h' with e | e
        · exact hne e.symm
        · exact ck.notAnc e
      exact (checkedBeside_ok os.w hne hanc (isRoot_false_of_parent os.w hip) hlc1 (parent?_live hip).1).1

theorem removeConsolidate_true {f : Forest} {prev next : Option Nat}
    (h : (f.removeConsolidate prev next).2 = true) : ∃ p n, prev = some p ∧ next = some n := by
  rcases f.removeConsolidate_outcome prev next with e | ⟨p, n, _, _, h1, h2, _⟩
  · rw [e] at h; cases h
  · exact ⟨p, n, h1, h2⟩

/-- The reference node actually used by `insert_after` after the old-site consolidation is a live
    child of the same parent, and is not the node being moved. -/
theorem insertAfter_ref {f : Forest} (w : f.W) {r n q : Nat} (hpr : f.parent? r = some q)
    (hrn : r ≠ n) :
    (f.afterOldSite n).parent? (f.insertAfterRef r n) = some q ∧ f.insertAfterRef r n ≠ n := by
  unfold afterOldSite insertAfterRef
  obtain ⟨w1, _, P, hP, fr⟩ := removeConsolidate_spec w (f.prevSibling n) (f.nextSibling n)
  cases hcase : ((f.removeConsolidate (f.prevSibling n) (f.nextSibling n)).2 &&
      f.nextSibling n == some r) with
  | true =>
    simp only [if_true]
    rw [Bool.and_eq_true] at hcase
    have hnx : f.nextSibling n = some r := by simpa using hcase.2
    obtain ⟨pv, nx, hpv, _⟩ := removeConsolidate_true hcase.1
    have hgd : (f.prevSibling n).getD r = pv := by rw [hpv]; rfl
    rw [hgd]
    have s1 := prevSibling_sib w hpv
    have s2 := nextSibling_sib w hnx
    obtain ⟨q1, a1, b1⟩ := s1.parent
    obtain ⟨q2, a2, b2⟩ := s2.parent
    have hq : q1 = q :=
      (Option.some.inj (a1.symm.trans a2)).trans (Option.some.inj (b2.symm.trans hpr))
    have hpvP : pv ∉ P := by
      intro h'
      have := (hP pv h').1
      rw [hnx] at this
      injection this with this
      exact prev_ne_next w hpv hnx this.symm
    exact ⟨by rw [fr.parent pv hpvP, b1, hq], s1.ne⟩
  | false =>
    simp only [Bool.false_eq_true, if_false]
    have hrP : r ∉ P := by
      intro h'
      obtain ⟨h1, _, h3, _⟩ := hP r h'
      rw [h3, h1] at hcase
      simp at hcase
    exact ⟨by rw [fr.parent r hrP, hpr], hrn⟩

/-- The final `checked_insert_after` / `checked_insert_before` beside a child `ref` of `q` that is not the
    moved node: accepted in the state the old-site consolidation leaves. -/
theorem checkedBeside_afterOldSite {f : Forest} (w : f.W) {n q ref : Nat} (ck : Checked f q n) {P : List Nat}
    (os : OldSite f (f.afterOldSite n) n P) (href : (f.afterOldSite n).parent? ref = some q) (hne : ref ≠ n) :
    CheckedOk (f.afterOldSite n) ((f.afterOldSite n).checkedInsertAfter ref n) n ∧
    CheckedOk (f.afterOldSite n) ((f.afterOldSite n).checkedInsertBefore ref n) n := by
  obtain ⟨k1, _, _⟩ := os.keep w ck.liveP (os.notText ck.textNone)
  have hanc : n ∉ (f.afterOldSite n).ancestors ref := by
    rw [ancestors_step os.w href, k1]
    intro h'
    rcases List.mem_cons.1 h' with e | e
    · exact hne e.symm
    · exact ck.notAnc e
  exact checkedBeside_ok os.w hne hanc (isRoot_false_of_parent os.w href)
    (os.keep w ck.liveC (os.cP w)).2.2 (parent?_live href).1

/-- `insert_after` once both checks have passed. -/
theorem insertAfter_ok {f : Forest} (w : f.W) {r n q : Nat} (hpr : f.parent? r = some q)
    (hs : f.structureCheck (some q) n = true) (hsr : f.siblingReferenceCheck r n = true) :
    MoveOk f (f.insertAfter r n) n := by
  have ck := structureCheck_some hs
  rw [insertAfter_eq]
  simp only [hpr, hs, hsr, Bool.not_true, Bool.false_eq_true, if_false]
  split
  · exact moveOk_same w n
  · obtain ⟨href, hrefne⟩ := insertAfter_ref w hpr (siblingReferenceCheck_ne hsr)
    exact moveTail_ok w ck.liveC _ _ _ (fun P os => (checkedBeside_afterOldSite w ck os href hrefne).1)

/-- `insert_before` once both checks have passed: the reference node survives the old-site consolidation. -/
theorem insertBefore_ok {f : Forest} (w : f.W) {r n q : Nat} (hpr : f.parent? r = some q)
    (hs : f.structureCheck (some q) n = true) (hsr : f.siblingReferenceCheck r n = true) :
    MoveOk f (f.insertBefore r n) n := by
  have ck := structureCheck_some hs
  rw [insertBefore_eq]
  simp only [hpr, hs, hsr, Bool.not_true, Bool.false_eq_true, if_false]
  split
  · exact moveOk_same w n
  · next hns =>
    refine moveTail_ok w ck.liveC _ _ _ (fun P os => ?_)
    have hrP : r ∉ P := by
      intro h'
      have := prevSibling_of_nextSibling w (os.next r h').1
      rw [this] at hns
      simp at hns
    exact (checkedBeside_afterOldSite w ck os (by rw [os.fr.parent r hrP, hpr])
      (siblingReferenceCheck_ne hsr)).2

/-! ### Refused or carried out -/

/-- Outcome of a move: refused by the argument checks with nothing changed, or carried out
    (never a late `NodeError`, never a panic, `corrupt` untouched, invariant kept). -/
def MoveOutcome (f : Forest) (r : Forest × Res) (c : Nat) : Prop :=
  r = (f, .err .invalidOperation) ∨ MoveOk f r c

/-- `append` is carried out exactly when the structure check passes, and refused with nothing changed
    otherwise. -/
theorem append_run {f : Forest} (w : f.W) (p c : Nat) :
    if f.structureCheck (some p) c then MoveOk f (f.append p c) c
    else f.append p c = (f, .err .invalidOperation) := by
  cases hs : f.structureCheck (some p) c with
  | false => simp [append, hs]
  | true => exact append_ok w hs

theorem prepend_run {f : Forest} (w : f.W) (p c : Nat) :
    if f.structureCheck (some p) c then MoveOk f (f.prepend p c) c
    else f.prepend p c = (f, .err .invalidOperation) := by
  cases hs : f.structureCheck (some p) c with
  | false => simp [prepend, hs]
  | true => exact prepend_ok w hs

/-- `insert_after` is carried out exactly when the structure check (against the parent of the reference
    node) and the sibling reference check pass. -/
theorem insertAfter_run {f : Forest} (w : f.W) (r n : Nat) :
    if f.structureCheck (f.parent? r) n && f.siblingReferenceCheck r n then MoveOk f (f.insertAfter r n) n
    else f.insertAfter r n = (f, .err .invalidOperation) := by
  cases hpr : f.parent? r with
  | none => simp [insertAfter, hpr, structureCheck]
  | some q =>
    cases hs : f.structureCheck (some q) n with
    | false => simp [insertAfter, hpr, hs]
    | true =>
      cases hsr : f.siblingReferenceCheck r n with
      | false => simp [insertAfter, hpr, hs, hsr]
      | true => exact insertAfter_ok w hpr hs hsr

theorem insertBefore_run {f : Forest} (w : f.W) (r n : Nat) :
    if f.structureCheck (f.parent? r) n && f.siblingReferenceCheck r n then MoveOk f (f.insertBefore r n) n
    else f.insertBefore r n = (f, .err .invalidOperation) := by
  cases hpr : f.parent? r with
  | none => simp [insertBefore, hpr, structureCheck]
  | some q =>
    cases hs : f.structureCheck (some q) n with
    | false => simp [insertBefore, hpr, hs]
    | true =>
      cases hsr : f.siblingReferenceCheck r n with
      | false => simp [insertBefore, hpr, hs, hsr]
      | true => exact insertBefore_ok w hpr hs hsr

theorem MoveOutcome.of_run {f : Forest} {r : Forest × Res} {c : Nat} {b : Bool}
    (h : if b then MoveOk f r c else r = (f, .err .invalidOperation)) : MoveOutcome f r c := by
  cases b with
  | false => exact .inl h
  | true => exact .inr h

theorem append_outcome {f : Forest} (w : f.W) (p c : Nat) : MoveOutcome f (f.append p c) c :=
  .of_run (append_run w p c)

theorem prepend_outcome {f : Forest} (w : f.W) (p c : Nat) : MoveOutcome f (f.prepend p c) c :=
  .of_run (prepend_run w p c)

theorem insertAfter_outcome {f : Forest} (w : f.W) (r n : Nat) :
    MoveOutcome f (f.insertAfter r n) n :=
  .of_run (insertAfter_run w r n)

theorem insertBefore_outcome {f : Forest} (w : f.W) (r n : Nat) :
    MoveOutcome f (f.insertBefore r n) n :=
  .of_run (insertBefore_run w r n)

theorem MoveOutcome.atomic {f : Forest} {r : Forest × Res} {c : Nat} (m : MoveOutcome f r c)
    {e : XotError} (h : r.2 = .err e) : r.1 = f := by
  rcases m with m | m
  · rw [m]
  · rw [m.ok] at h; cases h

theorem MoveOutcome.noPanic {f : Forest} {r : Forest × Res} {c : Nat} (m : MoveOutcome f r c) :
    r.2 ≠ .panic := by
  rcases m with m | m
  · rw [m]; simp
  · rw [m.ok]; simp

theorem MoveOutcome.corrupt {f : Forest} {r : Forest × Res} {c : Nat} (m : MoveOutcome f r c) :
    r.1.corrupt = f.corrupt := by
  rcases m with m | m
  · rw [m]
  · exact m.corrupt

theorem MoveOutcome.w {f : Forest} {r : Forest × Res} {c : Nat} (m : MoveOutcome f r c)
    (w : f.W) : r.1.W := by
  rcases m with m | m
  · rw [m]; exact w
  · exact m.w

end Forest
end XotModel
