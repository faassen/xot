/-
  `append` and `prepend` against the pair reading (`specMoveP`), for every forest with the
  invariant: the second halves of the calls (`append_tail_pair`, `prepend_tail_pair`), the indextree
  insertion of `prepend`, `append_pair`, `prepend_pair`, and `append` in the corner
  `Spec.selfMerge` (`append_selfMerge`).
-/
import XotModel.Lemmas.BasicFacts
import XotModel.Lemmas.FspecPairStage
import XotModel.Lemmas.FatomMoves

/-! ## `append` -/

namespace XotModel
open HTree Spec

namespace PairAppend

/-! ### The specification, reduced -/

theorem spec_root {f : Forest} {dest : Dest} {p c : Nat} {t : HTree} (hgc : f.get? c = some t)
    (hroot : f.ctx? c = none) (hocc : dest.occupiedBy f c = false) (hs : dest.site f = some p) :
    specMoveP dest c f = ((f.editAt none (dropTop c)).editAt (some p) (dest.insert t)).mergeNewAt p c := by
  rw [specMoveP_unfold hocc hgc hs, Forest.parent?_of_no_ctx hroot, Forest.mergeLeftAt_none]

/-! ### The destination list with the node appended -/

theorem lastOf_concat (A : List HTree) (k : HTree) :
    Forest.lastOf (A ++ [k]) = if k.value.isNormal then some k.handle else none := by
  unfold Forest.lastOf
  rw [List.getLast?_concat]

/-! ### The second half of `append` -/

/-- `append` after its guards and the same-position exit. -/
theorem append_moveTail {f : Forest} {p c : Nat} (hsc : f.structureCheck (some p) c = true)
    (hsame : ¬ f.lastChild p = some c) :
    f.append p c = f.moveTail c (fun g => g.lastChild p) (fun _ => none) (fun g => g.checkedAppend p c) := by
  rw [Forest.append_eq]
  simp [hsc, hsame]

/-- `append` after the old-place consolidation, against "insert into `Y`, merge the new pair". -/
theorem append_tail_pair {f X Y : Forest} {p c : Nat} {t : HTree} {vp : Value} {LY : List HTree}
    (hX : f.afterOldSite c = X) (S : Stage X Y p c t vp LY) (htc : t.handle = c)
    (hleaf_t : t.value.isText = true → t.kids = [])
    (hlast : X.consolidation = true → t.value.isText = true →
      X.selfPrev c (X.lastChild p) = Forest.lastOf LY)
    (hok : (f.moveTail c (fun g => g.lastChild p) (fun _ => none) (fun g => g.checkedAppend p c)).2 = .ok) :
    (f.moveTail c (fun g => g.lastChild p) (fun _ => none) (fun g => g.checkedAppend p c)).1 =
      (Y.editAt (some p) (insertLast t)).mergeNewAt p c := by
  subst htc
  -- the helper works with `selfPrev` of the last child, which is the last child of the
  -- list without the moved node (also when the old-place merge has made the node the last child)
  have hl : X.addConsolidate t.handle (X.lastChild p) none =
      X.addConsolidate t.handle (Forest.lastOf LY) none :=
    Forest.addConsolidate_congr_prev (Forest.textOf_of_get S.xget) hlast (fun e => by
      obtain ⟨L', ka, eL, eka, _⟩ := lastOf_eq_some e
      exact S.ynot ka (by rw [eL]; simp) eka)
  refine ((List.append_nil LY).symm ▸ S : Stage X Y p t.handle t vp (LY ++ [])).moveTail hX hleaf_t hl
    (fun ka hka hkat => by
      obtain ⟨A2, rfl⟩ := List.getLast?_eq_some_iff.1 hka
      rw [lastOf_concat, if_pos (Forest.normal_of_isText hkat)])
    (fun a h => by
      obtain ⟨L', ka, rfl, eka, _⟩ := lastOf_eq_some h
      exact ⟨ka, by simp, eka⟩)
    (fun _ => ⟨fun kb hkb _ => (by cases hkb), fun b h => (by cases h)⟩)
    (I := insertLast t) (by simp [insertLast]) (fun hno => ?_)
  -- no merge at the destination: the call was carried out, so the placement was accepted
  have h3 : (X.checkedAppend p t.handle).2 = true := (Forest.moveTail_placed hX (hl.trans hno) hok).1
  exact Prod.ext (by rw [Forest.checkedAppend_ok S.xnd S.xget h3, S.xcut]) h3

/-! ### The destination child list after the old-place consolidation elsewhere -/

theorem lastOf_map {φ : HTree → HTree} (hφ : KidMap φ) (L : List HTree) :
    Forest.lastOf (L.map φ) = Forest.lastOf L := by
  unfold Forest.lastOf
  rw [List.getLast?_map]
  cases L.getLast? with
  | none => rfl
  | some k => simp only [Option.map_some, hφ.value, hφ.handle]

/-- `t` (normal) is the last child: `last_child` finds it. -/
theorem lastOf_self {l : List HTree} {t : HTree} (hn : t.value.isNormal = true) :
    Forest.lastOf (l ++ t :: []) = some t.handle := by
  have : l ++ t :: [] = l ++ [t] := rfl
  rw [this, lastOf_concat, if_pos hn]

end PairAppend

open PairAppend

/-- The last child is not the moved node: the helper takes it as it is. -/
theorem selfPrev_last {X : Forest} {p c : Nat} {LY : List HTree} (hnot : ∀ k ∈ LY, k.handle ≠ c)
    (h : X.lastChild p = Forest.lastOf LY) : X.selfPrev c (X.lastChild p) = Forest.lastOf LY := by
  rw [h]
  apply Forest.selfPrev_of_ne
  intro e
  obtain ⟨L', ka, eL, eka, _⟩ := lastOf_eq_some e
  exact hnot ka (by rw [eL]; simp) eka

/-- **append**, pair reading: for every forest satisfying the invariant (adjacent text nodes
    allowed) the model's `append` is the specification `specMoveP` — cut, graft as last child, merge
    exactly the pair the node separated and exactly the node with the text node it now follows;
    also in the corner `selfMerge` (the old-place merge makes the node the last child already:
    the helper then merges it into its own previous sibling; as of /repo eccbbb7). -/
theorem append_pair {f : Forest} {p c : Nat} (inv : f.Inv) (hok : (f.append p c).2 = .ok) :
    (f.append p c).1 = specMoveP (.lastChildOf p) c f := by
  have nd := inv.nodup
  have hsc := Forest.append_ok_check hok
  obtain ⟨vp, Lp, t, hgp, hgc, hpt, hnorm, hndoc, hvp⟩ := Forest.structureCheck_unpack nd hsc
  have sp : SiteAt f p vp Lp := ⟨nd, hgp⟩
  have htc : t.handle = c := (findList?_some f.roots t hgc).1
  have hlast : f.lastChild p = Forest.lastOf Lp := Forest.lastChild_of_get hgp
  have hoccIff := occupied_lastChild sp hgc hnorm
  by_cases hsame : Forest.lastOf Lp = some c
  · rw [specMoveP_occupied (hoccIff.2 hsame), Forest.append_eq]
    simp [hsc, hlast, hsame]
  · have hocc : Dest.occupiedBy f c (.lastChildOf p) = false := by
      cases h : Dest.occupiedBy f c (.lastChildOf p) with
      | false => rfl
      | true => exact absurd (hoccIff.1 h) hsame
    have hsame' : ¬ f.lastChild p = some c := by rw [hlast]; exact hsame
    have hsite : Dest.site f (.lastChildOf p) = some p := by
      simp [Dest.site, Forest.isLive_of_get? sp.kids]
    have hleaf_t : t.value.isText = true → t.kids = [] := leaf_of_text inv.valid hgc
    have hvpt : vp.isText = false := isText_false_of_kind hvp
    rw [append_moveTail hsc hsame'] at hok ⊢
    rcases sp.mover hgc with hno | ⟨l, r, hctx, rfl⟩ | ⟨po, vo, l, r, hpo, hctx, so⟩
    · rw [spec_root hgc hno hocc hsite]
      have St := stage_root sp hgc hno hpt
      exact append_tail_pair (Forest.afterOldSite_of_no_ctx hno) St htc hleaf_t
        (fun _ _ => selfPrev_last St.ynot hlast) hok
    · subst htc
      obtain ⟨X, l1, r1, M, hrcX, O⟩ := oldP inv sp
      rw [O.spec_same (I := insertLast t) sp hocc hsite (adj_last O sp.nodupKids.1)]
      have St := stage_same O.site
      refine append_tail_pair ((Forest.afterOldSite_of_ctx hctx).trans hrcX) St rfl hleaf_t ?_ hok
      intro hcX htt
      rcases List.eq_nil_or_concat r1 with e | ⟨r2, kb, e⟩
      · -- the old-place merge has made the node the last child (`selfMerge`): the helper
        -- takes the node's own previous sibling, the merged text node
        rcases O.cases with ⟨_, e2, _, _, _⟩ | ⟨l', a, b, r', x, y, el, er, hx, hy, hc, e1, e2, _⟩
        · exfalso
          rw [e] at e2
          rw [← e2] at hsame
          exact hsame (lastOf_self hnorm)
        · subst e
          rw [Forest.lastChild_of_get O.site.kids, lastOf_self hnorm, Forest.selfPrev_self,
            Forest.prevSibling_of_ctx O.site.ctx]
          simp only [e1, List.append_nil]
          have han : (a.setValue (.text (x ++ y))).value.isNormal = true := by
            rw [setValue_value]; rfl
          rw [lastOf_concat, if_pos han]
          exact prevOf_snoc_normal _ han hnorm
      · rw [List.concat_eq_append] at e
        apply selfPrev_last St.ynot
        rw [Forest.lastChild_of_get O.site.kids, e, lastOf_append_cons, List.append_assoc]
    · subst htc
      obtain ⟨X, l1, r1, M, hrcX, O⟩ := oldP inv so
      have sXp := O.dest so sp hpo hvpt
      rw [O.spec_far so hpo hocc hsite (fun ψ _ hψ => natFor_insertLast hψ)]
      have St := stage_kid O.site sXp hpo hpt
      refine append_tail_pair ((Forest.afterOldSite_of_ctx hctx).trans hrcX) St rfl hleaf_t ?_ hok
      intro _ _
      apply selfPrev_last St.ynot
      rw [Forest.lastChild_of_get sXp.kids, lastOf_map (kidMap_editAt _ _), lastOf_map (kidMap_editAt _ _),
        lastOf_map (kidMap_editAt _ _)]

end XotModel

/-! ## `prepend` -/

namespace XotModel
open HTree Spec

namespace PairAppend

/-! ### The destination list with the node inserted behind the namespace / attribute nodes -/

theorem not_text_last_abn {L : List HTree} : ∀ a, (L.takeWhile abn).getLast? = some a → ¬ a.value.isText = true :=
  fun _ ha => not_text_of_abn (abn_of_mem_takeWhile (List.mem_of_getLast? ha))

/-! ### The second half of `prepend` -/

/-- `k` is the indextree insertion of `prepend`; `hplace` says what it does once accepted. -/
theorem prepend_tail_pair {f X Y : Forest} {p c : Nat} {t : HTree} {vp : Value} {LY : List HTree}
    {k : Forest → Forest × Bool} (hX : f.afterOldSite c = X) (S : Stage X Y p c t vp LY) (htc : t.handle = c)
    (hleaf_t : t.value.isText = true → t.kids = [])
    (hfirst : X.firstChild p = ((LY.dropWhile abn).head?).map (·.handle))
    (hplace : (k X).2 = true → k X = (Y.editAt (some p) (insertFirstNormal t), true))
    (hok : (f.moveTail c (fun _ => none) (fun g => g.firstChild p) k).2 = .ok) :
    (f.moveTail c (fun _ => none) (fun g => g.firstChild p) k).1 =
      (Y.editAt (some p) (insertFirstNormal t)).mergeNewAt p c := by
  subst htc
  have hsplit : LY.takeWhile abn ++ LY.dropWhile abn = LY := List.takeWhile_append_dropWhile
  exact (hsplit.symm ▸ S : Stage X Y p t.handle t vp (LY.takeWhile abn ++ LY.dropWhile abn)).moveTail hX
    hleaf_t rfl
    (fun ka hka hkat => absurd hkat (not_text_last_abn ka hka))
    (fun a h => by cases h)
    (fun _ => by
      rw [hfirst]
      refine ⟨fun kb hkb _ => by rw [hkb]; rfl, fun b h => ?_⟩
      cases hh : (LY.dropWhile abn).head? with
      | none => rw [hh] at h; cases h
      | some kb => rw [hh] at h; exact ⟨kb, rfl, Option.some.inj h⟩)
    (I := insertFirstNormal t) (by rw [hsplit, insertFirstNormal_eq])
    (fun hno => hplace (Forest.moveTail_placed hX hno hok).1)

/-! ### The indextree insertion of `prepend` when the node comes from elsewhere -/

theorem prepend_place_far {X Y : Forest} {p c : Nat} {t : HTree} {vp : Value} {LX : List HTree}
    {ψ : HTree → HTree} (hψ : KidMap ψ) (sXp : SiteAt X p vp LX) (S : Stage X Y p c t vp (LX.map ψ))
    (hpt : p ∉ handles t)
    (hok : (match X.prependPoint p with
      | some ip => X.checkedInsertAfter ip c
      | none => X.checkedPrepend p c).2 = true) :
    (match X.prependPoint p with
      | some ip => X.checkedInsertAfter ip c
      | none => X.checkedPrepend p c) = (Y.editAt (some p) (insertFirstNormal t), true) := by
  refine prepend_place S.xget S.xcut hpt sXp S.ysite ?_ (fun k hk => ?_) hok
  · rw [takeWhile_abn_map hψ, List.map_map]
    exact List.map_congr_left (fun k _ => hψ.handle k)
  · have := S.ynot (ψ k) (List.mem_map_of_mem ((List.takeWhile_sublist _).subset hk))
    rwa [hψ.handle] at this

theorem firstOf_map {φ : HTree → HTree} (hφ : KidMap φ) (L : List HTree) :
    (((L.map φ).dropWhile abn).head?).map (·.handle) = ((L.dropWhile abn).head?).map (·.handle) := by
  rw [dropWhile_abn_map hφ, List.head?_map]
  cases (L.dropWhile abn).head? with
  | none => rfl
  | some k => simp only [Option.map_some, hφ.handle]

theorem firstOf_before {l1 : List HTree} (t : HTree) (r1 : List HTree) (hN : ∃ k ∈ l1, abn k = false) :
    (((l1 ++ t :: r1).dropWhile abn).head?).map (·.handle) = (((l1 ++ r1).dropWhile abn).head?).map (·.handle) := by
  rw [dropWhile_abn_append_of_normal _ hN, dropWhile_abn_append_of_normal _ hN]
  have hne := dropWhile_abn_ne_nil_of_normal hN
  cases hd : l1.dropWhile abn with
  | nil => exact absurd hd hne
  | cons x xs => rfl

end PairAppend

open PairAppend

/-- **prepend**, pair reading: for every forest satisfying the invariant (adjacent text nodes
    allowed) the model's `prepend` is the specification `specMoveP` — cut, graft as first normal
    child, merge exactly the pair the node separated and exactly the node with the text node it
    now precedes. -/
theorem prepend_pair {f : Forest} {p c : Nat} (inv : f.Inv) (hok : (f.prepend p c).2 = .ok) :
    (f.prepend p c).1 = specMoveP (.firstNormalChildOf p) c f := by
  have nd := inv.nodup
  have hsc := prepend_ok_check hok
  obtain ⟨vp, Lp, t, hgp, hgc, hpt, hnorm, hndoc, hvp⟩ := Forest.structureCheck_unpack nd hsc
  have sp : SiteAt f p vp Lp := ⟨nd, hgp⟩
  have htc : t.handle = c := (findList?_some f.roots t hgc).1
  have hfirst : f.firstChild p = ((Lp.dropWhile abn).head?).map (·.handle) := Forest.firstChild_of_get hgp
  have hoccEq := occupied_firstNormal (c := c) sp
  by_cases hsame : ((Lp.dropWhile abn).head?).map (·.handle) = some c
  · rw [specMoveP_occupied (by rw [hoccEq]; simpa using hsame), Forest.prepend_eq]
    simp [hsc, hfirst, hsame]
  · have hocc : Dest.occupiedBy f c (.firstNormalChildOf p) = false := by
      rw [hoccEq]; simpa using hsame
    have hsite : Dest.site f (.firstNormalChildOf p) = some p := by
      simp [Dest.site, Forest.isLive_of_get? sp.kids]
    have hleaf_t : t.value.isText = true → t.kids = [] := leaf_of_text inv.valid hgc
    have hvpt : vp.isText = false := isText_false_of_kind hvp
    rw [Forest.prepend_eq] at hok ⊢
    simp only [hsc, hfirst, Bool.not_true, Bool.false_eq_true, if_false, beq_iff_eq, hsame] at hok ⊢
    rcases sp.mover hgc with hno | ⟨l, r, hctx, rfl⟩ | ⟨po, vo, l, r, hpo, hctx, so⟩
    · rw [spec_root hgc hno hocc hsite]
      have S := stage_root sp hgc hno hpt
      have S' : Stage f (f.editAt none (dropTop c)) p c t vp (Lp.map id) := by rw [List.map_id]; exact S
      exact prepend_tail_pair (Forest.afterOldSite_of_no_ctx hno) S htc hleaf_t hfirst
        (fun h => prepend_place_far kidMap_id sp S' hpt h) hok
    · subst htc
      obtain ⟨X, l1, r1, M, hrcX, O⟩ := oldP inv sp
      -- a normal child stands before the node, also after the old-place consolidation
      have hN := normal_before hnorm hsame
      have hN1 : ∃ k' ∈ l1, abn k' = false := by
        rcases O.cases with ⟨e1, _, _, _, _⟩ | ⟨l', a, b, r', x, y, _, _, _, _, _, e1, _, _⟩
        · rw [e1]; exact hN
        · rw [e1]
          exact ⟨a.setValue (.text (x ++ y)), by simp, by simp [abn, setValue_value, Value.isNormal, Value.category]⟩
      rw [O.spec_same (I := insertFirstNormal t) sp hocc hsite (adj_first O sp.nodupKids.1)]
      refine prepend_tail_pair ((Forest.afterOldSite_of_ctx hctx).trans hrcX) (stage_same O.site) rfl hleaf_t ?_
        (fun h => prepend_place_kid O.site hN1 h) hok
      rw [Forest.firstChild_of_get O.site.kids]
      exact firstOf_before t r1 hN1
    · subst htc
      obtain ⟨X, l1, r1, M, hrcX, O⟩ := oldP inv so
      have sXp := O.dest so sp hpo hvpt
      have S := stage_kid O.site sXp hpo hpt
      rw [O.spec_far so hpo hocc hsite (fun ψ hk hψ => natFor_insertFirstNormal hk hψ)]
      refine prepend_tail_pair ((Forest.afterOldSite_of_ctx hctx).trans hrcX) S rfl hleaf_t ?_
        (fun h => prepend_place_far (kidMap_editAt _ _) sXp S hpt h) hok
      rw [Forest.firstChild_of_get sXp.kids, firstOf_map (kidMap_editAt _ _), firstOf_map (kidMap_editAt _ _),
        firstOf_map (kidMap_editAt _ _)]

/-- `<e>` with FOUR adjacent text nodes `a b c d`, `<g v="v">` with two, `x y` (consolidation was
    off when they were appended, and is on again). -/
def PairAppend.witness : Forest :=
  { roots := [.node 0 (.element 2) [.node 1 (.text ['a']) [], .node 2 (.text ['b']) [], .node 3 (.text ['c']) [],
        .node 4 (.text ['d']) []],
      .node 5 (.element 3) [.node 6 (.attribute 5 ['v']) [], .node 7 (.text ['x']) [], .node 8 (.text ['y']) []]],
    next := 9, consolidation := true, everOff := true }

/-- The hypotheses of `append_pair` / `prepend_pair` hold on a forest with adjacent text nodes (the
    node comes from another parent / from the same parent; both merges happen), and the conclusion
    is the pair reading: `append(g, b)` gives `ac d` and `x yb`; `prepend(e, c)` gives `ca bd`. -/
example :
    PairAppend.witness.inv = true ∧
    (PairAppend.witness.append 5 2).2 = .ok ∧ selfMerge PairAppend.witness (.lastChildOf 5) 2 = false ∧
    (PairAppend.witness.append 5 2).1 = specMoveP (.lastChildOf 5) 2 PairAppend.witness ∧
    (PairAppend.witness.append 5 2).1.content =
      [.node (.element 2) [.node (.text ['a', 'c']) [], .node (.text ['d']) []],
       .node (.element 3) [.node (.attribute 5 ['v']) [], .node (.text ['x']) [], .node (.text ['y', 'b']) []]] ∧
    (PairAppend.witness.append 0 2).2 = .ok ∧ selfMerge PairAppend.witness (.lastChildOf 0) 2 = false ∧
    (PairAppend.witness.append 0 2).1 = specMoveP (.lastChildOf 0) 2 PairAppend.witness ∧
    (PairAppend.witness.prepend 5 2).2 = .ok ∧
    (PairAppend.witness.prepend 5 2).1 = specMoveP (.firstNormalChildOf 5) 2 PairAppend.witness ∧
    (PairAppend.witness.prepend 0 3).2 = .ok ∧
    (PairAppend.witness.prepend 0 3).1 = specMoveP (.firstNormalChildOf 0) 3 PairAppend.witness ∧
    (PairAppend.witness.prepend 0 3).1.content =
      [.node (.element 2) [.node (.text ['c', 'a']) [], .node (.text ['b', 'd']) []],
       .node (.element 3) [.node (.attribute 5 ['v']) [], .node (.text ['x']) [], .node (.text ['y']) []]] := by
  decide +kernel

end XotModel

/-! ## `append` in the corner `Spec.selfMerge` -/

namespace XotModel
open HTree Spec

namespace PairAppend

theorem selfMerge_unpack {f : Forest} {p c : Nat} (h : selfMerge f (.lastChildOf p) c = true) :
    f.consolidation = true ∧ ∃ l' a t b, f.ctx? c = some ⟨p, l' ++ [a], t, [b]⟩ ∧
      t.value.isText = true ∧ a.value.isText = true ∧ b.value.isText = true := by
  unfold selfMerge at h
  rw [Bool.and_eq_true] at h
  obtain ⟨hc, h⟩ := h
  refine ⟨hc, ?_⟩
  cases hctx : f.ctx? c with
  | none => rw [hctx] at h; cases h
  | some cx =>
    rw [hctx] at h
    obtain ⟨po, l, t, r⟩ := cx
    simp only [Bool.and_eq_true] at h
    obtain ⟨⟨ht, ha⟩, hr⟩ := h
    cases hl : l.getLast? with
    | none => rw [hl] at ha; cases ha
    | some a =>
      rw [hl] at ha
      simp only at ha
      obtain ⟨l', el⟩ := List.getLast?_eq_some_iff.1 hl
      cases r with
      | nil => cases hr
      | cons b rest =>
        simp only [Bool.and_eq_true, beq_iff_eq, List.isEmpty_iff] at hr
        obtain ⟨hb, hp, hrest⟩ := hr
        subst hp hrest el
        exact ⟨l', a, t, b, rfl, ht, ha, hb⟩

end PairAppend

open PairAppend

/-- In the corner
    `selfMerge` the call `append` succeeds and is the specification: the moved text node is merged
    into the text node its two neighbours have become. -/
theorem append_selfMerge {f : Forest} {p c : Nat} (inv : f.Inv)
    (h : selfMerge f (.lastChildOf p) c = true) :
    (f.append p c).2 = .ok ∧ (f.append p c).1 = specMoveP (.lastChildOf p) c f := by
  obtain ⟨_, l', a, t, b, hctx, htt, _, _⟩ := selfMerge_unpack h
  obtain ⟨e0, vo, so⟩ := SiteAt.of_ctx inv.nodup hctx
  simp only at e0 so
  subst e0
  -- the arguments pass the structure check, so the call is carried out
  have hok : (f.append p t.handle).2 = .ok :=
    (Forest.append_ok inv.toW (ReplGapNF.structureCheck_pack inv.nodup so.kids (so.parent_kind inv.valid) so.getKid
      so.not_mem_kid (Forest.normal_of_isText htt) (isDocument_false_of_isText htt))).ok
  exact ⟨hok, append_pair inv hok⟩

/-- The hypothesis of `append_selfMerge` is satisfiable: `append(e, c)` on the children `a b c d`
    (`b` and `d` are merged, `c` is then the last child already and is merged into `bd`): the
    model's result is the pair reading, `a` `bdc`; the node `c` is gone, its data is not. -/
example :
    PairAppend.witness.inv = true ∧ selfMerge PairAppend.witness (.lastChildOf 0) 3 = true ∧
    (PairAppend.witness.append 0 3).2 = .ok ∧ (PairAppend.witness.append 0 3).1.isLive 3 = false ∧
    (PairAppend.witness.append 0 3).1 = specMoveP (.lastChildOf 0) 3 PairAppend.witness ∧
    ((PairAppend.witness.append 0 3).1.content.head?).map (·.kids) =
      some [.node (.text ['a']) [], .node (.text ['b', 'd', 'c']) []] := by
  decide +kernel

end XotModel
