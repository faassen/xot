/-
  The edits of the primitives at tree level: `setValue`, `replaceBelow` / `replaceKids`, and the insertion shapes
  (`InsertsBeside`, `InsertsUnder`), each with its bookkeeping of handle multiplicities, parents, values and `leafOk`.
-/
import XotModel.Lemmas.FatomForest

/-! ## What `setValue` changes (one value) and what it keeps (handles, parents, leaves) -/

namespace XotModel
open HTree

mutual
  theorem parentBelow_mapAt_setValue (x h : Nat) (v : Value) : ∀ t : HTree,
      parentBelow x (mapAt h (HTree.setValue v) t) = parentBelow x t
    | .node h' v' ks => by
      unfold mapAt
      by_cases hh : h' = h
      · simp [hh, HTree.setValue, parentBelow]
      · simp only [hh, if_false, parentBelow]
        exact parentKids_mapAtList_setValue x h' h v ks
  theorem parentKids_mapAtList_setValue (x p h : Nat) (v : Value) : ∀ ks : List HTree,
      parentKids x p (mapAtList h (HTree.setValue v) ks) = parentKids x p ks
    | [] => by simp [mapAtList]
    | k :: ks => by
      simp only [mapAtList, parentKids, handle_mapAt_setValue]
      rw [parentBelow_mapAt_setValue x h v k, parentKids_mapAtList_setValue x p h v ks]
end

mutual
  theorem leafOk_mapAt (h : Nat) (g : HTree → HTree) : ∀ t : HTree, (handles t).Nodup →
      leafOk t = true → (∀ t', find? h t = some t' → leafOk (g t') = true) →
      leafOk (mapAt h g t) = true
    | .node h' v' ks => by
      intro hn hl hg
      unfold mapAt
      by_cases hh : h' = h
      · simp only [hh, if_true]
        apply hg
        simp [find?, hh]
      · simp only [hh, if_false]
        unfold handles at hn
        simp only [leafOk, Bool.and_eq_true] at hl ⊢
        refine ⟨?_, leafOkList_mapAtList h g ks (List.nodup_cons.1 hn).2 hl.2 ?_⟩
        · cases ks with
          | nil => simp [mapAtList]
          | cons k ks =>
            simp only [List.isEmpty_cons, Bool.false_or, Bool.or_eq_true] at hl
            simp only [mapAtList, List.isEmpty_cons, Bool.false_or, Bool.or_eq_true]
            exact hl.1
        · intro t' e; apply hg; simp [find?, hh, e]
  theorem leafOkList_mapAtList (h : Nat) (g : HTree → HTree) : ∀ ks : List HTree,
      (handlesList ks).Nodup → leafOkList ks = true →
      (∀ t', findList? h ks = some t' → leafOk (g t') = true) →
      leafOkList (mapAtList h g ks) = true
    | [] => by simp [mapAtList, leafOkList]
    | k :: ks => by
      intro hn hl hg
      unfold handlesList at hn
      have hna := List.nodup_append.1 hn
      simp only [leafOkList, Bool.and_eq_true, mapAtList] at hl ⊢
      refine ⟨leafOk_mapAt h g k hna.1 hl.1 ?_, leafOkList_mapAtList h g ks hna.2.1 hl.2 ?_⟩
      · intro t' e; apply hg; simp [findList?, e]
      · intro t' e; apply hg
        have hm : h ∈ handlesList ks := mem_of_findList?_some e
        have : h ∉ handles k := fun h' => hna.2.2 _ h' _ hm rfl
        simp [findList?, (find?_none_iff _ _).2 this, e]
end

namespace Forest

@[simp] theorem setValue_corrupt (f : Forest) (h : Nat) (v : Value) :
    (f.setValue h v).corrupt = f.corrupt := rfl
@[simp] theorem setValue_consolidation (f : Forest) (h : Nat) (v : Value) :
    (f.setValue h v).consolidation = f.consolidation := rfl
@[simp] theorem setValue_next (f : Forest) (h : Nat) (v : Value) :
    (f.setValue h v).next = f.next := rfl
@[simp] theorem setValue_everOff (f : Forest) (h : Nat) (v : Value) :
    (f.setValue h v).everOff = f.everOff := rfl

theorem setValue_parent? (f : Forest) (h : Nat) (v : Value) (x : Nat) :
    (f.setValue h v).parent? x = f.parent? x := by
  rw [parent?_eq, parent?_eq]
  unfold setValue
  simp only
  induction f.roots with
  | nil => rfl
  | cons r rs ih =>
    simp only [List.map_cons, List.findSome?_cons, parentBelow_mapAt_setValue, ih]

theorem setValue_value? (f : Forest) (h : Nat) (v : Value) (x : Nat) :
    (f.setValue h v).value? x = if x = h then (f.value? x).map (fun _ => v) else f.value? x := by
  unfold value? get? setValue
  simp only
  rw [← mapAtList_eq_map]
  have := findList?_mapAtList_setValue x h v f.roots
  rw [this]
  by_cases hx : x = h
  · simp only [hx, if_true, Option.map_map]; rfl
  · simp only [hx, if_false]

theorem setValue_isLive (f : Forest) (h : Nat) (v : Value) (x : Nat) :
    (f.setValue h v).isLive x = f.isLive x := by
  rw [isLive_iff_value?, isLive_iff_value?, setValue_value?]
  by_cases hx : x = h <;> simp [hx]

theorem setValue_W {f : Forest} (w : f.W) (h : Nat) (v : Value)
    (hv : ∀ t, f.get? h = some t → t.kids = [] ∨ v.isElement = true ∨ v.isDocument = true) :
    (f.setValue h v).W := by
  refine ⟨by rw [allHandles_setValue]; exact w.nodup, ?_,
    by rw [allHandles_setValue]; exact w.below⟩
  unfold setValue
  simp only
  rw [← mapAtList_eq_map]
  apply leafOkList_mapAtList h _ f.roots w.nodup w.leaves
  intro t' e
  have hl := findList?_leafOk h f.roots t' w.leaves e
  cases t' with
  | node h' v' ks =>
    simp only [HTree.setValue, leafOk, Bool.and_eq_true, Bool.or_eq_true] at hl ⊢
    refine ⟨?_, hl.2⟩
    rcases hv _ e with hk | hk | hk
    · simp only [HTree.kids] at hk; simp [hk]
    · simp [hk]
    · simp [hk]

end Forest
end XotModel

/-! ## `replaceBelow h F` (the shape of `cut`, `spliceOut`, `placeAfter`, `placeBefore`) -/

namespace XotModel
open HTree

theorem handle_replaceBelow (h : Nat) (F : HTree → List HTree) (t : HTree) :
    (replaceBelow h F t).handle = t.handle := by
  cases t with | node p v ks => rfl

theorem findList?_cons_self {h : Nat} {k : HTree} {ks : List HTree} {t : HTree}
    (hk : k.handle = h) (e : findList? h (k :: ks) = some t) : t = k := by
  unfold findList? at e
  rw [← hk, find?_root] at e
  simpa using e.symm

theorem Fatom.replaceKids_cases (h : Nat) (F : HTree → List HTree) {k : HTree} {ks : List HTree} {t : HTree}
    (hn : (handlesList (k :: ks)).Nodup) (e : findList? h (k :: ks) = some t) :
    (t = k ∧ replaceKids h F (k :: ks) = F k ++ ks) ∨
    (k.handle ≠ h ∧ find? h k = some t ∧ replaceKids h F (k :: ks) = replaceBelow h F k :: ks) ∨
    (h ∉ handles k ∧ findList? h ks = some t ∧ replaceKids h F (k :: ks) = k :: replaceKids h F ks) := by
  unfold handlesList at hn
  have hna := List.nodup_append.1 hn
  by_cases hk : k.handle = h
  · exact Or.inl ⟨findList?_cons_self hk e, by rw [replaceKids, if_pos hk]⟩
  · cases hf : find? h k with
    | some t' =>
      have e' : t' = t := by unfold findList? at e; rw [hf] at e; simpa using e
      have hm : h ∉ handlesList ks := fun h' => hna.2.2 _ (find?_some_mem hf) _ h' rfl
      exact Or.inr (Or.inl ⟨hk, e' ▸ rfl, by rw [replaceKids, if_neg hk, fc_replaceKids_of_not_mem h F ks hm]⟩)
    | none =>
      have e' : findList? h ks = some t := by unfold findList? at e; rw [hf] at e; exact e
      exact Or.inr (Or.inr ⟨(find?_none_iff _ _).1 hf, e',
        by rw [replaceKids, if_neg hk, replaceBelow_of_not_mem h F k ((find?_none_iff _ _).1 hf)]⟩)

mutual
  theorem replaceBelow_count (h : Nat) (F : HTree → List HTree) : ∀ (T t : HTree),
      (handles T).Nodup → T.handle ≠ h → find? h T = some t → ∀ a,
      (handles (replaceBelow h F T)).count a + (handles t).count a =
        (handles T).count a + (handlesList (F t)).count a
    | .node q v ks, t => by
      intro hn hq e a
      simp only [HTree.handle] at hq
      unfold find? at e
      simp only [hq, if_false] at e
      unfold handles at hn
      have := replaceKids_count h F ks t (List.nodup_cons.1 hn).2 e a
      simp only [replaceBelow, handles, List.count_cons]
      omega
  theorem replaceKids_count (h : Nat) (F : HTree → List HTree) : ∀ (ks : List HTree) (t : HTree),
      (handlesList ks).Nodup → findList? h ks = some t → ∀ a,
      (handlesList (replaceKids h F ks)).count a + (handles t).count a =
        (handlesList ks).count a + (handlesList (F t)).count a
    | [], t => by simp [findList?]
    | k :: ks, t => by
      intro hn e a
      have hna := List.nodup_append.1 (show (handles k ++ handlesList ks).Nodup from hn)
      rcases Fatom.replaceKids_cases h F hn e with ⟨rfl, hr⟩ | ⟨hk, hf, hr⟩ | ⟨_, e', hr⟩
      · rw [hr]
        simp only [handlesList, handlesList_append, List.count_append]
        omega
      · have := replaceBelow_count h F k t hna.1 hk hf a
        rw [hr]
        simp only [handlesList, List.count_append]
        omega
      · have := replaceKids_count h F ks t hna.2.1 e' a
        rw [hr]
        simp only [handlesList, List.count_append]
        omega
end

theorem parentKids_append (x p : Nat) : ∀ (A B : List HTree),
    parentKids x p (A ++ B) = match parentKids x p A with
      | some q => some q
      | none => parentKids x p B
  | [], B => by simp [parentKids]
  | a :: A, B => by
    simp only [List.cons_append, parentKids]
    by_cases ha : a.handle = x
    · simp [ha]
    · simp only [ha, if_false]
      cases parentBelow x a with
      | some q => rfl
      | none => exact parentKids_append x p A B

theorem fa_findList?_append (x : Nat) : ∀ (A B : List HTree),
    findList? x (A ++ B) = match findList? x A with
      | some q => some q
      | none => findList? x B := by
  intro A B
  rw [Fmap.findList?_append]
  cases findList? x A <;> rfl

mutual
  theorem replaceBelow_parent (h x : Nat) (F : HTree → List HTree) : ∀ (T t : HTree),
      (handles T).Nodup → find? h T = some t → x ∉ handles t → x ∉ handlesList (F t) →
      parentBelow x (replaceBelow h F T) = parentBelow x T
    | .node q v ks, t => by
      intro hn e hx hF
      unfold handles at hn
      by_cases hq : q = h
      · have : h ∉ handlesList ks := hq ▸ (List.nodup_cons.1 hn).1
        rw [replaceBelow_id h F (.node q v ks) this]
      · unfold find? at e
        simp only [hq, if_false] at e
        simp only [replaceBelow, parentBelow]
        exact replaceKids_parent h x q F ks t (List.nodup_cons.1 hn).2 e hx hF
  theorem replaceKids_parent (h x p : Nat) (F : HTree → List HTree) : ∀ (ks : List HTree) (t : HTree),
      (handlesList ks).Nodup → findList? h ks = some t → x ∉ handles t → x ∉ handlesList (F t) →
      parentKids x p (replaceKids h F ks) = parentKids x p ks
    | [], t => by simp [findList?]
    | k :: ks, t => by
      intro hn e hx hF
      have hna := List.nodup_append.1 (show (handles k ++ handlesList ks).Nodup from hn)
      rcases Fatom.replaceKids_cases h F hn e with ⟨rfl, hr⟩ | ⟨_, hf, hr⟩ | ⟨_, e', hr⟩
      · rw [hr, parentKids_append, parentKids_none_of_not_mem hF]
        simp only [parentKids]
        have hne : ¬ t.handle = x := fun e' => hx (e' ▸ handle_mem_handles t)
        simp only [hne, if_false, parentBelow_none_of_not_mem hx]
      · rw [hr]
        simp only [parentKids, handle_replaceBelow]
        rw [replaceBelow_parent h x F k t hna.1 hf hx hF]
      · rw [hr]
        simp only [parentKids]
        rw [replaceKids_parent h x p F ks t hna.2.1 e' hx hF]
end

theorem Fatom.findList?_cons_value_congr (x : Nat) {k k' : HTree} {ks ks' : List HTree}
    (h1 : (find? x k').map HTree.value = (find? x k).map HTree.value)
    (h2 : (findList? x ks').map HTree.value = (findList? x ks).map HTree.value) :
    (findList? x (k' :: ks')).map HTree.value = (findList? x (k :: ks)).map HTree.value := by
  simp only [findList?]
  cases ha : find? x k' with
  | some a =>
    rw [ha] at h1
    cases hb : find? x k with
    | some b => rw [hb] at h1; exact h1
    | none => rw [hb] at h1; cases h1
  | none =>
    rw [ha] at h1
    cases hb : find? x k with
    | some b => rw [hb] at h1; cases h1
    | none => exact h2

mutual
  theorem replaceBelow_value (h x : Nat) (F : HTree → List HTree) : ∀ (T t : HTree),
      (handles T).Nodup → find? h T = some t → x ∉ handles t → x ∉ handlesList (F t) →
      (find? x (replaceBelow h F T)).map HTree.value = (find? x T).map HTree.value
    | .node q v ks, t => by
      intro hn e hx hF
      unfold handles at hn
      by_cases hq : q = h
      · have : h ∉ handlesList ks := hq ▸ (List.nodup_cons.1 hn).1
        rw [replaceBelow_id h F (.node q v ks) this]
      · unfold find? at e
        simp only [hq, if_false] at e
        simp only [replaceBelow, find?]
        by_cases hqx : q = x
        · simp [hqx, HTree.value]
        · simp only [hqx, if_false]
          exact replaceKids_value h x F ks t (List.nodup_cons.1 hn).2 e hx hF
  theorem replaceKids_value (h x : Nat) (F : HTree → List HTree) : ∀ (ks : List HTree) (t : HTree),
      (handlesList ks).Nodup → findList? h ks = some t → x ∉ handles t → x ∉ handlesList (F t) →
      (findList? x (replaceKids h F ks)).map HTree.value = (findList? x ks).map HTree.value
    | [], t => by simp [findList?]
    | k :: ks, t => by
      intro hn e hx hF
      have hna := List.nodup_append.1 (show (handles k ++ handlesList ks).Nodup from hn)
      rcases Fatom.replaceKids_cases h F hn e with ⟨rfl, hr⟩ | ⟨_, hf, hr⟩ | ⟨_, e', hr⟩
      · rw [hr, fa_findList?_append, (findList?_none_iff _ _).2 hF]
        simp only [findList?, (find?_none_iff _ _).2 hx]
      · rw [hr]
        exact Fatom.findList?_cons_value_congr x (replaceBelow_value h x F k t hna.1 hf hx hF) rfl
      · rw [hr]
        exact Fatom.findList?_cons_value_congr x rfl (replaceKids_value h x F ks t hna.2.1 e' hx hF)
end

mutual
  theorem leafOk_replaceBelow (h : Nat) (F : HTree → List HTree)
      (hF : ∀ k, leafOk k = true → leafOkList (F k) = true) : ∀ T : HTree,
      leafOk T = true → leafOk (replaceBelow h F T) = true
    | .node q v ks => by
      intro hl
      simp only [leafOk, replaceBelow, Bool.and_eq_true] at hl ⊢
      refine ⟨?_, leafOkList_replaceKids h F hF ks hl.2⟩
      cases ks with
      | nil => simp [replaceKids]
      | cons k ks =>
        simp only [List.isEmpty_cons, Bool.false_or] at hl
        rw [Bool.or_assoc, hl.1, Bool.or_true]
  theorem leafOkList_replaceKids (h : Nat) (F : HTree → List HTree)
      (hF : ∀ k, leafOk k = true → leafOkList (F k) = true) : ∀ ks : List HTree,
      leafOkList ks = true → leafOkList (replaceKids h F ks) = true
    | [] => by simp [replaceKids]
    | k :: ks => by
      intro hl
      simp only [leafOkList, Bool.and_eq_true] at hl
      unfold replaceKids
      by_cases hk : k.handle = h
      · simp only [hk, if_true, leafOkList_append, Bool.and_eq_true]
        exact ⟨hF k hl.1, hl.2⟩
      · simp only [hk, if_false, leafOkList, Bool.and_eq_true]
        exact ⟨leafOk_replaceBelow h F hF k hl.1, leafOkList_replaceKids h F hF ks hl.2⟩
end

theorem map_replaceBelow_eq (h : Nat) (F : HTree → List HTree) : ∀ rs : List HTree,
    rs.any (fun r => r.handle = h) = false → rs.map (replaceBelow h F) = replaceKids h F rs
  | [] => by simp [replaceKids]
  | r :: rs => by
    intro e
    rw [List.any_cons, Bool.or_eq_false_iff] at e
    have hr : ¬ r.handle = h := by simpa using e.1
    simp only [List.map_cons, replaceKids, hr, if_false]
    rw [map_replaceBelow_eq h F rs e.2]

theorem parentKids_eq_findSome (x p : Nat) : ∀ rs : List HTree,
    rs.any (fun r => r.handle = x) = false → parentKids x p rs = rs.findSome? (parentBelow x)
  | [] => by simp [parentKids]
  | r :: rs => by
    intro e
    rw [List.any_cons, Bool.or_eq_false_iff] at e
    have hr : ¬ r.handle = x := by simpa using e.1
    simp only [parentKids, hr, if_false, List.findSome?_cons]
    cases parentBelow x r with
    | some q => rfl
    | none => exact parentKids_eq_findSome x p rs e.2

theorem any_handle_replaceKids_of_any (h x : Nat) (F : HTree → List HTree) : ∀ rs : List HTree,
    rs.any (fun r => r.handle = h) = false →
    (replaceKids h F rs).any (fun r => r.handle = x) = rs.any (fun r => r.handle = x)
  | [] => by simp [replaceKids]
  | r :: rs => by
    intro e
    rw [List.any_cons, Bool.or_eq_false_iff] at e
    have hr : ¬ r.handle = h := by simpa using e.1
    simp only [replaceKids, hr, if_false, List.any_cons, handle_replaceBelow]
    rw [any_handle_replaceKids_of_any h x F rs e.2]

end XotModel

/-! ## Insertion shapes at tree level -/

namespace XotModel
open HTree

theorem parentBelow_eq (x : Nat) (n : HTree) : parentBelow x n = parentKids x n.handle n.kids := by
  cases n with | node h v ks => rfl

theorem find?_eq (x : Nat) (n : HTree) :
    find? x n = if n.handle = x then some n else findList? x n.kids := by
  cases n with | node h v ks => rfl

/-! ### Insertion next to a node -/

/-- What the inserting `F` must satisfy with respect to the inserted tree `t`. -/
structure InsertsBeside (F : HTree → List HTree) (t : HTree) : Prop where
  parent : ∀ (r : HTree) (rest : List HTree) (x q : Nat), x ∉ handles t →
    parentKids x q (F r ++ rest) = parentKids x q (r :: rest)
  value : ∀ (r : HTree) (rest : List HTree) (x : Nat), x ∉ handles t →
    (findList? x (F r ++ rest)).map HTree.value = (findList? x (r :: rest)).map HTree.value
  handles : ∀ (r : HTree) (a : Nat),
    (handlesList (F r)).count a = (handles r).count a + (handles t).count a
  leaf : leafOk t = true → ∀ r, leafOk r = true → leafOkList (F r) = true

theorem insertsAfter (t : HTree) : InsertsBeside (fun r => [r, t]) t where
  parent r rest x q hx := by
    simp only [List.cons_append, List.nil_append, parentKids]
    have hne : ¬ t.handle = x := fun e => hx (e ▸ handle_mem_handles t)
    simp only [hne, if_false, parentBelow_none_of_not_mem hx]
  value r rest x hx := by
    simp only [List.cons_append, List.nil_append, findList?, (find?_none_iff _ _).2 hx]
  handles r a := by simp [handlesList]
  leaf ht r hr := by simp [leafOkList, ht, hr]

theorem insertsBefore (t : HTree) : InsertsBeside (fun r => [t, r]) t where
  parent r rest x q hx := by
    simp only [List.cons_append, List.nil_append, parentKids]
    have hne : ¬ t.handle = x := fun e => hx (e ▸ handle_mem_handles t)
    simp only [hne, if_false, parentBelow_none_of_not_mem hx]
  value r rest x hx := by
    simp only [List.cons_append, List.nil_append, findList?, (find?_none_iff _ _).2 hx]
  handles r a := by simp [handlesList]; omega
  leaf ht r hr := by simp [leafOkList, ht, hr]

mutual
  theorem replaceBelow_parent_ins (h x : Nat) (F : HTree → List HTree) (t : HTree)
      (hF : InsertsBeside F t) (hx : x ∉ handles t) : ∀ T : HTree,
      parentBelow x (replaceBelow h F T) = parentBelow x T
    | .node q v ks => by
      simp only [replaceBelow, parentBelow]
      exact replaceKids_parent_ins h x q F t hF hx ks
  theorem replaceKids_parent_ins (h x p : Nat) (F : HTree → List HTree) (t : HTree)
      (hF : InsertsBeside F t) (hx : x ∉ handles t) : ∀ ks : List HTree,
      parentKids x p (replaceKids h F ks) = parentKids x p ks
    | [] => by simp [replaceKids]
    | k :: ks => by
      unfold replaceKids
      by_cases hk : k.handle = h
      · simp only [hk, if_true]
        exact hF.parent k ks x p hx
      · simp only [hk, if_false, parentKids, handle_replaceBelow]
        rw [replaceBelow_parent_ins h x F t hF hx k, replaceKids_parent_ins h x p F t hF hx ks]
end

mutual
  theorem replaceBelow_value_ins (h x : Nat) (F : HTree → List HTree) (t : HTree)
      (hF : InsertsBeside F t) (hx : x ∉ handles t) : ∀ T : HTree,
      (find? x (replaceBelow h F T)).map HTree.value = (find? x T).map HTree.value
    | .node q v ks => by
      simp only [replaceBelow, find?]
      by_cases hq : q = x
      · simp [hq, HTree.value]
      · simp only [hq, if_false]
        exact replaceKids_value_ins h x F t hF hx ks
  theorem replaceKids_value_ins (h x : Nat) (F : HTree → List HTree) (t : HTree)
      (hF : InsertsBeside F t) (hx : x ∉ handles t) : ∀ ks : List HTree,
      (findList? x (replaceKids h F ks)).map HTree.value = (findList? x ks).map HTree.value
    | [] => by simp [replaceKids]
    | k :: ks => by
      unfold replaceKids
      by_cases hk : k.handle = h
      · simp only [hk, if_true]
        exact hF.value k ks x hx
      · simp only [hk, if_false]
        exact Fatom.findList?_cons_value_congr x (replaceBelow_value_ins h x F t hF hx k)
          (replaceKids_value_ins h x F t hF hx ks)
end

/-! ### Insertion as first / last child -/

/-- What the child-list edit `g` must satisfy with respect to the inserted tree `t`. -/
structure InsertsUnder (g : HTree → HTree) (t : HTree) : Prop where
  handle : ∀ n, (g n).handle = n.handle
  val : ∀ n, (g n).value = n.value
  parent : ∀ (n : HTree) (x q : Nat), x ∉ handles t →
    parentKids x q (g n).kids = parentKids x q n.kids
  value : ∀ (n : HTree) (x : Nat), x ∉ handles t →
    (findList? x (g n).kids).map HTree.value = (findList? x n.kids).map HTree.value
  handles : ∀ (n : HTree) (a : Nat),
    (handlesList (g n).kids).count a = (handlesList n.kids).count a + (handles t).count a

theorem insertsLast (t : HTree) : InsertsUnder (fun n => n.setKids (n.kids ++ [t])) t where
  handle n := by cases n; rfl
  val n := by cases n; rfl
  parent n x q hx := by
    cases n with
    | node h v ks =>
      simp only [HTree.setKids, HTree.kids]
      rw [parentKids_append]
      have hne : ¬ t.handle = x := fun e => hx (e ▸ handle_mem_handles t)
      simp only [parentKids, hne, if_false, parentBelow_none_of_not_mem hx]
      cases parentKids x q ks <;> rfl
  value n x hx := by
    cases n with
    | node h v ks =>
      simp only [HTree.setKids, HTree.kids]
      rw [fa_findList?_append]
      simp only [findList?, (find?_none_iff _ _).2 hx]
      cases findList? x ks <;> rfl
  handles n a := by
    cases n with
    | node h v ks => simp [HTree.setKids, HTree.kids, handlesList_append, handlesList]

theorem insertsFirst (t : HTree) : InsertsUnder (fun n => n.setKids (t :: n.kids)) t where
  handle n := by cases n; rfl
  val n := by cases n; rfl
  parent n x q hx := by
    cases n with
    | node h v ks =>
      simp only [HTree.setKids, HTree.kids]
      have hne : ¬ t.handle = x := fun e => hx (e ▸ handle_mem_handles t)
      simp only [parentKids, hne, if_false, parentBelow_none_of_not_mem hx]
  value n x hx := by
    cases n with
    | node h v ks =>
      simp only [HTree.setKids, HTree.kids, findList?, (find?_none_iff _ _).2 hx]
  handles n a := by
    cases n with
    | node h v ks => simp [HTree.setKids, HTree.kids, handlesList]; omega

mutual
  theorem mapAt_parent_ins (p x : Nat) (g : HTree → HTree) (t : HTree) (hg : InsertsUnder g t)
      (hx : x ∉ handles t) : ∀ T : HTree, parentBelow x (mapAt p g T) = parentBelow x T
    | .node h v ks => by
      unfold mapAt
      by_cases hh : h = p
      · simp only [hh, if_true]
        rw [parentBelow_eq, hg.handle, hg.parent _ x _ hx]
        rfl
      · simp only [hh, if_false, parentBelow]
        exact mapAtList_parent_ins p x h g t hg hx ks
  theorem mapAtList_parent_ins (p x q : Nat) (g : HTree → HTree) (t : HTree) (hg : InsertsUnder g t)
      (hx : x ∉ handles t) : ∀ ks : List HTree,
      parentKids x q (mapAtList p g ks) = parentKids x q ks
    | [] => by simp [mapAtList]
    | k :: ks => by
      simp only [mapAtList, parentKids, HTree.mapAt_handle p g hg.handle]
      rw [mapAt_parent_ins p x g t hg hx k, mapAtList_parent_ins p x q g t hg hx ks]
end

mutual
  theorem mapAt_value_ins (p x : Nat) (g : HTree → HTree) (t : HTree) (hg : InsertsUnder g t)
      (hx : x ∉ handles t) : ∀ T : HTree,
      (find? x (mapAt p g T)).map HTree.value = (find? x T).map HTree.value
    | .node h v ks => by
      unfold mapAt
      by_cases hh : h = p
      · simp only [hh, if_true]
        rw [find?_eq, find?_eq, hg.handle]
        by_cases hpx : (HTree.node p v ks).handle = x
        · simp only [hpx, if_true, Option.map_some, hg.val]
        · simp only [hpx, if_false]
          exact hg.value _ x hx
      · simp only [hh, if_false, find?]
        by_cases hq : h = x
        · simp [hq, HTree.value]
        · simp only [hq, if_false]
          exact mapAtList_value_ins p x g t hg hx ks
  theorem mapAtList_value_ins (p x : Nat) (g : HTree → HTree) (t : HTree) (hg : InsertsUnder g t)
      (hx : x ∉ handles t) : ∀ ks : List HTree,
      (findList? x (mapAtList p g ks)).map HTree.value = (findList? x ks).map HTree.value
    | [] => by simp [mapAtList]
    | k :: ks => by
      simp only [mapAtList]
      exact Fatom.findList?_cons_value_congr x (mapAt_value_ins p x g t hg hx k)
        (mapAtList_value_ins p x g t hg hx ks)
end

mutual
  theorem mapAt_count_ins (p : Nat) (g : HTree → HTree) (t : HTree) (hg : InsertsUnder g t) :
      ∀ T : HTree, (handles T).Nodup → p ∈ handles T → ∀ a,
      (handles (mapAt p g T)).count a = (handles T).count a + (handles t).count a
    | .node h v ks => by
      intro hn hm a
      unfold mapAt
      by_cases hh : h = p
      · simp only [hh, if_true]
        rw [handles_eq, handles_eq, hg.handle, List.count_cons, List.count_cons, hg.handles]
        omega
      · simp only [hh, if_false]
        unfold handles at hn hm
        have hm' : p ∈ handlesList ks := by
          rcases List.mem_cons.1 hm with e | e
          · exact absurd e.symm hh
          · exact e
        have := mapAtList_count_ins p g t hg ks (List.nodup_cons.1 hn).2 hm' a
        simp only [handles, List.count_cons]
        omega
  theorem mapAtList_count_ins (p : Nat) (g : HTree → HTree) (t : HTree) (hg : InsertsUnder g t) :
      ∀ ks : List HTree, (handlesList ks).Nodup → p ∈ handlesList ks → ∀ a,
      (handlesList (mapAtList p g ks)).count a = (handlesList ks).count a + (handles t).count a
    | [] => by simp [handlesList]
    | k :: ks => by
      intro hn hm a
      unfold handlesList at hn hm
      have hna := List.nodup_append.1 hn
      simp only [mapAtList, handlesList, List.count_append]
      by_cases hk : p ∈ handles k
      · have hks : p ∉ handlesList ks := fun h' => hna.2.2 _ hk _ h' rfl
        rw [mapAtList_of_not_mem p g ks hks, mapAt_count_ins p g t hg k hna.1 hk a]
        omega
      · have hks : p ∈ handlesList ks := by
          rcases List.mem_append.1 hm with h' | h'
          · exact absurd h' hk
          · exact h'
        rw [mapAt_of_not_mem p g k hk, mapAtList_count_ins p g t hg ks hna.2.1 hks a]
        omega
end

end XotModel
