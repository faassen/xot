/-
  The plan of `create_missing_prefixes_for_element` given to `eraseWith` is the tree model's `applyRepair`;
  `Forest.RootStep`; the forest model of `create_missing_prefixes_for_element` refines the tree model.
-/
import XotModel.Lemmas.BasicFacts
import XotModel.Lemmas.FpxRefineInsert

/-! ## The plan of `create_missing_prefixes_for_element` given to `eraseWith` is `applyRepair` -/

namespace XotModel
open HTree

namespace Repair

mutual
/-- No node is recorded twice in `undeclare_nodes`. -/
theorem undOf_nodup (nsOf : Nat → Nat) : ∀ (t : Tree) (top : List (Nat × Nat)) (pre : Path),
    (undOf nsOf top pre t).Nodup
  | .node v ks, top, pre => by
    by_cases hv : v.isElement = true
    · obtain ⟨name, rfl⟩ := Repair.eq_element_of_isElement hv
      rw [undOf_element]
      refine List.nodup_append.mpr ⟨by split <;> simp, undOfKids_nodup nsOf ks _ pre 0, ?_⟩
      intro a ha b hb hab
      split at ha
      · simp only [List.mem_singleton] at ha
        subst ha; subst hab
        obtain ⟨j, _, hj⟩ := undOfKids_prefix nsOf ks _ a 0 a hb
        exact snoc_not_prefix_self _ _ hj
      · cases ha
    · rw [undOf_other nsOf top pre v ks (by simpa using hv)]
      exact undOfKids_nodup nsOf ks top pre 0
theorem undOfKids_nodup (nsOf : Nat → Nat) : ∀ (ks : List Tree) (top : List (Nat × Nat)) (pre : Path) (i : Nat),
    (undOfKids nsOf top pre i ks).Nodup
  | [], top, pre, i => by simp [undOfKids, collectKids]
  | k :: ks, top, pre, i => by
    rw [undOfKids_cons]
    refine List.nodup_append.mpr ⟨undOf_nodup nsOf k top _, undOfKids_nodup nsOf ks top pre (i + 1), ?_⟩
    intro a ha b hb hab
    subst hab
    have h1 := undOf_prefix nsOf k top _ a ha
    obtain ⟨j, hj, h2⟩ := undOfKids_prefix nsOf ks top pre (i + 1) a hb
    have := prefix_snoc_inj h1 h2
    omega
end

end Repair

namespace HTree

/-- The insertions of `create_missing_prefixes_for_element`, addressed by handle: the new declarations
    on `nd`, then `xmlns=""` on the node at every recorded path. -/
def planCalls (r : HTree) (top : Nat) (newDecls : List (Nat × Nat)) (U : List Path) : List (Nat × Nat × Nat) :=
  newDecls.map (fun d => (top, d)) ++
    U.filterMap (fun up => (r.handleAt up).map (fun h => (h, (Env.emptyPrefix, Env.noNamespace))))

/-- What the correspondence needs of the plan. -/
structure PlanOK (r : HTree) (nd : Nat) (top : Path) (U : List Path) : Prop where
  nodup : (handles r).Nodup
  topAt : ∃ T, r.at? top = some T ∧ T.handle = nd ∧ T.value.isElement = true
  uElem : ∀ up ∈ U, ∃ s, r.at? up = some s ∧ s.value.isElement = true
  uNodup : U.Nodup

theorem filterMap_plan {r : HTree} (hnd : (handles r).Nodup) {cur : Path} {x : HTree} (hx : r.at? cur = some x)
    (d : Nat × Nat) : ∀ U : List Path, (∀ up ∈ U, ∃ s, r.at? up = some s) → U.Nodup →
      (((U.filterMap (fun up => (r.handleAt up).map (fun h => (h, d)))).filter
        (fun c => c.1 == x.handle)).map (·.2)) = if U.contains cur then [d] else []
  | [], _, _ => rfl
  | up :: U, hU, hn => by
    obtain ⟨s, hs⟩ := hU up (by simp)
    have hh : r.handleAt up = some s.handle := by rw [ftrav_handleAt_eq, hs]; rfl
    have ih := filterMap_plan hnd hx d U (fun u hu => hU u (by simp [hu])) (List.nodup_cons.mp hn).2
    by_cases hc : up = cur
    · subst hc
      have : s = x := by rw [hs] at hx; exact Option.some.inj hx
      subst this
      have hnot : U.contains up = false := by
        simpa using (List.nodup_cons.mp hn).1
      rw [hnot] at ih
      simp only [List.filterMap_cons, hh, Option.map_some, List.filter_cons, beq_self_eq_true, if_true,
        List.map_cons, ih, List.contains_cons, Bool.true_or]
      rfl
    · have hne : (s.handle == x.handle) = false := by
        have : s.handle ≠ x.handle := fun e => hc (at?_handle_inj hnd hs hx e)
        simpa using this
      have hcu : (cur == up) = false := by simpa using fun e : cur = up => hc e.symm
      simp only [List.filterMap_cons, hh, Option.map_some, List.filter_cons, hne, Bool.false_eq_true,
        if_false, ih, List.contains_cons, hcu, Bool.false_or]

/-- The insertions a node at `cur` takes from the plan. -/
theorem declsFor_plan {r : HTree} {nd : Nat} {top : Path} {U : List Path} (ok : PlanOK r nd top U)
    (newDecls : List (Nat × Nat)) {cur : Path} {x : HTree} (hx : r.at? cur = some x) :
    declsFor (planCalls r nd newDecls U) x.handle x.value =
      (if cur == top then newDecls else []) ++
        (if U.contains cur then [(Env.emptyPrefix, Env.noNamespace)] else []) := by
  obtain ⟨T, hT, hTh, hTe⟩ := ok.topAt
  have hA : (((newDecls.map (fun d => (nd, d))).filter (fun c => c.1 == x.handle)).map (·.2)) =
      if cur == top then newDecls else [] := by
    by_cases hc : cur = top
    · subst hc
      have : x = T := by rw [hx] at hT; exact Option.some.inj hT
      subst this
      have : List.filter (fun c => c.1 == x.handle) (newDecls.map (fun d => (nd, d))) =
          newDecls.map (fun d => (nd, d)) :=
        List.filter_eq_self.mpr (fun c hc => by
          obtain ⟨d, _, rfl⟩ := List.mem_map.mp hc
          simp [hTh])
      rw [this, List.map_map]
      have : ((fun c : Nat × Nat × Nat => c.2) ∘ fun d : Nat × Nat => (nd, d)) = id := rfl
      simp [this]
    · have hne : nd ≠ x.handle := fun e => hc (at?_handle_inj ok.nodup hx hT (by rw [hTh]; exact e.symm))
      have : List.filter (fun c => c.1 == x.handle) (newDecls.map (fun d => (nd, d))) = [] :=
        List.filter_eq_nil_iff.mpr (fun c hc => by
          obtain ⟨d, _, rfl⟩ := List.mem_map.mp hc
          simpa using hne)
      rw [this]
      have : (cur == top) = false := by simpa using hc
      simp [this]
  have hB := filterMap_plan ok.nodup hx (Env.emptyPrefix, Env.noNamespace) U
    (fun up hu => (ok.uElem up hu).imp (fun _ h => h.1)) ok.uNodup
  unfold declsFor planCalls
  rw [List.filter_append, List.map_append, hA, hB]
  by_cases hv : x.value.isElement = true
  · rw [if_pos hv]
  · rw [if_neg hv]
    have h1 : (cur == top) = false := by
      cases hc : cur == top with
      | false => rfl
      | true =>
        have : cur = top := by simpa using hc
        subst this
        have : x = T := by rw [hx] at hT; exact Option.some.inj hT
        subst this
        exact absurd hTe hv
    have h2 : U.contains cur = false := by
      cases hc : U.contains cur with
      | false => rfl
      | true =>
        obtain ⟨s, hs, hse⟩ := ok.uElem cur (by simpa using hc)
        have : s = x := by rw [hs] at hx; exact Option.some.inj hx
        subst this
        exact absurd hse hv
    rw [h1, h2]
    rfl

mutual
  /-- **The plan, erased, is `applyRepair`.** -/
  theorem eraseWith_plan {r : HTree} {nd : Nat} {top : Path} {U : List Path} (ok : PlanOK r nd top U)
      (newDecls : List (Nat × Nat)) : ∀ (x : HTree) (cur : Path), r.at? cur = some x →
      eraseWith (planCalls r nd newDecls U) x = applyRepair newDecls U top cur x.erase
    | .node h v ks, cur, hx => by
      have hd := declsFor_plan ok newDecls hx
      simp only [HTree.handle, HTree.value] at hd
      have hk := eraseWithList_plan ok newDecls ks cur 0 (fun j k hjk => at?_child hx (by simpa using hjk))
      simp only [eraseWith, erase, applyRepair, hd, Repair.insertNamespaces_append, hk]
      cases cur == top <;> cases U.contains cur <;>
        simp [insertNamespaces_nil, insertNamespaces_cons]
  theorem eraseWithList_plan {r : HTree} {nd : Nat} {top : Path} {U : List Path} (ok : PlanOK r nd top U)
      (newDecls : List (Nat × Nat)) : ∀ (ks : List HTree) (cur : Path) (i : Nat),
      (∀ j k, ks[j]? = some k → r.at? (cur ++ [i + j]) = some k) →
      eraseWithList (planCalls r nd newDecls U) ks = applyRepair.applyKids newDecls U top cur i (eraseList ks)
    | [], _, _, _ => rfl
    | k :: ks, cur, i, h => by
      simp only [eraseWithList, eraseList, applyRepair.applyKids]
      rw [eraseWith_plan ok newDecls k (cur ++ [i]) (h 0 k rfl),
        eraseWithList_plan ok newDecls ks cur (i + 1) (fun j k' hj => by
          have := h (j + 1) k' (by simpa using hj)
          rwa [show i + (j + 1) = i + 1 + j from Nat.add_right_comm i j 1] at this)]
end

end HTree
end XotModel

/-! ## `create_missing_prefixes_for_element`: the forest model refines the tree model -/

namespace XotModel
open HTree Repair

/-- What `create_missing_prefixes_for_element` decides before it touches the store. -/
def repairPlan (env : Env) (t : Tree) (path : Path) : Option (Env × List (Nat × Nat) × List Path) :=
  match t.at? path with
  | none => none
  | some sub =>
    let st := repairWalk env (inheritedDecls t path) path sub
    if st.panicked then none
    else
      match assignPrefixes env (st.used ++ ((namespacesInScope t path).getD []).map (·.1)) 0 st.missing with
      | none => none
      | some (env', newDecls) => some (env', newDecls, st.undeclare)

/-- The tree model carries out the plan with `applyRepair`. -/
theorem repairElement_plan (env : Env) (t : Tree) (path : Path) :
    repairElement env t path =
      match repairPlan env t path with
      | none => .panic
      | some (env', newDecls, U) => .ok (env', scopeModifyAt (applyRepair newDecls U path path) t path) := by
  unfold repairElement repairPlan
  cases t.at? path with
  | none => rfl
  | some sub =>
    simp only
    split
    · rfl
    · cases assignPrefixes env _ 0 _ with
      | none => rfl
      | some res => rfl

/-- The forest model carries out the plan with handle-addressed insertions. -/
theorem Forest.repairCalls_plan (env : Env) {f : Forest} {nd : Nat} {r : HTree} (hr : f.rootOf? nd = some r)
    {path : Path} (hp : r.pathOf nd = some path) :
    f.repairCalls env nd =
      (repairPlan env r.erase path).map (fun pl => (pl.1, (planCalls r nd pl.2.1 pl.2.2).map Forest.nsCallOf)) := by
  unfold Forest.repairCalls repairPlan
  rw [hr]
  simp only [hp]
  cases r.erase.at? path with
  | none => rfl
  | some sub =>
    simp only
    split
    · rfl
    · cases assignPrefixes env _ 0 _ with
      | none => rfl
      | some res =>
        obtain ⟨env', newDecls⟩ := res
        simp only [Option.map_some, planCalls, List.map_append, List.map_map, List.map_filterMap,
          Option.some.injEq, Prod.mk.injEq, true_and]
        congr 2
        funext up
        cases r.handleAt up <;> rfl

theorem repairPlan_undeclare {env : Env} {t : Tree} {path : Path} {env' : Env} {newDecls : List (Nat × Nat)}
    {U : List Path} (h : repairPlan env t path = some (env', newDecls, U)) :
    ∃ sub, t.at? path = some sub ∧ U = undOf env.nsOfName (inheritedDecls t path) path sub := by
  unfold repairPlan at h
  cases hs : t.at? path with
  | none => rw [hs] at h; cases h
  | some sub =>
    rw [hs] at h
    simp only at h
    split at h
    · cases h
    · cases ha : assignPrefixes env _ 0 _ with
      | none => rw [ha] at h; cases h
      | some res =>
        rw [ha] at h
        simp only [Option.some.injEq, Prod.mk.injEq] at h
        refine ⟨sub, rfl, ?_⟩
        rw [← h.2.2, repairWalk_eq]
        rfl

namespace HTree

theorem handles_filter_self {b : Nat} {l : List Nat} (h : ∀ x ∈ l, x < b) : l.filter (· < b) = l :=
  List.filter_eq_self.mpr (fun x hx => by simpa using h x hx)

end HTree

namespace Forest

/-- `f'` is `f` with the parentless tree `r` replaced by `r'`: the invariant holds, no node changes
    kind, and `r'` has the handles of `r` in the same order plus handles that were not in use. -/
structure RootStep (f f' : Forest) (r r' : HTree) : Prop where
  handle : r'.handle = r.handle
  inv : f'.Inv
  isElement : ∀ x, f'.isElement x = f.isElement x
  next : f.next ≤ f'.next
  roots : f'.roots = mapAtList r.handle (fun _ => r') f.roots
  old : (handles r').filter (· < f.next) = handles r

theorem RootStep.refl {f : Forest} {r : HTree} (hi : f.Inv) (hrm : r ∈ f.roots) : RootStep f f r r :=
  ⟨rfl, hi, fun _ => rfl, Nat.le_refl _,
    (graftList_self r.handle r f.roots hi.nodup (Fmap.findList?_direct f.roots hi.nodup r hrm)).symm,
    handles_filter_self (fun x hx => hi.below x (handles_subset_handlesList hrm x hx))⟩

theorem RootStep.trans {f f1 f2 : Forest} {r r1 r2 : HTree} (a : RootStep f f1 r r1)
    (b : RootStep f1 f2 r1 r2) : RootStep f f2 r r2 := by
  refine ⟨b.handle.trans a.handle, b.inv, fun x => (b.isElement x).trans (a.isElement x),
    Nat.le_trans a.next b.next, ?_, ?_⟩
  · rw [b.roots, a.handle, a.roots]
    exact graftList_graftList r.handle r1 r2 a.handle f.roots
  · -- a handle below `f.next` is below `f1.next`: filtering by both is filtering by the first
    rw [← a.old, ← b.old, List.filter_filter]
    apply List.filter_congr
    intro x _
    by_cases hx : x < f.next
    · have : x < f1.next := Nat.lt_of_lt_of_le hx a.next
      simp [hx, this]
    · simp [hx]

theorem RootStep.mem {f f1 : Forest} {r r1 : HTree} (a : RootStep f f1 r r1) (hrm : r ∈ f.roots) :
    r1 ∈ f1.roots := by
  rw [a.roots, mapAtList_eq_map]
  exact List.mem_map.2 ⟨r, hrm, mapAt_of_handle _ rfl⟩

/-- **Paths outside the repaired element** are unchanged when its subtree `S` is replaced by `S'`: a
    handle `x` of the root whose path does not strictly extend the element's path is found at the
    same path afterwards. -/
theorem fpxr_path_stable {f f' : Forest} (hi : f.Inv) (hi' : f'.Inv) {nd : Nat} {r S S' : HTree} {path : Path}
    (hrm : r ∈ f.roots) (hS : r.at? path = some S) (hSh : S.handle = nd) (hS'h : S'.handle = nd)
    (hg' : f'.get? nd = some S') (hfil : (handles S').filter (· < f.next) = handles S)
    {x : Nat} {q : Path} (hx : pathOf x r = some q) (hq : path <+: q → q = path) :
    pathOf x (mapAt nd (fun _ => S') r) = some q := by
  have hlt : x < f.next := hi.below x (handles_subset_handlesList hrm x (ftrav_pathOf_mem hx))
  exact path_stable_graft (Fws.nodup_of_mem hrm hi.nodup) hS hSh hS'h
    (Fmap.findList?_nodup nd f'.roots S' hi'.nodup hg')
    (fun hxS' => by rw [← hfil]; exact List.mem_filter.mpr ⟨hxS', by simpa using hlt⟩) hx hq

/-- The handles below `f.next` of a root in which the subtree `S` of `nd` was replaced by `S'`, when those of
    `S'` are the handles of `S`: the handles of the root. -/
theorem fpxr_handles_graft_old {f : Forest} (hi : f.Inv) {nd : Nat} {r S S' : HTree} {path : Path}
    (hrm : r ∈ f.roots) (hg : f.get? nd = some S) (hS : r.at? path = some S) (hSh : S.handle = nd)
    (hfil : (handles S').filter (· < f.next) = handles S) :
    (handles (mapAt nd (fun _ => S') r)).filter (· < f.next) = handles r := by
  rw [handles_graft_filter' (fun x => decide (x < f.next)) (Fws.nodup_of_mem hrm hi.nodup) hS hSh
    (S' := S') (by rw [hfil]; exact (handles_filter_self (fun x hx => hi.below x
      ((findList?_sublist nd f.roots S hg).subset hx))).symm)]
  exact handles_filter_self (fun x hx => hi.below x (handles_subset_handlesList hrm x hx))

/-- **`create_missing_prefixes_for_element`, forest model against tree model.**  `nd` an element of a
    forest with the invariant, `r` its root tree, `path` its path there.  The call answers `Ok` and
    replaces `r` by a tree `r1` (`RootStep`); the tree model on `(r.erase, path)` answers `Ok` with the
    SAME interning tables and with the erasure of `r1`; every node that is not strictly below `nd`
    stays at its path. -/
theorem fpxr_repairElementF {f : Forest} (hi : f.Inv) (env : Env) {nd : Nat} (he : f.isElement nd = true)
    {r : HTree} (hrm : r ∈ f.roots) {path : Path} (hp : r.pathOf nd = some path) :
    ∃ r1, (f.repairElementF env nd).2.2 = .ok ∧ RootStep f (f.repairElementF env nd).1 r r1 ∧
      repairElement env r.erase path = .ok ((f.repairElementF env nd).2.1, r1.erase) ∧
      ∀ x q, pathOf x r = some q → (path <+: q → q = path) → pathOf x r1 = some q := by
  have hnr : nd ∈ handles r := ftrav_pathOf_mem hp
  have hr : f.rootOf? nd = some r := fpxr_rootOf_of_mem hi.nodup hrm hnr
  have hndr : (handles r).Nodup := Fws.nodup_of_mem hrm hi.nodup
  obtain ⟨S, _, hg, hS, hSh, hSerase⟩ := fpxr_locate hi hr hp
  have hSe : S.value.isElement = true := by
    obtain ⟨t, ht, hte⟩ := fpxr_get_of_isElement he
    rw [hg] at ht; cases ht; exact hte
  -- the plan exists
  obtain ⟨env', cs, hcalls, hedit⟩ := fpx_repairCalls hi env he
  rw [repairCalls_plan env hr hp] at hcalls
  cases hpl : repairPlan env r.erase path with
  | none => rw [hpl] at hcalls; cases hcalls
  | some pl =>
    obtain ⟨env1, newDecls, U⟩ := pl
    rw [hpl] at hcalls
    simp only [Option.map_some, Option.some.injEq, Prod.mk.injEq] at hcalls
    obtain ⟨rfl, rfl⟩ := hcalls
    obtain ⟨sub, hsub, hU⟩ := repairPlan_undeclare hpl
    rw [hSerase] at hsub
    cases hsub
    -- every recorded node is an element of the subtree
    have hUel : ∀ up ∈ U, ∃ q' s, up = path ++ q' ∧ S.at? q' = some s ∧ r.at? up = some s ∧
        s.value.isElement = true := by
      intro up hup
      rw [hU] at hup
      obtain ⟨q', rfl, name, ks, hel⟩ := fpx_undOf_elem _ _ _ _ _ hup
      rw [Reach.at?_erase] at hel
      cases hs : S.at? q' with
      | none => rw [hs] at hel; cases hel
      | some s =>
        rw [hs] at hel
        simp only [Option.map_some, Option.some.injEq] at hel
        refine ⟨q', s, rfl, hs, by rw [at?_append', hS]; exact hs, ?_⟩
        cases s with
        | node sh sv sk =>
          simp only [erase, Tree.node.injEq] at hel
          simp only [HTree.value, hel.1, Value.isElement]
    have ok : PlanOK r nd path U :=
      ⟨hndr, ⟨S, hS, hSh, hSe⟩, fun up hup => by
        obtain ⟨_, s, _, _, h3, h4⟩ := hUel up hup
        exact ⟨s, h3, h4⟩, by rw [hU]; exact undOf_nodup _ _ _ _⟩
    -- the targets are elements inside `S`
    have htargets : ∀ c ∈ planCalls r nd newDecls U, f.isElement c.1 = true ∧ c.1 ∈ handles S := by
      intro c hc
      refine ⟨hedit (nsCallOf c) (List.mem_map.mpr ⟨c, hc, rfl⟩), ?_⟩
      unfold planCalls at hc
      rcases List.mem_append.mp hc with hc | hc
      · obtain ⟨d, _, rfl⟩ := List.mem_map.mp hc
        show nd ∈ handles S
        rw [← hSh]; exact handle_mem_handles S
      · obtain ⟨up, hup, h2⟩ := List.mem_filterMap.mp hc
        obtain ⟨q', s, _, hs, h3, _⟩ := hUel up hup
        rw [ftrav_handleAt_eq, h3] at h2
        simp only [Option.map_some, Option.some.injEq] at h2
        subst h2
        exact ftrav_handles_at? q' S s hs _ (handle_mem_handles s)
    obtain ⟨S', h1, h2, h3, h4, h5, hnext⟩ := fpxr_runCalls_graft _ hi hg htargets f.next (Nat.le_refl _)
    have hok := fpx_runCalls_ok ((planCalls r nd newDecls U).map nsCallOf) hi hedit
    have hrun : f.repairElementF env nd =
        ((f.runCalls ((planCalls r nd newDecls U).map nsCallOf)).1, env1,
          (f.runCalls ((planCalls r nd newDecls U).map nsCallOf)).2) := by
      unfold repairElementF
      rw [repairCalls_plan env hr hp, hpl]
      rfl
    rw [hrun]
    have hfil : (handles S').filter (· < f.next) = handles S := by
      rw [h4]
      exact handles_filter_self (fun x hx => hi.below x ((findList?_sublist nd f.roots S hg).subset hx))
    refine ⟨mapAt nd (fun _ => S') r, hok.1, ⟨graft_handle nd S' h1 r, hok.2.1, hok.2.2, hnext, ?_, ?_⟩, ?_,
      fun x q hx hq => fpxr_path_stable hi hok.2.1 hrm hS hSh h1 h3 hfil hx hq⟩
    · rw [h2]; exact fpxr_roots_as_root hi.nodup S' hrm hnr
    · exact fpxr_handles_graft_old hi hrm hg hS hSh hfil
    · rw [repairElement_plan, hpl]
      simp only
      rw [erase_graft nd S' r path hndr hp, scopeModifyAt_const _ path r.erase S.erase hSerase]
      have : erase S' = applyRepair newDecls U path path S.erase := by
        rw [← eraseWith_nil S', h5 [], List.append_nil]
        exact eraseWith_plan ok newDecls S path hS
      rw [this]

end Forest
end XotModel
