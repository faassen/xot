/-
  The doctype writer spells the root element's name with the stack the serialiser will hold at
  that element's start tag (serialize.rs, Model/XmlDecl `doctypeStack`).
-/
import XotModel.Model.XmlDecl
import XotModel.Lemmas.Scope
import XotModel.Lemmas.Events

namespace XotModel

/-- `namespace_traverse` started with a larger `seen` list yields the same pairs minus those whose
    prefix was already seen (only membership in `seen` matters). -/
theorem traverseDecls_seen (S : List Nat) (ds : List (Nat × Nat)) (s s0 : List Nat)
    (hs : ∀ q, q ∈ s ↔ q ∈ S ∨ q ∈ s0) :
    (traverseDecls s ds).2 = (traverseDecls s0 ds).2.filter (fun d => !S.contains d.1) ∧
    (∀ q, q ∈ (traverseDecls s ds).1 ↔ q ∈ S ∨ q ∈ (traverseDecls s0 ds).1) := by
  induction ds generalizing s s0 with
  | nil => simpa [traverseDecls] using hs
  | cons d ds ih =>
    obtain ⟨p, n⟩ := d
    by_cases h0 : s0.contains p = true
    · have hps : s.contains p = true := by
        have : p ∈ s0 := by simpa using h0
        simpa using (hs p).mpr (Or.inr this)
      rw [traverseDecls_cons_seen s p n ds hps, traverseDecls_cons_seen s0 p n ds h0]
      exact ih s s0 hs
    · have hp0 : p ∉ s0 := by simpa using h0
      by_cases hS : p ∈ S
      · have hps : s.contains p = true := by simpa using (hs p).mpr (Or.inl hS)
        rw [traverseDecls_cons_seen s p n ds hps, traverseDecls_cons_new s0 p n ds h0]
        obtain ⟨i1, i2⟩ := ih s (s0 ++ [p]) (fun q => by
          rw [hs q]; simp only [List.mem_append, List.mem_singleton]
          constructor
          · rintro (h | h); exact Or.inl h; exact Or.inr (Or.inl h)
          · rintro (h | h | h); exact Or.inl h; exact Or.inr h; exact Or.inl (h ▸ hS))
        refine ⟨?_, i2⟩
        simp only []
        split
        · exact i1
        · simp [hS, i1]
      · have hps : ¬ s.contains p = true := by
          intro h
          have : p ∈ s := by simpa using h
          rcases (hs p).mp this with h | h
          · exact hS h
          · exact hp0 h
        rw [traverseDecls_cons_new s p n ds hps, traverseDecls_cons_new s0 p n ds h0]
        obtain ⟨i1, i2⟩ := ih (s ++ [p]) (s0 ++ [p]) (fun q => by
          simp only [List.mem_append, List.mem_singleton, hs q]
          constructor
          · rintro ((h | h) | h); exact Or.inl h; exact Or.inr (Or.inl h); exact Or.inr (Or.inr h)
          · rintro (h | h | h); exact Or.inl (Or.inl h); exact Or.inl (Or.inr h); exact Or.inr h)
        refine ⟨?_, i2⟩
        simp only []
        split
        · exact i1
        · simp [hS, i1]

theorem traverseChain_seen (S : List Nat) (chain : List Tree) (s s0 : List Nat)
    (hs : ∀ q, q ∈ s ↔ q ∈ S ∨ q ∈ s0) :
    (traverseChain s chain).2 = (traverseChain s0 chain).2.filter (fun d => !S.contains d.1) ∧
    (∀ q, q ∈ (traverseChain s chain).1 ↔ q ∈ S ∨ q ∈ (traverseChain s0 chain).1) := by
  induction chain generalizing s s0 with
  | nil => simpa [traverseChain] using hs
  | cons t rest ih =>
    unfold traverseChain
    obtain ⟨a1, a2⟩ := traverseDecls_seen S t.nsDecls s s0 hs
    obtain ⟨b1, b2⟩ := ih (traverseDecls s t.nsDecls).1 (traverseDecls s0 t.nsDecls).1 a2
    simp only []
    exact ⟨by rw [a1, b1, List.filter_append], b2⟩

/-- Every pair `namespace_traverse` yields for a declaration list comes from that list. -/
theorem traverseDecls_out_keys (s : List Nat) (ds : List (Nat × Nat)) :
    ∀ d ∈ (traverseDecls s ds).2, d.1 ∈ ds.map Prod.fst := by
  induction ds generalizing s with
  | nil => simp [traverseDecls]
  | cons d ds ih =>
    obtain ⟨p, n⟩ := d
    by_cases h : s.contains p = true
    · rw [traverseDecls_cons_seen s p n ds h]
      intro d hd; simp [ih s d hd]
    · rw [traverseDecls_cons_new s p n ds h]
      intro d hd
      simp only [] at hd
      split at hd
      · simp [ih _ d hd]
      · rcases List.mem_cons.mp hd with rfl | hd
        · simp
        · simp [ih _ d hd]

/-- Dropping the prefixes an element declares itself, the scope at the element and the scope at
    its parent agree: so `FullnameInfo::new(own, scope(element)) = FullnameInfo::new(own, scope(parent))`. -/
theorem fullnameInfoNew_inScope_child (el : Tree) (rest : List Tree) :
    fullnameInfoNew el.nsDecls (namespacesInScopeChain (el :: rest)) =
      fullnameInfoNew el.nsDecls (namespacesInScopeChain rest) := by
  unfold fullnameInfoNew
  congr 1
  let S := el.nsDecls.map Prod.fst
  have hpred : ∀ d : Nat × Nat,
      (!el.nsDecls.any (fun x => x.1 == d.1)) = (!S.contains d.1) := by
    intro d
    congr 1
    rw [Bool.eq_iff_iff]
    simp [S]
  have hfun : (fun d : Nat × Nat => !el.nsDecls.any (fun x => x.1 == d.1)) = (fun d => !S.contains d.1) :=
    funext hpred
  have hfun' : (fun x : Nat × Nat => match x with | (p, _) => !el.nsDecls.any (fun x => match x with | (p2, _) => p2 == p))
      = (fun d => !S.contains d.1) := by
    funext d
    obtain ⟨p, n⟩ := d
    exact hpred (p, n)
  rw [hfun']
  unfold namespacesInScopeChain
  simp only [traverseChain]
  obtain ⟨c1, c2⟩ := traverseChain_seen S rest (traverseDecls [] el.nsDecls).1 []
    (fun q => by rw [traverseDecls_seen_sc]; simp [S])
  simp only [List.filter_append, c1, List.filter_filter, Bool.and_self]
  have hown : (traverseDecls [] el.nsDecls).2.filter (fun d => !S.contains d.1) = [] := by
    rw [List.filter_eq_nil_iff]
    intro d hd
    have := traverseDecls_out_keys [] el.nsDecls d hd
    simp [S, this]
  rw [hown, List.nil_append]
  congr 1
  apply List.filter_congr
  intro d _
  obtain ⟨p, n⟩ := d
  by_cases hS : p ∈ S
  · simp [hS]
  · have := c2 p
    simp only [hS, false_or] at this
    simp [hS, this]

theorem ancestorsOrSelf_of_at? (t : Tree) (path : Path) (n : Tree) (h : t.at? path = some n) :
    ∃ rest, t.ancestorsOrSelf path = some (n :: rest) := by
  induction path generalizing t with
  | nil => cases h; exact ⟨[], rfl⟩
  | cons i path ih =>
    obtain ⟨v, ks⟩ := t
    obtain ⟨k, hk, hat⟩ := ScopePath.at?_cons_eq_some.1 h
    obtain ⟨rest, hr⟩ := ih k hat
    exact ⟨rest ++ [.node v ks], ScopePath.ancestorsOrSelf_cons_eq_some.2 ⟨k, n :: rest, hk, hr, rfl⟩⟩

theorem ancestorsOrSelf_child (t : Tree) (path : Path) (i : Nat) (chain : List Tree) (el : Tree)
    (hc : t.ancestorsOrSelf path = some chain) (hel : t.at? (path ++ [i]) = some el) :
    t.ancestorsOrSelf (path ++ [i]) = some (el :: chain) := by
  induction path generalizing t chain with
  | nil =>
    cases hc
    obtain ⟨v, ks⟩ := t
    obtain ⟨k, hk, hat⟩ := ScopePath.at?_cons_eq_some.1 hel
    cases hat
    exact ScopePath.ancestorsOrSelf_cons_eq_some.2 ⟨el, [el], hk, rfl, rfl⟩
  | cons j path ih =>
    obtain ⟨k, c, hk, hkc, rfl⟩ := ScopePath.ancestorsOrSelf_cons_eq_some.1 hc
    obtain ⟨v, ks⟩ := t
    obtain ⟨k', hk', hat⟩ := ScopePath.at?_cons_eq_some.1 hel
    cases hk.symm.trans hk'
    exact ScopePath.ancestorsOrSelf_cons_eq_some.2 ⟨k, el :: c, hk, ih k c hkc hat, rfl⟩

theorem namespacesInScope_of_chain {t : Tree} {path : Path} {chain : List Tree}
    (hc : t.ancestorsOrSelf path = some chain) :
    namespacesInScope t path = some (namespacesInScopeChain chain) := by
  rw [namespacesInScope, hc]; rfl

/-- At every node bindings are in scope: those of the chain of its ancestors. -/
theorem namespacesInScope_of_at? (t : Tree) (path : Path) (n : Tree) (h : t.at? path = some n) :
    ∃ rest, namespacesInScope t path = some (namespacesInScopeChain (n :: rest)) :=
  (ancestorsOrSelf_of_at? t path n h).imp fun _ => namespacesInScope_of_chain

/-- Element start node: the first token's start tag carries the name the doctype writer computed. -/
theorem doctype_element (esc : Escapers) (env : Env) (pr : TokenParams) (t : Tree) (start : Path)
    (name : Nat) (ks : List Tree) (hat : t.at? start = some (.node (.element name) ks))
    (dn : Str) (toks : List (Path × Output × OutputToken))
    (hd : doctypeName env t start = .ok dn)
    (ht : tokensWith esc env pr t start = .ok toks) :
    toks.head?.map (fun k => (k.1, k.2.1, k.2.2.text)) =
      some (start, Output.startTagOpen name, fmt Gen.fmtStartTagOpen [dn]) := by
  obtain ⟨rest, hscope⟩ := namespacesInScope_of_at? t start _ hat
  -- the doctype name
  unfold doctypeName at hd
  simp only [hat, Tree.value] at hd
  have hstack : doctypeStack t start (.node (.element name) ks) =
      (initStack t start).push (Tree.node (.element name) ks).nsDecls := by
    simp [doctypeStack, initStack]
  rw [hstack] at hd
  -- the first token
  unfold tokensWith at ht
  rw [genOutputs_eq_genNode hat hscope, genNode_element] at ht
  simp only [List.cons_append, List.nil_append, renderAllWith, renderAtWith, hat, renderXmlWith] at ht
  cases hf : ((initStack t start).push (Tree.node (.element name) ks).nsDecls).elementFullname env name with
  | error e => simp [hf] at hd
  | ok full =>
    simp only [hf] at hd ht
    cases hd
    by_cases hc : (env.nsOfName name == Env.noNamespace &&
        ((initStack t start).push (Tree.node (.element name) ks).nsDecls).hasDefaultNamespace) = true
    · simp [hc] at ht
    simp only [hc, Bool.false_eq_true, if_false] at ht
    split at ht
    · rename_i l hl
      split at hl
      · cases hl
        cases ht
        rfl
      · cases hl
      · cases hl
    · cases ht
    · cases ht

end XotModel
