/-
  One-hole contexts ("zippers") for forests.

  `plug path ks` is the root list obtained by putting the child list `ks` into the hole of the
  path `path` (outermost frame first).  Every live handle `h` gives a decomposition
  `roots = plug path (l ++ k :: r)` with `k.handle = h`; under distinct handles every primitive of
  `Model/Forest.lean` can be evaluated on such a form.
-/
import XotModel.Lemmas.HTreeCore

namespace XotModel
open HTree

/-- One level of a path: the node (`h`, `v`) whose child list contains the hole, with its own
    left and right siblings. -/
structure ZipFrame where
  l : List HTree
  h : Nat
  v : Value
  r : List HTree

/-- Fill the hole. -/
def plug : List ZipFrame → List HTree → List HTree
  | [], ks => ks
  | fr :: rest, ks => fr.l ++ HTree.node fr.h fr.v (plug rest ks) :: fr.r

/-- Handles of the context part of a path. -/
def pathHandles : List ZipFrame → List Nat
  | [] => []
  | fr :: rest => handlesList fr.l ++ fr.h :: (pathHandles rest ++ handlesList fr.r)

theorem plug_nil (ks : List HTree) : plug [] ks = ks := rfl
theorem plug_cons (fr : ZipFrame) (rest : List ZipFrame) (ks : List HTree) :
    plug (fr :: rest) ks = fr.l ++ HTree.node fr.h fr.v (plug rest ks) :: fr.r := rfl

attribute [local simp] plug_nil plug_cons

theorem plug_append (p1 p2 : List ZipFrame) (ks : List HTree) :
    plug (p1 ++ p2) ks = plug p1 (plug p2 ks) := by
  induction p1 with
  | nil => rfl
  | cons fr rest ih => simp [ih]

/-! ### Elementary facts about `handles` -/

attribute [local simp] handles_node handlesList_nil handlesList_cons handlesList_append

theorem fi_not_mem_handles {h : Nat} {k : HTree} (hm : h ∉ handles k) :
    k.handle ≠ h ∧ h ∉ handlesList k.kids :=
  ⟨fun e => hm (e ▸ handle_mem_handles k),
    fun hc => hm (by rw [handles_eq]; exact List.mem_cons_of_mem _ hc)⟩

theorem node_handle (h : Nat) (v : Value) (ks : List HTree) : (HTree.node h v ks).handle = h := rfl
theorem node_value (h : Nat) (v : Value) (ks : List HTree) : (HTree.node h v ks).value = v := rfl
theorem node_kids (h : Nat) (v : Value) (ks : List HTree) : (HTree.node h v ks).kids = ks := rfl

attribute [local simp] node_handle node_value node_kids

theorem node_eta (t : HTree) : HTree.node t.handle t.value t.kids = t := by cases t; rfl

theorem fi_nil_or_snoc {α : Type} (l : List α) : l = [] ∨ ∃ init a, l = init ++ [a] := by
  rcases List.eq_nil_or_concat l with h | ⟨i, a, h⟩
  · exact Or.inl h
  · exact Or.inr ⟨i, a, by rw [h, List.concat_eq_append]⟩

theorem handlesList_plug_sublist : ∀ (path : List ZipFrame) {X Y : List HTree},
    (handlesList X).Sublist (handlesList Y) → (handlesList (plug path X)).Sublist (handlesList (plug path Y))
  | [], _, _, h => h
  | fr :: rest, _, _, h => by
    simp only [plug_cons, handlesList_append, handlesList_cons, handles_node]
    exact List.Sublist.append_left
      (List.Sublist.append_right (List.Sublist.cons_cons _ (handlesList_plug_sublist rest h)) _) _

theorem handlesList_plug_perm (path : List ZipFrame) (ks : List HTree) :
    (handlesList (plug path ks)).Perm (pathHandles path ++ handlesList ks) := by
  induction path with
  | nil => simp [pathHandles]
  | cons fr rest ih =>
    simp only [plug_cons, handlesList_append, handlesList_cons, handles_node, pathHandles,
      List.append_assoc, List.cons_append]
    refine List.Perm.append_left _ (List.Perm.cons _ ?_)
    -- handlesList (plug rest ks) ++ fr.r  ~  pathHandles rest ++ fr.r ++ ks
    refine (List.Perm.append_right _ ih).trans ?_
    simp only [List.append_assoc]
    exact List.Perm.append_left _ List.perm_append_comm

theorem mem_handlesList_plug {path : List ZipFrame} {ks : List HTree} {x : Nat} :
    x ∈ handlesList (plug path ks) ↔ x ∈ pathHandles path ∨ x ∈ handlesList ks := by
  rw [(handlesList_plug_perm path ks).mem_iff]; simp

theorem nodup_plug {path : List ZipFrame} {ks : List HTree} :
    (handlesList (plug path ks)).Nodup ↔ (pathHandles path ++ handlesList ks).Nodup :=
  (handlesList_plug_perm path ks).nodup_iff

/-! ### Functions on a tree that does not contain the handle -/

theorem fi_ctxKids_of_not_mem (h p : Nat) : ∀ (ks acc : List HTree),
    h ∉ handlesList ks → ctxKids h p acc ks = none :=
  ctxKids_none_of_not_mem h p

theorem fi_ancestorsOfList_of_not_mem (h : Nat) : ∀ ks : List HTree,
    h ∉ handlesList ks → ancestorsOfList h ks = none :=
  ancestorsOfList_none_of_not_mem h

/-! ### Equation lemmas (the `cons` cases, usable with `rw` on one side only) -/

theorem ctxKids_cons (h p : Nat) (acc : List HTree) (k : HTree) (ks : List HTree) :
    ctxKids h p acc (k :: ks) =
      if k.handle = h then some ⟨p, acc, k, ks⟩
      else (ctxBelow h k).or (ctxKids h p (acc ++ [k]) ks) := by
  rw [ctxKids]; cases ctxBelow h k <;> rfl

theorem ancestorsOfList_cons (h : Nat) (k : HTree) (ks : List HTree) :
    ancestorsOfList h (k :: ks) =
      (ancestorsOf h k).or (ancestorsOfList h ks) := by
  rw [ancestorsOfList]; cases ancestorsOf h k <;> rfl

/-! ### Skipping a prefix that does not contain the handle -/

theorem ctxKids_append_of_not_mem (h p : Nat) (l rest acc : List HTree) (hm : h ∉ handlesList l) :
    ctxKids h p acc (l ++ rest) = ctxKids h p (acc ++ l) rest := by
  induction l generalizing acc with
  | nil => simp
  | cons k ks ih =>
    simp only [handlesList_cons, List.mem_append, not_or] at hm
    obtain ⟨hk, hkids⟩ := fi_not_mem_handles hm.1
    simp only [List.cons_append]
    rw [ctxKids_cons, if_neg hk, ffx_ctxBelow_none_of_not_mem h k hkids, Option.none_or]
    rw [ih (acc ++ [k]) hm.2]
    simp

end XotModel
