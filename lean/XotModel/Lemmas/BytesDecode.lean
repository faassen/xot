/-
  `encoding::decode` (model `decodeBytes`) on encoded texts: byte order marks, declared single-byte
  and UTF-8 texts, UTF-16 without a mark (the `<?` pattern, `label16`), and where the model answers
  at all (`decodeBytes_isSome`).
-/
import XotModel.Lemmas.BytesDecl

/-! ### Byte order marks and declared single-byte / UTF-8 texts -/

namespace XotModel.Bytes

def asciiBytes (s : Str) : Bytes := s.map Char.toNat

/-! ### Byte order marks: the label does not matter (`Encoding::decode` sniffs first) -/

theorem decodeBytes_bom8 (t : Str) : decodeBytes (bom8 ++ encodeUtf8 t) = some t := by
  unfold decodeBytes decodeSniffed
  have : bomSniff (bom8 ++ encodeUtf8 t) = some (.utf8, encodeUtf8 t) := by
    simp [bomSniff, bom8, List.isPrefixOf]
  rw [this]
  simp only [decodeWith, decodeUtf8_encode]

theorem decodeBytes_bom16 (be : Bool) (t : Str) : decodeBytes (bom16 be ++ encodeUtf16 be t) = some t := by
  unfold decodeBytes decodeSniffed
  cases be
  · have : bomSniff (bom16 false ++ encodeUtf16 false t) = some (.utf16le, encodeUtf16 false t) := by
      simp [bomSniff, bom16, List.isPrefixOf]
    rw [this]
    simp only [decodeWith, decodeUtf16_encode]
  · have : bomSniff (bom16 true ++ encodeUtf16 true t) = some (.utf16be, encodeUtf16 true t) := by
      simp [bomSniff, bom16, List.isPrefixOf]
    rw [this]
    simp only [decodeWith, decodeUtf16_encode]

/-! ### The head of a declared text -/

theorem pushIfNotContains_nil (x : Str) : pushIfNotContains [] x = [x] := by
  simp [pushIfNotContains]

theorem endianify_notApplicable (e : Str) (f : Flavour) (w : Width) :
    endianify e (some ⟨f, w, .notApplicable⟩) = e := by
  unfold endianify
  split <;> rfl

/-- What `encoding()` chooses for a text whose head tells the detector nothing: the declared label
    through `normalise` and `for_label`; UTF-8 without a label. -/
def labelChoice : Option Str → Option Enc
  | some L => forLabel (normalise L)
  | none => some .utf8

/-- A text that begins `<?xml` in a single-byte / UTF-8 form: the label decides, the detector adds
    nothing (`utf-8` when there is no label). -/
theorem encodingOf_xmlHead (rest : Bytes) (D : Option Str)
    (hD : xmlDeclaration (0x3C :: 0x3F :: 0x78 :: 0x6D :: 0x6C :: rest) = D) :
    encodingOf (0x3C :: 0x3F :: 0x78 :: 0x6D :: 0x6C :: rest) = labelChoice D := by
  unfold encodingOf
  rw [hD]
  have hb : detectByteOrderMark 0x3C 0x3F 0x78 0x6D = some ⟨.ascii, .eight, .notApplicable⟩ := by decide
  simp only [List.take, detectHead, hb]
  have hl : bomLabel (some ⟨.ascii, .eight, .notApplicable⟩) = none := by decide
  rw [hl]
  cases D with
  | none =>
    simp only [labelChoice]
    decide
  | some L =>
    simp only [pushIfNotContains_nil, endianify_notApplicable, List.isEmpty_cons, Bool.false_and,
      Bool.false_eq_true, if_false, labelChoice]

theorem bomSniff_lt (b : Nat) (rest : Bytes) (h : b < 0xEF) : bomSniff (b :: rest) = none := by
  have h1 : ¬ 0xEF = b := by omega
  have h2 : ¬ 0xFF = b := by omega
  have h3 : ¬ 0xFE = b := by omega
  simp [bomSniff, List.isPrefixOf, h1, h2, h3]

theorem win1252_ascii (c : Char) (h : c.toNat < 0x80) : win1252 c.toNat = c := by
  unfold win1252
  have : (decide (0x80 ≤ c.toNat) && decide (c.toNat < 0xA0)) = false := by simp; omega
  rw [this]
  simp

theorem map_win1252_ascii (s : Str) (h : ∀ c ∈ s, c.toNat < 0x80) : (asciiBytes s).map win1252 = s := by
  induction s with
  | nil => rfl
  | cons c cs ih =>
    simp only [asciiBytes, List.map_cons, List.cons.injEq]
    exact ⟨win1252_ascii c (h c List.mem_cons_self), ih (fun x hx => h x (List.mem_cons_of_mem _ hx))⟩

theorem asciiBytes_render_head (d : LDecl) :
    ∃ rest, asciiBytes d.render = 0x3C :: 0x3F :: 0x78 :: 0x6D :: 0x6C :: rest := by
  rw [render_eq_attrs]
  exact ⟨_, rfl⟩

/-- The common part of the single-byte / UTF-8 cases: which encoding is chosen. -/
theorem encodingOf_declared (d : LDecl) (hok : d.ok = true) (tail : Bytes) :
    bomSniff (asciiBytes d.render ++ tail) = none ∧
    encodingOf (asciiBytes d.render ++ tail) = labelChoice d.encoding := by
  have hx := xmlDeclaration_spelled d hok [] (asciiBytes d.render) tail (by simp [declBoms])
    (spells_ascii _ (render_ascii d hok))
  rw [List.nil_append] at hx
  obtain ⟨rest, hr⟩ := asciiBytes_render_head d
  rw [hr] at hx ⊢
  simp only [List.cons_append] at hx ⊢
  exact ⟨bomSniff_lt _ _ (by omega), encodingOf_xmlHead _ _ hx⟩

/-- **Declared single-byte text** (`iso-8859-1`, `latin1`, `windows-1252`, `us-ascii`, … — every label
    `for_label` maps to windows-1252): the declaration in ASCII followed by ANY bytes decodes to the
    declaration followed by those bytes read through the windows-1252 table. -/
theorem decodeBytes_latin (d : LDecl) (hok : d.ok = true) (L : Str)
    (hL : d.encoding = some L) (hlabel : forLabel (normalise L) = some .windows1252) (body : Bytes) :
    decodeBytes (asciiBytes d.render ++ body) = some (d.render ++ body.map win1252) := by
  obtain ⟨hb, he⟩ := encodingOf_declared d hok body
  unfold decodeBytes decodeSniffed
  rw [hb, he, hL]
  simp only [labelChoice, hlabel, Option.getD_some, decodeWith, List.map_append,
    map_win1252_ascii _ (fun c hc => (render_ascii d hok c hc).2)]

/-- **Declared (or label-less, or unknown-label) UTF-8 text without byte order mark.** -/
theorem decodeBytes_utf8_declared (d : LDecl) (hok : d.ok = true)
    (hlabel : ∀ L, d.encoding = some L → (forLabel (normalise L)).getD .utf8 = .utf8) (body : Str) :
    decodeBytes (encodeUtf8 (d.render ++ body)) = some (d.render ++ body) := by
  have hasc : encodeUtf8 d.render = asciiBytes d.render :=
    encodeUtf8_ascii _ (fun c hc => (render_ascii d hok c hc).2)
  have hdec := decodeUtf8_encode (d.render ++ body)
  rw [encodeUtf8_append, hasc] at hdec ⊢
  obtain ⟨hb, he⟩ := encodingOf_declared d hok (encodeUtf8 body)
  unfold decodeBytes decodeSniffed
  rw [hb, he]
  cases hL : d.encoding with
  | none => simp only [labelChoice, Option.getD_some, decodeWith, hdec]
  | some L => simp only [labelChoice, hlabel L hL, decodeWith, hdec]

end XotModel.Bytes

/-! ### UTF-16 without byte order mark

  The detector recognises the `<?` pattern (`3C 00 3F 00` / `00 3C 00 3F`), xot's reader finds the label among
  the ASCII bytes, and `endianify` turns the label `utf-16` into `utf-16le` / `utf-16be`.
-/

namespace XotModel.Bytes

def order16 (be : Bool) : ByteOrder := if be then .bigEndian else .littleEndian
def enc16 (be : Bool) : Enc := if be then .utf16be else .utf16le

/-- The label as `for_label` gets it for a text recognised as 16-bit in byte order `be`. -/
def label16 (be : Bool) (L : Str) : Str := endianify (normalise L) (some ⟨.unknown, .sixteen, order16 be⟩)

theorem encodingOf_utf16Head (be : Bool) (rest : Bytes) (L : Str)
    (hD : xmlDeclaration ((if be then [0x00, 0x3C, 0x00, 0x3F, 0x00] else [0x3C, 0x00, 0x3F, 0x00, 0x78]) ++ rest) =
      some L) :
    encodingOf ((if be then [0x00, 0x3C, 0x00, 0x3F, 0x00] else [0x3C, 0x00, 0x3F, 0x00, 0x78]) ++ rest) =
      forLabel (label16 be L) := by
  unfold encodingOf
  rw [hD]
  cases be
  · have hb : detectByteOrderMark 0x3C 0x00 0x3F 0x00 = some ⟨.unknown, .sixteen, .littleEndian⟩ := by decide
    have hl : bomLabel (some ⟨.unknown, .sixteen, .littleEndian⟩) = none := by decide
    simp only [Bool.false_eq_true, if_false, List.cons_append, List.nil_append, List.take, detectHead, hb, hl,
      pushIfNotContains_nil, List.isEmpty_cons, Bool.false_and, label16, order16]
  · have hb : detectByteOrderMark 0x00 0x3C 0x00 0x3F = some ⟨.unknown, .sixteen, .bigEndian⟩ := by decide
    have hl : bomLabel (some ⟨.unknown, .sixteen, .bigEndian⟩) = none := by decide
    simp only [if_true, List.cons_append, List.nil_append, List.take, detectHead, hb, hl,
      pushIfNotContains_nil, List.isEmpty_cons, Bool.false_and, Bool.false_eq_true, if_false, label16, order16]

theorem encodeUtf16_render_head (be : Bool) (d : LDecl) :
    ∃ rest, encodeUtf16 be d.render =
      (if be then [0x00, 0x3C, 0x00, 0x3F, 0x00] else [0x3C, 0x00, 0x3F, 0x00, 0x78]) ++ rest := by
  rw [render_eq_attrs, encodeUtf16_append]
  cases be
  · exact ⟨[0x00, 0x6D, 0x00, 0x6C, 0x00] ++ _, by
      rw [show encodeUtf16 false ['<', '?', 'x', 'm', 'l'] = [0x3C, 0x00, 0x3F, 0x00, 0x78, 0x00, 0x6D, 0x00, 0x6C, 0x00]
        by decide]; rfl⟩
  · exact ⟨[0x78, 0x00, 0x6D, 0x00, 0x6C] ++ _, by
      rw [show encodeUtf16 true ['<', '?', 'x', 'm', 'l'] = [0x00, 0x3C, 0x00, 0x3F, 0x00, 0x78, 0x00, 0x6D, 0x00, 0x6C]
        by decide]; rfl⟩

/-- **Declared UTF-16 text without byte order mark**: the label `UTF-16` / `utf-16` (any label that
    `for_label` maps, after `normalise` and `endianify`, to the UTF-16 of the byte order in use). -/
theorem decodeBytes_utf16_declared (be : Bool) (d : LDecl) (hok : d.ok = true)
    (L : Str) (hL : d.encoding = some L) (hlabel : forLabel (label16 be L) = some (enc16 be)) (body : Str) :
    decodeBytes (encodeUtf16 be (d.render ++ body)) = some (d.render ++ body) := by
  have hasc := render_ascii d hok
  have hdec := decodeUtf16_encode be (d.render ++ body)
  rw [encodeUtf16_append] at hdec ⊢
  have hx := xmlDeclaration_spelled d hok [] (encodeUtf16 be d.render) (encodeUtf16 be body) (by simp [declBoms])
    (spells_utf16 be _ hasc)
  rw [List.nil_append] at hx
  rw [hL] at hx
  obtain ⟨rest, hr⟩ := encodeUtf16_render_head be d
  rw [hr] at hx hdec ⊢
  have he := encodingOf_utf16Head be (rest ++ encodeUtf16 be body) L (by rw [← List.append_assoc]; exact hx)
  rw [← List.append_assoc] at he
  have hb : bomSniff ((if be then [0x00, 0x3C, 0x00, 0x3F, 0x00] else [0x3C, 0x00, 0x3F, 0x00, 0x78]) ++ rest ++
      encodeUtf16 be body) = none := by
    cases be
    · exact bomSniff_lt _ _ (by omega)
    · exact bomSniff_lt _ _ (by omega)
  unfold decodeBytes decodeSniffed
  rw [hb, he, hlabel]
  cases be
  · simpa [enc16, decodeWith] using hdec
  · simpa [enc16, decodeWith] using hdec

/-- The labels the suite uses. -/
theorem label16_utf16 (be : Bool) :
    forLabel (label16 be ['U', 'T', 'F', '-', '1', '6']) = some (enc16 be) ∧
    forLabel (label16 be ['u', 't', 'f', '-', '1', '6']) = some (enc16 be) := by
  cases be <;> decide

end XotModel.Bytes

/-! ### Where the model of `decode` answers

  Always, except when the declaration names one of the 34 legacy encodings the model knows by name only (and
  there is no byte order mark).  The real `decode` is total (as of /repo f576658).
-/

namespace XotModel.Bytes

theorem decodeWith_isSome (e : Enc) (bs : Bytes) (h : ∀ n, e ≠ .other n) : (decodeWith e bs).isSome = true := by
  cases e with
  | other n => exact absurd rfl (h n)
  | _ => rfl

theorem bomSniff_modelled (bs : Bytes) (e : Enc) (rest : Bytes) (h : bomSniff bs = some (e, rest)) :
    ∀ n, e ≠ .other n := by
  unfold bomSniff at h
  intro n
  split at h
  · cases h; exact fun e => by cases e
  · split at h
    · cases h; exact fun e => by cases e
    · split at h
      · cases h; exact fun e => by cases e
      · cases h

theorem decodeBytes_isSome_of_bom (bs : Bytes) (h : (bomSniff bs).isSome = true) : (decodeBytes bs).isSome = true := by
  unfold decodeBytes decodeSniffed
  cases hb : bomSniff bs with
  | none => rw [hb] at h; cases h
  | some p =>
    obtain ⟨e, rest⟩ := p
    exact decodeWith_isSome e rest (bomSniff_modelled bs e rest hb)

/-- The model answers unless the encoding chosen is one of those known by name only. -/
theorem decodeBytes_isSome (bs : Bytes) (h : ∀ n, encodingOf bs ≠ some (.other n)) :
    (decodeBytes bs).isSome = true := by
  cases hb : bomSniff bs with
  | some p => exact decodeBytes_isSome_of_bom bs (by rw [hb]; rfl)
  | none =>
    unfold decodeBytes decodeSniffed
    rw [hb]
    apply decodeWith_isSome
    intro n hn
    cases he : encodingOf bs with
    | none => rw [he] at hn; cases hn
    | some e => rw [he] at hn; exact h n (by rw [he]; exact congrArg some hn)

/-- Without a declaration `encoding()` looks up `UTF-8` (a head of four bytes: no candidate), the label of the byte
    order mark information, or `utf-8` / `UTF-8` as the fifth byte is ASCII or not; shorter inputs get no answer. -/
theorem encodingOf_undeclared (bs : Bytes) (h : xmlDeclaration bs = none) :
    encodingOf bs = none ∨ encodingOf bs = forLabel ['U', 'T', 'F', '-', '8'] ∨
      encodingOf bs = forLabel ['u', 't', 'f', '-', '8'] ∨
      ∃ x l, bomLabel x = some l ∧ encodingOf bs = forLabel l := by
  unfold encodingOf
  rw [h]
  rcases bs with _ | ⟨a, _ | ⟨b, _ | ⟨c, _ | ⟨d, _ | ⟨e, rest⟩⟩⟩⟩⟩
  · exact .inl rfl
  · exact .inl rfl
  · exact .inl rfl
  · exact .inl rfl
  · exact .inr (.inl rfl)
  · simp only [List.take, detectHead]
    cases hb : bomLabel (detectByteOrderMark a b c d) with
    | none =>
      by_cases he : e < 0x80
      · exact .inr (.inr (.inl (by simp only [List.isEmpty_nil, Bool.true_and, he, decide_true, if_true])))
      · exact .inr (.inl (by simp only [List.isEmpty_nil, Bool.true_and, he, decide_false, Bool.false_eq_true, if_false]))
    | some l =>
      exact .inr (.inr (.inr ⟨_, l, hb, by
        simp only [pushIfNotContains_nil, List.isEmpty_cons, Bool.false_and, Bool.false_eq_true, if_false]⟩))

/-- What the label table answers for the labels of the byte order mark information: never an encoding known by
    name only. -/
theorem forLabel_bomLabel {x : Option Descriptor} {l : Str} (h : bomLabel x = some l) :
    forLabel l = none ∨ forLabel l = some .utf8 ∨ forLabel l = some .utf16le ∨ forLabel l = some .utf16be := by
  unfold bomLabel at h
  split at h <;> cases h
  · exact .inl (by decide +kernel)
  · exact .inl (by decide +kernel)
  · exact .inr (.inr (.inl (by decide +kernel)))
  · exact .inr (.inr (.inr (by decide +kernel)))
  · exact .inr (.inl (by decide +kernel))
  · exact .inl (by decide +kernel)

end XotModel.Bytes
