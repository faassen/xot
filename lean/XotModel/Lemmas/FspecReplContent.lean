/-
  C05 for `replace`, the specification `specReplace` (no model function):
  the content (`Forest.content`, handles forgotten) does not depend on the survivor rule
  (`specReplace_content_keep`), and closed examples for it and for the frame and handle theorems of
  Lemmas/FspecReplFrame.lean.

  Geometries: `b` parentless or a child of `q` — one edit of one site of a forest that does not
  depend on the rule; `b` a child of another node `po` — the two merges (at `po`, at `q`)
  commute, so the rule is exchanged at one site at a time.
-/
import XotModel.Lemmas.BasicFacts
import XotModel.Lemmas.FspecReplFrame

namespace XotModel
open HTree Spec

namespace ReplFrame

variable {f : Forest} {k1 k2 : Keep} {a b q : Nat} {vq : Value} {l : List HTree} {A : HTree} {r : List HTree}
  {t : HTree} {Y : Forest} {l' r' : List HTree}

theorem mergeOpt_nil (c : Bool) (keep : Keep) : mergeOpt c keep [] = [] := by
  cases c <;> rfl

/-- Merging erases to the same list whichever rule is used (text nodes being leaves). -/
theorem erase_mergeOpt_keep (c : Bool) (k1 k2 : Keep) {L : List HTree}
    (hl : ∀ k ∈ L, k.value.isText = true → k.kids = []) :
    eraseList (mergeOpt c k1 L) = eraseList (mergeOpt c k2 L) := by
  cases c
  · rfl
  · exact erase_mergeRuns_keep k1 k2 hl

theorem Stage.content_step (st : Stage f k1 a b q vq l A r t Y l' r') (inv : f.Inv)
    (ra : ReplArgs f a b q vq l A r t) (k2 : Keep) :
    (Y.editAt (some q) (mergeOpt f.consolidation k1 ∘ replaceTop a (fun _ => [t]))).content =
      (Y.editAt (some q) (mergeOpt f.consolidation k2 ∘ replaceTop a (fun _ => [t]))).content := by
  apply st.site.content_congr
  simp only [Function.comp]
  rw [st.put ra.ha]
  apply erase_mergeOpt_keep
  exact fun k hk hkt => (st.text_put inv ra hk hkt).1

/-- Both rules pass through the same forest `Y`. -/
theorem content_same_stage (st1 : Stage f k1 a b q vq l A r t Y l' r') (st2 : Stage f k2 a b q vq l A r t Y l' r')
    (inv : f.Inv) (ra : ReplArgs f a b q vq l A r t) :
    (specReplace k1 a b f).content = (specReplace k2 a b f).content := by
  rw [st1.spec, st2.spec]
  exact st1.content_step inv ra k2

theorem content_far (inv : f.Inv) (ra : ReplArgs f a b q vq l A r t) {po : Nat}
    (hpb : f.parent? b = some po) (hne : po ≠ q) :
    (specReplace k1 a b f).content = (specReplace k2 a b f).content := by
  have nd := inv.nodup
  obtain ⟨φ1, st1⟩ := stage_far (keep := k1) inv ra hpb hne
  obtain ⟨φ2, st2⟩ := stage_far (keep := k2) inv ra hpb hne
  obtain ⟨vo, lo, ro, so⟩ := site_of_b nd ra.hgb hpb
  have hpot : po ∉ handles t := so.not_mem_kid
  have hleafo := so.leaf inv.valid
  -- the forest after the cut, before any merge: the children of `po` and of `q` in it
  have s1o := so.dropKid
  rw [ra.hb] at s1o
  have c1 := cut_far inv ra so hne id (fun _ => List.Sublist.refl _) (fun _ _ => rfl)
  rw [Function.id_comp] at c1
  -- the forest `V`: replacement and merge (rule `k2`) at `q` done, no merge at `po` yet
  let G2 : List HTree → List HTree := mergeOpt f.consolidation k2 ∘ replaceTop a (fun _ => [t])
  have sVo := site_other c1.site s1o.kids hne G2 (c1.nodup_put ra.ha nd k2)
    (c1.find_put inv ra k2 hpot (ra.parent_b_not_in_A so)
      (fun _ hg hl => not_text_leaf_of_parent nd so.ctx hg hl))
  -- exchange of the rule at `po`
  have hD : ∀ k : Keep,
      (specRemove k b f).editAt (some q) G2 =
        ((f.editAt (some po) (dropTop b)).editAt (some q) G2).editAt (some po) (mergeOpt f.consolidation k) := by
    intro k
    rw [specRemove_kid hpb, ← Forest.editAt_editAt f (some po) (dropTop b) (mergeOpt f.consolidation k)]
    exact (Forest.editAt_comm (f.editAt (some po) (dropTop b)) (p := po) (q := q)
      (g := mergeOpt f.consolidation k) (g' := G2) hne
      (natFor_mergeOpt (kidMap_editAt _ _) _ _)
      (NatFor.comp (natFor_putTop (kidMap_editAt _ _) a (editAt_of_not_mem t hpot))
        (natFor_mergeOpt (kidMap_editAt _ _) _ _))).symm
  have hstep2 : ((specRemove k1 b f).editAt (some q) G2).content = ((specRemove k2 b f).editAt (some q) G2).content := by
    rw [hD k1, hD k2]
    apply sVo.content_congr
    apply erase_mergeOpt_keep
    intro k hk hkt
    obtain ⟨k0, hk0, e⟩ := List.mem_map.1 hk
    subst e
    rw [editAt_value] at hkt
    have hk0' : k0 ∈ lo ++ t :: ro := fs_mem_mid_of_mem _ hk0
    rw [editAt_leaf_of_nil (g := G2) (mergeOpt_nil _ _) (hleafo k0 hk0' hkt)]
    exact hleafo k0 hk0' hkt
  rw [st1.spec, st2.spec]
  exact (st1.content_step inv ra k2).trans hstep2

end ReplFrame

/-- Once handles are forgotten, `specReplace` does not depend on the survivor rule. -/
theorem specReplace_content_keep {f : Forest} {a b q : Nat} {vq : Value} {l : List HTree} {A : HTree}
    {r : List HTree} {t : HTree} (inv : f.Inv) (ra : ReplArgs f a b q vq l A r t) (k1 k2 : Keep) :
    (specReplace k1 a b f).content = (specReplace k2 a b f).content := by
  cases hpb : f.parent? b with
  | none =>
    exact ReplFrame.content_same_stage (ReplFrame.stage_root (keep := k1) inv ra hpb)
      (ReplFrame.stage_root (keep := k2) inv ra hpb) inv ra
  | some po =>
    by_cases hne : po = q
    · subst hne
      exact ReplFrame.content_same_stage (ReplFrame.stage_same (keep := k1) inv ra hpb)
        (ReplFrame.stage_same (keep := k2) inv ra hpb) inv ra
    · exact ReplFrame.content_far inv ra hpb hne

/-! ### Closed examples: the hypotheses are satisfiable, the statements say something -/

namespace ReplFrame

/-- A document with two elements holding text / element / text each, and a second parentless tree. -/
def sample : Forest :=
  { roots := [.node 0 .document [
      .node 1 (.element 0) [.node 2 (.text ['x']) [], .node 3 (.element 1) [.node 9 (.element 2) []],
        .node 4 (.text ['y']) []],
      .node 5 (.element 0) [.node 6 (.text ['p']) [], .node 7 (.element 1) [.node 12 (.text ['z']) []],
        .node 8 (.text ['q']) []]],
      .node 10 (.element 3) [.node 11 (.text ['r']) []]],
    next := 13 }

theorem sample_inv : sample.Inv := (Forest.inv_iff _).1 (by decide +kernel)

/-- `replace(3, 7)`: the replacing element `7` is a child of another node (`5`). -/
theorem sample_args_far : ReplArgs sample 3 7 1 (.element 0) [.node 2 (.text ['x']) []]
    (.node 3 (.element 1) [.node 9 (.element 2) []]) [.node 4 (.text ['y']) []]
    (.node 7 (.element 1) [.node 12 (.text ['z']) []]) :=
  ⟨⟨sample_inv.nodup, by decide +kernel⟩, by decide +kernel, by decide +kernel, by decide +kernel, by decide +kernel, by decide +kernel, by decide +kernel, by decide +kernel, by decide +kernel⟩

/-- `replace(3, 6)`: the replacing node is the text node `6`; it is merged with `2` and `4`. -/
theorem sample_args_text : ReplArgs sample 3 6 1 (.element 0) [.node 2 (.text ['x']) []]
    (.node 3 (.element 1) [.node 9 (.element 2) []]) [.node 4 (.text ['y']) []] (.node 6 (.text ['p']) []) :=
  ⟨⟨sample_inv.nodup, by decide +kernel⟩, by decide +kernel, by decide +kernel, by decide +kernel, by decide +kernel, by decide +kernel, by decide +kernel, by decide +kernel, by decide +kernel⟩

/-- `replace(3, 10)`: the replacing node is a parentless tree. -/
theorem sample_args_root : ReplArgs sample 3 10 1 (.element 0) [.node 2 (.text ['x']) []]
    (.node 3 (.element 1) [.node 9 (.element 2) []]) [.node 4 (.text ['y']) []]
    (.node 10 (.element 3) [.node 11 (.text ['r']) []]) :=
  ⟨⟨sample_inv.nodup, by decide +kernel⟩, by decide +kernel, by decide +kernel, by decide +kernel, by decide +kernel, by decide +kernel, by decide +kernel, by decide +kernel, by decide +kernel⟩

/-- `replace(3, 4)`: the replacing node stands next to the replaced one. -/
theorem sample_args_same : ReplArgs sample 3 4 1 (.element 0) [.node 2 (.text ['x']) []]
    (.node 3 (.element 1) [.node 9 (.element 2) []]) [.node 4 (.text ['y']) []] (.node 4 (.text ['y']) []) :=
  ⟨⟨sample_inv.nodup, by decide +kernel⟩, by decide +kernel, by decide +kernel, by decide +kernel, by decide +kernel, by decide +kernel, by decide +kernel, by decide +kernel, by decide +kernel⟩

-- Frame: node `11` (child of the parentless `10`) keeps its place under `replace(3, 7)`.
example : ∃ cx', (specReplace (Keep.resident 7) 3 7 sample).ctx? 11 = some cx' ∧
    cx'.shape = (10, [], .text ['r'], []) :=
  frame_specReplace (cx := ⟨10, [], .node 11 (.text ['r']) [], []⟩) _ sample_inv sample_args_far
    rfl (by decide +kernel) (by decide +kernel) (by decide +kernel) (by decide +kernel) (by decide +kernel)

-- Handles: those after the call, for two rules; `3` and `9` are gone; of the old neighbours `6`, `8` of `7` the rule decides which survives.
example : (specReplace Keep.earlier 3 7 sample).allHandles = [0, 1, 2, 7, 12, 4, 5, 6, 10, 11] := by decide +kernel
example : (specReplace (fun _ _ => false) 3 7 sample).allHandles = [0, 1, 2, 7, 12, 4, 5, 8, 10, 11] := by decide +kernel
example : (specReplace Keep.earlier 3 6 sample).allHandles = [0, 1, 2, 5, 7, 12, 8, 10, 11] := by decide +kernel
example : (specReplace (Keep.resident 6) 3 6 sample).get? 2 = some (.node 2 (.text ['x', 'p', 'y']) []) := by decide +kernel

-- Handles, precise form: the text nodes that vanish are children of `1` or `5` (or `b` itself).
example : ∀ h ∈ sample.allHandles, h ∉ [3, 9] →
    (h ∈ (specReplace Keep.earlier 3 6 sample).allHandles ↔ h ∉ [6, 4]) := by decide +kernel

-- Content: different handles, the same content.
example : specReplace Keep.earlier 3 6 sample ≠ specReplace (fun _ _ => false) 3 6 sample := by decide +kernel
example : (specReplace Keep.earlier 3 6 sample).content = (specReplace (fun _ _ => false) 3 6 sample).content :=
  specReplace_content_keep sample_inv sample_args_text _ _
example : (specReplace Keep.earlier 3 10 sample).content = (specReplace (Keep.resident 10) 3 10 sample).content :=
  specReplace_content_keep sample_inv sample_args_root _ _
example : (specReplace Keep.earlier 3 4 sample).content = (specReplace (Keep.resident 4) 3 4 sample).content :=
  specReplace_content_keep sample_inv sample_args_same _ _

-- All statements at once on the sample, for every pair (a, b) the argument checks let through.
example : ∀ a ∈ [2, 3, 4, 6, 7, 8], ∀ b ∈ [2, 4, 6, 7, 8, 10, 11, 12], ∀ A, sample.get? a = some A → b ∉ handles A →
    (specReplace (Keep.resident b) a b sample).allHandles.Nodup ∧
    (∀ h ∈ (specReplace (Keep.resident b) a b sample).allHandles, h ∈ sample.allHandles ∧ h ∉ handles A) ∧
    (∀ h ∈ sample.allHandles, h ∉ handles A → sample.textOf h = none →
      h ∈ (specReplace (Keep.resident b) a b sample).allHandles) ∧
    (specReplace (Keep.resident b) a b sample).content = (specReplace Keep.earlier a b sample).content := by
  -- evaluated: these pairs pass the argument checks of `replace`
  have checks : ∀ a ∈ [2, 3, 4, 6, 7, 8], ∀ b ∈ [2, 4, 6, 7, 8, 10, 11, 12], ∀ A, sample.get? a = some A →
      b ∉ handles A → (sample.parent? a).isSome = true ∧ sample.isNormalNode a = true ∧
        sample.structureCheck (sample.parent? a) b = true ∧ (sample.ancestors b).contains a = false := by
    decide +kernel
  intro a ha b hb A hA hbA
  obtain ⟨h1, h2, h3, h4⟩ := checks a ha b hb A hA hbA
  obtain ⟨q, hq⟩ := Option.isSome_iff_exists.1 h1
  rw [hq] at h3
  obtain ⟨vq, l, A', r, t, ra⟩ := ReplArgs.of_checks sample_inv.nodup hq h2 h3 h4
  obtain rfl : A' = A := Option.some.inj (ra.live_a.symm.trans hA)
  exact ⟨specReplace_nodup _ sample_inv ra, specReplace_handles_sub _ sample_inv ra,
    specReplace_handles_kept _ sample_inv ra, specReplace_content_keep sample_inv ra _ _⟩

end ReplFrame
end XotModel
