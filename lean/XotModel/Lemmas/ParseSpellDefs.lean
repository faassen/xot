/-
  Spelling as data at document level (specification side of C02_spelled).

  * `PNode`   : an abstract document without namespaces (element / attribute names are local
                names in no namespace): what a text denotes.
  * `SNode`   : one spelling of such a document — which pieces spell every attribute value and
                every run of character data, where CDATA sections are interleaved, whether an
                element is written `<a/>` or `<a></a>`, and every byte position (all positions and
                all whole-token spans are arbitrary: the tree does not depend on them).
  * `tokens`  : the token list a tokenizer returns for that spelling.
  * `denote`  : the abstract document a spelling denotes.
  * `encode`  : the abstract document as an id tree, names interned in document order.
-/
import XotModel.Model.Parse
import XotModel.Lemmas.ParseContent

namespace XotModel

/-- Abstract document node (no namespaces). -/
inductive PNode where
  | elem (name : Str) (attrs : List (Str × Str)) (kids : List PNode)
  | text (s : Str)
  | comment (s : Str)
  | pi (target : Str) (data : Option Str)
  deriving Repr, Inhabited

/-- One attribute as spelled: `name = "pieces"`. -/
structure SAttr where
  name : StrSpan
  /-- start of the (empty) prefix span -/
  pstart : Nat
  pieces : List Piece
  vstart : Nat
  junk : StrSpan
  deriving Repr, Inhabited

/-- One part of a run of character data. -/
inductive SPart where
  | txt (ps : List Piece) (start : Nat)
  | cd (t : StrSpan) (junk : StrSpan)
  deriving Repr, Inhabited

/-- A spelled node. `junk` fields are the whole-token spans xot never looks at. -/
inductive SNode where
  /-- `<name attrs> kids </cname>` -/
  | elem (name : StrSpan) (pstart : Nat) (junk : StrSpan) (attrs : List SAttr) (openSp : StrSpan)
      (kids : List SNode) (cname : StrSpan) (cpstart : Nat) (closeSp : StrSpan)
  /-- `<name attrs/>` -/
  | empty (name : StrSpan) (pstart : Nat) (junk : StrSpan) (attrs : List SAttr) (endSp : StrSpan)
  /-- a maximal run of text and CDATA parts -/
  | chars (parts : List SPart)
  | comment (text : StrSpan) (junk : StrSpan)
  | pi (target : StrSpan) (content : Option StrSpan) (junk : StrSpan)
  deriving Inhabited

def SAttr.token (a : SAttr) : Token :=
  .attribute ⟨[], a.pstart⟩ a.name ⟨renderPieces a.pieces, a.vstart⟩ a.junk

def SPart.token : SPart → Token
  | .txt ps start => .text ⟨renderPieces ps, start⟩
  | .cd t junk => .cdata t junk

/-- The tokens of a spelled node. -/
def SNode.tokens : SNode → List Token
  | .elem name pstart junk attrs openSp kids cname cpstart closeSp =>
    .elementStart ⟨[], pstart⟩ name junk :: (attrs.map SAttr.token ++
      (.elementEnd .open openSp :: (tokensList kids ++ [.elementEnd (.close ⟨[], cpstart⟩ cname) closeSp])))
  | .empty name pstart junk attrs endSp =>
    .elementStart ⟨[], pstart⟩ name junk :: (attrs.map SAttr.token ++ [.elementEnd .empty endSp])
  | .chars parts => parts.map SPart.token
  | .comment text junk => [.comment text junk]
  | .pi target content junk => [.pi target content junk]
where
  tokensList : List SNode → List Token
    | [] => []
    | k :: ks => SNode.tokens k ++ tokensList ks

/-- The character data one part contributes: a text part is decoded, a CDATA part is its content
    with line ends normalised. -/
def SPart.value : SPart → Str
  | .txt ps _ => valueOf false ps
  | .cd t _ => replaceCr (replaceCrLf t.text)

def partsValue (parts : List SPart) : Str := parts.flatMap SPart.value

def SAttr.denote (a : SAttr) : Str × Str := (a.name.text, valueOf true a.pieces)

/-- The abstract nodes a spelled node denotes (a character-data run without characters denotes
    nothing). -/
def SNode.denote : SNode → List PNode
  | .elem name _ _ attrs _ kids _ _ _ => [.elem name.text (attrs.map SAttr.denote) (denoteList kids)]
  | .empty name _ _ attrs _ => [.elem name.text (attrs.map SAttr.denote) []]
  | .chars parts => if partsValue parts = [] then [] else [.text (partsValue parts)]
  -- line ends are normalised in comments and processing instructions too (XML 1.0, 2.11)
  | .comment text _ => [.comment (normalizeLineEnds text.text)]
  | .pi target content _ => [.pi target.text (content.map (fun c => normalizeLineEnds c.text))]
where
  denoteList : List SNode → List PNode
    | [] => []
    | k :: ks => SNode.denote k ++ denoteList ks

/-- Attribute leaves for `(name, value)` pairs, names interned in order (namespace 0). -/
def encodeAttrs : Env → List (Str × Str) → Env × List Tree
  | env, [] => (env, [])
  | env, (a, v) :: rest =>
    let r := env.internName a Env.noNamespace
    let r2 := encodeAttrs r.1 rest
    (r2.1, .node (.attribute r.2 v) [] :: r2.2)

/-- The abstract document as an id tree: element name first, then its attribute names, then the
    children, in document order — the order in which a parser meets them. -/
def PNode.encode : Env → PNode → Env × Tree
  | env, .elem name attrs kids =>
    let r := env.internName name Env.noNamespace
    let ra := encodeAttrs r.1 attrs
    let rk := encodeList ra.1 kids
    (rk.1, .node (.element r.2) (ra.2 ++ rk.2))
  | env, .text s => (env, .node (.text s) [])
  | env, .comment s => (env, .node (.comment s) [])
  | env, .pi target data =>
    let r := env.internName target Env.noNamespace
    (r.1, .node (.pi r.2 data) [])
where
  encodeList : Env → List PNode → Env × List Tree
    | env, [] => (env, [])
    | env, k :: ks =>
      let r := PNode.encode env k
      let r2 := encodeList r.1 ks
      (r2.1, r.2 :: r2.2)

/-! ### Well-formedness of a spelling -/

/-- (`pstart = 0`: the absent prefix is xmlparser's `"".into()`, offset 0; an empty prefix at another
    offset is a colon with nothing in front of it, refused as of /repo a5fafb0.) -/
def SAttr.Well (a : SAttr) : Prop :=
  WellSpelled a.pieces ∧ a.name.text ≠ ['x', 'm', 'l', 'n', 's'] ∧ a.pstart = 0

def SPart.Well : SPart → Prop
  | .txt ps _ => ps ≠ [] ∧ WellSpelled ps
  | .cd _ _ => True

def SNode.isChars : SNode → Bool
  | .chars _ => true
  | _ => false

/-- No two neighbouring character-data runs (they would be one run). -/
def noAdjChars : List SNode → Bool
  | a :: b :: rest => !(a.isChars && b.isChars) && noAdjChars (b :: rest)
  | _ => true

def attrsWell (attrs : List SAttr) : Prop :=
  (∀ a ∈ attrs, a.Well) ∧ (attrs.map (fun a => a.name.text)).Nodup

/-- A spelling is well formed: attribute values and text parts are well spelled, attribute names
    are pairwise different and none is `xmlns`, the end tag repeats the start tag's name, no two
    character-data runs are neighbours, no processing-instruction target is `xml` (any letter case),
    the absent prefixes have offset 0 (as the tokenizer reports them; `check_qname` of /repo a5fafb0
    takes an empty prefix at another offset for a colon with nothing in front). -/
def SNode.Well : SNode → Prop
  | .elem name pstart _ attrs _ kids cname cpstart _ =>
    attrsWell attrs ∧ cname.text = name.text ∧ noAdjChars kids = true ∧ wellList kids ∧
      pstart = 0 ∧ cpstart = 0
  | .empty _ pstart _ attrs _ => attrsWell attrs ∧ pstart = 0
  | .chars parts => ∀ p ∈ parts, p.Well
  | .comment _ _ => True
  -- the target `xml` (any letter case) is reserved
  | .pi target _ _ => isReservedPiTarget target.text = false
where
  wellList : List SNode → Prop
    | [] => True
    | k :: ks => SNode.Well k ∧ wellList ks

end XotModel
