/-
  C19_embedded / C19_unprefixed_end: the default binding of the name stack agrees with the default namespace
  the written start tags declare (`DefaultInv`, against the replay of the token stream `embeddedReplay`): through
  one element, by induction over the tree, and for a whole serialisation from the initial name stack of
  `Html5Serializer::new`.
-/
import XotModel.Model.Html5
import XotModel.Lemmas.Html5Stream
import XotModel.Lemmas.PrettyStack
import XotModel.Lemmas.Scope

/-!
## The replay of the token stream

  Specification side of "MathML, SVG and XHTML elements are written under a default-namespace
  declaration of their namespace" (C19_embedded): a replay of the rendered token stream that
  tracks the default namespace the *written* start tags declare.
-/

namespace XotModel
open Gen

/-- The default namespace in force on top of a replay stack (`Env.noNamespace` = none declared). -/
def dOf (st : List (Nat × Nat)) : Nat := (st.head?.map (·.2)).getD Env.noNamespace

/-- Replay of a rendered stream.  Stack, innermost first: (namespace of the open element, default
    namespace in force inside its start tag as written so far).  A start tag inherits the default
    of the enclosing element unless its own token carries the `xmlns="…"` declaration; a written
    `xmlns="…"` token replaces it.  At the `>` of an element whose namespace must be written
    unprefixed the default namespace in force must be the element's own: otherwise `none`. -/
def embeddedReplay (c : HtmlCtx) :
    List (Nat × Nat) → List (Path × Output × OutputToken) → Option (List (Nat × Nat))
  | st, [] => some st
  | st, (_, o, tok) :: rest =>
    match o with
    | .startTagOpen name =>
      let ns := c.env.nsOfName name
      let injected := tok.text ==
        fmt fmtHtmlStartTagOpenNs [c.env.localName name, serializeAttributeHtml (c.env.namespaceStr ns)]
      embeddedReplay c ((ns, if injected then ns else dOf st) :: st) rest
    | .pfx p ns =>
      if p == Env.emptyPrefix && !tok.text.isEmpty then
        match st with
        | (ens, _) :: st' => embeddedReplay c ((ens, ns) :: st') rest
        | [] => embeddedReplay c st rest
      else embeddedReplay c st rest
    | .startTagClose =>
      match st with
      | (ens, d) :: _ =>
        if c.h.mustBeUnprefixed ens && d != ens then none else embeddedReplay c st rest
      | [] => embeddedReplay c st rest
    | .endTag _ => embeddedReplay c st.tail rest
    | _ => embeddedReplay c st rest

/-- Every start tag of a MathML / SVG / XHTML element is written under a default-namespace
    declaration of its namespace. -/
def embeddedUnderDefault (c : HtmlCtx) (l : List (Path × Output × OutputToken)) : Bool :=
  (embeddedReplay c [] l).isSome

theorem embeddedReplay_append (c : HtmlCtx) (a b : List (Path × Output × OutputToken)) :
    ∀ st, embeddedReplay c st (a ++ b) = (embeddedReplay c st a).bind (fun st' => embeddedReplay c st' b) := by
  induction a with
  | nil => intro st; simp [embeddedReplay]
  | cons k a ih =>
    intro st
    obtain ⟨p, o, tok⟩ := k
    cases o with
    | startTagOpen name => simp only [List.cons_append, embeddedReplay, ih]
    | startTagClose =>
      cases st with
      | nil => simp only [List.cons_append, embeddedReplay, ih]
      | cons e st =>
        obtain ⟨ens, d⟩ := e
        simp only [List.cons_append, embeddedReplay, ih]
        split <;> simp
    | endTag name => simp only [List.cons_append, embeddedReplay, ih]
    | pfx q ns =>
      simp only [List.cons_append, embeddedReplay]
      split
      · cases st with
        | nil => simp only [ih]
        | cons e st => simp only [ih]
      · simp only [ih]
    | «attribute» name v => simp only [List.cons_append, embeddedReplay, ih]
    | text s => simp only [List.cons_append, embeddedReplay, ih]
    | comment s => simp only [List.cons_append, embeddedReplay, ih]
    | pi tg d => simp only [List.cons_append, embeddedReplay, ih]

end XotModel

/-! ## The invariant through the declarations of an element

  `DefaultInv` through one element's start tag, declarations, children and end tag.
-/

namespace XotModel
open Gen

/-- Every (non-XML) default binding of the top frame is the default namespace in force in the
    output. -/
def DefaultInv (s : FStack) (d : Nat) : Prop :=
  ∀ Y, Y ≠ Env.xmlNamespace → (Env.emptyPrefix, Y) ∈ s.top → d = Y

/-- Local names and prefixes hold no space (they are NCNames in any sound vocabulary). -/
def NoSpaces (env : Env) : Prop := (∀ n, ' ' ∉ env.localName n) ∧ (∀ p, ' ' ∉ env.prefixStr p)

theorem declEvents_pfx_own (inScope : List (Nat × Nat)) (path : Path) (n : Tree) (p ns : Nat)
    (h : (path, Output.pfx p ns) ∈ declEvents inScope false path n) : (p, ns) ∈ n.nsDecls := by
  simp only [declEvents, Bool.false_eq_true, if_false, List.map_nil, List.nil_append, List.mem_append,
    List.mem_map, Prod.mk.injEq, Output.pfx.injEq] at h
  rcases h with ⟨d, hd, _, rfl, rfl⟩ | ⟨a, _, _, ha⟩
  · exact hd
  · cases ha

theorem declEvents_own (inScope : List (Nat × Nat)) (isTop : Bool) (path : Path) (n : Tree) (p ns : Nat)
    (h : (p, ns) ∈ n.nsDecls) : (path, Output.pfx p ns) ∈ declEvents inScope isTop path n := by
  simp only [declEvents, List.mem_append, List.mem_map]
  exact Or.inl (Or.inr ⟨(p, ns), h, rfl⟩)

/-- The default namespace in force after the declaration events of an element in namespace `X`
    whose start tag began with default `d`: a written `xmlns="…"` is one for `X`. -/
def midDefault (X : Nat) : Nat → List (Path × Output) → Nat
  | d, [] => d
  | d, (_, o) :: rest =>
    match o with
    | .pfx p ns =>
      midDefault X (if p == Env.emptyPrefix && ns == X && X != Env.xmlNamespace then X else d) rest
    | _ => midDefault X d rest

theorem midDefault_self (X : Nat) (evs : List (Path × Output)) : midDefault X X evs = X := by
  induction evs with
  | nil => rfl
  | cons e evs ih =>
    obtain ⟨q, o⟩ := e
    cases o <;> simp only [midDefault, ih]
    split <;> exact ih

theorem midDefault_of_mem (X d : Nat) (path : Path) (evs : List (Path × Output)) (hx : X ≠ Env.xmlNamespace)
    (h : (path, Output.pfx Env.emptyPrefix X) ∈ evs) : midDefault X d evs = X := by
  induction evs generalizing d with
  | nil => simp at h
  | cons e evs ih =>
    obtain ⟨q, o⟩ := e
    rcases List.mem_cons.mp h with he | ht
    · simp only [Prod.mk.injEq] at he
      obtain ⟨rfl, rfl⟩ := he
      have : (X != Env.xmlNamespace) = true := by simpa using hx
      simp only [midDefault, beq_self_eq_true, this, Bool.and_self, if_true]
      exact midDefault_self X evs
    · clear h
      cases o <;> simp only [midDefault] <;> exact ih _ ht

theorem midDefault_of_not_mem (X d : Nat) (path : Path) (evs : List (Path × Output))
    (hp : ∀ po ∈ evs, po.1 = path)
    (h : ¬ (X ≠ Env.xmlNamespace ∧ (path, Output.pfx Env.emptyPrefix X) ∈ evs)) : midDefault X d evs = d := by
  induction evs generalizing d with
  | nil => rfl
  | cons e evs ih =>
    obtain ⟨q, o⟩ := e
    have hq : q = path := hp (q, o) (by simp)
    subst hq
    have hrest : ¬ (X ≠ Env.xmlNamespace ∧ (q, Output.pfx Env.emptyPrefix X) ∈ evs) :=
      fun hh => h ⟨hh.1, List.mem_cons_of_mem _ hh.2⟩
    have hp' : ∀ po ∈ evs, po.1 = q := fun po hpo => hp po (List.mem_cons_of_mem _ hpo)
    cases o with
    | pfx p ns =>
      simp only [midDefault]
      split
      · rename_i hc
        simp only [Bool.and_eq_true, beq_iff_eq, bne_iff_ne] at hc
        obtain ⟨⟨rfl, rfl⟩, hx⟩ := hc
        exact absurd ⟨hx, by simp⟩ h
      · exact ih _ hp' hrest
    | _ => simp only [midDefault]; exact ih _ hp' hrest

/-- One `Prefix` token on an element node: it is non-empty for the empty prefix exactly when the
    declared namespace is the element's own (and not the XML namespace). -/
theorem pfx_token {c : HtmlCtx} {S S' : HState} {node : Tree} {parent : Option Tree} {p ns name : Nat}
    {tok : OutputToken} (hv : node.value = .element name)
    (h : renderHtml c S node parent (.pfx p ns) = .ok (S', tok)) :
    (p == Env.emptyPrefix && !tok.text.isEmpty) =
      (p == Env.emptyPrefix && ns == c.env.nsOfName name && c.env.nsOfName name != Env.xmlNamespace) := by
  simp only [renderHtml, hv] at h
  by_cases hp : p = Env.emptyPrefix
  · subst hp
    simp only [beq_self_eq_true, Bool.true_and]
    split at h
    · rename_i hh
      simp only [Outcome.ok.injEq, Prod.mk.injEq] at h
      obtain ⟨_, rfl⟩ := h
      simp only [htmlPrefixHidden, beq_self_eq_true, Bool.true_and, bne_self_eq_false, Bool.false_and,
        Bool.or_false, Bool.or_eq_true, beq_iff_eq, bne_iff_ne] at hh
      simp only [litHtmlNoPrefix, List.isEmpty_nil, Bool.not_true]
      symm
      rw [Bool.and_eq_false_iff]
      rcases hh with hh | hh
      · by_cases he : ns = c.env.nsOfName name
        · right; subst he; simp [hh]
        · left; simpa using he
      · left; simpa using fun e => hh e.symm
    · rename_i hh
      simp only [htmlPrefixHidden, beq_self_eq_true, Bool.true_and, bne_self_eq_false, Bool.false_and,
        Bool.or_false, Bool.or_eq_true, beq_iff_eq, bne_iff_ne, not_or, Decidable.not_not] at hh
      obtain ⟨h1, h2⟩ := hh
      simp only [beq_self_eq_true, if_true, Outcome.ok.injEq, Prod.mk.injEq] at h
      obtain ⟨_, rfl⟩ := h
      have h3 : (ns == c.env.nsOfName name) = true := by simpa using h2.symm
      have h4 : (c.env.nsOfName name != Env.xmlNamespace) = true := by
        rw [h2]; simpa using h1
      simp [h3, h4, fmt, fmtHtmlXmlnsDefault]
  · have : (p == Env.emptyPrefix) = false := by simpa using hp
    simp [this]

/-- Running the declaration events of an element in namespace `X`: the state does not change and
    the replay ends with `midDefault` as the default in force. -/
theorem run_declEvents {c : HtmlCtx} {t : Tree} {path : Path} {node : Tree} {name : Nat}
    (hat : t.at? path = some node) (hv : node.value = .element name) (evs : List (Path × Output)) :
    ∀ {S S' : HState} {l : List (Path × Output × OutputToken)} (d : Nat) (st : List (Nat × Nat)),
      (∀ po ∈ evs, po.1 = path ∧ po.2.isDecl = true) → runHtml c t S evs = some (S', l) →
      S' = S ∧ embeddedReplay c ((c.env.nsOfName name, d) :: st) l =
          some ((c.env.nsOfName name, midDefault (c.env.nsOfName name) d evs) :: st) ∧ EndTagsBare c l := by
  induction evs with
  | nil =>
    intro S S' l d st _ h
    simp only [runHtml, Option.some.injEq, Prod.mk.injEq] at h
    obtain ⟨rfl, rfl⟩ := h
    exact ⟨rfl, rfl, EndTagsBare.nil c⟩
  | cons e evs ih =>
    intro S S' l d st hall h
    obtain ⟨q, o⟩ := e
    obtain ⟨hq, ho⟩ := hall (q, o) (by simp)
    simp only at hq ho
    subst hq
    obtain ⟨S1, tok, l', hr, hrest, rfl⟩ := runHtml_cons_some h
    simp only [renderHtmlAt, hat] at hr
    have hall' : ∀ po ∈ evs, po.1 = q ∧ po.2.isDecl = true := fun po hpo => hall po (List.mem_cons_of_mem _ hpo)
    cases o with
    | pfx p ns =>
      have hS : S1 = S := renderHtml_static rfl hr
      subst hS
      have htok := pfx_token hv hr
      obtain ⟨rfl, hrep, hb⟩ := ih (if p == Env.emptyPrefix && ns == c.env.nsOfName name
        && c.env.nsOfName name != Env.xmlNamespace then c.env.nsOfName name else d) st hall' hrest
      refine ⟨rfl, ?_, ?_⟩
      · by_cases hc : (p == Env.emptyPrefix && ns == c.env.nsOfName name
            && c.env.nsOfName name != Env.xmlNamespace) = true
        · rw [if_pos hc] at hrep
          have hns : ns = c.env.nsOfName name := by
            simp only [Bool.and_eq_true, beq_iff_eq] at hc
            exact hc.1.2
          simp only [embeddedReplay, midDefault, htok, hc, if_true]
          rw [hns]; exact hrep
        · rw [if_neg hc] at hrep
          simp only [embeddedReplay, midDefault, htok, hc, if_false]
          exact hrep
      · intro k hk nm hnm
        rcases List.mem_cons.mp hk with rfl | hk
        · cases hnm
        · exact hb k hk nm hnm
    | «attribute» an av =>
      have hS : S1 = S := renderHtml_static rfl hr
      subst hS
      obtain ⟨rfl, hrep, hb⟩ := ih d st hall' hrest
      refine ⟨rfl, by simpa only [embeddedReplay, midDefault] using hrep, ?_⟩
      intro k hk nm hnm
      rcases List.mem_cons.mp hk with rfl | hk
      · cases hnm
      · exact hb k hk nm hnm
    | _ => cases ho

end XotModel

/-!
## The start tag

  C19_embedded, start-tag step: what `StartTagOpen` does to the name stack, and why the default
  binding of the stack is the default namespace the written start tag has in force at its `>`.
-/

namespace XotModel
open Gen

theorem html_mem_fullnameInfoNew (decls cur : List (Nat × Nat)) (b : Nat × Nat) :
    b ∈ fullnameInfoNew decls cur ↔ (b ∈ cur ∧ ∀ x ∈ decls, x.1 ≠ b.1) ∨ b ∈ decls := by
  unfold fullnameInfoNew
  simp only [List.mem_append, List.mem_filter, Bool.not_eq_true', List.any_eq_false, beq_iff_eq]

theorem top_push (s : FStack) (decls : List (Nat × Nat)) :
    (s.push decls).top = if decls.isEmpty then s.top else fullnameInfoNew decls s.top := by
  unfold FStack.push
  split <;> simp [FStack.top]

theorem elementFullname_noSpace {env : Env} (hsp : NoSpaces env) {s : FStack} {name : Nat} {full : Str}
    (h : s.elementFullname env name = .ok full) : ' ' ∉ full := by
  unfold FStack.elementFullname at h
  cases hp : s.elementPrefix env name with
  | error e => rw [hp] at h; cases h
  | ok p =>
    rw [hp] at h
    simp only [Except.ok.injEq] at h
    subst h
    cases p with
    | none => exact hsp.1 name
    | some q =>
      simp only [qname, List.mem_append, List.mem_singleton, not_or]
      exact ⟨⟨hsp.2 q, by decide⟩, hsp.1 name⟩

/-- The token with the injected declaration is not a plain `<name` token. -/
theorem injected_ne_plain {env : Env} (hsp : NoSpaces env) {s : FStack} {name : Nat} {full : Str}
    (h : s.elementFullname env name = .ok full) (a b : Str) :
    (fmt fmtHtmlStartTagOpen [full] == fmt fmtHtmlStartTagOpenNs [a, b]) = false := by
  have hno := elementFullname_noSpace hsp h
  have hl : ' ' ∉ fmt fmtHtmlStartTagOpen [full] := by
    simp only [fmt, fmtHtmlStartTagOpen, List.append_nil, List.mem_append, List.mem_singleton, not_or]
    exact ⟨by decide, hno⟩
  have hr : ' ' ∈ fmt fmtHtmlStartTagOpenNs [a, b] := by
    simp [fmt, fmtHtmlStartTagOpenNs]
  cases hb : (fmt fmtHtmlStartTagOpen [full] == fmt fmtHtmlStartTagOpenNs [a, b]) with
  | false => rfl
  | true =>
    have := eq_of_beq hb
    rw [this] at hl
    exact absurd hr hl

/-- What holds of the name stack before an element's start tag, relative to the default
    namespace `d` the output has in force: either the invariant (inner elements), or — for the
    top element, whose inherited declarations are written on it — every default binding is for
    the element's own namespace and has a declaration event. -/
def ElemPre (inScope : List (Nat × Nat)) (isTop : Bool) (path : Path) (n : Tree) (X : Nat)
    (s : FStack) (d : Nat) : Prop :=
  (isTop = false ∧ DefaultInv s d) ∨
  (∀ Y, Y ≠ Env.xmlNamespace → (Env.emptyPrefix, Y) ∈ s.top →
    Y = X ∧ (path, Output.pfx Env.emptyPrefix X) ∈ declEvents inScope isTop path n)

theorem mem_htmlDeclarations (n : Tree) (X : Nat) (b : Nat × Nat) :
    b ∈ htmlDeclarations n X ↔ b ∈ n.nsDecls ∧ (b.1 ≠ Env.emptyPrefix ∨ b.2 = X) := by
  simp [htmlDeclarations, List.mem_filter]

theorem startTagOpen_default {c : HtmlCtx} (P : Prop) (hxml : P → c.h.mustBeUnprefixed Env.xmlNamespace = false)
    (hsp : P → NoSpaces c.env) (inScope : List (Nat × Nat)) (isTop : Bool) (path : Path) (name : Nat)
    (ks : List Tree) (parent : Option Tree) (S S2 : HState) (tok : OutputToken) (d : Nat)
    (hs : S.stack ≠ [])
    (hpre : P → ElemPre inScope isTop path (.node (.element name) ks) (c.env.nsOfName name) S.stack d)
    (hso : renderHtml c S (.node (.element name) ks) parent (.startTagOpen name) = .ok (S2, tok))
    (X d0 dmid : Nat) (hX : X = c.env.nsOfName name)
    (hd0 : d0 = if tok.text == fmt fmtHtmlStartTagOpenNs
        [c.env.localName name, serializeAttributeHtml (c.env.namespaceStr X)] then X else d)
    (hdm : dmid = midDefault X d0 (declEvents inScope isTop path (.node (.element name) ks))) :
    S2.stack ≠ [] ∧ S2.endElement = S ∧ (P → DefaultInv S2.stack dmid) ∧
      (P → c.h.mustBeUnprefixed X = true → dmid = X) ∧
      (Bare c name → X = Env.noNamespace ∨ S2.stack.hasEmptyPrefix X = true) := by
  simp only [renderHtml] at hso
  rw [← hX] at hso hpre
  split at hso
  · -- the declaration is injected
    rename_i hcond
    simp only [Outcome.ok.injEq, Prod.mk.injEq] at hso
    obtain ⟨rfl, rfl⟩ := hso
    have hd0' : d0 = X := by rw [hd0]; simp
    have hdmid : dmid = X := by rw [hdm, hd0']; exact midDefault_self _ _
    have hmemTop : ∀ Y, (Env.emptyPrefix, Y) ∈
        ((S.stack.push (htmlDeclarations (.node (.element name) ks) X)).push [(Env.emptyPrefix, X)]).top → Y = X := by
      intro Y hY
      rw [top_push] at hY
      simp only [List.isEmpty_cons, Bool.false_eq_true, if_false] at hY
      rcases (html_mem_fullnameInfoNew _ _ _).mp hY with ⟨_, h2⟩ | h2
      · exact absurd rfl (h2 (Env.emptyPrefix, X) (by simp))
      · simpa using h2
    have hne : ((S.stack.push (htmlDeclarations (.node (.element name) ks) X)).push
        [(Env.emptyPrefix, X)]) ≠ [] := push_ne_nil (push_ne_nil hs _) _
    refine ⟨hne, ?_, ?_, fun _ _ => hdmid, ?_⟩
    · simp only [HState.endElement, List.headD_cons, List.tail_cons]
      rw [popFrames_push_injected]
    · intro _ Y _ hY
      rw [hdmid]; exact (hmemTop Y hY).symm
    · intro _
      right
      rw [hasEmptyPrefix_iff, top_push]
      simp only [List.isEmpty_cons, Bool.false_eq_true, if_false]
      exact (html_mem_fullnameInfoNew _ _ _).mpr (Or.inr (by simp))
  · rename_i hcond
    cases hfull : (S.stack.push (htmlDeclarations (.node (.element name) ks) X)).elementFullname c.env name with
    | error e => rw [hfull] at hso; cases hso
    | ok full =>
      rw [hfull] at hso
      simp only [Outcome.ok.injEq, Prod.mk.injEq] at hso
      obtain ⟨rfl, rfl⟩ := hso
      -- the default-binding invariant after the push
      have hinv : P → DefaultInv (S.stack.push (htmlDeclarations (.node (.element name) ks) X)) dmid := by
        intro hP
        have hsp := hsp hP
        have hpre := hpre hP
        have hd0' : d0 = d := by
          rw [hd0, injected_ne_plain hsp hfull]; rfl
        intro Y hY hmem
        have hown : (Env.emptyPrefix, Y) ∈ htmlDeclarations (.node (.element name) ks) X → dmid = Y := by
          intro hm
          obtain ⟨hm1, hm2⟩ := (mem_htmlDeclarations _ _ _).mp hm
          have hYX : Y = X := by
            rcases hm2 with hm2 | hm2
            · exact absurd rfl hm2
            · exact hm2
          subst hYX
          rw [hdm]
          exact midDefault_of_mem _ _ path _ hY (declEvents_own inScope isTop path _ _ _ hm1)
        have hinh : (Env.emptyPrefix, Y) ∈ S.stack.top →
            (∀ x ∈ htmlDeclarations (.node (.element name) ks) X, x.1 ≠ Env.emptyPrefix) → dmid = Y := by
          intro hm hno
          rcases hpre with ⟨hnt, hdi⟩ | htop
          · have hdY : d = Y := hdi Y hY hm
            by_cases hW : X ≠ Env.xmlNamespace ∧ (path, Output.pfx Env.emptyPrefix X) ∈
                declEvents inScope isTop path (.node (.element name) ks)
            · exfalso
              subst hnt
              have hd := declEvents_pfx_own inScope path _ _ _ hW.2
              exact hno (Env.emptyPrefix, X) ((mem_htmlDeclarations _ _ _).mpr ⟨hd, Or.inr rfl⟩) rfl
            · rw [hdm, midDefault_of_not_mem _ _ path _ (fun po hpo => (declEvents_isDecl _ _ _ _ po hpo).1) hW, hd0', hdY]
          · obtain ⟨hYX, hev⟩ := htop Y hY hm
            subst hYX
            rw [hdm]
            exact midDefault_of_mem _ _ path _ hY hev
        rw [top_push] at hmem
        split at hmem
        · rename_i hemp
          exact hinh hmem (by
            intro x hx
            have : htmlDeclarations (.node (.element name) ks) X = [] := List.isEmpty_iff.mp hemp
            rw [this] at hx; simp at hx)
        · rcases (html_mem_fullnameInfoNew _ _ _).mp hmem with ⟨h1, h2⟩ | h2
          · exact hinh h1 h2
          · exact hown h2
      have hhas : c.h.mustBeUnprefixed X = true →
          (S.stack.push (htmlDeclarations (.node (.element name) ks) X)).hasEmptyPrefix X = true := by
        intro hm
        simpa [hm] using hcond
      have hne : (S.stack.push (htmlDeclarations (.node (.element name) ks) X)) ≠ [] :=
        push_ne_nil hs _
      refine ⟨hne, ?_, hinv, ?_, ?_⟩
      · simp only [HState.endElement, List.headD_cons, List.tail_cons]
        rw [popFrames_push]
      · intro hP hm
        have hX : X ≠ Env.xmlNamespace := by
          intro e; rw [e, hxml hP] at hm; cases hm
        exact hinv hP X hX ((hasEmptyPrefix_iff _ _).mp (hhas hm))
      · intro hb
        have hb1 := hb.1
        rw [← hX] at hb1
        by_cases h0 : X = Env.noNamespace
        · exact Or.inl h0
        · right
          exact hhas (Html5Elements.mustBeUnprefixed_of_html hb1 h0)

end XotModel

/-! ## Induction over the tree

  The events of one subtree leave the serialiser state as they found it, pass the default-namespace replay,
  and write bare end tags.
-/

namespace XotModel
open Gen

/-- What the induction proves about a list of sibling subtrees.  `P` switches the default-namespace
    tracking on (with its hypotheses); the end-tag part holds without it. -/
def KidsOk (P : Prop) (c : HtmlCtx) (t : Tree) (inScope : List (Nat × Nat)) (ks : List Tree) : Prop :=
  ∀ (path : Path) (i : Nat) (S S' : HState) (l : List (Path × Output × OutputToken)) (st : List (Nat × Nat)),
    (∀ j k, ks[j]? = some k → t.at? (path ++ [i + j]) = some k) → S.stack ≠ [] →
    (P → DefaultInv S.stack (dOf st)) →
    runHtml c t S (genNode.genKids inScope path i ks) = some (S', l) →
    S' = S ∧ (P → embeddedReplay c st l = some st) ∧ EndTagsBare c l

theorem run_element_default {c : HtmlCtx} (P : Prop) (hxml : P → c.h.mustBeUnprefixed Env.xmlNamespace = false)
    (hsp : P → NoSpaces c.env) (t : Tree) (inScope : List (Nat × Nat)) (name : Nat) (ks : List Tree)
    (kidsOk : KidsOk P c t inScope ks) (isTop : Bool) (path : Path) (S S' : HState)
    (l : List (Path × Output × OutputToken)) (st : List (Nat × Nat))
    (hat : t.at? path = some (.node (.element name) ks)) (hs : S.stack ≠ [])
    (hpre : P → ElemPre inScope isTop path (.node (.element name) ks) (c.env.nsOfName name) S.stack (dOf st))
    (h : runHtml c t S (genNode inScope isTop path (.node (.element name) ks)) = some (S', l)) :
    S' = S ∧ (P → embeddedReplay c st l = some st) ∧ EndTagsBare c l := by
  rw [genNode_element_shape] at h
  obtain ⟨S2, tok, la, hso, hresta, rfl⟩ := runHtml_cons_some h
  obtain ⟨S3, l1, lb, hdecl, hrestb, rfl⟩ := runHtml_append_some hresta
  obtain ⟨S4, tokc, lc, hsc, hrestc, rfl⟩ := runHtml_cons_some hrestb
  obtain ⟨S5, l2, l3, hk, het, rfl⟩ := runHtml_append_some hrestc
  obtain ⟨S6, toke, l5, het1, het2, rfl⟩ := runHtml_cons_some het
  simp only [runHtml, Option.some.injEq, Prod.mk.injEq] at het2
  obtain ⟨rfl, rfl⟩ := het2
  simp only [renderHtmlAt, hat] at hso hsc het1
  obtain ⟨d0, hd0⟩ : ∃ d0, d0 = (if tok.text == fmt fmtHtmlStartTagOpenNs [c.env.localName name,
      serializeAttributeHtml (c.env.namespaceStr (c.env.nsOfName name))] then c.env.nsOfName name else dOf st) :=
    ⟨_, rfl⟩
  obtain ⟨dmid, hdm⟩ : ∃ dmid, dmid = midDefault (c.env.nsOfName name) d0
      (declEvents inScope isTop path (.node (.element name) ks)) := ⟨_, rfl⟩
  obtain ⟨hne2, hend, hinv, hmust, hbare⟩ := startTagOpen_default P hxml hsp inScope isTop path name ks _ S S2 tok
    (dOf st) hs hpre hso (c.env.nsOfName name) d0 dmid rfl hd0 hdm
  obtain ⟨rfl, hrep1, hb1⟩ := run_declEvents hat rfl _ d0 st (declEvents_isDecl inScope isTop path _) hdecl
  rw [← hdm] at hrep1
  have hS4 : S4 = S3 := renderHtml_static rfl hsc
  subst hS4
  obtain ⟨rfl, hrep2, hb2⟩ := kidsOk path 0 S4 S5 l2 ((c.env.nsOfName name, dmid) :: st) (at?_kid t hat) hne2
    (fun hP => by simpa [dOf] using hinv hP) hk
  -- the end tag
  have hS6 : S6 = S ∧ EndTagsBare c [(path, Output.endTag name, toke)] := by
    simp only [renderHtml] at het1
    split at het1
    · simp only [Outcome.ok.injEq, Prod.mk.injEq] at het1
      obtain ⟨rfl, rfl⟩ := het1
      refine ⟨hend, ?_⟩
      intro k hk nm _ _
      simp only [List.mem_singleton] at hk
      subst hk; left; rfl
    · split at het1
      · rename_i full hfull
        simp only [Outcome.ok.injEq, Prod.mk.injEq] at het1
        obtain ⟨rfl, rfl⟩ := het1
        refine ⟨hend, ?_⟩
        intro k hk nm hnm hb
        simp only [List.mem_singleton] at hk
        subst hk
        simp only [Output.endTag.injEq] at hnm
        subst hnm
        right
        rw [elementFullname_bare c.env _ name hb.2 (hbare hb)] at hfull
        cases hfull
        simp [fmt, fmtHtmlEndTag]
      · cases het1
  obtain ⟨rfl, hb3⟩ := hS6
  refine ⟨rfl, ?_, ?_⟩
  · -- the replay, piece by piece
    intro hP
    simp only [embeddedReplay]
    rw [← hd0, embeddedReplay_append, hrep1]
    simp only [Option.bind_some, embeddedReplay]
    have hchk : (c.h.mustBeUnprefixed (c.env.nsOfName name) && dmid != c.env.nsOfName name) = false := by
      cases hm : c.h.mustBeUnprefixed (c.env.nsOfName name) with
      | false => rfl
      | true => simp [hmust hP hm]
    rw [hchk]
    simp only [Bool.false_eq_true, if_false]
    rw [embeddedReplay_append, hrep2 hP]
    simp [embeddedReplay]
  · intro k hk nm hnm
    rcases List.mem_cons.mp hk with rfl | hk
    · cases hnm
    · rcases List.mem_append.mp hk with hk | hk
      · exact hb1 k hk nm hnm
      · rcases List.mem_cons.mp hk with rfl | hk
        · cases hnm
        · exact (hb2.append hb3) k hk nm hnm

theorem run_leaf_default {c : HtmlCtx} (P : Prop) (t : Tree) (inScope : List (Nat × Nat)) (v : Value) (ks : List Tree)
    (kidsOk : KidsOk P c t inScope ks) (path : Path) (o : Output)
    (ho : o.isStatic = true ∧ (∀ p ns, o ≠ .pfx p ns) ∧ o ≠ .startTagClose)
    (S S' : HState) (l : List (Path × Output × OutputToken)) (st : List (Nat × Nat))
    (hat : t.at? path = some (.node v ks)) (hs : S.stack ≠ []) (hinv : P → DefaultInv S.stack (dOf st))
    (h : runHtml c t S ((path, o) :: genNode.genKids inScope path 0 ks) = some (S', l)) :
    S' = S ∧ (P → embeddedReplay c st l = some st) ∧ EndTagsBare c l := by
  obtain ⟨S1, tok, l', hr, hrest, rfl⟩ := runHtml_cons_some h
  simp only [renderHtmlAt, hat] at hr
  have hS : S1 = S := renderHtml_static ho.1 hr
  subst hS
  obtain ⟨rfl, hrep, hb⟩ := kidsOk path 0 S1 S' l' st (at?_kid t hat) hs hinv hrest
  refine ⟨rfl, ?_, ?_⟩
  · intro hP
    have hrep := hrep hP
    cases o with
    | pfx p ns => exact absurd rfl (ho.2.1 p ns)
    | startTagClose => exact absurd rfl ho.2.2
    | startTagOpen nm => cases ho.1
    | endTag nm => cases ho.1
    | _ => simpa only [embeddedReplay] using hrep
  · intro k hk nm hnm
    rcases List.mem_cons.mp hk with rfl | hk
    · simp only at hnm; subst hnm; cases ho.1
    · exact hb k hk nm hnm

mutual
theorem run_node_default {c : HtmlCtx} (P : Prop) (hxml : P → c.h.mustBeUnprefixed Env.xmlNamespace = false)
    (hsp : P → NoSpaces c.env) (t : Tree) (inScope : List (Nat × Nat)) (n : Tree) (path : Path)
    (S S' : HState) (l : List (Path × Output × OutputToken)) (st : List (Nat × Nat))
    (hat : t.at? path = some n) (hs : S.stack ≠ []) (hinv : P → DefaultInv S.stack (dOf st))
    (h : runHtml c t S (genNode inScope false path n) = some (S', l)) :
    S' = S ∧ (P → embeddedReplay c st l = some st) ∧ EndTagsBare c l := by
  cases n with
  | node v ks =>
    have kidsOk : KidsOk P c t inScope ks := fun path i S S' l st hk hs hinv h =>
      run_kids_default P hxml hsp t inScope ks path i S S' l st hk hs hinv h
    cases v with
    | element name =>
      exact run_element_default P hxml hsp t inScope name ks kidsOk false path S S' l st hat hs
        (fun hP => Or.inl ⟨rfl, hinv hP⟩) h
    | text str =>
      rw [genNode_text] at h
      exact run_leaf_default P t inScope _ ks kidsOk path _ ⟨rfl, ⟨fun p ns hh => (by cases hh), fun hh => (by cases hh)⟩⟩
        S S' l st hat hs hinv h
    | comment str =>
      rw [genNode_comment] at h
      exact run_leaf_default P t inScope _ ks kidsOk path _ ⟨rfl, ⟨fun p ns hh => (by cases hh), fun hh => (by cases hh)⟩⟩
        S S' l st hat hs hinv h
    | pi target data =>
      rw [genNode_pi] at h
      exact run_leaf_default P t inScope _ ks kidsOk path _ ⟨rfl, ⟨fun p ns hh => (by cases hh), fun hh => (by cases hh)⟩⟩
        S S' l st hat hs hinv h
    | document => rw [genNode_document] at h; exact kidsOk path 0 S S' l st (at?_kid t hat) hs hinv h
    | «attribute» name value => rw [genNode_attribute] at h; exact kidsOk path 0 S S' l st (at?_kid t hat) hs hinv h
    | «namespace» p ns => rw [genNode_namespace] at h; exact kidsOk path 0 S S' l st (at?_kid t hat) hs hinv h

theorem run_kids_default {c : HtmlCtx} (P : Prop) (hxml : P → c.h.mustBeUnprefixed Env.xmlNamespace = false)
    (hsp : P → NoSpaces c.env) (t : Tree) (inScope : List (Nat × Nat)) (ks : List Tree) (path : Path) (i : Nat)
    (S S' : HState) (l : List (Path × Output × OutputToken)) (st : List (Nat × Nat))
    (hk : ∀ j k, ks[j]? = some k → t.at? (path ++ [i + j]) = some k) (hs : S.stack ≠ [])
    (hinv : P → DefaultInv S.stack (dOf st))
    (h : runHtml c t S (genNode.genKids inScope path i ks) = some (S', l)) :
    S' = S ∧ (P → embeddedReplay c st l = some st) ∧ EndTagsBare c l := by
  cases ks with
  | nil =>
    simp only [genNode.genKids, runHtml, Option.some.injEq, Prod.mk.injEq] at h
    obtain ⟨rfl, rfl⟩ := h
    exact ⟨rfl, fun _ => rfl, EndTagsBare.nil c⟩
  | cons k ks =>
    simp only [genNode.genKids] at h
    obtain ⟨S1, l1, l2, h1, h2, rfl⟩ := runHtml_append_some h
    obtain ⟨hk0, hrest⟩ := Ser.kidsAt_cons t hk
    obtain ⟨rfl, hr1, hb1⟩ := run_node_default P hxml hsp t inScope k (path ++ [i]) S S1 l1 st hk0 hs hinv h1
    obtain ⟨rfl, hr2, hb2⟩ := run_kids_default P hxml hsp t inScope ks path (i + 1) S1 S' l2 st hrest hs hinv h2
    exact ⟨rfl, fun hP => by rw [embeddedReplay_append, hr1 hP]; exact hr2 hP, hb1.append hb2⟩
end

end XotModel

/-! ## A whole serialisation

  The initial name stack of `Html5Serializer::new`: the inherited declarations, minus a default namespace that
  is not the top element's own and therefore not written.
-/

namespace XotModel
open Gen

theorem html_lookup_none_any {l : List (Nat × Nat)} {p : Nat} (h : l.lookup p = none) :
    l.any (fun d => d.1 == p) = false := by
  rw [List.any_eq_false]
  intro d hd hdp
  have := List.lookup_eq_none_iff.1 h d hd
  rw [eq_of_beq hdp, bne_self_eq_false] at this
  cases this

/-- An in-scope default binding of an element has a declaration event on it when it is the top
    element: its own declaration, or the inherited one `gen_outputs` adds. -/
theorem top_default_declared (t : Tree) (start : Path) (inScope : List (Nat × Nat)) (n : Tree) (X : Nat)
    (hat : t.at? start = some n) (hs : namespacesInScope t start = some inScope)
    (hm : (Env.emptyPrefix, X) ∈ inScope) :
    (start, Output.pfx Env.emptyPrefix X) ∈ declEvents inScope true start n := by
  unfold namespacesInScope at hs
  cases hc : t.ancestorsOrSelf start with
  | none => rw [hc] at hs; cases hs
  | some chain =>
    rw [hc] at hs
    simp only [Option.map_some, Option.some.injEq] at hs
    subst hs
    have hh := ancestorsOrSelf_head start t chain hc
    rw [hat] at hh
    cases chain with
    | nil => cases hh
    | cons a rest =>
      simp only [List.head?_cons, Option.some.injEq] at hh
      subst hh
      have hspec := (mem_namespacesInScopeChain (a :: rest) Env.emptyPrefix X).mp hm
      simp only [scopeSpecChain] at hspec
      cases hl : a.nsDecls.lookup Env.emptyPrefix with
      | some ns =>
        rw [hl] at hspec
        simp only at hspec
        split at hspec
        · cases hspec
        · simp only [Option.some.injEq] at hspec
          subst hspec
          exact declEvents_own _ true start a _ _ (lookup_mem hl)
      | none =>
        have hnd : a.declaresPrefix Env.emptyPrefix = false := html_lookup_none_any hl
        simp only [declEvents, if_true, List.mem_append, List.mem_map]
        refine Or.inl (Or.inl ⟨Output.pfx Env.emptyPrefix X, ?_, rfl⟩)
        simp only [extraPrefixes, List.mem_map, List.mem_filter]
        exact ⟨(Env.emptyPrefix, X), ⟨hm, by simp [hnd]⟩, rfl⟩

theorem genNode_isTop_irrelevant (inScope : List (Nat × Nat)) (path : Path) (n : Tree)
    (h : ∀ name, n.value ≠ .element name) :
    genNode inScope true path n = genNode inScope false path n := by
  cases n with
  | node v ks =>
    cases v with
    | element name => exact absurd rfl (h name)
    | text s => rw [genNode_text, genNode_text]
    | comment s => rw [genNode_comment, genNode_comment]
    | pi tg d => rw [genNode_pi, genNode_pi]
    | document => rw [genNode_document, genNode_document]
    | «attribute» a v => rw [genNode_attribute, genNode_attribute]
    | «namespace» p ns => rw [genNode_namespace, genNode_namespace]

/-- A whole successful serialisation passes the default-namespace replay and writes bare end
    tags. -/
theorem run_top {c : HtmlCtx} (P : Prop) (hxml : P → c.h.mustBeUnprefixed Env.xmlNamespace = false)
    (hsp : P → NoSpaces c.env) (t : Tree) (start : Path) (l : List (Path × Output × OutputToken))
    (hl : renderHtmlAll c t (htmlInitState c t start) (genOutputs t start) = .ok l) :
    (P → embeddedReplay c [] l = some []) ∧ EndTagsBare c l := by
  obtain ⟨sf, hrun⟩ := renderHtmlAll_run c t _ _ l hl
  unfold genOutputs at hrun
  cases hn : t.at? start with
  | none =>
    simp only [hn, runHtml, Option.some.injEq, Prod.mk.injEq] at hrun
    obtain ⟨_, rfl⟩ := hrun
    exact ⟨fun _ => rfl, EndTagsBare.nil c⟩
  | some n =>
    cases hs : namespacesInScope t start with
    | none =>
      simp only [hn, hs, runHtml, Option.some.injEq, Prod.mk.injEq] at hrun
      obtain ⟨_, rfl⟩ := hrun
      exact ⟨fun _ => rfl, EndTagsBare.nil c⟩
    | some inScope =>
      simp only [hn, hs] at hrun
      have hne : (htmlInitState c t start).stack ≠ [] := by simp [htmlInitState, FStack.new]
      cases n with
      | node v ks =>
        have kidsOk : KidsOk P c t inScope ks := fun path i S S' l st hk hs hinv h =>
          run_kids_default P hxml hsp t inScope ks path i S S' l st hk hs hinv h
        by_cases hel : ∃ name, v = .element name
        · obtain ⟨name, rfl⟩ := hel
          have hpre : ElemPre inScope true start (.node (.element name) ks) (c.env.nsOfName name)
              (htmlInitState c t start).stack (dOf []) := by
            right
            intro Y _ hY
            simp only [htmlInitState, hn, hs, Option.getD_some, FStack.new, FStack.top, List.headD_cons,
              List.mem_filter, Tree.value] at hY
            obtain ⟨hmem, hf⟩ := hY
            have hYX : Y = c.env.nsOfName name := by simpa using hf
            subst hYX
            exact ⟨rfl, top_default_declared t start inScope _ _ hn hs hmem⟩
          obtain ⟨_, hrep, hb⟩ := run_element_default P hxml hsp t inScope name ks kidsOk true start _ sf l []
            hn hne (fun _ => hpre) hrun
          exact ⟨hrep, hb⟩
        · have hnel : ∀ name, (Tree.node v ks).value ≠ .element name := by
            intro name he
            exact hel ⟨name, he⟩
          rw [genNode_isTop_irrelevant inScope start _ hnel] at hrun
          have hinv : DefaultInv (htmlInitState c t start).stack (dOf []) := by
            intro Y _ hY
            exfalso
            have hv : ∀ name, v ≠ .element name := fun name he => hel ⟨name, he⟩
            cases v with
            | element name => exact hv name rfl
            | _ =>
              simp [htmlInitState, hn, hs, FStack.new, FStack.top, Tree.value] at hY
          obtain ⟨_, hrep, hb⟩ := run_node_default P hxml hsp t inScope _ start _ sf l [] hn hne (fun _ => hinv) hrun
          exact ⟨hrep, hb⟩

end XotModel
