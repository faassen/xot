/-
  `element_wrap` and `element_unwrap`: refused with nothing changed exactly when `wrapRefused` / `unwrapRefused`,
  otherwise carried out; the one `unwrap` panic of `element_unwrap` needs an ill-ordered child list, which the full
  invariant excludes.
-/
import XotModel.Lemmas.FatomComposite
import XotModel.Lemmas.BasicFacts

/-! ## `element_wrap` -/

namespace XotModel
open HTree

namespace Forest

theorem isNormalNode_checked {f : Forest} {x : Nat} (hn : f.isNormalNode x = true)
    (hd : f.isDocument x = false) :
    ∃ v, f.value? x = some v ∧ v.category = .normal ∧ v.isDocument = false := by
  have hc := isNormalNode_cat hn
  unfold isDocument at hd
  cases hv : f.value? x with
  | none => rw [hv] at hc; simp at hc
  | some v =>
    rw [hv] at hc hd
    simp only [Option.map_some, Option.some.injEq] at hc
    refine ⟨v, rfl, hc, ?_⟩
    cases h : v.isDocument with
    | false => rfl
    | true => simp [h] at hd

theorem checked_root_element {f : Forest} (w : f.W) {wr x : Nat} (hel : f.isElement wr = true)
    (hp : f.parent? wr = none)
    (hx : ∃ v, f.value? x = some v ∧ v.category = .normal ∧ v.isDocument = false)
    (hne : x ≠ wr) : Checked f wr x := by
  have hl : f.isLive wr = true := Fatom.isLive_of_isElement hel
  refine ⟨Or.inl hel, ?_, hx⟩
  rw [(ancestors_root w hl hp).1]
  simpa using hne

theorem ancestors_root_of_isRoot {f : Forest} (w : f.W) {x : Nat} (h : f.isRoot x = true) :
    f.ancestors x = [x] := (ancestors_root w (isRoot_live h) (isRoot_noParent w h)).1

/-- `element_wrap` after its three checks: carried out. -/
theorem elementWrap_accepted {f : Forest} (w : f.W) (node name : Nat) (hd : f.isDocument node = false)
    (hn : f.isNormalNode node = true)
    (hdp : (f.hasDocumentParent node && !f.isDocumentElement node) = false) :
    OkRes f ((f.elementWrap node name).1, (f.elementWrap node name).2.1) := by
  unfold elementWrap
  simp only [hd, hn, hdp, Bool.false_eq_true, if_false, Bool.not_true]
  have hnorm := isNormalNode_checked hn hd
  have hlive : f.isLive node = true := by
    rw [isLive_iff_value?]; obtain ⟨v, hv, _⟩ := hnorm; rw [hv]; rfl
  -- the wrapper
  obtain ⟨hwr, w1, fr1, hg1, hr1, hdead⟩ := newNode_spec w (.element name)
  have hne : node ≠ f.next := fun e => by rw [e, hdead] at hlive; cases hlive
  have k1 : ∀ x, f.isLive x = true → Kept f (f.newNode (.element name)).1 x :=
    fun x hx => newNode_kept w _ hx
  unfold newElement
  rcases hnew : f.newNode (.element name) with ⟨f1, wr⟩
  rw [hnew] at hwr w1 fr1 hg1 hr1 k1
  simp only at hwr w1 fr1 hg1 hr1 k1
  subst hwr
  have k1n := k1 node hlive
  have hnorm1 : ∃ v, f1.value? node = some v ∧ v.category = .normal ∧ v.isDocument = false :=
    isNormalNode_checked (by rw [k1n.isNormalNode]; exact hn) (by rw [k1n.isDocument]; exact hd)
  have hel1 : f1.isElement f.next = true := by
    unfold isElement value?; rw [hg1]; rfl
  have hp1 : f1.parent? f.next = none := isRoot_noParent w1 hr1
  cases hpar : f.parent? node with
  | none =>
    simp only
    have ck : Checked f1 f.next node := checked_root_element w1 hel1 hp1 hnorm1 hne
    have m := append_ok w1 (structureCheck_of_checked ck)
    exact ⟨m.ok, m.w, by rw [m.corrupt, fr1.corrupt]⟩
  | some parent =>
    simp only
    -- detach the node
    have hl1 : f1.isLive node = true := by rw [k1n.isLive]; exact hlive
    obtain ⟨t, hgt⟩ := get?_of_isLive hl1
    obtain ⟨w2, fr2, hg2, hr2, _⟩ := detachRaw_spec w1 hgt
    have hanc1w : node ∉ f1.ancestors f.next := by
      rw [ancestors_root_of_isRoot w1 hr1]; simpa using hne
    have k2 : ∀ x, f1.isLive x = true → node ∉ f1.ancestors x → Kept f1 (f1.detachRaw node) x :=
      fun x hx hax => fr2.keptOutside w1 w2 hgt hx hax
    have k2w := k2 f.next (isRoot_live hr1) hanc1w
    have hnorm2 : ∃ v, (f1.detachRaw node).value? node = some v ∧ v.category = .normal ∧
        v.isDocument = false := by
      have : (f1.detachRaw node).value? node = f1.value? node := by
        unfold value?; rw [hg2, hgt]
      rw [this]; exact hnorm1
    have hp2n : (f1.detachRaw node).parent? node = none := isRoot_noParent w2 hr2
    generalize f1.detachRaw node = f2 at w2 fr2 hg2 hr2 k2 k2w hnorm2 hp2n ⊢
    have ck2 : Checked f2 f.next node :=
      checked_root_element w2 (by rw [k2w.isElement]; exact hel1) (by rw [k2w.parent]; exact hp1)
        hnorm2 hne
    have m3 := append_ok w2 (structureCheck_of_checked ck2)
    have hns2 : ∀ x, f2.nextSibling node ≠ some x := by
      intro x; rw [nextSibling_none_of_root hp2n]; simp
    have k3 : ∀ x, f2.isLive x = true → node ∉ f2.ancestors x →
        Kept f2 (f2.append f.next node).1 x :=
      fun x hx hax => m3.kept w2 hx hax (hns2 x)
    -- everything that does not have `node` among its ancestors is kept all the way
    have chain : ∀ x, f.isLive x = true → node ∉ f.ancestors x →
        Kept f (f2.append f.next node).1 x := by
      intro x hx hax
      have a1 := k1 x hx
      have a2 := k2 x (by rw [a1.isLive]; exact hx) (by rw [a1.anc]; exact hax)
      have a12 := a1.trans a2
      have a3 := k3 x (by rw [a12.isLive]; exact hx) (by rw [a12.anc]; exact hax)
      exact a12.trans a3
    have k3w : Kept f2 (f2.append f.next node).1 f.next :=
      k3 f.next (by rw [k2w.isLive]; exact isRoot_live hr1)
        (by rw [k2w.anc]; exact hanc1w)
    have hanp : node ∉ f.ancestors parent := not_mem_ancestors_parent w hpar
    have hlp : f.isLive parent = true := (parent?_live hpar).2
    have kpar := chain parent hlp hanp
    rcases happ : f2.append f.next node with ⟨f3, r3⟩
    rw [happ] at m3 k3w kpar chain
    have hr3 : r3 = .ok := m3.ok
    subst hr3
    simp only at m3 k3w kpar chain ⊢
    have w3 : f3.W := m3.w
    have hcor3 : f3.corrupt = f.corrupt := by
      have := m3.corrupt; simp only at this; rw [this, fr2.corrupt, fr1.corrupt]
    -- the wrapper can go under the old parent
    have hwel3 : f3.isElement f.next = true := by
      rw [k3w.isElement, k2w.isElement]; exact hel1
    have ck3 : Checked f3 parent f.next := by
      refine ⟨?_, ?_, ?_⟩
      · rw [kpar.isElement, kpar.isDocument]; exact parent?_container w hpar
      · rw [kpar.anc]
        intro h'
        rw [ancestors_live w h'] at hdead; cases hdead
      · obtain ⟨n, hv⟩ := Forest.value?_of_isElement hwel3
        exact ⟨_, hv, rfl, rfl⟩
    have hs3 := structureCheck_of_checked ck3
    cases hprev : f.prevSibling node with
    | none =>
      simp only
      have m := prepend_ok w3 hs3
      exact ⟨m.ok, m.w, by rw [m.corrupt, hcor3]⟩
    | some p =>
      simp only
      have hpw : p ≠ f.next := fun e => by
        have := (prevSibling_sib w hprev).live; rw [e, hdead] at this; cases this
      have m := Fatom.insertAfter_prev_ok w w3 hpar hn hs3 chain hprev hpw
      exact ⟨m.ok, m.w, by rw [m.corrupt, hcor3]⟩

/-- `element_wrap` is refused, with nothing changed, exactly when one of its three checks fails
    (`wrapRefused`); otherwise it is carried out. -/
theorem elementWrap_run {f : Forest} (w : f.W) (node name : Nat) :
    if f.wrapRefused node then
      (f.elementWrap node name).1 = f ∧ (f.elementWrap node name).2.1 = .err .invalidOperation
    else OkRes f ((f.elementWrap node name).1, (f.elementWrap node name).2.1) := by
  rcases elementWrap_shape f node name with ⟨hr, e⟩ | ⟨hr, hd, hn, hdp, _⟩
  · rw [if_pos hr, e]; exact ⟨rfl, rfl⟩
  · rw [hr]; exact elementWrap_accepted w node name hd hn hdp

theorem elementWrap_outcome {f : Forest} (w : f.W) (node name : Nat) :
    ((f.elementWrap node name).1 = f ∧ (f.elementWrap node name).2.1 = .err .invalidOperation) ∨
    OkRes f ((f.elementWrap node name).1, (f.elementWrap node name).2.1) := by
  have h := elementWrap_run w node name
  split at h
  · exact .inl h
  · exact .inr h

end Forest
end XotModel

/-! ## `element_unwrap` under the weak invariant -/

namespace XotModel
open HTree

theorem map_handle_sublist : ∀ ks : List HTree, (ks.map HTree.handle).Sublist (handlesList ks)
  | [] => List.Sublist.refl _
  | k :: ks => by
    simp only [List.map_cons, handlesList]
    rw [handles_eq, List.cons_append]
    exact List.Sublist.cons_cons _
      (List.Sublist.trans (map_handle_sublist ks) (List.sublist_append_right _ _))

namespace Forest

/-- Splicing out a list of distinct leaves (attribute / namespace nodes). -/
theorem spliceLeaves : ∀ (L : List HTree) (f : Forest), f.W →
    (∀ k ∈ L, f.isElement k.handle = false ∧ f.isDocument k.handle = false) →
    (L.map HTree.handle).Nodup →
    (L.foldl (fun acc k => acc.spliceOut k.handle) f).W ∧
    Frame f (L.foldl (fun acc k => acc.spliceOut k.handle) f) (L.map HTree.handle)
  | [], f, w, _, _ => ⟨w, Frame.refl _ _⟩
  | k :: L, f, w, hL, hn => by
    simp only [List.foldl_cons, List.map_cons]
    rw [List.map_cons] at hn
    have hn' := List.nodup_cons.1 hn
    cases hg : f.get? k.handle with
    | none =>
      rw [spliceOut_dead hg]
      obtain ⟨w', fr⟩ := spliceLeaves L f w (fun k' hk' => hL k' (List.mem_cons_of_mem _ hk')) hn'.2
      exact ⟨w', fr.mono (fun x hx => List.mem_cons_of_mem _ hx)⟩
    | some t' =>
      have hv : f.value? k.handle = some t'.value := by unfold value?; rw [hg]; rfl
      obtain ⟨he, hd⟩ := hL k (List.mem_cons_self ..)
      have hkids : t'.kids = [] := by
        apply leafOk_kids_nil (findList?_leafOk _ f.roots t' w.leaves hg)
        · unfold isElement at he; rw [hv] at he
          cases h : t'.value.isElement with
          | false => rfl
          | true => simp [h] at he
        · unfold isDocument at hd; rw [hv] at hd
          cases h : t'.value.isDocument with
          | false => rfl
          | true => simp [h] at hd
      have hh : handles t' = [k.handle] := by rw [handles_eq, hkids, get?_handle hg]; rfl
      obtain ⟨w1, _, fr1⟩ := spliceOut_spec w hg (fun _ => by rw [hkids]; exact Nat.zero_le _)
      rw [hh] at fr1
      have hL1 : ∀ k' ∈ L, (f.spliceOut k.handle).isElement k'.handle = false ∧
          (f.spliceOut k.handle).isDocument k'.handle = false := by
        intro k' hk'
        have hne : k'.handle ∉ [k.handle] := by
          simp only [List.mem_singleton]
          intro e
          exact hn'.1 (e ▸ List.mem_map_of_mem hk')
        rw [fr1.isElement hne, fr1.isDocument hne]
        exact hL k' (List.mem_cons_of_mem _ hk')
      obtain ⟨w', fr⟩ := spliceLeaves L _ w1 hL1 hn'.2
      exact ⟨w', (fr1.trans fr).mono (fun x hx => by simpa using hx)⟩

theorem removeElement_spec {f : Forest} (w : f.W) {node q : Nat} (hp : f.parent? node = some q) :
    (f.removeElement node).W ∧ (f.removeElement node).corrupt = f.corrupt := by
  unfold removeElement
  obtain ⟨t, hg⟩ := get?_of_isLive (parent?_live hp).1
  rw [hg]
  simp only
  have hnt : (handles t).Nodup := (findList?_sublist node f.roots t hg).nodup w.nodup
  rw [handles_eq] at hnt
  have hsub : (t.kids.takeWhile (fun k => !k.value.isNormal)).Sublist t.kids :=
    List.takeWhile_sublist _
  have hL : ∀ k ∈ t.kids.takeWhile (fun k => !k.value.isNormal),
      f.isElement k.handle = false ∧ f.isDocument k.handle = false := by
    intro k hk
    have hp' := mem_takeWhile_imp _ _ _ hk
    have hv : f.value? k.handle = some k.value := by
      unfold value?; rw [(kid_spec w hg (hsub.subset hk)).1]; rfl
    unfold isElement isDocument
    rw [hv, Option.map_some, Option.map_some]
    cases hkv : k.value with
    | «attribute» _ _ => exact ⟨rfl, rfl⟩
    | «namespace» _ _ => exact ⟨rfl, rfl⟩
    | _ => rw [hkv] at hp'; cases hp'
  have hnd : ((t.kids.takeWhile (fun k => !k.value.isNormal)).map HTree.handle).Nodup :=
    ((hsub.map HTree.handle).trans (map_handle_sublist t.kids)).nodup (List.nodup_cons.1 hnt).2
  obtain ⟨w1, fr1⟩ := spliceLeaves _ f w hL hnd
  generalize (t.kids.takeWhile (fun k => !k.value.isNormal)).foldl
    (fun acc k => acc.spliceOut k.handle) f = f1 at w1 fr1
  have hnP : node ∉ (t.kids.takeWhile (fun k => !k.value.isNormal)).map HTree.handle := by
    intro h'
    have : node ∈ handlesList t.kids :=
      (map_handle_sublist t.kids).subset ((hsub.map HTree.handle).subset h')
    rw [get?_handle hg] at hnt
    exact (List.nodup_cons.1 hnt).1 this
  have hp1 : f1.parent? node = some q := by rw [fr1.parent node hnP]; exact hp
  obtain ⟨t1, hg1⟩ := get?_of_isLive (parent?_live hp1).1
  obtain ⟨w2, _, fr2⟩ := spliceOut_spec w1 hg1 (fun h => by
    rw [isRoot_false_of_parent w1 hp1] at h; cases h)
  exact ⟨w2, by rw [fr2.corrupt, fr1.corrupt]⟩

/-- `element_unwrap` under the weak invariant: refused with nothing changed exactly when
    `unwrapRefused`; the `unwrap` panic when the element has a normal child but no last one; otherwise
    carried out. -/
theorem elementUnwrap_run_w {f : Forest} (w : f.W) (node : Nat) :
    if f.unwrapRefused node then f.elementUnwrap node = (f, .err .invalidOperation)
    else if (f.firstChild node).isSome && (f.lastChild node).isNone then f.elementUnwrap node = (f, .panic)
    else OkRes f (f.elementUnwrap node) := by
  rcases elementUnwrap_shape f node with
    ⟨hr, e⟩ | ⟨hr, _, ⟨hfc, e⟩ | ⟨first, hfc, hpar, ⟨hlc, e⟩ | ⟨last, hlc, e⟩⟩⟩
  · rw [if_pos hr]; exact e
  · rw [hr, hfc, e]; exact remove_ok w node
  · rw [hr, hfc, hlc]; exact e
  · rw [hr, hfc, hlc, e]
    obtain ⟨q, hp⟩ : ∃ q, f.parent? node = some q := by
      cases h : f.parent? node with
      | none => rw [h] at hpar; cases hpar
      | some q => exact ⟨q, rfl⟩
    show OkRes f (f.unwrapBody node first last)
    unfold unwrapBody
    dsimp only
    obtain ⟨w1, hc1⟩ := removeElement_spec w hp
    generalize f.removeElement node = f1 at w1 hc1
    obtain ⟨w2, _, P, _, fr2⟩ := removeConsolidate_spec w1 (f1.prevSibling first) (some first)
    have hc2 : (f1.removeConsolidate (f1.prevSibling first) (some first)).1.corrupt = f.corrupt := by
      rw [fr2.corrupt, hc1]
    split
    · split
      · exact okRes_consolidate w2 hc2 _ _
      · exact okRes_consolidate w2 hc2 _ _
    · exact okRes_consolidate w2 hc2 _ _

theorem elementUnwrap_outcome {f : Forest} (w : f.W) (node : Nat) :
    f.elementUnwrap node = (f, .err .invalidOperation) ∨ OkRes f (f.elementUnwrap node) ∨
    (f.elementUnwrap node = (f, .panic) ∧ (f.firstChild node).isSome = true ∧
      f.lastChild node = none) := by
  have h := elementUnwrap_run_w w node
  split at h
  · exact .inl h
  · split at h
    · next hc =>
      rw [Bool.and_eq_true, Option.isNone_iff_eq_none] at hc
      exact .inr (.inr ⟨h, hc.1, hc.2⟩)
    · exact .inr (.inl h)

end Forest
end XotModel

/-! ## `element_unwrap` under the full invariant: an element with a normal child has a normal last child -/

namespace XotModel
open HTree

theorem kidsOrdered_last_normal : ∀ ks : List HTree, kidsOrdered ks = true →
    (∃ k ∈ ks, k.value.isNormal = true) → ∃ l, ks.getLast? = some l ∧ l.value.isNormal = true
  | [], _, ⟨k, hk, _⟩ => by cases hk
  | [a], _, ⟨k, hk, hn⟩ => by
    simp only [List.mem_singleton] at hk; subst hk
    exact ⟨k, rfl, hn⟩
  | a :: b :: rest, ho, ⟨k, hk, hn⟩ => by
    simp only [kidsOrdered, Bool.and_eq_true, decide_eq_true_eq] at ho
    rw [List.getLast?_cons_cons]
    apply kidsOrdered_last_normal (b :: rest) ho.2
    rcases List.mem_cons.1 hk with e | e
    · subst e
      refine ⟨b, List.mem_cons_self .., ?_⟩
      simp only [Value.isNormal, beq_iff_eq] at hn ⊢
      rw [← fa_rank_normal]
      rw [hn] at ho
      exact ho.1
    · exact ⟨k, e, hn⟩

namespace Forest

theorem lastChild_of_firstChild {f : Forest} (hi : f.Inv) {n c : Nat}
    (h : f.firstChild n = some c) : ∃ l, f.lastChild n = some l := by
  unfold firstChild at h
  unfold lastChild
  cases hg : f.get? n with
  | none => rw [hg] at h; cases h
  | some t =>
    rw [hg] at h
    simp only at h ⊢
    cases hd : (t.kids.dropWhile (fun k => !k.value.isNormal)).head? with
    | none => rw [hd] at h; cases h
    | some k =>
      have hk : k ∈ t.kids := (List.dropWhile_sublist _).subset (List.mem_of_head? hd)
      have hkn : k.value.isNormal = true := by
        have := List.head?_dropWhile_not (fun k => !k.value.isNormal) t.kids
        rw [hd] at this
        simpa using this
      have hv : validTree (!f.everOff) t = true := findList?_valid _ n f.roots t hi.valid hg
      have ho : kidsOrdered t.kids = true := by
        cases t with
        | node a v ks =>
          simp only [validTree, Bool.and_eq_true] at hv
          exact hv.1.1.1.1.2
      obtain ⟨l, hl, hln⟩ := kidsOrdered_last_normal t.kids ho ⟨k, hk, hkn⟩
      rw [hl]
      simp only [hln, if_true]
      exact ⟨l.handle, rfl⟩

/-- `element_unwrap` in a forest with the invariant: refused with nothing changed exactly when
    `unwrapRefused`, otherwise carried out. -/
theorem elementUnwrap_run {f : Forest} (hi : f.Inv) (node : Nat) :
    if f.unwrapRefused node then f.elementUnwrap node = (f, .err .invalidOperation)
    else OkRes f (f.elementUnwrap node) := by
  have h := elementUnwrap_run_w hi.toW node
  split at h
  · next hr => rw [if_pos hr]; exact h
  · next hr =>
    rw [if_neg hr]
    split at h
    · next hc =>
      exfalso
      rw [Bool.and_eq_true, Option.isNone_iff_eq_none] at hc
      cases hfc : f.firstChild node with
      | none => rw [hfc] at hc; cases hc.1
      | some c =>
        obtain ⟨l, hl⟩ := lastChild_of_firstChild hi hfc
        rw [hl] at hc; cases hc.2
    · exact h

end Forest
end XotModel
