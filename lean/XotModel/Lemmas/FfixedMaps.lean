/-
  Node-map `insert` of a new key into a parentless element without normal children: the entry node gets the next
  handle and becomes the last child (`mapInsert_fresh`).  The invariant the routes maintain (`Good`: handles distinct
  and below `next`, as a statement about counts) and the two insertion loops of `Element::xotify`.
-/
import XotModel.Lemmas.BasicFacts
import XotModel.Lemmas.FfixedPlace

/-! ### Node-map `insert` of a new key -/

namespace XotModel
open HTree

/-- Leaves with consecutive handles. -/
def leavesFrom (n : Nat) : List Value → List HTree
  | [] => []
  | v :: vs => .node n v [] :: leavesFrom (n + 1) vs

theorem leavesFrom_append (n : Nat) (a b : List Value) :
    leavesFrom n (a ++ b) = leavesFrom n a ++ leavesFrom (n + a.length) b := by
  induction a generalizing n with
  | nil => simp [leavesFrom]
  | cons v vs ih =>
    simp only [List.cons_append, leavesFrom, ih, List.length_cons]
    rw [Nat.add_assoc, Nat.add_comm 1 vs.length]

theorem eraseList_leavesFrom (n : Nat) (vs : List Value) :
    eraseList (leavesFrom n vs) = vs.map (fun v => Tree.node v []) := by
  induction vs generalizing n with
  | nil => rfl
  | cons v vs ih => simp [leavesFrom, eraseList, erase, ih]

theorem mem_handlesList_leavesFrom {n : Nat} {vs : List Value} {h : Nat} :
    h ∈ handlesList (leavesFrom n vs) ↔ n ≤ h ∧ h < n + vs.length := by
  induction vs generalizing n with
  | nil => simp [leavesFrom, handlesList]
  | cons v vs ih => simp [leavesFrom, handlesList, handles, ih]; omega

theorem nodup_handlesList_leavesFrom (n : Nat) (vs : List Value) :
    (handlesList (leavesFrom n vs)).Nodup := by
  induction vs generalizing n with
  | nil => simp [leavesFrom, handlesList]
  | cons v vs ih =>
    simp only [leavesFrom, handlesList, handles, List.cons_append, List.nil_append, List.nodup_cons]
    refine ⟨?_, ih (n + 1)⟩
    rw [mem_handlesList_leavesFrom]; omega

theorem mem_leavesFrom {n : Nat} {vs : List Value} {t : HTree} (h : t ∈ leavesFrom n vs) :
    t.value ∈ vs ∧ t.kids = [] := by
  induction vs generalizing n with
  | nil => cases h
  | cons v vs ih =>
    simp only [leavesFrom, List.mem_cons] at h
    rcases h with rfl | h
    · simp [HTree.value, HTree.kids]
    · have := ih h; exact ⟨List.mem_cons_of_mem _ this.1, this.2⟩

/-- The children so far allow a plain insertion of `key` at the end. -/
def MapReady (k : Forest.MapKind) (key : Nat) (ks : List HTree) : Prop :=
  match k with
  | .namespaces => ∀ c ∈ ks, c.value.category = .namespace ∧ Forest.entryKey c.value ≠ key
  | .attributes => ∃ nsK atK, ks = nsK ++ atK ∧ (∀ c ∈ nsK, c.value.category = .namespace) ∧
      (∀ c ∈ atK, c.value.category = .attribute ∧ Forest.entryKey c.value ≠ key)

theorem dropWhile_ns_of_attr (atK : List HTree) (h : ∀ c ∈ atK, c.value.category = .attribute) :
    atK.dropWhile (fun c => c.value.category == .namespace) = atK := by
  cases atK with
  | nil => rfl
  | cons a as =>
    have := h a (List.mem_cons_self ..)
    have hd : (Category.attribute == Category.namespace) = false := by decide
    simp [List.dropWhile, this, hd]

theorem takeWhile_ns_of_attr (atK : List HTree) (h : ∀ c ∈ atK, c.value.category = .attribute) :
    atK.takeWhile (fun c => c.value.category == .namespace) = [] := by
  cases atK with
  | nil => rfl
  | cons a as =>
    have := h a (List.mem_cons_self ..)
    have hd : (Category.attribute == Category.namespace) = false := by decide
    simp [List.takeWhile, this, hd]

theorem mapChildren_ready {k : Forest.MapKind} {key : Nat} {ks : List HTree} {h : Nat} {v : Value}
    (hr : MapReady k key ks) :
    (∀ c ∈ Forest.mapChildren k (.node h v ks), Forest.entryKey c.value ≠ key) ∧
    ((Forest.mapChildren k (.node h v ks)).getLast? = none →
       (k = .namespaces ∧ ks = []) ∨
       (k = .attributes ∧ ks.takeWhile (fun c => c.value.category == .namespace) = ks)) ∧
    (∀ l, (Forest.mapChildren k (.node h v ks)).getLast? = some l → ks.getLast? = some l) := by
  cases k with
  | namespaces =>
    have hall : ∀ c ∈ ks, (c.value.category == Category.namespace) = true := by
      intro c hc; simp [(hr c hc).1]
    have hmc : Forest.mapChildren .namespaces (.node h v ks) = ks := by
      simp only [Forest.mapChildren, HTree.kids]
      exact takeWhile_eq_self_of_all _ _ hall
    rw [hmc]
    refine ⟨fun c hc => (hr c hc).2, ?_, fun l hl => hl⟩
    intro hl
    exact Or.inl ⟨rfl, List.getLast?_eq_none_iff.1 hl⟩
  | attributes =>
    obtain ⟨nsK, atK, rfl, hns, hat⟩ := hr
    have hnsall : ∀ c ∈ nsK, (c.value.category == Category.namespace) = true := by
      intro c hc; simp [hns c hc]
    have hatall : ∀ c ∈ atK, (c.value.category == Category.attribute) = true := by
      intro c hc; simp [(hat c hc).1]
    have hmc : Forest.mapChildren .attributes (.node h v (nsK ++ atK)) = atK := by
      simp only [Forest.mapChildren, HTree.kids]
      rw [List.dropWhile_append_of_pos hnsall, dropWhile_ns_of_attr atK (fun c hc => (hat c hc).1)]
      exact takeWhile_eq_self_of_all _ _ hatall
    rw [hmc]
    refine ⟨fun c hc => (hat c hc).2, ?_, ?_⟩
    · intro hl
      have : atK = [] := List.getLast?_eq_none_iff.1 hl
      subst this
      refine Or.inr ⟨rfl, ?_⟩
      simpa using takeWhile_eq_self_of_all _ _ hnsall
    · intro l hl
      simp [List.getLast?_append, hl]

namespace Forest

/-- `insert` of a new key into a root element without normal children: one new last child. -/
theorem mapInsert_fresh (f : Forest) {A B ks : List HTree} {el nm : Nat} (k : MapKind) (entry : Value)
    (hroots : f.roots = A ++ HTree.node el (.element nm) ks :: B)
    (hnd : (handlesList f.roots).Nodup)
    (hbelow : ∀ h ∈ handlesList f.roots, h < f.next)
    (hr : MapReady k (entryKey entry) ks) :
    f.mapInsert k el entry =
      ({ f with roots := A ++ HTree.node el (.element nm) (ks ++ [.node f.next entry []]) :: B,
                next := f.next + 1 }, .ok) := by
  have hget : f.get? el = some (HTree.node el (.element nm) ks) :=
    get?_of_loc (⟨hroots, rfl⟩ : Loc f.roots el [] A (HTree.node el (.element nm) ks) B) hnd
  have hel : f.isElement el = true := by
    simp [isElement, Prog2.value_of_get hget, HTree.value, Value.isElement]
  obtain ⟨hkeys, hnone, hsome⟩ := mapChildren_ready (h := el) (v := .element nm) hr
  have hgn : f.mapGetNode k el (entryKey entry) = none := by
    unfold mapGetNode; rw [hget]
    simp only [List.find?_eq_none, beq_iff_eq]
    exact hkeys
  -- the state after `new_node`
  let leaf : HTree := .node f.next entry []
  let f1 : Forest := { f with roots := f.roots ++ [leaf], next := f.next + 1 }
  have hR : RootAt f1 (A ++ HTree.node el (.element nm) ks :: B) leaf [] := by
    refine ⟨by simp [f1, hroots], ?_⟩
    show (handlesList (f.roots ++ [leaf])).Nodup
    rw [handlesList_append]
    refine List.nodup_append.2 ⟨hnd, by simp [handlesList, handles, leaf], ?_⟩
    intro a ha b hb
    simp only [handlesList, handles, leaf, List.append_nil, List.mem_singleton] at hb
    have := hbelow a ha
    omega
  have hXY : (A ++ HTree.node el (.element nm) ks :: B) ++ [] =
      A ++ HTree.node el (.element nm) ks :: B := by simp
  have hget1 : f1.get? el = some (HTree.node el (.element nm) ks) := by
    rw [hR.get?_rest (RootAt.mem_rest_of_loc (RootAt.loc_root hXY))]
    exact (RootAt.loc_root hXY).findList?_eq hR.nodup_rest
  have hip1 : f1.mapInsertionPoint k el = ks.getLast?.map HTree.handle := by
    unfold mapInsertionPoint; rw [hget1]
    cases hl : (mapChildren k (HTree.node el (.element nm) ks)).getLast? with
    | some l => simp only [hl, hsome l hl, Option.map_some]
    | none =>
      rcases hnone hl with ⟨rfl, rfl⟩ | ⟨rfl, htw⟩
      · simp only [hl]; rfl
      · simp only [hl, HTree.kids, htw]
  obtain ⟨hpl1, hpl2⟩ := hR.placeAtEnd hXY
  have hleaf : leaf.handle = f.next := rfl
  rw [hleaf] at hpl1 hpl2
  unfold mapInsert
  simp only [hel, hgn, Bool.not_true, Bool.false_eq_true, if_false]
  show f1.mapPlace k el f.next = _
  unfold mapPlace
  rw [hip1]
  cases hl : ks.getLast? with
  | some l => simp only [Option.map_some, hpl1 l hl]; rfl
  | none => simp only [Option.map_none, hpl2 hl]; rfl

end Forest
end XotModel

/-! ### `Good`, and the two insertion loops

`Good` is one statement about counts so that it transfers along permutations of the handle list. -/

namespace XotModel
open HTree

/-- Every handle occurs at most once, and only handles below `next` occur. -/
def Good (f : Forest) : Prop := ∀ a, f.allHandles.count a ≤ (if a < f.next then 1 else 0)

namespace Good
variable {f : Forest}

theorem nodup (h : Good f) : (handlesList f.roots).Nodup := by
  rw [List.nodup_iff_count]
  intro a
  have := h a
  unfold Forest.allHandles at this
  split at this <;> omega

theorem below (h : Good f) : ∀ a ∈ handlesList f.roots, a < f.next := by
  intro a ha
  have := h a
  unfold Forest.allHandles at this
  have hp : 0 < (handlesList f.roots).count a := List.count_pos_iff.2 ha
  split at this
  · assumption
  · omega

theorem of_nodup_below (hn : (handlesList f.roots).Nodup) (hb : ∀ a ∈ handlesList f.roots, a < f.next) :
    Good f := by
  intro a
  unfold Forest.allHandles
  have h1 := List.nodup_iff_count.1 hn a
  split
  · exact h1
  · rename_i hlt
    have : (handlesList f.roots).count a = 0 := List.count_eq_zero.2 (fun hm => hlt (hb a hm))
    omega

/-- The handle list is permuted, `next` does not decrease. -/
theorem of_count_eq {f' : Forest} (h : Good f) (hn : f.next ≤ f'.next)
    (hc : ∀ a, (handlesList f'.roots).count a = (handlesList f.roots).count a) : Good f' := by
  intro a
  have := h a
  unfold Forest.allHandles at this ⊢
  rw [hc a]
  split at this
  · rw [if_pos (by omega)]; exact this
  · split <;> omega

/-- One fresh handle (`f.next`) is added. -/
theorem of_count_new {f' : Forest} (h : Good f) (hn : f'.next = f.next + 1)
    (hc : ∀ a, (handlesList f'.roots).count a =
      (handlesList f.roots).count a + (if a = f.next then 1 else 0)) : Good f' := by
  intro a
  have := h a
  unfold Forest.allHandles at this ⊢
  rw [hc a, hn]
  by_cases e : a = f.next
  · subst e
    simp only [Nat.lt_irrefl, if_false] at this
    simp; omega
  · simp only [e, if_false, Nat.add_zero]
    split at this
    · rw [if_pos (by omega)]; exact this
    · split <;> omega

/-- Fresh handles `H`, all in `[f.next, n')`, are added. -/
theorem of_count_add (hg : Good f) (roots' : List HTree) (n' : Nat) (H : List Nat)
    (hc : ∀ a, (handlesList roots').count a = (handlesList f.roots).count a + H.count a)
    (hnd : H.Nodup) (hb : ∀ h ∈ H, f.next ≤ h ∧ h < n') (hn : f.next ≤ n') :
    Good { f with roots := roots', next := n' } := by
  intro a
  have h0 := hg a
  unfold Forest.allHandles at h0 ⊢
  show (handlesList roots').count a ≤ if a < n' then 1 else 0
  rw [hc]
  have h1 := List.nodup_iff_count.1 hnd a
  by_cases hlt : a < f.next
  · have : H.count a = 0 := List.count_eq_zero.2 (fun hm => by have := (hb a hm).1; omega)
    rw [if_pos hlt] at h0
    rw [if_pos (by omega)]; omega
  · rw [if_neg hlt] at h0
    by_cases hlt' : a < n'
    · rw [if_pos hlt']; omega
    · have : H.count a = 0 := List.count_eq_zero.2 (fun hm => by have := (hb a hm).2; omega)
      rw [if_neg hlt']; omega

theorem newNode (h : Good f) (v : Value) : Good (f.newNode v).1 := by
  apply h.of_count_new (by simp [Forest.newNode])
  intro a
  simp only [Forest.newNode, handlesList_append, List.count_append, handlesList, handles,
    List.append_nil, List.count_cons, List.count_nil, beq_iff_eq]
  by_cases e : a = f.next
  · simp [e]
  · have : ¬ (f.next = a) := fun e' => e e'.symm
    simp [e, this]

end Good

/-- Counting lemma: moving the root `tc` to the end of the children of the root `p`. -/
theorem count_move_last {X Y A B ks : List HTree} {tc : HTree} {p : Nat} {v : Value}
    (hXY : X ++ Y = A ++ HTree.node p v ks :: B) (a : Nat) :
    (handlesList (A ++ HTree.node p v (ks ++ [tc]) :: B)).count a =
      (handlesList (X ++ tc :: Y)).count a := by
  have e := congrArg (fun l => (handlesList l).count a) hXY
  simp only [handlesList_append, handlesList, handles, List.count_append, List.count_cons,
    List.append_nil] at e ⊢
  omega

theorem count_insert_leaf (A k1 k2 : List HTree) (d n a : Nat) (v e : Value) :
    (handlesList (A ++ [HTree.node d v (k1 ++ HTree.node n e [] :: k2)])).count a =
      (handlesList (A ++ [HTree.node d v (k1 ++ k2)])).count a + (if a = n then 1 else 0) := by
  simp only [handlesList_append, handlesList, handles, List.count_append, List.count_cons,
    List.append_nil, List.count_nil, beq_iff_eq]
  by_cases e : a = n
  · subst e; simp; omega
  · have : ¬ (n = a) := fun e' => e e'.symm
    simp [e, this]

namespace Forest

def nsVal (p : Nat × Nat) : Value := .namespace p.1 p.2
def attrVal (a : Nat × Str) : Value := .attribute a.1 a.2

theorem good_insert_leaf {f : Forest} {A k1 k2 : List HTree} {d : Nat} {v e : Value}
    (hroots : f.roots = A ++ [HTree.node d v (k1 ++ k2)]) (hg : Good f) :
    Good { f with roots := A ++ [HTree.node d v (k1 ++ .node f.next e [] :: k2)], next := f.next + 1 } := by
  apply hg.of_count_new rfl
  intro a
  rw [hroots]
  exact count_insert_leaf A k1 k2 d f.next a v e

theorem good_after_insert {f : Forest} {A ks : List HTree} {el : Nat} {v e : Value}
    (hroots : f.roots = A ++ [HTree.node el v ks]) (hg : Good f) :
    Good { f with roots := A ++ [HTree.node el v (ks ++ [.node f.next e []])], next := f.next + 1 } :=
  good_insert_leaf (k2 := []) (by rw [List.append_nil]; exact hroots) hg

theorem insertPrefixes_spec {A : List HTree} {el nm : Nat} : ∀ (ps : List (Nat × Nat)) (f : Forest)
    (ks : List HTree), f.roots = A ++ [HTree.node el (.element nm) ks] → Good f →
    (∀ c ∈ ks, c.value.category = .namespace) →
    (ks.map (fun c => entryKey c.value) ++ ps.map (·.1)).Nodup →
    f.insertPrefixes el ps =
      some { f with roots := A ++ [HTree.node el (.element nm) (ks ++ leavesFrom f.next (ps.map nsVal))],
                    next := f.next + ps.length }
  | [] => by
    intro f ks hroots _ _ _
    simp [insertPrefixes, leavesFrom, ← hroots]
  | p :: ps => by
    intro f ks hroots hg hcat hkeys
    have hr : MapReady .namespaces (entryKey (.namespace p.1 p.2)) ks := by
      intro c hc
      refine ⟨hcat c hc, ?_⟩
      intro e
      have hnd := List.nodup_append.1 hkeys
      exact hnd.2.2 _ (List.mem_map.2 ⟨c, hc, rfl⟩) p.1 List.mem_cons_self e
    have hroots' : f.roots = A ++ HTree.node el (.element nm) ks :: [] := hroots
    unfold insertPrefixes
    rw [mapInsert_fresh f .namespaces _ hroots' hg.nodup hg.below hr]
    simp only
    refine (insertPrefixes_spec ps _ (ks ++ [.node f.next (.namespace p.1 p.2) []]) rfl
      (good_after_insert hroots hg) ?_ ?_).trans ?_
    · intro c hc
      rw [List.mem_append, List.mem_singleton] at hc
      rcases hc with hc | rfl
      · exact hcat c hc
      · rfl
    · have hk : entryKey (HTree.node f.next (Value.namespace p.1 p.2) []).value = p.1 := rfl
      simp only [List.map_append, List.map_cons, List.map_nil, hk, List.append_assoc,
        List.cons_append, List.nil_append]
      exact hkeys
    · simp [leavesFrom, nsVal, Nat.add_assoc, Nat.add_comm 1]

theorem insertAttributes_spec {A nsK : List HTree} {el nm : Nat}
    (hns : ∀ c ∈ nsK, c.value.category = .namespace) : ∀ (as : List (Nat × Str)) (f : Forest)
    (atK : List HTree), f.roots = A ++ [HTree.node el (.element nm) (nsK ++ atK)] → Good f →
    (∀ c ∈ atK, c.value.category = .attribute) →
    (atK.map (fun c => entryKey c.value) ++ as.map (·.1)).Nodup →
    f.insertAttributes el as =
      some { f with roots := A ++ [HTree.node el (.element nm) (nsK ++ (atK ++ leavesFrom f.next (as.map attrVal)))],
                    next := f.next + as.length }
  | [] => by
    intro f atK hroots _ _ _
    simp [insertAttributes, leavesFrom, ← hroots]
  | a :: as => by
    intro f atK hroots hg hcat hkeys
    have hr : MapReady .attributes (entryKey (.attribute a.1 a.2)) (nsK ++ atK) := by
      refine ⟨nsK, atK, rfl, hns, ?_⟩
      intro c hc
      refine ⟨hcat c hc, ?_⟩
      intro e
      have hnd := List.nodup_append.1 hkeys
      exact hnd.2.2 _ (List.mem_map.2 ⟨c, hc, rfl⟩) a.1 List.mem_cons_self e
    have hroots' : f.roots = A ++ HTree.node el (.element nm) (nsK ++ atK) :: [] := hroots
    unfold insertAttributes
    rw [mapInsert_fresh f .attributes _ hroots' hg.nodup hg.below hr]
    simp only
    have hg' := good_after_insert (e := .attribute a.1 a.2) hroots hg
    rw [List.append_assoc] at hg'
    rw [List.append_assoc nsK atK]
    refine (insertAttributes_spec hns as _ (atK ++ [.node f.next (.attribute a.1 a.2) []]) rfl hg'
      ?_ ?_).trans ?_
    · intro c hc
      rw [List.mem_append, List.mem_singleton] at hc
      rcases hc with hc | rfl
      · exact hcat c hc
      · rfl
    · have hk : entryKey (HTree.node f.next (Value.attribute a.1 a.2) []).value = a.1 := rfl
      simp only [List.map_append, List.map_cons, List.map_nil, hk, List.append_assoc,
        List.cons_append, List.nil_append]
      exact hkeys
    · simp [leavesFrom, attrVal, Nat.add_assoc, Nat.add_comm 1]

end Forest
end XotModel
