/-
  C02_scope at string level: the id-level prefix lookup of `NameIdBuilder` IS XML-Namespaces
  scoping over the declared strings.

  `strStack env stack` reads the namespace stack back as (prefix string, URI string) frames;
  `lookupStr` is "nearest enclosing declaration of this prefix wins" on strings.  Under the
  invariant that the interning tables have no duplicates and the stack only holds valid ids —
  which every builder state reachable from a duplicate-free `Env` satisfies — the namespace id the
  builder resolves a prefix to names exactly the URI string scoping gives.
-/
import XotModel.Lemmas.ParseOps
import XotModel.Lemmas.ParseSpellStart

namespace XotModel

/-! ### String-level scoping -/

def strFrame (env : Env) (d : List (Nat × Nat)) : List (Str × Str) :=
  d.map fun x => (env.prefixStr x.1, env.namespaceStr x.2)

def strStack (env : Env) (stack : NsStack) : List (List (Str × Str)) := stack.map (strFrame env)

/-- The last declaration of `p` in one start tag. -/
def lookupStrFrame (p : Str) (d : List (Str × Str)) : Option Str :=
  (d.reverse.find? fun x => x.1 == p).map fun x => x.2

/-- Nearest enclosing declaration wins. -/
def lookupStr (stack : List (List (Str × Str))) (p : Str) : Option Str :=
  stack.findSome? (lookupStrFrame p)

/-! ### Ids and strings -/

theorem idxOf_getElem_of_nodup {α : Type} [BEq α] [LawfulBEq α] : ∀ (l : List α), l.Nodup →
    ∀ (i : Nat) (h : i < l.length), l.idxOf l[i] = i
  | [], _, i, h => by simp at h
  | x :: xs, hn, 0, _ => by simp
  | x :: xs, hn, i + 1, h => by
    have hn' := List.nodup_cons.mp hn
    have hi : i < xs.length := by simpa using h
    have hne : xs[i] ≠ x := by
      intro he
      apply hn'.1
      rw [← he]; exact List.getElem_mem _
    have : (x == xs[i]) = false := by
      rw [beq_eq_false_iff_ne]; exact fun e => hne e.symm
    simp only [List.getElem_cons_succ, List.idxOf_cons, this, cond_false]
    rw [idxOf_getElem_of_nodup xs hn'.2 i hi]

def FrameValid (env : Env) (d : List (Nat × Nat)) : Prop :=
  ∀ x ∈ d, x.1 < env.prefixes.length ∧ x.2 < env.namespaces.length

def StackValid (env : Env) (stack : NsStack) : Prop := ∀ d ∈ stack, FrameValid env d

theorem prefixStr_eq_iff {env : Env} (hn : env.prefixes.Nodup) {i : Nat} (hi : i < env.prefixes.length) (p : Str) :
    (i == env.prefixes.idxOf p) = (env.prefixStr i == p) := by
  have hget : env.prefixStr i = env.prefixes[i] := by
    simp [Env.prefixStr, List.getD, List.getElem?_eq_getElem hi]
  rw [hget]
  by_cases h : env.prefixes[i] = p
  · subst h
    simp [idxOf_getElem_of_nodup env.prefixes hn i hi]
  · have h2 : (env.prefixes[i] == p) = false := by simpa using h
    rw [h2, beq_eq_false_iff_ne]
    intro he
    by_cases hm : p ∈ env.prefixes
    · have := List.getElem_idxOf (List.idxOf_lt_length_of_mem hm)
      apply h
      rw [← this]
      congr 1
    · rw [List.idxOf_eq_length hm] at he
      omega

theorem findInDecls_str {env : Env} (hn : env.prefixes.Nodup) (p : Str) : ∀ (d : List (Nat × Nat)),
    FrameValid env d →
    (findInDecls (env.prefixes.idxOf p) d).map env.namespaceStr = lookupStrFrame p (strFrame env d) := by
  intro d hv
  unfold findInDecls lookupStrFrame strFrame
  rw [← List.map_reverse]
  have hv' : ∀ x ∈ d.reverse, x.1 < env.prefixes.length := fun x hx => (hv x (by simpa using hx)).1
  generalize d.reverse = l at hv'
  induction l with
  | nil => rfl
  | cons x xs ih =>
    have hx := hv' x (by simp)
    simp only [List.find?_cons, List.map_cons]
    rw [← prefixStr_eq_iff hn hx p]
    cases hb : (x.1 == env.prefixes.idxOf p) with
    | true => rfl
    | false => exact ih (fun y hy => hv' y (by simp [hy]))

/-- C02_scope_strings: the namespace a prefix resolves to, read back as a string, is what
    XML-Namespaces scoping gives on the declared strings. -/
theorem lookupPrefix_str {env : Env} (hn : env.prefixes.Nodup) (p : Str) : ∀ (stack : NsStack), StackValid env stack →
    (lookupPrefix stack (env.internPrefix p).2).map env.namespaceStr = lookupStr (strStack env stack) p := by
  intro stack
  induction stack with
  | nil => intro _; rfl
  | cons d rest ih =>
    intro hv
    have hd := findInDecls_str hn p d (hv d (by simp))
    have hr := ih (fun x hx => hv x (by simp [hx]))
    have hid : (env.internPrefix p).2 = env.prefixes.idxOf p := rfl
    rw [hid] at hr ⊢
    rw [lookupPrefix_cons]
    simp only [strStack, List.map_cons, lookupStr, List.findSome?_cons]
    rw [← hd]
    cases findInDecls (env.prefixes.idxOf p) d with
    | some ns => rfl
    | none => simpa [strStack, lookupStr] using hr

/-! ### The invariant is kept by the builder -/

theorem internIn_nodup {α : Type} [BEq α] [LawfulBEq α] {l : List α} (h : l.Nodup) (v : α) : (internIn l v).1.Nodup := by
  unfold internIn
  split
  · exact h
  · rename_i hc
    have hm : v ∉ l := by simpa using hc
    rw [List.nodup_append]
    exact ⟨h, by simp, fun a ha b hb => by simp only [List.mem_singleton] at hb; subst hb; exact fun e => hm (e ▸ ha)⟩

theorem internIn_lt {α : Type} [BEq α] [LawfulBEq α] (l : List α) (v : α) : (internIn l v).2 < (internIn l v).1.length := by
  have := internIn_get l v
  rcases Nat.lt_or_ge (internIn l v).2 (internIn l v).1.length with h | h
  · exact h
  · rw [List.getElem?_eq_none h] at this; cases this

theorem internIn_length_le {α : Type} [BEq α] (l : List α) (v : α) : l.length ≤ (internIn l v).1.length := by
  obtain ⟨ext, h⟩ := internIn_ext l v
  rw [h]; simp

/-- The tables only grow. -/
def EnvGrows (e e' : Env) : Prop :=
  e.prefixes.length ≤ e'.prefixes.length ∧ e.namespaces.length ≤ e'.namespaces.length

theorem FrameValid.grow {e e' : Env} (h : EnvGrows e e') {d : List (Nat × Nat)} (hd : FrameValid e d) : FrameValid e' d :=
  fun x hx => ⟨Nat.lt_of_lt_of_le (hd x hx).1 h.1, Nat.lt_of_lt_of_le (hd x hx).2 h.2⟩

/-- No duplicates in the prefix / namespace tables, and only valid ids on the namespace stack and in
    the declarations collected for the start tag being read. -/
structure ScopeOk (b : Builder) : Prop where
  pfxNodup : b.env.prefixes.Nodup
  nsNodup : b.env.namespaces.Nodup
  stack : StackValid b.env b.nsStack
  eb : ∀ e, b.eb = some e → FrameValid b.env e.namespaces

theorem scopeOk_new {env : Env} (hp : env.prefixes.Nodup) (hn : env.namespaces.Nodup)
    (h2p : 2 ≤ env.prefixes.length) (h2n : 2 ≤ env.namespaces.length) : ScopeOk (Builder.new env) := by
  refine ⟨hp, hn, ?_, fun e he => by simp [Builder.new] at he⟩
  intro d hd
  simp only [Builder.new, List.mem_cons, List.not_mem_nil, or_false] at hd
  rcases hd with rfl | rfl
  · intro x hx
    simp only [List.mem_singleton] at hx
    subst hx
    simp only [Env.emptyPrefix, Env.noNamespace, Builder.new]; omega
  · intro x hx
    simp only [List.mem_singleton] at hx
    subst hx
    simp only [Env.xmlPrefix, Env.xmlNamespace, Builder.new]; omega

/-- A step that only changes `env` by name interning keeps everything. -/
theorem scopeOk_of_same {b b' : Builder} (h : ScopeOk b) (hp : b'.env.prefixes = b.env.prefixes)
    (hn : b'.env.namespaces = b.env.namespaces) (hs : b'.nsStack = b.nsStack) (he : b'.eb = b.eb) : ScopeOk b' := by
  refine ⟨by rw [hp]; exact h.pfxNodup, by rw [hn]; exact h.nsNodup, ?_, ?_⟩
  · intro d hd x hx
    rw [hs] at hd
    rw [hp, hn]; exact h.stack d hd x hx
  · intro e hee x hx
    rw [he] at hee
    rw [hp, hn]; exact h.eb e hee x hx

theorem internPrefix_grows (e : Env) (p : Str) : EnvGrows e (e.internPrefix p).1 :=
  ⟨internIn_length_le e.prefixes p, Nat.le_refl _⟩

theorem internNamespace_grows (e : Env) (u : Str) : EnvGrows e (e.internNamespace u).1 :=
  ⟨Nat.le_refl _, internIn_length_le e.namespaces u⟩

theorem EnvGrows.trans {a b c : Env} (h1 : EnvGrows a b) (h2 : EnvGrows b c) : EnvGrows a c :=
  ⟨Nat.le_trans h1.1 h2.1, Nat.le_trans h1.2 h2.2⟩

/-- A namespace declaration: the new pair is valid in the tables it was interned into. -/
theorem prefix_scopeOk {b b' : Builder} (p : Str) (u : StrSpan) (sp : Span) (h : ScopeOk b)
    (hr : b.prefix p u sp = .ok b') : ScopeOk b' := by
  obtain ⟨us, eb, _, _, heb, _, rfl⟩ := Builder.prefix_ok_inv hr
  have hg : EnvGrows b.env ((b.env.internPrefix p).1.internNamespace us).1 :=
    (internPrefix_grows b.env p).trans (internNamespace_grows _ us)
  refine ⟨internIn_nodup h.pfxNodup p, internIn_nodup h.nsNodup us, fun d hd => (h.stack d hd).grow hg, ?_⟩
  intro e he x hx
  cases he
  rcases List.mem_append.1 hx with hx | hx
  · exact (h.eb eb heb).grow hg x hx
  · cases List.mem_singleton.1 hx
    exact ⟨internIn_lt b.env.prefixes p, internIn_lt _ us⟩

/-! ### Name resolution changes only the prefix and name tables -/

theorem elementNameId_env {env env' : Env} {stack : NsStack} {p n : Str} {sp : Span} {id : Nat}
    (h : elementNameId env stack p n sp = .ok (env', id)) :
    env'.namespaces = env.namespaces ∧ env'.prefixes = (internIn env.prefixes p).1 := by
  obtain ⟨ns, _, h⟩ := BuilderCases.elementNameId_ok h
  cases h; exact ⟨rfl, rfl⟩

theorem attributeNameId_env {env env' : Env} {stack : NsStack} {p n : Str} {sp : Span} {id : Nat}
    (h : attributeNameId env stack p n sp = .ok (env', id)) :
    env'.namespaces = env.namespaces ∧ env'.prefixes = (internIn env.prefixes p).1 := by
  obtain ⟨ns, _, h⟩ := BuilderCases.attributeNameId_ok h
  cases h; exact ⟨rfl, rfl⟩

/-- What name resolution may do to the tables: namespaces untouched, prefixes grow without
    duplicates. -/
def PfxGrows (e e' : Env) : Prop :=
  e'.namespaces = e.namespaces ∧ e.prefixes.length ≤ e'.prefixes.length ∧ (e.prefixes.Nodup → e'.prefixes.Nodup)

theorem PfxGrows.refl (e : Env) : PfxGrows e e := ⟨rfl, Nat.le_refl _, id⟩

theorem PfxGrows.trans {a b c : Env} (h1 : PfxGrows a b) (h2 : PfxGrows b c) : PfxGrows a c :=
  ⟨h2.1.trans h1.1, Nat.le_trans h1.2.1 h2.2.1, fun h => h2.2.2 (h1.2.2 h)⟩

theorem pfxGrows_of_intern {e e' : Env} {p : Str} (hn : e'.namespaces = e.namespaces)
    (hp : e'.prefixes = (internIn e.prefixes p).1) : PfxGrows e e' :=
  ⟨hn, by rw [hp]; exact internIn_length_le _ _, fun h => by rw [hp]; exact internIn_nodup h p⟩

theorem addAttributes_env (stack : NsStack) (node : Path) (abs : List AttributeBuilder) (st st' : AttrLoop)
    (h : addAttributes stack node st abs = .ok st') : PfxGrows st.env st'.env := by
  refine addAttributes_ok_induct (P := fun s => PfxGrows st.env s.env) ?_ (PfxGrows.refl _) h
  intro s ab env1 nameId _ hn _ _ hs
  obtain ⟨h1, h2⟩ := attributeNameId_env hn
  exact hs.trans (pfxGrows_of_intern h1 h2)

theorem ScopeOk.of_pfxGrows {b b' : Builder} (h : ScopeOk b) (hg : PfxGrows b.env b'.env)
    (hs : StackValid b.env b'.nsStack) (he : ∀ e, b'.eb = some e → FrameValid b.env e.namespaces) : ScopeOk b' := by
  have hgrow : EnvGrows b.env b'.env := ⟨hg.2.1, by rw [hg.1]; exact Nat.le_refl _⟩
  exact ⟨hg.2.2 h.pfxNodup, by rw [hg.1]; exact h.nsNodup, fun d hd => (hs d hd).grow hgrow,
    fun e hee => (he e hee).grow hgrow⟩

theorem stackValid_tail {env : Env} {stack : NsStack} (h : StackValid env stack) : StackValid env stack.tail :=
  fun d hd => h d (List.mem_of_mem_tail hd)

theorem leave_scope {b b' : Builder} (node : Path) (sp : StrSpan) (hr : b.leave node sp = .ok b') :
    b'.env = b.env ∧ b'.nsStack = b.nsStack ∧ b'.eb = b.eb := by
  obtain ⟨b2, hb, rfl⟩ := Builder.leave_ok_inv hr
  obtain ⟨_, _, _, rfl⟩ := Builder.toParent_ok_inv hb
  exact ⟨rfl, rfl, rfl⟩

theorem openElement_scopeOk {b b' : Builder} (h : ScopeOk b) (hr : b.openElement = .ok b') : ScopeOk b' := by
  obtain ⟨eb, env1, nameId, st, heb, hn, hst, rfl⟩ := Builder.openElement_ok_inv hr
  obtain ⟨h1, h2⟩ := elementNameId_env hn
  have hg := (pfxGrows_of_intern h1 h2).trans (addAttributes_env _ _ _ _ st hst)
  refine h.of_pfxGrows hg ?_ nofun
  exact List.forall_mem_cons.2 ⟨h.eb eb heb, h.stack⟩

theorem closeElement_scopeOk {b b' : Builder} (pfx loc sp : StrSpan) (h : ScopeOk b)
    (hr : b.closeElement pfx loc sp = .ok b') : ScopeOk b' := by
  obtain ⟨env1, nameId, hn, _, ⟨_, _, hl⟩ | ⟨_, hl⟩⟩ := Builder.closeElement_ok_inv hr
  all_goals
    obtain ⟨h1, h2⟩ := elementNameId_env hn
    have hg := pfxGrows_of_intern h1 h2
    obtain ⟨he, hs, hb⟩ := leave_scope _ _ hl
  · exact h.of_pfxGrows (by rw [he]; exact hg) (by rw [hs]; exact stackValid_tail h.stack)
      (fun e hee => h.eb e (by rw [hb] at hee; exact hee))
  · exact h.of_pfxGrows (by rw [he]; exact hg) (by rw [hs]; exact h.stack)
      (fun e hee => h.eb e (by rw [hb] at hee; exact hee))

theorem closeImmediate_scopeOk {b b' : Builder} (sp : StrSpan) (h : ScopeOk b)
    (hr : b.closeImmediate sp = .ok b') : ScopeOk b' := by
  unfold Builder.closeImmediate at hr
  by_cases hel : b.cur.value.isElement = true
  · rw [if_pos hel] at hr
    obtain ⟨he, hs, hb⟩ := leave_scope _ _ hr
    exact h.of_pfxGrows (by rw [he]; exact PfxGrows.refl _) (by rw [hs]; exact stackValid_tail h.stack)
      (fun e hee => h.eb e (by rw [hb] at hee; exact hee))
  · rw [if_neg hel] at hr
    obtain ⟨he, hs, hb⟩ := leave_scope _ _ hr
    exact scopeOk_of_same h (by rw [he]) (by rw [he]) hs hb

theorem step_scopeOk {b b' : Builder} (t : Token) (h : ScopeOk b) (hr : b.step t = .ok b') : ScopeOk b' := by
  refine Builder.step_ok_induct (P := ScopeOk) prefix_scopeOk ?_ ?_ ?_ ?_ openElement_scopeOk closeElement_scopeOk
    (fun sp h _ => closeImmediate_scopeOk sp h) (fun _ h => scopeOk_of_same h rfl rfl rfl rfl)
    (fun _ _ h => scopeOk_of_same h rfl rfl rfl rfl) h hr
  · intro b b' p l v h hr
    obtain ⟨eb, _, heb, _, _, rfl⟩ := Builder.attribute_ok_inv hr
    exact ⟨h.pfxNodup, h.nsNodup, h.stack, fun e he => by cases he; exact h.eb eb heb⟩
  · intro b b' t h hr
    obtain ⟨c, _, rfl⟩ := Builder.text_ok_inv hr
    exact scopeOk_of_same h (congrArg _ (addText_env b c)) (congrArg _ (addText_env b c)) (addText_nsStack b c)
      (addText_spans b c).2
  · intro b b' t h hr
    rcases Builder.cdata_ok_inv hr with rfl | rfl
    · exact h
    · exact scopeOk_of_same h (congrArg _ (addText_env b _)) (congrArg _ (addText_env b _)) (addText_nsStack b _)
        (addText_spans b _).2
  · intro b p l h
    exact ⟨h.pfxNodup, h.nsNodup, h.stack, fun e he => by cases he; exact nofun⟩

theorem run_scopeOk (ts : List Token) (lexErr : Option Nat) :
    ∀ {b b' : Builder}, ScopeOk b → b.run ts lexErr = .ok b' → ScopeOk b' :=
  fun h hr => Builder.run_ok_induct (P := fun _ b => ScopeOk b) h (fun _ t _ _ _ hp hs => step_scopeOk t hp hs) hr

/-- The element name a start tag resolves to: its local name in the namespace whose URI string
    is what XML-Namespaces scoping gives for the prefix as written. -/
theorem elementNameId_str {b : Builder} (h : ScopeOk b) {stack : NsStack} (hs : StackValid b.env stack)
    {pfx name : Str} {sp : Span} {env1 : Env} {id : Nat}
    (hname : elementNameId b.env stack pfx name sp = .ok (env1, id)) :
    ∃ nid, env1.names[id]? = some (name, nid) ∧
      some (b.env.namespaceStr nid) = lookupStr (strStack b.env stack) pfx := by
  have hl := lookupPrefix_str h.pfxNodup pfx stack hs
  obtain ⟨ns, hns, h⟩ := BuilderCases.elementNameId_ok hname
  cases h
  exact ⟨ns, internName_get _ name ns, by rw [hns] at hl; exact hl⟩

/-- … and for attributes: unprefixed = no namespace, prefixed = scoping. -/
theorem attributeNameId_str {b : Builder} (h : ScopeOk b) {stack : NsStack} (hs : StackValid b.env stack)
    {pfx name : Str} {sp : Span} {env1 : Env} {id : Nat} (hp0 : b.env.prefixes.head? = some [])
    (hname : attributeNameId b.env stack pfx name sp = .ok (env1, id)) :
    ∃ nid, env1.names[id]? = some (name, nid) ∧
      (pfx = [] → nid = Env.noNamespace) ∧
      (pfx ≠ [] → some (b.env.namespaceStr nid) = lookupStr (strStack b.env stack) pfx) := by
  have hl := lookupPrefix_str h.pfxNodup pfx stack hs
  have hzero := internPrefix_zero_iff hp0 pfx
  obtain ⟨nid, hif, h⟩ := BuilderCases.attributeNameId_ok hname
  cases h
  refine ⟨nid, internName_get _ name nid, ?_⟩
  split at hif
  · next hz => exact ⟨fun _ => hif, fun hne => absurd (hzero.mp hz) hne⟩
  · next hz => exact ⟨fun hpe => absurd (hzero.mpr hpe) hz, fun _ => by rw [hif] at hl; exact hl⟩

end XotModel
