/-
  Every operation of the model only moves on (`Forest.Le`): handles are never re-used and `next` never decreases,
  for all forests and all arguments; for all calls but `clone_node` this is what `Forest.VStep` says about handles.
  Hence every step and every history of `Op`s (`le_step`, `le_run`); `set_text_consolidation` preserves the invariant.
-/
import XotModel.Lemmas.FinvVStep
import XotModel.Lemmas.ForestClosed
import XotModel.Model.FinvSpec

/-! ### `Le` for every operation -/

namespace XotModel
open HTree

namespace Forest

theorem le_append (f : Forest) (p c : Nat) : Le f (f.append p c).1 :=
  (vstep_append_any (S := Any) f p c).le

theorem le_prepend (f : Forest) (p c : Nat) : Le f (f.prepend p c).1 :=
  (vstep_prepend_any (S := Any) f p c).le

theorem le_insertAfter (f : Forest) (ref c : Nat) : Le f (f.insertAfter ref c).1 :=
  (vstep_insertAfter_any (S := Any) f ref c).le

theorem le_insertBefore (f : Forest) (ref c : Nat) : Le f (f.insertBefore ref c).1 :=
  (vstep_insertBefore_any (S := Any) f ref c).le

theorem le_detach (f : Forest) (node : Nat) : Le f (f.detach node).1 :=
  (vstep_detach_any (S := Any) f node).le

theorem le_remove (f : Forest) (node : Nat) : Le f (f.remove node).1 :=
  (vstep_remove_any (S := Any) f node).le

theorem le_mapInsert (f : Forest) (k : MapKind) (parent : Nat) (entry : Value) :
    Le f (f.mapInsert k parent entry).1 :=
  (vstep_mapInsert (S := Any) (T := Any) f k parent entry (fun _ _ => trivial)).le

theorem le_mapRemove (f : Forest) (k : MapKind) (parent key : Nat) : Le f (f.mapRemove k parent key).1 :=
  (vstep_mapRemove (S := Any) f k parent key).le

theorem le_mapClear (f : Forest) (k : MapKind) (parent : Nat) : Le f (f.mapClear k parent).1 :=
  (vstep_mapClear (S := Any) f k parent).le

theorem le_appendEntryNode (f : Forest) (k : MapKind) (parent child : Nat) :
    Le f (f.appendEntryNode k parent child).1 :=
  (vstep_appendEntryNode (S := Any) (T := Any) f k parent child (fun _ _ => trivial)).le

theorem le_anyAppend (f : Forest) (parent child : Nat) : Le f (f.anyAppend parent child).1 :=
  (vstep_anyAppend_any (S := Any) f parent child (fun _ _ => trivial)).le

theorem le_setElementName (f : Forest) (node name : Nat) : Le f (f.setElementName node name).1 :=
  (vstep_setElementName (S := Any) f node name trivial).le

theorem le_setText (f : Forest) (node : Nat) (s : Str) : Le f (f.setText node s).1 :=
  (vstep_setText (S := Any) f node s trivial).le

theorem le_setComment (f : Forest) (node : Nat) (s : Str) : Le f (f.setComment node s).1 :=
  (vstep_setComment (S := Any) f node s trivial).le

theorem le_setPiData (f : Forest) (node : Nat) (d : Option Str) : Le f (f.setPiData node d).1 :=
  (vstep_setPiData (S := Any) f node d trivial).le

theorem le_setConsolidation (f : Forest) (b : Bool) : Le f (f.setConsolidation b) :=
  (vstep_setConsolidation (S := Any) f b).le

theorem le_textContentSet (f : Forest) (node : Nat) (s : Str) : Le f (f.textContentSet node s).1 :=
  (vstep_textContentSet (S := Any) f node s (fun _ _ => trivial)).le

theorem le_removeInsignificantWhitespace (f : Forest) (node : Nat) :
    Le f (f.removeInsignificantWhitespace node) :=
  (vstep_removeInsignificantWhitespace (S := Any) f node).le

theorem le_replace (f : Forest) (a b : Nat) : Le f (f.replace a b).1 :=
  (vstep_replace (S := Any) f a b).le

theorem le_elementWrap (f : Forest) (node name : Nat) : Le f (f.elementWrap node name).1 :=
  (vstep_elementWrap (S := Any) f node name).le

theorem le_elementUnwrap (f : Forest) (node : Nat) : Le f (f.elementUnwrap node).1 :=
  (vstep_elementUnwrap (S := Any) f node).le

theorem le_clone_step {f f2 : Forest} {v : Value} {current : Nat} {r : Res} {n : Nat}
    (heq : (f.newNode v).1.anyAppend current (f.newNode v).2 = (f2, r, n)) : Le f f2 := by
  have h2 := le_anyAppend (f.newNode v).1 current (f.newNode v).2
  rw [heq] at h2
  exact (le_newNode f v).trans h2

/-- `clone_node` replays the source with `new_node`, `any_append` and one `spliceOut`. -/
theorem le_cloneNode (f : Forest) (node : Nat) : Le f (f.cloneNode node).1 :=
  (Closed.cloneNode_keeps (P := Le f) (A := fun _ => True) (S := fun _ => True) (Sv := fun _ => True)
    (fun _ => ⟨trivial, fun _ _ => trivial⟩)
    (fun hp _ => ⟨hp.trans (le_newNode _ _), trivial⟩)
    (fun hp _ _ => ⟨hp.trans (le_clone_step rfl), trivial⟩)
    (fun hp _ => hp.trans (vstep_spliceOut (S := Any) (T := Any) _ _).le)
    (fun _ _ _ => trivial) (Le.refl f) (fun _ _ => trivial)).1

end Forest
end XotModel

/-! ### Steps and histories; `set_text_consolidation` -/

namespace XotModel
namespace Forest

theorem setConsolidation_inv {f : Forest} (hi : f.Inv) (b : Bool) : (f.setConsolidation b).Inv := by
  obtain ⟨h1, h2, h3, h4, h5⟩ := hi
  refine ⟨h1, h2, h3, ?_, ?_⟩
  · show validList (!(f.everOff || !b)) f.roots = true
    cases b with
    | true => simpa using h4
    | false => simpa using validList_weaken' _ _ h4
  · show b = true ∨ (f.everOff || !b) = true
    cases b <;> simp

theorem le_step (f : Forest) (o : Op) : Le f (f.step o) := by
  cases o with
  | newDocument => exact le_newNode f _
  | newElement n => exact le_newNode f _
  | newText s => exact le_newNode f _
  | newComment s => exact le_newNode f _
  | newPi t d => exact le_newNode f _
  | newAttributeNode n v => exact le_newNode f _
  | newNamespaceNode p n => exact le_newNode f _
  | append p c => exact le_append f p c
  | prepend p c => exact le_prepend f p c
  | insertAfter r n => exact le_insertAfter f r n
  | insertBefore r n => exact le_insertBefore f r n
  | detach n => exact le_detach f n
  | remove n => exact le_remove f n
  | anyAppend p c => exact le_anyAppend f p c
  | appendAttributeNode p c => exact le_appendEntryNode f _ p c
  | appendNamespaceNode p c => exact le_appendEntryNode f _ p c
  | attrInsert p n v => exact le_mapInsert f _ p _
  | nsInsert p pf ns => exact le_mapInsert f _ p _
  | attrRemove p n => exact le_mapRemove f _ p n
  | nsRemove p pf => exact le_mapRemove f _ p pf
  | attrClear p => exact le_mapClear f _ p
  | nsClear p => exact le_mapClear f _ p
  | setElementName n name => exact le_setElementName f n name
  | setText n s => exact le_setText f n s
  | setComment n s => exact le_setComment f n s
  | setPiData n d => exact le_setPiData f n d
  | textContentSet n s => exact le_textContentSet f n s
  | setConsolidation b => exact le_setConsolidation f b
  | removeInsignificantWhitespace n => exact le_removeInsignificantWhitespace f n
  | replace a b => exact le_replace f a b
  | elementWrap n name => exact le_elementWrap f n name
  | elementUnwrap n => exact le_elementUnwrap f n
  | cloneNode n => exact le_cloneNode f n

theorem le_run (f : Forest) (ops : List Op) : Le f (f.run ops) := by
  unfold run
  induction ops generalizing f with
  | nil => exact Le.refl f
  | cons o ops ih => exact (le_step f o).trans (ih _)

end Forest
end XotModel
