/-
  The reference tokenizer (Model/Lex.lean, xmlparser) on what `Declaration::serialize` writes in front of a
  canonical document: `<?xml version="1.0"[ encoding="E"][ standalone="yes|no"]?>` + LF + body.

    lexDocument (d.bytes ++ renderTokens ts) = (Declaration token :: ts re-positioned, no error)
    lexFragment (d.bytes ++ r)               = ([], error at position 0)

  (`parse_fragment` starts the tokenizer in `State::Elements`, where `<?xml ` is an error.)
  The encoding must consist of the characters `parse_encoding_decl` accepts (letters, digits, `.` `-` `_`:
  every `EncName`).
-/
import XotModel.Lemmas.LexFreeDecl
import XotModel.Lemmas.LexCanon
import XotModel.Model.XmlDecl

namespace XotModel.Lex.Canon
open XotModel.Lex XotModel.Lex.Stream

/-- What `Declaration::serialize` writes, as a laid-out declaration: one blank in front of
    `encoding` and `standalone`, double quotes, nothing else. -/
def declLayout (d : Declaration) : LDecl := { encoding := d.encoding, standalone := d.standalone }

theorem bytes_eq_render (d : Declaration) : d.bytes = (declLayout d).render ++ ['\n'] := by
  obtain ⟨e, sa⟩ := d
  cases e <;> cases sa <;>
    simp only [Declaration.bytes, LDecl.render, LDecl.encPart, LDecl.saPart, declLayout, EqLayout.render,
      List.append_assoc, List.nil_append, List.cons_append] <;>
    rfl

/-- **`parse_declaration` on what `Declaration::serialize` writes**: one `Declaration` token with version
    `1.0`; the stream then stands at the line feed the writer appends. -/
theorem parseDeclaration_written (d : Declaration) (r : Str)
    (henc : ∀ e, d.encoding = some e → e.all isEncChar = true) :
    ∃ v e sa sp q, parseDeclaration ⟨0, d.bytes ++ r⟩ =
      some (.declaration ⟨['1', '.', '0'], v⟩ e sa sp, ⟨q, '\n' :: r⟩) := by
  have hok : (declLayout d).ok = true := by
    obtain ⟨e, sa⟩ := d
    cases e with
    | none => cases sa <;> rfl
    | some e =>
      have he : e.all isEncChar = true := henc e rfl
      cases sa <;> simp only [LDecl.ok, declLayout, he] <;> rfl
  obtain ⟨t', q, hp, her⟩ := Free.parseDeclaration_L 0 (declLayout d) ('\n' :: r) hok
  obtain ⟨⟨v, e, sa, rfl, -, -⟩, -⟩ := parseDeclaration_shape hp
  have hv : v.text = ['1', '.', '0'] := congrArg StrSpan.text (Token.declaration.inj her).1
  obtain ⟨vt, vs⟩ := v
  cases hv
  exact ⟨vs, e, sa, _, q, by rw [bytes_eq_render, List.append_assoc]; exact hp⟩

theorem bytes_head (d : Declaration) (r : Str) : ∃ x, d.bytes ++ r = litXmlDecl ++ x :=
  ⟨_, by rw [bytes_eq_render]; rfl⟩

theorem prolog_no_space {ts : List Token} (h : lexNest false .prolog ts = true) :
    Stops isXmlSpace (renderTokens ts) := by
  cases ts with
  | nil => exact Stops.nil _
  | cons t ts =>
    rw [renderTokens_cons]
    cases t with
    | comment a sp => exact Stops.cons _ (by decide)
    | pi a c sp => cases c <;> exact Stops.cons _ (by decide)
    | elementStart p l sp => exact Stops.cons _ (by decide)
    | _ => simp [lexNest] at h

end XotModel.Lex.Canon

namespace XotModel
open XotModel.Lex XotModel.Lex.Canon XotModel.Lex.Stream

/-- The declaration token, then whatever the tokenizer makes of the rest (from `AfterDeclaration`, standing
    at the line feed the writer appends). -/
theorem lexDocument_declaration_then (d : Declaration) (r : Str)
    (henc : ∀ e, d.encoding = some e → e.all isEncChar = true) :
    ∃ v e sa sp q, lexDocument (d.bytes ++ r) =
      (.declaration ⟨['1', '.', '0'], v⟩ e sa sp ::
          (lexLoop ⟨⟨q, '\n' :: r⟩, .afterDeclaration, 0, false⟩ q).1,
        (lexLoop ⟨⟨q, '\n' :: r⟩, .afterDeclaration, 0, false⟩ q).2) := by
  obtain ⟨v, e, sa, sp, q, hp⟩ := parseDeclaration_written d r henc
  obtain ⟨x, hx⟩ := bytes_head d r
  refine ⟨v, e, sa, sp, q, ?_⟩
  have hb : ((Stream.ofStr (d.bytes ++ r)).curr? == some '\uFEFF') = false := by rw [hx]; rfl
  have hne : (Stream.mk 0 (d.bytes ++ r)).atEnd = false := by rw [hx]; rfl
  have hsw : (Stream.mk 0 (d.bytes ++ r)).startsWith litXmlDecl = true := by
    rw [hx]; simp only [startsWith]; rw [List.isPrefixOf_iff_prefix]; exact List.prefix_append _ _
  have step1 : parseNextImpl ⟨⟨0, d.bytes ++ r⟩, .declaration, 0, false⟩ =
      .token (.declaration ⟨['1', '.', '0'], v⟩ e sa sp) ⟨⟨q, '\n' :: r⟩, .afterDeclaration, 0, false⟩ := by
    simp only [parseNextImpl, hne, Bool.false_eq_true, if_false, hsw, if_true, hp, Step.ofParse]
  rw [lexDocument_noBom hb, lexLoop_token _ hne (by simp) step1]

/-- **Document mode**: the declaration is read as one `Declaration` token with version `1.0`, the line
    feed behind it is skipped, and the canonical document is read as in `lexDocument_render`. -/
theorem lexDocument_declaration (d : Declaration) (ts : List Token) (h : LexOK false ts = true)
    (henc : ∀ e, d.encoding = some e → e.all isEncChar = true) :
    ∃ v e sa sp q, lexDocument (d.bytes ++ renderTokens ts) =
      (.declaration ⟨['1', '.', '0'], v⟩ e sa sp :: placeTokens q ts, none) := by
  simp only [LexOK, Bool.and_eq_true] at h
  obtain ⟨v, e, sa, sp, q, hl⟩ := lexDocument_declaration_then d (renderTokens ts) henc
  refine ⟨v, e, sa, sp, q + 1, ?_⟩
  -- the line feed
  have step2 : parseNextImpl ⟨⟨q, '\n' :: renderTokens ts⟩, .afterDeclaration, 0, false⟩ =
      .skip ⟨⟨q + 1, renderTokens ts⟩, .afterDeclaration, 0, false⟩ :=
    Free.step_misc_space _ q ['\n'] _ (.inl rfl) rfl (by decide) (List.cons_ne_nil _ _)
      (prolog_no_space h.2)
  rw [hl, lexLoop_skip _ rfl (by simp) step2,
    lexLoop_render false ts .prolog _ _ ⟨rfl, rfl, .inr (.inl rfl)⟩ h.1 h.2 rfl]

/-- The tokens read back are the given ones up to byte positions, after one declaration token. -/
theorem lexDocument_declaration_erase (d : Declaration) (ts : List Token) (h : LexOK false ts = true)
    (henc : ∀ e, d.encoding = some e → e.all isEncChar = true) :
    ∃ v e sa sp ts', lexDocument (d.bytes ++ renderTokens ts) =
        (.declaration ⟨['1', '.', '0'], v⟩ e sa sp :: ts', none) ∧
      ts'.map Token.erase = ts.map Token.erase ∧ tokensPrefixOk ts' = true := by
  obtain ⟨v, e, sa, sp, q, hl⟩ := lexDocument_declaration d ts h henc
  exact ⟨v, e, sa, sp, placeTokens q ts, hl, placeTokens_erase q ts, placeTokens_prefixOk ts q⟩

/-- **Fragment mode**: `parse_fragment` starts in element content, where `<?xml ` is an error: no token,
    the error at position 0. -/
theorem lexFragment_declaration (d : Declaration) (r : Str) :
    lexFragment (d.bytes ++ r) = ([], some 0) := by
  obtain ⟨x, hx⟩ := bytes_head d r
  unfold lexFragment
  simp only [Tokenizer.ofFragment, Stream.ofStr, hx]
  apply lexLoop_error _ rfl (by simp)
  simp [parseNextImpl, atEnd, litXmlDecl, curr?, next?, startsWith]

end XotModel
