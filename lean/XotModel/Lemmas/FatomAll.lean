/-
  C06 for every call of the mutating API at once (`Call.Ran`, `call_ran`, its consequences), and which error in which
  state (`Call.Ran.answer`, `call_answer`, `call_refusal_iff`).  The clauses for one call are in Lemmas/FatomC06.lean.
-/
import XotModel.Lemmas.FatomC06
import XotModel.Lemmas.FatomCloneNode
import XotModel.Model.FrefusalSpec

/-! ## C06 for every call of the mutating API at once (`Forest.Call`) -/

namespace XotModel
namespace Forest

theorem W_of_roots_eq {f g : Forest} (w : f.W) (hr : g.roots = f.roots) (hn : g.next = f.next) :
    g.W := by
  refine ⟨?_, ?_, ?_⟩
  · show (HTree.handlesList g.roots).Nodup; rw [hr]; exact w.nodup
  · rw [hr]; exact w.leaves
  · intro h hh
    have : h ∈ HTree.handlesList g.roots := hh
    rw [hr] at this
    rw [hn]; exact w.below h this

theorem removeInsignificantWhitespace_spec {f : Forest} (w : f.W) (n : Nat) :
    (f.removeInsignificantWhitespace n).W ∧
    (f.removeInsignificantWhitespace n).corrupt = f.corrupt := by
  unfold removeInsignificantWhitespace
  cases f.get? n with
  | none => exact ⟨w, rfl⟩
  | some t =>
    simp only
    have w0 : Forest.W { f with consolidation := false } := W_of_roots_eq w rfl rfl
    obtain ⟨h1, h2⟩ := foldRemove_ok id
      ((descendantsNormal t).filter f.isInsignificantWhitespace) f
      { f with consolidation := false } w0 rfl
    exact ⟨W_of_roots_eq h1 rfl rfl, h2⟩

/-- What the call `c` did in the state `f`: refused with the error its argument checks name and nothing
    changed (only calls without documented panic have argument checks); the documented panic of an
    element-only accessor and nothing changed; or carried out, with `corrupt` as it was. -/
def Call.Ran (f : Forest) (c : Call) : Prop :=
  match c.refusal f with
  | some e => c.documentedPanic f = false ∧ c.run f = (f, .err e)
  | none =>
    if c.documentedPanic f then c.run f = (f, .panic)
    else (c.run f).2 = .ok ∧ (c.run f).1.corrupt = f.corrupt

theorem OkRes.done {f : Forest} {r : Forest × Res} (m : OkRes f r) : r.2 = .ok ∧ r.1.corrupt = f.corrupt :=
  ⟨m.ok, m.corrupt⟩

theorem MoveOk.done {f : Forest} {r : Forest × Res} {c : Nat} (m : MoveOk f r c) :
    r.2 = .ok ∧ r.1.corrupt = f.corrupt :=
  ⟨m.ok, m.corrupt⟩

/-- A call without documented panic whose checks are the condition `b`: `R` is what its `*_run` lemma
    says of the refusal, `D` of the accepted call. -/
theorem Call.ran_of_refused {f : Forest} {c : Call} {b : Bool} {e : XotError} {R D : Prop}
    (hr : c.refusal f = if b then some e else none) (hp : c.documentedPanic f = false)
    (h : if b then R else D) (hR : R → c.run f = (f, .err e))
    (hD : D → (c.run f).2 = .ok ∧ (c.run f).1.corrupt = f.corrupt) : c.Ran f := by
  unfold Call.Ran
  rw [hr, hp]
  cases b with
  | true => exact ⟨rfl, hR h⟩
  | false => exact hD h

theorem Call.ran_of_check {f : Forest} {c : Call} {b : Bool} {e : XotError} {R D : Prop}
    (hr : c.refusal f = if b then none else some e) (hp : c.documentedPanic f = false)
    (h : if b then D else R) (hR : R → c.run f = (f, .err e))
    (hD : D → (c.run f).2 = .ok ∧ (c.run f).1.corrupt = f.corrupt) : c.Ran f := by
  unfold Call.Ran
  rw [hr, hp]
  cases b with
  | true => exact hD h
  | false => exact ⟨rfl, hR h⟩

theorem Call.ran_of_refusal {f : Forest} {c : Call} {R : XotError → Prop} {D : Prop}
    (hp : c.documentedPanic f = false)
    (h : match c.refusal f with
      | some e => R e
      | none => D)
    (hR : ∀ e, R e → c.run f = (f, .err e))
    (hD : D → (c.run f).2 = .ok ∧ (c.run f).1.corrupt = f.corrupt) : c.Ran f := by
  unfold Call.Ran
  rw [hp]
  cases hr : c.refusal f with
  | some e => rw [hr] at h; exact ⟨rfl, hR e h⟩
  | none => rw [hr] at h; exact hD h

theorem Call.ran_of_elementOnly {f : Forest} {c : Call} {n : Nat} (hr : c.refusal f = none)
    (hp : c.documentedPanic f = !f.isElement n)
    (h : (f.isElement n = false ∧ c.run f = (f, .panic)) ∨ (f.isElement n = true ∧ OkRes f (c.run f))) :
    c.Ran f := by
  unfold Call.Ran
  rw [hr, hp]
  rcases h with ⟨h1, h2⟩ | ⟨h1, h2⟩
  · rw [h1]; exact h2
  · rw [h1]; exact h2.done

/-- **What every call on live arguments did**, in a forest with the invariant. -/
theorem call_ran {f : Forest} (hi : f.Inv) (c : Call) (hl : c.liveArgs f) : c.Ran f := by
  have w := hi.toW
  cases c with
  | append p c => exact Call.ran_of_check rfl rfl (append_run w p c) id MoveOk.done
  | prepend p c => exact Call.ran_of_check rfl rfl (prepend_run w p c) id MoveOk.done
  | insertAfter r n => exact Call.ran_of_check rfl rfl (insertAfter_run w r n) id MoveOk.done
  | insertBefore r n => exact Call.ran_of_check rfl rfl (insertBefore_run w r n) id MoveOk.done
  | detach n => exact (detach_ok w n).done
  | remove n => exact (remove_ok w n).done
  | replace a b => exact Call.ran_of_refused rfl rfl (replace_run w a b) id OkRes.done
  | elementWrap n name =>
    exact Call.ran_of_refused rfl rfl (elementWrap_run w n name) (fun h => Prod.ext h.1 h.2) OkRes.done
  | elementUnwrap n => exact Call.ran_of_refused rfl rfl (elementUnwrap_run hi n) id OkRes.done
  | cloneNode n =>
    obtain ⟨h1, h2⟩ := cloneNode_spec hi (hl n (List.mem_singleton.2 rfl))
    show (if (f.cloneNode n).2.isSome then Res.ok else .panic) = .ok ∧ (f.cloneNode n).1.corrupt = f.corrupt
    rw [h2, hi.notCorrupt]
    cases h : (f.cloneNode n).2 with
    | none => exact absurd h h1
    | some _ => exact ⟨rfl, rfl⟩
  | anyAppend p c =>
    exact Call.ran_of_refusal rfl
      (anyAppend_run w p c (hl c (List.mem_cons_of_mem _ (List.mem_singleton.2 rfl))))
      (fun _ h => Prod.ext h.1 h.2) OkRes.done
  | appendEntryNode k p c =>
    exact Call.ran_of_refused rfl rfl
      (appendEntryNode_run w k p c (hl c (List.mem_cons_of_mem _ (List.mem_singleton.2 rfl))))
      (fun h => Prod.ext h.1 h.2) OkRes.done
  | mapInsert k p e => exact Call.ran_of_elementOnly rfl rfl (mapInsert_outcome w k p e)
  | mapRemove k p key => exact Call.ran_of_elementOnly rfl rfl (mapRemove_outcome w k p key)
  | mapClear k p => exact Call.ran_of_elementOnly rfl rfl (mapClear_outcome w k p)
  | setElementName n name => exact Call.ran_of_elementOnly rfl rfl (setElementName_outcome w n name)
  | setText n s => exact Call.ran_of_check rfl rfl (setText_run w n s) id OkRes.done
  | setComment n s => exact Call.ran_of_refusal rfl (setComment_run w n s) (fun _ h => h) OkRes.done
  | setPiData n d => exact Call.ran_of_refusal rfl (setPiData_run w n d) (fun _ h => h) OkRes.done
  | textContentSet n s => exact Call.ran_of_refused rfl rfl (textContentSet_run w n s) id OkRes.done

namespace Call.Ran
variable {f : Forest} {c : Call}

theorem atomic (h : c.Ran f) {e : XotError} (he : (c.run f).2 = .err e) : (c.run f).1 = f := by
  unfold Call.Ran at h
  split at h
  · rw [h.2]
  · split at h
    · rw [h]
    · rw [h.1] at he; cases he

theorem panic (h : c.Ran f) (hp : (c.run f).2 = .panic) : c.documentedPanic f = true ∧ (c.run f).1 = f := by
  unfold Call.Ran at h
  split at h
  · rw [h.2] at hp; cases hp
  · split at h
    · next hd => exact ⟨hd, by rw [h]⟩
    · rw [h.1] at hp; cases hp

theorem panics (h : c.Ran f) (hd : c.documentedPanic f = true) : c.run f = (f, .panic) := by
  unfold Call.Ran at h
  split at h
  · rw [h.1] at hd; cases hd
  · rw [if_pos hd] at h; exact h

theorem corrupt (h : c.Ran f) : (c.run f).1.corrupt = f.corrupt := by
  unfold Call.Ran at h
  split at h
  · rw [h.2]
  · split at h
    · rw [h]
    · exact h.2

end Call.Ran

end Forest
end XotModel

/-! ## Which error a call answers in which state (`Call.refusal`, Model/FrefusalSpec.lean) -/

namespace XotModel
namespace Forest

namespace Call.Ran
variable {f : Forest} {c : Call}

theorem answer (h : c.Ran f) : (c.run f).2 = c.answer f := by
  unfold Call.Ran at h
  unfold Call.answer
  split at h
  · next hr => rw [h.2, hr]
  · next hr =>
    rw [hr]
    split at h
    · next hd => rw [h, if_pos hd]
    · next hd => rw [h.1, if_neg hd]

theorem refusal_iff (h : c.Ran f) (e : XotError) : (c.run f).2 = .err e ↔ c.refusal f = some e := by
  rw [h.answer]
  unfold Call.answer
  cases c.refusal f with
  | some e' => simp
  | none => cases c.documentedPanic f <;> simp

end Call.Ran

/-- **The outcome of every call on live arguments**, read off the state and the arguments. -/
theorem call_answer {f : Forest} (hi : f.Inv) (c : Call) (hl : c.liveArgs f) :
    (c.run f).2 = c.answer f :=
  (call_ran hi c hl).answer

theorem call_refusal_iff {f : Forest} (hi : f.Inv) (c : Call) (hl : c.liveArgs f) (e : XotError) :
    (c.run f).2 = .err e ↔ c.refusal f = some e :=
  (call_ran hi c hl).refusal_iff e

end Forest
end XotModel
