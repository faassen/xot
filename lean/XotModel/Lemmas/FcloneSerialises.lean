/-
  Lemmas for C12: `Forest.serialises` (the `writableTree` recursion of Model/FcloneModel.lean)
  against the serialiser itself: `writableTree env s n` holds exactly when `serNode` (the token list
  `to_string` renders, Model/SerTokens.lean) succeeds from the stack `s`; so for a parentless node
  `writableTree … (FStack.new (namespaces_in_scope node)) node` is "`to_string(node)` succeeds".
-/
import XotModel.Lemmas.FclonePrefixStack
import XotModel.Lemmas.RoundTripElement

namespace XotModel
open XotModel.Repair

variable {env : Env}

theorem fcs_elementFullname (s : FStack) (name : Nat) :
    fcIsOk (s.elementFullname env name) = exceptIsOk (s.elementPrefix env name) := by
  rw [fcIsOk_eq, exceptIsOk_elementFullname, exceptIsOk_elementPrefix]

theorem fcs_attrs (s : FStack) (as : List (Nat × Str)) :
    (as.map (·.1)).all (fun a => fcIsOk (s.attributeFullname env a)) = exceptIsOk (attrTokens env s as) := by
  rw [exceptIsOk_attrTokens]
  congr 1
  funext a
  rw [fcIsOk_eq, exceptIsOk_attributeFullname]

mutual
/-- `serNode` succeeds exactly when `writableTree` says so: every tree, every stack, start node or
    not, `unescaped_gt` on or off. -/
theorem serNode_ok_writable (ugt : Bool) (inScope : List (Nat × Nat)) (isTop : Bool) (n : Tree) (s : FStack) :
    exceptIsOk (serNode env ugt inScope isTop s n) = writableTree env s n := by
  cases n with
  | node v ks =>
    have hk := serKids_ok_writable ugt inScope ks s
    cases v with
    | document => simpa [serNode, writableTree] using hk
    | «attribute» a b => simpa [serNode, writableTree] using hk
    | «namespace» a b => simpa [serNode, writableTree] using hk
    | text str =>
      rw [serNode, exceptIsOk_appendOk, hk]
      simp [writableTree, exceptIsOk]
    | comment str =>
      rw [serNode, exceptIsOk_appendOk, hk]
      simp [writableTree, exceptIsOk]
    | pi target data =>
      rw [serNode]
      by_cases h0 : (env.namespaceStr (env.nsOfName target)).isEmpty = true
      · simp only [h0, Bool.not_true, Bool.false_eq_true, if_false]
        rw [exceptIsOk_appendOk, hk]
        simp [writableTree, exceptIsOk, h0]
      · have h0' : (env.namespaceStr (env.nsOfName target)).isEmpty = false := by simpa using h0
        simp [writableTree, exceptIsOk, h0']
    | element name =>
      have hk' := serKids_ok_writable ugt inScope ks (s.push (Tree.node (.element name) ks).nsDecls)
      have he := fcs_elementFullname (env := env) (s.push (Tree.node (.element name) ks).nsDecls) name
      have ha := fcs_attrs (env := env) (s.push (Tree.node (.element name) ks).nsDecls)
        (Tree.node (.element name) ks).attrs
      simp only [writableTree, he, ha, ← hk']
      rw [serNode]
      by_cases hc : (env.nsOfName name == Env.noNamespace &&
          (s.push (Tree.node (.element name) ks).nsDecls).hasDefaultNamespace) = true
      · simp [hc, exceptIsOk]
      · have hc' : (env.nsOfName name == Env.noNamespace &&
            (s.push (Tree.node (.element name) ks).nsDecls).hasDefaultNamespace) = false := by
          simpa using hc
        simp only [hc', Bool.false_eq_true, if_false, Bool.not_false, Bool.true_and]
        cases h1 : (s.push (Tree.node (.element name) ks).nsDecls).elementPrefix env name with
        | error e => simp [exceptIsOk]
        | ok p =>
          cases h2 : attrTokens env (s.push (Tree.node (.element name) ks).nsDecls)
              (Tree.node (.element name) ks).attrs with
          | error e => simp [exceptIsOk]
          | ok ats =>
            cases h3 : serNode.serKids env ugt inScope (s.push (Tree.node (.element name) ks).nsDecls) ks with
            | error e => simp [exceptIsOk]
            | ok content => simp [exceptIsOk]

theorem serKids_ok_writable (ugt : Bool) (inScope : List (Nat × Nat)) (ks : List Tree) (s : FStack) :
    exceptIsOk (serNode.serKids env ugt inScope s ks) = writableList env s ks := by
  cases ks with
  | nil => simp [serNode.serKids, writableList, exceptIsOk]
  | cons k ks =>
    rw [serNode.serKids, exceptIsOk_appendOk, serNode_ok_writable ugt inScope false k s,
      serKids_ok_writable ugt inScope ks s]
    simp [writableList]
end

/-- For a parentless node: `serTokensAt` at the root succeeds iff `writableTree` from the stack
    `XmlSerializer::new` builds (`namespaces_in_scope(node)`). -/
theorem serTokensAt_root_ok (ugt : Bool) (t : Tree) :
    exceptIsOk (serTokensAt env ugt t []) =
      writableTree env (FStack.new (namespacesInScopeChain [t])) t := by
  simp only [serTokensAt, Tree.at?, namespacesInScope, Tree.ancestorsOrSelf, Option.map_some]
  exact serNode_ok_writable ugt _ true t _

/-- **`writableTree` is "`to_string(node)` succeeds"** for a parentless node, in every table set in
    which `xml` and the declared prefixes have a spelling (`declsNamed`; implied by `nodeOK`). -/
theorem serializeString_root_ok_iff (pr : TokenParams) (hcd : pr.cdataSectionElements = []) (t : Tree)
    (hx : env.prefixStr Env.xmlPrefix ≠ []) (ht : t.allNodes (declsNamed env) = true) :
    (∃ s, serializeString env pr t [] = .ok s) ↔
      writableTree env (FStack.new (namespacesInScopeChain [t])) t = true := by
  show (∃ s, serializeStringWith xmlEscapers env pr t [] = .ok s) ↔ _
  rw [serializeString_serTokensAt env pr t hcd [] hx ht, ← serTokensAt_root_ok (env := env) pr.unescapedGt t]
  cases serTokensAt env pr.unescapedGt t [] <;> simp [exceptIsOk]

end XotModel
