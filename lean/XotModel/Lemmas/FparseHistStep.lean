/-
  The tree an accepted parse installs is valid (from `SoundAt` of the erased tree back to
  `validTree`), and one step and whole histories of `PCall` (Model/FparseHist.lean): invariant, no
  re-use of handles, the C06 clauses, the embedded histories, the xml:id index.
-/
import XotModel.Lemmas.ReachNode
import XotModel.Lemmas.ParseSound
import XotModel.Lemmas.FinvIdIndex
import XotModel.Model.FparseHist
import XotModel.Lemmas.FparseRoute
import XotModel.Lemmas.BasicFacts
import XotModel.Lemmas.FhistAtomic
import XotModel.Lemmas.FhistExt
import XotModel.Lemmas.ParseNoPanic
import XotModel.Lemmas.LexSlice

/-! ## The CONVERSE of the bridge of Lemmas/ReachNode.lean, and the tree an accepted parse installs.

`Reach.forall_erase` turns the tree clause `validTree` of the forest invariant into `Tree.Forall` facts
about the erased tree.  Here the other direction: a handle tree whose erasure satisfies `SoundAt`
(Lemmas/ParseSound.lean: ordered children, kind rules, no adjacent text, unique attribute names and
prefixes — what `C03_sound` proves of every accepted tree) at every node is `validTree`, strictly.
With `erase (ofTree n t) = t`: the tree `IdStore.parseInto` installs for an accepted text is valid
(`fph_parseOK_build`): the hypothesis `IdStore.parseOK` of `C04_parse_inv` / `C04_reach_parse` is a theorem. -/

namespace XotModel
open HTree

/-! ### The local clauses, from the erased tree back to the handle tree -/

theorem fph_kidsOrdered_of_erase : ∀ ks : List HTree, OrderedKids (eraseList ks) → kidsOrdered ks = true
  | [], _ => rfl
  | [_], _ => rfl
  | a :: b :: ks, h => by
    unfold OrderedKids at h
    simp only [eraseList, List.pairwise_cons] at h
    have hab := h.1 (erase b) (List.mem_cons_self ..)
    rw [Reach.erase_value, Reach.erase_value, Reach.phase_eq_rank, Reach.phase_eq_rank] at hab
    have ih := fph_kidsOrdered_of_erase (b :: ks) (by
      unfold OrderedKids; simp only [eraseList, List.pairwise_cons]; exact h.2)
    simp only [kidsOrdered, Bool.and_eq_true, decide_eq_true_eq]
    exact ⟨hab, ih⟩

theorem fph_mem_eraseList {ks : List HTree} {k : HTree} (h : k ∈ ks) : erase k ∈ eraseList ks := by
  rw [eraseList_map]; exact List.mem_map_of_mem h

theorem fph_kidAllowed_of_erase {v : Value} {ks : List HTree} (h : KindsOk v (eraseList ks)) :
    ∀ k ∈ ks, kidAllowed v k.value = true := by
  intro k hk
  obtain ⟨h1, h2, h3⟩ := h
  have hm := fph_mem_eraseList hk
  have hd := h3 _ hm
  rw [Reach.erase_value] at hd
  cases v with
  | element n => simp [kidAllowed, hd]
  | document =>
    have hn := h2 rfl _ hm
    rw [Reach.erase_value] at hn
    simp [kidAllowed, hd, hn]
  | _ => have := h1 rfl; rw [this] at hm; cases hm

theorem fph_keysUnique_of_erase {ks : List HTree} (h : UniqueKids (eraseList ks)) :
    keysUnique .attribute ks = true ∧ keysUnique .namespace ks = true := by
  obtain ⟨ha, hn⟩ := h
  rw [Reach.attrNames_eraseList] at ha
  rw [Reach.nsPrefixes_eraseList] at hn
  exact ⟨by simpa [keysUnique] using ha, by simpa [keysUnique] using hn⟩

/-! ### The converse bridge -/

mutual
  /-- A handle tree whose erasure is sound at every node is valid — strictly: `SoundAt` has the
      no-adjacent-text clause, so the flag does not matter. -/
  theorem fph_validTree_of_erase (b : Bool) : ∀ r : HTree, (erase r).Forall SoundAt → validTree b r = true
    | .node h v ks => by
      intro hs
      simp only [erase] at hs
      rw [Tree.Forall] at hs
      obtain ⟨⟨ho, hk, hadj, hu⟩, hl⟩ := hs
      have hU := fph_keysUnique_of_erase hu
      have hA : ks.all (fun k => kidAllowed v k.value) = true :=
        List.all_eq_true.mpr (fph_kidAllowed_of_erase hk)
      have hN : noAdjacentText ks = true := by rw [← Reach.noAdjText_eraseList]; exact hadj
      simp only [validTree, Bool.and_eq_true, Bool.or_eq_true]
      exact ⟨⟨⟨⟨⟨hA, fph_kidsOrdered_of_erase ks ho⟩, hU.1⟩, hU.2⟩, Or.inr hN⟩,
        fph_validList_of_erase b ks hl⟩
  theorem fph_validList_of_erase (b : Bool) : ∀ ks : List HTree,
      Tree.Forall.forallList SoundAt (eraseList ks) → validList b ks = true
    | [] => fun _ => rfl
    | k :: ks => by
      intro hs
      simp only [eraseList, Tree.Forall.forallList] at hs
      simp only [validList, Bool.and_eq_true]
      exact ⟨fph_validTree_of_erase b k hs.1, fph_validList_of_erase b ks hs.2⟩
end

theorem fph_validTree_ofTree (b : Bool) (n : Nat) (t : Tree) (h : t.Forall SoundAt) :
    validTree b (ofTree n t) = true :=
  fph_validTree_of_erase b _ (by rw [fph_erase_ofTree]; exact h)

/-- **`IdStore.parseOK` is a theorem for the trees the builder returns**, from any token list. -/
theorem fph_parseOK_build (s : IdStore) {m : Mode} {len : Nat} {env : Env} {ts : List Token}
    {lexErr : Option Nat} {p : Parsed} (h : build m len env ts lexErr = .ok p) : s.parseOK p.tree :=
  fph_validTree_ofTree _ _ _ (build_sound h).1

theorem fph_parsed_document {m : Mode} {env : Env} {text : Str} {p : Parsed}
    (h : parseString m env text = .ok p) : p.tree.value = .document :=
  (build_sound h).2

end XotModel

/-! ## One step and whole histories of `PCall`

The invariant holds for every well-kinded step, API call or parse of any text.  The xml:id index is followed here
without the uniqueness of its keys (Lemmas/FparseHistIds.lean). -/

namespace XotModel
open HTree

namespace PStore

/-! ### Unfolding one step -/

theorem fph_step_api (s : PStore) (c : Forest.XCall) :
    s.step (.api c) = ⟨(s.store.xstep c).forest, (s.store.xstep c).env, s.index⟩ := rfl

theorem fph_store_step_api (s : PStore) (c : Forest.XCall) : (s.step (.api c)).store = s.store.xstep c := rfl

theorem fph_index_step_api (s : PStore) (c : Forest.XCall) : (s.step (.api c)).index = s.index := rfl

theorem fph_idStore_eta (s : PStore) : (⟨s.forest, s.index⟩ : IdStore) = s.idStore := rfl

theorem fph_run_parse_ok (s : PStore) {m : Mode} {text : Str} {p : Parsed}
    (h : parseString m s.env text = .ok p) :
    (PCall.parse m text).run s =
      (⟨(s.idStore.parseInto p.tree).1.forest, p.env, (s.idStore.parseInto p.tree).1.index⟩,
       .parsed (s.idStore.parseInto p.tree).2) := by
  simp only [PCall.run, h]

theorem fph_run_parse_err (s : PStore) {m : Mode} {text : Str} {e : ParseErr} {env' : Env}
    (h : parseString m s.env text = .err e env') :
    (PCall.parse m text).run s = ({ s with env := env' }, .rejected e) := by
  simp only [PCall.run, h]

theorem fph_step_parse_ok (s : PStore) {m : Mode} {text : Str} {p : Parsed}
    (h : parseString m s.env text = .ok p) :
    s.step (.parse m text) =
      ⟨(s.idStore.parseInto p.tree).1.forest, p.env, (s.idStore.parseInto p.tree).1.index⟩ := by
  unfold step; rw [fph_run_parse_ok s h]

theorem fph_step_parse_err (s : PStore) {m : Mode} {text : Str} {e : ParseErr} {env' : Env}
    (h : parseString m s.env text = .err e env') : s.step (.parse m text) = { s with env := env' } := by
  unfold step; rw [fph_run_parse_err s h]

/-- The parser does not panic (`C03_string_nopanic`). -/
theorem fph_parseString_cases (m : Mode) (env : Env) (text : Str) :
    (∃ p, parseString m env text = .ok p) ∨ (∃ e env', parseString m env text = .err e env') := by
  cases h : parseString m env text with
  | ok p => exact Or.inl ⟨p, rfl⟩
  | err e env' => exact Or.inr ⟨e, env', rfl⟩
  | panic =>
    exfalso
    unfold parseString at h
    have hs : TokenShape (strLen text) (lexMode m text).1 (lexMode m text).2 := by
      cases m
      · exact lexDocument_shape text
      · exact lexFragment_shape text
    exact build_np m (strLen text) env _ _ hs.tags h

/-- What a parse step does to the forest and the index: nothing, or `parseInto` of an accepted tree. -/
theorem fph_step_parse_cases (s : PStore) (m : Mode) (text : Str) :
    (∃ p, parseString m s.env text = .ok p ∧
      (s.step (.parse m text)).idStore = (s.idStore.parseInto p.tree).1 ∧ (s.step (.parse m text)).env = p.env) ∨
    (∃ e env', parseString m s.env text = .err e env' ∧
      (s.step (.parse m text)).idStore = s.idStore ∧ (s.step (.parse m text)).env = env') := by
  rcases fph_parseString_cases m s.env text with ⟨p, h⟩ | ⟨e, env', h⟩
  · exact Or.inl ⟨p, h, by rw [fph_step_parse_ok s h]; rfl, by rw [fph_step_parse_ok s h]⟩
  · exact Or.inr ⟨e, env', h, by rw [fph_step_parse_err s h]; rfl, by rw [fph_step_parse_err s h]⟩

/-! ### The invariant -/

/-- **One step keeps the forest invariant**: an API call (`Store.xstep_inv`) or the parse of any text
    — the tree an accepted text installs is valid (`fph_parseOK_build`), a rejected one installs nothing. -/
theorem fph_step_inv {s : PStore} (hi : s.forest.Inv) (c : PCall) (hw : c.wellKinded) :
    (s.step c).forest.Inv := by
  cases c with
  | api c => exact Store.xstep_inv (s := s.store) hi c hw
  | parse m text =>
    rcases fph_step_parse_cases s m text with ⟨p, h, h1, _⟩ | ⟨e, env', _, h1, _⟩
    · have : (s.step (.parse m text)).forest = (s.idStore.parseInto p.tree).1.forest := congrArg IdStore.forest h1
      rw [this]
      exact IdStore.inv_parseInto (s := s.idStore) hi p.tree (fph_parseOK_build s.idStore h)
    · have : (s.step (.parse m text)).forest = s.forest := congrArg IdStore.forest h1
      rw [this]; exact hi

theorem fph_run_cons (s : PStore) (c : PCall) (cs : List PCall) : s.run (c :: cs) = (s.step c).run cs := rfl

theorem fph_run_append (s : PStore) (cs ds : List PCall) : s.run (cs ++ ds) = (s.run cs).run ds := by
  unfold run; rw [List.foldl_append]

/-- **Every history keeps the invariant.** -/
theorem fph_run_inv : ∀ (cs : List PCall) {s : PStore}, s.forest.Inv → (∀ c ∈ cs, c.wellKinded) →
    (s.run cs).forest.Inv
  | [], _, hi, _ => hi
  | c :: cs, s, hi, hw =>
    fph_run_inv cs (s := s.step c) (fph_step_inv hi c (hw c List.mem_cons_self)) (fun c' h' => hw c' (List.mem_cons_of_mem _ h'))

theorem fph_init_inv (env : Env) : (init env).forest.Inv := (Forest.inv_iff Forest.init).mp (by decide)

/-! ### Handles are never reused -/

theorem fph_step_le (s : PStore) (c : PCall) : Forest.Le s.forest (s.step c).forest := by
  cases c with
  | api c => exact Forest.le_xcall s.store c
  | parse m text =>
    rcases fph_step_parse_cases s m text with ⟨p, _, h1, _⟩ | ⟨e, env', _, h1, _⟩
    · have : (s.step (.parse m text)).forest = (s.idStore.parseInto p.tree).1.forest := congrArg IdStore.forest h1
      rw [this]; exact IdStore.le_parseInto s.idStore p.tree
    · have : (s.step (.parse m text)).forest = s.forest := congrArg IdStore.forest h1
      rw [this]; exact Forest.Le.refl _

theorem fph_run_le : ∀ (cs : List PCall) (s : PStore), Forest.Le s.forest (s.run cs).forest
  | [], s => Forest.Le.refl _
  | c :: cs, s => Forest.Le.trans (fph_step_le s c) (fph_run_le cs (s.step c))

/-! ### C06: a refusal changes nothing -/

theorem fph_api_refused (s : PStore) (c : Forest.XCall) (e : XotError) (hi : s.forest.Inv)
    (hl : c.liveArgs s.forest) (h : ((PCall.api c).run s).2 = .api (.err e)) : ((PCall.api c).run s).1 = s := by
  have h' : (c.run s.store).2 = .err e := by
    simp only [PCall.run] at h; injection h
  have hs : (c.run s.store).1 = s.store := by
    rcases Forest.xcall_clauses (s := s.store) hi c hl with ⟨_, hc⟩ | ⟨_, hc⟩
    · exact hc.atomic e h'
    · rw [hc]
  show (⟨(c.run s.store).1.forest, (c.run s.store).1.env, s.index⟩ : PStore) = s
  rw [hs]; rfl

theorem fph_api_panic (s : PStore) (c : Forest.XCall) (hi : s.forest.Inv)
    (hl : c.liveArgs s.forest) (h : ((PCall.api c).run s).2 = .api .panic) :
    c.documentedPanic s.forest = true ∧ ((PCall.api c).run s).1 = s := by
  have h' : (c.run s.store).2 = .panic := by
    simp only [PCall.run] at h; injection h
  rcases Forest.xcall_clauses (s := s.store) hi c hl with ⟨_, hc⟩ | ⟨h1, hc⟩
  · exact absurd h' hc.noPanic
  · refine ⟨h1, ?_⟩
    show (⟨(c.run s.store).1.forest, (c.run s.store).1.env, s.index⟩ : PStore) = s
    rw [hc]; rfl

theorem fph_parse_rejected (s : PStore) (m : Mode) (text : Str) (e : ParseErr)
    (h : ((PCall.parse m text).run s).2 = .rejected e) :
    ∃ env', parseString m s.env text = .err e env' ∧ ((PCall.parse m text).run s).1 = { s with env := env' } := by
  rcases fph_parseString_cases m s.env text with ⟨p, hp⟩ | ⟨e', env', hp⟩
  · rw [fph_run_parse_ok s hp] at h; cases h
  · rw [fph_run_parse_err s hp] at h ⊢
    cases h
    exact ⟨env', hp, rfl⟩

/-- A parse step never answers a panic. -/
theorem fph_parse_not_panic (s : PStore) (m : Mode) (text : Str) :
    ¬ (∃ r, ((PCall.parse m text).run s).2 = r ∧ match r with | .parsePanic => True | _ => False) := by
  rintro ⟨r, hr, hm⟩
  rcases fph_parseString_cases m s.env text with ⟨p, hp⟩ | ⟨e', env', hp⟩
  · rw [fph_run_parse_ok s hp] at hr; subst hr; exact hm
  · rw [fph_run_parse_err s hp] at hr; subst hr; exact hm

/-- **Any refused step** (API error, rejected text) leaves forest and index as they were. -/
theorem fph_refused (s : PStore) (c : PCall) (hi : s.forest.Inv) (hl : c.liveArgs s.forest)
    (h : PCall.refused (c.run s).2) : (c.run s).1.forest = s.forest ∧ (c.run s).1.index = s.index := by
  cases c with
  | api c =>
    have hr : ((PCall.api c).run s).2 = .api (c.run s.store).2 := rfl
    rw [hr] at h
    cases hx : (c.run s.store).2 with
    | err e => rw [fph_api_refused s c e hi hl (by rw [hr, hx])]; exact ⟨rfl, rfl⟩
    | ok => rw [hx] at h; exact h.elim
    | panic => rw [hx] at h; exact h.elim
  | parse m text =>
    cases hr : ((PCall.parse m text).run s).2 with
    | rejected e =>
      obtain ⟨env', _, h2⟩ := fph_parse_rejected s m text e hr
      rw [h2]; exact ⟨rfl, rfl⟩
    | api r =>
      exfalso
      rcases fph_parseString_cases m s.env text with ⟨p, hp⟩ | ⟨e', env', hp⟩
      · rw [fph_run_parse_ok s hp] at hr; cases hr
      · rw [fph_run_parse_err s hp] at hr; cases hr
    | parsed d => rw [hr] at h; exact h.elim
    | parsePanic => rw [hr] at h; exact h.elim

/-! ### The histories of `Store.xrun` and of `IdStore.run` embed -/

theorem fph_run_api : ∀ (cs : List Forest.XCall) (s : PStore),
    (s.run (cs.map .api)).store = s.store.xrun cs ∧ (s.run (cs.map .api)).index = s.index
  | [], _ => ⟨rfl, rfl⟩
  | c :: cs, s => by
    have ih := fph_run_api cs (s.step (.api c))
    rw [List.map_cons, fph_run_cons]
    exact ⟨ih.1, ih.2⟩

theorem fph_forest_run_api (cs : List Forest.XCall) (s : PStore) :
    (s.run (cs.map .api)).forest = (s.store.xrun cs).forest := congrArg Store.forest (fph_run_api cs s).1

theorem fph_env_run_api (cs : List Forest.XCall) (s : PStore) :
    (s.run (cs.map .api)).env = (s.store.xrun cs).env := congrArg Store.env (fph_run_api cs s).1

/-- A call of the parser histories (`IdOp.call`) is the step `PCall.ofOp`. -/
theorem fph_idStore_step_ofOp (s : PStore) (o : Op) : (s.step (.ofOp o)).idStore = s.idStore.step (.call o) := by
  show (⟨(s.store.xstep (.ofOp o)).forest, s.index⟩ : IdStore) = ⟨s.forest.step o, s.index⟩
  rw [Store.xstep_ofOp]
  rfl

/-- The parse of an accepted text is the step `IdOp.parse` of its tree (when the tree has no
    duplicate ID — Lemmas/FparseHistIds.lean: always, on well-formed tables). -/
theorem fph_idStore_step_parse (s : PStore) {m : Mode} {text : Str} {p : Parsed}
    (h : parseString m s.env text = .ok p) (hn : (Tree.idValues p.tree).Nodup) :
    (s.step (.parse m text)).idStore = s.idStore.step (.parse p.tree) := by
  rw [fph_step_parse_ok s h]
  show _ = (s.idStore.parse p.tree).1
  unfold IdStore.parse
  rw [if_pos hn]
  rfl

/-! ### The xml:id index along histories (keys and entries were handed out earlier) -/

/-- Keys and entries of the index are handles handed out earlier. -/
def fphIndexBelow (s : PStore) : Prop := ∀ e ∈ s.index, e.1.1 < s.forest.next ∧ e.2 < s.forest.next

theorem fph_indexBelow_init (env : Env) : (init env).fphIndexBelow := fun _ he => (by cases he)

theorem fph_indexBelow_parseInto {s : IdStore} (hw : ∀ e ∈ s.index, e.1.1 < s.forest.next ∧ e.2 < s.forest.next)
    (t : Tree) : ∀ e ∈ (s.parseInto t).1.index,
      e.1.1 < (s.parseInto t).1.forest.next ∧ e.2 < (s.parseInto t).1.forest.next := by
  have hpos := Tree.size_pos t
  intro e he
  rw [IdStore.parseInto_next]
  have he' : e ∈ s.index.filter (fun e => e.1.1 != s.forest.next) ++
      (idEntries (ofTree s.forest.next t)).map (fun e => ((s.forest.next, e.1), e.2)) := he
  rw [List.mem_append] at he'
  rcases he' with he' | he'
  · have := hw e (List.mem_filter.mp he').1
    omega
  · rw [List.mem_map] at he'
    obtain ⟨a, ha, rfl⟩ := he'
    have := handles_ofTree s.forest.next t a.2 (idEntries_mem_handles _ a ha)
    simp only
    omega

theorem fph_indexBelow_step {s : PStore} (hw : s.fphIndexBelow) (c : PCall) : (s.step c).fphIndexBelow := by
  cases c with
  | api c =>
    intro e he
    have := hw e he
    have hn := (fph_step_le s (.api c)).next
    exact ⟨Nat.lt_of_lt_of_le this.1 hn, Nat.lt_of_lt_of_le this.2 hn⟩
  | parse m text =>
    rcases fph_parseString_cases m s.env text with ⟨p, hp⟩ | ⟨e', env', hp⟩
    · rw [fph_step_parse_ok s hp]
      exact fph_indexBelow_parseInto (s := s.idStore) hw p.tree
    · rw [fph_step_parse_err s hp]; exact hw

theorem fph_indexBelow_run : ∀ (cs : List PCall) {s : PStore}, s.fphIndexBelow → (s.run cs).fphIndexBelow
  | [], _, hw => hw
  | c :: cs, _, hw => fph_indexBelow_run cs (fph_indexBelow_step hw c)

/-- The index is only written for the document node a parse creates: entries of existing documents
    are never rewritten. -/
theorem fph_lookup_step (s : PStore) (c : PCall) (d : Nat) (v : Str) (hd : d < s.forest.next) :
    (s.step c).idStore.lookup d v = s.idStore.lookup d v := by
  cases c with
  | api c => rfl
  | parse m text =>
    rcases fph_step_parse_cases s m text with ⟨p, _, h1, _⟩ | ⟨e, env', _, h1, _⟩
    · rw [h1]; exact IdStore.lookup_parseInto_other s.idStore p.tree d v (Nat.ne_of_lt hd)
    · rw [h1]

theorem fph_lookup_run : ∀ (cs : List PCall) (s : PStore) (d : Nat) (v : Str), d < s.forest.next →
    (s.run cs).idStore.lookup d v = s.idStore.lookup d v
  | [], _, _, _, _ => rfl
  | c :: cs, s, d, v, hd => by
    rw [fph_run_cons, fph_lookup_run cs (s.step c) d v (Nat.lt_of_lt_of_le hd (fph_step_le s c).next),
      fph_lookup_step s c d v hd]

/-- `xml_id_node` along histories: as long as the element is not removed the answer stays; once it
    is removed the answer is `none` for ever (the index invariant `fphIndexBelow` of the start state is
    what every reachable state has). -/
theorem fph_xmlIdNode_stable (s : PStore) (hw : s.fphIndexBelow) (cs : List PCall) (doc h : Nat) (v : Str)
    (hx : s.xmlIdNode doc v = some h) :
    ((s.run cs).forest.isRemoved h = false → (s.run cs).xmlIdNode doc v = some h) ∧
    ((s.run cs).forest.isRemoved h = true → ∀ more : List PCall, ((s.run cs).run more).xmlIdNode doc v = none) := by
  have hl := ((IdStore.xmlIdNode_eq_some_iff s.idStore doc v h).mp hx).1
  have hlt : doc < s.forest.next ∧ h < s.forest.next := hw _ (lookup_mem hl)
  constructor
  · intro hr
    have hn := (fph_run_le cs s).next
    show (s.run cs).idStore.xmlIdNode doc v = some h
    rw [IdStore.xmlIdNode_of_lookup _ _ _ h ((fph_lookup_run cs s doc v hlt.1).trans hl)]
    have : (s.run cs).idStore.forest.isLive h = true := by
      show (s.run cs).forest.isLive h = true
      cases hlv : (s.run cs).forest.isLive h with
      | true => rfl
      | false => simp [Forest.isRemoved, hlv, Nat.lt_of_lt_of_le hlt.2 hn] at hr
    rw [this]; rfl
  · intro hr more
    have hr' := Forest.isRemoved_mono (fph_run_le more (s.run cs)) hr
    rw [← fph_run_append] at hr' ⊢
    show (s.run (cs ++ more)).idStore.xmlIdNode doc v = none
    rw [IdStore.xmlIdNode_of_lookup _ _ _ h ((fph_lookup_run _ s doc v hlt.1).trans hl)]
    have : (s.run (cs ++ more)).idStore.forest.isLive h = false := by
      show (s.run (cs ++ more)).forest.isLive h = false
      simp only [Forest.isRemoved, Bool.and_eq_true, Bool.not_eq_true'] at hr'; exact hr'.2
    rw [this]; rfl

/-- Two stores with the same fields are equal.  None of `PStore`, `Forest`, `Env` has decidable equality, the fields
    have: this is how a closed store is shown equal to its value, by evaluation of the nine equations. -/
theorem ext_fields {s t : PStore}
    (h : s.forest.roots = t.forest.roots ∧ s.forest.next = t.forest.next ∧
      s.forest.consolidation = t.forest.consolidation ∧ s.forest.everOff = t.forest.everOff ∧
      s.forest.corrupt = t.forest.corrupt ∧ s.env.namespaces = t.env.namespaces ∧
      s.env.prefixes = t.env.prefixes ∧ s.env.names = t.env.names ∧ s.index = t.index) : s = t := by
  obtain ⟨⟨_, _, _, _, _⟩, ⟨_, _, _⟩, _⟩ := s
  obtain ⟨⟨_, _, _, _, _⟩, ⟨_, _, _⟩, _⟩ := t
  simp only at h
  obtain ⟨rfl, rfl, rfl, rfl, rfl, rfl, rfl, rfl, rfl⟩ := h
  rfl

theorem run_snoc (s : PStore) (cs : List PCall) (c : PCall) : s.run (cs ++ [c]) = (s.run cs).step c := by
  rw [fph_run_append]; rfl

end PStore
end XotModel
