/-
  The two readings of `replace` agree on forests without adjacent text nodes:
  `specReplaceP = specReplaceX` (spec against spec, no model).  Next to the replaced node both are
  `remove`; otherwise the proof is that of the moves (`specMoveP_eq_specMove_keep`) with the put
  `replaceTop a (fun _ => [t])` for the insertion and `mergeNew3` for `mergeNew`: the replaced node
  may leave a gap between two text nodes, which the arriving node closes (`mergeRuns_eq_mergeNew3`).
  At the end the whole-run reading of xot's own steps: drop `a`, then move `b` to its place
  (`ReplArgs.specMove_after`, `specMove_first`).
-/
import XotModel.Lemmas.FspecPairFrame
import XotModel.Lemmas.FspecPairReplace
import XotModel.Lemmas.FspecReplFrame

namespace XotModel
open HTree Spec

namespace PairAll

/-! ### One child list: the replacing node comes from the list of the replaced one -/

theorem handlesList_perm {L L' : List HTree} (h : L.Perm L') : (handlesList L).Perm (handlesList L') := by
  induction h with
  | nil => exact List.Perm.refl _
  | cons k _ ih => rw [handlesList_cons, handlesList_cons]; exact ih.append_left _
  | swap a b L =>
    rw [handlesList_cons, handlesList_cons, handlesList_cons, handlesList_cons, ← List.append_assoc,
      ← List.append_assoc]
    exact List.Perm.append_right _ List.perm_append_comm
  | trans _ _ ih1 ih2 => exact ih1.trans ih2

/-- One child list, the replacing node `t` before the replaced node `A` (not directly):
    `u ++ t :: M ++ A :: Y` becomes `u ++ M ++ t :: Y`. -/
theorem put_same_left {keep : Keep} {u M Y : List HTree} {t A : HTree} (hk : KeepFor keep t.handle Y) (hM : M ≠ [])
    (nd : (handlesList (u ++ t :: (M ++ A :: Y))).Nodup) (hna : noAdjacentText (u ++ t :: (M ++ A :: Y)) = true) :
    mergeNew3 t.handle (adjOpt (u.getLast?.map (·.handle), (M ++ A :: Y).head?.map (·.handle)) ((u ++ M) ++ t :: Y)) =
      mergeRuns keep ((u ++ M) ++ t :: Y) := by
  obtain ⟨hnu, hntM, hseam⟩ := noAdj_append.1 hna
  obtain ⟨hnM, hnAY, _⟩ := noAdj_append.1 (noAdj_tail hntM)
  have hnY : noAdjacentText Y = true := noAdj_tail hnAY
  obtain ⟨tu, tMAY⟩ := tops_ne_of_nodup nd
  have tM : ∀ x ∈ M, x.handle ≠ t.handle := fun x hx => tMAY x (List.mem_append_left _ hx)
  have tY : ∀ x ∈ Y, x.handle ≠ t.handle := fun x hx => tMAY x (List.mem_append_right _ (List.mem_cons_of_mem _ hx))
  obtain ⟨b, M', rfl⟩ := List.exists_cons_of_ne_nil hM
  have e : (u ++ b :: M') ++ t :: Y = u ++ (b :: (M' ++ t :: Y)) := by simp
  -- `t` moved behind `b :: M'`, `A` gone
  have ndN : (handlesList (u ++ (b :: (M' ++ t :: Y)))).Nodup := by
    refine (handlesList_perm ((List.perm_middle (l₁ := b :: M')).append_left u)).nodup_iff.2 ?_
    refine List.Sublist.nodup ?_ nd
    simp only [handlesList_append, handlesList_cons, List.append_assoc]
    exact (List.Sublist.refl _).append ((List.Sublist.refl _).append ((List.Sublist.refl _).append
      ((List.Sublist.refl _).append (List.sublist_append_right _ _))))
  by_cases ht : t.value.isText = true
  · -- `t` is text: its old neighbours are not, nothing is merged where it left
    have hbt : b.value.isText = false := by
      cases h : b.value.isText with
      | false => rfl
      | true => exact absurd ⟨ht, h⟩ (not_both_of_noAdj hntM)
    have hnoop : adjOpt (u.getLast?.map (·.handle), ((b :: M') ++ A :: Y).head?.map (·.handle))
        (u ++ (b :: (M' ++ t :: Y))) = u ++ (b :: (M' ++ t :: Y)) := by
      cases hla : u.getLast? with
      | none => rfl
      | some a =>
        obtain ⟨u', rfl⟩ := List.getLast?_eq_some_iff.1 hla
        simp only [Option.map_some, adjOpt, List.cons_append, List.head?_cons]
        have e2 : (u' ++ [a]) ++ b :: (M' ++ t :: Y) = u' ++ a :: b :: (M' ++ t :: Y) := by simp
        rw [e2] at ndN ⊢
        exact mergeAdj_mid_other (fun h => by rw [hbt] at h; cases h.2) _ (tops_ne_of_nodup ndN).1
    rw [e, hnoop, ← e]
    refine (mergeRuns_eq_mergeNew3 (u ++ b :: M') Y hk ?_ hnY ?_ tY).symm
    · refine noAdj_append.2 ⟨hnu, hnM, ?_⟩
      intro a' b' _ hb'
      simp only [List.head?_cons, Option.some.injEq] at hb'
      subst hb'
      exact fun h => by rw [hbt] at h; cases h.2
    · intro x hx
      rcases List.mem_append.1 hx with h | h
      · exact tu x h
      · exact tM x h
  · -- `t` is not text: it does not take part in any merge
    have ht' : t.value.isText = false := by simpa using ht
    rw [e]
    have hr : noAdjacentText (b :: (M' ++ t :: Y)) = true := by
      have := noAdj_around_nontext ht' hnM hnY
      simpa using this
    have h := mergeRuns_eq_mergeAdj (keep := keep) hnu hr ndN
      (fun a ha c => hk.resident _ _ (tu a (List.mem_of_getLast? ha)))
    simp only [List.head?_cons, List.cons_append] at h ⊢
    rw [← h]
    exact mergeNew3_of_noAdj _ (noAdj_mergeRuns keep _)

/-- One child list, the replacing node `t` behind the replaced node `A` (not directly):
    `X ++ A :: M ++ t :: w` becomes `X ++ t :: M ++ w`. -/
theorem put_same_right {keep : Keep} {X M w : List HTree} {t A : HTree} (hk : KeepFor keep t.handle (M ++ w))
    (hM : M ≠ [])
    (nd : (handlesList ((X ++ A :: M) ++ t :: w)).Nodup) (hna : noAdjacentText ((X ++ A :: M) ++ t :: w) = true) :
    mergeNew3 t.handle (adjOpt ((X ++ A :: M).getLast?.map (·.handle), w.head?.map (·.handle)) (X ++ t :: (M ++ w))) =
      mergeRuns keep (X ++ t :: (M ++ w)) := by
  obtain ⟨hnXAM, hntw, hseam⟩ := noAdj_append.1 hna
  have hnw : noAdjacentText w = true := noAdj_tail hntw
  obtain ⟨hnX, hnAM, _⟩ := noAdj_append.1 hnXAM
  have hnM : noAdjacentText M = true := noAdj_tail hnAM
  obtain ⟨tXAM, tw⟩ := tops_ne_of_nodup nd
  have tX : ∀ x ∈ X, x.handle ≠ t.handle := fun x hx => tXAM x (List.mem_append_left _ hx)
  have tM : ∀ x ∈ M, x.handle ≠ t.handle := fun x hx => tXAM x (List.mem_append_right _ (List.mem_cons_of_mem _ hx))
  obtain ⟨M', a, rfl⟩ : ∃ M' a, M = M' ++ [a] := by
    rcases List.eq_nil_or_concat M with h | ⟨M', a, h⟩
    · exact absurd h hM
    · exact ⟨M', a, by rw [h, List.concat_eq_append]⟩
  have hlast : (X ++ A :: (M' ++ [a])).getLast? = some a := by
    rw [show X ++ A :: (M' ++ [a]) = (X ++ A :: M') ++ [a] by simp, List.getLast?_concat]
  have e : X ++ t :: ((M' ++ [a]) ++ w) = (X ++ t :: M') ++ (a :: w) := by simp
  -- `t` moved in front of `M' ++ [a]`, `A` gone
  have ndN : (handlesList ((X ++ t :: M') ++ (a :: w))).Nodup := by
    have hp : ((X ++ t :: M') ++ (a :: w)).Perm (X ++ ((M' ++ [a]) ++ t :: w)) := by
      rw [List.append_assoc, List.cons_append, show M' ++ a :: w = (M' ++ [a]) ++ w by simp]
      exact (List.perm_middle (l₁ := M' ++ [a])).symm.append_left X
    refine (handlesList_perm hp).nodup_iff.2 (List.Sublist.nodup ?_ nd)
    simp only [handlesList_append, handlesList_cons, handlesList_nil, List.append_nil, List.append_assoc]
    exact (List.Sublist.refl _).append (List.sublist_append_right _ _)
  have hat : a.handle ≠ t.handle := tM a (by simp)
  by_cases ht : t.value.isText = true
  · have hatx : a.value.isText = false := by
      cases h : a.value.isText with
      | false => rfl
      | true => exact absurd ⟨h, ht⟩ (hseam a t hlast rfl)
    have hnoop : adjOpt ((X ++ A :: (M' ++ [a])).getLast?.map (·.handle), w.head?.map (·.handle))
        ((X ++ t :: M') ++ (a :: w)) = (X ++ t :: M') ++ (a :: w) := by
      rw [hlast]
      cases w with
      | nil => rfl
      | cons b w' =>
        simp only [Option.map_some, adjOpt, List.head?_cons]
        exact mergeAdj_mid_other (fun h => by rw [hatx] at h; cases h.1) _ (tops_ne_of_nodup ndN).1
    rw [e, hnoop, ← e]
    refine (mergeRuns_eq_mergeNew3 X ((M' ++ [a]) ++ w) hk hnX ?_ tX ?_).symm
    · refine noAdj_append.2 ⟨hnM, hnw, ?_⟩
      intro a' b' ha' _
      simp only [List.getLast?_concat, Option.some.injEq] at ha'
      subst ha'
      exact fun h => by rw [hatx] at h; cases h.1
    · intro x hx
      rcases List.mem_append.1 hx with h | h
      · exact tM x h
      · exact tw x h
  · have ht' : t.value.isText = false := by simpa using ht
    rw [e, hlast]
    have hl : noAdjacentText ((X ++ t :: M') ++ [a]) = true := by
      have := noAdj_around_nontext ht' hnX hnM
      simpa using this
    have h := mergeRuns_eq_mergeAdj (keep := keep) (l := (X ++ t :: M') ++ [a]) (r := w) hl hnw
      (by simpa using ndN) (fun a' ha' c => by
        simp only [List.getLast?_concat, Option.some.injEq] at ha'
        subst ha'
        exact hk.resident _ _ hat)
    rw [List.getLast?_concat] at h
    simp only [Option.map_some, List.append_assoc, List.cons_append, List.nil_append] at h ⊢
    rw [← h]
    exact mergeNew3_of_noAdj _ (noAdj_mergeRuns keep _)

/-! ### The put at the destination -/

/-- The put of `replace` at the destination, in a forest `Y` where the parent `q` has the child
    list `l ++ A :: r`, free of adjacent text when the flag `c` is on, whose two parts do not hold `t`. -/
theorem put_step {Y : Forest} {q a : Nat} {vq : Value} {l r : List HTree} {A t : HTree} (c : Bool)
    (sY : SiteAt Y q vq (l ++ A :: r)) (ha : A.handle = a) (hno : c = true → noAdjacentText (l ++ A :: r) = true)
    (hlt : ∀ k ∈ l, k.handle ≠ t.handle) (hrt : ∀ k ∈ r, k.handle ≠ t.handle) :
    Y.editAt (some q) (new3Opt c t.handle ∘ replaceTop a (fun _ => [t])) =
      Y.editAt (some q) (mergeOpt c (Keep.resident t.handle) ∘ replaceTop a (fun _ => [t])) := by
  cases c with
  | false => rfl
  | true =>
    obtain ⟨hl, hAr, _⟩ := noAdj_append.1 (hno rfl)
    apply sY.congr
    simp only [Function.comp, new3Opt, mergeOpt, if_true]
    rw [replaceTop_mid ha (fun k hk => ha ▸ (tops_ne_of_nodup sY.nodupKids.1).1 k hk)]
    have e : l ++ [t] ++ r = l ++ t :: r := by simp
    rw [e]
    exact (mergeRuns_eq_mergeNew3 l r (KeepFor.of_resident _ _) hl (noAdj_tail hAr) hlt hrt).symm

end PairAll

open PairAll

/-- **The two readings of `replace` agree on forests without adjacent text nodes.** -/
theorem specReplaceP_eq_specReplaceX {f : Forest} {a b q : Nat} {vq : Value} {l : List HTree} {A : HTree}
    {r : List HTree} {t : HTree} (inv : f.Inv) (norm : f.Normal) (ra : ReplArgs f a b q vq l A r t) :
    specReplaceP a b f = specReplaceX a b f := by
  have nd := inv.nodup
  unfold specReplaceX specReplaceP
  by_cases hadj : prevOf l A = some b ∨ nextOf r A = some b
  · rw [ra.adjacent_true hadj, if_pos rfl, ra.keep_adjacent hadj, specReplace_adjacent _ ra hadj]
    exact specRemoveP_eq_specRemove inv norm (Keep.earlier_spec a) ra.live_a
  · have h1 : prevOf l A ≠ some b := fun e => hadj (Or.inl e)
    have h2 : nextOf r A ≠ some b := fun e => hadj (Or.inr e)
    rw [ra.adjacent_false h1 h2, ra.keep_moved h1 h2]
    simp only [Bool.false_eq_true, if_false]
    rw [specReplace_unfold ra.hgb (Forest.parent?_of_ctx? ra.ctx_a), ra.hgb, Forest.parent?_of_ctx? ra.ctx_a]
    simp only
    -- the merges at `q` as edits by list functions that hold the flag, which is that of `f`
    rw [mergeNew3At_eq_new3Opt, mergeAt_eq_mergeOpt]
    simp only [Forest.mergeLeftAt_consolidation, Forest.mergeAt_consolidation, Forest.editAt_consolidation]
    have hnoL : f.consolidation = true → noAdjacentText (l ++ A :: r) = true :=
      fun hc => (validTree_node (ra.sq.valid (norm hc))).2.2.1 rfl
    have hb := ra.hb
    subst hb
    have haA := ra.ha
    subst haA
    rcases SiteAt.mover ra.sq ra.hgb with hno | ⟨l', r', hctx, eL⟩ | ⟨po, vo, l', r', hpq, hctx, so⟩
    · -- the replacing node is a parentless tree
      have hpar := Forest.parent?_of_no_ctx hno
      rw [hpar, Forest.nbOf_root hpar, Forest.mergeLeftAt_none, mergeAt_none, Forest.editAt_editAt, Forest.editAt_editAt]
      refine put_step _ (ra.sq.dropRoot ra.hgb ra.hqt) rfl hnoL ?_ ?_ <;>
      · intro k hk e
        have := PairAfter.site_parent ra.sq (show k ∈ l ++ A :: r by simp [hk])
        rw [e, hpar] at this
        cases this
    · -- one child list: one edit
      have hpar : f.parent? t.handle = some q := Forest.parent?_of_ctx? hctx
      rw [hpar, mergeLeftAt_eq_pairOpt, mergeAt_eq_mergeOpt]
      simp only [Forest.editAt_consolidation]
      rw [Forest.nbOf_kid hpar, Forest.kidsOf_of_get ra.sq.kids,
        Forest.editAt_editAt, Forest.editAt_editAt, Forest.editAt_editAt, Forest.editAt_editAt,
        Forest.editAt_editAt, Forest.editAt_editAt]
      apply ra.sq.congr
      cases hcons : f.consolidation with
      | false => rfl
      | true =>
      have hnoL := hnoL hcons
      obtain ⟨ndL, _⟩ := ra.sq.nodupKids
      simp only [Function.comp, new3Opt, pairOpt, mergeOpt, if_true]
      rw [mergeRuns_idem]
      rcases ra.same_parent_split eL h1 h2 with ⟨u, w, e, hw⟩ | ⟨u, w, e, hu⟩
      · subst e
        have e1 : (u ++ t :: w) ++ A :: r = u ++ t :: (w ++ A :: r) := by simp
        rw [e1] at ndL hnoL ⊢
        obtain ⟨tu, tw⟩ := tops_ne_of_nodup ndL
        rw [neighbours_mid rfl _ u tu, dropTop_mid rfl tu tw]
        have e2 : u ++ (w ++ A :: r) = (u ++ w) ++ A :: r := by simp
        have ta : ∀ k ∈ u ++ w, k.handle ≠ A.handle := by
          have := (tops_ne_of_nodup ra.sq.nodupKids.1).1
          intro k hk
          exact this k (by
            rcases List.mem_append.1 hk with h | h
            · exact List.mem_append_left _ h
            · exact List.mem_append_right _ (List.mem_cons_of_mem _ h))
        rw [e2, replaceTop_mid rfl ta]
        have e3 : (u ++ w) ++ [t] ++ r = (u ++ w) ++ t :: r := by simp
        rw [e3]
        exact put_same_left (KeepFor.of_resident _ _) hw ndL hnoL
      · subst e
        have e1 : l ++ A :: (u ++ t :: w) = (l ++ A :: u) ++ t :: w := by simp
        rw [e1] at ndL hnoL ⊢
        obtain ⟨tu, tw⟩ := tops_ne_of_nodup ndL
        rw [neighbours_mid rfl _ _ tu, dropTop_mid rfl tu tw]
        have e2 : (l ++ A :: u) ++ w = l ++ A :: (u ++ w) := by simp
        rw [e2, replaceTop_mid rfl (tops_ne_of_nodup ra.sq.nodupKids.1).1]
        have e3 : l ++ [t] ++ (u ++ w) = l ++ t :: (u ++ w) := by simp
        rw [e3]
        exact put_same_right (KeepFor.of_resident _ _) hu ndL hnoL
    · -- another child list: the old-place merge moved in front of the put
      have hpar : f.parent? t.handle = some po := Forest.parent?_of_ctx? hctx
      rw [hpar, mergeLeftAt_eq_pairOpt, mergeAt_eq_mergeOpt]
      simp only [Forest.editAt_consolidation]
      have hpot : po ∉ handles t := so.not_mem_kid
      have hkm : ∀ G, KidMap (HTree.editAt po G) := fun G => kidMap_editAt po G
      have hnatI : ∀ G, NatFor (HTree.editAt po G) (replaceTop A.handle (fun _ => [t])) :=
        fun G => ReplFrame.natFor_putTop (hkm G) _ (editAt_of_not_mem t hpot)
      have hkq : ∀ G, KidMap (HTree.editAt q G) := fun G => kidMap_editAt q G
      rw [Forest.editAt_comm _ hpq (natFor_pairOpt (hkq _) _ _) (hnatI _),
        Forest.editAt_comm (f.editAt (some po) (dropTop t.handle)) hpq (ReplFrame.natFor_mergeOpt (hkq _) _ _) (hnatI _),
        Forest.editAt_editAt, Forest.editAt_editAt, Forest.editAt_editAt, Forest.editAt_editAt]
      rw [← cut_pairOpt_eq_mergeOpt norm so (Keep.resident_spec _)]
      have hvq : vq.isText = false := isText_false_of_kind ra.hvq
      have sY := site_after_leave so ra.sq inv.valid hpq ra.hqt hvq f.consolidation (f.nbOf t.handle)
      rw [List.map_append, List.map_cons] at sY
      have hcq : ∀ k' ∈ l ++ A :: r, k'.handle ≠ t.handle := by
        intro k' hk' e
        have := PairAfter.site_parent ra.sq hk'
        rw [e, hpar] at this
        exact hpq (Option.some.inj this)
      exact put_step _ sY ((hkm _).handle A)
        (fun hc => by rw [← List.map_cons, ← List.map_append, noAdj_map (hkm _)]; exact hnoL hc)
        (handlesTop_map (hkm _) (fun k hk => hcq k (by simp [hk])))
        (handlesTop_map (hkm _) (fun k hk => hcq k (by simp [hk])))

/-! ### The whole-run reading of `replace` by steps -/

namespace ReplArgs
variable {f : Forest} {a b q : Nat} {vq : Value} {l : List HTree} {A : HTree} {r : List HTree} {t : HTree}

/-- Drop `a`, then move `b` behind `a`'s previous sibling: `specReplace a b`, for every survivor rule (the pair
    reading of the same steps is `after_eq`). -/
theorem specMove_after (h : ReplArgs f a b q vq l A r t) (keep : Keep) {p : Nat} (hp : prevOf l A = some p)
    (h1 : prevOf l A ≠ some b) (h2 : nextOf r A ≠ some b) :
    specMove keep (.after p) b (f.editAt (some q) (dropTop a)) = specReplace keep a b f := by
  obtain ⟨hocc, hsite⟩ := h.move_after_pre hp h2
  rw [specMove_unfold hocc h.get1 hsite, h.parent1, specReplace_unfold h.hgb (Forest.parent?_of_ctx? h.ctx_a)]
  simp only [Dest.insert]
  rw [h.put_after hp (fun e => h1 (by rw [hp, e]))]

/-- … or to the first normal place of the parent, when `a` had no previous sibling (`first_eq`). -/
theorem specMove_first (h : ReplArgs f a b q vq l A r t) (keep : Keep) (inv : f.Inv) (hp : prevOf l A = none)
    (h2 : nextOf r A ≠ some b) :
    specMove keep (.firstNormalChildOf q) b (f.editAt (some q) (dropTop a)) = specReplace keep a b f := by
  obtain ⟨hocc, hsite⟩ := h.move_first_pre inv hp h2
  rw [specMove_unfold hocc h.get1 hsite, h.parent1, specReplace_unfold h.hgb (Forest.parent?_of_ctx? h.ctx_a)]
  simp only [Dest.insert]
  rw [h.put_first inv hp]

end ReplArgs

/-! ### … on the closed example `replSample` -/

/-- Drop `a`, then move `b` behind `a`'s previous sibling = `specReplace a b`, for several survivor
    rules; `b` a parentless tree (9, 10), under another parent (7, 8), a non-adjacent sibling (6 for
    `a = 3`; 2 for `a = 6`). -/
example : ∀ keep ∈ [Keep.earlier, Keep.resident 3, Keep.resident 6, Keep.resident 7, Keep.resident 9],
    ∀ ab ∈ [(3, 9, 2), (3, 10, 2), (3, 7, 2), (3, 8, 2), (3, 6, 2), (6, 2, 5), (6, 9, 5), (5, 9, 3), (5, 7, 3)],
    specMove keep (.after ab.2.2) ab.2.1 (replSample.editAt (some 0) (dropTop ab.1)) =
      specReplace keep ab.1 ab.2.1 replSample := by
  intro keep _ ab hab
  -- evaluated: the pair passes the argument checks of `replace`; `a` is a child of 0 behind `p`; `b` is no neighbour
  have checks : replSample.parent? ab.1 = some 0 ∧
      replSample.isNormalNode ab.1 = true ∧ replSample.structureCheck (some 0) ab.2.1 = true ∧
      (replSample.ancestors ab.2.1).contains ab.1 = false ∧
      replSample.prevSibling ab.1 = some ab.2.2 ∧ ab.2.2 ≠ ab.2.1 ∧ replSample.nextSibling ab.1 ≠ some ab.2.1 := by
    revert ab; decide +kernel
  have nd : replSample.allHandles.Nodup := by decide +kernel
  obtain ⟨hq, h2, h3, h4, hp, hpb, hn⟩ := checks
  obtain ⟨vq, l, A, r, t, ra⟩ := ReplArgs.of_checks nd hq h2 h3 h4
  rw [Forest.prevSibling_of_ctx ra.ctx_a] at hp
  rw [Forest.nextSibling_of_ctx ra.ctx_a] at hn
  exact ra.specMove_after keep hp (by rw [hp]; exact fun e => hpb (Option.some.inj e)) hn

/-- The replaced node is the first normal child (2 under 0, 7 under 6, 4 under 3): drop `a`, then
    move `b` to the first normal place of the parent = `specReplace a b`. -/
example : ∀ keep ∈ [Keep.earlier, Keep.resident 2, Keep.resident 5, Keep.resident 9],
    ∀ abq ∈ [(2, 9, 0), (2, 10, 0), (2, 7, 0), (2, 5, 0), (2, 6, 0), (7, 9, 6), (7, 2, 6), (4, 9, 3), (4, 8, 3)],
    specMove keep (.firstNormalChildOf abq.2.2) abq.2.1 (replSample.editAt (some abq.2.2) (dropTop abq.1)) =
      specReplace keep abq.1 abq.2.1 replSample := by
  intro keep _ abq hab
  -- evaluated: the pair passes the argument checks; `a` is the first normal child of `q`; `b` does not follow it
  have checks : replSample.parent? abq.1 = some abq.2.2 ∧
      replSample.isNormalNode abq.1 = true ∧ replSample.structureCheck (some abq.2.2) abq.2.1 = true ∧
      (replSample.ancestors abq.2.1).contains abq.1 = false ∧
      replSample.prevSibling abq.1 = none ∧ replSample.nextSibling abq.1 ≠ some abq.2.1 := by
    revert abq; decide +kernel
  have inv : replSample.Inv := (Forest.inv_iff _).1 (by decide +kernel)
  obtain ⟨hq, h2, h3, h4, hp, hn⟩ := checks
  obtain ⟨vq, l, A, r, t, ra⟩ := ReplArgs.of_checks inv.nodup hq h2 h3 h4
  rw [Forest.prevSibling_of_ctx ra.ctx_a] at hp
  rw [Forest.nextSibling_of_ctx ra.ctx_a] at hn
  exact ra.specMove_first keep inv hp hn

end XotModel
