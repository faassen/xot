/-
  Document order on index paths (`docLt`), valid paths and the hypothesis `wf`; the pre-order list of a tree split
  around a node into what comes before it, its subtree and what comes after it (`allPre_split`), each part
  characterised by document order and the prefix relation, seen from the root down and from the node upwards.
  Membership, sortedness and distinctness of the pre-order.
-/
import XotModel.Model.Axes

namespace XotModel.Axes

/-! ## Document order on paths -/

/-- Document order: a proper prefix (ancestor) comes first, else the first differing index
    decides. (It is the lexicographic order `<` on `List Nat`: `docLt_iff_lt`.) -/
def docLt : Path → Path → Bool
  | [], [] => false
  | [], _ :: _ => true
  | _ :: _, [] => false
  | a :: p, b :: q => a < b || (a == b && docLt p q)

theorem docLt_iff_lt (p q : Path) : docLt p q = true ↔ p < q := by
  induction p generalizing q with
  | nil => cases q <;> simp [docLt]
  | cons a p ih =>
    cases q with
    | nil => simp [docLt]
    | cons b q => simp [docLt, List.cons_lt_cons_iff, ih]

@[simp] theorem docLt_nil_right (p : Path) : docLt p [] = false := by cases p <;> rfl
@[simp] theorem docLt_nil_cons (b : Nat) (q : Path) : docLt [] (b :: q) = true := rfl
@[simp] theorem docLt_cons_cons (a b : Nat) (p q : Path) :
    docLt (a :: p) (b :: q) = (decide (a < b) || (a == b && docLt p q)) := rfl

theorem docLt_irrefl (p : Path) : docLt p p = false := by
  induction p with
  | nil => rfl
  | cons a p ih => simp [ih]

theorem docLt_trans {p q r : Path} (h1 : docLt p q = true) (h2 : docLt q r = true) :
    docLt p r = true := by
  rw [docLt_iff_lt] at *
  exact List.lt_trans h1 h2

theorem docLt_asymm {p q : Path} (h : docLt p q = true) : docLt q p = false := by
  cases h' : docLt q p
  · rfl
  · have := docLt_trans h h'; rw [docLt_irrefl] at this; cases this

theorem docLt_total (p q : Path) : docLt p q = true ∨ p = q ∨ docLt q p = true := by
  induction p generalizing q with
  | nil => cases q <;> simp
  | cons a p ih =>
    cases q with
    | nil => simp
    | cons b q =>
      rcases Nat.lt_trichotomy a b with h | h | h
      · left; simp [h]
      · subst h
        rcases ih q with h | h | h
        · left; simp [h]
        · right; left; rw [h]
        · right; right; simp [h]
      · right; right; simp [h]

theorem docLt_of_prefix {p q : Path} (h : p.isPrefixOf q = true) (hne : p ≠ q) : docLt p q = true := by
  induction p generalizing q with
  | nil => cases q with
    | nil => exact absurd rfl hne
    | cons => rfl
  | cons a p ih =>
    cases q with
    | nil => simp at h
    | cons b q =>
      simp [List.isPrefixOf_cons_cons] at h
      obtain ⟨hab, hpq⟩ := h
      subst hab
      have : p ≠ q := fun e => hne (by rw [e])
      simp [ih (by simpa using hpq) this]

theorem isPrefixOf_refl (p : Path) : p.isPrefixOf p = true := by simp

theorem isPrefixOf_antisymm {p q : Path} (h1 : p.isPrefixOf q = true) (h2 : q.isPrefixOf p = true) :
    p = q := by
  rw [List.isPrefixOf_iff_prefix] at h1 h2
  exact List.IsPrefix.eq_of_length_le h1 (List.IsPrefix.length_le h2)

/-! ## Paths: last index, parent -/

@[simp] theorem splitLast_nil : splitLast [] = none := rfl
@[simp] theorem splitLast_snoc (q : Path) (i : Nat) : splitLast (q ++ [i]) = some (q, i) := by
  simp [splitLast]
@[simp] theorem parent_nil : parent [] = none := rfl
@[simp] theorem parent_snoc (q : Path) (i : Nat) : parent (q ++ [i]) = some q := by simp [parent]

theorem path_cases (p : Path) : p = [] ∨ ∃ q i, p = q ++ [i] := by
  rcases List.eq_nil_or_concat p with h | ⟨q, i, h⟩
  · exact .inl h
  · exact .inr ⟨q, i, by simpa using h⟩

/-! ## Subtrees at paths -/

theorem at?_append (t : Tree) (p q : Path) : t.at? (p ++ q) = (t.at? p).bind (fun s => s.at? q) := by
  induction p generalizing t with
  | nil => simp [Tree.at?]
  | cons i p ih =>
    cases t with
    | node v ks =>
      simp only [List.cons_append, Tree.at?]
      cases ks[i]? with
      | none => rfl
      | some k => exact ih k

theorem at?_snoc {t : Tree} {π : Path} {v : Value} {ks : List Tree} (h : t.at? π = some (.node v ks))
    (i : Nat) : t.at? (π ++ [i]) = ks[i]? := by
  rw [at?_append, h]
  simp only [Option.bind_some, Tree.at?]
  cases ks[i]? <;> rfl

theorem subAt_of_at? {t : Tree} {p : Path} {s : Tree} (h : t.at? p = some s) : subAt t p = s := by
  simp [subAt, h]

@[simp] theorem subAt_nil (t : Tree) : subAt t [] = t := by simp [subAt, Tree.at?]

/-- The path leads to a node of the tree. -/
def Valid (t : Tree) (p : Path) : Prop := (t.at? p).isSome = true

instance (t : Tree) (p : Path) : Decidable (Valid t p) := by unfold Valid; infer_instance

theorem Valid.at? {t : Tree} {p : Path} (h : Valid t p) : t.at? p = some (subAt t p) := by
  unfold Valid at h
  cases h' : t.at? p with
  | none => rw [h'] at h; cases h
  | some s => simp [subAt, h']

theorem valid_nil (t : Tree) : Valid t [] := by simp [Valid, Tree.at?]

theorem tree_eta (s : Tree) : s = .node s.value s.kids := by cases s; rfl

theorem valid_snoc_iff {t : Tree} {π : Path} (h : Valid t π) (i : Nat) :
    Valid t (π ++ [i]) ↔ i < (subAt t π).kids.length := by
  have h1 := h.at?
  rw [tree_eta (subAt t π)] at h1
  unfold Valid
  rw [at?_snoc h1]
  simp

theorem valid_prefix {t : Tree} {π : Path} {q : Path} (h : Valid t (π ++ q)) : Valid t π := by
  unfold Valid at *
  rw [at?_append] at h
  cases h' : t.at? π with
  | none => rw [h'] at h; simp at h
  | some s => rfl

theorem subAt_snoc {t : Tree} {π : Path} (h : Valid t π) {i : Nat} (hi : i < (subAt t π).kids.length) :
    subAt t (π ++ [i]) = (subAt t π).kids[i] := by
  have h1 := h.at?
  rw [tree_eta (subAt t π)] at h1
  have := at?_snoc h1 i
  unfold subAt
  rw [this, List.getElem?_eq_getElem hi]
  rfl

mutual
  theorem length_allPre : ∀ s : Tree, (allPre s).length = s.size
    | .node v ks => by simp [allPre, Tree.size, length_allPreList ks 0]; omega
  theorem length_allPreList : ∀ (ks : List Tree) (i : Nat),
      (allPreList i ks).length = Tree.size.sizeList ks
    | [], i => by simp [allPreList, Tree.size.sizeList]
    | k :: ks, i => by
      simp [allPreList, Tree.size.sizeList, length_allPre k, length_allPreList ks (i + 1)]
end

/-! ## Structural validity the category-aware entry points rely on -/

/-- No normal child before a non-normal one (namespace and attribute nodes lead). -/
def kidsOrdered (ks : List Tree) : Bool :=
  (ks.dropWhile (fun k => !k.value.isNormal)).all (fun k => k.value.isNormal)

mutual
  /-- Every child list is ordered and non-normal nodes are leaves. (Part of `StructValid`,
      DESIGN.md 4.4; every tree xot's API can build satisfies it, C04.) -/
  def wf : Tree → Bool
    | .node v ks => (v.isNormal || ks.isEmpty) && kidsOrdered ks && wfList ks
  def wfList : List Tree → Bool
    | [] => true
    | k :: ks => wf k && wfList ks
end

theorem wfList_getElem? : ∀ (ks : List Tree) (i : Nat) (k : Tree), wfList ks = true →
    ks[i]? = some k → wf k = true
  | [], _, _, _, h => by simp at h
  | k' :: ks, 0, k, hw, h => by
    simp only [wfList, Bool.and_eq_true] at hw
    simp at h; subst h; exact hw.1
  | k' :: ks, i + 1, k, hw, h => by
    simp only [wfList, Bool.and_eq_true] at hw
    exact wfList_getElem? ks i k hw.2 (by simpa using h)

theorem wf_at? : ∀ (t : Tree) (p : Path) (s : Tree), wf t = true → t.at? p = some s → wf s = true
  | t, [], s, hw, h => by simp [Tree.at?] at h; subst h; exact hw
  | .node v ks, i :: p, s, hw, h => by
    simp only [Tree.at?] at h
    cases hk : ks[i]? with
    | none => rw [hk] at h; cases h
    | some k =>
      rw [hk] at h
      simp only [wf, Bool.and_eq_true] at hw
      exact wf_at? k p s (wfList_getElem? ks i k hw.2 hk) h

/-- Where `p` can only switch from true to false along the list, `takeWhile p` is `filter p` and
    `dropWhile p` is what `filter p` leaves. -/
theorem takeWhile_dropWhile_eq_filter {α : Type} (p : α → Bool) : ∀ (l : List α),
    l.Pairwise (fun a b => p b = true → p a = true) →
    l.takeWhile p = l.filter p ∧ l.dropWhile p = l.filter (fun x => !p x)
  | [], _ => ⟨rfl, rfl⟩
  | x :: l, h => by
    rw [List.pairwise_cons] at h
    obtain ⟨ih1, ih2⟩ := takeWhile_dropWhile_eq_filter p l h.2
    rw [List.takeWhile_cons, List.dropWhile_cons, List.filter_cons, List.filter_cons]
    cases hx : p x
    · have hl : ∀ y ∈ l, p y = false := fun y hy => by
        cases hy' : p y
        · rfl
        · rw [h.1 y hy hy'] at hx; cases hx
      exact ⟨(List.filter_eq_nil_iff.mpr (fun y hy => by rw [hl y hy]; exact Bool.false_ne_true)).symm,
        congrArg (x :: ·) (List.filter_eq_self.mpr (fun y hy => by rw [hl y hy]; rfl)).symm⟩
    · exact ⟨congrArg (x :: ·) ih1, ih2⟩

/-- An ordered child list: along it normality switches on at most once and never off. -/
theorem kidsOrdered_iff_pairwise (ks : List Tree) :
    kidsOrdered ks = true ↔ ks.Pairwise (fun a b => a.value.isNormal = true → b.value.isNormal = true) := by
  induction ks with
  | nil => exact ⟨fun _ => List.Pairwise.nil, fun _ => rfl⟩
  | cons k ks ih =>
    rw [List.pairwise_cons, ← ih]
    unfold kidsOrdered
    cases hk : k.value.isNormal
    · simp [hk]
    · simp only [List.dropWhile_cons, hk, Bool.not_true, Bool.false_eq_true, if_false, List.all_cons,
        Bool.true_and, List.all_eq_true, forall_const]
      exact ⟨fun h => ⟨h, fun x hx => h x ((List.dropWhile_suffix _).subset hx)⟩, fun h => h.1⟩

theorem kidsOrdered_mono (ks : List Tree) (ho : kidsOrdered ks = true) (j j' : Nat) (a b : Tree)
    (hle : j ≤ j') (ha : ks[j]? = some a) (hb : ks[j']? = some b) (hn : a.value.isNormal = true) :
    b.value.isNormal = true := by
  rcases Nat.lt_or_eq_of_le hle with hlt | rfl
  · obtain ⟨hj, rfl⟩ := List.getElem?_eq_some_iff.mp ha
    obtain ⟨hj', rfl⟩ := List.getElem?_eq_some_iff.mp hb
    exact List.pairwise_iff_getElem.mp ((kidsOrdered_iff_pairwise ks).mp ho) j j' hj hj' hlt hn
  · rw [ha] at hb; cases hb; exact hn

theorem wfList_mem (ks : List Tree) (k : Tree) (hw : wfList ks = true) (hk : k ∈ ks) : wf k = true := by
  obtain ⟨i, hi, rfl⟩ := List.getElem_of_mem hk
  exact wfList_getElem? ks i _ hw (List.getElem?_eq_getElem hi)

theorem abnormal_leaf_of_wf {k : Tree} (hw : wf k = true) (hab : k.value.isNormal = false) : k.kids = [] := by
  cases k with
  | node vk kk =>
    simp only [wf, Bool.and_eq_true, Bool.or_eq_true] at hw
    rcases hw.1.1 with h1 | h1
    · rw [show vk.isNormal = false from hab] at h1; cases h1
    · simpa [Tree.kids] using h1

theorem wf_node {t : Tree} {π : Path} {v : Value} {ks : List Tree} (hw : wf t = true)
    (h : t.at? π = some (.node v ks)) : kidsOrdered ks = true ∧ wfList ks = true := by
  have hws := wf_at? t π _ hw h
  simp only [wf, Bool.and_eq_true] at hws
  exact ⟨hws.1.2, hws.2⟩

theorem kidsOrdered_subAt {t : Tree} {p : Path} (hw : wf t = true) (h : Valid t p) :
    kidsOrdered (subAt t p).kids = true := by
  have hat := h.at?
  rw [tree_eta (subAt t p)] at hat
  exact (wf_node hw hat).1

theorem take_abnormal_leaves {ks : List Tree} (hord : kidsOrdered ks = true) (hwl : wfList ks = true) {i : Nat}
    (hi : i < ks.length) (hab : ks[i].value.isNormal = false) :
    ∀ k ∈ ks.take (i + 1), k.value.isNormal = false ∧ k.kids = [] := by
  intro k hk
  obtain ⟨j, hj, rfl⟩ := List.getElem_of_mem hk
  rw [List.length_take] at hj
  rw [List.getElem_take]
  have hjab : ks[j].value.isNormal = false := Bool.eq_false_iff.mpr (fun hn => Bool.eq_false_iff.mp hab
    (kidsOrdered_mono ks hord j i _ _ (by omega) (List.getElem?_eq_getElem (by omega)) (List.getElem?_eq_getElem hi) hn))
  exact ⟨hjab, abnormal_leaf_of_wf (wfList_mem ks _ hwl (List.getElem_mem (by omega))) hjab⟩

theorem size_getElem?_le : ∀ (ks : List Tree) (i : Nat) (k : Tree), ks[i]? = some k →
    k.size ≤ Tree.size.sizeList ks
  | [], _, _, h => by simp at h
  | k' :: ks, 0, k, h => by simp at h; subst h; simp [Tree.size.sizeList]
  | k' :: ks, i + 1, k, h => by
    have := size_getElem?_le ks i k (by simpa using h)
    simp [Tree.size.sizeList]; omega

theorem size_at?_le : ∀ (t : Tree) (p : Path) (s : Tree), t.at? p = some s → s.size ≤ t.size
  | t, [], s, h => by simp [Tree.at?] at h; subst h; exact Nat.le_refl _
  | .node v ks, i :: p, s, h => by
    simp only [Tree.at?] at h
    cases hk : ks[i]? with
    | none => rw [hk] at h; cases h
    | some k =>
      rw [hk] at h
      have h1 := size_at?_le k p s h
      have h2 := size_getElem?_le ks i k hk
      simp [Tree.size]; omega

theorem length_le_sizeList : ∀ ks : List Tree, ks.length ≤ Tree.size.sizeList ks
  | [] => by simp [Tree.size.sizeList]
  | k :: ks => by
    have := length_le_sizeList ks
    have : 1 ≤ k.size := by cases k; simp [Tree.size]
    simp [Tree.size.sizeList]; omega

theorem kids_length_lt_size (s : Tree) : s.kids.length < s.size := by
  cases s with
  | node v ks => have := length_le_sizeList ks; simp [Tree.size, Tree.kids]; omega

end XotModel.Axes

/-! ## The pre-order list of a tree, split around a node -/

namespace XotModel.Axes

/-- Normal nodes in document order. -/
def pre (t : Tree) : List Path := (allPre t).filter (isNormalAt t)

/-- Everything before `p` in the pre-order (ancestors included). -/
def beforeRel : Tree → Path → List Path
  | _, [] => []
  | .node _ ks, i :: p =>
    match ks[i]? with
    | none => []
    | some k => [] :: (allPreList 0 (ks.take i) ++ (beforeRel k p).map (i :: ·))

/-- Everything after the subtree of `p` in the pre-order. -/
def afterRel : Tree → Path → List Path
  | _, [] => []
  | .node _ ks, i :: p =>
    match ks[i]? with
    | none => []
    | some k => (afterRel k p).map (i :: ·) ++ allPreList (i + 1) (ks.drop (i + 1))

/-- Everything before `p` that is not an ancestor of `p`. -/
def precRel : Tree → Path → List Path
  | _, [] => []
  | .node _ ks, i :: p =>
    match ks[i]? with
    | none => []
    | some k => allPreList 0 (ks.take i) ++ (precRel k p).map (i :: ·)

/-- Proper prefixes of `p`, shortest first. -/
def ancRel : Path → List Path
  | [] => []
  | i :: p => [] :: (ancRel p).map (i :: ·)

theorem allPreList_append (j : Nat) (a b : List Tree) :
    allPreList j (a ++ b) = allPreList j a ++ allPreList (j + a.length) b := by
  induction a generalizing j with
  | nil => simp [allPreList]
  | cons k a ih =>
    simp only [List.cons_append, allPreList, ih, List.append_assoc, List.length_cons]
    congr 3; omega

theorem mem_allPreList {q : Path} {j : Nat} {ks : List Tree} (h : q ∈ allPreList j ks) :
    ∃ j' q', q = j' :: q' ∧ j ≤ j' ∧ j' < j + ks.length ∧ ∃ k, ks[j' - j]? = some k ∧ q' ∈ allPre k := by
  induction ks generalizing j with
  | nil => simp [allPreList] at h
  | cons k ks ih =>
    simp only [allPreList, List.mem_append, List.mem_map] at h
    rcases h with ⟨q', hq', rfl⟩ | h
    · exact ⟨j, q', rfl, Nat.le_refl _, by simp, k, by simp, hq'⟩
    · obtain ⟨j', q', rfl, h1, h2, k', hk', hq'⟩ := ih h
      refine ⟨j', q', rfl, by omega, by simp at h2 ⊢; omega, k', ?_, hq'⟩
      have : j' - j = (j' - (j + 1)) + 1 := by omega
      rw [this]; simpa using hk'

theorem allPre_split : ∀ (t : Tree) (p : Path), Valid t p →
    allPre t = beforeRel t p ++ ((allPre (subAt t p)).map (p ++ ·) ++ afterRel t p)
  | t, [], _ => by simp [beforeRel, afterRel]
  | .node v ks, i :: p, h => by
    unfold Valid at h
    simp only [Tree.at?] at h
    cases hk : ks[i]? with
    | none => rw [hk] at h; cases h
    | some k =>
      rw [hk] at h
      have hi : i < ks.length := by
        rcases Nat.lt_or_ge i ks.length with h' | h'
        · exact h'
        · rw [List.getElem?_eq_none h'] at hk; cases hk
      have hsub : subAt (.node v ks) (i :: p) = subAt k p := by simp [subAt, Tree.at?, hk]
      have ih := allPre_split k p h
      have hks : ks = ks.take i ++ k :: ks.drop (i + 1) := by
        have := List.getElem?_eq_some_iff.mp hk
        obtain ⟨_, rfl⟩ := this
        rw [← List.drop_eq_getElem_cons hi, List.take_append_drop]
      have hlen : (ks.take i).length = i := by simp; omega
      simp only [beforeRel, afterRel, hk, hsub]
      conv => lhs; rw [allPre, hks, allPreList_append, hlen, allPreList, ih]
      simp [List.map_append, Function.comp_def]

theorem mem_afterRel : ∀ (t : Tree) (p q : Path), q ∈ afterRel t p →
    docLt p q = true ∧ p.isPrefixOf q = false
  | _, [], q, h => by simp [afterRel] at h
  | .node v ks, i :: p, q, h => by
    simp only [afterRel] at h
    cases hk : ks[i]? with
    | none => rw [hk] at h; simp at h
    | some k =>
      rw [hk] at h
      simp only [List.mem_append, List.mem_map] at h
      rcases h with ⟨q', hq', rfl⟩ | h
      · have := mem_afterRel k p q' hq'
        simp [this.1, this.2]
      · obtain ⟨j', q', rfl, h1, _, _⟩ := mem_allPreList h
        have hlt : i < j' := by omega
        have hne : ¬ (i = j') := by omega
        simp [hlt, List.isPrefixOf_cons_cons, hne]

theorem mem_beforeRel : ∀ (t : Tree) (p q : Path), q ∈ beforeRel t p → docLt q p = true
  | _, [], q, h => by simp [beforeRel] at h
  | .node v ks, i :: p, q, h => by
    simp only [beforeRel] at h
    cases hk : ks[i]? with
    | none => rw [hk] at h; simp at h
    | some k =>
      rw [hk] at h
      simp only [List.mem_cons, List.mem_append, List.mem_map] at h
      rcases h with rfl | h | ⟨q', hq', rfl⟩
      · rfl
      · obtain ⟨j', q', rfl, _, h2, _⟩ := mem_allPreList h
        have : j' < i := by
          have : (ks.take i).length ≤ i := by simp; omega
          omega
        simp [this]
      · simp [mem_beforeRel k p q' hq']

theorem mem_sub_prefix (p x : Path) : p.isPrefixOf (p ++ x) = true := by simp

/-! ### The parts as filters of the pre-order -/

theorem filter_split {α} (P : α → Bool) (a b c : List α)
    (ha : ∀ x ∈ a, P x = false) (hb : ∀ x ∈ b, P x = true) (hc : ∀ x ∈ c, P x = false) :
    (a ++ (b ++ c)).filter P = b := by
  have e1 : a.filter P = [] := List.filter_eq_nil_iff.mpr (by intro x hx; simp [ha x hx])
  have e3 : c.filter P = [] := List.filter_eq_nil_iff.mpr (by intro x hx; simp [hc x hx])
  have e2 : b.filter P = b := List.filter_eq_self.mpr hb
  rw [List.filter_append, List.filter_append, e1, e2, e3]
  simp

theorem docLt_prefix_false {p q : Path} (h : docLt q p = true) : p.isPrefixOf q = false := by
  cases h' : p.isPrefixOf q
  · rfl
  · by_cases e : p = q
    · subst e; rw [docLt_irrefl] at h; cases h
    · have := docLt_asymm (docLt_of_prefix h' e); rw [this] at h; cases h

/-- Descendant-or-self: the nodes `p` is a prefix of are the subtree of `p`, in pre-order. -/
theorem filter_prefix_allPre {t : Tree} {p : Path} (h : Valid t p) :
    (allPre t).filter (fun q => p.isPrefixOf q) = (allPre (subAt t p)).map (p ++ ·) := by
  rw [allPre_split t p h]
  apply filter_split
  · intro x hx; exact docLt_prefix_false (mem_beforeRel t p x hx)
  · intro x hx
    obtain ⟨y, _, rfl⟩ := List.mem_map.mp hx
    simp
  · intro x hx; exact (mem_afterRel t p x hx).2

/-- Following: after `p` in document order and not below `p`. -/
theorem filter_following_allPre {t : Tree} {p : Path} (h : Valid t p) :
    (allPre t).filter (fun q => docLt p q && !p.isPrefixOf q) = afterRel t p := by
  rw [allPre_split t p h, ← List.append_assoc]
  have : ∀ (a c : List Path) (P : Path → Bool), (∀ x ∈ a, P x = false) → (∀ x ∈ c, P x = true) →
      (a ++ c).filter P = c := by
    intro a c P ha hc
    have := filter_split P a c [] ha hc (by simp)
    simpa using this
  apply this
  · intro x hx
    rcases List.mem_append.mp hx with hx | hx
    · simp [docLt_asymm (mem_beforeRel t p x hx)]
    · obtain ⟨y, _, rfl⟩ := List.mem_map.mp hx
      simp
  · intro x hx
    have := mem_afterRel t p x hx
    simp [this.1, this.2]

theorem filter_before_allPre {t : Tree} {p : Path} (h : Valid t p) :
    (allPre t).filter (fun q => docLt q p) = beforeRel t p := by
  rw [allPre_split t p h]
  have : ∀ (a c : List Path) (P : Path → Bool), (∀ x ∈ a, P x = true) → (∀ x ∈ c, P x = false) →
      (a ++ c).filter P = a := by
    intro a c P ha hc
    have := filter_split P [] a c (by simp) ha hc
    simpa using this
  apply this
  · intro x hx; exact mem_beforeRel t p x hx
  · intro x hx
    rcases List.mem_append.mp hx with hx | hx
    · obtain ⟨y, _, rfl⟩ := List.mem_map.mp hx
      by_cases e : p = p ++ y
      · rw [← e, docLt_irrefl]
      · exact docLt_asymm (docLt_of_prefix (by simp) e)
    · exact docLt_asymm (mem_afterRel t p x hx).1

theorem allPreList_take_not_prefix {ks : List Tree} {i : Nat} {p x : Path} (hx : x ∈ allPreList 0 (ks.take i)) :
    x.isPrefixOf (i :: p) = false := by
  obtain ⟨j', q', rfl, _, h2, _⟩ := mem_allPreList hx
  have : (ks.take i).length ≤ i := by simp; omega
  have : ¬ (j' = i) := by omega
  simp [List.isPrefixOf_cons_cons, this]

theorem filter_beforeRel_prec : ∀ (t : Tree) (p : Path),
    (beforeRel t p).filter (fun q => !q.isPrefixOf p) = precRel t p
  | _, [] => by simp [beforeRel, precRel]
  | .node v ks, i :: p => by
    simp only [beforeRel, precRel]
    cases hk : ks[i]? with
    | none => simp
    | some k =>
      have ih := filter_beforeRel_prec k p
      have h1 : (allPreList 0 (ks.take i)).filter (fun q => !q.isPrefixOf (i :: p)) =
          allPreList 0 (ks.take i) :=
        List.filter_eq_self.mpr (fun x hx => by rw [allPreList_take_not_prefix hx]; rfl)
      simp only [List.filter_cons, List.isPrefixOf_nil_left, Bool.not_true, List.filter_append, h1]
      simp only [Bool.false_eq_true, if_false, List.filter_map, Function.comp_def,
        List.isPrefixOf_cons_cons, beq_self_eq_true, Bool.true_and, ih]

theorem filter_beforeRel_anc : ∀ (t : Tree) (p : Path), Valid t p →
    (beforeRel t p).filter (fun q => q.isPrefixOf p) = ancRel p
  | _, [], _ => by simp [beforeRel, ancRel]
  | .node v ks, i :: p, h => by
    unfold Valid at h
    simp only [Tree.at?] at h
    simp only [beforeRel, ancRel]
    cases hk : ks[i]? with
    | none => rw [hk] at h; cases h
    | some k =>
      rw [hk] at h
      have ih := filter_beforeRel_anc k p h
      have h1 : (allPreList 0 (ks.take i)).filter (fun q => q.isPrefixOf (i :: p)) = [] :=
        List.filter_eq_nil_iff.mpr (fun x hx => by rw [allPreList_take_not_prefix hx]; exact Bool.false_ne_true)
      simp only [List.filter_cons, List.isPrefixOf_nil_left, if_true, List.filter_append, h1,
        List.nil_append]
      simp only [List.filter_map, Function.comp_def, List.isPrefixOf_cons_cons, beq_self_eq_true,
        Bool.true_and, ih]

/-- Preceding: before `p` in document order and not an ancestor of `p`. -/
theorem filter_preceding_allPre {t : Tree} {p : Path} (h : Valid t p) :
    (allPre t).filter (fun q => docLt q p && !q.isPrefixOf p) = precRel t p := by
  rw [← filter_beforeRel_prec, ← filter_before_allPre h, List.filter_filter]
  congr 1; funext q; exact Bool.and_comm _ _

/-- Proper ancestors: the proper prefixes of `p`, shortest first. -/
theorem filter_ancestor_allPre {t : Tree} {p : Path} (h : Valid t p) :
    (allPre t).filter (fun q => q.isPrefixOf p && q != p) = ancRel p := by
  rw [← filter_beforeRel_anc t p h, ← filter_before_allPre h, List.filter_filter]
  congr 1; funext q
  cases hp : q.isPrefixOf p
  · simp
  · by_cases e : q = p
    · subst e; simp [docLt_irrefl]
    · simp [e, docLt_of_prefix hp e]

end XotModel.Axes

/-! ## The parts of the pre-order around a node, seen from the node upwards (`π ++ [i]`): this is the direction in which the iterator machines of access.rs walk. -/

namespace XotModel.Axes

theorem at?_cons_node {v : Value} {ks : List Tree} {j : Nat} {π : Path} {s : Tree}
    (h : (Tree.node v ks).at? (j :: π) = some s) : ∃ k, ks[j]? = some k ∧ k.at? π = some s := by
  simp only [Tree.at?] at h
  cases hk : ks[j]? with
  | none => rw [hk] at h; cases h
  | some k => rw [hk] at h; exact ⟨k, rfl, h⟩

theorem afterRel_snoc : ∀ (t : Tree) (π : Path) (v : Value) (ks : List Tree) (i : Nat),
    t.at? π = some (.node v ks) → i < ks.length →
    afterRel t (π ++ [i]) = (allPreList (i + 1) (ks.drop (i + 1))).map (π ++ ·) ++ afterRel t π
  | t, [], v, ks, i, h, hi => by
    simp only [Tree.at?, Option.some.injEq] at h
    subst h
    simp [afterRel, List.getElem?_eq_getElem hi]
  | .node v' ks', j :: π, v, ks, i, h, hi => by
    obtain ⟨k, hk, hk'⟩ := at?_cons_node h
    have ih := afterRel_snoc k π v ks i hk' hi
    simp only [List.cons_append, afterRel, hk, ih, List.map_append, List.map_map,
      Function.comp_def, List.append_assoc]

theorem beforeRel_snoc : ∀ (t : Tree) (π : Path) (v : Value) (ks : List Tree) (i : Nat),
    t.at? π = some (.node v ks) → i < ks.length →
    beforeRel t (π ++ [i]) = beforeRel t π ++ π :: (allPreList 0 (ks.take i)).map (π ++ ·)
  | t, [], v, ks, i, h, hi => by
    simp only [Tree.at?, Option.some.injEq] at h
    subst h
    simp [beforeRel, List.getElem?_eq_getElem hi]
  | .node v' ks', j :: π, v, ks, i, h, hi => by
    obtain ⟨k, hk, hk'⟩ := at?_cons_node h
    have ih := beforeRel_snoc k π v ks i hk' hi
    simp only [List.cons_append, beforeRel, hk, ih, List.map_append, List.map_map,
      Function.comp_def, List.append_assoc, List.map_cons]

theorem precRel_snoc : ∀ (t : Tree) (π : Path) (v : Value) (ks : List Tree) (i : Nat),
    t.at? π = some (.node v ks) → i < ks.length →
    precRel t (π ++ [i]) = precRel t π ++ (allPreList 0 (ks.take i)).map (π ++ ·)
  | t, [], v, ks, i, h, hi => by
    simp only [Tree.at?, Option.some.injEq] at h
    subst h
    simp [precRel, List.getElem?_eq_getElem hi]
  | .node v' ks', j :: π, v, ks, i, h, hi => by
    obtain ⟨k, hk, hk'⟩ := at?_cons_node h
    have ih := precRel_snoc k π v ks i hk' hi
    simp only [List.cons_append, precRel, hk, ih, List.map_append, List.map_map,
      Function.comp_def, List.append_assoc]

theorem ancRel_snoc : ∀ (π : Path) (i : Nat), ancRel (π ++ [i]) = ancRel π ++ [π]
  | [], i => by simp [ancRel]
  | j :: π, i => by simp [ancRel, ancRel_snoc π i]

/-- `ancestors p` lists `p` and then its proper prefixes, longest first. -/
theorem ancestorsR_eq (r : List Nat) : ancestorsR r = r.reverse :: (ancRel r.reverse).reverse := by
  induction r with
  | nil => simp [ancestorsR, ancRel]
  | cons i r ih => simp [ancestorsR, ih, ancRel_snoc]

theorem ancestors_eq (p : Path) : ancestors p = p :: (ancRel p).reverse := by
  simp [ancestors, ancestorsR_eq]

/-! ### Membership and order of the pre-order -/

mutual
  theorem mem_allPre_valid : ∀ (s : Tree) (q : Path), q ∈ allPre s → Valid s q
    | .node v ks, q, h => by
      simp only [allPre, List.mem_cons] at h
      rcases h with rfl | h
      · exact valid_nil _
      · exact mem_allPreList_valid ks 0 v ks q (by simp) h
  theorem mem_allPreList_valid : ∀ (ks : List Tree) (j : Nat) (v : Value) (all : List Tree) (q : Path),
      all.drop j = ks → q ∈ allPreList j ks → Valid (.node v all) q
    | [], _, _, _, _, _, h => by simp [allPreList] at h
    | k :: ks, j, v, all, q, hd, h => by
      simp only [allPreList, List.mem_append, List.mem_map] at h
      have hj : all[j]? = some k := by
        have : (all.drop j)[0]? = some k := by rw [hd]; rfl
        simpa using this
      rcases h with ⟨q', hq', rfl⟩ | h
      · have := mem_allPre_valid k q' hq'
        unfold Valid at *
        simp only [Tree.at?, hj]; exact this
      · refine mem_allPreList_valid ks (j + 1) v all q ?_ h
        have : all.drop (j + 1) = (all.drop j).drop 1 := by simp [List.drop_drop]
        rw [this, hd]; rfl
end

theorem valid_mem_allPre : ∀ (t : Tree) (p : Path), Valid t p → p ∈ allPre t := by
  intro t p h
  rw [allPre_split t p h]
  have : p ∈ (allPre (subAt t p)).map (p ++ ·) := by
    apply List.mem_map.mpr
    refine ⟨[], ?_, by simp⟩
    cases subAt t p with
    | node v ks => simp [allPre]
  simp [this]

theorem mem_allPre_iff (t : Tree) (p : Path) : p ∈ allPre t ↔ Valid t p :=
  ⟨mem_allPre_valid t p, valid_mem_allPre t p⟩

mutual
  theorem allPre_sorted : ∀ s : Tree, (allPre s).Pairwise (fun a b => docLt a b = true)
    | .node v ks => by
      simp only [allPre, List.pairwise_cons]
      refine ⟨?_, allPreList_sorted ks 0⟩
      intro q hq
      obtain ⟨j', q', rfl, _⟩ := mem_allPreList hq
      rfl
  theorem allPreList_sorted : ∀ (ks : List Tree) (j : Nat),
      (allPreList j ks).Pairwise (fun a b => docLt a b = true)
    | [], _ => by simp [allPreList]
    | k :: ks, j => by
      simp only [allPreList, List.pairwise_append]
      refine ⟨?_, allPreList_sorted ks (j + 1), ?_⟩
      · rw [List.pairwise_map]
        exact (allPre_sorted k).imp (by intro a b h; simpa using h)
      · intro a ha b hb
        obtain ⟨a', _, rfl⟩ := List.mem_map.mp ha
        obtain ⟨j', q', rfl, h1, _⟩ := mem_allPreList hb
        have : j < j' := by omega
        simp [this]
end

theorem pairwise_docLt_nodup {l : List Path} (h : l.Pairwise (fun a b => docLt a b = true)) : l.Nodup := by
  apply h.imp
  intro a b hab e
  subst e
  rw [docLt_irrefl] at hab; cases hab

theorem allPre_nodup (t : Tree) : (allPre t).Nodup := pairwise_docLt_nodup (allPre_sorted t)

theorem pre_sorted (t : Tree) : (pre t).Pairwise (fun a b => docLt a b = true) :=
  (allPre_sorted t).filter _

theorem pre_nodup (t : Tree) : (pre t).Nodup := pairwise_docLt_nodup (pre_sorted t)

theorem mem_pre_iff (t : Tree) (p : Path) : p ∈ pre t ↔ Valid t p ∧ isNormalAt t p = true := by
  simp [pre, mem_allPre_iff]

end XotModel.Axes
