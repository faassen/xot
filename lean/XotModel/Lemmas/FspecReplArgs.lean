/-
  C05 for `replace`: what a successful `replace(a, b)` has checked
  (`ReplArgs`) and the three ways it continues: `remove(a)` when `b` already stands next to `a`;
  otherwise `remove_subtree(a)` followed by `insert_after(previous, b)` and one more
  consolidation (of the node that followed `a` with whatever then stands before it), or by
  `prepend(parent, b)` when `a` has no previous sibling.  Before that, the facts about child
  lists, leaves and sites that the files on `replace` share.
-/
import XotModel.Lemmas.FspecPair
import XotModel.Lemmas.ManipShape

namespace XotModel
open HTree Spec

/-! ### Child lists -/

theorem dropTop_comm (a b : Nat) (L : List HTree) : dropTop a (dropTop b L) = dropTop b (dropTop a L) := by
  rw [dropTop_eq_filter, dropTop_eq_filter, dropTop_eq_filter, dropTop_eq_filter, List.filter_filter,
    List.filter_filter]
  congr 1
  funext k
  exact Bool.and_comm _ _

/-! ### Leaves -/

theorem handles_leaf {k : HTree} (h : k.kids = []) : handles k = [k.handle] := by
  cases k with
  | node hh v ks =>
    simp only [HTree.kids] at h
    subst h
    rw [handles_node, handlesList_nil]; rfl

theorem editAt_leaf_of_nil {s : Nat} {g : List HTree → List HTree} (hg : g [] = []) {k : HTree}
    (hk : k.kids = []) : HTree.editAt s g k = k := by
  cases k with
  | node h v ks =>
    simp only [HTree.kids] at hk
    subst hk
    rw [editAt_node]
    split
    · rw [hg]
    · rfl

/-! ### Sites -/

theorem SiteAt.kid_of_mem {Z : Forest} {p : Nat} {v : Value} {L : List HTree} (s : SiteAt Z p v L) {k : HTree}
    (hk : k ∈ L) : Z.get? k.handle = some k ∧ Z.parent? k.handle = some p :=
  ⟨PairAfter.site_getKid s hk, PairAfter.site_parent s hk⟩

theorem isRoot_of_no_ctx {f : Forest} {b : Nat} {t : HTree} (hgb : f.get? b = some t) (hroot : f.ctx? b = none) :
    f.isRoot b = true := by
  rcases Forest.root_or_ctx hgb with h | ⟨cx, h⟩
  · exact h
  · rw [hroot] at h; cases h

theorem isRoot_editAt {f : Forest} {b q : Nat} (G : List HTree → List HTree) (hr : f.isRoot b = true) :
    (f.editAt (some q) G).isRoot b = true := by
  unfold Forest.isRoot at hr ⊢
  rw [Forest.editAt_some_roots, List.any_map]
  simpa [Function.comp, editAt_handle] using hr

theorem SiteAt.cut_other {f : Forest} {po q : Nat} {vo vq : Value} {lo : List HTree} {t : HTree}
    {ro L : List HTree} (so : SiteAt f po vo (lo ++ t :: ro)) (sq : SiteAt f q vq L) (hne : po ≠ q)
    (hqt : q ∉ handles t) :
    SiteAt (f.editAt (some po) (dropTop t.handle)) q vq (L.map (HTree.editAt po (dropTop t.handle))) :=
  so.other sq.kids (fun e => hne e.symm) (dropTop t.handle) (handlesList_dropTop_sublist _ _)
    (findList?_dropTop _ (fun k hk hkb => by rw [fs_eq_of_mem_of_handle so.nodupKids.1 hk hkb]; exact hqt))

theorem child_inside {Z : Forest} {x : Nat} {u : HTree} {po : Nat} {vo : Value} {cl : List HTree} {w : HTree}
    {cr : List HTree} (hgx : Z.get? x = some u) (so : SiteAt Z po vo (cl ++ w :: cr)) (hin : po ∈ handles u) :
    w.handle ∈ handles u := by
  have e1 : find? po u = some (.node po vo (cl ++ w :: cr)) := by
    rw [← findList?_inside Z.roots u so.nd hgx hin, ← Forest.get?_eq]; exact so.kids
  apply (fa_find?_sublist _ u _ e1).subset
  rw [handles_node]
  exact List.mem_cons_of_mem _ (rootHandle_mem_handlesList (List.mem_append_right _ List.mem_cons_self))

theorem text_kid_ne {X : Forest} {p : Nat} {v : Value} {L : List HTree} (s : SiteAt X p v L)
    {x : Nat} {vx : Value} {Lx : List HTree} (sx : SiteAt X x vx Lx) (hvx : vx.isText = false) :
    ∀ k ∈ L, k.value.isText = true → k.handle ≠ x := by
  exact fun k hk hkt => PairAfter.text_ne_site sx hvx (PairAfter.site_getKid s hk) hkt

theorem ReplArgs.get?_editAt_site {f : Forest} {q : Nat} {vq : Value} {L : List HTree} (s : SiteAt f q vq L)
    {x : Nat} (hne : x ≠ q) (g : List HTree → List HTree) (hlook : findList? x (g L) = findList? x L) :
    (f.editAt (some q) g).get? x = (f.get? x).map (HTree.editAt q g) :=
  Forest.get?_editAt_other hne s.nd (by
    intro v' L' e
    rw [s.kids] at e
    injection Option.some.inj e with _ _ e3
    subst e3
    exact hlook)

/-- The facts established by the argument checks of `replace(a, b)`: `a` is the child `A` of `q`
    (a normal node), `b` is the root of the subtree `t` (normal, not a document), `q` does not lie
    in `t` and `b` does not lie in `A`. -/
structure ReplArgs (f : Forest) (a b q : Nat) (vq : Value) (l : List HTree) (A : HTree) (r : List HTree)
    (t : HTree) : Prop where
  sq : SiteAt f q vq (l ++ A :: r)
  ha : A.handle = a
  hAn : A.value.isNormal = true
  hvq : vq.isElement = true ∨ vq.isDocument = true
  hgb : f.get? b = some t
  htn : t.value.isNormal = true
  htd : t.value.isDocument = false
  hqt : q ∉ handles t
  hbA : b ∉ handles A

namespace ReplArgs
variable {f : Forest} {a b q : Nat} {vq : Value} {l : List HTree} {A : HTree} {r : List HTree} {t : HTree}

theorem hb (h : ReplArgs f a b q vq l A r t) : t.handle = b := (findList?_some f.roots t h.hgb).1

theorem hab (h : ReplArgs f a b q vq l A r t) : a ≠ b := by
  intro e
  apply h.hbA
  rw [← e, ← h.ha]
  exact handle_mem_handles A

/-- `a` does not lie in the replacing subtree (its parent does not). -/
theorem hat (h : ReplArgs f a b q vq l A r t) : a ∉ handles t := by
  intro hin
  exact h.hqt (parent_inside h.hgb h.sq (by rw [h.ha]; exact hin) (by rw [h.ha]; exact h.hab))

theorem live_a (h : ReplArgs f a b q vq l A r t) : f.get? a = some A := h.ha ▸ h.sq.getKid

theorem ctx_a (h : ReplArgs f a b q vq l A r t) : f.ctx? a = some ⟨q, l, A, r⟩ := h.ha ▸ h.sq.ctx

theorem parent_b_not_in_A (h : ReplArgs f a b q vq l A r t) {po : Nat} {vo : Value} {lo ro : List HTree}
    (so : SiteAt f po vo (lo ++ t :: ro)) : po ∉ handles A :=
  fun hin => h.hbA (h.hb ▸ child_inside h.live_a so hin)

theorem kid_eq (h : ReplArgs f a b q vq l A r t) {x : HTree} (hx : x ∈ l ++ A :: r) (hb : x.handle = b) :
    x = t := by
  have := (h.sq.kid_of_mem hx).1
  rw [hb, h.hgb] at this
  exact (Option.some.inj this).symm

end ReplArgs

theorem specReplace_unfold {keep : Keep} {a b : Nat} {f : Forest} {t : HTree} {q : Nat}
    (hgb : f.get? b = some t) (hpa : f.parent? a = some q) :
    specReplace keep a b f =
      (((f.editAt (f.parent? b) (dropTop b)).editAt (some q) (replaceTop a (fun _ => [t]))).mergeAt keep
        (f.parent? b)).mergeAt keep (some q) := by
  unfold specReplace
  rw [hgb, hpa]

/-- The forest after `remove_subtree(a)`. -/
theorem dropSubtree_of_site {f : Forest} {q : Nat} {vq : Value} {l : List HTree} {A : HTree} {r : List HTree}
    (s : SiteAt f q vq (l ++ A :: r)) :
    f.dropSubtree A.handle = f.editAt (some q) (dropTop A.handle) := by
  unfold Forest.dropSubtree
  rw [Forest.cut_of_ctx s.nd s.ctx]
  simp only
  obtain ⟨ndL, _⟩ := s.nodupKids
  obtain ⟨tl, tr⟩ := tops_ne_of_nodup ndL
  apply s.congr
  rw [replaceTop_mid rfl tl, dropTop_mid rfl tl tr]
  simp

/-- The argument checks of `replace(a, b)` establish `ReplArgs`. -/
theorem ReplArgs.of_checks {f : Forest} {a b q : Nat} (nd : f.allHandles.Nodup) (hpa : f.parent? a = some q)
    (hna : f.isNormalNode a = true) (hsc : f.structureCheck (some q) b = true)
    (hanc : (f.ancestors b).contains a = false) : ∃ vq l A r t, ReplArgs f a b q vq l A r t := by
  cases hctx : f.ctx? a with
  | none => rw [Forest.parent?_of_no_ctx hctx] at hpa; cases hpa
  | some cx =>
  obtain ⟨e0, vq, sq⟩ := SiteAt.of_ctx nd hctx
  have hq : cx.parent = q := by
    rw [Forest.parent?_of_ctx? hctx] at hpa; exact Option.some.inj hpa
  obtain ⟨q', l, A, r⟩ := cx
  simp only at e0 sq hq
  subst hq
  obtain ⟨vq', Lq, t, hgq, hgb, hqt, htn, htd, hvq⟩ := Forest.structureCheck_unpack nd hsc
  have evq : vq' = vq := by
    rw [sq.kids] at hgq
    injection (Option.some.inj hgq) with _ e2 _
    exact e2.symm
  subst evq
  have hAn : A.value.isNormal = true := by
    unfold Forest.isNormalNode Forest.value? at hna
    rw [← e0, sq.getKid] at hna
    simpa using hna
  have hbA : b ∉ handles A := by
    intro hin
    have : (f.ancestors b).contains a = true :=
      (Forest.ancestors_contains_iff nd).2 ⟨A, e0 ▸ sq.getKid, hin⟩
    rw [this] at hanc; cases hanc
  exact ⟨vq', l, A, r, t, sq, e0, hAn, hvq, hgb, htn, htd, hqt, hbA⟩

/-- What a successful `replace(a, b)` has checked, and how it continues. -/
theorem replace_unpack {f : Forest} {a b : Nat} (inv : f.Inv) (hok : (f.replace a b).2 = .ok) :
    ∃ q vq l A r t, ReplArgs f a b q vq l A r t ∧
      ((prevOf l A = some b ∨ nextOf r A = some b) ∧ f.replace a b = f.remove a
       ∨ (prevOf l A ≠ some b ∧ nextOf r A ≠ some b) ∧
          f.replace a b =
            (match prevOf l A with
             | some p =>
               (match (f.editAt (some q) (dropTop a)).insertAfter p b with
                | (f2, .ok) =>
                  (match nextOf r A with
                   | some n => ((f2.removeConsolidate (f2.prevSibling n) (some n)).1, .ok)
                   | none => (f2, .ok))
                | (f2, r) => (f2, r))
             | none => (f.editAt (some q) (dropTop a)).prepend q b)) := by
  rcases Forest.replace_shape f a b with ⟨_, e⟩ | ⟨_, q, _, hpa, hna, hsc, hanc, e⟩
  · rw [e] at hok; cases hok
  obtain ⟨vq, l, A, r, t, ra⟩ := ReplArgs.of_checks inv.nodup hpa hna hsc hanc
  refine ⟨q, vq, l, A, r, t, ra, ?_⟩
  rw [e]
  unfold Forest.replaceBody
  rw [Forest.prevSibling_of_ctx ra.ctx_a, Forest.nextSibling_of_ctx ra.ctx_a]
  simp only
  by_cases hadj : prevOf l A = some b ∨ nextOf r A = some b
  · left
    refine ⟨hadj, ?_⟩
    have : (prevOf l A == some b || nextOf r A == some b) = true := by
      rcases hadj with h | h <;> simp [h]
    rw [this]; rfl
  · right
    have h1 : prevOf l A ≠ some b := fun h => hadj (Or.inl h)
    have h2 : nextOf r A ≠ some b := fun h => hadj (Or.inr h)
    refine ⟨⟨h1, h2⟩, ?_⟩
    have : (prevOf l A == some b || nextOf r A == some b) = false := by
      simp [h1, h2]
    rw [this]
    simp only [Bool.false_eq_true, if_false]
    rw [← ra.ha, dropSubtree_of_site ra.sq]
    cases prevOf l A with
    | none => rfl
    | some p =>
      simp only
      rcases hia : (f.editAt (some q) (dropTop A.handle)).insertAfter p b with ⟨f2, res⟩
      cases res <;> rfl

end XotModel
