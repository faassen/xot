/-
  Xot's own reader of the XML declaration (`encoding::xml_declaration`) on every declaration the
  grammar allows.  On strings: the loop over the pseudo-attributes returns the value of the first
  one called `encoding` (`pseudoAttrs_render`, `declFromAscii_render`).  From bytes to that string:
  `Spells bs s`, the bytes carry the ASCII string with any NUL bytes between (single-byte, UTF-8,
  UTF-16 and UCS-4 forms, after a byte order mark): `xmlDeclaration_spelled`.
-/
import XotModel.Lemmas.BytesCodec
import XotModel.Lemmas.LexFreeDefs

/-! ### The reader on strings

  A list of pseudo-attributes `lead name before = after q value q` (any names, any
  number, any order, either quote, XML white space anywhere it may stand) followed by white space is
  read by the `while` loop as: the value of the first pseudo-attribute called `encoding`
  (`pseudoAttrs_render`); `LDecl.render` is such a list (`declFromAscii_render`).
-/

namespace XotModel.Bytes

/-! ### The loop over the pseudo-attributes -/

theorem isWhite_of_xmlSpace {c : Char} (h : isXmlSpace c = true) : isWhite c = true := by
  simp only [isXmlSpace, Bool.or_eq_true, beq_iff_eq] at h
  rcases h with ((rfl | rfl) | rfl) | rfl <;> decide

theorem white_of_isWs {w : Str} (h : isWs w = true) : ∀ c ∈ w, isWhite c = true := by
  intro c hc
  exact isWhite_of_xmlSpace (List.all_eq_true.mp h c hc)

theorem splitOnce_append (c : Char) (a b : Str) (h : c ∉ a) : splitOnce c (a ++ c :: b) = some (a, b) := by
  induction a with
  | nil => simp [splitOnce]
  | cons x xs ih =>
    have hx : (x == c) = false := by
      simp only [beq_eq_false_iff_ne, ne_eq]; intro e; exact h (e ▸ List.mem_cons_self)
    simp only [List.cons_append, splitOnce, hx, Bool.false_eq_true, if_false,
      ih (fun hm => h (List.mem_cons_of_mem _ hm))]

theorem trimStart_white (w x : Str) (hw : ∀ c ∈ w, isWhite c = true) : trimStart (w ++ x) = trimStart x :=
  List.dropWhile_append_of_pos hw

theorem trimStart_all_white (w : Str) (hw : ∀ c ∈ w, isWhite c = true) : trimStart w = [] := by
  have := trimStart_white w [] hw
  simpa [trimStart] using this

theorem trimStart_cons (c : Char) (x : Str) (hc : isWhite c = false) : trimStart (c :: x) = c :: x := by
  simp [trimStart, hc]

theorem trimEnd_white (n w : Str) (hw : ∀ c ∈ w, isWhite c = true) : trimEnd (n ++ w) = trimEnd n := by
  unfold trimEnd
  rw [List.reverse_append, List.dropWhile_append_of_pos (fun c hc => hw c (List.mem_reverse.mp hc))]

theorem trimEnd_noWhite (n : Str) (hn : ∀ c ∈ n, isWhite c = false) : trimEnd n = n := by
  unfold trimEnd
  cases h : n.reverse with
  | nil => rw [List.reverse_eq_nil_iff.mp h]; rfl
  | cons c cs =>
    have hc : isWhite c = false := hn c (List.mem_reverse.mp (h ▸ List.mem_cons_self))
    rw [List.dropWhile_cons, hc]
    simp only [Bool.false_eq_true, if_false]
    rw [← h, List.reverse_reverse]

/-- `name.trim_end()` of what `split_once('=')` leaves of `lead name before`. -/
theorem trim_name (lead name before : Str) (hl : ∀ c ∈ lead, isWhite c = true)
    (hb : ∀ c ∈ before, isWhite c = true) (hn : ∀ c ∈ name, isWhite c = false) :
    trimEnd (trimStart (lead ++ (name ++ before))) = name := by
  rw [trimStart_white _ _ hl]
  cases name with
  | nil => rw [List.nil_append, trimStart_all_white _ hb]; rfl
  | cons c cs =>
    rw [List.cons_append, trimStart_cons _ _ (hn c List.mem_cons_self), ← List.cons_append,
      trimEnd_white _ _ hb, trimEnd_noWhite _ hn]

/-- One pseudo-attribute as written. -/
structure PAttr where
  lead : Str
  name : Str
  eq : EqLayout
  val : Str
  deriving Repr, DecidableEq

def PAttr.render (a : PAttr) : Str := a.lead ++ (a.name ++ a.eq.render a.val)

def renderAttrs : List PAttr → Str
  | [] => []
  | a :: as => a.render ++ renderAttrs as

/-- What the reader needs of a pseudo-attribute: white space where white space stands, a name without
    `=` and white space, a value without its own quote. -/
def PAttr.ok (a : PAttr) : Prop :=
  isWs a.lead = true ∧ isWs a.eq.before = true ∧ isWs a.eq.after = true ∧
    (∀ c ∈ a.name, c ≠ '=' ∧ isWhite c = false) ∧ quoteChar a.eq.single ∉ a.val

/-- The value the loop answers: that of the first pseudo-attribute called `encoding`. -/
def firstEncoding : List PAttr → Option Str
  | [] => none
  | a :: as => if a.name == encodingWord then some a.val else firstEncoding as

theorem quoteChar_notWhite (s : Bool) : isWhite (quoteChar s) = false := by cases s <;> decide
theorem quoteChar_isQuote (s : Bool) : (quoteChar s == '"' || quoteChar s == '\'') = true := by
  cases s <;> decide

theorem PAttr.render_app (a : PAttr) (X : Str) :
    a.render ++ X = (a.lead ++ (a.name ++ a.eq.before)) ++ '=' ::
      (a.eq.after ++ quoteChar a.eq.single :: (a.val ++ quoteChar a.eq.single :: X)) := by
  simp only [PAttr.render, EqLayout.render, List.append_assoc, List.cons_append, List.nil_append]

/-- One round of the loop, on one pseudo-attribute followed by `X`: the value when the name is
    `encoding`, the loop on what follows otherwise. -/
theorem pseudoAttrs_attr (a : PAttr) (h : a.ok) (X : Str) (f : Nat) :
    pseudoAttrs (f + 1) (trimStart (a.render ++ X)) =
      if a.name == encodingWord then some a.val else pseudoAttrs f (trimStart X) := by
  obtain ⟨hl, hb, ha, hn, hv⟩ := h
  rw [PAttr.render_app]
  have hne : ∀ c ∈ a.lead ++ (a.name ++ a.eq.before), c ≠ '=' := by
    intro c hc
    simp only [List.mem_append] at hc
    rcases hc with hc | hc | hc
    · intro e; subst e; exact absurd (white_of_isWs hl _ hc) (by decide)
    · exact (hn c hc).1
    · intro e; subst e; exact absurd (white_of_isWs hb _ hc) (by decide)
  -- `trim_start` of the whole keeps the `=` and what follows
  have hts : ∀ Y : Str, trimStart ((a.lead ++ (a.name ++ a.eq.before)) ++ '=' :: Y) =
      trimStart (a.lead ++ (a.name ++ a.eq.before)) ++ '=' :: Y := by
    intro Y
    unfold trimStart
    rw [List.dropWhile_append]
    split
    · rename_i h
      rw [List.isEmpty_iff.mp h, List.nil_append, List.dropWhile_cons]
      simp [show isWhite '=' = false by decide]
    · rfl
  have hnotin : '=' ∉ trimStart (a.lead ++ (a.name ++ a.eq.before)) :=
    fun hm => hne _ ((List.dropWhile_sublist _).subset hm) rfl
  rw [hts, pseudoAttrs, show (trimStart (a.lead ++ (a.name ++ a.eq.before)) ++ '=' :: _).isEmpty = false by simp]
  simp only [Bool.false_eq_true, if_false]
  rw [splitOnce_append _ _ _ hnotin]
  simp only []
  rw [trimStart_white _ _ (white_of_isWs ha), trimStart_cons _ _ (quoteChar_notWhite _)]
  simp only [quoteChar_isQuote, if_true]
  rw [splitOnce_append _ _ _ hv]
  simp only []
  rw [trim_name _ _ _ (white_of_isWs hl) (white_of_isWs hb) (fun c hc => (hn c hc).2)]

theorem pseudoAttrs_render (as : List PAttr) (wEnd : Str) (hok : ∀ a ∈ as, a.ok) (hw : isWs wEnd = true) :
    ∀ f, (renderAttrs as ++ wEnd).length < f →
      pseudoAttrs f (trimStart (renderAttrs as ++ wEnd)) = firstEncoding as := by
  induction as with
  | nil =>
    intro f hf
    rw [renderAttrs, List.nil_append, trimStart_all_white _ (white_of_isWs hw)]
    cases f with
    | zero => rfl
    | succ f => simp [pseudoAttrs, firstEncoding]
  | cons a as ih =>
    intro f hf
    rw [renderAttrs, List.append_assoc] at hf ⊢
    cases f with
    | zero => exact absurd hf (Nat.not_lt_zero _)
    | succ f =>
      rw [pseudoAttrs_attr a (hok a List.mem_cons_self), firstEncoding]
      split
      · rfl
      · refine ih (fun x hx => hok x (List.mem_cons_of_mem _ hx)) f ?_
        simp only [PAttr.render_app, List.length_append, List.length_cons] at hf ⊢
        omega

/-! ### `LDecl.render` is such a list -/

def versionWord : Str := ['v', 'e', 'r', 's', 'i', 'o', 'n']
def standaloneWord : Str := ['s', 't', 'a', 'n', 'd', 'a', 'l', 'o', 'n', 'e']

def attrsOf (d : LDecl) : List PAttr :=
  ⟨d.w0, versionWord, d.vEq, '1' :: '.' :: d.minor⟩ ::
    ((match d.encoding with | some e => [⟨d.wEnc, encodingWord, d.eEq, e⟩] | none => []) ++
     (match d.standalone with | some b => [⟨d.wSa, standaloneWord, d.sEq, yesNo b⟩] | none => []))

theorem mem_attrsOf {d : LDecl} {a : PAttr} (h : a ∈ attrsOf d) :
    a = ⟨d.w0, versionWord, d.vEq, '1' :: '.' :: d.minor⟩ ∨
      (∃ e, d.encoding = some e ∧ a = ⟨d.wEnc, encodingWord, d.eEq, e⟩) ∨
      (∃ b, d.standalone = some b ∧ a = ⟨d.wSa, standaloneWord, d.sEq, yesNo b⟩) := by
  simp only [attrsOf, List.mem_cons, List.mem_append] at h
  rcases h with rfl | h | h
  · exact .inl rfl
  · cases he : d.encoding with
    | none => rw [he] at h; cases h
    | some e => rw [he] at h; exact .inr (.inl ⟨e, rfl, List.mem_singleton.mp h⟩)
  · cases hs : d.standalone with
    | none => rw [hs] at h; cases h
    | some b => rw [hs] at h; exact .inr (.inr ⟨b, rfl, List.mem_singleton.mp h⟩)

theorem render_eq_attrs (d : LDecl) :
    d.render = ['<', '?', 'x', 'm', 'l'] ++ (' ' :: (renderAttrs (attrsOf d) ++ d.wEnd) ++ ['?', '>']) := by
  cases he : d.encoding <;> cases hs : d.standalone <;>
    simp only [LDecl.render, LDecl.encPart, LDecl.saPart, renderAttrs, PAttr.render, attrsOf, he, hs,
      List.append_assoc, List.cons_append, List.nil_append, List.append_nil] <;> rfl

theorem firstEncoding_attrsOf (d : LDecl) : firstEncoding (attrsOf d) = d.encoding := by
  cases he : d.encoding <;> cases hs : d.standalone <;>
    simp [attrsOf, firstEncoding, he, hs, versionWord, encodingWord, standaloneWord]

theorem digit_notQuote {c : Char} (h : Lex.isXmlDigit c = true) (s : Bool) : c ≠ quoteChar s := by
  intro e; subst e; cases s <;> simp [Lex.isXmlDigit, quoteChar] at h

theorem encChar_notQuote {c : Char} (h : isEncChar c = true) (s : Bool) : c ≠ quoteChar s := by
  intro e; subst e; cases s <;> simp [isEncChar, Lex.isXmlLetter, Lex.isXmlDigit, quoteChar] at h

theorem word_ok (w : Str) (h : w = versionWord ∨ w = encodingWord ∨ w = standaloneWord) :
    ∀ c ∈ w, c ≠ '=' ∧ isWhite c = false := by
  rcases h with rfl | rfl | rfl <;> decide

theorem attrsOf_ok (d : LDecl) (hok : d.ok = true) : ∀ a ∈ attrsOf d, a.ok := by
  simp only [LDecl.ok, Bool.and_eq_true, EqLayout.ok] at hok
  obtain ⟨⟨⟨⟨⟨hmin, hw0⟩, hv1, hv2⟩, henc⟩, hsa⟩, _⟩ := hok
  intro a ha
  rcases mem_attrsOf ha with rfl | ⟨e, he, rfl⟩ | ⟨b, hs, rfl⟩
  · refine ⟨hw0, hv1, hv2, word_ok _ (Or.inl rfl), ?_⟩
    intro hm
    simp only [List.mem_cons] at hm
    rcases hm with h | h | h
    · cases hq : d.vEq.single <;> rw [hq] at h <;> simp [quoteChar] at h
    · cases hq : d.vEq.single <;> rw [hq] at h <;> simp [quoteChar] at h
    · exact digit_notQuote (List.all_eq_true.mp hmin _ h) _ rfl
  · rw [he] at henc
    simp only [Bool.and_eq_true, Bool.not_eq_true'] at henc
    obtain ⟨⟨⟨he1, he2⟩, _⟩, he3, he4⟩ := henc
    exact ⟨he2, he3, he4, word_ok _ (Or.inr (Or.inl rfl)),
      fun hm => encChar_notQuote (List.all_eq_true.mp he1 _ hm) _ rfl⟩
  · rw [hs] at hsa
    simp only [Bool.and_eq_true] at hsa
    obtain ⟨⟨hs1, _⟩, hs3, hs4⟩ := hsa
    refine ⟨hs1, hs3, hs4, word_ok _ (Or.inr (Or.inr rfl)), ?_⟩
    cases b <;> cases hq : d.sEq.single <;> simp [yesNo, quoteChar]

theorem stripSuffix_append (p y : Str) : stripSuffix p (y ++ p) = some y := by
  unfold stripSuffix
  have : p.isSuffixOf (y ++ p) = true := List.isSuffixOf_iff_suffix.mpr (List.suffix_append y p)
  rw [this]
  simp

/-- The string part of `xml_declaration` on a rendered declaration: the label, or `none` when the
    declaration has no `encoding`. -/
theorem declFromAscii_render (d : LDecl) (hok : d.ok = true) : declFromAscii d.render = d.encoding := by
  rw [render_eq_attrs]
  unfold declFromAscii
  have h1 : stripPrefix ['<', '?', 'x', 'm', 'l']
      (['<', '?', 'x', 'm', 'l'] ++ (' ' :: (renderAttrs (attrsOf d) ++ d.wEnd) ++ ['?', '>'])) =
      some (' ' :: (renderAttrs (attrsOf d) ++ d.wEnd) ++ ['?', '>']) := by
    simp [stripPrefix, List.isPrefixOf]
  rw [h1]
  simp only []
  rw [stripSuffix_append]
  simp only [List.head?_cons, Option.any_some, show isAsciiWs ' ' = true by decide, Bool.not_true,
    Bool.false_eq_true, if_false]
  have hwEnd : isWs d.wEnd = true := by
    simp only [LDecl.ok, Bool.and_eq_true] at hok
    exact hok.2
  rw [show (' ' :: (renderAttrs (attrsOf d) ++ d.wEnd)) = [' '] ++ (renderAttrs (attrsOf d) ++ d.wEnd) from rfl,
    trimStart_white [' '] _ (by decide)]
  rw [pseudoAttrs_render _ _ (attrsOf_ok d hok) hwEnd _
    (by simp only [List.length_cons, List.length_append]; omega), firstEncoding_attrsOf]

/-! ### The fuel of the loop is only a device -/

theorem splitOnce_length (c : Char) : ∀ (s a b : Str), splitOnce c s = some (a, b) → a.length + b.length + 1 = s.length := by
  intro s
  induction s with
  | nil => intro a b h; cases h
  | cons x xs ih =>
    intro a b h
    rw [splitOnce] at h
    split at h
    · cases h; simp
    · cases h2 : splitOnce c xs with
      | none => rw [h2] at h; cases h
      | some p =>
        obtain ⟨a', b'⟩ := p
        rw [h2] at h
        cases h
        have := ih a' b h2
        simp only [List.length_cons]; omega

theorem trimStart_length_le (s : Str) : (trimStart s).length ≤ s.length :=
  (List.dropWhile_sublist _).length_le

theorem pseudoAttrs_fuel : ∀ (f g : Nat) (s : Str), s.length < f → s.length < g → pseudoAttrs f s = pseudoAttrs g s := by
  intro f
  induction f with
  | zero => intro g s h; exact absurd h (Nat.not_lt_zero _)
  | succ f ih =>
    intro g s hf hg
    cases g with
    | zero => exact absurd hg (Nat.not_lt_zero _)
    | succ g =>
      rw [pseudoAttrs, pseudoAttrs]
      split
      · rfl
      · cases h1 : splitOnce '=' s with
        | none => rfl
        | some p =>
          obtain ⟨name, after⟩ := p
          have l1 := splitOnce_length _ _ _ _ h1
          simp only []
          cases h2 : trimStart after with
          | nil => rfl
          | cons q after1 =>
            simp only []
            have l2 : after1.length + 1 ≤ after.length := by
              have := trimStart_length_le after
              rw [h2] at this
              simpa using this
            split
            · cases h3 : splitOnce q after1 with
              | none => rfl
              | some p2 =>
                obtain ⟨value, after2⟩ := p2
                have l3 := splitOnce_length _ _ _ _ h3
                simp only []
                split
                · rfl
                · have l4 := trimStart_length_le after2
                  exact ih g _ (by omega) (by omega)
            · rfl

end XotModel.Bytes

/-! ### From bytes to the ASCII string

  `Spells` covers the single-byte / UTF-8 form and
  UTF-16 and UCS-4 code units in either byte order; a byte order mark (`declBoms`: the ones the
  reader removes) may stand in front.  Main result `xmlDeclaration_spelled`: if the bytes after the
  optional byte order mark spell a rendered declaration — of ANY length (/repo c3fcdf4) — the reader
  answers the declaration's label (`none` when it has no `encoding`), whatever follows.
  `xmlDeclaration_non_ascii_none`: a byte ≥ 0x80 before the first `>` (after the mark): `none`.
-/

namespace XotModel.Bytes

/-- The bytes `bs` carry the ASCII string `s`: one byte per character, in order, with any number of NUL
    bytes (the only bytes the `for` loop of `xml_declaration` skips, as of /repo 41ece46) before, between
    and after them. -/
inductive Spells : Bytes → Str → Prop
  | nil : Spells [] []
  | skip {bs : Bytes} {s : Str} : Spells bs s → Spells (0 :: bs) s
  | char {c : Char} {bs : Bytes} {s : Str} :
      0 < c.toNat → c.toNat < 0x80 → Spells bs s → Spells (c.toNat :: bs) (c :: s)

theorem Spells.zeros_append {bs : Bytes} {s : Str} (n : Nat) (hs : Spells bs s) :
    Spells (List.replicate n 0 ++ bs) s := by
  induction n with
  | zero => exact hs
  | succ n ih => exact Spells.skip ih

theorem Spells.bytes_lt {bs : Bytes} {s : Str} (hs : Spells bs s) : ∀ b ∈ bs, b < 0x80 := by
  induction hs with
  | nil => intro b hb; cases hb
  | skip _ ih =>
    intro b hb
    rcases List.mem_cons.mp hb with rfl | hb
    · omega
    · exact ih b hb
  | char _ h1 _ ih =>
    intro b hb
    rcases List.mem_cons.mp hb with rfl | hb
    · exact h1
    · exact ih b hb

theorem Spells.length_le {bs : Bytes} {s : Str} (hs : Spells bs s) : s.length ≤ bs.length := by
  induction hs with
  | nil => exact Nat.le_refl _
  | skip _ ih => simp only [List.length_cons]; omega
  | char _ _ _ ih => simp only [List.length_cons]; omega

theorem collectAscii_zero (bs : Bytes) : collectAscii (0 :: bs) = collectAscii bs := by
  rw [collectAscii]; rfl

/-- The `for` loop on bytes that spell `body ++ ">"` (no other `>`): exactly that string, whatever
    follows. -/
theorem collectAscii_spells {pre : Bytes} {s : Str} (hs : Spells pre s) :
    ∀ body, s = body ++ ['>'] → '>' ∉ body → ∀ x, collectAscii (pre ++ x) = some (body ++ ['>']) := by
  induction hs with
  | nil => intro body h; cases body <;> cases h
  | skip _ ih =>
    intro body h hn x
    rw [List.cons_append, collectAscii_zero]
    exact ih body h hn x
  | @char c bs s h0 h1 _ ih =>
    intro body h hn x
    have hz : (c.toNat == 0) = false := by simp only [beq_eq_false_iff_ne, ne_eq]; omega
    have hh : ¬ (c.toNat ≥ 0x80) := by omega
    cases body with
    | nil =>
      simp only [List.nil_append, List.cons.injEq] at h
      obtain ⟨rfl, _⟩ := h
      rw [List.cons_append, collectAscii, hz]
      rfl
    | cons c' body' =>
      simp only [List.cons_append, List.cons.injEq] at h
      obtain ⟨rfl, hs'⟩ := h
      have hne : c ≠ '>' := fun e => hn (e ▸ List.mem_cons_self)
      have hne' : (c.toNat == 0x3E) = false := by
        simp only [beq_eq_false_iff_ne, ne_eq]
        intro e; exact hne (Char.toNat_inj.mp e)
      rw [List.cons_append, collectAscii, hz]
      simp only [Bool.false_eq_true, if_false, hh, hne']
      rw [ih body' hs' (fun hm => hn (List.mem_cons_of_mem _ hm)) x]
      simp only [Char.ofNat_toNat, List.cons_append]

/-- A byte ≥ 0x80 before the first `>`: the loop ends with `None`. -/
theorem collectAscii_high (p : Bytes) (b : Nat) (rest : Bytes) (hb : 0x80 ≤ b)
    (hp : ∀ x ∈ p, x < 0x80 ∧ x ≠ 0x3E) : collectAscii (p ++ b :: rest) = none := by
  induction p with
  | nil =>
    rw [List.nil_append, collectAscii]
    have : (b == 0) = false := by simp only [beq_eq_false_iff_ne, ne_eq]; omega
    simp [this, hb]
  | cons x xs ih =>
    have hx := hp x List.mem_cons_self
    have ih' := ih (fun y hy => hp y (List.mem_cons_of_mem _ hy))
    rw [List.cons_append, collectAscii]
    split
    · exact ih'
    · have : ¬ (x ≥ 0x80) := by omega
      have h3 : (x == 0x3E) = false := by simp only [beq_eq_false_iff_ne, ne_eq]; exact hx.2
      simp only [this, if_false, h3, Bool.false_eq_true, ih']

/-! ### The byte order marks the reader removes -/

/-- No mark, UTF-8, UTF-16LE (also the first half of UCS-4LE), UTF-16BE, UCS-4BE, UCS-4 (2143). -/
def declBoms : List Bytes :=
  [[], [0xEF, 0xBB, 0xBF], [0xFF, 0xFE], [0xFE, 0xFF], [0, 0, 0xFE, 0xFF], [0, 0, 0xFF, 0xFE]]

theorem stripDeclBom_of_lt (a b c : Nat) (rest : Bytes) (ha : a < 0x80) (hc : c < 0x80) :
    stripDeclBom (a :: b :: c :: rest) = a :: b :: c :: rest := by
  have a1 : ¬ 0xEF = a := by omega
  have a2 : ¬ 0xFF = a := by omega
  have a3 : ¬ 0xFE = a := by omega
  have c2 : ¬ 0xFF = c := by omega
  have c3 : ¬ 0xFE = c := by omega
  simp [stripDeclBom, List.isPrefixOf, a1, a2, a3, c2, c3]

theorem stripDeclBom_bom (bom x : Bytes) (hb : bom ∈ declBoms) (hx : stripDeclBom x = x) :
    stripDeclBom (bom ++ x) = x := by
  simp only [declBoms, List.mem_cons, List.not_mem_nil, or_false] at hb
  rcases hb with rfl | rfl | rfl | rfl | rfl | rfl
  · exact hx
  all_goals simp [stripDeclBom, List.isPrefixOf]

theorem stripDeclBom_spells {pre : Bytes} {s : Str} (hs : Spells pre s) (hlen : 3 ≤ s.length) (tail : Bytes) :
    stripDeclBom (pre ++ tail) = pre ++ tail := by
  have hl := hs.length_le
  have hb := hs.bytes_lt
  rcases pre with _ | ⟨a, _ | ⟨b, _ | ⟨c, rest⟩⟩⟩
  · simp only [List.length_nil] at hl; omega
  · simp only [List.length_cons, List.length_nil] at hl; omega
  · simp only [List.length_cons, List.length_nil] at hl; omega
  · exact stripDeclBom_of_lt a b c _ (hb a (by simp)) (hb c (by simp))

/-! ### Characters of a rendered declaration: ASCII, not NUL, `>` only at the very end -/

def plainB (c : Char) : Bool := decide (0 < c.toNat) && decide (c.toNat < 0x80) && (c != '>')

theorem plain_ws {w : Str} (h : isWs w = true) : w.all plainB = true := by
  rw [List.all_eq_true]
  intro c hc
  have := List.all_eq_true.mp h c hc
  simp only [isXmlSpace, Bool.or_eq_true, beq_iff_eq] at this
  rcases this with ((rfl | rfl) | rfl) | rfl <;> decide

theorem plain_digits {w : Str} (h : w.all Lex.isXmlDigit = true) : w.all plainB = true := by
  rw [List.all_eq_true] at h ⊢
  intro c hc
  have := h c hc
  simp only [Lex.isXmlDigit, Bool.and_eq_true, decide_eq_true_eq] at this
  simp only [plainB, Bool.and_eq_true, decide_eq_true_eq, bne_iff_ne, ne_eq]
  refine ⟨⟨by omega, by omega⟩, ?_⟩
  intro e; subst e; simp at this

theorem plain_enc {w : Str} (h : w.all isEncChar = true) : w.all plainB = true := by
  rw [List.all_eq_true] at h ⊢
  intro c hc
  have := h c hc
  simp only [isEncChar, Lex.isXmlLetter, Lex.isXmlDigit, Bool.or_eq_true, Bool.and_eq_true, decide_eq_true_eq,
    beq_iff_eq] at this
  simp only [plainB, Bool.and_eq_true, decide_eq_true_eq, bne_iff_ne, ne_eq]
  rcases this with (((h | h) | rfl) | rfl) | rfl
  · rcases h with h | h
    · exact ⟨⟨by omega, by omega⟩, by intro e; subst e; simp at h⟩
    · exact ⟨⟨by omega, by omega⟩, by intro e; subst e; simp at h⟩
  · exact ⟨⟨by omega, by omega⟩, by intro e; subst e; simp at h⟩
  · decide
  · decide
  · decide

theorem plain_quote (s : Bool) : plainB (quoteChar s) = true := by cases s <;> decide

/-- Everything of a rendered declaration except its final `>`. -/
def declBody (d : LDecl) : Str :=
  ['<', '?', 'x', 'm', 'l'] ++ (' ' :: (renderAttrs (attrsOf d) ++ d.wEnd) ++ ['?'])

theorem render_eq_body (d : LDecl) : d.render = declBody d ++ ['>'] := by
  rw [render_eq_attrs, declBody]
  simp only [List.append_assoc, List.cons_append, List.nil_append]

/-- A pseudo-attribute renders plain when its name and value are: the white space, `=` and the
    quotes around them always are. -/
theorem PAttr.render_plain {a : PAttr} (h : a.ok) (hn : a.name.all plainB = true)
    (hv : a.val.all plainB = true) : a.render.all plainB = true := by
  obtain ⟨h1, h2, h3, _, _⟩ := h
  have he : plainB '=' = true := by decide
  simp only [PAttr.render, EqLayout.render, List.all_append, List.all_cons, List.all_nil, plain_ws h1,
    plain_ws h2, plain_ws h3, plain_quote, hn, hv, he, Bool.and_true]

theorem renderAttrs_plain : ∀ {as : List PAttr}, (∀ a ∈ as, a.render.all plainB = true) →
    (renderAttrs as).all plainB = true
  | [], _ => rfl
  | a :: as, h => by
    rw [renderAttrs, List.all_append, h a List.mem_cons_self,
      renderAttrs_plain fun x hx => h x (List.mem_cons_of_mem _ hx)]
    rfl

theorem declBody_plain (d : LDecl) (hok : d.ok = true) : (declBody d).all plainB = true := by
  have hattrs : (renderAttrs (attrsOf d)).all plainB = true := by
    refine renderAttrs_plain fun a ha => ?_
    refine PAttr.render_plain (attrsOf_ok d hok a ha) ?_ ?_
    all_goals
      simp only [LDecl.ok, Bool.and_eq_true] at hok
      rcases mem_attrsOf ha with rfl | ⟨e, he, rfl⟩ | ⟨b, hb, rfl⟩
    · show versionWord.all plainB = true; decide
    · show encodingWord.all plainB = true; decide
    · show standaloneWord.all plainB = true; decide
    · show ('1' :: '.' :: d.minor).all plainB = true
      rw [List.all_cons, List.all_cons, plain_digits hok.1.1.1.1.1]; decide
    · rw [he] at hok
      simp only [Bool.and_eq_true] at hok
      exact plain_enc hok.1.1.2.1.1.1
    · show (yesNo b).all plainB = true
      cases b <;> decide
  simp only [LDecl.ok, Bool.and_eq_true] at hok
  simp only [declBody, List.all_append, List.all_cons, List.all_nil, hattrs, plain_ws hok.2, Bool.and_true]
  decide

theorem plain_spec {c : Char} (h : plainB c = true) : 0 < c.toNat ∧ c.toNat < 0x80 ∧ c ≠ '>' := by
  have : (0 < c.toNat ∧ c.toNat < 0x80) ∧ c ≠ '>' := by simpa [plainB] using h
  exact ⟨this.1.1, this.1.2, this.2⟩

theorem render_ascii (d : LDecl) (hok : d.ok = true) : ∀ c ∈ d.render, 0 < c.toNat ∧ c.toNat < 0x80 := by
  intro c hc
  rw [render_eq_body, List.mem_append] at hc
  rcases hc with hc | hc
  · have := plain_spec (List.all_eq_true.mp (declBody_plain d hok) c hc)
    exact ⟨this.1, this.2.1⟩
  · simp only [List.mem_singleton] at hc; subst hc; decide

theorem render_length (d : LDecl) : 3 ≤ d.render.length := by
  rw [render_eq_attrs]
  simp only [List.length_append, List.length_cons]
  omega

/-- **The declaration reader on bytes.**  After an optional byte order mark (`declBoms`) the bytes
    `pre` spell a rendered declaration, of any length: `xml_declaration` answers the label, whatever
    follows. -/
theorem xmlDeclaration_spelled (d : LDecl) (hok : d.ok = true) (bom pre tail : Bytes)
    (hbom : bom ∈ declBoms) (hs : Spells pre d.render) :
    xmlDeclaration (bom ++ (pre ++ tail)) = d.encoding := by
  unfold xmlDeclaration
  rw [stripDeclBom_bom bom _ hbom (stripDeclBom_spells hs (render_length d) tail),
    collectAscii_spells hs (declBody d) (render_eq_body d)
      (fun hm => (plain_spec (List.all_eq_true.mp (declBody_plain d hok) _ hm)).2.2 rfl)]
  simp only []
  rw [← render_eq_body, declFromAscii_render d hok]

/-- **Not a declaration**: after the byte order mark, a byte ≥ 0x80 before the first `>` (only
    bytes < 0x80 other than `>` in front of it). -/
theorem xmlDeclaration_non_ascii_none (data p rest : Bytes) (b : Nat) (hd : stripDeclBom data = p ++ b :: rest)
    (hb : 0x80 ≤ b) (hp : ∀ x ∈ p, x < 0x80 ∧ x ≠ 0x3E) : xmlDeclaration data = none := by
  unfold xmlDeclaration
  rw [hd, collectAscii_high p b rest hb hp]

/-! ### The forms that spell an ASCII string -/

theorem spells_ascii (s : Str) (h : ∀ c ∈ s, 0 < c.toNat ∧ c.toNat < 0x80) : Spells (s.map Char.toNat) s := by
  induction s with
  | nil => exact Spells.nil
  | cons c cs ih =>
    exact Spells.char (h c List.mem_cons_self).1 (h c List.mem_cons_self).2
      (ih (fun x hx => h x (List.mem_cons_of_mem _ hx)))

theorem spells_utf8 (s : Str) (h : ∀ c ∈ s, 0 < c.toNat ∧ c.toNat < 0x80) : Spells (encodeUtf8 s) s := by
  rw [encodeUtf8_ascii s (fun c hc => (h c hc).2)]
  exact spells_ascii s h

theorem spells_utf16 (be : Bool) (s : Str) (h : ∀ c ∈ s, 0 < c.toNat ∧ c.toNat < 0x80) :
    Spells (encodeUtf16 be s) s := by
  induction s with
  | nil => exact Spells.nil
  | cons c cs ih =>
    obtain ⟨h0, h1⟩ := h c List.mem_cons_self
    have ih' := ih (fun x hx => h x (List.mem_cons_of_mem _ hx))
    have hd : c.toNat / 256 = 0 := by omega
    have hm : c.toNat % 256 = c.toNat := by omega
    rw [encodeUtf16, utf16Bytes, if_pos (by omega), unit16]
    cases be
    · simp only [Bool.false_eq_true, if_false, hd, hm, List.cons_append, List.nil_append]
      exact Spells.char h0 h1 (Spells.skip ih')
    · simp only [if_true, hd, hm, List.cons_append, List.nil_append]
      exact Spells.skip (Spells.char h0 h1 ih')

theorem length_encodeUtf8_ascii (s : Str) (h : ∀ c ∈ s, c.toNat < 0x80) : (encodeUtf8 s).length = s.length := by
  rw [encodeUtf8_ascii s h, List.length_map]

theorem length_encodeUtf16_ascii (be : Bool) (s : Str) (h : ∀ c ∈ s, c.toNat < 0x80) :
    (encodeUtf16 be s).length = 2 * s.length := by
  induction s with
  | nil => rfl
  | cons c cs ih =>
    have h1 := h c List.mem_cons_self
    rw [encodeUtf16, utf16Bytes, if_pos (by omega), List.length_append,
      ih (fun x hx => h x (List.mem_cons_of_mem _ hx))]
    cases be <;> simp [unit16] <;> omega

theorem xmlDeclaration_none (data : Bytes)
    (h : ∀ a, collectAscii (stripDeclBom data) = some a → (['<', '?', 'x', 'm', 'l'].isPrefixOf a) = false) :
    xmlDeclaration data = none := by
  unfold xmlDeclaration
  cases hc : collectAscii (stripDeclBom data) with
  | none => rfl
  | some a =>
    simp only []
    unfold declFromAscii stripPrefix
    rw [h a hc]
    rfl

end XotModel.Bytes
