/-
  Located handles, on the one-hole contexts of Lemmas/HTreeZipper.lean: every handle that occurs has a decomposition
  `roots = plug path (l ++ k :: r)` with `k.handle = h` (`Loc`); moving along a location; under distinct handles every
  lookup and every primitive of `Model/Forest.lean` is evaluated at a located handle, with the handles it adds, removes,
  keeps.
-/
import XotModel.Lemmas.HTreeZipper

/-! ## (handle, value) pairs; every pair has a decomposition `roots = plug path (l ++ k :: r)`; lookups and edits on that form -/

namespace XotModel
open HTree

attribute [local simp] plug_nil plug_cons handles_node handlesList_nil handlesList_cons handlesList_append node_handle node_value node_kids

/-! ### The (handle, value) pairs of a forest -/

mutual
  def hv : HTree → List (Nat × Value)
    | .node h v ks => (h, v) :: hvList ks
  def hvList : List HTree → List (Nat × Value)
    | [] => []
    | k :: ks => hv k ++ hvList ks
end

def pathHV : List ZipFrame → List (Nat × Value)
  | [] => []
  | fr :: rest => hvList fr.l ++ (fr.h, fr.v) :: (pathHV rest ++ hvList fr.r)

theorem hv_node (h : Nat) (v : Value) (ks : List HTree) : hv (.node h v ks) = (h, v) :: hvList ks := by
  simp [hv]
theorem hvList_nil : hvList [] = [] := by simp [hvList]
theorem hvList_cons (k : HTree) (ks : List HTree) : hvList (k :: ks) = hv k ++ hvList ks := by
  simp [hvList]
theorem hvList_append (a b : List HTree) : hvList (a ++ b) = hvList a ++ hvList b := by
  induction a with
  | nil => simp [hvList_nil]
  | cons k ks ih => simp [hvList_cons, ih]

attribute [local simp] hv_node hvList_nil hvList_cons hvList_append

theorem hv_eq (t : HTree) : hv t = (t.handle, t.value) :: hvList t.kids := by cases t; simp

mutual
  theorem map_fst_hv : ∀ t : HTree, (hv t).map Prod.fst = handles t
    | .node h v ks => by simp [map_fst_hvList ks]
  theorem map_fst_hvList : ∀ ks : List HTree, (hvList ks).map Prod.fst = handlesList ks
    | [] => by simp
    | k :: ks => by simp [map_fst_hv k, map_fst_hvList ks]
end

theorem mem_handlesList_of_mem_hvList {x : Nat} {v : Value} {ks : List HTree}
    (h : (x, v) ∈ hvList ks) : x ∈ handlesList ks := by
  rw [← map_fst_hvList]; exact List.mem_map.mpr ⟨(x, v), h, rfl⟩

theorem mem_handles_of_mem_hv {x : Nat} {v : Value} {t : HTree} (h : (x, v) ∈ hv t) : x ∈ handles t := by
  rw [← map_fst_hv]; exact List.mem_map.mpr ⟨(x, v), h, rfl⟩

theorem hvList_plug_perm (path : List ZipFrame) (ks : List HTree) :
    (hvList (plug path ks)).Perm (pathHV path ++ hvList ks) := by
  induction path with
  | nil => simp [pathHV]
  | cons fr rest ih =>
    simp only [plug_cons, hvList_append, hvList_cons, hv_node, pathHV,
      List.append_assoc, List.cons_append]
    refine List.Perm.append_left _ (List.Perm.cons _ ?_)
    refine (List.Perm.append_right _ ih).trans ?_
    simp only [List.append_assoc]
    exact List.Perm.append_left _ List.perm_append_comm

theorem mem_hvList_plug {path : List ZipFrame} {ks : List HTree} {p : Nat × Value} :
    p ∈ hvList (plug path ks) ↔ p ∈ pathHV path ∨ p ∈ hvList ks := by
  rw [(hvList_plug_perm path ks).mem_iff]; simp

theorem mem_pathHandles_of_mem_pathHV {x : Nat} {v : Value} {path : List ZipFrame}
    (h : (x, v) ∈ pathHV path) : x ∈ pathHandles path := by
  induction path with
  | nil => simp [pathHV] at h
  | cons fr rest ih =>
    simp only [pathHV, pathHandles, List.mem_append, List.mem_cons, Prod.mk.injEq] at h ⊢
    rcases h with h | h | h | h
    · exact Or.inl (mem_handlesList_of_mem_hvList h)
    · exact Or.inr (Or.inl h.1)
    · exact Or.inr (Or.inr (Or.inl (ih h)))
    · exact Or.inr (Or.inr (Or.inr (mem_handlesList_of_mem_hvList h)))

theorem exists_plug_of_mem_hv (x : Nat) (w : Value) : ∀ ks : List HTree, (x, w) ∈ hvList ks →
    ∃ path l k r, ks = plug path (l ++ k :: r) ∧ k.handle = x ∧ k.value = w
  | [] => by intro hm; simp at hm
  | .node h' v kids :: ks => by
    intro hm
    simp only [hvList_cons, hv_node, List.cons_append, List.mem_cons, List.mem_append, Prod.mk.injEq] at hm
    rcases hm with hm | hm | hm
    · exact ⟨[], [], .node h' v kids, ks, by simp, by simp [hm.1], by simp [hm.2]⟩
    · obtain ⟨path, l, k, r, he, hk⟩ := exists_plug_of_mem_hv x w kids hm
      refine ⟨⟨[], h', v, ks⟩ :: path, l, k, r, ?_, hk⟩
      simp [← he]
    · obtain ⟨path, l, k, r, he, hk⟩ := exists_plug_of_mem_hv x w ks hm
      cases path with
      | nil => exact ⟨[], .node h' v kids :: l, k, r, by simp [he], hk⟩
      | cons fr rest =>
        exact ⟨⟨.node h' v kids :: fr.l, fr.h, fr.v, fr.r⟩ :: rest, l, k, r, by simp [he], hk⟩
termination_by ks => sizeOf ks
decreasing_by
  · simp only [List.cons.sizeOf_spec, HTree.node.sizeOf_spec]; omega
  · simp only [List.cons.sizeOf_spec]; omega

theorem exists_plug_of_mem (h : Nat) (ks : List HTree) (hm : h ∈ handlesList ks) :
    ∃ path l k r, ks = plug path (l ++ k :: r) ∧ k.handle = h := by
  rw [← map_fst_hvList] at hm
  obtain ⟨⟨x, w⟩, hp, rfl⟩ := List.mem_map.mp hm
  obtain ⟨path, l, k, r, he, hk, _⟩ := exists_plug_of_mem_hv x w ks hp
  exact ⟨path, l, k, r, he, hk⟩

/-! ### Evaluation on a decomposition -/

theorem not_mem_pathHandles_cons {h : Nat} {fr : ZipFrame} {rest : List ZipFrame}
    (hp : h ∉ pathHandles (fr :: rest)) :
    h ∉ handlesList fr.l ∧ fr.h ≠ h ∧ h ∉ pathHandles rest ∧ h ∉ handlesList fr.r := by
  simp only [pathHandles, List.mem_append, List.mem_cons, not_or] at hp
  exact ⟨hp.1, fun e => hp.2.1 e.symm, hp.2.2.1, hp.2.2.2⟩

theorem findList?_plug_ctx {h : Nat} {path : List ZipFrame} (hp : h ∉ pathHandles path) (ks : List HTree) :
    findList? h (plug path ks) = findList? h ks := by
  induction path with
  | nil => rfl
  | cons fr rest ih =>
    obtain ⟨h1, h2, h3, h4⟩ := not_mem_pathHandles_cons hp
    rw [plug_cons, findList?_append_of_not_mem h _ _ h1, findList?_cons, find?, if_neg h2, ih h3]
    cases findList? h ks with
    | some t => rfl
    | none => exact findList?_none_of_not_mem h _ h4

theorem findList?_plug (h : Nat) (path : List ZipFrame) (l : List HTree) (k : HTree) (r : List HTree)
    (hk : k.handle = h) (hp : h ∉ pathHandles path) (hl : h ∉ handlesList l) :
    findList? h (plug path (l ++ k :: r)) = some k := by
  rw [findList?_plug_ctx hp, findList?_append_of_not_mem h l _ hl, findList?_cons, find?_of_handle hk]; rfl

theorem replaceKids_plug (h : Nat) (g : HTree → List HTree) (path : List ZipFrame) (l : List HTree)
    (k : HTree) (r : List HTree)
    (hk : k.handle = h) (hp : h ∉ pathHandles path) (hl : h ∉ handlesList l) :
    replaceKids h g (plug path (l ++ k :: r)) = plug path (l ++ g k ++ r) := by
  induction path with
  | nil =>
    rw [plug_nil, replaceKids_append_of_not_mem h g l _ hl, replaceKids_cons, if_pos hk]
    simp
  | cons fr rest ih =>
    obtain ⟨h1, h2, h3, h4⟩ := not_mem_pathHandles_cons hp
    rw [plug_cons, replaceKids_append_of_not_mem h g _ _ h1, replaceKids_cons, if_neg (by simpa using h2),
      replaceBelow, ih h3, fc_replaceKids_of_not_mem h g _ h4]
    rfl

theorem fi_map_replaceBelow_eq (h : Nat) (g : HTree → List HTree) (ks : List HTree)
    (hn : ∀ k ∈ ks, k.handle ≠ h) : ks.map (replaceBelow h g) = replaceKids h g ks := by
  induction ks with
  | nil => simp [replaceKids]
  | cons k ks ih =>
    rw [replaceKids_cons, if_neg (hn k (by simp)), List.map_cons, ih (fun k' hk' => hn k' (by simp [hk']))]

theorem handle_ne_of_not_mem_handlesList {h : Nat} {ks : List HTree} (hm : h ∉ handlesList ks) :
    ∀ k ∈ ks, k.handle ≠ h := by
  intro k hk e
  apply hm
  obtain ⟨a, b, rfl⟩ := List.append_of_mem hk
  simp only [handlesList_append, handlesList_cons, List.mem_append]
  exact Or.inr (Or.inl (e ▸ handle_mem_handles k))

theorem root_handle_ne_of_plug_cons {h : Nat} {fr : ZipFrame} {rest : List ZipFrame} {ks : List HTree}
    (hp : h ∉ pathHandles (fr :: rest)) : ∀ k ∈ plug (fr :: rest) ks, k.handle ≠ h := by
  obtain ⟨h1, h2, _, h4⟩ := not_mem_pathHandles_cons hp
  intro k hk
  simp only [plug_cons, List.mem_append, List.mem_cons] at hk
  rcases hk with hk | hk | hk
  · exact handle_ne_of_not_mem_handlesList h1 k hk
  · subst hk; simpa using h2
  · exact handle_ne_of_not_mem_handlesList h4 k hk

theorem mapAtList_plug (h : Nat) (g : HTree → HTree) (path : List ZipFrame) (l : List HTree)
    (k : HTree) (r : List HTree)
    (hk : k.handle = h) (hp : h ∉ pathHandles path) (hl : h ∉ handlesList l)
    (hr : h ∉ handlesList r) :
    mapAtList h g (plug path (l ++ k :: r)) = plug path (l ++ g k :: r) := by
  induction path with
  | nil =>
    rw [plug_nil, mapAtList_append, mapAtList_of_not_mem h g l hl, mapAtList,
      mapAtList_of_not_mem h g r hr]
    cases k with
    | node h' v ks => simp only [node_handle] at hk; rw [mapAt, if_pos hk]; rfl
  | cons fr rest ih =>
    obtain ⟨h1, h2, h3, h4⟩ := not_mem_pathHandles_cons hp
    rw [plug_cons, mapAtList_append, mapAtList_of_not_mem h g _ h1, mapAtList,
      mapAtList_of_not_mem h g _ h4, mapAt, if_neg h2, ih h3]
    rfl

theorem ctxKids_plug_nil (h p : Nat) (acc l : List HTree) (k : HTree) (r : List HTree)
    (hk : k.handle = h) (hl : h ∉ handlesList l) :
    ctxKids h p acc (l ++ k :: r) = some ⟨p, acc ++ l, k, r⟩ := by
  rw [ctxKids_append_of_not_mem h p l _ acc hl, ctxKids_cons, if_pos hk]

theorem ctxKids_plug (h p : Nat) (acc : List HTree) (path : List ZipFrame) (fr : ZipFrame)
    (l : List HTree) (k : HTree) (r : List HTree)
    (hk : k.handle = h) (hp : h ∉ pathHandles (path ++ [fr])) (hl : h ∉ handlesList l) :
    ctxKids h p acc (plug (path ++ [fr]) (l ++ k :: r)) = some ⟨fr.h, l, k, r⟩ := by
  induction path generalizing p acc with
  | nil =>
    obtain ⟨h1, h2, _, _⟩ := not_mem_pathHandles_cons (fr := fr) (rest := []) (by simpa using hp)
    rw [List.nil_append, plug_cons, plug_nil, ctxKids_append_of_not_mem h p _ _ acc h1, ctxKids_cons,
      if_neg (by simpa using h2), ctxBelow, ctxKids_plug_nil h fr.h [] l k r hk hl]
    simp
  | cons fr0 rest ih =>
    obtain ⟨h1, h2, h3, _⟩ := not_mem_pathHandles_cons (fr := fr0) (rest := rest ++ [fr]) (by simpa using hp)
    rw [List.cons_append, plug_cons, ctxKids_append_of_not_mem h p _ _ acc h1, ctxKids_cons,
      if_neg (by simpa using h2), ctxBelow, ih fr0.h [] h3]
    simp

theorem findSome?_ctxBelow_append_of_not_mem (h : Nat) (l rest : List HTree) (hm : h ∉ handlesList l) :
    (l ++ rest).findSome? (ctxBelow h) = rest.findSome? (ctxBelow h) := by
  induction l with
  | nil => rfl
  | cons k ks ih =>
    simp only [handlesList_cons, List.mem_append, not_or] at hm
    have hkids : h ∉ handlesList k.kids := by
      intro hc; apply hm.1; rw [handles_eq]; exact List.mem_cons_of_mem _ hc
    rw [List.cons_append, List.findSome?_cons, ffx_ctxBelow_none_of_not_mem h k hkids]
    exact ih hm.2

theorem findSome?_ctxBelow_none (h : Nat) (ks : List HTree)
    (hm : ∀ k ∈ ks, h ∉ handlesList k.kids) : ks.findSome? (ctxBelow h) = none := by
  induction ks with
  | nil => rfl
  | cons k ks ih =>
    rw [List.findSome?_cons, ffx_ctxBelow_none_of_not_mem h k (hm k (by simp))]
    exact ih (fun k' hk' => hm k' (by simp [hk']))

theorem ctxRoots_plug (h : Nat) (path : List ZipFrame) (fr : ZipFrame)
    (l : List HTree) (k : HTree) (r : List HTree)
    (hk : k.handle = h) (hp : h ∉ pathHandles (path ++ [fr])) (hl : h ∉ handlesList l) :
    (plug (path ++ [fr]) (l ++ k :: r)).findSome? (ctxBelow h) = some ⟨fr.h, l, k, r⟩ := by
  cases path with
  | nil =>
    obtain ⟨h1, _, _, _⟩ := not_mem_pathHandles_cons (fr := fr) (rest := []) (by simpa using hp)
    rw [List.nil_append, plug_cons, plug_nil, findSome?_ctxBelow_append_of_not_mem h _ _ h1,
      List.findSome?_cons, ctxBelow, ctxKids_plug_nil h fr.h [] l k r hk hl]
    simp
  | cons fr0 rest =>
    obtain ⟨h1, _, h3, _⟩ := not_mem_pathHandles_cons (fr := fr0) (rest := rest ++ [fr]) (by simpa using hp)
    rw [List.cons_append, plug_cons, findSome?_ctxBelow_append_of_not_mem h _ _ h1,
      List.findSome?_cons, ctxBelow, ctxKids_plug h fr0.h [] rest fr l k r hk h3 hl]

theorem ancestorsOfList_plug_ctx {h : Nat} {path : List ZipFrame} (hp : h ∉ pathHandles path) (ks : List HTree) :
    ancestorsOfList h (plug path ks) = (ancestorsOfList h ks).map (· ++ (path.map (·.h)).reverse) := by
  induction path with
  | nil => simp
  | cons fr rest ih =>
    obtain ⟨h1, h2, h3, h4⟩ := not_mem_pathHandles_cons hp
    rw [plug_cons, ancestorsOfList_append_of_not_mem h _ _ h1, ancestorsOfList_cons, ancestorsOf,
      if_neg h2, ih h3]
    cases ancestorsOfList h ks with
    | some l => simp
    | none => simpa using ancestorsOfList_none_of_not_mem h _ h4

theorem ancestorsOfList_plug (h : Nat) (path : List ZipFrame) (l : List HTree) (k : HTree) (r : List HTree)
    (hk : k.handle = h) (hp : h ∉ pathHandles path) (hl : h ∉ handlesList l) :
    ancestorsOfList h (plug path (l ++ k :: r)) = some (h :: (path.map (·.h)).reverse) := by
  rw [ancestorsOfList_plug_ctx hp, ancestorsOfList_append_of_not_mem h l _ hl, ancestorsOfList_cons,
    show ancestorsOf h k = _ from hk ▸ Fws.ancestorsOf_self k]
  rfl

end XotModel

/-! ## `Loc`: moving along a location (`up`, `kid`, `split`, `comp`); lookups and primitives at a located handle; handle bookkeeping -/

namespace XotModel
open HTree

attribute [local simp] plug_nil plug_cons handles_node handlesList_nil handlesList_cons handlesList_append node_handle node_value node_kids hv_node hvList_nil hvList_cons hvList_append

/-- `h` is the handle of `k`, which sits between `l` and `r` in the child list at `path`. -/
structure Loc (roots : List HTree) (h : Nat) (path : List ZipFrame) (l : List HTree) (k : HTree)
    (r : List HTree) : Prop where
  eq : roots = plug path (l ++ k :: r)
  hk : k.handle = h

/-- What distinct handles say about a located handle. -/
structure Loc.Fresh (h : Nat) (path : List ZipFrame) (l : List HTree) (k : HTree) (r : List HTree) : Prop where
  path : h ∉ pathHandles path
  left : h ∉ handlesList l
  kids : h ∉ handlesList k.kids
  right : h ∉ handlesList r

theorem Loc.nodup {roots h path l k r} (lc : Loc roots h path l k r) (nd : (handlesList roots).Nodup) :
    (pathHandles path ++ (handlesList l ++ (h :: handlesList k.kids ++ handlesList r))).Nodup := by
  have := nodup_plug.mp (lc.eq ▸ nd)
  simpa [handles_eq k, lc.hk] using this

theorem Loc.fresh {roots h path l k r} (lc : Loc roots h path l k r) (nd : (handlesList roots).Nodup) :
    Loc.Fresh h path l k r := by
  have h0 := lc.nodup nd
  rw [List.nodup_append] at h0
  obtain ⟨_, h2, h3⟩ := h0
  rw [List.nodup_append] at h2
  obtain ⟨_, h5, h6⟩ := h2
  have h7 : (h :: (handlesList k.kids ++ handlesList r)).Nodup := by simpa using h5
  rw [List.nodup_cons] at h7
  refine ⟨?_, ?_, ?_, ?_⟩
  · intro hc; exact h3 h hc h (by simp) rfl
  · intro hc; exact h6 h hc h (by simp) rfl
  · intro hc; exact h7.1 (by simp [hc])
  · intro hc; exact h7.1 (by simp [hc])

theorem Loc.exists_of_mem {ks : List HTree} {h : Nat} (hm : h ∈ handlesList ks) :
    ∃ path l k r, Loc ks h path l k r := by
  obtain ⟨path, l, k, r, he, hk⟩ := exists_plug_of_mem h ks hm
  exact ⟨path, l, k, r, he, hk⟩

theorem Loc.up {roots : List HTree} {h : Nat} {rest : List ZipFrame} {fr : ZipFrame} {l : List HTree} {k : HTree}
    {r : List HTree} (lc : Loc roots h (rest ++ [fr]) l k r) :
    Loc roots fr.h rest fr.l (.node fr.h fr.v (l ++ k :: r)) fr.r :=
  ⟨by rw [lc.eq, plug_append]; rfl, rfl⟩

theorem Loc.kid {roots : List HTree} {p : Nat} {path : List ZipFrame} {L R l r : List HTree} {T s : HTree}
    (lc : Loc roots p path L T R) (hs : T.kids = l ++ s :: r) :
    Loc roots s.handle (path ++ [⟨L, p, T.value, R⟩]) l s r :=
  ⟨by rw [lc.eq, plug_append, plug_cons, plug_nil, ← hs, ← lc.hk, node_eta], rfl⟩

theorem Loc.split {roots : List HTree} {h : Nat} {p1 p2 : List ZipFrame} {fr : ZipFrame} {l : List HTree} {k : HTree}
    {r : List HTree} (lc : Loc roots h (p1 ++ fr :: p2) l k r) :
    Loc roots fr.h p1 fr.l (.node fr.h fr.v (plug p2 (l ++ k :: r))) fr.r :=
  ⟨by rw [lc.eq, plug_append]; rfl, rfl⟩

theorem Loc.comp {roots : List HTree} {n h : Nat} {p1 p2 : List ZipFrame} {l1 r1 l r : List HTree} {u k : HTree}
    (lc : Loc roots n p1 l1 u r1) (lk : Loc u.kids h p2 l k r) :
    Loc roots h (p1 ++ ⟨l1, n, u.value, r1⟩ :: p2) l k r :=
  ⟨by rw [lc.eq, plug_append, plug_cons, ← lk.eq, ← lc.hk, node_eta], lk.hk⟩

/-! ### The lookups in a list of trees with distinct handles, at a located handle -/

section located
variable {ks : List HTree} {h : Nat} {path : List ZipFrame} {l : List HTree} {k : HTree} {r : List HTree}

theorem Loc.findList?_eq (lc : Loc ks h path l k r) (nd : (handlesList ks).Nodup) : findList? h ks = some k := by
  have fr := lc.fresh nd
  rw [lc.eq]
  exact findList?_plug h path l k r lc.hk fr.path fr.left

theorem Loc.of_findList? {t : HTree} (nd : (handlesList ks).Nodup) (e : findList? h ks = some t) :
    ∃ path l r, Loc ks h path l t r := by
  obtain ⟨path, l, k, r, lc⟩ := Loc.exists_of_mem (mem_of_findList?_some e)
  have := lc.findList?_eq nd
  rw [e] at this
  cases this
  exact ⟨path, l, r, lc⟩

theorem Loc.ctxKids_nil (lc : Loc ks h [] l k r) (nd : (handlesList ks).Nodup) (p : Nat) (acc : List HTree) :
    ctxKids h p acc ks = some ⟨p, acc ++ l, k, r⟩ := by
  rw [lc.eq]
  exact ctxKids_plug_nil h p acc l k r lc.hk (lc.fresh nd).left

theorem Loc.ctxKids_snoc {rest : List ZipFrame} {fr : ZipFrame} (lc : Loc ks h (rest ++ [fr]) l k r)
    (nd : (handlesList ks).Nodup) (p : Nat) (acc : List HTree) :
    ctxKids h p acc ks = some ⟨fr.h, l, k, r⟩ := by
  have f := lc.fresh nd
  rw [lc.eq]
  exact ctxKids_plug h p acc rest fr l k r lc.hk f.path f.left

theorem Loc.ancestorsOfList_eq (lc : Loc ks h path l k r) (nd : (handlesList ks).Nodup) :
    ancestorsOfList h ks = some (h :: (path.map (·.h)).reverse) := by
  have f := lc.fresh nd
  rw [lc.eq]
  exact ancestorsOfList_plug h path l k r lc.hk f.path f.left

theorem Loc.mapAtList_eq (lc : Loc ks h path l k r) (nd : (handlesList ks).Nodup) (g : HTree → HTree) :
    mapAtList h g ks = plug path (l ++ g k :: r) := by
  have f := lc.fresh nd
  conv => lhs; rw [lc.eq]
  exact mapAtList_plug h g path l k r lc.hk f.path f.left f.right

theorem Loc.replaceKids_eq (lc : Loc ks h path l k r) (nd : (handlesList ks).Nodup) (g : HTree → List HTree) :
    replaceKids h g ks = plug path (l ++ g k ++ r) := by
  have f := lc.fresh nd
  conv => lhs; rw [lc.eq]
  exact replaceKids_plug h g path l k r lc.hk f.path f.left

end located

theorem Loc.fresh_sub {roots : List HTree} {x : Nat} {path : List ZipFrame} {l r : List HTree} {k : HTree}
    (lc : Loc roots k.handle path l k r) (nd : (handlesList roots).Nodup) (hx : x ∈ handles k) :
    x ∉ pathHandles path ∧ x ∉ handlesList l := by
  have h0 := nodup_plug.mp (lc.eq ▸ nd)
  rw [handlesList_append, handlesList_cons, List.nodup_append] at h0
  obtain ⟨_, h2, h3⟩ := h0
  rw [List.nodup_append] at h2
  exact ⟨fun hc => h3 x hc x (by simp [hx]) rfl, fun hc => h2.2.2 x hc x (by simp [hx]) rfl⟩

namespace Forest

theorem mem_allHandles_of_isLive {f : Forest} {h : Nat} (hl : f.isLive h = true) : h ∈ f.allHandles := by
  unfold isLive get? at hl
  cases hs : findList? h f.roots with
  | none => rw [hs] at hl; cases hl
  | some t => exact mem_of_findList?_some hs

theorem exists_loc {f : Forest} {h : Nat} (hm : h ∈ f.allHandles) :
    ∃ path l k r, Loc f.roots h path l k r :=
  Loc.exists_of_mem hm

theorem exists_loc_of_isRoot {f : Forest} {x : Nat} (h : f.isRoot x = true) :
    ∃ L T R, Loc f.roots x [] L T R := by
  unfold isRoot at h
  rw [List.any_eq_true] at h
  obtain ⟨T, hT, hx⟩ := h
  obtain ⟨L, R, hLR⟩ := List.append_of_mem hT
  exact ⟨L, T, R, ⟨hLR, by simpa using hx⟩⟩

section located
variable {f : Forest} {h : Nat} {path : List ZipFrame} {l : List HTree} {k : HTree} {r : List HTree}

theorem get?_of_loc (lc : Loc f.roots h path l k r) (nd : f.allHandles.Nodup) : f.get? h = some k :=
  lc.findList?_eq nd

theorem isLive_of_loc (lc : Loc f.roots h path l k r) (nd : f.allHandles.Nodup) : f.isLive h = true := by
  simp [isLive, get?_of_loc lc nd]

theorem isRoot_of_loc_nil (lc : Loc f.roots h [] l k r) : f.isRoot h = true := by
  unfold isRoot
  rw [lc.eq]
  simp [lc.hk]

theorem isRoot_of_loc_cons {fr : ZipFrame} {rest : List ZipFrame} (lc : Loc f.roots h (fr :: rest) l k r)
    (nd : f.allHandles.Nodup) : f.isRoot h = false := by
  have hf := lc.fresh nd
  unfold isRoot
  rw [lc.eq, List.any_eq_false]
  intro x hx
  simpa using root_handle_ne_of_plug_cons hf.path x hx

theorem ctx?_of_loc_snoc {fr : ZipFrame} {rest : List ZipFrame} (lc : Loc f.roots h (rest ++ [fr]) l k r)
    (nd : f.allHandles.Nodup) : f.ctx? h = some ⟨fr.h, l, k, r⟩ := by
  have hf := lc.fresh nd
  unfold ctx?
  rw [lc.eq]
  exact ctxRoots_plug h rest fr l k r lc.hk hf.path hf.left

theorem ctx?_of_loc_nil (lc : Loc f.roots h [] l k r) (nd : f.allHandles.Nodup) : f.ctx? h = none := by
  have hf := lc.fresh nd
  have hnd : (handlesList (l ++ k :: r)).Nodup := by
    have := nd; unfold allHandles at this; rw [lc.eq] at this; simpa using this
  unfold ctx?
  rw [lc.eq, plug_nil, findSome?_ctxBelow_append_of_not_mem h l _ hf.left, List.findSome?_cons,
    ffx_ctxBelow_none_of_not_mem h k hf.kids]
  apply findSome?_ctxBelow_none
  intro x hx hc
  apply hf.right
  obtain ⟨a, b, rfl⟩ := List.append_of_mem hx
  simp only [handlesList_append, handlesList_cons, List.mem_append]
  refine Or.inr (Or.inl ?_)
  rw [handles_eq]; exact List.mem_cons_of_mem _ hc

theorem ancestors_of_loc (lc : Loc f.roots h path l k r) (nd : f.allHandles.Nodup) :
    f.ancestors h = h :: (path.map (·.h)).reverse := by
  unfold ancestors
  rw [← Fws.ancestorsOfList_eq_findSome?, lc.ancestorsOfList_eq nd]
  rfl

/-! #### The primitives at a located handle -/

theorem map_replaceBelow_of_loc (g : HTree → List HTree) {fr : ZipFrame} {rest : List ZipFrame}
    (lc : Loc f.roots h (fr :: rest) l k r) (nd : f.allHandles.Nodup) :
    f.roots.map (replaceBelow h g) = plug (fr :: rest) (l ++ g k ++ r) := by
  have hf := lc.fresh nd
  rw [lc.eq, fi_map_replaceBelow_eq h g _ (root_handle_ne_of_plug_cons hf.path)]
  exact replaceKids_plug h g _ l k r lc.hk hf.path hf.left

theorem filter_ne_of_loc_nil (lc : Loc f.roots h [] l k r) (nd : f.allHandles.Nodup) :
    f.roots.filter (fun x => x.handle != h) = l ++ r := by
  have hf := lc.fresh nd
  rw [lc.eq, plug_nil, List.filter_append, List.filter_cons]
  have e1 : l.filter (fun x => x.handle != h) = l := by
    rw [List.filter_eq_self]; intro x hx
    simpa using handle_ne_of_not_mem_handlesList hf.left x hx
  have e2 : r.filter (fun x => x.handle != h) = r := by
    rw [List.filter_eq_self]; intro x hx
    simpa using handle_ne_of_not_mem_handlesList hf.right x hx
  simp [e1, e2, lc.hk]

theorem cut_of_loc (lc : Loc f.roots h path l k r) (nd : f.allHandles.Nodup) :
    f.cut h = ({ f with roots := plug path (l ++ r) }, some k) := by
  unfold cut
  rw [get?_of_loc lc nd]
  cases path with
  | nil =>
    simp only [isRoot_of_loc_nil lc, if_true, filter_ne_of_loc_nil lc nd, plug_nil]
  | cons fr rest =>
    simp only [isRoot_of_loc_cons lc nd, map_replaceBelow_of_loc _ lc nd]
    simp

theorem placeAfter_of_loc (t : HTree) {fr : ZipFrame} {rest : List ZipFrame}
    (lc : Loc f.roots h (fr :: rest) l k r) (nd : f.allHandles.Nodup) :
    f.placeAfter h t = { f with roots := plug (fr :: rest) (l ++ k :: t :: r) } := by
  unfold placeAfter
  rw [map_replaceBelow_of_loc _ lc nd]
  simp

theorem placeBefore_of_loc (t : HTree) {fr : ZipFrame} {rest : List ZipFrame}
    (lc : Loc f.roots h (fr :: rest) l k r) (nd : f.allHandles.Nodup) :
    f.placeBefore h t = { f with roots := plug (fr :: rest) (l ++ t :: k :: r) } := by
  unfold placeBefore
  rw [map_replaceBelow_of_loc _ lc nd]
  simp

theorem map_mapAt_of_loc (g : HTree → HTree) (lc : Loc f.roots h path l k r) (nd : f.allHandles.Nodup) :
    f.roots.map (mapAt h g) = plug path (l ++ g k :: r) := by
  rw [← mapAtList_eq_map]
  exact lc.mapAtList_eq nd g

theorem placeLast_of_loc (t : HTree) (lc : Loc f.roots h path l k r) (nd : f.allHandles.Nodup) :
    f.placeLast h t = { f with roots := plug path (l ++ k.setKids (k.kids ++ [t]) :: r) } := by
  unfold placeLast
  rw [map_mapAt_of_loc _ lc nd]

theorem placeFirst_of_loc (t : HTree) (lc : Loc f.roots h path l k r) (nd : f.allHandles.Nodup) :
    f.placeFirst h t = { f with roots := plug path (l ++ k.setKids (t :: k.kids) :: r) } := by
  unfold placeFirst
  rw [map_mapAt_of_loc _ lc nd]

theorem setValue_of_loc (v : Value) (lc : Loc f.roots h path l k r) (nd : f.allHandles.Nodup) :
    f.setValue h v = { f with roots := plug path (l ++ k.setValue v :: r) } := by
  unfold setValue
  rw [map_mapAt_of_loc _ lc nd]

theorem spliceOut_of_loc_cons {fr : ZipFrame} {rest : List ZipFrame}
    (lc : Loc f.roots h (fr :: rest) l k r) (nd : f.allHandles.Nodup) :
    f.spliceOut h = { f with roots := plug (fr :: rest) (l ++ k.kids ++ r) } := by
  unfold spliceOut
  rw [get?_of_loc lc nd]
  simp only [isRoot_of_loc_cons lc nd, map_replaceBelow_of_loc _ lc nd]
  simp

theorem spliceOut_of_loc_nil (lc : Loc f.roots h [] l k r) (nd : f.allHandles.Nodup) :
    f.spliceOut h =
      if k.kids.length ≤ 1 then { f with roots := l ++ r ++ k.kids }
      else { f with roots := l ++ r ++ k.kids, corrupt := true } := by
  unfold spliceOut
  rw [get?_of_loc lc nd]
  simp only [isRoot_of_loc_nil lc, if_true, filter_ne_of_loc_nil lc nd]

/-! #### The same with `path ≠ []` instead of a syntactic `cons` -/

theorem isRoot_of_loc_ne (lc : Loc f.roots h path l k r) (hne : path ≠ [])
    (nd : f.allHandles.Nodup) : f.isRoot h = false := by
  cases path with
  | nil => exact absurd rfl hne
  | cons fr rest => exact isRoot_of_loc_cons lc nd

theorem placeAfter_of_loc_ne (t : HTree) (lc : Loc f.roots h path l k r) (hne : path ≠ [])
    (nd : f.allHandles.Nodup) :
    f.placeAfter h t = { f with roots := plug path (l ++ k :: t :: r) } := by
  cases path with
  | nil => exact absurd rfl hne
  | cons fr rest => exact placeAfter_of_loc t lc nd

theorem spliceOut_of_loc_ne (lc : Loc f.roots h path l k r) (hne : path ≠ [])
    (nd : f.allHandles.Nodup) :
    f.spliceOut h = { f with roots := plug path (l ++ k.kids ++ r) } := by
  cases path with
  | nil => exact absurd rfl hne
  | cons fr rest => exact spliceOut_of_loc_cons lc nd

theorem ctx?_of_loc_ne (lc : Loc f.roots h path l k r) (hne : path ≠ [])
    (nd : f.allHandles.Nodup) : ∃ p, f.ctx? h = some ⟨p, l, k, r⟩ := by
  rcases fi_nil_or_snoc path with rfl | ⟨init, fr, rfl⟩
  · exact absurd rfl hne
  · exact ⟨fr.h, ctx?_of_loc_snoc lc nd⟩

end located

/-! ### Handle bookkeeping -/

theorem next_newNode (f : Forest) (v : Value) : (f.newNode v).1.next = f.next + 1 := rfl
theorem snd_newNode (f : Forest) (v : Value) : (f.newNode v).2 = f.next := rfl

theorem cut_perm {f f' : Forest} {h : Nat} {t : HTree} (nd : f.allHandles.Nodup)
    (hc : f.cut h = (f', some t)) : (f'.allHandles ++ handles t).Perm f.allHandles := by
  have hlive : f.isLive h = true := by
    unfold cut at hc
    cases hg : f.get? h with
    | none => rw [hg] at hc; simp at hc
    | some t' => simp [isLive, hg]
  obtain ⟨path, l, k, r, lc⟩ := exists_loc (mem_allHandles_of_isLive hlive)
  rw [cut_of_loc lc nd] at hc
  simp only [Prod.mk.injEq, Option.some.injEq] at hc
  obtain ⟨rfl, rfl⟩ := hc
  unfold allHandles
  simp only
  rw [lc.eq]
  refine ((handlesList_plug_perm path (l ++ r)).append_right _).trans
    (List.Perm.trans ?_ (handlesList_plug_perm path (l ++ k :: r)).symm)
  simp only [handlesList_append, handlesList_cons, List.append_assoc]
  exact List.Perm.append_left _ (List.Perm.append_left _ List.perm_append_comm)

theorem cut_none {f f' : Forest} {h : Nat} (hc : f.cut h = (f', none)) : f' = f := by
  unfold cut at hc
  cases hg : f.get? h with
  | none => rw [hg] at hc; simp at hc; exact hc.symm
  | some t' =>
    rw [hg] at hc
    by_cases hr : f.isRoot h <;> simp [hr] at hc

theorem placeAfter_perm {f : Forest} {ref : Nat} (t : HTree) (nd : f.allHandles.Nodup)
    (hl : f.isLive ref = true) (hr : f.isRoot ref = false) :
    (f.placeAfter ref t).allHandles.Perm (f.allHandles ++ handles t) := by
  obtain ⟨path, l, k, r, lc⟩ := exists_loc (mem_allHandles_of_isLive hl)
  cases path with
  | nil => rw [isRoot_of_loc_nil lc] at hr; cases hr
  | cons fr rest =>
    rw [placeAfter_of_loc t lc nd]
    unfold allHandles
    simp only
    rw [lc.eq]
    refine (handlesList_plug_perm _ _).trans
      (List.Perm.trans ?_ ((handlesList_plug_perm _ _).symm.append_right _))
    simp only [handlesList_append, handlesList_cons, List.append_assoc]
    refine List.Perm.append_left _ (List.Perm.append_left _ (List.Perm.append_left _ ?_))
    exact List.perm_append_comm

theorem placeBefore_perm {f : Forest} {ref : Nat} (t : HTree) (nd : f.allHandles.Nodup)
    (hl : f.isLive ref = true) (hr : f.isRoot ref = false) :
    (f.placeBefore ref t).allHandles.Perm (f.allHandles ++ handles t) := by
  obtain ⟨path, l, k, r, lc⟩ := exists_loc (mem_allHandles_of_isLive hl)
  cases path with
  | nil => rw [isRoot_of_loc_nil lc] at hr; cases hr
  | cons fr rest =>
    rw [placeBefore_of_loc t lc nd]
    unfold allHandles
    simp only
    rw [lc.eq]
    refine (handlesList_plug_perm _ _).trans
      (List.Perm.trans ?_ ((handlesList_plug_perm _ _).symm.append_right _))
    simp only [handlesList_append, handlesList_cons, List.append_assoc]
    refine List.Perm.append_left _ (List.Perm.append_left _ ?_)
    refine List.perm_append_comm.trans ?_
    simp only [List.append_assoc]
    exact List.Perm.refl _

theorem handles_setKids (k : HTree) (ks : List HTree) :
    handles (k.setKids ks) = k.handle :: handlesList ks := by
  cases k; simp [HTree.setKids]

theorem placeLast_perm {f : Forest} {p : Nat} (t : HTree) (nd : f.allHandles.Nodup)
    (hl : f.isLive p = true) :
    (f.placeLast p t).allHandles.Perm (f.allHandles ++ handles t) := by
  obtain ⟨path, l, k, r, lc⟩ := exists_loc (mem_allHandles_of_isLive hl)
  rw [placeLast_of_loc t lc nd]
  unfold allHandles
  simp only
  rw [lc.eq]
  refine (handlesList_plug_perm _ _).trans
    (List.Perm.trans ?_ ((handlesList_plug_perm _ _).symm.append_right _))
  simp only [handlesList_append, handlesList_cons, List.append_assoc, handles_setKids, handles_eq k,
    handlesList_nil, List.append_nil, List.cons_append]
  refine List.Perm.append_left _ (List.Perm.append_left _ (List.Perm.cons _ (List.Perm.append_left _ ?_)))
  exact List.perm_append_comm

theorem placeFirst_perm {f : Forest} {p : Nat} (t : HTree) (nd : f.allHandles.Nodup)
    (hl : f.isLive p = true) :
    (f.placeFirst p t).allHandles.Perm (f.allHandles ++ handles t) := by
  obtain ⟨path, l, k, r, lc⟩ := exists_loc (mem_allHandles_of_isLive hl)
  rw [placeFirst_of_loc t lc nd]
  unfold allHandles
  simp only
  rw [lc.eq]
  refine (handlesList_plug_perm _ _).trans
    (List.Perm.trans ?_ ((handlesList_plug_perm _ _).symm.append_right _))
  simp only [handlesList_append, handlesList_cons, List.append_assoc, handles_setKids, handles_eq k,
    List.cons_append]
  refine List.Perm.append_left _ (List.Perm.append_left _ (List.Perm.cons _ ?_))
  refine List.perm_append_comm.trans ?_
  simp only [List.append_assoc]
  exact List.Perm.refl _

theorem spliceOut_perm {f : Forest} {h : Nat} (nd : f.allHandles.Nodup) (hl : f.isLive h = true) :
    ((f.spliceOut h).allHandles ++ [h]).Perm f.allHandles := by
  obtain ⟨path, l, k, r, lc⟩ := exists_loc (mem_allHandles_of_isLive hl)
  have key : ∀ c : Bool, (({ f with roots := plug path (l ++ k.kids ++ r), corrupt := c } : Forest).allHandles
      ++ [h]).Perm f.allHandles := by
    intro c
    unfold allHandles
    simp only
    rw [lc.eq]
    refine ((handlesList_plug_perm _ _).append_right _).trans
      (List.Perm.trans ?_ (handlesList_plug_perm _ _).symm)
    simp only [handlesList_append, handlesList_cons, List.append_assoc, handles_eq k, lc.hk,
      List.cons_append]
    refine List.Perm.append_left _ (List.Perm.append_left _ ?_)
    rw [← List.append_assoc]
    exact List.perm_append_comm
  cases path with
  | cons fr rest =>
    rw [spliceOut_of_loc_cons lc nd]
    exact key f.corrupt
  | nil =>
    rw [spliceOut_of_loc_nil lc nd]
    have key2 : ∀ c : Bool, (({ f with roots := l ++ r ++ k.kids, corrupt := c } : Forest).allHandles
        ++ [h]).Perm f.allHandles := by
      intro c
      refine List.Perm.trans ?_ (key c)
      refine List.Perm.append_right _ ?_
      unfold allHandles
      simp only [plug_nil, handlesList_append, List.append_assoc]
      exact List.Perm.append_left _ List.perm_append_comm
    split
    · exact key2 f.corrupt
    · exact key2 true

theorem dropSubtree_perm {f : Forest} {h : Nat} {t : HTree} (nd : f.allHandles.Nodup)
    (hg : f.get? h = some t) : ((f.dropSubtree h).allHandles ++ handles t).Perm f.allHandles := by
  have hlive := Forest.isLive_of_get? hg
  obtain ⟨path, l, k, r, lc⟩ := exists_loc (mem_allHandles_of_isLive hlive)
  have e := get?_of_loc lc nd
  rw [hg] at e
  cases e
  exact cut_perm nd (by unfold dropSubtree; rw [cut_of_loc lc nd])

end Forest
end XotModel
