/-
  Value provenance for the forest primitives.

  `Forest.fpvQF Q f`: every node of every tree of `f` has a value satisfying `Q`.  The primitives of
  Model/Forest.lean move, drop or re-attach whole subtrees, create a node with a given value or overwrite
  one value: `fpvQF Q` is kept, given `Q` of the value handed in.  No invariant is needed.  (Same shape as
  the handle containment lemmas of Lemmas/FinvVStep.lean.)  With `Q = valueOK env`: the values of an edited tree are in the
  XML domain when the values handed to the API are.
-/
import XotModel.Lemmas.FinvLe

namespace XotModel
open HTree

namespace HTree

mutual
  /-- The values of all nodes, in document order. -/
  def fpvVals : HTree → List Value
    | .node _ v ks => v :: fpvValsList ks
  def fpvValsList : List HTree → List Value
    | [] => []
    | k :: ks => fpvVals k ++ fpvValsList ks
end

/-- Every node of the tree has a value satisfying `Q`. -/
def fpvQT (Q : Value → Prop) (t : HTree) : Prop := ∀ v ∈ fpvVals t, Q v
/-- … of the trees of the list. -/
def fpvQL (Q : Value → Prop) (ks : List HTree) : Prop := ∀ v ∈ fpvValsList ks, Q v

end HTree

variable {Q : Value → Prop}

theorem fpv_QL_nil : fpvQL Q [] := fun _ h => by simp [fpvValsList] at h

theorem fpv_QL_cons {k : HTree} {ks : List HTree} : fpvQL Q (k :: ks) ↔ fpvQT Q k ∧ fpvQL Q ks := by
  unfold fpvQL fpvQT
  simp only [fpvValsList, List.mem_append]
  exact ⟨fun h => ⟨fun v hv => h v (Or.inl hv), fun v hv => h v (Or.inr hv)⟩,
    fun h v hv => hv.elim (h.1 v) (h.2 v)⟩

theorem fpv_QT_node {h : Nat} {v : Value} {ks : List HTree} : fpvQT Q (.node h v ks) ↔ Q v ∧ fpvQL Q ks := by
  unfold fpvQL fpvQT
  simp only [fpvVals, List.mem_cons]
  exact ⟨fun hh => ⟨hh v (Or.inl rfl), fun w hw => hh w (Or.inr hw)⟩,
    fun hh w hw => hw.elim (fun e => e ▸ hh.1) (hh.2 w)⟩

theorem fpv_QL_append {a b : List HTree} : fpvQL Q (a ++ b) ↔ fpvQL Q a ∧ fpvQL Q b := by
  induction a with
  | nil => simp [fpv_QL_nil]
  | cons k ks ih => rw [List.cons_append, fpv_QL_cons, fpv_QL_cons, ih, and_assoc]

theorem fpv_QL_iff {ks : List HTree} : fpvQL Q ks ↔ ∀ k ∈ ks, fpvQT Q k := by
  induction ks with
  | nil => simp [fpv_QL_nil]
  | cons k ks ih => rw [fpv_QL_cons, ih]; simp

theorem fpv_QL_mem {ks : List HTree} (h : fpvQL Q ks) {k : HTree} (hk : k ∈ ks) : fpvQT Q k := fpv_QL_iff.mp h k hk

theorem fpv_QL_single {k : HTree} : fpvQL Q [k] ↔ fpvQT Q k := by rw [fpv_QL_cons]; simp [fpv_QL_nil]

theorem fpv_QT_value {t : HTree} (h : fpvQT Q t) : Q t.value := by
  cases t with | node hh v ks => exact (fpv_QT_node.mp h).1

theorem fpv_QT_kids {t : HTree} (h : fpvQT Q t) : fpvQL Q t.kids := by
  cases t with | node hh v ks => exact (fpv_QT_node.mp h).2

theorem fpv_QT_eq {t : HTree} : fpvQT Q t ↔ Q t.value ∧ fpvQL Q t.kids := by
  cases t with | node hh v ks => exact fpv_QT_node

theorem fpv_QL_filter {ks : List HTree} (h : fpvQL Q ks) (p : HTree → Bool) : fpvQL Q (ks.filter p) :=
  fpv_QL_iff.mpr fun k hk => fpv_QL_mem h (List.mem_filter.mp hk).1

theorem fpv_QL_sublist {a b : List HTree} (hs : ∀ k ∈ a, k ∈ b) (h : fpvQL Q b) : fpvQL Q a :=
  fpv_QL_iff.mpr fun k hk => fpv_QL_mem h (hs k hk)

theorem fpv_QT_setValue {t : HTree} (h : fpvQT Q t) {v : Value} (hv : Q v) : fpvQT Q (t.setValue v) := by
  cases t with | node hh w ks => exact fpv_QT_node.mpr ⟨hv, (fpv_QT_node.mp h).2⟩

theorem fpv_QT_setKids {t : HTree} (h : fpvQT Q t) {ks : List HTree} (hk : fpvQL Q ks) : fpvQT Q (t.setKids ks) := by
  cases t with | node hh w kk => exact fpv_QT_node.mpr ⟨(fpv_QT_node.mp h).1, hk⟩

/-! ### The tree edits -/

mutual
  theorem fpv_replaceBelow (h : Nat) (g : HTree → List HTree) (hg : ∀ k, fpvQT Q k → fpvQL Q (g k)) :
      ∀ t : HTree, fpvQT Q t → fpvQT Q (replaceBelow h g t)
    | .node h' v ks => by
      intro ht
      rw [replaceBelow]
      exact fpv_QT_node.mpr ⟨(fpv_QT_node.mp ht).1, fpv_replaceKids h g hg ks (fpv_QT_node.mp ht).2⟩
  theorem fpv_replaceKids (h : Nat) (g : HTree → List HTree) (hg : ∀ k, fpvQT Q k → fpvQL Q (g k)) :
      ∀ ks : List HTree, fpvQL Q ks → fpvQL Q (replaceKids h g ks)
    | [] => by intro _; simp [replaceKids, fpv_QL_nil]
    | k :: ks => by
      intro hk
      rw [replaceKids_cons]
      obtain ⟨h1, h2⟩ := fpv_QL_cons.mp hk
      split
      · exact fpv_QL_append.mpr ⟨hg k h1, h2⟩
      · exact fpv_QL_cons.mpr ⟨fpv_replaceBelow h g hg k h1, fpv_replaceKids h g hg ks h2⟩
end

mutual
  theorem fpv_mapAt (h : Nat) (g : HTree → HTree) (hg : ∀ k, fpvQT Q k → fpvQT Q (g k)) :
      ∀ t : HTree, fpvQT Q t → fpvQT Q (mapAt h g t)
    | .node h' v ks => by
      intro ht
      rw [mapAt]
      split
      · exact hg _ ht
      · exact fpv_QT_node.mpr ⟨(fpv_QT_node.mp ht).1, fpv_mapAtList h g hg ks (fpv_QT_node.mp ht).2⟩
  theorem fpv_mapAtList (h : Nat) (g : HTree → HTree) (hg : ∀ k, fpvQT Q k → fpvQT Q (g k)) :
      ∀ ks : List HTree, fpvQL Q ks → fpvQL Q (mapAtList h g ks)
    | [] => by intro _; simp [mapAtList, fpv_QL_nil]
    | k :: ks => by
      intro hk
      rw [mapAtList]
      obtain ⟨h1, h2⟩ := fpv_QL_cons.mp hk
      exact fpv_QL_cons.mpr ⟨fpv_mapAt h g hg k h1, fpv_mapAtList h g hg ks h2⟩
end

theorem fpv_map_replaceBelow (h : Nat) (g : HTree → List HTree) (hg : ∀ k, fpvQT Q k → fpvQL Q (g k))
    {ks : List HTree} (hk : fpvQL Q ks) : fpvQL Q (ks.map (replaceBelow h g)) :=
  fpv_QL_iff.mpr fun k hm => by
    obtain ⟨k0, hk0, rfl⟩ := List.mem_map.mp hm
    exact fpv_replaceBelow h g hg k0 (fpv_QL_mem hk hk0)

theorem fpv_map_mapAt (h : Nat) (g : HTree → HTree) (hg : ∀ k, fpvQT Q k → fpvQT Q (g k))
    {ks : List HTree} (hk : fpvQL Q ks) : fpvQL Q (ks.map (mapAt h g)) :=
  fpv_QL_iff.mpr fun k hm => by
    obtain ⟨k0, hk0, rfl⟩ := List.mem_map.mp hm
    exact fpv_mapAt h g hg k0 (fpv_QL_mem hk hk0)

theorem fpv_find? (h : Nat) : ∀ t s : HTree, find? h t = some s → fpvQT Q t → fpvQT Q s :=
  fun t s hf ht => Fmap.find?_closed (P := fpvQT Q) (fun _ _ hp hk => fpv_QL_mem (fpv_QT_kids hp) hk) h t s ht hf

theorem fpv_findList? (h : Nat) : ∀ (ks : List HTree) (s : HTree), findList? h ks = some s → fpvQL Q ks → fpvQT Q s :=
  fun ks s hf hk => Fmap.findList?_closed (P := fpvQT Q) (fun _ _ hp hk => fpv_QL_mem (fpv_QT_kids hp) hk) h ks s
    (fpv_QL_iff.mp hk) hf

namespace Forest

/-- Every node of the forest has a value satisfying `Q`. -/
def fpvQF (Q : Value → Prop) (f : Forest) : Prop := fpvQL Q f.roots

theorem fpv_get? {f : Forest} (hq : fpvQF Q f) {h : Nat} {t : HTree} (hg : f.get? h = some t) : fpvQT Q t :=
  fpv_findList? h f.roots t hg hq

theorem fpv_value? {f : Forest} (hq : fpvQF Q f) {h : Nat} {v : Value} (hv : f.value? h = some v) : Q v := by
  unfold value? at hv
  cases hg : f.get? h with
  | none => rw [hg] at hv; cases hv
  | some t =>
    rw [hg] at hv
    simp only [Option.map_some, Option.some.injEq] at hv
    rw [← hv]; exact fpv_QT_value (fpv_get? hq hg)

theorem fpv_QF_roots {f g : Forest} (h : g.roots = f.roots) : fpvQF Q g ↔ fpvQF Q f := by
  unfold fpvQF; rw [h]

/-! ### The primitives -/

theorem fpv_newNode {f : Forest} (hq : fpvQF Q f) {v : Value} (hv : Q v) : fpvQF Q (f.newNode v).1 := by
  show fpvQL Q (f.roots ++ [.node f.next v []])
  exact fpv_QL_append.mpr ⟨hq, fpv_QL_single.mpr (fpv_QT_node.mpr ⟨hv, fpv_QL_nil⟩)⟩

theorem fpv_setValue {f : Forest} (hq : fpvQF Q f) (h : Nat) {v : Value} (hv : Q v) : fpvQF Q (f.setValue h v) :=
  fpv_map_mapAt h _ (fun _ hk => fpv_QT_setValue hk hv) hq

theorem fpv_cut {f : Forest} (hq : fpvQF Q f) (h : Nat) :
    fpvQF Q (f.cut h).1 ∧ ∀ t, (f.cut h).2 = some t → fpvQT Q t := by
  unfold cut
  cases hg : f.get? h with
  | none => exact ⟨hq, fun t ht => by cases ht⟩
  | some t =>
    simp only
    refine ⟨?_, ?_⟩
    · split
      · exact fpv_QL_filter hq _
      · exact fpv_map_replaceBelow h _ (fun _ _ => fpv_QL_nil) hq
    · intro t' ht'
      have : t' = t := by split at ht' <;> (cases ht'; rfl)
      subst this
      exact fpv_get? hq hg

theorem fpv_addRoot {f : Forest} (hq : fpvQF Q f) {t : HTree} (ht : fpvQT Q t) : fpvQF Q (f.addRoot t) :=
  fpv_QL_append.mpr ⟨hq, fpv_QL_single.mpr ht⟩

theorem fpv_spliceOut {f : Forest} (hq : fpvQF Q f) (h : Nat) : fpvQF Q (f.spliceOut h) := by
  unfold spliceOut
  cases hg : f.get? h with
  | none => exact hq
  | some t =>
    simp only
    have hk : fpvQL Q t.kids := fpv_QT_kids (fpv_get? hq hg)
    have key : fpvQL Q (f.roots.filter (fun r => r.handle != h) ++ t.kids) :=
      fpv_QL_append.mpr ⟨fpv_QL_filter hq _, hk⟩
    split
    · split
      · exact key
      · exact key
    · exact fpv_map_replaceBelow h _ (fun _ hk' => fpv_QT_kids hk') hq

theorem fpv_place {f : Forest} (hq : fpvQF Q f) {t : HTree} (ht : fpvQT Q t) (ref : Nat) :
    fpvQF Q (f.placeAfter ref t) ∧ fpvQF Q (f.placeBefore ref t) ∧ fpvQF Q (f.placeLast ref t) ∧
      fpvQF Q (f.placeFirst ref t) := by
  refine ⟨?_, ?_, ?_, ?_⟩
  · exact fpv_map_replaceBelow ref _ (fun k hk => fpv_QL_cons.mpr ⟨hk, fpv_QL_single.mpr ht⟩) hq
  · exact fpv_map_replaceBelow ref _ (fun k hk => fpv_QL_cons.mpr ⟨ht, fpv_QL_single.mpr hk⟩) hq
  · exact fpv_map_mapAt ref _ (fun k hk => fpv_QT_setKids hk
      (fpv_QL_append.mpr ⟨fpv_QT_kids hk, fpv_QL_single.mpr ht⟩)) hq
  · exact fpv_map_mapAt ref _ (fun k hk => fpv_QT_setKids hk (fpv_QL_cons.mpr ⟨ht, fpv_QT_kids hk⟩)) hq

theorem fpv_corrupt {f : Forest} (hq : fpvQF Q f) : fpvQF Q { f with corrupt := true } := hq

end Forest
end XotModel
