/-
  White space of `Pretty` is written only between an event that closes a piece of markup and one that opens
  one — never inside a tag, never next to a text token: the tag grammar of the event stream and the stack between
  two consecutive events, for any closures; then the XML statement on the pretty token stream and what the markup
  tokens look like.
-/
import XotModel.Lemmas.PrettyStack
import XotModel.Model.Valid
import XotModel.Lemmas.BasicFacts
import XotModel.Lemmas.PrettyTrace

/-!
## Two consecutive events

  "Closes a piece of markup": `>` / end tag / comment / PI; "opens one": `<…`.  Two ingredients:
  * the tag grammar of the event stream (`gram`): `pfx` / `attribute` / `startTagClose` events
    follow exactly `startTagOpen` / `pfx` / `attribute` events — structure of `genNode` alone;
  * the stack between two consecutive events: a newline behind the first or indentation in front
    of the second both require that stack to be outside mixed content, while the stack around a
    text event holds the `Mixed` entry of the text node's parent element.
-/

namespace XotModel

/-! ### Kinds of events -/

/-- Events after which the writer is inside a start tag. -/
def Output.inTag : Output → Bool
  | .startTagOpen _ => true
  | .pfx _ _ => true
  | .attribute _ _ => true
  | _ => false

/-- Events that can only be written inside a start tag. -/
def Output.contTag : Output → Bool
  | .pfx _ _ => true
  | .attribute _ _ => true
  | .startTagClose => true
  | _ => false

theorem Output.inTag_of_closesMarkup {o : Output} (h : o.closesMarkup = true) : o.inTag = false := by
  cases o <;> first | rfl | cases h

theorem Output.contTag_of_opensMarkup {o : Output} (h : o.opensMarkup = true) : o.contTag = false := by
  cases o <;> first | rfl | cases h

theorem Output.closes_or_text {o : Output} (h : o.inTag = false) :
    o.closesMarkup = true ∨ ∃ x, o = .text x := by
  cases o <;> first | exact Or.inl rfl | exact Or.inr ⟨_, rfl⟩ | cases h

theorem Output.opens_or_text {o : Output} (h : o.contTag = false) :
    o.opensMarkup = true ∨ ∃ x, o = .text x := by
  cases o <;> first | exact Or.inl rfl | exact Or.inr ⟨_, rfl⟩ | cases h

/-! ### The tag grammar of the event stream -/

/-- `st` = inside a start tag.  Every event is a tag-continuation exactly when the previous one
    left the writer inside a tag, and the stream ends outside a tag. -/
def gram : Bool → List (Path × Output) → Bool
  | st, [] => !st
  | st, po :: rest => (po.2.contTag == st) && gram po.2.inTag rest

theorem gram_append {st : Bool} {a b : List (Path × Output)} (ha : gram st a = true)
    (hb : gram false b = true) : gram st (a ++ b) = true := by
  induction a generalizing st with
  | nil =>
    simp only [gram, Bool.not_eq_true'] at ha
    subst ha
    simpa using hb
  | cons po a ih =>
    simp only [gram, Bool.and_eq_true] at ha
    simp only [List.cons_append, gram, Bool.and_eq_true]
    exact ⟨ha.1, ih ha.2⟩

theorem gram_inTag_run (l : List (Path × Output)) (rest : List (Path × Output))
    (hl : ∀ po ∈ l, po.2.inTag = true ∧ po.2.contTag = true) (hr : gram true rest = true) :
    gram true (l ++ rest) = true := by
  induction l with
  | nil => simpa using hr
  | cons po l ih =>
    obtain ⟨h1, h2⟩ := hl po (by simp)
    simp only [List.cons_append, gram, h1, h2, beq_self_eq_true, Bool.true_and]
    exact ih (fun q hq => hl q (by simp [hq]))

mutual
theorem genNode_gram (inScope : List (Nat × Nat)) (isTop : Bool) (path : Path) (n : Tree) :
    gram false (genNode inScope isTop path n) = true := by
  cases n with
  | node v ks =>
    have hk := genKids_gram inScope path 0 ks
    cases v with
    | element name =>
      rw [genNode_element]
      simp only [List.append_assoc, List.singleton_append, List.cons_append, List.nil_append]
      simp only [gram, Output.contTag, Output.inTag, beq_self_eq_true, Bool.true_and]
      apply gram_inTag_run
      · intro po hpo
        obtain ⟨o, ho, rfl⟩ := List.mem_map.mp hpo
        split at ho
        · unfold extraPrefixes at ho
          obtain ⟨d, _, rfl⟩ := List.mem_map.mp ho
          exact ⟨rfl, rfl⟩
        · cases ho
      apply gram_inTag_run
      · intro po hpo
        obtain ⟨d, _, rfl⟩ := List.mem_map.mp hpo
        exact ⟨rfl, rfl⟩
      apply gram_inTag_run
      · intro po hpo
        obtain ⟨a, _, rfl⟩ := List.mem_map.mp hpo
        exact ⟨rfl, rfl⟩
      simp only [gram, Output.contTag, Output.inTag, beq_self_eq_true, Bool.true_and]
      exact gram_append hk (by simp [gram, Output.contTag, Output.inTag])
    | document => rw [genNode_document]; exact hk
    | «attribute» a val => rw [genNode_attribute]; exact hk
    | «namespace» p ns => rw [genNode_namespace]; exact hk
    | text x => rw [genNode_text]; simpa [gram, Output.contTag, Output.inTag] using hk
    | comment x => rw [genNode_comment]; simpa [gram, Output.contTag, Output.inTag] using hk
    | pi tg d => rw [genNode_pi]; simpa [gram, Output.contTag, Output.inTag] using hk

theorem genKids_gram (inScope : List (Nat × Nat)) (path : Path) (i : Nat) (ks : List Tree) :
    gram false (genNode.genKids inScope path i ks) = true := by
  cases ks with
  | nil => rfl
  | cons k ks' =>
    simp only [genNode.genKids]
    exact gram_append (genNode_gram inScope false (path ++ [i]) k) (genKids_gram inScope path (i + 1) ks')
end

theorem gram_adjacent {st : Bool} (pre : List (Path × Output)) (a b : Path × Output)
    (post : List (Path × Output)) (h : gram st (pre ++ a :: b :: post) = true) :
    b.2.contTag = a.2.inTag := by
  induction pre generalizing st with
  | nil =>
    simp only [List.nil_append, gram, Bool.and_eq_true, beq_iff_eq] at h
    exact h.2.1
  | cons po pre ih =>
    simp only [List.cons_append, gram, Bool.and_eq_true] at h
    exact ih h.2

/-! ### The trees the indentation clause of C14 ranges over -/

/-- Text / comment / PI / attribute / namespace nodes are leaves and no document node has a text
    child (a well-formed document, or an element-rooted subtree of one: `StructValid` trees have
    no document node below the root).  Fragments with top-level text are excluded: `Pretty` keeps
    no stack entry for a document node (see `C14_pretty_fragment_text_gets_newline`,
    `C19_pretty_fragment_text_gets_newline`). -/
def TextOkAt (v : Value) (ks : List Tree) : Prop :=
  (v.isLeafKind = true → ks = []) ∧ (v = .document → ∀ k ∈ ks, k.value.isText = false)

def TextOk (n : Tree) : Prop := n.Forall TextOkAt

theorem at?_snoc (n : Tree) (rel : Path) (i : Nat) (node : Tree) (h : n.at? (rel ++ [i]) = some node) :
    ∃ a, n.at? rel = some a ∧ a.kids[i]? = some node := by
  rw [at?_append] at h
  cases ha : n.at? rel with
  | none => simp [ha] at h
  | some a =>
    simp only [ha] at h
    cases a with
    | node v ks =>
      rw [at?_cons] at h
      cases hk : ks[i]? with
      | none => simp [hk] at h
      | some k =>
        simp only [hk, Option.bind_some, Tree.at?, Option.some.injEq] at h
        subst h
        exact ⟨_, rfl, hk⟩

theorem mem_normalKids (a k : Tree) (hk : k ∈ a.kids) (hn : k.value.isNormal = true) :
    k ∈ a.normalKids := by
  unfold Tree.normalKids
  generalize a.kids = l at hk
  induction l with
  | nil => cases hk
  | cons y l ih =>
    rw [List.dropWhile_cons]
    split
    · rename_i hy
      rcases List.mem_cons.mp hk with rfl | hk
      · simp [hn] at hy
      · exact ih hk
    · exact hk

theorem ownEvent_text {inScope : List (Nat × Nat)} {b : Bool} {n : Tree} {c : Str}
    (h : OwnEvent inScope b n (.text c)) : n.value = .text c := by
  unfold OwnEvent edgeStart edgeEnd at h
  cases hv : n.value <;> simp [hv] at h
  · have h2 := h.2
    unfold extraPrefixes at h2
    simp at h2
  · rw [h]

theorem TextOk.text_parent {n : Tree} (hok : TextOk n) (rel : Path) (node : Tree) (x : Str)
    (hnode : n.at? rel = some node) (hv : node.value = .text x) :
    (rel = [] ∧ n = .node (.text x) []) ∨
      ∃ rel0 i a name, rel = rel0 ++ [i] ∧ n.at? rel0 = some a ∧ a.value = .element name := by
  rcases List.eq_nil_or_concat rel with hnil | ⟨rel0, i, hsn⟩
  · left
    subst hnil
    simp only [Tree.at?, Option.some.injEq] at hnode
    subst hnode
    cases n with
    | node v ks =>
      cases hv
      rw [((Tree.forall_node TextOkAt _ ks).mp hok).1.1 rfl]
      exact ⟨rfl, rfl⟩
  · right
    rw [List.concat_eq_append] at hsn
    subst hsn
    obtain ⟨a, ha, hk⟩ := at?_snoc n rel0 i node hnode
    have hmem : node ∈ a.kids := List.mem_of_getElem? hk
    obtain ⟨hleaf, hdoc⟩ := Tree.forall_at? TextOkAt n rel0 a hok ha
    by_cases hl : a.value.isLeafKind = true
    · rw [hleaf hl] at hmem
      cases hmem
    · cases hav : a.value with
      | element name => exact ⟨rel0, i, a, name, rfl, ha, hav⟩
      | document =>
        have := hdoc hav node hmem
        rw [hv] at this
        cases this
      | _ => exact absurd (by rw [hav]; rfl) hl

namespace Pretty

variable (inl : Tree → Bool) (supp : Nat → Bool) (t : Tree)

/-! ### The stack between two consecutive events -/

/-- Whitespace between two consecutive events `a b` of a grammatical stream (a newline behind `a`
    or indentation in front of `b`): the stack between them is neither mixed nor in `preserve`
    scope, `a` closes markup or is a text event, `b` opens markup or is a text event. -/
theorem between (ps1 : PStack) (a b : Path × Output) (hgram : b.2.contTag = a.2.inTag)
    (hw : (prettifyAtWith inl supp t ps1 a.1 a.2).2.2 = true ∨
      (prettifyAtWith inl supp t (step inl supp t ps1 a) b.1 b.2).2.1 > 0) :
    (step inl supp t ps1 a).inMixed = false ∧ (step inl supp t ps1 a).inSpacePreserve = false ∧
    (a.2.closesMarkup = true ∨ ∃ x, a.2 = .text x) ∧ (b.2.opensMarkup = true ∨ ∃ x, b.2 = .text x) := by
  rcases hw with hw | hw
  · obtain ⟨hc, hnl⟩ := prettifyAtWith_newline_after inl supp t ps1 a.1 a.2 hw
    rw [Output.inTag_of_closesMarkup hc] at hgram
    exact ⟨getNewline_true hnl, getNewline_true_preserve hnl, Or.inl hc, Output.opens_or_text hgram⟩
  · obtain ⟨ho, hm, hp⟩ := prettifyAtWith_indent_before inl supp t _ b.1 b.2 hw
    rw [Output.contTag_of_opensMarkup ho] at hgram
    exact ⟨hm, hp, Output.closes_or_text hgram.symm, Or.inl ho⟩

theorem between_events (start : Path) (n : Tree) (inScope : List (Nat × Nat))
    (hat : t.at? start = some n) (hs : namespacesInScope t start = some inScope)
    (pre post : List ((Nat × Bool) × Path × Output)) (y1 y2 : (Nat × Bool) × Path × Output)
    (h : decorated inl supp t [] (genOutputs t start) = pre ++ y1 :: y2 :: post)
    (hw : y1.1.2 = true ∨ y2.1.1 > 0) :
    ∃ ps1, (ps1, y1.2.1, y1.2.2) ∈ trace (step inl supp t) [] (genOutputs t start) ∧
      (step inl supp t ps1 y1.2, y2.2.1, y2.2.2) ∈ trace (step inl supp t) [] (genOutputs t start) ∧
      (step inl supp t ps1 y1.2).inMixed = false ∧ (step inl supp t ps1 y1.2).inSpacePreserve = false ∧
      (y1.2.2.closesMarkup = true ∨ ∃ x, y1.2.2 = .text x) ∧
      (y2.2.2.opensMarkup = true ∨ ∃ x, y2.2.2 = .text x) := by
  obtain ⟨ps1, m1, m2, e1, e2⟩ := decorated_adjacent inl supp t [] _ pre post y1 y2 h
  have hgram : y2.2.2.contTag = y1.2.2.inTag := by
    have hg := genOutputs_eq_genNode hat hs
    have := genNode_gram inScope true start n
    rw [← hg, ← decorated_events inl supp t [] (genOutputs t start), h] at this
    simp only [List.map_append, List.map_cons] at this
    exact gram_adjacent _ _ _ _ this
  rw [e1, e2] at hw
  exact ⟨ps1, m1, m2, between inl supp t ps1 y1.2 y2.2 hgram hw⟩

/-! ### Text events -/

variable (htext : ∀ a k : Tree, k ∈ a.normalKids → k.value.isText = true → inl a = true)
include htext

theorem text_parent_mixed (n : Tree) (rel : Path) (i : Nat) (x : Str) (node a : Tree) (name : Nat)
    (hat : n.at? (rel ++ [i]) = some node) (hv : node.value = .text x)
    (ha : n.at? rel = some a) (hav : a.value = .element name) :
    PStack.inMixed (entriesAbove inl supp n (rel ++ [i])) = true := by
  obtain ⟨a', ha', hk⟩ := at?_snoc n rel i node hat
  rw [ha] at ha'
  cases ha'
  have hnk : node ∈ a.normalKids := mem_normalKids a node (List.mem_of_getElem? hk) (by rw [hv]; rfl)
  have hfc : a.firstChild?.isSome = true := by
    unfold Tree.firstChild?
    cases hh : a.normalKids with
    | nil => rw [hh] at hnk; cases hnk
    | cons y ys => rfl
  have hopen : StackEntry.mixed ∈ openEntryOf inl supp a := by
    rw [openEntryOf_element inl supp hav hfc, entryFor, htext a node hnk (by rw [hv]; rfl)]
    exact List.mem_singleton_self _
  have hin := openAbove_entry inl supp n (rel ++ [i]) a ⟨rel, [i], rfl, by simp, ⟨node, hat⟩, ha⟩ _ hopen
  simp only [PStack.inMixed, List.any_eq_true]
  exact ⟨_, hin, rfl⟩

/-- A text event of the run: if the parent of its node is an element, the stack around it is
    inside mixed content. -/
theorem text_event_stack (start : Path) (n : Tree) (inScope : List (Nat × Nat))
    (hat : t.at? start = some n) (hs : namespacesInScope t start = some inScope)
    (ps : PStack) (p : Path) (x : Str)
    (hx : (ps, p, Output.text x) ∈ trace (step inl supp t) [] (genOutputs t start)) :
    ∃ rel node, p = start ++ rel ∧ n.at? rel = some node ∧ node.value = .text x ∧
      ∀ rel0 i a name, rel = rel0 ++ [i] → n.at? rel0 = some a → a.value = .element name →
        ps.inMixed = true := by
  obtain ⟨rel, node, h1, hnode, _, hown, h2⟩ := genOutputs_trace_node inl supp t start n inScope hat hs _ hx
  have hv := ownEvent_text hown
  refine ⟨rel, node, h1, hnode, hv, ?_⟩
  rintro rel0 i a name rfl ha hav
  have h2' : ps = entriesAbove inl supp n (rel0 ++ [i]) := h2
  rw [h2']
  exact text_parent_mixed inl supp htext n rel0 i x node a name hnode hv ha hav

theorem text_event_ok (start : Path) (n : Tree) (inScope : List (Nat × Nat))
    (hat : t.at? start = some n) (hs : namespacesInScope t start = some inScope) (hok : TextOk n)
    (ps : PStack) (p : Path) (x : Str)
    (hx : (ps, p, Output.text x) ∈ trace (step inl supp t) [] (genOutputs t start)) :
    (genOutputs t start).length = 1 ∨ ps.inMixed = true := by
  obtain ⟨rel, node, _, hnode, hv, hpar⟩ := text_event_stack inl supp t htext start n inScope hat hs ps p x hx
  rcases hok.text_parent rel node x hnode hv with ⟨_, hn⟩ | ⟨rel0, i, a, name, hr, ha, hav⟩
  · left
    subst hn
    simp [genOutputs_eq_genNode hat hs, genNode_text, genNode.genKids]
  · exact Or.inr (hpar rel0 i a name hr ha hav)

/-- In a `TextOk` tree no text event has white space next to it: between two consecutive decorated events with
    white space between them the first closes markup, the second opens markup, and the entries above the
    second are neither mixed nor in `preserve` scope. -/
theorem between_events_ok (start : Path) (n : Tree) (inScope : List (Nat × Nat))
    (hat : t.at? start = some n) (hs : namespacesInScope t start = some inScope) (hok : TextOk n)
    (pre post : List ((Nat × Bool) × Path × Output)) (y1 y2 : (Nat × Bool) × Path × Output)
    (h : decorated inl supp t [] (genOutputs t start) = pre ++ y1 :: y2 :: post)
    (hw : y1.1.2 = true ∨ y2.1.1 > 0) :
    y1.2.2.closesMarkup = true ∧ y2.2.2.opensMarkup = true ∧
    ∃ rel, y2.2.1 = start ++ rel ∧
      PStack.inMixed (entriesFor inl supp y2.2.2 n rel) = false ∧
      PStack.inSpacePreserve (entriesFor inl supp y2.2.2 n rel) = false := by
  obtain ⟨ps1, m1, m2, hS1, hS2, c1, c2⟩ := between_events inl supp t start n inScope hat hs pre post y1 y2 h hw
  have hlen : (genOutputs t start).length ≠ 1 := by
    rw [← decorated_events inl supp t [] (genOutputs t start), h]
    simp
    omega
  -- the stack around a text event is mixed
  have notext : ∀ ps p x, (ps, p, Output.text x) ∈ trace (step inl supp t) [] (genOutputs t start) →
      ps.inMixed = true := fun ps p x hm =>
    (text_event_ok inl supp t htext start n inScope hat hs hok ps p x hm).resolve_left hlen
  obtain ⟨rel, hr1, hr2⟩ := genOutputs_trace inl supp t start n inScope hat hs _ m2
  refine ⟨c1.resolve_right ?_, c2.resolve_right ?_, rel, hr1, hr2 ▸ hS1, hr2 ▸ hS2⟩
  · rintro ⟨x, hx⟩
    rw [hx] at m1
    rw [show y1.2 = (y1.2.1, y1.2.2) from rfl, hx, step_neutral inl supp t ps1 _ _ rfl, notext _ _ x m1] at hS1
    cases hS1
  · rintro ⟨x, hx⟩
    rw [hx] at m2
    rw [notext _ _ x m2] at hS1
    cases hS1

end Pretty
end XotModel

/-!
## Two consecutive pretty tokens

  The statement on events for `prettyTokensWith`, the XML pretty stream, and what the markup tokens look like.
-/

namespace XotModel

theorem hasInlineChild_of_text (a k : Tree) (hk : k ∈ a.normalKids) (hv : k.value.isText = true) :
    hasInlineChild a = true :=
  List.any_eq_true.mpr ⟨k, hk, hv⟩

variable (sup : List Nat) (t : Tree)

/-- Whitespace between two consecutive pretty tokens: the first closes markup, the second opens
    markup, and the stack between them (the entries of the open elements above the second token's
    node, its own included for an end tag) is neither mixed nor in `preserve` scope. -/
theorem pretty_between (esc : Escapers) (env : Env) (pr : TokenParams) (start : Path) (n : Tree)
    (inScope : List (Nat × Nat)) (hat : t.at? start = some n)
    (hs : namespacesInScope t start = some inScope) (hok : TextOk n)
    (ks pre post : List (Path × Output × PrettyOutputToken)) (k1 k2 : Path × Output × PrettyOutputToken)
    (h : prettyTokensWith esc env pr sup t start = .ok ks) (hks : ks = pre ++ k1 :: k2 :: post)
    (hw : k1.2.2.newline = true ∨ k2.2.2.indentation > 0) :
    k1.2.1.closesMarkup = true ∧ k2.2.1.opensMarkup = true ∧
    ∃ rel, k2.1 = start ++ rel ∧
      PStack.inMixed (pentriesFor sup k2.2.1 n rel) = false ∧
      PStack.inSpacePreserve (pentriesFor sup k2.2.1 n rel) = false := by
  have hd := (prettyAll_ok sup t esc env pr [] _ _ _ (prettyTokensWith_ok sup t h)).1
  rw [hks, List.map_append, List.map_cons, List.map_cons] at hd
  rw [pentriesFor_eq_pretty]
  exact Pretty.between_events_ok _ _ t hasInlineChild_of_text start n inScope hat hs hok _ _ _ _ hd.symm hw

/-! ### What the markup tokens look like -/

/-- A `format!` result begins with the first character of its literal. -/
theorem Pretty.fmt_head? (c : Char) (p : Str) (ps as : List Str) : (fmt ((c :: p) :: ps) as).head? = some c := by
  cases ps <;> cases as <;> rfl

/-- A `format!` result ends with the last character of its literal. -/
theorem Pretty.fmt_getLast? (ps : List Str) (q : Str) (c : Char) (as : List Str) :
    (fmt (ps ++ [q ++ [c]]) as).getLast? = some c := by
  induction ps generalizing as with
  | nil => exact List.getLast?_concat
  | cons p ps ih =>
    obtain ⟨r, rs, hr⟩ : ∃ r rs, ps ++ [q ++ [c]] = r :: rs := by cases ps <;> exact ⟨_, _, rfl⟩
    rw [List.cons_append, hr]
    cases as with
    | nil =>
      rw [fmt, List.getLast?_append, ← hr, ih]
      · rfl
      · exact List.cons_ne_nil r rs
    | cons a as =>
      rw [fmt, List.getLast?_append, ← hr, ih]
      · rfl
      · exact List.cons_ne_nil r rs

/-- A token that opens markup begins with `<`, one that closes markup ends with `>` — except the
    (empty) end-tag token of an element without children, whose tag was already closed by `/>`. -/
theorem renderXmlWith_markup (esc : Escapers) (env : Env) (pr : TokenParams) (s s' : FStack) (node : Tree)
    (parent : Option Tree) (o : Output) (tok : OutputToken)
    (h : renderXmlWith esc env pr s node parent o = .ok (s', tok)) :
    (o.opensMarkup = true → tok.space = false ∧
      (tok.text.head? = some '<' ∨ ((∃ name, o = .endTag name) ∧ tok.text = []))) ∧
    (o.closesMarkup = true →
      (tok.text.getLast? = some '>' ∨ ((∃ name, o = .endTag name) ∧ tok.text = []))) := by
  cases o with
  | startTagOpen name =>
    refine ⟨fun _ => ?_, fun hc => Bool.noConfusion hc⟩
    simp only [renderXmlWith] at h
    split at h
    · cases h
    · split at h
      · cases h; exact ⟨rfl, Or.inl (Pretty.fmt_head? '<' _ _ _)⟩
      · cases h
  | startTagClose =>
    refine ⟨fun ho => Bool.noConfusion ho, fun _ => ?_⟩
    simp only [renderXmlWith] at h
    split at h <;> cases h <;> exact Or.inl rfl
  | endTag name =>
    simp only [renderXmlWith] at h
    split at h
    · split at h
      · cases h
        exact ⟨fun _ => ⟨rfl, Or.inl (Pretty.fmt_head? '<' _ _ _)⟩,
          fun _ => Or.inl (Pretty.fmt_getLast? [['<','/']] [] '>' _)⟩
      · cases h
    · cases h
      exact ⟨fun _ => ⟨rfl, Or.inr ⟨⟨name, rfl⟩, rfl⟩⟩, fun _ => Or.inr ⟨⟨name, rfl⟩, rfl⟩⟩
  | comment c =>
    simp only [renderXmlWith] at h
    cases h
    exact ⟨fun _ => ⟨rfl, Or.inl (Pretty.fmt_head? '<' _ _ _)⟩,
      fun _ => Or.inl (Pretty.fmt_getLast? [['<','!','-','-']] ['-','-'] '>' _)⟩
  | pi tg d =>
    simp only [renderXmlWith] at h
    split at h
    · cases h
    · split at h
      · cases h
        exact ⟨fun _ => ⟨rfl, Or.inl (Pretty.fmt_head? '<' _ _ _)⟩,
          fun _ => Or.inl (Pretty.fmt_getLast? [['<','?'], [' ']] ['?'] '>' _)⟩
      · cases h
        exact ⟨fun _ => ⟨rfl, Or.inl (Pretty.fmt_head? '<' _ _ _)⟩,
          fun _ => Or.inl (Pretty.fmt_getLast? [['<','?']] ['?'] '>' _)⟩
  | text c => exact ⟨fun ho => Bool.noConfusion ho, fun ho => Bool.noConfusion ho⟩
  | pfx a b => exact ⟨fun ho => Bool.noConfusion ho, fun ho => Bool.noConfusion ho⟩
  | «attribute» a v => exact ⟨fun ho => Bool.noConfusion ho, fun ho => Bool.noConfusion ho⟩

theorem pretty_token_shape (esc : Escapers) (env : Env) (pr : TokenParams) (start : Path)
    (ks : List (Path × Output × PrettyOutputToken))
    (h : prettyTokensWith esc env pr sup t start = .ok ks)
    (k : Path × Output × PrettyOutputToken) (hk : k ∈ ks) :
    (k.2.1.opensMarkup = true → k.2.2.space = false ∧
      (k.2.2.text.head? = some '<' ∨ ((∃ name, k.2.1 = .endTag name) ∧ k.2.2.text = []))) ∧
    (k.2.1.closesMarkup = true →
      (k.2.2.text.getLast? = some '>' ∨ ((∃ name, k.2.1 = .endTag name) ∧ k.2.2.text = []))) := by
  obtain ⟨s1, s2, hr⟩ := (prettyAll_ok sup t esc env pr [] _ _ _ (prettyTokensWith_ok sup t h)).2 k hk
  unfold renderAtWith at hr
  cases hn : t.at? k.1 with
  | none => simp [hn] at hr
  | some node =>
    simp only [hn] at hr
    exact renderXmlWith_markup esc env pr s1 s2 node _ _ _ hr

/-- Per token, on every tree: indentation only in front of a token that opens markup, a newline
    only behind a token that closes markup. -/
theorem pretty_token_kinds (esc : Escapers) (env : Env) (pr : TokenParams) (start : Path)
    (ks : List (Path × Output × PrettyOutputToken))
    (h : prettyTokensWith esc env pr sup t start = .ok ks)
    (k : Path × Output × PrettyOutputToken) (hk : k ∈ ks) :
    (k.2.2.indentation > 0 → k.2.1.opensMarkup = true) ∧
    (k.2.2.newline = true → k.2.1.closesMarkup = true) := by
  obtain ⟨ps', _, heq⟩ := prettyAll_trace sup t esc env pr [] _ _ _ (prettyTokensWith_ok sup t h) k hk
  constructor
  · intro hw
    rw [show k.2.2.indentation = _ from congrArg Prod.fst heq] at hw
    exact (Pretty.prettifyAtWith_indent_before _ _ t ps' _ _ hw).1
  · intro hw
    rw [show k.2.2.newline = _ from congrArg Prod.snd heq] at hw
    exact (Pretty.prettifyAtWith_newline_after _ _ t ps' _ _ hw).1

theorem pretty_first_token (esc : Escapers) (env : Env) (pr : TokenParams) (start : Path)
    (k : Path × Output × PrettyOutputToken) (ks : List (Path × Output × PrettyOutputToken))
    (h : prettyTokensWith esc env pr sup t start = .ok (k :: ks)) : k.2.2.indentation = 0 := by
  have hd := (prettyAll_ok sup t esc env pr [] _ _ _ (prettyTokensWith_ok sup t h)).1
  cases hg : genOutputs t start with
  | nil => rw [hg] at hd; cases hd
  | cons po evs =>
    rw [hg] at hd
    simp only [List.map_cons, Pretty.decorated, Pretty.trace, List.cons.injEq, Prod.mk.injEq] at hd
    rw [show k.2.2.indentation = _ from congrArg Prod.fst hd.1.1]
    exact Pretty.prettifyAtWith_nil_indent _ _ t _ _

end XotModel
