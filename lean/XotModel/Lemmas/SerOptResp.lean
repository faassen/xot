/-
  The spelling `spellNodeO` of a tree under any token parameters is the default spelling `spellNode` up to how
  the character data runs are spelled (`NSNode.Resp`, Lemmas/SerOptDefs.lean); and what that relation preserves:
  the denotation, well-formedness for the builder, and — on token lists (`TokRel`) — `LexOK`.
-/
import XotModel.Lemmas.SerTokensTop
import XotModel.Lemmas.SerOptDefs
import XotModel.Lemmas.RoundTripTokens
import XotModel.Lemmas.SerTokensLex

/-!
## `spellNodeO` against `spellNode`

  The parameters never decide about success (`endOf_serNodeO`, Lemmas/SerTokensMain.lean).
-/

namespace XotModel
open Gen

variable (env : Env) (pr : TokenParams)

/-- How `serialize_xml_string` ends does not depend on the token parameters. -/
theorem endOf_serTokensAtO_default (t : Tree) (start : Path) :
    endOf (serTokensAtO env pr t start) = endOf (serTokensAt env false t start) := by
  unfold serTokensAtO serTokensAt
  cases t.at? start <;> cases namespacesInScope t start <;> first | rfl | exact endOf_serNodeO_default env pr _ _ _ _ _

theorem serKidsO_of_default (inScope : List (Nat × Nat)) (s : FStack) (cd : Bool) (ks : List Tree)
    (ts0 : List Token) (h : serNode.serKids env false inScope s ks = .ok ts0) :
    ∃ ts, serNodeO.serKidsO env pr inScope s cd ks = .ok ts :=
  ok_of_endOf_eq (endOf_serKidsO_default env pr cd inScope s ks).symm h

theorem serTokensAtO_of_default (t : Tree) (start : Path) (ts0 : List Token)
    (h : serTokensAt env false t start = .ok ts0) : ∃ ts, serTokensAtO env pr t start = .ok ts :=
  ok_of_endOf_eq (endOf_serTokensAtO_default env pr t start).symm h

theorem serTokensAtO_ok_default {t : Tree} {start : Path} {ts' : List Token}
    (h : serTokensAtO env pr t start = .ok ts') : ∃ ts, serTokensAt env false t start = .ok ts :=
  ok_of_endOf_eq (endOf_serTokensAtO_default env pr t start) h

theorem respList_append {a a' b b' : List NSNode} (h1 : NSNode.Resp.respList a a')
    (h2 : NSNode.Resp.respList b b') : NSNode.Resp.respList (a ++ b) (a' ++ b') := by
  induction a generalizing a' with
  | nil =>
    simp only [NSNode.Resp.respList] at h1
    subst h1
    exact h2
  | cons k ks ih =>
    obtain ⟨k', ks', rfl, hk, hks⟩ := h1
    exact ⟨k', ks' ++ b', rfl, hk, ih hks⟩

theorem respList_cons {k k' : NSNode} {ks ks' : List NSNode} (h1 : NSNode.Resp k k')
    (h2 : NSNode.Resp.respList ks ks') : NSNode.Resp.respList (k :: ks) (k' :: ks') :=
  ⟨k', ks', rfl, h1, h2⟩

theorem resp_text (cd : Bool) (str : Str) (hne : str ≠ []) (hs : str.all isXmlChar = true) :
    NSNode.Resp (.chars [.txt (textPieces str) 0]) (.chars (textParts pr cd str)) := by
  refine ⟨_, rfl, ⟨_, _, rfl⟩, ?_, ?_, ?_⟩
  · cases cd
    · simp [textParts, partsValue, SPart.value, valueOf_txtPieces, valueOf_textPieces]
    · simp only [textParts, if_true, partsValue_cdataPartsGo str [] (by simp)]
      simp [partsValue, SPart.value, valueOf_textPieces]
  · cases cd
    · intro p hp
      simp only [textParts, Bool.false_eq_true, if_false, List.mem_singleton] at hp
      subst hp
      exact ⟨txtPieces_ne_nil _ hne, wellSpelled_txtPieces _ _⟩
    · simp only [textParts, if_true]
      exact cdataPartsGo_well str []
  · cases cd
    · simp only [textParts, Bool.false_eq_true, if_false, List.map_cons, List.map_nil, SPart.token,
        renderPieces_txtPieces]
      refine ⟨by simp, ?_, ?_, rfl⟩
      · intro k hk
        simp only [List.mem_singleton] at hk
        subst hk
        exact serializeText_lexOK _ str hne hs
      · intro k hk
        simp only [List.mem_singleton] at hk
        subst hk
        rfl
    · simp only [textParts, if_true]
      exact cdataTokens_goodRun str hs

theorem text_valueOK {str : Str} (h : valueOK env (.text str) = true) : str ≠ [] ∧ str.all isXmlChar = true := by
  simpa [valueOK] using h

mutual
theorem spellNode_resp (inScope : List (Nat × Nat)) (isTop : Bool) (s : FStack) (cd : Bool) (n : Tree)
    (hn : n.allNodes (nodeOK env) = true) :
    NSNode.Resp.respList (spellNode env inScope isTop s n) (spellNodeO env pr inScope isTop s cd n) := by
  cases n with
  | node v ks =>
    have hkids : ∀ k ∈ ks, k.allNodes (nodeOK env) = true := fun k hk => allNodes_kid hn hk
    have hval := allNodes_value env hn
    cases v with
    | document => simp only [spellNode, spellNodeO]; exact spellKids_resp inScope s _ ks hkids
    | «attribute» a b => simp only [spellNode, spellNodeO]; exact spellKids_resp inScope s _ ks hkids
    | «namespace» a b => simp only [spellNode, spellNodeO]; exact spellKids_resp inScope s _ ks hkids
    | text str =>
      obtain ⟨h1, h2⟩ := text_valueOK env hval
      simp only [spellNode, spellNodeO]
      exact respList_cons (resp_text pr cd str h1 h2) (spellKids_resp inScope s _ ks hkids)
    | comment str | pi target data =>
      simp only [spellNode, spellNodeO]
      exact respList_cons rfl (spellKids_resp inScope s _ ks hkids)
    | element name =>
      have hk := spellKids_resp inScope (s.push (Tree.node (.element name) ks).nsDecls)
        (kidsCd pr (.element name)) ks hkids
      simp only [spellNode, spellNodeO]
      by_cases hfc : (Tree.node (.element name) ks).firstChild?.isNone = true
      · simp only [hfc, if_true]
        exact respList_cons rfl hk
      · simp only [hfc, Bool.false_eq_true, if_false]
        exact respList_cons ⟨_, rfl, hk⟩ rfl

theorem spellKids_resp (inScope : List (Nat × Nat)) (s : FStack) (cd : Bool) (ks : List Tree)
    (hn : ∀ k ∈ ks, k.allNodes (nodeOK env) = true) :
    NSNode.Resp.respList (spellNode.spellKids env inScope s ks) (spellNodeO.spellKidsO env pr inScope s cd ks) := by
  cases ks with
  | nil => rfl
  | cons k ks =>
    simp only [spellNode.spellKids, spellNodeO.spellKidsO]
    exact respList_append (spellNode_resp inScope false s cd k (hn k (by simp)))
      (spellKids_resp inScope s cd ks (fun k' hk' => hn k' (by simp [hk'])))
end

theorem spellAt_resp (t : Tree) (start : Path) (ht : t.allNodes (nodeOK env) = true) :
    NSNode.Resp.respList (spellAt env t start) (spellAtO env pr t start) := by
  unfold spellAt spellAtO
  cases h1 : t.at? start with
  | none => simp [NSNode.Resp.respList]
  | some n =>
    cases h2 : namespacesInScope t start with
    | none => simp [NSNode.Resp.respList]
    | some inScope =>
      exact spellNode_resp env pr inScope true _ _ n (subtree_allNodes _ t start n h1 ht)

end XotModel

/-! ## What `NSNode.Resp` preserves -/

namespace XotModel

mutual
theorem resp_denote : ∀ (a b : NSNode) (sc : Scope), NSNode.Resp a b → NSNode.denote sc a = NSNode.denote sc b
  | .elem p l j as o ks cp cl c, b, sc, h => by
    obtain ⟨ks', rfl, hk⟩ := h
    simp only [NSNode.denote, respList_denote ks ks' _ hk]
  | .empty p l j as e, b, sc, h => by cases h; rfl
  | .chars ps, b, sc, h => by
    obtain ⟨ps', rfl, _, hv, _, _⟩ := h
    simp only [NSNode.denote, hv]
  | .comment a j, b, sc, h => by cases h; rfl
  | .pi a c j, b, sc, h => by cases h; rfl

theorem respList_denote : ∀ (as bs : List NSNode) (sc : Scope), NSNode.Resp.respList as bs →
    NSNode.denote.denoteList sc as = NSNode.denote.denoteList sc bs
  | [], bs, sc, h => by cases h; rfl
  | k :: ks, bs, sc, h => by
    obtain ⟨k', ks', rfl, hk, hks⟩ := h
    simp only [NSNode.denote.denoteList, resp_denote k k' sc hk, respList_denote ks ks' sc hks]
end

theorem resp_isChars : ∀ (a b : NSNode), NSNode.Resp a b → b.isChars = a.isChars
  | .elem p l j as o ks cp cl c, b, h => by obtain ⟨ks', rfl, _⟩ := h; rfl
  | .empty p l j as e, b, h => by cases h; rfl
  | .chars ps, b, h => by obtain ⟨ps', rfl, _⟩ := h; rfl
  | .comment a j, b, h => by cases h; rfl
  | .pi a c j, b, h => by cases h; rfl

theorem respList_noAdj : ∀ (as bs : List NSNode), NSNode.Resp.respList as bs →
    noAdjCharsNs bs = noAdjCharsNs as
  | [], bs, h => by cases h; rfl
  | [k], bs, h => by
    obtain ⟨k', ks', rfl, _, hks⟩ := h
    cases hks; rfl
  | k :: k2 :: r, bs, h => by
    obtain ⟨k', ks', rfl, hk, hks⟩ := h
    have ih := respList_noAdj (k2 :: r) ks' hks
    obtain ⟨k2', r', rfl, hk2, _⟩ := hks
    simp only [noAdjCharsNs, resp_isChars k k' hk, resp_isChars k2 k2' hk2, ih]

mutual
theorem resp_well : ∀ (a b : NSNode) (sc : Scope), NSNode.Resp a b → NSNode.Well sc a → NSNode.Well sc b
  | .elem p l j as o ks cp cl c, b, sc, h, hw => by
    obtain ⟨ks', rfl, hk⟩ := h
    obtain ⟨h1, h2, h3, h4, h5, h6, h7⟩ := hw
    exact ⟨h1, h2, h3, h4, by rw [respList_noAdj ks ks' hk]; exact h5, respList_well ks ks' _ hk h6, h7⟩
  | .empty p l j as e, b, sc, h, hw => by cases h; exact hw
  | .chars ps, b, sc, h, _ => by
    obtain ⟨ps', rfl, _, _, hw', _⟩ := h
    exact hw'
  | .comment a j, b, sc, h, hw => by cases h; exact hw
  | .pi a c j, b, sc, h, hw => by cases h; exact hw

theorem respList_well : ∀ (as bs : List NSNode) (sc : Scope), NSNode.Resp.respList as bs →
    NSNode.Well.wellList sc as → NSNode.Well.wellList sc bs
  | [], bs, sc, h, _ => by cases h; trivial
  | k :: ks, bs, sc, h, hw => by
    obtain ⟨k', ks', rfl, hk, hks⟩ := h
    exact ⟨resp_well k k' sc hk hw.1, respList_well ks ks' sc hks hw.2⟩
end

theorem respList_wellNsDoc {as bs : List NSNode} (h : NSNode.Resp.respList as bs) (hw : WellNsDoc as) :
    WellNsDoc bs := by
  obtain ⟨h1, h2, h3⟩ := hw
  refine ⟨respList_well as bs _ h h1, by rw [respList_noAdj as bs h]; exact h2, ?_⟩
  rw [← respList_denote as bs _ h]
  exact h3

theorem TokRel.refl : ∀ (a : List Token), TokRel a a
  | [] => .nil
  | k :: a => .same k (TokRel.refl a)

theorem TokRel.append {a b c d : List Token} (h1 : TokRel a b) (h2 : TokRel c d) : TokRel (a ++ c) (b ++ d) := by
  induction h1 with
  | nil => exact h2
  | same k _ ih => exact .same k ih
  | run x hg _ ih => rw [List.append_assoc]; exact .run x hg ih

mutual
theorem resp_tokRel : ∀ (a b : NSNode), NSNode.Resp a b → TokRel a.tokens b.tokens
  | .elem p l j as o ks cp cl c, b, h => by
    obtain ⟨ks', rfl, hk⟩ := h
    simp only [NSNode.tokens]
    exact .same _ (TokRel.append (TokRel.refl _) (.same _ (TokRel.append (respList_tokRel ks ks' hk)
      (TokRel.refl _))))
  | .empty p l j as e, b, h => by cases h; exact TokRel.refl _
  | .chars ps, b, h => by
    obtain ⟨ps', rfl, ⟨q, st, rfl⟩, _, _, hg⟩ := h
    simp only [NSNode.tokens, List.map_cons, List.map_nil, SPart.token]
    simpa using TokRel.run ⟨renderPieces q, st⟩ hg TokRel.nil
  | .comment a j, b, h => by cases h; exact TokRel.refl _
  | .pi a c j, b, h => by cases h; exact TokRel.refl _

theorem respList_tokRel : ∀ (as bs : List NSNode), NSNode.Resp.respList as bs →
    TokRel (NSNode.tokens.tokensList as) (NSNode.tokens.tokensList bs)
  | [], bs, h => by cases h; exact .nil
  | k :: ks, bs, h => by
    obtain ⟨k', ks', rfl, hk, hks⟩ := h
    simp only [NSNode.tokens.tokensList]
    exact TokRel.append (resp_tokRel k k' hk) (respList_tokRel ks ks' hks)
end

theorem GoodRun.head_notText_or {r : List Token} (h : GoodRun r) :
    ∃ k rest, r = k :: rest := by
  cases r with
  | nil => exact absurd rfl h.ne
  | cons k rest => exact ⟨k, rest, rfl⟩

namespace Ser

theorem headIsText_cons (k : Token) (l : List Token) : headIsText (k :: l) = k.isText := by
  cases k <;> rfl

end Ser

theorem tokRel_head {a b : List Token} (h : TokRel a b) (hb : headIsText b = true) : headIsText a = true := by
  cases h with
  | nil => exact hb
  | same k _ => rw [Ser.headIsText_cons] at hb ⊢; exact hb
  | run x _ _ => rfl

theorem lexNest_run (frag : Bool) (d : Nat) (b : List Token) (hb : headIsText b = false)
    (hn : lexNest frag (.content d) b = true) :
    ∀ (r : List Token), (∀ k ∈ r, k.isCharData = true) → noAdjTextTok r = true →
      lexNest frag (.content d) (r ++ b) = true
  | [], _, _ => hn
  | k :: r, hk, hadj => by
    have ih := lexNest_run frag d b hb hn r (fun k' hk' => hk k' (by simp [hk']))
      (by cases r with
          | nil => rfl
          | cons k2 r2 => simp only [noAdjTextTok, Bool.and_eq_true] at hadj; exact hadj.2)
    have hkind := hk k (by simp)
    cases k with
    | text x =>
      simp only [List.cons_append, lexNest_text, ih, Bool.and_true, Bool.not_eq_true']
      cases r with
      | nil => exact hb
      | cons k2 r2 =>
        simp only [noAdjTextTok, Token.isText, Bool.true_and, Bool.and_eq_true, Bool.not_eq_true'] at hadj
        rw [List.cons_append, Ser.headIsText_cons]
        exact hadj.1
    | cdata x y => exact ih
    | _ => cases hkind

namespace Ser

/-- The context behind the token `k` read in context `ctx`; `none` where `k` may not stand. -/
def lexStep (frag : Bool) : LexCtx → Token → Option LexCtx
  | .prolog, .comment _ _ => some .prolog
  | .prolog, .pi _ _ _ => some .prolog
  | .prolog, .elementStart _ _ _ => some (.inTag 0)
  | .inTag d, .attribute _ _ _ _ => some (.inTag d)
  | .inTag d, .elementEnd .open _ => some (.content (d + 1))
  | .inTag d, .elementEnd .empty _ => some (LexCtx.closed frag d)
  | .content d, .text _ => some (.content d)
  | .content d, .cdata _ _ => some (.content d)
  | .content d, .comment _ _ => some (.content d)
  | .content d, .pi _ _ _ => some (.content d)
  | .content d, .elementStart _ _ _ => some (.inTag d)
  | .content d, .elementEnd (.close _ _) _ => some (LexCtx.closed frag (d - 1))
  | .after, .comment _ _ => some .after
  | .after, .pi _ _ _ => some .after
  | _, _ => none

theorem lexNest_cons (frag : Bool) (ctx : LexCtx) (k : Token) (l : List Token) :
    lexNest frag ctx (k :: l) =
      (match Ser.lexStep frag ctx k with
       | some c => !(k.isText && headIsText l) && lexNest frag c l
       | none => false) := by
  cases ctx with
  | content d =>
    cases k with
    | text x => rw [lexNest_text]; rfl
    | elementEnd e sp => cases e <;> rfl
    | _ => rfl
  | inTag d =>
    cases k with
    | elementEnd e sp => cases e <;> rfl
    | _ => rfl
  | prolog => cases k <;> rfl
  | after => cases k <;> rfl

end Ser

theorem lexNest_cons_congr (frag : Bool) (k : Token) {a b : List Token}
    (hh : headIsText b = true → headIsText a = true)
    (hab : ∀ ctx, lexNest frag ctx a = true → lexNest frag ctx b = true) (ctx : LexCtx)
    (h : lexNest frag ctx (k :: a) = true) : lexNest frag ctx (k :: b) = true := by
  rw [Ser.lexNest_cons] at h ⊢
  cases hs : Ser.lexStep frag ctx k with
  | none => rw [hs] at h; cases h
  | some c =>
    rw [hs] at h
    simp only [Bool.and_eq_true, Bool.not_eq_true', Bool.and_eq_false_iff] at h ⊢
    refine ⟨h.1.imp id fun ha => ?_, hab c h.2⟩
    cases hb : headIsText b with
    | false => rfl
    | true => rw [hh hb] at ha; cases ha

theorem tokRel_lexNest (frag : Bool) {a b : List Token} (h : TokRel a b) :
    ∀ ctx, lexNest frag ctx a = true → lexNest frag ctx b = true := by
  induction h with
  | nil => intro ctx h; exact h
  | same k hab ih => intro ctx h; exact lexNest_cons_congr frag k (tokRel_head hab) ih ctx h
  | @run x r a b hg hab ih =>
    intro ctx h
    cases ctx with
    | content d =>
      rw [lexNest_text] at h
      simp only [Bool.and_eq_true, Bool.not_eq_true'] at h
      have hb : headIsText b = false := by
        cases hb : headIsText b with
        | false => rfl
        | true => rw [tokRel_head hab hb] at h; cases h.1
      exact lexNest_run frag d b hb (ih _ h.2) r hg.kind hg.adj
    | prolog => simp [lexNest] at h
    | inTag d => simp [lexNest] at h
    | after => simp [lexNest] at h

theorem tokRel_all {a b : List Token} (h : TokRel a b) (ha : a.all Token.lexOK = true) :
    b.all Token.lexOK = true := by
  induction h with
  | nil => rfl
  | same k _ ih =>
    simp only [List.all_cons, Bool.and_eq_true] at ha ⊢
    exact ⟨ha.1, ih ha.2⟩
  | @run x r a b hg _ ih =>
    simp only [List.all_cons, Bool.and_eq_true] at ha
    simp only [List.all_append, Bool.and_eq_true, ih ha.2, and_true, List.all_eq_true]
    exact hg.ok

/-- **The tokenizer's side conditions survive respelling the character data runs.** -/
theorem tokRel_lexOK (frag : Bool) {a b : List Token} (h : TokRel a b) (ha : LexOK frag a = true) :
    LexOK frag b = true := by
  simp only [LexOK, Bool.and_eq_true] at ha ⊢
  exact ⟨tokRel_all h ha.1, tokRel_lexNest frag h _ ha.2⟩

end XotModel
