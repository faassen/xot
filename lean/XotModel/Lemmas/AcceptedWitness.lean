/-
  Closed witnesses around "accepted ⇒ serialises and reparses
  deep-equal": the minimal input of the known finding (the prefix `xml` rebound:
  outside `NoReservedDecls` the clause fails in the model), the inputs that are REJECTED
  (reserved declarations, `xmlns:p=""`, the processing-instruction target `xml`), and a document
  inside the guards (namespaces, references, CDATA, comment, PI).  Everything is evaluated through the canonical-rendering theorem of the reference
  tokenizer (`lexDocument_render`) and the explicit builder `buildE`.
-/
import XotModel.Lemmas.AcceptedDefs
import XotModel.Lemmas.LexReject
import XotModel.Lemmas.ParseWitnessData
import XotModel.Model.Compare
import XotModel.Model.ParseString

namespace XotModel.Lex.Canon

open XotModel.Lex XotModel.Lex.Stream

/-- In element content the literal `<?xml ` is refused (`UnknownToken`), whatever follows: a
    processing instruction whose target is `xml` cannot be written with a blank after the target. -/
theorem failsAt_xml_pi (frag : Bool) (d pos : Nat) (rest : Str) :
    FailsAt frag (.content d) pos (litXmlDecl ++ rest) := by
  refine failsAt_content_of_markup (c := '?') (cs := 'x' :: 'm' :: 'l' :: ' ' :: rest) rfl ?_
  intro tk hst hs
  have he : tk.stream.atEnd = false := by rw [hs]; rfl
  have h1 : tk.stream.curr? = some '<' := by rw [hs]; rfl
  have h2 : tk.stream.next? = some '?' := by rw [hs]; rfl
  have h3 : tk.stream.startsWith litXmlDecl = true := by
    rw [hs]; simp [startsWith, litXmlDecl, List.isPrefixOf]
  unfold parseNextImpl
  simp only [he, Bool.false_eq_true, if_false, hst, h1, h2, beq_self_eq_true, if_true,
    show ('?' == '!') = false from by decide, h3, Bool.not_true]

end XotModel.Lex.Canon

namespace XotModel.Witness

open XotModel

/-- `parse` on the canonical spelling of a `LexOK` token list, computed by the explicit builder. -/
theorem parseString_render (env : Env) (ts : List Token) (h : LexOK false ts = true) :
    parseString .document env (renderTokens ts) =
      buildE .document (strLen (renderTokens ts)) env (placeTokens 0 ts) none := by
  simp only [parseString, lexMode, lexDocument_render ts h]
  exact build_eq_buildE _ _ _ _ _

private def sp (s : String) : StrSpan := ⟨s.toList, 0⟩
private def nosp : StrSpan := ⟨[], 0⟩

/-- The kernel decodes the bytes of a literal under `String.toList` in quadratic time; a literal is
    `String.ofList` of its characters by definition (`h` is `rfl`), and this hands them over as they
    are. Worth a rewrite before `decide +kernel` for the long literals. -/
private theorem sp_lit (s : String) (l : List Char) (h : s = String.ofList l) : sp s = ⟨l, 0⟩ := by
  rw [h, sp, String.toList_ofList]

/-- `<a xmlns:p="" p:xmlns="v"/>`: a prefixed undeclaration, and an attribute `xmlns` in no namespace
    (rejected, as of /repo a5dcf8e; the serialiser would write `<a xmlns:p="" xmlns="v"/>`: another tree). -/
def undeclTokens : List Token :=
  [.elementStart nosp (sp "a") nosp, .attribute (sp "xmlns") (sp "p") nosp nosp,
   .attribute (sp "p") (sp "xmlns") (sp "v") nosp, .elementEnd .empty nosp]

/-- `<a xmlns:xmlns="u"/>`: the prefix `xmlns` declared. -/
def xmlnsPrefixTokens : List Token :=
  [.elementStart nosp (sp "a") nosp, .attribute (sp "xmlns") (sp "xmlns") (sp "u") nosp, .elementEnd .empty nosp]

/-- `<a xmlns:p="http://www.w3.org/XML/1998/namespace"/>`: another prefix than `xml` for the XML namespace. -/
def xmlUriTokens : List Token :=
  [.elementStart nosp (sp "a") nosp,
   .attribute (sp "xmlns") (sp "p") (sp "http://www.w3.org/XML/1998/namespace") nosp, .elementEnd .empty nosp]

/-- `<a xmlns="http://www.w3.org/2000/xmlns/"/>`: the xmlns namespace name as default namespace. -/
def xmlnsUriTokens : List Token :=
  [.elementStart nosp (sp "a") nosp,
   .attribute nosp (sp "xmlns") (sp "http://www.w3.org/2000/xmlns/") nosp, .elementEnd .empty nosp]

/-- `<a xmlns:p="http://www.w3.org/2000/xmlns&#x2F;"/>`: the reserved name through a character reference
    (the test is on the DECODED value). -/
def xmlnsUriRefTokens : List Token :=
  [.elementStart nosp (sp "a") nosp,
   .attribute (sp "xmlns") (sp "p") (sp "http://www.w3.org/2000/xmlns&#x2F;") nosp, .elementEnd .empty nosp]

/-- The error of `parse` on the canonical spelling of `ts` (from `Xot::new()`'s tables). -/
def rejection (ts : List Token) : Option ParseErr :=
  match buildE .document (strLen (renderTokens ts)) Env.fresh (placeTokens 0 ts) none with
  | .err e _ => some e
  | _ => none

/-- What `rejection` says, on `parseString`. -/
theorem rejection_spec {ts : List Token} {e : ParseErr} (h1 : LexOK false ts = true) (h : rejection ts = some e) :
    ∃ env', parseString .document Env.fresh (renderTokens ts) = .err e env' := by
  unfold rejection at h
  split at h
  · rename_i e' env' he
    simp only [Option.some.injEq] at h
    subst h
    exact ⟨env', by rw [parseString_render _ _ h1]; exact he⟩
  · cases h

theorem undecl_rejected : LexOK false undeclTokens = true ∧
    rejection undeclTokens = some (.invalidNamespaceDeclaration "xmlns:p".toList ⟨3, 10⟩) := by decide +kernel

theorem reserved_rejected :
    (LexOK false xmlnsPrefixTokens = true ∧
      rejection xmlnsPrefixTokens = some (.invalidNamespaceDeclaration "xmlns:xmlns".toList ⟨3, 14⟩)) ∧
    (LexOK false xmlUriTokens = true ∧
      rejection xmlUriTokens = some (.invalidNamespaceDeclaration "xmlns:p".toList ⟨3, 10⟩)) ∧
    (LexOK false xmlnsUriTokens = true ∧
      rejection xmlnsUriTokens = some (.invalidNamespaceDeclaration "xmlns".toList ⟨3, 8⟩)) ∧
    (LexOK false xmlnsUriRefTokens = true ∧
      rejection xmlnsUriRefTokens = some (.invalidNamespaceDeclaration "xmlns:p".toList ⟨3, 10⟩)) := by
  rw [xmlUriTokens, xmlnsUriTokens, xmlnsUriRefTokens, sp_lit "http://www.w3.org/XML/1998/namespace" _ rfl,
    sp_lit "http://www.w3.org/2000/xmlns/" _ rfl, sp_lit "http://www.w3.org/2000/xmlns&#x2F;" _ rfl]
  decide +kernel

/-- `<a xmlns:xml="zzz"><b xmlns:xml="http://www.w3.org/XML/1998/namespace" xml:id="i"/></a>`: the prefix
    `xml` rebound (accepted: known finding C03:xml-prefix-rebound-accepted), and bound back to the
    XML namespace below, with a name in that namespace. -/
def xmlReboundTokens : List Token :=
  [.elementStart nosp (sp "a") nosp, .attribute (sp "xmlns") (sp "xml") (sp "zzz") nosp, .elementEnd .open nosp,
   .elementStart nosp (sp "b") nosp,
   .attribute (sp "xmlns") (sp "xml") (sp "http://www.w3.org/XML/1998/namespace") nosp,
   .attribute (sp "xml") (sp "id") (sp "i") nosp, .elementEnd .empty nosp,
   .elementEnd (.close nosp (sp "a")) nosp]

/-- Its serialisation `<a xmlns:xml="zzz"><b xml:id="i"/></a>`: a binding of the XML namespace is never
    written, so `xml:id` means `{zzz}id` there. -/
def xmlReboundTokens' : List Token :=
  [.elementStart nosp (sp "a") nosp, .attribute (sp "xmlns") (sp "xml") (sp "zzz") nosp, .elementEnd .open nosp,
   .elementStart nosp (sp "b") nosp, .attribute (sp "xml") (sp "id") (sp "i") nosp, .elementEnd .empty nosp,
   .elementEnd (.close nosp (sp "a")) nosp]

/-- The tree is accepted, violates the guard, serialises to the rendering of `ts'`, and that text
    reparses to a tree that is NOT `deep_equal`. -/
def roundTripBroken (ts ts' : List Token) : Bool :=
  match buildE .document (strLen (renderTokens ts)) Env.fresh (placeTokens 0 ts) none with
  | .ok p =>
    !NoReservedDecls p.env p.tree && PlainPiTargets p.env p.tree &&
    (match toXmlString p.env p.tree [] with
     | .ok s' => s' == renderTokens ts'
     | _ => false) &&
    (match buildE .document (strLen (renderTokens ts')) p.env (placeTokens 0 ts') none with
     | .ok p' => !deepEqual p'.tree p.tree
     | _ => false)
  | _ => false

theorem xmlRebound_broken : LexOK false xmlReboundTokens = true ∧ LexOK false xmlReboundTokens' = true ∧
    roundTripBroken xmlReboundTokens xmlReboundTokens' = true := by
  rw [xmlReboundTokens, sp_lit "http://www.w3.org/XML/1998/namespace" _ rfl]
  decide +kernel

/-- What `roundTripBroken` says, on `parseString`. -/
theorem roundTripBroken_spec {ts ts' : List Token} (h1 : LexOK false ts = true) (h2 : LexOK false ts' = true)
    (h : roundTripBroken ts ts' = true) :
    ∃ p, parseString .document Env.fresh (renderTokens ts) = .ok p ∧ NoReservedDecls p.env p.tree = false ∧
      PlainPiTargets p.env p.tree = true ∧ toXmlString p.env p.tree [] = .ok (renderTokens ts') ∧
      ∃ p', parseString .document p.env (renderTokens ts') = .ok p' ∧ deepEqual p'.tree p.tree = false := by
  unfold roundTripBroken at h
  split at h
  · rename_i p hp
    simp only [Bool.and_eq_true, Bool.not_eq_true'] at h
    obtain ⟨⟨⟨g1, g2⟩, g3⟩, g4⟩ := h
    refine ⟨p, by rw [parseString_render _ _ h1]; exact hp, g1, g2, ?_, ?_⟩
    · split at g3
      · rename_i s' hs
        have : s' = renderTokens ts' := by simpa using g3
        rw [hs, this]
      · cases g3
    · split at g4
      · rename_i p' hp'
        exact ⟨p', by rw [parseString_render _ _ h2]; exact hp', by simpa using g4⟩
      · cases g4
  · cases h

/-- `<a><?xml` TAB `x?></a>` is no canonical spelling; the tokens the tokenizer returns for it are
    the tokens of `<a><?xml x?></a>` (positions apart: the target at 5..8), so the builder's result is
    computed on these. -/
def xmlPiTokens : List Token :=
  [.elementStart nosp (sp "a") ⟨[], 0⟩, .elementEnd .open ⟨[], 2⟩, .pi ⟨"xml".toList, 5⟩ (some ⟨"x".toList, 9⟩) ⟨[], 3⟩,
   .elementEnd (.close ⟨[], 14⟩ ⟨"a".toList, 14⟩) ⟨[], 12⟩]

/-- … and with the target in another letter case, `<a><?XmL?></a>` (a canonical spelling). -/
def xmlPiMixedTokens : List Token :=
  [.elementStart nosp (sp "a") nosp, .elementEnd .open nosp, .pi (sp "XmL") none nosp,
   .elementEnd (.close nosp (sp "a")) nosp]

/-- The builder on the tokens of `<a><?xml` TAB `x?></a>`: rejected at the target (as of /repo 002854f;
    the serialiser would write `<a><?xml x?></a>`, which the tokenizer refuses). -/
theorem xmlPi_rejected :
    (match buildE .document 17 Env.fresh xmlPiTokens none with
     | .err e _ => e == .invalidTarget "xml".toList ⟨5, 8⟩
     | _ => false) = true ∧
    LexOK false xmlPiMixedTokens = true ∧
    rejection xmlPiMixedTokens = some (.invalidTarget "XmL".toList ⟨5, 8⟩) := by decide +kernel

/-- A document inside both guards: default namespace, prefixed names, `xml:id` with surrounding
    blanks, predefined and numeric references, a CDATA section next to text, a comment, a PI,
    `xmlns=""`.
    `<r xmlns="urn:a" xmlns:p="urn:b" k="&lt;&#x41;&amp;"><p:c xml:id=" i "/><![CDATA[x]]>y&#xD;<!--c--><?t d?><e xmlns=""/></r>` -/
def goodTokens : List Token :=
  [.elementStart nosp (sp "r") nosp, .attribute nosp (sp "xmlns") (sp "urn:a") nosp,
   .attribute (sp "xmlns") (sp "p") (sp "urn:b") nosp, .attribute nosp (sp "k") (sp "&lt;&#x41;&amp;") nosp,
   .elementEnd .open nosp,
   .elementStart (sp "p") (sp "c") nosp, .attribute (sp "xml") (sp "id") (sp " i ") nosp, .elementEnd .empty nosp,
   .cdata (sp "x") nosp, .text (sp "y&#xD;"), .comment (sp "c") nosp, .pi (sp "t") (some (sp "d")) nosp,
   .elementStart nosp (sp "e") nosp, .attribute nosp (sp "xmlns") nosp nosp, .elementEnd .empty nosp,
   .elementEnd (.close nosp (sp "r")) nosp]

def goodText : Str :=
  "<r xmlns=\"urn:a\" xmlns:p=\"urn:b\" k=\"&lt;&#x41;&amp;\"><p:c xml:id=\" i \"/><![CDATA[x]]>y&#xD;<!--c--><?t d?><e xmlns=\"\"/></r>".toList

def goodAccepted : Bool :=
  match buildE .document (strLen goodText) Env.fresh (placeTokens 0 goodTokens) none with
  | .ok p => NoReservedDecls p.env p.tree && PlainPiTargets p.env p.tree
  | _ => false

theorem good_accepted : LexOK false goodTokens = true ∧ renderTokens goodTokens = goodText ∧
    envOK Env.fresh = true ∧ goodAccepted = true := by
  refine ⟨by decide +kernel, ?_, by decide +kernel, by decide +kernel⟩
  -- a literal is `String.ofList` of its characters: hand them to the kernel as a list
  show _ = (String.ofList _).toList
  rw [String.toList_ofList]
  decide +kernel

theorem good_spec : ∃ p, parseString .document Env.fresh goodText = .ok p ∧
    NoReservedDecls p.env p.tree = true ∧ PlainPiTargets p.env p.tree = true := by
  obtain ⟨h1, h2, _, h4⟩ := good_accepted
  unfold goodAccepted at h4
  split at h4
  · rename_i p hp
    simp only [Bool.and_eq_true] at h4
    refine ⟨p, ?_, h4.1, h4.2⟩
    rw [← h2, parseString_render _ _ h1, h2]; exact hp
  · cases h4

end XotModel.Witness
