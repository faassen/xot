/-
  C20 (any construction order): the four moves.

  * `moveOk` (the specification's well-formedness of a move) is, as a Boolean, exactly the two
    argument checks xot performs (`add_structure_check`, `sibling_reference_check`);
  * a successful move of the model is the specification's `specMove` with xot's survivor rule,
    handle for handle (C05: `append_spec`, `prepend_spec`, `insertAfter_spec`, `insertBefore_spec`);
  * `specMove` never touches the flags or `next`.
-/
import XotModel.Model.FanyorderSpec
import XotModel.Lemmas.FspecMoveCalls
import XotModel.Lemmas.FspecNormal

namespace XotModel
namespace Prog
open Spec

/-- xot's argument checks of the four moves. -/
def implCheck (f : Forest) : Dest → Nat → Bool
  | .lastChildOf p, c => f.structureCheck (some p) c
  | .firstNormalChildOf p, c => f.structureCheck (some p) c
  | .after r, n => f.structureCheck (f.parent? r) n && f.siblingReferenceCheck r n
  | .before r, n => f.structureCheck (f.parent? r) n && f.siblingReferenceCheck r n

theorem holdsChildren_eq (v : Value) : holdsChildren v = (v.isElement || v.isDocument) := by
  cases v <;> rfl

theorem movable_eq (v : Value) : movable v = (v.isNormal && !v.isDocument) := by
  cases v <;> rfl

theorem structureCheck_eq (f : Forest) (q : Option Nat) (n : Nat) :
    f.structureCheck q n =
      (match q with
       | none => false
       | some q =>
         ((f.value? q).map holdsChildren == some true) && !(f.ancestors q).contains n &&
           ((f.value? n).map movable == some true)) := by
  cases q with
  | none => rfl
  | some q =>
    have h1 : (f.isElement q || f.isDocument q) = ((f.value? q).map holdsChildren == some true) := by
      unfold Forest.isElement Forest.isDocument
      cases f.value? q with
      | none => rfl
      | some v => cases v <;> rfl
    simp only [Forest.structureCheck, h1]
    congr 1
    cases f.value? n with
    | none => rfl
    | some v => cases v <;> rfl

theorem value_none_of_not_live {f : Forest} {p : Nat} (hl : ¬ f.isLive p = true) : f.value? p = none := by
  unfold Forest.isLive Forest.value? at *
  cases h : f.get? p with
  | none => rfl
  | some t => rw [h] at hl; simp at hl

/-- The specification's well-formedness test is xot's argument check. -/
theorem moveOk_eq (f : Forest) (d : Dest) (n : Nat) : moveOk d n f = implCheck f d n := by
  cases d with
  | lastChildOf p | firstNormalChildOf p =>
    simp only [moveOk, implCheck, Dest.site]
    rw [structureCheck_eq]
    by_cases hl : f.isLive p = true
    · simp [hl]
    · simp [hl, value_none_of_not_live hl]
  | after r | before r =>
    simp only [moveOk, implCheck, Dest.site]
    rw [structureCheck_eq]
    simp only [Forest.siblingReferenceCheck, Forest.isNormalNode]
    cases f.parent? r <;> simp

/-- A move refused by the argument checks returns the forest as it was, with `InvalidOperation`. -/
theorem moveImpl_refused {f : Forest} {d : Dest} {n : Nat} (h : implCheck f d n = false) :
    moveImpl f d n = (f, .err .invalidOperation) := by
  cases d with
  | lastChildOf p => simp only [moveImpl, implCheck] at *; rw [Forest.append_eq]; simp [h]
  | firstNormalChildOf p => simp only [moveImpl, implCheck] at *; rw [Forest.prepend_eq]; simp [h]
  | after r =>
    simp only [moveImpl, implCheck] at *
    rw [Forest.insertAfter_eq]
    cases h1 : f.structureCheck (f.parent? r) n with
    | false => simp
    | true => rw [h1] at h; simp at h; simp [h]
  | before r =>
    simp only [moveImpl, implCheck] at *
    rw [Forest.insertBefore_eq]
    cases h1 : f.structureCheck (f.parent? r) n with
    | false => simp
    | true => rw [h1] at h; simp at h; simp [h]

theorem implCheck_of_ok {f : Forest} {d : Dest} {n : Nat} (hok : (moveImpl f d n).2 = .ok) :
    implCheck f d n = true := by
  cases h : implCheck f d n with
  | true => rfl
  | false => rw [moveImpl_refused h] at hok; cases hok

/-- A node with a parent: its subtree sits in the child list of the parent. -/
theorem site_of_kid {f : Forest} {n : Nat} {t : HTree} {cx : HTree.Ctx} (nd : f.allHandles.Nodup)
    (hg : f.get? n = some t) (hctx : f.ctx? n = some cx) :
    ∃ vo, cx.self = t ∧ t.handle = n ∧ SiteAt f cx.parent vo (cx.left ++ t :: cx.right) ∧
      f.parent? n = some cx.parent := by
  obtain ⟨e0, vo, so⟩ := SiteAt.of_ctx nd hctx
  have hself : cx.self = t := by
    have := Forest.get?_of_ctx nd hctx
    rw [hg] at this
    exact (Option.some.inj this).symm
  rw [hself] at so e0
  exact ⟨vo, hself, e0, so, Forest.parent?_of_ctx? hctx⟩

/-- **C05 for the four moves, in one statement**: a successful move is `specMove` with xot's
    survivor rule, handle for handle. -/
theorem moveImpl_spec {f : Forest} {d : Dest} {n : Nat} (inv : f.Inv) (norm : f.Normal)
    (hok : (moveImpl f d n).2 = .ok) :
    (moveImpl f d n).1 = specMove (Keep.resident n) d n f := by
  cases d with
  | lastChildOf p => exact append_spec (Keep.resident_spec n) inv norm hok
  | firstNormalChildOf p => exact prepend_spec inv norm hok
  | after r => exact insertAfter_spec inv norm hok
  | before r => exact insertBefore_spec inv norm hok

theorem editAt_corrupt (f : Forest) (s : Option Nat) (g : List HTree → List HTree) :
    (f.editAt s g).corrupt = f.corrupt := by cases s <;> rfl
theorem editAt_next (f : Forest) (s : Option Nat) (g : List HTree → List HTree) :
    (f.editAt s g).next = f.next := by cases s <;> rfl

theorem mergeAt_fields (f : Forest) (keep : Keep) (s : Option Nat) :
    (f.mergeAt keep s).consolidation = f.consolidation ∧ (f.mergeAt keep s).everOff = f.everOff ∧
      (f.mergeAt keep s).corrupt = f.corrupt ∧ (f.mergeAt keep s).next = f.next := by
  cases s with
  | none => exact ⟨rfl, rfl, rfl, rfl⟩
  | some p =>
    unfold Forest.mergeAt
    simp only
    split
    · exact ⟨rfl, rfl, rfl, rfl⟩
    · exact ⟨rfl, rfl, rfl, rfl⟩

theorem specMove_fields (keep : Keep) (d : Dest) (n : Nat) (f : Forest) :
    (specMove keep d n f).consolidation = f.consolidation ∧ (specMove keep d n f).everOff = f.everOff ∧
      (specMove keep d n f).corrupt = f.corrupt ∧ (specMove keep d n f).next = f.next := by
  unfold specMove
  split
  · exact ⟨rfl, rfl, rfl, rfl⟩
  · split
    · simp only
      obtain ⟨a1, a2, a3, a4⟩ := mergeAt_fields
        (((f.editAt (f.parent? n) (dropTop n)).editAt (some _) (d.insert _)).mergeAt keep (f.parent? n)) keep (some _)
      obtain ⟨b1, b2, b3, b4⟩ := mergeAt_fields
        ((f.editAt (f.parent? n) (dropTop n)).editAt (some _) (d.insert _)) keep (f.parent? n)
      rw [a1, a2, a3, a4, b1, b2, b3, b4]
      simp only [Forest.editAt_consolidation, Forest.editAt_everOff, editAt_corrupt, editAt_next]
      simp
    · exact ⟨rfl, rfl, rfl, rfl⟩

end Prog
end XotModel
