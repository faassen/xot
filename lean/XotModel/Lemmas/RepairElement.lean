/-
  One `create_missing_prefixes_for_element` call, end to end: the repaired element itself and the
  second call, what `add_prefix` and the `n{counter}` loop do to the interning tables, the call
  unfolded into walk, prefix assignment and `scopeModifyAt` of the rebuilt element, and
  `RepairFacts`, from which Props/C10 reads frame, writability and idempotence.  `namesWritable`
  (the serialiser's own check) is `okRec` from the scope of the ancestors.
-/
import XotModel.Lemmas.BasicFacts
import XotModel.Lemmas.RepairOk
import XotModel.Lemmas.Doctype
import XotModel.Lemmas.ScopePath
import XotModel.Lemmas.Scope
import XotModel.Lemmas.ScopeWalk

/-! ### The repaired element, the second call, the interning side

  The repaired element itself (it also receives the new prefix declarations), the second call
  (nothing is recorded on a tree whose names are all writable), and the interning side: what
  `add_prefix`, the `n{counter}` loop and `assignPrefixes` do to the tables (`PrefixExt`: only the
  prefix table grows, by generated names) and guarantee about the prefixes they hand out.
-/

namespace XotModel.Repair
open XotModel

/-- The frame below the repaired element: what the walk held plus the new declarations. -/
theorem ext_push_top {nd inh WD D' : List (Nat × Nat)}
    (heq : ∀ q m, (q, m) ∈ D' ↔ (q, m) ∈ WD ∨ (q, m) ∈ nd) (hinh : ∀ p ∈ keys nd, p ∉ keys inh) :
    Ext nd (pushTop inh WD) (pushTop inh D') := by
  have hkeys : ∀ q, q ∈ keys D' ↔ q ∈ keys WD ∨ q ∈ keys nd := by
    intro q
    simp only [mem_keys, heq]
    constructor
    · rintro ⟨m, h | h⟩
      · exact Or.inl ⟨m, h⟩
      · exact Or.inr ⟨m, h⟩
    · rintro (⟨m, h⟩ | ⟨m, h⟩)
      · exact ⟨m, Or.inl h⟩
      · exact ⟨m, Or.inr h⟩
  intro p n
  rw [mem_pushTop, mem_pushTop, heq, hkeys]
  constructor
  · rintro (⟨h1, h2⟩ | h1 | h1)
    · exact Or.inl (Or.inl ⟨h1, fun h => h2 (Or.inl h)⟩)
    · exact Or.inl (Or.inr h1)
    · exact Or.inr h1
  · rintro ((⟨h1, h2⟩ | h1) | h1)
    · refine Or.inl ⟨h1, ?_⟩
      rintro (h | h)
      · exact h2 h
      · exact hinh p h (mem_keys.mpr ⟨n, h1⟩)
    · exact Or.inr (Or.inl h1)
    · exact Or.inr (Or.inr h1)

/-- The repaired element: every name at or below it has a usable prefix in the frames the
    serialiser builds from the inherited declarations. -/
theorem rebuild_top_ok (nsOf : Nat → Nat) (nd : List (Nat × Nat)) (hn1 : ∀ d ∈ nd, d.1 ≠ Env.emptyPrefix)
    (hn2 : (keys nd).Nodup) (name : Nat) (ks : List Tree) (inh : List (Nat × Nat)) (pre : Path) (acc : Acc)
    (hu : UniqueBelow (.node (.element name) ks))
    (hm : ∀ ns ∈ (collectRec nsOf inh pre (.node (.element name) ks) acc).missing, HasNd nd ns)
    (hused : ∀ p ∈ keys nd, p ∉ (collectRec nsOf inh pre (.node (.element name) ks) acc).used)
    (hinh : ∀ p ∈ keys nd, p ∉ keys inh) :
    okRec nsOf inh (rebuild nsOf nd true inh (.node (.element name) ks)) = true := by
  simp only [collectRec] at hm hused
  have mono := collectKids_mono nsOf ks (walkTop nsOf inh (.node (.element name) ks) name) pre 0
  have hndD : ∀ p ∈ keys nd, p ∉ keys (declsOfKids ks) :=
    fun p hp hk => hused p hp ((mono _).2 p (List.mem_append_right _ hk))
  -- the new declarations come in at the element itself, on top of the unchanged inherited frame
  have hext2 := ext_push_top (fun q m =>
    (mem_nsDecls_rebuild nsOf nd true inh name ks (uniqueBelow_self hu) hn1 (fun _ => ⟨hn2, hndD⟩) q m).trans
      (or_congr Iff.rfl (and_iff_right rfl))) hinh
  exact rebuild_element_ok nsOf nd hn1 true inh inh name ks acc.missing hext2
    (fun ns hns => hm ns ((mono _).1 ns hns))
    (rebuildKids_ok nsOf nd hn1 ks _ _ pre 0 _ hext2 (uniqueBelow_kids hu) hm hused)

/-! ### A tree whose names are all writable: nothing to record, nothing to insert -/

theorem needsUndeclare_of_ok {nsOf : Nat → Nat} {top : List (Nat × Nat)} {t : Tree} {name : Nat}
    {attrs : List Nat} (h : elementOkAt nsOf (pushTop top t.nsDecls) name attrs = true) :
    needsUndeclare nsOf top t name = false := by
  unfold elementOkAt at h
  simp only [Bool.and_eq_true, Bool.not_eq_true'] at h
  exact h.1.1

mutual
theorem collect_of_ok (nsOf : Nat → Nat) : ∀ (x : Tree) (top : List (Nat × Nat)) (pre : Path) (acc : Acc),
    okRec nsOf top x = true →
      (collectRec nsOf top pre x acc).missing = acc.missing ∧
      (collectRec nsOf top pre x acc).undeclare = acc.undeclare
  | .node v ks, top, pre, acc, hok => by
    by_cases hv : v.isElement = true
    · obtain ⟨name, rfl⟩ := eq_element_of_isElement hv
      simp only [okRec, Bool.and_eq_true] at hok
      obtain ⟨h1, h2⟩ := hok
      have hnu := needsUndeclare_of_ok h1
      have hwt : walkTop nsOf top (.node (.element name) ks) name =
          pushTop top (Tree.node (.element name) ks).nsDecls := by
        simp [walkTop, walkDecls, hnu]
      simp only [collectRec, hwt, hnu, Bool.false_eq_true, if_false]
      have k := fun acc' => collectKids_of_ok nsOf ks _ pre 0 acc' h2
      rw [(k _).1, (k _).2]
      refine ⟨?_, rfl⟩
      unfold elementOkAt at h1
      simp only [Bool.and_eq_true, List.all_eq_true] at h1
      exact missOf_ok _ _ _ _ _ h1.1.2 h1.2
    · have hve : v.isElement = false := Bool.eq_false_iff.mpr hv
      rw [okRec_other nsOf top v ks hve] at hok
      rw [collectRec_other nsOf top pre v ks acc hve]
      exact collectKids_of_ok nsOf ks top pre 0 acc hok
theorem collectKids_of_ok (nsOf : Nat → Nat) : ∀ (ks : List Tree) (top : List (Nat × Nat)) (pre : Path) (i : Nat)
    (acc : Acc), okKids nsOf top ks = true →
      (collectKids nsOf top pre i ks acc).missing = acc.missing ∧
      (collectKids nsOf top pre i ks acc).undeclare = acc.undeclare
  | [], _, _, _, _, _ => by simp [collectKids]
  | k :: ks, top, pre, i, acc, hok => by
    simp only [okKids, Bool.and_eq_true] at hok
    simp only [collectKids]
    obtain ⟨a1, a2⟩ := collect_of_ok nsOf k top (pre ++ [i]) acc hok.1
    obtain ⟨b1, b2⟩ := collectKids_of_ok nsOf ks top pre (i + 1) (collectRec nsOf top (pre ++ [i]) k acc) hok.2
    exact ⟨b1.trans a1, b2.trans a2⟩
end

mutual
theorem rebuild_of_ok (nsOf : Nat → Nat) : ∀ (x : Tree) (b : Bool) (top : List (Nat × Nat)),
    okRec nsOf top x = true → rebuild nsOf [] b top x = x
  | .node v ks, b, top, hok => by
    by_cases hv : v.isElement = true
    · obtain ⟨name, rfl⟩ := eq_element_of_isElement hv
      simp only [okRec, Bool.and_eq_true] at hok
      obtain ⟨h1, h2⟩ := hok
      have hnu := needsUndeclare_of_ok h1
      have hwt : walkTop nsOf top (.node (.element name) ks) name =
          pushTop top (Tree.node (.element name) ks).nsDecls := by
        simp [walkTop, walkDecls, hnu]
      simp only [rebuild, hwt, hnu, Bool.false_eq_true, if_false, insertNamespaces, List.foldl_nil,
        rebuildKids_of_ok nsOf ks _ h2, ite_self]
    · have hve : v.isElement = false := Bool.eq_false_iff.mpr hv
      rw [okRec_other nsOf top v ks hve] at hok
      rw [rebuild_other nsOf [] b top v ks hve, rebuildKids_of_ok nsOf ks top hok]
      simp [insertNamespaces]
theorem rebuildKids_of_ok (nsOf : Nat → Nat) : ∀ (ks : List Tree) (top : List (Nat × Nat)),
    okKids nsOf top ks = true → rebuildKids nsOf [] top ks = ks
  | [], _, _ => by simp [rebuildKids]
  | k :: ks, top, hok => by
    simp only [okKids, Bool.and_eq_true] at hok
    simp only [rebuildKids, rebuild_of_ok nsOf k false top hok.1, rebuildKids_of_ok nsOf ks top hok.2]
end

/-! ### The `n{counter}` loop -/

/-- The interning tables as `Xot::new` leaves them, as far as the repair needs: the empty prefix
    has id 0. -/
def EnvOk (env : Env) : Prop := env.prefixes.head? = some []

/-- What `add_prefix(s)` does: the id it returns names `s` afterwards; the prefix table is unchanged
    (`s` was registered) or has `s`, which it did not hold, appended; the other tables stay. -/
theorem addPrefix_outcome (env : Env) (s : Str) :
    (env.addPrefix s).1.prefixes[(env.addPrefix s).2]? = some s ∧
    (env.addPrefix s).1.names = env.names ∧ (env.addPrefix s).1.namespaces = env.namespaces ∧
    ((env.addPrefix s).1.prefixes = env.prefixes ∨
      (s ∉ env.prefixes ∧ (env.addPrefix s).1.prefixes = env.prefixes ++ [s])) := by
  unfold Env.addPrefix
  cases h : env.prefixes.findIdx? (· == s) with
  | some i =>
    obtain ⟨hlt, hp, _⟩ := List.findIdx?_eq_some_iff_getElem.mp h
    exact ⟨by simp only [List.getElem?_eq_getElem hlt, eq_of_beq hp], rfl, rfl, Or.inl rfl⟩
  | none =>
    refine ⟨by simp, rfl, rfl, Or.inr ⟨fun hm => ?_, rfl⟩⟩
    simpa using List.findIdx?_eq_none_iff.mp h s hm

/-! ### The tables only grow -/

structure PrefixExt (env env' : Env) : Prop where
  names : env'.names = env.names
  namespaces : env'.namespaces = env.namespaces
  ext : ∃ e, env'.prefixes = env.prefixes ++ e
  nodup : env.prefixes.Nodup → env'.prefixes.Nodup

theorem PrefixExt.refl (env : Env) : PrefixExt env env := ⟨rfl, rfl, ⟨[], by simp⟩, id⟩

theorem PrefixExt.trans {a b c : Env} (h1 : PrefixExt a b) (h2 : PrefixExt b c) : PrefixExt a c := by
  obtain ⟨e1, he1⟩ := h1.ext
  obtain ⟨e2, he2⟩ := h2.ext
  exact ⟨h2.names.trans h1.names, h2.namespaces.trans h1.namespaces,
    ⟨e1 ++ e2, by rw [he2, he1, List.append_assoc]⟩, fun h => h2.nodup (h1.nodup h)⟩

theorem PrefixExt.getElem? {env env' : Env} (h : PrefixExt env env') {i : Nat} {s : Str}
    (hi : env.prefixes[i]? = some s) : env'.prefixes[i]? = some s := by
  obtain ⟨e, he⟩ := h.ext
  rw [he, List.getElem?_append_left (List.getElem?_eq_some_iff.mp hi).1]
  exact hi

theorem PrefixExt.envOk {env env' : Env} (h : PrefixExt env env') (hok : EnvOk env) : EnvOk env' := by
  unfold EnvOk at hok ⊢
  rw [List.head?_eq_getElem?] at hok ⊢
  exact h.getElem? hok

theorem addPrefix_ext (env : Env) (s : Str) : PrefixExt env (env.addPrefix s).1 := by
  obtain ⟨_, h2, h3, h4⟩ := addPrefix_outcome env s
  refine ⟨h2, h3, ?_, fun hn => ?_⟩
  · rcases h4 with h | ⟨_, h⟩
    · exact ⟨[], by rw [h, List.append_nil]⟩
    · exact ⟨[s], h⟩
  · rcases h4 with h | ⟨hs, h⟩
    · rwa [h]
    · rw [h]
      exact List.nodup_append.mpr ⟨hn, List.pairwise_singleton _ s,
        fun a ha b hb hab => hs (List.mem_singleton.mp hb ▸ hab ▸ ha)⟩

/-- A string `n` + decimal digits. -/
def IsGenerated (s : Str) : Prop := ∃ k, s = generatedPrefixName k

theorem generatedPrefixName_ne_nil (c : Nat) : generatedPrefixName c ≠ [] := by
  simp [generatedPrefixName]

/-- A generated name is not the empty string, which id 0 spells. -/
theorem ne_emptyPrefix_of_generated {env : Env} (hok : EnvOk env) {p : Nat} {s : Str}
    (hp : env.prefixes[p]? = some s) (hs : IsGenerated s) : p ≠ Env.emptyPrefix := by
  rintro rfl
  obtain ⟨k, rfl⟩ := hs
  unfold EnvOk at hok
  rw [Env.emptyPrefix, ← List.head?_eq_getElem?, hok] at hp
  exact generatedPrefixName_ne_nil k (Option.some.inj hp).symm

/-- `add_prefix` of a generated name registers nothing else. -/
theorem addPrefix_generated (env : Env) (c : Nat) :
    ∀ s ∈ (env.addPrefix (generatedPrefixName c)).1.prefixes, s ∈ env.prefixes ∨ IsGenerated s := by
  intro s hs
  rcases (addPrefix_outcome env (generatedPrefixName c)).2.2.2 with h | ⟨_, h⟩
  · exact Or.inl (h ▸ hs)
  · rw [h] at hs
    exact (List.mem_append.mp hs).imp id fun h1 => ⟨c, List.mem_singleton.mp h1⟩

/-- The `n{counter}` loop: the prefix it answers is not in `used` and names a generated string; the
    prefix table grew by generated strings only. -/
theorem freshPrefix_outcome (used : List Nat) : ∀ (fuel : Nat) (env : Env) (c : Nat) (env1 : Env) (p c1 : Nat),
    freshPrefix used fuel env c = some (env1, p, c1) →
      p ∉ used ∧ PrefixExt env env1 ∧ (∀ s ∈ env1.prefixes, s ∈ env.prefixes ∨ IsGenerated s) ∧
      ∃ s, env1.prefixes[p]? = some s ∧ IsGenerated s
  | 0, _, _, _, _, _, h => by simp [freshPrefix] at h
  | fuel + 1, env, c, env1, p, c1, h => by
    simp only [freshPrefix] at h
    split at h
    · rename_i hc
      simp only [Option.some.injEq, Prod.mk.injEq] at h
      obtain ⟨rfl, rfl, _⟩ := h
      exact ⟨by simpa using hc, addPrefix_ext env _, addPrefix_generated env c, _,
        (addPrefix_outcome env _).1, c, rfl⟩
    · obtain ⟨b1, b2, b3, b4⟩ := freshPrefix_outcome used fuel _ _ env1 p c1 h
      exact ⟨b1, (addPrefix_ext env _).trans b2,
        fun s hs => (b3 s hs).elim (addPrefix_generated env c s) Or.inr, b4⟩

theorem assignPrefixes_cons_some {env : Env} {used : List Nat} {c ns : Nat} {M : List Nat} {env' : Env}
    {nd : List (Nat × Nat)} (h : assignPrefixes env used c (ns :: M) = some (env', nd)) :
    ∃ env1 p c1 l, freshPrefix used (used.length + 1) env c = some (env1, p, c1) ∧
      assignPrefixes env1 (p :: used) c1 M = some (env', l) ∧ nd = (p, ns) :: l := by
  simp only [assignPrefixes] at h
  cases hf : freshPrefix used (used.length + 1) env c with
  | none => simp [hf] at h
  | some r =>
    obtain ⟨env1, p, c1⟩ := r
    simp only [hf] at h
    cases ha : assignPrefixes env1 (p :: used) c1 M with
    | none => simp [ha] at h
    | some r2 =>
      obtain ⟨env2, l⟩ := r2
      simp only [ha, Option.some.injEq, Prod.mk.injEq] at h
      obtain ⟨rfl, rfl⟩ := h
      exact ⟨env1, p, c1, l, rfl, ha, rfl⟩

/-- `assignPrefixes`: one new declaration per missing namespace, in order; the prefixes pairwise
    distinct, none of them in `used`, each naming a generated string in the grown table. -/
theorem assignPrefixes_outcome : ∀ (M : List Nat) (env : Env) (used : List Nat) (c : Nat) (env' : Env)
    (nd : List (Nat × Nat)), assignPrefixes env used c M = some (env', nd) →
      nd.map Prod.snd = M ∧ (keys nd).Nodup ∧ (∀ p ∈ keys nd, p ∉ used) ∧ PrefixExt env env' ∧
      (∀ s ∈ env'.prefixes, s ∈ env.prefixes ∨ IsGenerated s) ∧
      ∀ d ∈ nd, ∃ s, env'.prefixes[d.1]? = some s ∧ IsGenerated s
  | [], env, used, c, env', nd, h => by
    simp only [assignPrefixes, Option.some.injEq, Prod.mk.injEq] at h
    obtain ⟨rfl, rfl⟩ := h
    exact ⟨rfl, List.nodup_nil, fun _ hp => (by cases hp), .refl _, fun _ => Or.inl,
      fun _ hd => (by cases hd)⟩
  | ns :: M, env, used, c, env', nd, h => by
    obtain ⟨env1, p, c1, l, hf, hr, rfl⟩ := assignPrefixes_cons_some h
    obtain ⟨f1, f2, fg, s, f3, f4⟩ := freshPrefix_outcome used _ env c env1 p c1 hf
    obtain ⟨r1, r2, r3, r4, rg, r5⟩ := assignPrefixes_outcome M env1 (p :: used) c1 env' l hr
    refine ⟨by simp [r1], List.nodup_cons.mpr ⟨fun hp => r3 p hp List.mem_cons_self, r2⟩, ?_, f2.trans r4,
      fun s hs => (rg s hs).elim (fg s) Or.inr, ?_⟩
    · intro q hq
      rcases List.mem_cons.mp hq with rfl | hq
      · exact f1
      · exact fun hu => r3 q hq (List.mem_cons_of_mem _ hu)
    · intro d hd
      rcases List.mem_cons.mp hd with rfl | hd
      · exact ⟨s, r4.getElem? f3, f4⟩
      · exact r5 d hd

theorem assignPrefixes_spec (M : List Nat) (env : Env) (used : List Nat) (c : Nat) (env' : Env)
    (nd : List (Nat × Nat)) (h : assignPrefixes env used c M = some (env', nd)) :
      nd.map Prod.snd = M ∧ (keys nd).Nodup ∧ (∀ p ∈ keys nd, p ∉ used) ∧
      env'.names = env.names ∧ env'.namespaces = env.namespaces ∧
      (EnvOk env → EnvOk env' ∧ ∀ d ∈ nd, d.1 ≠ Env.emptyPrefix) := by
  obtain ⟨h1, h2, h3, g, _, h5⟩ := assignPrefixes_outcome M env used c env' nd h
  exact ⟨h1, h2, h3, g.names, g.namespaces, fun hok => ⟨g.envOk hok, fun d hd => by
    obtain ⟨s, hs, hg⟩ := h5 d hd
    exact ne_emptyPrefix_of_generated (g.envOk hok) hs hg⟩⟩

theorem hasNd_of_assign {M : List Nat} {nd : List (Nat × Nat)} (hmap : nd.map Prod.snd = M)
    (hne : ∀ d ∈ nd, d.1 ≠ Env.emptyPrefix) : ∀ ns ∈ M, HasNd nd ns := by
  intro ns hns
  rw [← hmap, List.mem_map] at hns
  obtain ⟨⟨p, n⟩, hd, rfl⟩ := hns
  exact ⟨p, hne _ hd, hd⟩

end XotModel.Repair

/-! ### The call on the whole tree

  `create_missing_prefixes_for_element` on the whole tree: what `scopeModifyAt` at the element's path
  leaves alone (everything but namespace nodes inside the element; the declarations of the ancestors),
  and the call unfolded into walk, prefix assignment and rebuilt element.
-/

namespace XotModel.Repair
open XotModel

/-! ### The tree without its namespace nodes -/

mutual
/-- The tree with every namespace node removed: names, attributes and content. -/
def stripNs : Tree → Tree
  | .node v ks => .node v (stripNsKids ks)
def stripNsKids : List Tree → List Tree
  | [] => []
  | k :: ks => if k.value.category == .namespace then stripNsKids ks else stripNs k :: stripNsKids ks
end

theorem stripNsKids_cons_ns (q m : Nat) (kk ks : List Tree) :
    stripNsKids (.node (.namespace q m) kk :: ks) = stripNsKids ks := by
  rw [stripNsKids]; rfl

theorem stripNsKids_insertNsKid (p ns : Nat) (ks : List Tree) :
    stripNsKids (insertNsKid p ns ks) = stripNsKids ks := by
  refine insertNsKid_induct p ns (motive := fun ks r => stripNsKids r = stripNsKids ks)
    (fun ks _ => ?_) (fun m kk ks => ?_) (fun q m kk ks _ ih => ?_) ks
  · rw [stripNsKids_cons_ns]
  · rw [stripNsKids_cons_ns, stripNsKids_cons_ns]
  · rw [stripNsKids_cons_ns, stripNsKids_cons_ns, ih]

theorem stripNs_insertNamespace (p ns : Nat) (t : Tree) : stripNs (insertNamespace p ns t) = stripNs t := by
  cases t with
  | node v ks => simp only [insertNamespace, stripNs, stripNsKids_insertNsKid]

theorem stripNs_insertNamespaces (nd : List (Nat × Nat)) (t : Tree) :
    stripNs (insertNamespaces nd t) = stripNs t :=
  insertNamespaces_invariant stripNs stripNs_insertNamespace nd t

mutual
theorem stripNs_rebuild (nsOf : Nat → Nat) (nd : List (Nat × Nat)) : ∀ (x : Tree) (b : Bool)
    (top : List (Nat × Nat)), stripNs (rebuild nsOf nd b top x) = stripNs x
  | .node v ks, b, top => by
    obtain ⟨ins, top', _, _, e⟩ := rebuild_eq_insert nsOf nd b top v ks
    rw [e, stripNs_insertNamespaces, stripNs, stripNs, stripNsKids_rebuildKids]
theorem stripNsKids_rebuildKids (nsOf : Nat → Nat) (nd : List (Nat × Nat)) : ∀ (ks : List Tree)
    (top : List (Nat × Nat)), stripNsKids (rebuildKids nsOf nd top ks) = stripNsKids ks
  | [], _ => by simp [rebuildKids]
  | k :: ks, top => by
    simp only [rebuildKids, stripNsKids, value_rebuild, stripNs_rebuild nsOf nd k false top,
      stripNsKids_rebuildKids nsOf nd ks top]
end

theorem stripNs_scopeModifyAt (f : Tree → Tree) (path : Path) (t : Tree)
    (h : ∀ x, t.at? path = some x → (f x).value = x.value ∧ stripNs (f x) = stripNs x) :
    stripNs (scopeModifyAt f t path) = stripNs t :=
  (ScopePath.scopeModifyAt_rel_refl (R := fun a' a => a'.value = a.value ∧ stripNs a' = stripNs a)
    (RL := fun l' l => stripNsKids l' = stripNsKids l) f (fun _ => ⟨rfl, rfl⟩)
    (fun a a' l h => by simp only [stripNsKids, h.1, h.2])
    (fun a l l' h => by simp only [stripNsKids, h])
    (fun v l l' h => ⟨rfl, by simp only [stripNs, h]⟩) path t h).2

theorem inheritedDecls_eq (t : Tree) (path : Path) (E : Tree) (rest : List Tree)
    (h : t.ancestorsOrSelf path = some (E :: rest)) :
    inheritedDecls t path = namespacesInScopeChain rest := by
  unfold inheritedDecls
  rcases List.eq_nil_or_concat path with rfl | ⟨p, i, hp⟩
  · simp only [Tree.ancestorsOrSelf, Option.some.injEq, List.cons.injEq] at h
    rw [← h.2]
    rfl
  · rw [List.concat_eq_append] at hp
    subst hp
    have hne : (p ++ [i]).isEmpty = false := by cases p <;> rfl
    simp [hne, namespacesInScope_of_chain (ancestorsOrSelf_snoc_eq_some.1 h).1]

theorem repairElement_eq (env : Env) (t : Tree) (path : Path) (E : Tree) (hat : t.at? path = some E) :
    repairElement env t path =
      match assignPrefixes env
          ((collectRec env.nsOfName (inheritedDecls t path) path E ⟨[], [], []⟩).used ++
            ((namespacesInScope t path).getD []).map (·.1)) 0
          (collectRec env.nsOfName (inheritedDecls t path) path E ⟨[], [], []⟩).missing with
      | none => .panic
      | some r => .ok (r.1, scopeModifyAt
          (fun _ => rebuild env.nsOfName r.2 true (inheritedDecls t path) E) t path) := by
  unfold repairElement
  simp only [hat, repairWalk_eq, withAcc, Bool.false_eq_true, if_false]
  cases assignPrefixes env _ 0 _ with
  | none => rfl
  | some r =>
    obtain ⟨env', nd⟩ := r
    simp only
    rw [scopeModifyAt_const _ path t E hat, applyRepair_walk]

theorem repairElement_ok_inv {env : Env} {t : Tree} {path : Path} {E : Tree} (hat : t.at? path = some E)
    {env' : Env} {t' : Tree} (h : repairElement env t path = .ok (env', t')) :
    ∃ nd, assignPrefixes env
        ((collectRec env.nsOfName (inheritedDecls t path) path E ⟨[], [], []⟩).used ++
          ((namespacesInScope t path).getD []).map (·.1)) 0
        (collectRec env.nsOfName (inheritedDecls t path) path E ⟨[], [], []⟩).missing = some (env', nd) ∧
      t' = scopeModifyAt (fun _ => rebuild env.nsOfName nd true (inheritedDecls t path) E) t path := by
  rw [repairElement_eq env t path E hat] at h
  cases ha : assignPrefixes env _ 0 _ with
  | none => rw [ha] at h; cases h
  | some r =>
    rw [ha] at h
    simp only [Outcome.ok.injEq, Prod.mk.injEq] at h
    obtain ⟨rfl, rfl⟩ := h
    exact ⟨r.2, rfl, rfl⟩

end XotModel.Repair

/-! ### `traverseDecls` under the names of this family -/

namespace XotModel.Repair
open XotModel

theorem rs_traverseDecls_nil (seen : List Nat) : traverseDecls seen [] = (seen, []) := rfl

theorem rs_traverseDecls_seen (l : List (Nat × Nat)) : ∀ (seen : List Nat) (q : Nat),
    q ∈ (traverseDecls seen l).1 ↔ q ∈ seen ∨ q ∈ l.map Prod.fst := by
  exact traverseDecls_seen_sc l

end XotModel.Repair

/-! ### From the recursion to the statements about the call

  From the recursion to the statements about the call: `namesWritable` (the serialiser's own check,
  Model/Scope) is `okRec` from the scope of the ancestors; the new prefixes are bound nowhere in
  scope of the element; everything about one `create_missing_prefixes_for_element` call in one place.
-/

namespace XotModel.Repair
open XotModel

/-! ### `okRec` is `wr` (Lemmas/ScopeWalk), hence `namesWritable` is `okRec` -/

theorem elementOkAt_eq_elementOk (env : Env) (top : List (Nat × Nat)) (t : Tree) (name : Nat) :
    elementOkAt env.nsOfName top name (t.attrs.map (·.1)) = elementOk env top t name := by
  simp only [elementOkAt, elementOk, exceptIsOk_elementFullname, exceptIsOk_attributeFullname,
    hasDefaultNamespace_eq, FStack.top, List.headD_cons]

mutual
theorem okRec_eq_wr (env : Env) : ∀ (t : Tree) (top : List (Nat × Nat)),
    okRec env.nsOfName top t = wr env top t
  | .node v ks, top => by
    cases v with
    | element name =>
      simp only [okRec, wr, elementOkAt_eq_elementOk, okKids_eq_wrList env ks]
      rfl
    | _ => simp only [okRec, wr, okKids_eq_wrList env ks]
theorem okKids_eq_wrList (env : Env) : ∀ (ks : List Tree) (top : List (Nat × Nat)),
    okKids env.nsOfName top ks = wr.wrList env top ks
  | [], _ => rfl
  | k :: ks, top => by simp only [okKids, wr.wrList, okRec_eq_wr env k, okKids_eq_wrList env ks]
end

theorem writable_fold_kids (env : Env) : ∀ (ks : List Tree) (pre : Path) (i : Nat) (st : WritableState),
    (scopeTraverse.go pre i ks).foldl (writableStep env) st =
      { fs := st.fs, ok := st.ok && okKids env.nsOfName st.fs.top ks } := fun ks pre i st => by
  rw [okKids_eq_wrList]; exact XotModel.writable_fold_list env ks pre i st

theorem namesWritableChain_eq (env : Env) (chain : List Tree) (sub : Tree) :
    namesWritableChain env chain sub = okRec env.nsOfName (namespacesInScopeChain chain) sub := by
  rw [okRec_eq_wr]; exact XotModel.namesWritableChain_eq env chain sub

/-- The serialiser starts from `namespaces_in_scope(element)` and pushes the element's own
    declarations again: the same frame as pushing them on the scope of the parent. -/
theorem pushTop_inScope_child (el : Tree) (rest : List Tree) :
    pushTop (namespacesInScopeChain (el :: rest)) el.nsDecls =
      pushTop (namespacesInScopeChain rest) el.nsDecls := by
  unfold pushTop
  cases hd : el.nsDecls with
  | nil =>
    simp only [List.isEmpty_nil, if_true]
    exact namespacesInScopeChain_cons_nil el rest hd
  | cons d ds =>
    simp only [List.isEmpty_cons, Bool.false_eq_true, if_false]
    rw [← hd]
    exact fullnameInfoNew_inScope_child el rest

theorem okRec_inScope_child (nsOf : Nat → Nat) (el : Tree) (rest : List Tree) (name : Nat)
    (hv : el.value = .element name) :
    okRec nsOf (namespacesInScopeChain (el :: rest)) el = okRec nsOf (namespacesInScopeChain rest) el := by
  rw [okRec_of_value nsOf _ el name hv, okRec_of_value nsOf _ el name hv, pushTop_inScope_child]

/-! ### The ancestor chain after the call -/

/-- The node itself is replaced; every proper ancestor keeps its declarations (it keeps the values of
    its children). -/
theorem ancestors_after (f : Tree → Tree) : ∀ (path : Path) (t E : Tree) (rest : List Tree),
    t.ancestorsOrSelf path = some (E :: rest) → (f E).value = E.value →
    ∃ rest', (scopeModifyAt f t path).ancestorsOrSelf path = some (f E :: rest') ∧
      rest'.map Tree.nsDecls = rest.map Tree.nsDecls
  | [], t, E, rest, hc, _ => by
    cases hc
    exact ⟨[], by rw [scopeModifyAt_nil]; rfl, rfl⟩
  | i :: q, .node v ks, E, rest, hc, hv => by
    have hat := (ancestorsOrSelf_head _ _ _ hc).symm
    obtain ⟨k, c, hk, hq, e⟩ := ScopePath.ancestorsOrSelf_cons_eq_some.1 hc
    cases c with
    | nil => exact absurd rfl (ancestorsOrSelf_ne_nil q k [] hq)
    | cons a c0 =>
      simp only [List.cons_append, List.cons.injEq] at e
      obtain ⟨rfl, rfl⟩ := e
      obtain ⟨c0', h1, h2⟩ := ancestors_after f q k E c0 hq hv
      refine ⟨c0' ++ [scopeModifyAt f (.node v ks) (i :: q)], ScopePath.ancestorsOrSelf_cons_eq_some.2
        ⟨_, _, by rw [scopeModifyAt_cons, Tree.kids, List.getElem?_modify_eq, show ks[i]? = some k from hk]; rfl,
          h1, rfl⟩, ?_⟩
      rw [List.map_append, List.map_append, h2, List.map_singleton, List.map_singleton,
        nsDecls_scopeModifyAt_below f i q _ fun x hx => by
          rw [hat] at hx; cases hx; exact hv]

theorem inheritedDecls_scopeModifyAt {t : Tree} {path : Path} {E E' : Tree}
    (hat : t.at? path = some E) (hv : E'.value = E.value) :
    inheritedDecls (scopeModifyAt (fun _ => E') t path) path = inheritedDecls t path := by
  obtain ⟨rest, hc⟩ := ancestorsOrSelf_of_at? t path _ hat
  obtain ⟨rest', hc', hmap⟩ := ancestors_after (fun _ => E') path t E rest hc hv
  rw [inheritedDecls_eq _ path _ rest' hc', inheritedDecls_eq t path _ rest hc,
    namespacesInScopeChain_congr rest' rest hmap]

/-- `to_string` of an element: the serialiser's checks, entered with the declarations it inherits. -/
theorem namesWritable_element (env : Env) (t : Tree) (path : Path) (E : Tree) (name : Nat)
    (hat : t.at? path = some E) (hv : E.value = .element name) :
    namesWritable env t path = some (okRec env.nsOfName (inheritedDecls t path) E) := by
  obtain ⟨rest, hc⟩ := ancestorsOrSelf_of_at? t path _ hat
  unfold namesWritable
  rw [hc, hat]
  simp only
  rw [namesWritableChain_eq, okRec_inScope_child _ _ _ name hv, ← inheritedDecls_eq t path _ rest hc]

/-- A prefix bound in the scope of the ancestors is bound in the scope of the node, or the node
    declares it anew (`xmlns=""` takes the empty prefix out of scope). -/
theorem keys_inScope_cons (a : Tree) (rest : List Tree) (p : Nat)
    (h : p ∈ keys (namespacesInScopeChain rest)) :
    p ∈ keys (namespacesInScopeChain (a :: rest)) ∨ p ∈ keys a.nsDecls := by
  obtain ⟨m, hm⟩ := mem_keys.mp h
  cases hl : a.nsDecls.lookup p with
  | none => exact Or.inl (mem_keys.mpr ⟨m, by rw [mem_namespacesInScopeChain_cons, hl]; exact hm⟩)
  | some n => exact Or.inr ((lookup_isSome_iff_mem_keys _ p).mp (by rw [hl]; rfl))

theorem facts_fresh_inherited {t : Tree} {path : Path} {E : Tree} (hat : t.at? path = some E)
    {nd : List (Nat × Nat)}
    (hscopeFresh : ∀ p ∈ keys nd, p ∉ keys ((namespacesInScope t path).getD []))
    (hdecl : ∀ p ∈ keys nd, p ∉ keys E.nsDecls) :
    ∀ p ∈ keys nd, p ∉ keys (inheritedDecls t path) := by
  obtain ⟨rest, hc⟩ := ancestorsOrSelf_of_at? t path _ hat
  intro p hp hin
  rw [inheritedDecls_eq t path _ rest hc] at hin
  rcases keys_inScope_cons E rest p hin with h | h
  · exact hscopeFresh p hp (by rw [namespacesInScope_of_chain hc]; exact h)
  · exact hdecl p hp h

/-! ### Every declared prefix is in `used_prefix_ids` -/

mutual
theorem declared_sub_used (nsOf : Nat → Nat) : ∀ (x : Tree) (top : List (Nat × Nat)) (pre : Path) (acc : Acc)
    (rel : Path) (y : Tree) (name : Nat), x.at? rel = some y → y.value = .element name →
      ∀ p ∈ keys y.nsDecls, p ∈ (collectRec nsOf top pre x acc).used
  | .node v ks, top, pre, acc, [], y, name, hat, hy, p, hp => by
    simp only [Tree.at?, Option.some.injEq] at hat
    subst hat
    simp only [Tree.value] at hy
    subst hy
    simp only [collectRec]
    exact (collectKids_mono nsOf ks _ pre 0 _).2 p (by simp only [List.mem_append]; exact Or.inr hp)
  | .node v ks, top, pre, acc, i :: rel, y, name, hat, hy, p, hp => by
    rw [at?_cons] at hat
    cases hk : ks[i]? with
    | none => rw [hk] at hat; cases hat
    | some k =>
      rw [hk] at hat
      simp only [Option.bind_some] at hat
      by_cases hv : v.isElement = true
      · obtain ⟨vname, rfl⟩ := eq_element_of_isElement hv
        simp only [collectRec]
        exact declared_sub_used_kids nsOf ks _ pre 0 _ i k rel y name hk hat hy p hp
      · rw [collectRec_other nsOf top pre v ks acc (Bool.eq_false_iff.mpr hv)]
        exact declared_sub_used_kids nsOf ks _ pre 0 _ i k rel y name hk hat hy p hp
theorem declared_sub_used_kids (nsOf : Nat → Nat) : ∀ (ks : List Tree) (top : List (Nat × Nat)) (pre : Path)
    (j : Nat) (acc : Acc) (i : Nat) (k : Tree) (rel : Path) (y : Tree) (name : Nat), ks[i]? = some k →
      k.at? rel = some y → y.value = .element name →
      ∀ p ∈ keys y.nsDecls, p ∈ (collectKids nsOf top pre j ks acc).used
  | [], _, _, _, _, i, _, _, _, _, hk, _, _, _, _ => by simp at hk
  | k0 :: ks, top, pre, j, acc, i, k, rel, y, name, hk, hat, hy, p, hp => by
    simp only [collectKids]
    cases i with
    | zero =>
      simp only [List.getElem?_cons_zero, Option.some.injEq] at hk
      subst hk
      exact (collectKids_mono nsOf ks top pre (j + 1) _).2 p
        (declared_sub_used nsOf k0 top (pre ++ [j]) acc rel y name hat hy p hp)
    | succ i =>
      exact declared_sub_used_kids nsOf ks top pre (j + 1) _ i k rel y name (by simpa using hk) hat hy p hp
end

/-- Everything the theorems of Props/C10 need about `create_missing_prefixes_for_element`. -/
structure RepairFacts (env : Env) (t : Tree) (path : Path) (E : Tree) (env' : Env) (t' : Tree) : Prop where
  /-- the new declarations: prefix ids and the namespaces they are bound to -/
  nd : ∃ nd : List (Nat × Nat),
    t'.at? path = some (rebuild env.nsOfName nd true (inheritedDecls t path) E) ∧
    t' = scopeModifyAt (fun _ => rebuild env.nsOfName nd true (inheritedDecls t path) E) t path ∧
    (keys nd).Nodup ∧ (∀ d ∈ nd, d.1 ≠ Env.emptyPrefix) ∧
    (∀ p ∈ keys nd, p ∉ keys ((namespacesInScope t path).getD [])) ∧
    (∀ p ∈ keys nd, ∀ rel y name, E.at? rel = some y → y.value = .element name → p ∉ keys y.nsDecls) ∧
    okRec env.nsOfName (inheritedDecls t path) (rebuild env.nsOfName nd true (inheritedDecls t path) E) = true
  names : env'.names = env.names
  namespaces : env'.namespaces = env.namespaces
  envOk : EnvOk env'

theorem nsOfName_congr {env env' : Env} (h : env'.names = env.names) : env'.nsOfName = env.nsOfName := by
  funext n; simp [Env.nsOfName, h]

theorem repairElement_facts (env : Env) (hok : EnvOk env) (t : Tree) (path : Path) (name : Nat)
    (ks : List Tree) (hat : t.at? path = some (.node (.element name) ks))
    (hu : UniqueBelow (.node (.element name) ks)) (env' : Env) (t' : Tree)
    (h : repairElement env t path = .ok (env', t')) :
    RepairFacts env t path (.node (.element name) ks) env' t' := by
  obtain ⟨nd, ha, rfl⟩ := repairElement_ok_inv hat h
  generalize hR : collectRec env.nsOfName (inheritedDecls t path) path (.node (.element name) ks) ⟨[], [], []⟩ = R at ha
  obtain ⟨s1, s2, s3, s4, s5, s6⟩ := assignPrefixes_spec _ _ _ _ _ _ ha
  obtain ⟨s6a, s6b⟩ := s6 hok
  have hused : ∀ p ∈ keys nd, p ∉ R.used := fun p hp hin => s3 p hp (by simp [hin])
  have hscopeFresh : ∀ p ∈ keys nd, p ∉ keys ((namespacesInScope t path).getD []) :=
    fun p hp hin => s3 p hp (by simp only [List.mem_append]; exact Or.inr hin)
  have hdecl : ∀ p ∈ keys nd, ∀ rel y nm, (Tree.node (.element name) ks).at? rel = some y →
      y.value = .element nm → p ∉ keys y.nsDecls := by
    intro p hp rel y nm hy hv hin
    apply hused p hp
    rw [← hR]
    exact declared_sub_used env.nsOfName _ _ path _ rel y nm hy hv p hin
  have hinh := facts_fresh_inherited hat hscopeFresh (fun p hp => hdecl p hp [] _ name rfl rfl)
  have hm : ∀ ns ∈ R.missing, HasNd nd ns := hasNd_of_assign s1 s6b
  have hokE := rebuild_top_ok env.nsOfName nd s6b s2 name ks (inheritedDecls t path) path ⟨[], [], []⟩ hu
    (by rw [hR]; exact hm) (by rw [hR]; exact hused) hinh
  exact ⟨⟨nd, by rw [at?_scopeModifyAt, hat]; rfl, rfl, s2, s6b, hscopeFresh, hdecl, hokE⟩, s4, s5, s6a⟩

/-- The call leaves names, attributes and content alone. -/
theorem facts_frame {env : Env} {t : Tree} {path : Path} {E : Tree} {env' : Env} {t' : Tree}
    (hat : t.at? path = some E) (hf : RepairFacts env t path E env' t') : stripNs t' = stripNs t := by
  obtain ⟨nd, _, rfl, _⟩ := hf.nd
  apply stripNs_scopeModifyAt
  intro x hx
  rw [hat] at hx
  cases hx
  exact ⟨value_rebuild _ _ _ _ _, stripNs_rebuild _ _ _ _ _⟩

/-- After the call the serialiser finds a prefix for every name of the element's subtree. -/
theorem facts_writable {env : Env} {t : Tree} {path : Path} {name : Nat} {ks : List Tree} {env' : Env}
    {t' : Tree} (hat : t.at? path = some (.node (.element name) ks))
    (hf : RepairFacts env t path (.node (.element name) ks) env' t') :
    namesWritable env' t' path = some true := by
  obtain ⟨nd, hat', rfl, _, _, _, _, hokE⟩ := hf.nd
  rw [namesWritable_element env' _ path _ name hat' (by rw [value_rebuild]; rfl),
    inheritedDecls_scopeModifyAt hat (value_rebuild _ _ _ _ _), nsOfName_congr hf.names, hokE]

theorem repairElement_of_ok (env : Env) (t : Tree) (q : Path) (E : Tree) (hat : t.at? q = some E)
    (hok : okRec env.nsOfName (inheritedDecls t q) E = true) : repairElement env t q = .ok (env, t) := by
  rw [repairElement_eq env t q E hat]
  obtain ⟨c1, _⟩ := collect_of_ok env.nsOfName E (inheritedDecls t q) q ⟨[], [], []⟩ hok
  rw [c1]
  simp only [assignPrefixes]
  rw [rebuild_of_ok env.nsOfName E true _ hok, scopeModifyAt_id q t E hat]

theorem facts_idem {env : Env} {t : Tree} {path : Path} {name : Nat} {ks : List Tree} {env' : Env}
    {t' : Tree} (hat : t.at? path = some (.node (.element name) ks))
    (hf : RepairFacts env t path (.node (.element name) ks) env' t') :
    repairElement env' t' path = .ok (env', t') := by
  obtain ⟨nd, hat', rfl, _, _, _, _, hokE⟩ := hf.nd
  apply repairElement_of_ok env' _ path _ hat'
  rw [inheritedDecls_scopeModifyAt hat (value_rebuild _ _ _ _ _), nsOfName_congr hf.names]
  exact hokE

theorem facts_element {env : Env} {t : Tree} {path : Path} {name : Nat} {ks : List Tree} {env' : Env} {t' : Tree}
    (hf : RepairFacts env t path (.node (.element name) ks) env' t') :
    ∃ ks', t'.at? path = some (.node (.element name) ks') ∧
      stripNs (.node (.element name) ks') = stripNs (.node (.element name) ks) := by
  obtain ⟨nd, hat', _⟩ := hf.nd
  have hv := value_rebuild env.nsOfName nd true (inheritedDecls t path) (.node (.element name) ks)
  have hs := stripNs_rebuild env.nsOfName nd (.node (.element name) ks) true (inheritedDecls t path)
  generalize rebuild env.nsOfName nd true (inheritedDecls t path) (.node (.element name) ks) = E' at hat' hv hs
  obtain ⟨v', ks'⟩ := E'
  simp only [Tree.value] at hv
  subst hv
  exact ⟨ks', hat', hs⟩

end XotModel.Repair
