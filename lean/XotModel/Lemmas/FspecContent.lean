/-
  Which handle survives a merge does not matter once handles are forgotten:
  merged text nodes erase to the same tree, so two edits of one site that differ in the
  survivor rule only give the same `Forest.content`.
  Before that, what an insertion does to a child list, for all four destinations at once
  (`Dest.insert_cases`: nothing, or a split with the node between).
-/
import XotModel.Lemmas.FspecMoveCalls

namespace XotModel
open HTree Spec

theorem erase_node (h : Nat) (v : Value) (ks : List HTree) : erase (.node h v ks) = .node v (eraseList ks) := by
  simp [erase]

theorem eraseList_nil : eraseList [] = [] := by simp [eraseList]
theorem eraseList_cons (k : HTree) (ks : List HTree) : eraseList (k :: ks) = erase k :: eraseList ks := by
  simp [eraseList]

theorem erase_setValue (t : HTree) (v : Value) : erase (t.setValue v) = .node v (eraseList t.kids) := by
  cases t; simp [HTree.setValue, erase_node, HTree.kids]

theorem erase_eq_of {a b : HTree} (hv : a.value = b.value) (hk : eraseList a.kids = eraseList b.kids) :
    erase a = erase b := by
  cases a; cases b
  simp only [HTree.value, HTree.kids] at hv hk
  rw [erase_node, erase_node, hv, hk]

theorem erase_mergeInto_keep (keep keep' : Keep) : ∀ (rest : List HTree) (cur cur' : HTree),
    erase cur = erase cur' → cur.value = cur'.value →
    (cur.value.isText = true → cur.kids = [] ∧ cur'.kids = []) →
    (∀ k ∈ rest, k.value.isText = true → k.kids = []) →
    eraseList (mergeInto keep cur rest) = eraseList (mergeInto keep' cur' rest)
  | [], cur, cur', he, _, _, _ => by
    rw [mergeInto_nil, mergeInto_nil, eraseList_cons, eraseList_cons, he]
  | b :: rest, cur, cur', he, hv, hl, hr => by
    by_cases h : cur.value.isText = true ∧ b.value.isText = true
    · obtain ⟨x, hx⟩ := isText_iff_textData.1 h.1
      obtain ⟨y, hy⟩ := isText_iff_textData.1 h.2
      have hx' := textData_some hx
      have hy' := textData_some hy
      rw [mergeInto_cons_text hx' hy', mergeInto_cons_text (hv ▸ hx') hy']
      have hbl : b.kids = [] := hr b List.mem_cons_self h.2
      obtain ⟨hcl, hcl'⟩ := hl h.1
      have hj : ∀ (kp : Keep) (u : HTree), u.kids = [] → (join kp u b x y).kids = [] := by
        intro kp u hu
        unfold join
        split
        · rw [setValue_kids]; exact hu
        · rw [setValue_kids]; exact hbl
      apply erase_mergeInto_keep keep keep' rest
      · apply erase_eq_of
        · rw [join_value, join_value]
        · rw [hj keep cur hcl, hj keep' cur' hcl']
      · rw [join_value, join_value]
      · intro _; exact ⟨hj keep cur hcl, hj keep' cur' hcl'⟩
      · intro k hk; exact hr k (List.mem_cons_of_mem _ hk)
    · have h' : ¬ (cur'.value.isText = true ∧ b.value.isText = true) := by rw [← hv]; exact h
      rw [mergeInto_cons_other h, mergeInto_cons_other h', eraseList_cons, eraseList_cons, he]
      congr 1
      apply erase_mergeInto_keep keep keep' rest b b rfl rfl
      · intro hb; exact ⟨hr b List.mem_cons_self hb, hr b List.mem_cons_self hb⟩
      · intro k hk; exact hr k (List.mem_cons_of_mem _ hk)

theorem erase_mergeRuns_keep (keep keep' : Keep) {L : List HTree}
    (hl : ∀ k ∈ L, k.value.isText = true → k.kids = []) :
    eraseList (mergeRuns keep L) = eraseList (mergeRuns keep' L) := by
  cases L with
  | nil => rfl
  | cons a rest =>
    apply erase_mergeInto_keep keep keep' rest a a rfl rfl
    · intro ha; exact ⟨hl a List.mem_cons_self ha, hl a List.mem_cons_self ha⟩
    · intro k hk; exact hl k (List.mem_cons_of_mem _ hk)

mutual
  theorem erase_editAt_const (p : Nat) {A B : List HTree} (h : eraseList A = eraseList B) : ∀ t : HTree,
      erase (HTree.editAt p (fun _ => A) t) = erase (HTree.editAt p (fun _ => B) t)
    | .node hh v ks => by
      rw [editAt_node, editAt_node]
      by_cases e : hh = p
      · rw [if_pos e, if_pos e, erase_node, erase_node, h]
      · rw [if_neg e, if_neg e, erase_node, erase_node, eraseList_editAt_const p h ks]
  theorem eraseList_editAt_const (p : Nat) {A B : List HTree} (h : eraseList A = eraseList B) : ∀ ks : List HTree,
      eraseList (ks.map (HTree.editAt p (fun _ => A))) = eraseList (ks.map (HTree.editAt p (fun _ => B)))
    | [] => rfl
    | k :: ks => by
      rw [List.map_cons, List.map_cons, eraseList_cons, eraseList_cons, erase_editAt_const p h k,
        eraseList_editAt_const p h ks]
end

theorem SiteAt.content_congr {f : Forest} {p : Nat} {v : Value} {L : List HTree} (s : SiteAt f p v L)
    {g g' : List HTree → List HTree} (h : eraseList (g L) = eraseList (g' L)) :
    (f.editAt (some p) g).content = (f.editAt (some p) g').content := by
  rw [s.congr (g := g) (g' := fun _ => g L) rfl, s.congr (g := g') (g' := fun _ => g' L) rfl]
  exact eraseList_editAt_const p h f.roots

theorem mem_replaceTop {h : Nat} {F : HTree → List HTree} {k : HTree} : ∀ {L : List HTree},
    k ∈ replaceTop h F L → k ∈ L ∨ ∃ w ∈ L, k ∈ F w
  | [], hk => by cases hk
  | a :: L, hk => by
    rw [replaceTop_cons] at hk
    split at hk
    · cases List.mem_append.1 hk with
      | inl e => exact Or.inr ⟨a, List.mem_cons_self, e⟩
      | inr e => exact Or.inl (List.mem_cons_of_mem _ e)
    · cases List.mem_cons.1 hk with
      | inl e => exact Or.inl (e ▸ List.mem_cons_self)
      | inr e =>
        cases mem_replaceTop e with
        | inl e' => exact Or.inl (List.mem_cons_of_mem _ e')
        | inr e' =>
          obtain ⟨w, hw, hkw⟩ := e'
          exact Or.inr ⟨w, List.mem_cons_of_mem _ hw, hkw⟩

theorem replaceTop_split (r : Nat) (F : HTree → List HTree) : ∀ L : List HTree,
    (¬ IsTop r L ∧ replaceTop r F L = L) ∨
      ∃ A k B, L = A ++ k :: B ∧ k.handle = r ∧ (∀ k' ∈ A, k'.handle ≠ r) ∧ replaceTop r F L = A ++ F k ++ B
  | [] => Or.inl ⟨fun ⟨_, hk, _⟩ => (nomatch hk), rfl⟩
  | k :: ks => by
    rw [replaceTop_cons]
    by_cases hk : k.handle = r
    · rw [if_pos hk]
      exact Or.inr ⟨[], k, ks, rfl, hk, fun _ h => (nomatch h), by simp⟩
    · rw [if_neg hk]
      rcases replaceTop_split r F ks with ⟨hno, e⟩ | ⟨A, k', B, e1, e2, hA, e3⟩
      · refine Or.inl ⟨fun ⟨k', hk', e'⟩ => ?_, by rw [e]⟩
        rcases List.mem_cons.1 hk' with h | h
        · exact hk (h ▸ e')
        · exact hno ⟨k', h, e'⟩
      · refine Or.inr ⟨k :: A, k', B, by rw [e1]; rfl, e2, fun k'' h => ?_, by rw [e3]; rfl⟩
        rcases List.mem_cons.1 h with h | h
        · exact h ▸ hk
        · exact hA k'' h

/-- What is known about the place of insertion, by destination. -/
def PairAll.SplitInfo (dest : Dest) (L A B : List HTree) : Prop :=
  match dest with
  | .lastChildOf _ => B = []
  | .firstNormalChildOf _ => A = L.takeWhile abn
  | .after x => ∃ k, A.getLast? = some k ∧ k.handle = x
  | .before x => ∃ k, B.head? = some k ∧ k.handle = x

/-- **An insertion as a split**: the list stays as it is (the reference child is not there), or it
    is cut in two and `t` put between. -/
theorem Dest.insert_cases (dest : Dest) (t : HTree) (L : List HTree) :
    ((∃ x, (dest = .after x ∨ dest = .before x) ∧ ¬ IsTop x L) ∧ dest.insert t L = L) ∨
      ∃ A B, L = A ++ B ∧ dest.insert t L = A ++ t :: B ∧ PairAll.SplitInfo dest L A B := by
  cases dest with
  | lastChildOf p => exact Or.inr ⟨L, [], by simp, by simp [Dest.insert, insertLast], rfl⟩
  | firstNormalChildOf p =>
    exact Or.inr ⟨L.takeWhile abn, L.dropWhile abn, List.takeWhile_append_dropWhile.symm,
      insertFirstNormal_eq t L, rfl⟩
  | after x =>
    rcases replaceTop_split x (fun k => [k, t]) L with ⟨hno, e⟩ | ⟨A, k, B, e1, e2, _, e3⟩
    · exact Or.inl ⟨⟨x, Or.inl rfl, hno⟩, e⟩
    · exact Or.inr ⟨A ++ [k], B, by rw [e1]; simp, by simp only [Dest.insert, insertAfterTop]; rw [e3]; simp,
        k, by simp, e2⟩
  | before x =>
    rcases replaceTop_split x (fun k => [t, k]) L with ⟨hno, e⟩ | ⟨A, k, B, e1, e2, _, e3⟩
    · exact Or.inl ⟨⟨x, Or.inr rfl, hno⟩, e⟩
    · exact Or.inr ⟨A, k :: B, e1, by simp only [Dest.insert, insertBeforeTop]; rw [e3]; simp, k, rfl, e2⟩

theorem PairAll.mem_insert_iff {x t : HTree} {A B : List HTree} : x ∈ A ++ t :: B ↔ x = t ∨ x ∈ A ++ B := by
  simp only [List.mem_append, List.mem_cons, or_left_comm]

theorem mem_insert {dest : Dest} {t k : HTree} {L : List HTree} (hk : k ∈ dest.insert t L) : k = t ∨ k ∈ L := by
  rcases dest.insert_cases t L with ⟨_, e⟩ | ⟨A, B, e1, e2, _⟩
  · exact Or.inr (e ▸ hk)
  · rw [e2] at hk
    rw [e1]
    exact PairAll.mem_insert_iff.1 hk

/-- When, for two survivor rules, the specification of a move is "graft into the same forest `Y`,
    then merge at the destination", its content is the same for both. -/
theorem content_keep_of_graft {f : Forest} {keep1 keep2 : Keep} {c : Nat} {t : HTree} {q : Nat} {vq : Value}
    {Y : Forest} {LY : List HTree} (sY : SiteAt Y q vq LY) (hYc : Y.consolidation = f.consolidation)
    (hleafY : ∀ k ∈ LY, k.value.isText = true → k.kids = []) (hleaft : t.value.isText = true → t.kids = [])
    {dest : Dest}
    (h1 : specMove keep1 dest c f = (Y.editAt (some q) (dest.insert t)).mergeAt keep1 (some q))
    (h2 : specMove keep2 dest c f = (Y.editAt (some q) (dest.insert t)).mergeAt keep2 (some q)) :
    (specMove keep1 dest c f).content = (specMove keep2 dest c f).content := by
  rw [h1, h2]
  have hYc' : (Y.editAt (some q) (dest.insert t)).consolidation = f.consolidation := by
    rw [Forest.editAt_consolidation, hYc]
  rcases Bool.eq_false_or_eq_true f.consolidation with hc | hc
  · rw [mergeAt_on (hYc'.trans hc), mergeAt_on (hYc'.trans hc), Forest.editAt_editAt, Forest.editAt_editAt]
    apply sY.content_congr
    simp only [Function.comp]
    apply erase_mergeRuns_keep
    intro k hk htx
    cases mem_insert hk with
    | inl e => rw [e] at htx ⊢; exact hleaft htx
    | inr e => exact hleafY k e htx
  · rw [mergeAt_off (hYc'.trans hc), mergeAt_off (hYc'.trans hc)]

end XotModel
