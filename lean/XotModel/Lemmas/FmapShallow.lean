/-
  Lemmas for C11: the frame for OTHER nodes.  After the child list of `e` is replaced,
  every other node `e'` still has the same value and the same direct children (handles and
  values), provided the lookup of `e'` inside the old and the new child list agree that far.
-/
import XotModel.Lemmas.FmapNode

namespace XotModel
namespace Fmap
open HTree
open Forest (MapKind entryKey mapChildren)

theorem mapAt_atKids_handle (e : Nat) (F : List HTree → List HTree) (k : HTree) :
    (mapAt e (atKids F) k).handle = k.handle :=
  HTree.mapAt_handle e _ (atKids_handle F) k

theorem hv_mapAt_atKids (e : Nat) (F : List HTree → List HTree) (k : HTree) :
    hv (mapAt e (atKids F) k) = hv k := by
  simp [hv, mapAt_atKids_handle, mapAt_atKids_value]

theorem shallow_around (e' : Nat) (l r : List HTree) (k k' : HTree)
    (h : (find? e' k').map shallow = (find? e' k).map shallow) :
    (findList? e' (l ++ k' :: r)).map shallow = (findList? e' (l ++ k :: r)).map shallow := by
  rw [findList?_append, findList?_append]
  cases findList? e' l with
  | some a => rfl
  | none =>
    simp only [Option.none_or, findList?]
    cases h1 : find? e' k' with
    | some a =>
      cases h2 : find? e' k with
      | some b => rw [h1, h2] at h; exact h
      | none => rw [h1, h2] at h; cases h
    | none =>
      cases h2 : find? e' k with
      | some b => rw [h1, h2] at h; cases h
      | none => rfl

theorem shallow_findList?_withKids (e e' : Nat) (ev : Value) (ks ks' : List HTree) (hne : e' ≠ e)
    (hH : (findList? e' ks').map shallow = (findList? e' ks).map shallow) :
    ∀ l : List HTree, (handlesList l).Nodup → findList? e l = some (.node e ev ks) →
    (findList? e' (mapAtList e (atKids (fun _ => ks')) l)).map shallow =
      (findList? e' l).map shallow := by
  intro L hnd hf
  have a := At.of_find e L _ hnd hf
  clear hnd hf
  have hne' : ¬ e = e' := fun h => hne h.symm
  induction a with
  | @top l r he hl hr =>
    rw [mapAtList_around _ _ l r _ hl hr, mapAt_of_handle _ he]
    apply shallow_around
    show (find? e' (.node e ev ks')).map shallow = (find? e' (.node e ev ks)).map shallow
    simp only [find?, if_neg hne']
    exact hH
  | @under l r cs h v hn hl hr _ ih =>
    rw [mapAtList_around _ _ l r _ hl hr]
    apply shallow_around
    simp only [mapAt, if_neg hn, find?]
    by_cases he' : h = e'
    · simp only [if_pos he', Option.map_some, shallow, HTree.value, HTree.kids]
      rw [mapAtList_eq_map, List.map_map]
      congr 2
      apply List.map_congr_left
      intro c _
      exact hv_mapAt_atKids e _ c
    · simp only [if_neg he']
      exact ih

theorem shallow_find?_withKids (e e' : Nat) (ev : Value) (ks ks' : List HTree) (hne : e' ≠ e)
      (hH : (findList? e' ks').map shallow = (findList? e' ks).map shallow) :
      ∀ k : HTree, (handles k).Nodup → find? e k = some (.node e ev ks) →
      (find? e' (mapAt e (atKids (fun _ => ks')) k)).map shallow = (find? e' k).map shallow := by
  intro k hnd hf
  have := shallow_findList?_withKids e e' ev ks ks' hne hH [k] (by simpa [handlesList] using hnd)
    (by simp only [findList?, hf])
  simp only [mapAtList, findList?_singleton] at this
  exact this

/-! ### What depends on the shallow view only -/

/-- The adapters' selection at the level of (handle, value) pairs. -/
def kidsOfP (k : MapKind) (ps : List (Nat × Value)) : List (Nat × Value) :=
  match k with
  | .namespaces => ps.takeWhile (fun p => p.2.category == .namespace)
  | .attributes =>
    (ps.dropWhile (fun p => p.2.category == .namespace)).takeWhile (fun p => p.2.category == .attribute)

theorem kidsOf_hv (k : MapKind) (ks : List HTree) : (kidsOf k ks).map hv = kidsOfP k (ks.map hv) := by
  cases k
  · simp only [kidsOf, kidsOfP, List.dropWhile_map, List.takeWhile_map]
    rfl
  · simp only [kidsOf, kidsOfP, List.takeWhile_map]
    rfl

theorem absT_of_shallow (k : MapKind) (t : HTree) :
    absT k t = (kidsOfP k (shallow t).2).map (fun p => (entryKey p.2, payloadOf p.2)) := by
  unfold absT shallow
  rw [mapChildren_eq, ← kidsOf_hv, List.map_map]
  rfl

theorem nodes_of_shallow (k : MapKind) (t : HTree) :
    (mapChildren k t).map (·.handle) = (kidsOfP k (shallow t).2).map (·.1) := by
  unfold shallow
  rw [mapChildren_eq, ← kidsOf_hv, List.map_map]
  rfl

theorem views_of_shallow (f f' : Forest) (e' : Nat)
    (h : (f'.get? e').map shallow = (f.get? e').map shallow) :
    (∀ k, abs k f' e' = abs k f e') ∧ (∀ k, absNodes k f' e' = absNodes k f e') ∧
    f'.isElement e' = f.isElement e' ∧ f'.value? e' = f.value? e' := by
  cases h1 : f'.get? e' with
  | none =>
    cases h2 : f.get? e' with
    | none => simp [Fmap.abs, absNodes, Forest.isElement, Forest.value?, h1, h2]
    | some b => rw [h1, h2] at h; simp at h
  | some a =>
    cases h2 : f.get? e' with
    | none => rw [h1, h2] at h; simp at h
    | some b =>
      rw [h1, h2] at h
      simp only [Option.map_some, Option.some.injEq] at h
      have hv' : a.value = b.value := by
        have := congrArg Prod.fst h; exact this
      refine ⟨?_, ?_, ?_, ?_⟩
      · intro k
        simp only [Fmap.abs, h1, h2]
        rw [absT_of_shallow, absT_of_shallow, h]
      · intro k
        simp only [absNodes, h1, h2]
        rw [nodes_of_shallow, nodes_of_shallow, h]
      · simp [Forest.isElement, Forest.value?, h1, h2, hv']
      · simp [Forest.value?, h1, h2, hv']

/-! ### Lookups inside a child list that lost or gained a leaf -/

theorem findList?_skip_leaf (e' : Nat) (a b : List HTree) (n : HTree) (hk : n.kids = [])
    (hne : n.handle ≠ e') : findList? e' (a ++ n :: b) = findList? e' (a ++ b) := by
  have hn : find? e' n = none := by
    apply find?_none_of_not_mem
    rw [handles_eq, hk]
    simp only [handlesList, List.mem_cons, List.not_mem_nil, or_false]
    exact fun h => hne h.symm
  rw [findList?_append, findList?_append]
  simp only [findList?, hn]

end Fmap
end XotModel
