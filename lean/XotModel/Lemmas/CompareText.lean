/-
  C13: string_value of a document / element is the concatenated text of the
  canonical form.
-/
import XotModel.Lemmas.CompareBasic

namespace XotModel

/-- The text of a list of nodes as `descendants_to_string` collects it. -/
def textOfNodes (l : List Tree) : Str :=
  ((l.filter fun n => n.value.isNormal).filterMap Tree.textStr).flatten

theorem textOfNodes_append (a b : List Tree) : textOfNodes (a ++ b) = textOfNodes a ++ textOfNodes b := by
  simp [textOfNodes, List.filter_append, List.filterMap_append, List.flatten_append]

theorem textOfNodes_cons (t : Tree) (l : List Tree) :
    textOfNodes (t :: l) = textOfNodes [t] ++ textOfNodes l := textOfNodes_append [t] l

theorem descendantsToString_eq (t : Tree) : descendantsToString t = textOfNodes (allDescendants t) := rfl

theorem leavesList_iff (ks : List Tree) :
    Tree.contentLeaves.leavesList ks = true ↔ ∀ k ∈ ks, k.contentLeaves = true := by
  induction ks with
  | nil => simp [Tree.contentLeaves.leavesList]
  | cons k ks ih => simp [Tree.contentLeaves.leavesList, ih]

/-- What `descendants_to_string` collects below one node. -/
def TextSpec (t : Tree) : Prop :=
  t.valid = true → t.contentLeaves = true →
    textOfNodes (allDescendants t) = if t.value.isNormal then (canon t).text else []

theorem textOfNodes_kids (ks : List Tree) (ih : ∀ k ∈ ks, TextSpec k)
    (hv : ∀ k ∈ ks, k.valid = true) (hl : ∀ k ∈ ks, k.contentLeaves = true) :
    textOfNodes (allDescendants.allDescendantsList ks) = Canon.text.textList (canon.canonList ks) := by
  induction ks with
  | nil => simp [allDescendants.allDescendantsList, textOfNodes, canon.canonList, Canon.text.textList]
  | cons k ks ihk =>
    have hk := ih k List.mem_cons_self (hv k List.mem_cons_self) (hl k List.mem_cons_self)
    have hrest := ihk (fun x hx => ih x (List.mem_cons_of_mem _ hx)) (fun x hx => hv x (List.mem_cons_of_mem _ hx))
      (fun x hx => hl x (List.mem_cons_of_mem _ hx))
    simp only [allDescendants.allDescendantsList, textOfNodes_append, hk, hrest]
    by_cases hn : k.value.isNormal = true
    · simp [canon.canonList, hn, Canon.text.textList]
    · simp [canon.canonList, hn]

theorem contentLeaves_node {v : Value} {ks : List Tree} (h : (Tree.node v ks).contentLeaves = true) :
    ((v.isText = true ∨ (∃ s, v = .comment s) ∨ (∃ t d, v = .pi t d)) → ks = []) ∧
      ∀ k ∈ ks, k.contentLeaves = true := by
  simp only [Tree.contentLeaves, Bool.and_eq_true, leavesList_iff] at h
  refine ⟨?_, h.2⟩
  have h1 := h.1
  cases v <;> simp [Value.isText] at h1 ⊢
  all_goals exact h1

theorem textSpec (t : Tree) : TextSpec t := by
  induction t using Tree.induct_mem with
  | h v ks ih =>
    intro hv hl
    obtain ⟨_, _, hleaf, hvk⟩ := valid_node hv
    obtain ⟨hcl, hlk⟩ := contentLeaves_node hl
    have hkids := textOfNodes_kids ks ih hvk hlk
    simp only [allDescendants]
    rw [textOfNodes_cons, hkids]
    -- for every kind of value both sides evaluate; a leaf kind has `ks = []`
    have hnil : v.isNormal = false → ks = [] := fun h =>
      hleaf.elim (fun h' => by rw [h] at h'; cases h') id
    cases v with
    | document => rfl
    | element n => rfl
    | text s => cases hcl (Or.inl rfl); exact (List.append_nil _).trans (List.append_nil s)
    | comment s => cases hcl (Or.inr (Or.inl ⟨s, rfl⟩)); rfl
    | pi t d => cases hcl (Or.inr (Or.inr ⟨t, d, rfl⟩)); rfl
    | «attribute» n s => cases hnil rfl; rfl
    | «namespace» p n => cases hnil rfl; rfl

end XotModel
