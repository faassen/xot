/-
  C05 for `replace`, the edit algebra behind it (no model function involved).

  `repl_core`: dropping `a` at its parent `q`, dropping `b` at its own site and inserting `t` at
  `q` with a list function `ins` is dropping `b` and replacing `a` by `t`, for every `ins` and
  shape `Sh` of child lists with `ins (dropTop a L') = replaceTop a (fun _ => [t]) L'` on the lists
  of that shape, the shape being stable under handle/value-preserving maps and under `dropTop b`
  (`ShapeAfter` for `insert_after(previous, b)`, `ShapeFirst` for `prepend(parent, b)`); the three
  geometries of `b` (parentless, child of another node, child of the same node) are handled once.
  `specReplace_adjacent`: `b` directly before / after `a`: `specReplace a b = specRemove a`.
-/
import XotModel.Lemmas.BasicFacts
import XotModel.Lemmas.FspecReplArgs

namespace XotModel
open HTree Spec

/-! ### Lists -/

theorem mem_dropTop_of_ne {n : Nat} {L : List HTree} {k : HTree} (h : k ∈ L) (hne : k.handle ≠ n) :
    k ∈ dropTop n L := by
  rw [dropTop_eq_filter]
  exact List.mem_filter.2 ⟨h, by simpa using hne⟩

/-- The child list `l' ++ P :: A :: r'`: the replaced node `a` directly after `p`. -/
def ShapeAfter (p a : Nat) (L : List HTree) : Prop :=
  ∃ l' P A' r', L = l' ++ P :: A' :: r' ∧ P.handle = p ∧ A'.handle = a ∧ p ≠ a ∧
    (∀ k ∈ l', k.handle ≠ p) ∧ (∀ k ∈ l', k.handle ≠ a) ∧ (∀ k ∈ r', k.handle ≠ a)

theorem ShapeAfter.ins {p a : Nat} {L : List HTree} (t : HTree) (h : ShapeAfter p a L) :
    insertAfterTop p t (dropTop a L) = replaceTop a (fun _ => [t]) L := by
  obtain ⟨l', P, A', r', e, hP, hA, hpa, l1, l2, r2⟩ := h
  subst e hP
  have hl : ∀ k ∈ l' ++ [P], k.handle ≠ a := by
    intro k hk
    cases List.mem_append.1 hk with
    | inl h => exact l2 k h
    | inr h =>
      have : k = P := by simpa using h
      rw [this]; exact hpa
  have e1 : l' ++ P :: A' :: r' = (l' ++ [P]) ++ A' :: r' := by simp
  rw [e1, dropTop_mid hA hl r2, replaceTop_mid hA hl]
  have e2 : (l' ++ [P]) ++ r' = l' ++ P :: r' := by simp
  rw [e2, insertAfterTop_mid t l1]
  simp

theorem ShapeAfter.map {p a : Nat} {L : List HTree} {φ : HTree → HTree} (hφ : KidMap φ) (h : ShapeAfter p a L) :
    ShapeAfter p a (L.map φ) := by
  obtain ⟨l', P, A', r', e, hP, hA, hpa, l1, l2, r2⟩ := h
  refine ⟨l'.map φ, φ P, φ A', r'.map φ, by rw [e]; simp, by rw [hφ.handle, hP], by rw [hφ.handle, hA], hpa,
    ?_, ?_, ?_⟩
  · simpa only [List.forall_mem_map, hφ.handle] using l1
  · simpa only [List.forall_mem_map, hφ.handle] using l2
  · simpa only [List.forall_mem_map, hφ.handle] using r2

theorem ShapeAfter.drop {p a b : Nat} {L : List HTree} (hbp : p ≠ b) (hba : a ≠ b) (h : ShapeAfter p a L) :
    ShapeAfter p a (dropTop b L) := by
  obtain ⟨l', P, A', r', e, hP, hA, hpa, l1, l2, r2⟩ := h
  refine ⟨dropTop b l', P, A', dropTop b r', ?_, hP, hA, hpa, fun k hk => l1 k (mem_of_mem_dropTop hk),
    fun k hk => l2 k (mem_of_mem_dropTop hk), fun k hk => r2 k (mem_of_mem_dropTop hk)⟩
  rw [e, dropTop_append, dropTop_cons, if_neg (by rw [hP]; exact hbp), dropTop_cons,
    if_neg (by rw [hA]; exact hba)]

/-- The child list `l' ++ A :: r'`: attribute / namespace nodes, then the replaced node `a`, then
    normal nodes only. -/
def ShapeFirst (a : Nat) (L : List HTree) : Prop :=
  ∃ l' A' r', L = l' ++ A' :: r' ∧ A'.handle = a ∧
    (∀ k ∈ l', k.handle ≠ a) ∧ (∀ k ∈ r', k.handle ≠ a) ∧
    (∀ k ∈ l', k.value.isNormal = false) ∧ (∀ k ∈ r', k.value.isNormal = true)

theorem ShapeFirst.ins {a : Nat} {L : List HTree} (t : HTree) (h : ShapeFirst a L) :
    insertFirstNormal t (dropTop a L) = replaceTop a (fun _ => [t]) L := by
  obtain ⟨l', A', r', e, hA, l2, r2, ln, rn⟩ := h
  subst e
  rw [dropTop_mid hA l2 r2, replaceTop_mid hA l2, insertFirstNormal_split t l' r' ln rn]
  simp

theorem ShapeFirst.map {a : Nat} {L : List HTree} {φ : HTree → HTree} (hφ : KidMap φ) (h : ShapeFirst a L) :
    ShapeFirst a (L.map φ) := by
  obtain ⟨l', A', r', e, hA, l2, r2, ln, rn⟩ := h
  refine ⟨l'.map φ, φ A', r'.map φ, by rw [e]; simp, by rw [hφ.handle, hA], ?_, ?_, ?_, ?_⟩
  · simpa only [List.forall_mem_map, hφ.handle] using l2
  · simpa only [List.forall_mem_map, hφ.handle] using r2
  · simpa only [List.forall_mem_map, hφ.value] using ln
  · simpa only [List.forall_mem_map, hφ.value] using rn

theorem ShapeFirst.drop {a b : Nat} {L : List HTree} (hba : a ≠ b) (h : ShapeFirst a L) :
    ShapeFirst a (dropTop b L) := by
  obtain ⟨l', A', r', e, hA, l2, r2, ln, rn⟩ := h
  refine ⟨dropTop b l', A', dropTop b r', ?_, hA, fun k hk => l2 k (mem_of_mem_dropTop hk),
    fun k hk => r2 k (mem_of_mem_dropTop hk), fun k hk => ln k (mem_of_mem_dropTop hk),
    fun k hk => rn k (mem_of_mem_dropTop hk)⟩
  rw [e, dropTop_append, dropTop_cons, if_neg (by rw [hA]; exact hba)]

/-! ### The three geometries, once -/

/-- Dropping `a` at `q`, dropping `b` at its own site and inserting `t` at `q` with `ins` is
    dropping `b` and replacing `a` by `t`, whenever `ins ∘ dropTop a` is that replacement on the
    child lists of a shape that survives edits below and the departure of `b`. -/
theorem repl_core {f : Forest} {a b q : Nat} {vq : Value} {L : List HTree} {t : HTree}
    (sq : SiteAt f q vq L) (hgb : f.get? b = some t) (hqt : q ∉ handles t)
    (Sh : List HTree → Prop) (ins : List HTree → List HTree)
    (hins : ∀ L', Sh L' → ins (dropTop a L') = replaceTop a (fun _ => [t]) L')
    (hmap : ∀ φ, KidMap φ → ∀ L', Sh L' → Sh (L'.map φ))
    (hdrop : ∀ L', Sh L' → Sh (dropTop b L'))
    (hL : Sh L) :
    ((f.editAt (some q) (dropTop a)).editAt (f.parent? b) (dropTop b)).editAt (some q) ins =
      (f.editAt (f.parent? b) (dropTop b)).editAt (some q) (replaceTop a (fun _ => [t])) := by
  have nd := sq.nd
  cases hctx : f.ctx? b with
  | none =>
    rw [Forest.parent?_of_no_ctx hctx, Forest.editAt_none_comm, Forest.editAt_editAt]
    exact (sq.dropRoot hgb hqt).congr (hins L hL)
  | some cx =>
    obtain ⟨_, vo, so⟩ := SiteAt.of_ctx_get nd hctx hgb
    have hb : t.handle = b := (findList?_some f.roots t hgb).1
    rw [Forest.parent?_of_ctx? hctx]
    by_cases hpo : cx.parent = q
    · rw [hpo, Forest.editAt_editAt, Forest.editAt_editAt, Forest.editAt_editAt]
      apply sq.congr
      simp only [Function.comp]
      rw [dropTop_comm b a, hins _ (hdrop L hL)]
    · have hkm := kidMap_editAt cx.parent (dropTop b)
      rw [Forest.editAt_comm f hpo (natFor_dropTop (kidMap_editAt q (dropTop a)) b) (natFor_dropTop hkm a),
        Forest.editAt_editAt]
      have s0 := so.cut_other sq hpo hqt
      rw [hb] at s0
      exact s0.congr (hins _ (hmap _ hkm L hL))

theorem Forest.mergeAt_idem (X : Forest) (keep : Keep) (s : Option Nat) :
    (X.mergeAt keep s).mergeAt keep s = X.mergeAt keep s := by
  cases s with
  | none => rfl
  | some p =>
    rcases Bool.eq_false_or_eq_true X.consolidation with hc | hc
    · rw [mergeAt_on hc, mergeAt_on (by rw [Forest.editAt_consolidation]; exact hc), Forest.editAt_editAt,
        mergeRuns_comp_idem]
    · rw [mergeAt_off hc, mergeAt_off hc]

/-! ### The forest after `remove_subtree(a)` -/

namespace ReplArgs
variable {f : Forest} {a b q : Nat} {vq : Value} {l : List HTree} {A : HTree} {r : List HTree} {t : HTree}

theorem tops (h : ReplArgs f a b q vq l A r t) : (∀ k ∈ l, k.handle ≠ a) ∧ (∀ k ∈ r, k.handle ≠ a) := by
  obtain ⟨ndL, _⟩ := h.sq.nodupKids
  have := tops_ne_of_nodup ndL
  rw [h.ha] at this
  exact this

theorem hbq (h : ReplArgs f a b q vq l A r t) : b ≠ q := by
  intro e
  apply h.hqt
  rw [← e, ← h.hb]
  exact handle_mem_handles t

theorem kid_a (h : ReplArgs f a b q vq l A r t) {k : HTree} (hk : k ∈ l ++ A :: r) (hka : k.handle = a) : k = A := by
  cases List.mem_append.1 hk with
  | inl h' => exact absurd hka (h.tops.1 k h')
  | inr h' =>
    cases List.mem_cons.1 h' with
    | inl h' => exact h'
    | inr h' => exact absurd hka (h.tops.2 k h')

theorem cat (h : ReplArgs f a b q vq l A r t) : t.value.category = A.value.category := by
  rw [isNormal_iff.1 h.htn, isNormal_iff.1 h.hAn]

theorem site1 (h : ReplArgs f a b q vq l A r t) : SiteAt (f.editAt (some q) (dropTop a)) q vq (l ++ r) := by
  have := h.sq.edit (dropTop a) (handlesList_dropTop_sublist a _)
  rw [dropTop_mid h.ha h.tops.1 h.tops.2] at this
  exact this

theorem get1 (h : ReplArgs f a b q vq l A r t) : (f.editAt (some q) (dropTop a)).get? b = some t := by
  rw [get?_editAt_site h.sq h.hbq (dropTop a)
    (findList?_dropTop _ (fun k hk hka => by rw [h.kid_a hk hka]; exact h.hbA)), h.hgb]
  simp only [Option.map_some]
  rw [editAt_of_not_mem t h.hqt]

theorem site_other1 (h : ReplArgs f a b q vq l A r t) {po : Nat} {vo : Value} {lo ro : List HTree}
    (so : SiteAt f po vo (lo ++ t :: ro)) (hne : po ≠ q) :
    SiteAt (f.editAt (some q) (dropTop a)) po vo
      (lo.map (HTree.editAt q (dropTop a)) ++ t :: ro.map (HTree.editAt q (dropTop a))) := by
  have := h.sq.other so.kids hne (dropTop a) (handlesList_dropTop_sublist a _)
    (findList?_dropTop _ (by
      intro k hk hka
      rw [h.kid_a hk hka]; exact h.parent_b_not_in_A so))
  rw [List.map_append, List.map_cons, editAt_of_not_mem t h.hqt] at this
  exact this

theorem parent1 (h : ReplArgs f a b q vq l A r t) :
    (f.editAt (some q) (dropTop a)).parent? b = f.parent? b := by
  have s1 := h.site1
  rcases h.sq.mover h.hgb with hctx | ⟨l', r', hctx, hL⟩ | ⟨po, vo, l', r', hpo, hctx, so⟩
  · rw [Forest.parent?_of_no_ctx hctx]
    exact Forest.parent?_of_no_ctx
      (Forest.ctx_none_of_root s1.nd (isRoot_editAt _ (isRoot_of_no_ctx h.hgb hctx)))
  · -- `t` is still a child of `q`
    rw [Forest.parent?_of_ctx? hctx]
    have hmem : t ∈ dropTop a (l ++ A :: r) :=
      mem_dropTop_of_ne (by rw [hL]; simp) (by rw [h.hb]; exact fun e => h.hab e.symm)
    rw [dropTop_mid h.ha h.tops.1 h.tops.2] at hmem
    have := (s1.kid_of_mem hmem).2
    rwa [h.hb] at this
  · rw [Forest.parent?_of_ctx? hctx]
    have := (h.site_other1 so hpo).ctx
    rw [h.hb] at this
    rw [Forest.parent?_of_ctx? this]

theorem nextOf_head (h : ReplArgs f a b q vq l A r t) {R : HTree} {r2 : List HTree} (er : r = R :: r2)
    (hR : R.handle = b) : nextOf r A = some b := by
  have : R = t := h.kid_eq (by rw [er]; simp) hR
  subst er
  subst this
  simp [nextOf, h.cat, hR]

end ReplArgs

/-! ### The replacing node stands next to the replaced one -/

theorem ReplArgs.adjacent {f : Forest} {a b q : Nat} {vq : Value} {l : List HTree} {A : HTree} {r : List HTree}
    {t : HTree} (ra : ReplArgs f a b q vq l A r t) (hadj : prevOf l A = some b ∨ nextOf r A = some b) :
    f.parent? b = some q ∧
      replaceTop a (fun _ => [t]) (dropTop b (l ++ A :: r)) = dropTop a (l ++ A :: r) := by
  obtain ⟨ndL, _⟩ := ra.sq.nodupKids
  have hba : b ≠ a := fun e => ra.hab e.symm
  rcases hadj with h | h
  · obtain ⟨l2, B, el, hB, _⟩ := prevOf_eq_some h
    subst el
    have hBt : B = t := ra.kid_eq (by simp) hB
    subst hBt
    have e1 : (l2 ++ [B]) ++ A :: r = l2 ++ B :: (A :: r) := by simp
    refine ⟨hB ▸ (ra.sq.kid_of_mem (k := B) (by simp)).2, ?_⟩
    have hl2a : ∀ k ∈ l2, k.handle ≠ a := fun k hk => ra.tops.1 k (List.mem_append_left _ hk)
    rw [dropTop_mid ra.ha ra.tops.1 ra.tops.2, e1]
    rw [e1] at ndL
    obtain ⟨tl, tr⟩ := tops_ne_of_nodup ndL
    rw [hB] at tl tr
    rw [dropTop_mid hB tl tr, replaceTop_mid ra.ha hl2a]
  · obtain ⟨R, r2, er, hR, _⟩ := nextOf_eq_some h
    subst er
    have hRt : R = t := ra.kid_eq (by simp) hR
    subst hRt
    have e1 : l ++ A :: R :: r2 = (l ++ [A]) ++ R :: r2 := by simp
    refine ⟨hR ▸ (ra.sq.kid_of_mem (k := R) (by simp)).2, ?_⟩
    rw [dropTop_mid ra.ha ra.tops.1 ra.tops.2]
    rw [e1] at ndL
    obtain ⟨tl, tr⟩ := tops_ne_of_nodup ndL
    rw [hR] at tl tr
    rw [e1, dropTop_mid hR tl tr]
    have e2 : (l ++ [A]) ++ r2 = l ++ A :: r2 := by simp
    rw [e2, replaceTop_mid ra.ha ra.tops.1]
    simp

theorem specReplace_adjacent {f : Forest} {a b q : Nat} {vq : Value} {l : List HTree} {A : HTree} {r : List HTree}
    {t : HTree} (keep : Keep) (ra : ReplArgs f a b q vq l A r t)
    (hadj : prevOf l A = some b ∨ nextOf r A = some b) :
    specReplace keep a b f = specRemove keep a f := by
  obtain ⟨hpar, hlist⟩ := ra.adjacent hadj
  unfold specReplace specRemove
  rw [ra.hgb, Forest.parent?_of_ctx? ra.ctx_a, hpar]
  simp only
  rw [Forest.editAt_editAt, ra.sq.congr (g := replaceTop a (fun _ => [t]) ∘ dropTop b) (g' := dropTop a) hlist,
    Forest.mergeAt_idem]

/-! ### The statements on a closed example -/

/-- `<e1 a2="a">x<e3>p</e3>y<e4>z<!--c--></e4></e1>`, a parentless text node `w` and a parentless
    element `<e5>u</e5>`: handles 0 (e1), 1 (attribute), 2 (x), 3 (e3), 4 (p), 5 (y), 6 (e4), 7 (z),
    8 (comment), 9 (w), 10 (e5), 11 (u). -/
def replSample : Forest :=
  { roots := [.node 0 (.element 1) [.node 1 (.attribute 2 ['a']) [], .node 2 (.text ['x']) [],
        .node 3 (.element 3) [.node 4 (.text ['p']) []], .node 5 (.text ['y']) [],
        .node 6 (.element 4) [.node 7 (.text ['z']) [], .node 8 (.comment ['c']) []]],
      .node 9 (.text ['w']) [], .node 10 (.element 5) [.node 11 (.text ['u']) []]], next := 12 }

/-- `replace(3, 9)` (an element between two text nodes by a parentless text node; all three text
    nodes merge): dropping 3 and then moving 9 behind 3's previous sibling is the replacement. -/
example : specMove (Keep.resident 9) (.after 2) 9 (replSample.editAt (some 0) (dropTop 3)) =
    specReplace (Keep.resident 9) 3 9 replSample := by decide +kernel

example : (specReplace (Keep.resident 9) 3 9 replSample).get? 0 =
    some (.node 0 (.element 1) [.node 1 (.attribute 2 ['a']) [], .node 2 (.text ['x', 'w', 'y']) [],
      .node 6 (.element 4) [.node 7 (.text ['z']) [], .node 8 (.comment ['c']) []]]) := by decide +kernel

/-- `b` stands directly before / after `a`. -/
example : ∀ keep ∈ [Keep.earlier, Keep.resident 2, Keep.resident 3, Keep.resident 5],
    ∀ ab ∈ [(3, 2), (3, 5), (2, 3), (5, 3), (5, 6), (6, 5), (7, 8), (8, 7)],
    specReplace keep ab.1 ab.2 replSample = specRemove keep ab.1 replSample := by
  intro keep _ ab hab
  -- evaluated: the pair passes the argument checks of `replace`, and `b` is a neighbour of `a`
  have checks : (replSample.parent? ab.1).isSome = true ∧
      replSample.isNormalNode ab.1 = true ∧ replSample.structureCheck (replSample.parent? ab.1) ab.2 = true ∧
      (replSample.ancestors ab.2).contains ab.1 = false ∧
      (replSample.prevSibling ab.1 = some ab.2 ∨ replSample.nextSibling ab.1 = some ab.2) := by
    revert ab; decide +kernel
  have nd : replSample.allHandles.Nodup := by decide +kernel
  obtain ⟨h1, h2, h3, h4, hadj⟩ := checks
  obtain ⟨q, hq⟩ := Option.isSome_iff_exists.1 h1
  rw [hq] at h3
  obtain ⟨vq, l, A, r, t, ra⟩ := ReplArgs.of_checks nd hq h2 h3 h4
  rw [Forest.prevSibling_of_ctx ra.ctx_a, Forest.nextSibling_of_ctx ra.ctx_a] at hadj
  exact specReplace_adjacent keep ra hadj

end XotModel
