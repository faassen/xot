/-
  Extended histories (`Forest.XCall`, `Store.xrun`, Model/FhistSpec.lean): every extended call
  keeps the forest invariant, and handles are never re-used (`Forest.Le`) for all forests and
  arguments; hence `is_removed` is monotone along every extended history.
-/
import XotModel.Lemmas.FinvPrefix
import XotModel.Lemmas.FhistBasic
import XotModel.Lemmas.ForestClosed

/-! ## Every extended call preserves the invariant -/

namespace XotModel
open HTree

namespace Forest

/-- The insertion loop of `clone_with_prefixes`: `namespaces_mut(clone).insert(prefix, ns)` calls. -/
theorem addPrefixes_inv (order : List (Nat × Nat)) {f : Forest} (hi : f.Inv) (c : Nat) :
    (f.addPrefixes c order).1.Inv :=
  Closed.addPrefixes_keeps (P := Forest.Inv) c order hi
    (fun b _ _ hg => mapInsert_inv hg .namespaces c (.namespace b.1 b.2) rfl)

/-- `clone_with_prefixes(node)`, for every node argument, every iteration order, every outcome. -/
theorem cloneWithPrefixes_inv {f : Forest} (hi : f.Inv) (node : Nat) (order : List (Nat × Nat)) :
    (f.cloneWithPrefixes node order).1.Inv :=
  Closed.cloneWithPrefixes_keeps (P := Forest.Inv) (step_inv hi (.cloneNode node) rfl)
    (fun c _ => addPrefixes_inv order (step_inv hi (.cloneNode node) rfl) c)

theorem XCall.wellKinded_call {c : Call} (hw : (XCall.call c).wellKinded) : c.wellKinded := by
  cases c <;> first | exact hw | trivial

/-- **One extended call preserves the invariant**, whatever its arguments and its outcome. -/
theorem xcall_inv {s : Store} (hi : s.forest.Inv) (c : XCall) (hw : c.wellKinded) :
    (c.run s).1.forest.Inv := by
  cases c with
  | call c => exact call_inv hi c (XCall.wellKinded_call hw)
  | newNode v => exact Fcreation.newNode_inv hi v
  | setConsolidation b => exact setConsolidation_inv hi b
  | removeInsignificantWhitespace n => exact removeInsignificantWhitespace_inv hi n
  | createMissingPrefixes n => exact createMissingPrefixes_inv hi s.env n
  | deduplicateNamespaces n => exact deduplicateNamespaces_inv hi s.env n
  | cloneWithPrefixes n order => exact cloneWithPrefixes_inv hi n order

end Forest

namespace Store
open Forest

theorem xstep_inv {s : Store} (hi : s.forest.Inv) (c : XCall) (hw : c.wellKinded) :
    (s.xstep c).forest.Inv := xcall_inv hi c hw

/-- **Every extended history preserves the invariant.** -/
theorem xrun_inv : ∀ (cs : List XCall) {s : Store}, s.forest.Inv → (∀ c ∈ cs, c.wellKinded) →
    (s.xrun cs).forest.Inv
  | [], _, hi, _ => hi
  | c :: cs, s, hi, hw =>
    xrun_inv cs (s := s.xstep c) (xstep_inv hi c (hw c List.mem_cons_self)) (fun c' h' => hw c' (List.mem_cons_of_mem _ h'))

end Store
end XotModel

/-! ## Handles are never re-used

`Forest.Le` (Lemmas/FinvVStep.lean) needs no invariant: `next` does not decrease and every handle afterwards is an
old one or a fresh one. -/

namespace XotModel
namespace Forest

theorem le_call (f : Forest) (c : Call) : Le f (c.run f).1 := by
  cases c with
  | append p c => exact le_append f p c
  | prepend p c => exact le_prepend f p c
  | insertAfter r n => exact le_insertAfter f r n
  | insertBefore r n => exact le_insertBefore f r n
  | detach n => exact le_detach f n
  | remove n => exact le_remove f n
  | replace a b => exact le_replace f a b
  | elementWrap n name => exact le_elementWrap f n name
  | elementUnwrap n => exact le_elementUnwrap f n
  | cloneNode n => exact le_cloneNode f n
  | anyAppend p c => exact le_anyAppend f p c
  | appendEntryNode k p c => exact le_appendEntryNode f k p c
  | mapInsert k p e => exact le_mapInsert f k p e
  | mapRemove k p key => exact le_mapRemove f k p key
  | mapClear k p => exact le_mapClear f k p
  | setElementName n name => exact le_setElementName f n name
  | setText n s => exact le_setText f n s
  | setComment n s => exact le_setComment f n s
  | setPiData n d => exact le_setPiData f n d
  | textContentSet n s => exact le_textContentSet f n s

/-- Whatever comes after `f0`: one more call leads to something after `f0`.  The hypothesis `True`, here and in
    `le_repairElementF`, fills the place of the side condition on the call (`ok c`, `A e`) in the premises of
    `Closed.repairElementF_keeps`, `dedupLoop_keeps` and `createMissingPrefixes_keeps`, which `Le` does not need. -/
theorem fhist_le_call_after {f0 f : Forest} (c : Call) (h : Le f0 f) (_ : True) : Le f0 (c.run f).1 :=
  h.trans (le_call f c)

theorem le_repairElementF {f0 f : Forest} (env : Env) (node : Nat) (h : Le f0 f) (_ : True) :
    Le f0 (f.repairElementF env node).1 :=
  Closed.repairElementF_keeps (ok := fun _ => True) fhist_le_call_after h (fun _ _ _ _ _ => trivial)

theorem le_createMissingPrefixes (env : Env) (f : Forest) (node : Nat) :
    Le f (f.createMissingPrefixes env node).1 :=
  Closed.createMissingPrefixes_keeps (A := fun _ => True) le_repairElementF (Le.refl f) trivial
    (fun _ _ _ _ => trivial)

theorem le_deduplicateNamespaces (env : Env) (f : Forest) (node : Nat) :
    Le f (f.deduplicateNamespaces env node).1 :=
  Closed.dedupLoop_keeps (ok := fun _ => True) fhist_le_call_after env node (fun _ _ _ => trivial) _ (Le.refl f)

theorem le_cloneWithPrefixes (f : Forest) (node : Nat) (order : List (Nat × Nat)) :
    Le f (f.cloneWithPrefixes node order).1 :=
  Closed.cloneWithPrefixes_keeps (le_cloneNode f node) fun c _ =>
    Closed.addPrefixes_keeps c order (le_cloneNode f node)
      (fun b _ g h => h.trans (le_mapInsert g .namespaces c (.namespace b.1 b.2)))

/-- One extended call, for all stores and arguments, without any invariant. -/
theorem le_xcall (s : Store) (c : XCall) : Le s.forest (c.run s).1.forest := by
  cases c with
  | call c => exact le_call s.forest c
  | newNode v => exact le_newNode s.forest v
  | setConsolidation b => exact le_setConsolidation s.forest b
  | removeInsignificantWhitespace n => exact le_removeInsignificantWhitespace s.forest n
  | createMissingPrefixes n => exact le_createMissingPrefixes s.env s.forest n
  | deduplicateNamespaces n => exact le_deduplicateNamespaces s.env s.forest n
  | cloneWithPrefixes n order => exact le_cloneWithPrefixes s.forest n order

end Forest

namespace Store
open Forest

theorem le_xrun : ∀ (cs : List XCall) (s : Store), Le s.forest (s.xrun cs).forest
  | [], s => Le.refl s.forest
  | c :: cs, s => (le_xcall s c).trans (le_xrun cs (s.xstep c))

end Store
end XotModel
