/-
  Facts shared by the developments for the PAIR reading of the consolidation clause
  (`Model/FspecSpec3.lean`): `neighbours`, `mergeAdj`, `mergeNew` on a child list given by its
  pieces and under maps over the children; the children of a site; the place of the node to be
  moved; `addConsolidate_pair`: xot's consolidation at the new place is the specification's
  `mergeNew`, for every way of inserting.
-/
import XotModel.Lemmas.BasicFacts
import XotModel.Model.FspecSpec3
import XotModel.Lemmas.FspecMove
import XotModel.Lemmas.FspecContent

namespace XotModel
open HTree Spec

theorem mem_of_mem_dropTop {n : Nat} {L : List HTree} {k : HTree} (h : k ∈ dropTop n L) : k ∈ L := by
  rw [dropTop_eq_filter] at h
  exact (List.mem_filter.1 h).1

theorem mem_without_of_ne {X Z : List HTree} {t k : HTree} (h : k ∈ X ++ t :: Z) (hne : k.handle ≠ t.handle) :
    k ∈ X ++ Z := by
  rcases List.mem_append.1 h with h | h
  · exact List.mem_append_left _ h
  · rcases List.mem_cons.1 h with h | h
    · exact absurd (by rw [h]) hne
    · exact List.mem_append_right _ h

namespace Spec

theorem neighbours_mid {n : Nat} {k : HTree} (hk : k.handle = n) (r : List HTree) :
    ∀ (l : List HTree), (∀ x ∈ l, x.handle ≠ n) →
      neighbours n (l ++ k :: r) = (l.getLast?.map (·.handle), r.head?.map (·.handle))
  | [], _ => by
    cases r with
    | nil => rfl
    | cons y rest => simp [neighbours, hk]
  | [x], hl => by
    have hx : x.handle ≠ n := hl x (by simp)
    simp [neighbours, hx, hk]
  | x :: x' :: l, hl => by
    have hx : x.handle ≠ n := hl x (by simp)
    have hx' : x'.handle ≠ n := hl x' (by simp)
    have ih := neighbours_mid hk r (x' :: l) (fun y hy => hl y (List.mem_cons_of_mem _ hy))
    simp only [List.cons_append] at ih ⊢
    rw [neighbours]
    simp only [hx, hx', if_false]
    rw [ih]
    simp [List.getLast?_cons_cons]

theorem joinLeft_text {x y : HTree} {s u : Str} (hx : x.value = .text s) (hy : y.value = .text u) :
    joinLeft x y = some (x.setValue (.text (s ++ u))) := by
  simp [joinLeft, hx, hy]

theorem joinLeft_none {x y : HTree} (h : ¬ (x.value.isText = true ∧ y.value.isText = true)) :
    joinLeft x y = none := by
  unfold joinLeft
  split
  · rename_i s u e1 e2
    exact absurd ⟨by rw [e1]; rfl, by rw [e2]; rfl⟩ h
  · rfl

theorem joinRight_text {t z : HTree} {u w : Str} (ht : t.value = .text u) (hz : z.value = .text w) :
    joinRight t z = some (z.setValue (.text (u ++ w))) := by
  simp [joinRight, ht, hz]

theorem joinRight_none {t z : HTree} (h : ¬ (t.value.isText = true ∧ z.value.isText = true)) :
    joinRight t z = none := by
  unfold joinRight
  split
  · rename_i s u e1 e2
    exact absurd ⟨by rw [e1]; rfl, by rw [e2]; rfl⟩ h
  · rfl

theorem mem_replaceTop_insert {h : Nat} {F : HTree → List HTree} {t x : HTree}
    (hF : ∀ k, ∀ y ∈ F k, y = k ∨ y = t) : ∀ L : List HTree, x ∈ replaceTop h F L → x = t ∨ x ∈ L
  | [], hx => Or.inr hx
  | k :: ks, hx => by
    rw [replaceTop_cons] at hx
    split at hx
    · rcases List.mem_append.1 hx with h1 | h1
      · rcases hF k x h1 with e | e
        · exact Or.inr (by rw [e]; exact List.mem_cons_self)
        · exact Or.inl e
      · exact Or.inr (List.mem_cons_of_mem _ h1)
    · rcases List.mem_cons.1 hx with e | e
      · exact Or.inr (by rw [e]; exact List.mem_cons_self)
      · exact (mem_replaceTop_insert hF ks e).imp_right (List.mem_cons_of_mem _)

theorem mem_of_mem_insert {h : Nat} {F : HTree → List HTree} {t x : HTree} {X Z : List HTree}
    (hF : ∀ k, ∀ y ∈ F k, y = k ∨ y = t) (hx : x ∈ replaceTop h F (X ++ Z)) : x ∈ X ++ t :: Z := by
  rcases mem_replaceTop_insert hF _ hx with e | e
  · rw [e]; simp
  · exact fs_mem_mid_of_mem _ e

theorem mergeAdj_nil (a b : Nat) : mergeAdj a b [] = [] := by simp [mergeAdj]
theorem mergeAdj_single (a b : Nat) (x : HTree) : mergeAdj a b [x] = [x] := by simp [mergeAdj]

theorem mergeAdj_cons_cons (a b : Nat) (x y : HTree) (rest : List HTree) :
    mergeAdj a b (x :: y :: rest) =
      if x.handle = a ∧ y.handle = b then
        ((joinLeft x y).map (fun j => j :: rest)).getD (x :: y :: rest)
      else x :: mergeAdj a b (y :: rest) := by
  rw [mergeAdj]

theorem mergeAdj_cons_ne {a b : Nat} {x : HTree} (hx : x.handle ≠ a) (L : List HTree) :
    mergeAdj a b (x :: L) = x :: mergeAdj a b L := by
  cases L with
  | nil => rw [mergeAdj_single, mergeAdj_nil]
  | cons y rest => rw [mergeAdj_cons_cons, if_neg (fun e => hx e.1)]

theorem mergeAdj_of_not_top {a b : Nat} : ∀ (L : List HTree), (∀ x ∈ L, x.handle ≠ a) → mergeAdj a b L = L
  | [], _ => mergeAdj_nil a b
  | x :: L, h => by
    rw [mergeAdj_cons_ne (h x (by simp)), mergeAdj_of_not_top L (fun z hz => h z (List.mem_cons_of_mem _ hz))]

theorem mergeAdj_mid {A B : HTree} (r : List HTree) :
    ∀ (l : List HTree), (∀ x ∈ l, x.handle ≠ A.handle) →
      mergeAdj A.handle B.handle (l ++ A :: B :: r) =
        ((joinLeft A B).map (fun j => l ++ j :: r)).getD (l ++ A :: B :: r)
  | [], _ => by
    simp only [List.nil_append]
    rw [mergeAdj_cons_cons, if_pos ⟨rfl, rfl⟩]
  | x :: l, h => by
    rw [List.cons_append, mergeAdj_cons_ne (h x (by simp)),
      mergeAdj_mid r l (fun y hy => h y (List.mem_cons_of_mem _ hy))]
    cases joinLeft A B <;> rfl

theorem mergeAdj_mid_text {A B : HTree} {s u : Str} (hA : A.value = .text s) (hB : B.value = .text u)
    {l : List HTree} (r : List HTree) (hl : ∀ x ∈ l, x.handle ≠ A.handle) :
    mergeAdj A.handle B.handle (l ++ A :: B :: r) = l ++ A.setValue (.text (s ++ u)) :: r := by
  rw [mergeAdj_mid r l hl, joinLeft_text hA hB]
  rfl

theorem mergeAdj_mid_other {A B : HTree} (h : ¬ (A.value.isText = true ∧ B.value.isText = true))
    {l : List HTree} (r : List HTree) (hl : ∀ x ∈ l, x.handle ≠ A.handle) :
    mergeAdj A.handle B.handle (l ++ A :: B :: r) = l ++ A :: B :: r := by
  rw [mergeAdj_mid r l hl, joinLeft_none h]
  rfl

/-- The merge of the adjacent text children `a b` commutes with putting `P` before and `Q` behind
    the child called `h`, unless that separates `a` from `b`; a reference to the consumed `b`
    becomes one to `a`. -/
theorem mergeAdj_replaceTop {a b : HTree} {x y : Str} (hx : a.value = .text x) (hy : b.value = .text y)
    (hab : a.handle ≠ b.handle) {F : HTree → List HTree} {P Q : List HTree} (hF : ∀ k, F k = P ++ k :: Q)
    (hPQ : ∀ k ∈ P ++ Q, k.handle ≠ a.handle) {h : Nat} (hsa : h = a.handle → Q = [])
    (hsb : h = b.handle → P = []) (V : List HTree) :
    ∀ U : List HTree, (∀ k ∈ U, k.handle ≠ a.handle ∧ k.handle ≠ b.handle) →
    mergeAdj a.handle b.handle (replaceTop h F (U ++ a :: b :: V)) =
      replaceTop (if h = b.handle then a.handle else h) F (U ++ a.setValue (.text (x ++ y)) :: V)
  | [], _ => by
    simp only [List.nil_append]
    by_cases h1 : a.handle = h
    · have hne : ¬ h = b.handle := fun e => hab (h1.trans e)
      rw [if_neg hne, replaceTop_cons, if_pos h1, replaceTop_cons, setValue_handle, if_pos h1, hF, hF,
        hsa h1.symm]
      have e : (P ++ a :: []) ++ b :: V = P ++ a :: b :: V := by simp
      rw [e, mergeAdj_mid_text hx hy V (fun k hk => hPQ k (List.mem_append_left _ hk))]
      simp
    · rw [replaceTop_cons, if_neg h1, replaceTop_cons]
      by_cases h2 : b.handle = h
      · rw [if_pos h2, if_pos h2.symm, replaceTop_cons, setValue_handle, if_pos rfl, hF, hF, hsb h2.symm]
        have e : a :: (([] ++ b :: Q) ++ V) = [] ++ a :: b :: (Q ++ V) := by simp
        rw [e, mergeAdj_mid_text hx hy _ (fun k hk => by cases hk)]
        simp
      · rw [if_neg h2, if_neg (fun e => h2 e.symm), replaceTop_cons, setValue_handle, if_neg h1]
        have e : a :: b :: replaceTop h F V = [] ++ a :: b :: replaceTop h F V := rfl
        rw [e, mergeAdj_mid_text hx hy _ (fun k hk => by cases hk)]
        rfl
  | u :: U, hU => by
    have hu := hU u (by simp)
    simp only [List.cons_append]
    by_cases h1 : u.handle = h
    · have hne : ¬ h = b.handle := fun e => hu.2 (h1.trans e)
      rw [if_neg hne, replaceTop_cons, if_pos h1, replaceTop_cons, if_pos h1, hF]
      have e : (P ++ u :: Q) ++ (U ++ a :: b :: V) = (P ++ u :: (Q ++ U)) ++ a :: b :: V := by simp
      rw [e, mergeAdj_mid_text hx hy V (fun k hk => by
        rcases List.mem_append.1 hk with hk | hk
        · exact hPQ k (List.mem_append_left _ hk)
        · rcases List.mem_cons.1 hk with hk | hk
          · rw [hk]; exact hu.1
          · rcases List.mem_append.1 hk with hk | hk
            · exact hPQ k (List.mem_append_right _ hk)
            · exact (hU k (List.mem_cons_of_mem _ hk)).1)]
      simp
    · have h1' : ¬ u.handle = (if h = b.handle then a.handle else h) := by
        split
        · exact hu.1
        · exact h1
      rw [replaceTop_cons, if_neg h1, mergeAdj_cons_ne hu.1,
        mergeAdj_replaceTop hx hy hab hF hPQ hsa hsb V U (fun k hk => hU k (List.mem_cons_of_mem _ hk)),
        replaceTop_cons, if_neg h1']

theorem mergeNewHead_text {t z : HTree} {u w : Str} (ht : t.value = .text u) (hz : z.value = .text w)
    (rest : List HTree) : mergeNewHead t (z :: rest) = z.setValue (.text (u ++ w)) :: rest := by
  simp [mergeNewHead, joinRight_text ht hz]

theorem mergeNewHead_other {t z : HTree} (h : ¬ (t.value.isText = true ∧ z.value.isText = true))
    (rest : List HTree) : mergeNewHead t (z :: rest) = t :: z :: rest := by
  simp [mergeNewHead, joinRight_none h]

theorem mergeNewHead_nil (t : HTree) : mergeNewHead t [] = [t] := rfl

theorem mergeNewHead_nontext {T : HTree} (hT : T.value.isText = false) (B : List HTree) :
    mergeNewHead T B = T :: B := by
  cases B with
  | nil => rfl
  | cons z rest => exact mergeNewHead_other (fun h => by rw [hT] at h; cases h.1) rest

theorem mergeNew_nil (n : Nat) : mergeNew n [] = [] := by simp [mergeNew]
theorem mergeNew_single (n : Nat) (x : HTree) : mergeNew n [x] = [x] := by simp [mergeNew]

theorem mergeNew_cons_cons (n : Nat) (x y : HTree) (rest : List HTree) :
    mergeNew n (x :: y :: rest) =
      if y.handle = n then
        ((joinLeft x y).map (fun j => j :: rest)).getD (x :: mergeNewHead y rest)
      else if x.handle = n then mergeNewHead x (y :: rest)
      else x :: mergeNew n (y :: rest) := by
  rw [mergeNew]

theorem mergeNew_head {T : HTree} (B : List HTree) (hB : ∀ x ∈ B, x.handle ≠ T.handle) :
    mergeNew T.handle (T :: B) = mergeNewHead T B := by
  cases B with
  | nil => rw [mergeNew_single]; rfl
  | cons y rest =>
    rw [mergeNew_cons_cons, if_neg (hB y (by simp)), if_pos rfl]

theorem mergeNew_mid {T a : HTree} (B : List HTree) :
    ∀ (A : List HTree), (∀ x ∈ A, x.handle ≠ T.handle) → a.handle ≠ T.handle →
      mergeNew T.handle (A ++ a :: T :: B) =
        ((joinLeft a T).map (fun j => A ++ j :: B)).getD (A ++ a :: mergeNewHead T B)
  | [], _, ha => by
    simp only [List.nil_append]
    rw [mergeNew_cons_cons, if_pos rfl]
  | x :: A, h, ha => by
    have hx : x.handle ≠ T.handle := h x (by simp)
    have ih := mergeNew_mid (T := T) (a := a) B A (fun y hy => h y (List.mem_cons_of_mem _ hy)) ha
    cases A with
    | nil =>
      simp only [List.nil_append, List.cons_append] at ih ⊢
      rw [mergeNew_cons_cons, if_neg ha, if_neg hx, ih]
      cases joinLeft a T <;> rfl
    | cons x' A' =>
      have hx' : x'.handle ≠ T.handle := h x' (by simp)
      simp only [List.cons_append] at ih ⊢
      rw [mergeNew_cons_cons, if_neg hx', if_neg hx, ih]
      cases joinLeft a T <;> rfl

theorem mergeNew_mid_left {T a : HTree} {s u : Str} (ha : a.value = .text s) (hT : T.value = .text u)
    (A B : List HTree) (hA : ∀ x ∈ A, x.handle ≠ T.handle) (hne : a.handle ≠ T.handle) :
    mergeNew T.handle (A ++ a :: T :: B) = A ++ a.setValue (.text (s ++ u)) :: B := by
  rw [mergeNew_mid B A hA hne, joinLeft_text ha hT]
  rfl

/-- The left neighbour is not text (or the node is not): only the right neighbour counts. -/
theorem mergeNew_mid_right {T a : HTree} (h : ¬ (a.value.isText = true ∧ T.value.isText = true))
    (A B : List HTree) (hA : ∀ x ∈ A, x.handle ≠ T.handle) (hne : a.handle ≠ T.handle) :
    mergeNew T.handle (A ++ a :: T :: B) = A ++ a :: mergeNewHead T B := by
  rw [mergeNew_mid B A hA hne, joinLeft_none h]
  rfl

theorem mergeNew_nontext {T : HTree} (hT : T.value.isText = false) (A B : List HTree)
    (hA : ∀ x ∈ A, x.handle ≠ T.handle) (hB : ∀ x ∈ B, x.handle ≠ T.handle) :
    mergeNew T.handle (A ++ T :: B) = A ++ T :: B := by
  have hh := mergeNewHead_nontext hT B
  rcases List.eq_nil_or_concat A with e | ⟨A', a, e⟩
  · subst e
    simp only [List.nil_append]
    rw [mergeNew_head B hB, hh]
  · rw [List.concat_eq_append] at e
    subst e
    have ha : a.handle ≠ T.handle := hA a (by simp)
    have : (A' ++ [a]) ++ T :: B = A' ++ a :: T :: B := by simp
    rw [this, mergeNew_mid_right (fun h => by rw [hT] at h; cases h.2) A' B (fun x hx => hA x (by simp [hx])) ha, hh]

/-- The moved node, not a text node's left neighbour: only the right neighbour counts. -/
theorem mergeNew_noleft {T : HTree} (A B : List HTree) (hA : ∀ x ∈ A, x.handle ≠ T.handle)
    (hB : ∀ x ∈ B, x.handle ≠ T.handle)
    (hl : ∀ ka, A.getLast? = some ka → ¬ ka.value.isText = true) :
    mergeNew T.handle (A ++ T :: B) = A ++ mergeNewHead T B := by
  rcases List.eq_nil_or_concat A with e | ⟨A', a, e⟩
  · subst e
    simp only [List.nil_append]
    exact mergeNew_head B hB
  · rw [List.concat_eq_append] at e
    subst e
    have ha : a.handle ≠ T.handle := hA a (by simp)
    have e1 : (A' ++ [a]) ++ T :: B = A' ++ a :: T :: B := by simp
    have e2 : (A' ++ [a]) ++ mergeNewHead T B = A' ++ a :: mergeNewHead T B := by simp
    rw [e1, e2]
    exact mergeNew_mid_right (fun h => hl a (by simp) h.1) A' B (fun x hx => hA x (by simp [hx])) ha

/-! ### Kinds of values, text data -/

theorem isDocument_false_of_isText {v : Value} (h : v.isText = true) : v.isDocument = false := by
  obtain ⟨s, rfl⟩ := exists_text_of_isText h; rfl

/-! ### The pair merges commute with maps over the children -/

theorem joinLeft_map {φ : HTree → HTree} (hφ : KidMap φ) (x y : HTree) :
    joinLeft (φ x) (φ y) = (joinLeft x y).map φ := by
  unfold joinLeft
  rw [hφ.value, hφ.value]
  split
  · simp [hφ.setValue]
  · rfl

theorem joinRight_map {φ : HTree → HTree} (hφ : KidMap φ) (x y : HTree) :
    joinRight (φ x) (φ y) = (joinRight x y).map φ := by
  unfold joinRight
  rw [hφ.value, hφ.value]
  split
  · simp [hφ.setValue]
  · rfl

theorem natFor_mergeAdj {φ : HTree → HTree} (hφ : KidMap φ) (a b : Nat) : NatFor φ (mergeAdj a b)
  | [] => by simp [mergeAdj_nil]
  | [x] => by simp [mergeAdj_single]
  | x :: y :: rest => by
    have ih := natFor_mergeAdj hφ a b (y :: rest)
    simp only [List.map_cons] at ih ⊢
    rw [mergeAdj_cons_cons, mergeAdj_cons_cons, hφ.handle, hφ.handle, joinLeft_map hφ, ih]
    split
    · cases joinLeft x y <;> simp
    · simp

theorem mergeNewHead_map {φ : HTree → HTree} (hφ : KidMap φ) (t : HTree) (L : List HTree) :
    mergeNewHead (φ t) (L.map φ) = (mergeNewHead t L).map φ := by
  cases L with
  | nil => rfl
  | cons z rest =>
    simp only [List.map_cons, mergeNewHead]
    rw [joinRight_map hφ]
    cases joinRight t z <;> simp

theorem mergeNew_map {φ : HTree → HTree} (hφ : KidMap φ) (n : Nat) :
    ∀ L : List HTree, mergeNew n (L.map φ) = (mergeNew n L).map φ
  | [] => by simp [mergeNew_nil]
  | [x] => by simp [mergeNew_single]
  | x :: y :: rest => by
    have ih := mergeNew_map hφ n (y :: rest)
    have hh := mergeNewHead_map hφ y rest
    have hh2 := mergeNewHead_map hφ x (y :: rest)
    simp only [List.map_cons] at ih hh2 ⊢
    rw [mergeNew_cons_cons, mergeNew_cons_cons, hφ.handle, hφ.handle, joinLeft_map hφ, ih, hh, hh2]
    split
    · cases joinLeft x y <;> simp
    · split <;> simp

theorem mergeAdj_noop {a b : Nat} : ∀ (L : List HTree),
    (∀ x ∈ L, ∀ y ∈ L, x.handle = a → y.handle = b → ¬ (x.value.isText = true ∧ y.value.isText = true)) →
    mergeAdj a b L = L
  | [], _ => mergeAdj_nil a b
  | [x], _ => mergeAdj_single a b x
  | x :: y :: rest, h => by
    rw [mergeAdj_cons_cons]
    split
    · rename_i hh
      rw [joinLeft_none (h x (by simp) y (by simp) hh.1 hh.2)]
      rfl
    · rw [mergeAdj_noop (y :: rest) (fun x' hx' y' hy' =>
        h x' (List.mem_cons_of_mem _ hx') y' (List.mem_cons_of_mem _ hy'))]

end Spec

namespace Forest

theorem mergeLeftAt_none (f : Forest) (nb : Option Nat × Option Nat) : f.mergeLeftAt none nb = f := rfl

theorem mergeLeftAt_some (f : Forest) (p a b : Nat) :
    f.mergeLeftAt (some p) (some a, some b) =
      if f.consolidation then f.editAt (some p) (mergeAdj a b) else f := rfl

theorem mergeLeftAt_none_left (f : Forest) (s : Option Nat) (b : Option Nat) : f.mergeLeftAt s (none, b) = f := by
  cases s <;> rfl

theorem mergeLeftAt_none_right (f : Forest) (s : Option Nat) (a : Option Nat) : f.mergeLeftAt s (a, none) = f := by
  cases s <;> cases a <;> rfl

theorem mergeLeftAt_off {f : Forest} (h : f.consolidation = false) (s : Option Nat) (nb : Option Nat × Option Nat) :
    f.mergeLeftAt s nb = f := by
  obtain ⟨a, b⟩ := nb
  cases s <;> cases a <;> cases b <;> simp [mergeLeftAt, h]

theorem mergeNewAt_off {f : Forest} (h : f.consolidation = false) (q n : Nat) : f.mergeNewAt q n = f := by
  simp [mergeNewAt, h]

theorem mergeNewAt_on {f : Forest} (h : f.consolidation = true) (q n : Nat) :
    f.mergeNewAt q n = f.editAt (some q) (mergeNew n) := by
  simp [mergeNewAt, h]

theorem mergeLeftAt_consolidation (f : Forest) (s : Option Nat) (nb : Option Nat × Option Nat) :
    (f.mergeLeftAt s nb).consolidation = f.consolidation := by
  obtain ⟨a, b⟩ := nb
  cases s <;> cases a <;> cases b <;> simp only [mergeLeftAt] <;> try rfl
  split <;> simp [Forest.editAt_consolidation]

theorem nbOf_root {f : Forest} {n : Nat} (h : f.parent? n = none) : f.nbOf n = (none, none) := by
  unfold Forest.nbOf; rw [h]

theorem nbOf_kid {f : Forest} {n p : Nat} (h : f.parent? n = some p) :
    f.nbOf n = neighbours n (f.kidsOf p) := by
  unfold Forest.nbOf; rw [h]

end Forest

namespace PairAppend

theorem editAt_leaf {s : Nat} {g : List HTree → List HTree} {k : HTree} (hk : k.kids = [])
    (hne : k.handle ≠ s) : HTree.editAt s g k = k := by
  cases k with
  | node h v ks =>
    simp only [HTree.kids] at hk
    simp only [HTree.handle] at hne
    subst hk
    rw [editAt_node, if_neg hne]
    rfl

end PairAppend

theorem ReplGapNF.editAt_kids_leaf {s : Nat} {g : List HTree → List HTree} {k : HTree} (hleaf : k.kids = [])
    (hs : k.handle ≠ s) : (HTree.editAt s g k).kids = [] := by
  rw [PairAppend.editAt_leaf hleaf hs]
  exact hleaf

/-! ### The child list after the two text children around `t` have become one -/

theorem handlesList_merged_sublist (l' : List HTree) (a t b : HTree) (r' : List HTree) (v : Value) :
    (handlesList ((l' ++ [a.setValue v]) ++ t :: r')).Sublist (handlesList ((l' ++ [a]) ++ t :: b :: r')) := by
  simp only [handlesList_append, handlesList_cons, setValue_handles, handlesList_nil, List.append_nil,
    List.append_assoc]
  refine (List.Sublist.refl _).append ((List.Sublist.refl _).append ((List.Sublist.refl _).append ?_))
  exact List.sublist_append_right _ _

theorem findList?_merged {z : Nat} (l' : List HTree) {a : HTree} (t : HTree) {b : HTree} (r' : List HTree)
    (v : Value) (hza : a.handle ≠ z) (hzb : b.handle ≠ z) (hbleaf : b.kids = []) :
    findList? z ((l' ++ [a.setValue v]) ++ t :: r') = findList? z ((l' ++ [a]) ++ t :: b :: r') := by
  simp only [Fmap.findList?_append, findList?_cons, findList?_nil, find?_setValue _ hza, find?_leaf hbleaf hzb,
    Option.none_or]

theorem mem_merged {l' r' : List HTree} {a b k : HTree} (v : Value) (h : k ∈ (l' ++ [a]) ++ b :: r')
    (ha : k.handle ≠ a.handle) (hb : k.handle ≠ b.handle) : k ∈ (l' ++ [a.setValue v]) ++ r' := by
  rcases List.mem_append.1 h with h | h
  · rcases List.mem_append.1 h with h | h
    · simp [h]
    · exact absurd (by rw [List.mem_singleton.1 h]) ha
  · rcases List.mem_cons.1 h with h | h
    · exact absurd (by rw [h]) hb
    · simp [h]

/-! ### The children of a site -/

namespace SiteAt

theorem of_ctx_get {f : Forest} (nd : f.allHandles.Nodup) {n : Nat} {cx : Ctx} {t : HTree}
    (hctx : f.ctx? n = some cx) (hg : f.get? n = some t) :
    cx.self = t ∧ ∃ v, SiteAt f cx.parent v (cx.left ++ t :: cx.right) := by
  obtain ⟨_, v, _, _, _, rfl, rfl, _, so⟩ := of_get_ctx nd hg hctx
  exact ⟨rfl, v, so⟩

theorem parent_kind {f : Forest} {p : Nat} {v : Value} {l : List HTree} {k : HTree} {r : List HTree} {b : Bool}
    (s : SiteAt f p v (l ++ k :: r)) (hv : validList b f.roots = true) :
    v.isElement = true ∨ v.isDocument = true :=
  Fatom.kidAllowed_container ((validTree_node (s.valid hv)).1 k (by simp))

/-- Where the node `c` to be moved stands relative to the destination parent `p`: it is a
    parentless tree, a child of `p` itself, or a child of another node. -/
theorem mover {f : Forest} {p : Nat} {vp : Value} {Lp : List HTree} {c : Nat} {t : HTree}
    (sp : SiteAt f p vp Lp) (hgc : f.get? c = some t) :
    f.ctx? c = none ∨ (∃ l r, f.ctx? c = some ⟨p, l, t, r⟩ ∧ Lp = l ++ t :: r) ∨
      ∃ po vo l r, po ≠ p ∧ f.ctx? c = some ⟨po, l, t, r⟩ ∧ SiteAt f po vo (l ++ t :: r) := by
  cases hctx : f.ctx? c with
  | none => exact Or.inl rfl
  | some cx =>
    obtain ⟨hself, vo, so⟩ := SiteAt.of_ctx_get sp.nd hctx hgc
    obtain ⟨po, l, k, r⟩ := cx
    simp only at so hself
    subst hself
    by_cases hpo : po = p
    · subst hpo
      have := so.kids
      rw [sp.kids] at this
      injection Option.some.inj this with _ _ e3
      exact Or.inr (Or.inl ⟨l, r, rfl, e3⟩)
    · exact Or.inr (Or.inr ⟨po, vo, l, r, hpo, rfl, so⟩)

theorem nbOf {f : Forest} {p : Nat} {v : Value} {l : List HTree} {k : HTree} {r : List HTree}
    (s : SiteAt f p v (l ++ k :: r)) :
    f.nbOf k.handle = (l.getLast?.map (·.handle), r.head?.map (·.handle)) := by
  rw [Forest.nbOf_kid (Forest.parent?_of_ctx? s.ctx), Forest.kidsOf_of_get s.kids]
  obtain ⟨ndL, _⟩ := s.nodupKids
  exact neighbours_mid rfl r l (tops_ne_of_nodup ndL).1

end SiteAt

namespace PairAll

theorem root_or_site {f : Forest} (nd : f.allHandles.Nodup) {n : Nat} {t : HTree} (hg : f.get? n = some t) :
    f.isRoot n = true ∨ ∃ p v l r, f.ctx? n = some ⟨p, l, t, r⟩ ∧ SiteAt f p v (l ++ t :: r) := by
  rcases Forest.root_or_ctx hg with hroot | ⟨⟨p, l, k, r⟩, hctx⟩
  · exact Or.inl hroot
  · obtain ⟨hself, v, so⟩ := SiteAt.of_ctx_get nd hctx hg
    cases hself
    exact Or.inr ⟨p, v, l, r, hctx, so⟩

end PairAll

namespace PairAfter

theorem site_split {f : Forest} {p : Nat} {v : Value} {L : List HTree} {k : HTree} (s : SiteAt f p v L)
    (hk : k ∈ L) : ∃ P Q, L = P ++ k :: Q ∧ SiteAt f p v (P ++ k :: Q) := by
  obtain ⟨P, Q, e⟩ := List.append_of_mem hk
  exact ⟨P, Q, e, e ▸ s⟩

theorem site_getKid {f : Forest} {p : Nat} {v : Value} {L : List HTree} {k : HTree} (s : SiteAt f p v L)
    (hk : k ∈ L) : f.get? k.handle = some k := by
  obtain ⟨P, Q, _, s'⟩ := site_split s hk
  exact s'.getKid

theorem site_parent {f : Forest} {p : Nat} {v : Value} {L : List HTree} {k : HTree} (s : SiteAt f p v L)
    (hk : k ∈ L) : f.parent? k.handle = some p := by
  obtain ⟨P, Q, _, s'⟩ := site_split s hk
  exact Forest.parent?_of_ctx? s'.ctx

theorem eq_of_handle {L : List HTree} (nd : (handlesList L).Nodup) {x y : HTree} (hx : x ∈ L) (hy : y ∈ L)
    (e : x.handle = y.handle) : x = y := by
  obtain ⟨P, Q, hL⟩ := List.append_of_mem hx
  subst hL
  exact (fs_eq_of_mem_of_handle nd hy e.symm).symm

theorem text_ne_site {f : Forest} {q : Nat} {vq : Value} {Lq : List HTree} {k : HTree}
    (sq : SiteAt f q vq Lq) (hvq : vq.isText = false) (hg : f.get? k.handle = some k)
    (hk : k.value.isText = true) : k.handle ≠ q := by
  intro e
  rw [e, sq.kids] at hg
  have := Option.some.inj hg
  rw [← this] at hk
  simp only [HTree.value] at hk
  rw [hvq] at hk; cases hk

theorem leaf_ne_site {f : Forest} {po : Nat} {vo : Value} {l : List HTree} {t : HTree} {r : List HTree}
    {k : HTree} (so : SiteAt f po vo (l ++ t :: r)) (hg : f.get? k.handle = some k) (hleaf : k.kids = []) :
    k.handle ≠ po := by
  intro e
  rw [e, so.kids] at hg
  have := Option.some.inj hg
  rw [← this] at hleaf
  simp only [HTree.kids] at hleaf
  cases l <;> cases hleaf

end PairAfter

/-! ### The consolidation at the new place -/

/-- What `add_consolidate_text_nodes` does for the node `t` that is to stand between the children
    `A` and `B` of its new parent (`X` is the state it runs in, `prev` / `next` the neighbours it is
    given): either nothing, and then the pair merge of the specification changes nothing either;
    or the text of `t` goes into a text child `k` next to it, which is what the pair merge does. -/
theorem addConsolidate_pair {X : Forest} {t : HTree} {A B : List HTree} {prev next : Option Nat}
    (nd : (handlesList (A ++ B)).Nodup)
    (hA : ∀ x ∈ A, x.handle ≠ t.handle) (hB : ∀ x ∈ B, x.handle ≠ t.handle)
    (hXt : X.textOf t.handle = textData t)
    (htextA : ∀ ka, A.getLast? = some ka → X.textOf ka.handle = textData ka)
    (htextB : ∀ kb, B.head? = some kb → X.textOf kb.handle = textData kb)
    (hprev : ∀ ka, A.getLast? = some ka → ka.value.isText = true → prev = some ka.handle)
    (hprev' : ∀ a, prev = some a → ∃ ka, A.getLast? = some ka ∧ ka.handle = a)
    (hnext : (∀ ka, A.getLast? = some ka → ¬ ka.value.isText = true) →
      (∀ kb, B.head? = some kb → kb.value.isText = true → next = some kb.handle) ∧
      (∀ b, next = some b → ∃ kb, B.head? = some kb ∧ kb.handle = b)) :
    (X.addConsolidate t.handle prev next = (X, false) ∧
      (X.consolidation = true → mergeNew t.handle (A ++ t :: B) = A ++ t :: B)) ∨
    (X.consolidation = true ∧ t.value.isText = true ∧ ∃ k v, k ∈ A ++ B ∧ k.value.isText = true ∧
      X.addConsolidate t.handle prev next = ((X.setValue k.handle v).spliceOut t.handle, true) ∧
      replaceTop k.handle (fun k' => [k'.setValue v]) (A ++ B) = mergeNew t.handle (A ++ t :: B)) := by
  rcases Bool.eq_false_or_eq_true X.consolidation with hc | hc
  case inr => exact Or.inl ⟨Forest.addConsolidate_off hc _ _ _, fun h => by rw [hc] at h; cases h⟩
  cases htd : textData t with
  | none =>
    have hnt : t.value.isText = false := by
      cases h : t.value.isText with
      | false => rfl
      | true => exact absurd h (not_text_of_textData_none htd)
    exact Or.inl ⟨Forest.addConsolidate_not_text (hXt.trans htd) _ _, fun _ => mergeNew_nontext hnt A B hA hB⟩
  | some tc =>
    have htt : t.value.isText = true := isText_iff_textData.2 ⟨tc, htd⟩
    have hvt := textData_some htd
    by_cases hleft : ∃ ka, A.getLast? = some ka ∧ ka.value.isText = true
    · -- merged into the text node before it
      obtain ⟨ka, hka, hkat⟩ := hleft
      obtain ⟨A2, rfl⟩ := List.getLast?_eq_some_iff.1 hka
      obtain ⟨ta, hta⟩ := isText_iff_textData.1 hkat
      have hkamem : ka ∈ (A2 ++ [ka]) ++ B := by simp
      refine Or.inr ⟨hc, htt, ka, .text (ta ++ tc), hkamem, hkat, ?_, ?_⟩
      · rw [hprev ka hka hkat]
        exact Forest.addConsolidate_prev hc (hXt.trans htd) ((htextA ka hka).trans hta) _ (hA ka (by simp))
      · have e1 : (A2 ++ [ka]) ++ B = A2 ++ ka :: B := by simp
        have e2 : (A2 ++ [ka]) ++ t :: B = A2 ++ ka :: t :: B := by simp
        rw [e1, e2, replaceTop_mid rfl (tops_ne_of_nodup (e1 ▸ nd)).1,
          mergeNew_mid_left (textData_some hta) hvt A2 B (fun x hx => hA x (by simp [hx])) (hA ka (by simp))]
        simp
    · have hnl : ∀ ka, A.getLast? = some ka → ¬ ka.value.isText = true := fun ka h1 h2 => hleft ⟨ka, h1, h2⟩
      obtain ⟨hnext1, hnext2⟩ := hnext hnl
      have hprevNone : ∀ a, prev = some a → X.textOf a = none := by
        intro a h
        obtain ⟨ka, hka, e⟩ := hprev' a h
        rw [← e, htextA ka hka]
        exact textData_none_of_not_text (hnl ka hka)
      have hnoleft := mergeNew_noleft A B hA hB hnl
      cases B with
      | nil =>
        refine Or.inl ⟨Forest.addConsolidate_none hprevNone (fun b h => ?_), fun _ => ?_⟩
        · obtain ⟨kb, hkb, _⟩ := hnext2 b h; cases hkb
        · rw [hnoleft, mergeNewHead_nil]
      | cons kb B2 =>
        have hkbmem : kb ∈ A ++ kb :: B2 := by simp
        cases htb : textData kb with
        | none =>
          refine Or.inl ⟨Forest.addConsolidate_none hprevNone (fun b h => ?_), fun _ => ?_⟩
          · obtain ⟨kb', hkb', e⟩ := hnext2 b h
            cases hkb'
            rw [← e]; exact (htextB kb rfl).trans htb
          · rw [hnoleft, mergeNewHead_other (fun h => not_text_of_textData_none htb h.2)]
        | some tb =>
          -- merged into the text node behind it
          have hkbt : kb.value.isText = true := isText_iff_textData.2 ⟨tb, htb⟩
          refine Or.inr ⟨hc, htt, kb, .text (tc ++ tb), hkbmem, hkbt, ?_, ?_⟩
          · rw [hnext1 kb rfl hkbt]
            exact Forest.addConsolidate_next hc (hXt.trans htd) hprevNone ((htextB kb rfl).trans htb)
              (hB kb (by simp))
          · rw [hnoleft, replaceTop_mid rfl (tops_ne_of_nodup nd).1, mergeNewHead_text hvt (textData_some htb)]
            simp

theorem specMoveP_occupied {dest : Dest} {c : Nat} {f : Forest} (hocc : dest.occupiedBy f c = true) :
    specMoveP dest c f = f := by
  unfold specMoveP
  rw [hocc]
  rfl

theorem specMoveP_unfold {dest : Dest} {c : Nat} {f : Forest} {t : HTree} {q : Nat}
    (hocc : dest.occupiedBy f c = false) (hg : f.get? c = some t) (hs : dest.site f = some q) :
    specMoveP dest c f =
      (((f.editAt (f.parent? c) (dropTop c)).editAt (some q) (dest.insert t)).mergeLeftAt (f.parent? c)
        (f.nbOf c)).mergeNewAt q c := by
  unfold specMoveP
  rw [hocc, hg, hs]
  simp

/-! ### A successful move has passed its argument checks -/

theorem check_of_ok {b : Bool} {f : Forest} {e : XotError} {y : Forest × Res}
    (h : (if !b then (f, Res.err e) else y).2 = .ok) : b = true := by
  cases b with
  | true => rfl
  | false => cases h

end XotModel
