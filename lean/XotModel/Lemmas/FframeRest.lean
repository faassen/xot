/-
  The general frame on the larger domain `XCall.framed2`: map clear, append of an entry node, `any_append`,
  `remove_insignificant_whitespace` (`writtenParents2`), `frame_general2` / `frame_general2_parent`, and the nodes
  inside the moved subtree for `detach` and `element_wrap` (`detach_get_moved`, `wrap_get_moved`).
-/
import XotModel.Lemmas.FframeGeneral
import XotModel.Lemmas.FmapSteps
import XotModel.Lemmas.FmapHistFrame
import XotModel.Lemmas.FmapHistStep
import XotModel.Lemmas.FanyorderEntry
import XotModel.Lemmas.FwsMain
import XotModel.Model.FframeSpec2

/-! ## `MutableNodeMap::clear()` (`Forest.mapClear`) -/

namespace XotModel
namespace Fmap
open HTree
open Forest (MapKind entryKey mapChildren)

/-- `clear()` on an element: the entries of the kind are dropped from its child list. -/
theorem mapClear_roots {f : Forest} {e nm : Nat} {N A S : List HTree} (h : MInv f e nm N A S) (k : MapKind) :
    (f.mapClear k e).1 = { f with roots := withKids f.roots e (preK k N ++ postK k A S) } := by
  unfold Forest.mapClear
  rw [h.isElement]
  simp only [Bool.not_true, Bool.false_eq_true, if_false]
  rw [h.loc.get]
  simp only
  rw [mapChildren_eq]
  simp only [HTree.kids]
  rw [h.sect.kidsOf]
  have hl : Located f e (.element nm) (preK k N ++ Sect.sec k N A ++ postK k A S) := by
    rw [← split_kids]; exact h.loc
  obtain ⟨h1, _⟩ := clear_fold e _ (preK k N) (postK k A S) (Sect.sec k N A) f hl
    (fun c hc => by rw [h.sect.sec_cat k c hc]; exact kindCat_ne_normal k)
  rw [h1]

end Fmap

open HTree Spec PairAll
open Forest (MapKind)

theorem getFrame_mapClear {f : Forest} (inv : f.Inv) {k : MapKind} {e : Nat}
    (he : f.isElement e = true) {z : Nat} (hne : z ≠ e)
    (hz : z ∉ f.entryHandles k e) : GetFrame f (f.mapClear k e).1 z := by
  obtain ⟨nm, N, A, S, h⟩ := Fmap.minv_of_inv f e inv he
  rw [Fmap.mapClear_roots h k]
  have hget : f.get? e = some (.node e (.element nm) (Fmap.preK k N ++ Fmap.Sect.sec k N A ++ Fmap.postK k A S)) := by
    rw [← Fmap.split_kids]; exact h.loc.get
  have hx : z ∉ (Fmap.Sect.sec k N A).map (·.handle) := by
    intro hm
    obtain ⟨c, hc, e'⟩ := List.mem_map.1 hm
    apply hz
    unfold Forest.entryHandles
    rw [hget]
    refine List.mem_map.2 ⟨c, List.mem_filter.2 ⟨?_, ?_⟩, e'⟩
    · exact List.mem_append_left _ (List.mem_append_right _ hc)
    · exact (Fmap.matches_iff_cat k c.value).2 (h.sect.sec_cat k c hc)
  have hH : (findList? z (Fmap.preK k N ++ Fmap.postK k A S)).map Fmap.shallow =
      (findList? z (Fmap.preK k N ++ Fmap.Sect.sec k N A ++ Fmap.postK k A S)).map Fmap.shallow := by
    rw [Fmap.findList?_skip_leaves z _ _ _ (h.leaf k) hx]
  have hsh := Fmap.shallow_findList?_withKids e z (.element nm) _ _ hne hH f.roots h.loc.nodup hget
  intro t ht
  have ht' : findList? z f.roots = some t := ht
  rw [ht'] at hsh
  show ∃ t', findList? z (Fmap.withKids f.roots e _) = some t' ∧ _
  unfold Fmap.withKids
  cases hg' : findList? z (mapAtList e (Fmap.atKids fun _ => Fmap.preK k N ++ Fmap.postK k A S) f.roots) with
  | none => rw [hg'] at hsh; cases hsh
  | some t' =>
    rw [hg'] at hsh
    simp only [Option.map_some, Option.some.injEq, Fmap.shallow, Prod.mk.injEq] at hsh
    refine ⟨t', rfl, hsh.1, ?_⟩
    have := congrArg (List.map Prod.fst) hsh.2
    simpa [List.map_map, Fmap.hv, Function.comp_def] using this

end XotModel

/-! ## `append_attribute_node` / `append_namespace_node` (`Forest.appendEntryNode`) and `any_append` -/

namespace XotModel
open HTree Spec PairAll
open Forest (MapKind)

theorem sec_handle_mem_entryHandles {f : Forest} {e nm : Nat} {N A S : List HTree} (h : Fmap.MInv f e nm N A S)
    (k : MapKind) {c : HTree} (hc : c ∈ Fmap.Sect.sec k N A) : c.handle ∈ f.entryHandles k e := by
  have hget : f.get? e = some (.node e (.element nm) (Fmap.preK k N ++ Fmap.Sect.sec k N A ++ Fmap.postK k A S)) := by
    rw [← Fmap.split_kids]; exact h.loc.get
  unfold Forest.entryHandles
  rw [hget]
  refine List.mem_map.2 ⟨c, List.mem_filter.2 ⟨?_, ?_⟩, rfl⟩
  · exact List.mem_append_left _ (List.mem_append_right _ hc)
  · exact (Fmap.matches_iff_cat k c.value).2 (h.sect.sec_cat k c hc)

theorem appendEntryNode_present {f : Forest} {k : MapKind} {p c : Nat} {v : Value} {n : HTree}
    (he : f.isElement p = true) (hval : f.value? c = some v) (hm : k.matches v = true)
    (hn : f.mapGetNode k p (Forest.entryKey v) = some n) :
    (f.appendEntryNode k p c).1 = f.setValue n.handle (Forest.entryUpdate n.value v) := by
  rw [Forest.appendEntryNode_eq he hval hm, hn]

theorem getFrame_appendEntryNode_root {f : Forest} (inv : f.Inv) {k : MapKind} {p c : Nat} {v : Value}
    (he : f.isElement p = true) (hm : k.matches v = true) (hroot : HTree.node c v [] ∈ f.roots)
    (habs : f.mapGetNode k p (Forest.entryKey v) = none) {z : Nat} (hzp : z ≠ p) (hzc : z ≠ c) :
    GetFrame f (f.appendEntryNode k p c).1 z := by
  obtain ⟨nm, N, A, S, h⟩ := Fmap.minv_of_inv f p inv he
  have hne := Fmap.leafRoot_ne_elem h k c v hm hroot
  obtain ⟨heq, _⟩ := Fmap.appendEntryNode_absent h k c v hm hroot habs
  rw [heq]
  have hl0 : Fmap.Located { f with roots := Fmap.rootsWithout f c } p (.element nm)
      (Fmap.preK k N ++ Fmap.Sect.sec k N A ++ Fmap.postK k A S) := by
    rw [← Fmap.split_kids]; exact Fmap.located_without h.loc c v hroot hne
  apply NodeFrame.getFrame
  apply NodeFrame.of_shallow
  have hH : (findList? z (Fmap.preK k N ++ (Fmap.Sect.sec k N A ++ [HTree.node c v []]) ++ Fmap.postK k A S)).map
        Fmap.shallow =
      (findList? z (Fmap.preK k N ++ Fmap.Sect.sec k N A ++ Fmap.postK k A S)).map Fmap.shallow := by
    have : Fmap.preK k N ++ (Fmap.Sect.sec k N A ++ [HTree.node c v []]) ++ Fmap.postK k A S =
        (Fmap.preK k N ++ Fmap.Sect.sec k N A) ++ [HTree.node c v []] ++ Fmap.postK k A S := by simp
    rw [this, Fmap.findList?_skip_leaves z _ [HTree.node c v []] _ (by
      intro x hx; rw [List.mem_singleton.1 hx]; rfl) (by
      intro hx
      simp only [List.map_cons, List.map_nil, List.mem_singleton] at hx
      exact hzc hx)]
  have hsh := Fmap.shallow_findList?_withKids p z (.element nm) _ _ hzp hH (Fmap.rootsWithout f c) hl0.nodup hl0.get
  show (findList? z (Fmap.withKids (Fmap.rootsWithout f c) p _)).map Fmap.shallow = (findList? z f.roots).map _
  unfold Fmap.withKids
  rw [hsh]
  -- dropping the parentless leaf `c`
  congr 1
  unfold Fmap.rootsWithout
  exact Fmap.find?_leafRoot_filter f.roots h.loc.nodup c z v hroot hzc

theorem entryHandles_of_shallow {f f' : Forest} {p : Nat} (k : MapKind)
    (h : (f'.get? p).map Fmap.shallow = (f.get? p).map Fmap.shallow) :
    f'.entryHandles k p = f.entryHandles k p := by
  unfold Forest.entryHandles
  cases hg : f.get? p with
  | none =>
    rw [hg] at h
    cases hg' : f'.get? p with
    | none => rfl
    | some t' => rw [hg'] at h; cases h
  | some t =>
    rw [hg] at h
    cases hg' : f'.get? p with
    | none => rw [hg'] at h; cases h
    | some t' =>
      rw [hg'] at h
      simp only [Option.map_some, Option.some.injEq, Fmap.shallow, Prod.mk.injEq] at h
      have key : ∀ L : List HTree, (L.filter (fun c => k.matches c.value)).map (·.handle) =
          ((L.map Fmap.hv).filter (fun q => k.matches q.2)).map (·.1) := by
        intro L
        induction L with
        | nil => rfl
        | cons a L ih =>
          simp only [List.filter_cons, List.map_cons, Fmap.hv]
          split <;> simp [ih, Fmap.hv]
      show (t'.kids.filter _).map _ = (t.kids.filter _).map _
      rw [key, key, h.2]

theorem isElement_of_shallow {f f' : Forest} {p : Nat}
    (h : (f'.get? p).map Fmap.shallow = (f.get? p).map Fmap.shallow) : f'.isElement p = f.isElement p := by
  unfold Forest.isElement Forest.value?
  cases hg : f.get? p with
  | none =>
    rw [hg] at h
    cases hg' : f'.get? p with
    | none => rfl
    | some t' => rw [hg'] at h; cases h
  | some t =>
    rw [hg] at h
    cases hg' : f'.get? p with
    | none => rw [hg'] at h; cases h
    | some t' =>
      rw [hg'] at h
      simp only [Option.map_some, Option.some.injEq, Fmap.shallow, Prod.mk.injEq] at h
      simp only [Option.map_some, h.1]

/-- What an accepted `append_*_node` has checked. -/
theorem appendEntryNode_ok_unpack {f : Forest} {k : MapKind} {p c : Nat}
    (hok : (f.appendEntryNode k p c).2.1 = .ok) :
    f.isElement p = true ∧ ∃ v, f.value? c = some v ∧ k.matches v = true := by
  unfold Forest.appendEntryNode at hok
  cases he : f.isElement p with
  | false => rw [he] at hok; simp at hok
  | true =>
    rw [he] at hok
    simp only [Bool.not_true, Bool.false_eq_true, if_false] at hok
    cases hv : f.value? c with
    | none => rw [hv] at hok; simp at hok
    | some v =>
      rw [hv] at hok
      simp only at hok
      cases hm : k.matches v with
      | false => rw [hm] at hok; simp at hok
      | true => exact ⟨rfl, v, rfl, hm⟩

/-- **The frame of `append_attribute_node` / `append_namespace_node`.** -/
theorem getFrame_appendEntryNode {f : Forest} (inv : f.Inv) {k : MapKind} {p c : Nat} {t : HTree}
    (hok : (f.appendEntryNode k p c).2.1 = .ok) (hgc : f.get? c = some t) {z : Nat}
    (hwo : z ∉ f.siteW (f.parent? c)) (hzp : z ≠ p) (h3 : z ∉ handles t)
    (hze : z ∉ f.entryHandles k p) : GetFrame f (f.appendEntryNode k p c).1 z := by
  have nd := inv.nodup
  obtain ⟨he, v, hval, hm⟩ := appendEntryNode_ok_unpack hok
  have htv : t.value = v := by
    unfold Forest.value? at hval
    rw [hgc] at hval
    exact Option.some.inj hval
  have htc : t.handle = c := (findList?_some f.roots t hgc).1
  have hzc : z ≠ c := fun e => h3 (by rw [e, ← htc]; exact handle_mem_handles t)
  obtain ⟨nm, N, A, S, h⟩ := Fmap.minv_of_inv f p inv he
  cases hn : f.mapGetNode k p (Forest.entryKey v) with
  | some n =>
    rw [appendEntryNode_present he hval hm hn, setValue_eq_spec]
    apply getFrame_specSetValue nd
    intro e
    apply hze
    rw [e]
    exact sec_handle_mem_entryHandles h k (Fmap.getNode_mem_sec h k _ n hn)
  | none =>
    have hcat : t.value.category = Fmap.kindCat k := by rw [htv]; exact (Fmap.matches_iff_cat k v).1 hm
    rcases Forest.root_or_ctx hgc with hroot | ⟨cx, hctx⟩
    · have hleaf := Fmap.leafRoot_of_inv f inv k c v hroot hval hm
      exact getFrame_appendEntryNode_root inv he hm hleaf hn hzp hzc
    · obtain ⟨e0, v2, so⟩ := SiteAt.of_ctx nd hctx
      have hself : cx.self = t := by
        have := Forest.get?_of_ctx nd hctx
        rw [hgc] at this
        exact (Option.some.inj this).symm
      obtain ⟨e2, l, k0, r⟩ := cx
      simp only at e0 so hself
      subst hself
      have hpar : f.parent? c = some e2 := Forest.parent?_of_ctx? hctx
      have hloc2 : Fmap.Located f e2 v2 (l ++ k0 :: r) := ⟨nd, so.kids⟩
      -- the entry node is a leaf
      have hvalid := (validTree_node (so.valid inv.valid)).2.2.2
      have hvc := validList_all _ _ hvalid k0 (by simp)
      have hleaf : k0.kids = [] := kids_nil_of_not_normal hvc (by rw [hcat]; exact Fmap.kindCat_ne_normal k)
      have a : Fmap.Attached f e2 v2 l r k0 := ⟨hloc2, hleaf⟩
      have hne : p ≠ e2 := by
        intro e
        subst e
        have hk : l ++ k0 :: r = N ++ A ++ S := by
          have := so.kids
          rw [h.loc.get] at this
          injection (Option.some.inj this) with _ _ e3
          exact e3.symm
        have hmem : k0 ∈ Fmap.Sect.sec k N A := mem_sec_of_cat h.sect k (by rw [← hk]; simp) hcat
        rw [h.getNode k] at hn
        have := List.find?_eq_none.1 hn k0 hmem
        rw [htv] at this
        simp at this
      have hmk : k.matches k0.value = true := by rw [htv]; exact hm
      have hn' : f.mapGetNode k p (Forest.entryKey k0.value) = none := by rw [htv]; exact hn
      have heq := Fmap.appendEntryNode_attached_eq h a hne k hmk hn'
      rw [htc] at heq
      rw [heq]
      -- the detachment
      have hdet := Fmap.detach_child hloc2 (by rw [hcat]; exact Fmap.kindCat_ne_normal k)
      have hfd : (f.detach c).1 = a.fd := by rw [← htc, hdet]; rfl
      have inv1 : a.fd.Inv := by rw [← hfd]; exact Forest.detach_inv inv c
      have hze2 : z ≠ e2 := by
        rw [hpar] at hwo
        exact ne_of_not_mem_siteW hwo
      have g1 : GetFrame f a.fd z := (NodeFrame.of_shallow (a.shallow_eq z hze2 (by rw [htc]; exact fun e => hzc e.symm))).getFrame
      have hpc : k0.handle ≠ p := by
        rw [htc]
        intro e
        rw [e, h.loc.get] at hgc
        have := Option.some.inj hgc
        rw [← this] at hcat
        cases k <;> simp [HTree.value, Value.category, Fmap.kindCat] at hcat
      have hshp := a.shallow_eq p hne hpc
      have he1 : a.fd.isElement p = true := by rw [isElement_of_shallow hshp]; exact he
      have hze1 : z ∉ a.fd.entryHandles k p := by rw [entryHandles_of_shallow k hshp]; exact hze
      have hroot1 : HTree.node c v [] ∈ a.fd.roots := by
        have := a.root_mem
        rw [htc, htv] at this
        exact this
      have hval1 : a.fd.value? c = some v := by
        simp [Forest.value?, Fmap.leafRoot_get a.fd a.fd_nodup c v hroot1, HTree.value]
      cases hn1 : a.fd.mapGetNode k p (Forest.entryKey v) with
      | none => exact g1.trans (getFrame_appendEntryNode_root inv1 he1 hm hroot1 hn1 hzp hzc)
      | some n1 =>
        obtain ⟨nm1, N1, A1, S1, h1⟩ := Fmap.minv_of_inv a.fd p inv1 he1
        rw [appendEntryNode_present he1 hval1 hm hn1, setValue_eq_spec]
        apply g1.trans
        apply getFrame_specSetValue inv1.nodup
        intro e
        apply hze1
        rw [e]
        exact sec_handle_mem_entryHandles h1 k (Fmap.getNode_mem_sec h1 k _ n1 hn1)

end XotModel

/-! ## `remove_insignificant_whitespace(n)` -/

namespace XotModel
namespace Fws
open HTree

theorem pruneTextKids_handles (S : Nat → Bool) : ∀ ks : List HTree, (∀ k ∈ ks, S k.handle = false) →
    (pruneTextKids S ks).map (·.handle) = ks.map (·.handle)
  | [], _ => rfl
  | k :: ks, h => by
    have hk := h k List.mem_cons_self
    have ih := pruneTextKids_handles S ks (fun x hx => h x (List.mem_cons_of_mem _ hx))
    unfold pruneTextKids
    rw [hk, Bool.and_false]
    simp only [Bool.false_eq_true, if_false, List.map_cons, pruneText_handle, ih]

theorem fr_ctxKids_parent_mem (h p : Nat) : ∀ (ks left : List HTree) (c : Ctx),
    ctxKids h p left ks = some c → c.parent = p ∨ c.parent ∈ handlesList ks :=
  ctxKids_parent_mem h p

theorem fr_ctxKids_exists (h p : Nat) : ∀ (ks left : List HTree), h ∈ handlesList ks →
    ∃ c, ctxKids h p left ks = some c := by
  intro ks left hm
  cases hc : ctxKids h p left ks with
  | some c => exact ⟨c, rfl⟩
  | none =>
    have := ctxKids_parent h p left ks
    rw [hc] at this
    exact absurd hm (parentKids_none h p ks this.symm)

theorem fr_ctxBelow_exists (h : Nat) : ∀ (t : HTree), h ∈ handlesList t.kids → ∃ c, ctxBelow h t = some c
  | .node p v ks => fun hm => by
    unfold ctxBelow
    exact fr_ctxKids_exists h p ks [] hm

end Fws

open HTree Spec PairAll

/-- **The frame of `remove_insignificant_whitespace`.** -/
theorem getFrame_riw {f : Forest} (inv : f.Inv) {n : Nat} {t : HTree} (hg : f.get? n = some t) {z : Nat}
    (hz : z ∉ handles t) (hzp : some z ≠ f.parent? n) : GetFrame f (f.removeInsignificantWhitespace n) z := by
  have nd := inv.nodup
  have hv := inv.valid
  obtain ⟨anc, o⟩ := Fws.occurs_of_get? hg
  have hn : t.handle = n := Forest.get?_handle hg
  intro q hq
  obtain ⟨ancq, oq⟩ := Fws.occurs_of_get? hq
  have hh : q.handle = z := Forest.get?_handle hq
  have hnot : q.handle ∉ Fws.specTopRemoved anc t := by
    rw [hh]; intro hm; exact hz (Fws.specTopRemoved_subset anc t z hm)
  have e := Fws.strip_eq_pruned nd hv o
  have ndg : (f.removeInsignificantWhitespace t.handle).allHandles.Nodup := by
    rw [e]; exact Fws.pruned_nodup _ nd
  have o' := Fws.strip_occurs nd hv o oq hnot
  have g1 := o'.get? ndg
  rw [Fws.pruneText_handle, hh, hn] at g1
  refine ⟨_, g1, Fws.pruneText_value _ q, ?_⟩
  rw [Fws.pruneText_kids]
  apply Fws.pruneTextKids_handles
  intro k hk
  cases hS : (Fws.specTopRemoved anc t).contains k.handle with
  | false => rfl
  | true =>
    exfalso
    have hkt : k.handle ∈ handles t := Fws.specTopRemoved_subset anc t _ (List.contains_iff_mem.1 hS)
    have ok : Fws.Occurs f k (q :: ancq) := Fws.Occurs.kid oq hk
    obtain ⟨l, r, hs⟩ := List.append_of_mem hk
    have c1 := ok.ctx nd hs
    rw [handles_eq, List.mem_cons] at hkt
    rcases hkt with hkt | hkt
    · apply hzp
      rw [← hn, ← hkt, Forest.parent?_of_ctx? c1]
      show some z = some q.handle
      rw [hh]
    · obtain ⟨c, hc⟩ := Fws.fr_ctxBelow_exists k.handle t hkt
      have c2 := o.ctx_local nd _ _ hc
      rw [c1] at c2
      have hpm := ctxBelow_parent_mem k.handle t c hc
      rw [← Option.some.inj c2] at hpm
      apply hz
      rw [← hh]
      exact hpm

end XotModel

/-! ## `frame_general2` -/

namespace XotModel
open HTree Spec PairAll
open Forest (MapKind)

theorem isElement_of_mapClear_ok {f : Forest} {k : MapKind} {e : Nat}
    (hok : (f.mapClear k e).2 = .ok) : f.isElement e = true := by
  cases he : f.isElement e with
  | true => rfl
  | false => unfold Forest.mapClear at hok; simp [he] at hok

theorem framed2_of_framed {c : Forest.XCall} (h : c.framed = true) : c.framed2 = true := by
  cases c with
  | call k => cases k <;> first | rfl | exact h
  | _ => first | rfl | exact h

theorem getFrame_anyAppend {f : Forest} (inv : f.Inv) {p c : Nat} {t : HTree}
    (hok : (f.anyAppend p c).2.1 = .ok) (hgc : f.get? c = some t) {z : Nat}
    (hwo : z ∉ f.siteW (f.parent? c)) (hwp : z ∉ f.siteW (some p)) (h3 : z ∉ handles t)
    (hze : z ∉ Forest.XCall.extraWritten f (.call (.anyAppend p c))) :
    GetFrame f (f.anyAppend p c).1 z := by
  have hval : f.value? c = some t.value := by simp [Forest.value?, hgc]
  simp only [Forest.XCall.extraWritten, hval, Option.bind_some] at hze
  cases hv : t.value with
  | «attribute» a b =>
    have e := Fmap.anyAppend_entry f .attributes p c _ (by rw [hval, hv]) (by simp [Forest.MapKind.matches])
    rw [e] at hok ⊢
    rw [hv] at hze
    exact getFrame_appendEntryNode inv hok hgc hwo (ne_of_not_mem_siteW hwp) h3 hze
  | «namespace» a b =>
    have e := Fmap.anyAppend_entry f .namespaces p c _ (by rw [hval, hv]) (by simp [Forest.MapKind.matches])
    rw [e] at hok ⊢
    rw [hv] at hze
    exact getFrame_appendEntryNode inv hok hgc hwo (ne_of_not_mem_siteW hwp) h3 hze
  | _ =>
    have e := Prog.anyAppend_normal f p c t hgc (by rw [hv]; rfl)
    rw [e] at hok ⊢
    exact getFrame_append inv hok hgc hwo hwp h3

/-- **Value and child list, the larger domain.** -/
theorem frame_general2 {s : Store} {c : Forest.XCall} (inv : s.forest.Inv) (hw : c.wellKinded)
    (hf : c.framed2 = true) (hla : c.liveArgs s.forest) (hok : (c.run s).2 = .ok) {h : Nat}
    (hl : s.forest.isLive h = true)
    (hnw : h ∉ c.writtenParents2 s.forest) (hnr : h ∉ c.removedHandles s.forest)
    (hnm : h ∉ c.movedSubtree s.forest) :
    Forest.FrameAt s.forest (c.run s).1.forest h := by
  by_cases hf1 : c.framed = true
  · exact frame_general inv hw hf1 hla hok hl (fun hm => hnw (List.mem_append_left _ hm)) hnr hnm
  · unfold Forest.XCall.writtenParents2 at hnw
    rw [List.mem_append, not_or] at hnw
    obtain ⟨hnw, hne⟩ := hnw
    cases c with
    | call k =>
      cases k with
      | mapClear k e =>
        have he := isElement_of_mapClear_ok hok
        simp only [Forest.XCall.writtenParents, List.mem_cons, not_or] at hnw
        exact (getFrame_mapClear inv he hnw.1 hnw.2).frameAt hl
      | appendEntryNode k p c =>
        obtain ⟨t, hg⟩ := Forest.get?_of_isLive (hla c (by simp [Forest.XCall.args, Forest.Call.args]))
        simp only [Forest.XCall.writtenParents, List.mem_append, not_or] at hnw
        exact (getFrame_appendEntryNode inv hok hg hnw.1.1 (ne_of_not_mem_siteW hnw.1.2)
          (not_mem_handles_of_subtree hg hnm) hne).frameAt hl
      | anyAppend p c =>
        obtain ⟨t, hg⟩ := Forest.get?_of_isLive (hla c (by simp [Forest.XCall.args, Forest.Call.args]))
        simp only [Forest.XCall.writtenParents, List.mem_append, not_or] at hnw
        exact (getFrame_anyAppend inv hok hg hnw.1.1 hnw.1.2 (not_mem_handles_of_subtree hg hnm) hne).frameAt hl
      | _ => first | exact absurd rfl hf1 | cases hf
    | removeInsignificantWhitespace n =>
      obtain ⟨t, hg⟩ := Forest.get?_of_isLive (hla n (List.mem_singleton.2 rfl))
      have hzp : some h ≠ s.forest.parent? n := by
        intro e
        apply hne
        show h ∈ (s.forest.parent? n).toList
        rw [← e]
        exact List.mem_singleton.2 rfl
      exact (getFrame_riw inv hg (not_mem_handles_of_subtree hg hnw) hzp).frameAt hl
    | _ => first | exact absurd rfl hf1 | cases hf

theorem writtenParents2_of_framed {c : Forest.XCall} (f : Forest) (h : c.framed = true) :
    c.writtenParents2 f = c.writtenParents f := by
  unfold Forest.XCall.writtenParents2
  have : c.extraWritten f = [] := by
    cases c with
    | call k => cases k <;> first | rfl | cases h
    | _ => first | rfl | cases h
  rw [this, List.append_nil]

/-- **Value, child list and parent, the larger domain**: a framed node whose parent is framed too keeps it. -/
theorem frame_general2_parent {s : Store} {c : Forest.XCall} (inv : s.forest.Inv) (hw : c.wellKinded)
    (hf : c.framed2 = true) (hla : c.liveArgs s.forest) (hok : (c.run s).2 = .ok)
    {h : Nat} (hl : s.forest.isLive h = true)
    (hnw : h ∉ c.writtenParents2 s.forest) (hnr : h ∉ c.removedHandles s.forest)
    (hnm : h ∉ c.movedSubtree s.forest) :
    (c.run s).1.forest.isLive h = true ∧
    (c.run s).1.forest.value? h = s.forest.value? h ∧
    (c.run s).1.forest.kidHandles h = s.forest.kidHandles h ∧
    (∀ p, s.forest.parent? h = some p → p ∉ c.writtenParents2 s.forest → p ∉ c.removedHandles s.forest →
      p ∉ c.movedSubtree s.forest → (c.run s).1.forest.parent? h = some p) := by
  have fr := frame_general2 inv hw hf hla hok hl hnw hnr hnm
  refine ⟨fr.live, fr.value, fr.kids, fun p hp h1 h2 h3 => ?_⟩
  have inv' : (c.run s).1.forest.Inv := Store.xstep_inv inv c hw
  have hk := kid_of_parent? inv.nodup hp
  -- the parent of a node is live
  have hpl : s.forest.isLive p = true := by
    unfold Forest.kidHandles at hk
    unfold Forest.isLive
    cases hg : s.forest.get? p with
    | none => rw [hg] at hk; cases hk
    | some t => rfl
  exact parent_of_frameAt inv.nodup inv'.nodup hp (frame_general2 inv hw hf hla hok hpl h1 h2 h3)

end XotModel

/-! ## Inside the moved subtree -/

namespace XotModel
open HTree Spec PairAll

theorem get?_inside_of_subtree {f f' : Forest} (nd : f.allHandles.Nodup) (nd' : f'.allHandles.Nodup) {c : Nat}
    {t : HTree} (hg : f.get? c = some t) (hg' : f'.get? c = some t) {z : Nat} (hz : z ∈ handles t) :
    f'.get? z = f.get? z := by
  obtain ⟨anc, o⟩ := Fws.occurs_of_get? hg
  obtain ⟨anc', o'⟩ := Fws.occurs_of_get? hg'
  obtain ⟨q, hq⟩ := Option.isSome_iff_exists.1 ((find?_isSome_iff z t).2 hz)
  rw [o.find_local nd z q hq, o'.find_local nd' z q hq]

theorem frameAt_of_get?_eq {f f' : Forest} {z : Nat} (hl : f.isLive z = true) (e : f'.get? z = f.get? z) :
    Forest.FrameAt f f' z := by
  obtain ⟨u, hu⟩ := Forest.get?_of_isLive hl
  exact Forest.FrameAt.of_get hu (e.trans hu) rfl rfl

/-- `detach(n)` keeps the subtree of `n` as it is. -/
theorem detach_get_moved {f : Forest} (inv : f.Inv) {n : Nat} {t : HTree} (hg : f.get? n = some t) :
    (f.detach n).1.get? n = some t := by
  have inv' := Forest.detach_inv inv n
  have e : (f.detach n).1 = (specRemoveP n f).editAt none (insertLast t) := by
    rw [detach_pair inv (Forest.isLive_of_get? hg), specDetachP_eq inv.nodup hg]
  have hmem : t ∈ (f.detach n).1.roots := by
    rw [e]
    show t ∈ (specRemoveP n f).roots ++ [t]
    simp
  have := Fmap.findList?_direct (f.detach n).1.roots inv'.nodup t hmem
  rw [(findList?_some f.roots t hg).1] at this
  exact this

end XotModel

namespace XotModel
open HTree Spec PairAll

/-- `element_wrap(n)` keeps the subtree of `n` as it is (below the wrapper). -/
theorem wrap_get_moved {f : Forest} (inv : f.Inv) {n name : Nat} {t : HTree}
    (hok : (f.elementWrap n name).2.1 = .ok) (hg : f.get? n = some t) :
    (f.elementWrap n name).1.get? n = some t := by
  have nd := inv.nodup
  have inv' := Forest.elementWrap_inv inv n name
  have nd' := inv'.nodup
  have htn : t.handle = n := (findList?_some f.roots t hg).1
  have e : (f.elementWrap n name).1 = specWrap n name f := by
    cases hpar : f.parent? n with
    | none => exact (wrap_spec_root inv hpar hok).1
    | some p => exact (wrap_spec_kid inv hpar hok).1
  -- the wrapper occurs in the new forest with `t` as its child
  suffices h : ∃ anc, Fws.Occurs (f.elementWrap n name).1 (HTree.node f.next (.element name) [t]) anc by
    obtain ⟨anc, oW⟩ := h
    have ot : Fws.Occurs (f.elementWrap n name).1 t (HTree.node f.next (.element name) [t] :: anc) :=
      Fws.Occurs.kid oW (by simp [HTree.kids])
    have := ot.get? nd'
    rw [htn] at this
    exact this
  rw [e]
  unfold specWrap
  rw [hg]
  simp only
  rcases Forest.root_or_ctx hg with hroot | ⟨c, hctx⟩
  · have hno : f.ctx? n = none := Forest.ctx_none_of_root nd hroot
    rw [Forest.parent?_of_no_ctx hno]
    simp only
    refine ⟨[], Fws.Occurs.root ?_⟩
    show HTree.node f.next (.element name) [t] ∈ dropTop n f.roots ++ [HTree.node f.next (.element name) [t]]
    simp
  · obtain ⟨e0, v, so⟩ := SiteAt.of_ctx nd hctx
    obtain ⟨p, l, k, r⟩ := c
    simp only at e0 so
    have hself : k = t := by
      have := Forest.get?_of_ctx nd hctx
      rw [hg] at this
      exact (Option.some.inj this).symm
    subst hself
    have hpar : f.parent? n = some p := Forest.parent?_of_ctx? hctx
    rw [hpar]
    simp only
    obtain ⟨ndL, _⟩ := so.nodupKids
    obtain ⟨tl, tr⟩ := tops_ne_of_nodup ndL
    have hrep : replaceTop n (fun k' => [HTree.node f.next (.element name) [k']]) (l ++ k :: r) =
        l ++ [HTree.node f.next (.element name) [k]] ++ r := by
      rw [← e0]; exact replaceTop_mid rfl tl
    have hgp := Forest.get?_editAt_self (replaceTop n (fun k' => [HTree.node f.next (.element name) [k']])) so.kids
    rw [hrep] at hgp
    have hgp' : ({ f.editAt (some p) (replaceTop n (fun k' => [HTree.node f.next (.element name) [k']])) with
        next := f.next + 1 } : Forest).get? p = some (.node p v (l ++ [HTree.node f.next (.element name) [k]] ++ r)) := hgp
    obtain ⟨anc, oP⟩ := Fws.occurs_of_get? hgp'
    exact ⟨_, Fws.Occurs.kid oP (by simp [HTree.kids])⟩

end XotModel
