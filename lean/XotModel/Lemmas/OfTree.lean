/-
  `HTree.ofTree n t` (Model/FidIndex.lean) numbers the nodes of `t` in document order from `n`: the
  handles are the interval `[n, n + size)`, each once, and forgetting them gives `t` back.
-/
import XotModel.Lemmas.HTreeBasic
import XotModel.Model.FidIndex

namespace XotModel
open HTree

theorem HTree.value_ofTree (n : Nat) (t : Tree) : (ofTree n t).value = t.value := by
  cases t; rw [ofTree]; rfl

theorem HTree.handle_ofTree (n : Nat) (t : Tree) : (ofTree n t).handle = n := by
  cases t; rw [ofTree]; rfl

mutual
  theorem handles_ofTree (n : Nat) : ∀ t : Tree, ∀ x ∈ handles (ofTree n t), n ≤ x ∧ x < n + t.size
    | .node v ks => by
      intro x hx
      rw [ofTree] at hx
      simp only [handles, List.mem_cons] at hx
      rw [Tree.size]
      rcases hx with rfl | hx
      · omega
      · have := handlesList_ofTreeList (n + 1) ks x hx; omega
  theorem handlesList_ofTreeList (n : Nat) : ∀ ks : List Tree,
      ∀ x ∈ handlesList (ofTreeList n ks), n ≤ x ∧ x < n + Tree.size.sizeList ks
    | [] => by intro x hx; simp [ofTreeList, handlesList] at hx
    | k :: ks => by
      intro x hx
      rw [ofTreeList] at hx
      simp only [handlesList, List.mem_append] at hx
      rw [Tree.size.sizeList]
      rcases hx with hx | hx
      · have := handles_ofTree n k x hx; omega
      · have := handlesList_ofTreeList (n + k.size) ks x hx; omega
end

mutual
  theorem nodup_handles_ofTree (n : Nat) : ∀ t : Tree, (handles (ofTree n t)).Nodup
    | .node v ks => by
      rw [ofTree]
      simp only [handles, List.nodup_cons]
      refine ⟨fun hx => ?_, nodup_handlesList_ofTreeList (n + 1) ks⟩
      have := handlesList_ofTreeList (n + 1) ks n hx; omega
  theorem nodup_handlesList_ofTreeList (n : Nat) : ∀ ks : List Tree, (handlesList (ofTreeList n ks)).Nodup
    | [] => by simp [ofTreeList, handlesList]
    | k :: ks => by
      rw [ofTreeList]
      simp only [handlesList, List.nodup_append]
      refine ⟨nodup_handles_ofTree n k, nodup_handlesList_ofTreeList (n + k.size) ks, ?_⟩
      intro a ha b hb hab
      have h1 := handles_ofTree n k a ha
      have h2 := handlesList_ofTreeList (n + k.size) ks b hb
      omega
end

mutual
  theorem fph_erase_ofTree (n : Nat) : ∀ t : Tree, (ofTree n t).erase = t
    | .node v ks => by rw [ofTree, erase, fph_eraseList_ofTreeList (n + 1) ks]
  theorem fph_eraseList_ofTreeList (n : Nat) : ∀ ks : List Tree, eraseList (ofTreeList n ks) = ks
    | [] => by simp [ofTreeList, eraseList]
    | k :: ks => by rw [ofTreeList, eraseList, fph_erase_ofTree n k, fph_eraseList_ofTreeList (n + k.size) ks]
end

end XotModel
