/-
  Character-level facts about the escaped strings inside the tokens of `serNode`, in the form
  `Token.lexOK` (Model/LexOK.lean) asks for: XML Chars stay XML Chars, no raw `<` / `"`, no `]]>`,
  a non-empty text stays non-empty; NCNames are names.
-/
import XotModel.Model.SerTokens
import XotModel.Lemmas.Entity
import XotModel.Lemmas.BasicFacts

namespace XotModel
open Gen

/-- Every escape string of the table consists of `P` characters. -/
def tableAll (P : Char → Bool) (t : List (Char × Str)) : Bool := t.all (fun r => r.2.all P)

theorem escapeWith_all {P : Char → Bool} {t : List (Char × Str)} (ht : tableAll P t = true) (c : Char)
    (hc : P c = true) : (escapeWith t c).all P = true := by
  unfold escapeWith
  cases hl : t.lookup c with
  | none => simp [hc]
  | some esc => exact List.all_eq_true.mp ht _ (lookup_mem hl)

theorem flatMap_escape_all {P : Char → Bool} {t : List (Char × Str)} (ht : tableAll P t = true) (s : Str)
    (hs : s.all P = true) : (s.flatMap (escapeWith t)).all P = true := by
  simp only [List.all_eq_true, List.mem_flatMap] at hs ⊢
  rintro x ⟨c, hc, hx⟩
  have := escapeWith_all ht c (hs c hc)
  simp only [List.all_eq_true] at this
  exact this x hx

/-- No escape string of the table is empty. -/
def tableNonEmpty (t : List (Char × Str)) : Bool := t.all (fun r => !r.2.isEmpty)

theorem escapeWith_ne_nil {t : List (Char × Str)} (ht : tableNonEmpty t = true) (c : Char) :
    escapeWith t c ≠ [] := by
  unfold escapeWith
  cases hl : t.lookup c with
  | none => simp
  | some esc => simpa using List.all_eq_true.mp ht _ (lookup_mem hl)

theorem isPrefixOf_mem {pat s : Str} (h : pat.isPrefixOf s = true) : ∀ c ∈ pat, c ∈ s := by
  induction pat generalizing s with
  | nil => simp
  | cons p ps ih =>
    cases s with
    | nil => simp [List.isPrefixOf] at h
    | cons a as =>
      simp only [List.isPrefixOf, Bool.and_eq_true, beq_iff_eq] at h
      intro c hc
      rcases List.mem_cons.mp hc with rfl | hc
      · simp [h.1]
      · exact List.mem_cons_of_mem _ (ih h.2 c hc)

theorem hasInfix_mem {pat s : Str} (h : hasInfix pat s = true) : ∀ c ∈ pat, c ∈ s := by
  induction s with
  | nil =>
    simp only [hasInfix, List.isEmpty_iff] at h
    subst h; simp
  | cons a as ih =>
    simp only [hasInfix, Bool.or_eq_true] at h
    rcases h with h | h
    · exact isPrefixOf_mem h
    · intro c hc
      exact List.mem_cons_of_mem _ (ih h c hc)

/-- What `Token.lexOK` asks of an attribute value. -/
def attrCharOK (c : Char) : Bool := isXmlChar c && c != '"' && c != '<'

/-- What `Token.lexOK` asks of a text character. -/
def textCharOK (c : Char) : Bool := isXmlChar c && c != '<'

theorem serializeAttribute_lexOK (v : Str) (h : v.all isXmlChar = true) :
    (serializeAttribute v).all attrCharOK = true := by
  have h1 : (serializeAttribute v).all isXmlChar = true :=
    flatMap_escape_all (t := attrEscapes) (by decide) v h
  have h2 : '"' ∉ serializeAttribute v := flatMap_escape_hides (t := attrEscapes) (by decide) v
  have h3 : '<' ∉ serializeAttribute v := flatMap_escape_hides (t := attrEscapes) (by decide) v
  simp only [List.all_eq_true, attrCharOK, Bool.and_eq_true, bne_iff_ne, ne_eq] at h1 ⊢
  intro c hc
  refine ⟨⟨h1 c hc, ?_⟩, ?_⟩
  · rintro rfl; exact h2 hc
  · rintro rfl; exact h3 hc

theorem serializeText_chars (s : Str) (h : s.all isXmlChar = true) :
    (serializeText false s).all textCharOK = true := by
  rw [serializeText_false_eq]
  have h1 : (s.flatMap (escapeWith (('>', textGtEscape) :: textEscapes))).all isXmlChar = true :=
    flatMap_escape_all (by decide) s h
  have h3 : '<' ∉ s.flatMap (escapeWith (('>', textGtEscape) :: textEscapes)) :=
    flatMap_escape_hides (by decide) s
  simp only [List.all_eq_true, textCharOK, Bool.and_eq_true, bne_iff_ne, ne_eq] at h1 ⊢
  intro c hc
  refine ⟨h1 c hc, ?_⟩
  rintro rfl; exact h3 hc

theorem serializeText_noCdataEnd (s : Str) : hasInfix [']', ']', '>'] (serializeText false s) = false := by
  cases h : hasInfix [']', ']', '>'] (serializeText false s) with
  | false => rfl
  | true =>
    exfalso
    have hm := hasInfix_mem h '>' (by simp)
    rw [serializeText_false_eq] at hm
    exact flatMap_escape_hides (t := ('>', textGtEscape) :: textEscapes) (c := '>') (by decide) s hm

theorem serializeText_ne_nil (s : Str) (h : s ≠ []) : serializeText false s ≠ [] := by
  rw [serializeText_false_eq]
  cases s with
  | nil => exact absurd rfl h
  | cons c cs =>
    simp only [List.flatMap_cons, ne_eq, List.append_eq_nil_iff, not_and]
    intro h1
    exact absurd h1 (escapeWith_ne_nil (by decide) c)

theorem ncNameNE_nameOK (s : Str) (h : ncNameNE s = true) : nameOK s = true := by
  cases s with
  | nil => simp [ncNameNE] at h
  | cons c cs =>
    simp only [ncNameNE, ncNameOK, List.all_cons, Bool.and_eq_true, List.isEmpty_cons, Bool.not_false,
      and_true] at h
    simp only [nameOK, Bool.and_eq_true, List.all_eq_true]
    refine ⟨h.2, fun x hx => ?_⟩
    have := h.1.2
    simp only [List.all_eq_true, Bool.and_eq_true] at this
    exact (this x hx).1

theorem ncNameNE_qnameOK_local (p l : Str) (hp : ncNameOK p = true) (hl : ncNameNE l = true) :
    qnameOK p l = true := by
  simp only [ncNameNE, Bool.and_eq_true] at hl
  simp [qnameOK, hp, hl.1, hl.2]

theorem ncNameOK_nil : ncNameOK [] = true := rfl
theorem ncNameOK_xml : ncNameOK ['x', 'm', 'l'] = true := by decide
theorem ncNameNE_xmlns : ncNameNE xmlnsName = true := by decide

theorem lower_xml_ne {s : Str} (h : s.map asciiLowerChar ≠ ['x', 'm', 'l']) : s ≠ ['x', 'm', 'l'] := by
  rintro rfl
  exact h (by decide)

end XotModel
