/-
  The nodes that carry the entries: `knFollow` from a `KNStep`, the (key, node) lists after a call
  are the reference's (`call_nodes`), and the history run on the reference state alone
  (`history_ref`).
-/
import XotModel.Lemmas.FmapRet
import XotModel.Lemmas.FmapHistPos
import XotModel.Model.FmapNodes

/-! ## `knFollow`; `call_nodes`

`knFollow` is what a `KNStep` amounts to once the key list afterwards and the node of a new last entry are known. -/

namespace XotModel
namespace Fmap
open HTree
open Forest (MapKind entryKey mapChildren MapEntry)

/-! ### Association lists with distinct keys -/

theorem lookup_none_of_not_mem {l : List (Nat × Nat)} {a : Nat} (h : a ∉ l.map (·.1)) :
    l.lookup a = none := by
  induction l with
  | nil => rfl
  | cons x l ih =>
    obtain ⟨xa, xb⟩ := x
    simp only [List.map_cons, List.mem_cons, not_or] at h
    have hne : (a == xa) = false := by simpa using h.1
    simp only [List.lookup_cons, hne]
    exact ih h.2

theorem follow_self (old : List (Nat × Nat)) (ho : (old.map (·.1)).Nodup) (given : Nat) :
    ∀ sub : List (Nat × Nat), (∀ q ∈ sub, q ∈ old) →
      sub.map (fun q => (q.1, (old.lookup q.1).getD given)) = sub := by
  intro sub
  induction sub with
  | nil => intro _; rfl
  | cons q sub ih =>
    intro hs
    obtain ⟨qa, qb⟩ := q
    simp only [List.map_cons]
    rw [lookup_of_mem ho (hs _ List.mem_cons_self), ih (fun q hq => hs q (List.mem_cons_of_mem _ hq))]
    rfl

/-- A `KNStep` between lists with distinct keys is `knFollow`, once the node of a new last entry
    is known. -/
theorem knFollow_of_step {old new : List (Nat × Nat)} (h : KNStep old new)
    (ho : (old.map (·.1)).Nodup) (hn : (new.map (·.1)).Nodup) (given : Nat)
    (hg : ∀ p, new = old ++ [p] → p.2 = given) : new = knFollow old (new.map (·.1)) given := by
  unfold knFollow
  rw [List.map_map]
  rcases h with h | ⟨p, h⟩
  · exact (follow_self old ho given new (fun q hq => h.subset hq)).symm
  · have hp := hg p h
    subst h
    obtain ⟨pa, pb⟩ := p
    simp only at hp
    subst hp
    have hnot : pa ∉ old.map (·.1) := by
      rw [List.map_append, List.nodup_append] at hn
      intro hm
      exact hn.2.2 _ hm _ (by simp) rfl
    rw [List.map_append]
    have := follow_self old ho pb old (fun q hq => hq)
    simp only [Function.comp_def] at this ⊢
    rw [this]
    simp [lookup_none_of_not_mem hnot]

/-- `get_node(key)` is the lookup in the (key, node) list. -/
theorem getN_lookup (f : Forest) (k : MapKind) (e key : Nat) :
    getN f k e key = (absKN k f e).lookup key := (lookup_absKN f k e key).symm

theorem nodeView_eq (f : Forest) : nodeView f = viewOf (nfamOf f) f.next := by
  unfold nodeView viewOf nfamOf
  congr 1
  funext e k key
  exact getN_lookup f k e key

/-! ### After a call -/

theorem absKN_keys_nodup {f : Forest} (hi : f.Inv) (k : MapKind) (x : Nat) :
    ((absKN k f x).map (·.1)).Nodup := by
  rw [absKN_fst]
  exact unique_keys_of_inv f hi k x

/-- After a call the (key, node) list of every view of every node is the reference's. -/
theorem call_nodes {f : Forest} {F : Fam} (hi : f.Inv) (hF : Agree f F) (c : MapCall)
    (hok : c.ok f = true) (x : Nat) (k : MapKind) :
    absKN k (c.run f).1 x = c.specN (c.spec F) (nfamOf f) f.next x k := by
  have s := (call_step hi hF c hok).2.2
  have := knFollow_of_step (s.kn x k) (absKN_keys_nodup hi k x) (absKN_keys_nodup s.inv k x)
    (c.given (nfamOf f) f.next) (fun p hp => s.carrier x k p hp)
  rw [absKN_fst, s.agree x k] at this
  exact this

end Fmap
end XotModel

/-! ## `history_ref`

A history run on the reference state alone (`refRun`) returns what the model returns and ends in the reference
state of the final forest. -/

namespace XotModel
namespace Fmap
open HTree
open Forest (MapKind entryKey mapChildren MapEntry)

/-! ### The history on the reference alone -/

theorem refOf_step {f : Forest} (hi : f.Inv) (c : MapCall) (hok : c.ok f = true) :
    refOf (c.run f).1 = c.refStep (refOf f) ∧ (c.run f).2.2 = c.refRet (refOf f) := by
  have hF : Agree f (famOf f) := fun _ _ => rfl
  obtain ⟨_, hret, s⟩ := call_step hi hF c hok
  refine ⟨?_, ?_⟩
  · unfold refOf MapCall.refStep
    congr 1
    · funext x k; exact s.agree x k
    · funext x k; exact call_nodes hi hF c hok x k
    · exact s.next
  · rw [hret, nodeView_eq]; rfl

theorem history_ref : ∀ (cs : List MapCall) (f : Forest), f.Inv → (runCalls f cs).2.2 = true →
    (runCalls f cs).2.1.map (·.2) = (refRun (refOf f) cs).1 ∧
    refOf (runCalls f cs).1 = (refRun (refOf f) cs).2
  | [], f => fun _ _ => ⟨rfl, rfl⟩
  | c :: cs, f => by
    intro hi hok
    simp only [runCalls, Bool.and_eq_true] at hok
    obtain ⟨hst, hret⟩ := refOf_step hi c hok.1
    have s := (call_step hi (F := famOf f) (fun _ _ => rfl) c hok.1).2.2
    obtain ⟨h1, h2⟩ := history_ref cs (c.run f).1 s.inv hok.2
    rw [hst] at h1 h2
    refine ⟨?_, h2⟩
    simp only [runCalls, refRun, List.map_cons]
    rw [hret, h1]

end Fmap
end XotModel
