/-
  `next`, the handle the next node creation hands out, exactly — for every model function behind a
  `MapCall`, all forests, all arguments.  Only `newNode` moves it (`Forest.nx_closed`,
  Lemmas/FlocalNext.lean).
-/
import XotModel.Lemmas.FmapHistFrame
import XotModel.Lemmas.FlocalNext

namespace XotModel
namespace Fmap
open HTree
open Forest (MapKind entryKey mapChildren MapEntry)

theorem nx_setValue (f : Forest) (h : Nat) (v : Value) : (f.setValue h v).next = f.next := rfl

theorem nx_detach (f : Forest) (node : Nat) : (f.detach node).1.next = f.next :=
  (Forest.nx_closed f).detach rfl trivial

theorem nx_remove (f : Forest) (node : Nat) : (f.remove node).1.next = f.next :=
  (Forest.nx_closed f).remove rfl trivial

/-! ### The map calls -/

/-- `insert` makes a node exactly when it is addressed to an element that lacks the key. -/
theorem nx_mapInsert (f : Forest) (k : MapKind) (e : Nat) (v : Value) :
    (f.mapInsert k e v).1.next =
      f.next + (if f.isElement e && (f.mapGetNode k e (entryKey v)).isNone then 1 else 0) := by
  unfold Forest.mapInsert
  cases he : f.isElement e with
  | false => simp
  | true =>
    simp only [Bool.not_true, Bool.false_eq_true, if_false, Bool.true_and]
    cases f.mapGetNode k e (entryKey v) with
    | some n => simp [nx_setValue]
    | none =>
      simp only [Option.isNone_none, if_true]
      exact (Forest.nx_closed (f.newNode v).1).mapPlace rfl trivial trivial

theorem nx_mapRemove (f : Forest) (k : MapKind) (parent key : Nat) :
    (f.mapRemove k parent key).1.next = f.next :=
  (Forest.nx_closed f).mapRemove rfl trivial key

theorem nx_mapClear (f : Forest) (k : MapKind) (parent : Nat) :
    (f.mapClear k parent).1.next = f.next :=
  (Forest.nx_closed f).mapClear rfl trivial

theorem nx_appendEntryNode (f : Forest) (k : MapKind) (parent child : Nat) :
    (f.appendEntryNode k parent child).1.next = f.next :=
  (Forest.nx_closed f).appendEntryNode rfl trivial trivial

theorem nx_mapGetMutSet (f : Forest) (k : MapKind) (e key : Nat) (new : Value) :
    (f.mapGetMutSet k e key new).1.next = f.next := by
  unfold Forest.mapGetMutSet
  split
  · rfl
  · cases f.mapGetNode k e key <;> rfl

theorem nx_entryAndModify (f : Forest) (k : MapKind) (e key : Nat) (g : Value → Value) :
    (f.entryAndModify k e key g).1.next = f.next := by
  unfold Forest.entryAndModify
  split
  · rfl
  · cases f.mapEntry k e key with
    | occupied key' => simp only; cases f.mapGetNode k e key' <;> rfl
    | vacant key' => rfl

theorem nx_entryRemove (f : Forest) (k : MapKind) (e key : Nat) :
    (f.entryRemove k e key).1.next = f.next := by
  unfold Forest.entryRemove
  split
  · rfl
  · cases f.mapEntry k e key with
    | occupied key' => simp only; rw [occRemove_fst]; exact nx_mapRemove f k e key'
    | vacant key' => rfl

theorem nx_mapInsert_abs (f : Forest) (k : MapKind) (e : Nat) (v : Value)
    (he : f.isElement e = true) :
    (f.mapInsert k e v).1.next =
      f.next + (if omContainsKey (abs k f e) (entryKey v) then 0 else 1) := by
  rw [nx_mapInsert, he, ← containsKey_eq]
  cases f.mapGetNode k e (entryKey v) <;> rfl

end Fmap
end XotModel
