/-
  Decompositions of a forest around one node, on the zipper form `plug path (l ++ k :: r)`:
  `DropView` (`remove_subtree(c)` seen from a node outside `c`), `Gap` (a node between two text nodes in strict
  mode, the shape in which `replace` and `element_wrap` pass through a state with adjacent text nodes),
  `SibsOut` (the state after the consolidation of a node's neighbours), the raw left neighbour `leftOf`.
-/
import XotModel.Lemmas.BasicFacts
import XotModel.Lemmas.FinvCut

namespace XotModel
open HTree
namespace Forest

/-- What the state `g` after the consolidation of `c`'s neighbours shares with `f`. -/
structure SibsOut (f : Forest) (c : Nat) (g : Forest) (b : Bool) : Prop where
  eq : f.removeConsolidate (f.prevSibling c) (f.nextSibling c) = (g, b)
  inv : g.Inv
  everOff : g.everOff = f.everOff
  consolidation : g.consolidation = f.consolidation
  valC : g.value? c = f.value? c
  keep : ∀ x v, f.value? x = some v → (b = true → f.nextSibling c ≠ some x) →
    ∃ v', g.value? x = some v' ∧ SameKind v v' ∧ (v.isText = false → v' = v)
  cutOK : g.CutOK c
  same : f.everOff = false → (∀ cv, f.value? c = some cv → cv.isText = true) → g = f ∧ b = false
  isRoot : ∀ x, g.isRoot x = f.isRoot x
  anc : ∀ x, x ∈ g.allHandles → (g.ancestors x).contains c = (f.ancestors x).contains c
  sub : ∀ x, x ∈ g.allHandles → x ∈ f.allHandles
  merged : b = true → ∃ P N ps ns, f.prevSibling c = some P ∧ f.nextSibling c = some N ∧
    f.value? P = some (.text ps) ∧ f.value? N = some (.text ns) ∧
    g.value? P = some (.text (ps ++ ns)) ∧ g.isRoot P = false ∧ (g.ancestors P).contains c = false ∧
    N ∉ g.allHandles ∧ f.prevSibling N = some c

theorem structureCheck_eval {g : Forest} {p c : Nat} {pv cv : Value}
    (hpv : g.value? p = some pv) (hpk : pv.isElement = true ∨ pv.isDocument = true)
    (hanc : (g.ancestors p).contains c = false) (hcv : g.value? c = some cv)
    (hcn : cv.category = .normal) (hcd : cv.isDocument = false) :
    g.structureCheck (some p) c = true := by
  refine structureCheck_some_iff.mpr ⟨?_, hanc, cv, hcv, hcn, hcd⟩
  unfold isElement isDocument
  rw [hpv]
  simpa using hpk

/-- The gap: `a` sits between the text nodes `P` and `N` in strict mode. -/
structure Gap (f : Forest) (a : Nat) (init : List ZipFrame) (fr : ZipFrame) (l0 : List HTree) (P A N : HTree)
    (r0 : List HTree) (ps ns : Str) : Prop where
  loc : Loc f.roots a (init ++ [fr]) (l0 ++ [P]) A (N :: r0)
  strict : f.everOff = false
  hP : P.value = .text ps
  hN : N.value = .text ns
  hPk : P.kids = []
  hNk : N.kids = []
  hAn : A.value.category = .normal
  hAt : A.value.isText = false
  hAd : A.value.isDocument = false

end Forest

theorem rk_of_not_mem {c : Nat} {ks : List HTree} (h : c ∉ handlesList ks) : rk c ks = ks :=
  fc_replaceKids_of_not_mem c _ ks h

theorem map_h_cutPath (c : Nat) (path : List ZipFrame) : (cutPath c path).map (·.h) = path.map (·.h) := by
  simp [cutPath, List.map_map, Function.comp_def]

theorem cutPath_append (c : Nat) (p q : List ZipFrame) : cutPath c (p ++ q) = cutPath c p ++ cutPath c q := by
  simp [cutPath]

namespace Forest

/-- `remove_subtree(c)` seen from a node `x` that is not inside `c`. -/
structure DropView (f : Forest) (c x : Nat) (path : List ZipFrame) (lx : List HTree) (K : HTree)
    (rx : List HTree) : Prop where
  eq : f.dropSubtree c = { f with roots := plug (cutPath c path) (rk c lx ++ rb c K :: rk c rx) }
  loc : Loc (f.dropSubtree c).roots x (cutPath c path) (rk c lx) (rb c K) (rk c rx)
  nodup : (f.dropSubtree c).allHandles.Nodup

theorem dropView {f : Forest} {x c : Nat} {path lx K rx} (lc : Loc f.roots x path lx K rx)
    (nd : f.allHandles.Nodup) (hc : c ∈ f.allHandles) (hanc : (f.ancestors x).contains c = false) :
    DropView f c x path lx K rx := by
  obtain ⟨t, hg, hcut⟩ := cut_of_loc_other lc nd hc hanc
  have e : f.dropSubtree c = { f with roots := plug (cutPath c path) (rk c lx ++ rb c K :: rk c rx) } := by
    unfold dropSubtree; rw [hcut]
  refine ⟨e, ?_, ?_⟩
  · rw [e]; exact ⟨rfl, by simp [lc.hk]⟩
  · have hp := cut_perm nd hcut
    have : (f.cut c).1 = f.dropSubtree c := rfl
    rw [← this, hcut]
    exact List.Nodup.sublist (List.sublist_append_left _ _) (hp.symm.nodup nd)

variable {f : Forest} {x c : Nat} {path : List ZipFrame} {lx : List HTree} {K : HTree} {rx : List HTree}

theorem DropView.value? (v : DropView f c x path lx K rx) (lc : Loc f.roots x path lx K rx)
    (nd : f.allHandles.Nodup) : (f.dropSubtree c).value? x = f.value? x := by
  rw [value?_of_loc v.loc v.nodup, value?_of_loc lc nd, rb_value]

theorem DropView.ancestors (v : DropView f c x path lx K rx) (lc : Loc f.roots x path lx K rx)
    (nd : f.allHandles.Nodup) : (f.dropSubtree c).ancestors x = f.ancestors x := by
  rw [ancestors_of_loc v.loc v.nodup, ancestors_of_loc lc nd, map_h_cutPath]

theorem DropView.parent? (v : DropView f c x path lx K rx) (lc : Loc f.roots x path lx K rx)
    (nd : f.allHandles.Nodup) : (f.dropSubtree c).parent? x = f.parent? x := by
  rcases fi_nil_or_snoc path with rfl | ⟨init, fr, rfl⟩
  · unfold Forest.parent?
    rw [ctx?_of_loc_nil lc nd, ctx?_of_loc_nil (by simpa [cutPath] using v.loc) v.nodup]
  · have lc' := v.loc
    rw [cutPath_append] at lc'
    unfold Forest.parent?
    rw [ctx?_of_loc_snoc lc nd, ctx?_of_loc_snoc lc' v.nodup]
    rfl

variable {f : Forest} {a : Nat} {init : List ZipFrame} {fr : ZipFrame} {l0 : List HTree} {P A N : HTree}
  {r0 : List HTree} {ps ns : Str}

theorem Gap.hPt (g : Gap f a init fr l0 P A N r0 ps ns) : P.value.isText = true := by rw [g.hP]; rfl

theorem Gap.hNt (g : Gap f a init fr l0 P A N r0 ps ns) : N.value.isText = true := by rw [g.hN]; rfl

theorem Gap.hPn (g : Gap f a init fr l0 P A N r0 ps ns) : P.value.category = .normal := by rw [g.hP]; rfl

theorem Gap.hNn (g : Gap f a init fr l0 P A N r0 ps ns) : N.value.category = .normal := by rw [g.hN]; rfl

theorem Gap.ctx (g : Gap f a init fr l0 P A N r0 ps ns) (nd : f.allHandles.Nodup) :
    f.ctx? a = some ⟨fr.h, l0 ++ [P], A, N :: r0⟩ := ctx?_of_loc_snoc g.loc nd

theorem Gap.parent (g : Gap f a init fr l0 P A N r0 ps ns) (nd : f.allHandles.Nodup) :
    f.parent? a = some fr.h := by unfold parent?; rw [g.ctx nd]; rfl

/-- The state after `remove_subtree(a)`. -/
theorem Gap.drop (g : Gap f a init fr l0 P A N r0 ps ns) (nd : f.allHandles.Nodup) :
    f.dropSubtree a = { f with roots := plug (init ++ [fr]) (l0 ++ P :: N :: r0) } := by
  unfold dropSubtree; rw [cut_of_loc g.loc nd]; simp

theorem Gap.drop_nodup (g : Gap f a init fr l0 P A N r0 ps ns) (nd : f.allHandles.Nodup) :
    (f.dropSubtree a).allHandles.Nodup := by
  have hp := cut_perm nd (cut_of_loc g.loc nd)
  have : (f.cut a).1 = f.dropSubtree a := rfl
  rw [← this, cut_of_loc g.loc nd]
  exact List.Nodup.sublist (List.sublist_append_left _ _) (hp.symm.nodup nd)

theorem Gap.locP1 (g : Gap f a init fr l0 P A N r0 ps ns) (nd : f.allHandles.Nodup) :
    Loc (f.dropSubtree a).roots P.handle (init ++ [fr]) l0 P (N :: r0) := by
  rw [g.drop nd]; exact ⟨rfl, rfl⟩

theorem Gap.mem (g : Gap f a init fr l0 P A N r0 ps ns) : a ∈ f.allHandles := by
  unfold allHandles; rw [g.loc.eq, mem_handlesList_plug]; right
  simp only [handlesList_append, handlesList_cons, List.mem_append]
  exact Or.inr (Or.inl (g.loc.hk ▸ handle_mem_handles A))

/-- What the argument checks of `replace` say about the replacing node `b`. -/
structure ReplArgs (f : Forest) (a b : Nat) (fr : ZipFrame) (P N : HTree) (bv : Value) : Prop where
  live : b ∈ f.allHandles
  val : f.value? b = some bv
  normal : bv.category = .normal
  nodoc : bv.isDocument = false
  kind : fr.v.isElement = true ∨ fr.v.isDocument = true
  ancPar : (f.ancestors fr.h).contains b = false
  ancB : (f.ancestors b).contains a = false
  ancA : (f.ancestors a).contains b = false
  neP : b ≠ P.handle
  neN : b ≠ N.handle

theorem Gap.locPar (g : Gap f a init fr l0 P A N r0 ps ns) :
    Loc f.roots fr.h init fr.l (.node fr.h fr.v ((l0 ++ [P]) ++ A :: N :: r0)) fr.r :=
  ⟨by rw [g.loc.eq, plug_append]; rfl, rfl⟩

theorem Gap.locPar1 (g : Gap f a init fr l0 P A N r0 ps ns) (nd : f.allHandles.Nodup) :
    Loc (f.dropSubtree a).roots fr.h init fr.l (.node fr.h fr.v (l0 ++ P :: N :: r0)) fr.r := by
  rw [g.drop nd]; exact ⟨by simp [plug_append], rfl⟩

/-- The argument checks of `insert_after(P, b)` pass on the state after `remove_subtree(a)`. -/
theorem Gap.guards (g : Gap f a init fr l0 P A N r0 ps ns) (hi : f.Inv) {b : Nat} {bv : Value}
    (ra : ReplArgs f a b fr P N bv) :
    (f.dropSubtree a).parent? P.handle = some fr.h ∧
    (f.dropSubtree a).structureCheck (some fr.h) b = true ∧
    (f.dropSubtree a).siblingReferenceCheck P.handle b = true ∧
    ((f.dropSubtree a).nextSibling P.handle == some b) = false := by
  have nd := hi.nodup
  have nd1 := g.drop_nodup nd
  have lcP := g.locP1 nd
  obtain ⟨pathb, lb, Bn, rb, locb⟩ := exists_loc ra.live
  have hv := (dropView locb nd g.mem ra.ancB).value? locb nd
  refine ⟨?_, ?_, ?_, ?_⟩
  · unfold parent?; rw [ctx?_of_loc_snoc lcP nd1]; rfl
  · apply structureCheck_eval (value?_of_loc (g.locPar1 nd) nd1) ra.kind ?_ (by rw [hv]; exact ra.val)
      ra.normal ra.nodoc
    rw [ancestors_of_loc (g.locPar1 nd) nd1, ← ancestors_of_loc g.locPar nd]
    exact ra.ancPar
  · unfold siblingReferenceCheck isNormalNode
    rw [value?_of_loc lcP nd1]
    simp [Ne.symm ra.neP, Value.isNormal, g.hPn]
  · rw [nextSibling_of_loc_snoc lcP nd1]
    simp [g.hNn, g.hPn, Ne.symm ra.neN]

/-- Handle of the raw previous sibling. -/
def leftOf (f : Forest) (x : Nat) : Option Nat :=
  (f.ctx? x).bind (fun c => c.left.getLast?.map (·.handle))

theorem leftOf_of_loc {f : Forest} {x : Nat} {path l K r} (lc : Loc f.roots x path l K r)
    (nd : f.allHandles.Nodup) (hne : path ≠ []) : f.leftOf x = l.getLast?.map (·.handle) := by
  obtain ⟨p, hp⟩ := ctx?_of_loc_ne lc hne nd
  unfold leftOf; rw [hp]; rfl

theorem leftOf_drop_last {f : Forest} {x : Nat} (nd : f.allHandles.Nodup) {path : List ZipFrame} {l0 : List HTree}
    {L K : HTree} {rx : List HTree} (lc : Loc f.roots x path (l0 ++ [L]) K rx) (hne : path ≠ []) :
    (f.dropSubtree L.handle).leftOf x = l0.getLast?.map (·.handle) := by
  have lcL : Loc f.roots L.handle path l0 L (K :: rx) := ⟨by rw [lc.eq]; simp, rfl⟩
  have e : f.dropSubtree L.handle = { f with roots := plug path (l0 ++ K :: rx) } := by
    unfold dropSubtree; rw [cut_of_loc lcL nd]
  have nd' : (f.dropSubtree L.handle).allHandles.Nodup := by
    have hp := cut_perm nd (cut_of_loc lcL nd)
    have : (f.cut L.handle).1 = f.dropSubtree L.handle := rfl
    rw [← this, cut_of_loc lcL nd]
    exact List.Nodup.sublist (List.sublist_append_left _ _) (hp.symm.nodup nd)
  have lc' : Loc (f.dropSubtree L.handle).roots x path l0 K rx := by rw [e]; exact ⟨rfl, lc.hk⟩
  rw [leftOf_of_loc lc' nd' hne]

end Forest
end XotModel
