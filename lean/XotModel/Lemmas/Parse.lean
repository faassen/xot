/-
  Lemmas for the C02 / C03 property files that are about `build` as a whole:
  * an error at any step is the result of the parse (errors are sticky)
  * a tokenizer error is never turned into a tree
  * an accepted document has exactly one element child and no text child
  * `normalize_xml_id` against the xml:id specification
  * a character or entity reference decodes to an XML character
  * text merging (`addText`) and name resolution (`lookupPrefix`, `internPrefix`, `attributeNameId`,
    `findInDecls`) on the forms of input the ParseSpell* and Accepted* files meet
-/
import XotModel.Lemmas.BasicFacts
import XotModel.Model.Parse
import XotModel.Model.Valid
import XotModel.Lemmas.ParseSpans

namespace XotModel

/-! ### Errors are sticky -/

theorem run_append : ∀ (pre : List Token) {b b1 : Builder} (rest : List Token) (lexErr : Option Nat),
    b.run pre none = .ok b1 → b.run (pre ++ rest) lexErr = b1.run rest lexErr
  | [], _, _, _, _, h => by cases (run_nil_ok h).1; rfl
  | t :: ts, b, b1, rest, lexErr, h => by
    obtain ⟨b2, hs, hr⟩ := run_cons_ok h
    simp only [List.cons_append, Builder.run, hs]
    exact run_append ts rest lexErr hr

theorem build_step_err {m : Mode} {len : Nat} {env env' : Env} {pre post : List Token} {t : Token}
    {b1 : Builder} {e : ParseErr} (lexErr : Option Nat)
    (h1 : (Builder.new env).run pre none = .ok b1) (h2 : b1.step t = .err e env') :
    build m len env (pre ++ t :: post) lexErr = .err e env' := by
  unfold build
  rw [run_append pre _ lexErr h1]
  simp [Builder.run, h2]

theorem run_lexErr_not_ok (pos : Nat) : ∀ (ts : List Token) (b b' : Builder), b.run ts (some pos) ≠ .ok b'
  | [], _, _, h => nomatch (run_nil_ok h).2.2
  | _ :: ts, _, b', h =>
    have ⟨b2, _, hr⟩ := run_cons_ok h
    run_lexErr_not_ok pos ts b2 b' hr

theorem build_lexErr_not_ok (m : Mode) (len : Nat) (env : Env) (ts : List Token) (pos : Nat) (p : Parsed) :
    build m len env ts (some pos) ≠ .ok p := by
  unfold build
  cases h : (Builder.new env).run ts (some pos) with
  | ok b => exact absurd h (run_lexErr_not_ok pos ts _ b)
  | err e env' => simp
  | panic => simp

/-! ### The document epilogue -/

def countElements (ks : List Tree) : Nat := (ks.filter (fun k => k.value.isElement)).length

theorem countElements_cons (k : Tree) (ks : List Tree) :
    countElements (k :: ks) = (if k.value.isElement = true then 1 else 0) + countElements ks := by
  unfold countElements
  rw [List.filter_cons]
  split
  · rw [List.length_cons, Nat.add_comm]
  · rw [Nat.zero_add]

theorem topLevelScan_cons {k : Tree} (hk : k.value.isText = false) (spans : SpanMap) (i : Nat) (rest : List Tree)
    (elems : List Nat) :
    topLevelScan spans i (k :: rest) elems =
      topLevelScan spans (i + 1) rest (if k.value.isElement = true then elems ++ [i] else elems) := by
  simp only [topLevelScan]
  cases hv : k.value <;> first | rfl | (rw [hv] at hk; cases hk)

theorem topLevelScan_notext (spans : SpanMap) : ∀ (ks : List Tree) (i : Nat) (elems : List Nat),
    (∀ k ∈ ks, k.value.isText = false) →
    ∃ es, topLevelScan spans i ks elems = .ok es ∧ es.length = elems.length + countElements ks
  | [], _, elems, _ => ⟨elems, rfl, rfl⟩
  | k :: rest, i, elems, h => by
    obtain ⟨hk, hr⟩ := List.forall_mem_cons.1 h
    rw [topLevelScan_cons hk, countElements_cons]
    obtain ⟨es, h1, h2⟩ := topLevelScan_notext spans rest (i + 1) (if k.value.isElement = true then elems ++ [i] else elems) hr
    refine ⟨es, h1, ?_⟩
    rw [h2]
    split
    · rw [List.length_append, List.length_singleton]; omega
    · omega

theorem topLevelScan_ok (spans : SpanMap) : ∀ (ks : List Tree) (i : Nat) (elems es : List Nat),
    topLevelScan spans i ks elems = .ok es →
      es.length = elems.length + countElements ks ∧ ∀ k ∈ ks, k.value.isText = false := by
  have notext : ∀ (ks : List Tree) (i : Nat) (elems es : List Nat),
      topLevelScan spans i ks elems = .ok es → ∀ k ∈ ks, k.value.isText = false := by
    intro ks
    induction ks with
    | nil => intro _ _ _ _; exact nofun
    | cons k rest ih =>
      intro i elems es h
      have hk : k.value.isText = false := by
        cases hv : k.value with
        | text s => simp only [topLevelScan, hv] at h; split at h <;> cases h
        | _ => rfl
      rw [topLevelScan_cons hk] at h
      exact List.forall_mem_cons.2 ⟨hk, ih _ _ _ h⟩
  intro ks i elems es h
  have hn := notext ks i elems es h
  obtain ⟨es', h1, h2⟩ := topLevelScan_notext spans ks i elems hn
  rw [h] at h1
  cases h1
  exact ⟨h2, hn⟩

/-- What `validate_well_formed_document` checks (access.rs): exactly one element child, no text
    child (attribute / namespace / document children are excluded by `StructValid`). -/
def WellFormedTop (t : Tree) : Prop :=
  countElements t.kids = 1 ∧ ∀ k ∈ t.kids, k.value.isText = false

/-- A document accepted by `parse` has exactly one element at top level and no text there. -/
theorem finishDocument_wellFormed {len : Nat} {b : Builder} {p : Parsed}
    (h : b.finishDocument len = .ok p) : WellFormedTop p.tree := by
  unfold Builder.finishDocument at h
  split at h
  · cases hs : topLevelScan b.spans 0 b.root.kids [] with
    | panic => rw [hs] at h; cases h
    | err e => rw [hs] at h; cases h
    | ok elems =>
      rw [hs] at h
      obtain ⟨h1, h2⟩ := topLevelScan_ok _ _ _ _ _ hs
      simp only at h
      match elems, h1, h with
      | [], _, h => cases h
      | [x], h1, h =>
        cases h
        exact ⟨by simpa [Builder.parsed] using h1.symm, by simpa [Builder.parsed] using h2⟩
      | _ :: _ :: _, _, h => simp only at h; split at h <;> cases h
  · unfold Builder.unclosed at h; split at h <;> cases h

theorem build_document_wellFormed {len : Nat} {env : Env} {ts : List Token} {lexErr : Option Nat} {p : Parsed}
    (h : build .document len env ts lexErr = .ok p) : WellFormedTop p.tree := by
  unfold build at h
  split at h
  · cases h
  · cases h
  · exact finishDocument_wellFormed h

/-- The epilogues after a loop that ended at document level: the fragment is accepted as it is,
    the document when its top level is well formed. -/
theorem build_of_run {env : Env} {ts : List Token} {b : Builder} (len : Nat)
    (hrun : (Builder.new env).run ts none = .ok b) (hdoc : b.isCurrentDocument = true) :
    build .fragment len env ts none = .ok b.parsed ∧
      (WellFormedTop b.parsed.tree → build .document len env ts none = .ok b.parsed) := by
  unfold build
  rw [hrun]
  refine ⟨by simp only [Builder.finishFragment, hdoc, if_true], fun ⟨hcount, hnotext⟩ => ?_⟩
  simp only [Builder.finishDocument, hdoc, if_true]
  obtain ⟨es, hs, hl⟩ := topLevelScan_notext b.spans b.root.kids 0 [] hnotext
  rw [hs]
  match es, hl.trans (congrArg _ hcount) with
  | [x], _ => rfl

/-- An element that is still open at the end of the input is never accepted. -/
theorem unclosed_not_ok (b : Builder) (p : Parsed) : b.unclosed ≠ .ok p := by
  unfold Builder.unclosed; split <;> simp

theorem finish_not_ok_of_open {b : Builder} (h : b.isCurrentDocument = false) (len : Nat) (p : Parsed) :
    b.finishDocument len ≠ .ok p ∧ b.finishFragment ≠ .ok p := by
  unfold Builder.finishDocument Builder.finishFragment
  simp only [h, Bool.false_eq_true, if_false]
  exact ⟨unclosed_not_ok b p, unclosed_not_ok b p⟩

/-! ### xml:id normalisation -/

/-- Strip all leading spaces. -/
def trimLeft (s : Str) : Str := s.dropWhile (fun c => c == ' ')

/-- https://www.w3.org/TR/xml-id/#id-avn: strip leading and trailing space characters, replace
    sequences of spaces by a single space. -/
def xmlIdSpec (s : Str) : Str := collapseSpaces false (trimLeft (trimLeft s).reverse).reverse

theorem trimSpacesStart_eq (s : Str) : trimSpacesStart s = trimLeft s := by
  induction s with
  | nil => rfl
  | cons c cs ih =>
    by_cases hc : c = ' '
    · subst hc
      simp only [trimSpacesStart, trimLeft, List.dropWhile, beq_self_eq_true]
      exact ih
    · have hb : (c == ' ') = false := by simpa using hc
      have h1 : trimSpacesStart (c :: cs) = c :: cs := by
        unfold trimSpacesStart
        split
        · rename_i r heq; simp only [List.cons.injEq] at heq; exact absurd heq.1 hc
        · rfl
      rw [h1]
      simp [trimLeft, List.dropWhile, hb]

/-- `normalize_xml_id` is the normalisation of the xml:id specification. -/
theorem normalizeXmlId_spec (s : Str) : normalizeXmlId s = xmlIdSpec s := by
  unfold normalizeXmlId xmlIdSpec trimSpaces
  rw [trimSpacesStart_eq, trimSpacesStart_eq]

/-! ### References decode to XML characters only -/

theorem charOfNat?_toNat {n : Nat} {c : Char} (h : charOfNat? n = some c) : c.toNat = n := by
  unfold charOfNat? at h
  split at h
  · cases h
    simp [Char.toNat, Char.ofNatAux]
  · cases h

theorem named_are_xml : ∀ p ∈ Gen.namedEntities, isXmlCharCode p.2.toNat = true := by decide

theorem decodeEntity_xmlChar {ent : Str} {c : Char} (h : decodeEntity ent = some c) : isXmlCharCode c.toNat = true := by
  have hx : ∀ n, xmlCharOfNat? n = some c → isXmlCharCode c.toNat = true := by
    intro n hn
    unfold xmlCharOfNat? at hn
    split at hn
    · rename_i hok
      rw [charOfNat?_toNat hn]; exact hok
    · cases hn
  unfold decodeEntity at h
  split at h
  · split at h
    · cases h
    · cases hp : parseU32 16 _ with
      | none => rw [hp] at h; cases h
      | some n => rw [hp] at h; exact hx n h
    · cases hp : parseU32 10 _ with
      | none => rw [hp] at h; cases h
      | some n => rw [hp] at h; exact hx n h
  · unfold namedEntity at h
    exact named_are_xml (ent, c) (lookup_mem h)

theorem decodeEntity_signed (rest : Str) :
    decodeEntity ('#' :: '+' :: rest) = none ∧ decodeEntity ('#' :: 'x' :: '+' :: rest) = none := by
  constructor
  · simp [decodeEntity, parseU32, parseDigits, digitVal]
  · simp [decodeEntity, parseU32, parseDigits, digitVal]
/-! ### Text merging and name resolution -/

theorem addText_addText (b : Builder) (c1 c2 : Str) :
    (b.addText c1).1.addText c2 = b.addText (c1 ++ c2) := by
  unfold Builder.addText
  cases hr : b.cur.rkids with
  | nil => rfl
  | cons k more =>
    obtain ⟨v, ks⟩ := k
    cases v <;> first | rfl | (simp only [List.append_assoc]; rfl)

theorem lookupPrefix_cons (d : List (Nat × Nat)) (st : NsStack) (p : Nat) :
    lookupPrefix (d :: st) p = (match findInDecls p d with | some ns => some ns | none => lookupPrefix st p) := by
  simp only [lookupPrefix, List.findSome?]
  cases findInDecls p d <;> rfl

theorem lookup_xml_new (env : Env) : lookupPrefix (Builder.new env).nsStack Env.xmlPrefix = some Env.xmlNamespace := by
  rfl

theorem lookup_default_new (env : Env) : lookupPrefix (Builder.new env).nsStack Env.emptyPrefix = some Env.noNamespace := by
  rfl

theorem internPrefix_empty {e : Env} (h : e.prefixes.head? = some []) : e.internPrefix [] = (e, 0) := by
  cases hp : e.prefixes with
  | nil => simp [hp] at h
  | cons x xs =>
    simp only [hp, List.head?_cons, Option.some.injEq] at h
    subst h
    cases e
    simp only at hp
    subst hp
    simp [Env.internPrefix, internIn, List.idxOf, List.findIdx, List.findIdx.go]

/-- With the empty prefix at the head of the table, it alone has the id 0. -/
theorem internPrefix_zero_iff {e : Env} (h : e.prefixes.head? = some []) (p : Str) :
    (e.internPrefix p).2 = Env.emptyPrefix ↔ p = [] := by
  refine ⟨fun hz => ?_, fun hp => by rw [hp, internPrefix_empty h]; rfl⟩
  cases hp : e.prefixes with
  | nil => simp [hp] at h
  | cons x xs =>
    rw [hp, List.head?_cons, Option.some.injEq] at h
    have hz' : (x :: xs).idxOf p = 0 := hp ▸ hz
    rw [List.idxOf_cons] at hz'
    cases hx : x == p with
    | true => exact (beq_iff_eq.mp hx).symm.trans h
    | false => rw [hx] at hz'; cases hz'

theorem attributeNameId_unprefixed (env : Env) (stack : NsStack) (name : Str) (sp : Span)
    (h : env.prefixes.head? = some []) :
    attributeNameId env stack [] name sp = .ok (env.internName name Env.noNamespace) := by
  rw [attributeNameId_eq, internPrefix_empty h]
  rfl

/-- The last declaration of a prefix on one start tag is the one that is found. -/
theorem findInDecls_append (p ns : Nat) (l : List (Nat × Nat)) : findInDecls p (l ++ [(p, ns)]) = some ns := by
  simp [findInDecls]

end XotModel
