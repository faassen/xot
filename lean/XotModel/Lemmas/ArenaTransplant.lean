/-
  Lists of slots linked by one pointer field (`Links`: what the `Iter` / `DoubleEndedIter` walks and
  `rewrite_parents` follow) and `DetachedSiblingsRange::transplant`: closed forms for a chain and for
  the single node of `insert_with_neighbors`.  On a well-formed arena the transplant of a detached
  chain stores the list-level graft (`Rep.graft`); the insertion of one parentless node (`Rep.link`)
  is its case `K = [i]`.
-/
import XotModel.Lemmas.ArenaDetach

/-! ### Linked lists of slots; `rewrite_parents` and `transplant` of a chain in closed form

  The iterators walk such a list (`walk_links`, `walkTo_links`), `rewrite_parents` walks one along `next_sibling` and
  writes (`rewriteParents_chain`).  With it the range operations `NodeId::remove` uses on the children of the removed
  node: `detach_from_siblings` of a whole child list and `transplant` of a range.
-/

namespace XotModel
namespace Arena

/-- `parent := o` on every slot of the list. -/
def setParents (b : Arena) (ks : List Nat) (o : Option NodeId) : Arena :=
  ks.foldl (fun b c => b.mod c (fun s => { s with parent := o })) b

theorem slot_setParents (o : Option NodeId) : ∀ (ks : List Nat) (b : Arena) (j : Nat),
    (setParents b ks o).slot j = if j ∈ ks then (b.slot j).map (fun s => { s with parent := o }) else b.slot j
  | [], b, j => by simp [setParents]
  | c :: rest, b, j => by
    have ih := slot_setParents o rest (b.mod c (fun s => { s with parent := o })) j
    show (setParents (b.mod c (fun s => { s with parent := o })) rest o).slot j = _
    rw [ih, slot_mod]
    by_cases h1 : j ∈ rest
    · by_cases h2 : c = j
      · subst h2; simp only [h1, if_true, List.mem_cons, true_or]; cases b.slot c <;> simp
      · simp [h1, h2]
    · by_cases h2 : c = j
      · subst h2; simp [h1]
      · simp [h1, h2, Ne.symm h2]

theorem MetaEq.setParents (o : Option NodeId) : ∀ (ks : List Nat) (b : Arena), MetaEq b (setParents b ks o)
  | [], b => MetaEq.refl b
  | c :: rest, b =>
    (MetaEq.mod b c (f := fun s => { s with parent := o }) (fun s => ⟨rfl, rfl⟩)).trans
      (MetaEq.setParents o rest _)

theorem setParents_fuel (o : Option NodeId) : ∀ (ks : List Nat) (b : Arena), (setParents b ks o).fuel = b.fuel
  | [], b => rfl
  | c :: rest, b => by
    show (setParents (b.mod c _) rest o).fuel = _
    rw [setParents_fuel o rest]; simp

/-- Along `l`, the field `next` of each slot of `b` holds the id (as `a` numbers them) of the slot that follows,
    nothing at the end. -/
def Links (b a : Arena) (next : Slot → Option NodeId) : List Nat → Prop
  | [] => True
  | c :: rest => (∃ s, b.slot c = some s ∧ next s = rest.head?.map a.idAt) ∧ Links b a next rest

theorem Links.congr {b b' a : Arena} {next : Slot → Option NodeId} : ∀ (ks : List Nat),
    (∀ c ∈ ks, b'.slot c = b.slot c) → Links b a next ks → Links b' a next ks
  | [], _, _ => trivial
  | c :: rest, h, ⟨⟨s, hs, hn⟩, hrest⟩ =>
    ⟨⟨s, by rw [h c (by simp)]; exact hs, hn⟩,
     Links.congr rest (fun c' hc' => h c' (List.mem_cons_of_mem _ hc')) hrest⟩

/-- `Iter` (`ancestors`, `predecessors`, `reverse_children`) over a linked list, for every limit. -/
theorem walk_links (a : Arena) (next : Slot → Option NodeId) :
    ∀ (l : List Nat) (limit : Nat), Links a a next l →
      walk a next limit (l.head?.map a.idAt) = .done a ((l.take limit).map a.idAt)
  | _, 0, _ => by simp [walk]
  | [], _ + 1, _ => by simp [walk]
  | c :: rest, limit + 1, ⟨⟨s, hs, hn⟩, hrest⟩ => by
    simp only [List.head?_cons, Option.map_some]
    unfold walk
    simp only []
    rw [rd_idAt a a hs, hn, walk_links a next rest limit hrest]
    simp

/-- `DoubleEndedIter` forward (`children`, `following_siblings`, `preceding_siblings`) over a linked list
    without repetition, up to its last element, for every limit. -/
theorem walkTo_links (a : Arena) (next : Slot → Option NodeId) (last : Nat) :
    ∀ (l : List Nat) (limit : Nat), Links a a next l → l.Nodup → l.getLast? = some last →
      walkTo a next limit (l.head?.map a.idAt) (some (a.idAt last)) = .done a ((l.take limit).map a.idAt)
  | _, 0, _, _, _ => by simp [walkTo]
  | [], _ + 1, _, _, hl => by cases hl
  | [c], limit + 1, _, _, hl => by
    simp at hl; subst hl
    simp [walkTo]
  | c :: c' :: rest, limit + 1, ⟨⟨s, hs, hn⟩, hrest⟩, hnd, hl => by
    rw [List.getLast?_cons_cons] at hl
    have hne : c ≠ last := fun e => (List.nodup_cons.mp hnd).1 (e ▸ List.mem_of_getLast? hl)
    simp only [List.head?_cons, Option.map_some]
    unfold walkTo
    simp only [idAt_ne a hne, if_false]
    rw [rd_idAt a a hs, hn, walkTo_links a next last (c' :: rest) limit hrest (List.nodup_cons.mp hnd).2 hl]
    simp

/-- The `while let Some(child) = child_opt` loop of `rewrite_parents` along a chain. -/
theorem rewriteParents_chain (a : Arena) (o : Option NodeId) : ∀ (ks : List Nat) (b : Arena) (fuel : Nat),
    ks.length < fuel → ks.Nodup → (∀ c ∈ ks, some (a.idAt c) ≠ o) → Links b a (·.next) ks →
    rewriteParents fuel b (ks.head?.map a.idAt) o = .done (setParents b ks o) (.ok ())
  | [], b, fuel, hf, _, _, _ => by
    obtain ⟨n, rfl⟩ : ∃ n, fuel = n + 1 := ⟨fuel - 1, by simp at hf; omega⟩
    simp [rewriteParents, setParents]
  | c :: rest, b, fuel, hf, hnd, hne, ⟨⟨s, hs, hn⟩, hrest⟩ => by
    obtain ⟨n, rfl⟩ : ∃ n, fuel = n + 1 := ⟨fuel - 1, by simp at hf; omega⟩
    simp only [List.head?_cons, Option.map_some]
    unfold rewriteParents
    simp only []
    rw [if_neg (hne c (by simp))]
    have hs' : b.slot (a.idAt c).index0 = some s := hs
    rw [wr_some _ _ _ _ _ hs', idAt_index0]
    have hs1 : (b.mod c (fun s => { s with parent := o })).slot (a.idAt c).index0 = some { s with parent := o } := by
      rw [idAt_index0]; simp [hs]
    rw [rd_some _ _ _ _ hs1]
    simp only [hn]
    have hc : c ∉ rest := (List.nodup_cons.mp hnd).1
    rw [rewriteParents_chain a o rest _ n (by simp at hf; omega) (List.nodup_cons.mp hnd).2
      (fun c' hc' => hne c' (List.mem_cons_of_mem _ hc'))
      (Links.congr rest (fun c' hc' => by
        have : c ≠ c' := fun e => hc (e ▸ hc')
        simp [this]) hrest)]
    rfl

/-- `detach_from_siblings` of a full child list (`first` has no previous, `last` no next sibling). -/
theorem detachFromSiblings_all_eq (a : Arena) (first last : NodeId) (sf sl : Slot)
    (hf : a.slot first.index0 = some sf) (hfp : sf.prev = none) (hl : a.slot last.index0 = some sl)
    (hln : sl.next = none) (hpr : InRange a sf.parent) :
    detachFromSiblings a first last =
      .done (a.modOpt sf.parent (fun s => { s with first := none, last := none })) () := by
  unfold detachFromSiblings
  rw [rd_some _ _ _ _ hf, wr_some _ _ _ _ _ hf]
  have e1 : a.mod first.index0 (fun s => { s with prev := none }) = a :=
    mod_id_of_fix hf (by cases sf; simp_all)
  rw [e1, rd_some _ _ _ _ hl, wr_some _ _ _ _ _ hl]
  have e2 : a.mod last.index0 (fun s => { s with next := none }) = a :=
    mod_id_of_fix hl (by cases sl; simp_all)
  rw [e2, hfp, hln, connectNeighbors_eq _ _ _ _ hpr (InRange.none a) (InRange.none a)]
  simp [unlink, newFirst, newLast]

theorem InRange.setParents {b : Arena} {x : Option NodeId} (h : InRange b x) (ks : List Nat) (o : Option NodeId) :
    InRange (setParents b ks o) x := by
  intro id hid
  obtain ⟨s, hs⟩ := h id hid
  rw [slot_setParents]
  split
  · exact ⟨_, by rw [hs]; rfl⟩
  · exact ⟨s, hs⟩

/-- `DetachedSiblingsRange { first, last }.transplant` of a chain `ks`. -/
theorem transplant_chain_eq (a b : Arena) (ks : List Nat) (c1 ck : Nat) (P V N : Option NodeId)
    (hhead : ks.head? = some c1) (hnd : ks.Nodup) (hne : ∀ c ∈ ks, some (a.idAt c) ≠ P)
    (hchain : Links b a (·.next) ks) (hlen : ks.length < b.fuel)
    (hP : InRange b P) (hV : InRange b V) (hN : InRange b N)
    (h1 : InRange b (some (a.idAt c1))) (hk : InRange b (some (a.idAt ck))) :
    transplant b (a.idAt c1) (a.idAt ck) P V N =
      .done (unlink (unlink (setParents b ks P) P V (some (a.idAt c1))) P (some (a.idAt ck)) N) (.ok ()) := by
  unfold transplant
  have := rewriteParents_chain a P ks b b.fuel hlen hnd hne hchain
  rw [hhead] at this
  simp only [Option.map_some] at this
  rw [this]
  simp only [Step.bind_done]
  rw [connectNeighbors_eq _ _ _ _ (hP.setParents _ _) (hV.setParents _ _) (h1.setParents _ _)]
  simp only [Step.bind_done]
  rw [connectNeighbors_eq _ _ _ _ ((hP.setParents _ _).unlink _ _ _) ((hk.setParents _ _).unlink _ _ _)
    ((hN.setParents _ _).unlink _ _ _)]
  rfl

end Arena
end XotModel

/-! ### `insert_with_neighbors` of a parentless node in closed form

  `insert_with_neighbors(new, Some(parent), prev, next)`: three slots besides `new` are written.
-/

namespace XotModel
namespace Arena

/-- The writes of `transplant` of the single node `x` under `pid` between `prev` and `next`. -/
def linkArena (a : Arena) (x pid : NodeId) (prev next : Option NodeId) : Arena :=
  unlink (unlink (a.mod x.index0 (fun s => { s with parent := some pid })) (some pid) prev (some x))
    (some pid) (some x) next

theorem transplant_single_eq (a : Arena) (x pid : NodeId) (prev next : Option NodeId) (s : Slot)
    (hs : a.slot x.index0 = some s) (hsn : s.next = none) (hxp : x ≠ pid)
    (hp : InRange a (some pid)) (hv : InRange a prev) (hn : InRange a next) :
    transplant a x x (some pid) prev next = .done (linkArena a x pid prev next) (.ok ()) := by
  unfold transplant
  obtain ⟨n, hn2⟩ : ∃ n, a.fuel = n + 2 := ⟨a.fuel - 2, by have := two_le_fuel hs; omega⟩
  rw [hn2]
  unfold rewriteParents
  have hne : (some x = some pid) = False := by simp [hxp]
  simp only [hne, if_false]
  rw [wr_some _ _ _ _ _ hs]
  have hs1 : (a.mod x.index0 (fun s => { s with parent := some pid })).slot x.index0 = some { s with parent := some pid } := by
    simp [hs]
  rw [rd_some _ _ _ _ hs1]
  simp only [hsn]
  unfold rewriteParents
  simp only [Step.bind_done]
  have hx1 : InRange (a.mod x.index0 (fun s => { s with parent := some pid })) (some x) := by
    intro id h; cases h; exact ⟨_, hs1⟩
  rw [connectNeighbors_eq _ _ _ _ (hp.mod _ _) (hv.mod _ _) hx1]
  simp only [Step.bind_done]
  rw [connectNeighbors_eq _ _ _ _ ((hp.mod _ _).unlink _ _ _) (hx1.unlink _ _ _) ((hn.mod _ _).unlink _ _ _)]
  rfl

theorem insertWithNeighbors_eq (a : Arena) (x pid : NodeId) (prev next : Option NodeId) (s : Slot)
    (hs : a.slot x.index0 = some s) (hsp : s.parent = none) (hsv : s.prev = none) (hsn : s.next = none)
    (hxp : x ≠ pid) (hxv : prev ≠ some x) (hxn : next ≠ some x)
    (hp : InRange a (some pid)) (hv : InRange a prev) (hn : InRange a next) :
    insertWithNeighbors a x (some pid) prev next = .done (linkArena a x pid prev next) (.ok ()) := by
  unfold insertWithNeighbors
  have h1 : (prev = some x || next = some x) = false := by simp [hxv, hxn]
  have h2 : (some pid = some x) = False := by simp [Ne.symm hxp]
  simp only [h1, Bool.false_eq_true, if_false, h2]
  rw [detachFromSiblings_self_eq a x s hs (by rw [hsp]; exact InRange.none a) (by rw [hsv]; exact InRange.none a)
    (by rw [hsn]; exact InRange.none a)]
  have hsame : unlink (a.mod x.index0 clearSib) s.parent s.prev s.next = a := by
    rw [hsp, hsv, hsn]
    simp only [unlink, modOpt_none]
    exact mod_id_of_fix hs (by cases s; simp_all [clearSib])
  rw [hsame]
  simp only [Step.bind_done]
  rw [transplant_single_eq a x pid prev next s hs hsn hxp hp hv hn]
  rfl

end Arena
end XotModel

/-! ### The transplant of a detached chain on a well-formed arena

  A detached sibling chain `K` — one parentless node (`insert_with_neighbors`) or all the children of a parentless
  node (`remove`) — is placed under a live parent `p` between the end of `L` and the start of `R` (`kids p = L ++ R`),
  `p` below no member of `K`.
-/

namespace XotModel
namespace Arena

/-- First child of the parent after the two `connect_neighbors` that place the chain `K` (first `c1`,
    last `ck`) between `L` and `R`. -/
theorem newFirst_graft (f : Nat → NodeId) (L K R : List Nat) (c1 ck : Nat) (h : K.head? = some c1) :
    newFirst (newFirst ((L ++ R).head?.map f) (L.getLast?.map f) (some (f c1))) (some (f ck)) (R.head?.map f)
      = (L ++ (K ++ R)).head?.map f := by
  cases L with
  | nil =>
    cases K with
    | nil => cases h
    | cons y K' => cases h; rfl
  | cons y L' =>
    cases hl : (y :: L').getLast? with
    | none => simp at hl
    | some l => rfl

theorem newLast_graft (f : Nat → NodeId) (L K R : List Nat) (c1 ck : Nat) (h : K.getLast? = some ck) :
    newLast (newLast ((L ++ R).getLast?.map f) (L.getLast?.map f) (some (f c1))) (some (f ck)) (R.head?.map f)
      = (L ++ (K ++ R)).getLast?.map f := by
  cases R with
  | nil => simp [newLast, h]
  | cons y R' =>
    simp only [newLast, List.head?_cons, Option.map_some, List.getLast?_append]
    cases hl : (y :: R').getLast? with
    | none => simp at hl
    | some l => simp

/-- List-level transplant of the sibling chain `K` — all the children of `d`, or one parentless node when
    `d = none` — under `p` between `L` and `R`. -/
def Shape.graft (g : Shape) (d : Option Nat) (K : List Nat) (p : Nat) (L R : List Nat) : Shape :=
  ⟨fun j => if j ∈ K then some p else g.par j,
   fun q => if q = p then L ++ K ++ R else if d = some q then [] else g.kids q, g.free⟩

/-- The writes of `detach_from_siblings` (on the old parent) and `transplant` for the chain `K`. -/
def graftArena (a : Arena) (d : Option Nat) (p c1 ck : Nat) (V N : Option NodeId) (K : List Nat) : Arena :=
  unlink (unlink (setParents (a.modOpt (d.map a.idAt) (fun s => { s with first := none, last := none })) K
    (some (a.idAt p))) (some (a.idAt p)) V (some (a.idAt c1))) (some (a.idAt p)) (some (a.idAt ck)) N

theorem MetaEq.graftArena (a : Arena) (d : Option Nat) (p c1 ck : Nat) (V N : Option NodeId) (K : List Nat) :
    MetaEq a (graftArena a d p c1 ck V N K) :=
  (MetaEq.modOpt a _ (f := fun s => { s with first := none, last := none }) (fun _ => ⟨rfl, rfl⟩)).trans
    ((MetaEq.setParents _ K _).trans ((MetaEq.unlink _ _ _ _).trans (MetaEq.unlink _ _ _ _)))

theorem slot_graftArena (a : Arena) (d : Option Nat) (p c1 ck : Nat) (v n : Option Nat) (K : List Nat)
    (hpd : d ≠ some p) (j : Nat) :
    (graftArena a d p c1 ck (v.map a.idAt) (n.map a.idAt) K).slot j = (a.slot j).map fun s => { s with
      parent := if j ∈ K then some (a.idAt p) else s.parent
      prev := if n = some j then some (a.idAt ck) else if c1 = j then v.map a.idAt else s.prev
      next := if ck = j then n.map a.idAt else if v = some j then some (a.idAt c1) else s.next
      first := if p = j then newFirst (newFirst s.first (v.map a.idAt) (some (a.idAt c1)))
          (some (a.idAt ck)) (n.map a.idAt)
        else if d = some j then none else s.first
      last := if p = j then newLast (newLast s.last (v.map a.idAt) (some (a.idAt c1)))
          (some (a.idAt ck)) (n.map a.idAt)
        else if d = some j then none else s.last } := by
  unfold graftArena
  rw [slot_unlink_unlink, slot_setParents, slot_modOpt_map]
  by_cases hd : d = some j
  · have hpj : p ≠ j := fun e => hpd (e ▸ hd)
    by_cases hjK : j ∈ K
    · rw [if_pos hjK, if_pos hd, Option.map_map, Option.map_map]
      congr 1; funext s; simp [hd, hjK, hpj]
    · rw [if_neg hjK, if_pos hd, Option.map_map]
      congr 1; funext s; simp [hd, hjK, hpj]
  · by_cases hjK : j ∈ K
    · rw [if_pos hjK, if_neg hd, Option.map_map]
      congr 1; funext s; by_cases h2 : p = j <;> simp [hd, h2, hjK]
    · rw [if_neg hjK, if_neg hd]
      congr 1; funext s; by_cases h2 : p = j <;> simp [hd, h2, hjK]

/-- Paths after re-parenting `K` to `p`: from a node below no member of `K` nothing changes. -/
theorem Reach.graft_up {par : Nat → Option Nat} {K : List Nat} {p u v : Nat} (hu : ∀ k ∈ K, ¬ Reach par u k)
    (h : Reach (fun j => if j ∈ K then some p else par j) u v) : Reach par u v := by
  induction h with
  | refl => exact .refl _
  | @step c q d hc _ ih =>
    simp only [if_neg (fun hm => hu c hm (.refl _))] at hc
    exact .step hc (ih (fun k hk hr => hu k hk (.step hc hr)))

theorem Reach.graft {par : Nat → Option Nat} {K : List Nat} {p u v : Nat} (hp : ∀ k ∈ K, ¬ Reach par p k)
    (h : Reach (fun j => if j ∈ K then some p else par j) u v) :
    Reach par u v ∨ (∃ c ∈ K, Reach par u c ∧ Reach par p v) := by
  induction h with
  | refl => exact Or.inl (.refl _)
  | @step c q d hc hr ih =>
    by_cases hcK : c ∈ K
    · simp only [if_pos hcK, Option.some.injEq] at hc
      subst hc
      exact Or.inr ⟨c, hcK, .refl _, Reach.graft_up hp hr⟩
    · simp only [if_neg hcK] at hc
      rcases ih with ih | ⟨c', hc', h1, h2⟩
      · exact Or.inl (.step hc ih)
      · exact Or.inr ⟨c', hc', .step hc h1, h2⟩

/-- `transplant` of a detached sibling chain stores the list-level graft. -/
theorem Rep.graft {a : Arena} {g : Shape} (r : Rep a g) (d : Option Nat) (K : List Nat) (p : Nat) (L R : List Nat)
    (c1 ck : Nat) (hKpar : ∀ c ∈ K, g.par c = d) (hKlive : ∀ c ∈ K, Live a c)
    (hdon : ∀ i, d = some i → g.kids i = K ∧ g.par i = none) (hone : d = none → K = [c1])
    (hhead : K.head? = some c1) (hlast : K.getLast? = some ck)
    (hpl : Live a p) (hpd : d ≠ some p) (hk : g.kids p = L ++ R) (hanc : ∀ c ∈ K, ¬ Reach g.par p c) :
    Rep (graftArena a d p c1 ck (L.getLast?.map a.idAt) (R.head?.map a.idAt) K) (g.graft d K p L R) := by
  have hnd : (L ++ R).Nodup := hk ▸ r.kidsNodup p
  have hnd' := List.nodup_append.mp hnd
  have hKnd : K.Nodup := by
    cases d with
    | none => rw [hone rfl]; exact List.nodup_cons.mpr ⟨List.not_mem_nil, List.nodup_nil⟩
    | some i => exact (hdon i rfl).1 ▸ r.kidsNodup i
  have hpK : p ∉ K := fun hm => hanc p hm (.refl _)
  have hLp : ∀ y, y ∈ L → y ∈ g.kids p := fun y h => hk ▸ List.mem_append_left _ h
  have hRp : ∀ y, y ∈ R → y ∈ g.kids p := fun y h => hk ▸ List.mem_append_right _ h
  have hKp : ∀ y, y ∈ K → y ∉ g.kids p := fun y h1 h2 =>
    hpd ((hKpar y h1).symm.trans (r.kidsLive p y h2).2.2)
  have hdkid : ∀ i, d = some i → ∀ q, i ∉ g.kids q := fun i hi => r.root_not_kid (hdon i hi).2
  -- inside `K` the sibling pointers form the chain
  have hchain : ∀ j ∈ K, ∀ sj, PtrOk a g j sj →
      ∃ K1 K2, K = K1 ++ j :: K2 ∧ sj.prev = K1.getLast?.map a.idAt ∧ sj.next = K2.head?.map a.idAt := by
    intro j hj sj Pj
    cases d with
    | none =>
      have hp0 : g.par j = none := hKpar j hj
      rw [hone rfl] at hj ⊢
      cases List.mem_singleton.mp hj
      exact ⟨[], [], rfl, (Pj.root hp0).1, (Pj.root hp0).2⟩
    | some i =>
      obtain ⟨K1, K2, e1, e2, e3⟩ := Pj.sib i (hKpar j hj)
      exact ⟨K1, K2, (hdon i rfl).1 ▸ e1, e2, e3⟩
  have hM := MetaEq.graftArena a d p c1 ck (L.getLast?.map a.idAt) (R.head?.map a.idAt) K
  have hslot := slot_graftArena a d p c1 ck L.getLast? R.head? K hpd
  generalize graftArena a d p c1 ck (L.getLast?.map a.idAt) (R.head?.map a.idAt) K = D at hM hslot
  have hidAt : D.idAt = a.idAt := funext hM.idAt
  refine ⟨hM.stampRange r.stampRange, hM.dataLive r.dataLive, hM.freeOk r.free, ?_, ?_, ?_, ?_, ?_⟩
  · -- kidsLive
    intro q c hc
    simp only [Shape.graft] at hc ⊢
    by_cases hq : q = p
    · rw [if_pos hq] at hc
      rw [hq]
      refine ⟨(hM.live _).mpr hpl, ?_, ?_⟩
      · rcases List.mem_append.mp hc with h | h
        · rcases List.mem_append.mp h with h | h
          · exact (hM.live _).mpr (r.live_kid p c (hLp c h))
          · exact (hM.live _).mpr (hKlive c h)
        · exact (hM.live _).mpr (r.live_kid p c (hRp c h))
      · by_cases hcK : c ∈ K
        · rw [if_pos hcK]
        · rw [if_neg hcK]
          rcases List.mem_append.mp hc with h | h
          · rcases List.mem_append.mp h with h | h
            · exact (r.kidsLive p c (hLp c h)).2.2
            · exact absurd h hcK
          · exact (r.kidsLive p c (hRp c h)).2.2
    · rw [if_neg hq] at hc
      by_cases hqd : d = some q
      · rw [if_pos hqd] at hc; cases hc
      · rw [if_neg hqd] at hc
        obtain ⟨l1, l2, l3⟩ := r.kidsLive q c hc
        have hcK : c ∉ K := fun hm => hqd ((hKpar c hm).symm.trans l3)
        exact ⟨(hM.live _).mpr l1, (hM.live _).mpr l2, by rw [if_neg hcK]; exact l3⟩
  · -- parKids
    intro c q hcq
    simp only [Shape.graft] at hcq ⊢
    by_cases hcK : c ∈ K
    · rw [if_pos hcK] at hcq
      cases hcq
      exact ⟨(hM.live _).mpr (hKlive c hcK), by
        rw [if_pos rfl]; exact List.mem_append_left _ (List.mem_append_right _ hcK)⟩
    · rw [if_neg hcK] at hcq
      obtain ⟨l1, l2⟩ := r.parKids c q hcq
      refine ⟨(hM.live _).mpr l1, ?_⟩
      by_cases hq : q = p
      · rw [if_pos hq]
        rw [hq, hk] at l2
        rcases List.mem_append.mp l2 with h | h
        · exact List.mem_append_left _ (List.mem_append_left _ h)
        · exact List.mem_append_right _ h
      · rw [if_neg hq]
        by_cases hqd : d = some q
        · exact absurd ((hdon q hqd).1 ▸ l2) hcK
        · rw [if_neg hqd]; exact l2
  · -- kidsNodup
    intro q
    simp only [Shape.graft]
    by_cases hq : q = p
    · rw [if_pos hq]
      refine List.nodup_append.mpr ⟨List.nodup_append.mpr ⟨hnd'.1, hKnd, ?_⟩, hnd'.2.1, ?_⟩
      · intro y hy z hz e; exact hKp z hz (e ▸ hLp y hy)
      · intro y hy z hz e
        rcases List.mem_append.mp hy with h | h
        · exact hnd'.2.2 y h z hz e
        · exact hKp y h (e ▸ hRp z hz)
    · rw [if_neg hq]
      by_cases hqd : d = some q
      · rw [if_pos hqd]; exact List.nodup_nil
      · rw [if_neg hqd]; exact r.kidsNodup q
  · -- acyclic
    intro c q hcq hreach
    simp only [Shape.graft] at hcq hreach
    by_cases hcK : c ∈ K
    · rw [if_pos hcK] at hcq
      cases hcq
      exact hanc c hcK (Reach.graft_up hanc hreach)
    · simp only [if_neg hcK] at hcq
      rcases Reach.graft hanc hreach with h | ⟨c', hc', h1, h2⟩
      · exact r.acyclic c q hcq h
      · exact hanc c' hc' (h2.trans (.step hcq h1))
  · -- ptrs
    intro j s' hs' h0'
    obtain ⟨sj, hsj, h0j⟩ := (hM.live j).mp ⟨s', hs', h0'⟩
    have Pj := r.ptrs j sj hsj h0j
    rw [hslot, hsj] at hs'
    cases hs'
    by_cases h1 : p = j
    · -- the new parent
      have hjK : j ∉ K := h1 ▸ hpK
      have hjd : d ≠ some j := h1 ▸ hpd
      have hl : L.getLast? ≠ some j := fun h => r.kid_ne (hLp j (List.mem_of_getLast? h)) h1.symm
      have hr : R.head? ≠ some j := fun h => r.kid_ne (hRp j (List.mem_of_mem_head? h)) h1.symm
      have hc1 : c1 ≠ j := fun e => hjK (e ▸ List.mem_of_mem_head? hhead)
      have hck : ck ≠ j := fun e => hjK (e ▸ List.mem_of_getLast? hlast)
      refine Pj.newKids hidAt (by simp only [Shape.graft, if_neg hjK]) ?_ ?_ ?_ ?_ ?_ ?_
      · intro q hq
        simp only [Shape.graft]
        rw [if_neg (fun e => r.par_ne hq (e.trans h1)), if_neg (fun (e : d = some q) => ?_)]
        -- `q`, the parent of `p`, is not the old parent of `K`: `p` would be a member of `K`
        exact hjK ((hdon q e).1 ▸ (r.parKids j q hq).2)
      · simp only [if_neg hjK]
      · simp only [if_neg hr, if_neg hc1]
      · simp only [if_neg hl, if_neg hck]
      · simp only [Shape.graft, Pj.first, ← h1, hk, List.append_assoc]
        exact newFirst_graft _ L _ R c1 ck hhead
      · simp only [Shape.graft, Pj.last, ← h1, hk, List.append_assoc]
        exact newLast_graft _ L _ R c1 ck hlast
    · have hjp : j ≠ p := fun e => h1 e.symm
      by_cases h3 : j ∈ K
      · -- a moved node
        have hjd : d ≠ some j := fun e => hdkid j e _ ((hdon j e).1 ▸ h3)
        have hl : L.getLast? ≠ some j := fun h => hKp j h3 (hLp j (List.mem_of_getLast? h))
        have hr : R.head? ≠ some j := fun h => hKp j h3 (hRp j (List.mem_of_mem_head? h))
        obtain ⟨K1, K2, e1, e2, e3⟩ := hchain j h3 sj Pj
        refine Pj.embed (p := p) (L := L) (R := R) hidAt e1 hKnd hhead hlast e2 e3
          (by simp only [Shape.graft, if_pos h3]) (by simp only [Shape.graft, if_true])
          (by simp only [Shape.graft, if_neg hjp, if_neg hjd]) ?_ ?_ ?_ ?_ ?_
        · simp only [if_pos h3]
        · simp only [if_neg h1, if_neg hjd]
        · simp only [if_neg h1, if_neg hjd]
        · simp only [if_neg hr]
        · simp only [if_neg hl]
      · have hc1 : c1 ≠ j := fun e => h3 (e ▸ List.mem_of_mem_head? hhead)
        have hck : ck ≠ j := fun e => h3 (e ▸ List.mem_of_getLast? hlast)
        by_cases h5 : d = some j
        · -- the old parent, now childless
          have hl : L.getLast? ≠ some j := fun h => hdkid j h5 p (hLp j (List.mem_of_getLast? h))
          have hr : R.head? ≠ some j := fun h => hdkid j h5 p (hRp j (List.mem_of_mem_head? h))
          refine Pj.newKids hidAt (by simp only [Shape.graft, if_neg h3]) ?_ ?_ ?_ ?_ ?_ ?_
          · intro q hq; rw [(hdon j h5).2] at hq; cases hq
          · simp only [if_neg h3]
          · simp only [if_neg hr, if_neg hc1]
          · simp only [if_neg hl, if_neg hck]
          · simp only [Shape.graft, if_neg h1, if_neg hjp, if_pos h5]; rfl
          · simp only [Shape.graft, if_neg h1, if_neg hjp, if_pos h5]; rfl
        · by_cases hjk : j ∈ g.kids p
          · -- a new sibling of the moved nodes
            have hparj : g.par j = some p := (r.kidsLive p j hjk).2.2
            refine Pj.seam (p := p) (M := []) (M' := K) (L := L) (R := R) hidAt hparj
              (by rw [hk, List.append_nil]) (r.kidsNodup p)
              (List.mem_append.mp (hk ▸ hjk)) (by simp only [Shape.graft, if_neg h3, hparj])
              (by simp only [Shape.graft, if_true])
              (by simp only [Shape.graft, if_neg hjp, if_neg h5]) ?_ ?_ ?_ ?_ ?_
            · simp only [if_neg h3]
            · simp only [if_neg h1, if_neg h5]
            · simp only [if_neg h1, if_neg h5]
            · simp only [if_neg hc1, List.getLast?_append, hlast, Option.some_or, Option.map_some]
            · cases hK : K with
              | nil => rw [hK] at hhead; cases hhead
              | cons y K' =>
                rw [hK] at hhead
                cases hhead
                simp only [if_neg hck, List.cons_append, List.head?_cons, Option.map_some]
          · -- an unrelated slot
            have hl : L.getLast? ≠ some j := fun h => hjk (hLp j (List.mem_of_getLast? h))
            have hr : R.head? ≠ some j := fun h => hjk (hRp j (List.mem_of_mem_head? h))
            simp only [if_neg h1, if_neg h3, if_neg h5, if_neg hl, if_neg hr, if_neg hc1, if_neg hck]
            refine Pj.transfer r hM.idAgree (by simp only [Shape.graft, if_neg h3])
              (by simp only [Shape.graft, if_neg hjp, if_neg h5]) ?_
            intro q hq
            simp only [Shape.graft]
            rw [if_neg fun (e : q = p) => hjk (e ▸ (r.parKids j q hq).2),
              if_neg fun (e : d = some q) => h3 ((hdon q e).1 ▸ (r.parKids j q hq).2)]

end Arena
end XotModel

/-! ### The insertion of one parentless node

  `i` parentless and live, `p` live, `kids p = L ++ R`, `i` not an ancestor of `p`.
-/

namespace XotModel
namespace Arena

/-- List-level insertion of the parentless node `i` under `p` between `L` and `R`. -/
def Shape.link (g : Shape) (p : Nat) (L : List Nat) (i : Nat) (R : List Nat) : Shape :=
  ⟨fun j => if j = i then some p else g.par j, fun q => if q = p then L ++ i :: R else g.kids q, g.free⟩

theorem Shape.graft_link (g : Shape) (i p : Nat) (L R : List Nat) :
    g.graft none [i] p L R = g.link p L i R := by
  simp [Shape.graft, Shape.link]

theorem graftArena_link (a : Arena) (i p : Nat) (V N : Option NodeId) :
    graftArena a none p i i V N [i] = linkArena a (a.idAt i) (a.idAt p) V N := by
  simp [graftArena, linkArena, setParents]

theorem MetaEq.linkArena (a : Arena) (x pid : NodeId) (prev next : Option NodeId) :
    MetaEq a (linkArena a x pid prev next) := by
  unfold Arena.linkArena
  exact (MetaEq.mod a x.index0 (f := fun s => { s with parent := some pid }) (fun s => ⟨rfl, rfl⟩)).trans
    ((MetaEq.unlink _ (some pid) prev (some x)).trans (MetaEq.unlink _ (some pid) (some x) next))

/-- Insertion of a parentless live node stores the list-level insertion. -/
theorem Rep.link {a : Arena} {g : Shape} (r : Rep a g) (i p : Nat) (L R : List Nat)
    (hil : Live a i) (hroot : g.par i = none) (hpl : Live a p)
    (hk : g.kids p = L ++ R) (hanc : ¬ Reach g.par p i) :
    Rep (linkArena a (a.idAt i) (a.idAt p) (L.getLast?.map a.idAt) (R.head?.map a.idAt)) (g.link p L i R) := by
  rw [← graftArena_link, ← Shape.graft_link]
  exact r.graft none [i] p L R i i (fun c hc => by cases List.mem_singleton.mp hc; exact hroot)
    (fun c hc => by cases List.mem_singleton.mp hc; exact hil) (fun j hj => by cases hj) (fun _ => rfl) rfl rfl hpl
    (fun e => by cases e) hk (fun c hc => by cases List.mem_singleton.mp hc; exact hanc)

end Arena
end XotModel
