/-
  The two halves every move shares, for every forest with the invariant (pair reading,
  `Model/FspecSpec3.lean`): `OldP`, the outcome of the old-place consolidation, with `specMoveP` in
  terms of the state after that step; `Stage`, the forest after that step and the forest after the
  cut in the three geometries of the moved node, with `Stage.addConsolidate_outcome`, the
  consolidation at the new place, and `Stage.moveTail`, the second half of every move
  (`Forest.moveTail` of `ManipShape.lean`).
-/
import XotModel.Lemmas.FspecPair
import XotModel.Lemmas.FspecContent

/-! ## The old-place half: `OldP` -/

namespace XotModel
open HTree Spec

/-- The state `X` after the old-place consolidation around the child `t` of `po` (child list
    `l1 ++ t :: r1` there), and the function `M` the pair specification applies to the old child
    list after the cut. -/
structure OldP (f : Forest) (po : Nat) (vo : Value) (l : List HTree) (t : HTree) (r : List HTree) (X : Forest)
    (l1 r1 : List HTree) (M : List HTree → List HTree) : Prop where
  site : SiteAt X po vo (l1 ++ t :: r1)
  eqX : X = f.editAt (some po) (fun _ => l1 ++ t :: r1)
  spec : ∀ g : Forest, g.consolidation = f.consolidation →
    g.mergeLeftAt (some po) (f.nbOf t.handle) = g.editAt (some po) M
  nat : ∀ φ, KidMap φ → NatFor φ M
  far : M (l ++ r) = l1 ++ r1
  sub : (handlesList (l1 ++ t :: r1)).Sublist (handlesList (l ++ t :: r))
  look : ∀ z, (∀ k ∈ l ++ r, k.value.isText = true → k.handle ≠ z) →
    findList? z (l1 ++ t :: r1) = findList? z (l ++ t :: r)
  cases : (l1 = l ∧ r1 = r ∧ X = f ∧ (∀ L', (∀ x ∈ L', x ∈ l ++ t :: r) → M L' = L') ∧
      (f.consolidation = true → ∀ a b, l.getLast? = some a → r.head? = some b →
        ¬ (a.value.isText = true ∧ b.value.isText = true))) ∨
    (∃ l' a b r' x y, l = l' ++ [a] ∧ r = b :: r' ∧ a.value = .text x ∧ b.value = .text y ∧
      f.consolidation = true ∧ l1 = l' ++ [a.setValue (.text (x ++ y))] ∧ r1 = r' ∧
      M = mergeAdj a.handle b.handle)

theorem oldP_same {f : Forest} {po : Nat} {vo : Value} {l : List HTree} {t : HTree} {r : List HTree}
    (so : SiteAt f po vo (l ++ t :: r))
    (h2 : f.consolidation = true → ∀ a b, l.getLast? = some a → r.head? = some b →
      ¬ (a.value.isText = true ∧ b.value.isText = true)) :
    ∃ M, OldP f po vo l t r f l r M ∧ ∀ L', (∀ x ∈ L', x ∈ l ++ t :: r) → M L' = L' := by
  obtain ⟨ndL, _⟩ := so.nodupKids
  have hsubset : ∀ k ∈ l ++ r, k ∈ l ++ t :: r := by
    intro k hk
    cases List.mem_append.1 hk with
    | inl h => exact List.mem_append_left _ h
    | inr h => exact List.mem_append_right _ (List.mem_cons_of_mem _ h)
  have heqX : f = f.editAt (some po) (fun _ => l ++ t :: r) := by
    rw [so.congr (g := fun _ => l ++ t :: r) (g' := id) rfl, Forest.editAt_id]
  have hnb := so.nbOf
  -- the identity serves whenever the specification merges nothing
  have viaId : (∀ g : Forest, g.consolidation = f.consolidation → g.mergeLeftAt (some po) (f.nbOf t.handle) = g) →
      ∃ M, OldP f po vo l t r f l r M ∧ ∀ L', (∀ x ∈ L', x ∈ l ++ t :: r) → M L' = L' := by
    intro h
    refine ⟨id, ⟨so, heqX, ?_, fun φ _ => natFor_id φ, rfl, List.Sublist.refl _, fun _ _ => rfl,
      Or.inl ⟨rfl, rfl, rfl, fun _ _ => rfl, h2⟩⟩, fun _ _ => rfl⟩
    intro g hg
    rw [h g hg, Forest.editAt_id]
  rcases Bool.eq_false_or_eq_true f.consolidation with hc | hc
  case inr =>
    exact viaId (fun g hg => Forest.mergeLeftAt_off (hg.trans hc) _ _)
  cases hl : l.getLast? with
  | none =>
    apply viaId
    intro g _
    rw [hnb, hl]
    exact Forest.mergeLeftAt_none_left g (some po) _
  | some a =>
    cases hr : r.head? with
    | none =>
      apply viaId
      intro g _
      rw [hnb, hr]
      exact Forest.mergeLeftAt_none_right g (some po) _
    | some b =>
      have hal : a ∈ l := List.mem_of_getLast? hl
      have hbr : b ∈ r := List.mem_of_mem_head? hr
      have hnoop : ∀ L', (∀ x ∈ L', x ∈ l ++ t :: r) → mergeAdj a.handle b.handle L' = L' := by
        intro L' hL'
        apply mergeAdj_noop
        intro x hx y hy ex ey
        rw [PairAfter.eq_of_handle ndL (hL' x hx) (List.mem_append_left _ hal) ex,
          PairAfter.eq_of_handle ndL (hL' y hy) (List.mem_append_right _ (List.mem_cons_of_mem _ hbr)) ey]
        exact h2 hc a b hl hr
      refine ⟨mergeAdj a.handle b.handle, ⟨so, heqX, ?_, fun φ hφ => natFor_mergeAdj hφ _ _, hnoop _ hsubset,
        List.Sublist.refl _, fun _ _ => rfl, Or.inl ⟨rfl, rfl, rfl, hnoop, h2⟩⟩, hnoop⟩
      intro g hg
      rw [hnb, hl, hr]
      simp only [Option.map_some]
      rw [Forest.mergeLeftAt_some, hg.trans hc]
      rfl

theorem oldP_merged {f : Forest} {po : Nat} {vo : Value} {l' : List HTree} {a t b : HTree} {r' : List HTree}
    {x y : Str} (so : SiteAt f po vo ((l' ++ [a]) ++ t :: b :: r'))
    (hleaf : ∀ k ∈ (l' ++ [a]) ++ t :: b :: r', k.value.isText = true → k.kids = [])
    (hc : f.consolidation = true) (hx : a.value = .text x) (hy : b.value = .text y) :
    OldP f po vo (l' ++ [a]) t (b :: r')
      (f.editAt (some po) (fun _ => l' ++ a.setValue (.text (x ++ y)) :: ([t] ++ r')))
      (l' ++ [a.setValue (.text (x ++ y))]) r' (mergeAdj a.handle b.handle) := by
  obtain ⟨ndL, _⟩ := so.nodupKids
  have hat : a.value.isText = true := by rw [hx]; rfl
  have hbt : b.value.isText = true := by rw [hy]; rfl
  have hbleaf : b.kids = [] := hleaf b (by simp) hbt
  have e0 : l' ++ a.setValue (.text (x ++ y)) :: ([t] ++ r') = (l' ++ [a.setValue (.text (x ++ y))]) ++ t :: r' := by
    simp
  have hsub := handlesList_merged_sublist l' a t b r' (.text (x ++ y))
  rw [e0]
  refine ⟨?_, rfl, ?_, fun φ hφ => natFor_mergeAdj hφ _ _, ?_, hsub, ?_, Or.inr ⟨l', a, b, r', x, y, rfl, rfl, hx,
    hy, hc, rfl, rfl, rfl⟩⟩
  · exact so.edit (fun _ => (l' ++ [a.setValue (.text (x ++ y))]) ++ t :: r') hsub
  · intro g hg
    rw [so.nbOf, List.getLast?_concat, List.head?_cons]
    simp only [Option.map_some]
    rw [Forest.mergeLeftAt_some, hg.trans hc]
    rfl
  · have e1 : (l' ++ [a]) ++ b :: r' = l' ++ a :: b :: r' := by simp
    have hl' : ∀ k ∈ l', k.handle ≠ a.handle := by
      have : (handlesList (l' ++ a :: (t :: b :: r'))).Nodup := by
        have e2 : l' ++ a :: (t :: b :: r') = (l' ++ [a]) ++ t :: b :: r' := by simp
        rw [e2]; exact ndL
      exact (tops_ne_of_nodup this).1
    rw [e1, mergeAdj_mid_text hx hy r' hl']
    simp
  · intro z hz
    exact findList?_merged l' t r' _ (hz a (by simp) hat) (hz b (by simp) hbt) hbleaf

namespace OldP

variable {f : Forest} {po : Nat} {vo : Value} {l : List HTree} {t : HTree} {r : List HTree} {X : Forest}
  {l1 r1 : List HTree} {M : List HTree → List HTree}

/-- The specification of the move of `t` to another parent `p`: cut from `X`, graft, merge at the
    new place. -/
theorem spec_far {dest : Dest} {p : Nat} (O : OldP f po vo l t r X l1 r1 M) (so : SiteAt f po vo (l ++ t :: r))
    (hne : po ≠ p) (hocc : dest.occupiedBy f t.handle = false) (hs : dest.site f = some p)
    (hnat : ∀ ψ, KidMap ψ → ψ t = t → NatFor ψ (dest.insert t)) :
    specMoveP dest t.handle f =
      ((X.editAt (some po) (dropTop t.handle)).editAt (some p) (dest.insert t)).mergeNewAt p t.handle := by
  obtain ⟨tl, tr⟩ := tops_ne_of_nodup so.nodupKids.1
  obtain ⟨tl1, tr1⟩ := tops_ne_of_nodup O.site.nodupKids.1
  rw [specMoveP_unfold hocc so.getKid hs, Forest.parent?_of_ctx? so.ctx]
  congr 1
  rw [O.spec _ (by rw [Forest.editAt_consolidation, Forest.editAt_consolidation]),
    Forest.editAt_comm _ hne (O.nat _ (kidMap_editAt _ _))
      (hnat _ (kidMap_editAt _ _) (editAt_of_not_mem t so.not_mem_kid)),
    Forest.editAt_editAt, O.eqX, Forest.editAt_editAt]
  congr 1
  apply so.congr
  simp only [Function.comp]
  rw [dropTop_mid rfl tl1 tr1, dropTop_mid rfl tl tr, O.far]

/-- The same within one child list; `hadj` is the list fact that the old-place merge commutes
    with the insertion (`I` inserts into the list after the old-place step; for `insert_after` its
    reference may differ from the specification's). -/
theorem spec_same {dest : Dest} {I : List HTree → List HTree} (O : OldP f po vo l t r X l1 r1 M)
    (so : SiteAt f po vo (l ++ t :: r)) (hocc : dest.occupiedBy f t.handle = false)
    (hs : dest.site f = some po) (hadj : M (dest.insert t (l ++ r)) = I (l1 ++ r1)) :
    specMoveP dest t.handle f = ((X.editAt (some po) (dropTop t.handle)).editAt (some po) I).mergeNewAt po t.handle := by
  obtain ⟨tl, tr⟩ := tops_ne_of_nodup so.nodupKids.1
  obtain ⟨tl1, tr1⟩ := tops_ne_of_nodup O.site.nodupKids.1
  rw [specMoveP_unfold hocc so.getKid hs, Forest.parent?_of_ctx? so.ctx,
    O.spec _ (by rw [Forest.editAt_consolidation, Forest.editAt_consolidation]), O.eqX]
  congr 1
  simp only [Forest.editAt_editAt]
  apply so.congr
  simp only [Function.comp]
  rw [dropTop_mid rfl tl tr, dropTop_mid rfl tl1 tr1, hadj]

/-- The destination parent `q ≠ po` seen after the old-place consolidation at `po`: its child
    list is the old one under a map that keeps handles and values. -/
theorem dest (O : OldP f po vo l t r X l1 r1 M) {q : Nat} {vq : Value}
    {Lq : List HTree} (so : SiteAt f po vo (l ++ t :: r)) (sq : SiteAt f q vq Lq) (hne : po ≠ q)
    (hvq : vq.isText = false) :
    SiteAt X q vq (Lq.map (HTree.editAt po (fun _ => l1 ++ t :: r1))) := by
  have hqtext : ∀ k ∈ l ++ r, k.value.isText = true → k.handle ≠ q := fun k hk htx =>
    PairAfter.text_ne_site sq hvq (PairAfter.site_getKid so (List.mem_append.2
      ((List.mem_append.1 hk).imp_right (List.mem_cons_of_mem _)))) htx
  have := so.other sq.kids hne.symm (fun _ => l1 ++ t :: r1) O.sub (O.look q hqtext)
  rwa [← O.eqX] at this

end OldP

theorem oldP {f : Forest} {po : Nat} {vo : Value} {l : List HTree} {t : HTree} {r : List HTree}
    (inv : f.Inv) (so : SiteAt f po vo (l ++ t :: r)) :
    ∃ X l1 r1 M, (f.removeConsolidate (prevOf l t) (nextOf r t)).1 = X ∧ OldP f po vo l t r X l1 r1 M := by
  have hvalid := so.valid inv.valid
  have hord := (validTree_node hvalid).2.1
  have hleafAll := so.leaf inv.valid
  have hleaf : ∀ k ∈ r, k.value.isText = true → k.kids = [] :=
    fun k hk => hleafAll k (List.mem_append_right _ (List.mem_cons_of_mem _ hk))
  have so' : SiteAt f po vo (l ++ ([t] ++ r)) := so
  rcases oldSite (k := t) so' hleaf (hcat_of_ordered hord) with ⟨h1, h2⟩ | ⟨hc, l', a, b, r', x, y, el, er, hx, hy, hp, hn, h3⟩
  · obtain ⟨M, O, _⟩ := oldP_same so h2
    exact ⟨f, l, r, M, by rw [h1], O⟩
  · subst el er
    exact ⟨_, _, _, _, by rw [h3], oldP_merged so hleafAll hc hx hy⟩

end XotModel

/-! ## The new-place half: `Stage` -/

namespace XotModel
open HTree Spec

namespace PairAppend

theorem natFor_mergeNewHead {φ : HTree → HTree} (hφ : KidMap φ) (t : HTree) (L : List HTree) :
    mergeNewHead (φ t) (L.map φ) = (mergeNewHead t L).map φ :=
  mergeNewHead_map hφ t L

theorem mem_insertFirstNormal {t x : HTree} : ∀ {L : List HTree}, x ∈ insertFirstNormal t L → x = t ∨ x ∈ L
  | [], h => by simp [insertFirstNormal] at h; exact Or.inl h
  | k :: ks, h => by
    simp only [insertFirstNormal] at h
    split at h
    · cases List.mem_cons.1 h with
      | inl e => exact Or.inl e
      | inr e => exact Or.inr e
    · cases List.mem_cons.1 h with
      | inl e => exact Or.inr (by rw [e]; simp)
      | inr e =>
        cases mem_insertFirstNormal e with
        | inl e' => exact Or.inl e'
        | inr e' => exact Or.inr (List.mem_cons_of_mem _ e')

theorem insertFirstNormal_append_normal (t : HTree) {a : HTree} (ha : a.value.isNormal = true) (R : List HTree) :
    ∀ l : List HTree, insertFirstNormal t (l ++ a :: R) = insertFirstNormal t l ++ a :: R
  | [] => by simp [insertFirstNormal, ha]
  | k :: ks => by
    simp only [List.cons_append, insertFirstNormal]
    split
    · rfl
    · rw [insertFirstNormal_append_normal t ha R ks]; rfl

/-! ### The specification's old-place merge and the inserted node -/

section
variable {f : Forest} {po : Nat} {vo : Value} {l : List HTree} {t : HTree} {r : List HTree}
  {X : Forest} {l1 r1 : List HTree} {M : List HTree → List HTree}

theorem adj_last (O : OldP f po vo l t r X l1 r1 M) (nd : (handlesList (l ++ t :: r)).Nodup) :
    M ((l ++ r) ++ [t]) = (l1 ++ r1) ++ [t] := by
  rcases O.cases with ⟨e1, e2, _, hnoop, _⟩ | ⟨l', a, b, r', x, y, el, er, hx, hy, _, e1, e2, eM⟩
  · rw [e1, e2]
    exact hnoop _ (fun x hx => by
      cases List.mem_append.1 hx with
      | inl e => exact List.mem_append.2 ((List.mem_append.1 e).imp_right (List.mem_cons_of_mem _))
      | inr e => rw [List.mem_singleton.1 e]; simp)
  · subst el er
    rw [e1, e2, eM]
    have nda : (handlesList (l' ++ a :: (t :: b :: r'))).Nodup := by
      have : l' ++ a :: (t :: b :: r') = (l' ++ [a]) ++ t :: b :: r' := by simp
      rw [this]; exact nd
    have e : ((l' ++ [a]) ++ b :: r') ++ [t] = l' ++ a :: b :: (r' ++ [t]) := by simp
    rw [e, mergeAdj_mid_text hx hy (r' ++ [t]) (tops_ne_of_nodup nda).1]
    simp

theorem adj_first (O : OldP f po vo l t r X l1 r1 M) (nd : (handlesList (l ++ t :: r)).Nodup) :
    M (insertFirstNormal t (l ++ r)) = insertFirstNormal t (l1 ++ r1) := by
  rcases O.cases with ⟨e1, e2, _, hnoop, _⟩ | ⟨l', a, b, r', x, y, el, er, hx, hy, _, e1, e2, eM⟩
  · rw [e1, e2]
    exact hnoop _ (fun x hx => by
      cases mem_insertFirstNormal hx with
      | inl e => rw [e]; simp
      | inr e => exact List.mem_append.2 ((List.mem_append.1 e).imp_right (List.mem_cons_of_mem _)))
  · subst el er
    rw [e1, e2, eM]
    have nda : (handlesList (l' ++ a :: (t :: b :: r'))).Nodup := by
      have : l' ++ a :: (t :: b :: r') = (l' ++ [a]) ++ t :: b :: r' := by simp
      rw [this]; exact nd
    obtain ⟨tl, tr⟩ := tops_ne_of_nodup nda
    have han : a.value.isNormal = true := by rw [hx]; rfl
    have han' : (a.setValue (.text (x ++ y))).value.isNormal = true := by rw [setValue_value]; rfl
    have e : (l' ++ [a]) ++ b :: r' = l' ++ a :: b :: r' := by simp
    have e' : (l' ++ [a.setValue (.text (x ++ y))]) ++ r' = l' ++ a.setValue (.text (x ++ y)) :: r' := by simp
    rw [e, e', insertFirstNormal_append_normal t han, insertFirstNormal_append_normal t han',
      mergeAdj_mid_text hx hy r' (fun k hk => by
        cases mem_insertFirstNormal hk with
        | inl h => rw [h]; exact tr t (by simp)
        | inr h => exact tl k h)]

end

/-! ### The package: `X` after xot's old-place consolidation, `Y` after the cut, the destination child list in `Y` -/

structure Stage (X Y : Forest) (p c : Nat) (t : HTree) (vp : Value) (LY : List HTree) : Prop where
  xnd : X.allHandles.Nodup
  xget : X.get? c = some t
  xcut : X.editAt (X.parent? c) (dropTop c) = Y
  ysite : SiteAt Y p vp LY
  ynot : ∀ k ∈ LY, k.handle ≠ c
  xtext : ∀ k ∈ LY, X.textOf k.handle = textData k
  flow : ∀ a v, IsTop a LY → a ≠ c → t.kids = [] →
    (X.setValue a v).spliceOut c = Y.editAt (some p) (replaceTop a (fun k => [k.setValue v]))

namespace Stage

theorem ycons {X Y : Forest} {p c : Nat} {t : HTree} {vp : Value} {LY : List HTree}
    (S : Stage X Y p c t vp LY) : Y.consolidation = X.consolidation := by
  rw [← S.xcut, Forest.editAt_consolidation]

/-- **The new-place half of every move.**  `t` is to stand between the children `A` and `B` of `p`
    (`I` is the insertion), `prev` / `next` are the neighbours `add_consolidate_text_nodes` is given.
    Either the helper does nothing, and then the pair merge of the specification does nothing to
    the plain insertion; or it merges `t` into a neighbour, and its result is the specification's
    insertion with the pair merge. -/
theorem addConsolidate_outcome {X Y : Forest} {p : Nat} {t : HTree} {vp : Value} {A B : List HTree}
    (S : Stage X Y p t.handle t vp (A ++ B)) (hleaf : t.value.isText = true → t.kids = [])
    {prev next : Option Nat}
    (hprev : ∀ ka, A.getLast? = some ka → ka.value.isText = true → prev = some ka.handle)
    (hprev' : ∀ a, prev = some a → ∃ ka, A.getLast? = some ka ∧ ka.handle = a)
    (hnext : (∀ ka, A.getLast? = some ka → ¬ ka.value.isText = true) →
      (∀ kb, B.head? = some kb → kb.value.isText = true → next = some kb.handle) ∧
      (∀ b, next = some b → ∃ kb, B.head? = some kb ∧ kb.handle = b))
    {I : List HTree → List HTree} (hI : I (A ++ B) = A ++ t :: B) :
    (X.addConsolidate t.handle prev next = (X, false) ∧
      (Y.editAt (some p) I).mergeNewAt p t.handle = Y.editAt (some p) I) ∨
    ((X.addConsolidate t.handle prev next).2 = true ∧
      (X.addConsolidate t.handle prev next).1 = (Y.editAt (some p) I).mergeNewAt p t.handle) := by
  obtain ⟨ndL, _⟩ := S.ysite.nodupKids
  have hYc : (Y.editAt (some p) I).consolidation = X.consolidation := by
    rw [Forest.editAt_consolidation, S.ycons]
  rcases addConsolidate_pair (X := X) (t := t) (A := A) (B := B) (prev := prev) (next := next) ndL
      (fun x hx => S.ynot x (List.mem_append_left _ hx)) (fun x hx => S.ynot x (List.mem_append_right _ hx))
      (Forest.textOf_of_get S.xget)
      (fun ka hka => S.xtext ka (List.mem_append_left _ (List.mem_of_getLast? hka)))
      (fun kb hkb => S.xtext kb (List.mem_append_right _ (List.mem_of_mem_head? hkb)))
      hprev hprev' hnext
    with ⟨hr2, hm⟩ | ⟨hc, htt, k, v, hk, _, hr2, hm⟩
  · refine Or.inl ⟨hr2, ?_⟩
    rcases Bool.eq_false_or_eq_true X.consolidation with hc | hc
    · rw [Forest.mergeNewAt_on (hYc.trans hc), Forest.editAt_editAt]
      apply S.ysite.congr
      simp only [Function.comp]
      rw [hI, hm hc]
    · rw [Forest.mergeNewAt_off (hYc.trans hc)]
  · refine Or.inr ⟨by rw [hr2], ?_⟩
    rw [hr2]
    show (X.setValue k.handle v).spliceOut t.handle = _
    rw [S.flow k.handle v ⟨k, hk, rfl⟩ (S.ynot k hk) (hleaf htt), Forest.mergeNewAt_on (hYc.trans hc),
      Forest.editAt_editAt]
    apply S.ysite.congr
    simp only [Function.comp]
    rw [hI, hm]

/-- **The second half of every move** (`Forest.moveTail`).  `X` is the state after the old-place
    consolidation, `Y` the forest after the cut; `t` is to stand between the children `A` and `B` of
    `p` (`I` is the insertion); the helper is given neighbours that act like `prev'` / `next'`, the last
    text child of `A` / the first of `B`; the placement `k` puts `t` there.  The result is the
    specification's insertion followed by its pair merge at the new place. -/
theorem moveTail {f X Y : Forest} {p : Nat} {t : HTree} {vp : Value} {A B : List HTree}
    (hX : f.afterOldSite t.handle = X) (S : Stage X Y p t.handle t vp (A ++ B))
    (hleaf : t.value.isText = true → t.kids = [])
    {prev next : Forest → Option Nat} {prev' next' : Option Nat}
    (hpn : X.addConsolidate t.handle (prev X) (next X) = X.addConsolidate t.handle prev' next')
    (hprev : ∀ ka, A.getLast? = some ka → ka.value.isText = true → prev' = some ka.handle)
    (hprev' : ∀ a, prev' = some a → ∃ ka, A.getLast? = some ka ∧ ka.handle = a)
    (hnext : (∀ ka, A.getLast? = some ka → ¬ ka.value.isText = true) →
      (∀ kb, B.head? = some kb → kb.value.isText = true → next' = some kb.handle) ∧
      (∀ b, next' = some b → ∃ kb, B.head? = some kb ∧ kb.handle = b))
    {I : List HTree → List HTree} (hI : I (A ++ B) = A ++ t :: B) {k : Forest → Forest × Bool}
    (hk : X.addConsolidate t.handle prev' next' = (X, false) → k X = (Y.editAt (some p) I, true)) :
    (f.moveTail t.handle prev next k).1 = (Y.editAt (some p) I).mergeNewAt p t.handle := by
  rw [Forest.moveTail_fst, hX, hpn]
  rcases S.addConsolidate_outcome hleaf hprev hprev' hnext hI with ⟨hr2, hm⟩ | ⟨hr2, hm⟩
  · rw [hr2, if_neg (by simp), hk hr2]
    exact hm.symm
  · rw [if_pos hr2]
    exact hm

end Stage

theorem stage_of_far {X Y : Forest} {p c : Nat} {t : HTree} {vp : Value} {LY : List HTree} {keep : Keep}
    (F : Far X keep c t p vp LY Y) (hnot : ∀ k ∈ LY, k.handle ≠ c)
    (htext : ∀ k ∈ LY, X.textOf k.handle = textData k) : Stage X Y p c t vp LY :=
  ⟨F.xnd, F.xget, F.xcut, F.ysite, hnot, htext, F.flow⟩

theorem stage_root {f : Forest} {p c : Nat} {t : HTree} {vp : Value} {Lp : List HTree}
    (sp : SiteAt f p vp Lp) (hgc : f.get? c = some t) (hroot : f.ctx? c = none) (hpt : p ∉ handles t) :
    Stage f (f.editAt none (dropTop c)) p c t vp Lp := by
  refine stage_of_far (far_root (keep := Keep.earlier) hgc hroot sp hpt) ?_ ?_
  · intro k hk e
    have := PairAfter.site_parent sp hk
    rw [e, Forest.parent?_of_no_ctx hroot] at this
    cases this
  · intro k hk
    exact Forest.textOf_of_get (PairAfter.site_getKid sp hk)

theorem stage_same {X : Forest} {p : Nat} {vp : Value} {l1 : List HTree} {t : HTree} {r1 : List HTree}
    (sX : SiteAt X p vp (l1 ++ t :: r1)) :
    Stage X (X.editAt (some p) (dropTop t.handle)) p t.handle t vp (l1 ++ r1) := by
  obtain ⟨ndL, _⟩ := sX.nodupKids
  obtain ⟨tl, tr⟩ := tops_ne_of_nodup ndL
  have hsub : ∀ k ∈ l1 ++ r1, k ∈ l1 ++ t :: r1 := by
    intro k hk
    cases List.mem_append.1 hk with
    | inl h => exact List.mem_append_left _ h
    | inr h => exact List.mem_append_right _ (List.mem_cons_of_mem _ h)
  refine stage_of_far (far_same (keep := Keep.earlier) sX) ?_ ?_
  · intro k hk
    cases List.mem_append.1 hk with
    | inl h => exact tl k h
    | inr h => exact tr k h
  · intro k hk
    exact Forest.textOf_of_get (PairAfter.site_getKid sX (hsub k hk))

theorem stage_kid {X : Forest} {po p : Nat} {vo vp : Value} {l1 : List HTree} {t : HTree} {r1 LX : List HTree}
    (sX : SiteAt X po vo (l1 ++ t :: r1)) (sXp : SiteAt X p vp LX) (hne : po ≠ p) (hpt : p ∉ handles t) :
    Stage X (X.editAt (some po) (dropTop t.handle)) p t.handle t vp
      (LX.map (HTree.editAt po (dropTop t.handle))) := by
  have nd := sX.nd
  obtain ⟨ndL, _⟩ := sX.nodupKids
  have hpar : X.parent? t.handle = some po := Forest.parent?_of_ctx? sX.ctx
  have hψ := kidMap_editAt po (dropTop t.handle)
  have sY : SiteAt (X.editAt (some po) (dropTop t.handle)) p vp (LX.map (HTree.editAt po (dropTop t.handle))) :=
    sX.other sXp.kids hne.symm (dropTop t.handle) (handlesList_dropTop_sublist _ _)
      (findList?_dropTop _ (fun k hk e => by rw [PairAfter.eq_of_handle ndL hk (by simp) e]; exact hpt))
  refine ⟨nd, sX.getKid, by rw [hpar], sY, ?_, ?_, ?_⟩
  · intro k hk e
    obtain ⟨k0, hk0, ek⟩ := List.mem_map.1 hk
    rw [← ek, hψ.handle] at e
    have := PairAfter.site_parent sXp hk0
    rw [e, hpar] at this
    exact hne (Option.some.inj this)
  · intro k hk
    obtain ⟨k0, hk0, ek⟩ := List.mem_map.1 hk
    rw [← ek, hψ.handle, textData_map hψ]
    exact Forest.textOf_of_get (PairAfter.site_getKid sXp hk0)
  · intro a v ⟨k, hk, eka⟩ hac hleaf
    obtain ⟨ka, hka, ek⟩ := List.mem_map.1 hk
    obtain rfl : ka.handle = a := by rw [← eka, ← ek, hψ.handle]
    rw [sXp.setValue_spliceOut hka sX.getKid hpt hleaf hac v, hpar]

end PairAppend
end XotModel
