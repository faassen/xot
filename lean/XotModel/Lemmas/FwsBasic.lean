/-
  Locating a node of a forest with distinct handles: what `get?`, `ancestors`
  and `ctx?` return at a position `Fws.Occurs f t anc` (a position is a location, `Occurs.loc`); every live
  node has a position.  The facts about `find?` and handle lists are those of Lemmas/FmapTree.lean.
-/
import XotModel.Lemmas.FmapTree
import XotModel.Model.FwsSpec

namespace XotModel
namespace Fws
open HTree Fmap

/-! ### handles -/

theorem nodup_kids {t : HTree} (h : (handles t).Nodup) :
    t.handle ∉ handlesList t.kids ∧ (handlesList t.kids).Nodup := by
  rw [handles_eq] at h
  exact List.nodup_cons.1 h

theorem nodup_of_mem {k : HTree} {ks : List HTree} (hk : k ∈ ks) (h : (handlesList ks).Nodup) :
    (handles k).Nodup := (handles_sublist_of_mem hk).nodup h

/-! ### support of the three lookups -/

theorem findList?_eq_findSome? (h : Nat) : ∀ ks : List HTree, findList? h ks = ks.findSome? (find? h)
  | [] => rfl
  | k :: ks => by
    simp only [findList?, List.findSome?_cons]
    rw [findList?_eq_findSome? h ks]
    cases find? h k <;> rfl

theorem ancestorsOf_support (h : Nat) : ∀ (t : HTree) (l : List Nat), ancestorsOf h t = some l → h ∈ handles t :=
  fun t _ hl => Decidable.byContradiction fun hn => by
    rw [ancestorsOf_none_of_not_mem h t hn] at hl; cases hl

theorem ancestorsOfList_support (h : Nat) : ∀ (ks : List HTree) (l : List Nat),
    ancestorsOfList h ks = some l → h ∈ handlesList ks :=
  fun ks _ hl => Decidable.byContradiction fun hn => by
    rw [ancestorsOfList_none_of_not_mem h ks hn] at hl; cases hl

/-- In a list with distinct handles, a lookup that can only succeed inside the tree holding
    `h` is decided by that tree. -/
theorem findSome?_descend {α : Type} (g : HTree → Option α) (h : Nat)
    (supp : ∀ t a, g t = some a → h ∈ handles t) :
    ∀ (ks : List HTree) (k : HTree), k ∈ ks → h ∈ handles k → (handlesList ks).Nodup →
      ks.findSome? g = g k
  | [], k, hk, _, _ => by cases hk
  | a :: ks, k, hk, hh, nd => by
    obtain ⟨_, nd2, disj⟩ := nodup_handlesList_cons nd
    rw [List.findSome?_cons]
    rcases List.mem_cons.1 hk with rfl | hk'
    · cases hg : g k with
      | some b => rfl
      | none =>
        simp only
        rw [List.findSome?_eq_none_iff]
        intro x hx
        cases hgx : g x with
        | none => rfl
        | some b =>
          exact absurd (mem_handlesList.2 ⟨x, hx, supp x b hgx⟩) (disj h hh)
    · cases hg : g a with
      | some b =>
        exact absurd (mem_handlesList.2 ⟨k, hk', hh⟩) (disj h (supp a b hg))
      | none => exact findSome?_descend g h supp ks k hk' hh nd2

/-! ### positions -/

theorem Occurs.sublist {f : Forest} {t : HTree} {anc : List HTree} (o : Occurs f t anc) :
    (handles t).Sublist f.allHandles := by
  induction o with
  | root hr => exact handles_sublist_of_mem hr
  | kid _ hk ih => exact (handles_kid_sublist hk).trans ih

theorem Occurs.nodup {f : Forest} {t : HTree} {anc : List HTree} (o : Occurs f t anc)
    (nd : f.allHandles.Nodup) : (handles t).Nodup := o.sublist.nodup nd

theorem Occurs.parent {f : Forest} {k p : HTree} {anc : List HTree} (o : Occurs f k (p :: anc)) :
    Occurs f p anc ∧ k ∈ p.kids := by
  cases o with
  | kid op hk => exact ⟨op, hk⟩

/-- A position is a location; the ancestors are the frames of its path. -/
theorem Occurs.loc {f : Forest} {t : HTree} {anc : List HTree} (o : Occurs f t anc) :
    ∃ path l r, Loc f.roots t.handle path l t r ∧ (path.map (·.h)).reverse = anc.map HTree.handle := by
  induction o with
  | root hr =>
    obtain ⟨l, r, e⟩ := List.append_of_mem hr
    exact ⟨[], l, r, ⟨e, rfl⟩, rfl⟩
  | @kid p k anc _ hk ih =>
    obtain ⟨path, l, r, lc, ha⟩ := ih
    obtain ⟨l2, r2, e⟩ := List.append_of_mem hk
    exact ⟨_, l2, r2, lc.kid e, by simp [ha]⟩

theorem Occurs.find_local {f : Forest} (nd : f.allHandles.Nodup) {t : HTree} {anc : List HTree}
    (o : Occurs f t anc) : ∀ h q, find? h t = some q → f.get? h = some q := by
  intro h q hq
  obtain ⟨path, l, r, lc, _⟩ := o.loc
  obtain ⟨h1, h2⟩ := lc.fresh_sub nd (find?_some_mem hq)
  unfold Forest.get?
  rw [lc.eq, findList?_plug_ctx h1, findList?_append_of_not_mem h l _ h2, findList?_cons_some hq]

theorem Occurs.get? {f : Forest} (nd : f.allHandles.Nodup) {t : HTree} {anc : List HTree}
    (o : Occurs f t anc) : f.get? t.handle = some t := o.find_local nd _ _ (find?_root t)

theorem Occurs.ancestors_local {f : Forest} (nd : f.allHandles.Nodup) {t : HTree} {anc : List HTree}
    (o : Occurs f t anc) : ∀ h l, ancestorsOf h t = some l → f.ancestors h = l ++ anc.map HTree.handle := by
  intro h l0 hl
  obtain ⟨path, l, r, lc, ha⟩ := o.loc
  obtain ⟨h1, h2⟩ := lc.fresh_sub nd (ancestorsOf_support h t l0 hl)
  unfold Forest.ancestors
  rw [← ancestorsOfList_eq_findSome?, lc.eq, ancestorsOfList_plug_ctx h1,
    ancestorsOfList_append_of_not_mem h l _ h2, ancestorsOfList_cons_some hl, ha]
  rfl

theorem Occurs.ancestors {f : Forest} (nd : f.allHandles.Nodup) {t : HTree} {anc : List HTree}
    (o : Occurs f t anc) : f.ancestors t.handle = t.handle :: anc.map HTree.handle := by
  rw [o.ancestors_local nd _ _ (ancestorsOf_self t)]; rfl

theorem split_disjoint {l r : List HTree} {k : HTree} (nd : (handlesList (l ++ k :: r)).Nodup) :
    (handles k).Nodup ∧ (∀ a ∈ l, ∀ h ∈ handles k, h ∉ handles a) ∧ (∀ a ∈ r, ∀ h ∈ handles k, h ∉ handles a) := by
  rw [handlesList_append] at nd
  obtain ⟨_, n2, n3⟩ := List.nodup_append.1 nd
  obtain ⟨k1, _, k3⟩ := nodup_handlesList_cons n2
  refine ⟨k1, ?_, ?_⟩
  · intro a ha h hh hin
    exact n3 h (mem_handlesList.2 ⟨a, ha, hin⟩) h (by simp [handlesList, hh]) rfl
  · intro a ha h hh hin
    exact k3 h hh (mem_handlesList.2 ⟨a, ha, hin⟩)

theorem Occurs.ctx_local {f : Forest} (nd : f.allHandles.Nodup) {t : HTree} {anc : List HTree}
    (o : Occurs f t anc) : ∀ h c, ctxBelow h t = some c → f.ctx? h = some c := by
  intro h c hc
  obtain ⟨⟨v, hf⟩, hh⟩ := ctxBelow_spec h t c (o.nodup nd) hc
  rw [← hh, Forest.ctx_of_kids nd (o.find_local nd _ _ hf)]

theorem Occurs.ctx {f : Forest} (nd : f.allHandles.Nodup) {k p : HTree} {anc l r : List HTree}
    (o : Occurs f k (p :: anc)) (hs : p.kids = l ++ k :: r) :
    f.ctx? k.handle = some ⟨p.handle, l, k, r⟩ := by
  have := o.parent.1.get? nd
  rw [← node_eta p, hs] at this
  exact Forest.ctx_of_kids nd this

theorem Occurs.ctx_root {f : Forest} (nd : f.allHandles.Nodup) {r : HTree} (o : Occurs f r []) :
    f.ctx? r.handle = none := by
  obtain ⟨path, l, rr, lc, ha⟩ := o.loc
  have : path = [] := by simpa using ha
  subst this
  exact Forest.ctx?_of_loc_nil lc nd

/-! ### every live node has a position -/

theorem occurs_kid {f : Forest} (p k : HTree) (hp : ∃ anc, Occurs f p anc) (hk : k ∈ p.kids) :
    ∃ anc, Occurs f k anc :=
  hp.elim fun anc o => ⟨p :: anc, .kid o hk⟩

theorem occurs_of_findList {f : Forest} (h : Nat) (q : HTree) : ∀ (ks : List HTree) (p : HTree) (anc : List HTree),
    Occurs f p anc → (∀ k ∈ ks, k ∈ p.kids) → findList? h ks = some q → ∃ anc', Occurs f q anc' :=
  fun ks p _ o hsub hq =>
    findList?_closed occurs_kid h ks q (fun k hk => occurs_kid p k ⟨_, o⟩ (hsub k hk)) hq

theorem occurs_of_get? {f : Forest} {h : Nat} {t : HTree} (ht : f.get? h = some t) :
    ∃ anc, Occurs f t anc :=
  findList?_closed occurs_kid h f.roots t (fun _ hr => ⟨[], .root hr⟩) ht

/-! ### validity at a position -/

theorem Occurs.valid {f : Forest} {b : Bool} (hv : validList b f.roots = true) {t : HTree} {anc : List HTree}
    (o : Occurs f t anc) : validTree b t = true := by
  induction o with
  | root hr => exact validList_all b _ hv _ hr
  | kid _ hk ih => exact validTree_kid ih hk

end Fws
end XotModel
