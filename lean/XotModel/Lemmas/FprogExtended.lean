/-
  One call of an extended construction program (`Prog2`: detach, remove, replace, wrap, unwrap, the setters, clone).
  The ordered-tree tests are xot's argument checks, negated refusal conditions, and after them nothing goes wrong
  (C06); an accepted call is the implementation's call (C05, per call by name), hence keeps `Forest.Inv` as every call
  of the implementation does (C04), and leaves the flags alone; a call answered `ok` is accepted.
-/
import XotModel.Lemmas.FspecSetValue
import XotModel.Lemmas.FinvCons
import XotModel.Lemmas.SpecSideMove
import XotModel.Lemmas.FspecClone
import XotModel.Lemmas.FinvCompound
import XotModel.Lemmas.BasicFacts
import XotModel.Model.FanyorderSpec2
import XotModel.Lemmas.FanyorderCall
import XotModel.Lemmas.SpecSideComposite
import XotModel.Lemmas.FspecReplValid
import XotModel.Lemmas.FatomComposite
import XotModel.Lemmas.FatomWrap
import XotModel.Props.C05
import XotModel.Lemmas.Fcreation

/-! ### The value setters keep the invariant

`specSetValue n v' f` when `v'` is of the kind of the old value (text → text, element → element,
comment → comment, PI → PI, attribute → attribute with the same name).  `specSetValue` is
`Forest.setValue`, for which this is C04's `Forest.setValue_inv`. -/

namespace XotModel
namespace Prog2
open HTree Spec
open Forest (entryKey)

/-- The new value is of the kind of the old one (and keeps the key of an attribute / the prefix of a
    namespace declaration). -/
def sameKind : Value → Value → Bool
  | .text _, .text _ => true
  | .element _, .element _ => true
  | .comment _, .comment _ => true
  | .pi _ _, .pi _ _ => true
  | .attribute a _, .attribute b _ => a == b
  | .namespace a _, .namespace b _ => a == b
  | _, _ => false

/-- What a child list's local conditions see of a child's value. -/
structure Sig (a b : Value) : Prop where
  cat : a.category = b.category
  key : entryKey a = entryKey b
  text : a.isText = b.isText
  allowed : ∀ p, kidAllowed p a = kidAllowed p b

theorem sameKind_sameKind {v v' : Value} (h : sameKind v v' = true) :
    SameKind v v' ∧ ∀ x, kidAllowed v' x = kidAllowed v x := by
  unfold sameKind at h
  split at h
  -- text, element, comment, PI: the kind says it all; attribute, namespace: the key is the same
  · exact ⟨⟨rfl, rfl, rfl, rfl⟩, fun _ => rfl⟩
  · exact ⟨⟨rfl, rfl, rfl, rfl⟩, fun _ => rfl⟩
  · exact ⟨⟨rfl, rfl, rfl, rfl⟩, fun _ => rfl⟩
  · exact ⟨⟨rfl, rfl, rfl, rfl⟩, fun _ => rfl⟩
  · cases eq_of_beq h; exact ⟨⟨rfl, rfl, rfl, rfl⟩, fun _ => rfl⟩
  · cases eq_of_beq h; exact ⟨⟨rfl, rfl, rfl, rfl⟩, fun _ => rfl⟩
  · cases h

theorem specSetValue_inv {f : Forest} {n : Nat} {v v' : Value} (inv : f.Inv) (hv : f.value? n = some v)
    (hk : sameKind v v' = true) : (specSetValue n v' f).Inv := by
  rw [← setValue_eq_spec]
  exact Forest.setValue_inv inv hv (sameKind_sameKind hk).1 (sameKind_sameKind hk).2

end Prog2
end XotModel

/-! ### `clone_node` keeps the invariant; validity depends on the erased tree only

`clone_node` preserves the C04 invariant on the
SPECIFICATION side: `specClone n f` is what `clone_node` leaves (C05), and `clone_node` keeps the
invariant (C04).  Also: structural validity only depends on the tree with the handles forgotten
(`validTree_congr`). -/

namespace XotModel
namespace Prog2
open HTree Spec Prog Fmap
open Forest (entryKey)

mutual
  theorem validTree_congr (b : Bool) : ∀ t u : HTree, t.erase = u.erase → validTree b t = validTree b u
    | .node h v ks, .node h' v' ks' => by
      intro e
      simp only [HTree.erase, Tree.node.injEq] at e
      obtain ⟨e1, e2⟩ := e
      subst e1
      -- the local conditions of a child list are a function of the children's values (`kidsOK_congr`)
      have hm : ks.map HTree.value = ks'.map HTree.value := by
        have := congrArg (List.map Tree.value) e2
        simpa only [eraseList_map, List.map_map, Function.comp_def, Reach.erase_value] using this
      rw [fi_validTree_node, fi_validTree_node, validList_congr b ks ks' e2, kidsOK_congr b v ks ks' hm]
  theorem validList_congr (b : Bool) : ∀ ks ks' : List HTree, eraseList ks = eraseList ks' →
      validList b ks = validList b ks'
    | [], [] => fun _ => rfl
    | [], _ :: _ => by intro e; simp [eraseList] at e
    | _ :: _, [] => by intro e; simp [eraseList] at e
    | k :: ks, k' :: ks' => by
      intro e
      simp only [eraseList, List.cons.injEq] at e
      rw [validList_cons, validList_cons, validTree_congr b k k' e.1, validList_congr b ks ks' e.2]
end

theorem specClone_inv {f : Forest} {n : Nat} {src : HTree} (inv : f.Inv) (hg : f.get? n = some src) :
    (specClone n f).Inv := by
  rw [← cloneNode_eq_specClone inv hg]
  exact Forest.cloneNode_inv inv n

theorem specClone_fields {f : Forest} {n : Nat} {src : HTree} (hg : f.get? n = some src) :
    (specClone n f).consolidation = f.consolidation ∧ (specClone n f).everOff = f.everOff := by
  unfold specClone
  rw [hg]
  exact ⟨rfl, rfl⟩

end Prog2
end XotModel

/-! ### After the argument checks nothing goes wrong

The ordered-tree well-formedness tests of `Model/FanyorderSpec2.lean` (`replaceOk`, `wrapOk`, `unwrapOk`) are xot's
argument checks: the negations of the refusal conditions of `Model/FrefusalSpec.lean`.  So a call that passes its test
is answered `ok` (C06's account of the call: `Forest.replace_run`, `elementWrap_run`, `elementUnwrap_run`), and a call
answered `ok` has passed it (`Forest.replace_shape` …: a refused call is answered with an error). -/

namespace XotModel
namespace Prog2
open HTree Spec Prog

theorem isMovableAt_eq (f : Forest) (n : Nat) :
    isMovableAt f n = (f.isNormalNode n && !f.isDocument n) := by
  unfold isMovableAt Forest.isNormalNode Forest.isDocument
  cases f.value? n with
  | none => rfl
  | some v => cases v <;> rfl

theorem get_of_movable {f : Forest} {n : Nat} (h : isMovableAt f n = true) :
    ∃ t, f.get? n = some t ∧ t.value.isNormal = true ∧ t.value.isDocument = false := by
  unfold isMovableAt Forest.value? at h
  cases hg : f.get? n with
  | none => rw [hg] at h; cases h
  | some t =>
    rw [hg, Option.map_some, Option.map_some, movable_eq] at h
    exact ⟨t, rfl, by simpa using h⟩

theorem firstChild_isNone (f : Forest) (n : Nat) :
    (f.firstChild n).isNone = ((f.kidsOf n).filter (fun k => k.value.isNormal)).isEmpty := by
  unfold Forest.firstChild Forest.kidsOf
  cases f.get? n with
  | none => rfl
  | some t =>
    simp only
    induction t.kids with
    | nil => rfl
    | cons k ks ih => cases hk : k.value.isNormal <;> simp_all

/-- The ordered-tree test of `element_unwrap` IS xot's two argument checks, as a Boolean. -/
theorem unwrapOk_eq (f : Forest) (n : Nat) : unwrapOk f n = !f.unwrapRefused n := by
  unfold unwrapOk Forest.unwrapRefused
  rw [isElementAt_eq, ← firstChild_isNone]
  cases f.isElement n <;> cases f.firstChild n <;> cases f.parent? n <;> rfl

theorem elementUnwrap_ok {f : Forest} {n : Nat} (inv : f.Inv) (h : unwrapOk f n = true) :
    (f.elementUnwrap n).2 = .ok := by
  have hr : f.unwrapRefused n = false := by rw [unwrapOk_eq] at h; simpa using h
  have := Forest.elementUnwrap_run inv n
  rw [hr] at this
  exact this.ok

/-- The ordered-tree test of `replace` IS xot's sequence of five argument checks, as a Boolean. -/
theorem replaceOk_eq (f : Forest) (a b : Nat) : replaceOk f a b = !f.replaceRefused a b := by
  unfold replaceOk Forest.replaceRefused
  cases f.parent? a with
  | none => simp
  | some q =>
    dsimp only
    rw [structureCheck_eq, isMovableAt_eq f a]
    unfold isMovableAt
    cases f.isDocument a <;> cases f.isNormalNode a <;> simp [Bool.and_assoc]

theorem replace_ok {f : Forest} {a b : Nat} (inv : f.Inv)
    (h : replaceOk f a b = true) : (f.replace a b).2 = .ok := by
  have hr : f.replaceRefused a b = false := by rw [replaceOk_eq] at h; simpa using h
  have := Forest.replace_run inv.toW a b
  rw [hr] at this
  exact this.ok

/-- The ordered-tree test of `element_wrap` IS xot's three argument checks, as a Boolean. -/
theorem wrapOk_eq (f : Forest) (n : Nat) : wrapOk f n = !f.wrapRefused n := by
  unfold wrapOk Forest.wrapRefused Forest.isDocumentElement Forest.hasDocumentParent
  rw [isMovableAt_eq]
  cases f.parent? n with
  | none => cases f.isNormalNode n <;> cases f.isDocument n <;> rfl
  | some p =>
    simp only [isElementAt_eq]
    unfold Forest.isDocument
    cases f.isNormalNode n <;> cases ((f.value? n).map Value.isDocument == some true) <;>
      cases ((f.value? p).map Value.isDocument == some true) <;> cases f.isElement n <;> rfl

theorem elementWrap_ok {f : Forest} {n : Nat} (name : Nat) (inv : f.Inv)
    (h : wrapOk f n = true) : (f.elementWrap n name).2.1 = .ok := by
  have hr : f.wrapRefused n = false := by rw [wrapOk_eq] at h; simpa using h
  have := Forest.elementWrap_run inv.toW n name
  rw [hr] at this
  exact this.ok

end Prog2
end XotModel

/-! ### One call, specification ⇒ implementation

Per kind of call `call_spec_impl` is the C05 theorem of that call (`C05_pair_detach`, `C05_pair_remove`,
`C05_pair_replace`, `C05_pair_wrap`, `C05_pair_unwrap`, `C05_setText`, `C05_setElementName`, `C05_creation_setters`,
`C05_setComment`, `C05_setPiData`, `C05_clone_node`, `C05_clone_node_exact`, used by name) together with "after the
argument checks nothing goes wrong" (the part above). -/

namespace XotModel
namespace Prog2
open HTree Spec Prog XotModel.Props

/-- **One call, specification ⇒ implementation**: a call the specification accepts is answered `ok`
    and yields the specification's store, handle for handle, and the same created node. -/
theorem call_spec_impl {f : Forest} (inv : f.Inv) (hfl : FlagsOk f) (c : Call)
    {f' : Forest} {o : Option Nat} (h : c.spec f = some (f', o)) : c.impl f = (f', .ok, o) := by
  cases c with
  | base c => exact Prog.call_spec_impl inv hfl c h
  | detach n =>
    obtain ⟨hl, e⟩ := of_ite_some h
    cases e
    show ((f.detach n).1, (f.detach n).2, none) = _
    rw [C05_pair_detach inv hl]; rfl
  | remove n =>
    obtain ⟨hl, e⟩ := of_ite_some h
    cases e
    show ((f.remove n).1, (f.remove n).2, none) = _
    rw [C05_pair_remove inv hl]; rfl
  | replace a b =>
    obtain ⟨hk, e⟩ := of_ite_some h
    cases e
    have hok := replace_ok inv hk
    have e : (f.replace a b).1 = specReplaceP a b f :=
      C05_pair_replace inv hok
    show ((f.replace a b).1, (f.replace a b).2, none) = _
    rw [e, hok]
  | wrap n name =>
    obtain ⟨hk, e⟩ := of_ite_some h
    cases e
    have hok := elementWrap_ok name inv hk
    obtain ⟨e1, e2⟩ := C05_pair_wrap inv hok
    show ((f.elementWrap n name).1, (f.elementWrap n name).2.1, some (f.elementWrap n name).2.2) = _
    rw [e1, e2, hok]
  | unwrap n =>
    obtain ⟨hk, e⟩ := of_ite_some h
    cases e
    have hok := elementUnwrap_ok inv hk
    show ((f.elementUnwrap n).1, (f.elementUnwrap n).2, none) = _
    rw [C05_pair_unwrap inv hok, hok]
  | setText n s =>
    simp only [Call.spec] at h
    split at h
    · rename_i x hv
      simp only [Option.some.injEq, Prod.mk.injEq] at h
      obtain ⟨h1, h2⟩ := h
      subst h1 h2
      have hok : (f.setText n s).2 = .ok := by
        unfold Forest.setText
        have : f.isText n = true := by simp [Forest.isText, hv, Value.isText]
        rw [this]; rfl
      show ((f.setText n s).1, (f.setText n s).2, none) = _
      rw [(C05_setText hok).1, hok]
    · cases h
  | setElementName n name =>
    obtain ⟨he, e⟩ := of_ite_some h
    cases e
    rw [isElementAt_eq] at he
    have hok : (f.setElementName n name).2 = .ok := by
      unfold Forest.setElementName
      rw [he]; rfl
    show ((f.setElementName n name).1, (f.setElementName n name).2, none) = _
    rw [(C05_setElementName hok).1, hok]
  | setAttributeValue n s =>
    simp only [Call.spec] at h
    split at h
    · rename_i k x hv
      simp only [Option.some.injEq, Prod.mk.injEq] at h
      obtain ⟨h1, h2⟩ := h
      subst h1 h2
      have hok : (f.attributeSetValue n s).2 = .ok := by
        unfold Forest.attributeSetValue
        rw [hv]
      obtain ⟨k', old, hv', e⟩ := (C05_creation_setters (f := f) (n := n)).2.1 s hok
      rw [hv] at hv'
      have hk : k = k' := by injection hv' with e1; injection e1
      show ((f.attributeSetValue n s).1, (f.attributeSetValue n s).2, none) = _
      rw [e, hok, hk]
    · cases h
  | setComment n s =>
    simp only [Call.spec] at h
    split at h
    · rename_i x hv
      split at h
      · cases h
      · rename_i hd
        simp only [Option.some.injEq, Prod.mk.injEq] at h
        obtain ⟨h1, h2⟩ := h
        subst h1 h2
        have hok : (f.setComment n s).2 = .ok := by
          unfold Forest.setComment
          rw [hv]
          simp only [hd, Bool.false_eq_true, if_false]
        show ((f.setComment n s).1, (f.setComment n s).2, none) = _
        rw [(C05_setComment hok).1, hok]
    · cases h
  | setPiData n d =>
    simp only [Call.spec] at h
    split at h
    · rename_i t x hv
      simp only [Option.some.injEq, Prod.mk.injEq] at h
      obtain ⟨h1, h2⟩ := h
      subst h1 h2
      have hok : (f.setPiData n d).2 = .ok := by
        unfold Forest.setPiData
        rw [hv]
      obtain ⟨t', old, hv', e⟩ := C05_setPiData hok
      rw [hv] at hv'
      have ht : t = t' := by injection hv' with e1; injection e1
      show ((f.setPiData n d).1, (f.setPiData n d).2, none) = _
      rw [e, hok, ht]
    · cases h
  | clone n =>
    simp only [Call.spec] at h
    split at h
    · rename_i src hg
      simp only [Option.some.injEq, Prod.mk.injEq] at h
      obtain ⟨h1, h2⟩ := h
      subst h1 h2
      obtain ⟨c, C, hc, hC, hroots, _⟩ := C05_clone_node inv hg
      have hex := C05_clone_node_exact inv hg
      have hC' : C = (copyRoot f.consolidation f.next src).1 := by
        rw [hex] at hroots
        simp only [specClone, hg] at hroots
        have := List.append_cancel_left hroots
        simpa using this.symm
      simp only [Call.impl]
      have hpair : f.cloneNode n = (specClone n f, some c) := by
        rw [← hex, ← hc]
      rw [hpair]
      simp only
      rw [← hC, hC']
    · cases h

end Prog2
end XotModel

/-! ### One call of the specification keeps the invariant and the flags

Every call of the implementation keeps `Forest.Inv`, whatever its arguments (`Call.impl_inv`: C04, call by call).
Whole programs: `Lemmas/FprogNavigation.lean`. -/

namespace XotModel
namespace Prog2
open HTree Spec Prog XotModel.Props

/-- Every call of an extended program keeps the invariant, whatever its arguments and its answer: each is one of the
    calls of C04. -/
theorem Call.impl_inv {f : Forest} (inv : f.Inv) (c : Call) : (c.impl f).1.Inv := by
  cases c with
  | base c => exact Prog.Call.impl_inv inv c
  | detach n => exact Forest.detach_inv inv n
  | remove n => exact Forest.remove_inv inv n
  | replace a b => exact Forest.replace_inv inv a b
  | wrap n name => exact Forest.elementWrap_inv inv n name
  | unwrap n => exact Forest.elementUnwrap_inv inv n
  | setText n s => exact Forest.setText_inv inv n s
  | setElementName n name => exact Forest.setElementName_inv inv n name
  | setAttributeValue n s => exact Forest.attributeSetValue_inv inv n s
  | setComment n s => exact Forest.setComment_inv inv n s
  | setPiData n d => exact Forest.setPiData_inv inv n d
  | clone n =>
    have := Forest.cloneNode_inv inv n
    simp only [Call.impl]
    split <;> rename_i e <;> rw [e] at this <;> exact this

theorem specDetachP_fields (n : Nat) (f : Forest) :
    (specDetachP n f).consolidation = f.consolidation ∧ (specDetachP n f).everOff = f.everOff := by
  unfold specDetachP
  cases f.get? n with
  | none => exact ⟨rfl, rfl⟩
  | some t =>
    exact ⟨by simp only [Forest.mergeLeftAt_consolidation, Forest.editAt_consolidation],
      by simp only [Forest.mergeLeftAt_everOff, Forest.editAt_everOff]⟩

theorem specUnwrapP_fields (n : Nat) (f : Forest) :
    (specUnwrapP n f).consolidation = f.consolidation ∧ (specUnwrapP n f).everOff = f.everOff := by
  unfold specUnwrapP
  exact ⟨by simp only [Forest.mergeLeftAt_consolidation, Forest.editAt_consolidation],
    by simp only [Forest.mergeLeftAt_everOff, Forest.editAt_everOff]⟩

theorem specReplaceP_fields (a b : Nat) (f : Forest) :
    (specReplaceP a b f).consolidation = f.consolidation ∧ (specReplaceP a b f).everOff = f.everOff := by
  have hc : ∀ (g : Forest) (q n : Nat), (g.mergeNew3At q n).consolidation = g.consolidation := by
    intro g q n; unfold Forest.mergeNew3At; split <;> rfl
  have he : ∀ (g : Forest) (q n : Nat), (g.mergeNew3At q n).everOff = g.everOff := by
    intro g q n; unfold Forest.mergeNew3At; split <;> rfl
  unfold specReplaceP
  split
  · exact ⟨(Finv.specRemoveP_fields a f).1, (Finv.specRemoveP_fields a f).2.1⟩
  · split
    · exact ⟨by simp only [hc, Forest.mergeLeftAt_consolidation, Forest.editAt_consolidation],
        by simp only [he, Forest.mergeLeftAt_everOff, Forest.editAt_everOff]⟩
    · exact ⟨rfl, rfl⟩

theorem spec_fields {f f' : Forest} {c : Call} {o : Option Nat} (h : c.spec f = some (f', o)) :
    f'.consolidation = f.consolidation ∧ f'.everOff = f.everOff := by
  cases c with
  | base c => exact Prog.spec_fields h
  | detach n => cases (of_ite_some h).2; exact specDetachP_fields n f
  | remove n => cases (of_ite_some h).2; exact ⟨(Finv.specRemoveP_fields n f).1, (Finv.specRemoveP_fields n f).2.1⟩
  | replace a b => cases (of_ite_some h).2; exact specReplaceP_fields a b f
  | wrap n name =>
    obtain ⟨hk, e⟩ := of_ite_some h
    cases e
    simp only [wrapOk, Bool.and_eq_true] at hk
    obtain ⟨t, hg, _⟩ := get_of_movable hk.1
    exact ⟨(specWrap_fields n name f hg).1, (specWrap_fields n name f hg).2.1⟩
  | unwrap n => cases (of_ite_some h).2; exact specUnwrapP_fields n f
  | setElementName n name => cases (of_ite_some h).2; exact ⟨rfl, rfl⟩
  | setText n s | setAttributeValue n s | setPiData n s =>
    simp only [Call.spec] at h
    split at h
    · cases h; exact ⟨rfl, rfl⟩
    · cases h
  | setComment n s =>
    simp only [Call.spec] at h
    split at h
    · split at h
      · cases h
      · cases h; exact ⟨rfl, rfl⟩
    · cases h
  | clone n =>
    simp only [Call.spec] at h
    split at h
    · rename_i src hg
      cases h
      exact specClone_fields hg
    · cases h

theorem spec_inv {f f' : Forest} {c : Call} {o : Option Nat} (inv : f.Inv) (hfl : FlagsOk f)
    (h : c.spec f = some (f', o)) :
    f'.Inv ∧ f'.consolidation = f.consolidation ∧ f'.everOff = f.everOff := by
  have := Call.impl_inv inv c
  rw [call_spec_impl inv hfl c h] at this
  exact ⟨this, spec_fields h⟩

end Prog2
end XotModel

/-! ### One call, implementation ⇒ specification

`spec_of_ok`: a refused call is answered with an error, and the well-formedness tests `replaceOk`, `wrapOk`,
`unwrapOk` are the refusal conditions negated; the kind of the node for a setter is read off the setter's own check.
With `call_spec_impl` the two resulting stores are the same. -/

namespace XotModel
namespace Prog2
open HTree Spec Prog XotModel.Props

theorem replaceOk_of_ok {f : Forest} {a b : Nat} (hok : (f.replace a b).2 = .ok) : replaceOk f a b = true := by
  rcases Forest.replace_shape f a b with ⟨_, e⟩ | ⟨hr, _⟩
  · rw [e] at hok; cases hok
  · rw [replaceOk_eq, hr]; rfl

theorem wrapOk_of_ok {f : Forest} {n name : Nat} (hok : (f.elementWrap n name).2.1 = .ok) : wrapOk f n = true := by
  rcases Forest.elementWrap_shape f n name with ⟨_, e⟩ | ⟨hr, _⟩
  · rw [e] at hok; cases hok
  · rw [wrapOk_eq, hr]; rfl

theorem unwrapOk_of_ok {f : Forest} {n : Nat} (hok : (f.elementUnwrap n).2 = .ok) : unwrapOk f n = true := by
  rcases Forest.elementUnwrap_shape f n with ⟨_, e⟩ | ⟨hr, _⟩
  · rw [e] at hok; cases hok
  · rw [unwrapOk_eq, hr]; rfl

/-- **ok ⇒ accepted**: a call the implementation answers `ok` is well-formed for the specification. -/
theorem spec_of_ok {f : Forest} (inv : f.Inv) (hfl : FlagsOk f) (c : Call) (hs : c.inScope f = true)
    {f' : Forest} {o : Option Nat} (h : c.impl f = (f', .ok, o)) : ∃ g o', c.spec f = some (g, o') := by
  cases c with
  | base c => exact ⟨f', o, Prog.call_impl_spec inv hfl c hs h⟩
  | detach n =>
    simp only [Call.inScope] at hs
    exact ⟨specDetachP n f, none, by simp only [Call.spec, hs, if_true]⟩
  | remove n =>
    simp only [Call.inScope] at hs
    exact ⟨specRemoveP n f, none, by simp only [Call.spec, hs, if_true]⟩
  | replace a b =>
    have hok : (f.replace a b).2 = .ok := congrArg (fun x => x.2.1) h
    exact ⟨specReplaceP a b f, none, by simp only [Call.spec, replaceOk_of_ok hok, if_true]⟩
  | wrap n name =>
    have hok : (f.elementWrap n name).2.1 = .ok := congrArg (fun x => x.2.1) h
    exact ⟨specWrap n name f, some f.next, by simp only [Call.spec, wrapOk_of_ok hok, if_true]⟩
  | unwrap n =>
    have hok : (f.elementUnwrap n).2 = .ok := congrArg (fun x => x.2.1) h
    exact ⟨specUnwrapP n f, none, by simp only [Call.spec, unwrapOk_of_ok hok, if_true]⟩
  | setText n s =>
    have hok : (f.setText n s).2 = .ok := congrArg (fun x => x.2.1) h
    obtain ⟨_, old, hv⟩ := C05_setText hok
    exact ⟨specSetValue n (.text s) f, none, by simp only [Call.spec, hv]⟩
  | setElementName n name =>
    have hok : (f.setElementName n name).2 = .ok := congrArg (fun x => x.2.1) h
    have he : f.isElement n = true := by
      cases he : f.isElement n with
      | true => rfl
      | false => unfold Forest.setElementName at hok; simp [he] at hok
    exact ⟨specSetValue n (.element name) f, none, by simp only [Call.spec, isElementAt_eq, he, if_true]⟩
  | setAttributeValue n s =>
    have hok : (f.attributeSetValue n s).2 = .ok := congrArg (fun x => x.2.1) h
    obtain ⟨k, old, hv, _⟩ := (C05_creation_setters (f := f) (n := n)).2.1 s hok
    exact ⟨specSetValue n (.attribute k s) f, none, by simp only [Call.spec, hv]⟩
  | setComment n s =>
    have hok : (f.setComment n s).2 = .ok := congrArg (fun x => x.2.1) h
    obtain ⟨_, old, hv⟩ := C05_setComment hok
    have hd : Forest.hasDoubleDash s = false := by
      cases hd : Forest.hasDoubleDash s with
      | false => rfl
      | true => unfold Forest.setComment at hok; simp [hv, hd] at hok
    exact ⟨specSetValue n (.comment s) f, none, by simp only [Call.spec, hv, hd, Bool.false_eq_true, if_false]⟩
  | setPiData n d =>
    have hok : (f.setPiData n d).2 = .ok := congrArg (fun x => x.2.1) h
    obtain ⟨t, old, hv, _⟩ := C05_setPiData hok
    exact ⟨specSetValue n (.pi t (piData d)) f, none, by simp only [Call.spec, hv]⟩
  | clone n =>
    cases hg : f.get? n with
    | some src => exact ⟨specClone n f, some (copyRoot f.consolidation f.next src).1.handle, by simp only [Call.spec, hg]⟩
    | none =>
      exfalso
      simp only [Call.impl, Forest.cloneNode, hg] at h
      cases h

/-- **One call, implementation ⇒ specification**, same store, same created node. -/
theorem call_impl_spec {f : Forest} (inv : f.Inv) (hfl : FlagsOk f) (c : Call) (hs : c.inScope f = true)
    {f' : Forest} {o : Option Nat} (h : c.impl f = (f', .ok, o)) : c.spec f = some (f', o) := by
  obtain ⟨g, o', hsp⟩ := spec_of_ok inv hfl c hs h
  have := call_spec_impl inv hfl c hsp
  rw [h] at this
  simp only [Prod.mk.injEq, true_and] at this
  rw [hsp, this.1, this.2]

end Prog2
end XotModel
