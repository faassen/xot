/-
  What the four moves have in common: the argument check unpacked (`structureCheck_unpack`,
  `MoveArgs`), `cut` as the specification's `dropTop` at the old place, `specMove` unfolded, xot's
  `add_consolidate_text_nodes` by cases, `append` unfolded.  Its merge step (`set` the data of a
  resident text node, remove the moved one) as two edits, wherever the moved node stands
  (`SiteAt.setValue_spliceOut`).  The package `Far` for a move whose old-place consolidation merges
  nothing (`far_root`, `far_same`).
-/
import XotModel.Lemmas.BasicFacts
import XotModel.Lemmas.FatomEdit
import XotModel.Lemmas.FspecChildList
import XotModel.Lemmas.ManipShape

/-! ## The argument check, the cut, `specMove` in normal form -/

namespace XotModel
open HTree Spec

namespace Forest

theorem parent?_of_no_ctx {f : Forest} {n : Nat} (e : f.ctx? n = none) : f.parent? n = none := by
  unfold Forest.parent?; rw [e]; rfl

theorem ctx_none_of_root {f : Forest} {n : Nat} (nd : f.allHandles.Nodup) (h : f.isRoot n = true) :
    f.ctx? n = none := by
  cases hc : f.ctx? n with
  | none => rfl
  | some c => rw [Forest.isRoot_of_ctx nd hc] at h; cases h

theorem root_or_site {f : Forest} {c : Nat} {t : HTree} (nd : f.allHandles.Nodup) (hg : f.get? c = some t) :
    f.ctx? c = none ∨ ∃ po vo l r, f.ctx? c = some ⟨po, l, t, r⟩ ∧ SiteAt f po vo (l ++ t :: r) := by
  rcases Forest.root_or_ctx hg with hroot | ⟨cx, hctx⟩
  · exact Or.inl (ctx_none_of_root nd hroot)
  · obtain ⟨po, vo, l, k, r, rfl, rfl, _, so⟩ := SiteAt.of_get_ctx nd hg hctx
    exact Or.inr ⟨po, vo, l, r, hctx, so⟩

end Forest

theorem parent_not_mem_subtree {f : Forest} (nd : f.allHandles.Nodup) {c po : Nat} {t : HTree}
    (hgc : f.get? c = some t) (hpar : f.parent? c = some po) : po ∉ handles t := by
  rcases Forest.root_or_site nd hgc with hno | ⟨po', vo, l, r, hctx, so⟩
  · rw [Forest.parent?_of_no_ctx hno] at hpar; cases hpar
  · rw [Forest.parent?_of_ctx? hctx] at hpar
    cases hpar
    exact so.not_mem_kid

namespace Forest

/-- `cut`, uniformly: the subtree leaves the child list it is in (or the list of parentless trees). -/
theorem cut_any {f : Forest} {c : Nat} {t : HTree} (nd : f.allHandles.Nodup) (hg : f.get? c = some t) :
    f.cut c = (f.editAt (f.parent? c) (dropTop c), some t) := by
  rcases Forest.root_or_ctx hg with hroot | ⟨cx, hctx⟩
  · have hno := ctx_none_of_root nd hroot
    unfold Forest.cut
    rw [hg, parent?_of_no_ctx hno]
    simp only [hroot, if_true, Forest.editAt]
    rw [dropTop_eq_filter]
  · obtain ⟨e0, v, s⟩ := SiteAt.of_ctx nd hctx
    obtain ⟨ndL, _⟩ := s.nodupKids
    have hself : cx.self = t := by
      have := Forest.get?_of_ctx nd hctx
      rw [hg] at this
      exact (Option.some.inj this).symm
    obtain ⟨tl, tr⟩ := tops_ne_of_nodup ndL
    rw [Forest.cut_of_ctx nd hctx, Forest.parent?_of_ctx? hctx, hself]
    congr 1
    apply s.congr
    rw [replaceTop_mid e0 (fun k hk => e0 ▸ tl k hk), dropTop_mid e0 (fun k hk => e0 ▸ tl k hk) (fun k hk => e0 ▸ tr k hk)]
    simp

theorem spliceOut_leaf {f : Forest} {c : Nat} {t : HTree} (nd : f.allHandles.Nodup) (hg : f.get? c = some t)
    (hleaf : t.kids = []) : f.spliceOut c = f.editAt (f.parent? c) (dropTop c) := by
  rcases Forest.root_or_ctx hg with hroot | ⟨cx, hctx⟩
  · have hno := ctx_none_of_root nd hroot
    unfold Forest.spliceOut
    rw [hg, parent?_of_no_ctx hno]
    simp only [hroot, if_true, hleaf, List.append_nil, List.length_nil, Nat.zero_le, Forest.editAt]
    rw [dropTop_eq_filter]
  · obtain ⟨e0, v, s⟩ := SiteAt.of_ctx nd hctx
    obtain ⟨ndL, _⟩ := s.nodupKids
    have hself : cx.self = t := by
      have := Forest.get?_of_ctx nd hctx
      rw [hg] at this
      exact (Option.some.inj this).symm
    obtain ⟨tl, tr⟩ := tops_ne_of_nodup ndL
    rw [Forest.spliceOut_of_ctx nd hctx, Forest.parent?_of_ctx? hctx]
    apply s.congr
    rw [replaceTop_mid e0 (fun k hk => e0 ▸ tl k hk), dropTop_mid e0 (fun k hk => e0 ▸ tl k hk) (fun k hk => e0 ▸ tr k hk),
      hself, hleaf]
    simp

/-! ### `add_structure_check` unpacked -/

theorem get_node_of_get {f : Forest} {n : Nat} {t : HTree} (h : f.get? n = some t) :
    ∃ v L, f.get? n = some (.node n v L) := by
  have hh : t.handle = n := (findList?_some f.roots t h).1
  cases t with
  | node h' v L =>
    simp only [HTree.handle] at hh
    subst hh
    exact ⟨v, L, h⟩

theorem get_of_isElement {f : Forest} {n : Nat} (h : f.isElement n = true) :
    ∃ nm K, f.get? n = some (.node n (.element nm) K) := by
  unfold Forest.isElement Forest.value? at h
  cases hg : f.get? n with
  | none => rw [hg] at h; cases h
  | some t =>
    obtain ⟨v, K, e⟩ := get_node_of_get hg
    rw [e] at h
    cases v with
    | element nm => exact ⟨nm, K, hg.symm.trans e⟩
    | _ => cases h

theorem structureCheck_unpack {f : Forest} {p c : Nat} (nd : f.allHandles.Nodup)
    (h : f.structureCheck (some p) c = true) :
    ∃ vp Lp t, f.get? p = some (.node p vp Lp) ∧ f.get? c = some t ∧ p ∉ handles t ∧
      t.value.isNormal = true ∧ t.value.isDocument = false ∧
      (vp.isElement = true ∨ vp.isDocument = true) := by
  obtain ⟨hp, hanc, cv, hc, hcn, hcd⟩ := structureCheck_some_iff.1 h
  -- the parent is live
  have hplive : ∃ tp, f.get? p = some tp := by
    cases hg : f.get? p with
    | some tp => exact ⟨tp, rfl⟩
    | none =>
      unfold Forest.isElement Forest.isDocument Forest.value? at hp
      rw [hg] at hp
      simp at hp
  obtain ⟨tp, hgp⟩ := hplive
  have htp : tp.handle = p := (findList?_some f.roots tp hgp).1
  cases tp with
  | node ph vp Lp =>
    simp only [HTree.handle] at htp
    subst htp
    cases hgc : f.get? c with
    | none =>
      unfold Forest.value? at hc
      rw [hgc] at hc
      cases hc
    | some t =>
      unfold Forest.value? at hc
      rw [hgc] at hc
      obtain rfl : t.value = cv := Option.some.inj hc
      refine ⟨vp, Lp, t, hgp, rfl, ?_, Spec.isNormal_iff.2 hcn, hcd, ?_⟩
      · intro hin
        have := (ancestors_contains_iff (r := ph) (n := c) nd).2 ⟨t, hgc, hin⟩
        rw [this] at hanc; cases hanc
      · unfold Forest.isElement Forest.isDocument Forest.value? at hp
        rw [hgp] at hp
        simpa [HTree.value] using hp

end Forest

/-- What the argument checks of a successful move establish, in the terms of the specification:
    the destination parent `q` is a live node that is not text and lies outside the moved subtree. -/
def MoveArgs (f : Forest) (dest : Dest) (c : Nat) : Prop :=
  ∃ q vq Lq t, SiteAt f q vq Lq ∧ f.get? c = some t ∧ q ∉ handles t ∧ vq.isText = false ∧ dest.site f = some q

theorem MoveArgs.of_structureCheck {f : Forest} {p c : Nat} {dest : Dest} (nd : f.allHandles.Nodup)
    (hsc : f.structureCheck (some p) c = true) (hsite : f.isLive p = true → dest.site f = some p) :
    MoveArgs f dest c := by
  obtain ⟨vp, Lp, t, hgp, hgc, hpt, _, _, hvp⟩ := Forest.structureCheck_unpack nd hsc
  exact ⟨p, vp, Lp, t, ⟨nd, hgp⟩, hgc, hpt, isText_false_of_kind hvp, hsite (Forest.isLive_of_get? hgp)⟩

/-! ### The specification of a move, unfolded -/

theorem specMove_unfold {keep : Keep} {dest : Dest} {c : Nat} {f : Forest} {t : HTree} {q : Nat}
    (hocc : dest.occupiedBy f c = false) (hg : f.get? c = some t) (hs : dest.site f = some q) :
    specMove keep dest c f =
      (((f.editAt (f.parent? c) (dropTop c)).editAt (some q) (dest.insert t)).mergeAt keep (f.parent? c)).mergeAt
        keep (some q) := by
  unfold specMove
  rw [hocc, hg, hs]
  simp

theorem mergeAt_some (f : Forest) (keep : Keep) (p : Nat) :
    f.mergeAt keep (some p) = if f.consolidation then f.editAt (some p) (mergeRuns keep) else f := rfl

theorem mergeAt_none (f : Forest) (keep : Keep) : f.mergeAt keep none = f := rfl

theorem mergeAt_off {f : Forest} (h : f.consolidation = false) (keep : Keep) (s : Option Nat) :
    f.mergeAt keep s = f := by
  cases s with
  | none => rfl
  | some p => rw [mergeAt_some, h]; rfl

theorem mergeAt_on {f : Forest} (h : f.consolidation = true) (keep : Keep) (p : Nat) :
    f.mergeAt keep (some p) = f.editAt (some p) (mergeRuns keep) := by
  rw [mergeAt_some, h]; rfl

end XotModel

/-! ## The package `Far`; the moved node is a parentless tree -/

namespace XotModel
open HTree Spec

theorem kidMap_id : KidMap (id : HTree → HTree) := ⟨fun _ => rfl, fun _ => rfl, fun _ _ => rfl⟩

theorem findList?_setValTop {x a : Nat} (v : Value) (hx : x ≠ a) : ∀ L : List HTree,
    findList? x (replaceTop a (fun k => [k.setValue v]) L) = findList? x L
  | [] => rfl
  | k :: ks => by
    rw [replaceTop_cons]
    by_cases hk : k.handle = a
    · rw [if_pos hk]
      simp only [List.singleton_append]
      rw [findList?_cons, findList?_cons, find?_setValue v (fun e => hx (e.symm.trans hk))]
    · rw [if_neg hk, findList?_cons, findList?_cons, findList?_setValTop v hx ks]

theorem handlesList_setValTop (a : Nat) (v : Value) : ∀ L : List HTree,
    handlesList (replaceTop a (fun k => [k.setValue v]) L) = handlesList L
  | [] => rfl
  | k :: ks => by
    rw [replaceTop_cons]
    split
    · simp [handlesList_cons, setValue_handles]
    · rw [handlesList_cons, handlesList_cons, handlesList_setValTop a v ks]

theorem dropTop_setValTop_comm {c a : Nat} (v : Value) (hac : a ≠ c) : ∀ L : List HTree,
    dropTop c (replaceTop a (fun k => [k.setValue v]) L) = replaceTop a (fun k => [k.setValue v]) (dropTop c L)
  | [] => rfl
  | k :: ks => by
    rw [replaceTop_cons, dropTop_cons]
    by_cases hka : k.handle = a
    · have hkc : ¬ k.handle = c := fun e => hac (hka.symm.trans e)
      rw [if_pos hka, if_neg hkc, replaceTop_cons, if_pos hka]
      simp only [List.singleton_append]
      rw [dropTop_cons, setValue_handle, if_neg hkc]
    · rw [if_neg hka]
      by_cases hkc : k.handle = c
      · rw [if_pos hkc, dropTop_cons, if_pos hkc, dropTop_setValTop_comm v hac ks]
      · rw [if_neg hkc, dropTop_cons, if_neg hkc, replaceTop_cons, if_neg hka, dropTop_setValTop_comm v hac ks]

/-- A value update in the child list of `q` and the removal of `c` from the child list it is in
    (any `s`) commute. -/
theorem SiteAt.setValTop_dropTop_comm {f : Forest} {q : Nat} {vq : Value} {Lq : List HTree} (sq : SiteAt f q vq Lq)
    (s : Option Nat) {a c : Nat} (hac : a ≠ c) (v : Value) :
    (f.editAt (some q) (replaceTop a (fun k => [k.setValue v]))).editAt s (dropTop c) =
      (f.editAt s (dropTop c)).editAt (some q) (replaceTop a (fun k => [k.setValue v])) := by
  cases s with
  | none => exact Forest.editAt_none_comm f q c _
  | some po =>
    by_cases hpo : po = q
    · subst hpo
      rw [Forest.editAt_editAt, Forest.editAt_editAt]
      exact sq.congr (dropTop_setValTop_comm v hac Lq)
    · exact Forest.editAt_comm f hpo (natFor_dropTop (kidMap_editAt _ _) _) (natFor_setValTop (kidMap_editAt _ _) _ _)

/-- **The merge step of xot at the new place, as two edits.**  A value update of a child `ka` of `q`,
    then the removal of the leaf `t` (wherever it stands, outside `q`): the cut, then the update.
    The update changes no parent (`Forest.setValue_parent?`), so the leaf is taken out of the child
    list it was in before. -/
theorem SiteAt.setValue_spliceOut {f : Forest} {q : Nat} {vq : Value} {Lq : List HTree} {c : Nat} {t ka : HTree}
    (sq : SiteAt f q vq Lq) (hka : ka ∈ Lq) (hgc : f.get? c = some t) (hq : q ∉ handles t) (hleaf : t.kids = [])
    (hac : ka.handle ≠ c) (v : Value) :
    (f.setValue ka.handle v).spliceOut c =
      (f.editAt (f.parent? c) (dropTop c)).editAt (some q) (replaceTop ka.handle (fun k => [k.setValue v])) := by
  have nd := sq.nd
  obtain ⟨A, B, hL⟩ := List.append_of_mem hka
  subst hL
  have hset := Forest.setValue_of_ctx v nd sq.ctx
  have ndZ : (f.setValue ka.handle v).allHandles.Nodup := by rw [Forest.allHandles_setValue]; exact nd
  have hcq : c ≠ q := fun e => hq (e ▸ (findList?_some f.roots t hgc).1 ▸ handle_mem_handles t)
  have hZget : (f.setValue ka.handle v).get? c = some t := by
    rw [hset, Forest.get?_editAt_other hcq nd (fun _ L' _ => findList?_setValTop v hac.symm L'), hgc, Option.map_some,
      editAt_of_not_mem t hq]
  rw [Forest.spliceOut_leaf ndZ hZget hleaf, Forest.setValue_parent?, hset]
  exact sq.setValTop_dropTop_comm _ hac v

/-- A move whose old-place consolidation merges nothing, seen from the destination child list `Lq`
    of `q` (which does not hold the node): `Y` is the forest after the cut. -/
structure Far (f : Forest) (keep : Keep) (c : Nat) (t : HTree) (q : Nat) (vq : Value) (Lq : List HTree)
    (Y : Forest) : Prop where
  xnd : f.allHandles.Nodup
  xget : f.get? c = some t
  xcut : f.editAt (f.parent? c) (dropTop c) = Y
  ysite : SiteAt Y q vq Lq
  spec : ∀ dest : Dest, dest.occupiedBy f c = false → dest.site f = some q →
    specMove keep dest c f = (Y.editAt (some q) (dest.insert t)).mergeAt keep (some q)
  flow : ∀ a v, IsTop a Lq → a ≠ c → t.kids = [] →
    (f.setValue a v).spliceOut c = Y.editAt (some q) (replaceTop a (fun k => [k.setValue v]))

theorem far_root {f : Forest} {keep : Keep} {c : Nat} {t : HTree} {q : Nat} {vq : Value} {Lq : List HTree}
    (hgc : f.get? c = some t) (hroot : f.ctx? c = none) (sq : SiteAt f q vq Lq) (hq : q ∉ handles t) :
    Far f keep c t q vq Lq (f.editAt none (dropTop c)) := by
  have hpar : f.parent? c = none := Forest.parent?_of_no_ctx hroot
  refine ⟨sq.nd, hgc, by rw [hpar], sq.dropRoot hgc hq, ?_, ?_⟩
  · intro dest hocc hs
    rw [specMove_unfold hocc hgc hs, hpar, mergeAt_none]
  · intro a v ⟨ka, hka, e⟩ hac hleaf
    subst e
    rw [sq.setValue_spliceOut hka hgc hq hleaf hac v, hpar]

end XotModel

/-! ## `add_consolidate_text_nodes` by cases, `append` unfolded, a move within one child list -/

namespace XotModel
open HTree Spec

namespace Forest

theorem addConsolidate_off {f : Forest} (h : f.consolidation = false) (n : Nat) (a b : Option Nat) :
    f.addConsolidate n a b = (f, false) := by
  rw [addConsolidate_eq_old]; exact addConsolidateOld_off h _ _ _

theorem addConsolidate_prev {f : Forest} {n a : Nat} {added ps : Str} (hc : f.consolidation = true)
    (hn : f.textOf n = some added) (ha : f.textOf a = some ps) (b : Option Nat) (hne : a ≠ n) :
    f.addConsolidate n (some a) b = ((f.setValue a (.text (ps ++ added))).spliceOut n, true) := by
  rw [addConsolidate_eq_old, selfPrev_of_ne (by simpa using hne)]
  unfold addConsolidateOld
  simp [hc, hn, ha]

/-- The previous neighbour handed in is the node itself: the helper takes the node's own previous
    sibling (/repo eccbbb7). -/
theorem addConsolidate_prev_self {f : Forest} {n a : Nat} {added ps : Str} (hc : f.consolidation = true)
    (hn : f.textOf n = some added) (hp : f.prevSibling n = some a) (ha : f.textOf a = some ps)
    (b : Option Nat) :
    f.addConsolidate n (some n) b = ((f.setValue a (.text (ps ++ added))).spliceOut n, true) := by
  rw [addConsolidate_eq_old, selfPrev_self, hp]
  unfold addConsolidateOld
  simp [hc, hn, ha]

theorem addConsolidate_next {f : Forest} {n b : Nat} {added ns : Str} {prev : Option Nat}
    (hc : f.consolidation = true) (hn : f.textOf n = some added)
    (hprev : ∀ a, prev = some a → f.textOf a = none) (hb : f.textOf b = some ns) (hne : b ≠ n) :
    f.addConsolidate n prev (some b) = ((f.setValue b (.text (added ++ ns))).spliceOut n, true) := by
  have h1 : prev ≠ some n := fun h => by rw [hprev n h] at hn; cases hn
  rw [addConsolidate_eq_old_of_ne h1 (by simpa using hne)]
  unfold addConsolidateOld
  cases prev with
  | none => simp [hc, hn, hb]
  | some a => simp [hc, hn, hb, hprev a rfl]

/-- The helper reads the previous neighbour it is handed only through `selfPrev`, and only for a
    text node with consolidation on. -/
theorem addConsolidate_congr_prev {X : Forest} {c : Nat} {t : HTree} {prev prev' next : Option Nat}
    (hX : X.textOf c = textData t)
    (h : X.consolidation = true → t.value.isText = true → X.selfPrev c prev = prev') (hne : prev' ≠ some c) :
    X.addConsolidate c prev next = X.addConsolidate c prev' next := by
  rcases Bool.eq_false_or_eq_true X.consolidation with hc | hc
  case inr => rw [addConsolidate_off hc, addConsolidate_off hc]
  cases htd : textData t with
  | none => rw [addConsolidate_not_text (hX.trans htd), addConsolidate_not_text (hX.trans htd)]
  | some tc =>
    rw [addConsolidate_eq_old, h hc (isText_iff_textData.2 ⟨tc, htd⟩), addConsolidate_eq_old (prev := prev'),
      selfPrev_of_ne hne]

/-- `last_child` from the child list. -/
def lastOf (L : List HTree) : Option Nat :=
  match L.getLast? with
  | none => none
  | some k => if k.value.isNormal then some k.handle else none

theorem lastChild_of_get {f : Forest} {p : Nat} {v : Value} {L : List HTree}
    (e : f.get? p = some (.node p v L)) : f.lastChild p = lastOf L := by
  unfold lastChild lastOf
  rw [e]
  simp only [HTree.kids]
  cases L.getLast? <;> rfl

theorem kidsOf_of_get {f : Forest} {p : Nat} {v : Value} {L : List HTree}
    (e : f.get? p = some (.node p v L)) : f.kidsOf p = L := by
  unfold kidsOf; rw [e]; rfl

theorem checkedAppend_ok {f : Forest} {p c : Nat} {t : HTree} (nd : f.allHandles.Nodup)
    (hg : f.get? c = some t) (hok : (f.checkedAppend p c).2 = true) :
    (f.checkedAppend p c).1 = (f.editAt (f.parent? c) (dropTop c)).editAt (some p) (insertLast t) := by
  unfold checkedAppend at hok ⊢
  split
  · rename_i h; rw [if_pos h] at hok; cases hok
  · rw [cut_any nd hg]
    rfl

theorem append_ok_check {f : Forest} {p c : Nat} (hok : (f.append p c).2 = .ok) :
    f.structureCheck (some p) c = true := by
  cases h : f.structureCheck (some p) c with
  | true => rfl
  | false => rw [append_eq] at hok; simp [h] at hok

end Forest

/-! ### `mergeRuns` only looks at values; it is idempotent -/

theorem noAdj_map {φ : HTree → HTree} (hφ : KidMap φ) : ∀ L : List HTree,
    noAdjacentText (L.map φ) = noAdjacentText L
  | [] => rfl
  | [a] => rfl
  | a :: b :: rest => by
    rw [List.map_cons, List.map_cons, noAdj_cons_cons, noAdj_cons_cons, hφ.value, hφ.value,
      ← List.map_cons, noAdj_map hφ (b :: rest)]

theorem noAdj_mergeInto (keep : Keep) : ∀ (rest : List HTree) (cur : HTree),
    noAdjacentText (mergeInto keep cur rest) = true ∧
    ∃ h tl, mergeInto keep cur rest = h :: tl ∧ h.value.isText = cur.value.isText
  | [], cur => ⟨rfl, cur, [], rfl, rfl⟩
  | b :: rest, cur => by
    by_cases h : cur.value.isText = true ∧ b.value.isText = true
    · obtain ⟨x, hx⟩ := isText_iff_textData.1 h.1
      obtain ⟨y, hy⟩ := isText_iff_textData.1 h.2
      rw [mergeInto_cons_text (textData_some hx) (textData_some hy)]
      obtain ⟨i1, hd, tl, i2, i3⟩ := noAdj_mergeInto keep rest (join keep cur b x y)
      refine ⟨i1, hd, tl, i2, ?_⟩
      rw [i3, join_value, h.1]; rfl
    · rw [mergeInto_cons_other h]
      obtain ⟨i1, hd, tl, i2, i3⟩ := noAdj_mergeInto keep rest b
      refine ⟨?_, cur, _, rfl, rfl⟩
      rw [i2, noAdj_cons_cons, ← i2, i1, i3]
      cases hc : cur.value.isText <;> cases hb : b.value.isText <;> simp_all

theorem noAdj_mergeRuns (keep : Keep) (L : List HTree) : noAdjacentText (mergeRuns keep L) = true := by
  cases L with
  | nil => rfl
  | cons a rest => exact (noAdj_mergeInto keep rest a).1

theorem mergeRuns_idem (keep : Keep) (L : List HTree) : mergeRuns keep (mergeRuns keep L) = mergeRuns keep L :=
  mergeRuns_id keep (noAdj_mergeRuns keep L)

theorem leaf_of_text {f : Forest} {c : Nat} {t : HTree} {b : Bool} (hv : validList b f.roots = true)
    (hg : f.get? c = some t) (ht : t.value.isText = true) : t.kids = [] :=
  kids_nil_of_text (findList?_valid _ _ f.roots t hv hg) ht

/-- The node of a site with a child is not a text node (text nodes are leaves). -/
theorem site_not_text {f : Forest} {p : Nat} {v : Value} {l : List HTree} {k : HTree} {r : List HTree} {b : Bool}
    (s : SiteAt f p v (l ++ k :: r)) (hv : validList b f.roots = true) : v.isText = false := by
  cases h : v.isText with
  | false => rfl
  | true =>
    have := leaf_of_text hv s.kids (by simpa [HTree.value] using h)
    simp only [HTree.kids] at this
    cases l <;> cases this

theorem natFor_insert {ψ : HTree → HTree} (hk : KidMap ψ) {t : HTree} (ht : ψ t = t) (dest : Dest) :
    NatFor ψ (dest.insert t) := by
  cases dest with
  | lastChildOf p => exact natFor_insertLast ht
  | firstNormalChildOf p => exact natFor_insertFirstNormal hk ht
  | after r => exact natFor_insertAfterTop hk r ht
  | before r => exact natFor_insertBeforeTop hk r ht

theorem mergeRuns_comp_idem (keep : Keep) : mergeRuns keep ∘ mergeRuns keep = mergeRuns keep := by
  funext L; exact mergeRuns_idem keep L

theorem far_same {f : Forest} {keep : Keep} {q : Nat} {vq : Value} {l : List HTree} {t : HTree} {r : List HTree}
    (sq : SiteAt f q vq (l ++ t :: r)) :
    Far f keep t.handle t q vq (l ++ r) (f.editAt (some q) (dropTop t.handle)) := by
  have hpar : f.parent? t.handle = some q := Forest.parent?_of_ctx? sq.ctx
  have hgc : f.get? t.handle = some t := sq.getKid
  refine ⟨sq.nd, hgc, by rw [hpar], sq.dropKid, ?_, ?_⟩
  · intro dest hocc hs
    rw [specMove_unfold hocc hgc hs, hpar]
    rcases Bool.eq_false_or_eq_true f.consolidation with hc | hc
    · have c1 : ((f.editAt (some q) (dropTop t.handle)).editAt (some q) (dest.insert t)).consolidation = true := by
        rw [Forest.editAt_consolidation, Forest.editAt_consolidation]; exact hc
      have c2 : (((f.editAt (some q) (dropTop t.handle)).editAt (some q) (dest.insert t)).editAt (some q)
          (mergeRuns keep)).consolidation = true := by
        rw [Forest.editAt_consolidation]; exact c1
      rw [mergeAt_on c1, mergeAt_on c2, Forest.editAt_editAt, mergeRuns_comp_idem]
    · have c1 : ((f.editAt (some q) (dropTop t.handle)).editAt (some q) (dest.insert t)).consolidation = false := by
        rw [Forest.editAt_consolidation, Forest.editAt_consolidation]; exact hc
      rw [mergeAt_off c1, mergeAt_off c1]
  · intro a v ⟨ka, hka, e⟩ hac hleaf
    subst e
    rw [sq.setValue_spliceOut (fs_mem_mid_of_mem t hka) hgc sq.not_mem_kid hleaf hac v, hpar]

/-! ### What the sibling lookups of the four moves return -/

theorem lastOf_eq_some {L : List HTree} {a : Nat} (h : Forest.lastOf L = some a) :
    ∃ L' ka, L = L' ++ [ka] ∧ ka.handle = a ∧ ka.value.isNormal = true := by
  unfold Forest.lastOf at h
  cases hl : L.getLast? with
  | none => rw [hl] at h; cases h
  | some k =>
    rw [hl] at h
    simp only at h
    obtain ⟨L', e⟩ := List.getLast?_eq_some_iff.1 hl
    by_cases hk : k.value.isNormal = true
    · rw [if_pos hk] at h
      exact ⟨L', k, e, Option.some.inj h, hk⟩
    · rw [if_neg hk] at h; cases h

/-- Between two normal nodes the category test of `next_sibling` / `previous_sibling` passes. -/
theorem nextOf_cons_normal {t kr : HTree} (B : List HTree) (ht : t.value.isNormal = true)
    (hk : kr.value.isNormal = true) : nextOf (t :: B) kr = some t.handle := by
  have h1 : t.value.category = .normal := by simpa [Value.isNormal] using ht
  have h2 : kr.value.category = .normal := by simpa [Value.isNormal] using hk
  simp [nextOf, h1, h2]

theorem prevOf_snoc_normal {t kr : HTree} (A : List HTree) (ht : t.value.isNormal = true)
    (hk : kr.value.isNormal = true) : prevOf (A ++ [t]) kr = some t.handle := by
  have h1 : t.value.category = .normal := by simpa [Value.isNormal] using ht
  have h2 : kr.value.category = .normal := by simpa [Value.isNormal] using hk
  simp [prevOf, h1, h2]

end XotModel
