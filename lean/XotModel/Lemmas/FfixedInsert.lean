/-
  `insert_before(r, tc)` with `r` a child of a root and `tc` a root; `prepend(p, tc)` into a root
  without normal children.
-/
import XotModel.Lemmas.BasicFacts
import XotModel.Lemmas.FfixedPlace

namespace XotModel
open HTree

namespace Forest

theorem prevSibling_eq {f : Forest} {h : Nat} {c : HTree.Ctx} (hc : f.ctx? h = some c) :
    f.prevSibling h = c.left.getLast?.bind (fun p =>
      if p.value.category == c.self.value.category then some p.handle else none) := by
  unfold prevSibling; rw [hc]
  cases hk : c.left.getLast? <;> simp [hk]

theorem ff_firstChild_eq {f : Forest} {p : Nat} {tp : HTree} (hg : f.get? p = some tp) :
    f.firstChild p = ((tp.kids.dropWhile (fun k => !k.value.isNormal)).head?).map (·.handle) := by
  unfold firstChild; rw [hg]

theorem ff_prependPoint_eq {f : Forest} {p : Nat} {tp : HTree} (hg : f.get? p = some tp) :
    f.prependPoint p =
      ((tp.kids.takeWhile (fun k => k.value.category != .normal)).getLast?).map (·.handle) := by
  unfold prependPoint; rw [hg]

end Forest

namespace RootAt
variable {f : Forest} {X Y : List HTree} {tc : HTree}

theorem ctx?_kid (h : RootAt f X tc Y) {A B k1 k2 : List HTree} {p : Nat} {v : Value} {r : HTree}
    (hXY : X ++ Y = A ++ HTree.node p v (k1 ++ r :: k2) :: B) :
    f.ctx? r.handle = some ⟨p, k1, r, k2⟩ := by
  have lc := loc_kid hXY
  have hntc : r.handle ∉ handles tc := h.rest_not_mem_tc (mem_rest_of_loc lc)
  -- `tc` does not hold `r`: the context is the one among the other trees
  have e1 : f.ctx? r.handle = ({ f with roots := X ++ Y } : Forest).ctx? r.handle := by
    unfold Forest.ctx?
    rw [h.roots, List.findSome?_append, List.findSome?_cons, ctxBelow_none_of_not_mem _ _ hntc,
      List.findSome?_append]
  rw [e1]
  exact Forest.ctx?_of_loc_snoc (f := { f with roots := X ++ Y }) (rest := []) lc h.nodup_rest

/-- `insert_before(r, tc)`: `r` a child of the root `p`, `tc` another root. -/
theorem insertBefore_kid (h : RootAt f X tc Y) {A B k1 k2 : List HTree} {p : Nat} {v : Value}
    {r : HTree} (hXY : X ++ Y = A ++ HTree.node p v (k1 ++ r :: k2) :: B)
    (hpv : v.isElement = true ∨ v.isDocument = true)
    (hcn : tc.value.isNormal = true) (hcd : tc.value.isDocument = false)
    (hrn : r.value.isNormal = true)
    (htext : f.consolidation = true → tc.value.isText = true →
      r.value.isText = false ∧ ∀ k, k1.getLast? = some k → k.value.isText = false) :
    f.insertBefore r.handle tc.handle =
      ({ f with roots := A ++ HTree.node p v (k1 ++ tc :: r :: k2) :: B }, .ok) := by
  have hp : findList? p (X ++ Y) = some (HTree.node p v (k1 ++ r :: k2)) :=
    (loc_root hXY).findList?_eq h.nodup_rest
  have hrm := mem_rest_of_loc (loc_kid hXY)
  have hctx := h.ctx?_kid hXY
  have hpar : f.parent? r.handle = some p := by unfold Forest.parent?; rw [hctx]; rfl
  have hsc := h.structureCheck_ok hp hpv hcn hcd
  have hgetp : f.get? p = some (HTree.node p v (k1 ++ r :: k2)) := by
    rw [h.get?_rest (mem_of_findList?_some hp)]; exact hp
  have hgetr : f.get? r.handle = some r := Forest.get?_kid h.nodup hgetp (by simp [HTree.kids])
  have hne : ¬ (r.handle = tc.handle) := h.ne_of_rest hrm
  have hsib : f.siblingReferenceCheck r.handle tc.handle = true := by
    unfold Forest.siblingReferenceCheck Forest.isNormalNode
    rw [Prog2.value_of_get hgetr]
    simp [hne, hrn]
  have hkmem : ∀ k, k1.getLast? = some k → k ∈ (HTree.node p v (k1 ++ r :: k2)).kids := fun k hk => by
    simp [HTree.kids, List.mem_of_getLast? hk]
  have hprev : (f.prevSibling r.handle == some tc.handle) = false := by
    rw [Forest.prevSibling_eq hctx]
    simp only
    cases hk : k1.getLast? with
    | none => simp
    | some k =>
      have : k.handle ≠ tc.handle := h.kid_handle_ne hp (hkmem k hk)
      simp only [Option.bind_some]
      split <;> simp [this]
  rw [Forest.insertBefore_eq]
  simp only [hpar, hsc, hsib, hprev, Bool.not_true, Bool.false_eq_true, if_false]
  refine h.moveTail_self _ _ _ ?_ ?_ (h.checkedInsertBefore_kid hXY)
  · -- the new left neighbour is the last of `k1`
    intro hc ht l hl
    rw [Forest.prevSibling_eq hctx] at hl
    simp only at hl
    cases hk : k1.getLast? with
    | none => rw [hk] at hl; simp at hl
    | some k =>
      rw [hk] at hl
      simp only [Option.bind_some] at hl
      split at hl
      · cases hl
        exact Forest.textOf_eq_none_of_value
          (Prog2.value_of_get (Forest.get?_kid h.nodup hgetp (hkmem k hk))) ((htext hc ht).2 k hk)
      · cases hl
  · intro hc ht n hn'
    cases hn'
    exact Forest.textOf_eq_none_of_value (Prog2.value_of_get hgetr) (htext hc ht).1

/-- `prepend(p, tc)` when the root `p` has no normal child: `tc` becomes the last raw child. -/
theorem prepend_root (h : RootAt f X tc Y) {A B ks : List HTree} {p : Nat} {v : Value}
    (hXY : X ++ Y = A ++ HTree.node p v ks :: B)
    (hpv : v.isElement = true ∨ v.isDocument = true)
    (hcn : tc.value.isNormal = true) (hcd : tc.value.isDocument = false)
    (hks : ∀ k ∈ ks, k.value.isNormal = false) :
    f.prepend p tc.handle = ({ f with roots := A ++ HTree.node p v (ks ++ [tc]) :: B }, .ok) := by
  have hp : findList? p (X ++ Y) = some (HTree.node p v ks) := (loc_root hXY).findList?_eq h.nodup_rest
  have hpm := mem_of_findList?_some hp
  have hget : f.get? p = some (HTree.node p v ks) := by rw [h.get?_rest hpm]; exact hp
  have hsc := h.structureCheck_ok hp hpv hcn hcd
  have hdw : ks.dropWhile (fun k => !k.value.isNormal) = [] := by
    apply dropWhile_all; intro k hk; simp [hks k hk]
  have hfc : f.firstChild p = none := by
    rw [Forest.ff_firstChild_eq hget]; simp [HTree.kids, hdw]
  have htw : ks.takeWhile (fun k => k.value.category != .normal) = ks := by
    apply takeWhile_eq_self_of_all
    intro k hk
    have := hks k hk
    simp only [Value.isNormal, beq_eq_false_iff_ne, ne_eq] at this
    simpa using this
  have hpp : f.prependPoint p = ks.getLast?.map HTree.handle := by
    rw [Forest.ff_prependPoint_eq hget]; simp only [HTree.kids, htw]
  obtain ⟨hpl1, hpl2⟩ := h.placeAtEnd hXY
  have hnone : ((none : Option Nat) == some tc.handle) = false := rfl
  rw [Forest.prepend_eq]
  simp only [hsc, hfc, hnone, Bool.not_true, Bool.false_eq_true, if_false]
  refine h.moveTail_self _ _ _ ?_ ?_ ?_
  · intro _ _ n (e : none = some n)
    cases e
  · intro _ _ n hn'
    rw [hfc] at hn'
    cases hn'
  · simp only [hpp]
    cases hl : ks.getLast? with
    | some l => exact hpl1 l hl
    | none => exact hpl2 hl

end RootAt
end XotModel
