/-
  Handle-addressed `namespaces_mut(h).remove` calls (one call as an edit: Lemmas/FpxRefineDedupRem.lean): a list of
  calls erases to `eraseWithout`, the run replaces one subtree and only namespace nodes go.
-/
import XotModel.Lemmas.FpxRefineDedupRem

/-! ## A list of handle-addressed removals erases to `eraseWithout` -/

namespace XotModel
open HTree
open Forest (MapKind entryKey entryUpdate)

/-- `namespaces_mut(node).remove(prefix)` for each prefix, in order, on a tree node. -/
def removeNsAll (pfxs : List Nat) (t : Tree) : Tree := pfxs.foldl (fun t p => removeNsKidsOf p t) t

theorem removeNsAll_nil (t : Tree) : removeNsAll [] t = t := rfl

theorem removeNsAll_cons (p : Nat) (ps : List Nat) (t : Tree) :
    removeNsAll (p :: ps) t = removeNsAll ps (removeNsKidsOf p t) := rfl

theorem removeNsAll_append (a b : List Nat) (t : Tree) :
    removeNsAll (a ++ b) t = removeNsAll b (removeNsAll a t) := by
  simp [removeNsAll, List.foldl_append]

theorem removeNsKidsOf_value (p : Nat) (t : Tree) : (removeNsKidsOf p t).value = t.value := by
  cases t; rfl

theorem removeNsAll_value (ps : List Nat) : ∀ t : Tree, (removeNsAll ps t).value = t.value := by
  induction ps with
  | nil => intro t; rfl
  | cons p ps ih => intro t; rw [removeNsAll_cons, ih, removeNsKidsOf_value]

/-- On a node: the removals act on the child list. -/
def removeNsAllKids (pfxs : List Nat) (ks : List Tree) : List Tree := pfxs.foldl (fun ks p => removeNsKid p ks) ks

theorem removeNsAll_node (ps : List Nat) : ∀ (v : Value) (ks : List Tree),
    removeNsAll ps (.node v ks) = .node v (removeNsAllKids ps ks) := by
  induction ps with
  | nil => intro v ks; rfl
  | cons p ps ih =>
    intro v ks
    rw [removeNsAll_cons]
    show removeNsAll ps (.node v (removeNsKid p ks)) = _
    rw [ih]; rfl

namespace HTree

/-- The removals addressed to the node `h` (only elements take any). -/
def pfxsFor (cs : List (Nat × Nat)) (h : Nat) (v : Value) : List Nat :=
  if v.isElement then (cs.filter (fun c => c.1 == h)).map (·.2) else []

mutual
  /-- Forget the handles, taking from every element the prefixes `(handle, prefix)` of `cs` addressed
      to it. -/
  def eraseWithout (cs : List (Nat × Nat)) : HTree → Tree
    | node h v ks => removeNsAll (pfxsFor cs h v) (.node v (eraseWithoutList cs ks))
  def eraseWithoutList (cs : List (Nat × Nat)) : List HTree → List Tree
    | [] => []
    | k :: ks => eraseWithout cs k :: eraseWithoutList cs ks
end

theorem pfxsFor_nil (h : Nat) (v : Value) : pfxsFor [] h v = [] := by
  unfold pfxsFor; split <;> rfl

theorem pfxsFor_append (a b : List (Nat × Nat)) (h : Nat) (v : Value) :
    pfxsFor (a ++ b) h v = pfxsFor a h v ++ pfxsFor b h v := by
  unfold pfxsFor; split <;> simp

theorem pfxsFor_not_mem (cs : List (Nat × Nat)) (h : Nat) (v : Value) (hn : ∀ c ∈ cs, c.1 ≠ h) :
    pfxsFor cs h v = [] := by
  unfold pfxsFor
  split
  · have : cs.filter (fun c => c.1 == h) = [] :=
      List.filter_eq_nil_iff.mpr (fun c hc => by simpa using hn c hc)
    rw [this]; rfl
  · rfl

mutual
  theorem eraseWithout_nil : ∀ r : HTree, eraseWithout [] r = erase r
    | node h v ks => by simp only [eraseWithout, pfxsFor_nil, removeNsAll_nil, erase, eraseWithoutList_nil ks]
  theorem eraseWithoutList_nil : ∀ ks : List HTree, eraseWithoutList [] ks = eraseList ks
    | [] => rfl
    | k :: ks => by simp only [eraseWithoutList, eraseList, eraseWithout_nil k, eraseWithoutList_nil ks]
end

theorem eraseWithout_value (cs : List (Nat × Nat)) (k : HTree) : (eraseWithout cs k).value = k.value := by
  cases k with
  | node h v ks => simp only [eraseWithout, removeNsAll_value]; rfl

theorem eraseWithout_nonElement (cs : List (Nat × Nat)) (h : Nat) (v : Value) (ks : List HTree)
    (hv : v.isElement = false) : eraseWithout cs (node h v ks) = .node v (eraseWithoutList cs ks) := by
  simp [eraseWithout, pfxsFor, hv, removeNsAll_nil]

theorem eraseWithoutList_removeNsKidH (cs : List (Nat × Nat)) (p : Nat) : ∀ ks : List HTree,
    eraseWithoutList cs (removeNsKidH p ks) = removeNsKid p (eraseWithoutList cs ks)
  | [] => rfl
  | k :: ks => by
    have ih := eraseWithoutList_removeNsKidH cs p ks
    have h2 : (eraseWithout cs k).value = k.value := eraseWithout_value cs k
    cases k with
    | node h v kk =>
      simp only [HTree.value] at h2
      by_cases hv : ∃ q x, v = .namespace q x
      · obtain ⟨q, x, rfl⟩ := hv
        by_cases hq : (q == p) = true
        · simp only [removeNsKidH, removeNsKid, eraseWithoutList, HTree.value, h2, hq, if_true]
        · simp only [removeNsKidH, removeNsKid, eraseWithoutList, HTree.value, h2, hq, Bool.false_eq_true,
            if_false, ih]
      · rw [removeNsKidH_cons_other p (k := node h v kk) ks hv]
        simp only [eraseWithoutList]
        generalize eraseWithout cs (node h v kk) = t at h2
        cases t with
        | node tv tk =>
          simp only [Tree.value] at h2
          subst h2
          exact (removeNsKid_cons_other p (k := .node tv tk) _ hv).symm

mutual
  theorem eraseWithout_congr (cs cs' : List (Nat × Nat)) : ∀ r : HTree,
      (∀ x ∈ handles r, ∀ v, pfxsFor cs x v = pfxsFor cs' x v) → eraseWithout cs r = eraseWithout cs' r
    | node h v ks => by
      intro hc
      simp only [eraseWithout, hc h (by simp [handles_node]) v,
        eraseWithoutList_congr cs cs' ks (fun x hx => hc x (by simp [handles_node, hx]))]
  theorem eraseWithoutList_congr (cs cs' : List (Nat × Nat)) : ∀ ks : List HTree,
      (∀ x ∈ handlesList ks, ∀ v, pfxsFor cs x v = pfxsFor cs' x v) →
      eraseWithoutList cs ks = eraseWithoutList cs' ks
    | [] => fun _ => rfl
    | k :: ks => by
      intro hc
      simp only [eraseWithoutList,
        eraseWithout_congr cs cs' k (fun x hx => hc x (by simp [handlesList_cons, hx])),
        eraseWithoutList_congr cs cs' ks (fun x hx => hc x (by simp [handlesList_cons, hx]))]
end

theorem eraseWithout_cons_not_mem (c : Nat × Nat) (cs : List (Nat × Nat)) (r : HTree)
    (hn : c.1 ∉ handles r) : eraseWithout (c :: cs) r = eraseWithout cs r := by
  apply eraseWithout_congr
  intro x hx v
  have : (c.1 == x) = false := by simpa using fun e : c.1 = x => hn (e ▸ hx)
  unfold pfxsFor
  simp [this]

theorem eraseWithoutList_cons_not_mem (c : Nat × Nat) (cs : List (Nat × Nat)) (ks : List HTree)
    (hn : c.1 ∉ handlesList ks) : eraseWithoutList (c :: cs) ks = eraseWithoutList cs ks := by
  apply eraseWithoutList_congr
  intro x hx v
  have : (c.1 == x) = false := by simpa using fun e : c.1 = x => hn (e ▸ hx)
  unfold pfxsFor
  simp [this]

/-- The edit one removal call makes at its target, were it asked of a non-element too (it is not:
    `Forest.mapRemove` panics there). -/
def rmEdit (p : Nat) (n : HTree) : HTree :=
  if n.value.isElement then Fmap.atKids (removeNsKidH p) n else n

theorem rmEdit_handle (p : Nat) (n : HTree) : (rmEdit p n).handle = n.handle := by
  unfold rmEdit; split
  · exact Fmap.atKids_handle _ _
  · rfl

mutual
  /-- **One call, erased**: editing the child list of `e` by `removeNsKidH` and then taking from every
      node the calls `cs` is taking from every node the calls `(e, p) :: cs`. -/
  theorem eraseWithout_rmEdit (cs : List (Nat × Nat)) (e p : Nat) : ∀ r : HTree, (handles r).Nodup →
      eraseWithout cs (mapAt e (rmEdit p) r) = eraseWithout ((e, p) :: cs) r
    | node h v ks => by
      intro hnd
      simp only [handles_node, List.nodup_cons] at hnd
      unfold mapAt
      by_cases hh : h = e
      · subst hh
        rw [if_pos rfl]
        have hks : eraseWithoutList ((h, p) :: cs) ks = eraseWithoutList cs ks :=
          eraseWithoutList_cons_not_mem (h, p) cs ks hnd.1
        by_cases hv : v.isElement = true
        · have hd : pfxsFor ((h, p) :: cs) h v = p :: pfxsFor cs h v := by
            simp [pfxsFor, hv]
          simp only [rmEdit, HTree.value, hv, if_true, Fmap.atKids, HTree.setKids, HTree.kids, eraseWithout,
            eraseWithoutList_removeNsKidH, hd, removeNsAll_cons, removeNsKidsOf, hks]
        · have hd : pfxsFor ((h, p) :: cs) h v = pfxsFor cs h v := by
            simp [pfxsFor, hv]
          simp only [rmEdit, HTree.value, hv, Bool.false_eq_true, if_false, eraseWithout, hd, hks]
      · have hd : pfxsFor ((e, p) :: cs) h v = pfxsFor cs h v := by
          unfold pfxsFor
          have : (e == h) = false := by simpa using fun x : e = h => hh x.symm
          simp [this]
        rw [if_neg hh]
        simp only [eraseWithout, hd, eraseWithoutList_rmEdit cs e p ks hnd.2]
  theorem eraseWithoutList_rmEdit (cs : List (Nat × Nat)) (e p : Nat) : ∀ ks : List HTree,
      (handlesList ks).Nodup →
      eraseWithoutList cs (mapAtList e (rmEdit p) ks) = eraseWithoutList ((e, p) :: cs) ks
    | [] => fun _ => rfl
    | k :: ks => by
      intro hnd
      simp only [handlesList_cons, List.nodup_append] at hnd
      simp only [mapAtList, eraseWithoutList, eraseWithout_rmEdit cs e p k hnd.1,
        eraseWithoutList_rmEdit cs e p ks hnd.2.1]
end

/-! ### Handles and values under the edit -/

mutual
  theorem handles_rmEdit_sublist (e p : Nat) : ∀ r : HTree,
      (handles (mapAt e (rmEdit p) r)).Sublist (handles r)
    | node h v ks => by
      unfold mapAt
      by_cases hh : h = e
      · rw [if_pos hh]
        unfold rmEdit
        by_cases hv : v.isElement = true
        · simp only [HTree.value, hv, if_true, Fmap.atKids, HTree.setKids, HTree.kids, handles_node]
          exact List.Sublist.cons_cons _ (handlesList_removeNsKidH_sublist p ks)
        · simp only [HTree.value, hv, Bool.false_eq_true, if_false]
          exact List.Sublist.refl _
      · rw [if_neg hh]
        simp only [handles_node]
        exact List.Sublist.cons_cons _ (handlesList_rmEdit_sublist e p ks)
  theorem handlesList_rmEdit_sublist (e p : Nat) : ∀ ks : List HTree,
      (handlesList (mapAtList e (rmEdit p) ks)).Sublist (handlesList ks)
    | [] => List.Sublist.refl _
    | k :: ks => by
      simp only [mapAtList, handlesList_cons]
      exact List.Sublist.append (handles_rmEdit_sublist e p k) (handlesList_rmEdit_sublist e p ks)
end

mutual
  /-- In a structurally valid tree (namespace nodes are leaves) only pairs of namespace nodes go. -/
  theorem hv_rmEdit (b : Bool) (e p : Nat) : ∀ r : HTree, validTree b r = true →
      (hv (mapAt e (rmEdit p) r)).filter notNsPair = (hv r).filter notNsPair
    | node h v ks => by
      intro hval
      have hvk : validList b ks = true := by
        simp only [validTree, Bool.and_eq_true] at hval
        exact hval.2
      unfold mapAt
      by_cases hh : h = e
      · rw [if_pos hh]
        unfold rmEdit
        by_cases hv' : v.isElement = true
        · simp only [HTree.value, hv', if_true, Fmap.atKids, HTree.setKids, HTree.kids, hv_node,
            List.filter_cons]
          rw [hvList_removeNsKidH p ks (fun k hk hc =>
            kids_nil_of_not_normal (validList_all b ks hvk k hk) (by rw [hc]; decide))]
        · simp only [HTree.value, hv', Bool.false_eq_true, if_false]
      · rw [if_neg hh]
        simp only [hv_node, List.filter_cons, hvList_rmEdit b e p ks hvk]
  theorem hvList_rmEdit (b : Bool) (e p : Nat) : ∀ ks : List HTree, validList b ks = true →
      (hvList (mapAtList e (rmEdit p) ks)).filter notNsPair = (hvList ks).filter notNsPair
    | [], _ => rfl
    | k :: ks, hval => by
      simp only [validList, Bool.and_eq_true] at hval
      simp only [mapAtList, hvList_cons, List.filter_append, hv_rmEdit b e p k hval.1,
        hvList_rmEdit b e p ks hval.2]
end

end HTree
end XotModel

/-! ## The run on a forest replaces one subtree -/

namespace XotModel
open HTree
open Forest (MapKind entryKey entryUpdate)

namespace HTree

theorem mem_graft_inside {ks : List HTree} {nd : Nat} {S S1 : HTree} (hnd : (handlesList ks).Nodup)
    (hf : findList? nd ks = some S) {x : Nat} (hxS : x ∈ handles S)
    (hx : x ∈ handlesList (mapAtList nd (fun _ => S1) ks)) : x ∈ handles S1 := by
  obtain ⟨pre, post, h1, h2⟩ := Fmap.handlesList_mapAtList_split nd (fun _ => S1) ks S hnd hf
  rw [h2] at hx
  rw [h1] at hnd
  have hnd' := List.nodup_append.mp hnd
  have hnd'' := List.nodup_append.mp hnd'.1
  simp only [List.mem_append] at hx
  rcases hx with (hx | hx) | hx
  · exact absurd rfl (hnd''.2.2 x hx x hxS)
  · exact hx
  · exact absurd rfl (hnd'.2.2 x (List.mem_append_right _ hxS) x hx)

end HTree

namespace Forest

/-- A handle-addressed removal as a `Call`. -/
def rmCallOf (c : Nat × Nat) : Call := .mapRemove .namespaces c.1 c.2

theorem fpxd_call {f : Forest} (hi : f.Inv) (c : Nat × Nat) (he : f.isElement c.1 = true) :
    (rmCallOf c).run f = ({ f with roots := mapAtList c.1 (rmEdit c.2) f.roots }, .ok) := by
  obtain ⟨e, p⟩ := c
  obtain ⟨t, hg, hv⟩ := fpxr_get_of_isElement he
  show f.mapRemove .namespaces e p = _
  rw [fpxd_mapRemove hi he p]
  congr 2
  exact Fmap.mapAtList_congr e _ _ f.roots t hi.nodup hg (by simp [rmEdit, hv])

theorem fpxd_call_ok {f : Forest} (hi : f.Inv) (c : Nat × Nat) (he : f.isElement c.1 = true) :
    ((rmCallOf c).run f).2 = .ok ∧ ((rmCallOf c).run f).1.Inv ∧
      ∀ x, ((rmCallOf c).run f).1.isElement x = f.isElement x :=
  fpx_call_ok hi (c := rmCallOf c) he

theorem fpxd_mem_of_isElement {f : Forest} {x : Nat} (he : f.isElement x = true) : x ∈ f.allHandles := by
  obtain ⟨t, hg, _⟩ := fpxr_get_of_isElement he
  exact (findList?_isSome_iff x f.roots).mp (by rw [show findList? x f.roots = some t from hg]; rfl)

/-- **The run as a replacement of one subtree**: all targets are elements inside the subtree `S` of
    `nd`. -/
theorem fpxd_runCalls_graft : ∀ (cs : List (Nat × Nat)) {f : Forest}, f.Inv → ∀ {nd : Nat} {S : HTree},
    f.get? nd = some S → (∀ c ∈ cs, f.isElement c.1 = true ∧ c.1 ∈ handles S) →
    ∃ S', S'.handle = nd ∧
      f.runCalls (cs.map rmCallOf) = ({ f with roots := mapAtList nd (fun _ => S') f.roots }, .ok) ∧
      findList? nd (mapAtList nd (fun _ => S') f.roots) = some S' ∧
      (handles S').Sublist (handles S) ∧
      (hv S').filter notNsPair = (hv S).filter notNsPair ∧
      ∀ cs' : List (Nat × Nat), eraseWithout cs' S' = eraseWithout (cs ++ cs') S
  | [], f, hi, nd, S, hg, _ => by
    refine ⟨S, findList?_handle nd _ _ hg, ?_, ?_, List.Sublist.refl _, rfl, fun _ => rfl⟩
    · rw [graftList_self nd S f.roots hi.nodup hg]; rfl
    · rw [graftList_self nd S f.roots hi.nodup hg]; exact hg
  | c :: cs, f, hi, nd, S, hg, hc => by
    obtain ⟨he, hin⟩ := hc c (by simp)
    obtain ⟨_, hi1, hel⟩ := fpxd_call_ok hi c he
    have hrun := fpxd_call hi c he
    have hSh : S.handle = nd := findList?_handle nd _ _ hg
    have hSnd : (handles S).Nodup := Fmap.findList?_nodup nd f.roots S hi.nodup hg
    let S1 := mapAt c.1 (rmEdit c.2) S
    have hS1h : S1.handle = nd := by
      rw [HTree.mapAt_handle _ _ (rmEdit_handle _), hSh]
    have hroots1 : mapAtList c.1 (rmEdit c.2) f.roots = mapAtList nd (fun _ => S1) f.roots :=
      mapAtList_as_graft c.1 nd _ S hin f.roots hi.nodup hg
    rw [hroots1] at hrun
    rw [hrun] at hi1 hel
    simp only at hi1 hel
    have hg1 : ({ f with roots := mapAtList nd (fun _ => S1) f.roots } : Forest).get? nd = some S1 :=
      Fmap.findList?_mapAtList_self nd _ f.roots S hg hS1h
    have hmem : ∀ c' ∈ cs, ({ f with roots := mapAtList nd (fun _ => S1) f.roots } : Forest).isElement c'.1 = true ∧
        c'.1 ∈ handles S1 := by
      intro c' h'
      obtain ⟨h1, h2⟩ := hc c' (by simp [h'])
      have h3 : ({ f with roots := mapAtList nd (fun _ => S1) f.roots } : Forest).isElement c'.1 = true := by
        rw [hel]; exact h1
      exact ⟨h3, mem_graft_inside hi.nodup hg h2 (fpxd_mem_of_isElement h3)⟩
    obtain ⟨S', k1, k2, k3, k4, k5, k6⟩ := fpxd_runCalls_graft cs hi1 hg1 hmem
    have hgg : mapAtList nd (fun _ => S') (mapAtList nd (fun _ => S1) f.roots) =
        mapAtList nd (fun _ => S') f.roots := graftList_graftList nd S1 S' hS1h f.roots
    have hvalid : validTree (!f.everOff) S = true := findList?_valid _ nd f.roots S hi.valid hg
    refine ⟨S', k1, ?_, ?_, ?_, ?_, ?_⟩
    · rw [List.map_cons]
      conv => lhs; unfold runCalls
      rw [hrun]
      simp only
      rw [k2]
      simp only [hgg]
    · rw [← hgg]; exact k3
    · exact k4.trans (handles_rmEdit_sublist c.1 c.2 S)
    · rw [k5]; exact hv_rmEdit _ c.1 c.2 S hvalid
    · intro cs'
      rw [k6 cs']
      exact eraseWithout_rmEdit (cs ++ cs') c.1 c.2 S hSnd

end Forest
end XotModel
