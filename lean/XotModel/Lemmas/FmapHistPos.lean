/-
  Lemmas for C11 histories: what `KNStep` says about nodes and positions, and the
  remaining reads (`iter`, `to_vec`, `to_hashmap`) against the reference map.
-/
import XotModel.Lemmas.FmapRet

namespace XotModel
namespace Fmap
open HTree
open Forest (MapKind entryKey mapChildren MapEntry)

theorem absKN_fst (k : MapKind) (f : Forest) (x : Nat) :
    (absKN k f x).map (·.1) = omKeys (abs k f x) := by
  rw [absKN_of_absHV, abs_of_absHV]
  unfold omKeys
  rw [List.map_map, List.map_map]
  rfl

theorem absKN_snd (k : MapKind) (f : Forest) (x : Nat) :
    (absKN k f x).map (·.2) = absNodes k f x := by
  rw [absKN_of_absHV, absNodes_of_absHV, List.map_map]
  rfl

theorem knstep_same_keys {old new : List (Nat × Nat)} (h : KNStep old new)
    (hk : new.map (·.1) = old.map (·.1)) : new = old := by
  have hl : new.length = old.length := by
    have := congrArg List.length hk
    simpa using this
  rcases h with h | ⟨p, h⟩
  · exact h.eq_of_length hl
  · rw [h] at hl
    simp at hl

theorem lookup_of_mem {l : List (Nat × Nat)} (hnd : (l.map (·.1)).Nodup) {a b : Nat}
    (h : (a, b) ∈ l) : l.lookup a = some b := by
  induction l with
  | nil => cases h
  | cons x l ih =>
    obtain ⟨xa, xb⟩ := x
    simp only [List.map_cons, List.nodup_cons] at hnd
    rcases List.mem_cons.mp h with h | h
    · cases h; simp
    · have hne : (a == xa) = false := by
        simp only [beq_eq_false_iff_ne, ne_eq]
        intro hh
        apply hnd.1
        rw [← hh]
        exact List.mem_map.mpr ⟨_, h, rfl⟩
      simp only [List.lookup_cons, hne]
      exact ih hnd.2 h

theorem pair_unique {l : List (Nat × Nat)} (hnd : (l.map (·.1)).Nodup) {a b b' : Nat}
    (h1 : (a, b) ∈ l) (h2 : (a, b') ∈ l) : b = b' :=
  Option.some.inj ((lookup_of_mem hnd h1).symm.trans (lookup_of_mem hnd h2))

theorem knstep_keeps_node {old new : List (Nat × Nat)} (h : KNStep old new)
    (ho : (old.map (·.1)).Nodup) (key hd : Nat) (hm : (key, hd) ∈ old)
    (hk : key ∈ new.map (·.1)) : (key, hd) ∈ new := by
  rcases h with h | ⟨p, h⟩
  · obtain ⟨q, hq, hqk⟩ := List.mem_map.mp hk
    obtain ⟨qk, qh⟩ := q
    simp only at hqk
    subst hqk
    have := pair_unique ho (h.subset hq) hm
    rw [← this]; exact hq
  · rw [h]; exact List.mem_append_left _ hm

/-! ### `iter`, `to_vec`, `to_hashmap` -/

theorem mapIter_eq (f : Forest) (k : MapKind) (e : Nat) : mapIter f k e = abs k f e := by
  unfold mapIter Fmap.abs absT
  cases f.get? e <;> rfl

theorem mapIter_zip (f : Forest) (k : MapKind) (e : Nat) :
    mapIter f k e = (omKeys (abs k f e)).zip (omValues (abs k f e)) := by
  rw [mapIter_eq]
  unfold omKeys omValues
  induction abs k f e with
  | nil => rfl
  | cons a m ih => simp only [List.map_cons, List.zip_cons_cons]; rw [← ih]

theorem mapToHashmap_eq (f : Forest) (k : MapKind) (e : Nat) :
    mapToHashmap f k e = omToHashmap (abs k f e) := by
  unfold mapToHashmap omToHashmap
  rw [mapIter_eq]

/-- Keys strictly increasing. -/
def SortedKeys (m : List (Nat × Payload)) : Prop := m.Pairwise (fun a b => a.1 < b.1)

theorem smInsert_keys (m : List (Nat × Payload)) (k : Nat) (v : Payload) (x : Nat × Payload)
    (hx : x ∈ smInsert m k v) : x = (k, v) ∨ x ∈ m := by
  induction m with
  | nil => simp only [smInsert, List.mem_singleton] at hx; exact Or.inl hx
  | cons a m ih =>
    obtain ⟨k', v'⟩ := a
    simp only [smInsert] at hx
    split at hx
    · rcases List.mem_cons.mp hx with hx | hx
      · exact Or.inl hx
      · exact Or.inr hx
    · split at hx
      · rcases List.mem_cons.mp hx with hx | hx
        · exact Or.inl hx
        · exact Or.inr (List.mem_cons_of_mem _ hx)
      · rcases List.mem_cons.mp hx with hx | hx
        · exact Or.inr (hx ▸ List.mem_cons_self)
        · rcases ih hx with h | h
          · exact Or.inl h
          · exact Or.inr (List.mem_cons_of_mem _ h)

theorem smInsert_sorted (m : List (Nat × Payload)) (k : Nat) (v : Payload) (hs : SortedKeys m) :
    SortedKeys (smInsert m k v) := by
  induction m with
  | nil => simp [smInsert, SortedKeys]
  | cons a m ih =>
    obtain ⟨k', v'⟩ := a
    unfold SortedKeys at hs ih ⊢
    have hs' := List.pairwise_cons.mp hs
    simp only [smInsert]
    split
    · rename_i hlt
      apply List.pairwise_cons.mpr
      refine ⟨?_, hs⟩
      intro b hb
      rcases List.mem_cons.mp hb with hb | hb
      · rw [hb]; exact hlt
      · exact Nat.lt_trans hlt (hs'.1 b hb)
    · split
      · rename_i _ heq
        subst heq
        exact List.pairwise_cons.mpr ⟨hs'.1, hs'.2⟩
      · rename_i hnlt hne
        apply List.pairwise_cons.mpr
        refine ⟨?_, ih hs'.2⟩
        intro b hb
        rcases smInsert_keys m k v b hb with h | h
        · rw [h]; simp only; omega
        · exact hs'.1 b h

theorem smInsert_lookup_self (m : List (Nat × Payload)) (k : Nat) (v : Payload) :
    (smInsert m k v).lookup k = some v := by
  induction m with
  | nil => simp [smInsert]
  | cons a m ih =>
    obtain ⟨k', v'⟩ := a
    simp only [smInsert]
    split
    · simp [List.lookup]
    · split
      · simp [List.lookup]
      · rename_i _ hne
        have : (k == k') = false := by simpa using hne
        simp only [List.lookup, this]
        exact ih

theorem smInsert_lookup_other (m : List (Nat × Payload)) (k : Nat) (v : Payload) (key : Nat)
    (hne : key ≠ k) : (smInsert m k v).lookup key = m.lookup key := by
  have hb : (key == k) = false := by simpa using hne
  induction m with
  | nil => simp [smInsert, List.lookup, hb]
  | cons a m ih =>
    obtain ⟨k', v'⟩ := a
    simp only [smInsert]
    split
    · simp only [List.lookup, hb]
    · split
      · rename_i _ heq
        subst heq
        simp only [List.lookup, hb]
      · simp only [List.lookup]
        cases key == k'
        · exact ih
        · rfl

theorem smInsert_length (m : List (Nat × Payload)) (k : Nat) (v : Payload)
    (hk : m.lookup k = none) : (smInsert m k v).length = m.length + 1 := by
  induction m with
  | nil => rfl
  | cons a m ih =>
    obtain ⟨k', v'⟩ := a
    simp only [smInsert]
    have hne : k ≠ k' := by
      intro h
      subst h
      simp [List.lookup] at hk
    have hb : (k == k') = false := by simpa using hne
    simp only [List.lookup, hb] at hk
    split
    · rfl
    · simp only [List.length_cons]
      rw [ih hk]

/-- The fold of `to_hashmap` over a map with distinct keys, from a sorted accumulator with
    other keys: sorted, every lookup is the map's or the accumulator's, nothing is lost. -/
theorem hashmap_fold : ∀ (m : OMap Payload) (acc : List (Nat × Payload)), omWf m → SortedKeys acc →
    (∀ key, key ∈ omKeys m → acc.lookup key = none) →
    let r := m.foldl (fun a p => smInsert a p.1 p.2) acc
    SortedKeys r ∧ (∀ key, r.lookup key = (omGet m key).or (acc.lookup key)) ∧
      r.length = acc.length + m.length
  | [], acc => by
    intro _ hs _
    exact ⟨hs, fun key => by simp [omGet, List.lookup], rfl⟩
  | (k, v) :: m, acc => by
    intro hw hs hd
    unfold omWf omKeys at hw
    simp only [List.map_cons, List.nodup_cons] at hw
    have hkm : omGet m k = none := (omGet_none_iff m k).mpr hw.1
    have hacc : acc.lookup k = none := hd k List.mem_cons_self
    have hd' : ∀ key, key ∈ omKeys m → (smInsert acc k v).lookup key = none := by
      intro key hkey
      have hne : key ≠ k := fun h => hw.1 (h ▸ hkey)
      rw [smInsert_lookup_other acc k v key hne]
      exact hd key (by simp only [omKeys, List.map_cons, List.mem_cons]; exact Or.inr hkey)
    obtain ⟨h1, h2, h3⟩ := hashmap_fold m (smInsert acc k v) hw.2 (smInsert_sorted acc k v hs) hd'
    refine ⟨h1, ?_, ?_⟩
    · intro key
      simp only [List.foldl_cons]
      rw [h2 key]
      by_cases hk : key = k
      · subst hk
        rw [hkm, smInsert_lookup_self]
        simp [omGet, List.lookup]
      · have hb : (key == k) = false := by simpa using hk
        rw [smInsert_lookup_other acc k v key hk]
        simp only [omGet, List.lookup, hb]
    · simp only [List.foldl_cons, List.length_cons]
      rw [h3, smInsert_length acc k v hacc]
      omega

/-- `to_hashmap` of a map with distinct keys IS that finite map: key-sorted, same lookups,
    same size. -/
theorem omToHashmap_spec (m : OMap Payload) (hw : omWf m) :
    SortedKeys (omToHashmap m) ∧ (∀ key, (omToHashmap m).lookup key = omGet m key) ∧
    (omToHashmap m).length = omLen m := by
  obtain ⟨h1, h2, h3⟩ := hashmap_fold m [] hw List.Pairwise.nil (fun _ _ => rfl)
  refine ⟨h1, ?_, ?_⟩
  · intro key
    have := h2 key
    simp only [List.lookup, Option.or_none] at this
    exact this
  · simpa [omLen, omToHashmap] using h3


/-! ### Positions over a step and over a history -/

theorem positions_stable (f : Forest) (hi : f.Inv) (op : MapOp2) (hok : op.ok f = true)
    (x : Nat) (k : MapKind) :
    KNStep (absKN k f x) (absKN k (op.run f).1 x) ∧
    (omKeys (abs k (op.run f).1 x) = omKeys (abs k f x) →
      absNodes k (op.run f).1 x = absNodes k f x) ∧
    (∀ key hd, (key, hd) ∈ absKN k f x → key ∈ omKeys (abs k (op.run f).1 x) →
      (key, hd) ∈ absKN k (op.run f).1 x) ∧
    (∀ p q, p ∈ absKN k f x → q ∈ absKN k f x → p ∈ absKN k (op.run f).1 x →
      q ∈ absKN k (op.run f).1 x →
      ([p, q].Sublist (absKN k f x) ↔ [p, q].Sublist (absKN k (op.run f).1 x))) := by
  obtain ⟨_, s⟩ := step_all hi (F := famOf f) (fun _ _ => rfl) op hok
  have hkn := s.kn x k
  refine ⟨hkn, ?_, ?_, ?_⟩
  · intro hk
    rw [← absKN_fst, ← absKN_fst] at hk
    rw [← absKN_snd, ← absKN_snd, knstep_same_keys hkn hk]
  · intro key hd hm hk
    rw [← absKN_fst] at hk
    have ho : ((absKN k f x).map (·.1)).Nodup := by
      rw [absKN_fst]; exact unique_keys_of_inv f hi k x
    exact knstep_keeps_node hkn ho key hd hm hk
  · intro p q h1 h2 h3 h4
    exact knstep_pair_iff hkn (absKN_nodup hi k x) (absKN_nodup s.inv k x) p q h1 h2 h3 h4

theorem positions_history (f : Forest) (hi : f.Inv) (ops : List MapOp2)
    (hok : (runOps2 f ops).2.2 = true) (x : Nat) (k : MapKind) (p q : Nat × Nat)
    (hall : ∀ g ∈ trace2 f ops, p ∈ absKN k g x ∧ q ∈ absKN k g x) :
    [p, q].Sublist (absKN k f x) ↔ [p, q].Sublist (absKN k (runOps2 f ops).1 x) := by
  obtain ⟨_, _, _, _, h5, h6⟩ := history_all ops f (famOf f) hi (fun _ _ => rfl) hok
  obtain ⟨rest, hrest⟩ := trace2_head f ops
  have hl := trace2_last ops f
  rw [hrest] at h5 h6 hall hl
  exact kept_order rest f h6 h5 x k p q hall _ hl


/-- Along a trace of `Stable` steps, an entry whose key is in the view in every state is carried
    by the same node in every state. -/
theorem kept_node : ∀ (tr : List Forest) (f : Forest), StableTrace (f :: tr) →
    (∀ g ∈ f :: tr, g.Inv) → ∀ (x : Nat) (k : MapKind) (key hd : Nat),
    (key, hd) ∈ absKN k f x → (∀ g ∈ f :: tr, key ∈ omKeys (abs k g x)) →
    ∀ g ∈ f :: tr, (key, hd) ∈ absKN k g x
  | [], f => by
    intro _ _ x k key hd h0 _ g hg
    simp only [List.mem_singleton] at hg
    rw [hg]; exact h0
  | b :: tr, f => by
    intro hst hinv x k key hd h0 hall g hg
    rcases List.mem_cons.mp hg with hg | hg
    · rw [hg]; exact h0
    · have ho : ((absKN k f x).map (·.1)).Nodup := by
        rw [absKN_fst]; exact unique_keys_of_inv f (hinv f List.mem_cons_self) k x
      have hb : (key, hd) ∈ absKN k b x :=
        knstep_keeps_node (hst.1 x k) ho key hd h0 (by
          rw [absKN_fst]; exact hall b (List.mem_cons_of_mem _ List.mem_cons_self))
      exact kept_node tr b hst.2 (fun g hg => hinv g (List.mem_cons_of_mem _ hg)) x k key hd hb
        (fun g hg => hall g (List.mem_cons_of_mem _ hg)) g hg

theorem history_keeps_node (f : Forest) (hi : f.Inv) (ops : List MapOp2)
    (hok : (runOps2 f ops).2.2 = true) (x : Nat) (k : MapKind) (key hd : Nat)
    (h0 : (key, hd) ∈ absKN k f x) (hall : ∀ g ∈ trace2 f ops, key ∈ omKeys (abs k g x)) :
    ∀ g ∈ trace2 f ops, (key, hd) ∈ absKN k g x := by
  obtain ⟨_, _, _, _, h5, h6⟩ := history_all ops f (famOf f) hi (fun _ _ => rfl) hok
  obtain ⟨rest, hrest⟩ := trace2_head f ops
  rw [hrest] at h5 h6 hall ⊢
  exact kept_node rest f h6 h5 x k key hd h0 hall

end Fmap
end XotModel
