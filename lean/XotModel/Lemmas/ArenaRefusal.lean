/-
  A refused `checked_*` call leaves the arena literally
  unchanged, for EVERY arena (well-formed or not) and every pair of ids (live, removed, stale,
  out of range): all four functions decide to refuse before their first write.
  Conversely the calls only ever refuse with the documented error kinds.
-/
import XotModel.Lemmas.ArenaBasic

namespace XotModel
namespace Arena

theorem eitherRemoved_arena (a : Arena) (x y : NodeId) : (eitherRemoved a x y).arena = a :=
  rd_arena a x _ fun s => by
    split
    · rfl
    · exact rd_arena a y _ fun _ => rfl

theorem ancestorsAny_arena (a : Arena) (t : NodeId) : ∀ (fuel : Nat) (cur : Option NodeId),
    (ancestorsAny fuel a cur t).arena = a
  | 0, _ => rfl
  | fuel + 1, cur => by
    unfold ancestorsAny
    cases cur with
    | none => rfl
    | some node =>
      exact rd_arena a node _ fun s => by
        split
        · rfl
        · exact ancestorsAny_arena a t fuel s.parent

/-- The tail of every `checked_*`: once the writes have started the answer is `Ok`. -/
theorem tail_not_error (a : Arena) (x : NodeId) (k : Slot → Step Unit) (a' : Arena) (e : NodeError) :
    rd a x (fun s => (k s).bind fun a2 _ => (Step.done a2 (Except.ok ()) : Step (Except NodeError Unit)))
      ≠ .done a' (.error e) := by
  unfold rd
  cases a.nodes[x.index0]? with
  | none => exact fun h => by cases h
  | some s =>
    intro h
    obtain ⟨_, _, _, h⟩ := Step.bind_eq_done h
    cases h

/-- The common head of the four `checked_*`: the removed check does not write. -/
theorem eitherRemoved_bind {β : Type} {a : Arena} {x y : NodeId} {k : Arena → Bool → Step β} {a' : Arena} {v : β}
    (h : (eitherRemoved a x y).bind k = .done a' v) : ∃ rem, k a rem = .done a' v := by
  obtain ⟨b, rem, h1, h2⟩ := Step.bind_eq_done h
  have hb : b = a := by rw [← eitherRemoved_arena a x y, h1]; rfl
  exact ⟨rem, hb ▸ h2⟩

theorem ancestorsAny_bind {β : Type} {a : Arena} {x y : NodeId} {k : Arena → Bool → Step β} {a' : Arena} {v : β}
    (h : (ancestorsAny a.fuel a (some x) y).bind k = .done a' v) : ∃ anc, k a anc = .done a' v := by
  obtain ⟨b, anc, h1, h2⟩ := Step.bind_eq_done h
  have hb : b = a := by rw [← ancestorsAny_arena a y a.fuel (some x), h1]; rfl
  exact ⟨anc, hb ▸ h2⟩

/-- The two guards every `checked_*` starts with (`self`, `removed`): a refusal there or in the rest `K`
    leaves the arena as it is. -/
theorem refused_of_guards {a a' : Arena} {x y : NodeId} {e e1 : NodeError}
    {K : Arena → Step (Except NodeError Unit)} (hK : ∀ a' e, K a = .done a' (.error e) → a' = a)
    (h : (if y = x then Step.done a (.error e1)
      else (eitherRemoved a x y).bind fun a rem => if rem then .done a (.error .removed) else K a)
        = .done a' (.error e)) : a' = a := by
  by_cases hxy : y = x
  · rw [if_pos hxy] at h; cases h; rfl
  · rw [if_neg hxy] at h
    obtain ⟨rem, h⟩ := eitherRemoved_bind h
    by_cases hr : rem = true
    · rw [if_pos hr] at h; cases h; rfl
    · rw [if_neg hr] at h; exact hK a' e h

/-- The ancestor guard of `checked_append` / `checked_prepend`. -/
theorem refused_of_ancestor {a a' : Arena} {x y : NodeId} {e e1 : NodeError}
    {K : Arena → Step (Except NodeError Unit)} (hK : ∀ a' e, K a ≠ .done a' (.error e))
    (h : ((ancestorsAny a.fuel a (some x) y).bind fun a anc => if anc then .done a (.error e1) else K a)
      = .done a' (.error e)) : a' = a := by
  obtain ⟨anc, h⟩ := ancestorsAny_bind h
  by_cases ha : anc = true
  · rw [if_pos ha] at h; cases h; rfl
  · rw [if_neg ha] at h; exact absurd h (hK a' e)

theorem checkedAppend_refused (a : Arena) (x y : NodeId) (a' : Arena) (e : NodeError)
    (h : checkedAppend a x y = .done a' (.error e)) : a' = a := by
  unfold checkedAppend at h
  refine refused_of_guards (fun a' e h => refused_of_ancestor (fun a' e h => ?_) h) h
  obtain ⟨d, u, _, h⟩ := Step.bind_eq_done h
  exact tail_not_error _ _ _ _ _ h

theorem checkedPrepend_refused (a : Arena) (x y : NodeId) (a' : Arena) (e : NodeError)
    (h : checkedPrepend a x y = .done a' (.error e)) : a' = a := by
  unfold checkedPrepend at h
  exact refused_of_guards (fun a' e h => refused_of_ancestor (fun a' e => tail_not_error _ _ _ _ _) h) h

theorem checkedInsertAfter_refused (a : Arena) (x y : NodeId) (a' : Arena) (e : NodeError)
    (h : checkedInsertAfter a x y = .done a' (.error e)) : a' = a := by
  unfold checkedInsertAfter at h
  refine refused_of_guards (fun a' e h => ?_) h
  obtain ⟨d, u, _, h⟩ := Step.bind_eq_done h
  exact absurd h (tail_not_error _ _ _ _ _)

theorem checkedInsertBefore_refused (a : Arena) (x y : NodeId) (a' : Arena) (e : NodeError)
    (h : checkedInsertBefore a x y = .done a' (.error e)) : a' = a := by
  unfold checkedInsertBefore at h
  refine refused_of_guards (fun a' e h => ?_) h
  obtain ⟨d, u, _, h⟩ := Step.bind_eq_done h
  exact absurd h (tail_not_error _ _ _ _ _)

end Arena
end XotModel
