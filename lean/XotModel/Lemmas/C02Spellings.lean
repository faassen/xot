/-
  Closed data for the non-vacuity examples and the rejection examples
  of Props/C02.lean, and `wellNsDoc_wrap` (the wrapper element of
  `C02_fragment_spelled_ns` keeps a spelling well formed): spellings (`SNode` / `NSNode`) with the byte positions
  a tokenizer would report (an absent prefix: offset 0), and two processing-instruction tokens with the reserved target.

    spelledExample      <a k="x&amp;"><!--c-->t<![CDATA[ CR LF ]]><b/></a>
    spelledNsExample    <a xmlns="d" xmlns:p="u" p:k="v&amp;"><p:b xmlns:p="w" p:j="1"/><c xmlns="" xml:id=" i "/>t</a>
    spelledTwinExample  <p:a xmlns:p="u" xmlns:q="u" xmlns:xml="http://www.w3.org/XML/1998/namespace"><q:a xml:id=" i  j "></q:a></p:a>
    declXmlnsPrefix     <a xmlns:xmlns='u'/>                             refused (/repo 6153ddf)
    declXmlnsUri        <a xmlns='http://www.w3.org/2000/xmlns/'/>       refused (/repo 6153ddf)
    declEmptyUri        <a xmlns:p=''/>                                  refused (/repo a5dcf8e)
    declXmlRebound      <a xmlns:xml='zzz'/>                             accepted (C03:xml-prefix-rebound-accepted)
    piXml, piXmlMixed   <?xml TAB x?>, <?XmL?> as `Token.pi`             refused (/repo 002854f)
-/
import XotModel.Lemmas.ParseNsDefs

namespace XotModel.Witness
open XotModel

/-- `<a k="x&amp;"><!--c-->t<![CDATA[ CR LF ]]><b/></a>` as a namespace-free spelling. -/
def spelledExample : List SNode :=
  [.elem ⟨['a'], 1⟩ 0 ⟨[], 0⟩
    [{ name := ⟨['k'], 3⟩, pstart := 0, pieces := [.lit 'x', .named ['a', 'm', 'p']], vstart := 6, junk := ⟨[], 0⟩ }]
    ⟨['>'], 13⟩
    [.comment ⟨['c'], 18⟩ ⟨[], 0⟩,
     .chars [.txt [.lit 't'] 22, .cd ⟨['\r', '\n'], 32⟩ ⟨[], 0⟩],
     .empty ⟨['b'], 38⟩ 0 ⟨[], 0⟩ [] ⟨['/', '>'], 39⟩]
    ⟨['a'], 43⟩ 0 ⟨['<', '/', 'a', '>'], 41⟩]

/-- `<a xmlns="d" xmlns:p="u" p:k="v&amp;"><p:b xmlns:p="w" p:j="1"/><c xmlns="" xml:id=" i "/>t</a>`
    — a default namespace, a prefixed element, prefixed attributes, `p` shadowed on the nested
    element, `xmlns=""`, an `xml:id`. -/
def spelledNsExample : List NSNode :=
  [.elem ⟨[], 0⟩ ⟨['a'], 1⟩ ⟨[], 0⟩
    [{ pfx := ⟨[], 0⟩, loc := ⟨xmlnsStr, 3⟩, pieces := [.lit 'd'], vstart := 10, junk := ⟨[], 0⟩ },
     { pfx := ⟨xmlnsStr, 13⟩, loc := ⟨['p'], 19⟩, pieces := [.lit 'u'], vstart := 22, junk := ⟨[], 0⟩ },
     { pfx := ⟨['p'], 25⟩, loc := ⟨['k'], 27⟩, pieces := [.lit 'v', .named ['a', 'm', 'p']], vstart := 30,
       junk := ⟨[], 0⟩ }]
    ⟨['>'], 37⟩
    [.empty ⟨['p'], 39⟩ ⟨['b'], 41⟩ ⟨[], 0⟩
       [{ pfx := ⟨xmlnsStr, 43⟩, loc := ⟨['p'], 49⟩, pieces := [.lit 'w'], vstart := 52, junk := ⟨[], 0⟩ },
        { pfx := ⟨['p'], 55⟩, loc := ⟨['j'], 57⟩, pieces := [.lit '1'], vstart := 60, junk := ⟨[], 0⟩ }]
       ⟨['/', '>'], 62⟩,
     .empty ⟨[], 0⟩ ⟨['c'], 65⟩ ⟨[], 0⟩
       [{ pfx := ⟨[], 0⟩, loc := ⟨xmlnsStr, 67⟩, pieces := [], vstart := 74, junk := ⟨[], 0⟩ },
        { pfx := ⟨['x', 'm', 'l'], 77⟩, loc := ⟨['i', 'd'], 81⟩, pieces := [.lit ' ', .lit 'i', .lit ' '],
          vstart := 85, junk := ⟨[], 0⟩ }]
       ⟨['/', '>'], 89⟩,
     .chars [.txt [.lit 't'] 91]]
    ⟨[], 0⟩ ⟨['a'], 94⟩ ⟨['<', '/', 'a', '>'], 92⟩]

/-- `<p:a xmlns:p="u" xmlns:q="u" xmlns:xml="http://www.w3.org/XML/1998/namespace"><q:a xml:id=" i  j "></q:a></p:a>`
    — two prefixes for one namespace used for different elements, every end tag as its start tag;
    the prefix `xml` declared once more (to the XML namespace: the one declaration of that URI which
    `DocumentBuilder::prefix` lets pass) and an `xml:id` in its scope. -/
def spelledTwinExample : List NSNode :=
  [.elem ⟨['p'], 1⟩ ⟨['a'], 3⟩ ⟨[], 0⟩
    [{ pfx := ⟨xmlnsStr, 5⟩, loc := ⟨['p'], 11⟩, pieces := [.lit 'u'], vstart := 14, junk := ⟨[], 0⟩ },
     { pfx := ⟨xmlnsStr, 17⟩, loc := ⟨['q'], 23⟩, pieces := [.lit 'u'], vstart := 26, junk := ⟨[], 0⟩ },
     { pfx := ⟨xmlnsStr, 29⟩, loc := ⟨['x', 'm', 'l'], 35⟩, pieces := xmlNsUri.map .lit, vstart := 40,
       junk := ⟨[], 0⟩ }]
    ⟨['>'], 77⟩
    [.elem ⟨['q'], 79⟩ ⟨['a'], 81⟩ ⟨[], 0⟩
       [{ pfx := ⟨['x', 'm', 'l'], 83⟩, loc := ⟨['i', 'd'], 87⟩,
          pieces := [.lit ' ', .lit 'i', .lit ' ', .lit ' ', .lit 'j', .lit ' '], vstart := 91, junk := ⟨[], 0⟩ }]
       ⟨['>'], 98⟩ [] ⟨['q'], 101⟩ ⟨['a'], 103⟩ ⟨['<', '/', 'q', ':', 'a', '>'], 99⟩]
    ⟨['p'], 107⟩ ⟨['a'], 109⟩ ⟨['<', '/', 'p', ':', 'a', '>'], 105⟩]

/-! ### Reserved namespace declarations and the reserved PI target -/

/-- `<a ITEM/>`: the empty element `a` at byte 0 whose start tag holds one item and whose `/>` is at
    `endAt`. -/
def oneItem (item : NSAttr) (endAt : Nat) : List NSNode :=
  [.empty ⟨[], 0⟩ ⟨['a'], 1⟩ ⟨['<', 'a'], 0⟩ [item] ⟨['/', '>'], endAt⟩]

/-- `<a xmlns:xmlns='u'/>` (20 bytes): the prefix `xmlns` declared. -/
def declXmlnsPrefix : List NSNode :=
  oneItem { pfx := ⟨xmlnsStr, 3⟩, loc := ⟨xmlnsStr, 9⟩, pieces := [.lit 'u'], vstart := 16,
            junk := ⟨xmlnsStr ++ [':'] ++ xmlnsStr ++ ['=', '\'', 'u', '\''], 3⟩ } 18
def declXmlnsPrefixLen : Nat := 20

/-- `<a xmlns='http://www.w3.org/2000/xmlns/'/>` (42 bytes): the xmlns namespace name as default
    namespace. -/
def declXmlnsUri : List NSNode :=
  oneItem { pfx := ⟨[], 0⟩, loc := ⟨xmlnsStr, 3⟩, pieces := xmlnsNamespaceUri.map .lit, vstart := 10,
            junk := ⟨xmlnsStr ++ ['=', '\''] ++ xmlnsNamespaceUri ++ ['\''], 3⟩ } 40
def declXmlnsUriLen : Nat := 42

/-- `<a xmlns:p=''/>` (15 bytes): a prefixed undeclaration (Namespaces in XML 1.1 only). -/
def declEmptyUri : List NSNode :=
  oneItem { pfx := ⟨xmlnsStr, 3⟩, loc := ⟨['p'], 9⟩, pieces := [], vstart := 12,
            junk := ⟨xmlnsStr ++ [':', 'p', '=', '\'', '\''], 3⟩ } 13
def declEmptyUriLen : Nat := 15

/-- `<a xmlns:xml='zzz'/>` (20 bytes): the prefix `xml` bound to another namespace. -/
def declXmlRebound : List NSNode :=
  oneItem { pfx := ⟨xmlnsStr, 3⟩, loc := ⟨['x', 'm', 'l'], 9⟩, pieces := [.lit 'z', .lit 'z', .lit 'z'], vstart := 14,
            junk := ⟨xmlnsStr ++ [':', 'x', 'm', 'l', '=', '\'', 'z', 'z', 'z', '\''], 3⟩ } 18
def declXmlReboundLen : Nat := 20

/-- `<?xml TAB x?>` (9 bytes) as the processing-instruction token a tokenizer that does not know
    the XML declaration in this spelling hands over: target `xml`, data `x`. -/
def piXml : List Token :=
  [.pi ⟨['x', 'm', 'l'], 2⟩ (some ⟨['x'], 6⟩) ⟨['<', '?', 'x', 'm', 'l', '\t', 'x', '?', '>'], 0⟩]

/-- `<?XmL?>` (7 bytes): the target in another letter case, no data. -/
def piXmlMixed : List Token :=
  [.pi ⟨['X', 'm', 'L'], 2⟩ none ⟨['<', '?', 'X', 'm', 'L', '?', '>'], 0⟩]

end XotModel.Witness

namespace XotModel

/-- Wrapping a well-formed spelling in one unprefixed element without attributes `<w>…</w>` gives a
    well-formed spelling. -/
theorem wellNsDoc_wrap {sns : List NSNode} (hw : WellNsDoc sns) (w : StrSpan) (pstart : Nat) (junk openSp : StrSpan)
    (cw : StrSpan) (cpstart : Nat) (closeSp : StrSpan) (hcw : cw.text = w.text)
    (hps : pstart = 0) (hcps : cpstart = 0) :
    WellNsDoc [NSNode.elem ⟨[], pstart⟩ w junk [] openSp sns ⟨[], cpstart⟩ cw closeSp] := by
  subst hps hcps
  refine ⟨⟨⟨⟨fun a ha => by simp at ha, fun d hd => by simp [declsOf] at hd, List.nodup_nil, List.nodup_nil,
      fun a ha => by simp [ordinary] at ha, fun a ha => by simp at ha⟩,
    rfl, rfl, hcw, hw.2.1, hw.1, rfl, rfl⟩, trivial⟩, rfl, ?_⟩
  have := hw.2.2
  simpa [NSNode.denote.denoteList, NSNode.denote, NPNode.ids.idsList, NPNode.ids, attrIds, attrsOf, ordinary,
    declsOf, Scope.push] using this

end XotModel
