/-
  Each map operation as one step with its reference-map meaning and frame (`Step`): a new entry
  (`insert` of an absent key, `insert_node` of a parentless entry node), `remove`, `clear`, node-
  style insertion; and histories of updates of one element.
-/
import XotModel.Lemmas.FmapOps

/-! ## A new entry; `remove` of a present key -/

namespace XotModel
namespace Fmap
open HTree
open Forest (MapKind entryKey mapChildren)

/-! ### `arena.new_node` -/

theorem root_handle_below (f : Forest) (hb : ∀ h ∈ f.allHandles, h < f.next) :
    ∀ r ∈ f.roots, r.handle ≠ f.next := by
  intro r hr hh
  have := hb r.handle (rootHandle_mem_handlesList hr)
  omega

theorem rootsWithout_newNode (f : Forest) (hb : ∀ h ∈ f.allHandles, h < f.next) (v : Value) :
    rootsWithout (f.newNode v).1 f.next = f.roots := by
  simp only [rootsWithout, newNode_eq, List.filter_append]
  have h1 : f.roots.filter (fun r => r.handle != f.next) = f.roots :=
    List.filter_eq_self.mpr (fun r hr => by
      have := root_handle_below f hb r hr
      simp [this])
  rw [h1]
  simp [HTree.handle]

theorem located_newNode {f : Forest} {e : Nat} {ev : Value} {ks : List HTree}
    (h : Located f e ev ks) (hb : ∀ h ∈ f.allHandles, h < f.next) (v : Value) :
    Located (f.newNode v).1 e ev ks ∧ HTree.node f.next v [] ∈ (f.newNode v).1.roots ∧
    e ≠ f.next ∧ (∀ h ∈ (f.newNode v).1.allHandles, h < (f.newNode v).1.next) := by
  have hfresh : f.next ∉ f.allHandles := fun hx => Nat.lt_irrefl _ (hb _ hx)
  refine ⟨⟨?_, ?_⟩, ?_, ?_, ?_⟩
  · rw [allHandles_newNode]
    apply List.nodup_append.mpr
    refine ⟨h.nodup, by simp, ?_⟩
    intro a ha b hb' hab
    simp only [List.mem_singleton] at hb'
    subst hab hb'
    exact hfresh ha
  · exact fi_findList?_append_left h.get
  · simp [newNode_eq]
  · intro hh
    exact hfresh (hh ▸ mem_of_findList?_some h.get)
  · intro x hx
    rw [allHandles_newNode] at hx
    simp only [newNode_eq]
    rcases List.mem_append.mp hx with hx | hx
    · exact Nat.lt_succ_of_lt (hb x hx)
    · simp only [List.mem_singleton] at hx; omega

/-! ### The insertion point and the placement -/

theorem insertionPoint_spec {f : Forest} {e : Nat} {ev : Value} {N A S : List HTree}
    (hl : Located f e ev (N ++ A ++ S)) (hs : Sect (N ++ A ++ S) N A S) (k : MapKind) :
    f.mapInsertionPoint k e =
      match (Sect.sec k N A).getLast? with
      | some l => some l.handle
      | none =>
        match k with
        | .namespaces => none
        | .attributes => (N.getLast?).map (·.handle) :=
  Sect.insertionPoint hl.get hs k

theorem mapPlace_spec {f : Forest} {e : Nat} {ev : Value} {N A S : List HTree}
    (hl : Located f e ev (N ++ A ++ S)) (hs : Sect (N ++ A ++ S) N A S) (k : MapKind)
    (nd : Nat) (v : Value) (hroot : HTree.node nd v [] ∈ f.roots) (hne : e ≠ nd) :
    f.mapPlace k e nd =
      ({ f with roots := withKids (rootsWithout f nd) e (preK k N ++ (Sect.sec k N A ++ [.node nd v []]) ++ postK k A S) }, .ok) := by
  unfold Forest.mapPlace
  rw [insertionPoint_spec hl hs k]
  cases hlast : (Sect.sec k N A).getLast? with
  | some l =>
    obtain ⟨s0, hs0⟩ := List.getLast?_eq_some_iff.mp hlast
    have hloc : Located f e ev ((preK k N ++ s0) ++ l :: postK k A S) := by
      have : N ++ A ++ S = (preK k N ++ s0) ++ l :: postK k A S := by
        rw [split_kids k, hs0]; simp
      rw [← this]; exact hl
    simp only
    rw [checkedInsertAfter_child hloc nd v hroot hne]
    simp only [if_true]
    congr 3
    rw [hs0]; simp
  | none =>
    have hnil : Sect.sec k N A = [] := List.getLast?_eq_none_iff.mp hlast
    cases k with
    | namespaces =>
      simp only
      rw [checkedPrepend_leafRoot hl nd v hroot hne]
      simp only [if_true]
      simp only [Sect.sec] at hnil
      subst hnil
      simp [preK, postK, Sect.sec]
    | attributes =>
      simp only [Sect.sec] at hnil
      subst hnil
      cases hN : N.getLast? with
      | some l =>
        obtain ⟨N0, hN0⟩ := List.getLast?_eq_some_iff.mp hN
        have hloc : Located f e ev (N0 ++ l :: S) := by
          have : N ++ [] ++ S = N0 ++ l :: S := by rw [hN0]; simp
          rw [← this]; exact hl
        simp only [Option.map_some]
        rw [checkedInsertAfter_child hloc nd v hroot hne]
        simp only [if_true]
        congr 3
        rw [hN0]; simp [preK, postK, Sect.sec]
      | none =>
        have hNnil : N = [] := List.getLast?_eq_none_iff.mp hN
        subst hNnil
        simp only [Option.map_none]
        rw [checkedPrepend_leafRoot hl nd v hroot hne]
        simp [preK, postK, Sect.sec]

/-- Placement of the parentless entry node `nd` whose key is absent: new state and meaning. -/
theorem place_absent {f : Forest} {e nm : Nat} {N A S : List HTree} (h : MInv f e nm N A S)
    (k : MapKind) (nd : Nat) (v : Value) (hm : k.matches v = true)
    (hroot : HTree.node nd v [] ∈ f.roots) (hne : e ≠ nd)
    (habs : ∀ a ∈ Sect.sec k N A, keyOf a ≠ entryKey v) :
    let s' := Sect.sec k N A ++ [.node nd v []]
    let f' : Forest := { f with roots := withKids (rootsWithout f nd) e (preK k N ++ s' ++ postK k A S) }
    f.mapPlace k e nd = (f', .ok) ∧
    MInv f' e nm (setSecN k N s') (setSecA k A s') S ∧
    s'.map entryPair = omInsert ((Sect.sec k N A).map entryPair) (entryKey v) (payloadOf v) ∧
    s'.map (·.handle) = (Sect.sec k N A).map (·.handle) ++ [nd] := by
  intro s' f'
  refine ⟨mapPlace_spec h.loc h.sect k nd v hroot hne, ?_, ?_, by simp [s', HTree.handle]⟩
  · apply h.update k s'
    · intro x hx
      simp only [s', List.mem_append, List.mem_singleton] at hx
      rcases hx with hx | hx
      · exact h.leaf k x hx
      · rw [hx]; rfl
    · have hks : N ++ A ++ S = (preK k N ++ Sect.sec k N A) ++ postK k A S := split_kids k N A S
      have := located_placed h.loc nd v hroot hne _ _ hks
      simp only [s', f']
      simpa using this
    · intro x hx
      simp only [s', List.mem_append, List.mem_singleton] at hx
      rcases hx with hx | hx
      · exact h.sect.sec_cat k x hx
      · rw [hx]; exact (matches_iff_cat k v).mp hm
    · simp only [s', List.map_append, List.map_cons, List.map_nil]
      apply List.nodup_append.mpr
      refine ⟨h.uniq k, by simp, ?_⟩
      intro a ha b hb hab
      simp only [List.mem_singleton] at hb
      obtain ⟨x, hx, rfl⟩ := List.mem_map.mp ha
      exact habs x hx (hab.trans hb)
    · intro x hx
      have h0 := located_without h.loc nd v hroot hne
      rcases mem_withKids _ e _ _ h0.nodup h0.get x hx with hx | hx
      · exact h.below x ((handlesList_filter_sublist _ _).subset hx)
      · -- a handle of the new child list: an old child or `nd`
        have hk : x ∈ handlesList (N ++ A ++ S) ∨ x = nd := by
          rw [split_kids k N A S]
          simp only [s', handlesList_append, handlesList, handles, List.mem_append, List.mem_cons,
            List.not_mem_nil, or_false] at hx ⊢
          rcases hx with (hx | hx | hx) | hx
          · exact Or.inl (Or.inl (Or.inl hx))
          · exact Or.inl (Or.inl (Or.inr hx))
          · exact Or.inr hx
          · exact Or.inl (Or.inr hx)
        rcases hk with hk | hk
        · apply h.below
          apply findList?_handles_sub e f.roots _ h.loc.get
          simp only [handles, List.mem_cons]; exact Or.inr hk
        · rw [hk]
          exact h.below nd (handles_subset_handlesList hroot nd (by simp [handles]))
  · simp only [s', List.map_append, List.map_cons, List.map_nil]
    rw [omInsert_absent]
    · rfl
    · intro a ha
      obtain ⟨x, hx, rfl⟩ := List.mem_map.mp ha
      exact habs x hx

/-! ### `remove` -/

theorem remove_present {f : Forest} {e nm : Nat} {N A S : List HTree} (h : MInv f e nm N A S)
    (k : MapKind) (key : Nat) (n : HTree) (s1 s2 : List HTree)
    (hs : Sect.sec k N A = s1 ++ n :: s2) (hkey : keyOf n = key)
    (hs1 : ∀ a ∈ s1, keyOf a ≠ key) :
    let f' : Forest := { f with roots := withKids f.roots e (preK k N ++ (s1 ++ s2) ++ postK k A S) }
    f.remove n.handle = (f', .ok) ∧
    MInv f' e nm (setSecN k N (s1 ++ s2)) (setSecA k A (s1 ++ s2)) S ∧
    (s1 ++ s2).map entryPair = omRemove ((Sect.sec k N A).map entryPair) key := by
  intro f'
  have hloc : Located f e (.element nm) ((preK k N ++ s1) ++ n :: (s2 ++ postK k A S)) := by
    rw [← kids_around k N A S s1 s2 n hs]; exact h.loc
  have hncat : n.value.category = kindCat k := h.sect.sec_cat k n (by rw [hs]; simp)
  have hrem := remove_child hloc (by rw [hncat]; exact kindCat_ne_normal k)
  have hkids : (preK k N ++ s1) ++ (s2 ++ postK k A S) = preK k N ++ (s1 ++ s2) ++ postK k A S := by
    simp
  rw [hkids] at hrem
  have hsub : (s1 ++ s2).Sublist (Sect.sec k N A) := by
    rw [hs]; exact (List.Sublist.refl _).append (List.sublist_cons_self _ _)
  refine ⟨hrem, h.update_sublist k hsub ?_ (h.below_withKids k hsub), ?_⟩
  · have := located_after_cut hloc
    rw [hkids] at this
    exact this
  · rw [hs]
    simp only [List.map_append, List.map_cons]
    have e1 : entryPair n = (key, payloadOf n.value) := by
      simp only [entryPair]; rw [← hkey]; rfl
    rw [e1, omRemove_split]
    intro a ha
    obtain ⟨x, hx, rfl⟩ := List.mem_map.mp ha
    exact hs1 x hx

end Fmap
end XotModel

/-! ## Each operation as one `Step`: the new state, its `MInv`, the reference-map meaning of the view, the frame -/

namespace XotModel
namespace Fmap
open HTree
open Forest (MapKind entryKey mapChildren)

theorem mapAt_id (e : Nat) : ∀ k : HTree, mapAt e (atKids (fun ks => ks)) k = k :=
  ff_mapAt_id e _ fun t => by cases t; rfl

theorem withKids_self {f : Forest} {e : Nat} {ev : Value} {ks : List HTree}
    (h : Located f e ev ks) : withKids f.roots e ks = f.roots := by
  have := withKids_of f.roots e (fun ks => ks) _ h.nodup h.get
  simp only [HTree.kids] at this
  rw [← this, ff_mapAtList_id e _ fun t => by cases t; rfl]

theorem setSec_self (k : MapKind) (N A : List HTree) :
    setSecN k N (Sect.sec k N A) = N ∧ setSecA k A (Sect.sec k N A) = A := by
  cases k <;> exact ⟨rfl, rfl⟩

/-- The result of one operation on view `k` of the element `e`: the view's section became `s'`,
    nothing else in the element changed, the rest of the forest is as it was except for the
    parentless trees listed in `roots0`. -/
structure Step (f f' : Forest) (e nm : Nat) (N A S : List HTree) (k : MapKind)
    (roots0 s' : List HTree) : Prop where
  state : f' = { f with roots := withKids roots0 e (preK k N ++ s' ++ postK k A S), next := f'.next }
  inv : MInv f' e nm (setSecN k N s') (setSecA k A s') S
  next_le : f.next ≤ f'.next

theorem Step.abs_same {f f' : Forest} {e nm : Nat} {N A S roots0 s' : List HTree} {k : MapKind}
    (st : Step f f' e nm N A S k roots0 s') : abs k f' e = s'.map entryPair :=
  MInv.abs_update st.inv

theorem Step.abs_other {f f' : Forest} {e nm : Nat} {N A S roots0 s' : List HTree} {k k' : MapKind}
    (h : MInv f e nm N A S) (st : Step f f' e nm N A S k roots0 s') (hk : k' ≠ k) :
    abs k' f' e = abs k' f e :=
  MInv.abs_update_other h st.inv hk

theorem Step.nodes_same {f f' : Forest} {e nm : Nat} {N A S roots0 s' : List HTree} {k : MapKind}
    (st : Step f f' e nm N A S k roots0 s') : absNodes k f' e = s'.map (·.handle) := by
  rw [st.inv.absNodes_eq k, sec_setSec]

theorem Step.nodes_other {f f' : Forest} {e nm : Nat} {N A S roots0 s' : List HTree} {k k' : MapKind}
    (h : MInv f e nm N A S) (st : Step f f' e nm N A S k roots0 s') (hk : k' ≠ k) :
    absNodes k' f' e = absNodes k' f e := by
  rw [st.inv.absNodes_eq k', h.absNodes_eq k', sec_setSec_other k k' N A s' hk]

theorem Step.refl {f : Forest} {e nm : Nat} {N A S : List HTree} (h : MInv f e nm N A S)
    (k : MapKind) : Step f f e nm N A S k f.roots (Sect.sec k N A) := by
  refine ⟨?_, ?_, Nat.le_refl _⟩
  · rw [← split_kids k N A S, withKids_self h.loc]
  · rw [(setSec_self k N A).1, (setSec_self k N A).2]; exact h

/-! ### `insert` -/

theorem mapInsert_step {f : Forest} {e nm : Nat} {N A S : List HTree} (h : MInv f e nm N A S)
    (k : MapKind) (entry : Value) (hm : k.matches entry = true) :
    ∃ s', Step f (f.mapInsert k e entry).1 e nm N A S k f.roots s' ∧
      (f.mapInsert k e entry).2 = .ok ∧
      s'.map entryPair =
        omInsert ((Sect.sec k N A).map entryPair) (entryKey entry) (payloadOf entry) ∧
      (∀ n, f.mapGetNode k e (entryKey entry) = some n →
        s'.map (·.handle) = (Sect.sec k N A).map (·.handle)) ∧
      (f.mapGetNode k e (entryKey entry) = none →
        s'.map (·.handle) = (Sect.sec k N A).map (·.handle) ++ [f.next]) := by
  unfold Forest.mapInsert
  rw [h.isElement]
  simp only [Bool.not_true, Bool.false_eq_true, if_false]
  rw [h.getNode k]
  cases hf : (Sect.sec k N A).find? (fun c => entryKey c.value == entryKey entry) with
  | some n =>
    obtain ⟨hkey, s1, s2, hs, hs1⟩ := find?_key_split _ _ _ hf
    obtain ⟨heq, hinv, hmap, hnodes⟩ := insert_existing h k entry hm n s1 s2 hs _ hkey hs1
    refine ⟨_, ⟨?_, ?_, ?_⟩, rfl, hmap, fun _ _ => hnodes, fun hn => (by cases hn)⟩
    · simp only; rw [heq]
    · simp only; rw [heq]; exact hinv
    · simp only; rw [heq]; exact Nat.le_refl _
  | none =>
    have habs := find?_key_none _ _ hf
    simp only
    obtain ⟨hloc1, hroot1, hne1, hbelow1⟩ := located_newNode h.loc h.below entry
    have h1 : MInv (f.newNode entry).1 e nm N A S := ⟨hloc1, h.sect, h.uniq, hbelow1, h.leaf⟩
    obtain ⟨hplace, hinv, hmap, hnodes⟩ :=
      place_absent h1 k f.next entry hm hroot1 hne1 habs
    rw [rootsWithout_newNode f h.below entry] at hplace hinv
    show ∃ s', Step f ((f.newNode entry).1.mapPlace k e f.next).1 e nm N A S k f.roots s' ∧
      ((f.newNode entry).1.mapPlace k e f.next).2 = .ok ∧ _
    rw [hplace]
    refine ⟨_, ⟨?_, hinv, ?_⟩, rfl, hmap, fun n hn => (by cases hn), fun _ => hnodes⟩
    · simp only [newNode_eq]
    · simp only [newNode_eq]; omega

/-! ### `remove` -/

theorem mapRemove_step {f : Forest} {e nm : Nat} {N A S : List HTree} (h : MInv f e nm N A S)
    (k : MapKind) (key : Nat) :
    ∃ s', Step f (f.mapRemove k e key).1 e nm N A S k f.roots s' ∧
      (f.mapRemove k e key).2 = .ok ∧
      s'.map entryPair = omRemove ((Sect.sec k N A).map entryPair) key ∧
      (s'.map (·.handle)).Sublist ((Sect.sec k N A).map (·.handle)) := by
  unfold Forest.mapRemove
  rw [h.isElement]
  simp only [Bool.not_true, Bool.false_eq_true, if_false]
  rw [h.getNode k]
  cases hf : (Sect.sec k N A).find? (fun c => entryKey c.value == key) with
  | some n =>
    obtain ⟨hkey, s1, s2, hs, hs1⟩ := find?_key_split _ _ _ hf
    obtain ⟨hrem, hinv, hmap⟩ := remove_present h k key n s1 s2 hs hkey hs1
    simp only
    rw [hrem]
    refine ⟨_, ⟨rfl, hinv, Nat.le_refl _⟩, rfl, hmap, ?_⟩
    rw [hs]
    simp only [List.map_append, List.map_cons]
    exact List.Sublist.append (List.Sublist.refl _) (List.sublist_cons_self _ _)
  | none =>
    have habs := find?_key_none _ _ hf
    refine ⟨_, Step.refl h k, rfl, ?_, List.Sublist.refl _⟩
    rw [omRemove_absent]
    intro a ha
    obtain ⟨x, hx, rfl⟩ := List.mem_map.mp ha
    exact habs x hx

/-! ### `clear` -/

theorem clear_fold (e : Nat) (ev : Value) (pre post : List HTree) :
    ∀ (cs : List HTree) (f : Forest), Located f e ev (pre ++ cs ++ post) →
      (∀ c ∈ cs, c.value.category ≠ .normal) →
      cs.foldl (fun acc c => (acc.remove c.handle).1) f =
        { f with roots := withKids f.roots e (pre ++ post) } ∧
      Located { f with roots := withKids f.roots e (pre ++ post) } e ev (pre ++ post)
  | [], f => by
    intro hl _
    simp only [List.append_nil] at hl
    simp only [List.foldl_nil]
    rw [withKids_self hl]
    exact ⟨rfl, hl⟩
  | c :: cs, f => by
    intro hl hc
    have hl' : Located f e ev (pre ++ c :: (cs ++ post)) := by
      have : pre ++ c :: cs ++ post = pre ++ c :: (cs ++ post) := by simp
      rw [← this]; exact hl
    have hrem := remove_child hl' (hc c List.mem_cons_self)
    have hl1 := located_after_cut hl'
    have hk : pre ++ (cs ++ post) = pre ++ cs ++ post := by simp
    rw [hk] at hrem hl1
    simp only [List.foldl_cons]
    rw [hrem]
    simp only
    obtain ⟨h1, h2⟩ := clear_fold e ev pre post cs _ hl1 (fun x hx => hc x (List.mem_cons_of_mem _ hx))
    rw [h1]
    simp only [withKids_withKids] at h2 ⊢
    exact ⟨trivial, h2⟩

theorem mapClear_step {f : Forest} {e nm : Nat} {N A S : List HTree} (h : MInv f e nm N A S)
    (k : MapKind) :
    Step f (f.mapClear k e).1 e nm N A S k f.roots [] ∧ (f.mapClear k e).2 = .ok := by
  unfold Forest.mapClear
  rw [h.isElement]
  simp only [Bool.not_true, Bool.false_eq_true, if_false]
  rw [h.loc.get]
  simp only
  rw [mapChildren_eq]
  simp only [HTree.kids]
  rw [h.sect.kidsOf]
  have hl : Located f e (.element nm) (preK k N ++ Sect.sec k N A ++ postK k A S) := by
    rw [← split_kids]; exact h.loc
  obtain ⟨h1, h2⟩ := clear_fold e _ (preK k N) (postK k A S) (Sect.sec k N A) f hl
    (fun c hc => by rw [h.sect.sec_cat k c hc]; exact kindCat_ne_normal k)
  rw [h1]
  have hb := h.below_withKids k (List.nil_sublist _)
  rw [List.append_nil] at hb
  exact ⟨⟨by simp, h.update_sublist k (List.nil_sublist _) (by simpa using h2) hb, Nat.le_refl _⟩,
    trivial⟩

end Fmap
end XotModel

/-! ## Node-style insertion; histories

`append_attribute_node` / `append_namespace_node` / `any_append` of a parentless entry node. -/

namespace XotModel
namespace Fmap
open HTree
open Forest (MapKind entryKey mapChildren)

theorem leafRoot_get (f : Forest) (hnd : f.allHandles.Nodup) (nd : Nat) (v : Value)
    (hroot : HTree.node nd v [] ∈ f.roots) : f.get? nd = some (.node nd v []) :=
  findList?_direct f.roots hnd _ hroot

theorem leafRoot_ne_elem {f : Forest} {e nm : Nat} {N A S : List HTree} (h : MInv f e nm N A S)
    (k : MapKind) (nd : Nat) (v : Value) (hm : k.matches v = true)
    (hroot : HTree.node nd v [] ∈ f.roots) : e ≠ nd := by
  intro hh
  subst hh
  have := leafRoot_get f h.loc.nodup e v hroot
  rw [h.loc.get] at this
  simp only [Option.some.injEq, HTree.node.injEq] at this
  obtain ⟨_, hv, _⟩ := this
  subst hv
  cases k <;> simp [MapKind.matches] at hm

theorem leafRoot_mem_withKids (roots : List HTree) (e nd : Nat) (v : Value) (ks' : List HTree)
    (hroot : HTree.node nd v [] ∈ roots) (hne : e ≠ nd) :
    HTree.node nd v [] ∈ withKids roots e ks' := by
  unfold withKids
  rw [mapAtList_eq_map]
  apply List.mem_map.mpr
  refine ⟨_, hroot, ?_⟩
  apply mapAt_of_not_mem
  simp [handles, handlesList, hne]

/-- `append_attribute_node` / `append_namespace_node` of a parentless entry node `nd`.
    Key present: the existing node keeps place and handle and takes the value, `nd` stays a
    parentless node.  Key absent: `nd` becomes the last entry of the view. -/
theorem appendEntryNode_step {f : Forest} {e nm : Nat} {N A S : List HTree} (h : MInv f e nm N A S)
    (k : MapKind) (nd : Nat) (v : Value) (hm : k.matches v = true)
    (hroot : HTree.node nd v [] ∈ f.roots) :
    ∃ s' roots0, Step f (f.appendEntryNode k e nd).1 e nm N A S k roots0 s' ∧
      (f.appendEntryNode k e nd).2.1 = .ok ∧
      s'.map entryPair = omInsert ((Sect.sec k N A).map entryPair) (entryKey v) (payloadOf v) ∧
      (f.appendEntryNode k e nd).1.next = f.next ∧
      (∀ n, f.mapGetNode k e (entryKey v) = some n →
        (f.appendEntryNode k e nd).2.2 = n.handle ∧
        s'.map (·.handle) = (Sect.sec k N A).map (·.handle) ∧
        HTree.node nd v [] ∈ (f.appendEntryNode k e nd).1.roots ∧ roots0 = f.roots) ∧
      (f.mapGetNode k e (entryKey v) = none →
        (f.appendEntryNode k e nd).2.2 = nd ∧
        s'.map (·.handle) = (Sect.sec k N A).map (·.handle) ++ [nd] ∧
        roots0 = rootsWithout f nd) := by
  have hne := leafRoot_ne_elem h k nd v hm hroot
  have hval : f.value? nd = some v := by
    simp [Forest.value?, leafRoot_get f h.loc.nodup nd v hroot, HTree.value]
  cases hf : f.mapGetNode k e (entryKey v) with
  | some n =>
    rw [appendEntryNode_found h.isElement hval hm hf]
    rw [h.getNode k] at hf
    obtain ⟨hkey, s1, s2, hs, hs1⟩ := find?_key_split _ _ _ hf
    obtain ⟨heq, hinv, hmap, hnodes⟩ := insert_existing h k v hm n s1 s2 hs _ hkey hs1
    rw [heq]
    refine ⟨_, f.roots, ⟨rfl, hinv, Nat.le_refl _⟩, rfl, hmap, rfl, ?_, fun hn => (by cases hn)⟩
    intro n' hn'
    cases hn'
    exact ⟨rfl, hnodes, leafRoot_mem_withKids f.roots e nd v _ hroot hne, rfl⟩
  | none =>
    rw [appendEntryNode_place h.isElement hval hm hf]
    rw [h.getNode k] at hf
    obtain ⟨hplace, hinv, hmap, hnodes⟩ := place_absent h k nd v hm hroot hne (find?_key_none _ _ hf)
    rw [hplace]
    exact ⟨_, rootsWithout f nd, ⟨rfl, hinv, Nat.le_refl _⟩, rfl, hmap, rfl, fun n hn => (by cases hn),
      fun _ => ⟨rfl, hnodes, rfl⟩⟩

/-- `any_append` of an entry node is the matching `append_*_node`. -/
theorem anyAppend_entry (f : Forest) (k : MapKind) (e nd : Nat) (v : Value)
    (hval : f.value? nd = some v) (hm : k.matches v = true) :
    f.anyAppend e nd = f.appendEntryNode k e nd := by
  unfold Forest.anyAppend
  rw [hval]
  cases k <;> cases v <;> simp [MapKind.matches] at hm ⊢

/-! ### Histories -/

theorem specFor_same (op : MapOp) (m : OMap Payload) : op.specFor op.kind m = op.spec m := by
  simp [MapOp.specFor]

theorem specFor_other (op : MapOp) (k : MapKind) (m : OMap Payload) (h : k ≠ op.kind) :
    op.specFor k m = m := by
  simp [MapOp.specFor, Ne.symm h]

theorem step_views {f f' : Forest} {e nm : Nat} {N A S roots0 s' : List HTree} {k0 : MapKind}
    (h : MInv f e nm N A S) (st : Step f f' e nm N A S k0 roots0 s') (op : MapOp)
    (hk : op.kind = k0) (hmap : s'.map entryPair = op.spec ((Sect.sec k0 N A).map entryPair)) :
    ∀ k, abs k f' e = op.specFor k (abs k f e) := by
  intro k
  by_cases hkk : k = k0
  · subst hkk
    rw [st.abs_same, hmap, h.abs_eq k, ← hk, specFor_same]
  · rw [st.abs_other h hkk, specFor_other op k _ (by rw [hk]; exact hkk)]

theorem op_step {f : Forest} {e nm : Nat} {N A S : List HTree} (h : MInv f e nm N A S)
    (op : MapOp) (hwf : op.wf = true) :
    ∃ N' A', MInv (op.run e f).1 e nm N' A' S ∧ (op.run e f).2 = .ok ∧
      ∀ k, abs k (op.run e f).1 e = op.specFor k (abs k f e) := by
  cases op with
  | insert k v =>
    obtain ⟨s', st, hok, hmap, _, _⟩ := mapInsert_step h k v hwf
    exact ⟨_, _, st.inv, hok, step_views h st (.insert k v) rfl hmap⟩
  | remove k key =>
    obtain ⟨s', st, hok, hmap, _⟩ := mapRemove_step h k key
    exact ⟨_, _, st.inv, hok, step_views h st (.remove k key) rfl hmap⟩
  | clear k =>
    obtain ⟨st, hok⟩ := mapClear_step h k
    exact ⟨_, _, st.inv, hok, step_views h st (.clear k) rfl rfl⟩
  | insertNode k v =>
    obtain ⟨hloc1, hroot1, _, hbelow1⟩ := located_newNode h.loc h.below v
    have h1 : MInv (f.newNode v).1 e nm N A S := ⟨hloc1, h.sect, h.uniq, hbelow1, h.leaf⟩
    obtain ⟨s', roots0, st, hok, hmap, _, _, _⟩ := appendEntryNode_step h1 k f.next v hwf hroot1
    have habs : ∀ k', abs k' (f.newNode v).1 e = abs k' f e := by
      intro k'; rw [h1.abs_eq, h.abs_eq]
    refine ⟨_, _, st.inv, hok, ?_⟩
    intro k'
    have := step_views h1 st (.insertNode k v) rfl hmap k'
    rw [habs k'] at this
    exact this

theorem runOps_spec (e nm : Nat) (S : List HTree) : ∀ (ops : List MapOp) (f : Forest)
    (N A : List HTree), MInv f e nm N A S → (∀ op ∈ ops, op.wf = true) →
    ∃ N' A', MInv (runOps e f ops).1 e nm N' A' S ∧
      (∀ r ∈ (runOps e f ops).2, r = .ok) ∧
      ∀ k, abs k (runOps e f ops).1 e = specOps k (abs k f e) ops
  | [], f, N, A => by
    intro h _
    exact ⟨N, A, h, by simp [runOps], fun k => rfl⟩
  | op :: ops, f, N, A => by
    intro h hwf
    obtain ⟨N1, A1, h1, hok, hv⟩ := op_step h op (hwf op List.mem_cons_self)
    obtain ⟨N2, A2, h2, hoks, hvs⟩ :=
      runOps_spec e nm S ops (op.run e f).1 N1 A1 h1 (fun o ho => hwf o (List.mem_cons_of_mem _ ho))
    refine ⟨N2, A2, h2, ?_, ?_⟩
    · intro r hr
      simp only [runOps, List.mem_cons] at hr
      rcases hr with hr | hr
      · rw [hr]; exact hok
      · exact hoks r hr
    · intro k
      simp only [runOps, specOps, List.foldl_cons]
      rw [hvs k, hv k]
      rfl

end Fmap
end XotModel
