/-
  The `FullnameSerializer` stack (Model/Names `FStack`) against nearest-declaration-wins scoping:
  the top frame of the stack is the flattened scope of the declaration frames pushed so far.
  The facts about `(prefix, namespace)` lists read with `List.lookup` that the scope lemmas share
  come first, then what the prefix choosers answer and when the name checks (`element_prefix`,
  `attribute_prefix`, the qualified names) succeed.
-/
import XotModel.Model.Scope
import XotModel.Lemmas.BasicFacts

namespace XotModel

/-- Declaration lists of the open elements, innermost first (the last one is the scope the
    serialiser started with). -/
abbrev Frames := List (List (Nat × Nat))

/-- Nearest declaration wins: the binding of a prefix in the innermost frame that declares it. -/
def lookupFrames : Frames → Nat → Option Nat
  | [], _ => none
  | f :: fs, p =>
    match List.lookup p f with
    | some n => some n
    | none => lookupFrames fs p

/-- No prefix is declared twice on one element. -/
def UniquePrefixes (decls : List (Nat × Nat)) : Prop := (decls.map Prod.fst).Nodup

/-- `info` is the flattened scope of `fs`: one entry per bound prefix, carrying its binding. -/
def Flat (info : List (Nat × Nat)) (fs : Frames) : Prop :=
  UniquePrefixes info ∧ ∀ p n, (p, n) ∈ info ↔ lookupFrames fs p = some n

/-! ### Association lists: `lookup` against membership and keys -/

theorem lookup_none_iff (p : Nat) (l : List (Nat × Nat)) :
    List.lookup p l = none ↔ p ∉ l.map Prod.fst := by
  rw [List.lookup_eq_none_iff, List.mem_map]
  constructor
  · rintro h ⟨a, ha, rfl⟩
    simpa using h a ha
  · intro h a ha
    rw [bne_iff_ne]
    exact fun e => h ⟨a, ha, e.symm⟩

theorem lookup_none_iff_forall (d : List (Nat × Nat)) (q : Nat) :
    d.lookup q = none ↔ ∀ x ∈ d, x.1 ≠ q := by
  rw [List.lookup_eq_none_iff]
  exact forall₂_congr (fun _ _ => bne_iff_ne.trans ne_comm)

theorem lookup_cons_eq (q p n : Nat) (d : List (Nat × Nat)) :
    List.lookup q ((p, n) :: d) = if q = p then some n else List.lookup q d := by
  rw [List.lookup_cons]
  by_cases e : q = p
  · rw [if_pos e, beq_iff_eq.mpr e]
  · rw [if_neg e, beq_eq_false_iff_ne.mpr e]

theorem lookup_isSome_iff_mem_keys (d : List (Nat × Nat)) (p : Nat) :
    (d.lookup p).isSome = true ↔ p ∈ d.map Prod.fst := by
  rw [← Decidable.not_iff_not, ← lookup_none_iff, Option.not_isSome_iff_eq_none]

theorem lookup_some_iff {l : List (Nat × Nat)} (hu : UniquePrefixes l) (p n : Nat) :
    List.lookup p l = some n ↔ (p, n) ∈ l := by
  refine ⟨lookup_mem, fun hm => ?_⟩
  obtain ⟨l1, l2, rfl⟩ := List.append_of_mem hm
  refine List.lookup_eq_some_iff.2 ⟨l1, l2, rfl, fun a ha => ?_⟩
  rw [bne_iff_ne]
  intro e
  unfold UniquePrefixes at hu
  rw [List.map_append, List.nodup_append] at hu
  exact hu.2.2 a.1 (List.mem_map_of_mem ha) p
    (List.mem_map_of_mem (f := Prod.fst) (List.mem_cons_self ..)) e.symm

theorem any_key_iff (decls : List (Nat × Nat)) (p : Nat) :
    (decls.any (fun d => d.1 == p)) = true ↔ p ∈ decls.map Prod.fst := by
  simp only [List.any_eq_true, List.mem_map, beq_iff_eq]

theorem mem_prefixesByNamespace (info : List (Nat × Nat)) (ns p : Nat) :
    p ∈ prefixesByNamespace info ns ↔ (p, ns) ∈ info := by
  unfold prefixesByNamespace
  simp only [List.mem_map, List.mem_filter, List.mem_reverse, beq_iff_eq]
  constructor
  · rintro ⟨⟨q, n⟩, ⟨hd, rfl⟩, rfl⟩
    exact hd
  · intro h; exact ⟨(p, ns), ⟨h, rfl⟩, rfl⟩

/-! ### The prefix choosers of output/fullname.rs answer with an entry of the frame -/

theorem elementPrefixByNamespace_mem {info : List (Nat × Nat)} {ns q : Nat}
    (h : elementPrefixByNamespace info ns = some q) : (q, ns) ∈ info := by
  unfold elementPrefixByNamespace at h
  split at h
  · rename_i hany
    cases h
    obtain ⟨p, hp, he⟩ := List.any_eq_true.mp hany
    have : p = Env.emptyPrefix := beq_iff_eq.1 he
    subst this
    exact (mem_prefixesByNamespace info ns _).mp hp
  · exact (mem_prefixesByNamespace info ns q).mp (List.mem_of_mem_head? h)

theorem elementPrefixByNamespace_none {info : List (Nat × Nat)} {ns : Nat}
    (h : elementPrefixByNamespace info ns = none) (p : Nat) : (p, ns) ∉ info := by
  unfold elementPrefixByNamespace at h
  split at h
  · cases h
  · intro hm
    have := (mem_prefixesByNamespace info ns p).mpr hm
    rw [List.head?_eq_none_iff] at h
    rw [h] at this
    cases this

theorem attributePrefixByNamespace_mem {info : List (Nat × Nat)} {ns q : Nat}
    (h : attributePrefixByNamespace info ns = some q) : (q, ns) ∈ info ∧ q ≠ Env.emptyPrefix := by
  unfold attributePrefixByNamespace at h
  have h1 := List.mem_of_find?_eq_some h
  have h2 := List.find?_some h
  exact ⟨(mem_prefixesByNamespace info ns q).mp h1, by simpa using h2⟩

theorem attributePrefixByNamespace_none {info : List (Nat × Nat)} {ns : Nat}
    (h : attributePrefixByNamespace info ns = none) (p : Nat) (hp : p ≠ Env.emptyPrefix) :
    (p, ns) ∉ info := by
  unfold attributePrefixByNamespace at h
  intro hm
  have := List.find?_eq_none.mp h p ((mem_prefixesByNamespace info ns p).mpr hm)
  simp [hp] at this

theorem elementPrefixByNamespace_isSome_iff (info : List (Nat × Nat)) (ns : Nat) :
    (elementPrefixByNamespace info ns).isSome = true ↔ ∃ p, (p, ns) ∈ info := by
  cases h : elementPrefixByNamespace info ns with
  | none => exact ⟨fun h' => (nomatch h'), fun ⟨p, hp⟩ => absurd hp (elementPrefixByNamespace_none h p)⟩
  | some q => exact ⟨fun _ => ⟨q, elementPrefixByNamespace_mem h⟩, fun _ => rfl⟩

theorem attributePrefixByNamespace_isSome_iff (info : List (Nat × Nat)) (ns : Nat) :
    (attributePrefixByNamespace info ns).isSome = true ↔ ∃ p, p ≠ Env.emptyPrefix ∧ (p, ns) ∈ info := by
  cases h : attributePrefixByNamespace info ns with
  | none =>
    exact ⟨fun h' => (nomatch h'), fun ⟨p, hne, hp⟩ => absurd hp (attributePrefixByNamespace_none h p hne)⟩
  | some q =>
    obtain ⟨hm, hne⟩ := attributePrefixByNamespace_mem h
    exact ⟨fun _ => ⟨q, hne, hm⟩, fun _ => rfl⟩

/-! ### When the name checks succeed

`element_prefix` / `attribute_prefix` fail only where the chooser finds nothing; the qualified name
adds no failure of its own. -/

theorem FStack.exceptIsOk_elementPrefix (env : Env) (s : FStack) (name : Nat) :
    exceptIsOk (s.elementPrefix env name) =
      (env.nsOfName name == Env.noNamespace || env.nsOfName name == Env.xmlNamespace ||
        (elementPrefixByNamespace s.top (env.nsOfName name)).isSome) := by
  unfold FStack.elementPrefix
  by_cases h1 : (env.nsOfName name == Env.noNamespace) = true
  · simp [h1, exceptIsOk]
  · by_cases h2 : (env.nsOfName name == Env.xmlNamespace) = true
    · simp [h1, h2, exceptIsOk]
    · simp only [h1, h2, Bool.false_eq_true, if_false, Bool.false_or]
      cases elementPrefixByNamespace s.top (env.nsOfName name) with
      | none => rfl
      | some q => by_cases hq : (q == Env.emptyPrefix) = true <;> simp [hq, exceptIsOk]

theorem FStack.exceptIsOk_attributePrefix (env : Env) (s : FStack) (name : Nat) :
    exceptIsOk (s.attributePrefix env name) =
      (env.nsOfName name == Env.noNamespace || env.nsOfName name == Env.xmlNamespace ||
        (attributePrefixByNamespace s.top (env.nsOfName name)).isSome) := by
  unfold FStack.attributePrefix
  by_cases h1 : (env.nsOfName name == Env.noNamespace) = true
  · simp [h1, exceptIsOk]
  · by_cases h2 : (env.nsOfName name == Env.xmlNamespace) = true
    · simp [h1, h2, exceptIsOk]
    · simp only [h1, h2, Bool.false_eq_true, if_false, Bool.false_or]
      cases attributePrefixByNamespace s.top (env.nsOfName name) <;> rfl

theorem FStack.exceptIsOk_elementFullname (env : Env) (s : FStack) (name : Nat) :
    exceptIsOk (s.elementFullname env name) = exceptIsOk (s.elementPrefix env name) := by
  unfold FStack.elementFullname
  cases s.elementPrefix env name <;> rfl

theorem FStack.exceptIsOk_attributeFullname (env : Env) (s : FStack) (name : Nat) :
    exceptIsOk (s.attributeFullname env name) = exceptIsOk (s.attributePrefix env name) := by
  unfold FStack.attributeFullname
  cases s.attributePrefix env name <;> rfl

theorem hasDefaultNamespace_top_iff (s : FStack) :
    s.hasDefaultNamespace = true ↔ ∃ n, n ≠ Env.noNamespace ∧ (Env.emptyPrefix, n) ∈ s.top := by
  simp only [FStack.hasDefaultNamespace, List.any_eq_true, Bool.and_eq_true, beq_iff_eq, bne_iff_ne,
    ne_eq]
  constructor
  · rintro ⟨⟨a, b⟩, hm, rfl, hb⟩
    exact ⟨b, hb, hm⟩
  · rintro ⟨n, hn, hm⟩
    exact ⟨(Env.emptyPrefix, n), hm, rfl, hn⟩

/-- `FullnameInfo::new` with the patterns written as projections. -/
theorem fullnameInfoNew_eq (decls cur : List (Nat × Nat)) :
    fullnameInfoNew decls cur = cur.filter (fun x => !decls.any (fun y => y.1 == x.1)) ++ decls := rfl

/-- `FullnameInfo::new`: the node's declarations, plus the inherited ones it does not override. -/
theorem mem_fullnameInfoNew (decls cur : List (Nat × Nat)) (p n : Nat) :
    (p, n) ∈ fullnameInfoNew decls cur ↔
      ((p, n) ∈ cur ∧ p ∉ decls.map Prod.fst) ∨ (p, n) ∈ decls := by
  rw [fullnameInfoNew_eq, List.mem_append, List.mem_filter, Bool.not_eq_true', ← Bool.not_eq_true,
    any_key_iff]

/-! ### The top frame is the flattened scope -/

theorem lookupFrames_cons (decls : List (Nat × Nat)) (fs : Frames) (p : Nat) :
    lookupFrames (decls :: fs) p =
      match List.lookup p decls with
      | some n => some n
      | none => lookupFrames fs p := rfl

theorem lookupFrames_cons_or (f : List (Nat × Nat)) (fs : Frames) (p : Nat) :
    lookupFrames (f :: fs) p = (List.lookup p f).or (lookupFrames fs p) := by
  rw [lookupFrames]
  cases List.lookup p f <;> rfl

theorem lookupFrames_nil_cons (fs : Frames) (p : Nat) : lookupFrames ([] :: fs) p = lookupFrames fs p :=
  rfl

theorem flat_single {d : List (Nat × Nat)} (hu : UniquePrefixes d) : Flat d [d] :=
  ⟨hu, fun p n => by rw [lookupFrames_cons_or, lookupFrames, Option.or_none, lookup_some_iff hu]⟩

/-- `FullnameInfo::new` keeps the invariant: the new top is the flattened scope of the frames
    extended by the element's declarations. -/
theorem flat_push {cur : List (Nat × Nat)} {fs : Frames} {decls : List (Nat × Nat)}
    (hf : Flat cur fs) (hu : UniquePrefixes decls) :
    Flat (fullnameInfoNew decls cur) (decls :: fs) := by
  refine ⟨?_, fun p n => ?_⟩
  · unfold UniquePrefixes
    rw [fullnameInfoNew_eq, List.map_append, List.nodup_append]
    refine ⟨(List.filter_sublist.map Prod.fst).nodup hf.1, hu, ?_⟩
    rintro a ha b hb rfl
    obtain ⟨d, hd, rfl⟩ := List.mem_map.mp ha
    have hd2 := (List.mem_filter.mp hd).2
    rw [(any_key_iff decls d.1).mpr hb] at hd2
    cases hd2
  · rw [mem_fullnameInfoNew, hf.2, lookupFrames_cons_or, ← lookup_none_iff, ← lookup_some_iff hu]
    cases List.lookup p decls <;> simp

/-- `push`: nothing happens for an element without declarations. -/
theorem Flat.push {s : FStack} {fs : Frames} (h : Flat s.top fs) {decls : List (Nat × Nat)}
    (hu : UniquePrefixes decls) : Flat (s.push decls).top (decls :: fs) := by
  cases decls with
  | nil => exact h
  | cons d ds => exact flat_push h hu

/-- The stack against the frames of the open elements: every stack entry is the flattened scope
    of the frames below it; an element without declarations adds an empty frame and no entry. -/
inductive StackInv : FStack → Frames → Prop
  | base (d : List (Nat × Nat)) : UniquePrefixes d → StackInv [d] [d]
  | skip (s : FStack) (fs : Frames) : StackInv s fs → StackInv s ([] :: fs)
  | push (s : FStack) (fs : Frames) (decls : List (Nat × Nat)) :
      StackInv s fs → UniquePrefixes decls → decls ≠ [] →
      StackInv (fullnameInfoNew decls s.top :: s) (decls :: fs)

/-- Invariant: the entries of `top` are the nearest-declaration-wins scope. -/
theorem StackInv.flat {s : FStack} {fs : Frames} (h : StackInv s fs) : Flat s.top fs := by
  induction h with
  | base d hu => exact flat_single hu
  | skip s fs _ ih =>
    exact ⟨ih.1, fun p n => by rw [lookupFrames_nil_cons]; exact ih.2 p n⟩
  | push s fs decls _ hu _ ih => exact flat_push ih hu

theorem StackInv.push' {s : FStack} {fs : Frames} (h : StackInv s fs) {decls : List (Nat × Nat)}
    (hu : UniquePrefixes decls) : StackInv (s.push decls) (decls :: fs) := by
  unfold FStack.push
  cases decls with
  | nil => exact StackInv.skip s fs h
  | cons d ds => exact StackInv.push s fs (d :: ds) h hu (by simp)

/-- `pop(has_namespace_declarations)` undoes the `push` of the same element. -/
theorem FStack.pop_push (s : FStack) (decls : List (Nat × Nat)) :
    (s.push decls).pop (!decls.isEmpty) = s := by
  unfold FStack.push FStack.pop
  cases decls <;> simp

/-- A successful `element_prefix`: a name in no namespace is written unprefixed, a name in the XML namespace with
    the reserved prefix, any other with an entry of the top frame (unprefixed when that is the empty prefix). -/
theorem FStack.elementPrefix_ok {env : Env} {s : FStack} {name : Nat} {p : Option Nat}
    (h : s.elementPrefix env name = .ok p) :
    (env.nsOfName name = Env.noNamespace ∧ p = none) ∨
    (env.nsOfName name = Env.xmlNamespace ∧ p = some Env.xmlPrefix) ∨
    (env.nsOfName name ≠ Env.xmlNamespace ∧
      ∃ q, (q, env.nsOfName name) ∈ s.top ∧ p = if q = Env.emptyPrefix then none else some q) := by
  unfold FStack.elementPrefix at h
  simp only at h
  split at h
  · rename_i hns
    exact .inl ⟨beq_iff_eq.1 hns, (Except.ok.inj h).symm⟩
  · split at h
    · rename_i hxml
      exact .inr (.inl ⟨beq_iff_eq.1 hxml, (Except.ok.inj h).symm⟩)
    · rename_i hxml
      split at h
      · rename_i q hq
        refine .inr (.inr ⟨by simpa using hxml, q, elementPrefixByNamespace_mem hq, ?_⟩)
        by_cases hq0 : q = Env.emptyPrefix
        · rw [if_pos hq0]; rw [if_pos (beq_iff_eq.2 hq0)] at h; exact (Except.ok.inj h).symm
        · rw [if_neg hq0]; rw [if_neg (by simpa using hq0)] at h; exact (Except.ok.inj h).symm
      · cases h

/-- A successful `attribute_prefix`: as for elements, but an attribute in a namespace is never written unprefixed. -/
theorem FStack.attributePrefix_ok {env : Env} {s : FStack} {name : Nat} {p : Option Nat}
    (h : s.attributePrefix env name = .ok p) :
    (env.nsOfName name = Env.noNamespace ∧ p = none) ∨
    (env.nsOfName name = Env.xmlNamespace ∧ p = some Env.xmlPrefix) ∨
    (env.nsOfName name ≠ Env.xmlNamespace ∧
      ∃ q, (q, env.nsOfName name) ∈ s.top ∧ q ≠ Env.emptyPrefix ∧ p = some q) := by
  unfold FStack.attributePrefix at h
  simp only at h
  split at h
  · rename_i hns
    exact .inl ⟨beq_iff_eq.1 hns, (Except.ok.inj h).symm⟩
  · split at h
    · rename_i hxml
      exact .inr (.inl ⟨beq_iff_eq.1 hxml, (Except.ok.inj h).symm⟩)
    · rename_i hxml
      split at h
      · rename_i q hq
        obtain ⟨hm, hne⟩ := attributePrefixByNamespace_mem hq
        exact .inr (.inr ⟨by simpa using hxml, q, hm, hne, (Except.ok.inj h).symm⟩)
      · cases h

end XotModel
