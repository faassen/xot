/-
  C10, soundness of the chosen prefix: the XML-Namespaces resolution of a written name
  (`resolvePrefix`, `resolveElementName`, `resolveAttributeName`; the vocabulary of the C10 theorems,
  hence in namespace `XotModel.Props`) and the two core lemmas behind `C10_sound_prefix` /
  `C10_sound_attribute`.  They live here, not in Props/C10.lean, because the round-trip development
  (Lemmas/RoundTripItems.lean, C01) uses them and Props/C10.lean in turn states a corollary of C01.
-/
import XotModel.Lemmas.FStack
import XotModel.Lemmas.Scope

namespace XotModel.Props
open XotModel

/-- The namespace a prefix denotes in the scope `fs`: the `xml` prefix is reserved (XML Namespaces
    §3: bound by definition to the XML namespace), any other prefix has its nearest declaration. -/
def resolvePrefix (fs : Frames) (p : Nat) : Option Nat :=
  if p == Env.xmlPrefix then some Env.xmlNamespace else lookupFrames fs p

/-- The namespace an element name written with prefix `p` (`none` = unprefixed) denotes in the scope
    `fs` (XML Namespaces §6.2: an unprefixed element takes the default namespace, if any). -/
def resolveElementName (fs : Frames) : Option Nat → Option Nat
  | some p => resolvePrefix fs p
  | none => some ((lookupFrames fs Env.emptyPrefix).getD Env.noNamespace)

/-- … an attribute name (an unprefixed attribute is in no namespace). -/
def resolveAttributeName (fs : Frames) : Option Nat → Option Nat
  | some p => resolvePrefix fs p
  | none => some Env.noNamespace

/-- Namespace constraint on the tree: the reserved prefix `xml` is not declared for another
    namespace (XML Namespaces §3, "Reserved Prefixes and Namespace Names"). -/
def XmlPrefixReserved (fs : Frames) : Prop :=
  ∀ n, lookupFrames fs Env.xmlPrefix = some n → n = Env.xmlNamespace

/-- Under the reserved-prefix constraint, XML-Namespaces resolution of a prefix is its nearest
    declaration. -/
theorem resolve_lookup {fs : Frames} (hx : XmlPrefixReserved fs) {q ns : Nat}
    (hl : lookupFrames fs q = some ns) : resolvePrefix fs q = some ns := by
  unfold resolvePrefix
  by_cases hq : (q == Env.xmlPrefix) = true
  · have : q = Env.xmlPrefix := by simpa using hq
    subst this
    simp [hx ns hl]
  · simp [hq, hl]

/-- The prefix `element_prefix` answers resolves to the name's namespace whenever the check of the
    `StartTagOpen` arm passes (the name is not a no-namespace name while `has_default_namespace`).
    Names in the XML namespace get the reserved `xml` prefix whatever the stack holds. -/
theorem sound_prefix (env : Env) (s : FStack) (fs : Frames) (name : Nat) (p : Option Nat)
    (hinv : StackInv s fs) (hx : XmlPrefixReserved fs) (h : s.elementPrefix env name = .ok p)
    (hcheck : ¬ (env.nsOfName name = Env.noNamespace ∧ s.hasDefaultNamespace = true)) :
    resolveElementName fs p = some (env.nsOfName name) := by
  rcases FStack.elementPrefix_ok h with ⟨hz, rfl⟩ | ⟨hxml, rfl⟩ | ⟨_, q, hq, rfl⟩
  · -- a name in no namespace is written unprefixed: no default namespace may be in scope
    have hnd := mt (hasDefaultNamespace_iff hinv.flat).2 fun hd => hcheck ⟨hz, hd⟩
    rw [resolveElementName, hz]
    cases hl : lookupFrames fs Env.emptyPrefix with
    | none => rfl
    | some n => exact congrArg some (Classical.not_not.1 fun hn => hnd ⟨n, hl, hn⟩)
  · rw [resolveElementName, resolvePrefix, if_pos (beq_self_eq_true _), hxml]
  · have hl := (hinv.flat.2 q _).mp hq
    split
    · rename_i hq0
      rw [hq0] at hl
      rw [resolveElementName, hl]
      rfl
    · exact resolve_lookup hx hl

/-- Attribute names: full strength, no guard — the chosen prefix resolves to the attribute's
    namespace, and an attribute is written unprefixed only when it is in no namespace. -/
theorem sound_attribute (env : Env) (s : FStack) (fs : Frames) (name : Nat) (p : Option Nat)
    (hinv : StackInv s fs) (hx : XmlPrefixReserved fs) (h : s.attributePrefix env name = .ok p) :
    resolveAttributeName fs p = some (env.nsOfName name) ∧ p ≠ some Env.emptyPrefix := by
  rcases FStack.attributePrefix_ok h with ⟨hz, rfl⟩ | ⟨hxml, rfl⟩ | ⟨_, q, hq, hne, rfl⟩
  · exact ⟨by rw [resolveAttributeName, hz], fun e => nomatch e⟩
  · exact ⟨by rw [resolveAttributeName, resolvePrefix, if_pos (beq_self_eq_true _), hxml], by decide⟩
  · exact ⟨resolve_lookup hx ((hinv.flat.2 q _).mp hq), fun e => hne (Option.some.inj e)⟩

end XotModel.Props
