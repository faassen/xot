/-
  The reference tokenizer (document mode) on a document whose top-level nodes — comments, PIs, the
  document element — are each followed by a line feed, as `serialize_pretty` writes them: white space
  outside the document element is skipped, so the tokens are those of the nodes.

      lexDocument (nodes.flatMap (render node ++ LF)) = (tokens of the nodes, re-positioned; no error)
-/
import XotModel.Lemmas.LexReject
import XotModel.Lemmas.SerOptResp
import XotModel.Lemmas.LexDecl

namespace XotModel.Lex.Canon
open XotModel.Lex XotModel.Lex.Stream

/-! ### Prefixes of a well-nested token list -/

theorem lexNest_prefix (frag : Bool) (b : List Token) : ∀ (a : List Token) (ctx : LexCtx),
    lexNest frag ctx (a ++ b) = true → lexNest frag ctx a = true
  | [], ctx, _ => by cases ctx <;> rfl
  | k :: a, ctx, h => by
    refine lexNest_cons_congr frag k (a := a ++ b) (b := a) ?_ (fun c hc => lexNest_prefix frag b a c hc) ctx h
    intro hh
    cases a with
    | nil => simp [headIsText] at hh
    | cons x xs => cases x <;> simp_all [headIsText]

/-! ### The context after the tokens of a spelled node -/

theorem ctxAfter_append (frag : Bool) (ctx : LexCtx) (a b : List Token) :
    ctxAfter frag ctx (a ++ b) = ctxAfter frag (ctxAfter frag ctx a) b := by
  simp [ctxAfter, List.foldl_append]

theorem ctxAfter_cons (frag : Bool) (ctx : LexCtx) (k : Token) (a : List Token) :
    ctxAfter frag ctx (k :: a) = ctxAfter frag (ctxStep frag ctx k) a := rfl

theorem ctxAfter_after (frag : Bool) : ∀ (ts : List Token), ctxAfter frag .after ts = .after
  | [] => rfl
  | k :: ts => by rw [ctxAfter_cons]; cases k <;> exact ctxAfter_after frag ts

theorem ctxAfter_attrs (frag : Bool) (d : Nat) : ∀ (as : List NSAttr),
    ctxAfter frag (.inTag d) (as.map NSAttr.token) = .inTag d
  | [] => rfl
  | a :: as => by
    rw [List.map_cons, ctxAfter_cons]
    exact ctxAfter_attrs frag d as

theorem ctxAfter_parts (frag : Bool) (d : Nat) : ∀ (ps : List SPart),
    ctxAfter frag (.content d) (ps.map SPart.token) = .content d
  | [] => rfl
  | p :: ps => by
    rw [List.map_cons, ctxAfter_cons]
    cases p <;> exact ctxAfter_parts frag d ps

mutual
theorem ctxAfter_content_node (frag : Bool) (d : Nat) : ∀ (k : NSNode),
    ctxAfter frag (.content (d + 1)) k.tokens = .content (d + 1)
  | .elem p l j as o ks cp cl c => by
    simp only [NSNode.tokens, ctxAfter_cons, ctxStep, ctxAfter_append, ctxAfter_attrs,
      ctxAfter_content_list frag (d + 1) ks, Nat.add_sub_cancel, closed_succ]
    rfl
  | .empty p l j as e => by
    simp only [NSNode.tokens, ctxAfter_cons, ctxStep, ctxAfter_append, ctxAfter_attrs, closed_succ]
    rfl
  | .chars ps => by simp only [NSNode.tokens, ctxAfter_parts]
  | .comment a j => rfl
  | .pi a c j => rfl

theorem ctxAfter_content_list (frag : Bool) (d : Nat) : ∀ (ks : List NSNode),
    ctxAfter frag (.content (d + 1)) (NSNode.tokens.tokensList ks) = .content (d + 1)
  | [] => rfl
  | k :: ks => by
    rw [NSNode.tokens.tokensList, ctxAfter_append, ctxAfter_content_node frag d k, ctxAfter_content_list frag d ks]
end

/-- At the top level of a document: a comment or PI stays in the prolog, the document element ends it. -/
theorem ctxAfter_prolog_node : ∀ (k : NSNode), k.isChars = false →
    ctxAfter false .prolog k.tokens = .prolog ∨ ctxAfter false .prolog k.tokens = .after
  | .elem p l j as o ks cp cl c, _ => by
    right
    simp only [NSNode.tokens, ctxAfter_cons, ctxStep, ctxAfter_append, ctxAfter_attrs,
      ctxAfter_content_list false 0 ks]
    rfl
  | .empty p l j as e, _ => by
    right
    simp only [NSNode.tokens, ctxAfter_cons, ctxStep, ctxAfter_append, ctxAfter_attrs]
    rfl
  | .chars ps, h => by simp [NSNode.isChars] at h
  | .comment a j, _ => .inl rfl
  | .pi a c j, _ => .inl rfl

theorem render_node_head : ∀ (k : NSNode), k.isChars = false → ∀ r,
    ∃ cs, renderTokens k.tokens ++ r = '<' :: cs
  | .elem p l j as o ks cp cl c, _, r => ⟨_, by simp [NSNode.tokens, renderTokens_cons, renderToken]; rfl⟩
  | .empty p l j as e, _, r => ⟨_, by simp [NSNode.tokens, renderTokens_cons, renderToken]; rfl⟩
  | .chars ps, h, _ => by simp [NSNode.isChars] at h
  | .comment a j, _, r => ⟨_, by simp [NSNode.tokens, renderTokens_cons, renderToken]; rfl⟩
  | .pi a c j, _, r => by cases c <;> exact ⟨_, by simp [NSNode.tokens, renderTokens_cons, renderToken]; rfl⟩

/-! ### White space at the top level -/

/-- A line feed between two top-level nodes is skipped, whatever prolog / epilog state the tokenizer is in. -/
theorem lexLoop_skip_nl (ctx : LexCtx) (hctx : ctx = .prolog ∨ ctx = .after) (tk : Tokenizer)
    (position q : Nat) (r : Str) (hm : Matches false ctx tk) (hs : tk.stream = ⟨q, '\n' :: r⟩)
    (hr : Stops isXmlSpace r) :
    ∃ tk', Matches false ctx tk' ∧ tk'.stream = ⟨q + 1, r⟩ ∧ lexLoop tk position = lexLoop tk' position := by
  have := Free.loop_lead hctx tk position ['\n'] r hm (by rw [hs]; rfl) (by decide) hr
  rwa [hs] at this

/-! ### A document written one top-level node per line -/

/-- What `serialize_pretty` writes for a document: every top-level node followed by a line feed. -/
def renderLines (ks : List NSNode) : Str := ks.flatMap (fun k => renderTokens k.tokens ++ ['\n'])

theorem renderLines_stops : ∀ (ks : List NSNode), (∀ k ∈ ks, k.isChars = false) →
    Stops isXmlSpace (renderLines ks)
  | [], _ => Stops.nil _
  | k :: ks, h => by
    obtain ⟨cs, hcs⟩ := render_node_head k (h k (by simp)) (['\n'] ++ renderLines ks)
    have : renderLines (k :: ks) = '<' :: cs := by
      rw [← hcs]; simp [renderLines]
    rw [this]
    exact Stops.cons _ (by decide)

theorem lexLoop_lines : ∀ (ks : List NSNode) (ctx : LexCtx) (tk : Tokenizer) (position : Nat),
    (ctx = .prolog ∨ ctx = .after) → Matches false ctx tk → (∀ k ∈ ks, k.isChars = false) →
    (NSNode.tokens.tokensList ks).all Token.lexOK = true →
    lexNest false ctx (NSNode.tokens.tokensList ks) = true →
    tk.stream.rest = renderLines ks →
    ∃ ts', lexLoop tk position = (ts', none) ∧ ReadAsList ts' (NSNode.tokens.tokensList ks)
  | [], ctx, tk, position, _, _, _, _, _, hs => by
    refine ⟨[], ?_, ReadAsList.nil⟩
    exact lexLoop_end position (by simp [atEnd, hs, renderLines])
  | k :: ks, ctx, tk, position, hctx, hm, hk, hok, hn, hs => by
    simp only [NSNode.tokens.tokensList, List.all_append, Bool.and_eq_true] at hok hn
    have hk0 := hk k (by simp)
    have hs' : tk.stream.rest = renderTokens k.tokens ++ ('\n' :: renderLines ks) := by
      rw [hs]; simp [renderLines]
    have hnk := lexNest_prefix false _ _ ctx hn
    have hctx1 : ctxAfter false ctx k.tokens = .prolog ∨ ctxAfter false ctx k.tokens = .after := by
      rcases hctx with rfl | rfl
      · exact ctxAfter_prolog_node k hk0
      · exact .inr (ctxAfter_after false _)
    obtain ⟨tk1, hm1, hst1, hl1⟩ := lexLoop_render_app false k.tokens ('\n' :: renderLines ks) ctx tk position hm
      hok.1 hnk hs' (joinOK_outside hnk hctx1)
    obtain ⟨tk2, hm2, hst2, hl2⟩ := lexLoop_skip_nl _ hctx1 tk1 _ _ (renderLines ks) hm1 hst1
      (renderLines_stops ks (fun k' hk' => hk k' (by simp [hk'])))
    obtain ⟨ts2, hl3, he3⟩ := lexLoop_lines ks _ tk2
      (if k.tokens.isEmpty then position else tk1.stream.pos) hctx1 hm2
      (fun k' hk' => hk k' (by simp [hk'])) hok.2 (lexNest_append_right _ _ ctx hn) (by rw [hst2])
    refine ⟨placeTokens tk.stream.pos k.tokens ++ ts2, ?_, ?_⟩
    · rw [hl1, hl2, hl3]
    · exact ReadAsList.append (placeTokens_readAs _ _) he3

end XotModel.Lex.Canon

namespace XotModel
open XotModel.Lex XotModel.Lex.Canon

/-- **Document mode, one top-level node per line**: the tokens read back are the tokens of the nodes, up
    to byte positions; the line feeds are not tokens. -/
theorem lexDocument_lines (ks : List NSNode) (hk : ∀ k ∈ ks, k.isChars = false)
    (h : LexOK false (NSNode.tokens.tokensList ks) = true) :
    ∃ ts', lexDocument (renderLines ks) = (ts', none) ∧ ReadAsList ts' (NSNode.tokens.tokensList ks) := by
  simp only [LexOK, Bool.and_eq_true] at h
  have hb : ((Stream.ofStr (renderLines ks)).curr? == some '\uFEFF') = false := by
    cases ks with
    | nil => rfl
    | cons k ks =>
      obtain ⟨cs, hcs⟩ := render_node_head k (hk k (by simp)) (['\n'] ++ renderLines ks)
      have : renderLines (k :: ks) = '<' :: cs := by rw [← hcs]; simp [renderLines]
      rw [this]; rfl
  rw [lexDocument_noBom hb]
  exact lexLoop_lines ks .prolog _ _ (.inl rfl) ⟨rfl, rfl, .inl rfl⟩ hk h.1 h.2 rfl

theorem lexDocument_declaration_lines (d : Declaration) (ks : List NSNode) (hk : ∀ k ∈ ks, k.isChars = false)
    (h : LexOK false (NSNode.tokens.tokensList ks) = true)
    (henc : ∀ e, d.encoding = some e → e.all isEncChar = true) :
    ∃ v e sa sp ts', lexDocument (d.bytes ++ renderLines ks) =
        (.declaration ⟨['1', '.', '0'], v⟩ e sa sp :: ts', none) ∧
      ReadAsList ts' (NSNode.tokens.tokensList ks) := by
  simp only [LexOK, Bool.and_eq_true] at h
  obtain ⟨v, e, sa, sp, q, hl⟩ := lexDocument_declaration_then d (renderLines ks) henc
  obtain ⟨tk', hm', hst', hl'⟩ := lexLoop_skip_nl .prolog (.inl rfl)
    ⟨⟨q, '\n' :: renderLines ks⟩, .afterDeclaration, 0, false⟩ q q (renderLines ks)
    ⟨rfl, rfl, .inr (.inl rfl)⟩ rfl (renderLines_stops ks hk)
  obtain ⟨ts', hl2, he2⟩ := lexLoop_lines ks .prolog tk' q (.inl rfl) hm' hk h.1 h.2 (by rw [hst'])
  refine ⟨v, e, sa, sp, ts', ?_, he2⟩
  rw [hl, hl', hl2]

end XotModel
