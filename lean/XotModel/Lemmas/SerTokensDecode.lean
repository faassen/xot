/-
  Decoding facts about `serNode` (no side condition): the value of every attribute token
  (namespace declarations included) is `serialize_attribute` of a string and decodes back to it,
  every text token is `serialize_text` of a string and decodes back to it.
-/
import XotModel.Lemmas.SerTokensLex

namespace XotModel

variable (env : Env)

/-- The escaped content of a token decodes (`parse_content`) to the string it was made from. -/
def Token.Decodes : Token → Prop
  | .attribute _ _ v _ => ∃ x, v.text = serializeAttribute x ∧ parseAttribute v.text = .ok x
  | .text tx => ∃ x, tx.text = serializeText false x ∧ parseText tx.text = .ok x
  | _ => True

theorem attr_roundtrip (s : Str) : parseAttribute (serializeAttribute s) = .ok s :=
  parse_escape_roundtrip true _ (by decide) (by decide) s 0 0

theorem text_roundtrip (s : Str) : parseText (serializeText false s) = .ok s := by
  unfold parseText parseContent
  rw [serializeText_false_eq]
  exact parse_escape_roundtrip false _ (by decide) (by decide) s 0 0

theorem declTokens_decodes (d : Nat × Nat) : ∀ k ∈ declTokens env d, k.Decodes := by
  intro k hk
  unfold declTokens at hk
  split at hk
  · cases hk
  · split at hk <;>
      (simp only [List.mem_singleton] at hk; subst hk
       exact ⟨env.namespaceStr d.2, rfl, attr_roundtrip _⟩)

theorem attrTokens_decodes (s : FStack) :
    ∀ (as : List (Nat × Str)) (ts : List Token), attrTokens env s as = .ok ts → ∀ k ∈ ts, k.Decodes
  | [], ts, h => by
    simp only [attrTokens, Except.ok.injEq] at h
    subst h
    intro k hk; cases hk
  | (name, v) :: rest, ts, h => by
    obtain ⟨p, ts', _, hr, rfl⟩ := attrTokens_cons_ok env h
    intro k hk
    rcases List.mem_cons.mp hk with rfl | hk
    · exact ⟨v, rfl, attr_roundtrip v⟩
    · exact attrTokens_decodes s rest ts' hr k hk

mutual
theorem serNode_decodes (inScope : List (Nat × Nat)) (isTop : Bool) (n : Tree) (s : FStack)
    (ts : List Token) (h : serNode env false inScope isTop s n = .ok ts) : ∀ k ∈ ts, k.Decodes := by
  cases n with
  | node v ks =>
    cases v with
    | document | «attribute» a b | «namespace» a b =>
      simp only [serNode] at h
      exact serKids_decodes inScope ks s ts h
    | text str =>
      rw [serNode] at h
      obtain ⟨x, y, hx, hy, rfl⟩ := appendOk_ok h
      cases hx
      intro k hk
      rcases List.mem_append.mp hk with hk | hk
      · simp only [List.mem_singleton] at hk
        subst hk
        exact ⟨str, rfl, text_roundtrip str⟩
      · exact serKids_decodes inScope ks s y hy k hk
    | comment str =>
      rw [serNode] at h
      obtain ⟨x, y, hx, hy, rfl⟩ := appendOk_ok h
      cases hx
      intro k hk
      rcases List.mem_append.mp hk with hk | hk
      · simp only [List.mem_singleton] at hk
        subst hk
        trivial
      · exact serKids_decodes inScope ks s y hy k hk
    | pi target data =>
      rw [serNode] at h
      split at h
      · cases h
      · obtain ⟨x, y, hx, hy, rfl⟩ := appendOk_ok h
        cases hx
        intro k hk
        rcases List.mem_append.mp hk with hk | hk
        · simp only [List.mem_singleton] at hk
          subst hk
          trivial
        · exact serKids_decodes inScope ks s y hy k hk
    | element name =>
      obtain ⟨p, ats, content, _, _, ha, hk, rfl⟩ := serNode_element_ok env h
      intro k hk'
      rcases mem_elementTokens hk' with rfl | hd | hat | rfl | rfl | hc | rfl
      · trivial
      · obtain ⟨d, _, hd2⟩ := List.mem_flatMap.mp hd
        exact declTokens_decodes env d k hd2
      · exact attrTokens_decodes env _ _ ats ha k hat
      · trivial
      · trivial
      · exact serKids_decodes inScope ks _ content hk k hc
      · trivial

theorem serKids_decodes (inScope : List (Nat × Nat)) (ks : List Tree) (s : FStack) (ts : List Token)
    (h : serNode.serKids env false inScope s ks = .ok ts) : ∀ k ∈ ts, k.Decodes := by
  cases ks with
  | nil =>
    simp only [serNode.serKids, Except.ok.injEq] at h
    subst h
    intro k hk; cases hk
  | cons k ks =>
    obtain ⟨x, y, hx, hy, rfl⟩ := serKids_cons_ok env h
    intro tok htok
    rcases List.mem_append.mp htok with htok | htok
    · exact serNode_decodes inScope false k s x hx tok htok
    · exact serKids_decodes inScope ks s y hy tok htok
end

theorem serTokensTop_decodes (t : Tree) (ts : List Token) (h : serTokensTop env t = .ok ts) :
    ∀ k ∈ ts, k.Decodes := by
  unfold serTokensTop serTokensAt at h
  split at h
  · exact serNode_decodes env _ true _ _ ts h
  · simp only [Except.ok.injEq] at h
    subst h
    intro k hk; cases hk

end XotModel
