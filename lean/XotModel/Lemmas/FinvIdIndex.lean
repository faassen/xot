/-
  Lemmas for the xml:id index (`Model/FidIndex.lean`, C04): the handles `ofTree` hands out are the
  interval `[n, n + size)`, the builder's table points at the elements that carry the IDs, list
  lookups through `parseInto`, and the index along histories (`IdStore.run`).
-/
import XotModel.Lemmas.BasicFacts
import XotModel.Model.FidIndex
import XotModel.Lemmas.FinvStep
import XotModel.Lemmas.FinvReads
import XotModel.Lemmas.OfTree

namespace XotModel
open HTree

/-! ### The builder's table -/

theorem idAttrValues_ofTreeList (n m : Nat) (ks : List Tree) :
    idAttrValues (ofTreeList n ks) = idAttrValues (ofTreeList m ks) := by
  induction ks generalizing n m with
  | nil => rfl
  | cons k ks ih =>
    rw [ofTreeList, ofTreeList, idAttrValues, idAttrValues, value_ofTree, value_ofTree]
    rw [ih (n + k.size) (m + k.size)]

mutual
  theorem idEntries_ofTree_fst (n m : Nat) : ∀ t : Tree,
      (idEntries (ofTree n t)).map (·.1) = (idEntries (ofTree m t)).map (·.1)
    | .node v ks => by
      rw [ofTree, ofTree, idEntries, idEntries, List.map_append, List.map_append,
        idEntriesList_ofTreeList_fst (n + 1) (m + 1) ks, idAttrValues_ofTreeList (n + 1) (m + 1) ks]
      cases v.isElement <;> simp [List.map_map, Function.comp_def]
  theorem idEntriesList_ofTreeList_fst (n m : Nat) : ∀ ks : List Tree,
      (idEntriesList (ofTreeList n ks)).map (·.1) = (idEntriesList (ofTreeList m ks)).map (·.1)
    | [] => by simp [ofTreeList, idEntriesList]
    | k :: ks => by
      rw [ofTreeList, ofTreeList, idEntriesList, idEntriesList, List.map_append, List.map_append,
        idEntries_ofTree_fst n m k, idEntriesList_ofTreeList_fst (n + k.size) (m + k.size) ks]
end

mutual
  theorem idEntries_mem_handles : ∀ t : HTree, ∀ e ∈ idEntries t, e.2 ∈ handles t
    | .node h v ks => by
      intro e he
      rw [idEntries, List.mem_append] at he
      rw [handles_node, List.mem_cons]
      rcases he with he | he
      · left
        cases hv : v.isElement with
        | false => rw [hv] at he; simp at he
        | true =>
          rw [hv] at he
          simp only [if_true, List.mem_map] at he
          obtain ⟨_, _, rfl⟩ := he; rfl
      · exact Or.inr (idEntriesList_mem_handlesList ks e he)
  theorem idEntriesList_mem_handlesList : ∀ ks : List HTree, ∀ e ∈ idEntriesList ks, e.2 ∈ handlesList ks
    | [] => by intro e he; simp [idEntriesList] at he
    | k :: ks => by
      intro e he
      rw [idEntriesList, List.mem_append] at he
      rw [handlesList_cons, List.mem_append]
      rcases he with he | he
      · exact Or.inl (idEntries_mem_handles k e he)
      · exact Or.inr (idEntriesList_mem_handlesList ks e he)
end

mutual
  /-- Every entry `(v, h)` of the table of a freshly numbered tree: `h` is an element of the tree
      that has an xml:id attribute with value `v` among its children. -/
  theorem idEntries_ofTree_find (n : Nat) : ∀ t : Tree, ∀ e ∈ idEntries (ofTree n t),
      ∃ name ks, find? e.2 (ofTree n t) = some (.node e.2 (.element name) ks) ∧ e.1 ∈ idAttrValues ks
    | .node v ks => by
      intro e he
      rw [ofTree] at he ⊢
      rw [idEntries, List.mem_append] at he
      rcases he with he | he
      · cases v with
        | element name =>
          simp only [Value.isElement, if_true, List.mem_map] at he
          obtain ⟨s, hs, rfl⟩ := he
          exact ⟨name, _, by simp [find?], hs⟩
        | _ => simp [Value.isElement] at he
      · obtain ⟨name, ks', hf, hm⟩ := idEntriesList_ofTreeList_find (n + 1) ks e he
        refine ⟨name, ks', ?_, hm⟩
        have := handlesList_ofTreeList (n + 1) ks e.2 (idEntriesList_mem_handlesList _ e he)
        rw [find?, if_neg (by omega)]; exact hf
  theorem idEntriesList_ofTreeList_find (n : Nat) : ∀ ts : List Tree, ∀ e ∈ idEntriesList (ofTreeList n ts),
      ∃ name ks, findList? e.2 (ofTreeList n ts) = some (.node e.2 (.element name) ks) ∧
        e.1 ∈ idAttrValues ks
    | [] => by intro e he; simp [ofTreeList, idEntriesList] at he
    | k :: ks => by
      intro e he
      rw [ofTreeList] at he ⊢
      rw [idEntriesList, List.mem_append] at he
      rw [findList?_cons]
      rcases he with he | he
      · obtain ⟨name, ks', hf, hm⟩ := idEntries_ofTree_find n k e he
        exact ⟨name, ks', by rw [hf]; rfl, hm⟩
      · obtain ⟨name, ks', hf, hm⟩ := idEntriesList_ofTreeList_find (n + k.size) ks e he
        refine ⟨name, ks', ?_, hm⟩
        have h2 := handlesList_ofTreeList (n + k.size) ks e.2 (idEntriesList_mem_handlesList _ e he)
        have hn : e.2 ∉ handles (ofTree n k) := fun hx => by
          have := handles_ofTree n k e.2 hx; omega
        rw [find?_none_of_not_mem _ _ hn, Option.none_or]; exact hf
end

/-! ### List lookups -/

abbrev IdIndexList := List ((Nat × Str) × Nat)

theorem fi_lookup_filter_ne (l : IdIndexList) (doc d : Nat) (v : Str) (hne : d ≠ doc) :
    (l.filter (fun e => e.1.1 != doc)).lookup (d, v) = l.lookup (d, v) := by
  induction l with
  | nil => rfl
  | cons e es ih =>
    obtain ⟨⟨d', v'⟩, h'⟩ := e
    by_cases hd : d' = doc
    · subst hd
      have : ((d, v) == (d', v')) = false := by simp [hne]
      simp [List.lookup_cons, this, ih]
    · by_cases hk : ((d, v) == (d', v')) = true
      · simp [List.lookup_cons, hd, hk]
      · simp only [Bool.not_eq_true] at hk
        simp [List.lookup_cons, hd, hk, ih]

theorem lookup_filter_eq (l : IdIndexList) (doc : Nat) (v : Str) :
    (l.filter (fun e => e.1.1 != doc)).lookup (doc, v) = none := by
  rw [List.lookup_eq_none_iff]
  intro p hp
  rw [List.mem_filter] at hp
  have h := hp.2
  simp only [bne_iff_ne, ne_eq] at h
  simp only [bne_iff_ne, ne_eq]
  intro he; exact h (by rw [← he])

theorem lookup_map_doc (L : List (Str × Nat)) (doc : Nat) (v : Str) :
    (L.map (fun e => ((doc, e.1), e.2))).lookup (doc, v) = L.lookup v := by
  induction L with
  | nil => rfl
  | cons e es ih =>
    obtain ⟨w, h⟩ := e
    by_cases hk : v = w
    · subst hk; simp
    · have h1 : (v == w) = false := by simp [hk]
      have h2 : ((doc, v) == (doc, w)) = false := by simp [hk]
      simp only [List.map_cons, List.lookup_cons, h1, h2]; exact ih

theorem lookup_map_ne (L : List (Str × Nat)) (doc d : Nat) (v : Str) (hne : d ≠ doc) :
    (L.map (fun e => ((doc, e.1), e.2))).lookup (d, v) = none := by
  rw [List.lookup_eq_none_iff]
  intro p hp
  rw [List.mem_map] at hp
  obtain ⟨e, _, rfl⟩ := hp
  simp [hne]

theorem fi_lookup_of_mem_nodup (L : List (Str × Nat)) (hn : (L.map (·.1)).Nodup) (e : Str × Nat)
    (he : e ∈ L) : L.lookup e.1 = some e.2 := by
  induction L with
  | nil => cases he
  | cons a as ih =>
    obtain ⟨w, h⟩ := a
    rw [List.map_cons, List.nodup_cons] at hn
    rcases List.mem_cons.mp he with rfl | he'
    · simp
    · have hne : (e.1 == w) = false := by
        simp only [beq_eq_false_iff_ne, ne_eq]
        intro h'; exact hn.1 (h' ▸ List.mem_map_of_mem (f := fun x => x.1) he')
      simp only [List.lookup_cons, hne]; exact ih hn.2 he'

theorem lookup_none_of_not_mem (L : List (Str × Nat)) (v : Str) (h : v ∉ L.map (·.1)) :
    L.lookup v = none := by
  rw [List.lookup_eq_none_iff]
  intro p hp
  simp only [bne_iff_ne, ne_eq]
  intro he; exact h (by rw [he]; exact List.mem_map_of_mem hp)

theorem nodup_map_pair (doc : Nat) (L : List Str) (hn : L.Nodup) : (L.map (fun v => (doc, v))).Nodup := by
  induction L with
  | nil => simp
  | cons a as ih =>
    rw [List.nodup_cons] at hn
    rw [List.map_cons, List.nodup_cons]
    refine ⟨fun hm => ?_, ih hn.2⟩
    rw [List.mem_map] at hm
    obtain ⟨b, hb, he⟩ := hm
    have : b = a := by injection he
    exact hn.1 (this ▸ hb)

/-! ### The store with index -/

namespace IdStore

theorem xmlIdNode_eq_some_iff (s : IdStore) (doc : Nat) (v : Str) (h : Nat) :
    s.xmlIdNode doc v = some h ↔ s.lookup doc v = some h ∧ s.forest.isLive h = true := by
  unfold xmlIdNode; rw [Option.filter_eq_some_iff]

theorem xmlIdNode_of_lookup (s : IdStore) (doc : Nat) (v : Str) (h : Nat) (hl : s.lookup doc v = some h) :
    s.xmlIdNode doc v = if s.forest.isLive h then some h else none := by
  unfold xmlIdNode; rw [hl]; cases hlv : s.forest.isLive h <;> simp [Option.filter, hlv]

theorem xmlIdNode_of_lookup_none (s : IdStore) (doc : Nat) (v : Str) (hl : s.lookup doc v = none) :
    s.xmlIdNode doc v = none := by
  unfold xmlIdNode; rw [hl]; rfl

theorem parseInto_next (s : IdStore) (t : Tree) :
    (s.parseInto t).1.forest.next = s.forest.next + t.size := rfl

theorem parseInto_allHandles (s : IdStore) (t : Tree) :
    (s.parseInto t).1.forest.allHandles = s.forest.allHandles ++ handles (ofTree s.forest.next t) := by
  unfold parseInto Forest.allHandles; simp

theorem le_parseInto (s : IdStore) (t : Tree) : Forest.Le s.forest (s.parseInto t).1.forest := by
  refine ⟨by rw [parseInto_next]; omega, ?_⟩
  intro h hh
  rw [parseInto_allHandles, List.mem_append] at hh
  rcases hh with hh | hh
  · exact Or.inl hh
  · exact Or.inr (handles_ofTree _ t h hh).1

theorem isLive_parseInto_old (s : IdStore) (t : Tree) (h : Nat) (hh : h < s.forest.next) :
    (s.parseInto t).1.forest.isLive h = s.forest.isLive h := by
  cases hl : s.forest.isLive h with
  | true =>
    apply Forest.isLive_of_mem_allHandles
    rw [parseInto_allHandles]
    exact List.mem_append_left _ (Forest.mem_allHandles_of_isLive hl)
  | false =>
    cases hl' : (s.parseInto t).1.forest.isLive h with
    | false => rfl
    | true =>
      exfalso
      have hm := Forest.mem_allHandles_of_isLive hl'
      rw [parseInto_allHandles, List.mem_append] at hm
      rcases hm with hm | hm
      · rw [Forest.isLive_of_mem_allHandles hm] at hl; cases hl
      · have := (handles_ofTree _ t h hm).1; omega

theorem get?_parseInto_new (s : IdStore) (hb : ∀ x ∈ s.forest.allHandles, x < s.forest.next) (t : Tree)
    (h : Nat) (hh : s.forest.next ≤ h) :
    (s.parseInto t).1.forest.get? h = find? h (ofTree s.forest.next t) := by
  show findList? h (s.forest.roots ++ [ofTree s.forest.next t]) = _
  rw [findList?_append_of_not_mem h _ _ (fun hm => by have := hb h hm; omega), findList?_cons]
  cases find? h (ofTree s.forest.next t) <;> rfl

theorem lookup_parseInto_other (s : IdStore) (t : Tree) (d : Nat) (v : Str) (hne : d ≠ s.forest.next) :
    (s.parseInto t).1.lookup d v = s.lookup d v := by
  unfold lookup parseInto
  simp only
  rw [List.lookup_append, fi_lookup_filter_ne _ _ _ _ hne, lookup_map_ne _ _ _ _ hne, Option.or_none]

theorem lookup_parseInto_new (s : IdStore) (t : Tree) (v : Str) :
    (s.parseInto t).1.lookup s.forest.next v = (idEntries (ofTree s.forest.next t)).lookup v := by
  unfold lookup parseInto
  simp only
  rw [List.lookup_append, lookup_filter_eq, Option.none_or, lookup_map_doc]

theorem le_step (s : IdStore) (o : IdOp) : Forest.Le s.forest (s.step o).forest := by
  cases o with
  | call o => exact Forest.le_step s.forest o
  | parse t =>
    show Forest.Le s.forest (s.parse t).1.forest
    unfold parse
    split
    · exact le_parseInto s t
    · exact Forest.Le.refl _

theorem le_run (s : IdStore) (ops : List IdOp) : Forest.Le s.forest (s.run ops).forest := by
  induction ops generalizing s with
  | nil => exact Forest.Le.refl _
  | cons o os ih => exact Forest.Le.trans (le_step s o) (ih (s.step o))

/-- The index is only written for the document node a parse creates: entries of existing
    documents are never rewritten. -/
theorem lookup_step (s : IdStore) (o : IdOp) (d : Nat) (v : Str) (hd : d < s.forest.next) :
    (s.step o).lookup d v = s.lookup d v := by
  cases o with
  | call o => rfl
  | parse t =>
    show (s.parse t).1.lookup d v = _
    unfold parse
    split
    · exact lookup_parseInto_other s t d v (Nat.ne_of_lt hd)
    · rfl

theorem lookup_run (s : IdStore) (ops : List IdOp) (d : Nat) (v : Str) (hd : d < s.forest.next) :
    (s.run ops).lookup d v = s.lookup d v := by
  induction ops generalizing s with
  | nil => rfl
  | cons o os ih =>
    show ((s.step o).run os).lookup d v = _
    rw [ih (s.step o) (Nat.lt_of_lt_of_le hd (le_step s o).next), lookup_step s o d v hd]

theorem run_append (s : IdStore) (a b : List IdOp) : s.run (a ++ b) = (s.run a).run b := by
  unfold run; rw [List.foldl_append]

/-! #### The reachable-state invariant of the index -/

theorem wf_init : init.Wf := ⟨fun e he => (by cases he), (by simp [init])⟩

theorem wf_call {s : IdStore} (hw : s.Wf) (o : Op) : (s.call o).Wf := by
  refine ⟨fun e he => ?_, hw.keys⟩
  have := hw.below e he
  have hn := (Forest.le_step s.forest o).next
  exact ⟨Nat.lt_of_lt_of_le this.1 hn, Nat.lt_of_lt_of_le this.2 hn⟩

theorem wf_parseInto {s : IdStore} (hw : s.Wf) (t : Tree) (hn : (Tree.idValues t).Nodup) :
    (s.parseInto t).1.Wf := by
  have hpos := Tree.size_pos t
  refine ⟨?_, ?_⟩
  · intro e he
    rw [parseInto_next]
    have he' : e ∈ s.index.filter (fun e => e.1.1 != s.forest.next) ++
        (idEntries (ofTree s.forest.next t)).map (fun e => ((s.forest.next, e.1), e.2)) := he
    rw [List.mem_append] at he'
    rcases he' with he' | he'
    · have := hw.below e (List.mem_filter.mp he').1
      omega
    · rw [List.mem_map] at he'
      obtain ⟨a, ha, rfl⟩ := he'
      have := handles_ofTree s.forest.next t a.2 (idEntries_mem_handles _ a ha)
      simp only
      omega
  · show ((s.index.filter (fun e => e.1.1 != s.forest.next) ++
        (idEntries (ofTree s.forest.next t)).map (fun e => ((s.forest.next, e.1), e.2))).map (·.1)).Nodup
    rw [List.map_append, List.nodup_append]
    refine ⟨hw.keys.sublist (List.Sublist.map _ List.filter_sublist), ?_, ?_⟩
    · rw [List.map_map]
      have : ((fun x : (Nat × Str) × Nat => x.1) ∘ fun e : Str × Nat => ((s.forest.next, e.1), e.2)) =
          (fun v => (s.forest.next, v)) ∘ (fun e : Str × Nat => e.1) := rfl
      rw [this, ← List.map_map]
      apply nodup_map_pair
      rw [idEntries_ofTree_fst s.forest.next 0 t]
      exact hn
    · intro a ha b hb hab
      rw [List.mem_map] at ha hb
      obtain ⟨x, hx, rfl⟩ := ha
      obtain ⟨y, hy, rfl⟩ := hb
      rw [List.mem_map] at hy
      obtain ⟨z, _, rfl⟩ := hy
      have := (List.mem_filter.mp hx).2
      simp only [bne_iff_ne, ne_eq] at this
      exact this (by rw [hab])

theorem wf_step {s : IdStore} (hw : s.Wf) (o : IdOp) : (s.step o).Wf := by
  cases o with
  | call o => exact wf_call hw o
  | parse t =>
    show (s.parse t).1.Wf
    unfold parse
    split
    · next hn => exact wf_parseInto hw t hn
    · exact hw

theorem wf_run {s : IdStore} (hw : s.Wf) (ops : List IdOp) : (s.run ops).Wf := by
  induction ops generalizing s with
  | nil => exact hw
  | cons o os ih => exact ih (wf_step hw o)

theorem lookup_below {s : IdStore} (hw : s.Wf) {d : Nat} {v : Str} {h : Nat} (hl : s.lookup d v = some h) :
    d < s.forest.next ∧ h < s.forest.next :=
  hw.below _ (lookup_mem hl)

/-! #### Parsing into an existing store keeps the forest invariant -/

theorem inv_parseInto {s : IdStore} (hi : s.forest.Inv) (t : Tree) (hv : s.parseOK t) :
    (s.parseInto t).1.forest.Inv := by
  refine ⟨hi.notCorrupt, ?_, ?_, ?_, hi.consOn⟩
  · rw [parseInto_allHandles, List.nodup_append]
    refine ⟨hi.nodup, nodup_handles_ofTree _ t, ?_⟩
    intro a ha b hb hab
    have h1 := hi.below a ha
    have h2 := handles_ofTree _ t b hb
    omega
  · intro h hh
    rw [parseInto_allHandles, List.mem_append] at hh
    rw [parseInto_next]
    rcases hh with hh | hh
    · have := hi.below h hh; omega
    · exact (handles_ofTree _ t h hh).2
  · show validList (!s.forest.everOff) (s.forest.roots ++ [ofTree s.forest.next t]) = true
    rw [Fmap.validList_append, validList_cons, validList_nil, hi.valid]
    unfold parseOK at hv
    simp [hv]

theorem inv_step {s : IdStore} (hi : s.forest.Inv) (o : IdOp) (hok : s.stepOK o) : (s.step o).forest.Inv := by
  cases o with
  | call o => exact Forest.step_inv hi o (by cases o <;> rfl)
  | parse t =>
    show (s.parse t).1.forest.Inv
    unfold parse
    split
    · exact inv_parseInto hi t hok
    · exact hi

theorem inv_run {s : IdStore} (hi : s.forest.Inv) (ops : List IdOp) (hok : s.runOK ops) :
    (s.run ops).forest.Inv := by
  induction ops generalizing s with
  | nil => exact hi
  | cons o os ih => exact ih (inv_step hi o hok.1) hok.2

/-- `xml_id_node` in a store whose index holds `h` under `(doc, v)`, `h` a handle that has been handed out: the
    element as long as it is not removed, nothing once it is. -/
theorem xmlIdNode_of_entry (s : IdStore) (doc : Nat) (v : Str) (h : Nat) (hl : s.lookup doc v = some h)
    (hlt : h < s.forest.next) :
    (s.forest.isRemoved h = false → s.xmlIdNode doc v = some h) ∧
    (s.forest.isRemoved h = true → s.xmlIdNode doc v = none) := by
  rw [xmlIdNode_of_lookup _ _ _ h hl]
  constructor
  · intro hr
    cases hlv : s.forest.isLive h with
    | true => rfl
    | false => simp [Forest.isRemoved, hlv, hlt] at hr
  · intro hr
    simp only [Forest.isRemoved, Bool.and_eq_true, Bool.not_eq_true'] at hr
    rw [hr.2]; rfl

end IdStore
end XotModel
