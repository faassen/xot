/-
  The interning tables along histories that parse and edit.

  An extended API call only appends to the PREFIX table (`create_missing_prefixes`: `add_prefix`; every other
  call leaves the tables alone) — `Repair.PrefixExt`, for all stores and arguments —, so well-formed tables
  (`envOK`) stay well formed; an accepted parse keeps `envOK` too (`fph_accepted_envOK`).  Hence every parse of
  a history without REJECTED parses runs on well-formed tables (`fpht_parsesOnOKTables_of_noRejected`), which is
  what the uniqueness of the xml:id index keys needs (`C04_reach_full_index`).  (What a rejected parse leaves in
  the tables is not characterised.)
-/
import XotModel.Lemmas.FparseValsDomain
import XotModel.Lemmas.FparseHistIds

namespace XotModel
open HTree Repair

namespace Forest

theorem fpht_repairCalls_ext {env : Env} {f : Forest} {node : Nat} {env' : Env} {calls : List Call}
    (h : f.repairCalls env node = some (env', calls)) : PrefixExt env env' := by
  obtain ⟨_, _, _, _, -, -, -, -, ha, -⟩ := repairCalls_some h
  exact (assignPrefixes_ext _ _ _ _ _ _ ha).1

theorem fpht_repairElementF_ext (env : Env) (f : Forest) (node : Nat) :
    PrefixExt env (f.repairElementF env node).2.1 := by
  unfold repairElementF
  cases hr : f.repairCalls env node with
  | none => exact PrefixExt.refl _
  | some ec => exact fpht_repairCalls_ext hr

theorem fpht_createMissingPrefixes_ext (env : Env) (f : Forest) (node : Nat) :
    PrefixExt env (f.createMissingPrefixes env node).2.1 :=
  Closed.createMissingPrefixes_keepsE (R := fun env' _ => PrefixExt env env')
    (fun e h => h.trans (fpht_repairElementF_ext _ _ e)) (PrefixExt.refl env) node

/-- **An extended call only appends to the prefix table**, for all stores and arguments. -/
theorem fpht_xcall_ext (s : Store) (c : XCall) : PrefixExt s.env (c.run s).1.env := by
  cases c with
  | createMissingPrefixes n => exact fpht_createMissingPrefixes_ext s.env s.forest n
  | _ => exact PrefixExt.refl _

end Forest

namespace PStore

theorem fpht_envOK_step_api (s : PStore) (c : Forest.XCall) (h : envOK s.env = true) :
    envOK (s.step (.api c)).env = true := envOK_ext (Forest.fpht_xcall_ext s.store c) h

/-- A history without rejected parses, from well-formed tables: every parse runs on well-formed tables,
    and the tables are well formed at the end. -/
theorem fpht_parsesOnOKTables_of_noRejected : ∀ (cs : List PCall) (s : PStore), envOK s.env = true →
    s.noRejected cs → s.parsesOnOKTables cs ∧ envOK (s.run cs).env = true
  | [], _, he, _ => ⟨trivial, he⟩
  | .api c :: cs, s, he, hn =>
    fpht_parsesOnOKTables_of_noRejected cs (s.step (.api c)) (fpht_envOK_step_api s c he) hn
  | .parse m text :: cs, s, he, hn => by
    obtain ⟨⟨p, hp⟩, hn'⟩ := hn
    have he' : envOK (s.step (.parse m text)).env = true := by
      rw [fph_step_parse_ok s hp]; exact fph_accepted_envOK he hp
    obtain ⟨h1, h2⟩ := fpht_parsesOnOKTables_of_noRejected cs (s.step (.parse m text)) he' hn'
    exact ⟨⟨he, h1⟩, h2⟩

end PStore
end XotModel
