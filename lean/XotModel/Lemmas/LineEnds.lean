/-
  Line-end normalisation (`normalizeLineEnds`, Model/Parse.lean) on a
  string without CR is the identity; it never produces a CR, is idempotent and keeps a
  non-empty string non-empty.  (That it keeps XML Chars: Lemmas/AcceptedContent.lean.)
-/
import XotModel.Model.Parse

namespace XotModel

theorem normalizeLineEnds_nil : normalizeLineEnds [] = [] := by
  simp [normalizeLineEnds, replaceCrLf, replaceCr]

theorem replaceCrLf_noCr : ∀ (s : Str), '\r' ∉ s → replaceCrLf s = s
  | [], _ => by simp [replaceCrLf]
  | [c], _ => by simp [replaceCrLf]
  | c :: d :: rest, h => by
    have hc : c ≠ '\r' := fun e => h (by simp [e])
    have ih := replaceCrLf_noCr (d :: rest) (fun hm => h (List.mem_cons_of_mem _ hm))
    simp only [replaceCrLf, hc, false_and, if_false, ih]

theorem replaceCr_noCr (s : Str) (h : '\r' ∉ s) : replaceCr s = s := by
  unfold replaceCr
  induction s with
  | nil => rfl
  | cons c rest ih =>
    have hc : c ≠ '\r' := fun e => h (by simp [e])
    simp only [List.map_cons, hc, if_false, ih (fun hm => h (List.mem_cons_of_mem _ hm))]

theorem normalizeLineEnds_noCr (s : Str) (h : '\r' ∉ s) : normalizeLineEnds s = s := by
  unfold normalizeLineEnds
  rw [replaceCrLf_noCr s h, replaceCr_noCr s h]

theorem normalizeLineEnds_noCr' (s : Str) (h : s.contains '\r' = false) : normalizeLineEnds s = s :=
  normalizeLineEnds_noCr s (by simpa using h)

theorem normalizeLineEnds_no_cr (s : Str) : '\r' ∉ normalizeLineEnds s := by
  unfold normalizeLineEnds replaceCr
  intro h
  simp only [List.mem_map] at h
  obtain ⟨c, _, hc⟩ := h
  split at hc
  · exact absurd hc (by decide)
  · rename_i hne; exact hne hc

theorem normalizeLineEnds_idem (s : Str) : normalizeLineEnds (normalizeLineEnds s) = normalizeLineEnds s :=
  normalizeLineEnds_noCr _ (normalizeLineEnds_no_cr s)

theorem replaceCrLf_ne_nil : ∀ (s : Str), s ≠ [] → replaceCrLf s ≠ []
  | [], h => absurd rfl h
  | [c], _ => by simp [replaceCrLf]
  | c :: d :: rest, _ => by
    simp only [replaceCrLf]
    split <;> simp

theorem normalizeLineEnds_ne_nil {s : Str} (h : s ≠ []) : normalizeLineEnds s ≠ [] := by
  unfold normalizeLineEnds replaceCr
  intro hn
  exact replaceCrLf_ne_nil s h (List.map_eq_nil_iff.mp hn)

end XotModel
