/-
  The removal phase of every pass of `deduplicate_namespaces` only
  deletes namespace-node children: whatever the removal lists are, the result relates to the input
  by `NsShrink` (same non-namespace skeleton, per node a sublist of the declarations).
-/
import XotModel.Lemmas.ScopePath

namespace XotModel

/-- The tree without its namespace nodes: element names, attributes, content, in order. -/
def stripNs : Tree → Tree
  | .node v ks => .node v (stripNsList ks)
where
  stripNsList : List Tree → List Tree
    | [] => []
    | k :: ks =>
      if k.value.category == .namespace then stripNsList ks else stripNs k :: stripNsList ks

/-- The declarations of every non-namespace node, in raw document order. -/
def declsOfTree : Tree → List (List (Nat × Nat))
  | .node v ks => (Tree.node v ks).nsDecls :: declsOfList ks
where
  declsOfList : List Tree → List (List (Nat × Nat))
    | [] => []
    | k :: ks =>
      if k.value.category == .namespace then declsOfList ks else declsOfTree k ++ declsOfList ks

inductive AllSub : List (List (Nat × Nat)) → List (List (Nat × Nat)) → Prop
  | nil : AllSub [] []
  | cons {a b : List (Nat × Nat)} {as bs : List (List (Nat × Nat))} :
      a.Sublist b → AllSub as bs → AllSub (a :: as) (b :: bs)

theorem AllSub.refl : ∀ l, AllSub l l
  | [] => .nil
  | a :: as => .cons (List.Sublist.refl a) (AllSub.refl as)

theorem AllSub.trans {a b c : List (List (Nat × Nat))} (h1 : AllSub a b) (h2 : AllSub b c) :
    AllSub a c := by
  induction h1 generalizing c with
  | nil => exact h2
  | cons hs _ ih =>
    cases h2 with
    | cons hs2 h2' => exact .cons (hs.trans hs2) (ih h2')

theorem AllSub.append {a b c d : List (List (Nat × Nat))} (h1 : AllSub a b) (h2 : AllSub c d) :
    AllSub (a ++ c) (b ++ d) := by
  induction h1 with
  | nil => exact h2
  | cons hs _ ih => exact .cons hs ih

theorem AllSub.length_eq {a b : List (List (Nat × Nat))} (h : AllSub a b) : a.length = b.length := by
  induction h with
  | nil => rfl
  | cons _ _ ih => simp [ih]

/-- `namespace_declarations` read off the child list: the leading run of namespace nodes. -/
def declsOfKids : List Tree → List (Nat × Nat)
  | [] => []
  | k :: ks =>
    match k.value with
    | .namespace p n => (p, n) :: declsOfKids ks
    | _ => []

theorem category_namespace_iff_ex (v : Value) :
    (v.category == Category.namespace) = true ↔ ∃ p n, v = .namespace p n := by
  cases v <;> simp [Value.category]

theorem nsDecls_node (v : Value) (ks : List Tree) : (Tree.node v ks).nsDecls = declsOfKids ks := by
  simp only [Tree.nsDecls, Tree.namespaceNodes, Tree.kids]
  induction ks with
  | nil => rfl
  | cons k rest ih =>
    by_cases hc : (k.value.category == Category.namespace) = true
    · obtain ⟨p, n, hv⟩ := (category_namespace_iff_ex _).1 hc
      rw [List.takeWhile_cons]
      simp only [hc, ↓reduceIte, List.filterMap_cons]
      simp only [hv, declsOfKids]
      rw [ih]
    · have hv : ∀ p n, k.value ≠ .namespace p n := fun p n h =>
        hc ((category_namespace_iff_ex _).2 ⟨p, n, h⟩)
      rw [List.takeWhile_cons]
      simp only [hc, Bool.false_eq_true, ↓reduceIte, List.filterMap_nil]
      unfold declsOfKids
      split
      · rename_i p n h; exact absurd h (hv p n)
      · rfl

/-- `t'` is `t` with some namespace-node children deleted, as far as values, skeleton and
    declarations can tell. -/
structure NsShrink (t' t : Tree) : Prop where
  value : t'.value = t.value
  strip : stripNs t' = stripNs t
  decls : AllSub (declsOfTree t') (declsOfTree t)

theorem NsShrink.refl (t : Tree) : NsShrink t t := ⟨rfl, rfl, AllSub.refl _⟩

theorem NsShrink.trans {a b c : Tree} (h1 : NsShrink a b) (h2 : NsShrink b c) : NsShrink a c :=
  ⟨h1.value.trans h2.value, h1.strip.trans h2.strip, h1.decls.trans h2.decls⟩

/-! ### Deleting namespace nodes from the leading run of a child list -/

theorem stripNsList_cons_nsNode {k : Tree} {p n : Nat} (hv : k.value = .namespace p n) (ks : List Tree) :
    stripNs.stripNsList (k :: ks) = stripNs.stripNsList ks := by
  simp only [stripNs.stripNsList, hv, Value.category, beq_self_eq_true, if_true]

theorem declsOfList_cons_nsNode {k : Tree} {p n : Nat} (hv : k.value = .namespace p n) (ks : List Tree) :
    declsOfTree.declsOfList (k :: ks) = declsOfTree.declsOfList ks := by
  simp only [declsOfTree.declsOfList, hv, Value.category, beq_self_eq_true, if_true]

theorem declsOfKids_cons_nsNode {k : Tree} {p n : Nat} (hv : k.value = .namespace p n) (ks : List Tree) :
    declsOfKids (k :: ks) = (p, n) :: declsOfKids ks := by
  simp only [declsOfKids, hv]

/-- `ks'` is `ks` with some of its leading namespace-node children deleted: what the removal loop of
    a pass does to one child list. -/
inductive NsDel : List Tree → List Tree → Prop
  | refl (ks : List Tree) : NsDel ks ks
  | drop {k : Tree} {ks' ks : List Tree} {p n : Nat} :
      k.value = .namespace p n → NsDel ks' ks → NsDel ks' (k :: ks)
  | keep {k : Tree} {ks' ks : List Tree} {p n : Nat} :
      k.value = .namespace p n → NsDel ks' ks → NsDel (k :: ks') (k :: ks)

theorem NsDel.trans {a b c : List Tree} (h1 : NsDel a b) (h2 : NsDel b c) : NsDel a c := by
  induction h2 generalizing a with
  | refl => exact h1
  | drop hv _ ih => exact .drop hv (ih h1)
  | keep hv h2' ih =>
    cases h1 with
    | refl => exact .keep hv h2'
    | drop _ h1' => exact .drop hv (ih h1')
    | keep _ h1' => exact .keep hv (ih h1')

theorem nsDel_removeNsKid (pfx : Nat) : ∀ ks : List Tree, NsDel (removeNsKid pfx ks) ks
  | [] => .refl _
  | k :: ks => by
    unfold removeNsKid
    split
    · rename_i hv
      split
      · exact .drop hv (.refl _)
      · exact .keep hv (nsDel_removeNsKid pfx ks)
    · exact .refl _

theorem NsDel.sublist {ks' ks : List Tree} (h : NsDel ks' ks) : ks'.Sublist ks := by
  induction h with
  | refl => exact List.Sublist.refl _
  | drop _ _ ih => exact ih.cons _
  | keep _ _ ih => exact ih.cons_cons _

theorem NsDel.stripNsList {ks' ks : List Tree} (h : NsDel ks' ks) :
    stripNs.stripNsList ks' = stripNs.stripNsList ks := by
  induction h with
  | refl => rfl
  | drop hv _ ih => rw [stripNsList_cons_nsNode hv, ih]
  | keep hv _ ih => rw [stripNsList_cons_nsNode hv, stripNsList_cons_nsNode hv, ih]

theorem NsDel.declsOfList {ks' ks : List Tree} (h : NsDel ks' ks) :
    declsOfTree.declsOfList ks' = declsOfTree.declsOfList ks := by
  induction h with
  | refl => rfl
  | drop hv _ ih => rw [declsOfList_cons_nsNode hv, ih]
  | keep hv _ ih => rw [declsOfList_cons_nsNode hv, declsOfList_cons_nsNode hv, ih]

theorem NsDel.declsOfKids {ks' ks : List Tree} (h : NsDel ks' ks) :
    (declsOfKids ks').Sublist (declsOfKids ks) := by
  induction h with
  | refl => exact List.Sublist.refl _
  | drop hv _ ih => rw [declsOfKids_cons_nsNode hv]; exact ih.cons _
  | keep hv _ ih => rw [declsOfKids_cons_nsNode hv, declsOfKids_cons_nsNode hv]; exact ih.cons_cons _

theorem NsShrink.removeNsKidsOf (pfx : Nat) (t : Tree) : NsShrink (removeNsKidsOf pfx t) t := by
  obtain ⟨v, ks⟩ := t
  have h := nsDel_removeNsKid pfx ks
  refine ⟨rfl, ?_, ?_⟩
  · simp only [XotModel.removeNsKidsOf, stripNs, h.stripNsList]
  · simp only [XotModel.removeNsKidsOf, declsOfTree, nsDecls_node, h.declsOfList]
    exact .cons h.declsOfKids (AllSub.refl _)

/-! ### Modifying below a path -/

theorem category_eq_of_value {a b : Tree} (h : a.value = b.value) :
    a.value.category = b.value.category := by rw [h]

theorem NsShrink.scopeModifyAt (f : Tree → Tree) (hf : ∀ k, NsShrink (f k) k) (path : Path) (t : Tree) :
    NsShrink (XotModel.scopeModifyAt f t path) t :=
  ScopePath.scopeModifyAt_rel_refl (R := fun a' a => NsShrink a' a)
    (RL := fun l' l => declsOfKids l' = declsOfKids l ∧ stripNs.stripNsList l' = stripNs.stripNsList l ∧
      AllSub (declsOfTree.declsOfList l') (declsOfTree.declsOfList l)) f NsShrink.refl
    (fun a a' l h => by
      simp only [declsOfKids, stripNs.stripNsList, declsOfTree.declsOfList, h.value, h.strip, true_and]
      split
      · exact AllSub.refl _
      · exact h.decls.append (AllSub.refl _))
    (fun a l l' h => by
      simp only [declsOfKids, stripNs.stripNsList, declsOfTree.declsOfList, h.1, h.2.1, true_and]
      split
      · exact h.2.2
      · exact (AllSub.refl _).append h.2.2)
    (fun v l l' h => ⟨rfl, by simp only [stripNs, h.2.1], by
      simp only [declsOfTree, nsDecls_node, h.1]; exact .cons (List.Sublist.refl _) h.2.2⟩)
    path t fun sub _ => hf sub

theorem NsShrink.removeNamespacesAt (path : Path) (pfxs : List Nat) :
    ∀ t : Tree, NsShrink (removeNamespacesAt t path pfxs) t := by
  induction pfxs with
  | nil => intro t; exact NsShrink.refl t
  | cons pfx rest ih =>
    intro t
    simp only [XotModel.removeNamespacesAt, List.foldl_cons]
    exact (ih _).trans (NsShrink.scopeModifyAt _ (NsShrink.removeNsKidsOf pfx) path t)

theorem NsShrink.applyFixups (fps : List (Path × List Nat)) :
    ∀ t : Tree, NsShrink (applyFixups t fps) t := by
  induction fps with
  | nil => intro t; exact NsShrink.refl t
  | cons fp rest ih =>
    intro t
    simp only [XotModel.applyFixups, List.foldl_cons]
    exact (ih _).trans (NsShrink.removeNamespacesAt fp.1 fp.2 t)

/-- One pass only deletes namespace nodes, whatever the traversal decided. -/
theorem NsShrink.dedupPass (env : Env) (t : Tree) (path : Path) (sub : Tree) :
    NsShrink (dedupPass env t path sub).1 t :=
  NsShrink.applyFixups _ t

/-- The loop of passes: a reflexive, transitive relation that every pass establishes between its
    result and its input holds between the result of the loop and its input; `I` is what the passes
    preserve. -/
theorem dedupLoop_rel (env : Env) (path : Path) {R : Tree → Tree → Prop} {I : Tree → Prop}
    (refl : ∀ t, R t t) (trans : ∀ {a b c}, R a b → R b c → R a c)
    (step : ∀ t sub, t.at? path = some sub → I t →
      R (dedupPass env t path sub).1 t ∧ I (dedupPass env t path sub).1) :
    ∀ (fuel : Nat) (t : Tree), I t → R (dedupLoop env path fuel t) t
  | 0, t, _ => refl t
  | fuel + 1, t, hi => by
    unfold dedupLoop
    split
    · exact refl t
    · rename_i sub hs
      obtain ⟨h1, h2⟩ := step t sub hs hi
      dsimp only
      split
      · exact trans (dedupLoop_rel env path refl trans step fuel _ h2) h1
      · exact h1

theorem NsShrink.dedupLoop (env : Env) (path : Path) : ∀ (fuel : Nat) (t : Tree),
    NsShrink (dedupLoop env path fuel t) t :=
  fun fuel t => dedupLoop_rel env path (I := fun _ => True) NsShrink.refl NsShrink.trans
    (fun t sub _ _ => ⟨NsShrink.dedupPass env t path sub, trivial⟩) fuel t trivial

/-- Whatever the traversals decided, `deduplicate_namespaces` only deletes namespace nodes. -/
theorem NsShrink.deduplicateNamespaces (env : Env) (t t' : Tree) (path : Path)
    (h : deduplicateNamespaces env t path = some t') : NsShrink t' t := by
  unfold XotModel.deduplicateNamespaces at h
  split at h
  · cases h
  · simp only [Option.some.injEq] at h
    subst h
    exact NsShrink.dedupLoop env path _ t

end XotModel
