/-
  C17, the bytes AROUND the recorded spans, for every accepted string
  (tokenizer `Token.Delims` / `TextAdj`, Lemmas/LexDelims*.lean, composed with the description `Desc` of the
  accepted tree, Lemmas/SpanDesc*.lean):

    * `parseString_element_end`   the `ElementEnd` span of an element closed by an end tag slices to `</`, the
                                  qualified name exactly as the START tag wrote it, white space, `>`;
    * `parseString_comment_delims`, `parseString_pi_delims`   `<!--` / `-->` and `<?` … `?>` stand directly
                                  before / after the recorded body spans;
    * `parseString_text_mode`     the run behind a text node starts inside a CDATA section iff the nine bytes
                                  in front of the `Text` span are `<![CDATA[` (`cdataOpenBefore`), so the
                                  decoder's start mode is a function of the source.
-/
import XotModel.Lemmas.SpanSlice
import XotModel.Lemmas.LexDelims

namespace XotModel

/-! ### `str::get` backwards -/

theorem sliceBytes_mid (a x b : Str) : sliceBytes (a ++ x ++ b) (strLen a) (strLen a + strLen x) = some x :=
  sliceBytes_of_sliceOf (sp := ⟨x, strLen a⟩) ⟨a, b, rfl, rfl⟩

/-! ### What the tokenizer guarantees: delimiters and adjacent text tokens -/

structure LexFacts2 (s : Str) (ts : List Token) : Prop where
  delims : ∀ t ∈ ts, t.Delims
  textAdj : AdjChain TextAdj ts
  textFirst : TextFirst ts

theorem lexMode_facts2 (m : Mode) (s : Str) : LexFacts2 s (lexMode m s).1 := by
  cases m with
  | document => exact ⟨(lexDocument_delims s).1, (lexDocument_delims s).2.1, (lexDocument_delims s).2.2⟩
  | fragment => exact ⟨(lexFragment_delims s).1, (lexFragment_delims s).2.1, (lexFragment_delims s).2.2⟩

/-! ### The end tag repeats the start tag's name as written -/

/-- How the element at `q` ends: `/>`, or an end tag `</` name white-space `>` whose name is `nm`. -/
def EndSliced (s : Str) (ts : List Token) (g : SpanKey → Option Span) (q : Path) (pfx loc : StrSpan) : Prop :=
  ∃ e esp, Token.elementEnd e esp ∈ ts ∧ SlicesTo s g ⟨q, .elementEnd⟩ esp.text ∧
    ((e = .empty ∧ esp.text = ['/', '>']) ∨
     ∃ pe le ws, e = .close pe le ∧ pe.text = pfx.text ∧ le.text = loc.text ∧ (∀ c ∈ ws, isXmlSpace c = true) ∧
       esp.text = '<' :: '/' :: (tokQName pfx.text loc.text ++ ws ++ ['>']))

theorem nodeFacts_element_end {s : Str} {ts : List Token} {g : SpanKey → Option Span} {env : Env} {scope : NsStack}
    {q : Path} {id : Nat} {ks : List Tree} (hl : LexFacts s ts) (hl2 : LexFacts2 s ts)
    (hpok : tokensPrefixOk ts = true)
    (h : NodeFacts ts g env scope q (.element id) ks) :
    ∃ pfx loc wsp, Token.elementStart pfx loc wsp ∈ ts ∧
      SlicesTo s g ⟨q, .elementStart⟩ (tokQName pfx.text loc.text) ∧ EndSliced s ts g q pfx loc := by
  obtain ⟨⟨⟨p, l, sp, hm, h1, _⟩, _⟩, e, esp, hem, hne, h2, hlink⟩ := h
  have hslice := slicesTo_span h2 (Token.wholeSpan_all _ (hl.slices _ hem))
  cases e with
  | «open» => exact absurd rfl hne
  | empty =>
    have hsp : NameSlice s p l := hl.spelled _ hm
    exact ⟨p, l, sp, hm, ⟨_, h1, hsp.sliceBytes⟩, .empty, esp, hem, hslice, .inl ⟨rfl, hl.spelled _ hem⟩⟩
  | close pe le =>
    obtain ⟨ps, ls, wsp, hms, hgs, hp, hlo⟩ := hlink pe le rfl
    have hsp : NameSlice s ps ls := hl.spelled _ hms
    obtain ⟨nm, ws, htext, hws, hnm⟩ := hl2.delims _ hem
    have hbc : pe.bareColon = false := by
      have hok : (Token.elementEnd (.close pe le) esp).prefixOk = true := by
        simp only [tokensPrefixOk, List.all_eq_true] at hpok
        exact hpok _ hem
      rw [Token.prefixOk_of_qname (p := pe) (l := le) rfl] at hok
      simpa using hok
    refine ⟨ps, ls, wsp, hms, ⟨_, hgs, hsp.sliceBytes⟩, .close pe le, esp, hem, hslice,
      .inr ⟨pe, le, ws, rfl, hp.symm, hlo.symm, hws, ?_⟩⟩
    rw [htext, hnm hbc, hp, hlo]

theorem parseString_element_end {m : Mode} {env : Env} {s : Str} {p : Parsed} (h : parseString m env s = .ok p)
    {q : Path} {id : Nat} {ks : List Tree} (hat : p.tree.at? q = some (.node (.element id) ks)) :
    ∃ pfx loc wsp, Token.elementStart pfx loc wsp ∈ (lexMode m s).1 ∧
      SlicesTo s p.spans.get ⟨q, .elementStart⟩ (tokQName pfx.text loc.text) ∧
      EndSliced s (lexMode m s).1 p.spans.get q pfx loc := by
  exact nodeFacts_element_end (lexMode_facts m s) (lexMode_facts2 m s)
    (build_ok_prefixOk (show build m (strLen s) env (lexMode m s).1 (lexMode m s).2 = .ok p from h))
    (parseString_nodeFacts h hat)

/-! ### Comment and PI delimiters -/

/-- The recorded span under `key` slices to `txt`, and the source reads `before ++ txt ++ after` there:
    `before` ends at the span's start, `after` begins at its end. -/
def SlicesBetween (s : Str) (g : SpanKey → Option Span) (key : SpanKey) (before txt after : Str) : Prop :=
  ∃ sp a b, g key = some sp ∧ s = a ++ before ++ txt ++ after ++ b ∧ sp.start = strLen a + strLen before ∧
    sp.stop = sp.start + strLen txt

theorem SlicesBetween.slicesTo {s : Str} {g : SpanKey → Option Span} {key : SpanKey} {before txt after : Str}
    (h : SlicesBetween s g key before txt after) : SlicesTo s g key txt := by
  obtain ⟨sp, a, b, hg, hs, h1, h2⟩ := h
  refine ⟨sp, hg, ?_⟩
  have := sliceBytes_mid (a ++ before) txt (after ++ b)
  rw [Lex.strLen_app] at this
  rw [h2, h1, hs]
  simpa [List.append_assoc] using this

/-- … in terms of `str::get`: the bytes directly before the span and directly after it. -/
theorem SlicesBetween.around {s : Str} {g : SpanKey → Option Span} {key : SpanKey} {before txt after : Str}
    (h : SlicesBetween s g key before txt after) :
    ∃ sp, g key = some sp ∧ strLen before ≤ sp.start ∧
      sliceBytes s (sp.start - strLen before) sp.start = some before ∧
      sliceBytes s sp.stop (sp.stop + strLen after) = some after := by
  obtain ⟨sp, a, b, hg, hs, h1, h2⟩ := h
  refine ⟨sp, hg, by omega, ?_, ?_⟩
  · have := sliceBytes_mid a before (txt ++ after ++ b)
    rw [h1, hs]
    have e : strLen a + strLen before - strLen before = strLen a := by omega
    rw [e]
    simpa [List.append_assoc] using this
  · have := sliceBytes_mid (a ++ before ++ txt) after b
    rw [h2, h1, hs]
    simp only [Lex.strLen_app] at this
    simpa [List.append_assoc] using this

theorem nodeFacts_comment_delims {s : Str} {ts : List Token} {g : SpanKey → Option Span} {env : Env} {scope : NsStack}
    {q : Path} {v : Str} {ks : List Tree} (hl : LexFacts s ts) (hl2 : LexFacts2 s ts)
    (h : NodeFacts ts g env scope q (.comment v) ks) :
    ∃ w, SlicesBetween s g ⟨q, .comment⟩ Lex.litCommentOpen w Lex.litCommentClose ∧ v = normalizeLineEnds w := by
  obtain ⟨t, sp, hm, hg, rfl⟩ := h
  obtain ⟨htext, hstart⟩ := hl2.delims _ hm
  obtain ⟨a, b, hsrc, hst⟩ := (hl.slices _ hm).2
  refine ⟨t.text, ⟨t.span, a, b, hg, ?_, ?_, rfl⟩, rfl⟩
  · rw [hsrc, htext]; simp only [List.append_assoc]
  · show t.start = _
    rw [hstart, hst]; rfl

/-- The PI at `q`: the source reads `<?`, the target (= the `PiTarget` span), white space, the data as
    written (= the `PiContent` span when the node has data; empty otherwise), `?>`. -/
def PiDelims (s : Str) (g : SpanKey → Option Span) (q : Path) (d : Option Str) : Prop :=
  ∃ target ws body a b, (∀ c ∈ ws, isXmlSpace c = true) ∧
    s = a ++ Lex.litPiOpen ++ target ++ ws ++ body ++ Lex.litPiClose ++ b ∧
    (∃ sp, g ⟨q, .piTarget⟩ = some sp ∧ sp.start = strLen a + 2 ∧ sp.stop = sp.start + strLen target) ∧
    (∀ c, d = some c → c = normalizeLineEnds body ∧
      ∃ sp, g ⟨q, .piContent⟩ = some sp ∧ sp.start = strLen a + 2 + strLen target + strLen ws ∧
        sp.stop = sp.start + strLen body) ∧
    (d = none → body = [])

theorem nodeFacts_pi_delims {s : Str} {ts : List Token} {g : SpanKey → Option Span} {env : Env} {scope : NsStack}
    {q : Path} {id : Nat} {d : Option Str} {ks : List Tree} (hl : LexFacts s ts) (hl2 : LexFacts2 s ts)
    (h : NodeFacts ts g env scope q (.pi id d) ks) : PiDelims s g q d := by
  obtain ⟨tg, c, sp, hm, h1, h2, h3, h4, h5⟩ := h
  obtain ⟨ws, body, htext, hws, htg, hcs, hnone⟩ := hl2.delims _ hm
  obtain ⟨a, b, hsrc, hst⟩ := (hl.slices _ hm).2.2
  refine ⟨tg.text, ws, body, a, b, hws, ?_, ⟨tg.span, h1, ?_, rfl⟩, ?_, ?_⟩
  · rw [hsrc, htext]; simp only [List.append_assoc]
  · show tg.start = _
    rw [htg, hst]
  · intro c' hc'
    subst h3
    cases c with
    | none => cases hc'
    | some cs =>
      simp only [Option.map_some, Option.some.injEq] at hc'
      obtain ⟨hb, hstart⟩ := hcs cs rfl
      refine ⟨by rw [← hc', hb], cs.span, h4 cs rfl, ?_, by rw [← hb]; rfl⟩
      show cs.start = _
      rw [hstart, hst]
  · intro hd
    subst h3
    cases c with
    | none => exact hnone rfl
    | some cs => cases hd

theorem parseString_comment_delims {m : Mode} {env : Env} {s : Str} {p : Parsed} (h : parseString m env s = .ok p)
    {q : Path} {v : Str} {ks : List Tree} (hat : p.tree.at? q = some (.node (.comment v) ks)) :
    ∃ w, SlicesBetween s p.spans.get ⟨q, .comment⟩ Lex.litCommentOpen w Lex.litCommentClose ∧
      v = normalizeLineEnds w := by
  exact nodeFacts_comment_delims (lexMode_facts m s) (lexMode_facts2 m s) (parseString_nodeFacts h hat)

theorem parseString_pi_delims {m : Mode} {env : Env} {s : Str} {p : Parsed} (h : parseString m env s = .ok p)
    {q : Path} {id : Nat} {d : Option Str} {ks : List Tree} (hat : p.tree.at? q = some (.node (.pi id d) ks)) :
    PiDelims s p.spans.get q d := by
  exact nodeFacts_pi_delims (lexMode_facts m s) (lexMode_facts2 m s) (parseString_nodeFacts h hat)

/-! ### The start mode of the run decoder, read off the source -/

/-- `src[..pos].ends_with("<![CDATA[")` (the harness oracle's test). -/
def cdataOpenBefore (s : Str) (pos : Nat) : Bool :=
  decide (9 ≤ pos) && (sliceBytes s (pos - 9) pos == some Lex.litCdataOpen)

theorem cdataOpenBefore_of_open {a b : Str} : cdataOpenBefore (a ++ Lex.litCdataOpen ++ b) (strLen a + 9) = true := by
  have := sliceBytes_mid a Lex.litCdataOpen b
  have e : strLen Lex.litCdataOpen = 9 := by decide
  rw [e] at this
  simp only [cdataOpenBefore, Bool.and_eq_true, decide_eq_true_eq, beq_iff_eq]
  refine ⟨by omega, ?_⟩
  have e2 : strLen a + 9 - 9 = strLen a := by omega
  rw [e2]
  exact this

/-- Directly behind a `>` there is no `<![CDATA[`. -/
theorem cdataOpenBefore_of_gt {x y : Str} : cdataOpenBefore (x ++ ['>'] ++ y) (strLen (x ++ ['>'])) = false := by
  cases hc : cdataOpenBefore (x ++ ['>'] ++ y) (strLen (x ++ ['>'])) with
  | false => rfl
  | true =>
    exfalso
    simp only [cdataOpenBefore, Bool.and_eq_true, decide_eq_true_eq, beq_iff_eq] at hc
    obtain ⟨h9, hs⟩ := hc
    obtain ⟨a, b, hsrc, hi, hj⟩ := sliceBytes_split hs
    have e : strLen Lex.litCdataOpen = 9 := by decide
    have hlen : strLen (a ++ Lex.litCdataOpen) = strLen (x ++ ['>']) := by
      rw [Lex.strLen_app, e]; omega
    have heq := prefix_eq_of_strLen (a ++ Lex.litCdataOpen) (x ++ ['>']) b y (by rw [← hsrc]) hlen
    have h1 : (a ++ Lex.litCdataOpen).getLast? = some '[' := by
      simp [Lex.litCdataOpen, List.getLast?_append]
    have h2 : (x ++ ['>']).getLast? = some '>' := by simp
    rw [heq, h2] at h1
    cases h1

theorem cdataOpenBefore_zero (s : Str) : cdataOpenBefore s 0 = false := by
  simp [cdataOpenBefore]

theorem textFacts_mode {s : Str} {ts : List Token} {g : SpanKey → Option Span} {q : Path} {v : Str}
    (hl : LexFacts s ts) (hl2 : LexFacts2 s ts) (h : TextFacts ts g q v) :
    ∃ run sp, run <:+: ts ∧ run ≠ [] ∧ (∀ t ∈ run, t.isCharData = true) ∧ g ⟨q, .text⟩ = some sp ∧
      sliceBytes s sp.start sp.stop = some (runSlice run) ∧ runValue run = some v ∧
      startsInCdata run = cdataOpenBefore s sp.start ∧
      decodeRun (cdataOpenBefore s sp.start) (runSlice run) = some v := by
  obtain ⟨run, sp, hin, hne, hall, hadj, hok, hv, hg, hsl⟩ := TextFacts.slice hl h
  suffices hmode : startsInCdata run = cdataOpenBefore s sp.start by
    refine ⟨run, sp, hin, hne, fun t ht => (hall t ht).1, hg, hsl, hv, hmode, ?_⟩
    rw [← hmode, decodeRun_runSlice ⟨hall, hadj⟩, hv]
  obtain ⟨t0, r0, f, hrun, hreal, hf, hstart⟩ := hok.first
  have hmem0 : t0 ∈ ts := hin.subset (by rw [hrun]; simp)
  cases t0 with
  | cdata c w =>
    simp only [Token.textSpan?, Option.some.injEq] at hf
    subst hf
    obtain ⟨htext, hcstart, _⟩ : (Token.cdata c w).Spelled s := hl.spelled _ hmem0
    obtain ⟨a, b, hsrc, hst⟩ := (hl.slices _ hmem0).2
    rw [hrun, hstart, hcstart, hst]
    simp only [startsInCdata]
    rw [hsrc, htext]
    have := @cdataOpenBefore_of_open a (c.text ++ Lex.litCdataClose ++ b)
    simp only [List.append_assoc] at this ⊢
    exact this.symm
  | text t =>
    simp only [Token.textSpan?, Option.some.injEq] at hf
    subst hf
    rw [hrun, hstart]
    simp only [startsInCdata]
    obtain ⟨pre, post, hts⟩ := hin
    rw [hrun] at hts
    rcases List.eq_nil_or_concat pre with rfl | ⟨pre', a, rfl⟩
    · have := hl2.textFirst (.text t) (r0 ++ post) (by rw [← hts]; simp) rfl
      simp only [Token.wholeSpan] at this
      rw [this, cdataOpenBefore_zero]
    · -- the token in front of the run ends in `>`
      have hinf : [a, Token.text t] <:+: ts := ⟨pre', r0 ++ post, by rw [← hts]; simp⟩
      have hadj2 := (hl2.textAdj.infix hinf).1 rfl
      obtain ⟨hstop, pre2, hgt⟩ := hadj2
      have hma : a ∈ ts := hinf.subset (by simp)
      obtain ⟨x, y, hsrc, hst⟩ := Token.wholeSpan_all a (hl.slices a hma)
      have hstop' : a.wholeSpan.stop = t.start := hstop
      rw [← hstop', StrSpan.stop, hst, hsrc, hgt]
      have := @cdataOpenBefore_of_gt (x ++ pre2) y
      simp only [List.append_assoc, Lex.strLen_app] at this ⊢
      exact this.symm
  | _ => simp [Token.isReal] at hreal

theorem parseString_text_mode {m : Mode} {env : Env} {s : Str} {p : Parsed} (h : parseString m env s = .ok p)
    {q : Path} {v : Str} {ks : List Tree} (hat : p.tree.at? q = some (.node (.text v) ks)) :
    ∃ run sp, run <:+: (lexMode m s).1 ∧ run ≠ [] ∧ (∀ t ∈ run, t.isCharData = true) ∧
      p.spans.get ⟨q, .text⟩ = some sp ∧ sliceBytes s sp.start sp.stop = some (runSlice run) ∧
      runValue run = some v ∧ startsInCdata run = cdataOpenBefore s sp.start ∧
      decodeRun (cdataOpenBefore s sp.start) (runSlice run) = some v := by
  exact textFacts_mode (lexMode_facts m s) (lexMode_facts2 m s) (parseString_nodeFacts h hat)

end XotModel
