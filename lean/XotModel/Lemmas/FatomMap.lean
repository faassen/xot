/-
  C06 lemmas: the attribute / namespace maps (`insert`, `insert_node`, `remove`, `clear`,
  `append_attribute_node`, `append_namespace_node`, `any_append`) and the setters.
-/
import XotModel.Lemmas.BasicFacts
import XotModel.Lemmas.FatomWrap

namespace XotModel
open HTree

namespace Forest

theorem Fatom.matches_namespaces (v : Value) :
    MapKind.namespaces.matches v = (v.category == .namespace) := by cases v <;> rfl

theorem Fatom.matches_attributes (v : Value) :
    MapKind.attributes.matches v = (v.category == .attribute) := by cases v <;> rfl

theorem mapChildren_matches (k : MapKind) (t : HTree) : ∀ c ∈ mapChildren k t,
    k.matches c.value = true := by
  intro c hc
  unfold mapChildren at hc
  cases k with
  | namespaces => have := mem_takeWhile_imp _ _ _ hc; rwa [Fatom.matches_namespaces]
  | attributes => have := mem_takeWhile_imp _ _ _ hc; rwa [Fatom.matches_attributes]

theorem matches_leaf {k : MapKind} {v : Value} (h : k.matches v = true) :
    v.isElement = false ∧ v.isDocument = false := by
  cases k <;> cases v <;> simp_all [MapKind.matches, Value.isElement, Value.isDocument]

theorem mapInsertionPoint_spec {f : Forest} (w : f.W) {k : MapKind} {parent ip : Nat}
    (e : f.mapInsertionPoint k parent = some ip) :
    f.parent? ip = some parent ∧ ∃ t c, f.get? parent = some t ∧ c ∈ t.kids ∧ c.handle = ip ∧
      (c ∈ mapChildren k t ∨ (k = .attributes ∧ c.value.category = .namespace)) := by
  unfold mapInsertionPoint at e
  cases hg : f.get? parent with
  | none => rw [hg] at e; cases e
  | some t =>
    rw [hg] at e
    simp only at e
    cases hl : (mapChildren k t).getLast? with
    | some l =>
      rw [hl] at e
      simp only [Option.some.injEq] at e
      have hm := List.mem_of_getLast? hl
      have hk := mapChildren_sub k t l hm
      exact ⟨e ▸ (kid_spec w hg hk).2, t, l, rfl, hk, e, Or.inl hm⟩
    | none =>
      rw [hl] at e
      simp only at e
      cases k with
      | namespaces => cases e
      | attributes =>
        simp only at e
        cases hl2 : (t.kids.takeWhile (fun c => c.value.category == .namespace)).getLast? with
        | none => rw [hl2] at e; cases e
        | some l =>
          rw [hl2] at e
          simp only [Option.map_some, Option.some.injEq] at e
          have hm := List.mem_of_getLast? hl2
          have hk : l ∈ t.kids := (List.takeWhile_sublist _).subset hm
          have hp := mem_takeWhile_imp _ _ _ hm
          exact ⟨e ▸ (kid_spec w hg hk).2, t, l, rfl, hk, e, Or.inr ⟨rfl, by simpa using hp⟩⟩

theorem mapGetNode_spec {f : Forest} (w : f.W) {k : MapKind} {parent key : Nat} {n : HTree}
    (e : f.mapGetNode k parent key = some n) :
    f.get? n.handle = some n ∧ k.matches n.value = true ∧ n.kids = [] := by
  unfold mapGetNode at e
  cases hg : f.get? parent with
  | none => rw [hg] at e; cases e
  | some t =>
    rw [hg] at e
    simp only at e
    have hm := List.mem_of_find?_eq_some e
    have hk := mapChildren_sub k t n hm
    have hmatch := mapChildren_matches k t n hm
    have hgn := (kid_spec w hg hk).1
    refine ⟨hgn, hmatch, ?_⟩
    obtain ⟨h1, h2⟩ := matches_leaf hmatch
    exact leafOk_kids_nil (findList?_leafOk _ f.roots n w.leaves hgn) h1 h2

/-- Placing an entry node at the insertion point of the map never panics when the node is not
    the insertion point itself and not an ancestor of the element. -/
theorem mapPlace_ok {f : Forest} (w : f.W) {k : MapKind} {parent node : Nat}
    (hel : f.isElement parent = true) (hl : f.isLive node = true) (hne : parent ≠ node)
    (hanc : node ∉ f.ancestors parent)
    (hip : ∀ ip, f.mapInsertionPoint k parent = some ip → ip ≠ node) :
    OkRes f (f.mapPlace k parent node) := by
  have hlp : f.isLive parent = true := Fatom.isLive_of_isElement hel
  unfold mapPlace
  cases hmi : f.mapInsertionPoint k parent with
  | none =>
    have := (checkedUnder_ok w hne hanc hl hlp (Or.inl hel)).2
    simp only [this.ok, if_true]
    obtain ⟨tc, hg⟩ := get?_of_isLive hl
    exact ⟨rfl, this.w, (this.frame tc hg).corrupt⟩
  | some ip =>
    have hpar := (mapInsertionPoint_spec w hmi).1
    have hne' : ip ≠ node := hip ip hmi
    have hanc' : node ∉ f.ancestors ip := by
      rw [ancestors_step w hpar]
      intro h'
      rcases List.mem_cons.1 h' with e | e
      · exact hne' e.symm
      · exact hanc e
    have := (checkedBeside_ok w hne' hanc' (isRoot_false_of_parent w hpar) hl
      (parent?_live hpar).1).1
    simp only [this.ok, if_true]
    obtain ⟨tc, hg⟩ := get?_of_isLive hl
    exact ⟨rfl, this.w, (this.frame tc hg).corrupt⟩

theorem okRes_setLeaf {f : Forest} (w : f.W) {h : Nat} {t : HTree} (hg : f.get? h = some t)
    (hk : t.kids = []) (v : Value) : OkRes f (f.setValue h v, .ok) :=
  ⟨rfl, setValue_W w h v (fun t' e => by rw [hg] at e; injection e with e; subst e; exact Or.inl hk),
    rfl⟩

/-- Text nodes are leaves, so their text may be replaced. -/
theorem okRes_setText {f : Forest} (w : f.W) {x : Nat} (ht : f.isText x = true) (s : Str) :
    OkRes f (f.setValue x (.text s), .ok) := by
  rw [← textOf_isSome, Option.isSome_iff_exists] at ht
  obtain ⟨s0, hs⟩ := ht
  obtain ⟨t, hg, hk, _⟩ := text_leaf w hs
  exact okRes_setLeaf w hg hk _

/-- `MutableNodeMap::insert`: the documented panic on a non-element, otherwise carried out. -/
theorem mapInsert_outcome {f : Forest} (w : f.W) (k : MapKind) (parent : Nat) (entry : Value) :
    (f.isElement parent = false ∧ f.mapInsert k parent entry = (f, .panic)) ∨
    (f.isElement parent = true ∧ OkRes f (f.mapInsert k parent entry)) := by
  unfold mapInsert
  cases hel : f.isElement parent with
  | false => left; simp
  | true =>
    right
    refine ⟨rfl, ?_⟩
    simp only [Bool.not_true, Bool.false_eq_true, if_false]
    cases hgn : f.mapGetNode k parent (entryKey entry) with
    | some n =>
      obtain ⟨h1, _, h3⟩ := mapGetNode_spec w hgn
      exact okRes_setLeaf w h1 h3 _
    | none =>
      simp only
      have hlp : f.isLive parent = true := Fatom.isLive_of_isElement hel
      obtain ⟨hwr, w1, fr1, hg1, hr1, hdead⟩ := newNode_spec w entry
      have kp := newNode_kept w entry hlp
      rcases hnew : f.newNode entry with ⟨f1, h⟩
      rw [hnew] at hwr w1 fr1 hg1 hr1 kp
      simp only at hwr w1 fr1 hg1 hr1 kp
      subst hwr
      have hne : parent ≠ f.next := fun e => by rw [e, hdead] at hlp; cases hlp
      have hanc : f.next ∉ f1.ancestors parent := by
        rw [kp.anc]; intro h'; rw [ancestors_live w h'] at hdead; cases hdead
      have hip : ∀ ip, f1.mapInsertionPoint k parent = some ip → ip ≠ f.next := by
        intro ip e he
        have := (mapInsertionPoint_spec w1 e).1
        rw [he, isRoot_noParent w1 hr1] at this
        cases this
      have m := mapPlace_ok w1 (by rw [kp.isElement]; exact hel) (isRoot_live hr1) hne hanc hip
      exact ⟨m.ok, m.w, by rw [m.corrupt, fr1.corrupt]⟩

theorem mapRemove_outcome {f : Forest} (w : f.W) (k : MapKind) (parent key : Nat) :
    (f.isElement parent = false ∧ f.mapRemove k parent key = (f, .panic)) ∨
    (f.isElement parent = true ∧ OkRes f (f.mapRemove k parent key)) := by
  unfold mapRemove
  cases hel : f.isElement parent with
  | false => left; simp
  | true =>
    right
    refine ⟨rfl, ?_⟩
    simp only [Bool.not_true, Bool.false_eq_true, if_false]
    cases f.mapGetNode k parent key with
    | some n => exact remove_ok w n.handle
    | none => exact ⟨rfl, w, rfl⟩

theorem foldRemove_ok {α : Type} (key : α → Nat) : ∀ (L : List α) (f g : Forest), g.W →
    g.corrupt = f.corrupt →
    (L.foldl (fun acc c => (acc.remove (key c)).1) g).W ∧
    (L.foldl (fun acc c => (acc.remove (key c)).1) g).corrupt = f.corrupt
  | [], _, _, w, hc => ⟨w, hc⟩
  | c :: L, f, g, w, hc => by
    simp only [List.foldl_cons]
    have m := remove_ok w (key c)
    exact foldRemove_ok key L f _ m.w (by rw [m.corrupt, hc])

theorem mapClear_outcome {f : Forest} (w : f.W) (k : MapKind) (parent : Nat) :
    (f.isElement parent = false ∧ f.mapClear k parent = (f, .panic)) ∨
    (f.isElement parent = true ∧ OkRes f (f.mapClear k parent)) := by
  unfold mapClear
  cases hel : f.isElement parent with
  | false => left; simp
  | true =>
    right
    refine ⟨rfl, ?_⟩
    simp only [Bool.not_true, Bool.false_eq_true, if_false]
    cases f.get? parent with
    | none => exact ⟨rfl, w, rfl⟩
    | some t =>
      obtain ⟨h1, h2⟩ := foldRemove_ok HTree.handle (mapChildren k t) f f w rfl
      exact ⟨rfl, h1, h2⟩

theorem leaf_of_value {f : Forest} (w : f.W) {x : Nat} {v : Value} (hv : f.value? x = some v)
    (h1 : v.isElement = false) (h2 : v.isDocument = false) :
    ∃ t, f.get? x = some t ∧ t.kids = [] := by
  have hl : f.isLive x = true := by rw [isLive_iff_value?, hv]; rfl
  obtain ⟨t, hg⟩ := get?_of_isLive hl
  have htv : t.value = v := by unfold value? at hv; rw [hg] at hv; simpa using hv
  exact ⟨t, hg, leafOk_kids_nil (findList?_leafOk _ f.roots t w.leaves hg) (htv ▸ h1) (htv ▸ h2)⟩

/-- `insert_node` with an entry node of the right kind. -/
theorem mapInsertNode_ok {f : Forest} (w : f.W) {k : MapKind} {parent node : Nat} {v : Value}
    (hel : f.isElement parent = true) (hv : f.value? node = some v) (hm : k.matches v = true) :
    OkRes f ((f.mapInsertNode k parent node).1, (f.mapInsertNode k parent node).2.1) := by
  have hl : f.isLive node = true := by rw [isLive_iff_value?, hv]; rfl
  obtain ⟨l1, l2⟩ := matches_leaf hm
  obtain ⟨tn, hgn, hleaf⟩ := leaf_of_value w hv l1 l2
  have htv : tn.value = v := by
    unfold value? at hv; rw [hgn] at hv; simpa using hv
  unfold mapInsertNode
  simp only [hv, hm, Bool.not_true, Bool.false_eq_true, if_false]
  cases hgk : f.mapGetNode k parent (entryKey v) with
  | some e =>
    obtain ⟨h1, _, h3⟩ := mapGetNode_spec w hgk
    exact okRes_setLeaf w h1 h3 _
  | none =>
    simp only
    have hne : parent ≠ node := by
      intro e
      rw [e] at hel
      unfold isElement at hel
      rw [hv] at hel
      simp [l1] at hel
    have hanc : node ∉ f.ancestors parent := leaf_not_ancestor w hgn hleaf hne.symm
    have hip : ∀ ip, f.mapInsertionPoint k parent = some ip → ip ≠ node := by
      intro ip e he
      obtain ⟨_, t, c, hgt, hck, hch, hcase⟩ := mapInsertionPoint_spec w e
      have hcn : c = tn := by
        have := (kid_spec w hgt hck).1
        rw [hch, he, hgn] at this
        injection this with this; exact this.symm
      rw [hcn, htv] at hcase
      rcases hcase with hin | ⟨hk, hcat⟩
      · -- an entry with the key of `v` is in the map, but the lookup found none
        unfold mapGetNode at hgk
        rw [hgt] at hgk
        have := List.find?_eq_none.1 hgk tn hin
        rw [htv] at this
        exact this (beq_self_eq_true _)
      · rw [hk, Fatom.matches_attributes, hcat] at hm
        cases hm
    exact mapPlace_ok w hel hl hne hanc hip

/-- `append_attribute_node` / `append_namespace_node` on a live node: refused with nothing changed
    exactly when `entryRefused`, otherwise carried out. -/
theorem appendEntryNode_run {f : Forest} (w : f.W) (k : MapKind) (parent child : Nat)
    (hl : f.isLive child = true) :
    if f.entryRefused k parent child then
      (f.appendEntryNode k parent child).1 = f ∧
        (f.appendEntryNode k parent child).2.1 = .err .invalidOperation
    else OkRes f ((f.appendEntryNode k parent child).1, (f.appendEntryNode k parent child).2.1) := by
  unfold entryRefused appendEntryNode
  cases hel : f.isElement parent with
  | false => simp
  | true =>
    cases hv : f.value? child with
    | none => rw [isLive_iff_value?, hv] at hl; cases hl
    | some v =>
      simp only [Bool.not_true, Bool.false_or, Bool.false_eq_true, if_false]
      cases hm : k.matches v with
      | false => simp
      | true =>
        simp only [Bool.not_true, Bool.false_eq_true, if_false]
        exact mapInsertNode_ok w hel hv hm

theorem appendEntryNode_outcome {f : Forest} (w : f.W) (k : MapKind) (parent child : Nat)
    (hl : f.isLive child = true) :
    ((f.appendEntryNode k parent child).1 = f ∧
      (f.appendEntryNode k parent child).2.1 = .err .invalidOperation) ∨
    OkRes f ((f.appendEntryNode k parent child).1, (f.appendEntryNode k parent child).2.1) := by
  have h := appendEntryNode_run w k parent child hl
  split at h
  · exact .inl h
  · exact .inr h

/-- An entry node of the view's kind: carried out on an element, refused otherwise. -/
theorem appendEntryNode_run_matches {f : Forest} (w : f.W) {k : MapKind} {parent child : Nat} {v : Value}
    (hl : f.isLive child = true) (hv : f.value? child = some v) (hm : k.matches v = true) :
    match (if f.isElement parent then none else some XotError.invalidOperation) with
    | some e => (f.appendEntryNode k parent child).1 = f ∧ (f.appendEntryNode k parent child).2.1 = .err e
    | none => OkRes f ((f.appendEntryNode k parent child).1, (f.appendEntryNode k parent child).2.1) := by
  have h := appendEntryNode_run w k parent child hl
  unfold entryRefused at h
  rw [hv] at h
  simp only [hm, Bool.not_true, Bool.or_false] at h
  cases hel : f.isElement parent with
  | false => rw [hel] at h; exact h
  | true => rw [hel] at h; exact h

/-- `any_append` of a live node: an entry node goes the way of `append_attribute_node` /
    `append_namespace_node`, any other node that of `append`. -/
theorem anyAppend_run {f : Forest} (w : f.W) (parent child : Nat) (hl : f.isLive child = true) :
    match (Call.anyAppend parent child).refusal f with
    | some e => (f.anyAppend parent child).1 = f ∧ (f.anyAppend parent child).2.1 = .err e
    | none => OkRes f ((f.anyAppend parent child).1, (f.anyAppend parent child).2.1) := by
  have happ : match (if f.structureCheck (some parent) child then none else some XotError.invalidOperation) with
      | some e => (f.append parent child).1 = f ∧ (f.append parent child).2 = .err e
      | none => OkRes f ((f.append parent child).1, (f.append parent child).2) := by
    have h := append_run w parent child
    cases hs : f.structureCheck (some parent) child with
    | true => rw [hs] at h; exact (⟨h.ok, h.w, h.corrupt⟩ : OkRes f _)
    | false => rw [hs] at h; rw [h]; exact (⟨rfl, rfl⟩ : _ ∧ _)
  unfold anyAppend
  simp only [Call.refusal]
  cases hv : f.value? child with
  | none => exact happ
  | some v =>
    cases v with
    | «namespace» _ _ => exact appendEntryNode_run_matches w hl hv rfl
    | «attribute» _ _ => exact appendEntryNode_run_matches w hl hv rfl
    | _ => exact happ

/-! ### Setters -/

theorem setElementName_outcome {f : Forest} (w : f.W) (node name : Nat) :
    (f.isElement node = false ∧ f.setElementName node name = (f, .panic)) ∨
    (f.isElement node = true ∧ OkRes f (f.setElementName node name)) := by
  unfold setElementName
  cases hel : f.isElement node with
  | false => left; simp
  | true =>
    right
    refine ⟨rfl, ?_⟩
    simp only [if_true]
    exact ⟨rfl, setValue_W w node _ (fun _ _ => Or.inr (Or.inl rfl)), rfl⟩

/-- `text_mut(node).set(s)`: carried out on a text node, refused otherwise. -/
theorem setText_run {f : Forest} (w : f.W) (node : Nat) (s : Str) :
    if f.isText node then OkRes f (f.setText node s)
    else f.setText node s = (f, .err .invalidOperation) := by
  unfold setText
  cases ht : f.isText node with
  | false => rfl
  | true => exact okRes_setText w ht s

theorem setText_outcome {f : Forest} (w : f.W) (node : Nat) (s : Str) :
    f.setText node s = (f, .err .invalidOperation) ∨ OkRes f (f.setText node s) := by
  have h := setText_run w node s
  split at h
  · exact .inr h
  · exact .inl h

/-- `comment_mut(node).set(s)`: refused on a node that is not a comment, and for a text with `--`;
    otherwise carried out. -/
theorem setComment_run {f : Forest} (w : f.W) (node : Nat) (s : Str) :
    match (Call.setComment node s).refusal f with
    | some e => f.setComment node s = (f, .err e)
    | none => OkRes f (f.setComment node s) := by
  unfold setComment
  simp only [Call.refusal]
  cases hv : f.value? node with
  | none => rfl
  | some v =>
    cases v with
    | comment c =>
      simp only
      cases hasDoubleDash s with
      | true => rfl
      | false =>
        obtain ⟨t, hg, hk⟩ := leaf_of_value w hv rfl rfl
        exact okRes_setLeaf w hg hk _
    | _ => rfl

/-- `processing_instruction_mut(node).set_data(d)`: carried out on a processing instruction, refused
    otherwise. -/
theorem setPiData_run {f : Forest} (w : f.W) (node : Nat) (d : Option Str) :
    match (Call.setPiData node d).refusal f with
    | some e => f.setPiData node d = (f, .err e)
    | none => OkRes f (f.setPiData node d) := by
  unfold setPiData
  simp only [Call.refusal]
  cases hv : f.value? node with
  | none => rfl
  | some v =>
    cases v with
    | pi tg dt =>
      obtain ⟨t, hg, hk⟩ := leaf_of_value w hv rfl rfl
      exact okRes_setLeaf w hg hk _
    | _ => rfl

end Forest
end XotModel
