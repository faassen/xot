/-
  The escaped strings inside the tokens of `serNode` as spellings-as-data (`Piece`,
  Lemmas/ParseContent.lean): one piece per character of the value — a literal, a predefined
  entity or an upper-case hexadecimal reference, exactly as `serialize_attribute` /
  `serialize_text` write it — well spelled, rendering to the serialised string and denoting the
  value.  (Bridge from `serNode` to the spelled documents of the builder theorems.)
-/
import XotModel.Model.SerTokens
import XotModel.Lemmas.ParseContent

namespace XotModel
open Gen

/-- The piece `serialize_attribute` writes for one character. -/
def attrPiece (c : Char) : Piece :=
  if c = '&' then .named ['a', 'm', 'p']
  else if c = '<' then .named ['l', 't']
  else if c = '\'' then .named ['a', 'p', 'o', 's']
  else if c = '"' then .named ['q', 'u', 'o', 't']
  else if c = '\t' then .hex [(9, true)]
  else if c = '\n' then .hex [(10, true)]
  else if c = '\r' then .hex [(13, true)]
  else .lit c

/-- The piece `serialize_text` (`unescaped_gt = false`) writes for one character. -/
def textPiece (c : Char) : Piece :=
  if c = '>' then .named ['g', 't']
  else if c = '&' then .named ['a', 'm', 'p']
  else if c = '<' then .named ['l', 't']
  else if c = '\r' then .hex [(13, true)]
  else .lit c

def attrPieces (v : Str) : List Piece := v.map attrPiece
def textPieces (v : Str) : List Piece := v.map textPiece

namespace Ser

/-- Every character but the seven `serialize_attribute` escapes is written as it is. -/
theorem attrPiece_lit {c : Char} (h : c ∉ ['&', '<', '\'', '"', '\t', '\n', '\r']) : attrPiece c = .lit c := by
  simp only [List.mem_cons, List.not_mem_nil, or_false, not_or] at h
  obtain ⟨h1, h2, h3, h4, h5, h6, h7⟩ := h
  simp only [attrPiece, h1, h2, h3, h4, h5, h6, h7, if_false]

theorem textPiece_lit {c : Char} (h : c ∉ ['>', '&', '<', '\r']) : textPiece c = .lit c := by
  simp only [List.mem_cons, List.not_mem_nil, or_false, not_or] at h
  obtain ⟨h1, h2, h3, h4⟩ := h
  simp only [textPiece, h1, h2, h3, h4, if_false]

end Ser

theorem renderPiece_attrPiece (c : Char) : renderPiece (attrPiece c) = escapeWith attrEscapes c := by
  unfold attrPiece
  by_cases h1 : c = '&'; · subst h1; decide
  by_cases h2 : c = '<'; · subst h2; decide
  by_cases h3 : c = '\''; · subst h3; decide
  by_cases h4 : c = '"'; · subst h4; decide
  by_cases h5 : c = '\t'; · subst h5; decide
  by_cases h6 : c = '\n'; · subst h6; decide
  by_cases h7 : c = '\r'; · subst h7; decide
  have e1 : (c == '&') = false := by simpa using h1
  have e2 : (c == '<') = false := by simpa using h2
  have e3 : (c == '\'') = false := by simpa using h3
  have e4 : (c == '"') = false := by simpa using h4
  have e5 : (c == '\t') = false := by simpa using h5
  have e6 : (c == '\n') = false := by simpa using h6
  have e7 : (c == '\r') = false := by simpa using h7
  simp [h1, h2, h3, h4, h5, h6, h7, e1, e2, e3, e4, e5, e6, e7, renderPiece, escapeWith, attrEscapes,
    List.lookup]

theorem renderPiece_textPiece (c : Char) :
    renderPiece (textPiece c) = (if c = '>' then textGtEscape else escapeWith textEscapes c) := by
  unfold textPiece
  by_cases h1 : c = '>'; · subst h1; decide
  by_cases h2 : c = '&'; · subst h2; decide
  by_cases h3 : c = '<'; · subst h3; decide
  by_cases h4 : c = '\r'; · subst h4; decide
  have e2 : (c == '&') = false := by simpa using h2
  have e3 : (c == '<') = false := by simpa using h3
  have e4 : (c == '\r') = false := by simpa using h4
  simp [h1, h2, h3, h4, e2, e3, e4, renderPiece, escapeWith, textEscapes, List.lookup]

/-- The pieces render to what `serialize_attribute` writes. -/
theorem renderPieces_attrPieces (v : Str) : renderPieces (attrPieces v) = serializeAttribute v := by
  simp only [renderPieces, attrPieces, serializeAttribute, List.flatMap_map]
  congr 1
  funext c
  exact renderPiece_attrPiece c

/-- The pieces render to what `serialize_text` writes. -/
theorem renderPieces_textPieces (v : Str) : renderPieces (textPieces v) = serializeText false v := by
  simp only [renderPieces, textPieces, serializeText, serializeTextEsc, Bool.false_eq_true, if_false,
    List.flatMap_map]
  congr 1
  funext c
  exact renderPiece_textPiece c

theorem pieceValue_attrPiece (c : Char) : pieceValue true (attrPiece c) = some c := by
  unfold attrPiece
  by_cases h1 : c = '&'; · subst h1; decide
  by_cases h2 : c = '<'; · subst h2; decide
  by_cases h3 : c = '\''; · subst h3; decide
  by_cases h4 : c = '"'; · subst h4; decide
  by_cases h5 : c = '\t'; · subst h5; decide
  by_cases h6 : c = '\n'; · subst h6; decide
  by_cases h7 : c = '\r'; · subst h7; decide
  simp [h1, h2, h3, h4, h5, h6, h7, pieceValue]

theorem pieceValue_textPiece (c : Char) : pieceValue false (textPiece c) = some c := by
  unfold textPiece
  by_cases h1 : c = '>'; · subst h1; decide
  by_cases h2 : c = '&'; · subst h2; decide
  by_cases h3 : c = '<'; · subst h3; decide
  by_cases h4 : c = '\r'; · subst h4; decide
  simp [h1, h2, h3, h4, pieceValue]

theorem valueOf_attrPieces (v : Str) : valueOf true (attrPieces v) = v := by
  induction v with
  | nil => rfl
  | cons c cs ih =>
    simp only [valueOf, attrPieces, List.map_cons, List.filterMap_cons, pieceValue_attrPiece] at ih ⊢
    rw [ih]

theorem valueOf_textPieces (v : Str) : valueOf false (textPieces v) = v := by
  induction v with
  | nil => rfl
  | cons c cs ih =>
    simp only [valueOf, textPieces, List.map_cons, List.filterMap_cons, pieceValue_textPiece] at ih ⊢
    rw [ih]

theorem named_ok (n : Str) (h1 : (n.contains ';') = false) (h2 : n.head? ≠ some '#')
    (h3 : (namedEntity n).isSome = true) : (Piece.named n).ok := by
  refine ⟨by simpa using h1, ?_, h3⟩
  rintro r rfl
  exact h2 rfl

theorem hex_ok (d : Nat) (hd : d < 16) (h : (xmlCharOfNat? d).isSome = true) : (Piece.hex [(d, true)]).ok := by
  refine ⟨by simp, by simpa using hd, ?_⟩
  simpa [evalDigits] using h

theorem attrPiece_ok (c : Char) : (attrPiece c).ok ∧ attrPiece c ≠ .cr := by
  by_cases h : c ∈ ['&', '<', '\'', '"', '\t', '\n', '\r']
  · simp only [List.mem_cons, List.not_mem_nil, or_false] at h
    rcases h with rfl | rfl | rfl | rfl | rfl | rfl | rfl
    · exact ⟨named_ok ['a', 'm', 'p'] (by decide) (by decide) (by decide), by decide⟩
    · exact ⟨named_ok ['l', 't'] (by decide) (by decide) (by decide), by decide⟩
    · exact ⟨named_ok ['a', 'p', 'o', 's'] (by decide) (by decide) (by decide), by decide⟩
    · exact ⟨named_ok ['q', 'u', 'o', 't'] (by decide) (by decide) (by decide), by decide⟩
    · exact ⟨hex_ok 9 (by decide) (by decide), by decide⟩
    · exact ⟨hex_ok 10 (by decide) (by decide), by decide⟩
    · exact ⟨hex_ok 13 (by decide) (by decide), by decide⟩
  · rw [Ser.attrPiece_lit h]
    simp only [List.mem_cons, List.not_mem_nil, or_false, not_or] at h
    simp [Piece.ok, h.1, h.2.2.2.2.2.2]

theorem textPiece_ok (c : Char) : (textPiece c).ok ∧ textPiece c ≠ .cr := by
  by_cases h : c ∈ ['>', '&', '<', '\r']
  · simp only [List.mem_cons, List.not_mem_nil, or_false] at h
    rcases h with rfl | rfl | rfl | rfl
    · exact ⟨named_ok ['g', 't'] (by decide) (by decide) (by decide), by decide⟩
    · exact ⟨named_ok ['a', 'm', 'p'] (by decide) (by decide) (by decide), by decide⟩
    · exact ⟨named_ok ['l', 't'] (by decide) (by decide) (by decide), by decide⟩
    · exact ⟨hex_ok 13 (by decide) (by decide), by decide⟩
  · rw [Ser.textPiece_lit h]
    simp only [List.mem_cons, List.not_mem_nil, or_false, not_or] at h
    simp [Piece.ok, h.2.1, h.2.2.2]

theorem wellSpelled_attrPieces (v : Str) : WellSpelled (attrPieces v) := by
  induction v with
  | nil => trivial
  | cons c cs ih => exact wellSpelled_cons (attrPiece_ok c).2 (attrPiece_ok c).1 ih

theorem wellSpelled_textPieces (v : Str) : WellSpelled (textPieces v) := by
  induction v with
  | nil => trivial
  | cons c cs ih => exact wellSpelled_cons (textPiece_ok c).2 (textPiece_ok c).1 ih

end XotModel
