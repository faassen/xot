/-
  The glue of the tree-level round trip (C01_main): the SPELLING of
  a tree, i.e. the `NSNode`s (Lemmas/ParseNsDefs.lean, the vocabulary of the builder theorems
  C02_spelled_ns) whose tokens are the tokens the serialiser writes (`serNode`, Model/SerTokens.lean).

  * `spellNode` / `spellKids` mirror `serNode` / `serKids`: the same threading of the
    `FullnameSerializer` stack, the same prefix choices, `<a/>` vs `<a></a>` as the serialiser
    decides, the end tag spelled exactly like the start tag, values spelled one `Piece` per
    character (`attrPieces`, `textPieces`: Lemmas/SerTokensPieces.lean), one character run per text
    node, every position 0, every whole-token span `noSpan`.
    They are total: where the serialiser fails (no usable prefix) the name is spelled unprefixed.
    A node yields a LIST of spelled nodes, so that `tokens (spell t) = serTokensTop t` holds for every
    tree, sound or not (an attribute node contributes what lies below it, an "empty" element may
    be followed by what its abnormal children contain).
  * `LexCanon` : the tokenizer contract the round trip assumes (the reference tokenizer `lexDocument` /
    `lexFragment` meets it: Lemmas/LexCanon.lean).
-/
import XotModel.Lemmas.ParseNs
import XotModel.Lemmas.ParseNsCheck
import XotModel.Lemmas.ParseErase
import XotModel.Lemmas.SerTokensLex
import XotModel.Lemmas.SerTokensDecode
import XotModel.Lemmas.SerTokensPieces
import XotModel.Lemmas.FStack

namespace XotModel

/-- The tokenizer contract: on the canonical rendering of a token list that meets the lexical side
    conditions `LexOK` (Model/LexOK.lean) the tokenizer returns, without error, that token list up to
    byte positions and whole-token spans; an absent prefix is reported as an empty span at offset 0
    (xmlparser's `"".into()`; as of /repo a5fafb0 xot tells it by that offset from the empty prefix
    of the spelling `:local`, which it refuses). -/
def LexCanon (frag : Bool) (lex : Str → List Token × Option Nat) : Prop :=
  ∀ ts, LexOK frag ts = true →
    ∃ ts', lex (renderTokens ts) = (ts', none) ∧ ts'.map Token.erase = ts.map Token.erase ∧
      tokensPrefixOk ts' = true

/-- The prefix chosen, `none` (unprefixed) where the serialiser fails. -/
def okPrefix : Except XotError (Option Nat) → Option Nat
  | .ok p => p
  | .error _ => none

/-- The item `declTokens` writes for one `(prefix, namespace)` declaration. -/
def spellDecl (env : Env) (d : Nat × Nat) : List NSAttr :=
  if d.2 == Env.xmlNamespace then []
  else if d.1 == Env.emptyPrefix then
    [{ pfx := sp0 [], loc := sp0 xmlnsName, pieces := attrPieces (env.namespaceStr d.2), vstart := 0,
       junk := noSpan }]
  else
    [{ pfx := sp0 xmlnsName, loc := sp0 (env.prefixStr d.1), pieces := attrPieces (env.namespaceStr d.2),
       vstart := 0, junk := noSpan }]

/-- The item `attrTokens` writes for one attribute. -/
def spellAttr (env : Env) (s : FStack) (a : Nat × Str) : NSAttr :=
  { pfx := sp0 (prefixText env (okPrefix (s.attributePrefix env a.1))), loc := sp0 (env.localName a.1),
    pieces := attrPieces a.2, vstart := 0, junk := noSpan }

/-- The declarations an element writes (`serNode`): at the start node the in-scope ones it does not
    declare itself, then its own. -/
def writtenDecls (inScope : List (Nat × Nat)) (isTop : Bool) (n : Tree) : List (Nat × Nat) :=
  (if isTop then inScope.filter (fun d => !n.declaresPrefix d.1) else []) ++ n.nsDecls

/-- The items of an element's start tag. -/
def spellItems (env : Env) (inScope : List (Nat × Nat)) (isTop : Bool) (s' : FStack) (n : Tree) :
    List NSAttr :=
  (writtenDecls inScope isTop n).flatMap (spellDecl env) ++ n.attrs.map (spellAttr env s')

/-- The spelling of the subtree `n`, mirroring `serNode env false inScope isTop s n`. -/
def spellNode (env : Env) (inScope : List (Nat × Nat)) (isTop : Bool) (s : FStack) : Tree → List NSNode
  | .node v ks =>
    match v with
    | .element name =>
      let n := Tree.node (.element name) ks
      let s' := s.push n.nsDecls
      let pfx := sp0 (prefixText env (okPrefix (s'.elementPrefix env name)))
      let loc := sp0 (env.localName name)
      if n.firstChild?.isNone then
        .empty pfx loc noSpan (spellItems env inScope isTop s' n) noSpan :: spellKids env inScope s' ks
      else
        [.elem pfx loc noSpan (spellItems env inScope isTop s' n) noSpan (spellKids env inScope s' ks)
          pfx loc noSpan]
    | .text str => .chars [.txt (textPieces str) 0] :: spellKids env inScope s ks
    | .comment str => .comment (sp0 str) noSpan :: spellKids env inScope s ks
    | .pi target data => .pi (sp0 (env.localName target)) (data.map sp0) noSpan :: spellKids env inScope s ks
    | _ => spellKids env inScope s ks
where
  spellKids (env : Env) (inScope : List (Nat × Nat)) (s : FStack) : List Tree → List NSNode
    | [] => []
    | k :: ks => spellNode env inScope false s k ++ spellKids env inScope s ks

/-- The spelling of the node at `start` in `t`, mirroring `serTokensAt`. -/
def spellAt (env : Env) (t : Tree) (start : Path) : List NSNode :=
  match t.at? start, namespacesInScope t start with
  | some n, some inScope => spellNode env inScope true (FStack.new inScope) n
  | _, _ => []

/-- The spelling of a whole tree, mirroring `serTokensTop`. -/
def spellTop (env : Env) (t : Tree) : List NSNode := spellAt env t []

end XotModel
