/-
  Properties of the store that every operation keeps, proved once.

  `Forest.Closed A V T P`: the property `P` of forests is kept by the primitive edits
  (Model/Forest.lean) whenever the handles they are given satisfy `A`, the values they write
  satisfy `V` and the subtrees they re-attach satisfy `T`; navigation from a handle in `A` stays
  in `A`.  Every manipulation function of Model/Manip.lean and Manip2.lean is a composition of
  primitive edits at handles reached by navigation from its arguments, so it keeps `P` as well:
  that walk through the definitions is done here, once, for all such `P` (`Closed.append` …
  `Closed.call`).  The composites built from calls (`runCalls`, `create_missing_prefixes`,
  `deduplicate_namespaces`, `clone_with_prefixes`) and the replay of `clone_node` keep whatever
  the single calls keep (`Closed.runCalls_keeps` … `Closed.cloneNode_keeps`).
  Instances: `Sep.closed` (locality, C12), `Forest.nle_closed` (`next` only grows),
  `Forest.fpv_closed` (value provenance, C01).
-/
import XotModel.Lemmas.HTreeBasic
import XotModel.Lemmas.ManipShape
import XotModel.Model.FhistSpec

namespace XotModel
open HTree

namespace Forest

structure Closed (A : Nat → Prop) (V : Value → Prop) (T : HTree → Prop) (P : Forest → Prop) : Prop where
  /-- Only the roots and the counter matter, not the flags. -/
  flags : ∀ {f g : Forest}, P f → g.roots = f.roots → g.next = f.next → P g
  -- navigation from a handle in `A` stays in `A`
  prevSibling : ∀ {f h p}, P f → A h → f.prevSibling h = some p → A p
  nextSibling : ∀ {f h p}, P f → A h → f.nextSibling h = some p → A p
  firstChild : ∀ {f h p}, P f → A h → f.firstChild h = some p → A p
  lastChild : ∀ {f h p}, P f → A h → f.lastChild h = some p → A p
  parent? : ∀ {f h p}, P f → A h → f.parent? h = some p → A p
  prependPoint : ∀ {f h p}, P f → A h → f.prependPoint h = some p → A p
  mapInsertionPoint : ∀ {f k h p}, P f → A h → f.mapInsertionPoint k h = some p → A p
  mapGetNode : ∀ {f k h key n}, P f → A h → f.mapGetNode k h key = some n → A n.handle ∧ V n.value
  kids : ∀ {f h t}, P f → A h → f.get? h = some t → ∀ k ∈ t.kids, A k.handle
  descendants : ∀ {f h t}, P f → A h → f.get? h = some t → ∀ x ∈ descendantsNormal t, A x
  -- the values already in the store are in `V`, and `V` allows text consolidation
  value? : ∀ {f h v}, P f → f.value? h = some v → V v
  cat : ∀ {a b}, V (.text a) → V (.text b) → V (.text (a ++ b))
  -- the primitive edits (`cut` hands out a subtree in `T`, the `place*` take one)
  setValue : ∀ {f h v}, P f → A h → V v → P (f.setValue h v)
  spliceOut : ∀ {f h}, P f → A h → P (f.spliceOut h)
  cut : ∀ {f h}, P f → A h → P (f.cut h).1 ∧ ∀ t, (f.cut h).2 = some t → T t
  addRoot : ∀ {f t}, P f → T t → P (f.addRoot t)
  placeLast : ∀ {f p t}, P f → A p → T t → P (f.placeLast p t)
  placeFirst : ∀ {f p t}, P f → A p → T t → P (f.placeFirst p t)
  placeAfter : ∀ {f p t}, P f → A p → T t → P (f.placeAfter p t)
  placeBefore : ∀ {f p t}, P f → A p → T t → P (f.placeBefore p t)

/-- `Q` of the values a call is handed. -/
def Call.fpvNewQ (Q : Value → Prop) : Call → Prop
  | .elementWrap _ name => Q (.element name)
  | .mapInsert _ _ e => Q e
  | .setElementName _ name => Q (.element name)
  | .setText _ s => Q (.text s)
  | .setComment _ s => Q (.comment s)
  | .setPiData _ d => ∀ t d0, Q (.pi t d0) → Q (.pi t (match d with | some [] => none | x => x))
  | .textContentSet _ s => Q (.text s)
  | _ => True

theorem Call.fpvNewQ_trivial (c : Call) : c.fpvNewQ (fun _ => True) := by
  cases c <;> first | trivial | exact fun _ _ _ => trivial

namespace Closed

theorem mapGetNode_key {f : Forest} {k : MapKind} {parent key : Nat} {n : HTree}
    (h : f.mapGetNode k parent key = some n) : entryKey n.value = key := by
  unfold Forest.mapGetNode at h
  split at h
  · cases h
  · exact beq_iff_eq.mp (List.find?_some (p := fun c : HTree => entryKey c.value == key) h)

theorem entryUpdate_cases {old new : Value} (hk : entryKey old = entryKey new) :
    entryUpdate old new = new ∨ entryUpdate old new = old := by
  unfold entryUpdate
  split
  · exact .inl (congrArg (Value.attribute · _) hk)
  · exact .inl (congrArg (Value.namespace · _) hk)
  · exact .inr rfl


variable {A : Nat → Prop} {V : Value → Prop} {T : HTree → Prop} {P : Forest → Prop}
  (C : Closed A V T P) {f : Forest}

include C

theorem textOf {h : Nat} {s : Str} (hp : P f) (ht : f.textOf h = some s) : V (.text s) :=
  C.value? hp (Forest.textOf_value ht)

theorem dropSubtree {h : Nat} (hp : P f) (hh : A h) : P (f.dropSubtree h) := (C.cut hp hh).1

theorem detachRaw {h : Nat} (hp : P f) (hh : A h) : P (f.detachRaw h) := by
  unfold Forest.detachRaw
  have hc := C.cut hp hh
  generalize f.cut h = cu at hc ⊢
  obtain ⟨f', o⟩ := cu
  cases o with
  | none => exact hc.1
  | some t => exact C.addRoot hc.1 (hc.2 t rfl)

/-- The text of `p` extended, the text node `n` taken out: the one step of text consolidation. -/
theorem merge {p n : Nat} {a b : Str} (hp : P f) (hpA : A p) (hnA : A n) (ha : V (.text a)) (hb : V (.text b)) :
    P ((f.setValue p (.text (a ++ b))).spliceOut n) :=
  C.spliceOut (C.setValue hp hpA (C.cat ha hb)) hnA

theorem removeConsolidate {prev next : Option Nat} (hp : P f)
    (hprev : ∀ p, prev = some p → A p) (hnext : ∀ n, next = some n → A n) :
    P (f.removeConsolidate prev next).1 := by
  rcases f.removeConsolidate_outcome prev next with e | ⟨p, n, ps, ns, h1, h2, _, hps, hns, e⟩
  · rw [e]; exact hp
  · rw [e]; exact C.merge hp (hprev p h1) (hnext n h2) (C.textOf hp hps) (C.textOf hp hns)

theorem addConsolidate {node : Nat} {prev next : Option Nat} (hp : P f) (hnode : A node)
    (hprev : ∀ p, prev = some p → A p) (hnext : ∀ n, next = some n → A n) :
    P (f.addConsolidate node prev next).1 := by
  rw [Forest.addConsolidate_eq_old]
  have hprev : ∀ p, f.selfPrev node prev = some p → A p := by
    intro p h
    unfold Forest.selfPrev at h
    split at h
    · exact C.prevSibling hp hnode h
    · exact hprev p h
  have hnext : ∀ n, f.selfNext node next = some n → A n := by
    intro n h
    unfold Forest.selfNext at h
    split at h
    · exact C.nextSibling hp hnode h
    · exact hnext n h
  rcases f.addConsolidateOld_outcome node (f.selfPrev node prev) (f.selfNext node next) with
    e | ⟨added, _, hadd, ⟨p, ps, h1, hps, e⟩ | ⟨n, ns, h1, hns, e⟩⟩
  · rw [e]; exact hp
  · rw [e]; exact C.merge hp (hprev p h1) hnode (C.textOf hp hps) (C.textOf hp hadd)
  · rw [e]; exact C.merge hp (hnext n h1) hnode (C.textOf hp hadd) (C.textOf hp hns)

/-- Closing the gap a node leaves: its former neighbours (read in `f`) are consolidated (in `g`). -/
theorem unlink {g : Forest} {c : Nat} (hp : P f) (hg : P g) (hc : A c) :
    P (g.removeConsolidate (f.prevSibling c) (f.nextSibling c)).1 :=
  C.removeConsolidate hg (fun _ h => C.prevSibling hp hc h) (fun _ h => C.nextSibling hp hc h)

/-- Cut, then place: the shape of the four indextree `checked_*` calls. -/
theorem cutPlace {c : Nat} (hp : P f) (hc : A c) (place : Forest → HTree → Forest)
    (hplace : ∀ {g t}, P g → T t → P (place g t)) :
    P (match f.cut c with
      | (f', some t) => (place f' t, true)
      | (f', none) => ({ f' with corrupt := true }, true)).1 := by
  have h := C.cut hp hc
  generalize f.cut c = cu at h ⊢
  obtain ⟨f', o⟩ := cu
  cases o with
  | none => exact C.flags h.1 rfl rfl
  | some t => exact hplace h.1 (h.2 t rfl)

theorem checkedAppend {p c : Nat} (hp : P f) (hpA : A p) (hc : A c) : P (f.checkedAppend p c).1 := by
  unfold Forest.checkedAppend
  split
  · exact hp
  · exact C.cutPlace hp hc (fun g t => g.placeLast p t) (fun hg ht => C.placeLast hg hpA ht)

theorem checkedPrepend {p c : Nat} (hp : P f) (hpA : A p) (hc : A c) : P (f.checkedPrepend p c).1 := by
  unfold Forest.checkedPrepend
  split
  · exact hp
  · exact C.cutPlace hp hc (fun g t => g.placeFirst p t) (fun hg ht => C.placeFirst hg hpA ht)

theorem checkedInsertAfter {p c : Nat} (hp : P f) (hpA : A p) (hc : A c) :
    P (f.checkedInsertAfter p c).1 := by
  unfold Forest.checkedInsertAfter
  split
  · exact hp
  · split
    · exact C.flags hp rfl rfl
    · exact C.cutPlace hp hc (fun g t => g.placeAfter p t) (fun hg ht => C.placeAfter hg hpA ht)

theorem checkedInsertBefore {p c : Nat} (hp : P f) (hpA : A p) (hc : A c) :
    P (f.checkedInsertBefore p c).1 := by
  unfold Forest.checkedInsertBefore
  split
  · exact hp
  · split
    · exact C.flags hp rfl rfl
    · exact C.cutPlace hp hc (fun g t => g.placeBefore p t) (fun hg ht => C.placeBefore hg hpA ht)

omit C in
theorem ite_fst {α : Type} {c : Prop} [Decidable c] {x y : Forest × α} (hx : P x.1) (hy : P y.1) :
    P (if c then x else y).1 := by
  split
  · exact hx
  · exact hy

/-! ### Moves -/

/-- The common part of the four moves (`Forest.moveTail`): the new neighbours `prev`, `next` are read in a state
    that has `P`, and so is the placement `k` applied. -/
theorem moveTail {c : Nat} {prev next : Forest → Option Nat} {k : Forest → Forest × Bool} (hp : P f) (hc : A c)
    (hprev : ∀ {g p}, P g → prev g = some p → A p) (hnext : ∀ {g n}, P g → next g = some n → A n)
    (hk : ∀ {g}, P g → P (k g).1) : P (f.moveTail c prev next k).1 := by
  rw [Forest.moveTail_fst]
  have s1 : P (f.afterOldSite c) := C.unlink hp hp hc
  have s2 := C.addConsolidate (node := c) s1 hc (fun _ h => hprev s1 h) (fun _ h => hnext s1 h)
  split
  · exact s2
  · exact hk s2

theorem append {p c : Nat} (hp : P f) (hpA : A p) (hc : A c) : P (f.append p c).1 := by
  rw [Forest.append_eq]
  exact ite_fst hp (ite_fst hp (C.moveTail hp hc (fun hg h => C.lastChild hg hpA h) (fun _ h => nomatch h)
    (fun hg => C.checkedAppend hg hpA hc)))

theorem prepend {p c : Nat} (hp : P f) (hpA : A p) (hc : A c) : P (f.prepend p c).1 := by
  rw [Forest.prepend_eq]
  refine ite_fst hp (ite_fst hp (C.moveTail hp hc (fun _ h => nomatch h) (fun hg h => C.firstChild hg hpA h) ?_))
  intro g hg
  cases hpp : g.prependPoint p with
  | some ip => exact C.checkedInsertAfter hg (C.prependPoint hg hpA hpp) hc
  | none => exact C.checkedPrepend hg hpA hc

/-- The reference node `insert_after` really uses is the given one or the node before the moved one. -/
theorem insertAfterRef {ref c : Nat} (hp : P f) (hr : A ref) (hc : A c) : A (f.insertAfterRef ref c) := by
  unfold Forest.insertAfterRef
  split
  · cases hps : f.prevSibling c with
    | none => exact hr
    | some q => exact C.prevSibling hp hc hps
  · exact hr

theorem insertAfter {ref new : Nat} (hp : P f) (hr : A ref) (hc : A new) :
    P (f.insertAfter ref new).1 := by
  rw [Forest.insertAfter_eq]
  have href := C.insertAfterRef hp hr hc
  exact ite_fst hp (ite_fst hp (ite_fst hp (C.moveTail hp hc (fun _ h => by cases h; exact href)
    (fun hg h => C.nextSibling hg href h) (fun hg => C.checkedInsertAfter hg href hc))))

theorem insertBefore {ref new : Nat} (hp : P f) (hr : A ref) (hc : A new) :
    P (f.insertBefore ref new).1 := by
  rw [Forest.insertBefore_eq]
  exact ite_fst hp (ite_fst hp (ite_fst hp (C.moveTail hp hc (fun hg h => C.prevSibling hg hr h)
    (fun _ h => by cases h; exact hr) (fun hg => C.checkedInsertBefore hg hr hc))))

theorem remove {n : Nat} (hp : P f) (hn : A n) : P (f.remove n).1 :=
  C.unlink hp (C.dropSubtree hp hn) hn

theorem detach {n : Nat} (hp : P f) (hn : A n) : P (f.detach n).1 :=
  C.unlink hp (C.detachRaw hp hn) hn

theorem foldl_remove {α : Type} (g : α → Nat) : ∀ (xs : List α) {f : Forest}, P f →
    (∀ x ∈ xs, A (g x)) → P (xs.foldl (fun acc c => (acc.remove (g c)).1) f)
  | [], _, hp, _ => hp
  | x :: xs, _, hp, h =>
    foldl_remove g xs (C.remove hp (h x List.mem_cons_self)) (fun y hy => h y (List.mem_cons_of_mem _ hy))

theorem foldl_spliceOut : ∀ (xs : List HTree) {f : Forest}, P f →
    (∀ x ∈ xs, A x.handle) → P (xs.foldl (fun acc k => acc.spliceOut k.handle) f)
  | [], _, hp, _ => hp
  | x :: xs, _, hp, h =>
    foldl_spliceOut xs (C.spliceOut hp (h x List.mem_cons_self)) (fun y hy => h y (List.mem_cons_of_mem _ hy))

/-! ### Setters -/

theorem setElementName {n : Nat} (hp : P f) (hn : A n) {name : Nat} (hv : V (.element name)) :
    P (f.setElementName n name).1 :=
  ite_fst (C.setValue hp hn hv) hp

theorem setText {n : Nat} (hp : P f) (hn : A n) {s : Str} (hv : V (.text s)) : P (f.setText n s).1 :=
  ite_fst (C.setValue hp hn hv) hp

theorem setComment {n : Nat} (hp : P f) (hn : A n) {s : Str} (hv : V (.comment s)) :
    P (f.setComment n s).1 := by
  unfold Forest.setComment
  split
  · exact ite_fst hp (C.setValue hp hn hv)
  · exact hp

/-- `set_data(d)`: the target stays, so the condition on `d` is relative to the PI's own value. -/
theorem setPiData {n : Nat} (hp : P f) (hn : A n) (d : Option Str)
    (hv : ∀ t d0, V (.pi t d0) → V (.pi t (match d with | some [] => none | x => x))) :
    P (f.setPiData n d).1 := by
  unfold Forest.setPiData
  split
  · next t d0 hval => exact C.setValue hp hn (hv t d0 (C.value? hp hval))
  · exact hp

/-! ### Node maps -/

/-- The new payload of an entry node that `insert` found under the key. -/
theorem entryUpdate_ok {k : MapKind} {p : Nat} {e : HTree} {v : Value} (hp : P f) (hpA : A p)
    (hg : f.mapGetNode k p (entryKey v) = some e) (hv : V v) : V (entryUpdate e.value v) := by
  rcases entryUpdate_cases (mapGetNode_key hg) with h | h
  · rw [h]; exact hv
  · rw [h]; exact (C.mapGetNode hp hpA hg).2

theorem mapPlace {k : MapKind} {p n : Nat} (hp : P f) (hpA : A p) (hn : A n) :
    P (f.mapPlace k p n).1 := by
  unfold Forest.mapPlace
  cases hi : f.mapInsertionPoint k p with
  | some ip =>
    have s1 := C.checkedInsertAfter hp (C.mapInsertionPoint hp hpA hi) hn
    exact ite_fst s1 s1
  | none =>
    have s1 := C.checkedPrepend hp hpA hn
    exact ite_fst s1 s1

/-- `insert(key, value)`; the new entry node, if one is needed, comes from `new_node`. -/
theorem mapInsert {k : MapKind} {p : Nat} {entry : Value} (hp : P f) (hpA : A p) (hv : V entry)
    (hnew : P (f.newNode entry).1) (hA : A (f.newNode entry).2) : P (f.mapInsert k p entry).1 := by
  unfold Forest.mapInsert
  refine ite_fst hp ?_
  cases hg : f.mapGetNode k p (entryKey entry) with
  | some n => exact C.setValue hp (C.mapGetNode hp hpA hg).1 (C.entryUpdate_ok hp hpA hg hv)
  | none => exact C.mapPlace hnew hpA hA

theorem mapInsertNode {k : MapKind} {p n : Nat} (hp : P f) (hpA : A p) (hn : A n) :
    P (f.mapInsertNode k p n).1 := by
  unfold Forest.mapInsertNode
  cases hv : f.value? n with
  | none => exact hp
  | some v =>
    refine ite_fst hp ?_
    cases hg : f.mapGetNode k p (entryKey v) with
    | some e =>
      exact C.setValue hp (C.mapGetNode hp hpA hg).1 (C.entryUpdate_ok hp hpA hg (C.value? hp hv))
    | none => exact C.mapPlace hp hpA hn

theorem mapRemove {k : MapKind} {p : Nat} (hp : P f) (hpA : A p) (key : Nat) :
    P (f.mapRemove k p key).1 := by
  unfold Forest.mapRemove
  refine ite_fst hp ?_
  cases hg : f.mapGetNode k p key with
  | some n => exact C.remove hp (C.mapGetNode hp hpA hg).1
  | none => exact hp

theorem mapClear {k : MapKind} {p : Nat} (hp : P f) (hpA : A p) : P (f.mapClear k p).1 := by
  unfold Forest.mapClear
  refine ite_fst hp ?_
  cases hg : f.get? p with
  | none => exact hp
  | some t0 =>
    exact C.foldl_remove (fun c : HTree => c.handle) _ hp
      (fun x hx => C.kids hp hpA hg x (mapChildren_sub k t0 x hx))

theorem appendEntryNode {k : MapKind} {p n : Nat} (hp : P f) (hpA : A p) (hn : A n) :
    P (f.appendEntryNode k p n).1 := by
  unfold Forest.appendEntryNode
  refine ite_fst hp ?_
  cases f.value? n with
  | none => exact hp
  | some v => exact ite_fst hp (C.mapInsertNode hp hpA hn)

theorem anyAppend {p n : Nat} (hp : P f) (hpA : A p) (hn : A n) : P (f.anyAppend p n).1 := by
  unfold Forest.anyAppend
  split
  · exact C.appendEntryNode hp hpA hn
  · exact C.appendEntryNode hp hpA hn
  · exact C.append hp hpA hn

/-! ### The rest -/

/-- `text_content_mut(node).set(s)`, as the calls it is made of: on an element without normal children
    an empty text node is created and appended first. -/
theorem textContentSet {n : Nat} {s : Str} (hp : P f) (hn : A n) (hv : V (.text s))
    (hnew : P (f.newNode (.text [])).1) (hA : A (f.newNode (.text [])).2) :
    P (f.textContentSet n s).1 := by
  unfold Forest.textContentSet
  cases hfc : f.firstChild n with
  | some child => exact ite_fst hp (ite_fst (C.setValue hp (C.firstChild hp hn hfc) hv) hp)
  | none =>
    refine ite_fst ?_ hp
    unfold Forest.newText
    generalize f.newNode (.text []) = nn at hnew hA ⊢
    obtain ⟨f1, t⟩ := nn
    have s2 := C.append hnew hn hA
    dsimp only at s2 ⊢
    generalize f1.append n t = ap at s2 ⊢
    obtain ⟨f2, res⟩ := ap
    cases res with
    | ok =>
      cases hfc2 : f2.firstChild n with
      | some c => exact ite_fst (C.setValue s2 (C.firstChild s2 hn hfc2) hv) s2
      | none => exact s2
    | err e => exact s2
    | panic => exact s2

theorem removeInsignificantWhitespace {n : Nat} (hp : P f) (hn : A n) :
    P (f.removeInsignificantWhitespace n) := by
  unfold Forest.removeInsignificantWhitespace
  cases hg : f.get? n with
  | none => exact hp
  | some t0 =>
    have s0 : P ({ f with consolidation := false } : Forest) := C.flags hp rfl rfl
    have s1 := C.foldl_remove (fun x : Nat => x)
      ((Forest.descendantsNormal t0).filter f.isInsignificantWhitespace) s0
      (fun x hx => C.descendants hp hn hg x (List.mem_filter.mp hx).1)
    exact C.flags s1 rfl rfl

theorem replace {a b : Nat} (hp : P f) (ha : A a) (hb : A b) : P (f.replace a b).1 := by
  refine Forest.replace_cases (P := fun x => P x.1) f a b hp (fun parent hpar _ _ => ?_)
  unfold Forest.replaceBody
  refine ite_fst (C.remove hp ha) ?_
  have s1 := C.dropSubtree hp ha
  cases hps : f.prevSibling a with
  | none => exact C.prepend s1 (C.parent? hp ha hpar) hb
  | some p =>
    have s2 := C.insertAfter s1 (C.prevSibling hp ha hps) hb
    dsimp only
    generalize (f.dropSubtree a).insertAfter p b = ia at s2 ⊢
    obtain ⟨f2, res⟩ := ia
    cases res with
    | ok =>
      cases hns : f.nextSibling a with
      | none => exact s2
      | some n =>
        have hn := C.nextSibling hp ha hns
        exact C.removeConsolidate (prev := f2.prevSibling n) (next := some n) s2
          (fun _ h => C.prevSibling s2 hn h) (fun _ h => by cases h; exact hn)
    | err e => exact s2
    | panic => exact s2

/-- `element_wrap(node, name)`; the wrapper comes from `new_node`. -/
theorem elementWrap {n name : Nat} (hp : P f) (hn : A n)
    (hnew : P (f.newNode (.element name)).1) (hA : A (f.newNode (.element name)).2) :
    P (f.elementWrap n name).1 := by
  refine Forest.elementWrap_cases (P := fun x => P x.1) f n name hp (fun _ _ => ?_)
  unfold Forest.wrapBody Forest.newElement
  generalize f.newNode (.element name) = nn at hnew hA ⊢
  obtain ⟨f1, wrapper⟩ := nn
  cases hpar : f.parent? n with
  | some parent =>
    have s3 := C.append (C.detachRaw hnew hn) hA hn
    dsimp only at s3 ⊢
    generalize (f1.detachRaw n).append wrapper n = ap at s3 ⊢
    obtain ⟨f3, r3⟩ := ap
    cases r3 with
    | ok =>
      cases hps : f.prevSibling n with
      | some p => exact C.insertAfter s3 (C.prevSibling hp hn hps) hA
      | none => exact C.prepend s3 (C.parent? hp hn hpar) hA
    | err e => exact s3
    | panic => exact s3
  | none => exact C.append hnew hA hn

theorem removeElement {n : Nat} (hp : P f) (hn : A n) : P (f.removeElement n) := by
  unfold Forest.removeElement
  cases hg : f.get? n with
  | none => exact hp
  | some t0 =>
    exact C.spliceOut (C.foldl_spliceOut _ hp
      (fun x hx => C.kids hp hn hg x ((List.takeWhile_sublist _).mem hx))) hn

theorem elementUnwrap {n : Nat} (hp : P f) (hn : A n) : P (f.elementUnwrap n).1 := by
  refine Forest.elementUnwrap_cases (P := fun x => P x.1) f n (fun _ => hp) (fun _ _ => C.remove hp hn)
    (fun first last _ hfc _ hlc => ?_)
  have hfirst := C.firstChild hp hn hfc
  have hlast := C.lastChild hp hn hlc
  have s1 := C.removeElement hp hn
  unfold Forest.unwrapBody
  dsimp only
  generalize f.removeElement n = f1 at s1 ⊢
  have hprev : ∀ p, f1.prevSibling first = some p → A p := fun _ h => C.prevSibling s1 hfirst h
  have s2 := C.removeConsolidate (prev := f1.prevSibling first) (next := some first) s1 hprev
    (fun _ h => by cases h; exact hfirst)
  generalize f1.removeConsolidate (f1.prevSibling first) (some first) = rc at s2 ⊢
  obtain ⟨f2, c⟩ := rc
  have tail : P (f2.removeConsolidate (some last) (f2.nextSibling last)).1 :=
    C.removeConsolidate (prev := some last) (next := f2.nextSibling last) s2
      (fun _ h => by cases h; exact hlast) (fun _ h => C.nextSibling s2 hlast h)
  refine ite_fst (ite_fst ?_ tail) tail
  exact C.removeConsolidate (prev := f1.prevSibling first) (next := f1.nextSibling last) s2
    hprev (fun _ h => C.nextSibling s1 hlast h)

/-- **Every call keeps `P`**: its node arguments in `A`, the values it is handed in `V`; what creates
    nodes (`hnew`), `clone_node` and `text_content_mut().set` are supplied by the instance. -/
theorem call (c : Call) (hp : P f) (harg : ∀ a ∈ c.args, A a) (hv : c.fpvNewQ V)
    (hnew : ∀ v, V v → P (f.newNode v).1 ∧ A (f.newNode v).2) (hclone : ∀ n, P (f.cloneNode n).1)
    (htext : ∀ n s, c = .textContentSet n s → A n → V (.text s) → P (f.textContentSet n s).1) :
    P (c.run f).1 := by
  have a0 : ∀ {a l}, c.args = a :: l → A a := fun e => harg _ (e ▸ List.mem_cons_self)
  have a1 : ∀ {a b l}, c.args = a :: b :: l → A b :=
    fun e => harg _ (e ▸ List.mem_cons_of_mem _ List.mem_cons_self)
  cases c with
  | append p c => exact C.append hp (a0 rfl) (a1 rfl)
  | prepend p c => exact C.prepend hp (a0 rfl) (a1 rfl)
  | insertAfter a b => exact C.insertAfter hp (a0 rfl) (a1 rfl)
  | insertBefore a b => exact C.insertBefore hp (a0 rfl) (a1 rfl)
  | detach n => exact C.detach hp (a0 rfl)
  | remove n => exact C.remove hp (a0 rfl)
  | replace a b => exact C.replace hp (a0 rfl) (a1 rfl)
  | elementWrap n name => exact C.elementWrap hp (a0 rfl) (hnew _ hv).1 (hnew _ hv).2
  | elementUnwrap n => exact C.elementUnwrap hp (a0 rfl)
  | cloneNode n => exact hclone n
  | anyAppend p c => exact C.anyAppend hp (a0 rfl) (a1 rfl)
  | appendEntryNode k p c => exact C.appendEntryNode hp (a0 rfl) (a1 rfl)
  | mapInsert k p e => exact C.mapInsert hp (a0 rfl) hv (hnew _ hv).1 (hnew _ hv).2
  | mapRemove k p key => exact C.mapRemove hp (a0 rfl) key
  | mapClear k p => exact C.mapClear hp (a0 rfl)
  | setElementName n name => exact C.setElementName hp (a0 rfl) hv
  | setText n s => exact C.setText hp (a0 rfl) hv
  | setComment n s => exact C.setComment hp (a0 rfl) hv
  | setPiData n d => exact C.setPiData hp (a0 rfl) d hv
  | textContentSet n s => exact htext n s rfl (a0 rfl) hv

end Closed
/-! ### Composites: lists of calls decided beforehand, loops over them, `clone_with_prefixes`

Whatever every single call keeps is kept by the composites built from calls; `ok` stands for what is
asked of a call (where its arguments lie, which values it writes), `A` for what is asked of a node. -/

namespace Closed

section Composites

variable {P : Forest → Prop} {ok : Call → Prop} {A : Nat → Prop}

theorem runCalls_keeps (hcall : ∀ {f : Forest} (c : Call), P f → ok c → P (c.run f).1) :
    ∀ (cs : List Call) {f : Forest}, P f → (∀ c ∈ cs, ok c) → P (f.runCalls cs).1
  | [], _, hp, _ => hp
  | c :: cs, f, hp, h => by
    have h1 := hcall c hp (h c List.mem_cons_self)
    unfold runCalls
    generalize c.run f = cr at h1 ⊢
    obtain ⟨f', res⟩ := cr
    cases res with
    | ok => exact runCalls_keeps hcall cs h1 (fun c' h' => h c' (List.mem_cons_of_mem _ h'))
    | err e => exact h1
    | panic => exact h1

theorem repairElementF_keeps (hcall : ∀ {f : Forest} (c : Call), P f → ok c → P (c.run f).1)
    {env : Env} {node : Nat} {f : Forest} (hp : P f)
    (hcs : ∀ env' cs, f.repairCalls env node = some (env', cs) → ∀ c ∈ cs, ok c) :
    P (f.repairElementF env node).1 := by
  unfold repairElementF
  cases hc : f.repairCalls env node with
  | none => exact hp
  | some ec => exact runCalls_keeps hcall ec.2 hp (hcs ec.1 ec.2 hc)

theorem repairElementsF_keeps
    (hone : ∀ {f : Forest} (env : Env) (e : Nat), P f → A e → P (f.repairElementF env e).1) :
    ∀ (es : List Nat) (env : Env) {f : Forest}, P f → (∀ e ∈ es, A e) → P (repairElementsF es env f).1
  | [], _, _, hp, _ => hp
  | e :: rest, env, f, hp, h => by
    have h1 := hone env e hp (h e List.mem_cons_self)
    unfold repairElementsF
    generalize f.repairElementF env e = re at h1 ⊢
    obtain ⟨f', env', res⟩ := re
    cases res with
    | ok => exact repairElementsF_keeps hone rest env' h1 (fun e' h' => h e' (List.mem_cons_of_mem _ h'))
    | err e => exact h1
    | panic => exact h1

/-- `create_missing_prefixes(node)`: on a document node the loop over its element children. -/
theorem createMissingPrefixes_keeps
    (hone : ∀ {f : Forest} (env : Env) (e : Nat), P f → A e → P (f.repairElementF env e).1)
    {env : Env} {node : Nat} {f : Forest} (hp : P f) (hn : A node)
    (hkids : ∀ t, f.get? node = some t → ∀ k ∈ t.kids, A k.handle) :
    P (f.createMissingPrefixes env node).1 := by
  unfold createMissingPrefixes
  split
  · cases hg : f.get? node with
    | none => exact hp
    | some t =>
      refine ite_fst hp (repairElementsF_keeps hone _ env hp ?_)
      intro e he
      obtain ⟨k, hk, rfl⟩ := List.mem_map.mp he
      exact hkids t hg k (List.mem_filter.mp hk).1
  · exact ite_fst hp (hone env node hp hn)

/-- `create_missing_prefixes` also interns prefixes: the same for a property of tables and store together. -/
theorem repairElementsF_keepsE {R : Env → Forest → Prop}
    (hone : ∀ {env : Env} {f : Forest} (e : Nat), R env f →
      R (f.repairElementF env e).2.1 (f.repairElementF env e).1) :
    ∀ (es : List Nat) {env : Env} {f : Forest}, R env f →
      R (repairElementsF es env f).2.1 (repairElementsF es env f).1
  | [], _, _, h => h
  | e :: rest, env, f, h => by
    have h1 := hone e h
    unfold repairElementsF
    generalize f.repairElementF env e = re at h1 ⊢
    obtain ⟨f', env', res⟩ := re
    cases res with
    | ok => exact repairElementsF_keepsE hone rest h1
    | err e => exact h1
    | panic => exact h1

theorem ite_keepsE {R : Env → Forest → Prop} {α : Type} {c : Prop} [Decidable c] {x y : Forest × Env × α}
    (hx : R x.2.1 x.1) (hy : R y.2.1 y.1) : R (if c then x else y).2.1 (if c then x else y).1 := by
  split
  · exact hx
  · exact hy

theorem createMissingPrefixes_keepsE {R : Env → Forest → Prop}
    (hone : ∀ {env : Env} {f : Forest} (e : Nat), R env f →
      R (f.repairElementF env e).2.1 (f.repairElementF env e).1)
    {env : Env} {f : Forest} (h : R env f) (node : Nat) :
    R (f.createMissingPrefixes env node).2.1 (f.createMissingPrefixes env node).1 :=
  ite_keepsE (ite_keepsE h (repairElementsF_keepsE hone _ h)) (ite_keepsE h (hone node h))

theorem dedupLoop_keeps (hcall : ∀ {f : Forest} (c : Call), P f → ok c → P (c.run f).1)
    (env : Env) (node : Nat) (hcs : ∀ {f : Forest}, P f → ∀ c ∈ f.dedupCalls env node, ok c) :
    ∀ (fuel : Nat) {f : Forest}, P f → P (dedupLoop env node fuel f).1
  | 0, _, hp => hp
  | fuel + 1, f, hp => by
    unfold dedupLoop
    refine ite_fst hp ?_
    have h1 := runCalls_keeps hcall (f.dedupCalls env node) hp (hcs hp)
    generalize f.runCalls (f.dedupCalls env node) = rc at h1 ⊢
    obtain ⟨f', res⟩ := rc
    cases res with
    | ok => exact dedupLoop_keeps hcall env node hcs fuel h1
    | err e => exact h1
    | panic => exact h1

/-- The insertion loop of `clone_with_prefixes`. -/
theorem addPrefixes_keeps (c : Nat) : ∀ (order : List (Nat × Nat)) {f : Forest}, P f →
    (∀ b ∈ order, ∀ g : Forest, P g → P (g.mapInsert .namespaces c (.namespace b.1 b.2)).1) →
    P (f.addPrefixes c order).1
  | [], _, hp, _ => hp
  | (p, ns) :: rest, f, hp, hins => by
    have hrest := fun b hb => hins b (List.mem_cons_of_mem _ hb)
    unfold addPrefixes
    refine ite_fst (addPrefixes_keeps c rest hp hrest) ?_
    have h1 := hins (p, ns) List.mem_cons_self f hp
    generalize f.mapInsert .namespaces c (.namespace p ns) = mi at h1 ⊢
    obtain ⟨f', res⟩ := mi
    cases res with
    | ok => exact addPrefixes_keeps c rest h1 hrest
    | err e => exact h1
    | panic => exact h1

/-- `clone_with_prefixes(node)`: `clone_node`, then the insertions on the clone if it is an element. -/
theorem cloneWithPrefixes_keeps {f : Forest} {node : Nat} {order : List (Nat × Nat)}
    (h1 : P (f.cloneNode node).1)
    (h2 : ∀ c, (f.cloneNode node).2 = some c → P ((f.cloneNode node).1.addPrefixes c order).1) :
    P (f.cloneWithPrefixes node order).1 := by
  unfold cloneWithPrefixes
  generalize f.cloneNode node = cn at h1 h2 ⊢
  obtain ⟨f1, oc⟩ := cn
  cases oc with
  | none => exact h1
  | some c =>
    refine ite_fst ?_ h1
    have h3 := h2 c rfl
    generalize f1.addPrefixes c order = ap at h3 ⊢
    obtain ⟨f2, res⟩ := ap
    cases res <;> exact h3

/-! `clone_node` replays the source node by node: `new_node`, then `any_append` under the current node.
`S` is what is known of the source subtree (it may lie anywhere), `Sv` of its values. -/

section Clone

variable {S : HTree → Prop} {Sv : Value → Prop}

mutual
  theorem cloneInto_keeps (hS : ∀ {h v ks}, S (.node h v ks) → Sv v ∧ ∀ k ∈ ks, S k)
      (hstep : ∀ {f : Forest} {v : Value} {cur : Nat}, P f → A cur → Sv v →
        P ((f.newNode v).1.anyAppend cur (f.newNode v).2).1 ∧ A (f.newNode v).2) :
      ∀ (t : HTree) (cur : Nat) (f f' : Forest), S t → P f → A cur → cloneInto f cur t = some f' → P f'
    | .node h v ks, cur, f, f' => by
      intro hs hp hcur hc
      obtain ⟨hv, hks⟩ := hS hs
      unfold cloneInto at hc
      cases v with
      | document => exact cloneKids_keeps hS hstep ks cur f f' hks hp hcur hc
      | _ =>
        obtain ⟨h1, h2⟩ := hstep hp hcur hv
        simp only at hc
        split at hc
        · next f2 _ heq =>
          rw [heq] at h1
          refine cloneKids_keeps hS hstep ks _ f2 f' hks h1 ?_ hc
          first
            | exact hcur
            | (split
               · exact h2
               · exact hcur)
        · cases hc
  theorem cloneKids_keeps (hS : ∀ {h v ks}, S (.node h v ks) → Sv v ∧ ∀ k ∈ ks, S k)
      (hstep : ∀ {f : Forest} {v : Value} {cur : Nat}, P f → A cur → Sv v →
        P ((f.newNode v).1.anyAppend cur (f.newNode v).2).1 ∧ A (f.newNode v).2) :
      ∀ (ks : List HTree) (cur : Nat) (f f' : Forest), (∀ k ∈ ks, S k) → P f → A cur →
        cloneKids f cur ks = some f' → P f'
    | [], _, f, f' => by
      intro _ hp _ hc
      rw [cloneKids] at hc
      cases hc
      exact hp
    | k :: ks, cur, f, f' => by
      intro hks hp hcur hc
      rw [cloneKids] at hc
      split at hc
      · next f1 heq =>
        exact cloneKids_keeps hS hstep ks cur f1 f'
          (fun x hx => hks x (List.mem_cons_of_mem _ hx))
          (cloneInto_keeps hS hstep k cur f f1 (hks k List.mem_cons_self) hp hcur heq) hcur hc
      · cases hc
end

/-- `clone_node(node)`: a temporary top node, the replay under it, the top node spliced out again.
    The node returned is a created one or the first child of one, hence in `A`. -/
theorem cloneNode_keeps (hS : ∀ {h v ks}, S (.node h v ks) → Sv v ∧ ∀ k ∈ ks, S k)
    (hnew : ∀ {f : Forest} {v : Value}, P f → Sv v → P (f.newNode v).1 ∧ A (f.newNode v).2)
    (hstep : ∀ {f : Forest} {v : Value} {cur : Nat}, P f → A cur → Sv v →
      P ((f.newNode v).1.anyAppend cur (f.newNode v).2).1 ∧ A (f.newNode v).2)
    (hsplice : ∀ {f : Forest} {h : Nat}, P f → A h → P (f.spliceOut h))
    (hfirst : ∀ {f : Forest} {h p : Nat}, P f → A h → f.firstChild h = some p → A p)
    {f : Forest} {n : Nat} (hp : P f) (hsrc : ∀ src, f.get? n = some src → S src) :
    P (f.cloneNode n).1 ∧ ∀ c, (f.cloneNode n).2 = some c → A c := by
  unfold cloneNode
  cases hg : f.get? n with
  | none => exact ⟨hp, fun _ h => nomatch h⟩
  | some src =>
    have hsv : ∀ t, S t → Sv t.value ∧ ∀ k ∈ t.kids, S k := fun t ht => by cases t; exact hS ht
    obtain ⟨hv, hks⟩ := hsv src (hsrc src hg)
    simp only
    split
    · next hval =>
      obtain ⟨s1, h1⟩ := hnew (v := .document) hp (hval ▸ hv)
      unfold newDocument
      generalize f.newNode .document = nn at s1 h1 ⊢
      obtain ⟨f1, top⟩ := nn
      simp only at s1 h1 ⊢
      cases hc : cloneKids f1 top src.kids with
      | some f2 =>
        exact ⟨cloneKids_keeps hS hstep _ top f1 f2 hks s1 h1 hc, fun _ h => Option.some.inj h ▸ h1⟩
      | none => exact ⟨s1, fun _ h => nomatch h⟩
    · next name hval =>
      obtain ⟨s1, h1⟩ := hnew (v := .element name) hp (hval ▸ hv)
      unfold newElement
      generalize f.newNode (.element name) = nn at s1 h1 ⊢
      obtain ⟨f1, top⟩ := nn
      simp only at s1 h1 ⊢
      cases hc : cloneInto f1 top src with
      | some f2 =>
        simp only
        have s2 := cloneInto_keeps hS hstep _ top f1 f2 (hsrc src hg) s1 h1 hc
        cases hfc : f2.firstChild top with
        | some c => exact ⟨hsplice s2 h1, fun _ h => Option.some.inj h ▸ hfirst s2 h1 hfc⟩
        | none => exact ⟨s2, fun _ h => nomatch h⟩
      | none => exact ⟨s1, fun _ h => nomatch h⟩
    · exact ⟨(hnew hp hv).1, fun _ h => Option.some.inj h ▸ (hnew hp hv).2⟩

end Clone

end Composites

end Closed

/-- The same for a relation between the forest before and after: what is reflexive, transitive and
    holds across one replayed edge (`new_node`, then `any_append`) holds across the whole replay. -/
theorem cloneInto_rel {R : Forest → Forest → Prop} (hr : ∀ f, R f f)
    (ht : ∀ {f g k}, R f g → R g k → R f k)
    (hs : ∀ {f f2 : Forest} {v : Value} {cur : Nat} {r : Res} {n : Nat},
      (f.newNode v).1.anyAppend cur (f.newNode v).2 = (f2, r, n) → R f f2)
    (current : Nat) (t : HTree) (f f' : Forest) (hc : cloneInto f current t = some f') : R f f' :=
  Closed.cloneInto_keeps (P := R f) (A := fun _ => True) (S := fun _ => True) (Sv := fun _ => True)
    (fun _ => ⟨trivial, fun _ _ => trivial⟩) (fun hp _ _ => ⟨ht hp (hs rfl), trivial⟩)
    t current f f' trivial (hr f) trivial hc

theorem cloneKids_rel {R : Forest → Forest → Prop} (hr : ∀ f, R f f)
    (ht : ∀ {f g k}, R f g → R g k → R f k)
    (hs : ∀ {f f2 : Forest} {v : Value} {cur : Nat} {r : Res} {n : Nat},
      (f.newNode v).1.anyAppend cur (f.newNode v).2 = (f2, r, n) → R f f2)
    (current : Nat) (ks : List HTree) (f f' : Forest) (hc : cloneKids f current ks = some f') :
    R f f' :=
  Closed.cloneKids_keeps (P := R f) (A := fun _ => True) (S := fun _ => True) (Sv := fun _ => True)
    (fun _ => ⟨trivial, fun _ _ => trivial⟩) (fun hp _ _ => ⟨ht hp (hs rfl), trivial⟩)
    ks current f f' (fun _ _ => trivial) (hr f) trivial hc

/-- The C04 history type `Op` is the sub-language of `HStep` histories the public API can issue.  (Nothing of `Closed`
    is used: the theorem stands here for Lemmas/FinvHistory.lean and Lemmas/FlocalAll.lean, which both build on this
    file.) -/
theorem step_eq_stepAll (f : Forest) (o : Op) : f.step o = f.stepAll o.toStep := by
  cases o <;> rfl

end Forest
end XotModel
