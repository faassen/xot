/-
  The values of an edited tree are in the XML domain when the values handed to the API are (`Q = valueOK env`,
  Model/SerTokens.lean).  `create_missing_prefixes_for_element` inserts declarations `xmlns:n{k}="URI"` of namespaces
  of registered names under generated NCNames, and `xmlns=""`: all `valueOK` for the tables the call leaves, given
  well-formed tables and declarable namespaces (`fpvd_repairCalls`, `fpvd_createMissingPrefixes`).  Every extended call
  and history keeps `Store.FpvdOK` (invariant, well-formed tables, every value in the domain of the CURRENT tables)
  when the arguments are in the domain of the tables at the time of the call (`Store.argValuesOKAlong`): `fpvd_xstep`,
  `fpvd_xrun`.
-/
import XotModel.Lemmas.FparseValsOps
import XotModel.Lemmas.RepairRoundTrip
import XotModel.Lemmas.RepairWalk
import XotModel.Lemmas.FhistExt
import XotModel.Model.FparseHist

namespace XotModel
open HTree Repair

abbrev fpvdVal (env : Env) : Value → Prop := fun v => valueOK env v = true

theorem fpvd_qcat (env : Env) : fpvQCat (fpvdVal env) := by
  intro a b ha hb
  simp only [fpvdVal, valueOK, Bool.and_eq_true, Bool.not_eq_true', List.isEmpty_eq_false_iff] at ha hb ⊢
  refine ⟨?_, ?_⟩
  · intro h; exact ha.1 (List.append_eq_nil_iff.mp h).1
  · rw [List.all_append, ha.2, hb.2]; rfl

theorem fpv_QL_mono {Q Q' : Value → Prop} (h : ∀ v, Q v → Q' v) {ks : List HTree} (hq : fpvQL Q ks) : fpvQL Q' ks :=
  fun v hv => h v (hq v hv)

theorem fpvd_QF_ext {env env' : Env} (h : PrefixExt env env') {f : Forest} (hq : Forest.fpvQF (fpvdVal env) f) :
    Forest.fpvQF (fpvdVal env') f := fpv_QL_mono (fun v hv => valueOK_ext h v hv) hq

/-! ### `fpvQF` and `Tree.allNodes` of the erased trees -/

mutual
  theorem fpvd_allNodes_erase (P : Value → Bool) : ∀ t : HTree,
      (erase t).allNodes (fun v _ => P v) = true ↔ fpvQT (fun v => P v = true) t
    | .node h v ks => by
      rw [erase, Tree.allNodes, Bool.and_eq_true, fpvd_allList_erase P ks, fpv_QT_node]
  theorem fpvd_allList_erase (P : Value → Bool) : ∀ ks : List HTree,
      Tree.allNodes.allList (fun v _ => P v) (eraseList ks) = true ↔ fpvQL (fun v => P v = true) ks
    | [] => by simp [eraseList, Tree.allNodes.allList, fpv_QL_nil]
    | k :: ks => by
      rw [eraseList, Tree.allNodes.allList, Bool.and_eq_true, fpvd_allNodes_erase P k, fpvd_allList_erase P ks,
        fpv_QL_cons]
end

/-- "Every node of every tree of the forest has a value in the domain", as `Props` say it. -/
theorem fpvd_QF_iff (env : Env) (f : Forest) :
    Forest.fpvQF (fpvdVal env) f ↔ ∀ r ∈ f.roots, r.erase.allNodes (fun v _ => valueOK env v) = true := by
  unfold Forest.fpvQF
  rw [fpv_QL_iff]
  exact ⟨fun h r hr => (fpvd_allNodes_erase _ r).mpr (h r hr), fun h r hr => (fpvd_allNodes_erase _ r).mp (h r hr)⟩

/-! ### The arguments -/

theorem fpvd_newQ_of_argValuesOK {env : Env} (c : Forest.XCall) (h : c.argValuesOK env) :
    c.fpvNewQ (fpvdVal env) := by
  cases c with
  | call c => cases c <;> first | exact h | trivial
  | newNode v => exact h
  | cloneWithPrefixes n order => exact h
  | _ => trivial

/-! ### `create_missing_prefixes` -/

namespace Forest

/-- What `create_missing_prefixes_for_element(node)` is going to insert is in the domain of the tables it
    leaves. -/
theorem fpvd_repairCalls {env : Env} (he : envOK env = true) (htab : nameTableOK env = true) {f : Forest}
    {node : Nat} {env' : Env} {calls : List Call} (h : f.repairCalls env node = some (env', calls)) :
    PrefixExt env env' ∧ ∀ c ∈ calls, c.fpvNewQ (fpvdVal env') ∧ ¬ c.fpvIsTextContentSet := by
  obtain ⟨r, path, sub, nd, -, -, -, -, ha, rfl⟩ := repairCalls_some h
  rw [repairWalk_eq] at ha ⊢
  generalize hR : collectRec env.nsOfName (inheritedDecls r.erase path) path sub ⟨[], [], []⟩ = R at ha ⊢
  simp only [withAcc] at ha ⊢
  obtain ⟨s1, _⟩ := assignPrefixes_spec _ _ _ _ _ _ ha
  obtain ⟨hext, hgen⟩ := assignPrefixes_ext _ _ _ _ _ _ ha
  have he1 := envOK_ext hext he
  refine ⟨hext, fun c hc => ?_⟩
  rcases List.mem_append.mp hc with hc | hc
  · obtain ⟨d, hd, rfl⟩ := List.mem_map.mp hc
    refine ⟨?_, fun hh => hh⟩
    show valueOK env' (.namespace d.1 d.2) = true
    obtain ⟨s, hs1, hs2⟩ := hgen d hd
    have hmem : d.2 ∈ R.missing := by rw [← s1]; exact List.mem_map_of_mem hd
    rw [← hR] at hmem
    rcases mem_missing_collectRec env.nsOfName _ _ _ _ _ hmem with h0 | ⟨r0, r1, a, ra⟩
    · cases h0
    · refine valueOK_generated he1 hs1 hs2 ?_ r0 r1
      rw [ra, ← hext.nsOfName]
      exact nsStrOK_nsOfName (nameTableOK_ext hext htab) a
  · obtain ⟨up, _, hup⟩ := List.mem_filterMap.mp hc
    obtain ⟨hd, -, rfl⟩ := Option.map_eq_some_iff.mp hup
    exact ⟨valueOK_undeclaration he1, fun hx => hx⟩

theorem fpvd_repairElementF {env : Env} (he : envOK env = true) (htab : nameTableOK env = true) {f : Forest}
    (hq : fpvQF (fpvdVal env) f) (node : Nat) :
    PrefixExt env (f.repairElementF env node).2.1 ∧
      fpvQF (fpvdVal (f.repairElementF env node).2.1) (f.repairElementF env node).1 := by
  unfold repairElementF
  cases hr : f.repairCalls env node with
  | none => exact ⟨PrefixExt.refl _, hq⟩
  | some ec =>
    obtain ⟨env', calls⟩ := ec
    obtain ⟨hext, hcalls⟩ := fpvd_repairCalls he htab hr
    exact ⟨hext, fpv_runCalls (fpvd_qcat env') calls (fpvd_QF_ext hext hq) hcalls⟩

/-- `create_missing_prefixes(node)`: only the prefix table grows, and every value is in the domain of
    the tables the call leaves. -/
theorem fpvd_createMissingPrefixes {env : Env} (he : envOK env = true) (htab : nameTableOK env = true)
    {f : Forest} (hq : fpvQF (fpvdVal env) f) (node : Nat) :
    PrefixExt env (f.createMissingPrefixes env node).2.1 ∧
      fpvQF (fpvdVal (f.createMissingPrefixes env node).2.1) (f.createMissingPrefixes env node).1 := by
  exact Closed.createMissingPrefixes_keepsE
    (R := fun env' f' => PrefixExt env env' ∧ fpvQF (fpvdVal env') f')
    (fun e h =>
      have h1 := fpvd_repairElementF (envOK_ext h.1 he) (nameTableOK_ext h.1 htab) h.2 e
      ⟨h.1.trans h1.1, h1.2⟩)
    ⟨PrefixExt.refl env, hq⟩ node

end Forest

/-! ### Stores and histories -/

namespace Store

/-- The invariant of the value-level conditions along extended histories. -/
structure FpvdOK (s : Store) : Prop where
  inv : s.forest.Inv
  tables : envOK s.env = true
  names : nameTableOK s.env = true
  values : Forest.fpvQF (fpvdVal s.env) s.forest

/-- **One extended call keeps `FpvdOK`** when its arguments are in the domain of the current tables; only
    the prefix table grows. -/
theorem fpvd_xstep {s : Store} (h : s.FpvdOK) (c : Forest.XCall) (hw : c.wellKinded) (ha : c.argValuesOK s.env) :
    (s.xstep c).FpvdOK ∧ PrefixExt s.env (s.xstep c).env := by
  have hinv := Store.xstep_inv h.inv c hw
  by_cases hc : ∃ n, c = .createMissingPrefixes n
  · obtain ⟨n, rfl⟩ := hc
    obtain ⟨h1, h2⟩ := Forest.fpvd_createMissingPrefixes h.tables h.names h.values n
    exact ⟨⟨hinv, envOK_ext h1 h.tables, nameTableOK_ext h1 h.names, h2⟩, h1⟩
  · have hne : ∀ n, c ≠ .createMissingPrefixes n := fun n e => hc ⟨n, e⟩
    obtain ⟨h1, h2⟩ := Forest.fpv_xcall (fpvd_qcat s.env) h.inv h.values c (fpvd_newQ_of_argValuesOK c ha) hne
    have he : (s.xstep c).env = s.env := h2
    refine ⟨⟨hinv, by rw [he]; exact h.tables, by rw [he]; exact h.names, by rw [he]; exact h1⟩, ?_⟩
    rw [he]; exact PrefixExt.refl _

theorem fpvd_xrun : ∀ (cs : List Forest.XCall) {s : Store}, s.FpvdOK → (∀ c ∈ cs, c.wellKinded) →
    s.argValuesOKAlong cs → (s.xrun cs).FpvdOK ∧ PrefixExt s.env (s.xrun cs).env
  | [], s, h, _, _ => ⟨h, PrefixExt.refl _⟩
  | c :: cs, s, h, hw, ha => by
    obtain ⟨h1, h2⟩ := fpvd_xstep h c (hw c (List.mem_cons_self ..)) ha.1
    obtain ⟨h3, h4⟩ := fpvd_xrun cs h1 (fun c' h' => hw c' (List.mem_cons_of_mem _ h')) ha.2
    exact ⟨h3, h2.trans h4⟩

/-- Without `create_missing_prefixes` steps the tables do not change: the condition on the arguments
    can be stated once, for the tables of the start. -/
theorem fpvd_argValuesOKAlong_static : ∀ (cs : List Forest.XCall) (s : Store),
    (∀ c ∈ cs, ∀ n, c ≠ .createMissingPrefixes n) → (∀ c ∈ cs, c.argValuesOK s.env) → s.argValuesOKAlong cs
  | [], _, _, _ => trivial
  | c :: cs, s, hne, ha => by
    have he : (s.xstep c).env = s.env := by
      have := hne c (List.mem_cons_self ..)
      cases c with
      | createMissingPrefixes n => exact absurd rfl (this n)
      | _ => rfl
    refine ⟨ha c (List.mem_cons_self ..), fpvd_argValuesOKAlong_static cs _
      (fun c' h' => hne c' (List.mem_cons_of_mem _ h')) (fun c' h' => ?_)⟩
    rw [he]; exact ha c' (List.mem_cons_of_mem _ h')

end Store
end XotModel
