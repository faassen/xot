/-
  The two readings of a move agree on forests without adjacent text nodes.  On one child list
  the pair merges of `Model/FspecSpec3.lean` / `FspecSpec4.lean` (`mergeAdj`, `mergeNew`, `mergeNew3`)
  are the whole-run merge `mergeRuns` for every survivor rule with `KeepFor`; hence
  `specMoveP = specMove keep` for every rule with `KeepAt` (`specMoveP_eq_specMove_keep`).
-/
import XotModel.Lemmas.FspecPairList
import XotModel.Lemmas.FspecContent
import XotModel.Model.FspecSpec4
import XotModel.Lemmas.BasicFacts
import XotModel.Lemmas.FspecFrame

/-! ## One child list: the pair merges are the whole-run merge -/

namespace XotModel
open HTree Spec

namespace PairAll

/-- The pair merge of the specification for an optional pair of neighbours. -/
def adjOpt : Option Nat × Option Nat → List HTree → List HTree
  | (some a, some b) => mergeAdj a b
  | _ => id

theorem noAdj_pair {a b : HTree} {rest : List HTree} (h1 : ¬ (a.value.isText = true ∧ b.value.isText = true))
    (h2 : noAdjacentText (b :: rest) = true) : noAdjacentText (a :: b :: rest) = true := by
  rw [noAdj_cons_cons, Bool.and_eq_true]
  refine ⟨?_, h2⟩
  cases ha : a.value.isText <;> cases hb : b.value.isText <;> simp_all

theorem noAdj_snoc_cons {P : List HTree} {a b : HTree} {R : List HTree} (hP : noAdjacentText (P ++ [a]) = true)
    (hR : noAdjacentText (b :: R) = true) (hb : ¬ (a.value.isText = true ∧ b.value.isText = true)) :
    noAdjacentText ((P ++ [a]) ++ b :: R) = true := by
  refine noAdj_append.2 ⟨hP, hR, ?_⟩
  intro a' b' ha' hb'
  simp only [List.getLast?_concat, Option.some.injEq] at ha'
  simp only [List.head?_cons, Option.some.injEq] at hb'
  subst ha' hb'
  exact hb

theorem not_both_of_noAdj {a b : HTree} {rest : List HTree} (h : noAdjacentText (a :: b :: rest) = true) :
    ¬ (a.value.isText = true ∧ b.value.isText = true) := by
  rw [noAdj_cons_cons, Bool.and_eq_true] at h
  intro ⟨x, y⟩
  simp [x, y] at h

theorem noAdj_around_nontext {t : HTree} (ht : t.value.isText = false) {X Y : List HTree}
    (hX : noAdjacentText X = true) (hY : noAdjacentText Y = true) : noAdjacentText (X ++ t :: Y) = true := by
  refine noAdj_append.2 ⟨hX, ?_, ?_⟩
  · cases Y with
    | nil => rfl
    | cons y Y' => exact noAdj_pair (fun h' => by rw [ht] at h'; cases h'.1) hY
  · intro a b _ hb
    simp only [List.head?_cons, Option.some.injEq] at hb
    subst hb
    intro h'
    rw [ht] at h'; cases h'.2

theorem noAdj_insert_nontext {t : HTree} (ht : t.value.isText = false) {X Y : List HTree}
    (h : noAdjacentText (X ++ Y) = true) : noAdjacentText (X ++ t :: Y) = true :=
  noAdj_around_nontext ht (noAdj_append.1 h).1 (noAdj_append.1 h).2.1

/-- What the agreement of the two readings needs of a survivor rule, for the node `n` put in front
    of `B`: a resident node survives as the earlier one, and `n` does not survive a merge with what
    follows it.  `Keep.resident n` is such a rule; every rule of the first kind is one when nothing
    follows (`append`). -/
structure KeepFor (keep : Keep) (n : Nat) (B : List HTree) : Prop where
  resident : ∀ a b, a ≠ n → keep a b = true
  moved : ∀ z ∈ B.head?, keep n z.handle = false

theorem KeepFor.of_resident (n : Nat) (B : List HTree) : KeepFor (Keep.resident n) n B :=
  ⟨Keep.resident_spec n, fun _ _ => by simp [Keep.resident]⟩

/-! ### The pair merge around a node that has arrived (`mergeNew3`, and `mergeNew` where nothing follows a merge) -/

theorem mergeNew3_cons_cons (n : Nat) (x y : HTree) (rest : List HTree) :
    mergeNew3 n (x :: y :: rest) =
      if y.handle = n then
        ((joinLeft x y).map (fun j => absorbNext j rest)).getD (x :: mergeNewHead y rest)
      else if x.handle = n then mergeNewHead x (y :: rest)
      else x :: mergeNew3 n (y :: rest) := by
  rw [mergeNew3]

theorem mergeNew3_head {T : HTree} (B : List HTree) (hB : ∀ x ∈ B, x.handle ≠ T.handle) :
    mergeNew3 T.handle (T :: B) = mergeNewHead T B := by
  cases B with
  | nil => simp [mergeNew3, mergeNewHead]
  | cons y rest =>
    rw [mergeNew3_cons_cons, if_neg (hB y (by simp)), if_pos rfl]

theorem mergeNew3_mid {T a : HTree} (B : List HTree) :
    ∀ (A : List HTree), (∀ x ∈ A, x.handle ≠ T.handle) → a.handle ≠ T.handle →
      mergeNew3 T.handle (A ++ a :: T :: B) =
        ((joinLeft a T).map (fun j => A ++ absorbNext j B)).getD (A ++ a :: mergeNewHead T B)
  | [], _, ha => by
    simp only [List.nil_append]
    rw [mergeNew3_cons_cons, if_pos rfl]
  | x :: A, h, ha => by
    have hx : x.handle ≠ T.handle := h x (by simp)
    have ih := mergeNew3_mid (T := T) (a := a) B A (fun y hy => h y (List.mem_cons_of_mem _ hy)) ha
    cases A with
    | nil =>
      simp only [List.nil_append, List.cons_append] at ih ⊢
      rw [mergeNew3_cons_cons, if_neg ha, if_neg hx, ih]
      cases joinLeft a T <;> rfl
    | cons x' A' =>
      have hx' : x'.handle ≠ T.handle := h x' (by simp)
      simp only [List.cons_append] at ih ⊢
      rw [mergeNew3_cons_cons, if_neg hx', if_neg hx, ih]
      cases joinLeft a T <;> rfl

theorem absorbNext_nil (j : HTree) : absorbNext j [] = [j] := rfl

theorem absorbNext_cons (j z : HTree) (rest : List HTree) :
    absorbNext j (z :: rest) = ((joinLeft j z).map (fun j' => j' :: rest)).getD (j :: z :: rest) := rfl

/-- `mergeNew3` goes beyond `mergeNew` only where the node is merged into a text node before it
    and a text node follows. -/
theorem mergeNew3_eq_mergeNew {T : HTree} (A B : List HTree) (hA : ∀ x ∈ A, x.handle ≠ T.handle)
    (hB : ∀ x ∈ B, x.handle ≠ T.handle)
    (h : ∀ a b, A.getLast? = some a → B.head? = some b →
      ¬ (a.value.isText = true ∧ T.value.isText = true ∧ b.value.isText = true)) :
    mergeNew3 T.handle (A ++ T :: B) = mergeNew T.handle (A ++ T :: B) := by
  rcases List.eq_nil_or_concat A with e | ⟨A', a, e⟩
  · subst e
    rw [List.nil_append, mergeNew_head B hB, mergeNew3_head B hB]
  · rw [List.concat_eq_append] at e
    subst e
    have ha : a.handle ≠ T.handle := hA a (by simp)
    have hA' : ∀ x ∈ A', x.handle ≠ T.handle := fun x hx => hA x (by simp [hx])
    have e1 : (A' ++ [a]) ++ T :: B = A' ++ a :: T :: B := by simp
    rw [e1, mergeNew_mid B A' hA' ha, mergeNew3_mid B A' hA' ha]
    by_cases hb : a.value.isText = true ∧ T.value.isText = true
    · obtain ⟨s, hs⟩ := text_of_isText hb.1
      obtain ⟨u, hu⟩ := text_of_isText hb.2
      rw [joinLeft_text hs hu]
      cases B with
      | nil => rfl
      | cons b B' =>
        simp only [Option.map_some, Option.getD_some]
        rw [absorbNext_cons, joinLeft_none (fun h' => h a b (by simp) rfl ⟨hb.1, hb.2, h'.2⟩)]
        rfl
    · rw [joinLeft_none hb]
      rfl

theorem mergeNewHead_of_noAdj {t : HTree} {B : List HTree} (h : noAdjacentText (t :: B) = true) :
    mergeNewHead t B = t :: B := by
  cases B with
  | nil => rfl
  | cons z B' => exact mergeNewHead_other (not_both_of_noAdj h) B'

theorem mergeNew3_of_noAdj {n : Nat} : ∀ (L : List HTree), noAdjacentText L = true → mergeNew3 n L = L
  | [], _ => rfl
  | [x], _ => rfl
  | x :: y :: rest, h => by
    have hxy := not_both_of_noAdj h
    have hy := noAdj_tail h
    rw [mergeNew3_cons_cons, joinLeft_none hxy, mergeNewHead_of_noAdj hy, mergeNewHead_of_noAdj h,
      mergeNew3_of_noAdj (y :: rest) hy]
    split
    · rfl
    · split <;> rfl

/-- **The node at its new place**: `t` put between two lists that are each free of adjacent text
    (their ends may both be text: the gap that `replace` leaves).  Merging the maximal runs is the
    pair merge `mergeNew3`: `t` into its left neighbour, and that one with the right neighbour. -/
theorem mergeRuns_eq_mergeNew3 {keep : Keep} {t : HTree} (A B : List HTree) (hk : KeepFor keep t.handle B)
    (hnA : noAdjacentText A = true) (hnB : noAdjacentText B = true)
    (hA : ∀ x ∈ A, x.handle ≠ t.handle) (hB : ∀ x ∈ B, x.handle ≠ t.handle) :
    mergeRuns keep (A ++ t :: B) = mergeNew3 t.handle (A ++ t :: B) := by
  have right : ∀ (P : List HTree), noAdjacentText (P ++ [t]) = true →
      mergeRuns keep (P ++ t :: B) = P ++ mergeNewHead t B := by
    intro P hP
    cases B with
    | nil => rw [mergeNewHead_nil]; exact mergeRuns_id _ hP
    | cons z B' =>
      by_cases hb : t.value.isText = true ∧ z.value.isText = true
      · obtain ⟨u, hu⟩ := text_of_isText hb.1
        obtain ⟨w, hw⟩ := text_of_isText hb.2
        rw [mergeRuns_seam _ hu hw hP hnB, mergeNewHead_text hu hw]
        simp [join, hk.moved z rfl]
      · rw [mergeNewHead_other hb]
        apply mergeRuns_id
        have e : P ++ t :: z :: B' = (P ++ [t]) ++ z :: B' := by simp
        rw [e]
        exact noAdj_snoc_cons hP hnB hb
  rcases List.eq_nil_or_concat A with e | ⟨A', x, e⟩
  · subst e
    simp only [List.nil_append]
    rw [mergeNew3_head B hB]
    exact right [] rfl
  · rw [List.concat_eq_append] at e
    subst e
    have hxt : x.handle ≠ t.handle := hA x (by simp)
    have hA' : ∀ y ∈ A', y.handle ≠ t.handle := fun y hy => hA y (by simp [hy])
    have e1 : (A' ++ [x]) ++ t :: B = A' ++ x :: t :: B := by simp
    rw [e1, mergeNew3_mid B A' hA' hxt]
    by_cases hb : x.value.isText = true ∧ t.value.isText = true
    · obtain ⟨s, hs⟩ := text_of_isText hb.1
      obtain ⟨u, hu⟩ := text_of_isText hb.2
      rw [mergeRuns_seam' _ hs hu hnA, join_keep (hk.resident _ _ hxt), joinLeft_text hs hu]
      simp only [Option.map_some, Option.getD_some]
      congr 1
      cases B with
      | nil => rfl
      | cons z B' =>
        rw [absorbNext_cons]
        by_cases hz : z.value.isText = true
        · obtain ⟨w, hw⟩ := text_of_isText hz
          have hv : (x.setValue (.text (s ++ u))).value = .text (s ++ u) := by cases x; rfl
          rw [mergeInto_cons_text hv hw, joinLeft_text hv hw,
            join_keep (hk.resident _ _ (by rw [setValue_handle]; exact hxt))]
          exact mergeInto_id _ _ _ (noAdj_head hnB (by rw [hz]; cases x; rfl))
        · rw [joinLeft_none (fun h => hz h.2), mergeInto_cons_other (fun h => hz h.2), mergeInto_id _ _ _ hnB]
          rfl
    · rw [joinLeft_none hb]
      have := right (A' ++ [x]) (noAdj_snoc_cons hnA rfl hb)
      rw [e1] at this
      rw [this]
      simp

/-- For a move the child list was free of adjacent text before the node was put in: the second
    merge of `mergeNew3` finds nothing. -/
theorem mergeRuns_eq_mergeNew {keep : Keep} {t : HTree} (A B : List HTree) (hk : KeepFor keep t.handle B)
    (hAB : noAdjacentText (A ++ B) = true)
    (hA : ∀ x ∈ A, x.handle ≠ t.handle) (hB : ∀ x ∈ B, x.handle ≠ t.handle) :
    mergeRuns keep (A ++ t :: B) = mergeNew t.handle (A ++ t :: B) := by
  obtain ⟨hnA, hnB, hseam⟩ := noAdj_append.1 hAB
  rw [mergeRuns_eq_mergeNew3 A B hk hnA hnB hA hB]
  exact mergeNew3_eq_mergeNew A B hA hB (fun a b ha hb h => hseam a b ha hb ⟨h.1, h.2.2⟩)

theorem mergeNew_nontext' {n : Nat} : ∀ (L : List HTree), (∀ x ∈ L, x.handle = n → x.value.isText = false) →
    mergeNew n L = L
  | [], _ => mergeNew_nil n
  | [x], _ => mergeNew_single n x
  | x :: y :: rest, h => by
    rw [mergeNew_cons_cons]
    by_cases hy : y.handle = n
    · have hyt := h y (by simp) hy
      rw [if_pos hy, joinLeft_none (fun h' => by rw [hyt] at h'; cases h'.2), mergeNewHead_nontext hyt]
      rfl
    · rw [if_neg hy]
      by_cases hx : x.handle = n
      · rw [if_pos hx, mergeNewHead_nontext (h x (by simp) hx)]
      · rw [if_neg hx, mergeNew_nontext' (y :: rest) (fun z hz => h z (List.mem_cons_of_mem _ hz))]

/-- **The place the node has left**: in a child list `l ++ r` whose two parts are free of adjacent
    text, merging the maximal runs is merging the two nodes at the seam. -/
theorem mergeRuns_eq_mergeAdj {keep : Keep} {l r : List HTree} (hl : noAdjacentText l = true)
    (hr : noAdjacentText r = true) (nd : (handlesList (l ++ r)).Nodup)
    (hkeep : ∀ a, l.getLast? = some a → ∀ b, keep a.handle b = true) :
    mergeRuns keep (l ++ r) = adjOpt (l.getLast?.map (·.handle), r.head?.map (·.handle)) (l ++ r) := by
  cases hla : l.getLast? with
  | none =>
    have : l = [] := List.getLast?_eq_none_iff.1 hla
    subst this
    exact mergeRuns_id keep hr
  | some a =>
    cases hrb : r.head? with
    | none =>
      have : r = [] := List.head?_eq_none_iff.1 hrb
      subst this
      rw [List.append_nil]
      exact mergeRuns_id keep hl
    | some b =>
      obtain ⟨l', el⟩ := List.getLast?_eq_some_iff.1 hla
      obtain ⟨r', er⟩ := List.head?_eq_some_iff.1 hrb
      subst el er
      simp only [Option.map_some, adjOpt]
      have e : (l' ++ [a]) ++ b :: r' = l' ++ a :: b :: r' := by simp
      rw [e] at nd ⊢
      have tl := (tops_ne_of_nodup nd).1
      by_cases hb : a.value.isText = true ∧ b.value.isText = true
      · obtain ⟨x, hx⟩ := text_of_isText hb.1
        obtain ⟨y, hy⟩ := text_of_isText hb.2
        rw [mergeRuns_seam keep hx hy hl hr, join_keep (hkeep a (by simp) _), mergeAdj_mid_text hx hy r' tl]
      · rw [mergeAdj_mid_other hb r' tl]
        apply mergeRuns_id
        rw [← e]
        exact noAdj_snoc_cons hl hr hb

theorem split_not_at_seam {A B l' r' : List HTree} {a b : HTree} (h : A ++ B = l' ++ a :: b :: r')
    (hne : ¬ (A = l' ++ [a] ∧ B = b :: r')) :
    (∃ M, l' = A ++ M ∧ B = M ++ a :: b :: r') ∨ (∃ M, A = l' ++ a :: b :: M ∧ r' = M ++ B) := by
  have h' : A ++ B = (l' ++ [a]) ++ b :: r' := by rw [h]; simp
  rcases List.append_eq_append_iff.1 h' with ⟨M, e1, e2⟩ | ⟨M, e1, e2⟩
  · -- `l' ++ [a] = A ++ M`
    rcases List.eq_nil_or_concat M with hM | ⟨M', z, hM⟩
    · subst hM
      exact absurd ⟨by simpa using e1.symm, by simpa using e2⟩ hne
    · rw [List.concat_eq_append] at hM
      subst hM
      have e1' : l' ++ [a] = (A ++ M') ++ [z] := by rw [e1]; simp
      obtain ⟨e3, e4⟩ := List.append_inj' e1' rfl
      cases e4
      left
      exact ⟨M', e3, by rw [e2]; simp⟩
  · -- `A = (l' ++ [a]) ++ M`
    cases M with
    | nil =>
      exact absurd ⟨by simpa using e1, by simpa using e2.symm⟩ hne
    | cons z M' =>
      simp only [List.cons_append] at e2
      injection e2 with e3 e4
      subst e3
      right
      exact ⟨M', by rw [e1]; simp, e4⟩

/-- **One child list, both places**: the node `t` leaves `l ++ t :: r` (free of adjacent text) and
    is put back between `A` and `B` (`A ++ B = l ++ r`), not into the seam between two text nodes:
    the whole-run merge is the pair merge at the seam followed by the merge of `t` with a neighbour. -/
theorem same_list {keep : Keep} {l r A B : List HTree} {t : HTree} (hk : KeepFor keep t.handle B)
    (nd : (handlesList (l ++ t :: r)).Nodup)
    (hna : noAdjacentText (l ++ t :: r) = true) (hAB : A ++ B = l ++ r)
    (hnotseam : ∀ a b, l.getLast? = some a → r.head? = some b → a.value.isText = true → b.value.isText = true →
      ¬ (A = l ∧ B = r)) :
    mergeNew t.handle (adjOpt (l.getLast?.map (·.handle), r.head?.map (·.handle)) (A ++ t :: B)) =
      mergeRuns keep (mergeRuns keep (A ++ t :: B)) := by
  rw [mergeRuns_idem]
  obtain ⟨hnl, hntr, hseam1⟩ := noAdj_append.1 hna
  have hnr : noAdjacentText r = true := noAdj_tail hntr
  obtain ⟨tl, tr⟩ := tops_ne_of_nodup nd
  have hlr : ∀ x ∈ A ++ B, x.handle ≠ t.handle := fun x hx =>
    (List.mem_append.1 (hAB ▸ hx)).elim (tl x) (tr x)
  have hA : ∀ x ∈ A, x.handle ≠ t.handle := fun x hx => hlr x (List.mem_append_left _ hx)
  have hB : ∀ x ∈ B, x.handle ≠ t.handle := fun x hx => hlr x (List.mem_append_right _ hx)
  have hsub : ∀ x ∈ A ++ t :: B, x ∈ l ++ t :: r := fun x hx =>
    mem_insert_iff.2 ((mem_insert_iff.1 hx).imp_right (hAB ▸ ·))
  -- the seam is not a pair of text nodes: nothing is merged there
  have plain : (∀ a b, l.getLast? = some a → r.head? = some b → ¬ (a.value.isText = true ∧ b.value.isText = true)) →
      mergeNew t.handle (adjOpt (l.getLast?.map (·.handle), r.head?.map (·.handle)) (A ++ t :: B)) =
        mergeRuns keep (A ++ t :: B) := by
    intro hs
    have hnoAB : noAdjacentText (A ++ B) = true := by
      rw [hAB]; exact noAdj_append.2 ⟨hnl, hnr, hs⟩
    rw [mergeRuns_eq_mergeNew A B hk hnoAB hA hB]
    congr 1
    cases hla : l.getLast? with
    | none => rfl
    | some a =>
      cases hrb : r.head? with
      | none => rfl
      | some b =>
        simp only [Option.map_some, adjOpt]
        have hal : a ∈ l ++ t :: r := List.mem_append_left _ (List.mem_of_getLast? hla)
        have hbr : b ∈ l ++ t :: r := List.mem_append_right _ (List.mem_cons_of_mem _ (List.mem_of_head? hrb))
        apply mergeAdj_noop
        intro x hx y hy ex ey
        rw [PairAfter.eq_of_handle nd (hsub x hx) hal ex, PairAfter.eq_of_handle nd (hsub y hy) hbr ey]
        exact hs a b hla hrb
  by_cases hs : ∃ a b, l.getLast? = some a ∧ r.head? = some b ∧ (a.value.isText = true ∧ b.value.isText = true)
  case neg => exact plain (fun a b ha hb hab => hs ⟨a, b, ha, hb, hab⟩)
  · -- the node stood between two text nodes: it is not a text node
    obtain ⟨a, b, hla, hrb, hab⟩ := hs
    obtain ⟨l', el⟩ := List.getLast?_eq_some_iff.1 hla
    obtain ⟨r', er⟩ := List.head?_eq_some_iff.1 hrb
    subst el er
    have htn : t.value.isText = false := by
      cases h : t.value.isText with
      | false => rfl
      | true => exact absurd ⟨hab.1, h⟩ (hseam1 a t (by simp) rfl)
    obtain ⟨x, hx⟩ := text_of_isText hab.1
    obtain ⟨y, hy⟩ := text_of_isText hab.2
    have hat : a.handle ≠ t.handle := tl a (by simp)
    simp only [List.getLast?_concat, List.head?_cons, Option.map_some, adjOpt]
    have hAB' : A ++ B = l' ++ a :: b :: r' := by rw [hAB]; simp
    have hne : ¬ (A = l' ++ [a] ∧ B = b :: r') := hnotseam a b (by simp) rfl hab.1 hab.2
    have hnoLR : noAdjacentText (l' ++ [a]) = true := hnl
    -- both sides are the list with `a b` merged into `a`
    have both : ∀ (X Y : List HTree), A ++ t :: B = X ++ a :: b :: Y → noAdjacentText (X ++ [a]) = true →
        noAdjacentText (b :: Y) = true → (∀ k ∈ X, k.handle ≠ a.handle) →
        mergeNew t.handle (mergeAdj a.handle b.handle (A ++ t :: B)) =
          mergeRuns keep (A ++ t :: B) := by
      intro X Y e h1 h2 hX
      rw [e, mergeAdj_mid_text hx hy Y hX, mergeRuns_seam _ hx hy h1 h2, join_keep (hk.resident _ _ hat)]
      -- the only node with the handle of `t` is `t`, which is not text
      have key : ∀ k ∈ X ++ a :: b :: Y, k.handle = t.handle → k.value.isText = false := fun k hk hkt => by
        rw [PairAfter.eq_of_handle nd (hsub k (e ▸ hk)) (by simp) hkt]
        exact htn
      refine mergeNew_nontext' _ (fun k hk hkt => ?_)
      rcases List.mem_append.1 hk with h | h
      · exact key k (List.mem_append_left _ h) hkt
      · rcases List.mem_cons.1 h with h' | h'
        · rw [h', setValue_handle] at hkt
          exact absurd hkt hat
        · exact key k (List.mem_append_right _ (List.mem_cons_of_mem _ (List.mem_cons_of_mem _ h'))) hkt
    have ndLR : (handlesList (l' ++ a :: b :: r')).Nodup := by
      refine List.Sublist.nodup ?_ nd
      simp only [handlesList_append, handlesList_cons, handlesList_nil, List.append_nil, List.append_assoc]
      exact (List.Sublist.refl _).append ((List.Sublist.refl _).append (List.sublist_append_right _ _))
    rcases split_not_at_seam hAB' hne with ⟨M, e1, e2⟩ | ⟨M, e1, e2⟩
    · -- `t` stands before the pair
      subst e1 e2
      refine both (A ++ t :: M) r' (by simp) ?_ (noAdj_tail hntr) ?_
      · rw [List.append_assoc, List.cons_append]
        apply noAdj_insert_nontext htn
        rw [← List.append_assoc]
        exact hnoLR
      · intro k hk
        rcases mem_insert_iff.1 hk with rfl | h
        · exact fun e => hat e.symm
        · exact (tops_ne_of_nodup (show (handlesList ((A ++ M) ++ a :: b :: r')).Nodup from ndLR)).1 k h
    · -- `t` stands behind the pair
      subst e1 e2
      refine both l' (M ++ t :: B) (by simp) hnoLR ?_ (tops_ne_of_nodup ndLR).1
      · show noAdjacentText ((b :: M) ++ t :: B) = true
        apply noAdj_insert_nontext htn
        exact noAdj_tail hntr

end PairAll
end XotModel

/-! ## `specMoveP = specMove keep` -/

namespace XotModel
open HTree Spec

namespace PairAll

/-! ### The pair merge as an edit -/

theorem mergeLeftAt_eq_adjOpt {g : Forest} (hc : g.consolidation = true) (p : Nat) (nb : Option Nat × Option Nat) :
    g.mergeLeftAt (some p) nb = g.editAt (some p) (adjOpt nb) := by
  obtain ⟨oa, ob⟩ := nb
  cases oa with
  | none => rw [Forest.mergeLeftAt_none_left]; exact (Forest.editAt_id g (some p)).symm
  | some a =>
    cases ob with
    | none => rw [Forest.mergeLeftAt_none_right]; exact (Forest.editAt_id g (some p)).symm
    | some b => rw [Forest.mergeLeftAt_some, hc, if_pos rfl]; rfl

theorem adjOpt_ind {P : (List HTree → List HTree) → Prop} (hid : P id) (hm : ∀ a b, P (mergeAdj a b))
    (nb : Option Nat × Option Nat) : P (adjOpt nb) := by
  obtain ⟨oa, ob⟩ := nb
  cases oa with
  | none => exact hid
  | some a =>
    cases ob with
    | none => exact hid
    | some b => exact hm a b

theorem natFor_adjOpt {φ : HTree → HTree} (hφ : KidMap φ) (nb : Option Nat × Option Nat) : NatFor φ (adjOpt nb) :=
  adjOpt_ind (natFor_id φ) (natFor_mergeAdj hφ) nb

/-! ### The pair merges merge adjacent text -/

end PairAll

namespace Spec.TextMerge

theorem of_joinLeft {x y j : HTree} (h : joinLeft x y = some j) (rest : List HTree) :
    TextMerge (x :: y :: rest) (j :: rest) := by
  unfold joinLeft at h
  split at h
  · rename_i s u hs hu
    exact join rest hs hu (Or.inl (Option.some.inj h).symm)
  · cases h

theorem of_mergeAdj (a b : Nat) : ∀ L : List HTree, TextMerge L (mergeAdj a b L)
  | [] => by rw [mergeAdj_nil]; exact refl _
  | [x] => by rw [mergeAdj_single]; exact refl _
  | x :: y :: rest => by
    rw [mergeAdj_cons_cons]
    split
    · cases hj : joinLeft x y with
      | none => exact refl _
      | some j => exact of_joinLeft hj rest
    · exact (of_mergeAdj a b (y :: rest)).cons x

theorem of_mergeNewHead (t : HTree) (B : List HTree) : TextMerge (t :: B) (mergeNewHead t B) := by
  rcases PairAll.mergeNewHead_cases t B with e | ⟨z, rest, u, w, rfl, hu, hw, e⟩
  · rw [e]; exact refl _
  · rw [e]; exact join rest hu hw (Or.inr rfl)

theorem of_absorbNext (j : HTree) : ∀ rest : List HTree, TextMerge (j :: rest) (absorbNext j rest)
  | [] => refl _
  | z :: rest => by
    rw [PairAll.absorbNext_cons]
    cases hj : joinLeft j z with
    | none => exact refl _
    | some j' => exact of_joinLeft hj rest

theorem of_mergeNew (n : Nat) : ∀ L : List HTree, TextMerge L (mergeNew n L)
  | [] => by rw [mergeNew_nil]; exact refl _
  | [x] => by rw [mergeNew_single]; exact refl _
  | x :: y :: rest => by
    rw [mergeNew_cons_cons]
    split
    · cases hj : joinLeft x y with
      | none => exact (of_mergeNewHead y rest).cons x
      | some j => exact of_joinLeft hj rest
    · split
      · exact of_mergeNewHead x (y :: rest)
      · exact (of_mergeNew n (y :: rest)).cons x

theorem of_mergeNew3 (n : Nat) : ∀ L : List HTree, TextMerge L (mergeNew3 n L)
  | [] => refl _
  | [x] => refl _
  | x :: y :: rest => by
    rw [PairAll.mergeNew3_cons_cons]
    split
    · cases hj : joinLeft x y with
      | none => exact (of_mergeNewHead y rest).cons x
      | some j => exact (of_joinLeft hj rest).trans (of_absorbNext j rest)
    · split
      · exact of_mergeNewHead x (y :: rest)
      · exact (of_mergeNew3 n (y :: rest)).cons x

theorem text_mem {P : HTree → Prop} (hP : ∀ k v, P k → P (k.setValue v)) {L L' : List HTree} (hm : TextMerge L L')
    (h : ∀ k ∈ L, k.value.isText = true → P k) : ∀ k ∈ L', k.value.isText = true → P k := by
  intro k hk hkt
  rcases hm.mem_cases k hk with e | ⟨a, ha, hat, s, hs⟩
  · exact h k e hkt
  · rw [hs]; exact hP _ _ (h a ha hat)

end Spec.TextMerge

/-! ### The optional pair merges (consolidation on / off) as list functions -/

/-- The merges of the replacing node at its new place, or nothing. -/
def new3Opt (c : Bool) (n : Nat) : List HTree → List HTree :=
  if c then mergeNew3 n else id

theorem mergeNew3At_eq_new3Opt (g : Forest) (q n : Nat) :
    g.mergeNew3At q n = g.editAt (some q) (new3Opt g.consolidation n) := by
  unfold new3Opt Forest.mergeNew3At
  cases hc : g.consolidation with
  | false => simp only [Bool.false_eq_true, if_false]; exact (Forest.editAt_id g (some q)).symm
  | true => simp only [if_true]

namespace PairAll

/-- The pair merge at the place a node has left, or nothing. -/
def pairOpt (c : Bool) (nb : Option Nat × Option Nat) : List HTree → List HTree :=
  if c then adjOpt nb else id

theorem mergeLeftAt_eq_pairOpt (g : Forest) (p : Nat) (nb : Option Nat × Option Nat) :
    g.mergeLeftAt (some p) nb = g.editAt (some p) (pairOpt g.consolidation nb) := by
  unfold pairOpt
  cases hc : g.consolidation with
  | false => rw [Forest.mergeLeftAt_off hc]; exact (Forest.editAt_id g (some p)).symm
  | true => exact mergeLeftAt_eq_adjOpt hc p nb

theorem pairOpt_ind {P : (List HTree → List HTree) → Prop} (hid : P id) (hm : ∀ a b, P (mergeAdj a b)) (c : Bool)
    (nb : Option Nat × Option Nat) : P (pairOpt c nb) := by
  unfold pairOpt
  split
  · exact adjOpt_ind hid hm nb
  · exact hid

theorem _root_.XotModel.Spec.TextMerge.of_pairOpt (c : Bool) (nb : Option Nat × Option Nat) (L : List HTree) :
    TextMerge L (pairOpt c nb L) :=
  pairOpt_ind (P := fun g => TextMerge L (g L)) (.refl L) (fun a b => .of_mergeAdj a b L) c nb

theorem pairOpt_sublist (c : Bool) (nb : Option Nat × Option Nat) (L : List HTree) :
    (handlesList (pairOpt c nb L)).Sublist (handlesList L) :=
  (TextMerge.of_pairOpt c nb L).handles_sublist

theorem findList?_pairOpt {z : Nat} (c : Bool) (nb : Option Nat × Option Nat) {L : List HTree} (h : LeafZ z L) :
    findList? z (pairOpt c nb L) = findList? z L :=
  ((TextMerge.of_pairOpt c nb L).leafZ h).2

theorem natFor_pairOpt {φ : HTree → HTree} (hφ : KidMap φ) (c : Bool) (nb : Option Nat × Option Nat) :
    NatFor φ (pairOpt c nb) :=
  pairOpt_ind (natFor_id φ) (natFor_mergeAdj hφ) c nb

/-- The merge of the node `n` at its new place, or nothing. -/
def newOpt (c : Bool) (n : Nat) : List HTree → List HTree :=
  if c then mergeNew n else id

theorem mergeNewAt_eq_newOpt (g : Forest) (q n : Nat) :
    g.mergeNewAt q n = g.editAt (some q) (newOpt g.consolidation n) := by
  unfold newOpt
  cases hc : g.consolidation with
  | false => rw [Forest.mergeNewAt_off hc]; exact (Forest.editAt_id g (some q)).symm
  | true => exact Forest.mergeNewAt_on hc q n

/-- The child list of another parent `q` after the node `k` has left the child list of `po` and
    the pair it separated has been merged: the children of `q` are edited below, if at all. -/
theorem site_after_leave {f : Forest} {po q : Nat} {vo vq : Value} {l r Lq : List HTree} {k : HTree}
    (so : SiteAt f po vo (l ++ k :: r)) (sq : SiteAt f q vq Lq) {b : Bool} (hv : validList b f.roots = true)
    (hne : po ≠ q) (hqk : q ∉ handles k) (hvq : vq.isText = false) (c : Bool) (nb : Option Nat × Option Nat) :
    SiteAt (f.editAt (some po) (pairOpt c nb ∘ dropTop k.handle)) q vq
      (Lq.map (HTree.editAt po (pairOpt c nb ∘ dropTop k.handle))) :=
  so.after_leave sq hv hne hqk hvq (pairOpt c nb) (pairOpt_sublist c nb) (fun _ h => findList?_pairOpt c nb h)

/-- At the place the child `t` has left, in a forest without adjacent text nodes, the pair merge
    of its two neighbours is the merge of the runs. -/
theorem pairOpt_eq_mergeOpt {f : Forest} {p : Nat} {v : Value} {l : List HTree} {t : HTree} {r : List HTree}
    {keep : Keep} (norm : f.Normal) (so : SiteAt f p v (l ++ t :: r))
    (hkeep : ∀ a b, a ≠ t.handle → keep a b = true) :
    pairOpt f.consolidation (f.nbOf t.handle) (l ++ r) = mergeOpt f.consolidation keep (l ++ r) := by
  obtain ⟨ndL, _⟩ := so.nodupKids
  obtain ⟨tl, tr⟩ := tops_ne_of_nodup ndL
  rw [so.nbOf]
  unfold pairOpt mergeOpt
  cases hc : f.consolidation with
  | false => rfl
  | true =>
    simp only [if_true]
    have hnoL : noAdjacentText (l ++ t :: r) = true := (validTree_node (so.valid (norm hc))).2.2.1 rfl
    obtain ⟨hnl, hnkr, _⟩ := noAdj_append.1 hnoL
    have ndlr : (handlesList (l ++ r)).Nodup := by
      rw [← dropTop_mid rfl tl tr]
      exact (handlesList_dropTop_sublist _ _).nodup ndL
    exact (mergeRuns_eq_mergeAdj hnl (noAdj_tail hnkr) ndlr (fun a ha b => hkeep _ _ (tl a (List.mem_of_getLast? ha)))).symm

/-- The same for the forest: cutting `t` out and merging the pair it separated is cutting it out and
    merging the runs. -/
theorem cut_pairOpt_eq_mergeOpt {f : Forest} {p : Nat} {v : Value} {l : List HTree} {t : HTree} {r : List HTree}
    {keep : Keep} (norm : f.Normal) (so : SiteAt f p v (l ++ t :: r))
    (hkeep : ∀ a b, a ≠ t.handle → keep a b = true) :
    f.editAt (some p) (pairOpt f.consolidation (f.nbOf t.handle) ∘ dropTop t.handle) =
      f.editAt (some p) (mergeOpt f.consolidation keep ∘ dropTop t.handle) := by
  obtain ⟨tl, tr⟩ := tops_ne_of_nodup so.nodupKids.1
  apply so.congr
  simp only [Function.comp]
  rw [dropTop_mid rfl tl tr]
  exact pairOpt_eq_mergeOpt norm so hkeep

/-! ### Where the insertion goes -/

theorem insert_split (dest : Dest) (t : HTree) (L : List HTree)
    (href : ∀ x, (dest = .after x ∨ dest = .before x) → IsTop x L) :
    ∃ A B, L = A ++ B ∧ dest.insert t L = A ++ t :: B ∧ SplitInfo dest L A B := by
  rcases dest.insert_cases t L with ⟨⟨x, hx, hno⟩, _⟩ | h
  · exact absurd (href x hx) hno
  · exact h

theorem isTop_map {φ : HTree → HTree} (hφ : KidMap φ) {x : Nat} {L : List HTree} (h : IsTop x L) :
    IsTop x (L.map φ) := by
  obtain ⟨k, hk, e⟩ := h
  exact ⟨φ k, List.mem_map_of_mem hk, by rw [hφ.handle, e]⟩

theorem handlesTop_map {φ : HTree → HTree} (hφ : KidMap φ) {n : Nat} {L : List HTree}
    (h : ∀ k ∈ L, k.handle ≠ n) : ∀ k ∈ L.map φ, k.handle ≠ n := by
  intro k hk
  obtain ⟨k0, hk0, e⟩ := List.mem_map.1 hk
  rw [← e, hφ.handle]
  exact h k0 hk0

theorem ref_isTop {f : Forest} {dest : Dest} {q : Nat} {vq : Value} {Lq : List HTree} (sq : SiteAt f q vq Lq)
    (hsite : dest.site f = some q) : ∀ x, (dest = .after x ∨ dest = .before x) → IsTop x Lq := by
  intro x hx
  have hp : f.parent? x = some q := by
    rcases hx with e | e <;> (subst e; exact hsite)
  cases hc : f.ctx? x with
  | none => rw [Forest.parent?_of_no_ctx hc] at hp; cases hp
  | some cx =>
    obtain ⟨e0, v, s⟩ := SiteAt.of_ctx sq.nd hc
    rw [Forest.parent?_of_ctx? hc] at hp
    have hq := Option.some.inj hp
    have := s.kids
    rw [hq, sq.kids] at this
    injection (Option.some.inj this) with _ _ e3
    rw [e3]
    exact ⟨cx.self, List.mem_append_right _ List.mem_cons_self, e0⟩

/-- The survivor rules for which the two readings of a move of `c` to `dest` agree: a resident
    node survives as the earlier one; the moved node does not survive as the earlier one, unless it
    becomes the last child (nothing follows it).  `Keep.resident c` always; `Keep.earlier` for `append`. -/
structure KeepAt (keep : Keep) (c : Nat) (dest : Dest) : Prop where
  resident : ∀ a b, a ≠ c → keep a b = true
  moved : (∀ p, dest ≠ .lastChildOf p) → ∀ b, keep c b = false

theorem KeepAt.of_resident (c : Nat) (dest : Dest) : KeepAt (Keep.resident c) c dest :=
  ⟨Keep.resident_spec c, fun _ _ => by simp [Keep.resident]⟩

theorem KeepAt.last {keep : Keep} {c p : Nat} (h : ∀ a b, a ≠ c → keep a b = true) :
    KeepAt keep c (.lastChildOf p) :=
  ⟨h, fun hne => absurd rfl (hne p)⟩

theorem KeepAt.for {keep : Keep} {c : Nat} {dest : Dest} (hk : KeepAt keep c dest) {L A B : List HTree}
    (hinfo : SplitInfo dest L A B) : KeepFor keep c B := by
  refine ⟨hk.resident, fun z hz => ?_⟩
  cases dest with
  | lastChildOf p => rw [show B = [] from hinfo] at hz; cases hz
  | firstNormalChildOf p => exact hk.moved (fun _ e => nomatch e) _
  | after x => exact hk.moved (fun _ e => nomatch e) _
  | before x => exact hk.moved (fun _ e => nomatch e) _

/-- The three geometries share this: at the destination, in a forest `Y` in which the parent `q`
    has a child list that does not hold `c` and, when the flag is on, is free of adjacent text. -/
theorem dest_step {keep : Keep} {Y : Forest} {q : Nat} {vq : Value} {LY : List HTree} {dest : Dest} {t : HTree}
    (hk : KeepAt keep t.handle dest) (c : Bool)
    (sY : SiteAt Y q vq LY) (hno : c = true → noAdjacentText LY = true) (hc : ∀ k ∈ LY, k.handle ≠ t.handle)
    (href : ∀ x, (dest = .after x ∨ dest = .before x) → IsTop x LY) :
    Y.editAt (some q) (newOpt c t.handle ∘ dest.insert t) =
      Y.editAt (some q) (mergeOpt c keep ∘ dest.insert t) := by
  cases c with
  | false => rfl
  | true =>
    apply sY.congr
    simp only [Function.comp, newOpt, mergeOpt, if_true]
    obtain ⟨A, B, hL, hins, hinfo⟩ := insert_split dest t LY href
    rw [hins]
    subst hL
    exact (mergeRuns_eq_mergeNew A B (hk.for hinfo) (hno rfl) (fun x hx => hc x (List.mem_append_left _ hx))
      (fun x hx => hc x (List.mem_append_right _ hx))).symm

/-- **The two readings agree on forests without adjacent text nodes.** -/
theorem specMoveP_eq_specMove_keep {keep : Keep} {f : Forest} {dest : Dest} {c : Nat} {t : HTree} {q : Nat}
    {vq : Value} {Lq : List HTree} (hk : KeepAt keep c dest) (inv : f.Inv) (norm : f.Normal)
    (hgc : f.get? c = some t) (sq : SiteAt f q vq Lq)
    (hqt : q ∉ handles t) (hvq : vq.isText = false) (hsite : dest.site f = some q)
    (hrefc : ∀ x, (dest = .after x ∨ dest = .before x) → x ≠ c) :
    specMoveP dest c f = specMove keep dest c f := by
  have nd := inv.nodup
  have htc : t.handle = c := (findList?_some f.roots t hgc).1
  cases hocc : dest.occupiedBy f c with
  | true => unfold specMoveP specMove; rw [hocc]; rfl
  | false =>
  rw [specMoveP_unfold hocc hgc hsite, specMove_unfold hocc hgc hsite]
  have hrefq := ref_isTop sq hsite
  have hnoq : f.consolidation = true → noAdjacentText Lq = true :=
    fun hc => (validTree_node (sq.valid (norm hc))).2.2.1 rfl
  subst htc
  rcases PairAll.root_or_site nd hgc with hroot | ⟨po, vo, l, r, hctx, so⟩
  · -- the moved node is a parentless tree
    have hno := Forest.ctx_none_of_root nd hroot
    -- every merge as an edit by a list function that holds the flag, which is that of `f`
    rw [Forest.parent?_of_no_ctx hno, Forest.nbOf_root (Forest.parent?_of_no_ctx hno), Forest.mergeLeftAt_none,
      mergeAt_none, mergeNewAt_eq_newOpt, mergeAt_eq_mergeOpt]
    simp only [Forest.editAt_consolidation]
    rw [Forest.editAt_editAt, Forest.editAt_editAt]
    apply dest_step hk _ (sq.dropRoot hgc hqt) hnoq _ hrefq
    intro k hk e
    -- a child of `q` is not a parentless tree
    have := PairAfter.site_parent sq hk
    rw [e, Forest.parent?_of_no_ctx hno] at this
    cases this
  · have hpar : f.parent? t.handle = some po := Forest.parent?_of_ctx? hctx
    rw [hpar, mergeNewAt_eq_newOpt, mergeLeftAt_eq_pairOpt, mergeAt_eq_mergeOpt, mergeAt_eq_mergeOpt]
    simp only [Forest.editAt_consolidation]
    obtain ⟨ndL, _⟩ := so.nodupKids
    obtain ⟨tl, tr⟩ := tops_ne_of_nodup ndL
    have hdrop : dropTop t.handle (l ++ t :: r) = l ++ r := dropTop_mid rfl tl tr
    by_cases hpq : po = q
    · -- one child list
      subst hpq
      obtain rfl : Lq = l ++ t :: r := by
        injection Option.some.inj (sq.kids.symm.trans so.kids)
      rw [Forest.editAt_editAt, Forest.editAt_editAt, Forest.editAt_editAt, Forest.editAt_editAt,
        Forest.editAt_editAt, Forest.editAt_editAt]
      apply so.congr
      cases hcons : f.consolidation with
      | false => rfl
      | true =>
      simp only [Function.comp, newOpt, pairOpt, mergeOpt, if_true]
      rw [so.nbOf, hdrop]
      have hreflr : ∀ x, (dest = .after x ∨ dest = .before x) → IsTop x (l ++ r) := by
        intro x hx
        obtain ⟨k', hk', e⟩ := hrefq x hx
        refine ⟨k', ?_, e⟩
        rcases mem_insert_iff.1 hk' with h' | h'
        · exact absurd (h' ▸ e) (fun e' => hrefc x hx e'.symm)
        · exact h'
      obtain ⟨A, B, hAB, hins, hinfo⟩ := insert_split dest t (l ++ r) hreflr
      rw [hins]
      apply same_list (hk.for hinfo) ndL (hnoq hcons) hAB.symm
      -- the node is not put back between the two text nodes it separated
      intro a b hla hrb hat hbt ⟨eA, eB⟩
      subst eA eB
      obtain ⟨l', el⟩ := List.getLast?_eq_some_iff.1 hla
      obtain ⟨r', er⟩ := List.head?_eq_some_iff.1 hrb
      subst el er
      cases dest with
      | lastChildOf p => exact List.cons_ne_nil _ _ hinfo
      | firstNormalChildOf p =>
        have hmem : a ∈ ((l' ++ [a]) ++ b :: r').takeWhile abn := by
          have hinfo' : l' ++ [a] = ((l' ++ [a]) ++ b :: r').takeWhile abn := hinfo
          rw [← hinfo']; simp
        have := takeWhile_abn_all _ a hmem
        rw [Forest.normal_of_isText hat] at this
        cases this
      | after x =>
        obtain ⟨k', hk', ek'⟩ := hinfo
        simp only [List.getLast?_concat, Option.some.injEq] at hk'
        subst hk'
        have s' : SiteAt f po vo (l' ++ a :: (t :: b :: r')) := by simpa using so
        have hcx := s'.ctx
        rw [ek'] at hcx
        simp [Dest.occupiedBy, hcx] at hocc
      | before x =>
        obtain ⟨k', hk', ek'⟩ := hinfo
        simp only [List.head?_cons, Option.some.injEq] at hk'
        subst hk'
        have s' : SiteAt f po vo (((l' ++ [a]) ++ [t]) ++ b :: r') := by simpa using so
        have hcx := s'.ctx
        rw [ek'] at hcx
        simp [Dest.occupiedBy, hcx] at hocc
    · -- another child list
      have hpot : po ∉ handles t := so.not_mem_kid
      have hkm : ∀ G, KidMap (HTree.editAt po G) := fun G => kidMap_editAt po G
      have hnatI : ∀ G, NatFor (HTree.editAt po G) (dest.insert t) :=
        fun G => natFor_insert (hkm G) (editAt_of_not_mem t hpot) dest
      have hkq : ∀ G, KidMap (HTree.editAt q G) := fun G => kidMap_editAt q G
      -- both sides: the merge at the old place moved in front of the graft
      rw [Forest.editAt_comm _ hpq (natFor_pairOpt (hkq _) _ _) (hnatI _),
        Forest.editAt_comm (f.editAt (some po) (dropTop t.handle)) hpq (ReplFrame.natFor_mergeOpt (hkq _) _ _) (hnatI _),
        Forest.editAt_editAt, Forest.editAt_editAt, Forest.editAt_editAt, Forest.editAt_editAt]
      rw [← cut_pairOpt_eq_mergeOpt norm so hk.resident]
      have sY : SiteAt (f.editAt (some po) (pairOpt f.consolidation (f.nbOf t.handle) ∘ dropTop t.handle)) q vq _ :=
        site_after_leave so sq inv.valid hpq hqt hvq _ _
      have hcq : ∀ k' ∈ Lq, k'.handle ≠ t.handle := by
        intro k' hk' e
        have := PairAfter.site_parent sq hk'
        rw [e, hpar] at this
        exact hpq (Option.some.inj this)
      exact dest_step hk _ sY (fun hc => by rw [noAdj_map (hkm _)]; exact hnoq hc) (handlesTop_map (hkm _) hcq)
        (fun x hx => isTop_map (hkm _) (hrefq x hx))

theorem specMoveP_eq_specMove {f : Forest} {dest : Dest} {c : Nat} {t : HTree} {q : Nat} {vq : Value}
    {Lq : List HTree} (inv : f.Inv) (norm : f.Normal) (hgc : f.get? c = some t) (sq : SiteAt f q vq Lq)
    (hqt : q ∉ handles t) (hvq : vq.isText = false) (hsite : dest.site f = some q)
    (hrefc : ∀ x, (dest = .after x ∨ dest = .before x) → x ≠ c) :
    specMoveP dest c f = specMove (Keep.resident c) dest c f :=
  specMoveP_eq_specMove_keep (KeepAt.of_resident c dest) inv norm hgc sq hqt hvq hsite hrefc

end PairAll
end XotModel
