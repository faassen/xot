/-
  Evaluation lemmas for the pointer-level arena model:
  `rd` / `wr` on slots that exist, and closed forms (as a sequence of slot modifications) of
  `connect_neighbors`, `detach_from_siblings` of a single node, `rewrite_parents` of a single
  node.  No well-formedness is needed here, only that the ids touched are in range.
-/
import XotModel.Model.ArenaOps
import XotModel.Model.ArenaIter
import XotModel.Model.ArenaWf

namespace XotModel
namespace Arena

theorem Step.bind_eq_done {α β : Type} {s : Step α} {k : Arena → α → Step β} {a' : Arena} {v : β}
    (h : s.bind k = .done a' v) : ∃ b w, s = .done b w ∧ k b w = .done a' v := by
  cases s with
  | done b w => exact ⟨b, w, rfl, h⟩
  | panic b => cases h
  | diverge b => cases h

/-- Slot `i` modified by `f` (nothing happens when `i` is out of range). -/
def mod (a : Arena) (i : Nat) (f : Slot → Slot) : Arena := { a with nodes := a.nodes.modify i f }

/-- The same through an optional id. -/
def modOpt (a : Arena) (o : Option NodeId) (f : Slot → Slot) : Arena :=
  match o with
  | none => a
  | some id => a.mod id.index0 f

/-- Slot lookup as a function. -/
def slot (a : Arena) (i : Nat) : Option Slot := a.nodes[i]?

@[simp] theorem slot_mod (a : Arena) (i j : Nat) (f : Slot → Slot) :
    (a.mod i f).slot j = if i = j then (a.slot j).map f else a.slot j := by
  unfold mod slot
  simp only [List.getElem?_modify]
  by_cases h : i = j <;> simp [h]

@[simp] theorem mod_firstFree (a : Arena) (i : Nat) (f : Slot → Slot) : (a.mod i f).firstFree = a.firstFree := rfl
@[simp] theorem mod_lastFree (a : Arena) (i : Nat) (f : Slot → Slot) : (a.mod i f).lastFree = a.lastFree := rfl
@[simp] theorem mod_length (a : Arena) (i : Nat) (f : Slot → Slot) : (a.mod i f).nodes.length = a.nodes.length := by
  simp [mod]
@[simp] theorem mod_fuel (a : Arena) (i : Nat) (f : Slot → Slot) : (a.mod i f).fuel = a.fuel := by
  simp [fuel]

@[simp] theorem modOpt_none (a : Arena) (f : Slot → Slot) : a.modOpt none f = a := rfl
@[simp] theorem modOpt_some (a : Arena) (id : NodeId) (f : Slot → Slot) : a.modOpt (some id) f = a.mod id.index0 f := rfl
@[simp] theorem modOpt_fuel (a : Arena) (o : Option NodeId) (f : Slot → Slot) : (a.modOpt o f).fuel = a.fuel := by
  cases o <;> simp
@[simp] theorem modOpt_length (a : Arena) (o : Option NodeId) (f : Slot → Slot) :
    (a.modOpt o f).nodes.length = a.nodes.length := by
  cases o <;> simp

theorem setSlot_eq_mod (a : Arena) (i : Nat) (s : Slot) (f : Slot → Slot) (h : a.slot i = some s) :
    a.setSlot i (f s) = a.mod i f := by
  unfold setSlot mod
  congr 1
  apply List.ext_getElem?
  intro j
  unfold slot at h
  by_cases hj : i = j
  · subst hj
    obtain ⟨hl, hs⟩ := List.getElem?_eq_some_iff.mp h
    simp [hl, hs]
  · simp [hj]

theorem rd_some {α : Type} (a : Arena) (id : NodeId) (k : Slot → Step α) (s : Slot)
    (h : a.slot id.index0 = some s) : rd a id k = k s := by
  unfold rd; unfold slot at h; rw [h]

theorem wr_some {α : Type} (a : Arena) (id : NodeId) (f : Slot → Slot) (k : Arena → Step α) (s : Slot)
    (h : a.slot id.index0 = some s) : wr a id f k = k (a.mod id.index0 f) := by
  unfold wr
  have h' := h
  unfold slot at h'
  rw [h']
  simp only []
  rw [setSlot_eq_mod a _ s f h]

/-! A read does not write: the arena reached is the arena given. -/

theorem rd_arena {α : Type} (a : Arena) (id : NodeId) (k : Slot → Step α) (hk : ∀ s, (k s).arena = a) :
    (rd a id k).arena = a := by
  unfold rd
  split
  · rfl
  · exact hk _

theorem Step.bind_arena_const {α β : Type} (a : Arena) (s : Step α) (f : α → β) (h : s.arena = a) :
    (s.bind fun _ r => Step.done a (f r)).arena = a := by
  cases s with
  | done b v => rfl
  | panic b => exact h
  | diverge b => exact h

/-- An optional id refers to an existing slot. -/
def InRange (a : Arena) (o : Option NodeId) : Prop :=
  ∀ id, o = some id → ∃ s, a.slot id.index0 = some s

theorem InRange.none (a : Arena) : InRange a none := by intro id h; cases h

theorem InRange.mod {a : Arena} {o : Option NodeId} (h : InRange a o) (i : Nat) (f : Slot → Slot) :
    InRange (a.mod i f) o := by
  intro id hid
  obtain ⟨s, hs⟩ := h id hid
  by_cases hi : i = id.index0
  · exact ⟨f s, by simp [hi, hs]⟩
  · exact ⟨s, by simp [hi, hs]⟩

theorem InRange.modOpt {a : Arena} {o : Option NodeId} (h : InRange a o) (o' : Option NodeId) (f : Slot → Slot) :
    InRange (a.modOpt o' f) o := by
  cases o' with
  | none => exact h
  | some id => exact h.mod _ f

theorem wr_of_inRange {α : Type} {b : Arena} {id : NodeId} (h : InRange b (some id)) {f : Slot → Slot}
    {k : Arena → Step α} : wr b id f k = k (b.mod id.index0 f) := by
  obtain ⟨s, hs⟩ := h id rfl
  exact wr_some _ _ _ _ _ hs

/-- First / last child pointers of an optional parent, as `connect_neighbors` reads them. -/
def parentEnds (a : Arena) (parent : Option NodeId) : Option NodeId × Option NodeId :=
  match parent with
  | none => (none, none)
  | some id =>
    match a.slot id.index0 with
    | some s => (s.first, s.last)
    | none => (none, none)

/-- What `connect_neighbors` stores as the parent's first child. -/
def newFirst (pfc previous next : Option NodeId) : Option NodeId :=
  match previous with
  | some p => pfc.or (some p)
  | none => next

/-- What `connect_neighbors` stores as the parent's last child. -/
def newLast (plc previous next : Option NodeId) : Option NodeId :=
  match next with
  | some n => plc.or (some n)
  | none => previous

/-- The three writes of `connect_neighbors`. -/
def unlink (b : Arena) (parent prev next : Option NodeId) : Arena :=
  ((b.modOpt prev (fun s => { s with next := next })).modOpt next
      (fun s => { s with prev := prev })).modOpt parent
      (fun s => { s with first := newFirst (b.parentEnds parent).1 prev next,
                         last := newLast (b.parentEnds parent).2 prev next })

theorem InRange.unlink {b : Arena} {x : Option NodeId} (h : InRange b x) (p v n : Option NodeId) :
    InRange (unlink b p v n) x :=
  ((h.modOpt _ _).modOpt _ _).modOpt _ _

/-- Closed form of `connect_neighbors`. -/
theorem connectNeighbors_eq (a : Arena) (parent previous next : Option NodeId)
    (hp : InRange a parent) (hv : InRange a previous) (hn : InRange a next) :
    connectNeighbors a parent previous next = .done (unlink a parent previous next) () := by
  unfold connectNeighbors unlink
  cases parent with
  | none =>
    cases previous <;> cases next
    · rfl
    · dsimp only
      rw [wr_of_inRange hn]; rfl
    · dsimp only
      rw [wr_of_inRange hv]; rfl
    · dsimp only
      rw [wr_of_inRange hv, wr_of_inRange (hn.mod _ _)]; rfl
  | some q =>
    obtain ⟨sq, hsq⟩ := hp q rfl
    simp only [rd_some _ _ _ _ hsq, parentEnds, hsq]
    cases previous <;> cases next
    · dsimp only
      rw [wr_of_inRange hp]; rfl
    · dsimp only
      rw [wr_of_inRange hn, wr_of_inRange (hp.mod _ _)]; rfl
    · dsimp only
      rw [wr_of_inRange hv, wr_of_inRange (hp.mod _ _)]; rfl
    · dsimp only
      rw [wr_of_inRange hv, wr_of_inRange (hn.mod _ _), wr_of_inRange ((hp.mod _ _).mod _ _)]; rfl

end Arena
end XotModel
