/-
  C03, PI targets with a colon: the closed witness `<?a:b x?><r><?c:d?></r>` — accepted from `Xot::new()`,
  outside `PlainPiTargets`, serialised to the same text.
-/
import XotModel.Lemmas.AcceptedWitness
import XotModel.Lemmas.AcceptedMain

namespace XotModel.Witness

open XotModel

private def sp (s : String) : StrSpan := ⟨s.toList, 0⟩
private def nosp : StrSpan := ⟨[], 0⟩

def piColonTokens : List Token :=
  [.pi (sp "a:b") (some (sp "x")) nosp, .elementStart nosp (sp "r") nosp, .elementEnd .open nosp,
   .pi (sp "c:d") none nosp, .elementEnd (.close nosp (sp "r")) nosp]

def piColonText : Str := "<?a:b x?><r><?c:d?></r>".toList

def piColonAccepted : Bool :=
  match buildE .document (strLen piColonText) Env.fresh (placeTokens 0 piColonTokens) none with
  | .ok p => NoReservedDecls p.env p.tree && !PlainPiTargets p.env p.tree && !Representable p.env p.tree &&
      PiColon.Representable p.env p.tree &&
      (match toXmlString p.env p.tree [] with
       | .ok s' => s' == piColonText
       | _ => false)
  | _ => false

theorem piColon_accepted : LexOK false piColonTokens = true ∧ renderTokens piColonTokens = piColonText ∧
    piColonAccepted = true := by decide +kernel

theorem piColon_spec : ∃ p, parseString .document Env.fresh piColonText = .ok p ∧
    NoReservedDecls p.env p.tree = true ∧ PlainPiTargets p.env p.tree = false ∧
    Representable p.env p.tree = false ∧ PiColon.Representable p.env p.tree = true ∧
    toXmlString p.env p.tree [] = .ok piColonText := by
  obtain ⟨h1, h2, h4⟩ := piColon_accepted
  unfold piColonAccepted at h4
  split at h4
  · rename_i p hp
    simp only [Bool.and_eq_true, Bool.not_eq_true'] at h4
    obtain ⟨⟨⟨⟨g1, g2⟩, g3⟩, g4⟩, g5⟩ := h4
    refine ⟨p, ?_, g1, g2, g3, g4, ?_⟩
    · rw [← h2, parseString_render _ _ h1, h2]; exact hp
    · split at g5
      · rename_i s' hs
        have : s' = piColonText := by simpa using g5
        rw [hs, this]
      · cases g5
  · cases h4

end XotModel.Witness
