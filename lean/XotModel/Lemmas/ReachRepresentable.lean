/-
  Reach: the structural part of the C01 domain `Representable` / `RepresentableFragment`
  (Model/SerTokens.lean: `nodeOK` = `OrderedKids`, `KindsOk`, `UniqueKids`, `noAdjText` and `valueOK` at every
  node) is free for structurally valid trees without adjacent text: there `Representable` is a condition
  on the VALUES only (`valueOK` at every node, the interning tables, distinct `xml:id` values, one
  top-level element and no top-level text).  Hence for every root of a forest with the invariant whose
  consolidation was never switched off.
-/
import XotModel.Lemmas.ReachNode
import XotModel.Model.SerTokens

namespace XotModel.Reach
open XotModel

mutual
  theorem allNodes_congr {p q : Value → List Tree → Bool} {P : Value → List Tree → Prop}
      (h : ∀ v ks, P v ks → p v ks = q v ks) : ∀ t : Tree, t.Forall P → t.allNodes p = t.allNodes q
    | .node v ks, ht => by
      rw [Tree.Forall] at ht
      simp only [Tree.allNodes]
      rw [h v ks ht.1, allList_congr h ks ht.2]
  theorem allList_congr {p q : Value → List Tree → Bool} {P : Value → List Tree → Prop}
      (h : ∀ v ks, P v ks → p v ks = q v ks) : ∀ ks : List Tree, Tree.Forall.forallList P ks →
        Tree.allNodes.allList p ks = Tree.allNodes.allList q ks
    | [], _ => rfl
    | k :: ks, hk => by
      simp only [Tree.allNodes.allList]
      rw [allNodes_congr h k hk.1, allList_congr h ks hk.2]
end

theorem allNodes_nodeOK_eq (env : Env) {t : Tree} (hs : Structural t) (ha : NoAdjacentText t) :
    t.allNodes (nodeOK env) = t.allNodes (fun v _ => valueOK env v) := by
  have hP := forall_and t (forall_and t (forall_and t hs.ordered hs.kinds) hs.unique) ha
  refine allNodes_congr (fun v ks h => ?_) t hP
  obtain ⟨⟨⟨h1, h2⟩, h3⟩, h4⟩ := h
  simp only [nodeOK, h1, h2, h3, h4, decide_true, Bool.true_and]

/-- The C01 domains of a structurally valid tree without adjacent text: conditions on the values. -/
theorem representable_eq (env : Env) {t : Tree} (hs : Structural t) (ha : NoAdjacentText t) :
    RepresentableFragment env t =
      (envOK env && t.value.isDocument && t.allNodes (fun v _ => valueOK env v) &&
        decide (xmlIdValues env t).Nodup) ∧
    Representable env t =
      (envOK env && t.value.isDocument && t.allNodes (fun v _ => valueOK env v) &&
        decide (xmlIdValues env t).Nodup && singleRoot t) := by
  unfold Representable RepresentableFragment
  rw [allNodes_nodeOK_eq env hs ha]
  exact ⟨rfl, rfl⟩

mutual
  theorem forall_of_allNodes_nodeOK (env : Env) : ∀ t : Tree, t.allNodes (nodeOK env) = true →
      t.Forall (fun v ks => (OrderedKids ks ∧ KindsOk v ks ∧ UniqueKids ks) ∧ noAdjText ks = true)
    | .node v ks, h => by
      simp only [Tree.allNodes, Bool.and_eq_true] at h
      rw [Tree.Forall]
      refine ⟨?_, forallList_of_allList_nodeOK env ks h.2⟩
      have := h.1
      simp only [nodeOK, Bool.and_eq_true, decide_eq_true_eq] at this
      exact ⟨⟨this.1.1.1.1, this.1.1.1.2, this.1.1.2⟩, this.1.2⟩
  theorem forallList_of_allList_nodeOK (env : Env) : ∀ ks : List Tree,
      Tree.allNodes.allList (nodeOK env) ks = true →
      Tree.Forall.forallList (fun v ks => (OrderedKids ks ∧ KindsOk v ks ∧ UniqueKids ks) ∧ noAdjText ks = true) ks
    | [], _ => trivial
    | k :: ks, h => by
      simp only [Tree.allNodes.allList, Bool.and_eq_true] at h
      exact ⟨forall_of_allNodes_nodeOK env k h.1, forallList_of_allList_nodeOK env ks h.2⟩
end

/-- Conversely a `RepresentableFragment` tree is structurally valid, without adjacent text (so the
    trees the C01 round trip speaks about are among those `Structural` describes). -/
theorem structural_of_allNodes_nodeOK (env : Env) (t : Tree) (h : t.allNodes (nodeOK env) = true) :
    Structural t ∧ NoAdjacentText t := by
  have hk := forall_of_allNodes_nodeOK env t h
  exact ⟨⟨forall_mono (fun _ _ h => h.1.1) t hk, forall_mono (fun _ _ h => h.1.2.1) t hk,
    forall_mono (fun _ _ h => h.1.2.2) t hk⟩, forall_mono (fun _ _ h => h.2) t hk⟩

/-- **For every root of a forest with the invariant whose consolidation was never switched off,
    the C01 domain is a condition on the values only.** -/
theorem representable_root {f : Forest} (hi : f.Inv) (hoff : f.everOff = false) {r : HTree} (hr : r ∈ f.roots)
    (env : Env) :
    RepresentableFragment env r.erase =
      (envOK env && r.value.isDocument && r.erase.allNodes (fun v _ => valueOK env v) &&
        decide (xmlIdValues env r.erase).Nodup) ∧
    Representable env r.erase =
      (envOK env && r.value.isDocument && r.erase.allNodes (fun v _ => valueOK env v) &&
        decide (xmlIdValues env r.erase).Nodup && singleRoot r.erase) := by
  have := representable_eq env (structural_root hi hr) (noAdjacentText_root hi hoff hr)
  rw [erase_value] at this
  exact this

/-- … as implications: the conditions on the values put the root in the domain of `parse_fragment` … -/
theorem representableFragment_root_of_values {f : Forest} (hi : f.Inv) (hoff : f.everOff = false) {r : HTree}
    (hr : r ∈ f.roots) {env : Env} (henv : envOK env = true) (hdoc : r.value.isDocument = true)
    (hval : r.erase.allNodes (fun v _ => valueOK env v) = true) (hid : (xmlIdValues env r.erase).Nodup) :
    RepresentableFragment env r.erase = true := by
  rw [(representable_root hi hoff hr env).1]
  simp [henv, hdoc, hval, hid]

/-- … and, with one top-level element and no top-level text, of `parse`. -/
theorem representable_root_of_values {f : Forest} (hi : f.Inv) (hoff : f.everOff = false) {r : HTree}
    (hr : r ∈ f.roots) {env : Env} (henv : envOK env = true) (hdoc : r.value.isDocument = true)
    (hval : r.erase.allNodes (fun v _ => valueOK env v) = true) (hid : (xmlIdValues env r.erase).Nodup)
    (hone : singleRoot r.erase = true) : Representable env r.erase = true := by
  rw [(representable_root hi hoff hr env).2]
  simp [henv, hdoc, hval, hid, hone]

end XotModel.Reach
