/-
  The call repeated and on a document: a predicate on every node's declarations kept by `insert`
  and `rebuild` (no prefix declared twice: the hypothesis survives the call), the loop over the
  element children of a document or fragment (`DocFacts`), and totality: the `n{counter}` loop cannot
  run out of fuel, the call never panics.
-/
import XotModel.Lemmas.RepairElement

/-! ### The declarations of the repaired element

  The declarations of the repaired element after the call: the old ones, the new prefixes, and —
  for an element in no namespace under a default namespace — `xmlns=""` in place of its own default
  declaration.
-/

namespace XotModel.Repair
open XotModel

theorem mem_nsDecls_rebuild_top (nsOf : Nat → Nat) (nd : List (Nat × Nat)) (name : Nat) (ks : List Tree)
    (inh : List (Nat × Nat)) (hD : (keys (declsOfKids ks)).Nodup) (hn2 : (keys nd).Nodup)
    (hndD : ∀ p ∈ keys nd, p ∉ keys (declsOfKids ks)) (q m : Nat) :
    (q, m) ∈ (rebuild nsOf nd true inh (.node (.element name) ks)).nsDecls ↔
      if needsUndeclare nsOf inh (.node (.element name) ks) name = true then
        (q ≠ Env.emptyPrefix ∧ ((q, m) ∈ declsOfKids ks ∨ (q, m) ∈ nd)) ∨
          (q = Env.emptyPrefix ∧ m = Env.noNamespace)
      else (q, m) ∈ declsOfKids ks ∨ (q, m) ∈ nd := by
  obtain ⟨hD2u, hD2⟩ := mem_foldl_insertDecl nd (declsOfKids ks) hD hn2 hndD
  rw [nsDecls_rebuild_element]
  cases needsUndeclare nsOf inh (.node (.element name) ks) name with
  | false => exact hD2 q m
  | true =>
    simp only [↓reduceIte]
    rw [mem_insertDecl _ _ _ hD2u, hD2]

/-- The namespace a declaration list binds the empty prefix to is what makes the repaired element
    need `xmlns=""`: it is in no namespace and a default namespace is in force at it. -/
theorem needsUndeclare_iff (nsOf : Nat → Nat) (inh : List (Nat × Nat)) (t : Tree) (name : Nat) :
    needsUndeclare nsOf inh t name = true ↔
      nsOf name = Env.noNamespace ∧
        ∃ n, n ≠ Env.noNamespace ∧ (Env.emptyPrefix, n) ∈ pushTop inh t.nsDecls := by
  unfold needsUndeclare
  rw [Bool.and_eq_true, beq_iff_eq, hasDefault_iff]

end XotModel.Repair

/-! ### A predicate on every node's declarations; no prefix declared twice

  A predicate on the declaration list of every node of a subtree, as a recursion over the tree
  (`rdo_PRec`), and what `insert` and `rebuild` do to it.  With "no prefix declared twice" for the
  predicate (`URec`): the call keeps it, since `insert` updates an existing key in place and appends
  only new keys, whatever is inserted.  (Needed to repeat the call in a history: C10_iter.)
-/

namespace XotModel.Repair
open XotModel

theorem frameOf_node (v : Value) (ks : List Tree) :
    frameOf (.node v ks) = if v.isElement then declsOfKids ks else [] := by
  cases v <;> simp [frameOf, Tree.value, Value.isElement, nsDecls_node]

theorem frameOf_congr {v : Value} {ks ks' : List Tree} (h : ks.map Tree.value = ks'.map Tree.value) :
    frameOf (.node v ks) = frameOf (.node v ks') := by
  rw [frameOf_node, frameOf_node, declsOfKids_congr h]

section PRec
variable (P : List (Nat × Nat) → Prop)

mutual
def rdo_PRec : Tree → Prop
  | .node v ks => P (frameOf (.node v ks)) ∧ rdo_PKids ks
def rdo_PKids : List Tree → Prop
  | [] => True
  | k :: ks => rdo_PRec k ∧ rdo_PKids ks
end

mutual
theorem rdo_prec_of_below : ∀ (t : Tree), (∀ rel n', t.at? rel = some n' → P (frameOf n')) → rdo_PRec P t
  | .node v ks, h => ⟨h [] _ rfl, rdo_pkids_of_below ks (fun i k hk rel n' hn =>
      h (i :: rel) n' (by rw [at?_cons, hk]; exact hn))⟩
theorem rdo_pkids_of_below : ∀ (ks : List Tree),
    (∀ (i : Nat) (k : Tree), ks[i]? = some k → ∀ rel n', k.at? rel = some n' → P (frameOf n')) → rdo_PKids P ks
  | [], _ => trivial
  | k :: ks, h => ⟨rdo_prec_of_below k (h 0 k rfl),
      rdo_pkids_of_below ks (fun i k' hk => h (i + 1) k' (by simpa using hk))⟩
end

theorem rdo_pkids_get : ∀ (ks : List Tree), rdo_PKids P ks → ∀ (i : Nat) (k : Tree), ks[i]? = some k → rdo_PRec P k
  | [], _, i, k, hk => by simp at hk
  | k0 :: ks, h, 0, k, hk => by
    simp only [List.getElem?_cons_zero, Option.some.injEq] at hk
    subst hk
    exact h.1
  | k0 :: ks, h, i + 1, k, hk => rdo_pkids_get ks h.2 i k (by simpa using hk)

theorem rdo_below_of_prec : ∀ (rel : Path) (t : Tree), rdo_PRec P t → ∀ n', t.at? rel = some n' → P (frameOf n')
  | [], .node v ks, h, n', hn => by
    simp only [Tree.at?, Option.some.injEq] at hn
    subst hn
    exact h.1
  | i :: rel, .node v ks, h, n', hn => by
    rw [at?_cons] at hn
    cases hk : ks[i]? with
    | none => simp [hk] at hn
    | some k =>
      simp only [hk, Option.bind_some] at hn
      exact rdo_below_of_prec rel k (rdo_pkids_get P ks h.2 i k hk) n' hn

variable {P}

theorem rdo_prec_ns (h0 : P []) (q m : Nat) (kk : List Tree) :
    rdo_PRec P (.node (.namespace q m) kk) ↔ rdo_PKids P kk := by
  rw [rdo_PRec, frameOf_node]
  exact and_iff_right h0

theorem rdo_pkids_insertNsKid (h0 : P []) (p ns : Nat) (ks : List Tree) :
    rdo_PKids P ks → rdo_PKids P (insertNsKid p ns ks) :=
  insertNsKid_induct p ns (motive := fun ks r => rdo_PKids P ks → rdo_PKids P r)
    (fun _ _ h => ⟨(rdo_prec_ns h0 p ns []).mpr trivial, h⟩)
    (fun m kk _ h => ⟨(rdo_prec_ns h0 p ns kk).mpr ((rdo_prec_ns h0 p m kk).mp h.1), h.2⟩)
    (fun _ _ _ _ _ ih h => ⟨h.1, ih h.2⟩) ks

theorem rdo_prec_insertNamespace (h0 : P []) (p ns : Nat) (hins : ∀ d, P d → P (insertDecl p ns d))
    (t : Tree) (h : rdo_PRec P t) : rdo_PRec P (insertNamespace p ns t) := by
  cases t with
  | node v ks =>
    simp only [insertNamespace, rdo_PRec] at h ⊢
    refine ⟨?_, rdo_pkids_insertNsKid h0 p ns ks h.2⟩
    rw [frameOf_node] at h ⊢
    split
    · rename_i hv
      simp only [hv, if_true] at h
      rw [declsOfKids_insertNsKid]
      exact hins _ h.1
    · exact h0

theorem rdo_prec_insertNamespaces (h0 : P []) (nd : List (Nat × Nat))
    (hins : ∀ x ∈ nd, ∀ d, P d → P (insertDecl x.1 x.2 d)) (t : Tree) (h : rdo_PRec P t) :
    rdo_PRec P (insertNamespaces nd t) := by
  unfold insertNamespaces
  induction nd generalizing t with
  | nil => exact h
  | cons x nd ih =>
    simp only [List.foldl_cons]
    exact ih (fun y hy => hins y (List.mem_cons_of_mem _ hy)) _
      (rdo_prec_insertNamespace h0 x.1 x.2 (hins x List.mem_cons_self) t h)

mutual
theorem rdo_prec_rebuild (h0 : P []) (nsOf : Nat → Nat) (nd : List (Nat × Nat))
    (hins : ∀ x ∈ nd, ∀ d, P d → P (insertDecl x.1 x.2 d))
    (hund : ∀ d, P d → P (insertDecl Env.emptyPrefix Env.noNamespace d)) : ∀ (x : Tree) (b : Bool)
    (top : List (Nat × Nat)), rdo_PRec P x → rdo_PRec P (rebuild nsOf nd b top x)
  | .node v ks, b, top, h => by
    obtain ⟨ins, top', hmem, _, e⟩ := rebuild_eq_insert nsOf nd b top v ks
    rw [e]
    refine rdo_prec_insertNamespaces h0 ins (fun x hx => ?_) _
      ⟨?_, rdo_pkids_rebuildKids h0 nsOf nd hins hund ks top' h.2⟩
    · rcases hmem x hx with hx | rfl
      · exact hins x hx
      · exact hund
    · rw [frameOf_congr (map_value_rebuildKids nsOf nd top' ks)]; exact h.1
theorem rdo_pkids_rebuildKids (h0 : P []) (nsOf : Nat → Nat) (nd : List (Nat × Nat))
    (hins : ∀ x ∈ nd, ∀ d, P d → P (insertDecl x.1 x.2 d))
    (hund : ∀ d, P d → P (insertDecl Env.emptyPrefix Env.noNamespace d)) : ∀ (ks : List Tree)
    (top : List (Nat × Nat)), rdo_PKids P ks → rdo_PKids P (rebuildKids nsOf nd top ks)
  | [], _, _ => trivial
  | k :: ks, top, h => ⟨rdo_prec_rebuild h0 nsOf nd hins hund k false top h.1,
      rdo_pkids_rebuildKids h0 nsOf nd hins hund ks top h.2⟩
end

end PRec

/-! ### No prefix declared twice -/

mutual
/-- `UniqueBelow` as a recursion over the tree. -/
def URec : Tree → Prop
  | .node v ks => UniquePrefixes (frameOf (.node v ks)) ∧ UKids ks
def UKids : List Tree → Prop
  | [] => True
  | k :: ks => URec k ∧ UKids ks
end

mutual
theorem urec_iff_prec : ∀ (t : Tree), URec t ↔ rdo_PRec UniquePrefixes t
  | .node v ks => by rw [URec, rdo_PRec, ukids_iff_pkids ks]
theorem ukids_iff_pkids : ∀ (ks : List Tree), UKids ks ↔ rdo_PKids UniquePrefixes ks
  | [] => Iff.rfl
  | k :: ks => by rw [UKids, rdo_PKids, urec_iff_prec k, ukids_iff_pkids ks]
end

theorem uniqueBelow_iff (t : Tree) : UniqueBelow t ↔ URec t :=
  (urec_iff_prec t).trans ⟨fun h rel => rdo_below_of_prec _ rel t h, rdo_prec_of_below _ t⟩ |>.symm

theorem ukids_of_mem : ∀ (ks : List Tree), (∀ k ∈ ks, URec k) → UKids ks
  | [], _ => trivial
  | k0 :: ks, h => ⟨h k0 List.mem_cons_self, ukids_of_mem ks (fun k hk => h k (List.mem_cons_of_mem _ hk))⟩

theorem ukids_of_uniqueBelow : ∀ (ks : List Tree), (∀ k ∈ ks, UniqueBelow k) → UKids ks :=
  fun ks h => ukids_of_mem ks fun k hk => (uniqueBelow_iff k).mp (h k hk)

theorem urec_rebuild (nsOf : Nat → Nat) (nd : List (Nat × Nat)) (x : Tree) (b : Bool)
    (top : List (Nat × Nat)) (h : URec x) : URec (rebuild nsOf nd b top x) :=
  (urec_iff_prec _).mpr (rdo_prec_rebuild (P := UniquePrefixes) List.nodup_nil nsOf nd
    (fun x _ => nodup_insertDecl x.1 x.2) (nodup_insertDecl _ _) x b top ((urec_iff_prec x).mp h))

theorem ukids_rebuildKids (nsOf : Nat → Nat) (nd : List (Nat × Nat)) : ∀ (ks : List Tree)
    (top : List (Nat × Nat)), UKids ks → UKids (rebuildKids nsOf nd top ks) :=
  fun ks top h => (ukids_iff_pkids _).mpr (rdo_pkids_rebuildKids (P := UniquePrefixes) List.nodup_nil nsOf nd
    (fun x _ => nodup_insertDecl x.1 x.2) (nodup_insertDecl _ _) ks top ((ukids_iff_pkids ks).mp h))

theorem urec_scopeModifyAt (f : Tree → Tree) (path : Path) (t : Tree) (hu : URec t)
    (h : ∀ x, t.at? path = some x → (f x).value = x.value ∧ (URec x → URec (f x))) :
    URec (scopeModifyAt f t path) :=
  (ScopePath.scopeModifyAt_rel_refl (R := fun a' a => a'.value = a.value ∧ (URec a → URec a'))
    (RL := fun l' l => l'.map Tree.value = l.map Tree.value ∧ (UKids l → UKids l')) f
    (fun _ => ⟨rfl, id⟩)
    (fun a a' l h => ⟨by simp only [List.map_cons, h.1], fun hu => ⟨h.2 hu.1, hu.2⟩⟩)
    (fun a l l' h => ⟨by simp only [List.map_cons, h.1], fun hu => ⟨hu.1, h.2 hu.2⟩⟩)
    (fun v l l' h => ⟨rfl, fun hu => ⟨by rw [frameOf_congr h.1]; exact hu.1, h.2 hu.2⟩⟩) path t h).2 hu

theorem facts_unique {env : Env} {t : Tree} {path : Path} {E : Tree} {env' : Env} {t' : Tree}
    (hat : t.at? path = some E) (hf : RepairFacts env t path E env' t') (hu : UniqueBelow t) :
    UniqueBelow t' := by
  obtain ⟨nd, _, rfl, _⟩ := hf.nd
  rw [uniqueBelow_iff] at hu ⊢
  apply urec_scopeModifyAt _ path t hu
  intro x hx
  rw [hat] at hx
  cases hx
  exact ⟨value_rebuild _ _ _ _ _, urec_rebuild _ _ _ _ _⟩

end XotModel.Repair

/-! ### Documents and fragments: the loop over the element children

  The document branch of `create_missing_prefixes`: the element children are repaired one after the
  other; a call on one child leaves its siblings and the declarations of the ancestors alone, so
  what each call establishes is still true at the end.
-/

namespace XotModel.Repair
open XotModel

theorem at?_scopeModifyAt_sibling (f : Tree → Tree) : ∀ (path : Path) (t : Tree) (i j : Nat) (r : Path),
    i ≠ j → (scopeModifyAt f t (path ++ [j])).at? (path ++ i :: r) = t.at? (path ++ i :: r)
  | [], .node v ks, i, j, r, h => by
    rw [List.nil_append, List.nil_append, scopeModifyAt_cons, at?_cons, at?_cons,
      List.getElem?_modify_ne _ _ (Ne.symm h)]
  | k :: path, .node v ks, i, j, r, h => by
    rw [List.cons_append, List.cons_append, scopeModifyAt_cons, at?_cons, at?_cons,
      List.getElem?_modify_eq]
    cases ks[k]? with
    | none => rfl
    | some c => exact at?_scopeModifyAt_sibling f path c i j r h

theorem inheritedDecls_child (t : Tree) (path : Path) (i : Nat) :
    inheritedDecls t (path ++ [i]) = (namespacesInScope t path).getD [] := by
  unfold inheritedDecls
  have hne : (path ++ [i]).isEmpty = false := by cases path <;> rfl
  simp only [hne, Bool.false_eq_true, if_false, List.dropLast_concat]

theorem namespacesInScope_scopeModifyAt_child (f : Tree → Tree) (t : Tree) (path : Path) (i : Nat)
    (h : ∀ x, t.at? (path ++ [i]) = some x → (f x).value = x.value) :
    namespacesInScope (scopeModifyAt f t (path ++ [i])) path = namespacesInScope t path := by
  cases hE : t.at? (path ++ [i]) with
  | none => rw [ScopePath.scopeModifyAt_of_at?_none f _ t hE]
  | some E =>
    -- the chain of the child is the child on the chain of its parent, before and after
    obtain ⟨rest, hc⟩ := ancestorsOrSelf_of_at? t _ _ hE
    obtain ⟨rest', hc', hmap⟩ := ancestors_after f _ t E rest hc (h E hE)
    unfold namespacesInScope
    rw [(ancestorsOrSelf_snoc_eq_some.1 hc).1, (ancestorsOrSelf_snoc_eq_some.1 hc').1]
    simp only [Option.map_some, namespacesInScopeChain_congr rest' rest hmap]

theorem node_scopeModifyAt_child (f : Tree → Tree) (path : Path) (t : Tree) (i : Nat)
    (h : ∀ x, t.at? (path ++ [i]) = some x → (f x).value = x.value) :
    ((scopeModifyAt f t (path ++ [i])).at? path).map (fun d => (d.value, d.kids.map Tree.value)) =
      (t.at? path).map (fun d => (d.value, d.kids.map Tree.value)) := by
  rw [at?_scopeModifyAt_prefix]
  cases hd : t.at? path with
  | none => rfl
  | some d =>
    obtain ⟨v, ks⟩ := d
    -- only child `i` of the node is rewritten, and it keeps its value
    simp only [Option.map_some, scopeModifyAt_cons, Tree.value, Tree.kids, Option.some.injEq, Prod.mk.injEq,
      true_and]
    exact map_value_modify ks i _ fun k hk => by
      rw [scopeModifyAt_nil]
      exact h k ((Axes.at?_snoc hd i).trans hk)

/-- What the loop over the element children establishes. -/
structure DocFacts (env : Env) (t : Tree) (path : Path) (is : List Nat) (env' : Env) (t' : Tree) : Prop where
  names : env'.names = env.names
  namespaces : env'.namespaces = env.namespaces
  envOk : EnvOk env'
  frame : stripNs t' = stripNs t
  unique : UniqueBelow t → UniqueBelow t'
  scope : namespacesInScope t' path = namespacesInScope t path
  node : (t'.at? path).map (fun d => (d.value, d.kids.map Tree.value)) =
    (t.at? path).map (fun d => (d.value, d.kids.map Tree.value))
  others : ∀ j, j ∉ is → ∀ r, t'.at? (path ++ j :: r) = t.at? (path ++ j :: r)
  repaired : ∀ i ∈ is, ∃ name ks', t'.at? (path ++ [i]) = some (.node (.element name) ks') ∧
    okRec env.nsOfName ((namespacesInScope t path).getD []) (.node (.element name) ks') = true

/-- One iteration of the loop: the call on the child `i0` and what it leaves alone (the other
    children, the scope and the child values of the node at `path`), so that the rest of the loop
    starts from the same hypotheses. -/
theorem repairElements_step (path : Path) (i0 : Nat) (is : List Nat) (env : Env) (t : Tree) (env' : Env)
    (t' : Tree) (hnd : (i0 :: is).Nodup) (hok : EnvOk env)
    (hel : ∀ i ∈ i0 :: is, ∃ name ks, t.at? (path ++ [i]) = some (.node (.element name) ks) ∧
      UniqueBelow (.node (.element name) ks))
    (h : repairElements (i0 :: is) path env t = .ok (env', t')) :
    ∃ env1 t1 name ks, t.at? (path ++ [i0]) = some (.node (.element name) ks) ∧
      UniqueBelow (.node (.element name) ks) ∧
      RepairFacts env t (path ++ [i0]) (.node (.element name) ks) env1 t1 ∧
      repairElements is path env1 t1 = .ok (env', t') ∧
      (∀ i, i ≠ i0 → ∀ r, t1.at? (path ++ i :: r) = t.at? (path ++ i :: r)) ∧
      namespacesInScope t1 path = namespacesInScope t path ∧
      (t1.at? path).map (fun d => (d.value, d.kids.map Tree.value)) =
        (t.at? path).map (fun d => (d.value, d.kids.map Tree.value)) ∧
      ∀ i ∈ is, ∃ name ks, t1.at? (path ++ [i]) = some (.node (.element name) ks) ∧
        UniqueBelow (.node (.element name) ks) := by
  simp only [repairElements] at h
  obtain ⟨name, ks, hat0, hu0⟩ := hel i0 List.mem_cons_self
  cases h0 : repairElement env t (path ++ [i0]) with
  | err e => rw [h0] at h; cases h
  | panic => rw [h0] at h; cases h
  | ok r =>
    obtain ⟨env1, t1⟩ := r
    rw [h0] at h
    have hf := repairElement_facts env hok t (path ++ [i0]) name ks hat0 hu0 env1 t1 h0
    obtain ⟨nd, _, ht1, _⟩ := hf.nd
    have hval : ∀ x, t.at? (path ++ [i0]) = some x →
        ((fun _ => rebuild env.nsOfName nd true (inheritedDecls t (path ++ [i0])) (.node (.element name) ks)) x).value
          = x.value := by
      intro x hx; rw [hat0] at hx; cases hx; exact value_rebuild _ _ _ _ _
    have hsib : ∀ i, i ≠ i0 → ∀ r, t1.at? (path ++ i :: r) = t.at? (path ++ i :: r) := by
      intro i hi r; rw [ht1]; exact at?_scopeModifyAt_sibling _ path t i i0 r hi
    refine ⟨env1, t1, name, ks, hat0, hu0, hf, h, hsib, ?_, ?_, fun i hi => ?_⟩
    · rw [ht1]; exact namespacesInScope_scopeModifyAt_child _ t path i0 hval
    · rw [ht1]; exact node_scopeModifyAt_child _ path t i0 hval
    · obtain ⟨nm, ks', h1, h2⟩ := hel i (List.mem_cons_of_mem _ hi)
      exact ⟨nm, ks', by rw [hsib i (fun he => (List.nodup_cons.mp hnd).1 (he ▸ hi)) []]; exact h1, h2⟩

theorem repairElements_facts (path : Path) : ∀ (is : List Nat) (env : Env) (t : Tree) (env' : Env) (t' : Tree),
    is.Nodup → EnvOk env →
    (∀ i ∈ is, ∃ name ks, t.at? (path ++ [i]) = some (.node (.element name) ks) ∧
      UniqueBelow (.node (.element name) ks)) →
    repairElements is path env t = .ok (env', t') → DocFacts env t path is env' t'
  | [], env, t, env', t', _, hok, _, h => by
    simp only [repairElements, Outcome.ok.injEq, Prod.mk.injEq] at h
    obtain ⟨rfl, rfl⟩ := h
    exact ⟨rfl, rfl, hok, rfl, id, rfl, rfl, fun _ _ _ => rfl, fun i hi => by cases hi⟩
  | i0 :: is, env, t, env', t', hnd, hok, hel, h => by
    obtain ⟨env1, t1, name, ks, hat0, hu0, hf, hrest, hsib, hscope1, hnode1, hel1⟩ :=
      repairElements_step path i0 is env t env' t' hnd hok hel h
    obtain ⟨nd, hat1, _, _, _, _, _, hokE⟩ := hf.nd
    simp only [List.nodup_cons] at hnd
    have ih := repairElements_facts path is env1 t1 env' t' hnd.2 hf.envOk hel1 hrest
    refine ⟨ih.names.trans hf.names, ih.namespaces.trans hf.namespaces, ih.envOk,
      ih.frame.trans (facts_frame hat0 hf), fun hu => ih.unique (facts_unique hat0 hf hu),
      ih.scope.trans hscope1, ih.node.trans hnode1, ?_, ?_⟩
    · intro j hj r
      simp only [List.mem_cons, not_or] at hj
      rw [ih.others j hj.2 r, hsib j hj.1 r]
    · intro i hi
      rcases List.mem_cons.mp hi with rfl | hi
      · have hv : (rebuild env.nsOfName nd true (inheritedDecls t (path ++ [i])) (.node (.element name) ks)).value
            = .element name := by rw [value_rebuild]; rfl
        rw [inheritedDecls_child] at hokE hat1 hv
        generalize rebuild env.nsOfName nd true ((namespacesInScope t path).getD []) (.node (.element name) ks) = E'
          at hokE hat1 hv
        cases E' with
        | node v' ks' =>
          simp only [Tree.value] at hv
          subst hv
          exact ⟨name, ks', by rw [ih.others i hnd.1 []]; exact hat1, hokE⟩
      · obtain ⟨nm, ks', h1, h2⟩ := ih.repaired i hi
        exact ⟨nm, ks', h1, by rw [nsOfName_congr hf.names, hscope1] at h2; exact h2⟩

theorem repairElements_of_ok (path : Path) (env : Env) (t : Tree) : ∀ (is : List Nat),
    (∀ i ∈ is, ∃ E, t.at? (path ++ [i]) = some E ∧
      okRec env.nsOfName ((namespacesInScope t path).getD []) E = true) →
    repairElements is path env t = .ok (env, t)
  | [], _ => rfl
  | i :: is, h => by
    obtain ⟨E, hat, hok⟩ := h i List.mem_cons_self
    simp only [repairElements]
    rw [repairElement_of_ok env t (path ++ [i]) E hat (by rw [inheritedDecls_child]; exact hok)]
    exact repairElements_of_ok path env t is (fun j hj => h j (List.mem_cons_of_mem _ hj))

theorem elementKidIndices_congr {ks ks' : List Tree} (h : ks.map Tree.value = ks'.map Tree.value) :
    elementKidIndices ks = elementKidIndices ks' := by
  unfold elementKidIndices
  have hlen : ks.length = ks'.length := by simpa using congrArg List.length h
  rw [hlen]
  apply List.filter_congr
  intro i _
  have : (ks.map Tree.value)[i]? = (ks'.map Tree.value)[i]? := by rw [h]
  simp only [List.getElem?_map] at this
  cases h1 : ks[i]? <;> cases h2 : ks'[i]? <;> simp_all

theorem elementKidIndices_nodup (ks : List Tree) : (elementKidIndices ks).Nodup := by
  unfold elementKidIndices
  exact (List.nodup_range).sublist List.filter_sublist

theorem mem_elementKidIndices {ks : List Tree} {i : Nat} :
    i ∈ elementKidIndices ks ↔ ∃ k, ks[i]? = some k ∧ k.value.isElement = true := by
  unfold elementKidIndices
  simp only [List.mem_filter, List.mem_range]
  constructor
  · rintro ⟨_, h2⟩
    cases hk : ks[i]? with
    | none => simp [hk] at h2
    | some k => exact ⟨k, rfl, by simpa [hk] using h2⟩
  · rintro ⟨k, hk, hv⟩
    refine ⟨?_, by simp [hk, hv]⟩
    rcases Nat.lt_or_ge i ks.length with h | h
    · exact h
    · rw [List.getElem?_eq_none h] at hk; cases hk

theorem okKids_iff (nsOf : Nat → Nat) (top : List (Nat × Nat)) : ∀ (ks : List Tree),
    okKids nsOf top ks = true ↔ ∀ (i : Nat) (k : Tree), ks[i]? = some k → okRec nsOf top k = true
  | [] => ⟨fun _ _ _ hk => (nomatch hk), fun _ => rfl⟩
  | k0 :: ks => by
    rw [okKids, Bool.and_eq_true, okKids_iff nsOf top ks]
    constructor
    · rintro ⟨h1, h2⟩ i k hk
      cases i with
      | zero => cases hk; exact h1
      | succ i => exact h2 i k hk
    · intro h
      exact ⟨h 0 k0 rfl, fun i k hk => h (i + 1) k hk⟩

theorem at?_child (t : Tree) (path : Path) (i : Nat) (d : Tree) (h : t.at? path = some d) :
    t.at? (path ++ [i]) = d.kids[i]? := by
  obtain ⟨v, ks⟩ := d
  exact Axes.at?_snoc h i

theorem isElement_node {k : Tree} (h : k.value.isElement = true) : ∃ name ks, k = .node (.element name) ks := by
  cases k with
  | node v ks =>
    cases v <;> simp [Tree.value, Value.isElement] at h
    exact ⟨_, ks, rfl⟩

theorem createMissingPrefixes_document (env : Env) (t : Tree) (path : Path) (doc : Tree)
    (hat : t.at? path = some doc) (hdoc : doc.value.isDocument = true) (env' : Env) (t' : Tree)
    (h : createMissingPrefixes env t path = .ok (env', t')) :
    elementKidIndices doc.kids ≠ [] ∧
      repairElements (elementKidIndices doc.kids) path env t = .ok (env', t') := by
  unfold createMissingPrefixes at h
  simp only [hat, hdoc, if_true] at h
  cases he : (elementKidIndices doc.kids).isEmpty with
  | true => simp [he] at h
  | false =>
    simp only [he, Bool.false_eq_true, if_false] at h
    exact ⟨by intro hn; simp [hn] at he, h⟩

theorem document_facts (env : Env) (hok : EnvOk env) (t : Tree) (path : Path) (doc : Tree)
    (hat : t.at? path = some doc) (hdoc : doc.value.isDocument = true)
    (hu : ∀ (i : Nat) (k : Tree), doc.kids[i]? = some k → k.value.isElement = true → UniqueBelow k)
    (env' : Env) (t' : Tree) (h : createMissingPrefixes env t path = .ok (env', t')) :
    DocFacts env t path (elementKidIndices doc.kids) env' t' := by
  obtain ⟨_, hrun⟩ := createMissingPrefixes_document env t path doc hat hdoc env' t' h
  apply repairElements_facts path _ env t env' t' (elementKidIndices_nodup _) hok _ hrun
  intro i hi
  obtain ⟨k, hk, hv⟩ := mem_elementKidIndices.mp hi
  obtain ⟨name, ks, rfl⟩ := isElement_node hv
  exact ⟨name, ks, by rw [at?_child t path i doc hat]; exact hk, hu i _ hk hv⟩

theorem docFacts_node {env : Env} {t : Tree} {path : Path} {is : List Nat} {env' : Env} {t' : Tree}
    (hf : DocFacts env t path is env' t') (doc : Tree) (hat : t.at? path = some doc) :
    ∃ doc', t'.at? path = some doc' ∧ doc'.value = doc.value ∧
      doc'.kids.map Tree.value = doc.kids.map Tree.value := by
  have := hf.node
  rw [hat] at this
  cases h' : t'.at? path with
  | none => rw [h'] at this; cases this
  | some doc' =>
    rw [h'] at this
    simp only [Option.map_some, Option.some.injEq, Prod.mk.injEq] at this
    exact ⟨doc', rfl, this.1, this.2⟩

/-- After the call on a document whose other children are leaves the serialiser finds a prefix for
    every name. -/
theorem docFacts_writable {env : Env} {t : Tree} {path : Path} {env' : Env} {t' : Tree} (doc : Tree)
    (hat : t.at? path = some doc) (hdoc : doc.value.isDocument = true)
    (hleaf : ∀ (i : Nat) (k : Tree), doc.kids[i]? = some k → k.value.isElement = false → k.kids = [])
    (hf : DocFacts env t path (elementKidIndices doc.kids) env' t') :
    namesWritable env' t' path = some true := by
  obtain ⟨doc', hat', hv', hk'⟩ := docFacts_node hf doc hat
  obtain ⟨rest', hc'⟩ := ancestorsOrSelf_of_at? t' path doc' hat'
  refine (namesWritable_eq_some_true env' t' path).2 ⟨_, doc', hc', hat', ?_⟩
  rw [← okRec_eq_wr, nsOfName_congr hf.names]
  have hscope : namespacesInScopeChain (doc' :: rest') = (namespacesInScope t path).getD [] := by
    rw [← hf.scope, namespacesInScope_of_chain hc']; rfl
  rw [hscope]
  have hdv : doc'.value.isElement = false := by
    rw [hv']
    cases hd : doc.value with
    | document => rfl
    | _ => rw [hd] at hdoc; cases hdoc
  cases doc' with
  | node v' ks' =>
    rw [okRec_other _ _ v' ks' hdv, okKids_iff]
    intro j k' hk
    have hatj : t'.at? (path ++ [j]) = some k' := by rw [at?_child t' path j _ hat']; exact hk
    by_cases hj : j ∈ elementKidIndices doc.kids
    · obtain ⟨nm, ks2, h1, h2⟩ := hf.repaired j hj
      rw [hatj] at h1
      cases h1
      exact h2
    · have := hf.others j hj []
      rw [hatj, at?_child t path j doc hat] at this
      have hne : k'.value.isElement = false := by
        cases hve : k'.value.isElement with
        | false => rfl
        | true => exact absurd (mem_elementKidIndices.mpr ⟨k', this.symm, hve⟩) hj
      have hkids := hleaf j k' this.symm hne
      cases k' with
      | node kv kk =>
        simp only [Tree.kids] at hkids
        subst hkids
        rw [okRec_other _ _ kv [] hne]
        rfl

theorem docFacts_idem {env : Env} {t : Tree} {path : Path} {env' : Env} {t' : Tree} (doc : Tree)
    (hat : t.at? path = some doc) (hdoc : doc.value.isDocument = true)
    (hne : elementKidIndices doc.kids ≠ [])
    (hf : DocFacts env t path (elementKidIndices doc.kids) env' t') :
    createMissingPrefixes env' t' path = .ok (env', t') := by
  obtain ⟨doc', hat', hv', hk'⟩ := docFacts_node hf doc hat
  unfold createMissingPrefixes
  simp only [hat', hv', hdoc, if_true, elementKidIndices_congr hk']
  have : (elementKidIndices doc.kids).isEmpty = false := by
    cases h : elementKidIndices doc.kids with
    | nil => exact absurd h hne
    | cons _ _ => rfl
  simp only [this, Bool.false_eq_true, if_false]
  apply repairElements_of_ok
  intro i hi
  obtain ⟨nm, ks2, h1, h2⟩ := hf.repaired i hi
  exact ⟨_, h1, by rw [hf.scope, nsOfName_congr hf.names]; exact h2⟩

end XotModel.Repair

/-! ### The fuel suffices; the call never panics

  The `n{counter}` loop of `create_missing_prefixes_for_element` cannot run out of fuel: the decimal
  spellings `n0, n1, …` are pairwise different strings, an interned string keeps its id while the
  table grows, so every iteration that does not break "kills" a different member of `used`
  (pigeonhole), and `used.length + 1` iterations suffice.  No hypothesis on the interning table is
  needed (duplicate entries are harmless: `add_prefix` always answers the first).
-/

namespace XotModel.Repair
open XotModel

/-! ### The decimal rendering is injective -/

theorem generatedPrefixName_inj {a b : Nat} (h : generatedPrefixName a = generatedPrefixName b) :
    a = b := by
  simp only [generatedPrefixName, List.cons.injEq, true_and] at h
  rw [← Nat.ofDigitChars_ten_toDigits (n := a), h, Nat.ofDigitChars_ten_toDigits]

/-- A filter that keeps less, and drops a member the other keeps, yields a shorter list: it is the
    filter of the other's result. -/
theorem filter_length_lt {α : Type} (p q : α → Bool) (himp : ∀ x, q x = true → p x = true) (a : α)
    (hp : p a = true) (hq : q a = false) (l : List α) (h : a ∈ l) :
    (l.filter q).length < (l.filter p).length := by
  have e : l.filter q = (l.filter p).filter q := by
    rw [List.filter_filter]
    exact List.filter_congr fun x _ => by cases hx : q x <;> simp [himp x, hx]
  rw [e]
  exact List.length_filter_lt_length_iff_exists.mpr ⟨a, List.mem_filter.mpr ⟨h, hp⟩, by simp [hq]⟩

/-- A prefix id can still be answered by the loop standing at `counter = c` with the table `env`:
    it is unregistered, or registered for a spelling `n{k}` with `k ≥ c`. -/
def AliveP (env : Env) (c u : Nat) : Prop :=
  ∀ s, env.prefixes[u]? = some s → ∃ k, c ≤ k ∧ s = generatedPrefixName k

open Classical in
noncomputable def alive (env : Env) (c u : Nat) : Bool := decide (AliveP env c u)

theorem alive_iff (env : Env) (c u : Nat) : alive env c u = true ↔ AliveP env c u := by
  simp [alive]

/-- The loop ends within `fuel` iterations when fewer than `fuel` members of `used` can still be
    answered. -/
theorem freshPrefix_isSome (used : List Nat) : ∀ (fuel : Nat) (env : Env) (c : Nat),
    (used.filter (alive env c)).length < fuel → (freshPrefix used fuel env c).isSome = true
  | 0, _, _, h => by omega
  | fuel + 1, env, c, h => by
    simp only [freshPrefix]
    split
    · rfl
    · rename_i hc
      have hmem : (env.addPrefix (generatedPrefixName c)).2 ∈ used := by simpa using hc
      have hget := (addPrefix_outcome env (generatedPrefixName c)).1
      have hkeep : ∀ (u : Nat) (s : Str), env.prefixes[u]? = some s →
          (env.addPrefix (generatedPrefixName c)).1.prefixes[u]? = some s :=
        fun u s hs => (addPrefix_ext env _).getElem? hs
      apply freshPrefix_isSome used fuel
      have hlt := filter_length_lt (alive env c)
        (alive (env.addPrefix (generatedPrefixName c)).1 (c + 1)) ?_
        (env.addPrefix (generatedPrefixName c)).2 ?_ ?_ used hmem
      · omega
      · intro u hu
        rw [alive_iff] at hu ⊢
        intro s hs
        obtain ⟨k, hk, rfl⟩ := hu s (hkeep u s hs)
        exact ⟨k, by omega, rfl⟩
      · rw [alive_iff]
        intro s hs
        have hs' := hkeep (env.addPrefix (generatedPrefixName c)).2 s hs
        rw [hget] at hs'
        cases hs'
        exact ⟨c, Nat.le_refl c, rfl⟩
      · cases hal : alive (env.addPrefix (generatedPrefixName c)).1 (c + 1)
            (env.addPrefix (generatedPrefixName c)).2 with
        | false => rfl
        | true =>
          rw [alive_iff] at hal
          obtain ⟨k, hk, hkk⟩ := hal _ hget
          have := generatedPrefixName_inj hkk
          omega

/-- The fuel the model gives the loop is enough, whatever the table, the counter and `used`. -/
theorem freshPrefix_fuel (used : List Nat) (env : Env) (c : Nat) :
    (freshPrefix used (used.length + 1) env c).isSome = true := by
  apply freshPrefix_isSome
  have := List.length_filter_le (alive env c) used
  omega

theorem assignPrefixes_isSome : ∀ (M : List Nat) (env : Env) (used : List Nat) (c : Nat),
    (assignPrefixes env used c M).isSome = true
  | [], _, _, _ => rfl
  | ns :: M, env, used, c => by
    simp only [assignPrefixes]
    have h1 := freshPrefix_fuel used env c
    cases hf : freshPrefix used (used.length + 1) env c with
    | none => rw [hf] at h1; cases h1
    | some r =>
      obtain ⟨env1, p, c1⟩ := r
      simp only
      have h2 := assignPrefixes_isSome M env1 (p :: used) c1
      cases ha : assignPrefixes env1 (p :: used) c1 M with
      | none => rw [ha] at h2; cases h2
      | some r2 => rfl

/-! ### The call never panics -/

/-- `create_missing_prefixes_for_element` on an existing node returns `Ok`. -/
theorem repairElement_ok (env : Env) (t : Tree) (path : Path) (E : Tree) (hat : t.at? path = some E) :
    ∃ env' nd, repairElement env t path = .ok (env', scopeModifyAt
      (fun _ => rebuild env.nsOfName nd true (inheritedDecls t path) E) t path) := by
  rw [repairElement_eq env t path E hat]
  have h := assignPrefixes_isSome
    (collectRec env.nsOfName (inheritedDecls t path) path E ⟨[], [], []⟩).missing env
    ((collectRec env.nsOfName (inheritedDecls t path) path E ⟨[], [], []⟩).used ++
      ((namespacesInScope t path).getD []).map (·.1)) 0
  cases ha : assignPrefixes env _ 0 _ with
  | none => rw [ha] at h; cases h
  | some r => exact ⟨r.1, r.2, rfl⟩

theorem repairElements_ok (path : Path) : ∀ (is : List Nat) (env : Env) (t : Tree),
    (∀ i ∈ is, (t.at? (path ++ [i])).isSome = true) →
    ∃ env' t', repairElements is path env t = .ok (env', t')
  | [], env, t, _ => ⟨env, t, rfl⟩
  | i0 :: is, env, t, h => by
    have h0 := h i0 List.mem_cons_self
    cases hE : t.at? (path ++ [i0]) with
    | none => rw [hE] at h0; cases h0
    | some E =>
      obtain ⟨env1, nd, hr⟩ := repairElement_ok env t (path ++ [i0]) E hE
      simp only [repairElements, hr]
      apply repairElements_ok path is
      intro j hj
      by_cases hji : j = i0
      · subst hji
        rw [at?_scopeModifyAt, hE]; rfl
      · have := at?_scopeModifyAt_sibling
          (fun _ => rebuild env.nsOfName nd true (inheritedDecls t (path ++ [i0])) E) path t j i0 [] hji
        rw [this]
        exact h j (List.mem_cons_of_mem _ hj)

/-- `create_missing_prefixes` on an existing node never panics: it answers `Ok`, except that a
    node that is neither a document nor an element is refused with `NotElement` and a document
    without element child with `NoElementAtTopLevel`. -/
theorem createMissingPrefixes_total (env : Env) (t : Tree) (path : Path) (node : Tree)
    (hat : t.at? path = some node) :
    (node.value.isDocument = false → node.value.isElement = false →
      createMissingPrefixes env t path = .err .notElement) ∧
    (node.value.isDocument = true → elementKidIndices node.kids = [] →
      createMissingPrefixes env t path = .err .noElementAtTopLevel) ∧
    ((node.value.isElement = true ∨
        (node.value.isDocument = true ∧ elementKidIndices node.kids ≠ [])) →
      ∃ env' t', createMissingPrefixes env t path = .ok (env', t')) := by
  refine ⟨fun h1 h2 => by simp [createMissingPrefixes, hat, h1, h2],
    fun h1 h2 => by simp [createMissingPrefixes, hat, h1, h2], ?_⟩
  rintro (hel | ⟨hdoc, hne⟩)
  · have hnd : node.value.isDocument = false := by
      cases node with
      | node v ks => cases v <;> simp_all [Tree.value, Value.isElement, Value.isDocument]
    obtain ⟨env', nd, hr⟩ := repairElement_ok env t path node hat
    exact ⟨env', _, by simp only [createMissingPrefixes, hat, hnd, hel, hr]; rfl⟩
  · obtain ⟨env', t', hr⟩ := repairElements_ok path (elementKidIndices node.kids) env t (by
      intro i hi
      obtain ⟨k, hk, _⟩ := mem_elementKidIndices.mp hi
      rw [at?_child t path i node hat, hk]; rfl)
    refine ⟨env', t', ?_⟩
    have : (elementKidIndices node.kids).isEmpty = false := by
      cases h : elementKidIndices node.kids with
      | nil => exact absurd h hne
      | cons a l => rfl
    simp [createMissingPrefixes, hat, hdoc, this, hr]

end XotModel.Repair
