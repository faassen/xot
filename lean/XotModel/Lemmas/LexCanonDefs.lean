/-
  The byte positions the canonical rendering implies:
  `Token.place pos t` = the token `t` as the tokenizer reports it when `renderToken t` is written
  at byte offset `pos`; `placeTokens pos ts` does this for a whole list, one token after the
  other.  Placing changes positions (and the whole-token spans) only: `placeTokens_erase`.
-/
import XotModel.Model.LexOK

namespace XotModel

/-! ### The canonical spelling of a token list -/

theorem renderTokens_nil : renderTokens [] = [] := rfl

theorem renderTokens_cons (k : Token) (ts : List Token) :
    renderTokens (k :: ts) = renderToken k ++ renderTokens ts := by
  simp [renderTokens]

theorem renderTokens_append (a b : List Token) :
    renderTokens (a ++ b) = renderTokens a ++ renderTokens b := by
  simp [renderTokens]

theorem renderTokens_single (k : Token) : renderTokens [k] = renderToken k := by
  simp [renderTokens]

/-- The prefix and local-name spans of `prefix:local` written at byte `pos`
    (an absent prefix is xmlparser's `"".into()`: empty text, offset 0). -/
def placeQName (pos : Nat) (p l : Str) : StrSpan × StrSpan :=
  if p.isEmpty then (⟨[], 0⟩, ⟨l, pos⟩) else (⟨p, pos⟩, ⟨l, pos + strLen p + 1⟩)

/-- The token as read back from its canonical spelling at byte offset `pos`. -/
def Token.place (pos : Nat) : Token → Token
  | .elementStart p l _ =>
    .elementStart (placeQName (pos + 1) p.text l.text).1 (placeQName (pos + 1) p.text l.text).2
      ⟨'<' :: tokQName p.text l.text, pos⟩
  | .attribute p l v _ =>
    .attribute (placeQName (pos + 1) p.text l.text).1 (placeQName (pos + 1) p.text l.text).2
      ⟨v.text, pos + 1 + strLen (tokQName p.text l.text) + 2⟩
      ⟨tokQName p.text l.text ++ '=' :: '"' :: (v.text ++ ['"']), pos + 1⟩
  | .elementEnd .open _ => .elementEnd .open ⟨['>'], pos⟩
  | .elementEnd .empty _ => .elementEnd .empty ⟨['/', '>'], pos⟩
  | .elementEnd (.close p l) _ =>
    .elementEnd (.close (placeQName (pos + 2) p.text l.text).1 (placeQName (pos + 2) p.text l.text).2)
      ⟨'<' :: '/' :: (tokQName p.text l.text ++ ['>']), pos⟩
  | .text t => .text ⟨t.text, pos⟩
  | .cdata t sp => .cdata ⟨t.text, pos + 9⟩ ⟨renderToken (.cdata t sp), pos⟩
  | .comment t sp => .comment ⟨t.text, pos + 4⟩ ⟨renderToken (.comment t sp), pos⟩
  | .pi t none sp => .pi ⟨t.text, pos + 2⟩ none ⟨renderToken (.pi t none sp), pos⟩
  | .pi t (some c) sp =>
    .pi ⟨t.text, pos + 2⟩ (some ⟨c.text, pos + 2 + strLen t.text + 1⟩)
      ⟨renderToken (.pi t (some c) sp), pos⟩
  | t => t

/-- The token list as read back from `renderTokens ts` written at byte offset `pos`. -/
def placeTokens (pos : Nat) : List Token → List Token
  | [] => []
  | t :: ts => t.place pos :: placeTokens (pos + strLen (renderToken t)) ts

theorem placeQName_erase (pos : Nat) (p l : StrSpan) :
    (placeQName pos p.text l.text).1.erase = p.erase ∧ (placeQName pos p.text l.text).2.erase = l.erase := by
  unfold placeQName
  split
  · next h =>
    have : p.text = [] := by simpa using h
    simp [StrSpan.erase, this]
  · simp [StrSpan.erase]

theorem Token.place_erase (pos : Nat) (t : Token) : (t.place pos).erase = t.erase := by
  cases t with
  | elementStart p l sp =>
    simp only [Token.place, Token.erase, (placeQName_erase (pos + 1) p l).1, (placeQName_erase (pos + 1) p l).2]
  | «attribute» p l v sp =>
    have h1 := (placeQName_erase (pos + 1) p l).1
    have h2 := (placeQName_erase (pos + 1) p l).2
    simp only [Token.place, Token.erase, h1, h2]
    rfl
  | elementEnd e sp =>
    cases e with
    | «open» => rfl
    | empty => rfl
    | close p l =>
      simp only [Token.place, Token.erase, (placeQName_erase (pos + 2) p l).1, (placeQName_erase (pos + 2) p l).2]
  | pi t c sp => cases c <;> rfl
  | _ => rfl

theorem placeTokens_erase (pos : Nat) (ts : List Token) :
    (placeTokens pos ts).map Token.erase = ts.map Token.erase := by
  induction ts generalizing pos with
  | nil => rfl
  | cons t ts ih => simp [placeTokens, Token.place_erase, ih]

theorem placeTokens_length (pos : Nat) (ts : List Token) : (placeTokens pos ts).length = ts.length := by
  induction ts generalizing pos with
  | nil => rfl
  | cons t ts ih => simp [placeTokens, ih]

/-! ### Placed tokens pass `check_qname` (/repo a5fafb0): an absent prefix is placed at offset 0 -/

theorem placeQName_bareColon (pos : Nat) (p l : Str) : (placeQName pos p l).1.bareColon = false := by
  unfold placeQName
  split
  · rfl
  · next h =>
    cases p with
    | nil => simp at h
    | cons c cs => simp [StrSpan.bareColon]

theorem Token.place_prefixOk (pos : Nat) (t : Token) : (t.place pos).prefixOk = true := by
  cases t with
  | elementStart p l sp => simp [Token.place, Token.prefixOk, placeQName_bareColon]
  | «attribute» p l v sp => simp [Token.place, Token.prefixOk, placeQName_bareColon]
  | elementEnd e sp => cases e <;> simp [Token.place, Token.prefixOk, placeQName_bareColon]
  | pi t c sp => cases c <;> rfl
  | text t => rfl
  | cdata t sp => rfl
  | comment t sp => rfl
  | _ => rfl

theorem placeTokens_prefixOk : ∀ (ts : List Token) (pos : Nat),
    tokensPrefixOk (placeTokens pos ts) = true := by
  intro ts
  induction ts with
  | nil => intro _; rfl
  | cons t r ih =>
    intro pos
    simp only [placeTokens, tokensPrefixOk, List.all_cons, Bool.and_eq_true]
    exact ⟨Token.place_prefixOk pos t, ih _⟩

end XotModel

namespace XotModel.Lex.Canon

/-- The context after one token (mirrors the transitions of `lexNest`). -/
def ctxStep (frag : Bool) : LexCtx → Token → LexCtx
  | .prolog, .elementStart _ _ _ => .inTag 0
  | .prolog, _ => .prolog
  | .inTag d, .elementEnd .open _ => .content (d + 1)
  | .inTag d, .elementEnd .empty _ => LexCtx.closed frag d
  | .inTag d, _ => .inTag d
  | .content d, .elementStart _ _ _ => .inTag d
  | .content d, .elementEnd (.close _ _) _ => LexCtx.closed frag (d - 1)
  | .content d, _ => .content d
  | .after, _ => .after

/-- The context after a token list. -/
def ctxAfter (frag : Bool) (ctx : LexCtx) (ts : List Token) : LexCtx := ts.foldl (ctxStep frag) ctx

end XotModel.Lex.Canon
