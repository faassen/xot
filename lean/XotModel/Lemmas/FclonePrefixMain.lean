/-
  `clone_with_prefixes`: it cannot panic, and when the source's tree serialises the clone
  serialises on its own (`cloneWithPrefixes_serialises`), for every order of the inherited
  prefixes; the shape of the result, and the consecutive fresh handles of the added declarations
  (`nsLeavesFrom`).
-/
import XotModel.Lemmas.BasicFacts
import XotModel.Lemmas.FclonePrefixLoop
import XotModel.Lemmas.FcloneMergeInv

/-! ## `clone_with_prefixes` serialises on its own whenever the source's root serialises -/

namespace XotModel
open HTree

/-- The clone of an element is an element with the same name; `Cloning` right after `clone_node`. -/
theorem cloning_after_clone (f : Forest) (inv : f.Inv) (C : HTree) (f' : Forest)
    (h2 : f'.roots = f.roots ++ [C]) (h4 : ∀ h ∈ handles C, f.next ≤ h ∧ h < f'.next)
    (hle : f.next ≤ f'.next) (hnd : f'.allHandles.Nodup) :
    ∀ c v K, C = .node c v K → Cloning f' f.roots [] c v K := by
  intro c v K hC
  subst hC
  refine ⟨h2, ?_, ?_⟩
  · unfold Forest.allHandles at hnd
    rw [h2, handlesList_append, handlesList_singleton] at hnd
    simpa [frameHandles, handles] using hnd
  · intro h hh
    simp only [frameHandles, List.nil_append, List.mem_append] at hh
    rcases hh with h1 | h1
    · have := inv.below h h1; omega
    · exact (h4 h (by simpa [handles] using h1)).2

/-- `clone_with_prefixes` on an element, step by step: `clone_node` adds a new last root `c`, an element of
    the same name with children `Kc` and new handles; the insertion loop turns `Kc` into `addSpec Kc …`. -/
theorem cloneWithPrefixes_steps (f : Forest) (inv : f.Inv) (node hs name : Nat) (Ks : List HTree)
    (hget : f.get? node = some (.node hs (.element name) Ks)) (order : List (Nat × Nat)) :
    ∃ (c : Nat) (Kc : List HTree) (f1 f2 : Forest),
      f.cloneNode node = (f1, some c) ∧ f1.roots = f.roots ++ [.node c (.element name) Kc] ∧
      (∀ h ∈ handles (.node c (.element name) Kc), f.next ≤ h ∧ h < f1.next) ∧ f.next ≤ f1.next ∧
      erase (.node c (.element name) Kc) =
        expectedClone f.consolidation (erase (.node hs (.element name) Ks)) ∧
      f.cloneWithPrefixes node order = (f2, some c) ∧
      Cloning f2 f.roots [] c (.element name) (addSpec Kc f1.next order).1 ∧
      f2.next = (addSpec Kc f1.next order).2 := by
  obtain ⟨C, f1, h1, h2, h3, h4, h5, h6, h7, h8, h9, h10⟩ := cloneNode_full f inv node _ hget
  obtain ⟨c, vC, Kc⟩ := C
  have hvC : vC = .element name := by
    obtain ⟨L, hL, -⟩ := expectedClone_serial default _ f.consolidation hs (.element name) Ks
      (inv.valid_get hget)
    have := congrArg Tree.value (h6.trans hL)
    simpa [erase, Tree.value] using this
  subst hvC
  have cl := cloning_after_clone f inv _ f1 h2 h4 h5 h10 c (.element name) Kc rfl
  obtain ⟨f2, ha, cl2, hn2, _⟩ := addPrefixes_spec order cl rfl
  have hiel : f1.isElement c = true := by
    simp [Forest.isElement, Forest.value?, cl.get?_c, HTree.value, Value.isElement]
  refine ⟨c, Kc, f1, f2, h1, h2, h4, h5, h6, ?_, cl2, hn2⟩
  unfold Forest.cloneWithPrefixes
  rw [h1]
  simp only [HTree.handle, hiel, if_true, ha]

theorem fc_nsSplit (Kc : List HTree) : ∃ A B, Kc = A ++ B ∧
    (∀ x ∈ A, (x.value.category == Category.namespace) = true) ∧
    (∀ y, B.head? = some y → (y.value.category == Category.namespace) = false) :=
  ⟨_, _, List.takeWhile_append_dropWhile.symm, fun x hx => mem_takeWhile_imp _ Kc x hx,
    fun y hy => head_dropWhile_not _ Kc y hy⟩

/-- `clone_with_prefixes` of an element whose root serialises gives a clone that serialises. -/
theorem cloneWithPrefixes_serialises (env : Env) (f : Forest) (inv : f.Inv)
    (node : Nat) (hs : Nat) (name : Nat) (Ks : List HTree) (rest : List HTree)
    (hpath : f.pathTo node = .node hs (.element name) Ks :: rest)
    (hser : ∀ r ∈ f.roots, HTree.pathTo node r = some (.node hs (.element name) Ks :: rest) →
      writableTree env (FStack.new (namespacesInScopeChain [r.erase])) r.erase = true)
    (order : List (Nat × Nat))
    (hord : ∀ b, b ∈ order ↔ b ∈ f.inheritedPrefixes env node)
    (hfun : ∀ a ∈ order, ∀ b ∈ order, a.1 = b.1 → a = b) :
    ∃ c, (f.cloneWithPrefixes node order).2 = some c ∧
      (f.cloneWithPrefixes node order).1.serialises env c = true := by
  -- the source
  obtain ⟨hget, r, hr, hp⟩ := Forest.get?_of_pathTo hpath
  have hvr : validTree (!f.everOff) r = true := validList_all _ f.roots inv.valid r hr
  obtain ⟨hlast, hvpath⟩ := pathTo_props _ node r _ hvr hp
  -- clone_node, then the insertion loop
  obtain ⟨c, Kc, f1, f2, -, -, h4, -, h6, hres, cl2, -⟩ :=
    cloneWithPrefixes_steps f inv node hs name Ks hget order
  obtain ⟨L, hL, hE1, hE2, hE3⟩ := expectedClone_serial env _ f.consolidation hs (.element name) Ks
    (inv.valid_get hget)
  rw [hL] at h6
  have hKe : eraseList Kc = L := by
    have := congrArg Tree.kids h6
    simpa [erase, Tree.kids] using this
  refine ⟨c, by rw [hres], ?_⟩
  rw [hres]
  -- the clone as a root of the result
  have hcR : c ∉ handlesList f.roots := by
    intro h
    have := inv.below c h
    have := (h4 c (by simp [handles])).1
    omega
  have hg2 : f2.get? c = some (.node c (.element name) (addSpec Kc f1.next order).1) := cl2.get?_c
  have hp2 := pathTo_top f2 f.roots c (.element name) _ cl2.roots hcR
  unfold Forest.serialises
  simp only [hg2]
  unfold Forest.prefixesInScope Forest.chain
  rw [hp2]
  -- shape of the children of the clone's root
  obtain ⟨A, B, rfl, hA, hB⟩ := fc_nsSplit Kc
  obtain ⟨New, hNew, hshape⟩ := addSpec_shape order A B f1.next hA hB
  obtain ⟨hmono, hdecl⟩ := addSpec_declares order A B f1.next hA hB hfun
  generalize hK' : (addSpec (A ++ B) f1.next order).1 = K' at hshape hmono hdecl ⊢
  subst hshape
  -- declarations of the source = declarations of the clone before the loop
  have hdsrc : fcDeclsOfKids Ks = A.filterMap (fun k => fcNsPair k.value) := by
    rw [← declsOfKids_split A B hA hB, ← nsDecls_erase c (.element name), ← nsDecls_erase hs (.element name)]
    simp only [erase]
    rw [hKe, hE1]
  -- in place: the serializer reaches the source
  obtain ⟨sS, hwS, htS⟩ := writable_descend env node r _ _ rest (hser r hr hp) hp
  simp only [erase, writableTree, Bool.and_eq_true, List.all_eq_true] at hwS
  obtain ⟨⟨⟨hdefS, hnameS⟩, hattrS⟩, hkidsS⟩ := hwS
  have hdS : (Tree.node (.element name) (eraseList Ks)).nsDecls = fcDeclsOfKids Ks := nsDecls_erase hs _ Ks
  rw [hdS] at hdefS hnameS hattrS hkidsS
  -- the clone
  simp only [List.map_cons, List.map_nil, erase, writableTree, Bool.and_eq_true, List.all_eq_true]
  have hdC : (Tree.node (.element name) (eraseList (A ++ New ++ B))).nsDecls = fcDeclsOfKids (A ++ New ++ B) :=
    nsDecls_erase c _ _
  rw [hdC]
  have hattrs : (Tree.node (.element name) (eraseList (A ++ New ++ B))).attrs =
      (Tree.node (.element name) (eraseList Ks)).attrs := by
    have e1 : (Tree.node (Value.element name) (eraseList (A ++ New ++ B))).attrs =
        (Tree.node (Value.element name) (eraseList (A ++ B))).attrs := by
      rw [attrs_eq, attrs_eq, attributeNodes_insert _ A New B hA hNew]
    rw [e1, hKe, hE2]
  rw [hattrs, writableList_insert env _ A New B hNew, hKe, hE3]
  -- the three stacks after the start tag of the source / the clone
  generalize hL0 : namespacesInScopeChain [Tree.node (Value.element name) (eraseList (A ++ New ++ B))] = L0
  let U : Nat → Prop := fun n => n ∈ unresolvedTree env (FStack.new []) (erase (.node hs (.element name) Ks))
  have hUdef : ∀ n, n ∈ unresolvedTree env (FStack.new []) (erase (.node hs (.element name) Ks)) → U n :=
    fun n hn => hn
  have hunres : ∀ n, U n ↔ n ∈ unresolvedHere env ((FStack.new []).push (fcDeclsOfKids Ks)) name
      ((Tree.node (.element name) (eraseList Ks)).attrs.map (·.1)) ∨
      n ∈ unresolvedList env ((FStack.new []).push (fcDeclsOfKids Ks)) (eraseList Ks) := by
    intro n
    show n ∈ unresolvedTree env (FStack.new []) (erase (.node hs (.element name) Ks)) ↔ _
    simp only [erase, unresolvedTree, List.mem_append, hdS]
  have H1 : ∀ b ∈ ((FStack.new []).push (fcDeclsOfKids Ks)).top,
      b ∈ ((FStack.new L0).push (fcDeclsOfKids (A ++ New ++ B))).top := by
    intro b hb
    rw [push_top, fc_mem_fullnameInfoNew] at hb ⊢
    rcases hb with h | ⟨h, _⟩
    · left; rw [hdsrc] at h; exact hmono b h
    · simp [FStack.new, FStack.top] at h
  have H2 : ∀ b ∈ (sS.push (fcDeclsOfKids Ks)).top, U b.2 →
      b ∈ ((FStack.new L0).push (fcDeclsOfKids (A ++ New ++ B))).top := by
    intro b hb hU
    rw [push_top, fc_mem_fullnameInfoNew] at hb ⊢
    left
    rcases hb with h | ⟨h, hk⟩
    · rw [hdsrc] at h; exact hmono b h
    · -- offered by the context, not overridden by the source's own declarations
      have hnt := unresolvedTree_nontrivial env _ _ b.2 hU
      rw [htS] at h
      simp only [FStack.new, FStack.top, List.headD_cons] at h
      have hinh : b ∈ f.inheritedPrefixes env node := by
        unfold Forest.inheritedPrefixes
        rw [hpath]
        have hun : f.unresolvedNamespaces env node =
            unresolvedTree env (FStack.new []) (erase (.node hs (.element name) Ks)) := by
          unfold Forest.unresolvedNamespaces
          rw [hget]
        cases rest with
        | nil =>
          exfalso
          -- the source is the root: what its own in-scope list offers is declared by itself
          have hrsrc : r = .node hs (.element name) Ks := by
            have := hlast
            simpa using this.symm
          rw [hrsrc] at h
          simp only [List.map_nil, stackAlong] at h
          rcases inScope_single _ b h with h' | h'
          · rw [nsDecls_erase] at h'
            exact hk b h' rfl
          · exact hnt.2 (congrArg Prod.snd h')
        | cons p rest' =>
          simp only
          rw [List.mem_filter]
          refine ⟨?_, by rw [hun]; simpa using hU⟩
          have hrmem : erase r ∈ (p :: rest').map erase := by
            have : (p :: rest').getLast? = some r := by
              have := hlast
              simpa [List.getLast?_cons_cons] using this
            exact List.mem_map.mpr ⟨r, List.mem_of_getLast? this, rfl⟩
          have hok : ChainOK ((p :: rest').map erase) :=
            chainOK_of_valid _ _ (fun x hx => hvpath x (List.mem_cons_of_mem _ hx))
          exact stackAlong_sub_inScope _ (erase r) hrmem hok b h hnt.2 (fun e => hnt.1 e.2)
      have hbo := (hord b).mpr hinh
      exact hdecl b hbo (fun x hx e => absurd e (hk x (by rw [hdsrc]; exact hx)))
  -- a default namespace in the clone is one in place
  have hsub := addSpec_decls_sub order A B f1.next hA hB
  rw [hK'] at hsub
  have H4 : HasDefault ((FStack.new L0).push (fcDeclsOfKids (A ++ New ++ B))).top →
      HasDefault (sS.push (fcDeclsOfKids Ks)).top := by
    rintro ⟨n, hm, hn⟩
    refine ⟨n, ?_, hn⟩
    rw [push_top, fc_mem_fullnameInfoNew] at hm ⊢
    rcases hm with h | ⟨h, hk⟩
    · rcases hsub _ h with h' | ⟨h1, h2⟩
      · left; rw [hdsrc]; exact h'
      · right
        refine ⟨?_, fun x hx => h2 x (by rw [← hdsrc]; exact hx)⟩
        have hinh := (hord _).mp h1
        unfold Forest.inheritedPrefixes at hinh
        rw [hpath] at hinh
        cases rest with
        | nil => simp at hinh
        | cons p rest' =>
          simp only [List.mem_filter] at hinh
          rw [htS]
          simp only [FStack.new, FStack.top, List.headD_cons]
          have hok : ChainOK ((p :: rest').map erase) :=
            chainOK_of_valid _ _ (fun x hx => hvpath x (List.mem_cons_of_mem _ hx))
          exact inScope_sub_stackAlong _ _ hok _ hinh.1 (show Env.emptyPrefix ≠ Env.xmlPrefix by decide)
    · exfalso
      simp only [FStack.new, FStack.top, List.headD_cons] at h
      rw [← hL0] at h
      rcases inScope_single _ _ h with h' | h'
      · rw [hdC] at h'
        exact hk _ h' rfl
      · have : Env.emptyPrefix = Env.xmlPrefix := congrArg Prod.fst h'
        exact absurd this (by decide)
  refine ⟨⟨⟨noDefault_transfer _ _ _ H4 hdefS, ?_⟩, ?_⟩, ?_⟩
  · rw [elementFullname_ok] at hnameS ⊢
    exact name_transfer env U _ _ _ name false H1 H2
      (fun hno => (hunres _).mpr (Or.inl (unresolvedHere_elem env _ name _ hno))) hnameS
  · intro a ha
    have := hattrS a ha
    rw [attributeFullname_ok] at this ⊢
    exact name_transfer env U _ _ _ a true H1 H2
      (fun hno => (hunres _).mpr (Or.inl (unresolvedHere_attr env _ name _ a ha hno))) this
  · exact writableList_transfer env U _ _ _ _ H1 H2 (fun n hn => (hunres n).mpr (Or.inr hn)) H4 hkidsS

end XotModel

namespace XotModel
open HTree

/-- `clone_with_prefixes` cannot panic on a live node, whatever the order. -/
theorem cloneWithPrefixes_total (f : Forest) (inv : f.Inv) (node : Nat) (src : HTree)
    (hsrc : f.get? node = some src) (order : List (Nat × Nat)) :
    ∃ c, (f.cloneWithPrefixes node order).2 = some c := by
  obtain ⟨C, f1, h1, h2, h3, h4, h5, _, _, _, _, h10⟩ := cloneNode_full f inv node src hsrc
  unfold Forest.cloneWithPrefixes
  rw [h1]
  simp only
  by_cases hel : f1.isElement C.handle = true
  · rw [if_pos hel]
    obtain ⟨c, vC, Kc⟩ := C
    have hv : vC.isElement = true := by
      have h3' : f1.get? c = some (.node c vC Kc) := h3
      have hel' : f1.isElement c = true := hel
      simpa [Forest.isElement, Forest.value?, h3', HTree.value] using hel'
    have cl := cloning_after_clone f inv _ f1 h2 h4 h5 h10 c vC Kc rfl
    obtain ⟨f2, ha, _⟩ := addPrefixes_spec order cl hv
    simp only [HTree.handle] at ha ⊢
    rw [ha]
    exact ⟨c, rfl⟩
  · rw [if_neg hel]
    exact ⟨_, rfl⟩

/-- `to_string(root)` in terms of the root tree. -/
theorem serialises_root (env : Env) (f : Forest) (inv : f.Inv) (r : HTree) (hr : r ∈ f.roots) :
    f.serialises env r.handle =
      writableTree env (FStack.new (namespacesInScopeChain [r.erase])) r.erase := by
  obtain ⟨L1, L2, hL⟩ := List.append_of_mem hr
  have hn : r.handle ∉ handlesList L1 := by
    have hnd := inv.nodup
    unfold Forest.allHandles at hnd
    rw [hL, handlesList_append] at hnd
    intro hm
    exact (List.nodup_append.mp hnd).2.2 _ hm _ (by simp [handlesList, handle_mem_handles]) rfl
  have hg : f.get? r.handle = some r := by
    unfold Forest.get?
    rw [hL, findList?_append_of_not_mem _ _ _ hn]
    simp [findList?, find?_root]
  have hp : f.pathTo r.handle = [r] := by
    unfold Forest.pathTo
    rw [hL, List.findSome?_append]
    have : L1.findSome? (HTree.pathTo r.handle) = none := by
      clear hL
      induction L1 with
      | nil => rfl
      | cons a L ih =>
        simp only [handlesList, List.mem_append, not_or] at hn
        rw [List.findSome?_cons, (pathTo_find r.handle a).2.2 (find?_none_of_not_mem _ a hn.1)]
        exact ih hn.2
    rw [this]
    cases r with
    | node h v ks => simp [HTree.pathTo, HTree.handle]
  unfold Forest.serialises Forest.prefixesInScope Forest.chain
  rw [hg, hp]
  rfl

end XotModel

/-! ## The shape of the result on an element

The clone is a parentless element `c` whose children are the children `A ++ B` of `clone_node`'s result (`A` the
namespace nodes) with new declaration leaves `New` in between; every declaration of the clone is one of the copy
or an entry of `order` whose prefix the copy does not declare, and no prefix is declared twice.  (The first half of
the proof of `cloneWithPrefixes_serialises`, as a statement of its own.) -/

namespace XotModel
open HTree

/-- The loop never declares a prefix twice. -/
theorem addSpec_nodup : ∀ (order : List (Nat × Nat)) (A B : List HTree) (n : Nat),
    (∀ x ∈ A, (x.value.category == Category.namespace) = true) →
    (∀ y, B.head? = some y → (y.value.category == Category.namespace) = false) →
    ((A.filterMap (fun k => fcNsPair k.value)).map Prod.fst).Nodup →
    ((fcDeclsOfKids (addSpec (A ++ B) n order).1).map Prod.fst).Nodup
  | [], A, B, n, hA, hB, h => by
    simp only [addSpec]
    rw [declsOfKids_split A B hA hB]
    exact h
  | (p, ns) :: rest, A, B, n, hA, hB, h => by
    rw [addSpec_cons A B n p ns rest hA hB]
    split
    · exact addSpec_nodup rest A B n hA hB h
    · next hs =>
      apply addSpec_nodup rest (A ++ [HTree.node n (.namespace p ns) []]) B (n + 1) (fc_nsCat_snoc hA n p ns) hB
      rw [fc_nsPairs_snoc, List.map_append, List.nodup_append]
      refine ⟨h, List.pairwise_singleton _ _, ?_⟩
      intro x hx y hy e'
      obtain ⟨b, hb, hb1⟩ := List.mem_map.mp hx
      exact hs ((find_key_iff A hA _).mpr ⟨b, hb, by rw [hb1, e']; exact (List.mem_singleton.mp hy)⟩)

theorem cloneWithPrefixes_shape (f : Forest) (inv : f.Inv)
    (node : Nat) (hs : Nat) (name : Nat) (Ks : List HTree) (rest : List HTree)
    (hpath : f.pathTo node = .node hs (.element name) Ks :: rest) (order : List (Nat × Nat)) :
    ∃ (f2 : Forest) (c : Nat) (A New B : List HTree),
      f.cloneWithPrefixes node order = (f2, some c) ∧
      f2.roots = f.roots ++ [.node c (.element name) (A ++ New ++ B)] ∧
      f2.get? c = some (.node c (.element name) (A ++ New ++ B)) ∧
      f2.pathTo c = [.node c (.element name) (A ++ New ++ B)] ∧
      (∀ x ∈ A, (x.value.category == Category.namespace) = true) ∧
      (∀ y, B.head? = some y → (y.value.category == Category.namespace) = false) ∧
      (∀ x ∈ New, IsNsLeaf x) ∧
      erase (.node c (.element name) (A ++ B)) =
        expectedClone f.consolidation (erase (.node hs (.element name) Ks)) ∧
      (∀ b ∈ fcDeclsOfKids (A ++ New ++ B), b ∈ A.filterMap (fun k => fcNsPair k.value) ∨
        (b ∈ order ∧ ∀ x ∈ A.filterMap (fun k => fcNsPair k.value), x.1 ≠ b.1)) ∧
      (((A.filterMap (fun k => fcNsPair k.value)).map Prod.fst).Nodup →
        ((fcDeclsOfKids (A ++ New ++ B)).map Prod.fst).Nodup) := by
  obtain ⟨hget, r, hr, hp⟩ := Forest.get?_of_pathTo hpath
  obtain ⟨c, Kc, f1, f2, -, -, h4, -, h6', hres, cl2, -⟩ :=
    cloneWithPrefixes_steps f inv node hs name Ks hget order
  have hcR : c ∉ handlesList f.roots := by
    intro h
    have := inv.below c h
    have := (h4 c (by simp [handles])).1
    omega
  have hg2 : f2.get? c = some (.node c (.element name) (addSpec Kc f1.next order).1) := cl2.get?_c
  have hp2 := pathTo_top f2 f.roots c (.element name) _ cl2.roots hcR
  have hr2 := cl2.roots
  simp only [fcPlug] at hr2
  obtain ⟨A, B, rfl, hA, hB⟩ := fc_nsSplit Kc
  obtain ⟨New, hNew, hshape⟩ := addSpec_shape order A B f1.next hA hB
  have hsub := addSpec_decls_sub order A B f1.next hA hB
  have hnodup := addSpec_nodup order A B f1.next hA hB
  rw [hshape] at hg2 hp2 hsub hr2 hnodup
  exact ⟨f2, c, A, New, B, hres, hr2, hg2, hp2, hA, hB, hNew, h6', hsub, hnodup⟩

end XotModel

/-! ## The namespace nodes the insertion loop adds

`addSpec` on `A ++ B` (namespace children, then the rest) from handle `n` yields `A ++ nsLeavesFrom n New ++ B` —
leaves with the consecutive handles `n, n+1, …`, for a list `New` of (prefix, namespace) pairs taken from `order` —
and the counter ends at `n + New.length`. -/

namespace XotModel
open HTree

/-- Namespace leaves for the listed (prefix, namespace) pairs, handles `n, n+1, …`. -/
def nsLeavesFrom : Nat → List (Nat × Nat) → List HTree
  | _, [] => []
  | n, (p, ns) :: rest => .node n (.namespace p ns) [] :: nsLeavesFrom (n + 1) rest

theorem nsLeavesFrom_length : ∀ (n : Nat) (l : List (Nat × Nat)), (nsLeavesFrom n l).length = l.length
  | _, [] => rfl
  | n, (_, _) :: rest => by simp [nsLeavesFrom, nsLeavesFrom_length (n + 1) rest]

theorem nsLeavesFrom_handles : ∀ (n : Nat) (l : List (Nat × Nat)),
    handlesList (nsLeavesFrom n l) = List.range' n l.length
  | _, [] => rfl
  | n, (_, _) :: rest => by
    simp [nsLeavesFrom, handlesList, handles, nsLeavesFrom_handles (n + 1) rest, List.range'_succ]

theorem nsLeavesFrom_mem : ∀ (n : Nat) (l : List (Nat × Nat)) (x : HTree), x ∈ nsLeavesFrom n l →
    ∃ h p ns, x = .node h (.namespace p ns) [] ∧ n ≤ h ∧ h < n + l.length ∧ (p, ns) ∈ l
  | _, [], x, hx => by simp [nsLeavesFrom] at hx
  | n, (p, ns) :: rest, x, hx => by
    simp only [nsLeavesFrom, List.mem_cons] at hx
    rcases hx with rfl | hx
    · exact ⟨n, p, ns, rfl, Nat.le_refl _, by simp, List.mem_cons_self⟩
    · obtain ⟨h, q, m, rfl, h1, h2, h3⟩ := nsLeavesFrom_mem (n + 1) rest x hx
      exact ⟨h, q, m, rfl, by omega, by simp only [List.length_cons]; omega, List.mem_cons_of_mem _ h3⟩

theorem addSpec_fresh : ∀ (order : List (Nat × Nat)) (A B : List HTree) (n : Nat),
    (∀ x ∈ A, (x.value.category == Category.namespace) = true) →
    (∀ y, B.head? = some y → (y.value.category == Category.namespace) = false) →
    ∃ New : List (Nat × Nat), (addSpec (A ++ B) n order).1 = A ++ nsLeavesFrom n New ++ B ∧
      (addSpec (A ++ B) n order).2 = n + New.length ∧ (∀ b ∈ New, b ∈ order)
  | [], A, B, n, _, _ => ⟨[], by simp [addSpec, nsLeavesFrom], by simp [addSpec], by simp⟩
  | (p, ns) :: rest, A, B, n, hA, hB => by
    rw [addSpec_cons A B n p ns rest hA hB]
    split
    · obtain ⟨New, h1, h2, h3⟩ := addSpec_fresh rest A B n hA hB
      exact ⟨New, h1, h2, fun b hb => List.mem_cons_of_mem _ (h3 b hb)⟩
    · obtain ⟨New, h1, h2, h3⟩ := addSpec_fresh rest (A ++ [HTree.node n (.namespace p ns) []]) B (n + 1)
        (fc_nsCat_snoc hA n p ns) hB
      refine ⟨(p, ns) :: New, ?_, ?_, ?_⟩
      · rw [h1]; simp [nsLeavesFrom, List.append_assoc]
      · rw [h2]; simp only [List.length_cons]; omega
      · intro b hb
        rcases List.mem_cons.mp hb with rfl | hb
        · exact List.mem_cons_self
        · exact List.mem_cons_of_mem _ (h3 b hb)

/-- `clone_with_prefixes` on an element: `clone_node`, then the new declaration leaves between the
    namespace children of the clone's root and the rest, handles from the counter `clone_node` left. -/
theorem cloneWithPrefixes_fresh (f : Forest) (inv : f.Inv) (node hs name : Nat) (Ks : List HTree)
    (hget : f.get? node = some (.node hs (.element name) Ks)) (order : List (Nat × Nat)) :
    ∃ (c : Nat) (Kc : List HTree) (f1 : Forest) (New : List (Nat × Nat)),
      f.cloneNode node = (f1, some c) ∧ f1.roots = f.roots ++ [.node c (.element name) Kc] ∧
      f.next ≤ f1.next ∧ (∀ h ∈ handles (.node c (.element name) Kc), f.next ≤ h ∧ h < f1.next) ∧
      (f.cloneWithPrefixes node order).2 = some c ∧
      (f.cloneWithPrefixes node order).1.roots = f.roots ++ [.node c (.element name)
        (Kc.takeWhile (fun k => k.value.category == .namespace) ++ nsLeavesFrom f1.next New ++
          Kc.dropWhile (fun k => k.value.category == .namespace))] ∧
      (f.cloneWithPrefixes node order).1.next = f1.next + New.length ∧ (∀ b ∈ New, b ∈ order) := by
  obtain ⟨c, Kc, f1, f2, h1, h2, h4, h5, -, hres, cl2, hn2⟩ :=
    cloneWithPrefixes_steps f inv node hs name Ks hget order
  have hA : ∀ x ∈ Kc.takeWhile (fun c => c.value.category == .namespace),
      (x.value.category == Category.namespace) = true := fun x hx => mem_takeWhile_imp _ Kc x hx
  have hB : ∀ y, (Kc.dropWhile (fun c => c.value.category == .namespace)).head? = some y →
      (y.value.category == Category.namespace) = false := fun y hy => head_dropWhile_not _ Kc y hy
  obtain ⟨New, e1, e2, e3⟩ := addSpec_fresh order _ _ f1.next hA hB
  rw [List.takeWhile_append_dropWhile] at e1 e2
  refine ⟨c, Kc, f1, New, h1, h2, h5, h4, by rw [hres], ?_, ?_, e3⟩
  · rw [hres]
    have := cl2.roots
    simp only [fcPlug] at this
    rw [this, e1]
  · rw [hres]; show f2.next = _; rw [hn2, e2]

end XotModel
