/-
  Handle trees and forests as C06 needs them: lookups, `leafOk`, the parent lookup `parentBelow` and ancestor chains
  on trees; the weak invariant `Forest.W` (handles distinct and below `next`, only elements and documents have
  children), which every intermediate state of a manipulation satisfies, and the forest interface (`parent?`, `ctx?`,
  `ancestors`, `isRoot`, liveness) under it, read off the location of the handle (`Loc`, Lemmas/HTreeLoc.lean).
-/
import XotModel.Lemmas.HTreeBasic

/-! ## Trees: lookups, leaves, parents -/

namespace XotModel
open HTree

/-! ### Leaves: only elements and documents have children -/

mutual
  /-- Only element and document nodes have children. -/
  def leafOk : HTree → Bool
    | .node _ v ks => (ks.isEmpty || v.isElement || v.isDocument) && leafOkList ks
  def leafOkList : List HTree → Bool
    | [] => true
    | k :: ks => leafOk k && leafOkList ks
end

theorem leafOkList_append (a b : List HTree) :
    leafOkList (a ++ b) = (leafOkList a && leafOkList b) := by
  induction a with
  | nil => simp [leafOkList]
  | cons k ks ih => simp [leafOkList, ih, Bool.and_assoc]

theorem leafOkList_of_mem {k : HTree} {ks : List HTree} (h : leafOkList ks = true) (hk : k ∈ ks) :
    leafOk k = true := by
  induction ks with
  | nil => cases hk
  | cons a ks ih =>
    simp only [leafOkList, Bool.and_eq_true] at h
    rcases List.mem_cons.1 hk with e | e
    · subst e; exact h.1
    · exact ih h.2 e

mutual
  theorem validTree_leafOk (b : Bool) : ∀ t : HTree, validTree b t = true → leafOk t = true
    | .node h v ks => by
      intro hv
      simp only [validTree, Bool.and_eq_true] at hv
      obtain ⟨⟨⟨⟨⟨h1, _⟩, _⟩, _⟩, _⟩, h6⟩ := hv
      simp only [leafOk, Bool.and_eq_true, Bool.or_eq_true]
      refine ⟨?_, validList_leafOk b ks h6⟩
      cases ks with
      | nil => simp
      | cons k ks =>
        simp only [List.all_cons, Bool.and_eq_true] at h1
        rcases Fatom.kidAllowed_container h1.1 with h' | h'
        · exact Or.inl (Or.inr h')
        · exact Or.inr h'
  theorem validList_leafOk (b : Bool) : ∀ ks : List HTree, validList b ks = true → leafOkList ks = true
    | [] => by simp [leafOkList]
    | k :: ks => by
      intro hv
      simp only [validList, Bool.and_eq_true] at hv
      simp only [leafOkList, Bool.and_eq_true]
      exact ⟨validTree_leafOk b k hv.1, validList_leafOk b ks hv.2⟩
end

theorem leafOk_kid {p k : HTree} (hp : leafOk p = true) (hk : k ∈ p.kids) : leafOk k = true := by
  cases p with
  | node h v ks =>
    simp only [leafOk, Bool.and_eq_true] at hp
    exact leafOkList_of_mem hp.2 hk

theorem find?_leafOk (h : Nat) : ∀ (t t' : HTree), leafOk t = true → find? h t = some t' →
    leafOk t' = true :=
  Fmap.find?_closed (P := fun t => leafOk t = true) (fun _ _ => leafOk_kid) h

theorem findList?_leafOk (h : Nat) : ∀ (ks : List HTree) (t' : HTree), leafOkList ks = true →
    findList? h ks = some t' → leafOk t' = true :=
  fun ks t' hl => Fmap.findList?_closed (P := fun t => leafOk t = true) (fun _ _ => leafOk_kid) h ks t'
    (fun _ hk => leafOkList_of_mem hl hk)

theorem leafOk_kids_nil {t : HTree} (hl : leafOk t = true) (he : t.value.isElement = false)
    (hd : t.value.isDocument = false) : t.kids = [] := by
  cases t with
  | node h v ks =>
    simp only [HTree.value] at he hd
    simp only [leafOk, Bool.and_eq_true, Bool.or_eq_true, he, hd, List.isEmpty_iff] at hl
    simpa [HTree.kids] using hl.1

/-! ### Parent lookup without the accumulator -/

mutual
  /-- The parent component of `ctxBelow`. -/
  def parentBelow (h : Nat) : HTree → Option Nat
    | .node p _ ks => parentKids h p ks
  def parentKids (h p : Nat) : List HTree → Option Nat
    | [] => none
    | k :: ks =>
      if k.handle = h then some p
      else match parentBelow h k with
        | some q => some q
        | none => parentKids h p ks
end

mutual
  theorem ctxBelow_parent (h : Nat) : ∀ t : HTree,
      (ctxBelow h t).map (·.parent) = parentBelow h t
    | .node p v ks => by
      unfold ctxBelow parentBelow
      exact ctxKids_parent h p [] ks
  theorem ctxKids_parent (h p : Nat) : ∀ (acc ks : List HTree),
      (ctxKids h p acc ks).map (·.parent) = parentKids h p ks
    | _, [] => by simp [ctxKids, parentKids]
    | acc, k :: ks => by
      unfold ctxKids parentKids
      by_cases hk : k.handle = h
      · simp [hk]
      · simp only [hk, if_false]
        have := ctxBelow_parent h k
        cases hc : ctxBelow h k with
        | some c => rw [hc] at this; simp only [Option.map_some] at this; rw [← this]; rfl
        | none =>
          rw [hc] at this; simp only [Option.map_none] at this; rw [← this]
          exact ctxKids_parent h p (acc ++ [k]) ks
end

theorem parentKids_mem (h p : Nat) : ∀ (ks : List HTree) (q : Nat), parentKids h p ks = some q →
    h ∈ handlesList ks ∧ (q = p ∨ q ∈ handlesList ks) := by
  intro ks q e
  rw [← ctxKids_parent h p [] ks] at e
  cases hc : ctxKids h p [] ks with
  | none => rw [hc] at e; cases e
  | some c =>
    rw [hc] at e
    cases e
    exact ⟨Fws.ctxKids_support h p [] ks c hc, ctxKids_parent_mem h p ks [] c hc⟩

theorem parentBelow_mem (h : Nat) : ∀ (t : HTree) (q : Nat), parentBelow h t = some q →
    h ∈ handlesList t.kids ∧ q ∈ handles t := by
  intro t q e
  rw [← ctxBelow_parent h t] at e
  cases hc : ctxBelow h t with
  | none => rw [hc] at e; cases e
  | some c =>
    rw [hc] at e
    cases e
    exact ⟨Fws.ctxBelow_support h t c hc, ctxBelow_parent_mem h t c hc⟩

mutual
  theorem parentBelow_none (h : Nat) : ∀ (t : HTree), parentBelow h t = none →
      h ∉ handlesList t.kids
    | .node p v ks => by
      unfold parentBelow
      exact parentKids_none h p ks
  theorem parentKids_none (h p : Nat) : ∀ (ks : List HTree), parentKids h p ks = none →
      h ∉ handlesList ks
    | [] => by simp [handlesList]
    | k :: ks => by
      unfold parentKids handlesList
      by_cases hk : k.handle = h
      · simp [hk]
      · simp only [hk, if_false]
        cases hc : parentBelow h k with
        | some q' => simp
        | none =>
          simp only; intro e
          rw [List.mem_append, handles_eq]
          rintro (hm | hm)
          · rcases List.mem_cons.1 hm with e' | e'
            · exact hk e'.symm
            · exact parentBelow_none h k hc e'
          · exact parentKids_none h p ks e hm
end

theorem parentBelow_none_of_not_mem {h : Nat} {t : HTree} (hm : h ∉ handles t) :
    parentBelow h t = none := by
  cases hc : parentBelow h t with
  | none => rfl
  | some q =>
    have := (parentBelow_mem h t q hc).1
    rw [handles_eq] at hm
    exact absurd (List.mem_cons_of_mem _ this) hm

theorem parentKids_none_of_not_mem {h p : Nat} {ks : List HTree} (hm : h ∉ handlesList ks) :
    parentKids h p ks = none := by
  cases hc : parentKids h p ks with
  | none => rfl
  | some q => exact absurd (parentKids_mem h p ks q hc).1 hm

end XotModel

/-! ## Trees: contexts and ancestor chains -/

namespace XotModel
open HTree

/-! ### A child's parent and the child itself can be looked up -/

theorem fa_findList?_kid (p q : Nat) : ∀ (ks : List HTree) (t' k : HTree), (handlesList ks).Nodup →
    findList? p ks = some t' → k ∈ t'.kids →
    findList? k.handle ks = some k ∧ parentKids k.handle q ks = some p := by
  intro ks t' k nd e hk
  obtain ⟨path, L, R, lc⟩ := Loc.of_findList? nd e
  obtain ⟨l, r, hs⟩ := List.append_of_mem hk
  have lk := lc.kid hs
  refine ⟨lk.findList?_eq nd, ?_⟩
  rw [← ctxKids_parent k.handle q [] ks, lk.ctxKids_snoc nd]
  rfl

/-! ### `ancestorsOf` -/

mutual
  theorem ancestorsOf_isSome_iff (h : Nat) : ∀ t : HTree,
      (ancestorsOf h t).isSome = true ↔ h ∈ handles t
    | .node h' v ks => by
      unfold ancestorsOf handles
      by_cases hh : h' = h
      · simp [hh]
      · simp only [hh, if_false, List.mem_cons]
        have := ancestorsOfList_isSome_iff h ks
        cases ha : ancestorsOfList h ks with
        | some l =>
          rw [ha] at this; simp only [Option.isSome_some, true_iff] at this
          simp [this]
        | none =>
          rw [ha] at this; simp only [Option.isSome_none, Bool.false_eq_true, false_iff] at this
          simp only [Option.isSome_none, Bool.false_eq_true, false_iff, not_or]
          exact ⟨fun e => hh e.symm, this⟩
  theorem ancestorsOfList_isSome_iff (h : Nat) : ∀ ks : List HTree,
      (ancestorsOfList h ks).isSome = true ↔ h ∈ handlesList ks
    | [] => by simp [ancestorsOfList, handlesList]
    | k :: ks => by
      unfold ancestorsOfList handlesList
      rw [List.mem_append, ← ancestorsOf_isSome_iff h k, ← ancestorsOfList_isSome_iff h ks]
      cases hk : ancestorsOf h k <;> simp
end

theorem ancestorsOf_none_iff (h : Nat) (t : HTree) : ancestorsOf h t = none ↔ h ∉ handles t := by
  rw [← ancestorsOf_isSome_iff]; cases ancestorsOf h t <;> simp

theorem ancestorsOfList_none_iff (h : Nat) (ks : List HTree) :
    ancestorsOfList h ks = none ↔ h ∉ handlesList ks := by
  rw [← ancestorsOfList_isSome_iff]; cases ancestorsOfList h ks <;> simp

theorem ancestorsOfList_step (h p : Nat) : ∀ (ks : List HTree) (q : Nat), (handlesList ks).Nodup →
    p ∉ handlesList ks → parentKids h p ks = some q →
    (q = p ∧ ancestorsOfList h ks = some [h]) ∨
    (q ≠ p ∧ ∃ l, ancestorsOfList q ks = some l ∧ ancestorsOfList h ks = some (h :: l)) := by
  intro ks q nd hp e
  obtain ⟨path, l, k, r, lc⟩ := Loc.exists_of_mem (parentKids_mem h p ks q e).1
  rw [← ctxKids_parent h p [] ks] at e
  rcases fi_nil_or_snoc path with rfl | ⟨rest, fr, rfl⟩
  · rw [lc.ctxKids_nil nd] at e
    cases e
    exact Or.inl ⟨rfl, lc.ancestorsOfList_eq nd⟩
  · -- the parent is the last frame; its own ancestors are the frames before it
    rw [lc.ctxKids_snoc nd] at e
    cases e
    have hq : fr.h ∈ handlesList ks := mem_of_findList?_some (lc.up.findList?_eq nd)
    refine Or.inr ⟨fun e' => hp (e' ▸ hq), _, lc.up.ancestorsOfList_eq nd, ?_⟩
    rw [lc.ancestorsOfList_eq nd]
    simp

end XotModel

/-! ## Forests: lists of roots, the weak invariant `W`, the forest interface -/

namespace XotModel
open HTree

/-! ### Lists of roots -/

theorem rootsParent_none_of_not_mem {h : Nat} : ∀ {rs : List HTree}, h ∉ handlesList rs →
    rs.findSome? (parentBelow h) = none
  | [], _ => by simp
  | r :: rs, hm => by
    unfold handlesList at hm
    rw [List.findSome?_cons, parentBelow_none_of_not_mem (fun h' => hm (List.mem_append_left _ h'))]
    exact rootsParent_none_of_not_mem (fun h' => hm (List.mem_append_right _ h'))

theorem rootsAny_mem {h : Nat} : ∀ {rs : List HTree}, rs.any (fun r => r.handle = h) = true →
    h ∈ handlesList rs
  | [], e => by simp at e
  | r :: rs, e => by
    unfold handlesList
    rw [List.any_cons, Bool.or_eq_true] at e
    rcases e with e | e
    · simp only [decide_eq_true_eq] at e
      exact List.mem_append_left _ (e ▸ handle_mem_handles r)
    · exact List.mem_append_right _ (rootsAny_mem e)

/-! ### The weak invariant and the forest interface -/

/-- What every intermediate state of a manipulation satisfies: handles are distinct and below `next`, only
    elements and documents have children. -/
structure Forest.W (f : Forest) : Prop where
  nodup : f.allHandles.Nodup
  leaves : leafOkList f.roots = true
  below : ∀ h ∈ f.allHandles, h < f.next

theorem Forest.Inv.toW {f : Forest} (h : f.Inv) : f.W :=
  ⟨h.nodup, validList_leafOk _ _ h.valid, h.below⟩

namespace Forest

theorem isLive_iff_mem (f : Forest) (h : Nat) : f.isLive h = true ↔ h ∈ f.allHandles := by
  unfold isLive get? allHandles
  exact findList?_isSome_iff h f.roots

theorem isLive_iff_value? (f : Forest) (h : Nat) : f.isLive h = (f.value? h).isSome := by
  unfold isLive value?; cases f.get? h <;> rfl

theorem parent?_eq (f : Forest) (h : Nat) : f.parent? h = f.roots.findSome? (parentBelow h) := by
  unfold parent? ctx?
  induction f.roots with
  | nil => rfl
  | cons r rs ih =>
    rw [List.findSome?_cons, List.findSome?_cons, ← ctxBelow_parent]
    cases ctxBelow h r with
    | some c => rfl
    | none => exact ih

theorem ctx?_none_iff (f : Forest) (h : Nat) : f.ctx? h = none ↔ f.parent? h = none := by
  unfold parent?; cases f.ctx? h <;> simp

theorem parent?_loc {f : Forest} (nd : f.allHandles.Nodup) {h q : Nat} (e : f.parent? h = some q) :
    ∃ rest fr l k r, Loc f.roots h (rest ++ [fr]) l k r ∧ fr.h = q := by
  obtain ⟨c, hc, hp⟩ := ctx?_of_parent? e
  obtain ⟨path, l, k, r, lc⟩ := exists_loc (Fws.ctx?_support hc)
  rcases fi_nil_or_snoc path with rfl | ⟨rest, fr, rfl⟩
  · rw [ctx?_of_loc_nil lc nd] at hc; cases hc
  · rw [ctx?_of_loc_snoc lc nd] at hc
    cases hc
    exact ⟨rest, fr, l, k, r, lc, hp⟩

theorem root_loc {f : Forest} (nd : f.allHandles.Nodup) {h : Nat} (hl : f.isLive h = true)
    (e : f.parent? h = none) : ∃ l k r, Loc f.roots h [] l k r := by
  obtain ⟨path, l, k, r, lc⟩ := exists_loc (mem_allHandles_of_isLive hl)
  rcases fi_nil_or_snoc path with rfl | ⟨rest, fr, rfl⟩
  · exact ⟨l, k, r, lc⟩
  · rw [parent?_of_ctx? (ctx?_of_loc_snoc lc nd)] at e; cases e

theorem ctx?_spec {f : Forest} (w : f.W) {h : Nat} {c : Ctx} (e : f.ctx? h = some c) :
    (∃ v, f.get? c.parent = some (.node c.parent v (c.left ++ c.self :: c.right))) ∧
      c.self.handle = h :=
  ⟨(kids_of_ctx w.nodup e).2, (kids_of_ctx w.nodup e).1⟩

theorem kid_spec {f : Forest} (w : f.W) {p : Nat} {t k : HTree} (e : f.get? p = some t)
    (hk : k ∈ t.kids) : f.get? k.handle = some k ∧ f.parent? k.handle = some p := by
  obtain ⟨path, L, R, lc⟩ := loc_of_get? w.nodup e
  obtain ⟨l, r, hs⟩ := List.append_of_mem hk
  exact ⟨get?_of_loc (lc.kid hs) w.nodup, parent?_of_ctx? (ctx?_of_loc_snoc (lc.kid hs) w.nodup)⟩

theorem parent?_live {f : Forest} {h q : Nat} (e : f.parent? h = some q) :
    f.isLive h = true ∧ f.isLive q = true := by
  obtain ⟨c, hc, hp⟩ := ctx?_of_parent? e
  refine ⟨(isLive_iff_mem f h).2 (Fws.ctx?_support hc), (isLive_iff_mem f q).2 ?_⟩
  obtain ⟨r, hr, hb⟩ := List.exists_of_findSome?_eq_some hc
  exact hp ▸ handles_subset_handlesList hr _ (ctxBelow_parent_mem h r c hb)

theorem ancestors_step {f : Forest} (w : f.W) {h q : Nat} (e : f.parent? h = some q) :
    f.ancestors h = h :: f.ancestors q := by
  obtain ⟨rest, fr, l, k, r, lc, rfl⟩ := parent?_loc w.nodup e
  rw [ancestors_of_loc lc w.nodup, ancestors_of_loc lc.up w.nodup]
  simp

theorem ancestors_root {f : Forest} (w : f.W) {h : Nat} (hl : f.isLive h = true) (e : f.parent? h = none) :
    f.ancestors h = [h] ∧ f.isRoot h = true := by
  obtain ⟨l, k, r, lc⟩ := root_loc w.nodup hl e
  exact ⟨ancestors_of_loc lc w.nodup, isRoot_of_loc_nil lc⟩

theorem ancestors_dead {f : Forest} {h : Nat} (hl : f.isLive h = false) : f.ancestors h = [] :=
  ancestors_of_not_mem (fun hm => by rw [(isLive_iff_mem f h).2 hm] at hl; cases hl)

theorem isRoot_noParent {f : Forest} (w : f.W) {h : Nat} (e : f.isRoot h = true) :
    f.parent? h = none := by
  obtain ⟨L, T, R, lc⟩ := exists_loc_of_isRoot e
  exact (ctx?_none_iff f h).1 (ctx?_of_loc_nil lc w.nodup)

theorem isRoot_live {f : Forest} {h : Nat} (e : f.isRoot h = true) : f.isLive h = true :=
  (isLive_iff_mem f h).2 (rootsAny_mem e)

theorem isRoot_iff {f : Forest} (w : f.W) (h : Nat) :
    f.isRoot h = true ↔ f.isLive h = true ∧ f.parent? h = none :=
  ⟨fun e => ⟨isRoot_live e, isRoot_noParent w e⟩, fun ⟨a, b⟩ => (ancestors_root w a b).2⟩

theorem isRoot_false_of_parent {f : Forest} (w : f.W) {h q : Nat} (e : f.parent? h = some q) :
    f.isRoot h = false := by
  cases hr : f.isRoot h with
  | false => rfl
  | true => rw [isRoot_noParent w hr] at e; cases e

theorem self_mem_ancestors {f : Forest} (w : f.W) {h : Nat} (hl : f.isLive h = true) :
    h ∈ f.ancestors h := by
  cases hp : f.parent? h with
  | none => rw [(ancestors_root w hl hp).1]; simp
  | some q => rw [ancestors_step w hp]; simp

theorem parent?_ne {f : Forest} (w : f.W) {h q : Nat} (e : f.parent? h = some q) : q ≠ h := by
  intro eq
  subst eq
  obtain ⟨c, hc, hp⟩ := ctx?_of_parent? e
  obtain ⟨⟨v, hg⟩, hh⟩ := ctx?_spec w hc
  have hn : (handles (.node c.parent v (c.left ++ c.self :: c.right))).Nodup :=
    List.Sublist.nodup (findList?_sublist _ _ _ hg) w.nodup
  unfold handles at hn
  rw [handlesList_append] at hn
  have : c.parent ∈ handlesList c.left ++ handlesList (c.self :: c.right) := by
    refine List.mem_append_right _ ?_
    unfold handlesList
    exact List.mem_append_left _ (by rw [hp, ← hh]; exact handle_mem_handles _)
  exact (List.nodup_cons.1 hn).1 this

end Forest
end XotModel
