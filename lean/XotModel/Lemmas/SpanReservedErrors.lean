/-
  C17 for the two reserved-name errors of `_parse`:
  `InvalidTarget` (a PI whose target is `xml` in any letter case) and `InvalidNamespaceDeclaration`
  (`DocumentBuilder::prefix` on a reserved prefix / namespace name, or `xmlns:p=""`).
  They are raised by exactly one arm of the token loop each, with the span of the token that caused
  them: the PI target resp. the attribute NAME `xmlns:p` / `xmlns` as written (`step_err_reserved`),
  through the loop and the epilogues (`build_err_reserved`), and on strings those spans slice the
  source to the target resp. to the qualified name (`parseString_invalidTarget`,
  `parseString_invalidNamespaceDeclaration`).
-/
import XotModel.Lemmas.ParseOps
import XotModel.Lemmas.SpanSlice

namespace XotModel

/-- The two error kinds of the reserved-name checks. -/
def ParseErr.isReservedKind : ParseErr → Bool
  | .invalidTarget _ _ => true
  | .invalidNamespaceDeclaration _ _ => true
  | _ => false

/-- A result that is not one of the two reserved-name errors. -/
def Step.Plain {α : Type} (r : Step α) : Prop := ∀ e env, r = .err e env → e.isReservedKind = false

theorem ofContent_unreserved (e : ContentErr) : (ParseErr.ofContent e).isReservedKind = false := by
  cases e <;> rfl

theorem Step.Plain.ok {α : Type} (a : α) : (Step.ok a).Plain := fun _ _ h => nomatch h

theorem Step.Plain.panic {α : Type} : (Step.panic : Step α).Plain := fun _ _ h => nomatch h

theorem Step.Plain.err {α : Type} {e : ParseErr} (env : Env) (he : e.isReservedKind = false) :
    (Step.err e env : Step α).Plain := by
  intro e' env' h
  cases h
  exact he

/-- An error handed on from a call that raises no reserved-name error. -/
theorem Step.Plain.err_of {α β : Type} {r : Step α} {e : ParseErr} {env : Env} (hr : r.Plain)
    (h : r = .err e env) : (Step.err e env : Step β).Plain :=
  .err env (hr e env h)

theorem elementNameId_unreserved (env : Env) (stack : NsStack) (pfx name : Str) (sp : Span) :
    (elementNameId env stack pfx name sp).Plain := by
  fun_cases elementNameId env stack pfx name sp
  · exact .ok _
  · exact .err _ rfl

theorem attributeNameId_unreserved (env : Env) (stack : NsStack) (pfx name : Str) (sp : Span) :
    (attributeNameId env stack pfx name sp).Plain := by
  fun_cases attributeNameId env stack pfx name sp
  · exact .ok _
  · exact .ok _
  · exact .err _ rfl

theorem addAttributes_unreserved (stack : NsStack) (node : Path) (abs : List AttributeBuilder) (st : AttrLoop) :
    (addAttributes stack node st abs).Plain := by
  fun_induction addAttributes stack node st abs with
  | case1 => exact .ok _
  | case2 => exact .panic
  | case3 _ _ _ _ _ hn => exact .err_of (attributeNameId_unreserved _ _ _ _ _) hn
  | case4 => exact .err _ rfl
  | case5 => exact .err _ rfl
  | case6 _ _ _ _ _ _ _ _ _ _ _ ih => exact ih

theorem openElement_unreserved (b : Builder) : b.openElement.Plain := by
  fun_cases Builder.openElement b
  · exact .panic
  · exact .panic
  · next he => exact .err_of (elementNameId_unreserved _ _ _ _ _) he
  · exact .panic
  · next he => exact .err_of (addAttributes_unreserved _ _ _ _) he
  · exact .ok _

theorem leave_unreserved (b : Builder) (node : Path) (sp : StrSpan) : (b.leave node sp).Plain := by
  unfold Builder.leave Builder.toParent
  cases b.parents with
  | nil => exact .panic
  | cons p rest => exact .ok _

theorem closeElement_unreserved (b : Builder) (p l sp : StrSpan) : (b.closeElement p l sp).Plain := by
  fun_cases Builder.closeElement b p l sp
  · exact .panic
  · next he => exact .err_of (elementNameId_unreserved _ _ _ _ _) he
  · exact .err _ rfl
  · exact .err _ rfl
  · exact leave_unreserved _ _ _
  · exact leave_unreserved _ _ _

theorem text_unreserved (b : Builder) (t : StrSpan) : (b.text t).Plain := by
  fun_cases Builder.text b t
  · exact .err _ (ofContent_unreserved _)
  · exact .ok _

theorem cdata_unreserved (b : Builder) (t : StrSpan) : (b.cdata t).Plain := by
  fun_cases Builder.cdata b t
  · exact .ok _
  · exact .ok _

theorem attribute_unreserved (b : Builder) (p l v : StrSpan) : (b.attribute p l v).Plain := by
  fun_cases Builder.attribute b p l v
  · exact .panic
  · exact .err _ rfl
  · exact .err _ (ofContent_unreserved _)
  · exact .ok _

/-- `DocumentBuilder::prefix`: the only reserved-name error is `InvalidNamespaceDeclaration` with the
    span it was handed (the attribute name), raised iff the DECODED value is reserved for the prefix. -/
theorem prefix_err_reserved {b : Builder} {pfx : Str} {uri : StrSpan} {nameSpan : Span} {e : ParseErr} {env' : Env}
    (h : b.prefix pfx uri nameSpan = .err e env') (hk : e.isReservedKind = true) :
    e = .invalidNamespaceDeclaration (declDisplayName pfx) nameSpan ∧
    ∃ u, parseContentGo true uri.start 0 uri.text = .ok u ∧ reservedDecl pfx u = true := by
  revert h
  fun_cases Builder.prefix b pfx uri nameSpan
  · intro h
    cases h
    rw [ofContent_unreserved] at hk
    cases hk
  · next u hu hres =>
    intro h
    cases h
    exact ⟨rfl, u, hu, hres⟩
  · intro h; cases h
  · intro h
    cases h
    cases hk
  · intro h; cases h

/-- The namespace declaration an attribute token is, if any: the test of the `Attribute` arm of `_parse`
    (`xmlns:p` declares `p`, an unprefixed `xmlns` the empty prefix). -/
def IsNsDecl (p l : Str) (pfx : Str) : Prop :=
  (p = ['x', 'm', 'l', 'n', 's'] ∧ pfx = l) ∨ (p = [] ∧ l = ['x', 'm', 'l', 'n', 's'] ∧ pfx = [])

/-- One arm of `_parse`: a reserved-name error comes from a PI token (with the span of its target) or
    from a namespace-declaration attribute (with the span of its name as written). -/
theorem step_err_reserved {b : Builder} {t : Token} {e : ParseErr} {env' : Env}
    (h : b.step t = .err e env') (hk : e.isReservedKind = true) :
    (∃ tg c w, t = .pi tg c w ∧ e = .invalidTarget tg.text tg.span ∧ isReservedPiTarget tg.text = true) ∨
    (∃ p l v w pfx, t = .attribute p l v w ∧ IsNsDecl p.text l.text pfx ∧
      e = .invalidNamespaceDeclaration (declDisplayName pfx) (Span.fromPrefixName p l) ∧
      ∃ u, parseContentGo true v.start 0 v.text = .ok u ∧ reservedDecl pfx u = true) := by
  -- the error of `check_qname` is an `UnknownPrefix`
  have h0 := h
  clear h
  rcases Builder.step_err_cases h0 with ⟨_, _, _, _, he, _⟩ | ⟨_, h⟩
  · rw [he] at hk; cases hk
  clear h0
  have plain : ∀ {r : Step Builder}, r.Plain → r = .err e env' → False := fun hp hr => by
    rw [hp e env' hr] at hk; cases hk
  cases t with
  | «attribute» p l v w =>
    simp only [Builder.stepCore] at h
    split at h
    · rename_i hx
      obtain ⟨he, hu⟩ := prefix_err_reserved h hk
      exact .inr ⟨p, l, v, w, l.text, rfl, .inl ⟨by simpa using hx, rfl⟩, he, hu⟩
    · split at h
      · rename_i hx
        simp only [Bool.and_eq_true, List.isEmpty_iff, beq_iff_eq] at hx
        obtain ⟨he, hu⟩ := prefix_err_reserved h hk
        exact .inr ⟨p, l, v, w, [], rfl, .inr ⟨hx.1, hx.2, rfl⟩, he, hu⟩
      · exact (plain (attribute_unreserved _ _ _ _) h).elim
  | text t => exact (plain (text_unreserved _ _) h).elim
  | cdata t sp => exact (plain (cdata_unreserved _ _) h).elim
  | elementStart p l sp => simp [Builder.stepCore] at h
  | elementEnd e1 sp =>
    cases e1 with
    | «open» => exact (plain (openElement_unreserved _) h).elim
    | close p l => exact (plain (closeElement_unreserved _ _ _ _) h).elim
    | empty =>
      simp only [Builder.stepCore] at h
      cases hb : b.openElement with
      | ok b1 =>
        rw [hb] at h
        exact (plain (leave_unreserved _ _ _) h).elim
      | err e1 env1 =>
        rw [hb] at h
        exact (plain (openElement_unreserved _) (hb.trans h)).elim
      | panic => rw [hb] at h; cases h
  | comment t sp => simp [Builder.stepCore] at h
  | pi tg c w =>
    simp only [Builder.stepCore] at h
    split at h
    · rename_i hres
      cases h
      exact .inl ⟨tg, c, w, rfl, rfl, hres⟩
    · cases h
  | declaration v e1 s sp =>
    simp only [Builder.stepCore] at h
    split at h
    · cases h; cases hk
    · cases h
  | _ => simp only [Builder.stepCore] at h; cases h; cases hk

/-- The token loop: a reserved-name error is the error of one step on one of the tokens. -/
theorem run_err_reserved {lexErr : Option Nat} {e : ParseErr} {env' : Env} (hk : e.isReservedKind = true) :
    ∀ (ts : List Token) (b : Builder), b.run ts lexErr = .err e env' →
      ∃ t ∈ ts, ∃ b1 : Builder, b1.step t = .err e env' := by
  intro ts
  induction ts with
  | nil =>
    intro b h
    cases lexErr with
    | none =>
      simp only [Builder.run] at h
      split at h
      · cases h; cases hk
      · cases h
    | some p => simp only [Builder.run] at h; cases h; cases hk
  | cons t rest ih =>
    intro b h
    simp only [Builder.run] at h
    cases hs : b.step t with
    | ok b1 =>
      rw [hs] at h
      obtain ⟨t', ht', r⟩ := ih b1 h
      exact ⟨t', List.mem_cons_of_mem _ ht', r⟩
    | err e1 env1 =>
      rw [hs] at h
      cases h
      exact ⟨t, List.mem_cons_self, b, hs⟩
    | panic => rw [hs] at h; cases h

theorem topLevelScan_err_unreserved (spans : SpanMap) (ks : List Tree) (i : Nat) (elems : List Nat) (e : ParseErr) :
    topLevelScan spans i ks elems = .err e → e.isReservedKind = false := by
  fun_induction topLevelScan spans i ks elems with
  | case1 => exact nofun
  | case2 _ _ _ _ _ _ ih => exact ih
  | case3 => intro h; cases h; rfl
  | case4 => exact nofun
  | case5 _ _ _ _ _ _ ih => exact ih

theorem unclosed_err_unreserved {b : Builder} {e : ParseErr} {env' : Env} (h : b.unclosed = .err e env') :
    e.isReservedKind = false := by
  unfold Builder.unclosed at h
  split at h
  · cases h; rfl
  · cases h

theorem finish_err_unreserved {m : Mode} {len : Nat} {b : Builder} {e : ParseErr} {env' : Env}
    (h : (match m with
      | .document => b.finishDocument len
      | .fragment => b.finishFragment) = .err e env') : e.isReservedKind = false := by
  cases m with
  | document =>
    revert h
    fun_cases Builder.finishDocument len b
    · exact nofun
    · next e1 he => intro h; cases h; exact topLevelScan_err_unreserved _ _ _ _ _ he
    · intro h; cases h; rfl
    · exact nofun
    · intro h; cases h; rfl
    · exact nofun
    · exact unclosed_err_unreserved
  | fragment =>
    revert h
    fun_cases Builder.finishFragment b
    · exact nofun
    · exact unclosed_err_unreserved

/-- `parse` / `parse_fragment`: a reserved-name error is the error of one step on one of the tokens
    (the epilogues raise none). -/
theorem build_err_reserved {m : Mode} {len : Nat} {env env' : Env} {ts : List Token} {lexErr : Option Nat}
    {e : ParseErr} (h : build m len env ts lexErr = .err e env') (hk : e.isReservedKind = true) :
    ∃ t ∈ ts, ∃ b1 : Builder, b1.step t = .err e env' := by
  unfold build at h
  cases hr : (Builder.new env).run ts lexErr with
  | panic => rw [hr] at h; cases h
  | err e1 env1 =>
    rw [hr] at h
    cases h
    exact run_err_reserved hk ts _ hr
  | ok b =>
    rw [hr] at h
    rw [finish_err_unreserved h] at hk
    cases hk

/-! ### On strings -/

/-- `InvalidTarget(target, span)`: the text has a PI token whose target is `target`, `xml` in some
    letter case; `span` is the target's span and slices the text to `target`. -/
theorem parseString_invalidTarget {m : Mode} {env env' : Env} {s : Str} {target : Str} {sp : Span}
    (h : parseString m env s = .err (.invalidTarget target sp) env') :
    ∃ tg c w, Token.pi tg c w ∈ (lexMode m s).1 ∧ target = tg.text ∧ sp = tg.span ∧
      isReservedPiTarget target = true ∧ sliceBytes s sp.start sp.stop = some target := by
  obtain ⟨t, ht, b1, hs⟩ := build_err_reserved h rfl
  rcases step_err_reserved hs rfl with ⟨tg, c, w, rfl, he, hres⟩ | ⟨p, l, v, w, pfx, _, _, he, _⟩
  · simp only [ParseErr.invalidTarget.injEq] at he
    obtain ⟨rfl, rfl⟩ := he
    exact ⟨tg, c, w, ht, rfl, rfl, hres, slice_of_span ((lexMode_facts m s).slices _ ht).1⟩
  · cases he

/-- `InvalidNamespaceDeclaration(name, span)`: the text has an attribute token `xmlns:p="v"` / `xmlns="v"`
    whose value decodes (`parse_attribute`) to something reserved for the prefix; `span` is the span of
    the attribute's NAME and slices the text to `xmlns:p` / `xmlns` as written; `name` is that name as
    `DocumentBuilder::prefix` displays it. -/
theorem parseString_invalidNamespaceDeclaration {m : Mode} {env env' : Env} {s : Str} {name : Str} {sp : Span}
    (h : parseString m env s = .err (.invalidNamespaceDeclaration name sp) env') :
    ∃ p l v w pfx, Token.attribute p l v w ∈ (lexMode m s).1 ∧ IsNsDecl p.text l.text pfx ∧
      name = declDisplayName pfx ∧ sp = Span.fromPrefixName p l ∧
      sliceBytes s sp.start sp.stop = some (tokQName p.text l.text) ∧
      ∃ u, parseAttribute v.text = .ok u ∧ reservedDecl pfx u = true := by
  obtain ⟨t, ht, b1, hs⟩ := build_err_reserved h rfl
  rcases step_err_reserved hs rfl with ⟨tg, c, w, _, he, _⟩ | ⟨p, l, v, w, pfx, rfl, hdecl, he, u, hu, hres⟩
  · cases he
  · simp only [ParseErr.invalidNamespaceDeclaration.injEq] at he
    obtain ⟨rfl, rfl⟩ := he
    have hsp : NameSlice s p l := ((lexMode_facts m s).spelled _ ht).1
    exact ⟨p, l, v, w, pfx, ht, hdecl, rfl, rfl, hsp.sliceBytes, u, parseContentGo_base hu, hres⟩

end XotModel
