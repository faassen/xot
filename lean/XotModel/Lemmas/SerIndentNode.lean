/-
  The tree induction of C14_options_indent: the indenting writer on the events of a `nodeOK` subtree writes the
  rendering of `spellNodeP` wrapped in the white space its context grants, restores both stacks, and fails exactly
  where `serNodeO` fails.
-/
import XotModel.Lemmas.SerIndentRun
import XotModel.Lemmas.PrettyBetween

/-! ## Children of an element: white space and regrouping -/

namespace XotModel
open Gen

variable (env : Env) (pr : TokenParams) (sup : List Nat) (t : Tree)

/-- Element, comment or PI: what `serialize_pretty` may indent. -/
def Value.isMarkup : Value → Bool
  | .element _ => true
  | .comment _ => true
  | .pi _ _ => true
  | _ => false

theorem wrapP_markup (ps : PStack) {v : Value} (h : v.isMarkup = true) (x : Str) :
    wrapP ps v x = indOf ps ++ (x ++ nlOf ps) := by
  cases v <;> simp [Value.isMarkup] at h <;> simp [wrapP]

theorem wrapP_notMarkup (ps : PStack) {v : Value} (h : v.isMarkup = false) (x : Str) : wrapP ps v x = x := by
  cases v <;> simp [Value.isMarkup] at h <;> rfl

theorem notGranting_nil {pc : PStack} (h : pc.getNewline = false) : nlOf pc = [] ∧ indOf pc = [] := by
  constructor
  · simp [nlOf, h]
  · have : (pc.inMixed || pc.inSpacePreserve) = true := by
      simp only [PStack.getNewline, Bool.and_eq_false_iff, Bool.not_eq_false'] at h
      simpa using h
    simp [indOf, PStack.getIndentation, this]

theorem wrapP_notGranting {pc : PStack} (h : pc.getNewline = false) (v : Value) (x : Str) : wrapP pc v x = x := by
  obtain ⟨h1, h2⟩ := notGranting_nil h
  cases v <;> simp [wrapP, h1, h2]

/-- What `nodeOK` gives for the children of a node, as far as the indenting writer cares. -/
structure KidsFacts (pc : PStack) (ks : List Tree) : Prop where
  /-- attribute and namespace nodes are leaves -/
  leaf : ∀ k ∈ ks, k.value.isNormal = false → k.kids = []
  /-- where white space is granted every normal child is an element, a comment or a PI -/
  markup : pc.getNewline = true → ∀ k ∈ ks, k.value.isNormal = true → k.value.isMarkup = true

theorem spellNodeP_abnormal (inScope : List (Nat × Nat)) (isTop : Bool) (s : FStack) (cd : Bool) (ps : PStack)
    {k : Tree} (hk : k.value.isNormal = false) (hl : k.kids = []) :
    spellNodeP env pr sup inScope isTop s cd ps k = [] := by
  cases k with
  | node v kk =>
    simp only [Tree.kids] at hl
    subst hl
    cases v <;> simp [Tree.value, Value.isNormal, Value.category] at hk <;>
      simp [spellNodeP, spellNodeP.spellKidsP]

theorem flatMap_congr' {α β : Type} {f g : α → List β} : ∀ {l : List α}, (∀ x ∈ l, f x = g x) →
    l.flatMap f = l.flatMap g
  | [], _ => rfl
  | a :: l, h => by
    have ih : l.flatMap f = l.flatMap g := flatMap_congr' (fun x hx => h x (List.mem_cons_of_mem _ hx))
    simp only [List.flatMap_cons, h a (by simp), ih]

theorem kids_regroup (inScope : List (Nat × Nat)) (s : FStack) (cd : Bool) (pc : PStack) (e : Str)
    (ks : List Tree) (hf : KidsFacts pc ks) :
    nlOf pc ++ (kidsBytes env pr sup inScope s cd pc ks ++ e) =
      renderTokens (NSNode.tokens.tokensList (spellNodeP.spellKidsP env pr sup inScope s cd pc (gapOf pc) ks))
        ++ (nlOf pc ++ e) := by
  rw [tokensList_spellKidsP env pr sup inScope s cd pc (gapOf pc) (gapOf_ws pc)]
  cases hg : pc.getNewline with
  | false =>
    obtain ⟨h1, h2⟩ := notGranting_nil hg
    simp only [kidsBytes, wrapP_notGranting hg, gapOf, h1, h2, List.nil_append, ite_self]
  | true =>
    have := regroup (nlOf pc) (indOf pc) e
      (ks.map (fun k => (k.value.isNormal,
        renderTokens (NSNode.tokens.tokensList (spellNodeP env pr sup inScope false s cd pc k)))))
      (by
        intro x hx hx1
        obtain ⟨k, hk, rfl⟩ := List.mem_map.mp hx
        simp only at hx1 ⊢
        rw [spellNodeP_abnormal env pr sup inScope false s cd pc hx1 (hf.leaf k hk hx1)]
        rfl)
    simp only [List.flatMap_map] at this
    simp only [gapOf]
    rw [← this]
    congr 2
    unfold kidsBytes
    apply flatMap_congr'
    intro k hk
    cases hn : k.value.isNormal with
    | true =>
      simp only [if_true]
      exact wrapP_markup pc (hf.markup hg k hk hn) _
    | false =>
      have : k.value.isMarkup = false := by
        cases hv : k.value <;> simp [hv, Value.isNormal, Value.category, Value.isMarkup] at hn ⊢
      simp only [Bool.false_eq_true, if_false]
      exact wrapP_notMarkup pc this _

theorem normal_notText_markup {v : Value} (h1 : v.isNormal = true) (h2 : v.isText = false)
    (h3 : v.isDocument = false) : v.isMarkup = true := by
  cases v <;> simp [Value.isNormal, Value.category, Value.isText, Value.isDocument, Value.isMarkup] at *

theorem kidsFacts_element {name : Nat} {ks : List Tree}
    (hn : (Tree.node (.element name) ks).allNodes (nodeOK env) = true) (ps : PStack) :
    KidsFacts (entryFor sup (.node (.element name) ks) :: ps) ks := by
  obtain ⟨_, hkinds, _, _, _⟩ := nodeOK_root hn
  constructor
  · intro k hk hab
    cases k with
    | node v kk => exact allNodes_leaf env (allNodes_kid hn hk) (abnormal_leafKind hab)
  · intro hg k hk hnorm
    have hmix := getNewline_true hg
    have hent : entryFor sup (.node (.element name) ks) ≠ .mixed := by
      intro he
      rw [he] at hmix
      simp [PStack.inMixed] at hmix
    have hinl : hasInlineChild (.node (.element name) ks) = false := by
      cases h : hasInlineChild (.node (.element name) ks) with
      | false => rfl
      | true => exact absurd (by simp [entryFor, h]) hent
    have hmem := mem_normalKids (.node (.element name) ks) k hk hnorm
    have htext : k.value.isText = false := by
      simp only [hasInlineChild, List.any_eq_false] at hinl
      simpa using hinl k hmem
    exact normal_notText_markup hnorm htext (hkinds.2.2 k hk)

/-- Content in which no white space matters (leaf kinds have no children at all). -/
theorem kidsFacts_nil (pc : PStack) : KidsFacts pc [] :=
  ⟨fun k hk _ => (by cases hk), fun _ k hk _ => (by cases hk)⟩

theorem render_elem (pfx loc : Str) (items : List NSAttr) (kids : List NSNode) :
    renderTokens (NSNode.tokens (.elem (sp0 pfx) (sp0 loc) noSpan items noSpan kids (sp0 pfx) (sp0 loc) noSpan)) =
      '<' :: tokQName pfx loc ++ (renderTokens (items.map NSAttr.token) ++
        ('>' :: (renderTokens (NSNode.tokens.tokensList kids) ++ ('<' :: '/' :: (tokQName pfx loc ++ ['>']))))) := by
  simp [NSNode.tokens, renderTokens_cons, renderTokens_append, renderToken, sp0, renderTokens_nil]

theorem render_empty (pfx loc : Str) (items : List NSAttr) :
    renderTokens (NSNode.tokens (.empty (sp0 pfx) (sp0 loc) noSpan items noSpan)) =
      '<' :: tokQName pfx loc ++ (renderTokens (items.map NSAttr.token) ++ ['/', '>']) := by
  simp [NSNode.tokens, renderTokens_cons, renderTokens_append, renderToken, sp0, renderTokens_nil]

end XotModel

/-! ## The tree induction -/

namespace XotModel
open Gen

variable (env : Env) (pr : TokenParams) (sup : List Nat) (t : Tree)

theorem runPEvent_at (ps : PStack) (s : FStack) (p : Path) (o : Output) (n : Tree) (h : t.at? p = some n) :
    runPEvent env pr sup t ps s p o =
      (match runEvent xmlEscapers env pr t s p o with
       | .ok (s', w) => .ok ((prettify sup ps n o).1, s', prePost (prettify sup ps n o) w)
       | .err e => .err e
       | .panic => .panic) := by
  unfold runPEvent
  rw [prettifyAt_at sup t ps p o n h]
  cases runEvent xmlEscapers env pr t s p o with
  | ok x => rfl
  | err e => rfl
  | panic => rfl

theorem prePost_plain (ps : PStack) (w : Str) : prePost (ps, 0, false) w = w := by simp [prePost]

theorem prePost_ind (ps : PStack) (w : Str) : prePost (ps, ps.getIndentation, false) w = indOf ps ++ w := by
  simp [prePost, indOf]

theorem prePost_both (ps : PStack) (w : Str) :
    prePost (ps, ps.getIndentation, ps.getNewline) w = indOf ps ++ w ++ nlOf ps := by
  simp [prePost, indOf, nlOf]

theorem runPEvent_leaf (ps : PStack) (s : FStack) (path : Path) (n : Tree) (hat : t.at? path = some n)
    (o : Output) (ho : prettify sup ps n o = (ps, ps.getIndentation, ps.getNewline)) (w : Str)
    (hw : runEvent xmlEscapers env pr t s path o = .ok (s, w)) :
    runPEvent env pr sup t ps s path o = .ok (ps, s, indOf ps ++ w ++ nlOf ps) := by
  rw [runPEvent_at env pr sup t ps s path o n hat, hw, ho]
  simp only [prePost_both]

theorem declEvents_plain (ps : PStack) (path : Path) (n : Tree) (hat : t.at? path = some n)
    (ds : List (Nat × Nat)) :
    ∀ po ∈ ds.map (fun d => (path, Output.pfx d.1 d.2)), prettifyAt sup t ps po.1 po.2 = (ps, 0, false) := by
  intro po hpo
  obtain ⟨d, _, rfl⟩ := List.mem_map.mp hpo
  rw [prettifyAt_at sup t ps _ _ n hat]; rfl

theorem attrEvents_plain (ps : PStack) (path : Path) (n : Tree) (hat : t.at? path = some n)
    (as : List (Nat × Str)) :
    ∀ po ∈ as.map (fun a => (path, Output.attribute a.1 a.2)), prettifyAt sup t ps po.1 po.2 = (ps, 0, false) := by
  intro po hpo
  obtain ⟨a, _, rfl⟩ := List.mem_map.mp hpo
  rw [prettifyAt_at sup t ps _ _ n hat]; rfl

theorem prePost_newline (pc : PStack) (w : Str) : prePost (pc, 0, pc.getNewline) w = w ++ nlOf pc := by
  simp [prePost, nlOf]

theorem prePost_end (pc ps : PStack) (w : Str) :
    prePost (ps, if !(pc.inMixed || pc.inSpacePreserve) then ps.getIndentation else 0, ps.getNewline) w =
      (if !(pc.inMixed || pc.inSpacePreserve) then indOf ps else []) ++ w ++ nlOf ps := by
  cases h : (!(pc.inMixed || pc.inSpacePreserve)) <;> simp [prePost, indOf, nlOf]

theorem kidsBytes_abnormal (inScope : List (Nat × Nat)) (s : FStack) (cd : Bool) (pc : PStack) (ks : List Tree)
    (h : ∀ k ∈ ks, k.value.isNormal = false ∧ k.kids = []) :
    kidsBytes env pr sup inScope s cd pc ks = [] := by
  induction ks with
  | nil => rfl
  | cons k ks ih =>
    have hk := h k (by simp)
    have := ih (fun k' hk' => h k' (by simp [hk']))
    simp only [kidsBytes, List.flatMap_cons] at this ⊢
    rw [this, spellNodeP_abnormal env pr sup inScope false s cd pc hk.1 hk.2]
    cases hv : k.value <;> simp [hv, Value.isNormal, Value.category] at hk <;> rfl

theorem spellKidsP_abnormal (inScope : List (Nat × Nat)) (s : FStack) (cd : Bool) (pc : PStack) (gap : Str)
    (ks : List Tree) (h : ∀ k ∈ ks, k.value.isNormal = false ∧ k.kids = []) :
    spellNodeP.spellKidsP env pr sup inScope s cd pc gap ks = [] := by
  induction ks with
  | nil => rfl
  | cons k ks ih =>
    have hk := h k (by simp)
    simp only [spellNodeP.spellKidsP, hk.1, Bool.false_eq_true, if_false, List.nil_append,
      spellNodeP_abnormal env pr sup inScope false s cd pc hk.1 hk.2, ih (fun k' hk' => h k' (by simp [hk']))]

namespace Ser

theorem runP_element (inScope : List (Nat × Nat)) (isTop : Bool) (path : Path) (name : Nat) (ks : List Tree)
    (s : FStack) (ps : PStack) (hat : t.at? path = some (.node (.element name) ks)) (hs : Named env s)
    (hn : (Tree.node (.element name) ks).allNodes (nodeOK env) = true)
    (hk : ∀ pc, runPEvents env pr sup t pc (s.push (Tree.node (.element name) ks).nsDecls)
        (genNode.genKids inScope path 0 ks) =
      tokRunP pc (s.push (Tree.node (.element name) ks).nsDecls)
        (serNodeO.serKidsO env pr inScope (s.push (Tree.node (.element name) ks).nsDecls)
          (kidsCd pr (.element name)) ks)
        (kidsBytes env pr sup inScope (s.push (Tree.node (.element name) ks).nsDecls)
          (kidsCd pr (.element name)) pc ks)) :
    runPEvents env pr sup t ps s (genNode inScope isTop path (.node (.element name) ks)) =
      tokRunP ps s (serNodeO env pr inScope isTop s (isCdataElement pr (t.parentAt? path)) (.node (.element name) ks))
        (wrapP ps (Value.element name) (renderTokens (NSNode.tokens.tokensList
          (spellNodeP env pr sup inScope isTop s (isCdataElement pr (t.parentAt? path)) ps
            (.node (.element name) ks))))) := by
  have hkn : ∀ k ∈ ks, k.allNodes (nodeOK env) = true := fun k hk => allNodes_kid hn hk
  have hdn := allNodes_root (nodeOK_declsNamed env _ hn)
  have hs' := Named.push env hs hdn
  rw [genNode_element', runPEvents_cons, runPEvent_at env pr sup t ps s path _ _ hat,
    runEvent_open env pr t s path _ hat, serNodeO]
  by_cases hc : (env.nsOfName name == Env.noNamespace &&
      (s.push (Tree.node (.element name) ks).nsDecls).hasDefaultNamespace) = true
  · simp only [hc, if_true]; rfl
  · simp only [hc, Bool.false_eq_true, if_false]
    cases hp : (s.push (Tree.node (.element name) ks).nsDecls).elementPrefix env name with
    | error e => rfl
    | ok p =>
      simp only [prettify, prePost_ind, runPThen_ok]
      rw [runPEvents_append, runPEvents_plain env pr sup t ps _ _ (declEvents_plain sup t ps path _ hat _),
        runEvents_pfx env pr t _ path _ hat]
      simp only [runPThen_ok]
      rw [runPEvents_append, runPEvents_plain env pr sup t ps _ _ (attrEvents_plain sup t ps path _ hat _),
        runEvents_attrs env pr t _ hs' path _ hat]
      cases ha : attrTokens env (s.push (Tree.node (.element name) ks).nsDecls)
          (Tree.node (.element name) ks).attrs with
      | error e => rfl
      | ok ats =>
        simp only [runPThen_ok]
        have hq := qname_tokQName env p name (fun q hq => elementPrefix_some env hs' (hq ▸ hp))
        have hpop : (s.push (Tree.node (.element name) ks).nsDecls).pop
            (Tree.node (.element name) ks).hasNsDecls = s := FStack.pop_push s _
        have hi := spellItems_tokens env inScope isTop _ _ ats ha
        rw [runPEvents_cons, runPEvent_at env pr sup t ps _ path _ _ hat,
          runEvent_close env pr t _ path _ hat]
        by_cases hfc : (Tree.node (.element name) ks).firstChild?.isNone = true
        · have hsome : (Tree.node (.element name) ks).firstChild?.isSome = false :=
            Option.isSome_eq_false_iff.2 hfc
          have hab := emptyElement_kids env hn hfc
          rw [prettify_close_none sup ps _ hsome]
          simp only [prePost_plain, runPThen_ok]
          rw [runPEvents_append, hk ps]
          cases hkids : serNodeO.serKidsO env pr inScope
              (s.push (Tree.node (.element name) ks).nsDecls) (kidsCd pr (.element name)) ks with
          | error e => rfl
          | ok content =>
            simp only [tokRunP, runPThen_ok, runPEvents_single]
            rw [runPEvent_at env pr sup t ps _ path _ _ hat, runEvent_end env pr t _ path _ hat]
            simp only [hsome, Bool.false_eq_true, if_false, prettify_end_none sup ps _ name hsome, prePost_newline, hpop,
              kidsBytes_abnormal env pr sup inScope _ _ ps ks hab]
            simp only [wrapP, Tree.value, spellNodeP, hfc, if_true, hp, okPrefix, tokensList_cons,
              spellKidsP_abnormal env pr sup inScope _ _ ps [] ks hab, NSNode.tokens.tokensList, List.append_nil,
              render_empty, hi, hq, renderTokens_append]
            simp
        · have hsome : (Tree.node (.element name) ks).firstChild?.isSome = true :=
            Option.isNone_eq_false_iff.1 (Bool.eq_false_iff.2 hfc)
          rw [prettify_close_some sup ps name ks hsome]
          simp only [prePost_newline, runPThen_ok]
          rw [runPEvents_append, hk _]
          cases hkids : serNodeO.serKidsO env pr inScope
              (s.push (Tree.node (.element name) ks).nsDecls) (kidsCd pr (.element name)) ks with
          | error e => rfl
          | ok content =>
            simp only [tokRunP, runPThen_ok, runPEvents_single]
            rw [runPEvent_at env pr sup t _ _ path _ _ hat, runEvent_end env pr t _ path _ hat]
            simp only [hsome, if_true, hp, prettify_end_some sup _ _ name hsome, List.tail_cons, prePost_end, hpop]
            have hreg := kids_regroup env pr sup inScope (s.push (Tree.node (.element name) ks).nsDecls)
              (kidsCd pr (.element name)) (entryFor sup (.node (.element name) ks) :: ps)
              ((if !(PStack.inMixed (entryFor sup (.node (.element name) ks) :: ps) ||
                  PStack.inSpacePreserve (entryFor sup (.node (.element name) ks) :: ps)) then indOf ps else []) ++
                ('<' :: '/' :: (qname env p name ++ ['>']) ++ nlOf ps))
              ks (kidsFacts_element env sup hn ps)
            simp only [wrapP, Tree.value, spellNodeP, hfc, Bool.false_eq_true, if_false, hp, okPrefix,
              NSNode.tokens.tokensList, List.append_nil, render_elem, hi, hq, renderTokens_append, tokensList_append,
              render_wsChars _ (gapEnd_ws (entryFor sup (.node (.element name) ks) :: ps) ps)]
            simp only [gapEnd]
            simp only [hq] at hreg
            simp only [List.append_assoc, List.cons_append, List.nil_append] at hreg ⊢
            rw [hreg]

end Ser

mutual
theorem runP_node (inScope : List (Nat × Nat)) (isTop : Bool) (path : Path) (n : Tree) (s : FStack) (ps : PStack)
    (hat : t.at? path = some n) (hs : Named env s) (hn : n.allNodes (nodeOK env) = true)
    (hdoc : n.value.isDocument = false) :
    runPEvents env pr sup t ps s (genNode inScope isTop path n) =
      tokRunP ps s (serNodeO env pr inScope isTop s (isCdataElement pr (t.parentAt? path)) n)
        (wrapP ps n.value (renderTokens (NSNode.tokens.tokensList
          (spellNodeP env pr sup inScope isTop s (isCdataElement pr (t.parentAt? path)) ps n)))) := by
  cases n with
  | node v ks =>
    have hkn : ∀ k ∈ ks, k.allNodes (nodeOK env) = true := fun k hk => allNodes_kid hn hk
    obtain ⟨_, hkinds, _, _, _⟩ := nodeOK_root hn
    have hk := fun pc s' hs' => runP_kids inScope path 0 ks s' pc v ks hat (at?_kid t hat) hs' hkn hkinds.2.2
    cases v with
    | document => simp [Tree.value, Value.isDocument] at hdoc
    | «attribute» a b | «namespace» a b =>
      have hl := allNodes_leaf env hn rfl
      subst hl
      rw [Ser.genNode_noEvent _ _ _ _ _ rfl]
      rfl
    | text str =>
      have hl := allNodes_leaf env hn rfl
      subst hl
      rw [genNode_text, genNode.genKids, runPEvents_single, runPEvent_at env pr sup t ps s path _ _ hat,
        runEvent_textO env pr t s path _ hat]
      simp only [prettify, prePost_plain, serNodeO, serNodeO.serKidsO, appendOk, tokRunP, wrapP, Tree.value,
        spellNodeP, spellNodeP.spellKidsP, NSNode.tokens.tokensList, NSNode.tokens, List.append_nil, textTokens]
    | comment str =>
      have hl := allNodes_leaf env hn rfl
      subst hl
      rw [genNode_comment, genNode.genKids, runPEvents_single,
        runPEvent_leaf env pr sup t ps s path _ hat _ rfl _ (runEvent_comment env pr t s path _ hat str)]
      simp only [serNodeO, serNodeO.serKidsO, appendOk, tokRunP, wrapP, Tree.value,
        spellNodeP, spellNodeP.spellKidsP, NSNode.tokens.tokensList, NSNode.tokens, List.append_nil]
    | pi target data =>
      have hl := allNodes_leaf env hn rfl
      subst hl
      rw [genNode_pi, genNode.genKids, runPEvents_single, serNodeO]
      by_cases hc : (!(env.namespaceStr (env.nsOfName target)).isEmpty) = true
      · rw [runPEvent_at env pr sup t ps s path _ _ hat, runEvent_pi env pr t s path _ hat]
        simp only [hc, if_true]; rfl
      · have hev := runEvent_pi env pr t s path _ hat target data
        simp only [hc, Bool.false_eq_true, if_false] at hev
        rw [runPEvent_leaf env pr sup t ps s path _ hat _ rfl _ hev]
        simp only [hc, Bool.false_eq_true, if_false, serNodeO.serKidsO, appendOk, tokRunP, wrapP, Tree.value,
          spellNodeP, spellNodeP.spellKidsP, NSNode.tokens.tokensList, NSNode.tokens, List.append_nil]
    | element name =>
      exact Ser.runP_element env pr sup t inScope isTop path name ks s ps hat hs hn
        (fun pc => hk pc _ (Named.push env hs (allNodes_root (nodeOK_declsNamed env _ hn))))

theorem runP_kids (inScope : List (Nat × Nat)) (path : Path) (i : Nat) (ks : List Tree) (s : FStack) (pc : PStack)
    (pv : Value) (pks : List Tree) (hpar : t.at? path = some (.node pv pks))
    (hat : ∀ j k, ks[j]? = some k → t.at? (path ++ [i + j]) = some k) (hs : Named env s)
    (hn : ∀ k ∈ ks, k.allNodes (nodeOK env) = true) (hdocs : ∀ k ∈ ks, k.value.isDocument = false) :
    runPEvents env pr sup t pc s (genNode.genKids inScope path i ks) =
      tokRunP pc s (serNodeO.serKidsO env pr inScope s (kidsCd pr pv) ks)
        (kidsBytes env pr sup inScope s (kidsCd pr pv) pc ks) := by
  cases ks with
  | nil => rfl
  | cons k ks =>
    have hcd : isCdataElement pr (t.parentAt? (path ++ [i])) = kidsCd pr pv := by
      rw [parentAt?_kid, hpar, isCdataElement_some]; rfl
    obtain ⟨hat0, hat'⟩ := Ser.kidsAt_cons t hat
    rw [genNode.genKids, runPEvents_append, serNodeO.serKidsO,
      runP_node inScope false (path ++ [i]) k s pc hat0 hs (hn k (by simp)) (hdocs k (by simp)), hcd]
    simp only [kidsBytes, List.flatMap_cons]
    exact runPThen_tokRunP _ _ _ _ _ _ _ (runP_kids inScope path (i + 1) ks s pc pv pks hpar hat' hs
      (fun k' hk' => hn k' (by simp [hk'])) (fun k' hk' => hdocs k' (by simp [hk'])))
end

end XotModel
