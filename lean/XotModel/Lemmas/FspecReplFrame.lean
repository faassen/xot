/-
  Statements about the specification `specReplace` only (no model function): the three
  geometries of the replacing node brought to one form (`ReplFrame.Stage`; its part about the child
  list of `q`, `ReplFrame.Cut`, holds of the forest before the merge at the old place as well),
  and from it the frame (`frame_specReplace`) and the handles (`specReplace_nodup`, `specReplace_handles_sub`,
  `specReplace_handles_kept`, `specReplace_flags`, `specReplace_keeps_new`, `specReplace_get_new`).
-/
import XotModel.Lemmas.BasicFacts
import XotModel.Lemmas.FspecReplArgs
import XotModel.Lemmas.FspecFrame
import XotModel.Lemmas.FspecContent

/-! ## The three geometries of the replacing node in one form: `ReplFrame.Stage` -/

namespace XotModel
open HTree Spec

namespace ReplFrame

/-! ### Lists -/

theorem findList?_putTop {z a : Nat} {t : HTree} (hz : z ∉ handles t) : ∀ L : List HTree,
    (∀ k ∈ L, k.handle = a → z ∉ handles k) →
    findList? z (replaceTop a (fun _ => [t]) L) = findList? z L
  | [] => fun _ => rfl
  | k :: ks => by
    intro h
    rw [replaceTop_cons]
    by_cases hk : k.handle = a
    · rw [if_pos hk]
      simp only [List.singleton_append]
      rw [findList?_cons, findList?_cons, find?_none_of_not_mem _ t hz, find?_none_of_not_mem _ k (h k List.mem_cons_self hk)]
    · rw [if_neg hk, findList?_cons, findList?_cons,
        findList?_putTop hz ks (fun k' hk' => h k' (List.mem_cons_of_mem _ hk'))]

theorem mergeOpt_idem (c : Bool) (keep : Keep) (L : List HTree) :
    mergeOpt c keep (mergeOpt c keep L) = mergeOpt c keep L := by
  cases c
  · rfl
  · exact mergeRuns_idem keep L

theorem mergeOpt_comp_idem (c : Bool) (keep : Keep) : mergeOpt c keep ∘ mergeOpt c keep = mergeOpt c keep := by
  funext L; exact mergeOpt_idem c keep L

theorem natFor_putTop {φ : HTree → HTree} (hφ : KidMap φ) (a : Nat) {t : HTree} (ht : φ t = t) :
    NatFor φ (replaceTop a (fun _ => [t])) :=
  natFor_replaceTop hφ a (by intro k; simp [ht])

/-! ### Handles kept by a merge -/

theorem mem_mergeOpt (c : Bool) (keep : Keep) {z : Nat} {L : List HTree} (h : z ∈ handlesList L)
    (hk : c = true → ∀ k ∈ L, k.value.isText = true → z ∉ handles k) :
    z ∈ handlesList (mergeOpt c keep L) := by
  cases c
  · exact h
  · exact (TextMerge.of_mergeRuns keep L).mem_handle (hk rfl) h

theorem mem_mergeOpt_nontext (c : Bool) (keep : Keep) {k : HTree} (hkt : k.value.isText = false)
    {L : List HTree} (h : k ∈ L) : k ∈ mergeOpt c keep L :=
  (TextMerge.of_mergeOpt c keep L).mem_nontext hkt h

/-! ### Sites -/

theorem count_kids_le {f : Forest} {p : Nat} {v : Value} {L : List HTree} (s : SiteAt f p v L) (z : Nat) :
    (handlesList L).count z ≤ f.allHandles.count z := by
  have := (findList?_sublist _ f.roots _ s.kids).count_le z
  rw [handles_node, List.count_cons] at this
  unfold Forest.allHandles
  omega

theorem mem_editAt_new {f : Forest} {p : Nat} {v : Value} {L : List HTree} (s : SiteAt f p v L)
    (g : List HTree → List HTree) {z : Nat} (hz : z ∈ handlesList (g L)) :
    z ∈ (f.editAt (some p) g).allHandles := by
  have hc := s.count g z
  have h1 : 0 < (handlesList (g L)).count z := List.count_pos_iff.2 hz
  have h2 := count_kids_le s z
  apply List.count_pos_iff.1
  omega

theorem mem_editAt {f : Forest} {p : Nat} {v : Value} {L : List HTree} (s : SiteAt f p v L)
    (g : List HTree → List HTree) {z : Nat} (hz : z ∈ f.allHandles)
    (h : z ∈ handlesList L → z ∈ handlesList (g L)) : z ∈ (f.editAt (some p) g).allHandles := by
  by_cases hL : z ∈ handlesList L
  · exact mem_editAt_new s g (h hL)
  · have hc := s.count g z
    have h1 : 0 < f.allHandles.count z := List.count_pos_iff.2 hz
    have h2 : (handlesList L).count z = 0 := List.count_eq_zero.2 hL
    apply List.count_pos_iff.1
    omega

theorem site_edit {f : Forest} {p : Nat} {v : Value} {L : List HTree} (s : SiteAt f p v L)
    (g : List HTree → List HTree) (hnd : (f.editAt (some p) g).allHandles.Nodup) :
    SiteAt (f.editAt (some p) g) p v (g L) :=
  ⟨hnd, Forest.get?_editAt_self g s.kids⟩

/-- Another site after the edit (`SiteAt.other` with distinctness as a hypothesis). -/
theorem site_other {f : Forest} {p : Nat} {v : Value} {L : List HTree} (s : SiteAt f p v L)
    {x : Nat} {vx : Value} {Lx : List HTree} (hx : f.get? x = some (.node x vx Lx)) (hne : x ≠ p)
    (g : List HTree → List HTree) (hnd : (f.editAt (some p) g).allHandles.Nodup)
    (hlook : findList? x (g L) = findList? x L) :
    SiteAt (f.editAt (some p) g) x vx (Lx.map (HTree.editAt p g)) := by
  constructor
  · exact hnd
  · rw [ReplArgs.get?_editAt_site s hne g hlook, hx]
    simp only [Option.map_some]
    rw [editAt_node, if_neg hne]

theorem text_map_editAt {po : Nat} {g : List HTree → List HTree} {L : List HTree}
    (hleaf : ∀ k ∈ L, k.value.isText = true → k.kids = [])
    (hne : ∀ k ∈ L, k.value.isText = true → k.handle ≠ po) :
    ∀ k ∈ L.map (HTree.editAt po g), k.value.isText = true → k ∈ L := by
  intro k hk hkt
  obtain ⟨k0, hk0, e⟩ := List.mem_map.1 hk
  subst e
  rw [editAt_value] at hkt
  rw [PairAppend.editAt_leaf (hleaf k0 hk0 hkt) (hne k0 hk0 hkt)]
  exact hk0

/-! ### `specReplace`, unfolded, in the three geometries -/

theorem nf_root {keep : Keep} {a b : Nat} {f : Forest} {t : HTree} {q : Nat}
    (hgb : f.get? b = some t) (hpa : f.parent? a = some q) (hpb : f.parent? b = none) :
    specReplace keep a b f =
      (f.editAt none (dropTop b)).editAt (some q) (mergeOpt f.consolidation keep ∘ replaceTop a (fun _ => [t])) := by
  rw [specReplace_unfold hgb hpa, hpb, mergeAt_none, mergeAt_eq_mergeOpt]
  simp only [Forest.editAt_consolidation]
  rw [Forest.editAt_editAt]

theorem nf_same {keep : Keep} {a b : Nat} {f : Forest} {t : HTree} {q : Nat}
    (hgb : f.get? b = some t) (hpa : f.parent? a = some q) (hpb : f.parent? b = some q) :
    specReplace keep a b f =
      (f.editAt (some q) (dropTop b)).editAt (some q)
        (mergeOpt f.consolidation keep ∘ replaceTop a (fun _ => [t])) := by
  rw [specReplace_unfold hgb hpa, hpb]
  simp only [mergeAt_eq_mergeOpt, Forest.editAt_consolidation, Forest.editAt_editAt]
  congr 1
  funext L
  simp only [Function.comp]
  rw [mergeOpt_idem]

theorem nf_far {keep : Keep} {a b : Nat} {f : Forest} {t : HTree} {q po : Nat}
    (hgb : f.get? b = some t) (hpa : f.parent? a = some q) (hpb : f.parent? b = some po) (hne : po ≠ q)
    (hpot : po ∉ handles t) :
    specReplace keep a b f =
      (f.editAt (some po) (mergeOpt f.consolidation keep ∘ dropTop b)).editAt (some q)
        (mergeOpt f.consolidation keep ∘ replaceTop a (fun _ => [t])) := by
  rw [specReplace_unfold hgb hpa, hpb]
  simp only [mergeAt_eq_mergeOpt, Forest.editAt_consolidation]
  rw [Forest.editAt_comm (f.editAt (some po) (dropTop b)) (p := po) (q := q)
    (g := mergeOpt f.consolidation keep) (g' := replaceTop a (fun _ => [t])) hne
    (natFor_mergeOpt (kidMap_editAt _ _) _ _)
    (natFor_putTop (kidMap_editAt _ _) a (editAt_of_not_mem t hpot))]
  rw [Forest.editAt_editAt, Forest.editAt_editAt]

/-! ### The forest after `b` has left its place -/

/-- What the steps at `q` need of a forest `Y` that the replacing subtree `t` has left, whether or
    not its old neighbours were merged: `q` has the children `l' ++ A :: r'` in `Y`, and the text
    nodes among them stood under `q` in `f`. -/
structure Cut (f : Forest) (q : Nat) (vq : Value) (l : List HTree) (A : HTree) (r : List HTree) (t : HTree)
    (Y : Forest) (l' r' : List HTree) : Prop where
  site : SiteAt Y q vq (l' ++ A :: r')
  count : ∀ z, Y.allHandles.count z + (handles t).count z ≤ f.allHandles.count z
  text : ∀ k ∈ l' ++ r', k.value.isText = true → k ∈ l ++ r

/-- `Y`: the forest after the replacing subtree `t` has left (and its old neighbours were merged
    when they are not children of `q`). -/
structure Stage (f : Forest) (keep : Keep) (a b q : Nat) (vq : Value) (l : List HTree) (A : HTree)
    (r : List HTree) (t : HTree) (Y : Forest) (l' r' : List HTree) :
    Prop extends Cut f q vq l A r t Y l' r' where
  spec : specReplace keep a b f =
    Y.editAt (some q) (mergeOpt f.consolidation keep ∘ replaceTop a (fun _ => [t]))
  frame : ∀ {x : Nat} {cx : Ctx}, f.ctx? x = some cx → cx.parent ≠ q → some cx.parent ≠ f.parent? b →
    cx.parent ∉ handles t → x ∉ handles t → ∃ cx', Y.ctx? x = some cx' ∧ cx'.shape = cx.shape
  kept : ∀ z ∈ f.allHandles, z ∉ handles t →
    (f.consolidation = true → ∀ po, f.parent? b = some po → po ≠ q →
      ¬ (f.parent? z = some po ∧ f.textOf z ≠ none)) → z ∈ Y.allHandles
  flags : Y.next = f.next ∧ Y.consolidation = f.consolidation ∧ Y.everOff = f.everOff ∧ Y.corrupt = f.corrupt

variable {f : Forest} {keep : Keep} {a b q : Nat} {vq : Value} {l : List HTree} {A : HTree} {r : List HTree}
  {t : HTree}

theorem isRoot_of_no_parent (hgb : f.get? b = some t) (hpb : f.parent? b = none) :
    f.isRoot b = true := by
  rcases Forest.root_or_ctx hgb with h | ⟨c, h⟩
  · exact h
  · rw [Forest.parent?_of_ctx? h] at hpb; cases hpb

theorem stage_root (inv : f.Inv) (ra : ReplArgs f a b q vq l A r t) (hpb : f.parent? b = none) :
    Stage f keep a b q vq l A r t (f.editAt none (dropTop b)) l r := by
  have nd := inv.nodup
  have hroot := isRoot_of_no_parent ra.hgb hpb
  have hcnt := count_dropTop_root nd ra.hgb hroot
  refine ⟨⟨ra.sq.dropRoot ra.hgb ra.hqt, fun z => Nat.le_of_eq (hcnt z), fun _ hk _ => hk⟩,
    nf_root ra.hgb (Forest.parent?_of_ctx? ra.ctx_a) hpb, ?_, ?_, ⟨rfl, rfl, rfl, rfl⟩⟩
  · intro x cx hx _ h2 h3 h4
    have := frame_specRemove (keep := keep) inv ra.hgb hx h2 h3 h4
    rw [specRemove_root hpb] at this
    exact this
  · intro z hz hzt _
    have h1 : 0 < f.allHandles.count z := List.count_pos_iff.2 hz
    have h2 : (handles t).count z = 0 := List.count_eq_zero.2 hzt
    have h3 := hcnt z
    apply List.count_pos_iff.1
    show 0 < (handlesList (dropTop b f.roots)).count z
    omega

theorem site_of_b (nd : f.allHandles.Nodup) (hgb : f.get? b = some t) {po : Nat} (hpb : f.parent? b = some po) :
    ∃ vo lo ro, SiteAt f po vo (lo ++ t :: ro) := by
  cases hctx : f.ctx? b with
  | none => rw [Forest.parent?_of_no_ctx hctx] at hpb; cases hpb
  | some cx =>
    obtain ⟨_, vo, so⟩ := SiteAt.of_ctx_get nd hctx hgb
    have hp : cx.parent = po := by
      rw [Forest.parent?_of_ctx? hctx] at hpb; exact Option.some.inj hpb
    exact ⟨vo, cx.left, cx.right, hp ▸ so⟩

theorem mem_mid_of_ne {lo : List HTree} {t : HTree} {ro : List HTree} {z : Nat}
    (h : z ∈ handlesList (lo ++ t :: ro)) (hz : z ∉ handles t) : z ∈ handlesList (lo ++ ro) := by
  rw [handlesList_append, handlesList_cons] at h
  rw [handlesList_append]
  rcases List.mem_append.1 h with h1 | h1
  · exact List.mem_append_left _ h1
  · rcases List.mem_append.1 h1 with h2 | h2
    · exact absurd h2 hz
    · exact List.mem_append_right _ h2

theorem stage_same (inv : f.Inv) (ra : ReplArgs f a b q vq l A r t) (hpb : f.parent? b = some q) :
    Stage f keep a b q vq l A r t (f.editAt (some q) (dropTop b)) (dropTop b l) (dropTop b r) := by
  have nd := inv.nodup
  obtain ⟨vo, lo, ro, so⟩ := site_of_b nd ra.hgb hpb
  have hb := ra.hb
  have hL : l ++ A :: r = lo ++ t :: ro := by
    have := so.kids
    rw [ra.sq.kids] at this
    injection (Option.some.inj this) with _ _ e3
  obtain ⟨ndL, _⟩ := so.nodupKids
  obtain ⟨tl, tr⟩ := tops_ne_of_nodup ndL
  have hdrop : dropTop b (lo ++ t :: ro) = lo ++ ro := dropTop_mid hb (hb ▸ tl) (hb ▸ tr)
  have hdropA : dropTop b (l ++ A :: r) = dropTop b l ++ A :: dropTop b r := by
    rw [dropTop_append, dropTop_cons, if_neg (by rw [ra.ha]; exact ra.hab)]
  have hndY : (f.editAt (some q) (dropTop b)).allHandles.Nodup :=
    Forest.nodup_editAt nd (fun L => handlesList_dropTop_sublist _ L)
  refine ⟨⟨?_, ?_, ?_⟩, nf_same ra.hgb (Forest.parent?_of_ctx? ra.ctx_a) hpb, ?_, ?_, ⟨rfl, rfl, rfl, rfl⟩⟩
  · have := site_edit ra.sq (dropTop b) hndY
    rw [hdropA] at this
    exact this
  · intro z
    have h1 := so.count (dropTop b) z
    rw [hdrop] at h1
    have h2 := count_handles_mid z lo t ro
    omega
  · intro k hk _
    rcases List.mem_append.1 hk with h | h
    · exact List.mem_append_left _ (mem_of_mem_dropTop h)
    · exact List.mem_append_right _ (mem_of_mem_dropTop h)
  · intro x cx hx h1 _ h3 _
    apply ra.sq.frame (dropTop b) hndY hx h1
    apply findList?_dropTop
    intro k hk hkb
    rw [hL] at hk
    rw [fs_eq_of_mem_of_handle ndL hk (hkb.trans hb.symm)]
    exact h3
  · intro z hz hzt _
    apply mem_editAt so (dropTop b) hz
    intro hzL
    rw [hdrop]
    exact mem_mid_of_ne hzL hzt

/-- `b` a child of another node `po`: the forest after `b` has left and the child list of `po`
    has been tidied by a list function `G` that touches text leaves only (a merge, or nothing). -/
theorem cut_far (inv : f.Inv) (ra : ReplArgs f a b q vq l A r t) {po : Nat} {vo : Value} {lo ro : List HTree}
    (so : SiteAt f po vo (lo ++ t :: ro)) (hne : po ≠ q) (G : List HTree → List HTree)
    (hsub : ∀ L, (handlesList (G L)).Sublist (handlesList L))
    (hfind : ∀ L, (∀ k ∈ L, k.value.isText = true → k.kids = [] ∧ k.handle ≠ q) →
      findList? q (G L) = findList? q L) :
    Cut f q vq l A r t (f.editAt (some po) (G ∘ dropTop b)) (l.map (HTree.editAt po (G ∘ dropTop b)))
      (r.map (HTree.editAt po (G ∘ dropTop b))) := by
  refine ⟨?_, ?_, ?_⟩
  · have s1 := so.after_leave ra.sq inv.valid hne ra.hqt (isText_false_of_kind ra.hvq) G hsub hfind
    rw [ra.hb] at s1
    rw [List.map_append, List.map_cons, editAt_of_not_mem A (ra.parent_b_not_in_A so)] at s1
    exact s1
  · have h := so.count_leave G hsub
    rw [ra.hb] at h
    exact h
  · intro k hk hkt
    rw [← List.map_append] at hk
    exact text_map_editAt (fun k0 hk0 => ra.sq.leaf inv.valid k0 (fs_mem_mid_of_mem _ hk0))
      (fun k0 hk0 => text_kid_ne ra.sq so (site_not_text so inv.valid) k0 (fs_mem_mid_of_mem _ hk0)) k hk hkt

theorem stage_far (inv : f.Inv) (ra : ReplArgs f a b q vq l A r t) {po : Nat} (hpb : f.parent? b = some po)
    (hne : po ≠ q) :
    ∃ φ : HTree → HTree, Stage f keep a b q vq l A r t (specRemove keep b f) (l.map φ) (r.map φ) := by
  have nd := inv.nodup
  obtain ⟨vo, lo, ro, so⟩ := site_of_b nd ra.hgb hpb
  have hb := ra.hb
  obtain ⟨tl, tr⟩ := tops_ne_of_nodup so.nodupKids.1
  have hdrop : dropTop b (lo ++ t :: ro) = lo ++ ro := dropTop_mid hb (hb ▸ tl) (hb ▸ tr)
  have hY : specRemove keep b f = f.editAt (some po) (mergeOpt f.consolidation keep ∘ dropTop b) :=
    specRemove_kid hpb
  have hleafo := so.leaf inv.valid
  refine ⟨HTree.editAt po (mergeOpt f.consolidation keep ∘ dropTop b), ?_, ?_, ?_, ?_, ?_⟩
  · rw [hY]
    exact cut_far inv ra so hne _ (mergeOpt_sublist _ keep) (fun _ h => findList?_mergeOpt _ keep h)
  · rw [hY]
    exact nf_far ra.hgb (Forest.parent?_of_ctx? ra.ctx_a) hpb hne so.not_mem_kid
  · intro x cx hx _ h2 h3 h4
    exact frame_specRemove inv ra.hgb hx h2 h3 h4
  · intro z hz hzt hcond
    rw [hY]
    apply mem_editAt so _ hz
    intro hzL
    simp only [Function.comp]
    rw [hdrop]
    apply mem_mergeOpt _ _ (mem_mid_of_ne hzL hzt)
    intro hc k hk hkt hzk
    have hk' : k ∈ lo ++ t :: ro := fs_mem_mid_of_mem _ hk
    rw [handles_leaf (hleafo k hk' hkt)] at hzk
    have hzk' : z = k.handle := List.mem_singleton.1 hzk
    obtain ⟨A', B', hAB⟩ := List.append_of_mem hk'
    have so' : SiteAt f po vo (A' ++ k :: B') := hAB ▸ so
    apply hcond hc po hpb hne
    rw [hzk']
    refine ⟨Forest.parent?_of_ctx? so'.ctx, ?_⟩
    rw [Forest.textOf_of_get so'.getKid]
    obtain ⟨x, hx⟩ := isText_iff_textData.1 hkt
    rw [hx]; simp
  · rw [hY]; exact ⟨rfl, rfl, rfl, rfl⟩

theorem stage_exists (keep : Keep) (inv : f.Inv) (ra : ReplArgs f a b q vq l A r t) :
    ∃ Y l' r', Stage f keep a b q vq l A r t Y l' r' := by
  cases hpb : f.parent? b with
  | none => exact ⟨_, _, _, stage_root inv ra hpb⟩
  | some po =>
    by_cases hne : po = q
    · subst hne
      exact ⟨_, _, _, stage_same inv ra hpb⟩
    · obtain ⟨φ, st⟩ := stage_far (keep := keep) inv ra hpb hne
      exact ⟨_, _, _, st⟩

end ReplFrame
end XotModel

/-! ## The frame and the handles -/

namespace XotModel
open HTree Spec

namespace ReplFrame

variable {f : Forest} {keep : Keep} {a b q : Nat} {vq : Value} {l : List HTree} {A : HTree} {r : List HTree}
  {t : HTree} {Y : Forest} {l' r' : List HTree}

theorem Cut.put (c : Cut f q vq l A r t Y l' r') (ha : A.handle = a) :
    replaceTop a (fun _ => [t]) (l' ++ A :: r') = l' ++ t :: r' := by
  obtain ⟨ndL, _⟩ := c.site.nodupKids
  obtain ⟨tl, _⟩ := tops_ne_of_nodup ndL
  rw [replaceTop_mid ha (ha ▸ tl)]
  simp

/-- Handles: those of `A` are exchanged for those of `t` (and merged text nodes go). -/
theorem Cut.count_put (c : Cut f q vq l A r t Y l' r') (ha : A.handle = a) (keep : Keep) (z : Nat) :
    (Y.editAt (some q) (mergeOpt f.consolidation keep ∘ replaceTop a (fun _ => [t]))).allHandles.count z +
      (handles A).count z ≤ f.allHandles.count z := by
  have h1 := c.site.count (mergeOpt f.consolidation keep ∘ replaceTop a (fun _ => [t])) z
  simp only [Function.comp] at h1
  rw [c.put ha] at h1
  have h2 := (mergeOpt_sublist f.consolidation keep (l' ++ t :: r')).count_le z
  have h3 := count_handles_mid z l' t r'
  have h4 := count_handles_mid z l' A r'
  have h5 := c.count z
  omega

theorem Cut.nodup_put (c : Cut f q vq l A r t Y l' r') (ha : A.handle = a) (nd : f.allHandles.Nodup) (keep : Keep) :
    (Y.editAt (some q) (mergeOpt f.consolidation keep ∘ replaceTop a (fun _ => [t]))).allHandles.Nodup := by
  rw [List.nodup_iff_count]
  intro z
  have := c.count_put ha keep z
  have := (List.nodup_iff_count.1 nd) z
  omega

/-- A text child of `q` in `Y` is a text child of `q` in `f`: a leaf, found by its handle. -/
theorem Cut.text_kid (c : Cut f q vq l A r t Y l' r') (inv : f.Inv)
    (sq : SiteAt f q vq (l ++ A :: r)) {k : HTree} (hk : k ∈ l' ++ r') (hkt : k.value.isText = true) :
    k.kids = [] ∧ f.get? k.handle = some k ∧ f.parent? k.handle = some q := by
  have h0 := c.text k hk hkt
  have hkL : k ∈ l ++ A :: r := fs_mem_mid_of_mem _ h0
  obtain ⟨A', B', hAB⟩ := List.append_of_mem hkL
  have sq' : SiteAt f q vq (A' ++ k :: B') := hAB ▸ sq
  exact ⟨sq.leaf inv.valid k hkL hkt, sq'.getKid, Forest.parent?_of_ctx? sq'.ctx⟩

theorem mem_put {l' r' : List HTree} {t k : HTree} (hk : k ∈ l' ++ t :: r') : k = t ∨ k ∈ l' ++ r' := by
  rcases List.mem_append.1 hk with h | h
  · exact Or.inr (List.mem_append_left _ h)
  · rcases List.mem_cons.1 h with h' | h'
    · exact Or.inl h'
    · exact Or.inr (List.mem_append_right _ h')

/-- A text node of the child list of `q` after the replacement is a leaf, found in `f` by its
    handle: it is `t` itself or a text child of `q`. -/
theorem Cut.text_put (c : Cut f q vq l A r t Y l' r') (inv : f.Inv)
    (ra : ReplArgs f a b q vq l A r t) {k : HTree} (hk : k ∈ l' ++ t :: r') (hkt : k.value.isText = true) :
    k.kids = [] ∧ f.get? k.handle = some k := by
  rcases mem_put hk with e | e
  · subst e
    exact ⟨leaf_of_text inv.valid ra.hgb hkt, by rw [ra.hb]; exact ra.hgb⟩
  · obtain ⟨hl, hg, _⟩ := c.text_kid inv ra.sq e hkt
    exact ⟨hl, hg⟩

/-- A node `z` outside `A` and `t` that is no leaf of `f` is found after the replacement and the
    merge at `q` where it was found before: the replacement exchanges `A` for `t`, the merge
    touches leaves of `f` only. -/
theorem Cut.find_put (c : Cut f q vq l A r t Y l' r') (inv : f.Inv) (ra : ReplArgs f a b q vq l A r t)
    (keep : Keep) {z : Nat} (hzt : z ∉ handles t) (hzA : z ∉ handles A)
    (hz : ∀ k : HTree, f.get? k.handle = some k → k.kids = [] → k.handle ≠ z) :
    findList? z ((mergeOpt f.consolidation keep ∘ replaceTop a (fun _ => [t])) (l' ++ A :: r')) =
      findList? z (l' ++ A :: r') := by
  obtain ⟨ndL, _⟩ := c.site.nodupKids
  simp only [Function.comp]
  rw [findList?_mergeOpt, findList?_putTop hzt]
  · intro k hk hka
    rw [fs_eq_of_mem_of_handle ndL hk (hka.trans ra.ha.symm)]
    exact hzA
  · rw [c.put ra.ha]
    intro k hk hkt
    obtain ⟨hl, hg⟩ := c.text_put inv ra hk hkt
    exact ⟨hl, hz k hg hl⟩

theorem Stage.frame_final (st : Stage f keep a b q vq l A r t Y l' r') (inv : f.Inv)
    (ra : ReplArgs f a b q vq l A r t) {x : Nat} {cx : Ctx} (hx : f.ctx? x = some cx)
    (h1 : cx.parent ≠ q) (h2 : some cx.parent ≠ f.parent? b) (h3 : cx.parent ∉ handles t)
    (h4 : x ∉ handles t) (h5 : cx.parent ∉ handles A) :
    ∃ cx', (specReplace keep a b f).ctx? x = some cx' ∧ cx'.shape = cx.shape := by
  have nd := inv.nodup
  obtain ⟨cx1, hx1, hs1⟩ := st.frame hx h1 h2 h3 h4
  have hp1 : cx1.parent = cx.parent := congrArg Prod.fst hs1
  have hnd := st.nodup_put ra.ha nd keep
  rw [st.spec]
  obtain ⟨cx', h', hs'⟩ := st.site.frame _ hnd hx1 (by rw [hp1]; exact h1) (by
    rw [hp1]
    exact st.find_put inv ra keep h3 h5 (fun k hg hl => not_text_leaf_of_parent nd hx hg hl))
  exact ⟨cx', h', hs'.trans hs1⟩

/-- Which nodes outside the replaced subtree stay: every one that is not a text node standing in
    one of the two touched child lists (nor the replacing node itself when it is text). -/
theorem Stage.kept_final (st : Stage f keep a b q vq l A r t Y l' r') (inv : f.Inv)
    (ra : ReplArgs f a b q vq l A r t) {z : Nat} (hz : z ∈ f.allHandles) (hzA : z ∉ handles A)
    (hcond : f.consolidation = false ∨ f.textOf z = none ∨
      (z ≠ b ∧ ∀ p, f.parent? z = some p → p ≠ q ∧ some p ≠ f.parent? b)) :
    z ∈ (specReplace keep a b f).allHandles := by
  have nd := inv.nodup
  rw [st.spec]
  -- with consolidation on, `z` is not a text node of the new child list of `q` (a merge may absorb those)
  have hsafe : f.consolidation = true → ∀ k ∈ l' ++ t :: r', k.value.isText = true → z ∉ handles k := by
    intro hc k hk hkt hzk
    obtain ⟨hl, hg⟩ := st.text_put inv ra hk hkt
    rw [handles_leaf hl] at hzk
    have hzk' : z = k.handle := List.mem_singleton.1 hzk
    rcases hcond with h | h | h
    · rw [h] at hc; cases hc
    · rw [hzk', Forest.textOf_of_get hg] at h
      obtain ⟨x, hx⟩ := isText_iff_textData.1 hkt
      rw [hx] at h; cases h
    · -- `z` is the root of `t` or a text child of `q`
      rcases mem_put hk with e | e
      · subst e; exact h.1 (hzk'.trans ra.hb)
      · obtain ⟨_, _, hp⟩ := st.text_kid inv ra.sq e hkt
        rw [← hzk'] at hp
        exact (h.2 q hp).1 rfl
  by_cases hzt : z ∈ handles t
  · -- a node of the replacing subtree
    apply mem_editAt_new st.site
    simp only [Function.comp]
    rw [st.put ra.ha]
    have hzL : z ∈ handlesList (l' ++ t :: r') := by
      rw [handlesList_append, handlesList_cons]
      exact List.mem_append_right _ (List.mem_append_left _ hzt)
    exact mem_mergeOpt _ _ hzL hsafe
  · -- any other node
    have hzY : z ∈ Y.allHandles := by
      apply st.kept z hz hzt
      intro hc po hpb hne hbad
      rcases hcond with h | h | h
      · rw [h] at hc; cases hc
      · exact hbad.2 h
      · exact (h.2 po hbad.1).2 (by rw [hpb])
    apply mem_editAt st.site _ hzY
    intro hzL
    simp only [Function.comp]
    rw [st.put ra.ha]
    have hzL' : z ∈ handlesList (l' ++ t :: r') := by
      have := mem_mid_of_ne hzL hzA
      rw [handlesList_append] at this
      rw [handlesList_append, handlesList_cons]
      rcases List.mem_append.1 this with h | h
      · exact List.mem_append_left _ h
      · exact List.mem_append_right _ (List.mem_append_right _ h)
    exact mem_mergeOpt _ _ hzL' hsafe

/-- The replacing subtree stands, unchanged, where `a` stood (when it is not a text node that a
    merge may absorb). -/
theorem Stage.get_new (st : Stage f keep a b q vq l A r t Y l' r') (ra : ReplArgs f a b q vq l A r t)
    (nd : f.allHandles.Nodup) (hcond : f.consolidation = false ∨ t.value.isText = false) :
    (specReplace keep a b f).get? b = some t ∧ (specReplace keep a b f).parent? b = some q := by
  have hnd := st.nodup_put ra.ha nd keep
  rw [st.spec]
  have s' := site_edit st.site _ hnd
  simp only [Function.comp] at s'
  rw [st.put ra.ha] at s'
  have hm : t ∈ mergeOpt f.consolidation keep (l' ++ t :: r') := by
    rcases hcond with h | h
    · rw [h]; exact List.mem_append_right _ List.mem_cons_self
    · exact mem_mergeOpt_nontext _ _ h (List.mem_append_right _ List.mem_cons_self)
  obtain ⟨A', B', hAB⟩ := List.append_of_mem hm
  rw [hAB] at s'
  rw [← ra.hb]
  exact ⟨s'.getKid, Forest.parent?_of_ctx? s'.ctx⟩

end ReplFrame

variable {f : Forest} {a b q : Nat} {vq : Value} {l : List HTree} {A : HTree} {r : List HTree} {t : HTree}

/-- **Frame of `specReplace`**: a node whose parent is neither `q` (the parent of the
    replaced node) nor the old parent of the replacing node `b`, and lies neither in the replaced
    subtree `A` nor in the replacing subtree `t` (nor does the node itself lie in `t`), keeps its
    parent, the handles of its left and right siblings and its value. -/
theorem frame_specReplace (keep : Keep) (inv : f.Inv) (ra : ReplArgs f a b q vq l A r t)
    {x : Nat} {cx : Ctx} (hx : f.ctx? x = some cx)
    (h1 : cx.parent ≠ q) (h2 : some cx.parent ≠ f.parent? b) (h3 : cx.parent ∉ handles t)
    (h4 : x ∉ handles t) (h5 : cx.parent ∉ handles A) :
    ∃ cx', (specReplace keep a b f).ctx? x = some cx' ∧ cx'.shape = cx.shape := by
  obtain ⟨Y, l', r', st⟩ := ReplFrame.stage_exists keep inv ra
  exact st.frame_final inv ra hx h1 h2 h3 h4 h5

theorem specReplace_nodup (keep : Keep) (inv : f.Inv) (ra : ReplArgs f a b q vq l A r t) :
    (specReplace keep a b f).allHandles.Nodup := by
  obtain ⟨Y, l', r', st⟩ := ReplFrame.stage_exists keep inv ra
  rw [st.spec]
  exact st.nodup_put ra.ha inv.nodup keep

/-- Counting form of `specReplace_handles_sub`: the handles of `A` leave, nothing is added. -/
theorem specReplace_count (keep : Keep) (inv : f.Inv) (ra : ReplArgs f a b q vq l A r t) (z : Nat) :
    (specReplace keep a b f).allHandles.count z + (handles A).count z ≤ f.allHandles.count z := by
  obtain ⟨Y, l', r', st⟩ := ReplFrame.stage_exists keep inv ra
  rw [st.spec]
  exact st.count_put ra.ha keep z

theorem specReplace_handles_sub (keep : Keep) (inv : f.Inv) (ra : ReplArgs f a b q vq l A r t) :
    ∀ h ∈ (specReplace keep a b f).allHandles, h ∈ f.allHandles ∧ h ∉ handles A := by
  intro h hh
  have h1 : 0 < (specReplace keep a b f).allHandles.count h := List.count_pos_iff.2 hh
  have h2 := specReplace_count keep inv ra h
  have h3 := (List.nodup_iff_count.1 inv.nodup) h
  constructor
  · apply List.count_pos_iff.1; omega
  · apply List.count_eq_zero.1; omega

/-- A node outside the replaced subtree can only disappear when consolidation
    is on and it is a text node that is the replacing node itself or a child of `q` or of the old
    parent of the replacing node (it was absorbed by a merge). -/
theorem specReplace_handles_kept_precise (keep : Keep) (inv : f.Inv) (ra : ReplArgs f a b q vq l A r t)
    {h : Nat} (hh : h ∈ f.allHandles) (hA : h ∉ handles A)
    (hcond : f.consolidation = false ∨ f.textOf h = none ∨
      (h ≠ b ∧ ∀ p, f.parent? h = some p → p ≠ q ∧ some p ≠ f.parent? b)) :
    h ∈ (specReplace keep a b f).allHandles := by
  obtain ⟨Y, l', r', st⟩ := ReplFrame.stage_exists keep inv ra
  exact st.kept_final inv ra hh hA hcond

theorem specReplace_handles_kept (keep : Keep) (inv : f.Inv) (ra : ReplArgs f a b q vq l A r t) :
    ∀ h ∈ f.allHandles, h ∉ handles A → f.textOf h = none → h ∈ (specReplace keep a b f).allHandles :=
  fun _ hh hA ht => specReplace_handles_kept_precise keep inv ra hh hA (Or.inr (Or.inl ht))

theorem specReplace_handles_kept_off (keep : Keep) (inv : f.Inv) (ra : ReplArgs f a b q vq l A r t)
    (hc : f.consolidation = false) :
    ∀ h ∈ f.allHandles, h ∉ handles A → h ∈ (specReplace keep a b f).allHandles :=
  fun _ hh hA => specReplace_handles_kept_precise keep inv ra hh hA (Or.inl hc)

theorem specReplace_flags (keep : Keep) (inv : f.Inv) (ra : ReplArgs f a b q vq l A r t) :
    (specReplace keep a b f).next = f.next ∧ (specReplace keep a b f).consolidation = f.consolidation ∧
    (specReplace keep a b f).everOff = f.everOff ∧ (specReplace keep a b f).corrupt = f.corrupt := by
  obtain ⟨Y, l', r', st⟩ := ReplFrame.stage_exists keep inv ra
  rw [st.spec]
  exact st.flags

/-- The replacing subtree keeps its handles (unless it is a text node and consolidation is on). -/
theorem specReplace_keeps_new (keep : Keep) (inv : f.Inv) (ra : ReplArgs f a b q vq l A r t)
    (hcond : f.consolidation = false ∨ t.value.isText = false) :
    ∀ h ∈ handles t, h ∈ (specReplace keep a b f).allHandles := by
  intro h hh
  obtain ⟨Y, l', r', st⟩ := ReplFrame.stage_exists keep inv ra
  obtain ⟨hg, _⟩ := st.get_new ra inv.nodup hcond
  exact (findList?_some _ t hg).2 h hh

theorem specReplace_get_new (keep : Keep) (inv : f.Inv) (ra : ReplArgs f a b q vq l A r t)
    (hcond : f.consolidation = false ∨ t.value.isText = false) :
    (specReplace keep a b f).get? b = some t ∧ (specReplace keep a b f).parent? b = some q := by
  obtain ⟨Y, l', r', st⟩ := ReplFrame.stage_exists keep inv ra
  exact st.get_new ra inv.nodup hcond

end XotModel
