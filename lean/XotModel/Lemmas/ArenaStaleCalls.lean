/-
  The mutating calls with ids that are not live.  The `checked_*` functions look at the sign of the
  slot's stamp only (a free slot: `Removed` error, nothing written; out of range: panic); `detach`,
  `remove`, `remove_subtree` and the iterators on a slot that is free (`Unlinked`, `Cleared`; the
  double free).  No function but `is_removed` looks at the id's stamp: a call with a stale id is the
  call with the current id of that slot.
-/
import XotModel.Lemmas.ArenaStale

/-! ### The `checked_*` calls with removed or foreign ids

  `checked_append`, `checked_prepend`, `checked_insert_after`,
  `checked_insert_before` called with removed or foreign ids, on EVERY arena (no invariant needed):
  all four evaluate `arena[self].is_removed() || arena[other].is_removed()` right after the
  self-comparison, and that test looks at the SLOTS only (sign of the slot's stamp).

    * an id whose slot is FREE, in either position (the other id being any id whose slot exists, or —
      when the free one is `self` — any id at all, the `||` short-circuits): `Err(Removed)`, arena
      literally unchanged;
    * an id beyond the slot vector: `arena[..]` panics (index out of bounds) before any write —
      unless `self`'s slot is free, which is looked at first;
    * the same id twice: the `…Self` error, whatever the id;
    * a STALE id (slot reused) passes the test: `either_removed = false`; the call goes on with the
      new occupant of the slot (closed examples in `Props/C06`).
-/

namespace XotModel
namespace Arena

theorem eitherRemoved_freed_self {a : Arena} {x : NodeId} (h : Freed a x) (y : NodeId) :
    eitherRemoved a x y = .done a true := by
  obtain ⟨s, hs, hn⟩ := h
  unfold eitherRemoved
  rw [rd_some _ _ _ _ hs]
  simp [Slot.isRemoved, Stamp.isRemoved, hn]

theorem eitherRemoved_freed_other {a : Arena} {x y : NodeId} (hx : Occupied a x) (hy : Freed a y) :
    eitherRemoved a x y = .done a true := by
  obtain ⟨s, hs, h0⟩ := hx
  obtain ⟨t, ht, hn⟩ := hy
  rw [eitherRemoved_of_slots hs ht, decide_eq_true hn, Bool.or_true]

/-- Two ids whose slots hold nodes — live or STALE — pass the `Removed` test. -/
theorem eitherRemoved_occupied {a : Arena} {x y : NodeId} (hx : Occupied a x) (hy : Occupied a y) :
    eitherRemoved a x y = .done a false := by
  obtain ⟨s, hs, h0⟩ := hx
  obtain ⟨t, ht, h1⟩ := hy
  rw [eitherRemoved_of_slots hs ht, decide_eq_false (Int.not_lt.mpr h0), decide_eq_false (Int.not_lt.mpr h1),
    Bool.or_self]

theorem eitherRemoved_self_out_of_range {a : Arena} {x : NodeId} (h : a.slot x.index0 = none) (y : NodeId) :
    eitherRemoved a x y = .panic a := by
  unfold eitherRemoved rd
  unfold slot at h
  rw [h]

theorem eitherRemoved_other_out_of_range {a : Arena} {x y : NodeId} (hx : Occupied a x) (h : a.slot y.index0 = none) :
    eitherRemoved a x y = .panic a := by
  obtain ⟨s, hs, h0⟩ := hx
  unfold eitherRemoved
  rw [rd_some _ _ _ _ hs]
  have : ¬ s.stamp < 0 := by omega
  simp only [Slot.isRemoved, Stamp.isRemoved, this, decide_false, Bool.false_eq_true, if_false]
  unfold rd
  unfold slot at h
  rw [h]

/-- The situations in which the `Removed` test fires: `self`'s slot is free (the other id is not
    even looked at), or `self`'s slot holds a node and the other id's slot is free. -/
def FreedArg (a : Arena) (x y : NodeId) : Prop := Freed a x ∨ (Occupied a x ∧ Freed a y)

/-- The situations in which the `Removed` test panics: `self` is beyond the slot vector, or `self`'s
    slot holds a node and the other id is beyond the slot vector. -/
def OutOfRangeArg (a : Arena) (x y : NodeId) : Prop :=
  a.slot x.index0 = none ∨ (Occupied a x ∧ a.slot y.index0 = none)

theorem eitherRemoved_freedArg {a : Arena} {x y : NodeId} (h : FreedArg a x y) : eitherRemoved a x y = .done a true := by
  rcases h with h | ⟨hx, hy⟩
  · exact eitherRemoved_freed_self h y
  · exact eitherRemoved_freed_other hx hy

theorem eitherRemoved_outOfRangeArg {a : Arena} {x y : NodeId} (h : OutOfRangeArg a x y) :
    eitherRemoved a x y = .panic a := by
  rcases h with h | ⟨hx, hy⟩
  · exact eitherRemoved_self_out_of_range h y
  · exact eitherRemoved_other_out_of_range hx hy

/-- `checked_append` with a freed id in either position: `Err(Removed)`, nothing written. -/
theorem checkedAppend_freed {a : Arena} {x y : NodeId} (hne : y ≠ x) (h : FreedArg a x y) :
    checkedAppend a x y = .done a (.error .removed) := by
  unfold checkedAppend
  rw [if_neg hne, eitherRemoved_freedArg h]
  rfl

theorem checkedPrepend_freed {a : Arena} {x y : NodeId} (hne : y ≠ x) (h : FreedArg a x y) :
    checkedPrepend a x y = .done a (.error .removed) := by
  unfold checkedPrepend
  rw [if_neg hne, eitherRemoved_freedArg h]
  rfl

theorem checkedInsertAfter_freed {a : Arena} {x y : NodeId} (hne : y ≠ x) (h : FreedArg a x y) :
    checkedInsertAfter a x y = .done a (.error .removed) := by
  unfold checkedInsertAfter
  rw [if_neg hne, eitherRemoved_freedArg h]
  rfl

theorem checkedInsertBefore_freed {a : Arena} {x y : NodeId} (hne : y ≠ x) (h : FreedArg a x y) :
    checkedInsertBefore a x y = .done a (.error .removed) := by
  unfold checkedInsertBefore
  rw [if_neg hne, eitherRemoved_freedArg h]
  rfl

/-- `checked_*` with an id beyond the slot vector: `arena[..]` panics, nothing written. -/
theorem checkedAppend_out_of_range {a : Arena} {x y : NodeId} (hne : y ≠ x) (h : OutOfRangeArg a x y) :
    checkedAppend a x y = .panic a := by
  unfold checkedAppend
  rw [if_neg hne, eitherRemoved_outOfRangeArg h]
  rfl

theorem checkedPrepend_out_of_range {a : Arena} {x y : NodeId} (hne : y ≠ x) (h : OutOfRangeArg a x y) :
    checkedPrepend a x y = .panic a := by
  unfold checkedPrepend
  rw [if_neg hne, eitherRemoved_outOfRangeArg h]
  rfl

theorem checkedInsertAfter_out_of_range {a : Arena} {x y : NodeId} (hne : y ≠ x) (h : OutOfRangeArg a x y) :
    checkedInsertAfter a x y = .panic a := by
  unfold checkedInsertAfter
  rw [if_neg hne, eitherRemoved_outOfRangeArg h]
  rfl

theorem checkedInsertBefore_out_of_range {a : Arena} {x y : NodeId} (hne : y ≠ x) (h : OutOfRangeArg a x y) :
    checkedInsertBefore a x y = .panic a := by
  unfold checkedInsertBefore
  rw [if_neg hne, eitherRemoved_outOfRangeArg h]
  rfl

/-- The unchecked wrappers (`append`, `prepend`, `insert_after`, `insert_before`) `expect` the
    result: with a freed id they panic ("Preconditions not met: invalid argument"), nothing written. -/
theorem append_freed {a : Arena} {x y : NodeId} (hne : y ≠ x) (h : FreedArg a x y) : append a x y = .panic a := by
  unfold append unwrapNodeError
  rw [checkedAppend_freed hne h]; rfl

theorem prepend_freed {a : Arena} {x y : NodeId} (hne : y ≠ x) (h : FreedArg a x y) : prepend a x y = .panic a := by
  unfold prepend unwrapNodeError
  rw [checkedPrepend_freed hne h]; rfl

theorem insertAfter_freed {a : Arena} {x y : NodeId} (hne : y ≠ x) (h : FreedArg a x y) : insertAfter a x y = .panic a := by
  unfold insertAfter unwrapNodeError
  rw [checkedInsertAfter_freed hne h]; rfl

theorem insertBefore_freed {a : Arena} {x y : NodeId} (hne : y ≠ x) (h : FreedArg a x y) : insertBefore a x y = .panic a := by
  unfold insertBefore unwrapNodeError
  rw [checkedInsertBefore_freed hne h]; rfl

theorem LiveId.occupied {a : Arena} {x : NodeId} (h : LiveId a x) : Occupied a x := h.2.1

theorem Stale.occupied {a : Arena} {x : NodeId} (h : Stale a x) : Occupied a x := by
  obtain ⟨s, hs, h0, _⟩ := h
  exact ⟨s, hs, h0⟩

/-- With a removed id (class `freed`) and a live one, in either order. -/
theorem freedArg_of_classes {a : Arena} {x y : NodeId}
    (h : (a.classify x = .freed) ∨ ((a.classify x = .live ∨ a.classify x = .stale) ∧ a.classify y = .freed)) :
    FreedArg a x y := by
  rcases h with h | ⟨hx, hy⟩
  · exact Or.inl (classify_freed h).1
  · refine Or.inr ⟨?_, (classify_freed hy).1⟩
    rcases hx with hx | hx
    · exact ((classify_live_iff a x).mp hx).occupied
    · exact (classify_stale hx).1.occupied

end Arena
end XotModel

/-! ### `detach`, `remove`, `remove_subtree` and the iterators on a free slot

  `detach`, `remove`, `remove_subtree` and the iterators called
  with an id whose slot is FREE.  None of these functions looks at a stamp: they index the slot
  vector with `id.index0()` and work on whatever the slot holds.  A freed slot keeps the pointers it
  had when it was freed (`free_node` overwrites `data` and `stamp` only):

    * `Unlinked`: `parent`, `previous_sibling`, `next_sibling` are `None` — what `detach` leaves, i.e.
      every slot freed by `remove`, and the ROOT of a subtree freed by `remove_subtree`;
    * `Cleared`: all five pointers are `None` — every slot freed by `remove` (its children were
      transplanted), every childless root freed by `remove_subtree`.
    The other slots freed by `remove_subtree` (the proper descendants) keep STALE pointers to their
    former parent, siblings and children.

  Proved here, for every arena (no invariant needed unless stated):
    * `detach` of an id whose slot is `Unlinked` (free or not): `Ok`, the arena literally unchanged;
    * `detach` of any id whose slot's three neighbour pointers are in range and not the slot itself:
      `Ok`, and only pointers are written (`MetaEq`: stamps, payloads, free list as before — every id
      keeps its class); WHICH pointers is `detach_eq` (`Lemmas/ArenaDetach.lean`): with stale pointers
      the former neighbours' slots are rewritten, whoever occupies them now (closed example in
      `Props/C04`: a live node loses its children);
    * `remove` / `remove_subtree` of an id whose slot is free and `Cleared`, on a well-formed arena:
      no refusal and no panic — `free_node` runs a second time on the slot (DOUBLE FREE): the stamp
      `c < 0` becomes `-c - 1 ≥ 0` while the payload stays `NextFree`, the slot is appended to the free
      list again.  The arena reached is NOT well-formed, and the id that was freed last
      (`stamp = -c - 1`) is reported NOT removed again;
    * the iterators from an id whose slot is `Cleared`: no refusal, no panic — they yield the id itself
      (`ancestors`, `following_siblings`, `preceding_siblings`, `descendants`, `traverse`,
      `reverse_traverse`) and no children.
-/

namespace XotModel
namespace Arena

/-- `parent`, `previous_sibling`, `next_sibling` are `None`. -/
def Slot.Unlinked (s : Slot) : Prop := s.parent = none ∧ s.prev = none ∧ s.next = none

/-- All five pointers are `None`. -/
def Slot.Cleared (s : Slot) : Prop := s.Unlinked ∧ s.first = none ∧ s.last = none

instance (s : Slot) : Decidable s.Unlinked := by unfold Slot.Unlinked; infer_instance
instance (s : Slot) : Decidable s.Cleared := by unfold Slot.Cleared; infer_instance

/-- `detach` of an id whose slot has no parent and no sibling pointers writes back what is there. -/
theorem detach_unlinked (a : Arena) (x : NodeId) (s : Slot) (hs : a.slot x.index0 = some s) (hu : s.Unlinked) :
    detach a x = .done a () :=
  detach_root a x s hs hu.1 hu.2.1 hu.2.2

/-- `detach` of ANY id whose slot exists and whose three neighbour pointers are in range and point to
    other slots: it answers `Ok` and writes pointers only. -/
theorem detach_metaEq (a : Arena) (x : NodeId) (s : Slot) (hs : a.slot x.index0 = some s)
    (hp : InRange a s.parent) (hv : InRange a s.prev) (hn : InRange a s.next)
    (h1 : ∀ id, s.parent = some id → id.index0 ≠ x.index0) (h2 : ∀ id, s.prev = some id → id.index0 ≠ x.index0)
    (h3 : ∀ id, s.next = some id → id.index0 ≠ x.index0) :
    ∃ a', detach a x = .done a' () ∧ MetaEq a a' := by
  refine ⟨_, detach_eq a x s hs hp hv hn h1 h2 h3, ?_⟩
  exact (MetaEq.mod a _ (f := clearSib) (fun s => ⟨rfl, rfl⟩)).trans
    ((MetaEq.unlink _ _ _ _).trans (MetaEq.mod _ _ (fun s => ⟨rfl, rfl⟩)))

theorem MetaEq.classify {a a' : Arena} (h : MetaEq a a') (x : NodeId) : a'.classify x = a.classify x := by
  unfold Arena.classify
  have h1 := h.stamp x.index0
  unfold slot at h1
  cases hs : a.nodes[x.index0]? with
  | none =>
    rw [hs] at h1
    cases hs' : a'.nodes[x.index0]? with
    | none => rfl
    | some s' => rw [hs'] at h1; simp at h1
  | some s =>
    rw [hs] at h1
    cases hs' : a'.nodes[x.index0]? with
    | none => rw [hs'] at h1; simp at h1
    | some s' =>
      rw [hs'] at h1
      simp only [Option.map_some, Option.some.injEq] at h1
      simp only [h1]

theorem asRemoved_of_neg (t : Int) (h0 : -32767 ≤ t) (h1 : t < 0) : Stamp.asRemoved t = -t - 1 := by
  unfold Stamp.asRemoved
  rw [if_pos (by omega), wrap16_id (-t) (by omega) (by omega), wrap16_id _ (by omega) (by omega)]

/-- `free_node` on a slot that is ALREADY free (well-formed arena): no panic; the stamp `c < 0`
    becomes `-c - 1 ≥ 0`, the payload stays a free-list link, the pointers stay; the other slots keep
    their stamps. -/
theorem Rep.freeNode_freed {a : Arena} {g : Shape} (r : Rep a g) (x : NodeId) (s : Slot)
    (hs : a.slot x.index0 = some s) (hn : s.stamp < 0) :
    ∃ a' n, Arena.freeNode a x = .done a' () ∧
      a'.slot x.index0 = some { s with data := .nextFree n, stamp := -s.stamp - 1 } ∧
      (∀ j, j ≠ x.index0 → (a'.slot j).map (·.stamp) = (a.slot j).map (·.stamp)) ∧
      a'.nodes.length = a.nodes.length := by
  obtain ⟨hlo, _⟩ := r.stampRange _ s hs
  have hst := asRemoved_of_neg s.stamp hlo hn
  -- the free list is not empty: its last element is a slot
  have hmem : x.index0 ∈ g.free := (r.free.mem _).mpr ⟨s, hs, hn⟩
  obtain ⟨l, hl⟩ : ∃ l, g.free.getLast? = some l := by
    cases h : g.free.getLast? with
    | some l => exact ⟨l, rfl⟩
    | none => rw [List.getLast?_eq_none_iff.mp h] at hmem; cases hmem
  obtain ⟨t, ht, _⟩ := (r.free.mem l).mp (List.mem_of_getLast? hl)
  have hlast : a.lastFree = some l := by rw [r.free.last, hl]
  let node' : Slot := { s with data := .nextFree none, stamp := Stamp.asRemoved s.stamp }
  have hreuse : Stamp.reuseable node'.stamp = true := by
    simp only [Stamp.reuseable, decide_eq_true_eq]; show Stamp.asRemoved s.stamp > -32768; omega
  have hb1 : ∀ j, (a.setSlot x.index0 node').slot j = if x.index0 = j then some node' else a.slot j :=
    fun j => slot_setSlot a x.index0 j s node' hs
  by_cases hli : l = x.index0
  · -- the slot is the last of the free list: its link now points to itself
    have hcomp : Arena.freeNode a x = .done { ((a.setSlot x.index0 node').setSlot l
        { node' with data := .nextFree (some x.index0) }) with lastFree := some x.index0 } () := by
      unfold Arena.freeNode
      have h1 : a.nodes[x.index0]? = some s := hs
      simp only [h1]
      rw [if_pos hreuse]
      have h2 : (a.setSlot x.index0 node').lastFree = some l := hlast
      rw [h2]
      have h3 : (a.setSlot x.index0 node').nodes[l]? = some node' := by
        have := hb1 l; unfold slot at this; rw [this, if_pos hli.symm]
      simp only []
      rw [show (a.setSlot x.index0 { s with data := Data.nextFree none, stamp := Stamp.asRemoved s.stamp }).nodes[l]? =
        some node' from h3]
    refine ⟨_, some x.index0, hcomp, ?_, ?_, ?_⟩
    · show (((a.setSlot x.index0 node').setSlot l _)).slot x.index0 = _
      rw [slot_setSlot _ l x.index0 node' _ (by rw [hb1, if_pos hli.symm]), if_pos hli]
      simp only [node', hst]
    · intro j hj
      show ((((a.setSlot x.index0 node').setSlot l _)).slot j).map _ = _
      rw [slot_setSlot _ l j node' _ (by rw [hb1, if_pos hli.symm]), if_neg (by rw [hli]; exact Ne.symm hj), hb1,
        if_neg (Ne.symm hj)]
    · simp [setSlot]
  · -- another slot is the last of the free list: it is linked to this one
    have htl : (a.setSlot x.index0 node').slot l = some t := by rw [hb1, if_neg (Ne.symm hli)]; exact ht
    have hcomp : Arena.freeNode a x = .done { ((a.setSlot x.index0 node').setSlot l
        { t with data := .nextFree (some x.index0) }) with lastFree := some x.index0 } () := by
      unfold Arena.freeNode
      have h1 : a.nodes[x.index0]? = some s := hs
      simp only [h1]
      rw [if_pos hreuse]
      have h2 : (a.setSlot x.index0 node').lastFree = some l := hlast
      rw [h2]
      have h3 : (a.setSlot x.index0 node').nodes[l]? = some t := htl
      simp only []
      rw [show (a.setSlot x.index0 { s with data := Data.nextFree none, stamp := Stamp.asRemoved s.stamp }).nodes[l]? =
        some t from h3]
    refine ⟨_, none, hcomp, ?_, ?_, ?_⟩
    · show (((a.setSlot x.index0 node').setSlot l _)).slot x.index0 = _
      rw [slot_setSlot _ l x.index0 t _ htl, if_neg hli, hb1, if_pos rfl]
      simp only [node', hst]
    · intro j hj
      show ((((a.setSlot x.index0 node').setSlot l _)).slot j).map _ = _
      rw [slot_setSlot _ l j t _ htl]
      by_cases hlj : l = j
      · rw [if_pos hlj, ← hlj, ht]; rfl
      · rw [if_neg hlj, hb1, if_neg (Ne.symm hj)]
    · simp [setSlot]

/-- An arena with a slot whose stamp is not negative but whose payload is a free-list link is not
    well-formed. -/
theorem not_wf_of_link {a : Arena} {i : Nat} {s : Slot} {n : Option Nat} (hs : a.slot i = some s) (h0 : 0 ≤ s.stamp)
    (hd : s.data = .nextFree n) : ¬ Wf a := by
  rintro ⟨g, r⟩
  obtain ⟨v, hv⟩ := (r.dataLive i s hs).mp h0
  rw [hd] at hv; cases hv

/-- `remove` of an id whose slot is `Cleared`, on any arena: exactly `free_node`. -/
theorem remove_cleared (a : Arena) (x : NodeId) (s : Slot) (hs : a.slot x.index0 = some s) (hc : s.Cleared) :
    remove a x = freeNode a x := by
  unfold remove
  rw [rd_some _ _ _ _ hs, hc.2.1, hc.2.2, detach_unlinked a x s hs hc.1]
  simp

/-- `remove_subtree` of an id whose slot is `Cleared`: `free_node`, then the loop ends at once. -/
theorem Rep.removeSubtree_cleared_freed {a : Arena} {g : Shape} (r : Rep a g) (x : NodeId) (s : Slot)
    (hs : a.slot x.index0 = some s) (hn : s.stamp < 0) (hc : s.Cleared) :
    Arena.removeSubtree a x = Arena.freeNode a x := by
  obtain ⟨a', n, hf, hs', _, hlen⟩ := r.freeNode_freed x s hs hn
  unfold Arena.removeSubtree
  rw [detach_unlinked a x s hs hc.1]
  simp only [Step.bind_done]
  have hfu : a.fuel = (a.nodes.length - 1) + 1 + 1 := by have := lt_of_slot hs; unfold fuel; omega
  rw [hfu]
  unfold removeSubtreeLoop
  simp only []
  rw [hf]
  simp only [Step.bind_done]
  rw [rd_some _ _ _ _ hs']
  simp only [hc.2.1, hc.1.2.2, hc.1.1, Option.or_none]
  have hfu' : a'.fuel = a'.nodes.length + 1 := rfl
  rw [hfu']
  unfold findAncestorWithNext
  simp only [Step.bind_done]
  unfold removeSubtreeLoop
  rfl

/-- DOUBLE FREE.  `remove` and `remove_subtree` of an id whose slot is free and `Cleared`, on a
    well-formed arena: `Ok`; the slot's stamp `c` becomes `-c - 1 ≥ 0` with the free-list link as
    payload; the arena reached is not well-formed; the id with stamp `-c - 1` (the one that was
    removed last from this slot) is no longer reported removed, every other id of the slot still is. -/
theorem Rep.remove_freed_cleared {a : Arena} {g : Shape} (r : Rep a g) (x : NodeId) (s : Slot)
    (hs : a.slot x.index0 = some s) (hn : s.stamp < 0) (hc : s.Cleared) :
    ∃ a', Arena.remove a x = .done a' () ∧ Arena.removeSubtree a x = .done a' () ∧ ¬ Wf a' ∧
      Arena.isRemoved a' x = .done a' (decide (x.stamp ≠ -s.stamp - 1)) ∧
      (∀ j, j ≠ x.index0 → (a'.slot j).map (·.stamp) = (a.slot j).map (·.stamp)) := by
  obtain ⟨a', n, hf, hs', hoth, _⟩ := r.freeNode_freed x s hs hn
  refine ⟨a', by rw [remove_cleared a x s hs hc, hf], by rw [r.removeSubtree_cleared_freed x s hs hn hc, hf],
    not_wf_of_link hs' (by show 0 ≤ -s.stamp - 1; omega) rfl, ?_, hoth⟩
  unfold Arena.isRemoved
  rw [rd_some _ _ _ _ hs']
  simp only [bne, ne_eq]
  congr 1
  by_cases h : x.stamp = -s.stamp - 1
  · simp [h]
  · have : ¬ (-s.stamp - 1 = x.stamp) := fun e => h e.symm
    simp [h, this]

/-! ### The iterators from an id whose slot is `Cleared` -/

theorem iterators_cleared (a : Arena) (x : NodeId) (s : Slot) (hs : a.slot x.index0 = some s) (hc : s.Cleared)
    (n : Nat) :
    children a x n = .done a [] ∧ reverseChildren a x n = .done a [] ∧
    ancestors a x (n + 1) = .done a [x] ∧ followingSiblings a x (n + 1) = .done a [x] ∧
    precedingSiblings a x (n + 1) = .done a [x] ∧
    traverse a x (n + 2) = .done a [.start x, .end x] ∧ reverseTraverse a x (n + 2) = .done a [.end x, .start x] ∧
    descendants a x (n + 2) = .done a [x] := by
  obtain ⟨⟨h1, h2, h3⟩, h4, h5⟩ := hc
  have hg : a.get x = some s := hs
  have wk0 : ∀ (f : Slot → Option NodeId) m, walk a f m none = .done a [] := fun f m => by cases m <;> rfl
  have wt0 : ∀ (f : Slot → Option NodeId) m t, walkTo a f m none t = .done a [] := fun f m t => by
    cases m <;> cases t <;> rfl
  have tg0 : ∀ m, traverseGo a x m none = .done a [] := fun m => by cases m <;> rfl
  have rg0 : ∀ m, reverseTraverseGo a x m none = .done a [] := fun m => by cases m <;> rfl
  have ht : traverse a x (n + 2) = .done a [.start x, .end x] := by
    unfold traverse traverseGo
    simp only [reduceCtorEq, if_false, nextTraverse]
    rw [rd_some _ _ _ _ hs, h4]
    simp only []
    unfold traverseGo
    simp only [if_true, tg0, Step.bind_done]
  refine ⟨?_, ?_, ?_, ?_, ?_, ht, ?_, ?_⟩
  · unfold children
    rw [rd_some _ _ _ _ hs, h4, h5, wt0]
  · unfold reverseChildren
    rw [rd_some _ _ _ _ hs, h5, wk0]
  · unfold ancestors walk
    simp only []
    rw [rd_some _ _ _ _ hs, h1, wk0]; rfl
  · unfold followingSiblings parentField
    rw [hg]
    simp only [h1]
    unfold walkTo
    simp only []
    rw [rd_some _ _ _ _ hs, h3, wt0]; rfl
  · unfold precedingSiblings parentField
    rw [hg]
    simp only [h1]
    unfold walkTo
    simp only []
    rw [rd_some _ _ _ _ hs, h2, wt0]; rfl
  · unfold reverseTraverse reverseTraverseGo
    simp only [reduceCtorEq, if_false, prevTraverse]
    rw [rd_some _ _ _ _ hs, h5]
    simp only []
    unfold reverseTraverseGo
    simp only [if_true, rg0, Step.bind_done]
  · unfold descendants
    rw [ht]
    simp [NodeEdge.startNode?]

end Arena
end XotModel

/-! ### Only the slot index of an id is used

  `detach`, `remove`, `remove_subtree`, `children`,
  `reverse_children` use NOTHING of the id they are given but its slot index: they never read a
  stamp and never store the id (every function indexes the slot vector with `id.index0()`; `detach`
  compares `Some(self)` with the new parent `None` only).  Hence, on every arena, a call with a STALE id
  IS the call with the current id of the slot: the NEW OCCUPANT is detached / removed / removed with
  its subtree — silently.  (The `checked_*` functions and the iterators that yield their start node
  do use the id as a value: it is compared with, stored in, or handed out next to current ids.)
-/

namespace XotModel
namespace Arena

theorem rd_index0 {α : Type} (a : Arena) (x y : NodeId) (h : x.index0 = y.index0) (k : Slot → Step α) :
    rd a x k = rd a y k := by unfold rd; rw [h]

theorem wr_index0 {α : Type} (a : Arena) (x y : NodeId) (h : x.index0 = y.index0) (f : Slot → Slot) (k : Arena → Step α) :
    wr a x f k = wr a y f k := by unfold wr; rw [h]

theorem detachFromSiblings_index0 (a : Arena) (x y : NodeId) (h : x.index0 = y.index0) :
    detachFromSiblings a x x = detachFromSiblings a y y := by
  unfold detachFromSiblings
  rw [rd_index0 a x y h]
  congr 1; funext sf
  rw [wr_index0 a x y h]
  congr 1; funext a1
  rw [rd_index0 a1 x y h]
  congr 1; funext sl
  rw [wr_index0 a1 x y h]

theorem rewriteParents_index0 (fuel : Nat) (a : Arena) (x y : NodeId) (h : x.index0 = y.index0) :
    rewriteParents fuel a (some x) none = rewriteParents fuel a (some y) none := by
  cases fuel with
  | zero => rfl
  | succ n =>
    unfold rewriteParents
    simp only [reduceCtorEq, if_false]
    rw [wr_index0 a x y h]
    congr 1; funext a1
    rw [rd_index0 a1 x y h]

theorem detach_index0 (a : Arena) (x y : NodeId) (h : x.index0 = y.index0) : detach a x = detach a y := by
  unfold detach
  rw [detachFromSiblings_index0 a x y h]
  congr 1; funext a1 _
  rw [rewriteParents_index0 _ a1 x y h]

theorem remove_index0 (a : Arena) (x y : NodeId) (h : x.index0 = y.index0) : remove a x = remove a y := by
  unfold remove
  rw [rd_index0 a x y h]
  congr 1; funext node
  rw [detach_index0 a x y h]
  simp only [freeNode_index0 _ x y h]

theorem removeSubtreeLoop_index0 (fuel : Nat) (a : Arena) (x y : NodeId) (h : x.index0 = y.index0) :
    removeSubtreeLoop fuel a (some x) = removeSubtreeLoop fuel a (some y) := by
  cases fuel with
  | zero => rfl
  | succ n =>
    unfold removeSubtreeLoop
    simp only []
    rw [freeNode_index0 a x y h]
    congr 1; funext a1 _
    rw [rd_index0 a1 x y h]

theorem removeSubtree_index0 (a : Arena) (x y : NodeId) (h : x.index0 = y.index0) :
    removeSubtree a x = removeSubtree a y := by
  unfold removeSubtree
  rw [detach_index0 a x y h]
  congr 1; funext a1 _
  rw [removeSubtreeLoop_index0 _ a1 x y h]


theorem children_index0 (a : Arena) (x y : NodeId) (h : x.index0 = y.index0) (limit : Nat) :
    children a x limit = children a y limit ∧ reverseChildren a x limit = reverseChildren a y limit := by
  unfold children reverseChildren
  exact ⟨rd_index0 a x y h _, rd_index0 a x y h _⟩

/-- The calls with any id are the calls with the current id of its slot. -/
theorem one_arg_current (a : Arena) (x : NodeId) :
    detach a x = detach a (a.idAt x.index0) ∧ remove a x = remove a (a.idAt x.index0) ∧
    removeSubtree a x = removeSubtree a (a.idAt x.index0) :=
  ⟨detach_index0 a x _ (by simp), remove_index0 a x _ (by simp), removeSubtree_index0 a x _ (by simp)⟩

theorem Stale.current {a : Arena} {x : NodeId} (h : Stale a x) : LiveId a (a.idAt x.index0) ∧ a.idAt x.index0 ≠ x := by
  obtain ⟨s, hs, h0, hne⟩ := h
  refine ⟨LiveId.idAt ⟨s, hs, h0⟩, fun e => hne ?_⟩
  rw [idAt_of_slot hs] at e
  exact (congrArg NodeId.stamp e)

theorem rd_none {α : Type} (a : Arena) (x : NodeId) (k : Slot → Step α) (h : a.slot x.index0 = none) :
    rd a x k = .panic a := by
  unfold rd; unfold slot at h; rw [h]

/-- Every call with an id beyond the slot vector panics on its first `arena[id]` (index out of bounds;
    `following_siblings` / `preceding_siblings`: `arena.get(id).unwrap()`), nothing written. -/
theorem out_of_range_panics (a : Arena) (x : NodeId) (h : a.slot x.index0 = none) (n : Nat) :
    detach a x = .panic a ∧ remove a x = .panic a ∧ removeSubtree a x = .panic a ∧
    Arena.isRemoved a x = .panic a ∧ value a x = .panic a ∧
    children a x n = .panic a ∧ reverseChildren a x n = .panic a ∧
    ancestors a x (n + 1) = .panic a ∧ followingSiblings a x n = .panic a ∧ precedingSiblings a x n = .panic a ∧
    traverse a x (n + 1) = .panic a ∧ reverseTraverse a x (n + 1) = .panic a ∧ descendants a x (n + 1) = .panic a := by
  have hd : detach a x = .panic a := by
    unfold detach detachFromSiblings
    rw [rd_none a x _ h]; rfl
  have hg : a.get x = none := h
  have ht : traverse a x (n + 1) = .panic a := by
    unfold traverse traverseGo
    simp only [reduceCtorEq, if_false, nextTraverse]
    rw [rd_none a x _ h]
  refine ⟨hd, ?_, ?_, ?_, ?_, ?_, ?_, ?_, ?_, ?_, ht, ?_, ?_⟩
  · unfold remove; rw [rd_none a x _ h]
  · unfold removeSubtree; rw [hd]; rfl
  · unfold Arena.isRemoved; rw [rd_none a x _ h]
  · unfold value; rw [rd_none a x _ h]
  · unfold children; rw [rd_none a x _ h]
  · unfold reverseChildren; rw [rd_none a x _ h]
  · unfold ancestors walk; simp only []; rw [rd_none a x _ h]
  · unfold followingSiblings parentField; rw [hg]
  · unfold precedingSiblings parentField; rw [hg]
  · unfold reverseTraverse reverseTraverseGo
    simp only [reduceCtorEq, if_false, prevTraverse]
    rw [rd_none a x _ h]
  · unfold descendants; rw [ht]; rfl

end Arena
end XotModel
