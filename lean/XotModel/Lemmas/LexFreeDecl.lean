/-
  The XML declaration with any layout (`LDecl`): `parse_declaration`
  of the reference tokenizer reads `LDecl.render` back as `LDecl.token` (up to positions) and stops
  right after `?>`.
-/
import XotModel.Lemmas.LexFreeStep

namespace XotModel.Lex.Free

open XotModel.Lex XotModel.Lex.Stream XotModel.Lex.Canon

/-! ### The rendering with a continuation, right-nested -/

/-- `before = after "val"` followed by `X`. -/
def eqK (L : EqLayout) (val X : Str) : Str :=
  L.before ++ '=' :: (L.after ++ quoteChar L.single :: (val ++ quoteChar L.single :: X))

theorem eq_render_app (L : EqLayout) (val X : Str) : L.render val ++ X = eqK L val X := by
  simp [EqLayout.render, eqK]

/-- The white space in front of `?>` that is still ahead after the `standalone` part. -/
def saEndW (d : LDecl) : Str := match d.standalone with | some _ => d.wEnd | none => []

def saEnd (d : LDecl) (r : Str) : Str := saEndW d ++ '?' :: '>' :: r

/-- The white space after the `encoding` part (or the version). -/
def saLead (d : LDecl) : Str := match d.standalone with | some _ => d.wSa | none => d.wEnd

def saRest (d : LDecl) (r : Str) : Str :=
  match d.standalone with
  | some b => litStandalone ++ eqK d.sEq (yesNo b) (saEnd d r)
  | none => saEnd d r

theorem saPart_app (d : LDecl) (r : Str) : d.saPart ++ r = saLead d ++ saRest d r := by
  unfold LDecl.saPart saLead saRest saEnd saEndW
  cases d.standalone <;> simp [litStandalone, ← eq_render_app]

def encK (d : LDecl) (r : Str) : Str :=
  match d.encoding with
  | some e => d.wEnc ++ (litEncoding ++ eqK d.eEq e (saLead d ++ saRest d r))
  | none => saLead d ++ saRest d r

theorem encPart_app (d : LDecl) (r : Str) : d.encPart ++ r = encK d r := by
  unfold LDecl.encPart encK
  cases d.encoding with
  | none => exact saPart_app d r
  | some e => simp [← eq_render_app, ← saPart_app, litEncoding]

theorem render_app (d : LDecl) (r : Str) :
    d.render ++ r = litXmlDecl ++ (d.w0 ++ (litVersion ++ eqK d.vEq ('1' :: '.' :: d.minor) (encK d r))) := by
  simp [LDecl.render, ← eq_render_app, ← encPart_app, litXmlDecl, litVersion]

/-! ### Pieces -/

/-- `consume_eq` then `consume_quote` on `before = after "`. -/
theorem consumeEq_quote (p : Nat) (L : EqLayout) (val X : Str) (h : L.ok = true) :
    ∃ p', consumeEq ⟨p, eqK L val X⟩ = some ⟨p', quoteChar L.single :: (val ++ quoteChar L.single :: X)⟩ ∧
      consumeQuote ⟨p', quoteChar L.single :: (val ++ quoteChar L.single :: X)⟩ =
        some (quoteChar L.single, ⟨p' + 1, val ++ quoteChar L.single :: X⟩) := by
  simp only [EqLayout.ok, Bool.and_eq_true] at h
  exact ⟨_, consumeEq_ws p h.1 h.2 (Stops.cons _ (quote_not_space _)), consumeQuote_q _ _ _⟩

theorem declSpaces_ws (p : Nat) {w X : Str} (hw : isWs w = true) (hX : Stops isXmlSpace X)
    (h : w ≠ [] ∨ litPiClose.isPrefixOf X = true) :
    declSpaces ⟨p, w ++ X⟩ = some ⟨p + strLen w, X⟩ := by
  by_cases hne : w = []
  · subst hne
    have hp : litPiClose.isPrefixOf X = true := by rcases h with h | h; exact absurd rfl h; exact h
    have hs : startsWithSpace ⟨p, X⟩ = false := by
      cases X with
      | nil => rfl
      | cons c cs => simpa [startsWithSpace] using hX c rfl
    simp [declSpaces, hs, startsWith, hp, strLen]
  · simp [declSpaces, startsWithSpace_ws p hw hne, skipSpaces_ws p hw hX]

theorem saRest_head (d : LDecl) (r : Str) :
    ∃ c cs, saRest d r = c :: cs ∧ (c = 's' ∨ c = '?') ∧
      (d.standalone = none → litPiClose.isPrefixOf (saRest d r) = true) := by
  unfold saRest saEnd saEndW
  cases d.standalone with
  | none => exact ⟨'?', '>' :: r, rfl, .inr rfl, fun _ => by simp [litPiClose]⟩
  | some b => exact ⟨'s', _, rfl, .inl rfl, fun h => by simp at h⟩

theorem saRest_stops (d : LDecl) (r : Str) : Stops isXmlSpace (saRest d r) := by
  obtain ⟨c, cs, h, hc, _⟩ := saRest_head d r
  rw [h]
  rcases hc with rfl | rfl <;> exact Stops.cons _ (by decide)

/-- The white space after the version / the encoding: the local `consume_spaces`. -/
theorem declSpaces_lead (p : Nat) (d : LDecl) (r : Str) (h : d.ok = true) :
    declSpaces ⟨p, saLead d ++ saRest d r⟩ = some ⟨p + strLen (saLead d), saRest d r⟩ := by
  obtain ⟨c, cs, _, _, hpi⟩ := saRest_head d r
  simp only [LDecl.ok, Bool.and_eq_true] at h
  obtain ⟨⟨_, hsa⟩, hwe⟩ := h
  refine declSpaces_ws p ?_ (saRest_stops d r) ?_
  · unfold saLead
    cases hs : d.standalone with
    | none => exact hwe
    | some b => simp only [hs, Bool.and_eq_true] at hsa; exact hsa.1.1
  · unfold saLead
    cases hs : d.standalone with
    | none => exact .inr (hpi hs)
    | some b =>
      simp only [hs, Bool.and_eq_true, Bool.not_eq_true', List.isEmpty_eq_false_iff] at hsa
      exact .inl hsa.1.2

/-- No `encoding` where the `standalone` part or `?>` begins. -/
theorem parseEncodingDecl_none (p : Nat) (d : LDecl) (r : Str) :
    parseEncodingDecl ⟨p, saRest d r⟩ = some (none, ⟨p, saRest d r⟩) := by
  obtain ⟨c, cs, h, hc, _⟩ := saRest_head d r
  rw [h]
  rcases hc with rfl | rfl <;>
    simp [parseEncodingDecl, startsWith, litEncoding, List.isPrefixOf_cons_cons]

theorem isEncChar_quote (b : Bool) : isEncChar (quoteChar b) = false := by cases b <;> decide

theorem parseEncodingDecl_some (p : Nat) (L : EqLayout) (e X : Str) (h : L.ok = true)
    (he : e.all isEncChar = true) :
    ∃ sp p', parseEncodingDecl ⟨p, litEncoding ++ eqK L e X⟩ = some (some sp, ⟨p', X⟩) ∧ sp.text = e := by
  obtain ⟨p1, h1, h2⟩ := consumeEq_quote (p + strLen litEncoding) L e X h
  have hpre : startsWith ⟨p, litEncoding ++ eqK L e X⟩ litEncoding = true := by
    simp only [startsWith]
    rw [List.isPrefixOf_iff_prefix]; exact List.prefix_append _ _
  have hadv : (Stream.mk p (litEncoding ++ eqK L e X)).adv 8 = ⟨p + strLen litEncoding, eqK L e X⟩ :=
    adv_app p litEncoding _ 8 rfl
  have hskip := skipBytes_app (f := isEncChar) (p1 + 1) (a := e) (r := quoteChar L.single :: X) he
    (Stops.cons _ (isEncChar_quote _))
  have key : parseEncodingDecl ⟨p, litEncoding ++ eqK L e X⟩ =
      some (some ⟨e, p1 + 1⟩, ⟨p1 + 1 + strLen e + utf8Len (quoteChar L.single), X⟩) := by
    simp only [parseEncodingDecl, hpre, Bool.not_true, Bool.false_eq_true, if_false, hadv,
      Option.bind_eq_bind, h1, Option.bind_some, h2]
    change (do
      let s5 ← (skipBytes isEncChar ⟨p1 + 1, e ++ quoteChar L.single :: X⟩).consumeByte (quoteChar L.single)
      some (some (sliceBack ⟨p1 + 1, e ++ quoteChar L.single :: X⟩
        (skipBytes isEncChar ⟨p1 + 1, e ++ quoteChar L.single :: X⟩)), s5)) = _
    rw [hskip]
    simp only [consumeByte_self, Option.bind_eq_bind, Option.bind_some]
    rw [sliceBack_eq e rfl]
  exact ⟨_, _, key, rfl⟩

theorem nameOK_yesNo (b : Bool) : nameOK (yesNo b) = true := by cases b <;> decide

theorem parseStandalone_some (p : Nat) (L : EqLayout) (b : Bool) (X : Str) (h : L.ok = true) :
    ∃ p', parseStandalone ⟨p, litStandalone ++ eqK L (yesNo b) X⟩ = some (some b, ⟨p', X⟩) := by
  obtain ⟨p1, h1, h2⟩ := consumeEq_quote (p + strLen litStandalone) L (yesNo b) X h
  have hpre : startsWith ⟨p, litStandalone ++ eqK L (yesNo b) X⟩ litStandalone = true := by
    simp only [startsWith]
    rw [List.isPrefixOf_iff_prefix]; exact List.prefix_append _ _
  have hadv : (Stream.mk p (litStandalone ++ eqK L (yesNo b) X)).adv 10 =
      ⟨p + strLen litStandalone, eqK L (yesNo b) X⟩ := adv_app p litStandalone _ 10 rfl
  have hname := consumeName_app (p1 + 1) (t := yesNo b) (r := quoteChar L.single :: X) (nameOK_yesNo b)
    (Stops.cons _ (quote_not_nameChar _))
  refine ⟨p1 + 1 + strLen (yesNo b) + utf8Len (quoteChar L.single), ?_⟩
  simp only [parseStandalone, hpre, Bool.not_true, Bool.false_eq_true, if_false, hadv,
    Option.bind_eq_bind, h1, Option.bind_some, h2, hname, consumeByte_self]
  cases b <;> simp [yesNo, litYes, litNo]

theorem parseStandalone_none (p : Nat) (r : Str) :
    parseStandalone ⟨p, '?' :: '>' :: r⟩ = some (none, ⟨p, '?' :: '>' :: r⟩) := by
  simp [parseStandalone, startsWith, litStandalone, List.isPrefixOf_cons_cons]

/-- `parse_standalone`, then `skip_spaces` and `?>`. -/
theorem standalone_end (p : Nat) (d : LDecl) (r : Str) (h : d.ok = true) :
    ∃ p1 p2, parseStandalone ⟨p, saRest d r⟩ = some (d.standalone, ⟨p1, saEnd d r⟩) ∧
      (skipSpaces ⟨p1, saEnd d r⟩).skipString litPiClose = some ⟨p2, r⟩ := by
  have hstop : Stops isXmlSpace ('?' :: '>' :: r) := Stops.cons _ (by decide)
  simp only [LDecl.ok, Bool.and_eq_true] at h
  obtain ⟨⟨_, hsa⟩, hwe⟩ := h
  have hend : ∀ p1, ∃ p2, (skipSpaces ⟨p1, saEnd d r⟩).skipString litPiClose = some ⟨p2, r⟩ := by
    intro p1
    have hw : isWs (saEndW d) = true := by
      unfold saEndW
      cases d.standalone with
      | none => rfl
      | some _ => exact hwe
    refine ⟨p1 + strLen (saEndW d) + strLen litPiClose, ?_⟩
    unfold saEnd
    rw [skipSpaces_ws p1 hw hstop, show '?' :: '>' :: r = litPiClose ++ r from rfl, skipString_app]
  cases hs : d.standalone with
  | none =>
    obtain ⟨p2, h2⟩ := hend p
    refine ⟨p, p2, ?_, h2⟩
    simp only [saRest, saEnd, saEndW, hs, List.nil_append]
    exact parseStandalone_none p r
  | some b =>
    simp only [hs, Bool.and_eq_true] at hsa
    obtain ⟨p1, h1⟩ := parseStandalone_some p d.sEq b (saEnd d r) hsa.2
    obtain ⟨p2, h2⟩ := hend p1
    refine ⟨p1, p2, ?_, h2⟩
    simp only [saRest, hs]
    exact h1

theorem isXmlDigit_quote (b : Bool) : isXmlDigit (quoteChar b) = false := by cases b <;> decide

theorem parseVersionInfo_L (p : Nat) (d : LDecl) (X : Str) (h : d.ok = true) :
    ∃ sp p', parseVersionInfo ⟨p, d.w0 ++ (litVersion ++ eqK d.vEq ('1' :: '.' :: d.minor) X)⟩ =
        some (sp, ⟨p', X⟩) ∧ sp.text = '1' :: '.' :: d.minor := by
  simp only [LDecl.ok, Bool.and_eq_true] at h
  obtain ⟨⟨⟨⟨⟨hmin, hw0⟩, hv⟩, _⟩, _⟩, _⟩ := h
  have hst : Stops isXmlSpace (litVersion ++ eqK d.vEq ('1' :: '.' :: d.minor) X) :=
    Stops.cons _ (by decide)
  obtain ⟨p1, h1, h2⟩ := consumeEq_quote (p + strLen d.w0 + strLen litVersion) d.vEq ('1' :: '.' :: d.minor) X hv
  have hdot : skipString litOneDot ⟨p1 + 1, '1' :: '.' :: d.minor ++ quoteChar d.vEq.single :: X⟩ =
      some ⟨p1 + 1 + strLen litOneDot, d.minor ++ quoteChar d.vEq.single :: X⟩ :=
    skipString_app litOneDot (p1 + 1) _
  have hdig := skipBytes_app (f := isXmlDigit) (p1 + 1 + strLen litOneDot) (a := d.minor)
    (r := quoteChar d.vEq.single :: X) hmin (Stops.cons _ (isXmlDigit_quote _))
  have key : parseVersionInfo ⟨p, d.w0 ++ (litVersion ++ eqK d.vEq ('1' :: '.' :: d.minor) X)⟩ =
      some (⟨'1' :: '.' :: d.minor, p1 + 1⟩,
        ⟨p1 + 1 + strLen litOneDot + strLen d.minor + utf8Len (quoteChar d.vEq.single), X⟩) := by
    simp only [parseVersionInfo, Option.bind_eq_bind, skipSpaces_ws p hw0 hst, skipString_app,
      Option.bind_some, h1, h2, hdot, hdig, consumeByte_self]
    rw [sliceBack_eq ('1' :: '.' :: d.minor) (by simp)]
  exact ⟨_, _, key, rfl⟩

/-! ### The declaration -/

theorem parseDeclaration_L (pos : Nat) (d : LDecl) (r : Str) (h : d.ok = true) :
    ∃ t' pos', parseDeclaration ⟨pos, d.render ++ r⟩ = some (t', ⟨pos', r⟩) ∧ t'.erase = d.token.erase := by
  rw [render_app]
  have hadv : (Stream.mk pos (litXmlDecl ++ (d.w0 ++ (litVersion ++
      eqK d.vEq ('1' :: '.' :: d.minor) (encK d r))))).adv 6 =
        ⟨pos + strLen litXmlDecl, d.w0 ++ (litVersion ++ eqK d.vEq ('1' :: '.' :: d.minor) (encK d r))⟩ :=
    adv_app pos litXmlDecl _ 6 rfl
  obtain ⟨vsp, p2, hver, hvt⟩ := parseVersionInfo_L (pos + strLen litXmlDecl) d (encK d r) h
  have hok := h
  simp only [LDecl.ok, Bool.and_eq_true] at hok
  obtain ⟨⟨⟨_, henc⟩, _⟩, _⟩ := hok
  cases he : d.encoding with
  | none =>
    obtain ⟨p6, p7, hsa, hend⟩ := standalone_end (p2 + strLen (saLead d)) d r h
    have key : ∃ sp, parseDeclaration ⟨pos, litXmlDecl ++ (d.w0 ++ (litVersion ++
        eqK d.vEq ('1' :: '.' :: d.minor) (encK d r)))⟩ =
          some (.declaration vsp none d.standalone sp, ⟨p7, r⟩) := by
      simp only [parseDeclaration, Option.bind_eq_bind, hadv, hver, Option.bind_some]
      simp only [encK, he, declSpaces_lead p2 d r h, parseEncodingDecl_none, Option.isSome_none,
        Bool.false_eq_true, if_false, hsa, hend, Option.bind_some]
      exact ⟨_, rfl⟩
    obtain ⟨sp, key⟩ := key
    refine ⟨_, p7, key, ?_⟩
    simp only [Token.erase, LDecl.token, he, Option.map_none, StrSpan.erase, hvt]
  | some e =>
    simp only [he, Bool.and_eq_true, Bool.not_eq_true', List.isEmpty_eq_false_iff] at henc
    obtain ⟨⟨⟨hall, hwenc⟩, hwne⟩, heq⟩ := henc
    have hsp : declSpaces ⟨p2, d.wEnc ++ (litEncoding ++ eqK d.eEq e (saLead d ++ saRest d r))⟩ =
        some ⟨p2 + strLen d.wEnc, litEncoding ++ eqK d.eEq e (saLead d ++ saRest d r)⟩ :=
      declSpaces_ws p2 hwenc (Stops.cons _ (by decide)) (.inl hwne)
    obtain ⟨esp, p4, henc', het⟩ := parseEncodingDecl_some (p2 + strLen d.wEnc) d.eEq e
      (saLead d ++ saRest d r) heq hall
    obtain ⟨p6, p7, hsa, hend⟩ := standalone_end (p4 + strLen (saLead d)) d r h
    have key : ∃ sp, parseDeclaration ⟨pos, litXmlDecl ++ (d.w0 ++ (litVersion ++
        eqK d.vEq ('1' :: '.' :: d.minor) (encK d r)))⟩ =
          some (.declaration vsp (some esp) d.standalone sp, ⟨p7, r⟩) := by
      simp only [parseDeclaration, Option.bind_eq_bind, hadv, hver, Option.bind_some]
      simp only [encK, he, hsp, henc', Option.isSome_some, if_true, declSpaces_lead p4 d r h, hsa, hend,
        Option.bind_some]
      exact ⟨_, rfl⟩
    obtain ⟨sp, key⟩ := key
    refine ⟨_, p7, key, ?_⟩
    simp only [Token.erase, LDecl.token, he, Option.map_some, StrSpan.erase, hvt, het]

end XotModel.Lex.Free
