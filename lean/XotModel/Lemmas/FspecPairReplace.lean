/-
  `replace` against the pair reading (`Spec.specReplaceP`), for every forest with the invariant.
  The intermediate forest (after `remove_subtree(old)`) satisfies the invariant up to the ghost
  flag; the forest `replMid` after the first two calls is described at the parent of the replaced
  node in all geometries (`PutSite`); xot's last consolidation completes `mergeNew` to `mergeNew3`;
  hence `replace_pair`, and `replace_last_eq_old` for the consolidation of the two former neighbours.
-/
import XotModel.Lemmas.FspecOff
import XotModel.Lemmas.FspecPairList
import XotModel.Lemmas.FspecReplKeep
import XotModel.Lemmas.FspecReplSpec
import XotModel.Lemmas.FspecPairAfter
import XotModel.Lemmas.FspecPairAppend
import XotModel.Lemmas.FspecReplValid
import XotModel.Lemmas.BasicFacts
import XotModel.Lemmas.FspecAgreeMove
import XotModel.Lemmas.FspecPairUnwrap

/-! ## The intermediate forest; what the pair reading needs of the arguments -/

namespace XotModel
open HTree Spec

/-! ### The pair theorems for forests that satisfy the invariant up to the ghost flag -/

theorem insertAfter_pair_w {g : Forest} {r c : Nat} (hi : g.off.Inv) (hok : (g.insertAfter r c).2 = .ok) :
    (g.insertAfter r c).1 = specMoveP (.after r) c g := by
  have h1 := insertAfter_pair hi (by rw [Forest.off_insertAfter]; exact hok)
  rw [Forest.off_insertAfter, Spec.off_specMoveP] at h1
  exact Forest.off_inj true h1 (by rw [Forest.insertAfter_everOff, Spec.specMoveP_everOff])

theorem prepend_pair_w {g : Forest} {p c : Nat} (hi : g.off.Inv) (hok : (g.prepend p c).2 = .ok) :
    (g.prepend p c).1 = specMoveP (.firstNormalChildOf p) c g := by
  have h1 := prepend_pair hi (by rw [Forest.off_prepend]; exact hok)
  rw [Forest.off_prepend, Spec.off_specMoveP] at h1
  exact Forest.off_inj true h1 (by rw [Forest.prepend_everOff, Spec.specMoveP_everOff])

/-- The forest without the child `A` satisfies the invariant up to the ghost flag (its two
    neighbours may be adjacent text nodes now). -/
theorem drop_off_inv {f : Forest} {q : Nat} {vq : Value} {l : List HTree} {A : HTree} {r : List HTree}
    (inv : f.Inv) (s : SiteAt f q vq (l ++ A :: r)) : (f.editAt (some q) (dropTop A.handle)).off.Inv := by
  obtain ⟨ndL, _⟩ := s.nodupKids
  obtain ⟨tl, tr⟩ := tops_ne_of_nodup ndL
  have hdrop : dropTop A.handle (l ++ A :: r) = l ++ r := dropTop_mid rfl tl tr
  have hsub : (f.editAt (some q) (dropTop A.handle)).allHandles.Sublist f.allHandles :=
    handlesList_editAt_sublist (fun L => handlesList_dropTop_sublist _ L) f.roots
  have hv : validList false f.roots = true := (Forest.off_inv inv).valid
  refine ⟨inv.notCorrupt, hsub.nodup inv.nodup, fun h hh => inv.below h (hsub.subset hh), ?_, Or.inr rfl⟩
  show validList false (f.editAt (some q) (dropTop A.handle)).roots = true
  apply s.valid_edit _ hv
  rw [hdrop]
  exact validTree_drop_mid (s.valid hv) (fun e => by cases e)

/-! ### `neighbours` -/

namespace PairAll

theorem neighbours_map {φ : HTree → HTree} (hφ : KidMap φ) (n : Nat) : ∀ L : List HTree,
    neighbours n (L.map φ) = neighbours n L
  | [] => rfl
  | [x] => rfl
  | x :: y :: rest => by
    have ih := neighbours_map hφ n (y :: rest)
    simp only [List.map_cons] at ih ⊢
    rw [neighbours, neighbours, hφ.handle, hφ.handle, ih]
    cases rest <;> simp [hφ.handle]

end PairAll

/-! ### More about the arguments of `replace` -/

namespace ReplArgs
variable {f : Forest} {a b q : Nat} {vq : Value} {l : List HTree} {A : HTree} {r : List HTree} {t : HTree}

theorem adjacent_true (h : ReplArgs f a b q vq l A r t) (hadj : prevOf l A = some b ∨ nextOf r A = some b) :
    adjacentTo f a b = true := by
  rw [h.adjacentTo_eq]
  rcases hadj with e | e
  · rw [h.prevOf_iff.1 e]; simp
  · rw [h.nextOf_iff.1 e]; simp

theorem adjacent_false (h : ReplArgs f a b q vq l A r t) (h1 : prevOf l A ≠ some b) (h2 : nextOf r A ≠ some b) :
    adjacentTo f a b = false := by
  rw [h.adjacentTo_eq]
  have e1 : ((l.getLast?.map (·.handle)) == some b) = false := by
    cases hh : (l.getLast?.map (·.handle)) == some b with
    | false => rfl
    | true => exact absurd (h.prevOf_iff.2 (by simpa using hh)) h1
  have e2 : ((r.head?.map (·.handle)) == some b) = false := by
    cases hh : (r.head?.map (·.handle)) == some b with
    | false => rfl
    | true => exact absurd (h.nextOf_iff.2 (by simpa using hh)) h2
  rw [e1, e2]
  rfl

theorem nb_a (h : ReplArgs f a b q vq l A r t) :
    f.nbOf a = (l.getLast?.map (·.handle), r.head?.map (·.handle)) := by
  have := h.sq.nbOf
  rw [h.ha] at this
  exact this

/-- The replacing node, when it is a child of the same parent but not next to the replaced node. -/
theorem same_parent_split (h : ReplArgs f a b q vq l A r t) {l' r' : List HTree} (eL : l ++ A :: r = l' ++ t :: r')
    (h1 : prevOf l A ≠ some b) (h2 : nextOf r A ≠ some b) :
    (∃ u w, l = u ++ t :: w ∧ w ≠ []) ∨ (∃ u w, r = u ++ t :: w ∧ u ≠ []) := by
  have htmem : t ∈ l ++ A :: r := by rw [eL]; simp
  have htA : t ≠ A := by
    intro e
    have := h.hb
    rw [e, h.ha] at this
    exact h.hab this
  cases List.mem_append.1 htmem with
  | inl hl =>
    left
    obtain ⟨u, w, e⟩ := List.append_of_mem hl
    refine ⟨u, w, e, ?_⟩
    intro hw
    subst hw
    apply h1
    apply h.prevOf_iff.2
    rw [e]
    simp [h.hb]
  | inr hr =>
    cases List.mem_cons.1 hr with
    | inl e => exact absurd e htA
    | inr hr' =>
      right
      obtain ⟨u, w, e⟩ := List.append_of_mem hr'
      refine ⟨u, w, e, ?_⟩
      intro hu
      subst hu
      apply h2
      apply h.nextOf_iff.2
      rw [e]
      simp [h.hb]

theorem nb1 (h : ReplArgs f a b q vq l A r t) (h1 : prevOf l A ≠ some b) (h2 : nextOf r A ≠ some b) :
    (f.editAt (some q) (dropTop a)).nbOf b = f.nbOf b := by
  have s1 := h.site1
  rcases SiteAt.mover h.sq h.hgb with hctx | ⟨l', r', hctx, eL⟩ | ⟨po, vo, l', r', hpo, hctx, so⟩
  · have hp : f.parent? b = none := Forest.parent?_of_no_ctx hctx
    rw [Forest.nbOf_root hp, Forest.nbOf_root (by rw [h.parent1]; exact hp)]
  · have hp : f.parent? b = some q := Forest.parent?_of_ctx? hctx
    rw [Forest.nbOf_kid hp, Forest.nbOf_kid (by rw [h.parent1]; exact hp), Forest.kidsOf_of_get h.sq.kids,
      Forest.kidsOf_of_get s1.kids]
    obtain ⟨ndL, _⟩ := h.sq.nodupKids
    have hbt := h.hb
    rcases h.same_parent_split eL h1 h2 with ⟨u, w, e, hw⟩ | ⟨u, w, e, hu⟩
    · subst e
      have e1 : (u ++ t :: w) ++ A :: r = u ++ t :: (w ++ A :: r) := by simp
      have e2 : (u ++ t :: w) ++ r = u ++ t :: (w ++ r) := by simp
      rw [e1] at ndL
      have tu := (tops_ne_of_nodup ndL).1
      rw [e1, e2, ← hbt, neighbours_mid rfl _ u tu, neighbours_mid rfl _ u tu]
      cases w with
      | nil => exact absurd rfl hw
      | cons w0 w' => rfl
    · subst e
      have e1 : l ++ A :: (u ++ t :: w) = (l ++ A :: u) ++ t :: w := by simp
      have e2 : l ++ (u ++ t :: w) = (l ++ u) ++ t :: w := by simp
      rw [e1] at ndL
      have tu := (tops_ne_of_nodup ndL).1
      rw [e1, e2, ← hbt, neighbours_mid rfl _ _ tu,
        neighbours_mid rfl _ _ (fun x hx => tu x (fs_mem_mid_of_mem _ hx))]
      rcases List.eq_nil_or_concat u with hu' | ⟨u', z, hu'⟩
      · exact absurd hu' hu
      · rw [List.concat_eq_append] at hu'
        subst hu'
        have e3 : l ++ A :: (u' ++ [z]) = (l ++ A :: u') ++ [z] := by simp
        have e4 : l ++ (u' ++ [z]) = (l ++ u') ++ [z] := by simp
        rw [e3, e4, List.getLast?_concat, List.getLast?_concat]
  · have hp : f.parent? b = some po := Forest.parent?_of_ctx? hctx
    have s' := h.sq.other so.kids hpo (dropTop a) (handlesList_dropTop_sublist a _) (by
      apply findList?_dropTop
      intro k hk hka hin
      rw [h.kid_a hk hka] at hin
      have := child_inside h.live_a so hin
      rw [h.hb] at this
      exact h.hbA this)
    rw [Forest.nbOf_kid hp, Forest.nbOf_kid (by rw [h.parent1]; exact hp), Forest.kidsOf_of_get so.kids,
      Forest.kidsOf_of_get s'.kids, PairAll.neighbours_map (kidMap_editAt _ _)]

end ReplArgs

end XotModel

/-! ## The forest `replMid` at the parent of the replaced node (`PutSite`) -/

namespace XotModel
open HTree Spec

/-- The forest after the first steps of `specReplaceP`. -/
def replMid (f : Forest) (a b q : Nat) (t : HTree) : Forest :=
  ((f.editAt (f.parent? b) (dropTop b)).editAt (some q) (replaceTop a (fun _ => [t]))).mergeLeftAt (f.parent? b)
    (f.nbOf b)

/-- The right neighbour: same identity, still a text node or still none. -/
def RightShape (r rX : List HTree) : Prop :=
  (r = [] ∧ rX = []) ∨
  ∃ N r0 N' r1, r = N :: r0 ∧ rX = N' :: r1 ∧ N'.handle = N.handle ∧ N'.value.isText = N.value.isText

/-- The left neighbour is still there, unchanged. -/
def LeftLive (l lX : List HTree) : Prop :=
  (l = [] ∧ lX = []) ∨
  ∃ l0 P l1 P', l = l0 ++ [P] ∧ lX = l1 ++ [P'] ∧ P'.handle = P.handle ∧ P'.value = P.value

/-- The left neighbour `P` has been merged into the text node `x` before the replacing node. -/
def Consumed (f : Forest) (X : Forest) (t : HTree) (l lX : List HTree) : Prop :=
  f.consolidation = true ∧
  ∃ u x P l1 x', l = u ++ x :: t :: [P] ∧ x.value.isText = true ∧ P.value.isText = true ∧
    lX = l1 ++ [x'] ∧ x'.value.isText = true ∧ x'.handle = x.handle ∧ P.handle ∉ X.allHandles

structure PutSite (f : Forest) (a b q : Nat) (vq : Value) (l : List HTree) (r : List HTree) (t : HTree)
    (lX rX : List HTree) : Prop where
  site : SiteAt (replMid f a b q t) q vq (lX ++ t :: rX)
  leafL : ∀ k ∈ lX, k.value.isText = true → k.kids = []
  leafR : ∀ k ∈ rX, k.value.isText = true → k.kids = []
  right : RightShape r rX
  left : LeftLive l lX ∨ Consumed f (replMid f a b q t) t l lX

namespace PairAll

theorem rightShape_refl (r : List HTree) : RightShape r r := by
  cases r with
  | nil => exact Or.inl ⟨rfl, rfl⟩
  | cons N r0 => exact Or.inr ⟨N, r0, N, r0, rfl, rfl, rfl, rfl⟩

theorem leftLive_refl (l : List HTree) : LeftLive l l := by
  rcases List.eq_nil_or_concat l with e | ⟨l0, P, e⟩
  · exact Or.inl ⟨e, e⟩
  · rw [List.concat_eq_append] at e
    exact Or.inr ⟨l0, P, l0, P, e, e, rfl, rfl⟩

theorem rightShape_map {φ : HTree → HTree} (hφ : KidMap φ) (r : List HTree) : RightShape r (r.map φ) := by
  cases r with
  | nil => exact Or.inl ⟨rfl, rfl⟩
  | cons N r0 => exact Or.inr ⟨N, r0, φ N, r0.map φ, rfl, rfl, hφ.handle N, by rw [hφ.value]⟩

theorem leftLive_map {φ : HTree → HTree} (hφ : KidMap φ) (l : List HTree) : LeftLive l (l.map φ) := by
  rcases List.eq_nil_or_concat l with e | ⟨l0, P, e⟩
  · subst e; exact Or.inl ⟨rfl, rfl⟩
  · rw [List.concat_eq_append] at e
    subst e
    exact Or.inr ⟨l0, P, l0.map φ, φ P, rfl, by simp, hφ.handle P, hφ.value P⟩

theorem edit_of_count {f : Forest} {p : Nat} {v : Value} {L : List HTree} (s : SiteAt f p v L)
    (g : List HTree → List HTree)
    (h : ∀ z, f.allHandles.count z + (handlesList (g L)).count z ≤ 1 + (handlesList L).count z) :
    SiteAt (f.editAt (some p) g) p v (g L) :=
  ⟨s.nodup_of_count g h, Forest.get?_editAt_self g s.kids⟩

end PairAll

/-! ### The geometries -/

namespace ReplArgs
variable {f : Forest} {a b q : Nat} {vq : Value} {l : List HTree} {A : HTree} {r : List HTree} {t : HTree}
open PairAll

theorem replaced_eq (h : ReplArgs f a b q vq l A r t) :
    replaceTop a (fun _ => [t]) (l ++ A :: r) = l ++ t :: r := by
  rw [replaceTop_mid h.ha h.tops.1]; simp

theorem putSite_root (h : ReplArgs f a b q vq l A r t) (inv : f.Inv) (hctx : f.ctx? b = none) :
    PutSite f a b q vq l r t l r := by
  have nd := inv.nodup
  have hpar : f.parent? b = none := Forest.parent?_of_no_ctx hctx
  have hroot : f.isRoot b = true := by
    rcases Forest.root_or_ctx h.hgb with h' | ⟨cx, h'⟩
    · exact h'
    · rw [hctx] at h'; cases h'
  have hX : replMid f a b q t = (f.editAt none (dropTop b)).editAt (some q) (replaceTop a (fun _ => [t])) := by
    unfold replMid
    rw [hpar, Forest.nbOf_root hpar, Forest.mergeLeftAt_none]
  have s0 := h.sq.dropRoot h.hgb h.hqt
  have hleaf := h.sq.leaf inv.valid
  refine ⟨?_, fun k hk => hleaf k (List.mem_append_left _ hk),
    fun k hk => hleaf k (List.mem_append_right _ (List.mem_cons_of_mem _ hk)), rightShape_refl r,
    Or.inl (leftLive_refl l)⟩
  rw [hX]
  have := edit_of_count s0 (replaceTop a (fun _ => [t])) (by
    intro z
    rw [h.replaced_eq, count_handles_mid, count_handles_mid z l A r]
    have h1 : (f.editAt none (dropTop b)).allHandles.count z + (handles t).count z = f.allHandles.count z :=
      count_dropTop_root nd h.hgb hroot z
    have h2 := (List.nodup_iff_count.1 nd) z
    omega)
  rw [h.replaced_eq] at this
  exact this

theorem putSite_far (h : ReplArgs f a b q vq l A r t) (inv : f.Inv) {po : Nat} {vo : Value} {lo ro : List HTree}
    (so : SiteAt f po vo (lo ++ t :: ro)) (hne : po ≠ q) :
    ∃ lX rX, PutSite f a b q vq l r t lX rX := by
  have nd := inv.nodup
  have hbt := h.hb
  have hpar : f.parent? b = some po := by rw [← hbt]; exact Forest.parent?_of_ctx? so.ctx
  obtain ⟨tlo, tro⟩ := tops_ne_of_nodup so.nodupKids.1
  rw [hbt] at tlo tro
  have hdrop : dropTop b (lo ++ t :: ro) = lo ++ ro := dropTop_mid hbt tlo tro
  -- the two edits at the old place as one
  have hX : replMid f a b q t = (f.editAt (some po) (pairOpt f.consolidation (f.nbOf b) ∘ dropTop b)).editAt
      (some q) (replaceTop a (fun _ => [t])) := by
    unfold replMid
    rw [hpar, mergeLeftAt_eq_pairOpt]
    simp only [Forest.editAt_consolidation]
    rw [Forest.editAt_comm _ hne (natFor_pairOpt (kidMap_editAt _ _) _ _)
      (natFor_replaceTop (kidMap_editAt _ _) a (fun k => by simp [editAt_of_not_mem t so.not_mem_kid])), Forest.editAt_editAt]
  have hleafq := h.sq.leaf inv.valid
  have sY := site_after_leave so h.sq inv.valid hne h.hqt (isText_false_of_kind h.hvq) f.consolidation (f.nbOf b)
  rw [hbt] at sY
  have hcount : ∀ z, (f.editAt (some po) (pairOpt f.consolidation (f.nbOf b) ∘ dropTop b)).allHandles.count z +
      (handles t).count z ≤ f.allHandles.count z := by
    intro z
    have h1 := so.count (pairOpt f.consolidation (f.nbOf b) ∘ dropTop b) z
    simp only [Function.comp] at h1
    rw [hdrop] at h1
    have h2 := (pairOpt_sublist f.consolidation (f.nbOf b) (lo ++ ro)).count_le z
    have h3 := count_handles_mid z lo t ro
    omega
  generalize hφ : HTree.editAt po (pairOpt f.consolidation (f.nbOf b) ∘ dropTop b) = φ at sY
  have kφ : KidMap φ := hφ ▸ kidMap_editAt _ _
  have hA' : (φ A).handle = a := by rw [kφ.handle]; exact h.ha
  have hrepl : replaceTop a (fun _ => [t]) ((l ++ A :: r).map φ) = l.map φ ++ t :: r.map φ := by
    rw [List.map_append, List.map_cons, replaceTop_mid hA' (handlesTop_map kφ h.tops.1)]
    simp
  have hleafφ : ∀ k ∈ l ++ A :: r, k.value.isText = true → (φ k).kids = [] := by
    intro k hk hkt
    have hkl := hleafq k hk hkt
    rw [← hφ]
    exact ReplGapNF.editAt_kids_leaf hkl (PairAfter.leaf_ne_site so (PairAfter.site_getKid h.sq hk) hkl)
  refine ⟨l.map φ, r.map φ, ?_, ?_, ?_, rightShape_map kφ r, Or.inl (leftLive_map kφ l)⟩
  · rw [hX]
    have := edit_of_count sY (replaceTop a (fun _ => [t])) (by
      intro z
      rw [hrepl, count_handles_mid, List.map_append, List.map_cons, count_handles_mid z (l.map φ) (φ A) (r.map φ)]
      have h1 := hcount z
      have h2 := (List.nodup_iff_count.1 nd) z
      omega)
    rw [hrepl] at this
    exact this
  · intro k hk hkt
    obtain ⟨k0, hk0, e⟩ := List.mem_map.1 hk
    subst e
    rw [kφ.value] at hkt
    exact hleafφ k0 (List.mem_append_left _ hk0) hkt
  · intro k hk hkt
    obtain ⟨k0, hk0, e⟩ := List.mem_map.1 hk
    subst e
    rw [kφ.value] at hkt
    exact hleafφ k0 (List.mem_append_right _ (List.mem_cons_of_mem _ hk0)) hkt

end ReplArgs
end XotModel

/-! ## `replMid` when the replacing node is a child of the same parent -/

namespace XotModel
open HTree Spec

namespace PairAll

theorem gone_of_count {f : Forest} {p : Nat} {v : Value} {L : List HTree} (s : SiteAt f p v L)
    (nd : f.allHandles.Nodup) (g : List HTree → List HTree) {z : Nat} (hz : z ∈ handlesList L)
    (hg : z ∉ handlesList (g L)) : z ∉ (f.editAt (some p) g).allHandles := by
  intro hin
  have h0 := s.count g z
  have h1 := List.count_pos_iff.2 hin
  have h2 := List.nodup_iff_count.1 nd z
  have h3 := List.count_pos_iff.2 hz
  have h4 := List.count_eq_zero.2 hg
  omega

end PairAll

namespace ReplArgs
variable {f : Forest} {a b q : Nat} {vq : Value} {l : List HTree} {A : HTree} {r : List HTree} {t : HTree}
open PairAll

/-- `replMid` when the replacing node is a child of `q` too (child list `lo ++ t :: ro`): one edit
    of that child list, the old-place merge `M` of `OldP` last. -/
theorem replMid_same (h : ReplArgs f a b q vq l A r t) (inv : f.Inv) {lo ro l1 r1 L' : List HTree} {Xf : Forest}
    {M : List HTree → List HTree} (so : SiteAt f q vq (lo ++ t :: ro)) (O : OldP f q vq lo t ro Xf l1 r1 M)
    (e : M (replaceTop a (fun _ => [t]) (lo ++ ro)) = L')
    (hc : ∀ z, (handlesList L').count z ≤ (handlesList (lo ++ t :: ro)).count z) :
    replMid f a b q t = f.editAt (some q) (fun _ => L') ∧ SiteAt (replMid f a b q t) q vq L' := by
  obtain ⟨tl, tr⟩ := tops_ne_of_nodup so.nodupKids.1
  have hpar : f.parent? b = some q := by rw [← h.hb]; exact Forest.parent?_of_ctx? so.ctx
  have hX : replMid f a b q t = f.editAt (some q) (fun _ => L') := by
    unfold replMid
    rw [hpar, ← h.hb, O.spec _ (by rw [Forest.editAt_consolidation, Forest.editAt_consolidation]),
      Forest.editAt_editAt, Forest.editAt_editAt]
    apply so.congr
    simp only [Function.comp]
    rw [dropTop_mid rfl tl tr, e]
  refine ⟨hX, ?_⟩
  rw [hX]
  refine edit_of_count so (fun _ => L') (fun z => ?_)
  have h1 := hc z
  have h2 := (List.nodup_iff_count.1 inv.nodup) z
  omega

theorem putSite_same_left (h : ReplArgs f a b q vq l A r t) (inv : f.Inv)
    {u w : List HTree} (el : l = u ++ t :: w) (hw : w ≠ []) :
    ∃ lX rX, PutSite f a b q vq l r t lX rX := by
  subst el
  have eL : (u ++ t :: w) ++ A :: r = u ++ t :: (w ++ A :: r) := by simp
  have so : SiteAt f q vq (u ++ t :: (w ++ A :: r)) := eL ▸ h.sq
  obtain ⟨ndL, _⟩ := so.nodupKids
  have hleafq := so.leaf inv.valid
  obtain ⟨Xf, l1, r1, M, _, O⟩ := oldP inv so
  have hR : replaceTop a (fun _ => [t]) (u ++ (w ++ A :: r)) = (u ++ w) ++ t :: r := by
    rw [← List.append_assoc, replaceTop_mid h.ha (fun k hk => h.tops.1 k (fs_mem_mid_of_mem _ hk))]
    simp
  have hleafr : ∀ k ∈ r, k.value.isText = true → k.kids = [] :=
    fun k hk => hleafq k (by simp [hk])
  rcases O.cases with ⟨_, _, _, hnoop, _⟩ | ⟨l', x, y, r', s, v, eu, er, hx, hy, hc, _, _, eM⟩
  · have e : M ((u ++ w) ++ t :: r) = (u ++ w) ++ t :: r := hnoop _ (fun k hk => by
      simp only [List.mem_append, List.mem_cons] at hk ⊢
      rcases hk with (hk | hk) | hk | hk <;> simp [hk])
    obtain ⟨_, hsite⟩ := h.replMid_same inv so O (L' := (u ++ w) ++ t :: r) (by rw [hR]; exact e) (fun z => by
      simp only [handlesList_append, handlesList_cons, List.count_append]
      omega)
    refine ⟨u ++ w, r, hsite, fun k hk => hleafq k (by
      rcases List.mem_append.1 hk with hk | hk <;> simp [hk]), hleafr, rightShape_refl r, Or.inl ?_⟩
    obtain ⟨w0, P, rfl⟩ : ∃ w0 P, w = w0 ++ [P] := by
      rcases List.eq_nil_or_concat w with e | ⟨w0, P, e⟩
      · exact absurd e hw
      · exact ⟨w0, P, by rw [e, List.concat_eq_append]⟩
    exact Or.inr ⟨u ++ t :: w0, P, u ++ w0, P, by simp, by simp, rfl, rfl⟩
  · subst eu
    obtain ⟨w', rfl⟩ : ∃ w', w = y :: w' := by
      cases w with
      | nil => exact absurd rfl hw
      | cons y0 w' =>
        simp only [List.cons_append, List.cons.injEq] at er
        exact ⟨w', by rw [er.1]⟩
    have eu2 : (l' ++ [x]) ++ t :: (y :: w' ++ A :: r) = l' ++ x :: (t :: y :: (w' ++ A :: r)) := by simp
    have tx := (tops_ne_of_nodup (eu2 ▸ ndL)).1
    have e : M (((l' ++ [x]) ++ y :: w') ++ t :: r) = (l' ++ x.setValue (.text (s ++ v)) :: w') ++ t :: r := by
      have e1 : ((l' ++ [x]) ++ y :: w') ++ t :: r = l' ++ x :: y :: (w' ++ t :: r) := by simp
      rw [eM, e1, mergeAdj_mid_text hx hy _ tx]
      simp
    have hxt : x.value.isText = true := by rw [hx]; rfl
    have hyt : y.value.isText = true := by rw [hy]; rfl
    obtain ⟨hX, hsite⟩ := h.replMid_same inv so O
      (L' := (l' ++ x.setValue (.text (s ++ v)) :: w') ++ t :: r) (by rw [hR]; exact e) (fun z => by
      simp only [handlesList_append, handlesList_cons, handlesList_nil, setValue_handles, List.count_append]
      omega)
    refine ⟨l' ++ x.setValue (.text (s ++ v)) :: w', r, hsite, ?_, hleafr, rightShape_refl r, ?_⟩
    · intro k hk hkt
      rcases List.mem_append.1 hk with hk | hk
      · exact hleafq k (by simp [hk]) hkt
      · rcases List.mem_cons.1 hk with rfl | hk
        · rw [setValue_kids]; exact hleafq x (by simp) hxt
        · exact hleafq k (by simp [hk]) hkt
    · rcases List.eq_nil_or_concat w' with rfl | ⟨w0, P, e0⟩
      · right
        refine ⟨hc, l', x, y, l', x.setValue (.text (s ++ v)), by simp, hxt, hyt, rfl,
          by rw [setValue_value]; rfl, setValue_handle _ _, ?_⟩
        -- the merged node stood in the old child list and does not stand in the new one
        rw [hX]
        refine gone_of_count so inv.nodup _ (rootHandle_mem_handlesList (by simp)) ?_
        have e3 : (l' ++ [x]) ++ t :: ([y] ++ A :: r) = (l' ++ x :: [t]) ++ y :: (A :: r) := by simp
        obtain ⟨m1, m2, _⟩ := nodup_mid (e3 ▸ ndL)
        have hyin : y.handle ∈ handles y := handle_mem_handles y
        intro hin
        simp only [handlesList_append, handlesList_cons, handlesList_nil, setValue_handles, List.append_nil,
          List.mem_append] at hin m1 m2
        rcases hin with (h' | h') | h' | h'
        · exact m1 _ hyin (Or.inl h')
        · exact m1 _ hyin (Or.inr (Or.inl h'))
        · exact m1 _ hyin (Or.inr (Or.inr h'))
        · exact m2 _ hyin (Or.inr h')
      · left
        rw [List.concat_eq_append] at e0
        subst e0
        exact Or.inr ⟨(l' ++ [x]) ++ t :: y :: w0, P, l' ++ x.setValue (.text (s ++ v)) :: w0, P, by simp, by simp,
          rfl, rfl⟩

theorem putSite_same_right (h : ReplArgs f a b q vq l A r t) (inv : f.Inv)
    {u w : List HTree} (er : r = u ++ t :: w) (hu : u ≠ []) :
    ∃ lX rX, PutSite f a b q vq l r t lX rX := by
  subst er
  have eL : l ++ A :: (u ++ t :: w) = (l ++ A :: u) ++ t :: w := by simp
  have so : SiteAt f q vq ((l ++ A :: u) ++ t :: w) := eL ▸ h.sq
  obtain ⟨ndL, _⟩ := so.nodupKids
  have hleafq := so.leaf inv.valid
  have hleafl : ∀ k ∈ l, k.value.isText = true → k.kids = [] := fun k hk => hleafq k (by simp [hk])
  obtain ⟨Xf, l1, r1, M, _, O⟩ := oldP inv so
  have hR : replaceTop a (fun _ => [t]) ((l ++ A :: u) ++ w) = l ++ t :: (u ++ w) := by
    rw [List.append_assoc, List.cons_append, replaceTop_mid h.ha h.tops.1]
    simp
  rcases O.cases with ⟨_, _, _, hnoop, _⟩ | ⟨l', x, y, r', s, v, elo, ew, hx, hy, _, _, _, eM⟩
  · have e : M (l ++ t :: (u ++ w)) = l ++ t :: (u ++ w) := hnoop _ (fun k hk => by
      simp only [List.mem_append, List.mem_cons] at hk ⊢
      rcases hk with hk | hk | hk | hk <;> simp [hk])
    obtain ⟨_, hsite⟩ := h.replMid_same inv so O (L' := l ++ t :: (u ++ w)) (by rw [hR]; exact e) (fun z => by
      simp only [handlesList_append, handlesList_cons, List.count_append]
      omega)
    refine ⟨l, u ++ w, hsite, hleafl, fun k hk => hleafq k (by
      rcases List.mem_append.1 hk with hk | hk <;> simp [hk]), ?_, Or.inl (leftLive_refl l)⟩
    cases u with
    | nil => exact absurd rfl hu
    | cons N u0 => exact Or.inr ⟨N, u0 ++ t :: w, N, u0 ++ w, rfl, rfl, rfl, rfl⟩
  · subst ew
    obtain ⟨u', rfl⟩ : ∃ u', u = u' ++ [x] := by
      rcases List.eq_nil_or_concat u with e | ⟨u', x0, e⟩
      · exact absurd e hu
      · rw [List.concat_eq_append] at e
        subst e
        have : (l ++ A :: u') ++ [x0] = l' ++ [x] := by simpa using elo
        exact ⟨u', by rw [(List.append_inj' this rfl).2]⟩
    have e2 : (l ++ A :: (u' ++ [x])) ++ t :: y :: r' = (l ++ A :: u') ++ x :: (t :: y :: r') := by simp
    have tx := (tops_ne_of_nodup (e2 ▸ ndL)).1
    have e : M (l ++ t :: ((u' ++ [x]) ++ y :: r')) = l ++ t :: (u' ++ x.setValue (.text (s ++ v)) :: r') := by
      have e1 : l ++ t :: ((u' ++ [x]) ++ y :: r') = (l ++ t :: u') ++ x :: y :: r' := by simp
      rw [eM, e1, mergeAdj_mid_text hx hy _ (fun k hk => by
        rcases List.mem_append.1 hk with hk | hk
        · exact tx k (by simp [hk])
        · rcases List.mem_cons.1 hk with rfl | hk
          · exact fun e' => (tops_ne_of_nodup ndL).1 x (by simp) e'.symm
          · exact tx k (by simp [hk]))]
      simp
    have hxt : x.value.isText = true := by rw [hx]; rfl
    obtain ⟨_, hsite⟩ := h.replMid_same inv so O
      (L' := l ++ t :: (u' ++ x.setValue (.text (s ++ v)) :: r')) (by rw [hR]; exact e) (fun z => by
      simp only [handlesList_append, handlesList_cons, handlesList_nil, setValue_handles, List.count_append]
      omega)
    refine ⟨l, u' ++ x.setValue (.text (s ++ v)) :: r', hsite, hleafl, ?_, ?_, Or.inl (leftLive_refl l)⟩
    · intro k hk hkt
      rcases List.mem_append.1 hk with hk | hk
      · exact hleafq k (by simp [hk]) hkt
      · rcases List.mem_cons.1 hk with rfl | hk
        · rw [setValue_kids]; exact hleafq x (by simp) hxt
        · exact hleafq k (by simp [hk]) hkt
    · cases u' with
      | nil => exact Or.inr ⟨x, t :: y :: r', x.setValue (.text (s ++ v)), r', rfl, rfl, setValue_handle _ _, by
          rw [setValue_value, hx]; rfl⟩
      | cons N u0 => exact Or.inr ⟨N, (u0 ++ [x]) ++ t :: y :: r', N, u0 ++ x.setValue (.text (s ++ v)) :: r', rfl,
          rfl, rfl, rfl⟩

/-- **The forest after the first steps**, at the parent of the replaced node, in all geometries. -/
theorem putSite (h : ReplArgs f a b q vq l A r t) (inv : f.Inv) (h1 : prevOf l A ≠ some b)
    (h2 : nextOf r A ≠ some b) : ∃ lX rX, PutSite f a b q vq l r t lX rX := by
  rcases SiteAt.mover h.sq h.hgb with hctx | ⟨l', r', _, eL⟩ | ⟨po, vo, l', r', hpo, _, so⟩
  · exact ⟨l, r, h.putSite_root inv hctx⟩
  · rcases h.same_parent_split eL h1 h2 with ⟨u, w, e, hw⟩ | ⟨u, w, e, hu⟩
    · exact h.putSite_same_left inv e hw
    · exact h.putSite_same_right inv e hu
  · exact h.putSite_far inv so hpo

end ReplArgs
end XotModel

/-! ## The first two calls give `replMid` with the replacing node merged at its new place -/

namespace XotModel
open HTree Spec

namespace ReplArgs
variable {f : Forest} {a b q : Nat} {vq : Value} {l : List HTree} {A : HTree} {r : List HTree} {t : HTree}

theorem off_inv1 (h : ReplArgs f a b q vq l A r t) (inv : f.Inv) : (f.editAt (some q) (dropTop a)).off.Inv := by
  have := drop_off_inv inv h.sq
  rw [h.ha] at this
  exact this

/-- Without the replaced node, the new node behind the previous sibling `p` of the replaced node
    is the new node in the place of the replaced one (edits only: no consolidation, no survivor
    rule). -/
theorem put_after (h : ReplArgs f a b q vq l A r t) {p : Nat} (hp : prevOf l A = some p) (hpb : p ≠ b) :
    ((f.editAt (some q) (dropTop a)).editAt (f.parent? b) (dropTop b)).editAt (some q) (insertAfterTop p t) =
      (f.editAt (f.parent? b) (dropTop b)).editAt (some q) (replaceTop a (fun _ => [t])) := by
  obtain ⟨l2, P, el, hP, _⟩ := prevOf_eq_some hp
  subst el
  obtain ⟨ndL, _⟩ := h.sq.nodupKids
  have e1 : (l2 ++ [P]) ++ A :: r = l2 ++ P :: (A :: r) := by simp
  rw [e1] at ndL
  obtain ⟨tl, _⟩ := tops_ne_of_nodup ndL
  have hshape : ShapeAfter p a ((l2 ++ [P]) ++ A :: r) :=
    ⟨l2, P, A, r, e1, hP, h.ha, by rw [← hP]; exact h.tops.1 P (List.mem_append_right _ List.mem_cons_self),
      fun k hk => hP ▸ tl k hk, fun k hk => h.tops.1 k (List.mem_append_left _ hk), h.tops.2⟩
  exact repl_core (a := a) h.sq h.hgb h.hqt (ShapeAfter p a) (insertAfterTop p t)
    (fun _ h' => h'.ins t) (fun _ hφ _ h' => h'.map hφ) (fun _ h' => h'.drop hpb h.hab) hshape

/-- … and so is the new node as first normal child, when the replaced node had no previous
    sibling. -/
theorem put_first (h : ReplArgs f a b q vq l A r t) (inv : f.Inv) (hp : prevOf l A = none) :
    ((f.editAt (some q) (dropTop a)).editAt (f.parent? b) (dropTop b)).editAt (some q) (insertFirstNormal t) =
      (f.editAt (f.parent? b) (dropTop b)).editAt (some q) (replaceTop a (fun _ => [t])) := by
  obtain ⟨ln, rn⟩ := split_of_no_prev (validTree_node (h.sq.valid inv.valid)).2.1 h.hAn hp
  exact repl_core (a := a) h.sq h.hgb h.hqt (ShapeFirst a) (insertFirstNormal t)
    (fun _ h' => h'.ins t) (fun _ hφ _ h' => h'.map hφ) (fun _ h' => h'.drop h.hab)
    ⟨l, A, r, rfl, h.ha, h.tops.1, h.tops.2, ln, rn⟩

/-- Without the replaced node, the move of the new node behind `p` is not a no-op and goes to `q`. -/
theorem move_after_pre (h : ReplArgs f a b q vq l A r t) {p : Nat} (hp : prevOf l A = some p)
    (h2 : nextOf r A ≠ some b) :
    (Dest.after p).occupiedBy (f.editAt (some q) (dropTop a)) b = false ∧
      Dest.site (f.editAt (some q) (dropTop a)) (.after p) = some q := by
  obtain ⟨l2, P, el, hP, _⟩ := prevOf_eq_some hp
  subst el
  have s1 : SiteAt (f.editAt (some q) (dropTop a)) q vq (l2 ++ P :: r) := by
    have := h.site1
    rw [List.append_assoc] at this
    exact this
  have hctxp : (f.editAt (some q) (dropTop a)).ctx? p = some ⟨q, l2, P, r⟩ := hP ▸ s1.ctx
  refine ⟨?_, Forest.parent?_of_ctx? hctxp⟩
  simp only [Dest.occupiedBy, hctxp]
  cases r with
  | nil => rfl
  | cons R r2 =>
    by_cases hR : R.handle = b
    · exact absurd (h.nextOf_head rfl hR) h2
    · simp [hR]

/-- … and so is its move to the first normal place of `q`, when the replaced node had no previous
    sibling. -/
theorem move_first_pre (h : ReplArgs f a b q vq l A r t) (inv : f.Inv) (hp : prevOf l A = none)
    (h2 : nextOf r A ≠ some b) :
    (Dest.firstNormalChildOf q).occupiedBy (f.editAt (some q) (dropTop a)) b = false ∧
      Dest.site (f.editAt (some q) (dropTop a)) (.firstNormalChildOf q) = some q := by
  obtain ⟨ln, rn⟩ := split_of_no_prev (validTree_node (h.sq.valid inv.valid)).2.1 h.hAn hp
  have s1 := h.site1
  refine ⟨?_, by simp only [Dest.site, Forest.isLive_of_get? s1.kids, if_true]⟩
  simp only [Dest.occupiedBy, Forest.kidsOf_of_get s1.kids]
  rw [List.dropWhile_append_of_pos (by intro k hk; simp [ln k hk])]
  cases r with
  | nil => rfl
  | cons R r2 =>
    rw [List.dropWhile_cons_of_neg (by simp [rn R List.mem_cons_self])]
    by_cases hR : R.handle = b
    · exact absurd (h.nextOf_head rfl hR) h2
    · simp [hR]

/-- `insert_after(previous, new)` on the forest without the replaced subtree. -/
theorem after_eq (h : ReplArgs f a b q vq l A r t) (inv : f.Inv) {p : Nat} (hp : prevOf l A = some p)
    (h1 : prevOf l A ≠ some b) (h2 : nextOf r A ≠ some b)
    (hok : ((f.editAt (some q) (dropTop a)).insertAfter p b).2 = .ok) :
    ((f.editAt (some q) (dropTop a)).insertAfter p b).1 = (replMid f a b q t).mergeNewAt q b := by
  obtain ⟨hocc, hsite⟩ := h.move_after_pre hp h2
  rw [insertAfter_pair_w (h.off_inv1 inv) hok, specMoveP_unfold hocc h.get1 hsite, h.parent1, h.nb1 h1 h2]
  unfold replMid
  simp only [Dest.insert]
  rw [h.put_after hp (fun e => h1 (by rw [hp, e]))]

/-- `prepend(parent, new)` on the forest without the replaced subtree. -/
theorem first_eq (h : ReplArgs f a b q vq l A r t) (inv : f.Inv) (hp : prevOf l A = none)
    (h1 : prevOf l A ≠ some b) (h2 : nextOf r A ≠ some b)
    (hok : ((f.editAt (some q) (dropTop a)).prepend q b).2 = .ok) :
    ((f.editAt (some q) (dropTop a)).prepend q b).1 = (replMid f a b q t).mergeNewAt q b := by
  obtain ⟨hocc, hsite⟩ := h.move_first_pre inv hp h2
  rw [prepend_pair_w (h.off_inv1 inv) hok, specMoveP_unfold hocc h.get1 hsite, h.parent1, h.nb1 h1 h2]
  unfold replMid
  simp only [Dest.insert]
  rw [h.put_first inv hp]

end ReplArgs
end XotModel

/-! ## The last consolidation at a site -/

namespace XotModel
open HTree Spec

namespace PairAll

/-! ### List facts -/

theorem handlesList_mergeNew_sublist (n : Nat) (L : List HTree) :
    (handlesList (mergeNew n L)).Sublist (handlesList L) :=
  (TextMerge.of_mergeNew n L).handles_sublist

theorem mergeNewHead_head_text {t : HTree} {B : List HTree} {b' : HTree} {r' : List HTree}
    (h : mergeNewHead t B = b' :: r') (hb : b'.value.isText = true) : t.value.isText = true := by
  rcases mergeNewHead_cases t B with e | ⟨_, _, u, _, _, hu, _, _⟩
  · rw [e] at h
    injection h with h1 _
    rw [h1]; exact hb
  · rw [hu]; rfl

theorem leaf_mergeNewHead {t : HTree} {B : List HTree} (ht : t.value.isText = true → t.kids = [])
    (hB : ∀ k ∈ B, k.value.isText = true → k.kids = []) :
    ∀ k ∈ mergeNewHead t B, k.value.isText = true → k.kids = [] :=
  (TextMerge.of_mergeNewHead t B).text_mem (P := fun k => k.kids = [])
    (fun k v h => by rw [setValue_kids]; exact h)
    (fun k hk hkt => (List.mem_cons.1 hk).elim (fun e => e ▸ ht (e ▸ hkt)) (fun e => hB k e hkt))

theorem mergeAdj_noop_mid {A : HTree} {bh : Nat} (X Y : List HTree) (hX : ∀ x ∈ X, x.handle ≠ A.handle)
    (hY : ∀ x ∈ Y, x.handle ≠ A.handle)
    (h : ∀ B, Y.head? = some B → B.handle = bh → ¬ (A.value.isText = true ∧ B.value.isText = true)) :
    mergeAdj A.handle bh (X ++ A :: Y) = X ++ A :: Y := by
  cases Y with
  | nil => exact mergeAdj_sep [] (fun c hc => by cases hc) hY X hX
  | cons B Y' =>
    by_cases hB : B.handle = bh
    · rw [← hB]
      exact mergeAdj_mid_other (h B rfl hB) Y' hX
    · exact mergeAdj_sep (B :: Y') (fun c hc => by simp at hc; rw [← hc]; exact hB) hY X hX

/-! ### The last consolidation of `replace` at a site -/

/-- xot's `remove_consolidate(K, next_sibling(K))` against the pair merge of `K` with the node `nr`. -/
theorem final_core {f2 : Forest} {q : Nat} {vq : Value} {l1 : List HTree} {K : HTree} {Y : List HTree}
    (s2 : SiteAt f2 q vq (l1 ++ K :: Y))
    (hleafY : ∀ k ∈ Y, k.value.isText = true → k.kids = []) (nr : Option Nat)
    (hnr : ∀ B Y', Y = B :: Y' → K.value.isText = true → B.value.isText = true → nr = some B.handle) :
    (f2.removeConsolidate (some K.handle) (f2.nextSibling K.handle)).1 =
      f2.mergeLeftAt (some q) (some K.handle, nr) := by
  obtain ⟨t1, t2⟩ := tops_ne_of_nodup s2.nodupKids.1
  rw [s2.removeConsolidate_next hleafY]
  by_cases hb : ∃ B Y', Y = B :: Y' ∧ K.value.isText = true ∧ B.value.isText = true
  · obtain ⟨B, Y', rfl, hK, hB⟩ := hb
    rw [hnr B Y' rfl hK hB]
    rfl
  · have hno : ∀ B, Y.head? = some B → ¬ (K.value.isText = true ∧ B.value.isText = true) := fun B hB h => by
      obtain ⟨Y', e⟩ := List.head?_eq_some_iff.1 hB
      exact hb ⟨B, Y', e, h.1, h.2⟩
    rw [seam_noop s2 hno]
    symm
    apply step_noop s2
    intro a' b' ea _
    cases ea
    exact mergeAdj_noop_mid l1 Y t1 t2 (fun B hB _ => hno B hB)

/-- xot's `remove_consolidate(previous_sibling(N), N)` (the last step of `replace`)
    when `N` and the child `K` before it are not both text nodes: nothing happens. -/
theorem prevStep_noop {g : Forest} {p : Nat} {v : Value} {X : List HTree} {K N : HTree} {Y : List HTree}
    (s : SiteAt g p v (X ++ K :: N :: Y)) (hleaf : ∀ k ∈ N :: Y, k.value.isText = true → k.kids = [])
    (h : ¬ (K.value.isText = true ∧ N.value.isText = true)) :
    (g.removeConsolidate (g.prevSibling N.handle) (some N.handle)).1 = g := by
  have sN : SiteAt g p v ((X ++ [K]) ++ N :: Y) := by simpa using s
  rw [sN.removeConsolidate_prev hleaf, List.getLast?_concat]
  exact seam_noop s (fun b hb => by cases hb; exact h)

/-- … and when both are text nodes: `N` is merged into `K`. -/
theorem prevStep_merge {g : Forest} {p : Nat} {v : Value} {X : List HTree} {K N : HTree} {Y : List HTree}
    (s : SiteAt g p v (X ++ K :: N :: Y)) (hc : g.consolidation = true) {x y : Str}
    (hK : K.value = .text x) (hN : N.value = .text y)
    (hleaf : ∀ k ∈ N :: Y, k.value.isText = true → k.kids = []) :
    (g.removeConsolidate (g.prevSibling N.handle) (some N.handle)).1 =
      g.editAt (some p) (fun _ => X ++ K.setValue (.text (x ++ y)) :: Y) := by
  have sN : SiteAt g p v ((X ++ [K]) ++ N :: Y) := by simpa using s
  rw [sN.removeConsolidate_prev hleaf, List.getLast?_concat]
  exact seam_merge s hc hK hN

end PairAll

/-! ### The forest after `insert_after` / `prepend`, and the last step -/

namespace Forest

theorem mergeNew3At_off {f : Forest} (h : f.consolidation = false) (q n : Nat) : f.mergeNew3At q n = f := by
  unfold mergeNew3At
  rw [h]
  rfl

theorem mergeNew3At_on {f : Forest} (h : f.consolidation = true) (q n : Nat) :
    f.mergeNew3At q n = f.editAt (some q) (Spec.mergeNew3 n) := by
  unfold mergeNew3At
  rw [h, if_pos rfl]

end Forest

theorem replMid_consolidation (f : Forest) (a b q : Nat) (t : HTree) :
    (replMid f a b q t).consolidation = f.consolidation := by
  unfold replMid
  rw [Forest.mergeLeftAt_consolidation, Forest.editAt_consolidation, Forest.editAt_consolidation]

namespace PutSite
variable {f : Forest} {a b q : Nat} {vq : Value} {l r : List HTree} {t : HTree} {lX rX : List HTree}
open PairAll

theorem site2 (ps : PutSite f a b q vq l r t lX rX) (hc : f.consolidation = true) :
    SiteAt ((replMid f a b q t).mergeNewAt q b) q vq (mergeNew b (lX ++ t :: rX)) := by
  rw [Forest.mergeNewAt_on (by rw [replMid_consolidation]; exact hc)]
  exact ps.site.edit (mergeNew b) (handlesList_mergeNew_sublist b _)

theorem cons2 (f : Forest) (a b q : Nat) (t : HTree) :
    ((replMid f a b q t).mergeNewAt q b).consolidation = f.consolidation := by
  unfold Forest.mergeNewAt
  split
  · rw [Forest.editAt_consolidation, replMid_consolidation]
  · exact replMid_consolidation f a b q t

theorem right_handle (ps : PutSite f a b q vq l r t lX rX) {B : HTree} {Y' : List HTree} (e : rX = B :: Y') :
    r.head?.map (·.handle) = some B.handle := by
  rcases ps.right with ⟨_, e2⟩ | ⟨N, r0, N', r1, e1, e2, hN, _⟩
  · rw [e2] at e; cases e
  · rw [e2] at e
    injection e with e3 _
    rw [e1, ← e3, hN]; rfl

theorem tops (ps : PutSite f a b q vq l r t lX rX) (ht : t.handle = b) :
    (∀ k ∈ lX, k.handle ≠ b) ∧ (∀ k ∈ rX, k.handle ≠ b) := by
  obtain ⟨nd, _⟩ := ps.site.nodupKids
  have := tops_ne_of_nodup nd
  rw [ht] at this
  exact this

/-- **xot's last step when the replaced node had a previous sibling** `P`. -/
theorem final_after (ps : PutSite f a b q vq l r t lX rX) (ht : t.handle = b)
    (hleaft : t.value.isText = true → t.kids = []) {l0 : List HTree} {P : HTree} (el : l = l0 ++ [P]) :
    (((replMid f a b q t).mergeNewAt q b).removeConsolidate (some P.handle)
        (((replMid f a b q t).mergeNewAt q b).nextSibling P.handle)).1 =
      ((replMid f a b q t).mergeNewAt q b).mergeLeftAt (some q) (l.getLast?.map (·.handle), r.head?.map (·.handle)) := by
  subst ht
  have hl : l.getLast?.map (·.handle) = some P.handle := by rw [el]; simp
  rw [hl]
  cases hc : f.consolidation with
  | false =>
    have c2 := cons2 f a t.handle q t
    rw [hc] at c2
    rw [Forest.removeConsolidate_off c2, Forest.mergeLeftAt_off c2]
  | true =>
    have s2 := ps.site2 hc
    obtain ⟨tl, tr⟩ := ps.tops rfl
    rcases ps.left with (⟨e1, _⟩ | ⟨l0', P0, l1, P', e1, e2, hP1, hP2⟩) | ⟨_, u, x, Pc, l1, x', e1, _, _, e2, hx't, _, hgone⟩
    · rw [el] at e1; simp at e1
    · -- the previous sibling is still there
      rw [el] at e1
      obtain rfl : P0 = P := by
        injection (List.append_inj' e1 rfl).2 with h1
        exact h1.symm
      subst e2
      have hl1 : ∀ k ∈ l1, k.handle ≠ t.handle := fun k hk => tl k (by simp [hk])
      have hP't : P'.handle ≠ t.handle := tl P' (by simp)
      have eM : (l1 ++ [P']) ++ t :: rX = l1 ++ P' :: t :: rX := by simp
      rw [eM] at s2
      rw [← hP1]
      by_cases hb : P'.value.isText = true ∧ t.value.isText = true
      · obtain ⟨s, hs⟩ := text_of_isText hb.1
        obtain ⟨v, hv⟩ := text_of_isText hb.2
        rw [mergeNew_mid_left hs hv l1 rX hl1 hP't] at s2
        have := final_core s2 ps.leafR (r.head?.map (·.handle)) (fun B Y' e _ _ => ps.right_handle e)
        rw [setValue_handle] at this
        exact this
      · rw [mergeNew_mid_right hb l1 rX hl1 hP't] at s2
        have := final_core s2 (leaf_mergeNewHead hleaft ps.leafR) (r.head?.map (·.handle)) (by
          intro B Y' e hPt hBt
          exact absurd ⟨hPt, mergeNewHead_head_text e hBt⟩ hb)
        exact this
    · -- the previous sibling has been merged away
      rw [el] at e1
      have h' : l0 ++ [P] = (u ++ x :: [t]) ++ [Pc] := by rw [e1]; simp
      obtain rfl : Pc = P := by
        injection (List.append_inj' h' rfl).2 with h1
        exact h1.symm
      have hsub : ((replMid f a t.handle q t).mergeNewAt q t.handle).allHandles.Sublist (replMid f a t.handle q t).allHandles := by
        rw [Forest.mergeNewAt_on (by rw [replMid_consolidation]; exact hc)]
        exact handlesList_editAt_sublist (fun L => handlesList_mergeNew_sublist t.handle L) _
      have hgone2 : Pc.handle ∉ ((replMid f a t.handle q t).mergeNewAt q t.handle).allHandles := fun h => hgone (hsub.subset h)
      have hnx : ((replMid f a t.handle q t).mergeNewAt q t.handle).nextSibling Pc.handle = none :=
        Forest.nextSibling_of_no_ctx (Fws.ctx?_none hgone2)
      rw [hnx, Forest.removeConsolidate_none_right]
      symm
      apply step_noop s2
      intro a' b' ea _
      cases ea
      apply mergeAdj_of_not_top
      intro k hk e
      apply hgone2
      rw [← e]
      exact mem_of_findList?_some (PairAfter.site_getKid s2 hk)

/-- After `mergeNew` nothing is left to do, unless the replacing text went into a text node
    before it and a text node follows. -/
theorem final_none (ps : PutSite f a b q vq l r t lX rX) (ht : t.handle = b)
    (h : ∀ x' N', lX.getLast? = some x' → rX.head? = some N' →
      ¬ (x'.value.isText = true ∧ t.value.isText = true ∧ N'.value.isText = true)) :
    (replMid f a b q t).mergeNewAt q b = (replMid f a b q t).mergeNew3At q b := by
  subst ht
  obtain ⟨tl, tr⟩ := ps.tops rfl
  cases hc : (replMid f a t.handle q t).consolidation with
  | false => rw [Forest.mergeNewAt_off hc, Forest.mergeNew3At_off hc]
  | true =>
    rw [Forest.mergeNewAt_on hc, Forest.mergeNew3At_on hc]
    exact ps.site.congr (mergeNew3_eq_mergeNew lX rX tl tr h).symm

/-- The replaced node had no previous sibling: what stands before the replacing node, if
    anything, is not a text node. -/
theorem left_not_text (ps : PutSite f a b q vq l r t lX rX)
    (hnt : ∀ P, l.getLast? = some P → P.value.isText = false) :
    ∀ x', lX.getLast? = some x' → x'.value.isText = false := by
  intro x' hx'
  rcases ps.left with (⟨_, e2⟩ | ⟨l0, P, l1, P', e1, e2, _, hP2⟩) | ⟨_, u, x, Pc, _, _, e1, _, hPct, _⟩
  · rw [e2] at hx'; cases hx'
  · rw [e2, List.getLast?_concat] at hx'
    cases hx'
    rw [hP2]
    exact hnt P (by rw [e1]; simp)
  · rw [hnt Pc (by rw [e1]; simp)] at hPct
    cases hPct

/-- **The two readings at the parent**: the pair merge of the two former neighbours after `mergeNew`
    is `mergeNew3`, unless the left neighbour was merged away, the replacing node is a text node and
    so is the right neighbour. -/
theorem mergeK_eq_mergeP (ps : PutSite f a b q vq l r t lX rX) (ht : t.handle = b)
    (hcorner : ∀ u x P N r0, l = u ++ x :: t :: [P] → r = N :: r0 → f.consolidation = true →
      x.value.isText = true → P.value.isText = true → ¬ (t.value.isText = true ∧ N.value.isText = true)) :
    adjOpt (l.getLast?.map (·.handle), r.head?.map (·.handle)) (mergeNew b (lX ++ t :: rX)) =
      mergeNew3 b (lX ++ t :: rX) := by
  subst ht
  obtain ⟨tl, tr⟩ := ps.tops rfl
  have htr : ∀ k ∈ rX, k.handle ≠ t.handle := tr
  rcases ps.left with (⟨e1, e2⟩ | ⟨l0', P0, l1, P', e1, e2, hP1, hP2⟩) | ⟨hc, u, x, Pc, l1, x', e1, hxt, hPct, e2, hx't, _, hgone⟩
  · subst e1 e2
    simp only [List.nil_append, List.getLast?_nil, Option.map_none]
    rw [mergeNew_head rX htr, mergeNew3_head rX htr]
    rfl
  · subst e1 e2
    have hl1 : ∀ k ∈ l1, k.handle ≠ t.handle := fun k hk => tl k (by simp [hk])
    have hP't : P'.handle ≠ t.handle := tl P' (by simp)
    have eM : (l1 ++ [P']) ++ t :: rX = l1 ++ P' :: t :: rX := by simp
    obtain ⟨ndX, _⟩ := ps.site.nodupKids
    rw [eM] at ndX
    simp only [List.getLast?_concat, Option.map_some]
    rw [eM, mergeNew_mid rX l1 hl1 hP't, mergeNew3_mid rX l1 hl1 hP't]
    by_cases hb : P'.value.isText = true ∧ t.value.isText = true
    · obtain ⟨s, hs⟩ := text_of_isText hb.1
      obtain ⟨v, hv⟩ := text_of_isText hb.2
      rw [joinLeft_text hs hv]
      simp only [Option.map_some, Option.getD_some]
      rcases ps.right with ⟨er, erX⟩ | ⟨N, r0, N', r1, er, erX, hN, _⟩
      · subst er erX
        rfl
      · subst er erX
        simp only [List.head?_cons, Option.map_some, adjOpt]
        have t1 : ∀ k ∈ l1, k.handle ≠ (P'.setValue (.text (s ++ v))).handle := by
          rw [setValue_handle]
          exact (tops_ne_of_nodup ndX).1
        have := mergeAdj_mid (A := P'.setValue (.text (s ++ v))) (B := N') r1 l1 t1
        rw [setValue_handle, hP1, hN] at this
        rw [this, absorbNext_cons]
        cases joinLeft (P'.setValue (.text (s ++ v))) N' <;> rfl
    · rw [joinLeft_none hb]
      simp only [Option.map_none, Option.getD_none]
      -- nothing for the pair merge to do
      have ndM : (handlesList (l1 ++ P' :: mergeNewHead t rX)).Nodup := by
        have hs : (handlesList (l1 ++ P' :: mergeNewHead t rX)).Sublist (handlesList (l1 ++ P' :: t :: rX)) := by
          simp only [handlesList_append, handlesList_cons (k := P')]
          exact (List.Sublist.refl _).append ((List.Sublist.refl _).append (TextMerge.of_mergeNewHead t rX).handles_sublist)
        exact hs.nodup ndX
      obtain ⟨t1, t2⟩ := tops_ne_of_nodup ndM
      cases hr : r.head? with
      | none => rfl
      | some N =>
        simp only [Option.map_some, adjOpt]
        rw [← hP1]
        exact mergeAdj_noop_mid l1 _ t1 t2 (fun B hB _ h => hb ⟨h.1, by
          obtain ⟨Y', eY⟩ := List.head?_eq_some_iff.1 hB
          exact mergeNewHead_head_text eY h.2⟩)
  · -- the left neighbour is gone
    subst e2
    have hlast : l.getLast?.map (·.handle) = some Pc.handle := by rw [e1]; simp
    -- no child carries the handle of the merged node
    have hnotop : ∀ k ∈ mergeNew t.handle ((l1 ++ [x']) ++ t :: rX), k.handle ≠ Pc.handle := by
      intro k hk e
      apply hgone
      have h1 : Pc.handle ∈ handlesList ((l1 ++ [x']) ++ t :: rX) :=
        (handlesList_mergeNew_sublist _ _).subset (e ▸ rootHandle_mem_handlesList hk)
      exact (findList?_some _ _ ps.site.kids).2 _ (by rw [handles_node]; exact List.mem_cons_of_mem _ h1)
    have hK : adjOpt (l.getLast?.map (·.handle), r.head?.map (·.handle)) (mergeNew t.handle ((l1 ++ [x']) ++ t :: rX)) =
        mergeNew t.handle ((l1 ++ [x']) ++ t :: rX) := by
      rw [hlast]
      cases hr : r.head? with
      | none => rfl
      | some N => exact mergeAdj_of_not_top _ hnotop
    rw [hK]
    -- and behind the replacing text node there is no text node
    refine (mergeNew3_eq_mergeNew _ _ tl tr (fun a' b' _ hb' hh => ?_)).symm
    rcases ps.right with ⟨_, erX⟩ | ⟨N, r0, N', r1, er, erX, _, hNt⟩
    · rw [erX] at hb'; cases hb'
    · rw [erX] at hb'
      cases hb'
      exact hcorner u x Pc N r0 e1 er hc hxt hPct ⟨hh.2.1, hNt ▸ hh.2.2⟩

end PutSite
end XotModel

/-! ## `replace_pair` -/

namespace XotModel
open HTree Spec PairAll

theorem nextOf_none_nil {l : List HTree} {A : HTree} {r : List HTree} (hord : kidsOrdered (l ++ A :: r) = true)
    (hAn : A.value.isNormal = true) (h : nextOf r A = none) : r = [] := by
  cases r with
  | nil => rfl
  | cons R r2 =>
    exfalso
    have hA2 : A.value.category.rank = 2 := rank_normal.2 (isNormal_iff.1 hAn)
    have := kidsOrdered_rank_le _ (kidsOrdered_drop l hord) R List.mem_cons_self
    rw [hA2] at this
    have hR : R.value.category = .normal := rank_normal.1 (Nat.le_antisymm (fi_rank_le_two _) this)
    simp [nextOf, hR, isNormal_iff.1 hAn] at h

namespace PutSite
variable {f : Forest} {a b q : Nat} {vq : Value} {l r : List HTree} {t : HTree} {lX rX : List HTree}

theorem lX_ne_nil (ps : PutSite f a b q vq l r t lX rX) {l0 : List HTree} {P : HTree} (el : l = l0 ++ [P]) :
    lX ≠ [] := by
  rcases ps.left with (⟨e1, _⟩ | ⟨_, _, l1, P', _, e2, _, _⟩) | ⟨_, _, _, _, l1, x', _, _, _, e2, _⟩
  · rw [el] at e1; simp at e1
  · rw [e2]; simp
  · rw [e2]; simp

/-- **xot's last step when the replaced node had a next sibling** `N`: the node `N`
    is consolidated with whatever stands before it — the text node that took in the replacing
    text, also when that is not the former left neighbour of the replaced node (which may have been
    merged away when the replacing node left).  Together with `mergeNew` that is `mergeNew3`. -/
theorem final_next (ps : PutSite f a b q vq l r t lX rX) (ht : t.handle = b) (hlX : lX ≠ [])
    {N : HTree} {r0 : List HTree} (er : r = N :: r0) :
    (((replMid f a b q t).mergeNewAt q b).removeConsolidate
        (((replMid f a b q t).mergeNewAt q b).prevSibling N.handle) (some N.handle)).1 =
      (replMid f a b q t).mergeNew3At q b := by
  subst ht
  cases hc : f.consolidation with
  | false =>
    have cX : (replMid f a t.handle q t).consolidation = false := by rw [replMid_consolidation]; exact hc
    have c2 := cons2 f a t.handle q t
    rw [hc] at c2
    rw [Forest.removeConsolidate_off c2, Forest.mergeNewAt_off cX, Forest.mergeNew3At_off cX]
  | true =>
    have cX : (replMid f a t.handle q t).consolidation = true := by rw [replMid_consolidation]; exact hc
    have c2 := cons2 f a t.handle q t
    rw [hc] at c2
    have s2 := ps.site2 hc
    obtain ⟨tl, tr⟩ := ps.tops rfl
    obtain ⟨l1, x', elX⟩ : ∃ l1 x', lX = l1 ++ [x'] := by
      rcases List.eq_nil_or_concat lX with e | ⟨l1, x', e⟩
      · exact absurd e hlX
      · exact ⟨l1, x', by rw [e, List.concat_eq_append]⟩
    rcases ps.right with ⟨e1, _⟩ | ⟨N0, r0', N', r1, e1, erX, hN, hNt⟩
    · rw [er] at e1; cases e1
    · have eN : N0 = N := by
        rw [er] at e1
        injection e1 with h _
        exact h.symm
      subst eN
      subst elX erX
      have hl1 : ∀ k ∈ l1, k.handle ≠ t.handle := fun k hk => tl k (by simp [hk])
      have hx't : x'.handle ≠ t.handle := tl x' (by simp)
      have eM : (l1 ++ [x']) ++ t :: N' :: r1 = l1 ++ x' :: t :: N' :: r1 := by simp
      have hleafN : ∀ k ∈ N' :: r1, k.value.isText = true → k.kids = [] := ps.leafR
      rw [Forest.mergeNew3At_on cX, ← hN]
      by_cases hb : x'.value.isText = true ∧ t.value.isText = true
      · -- the replacing text has been merged into the text node before it
        obtain ⟨s, hs⟩ := text_of_isText hb.1
        obtain ⟨v, hv⟩ := text_of_isText hb.2
        rw [eM, mergeNew_mid_left hs hv l1 (N' :: r1) hl1 hx't] at s2
        by_cases hNt' : N'.value.isText = true
        · obtain ⟨w, hw⟩ := text_of_isText hNt'
          rw [prevStep_merge s2 c2 (setValue_value _ _) hw hleafN, Forest.mergeNewAt_on cX, Forest.editAt_editAt]
          apply ps.site.congr
          simp only [Function.comp]
          rw [eM, mergeNew3_mid (N' :: r1) l1 hl1 hx't, joinLeft_text hs hv]
          simp only [Option.map_some, Option.getD_some]
          rw [absorbNext_cons, joinLeft_text (setValue_value _ _) hw]
          rfl
        · rw [prevStep_noop s2 hleafN (fun h => hNt' h.2), Forest.mergeNewAt_on cX]
          apply ps.site.congr
          rw [eM, mergeNew_mid (N' :: r1) l1 hl1 hx't, mergeNew3_mid (N' :: r1) l1 hl1 hx't, joinLeft_text hs hv]
          simp only [Option.map_some, Option.getD_some]
          rw [absorbNext_cons, joinLeft_none (fun h => hNt' h.2)]
          rfl
      · -- the replacing node stands behind its left neighbour, unmerged: nothing left to do
        have hspec : (replMid f a t.handle q t).editAt (some q) (mergeNew3 t.handle) =
            (replMid f a t.handle q t).mergeNewAt q t.handle := by
          rw [Forest.mergeNewAt_on cX]
          apply ps.site.congr
          rw [eM, mergeNew_mid (N' :: r1) l1 hl1 hx't, mergeNew3_mid (N' :: r1) l1 hl1 hx't, joinLeft_none hb]
          rfl
        rw [hspec]
        rw [eM, mergeNew_mid_right hb l1 (N' :: r1) hl1 hx't] at s2
        by_cases hb2 : t.value.isText = true ∧ N'.value.isText = true
        · obtain ⟨u, hu⟩ := text_of_isText hb2.1
          obtain ⟨w, hw⟩ := text_of_isText hb2.2
          rw [mergeNewHead_text hu hw] at s2
          have := prevStep_noop s2 (fun k hk hkt => by
            rcases List.mem_cons.1 hk with rfl | hk
            · rw [setValue_kids]; exact hleafN N' (by simp) hb2.2
            · exact hleafN k (List.mem_cons_of_mem _ hk) hkt) (fun h => hb ⟨h.1, hb2.1⟩)
          rw [setValue_handle] at this
          exact this
        · rw [mergeNewHead_other hb2] at s2
          rw [← eM] at s2
          exact prevStep_noop s2 hleafN hb2

/-- The replaced node was the last child: after `mergeNew` nothing is left to do (`mergeNew3`). -/
theorem final_last (ps : PutSite f a b q vq l r t lX rX) (ht : t.handle = b) (er : r = []) :
    (replMid f a b q t).mergeNewAt q b = (replMid f a b q t).mergeNew3At q b := by
  refine ps.final_none ht (fun x' N' _ hN' => ?_)
  rcases ps.right with ⟨_, erX⟩ | ⟨N0, r0', N', r1, e1, _, _, _⟩
  · rw [erX] at hN'; cases hN'
  · rw [er] at e1; cases e1

/-- The pair merge of the two former neighbours of the replaced node after `mergeNew` is `mergeNew3`
    — outside the corner (`mergeK_eq_mergeP`), as forests. -/
theorem pairK_eq_pairP (ps : PutSite f a b q vq l r t lX rX) (ht : t.handle = b)
    (hcorner : ∀ u x P N r0, l = u ++ x :: t :: [P] → r = N :: r0 → f.consolidation = true →
      x.value.isText = true → P.value.isText = true → ¬ (t.value.isText = true ∧ N.value.isText = true)) :
    ((replMid f a b q t).mergeNewAt q b).mergeLeftAt (some q)
      (l.getLast?.map (·.handle), r.head?.map (·.handle)) = (replMid f a b q t).mergeNew3At q b := by
  cases hc : f.consolidation with
  | false =>
    have cX : (replMid f a b q t).consolidation = false := by rw [replMid_consolidation]; exact hc
    rw [Forest.mergeNewAt_off cX, Forest.mergeLeftAt_off cX, Forest.mergeNew3At_off cX]
  | true =>
    have cX : (replMid f a b q t).consolidation = true := by rw [replMid_consolidation]; exact hc
    have c2 : ((replMid f a b q t).mergeNewAt q b).consolidation = true := by
      rw [PutSite.cons2]; exact hc
    rw [mergeLeftAt_eq_adjOpt c2, Forest.mergeNewAt_on cX, Forest.editAt_editAt, Forest.mergeNew3At_on cX]
    apply ps.site.congr
    simp only [Function.comp]
    exact ps.mergeK_eq_mergeP ht hcorner

end PutSite

/-- **replace**, pair reading as the property demands it: every forest with the invariant, every
    geometry. -/
theorem replace_pair {f : Forest} {a b : Nat} (inv : f.Inv) (hok : (f.replace a b).2 = .ok) :
    (f.replace a b).1 = specReplaceP a b f := by
  obtain ⟨q, vq, l, A, r, t, ra, h⟩ := replace_unpack inv hok
  unfold specReplaceP
  rcases h with ⟨hadj, heq⟩ | ⟨⟨h1, h2⟩, heq⟩
  · rw [heq, ra.adjacent_true hadj, if_pos rfl]
    exact remove_pair inv (Forest.isLive_of_get? ra.live_a)
  · rw [ra.adjacent_false h1 h2]
    simp only [Bool.false_eq_true, if_false]
    rw [ra.hgb, Forest.parent?_of_ctx? ra.ctx_a]
    show (f.replace a b).1 = (replMid f a b q t).mergeNew3At q b
    obtain ⟨lX, rX, ps⟩ := ra.putSite inv h1 h2
    have hord : kidsOrdered (l ++ A :: r) = true := (validTree_node (ra.sq.valid inv.valid)).2.1
    cases hp : prevOf l A with
    | none =>
      rw [hp] at heq
      simp only at heq
      rw [heq] at hok ⊢
      rw [ra.first_eq inv hp h1 h2 hok]
      -- the raw left neighbour, if any, is not a text node: nothing but `mergeNew` happens
      have hnt : ∀ P, l.getLast? = some P → P.value.isText = false := by
        intro P hP
        obtain ⟨ln, _⟩ := split_of_no_prev hord ra.hAn hp
        have hn := ln P (List.mem_of_getLast? hP)
        cases hPt : P.value.isText with
        | false => rfl
        | true => rw [Forest.normal_of_isText hPt] at hn; cases hn
      refine ps.final_none ra.hb (fun x' N' hx' _ hh => ?_)
      rw [ps.left_not_text hnt x' hx'] at hh
      cases hh.1
    | some p =>
      rw [hp] at heq
      simp only at heq
      rcases hia : (f.editAt (some q) (dropTop a)).insertAfter p b with ⟨f2, res⟩
      rw [hia] at heq
      have hres : res = .ok := by
        cases res with
        | ok => rfl
        | err e => rw [heq] at hok; cases hok
        | panic => rw [heq] at hok; cases hok
      subst hres
      simp only at heq
      have hok1 : ((f.editAt (some q) (dropTop a)).insertAfter p b).2 = .ok := by rw [hia]
      have hf2 := ra.after_eq inv hp h1 h2 hok1
      rw [hia] at hf2
      simp only at hf2
      subst hf2
      obtain ⟨l2, P, el, _, _⟩ := prevOf_eq_some hp
      cases hn : nextOf r A with
      | none =>
        rw [hn] at heq
        simp only at heq
        rw [heq]
        exact ps.final_last ra.hb (nextOf_none_nil hord ra.hAn hn)
      | some n =>
        rw [hn] at heq
        simp only at heq
        rw [heq]
        obtain ⟨N, r0, er, hN, _⟩ := nextOf_eq_some hn
        subst hN
        exact ps.final_next ra.hb (ps.lX_ne_nil el) er

/-- The last step of `replace` (`remove_consolidate(previous_sibling(next), next)`) and
    the consolidation of the former left neighbour `p` of the replaced node with its next sibling
    give the same forest, unless `p` has been merged away and the replacing text node stands
    between two text nodes. -/
theorem replace_last_eq_old {f : Forest} {a b q : Nat} {vq : Value} {l : List HTree} {A : HTree}
    {r : List HTree} {t : HTree} (ra : ReplArgs f a b q vq l A r t) (inv : f.Inv)
    (h1 : prevOf l A ≠ some b) (h2 : nextOf r A ≠ some b) {p : Nat} (hp : prevOf l A = some p)
    {f2 : Forest} (hia : (f.editAt (some q) (dropTop a)).insertAfter p b = (f2, .ok))
    (hcorner : ∀ u x P N r0, l = u ++ x :: t :: [P] → r = N :: r0 → f.consolidation = true →
      x.value.isText = true → P.value.isText = true → ¬ (t.value.isText = true ∧ N.value.isText = true)) :
    (match nextOf r A with
     | some n => (f2.removeConsolidate (f2.prevSibling n) (some n)).1
     | none => f2) = (f2.removeConsolidate (some p) (f2.nextSibling p)).1 := by
  obtain ⟨lX, rX, ps⟩ := ra.putSite inv h1 h2
  have hord : kidsOrdered (l ++ A :: r) = true := (validTree_node (ra.sq.valid inv.valid)).2.1
  have hleaft : t.value.isText = true → t.kids = [] := leaf_of_text inv.valid ra.hgb
  have hok1 : ((f.editAt (some q) (dropTop a)).insertAfter p b).2 = .ok := by rw [hia]
  have hf2 := ra.after_eq inv hp h1 h2 hok1
  rw [hia] at hf2
  simp only at hf2
  subst hf2
  obtain ⟨l2, P, el, hP, _⟩ := prevOf_eq_some hp
  subst hP
  rw [ps.final_after ra.hb hleaft el, ps.pairK_eq_pairP ra.hb hcorner]
  cases hn : nextOf r A with
  | none => exact ps.final_last ra.hb (nextOf_none_nil hord ra.hAn hn)
  | some n =>
    obtain ⟨N, r0, er, hN, _⟩ := nextOf_eq_some hn
    subst hN
    exact ps.final_next ra.hb (ps.lX_ne_nil el) er

end XotModel
