/-
  C17: every recorded span and every error span of a parse satisfies `Q`, for any property `Q` of spans that
  holds of what the tokens offer (`Token.SpansIn Q`) and of every possible text run (`TextRuns Q`):
  `SpanAll.build_q`. With `Q := Span.EndsIn P` this is C17_boundaries (`build_boundaries`) and C17_inside /
  C17_errors (`build_good`), with `Q := Span.Ord` it is C17_ordered (`build_ord`).
-/
import XotModel.Lemmas.BasicFacts
import XotModel.Model.TokenShape
import XotModel.Lemmas.ParseContentErr
import XotModel.Lemmas.ParseOps
import XotModel.Model.Parse

/-! ## Any property of spans; end points (C17_boundaries) -/

namespace XotModel

/-- Both end points satisfy `P`. -/
def Span.EndsIn (P : Nat → Prop) (sp : Span) : Prop := P sp.start ∧ P sp.stop

/-- Every char boundary of the slice (its start, its end, and every position between two of its
    characters) satisfies `P`. -/
def StrSpan.Inner (P : Nat → Prop) (s : StrSpan) : Prop :=
  ∀ pre suf, s.text = pre ++ suf → P (s.start + strLen pre)

theorem StrSpan.Inner.start {P : Nat → Prop} {s : StrSpan} (h : s.Inner P) : P s.start := by
  have := h [] s.text rfl; simpa [strLen] using this

theorem StrSpan.Inner.stop {P : Nat → Prop} {s : StrSpan} (h : s.Inner P) : P s.stop := by
  have := h s.text [] (by simp); simpa [StrSpan.stop] using this

/-- Every span the token carries is `Inner P`. -/
def Token.Inner (P : Nat → Prop) : Token → Prop
  | .declaration v e _ sp => v.Inner P ∧ (∀ x, e = some x → x.Inner P) ∧ sp.Inner P
  | .pi t c sp => t.Inner P ∧ (∀ x, c = some x → x.Inner P) ∧ sp.Inner P
  | .comment t sp => t.Inner P ∧ sp.Inner P
  | .dtdStart sp => sp.Inner P
  | .emptyDtd sp => sp.Inner P
  | .entityDecl sp => sp.Inner P
  | .dtdEnd sp => sp.Inner P
  | .elementStart p l sp => p.Inner P ∧ l.Inner P ∧ sp.Inner P
  | .attribute p l v sp => p.Inner P ∧ l.Inner P ∧ v.Inner P ∧ sp.Inner P
  | .elementEnd (.close p l) sp => p.Inner P ∧ l.Inner P ∧ sp.Inner P
  | .elementEnd _ sp => sp.Inner P
  | .text t => t.Inner P
  | .cdata t sp => t.Inner P ∧ sp.Inner P

theorem StrSpan.span_endsIn {P : Nat → Prop} {s : StrSpan} (h : s.Inner P) : s.span.EndsIn P :=
  ⟨h.start, h.stop⟩

theorem fromPrefixName_endsIn {P : Nat → Prop} {p n : StrSpan} (hp : p.Inner P) (hn : n.Inner P) :
    (Span.fromPrefixName p n).EndsIn P := by
  unfold Span.fromPrefixName
  split
  · exact ⟨hn.start, hn.stop⟩
  · exact ⟨hp.start, hn.stop⟩

/-- The positions an error of `parse_content` carries are char boundaries of the content:
    `done` is the part already consumed (`pos` = its byte length). -/
def ContentErr.onBoundary (base : Nat) (full : Str) : ContentErr → Prop
  | .unclosed _ p => ∃ pre suf, full = pre ++ suf ∧ p = base + strLen pre
  | .invalid _ a b => (∃ pre suf, full = pre ++ suf ∧ a = base + strLen pre) ∧
      (∃ pre suf, full = pre ++ suf ∧ b = base + strLen pre)

theorem parseGo_error_boundary {attr : Bool} {base : Nat} (done : Str) {s : Str} {e : ContentErr}
    (h : parseContentGo attr base (strLen done) s = .error e) : e.onBoundary base (done ++ s) := by
  obtain ⟨pre, rest, rfl, ⟨_, rfl⟩ | ⟨ent, rest', hsp, _, rfl⟩⟩ := parseGo_error_at attr base _ s _ e rfl h
  · exact ⟨done ++ pre, '&' :: rest, (List.append_assoc ..).symm, by rw [Lex.strLen_app]⟩
  · refine ⟨⟨done ++ pre, '&' :: rest, (List.append_assoc ..).symm, by rw [Lex.strLen_app]⟩,
      ⟨done ++ pre ++ '&' :: (ent ++ [';']), rest', ?_, ?_⟩⟩
    · rw [(splitSemi_spec hsp).1]; simp
    · rw [Lex.strLen_app, Lex.strLen_app, strLen_cons, Lex.strLen_app]; simp [strLen, utf8Len]; omega

theorem contentErr_endsIn {P : Nat → Prop} {attr : Bool} {v : StrSpan} {e : ContentErr} (hv : v.Inner P)
    (h : parseContentGo attr v.start 0 v.text = .error e) : (ParseErr.ofContent e).span.EndsIn P := by
  have hb := parseGo_error_boundary (base := v.start) [] (by simpa [strLen] using h)
  simp only [List.nil_append] at hb
  cases e with
  | unclosed t p =>
    obtain ⟨pre, suf, h1, h2⟩ := hb
    have := hv pre suf h1
    simp only [ParseErr.ofContent, ParseErr.span, Span.EndsIn]
    rw [h2]; exact ⟨this, this⟩
  | invalid t a b =>
    obtain ⟨⟨pre, suf, h1, h2⟩, ⟨pre', suf', h1', h2'⟩⟩ := hb
    simp only [ParseErr.ofContent, ParseErr.span, Span.EndsIn]
    rw [h2, h2']; exact ⟨hv pre suf h1, hv pre' suf' h1'⟩

/-- The character-data slice of a text / CDATA token. -/
def Token.textSpan? : Token → Option StrSpan
  | .text t => some t
  | .cdata t _ => some t
  | _ => none

/-! ### Name resolution and the attribute loop, for any property `Q` of spans -/

/-- The error of a failed name resolution carries the span of the prefix. -/
theorem elementNameId_err_span {Q : Span → Prop} {env env' : Env} {stack : NsStack} {pfx name : Str} {sp : Span}
    {e : ParseErr} (hs : Q sp) (h : elementNameId env stack pfx name sp = .err e env') : Q e.span := by
  rcases elementNameId_cases env stack pfx name sp with ⟨_, _, h'⟩ | ⟨_, h'⟩
  · cases h'.symm.trans h
  · cases h'.symm.trans h; exact hs

theorem attributeNameId_err_span {Q : Span → Prop} {env env' : Env} {stack : NsStack} {pfx name : Str} {sp : Span}
    {e : ParseErr} (hs : Q sp) (h : attributeNameId env stack pfx name sp = .err e env') : Q e.span := by
  rw [attributeNameId_eq] at h
  split at h
  · cases h
  · exact elementNameId_err_span hs h

/-- Result of the attribute loop: the error span, or else the collected spans, are among the spans
    the attributes carry. -/
theorem addAttributes_spans {Q : Span → Prop} (stack : NsStack) (node : Path) (abs : List AttributeBuilder) :
    ∀ (st : AttrLoop), (∀ ab ∈ abs, Q ab.nameSpan ∧ Q ab.valueSpan ∧ Q ab.prefixSpan) →
      (∀ a ∈ st.aspans, Q a.2.1 ∧ Q a.2.2) →
      match addAttributes stack node st abs with
      | .ok st' => ∀ a ∈ st'.aspans, Q a.2.1 ∧ Q a.2.2
      | .err e _ => Q e.span
      | .panic => True := by
  induction abs with
  | nil => intro st _ hs; exact hs
  | cons ab rest ih =>
    intro st hab hs
    obtain ⟨hab0, habr⟩ := List.forall_mem_cons.1 hab
    simp only [addAttributes]
    cases hn : attributeNameId st.env stack ab.pfx ab.name ab.prefixSpan with
    | panic => trivial
    | err e env => exact attributeNameId_err_span hab0.2.2 hn
    | ok r =>
      obtain ⟨env1, nameId⟩ := r
      simp only
      by_cases hrep : st.seenNames.contains nameId = true
      · simp only [hrep, if_true]
        exact hab0.1
      · simp only [hrep]
        by_cases hdup : (nameId == Env.xmlIdName && st.seenIds.contains (xmlIdValue nameId ab.value)) = true
        · simp only [hdup, if_true]
          exact hab0.2.1
        · simp only [hdup]
          refine ih _ habr ?_
          intro a ha
          rcases List.mem_append.1 ha with ha | ha
          · exact hs a ha
          · cases List.mem_singleton.1 ha
            exact ⟨hab0.1, hab0.2.1⟩

/-- An error of the top-level scan carries a recorded span. -/
theorem topLevelScan_err_span {Q : Span → Prop} {spans : SpanMap} (h : ∀ e ∈ spans, Q e.2) (ks : List Tree) :
    ∀ (i : Nat) (elems : List Nat) (e : ParseErr), topLevelScan spans i ks elems = .err e → Q e.span := by
  induction ks with
  | nil => intro i elems e he; cases he
  | cons k rest ih =>
    intro i elems e he
    simp only [topLevelScan] at he
    split at he
    · exact ih _ _ _ he
    · split at he
      · rename_i sp hg
        cases he
        exact h _ (lookup_mem hg)
      · cases he
    · exact ih _ _ _ he

/-! ### Epilogues -/

/-- The epilogues report a recorded span or the end of the source, and keep the recorded spans: what holds
    of those results (`R`) holds of the result. -/
theorem finish_spans {Q : Span → Prop} {R : BuildResult → Prop} {b : Builder} (h : ∀ e ∈ b.spans, Q e.2)
    {len : Nat} (hlen : Q ⟨len, len⟩) (hok : ∀ p : Parsed, (∀ e ∈ p.spans, Q e.2) → R (.ok p))
    (herr : ∀ e env, Q e.span → R (.err e env)) (hpanic : R .panic) (m : Mode) :
    R (match m with | .document => b.finishDocument len | .fragment => b.finishFragment) := by
  have hun : R b.unclosed := by
    unfold Builder.unclosed
    split
    · rename_i sp hg; exact herr _ _ (h _ (lookup_mem hg))
    · exact hpanic
  cases m with
  | document =>
    simp only [Builder.finishDocument]
    split
    · split
      · exact hpanic
      · rename_i e he
        exact herr _ _ (topLevelScan_err_span h _ _ _ _ he)
      · split
        · exact herr _ _ hlen
        · exact hok _ h
        · split
          · rename_i sp hg; exact herr _ _ (h _ (lookup_mem hg))
          · exact hpanic
    · exact hun
  | fragment =>
    simp only [Builder.finishFragment]
    split
    · exact hok _ h
    · exact hun

/-! ### The walk through `_parse`, for any property `Q` of spans -/

namespace SpanAll

/-- An error of decoding `v` carries a `Q`-span. -/
def ContentIn (Q : Span → Prop) (attr : Bool) (v : StrSpan) : Prop :=
  ∀ e, parseContentGo attr v.start 0 v.text = .error e → Q (ParseErr.ofContent e).span

/-- Every span the builder can take from the token (to record it or to report it) is a `Q`-span. -/
def Token.SpansIn (Q : Span → Prop) : Token → Prop
  | .declaration v _ _ _ => Q v.span
  | .pi t c _ => Q t.span ∧ ∀ x, c = some x → Q x.span
  | .comment t _ => Q t.span
  | .dtdStart sp => Q sp.span
  | .emptyDtd sp => Q sp.span
  | .entityDecl sp => Q sp.span
  | .dtdEnd sp => Q sp.span
  | .elementStart p l _ => Q (Span.fromPrefixName p l) ∧ Q p.span ∧ (p.bareColon = true → Q ⟨p.start, l.stop⟩)
  | .attribute p l v _ => Q (Span.fromPrefixName p l) ∧ Q p.span ∧ (p.bareColon = true → Q ⟨p.start, l.stop⟩) ∧
      Q v.span ∧ ContentIn Q true v
  | .elementEnd (.close p l) sp => Q (Span.fromPrefixName p l) ∧ Q p.span ∧
      (p.bareColon = true → Q ⟨p.start, l.stop⟩) ∧ Q sp.span
  | .elementEnd _ sp => Q sp.span
  | .text t => Q t.span ∧ ContentIn Q false t
  | .cdata t _ => Q t.span

/-- From the start of a character-data token to the end of the same or a later one is a `Q`-span. -/
def TextRuns (Q : Span → Prop) (ts : List Token) : Prop :=
  ts.Pairwise (fun a b => ∀ sa sb, a.textSpan? = some sa → b.textSpan? = some sb → Q ⟨sa.start, sb.stop⟩)

variable {Q : Span → Prop}

def AllQ (Q : Span → Prop) (m : SpanMap) : Prop := ∀ e ∈ m, Q e.2

/-- Every text span recorded so far, extended to the end of any coming character-data token, is a `Q`-span. -/
def TextBefore (Q : Span → Prop) (m : SpanMap) (rest : List Token) : Prop :=
  ∀ e ∈ m, e.1.kind = .text → ∀ t ∈ rest, ∀ sb, t.textSpan? = some sb → Q ⟨e.2.start, sb.stop⟩

/-- `m'` is `m` plus / minus entries, every new entry a `Q`-span under a key that is not a text key. -/
def NonTextExt (Q : Span → Prop) (m m' : SpanMap) : Prop := ∀ e ∈ m', e ∈ m ∨ (e.1.kind ≠ .text ∧ Q e.2)

theorem NonTextExt.refl (m : SpanMap) : NonTextExt Q m m := fun _ h => Or.inl h

theorem NonTextExt.trans {a b c : SpanMap} (h1 : NonTextExt Q a b) (h2 : NonTextExt Q b c) : NonTextExt Q a c := by
  intro e he
  rcases h2 e he with h | h
  · exact h1 e h
  · exact Or.inr h

theorem NonTextExt.add (m : SpanMap) {k : SpanKey} {s : Span} (hk : k.kind ≠ .text) (hs : Q s) :
    NonTextExt Q m (m.add k s) := by
  intro e he
  simp only [SpanMap.add, List.mem_cons, List.mem_filter] at he
  rcases he with rfl | ⟨he, _⟩
  · exact Or.inr ⟨hk, hs⟩
  · exact Or.inl he

theorem NonTextExt.addAttributeSpans (node : Path) (l : List (Nat × Span × Span)) :
    ∀ (m : SpanMap), (∀ a ∈ l, Q a.2.1 ∧ Q a.2.2) → NonTextExt Q m (m.addAttributeSpans node l) := by
  induction l with
  | nil => intro m _; exact NonTextExt.refl m
  | cons a rest ih =>
    intro m ha
    obtain ⟨n, s1, s2⟩ := a
    simp only [SpanMap.addAttributeSpans]
    have := ha (n, s1, s2) (by simp)
    exact ((NonTextExt.add m (by simp) this.1).trans (NonTextExt.add _ (by simp) this.2)).trans
      (ih _ (fun x hx => ha x (by simp [hx])))

theorem TextBefore.tail {m : SpanMap} {t : Token} {rest : List Token} (h : TextBefore Q m (t :: rest)) :
    TextBefore Q m rest :=
  fun e he hk t' ht' => h e he hk t' (by simp [ht'])

/-- Recording one more character-data part `s`, the head of the remaining tokens. -/
theorem extendText_all {m : SpanMap} {rest : List Token} (node : Path) (s : StrSpan)
    (ho : AllQ Q m) (hs : Q s.span) (hhead : ∀ e ∈ m, e.1.kind = .text → Q ⟨e.2.start, s.stop⟩)
    (ht : TextBefore Q m rest)
    (hlater : ∀ t ∈ rest, ∀ sb, t.textSpan? = some sb → Q ⟨s.start, sb.stop⟩) :
    AllQ Q (m.extendText node s.span) ∧ TextBefore Q (m.extendText node s.span) rest := by
  unfold SpanMap.extendText
  split
  · rename_i ex hg
    have hmem := lookup_mem hg
    constructor
    · intro e he
      simp only [SpanMap.add, List.mem_cons, List.mem_filter] at he
      rcases he with rfl | ⟨he, _⟩
      · exact hhead (⟨node, .text⟩, ex) hmem rfl
      · exact ho e he
    · intro e he hk
      simp only [SpanMap.add, List.mem_cons, List.mem_filter] at he
      rcases he with rfl | ⟨he, _⟩
      · exact ht (⟨node, .text⟩, ex) hmem rfl
      · exact ht e he hk
  · constructor
    · intro e he
      simp only [SpanMap.add, List.mem_cons, List.mem_filter] at he
      rcases he with rfl | ⟨he, _⟩
      · exact hs
      · exact ho e he
    · intro e he hk
      simp only [SpanMap.add, List.mem_cons, List.mem_filter] at he
      rcases he with rfl | ⟨he, _⟩
      · exact hlater
      · exact ht e he hk

/-! ### Builder invariant -/

/-- Every span held by the pending start tag is a `Q`-span. -/
def EbQ (Q : Span → Prop) (eb : ElementBuilder) : Prop :=
  Q eb.span ∧ Q eb.prefixSpan ∧ ∀ ab ∈ eb.attributes, Q ab.nameSpan ∧ Q ab.valueSpan ∧ Q ab.prefixSpan

/-- The builder invariant of the span theorems: every span recorded so far is a `Q`-span, and so is every span
    the builder can still make of them (`TextBefore`) or of the pending start tag (`EbQ`). -/
def Inv (Q : Span → Prop) (b : Builder) (rest : List Token) : Prop :=
  AllQ Q b.spans ∧ TextBefore Q b.spans rest ∧ ∀ eb, b.eb = some eb → EbQ Q eb

/-- What a step must deliver: the new builder keeps the invariant / the error span is a `Q`-span. -/
def StepQ (Q : Span → Prop) (rest : List Token) : Step Builder → Prop
  | .ok b' => Inv Q b' rest
  | .err e _ => Q e.span
  | .panic => True

theorem inv_new (env : Env) (ts : List Token) : Inv Q (Builder.new env) ts :=
  ⟨fun e he => by simp [Builder.new] at he, fun e he => by simp [Builder.new] at he,
   fun eb h => by simp [Builder.new] at h⟩

/-- A step that changes the span map only by non-text `Q`-entries. -/
theorem inv_ext {b b' : Builder} {rest : List Token} (h : Inv Q b rest)
    (hm : NonTextExt Q b.spans b'.spans) (he : ∀ eb, b'.eb = some eb → EbQ Q eb) : Inv Q b' rest :=
  ⟨fun e he' => (hm e he').elim (h.1 e) (·.2),
   fun e he' hk => (hm e he').elim (fun hin => h.2.1 e hin hk) (fun hn => absurd hk hn.1), he⟩

theorem prefix_q {b : Builder} {rest : List Token} (h : Inv Q b rest) (p : Str) {u : StrSpan} {sp : Span}
    (hu : ContentIn Q true u) (hsp : Q sp) : StepQ Q rest (b.prefix p u sp) := by
  unfold Builder.prefix
  split
  · rename_i e he
    exact hu e he
  · split
    · exact hsp
    dsimp only
    split
    · trivial
    · rename_i eb heb
      split
      · exact hsp
      · refine inv_ext h (NonTextExt.refl _) (fun eb' he => ?_)
        cases he
        exact h.2.2 eb heb

theorem attribute_q {b : Builder} {rest : List Token} (h : Inv Q b rest) {p l v : StrSpan}
    (hn : Q (Span.fromPrefixName p l)) (hp : Q p.span) (hv : Q v.span) (hc : ContentIn Q true v) :
    StepQ Q rest (b.attribute p l v) := by
  unfold Builder.attribute
  split
  · trivial
  · rename_i eb heb
    split
    · exact hn
    · split
      · rename_i e he
        exact hc e he
      · refine inv_ext h (NonTextExt.refl _) (fun eb' he => ?_)
        cases he
        obtain ⟨h1, h2, h3⟩ := h.2.2 eb heb
        refine ⟨h1, h2, fun ab hab' => ?_⟩
        simp only [List.mem_append, List.mem_singleton] at hab'
        rcases hab' with hab' | rfl
        · exact h3 ab hab'
        · exact ⟨hn, hv, hp⟩

theorem openElement_q {b : Builder} {rest : List Token} (h : Inv Q b rest) : StepQ Q rest b.openElement := by
  unfold Builder.openElement
  split
  · trivial
  · rename_i eb heb
    obtain ⟨h1, h2, h3⟩ := h.2.2 eb heb
    dsimp only
    split
    · trivial
    · rename_i e env he
      exact elementNameId_err_span h2 he
    · rename_i env1 nameId _
      have hl := addAttributes_spans (Q := Q) (eb.namespaces :: b.nsStack) (b.curPath ++ [b.cur.rkids.length])
        eb.attributes { env := env1, seenIds := b.seenIds, idNodes := b.idNodes, seenNames := [], rkids := namespaceKids eb.namespaces, aspans := [] }
        h3 (fun a ha => by simp at ha)
      split
      · trivial
      · rename_i e env he
        rw [he] at hl; exact hl
      · rename_i st hst
        rw [hst] at hl
        refine inv_ext h ?_ (fun eb' he => by simp at he)
        exact (NonTextExt.add _ (by simp) h1).trans (NonTextExt.addAttributeSpans _ _ _ hl)

theorem leave_q {b : Builder} {rest : List Token} (h : Inv Q b rest) (node : Path) {sp : StrSpan} (hs : Q sp.span) :
    StepQ Q rest (b.leave node sp) := by
  unfold Builder.leave Builder.toParent
  cases hpar : b.parents with
  | nil => trivial
  | cons p ps => exact inv_ext h (NonTextExt.add _ (by simp) hs) h.2.2

theorem closeImmediate_q {b : Builder} {rest : List Token} (h : Inv Q b rest) {sp : StrSpan} (hs : Q sp.span) :
    StepQ Q rest (b.closeImmediate sp) := by
  unfold Builder.closeImmediate
  refine leave_q ?_ _ hs
  split
  · exact ⟨h.1, h.2.1, h.2.2⟩
  · exact h

theorem closeElement_q {b : Builder} {rest : List Token} (h : Inv Q b rest) {p l sp : StrSpan}
    (hn : Q (Span.fromPrefixName p l)) (hp : Q p.span) (hs : Q sp.span) : StepQ Q rest (b.closeElement p l sp) := by
  unfold Builder.closeElement
  split
  · trivial
  · rename_i e env he
    exact elementNameId_err_span hp he
  · split
    · exact hn
    · split
      · split
        · exact hn
        · refine leave_q (b := _) ?_ _ hs
          exact ⟨h.1, h.2.1, h.2.2⟩
      · refine leave_q (b := _) ?_ _ hs
        exact ⟨h.1, h.2.1, h.2.2⟩

/-- Text / CDATA: `tok` is the head of the remaining tokens. -/
theorem addText_q {b : Builder} {rest : List Token} (content : Str) (s : StrSpan) (tok : Token)
    (htok : tok.textSpan? = some s) (h : Inv Q b (tok :: rest)) (hs : Q s.span)
    (hlater : ∀ t ∈ rest, ∀ sb, t.textSpan? = some sb → Q ⟨s.start, sb.stop⟩) :
    Inv Q { (b.addText content).1 with
      spans := (b.addText content).1.spans.extendText (b.addText content).2 s.span } rest := by
  obtain ⟨h1, h2⟩ := addText_spans b content
  have hx := extendText_all (m := b.spans) (rest := rest) (b.addText content).2 s h.1 hs
    (fun e he hk => h.2.1 e he hk tok (by simp) s htok) h.2.1.tail hlater
  refine ⟨?_, ?_, fun eb he => h.2.2 eb (by rw [← h2]; exact he)⟩
  · simp only; rw [h1]; exact hx.1
  · simp only; rw [h1]; exact hx.2

theorem stepCore_q {b : Builder} (t : Token) (rest : List Token) (h : Inv Q b (t :: rest)) (ht : Token.SpansIn Q t)
    (hlater : ∀ sa, t.textSpan? = some sa → ∀ t' ∈ rest, ∀ sb, t'.textSpan? = some sb → Q ⟨sa.start, sb.stop⟩) :
    StepQ Q rest (b.stepCore t) := by
  have h' : Inv Q b rest := ⟨h.1, h.2.1.tail, h.2.2⟩
  cases t with
  | «attribute» p l v sp =>
    obtain ⟨hn, hp, _, hv, hc⟩ := ht
    simp only [Builder.stepCore]
    split
    · exact prefix_q h' _ hc hn
    · split
      · exact prefix_q h' _ hc hn
      · exact attribute_q h' hn hp hv hc
  | text t =>
    simp only [Builder.stepCore, Builder.text]
    split
    · rename_i e he
      exact ht.2 e he
    · exact addText_q _ t (.text t) rfl h ht.1 (hlater t rfl)
  | cdata t sp =>
    simp only [Builder.stepCore, Builder.cdata]
    split
    · exact h'
    · exact addText_q _ t (.cdata t sp) rfl h ht (hlater t rfl)
  | elementStart p l sp =>
    refine inv_ext h' (NonTextExt.refl _) (fun eb he => ?_)
    simp only [Builder.element, Option.some.injEq] at he
    subst he
    exact ⟨ht.1, ht.2.1, fun ab hab' => by simp [ElementBuilder.new] at hab'⟩
  | elementEnd e sp =>
    cases e with
    | «open» => exact openElement_q h'
    | close p l => exact closeElement_q h' ht.1 ht.2.1 ht.2.2.2
    | empty =>
      simp only [Builder.stepCore]
      have ho := openElement_q h'
      cases hb : b.openElement with
      | ok b1 => rw [hb] at ho; exact closeImmediate_q ho ht
      | err e env => rw [hb] at ho; exact ho
      | panic => trivial
  | comment t sp =>
    exact inv_ext h' (NonTextExt.add _ (by simp) ht) h'.2.2
  | pi target content sp =>
    simp only [Builder.stepCore]
    split
    · exact ht.1
    refine inv_ext h' ?_ h'.2.2
    simp only [Builder.processingInstruction, Builder.addLeaf]
    cases content with
    | none => exact NonTextExt.add _ (by simp) ht.1
    | some c =>
      exact (NonTextExt.add _ (by simp) ht.1).trans (NonTextExt.add _ (by simp) (ht.2 c rfl))
  | declaration v e s sp =>
    simp only [Builder.stepCore]
    split
    · exact ht
    · exact h'
  | dtdStart sp | dtdEnd sp | emptyDtd sp | entityDecl sp => exact ht

theorem step_q {b : Builder} (t : Token) (rest : List Token) (h : Inv Q b (t :: rest)) (ht : Token.SpansIn Q t)
    (hlater : ∀ sa, t.textSpan? = some sa → ∀ t' ∈ rest, ∀ sb, t'.textSpan? = some sb → Q ⟨sa.start, sb.stop⟩) :
    StepQ Q rest (b.step t) := by
  refine b.step_cases t (fun _ => stepCore_q t rest h ht hlater) ?_
  intro p l hq hp
  rcases Token.qname_elim hq with ⟨v, sp, rfl⟩ | ⟨sp, rfl⟩ | ⟨sp, rfl⟩
  · exact ht.2.2.1 hp
  · exact ht.2.2 hp
  · exact ht.2.2.1 hp

theorem run_q (lexErr : Option Nat) (hlex : ∀ p, lexErr = some p → Q ⟨p, p⟩) (ts : List Token) :
    ∀ {b : Builder}, Inv Q b ts → (∀ t ∈ ts, Token.SpansIn Q t) → TextRuns Q ts →
      match b.run ts lexErr with
      | .ok b' => AllQ Q b'.spans
      | .err e _ => Q e.span
      | .panic => True := by
  induction ts with
  | nil =>
    intro b h _ _
    cases lexErr with
    | none =>
      simp only [Builder.run]
      cases heb : b.eb with
      | some eb => exact (h.2.2 eb heb).1
      | none => exact h.1
    | some p => exact hlex p rfl
  | cons t ts ih =>
    intro b h hab hto
    simp only [Builder.run]
    have hto' := List.pairwise_cons.mp hto
    have hs := step_q t ts h (hab t (by simp)) (fun sa hsa t' ht' sb hsb => hto'.1 t' ht' sa sb hsa hsb)
    cases hb : b.step t with
    | ok b1 =>
      rw [hb] at hs
      exact ih hs (fun x hx => hab x (by simp [hx])) hto'.2
    | err e env => rw [hb] at hs; exact hs
    | panic => trivial

def BuildQ (Q : Span → Prop) : BuildResult → Prop
  | .ok p => AllQ Q p.spans
  | .err e _ => Q e.span
  | .panic => True

/-- Every recorded span and every error span of a parse is a `Q`-span. -/
theorem build_q (m : Mode) (len : Nat) (env : Env) (ts : List Token) (lexErr : Option Nat)
    (hlen : Q ⟨len, len⟩) (hlex : ∀ p, lexErr = some p → Q ⟨p, p⟩)
    (htok : ∀ t ∈ ts, Token.SpansIn Q t) (hto : TextRuns Q ts) : BuildQ Q (build m len env ts lexErr) := by
  unfold build
  have hr := run_q lexErr hlex ts (inv_new env ts) htok hto
  cases hb : (Builder.new env).run ts lexErr with
  | panic => trivial
  | err e env' => rw [hb] at hr; exact hr
  | ok b =>
    rw [hb] at hr
    exact finish_spans hr hlen (fun _ h => h) (fun _ _ h => h) trivial m

end SpanAll

/-! ### End points (C17_boundaries, C17_inside) -/

theorem spansIn_of_inner {P : Nat → Prop} {t : Token} (h : t.Inner P) : SpanAll.Token.SpansIn (Span.EndsIn P) t := by
  cases t with
  | «attribute» p l v sp =>
    exact ⟨fromPrefixName_endsIn h.1 h.2.1, StrSpan.span_endsIn h.1, fun _ => ⟨h.1.start, h.2.1.stop⟩,
      StrSpan.span_endsIn h.2.2.1, fun _ he => contentErr_endsIn h.2.2.1 he⟩
  | elementStart p l sp =>
    exact ⟨fromPrefixName_endsIn h.1 h.2.1, StrSpan.span_endsIn h.1, fun _ => ⟨h.1.start, h.2.1.stop⟩⟩
  | elementEnd e sp =>
    cases e with
    | close p l =>
      exact ⟨fromPrefixName_endsIn h.1 h.2.1, StrSpan.span_endsIn h.1, fun _ => ⟨h.1.start, h.2.1.stop⟩,
        StrSpan.span_endsIn h.2.2⟩
    | «open» => exact StrSpan.span_endsIn h
    | empty => exact StrSpan.span_endsIn h
  | text t => exact ⟨StrSpan.span_endsIn h, fun _ he => contentErr_endsIn h he⟩
  | cdata t sp => exact StrSpan.span_endsIn h.1
  | comment t sp => exact StrSpan.span_endsIn h.1
  | pi t c sp => exact ⟨StrSpan.span_endsIn h.1, fun x hx => StrSpan.span_endsIn (h.2.1 x hx)⟩
  | declaration v e s sp => exact StrSpan.span_endsIn h.1
  | dtdStart sp | dtdEnd sp | emptyDtd sp | entityDecl sp => exact StrSpan.span_endsIn h

theorem textSpan_inner {P : Nat → Prop} {t : Token} {s : StrSpan} (h : t.Inner P) (hs : t.textSpan? = some s) :
    s.Inner P := by
  cases t with
  | text t => cases hs; exact h
  | cdata t sp => cases hs; exact h.1
  | _ => cases hs

theorem textRuns_of_inner {P : Nat → Prop} {ts : List Token} (h : ∀ t ∈ ts, t.Inner P) :
    SpanAll.TextRuns (Span.EndsIn P) ts :=
  List.Pairwise.imp_of_mem (R := fun _ _ => True)
    (fun ha hb _ _ _ hsa hsb => ⟨(textSpan_inner (h _ ha) hsa).start, (textSpan_inner (h _ hb) hsb).stop⟩)
    (List.pairwise_of_forall fun _ _ => trivial)

/-- Every recorded span, or else the error span, has both end points in `P`. -/
def BuildEnds (P : Nat → Prop) : BuildResult → Prop := SpanAll.BuildQ (Span.EndsIn P)

theorem build_ends {P : Nat → Prop} (m : Mode) (len : Nat) (env : Env) (ts : List Token) (lexErr : Option Nat) (hlen : P len)
    (hin : ∀ t ∈ ts, t.Inner P) (hlex : ∀ p, lexErr = some p → P p) :
    BuildEnds P (build m len env ts lexErr) :=
  SpanAll.build_q m len env ts lexErr ⟨hlen, hlen⟩ (fun p hp => ⟨hlex p hp, hlex p hp⟩)
    (fun t ht => spansIn_of_inner (hin t ht)) (textRuns_of_inner hin)

/-! ### Char boundaries of a source text -/

/-- `i` is a char boundary of `src` (the byte length of a prefix). -/
def IsBoundary (src : Str) (i : Nat) : Prop := ∃ pre suf, src = pre ++ suf ∧ i = strLen pre

/-- The span is a slice of `src`: its text occurs there, starting at its byte offset. -/
def StrSpan.SliceOf (src : Str) (s : StrSpan) : Prop := ∃ a b, src = a ++ s.text ++ b ∧ s.start = strLen a

theorem StrSpan.SliceOf.inner {src : Str} {s : StrSpan} (h : s.SliceOf src) : s.Inner (IsBoundary src) := by
  obtain ⟨a, b, hsrc, hst⟩ := h
  intro pre suf ht
  refine ⟨a ++ pre, suf ++ b, ?_, ?_⟩
  · rw [hsrc, ht]; simp [List.append_assoc]
  · rw [hst, Lex.strLen_app]

/-- `q` holds of every span the token carries. -/
def Token.All (q : StrSpan → Prop) : Token → Prop
  | .declaration v e _ sp => q v ∧ (∀ x, e = some x → q x) ∧ q sp
  | .pi t c sp => q t ∧ (∀ x, c = some x → q x) ∧ q sp
  | .comment t sp => q t ∧ q sp
  | .dtdStart sp => q sp
  | .emptyDtd sp => q sp
  | .entityDecl sp => q sp
  | .dtdEnd sp => q sp
  | .elementStart p l sp => q p ∧ q l ∧ q sp
  | .attribute p l v sp => q p ∧ q l ∧ q v ∧ q sp
  | .elementEnd (.close p l) sp => q p ∧ q l ∧ q sp
  | .elementEnd _ sp => q sp
  | .text t => q t
  | .cdata t sp => q t ∧ q sp

theorem Token.inner_of_all {P : Nat → Prop} {q : StrSpan → Prop} (hq : ∀ s, q s → s.Inner P) :
    ∀ t : Token, t.All q → t.Inner P
  | .declaration v e s sp, h => ⟨hq _ h.1, fun x hx => hq _ (h.2.1 x hx), hq _ h.2.2⟩
  | .pi t c sp, h => ⟨hq _ h.1, fun x hx => hq _ (h.2.1 x hx), hq _ h.2.2⟩
  | .comment t sp, h => ⟨hq _ h.1, hq _ h.2⟩
  | .dtdStart sp, h => hq _ h
  | .emptyDtd sp, h => hq _ h
  | .entityDecl sp, h => hq _ h
  | .dtdEnd sp, h => hq _ h
  | .elementStart p l sp, h => ⟨hq _ h.1, hq _ h.2.1, hq _ h.2.2⟩
  | .attribute p l v sp, h => ⟨hq _ h.1, hq _ h.2.1, hq _ h.2.2.1, hq _ h.2.2.2⟩
  | .elementEnd (.close p l) sp, h => ⟨hq _ h.1, hq _ h.2.1, hq _ h.2.2⟩
  | .elementEnd .open sp, h => hq _ h
  | .elementEnd .empty sp, h => hq _ h
  | .text t, h => hq _ h
  | .cdata t sp, h => ⟨hq _ h.1, hq _ h.2⟩

/-- Every recorded span and every error span of a parse of `src` starts and ends on a char
    boundary of `src`, when every token span is a slice of `src`. -/
theorem build_boundaries (m : Mode) (src : Str) (env : Env) (ts : List Token) (lexErr : Option Nat)
    (hts : ∀ t ∈ ts, t.All (StrSpan.SliceOf src)) (hlex : ∀ p, lexErr = some p → IsBoundary src p) :
    BuildEnds (IsBoundary src) (build m (strLen src) env ts lexErr) :=
  build_ends m (strLen src) env ts lexErr ⟨src, [], by simp, rfl⟩
    (fun t ht => Token.inner_of_all (fun _ h => h.inner) t (hts t ht)) hlex

theorem IsBoundary.le {src : Str} {i : Nat} (h : IsBoundary src i) : i ≤ strLen src := by
  obtain ⟨pre, suf, hs, hi⟩ := h
  rw [hs, Lex.strLen_app, hi]; omega

end XotModel

/-! ## Inside the source

  C17_inside / C17_errors: every span the builder records and every span an error carries has
  both end points in `[0, len]`, provided every token span ends inside the source: the case
  `P i := i ≤ len` of `build_ends`.
-/

namespace XotModel

/-- Both end points lie in `[0, len]`. -/
def Span.InBounds (len : Nat) (sp : Span) : Prop := sp.start ≤ len ∧ sp.stop ≤ len

def SpanMap.AllIn (len : Nat) (m : SpanMap) : Prop := ∀ e ∈ m, e.2.InBounds len

def BuildGood (len : Nat) : BuildResult → Prop
  | .ok p => p.spans.AllIn len
  | .err e _ => e.span.InBounds len
  | .panic => True

/-- A span that ends inside the source has all its char boundaries there. -/
theorem StrSpan.Inside.inner {len : Nat} {s : StrSpan} (h : s.Inside len) : s.Inner (· ≤ len) := by
  intro pre suf ht
  unfold StrSpan.Inside StrSpan.stop at h
  rw [ht, Lex.strLen_app] at h
  omega

theorem Token.Inside.all {len : Nat} : ∀ {t : Token}, t.Inside len → t.All (StrSpan.Inside len)
  | .elementEnd (.close ..) _, h | .elementEnd .open _, h | .elementEnd .empty _, h => h
  | .declaration .., h | .pi .., h | .comment .., h | .dtdStart _, h | .emptyDtd _, h | .entityDecl _, h
  | .dtdEnd _, h | .elementStart .., h | .attribute .., h | .text _, h | .cdata .., h => h

theorem build_good {len : Nat} (m : Mode) (env : Env) (ts : List Token) (lexErr : Option Nat)
    (hin : ∀ t ∈ ts, t.Inside len) (hlex : ∀ p, lexErr = some p → p ≤ len) :
    BuildGood len (build m len env ts lexErr) := by
  have h := build_ends (P := (· ≤ len)) m len env ts lexErr (Nat.le_refl len)
    (fun t ht => Token.inner_of_all (fun _ hs => hs.inner) t (hin t ht).all) hlex
  cases hb : build m len env ts lexErr <;> rw [hb] at h <;> exact h

end XotModel

/-! ## Start before end

  C17_ordered: every recorded span and every error span satisfies `start ≤ end`, provided
  prefix / local-name spans abut the colon (token-shape contract) and the text / CDATA tokens
  come in source order (`TextOrdered`: an earlier part does not start after a later part ends).
-/

namespace XotModel

def Span.Ord (sp : Span) : Prop := sp.start ≤ sp.stop

/-- Character-data tokens come in source order: an earlier one does not start after a later one
    ends. -/
def TextOrdered (ts : List Token) : Prop :=
  ts.Pairwise (fun a b => ∀ sa sb, a.textSpan? = some sa → b.textSpan? = some sb → sa.start ≤ sb.stop)

theorem StrSpan.span_ord (s : StrSpan) : s.span.Ord := by
  simp [StrSpan.span, StrSpan.stop, Span.Ord]

theorem fromPrefixName_ord {p n : StrSpan} (h : Abut p n) : (Span.fromPrefixName p n).Ord := by
  unfold Span.fromPrefixName Span.Ord
  rcases h with h | h
  · simp [h, StrSpan.stop]
  · unfold StrSpan.stop at h ⊢
    split <;> simp only <;> omega

theorem contentErr_ord {attr : Bool} {base : Nat} {s : Str} {e : ContentErr}
    (h : parseContentGo attr base 0 s = .error e) : (ParseErr.ofContent e).span.Ord := by
  have hw := parseGo_error_within h
  cases e with
  | unclosed t p => simp [ParseErr.ofContent, ParseErr.span, Span.Ord]
  | invalid t a b =>
    obtain ⟨_, y, _⟩ := hw
    simpa [ParseErr.ofContent, ParseErr.span, Span.Ord] using y

/-- The span of the `check_qname` error: from the colon to the end of the local name. -/
theorem qnameError_ord {t : Token} {p l : StrSpan} (hab : t.Abuts) (hq : t.qname = some (p, l))
    (hp : p.bareColon = true) : p.start ≤ l.stop := by
  have hA : Abut p l := by
    rcases Token.qname_elim hq with ⟨v, sp, rfl⟩ | ⟨sp, rfl⟩ | ⟨sp, rfl⟩ <;> exact hab
  simp only [StrSpan.bareColon, Bool.and_eq_true, bne_iff_ne, ne_eq] at hp
  rcases hA with ⟨_, h0⟩ | h
  · exact absurd h0 hp.2
  · unfold StrSpan.stop at h ⊢; omega

theorem spansIn_of_abuts {t : Token} (h : t.Abuts) : SpanAll.Token.SpansIn Span.Ord t := by
  cases t with
  | «attribute» p l v sp =>
    exact ⟨fromPrefixName_ord h, p.span_ord, fun hp => qnameError_ord (t := .attribute p l v sp) h rfl hp,
      v.span_ord, fun _ he => contentErr_ord he⟩
  | elementStart p l sp =>
    exact ⟨fromPrefixName_ord h, p.span_ord, fun hp => qnameError_ord (t := .elementStart p l sp) h rfl hp⟩
  | elementEnd e sp =>
    cases e with
    | close p l =>
      exact ⟨fromPrefixName_ord h, p.span_ord,
        fun hp => qnameError_ord (t := .elementEnd (.close p l) sp) h rfl hp, sp.span_ord⟩
    | «open» => exact sp.span_ord
    | empty => exact sp.span_ord
  | text t => exact ⟨t.span_ord, fun _ he => contentErr_ord he⟩
  | cdata t sp => exact t.span_ord
  | comment t sp => exact t.span_ord
  | pi t c sp => exact ⟨t.span_ord, fun x _ => x.span_ord⟩
  | declaration v e s sp => exact v.span_ord
  | dtdStart sp | dtdEnd sp | emptyDtd sp | entityDecl sp => exact sp.span_ord

/-- Every recorded span, or else the error span, satisfies `start ≤ end`. -/
def BuildOrd : BuildResult → Prop := SpanAll.BuildQ Span.Ord

theorem build_ord (m : Mode) (len : Nat) (env : Env) (ts : List Token) (lexErr : Option Nat)
    (hab : ∀ t ∈ ts, t.Abuts) (hto : TextOrdered ts) : BuildOrd (build m len env ts lexErr) :=
  SpanAll.build_q m len env ts lexErr (Nat.le_refl len) (fun p _ => Nat.le_refl p)
    (fun t ht => spansIn_of_abuts (hab t ht)) hto

/-! ### Boolean checker for closed token lists -/

def laterOkB (sa : StrSpan) (rest : List Token) : Bool :=
  rest.all fun t' => match t'.textSpan? with
    | none => true
    | some sb => decide (sa.start ≤ sb.stop)

def textOrderedB : List Token → Bool
  | [] => true
  | t :: rest =>
    (match t.textSpan? with
     | none => true
     | some sa => laterOkB sa rest) && textOrderedB rest

theorem textOrdered_of_B : ∀ ts : List Token, textOrderedB ts = true → TextOrdered ts := by
  intro ts
  induction ts with
  | nil => intro _; exact List.Pairwise.nil
  | cons t rest ih =>
    intro h
    simp only [textOrderedB, Bool.and_eq_true] at h
    refine List.Pairwise.cons ?_ (ih h.2)
    intro t' ht' sa sb hsa hsb
    rw [hsa] at h
    have := h.1
    simp only [laterOkB, List.all_eq_true] at this
    have := this t' ht'
    rw [hsb] at this
    simpa using this

end XotModel
