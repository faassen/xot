/-
  Every structural call keeps all character data, for every forest with the invariant (no
  `Forest.Normal`): the pair merges (`mergeAdj`, `mergeNew`, `mergeNew3`) change no string value
  (`TextKeeping`), so after a move, `element_unwrap` or `replace` every non-text node has exactly
  the string value the unmerged edit (`plainMove`, `plainUnwrap`, `plainReplace`) gives it, and the
  non-text nodes are the same, in the same order.
-/
import XotModel.Lemmas.BasicFacts
import XotModel.Lemmas.FspecString
import XotModel.Lemmas.FspecPairBefore
import XotModel.Lemmas.FspecPairAppend
import XotModel.Lemmas.FspecPairAfter
import XotModel.Lemmas.FspecPairUnwrap
import XotModel.Lemmas.FspecPairReplace

namespace XotModel
open HTree Spec

/-! ### The pair merges keep the text -/

theorem mergeAdj_keeps (a b : Nat) : TextKeeping (mergeAdj a b) :=
  fun L h => (TextMerge.of_mergeAdj a b L).keeps h

theorem mergeNew_keeps (n : Nat) : TextKeeping (mergeNew n) :=
  fun L h => (TextMerge.of_mergeNew n L).keeps h

/-! ### The pair merges at a site of the forest -/

theorem strValues_editAt_keep {X : Forest} (p : Nat) {g : List HTree → List HTree} (hg : TextKeeping g)
    (h : klList X.roots = true) : (X.editAt (some p) g).strValues = X.strValues :=
  (textList_editAt_keep p hg X.roots h).2

theorem strValues_mergeLeftAt {X : Forest} (s : Option Nat) (nb : Option Nat × Option Nat)
    (h : klList X.roots = true) : (X.mergeLeftAt s nb).strValues = X.strValues := by
  unfold Forest.mergeLeftAt
  split
  · split
    · exact strValues_editAt_keep _ (mergeAdj_keeps _ _) h
    · rfl
  · rfl

theorem klList_mergeLeftAt {X : Forest} (s : Option Nat) (nb : Option Nat × Option Nat)
    (h : klList X.roots = true) (hs : ∀ p, s = some p → siteOkList p X.roots = true) :
    klList (X.mergeLeftAt s nb).roots = true := by
  unfold Forest.mergeLeftAt
  split
  · rename_i p a b
    split
    · exact klList_editAt (fun L hL => (mergeAdj_keeps a b L hL).2.2) X.roots h (hs p rfl)
    · exact h
  · exact h

theorem strValues_mergeNewAt {X : Forest} (q n : Nat) (h : klList X.roots = true) :
    (X.mergeNewAt q n).strValues = X.strValues := by
  unfold Forest.mergeNewAt
  split
  · exact strValues_editAt_keep _ (mergeNew_keeps _) h
  · rfl

/-- **String values, pair reading**: the specification `specMoveP` of a move assigns to every
    non-text node the string value the unmerged move assigns (same nodes, same document order),
    for every forest with the invariant — adjacent text nodes allowed. -/
theorem specMoveP_strValues {f : Forest} {dest : Dest} {c : Nat} {t : HTree} {q : Nat} {vq : Value}
    {Lq : List HTree} (inv : f.Inv) (hgc : f.get? c = some t) (sq : SiteAt f q vq Lq) (hqt : q ∉ handles t)
    (hvq : vq.isText = false) (hsite : dest.site f = some q) :
    (specMoveP dest c f).strValues = (plainMove dest c f).strValues := by
  have nd := inv.nodup
  let f0 : Forest := { f with consolidation := false }
  have hocc0 : dest.occupiedBy f0 c = dest.occupiedBy f c := by cases dest <;> rfl
  have hsite0 : dest.site f0 = dest.site f := by cases dest <;> rfl
  unfold plainMove
  cases hocc : dest.occupiedBy f c with
  | true =>
    have h1 : specMoveP dest c f = f := specMoveP_occupied hocc
    have h2 : specMove Keep.earlier dest c f0 = f0 := by unfold specMove; rw [hocc0, hocc]; rfl
    rw [h1, h2]; rfl
  | false =>
    rw [specMoveP_unfold hocc hgc hsite]
    have hgc0 : f0.get? c = some t := hgc
    rw [specMove_unfold (f := f0) (by rw [hocc0]; exact hocc) hgc0 (by rw [hsite0]; exact hsite)]
    have hc0 : ∀ (Z : Forest), Z.consolidation = false → ∀ s, Z.mergeAt Keep.earlier s = Z :=
      fun Z h s => mergeAt_off h Keep.earlier s
    have hpar0 : f0.parent? c = f.parent? c := rfl
    rw [hpar0]
    have e0 : (((f0.editAt (f.parent? c) (dropTop c)).editAt (some q) (dest.insert t)).mergeAt Keep.earlier
        (f.parent? c)).mergeAt Keep.earlier (some q) =
          (f0.editAt (f.parent? c) (dropTop c)).editAt (some q) (dest.insert t) := by
      have hX0 : ((f0.editAt (f.parent? c) (dropTop c)).editAt (some q) (dest.insert t)).consolidation = false := by
        rw [Forest.editAt_consolidation, Forest.editAt_consolidation]
      rw [hc0 _ hX0, hc0 _ hX0]
    rw [e0]
    have eroots : ((f0.editAt (f.parent? c) (dropTop c)).editAt (some q) (dest.insert t)).strValues =
        ((f.editAt (f.parent? c) (dropTop c)).editAt (some q) (dest.insert t)).strValues := by
      cases f.parent? c <;> rfl
    rw [eroots]
    -- leaf property and site conditions
    have hklf : klList f.roots = true := klList_of_valid f.roots inv.valid
    have hklt : kl t = true := klList_find f.roots t hklf hgc
    have htl : t.value.isText = true → t.kids = [] := leaf_of_text inv.valid hgc
    have hsq : siteOkList q f.roots = true :=
      siteOkList_of_find (by simpa [HTree.value] using hvq) f.roots nd sq.kids
    obtain ⟨hklZ, hsqZ, hpoZ⟩ := cut_keeps_leaves inv hgc hsq
    -- after the graft
    have hklX : klList ((f.editAt (f.parent? c) (dropTop c)).editAt (some q) (dest.insert t)).roots = true :=
      klList_editAt (fun L h => klList_insert dest h hklt htl) _ hklZ hsqZ
    have hspoX : ∀ po, f.parent? c = some po →
        siteOkList po ((f.editAt (f.parent? c) (dropTop c)).editAt (some q) (dest.insert t)).roots = true := by
      intro po h
      obtain ⟨h1, h2⟩ := hpoZ po h
      exact siteOkList_editAt (fun L hL => siteOkList_insert po dest hL h2) _ h1
    -- the two pair merges change no string value
    rw [strValues_mergeNewAt q c (klList_mergeLeftAt _ _ hklX hspoX), strValues_mergeLeftAt _ _ hklX]

/-! ### The four moves -/

theorem append_keeps_strValues {f : Forest} {p c : Nat} (inv : f.Inv) (hok : (f.append p c).2 = .ok) :
    (f.append p c).1.strValues = (plainMove (.lastChildOf p) c f).strValues := by
  rw [append_pair inv hok]
  have nd := inv.nodup
  have hsc := Forest.append_ok_check hok
  obtain ⟨vp, Lp, t, hgp, hgc, hpt, hnorm, hndoc, hvp⟩ := Forest.structureCheck_unpack nd hsc
  exact specMoveP_strValues inv hgc ⟨nd, hgp⟩ hpt (isText_false_of_kind hvp) (by simp [Dest.site, Forest.isLive_of_get? hgp])

theorem prepend_keeps_strValues {f : Forest} {p c : Nat} (inv : f.Inv) (hok : (f.prepend p c).2 = .ok) :
    (f.prepend p c).1.strValues = (plainMove (.firstNormalChildOf p) c f).strValues := by
  rw [prepend_pair inv hok]
  have nd := inv.nodup
  have hsc := prepend_ok_check hok
  obtain ⟨vp, Lp, t, hgp, hgc, hpt, hnorm, hndoc, hvp⟩ := Forest.structureCheck_unpack nd hsc
  exact specMoveP_strValues inv hgc ⟨nd, hgp⟩ hpt (isText_false_of_kind hvp) (by simp [Dest.site, Forest.isLive_of_get? hgp])

theorem insertAfter_keeps_strValues {f : Forest} {r c : Nat} (inv : f.Inv)
    (hok : (f.insertAfter r c).2 = .ok) :
    (f.insertAfter r c).1.strValues = (plainMove (.after r) c f).strValues := by
  rw [insertAfter_pair inv hok]
  have nd := inv.nodup
  obtain ⟨hsc, hsr⟩ := insertAfter_ok_checks hok
  obtain ⟨q, vq, A, kr, B, t, sq, ekr, hkrn, hrc, hgc, hqt, hnorm, hndoc, hvq⟩ := sibling_checks_unpack nd hsc hsr
  subst ekr
  exact specMoveP_strValues inv hgc sq hqt hvq (by simp only [Dest.site]; exact Forest.parent?_of_ctx? sq.ctx)

theorem insertBefore_keeps_strValues {f : Forest} {r c : Nat} (inv : f.Inv)
    (hok : (f.insertBefore r c).2 = .ok) :
    (f.insertBefore r c).1.strValues = (plainMove (.before r) c f).strValues := by
  rw [insertBefore_pair inv hok]
  have nd := inv.nodup
  obtain ⟨hsc, hsr⟩ := insertBefore_ok_checks hok
  obtain ⟨q, vq, A, kr, B, t, sq, ekr, hkrn, hrc, hgc, hqt, hnorm, hndoc, hvq⟩ := sibling_checks_unpack nd hsc hsr
  subst ekr
  exact specMoveP_strValues inv hgc sq hqt hvq (by simp only [Dest.site]; exact Forest.parent?_of_ctx? sq.ctx)

end XotModel

/-! ## `element_unwrap` and `replace` -/

namespace XotModel
open HTree Spec

/-- The unmerged unwrap. -/
def plainUnwrap (n : Nat) (f : Forest) : Forest :=
  specUnwrap Keep.earlier n { f with consolidation := false }

/-- The unmerged replace. -/
def plainReplace (a b : Nat) (f : Forest) : Forest :=
  specReplace Keep.earlier a b { f with consolidation := false }

/-! ### The list functions keep the leaf property and the site condition -/

theorem klList_replaceTop_normalKids (n : Nat) {L : List HTree} (h : klList L = true) :
    klList (replaceTop n (fun w => w.kids.filter (fun k => k.value.isNormal)) L) = true := by
  obtain ⟨h1, h2⟩ := klList_iff.1 h
  apply klList_iff.2
  have key : ∀ k ∈ replaceTop n (fun w => w.kids.filter (fun k => k.value.isNormal)) L,
      (k.value.isText = true → k.kids = []) ∧ kl k = true := by
    intro k hk
    rcases mem_replaceTop hk with e | ⟨w, hw, hkw⟩
    · exact ⟨h1 k e, h2 k e⟩
    · have hkw' : k ∈ w.kids := (List.mem_filter.1 hkw).1
      have hw2 := h2 w hw
      cases w with
      | node wh wv wks =>
        rw [kl_node] at hw2
        obtain ⟨g1, g2⟩ := klList_iff.1 hw2
        exact ⟨g1 k hkw', g2 k hkw'⟩
  exact ⟨fun k hk => (key k hk).1, fun k hk => (key k hk).2⟩

theorem siteOkList_replaceTop_normalKids (p n : Nat) {L : List HTree} (h : siteOkList p L = true) :
    siteOkList p (replaceTop n (fun w => w.kids.filter (fun k => k.value.isNormal)) L) = true := by
  rw [siteOkList_iff] at h ⊢
  intro k hk
  rcases mem_replaceTop hk with e | ⟨w, hw, hkw⟩
  · exact h k e
  · have hkw' : k ∈ w.kids := (List.mem_filter.1 hkw).1
    have hw2 := h w hw
    cases w with
    | node wh wv wks =>
      rw [siteOk_node, Bool.and_eq_true] at hw2
      exact siteOkList_iff.1 hw2.2 k hkw'

theorem siteOk_setValue_text {p : Nat} {x : HTree} {s : Str} (hx : x.value.isText = true)
    (h : siteOk p x = true) : siteOk p (x.setValue (.text s)) = true := by
  cases x with
  | node xh xv xks =>
    simp only [HTree.value] at hx
    simp only [HTree.setValue]
    rw [siteOk_node] at h ⊢
    rw [hx] at h
    simpa [Value.isText] using h

theorem Spec.TextMerge.siteOk {p : Nat} {L L' : List HTree} (h : TextMerge L L') (hs : siteOkList p L = true) :
    siteOkList p L' = true := by
  induction h with
  | refl L => exact hs
  | cons k _ ih =>
    rw [siteOkList_cons, Bool.and_eq_true] at hs
    rw [siteOkList_cons, hs.1, ih hs.2]; rfl
  | @join a b j x y L ha hb hj =>
    rw [siteOkList_cons, siteOkList_cons, Bool.and_eq_true, Bool.and_eq_true] at hs
    rw [siteOkList_cons, hs.2.2, Bool.and_true]
    rcases hj with rfl | rfl
    · exact siteOk_setValue_text (by rw [ha]; rfl) hs.1
    · exact siteOk_setValue_text (by rw [hb]; rfl) hs.2.1
  | trans _ _ ih1 ih2 => exact ih2 (ih1 hs)

theorem siteOkList_mergeAdj (p a b : Nat) (L : List HTree) (h : siteOkList p L = true) :
    siteOkList p (mergeAdj a b L) = true :=
  (TextMerge.of_mergeAdj a b L).siteOk h

/-! ### element_unwrap -/

/-- **String values, pair reading of unwrap**: for every forest with the invariant. -/
theorem specUnwrapP_strValues {f : Forest} (inv : f.Inv) (n : Nat) :
    (specUnwrapP n f).strValues = (plainUnwrap n f).strValues := by
  let F : HTree → List HTree := fun w => w.kids.filter (fun k => k.value.isNormal)
  have hklf : klList f.roots = true := klList_of_valid f.roots inv.valid
  -- the unmerged side
  have e0 : (plainUnwrap n f).strValues = (f.editAt (f.parent? n) (replaceTop n F)).strValues := by
    unfold plainUnwrap specUnwrap
    simp only
    have hpar0 : ({ f with consolidation := false } : Forest).parent? n = f.parent? n := rfl
    rw [hpar0, mergeAt_off (by rw [Forest.editAt_consolidation])]
    cases f.parent? n <;> rfl
  rw [e0]
  unfold specUnwrapP
  simp only
  -- after the edit
  have hklX : klList (f.editAt (f.parent? n) (replaceTop n F)).roots = true ∧
      (∀ po, f.parent? n = some po → siteOkList po (f.editAt (f.parent? n) (replaceTop n F)).roots = true) := by
    cases hpar : f.parent? n with
    | none => exact ⟨klList_replaceTop_normalKids n hklf, fun po h => by cases h⟩
    | some po =>
      have hspo := siteOkList_parent inv hpar
      refine ⟨klList_editAt (fun L h => klList_replaceTop_normalKids n h) f.roots hklf hspo, ?_⟩
      intro po' h
      have := Option.some.inj h
      subst this
      exact siteOkList_editAt (fun L h => siteOkList_replaceTop_normalKids _ n h) f.roots hspo
  obtain ⟨hklX, hsX⟩ := hklX
  have hs1 : ∀ po, f.parent? n = some po →
      siteOkList po ((f.editAt (f.parent? n) (replaceTop n F)).mergeLeftAt (f.parent? n)
        ((f.nbOf n).1, ((f.kidsOf n).filter (fun k => k.value.isNormal)).head?.map (·.handle))).roots = true := by
    intro po h
    have hb := hsX po h
    unfold Forest.mergeLeftAt
    split
    · split
      · exact siteOkList_editAt (fun L hL => siteOkList_mergeAdj _ _ _ L hL) _ hb
      · exact hb
    · exact hb
  have hkl1 := klList_mergeLeftAt (f.parent? n)
    ((f.nbOf n).1, ((f.kidsOf n).filter (fun k => k.value.isNormal)).head?.map (·.handle)) hklX hsX
  have hkl2 := klList_mergeLeftAt (f.parent? n)
    (((f.kidsOf n).filter (fun k => k.value.isNormal)).getLast?.map (·.handle), (f.nbOf n).2) hkl1 hs1
  rw [strValues_mergeLeftAt _ _ hkl2, strValues_mergeLeftAt _ _ hkl1, strValues_mergeLeftAt _ _ hklX]

/-! ### replace -/

theorem klList_replaceTop_const (a : Nat) {t : HTree} {L : List HTree} (h : klList L = true) (ht : kl t = true)
    (htl : t.value.isText = true → t.kids = []) : klList (replaceTop a (fun _ => [t]) L) = true := by
  obtain ⟨h1, h2⟩ := klList_iff.1 h
  apply klList_iff.2
  constructor
  · intro k hk hkt
    rcases mem_replaceTop hk with e | ⟨w, _, hkw⟩
    · exact h1 k e hkt
    · have : k = t := by simpa using hkw
      subst this; exact htl hkt
  · intro k hk
    rcases mem_replaceTop hk with e | ⟨w, _, hkw⟩
    · exact h2 k e
    · have : k = t := by simpa using hkw
      subst this; exact ht

theorem siteOkList_replaceTop_const (p a : Nat) {t : HTree} {L : List HTree} (h : siteOkList p L = true)
    (ht : siteOk p t = true) : siteOkList p (replaceTop a (fun _ => [t]) L) = true := by
  rw [siteOkList_iff] at h ⊢
  intro k hk
  rcases mem_replaceTop hk with e | ⟨w, _, hkw⟩
  · exact h k e
  · have : k = t := by simpa using hkw
    subst this; exact ht

theorem mergeNew3_keeps (n : Nat) : TextKeeping (mergeNew3 n) :=
  fun L h => (TextMerge.of_mergeNew3 n L).keeps h

theorem strValues_mergeNew3At {X : Forest} (q n : Nat) (h : klList X.roots = true) :
    (X.mergeNew3At q n).strValues = X.strValues := by
  cases hc : X.consolidation with
  | false => rw [Forest.mergeNew3At_off hc]
  | true => rw [Forest.mergeNew3At_on hc]; exact strValues_editAt_keep _ (mergeNew3_keeps _) h

/-- The replacing node already next to the replaced one: cutting it and putting it in the other's place is
    dropping the other. -/
theorem replaceTop_dropTop_adjacent {a b : Nat} {l r : List HTree} {A t : HTree}
    (nd : (handlesList (l ++ A :: r)).Nodup) (ha : A.handle = a) (hb : t.handle = b)
    (hadj : l.getLast? = some t ∨ r.head? = some t) :
    replaceTop a (fun _ => [t]) (dropTop b (l ++ A :: r)) = dropTop a (l ++ A :: r) := by
  rcases hadj with h | h
  · obtain ⟨l', rfl⟩ := List.getLast?_eq_some_iff.1 h
    have nd1 : (handlesList (l' ++ t :: (A :: r))).Nodup := by simpa using nd
    obtain ⟨t1, t2⟩ := tops_ne_of_nodup nd1
    obtain ⟨a1, a2⟩ := tops_ne_of_nodup nd
    have e1 : dropTop b ((l' ++ [t]) ++ A :: r) = l' ++ A :: r := by
      have : (l' ++ [t]) ++ A :: r = l' ++ t :: (A :: r) := by simp
      rw [this]
      exact dropTop_mid hb (fun k hk => hb ▸ t1 k hk) (fun k hk => hb ▸ t2 k hk)
    rw [e1, replaceTop_mid ha (fun k hk => ha ▸ a1 k (List.mem_append_left _ hk)),
      dropTop_mid ha (fun k hk => ha ▸ a1 k hk) (fun k hk => ha ▸ a2 k hk)]
  · obtain ⟨r', rfl⟩ := List.head?_eq_some_iff.1 h
    have nd1 : (handlesList ((l ++ [A]) ++ t :: r')).Nodup := by simpa using nd
    obtain ⟨t1, t2⟩ := tops_ne_of_nodup nd1
    obtain ⟨a1, a2⟩ := tops_ne_of_nodup nd
    have e1 : dropTop b (l ++ A :: t :: r') = l ++ A :: r' := by
      have : l ++ A :: t :: r' = (l ++ [A]) ++ t :: r' := by simp
      rw [this, dropTop_mid hb (fun k hk => hb ▸ t1 k hk) (fun k hk => hb ▸ t2 k hk)]
      simp
    rw [e1, replaceTop_mid ha (fun k hk => ha ▸ a1 k hk),
      dropTop_mid ha (fun k hk => ha ▸ a1 k hk) (fun k hk => ha ▸ a2 k hk)]
    simp

/-- **String values of `replace`**: every forest with the invariant, every geometry. -/
theorem replace_keeps_strValues {f : Forest} {a b : Nat} (inv : f.Inv) (hok : (f.replace a b).2 = .ok) :
    (f.replace a b).1.strValues = (plainReplace a b f).strValues := by
  rw [replace_pair inv hok]
  obtain ⟨q, vq, l, A, r, t, ra, h⟩ := replace_unpack inv hok
  have nd := inv.nodup
  have hpa : f.parent? a = some q := Forest.parent?_of_ctx? ra.ctx_a
  have hklf : klList f.roots = true := klList_of_valid f.roots inv.valid
  have hklt : kl t = true := klList_find f.roots t hklf ra.hgb
  have htl : t.value.isText = true → t.kids = [] := leaf_of_text inv.valid ra.hgb
  have hsq : siteOkList q f.roots = true := siteOkList_parent inv hpa
  -- the unmerged side
  have e0 : (plainReplace a b f).strValues =
      ((f.editAt (f.parent? b) (dropTop b)).editAt (some q) (replaceTop a (fun _ => [t]))).strValues := by
    unfold plainReplace specReplace
    have hg0 : ({ f with consolidation := false } : Forest).get? b = some t := ra.hgb
    have hp0 : ({ f with consolidation := false } : Forest).parent? a = some q := hpa
    have hpb0 : ({ f with consolidation := false } : Forest).parent? b = f.parent? b := rfl
    rw [hg0, hp0]
    simp only
    rw [hpb0]
    have hc0 : ∀ (Z : Forest), Z.consolidation = false → ∀ s, Z.mergeAt Keep.earlier s = Z :=
      fun Z h s => mergeAt_off h Keep.earlier s
    have hX0 : ((({ f with consolidation := false } : Forest).editAt (f.parent? b) (dropTop b)).editAt (some q)
        (replaceTop a (fun _ => [t]))).consolidation = false := by
      rw [Forest.editAt_consolidation, Forest.editAt_consolidation]
    rw [hc0 _ hX0, hc0 _ hX0]
    cases f.parent? b <;> rfl
  rw [e0]
  unfold specReplaceP
  rcases h with ⟨hadj, _⟩ | ⟨⟨h1, h2⟩, _⟩
  · rw [ra.adjacent_true hadj, if_pos rfl]
    unfold specRemoveP
    simp only
    rw [hpa]
    have hklD : klList (f.editAt (some q) (dropTop a)).roots = true :=
      klList_editAt (fun L h => klList_dropTop a h) f.roots hklf hsq
    rw [strValues_mergeLeftAt _ _ hklD]
    -- the replacing node is a child of `q`, next to `A`
    have hadj' : l.getLast? = some t ∨ r.head? = some t := by
      rcases hadj with e | e
      · left
        have e' := ra.prevOf_iff.1 e
        cases hl : l.getLast? with
        | none => rw [hl] at e'; cases e'
        | some x =>
          rw [hl] at e'
          have hxb : x.handle = b := by simpa using e'
          rw [ra.kid_eq (List.mem_append_left _ (List.mem_of_getLast? hl)) hxb]
      · right
        have e' := ra.nextOf_iff.1 e
        cases hr : r.head? with
        | none => rw [hr] at e'; cases e'
        | some x =>
          rw [hr] at e'
          have hxb : x.handle = b := by simpa using e'
          rw [ra.kid_eq (List.mem_append_right _ (List.mem_cons_of_mem _ (List.mem_of_mem_head? hr))) hxb]
    have htmem : t ∈ l ++ A :: r := by
      rcases hadj' with e | e
      · exact List.mem_append_left _ (List.mem_of_getLast? e)
      · exact List.mem_append_right _ (List.mem_cons_of_mem _ (List.mem_of_mem_head? e))
    have hpb : f.parent? b = some q := by
      obtain ⟨X, Y, hXY⟩ := List.append_of_mem htmem
      have s : SiteAt f q vq (X ++ t :: Y) := hXY ▸ ra.sq
      have := Forest.parent?_of_ctx? s.ctx
      rw [ra.hb] at this
      exact this
    rw [hpb, Forest.editAt_editAt]
    rw [ra.sq.congr (g := (replaceTop a fun _ => [t]) ∘ dropTop b) (g' := dropTop a)
      (replaceTop_dropTop_adjacent ra.sq.nodupKids.1 ra.ha ra.hb hadj')]
  · rw [ra.adjacent_false h1 h2]
    simp only [Bool.false_eq_true, if_false]
    rw [ra.hgb, hpa]
    simp only
    obtain ⟨hklZ, hsqZ, hpoZ⟩ := cut_keeps_leaves inv ra.hgb hsq
    have hklX : klList ((f.editAt (f.parent? b) (dropTop b)).editAt (some q) (replaceTop a (fun _ => [t]))).roots
        = true :=
      klList_editAt (fun L h => klList_replaceTop_const a h hklt htl) _ hklZ hsqZ
    have hspoX : ∀ po, f.parent? b = some po →
        siteOkList po ((f.editAt (f.parent? b) (dropTop b)).editAt (some q)
          (replaceTop a (fun _ => [t]))).roots = true := by
      intro po h
      obtain ⟨g1, g2⟩ := hpoZ po h
      exact siteOkList_editAt (fun L hL => siteOkList_replaceTop_const po a hL g2) _ g1
    rw [strValues_mergeNew3At q b (klList_mergeLeftAt _ _ hklX hspoX), strValues_mergeLeftAt _ _ hklX]

/-- **String values of `element_unwrap`**: every forest with the invariant. -/
theorem unwrap_keeps_strValues {f : Forest} {n : Nat} (inv : f.Inv) (hok : (f.elementUnwrap n).2 = .ok) :
    (f.elementUnwrap n).1.strValues = (plainUnwrap n f).strValues := by
  rw [unwrap_pair inv hok]
  exact specUnwrapP_strValues inv n

end XotModel
