/-
  C14_pretty_only_whitespace on the CONCATENATED bytes: the run of white space the indenting writer puts
  between two consecutive tokens stands behind a `>` and in front of a `<` of the plain output; the empty end-tag
  token of `<e/>` is looked through.
-/
import XotModel.Lemmas.PrettyBetween
import XotModel.Lemmas.SerTokensLex
import XotModel.Lemmas.SerIndentRun

/-! ## The empty end-tag token

  The empty end-tag token of an element written `<e/>` directly follows the
  `/>` token of the same element (event stream of `gen_outputs` on `TextOk` trees), and `Pretty` grants white
  space neither between the two nor in front of the empty token.
-/

namespace XotModel
open Gen

variable (t : Tree)

/-- The node at `p` has no normal child (it is written `<e/>`). -/
def childlessAt (p : Path) : Bool :=
  match t.at? p with
  | some node => node.firstChild?.isNone
  | none => false

/-- Every end-tag event of a childless element directly follows that element's `startTagClose`
    (`prev` = the event in front of the list). -/
def EGram : Option (Path × Output) → List (Path × Output) → Prop
  | _, [] => True
  | prev, po :: rest =>
    (∀ name, po.2 = .endTag name → childlessAt t po.1 = true → prev = some (po.1, .startTagClose)) ∧
      EGram (some po) rest

theorem EGram_append_any {prev : Option (Path × Output)} {a b : List (Path × Output)}
    (ha : EGram t prev a) (hb : ∀ prev', EGram t prev' b) : EGram t prev (a ++ b) := by
  induction a generalizing prev with
  | nil => exact hb prev
  | cons po a ih => exact ⟨ha.1, ih ha.2⟩

theorem EGram_noEnd (l : List (Path × Output)) (h : ∀ po ∈ l, ∀ name, po.2 ≠ .endTag name) :
    ∀ prev, EGram t prev l := by
  induction l with
  | nil => intro _; trivial
  | cons po l ih =>
    intro prev
    exact ⟨fun name hn _ => absurd hn (h po (by simp) name), ih (fun q hq => h q (by simp [hq])) _⟩

theorem genKids_abnormal_leaves (inScope : List (Nat × Nat)) (path : Path) (i : Nat) (ks : List Tree)
    (h : ∀ k ∈ ks, k.value.isNormal = false ∧ k.kids = []) : genNode.genKids inScope path i ks = [] := by
  induction ks generalizing i with
  | nil => rfl
  | cons k ks ih =>
    obtain ⟨h1, h2⟩ := h k (by simp)
    cases k with
    | node v kk =>
      simp only [Tree.value] at h1
      simp only [Tree.kids] at h2
      subst h2
      simp [genNode.genKids, genNode, h1, ih (i + 1) (fun q hq => h q (by simp [hq]))]

mutual
theorem genNode_EGram (inScope : List (Nat × Nat)) (isTop : Bool) (path : Path) (n : Tree)
    (hat : t.at? path = some n) (hok : TextOk n) : ∀ prev, EGram t prev (genNode inScope isTop path n) := by
  cases n with
  | node v ks =>
    have hkat := at?_kid t hat
    have hkok : ∀ k ∈ ks, TextOk k := by
      have := hok
      simp only [TextOk, Tree.Forall] at this
      exact (Tree.forallList_iff _ ks).mp this.2
    have hk := genKids_EGram inScope path 0 ks hkat hkok
    cases v with
    | element name =>
      intro prev
      rw [show genNode inScope isTop path (.node (.element name) ks) = (_ :: declEvents inScope isTop path _) ++ _
        from genNode_element_shape inScope isTop path name ks]
      refine EGram_append_any t (EGram_noEnd t _ (fun po hpo name hn => ?_) prev) (fun prev' => ?_)
      · have := (startTag_neutral inScope isTop path _ _ po hpo).1
        rw [hn] at this
        cases this
      · refine ⟨fun name hn _ => (by cases hn), ?_⟩
        by_cases hc : (Tree.node (.element name) ks).firstChild?.isNone = true
        · have hab : ∀ k ∈ ks, k.value.isNormal = false ∧ k.kids = [] := by
            intro k hk'
            have h1 := firstChild_none_abnormal hc k hk'
            refine ⟨h1, ?_⟩
            have h2 := hkok k hk'
            cases k with
            | node v' ks' =>
              simp only [TextOk, Tree.Forall] at h2
              simp only [Tree.value] at h1
              exact h2.1.1 (by cases v' <;> first | rfl | cases h1)
          rw [genKids_abnormal_leaves inScope path 0 ks hab]
          exact ⟨fun _ _ _ => rfl, trivial⟩
        · refine EGram_append_any t (hk _) (fun prev'' => ⟨fun name' _ hcl => ?_, trivial⟩)
          simp only [childlessAt, hat] at hcl
          exact absurd hcl hc
    | document => rw [genNode_document]; exact hk
    | «attribute» a val => rw [genNode_attribute]; exact hk
    | «namespace» p ns => rw [genNode_namespace]; exact hk
    | text x => rw [genNode_text]; exact fun prev => ⟨fun name hn _ => (by cases hn), hk _⟩
    | comment x => rw [genNode_comment]; exact fun prev => ⟨fun name hn _ => (by cases hn), hk _⟩
    | pi tg d => rw [genNode_pi]; exact fun prev => ⟨fun name hn _ => (by cases hn), hk _⟩

theorem genKids_EGram (inScope : List (Nat × Nat)) (path : Path) (i : Nat) (ks : List Tree)
    (hat : ∀ (j : Nat) (k : Tree), ks[j]? = some k → t.at? (path ++ [i + j]) = some k)
    (hok : ∀ k ∈ ks, TextOk k) : ∀ prev, EGram t prev (genNode.genKids inScope path i ks) := by
  cases ks with
  | nil => intro _; trivial
  | cons k ks' =>
    intro prev
    simp only [genNode.genKids]
    obtain ⟨hk0, hrest⟩ := Ser.kidsAt_cons t hat
    exact EGram_append_any t (genNode_EGram inScope false (path ++ [i]) k hk0 (hok k (by simp)) prev)
      (genKids_EGram inScope path (i + 1) ks' hrest (fun k' hk' => hok k' (by simp [hk'])))
end

/-- The event in front of position `pre.length`. -/
def lastOr {α : Type} (prev : Option α) (pre : List α) : Option α :=
  match pre.getLast? with
  | some x => some x
  | none => prev

theorem lastOr_cons {α : Type} (prev : Option α) (a : α) (pre : List α) :
    lastOr prev (a :: pre) = lastOr (some a) pre := by
  cases pre with
  | nil => rfl
  | cons b l =>
    cases h : (b :: l).getLast? with
    | none => simp at h
    | some x => simp [lastOr, List.getLast?_cons_cons, h]

theorem EGram_at {prev : Option (Path × Output)} (pre : List (Path × Output)) (b : Path × Output)
    (post : List (Path × Output)) (h : EGram t prev (pre ++ b :: post)) (name : Nat) (hb : b.2 = .endTag name)
    (hc : childlessAt t b.1 = true) : lastOr prev pre = some (b.1, .startTagClose) := by
  induction pre generalizing prev with
  | nil => exact h.1 name hb hc
  | cons a pre ih =>
    rw [lastOr_cons]
    exact ih h.2

end XotModel

/-! ## The concatenated bytes

  Behind a `>` and in front of a `<` of the plain output, not only of the neighbouring tokens.
-/

namespace XotModel
open Gen

variable (sup : List Nat) (t : Tree)

/-- What `serialize_node` writes for the token (no indentation, no newline). -/
def prettyBody (k : Path × Output × PrettyOutputToken) : Str :=
  (if k.2.2.space then tokenSpace else []) ++ k.2.2.text

/-- The empty end-tag token of an element written `<e/>`: it has no blank, no indentation, and the token in
    front of it is the `/>` of the same element, without a newline. -/
theorem pretty_empty_endTag (esc : Escapers) (env : Env) (pr : TokenParams) (start : Path) (n : Tree)
    (inScope : List (Nat × Nat)) (hat : t.at? start = some n)
    (hs : namespacesInScope t start = some inScope) (hok : TextOk n)
    (ks pre post : List (Path × Output × PrettyOutputToken)) (k2 : Path × Output × PrettyOutputToken)
    (h : prettyTokensWith esc env pr sup t start = .ok ks) (hks : ks = pre ++ k2 :: post)
    (name : Nat) (ho : k2.2.1 = .endTag name) (htx : k2.2.2.text = []) :
    k2.2.2.space = false ∧ k2.2.2.indentation = 0 ∧
    ∃ pre' k1, pre = pre' ++ [k1] ∧ k1.2.2.text = litEmptyTagClose ∧ k1.2.2.space = false ∧
      k1.2.2.newline = false := by
  have hp := prettyTokensWith_ok sup t h
  have hevs := prettyAll_events sup t esc env pr [] _ _ _ hp
  obtain ⟨s1, s2, hr⟩ := (prettyAll_ok sup t esc env pr [] _ _ _ hp).2 k2 (by simp [hks])
  obtain ⟨p2, o2, tok2⟩ := k2
  simp only at ho htx hr ⊢
  subst ho
  unfold renderAtWith at hr
  cases hn : t.at? p2 with
  | none => simp [hn] at hr
  | some node =>
    simp only [hn, renderXmlWith] at hr
    by_cases hfc : node.firstChild?.isSome = true
    · exfalso
      simp only [hfc, if_true] at hr
      cases hfn : s1.elementFullname env name with
      | error e => simp [hfn] at hr
      | ok full =>
        simp only [hfn, Outcome.ok.injEq, Prod.mk.injEq, OutputToken.mk.injEq] at hr
        have := hr.2.2
        rw [htx] at this
        simp [fmt, fmtEndTag] at this
    · have hnone : node.firstChild?.isNone = true := by
        cases hx : node.firstChild? <;> simp [hx] at hfc ⊢
      have hcl : childlessAt t p2 = true := by simp [childlessAt, hn, hnone]
      simp only [hfc, Bool.false_eq_true, if_false, Outcome.ok.injEq, Prod.mk.injEq, OutputToken.mk.injEq] at hr
      have hg := genOutputs_eq_genNode hat hs
      have EG := genNode_EGram t inScope true start n hat hok none
      rw [← hg, ← hevs, hks, List.map_append, List.map_cons] at EG
      have hlast := EGram_at t _ _ _ EG name rfl hcl
      simp only at hlast
      unfold lastOr at hlast
      cases hl : (pre.map (fun k => (k.1, k.2.1))).getLast? with
      | none => simp [hl] at hlast
      | some x =>
        simp only [hl, Option.some.injEq] at hlast
        subst hlast
        obtain ⟨ys, hys⟩ := List.getLast?_eq_some_iff.mp hl
        obtain ⟨l1, l2, hpre, _, hl2⟩ := List.map_eq_append_iff.mp hys
        cases l2 with
        | nil => simp at hl2
        | cons k1 l2' =>
          cases l2' with
          | cons _ _ => simp at hl2
          | nil =>
            simp only [List.map_cons, List.map_nil, List.cons.injEq, Prod.mk.injEq, and_true] at hl2
            obtain ⟨p1, o1, tok1⟩ := k1
            simp only at hl2
            obtain ⟨rfl, rfl⟩ := hl2
            subst hpre
            obtain ⟨ps1, _, _, e1, e2⟩ := prettyAll_adjacent sup t esc env pr [] _ _ _ l1 post
              (p1, .startTagClose, tok1) (p1, .endTag name, tok2) hp (by simp [hks])
            simp only [prettifyAtWith, hn, prettifyWith, hfc, Bool.false_eq_true, if_false, Prod.mk.injEq] at e1 e2
            obtain ⟨s1', s2', hr1⟩ := (prettyAll_ok sup t esc env pr [] _ _ _ hp).2
              (p1, .startTagClose, tok1) (by simp [hks])
            simp only [renderAtWith, hn, renderXmlWith, hnone, if_true, Outcome.ok.injEq, Prod.mk.injEq,
              OutputToken.mk.injEq] at hr1
            exact ⟨hr.2.1.symm, e2.1, l1, _, rfl, hr1.2.2.symm, hr1.2.1.symm, e1.2⟩

/-- **The white space between two consecutive tokens, on the concatenated bytes** (`TextOk` trees). -/
theorem pretty_whitespace_bytes (esc : Escapers) (env : Env) (pr : TokenParams) (start : Path) (n : Tree)
    (inScope : List (Nat × Nat)) (hat : t.at? start = some n)
    (hs : namespacesInScope t start = some inScope) (hok : TextOk n)
    (ks pre post : List (Path × Output × PrettyOutputToken)) (k1 k2 : Path × Output × PrettyOutputToken)
    (h : prettyTokensWith esc env pr sup t start = .ok ks) (hks : ks = pre ++ k1 :: k2 :: post)
    (hw : k1.2.2.newline = true ∨ k2.2.2.indentation > 0) :
    ((pre ++ [k1]).flatMap prettyBody).getLast? = some '>' ∧
    ((k2 :: post).flatMap prettyBody).head? = some '<' ∧
    (prettyBody k2).head? = some '<' := by
  obtain ⟨c1, c2, _⟩ := pretty_between sup t esc env pr start n inScope hat hs hok ks pre post k1 k2 h hks hw
  have s1 := (pretty_token_shape sup t esc env pr start ks h k1 (by simp [hks])).2 c1
  have s2 := (pretty_token_shape sup t esc env pr start ks h k2 (by simp [hks])).1 c2
  have hk2 : (prettyBody k2).head? = some '<' := by
    rcases s2.2 with hh | ⟨⟨name, hn⟩, he⟩
    · simp [prettyBody, s2.1, hh]
    · exfalso
      obtain ⟨_, hi, pre', k1', hpre, _, _, hnl⟩ := pretty_empty_endTag sup t esc env pr start n inScope hat hs hok
        ks (pre ++ [k1]) post k2 h (by simp [hks]) name hn he
      have := congrArg List.getLast? hpre
      simp at this
      subst this
      rcases hw with hw | hw
      · rw [hnl] at hw; cases hw
      · omega
  refine ⟨?_, ?_, hk2⟩
  · rcases s1 with hh | ⟨⟨name, hn⟩, he⟩
    · simp [List.flatMap_append, prettyBody, List.getLast?_append, hh]
    · obtain ⟨hsp, _, pre', k0, hpre, htx, hsp0, _⟩ := pretty_empty_endTag sup t esc env pr start n inScope hat hs
        hok ks pre (k2 :: post) k1 h hks name hn he
      subst hpre
      simp [List.flatMap_append, prettyBody, List.getLast?_append, hsp, he, htx, hsp0,
        litEmptyTagClose]
  · simp only [List.flatMap_cons, List.head?_append, hk2, Option.some_or]

theorem pretty_run_ws (k1 k2 : PrettyOutputToken) :
    ((if k1.newline then prettyNewline else []) ++
      (if k2.indentation > 0 then indentBytes k2.indentation else [])).all isWsChar = true := by
  simp only [List.all_append, Bool.and_eq_true]
  constructor
  · split <;> simp [prettyNewline, isWsChar]
  · split
    · exact indentBytes_ws _
    · rfl

end XotModel
