/-
  The traversal invariant: before every event the `FullnameSerializer` stack satisfies `StackInv`
  for the frames of the open nodes between the start node and the event's node (Lemmas/Trace).
-/
import XotModel.Lemmas.Trace

namespace XotModel

variable (esc : Escapers) (env : Env) (pr : TokenParams) (t : Tree)

/-- An `EndTag` event is only reached after the `StartTagOpen` of the same element was rendered with
    the same stack, so the check of that arm (/repo a32c6f4) holds for it too: the element is not a
    no-namespace element in the scope of a default namespace. -/
def EndTagOk (x : FStack × Path × Output) : Prop :=
  ∀ name, x.2.2 = .endTag name →
    ¬ (env.nsOfName name = Env.noNamespace ∧ x.1.hasDefaultNamespace = true)

theorem endTagOk_of_not_end {x : FStack × Path × Output} (h : ∀ name, x.2.2 ≠ .endTag name) :
    EndTagOk env x := fun name hn => absurd hn (h name)

/-- The claim about one trace entry, relative to the node `n` at `path` and the frames `fs` the
    stack stood for when `n` was entered. -/
def EntryOk (path : Path) (n : Tree) (fs : Frames) (x : FStack × Path × Output) : Prop :=
  (∃ rel, x.2.1 = path ++ rel ∧ StackInv x.1 (framesFor x.2.2 (framesAlong n rel) ++ fs)) ∧
    EndTagOk env x

theorem entry_lift {path : Path} {v : Value} {ks : List Tree} {fs : Frames} {x : FStack × Path × Output}
    {j : Nat} {k : Tree} {rel : Path} (hk : ks[j]? = some k) (hp : x.2.1 = path ++ j :: rel)
    (hs : StackInv x.1 (framesFor x.2.2 (framesAlong k rel) ++ (frameOf (.node v ks) :: fs)))
    (he : EndTagOk env x) :
    EntryOk env path (.node v ks) fs x := by
  refine ⟨⟨j :: rel, hp, ?_⟩, he⟩
  have : framesAlong (.node v ks) (j :: rel) = framesAlong k rel ++ [frameOf (.node v ks)] := by
    simp [framesAlong, Tree.kids, hk]
  rw [this, framesFor_append]
  simpa [List.append_assoc] using hs

theorem entry_self {path : Path} {n : Tree} {fs : Frames} {s : FStack} {o : Output}
    (ho : o.isNeutral = true ∨ ∃ name, o = .endTag name) (hs : StackInv s (frameOf n :: fs))
    (he : EndTagOk env (s, path, o)) :
    EntryOk env path n fs (s, path, o) := by
  refine ⟨⟨[], by simp, ?_⟩, he⟩
  have : framesFor o (framesAlong n []) = [frameOf n] := by
    rcases ho with ho | ⟨name, rfl⟩
    · cases o <;> simp [framesFor, framesAlong, Output.isNeutral] at ho ⊢
    · simp [framesFor, framesAlong]
  rw [this]
  simpa using hs

/-- A neutral event of the node at `path` itself (text, comment, PI, the `>` of a start tag), met with a stack
    that stands for the node's frame, then the events `evs` from the same stack. -/
theorem neutral_trace (path : Path) (n : Tree) (o : Output) (ho : o.isNeutral = true)
    (s : FStack) (fs : Frames) (hs : StackInv s (frameOf n :: fs)) {evs : List (Path × Output)}
    {R : FStack → Prop} (hk : Trace.Along esc env pr t s evs (EntryOk env path n fs) R) :
    Trace.Along esc env pr t s ((path, o) :: evs) (EntryOk env path n fs) R := by
  refine Trace.Along.cons esc env pr t ?_ (fun s1 hstep => ?_)
  · exact entry_self env (Or.inl ho) hs
      (endTagOk_of_not_end env (by intro name hn; simp only at hn; subst hn; simp [Output.isNeutral] at ho))
  · rw [stepStack_neutral esc env pr t s s1 path o ho hstep]; exact hk

mutual
theorem genNode_trace (inScope : List (Nat × Nat)) (isTop : Bool) (path : Path) (n : Tree)
    (hat : t.at? path = some n) (hu : UniqueBelow n) (s : FStack) (fs : Frames) (hinv : StackInv s fs) :
    (∀ x ∈ stackTrace esc env pr t s (genNode inScope isTop path n), EntryOk env path n fs x) ∧
    (∀ s', runStack esc env pr t s (genNode inScope isTop path n) = some s' → s' = s) := by
  cases n with
  | node v ks =>
    have hkat := at?_kid t hat
    have hku : ∀ (j : Nat) (k : Tree), ks[j]? = some k → UniqueBelow k := fun j k hk => hu.kid hk
    -- the part shared by every node kind: the children, entered with the node's own frame
    have kidsPart : ∀ s1, StackInv s1 (frameOf (.node v ks) :: fs) →
        Trace.Along esc env pr t s1 (genNode.genKids inScope path 0 ks) (EntryOk env path (.node v ks) fs) (· = s1) :=
      fun s1 h1 => Trace.Along.imp esc env pr t (genKids_trace inScope path 0 ks hkat hku s1 _ h1)
        (fun x ⟨⟨j, k, rel, hk, hp, hs⟩, he⟩ => entry_lift env hk (by simpa using hp) hs he)
    cases v with
    | element name =>
      rw [genNode_element_shape]
      have hframe : frameOf (.node (.element name) ks) = (Tree.node (.element name) ks).nsDecls := rfl
      have hun : UniquePrefixes (Tree.node (.element name) ks).nsDecls := by
        have := hu [] _ rfl
        rwa [hframe] at this
      -- `StartTagOpen` pushes the element's frame, …
      refine Trace.Along.cons esc env pr t ?_ (fun s1 hstep => ?_)
      · exact ⟨⟨[], by simp, by simpa [framesFor, framesAlong] using hinv⟩,
          endTagOk_of_not_end env (by intro nm hn; cases hn)⟩
      obtain ⟨hs1, hnd⟩ := stepStack_open esc env pr t s s1 path name _ hat hstep
      rw [← hs1] at hnd
      have hinv1 : StackInv s1 (frameOf (.node (.element name) ks) :: fs) := by
        rw [hs1, hframe]; exact hinv.push' hun
      -- … the rest of the start tag and the children leave the stack as it is, …
      have hneut := declEvents_neutral inScope isTop path (.node (.element name) ks)
      obtain ⟨n1, n2⟩ := neutral_run esc env pr t s1 _ hneut
      refine Trace.Along.append esc env pr t (R1 := (· = s1)) ⟨fun x hx => ?_, n2⟩ (fun s2 h2 => ?_)
      · obtain ⟨e1, e2⟩ := n1 x hx
        have e3 := hneut _ e2
        have e4 := (declEvents_isDecl inScope isTop path _ _ e2).1
        obtain ⟨xs, xp, xo⟩ := x
        simp only at e1 e3 e4
        subst e1; subst e4
        exact entry_self env (Or.inl e3) hinv1
          (endTagOk_of_not_end env (by intro nm hn; simp only at hn; subst hn; simp [Output.isNeutral] at e3))
      subst h2
      refine neutral_trace esc env pr t path _ .startTagClose rfl s2 fs hinv1 ?_
      refine Trace.Along.append esc env pr t (kidsPart s2 hinv1) (fun s3 h3 => ?_)
      subst h3
      -- … and `EndTag` pops the frame.
      refine Trace.Along.cons esc env pr t ?_ (fun s4 hend => Trace.Along.nil esc env pr t ?_)
      · refine entry_self env (Or.inr ⟨name, rfl⟩) hinv1 ?_
        intro nm hn
        simp only [Output.endTag.injEq] at hn
        subst hn
        exact hnd
      · rw [stepStack_end esc env pr t s3 s4 path name _ hat hend, hs1]
        exact FStack.pop_push s _
    | document =>
      rw [genNode_document]
      exact kidsPart s (StackInv.skip s fs hinv)
    | «attribute» a val =>
      rw [genNode_attribute]
      exact kidsPart s (StackInv.skip s fs hinv)
    | «namespace» p ns =>
      rw [genNode_namespace]
      exact kidsPart s (StackInv.skip s fs hinv)
    | text x =>
      rw [genNode_text]
      exact neutral_trace esc env pr t path (.node (.text x) ks) (Output.text x) rfl s fs
        (StackInv.skip s fs hinv) (kidsPart s (StackInv.skip s fs hinv))
    | comment x =>
      rw [genNode_comment]
      exact neutral_trace esc env pr t path (.node (.comment x) ks) (Output.comment x) rfl s fs
        (StackInv.skip s fs hinv) (kidsPart s (StackInv.skip s fs hinv))
    | pi tg d =>
      rw [genNode_pi]
      exact neutral_trace esc env pr t path (.node (.pi tg d) ks) (Output.pi tg d) rfl s fs
        (StackInv.skip s fs hinv) (kidsPart s (StackInv.skip s fs hinv))

theorem genKids_trace (inScope : List (Nat × Nat)) (path : Path) (i : Nat) (ks : List Tree)
    (hat : ∀ (j : Nat) (k : Tree), ks[j]? = some k → t.at? (path ++ [i + j]) = some k)
    (hu : ∀ (j : Nat) (k : Tree), ks[j]? = some k → UniqueBelow k) (s : FStack) (fs : Frames)
    (hinv : StackInv s fs) :
    (∀ x ∈ stackTrace esc env pr t s (genNode.genKids inScope path i ks),
        (∃ (j : Nat) (k : Tree) (rel : Path), ks[j]? = some k ∧ x.2.1 = path ++ (i + j) :: rel ∧
          StackInv x.1 (framesFor x.2.2 (framesAlong k rel) ++ fs)) ∧ EndTagOk env x) ∧
    (∀ s', runStack esc env pr t s (genNode.genKids inScope path i ks) = some s' → s' = s) := by
  cases ks with
  | nil => exact Trace.Along.nil esc env pr t rfl
  | cons k ks' =>
    simp only [genNode.genKids]
    have a := genNode_trace inScope false (path ++ [i]) k (Ser.kidsAt_cons t hat).1 (hu 0 k rfl) s fs hinv
    have b := genKids_trace inScope path (i + 1) ks' (Ser.kidsAt_cons t hat).2
      (fun j k' hk => hu (j + 1) k' (by simpa using hk)) s fs hinv
    refine Trace.Along.append esc env pr t (R1 := (· = s)) (Trace.Along.imp esc env pr t a ?_) (fun s1 h1 => ?_)
    · exact fun x ⟨⟨rel, hp, hs⟩, he⟩ => ⟨⟨0, k, rel, rfl, by simp [hp], hs⟩, he⟩
    · subst h1
      exact Trace.Along.imp esc env pr t b (fun x ⟨⟨j, k', rel, hk, hp, hs⟩, he⟩ =>
        ⟨⟨j + 1, k', rel, by simpa using hk, by rw [hp]; simp; omega, hs⟩, he⟩)
end

theorem ownEvent_startTagOpen {inScope : List (Nat × Nat)} {b : Bool} {n : Tree} {name : Nat}
    (h : OwnEvent inScope b n (.startTagOpen name)) : n.value = .element name := by
  unfold OwnEvent edgeStart edgeEnd at h
  cases hv : n.value <;> simp [hv] at h
  rcases h with h1 | h1
  · rw [h1]
  · have h2 := h1.2
    unfold extraPrefixes at h2
    simp at h2


theorem stackTrace_mem_events (s : FStack) (evs : List (Path × Output)) (x : FStack × Path × Output)
    (h : x ∈ stackTrace esc env pr t s evs) : (x.2.1, x.2.2) ∈ evs := by
  induction evs generalizing s with
  | nil => simp [stackTrace] at h
  | cons po evs ih =>
    simp only [stackTrace, List.mem_cons] at h
    rcases h with rfl | h
    · simp
    · cases hs : stepStack esc env pr t s po with
      | none => simp [hs] at h
      | some s1 =>
        simp only [hs] at h
        exact List.mem_cons_of_mem _ (ih s1 h)

theorem framesAlong_head (n : Tree) (rel : Path) (node : Tree) (h : n.at? rel = some node) :
    ∃ rest, framesAlong n rel = frameOf node :: rest := by
  induction rel generalizing n with
  | nil =>
    simp only [Tree.at?, Option.some.injEq] at h
    subst h
    exact ⟨[], rfl⟩
  | cons i rel ih =>
    cases n with
    | node v ks =>
      rw [at?_cons] at h
      cases hk : ks[i]? with
      | none => simp [hk] at h
      | some k =>
        simp only [hk, Option.bind_some] at h
        obtain ⟨rest, hr⟩ := ih k h
        exact ⟨rest ++ [frameOf (.node v ks)], by simp [framesAlong, Tree.kids, hk, hr]⟩

/-- The traversal invariant from the start node: the serialiser starts with
    `namespaces_in_scope(start)` as its only frame. -/
theorem genOutputs_trace (start : Path) (n : Tree) (inScope : List (Nat × Nat))
    (hat : t.at? start = some n) (hs : namespacesInScope t start = some inScope) (hu : UniqueBelow n)
    (x : FStack × Path × Output)
    (hx : x ∈ stackTrace esc env pr t (initStack t start) (genOutputs t start)) :
    (∃ rel, x.2.1 = start ++ rel ∧
      StackInv x.1 (framesFor x.2.2 (framesAlong n rel) ++ [inScope])) ∧ EndTagOk env x := by
  rw [initStack_eq_new hs, genOutputs_eq_genNode hat hs] at hx
  exact (genNode_trace esc env pr t inScope true start n hat hu [inScope] [inScope]
    (StackInv.base inScope (namespacesInScope_unique t start inScope hs))).1 x hx

/-- … and the event is one of a node at or below the start node (`OwnEvent`), at whose path the invariant is
    stated. -/
theorem genOutputs_trace_node (start : Path) (n : Tree) (inScope : List (Nat × Nat))
    (hat : t.at? start = some n) (hs : namespacesInScope t start = some inScope) (hu : UniqueBelow n)
    (s : FStack) (p : Path) (o : Output)
    (hx : (s, p, o) ∈ stackTrace esc env pr t (initStack t start) (genOutputs t start)) :
    ∃ rel node, p = start ++ rel ∧ n.at? rel = some node ∧ t.at? p = some node ∧
      OwnEvent inScope (true && rel.isEmpty) node o ∧
      StackInv s (framesFor o (framesAlong n rel) ++ [inScope]) ∧ EndTagOk env (s, p, o) := by
  obtain ⟨⟨rel, hp, hinv⟩, hend⟩ := genOutputs_trace esc env pr t start n inScope hat hs hu _ hx
  simp only at hp hinv
  have hev := stackTrace_mem_events esc env pr t _ _ _ hx
  have hg := genOutputs_eq_genNode hat hs
  rw [hg] at hev
  obtain ⟨rel', node, hp', hnode, _, hown⟩ := genNode_tagged inScope true start n p o hev
  obtain rfl : rel' = rel := List.append_cancel_left (hp'.symm.trans hp)
  exact ⟨rel', node, hp, hnode, by rw [hp, at?_append, hat]; exact hnode, hown, hinv, hend⟩

end XotModel
