/-
  Replacing the subtree of the node `nd` of a tree with distinct handles (`mapAt nd (fun _ => S')`):
  * an edit inside a subtree is such a replacement (`mapAt_as_graft`);
  * it erases to `scopeModifyAt` at the path of `nd` (`erase_graft`);
  * the path of every handle that is not strictly below `nd` — neither before nor after — is unchanged
    (`pathOf_graft`), and the old handles keep their order (`handles_graft_filter`);
  * in the forest: the root tree of such a handle is the replaced root (`fpxr_find_graft`); the node of a live
    handle with its root tree, its path and the erased subtree there (`fpxr_locate`).
-/
import XotModel.Lemmas.FpxRepair
import XotModel.Lemmas.RepairValid

namespace XotModel
open HTree Repair

namespace HTree

theorem fpxr_cat_ns (c : HTree) : c.value.category = .namespace ↔ ∃ q x, c.value = .namespace q x := by
  cases c with
  | node h v kk => cases v <;> simp [HTree.value, Value.category]

theorem at?_append' : ∀ (p q : Path) (r : HTree), r.at? (p ++ q) = (r.at? p).bind (fun s => s.at? q)
  | [], _, _ => rfl
  | i :: p, q, .node h v ks => by
    simp only [List.cons_append, HTree.at?]
    cases ks[i]? with
    | none => rfl
    | some k => exact at?_append' p q k

theorem at?_child {r x k : HTree} {q : Path} {i : Nat} (h : r.at? q = some x) (hk : x.kids[i]? = some k) :
    r.at? (q ++ [i]) = some k := by
  rw [at?_append', h]
  cases x with
  | node a b c => simp only [Option.bind_some, HTree.at?]; rw [show c[i]? = some k from hk]

theorem at?_handle_inj {r : HTree} (hnd : (handles r).Nodup) {p q : Path} {s s' : HTree}
    (hp : r.at? p = some s) (hq : r.at? q = some s') (h : s.handle = s'.handle) : p = q := by
  have h1 := ftrav_pathOf_of_at? p r s hnd hp
  have h2 := ftrav_pathOf_of_at? q r s' hnd hq
  rw [h] at h1; rw [h1] at h2; exact Option.some.inj h2

/-! ### An edit inside a subtree is a replacement of that subtree -/

mutual
  theorem mapAt_as_graft (e node : Nat) (g : HTree → HTree) (S : HTree) (he : e ∈ handles S) : ∀ r : HTree,
      (handles r).Nodup → find? node r = some S → mapAt e g r = mapAt node (fun _ => mapAt e g S) r
    | .node h v ks => by
      intro hnd hf
      by_cases hh : h = node
      · subst hh
        have : S = .node h v ks := by simpa [find?] using hf.symm
        subst this
        conv => rhs; unfold mapAt
        rw [if_pos rfl]
      · simp only [find?, if_neg hh] at hf
        simp only [handles_node, List.nodup_cons] at hnd
        have hin : e ∈ handlesList ks := (findList?_sublist node ks S hf).subset he
        have hne : ¬ h = e := fun x => hnd.1 (x ▸ hin)
        unfold mapAt
        rw [if_neg hne, if_neg hh, mapAtList_as_graft e node g S he ks hnd.2 hf]
  theorem mapAtList_as_graft (e node : Nat) (g : HTree → HTree) (S : HTree) (he : e ∈ handles S) :
      ∀ ks : List HTree, (handlesList ks).Nodup → findList? node ks = some S →
        mapAtList e g ks = mapAtList node (fun _ => mapAt e g S) ks
    | [] => fun _ hf => by simp [findList?] at hf
    | k :: ks => by
      intro hnd hf
      simp only [handlesList_cons, List.nodup_append] at hnd
      simp only [findList?] at hf
      cases hk : find? node k with
      | some t =>
        rw [hk] at hf
        simp only [Option.some.injEq] at hf
        subst hf
        have hek : e ∈ handles k := (fa_find?_sublist node k t hk).subset he
        have hnk : node ∈ handles k := (find?_isSome_iff node k).mp (by rw [hk]; rfl)
        have h1 : e ∉ handlesList ks := fun x => hnd.2.2 e hek e x rfl
        have h2 : node ∉ handlesList ks := fun x => hnd.2.2 node hnk node x rfl
        simp only [mapAtList, mapAt_as_graft e node g t he k hnd.1 hk, mapAtList_of_not_mem e g ks h1,
          mapAtList_of_not_mem node _ ks h2]
      | none =>
        rw [hk] at hf
        have hin : e ∈ handlesList ks := (findList?_sublist node ks S hf).subset he
        have h1 : e ∉ handles k := fun x => hnd.2.2 e x e hin rfl
        have h2 : node ∉ handles k := (find?_none_iff _ _).1 hk
        simp only [mapAtList, mapAt_of_not_mem e g k h1, mapAt_of_not_mem node _ k h2,
          mapAtList_as_graft e node g S he ks hnd.2.1 hf]
end

theorem graft_graft (node : Nat) (S1 S' : HTree) (h1 : S1.handle = node) : ∀ r : HTree,
    mapAt node (fun _ => S') (mapAt node (fun _ => S1) r) = mapAt node (fun _ => S') r :=
  mapAt_comp node (fun _ => S1) (fun _ => S') fun _ _ => h1

theorem graftList_graftList (node : Nat) (S1 S' : HTree) (h1 : S1.handle = node) : ∀ ks : List HTree,
    mapAtList node (fun _ => S') (mapAtList node (fun _ => S1) ks) = mapAtList node (fun _ => S') ks :=
  mapAtList_comp node (fun _ => S1) (fun _ => S') fun _ _ => h1

theorem mapAt_id' (node : Nat) : ∀ r : HTree, mapAt node id r = r :=
  ff_mapAt_id node id fun _ => rfl

theorem graftList_self (node : Nat) (S : HTree) (ks : List HTree) (hnd : (handlesList ks).Nodup)
    (hf : findList? node ks = some S) : mapAtList node (fun _ => S) ks = ks := by
  rw [Fmap.mapAtList_congr node (fun _ => S) id ks S hnd hf rfl, ff_mapAtList_id node id fun _ => rfl]

theorem pathOf_none_of_not_mem {x : Nat} {r : HTree} (h : x ∉ handles r) : pathOf x r = none := by
  cases hp : pathOf x r with
  | none => rfl
  | some q => exact absurd (ftrav_pathOf_mem hp) h

theorem not_mem_of_pathOf_none {x : Nat} {r : HTree} (h : pathOf x r = none) : x ∉ handles r := by
  intro hm
  have := ftrav_pathOf_isSome x r hm
  rw [h] at this; cases this

theorem pathOfList_none_of_not_mem {x : Nat} : ∀ (ks : List HTree) (j : Nat), x ∉ handlesList ks →
    pathOfList x j ks = none
  | [], _, _ => rfl
  | k :: ks, j, h => by
    simp only [handlesList_cons, List.mem_append, not_or] at h
    simp only [pathOfList, pathOf_none_of_not_mem h.1, pathOfList_none_of_not_mem ks (j + 1) h.2]

/-! ### Erasing a replaced subtree -/

mutual
  theorem erase_graft (nd : Nat) (S' : HTree) : ∀ (r : HTree) (top : Path), (handles r).Nodup →
      pathOf nd r = some top →
      erase (mapAt nd (fun _ => S') r) = scopeModifyAt (fun _ => erase S') (erase r) top
    | .node h v ks, top, hnd, hp => by
      simp only [pathOf] at hp
      simp only [handles_node, List.nodup_cons] at hnd
      by_cases hh : h = nd
      · rw [if_pos hh] at hp
        cases hp
        unfold mapAt
        rw [if_pos hh]
        rfl
      · rw [if_neg hh] at hp
        obtain ⟨i, p, hq, hl⟩ := eraseList_graft nd S' ks 0 top hnd.2 hp
        subst hq
        unfold mapAt
        rw [if_neg hh]
        simp only [erase, hl, Nat.zero_add, scopeModifyAt]
  theorem eraseList_graft (nd : Nat) (S' : HTree) : ∀ (ks : List HTree) (j : Nat) (q : Path),
      (handlesList ks).Nodup → pathOfList nd j ks = some q →
      ∃ i p, q = (j + i) :: p ∧ eraseList (mapAtList nd (fun _ => S') ks) =
        (eraseList ks).modify i (fun k => scopeModifyAt (fun _ => erase S') k p)
    | [], _, _, _, hp => by simp [pathOfList] at hp
    | k :: ks, j, q, hnd, hp => by
      simp only [handlesList_cons, List.nodup_append] at hnd
      simp only [pathOfList] at hp
      cases hk : pathOf nd k with
      | some p =>
        rw [hk] at hp
        simp only [Option.some.injEq] at hp
        subst hp
        have hin : nd ∈ handles k := ftrav_pathOf_mem hk
        have hout : nd ∉ handlesList ks := fun x => hnd.2.2 nd hin nd x rfl
        refine ⟨0, p, rfl, ?_⟩
        simp only [mapAtList, eraseList, mapAtList_of_not_mem nd _ ks hout, erase_graft nd S' k p hnd.1 hk,
          List.modify_zero_cons]
      | none =>
        rw [hk] at hp
        obtain ⟨i, p, hq, hl⟩ := eraseList_graft nd S' ks (j + 1) q hnd.2.1 hp
        refine ⟨i + 1, p, by rw [hq]; congr 1; omega, ?_⟩
        simp only [mapAtList, eraseList, mapAt_of_not_mem nd _ k (not_mem_of_pathOf_none hk), hl,
          List.modify_succ_cons]
end

/-! ### Paths outside the replaced subtree -/

mutual
  theorem pathOf_graft (nd x : Nat) (S' : HTree) (hS' : S'.handle = nd) (hx' : x ∉ handlesList S'.kids) :
      ∀ r : HTree, (∀ (q : Path) (S0 : HTree), r.at? q = some S0 → S0.handle = nd → x ∉ handlesList S0.kids) →
      pathOf x (mapAt nd (fun _ => S') r) = pathOf x r
    | .node h v ks, hx => by
      by_cases hh : h = nd
      · rw [mapAt_node, if_pos hh]
        have h0 : x ∉ handlesList ks := hx [] (.node h v ks) rfl hh
        cases S' with
        | node h' v' ks' =>
          simp only [HTree.handle] at hS'
          simp only [HTree.kids] at hx'
          simp only [pathOf, hS', hh, pathOfList_none_of_not_mem ks' 0 hx', pathOfList_none_of_not_mem ks 0 h0]
      · rw [mapAt_node_ne _ v ks hh]
        simp only [pathOf]
        rw [pathOfList_graft nd x S' hS' hx' ks 0 (fun i k hik q S0 hq hS0 =>
          hx (i :: q) S0 (by simp only [HTree.at?, hik]; exact hq) hS0)]
  theorem pathOfList_graft (nd x : Nat) (S' : HTree) (hS' : S'.handle = nd) (hx' : x ∉ handlesList S'.kids) :
      ∀ (ks : List HTree) (j : Nat),
      (∀ (i : Nat) (k : HTree), ks[i]? = some k → ∀ (q : Path) (S0 : HTree), k.at? q = some S0 → S0.handle = nd →
        x ∉ handlesList S0.kids) →
      pathOfList x j (mapAtList nd (fun _ => S') ks) = pathOfList x j ks
    | [], _, _ => rfl
    | k :: ks, j, hx => by
      simp only [mapAtList, pathOfList]
      rw [pathOf_graft nd x S' hS' hx' k (hx 0 k rfl),
        pathOfList_graft nd x S' hS' hx' ks (j + 1) (fun i k' hik => hx (i + 1) k' (by simpa using hik))]
end

/-- The same, from distinct handles and the subtree found at the path of `nd`. -/
theorem pathOf_graft' {r S S' : HTree} {nd x : Nat} {top : Path} (hnd : (handles r).Nodup)
    (hS : r.at? top = some S) (hSh : S.handle = nd) (hS' : S'.handle = nd)
    (hx : x ∉ handlesList S.kids) (hx' : x ∉ handlesList S'.kids) :
    pathOf x (mapAt nd (fun _ => S') r) = pathOf x r := by
  apply pathOf_graft nd x S' hS' hx' r
  intro q S0 hq hS0
  have : q = top := at?_handle_inj hnd hq hS (by rw [hS0, hSh])
  subst this
  rw [hq] at hS
  cases hS
  exact hx

theorem at?_graft (nd : Nat) (S' : HTree) : ∀ (top : Path) (r : HTree), (handles r).Nodup →
    pathOf nd r = some top → (mapAt nd (fun _ => S') r).at? top = some S' := by
  intro top r hnd hp
  -- recursion on the path (the statement about the erased tree would lose the handles)
  induction top generalizing r with
  | nil =>
    cases r with
    | node h v ks =>
      simp only [pathOf] at hp
      by_cases hh : h = nd
      · unfold mapAt; rw [if_pos hh]; rfl
      · rw [if_neg hh] at hp
        obtain ⟨i, p, k, hq, _⟩ := ftrav_pathOfList_at? nd ks 0 [] hp
        cases hq
  | cons i p ih =>
    cases r with
    | node h v ks =>
      simp only [pathOf] at hp
      simp only [handles_node, List.nodup_cons] at hnd
      by_cases hh : h = nd
      · rw [if_pos hh] at hp; cases hp
      · rw [if_neg hh] at hp
        obtain ⟨S0, hS0, hS0h⟩ := ftrav_pathOf_at? nd (.node h v ks) (i :: p) (by simp only [pathOf, if_neg hh]; exact hp)
        simp only [HTree.at?] at hS0
        cases hk : ks[i]? with
        | none => rw [hk] at hS0; cases hS0
        | some k =>
          rw [hk] at hS0
          have hndk : (handles k).Nodup := fpx_nodup_getElem? ks i k hk hnd.2
          have hpk : pathOf nd k = some p := by
            have := ftrav_pathOf_of_at? p k S0 hndk hS0
            rwa [hS0h] at this
          unfold mapAt
          rw [if_neg hh]
          simp only [HTree.at?, mapAtList_eq_map, List.getElem?_map, hk, Option.map_some]
          exact ih k hndk hpk

mutual
  theorem handles_graft_filter (nd : Nat) (S' : HTree) (P : Nat → Bool) : ∀ r : HTree,
      (∀ (q : Path) (S0 : HTree), r.at? q = some S0 → S0.handle = nd →
        (handles S').filter P = (handles S0).filter P) →
      (handles (mapAt nd (fun _ => S') r)).filter P = (handles r).filter P
    | .node h v ks, hx => by
      by_cases hh : h = nd
      · rw [mapAt_node, if_pos hh]
        exact hx [] _ rfl hh
      · rw [mapAt_node_ne _ v ks hh]
        simp only [handles_node, List.filter_cons]
        rw [handlesList_graft_filter nd S' P ks (fun i k hik q S0 hq hS0 =>
          hx (i :: q) S0 (by simp only [HTree.at?, hik]; exact hq) hS0)]
  theorem handlesList_graft_filter (nd : Nat) (S' : HTree) (P : Nat → Bool) : ∀ ks : List HTree,
      (∀ (i : Nat) (k : HTree), ks[i]? = some k → ∀ (q : Path) (S0 : HTree), k.at? q = some S0 → S0.handle = nd →
        (handles S').filter P = (handles S0).filter P) →
      (handlesList (mapAtList nd (fun _ => S') ks)).filter P = (handlesList ks).filter P
    | [], _ => rfl
    | k :: ks, hx => by
      simp only [mapAtList, handlesList_cons, List.filter_append]
      rw [handles_graft_filter nd S' P k (hx 0 k rfl),
        handlesList_graft_filter nd S' P ks (fun i k' hik => hx (i + 1) k' (by simpa using hik))]
end

theorem handles_graft_filter' {r S S' : HTree} {nd : Nat} {top : Path} (P : Nat → Bool) (hnd : (handles r).Nodup)
    (hS : r.at? top = some S) (hSh : S.handle = nd) (hf : (handles S').filter P = (handles S).filter P) :
    (handles (mapAt nd (fun _ => S') r)).filter P = (handles r).filter P := by
  apply handles_graft_filter nd S' P r
  intro q S0 hq hS0
  have : q = top := at?_handle_inj hnd hq hS (by rw [hS0, hSh])
  subst this
  rw [hq] at hS
  cases hS
  exact hf

theorem graft_handle (nd : Nat) (S' : HTree) (hS' : S'.handle = nd) (r : HTree) :
    (mapAt nd (fun _ => S') r).handle = r.handle := by
  cases r with
  | node h v ks =>
    unfold mapAt
    split
    · rename_i hh; rw [hS']; exact hh.symm
    · rfl

theorem mem_handlesList_getElem? : ∀ (ks : List HTree) (x : Nat), x ∈ handlesList ks →
    ∃ (j : Nat) (k : HTree), ks[j]? = some k ∧ x ∈ handles k
  | [], _, h => by simp [handlesList] at h
  | k :: ks, x, h => by
    simp only [handlesList_cons, List.mem_append] at h
    rcases h with h | h
    · exact ⟨0, k, rfl, h⟩
    · obtain ⟨j, k', hj, hk'⟩ := mem_handlesList_getElem? ks x h
      exact ⟨j + 1, k', by simpa using hj, hk'⟩

theorem pathOf_below {r S : HTree} {p : Path} {x : Nat} (hnd : (handles r).Nodup) (hS : r.at? p = some S)
    (hx : x ∈ handlesList S.kids) : ∃ j q, pathOf x r = some (p ++ j :: q) := by
  obtain ⟨j, k, hj, hxk⟩ := mem_handlesList_getElem? S.kids x hx
  have hsome := ftrav_pathOf_isSome x k hxk
  cases hq : pathOf x k with
  | none => rw [hq] at hsome; cases hsome
  | some q =>
    obtain ⟨s, hs, hsh⟩ := ftrav_pathOf_at? x k q hq
    have h1 : r.at? (p ++ [j]) = some k := at?_child hS hj
    have h2 : r.at? ((p ++ [j]) ++ q) = some s := by rw [at?_append', h1]; exact hs
    have := ftrav_pathOf_of_at? _ r s hnd h2
    rw [hsh] at this
    exact ⟨j, q, by rw [this]; simp⟩

/-- **Paths outside the edited subtree** are unchanged when the subtree `S` of `nd` is replaced by `S'`
    with the same top handle, for a handle `x` that `S'` holds only if `S` did. -/
theorem path_stable_graft {r S S' : HTree} {nd : Nat} {path : Path} (hndr : (handles r).Nodup)
    (hS : r.at? path = some S) (hSh : S.handle = nd) (hS'h : S'.handle = nd)
    (hnd' : (handles S').Nodup) {x : Nat} (hsub : x ∈ handles S' → x ∈ handles S)
    {q : Path} (hx : pathOf x r = some q) (hq : path <+: q → q = path) :
    pathOf x (mapAt nd (fun _ => S') r) = some q := by
  have h1 : x ∉ handlesList S.kids := by
    intro hm
    obtain ⟨j, q', hq'⟩ := pathOf_below hndr hS hm
    rw [hx] at hq'
    simp only [Option.some.injEq] at hq'
    have := hq (by rw [hq']; exact List.prefix_append _ _)
    rw [hq'] at this
    have := congrArg List.length this
    simp at this
  have h2 : x ∉ handlesList S'.kids := by
    intro hm
    have hxS' : x ∈ handles S' := by
      cases S' with
      | node a b c => simp only [handles_node, List.mem_cons]; exact Or.inr hm
    have hxS : x ∈ handles S := hsub hxS'
    cases S with
    | node a b c =>
      simp only [handles_node, List.mem_cons] at hxS
      rcases hxS with e | e
      · simp only [HTree.handle] at hSh
        cases S' with
        | node a' b' c' =>
          simp only [HTree.handle] at hS'h
          simp only [handles_node, List.nodup_cons] at hnd'
          simp only [HTree.kids] at hm
          exact hnd'.1 (by rw [hS'h, ← hSh, ← e]; exact hm)
      · exact h1 e
  rw [pathOf_graft' hndr hS hSh hS'h h1 h2, hx]

theorem uniqueKids_eraseList (b : Bool) : ∀ ks : List HTree, validList b ks = true →
    ∀ k ∈ eraseList ks, k.Forall (fun _ ks => UniqueKids ks)
  | [], _ => by simp [eraseList]
  | k :: ks, hv => by
    simp only [validList, Bool.and_eq_true] at hv
    intro k' hk'
    simp only [eraseList, List.mem_cons] at hk'
    rcases hk' with rfl | hk'
    · exact Reach.uniqueKids_erase b k hv.1
    · exact uniqueKids_eraseList b ks hv.2 k' hk'

end HTree

namespace Forest

theorem fpxr_get_of_isElement {f : Forest} {e : Nat} (he : f.isElement e = true) :
    ∃ t, f.get? e = some t ∧ t.value.isElement = true := by
  unfold isElement value? at he
  cases hg : f.get? e with
  | none => rw [hg] at he; simp at he
  | some t => rw [hg] at he; exact ⟨t, rfl, by simpa using he⟩

theorem fpxr_find_map (P : HTree → Bool) (g : HTree → HTree) (r : HTree) : ∀ L : List HTree,
    (∀ y ∈ L, y ≠ r → g y = y ∧ P y = false) → r ∈ L → P (g r) = true → (L.map g).find? P = some (g r)
  | [], _, hr, _ => by cases hr
  | a :: L, h, hr, hp => by
    by_cases ha : a = r
    · subst ha; simp [hp]
    · obtain ⟨h1, h2⟩ := h a (by simp) ha
      have hr' : r ∈ L := by
        rcases List.mem_cons.mp hr with e | e
        · exact absurd e.symm ha
        · exact e
      simp only [List.map_cons, List.find?, h1, h2]
      exact fpxr_find_map P g r L (fun y hy => h y (by simp [hy])) hr' hp

theorem fpxr_rootOf_mem {f : Forest} {x : Nat} {r : HTree} (h : f.rootOf? x = some r) :
    r ∈ f.roots ∧ x ∈ handles r := by
  unfold rootOf? at h
  refine ⟨List.mem_of_find?_eq_some h, ?_⟩
  have := List.find?_some h
  cases hp : pathOf x r with
  | none => rw [hp] at this; cases this
  | some q => exact ftrav_pathOf_mem hp

theorem fpxr_rootOf_of_mem {f : Forest} (hnd : f.allHandles.Nodup) {x : Nat} {r : HTree} (hr : r ∈ f.roots)
    (hx : x ∈ handles r) : f.rootOf? x = some r := by
  have := fpxr_find_map (fun y => (pathOf x y).isSome) id r f.roots
    (fun y hy hne => ⟨rfl, by
      cases hp : pathOf x y with
      | none => rfl
      | some q => exact absurd (Fmap.sameTree _ hnd _ _ hy hr _ (ftrav_pathOf_mem hp) hx) hne⟩)
    hr (ftrav_pathOf_isSome x r hx)
  simpa [rootOf?] using this

theorem fpxr_locate {f : Forest} (hi : f.Inv) {nd : Nat} {r : HTree} (hr : f.rootOf? nd = some r)
    {path : Path} (hp : r.pathOf nd = some path) :
    ∃ D, r ∈ f.roots ∧ f.get? nd = some D ∧ r.at? path = some D ∧ D.handle = nd ∧
      r.erase.at? path = some D.erase := by
  obtain ⟨hrm, _⟩ := fpxr_rootOf_mem hr
  obtain ⟨D, hD, hDh⟩ := ftrav_pathOf_at? nd r path hp
  refine ⟨D, hrm, ?_, hD, hDh, by rw [Reach.at?_erase, hD]; rfl⟩
  have := fpx_get?_of_at? hi.nodup hrm hD
  rwa [hDh] at this

/-- After replacing the subtree of `nd` (which lies in the root `r`), the root tree of a handle `x` of
    the new root is the new root. -/
theorem fpxr_find_graft {f : Forest} (hnd : f.allHandles.Nodup) {nd x : Nat} {r : HTree} (S' : HTree)
    (hr : r ∈ f.roots) (hn : nd ∈ handles r) (hxr : x ∈ handles r)
    (hx : x ∈ handles (mapAt nd (fun _ => S') r)) :
    (mapAtList nd (fun _ => S') f.roots).find? (fun y => (pathOf x y).isSome) =
      some (mapAt nd (fun _ => S') r) := by
  rw [mapAtList_eq_map]
  apply fpxr_find_map _ _ r f.roots _ hr (ftrav_pathOf_isSome x _ hx)
  intro y hy hne
  refine ⟨mapAt_of_not_mem nd _ y (fun hm => hne (Fmap.sameTree _ hnd _ _ hy hr _ hm hn)), ?_⟩
  cases hp : pathOf x y with
  | none => rfl
  | some q => exact absurd (Fmap.sameTree _ hnd _ _ hy hr _ (ftrav_pathOf_mem hp) hxr) hne

/-- The other roots are untouched. -/
theorem fpxr_roots_graft {f : Forest} (hnd : f.allHandles.Nodup) {nd : Nat} {r : HTree} (S' : HTree)
    (hr : r ∈ f.roots) (hn : nd ∈ handles r) :
    mapAtList nd (fun _ => S') f.roots =
      f.roots.map (fun y => if (pathOf nd y).isSome then mapAt nd (fun _ => S') r else y) := by
  rw [mapAtList_eq_map]
  apply List.map_congr_left
  intro y hy
  cases hp : pathOf nd y with
  | none => simp [mapAt_of_not_mem nd _ y (not_mem_of_pathOf_none hp)]
  | some q =>
    have : y = r := Fmap.sameTree _ hnd _ _ hy hr _ (ftrav_pathOf_mem hp) hn
    subst this
    simp

/-- The root of the element theorem, as a replacement of the whole root tree. -/
theorem fpxr_roots_as_root {f : Forest} (hnd : f.allHandles.Nodup) {nd : Nat} {r : HTree} (S' : HTree)
    (hr : r ∈ f.roots) (hn : nd ∈ handles r) :
    mapAtList nd (fun _ => S') f.roots = mapAtList r.handle (fun _ => mapAt nd (fun _ => S') r) f.roots :=
  mapAtList_as_graft nd r.handle _ r hn f.roots hnd (Fmap.findList?_direct f.roots hnd r hr)

/-- The subtree of a live node is structurally valid, so its erasure is `UniqueBelow`. -/
theorem fpxr_uniqueBelow {f : Forest} (hi : f.Inv) {nd : Nat} {S : HTree} (hg : f.get? nd = some S) :
    UniqueBelow S.erase :=
  uniqueBelow_of_uniqueKids _ (Reach.uniqueKids_erase _ S (findList?_valid _ nd f.roots S hi.valid hg))


end Forest
end XotModel
