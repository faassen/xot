/-
  The traversal of `create_missing_prefixes_for_element` (Model/Repair `repairStep`) as structural
  recursion: the name stack and the `pushed` vector are restored after every subtree, `pop().unwrap()`
  never meets an empty vector, and the three collections are a function `collectRec` of the top
  frame, threaded through the nodes in document order.
-/
import XotModel.Lemmas.BasicFacts
import XotModel.Model.Repair
import XotModel.Lemmas.FStack
import XotModel.Lemmas.ScopePath

namespace XotModel.Repair
open XotModel

/-- The top frame after `push`. -/
def pushTop (top decls : List (Nat × Nat)) : List (Nat × Nat) :=
  if decls.isEmpty then top else fullnameInfoNew decls top

theorem top_push (s : FStack) (decls : List (Nat × Nat)) :
    (s.push decls).top = pushTop s.top decls := by
  unfold FStack.push pushTop
  cases decls <;> simp [FStack.top]

/-- `element_fullname(name).is_ok()` as a function of the name's namespace and the top frame. -/
def elemOk (ns : Nat) (top : List (Nat × Nat)) : Bool :=
  ns == Env.noNamespace || ns == Env.xmlNamespace || (elementPrefixByNamespace top ns).isSome

/-- `attribute_fullname(name).is_ok()`. -/
def attrOk (ns : Nat) (top : List (Nat × Nat)) : Bool :=
  ns == Env.noNamespace || ns == Env.xmlNamespace || (attributePrefixByNamespace top ns).isSome

/-- `has_default_namespace` of a top frame. -/
def hasDefault (top : List (Nat × Nat)) : Bool :=
  top.any (fun d => d.1 == Env.emptyPrefix && d.2 != Env.noNamespace)

/-- `missingOfElement` with the interning tables reduced to `namespace_for_name`. -/
def missOf (nsOf : Nat → Nat) (top : List (Nat × Nat)) (name : Nat) (attrNames : List Nat)
    (m : List Nat) : List Nat :=
  attrNames.foldl (fun m a => if !attrOk (nsOf a) top then addMissing m (nsOf a) else m)
    (if !elemOk (nsOf name) top then addMissing m (nsOf name) else m)

/-- `undeclare_nodes.push(node)`: the element is in no namespace and, with its own declarations
    pushed, the empty prefix is bound to a namespace. -/
def needsUndeclare (nsOf : Nat → Nat) (top : List (Nat × Nat)) (t : Tree) (name : Nat) : Bool :=
  nsOf name == Env.noNamespace && hasDefault (pushTop top t.nsDecls)

/-- The declarations the walk pushes for the element. -/
def walkDecls (nsOf : Nat → Nat) (top : List (Nat × Nat)) (t : Tree) (name : Nat) : List (Nat × Nat) :=
  if needsUndeclare nsOf top t name then undeclaredDecls t.nsDecls else t.nsDecls

/-- The top frame the walk holds below the element. -/
def walkTop (nsOf : Nat → Nat) (top : List (Nat × Nat)) (t : Tree) (name : Nat) : List (Nat × Nat) :=
  pushTop top (walkDecls nsOf top t name)

/-- `missing_namespace_ids`, `undeclare_nodes`, `used_prefix_ids`. -/
structure Acc where
  missing : List Nat
  undeclare : List Path
  used : List Nat

mutual
/-- What the traversal of the subtree at `pre` adds to the three collections when it is entered
    with the top frame `top` (`nsOf` = `namespace_for_name`). -/
def collectRec (nsOf : Nat → Nat) (top : List (Nat × Nat)) (pre : Path) : Tree → Acc → Acc
  | .node v ks, acc =>
    match v with
    | .element name =>
      collectKids nsOf (walkTop nsOf top (.node v ks) name) pre 0 ks
        { missing := missOf nsOf (walkTop nsOf top (.node v ks) name) name
            ((Tree.node v ks).attrs.map (·.1)) acc.missing
          undeclare := if needsUndeclare nsOf top (.node v ks) name then acc.undeclare ++ [pre]
            else acc.undeclare
          used := acc.used ++ (Tree.node v ks).nsDecls.map (·.1) }
    | _ => collectKids nsOf top pre 0 ks acc
def collectKids (nsOf : Nat → Nat) (top : List (Nat × Nat)) (pre : Path) : Nat → List Tree → Acc → Acc
  | _, [], acc => acc
  | i, k :: ks, acc => collectKids nsOf top pre (i + 1) ks (collectRec nsOf top (pre ++ [i]) k acc)
end

theorem collectRec_other (nsOf : Nat → Nat) (top : List (Nat × Nat)) (pre : Path) (v : Value)
    (ks : List Tree) (acc : Acc) (hv : v.isElement = false) :
    collectRec nsOf top pre (.node v ks) acc = collectKids nsOf top pre 0 ks acc := by
  cases v with
  | element _ => cases hv
  | _ => simp only [collectRec]

/-- The state with the three collections replaced. -/
def withAcc (st : RepairState) (a : Acc) : RepairState :=
  { st with missing := a.missing, undeclare := a.undeclare, used := a.used }

def accOf (st : RepairState) : Acc := ⟨st.missing, st.undeclare, st.used⟩

theorem withAcc_accOf (st : RepairState) : withAcc st (accOf st) = st := rfl

theorem exceptIsOk_elementFullname (env : Env) (s : FStack) (name : Nat) :
    exceptIsOk (s.elementFullname env name) = elemOk (env.nsOfName name) s.top := by
  rw [FStack.exceptIsOk_elementFullname, FStack.exceptIsOk_elementPrefix]; rfl

theorem exceptIsOk_attributeFullname (env : Env) (s : FStack) (name : Nat) :
    exceptIsOk (s.attributeFullname env name) = attrOk (env.nsOfName name) s.top := by
  rw [FStack.exceptIsOk_attributeFullname, FStack.exceptIsOk_attributePrefix]; rfl

theorem hasDefaultNamespace_eq (s : FStack) : s.hasDefaultNamespace = hasDefault s.top := rfl

theorem missingOfElement_eq (env : Env) (s : FStack) (name : Nat) (as : List Nat) (m : List Nat) :
    missingOfElement env s name as m = missOf env.nsOfName s.top name as m := by
  unfold missingOfElement missOf
  rw [exceptIsOk_elementFullname]
  have : (fun m a => if !exceptIsOk (s.attributeFullname env a) then addMissing m (env.nsOfName a) else m) =
      (fun m a => if !attrOk (env.nsOfName a) s.top then addMissing m (env.nsOfName a) else m) := by
    funext m a
    rw [exceptIsOk_attributeFullname]
  rw [this]

/-- `NodeEdge::Start` of an element, read off the top frame. -/
theorem repairStart_eq (env : Env) (st : RepairState) (pre : Path) (t : Tree) (name : Nat) :
    repairStart env st pre t name =
      { fs := st.fs.push (walkDecls env.nsOfName st.fs.top t name)
        pushed := (!(walkDecls env.nsOfName st.fs.top t name).isEmpty) :: st.pushed
        missing := missOf env.nsOfName (walkTop env.nsOfName st.fs.top t name) name (t.attrs.map (·.1)) st.missing
        undeclare := if needsUndeclare env.nsOfName st.fs.top t name then st.undeclare ++ [pre] else st.undeclare
        used := st.used ++ t.nsDecls.map (·.1)
        panicked := st.panicked } := by
  have hu : (env.nsOfName name == Env.noNamespace && (st.fs.push t.nsDecls).hasDefaultNamespace) =
      needsUndeclare env.nsOfName st.fs.top t name := by
    rw [needsUndeclare, hasDefaultNamespace_eq, top_push]
  unfold repairStart
  simp only [hu]
  cases hc : needsUndeclare env.nsOfName st.fs.top t name with
  | false =>
    simp only [walkDecls, walkTop, hc, Bool.false_eq_true, if_false]
    rw [missingOfElement_eq, top_push]
  | true =>
    simp only [walkDecls, walkTop, hc, if_true, FStack.pop_push]
    rw [missingOfElement_eq, top_push]

theorem repairStep_start_other (env : Env) (st : RepairState) (pre : Path) {v : Value} {ks : List Tree}
    (hv : v.isElement = false) : repairStep env st (.start pre (.node v ks)) = st := by
  cases v with
  | element _ => cases hv
  | _ => rfl

theorem repairStep_stop_other (env : Env) (st : RepairState) (pre : Path) {v : Value} {ks : List Tree}
    (hv : v.isElement = false) : repairStep env st (.stop pre (.node v ks)) = st := by
  simp only [repairStep, Tree.value, hv, Bool.false_eq_true, if_false]

mutual
theorem walk_fold (env : Env) : ∀ (t : Tree) (pre : Path) (st : RepairState),
    (scopeTraverse pre t).foldl (repairStep env) st =
      withAcc st (collectRec env.nsOfName st.fs.top pre t (accOf st))
  | .node v ks, pre, st => by
    rw [foldl_scopeTraverse]
    by_cases hv : v.isElement = true
    · obtain ⟨name, rfl⟩ := eq_element_of_isElement hv
      rw [if_pos (show (Value.element name).isNormal = true from rfl), show repairStep env st (.start pre (.node (.element name) ks)) =
          repairStart env st pre (.node (.element name) ks) name from rfl,
        repairStart_eq, walk_fold_kids env ks pre 0]
      simp only [repairStep, Tree.value, Value.isElement, if_true, withAcc, accOf, collectRec,
        FStack.pop_push, top_push, walkTop]
    · have hv : v.isElement = false := Bool.eq_false_iff.mpr hv
      rw [collectRec_other _ _ _ _ _ _ hv, ← walk_fold_kids env ks pre 0 st]
      split
      · rw [repairStep_start_other env _ pre hv, repairStep_stop_other env _ pre hv]
      · rfl
theorem walk_fold_kids (env : Env) : ∀ (ks : List Tree) (pre : Path) (i : Nat) (st : RepairState),
    (scopeTraverse.go pre i ks).foldl (repairStep env) st =
      withAcc st (collectKids env.nsOfName st.fs.top pre i ks (accOf st))
  | [], pre, i, st => by simp [scopeTraverse.go, collectKids, withAcc_accOf]
  | k :: ks, pre, i, st => by
    rw [foldl_go_cons, walk_fold env k, walk_fold_kids env ks]
    simp [collectKids, withAcc, accOf]
end

/-- The loop of `create_missing_prefixes_for_element`: no panic, and the collections are
    `collectRec` from the inherited declarations. -/
theorem repairWalk_eq (env : Env) (inherited : List (Nat × Nat)) (path : Path) (sub : Tree) :
    repairWalk env inherited path sub =
      withAcc { fs := FStack.new inherited } (collectRec env.nsOfName inherited path sub ⟨[], [], []⟩) := by
  unfold repairWalk
  rw [walk_fold]
  rfl

end XotModel.Repair
