/-
  Reach: from the forest invariant to the structural hypotheses of the tree-level theorems, node by node.

  `validTree strict r` (Model/ForestInv.lean, the tree clause of `Forest.Inv`) is a conjunction of
  LOCAL conditions (`Reach.NodeValid`: what may sit under a value, ordering, unique keys, no adjacent
  text) at every node of the handle tree `r`.  `Reach.forall_erase` turns every consequence `P` of the
  local conditions into `(erase r).Forall P` (Model/Valid.lean); its instances are the clauses of
  `StructValid` (`OrderedKids`, `KindsOk`, `UniqueKids`) and, for strict trees, `NoAdjacentText`.
-/
import XotModel.Lemmas.HTreeBasic
import XotModel.Lemmas.BasicFacts
import XotModel.Model.Valid
import XotModel.Model.FtravSpec

namespace XotModel.Reach
open XotModel HTree

/-! ### The local clauses of `validTree` -/

/-- What `validTree strict` says at one node (value `v`, children `ks`). -/
structure NodeValid (strict : Bool) (v : Value) (ks : List HTree) : Prop where
  allowed : ∀ k ∈ ks, kidAllowed v k.value = true
  ordered : kidsOrdered ks = true
  attrsUnique : keysUnique .attribute ks = true
  nsUnique : keysUnique .namespace ks = true
  noAdj : strict = true → noAdjacentText ks = true

theorem validTree_node {b : Bool} {h : Nat} {v : Value} {ks : List HTree}
    (hv : validTree b (.node h v ks) = true) : NodeValid b v ks ∧ validList b ks = true := by
  simp only [validTree, Bool.and_eq_true, List.all_eq_true, Bool.or_eq_true, Bool.not_eq_true'] at hv
  obtain ⟨⟨⟨⟨⟨h1, h2⟩, h3⟩, h4⟩, h5⟩, h6⟩ := hv
  refine ⟨⟨h1, h2, h3, h4, fun hb => ?_⟩, h6⟩
  rcases h5 with h5 | h5
  · rw [hb] at h5; cases h5
  · exact h5

/-- Every parentless tree of a forest with the invariant is structurally valid — strictly (no
    adjacent text) as long as consolidation was never switched off. -/
theorem validTree_root {f : Forest} (hi : f.Inv) {r : HTree} (hr : r ∈ f.roots) :
    validTree (!f.everOff) r = true := validList_all _ _ hi.valid r hr

/-- … and so is every subtree of it. -/
theorem validTree_at (b : Bool) : ∀ (p : Path) (r s : HTree), validTree b r = true → r.at? p = some s →
    validTree b s = true
  | [], r, s, hv, hs => by
    simp only [HTree.at?, Option.some.injEq] at hs
    subst hs; exact hv
  | i :: p, .node h v ks, s, hv, hs => by
    simp only [HTree.at?] at hs
    cases hk : ks[i]? with
    | none => rw [hk] at hs; cases hs
    | some k =>
      rw [hk] at hs
      exact validTree_at b p k s (validList_all b ks (validTree_node hv).2 k (List.mem_of_getElem? hk)) hs

mutual
  /-- Whatever follows from the local clauses at a node holds at every node of the erased tree. -/
  theorem forall_erase {P : Value → List Tree → Prop} (b : Bool)
      (hP : ∀ v ks, NodeValid b v ks → P v (eraseList ks)) :
      ∀ r : HTree, validTree b r = true → (erase r).Forall P
    | .node h v ks => by
      intro hv
      obtain ⟨hn, hl⟩ := validTree_node hv
      simp only [erase]
      rw [Tree.Forall]
      exact ⟨hP v ks hn, forallList_erase b hP ks hl⟩
  theorem forallList_erase {P : Value → List Tree → Prop} (b : Bool)
      (hP : ∀ v ks, NodeValid b v ks → P v (eraseList ks)) :
      ∀ ks : List HTree, validList b ks = true → Tree.Forall.forallList P (eraseList ks)
    | [] => by intro _; simp [eraseList, Tree.Forall.forallList]
    | k :: ks => by
      intro hv
      simp only [validList, Bool.and_eq_true] at hv
      simp only [eraseList, Tree.Forall.forallList]
      exact ⟨forall_erase b hP k hv.1, forallList_erase b hP ks hv.2⟩
end

/-! ### `Tree.Forall`: monotone, conjunction, subtrees -/

mutual
  theorem forall_and {p q : Value → List Tree → Prop} :
      ∀ t : Tree, t.Forall p → t.Forall q → t.Forall (fun v ks => p v ks ∧ q v ks)
    | .node v ks, hp, hq => by
      rw [Tree.Forall] at hp hq ⊢
      exact ⟨⟨hp.1, hq.1⟩, forallList_and ks hp.2 hq.2⟩
  theorem forallList_and {p q : Value → List Tree → Prop} :
      ∀ ks : List Tree, Tree.Forall.forallList p ks → Tree.Forall.forallList q ks →
        Tree.Forall.forallList (fun v ks => p v ks ∧ q v ks) ks
    | [], _, _ => trivial
    | k :: ks, hp, hq => ⟨forall_and k hp.1 hq.1, forallList_and ks hp.2 hq.2⟩
end

theorem mem_eraseList {ks : List HTree} {k : Tree} (h : k ∈ eraseList ks) :
    ∃ k' ∈ ks, erase k' = k := by
  rw [eraseList_map] at h
  exact List.mem_map.mp h

theorem at?_erase : ∀ (p : Path) (r : HTree), r.erase.at? p = (r.at? p).map erase
  | [], r => by simp [Tree.at?, HTree.at?]
  | i :: p, .node h v ks => by
    simp only [erase, Tree.at?, HTree.at?, eraseList_getElem?]
    cases hk : ks[i]? with
    | none => rfl
    | some k => simpa using at?_erase p k

theorem phase_eq_rank (v : Value) : v.phase = v.category.rank := by
  cases v <;> rfl

theorem isLeafKind_of_not_normal {v : Value} (h : ¬ v.isNormal = true) : v.isLeafKind = true := by
  cases v <;> first | rfl | exact absurd rfl h

/-- `kidsOrdered` compares neighbours; ranks are ordered, so the first child is below all others. -/
theorem kidsOrdered_cons : ∀ (ks : List HTree) (a : HTree), kidsOrdered (a :: ks) = true →
    (∀ k ∈ ks, a.value.category.rank ≤ k.value.category.rank) ∧ kidsOrdered ks = true
  | [], _, _ => ⟨fun _ h => (by cases h), rfl⟩
  | b :: ks, a, h => by
    simp only [kidsOrdered, Bool.and_eq_true, decide_eq_true_eq] at h
    obtain ⟨hab, hb⟩ := h
    obtain ⟨ih, _⟩ := kidsOrdered_cons ks b hb
    refine ⟨fun k hk => ?_, hb⟩
    rcases List.mem_cons.mp hk with rfl | hk
    · exact hab
    · exact Nat.le_trans hab (ih k hk)

/-- Ordering: namespaces, attributes, normal nodes. -/
theorem orderedKids_eraseList : ∀ ks : List HTree, kidsOrdered ks = true → OrderedKids (eraseList ks)
  | [], _ => by simp [OrderedKids, eraseList]
  | a :: ks, h => by
    obtain ⟨h1, h2⟩ := kidsOrdered_cons ks a h
    unfold OrderedKids
    simp only [eraseList, List.pairwise_cons]
    refine ⟨fun k hk => ?_, orderedKids_eraseList ks h2⟩
    obtain ⟨k', hk', rfl⟩ := mem_eraseList hk
    rw [erase_value, erase_value, phase_eq_rank, phase_eq_rank]
    exact h1 k' hk'

theorem kidAllowed_spec {v k : Value} (h : kidAllowed v k = true) :
    v.isLeafKind = false ∧ (v.isElement = false → k.isNormal = true) ∧ k.isDocument = false := by
  cases v with
  | document =>
    rw [kidAllowed, Bool.and_eq_true, Bool.not_eq_true'] at h
    exact ⟨rfl, fun _ => h.1, h.2⟩
  | element n =>
    rw [kidAllowed, Bool.not_eq_true'] at h
    exact ⟨rfl, fun he => (nomatch he), h⟩
  | _ => cases h

theorem kindsOk_eraseList {v : Value} {ks : List HTree} (h : ∀ k ∈ ks, kidAllowed v k.value = true) :
    KindsOk v (eraseList ks) := by
  refine ⟨fun hl => ?_, fun he k hk => ?_, fun k hk => ?_⟩
  · cases ks with
    | nil => rfl
    | cons k ks => rw [(kidAllowed_spec (h k (List.mem_cons_self ..))).1] at hl; cases hl
  · obtain ⟨k', hk', rfl⟩ := mem_eraseList hk
    rw [erase_value]
    exact (kidAllowed_spec (h k' hk')).2.1 he
  · obtain ⟨k', hk', rfl⟩ := mem_eraseList hk
    rw [erase_value]
    exact (kidAllowed_spec (h k' hk')).2.2

theorem filterMap_eq_map_filter {α β : Type} (p : α → Bool) (g : α → β) (f : α → Option β)
    (hf : ∀ a, f a = if p a then some (g a) else none) :
    ∀ l : List α, l.filterMap f = (l.filter p).map g
  | [] => rfl
  | a :: l => by
    rw [List.filterMap_cons, List.filter_cons, hf a, filterMap_eq_map_filter p g f hf l]
    cases p a <;> rfl

theorem attrNames_eraseList (ks : List HTree) :
    attrNames (eraseList ks) =
      (ks.filter (fun k => k.value.category == .attribute)).map (fun k => Forest.entryKey k.value) := by
  rw [attrNames, eraseList_map, List.filterMap_map]
  exact filterMap_eq_map_filter _ _ _ (fun k => by rw [Function.comp, erase_value]; cases k.value <;> rfl) ks

theorem nsPrefixes_eraseList (ks : List HTree) :
    nsPrefixes (eraseList ks) =
      (ks.filter (fun k => k.value.category == .namespace)).map (fun k => Forest.entryKey k.value) := by
  rw [nsPrefixes, eraseList_map, List.filterMap_map]
  exact filterMap_eq_map_filter _ _ _ (fun k => by rw [Function.comp, erase_value]; cases k.value <;> rfl) ks

theorem uniqueKids_eraseList {ks : List HTree} (ha : keysUnique .attribute ks = true)
    (hn : keysUnique .namespace ks = true) : UniqueKids (eraseList ks) := by
  refine ⟨?_, ?_⟩
  · rw [attrNames_eraseList]; simpa [keysUnique] using ha
  · rw [nsPrefixes_eraseList]; simpa [keysUnique] using hn

theorem noAdjText_eraseList : ∀ ks : List HTree, noAdjText (eraseList ks) = noAdjacentText ks
  | [] => rfl
  | [a] => rfl
  | a :: b :: ks => by
    have ih := noAdjText_eraseList (b :: ks)
    simp only [eraseList] at ih ⊢
    simp only [noAdjText, noAdjacentText, erase_value, ih]

/-! ### The four clauses, at every node of the erased tree -/

theorem orderedKids_erase (b : Bool) (r : HTree) (hv : validTree b r = true) :
    (erase r).Forall (fun _ ks => OrderedKids ks) :=
  forall_erase b (fun _ ks hn => orderedKids_eraseList ks hn.ordered) r hv

theorem kindsOk_erase (b : Bool) (r : HTree) (hv : validTree b r = true) : (erase r).Forall KindsOk :=
  forall_erase b (fun _ _ hn => kindsOk_eraseList hn.allowed) r hv

theorem uniqueKids_erase (b : Bool) (r : HTree) (hv : validTree b r = true) :
    (erase r).Forall (fun _ ks => UniqueKids ks) :=
  forall_erase b (fun _ _ hn => uniqueKids_eraseList hn.attrsUnique hn.nsUnique) r hv

/-- Strict trees (consolidation never off) have no adjacent text nodes anywhere. -/
theorem noAdjacentText_erase (r : HTree) (hv : validTree true r = true) : NoAdjacentText (erase r) :=
  forall_erase true (fun _ ks hn => by rw [noAdjText_eraseList]; exact hn.noAdj rfl) r hv

theorem structValid_erase (b : Bool) (r : HTree) (hv : validTree b r = true)
    (hd : r.value.isDocument = true) : StructValid (erase r) :=
  ⟨by rw [erase_value]; exact hd, orderedKids_erase b r hv, kindsOk_erase b r hv, uniqueKids_erase b r hv⟩

/-- The structural part of `StructValid` (everything but "the root is a document"), as one
    predicate on trees: it holds of the erasure of EVERY valid handle tree, fragments (element,
    text, … roots) included, and of every subtree of such a tree. -/
structure Structural (t : Tree) : Prop where
  ordered : t.Forall (fun _ ks => OrderedKids ks)
  kinds : t.Forall KindsOk
  unique : t.Forall (fun _ ks => UniqueKids ks)

theorem structural_erase (b : Bool) (r : HTree) (hv : validTree b r = true) : Structural (erase r) :=
  ⟨orderedKids_erase b r hv, kindsOk_erase b r hv, uniqueKids_erase b r hv⟩

theorem Structural.sub {t s : Tree} (h : Structural t) {p : Path} (hs : t.at? p = some s) : Structural s :=
  ⟨Tree.forall_sub _ p t s h.ordered hs, Tree.forall_sub _ p t s h.kinds hs, Tree.forall_sub _ p t s h.unique hs⟩

theorem Structural.of_structValid {t : Tree} (h : StructValid t) : Structural t := ⟨h.2.1, h.2.2.1, h.2.2.2⟩

theorem Structural.node {v : Value} {ks : List Tree} (h : Structural (.node v ks)) :
    OrderedKids ks ∧ KindsOk v ks ∧ UniqueKids ks ∧ ∀ k ∈ ks, Structural k := by
  obtain ⟨h1, h2, h3⟩ := h
  rw [Tree.forall_node] at h1 h2 h3
  exact ⟨h1.1, h2.1, h3.1, fun k hk => ⟨h1.2 k hk, h2.2 k hk, h3.2 k hk⟩⟩

/-- **Every root of a forest with the invariant erases to a structurally valid tree.** -/
theorem structural_root {f : Forest} (hi : f.Inv) {r : HTree} (hr : r ∈ f.roots) : Structural r.erase :=
  structural_erase _ r (validTree_root hi hr)

/-- … `StructValid` when the root is a document node. -/
theorem structValid_root {f : Forest} (hi : f.Inv) {r : HTree} (hr : r ∈ f.roots)
    (hd : r.value.isDocument = true) : StructValid r.erase :=
  structValid_erase _ r (validTree_root hi hr) hd

/-- … and has no adjacent text nodes while consolidation has never been switched off. -/
theorem noAdjacentText_root {f : Forest} (hi : f.Inv) (hoff : f.everOff = false) {r : HTree}
    (hr : r ∈ f.roots) : NoAdjacentText r.erase := by
  have := validTree_root hi hr
  rw [hoff] at this
  exact noAdjacentText_erase r this

end XotModel.Reach
