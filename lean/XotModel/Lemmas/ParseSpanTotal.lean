/-
  C17_total: in an accepted tree every element has its `ElementStart` / `ElementEnd` spans and,
  for each of its attribute names, the `AttributeName` / `AttributeValue` spans; every text node
  its `Text` span, every comment its `Comment` span, every PI its `PiTarget` span and, when it
  has content, its `PiContent` span — at every depth.  The description of an accepted tree (`Desc`,
  Lemmas/SpanDesc*) says WHICH span each of these keys holds; that the key is there is read off it.
-/
import XotModel.Lemmas.SpanDesc

namespace XotModel

/-- The keys a node of value `v` with children `ks` must have at `path`. -/
def nodeKeys (m : SpanMap) (path : Path) (v : Value) (ks : List Tree) : Prop :=
  match v with
  | .element _ =>
    HasKey m ⟨path, .elementStart⟩ ∧ HasKey m ⟨path, .elementEnd⟩ ∧
    ∀ n ∈ attrNames ks, HasKey m ⟨path, .attributeName n⟩ ∧ HasKey m ⟨path, .attributeValue n⟩
  | .text _ => HasKey m ⟨path, .text⟩
  | .comment _ => HasKey m ⟨path, .comment⟩
  | .pi _ d => HasKey m ⟨path, .piTarget⟩ ∧ (d.isSome = true → HasKey m ⟨path, .piContent⟩)
  | _ => True

/-- Every node of the tree rooted at `path` has its keys. -/
def Covered (m : SpanMap) : Path → Tree → Prop
  | path, .node v ks => nodeKeys m path v ks ∧ coveredList path 0 ks
where
  coveredList : Path → Nat → List Tree → Prop
    | _, _, [] => True
    | path, i, k :: ks => Covered m (path ++ [i]) k ∧ coveredList path (i + 1) ks

theorem nodeKeys_mono {m m' : SpanMap} (h : KeysSub m m') {path : Path} {v : Value} {ks : List Tree}
    (hk : nodeKeys m path v ks) : nodeKeys m' path v ks := by
  cases v with
  | element n => exact ⟨h _ hk.1, h _ hk.2.1, fun x hx => ⟨h _ (hk.2.2 x hx).1, h _ (hk.2.2 x hx).2⟩⟩
  | text s => exact h _ hk
  | comment s => exact h _ hk
  | pi t d => exact ⟨h _ hk.1, fun hd => h _ (hk.2 hd)⟩
  | document => trivial
  | «attribute» n v => trivial
  | «namespace» p n => trivial

mutual
theorem covered_mono {m m' : SpanMap} (h : KeysSub m m') : ∀ (t : Tree) (path : Path), Covered m path t → Covered m' path t
  | .node v ks, path, hc => by
    rw [Covered] at hc ⊢
    exact ⟨nodeKeys_mono h hc.1, coveredList_mono h ks path 0 hc.2⟩
theorem coveredList_mono {m m' : SpanMap} (h : KeysSub m m') :
    ∀ (ks : List Tree) (path : Path) (i : Nat), Covered.coveredList m path i ks → Covered.coveredList m' path i ks
  | [], _, _, _ => trivial
  | k :: ks, path, i, hc => ⟨covered_mono h k _ hc.1, coveredList_mono h ks path (i + 1) hc.2⟩
end

/-! ### Coverage from the description -/

variable {ts : List Token} {m : SpanMap} {env : Env}

theorem nodeKeys_of_facts {stack : NsStack} {path : Path} {v : Value} {ks : List Tree}
    (h : NodeFacts ts m.get env stack path v ks) : nodeKeys m path v ks := by
  cases v with
  | element id =>
    obtain ⟨⟨⟨_, _, _, _, hs, _⟩, hattrs⟩, _, _, _, _, he, _⟩ := h
    refine ⟨hasKey_of_get hs, hasKey_of_get he, fun n hn => ?_⟩
    obtain ⟨k, hk, hkn⟩ := List.mem_filterMap.1 hn
    cases hv : k.value with
    | «attribute» n' v' =>
      rw [hv] at hkn
      cases hkn
      obtain ⟨_, _, _, _, _, h1, h2, _⟩ := hattrs k hk _ _ hv
      exact ⟨hasKey_of_get h1, hasKey_of_get h2⟩
    | _ => rw [hv] at hkn; cases hkn
  | text s => obtain ⟨_, _, _, _, _, hg⟩ := h; exact hasKey_of_get hg
  | comment s => obtain ⟨_, _, _, hg, _⟩ := h; exact hasKey_of_get hg
  | pi id d =>
    obtain ⟨_, content, _, _, hg, _, hd, hc, _⟩ := h
    refine ⟨hasKey_of_get hg, fun hsome => ?_⟩
    cases content with
    | none => rw [hd] at hsome; cases hsome
    | some c => exact hasKey_of_get (hc c rfl)
  | _ => trivial

mutual
theorem covered_of_desc : ∀ (t : Tree) (stack : NsStack) (path : Path),
    Desc ts m.get env stack path t → Covered m path t
  | .node v ks, stack, path, h => by
    rw [Desc] at h
    rw [Covered]
    exact ⟨nodeKeys_of_facts h.1, coveredList_of_descList ks _ path 0 h.2⟩
theorem coveredList_of_descList : ∀ (ks : List Tree) (stack : NsStack) (path : Path) (i : Nat),
    Desc.descList ts m.get env stack path i ks → Covered.coveredList m path i ks
  | [], _, _, _, _ => trivial
  | k :: ks, stack, path, i, h => ⟨covered_of_desc k stack _ h.1, coveredList_of_descList ks stack path (i + 1) h.2⟩
end

/-- C17_total: every node of an accepted tree has its spans. -/
theorem build_covered {mode : Mode} {len : Nat} {env : Env} {ts : List Token} {lexErr : Option Nat} {p : Parsed}
    (h : build mode len env ts lexErr = .ok p) : Covered p.spans [] p.tree :=
  covered_of_desc p.tree baseStack [] (build_desc h)

/-! ### The children of the document node -/

/-- Children of the document node in document order, from index `i` on. -/
def FwdSpans (m : SpanMap) : Nat → List Tree → Prop
  | _, [] => True
  | i, k :: rest =>
    (k.value.isElement = true → HasKey m ⟨[i], .elementStart⟩) ∧
    (k.value.isText = true → HasKey m ⟨[i], .text⟩) ∧ FwdSpans m (i + 1) rest

theorem fwdSpans_of_covered (m : SpanMap) : ∀ (ks : List Tree) (i : Nat), Covered.coveredList m [] i ks → FwdSpans m i ks
  | [], _, _ => trivial
  | .node v kk :: ks, i, h => by
    obtain ⟨hk, hrest⟩ := h
    rw [Covered] at hk
    refine ⟨fun he => ?_, fun ht => ?_, fwdSpans_of_covered m ks (i + 1) hrest⟩
    · cases v with
      | element n => exact hk.1.1
      | _ => cases he
    · cases v with
      | text s => exact hk.1
      | _ => cases ht

/-- The element and text children of the document node have their spans: the top level of `build_covered`. -/
theorem build_total_top {m : Mode} {len : Nat} {env : Env} {ts : List Token} {lexErr : Option Nat} {p : Parsed}
    (h : build m len env ts lexErr = .ok p) : FwdSpans p.spans 0 p.tree.kids := by
  have hc := build_covered h
  cases hp : p.tree with
  | node v ks =>
    rw [hp, Covered] at hc
    exact fwdSpans_of_covered _ _ 0 hc.2

end XotModel
