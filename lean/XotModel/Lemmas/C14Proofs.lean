/-
  Proofs of C14 property theorems kept out of Props/C14.lean, which holds statements and short proofs: the
  pretty-token stream, `where` entries, the declaration grammar, the doctype at the document top; and the token of
  a text node over trees (CDATA sections under a listed element, `serialize_text` elsewhere).
-/
import XotModel.Lemmas.Output
import XotModel.Lemmas.PrettyStack
import XotModel.Lemmas.PrettyTrace
import XotModel.Lemmas.PrettyBetween
import XotModel.Lemmas.Doctype
import XotModel.Lemmas.Prolog
import XotModel.Lemmas.XmlDeclRest
import XotModel.Lemmas.Entity
import XotModel.Lemmas.Events

/-! ## Pretty tokens, declaration, doctype -/

namespace XotModel
open Gen

theorem pretty_content (esc : Escapers) (env : Env) (pr : TokenParams) (sup : List Nat) (t : Tree)
    (start : Path) (ks : List (Path × Output × PrettyOutputToken))
    (h : prettyTokensWith esc env pr sup t start = .ok ks) :
    tokensWith esc env pr t start = .ok (ks.map erasePretty) := by
  have := prettyAll_erase esc env pr t sup [] (initStack t start) (genOutputs t start)
  rw [(prettyTokensWith_ok_iff esc env pr t sup start ks).mp h] at this
  exact (tokensWith_ok_iff esc env pr t start _).mpr this

theorem pretty_string_bytes (esc : Escapers) (env : Env) (pr : TokenParams) (sup : List Nat) (t : Tree)
    (start : Path) (s : Str) (h : serializePrettyWith esc env pr sup t start = .ok s) :
    ∃ ks : List (Path × Output × PrettyOutputToken),
      tokensWith esc env pr t start = .ok (ks.map erasePretty) ∧
      s = ks.flatMap (fun k => prettyTokenBytes k.2.2) ∧
      ∀ k ∈ ks, prettyTokenBytes k.2.2 =
        (if k.2.2.indentation > 0 then indentBytes k.2.2.indentation else [])
          ++ tokenBytes (erasePretty k).2.2 ++ (if k.2.2.newline then prettyNewline else []) := by
  rw [serializePrettyWith_eq_prettyAll] at h
  cases hr : prettyAllWith esc env pr sup t [] (initStack t start) (genOutputs t start) with
  | ok ks =>
    rw [hr] at h
    cases h
    refine ⟨ks, pretty_content esc env pr sup t start ks ((prettyTokensWith_ok_iff esc env pr t sup start ks).mpr hr),
      rfl, ?_⟩
    intro k _
    obtain ⟨p, o, ind, sp, tx, nl⟩ := k
    cases sp <;> simp [prettyTokenBytes, tokenBytes, erasePretty]
  | err e => rw [hr] at h; cases h
  | panic => rw [hr] at h; cases h

theorem pretty_where_tree_mixed (esc : Escapers) (env : Env) (pr : TokenParams) (sup : List Nat)
    (t : Tree) (start : Path) (n : Tree) (inScope : List (Nat × Nat)) (hat : t.at? start = some n)
    (hs : namespacesInScope t start = some inScope)
    (ks : List (Path × Output × PrettyOutputToken))
    (h : prettyTokensWith esc env pr sup t start = .ok ks)
    (k : Path × Output × PrettyOutputToken) (hk : k ∈ ks)
    (hw : k.2.2.indentation > 0 ∨ k.2.2.newline = true) :
    ∃ rel, k.1 = start ++ rel ∧
      ∀ a name, OpenAbove n rel a → a.value = .element name → a.firstChild?.isSome = true →
        hasInlineChild a = false ∧ sup.contains name = false := by
  obtain ⟨rel, node, hp, hnode, hm⟩ :=
    pretty_where_notMixed sup t esc env pr start n inScope hat hs ks h k hk hw
  rw [pentriesAbove_eq_pretty] at hm
  exact ⟨rel, hp, Pretty.not_mixed_above _ _ n rel hm⟩

theorem doctype_document_top (t : Tree) (start : Path) (i : Nat) (doc el : Tree)
    (hdoc : t.at? start = some doc) (hel : t.at? (start ++ [i]) = some el) :
    (doctypeStack t (start ++ [i]) el).top = ((initStack t start).push el.nsDecls).top := by
  obtain ⟨rest, hanc⟩ := ancestorsOrSelf_of_at? t start doc hdoc
  have hanc2 := ancestorsOrSelf_child t start i _ el hanc hel
  unfold doctypeStack initStack
  rw [namespacesInScope_of_chain hanc, namespacesInScope_of_chain hanc2]
  simp only [Option.getD_some, FStack.new, FStack.push]
  by_cases he : el.nsDecls.isEmpty = true
  · simp only [he, if_true, FStack.top, List.headD_cons]
    have hnil : el.nsDecls = [] := by simpa using he
    simp [namespacesInScopeChain, traverseChain, hnil, traverseDecls]
  · simp only [he, FStack.top, List.headD_cons]
    exact fullnameInfoNew_inScope_child el (doc :: rest)

theorem pretty_content_conv (esc : Escapers) (env : Env) (pr : TokenParams) (sup : List Nat)
    (t : Tree) (start : Path) (l : List (Path × Output × OutputToken))
    (h : tokensWith esc env pr t start = .ok l) :
    ∃ ks, prettyTokensWith esc env pr sup t start = .ok ks ∧ ks.map erasePretty = l := by
  obtain ⟨ks, hk, he⟩ := renderAll_lift_pretty esc env pr t sup [] _ _ _ ((tokensWith_ok_iff esc env pr t start l).mp h)
  exact ⟨ks, (prettyTokensWith_ok_iff esc env pr t sup start ks).mpr hk, he⟩

theorem pretty_where_entry (sup : List Nat) (ps : PStack) (name : Nat) (ks : List Tree)
    (hc : (Tree.node (.element name) ks).firstChild?.isSome = true) :
    (prettify sup ps (.node (.element name) ks) .startTagClose).1 =
      (if hasInlineChild (.node (.element name) ks) || sup.contains name then StackEntry.mixed
       else StackEntry.unmixed (elementSpace (.node (.element name) ks))) :: ps := by
  unfold prettify
  simp only [hc, if_true, Tree.value]
  by_cases hi : hasInlineChild (.node (.element name) ks) = true
  · simp [hi]
  · by_cases hs : sup.contains name = true
    · have : name ∈ sup := by simpa using hs
      simp [hi, this]
    · have : name ∉ sup := by simpa using hs
      simp [hi, this]

theorem decl_grammar (esc : Escapers) (env : Env) (p : XmlParams) (t : Tree) (start : Path) (s : Str)
    (h : serializeXmlStringWith esc env p t start = .ok s)
    (henc : ∀ d e, p.declaration = some d → d.encoding = some e → Prolog.isEncName e = true)
    (hids : ∀ d, p.doctype = some d → Prolog.idsOk d = true)
    (hname : ∀ name, doctypeName env t start = .ok name → Prolog.isXmlName name = true) :
    ∃ dt body, serializeXmlStringWith esc env p.body t start = .ok body ∧
      s = p.declBytes ++ dt ++ body ∧
      (∀ d, p.declaration = some d → Prolog.xmlDecl s = some ('\n' :: (dt ++ body))) ∧
      (p.declaration = none → p.declBytes = []) ∧
      (∀ d, p.doctype = some d → Prolog.doctypeDecl (dt ++ body) = some ('\n' :: body)) ∧
      (p.doctype = none → dt = []) := by
  obtain ⟨dt, body, hdt, hb, hs⟩ := xmlString_split esc env p t start s h
  refine ⟨dt, body, hb, hs, ?_, ?_, ?_, ?_⟩
  · intro d hd
    rw [hs, List.append_assoc]
    simp only [XmlParams.declBytes, hd]
    exact Prolog.xmlDecl_written d _ (fun e he => henc d e hd he)
  · intro hd; simp [XmlParams.declBytes, hd]
  · intro d hd
    simp only [DoctypeWritten, hd] at hdt
    obtain ⟨name, hn, rfl⟩ := hdt
    exact Prolog.doctypeDecl_written d name body (hname name hn) (hids d hd)
  · intro hd; simpa [DoctypeWritten, hd] using hdt

theorem pretty_text_token_plain (esc : Escapers) (env : Env) (pr : TokenParams) (sup : List Nat)
    (t : Tree) (start : Path) (ks : List (Path × Output × PrettyOutputToken))
    (h : prettyTokensWith esc env pr sup t start = .ok ks)
    (p : Path) (c : Str) (tok : PrettyOutputToken) (hk : (p, Output.text c, tok) ∈ ks) :
    tok.indentation = 0 ∧ tok.newline = false := by
  obtain ⟨h1, h2⟩ := pretty_token_kinds sup t esc env pr start ks h _ hk
  constructor
  · cases hi : tok.indentation with
    | zero => rfl
    | succ m => exact absurd (h1 (by simp [hi])) (by simp [Output.opensMarkup])
  · cases hn : tok.newline with
    | false => rfl
    | true => exact absurd (h2 hn) (by simp [Output.closesMarkup])

end XotModel

/-! ## The token of a text node

  Under a CDATA-section element it is `serialize_cdata text` (CDATA sections, `&#xD;` between sections for CR)
  and reads back as the text; everywhere else it is `serialize_text` (with or without `unescaped_gt`) and
  `parse_text` gives back the text.
-/

namespace XotModel
open Gen

/-- `parse_text (serialize_text s) = s`, with or without `unescaped_gt`. -/
theorem parseText_serializeText (gt : Bool) (s : Str) : parseText (serializeText gt s) = .ok s := by
  cases gt with
  | false =>
    have ht : tableOk (('>', textGtEscape) :: textEscapes) = true ∧
        tableCovers false (('>', textGtEscape) :: textEscapes) = true := by decide
    unfold parseText parseContent
    rw [serializeText_false_eq]
    exact parse_escape_roundtrip false _ ht.1 ht.2 s 0 0
  | true => exact gt_text_roundtrip s

theorem isCdataElement_iff (pr : TokenParams) (parent : Option Tree) :
    isCdataElement pr parent = true ↔
      ∃ par name, parent = some par ∧ par.value = .element name ∧ name ∈ pr.cdataSectionElements := by
  unfold isCdataElement
  cases parent with
  | none => simp
  | some par =>
    cases hv : par.value <;> simp [hv]

/-- The token `render_output` returns for a text event. -/
theorem render_text_token (env : Env) (pr : TokenParams) (s s' : FStack) (node : Tree) (parent : Option Tree)
    (c : Str) (tok : OutputToken)
    (h : renderXmlWith xmlEscapers env pr s node parent (.text c) = .ok (s', tok)) :
    tok.space = false ∧
    (if isCdataElement pr parent then
       tok.text = serializeCdata c ∧ cdataSectionsContent tok.text = some c
     else tok.text = serializeText pr.unescapedGt c ∧ parseText tok.text = .ok c) := by
  simp only [renderXmlWith, xmlEscapers] at h
  split at h
  · rename_i hc
    cases h
    simp [hc, cdata_sections_roundtrip]
  · rename_i hc
    cases h
    simp [hc, parseText_serializeText]

variable (esc : Escapers) (env : Env) (pr : TokenParams) (t : Tree)

/-- Every token of a successful stream is what `render_output` returned for its event. -/
theorem renderAll_rendered (s : FStack) (evs : List (Path × Output)) (ks : List (Path × Output × OutputToken))
    (h : renderAllWith esc env pr t s evs = .ok ks) :
    ks.map (fun k => (k.1, k.2.1)) = evs ∧
    ∀ k ∈ ks, ∃ s1 s2, renderAtWith esc env pr t s1 k.1 k.2.1 = .ok (s2, k.2.2) := by
  induction evs generalizing s ks with
  | nil =>
    simp only [renderAllWith] at h
    cases h
    simp
  | cons po evs ih =>
    obtain ⟨p, o⟩ := po
    obtain ⟨s', tok, l, hr, hrest, rfl⟩ := renderAll_cons_ok esc env pr t h
    obtain ⟨i1, i2⟩ := ih _ _ hrest
    refine ⟨by simp [i1], fun k hk => ?_⟩
    rcases List.mem_cons.mp hk with rfl | hk
    · exact ⟨s, s', hr⟩
    · exact i2 k hk

/-- Token level, over trees: every text token of `Xot::tokens` belongs to a text node of the
    subtree with that value; under a listed element it is `serialize_cdata` of the value and the
    section reader gives the value back, anywhere else `parse_text` does. -/
theorem cdata_token (start : Path) (ks : List (Path × Output × OutputToken))
    (h : tokensWith xmlEscapers env pr t start = .ok ks) (p : Path) (c : Str) (tok : OutputToken)
    (hk : (p, Output.text c, tok) ∈ ks) :
    (∃ node, t.at? p = some node ∧ node.value = .text c) ∧ tok.space = false ∧
    (if isCdataElement pr (t.parentAt? p) then
       tok.text = serializeCdata c ∧ cdataSectionsContent tok.text = some c
     else tok.text = serializeText pr.unescapedGt c ∧ parseText tok.text = .ok c) := by
  obtain ⟨hev, hall⟩ := renderAll_rendered xmlEscapers env pr t _ _ _
    ((tokensWith_ok_iff xmlEscapers env pr t start ks).mp h)
  obtain ⟨s1, s2, hrend⟩ := hall _ hk
  simp only at hrend
  unfold renderAtWith at hrend
  cases hn : t.at? p with
  | none => simp [hn] at hrend
  | some node =>
    simp only [hn] at hrend
    refine ⟨⟨node, rfl, ?_⟩, render_text_token env pr s1 s2 node _ c tok hrend⟩
    -- the event belongs to a text node
    have hmem : (p, Output.text c) ∈ genOutputs t start := by
      rw [← hev]
      exact List.mem_map.mpr ⟨_, hk, rfl⟩
    obtain ⟨n', _, _, hat', hown⟩ := genOutputs_tagged t start p _ hmem
    rw [hn] at hat'
    cases hat'
    exact ownEvent_text hown

end XotModel
