/-
  `Document::xotify`: the document element, `new_document_with_element`, the `before` items inserted before it, the
  `after` items appended.  It builds `treeOf d` as one new parentless tree and leaves the other trees alone
  (`xotifyDocument_spec`); looking the new handle up gives that tree (`treeAt_new_root`).
-/
import XotModel.Lemmas.FfixedXotify
import XotModel.Lemmas.FfixedInsert

/-! ### The `before` and `after` loops

The `before` items are inserted before the element in the given order. -/

namespace XotModel
open HTree

def docVal : FDocContent → Value
  | .comment s => .comment s
  | .pi t d => .pi t d

theorem docVal_normal (c : FDocContent) :
    (docVal c).isNormal = true ∧ (docVal c).isDocument = false ∧ (docVal c).isText = false := by
  cases c <;> simp [docVal, Value.isNormal, Value.category, Value.isDocument, Value.isText]

namespace Forest

theorem createDocContent_eq (f : Forest) (c : FDocContent) :
    f.createDocContent c = f.newNode (docVal c) := by
  cases c <;> rfl

/-- The `before` loop: the new leaves stand before `r` in the given order; the store stays good. -/
theorem insertAllBefore_spec {A k2 : List HTree} {d : Nat} {r : HTree} (hrn : r.value.isNormal = true) :
    ∀ (bs : List FDocContent) (f : Forest) (k1 : List HTree),
      f.roots = A ++ [HTree.node d .document (k1 ++ r :: k2)] → Good f →
      ∃ f', f.insertAllBefore r.handle bs = some f' ∧ Good f' ∧
        f' = { f with roots := A ++ [HTree.node d .document
                                  (k1 ++ leavesFrom f.next (bs.map docVal) ++ r :: k2)],
                      next := f.next + bs.length }
  | [] => by
    intro f k1 hroots hg
    exact ⟨f, rfl, hg, by simp [leavesFrom, ← hroots]⟩
  | c :: bs => by
    intro f k1 hroots hg
    let leaf : HTree := .node f.next (docVal c) []
    let f1 : Forest := { f with roots := f.roots ++ [leaf], next := f.next + 1 }
    have hg1 : Good f1 := hg.newNode (docVal c)
    have hR : RootAt f1 (A ++ [HTree.node d .document (k1 ++ r :: k2)]) leaf [] :=
      ⟨by simp [f1, hroots], hg1.nodup⟩
    have hXY : (A ++ [HTree.node d .document (k1 ++ r :: k2)]) ++ [] =
        A ++ HTree.node d .document (k1 ++ r :: k2) :: [] := by simp
    have hins := hR.insertBefore_kid hXY (Or.inr rfl) (docVal_normal c).1 (docVal_normal c).2.1 hrn
      (by intro _ ht; rw [show leaf.value = docVal c from rfl, (docVal_normal c).2.2] at ht; cases ht)
    have hg2 : Good { f1 with roots := A ++ [HTree.node d .document ((k1 ++ [leaf]) ++ r :: k2)] } := by
      rw [List.append_assoc k1, List.singleton_append]
      exact good_insert_leaf hroots hg
    obtain ⟨f', hrun, hg', e⟩ := insertAllBefore_spec hrn bs
      { f1 with roots := A ++ [HTree.node d .document ((k1 ++ [leaf]) ++ r :: k2)] } (k1 ++ [leaf]) rfl hg2
    refine ⟨f', ?_, hg', ?_⟩
    · unfold insertAllBefore
      rw [createDocContent_eq]
      show (match f1.insertBefore r.handle f.next with
        | (f2, .ok) => insertAllBefore f2 r.handle bs
        | _ => none) = _
      rw [show f.next = leaf.handle from rfl, hins]
      simp only [List.append_assoc, List.singleton_append] at hrun
      exact hrun
    · rw [e]
      simp [f1, leaf, leavesFrom, Nat.add_assoc, Nat.add_comm 1]

/-- The `after` loop: the new leaves become the last children in the given order; the store stays good. -/
theorem appendAllAfter_spec {A : List HTree} {d : Nat} :
    ∀ (as : List FDocContent) (f : Forest) (ks : List HTree),
      f.roots = A ++ [HTree.node d .document ks] → Good f →
      ∃ f', f.appendAllAfter d as = some f' ∧ Good f' ∧
        f' = { f with roots := A ++ [HTree.node d .document (ks ++ leavesFrom f.next (as.map docVal))],
                      next := f.next + as.length }
  | [] => by
    intro f ks hroots hg
    exact ⟨f, rfl, hg, by simp [leavesFrom, ← hroots]⟩
  | c :: as => by
    intro f ks hroots hg
    let leaf : HTree := .node f.next (docVal c) []
    let f1 : Forest := { f with roots := f.roots ++ [leaf], next := f.next + 1 }
    have hg1 : Good f1 := hg.newNode (docVal c)
    have hR : RootAt f1 (A ++ [HTree.node d .document ks]) leaf [] :=
      ⟨by simp [f1, hroots], hg1.nodup⟩
    have hXY : (A ++ [HTree.node d .document ks]) ++ [] = A ++ HTree.node d .document ks :: [] := by simp
    have happ := hR.append_root hXY (Or.inr rfl) (docVal_normal c).1 (docVal_normal c).2.1
      (by intro _ ht; rw [show leaf.value = docVal c from rfl, (docVal_normal c).2.2] at ht; cases ht)
    have hg2 : Good { f1 with roots := A ++ [HTree.node d .document (ks ++ [leaf])] } :=
      good_after_insert hroots hg
    obtain ⟨f', hrun, hg', e⟩ := appendAllAfter_spec as
      { f1 with roots := A ++ [HTree.node d .document (ks ++ [leaf])] } (ks ++ [leaf]) rfl hg2
    refine ⟨f', ?_, hg', ?_⟩
    · unfold appendAllAfter
      rw [createDocContent_eq]
      show (match f1.appendOk d f.next with
        | some f2 => appendAllAfter f2 d as
        | none => none) = _
      rw [show f.next = leaf.handle from rfl, appendOk_eq happ]
      exact hrun
    · rw [e]
      simp [f1, leaf, leavesFrom, Nat.add_assoc, Nat.add_comm 1]

end Forest
end XotModel

/-! ### `Document::xotify` builds `treeOf d` -/

namespace XotModel
open HTree

theorem treeOfList_append (a b : List FContent) : treeOfList (a ++ b) = treeOfList a ++ treeOfList b := by
  induction a with
  | nil => rfl
  | cons c cs ih => simp [treeOfList, ih]

theorem treeOfList_docContent (bs : List FDocContent) :
    treeOfList (bs.map FDocContent.toContent) = (bs.map docVal).map (fun v => Tree.node v []) := by
  induction bs with
  | nil => rfl
  | cons b bs ih =>
    cases b <;> simp [treeOfList, FDocContent.toContent, treeOfContent, docVal, ih]

theorem sizeList_append (a b : List FContent) :
    FContent.sizeList (a ++ b) = FContent.sizeList a + FContent.sizeList b := by
  induction a with
  | nil => simp [FContent.sizeList]
  | cons c cs ih => simp [FContent.sizeList, ih, Nat.add_assoc]

theorem sizeList_docContent (bs : List FDocContent) :
    FContent.sizeList (bs.map FDocContent.toContent) = bs.length := by
  induction bs with
  | nil => rfl
  | cons b bs ih =>
    cases b <;> simp [FContent.sizeList, FDocContent.toContent, FContent.size, ih] <;> omega

/-- Number of nodes of the document tree. -/
def FDocument.size (d : FDocument) : Nat := 1 + FContent.sizeList d.items

theorem FDocument.size_eq (d : FDocument) :
    d.size = 1 + d.before.length + d.documentElement.toContent.size + d.after.length := by
  simp only [FDocument.size, FDocument.items, sizeList_append, FContent.sizeList, sizeList_docContent]
  omega

/-- The document tree `Document::xotify` produces. -/
def docTree (dn : Nat) (vb va : List Value) (tel : HTree) : HTree :=
  .node dn .document (leavesFrom (dn + 1) vb ++ tel :: leavesFrom (dn + 1 + vb.length) va)

theorem docTree_erase {n : Nat} {tel : HTree} (d : FDocument) (dn : Nat)
    (hb : tel.erase = treeOfContent d.documentElement.toContent) :
    (docTree dn (d.before.map docVal) (d.after.map docVal) tel).erase = treeOf d := by
  unfold docTree treeOf FDocument.items
  simp only [erase, eraseList_append, eraseList, eraseList_leavesFrom, treeOfList_append, treeOfList,
    treeOfList_docContent, hb]

namespace Forest

/-- `Document::xotify` from any forest with distinct handles below `next`. -/
theorem xotifyDocument_spec (f : Forest) (d : FDocument) (hg : Good f)
    (hwf : d.wf f.consolidation = true) :
    ∃ t, f.xotifyDocument d =
          some ({ f with roots := f.roots ++ [t], next := f.next + d.size }, t.handle) ∧
        t.erase = treeOf d ∧
        Good { f with roots := f.roots ++ [t], next := f.next + d.size } := by
  obtain ⟨tel, hb, hx⟩ := xotifyContent_spec d.documentElement.toContent f hg hwf
  let c := d.documentElement.toContent
  let n := f.next
  let dn := n + c.size
  let f1 : Forest := { f with roots := f.roots ++ [tel], next := dn }
  have hg1 : Good f1 := good_add_root hg hb
  -- new_document_with_element
  have htelv : tel.value = .element d.documentElement.name := by
    rw [← Reach.erase_value, hb.erase]; rfl
  have hget1 : f1.get? n = some tel :=
    get?_of_loc (⟨rfl, hb.handle⟩ : Loc f1.roots n [] f.roots tel []) hg1.nodup
  have hisel : f1.isElement n = true := by
    simp [isElement, Prog2.value_of_get hget1, htelv, Value.isElement]
  let docleaf : HTree := .node dn .document []
  let f1' : Forest := { f1 with roots := f1.roots ++ [docleaf], next := dn + 1 }
  have hg1' : Good f1' := hg1.newNode .document
  have hR : RootAt f1' f.roots tel [docleaf] := ⟨by simp [f1', f1], hg1'.nodup⟩
  have hXY : f.roots ++ [docleaf] = f.roots ++ HTree.node dn .document [] :: [] := rfl
  have happ := hR.append_root hXY (Or.inr rfl) (by simp [htelv, Value.isNormal, Value.category])
    (by simp [htelv, Value.isDocument]) (by intro _ ht; simp [htelv, Value.isText] at ht)
  let f2 : Forest := { f1' with roots := f.roots ++ [HTree.node dn .document ([] ++ tel :: [])] }
  have hg2 : Good f2 := by
    refine Good.of_count_eq (f' := f2) hg1' (Nat.le_refl _) ?_
    intro a
    show (handlesList (f.roots ++ HTree.node dn .document ([] ++ [tel]) :: [])).count a = _
    rw [count_move_last hXY a, hR.roots]
  have hndwe : f1.newDocumentWithElement n = (f2, .ok, dn) := by
    unfold newDocumentWithElement
    simp only [hisel, Bool.not_true, Bool.false_eq_true, if_false, newDocument, newNode]
    have e : f1'.append dn n = (f2, .ok) := by rw [show n = tel.handle from hb.handle.symm]; exact happ
    exact congrArg (fun r : Forest × Res => (r.1, r.2, dn)) e
  -- before
  let vb := d.before.map docVal
  let va := d.after.map docVal
  let f3 : Forest := { f2 with roots := f.roots ++ [docTree dn vb [] tel], next := dn + 1 + vb.length }
  obtain ⟨f3', hf3, hg3, e3⟩ := insertAllBefore_spec (A := f.roots) (k2 := []) (d := dn) (r := tel)
    (by simp [htelv, Value.isNormal, Value.category]) d.before f2 [] rfl hg2
  have e3' : f3' = f3 := by
    rw [e3]
    simp [f3, f2, f1', docTree, leavesFrom, vb]
  rw [e3', hb.handle] at hf3
  rw [e3'] at hg3
  -- after
  obtain ⟨f4, hf4, hg4, e4⟩ := appendAllAfter_spec (A := f.roots) (d := dn) d.after f3
    (leavesFrom (dn + 1) vb ++ tel :: leavesFrom (dn + 1 + vb.length) []) rfl hg3
  let t := docTree dn vb va tel
  have e4' : f4 = { f with roots := f.roots ++ [t], next := f.next + d.size } := by
    have hsize : f.next + d.size = dn + 1 + d.before.length + d.after.length := by
      rw [FDocument.size_eq]; simp only [dn, n, c]; omega
    rw [e4]
    simp only [f3, f2, f1', f1, t, docTree, leavesFrom, hsize, List.nil_append, List.append_assoc,
      List.cons_append, List.length_map, va, vb]
  rw [e4'] at hf4 hg4
  refine ⟨t, ?_, docTree_erase (n := n) d dn hb.erase, hg4⟩
  unfold xotifyDocument xotifyElement
  rw [hx]
  simp only
  rw [hndwe]
  simp only
  rw [hf3]
  simp only
  rw [hf4]
  rfl

end Forest
end XotModel

namespace XotModel
open HTree

theorem Forest.treeAt_new_root (f : Forest) (t : HTree) (n' : Nat)
    (hg : Good ({ f with roots := f.roots ++ [t], next := n' } : Forest)) :
    ({ f with roots := f.roots ++ [t], next := n' } : Forest).treeAt t.handle = some t.erase := by
  have hR : RootAt ({ f with roots := f.roots ++ [t], next := n' } : Forest) f.roots t [] :=
    ⟨rfl, hg.nodup⟩
  unfold Forest.treeAt
  rw [hR.get?_self]
  rfl

end XotModel
