/-
  The reference tokenizer returns its character-data tokens in
  source order (`TextOrdered`, Lemmas/ParseSpans.lean), on every input: the text slice of a
  text / CDATA token lies between the stream position before and after the call of
  `parse_next_impl` that returned it, and the stream position never decreases.
-/
import XotModel.Lemmas.LexSlice
import XotModel.Lemmas.ParseSpans

namespace XotModel.Lex.Slice

open XotModel.Lex.Stream

theorem sliceBack_start (a b : Lex.Stream) : (sliceBack a b).start = a.pos := rfl

theorem start_le_stop (sp : StrSpan) : sp.start ≤ sp.stop := by
  simp only [StrSpan.stop]
  omega

/-! ### The loop -/

theorem lexLoop_order (src : Str) (tk : Tokenizer) (position : Nat) :
    SWf src tk.stream →
    (∀ t ∈ (lexLoop tk position).1, ∀ sp, t.textSpan? = some sp → tk.stream.pos ≤ sp.stop) ∧
      TextOrdered (lexLoop tk position).1 := by
  fun_induction lexLoop tk position with
  | case1 tk pos hc =>
    intro _
    exact ⟨fun t ht => (by cases ht), List.Pairwise.nil⟩
  | case2 tk pos hc tk' hs ih =>
    intro hw
    have he := (Tokenizer.running hc).1
    have sk := parseNextImpl_skipStep he (Tokenizer.running hc).2 hs
    obtain ⟨h1, h2⟩ := ih (hw.reach sk.reach)
    have hp := Reach.pos_le sk.reach
    exact ⟨fun t ht sp hsp => Nat.le_trans hp (h1 t ht sp hsp), h2⟩
  | case3 tk pos hc t tk' hs r ih =>
    intro hw
    have he := (Tokenizer.running hc).1
    have hr := (parseNextImpl_token he hs).reach
    have hp := Reach.pos_le hr
    have ts := (tokStep_good hw (parseNextImpl_tokStep' he hs)).2.2
    obtain ⟨h1, h2⟩ := ih (hw.reach hr)
    refine ⟨?_, ?_⟩
    · intro t' ht' sp hsp
      rcases List.mem_cons.mp ht' with rfl | ht'
      · exact Nat.le_trans (ts sp hsp).1 (start_le_stop sp)
      · exact Nat.le_trans hp (h1 t' ht' sp hsp)
    · refine List.pairwise_cons.mpr ⟨?_, h2⟩
      intro b hb sa sb hsa hsb
      exact Nat.le_trans (start_le_stop sa) (Nat.le_trans (ts sa hsa).2 (h1 b hb sb hsb))
  | case4 tk pos hc hs =>
    intro _
    exact ⟨fun t ht => (by cases ht), List.Pairwise.nil⟩

end XotModel.Lex.Slice

namespace XotModel

open XotModel.Lex.Slice

/-- The text / CDATA tokens of a document come in source order. -/
theorem lexDocument_textOrdered (s : Str) : TextOrdered (lexDocument s).1 :=
  (lexLoop_order s (Lex.Tokenizer.ofStr s) _ (ofStr_swf s)).2

theorem lexFragment_textOrdered (s : Str) : TextOrdered (lexFragment s).1 :=
  (lexLoop_order s (Lex.Tokenizer.ofFragment s) _ (SWf.ofStr s)).2

end XotModel
