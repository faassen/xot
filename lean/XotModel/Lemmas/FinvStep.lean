/-
  `replace`, `element_wrap` and `element_unwrap` preserve the invariant: refused, the forest is unchanged
  (Lemmas/Fatom*); accepted, the result is the specification applied to the forest (Lemmas/Fspec*), an edit of one
  child list that keeps validity.  With them every call in `Op.core` (Model/FinvSpec.lean) preserves the invariant,
  for all arguments; hence every history of such calls (`step_inv`, `run_inv`).
-/
import XotModel.Lemmas.FinvCompound
import XotModel.Lemmas.FatomComposite
import XotModel.Lemmas.FspecNormal
import XotModel.Lemmas.SpecSideComposite
import XotModel.Lemmas.FinvSpecSide
import XotModel.Lemmas.FatomWrap
import XotModel.Lemmas.FspecWrap
import XotModel.Lemmas.FspecFrameComposite
import XotModel.Lemmas.FinvGap
import XotModel.Lemmas.FinvLe

/-! ### `replace` -/

namespace XotModel
namespace Forest
open Spec

theorem replace_inv {f : Forest} (hi : f.Inv) (a b : Nat) : (f.replace a b).1.Inv := by
  cases hoff : f.everOff with
  | true =>
    refine replace_inv_of_noGap hi a b ?_
    unfold textGap; rw [hoff]; cases f.ctx? a <;> rfl
  | false =>
    rcases replace_outcome hi.toW a b with h | h
    · rw [h]; exact hi
    · have norm : f.Normal := fun _ => by have := hi.valid; rw [hoff] at this; exact this
      obtain ⟨q, vq, l, A, r, t, ra, _⟩ := replace_unpack hi h.ok
      rw [replace_spec hi norm h.ok]
      exact Prog2.specReplace_inv hi ra

/-- `replace_inv` read at the case `replace_inv_of_noGap` leaves out (the hypothesis is not used): the replaced node
    sits between two text nodes in strict mode, where the state after `remove_subtree` holds two adjacent text nodes. -/
theorem replace_inv_of_gap {f : Forest} (hi : f.Inv) (a b : Nat) (_ : f.textGap a = true) :
    (f.replace a b).1.Inv :=
  replace_inv hi a b

end Forest
end XotModel

/-! ### `element_wrap`, `element_unwrap` -/

namespace XotModel
open HTree Spec PairAll Prog Finv

/-- The pair-reading unwrap keeps the invariant when consolidation has been off at some time: one edit of the
    parent's child list, the three pair merges only merge text. -/
theorem Finv.specUnwrapP_inv_off {f : Forest} {n : Nat} {w : HTree} (inv : f.Inv) (hoff : f.everOff = true)
    (hg : f.get? n = some w) (hel : w.value.isElement = true)
    (hpar : w.kids.filter (fun k => k.value.isNormal) = [] ∨ (f.parent? n).isSome = true) :
    (specUnwrapP n f).Inv := by
  have nd := inv.nodup
  have hv0 := valid0 inv
  by_cases hK : w.kids.filter (fun k => k.value.isNormal) = []
  · rw [specUnwrapP_eq_specRemoveP nd hg hK]
    exact specRemoveP_inv_off inv hoff hg
  · have hsome : (f.parent? n).isSome = true := hpar.resolve_left hK
    cases hctx : f.ctx? n with
    | none => rw [Forest.parent?_of_no_ctx hctx] at hsome; cases hsome
    | some cx =>
      obtain ⟨vo, _, hwn, so, hp⟩ := site_of_kid nd hg hctx
      obtain ⟨ndL, _⟩ := so.nodupKids
      obtain ⟨tl, _⟩ := tops_ne_of_nodup ndL
      rw [hwn] at tl
      have hrep : replaceTop n (fun w => w.kids.filter (fun k => k.value.isNormal)) (cx.left ++ w :: cx.right) =
          cx.left ++ w.kids.filter (fun k => k.value.isNormal) ++ cx.right := replaceTop_mid hwn tl
      obtain ⟨hlo, hmo⟩ := site_members (sx0 := sx0 f) so hv0 (fun _ _ h => h)
      -- the wrapper's normal children are allowed under its parent
      obtain ⟨hwn', hwkid⟩ := Prog2.element_facts hel
      have hwal : kidAllowed vo w.value = true := by
        simp only [localOK, Bool.and_eq_true, List.all_eq_true] at hlo
        exact hlo.1.1.1.1 w (by simp)
      have hvo := Fatom.kidAllowed_container hwal
      obtain ⟨hwl, hwk⟩ := Prog2.validX_kids (validX_findList f.roots w hv0 hg)
      have hkal : ∀ x ∈ w.kids.filter (fun k => k.value.isNormal),
          kidAllowed vo x.value = true ∧ x.value.isNormal = true := by
        intro x hx
        obtain ⟨hxk, hxn⟩ := List.mem_filter.1 hx
        simp only [localOK, Bool.and_eq_true, List.all_eq_true] at hwl
        have h1 := hwl.1.1.1.1 x hxk
        have hxn' : x.value.isNormal = true := by simpa using hxn
        have hxd : x.value.isDocument = false := by rw [hwkid] at h1; simpa using h1
        exact ⟨kidAllowed_of hvo hxn' hxd, hxn'⟩
      rw [specUnwrapP_kid hp]
      refine inv_of_valid_count inv rfl rfl rfl rfl ?_ (count_editAt_le so (fun z => ?_))
      · apply stage so hv0 (fun _ _ h => h)
        · rw [sx0_off hoff]
          simp only [Function.comp]
          rw [hrep]
          exact localOK_pairOpt _ _ (localOK_pairOpt _ _ (localOK_pairOpt _ _
            (Prog2.localOK_replace_mid hlo hwn' hkal)))
        · simp only [Function.comp]
          rw [hrep]
          exact validXList_pairOpt _ _ (validXList_pairOpt _ _ (validXList_pairOpt _ _
            (Prog2.validXList_replace_mid hmo (validXList_sublist List.filter_sublist hwk))))
      · simp only [Function.comp]
        rw [hrep]
        refine Nat.le_trans ((pairOpt_sublist _ _ _).count_le z) (Nat.le_trans ((pairOpt_sublist _ _ _).count_le z)
          (Nat.le_trans ((pairOpt_sublist _ _ _).count_le z) ?_))
        have c2 := Prog2.count_replace_kids z cx.left cx.right w (w.kids.filter (fun k => k.value.isNormal))
          List.filter_sublist
        omega

namespace Forest

theorem elementWrap_inv {f : Forest} (hi : f.Inv) (node name : Nat) : (f.elementWrap node name).1.Inv := by
  rcases elementWrap_outcome hi.toW node name with ⟨h, _⟩ | h
  · rw [h]; exact hi
  · have hok : (f.elementWrap node name).2.1 = .ok := h.ok
    obtain ⟨hd, hn, _⟩ := elementWrap_guards hok
    obtain ⟨t, hg, htn⟩ := get_of_isNormalNode hn
    have htd : t.value.isDocument = false := by
      unfold isDocument value? at hd; rw [hg] at hd; simpa using hd
    have e : (f.elementWrap node name).1 = specWrap node name f := by
      cases hpar : f.parent? node with
      | none => exact (wrap_spec_root hi hpar hok).1
      | some p => exact (wrap_spec_kid hi hpar hok).1
    rw [e]; exact Prog2.specWrap_inv hi hg htn htd

/-- What an accepted `element_unwrap` says of its argument: an element, with a parent unless it has no normal
    child. -/
theorem elementUnwrap_ok_args {f : Forest} {node : Nat} (hok : (f.elementUnwrap node).2 = .ok) :
    ∃ w, f.get? node = some w ∧ w.value.isElement = true ∧
      (w.kids.filter (fun k => k.value.isNormal) = [] ∨ (f.parent? node).isSome = true) := by
  have hel : f.isElement node = true := by
    cases he : f.isElement node with
    | true => rfl
    | false => unfold elementUnwrap at hok; simp [he] at hok
  obtain ⟨nm, K, hg⟩ := get_of_isElement hel
  refine ⟨_, hg, rfl, ?_⟩
  cases hfc : f.firstChild node with
  | none =>
    left
    unfold firstChild at hfc
    rw [hg] at hfc
    simp only [HTree.kids, Option.map_eq_none_iff, List.head?_eq_none_iff] at hfc
    -- no first normal child: `dropWhile` of the others has left nothing
    rw [List.filter_eq_nil_iff]
    intro k hk hn
    have := dropWhile_nil_imp _ _ hfc k hk
    simp [hn] at this
  | some first =>
    right
    unfold elementUnwrap at hok
    simp only [hel, hfc, Bool.not_true, Bool.false_eq_true, if_false] at hok
    cases hp : f.parent? node with
    | none => simp [hp] at hok
    | some p => rfl

theorem elementUnwrap_inv {f : Forest} (hi : f.Inv) (node : Nat) : (f.elementUnwrap node).1.Inv := by
  rcases elementUnwrap_outcome hi.toW node with h | h | ⟨h, _⟩
  · rw [h]; exact hi
  · obtain ⟨w, hg, hwe, hpar⟩ := elementUnwrap_ok_args h.ok
    cases hoff : f.everOff with
    | true => rw [unwrap_pair hi h.ok]; exact specUnwrapP_inv_off hi hoff hg hwe hpar
    | false =>
      have norm : f.Normal := fun _ => by have := hi.valid; rw [hoff] at this; exact this
      rw [unwrap_spec (Keep.earlier_spec node) hi norm h.ok]
      exact Prog2.specUnwrap_inv hi hg hwe hpar
  · rw [h]; exact hi

end Forest
end XotModel

/-! ### Every call, every history -/

namespace XotModel
namespace Forest

theorem step_inv {f : Forest} (hi : f.Inv) (o : Op) (hc : o.core = true) : (f.step o).Inv := by
  cases o with
  | newDocument => exact Fcreation.newNode_inv hi _
  | newElement n => exact Fcreation.newNode_inv hi _
  | newText s => exact Fcreation.newNode_inv hi _
  | newComment s => exact Fcreation.newNode_inv hi _
  | newPi t d => exact Fcreation.newNode_inv hi _
  | newAttributeNode n v => exact Fcreation.newNode_inv hi _
  | newNamespaceNode p n => exact Fcreation.newNode_inv hi _
  | append p c => exact append_inv hi p c
  | prepend p c => exact prepend_inv hi p c
  | insertAfter r n => exact insertAfter_inv hi r n
  | insertBefore r n => exact insertBefore_inv hi r n
  | detach n => exact detach_inv hi n
  | remove n => exact remove_inv hi n
  | anyAppend p c => exact anyAppend_inv hi p c
  | appendAttributeNode p c => exact appendEntryNode_inv hi _ p c
  | appendNamespaceNode p c => exact appendEntryNode_inv hi _ p c
  | attrInsert p n v => exact mapInsert_inv hi _ p _ rfl
  | nsInsert p pf ns => exact mapInsert_inv hi _ p _ rfl
  | attrRemove p n => exact mapRemove_inv hi _ p n
  | nsRemove p pf => exact mapRemove_inv hi _ p pf
  | attrClear p => exact mapClear_inv hi _ p
  | nsClear p => exact mapClear_inv hi _ p
  | setElementName n name => exact setElementName_inv hi n name
  | setText n s => exact setText_inv hi n s
  | setComment n s => exact setComment_inv hi n s
  | setPiData n d => exact setPiData_inv hi n d
  | textContentSet n s => exact textContentSet_inv hi n s
  | setConsolidation b => exact setConsolidation_inv hi b
  | removeInsignificantWhitespace n => exact removeInsignificantWhitespace_inv hi n
  | replace a b => exact replace_inv hi a b
  | elementWrap n name => exact elementWrap_inv hi n name
  | elementUnwrap n => exact elementUnwrap_inv hi n
  | cloneNode n => exact cloneNode_inv hi n

theorem run_inv {f : Forest} (hi : f.Inv) (ops : List Op) (hc : ∀ o ∈ ops, o.core = true) :
    (f.run ops).Inv := by
  unfold run
  induction ops generalizing f with
  | nil => exact hi
  | cons o ops ih =>
    exact ih (step_inv hi o (hc o (by simp))) (fun o' h' => hc o' (by simp [h']))

end Forest
end XotModel
