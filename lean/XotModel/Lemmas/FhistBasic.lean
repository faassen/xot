/-
  Extended histories: bookkeeping of `Store.xrun` (Model/FhistSpec.lean) that needs no
  lemma about the forest: the embeddings of `Op` / `Forest.HStep` histories; and what the call
  lists of `create_missing_prefixes` / `deduplicate_namespaces` consist of.
-/
import XotModel.Model.FhistSpec

namespace XotModel
namespace Forest

theorem store_eta (s : Store) : (⟨s.forest, s.env⟩ : Store) = s := by cases s; rfl

/-! ### What `create_missing_prefixes_for_element` and a pass of `deduplicate_namespaces` decide -/

/-- A plan exists: the node lies at `path` in the root tree `r`, the walk did not panic, the
    prefixes were assigned; the calls are the insertions of the new declarations on the node and
    the undeclarations on the elements the walk names. -/
theorem repairCalls_some {env env' : Env} {f : Forest} {node : Nat} {cs : List Call}
    (h : f.repairCalls env node = some (env', cs)) :
    ∃ r path sub newDecls, f.rootOf? node = some r ∧ r.pathOf node = some path ∧
      r.erase.at? path = some sub ∧
      (repairWalk env (inheritedDecls r.erase path) path sub).panicked = false ∧
      assignPrefixes env ((repairWalk env (inheritedDecls r.erase path) path sub).used ++
        ((namespacesInScope r.erase path).getD []).map (·.1)) 0
        (repairWalk env (inheritedDecls r.erase path) path sub).missing = some (env', newDecls) ∧
      cs = newDecls.map (nsInsertCall node) ++
        (repairWalk env (inheritedDecls r.erase path) path sub).undeclare.filterMap (fun up =>
          (r.handleAt up).map (fun h => nsInsertCall h (Env.emptyPrefix, Env.noNamespace))) := by
  unfold repairCalls at h
  cases hr : f.rootOf? node with
  | none => rw [hr] at h; cases h
  | some r =>
    cases hp : r.pathOf node with
    | none => simp only [hr, hp] at h; cases h
    | some path =>
      cases hs : r.erase.at? path with
      | none => simp only [hr, hp, hs] at h; cases h
      | some sub =>
        simp only [hr, hp, hs] at h
        split at h
        · cases h
        · rename_i hpan
          split at h
          · cases h
          · rename_i env1 newDecls ha
            simp only [Option.some.injEq, Prod.mk.injEq] at h
            obtain ⟨rfl, rfl⟩ := h
            exact ⟨r, path, sub, newDecls, rfl, hp, hs, by simpa using hpan, ha, rfl⟩

/-- Every call of the plan is a namespace insertion: on the node itself, or on a node of its root
    tree. -/
theorem mem_repairCalls {env env' : Env} {f : Forest} {node : Nat} {cs : List Call}
    (h : f.repairCalls env node = some (env', cs)) {c : Call} (hc : c ∈ cs) :
    (∃ d, c = nsInsertCall node d) ∨ ∃ r up hd, f.rootOf? node = some r ∧
      r.handleAt up = some hd ∧ c = nsInsertCall hd (Env.emptyPrefix, Env.noNamespace) := by
  obtain ⟨r, path, sub, newDecls, hr, -, -, -, -, rfl⟩ := repairCalls_some h
  rcases List.mem_append.mp hc with hc | hc
  · obtain ⟨d, -, rfl⟩ := List.mem_map.mp hc
    exact Or.inl ⟨d, rfl⟩
  · obtain ⟨up, -, hup⟩ := List.mem_filterMap.mp hc
    obtain ⟨hd, hh, rfl⟩ := Option.map_eq_some_iff.mp hup
    exact Or.inr ⟨r, up, hd, hr, hh, rfl⟩

/-- Every call of a pass of `deduplicate_namespaces` removes a prefix from the namespace map of a
    node of the root tree, which `dedupToRemove` names by its path. -/
theorem mem_dedupCalls {env : Env} {f : Forest} {node : Nat} {c : Call}
    (hc : c ∈ f.dedupCalls env node) :
    ∃ r path sub rm hd, f.rootOf? node = some r ∧ r.pathOf node = some path ∧
      r.erase.at? path = some sub ∧ rm ∈ dedupToRemove env path sub ∧
      r.handleAt rm.1 = some hd ∧ c = .mapRemove .namespaces hd rm.2 := by
  unfold dedupCalls at hc
  cases hr : f.rootOf? node with
  | none => rw [hr] at hc; cases hc
  | some r =>
    cases hp : r.pathOf node with
    | none => simp only [hr, hp] at hc; cases hc
    | some path =>
      cases hs : r.erase.at? path with
      | none => simp only [hr, hp, hs] at hc; cases hc
      | some sub =>
        simp only [hr, hp, hs] at hc
        obtain ⟨rm, hrm, h2⟩ := List.mem_flatMap.mp hc
        cases hh : r.handleAt rm.1 with
        | none => rw [hh] at h2; cases h2
        | some hd =>
          rw [hh] at h2
          exact ⟨r, path, sub, rm, hd, rfl, hp, hs, hrm, hh, List.mem_singleton.mp h2⟩

end Forest

namespace Store
open Forest

theorem xrun_cons (s : Store) (c : XCall) (cs : List XCall) : s.xrun (c :: cs) = (s.xstep c).xrun cs := rfl

theorem xrun_append (s : Store) (cs ds : List XCall) : s.xrun (cs ++ ds) = (s.xrun cs).xrun ds := by
  unfold xrun; rw [List.foldl_append]

/-- Every `Op` is well-kinded as an extended call (its map insertions are built from key and value). -/
theorem ofOp_wellKinded (o : Op) : (XCall.ofOp o).wellKinded := by
  cases o <;> first | trivial | rfl

theorem xstep_ofOp (s : Store) (o : Op) : s.xstep (XCall.ofOp o) = ⟨s.forest.step o, s.env⟩ := by
  cases o <;> rfl

theorem xrun_ofOp : ∀ (ops : List Op) (s : Store), s.xrun (ops.map XCall.ofOp) = ⟨s.forest.run ops, s.env⟩
  | [], _ => rfl
  | o :: ops, s => by
    rw [List.map_cons, xrun_cons, xstep_ofOp, xrun_ofOp ops]
    rfl

theorem xstep_ofStep (s : Store) (st : HStep) : s.xstep (XCall.ofStep st) = ⟨s.forest.stepAll st, s.env⟩ := by
  cases st <;> rfl

theorem xrun_ofStep : ∀ (ss : List HStep) (s : Store),
    s.xrun (ss.map XCall.ofStep) = ⟨s.forest.runAll ss, s.env⟩
  | [], _ => rfl
  | st :: ss, s => by
    rw [List.map_cons, xrun_cons, xstep_ofStep, xrun_ofStep ss]
    rfl

theorem xrun_snoc (s : Store) (cs : List XCall) (c : XCall) : s.xrun (cs ++ [c]) = (s.xrun cs).xstep c := by
  rw [xrun_append]; rfl

end Store
end XotModel
