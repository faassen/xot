/-
  Round trip, strengthening: a tree all of whose strings are already interned in `env` is what
  `NPNode.encode` (ids interned in document order, Lemmas/ParseNsDefs.lean) makes of the abstract
  document it reads back as — interning adds nothing, every id comes back:
  `encodeList env ds = (env, ks)` when `decodeNs env ks = some ds`.  Hence the reparsed tree of C01_main
  IS the original tree, and the tables are unchanged.
-/
import XotModel.Lemmas.RoundTripTop

namespace XotModel

variable {env : Env}

theorem idxOf_getD {α : Type} [BEq α] [LawfulBEq α] {l : List α} (hn : l.Nodup) {i : Nat} (d : α)
    (hi : i < l.length) : l.getD i d ∈ l ∧ l.idxOf (l.getD i d) = i := by
  rw [List.getD_eq_getElem?_getD, List.getElem?_eq_getElem hi, Option.getD_some]
  exact ⟨List.getElem_mem hi, List.Nodup.idxOf_getElem hn i hi⟩

namespace EnvFacts

theorem internPrefix_id (he : EnvFacts env) {p : Nat} (hp : p < env.prefixes.length) :
    env.internPrefix (env.prefixStr p) = (env, p) := by
  obtain ⟨h1, h2⟩ := idxOf_getD he.pNodup ([] : Str) hp
  unfold Env.prefixStr
  rw [internPrefix_of_mem h1, h2]

theorem internNamespace_id (he : EnvFacts env) {n : Nat} (hn : n < env.namespaces.length) :
    env.internNamespace (env.namespaceStr n) = (env, n) := by
  obtain ⟨h1, h2⟩ := idxOf_getD he.nsNodup ([] : Str) hn
  unfold Env.namespaceStr
  rw [internNamespace_of_mem h1, h2]

theorem internName_id (he : EnvFacts env) {n : Nat} (hn : n < env.names.length) :
    env.internName (env.localName n) (env.nsOfName n) = (env, n) := by
  obtain ⟨h1, h2⟩ := idxOf_getD he.nNodup (([], 0) : Str × Nat) hn
  unfold Env.internName
  have : (env.localName n, env.nsOfName n) = env.names.getD n ([], 0) := rfl
  rw [this, internIn_of_mem h1, h2]

end EnvFacts

def isPhase (i : Nat) (k : Tree) : Bool := k.value.phase == i

theorem filter_cons_phase (i : Nat) (k : Tree) (ks : List Tree) :
    (k :: ks).filter (isPhase i) = if k.value.phase = i then k :: ks.filter (isPhase i) else ks.filter (isPhase i) := by
  simp only [List.filter_cons, isPhase, beq_iff_eq]

theorem sorted_split (ks : List Tree) (hord : OrderedKids ks) :
    ks = ks.filter (isPhase 0) ++ (ks.filter (isPhase 1) ++ ks.filter (isPhase 2)) := by
  induction ks with
  | nil => rfl
  | cons k ks ih =>
    obtain ⟨h1, h2⟩ := List.pairwise_cons.mp hord
    have ih := ih h2
    -- no later child has a smaller phase
    have hnone : ∀ i, i < k.value.phase → ks.filter (isPhase i) = [] := fun i hi =>
      List.filter_eq_nil_iff.mpr fun b hb hbi =>
        Nat.not_le.mpr hi (beq_iff_eq.mp hbi ▸ h1 b hb)
    have hph : k.value.phase = 0 ∨ k.value.phase = 1 ∨ k.value.phase = 2 := by
      have := phase_le_two k.value
      omega
    rw [filter_cons_phase 0, filter_cons_phase 1, filter_cons_phase 2]
    rcases hph with p | p | p
    · rw [p]
      exact congrArg (List.cons k) ih
    · have a0 := hnone 0 (p ▸ Nat.zero_lt_one)
      rw [a0] at ih
      rw [p, a0]
      exact congrArg (List.cons k) ih
    · have a0 := hnone 0 (p ▸ Nat.zero_lt_two)
      have a1 := hnone 1 (p ▸ Nat.one_lt_two)
      rw [a0, a1] at ih
      rw [p, a0, a1]
      exact congrArg (List.cons k) ih

/-- The hypotheses on a node: `nodeOK` and `nsInterned` everywhere below. -/
def Interned (env : Env) (n : Tree) : Prop :=
  n.allNodes (nodeOK env) = true ∧ n.allNodes (nsInterned env) = true

namespace PiColon

/-- The hypotheses on a node: `nodeOK` and `nsInterned` everywhere below. -/
def Interned (env : Env) (n : Tree) : Prop :=
  n.allNodes (nodeOK env) = true ∧ n.allNodes (nsInterned env) = true

theorem Interned.kid {v : Value} {ks : List Tree} (h : Interned env (.node v ks)) {k : Tree} (hk : k ∈ ks) :
    Interned env k :=
  ⟨allNodes_kid h.1 hk, allNodes_kid h.2 hk⟩

end PiColon

theorem Interned.wide {n : Tree} (h : Interned env n) : PiColon.Interned env n :=
  ⟨PiColon.allNodes_of_allNodes env n h.1, h.2⟩

theorem valueOK_element_lt {name : Nat} (h : valueOK env (.element name) = true) : name < env.names.length := by
  simp only [valueOK, ncNameNE, Bool.and_eq_true, Bool.not_eq_true', List.isEmpty_eq_false_iff] at h
  exact EnvFacts.name_lt_of_ne h.2

namespace PiColon

/-- A PI target the tokenizer's `consume_name` reads back (`nameOK`) is not empty, so its id is in range. -/
theorem valueOK_pi_facts {target : Nat} {data : Option Str} (h : valueOK env (.pi target data) = true) :
    target < env.names.length ∧ env.nsOfName target = Env.noNamespace := by
  simp only [valueOK, Bool.and_eq_true, beq_iff_eq] at h
  have hne : env.localName target ≠ [] := fun he => by
    have hn := h.1.1.2
    rw [he] at hn
    simp [nameOK] at hn
  exact ⟨EnvFacts.name_lt_of_ne hne, h.1.1.1⟩

end PiColon

theorem valueOK_pi_facts {target : Nat} {data : Option Str} (h : valueOK env (.pi target data) = true) :
    target < env.names.length ∧ env.nsOfName target = Env.noNamespace :=
  PiColon.valueOK_pi_facts (PiColon.valueOK_of_valueOK env _ h)

theorem valueOK_namespace_lt (he : EnvFacts env) {p ns : Nat} (h : valueOK env (.namespace p ns) = true) :
    p < env.prefixes.length ∧ ns < env.namespaces.length := by
  obtain ⟨_, _, h3, h4⟩ := valueOK_namespace_facts h
  constructor
  · by_cases hp : p = Env.emptyPrefix
    · rw [hp]; exact he.emptyPrefix_lt
    · exact EnvFacts.prefix_lt_of_ne (h3 hp).1
  · by_cases hn : ns = Env.noNamespace
    · rw [hn]; exact he.noNamespace_lt
    · exact EnvFacts.namespace_lt_of_ne (h4 hn)

theorem decode_normal {k : Tree} {a : NItem} (h : decodeNsTree env k = some a) (hp : k.value.phase = 2) :
    ∃ d, a = .node d := by
  cases k with
  | node v kk =>
    cases v with
    | document => simp [decodeNsTree] at h
    | «attribute» x y | «namespace» x y => cases hp
    | text str | comment str | pi target data => cases kk <;> simp [decodeNsTree] at h; exact ⟨_, h.symm⟩
    | element name =>
      obtain ⟨items, _, rfl⟩ := decodeNsTree_element h
      exact ⟨_, rfl⟩

section Steps

variable {ks : List Tree} {as : List NItem}
  (i1 : encodeDecls env (as.filterMap NItem.decl?) = (env, ks.filter (isPhase 0)))
  (i2 : encodeNsAttrs env (as.filterMap NItem.attr?) = (env, ks.filter (isPhase 1)))
  (i3 : NPNode.encode.encodeList env (as.filterMap NItem.node?) = (env, ks.filter (isPhase 2)))
include i1 i2 i3

theorem kids_step_decl (he : EnvFacts env) {p ns : Nat} (hp : p < env.prefixes.length)
    (hns : ns < env.namespaces.length) :
    encodeDecls env ((NItem.decl (env.prefixStr p, env.namespaceStr ns) :: as).filterMap NItem.decl?) =
        (env, (Tree.node (.namespace p ns) [] :: ks).filter (isPhase 0)) ∧
      encodeNsAttrs env ((NItem.decl (env.prefixStr p, env.namespaceStr ns) :: as).filterMap NItem.attr?) =
        (env, (Tree.node (.namespace p ns) [] :: ks).filter (isPhase 1)) ∧
      NPNode.encode.encodeList env ((NItem.decl (env.prefixStr p, env.namespaceStr ns) :: as).filterMap NItem.node?) =
        (env, (Tree.node (.namespace p ns) [] :: ks).filter (isPhase 2)) := by
  simp only [encodeDecls, Prod.mk.injEq] at i1
  refine ⟨?_, ?_, ?_⟩
  · simp only [List.filterMap_cons, NItem.decl?, encodeDecls, declIds, he.internPrefix_id hp,
      he.internNamespace_id hns, List.map_cons, i1.1, i1.2, filter_cons_phase, Tree.value, Value.phase, if_true]
  · simpa [List.filterMap_cons, NItem.attr?, filter_cons_phase, Tree.value, Value.phase] using i2
  · simpa [List.filterMap_cons, NItem.node?, filter_cons_phase, Tree.value, Value.phase] using i3

theorem kids_step_attr (he : EnvFacts env) {name : Nat} {val : Str} (hname : name < env.names.length)
    (hns : env.nsOfName name < env.namespaces.length) :
    encodeDecls env ((NItem.attr (env.expanded name, val) :: as).filterMap NItem.decl?) =
        (env, (Tree.node (.attribute name val) [] :: ks).filter (isPhase 0)) ∧
      encodeNsAttrs env ((NItem.attr (env.expanded name, val) :: as).filterMap NItem.attr?) =
        (env, (Tree.node (.attribute name val) [] :: ks).filter (isPhase 1)) ∧
      NPNode.encode.encodeList env ((NItem.attr (env.expanded name, val) :: as).filterMap NItem.node?) =
        (env, (Tree.node (.attribute name val) [] :: ks).filter (isPhase 2)) := by
  refine ⟨?_, ?_, ?_⟩
  · simpa [List.filterMap_cons, NItem.decl?, filter_cons_phase, Tree.value, Value.phase] using i1
  · simp only [List.filterMap_cons, NItem.attr?, Env.expanded, encodeNsAttrs, he.internNamespace_id hns,
      he.internName_id hname, i2, filter_cons_phase, Tree.value, Value.phase, if_true]
  · simpa [List.filterMap_cons, NItem.node?, filter_cons_phase, Tree.value, Value.phase] using i3

theorem kids_step_node {k : Tree} {d : NPNode} (hk : d.encode env = (env, k)) (hp : k.value.phase = 2) :
    encodeDecls env ((NItem.node d :: as).filterMap NItem.decl?) = (env, (k :: ks).filter (isPhase 0)) ∧
      encodeNsAttrs env ((NItem.node d :: as).filterMap NItem.attr?) = (env, (k :: ks).filter (isPhase 1)) ∧
      NPNode.encode.encodeList env ((NItem.node d :: as).filterMap NItem.node?) =
        (env, (k :: ks).filter (isPhase 2)) := by
  refine ⟨?_, ?_, ?_⟩
  · simpa [List.filterMap_cons, NItem.decl?, filter_cons_phase, hp] using i1
  · simpa [List.filterMap_cons, NItem.attr?, filter_cons_phase, hp] using i2
  · simp only [List.filterMap_cons, NItem.node?, NPNode.encode.encodeList, hk, i3, filter_cons_phase, hp, if_true]

end Steps

namespace PiColon

theorem encode_decode_rec (he : EnvFacts env) :
    (∀ (n : Tree), Interned env n → ∀ d, decodeNsTree env n = some (.node d) → d.encode env = (env, n)) ∧
    ∀ (ks : List Tree), (∀ k ∈ ks, Interned env k) → (∀ k ∈ ks, k.value.isDocument = false) →
      (∀ a ∈ kidAttrs ks, env.nsOfName a.1 < env.namespaces.length) →
      ∀ items, decodeNsTree.decodeItems env ks = some items →
      encodeDecls env (items.filterMap NItem.decl?) = (env, ks.filter (isPhase 0)) ∧
        encodeNsAttrs env (items.filterMap NItem.attr?) = (env, ks.filter (isPhase 1)) ∧
        NPNode.encode.encodeList env (items.filterMap NItem.node?) = (env, ks.filter (isPhase 2)) := by
  refine tree_induction_both ?_ ?_ ?_
  · intro v ks ih hi d hd
    have hval := allNodes_value env hi.1
    cases v with
    | document => simp [decodeNsTree] at hd
    | «attribute» a b | «namespace» a b => cases ks <;> simp [decodeNsTree] at hd
    | text str | comment str =>
      cases ks <;> simp [decodeNsTree] at hd
      subst hd; rfl
    | pi target data =>
      cases ks <;> simp [decodeNsTree] at hd
      subst hd
      obtain ⟨h1, h2⟩ := valueOK_pi_facts hval
      have := he.internName_id h1
      rw [h2] at this
      simp only [NPNode.encode, this]
    | element name =>
      obtain ⟨items, hitems, hx⟩ := decodeNsTree_element hd
      cases hx
      obtain ⟨hord, hkinds, _, _, _⟩ := nodeOK_root hi.1
      have hself := allNodes_root hi.2
      simp only [nsInterned, Bool.and_eq_true, decide_eq_true_eq, List.all_eq_true] at hself
      obtain ⟨k1, k2, k3⟩ := ih (fun k hk => hi.kid hk) hkinds.2.2 hself.2 items hitems
      have hn := he.internNamespace_id hself.1
      have hm := he.internName_id (valueOK_element_lt hval)
      simp only [Env.expanded, NPNode.encode, k1, hn, hm, k2, k3]
      rw [← sorted_split ks hord]
  · intro _ _ _ items hd
    simp only [decodeNsTree.decodeItems, Option.some.injEq] at hd
    subst hd
    exact ⟨rfl, rfl, rfl⟩
  · intro k ks ihk ihks hi hdoc hattr items hd
    obtain ⟨a, as, hk, hks, rfl⟩ := decodeItems_cons_some hd
    have hattr' : ∀ a ∈ kidAttrs ks, env.nsOfName a.1 < env.namespaces.length := fun a' ha' =>
      hattr a' (mem_kidAttrs_cons k ha')
    obtain ⟨i1, i2, i3⟩ := ihks (fun k' hk' => hi k' (List.mem_cons_of_mem _ hk'))
      (fun k' hk' => hdoc k' (List.mem_cons_of_mem _ hk')) hattr' as hks
    have hik := hi k List.mem_cons_self
    have hval := allNodes_value env hik.1
    cases k with
    | node v kk =>
      cases v with
      | document => simp [decodeNsTree] at hk
      | «namespace» p ns =>
        cases kk <;> simp [decodeNsTree] at hk
        subst hk
        obtain ⟨hp, hns⟩ := valueOK_namespace_lt he hval
        exact kids_step_decl i1 i2 i3 he hp hns
      | «attribute» name val =>
        cases kk <;> simp [decodeNsTree] at hk
        subst hk
        exact kids_step_attr i1 i2 i3 he (EnvFacts.name_lt_of_ne (valueOK_attribute_facts hval).1)
          (hattr (name, val) List.mem_cons_self)
      | _ =>
        -- a content node
        obtain ⟨d, rfl⟩ := decode_normal hk rfl
        exact kids_step_node i1 i2 i3 (ihk hik d hk) rfl

theorem encode_decode_node (he : EnvFacts env) (n : Tree) (hi : Interned env n) (d : NPNode)
    (hd : decodeNsTree env n = some (.node d)) : d.encode env = (env, n) :=
  (encode_decode_rec he).1 n hi d hd

theorem encode_decode_kids (he : EnvFacts env) (ks : List Tree) (hi : ∀ k ∈ ks, Interned env k)
    (hdoc : ∀ k ∈ ks, k.value.isDocument = false)
    (hattr : ∀ a ∈ kidAttrs ks, env.nsOfName a.1 < env.namespaces.length) (items : List NItem)
    (hd : decodeNsTree.decodeItems env ks = some items) :
    encodeDecls env (items.filterMap NItem.decl?) = (env, ks.filter (isPhase 0)) ∧
      encodeNsAttrs env (items.filterMap NItem.attr?) = (env, ks.filter (isPhase 1)) ∧
      NPNode.encode.encodeList env (items.filterMap NItem.node?) = (env, ks.filter (isPhase 2)) :=
  (encode_decode_rec he).2 ks hi hdoc hattr items hd

end PiColon

theorem encode_decode_node (he : EnvFacts env) (n : Tree) (hi : Interned env n) (d : NPNode)
    (hd : decodeNsTree env n = some (.node d)) : d.encode env = (env, n) :=
  PiColon.encode_decode_node he n hi.wide d hd

/-- Encoding the abstract document a whole tree reads back as gives the tree back and interns
    nothing. -/
theorem spellTop_encode {ks : List Tree} {ts : List Token} (hf : TopFacts env ks ts) :
    NPNode.encode.encodeList env (NSNode.denote.denoteList baseScope (spellTop env (.node .document ks))) =
      (env, ks) := by
  obtain ⟨_, items, h1, h2, _⟩ := spellTop_denote hf
  have hv := PiColon.serKids_nsInterned hf.he basePrefixes ks _ _ _ (ScopeRel.base hf.he) hf.hkids ts hf.hser
  obtain ⟨_, _, k3⟩ := PiColon.encode_decode_kids hf.he ks (fun k hk => ⟨hf.hkids k hk, hv k hk⟩) hf.hdocs
    (by rw [(kids_normal_none ks hf.hnormal).2]; intro a ha; cases ha) items h1
  rw [h2, k3]
  congr 1
  apply List.filter_eq_self.mpr
  intro k hk
  have := (isNormal_iff_phase k.value).mp (hf.hnormal k hk)
  simp [isPhase, this]

end XotModel
