/-
  The frame of the attribute / namespace map updates (C05): `specMapInsert` / `specMapRemove` are
  one edit of one child list, so every node other than the element and the entry touched keeps its
  place and value, and so do the model's calls.  The element's child list afterwards: exactly one
  child changed its payload, appeared or disappeared.
-/
import XotModel.Lemmas.FspecMapUpd
import XotModel.Lemmas.FmapNode

/-! ## Every other node keeps its place and value -/

namespace XotModel
open HTree Spec
open Forest (MapKind entryKey entryUpdate)

/-! ### Lookups through the three list functions -/

theorem findList?_updateEntry {k : MapKind} {entry : Value} {x : Nat} : ∀ L : List HTree,
    (∀ c ∈ L, isEntry k (entryKey entry) c = true → c.handle ≠ x) →
    findList? x (updateEntry k entry L) = findList? x L
  | [] => fun _ => rfl
  | c :: cs => by
    intro h
    rw [updateEntry_cons]
    split
    · rename_i hc
      rw [findList?_cons, findList?_cons, find?_setValue _ (h c List.mem_cons_self hc)]
    · rw [findList?_cons, findList?_cons,
        findList?_updateEntry cs (fun c' hc' => h c' (List.mem_cons_of_mem _ hc'))]

theorem findList?_insertEntry {k : MapKind} {t : HTree} {x : Nat} (ht : find? x t = none) : ∀ L : List HTree,
    findList? x (insertEntry k t L) = findList? x L
  | [] => by rw [insertEntry_nil, findList?_cons, ht]; rfl
  | c :: cs => by
    rw [insertEntry_cons]
    split
    · rw [findList?_cons, findList?_cons, findList?_insertEntry ht cs]
    · rw [findList?_cons, ht]; rfl

theorem findList?_removeEntry {k : MapKind} {key : Nat} {x : Nat} : ∀ L : List HTree,
    (∀ c ∈ L, isEntry k key c = true → x ∉ handles c) →
    findList? x (removeEntry k key L) = findList? x L
  | [] => fun _ => rfl
  | c :: cs => by
    intro h
    have ih := findList?_removeEntry cs (fun c' hc' => h c' (List.mem_cons_of_mem _ hc'))
    unfold removeEntry at ih ⊢
    rw [List.filter_cons]
    cases hc : isEntry k key c with
    | true =>
      simp only [Bool.not_true, Bool.false_eq_true, if_false]
      rw [ih, findList?_cons, find?_none_of_not_mem _ c (h c List.mem_cons_self hc)]
      rfl
    | false =>
      simp only [Bool.not_false, if_true]
      rw [findList?_cons, findList?_cons, ih]

/-! ### The frame of one edit -/

theorem Forest.editAt_roots_frame (f : Forest) (e : Nat) (g : List HTree → List HTree) :
    (f.editAt (some e) g).roots.length = f.roots.length ∧
    ∀ (i : Nat) (r : HTree), f.roots[i]? = some r → e ∉ handles r → (f.editAt (some e) g).roots[i]? = some r := by
  rw [Forest.editAt_some_roots]
  refine ⟨List.length_map _, ?_⟩
  intro i r hr he
  rw [List.getElem?_map, hr, Option.map_some, editAt_of_not_mem r he]

/-- Any other live node keeps handle, value and the handles of its children; its subtree is the
    old one with the edit applied inside (unchanged when the site is not inside it). -/
theorem Forest.editAt_get_frame {f : Forest} (nd : f.allHandles.Nodup) {e x : Nat} {u : HTree}
    {g : List HTree → List HTree} (hxe : x ≠ e) (hx : f.get? x = some u)
    (hg : ∀ v L, f.get? e = some (.node e v L) → findList? x (g L) = findList? x L) :
    ∃ u', (f.editAt (some e) g).get? x = some u' ∧ u' = HTree.editAt e g u ∧ u'.handle = u.handle ∧
      u'.value = u.value ∧ u'.kids.map (·.handle) = u.kids.map (·.handle) ∧ (e ∉ handles u → u' = u) := by
  refine ⟨HTree.editAt e g u, ?_, rfl, editAt_handle e g u, editAt_value e g u, ?_,
    fun h => editAt_of_not_mem u h⟩
  · rw [Forest.get?_editAt_other hxe nd hg, hx]; rfl
  · have hux : u.handle = x := (findList?_some f.roots u hx).1
    cases u with
    | node h v ks =>
      simp only [HTree.handle] at hux
      rw [editAt_node, if_neg (by rw [hux]; exact hxe)]
      simp only [HTree.kids]
      exact map_handle_kidMap (kidMap_editAt e g) ks

/-! ### `specMapInsert` -/

theorem specMapInsert_get (k : MapKind) (e : Nat) (entry : Value) (f : Forest) (x : Nat) :
    (specMapInsert k e entry f).get? x =
      if (f.kidsOf e).any (isEntry k (entryKey entry)) then (f.editAt (some e) (updateEntry k entry)).get? x
      else (f.editAt (some e) (insertEntry k (.node f.next entry []))).get? x := by
  unfold specMapInsert
  split <;> rfl

theorem specMapInsert_ctx (k : MapKind) (e : Nat) (entry : Value) (f : Forest) (x : Nat) :
    (specMapInsert k e entry f).ctx? x =
      if (f.kidsOf e).any (isEntry k (entryKey entry)) then (f.editAt (some e) (updateEntry k entry)).ctx? x
      else (f.editAt (some e) (insertEntry k (.node f.next entry []))).ctx? x := by
  unfold specMapInsert
  split <;> rfl

theorem specMapInsert_roots (k : MapKind) (e : Nat) (entry : Value) (f : Forest) :
    (specMapInsert k e entry f).roots =
      if (f.kidsOf e).any (isEntry k (entryKey entry)) then (f.editAt (some e) (updateEntry k entry)).roots
      else (f.editAt (some e) (insertEntry k (.node f.next entry []))).roots := by
  unfold specMapInsert
  split <;> rfl

/-- Parentless trees that do not hold the element are untouched by `insert`. -/
theorem specMapInsert_roots_frame (k : MapKind) (e : Nat) (entry : Value) (f : Forest) :
    (specMapInsert k e entry f).roots.length = f.roots.length ∧
    ∀ (i : Nat) (r : HTree), f.roots[i]? = some r → e ∉ handles r → (specMapInsert k e entry f).roots[i]? = some r := by
  rw [specMapInsert_roots]
  split
  · exact Forest.editAt_roots_frame f e _
  · exact Forest.editAt_roots_frame f e _

theorem find?_fresh_leaf {x h : Nat} (v : Value) (hx : x ≠ h) : find? x (.node h v []) = none := by
  rw [find?_node, if_neg (fun e => hx e.symm), findList?_nil]

/-- **Frame of `insert`, lookups**: a live node other than the element and other than an entry
    of the view with the key keeps handle, value, the handles of its children, and its whole
    subtree when the element is not inside it. -/
theorem specMapInsert_get_frame {f : Forest} (inv : f.Inv) {k : MapKind} {e : Nat} {entry : Value}
    {x : Nat} {u : HTree} (hxe : x ≠ e) (hx : f.get? x = some u)
    (hnot : ∀ c ∈ f.kidsOf e, isEntry k (entryKey entry) c = true → c.handle ≠ x) :
    ∃ u', (specMapInsert k e entry f).get? x = some u' ∧ u'.handle = u.handle ∧ u'.value = u.value ∧
      u'.kids.map (·.handle) = u.kids.map (·.handle) ∧ (e ∉ handles u → u' = u) := by
  have hxn : x ≠ f.next := fun h => Nat.lt_irrefl _ (h ▸ inv.below x (mem_of_findList?_some hx))
  rw [specMapInsert_get]
  split
  · obtain ⟨u', h1, _, h2, h3, h4, h5⟩ := Forest.editAt_get_frame (g := updateEntry k entry) inv.nodup hxe hx
      (fun v L hg => findList?_updateEntry L (by rw [← Forest.kidsOf_of_get hg]; exact hnot))
    exact ⟨u', h1, h2, h3, h4, h5⟩
  · obtain ⟨u', h1, _, h2, h3, h4, h5⟩ := Forest.editAt_get_frame
      (g := insertEntry k (.node f.next entry [])) inv.nodup hxe hx
      (fun v L _ => findList?_insertEntry (find?_fresh_leaf entry hxn) L)
    exact ⟨u', h1, h2, h3, h4, h5⟩

/-- An attribute or namespace child is a leaf, so it is nobody's parent. -/
theorem entry_kid_not_parent {f : Forest} (inv : f.Inv) {e : Nat} {v : Value} {L : List HTree}
    (s : SiteAt f e v L) {k : MapKind} {key : Nat} {c : HTree} (hc : c ∈ L) (hce : isEntry k key c = true)
    {x : Nat} {cx : Ctx} (hx : f.ctx? x = some cx) : c.kids = [] ∧ c.handle ≠ cx.parent := by
  have hvalid := (validTree_node (s.valid inv.valid)).2.2.2
  have hvc := validList_all _ L hvalid c hc
  have hcat : c.value.category ≠ .normal := by
    unfold isEntry at hce
    rw [Bool.and_eq_true] at hce
    rw [(Fmap.matches_iff_cat k c.value).1 hce.1]
    exact Fmap.kindCat_ne_normal k
  have hleaf := kids_nil_of_not_normal hvc hcat
  obtain ⟨A, B, hAB⟩ := List.append_of_mem hc
  have s' : SiteAt f e v (A ++ c :: B) := hAB ▸ s
  exact ⟨hleaf, not_text_leaf_of_parent inv.nodup hx s'.getKid hleaf⟩

/-- **Frame of `insert`, positions**: a node whose parent is not the element keeps parent, value
    and the handles of its left and right siblings. -/
theorem specMapInsert_ctx_frame {f : Forest} (inv : f.Inv) {k : MapKind} {e : Nat} {entry : Value}
    (he : f.isElement e = true) (hm : k.matches entry = true)
    {x : Nat} {cx : Ctx} (hx : f.ctx? x = some cx) (hne : cx.parent ≠ e) :
    ∃ cx', (specMapInsert k e entry f).ctx? x = some cx' ∧ cx'.shape = cx.shape := by
  obtain ⟨nm, N, A, S, h⟩ := Fmap.minv_of_inv f e inv he
  have s := MInv_site h
  have hnd : (specMapInsert k e entry f).allHandles.Nodup := by
    have := (Forest.mapInsert_inv inv k e entry hm).nodup
    rw [mapInsert_spec inv he hm] at this
    exact this
  obtain ⟨_, vp, sp⟩ := SiteAt.of_ctx inv.nodup hx
  have hpn : cx.parent ≠ f.next :=
    fun h => Nat.lt_irrefl _ (h ▸ inv.below cx.parent (mem_of_findList?_some sp.kids))
  rw [specMapInsert_ctx]
  have hnd' := hnd
  unfold Forest.allHandles at hnd'
  rw [specMapInsert_roots] at hnd'
  split
  · rename_i hany
    rw [if_pos hany] at hnd'
    exact s.frame (updateEntry k entry) hnd' hx hne
      (findList?_updateEntry _ (fun c hc hce => (entry_kid_not_parent inv s hc hce hx).2))
  · rename_i hany
    rw [if_neg hany] at hnd'
    exact s.frame (insertEntry k (.node f.next entry [])) hnd' hx hne
      (findList?_insertEntry (find?_fresh_leaf entry hpn) _)

/-- Parentless trees stay parentless under `insert`. -/
theorem specMapInsert_root_frame {f : Forest} (inv : f.Inv) {k : MapKind} {e : Nat} {entry : Value}
    (he : f.isElement e = true) (hm : k.matches entry = true) {x : Nat} (hx : f.isRoot x = true) :
    (specMapInsert k e entry f).ctx? x = none := by
  have hnd : (specMapInsert k e entry f).allHandles.Nodup := by
    have := (Forest.mapInsert_inv inv k e entry hm).nodup
    rw [mapInsert_spec inv he hm] at this
    exact this
  unfold Forest.allHandles at hnd
  rw [specMapInsert_roots] at hnd
  rw [specMapInsert_ctx]
  split
  · rename_i hany
    rw [if_pos hany] at hnd
    exact frame_root _ hnd hx
  · rename_i hany
    rw [if_neg hany] at hnd
    exact frame_root _ hnd hx

/-! ### `specMapRemove` -/

/-- Parentless trees that do not hold the element are untouched by `remove`. -/
theorem specMapRemove_roots_frame (k : MapKind) (e key : Nat) (f : Forest) :
    (specMapRemove k e key f).roots.length = f.roots.length ∧
    ∀ (i : Nat) (r : HTree), f.roots[i]? = some r → e ∉ handles r → (specMapRemove k e key f).roots[i]? = some r :=
  Forest.editAt_roots_frame f e _

/-- **Frame of `remove`, lookups**: a live node other than the element and outside the removed
    entry keeps handle, value, the handles of its children, and its whole subtree when the
    element is not inside it. -/
theorem specMapRemove_get_frame {f : Forest} (inv : f.Inv) {k : MapKind} {e key : Nat}
    {x : Nat} {u : HTree} (hxe : x ≠ e) (hx : f.get? x = some u)
    (hnot : ∀ c ∈ f.kidsOf e, isEntry k key c = true → x ∉ handles c) :
    ∃ u', (specMapRemove k e key f).get? x = some u' ∧ u'.handle = u.handle ∧ u'.value = u.value ∧
      u'.kids.map (·.handle) = u.kids.map (·.handle) ∧ (e ∉ handles u → u' = u) := by
  rw [specMapRemove_eq]
  obtain ⟨u', h1, _, h2, h3, h4, h5⟩ := Forest.editAt_get_frame (g := removeEntry k key) inv.nodup hxe hx
    (fun v L hg => findList?_removeEntry L (by rw [← Forest.kidsOf_of_get hg]; exact hnot))
  exact ⟨u', h1, h2, h3, h4, h5⟩

theorem specMapRemove_nodup {f : Forest} (nd : f.allHandles.Nodup) (k : MapKind) (e key : Nat) :
    (specMapRemove k e key f).allHandles.Nodup := by
  rw [specMapRemove_eq]
  apply Forest.nodup_editAt nd
  intro L
  exact Fmap.handlesList_filter_sublist _ L

/-- **Frame of `remove`, positions**: a node whose parent is not the element keeps parent, value
    and the handles of its left and right siblings. -/
theorem specMapRemove_ctx_frame {f : Forest} (inv : f.Inv) {k : MapKind} {e key : Nat}
    (he : f.isElement e = true) {x : Nat} {cx : Ctx} (hx : f.ctx? x = some cx) (hne : cx.parent ≠ e) :
    ∃ cx', (specMapRemove k e key f).ctx? x = some cx' ∧ cx'.shape = cx.shape := by
  obtain ⟨nm, N, A, S, h⟩ := Fmap.minv_of_inv f e inv he
  have s := MInv_site h
  have hnd := specMapRemove_nodup inv.nodup k e key
  rw [specMapRemove_eq] at hnd ⊢
  apply s.frame (removeEntry k key) hnd hx hne
  apply findList?_removeEntry
  intro c hc hce hin
  obtain ⟨hleaf, hcp⟩ := entry_kid_not_parent inv s hc hce hx
  cases c with
  | node ch cv cks =>
    simp only [HTree.kids] at hleaf
    subst hleaf
    rw [handles_node, handlesList_nil, List.mem_singleton] at hin
    exact hcp hin.symm

/-- Parentless trees stay parentless under `remove`. -/
theorem specMapRemove_root_frame {f : Forest} (nd : f.allHandles.Nodup) {k : MapKind} {e key : Nat}
    {x : Nat} (hx : f.isRoot x = true) : (specMapRemove k e key f).ctx? x = none := by
  have hnd := specMapRemove_nodup nd k e key
  rw [specMapRemove_eq] at hnd ⊢
  exact frame_root _ hnd hx

/-! ### The hypotheses are satisfiable; the model and the specification on a sample -/

example :
    let f : Forest := { roots := [.node 0 (.element 2) [.node 1 (.namespace 1 4) [], .node 2 (.attribute 7 ['v']) [],
                          .node 3 (.attribute 8 ['w']) [], .node 4 (.text ['x']) []], .node 5 (.element 3) []], next := 6 }
    f.inv = true ∧ f.isElement 0 = true ∧ MapKind.attributes.matches (.attribute 8 ['z']) = true ∧
      -- existing key: the node 3 keeps its place, only the payload changes
      (f.mapInsert .attributes 0 (.attribute 8 ['z'])).1.roots =
        [.node 0 (.element 2) [.node 1 (.namespace 1 4) [], .node 2 (.attribute 7 ['v']) [],
          .node 3 (.attribute 8 ['z']) [], .node 4 (.text ['x']) []], .node 5 (.element 3) []] ∧
      -- new key: one new node, last of its view
      (f.mapInsert .namespaces 0 (.namespace 9 9)).1.roots =
        [.node 0 (.element 2) [.node 1 (.namespace 1 4) [], .node 6 (.namespace 9 9) [], .node 2 (.attribute 7 ['v']) [],
          .node 3 (.attribute 8 ['w']) [], .node 4 (.text ['x']) []], .node 5 (.element 3) []] ∧
      (f.mapRemove .attributes 0 7).1.roots =
        [.node 0 (.element 2) [.node 1 (.namespace 1 4) [], .node 3 (.attribute 8 ['w']) [], .node 4 (.text ['x']) []],
          .node 5 (.element 3) []] ∧
      f.mapRemove .attributes 0 1 = (f, .ok) := by
  decide +kernel

end XotModel

/-! ## The element's child list afterwards -/

namespace XotModel
open HTree Spec
open Forest (MapKind entryKey entryUpdate)

theorem any_isEntry_iff_find (k : MapKind) (key : Nat) (L : List HTree) :
    L.any (isEntry k key) = (L.find? (isEntry k key)).isSome := by
  induction L with
  | nil => rfl
  | cons c cs ih =>
    simp only [List.any_cons, List.find?_cons]
    cases h : isEntry k key c <;> simp [ih]

/-- **insert**, the element afterwards.  Existing key: the same child list with the payload of that
    one entry replaced (same handle, same place), no handle handed out.  New key: the same child
    list with exactly one new leaf (handle `f.next`, the given entry) inserted after the children
    of rank ≤ the view's and before the others; `next` grows by one. -/
theorem mapInsert_kids {f : Forest} (inv : f.Inv) {k : MapKind} {e : Nat} {entry v : Value} {ks : List HTree}
    (he : f.isElement e = true) (hm : k.matches entry = true) (hg : f.get? e = some (.node e v ks)) :
    (∀ n, ks.find? (isEntry k (entryKey entry)) = some n →
      ∃ X Y, ks = X ++ n :: Y ∧ (∀ c ∈ X, isEntry k (entryKey entry) c = false) ∧
        (f.mapInsert k e entry).1.get? e = some (.node e v (X ++ n.setValue (entryUpdate n.value entry) :: Y)) ∧
        (f.mapInsert k e entry).1.next = f.next) ∧
    (ks.find? (isEntry k (entryKey entry)) = none →
      ∃ A B, ks = A ++ B ∧ (∀ c ∈ A, kidRank c ≤ viewRank k) ∧ (∀ c ∈ B, viewRank k < kidRank c) ∧
        (f.mapInsert k e entry).1.get? e = some (.node e v (A ++ .node f.next entry [] :: B)) ∧
        (f.mapInsert k e entry).1.next = f.next + 1) := by
  rw [mapInsert_spec inv he hm]
  simp only
  have hord : kidsOrdered ks = true := (validTree_node (findList?_valid _ _ f.roots _ inv.valid hg)).2.1
  unfold specMapInsert
  rw [Forest.kidsOf_of_get hg, any_isEntry_iff_find]
  constructor
  · intro n hn
    rw [hn]
    simp only [Option.isSome_some, if_true]
    obtain ⟨X, Y, e1, e2, e3⟩ := (updateEntry_spec k entry ks).1 n hn
    refine ⟨X, Y, e1, e2, ?_, rfl⟩
    rw [Forest.get?_editAt_self _ hg, e3]
  · intro hn
    rw [hn]
    simp only [Option.isSome_none, Bool.false_eq_true, if_false]
    obtain ⟨A, B, e1, e2, e3, e4⟩ := insertEntry_spec_ordered k (.node f.next entry []) hord
    refine ⟨A, B, e1, e3, e4, ?_, ?_⟩
    · show (f.editAt (some e) _).get? e = _
      rw [Forest.get?_editAt_self _ hg, e2]
    · first | rfl | trivial

/-- **remove**, the element afterwards: the child list without the entry with the key (the same
    list when the key is absent); `next` unchanged. -/
theorem mapRemove_kids {f : Forest} (inv : f.Inv) {k : MapKind} {e key : Nat} {v : Value} {ks : List HTree}
    (he : f.isElement e = true) (hg : f.get? e = some (.node e v ks)) :
    (∀ n, ks.find? (isEntry k key) = some n →
      ∃ X Y, ks = X ++ n :: Y ∧ (f.mapRemove k e key).1.get? e = some (.node e v (X ++ Y))) ∧
    (ks.find? (isEntry k key) = none → (f.mapRemove k e key).1.get? e = some (.node e v ks)) ∧
    (f.mapRemove k e key).1.next = f.next := by
  rw [mapRemove_spec inv he]
  simp only
  have hv := findList?_valid _ _ f.roots _ inv.valid hg
  simp only [validTree, Bool.and_eq_true] at hv
  rw [specMapRemove_eq]
  have hu : keysUnique (Fmap.kindCat k) ks = true := by
    cases k
    · exact hv.1.1.1.2
    · exact hv.1.1.2
  obtain ⟨r1, r2⟩ := removeEntry_spec (key := key) hu
  refine ⟨?_, ?_, rfl⟩
  · intro n hn
    obtain ⟨X, Y, e1, e2⟩ := r1 n hn
    exact ⟨X, Y, e1, by rw [Forest.get?_editAt_self _ hg, e2]⟩
  · intro hn
    rw [Forest.get?_editAt_self _ hg, r2 hn]

end XotModel
