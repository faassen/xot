/-
  Lemmas for C11: an element's child list in sections (namespaces, attributes, normal),
  what the two adapters select from it, and the reference map's elementary facts.
-/
import XotModel.Lemmas.BasicFacts
import XotModel.Lemmas.FmapForest
import XotModel.Lemmas.FinvValid

namespace XotModel
namespace Fmap
open HTree
open Forest (MapKind entryKey mapChildren)

/-! ### The adapters' selections on a child list -/

def isNs (c : HTree) : Bool := c.value.category == .namespace
def isAt (c : HTree) : Bool := c.value.category == .attribute

/-- `A::children` on a bare child list. -/
def kidsOf (k : MapKind) (ks : List HTree) : List HTree :=
  match k with
  | .namespaces => ks.takeWhile isNs
  | .attributes => (ks.dropWhile isNs).takeWhile isAt

theorem mapChildren_eq (k : MapKind) (t : HTree) : mapChildren k t = kidsOf k t.kids := by
  cases k <;> rfl

/-- The category a view's entries have. -/
def kindCat : MapKind → Category
  | .attributes => .attribute
  | .namespaces => .namespace

theorem matches_iff_cat (k : MapKind) (v : Value) : k.matches v = true ↔ v.category = kindCat k := by
  cases k <;> cases v <;> simp [MapKind.matches, Value.category, kindCat]

/-! ### `kidsOrdered` as `Pairwise` -/

def rankLe (a b : HTree) : Prop := a.value.category.rank ≤ b.value.category.rank

theorem kidsOrdered_iff (ks : List HTree) : kidsOrdered ks = true ↔ ks.Pairwise rankLe := by
  rw [XotModel.kidsOrdered_iff, Sorted, List.pairwise_map]
  rfl

/-- A child list cut into its three sections. -/
structure Sect (ks N A S : List HTree) : Prop where
  eq : ks = N ++ A ++ S
  allNs : ∀ x ∈ N, x.value.category = .namespace
  allAt : ∀ x ∈ A, x.value.category = .attribute
  allNm : ∀ x ∈ S, x.value.category = .normal

theorem Sect.ordered {ks N A S : List HTree} (h : Sect ks N A S) : kidsOrdered ks = true := by
  rw [kidsOrdered_iff, h.eq]
  have c1 : ∀ l : List HTree, ∀ c : Category, (∀ x ∈ l, x.value.category = c) → l.Pairwise rankLe := by
    intro l c hc
    apply List.pairwise_of_forall_mem_list
    intro a ha b hb
    simp [rankLe, hc a ha, hc b hb]
  refine List.pairwise_append.mpr ⟨List.pairwise_append.mpr ⟨c1 N _ h.allNs, c1 A _ h.allAt, ?_⟩, c1 S _ h.allNm, ?_⟩
  · intro a ha b hb
    simp [rankLe, h.allNs a ha, h.allAt b hb, Category.rank]
  · intro a ha b hb
    simp only [rankLe, h.allNm b hb, Category.rank]
    rcases List.mem_append.mp ha with ha | ha
    · simp [h.allNs a ha]
    · simp [h.allAt a ha]

theorem isNs_iff (c : HTree) : isNs c = true ↔ c.value.category = .namespace := by
  simp [isNs]
theorem isAt_iff (c : HTree) : isAt c = true ↔ c.value.category = .attribute := by
  simp [isAt]

theorem takeWhile_dropWhile_seam {α : Type} (p : α → Bool) (l r : List α)
    (hl : ∀ x ∈ l, p x = true) (hr : ∀ x ∈ r, p x = false) :
    (l ++ r).takeWhile p = l ∧ (l ++ r).dropWhile p = r := by
  rw [List.takeWhile_append_of_pos hl, List.dropWhile_append_of_pos hl]
  cases r with
  | nil => exact ⟨List.append_nil l, rfl⟩
  | cons a r =>
    have ha := hr a List.mem_cons_self
    rw [List.takeWhile_cons, List.dropWhile_cons, ha]
    exact ⟨List.append_nil l, rfl⟩

theorem Sect.seam_ns {ks N A S : List HTree} (h : Sect ks N A S) :
    ks.takeWhile isNs = N ∧ ks.dropWhile isNs = A ++ S := by
  rw [h.eq, List.append_assoc]
  refine takeWhile_dropWhile_seam isNs N (A ++ S) (fun x hx => (isNs_iff x).mpr (h.allNs x hx)) ?_
  intro x hx
  unfold isNs
  rcases List.mem_append.mp hx with hx | hx
  · rw [h.allAt x hx]; rfl
  · rw [h.allNm x hx]; rfl

theorem Sect.seam_at {ks N A S : List HTree} (h : Sect ks N A S) :
    (A ++ S).takeWhile isAt = A ∧ (A ++ S).dropWhile isAt = S :=
  takeWhile_dropWhile_seam isAt A S (fun x hx => (isAt_iff x).mpr (h.allAt x hx))
    (fun x hx => by unfold isAt; rw [h.allNm x hx]; rfl)

theorem Sect.kidsOf_ns {ks N A S : List HTree} (h : Sect ks N A S) : kidsOf .namespaces ks = N :=
  h.seam_ns.1

theorem Sect.dropNs {ks N A S : List HTree} (h : Sect ks N A S) : ks.dropWhile isNs = A ++ S :=
  h.seam_ns.2

theorem Sect.kidsOf_at {ks N A S : List HTree} (h : Sect ks N A S) : kidsOf .attributes ks = A := by
  simp only [kidsOf, h.dropNs, h.seam_at.1]

theorem Sect.dropAt {ks N A S : List HTree} (h : Sect ks N A S) :
    (ks.dropWhile isNs).dropWhile isAt = S := by
  rw [h.dropNs, h.seam_at.2]

def Sect.sec (k : MapKind) (N A : List HTree) : List HTree :=
  match k with | .namespaces => N | .attributes => A

theorem Sect.kidsOf {ks N A S : List HTree} (h : Sect ks N A S) (k : MapKind) :
    kidsOf k ks = Sect.sec k N A := by
  cases k
  · exact h.kidsOf_at
  · exact h.kidsOf_ns

/-! ### The reads of a view on a sectioned child list -/

theorem Sect.mapChildren {K : HTree} {N A S : List HTree} (h : Sect K.kids N A S) (k : MapKind) :
    mapChildren k K = Sect.sec k N A := by
  rw [mapChildren_eq, h.kidsOf]

/-- `get_node(key)`: the first entry of the view's section with that key. -/
theorem Sect.getNode {f : Forest} {p : Nat} {K : HTree} {N A S : List HTree}
    (hK : f.get? p = some K) (h : Sect K.kids N A S) (k : MapKind) (key : Nat) :
    f.mapGetNode k p key = (Sect.sec k N A).find? (fun c => entryKey c.value == key) := by
  unfold Forest.mapGetNode
  rw [hK]
  simp only
  rw [h.mapChildren]

/-- The insertion point: the last entry of the view's section; for an empty attribute section the
    last namespace node; else none. -/
theorem Sect.insertionPoint {f : Forest} {p : Nat} {K : HTree} {N A S : List HTree}
    (hK : f.get? p = some K) (h : Sect K.kids N A S) (k : MapKind) :
    f.mapInsertionPoint k p =
      match (Sect.sec k N A).getLast? with
      | some l => some l.handle
      | none =>
        match k with
        | .namespaces => none
        | .attributes => (N.getLast?).map (·.handle) := by
  have hN : K.kids.takeWhile (fun c => c.value.category == .namespace) = N := h.kidsOf_ns
  unfold Forest.mapInsertionPoint
  rw [hK]
  simp only
  rw [h.mapChildren, hN]
  cases (Sect.sec k N A).getLast? <;> cases k <;> rfl

theorem sublist_eq_filter_of_mem {α : Type} {l1 l2 : List α} (p : α → Bool) (hs : l1.Sublist l2) (nd : l2.Nodup)
    (hm : ∀ h, h ∈ l1 ↔ h ∈ l2 ∧ p h = true) : l1 = l2.filter p := by
  induction hs with
  | slnil => rfl
  | @cons l1 l2 a hs ih =>
    obtain ⟨ha, nd'⟩ := List.nodup_cons.1 nd
    have hna : a ∉ l1 := fun h => ha (hs.subset h)
    have hpa : p a = false := by
      rw [Bool.eq_false_iff]; intro hp
      exact hna ((hm a).2 ⟨List.mem_cons_self, hp⟩)
    rw [List.filter_cons, hpa]
    simp only [Bool.false_eq_true, if_false]
    apply ih nd'
    intro h
    rw [hm h]
    constructor
    · rintro ⟨h1, h2⟩
      rcases List.mem_cons.1 h1 with rfl | h1
      · rw [hpa] at h2; cases h2
      · exact ⟨h1, h2⟩
    · rintro ⟨h1, h2⟩; exact ⟨List.mem_cons_of_mem _ h1, h2⟩
  | @cons_cons l1 l2 a hs ih =>
    obtain ⟨ha, nd'⟩ := List.nodup_cons.1 nd
    have hpa : p a = true := ((hm a).1 List.mem_cons_self).2
    rw [List.filter_cons, hpa]
    simp only [if_true]
    congr 1
    apply ih nd'
    intro h
    constructor
    · intro h1
      have := (hm h).1 (List.mem_cons_of_mem _ h1)
      rcases List.mem_cons.1 this.1 with rfl | h2
      · exact absurd (hs.subset h1) ha
      · exact ⟨h2, this.2⟩
    · rintro ⟨h1, h2⟩
      rcases List.mem_cons.1 ((hm h).2 ⟨List.mem_cons_of_mem _ h1, h2⟩) with rfl | h3
      · exact absurd h1 ha
      · exact h3

/-- In a list sorted by `key` whose members have `key` at least `c`, what is left after the
    leading members with `key = c` has `key` above `c`. -/
theorem lt_of_mem_dropWhile {α : Type} (key : α → Nat) (c : Nat) (p : α → Bool)
    (hp : ∀ a, p a = true ↔ key a = c) : ∀ l : List α, l.Pairwise (fun a b => key a ≤ key b) →
    (∀ x ∈ l, c ≤ key x) → ∀ x ∈ l.dropWhile p, c < key x
  | [], _, _, x, hx => by cases hx
  | a :: l, hs, hc, x, hx => by
    rw [List.pairwise_cons] at hs
    rw [List.dropWhile_cons] at hx
    split at hx
    · exact lt_of_mem_dropWhile key c p hp l hs.2 (fun y hy => hc y (List.mem_cons_of_mem _ hy)) x hx
    · rename_i hpa
      have ha : c < key a :=
        Nat.lt_of_le_of_ne (hc a List.mem_cons_self) (fun e => hpa ((hp a).mpr e.symm))
      rcases List.mem_cons.mp hx with rfl | hx
      · exact ha
      · exact Nat.lt_of_lt_of_le ha (hs.1 x hx)

/-- An ordered child list has the three sections the adapters compute. -/
theorem sect_of_ordered (ks : List HTree) (ho : kidsOrdered ks = true) :
    Sect ks (ks.takeWhile isNs) ((ks.dropWhile isNs).takeWhile isAt)
      ((ks.dropWhile isNs).dropWhile isAt) := by
  rw [kidsOrdered_iff] at ho
  refine ⟨by simp, ?_, ?_, ?_⟩
  · intro x hx
    exact (isNs_iff x).mp (mem_takeWhile_imp _ _ _ hx)
  · intro x hx
    exact (isAt_iff x).mp (mem_takeWhile_imp _ _ _ hx)
  · -- past the namespace nodes the rank is above 0, past the attribute nodes above 1
    have h1 := lt_of_mem_dropWhile (fun c : HTree => c.value.category.rank) 0 isNs
      (fun a => by rw [isNs_iff]; cases a.value.category <;> simp [Category.rank]) ks ho
      (fun _ _ => Nat.zero_le _)
    have h2 := lt_of_mem_dropWhile (fun c : HTree => c.value.category.rank) 1 isAt
      (fun a => by rw [isAt_iff]; cases a.value.category <;> simp [Category.rank])
      (ks.dropWhile isNs) (ho.sublist (List.dropWhile_sublist _)) h1
    intro x hx
    have := h2 x hx
    cases hc : x.value.category <;> simp [hc, Category.rank] at this ⊢

theorem Sect.filter_ns {ks N A S : List HTree} (h : Sect ks N A S) :
    ks.filter (fun k => k.value.category == .namespace) = N := by
  rw [h.eq, List.filter_append, List.filter_append]
  have h1 : N.filter (fun k => k.value.category == .namespace) = N :=
    List.filter_eq_self.mpr (fun x hx => by simp [h.allNs x hx])
  have h2 : A.filter (fun k => k.value.category == .namespace) = [] :=
    List.filter_eq_nil_iff.mpr (fun x hx => by simp [h.allAt x hx])
  have h3 : S.filter (fun k => k.value.category == .namespace) = [] :=
    List.filter_eq_nil_iff.mpr (fun x hx => by simp [h.allNm x hx])
  simp [h1, h2, h3]

theorem Sect.filter_at {ks N A S : List HTree} (h : Sect ks N A S) :
    ks.filter (fun k => k.value.category == .attribute) = A := by
  rw [h.eq, List.filter_append, List.filter_append]
  have h1 : N.filter (fun k => k.value.category == .attribute) = [] :=
    List.filter_eq_nil_iff.mpr (fun x hx => by simp [h.allNs x hx])
  have h2 : A.filter (fun k => k.value.category == .attribute) = A :=
    List.filter_eq_self.mpr (fun x hx => by simp [h.allAt x hx])
  have h3 : S.filter (fun k => k.value.category == .attribute) = [] :=
    List.filter_eq_nil_iff.mpr (fun x hx => by simp [h.allNm x hx])
  simp [h1, h2, h3]

theorem Sect.keysUnique_ns {ks N A S : List HTree} (h : Sect ks N A S) :
    keysUnique .namespace ks = true ↔ (N.map (fun k => entryKey k.value)).Nodup := by
  simp [keysUnique, h.filter_ns]

theorem Sect.keysUnique_at {ks N A S : List HTree} (h : Sect ks N A S) :
    keysUnique .attribute ks = true ↔ (A.map (fun k => entryKey k.value)).Nodup := by
  simp [keysUnique, h.filter_at]

/-! ### The reference map -/

theorem omInsert_split {β : Type} (l1 l2 : OMap β) (k : Nat) (v0 v : β) (h : ∀ a ∈ l1, a.1 ≠ k) :
    omInsert (l1 ++ (k, v0) :: l2) k v = l1 ++ (k, v) :: l2 := by
  induction l1 with
  | nil => simp [omInsert]
  | cons a l1 ih =>
    obtain ⟨ka, va⟩ := a
    have hka : ka ≠ k := h (ka, va) List.mem_cons_self
    simp only [List.cons_append, omInsert, if_neg hka]
    rw [ih (fun a ha => h a (List.mem_cons_of_mem _ ha))]

theorem omInsert_absent {β : Type} (l : OMap β) (k : Nat) (v : β) (h : ∀ a ∈ l, a.1 ≠ k) :
    omInsert l k v = l ++ [(k, v)] := by
  induction l with
  | nil => simp [omInsert]
  | cons a l ih =>
    obtain ⟨ka, va⟩ := a
    have hka : ka ≠ k := h (ka, va) List.mem_cons_self
    simp only [List.cons_append, omInsert, if_neg hka]
    rw [ih (fun a ha => h a (List.mem_cons_of_mem _ ha))]

theorem omRemove_split {β : Type} (l1 l2 : OMap β) (k : Nat) (v0 : β) (h : ∀ a ∈ l1, a.1 ≠ k) :
    omRemove (l1 ++ (k, v0) :: l2) k = l1 ++ l2 := by
  induction l1 with
  | nil => simp [omRemove]
  | cons a l1 ih =>
    obtain ⟨ka, va⟩ := a
    have hka : ka ≠ k := h (ka, va) List.mem_cons_self
    simp only [List.cons_append, omRemove, if_neg hka]
    rw [ih (fun a ha => h a (List.mem_cons_of_mem _ ha))]

theorem omRemove_absent {β : Type} (l : OMap β) (k : Nat) (h : ∀ a ∈ l, a.1 ≠ k) :
    omRemove l k = l := by
  induction l with
  | nil => simp [omRemove]
  | cons a l ih =>
    obtain ⟨ka, va⟩ := a
    have hka : ka ≠ k := h (ka, va) List.mem_cons_self
    simp only [omRemove, if_neg hka]
    rw [ih (fun a ha => h a (List.mem_cons_of_mem _ ha))]

theorem omModify_split {β : Type} (l1 l2 : OMap β) (k : Nat) (v0 : β) (g : β → β)
    (h : ∀ a ∈ l1, a.1 ≠ k) :
    omModify (l1 ++ (k, v0) :: l2) k g = l1 ++ (k, g v0) :: l2 := by
  induction l1 with
  | nil => simp [omModify]
  | cons a l1 ih =>
    obtain ⟨ka, va⟩ := a
    have hka : ka ≠ k := h (ka, va) List.mem_cons_self
    simp only [List.cons_append, omModify, if_neg hka]
    rw [ih (fun a ha => h a (List.mem_cons_of_mem _ ha))]

end Fmap
end XotModel
