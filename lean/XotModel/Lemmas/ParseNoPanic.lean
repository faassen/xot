/-
  C03_nopanic: under the token-shape contract (attributes and `>` / `/>` only inside a start
  tag) `build` never reaches an `unwrap` / `expect`.

  The token loop: a step can only fail on `element_builder.take().unwrap()` (`step_panic_inv`), and
  `element_builder` is `Some` exactly inside a start tag (`step_ok_eb`).  The epilogues `unwrap` the
  `ElementStart` span of the open element and the spans of the element / text children of the document
  node: they are recorded because every node built so far is described by its tokens (`DInv`, Lemmas/SpanDesc*).
-/
import XotModel.Model.TokenShape
import XotModel.Lemmas.ParseSpanTotal

namespace XotModel

variable {ts : List Token}

/-! ### Name resolution and the attribute loop never `unwrap` -/

theorem elementNameId_np (env : Env) (stack : NsStack) (p n : Str) (sp : Span) :
    elementNameId env stack p n sp ≠ .panic := by
  rcases elementNameId_cases env stack p n sp with ⟨_, _, h⟩ | ⟨_, h⟩ <;> rw [h] <;> exact nofun

theorem attributeNameId_np (env : Env) (stack : NsStack) (p n : Str) (sp : Span) :
    attributeNameId env stack p n sp ≠ .panic := by
  rw [attributeNameId_eq]
  split
  · exact nofun
  · exact elementNameId_np env stack p n sp

theorem addAttributes_np (stack : NsStack) (node : Path) :
    ∀ (abs : List AttributeBuilder) (st : AttrLoop), addAttributes stack node st abs ≠ .panic
  | [], _ => nofun
  | ab :: rest, st => by
    simp only [addAttributes]
    split
    · rename_i hn; exact absurd hn (attributeNameId_np _ _ _ _ _)
    · exact nofun
    · split
      · exact nofun
      · split
        · exact nofun
        · exact addAttributes_np stack node rest _

/-! ### The token loop -/

/-- The tokens a tokenizer only emits inside a start tag: they use `element_builder`. -/
def Token.inTag : Token → Bool
  | .attribute _ _ _ _ => true
  | .elementEnd .open _ => true
  | .elementEnd .empty _ => true
  | _ => false

theorem prefix_panic {b : Builder} {p : Str} {u : StrSpan} {sp : Span} (h : b.prefix p u sp = .panic) : b.eb = none := by
  unfold Builder.prefix at h
  split at h
  · cases h
  · split at h
    · cases h
    · dsimp only at h
      split at h
      · assumption
      · split at h <;> cases h

theorem attribute_panic {b : Builder} {p l v : StrSpan} (h : b.attribute p l v = .panic) : b.eb = none := by
  unfold Builder.attribute at h
  split at h
  · assumption
  · split at h
    · cases h
    · split at h <;> cases h

theorem openElement_panic {b : Builder} (h : b.openElement = .panic) : b.eb = none := by
  unfold Builder.openElement at h
  split at h
  · assumption
  · dsimp only at h
    split at h
    · rename_i hn; exact absurd hn (elementNameId_np _ _ _ _ _)
    · cases h
    · split at h
      · rename_i ha; exact absurd ha (addAttributes_np _ _ _ _)
      · cases h
      · cases h

theorem leave_panic {b : Builder} {node : Path} {sp : StrSpan} (h : b.leave node sp = .panic) : b.parents = [] := by
  unfold Builder.leave Builder.toParent at h
  cases hp : b.parents with
  | nil => rfl
  | cons p rest => rw [hp] at h; cases h

/-- `close_element` tests that an element is open before it moves to the parent. -/
theorem closeElement_ne_panic (b : Builder) (p l sp : StrSpan) : b.closeElement p l sp ≠ .panic := by
  intro h
  unfold Builder.closeElement at h
  split at h
  · rename_i hn; exact absurd hn (elementNameId_np _ _ _ _ _)
  · cases h
  · split at h
    · cases h
    · rename_i hpe
      have hne : b.parents ≠ [] := fun hnil => hpe (by rw [hnil]; rfl)
      split at h
      · split at h
        · cases h
        · exact hne (leave_panic h :)
      · exact hne (leave_panic h :)

/-- The only `unwrap` of the token loop that can fail is `element_builder.take().unwrap()`. -/
theorem step_panic_inv {b : Builder} {t : Token} (h : b.step t = .panic) : b.eb = none ∧ Token.inTag t = true := by
  replace h := Builder.step_panic_core h
  cases t with
  | «attribute» p l v sp =>
    refine ⟨?_, rfl⟩
    simp only [Builder.stepCore] at h
    split at h
    · exact prefix_panic h
    · split at h
      · exact prefix_panic h
      · exact attribute_panic h
  | elementEnd e sp =>
    cases e with
    | «open» => exact ⟨openElement_panic h, rfl⟩
    | close p l => exact absurd h (closeElement_ne_panic b p l sp)
    | empty =>
      refine ⟨?_, rfl⟩
      simp only [Builder.stepCore] at h
      cases hb : b.openElement with
      | panic => exact openElement_panic hb
      | err e env => rw [hb] at h; cases h
      | ok b1 =>
        rw [hb] at h
        obtain ⟨_, _, _, _, _, _, _, rfl⟩ := Builder.openElement_ok_inv hb
        unfold Builder.closeImmediate at h
        have hp := leave_panic h
        split at hp <;> exact absurd hp (List.cons_ne_nil _ _)
  | text s =>
    simp only [Builder.stepCore, Builder.text] at h
    split at h <;> cases h
  | cdata s sp =>
    simp only [Builder.stepCore, Builder.cdata] at h
    split at h <;> cases h
  | pi tg c sp =>
    simp only [Builder.stepCore] at h
    split at h <;> cases h
  | declaration v e s sp =>
    simp only [Builder.stepCore] at h
    split at h <;> cases h
  | _ => cases h

/-- After an accepted step a start tag is being read iff the token was an `ElementStart` or an item of the
    start tag; `>` and `/>` end it; no other token looks at it. -/
def Token.inTagAfter (was : Bool) : Token → Bool
  | .elementStart _ _ _ => true
  | .attribute _ _ _ _ => true
  | .elementEnd .open _ => false
  | .elementEnd .empty _ => false
  | _ => was

theorem step_ok_eb {b b' : Builder} {t : Token} (h : b.step t = .ok b') :
    b'.eb.isSome = Token.inTagAfter b.eb.isSome t := by
  refine Builder.step_ok_cases (motive := fun t b' => b'.eb.isSome = Token.inTagAfter b.eb.isSome t) h
    ?_ ?_ ?_ ?_ ?_ ?_ ?_ ?_ ?_ ?_ ?_ ?_
  · intro _ _ _ _ _ _ hp
    obtain ⟨_, _, _, _, _, _, rfl⟩ := Builder.prefix_ok_inv hp; rfl
  · intro _ _ _ _ _ hp
    obtain ⟨_, _, _, _, _, rfl⟩ := Builder.attribute_ok_inv hp; rfl
  · intro _ c _; exact congrArg Option.isSome (addText_spans b c).2
  · exact fun _ _ _ => rfl
  · intro s _ _; exact congrArg Option.isSome (addText_spans b _).2
  · exact fun _ _ _ => rfl
  · intro _ hp
    obtain ⟨_, _, _, _, _, _, _, rfl⟩ := Builder.openElement_ok_inv hp; rfl
  · intro _ _ _ hp
    obtain ⟨_, _, _, _, ⟨_, _, hl⟩ | ⟨_, hl⟩⟩ := Builder.closeElement_ok_inv hp <;>
      obtain ⟨_, _, _, rfl⟩ := Builder.leave_ok hl <;> rfl
  · intro sp b1 hb hp
    obtain ⟨_, _, _, _, _, _, _, rfl⟩ := Builder.openElement_ok_inv hb
    unfold Builder.closeImmediate at hp
    split at hp <;> obtain ⟨_, _, _, rfl⟩ := Builder.leave_ok hp <;> rfl
  · exact fun _ _ => rfl
  · exact fun _ _ _ _ => rfl
  · exact fun _ _ _ _ => rfl

/-- Under the tag contract the token loop reaches no `unwrap`. -/
theorem run_ne_panic (lexErr : Option Nat) (ts : List Token) :
    ∀ (b : Builder) (inTag : Bool), b.eb.isSome = inTag → TagsOk inTag ts → b.run ts lexErr ≠ .panic := by
  induction ts with
  | nil =>
    intro b _ _ _ h
    cases lexErr with
    | none => simp only [Builder.run] at h; split at h <;> cases h
    | some p => cases h
  | cons t ts ih =>
    intro b inTag he htags h
    simp only [Builder.run] at h
    cases hb : b.step t with
    | panic =>
      obtain ⟨hn, ht⟩ := step_panic_inv hb
      rw [hn] at he
      subst he
      cases t with
      | elementEnd e sp =>
        cases e with
        | close p l => cases ht
        | _ => exact htags
      | «attribute» => exact htags
      | _ => cases ht
    | err e env => rw [hb] at h; cases h
    | ok b1 =>
      rw [hb] at h
      have he1 := step_ok_eb hb
      cases inTag with
      | true =>
        cases t with
        | «attribute» p l v sp => exact ih b1 true he1 htags h
        | elementEnd e sp =>
          cases e with
          | «open» => exact ih b1 false he1 htags h
          | empty => exact ih b1 false he1 htags h
          | close p l => exact htags
        | _ => exact htags
      | false =>
        cases t with
        | elementStart p l sp => exact ih b1 true he1 htags h
        | «attribute» p l v sp => exact htags
        | elementEnd e sp =>
          cases e with
          | close p l => exact ih b1 false (he1.trans he) htags h
          | «open» => exact htags
          | empty => exact htags
        | _ => exact ih b1 false (he1.trans he) htags h



theorem scan_np (m : SpanMap) : ∀ (ks : List Tree) (i : Nat) (elems : List Nat), FwdSpans m i ks →
    (∀ n ∈ elems, HasKey m ⟨[n], .elementStart⟩) →
    match topLevelScan m i ks elems with
    | .ok es => ∀ n ∈ es, HasKey m ⟨[n], .elementStart⟩
    | .err _ => True
    | .panic => False := by
  intro ks
  induction ks with
  | nil => intro i elems _ he; simpa [topLevelScan] using he
  | cons k rest ih =>
    intro i elems h he
    obtain ⟨a, b, c⟩ := h
    simp only [topLevelScan]
    cases hv : k.value with
    | element n =>
      simp only
      refine ih (i + 1) _ c ?_
      intro x hx
      simp only [List.mem_append, List.mem_singleton] at hx
      rcases hx with hx | rfl
      · exact he x hx
      · exact a (by simp [hv, Value.isElement])
    | text s =>
      simp only
      have := b (by simp [hv, Value.isText])
      unfold HasKey at this
      cases hg : m.get ⟨[i], .text⟩ with
      | none => rw [hg] at this; cases this
      | some sp => trivial
    | document => exact ih (i + 1) _ c he
    | pi t d => exact ih (i + 1) _ c he
    | comment s => exact ih (i + 1) _ c he
    | «attribute» n v => exact ih (i + 1) _ c he
    | «namespace» p n => exact ih (i + 1) _ c he

/-- An open element has its `ElementStart` span. -/
theorem open_hasStart {done : List Token} {b : Builder} (hd : DInv ts done b) (hel : b.cur.value.isElement = true) :
    HasKey b.spans ⟨b.curPath, .elementStart⟩ := by
  have hf := hd.stack.1.2
  cases hv : b.cur.value with
  | element id =>
    rw [hv] at hf
    obtain ⟨⟨⟨_, _, _, _, hs, _⟩, _⟩, _⟩ := hf
    exact hasKey_of_get hs
  | _ => rw [hv] at hel; cases hel

/-- The children of the document node have their spans. -/
theorem top_fwdSpans {done : List Token} {b : Builder} (hd : DInv ts done b) (hpar : b.parents = []) :
    FwdSpans b.spans 0 b.cur.rkids.reverse := by
  have hr := hd.stack.1.1
  rw [hpar] at hr
  exact fwdSpans_of_covered _ _ 0 (coveredList_of_descList _ _ _ 0 (descList_of_R _ _ _ hr))



/-! ### Epilogues -/

theorem unclosed_np {done : List Token} {b : Builder} (hok : BuilderOk b) (hd : DInv ts done b)
    (hcur : b.isCurrentDocument = false) : b.unclosed ≠ .panic := by
  unfold Builder.unclosed
  have hel : b.cur.value.isElement = true := by
    cases hpar : b.parents with
    | nil =>
      have hs := hok.2.2.1
      rw [hpar] at hs
      simp only [ShapeOk] at hs
      simp [Builder.isCurrentDocument, hs, Value.isDocument] at hcur
    | cons p rest => have hs := hok.2.2.1; rw [hpar] at hs; exact hs.1
  have hk := open_hasStart hd hel
  unfold HasKey at hk
  cases hg : b.spans.get ⟨b.curPath, .elementStart⟩ with
  | none => rw [hg] at hk; cases hk
  | some sp => simp

theorem finishDocument_np {done : List Token} {b : Builder} (len : Nat) (hok : BuilderOk b) (hd : DInv ts done b) :
    b.finishDocument len ≠ .panic := by
  unfold Builder.finishDocument
  split
  · rename_i hdoc
    have hpar : b.parents = [] := hok.2.2.1.nil_of_document hdoc
    have hroot : b.root.kids = b.cur.rkids.reverse := by
      simp [Builder.root, hpar, zipInto, Frame.close, Tree.kids]
    have hscan := scan_np b.spans _ 0 [] (top_fwdSpans hd hpar) (fun n hn => by simp at hn)
    rw [hroot]
    cases hs : topLevelScan b.spans 0 b.cur.rkids.reverse [] with
    | panic => rw [hs] at hscan; exact hscan.elim
    | err e => simp
    | ok elems =>
      rw [hs] at hscan
      simp only
      match elems, hscan with
      | [], _ => simp
      | [_], _ => simp
      | _ :: second :: _, hscan =>
        simp only
        have hk := hscan second (by simp)
        unfold HasKey at hk
        cases hg : b.spans.get ⟨[second], .elementStart⟩ with
        | none => rw [hg] at hk; cases hk
        | some sp => simp
  · rename_i hdoc
    exact unclosed_np hok hd (by simpa using hdoc)

/-- C03_nopanic: attributes / tag ends only inside start tags. -/
theorem build_np (m : Mode) (len : Nat) (env : Env) (ts : List Token) (lexErr : Option Nat)
    (htags : TagsOk false ts) : build m len env ts lexErr ≠ .panic := by
  unfold build
  cases hb : (Builder.new env).run ts lexErr with
  | panic => exact absurd hb (run_ne_panic lexErr ts _ false rfl htags)
  | err e env' => simp
  | ok b =>
    have hok := run_ok ts lexErr (builderOk_new env) hb
    have hd := run_dinv ts lexErr (builderOk_new env) (dinv_new ts env) hb
    cases m with
    | document => exact finishDocument_np len hok hd
    | fragment =>
      simp only [Builder.finishFragment]
      split
      · simp
      · rename_i hdoc; exact unclosed_np hok hd (by simpa using hdoc)


end XotModel
