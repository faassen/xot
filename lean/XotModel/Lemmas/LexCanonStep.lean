/-
  One iteration of the tokenizer loop: unfolding lemmas for
  `lexLoop`, and `parse_next_impl` on canonical text in each tokenizer state.
-/
import XotModel.Lemmas.LexCanonParse

namespace XotModel.Lex.Canon

open XotModel.Lex XotModel.Lex.Stream

/-! ### Unfolding `lexLoop` -/

theorem lexLoop_end {tk : Tokenizer} (position : Nat) (h : tk.stream.atEnd = true) :
    lexLoop tk position = ([], none) := by
  rw [lexLoop.eq_def]; simp [h]

theorem lexLoop_step {tk : Tokenizer} (position : Nat) (he : tk.stream.atEnd = false)
    (hf : tk.state ≠ .finished) :
    lexLoop tk position = match parseNextImpl tk with
      | .skip tk' => lexLoop tk' position
      | .token t tk' => (t :: (lexLoop tk' tk'.stream.pos).1, (lexLoop tk' tk'.stream.pos).2)
      | .error => ([], some position) := by
  rw [lexLoop.eq_def]
  simp only [he, Bool.false_eq_true, hf, or_self, dite_false]
  split <;> simp only [*]

theorem lexLoop_token {tk tk' : Tokenizer} {t : Token} (position : Nat)
    (he : tk.stream.atEnd = false) (hf : tk.state ≠ .finished)
    (h : parseNextImpl tk = .token t tk') :
    lexLoop tk position = (t :: (lexLoop tk' tk'.stream.pos).1, (lexLoop tk' tk'.stream.pos).2) := by
  rw [lexLoop_step position he hf, h]

theorem lexLoop_skip {tk tk' : Tokenizer} (position : Nat)
    (he : tk.stream.atEnd = false) (hf : tk.state ≠ .finished)
    (h : parseNextImpl tk = .skip tk') :
    lexLoop tk position = lexLoop tk' position := by
  rw [lexLoop_step position he hf, h]

theorem lexLoop_error {tk : Tokenizer} (position : Nat)
    (he : tk.stream.atEnd = false) (hf : tk.state ≠ .finished)
    (h : parseNextImpl tk = .error) :
    lexLoop tk position = ([], some position) := by
  rw [lexLoop_step position he hf, h]

/-- `Tokenizer::from` on a text without a byte order mark in front: the loop starts on the whole
    text. -/
theorem lexDocument_noBom {s : Str} (h : ((Stream.ofStr s).curr? == some '\uFEFF') = false) :
    lexDocument s = lexLoop ⟨⟨0, s⟩, .declaration, 0, false⟩ 0 := by
  unfold lexDocument Tokenizer.ofStr
  simp only [h, Bool.false_eq_true, if_false]
  rfl

/-! ### Facts about the first characters of a canonical token -/

theorem nameChar_of_nameStart {c : Char} (h : isNameStart c = true) : isNameChar c = true := by
  simp only [isNameStart] at h
  simp only [isNameChar]
  by_cases hn : c.toNat ≤ 128
  · rw [if_pos hn] at h ⊢
    simp only [Bool.or_eq_true] at h ⊢
    rcases h with ((h | h) | h) | h <;> simp [h]
  · rw [if_neg hn] at h ⊢
    simp [h]

/-- `<?xml ` does not begin a PI whose target is not `xml`, nor `<?xml?>`. -/
theorem not_xmldecl {t rest : Str} (h : nameOK t = true) (hr : Stops isNameChar rest)
    (hx : t ≠ ['x', 'm', 'l'] ∨ rest.head? ≠ some ' ') :
    litXmlDecl.isPrefixOf ('<' :: '?' :: (t ++ rest)) = false := by
  apply Bool.eq_false_iff.mpr
  intro hp
  obtain ⟨y, hy⟩ := List.isPrefixOf_iff_prefix.mp hp
  have e : ['x', 'm', 'l'] ++ ' ' :: y = t ++ rest := by simpa [litXmlDecl] using hy
  -- on both sides the target is the longest run of name characters
  obtain ⟨c, cs, rfl, hc, hcs⟩ := nameOK_cons h
  have h1 : ((c :: cs) ++ rest).takeWhile isNameChar = c :: cs :=
    takeWhile_app_stop (by rw [List.all_cons, nameChar_of_nameStart hc, hcs]; rfl) hr
  have h2 : (['x', 'm', 'l'] ++ ' ' :: y).takeWhile isNameChar = ['x', 'm', 'l'] :=
    takeWhile_app_stop (by decide) (Stops.cons _ (by decide))
  have ht : c :: cs = ['x', 'm', 'l'] := by rw [← h1, ← e, h2]
  rw [ht] at e hx
  have hrest : rest = ' ' :: y := (List.append_cancel_left e).symm
  rcases hx with hx | hx
  · exact hx rfl
  · exact hx (by rw [hrest]; rfl)
theorem atEnd_cons (p : Nat) (c : Char) (r : Str) : (Stream.mk p (c :: r)).atEnd = false := rfl

/-! ### `parse_next_impl` forwards: which parser a state and the first characters select

    (`Lex.parseNextImpl_listed` read the other way round; in the `Step.ofParse` form, so that the
    same lemma serves a parser that returns a token and one that fails) -/

/-- The three states in which a canonical comment / PI outside the root element is read. -/
def MiscState (st : State) : Prop := st = .afterDeclaration ∨ st = .afterDtd ∨ st = .afterElements

theorem startsWith_lt_false {s : Stream} {c : Char} {x : Str} (hb : s.rest = c :: x) (hc : c ≠ '<')
    {lit : Str} (hl : lit.head? = some '<') : s.startsWith lit = false := by
  cases lit with
  | nil => cases hl
  | cons a as =>
    simp only [List.head?_cons, Option.some.injEq] at hl
    subst hl
    simp [startsWith, hb, List.isPrefixOf_cons_cons, Ne.symm hc]

/-- Text that begins neither `<!--` nor `<?` (no `<`, or `<` and then neither `!` nor `?`) falls
    through to the state's own alternatives. -/
theorem miscStep_other {tk : Tokenizer} {c : Char} {x : Str} (other : Step)
    (hb : tk.stream.rest = c :: x) (h : c ≠ '<' ∨ (x.head? ≠ some '!' ∧ x.head? ≠ some '?')) :
    miscStep tk other = other := by
  unfold miscStep
  rcases h with h | ⟨h1, h2⟩
  · have : ¬ '<' = c := fun e => h e.symm
    simp [startsWith, hb, litCommentOpen, litPiOpen, List.isPrefixOf_cons_cons, this]
  · cases x with
    | nil => simp [startsWith, hb, litCommentOpen, litPiOpen, List.isPrefixOf]
    | cons d y =>
      have n1 : ¬ '!' = d := fun e => h1 (by simp [← e])
      have n2 : ¬ '?' = d := fun e => h2 (by simp [← e])
      simp [startsWith, hb, litCommentOpen, litPiOpen, List.isPrefixOf_cons_cons, n1, n2]

theorem parseNextImpl_attr {tk : Tokenizer} {p l v sp : StrSpan} {s1 : Stream}
    (hst : tk.state = .attributes) (he : tk.stream.atEnd = false)
    (hp : parseAttribute tk.stream = some (.attribute p l v sp, s1)) :
    parseNextImpl tk = .token (.attribute p l v sp) { tk with stream := s1 } := by
  unfold parseNextImpl
  simp only [he, Bool.false_eq_true, if_false, hst, hp]

theorem parseNextImpl_tagEnd {tk : Tokenizer} {e : ElementEnd} {sp : StrSpan} {s1 : Stream}
    (hst : tk.state = .attributes) (he : tk.stream.atEnd = false)
    (hp : parseAttribute tk.stream = some (.elementEnd e sp, s1)) :
    parseNextImpl tk = .token (.elementEnd e sp)
      { tk with stream := s1, depth := if e == .open then tk.depth + 1 else tk.depth,
                state := stateAfterTag (if e == .open then tk.depth + 1 else tk.depth) tk.fragment } := by
  unfold parseNextImpl
  simp only [he, Bool.false_eq_true, if_false, hst, hp]

theorem parseNextImpl_attr_none {tk : Tokenizer} (hst : tk.state = .attributes)
    (he : tk.stream.atEnd = false) (hp : parseAttribute tk.stream = none) :
    parseNextImpl tk = .error := by
  unfold parseNextImpl
  simp only [he, Bool.false_eq_true, if_false, hst, hp]

theorem parseNextImpl_text {tk : Tokenizer} (hst : tk.state = .elements)
    (he : tk.stream.atEnd = false) (hc : (tk.stream.curr? == some '<') = false) :
    parseNextImpl tk = Step.ofParse tk (parseText tk.stream) := by
  unfold parseNextImpl
  simp only [he, Bool.false_eq_true, if_false, hst, hc]

theorem parseNextImpl_close {tk : Tokenizer} {x : Str} (hst : tk.state = .elements)
    (hb : tk.stream.rest = '<' :: '/' :: x) :
    parseNextImpl tk = Step.ofParse
      { tk with depth := tk.depth - 1, state := stateAfterTag (tk.depth - 1) tk.fragment }
      (parseCloseElement tk.stream) := by
  have he : tk.stream.atEnd = false := by simp [atEnd, hb]
  have h1 : tk.stream.curr? = some '<' := by simp [curr?, hb]
  have h2 : tk.stream.next? = some '/' := by simp [next?, hb]
  have hd : (if tk.depth > 0 then tk.depth - 1 else tk.depth) = tk.depth - 1 := by
    split <;> omega
  unfold parseNextImpl
  simp only [he, Bool.false_eq_true, if_false, hst, h1, h2, beq_self_eq_true, if_true,
    show ('/' == '!') = false from by decide, show ('/' == '?') = false from by decide, hd]

theorem parseNextImpl_cdata {tk : Tokenizer} {x : Str} (hst : tk.state = .elements)
    (hb : tk.stream.rest = litCdataOpen ++ x) :
    parseNextImpl tk = Step.ofParse tk (parseCdata tk.stream) := by
  have he : tk.stream.atEnd = false := by simp [atEnd, hb, litCdataOpen]
  have h1 : tk.stream.curr? = some '<' := by simp [curr?, hb, litCdataOpen]
  have h2 : tk.stream.next? = some '!' := by simp [next?, hb, litCdataOpen]
  have hc : tk.stream.startsWith litCommentOpen = false := by
    simp [startsWith, hb, litCommentOpen, litCdataOpen, List.isPrefixOf_cons_cons]
  have hd : tk.stream.startsWith litCdataOpen = true := by
    simp only [startsWith, hb]; rw [List.isPrefixOf_iff_prefix]; exact List.prefix_append _ _
  unfold parseNextImpl
  simp only [he, Bool.false_eq_true, if_false, hst, h1, h2, beq_self_eq_true, if_true, hc, hd]

/-- `<!--` selects `parse_comment` in `Elements` and in the three states outside the root. -/
theorem parseNextImpl_comment {tk : Tokenizer} {x : Str} (hst : tk.state = .elements ∨ MiscState tk.state)
    (hb : tk.stream.rest = '<' :: '!' :: '-' :: '-' :: x) :
    parseNextImpl tk = Step.ofParse tk (parseComment tk.stream) := by
  have he : tk.stream.atEnd = false := by simp [atEnd, hb]
  have h1 : tk.stream.curr? = some '<' := by simp [curr?, hb]
  have h2 : tk.stream.next? = some '!' := by simp [next?, hb]
  have hd : tk.stream.startsWith litDoctype = false := by
    simp [startsWith, hb, litDoctype, List.isPrefixOf_cons_cons]
  have hc : tk.stream.startsWith litCommentOpen = true := by simp [startsWith, hb, litCommentOpen]
  have hm : ∀ other, miscStep tk other = Step.ofParse tk (parseComment tk.stream) := by
    intro other
    unfold miscStep
    simp only [hc, if_true]
  unfold parseNextImpl
  rcases hst with h | h | h | h
  · simp only [he, Bool.false_eq_true, if_false, h, h1, h2, beq_self_eq_true, if_true, hc]
  · simp only [he, Bool.false_eq_true, if_false, h, hd, hm]
  · simp only [he, Bool.false_eq_true, if_false, h, hm]
  · simp only [he, Bool.false_eq_true, if_false, h, hm]

/-- `<?` in the same four states: `<?xml ` is an error, anything else goes to `parse_pi`. -/
theorem parseNextImpl_pi {tk : Tokenizer} {x : Str} (hst : tk.state = .elements ∨ MiscState tk.state)
    (hb : tk.stream.rest = '<' :: '?' :: x) :
    parseNextImpl tk =
      if tk.stream.startsWith litXmlDecl then .error else Step.ofParse tk (parsePI tk.stream) := by
  have he : tk.stream.atEnd = false := by simp [atEnd, hb]
  have h1 : tk.stream.curr? = some '<' := by simp [curr?, hb]
  have h2 : tk.stream.next? = some '?' := by simp [next?, hb]
  have hd : tk.stream.startsWith litDoctype = false := by
    simp [startsWith, hb, litDoctype, List.isPrefixOf_cons_cons]
  have hc : tk.stream.startsWith litCommentOpen = false := by
    simp [startsWith, hb, litCommentOpen, List.isPrefixOf_cons_cons]
  have hp : tk.stream.startsWith litPiOpen = true := by simp [startsWith, hb, litPiOpen]
  have hm : ∀ other, miscStep tk other =
      if tk.stream.startsWith litXmlDecl then .error else Step.ofParse tk (parsePI tk.stream) := by
    intro other
    unfold miscStep
    simp only [hc, hp, Bool.false_eq_true, if_false, if_true]
  unfold parseNextImpl
  rcases hst with h | h | h | h
  · simp only [he, Bool.false_eq_true, if_false, h, h1, h2, beq_self_eq_true, if_true,
      show ('?' == '!') = false from by decide]
    cases tk.stream.startsWith litXmlDecl <;> rfl
  · simp only [he, Bool.false_eq_true, if_false, h, hd, hm]
  · simp only [he, Bool.false_eq_true, if_false, h, hm]
  · simp only [he, Bool.false_eq_true, if_false, h, hm]

/-! ### The token kinds without layout freedom, on their canonical spelling -/

theorem step_el_text (tk : Tokenizer) (pos : Nat) (t : StrSpan) (r : Str)
    (hst : tk.state = .elements) (hs : tk.stream = ⟨pos, renderToken (.text t) ++ r⟩)
    (hok : (Token.text t).lexOK = true) (hr : StartsMarkup r) :
    parseNextImpl tk = .token ((Token.text t).place pos)
      { tk with stream := ⟨pos + strLen (renderToken (.text t)), r⟩ } := by
  have hok' := hok
  simp only [Token.lexOK, Bool.and_eq_true, Bool.not_eq_true', List.isEmpty_eq_false_iff] at hok'
  obtain ⟨c, cs, hc⟩ := List.exists_cons_of_ne_nil hok'.1.1
  have hall := hok'.1.2
  rw [hc] at hall
  simp only [List.all_cons, Bool.and_eq_true, bne_iff_ne, ne_eq] at hall
  have he : tk.stream.atEnd = false := by rw [hs]; simp [renderToken, hc, atEnd]
  have hcur : (tk.stream.curr? == some '<') = false := by
    rw [hs]; simp [renderToken, hc, curr?, hall.1.2]
  rw [parseNextImpl_text hst he hcur, hs, parseText_app pos t r hok hr]
  rfl

theorem step_el_cdata (tk : Tokenizer) (pos : Nat) (t sp : StrSpan) (r : Str)
    (hst : tk.state = .elements) (hs : tk.stream = ⟨pos, renderToken (.cdata t sp) ++ r⟩)
    (hok : (Token.cdata t sp).lexOK = true) :
    parseNextImpl tk = .token ((Token.cdata t sp).place pos)
      { tk with stream := ⟨pos + strLen (renderToken (.cdata t sp)), r⟩ } := by
  rw [parseNextImpl_cdata hst (x := t.text ++ [']', ']', '>'] ++ r)
      (by rw [hs]; simp [renderToken, litCdataOpen]),
    hs, parseCdata_app pos t sp r hok]
  rfl

theorem step_comment (tk : Tokenizer) (pos : Nat) (t sp : StrSpan) (r : Str)
    (hst : tk.state = .elements ∨ MiscState tk.state)
    (hs : tk.stream = ⟨pos, renderToken (.comment t sp) ++ r⟩)
    (hok : (Token.comment t sp).lexOK = true) :
    parseNextImpl tk = .token ((Token.comment t sp).place pos)
      { tk with stream := ⟨pos + strLen (renderToken (.comment t sp)), r⟩ } := by
  rw [parseNextImpl_comment hst (x := t.text ++ ['-', '-', '>'] ++ r) (by rw [hs]; simp [renderToken]), hs,
    parseComment_app pos t sp r hok]
  rfl

/-! ### The prolog: leaving `Declaration` and `AfterDeclaration`, the root's start tag -/

theorem step_declaration_skip (tk : Tokenizer) (hst : tk.state = .declaration)
    (he : tk.stream.atEnd = false) (hx : tk.stream.startsWith litXmlDecl = false) :
    parseNextImpl tk = .skip { tk with state := .afterDeclaration } := by
  unfold parseNextImpl
  simp only [he, Bool.false_eq_true, if_false, hst, hx]

theorem step_afterDeclaration_start (tk : Tokenizer) (pos : Nat) (p l sp : StrSpan) (r : Str)
    (hst : tk.state = .afterDeclaration)
    (hs : tk.stream = ⟨pos, renderToken (.elementStart p l sp) ++ r⟩)
    (hok : (Token.elementStart p l sp).lexOK = true) :
    parseNextImpl tk = .skip { tk with state := .afterDtd } := by
  obtain ⟨qc, qs, hq, hqc⟩ := tokQName_head hok
  have n1 : qc ≠ '!' := nameStart_ne hqc (by decide)
  have hb : tk.stream.rest = '<' :: (qc :: qs ++ r) := by rw [hs]; simp [renderToken, hq]
  have he : tk.stream.atEnd = false := by rw [hs]; rfl
  have hd : tk.stream.startsWith litDoctype = false := by
    simp [startsWith, hb, litDoctype, List.isPrefixOf_cons_cons, Ne.symm n1]
  have hsp : tk.stream.startsWithSpace = false := by rw [hs]; rfl
  unfold parseNextImpl
  simp only [he, Bool.false_eq_true, if_false, hst, hd, hsp, miscStep_other _ hb (.inr
    ⟨by simpa using n1, by simpa using nameStart_ne hqc (d := '?') (by decide)⟩)]

/-- `<` and then neither `!`, `?` nor `/` selects `parse_element_start`, in `Elements` and in
    `AfterDtd`. -/
theorem parseNextImpl_start {tk : Tokenizer} {c : Char} {x : Str}
    (hst : tk.state = .elements ∨ tk.state = .afterDtd) (hb : tk.stream.rest = '<' :: c :: x)
    (hc : isNameStart c = true) :
    parseNextImpl tk = Step.ofParse { tk with state := .attributes } (parseElementStart tk.stream) := by
  have he : tk.stream.atEnd = false := by simp [atEnd, hb]
  have n1 : ¬ '!' = c := fun e => nameStart_ne hc (d := '!') (by decide) e.symm
  have n2 : ¬ '?' = c := fun e => nameStart_ne hc (d := '?') (by decide) e.symm
  unfold parseNextImpl
  rcases hst with h | h
  · have h1 : tk.stream.curr? = some '<' := by simp [curr?, hb]
    have h2 : tk.stream.next? = some c := by simp [next?, hb]
    have n3 : (c == '/') = false := by simpa using nameStart_ne hc (d := '/') (by decide)
    simp only [he, Bool.false_eq_true, if_false, h, h1, h2, beq_self_eq_true, if_true, n3,
      show (c == '!') = false by simpa using Ne.symm n1, show (c == '?') = false by simpa using Ne.symm n2]
  · have hm : ∀ other, miscStep tk other = other := fun other =>
      miscStep_other other hb (.inr ⟨by simpa using Ne.symm n1, by simpa using Ne.symm n2⟩)
    have hbang : tk.stream.startsWith litBang = false := by
      simp [startsWith, hb, litBang, List.isPrefixOf_cons_cons, n1]
    have hl : tk.stream.startsWith litLt = true := by simp [startsWith, hb, litLt]
    simp only [he, Bool.false_eq_true, if_false, h, hm, hbang, hl, if_true]

/-- A start-tag name, in element content or as the document element. -/
theorem step_start (tk : Tokenizer) (pos : Nat) (p l sp : StrSpan) (r : Str)
    (hst : tk.state = .elements ∨ tk.state = .afterDtd)
    (hs : tk.stream = ⟨pos, renderToken (.elementStart p l sp) ++ r⟩)
    (hok : (Token.elementStart p l sp).lexOK = true) (hr : Stops isNameChar r) :
    parseNextImpl tk = .token ((Token.elementStart p l sp).place pos)
      { tk with stream := ⟨pos + strLen (renderToken (.elementStart p l sp)), r⟩,
                state := .attributes } := by
  obtain ⟨qc, qs, hq, hqc⟩ := tokQName_head hok
  rw [parseNextImpl_start hst (c := qc) (x := qs ++ r) (by rw [hs]; simp [renderToken, hq]) hqc, hs,
    parseElementStart_app pos p l sp r hok hr]
  rfl

end XotModel.Lex.Canon
