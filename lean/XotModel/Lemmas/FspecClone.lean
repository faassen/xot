/-
  C05 for `clone_node`: "adds exactly one copy".  A corollary of the C12 development
  (`cloneNode_full`: frame, freshness and equality of the clone), restated on the content of
  the forest (`Forest.content`, handles forgotten) against `Spec.specCloneContent`.
-/
import XotModel.Lemmas.FcloneMain
import XotModel.Lemmas.FspecContent
import XotModel.Model.FspecSpec2

namespace XotModel
open HTree Spec

/-- `clone_node` of a live node: no panic; the old trees stay, unchanged and in order; exactly one
    new tree is added after them, the returned node `c` is its root, all its handles are new, and
    with handles forgotten the forest is the old content followed by the copy of the source. -/
theorem cloneNode_spec' {f : Forest} {n : Nat} {src : HTree} (inv : f.Inv) (hsrc : f.get? n = some src) :
    ∃ c C, (f.cloneNode n).2 = some c ∧ C.handle = c ∧
      (f.cloneNode n).1.roots = f.roots ++ [C] ∧
      (f.cloneNode n).1.content = specCloneContent n f ∧
      (∀ h ∈ handles C, f.next ≤ h ∧ h < (f.cloneNode n).1.next ∧ h ∉ f.allHandles) ∧
      (f.cloneNode n).1.consolidation = f.consolidation ∧ (f.cloneNode n).1.everOff = f.everOff ∧
      (f.cloneNode n).1.corrupt = f.corrupt := by
  obtain ⟨C, f', h1, h2, h3, h4, h5, h6, h7, h8, h9, h10⟩ := cloneNode_full f inv n src hsrc
  refine ⟨C.handle, C, by rw [h1], rfl, by rw [h1]; exact h2, ?_, ?_, by rw [h1]; exact h7, by rw [h1]; exact h8,
    by rw [h1]; exact h9⟩
  · rw [h1]
    show eraseList f'.roots = _
    unfold specCloneContent
    rw [hsrc, h2, eraseList_append, eraseList_cons, eraseList_nil, h6]
    rfl
  · intro h hm
    obtain ⟨a, b⟩ := h4 h hm
    rw [h1]
    exact ⟨a, b, fun hh => by have := inv.below h hh; omega⟩

/-- Handle for handle: the clone is the structural copy `copyRoot` numbered from `f.next`. -/
theorem cloneNode_eq_specClone {f : Forest} {n : Nat} {src : HTree} (inv : f.Inv) (hsrc : f.get? n = some src) :
    (f.cloneNode n).1 = specClone n f := by
  obtain ⟨f', h1, h2, h3, h4, _⟩ := cloneNode_spec f inv n src hsrc
  rw [h1]
  unfold specClone
  rw [hsrc]
  obtain ⟨e1, e2, e3⟩ := h4
  cases f'
  cases f
  simp_all

theorem specCloneContent_normal {f : Forest} {n : Nat} {src : HTree} (norm : f.Normal) (hsrc : f.get? n = some src) :
    specCloneContent n f = f.content ++ [src.erase] := by
  unfold specCloneContent
  rw [hsrc]
  simp only
  rcases Bool.eq_false_or_eq_true f.consolidation with hc | hc
  · rw [expectedClone_strict _ src (findList?_valid _ _ f.roots src (norm hc) hsrc)]
  · rw [hc]; rfl

end XotModel
