/-
  Glue for the END-TO-END theorems of Props/C01.lean, Props/C10.lean and Props/C15.lean (a reachable
  forest, then round trip / repair / deduplication): a parentless tree `r` of a forest with the
  invariant, addressed by its own handle, is the tree the refinement theorems of
  Lemmas/FpxRefine*.lean call "the root tree of `node`, `node` at path `[]`".
  Forest-side vocabulary only (nothing of the tokenizer / builder is imported here).
-/
import XotModel.Lemmas.FpxRefineMain
import XotModel.Lemmas.ReachRepresentable

namespace XotModel.Reach
open XotModel HTree

theorem pathOf_self (r : HTree) : pathOf r.handle r = some [] := by
  cases r with | node h v ks => simp [pathOf, HTree.handle]

theorem handle_of_pathOf_nil {h : Nat} {r : HTree} (hp : pathOf h r = some []) : r.handle = h := by
  cases r with
  | node h' v ks =>
    unfold pathOf at hp
    by_cases e : h' = h
    · exact e
    · rw [if_neg e] at hp
      exfalso
      generalize 0 = j at hp
      induction ks generalizing j with
      | nil => simp [pathOfList] at hp
      | cons k ks ih =>
        unfold pathOfList at hp
        cases hk : pathOf h k with
        | some p => rw [hk] at hp; simp at hp
        | none => rw [hk] at hp; exact ih _ hp

theorem root_located {f : Forest} (hi : f.Inv) {r : HTree} (hr : r ∈ f.roots) :
    f.rootOf? r.handle = some r ∧ pathOf r.handle r = some [] ∧ f.get? r.handle = some r ∧
      f.isDocument r.handle = r.value.isDocument ∧ f.isLive r.handle = true := by
  have h1 : f.rootOf? r.handle = some r := Forest.fpxr_rootOf_of_mem hi.nodup hr (handle_mem_handles r)
  have h2 := pathOf_self r
  obtain ⟨D, _, hg, hat, _, _⟩ := Forest.fpxr_locate hi h1 h2
  have hD : D = r := by
    cases r with | node h v ks => simpa [HTree.at?] using hat.symm
  subst hD
  refine ⟨h1, h2, hg, ?_, ?_⟩
  · simp [Forest.isDocument, Forest.value?, hg]
  · simp [Forest.isLive, hg]

theorem element_kid_of_singleRoot {r : HTree} (h : singleRoot r.erase = true) :
    ∃ k ∈ r.kids, k.value.isElement = true := by
  cases r with
  | node hh v ks =>
    simp only [singleRoot, Bool.and_eq_true, beq_iff_eq] at h
    have hne : (erase (.node hh v ks)).kids.filter (fun k => k.value.isElement) ≠ [] := by
      intro hn; rw [hn] at h; simp at h
    obtain ⟨k, hk⟩ := List.exists_mem_of_ne_nil _ hne
    obtain ⟨hk1, hk2⟩ := List.mem_filter.mp hk
    simp only [erase, Tree.kids] at hk1
    obtain ⟨k0, hk0, rfl⟩ := mem_eraseList hk1
    exact ⟨k0, hk0, by rw [erase_value] at hk2; exact hk2⟩

end XotModel.Reach
