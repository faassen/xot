/-
  One token written with any layout.  `Token.ReadAs`: a token read back equals the one written up to
  byte positions; `LToken.place pos lt`: the token the tokenizer reports when `renderLT lt` stands at
  byte `pos` (`placeL` for a list; at the layout `LToken.canonical` it is `Token.place`).  The token
  parsers on `LToken.body` / `renderLT` (any quote, any white space the grammar allows) return the
  token at its place and stop right behind it, and so does one call of `parse_next_impl` in each
  tokenizer state; white space between top-level items of a document is skipped.
-/
import XotModel.Lemmas.LexCanonDefs
import XotModel.Lemmas.ParseOps
import XotModel.Lemmas.LexFreeDefs
import XotModel.Lemmas.LexCanonParse
import XotModel.Lemmas.LexCanonStep

/-! ### A token read back: the same up to byte positions

  Equal up to byte positions (`Token.erase`), and an absent prefix is reported at offset 0, so that
  `check_qname` (/repo a5fafb0) lets the token pass.
-/

namespace XotModel

/-- What the tokenizer's layout / canonical theorems say of a token read back: the same token up to
    byte positions, and an absent prefix reported at offset 0 (so `check_qname` lets it pass). -/
def Token.ReadAs (t' t : Token) : Prop := t'.erase = t.erase ∧ t'.prefixOk = true

def ReadAsList (ts' ts : List Token) : Prop :=
  ts'.map Token.erase = ts.map Token.erase ∧ tokensPrefixOk ts' = true

theorem ReadAsList.cons {t' t : Token} {ts' ts : List Token} (h : t'.ReadAs t) (hs : ReadAsList ts' ts) :
    ReadAsList (t' :: ts') (t :: ts) := by
  refine ⟨by simp [h.1, hs.1], ?_⟩
  simp only [tokensPrefixOk, List.all_cons, Bool.and_eq_true]
  exact ⟨h.2, hs.2⟩

theorem Token.erase_qname_isSome (t : Token) : t.erase.qname.isSome = t.qname.isSome := by
  cases t with
  | elementEnd e sp => cases e <;> rfl
  | _ => rfl

/-- For a token without a qualified name the positions cannot matter. -/
theorem Token.readAs_of_erase {t' t : Token} (h : t'.erase = t.erase) (hq : t.qname = none) :
    t'.ReadAs t := by
  refine ⟨h, Token.prefixOk_of_qname_none ?_⟩
  have := Token.erase_qname_isSome t'
  rw [h, Token.erase_qname_isSome, hq] at this
  cases hq' : t'.qname with
  | none => rfl
  | some x => rw [hq'] at this; cases this

theorem Token.place_readAs (pos : Nat) (t : Token) : (t.place pos).ReadAs t :=
  ⟨Token.place_erase pos t, Token.place_prefixOk pos t⟩

theorem placeTokens_readAs (pos : Nat) (ts : List Token) : ReadAsList (placeTokens pos ts) ts :=
  ⟨placeTokens_erase pos ts, placeTokens_prefixOk ts pos⟩

theorem ReadAsList.nil : ReadAsList [] [] := ⟨rfl, rfl⟩

theorem ReadAsList.append {a' a b' b : List Token} (h1 : ReadAsList a' a) (h2 : ReadAsList b' b) :
    ReadAsList (a' ++ b') (a ++ b) :=
  ⟨by simp [h1.1, h2.1], by rw [tokensPrefixOk_append, h1.2, h2.2]; rfl⟩

end XotModel

/-! ### The byte positions a layout implies

  `renderLT lt` is white space, then `lt.body`.  Placing changes positions only (`placeBody_readAs`), and at
  the canonical layout (`LToken.canonical`) it is `Token.place` (`place_canonical`).
-/

namespace XotModel

/-- The token as read back when `lt.body` is written at byte `q`. -/
def LToken.placeBody (q : Nat) (lt : LToken) : Token :=
  match lt.token with
  | .attribute p l v _ =>
    .attribute (placeQName q p.text l.text).1 (placeQName q p.text l.text).2
      ⟨v.text, q + strLen (tokQName p.text l.text) + strLen lt.ws1 + 1 + strLen lt.ws2 + 1⟩
      ⟨lt.body, q⟩
  | .elementEnd (.close p l) _ =>
    .elementEnd (.close (placeQName (q + 2) p.text l.text).1 (placeQName (q + 2) p.text l.text).2)
      ⟨lt.body, q⟩
  | .pi t none _ => .pi ⟨t.text, q + 2⟩ none ⟨lt.body, q⟩
  | .pi t (some c) _ =>
    .pi ⟨t.text, q + 2⟩ (some ⟨c.text, q + 2 + strLen t.text + strLen lt.ws1⟩) ⟨lt.body, q⟩
  | t => t.place q

/-- The token as read back when `renderLT lt` (white space, then the body) is written at `pos`. -/
def LToken.place (pos : Nat) (lt : LToken) : Token := lt.placeBody (pos + strLen lt.lead)

/-- The token list as read back from `renderL lts` written at byte offset `pos`. -/
def placeL (pos : Nat) : List LToken → List Token
  | [] => []
  | lt :: lts => lt.place pos :: placeL (pos + strLen (renderLT lt)) lts

/-! ### Positions only; the canonical layout gives `Token.place` -/

theorem LToken.placeBody_readAs (q : Nat) (lt : LToken) : (lt.placeBody q).ReadAs lt.token := by
  obtain ⟨tok, w, e1, e2, b⟩ := lt
  cases tok with
  | «attribute» p l v sp =>
    refine ⟨?_, by simp [LToken.placeBody, Token.prefixOk, placeQName_bareColon]⟩
    simp only [LToken.placeBody, Token.erase, (placeQName_erase q p l).1, (placeQName_erase q p l).2]
    rfl
  | elementEnd e sp =>
    cases e with
    | close p l =>
      refine ⟨?_, by simp [LToken.placeBody, Token.prefixOk, placeQName_bareColon]⟩
      simp only [LToken.placeBody, Token.erase, (placeQName_erase (q + 2) p l).1,
        (placeQName_erase (q + 2) p l).2]
    | «open» => exact Token.place_readAs q (.elementEnd .open sp)
    | empty => exact Token.place_readAs q (.elementEnd .empty sp)
  | pi t c sp => cases c <;> exact ⟨rfl, rfl⟩
  | elementStart p l sp => exact Token.place_readAs q (.elementStart p l sp)
  | text a => exact Token.place_readAs q (.text a)
  | cdata a sp => exact Token.place_readAs q (.cdata a sp)
  | comment a sp => exact Token.place_readAs q (.comment a sp)
  | _ => exact ⟨rfl, rfl⟩

theorem placeL_readAs (pos : Nat) (lts : List LToken) :
    ReadAsList (placeL pos lts) (lts.map LToken.token) := by
  induction lts generalizing pos with
  | nil => exact ReadAsList.nil
  | cons lt lts ih => exact ReadAsList.cons (lt.placeBody_readAs _) (ih _)

/-- The canonical spelling is one of the layouts. -/
def LToken.canonical (t : Token) : LToken :=
  match t with
  | .attribute _ _ _ _ => { token := t, lead := [' '] }
  | .pi _ (some _) _ => { token := t, ws1 := [' '] }
  | _ => { token := t }

theorem renderLT_canonical (t : Token) : renderLT (LToken.canonical t) = renderToken t := by
  cases t with
  | pi a c sp => cases c <;> simp [LToken.canonical, renderLT, LToken.body, renderToken]
  | elementEnd e sp => cases e <;> simp [LToken.canonical, renderLT, LToken.body, renderToken]
  | «attribute» p l v sp => simp [LToken.canonical, renderLT, LToken.body, renderToken, quoteChar]
  | _ => simp [LToken.canonical, renderLT, LToken.body]

theorem renderL_canonical (ts : List Token) : renderL (ts.map LToken.canonical) = renderTokens ts := by
  induction ts with
  | nil => rfl
  | cons t ts ih => simp [renderL, renderTokens, renderLT_canonical] at ih ⊢; rw [ih]

theorem LToken.place_canonical (pos : Nat) (t : Token) : (LToken.canonical t).place pos = t.place pos := by
  cases t with
  | «attribute» p l v sp =>
    simp [LToken.canonical, LToken.place, LToken.placeBody, LToken.body, Token.place, strLen, quoteChar,
      show utf8Len ' ' = 1 from by decide]
  | elementEnd e sp => cases e <;> simp [LToken.canonical, LToken.place, LToken.placeBody, LToken.body,
      Token.place, strLen]
  | pi a c sp =>
    cases c <;> simp [LToken.canonical, LToken.place, LToken.placeBody, LToken.body, Token.place, strLen,
      renderToken, show utf8Len ' ' = 1 from by decide]
  | _ => simp [LToken.canonical, LToken.place, LToken.placeBody, strLen]

theorem placeL_canonical (pos : Nat) (ts : List Token) :
    placeL pos (ts.map LToken.canonical) = placeTokens pos ts := by
  induction ts generalizing pos with
  | nil => rfl
  | cons t ts ih => simp [placeL, placeTokens, LToken.place_canonical, renderLT_canonical, ih]

end XotModel

/-! ### The token parsers on a token with its layout

  For the token kinds without layout freedom see Lemmas/LexCanonParse.lean.
-/

namespace XotModel.Lex.Free

open XotModel.Lex XotModel.Lex.Stream XotModel.Lex.Canon

/-! ### White space and quotes -/

theorem isWs_cons {c : Char} {w : Str} (h : isWs (c :: w) = true) : isXmlSpace c = true ∧ isWs w = true := by
  simpa [isWs] using h

theorem space_not_nameChar {c : Char} (h : isXmlSpace c = true) : isNameChar c = false := by
  simp only [isXmlSpace, Bool.or_eq_true, beq_iff_eq] at h
  rcases h with ((rfl | rfl) | rfl) | rfl <;> decide

theorem stops_ws_app {f : Char → Bool} {w r : Str} (hf : ∀ c, isXmlSpace c = true → f c = false)
    (hw : isWs w = true) (hr : Stops f r) : Stops f (w ++ r) := by
  cases w with
  | nil => exact hr
  | cons c cs => exact Stops.cons _ (hf c (isWs_cons hw).1)

theorem skipSpaces_ws (pos : Nat) {w r : Str} (hw : isWs w = true) (hr : Stops isXmlSpace r) :
    skipSpaces ⟨pos, w ++ r⟩ = ⟨pos + strLen w, r⟩ :=
  skipBytes_app pos hw hr

theorem startsWithSpace_ws (pos : Nat) {w r : Str} (hw : isWs w = true) (hne : w ≠ []) :
    startsWithSpace ⟨pos, w ++ r⟩ = true := by
  cases w with
  | nil => exact absurd rfl hne
  | cons c cs => simpa [startsWithSpace] using (isWs_cons hw).1

theorem quote_cases (b : Bool) : quoteChar b = '"' ∨ quoteChar b = '\'' := by
  cases b <;> simp [quoteChar]

theorem quote_not_space (b : Bool) : isXmlSpace (quoteChar b) = false := by cases b <;> decide
theorem quote_xmlChar (b : Bool) : isXmlChar (quoteChar b) = true := by cases b <;> decide
theorem quote_not_nameChar (b : Bool) : isNameChar (quoteChar b) = false := by cases b <;> decide
theorem utf8Len_quote (b : Bool) : utf8Len (quoteChar b) = 1 := by cases b <;> decide

theorem consumeQuote_q (b : Bool) (p : Nat) (r : Str) :
    consumeQuote ⟨p, quoteChar b :: r⟩ = some (quoteChar b, ⟨p + 1, r⟩) := by
  cases b <;> simp [consumeQuote, curr?, adv_one, quoteChar, utf8Len]

theorem consumeEq_ws (p : Nat) {e1 e2 r : Str} (h1 : isWs e1 = true) (h2 : isWs e2 = true)
    (hr : Stops isXmlSpace r) :
    consumeEq ⟨p, e1 ++ '=' :: (e2 ++ r)⟩ = some ⟨p + strLen e1 + 1 + strLen e2, r⟩ := by
  have hs1 : Stops isXmlSpace ('=' :: (e2 ++ r)) := Stops.cons _ (by decide)
  simp [consumeEq, skipSpaces_ws _ h1 hs1, consumeByte_self, skipSpaces_ws _ h2 hr,
    show utf8Len '=' = 1 from by decide]

theorem adv_two (pos : Nat) (a b : Char) (r : Str) :
    (Stream.mk pos (a :: b :: r)).adv 2 = ⟨pos + strLen [a, b], r⟩ :=
  adv_app pos [a, b] r 2 rfl

/-! ### Start tags -/

/-- White space and then a name-start character: `parse_attribute` reads an attribute. -/
theorem parseAttribute_name (pos : Nat) {w X : Str} {c : Char} {cs : Str} (hw : isWs w = true)
    (hne : w ≠ []) (hX : X = c :: cs) (hc : isNameStart c = true) :
    parseAttribute ⟨pos, w ++ X⟩ = (do
      let (pfx, loc, s2) ← consumeQName ⟨pos + strLen w, X⟩
      let s3 ← s2.consumeEq
      let (quote, s4) ← s3.consumeQuote
      let s5 ← s4.skipChars (fun _ c => c != quote && c != '<')
      let s6 ← s5.consumeByte quote
      some (.attribute pfx loc (sliceBack s4 s5) (sliceBack ⟨pos + strLen w, X⟩ s6), s6)) := by
  have hrest : Stops isXmlSpace X := by rw [hX]; exact Stops.cons _ (nameStart_not_space hc)
  have h1 : ((Stream.mk (pos + strLen w) X).curr? == some '/') = false := by
    rw [hX]; simp [curr?, nameStart_ne hc (d := '/') (by decide)]
  have h2 : ((Stream.mk (pos + strLen w) X).curr? == some '>') = false := by
    rw [hX]; simp [curr?, nameStart_ne hc (d := '>') (by decide)]
  simp only [parseAttribute, startsWithSpace_ws pos hw hne, skipSpaces_ws pos hw hrest, h1, h2,
    Bool.false_eq_true, if_false, Bool.not_true]

/-- An attribute: white space, name, `=` with white space around it, either quote. -/
theorem parseAttribute_attrL (pos : Nat) (lt : LToken) (p l v sp : StrSpan) (r : Str)
    (ht : lt.token = .attribute p l v sp) (hok : lt.okL = true) (hne : lt.lead ≠ []) :
    parseAttribute ⟨pos, renderLT lt ++ r⟩ = some (lt.place pos, ⟨pos + strLen (renderLT lt), r⟩) := by
  obtain ⟨tok, w, e1, e2, b⟩ := lt
  simp only at ht hne
  subst ht
  simp only [LToken.okL, Bool.and_eq_true] at hok
  obtain ⟨hw, ⟨⟨h, h1⟩, h2⟩, hv⟩ := hok
  obtain ⟨qc, qs, hq, hqc⟩ := tokQName_head h
  have heq : Stops isNameChar (e1 ++ '=' :: (e2 ++ quoteChar b :: (v.text ++ quoteChar b :: r))) :=
    stops_ws_app (fun _ => space_not_nameChar) h1 (Stops.cons _ (by decide))
  have hs3 : Stops isXmlSpace (quoteChar b :: (v.text ++ quoteChar b :: r)) :=
    Stops.cons _ (quote_not_space b)
  have hv' : v.text.all (fun c => isXmlChar c && (fun c => c != quoteChar b && c != '<') c) = true := by
    simpa [Bool.and_assoc] using hv
  have hscan := scanChars_simple (g := fun c => c != quoteChar b && c != '<') (a := v.text)
    (r := quoteChar b :: r) hv' (.inr ⟨quoteChar b, r, rfl, quote_xmlChar b, by simp⟩)
  have e5 := fun q => skipChars_of_scan (f := fun _ c => c != quoteChar b && c != '<') q hscan
  simp only [renderLT, LToken.body, List.append_assoc, List.cons_append, List.nil_append]
  rw [parseAttribute_name pos hw hne (by rw [hq]; rfl) hqc]
  simp only [Option.bind_eq_bind, consumeQName_app _ h heq, Option.bind_some, consumeEq_ws _ h1 h2 hs3,
    consumeQuote_q, e5, consumeByte_self, LToken.place, LToken.placeBody]
  rw [sliceBack_eq v.text rfl,
    sliceBack_eq (tokQName p.text l.text ++ (e1 ++ '=' :: (e2 ++ quoteChar b :: (v.text ++ [quoteChar b]))))
      (by simp)]
  simp only [Option.some.injEq, Prod.mk.injEq, Stream.mk.injEq, and_true, strLen, strLen_app,
    show utf8Len '=' = 1 from by decide, utf8Len_quote]
  exact ⟨rfl, by omega⟩
/-- `>` after any white space. -/
theorem parseAttribute_openL (pos : Nat) (lt : LToken) (sp : StrSpan) (r : Str)
    (ht : lt.token = .elementEnd .open sp) (hok : lt.okL = true) :
    parseAttribute ⟨pos, renderLT lt ++ r⟩ = some (lt.place pos, ⟨pos + strLen (renderLT lt), r⟩) := by
  obtain ⟨tok, w, e1, e2, b⟩ := lt
  simp only at ht
  subst ht
  simp only [LToken.okL, Bool.and_eq_true] at hok
  have hsp : Stops isXmlSpace ('>' :: r) := Stops.cons r (by decide)
  simp only [renderLT, LToken.body, renderToken, List.append_assoc, List.cons_append, List.nil_append,
    parseAttribute, skipSpaces_ws _ hok.1 hsp, curr?_cons, adv_one, LToken.place, LToken.placeBody,
    Token.place]
  rw [sliceBack_eq ['>'] rfl]
  simp [strLen, strLen_app, show utf8Len '>' = 1 from by decide, Nat.add_assoc]

/-- `/>` after any white space. -/
theorem parseAttribute_emptyL (pos : Nat) (lt : LToken) (sp : StrSpan) (r : Str)
    (ht : lt.token = .elementEnd .empty sp) (hok : lt.okL = true) :
    parseAttribute ⟨pos, renderLT lt ++ r⟩ = some (lt.place pos, ⟨pos + strLen (renderLT lt), r⟩) := by
  obtain ⟨tok, w, e1, e2, b⟩ := lt
  simp only at ht
  subst ht
  simp only [LToken.okL, Bool.and_eq_true] at hok
  have hsp : Stops isXmlSpace ('/' :: '>' :: r) := Stops.cons _ (by decide)
  simp only [renderLT, LToken.body, renderToken, List.append_assoc, List.cons_append, List.nil_append,
    parseAttribute, skipSpaces_ws _ hok.1 hsp, curr?_cons, adv_one, consumeByte_self,
    Option.bind_eq_bind, Option.bind_some, beq_self_eq_true, if_true, LToken.place, LToken.placeBody,
    Token.place]
  rw [sliceBack_eq ['/', '>'] rfl]
  simp [strLen, strLen_app, show utf8Len '>' = 1 from by decide, show utf8Len '/' = 1 from by decide,
    Nat.add_assoc]

/-! ### End tags -/

/-- End tag: any white space before `>`. -/
theorem parseCloseElement_L (pos : Nat) (lt : LToken) (p l sp : StrSpan) (r : Str)
    (ht : lt.token = .elementEnd (.close p l) sp) (hok : lt.okL = true) :
    parseCloseElement ⟨pos, lt.body ++ r⟩ = some (lt.placeBody pos, ⟨pos + strLen lt.body, r⟩) := by
  obtain ⟨tok, w0, w, e2, b⟩ := lt
  simp only at ht
  subst ht
  simp only [LToken.okL, Bool.and_eq_true] at hok
  obtain ⟨_, h, hw⟩ := hok
  have hgt : Stops isNameChar (w ++ '>' :: r) :=
    stops_ws_app (fun _ => space_not_nameChar) hw (Stops.cons r (by decide))
  have hsp : Stops isXmlSpace ('>' :: r) := Stops.cons r (by decide)
  have e2' : (Stream.mk pos ('<' :: '/' :: (tokQName p.text l.text ++ (w ++ '>' :: r)))).adv 2 =
      ⟨pos + 2, tokQName p.text l.text ++ (w ++ '>' :: r)⟩ := adv_two pos '<' '/' _
  simp only [LToken.body, LToken.placeBody, List.cons_append, List.append_assoc, List.nil_append,
    parseCloseElement, Option.bind_eq_bind, e2', consumeQName_app (pos + 2) h hgt, Option.bind_some,
    skipSpaces_ws _ hw hsp, consumeByte_self]
  rw [sliceBack_eq ('<' :: '/' :: (tokQName p.text l.text ++ (w ++ ['>']))) (by simp)]
  simp only [Option.some.injEq, Prod.mk.injEq, Stream.mk.injEq, and_true, true_and, strLen, strLen_app,
    show utf8Len '<' = 1 from by decide, show utf8Len '/' = 1 from by decide,
    show utf8Len '>' = 1 from by decide]
  omega

/-! ### Processing instructions -/

/-- `parse_pi` on `<?` target, white space, content, `?>`: the content is reported when it is
    not empty. -/
theorem parsePI_text (pos : Nat) (t w x r : Str) (hn : nameOK t = true) (hw : isWs w = true)
    (hq : Stops isNameChar (w ++ (x ++ (litPiClose ++ r)))) (hs : Stops isXmlSpace (x ++ (litPiClose ++ r)))
    (hall : x.all isXmlChar = true) (hinf : hasInfix litPiClose x = false) :
    parsePI ⟨pos, litPiOpen ++ (t ++ (w ++ (x ++ (litPiClose ++ r))))⟩ =
      some (.pi ⟨t, pos + 2⟩ (if x.isEmpty then none else some ⟨x, pos + 2 + strLen t + strLen w⟩)
          ⟨litPiOpen ++ (t ++ (w ++ (x ++ litPiClose))), pos⟩,
        ⟨pos + strLen (litPiOpen ++ (t ++ (w ++ (x ++ litPiClose)))), r⟩) := by
  simp only [parsePI, Option.bind_eq_bind, adv_app pos litPiOpen _ 2 rfl, consumeName_app _ hn hq,
    Option.bind_some, skipSpaces_ws _ hw hs,
    skipChars_close _ unbordered_piClose ⟨_, rfl⟩ (by decide) hall hinf, skipString_app, sliceBack_app]
  rw [sliceBack_eq (litPiOpen ++ (t ++ (w ++ (x ++ litPiClose)))) (by simp)]
  simp only [strLen_app, Nat.add_assoc]
  rfl

/-- A PI: any white space before `?>`, at least one white-space character before content. -/
theorem parsePI_L (pos : Nat) (lt : LToken) (t : StrSpan) (c : Option StrSpan) (sp : StrSpan) (r : Str)
    (ht : lt.token = .pi t c sp) (hok : lt.okL = true) :
    parsePI ⟨pos, lt.body ++ r⟩ = some (lt.placeBody pos, ⟨pos + strLen lt.body, r⟩) := by
  obtain ⟨tok, w0, w, e2, b⟩ := lt
  simp only at ht
  subst ht
  cases c with
  | none =>
    simp only [LToken.okL, Bool.and_eq_true] at hok
    obtain ⟨_, ⟨h, hw⟩, _⟩ := hok
    have := parsePI_text pos t.text w [] r h hw
      (stops_ws_app (fun _ => space_not_nameChar) hw (Stops.cons _ (by decide)))
      (Stops.cons _ (by decide)) rfl rfl
    simpa [LToken.body, LToken.placeBody, litPiOpen, litPiClose] using this
  | some c =>
    simp only [LToken.okL, Bool.and_eq_true, Bool.not_eq_true', List.isEmpty_eq_false_iff] at hok
    obtain ⟨_, ⟨h, hw⟩, hne⟩ := hok
    simp only [Token.lexOK, Bool.and_eq_true, Bool.not_eq_true', List.isEmpty_eq_false_iff] at h
    obtain ⟨⟨⟨⟨⟨hname, _⟩, hcne⟩, hhead⟩, hall⟩, hinf⟩ := h
    obtain ⟨cc, cs, hc⟩ := List.exists_cons_of_ne_nil hcne
    obtain ⟨wc, ws, rfl⟩ := List.exists_cons_of_ne_nil hne
    have := parsePI_text pos t.text (wc :: ws) c.text r hname hw
      (Stops.cons _ (space_not_nameChar (isWs_cons hw).1))
      (by rw [hc]; exact Stops.cons _ (by simpa [hc] using hhead)) hall hinf
    simpa [LToken.body, LToken.placeBody, litPiOpen, litPiClose, hc] using this
end XotModel.Lex.Free

/-! ### One call of `parse_next_impl` on a token with its layout

  The tokens with no layout freedom (start-tag name, text, CDATA, comment) are in Lemmas/LexCanonStep.lean.
-/

namespace XotModel.Lex.Free

open XotModel.Lex XotModel.Lex.Stream XotModel.Lex.Canon

theorem atEnd_app_cons (p : Nat) (a : Str) (c : Char) (r : Str) :
    (Stream.mk p (a ++ c :: r)).atEnd = false := by
  cases a <;> rfl

/-! ### `State::Attributes` -/

theorem step_attr_attrL (tk : Tokenizer) (pos : Nat) (lt : LToken) (p l v sp : StrSpan) (r : Str)
    (ht : lt.token = .attribute p l v sp) (hok : lt.okL = true) (hlead : lt.lead ≠ [])
    (hst : tk.state = .attributes) (hs : tk.stream = ⟨pos, renderLT lt ++ r⟩) :
    parseNextImpl tk = .token (lt.place pos)
      { tk with stream := ⟨pos + strLen (renderLT lt), r⟩ } := by
  have he : tk.stream.atEnd = false := by
    rw [hs]; obtain ⟨c, cs, hc⟩ := List.exists_cons_of_ne_nil hlead; simp [renderLT, hc, atEnd]
  have hp := parseAttribute_attrL pos lt p l v sp r ht hok hlead
  rw [← hs] at hp
  have hk : ∃ p' l' v' sp', lt.place pos = .attribute p' l' v' sp' := by
    simp only [LToken.place, LToken.placeBody, ht]; exact ⟨_, _, _, _, rfl⟩
  obtain ⟨p', l', v', sp', hk⟩ := hk
  rw [hk] at hp ⊢
  exact parseNextImpl_attr hst he hp

theorem step_attr_openL (tk : Tokenizer) (pos : Nat) (lt : LToken) (sp : StrSpan) (r : Str)
    (ht : lt.token = .elementEnd .open sp) (hok : lt.okL = true)
    (hst : tk.state = .attributes) (hs : tk.stream = ⟨pos, renderLT lt ++ r⟩) :
    parseNextImpl tk = .token (lt.place pos)
      { tk with stream := ⟨pos + strLen (renderLT lt), r⟩, depth := tk.depth + 1, state := .elements } := by
  have he : tk.stream.atEnd = false := by
    rw [hs]; simp [renderLT, LToken.body, ht, renderToken, atEnd]
  have hp := parseAttribute_openL pos lt sp r ht hok
  rw [← hs] at hp
  have hk : lt.place pos = .elementEnd .open ⟨['>'], pos + strLen lt.lead⟩ := by
    simp only [LToken.place, LToken.placeBody, ht, Token.place]
  rw [hk] at hp ⊢
  rw [parseNextImpl_tagEnd hst he hp]
  simp [stateAfterTag]

theorem step_attr_emptyL (tk : Tokenizer) (pos : Nat) (lt : LToken) (sp : StrSpan) (r : Str)
    (ht : lt.token = .elementEnd .empty sp) (hok : lt.okL = true)
    (hst : tk.state = .attributes) (hs : tk.stream = ⟨pos, renderLT lt ++ r⟩) :
    parseNextImpl tk = .token (lt.place pos)
      { tk with stream := ⟨pos + strLen (renderLT lt), r⟩,
                state := stateAfterTag tk.depth tk.fragment } := by
  have he : tk.stream.atEnd = false := by
    rw [hs]; simp [renderLT, LToken.body, ht, renderToken, atEnd]
  have hp := parseAttribute_emptyL pos lt sp r ht hok
  rw [← hs] at hp
  have hk : lt.place pos = .elementEnd .empty ⟨['/', '>'], pos + strLen lt.lead⟩ := by
    simp only [LToken.place, LToken.placeBody, ht, Token.place]
  rw [hk] at hp ⊢
  rw [parseNextImpl_tagEnd hst he hp]
  simp

/-! ### `State::Elements`: end tags -/

theorem step_el_closeL (tk : Tokenizer) (pos : Nat) (lt : LToken) (p l sp : StrSpan) (r : Str)
    (ht : lt.token = .elementEnd (.close p l) sp) (hok : lt.okL = true)
    (hst : tk.state = .elements) (hs : tk.stream = ⟨pos, lt.body ++ r⟩) :
    parseNextImpl tk = .token (lt.placeBody pos)
      { tk with stream := ⟨pos + strLen lt.body, r⟩, depth := tk.depth - 1,
                state := stateAfterTag (tk.depth - 1) tk.fragment } := by
  have hb : ∃ x, lt.body = '<' :: '/' :: x := by
    obtain ⟨tok, w, e1, e2, b⟩ := lt
    simp only at ht
    subst ht
    exact ⟨_, rfl⟩
  obtain ⟨x, hb⟩ := hb
  rw [parseNextImpl_close hst (x := x ++ r) (by rw [hs, hb]; rfl), hs,
    parseCloseElement_L pos lt p l sp r ht hok]
  rfl

/-! ### Processing instructions -/

/-- A PI body begins with `<?`; what follows is the target and then white space or `?>`. -/
theorem pi_body (lt : LToken) (t : StrSpan) (c : Option StrSpan) (sp : StrSpan)
    (ht : lt.token = .pi t c sp) (hok : lt.okL = true) :
    ∃ rest, lt.body = '<' :: '?' :: (t.text ++ rest) ∧ nameOK t.text = true ∧ Stops isNameChar rest ∧
      (t.text ≠ ['x', 'm', 'l'] ∨ rest.head? ≠ some ' ') ∧ rest ≠ [] := by
  obtain ⟨tok, w, e1, e2, b⟩ := lt
  simp only at ht
  subst ht
  cases c with
  | none =>
    simp only [LToken.okL, Bool.and_eq_true, Bool.or_eq_true, List.isEmpty_iff, bne_iff_ne, ne_eq] at hok
    obtain ⟨_, ⟨hn, hw⟩, hx⟩ := hok
    refine ⟨e1 ++ ['?', '>'], by simp [LToken.body], hn,
      stops_ws_app (fun _ => space_not_nameChar) hw (Stops.cons _ (by decide)), ?_, by simp⟩
    rcases hx with rfl | hx
    · exact .inr (by simp)
    · exact .inl hx
  | some c =>
    simp only [LToken.okL, Token.lexOK, Bool.and_eq_true, bne_iff_ne, ne_eq, Bool.not_eq_true',
      List.isEmpty_eq_false_iff] at hok
    obtain ⟨_, ⟨⟨⟨⟨⟨⟨hn, hx⟩, _⟩, _⟩, _⟩, _⟩, hw⟩, hne⟩ := hok
    obtain ⟨wc, ws, rfl⟩ := List.exists_cons_of_ne_nil hne
    exact ⟨(wc :: ws) ++ (c.text ++ ['?', '>']), by simp [LToken.body], hn,
      Stops.cons _ (space_not_nameChar (isWs_cons hw).1), .inl hx, by simp⟩

theorem pi_not_xmldeclL (lt : LToken) (t : StrSpan) (c : Option StrSpan) (sp : StrSpan) (r : Str)
    (ht : lt.token = .pi t c sp) (hok : lt.okL = true) :
    litXmlDecl.isPrefixOf (lt.body ++ r) = false := by
  obtain ⟨rest, hb, hn, hr, hx, hne⟩ := pi_body lt t c sp ht hok
  obtain ⟨rc, rs, rfl⟩ := List.exists_cons_of_ne_nil hne
  rw [hb]
  have := not_xmldecl (t := t.text) (rest := (rc :: rs) ++ r) hn
    (Stops.cons _ (hr rc rfl)) (by simpa using hx)
  simpa using this

/-- A PI with any layout, in `Elements` or outside the root element. -/
theorem step_piL (tk : Tokenizer) (pos : Nat) (lt : LToken) (t : StrSpan) (c : Option StrSpan)
    (sp : StrSpan) (r : Str) (ht : lt.token = .pi t c sp) (hok : lt.okL = true)
    (hst : tk.state = .elements ∨ MiscState tk.state) (hs : tk.stream = ⟨pos, lt.body ++ r⟩) :
    parseNextImpl tk = .token (lt.placeBody pos) { tk with stream := ⟨pos + strLen lt.body, r⟩ } := by
  obtain ⟨rest, hb, _⟩ := pi_body lt t c sp ht hok
  have hx : tk.stream.startsWith litXmlDecl = false := by
    rw [hs]; exact pi_not_xmldeclL lt t c sp r ht hok
  rw [parseNextImpl_pi hst (x := t.text ++ rest ++ r) (by rw [hs, hb]; simp), hx, hs,
    parsePI_L pos lt t c sp r ht hok]
  rfl

/-! ### White space between the top-level items of a document -/

/-- In `AfterDeclaration`, `AfterDtd` and `AfterElements` the tokenizer skips white space without a
    token. -/
theorem step_misc_space (tk : Tokenizer) (pos : Nat) (w r : Str) (hst : MiscState tk.state)
    (hs : tk.stream = ⟨pos, w ++ r⟩) (hw : isWs w = true) (hne : w ≠ []) (hr : Stops isXmlSpace r) :
    parseNextImpl tk = .skip { tk with stream := ⟨pos + strLen w, r⟩ } := by
  obtain ⟨c, cs, rfl⟩ := List.exists_cons_of_ne_nil hne
  have hc := (isWs_cons hw).1
  have hend : tk.stream.atEnd = false := by rw [hs]; rfl
  have hsp : tk.stream.startsWithSpace = true := by rw [hs]; exact startsWithSpace_ws pos hw hne
  have hsk : tk.stream.skipSpaces = ⟨pos + strLen (c :: cs), r⟩ := by rw [hs]; exact skipSpaces_ws pos hw hr
  have hlt : c ≠ '<' := by intro e; rw [e] at hc; revert hc; decide
  have hb : tk.stream.rest = c :: (cs ++ r) := by rw [hs]; rfl
  have hnot : ∀ lit : Str, lit.head? = some '<' → tk.stream.startsWith lit = false :=
    fun lit hl => startsWith_lt_false hb hlt hl
  have hm : ∀ other : Step, miscStep tk other = other := fun other =>
    miscStep_other other hb (.inl hlt)
  unfold parseNextImpl
  rcases hst with h | h | h <;>
    simp only [hend, Bool.false_eq_true, if_false, h, hnot litDoctype rfl, hnot litBang rfl,
      hnot litLt rfl, hm, hsp, if_true, hsk]

end XotModel.Lex.Free
