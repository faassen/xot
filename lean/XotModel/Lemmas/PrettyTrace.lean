/-
  The XML instance of Lemmas/PrettyStack (`has_inline_child` for `is_inline = |_| false`, `is_suppressed` =
  membership in the suppress list): the `Pretty` stack along `Xot::pretty_tokens`, and where a pretty token carries
  indentation or a newline.
-/
import XotModel.Lemmas.PrettyStack

/-!
## The stack along the XML traversal

  The `Pretty` stack along the XML traversal (`prettify`): the instance of Lemmas/PrettyStack with
  `has_inline_child` for `is_inline = |_| false` and `is_suppressed` = membership in the suppress list.
-/

namespace XotModel

variable (sup : List Nat) (t : Tree)

/-- The stack after `prettify` of one event. -/
def pstep (ps : PStack) (po : Path × Output) : PStack := (prettifyAt sup t ps po.1 po.2).1

/-- The stack after a list of events. -/
def prun : PStack → List (Path × Output) → PStack
  | ps, [] => ps
  | ps, po :: rest => prun (pstep sup t ps po) rest

/-- The stack held before each event. -/
def ptrace : PStack → List (Path × Output) → List (PStack × Path × Output)
  | _, [] => []
  | ps, po :: rest => (ps, po.1, po.2) :: ptrace (pstep sup t ps po) rest

/-- The entry `StartTagClose` pushes for an element with children. -/
def entryFor (node : Tree) : StackEntry :=
  if hasInlineChild node then .mixed
  else if (match node.value with
           | .element name => sup.contains name
           | _ => false) then .mixed
  else .unmixed (elementSpace node)

/-- What an open node has on the stack: elements with children one entry, anything else nothing. -/
def openEntryOf (node : Tree) : PStack :=
  match node.value with
  | .element _ => if node.firstChild?.isSome then [entryFor sup node] else []
  | _ => []

/-- Entries of the nodes from `n` down to the parent of the node at `rel`, innermost first. -/
def pentriesAbove : Tree → Path → PStack
  | _, [] => []
  | n, i :: rel =>
    match n.kids[i]? with
    | some k => pentriesAbove k rel ++ openEntryOf sup n
    | none => []

/-- … down to the node at `rel` itself. -/
def pentriesIncl : Tree → Path → PStack
  | n, [] => openEntryOf sup n
  | n, i :: rel =>
    match n.kids[i]? with
    | some k => pentriesIncl k rel ++ openEntryOf sup n
    | none => openEntryOf sup n

/-- The stack an event of the node at `rel` sees: the end tag is handled with the element's own
    entry still on the stack. -/
def pentriesFor (o : Output) (n : Tree) (rel : Path) : PStack :=
  match o with
  | .endTag _ => pentriesIncl sup n rel
  | _ => pentriesAbove sup n rel

/-! ### These are the `Pretty.*` of Lemmas/PrettyStack for the XML closures
  (`entryFor sup`, `openEntryOf sup` by unfolding) -/

theorem pstep_eq_pretty : pstep sup t = Pretty.step hasInlineChild sup.contains t := by
  funext ps po
  rw [pstep, prettifyAt_eq_with]
  rfl

theorem prun_eq_foldl (ps : PStack) (evs : List (Path × Output)) :
    prun sup t ps evs = evs.foldl (pstep sup t) ps := by
  induction evs generalizing ps with
  | nil => rfl
  | cons po evs ih => exact ih _

theorem ptrace_eq_pretty : ptrace sup t = Pretty.trace (pstep sup t) := by
  funext ps evs
  induction evs generalizing ps with
  | nil => rfl
  | cons po evs ih => rw [ptrace, Pretty.trace, ih]

theorem pentriesAbove_eq_pretty :
    pentriesAbove sup = Pretty.entriesAbove hasInlineChild sup.contains := by
  funext n rel
  induction rel generalizing n with
  | nil => rfl
  | cons i rel ih =>
    rw [pentriesAbove, Pretty.entriesAbove]
    cases n.kids[i]? with
    | none => rfl
    | some k => exact congrArg (· ++ _) (ih k)

theorem pentriesIncl_eq_pretty :
    pentriesIncl sup = Pretty.entriesIncl hasInlineChild sup.contains := by
  funext n rel
  induction rel generalizing n with
  | nil => rfl
  | cons i rel ih =>
    rw [pentriesIncl, Pretty.entriesIncl]
    cases n.kids[i]? with
    | none => rfl
    | some k => exact congrArg (· ++ _) (ih k)

theorem pentriesFor_eq_pretty : pentriesFor sup = Pretty.entriesFor hasInlineChild sup.contains := by
  funext o n rel
  cases o <;> simp only [pentriesFor, Pretty.entriesFor, pentriesAbove_eq_pretty, pentriesIncl_eq_pretty]

theorem genKids_ptrace (inScope : List (Nat × Nat)) (path : Path) (i : Nat) (ks : List Tree)
    (hat : ∀ (j : Nat) (k : Tree), ks[j]? = some k → t.at? (path ++ [i + j]) = some k) (ps : PStack) :
    (∀ x ∈ ptrace sup t ps (genNode.genKids inScope path i ks),
        ∃ (j : Nat) (k : Tree) (rel : Path), ks[j]? = some k ∧ x.2.1 = path ++ (i + j) :: rel ∧
          x.1 = pentriesFor sup x.2.2 k rel ++ ps) ∧
    prun sup t ps (genNode.genKids inScope path i ks) = ps := by
  rw [prun_eq_foldl, ptrace_eq_pretty, pstep_eq_pretty, pentriesFor_eq_pretty]
  exact Pretty.genKids_trace _ _ t inScope path i ks hat ps

/-! ### The pretty token stream against the trace -/

/-- A successful pretty stream: its decorations are `prettify` on the traced stacks, and every
    token is what `render_output` returned for its event. -/
theorem prettyAll_ok (esc : Escapers) (env : Env) (pr : TokenParams) (ps : PStack) (s : FStack)
    (evs : List (Path × Output)) (ks : List (Path × Output × PrettyOutputToken))
    (h : prettyAllWith esc env pr sup t ps s evs = .ok ks) :
    ks.map (fun k => ((k.2.2.indentation, k.2.2.newline), k.1, k.2.1)) =
      Pretty.decorated hasInlineChild sup.contains t ps evs ∧
    ∀ k ∈ ks, ∃ s1 s2, renderAtWith esc env pr t s1 k.1 k.2.1 = .ok (s2, ⟨k.2.2.space, k.2.2.text⟩) := by
  induction evs generalizing ps s ks with
  | nil =>
    simp only [prettyAllWith] at h
    cases h
    exact ⟨rfl, fun _ hk => nomatch hk⟩
  | cons po evs ih =>
    obtain ⟨p, o⟩ := po
    simp only [prettyAllWith] at h
    cases hr : renderAtWith esc env pr t s p o with
    | ok st =>
      obtain ⟨s', tok⟩ := st
      simp only [hr] at h
      cases hrest : prettyAllWith esc env pr sup t (prettifyAt sup t ps p o).1 s' evs with
      | ok l =>
        simp only [hrest] at h
        cases h
        obtain ⟨i1, i2⟩ := ih _ _ _ hrest
        refine ⟨by rw [List.map_cons, i1, prettifyAt_eq_with]; rfl, fun k hk => ?_⟩
        rcases List.mem_cons.mp hk with rfl | hk
        · exact ⟨s, s', hr⟩
        · exact i2 k hk
      | err e => simp [hrest] at h
      | panic => simp [hrest] at h
    | err e => simp [hr] at h
    | panic => simp [hr] at h

/-- Every token of a successful pretty stream is a trace entry, decorated by `prettify` on the
    traced stack. -/
theorem prettyAll_trace (esc : Escapers) (env : Env) (pr : TokenParams) (ps : PStack) (s : FStack)
    (evs : List (Path × Output)) (ks : List (Path × Output × PrettyOutputToken))
    (h : prettyAllWith esc env pr sup t ps s evs = .ok ks) (k : Path × Output × PrettyOutputToken)
    (hk : k ∈ ks) :
    ∃ ps', (ps', k.1, k.2.1) ∈ Pretty.trace (Pretty.step hasInlineChild sup.contains t) ps evs ∧
      (k.2.2.indentation, k.2.2.newline) =
        (prettifyAtWith hasInlineChild sup.contains t ps' k.1 k.2.1).2 := by
  have hm := List.mem_map_of_mem (f := fun k : Path × Output × PrettyOutputToken =>
    ((k.2.2.indentation, k.2.2.newline), k.1, k.2.1)) hk
  rw [(prettyAll_ok sup t esc env pr ps s evs ks h).1] at hm
  obtain ⟨x, hx, he⟩ := List.mem_map.mp hm
  obtain ⟨ps', p', o'⟩ := x
  simp only [Prod.mk.injEq] at he
  obtain ⟨he, rfl, rfl⟩ := he
  exact ⟨ps', hx, he.symm⟩

theorem prettyAll_events (esc : Escapers) (env : Env) (pr : TokenParams) (ps : PStack) (s : FStack)
    (evs : List (Path × Output)) (ks : List (Path × Output × PrettyOutputToken))
    (h : prettyAllWith esc env pr sup t ps s evs = .ok ks) :
    ks.map (fun k => (k.1, k.2.1)) = evs := by
  have := congrArg (List.map (fun y : (Nat × Bool) × Path × Output => y.2))
    (prettyAll_ok sup t esc env pr ps s evs ks h).1
  rwa [Pretty.decorated_events, List.map_map] at this

/-- Two consecutive pretty tokens: both are trace entries, the second one's stack is the stack the
    first leaves behind. -/
theorem prettyAll_adjacent (esc : Escapers) (env : Env) (pr : TokenParams) (ps : PStack) (s : FStack)
    (evs : List (Path × Output)) (ks pre post : List (Path × Output × PrettyOutputToken))
    (k1 k2 : Path × Output × PrettyOutputToken)
    (h : prettyAllWith esc env pr sup t ps s evs = .ok ks) (hks : ks = pre ++ k1 :: k2 :: post) :
    ∃ ps1, (ps1, k1.1, k1.2.1) ∈ Pretty.trace (Pretty.step hasInlineChild sup.contains t) ps evs ∧
      (Pretty.step hasInlineChild sup.contains t ps1 (k1.1, k1.2.1), k2.1, k2.2.1) ∈
        Pretty.trace (Pretty.step hasInlineChild sup.contains t) ps evs ∧
      (k1.2.2.indentation, k1.2.2.newline) =
        (prettifyAtWith hasInlineChild sup.contains t ps1 k1.1 k1.2.1).2 ∧
      (k2.2.2.indentation, k2.2.2.newline) =
        (prettifyAtWith hasInlineChild sup.contains t
          (Pretty.step hasInlineChild sup.contains t ps1 (k1.1, k1.2.1)) k2.1 k2.2.1).2 := by
  have hd := (prettyAll_ok sup t esc env pr ps s evs ks h).1
  rw [hks, List.map_append, List.map_cons, List.map_cons] at hd
  exact Pretty.decorated_adjacent _ _ t ps evs _ _ _ _ hd.symm

/-! ### Reading the entries off the tree -/

theorem mem_openEntryOf {a : Tree} {e : StackEntry} (h : e ∈ openEntryOf sup a) :
    (∃ name, a.value = .element name) ∧ a.firstChild?.isSome = true ∧ e = entryFor sup a :=
  Pretty.mem_openEntryOf _ _ h

theorem mem_pentriesAbove (n : Tree) (rel : Path) (node : Tree) (hat : n.at? rel = some node)
    (e : StackEntry) (h : e ∈ pentriesAbove sup n rel) :
    ∃ a, OpenAbove n rel a ∧ e ∈ openEntryOf sup a := by
  rw [pentriesAbove_eq_pretty] at h
  exact Pretty.mem_entriesAbove _ _ n rel node hat e h

theorem entryFor_mixed_iff (a : Tree) (name : Nat) (hv : a.value = .element name) :
    entryFor sup a = .mixed ↔ (hasInlineChild a = true ∨ sup.contains name = true) :=
  Pretty.entryFor_mixed_iff _ _ a name hv

end XotModel

/-!
## Where a pretty token is decorated

  Where `Pretty` grants whitespace in the XML token stream, read off the tree: the tokens of
  `prettyTokensWith` against the traversal invariant of the `Pretty` stack (Lemmas/PrettyStack).
-/

namespace XotModel

variable (sup : List Nat) (t : Tree)

/-- `Xot::pretty_tokens` succeeds with the stream `prettyAllWith` yields from the empty stack. -/
theorem prettyTokensWith_ok {esc : Escapers} {env : Env} {pr : TokenParams} {start : Path}
    {ks : List (Path × Output × PrettyOutputToken)}
    (h : prettyTokensWith esc env pr sup t start = .ok ks) :
    prettyAllWith esc env pr sup t [] (initStack t start) (genOutputs t start) = .ok ks := by
  unfold prettyTokensWith at h
  split at h
  · cases h
    assumption
  · cases h
  · cases h

/-- The stack the newline decision of an event looks at: `StartTagClose` decides after pushing
    the element's own entry, every other event on the entries above its node. -/
def pentriesNewline (o : Output) (n : Tree) (rel : Path) : PStack :=
  match o with
  | .startTagClose => pentriesIncl sup n rel
  | _ => pentriesAbove sup n rel

theorem pentriesNewline_eq_pretty :
    pentriesNewline sup = Pretty.entriesAfter hasInlineChild sup.contains := by
  funext o n rel
  cases o <;>
    simp only [pentriesNewline, Pretty.entriesAfter, pentriesAbove_eq_pretty, pentriesIncl_eq_pretty]

/-- Each pretty token's indentation and newline are `prettify` on the entries of the open
    elements between the start node and the token's node. -/
theorem pretty_token_entries (esc : Escapers) (env : Env) (pr : TokenParams) (start : Path) (n : Tree)
    (inScope : List (Nat × Nat)) (hat : t.at? start = some n)
    (hs : namespacesInScope t start = some inScope)
    (ks : List (Path × Output × PrettyOutputToken))
    (h : prettyTokensWith esc env pr sup t start = .ok ks)
    (k : Path × Output × PrettyOutputToken) (hk : k ∈ ks) :
    ∃ rel, k.1 = start ++ rel ∧ (k.1, k.2.1) ∈ genOutputs t start ∧
      (k.2.2.indentation, k.2.2.newline) =
        (prettifyAt sup t (pentriesFor sup k.2.1 n rel) k.1 k.2.1).2 := by
  obtain ⟨ps', hmem, heq⟩ := prettyAll_trace sup t esc env pr [] _ _ _ (prettyTokensWith_ok sup t h) k hk
  obtain ⟨rel, h1, h2⟩ := Pretty.genOutputs_trace _ _ t start n inScope hat hs _ hmem
  rw [prettifyAt_eq_with, pentriesFor_eq_pretty]
  exact ⟨rel, h1, Pretty.trace_mem_events _ _ _ _ hmem, by rw [← h2]; exact heq⟩

/-- A pretty token against the tree: indentation requires the entries of the open elements
    between the start node and the token's node to be neither mixed nor in `preserve` scope, a
    newline the entries it lands in. -/
theorem pretty_token_where (esc : Escapers) (env : Env) (pr : TokenParams) (start : Path) (n : Tree)
    (inScope : List (Nat × Nat)) (hat : t.at? start = some n)
    (hs : namespacesInScope t start = some inScope)
    (ks : List (Path × Output × PrettyOutputToken))
    (h : prettyTokensWith esc env pr sup t start = .ok ks)
    (k : Path × Output × PrettyOutputToken) (hk : k ∈ ks) :
    ∃ rel node, k.1 = start ++ rel ∧ n.at? rel = some node ∧
      (k.2.2.indentation > 0 → PStack.inMixed (pentriesFor sup k.2.1 n rel) = false ∧
        PStack.inSpacePreserve (pentriesFor sup k.2.1 n rel) = false) ∧
      (k.2.2.newline = true → PStack.inMixed (pentriesNewline sup k.2.1 n rel) = false ∧
        PStack.inSpacePreserve (pentriesNewline sup k.2.1 n rel) = false) := by
  obtain ⟨ps', hmem, heq⟩ := prettyAll_trace sup t esc env pr [] _ _ _ (prettyTokensWith_ok sup t h) k hk
  obtain ⟨rel, node, h1, hnode, _, _, hi, hn⟩ :=
    Pretty.where_tree _ _ t start n inScope hat hs _ hmem
  rw [← heq] at hi hn
  rw [pentriesFor_eq_pretty, pentriesNewline_eq_pretty]
  exact ⟨rel, node, h1, hnode, hi, hn⟩

/-- A token that receives indentation or a newline has no mixed entry among the entries of the
    open elements strictly above its node. -/
theorem pretty_where_notMixed (esc : Escapers) (env : Env) (pr : TokenParams) (start : Path) (n : Tree)
    (inScope : List (Nat × Nat)) (hat : t.at? start = some n)
    (hs : namespacesInScope t start = some inScope)
    (ks : List (Path × Output × PrettyOutputToken))
    (h : prettyTokensWith esc env pr sup t start = .ok ks)
    (k : Path × Output × PrettyOutputToken) (hk : k ∈ ks)
    (hw : k.2.2.indentation > 0 ∨ k.2.2.newline = true) :
    ∃ rel node, k.1 = start ++ rel ∧ n.at? rel = some node ∧
      PStack.inMixed (pentriesAbove sup n rel) = false := by
  obtain ⟨rel, node, h1, hnode, hi, hn⟩ := pretty_token_where sup t esc env pr start n inScope hat hs ks h k hk
  refine ⟨rel, node, h1, hnode, ?_⟩
  rw [pentriesFor_eq_pretty] at hi
  rw [pentriesNewline_eq_pretty] at hn
  rw [pentriesAbove_eq_pretty]
  rcases hw with hw | hw
  · exact Pretty.inMixed_above_of_for _ _ _ n rel node hnode (hi hw).1
  · exact Pretty.inMixed_above_of_after _ _ _ n rel node hnode (hn hw).1

/-- The `xml:space="preserve"` rule on trees, full strength: a token is indented only if the
    entries of the open elements its whitespace lands in are not in `preserve` scope, and gets a
    newline only if the entries the newline lands in are not. -/
theorem pretty_where_notPreserve (esc : Escapers) (env : Env) (pr : TokenParams) (start : Path) (n : Tree)
    (inScope : List (Nat × Nat)) (hat : t.at? start = some n)
    (hs : namespacesInScope t start = some inScope)
    (ks : List (Path × Output × PrettyOutputToken))
    (h : prettyTokensWith esc env pr sup t start = .ok ks)
    (k : Path × Output × PrettyOutputToken) (hk : k ∈ ks) :
    ∃ rel, k.1 = start ++ rel ∧
      (k.2.2.indentation > 0 → PStack.inSpacePreserve (pentriesFor sup k.2.1 n rel) = false) ∧
      (k.2.2.newline = true → PStack.inSpacePreserve (pentriesNewline sup k.2.1 n rel) = false) := by
  obtain ⟨rel, _, h1, _, hi, hn⟩ := pretty_token_where sup t esc env pr start n inScope hat hs ks h k hk
  exact ⟨rel, h1, fun hw => (hi hw).2, fun hw => (hn hw).2⟩

end XotModel
