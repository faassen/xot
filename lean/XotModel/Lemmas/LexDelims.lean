/-
  The bytes around the inner spans of a token (`Token.Delims`: `<!--` / `-->`, `<?` / `?>` with the
  white space behind the target, `</` … `>`), and that a text token starts where the token before it
  ends with `>` (`TextAdj`), for every token of every run of the reference tokenizer.
-/
import XotModel.Lemmas.BasicFacts
import XotModel.Lemmas.LexSpell

/-! ### The delimiters of one token

  The DELIMITERS of the tokens of the reference tokenizer, on every input
  (complements `Token.Spelled`, Lemmas/LexSpell.lean):

    * a comment token's whole span reads `<!--` body `-->`, the body span starts 4 bytes in;
    * a PI token's whole span reads `<?` target, white space, content, `?>`; the target span starts
      2 bytes in, the content span right behind the white space;
    * an end-tag token's whole span reads `</` name, white space, `>`, where the name is the qualified
      name `prefix:local` / `local` of the token (unless the name is written `:local`, `bareColon`);
    * a text token starts at byte 0 of the input or directly behind a token whose whole span ends
      with `>` (`TextAdj`): in particular never behind `<![CDATA[`.
-/

namespace XotModel

/-- What the whole span of a comment / PI / end-tag token spells around the inner spans. -/
def Token.Delims : Token → Prop
  | .comment t sp => sp.text = Lex.litCommentOpen ++ t.text ++ Lex.litCommentClose ∧ t.start = sp.start + 4
  | .pi tg c sp => ∃ ws body, sp.text = Lex.litPiOpen ++ tg.text ++ ws ++ body ++ Lex.litPiClose ∧
      (∀ x ∈ ws, isXmlSpace x = true) ∧ tg.start = sp.start + 2 ∧
      (∀ cs, c = some cs → cs.text = body ∧ cs.start = sp.start + 2 + strLen tg.text + strLen ws) ∧
      (c = none → body = [])
  | .elementEnd (.close p l) sp => ∃ nm ws, sp.text = '<' :: '/' :: (nm ++ ws ++ ['>']) ∧
      (∀ x ∈ ws, isXmlSpace x = true) ∧ (p.bareColon = false → nm = tokQName p.text l.text)
  | _ => True

/-- The whole span ends with `>`. -/
def Token.EndsGt (t : Token) : Prop := ∃ pre, t.wholeSpan.text = pre ++ ['>']

/-- Consecutive tokens `a b`: a text token `b` starts where the whole span of `a` ends, and that span
    ends with `>`. -/
def TextAdj (a b : Token) : Prop := b.isTextTok = true → a.wholeSpan.stop = b.wholeSpan.start ∧ a.EndsGt

namespace Lex.Slice

open XotModel.Lex.Stream

/-! ### Stream pieces -/

theorem take_length_takeWhile {α : Type} (p : α → Bool) : ∀ l : List α, l.take (l.takeWhile p).length = l.takeWhile p
  | [] => rfl
  | x :: xs => by
    simp only [List.takeWhile_cons]
    split
    · simp only [List.length_cons, List.take_succ_cons, take_length_takeWhile p xs]
    · rfl

theorem skipSpaces_text (s : Lex.Stream) : (sliceBack s s.skipSpaces).text = s.rest.takeWhile isXmlSpace := by
  show (sliceBack s (s.adv (s.rest.takeWhile isXmlSpace).length)).text = _
  rw [sliceBack_adv_text, take_length_takeWhile]

theorem skipSpaces_text_spaces (s : Lex.Stream) : ∀ x ∈ (sliceBack s s.skipSpaces).text, isXmlSpace x = true := by
  rw [skipSpaces_text]
  intro x hx
  exact mem_takeWhile_imp _ _ x hx

/-- The text `consume_qname` moves over: the qualified name of the two spans, or `:local` with an empty
    prefix span positioned at the colon. -/
theorem consumeQName_written {s s' : Lex.Stream} {p l : StrSpan} (h : s.consumeQName = some (p, l, s')) :
    (sliceBack s s').text = tokQName p.text l.text ∨ (p.text = [] ∧ p.start = s.pos) := by
  rcases consumeQName_text h with ⟨b, hr, rfl, rfl, -, -, -⟩ | ⟨a, b, hr, rfl, rfl, -, -, -, -⟩
  · left
    rw [show s' = ⟨s'.pos, s'.rest⟩ from rfl, (stream_split hr).2]
    simp [tokQName, emptySpan]
  · cases a with
    | nil => exact .inr ⟨rfl, rfl⟩
    | cons c cs =>
      left
      rw [show s' = ⟨s'.pos, s'.rest⟩ from rfl,
        (stream_split (x := (c :: cs) ++ ':' :: b) (by simp [hr])).2]
      simp [tokQName]

/-! ### The three parsers -/

theorem parseComment_delims {s s' : Lex.Stream} {t : Token} (ho : s.startsWith litCommentOpen = true)
    (h : parseComment s = some (t, s')) :
    t.Delims ∧ t.wholeSpan.stop = s'.pos ∧ t.EndsGt ∧ ∃ a b, t = .comment a b := by
  obtain ⟨s2, h2, h3, rfl⟩ := parseComment_inv h
  have hb : (sliceBack s s').text = litCommentOpen ++ (sliceBack (s.adv 4) s2).text ++ litCommentClose ∧
      (s.adv 4).pos = s.pos + 4 := bracketed_text (op := litCommentOpen) ho h2 h3
  obtain ⟨htext, hpos⟩ := hb
  refine ⟨⟨htext, hpos⟩, Reach.sliceBack_stop ((Reach.adv s 4).trans (parseComment_reach h)), ?_, _, _, rfl⟩
  · refine ⟨litCommentOpen ++ (sliceBack (s.adv 4) s2).text ++ ['-', '-'], ?_⟩
    show (sliceBack s s').text = _
    rw [htext]
    simp [litCommentClose]

theorem parsePI_delims {s s' : Lex.Stream} {t : Token} (ho : s.startsWith litPiOpen = true)
    (h : parsePI s = some (t, s')) :
    t.Delims ∧ t.wholeSpan.stop = s'.pos ∧ t.EndsGt ∧ ∃ a c b, t = .pi a c b := by
  obtain ⟨tg, s2, s4, h2, h4, h5, rfl⟩ := parsePI_inv h
  have r1 : Reach s (s.adv 2) := Reach.adv s 2
  have r2 : Reach (s.adv 2) s2 := consumeName_reach h2
  have r3 : Reach s2 s2.skipSpaces := skipSpaces_reach s2
  have r4 : Reach s2.skipSpaces s4 := skipChars_reach h4
  have r5 : Reach s4 s' := skipString_reach h5
  have hopen : (sliceBack s (s.adv 2)).text = litPiOpen := by
    rw [sliceBack_adv_text]; exact startsWith_take ho
  have htg : tg = sliceBack (s.adv 2) s2 := (consumeName_inv h2).2
  have htext : (sliceBack s s').text = litPiOpen ++ tg.text ++ (sliceBack s2 s2.skipSpaces).text ++
      (sliceBack s2.skipSpaces s4).text ++ litPiClose := by
    rw [Reach.text_split r1 (r2.trans (r3.trans (r4.trans r5))), Reach.text_split r2 (r3.trans (r4.trans r5)),
      Reach.text_split r3 (r4.trans r5), Reach.text_split r4 r5, skipString_text h5, hopen, htg]
    simp only [List.append_assoc]
  have hpos2 : (s.adv 2).pos = s.pos + 2 := by
    rw [Reach.pos_eq r1, hopen]; rfl
  refine ⟨⟨(sliceBack s2 s2.skipSpaces).text, (sliceBack s2.skipSpaces s4).text, htext, skipSpaces_text_spaces s2,
    ?_, ?_, ?_⟩, Reach.sliceBack_stop (r1.trans (r2.trans (r3.trans (r4.trans r5)))), ?_, _, _, _, rfl⟩
  · rw [htg]; exact hpos2
  · intro cs hcs
    split at hcs
    · cases hcs
    · simp only [Option.some.injEq] at hcs
      subst hcs
      refine ⟨rfl, ?_⟩
      show s2.skipSpaces.pos = s.pos + 2 + strLen tg.text + strLen (sliceBack s2 s2.skipSpaces).text
      rw [Reach.pos_eq r3, Reach.pos_eq r2, hpos2, htg]
  · intro hc
    split at hc
    · next he => simpa using he
    · cases hc
  · refine ⟨litPiOpen ++ tg.text ++ (sliceBack s2 s2.skipSpaces).text ++ (sliceBack s2.skipSpaces s4).text ++ ['?'], ?_⟩
    show (sliceBack s s').text = _
    rw [htext]
    simp [litPiClose]

theorem parseCloseElement_delims {s s' : Lex.Stream} {t : Token}
    (hc : s.curr? = some '<') (hn : s.next? = some '/')
    (h : parseCloseElement s = some (t, s')) :
    t.Delims ∧ t.wholeSpan.stop = s'.pos ∧ t.EndsGt ∧ ∃ p l b, t = .elementEnd (.close p l) b := by
  obtain ⟨p, l, s1, h1, h2, rfl⟩ := parseCloseElement_inv h
  obtain ⟨htext, hpos2⟩ := parseCloseElement_text hc hn h1 h2
  refine ⟨⟨(sliceBack (s.adv 2) s1).text, (sliceBack s1 s1.skipSpaces).text, htext, skipSpaces_text_spaces s1, ?_⟩,
    Reach.sliceBack_stop ((Reach.adv s 2).trans (parseCloseElement_reach h)), ?_, _, _, _, rfl⟩
  · intro hbc
    rcases consumeQName_written h1 with hw | ⟨hp, hst⟩
    · exact hw
    · exfalso
      simp only [StrSpan.bareColon, hp, List.isEmpty_nil, Bool.true_and, bne_eq_false_iff_eq, hst, hpos2] at hbc
      omega
  · exact ⟨'<' :: '/' :: ((sliceBack (s.adv 2) s1).text ++ (sliceBack s1 s1.skipSpaces).text), by
      show (sliceBack s s').text = _
      rw [htext]; simp⟩

end Lex.Slice

end XotModel

/-! ### Every token of every run

  `Token.Delims` and `TextAdj` for every token the
  reference tokenizer returns, on every input: one call of `parse_next_impl` (with the tests that select
  the comment / PI / end-tag parser), then the loop.
-/

namespace XotModel.Lex.Slice

open XotModel.Lex.Stream

/-- The `>` / `/>` token of `parse_attribute` ends at the stream position after it. -/
theorem parseAttribute_end_stop {s s' : Lex.Stream} {e : ElementEnd} {sp : StrSpan}
    (h : parseAttribute s = some (.elementEnd e sp, s')) : sp.stop = s'.pos := by
  rcases parseAttribute_inv h with ⟨-, h2, ht⟩ | ⟨-, rfl, ht⟩ |
    ⟨-, _, _, _, _, _, _, _, -, -, -, -, -, ht⟩
  · cases ht
    exact Reach.sliceBack_stop ((Reach.adv _ 1).trans (consumeByte_reach h2))
  · cases ht
    exact Reach.sliceBack_stop (Reach.adv _ 1)
  · cases ht

/-- One call of `parse_next_impl` that returns a token: its delimiters; and when the tokenizer is left in
    `Elements` (where text tokens come from) the token ends at the stream position and, unless it is a
    text token itself, with `>`. -/
theorem parseNextImpl_delims {src : Str} {tk tk' : Tokenizer} {t : Token}
    (hw : SWf src tk.stream) (he : tk.stream.atEnd = false)
    (h : parseNextImpl tk = .token t tk') :
    t.Delims ∧ (tk'.state = .elements → t.wholeSpan.stop = tk'.stream.pos ∧ (t.isTextTok = false → t.EndsGt)) := by
  have sf := parseNextImpl_facts hw he h
  cases parseNextImpl_tokStep' he h with
  | decl _ hp =>
    obtain ⟨v, e, sa, rfl, -, -⟩ := (parseDeclaration_shape hp).1
    exact ⟨trivial, nofun⟩
  | doctype st _ hp hor =>
    rcases (parseDoctype_shape hp).1 with rfl | rfl <;> rcases hor with rfl | rfl <;>
      exact ⟨trivial, nofun⟩
  | entity hs hp =>
    obtain ⟨rfl, -⟩ := parseEntityDecl_shape hp
    exact ⟨trivial, fun hst' => by rw [show tk.state = .elements from hst'] at hs; cases hs⟩
  | comment _ hp ho =>
    obtain ⟨a, b, c, _⟩ := parseComment_delims ho hp
    exact ⟨a, fun _ => ⟨b, fun _ => c⟩⟩
  | pi _ hp ho =>
    obtain ⟨a, b, c, _⟩ := parsePI_delims ho hp
    exact ⟨a, fun _ => ⟨b, fun _ => c⟩⟩
  | dtdEnd _ _ => exact ⟨trivial, nofun⟩
  | start _ hp =>
    obtain ⟨p, l, -, rfl⟩ := parseElementStart_inv hp
    exact ⟨trivial, nofun⟩
  | cdata hs hp _ =>
    obtain ⟨s2, -, -, rfl⟩ := parseCdata_inv hp
    refine ⟨trivial, fun _ => ⟨sf.charStop rfl, fun _ => ?_⟩⟩
    have hsp := sf.spelled.1
    exact ⟨litCdataOpen ++ (sliceBack (tk.stream.adv 9) s2).text ++ [']', ']'], by
      show (sliceBack tk.stream _).text = _
      rw [hsp]; simp [litCdataClose]⟩
  | text hs hp _ =>
    obtain ⟨-, rfl⟩ := parseText_inv hp
    exact ⟨trivial, fun _ => ⟨sf.charStop rfl, fun hx => by cases hx⟩⟩
  | close _ hp hc hn =>
    obtain ⟨a, b, c, _⟩ := parseCloseElement_delims hc hn hp
    exact ⟨a, fun _ => ⟨b, fun _ => c⟩⟩
  | attr hs hp hk =>
    obtain ⟨_, _, _, _, rfl⟩ := hk
    exact ⟨trivial, fun hst' => by rw [show tk.state = .elements from hst'] at hs; cases hs⟩
  | tagOpen _ hp =>
    refine ⟨trivial, fun _ => ⟨parseAttribute_end_stop hp, fun _ => ⟨[], ?_⟩⟩⟩
    have := sf.spelled
    simpa [Token.Spelled, Token.wholeSpan] using this
  | tagEmpty _ hp =>
    refine ⟨trivial, fun _ => ⟨parseAttribute_end_stop hp, fun _ => ⟨['/'], ?_⟩⟩⟩
    have := sf.spelled
    simpa [Token.Spelled, Token.wholeSpan] using this

/-! ### The loop -/

theorem lexLoop_delims (src : Str) (tk : Tokenizer) (position : Nat) :
    SWf src tk.stream →
    (∀ t ∈ (lexLoop tk position).1, t.Delims) ∧ AdjChain TextAdj (lexLoop tk position).1 := by
  fun_induction lexLoop tk position with
  | case1 tk pos hc =>
    intro _
    exact ⟨fun t ht => (by cases ht), trivial⟩
  | case2 tk pos hc tk' hs ih =>
    intro hw
    have he := (Tokenizer.running hc).1
    have sk := parseNextImpl_skipStep he (Tokenizer.running hc).2 hs
    exact ih (hw.reach sk.reach)
  | case3 tk pos hc t tk' hs r ih =>
    intro hw
    have he := (Tokenizer.running hc).1
    have hw' : SWf src tk'.stream := hw.reach (parseNextImpl_token he hs).reach
    obtain ⟨hd, hstop⟩ := parseNextImpl_delims hw he hs
    have sf := parseNextImpl_facts hw he hs
    obtain ⟨h1, h3⟩ := ih hw'
    obtain ⟨_, k2, _⟩ := lexLoop_spelled src tk' tk'.stream.pos hw'
    refine ⟨?_, ?_⟩
    · intro t' ht'
      rcases List.mem_cons.mp ht' with rfl | ht'
      · exact hd
      · exact h1 t' ht'
    · cases hr : r.1 with
      | nil => trivial
      | cons t2 rest =>
        rw [hr] at h3
        refine ⟨?_, h3⟩
        intro htt
        have hcd := Token.isCharData_of_isTextTok htt
        obtain ⟨hst, hstart, htb⟩ := k2 t2 rest hr hcd
        obtain ⟨e1, e2⟩ := hstop hst
        refine ⟨by rw [e1, hstart], e2 ?_⟩
        -- two text tokens never follow each other
        cases ht1 : t.isTextTok with
        | false => rfl
        | true =>
          rcases sf.textAfter ht1 with hae | hlt
          · have : r.1 = [] := by
              show (lexLoop tk' tk'.stream.pos).1 = []
              rw [lexLoop]; simp [hae]
            rw [this] at hr; cases hr
          · exact absurd hlt (htb htt)
  | case4 tk pos hc hs =>
    intro _
    exact ⟨fun t ht => (by cases ht), trivial⟩

end XotModel.Lex.Slice

namespace XotModel

open XotModel.Lex.Slice

/-- A first token that is a text token starts at byte 0 (fragment mode; a document never starts so). -/
def TextFirst (ts : List Token) : Prop :=
  ∀ t rest, ts = t :: rest → t.isTextTok = true → t.wholeSpan.start = 0

theorem lexDocument_delims (s : Str) :
    (∀ t ∈ (lexDocument s).1, t.Delims) ∧ AdjChain TextAdj (lexDocument s).1 ∧ TextFirst (lexDocument s).1 := by
  have h := lexLoop_delims s (Lex.Tokenizer.ofStr s) (Lex.Tokenizer.ofStr s).stream.pos (ofStr_swf s)
  refine ⟨h.1, h.2, ?_⟩
  intro t rest hl ht
  have := (lexLoop_spelled s (Lex.Tokenizer.ofStr s) (Lex.Tokenizer.ofStr s).stream.pos (ofStr_swf s)).2.1 t rest hl
    (Token.isCharData_of_isTextTok ht)
  exact absurd this.1 (by simp [Lex.Tokenizer.ofStr])

theorem lexFragment_delims (s : Str) :
    (∀ t ∈ (lexFragment s).1, t.Delims) ∧ AdjChain TextAdj (lexFragment s).1 ∧ TextFirst (lexFragment s).1 := by
  have h := lexLoop_delims s (Lex.Tokenizer.ofFragment s) (Lex.Tokenizer.ofFragment s).stream.pos (SWf.ofStr s)
  refine ⟨h.1, h.2, ?_⟩
  intro t rest hl ht
  have := (lexLoop_spelled s (Lex.Tokenizer.ofFragment s) (Lex.Tokenizer.ofFragment s).stream.pos (SWf.ofStr s)).2.1 t rest hl
    (Token.isCharData_of_isTextTok ht)
  exact this.2.1

end XotModel
