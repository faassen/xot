/-
  `traverse` from a live node of a well-formed arena yields exactly the edges of its subtree in
  document order (`EdgesOf`), `descendants` the `Start` edges of that list; `reverse_traverse` yields
  the same list backwards.
-/
import XotModel.Lemmas.ArenaStale

/-! ### `traverse` and `descendants`

  `NodeEdge::next_traverse` driven by `Traverse::next`.  The edges of the subtree of `c`: `Start(c)`, the edges of the
  children's subtrees, `End(c)`.
-/

namespace XotModel
namespace Arena

/-- An edge at list level: `(true, n)` = `Start(n)`, `(false, n)` = `End(n)`. -/
abbrev Ed := Bool × Nat

def toEdge (a : Arena) (e : Ed) : NodeEdge := if e.1 then .start (a.idAt e.2) else .end (a.idAt e.2)

mutual
/-- The edges of the subtree of `c`, in document order. -/
inductive EdgesOf (g : Shape) : Nat → List Ed → Prop
  | mk {c : Nat} {l : List Ed} : EdgesList g (g.kids c) l → EdgesOf g c ((true, c) :: l ++ [(false, c)])
inductive EdgesList (g : Shape) : List Nat → List Ed → Prop
  | nil : EdgesList g [] []
  | cons {k : Nat} {ks : List Nat} {l1 l2 : List Ed} : EdgesOf g k l1 → EdgesList g ks l2 → EdgesList g (k :: ks) (l1 ++ l2)
end

/-- What follows `End(c)`: `Start` of the next sibling, else `End` of the parent, else nothing. -/
inductive AfterEnd (g : Shape) : Nat → Option Ed → Prop where
  | sib {c q n : Nat} {L R : List Nat} : g.par c = some q → g.kids q = L ++ c :: n :: R → AfterEnd g c (some (true, n))
  | last {c q : Nat} {L : List Nat} : g.par c = some q → g.kids q = L ++ [c] → AfterEnd g c (some (false, q))
  | root {c : Nat} : g.par c = none → AfterEnd g c none

theorem Rep.afterEnd_exists {a : Arena} {g : Shape} (r : Rep a g) (c : Nat) : ∃ o, AfterEnd g c o := by
  cases hp : g.par c with
  | none => exact ⟨none, .root hp⟩
  | some q =>
    obtain ⟨L, R, hk⟩ := List.append_of_mem (r.parKids c q hp).2
    cases R with
    | nil => exact ⟨_, .last hp hk⟩
    | cons n R' => exact ⟨_, .sib hp hk⟩

theorem edgesList_exists {g : Shape} : ∀ (ks : List Nat), (∀ k ∈ ks, ∃ l, EdgesOf g k l) → ∃ L, EdgesList g ks L
  | [], _ => ⟨[], .nil⟩
  | k :: ks, h => by
    obtain ⟨l1, h1⟩ := h k (by simp)
    obtain ⟨l2, h2⟩ := edgesList_exists ks (fun k' hk' => h k' (List.mem_cons_of_mem _ hk'))
    exact ⟨l1 ++ l2, .cons h1 h2⟩

theorem Rep.edges_exists {a : Arena} {g : Shape} (r : Rep a g) (c : Nat) (hc : Live a c) : ∃ l, EdgesOf g c l :=
  r.kids_induction (fun c => ∃ l, EdgesOf g c l) (fun c _ hk => by
    obtain ⟨L, hL⟩ := edgesList_exists (g.kids c) hk
    exact ⟨_, .mk hL⟩) c hc

/-- `l` emitted, then the rest of the walk. -/
def emit (a : Arena) (l : List NodeEdge) (s : Step (List NodeEdge)) : Step (List NodeEdge) :=
  s.bind fun _ rest => .done a (l ++ rest)

theorem emit_emit (a : Arena) (l1 l2 : List NodeEdge) (s : Step (List NodeEdge)) :
    emit a l1 (emit a l2 s) = emit a (l1 ++ l2) s := by
  cases s <;> simp [emit, Step.bind]

/-- One step of `Traverse::next` with continuation. -/
theorem traverseGo_succ (a : Arena) (root : NodeId) (limit : Nat) (e : NodeEdge) :
    traverseGo a root (limit + 1) (some e) =
      if e = .end root then emit a [e] (traverseGo a root limit none)
      else nextTraverse a e fun nx => emit a [e] (traverseGo a root limit nx) := by
  rw [traverseGo]
  split <;> rfl

/-- The walk continues after a list of edges has been emitted. -/
def EmitsThen (a : Arena) (root : NodeId) (cur : NodeEdge) (l : List Ed) (o : Option Ed) : Prop :=
  ∀ limit, l.length ≤ limit →
    traverseGo a root limit (some cur) =
      emit a (l.map (toEdge a)) (traverseGo a root (limit - l.length) (o.map (toEdge a)))

theorem emit_nil {a : Arena} {s : Step (List NodeEdge)} (h : s.arena = a) : emit a [] s = s := by
  cases s with
  | done b l => cases h; rfl
  | panic b => rfl
  | diverge b => rfl

theorem EmitsThen.refl (a : Arena) (root : NodeId) (e : Ed) : EmitsThen a root (toEdge a e) [] (some e) :=
  fun _ _ => (emit_nil (traverseGo_arena a root _ _)).symm

theorem EmitsThen.trans {a : Arena} {root : NodeId} {cur : NodeEdge} {l1 l2 : List Ed} {e : Ed} {o : Option Ed}
    (h1 : EmitsThen a root cur l1 (some e)) (h2 : EmitsThen a root (toEdge a e) l2 o) :
    EmitsThen a root cur (l1 ++ l2) o := by
  intro limit hlim
  simp only [List.length_append] at hlim
  rw [h1 limit (by omega), Option.map_some, h2 (limit - l1.length) (by omega), emit_emit, List.map_append,
    List.length_append, Nat.sub_add_eq]

/-- Where the walk over the children `ks` of `c` still to come begins: `Start` of the first of them,
    `End(c)` when none is left. -/
def edgeAt (c : Nat) : List Nat → Ed
  | [] => (false, c)
  | k :: _ => (true, k)

/-- After `Start(c)`: `Start` of the first child, else `End(c)`. -/
theorem Rep.emits_start {a : Arena} {g : Shape} (r : Rep a g) (root : NodeId) {c : Nat} (hc : Live a c) :
    EmitsThen a root (.start (a.idAt c)) [(true, c)] (some (edgeAt c (g.kids c))) := by
  intro limit hlim
  obtain ⟨s, hs, h0⟩ := hc
  obtain ⟨n, rfl⟩ : ∃ n, limit = n + 1 := ⟨limit - 1, by simp at hlim; omega⟩
  rw [traverseGo_succ, if_neg (by simp)]
  unfold nextTraverse
  simp only []
  rw [rd_some _ _ _ _ (show a.slot (a.idAt c).index0 = some s from hs), (r.ptrs c s hs h0).first]
  cases g.kids c <;> simp [edgeAt, toEdge]

/-- After `End(c)`: what `AfterEnd` says — nothing when `c` is the root of the traversal. -/
theorem Rep.emits_end {a : Arena} {g : Shape} (r : Rep a g) (root : NodeId) {c : Nat} (hc : Live a c)
    (o : Option Ed) (ho : if a.idAt c = root then o = none else AfterEnd g c o) :
    EmitsThen a root (.end (a.idAt c)) [(false, c)] o := by
  intro limit hlim
  obtain ⟨s, hs, h0⟩ := hc
  have P := r.ptrs c s hs h0
  obtain ⟨n, rfl⟩ : ∃ n, limit = n + 1 := ⟨limit - 1, by simp at hlim; omega⟩
  rw [traverseGo_succ]
  by_cases hr : a.idAt c = root
  · rw [if_pos hr] at ho
    rw [if_pos (congrArg NodeEdge.end hr), ho]; simp [toEdge]
  rw [if_neg hr] at ho
  rw [if_neg (fun e => hr (NodeEdge.end.inj e))]
  unfold nextTraverse
  simp only []
  rw [rd_some _ _ _ _ (show a.slot (a.idAt c).index0 = some s from hs)]
  cases ho with
  | @sib q n' L' R' hp hk =>
    have : s.next = some (a.idAt n') := (P.at (r.kidsNodup q) hp hk).2
    simp [this, toEdge]
  | @last q L' hp hk =>
    have h1 : s.next = none := (P.at (r.kidsNodup q) hp hk).2
    have h2 : s.parent = some (a.idAt q) := by rw [P.parent, hp]; rfl
    simp [h1, h2, toEdge]
  | root hp =>
    have h1 : s.next = none := (P.root hp).2
    have h2 : s.parent = none := by rw [P.parent, hp]; rfl
    simp [h1, h2, toEdge]

mutual
/-- From `Start(c)`: the edges of the subtree of `c`, then what follows `End(c)` — nothing when `c` is
    the root of the traversal. -/
theorem EdgesOf.traverse_from {a : Arena} {g : Shape} (r : Rep a g) (root : NodeId) {c : Nat} {l : List Ed}
    (h : EdgesOf g c l) (hc : Live a c) (hroot : ∀ n, Reach g.par n c → n ≠ c → a.idAt n ≠ root) (o : Option Ed)
    (ho : if a.idAt c = root then o = none else AfterEnd g c o) : EmitsThen a root (.start (a.idAt c)) l o := by
  match h with
  | @EdgesOf.mk _ _ L hL =>
    have hkids := EdgesList.emits r root hL c [] rfl
      (fun n k hk' hn => hroot n (r.reach_of_child hk' hn)
        (fun e => r.acyclic k c (r.kidsLive c k hk').2.2 (e ▸ hn)))
    exact ((r.emits_start root hc).trans hkids).trans (r.emits_end root hc o ho)
/-- From where the walk over a suffix of the children of `c` begins: their edges, then `End(c)`. -/
theorem EdgesList.emits {a : Arena} {g : Shape} (r : Rep a g) (root : NodeId) {ks : List Nat} {L : List Ed}
    (h : EdgesList g ks L) (c : Nat) (pre : List Nat) (hk : g.kids c = pre ++ ks)
    (hroot : ∀ n k, k ∈ g.kids c → Reach g.par n k → a.idAt n ≠ root) :
    EmitsThen a root (toEdge a (edgeAt c ks)) L (some (false, c)) := by
  match h with
  | .nil => exact EmitsThen.refl a root _
  | @EdgesList.cons _ k ks' l1 l2 h1 h2 =>
    have hkmem : k ∈ g.kids c := by rw [hk]; simp
    have hpk := (r.kidsLive c k hkmem).2.2
    have e1 := EdgesOf.traverse_from r root h1 (r.kidsLive c k hkmem).2.1 (fun n hn _ => hroot n k hkmem hn)
      (some (edgeAt c ks')) (by
        rw [if_neg (hroot k k hkmem (.refl _))]
        cases ks' with
        | nil => exact .last hpk hk
        | cons k2 rest => exact .sib hpk hk)
    exact e1.trans (EdgesList.emits r root h2 c (pre ++ [k]) (by rw [hk]; simp) hroot)
end

/-- From `Start` of the first of a suffix of the children of `c`: their edges, then `End(c)`. -/
theorem EdgesList.traverse {a : Arena} {g : Shape} (r : Rep a g) (root : NodeId) {ks : List Nat} {L : List Ed}
    (h : EdgesList g ks L) (c : Nat) (pre : List Nat) (hk : g.kids c = pre ++ ks)
    (hroot : ∀ n k, k ∈ g.kids c → Reach g.par n k → a.idAt n ≠ root) (k1 : Nat) (rest : List Nat)
    (hks : ks = k1 :: rest) :
    ∀ limit, L.length ≤ limit →
      traverseGo a root limit (some (.start (a.idAt k1))) =
        emit a (L.map (toEdge a)) (traverseGo a root (limit - L.length) (some (.end (a.idAt c)))) := by
  subst hks
  exact h.emits r root c pre hk hroot

/-- From `Start(c)` below the root of the traversal: the edges of the subtree of `c`, then what follows
    `End(c)`. -/
theorem EdgesOf.traverse {a : Arena} {g : Shape} (r : Rep a g) (root : NodeId) {c : Nat} {l : List Ed}
    (h : EdgesOf g c l) (hc : Live a c) (hroot : ∀ n, Reach g.par n c → a.idAt n ≠ root) (o : Option Ed)
    (ho : AfterEnd g c o) : EmitsThen a root (.start (a.idAt c)) l o :=
  h.traverse_from r root hc (fun n hn _ => hroot n hn) o (by rw [if_neg (hroot c (.refl _))]; exact ho)

theorem traverseGo_none (a : Arena) (root : NodeId) (limit : Nat) : traverseGo a root limit none = .done a [] := by
  cases limit <;> rfl

/-- `traverse` from a live node: exactly the edges of its subtree, within the limit. -/
theorem Rep.traverse_eq {a : Arena} {g : Shape} (r : Rep a g) {c : Nat} {l : List Ed} (h : EdgesOf g c l)
    (hc : Live a c) (limit : Nat) (hlim : l.length ≤ limit) :
    Arena.traverse a (a.idAt c) limit = .done a (l.map (toEdge a)) := by
  have := h.traverse_from r (a.idAt c) hc (fun n _ hne e => hne (idAt_inj a e))
    none (by rw [if_pos rfl]) limit hlim
  unfold Arena.traverse
  rw [this, Option.map_none, traverseGo_none]
  simp only [emit, Step.bind_done, List.append_nil]

theorem starts_filterMap (a : Arena) : ∀ (l : List Ed),
    (l.map (toEdge a)).filterMap NodeEdge.startNode? =
      (l.filter (·.1)).map (fun e => a.idAt e.2)
  | [] => rfl
  | (true, n) :: es => by
    have ih := starts_filterMap a es
    simp only [List.map_cons, toEdge, if_true, List.filterMap_cons, NodeEdge.startNode?, List.filter_cons]
    rw [ih]
  | (false, n) :: es => by
    have ih := starts_filterMap a es
    simp only [List.map_cons, toEdge, Bool.false_eq_true, if_false, List.filterMap_cons, NodeEdge.startNode?, List.filter_cons]
    rw [ih]

/-- `descendants` = the `Start` edges of `traverse`. -/
theorem Rep.descendants_eq {a : Arena} {g : Shape} (r : Rep a g) {c : Nat} {l : List Ed} (h : EdgesOf g c l)
    (hc : Live a c) (limit : Nat) (hlim : l.length ≤ limit) :
    Arena.descendants a (a.idAt c) limit = .done a ((l.filter (·.1)).map (fun e => a.idAt e.2)) := by
  unfold Arena.descendants
  rw [r.traverse_eq h hc limit hlim]
  simp only [Step.bind_done]
  rw [starts_filterMap]

end Arena
end XotModel

/-! ### `reverse_traverse`

  `NodeEdge::prev_traverse` driven by `ReverseTraverse::next`: from `End(c)` it yields `End(c)`, the reversed edge
  lists of the children's subtrees from the last child to the first, `Start(c)`, the `Start` / `End` tags unchanged.
-/

namespace XotModel
namespace Arena

/-- What precedes `Start(c)`: `End` of the previous sibling, else `Start` of the parent, else nothing. -/
inductive BeforeStart (g : Shape) : Nat → Option Ed → Prop where
  | sib {c q p : Nat} {L R : List Nat} : g.par c = some q → g.kids q = L ++ p :: c :: R → BeforeStart g c (some (false, p))
  | first {c q : Nat} {R : List Nat} : g.par c = some q → g.kids q = c :: R → BeforeStart g c (some (true, q))
  | root {c : Nat} : g.par c = none → BeforeStart g c none

theorem Rep.beforeStart_exists {a : Arena} {g : Shape} (r : Rep a g) (c : Nat) : ∃ o, BeforeStart g c o := by
  cases hp : g.par c with
  | none => exact ⟨none, .root hp⟩
  | some q =>
    obtain ⟨L, R, hk⟩ := List.append_of_mem (r.parKids c q hp).2
    rcases List.eq_nil_or_concat L with rfl | ⟨L', p, rfl⟩
    · exact ⟨_, .first hp hk⟩
    · exact ⟨_, .sib (L := L') (p := p) (R := R) hp (by rw [hk]; simp)⟩

/-- One step of `ReverseTraverse::next` with continuation. -/
theorem reverseTraverseGo_succ (a : Arena) (root : NodeId) (limit : Nat) (e : NodeEdge) :
    reverseTraverseGo a root (limit + 1) (some e) =
      if e = .start root then emit a [e] (reverseTraverseGo a root limit none)
      else prevTraverse a e fun nx => emit a [e] (reverseTraverseGo a root limit nx) := by
  rw [reverseTraverseGo]
  split <;> rfl

/-- The reverse walk continues after the reverse of a list of edges has been emitted. -/
def RevEmitsThen (a : Arena) (root : NodeId) (cur : NodeEdge) (l : List Ed) (o : Option Ed) : Prop :=
  ∀ limit, l.length ≤ limit →
    reverseTraverseGo a root limit (some cur) =
      emit a (l.reverse.map (toEdge a)) (reverseTraverseGo a root (limit - l.length) (o.map (toEdge a)))

theorem RevEmitsThen.refl (a : Arena) (root : NodeId) (e : Ed) : RevEmitsThen a root (toEdge a e) [] (some e) :=
  fun _ _ => (emit_nil (reverseTraverseGo_arena a root _ _)).symm

/-- Two stretches of the reverse walk, one after the other: the later part of the list first. -/
theorem RevEmitsThen.trans {a : Arena} {root : NodeId} {cur : NodeEdge} {l1 l2 : List Ed} {e : Ed} {o : Option Ed}
    (h2 : RevEmitsThen a root cur l2 (some e)) (h1 : RevEmitsThen a root (toEdge a e) l1 o) :
    RevEmitsThen a root cur (l1 ++ l2) o := by
  intro limit hlim
  simp only [List.length_append] at hlim
  rw [h2 limit (by omega), Option.map_some, h1 (limit - l2.length) (by omega), emit_emit, List.reverse_append,
    List.map_append, List.length_append, Nat.add_comm, Nat.sub_add_eq]

/-- Where the reverse walk arrives before the children of `c` that come after `pre`: `End` of the last of
    `pre`, `Start(c)` when `pre` is empty. -/
def edgeBefore (c : Nat) (pre : List Nat) : Ed :=
  match pre.getLast? with
  | none => (true, c)
  | some p => (false, p)

theorem BeforeStart.of_kids {g : Shape} {c k : Nat} {pre R : List Nat} (hp : g.par k = some c)
    (hk : g.kids c = pre ++ k :: R) : BeforeStart g k (some (edgeBefore c pre)) := by
  rcases List.eq_nil_or_concat pre with rfl | ⟨L', p, rfl⟩
  · exact .first hp hk
  · rw [List.concat_eq_append] at hk ⊢
    simp only [edgeBefore, List.getLast?_append, List.getLast?_singleton, Option.some_or]
    exact .sib (L := L') (R := R) hp (by rw [hk]; simp)

/-- Before `End(c)`: `End` of the last child, else `Start(c)`. -/
theorem Rep.revEmits_end {a : Arena} {g : Shape} (r : Rep a g) (root : NodeId) {c : Nat} (hc : Live a c) :
    RevEmitsThen a root (.end (a.idAt c)) [(false, c)] (some (edgeBefore c (g.kids c))) := by
  intro limit hlim
  obtain ⟨s, hs, h0⟩ := hc
  obtain ⟨n, rfl⟩ : ∃ n, limit = n + 1 := ⟨limit - 1, by simp at hlim; omega⟩
  rw [reverseTraverseGo_succ, if_neg (by simp)]
  unfold prevTraverse
  simp only []
  rw [rd_some _ _ _ _ (show a.slot (a.idAt c).index0 = some s from hs), (r.ptrs c s hs h0).last]
  unfold edgeBefore
  cases (g.kids c).getLast? <;> simp [toEdge]

/-- Before `Start(c)`: what `BeforeStart` says — nothing when `c` is the root of the traversal. -/
theorem Rep.revEmits_start {a : Arena} {g : Shape} (r : Rep a g) (root : NodeId) {c : Nat} (hc : Live a c)
    (o : Option Ed) (ho : if a.idAt c = root then o = none else BeforeStart g c o) :
    RevEmitsThen a root (.start (a.idAt c)) [(true, c)] o := by
  intro limit hlim
  obtain ⟨s, hs, h0⟩ := hc
  have P := r.ptrs c s hs h0
  obtain ⟨n, rfl⟩ : ∃ n, limit = n + 1 := ⟨limit - 1, by simp at hlim; omega⟩
  rw [reverseTraverseGo_succ]
  by_cases hr : a.idAt c = root
  · rw [if_pos hr] at ho
    rw [if_pos (congrArg NodeEdge.start hr), ho]; simp [toEdge]
  rw [if_neg hr] at ho
  rw [if_neg (fun e => hr (NodeEdge.start.inj e))]
  unfold prevTraverse
  simp only []
  rw [rd_some _ _ _ _ (show a.slot (a.idAt c).index0 = some s from hs)]
  cases ho with
  | @sib q p' L' R' hp hk =>
    have : s.prev = some (a.idAt p') := by
      rw [(P.at (pre := L' ++ [p']) (r.kidsNodup q) hp (by rw [hk, List.append_assoc]; rfl)).1,
        List.getLast?_concat]; rfl
    simp [this, toEdge]
  | @first q R' hp hk =>
    have h1 : s.prev = none := (P.at (pre := []) (r.kidsNodup q) hp hk).1
    have h2 : s.parent = some (a.idAt q) := by rw [P.parent, hp]; rfl
    simp [h1, h2, toEdge]
  | root hp =>
    have h1 : s.prev = none := (P.root hp).1
    have h2 : s.parent = none := by rw [P.parent, hp]; rfl
    simp [h1, h2, toEdge]

mutual
/-- From `End(c)`: the edges of the subtree of `c` backwards, then what precedes `Start(c)` — nothing
    when `c` is the root of the traversal. -/
theorem EdgesOf.revTraverse_from {a : Arena} {g : Shape} (r : Rep a g) (root : NodeId) {c : Nat} {l : List Ed}
    (h : EdgesOf g c l) (hc : Live a c) (hroot : ∀ n, Reach g.par n c → n ≠ c → a.idAt n ≠ root) (o : Option Ed)
    (ho : if a.idAt c = root then o = none else BeforeStart g c o) :
    RevEmitsThen a root (.end (a.idAt c)) l o := by
  match h with
  | @EdgesOf.mk _ _ L hL =>
    have hkids := EdgesList.revEmits r root hL c [] rfl
      (fun n k hk' hn => hroot n (r.reach_of_child hk' hn)
        (fun e => r.acyclic k c (r.kidsLive c k hk').2.2 (e ▸ hn)))
    exact ((r.revEmits_end root hc).trans hkids).trans (r.revEmits_start root hc o ho)
/-- From where the reverse walk stands after the children of `c`: the edges of the suffix `ks` backwards,
    then `End` of the child before it, or `Start(c)`. -/
theorem EdgesList.revEmits {a : Arena} {g : Shape} (r : Rep a g) (root : NodeId) {ks : List Nat} {L : List Ed}
    (h : EdgesList g ks L) (c : Nat) (pre : List Nat) (hk : g.kids c = pre ++ ks)
    (hroot : ∀ n k, k ∈ g.kids c → Reach g.par n k → a.idAt n ≠ root) :
    RevEmitsThen a root (toEdge a (edgeBefore c (g.kids c))) L (some (edgeBefore c pre)) := by
  match h with
  | .nil => rw [hk, List.append_nil]; exact RevEmitsThen.refl a root _
  | @EdgesList.cons _ k ks' l1 l2 h1 h2 =>
    have hkmem : k ∈ g.kids c := by rw [hk]; simp
    have e2 := EdgesList.revEmits r root h2 c (pre ++ [k]) (by rw [hk]; simp) hroot
    have e1 := EdgesOf.revTraverse_from r root h1 (r.kidsLive c k hkmem).2.1 (fun n hn _ => hroot n k hkmem hn)
      (some (edgeBefore c pre)) (by
        rw [if_neg (hroot k k hkmem (.refl _))]
        exact .of_kids (r.kidsLive c k hkmem).2.2 hk)
    simp only [edgeBefore, List.getLast?_append, List.getLast?_singleton, Option.some_or] at e2
    exact e2.trans e1
end

/-- From `End(c)` below the root of the traversal: the edges of the subtree of `c` backwards, then what
    precedes `Start(c)`. -/
theorem EdgesOf.revTraverse {a : Arena} {g : Shape} (r : Rep a g) (root : NodeId) {c : Nat} {l : List Ed}
    (h : EdgesOf g c l) (hc : Live a c) (hroot : ∀ n, Reach g.par n c → a.idAt n ≠ root) (o : Option Ed)
    (ho : BeforeStart g c o) : RevEmitsThen a root (.end (a.idAt c)) l o :=
  h.revTraverse_from r root hc (fun n hn _ => hroot n hn) o (by rw [if_neg (hroot c (.refl _))]; exact ho)

theorem reverseTraverseGo_none (a : Arena) (root : NodeId) (limit : Nat) :
    reverseTraverseGo a root limit none = .done a [] := by
  cases limit <;> rfl

/-- `reverse_traverse` from a live node: exactly the edges of its subtree, backwards, within the
    limit. -/
theorem Rep.reverseTraverse_eq {a : Arena} {g : Shape} (r : Rep a g) {c : Nat} {l : List Ed} (h : EdgesOf g c l)
    (hc : Live a c) (limit : Nat) (hlim : l.length ≤ limit) :
    Arena.reverseTraverse a (a.idAt c) limit = .done a (l.reverse.map (toEdge a)) := by
  have := h.revTraverse_from r (a.idAt c) hc (fun n _ hne e => hne (idAt_inj a e))
    none (by rw [if_pos rfl]) limit hlim
  unfold Arena.reverseTraverse
  rw [this, Option.map_none, reverseTraverseGo_none]
  simp only [emit, Step.bind_done, List.append_nil]

/-- `reverse_traverse` yields the reverse of what `traverse` yields. -/
theorem Rep.reverseTraverse_eq_reverse {a : Arena} {g : Shape} (r : Rep a g) {c : Nat} {l : List Ed}
    (h : EdgesOf g c l) (hc : Live a c) (limit : Nat) (hlim : l.length ≤ limit) :
    ∃ es, Arena.traverse a (a.idAt c) limit = .done a es ∧
      Arena.reverseTraverse a (a.idAt c) limit = .done a es.reverse :=
  ⟨_, r.traverse_eq h hc limit hlim, by rw [r.reverseTraverse_eq h hc limit hlim, List.map_reverse]⟩

end Arena
end XotModel
