/-
  Lexical safety of the escaping functions the HTML serialiser calls:
  a character with a row never appears raw (`tableHides`, Lemmas/Entity), and every `&` of the
  output starts one of the table's references (`refsOnly`).
-/
import XotModel.Lemmas.Entity
import XotModel.Model.Html5

namespace XotModel
open Gen

/-- Every `&` of the string is the first character of one of `refs` written out in full. -/
def refsOnly (refs : List Str) : Str → Bool
  | [] => true
  | c :: rest =>
    (if c = '&' then refs.any (fun r => r.isPrefixOf (c :: rest)) else true) && refsOnly refs rest

theorem refsOnly_spec {refs : List Str} : ∀ {s : Str}, refsOnly refs s = true →
    ∀ i, s[i]? = some '&' → ∃ r ∈ refs, r <+: s.drop i
  | [], _, i, hi => by simp at hi
  | c :: rest, h, i, hi => by
    simp only [refsOnly, Bool.and_eq_true] at h
    cases i with
    | zero =>
      simp only [List.getElem?_cons_zero, Option.some.injEq] at hi
      subst hi
      simp only [if_true, List.any_eq_true] at h
      obtain ⟨r, hr, hp⟩ := h.1
      exact ⟨r, hr, by simpa using List.isPrefixOf_iff_prefix.mp hp⟩
    | succ j =>
      simp only [List.getElem?_cons_succ] at hi
      obtain ⟨r, hr, hp⟩ := refsOnly_spec h.2 j hi
      exact ⟨r, hr, by simpa using hp⟩

theorem refsOnly_append_noAmp (refs : List Str) (a b : Str) (h : '&' ∉ a) :
    refsOnly refs (a ++ b) = refsOnly refs b := by
  induction a with
  | nil => rfl
  | cons c a ih =>
    simp only [List.mem_cons, not_or] at h
    have hc : ¬ c = '&' := fun e => h.1 e.symm
    simp only [List.cons_append, refsOnly, hc, if_false, Bool.true_and]
    exact ih h.2

/-- `&` has a row; every escape string is `&` followed by characters other than `&`, and is one
    of `refs`. -/
def tableRefs (refs : List Str) (t : List (Char × Str)) : Bool :=
  (t.lookup '&').isSome &&
    t.all (fun r => (match r.2 with
      | c :: tl => c == '&' && !tl.contains '&'
      | [] => false) && refs.contains r.2)

theorem htmlLookup_mem {t : List (Char × Str)} {c : Char} {esc : Str} (h : t.lookup c = some esc) :
    (c, esc) ∈ t := by
  induction t with
  | nil => simp at h
  | cons r t ih =>
    obtain ⟨k, v⟩ := r
    simp only [List.lookup] at h
    split at h
    · rename_i heq
      simp at heq h
      subst heq; subst h; simp
    · exact List.mem_cons_of_mem _ (ih h)

theorem escapeWith_refsOnly {refs : List Str} {t : List (Char × Str)} (ht : tableRefs refs t = true)
    (c : Char) (rest : Str) :
    refsOnly refs (escapeWith t c ++ rest) = refsOnly refs rest := by
  simp only [tableRefs, Bool.and_eq_true, List.all_eq_true] at ht
  obtain ⟨hamp, hrows⟩ := ht
  unfold escapeWith
  cases hl : t.lookup c with
  | none =>
    have hc : ¬ c = '&' := by
      intro e; subst e; simp [hl] at hamp
    simp [refsOnly, hc]
  | some esc =>
    have hrow := hrows (c, esc) (htmlLookup_mem hl)
    simp only at hrow
    cases esc with
    | nil => simp at hrow
    | cons d tl =>
      simp only [Bool.and_eq_true, beq_iff_eq, Bool.not_eq_true', List.contains_eq_mem,
        decide_eq_false_iff_not, decide_eq_true_eq] at hrow
      obtain ⟨⟨hd, htl⟩, hmem⟩ := hrow
      subst hd
      simp only [List.cons_append, refsOnly, if_true]
      refine Eq.trans ?_ (refsOnly_append_noAmp refs tl rest htl)
      have : (refs.any fun r => r.isPrefixOf ('&' :: (tl ++ rest))) = true := by
        rw [List.any_eq_true]
        refine ⟨'&' :: tl, hmem, ?_⟩
        rw [List.isPrefixOf_iff_prefix]
        exact ⟨rest, by simp⟩
      rw [this, Bool.true_and]

theorem flatMap_escape_refsOnly {refs : List Str} {t : List (Char × Str)} (ht : tableRefs refs t = true)
    (s : Str) : refsOnly refs (s.flatMap (escapeWith t)) = true := by
  induction s with
  | nil => rfl
  | cons c s ih =>
    rw [List.flatMap_cons, escapeWith_refsOnly ht]
    exact ih

/-- Every reference the four escaping tables can write. -/
def knownRefs : List Str :=
  (htmlTextEscapes ++ htmlAttrEscapes ++ attrEscapes ++ (('>', textGtEscape) :: textEscapes)).map (·.2)

/-- The references are what they should be: `&name;` / `&#xH;` spellings, nothing else. -/
theorem knownRefs_eq : knownRefs.eraseDups =
    [['&','a','m','p',';'], ['&','l','t',';'], ['&','n','b','s','p',';'], ['&','a','p','o','s',';'],
     ['&','q','u','o','t',';'], ['&','#','x','9',';'], ['&','#','x','A',';'], ['&','#','x','D',';'],
     ['&','g','t',';']] := by decide +kernel

/-! ### The four functions -/

theorem serializeTextHtml_safe (s : Str) :
    '<' ∉ serializeTextHtml s ∧ refsOnly knownRefs (serializeTextHtml s) = true :=
  ⟨flatMap_escape_hides (by decide +kernel) s, flatMap_escape_refsOnly (by decide +kernel) s⟩

theorem serializeText_false_safe (s : Str) :
    '<' ∉ serializeText false s ∧ refsOnly knownRefs (serializeText false s) = true := by
  rw [serializeText_false_eq]
  exact ⟨flatMap_escape_hides (by decide +kernel) s, flatMap_escape_refsOnly (by decide +kernel) s⟩

theorem serializeAttributeHtml_safe (s : Str) :
    '"' ∉ serializeAttributeHtml s ∧ refsOnly knownRefs (serializeAttributeHtml s) = true :=
  ⟨flatMap_escape_hides (by decide +kernel) s, flatMap_escape_refsOnly (by decide +kernel) s⟩

theorem serializeAttribute_safe (s : Str) :
    '"' ∉ serializeAttribute s ∧ '<' ∉ serializeAttribute s ∧
      refsOnly knownRefs (serializeAttribute s) = true :=
  ⟨flatMap_escape_hides (by decide +kernel) s, flatMap_escape_hides (by decide +kernel) s,
   flatMap_escape_refsOnly (by decide +kernel) s⟩

/-- Unless the parent is a raw-text element or a requested CDATA-section element the text token is the text escaped,
    in one of the two ways. -/
theorem htmlTextValue_escaped (c : HtmlCtx) (parent : Option Tree) (text : Str)
    (hp : ∀ pn, parentElementName parent = some pn →
      c.h.noEscape.matches c.env pn = false ∧ c.cdata.contains pn = false) :
    htmlTextValue c parent text = serializeText false text ∨ htmlTextValue c parent text = serializeTextHtml text := by
  unfold htmlTextValue
  cases hpn : parentElementName parent with
  | none => exact .inl rfl
  | some pn =>
    obtain ⟨h1, h2⟩ := hp pn hpn
    simp only [h1, h2, Bool.false_eq_true, if_false]
    split
    · exact .inr rfl
    · exact .inl rfl

end XotModel
