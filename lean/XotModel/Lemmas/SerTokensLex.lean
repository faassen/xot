/-
  The token list of a tree of the round-trip domain meets the tokenizer contract `LexOK` (Model/LexOK.lean):
  the shape of a successful `serNode` per node kind, the per-token side conditions, bracketing and adjacency
  (`lexNest`), and the two top-level modes (document, fragment).
-/
import XotModel.Lemmas.SerTokensMain
import XotModel.Lemmas.PiColonDefs
import XotModel.Lemmas.SerTokensChars
import XotModel.Lemmas.BasicFacts
import XotModel.Lemmas.SerTokensTop

/-!
## The shape of a successful `serNode`

  Shape of `serNode` on the nodes of a tree that satisfies `nodeOK` everywhere: inversion lemmas
  (what a successful result looks like per node kind) and the facts `nodeOK` gives about the
  children, declarations and attributes of a node.

  Here and in RoundTripItems, RoundTripDenote, RoundTripTop, RoundTripEncode, RoundTripSerialises,
  RoundTripDeepEqual and AcceptedMain the tree inductions stand in `namespace PiColon`: there `nodeOK`, `valueOK`, `Representable` are the widened
  predicates of Lemmas/PiColonDefs.lean (a PI target may contain a colon).  A lemma on `nodeOK` of Model/SerTokens.lean
  is the widened one after `PiColon.allNodes_of_allNodes`; it is stated only where something uses it.
-/

namespace XotModel

variable (env : Env)

theorem appendOk_ok {a b : Except XotError (List Token)} {ts : List Token}
    (h : appendOk a b = .ok ts) : ∃ x y, a = .ok x ∧ b = .ok y ∧ ts = x ++ y := by
  cases a with
  | error e => simp [appendOk] at h
  | ok x =>
    cases b with
    | error e => simp [appendOk] at h
    | ok y =>
      simp only [appendOk, Except.ok.injEq] at h
      exact ⟨x, y, rfl, rfl, h.symm⟩

theorem serKids_cons_ok {ugt : Bool} {inScope : List (Nat × Nat)} {s : FStack} {k : Tree}
    {ks : List Tree} {ts : List Token}
    (h : serNode.serKids env ugt inScope s (k :: ks) = .ok ts) :
    ∃ x y, serNode env ugt inScope false s k = .ok x ∧
      serNode.serKids env ugt inScope s ks = .ok y ∧ ts = x ++ y := by
  rw [serNode.serKids] at h
  exact appendOk_ok h

theorem serNode_element_ok {ugt : Bool} {inScope : List (Nat × Nat)} {isTop : Bool} {s : FStack}
    {name : Nat} {ks : List Tree} {ts : List Token}
    (h : serNode env ugt inScope isTop s (.node (.element name) ks) = .ok ts) :
    ∃ p ats content,
      ¬ (env.nsOfName name = Env.noNamespace ∧
          (s.push (Tree.node (.element name) ks).nsDecls).hasDefaultNamespace = true) ∧
      (s.push (Tree.node (.element name) ks).nsDecls).elementPrefix env name = .ok p ∧
      attrTokens env (s.push (Tree.node (.element name) ks).nsDecls)
        (Tree.node (.element name) ks).attrs = .ok ats ∧
      serNode.serKids env ugt inScope (s.push (Tree.node (.element name) ks).nsDecls) ks = .ok content ∧
      ts = elementTokens (prefixText env p) (env.localName name)
        (((if isTop then inScope.filter (fun d => !(Tree.node (.element name) ks).declaresPrefix d.1)
            else []) ++ (Tree.node (.element name) ks).nsDecls).flatMap (declTokens env))
        ats (Tree.node (.element name) ks).firstChild?.isNone content := by
  rw [serNode] at h
  obtain ⟨p, ats, content, hc, hp, ha, hk, rfl⟩ := Ser.elementOutcome_ok env h
  exact ⟨p, ats, content, fun hh => by simp [hh.1, hh.2] at hc, hp, ha, hk, rfl⟩

theorem attrTokens_cons_ok {s : FStack} {name : Nat} {v : Str} {rest : List (Nat × Str)}
    {ts : List Token} (h : attrTokens env s ((name, v) :: rest) = .ok ts) :
    ∃ p ts', s.attributePrefix env name = .ok p ∧ attrTokens env s rest = .ok ts' ∧
      ts = .attribute (sp0 (prefixText env p)) (sp0 (env.localName name)) (sp0 (serializeAttribute v))
        noSpan :: ts' := by
  rw [attrTokens] at h
  cases hp : s.attributePrefix env name with
  | error e => simp [hp] at h
  | ok p =>
    simp only [hp] at h
    cases hr : attrTokens env s rest with
    | error e => simp [hr] at h
    | ok ts' =>
      simp only [hr, Except.ok.injEq] at h
      exact ⟨p, ts', rfl, rfl, h.symm⟩

theorem Tree.eq_document {t : Tree} (h : t.value.isDocument = true) : ∃ ks, t = .node .document ks := by
  cases t with
  | node v ks => cases v <;> first | exact ⟨ks, rfl⟩ | cases h

theorem nodeOK_iff (v : Value) (ks : List Tree) :
    nodeOK env v ks = true ↔
      OrderedKids ks ∧ KindsOk v ks ∧ UniqueKids ks ∧ noAdjText ks = true ∧ valueOK env v = true := by
  simp [nodeOK, and_assoc]

theorem nodeOK_root {env : Env} {v : Value} {ks : List Tree} (hn : (Tree.node v ks).allNodes (nodeOK env) = true) :
    OrderedKids ks ∧ KindsOk v ks ∧ UniqueKids ks ∧ noAdjText ks = true ∧ valueOK env v = true :=
  (nodeOK_iff env v ks).mp (allNodes_root hn)

theorem allNodes_value {n : Tree} (h : n.allNodes (nodeOK env) = true) : valueOK env n.value = true := by
  cases n with
  | node v ks => exact (nodeOK_root h).2.2.2.2

theorem mem_nsDecls {n : Tree} {d : Nat × Nat} (h : d ∈ n.nsDecls) :
    ∃ k ∈ n.kids, k.value = .namespace d.1 d.2 := by
  simp only [Tree.nsDecls, List.mem_filterMap] at h
  obtain ⟨k, hk, hv⟩ := h
  refine ⟨k, (List.takeWhile_sublist _).subset hk, ?_⟩
  split at hv
  · rename_i p ns heq
    simp only [Option.some.injEq] at hv
    subst hv
    exact heq
  · cases hv

theorem mem_attrs {n : Tree} {a : Nat × Str} (h : a ∈ n.attrs) :
    ∃ k ∈ n.kids, k.value = .attribute a.1 a.2 := by
  simp only [Tree.attrs, List.mem_filterMap] at h
  obtain ⟨k, hk, hv⟩ := h
  refine ⟨k, (List.dropWhile_sublist _).subset ((List.takeWhile_sublist _).subset hk), ?_⟩
  split at hv
  · rename_i p ns heq
    simp only [Option.some.injEq] at hv
    subst hv
    exact heq
  · cases hv

theorem valueOK_namespace_prefix {p ns : Nat} (h : valueOK env (.namespace p ns) = true)
    (hp : p ≠ Env.emptyPrefix) : ncNameNE (env.prefixStr p) = true := by
  simp only [valueOK, Bool.and_eq_true, Bool.or_eq_true, beq_iff_eq] at h
  rcases h.1.1.2 with h1 | h1
  · exact absurd h1 hp
  · exact h1.1.1

theorem valueOK_namespace_uri {p ns : Nat} (h : valueOK env (.namespace p ns) = true) :
    (env.namespaceStr ns).all isXmlChar = true := by
  simp only [valueOK, Bool.and_eq_true] at h
  exact h.2

/-! ### The widened domain (`PiColon.nodeOK`: a PI target may contain a colon) -/

namespace PiColon

theorem nodeOK_iff (v : Value) (ks : List Tree) :
    nodeOK env v ks = true ↔
      OrderedKids ks ∧ KindsOk v ks ∧ UniqueKids ks ∧ noAdjText ks = true ∧ valueOK env v = true := by
  simp [nodeOK, and_assoc]

theorem nodeOK_root {env : Env} {v : Value} {ks : List Tree} (hn : (Tree.node v ks).allNodes (nodeOK env) = true) :
    OrderedKids ks ∧ KindsOk v ks ∧ UniqueKids ks ∧ noAdjText ks = true ∧ valueOK env v = true :=
  (nodeOK_iff env v ks).mp (allNodes_root hn)

theorem allNodes_value {n : Tree} (h : n.allNodes (nodeOK env) = true) : valueOK env n.value = true := by
  cases n with
  | node v ks => exact (nodeOK_root h).2.2.2.2

theorem allNodes_leaf {v : Value} {ks : List Tree} (h : (Tree.node v ks).allNodes (nodeOK env) = true)
    (hl : v.isLeafKind = true) : ks = [] := by
  exact (nodeOK_root h).2.1.1 hl

theorem nsDecls_valueOK {v : Value} {ks : List Tree} (h : (Tree.node v ks).allNodes (nodeOK env) = true)
    {d : Nat × Nat} (hd : d ∈ (Tree.node v ks).nsDecls) : valueOK env (.namespace d.1 d.2) = true := by
  obtain ⟨k, hk, hv⟩ := mem_nsDecls hd
  rw [← hv]
  exact allNodes_value env (allNodes_kid h hk)

theorem attrs_valueOK {v : Value} {ks : List Tree} (h : (Tree.node v ks).allNodes (nodeOK env) = true)
    {a : Nat × Str} (ha : a ∈ (Tree.node v ks).attrs) : valueOK env (.attribute a.1 a.2) = true := by
  obtain ⟨k, hk, hv⟩ := mem_attrs ha
  rw [← hv]
  exact allNodes_value env (allNodes_kid h hk)

/-- `nodeOK` everywhere implies the side condition of `toXmlString_serTokensTop`. -/
theorem nodeOK_declsNamed (n : Tree) (h : n.allNodes (nodeOK env) = true) :
    n.allNodes (declsNamed env) = true := by
  refine allNodes_mono ?_ n (allNodes_self n h)
  intro v ks hv
  simp only [declsNamed, List.all_eq_true, Bool.or_eq_true, beq_iff_eq, Bool.not_eq_true',
    List.isEmpty_eq_false_iff]
  intro d hd
  by_cases hp : d.1 = Env.emptyPrefix
  · exact Or.inl hp
  · right
    have := valueOK_namespace_prefix env (nsDecls_valueOK env hv hd) hp
    simp only [ncNameNE, Bool.and_eq_true, Bool.not_eq_true', List.isEmpty_eq_false_iff] at this
    exact this.2

end PiColon

/-! ### The narrow domain, by `PiColon.allNodes_of_allNodes` -/

theorem allNodes_leaf {v : Value} {ks : List Tree} (h : (Tree.node v ks).allNodes (nodeOK env) = true)
    (hl : v.isLeafKind = true) : ks = [] :=
  PiColon.allNodes_leaf env (PiColon.allNodes_of_allNodes env _ h) hl

theorem nsDecls_valueOK {v : Value} {ks : List Tree} (h : (Tree.node v ks).allNodes (nodeOK env) = true)
    {d : Nat × Nat} (hd : d ∈ (Tree.node v ks).nsDecls) : valueOK env (.namespace d.1 d.2) = true :=
  PiColon.nsDecls_valueOK env (PiColon.allNodes_of_allNodes env _ h) hd

theorem nodeOK_declsNamed (n : Tree) (h : n.allNodes (nodeOK env) = true) :
    n.allNodes (declsNamed env) = true :=
  PiColon.nodeOK_declsNamed env n (PiColon.allNodes_of_allNodes env n h)

end XotModel

/-!
## The per-token side conditions

  Every token of `serNode` of a tree that satisfies `nodeOK` everywhere meets the per-token
  side condition `Token.lexOK` of the tokenizer contract (Model/LexOK.lean).
-/

namespace XotModel

variable (env : Env)

/-- The prefixes the top frame binds are spelled as NCNames. -/
abbrev NcStack (env : Env) : FStack → Prop := TopAll (fun p => ncNameOK (env.prefixStr p) = true)

theorem envOK_xmlPrefix (h : envOK env = true) : env.prefixStr Env.xmlPrefix = ['x', 'm', 'l'] := by
  simp only [envOK, Bool.and_eq_true, beq_iff_eq] at h
  exact h.1.1.1.1.2

namespace PiColon

theorem NcStack.push {s : FStack} (h : NcStack env s) {v : Value} {ks : List Tree}
    (hn : (Tree.node v ks).allNodes (nodeOK env) = true) :
    NcStack env (s.push (Tree.node v ks).nsDecls) := by
  apply TopAll.push h
  intro d hd hne
  have := valueOK_namespace_prefix env (nsDecls_valueOK env hn hd) hne
  simp only [ncNameNE, Bool.and_eq_true] at this
  exact this.1

end PiColon

theorem prefixText_ncName {s : FStack} (hs : NcStack env s) {p : Option Nat}
    (hp : ∀ q, p = some q → ∃ name, s.elementPrefix env name = .ok (some q) ∨
      s.attributePrefix env name = .ok (some q)) : ncNameOK (prefixText env p) = true := by
  cases p with
  | none => rfl
  | some q =>
    obtain ⟨name, h | h⟩ := hp q rfl
    · exact elementPrefix_some env hs h
    · exact attributePrefix_some env hs h

theorem mem_elementTokens {pfx loc : Str} {decls attrs : List Token} {empty : Bool}
    {content : List Token} {k : Token} (h : k ∈ elementTokens pfx loc decls attrs empty content) :
    k = .elementStart (sp0 pfx) (sp0 loc) noSpan ∨ k ∈ decls ∨ k ∈ attrs ∨
      k = .elementEnd .empty noSpan ∨ k = .elementEnd .open noSpan ∨ k ∈ content ∨
      k = .elementEnd (.close (sp0 pfx) (sp0 loc)) noSpan := by
  unfold elementTokens at h
  cases empty
  · simp at h
    rcases h with h | h | h | h | h | h <;> simp [h]
  · simp at h
    rcases h with h | h | h | h | h <;> simp [h]

theorem declTokens_lexOK {d : Nat × Nat} (h : valueOK env (.namespace d.1 d.2) = true) :
    ∀ k ∈ declTokens env d, k.lexOK = true := by
  intro k hk
  have huri := serializeAttribute_lexOK _ (valueOK_namespace_uri env h)
  unfold declTokens at hk
  split at hk
  · cases hk
  · split at hk
    · simp only [List.mem_singleton] at hk
      subst hk
      simp only [Token.lexOK, sp0, Bool.and_eq_true]
      exact ⟨ncNameNE_qnameOK_local _ _ ncNameOK_nil ncNameNE_xmlns, huri⟩
    · rename_i hne
      simp only [List.mem_singleton] at hk
      subst hk
      simp only [Token.lexOK, sp0, Bool.and_eq_true]
      refine ⟨ncNameNE_qnameOK_local _ _ ?_ ?_, huri⟩
      · have := ncNameNE_xmlns
        simp only [ncNameNE, Bool.and_eq_true] at this
        exact this.1
      · exact valueOK_namespace_prefix env h (by simpa using hne)

theorem attrTokens_lexOK {s : FStack} (hs : NcStack env s) :
    ∀ (as : List (Nat × Str)) (ts : List Token),
      (∀ a ∈ as, valueOK env (.attribute a.1 a.2) = true) → attrTokens env s as = .ok ts →
      ∀ k ∈ ts, k.lexOK = true
  | [], ts, _, h => by
    simp only [attrTokens, Except.ok.injEq] at h
    subst h
    intro k hk; cases hk
  | (name, v) :: rest, ts, hv, h => by
    obtain ⟨p, ts', hp, hr, rfl⟩ := attrTokens_cons_ok env h
    intro k hk
    rcases List.mem_cons.mp hk with rfl | hk
    · have h1 := hv (name, v) (by simp)
      simp only [valueOK, Bool.and_eq_true] at h1
      simp only [Token.lexOK, sp0, Bool.and_eq_true]
      refine ⟨ncNameNE_qnameOK_local _ _ ?_ h1.1.1.1, serializeAttribute_lexOK v h1.1.1.2⟩
      exact prefixText_ncName env hs (fun q hq => ⟨name, Or.inr (hq ▸ hp)⟩)
    · exact attrTokens_lexOK hs rest ts' (fun a ha => hv a (by simp [ha])) hr k hk

namespace PiColon

mutual
theorem serNode_lexOK (henv : envOK env = true) (inScope : List (Nat × Nat)) (n : Tree) (s : FStack)
    (hs : NcStack env s) (hn : n.allNodes (nodeOK env) = true) (ts : List Token)
    (h : serNode env false inScope false s n = .ok ts) : ∀ k ∈ ts, k.lexOK = true := by
  cases n with
  | node v ks =>
    have hkids : ∀ k ∈ ks, k.allNodes (nodeOK env) = true := fun k hk => allNodes_kid hn hk
    have hval := allNodes_value env hn
    cases v with
    | document | «attribute» a b | «namespace» a b =>
      simp only [serNode] at h
      exact serKids_lexOK henv inScope ks s hs hkids ts h
    | text str =>
      have hl := allNodes_leaf env hn rfl
      subst hl
      simp only [serNode, serNode.serKids, appendOk, List.append_nil, Except.ok.injEq] at h
      subst h
      intro k hk
      simp only [List.mem_singleton] at hk
      subst hk
      simp only [Tree.value, valueOK, Bool.and_eq_true, Bool.not_eq_true', List.isEmpty_eq_false_iff] at hval
      have h1 := serializeText_ne_nil str hval.1
      have h2 := serializeText_chars str hval.2
      have h3 := serializeText_noCdataEnd str
      simp only [Token.lexOK, sp0, Bool.and_eq_true, Bool.not_eq_true', List.isEmpty_eq_false_iff]
      exact ⟨⟨h1, h2⟩, h3⟩
    | comment str =>
      have hl := allNodes_leaf env hn rfl
      subst hl
      simp only [serNode, serNode.serKids, appendOk, List.append_nil, Except.ok.injEq] at h
      subst h
      intro k hk
      simp only [List.mem_singleton] at hk
      subst hk
      have hval' : ((str.all isXmlChar && !hasInfix ['-', '-'] str) && str.getLast? != some '-') = true := by
        simp only [Tree.value, valueOK, Bool.and_eq_true] at hval
        simpa only [Bool.and_eq_true] using hval.1
      simpa [Token.lexOK, sp0] using hval'
    | pi target data =>
      have hl := allNodes_leaf env hn rfl
      subst hl
      rw [serNode] at h
      split at h
      · cases h
      · simp only [serNode.serKids, appendOk, List.append_nil, Except.ok.injEq] at h
        subst h
        intro k hk
        simp only [List.mem_singleton] at hk
        subst hk
        simp only [Tree.value, valueOK, Bool.and_eq_true] at hval
        -- the written target must be read back whole by `consume_name`: `nameOK`, colons allowed
        have hname := hval.1.1.2
        have hxml := lower_xml_ne (by simpa using hval.1.2)
        cases data with
        | none => simpa [Token.lexOK, sp0] using hname
        | some d =>
          have h4 := hval.2
          simp only [Bool.and_eq_true] at h4
          simp only [Token.lexOK, sp0, Option.map_some, Bool.and_eq_true, hname, true_and]
          refine ⟨⟨⟨⟨?_, h4.1.1.1.1⟩, h4.1.1.1.2⟩, h4.1.1.2⟩, h4.1.2⟩
          simpa using hxml
    | element name =>
      obtain ⟨p, ats, content, _, hp, ha, hk, rfl⟩ := serNode_element_ok env h
      have hs' := NcStack.push env hs hn
      have hpf : ncNameOK (prefixText env p) = true :=
        prefixText_ncName env hs' (fun q hq => ⟨name, Or.inl (hq ▸ hp)⟩)
      have hq : qnameOK (prefixText env p) (env.localName name) = true :=
        ncNameNE_qnameOK_local _ _ hpf (by simpa [Tree.value, valueOK] using hval)
      intro k hk'
      rcases mem_elementTokens hk' with rfl | hd | hat | rfl | rfl | hc | rfl
      · simpa [Token.lexOK, sp0] using hq
      · simp only [Bool.false_eq_true, if_false, List.nil_append, List.mem_flatMap] at hd
        obtain ⟨d, hd1, hd2⟩ := hd
        exact declTokens_lexOK env (nsDecls_valueOK env hn hd1) k hd2
      · exact attrTokens_lexOK env hs' _ ats (fun a ha' => attrs_valueOK env hn ha') ha k hat
      · rfl
      · rfl
      · exact serKids_lexOK henv inScope ks _ hs' hkids content hk k hc
      · simpa [Token.lexOK, sp0] using hq

theorem serKids_lexOK (henv : envOK env = true) (inScope : List (Nat × Nat)) (ks : List Tree)
    (s : FStack) (hs : NcStack env s) (hn : ∀ k ∈ ks, k.allNodes (nodeOK env) = true)
    (ts : List Token) (h : serNode.serKids env false inScope s ks = .ok ts) :
    ∀ k ∈ ts, k.lexOK = true := by
  cases ks with
  | nil =>
    simp only [serNode.serKids, Except.ok.injEq] at h
    subst h
    intro k hk; cases hk
  | cons k ks =>
    obtain ⟨x, y, hx, hy, rfl⟩ := serKids_cons_ok env h
    intro tok htok
    rcases List.mem_append.mp htok with htok | htok
    · exact serNode_lexOK henv inScope k s hs (hn k (by simp)) x hx tok htok
    · exact serKids_lexOK henv inScope ks s hs (fun k' hk' => hn k' (by simp [hk'])) y hy tok htok
end

end PiColon

theorem serNode_lexOK (henv : envOK env = true) (inScope : List (Nat × Nat)) (n : Tree) (s : FStack)
    (hs : NcStack env s) (hn : n.allNodes (nodeOK env) = true) (ts : List Token)
    (h : serNode env false inScope false s n = .ok ts) : ∀ k ∈ ts, k.lexOK = true :=
  PiColon.serNode_lexOK env henv inScope n s hs (PiColon.allNodes_of_allNodes env n hn) ts h

end XotModel

/-!
## Bracketing and adjacency

  Bracketing and adjacency (`lexNest`, Model/LexOK.lean) of `serNode` of a tree that satisfies
  `nodeOK` everywhere: attribute tokens only inside start tags, tags balanced, no two text tokens
  in a row.
-/

namespace XotModel

variable (env : Env)

def headIsText : List Token → Bool
  | .text _ :: _ => true
  | _ => false

def Token.isAttribute : Token → Bool
  | .attribute _ _ _ _ => true
  | _ => false

theorem lexNest_text (frag : Bool) (d : Nat) (x : StrSpan) (rest : List Token) :
    lexNest frag (.content d) (.text x :: rest) = (!headIsText rest && lexNest frag (.content d) rest) := by
  cases rest with
  | nil => simp [lexNest, headIsText]
  | cons k r => cases k <;> simp [lexNest, headIsText]

theorem lexNest_comment (frag : Bool) (d : Nat) (x y : StrSpan) (rest : List Token) :
    lexNest frag (.content d) (.comment x y :: rest) = lexNest frag (.content d) rest := by
  simp [lexNest]

theorem lexNest_pi (frag : Bool) (d : Nat) (x : StrSpan) (c : Option StrSpan) (y : StrSpan)
    (rest : List Token) :
    lexNest frag (.content d) (.pi x c y :: rest) = lexNest frag (.content d) rest := by
  simp [lexNest]

theorem lexNest_start (frag : Bool) (d : Nat) (p l y : StrSpan) (rest : List Token) :
    lexNest frag (.content d) (.elementStart p l y :: rest) = lexNest frag (.inTag d) rest := by
  simp [lexNest]

theorem lexNest_close (frag : Bool) (d : Nat) (p l y : StrSpan) (rest : List Token) :
    lexNest frag (.content (d + 1)) (.elementEnd (.close p l) y :: rest) =
      lexNest frag (LexCtx.closed frag d) rest := by
  simp [lexNest]

theorem lexNest_attrs (frag : Bool) (d : Nat) (ats : List Token)
    (h : ∀ k ∈ ats, k.isAttribute = true) (tail : List Token) :
    lexNest frag (.inTag d) (ats ++ tail) = lexNest frag (.inTag d) tail := by
  induction ats with
  | nil => rfl
  | cons k ats ih =>
    have hk := h k (by simp)
    cases k <;> simp [Token.isAttribute] at hk
    simp only [List.cons_append, lexNest]
    exact ih (fun k' hk' => h k' (by simp [hk']))

theorem declTokens_isAttribute (d : Nat × Nat) : ∀ k ∈ declTokens env d, k.isAttribute = true := by
  intro k hk
  unfold declTokens at hk
  split at hk
  · cases hk
  · split at hk <;> (simp only [List.mem_singleton] at hk; subst hk; rfl)

theorem attrTokens_isAttribute (s : FStack) :
    ∀ (as : List (Nat × Str)) (ts : List Token), attrTokens env s as = .ok ts →
      ∀ k ∈ ts, k.isAttribute = true
  | [], ts, h => by
    simp only [attrTokens, Except.ok.injEq] at h
    subst h
    intro k hk; cases hk
  | (name, v) :: rest, ts, h => by
    obtain ⟨p, ts', _, hr, rfl⟩ := attrTokens_cons_ok env h
    intro k hk
    rcases List.mem_cons.mp hk with rfl | hk
    · rfl
    · exact attrTokens_isAttribute s rest ts' hr k hk

theorem serKids_abnormal (ugt : Bool) (inScope : List (Nat × Nat)) (s : FStack) :
    ∀ (ks : List Tree), (∀ k ∈ ks, k.value.isNormal = false ∧ k.kids = []) →
      serNode.serKids env ugt inScope s ks = .ok []
  | [], _ => rfl
  | .node v kk :: ks, h => by
    have h1 := h (.node v kk) (by simp)
    simp only [Tree.value, Tree.kids] at h1
    obtain ⟨hv, rfl⟩ := h1
    rw [serNode.serKids, serKids_abnormal ugt inScope s ks (fun k hk => h k (by simp [hk]))]
    cases v <;> simp [Value.isNormal, Value.category] at hv <;>
      simp [serNode, serNode.serKids, appendOk]

theorem firstChild_none_abnormal {v : Value} {ks : List Tree}
    (h : (Tree.node v ks).firstChild?.isNone = true) : ∀ k ∈ ks, k.value.isNormal = false := by
  simp only [Tree.firstChild?, Tree.normalKids, Tree.kids, Option.isNone_iff_eq_none,
    List.head?_eq_none_iff] at h
  intro k hk
  simpa using dropWhile_nil_imp _ ks h k hk

theorem abnormal_leafKind {v : Value} (h : v.isNormal = false) : v.isLeafKind = true := by
  cases v <;> simp [Value.isNormal, Value.category] at h <;> rfl

/-- A node without a first child — an element written `<a/>` — has attribute and namespace leaves only. -/
theorem PiColon.emptyElement_kids {v : Value} {ks : List Tree}
    (hn : (Tree.node v ks).allNodes (PiColon.nodeOK env) = true) (hfc : (Tree.node v ks).firstChild?.isNone = true) :
    ∀ k ∈ ks, k.value.isNormal = false ∧ k.kids = [] := by
  intro k hk
  have hab := firstChild_none_abnormal hfc k hk
  refine ⟨hab, ?_⟩
  cases k with
  | node v' ks' => exact PiColon.allNodes_leaf env (allNodes_kid hn hk) (abnormal_leafKind hab)

theorem emptyElement_kids {v : Value} {ks : List Tree} (hn : (Tree.node v ks).allNodes (nodeOK env) = true)
    (hfc : (Tree.node v ks).firstChild?.isNone = true) : ∀ k ∈ ks, k.value.isNormal = false ∧ k.kids = [] :=
  PiColon.emptyElement_kids env (PiColon.allNodes_of_allNodes env _ hn) hfc

theorem serNode_head_notText {ugt : Bool} {inScope : List (Nat × Nat)} {s : FStack} {n : Tree}
    {ts : List Token} (h : serNode env ugt inScope false s n = .ok ts)
    (hk : n.value.isElement = true ∨ (∃ c, n.value = .comment c) ∨ ∃ a b, n.value = .pi a b)
    (rest : List Token) : headIsText (ts ++ rest) = false := by
  cases n with
  | node v ks =>
    rcases hk with hk | ⟨c, hk⟩ | ⟨a, b, hk⟩
    · cases v <;> simp [Value.isElement, Tree.value] at hk
      obtain ⟨p, ats, content, _, _, _, _, rfl⟩ := serNode_element_ok env h
      simp [elementTokens, headIsText]
    · simp only [Tree.value] at hk
      subst hk
      rw [serNode] at h
      obtain ⟨x, y, hx, _, rfl⟩ := appendOk_ok h
      cases hx
      simp [headIsText]
    · simp only [Tree.value] at hk
      subst hk
      rw [serNode] at h
      split at h
      · cases h
      · obtain ⟨x, y, hx, _, rfl⟩ := appendOk_ok h
        cases hx
        simp [headIsText]

namespace Ser

/-- Behind a text child comes no text token: the next child is normal (order), not text (adjacency), not a
    document, so its tokens begin with a tag, a comment or a PI; behind the last child comes `rest`. -/
theorem headIsText_after_text {inScope : List (Nat × Nat)} {s : FStack} {k : Tree} {ks : List Tree}
    (hord : OrderedKids (k :: ks)) (hnoadj : noAdjText (k :: ks) = true)
    (hdoc : ∀ k' ∈ k :: ks, k'.value.isDocument = false) {y : List Token}
    (hy : serNode.serKids env false inScope s ks = .ok y) {rest : List Token}
    (hadj : ∀ k', (k :: ks).getLast? = some k' → k'.value.isText = true → headIsText rest = false)
    (hkt : k.value.isText = true) : headIsText (y ++ rest) = false := by
  cases ks with
  | nil =>
    simp only [serNode.serKids, Except.ok.injEq] at hy
    subst hy
    exact hadj k rfl hkt
  | cons k2 ks2 =>
    obtain ⟨x2, y2, hx2, _, rfl⟩ := serKids_cons_ok env hy
    rw [List.append_assoc]
    apply serNode_head_notText env hx2
    -- the node after a text node is normal (order), not text (adjacency), not a document
    simp only [noAdjText, hkt, Bool.true_and, Bool.and_eq_true, Bool.not_eq_true'] at hnoadj
    have hph := (List.pairwise_cons.mp hord).1 k2 (by simp)
    have hd2 := hdoc k2 (by simp)
    cases k with
    | node v kk =>
      cases k2 with
      | node v2 kk2 =>
        simp only [Tree.value] at hkt hph hd2 hnoadj ⊢
        cases v <;> simp [Value.isText] at hkt
        cases v2 <;> simp [Value.phase, Value.isText, Value.isDocument, Value.isElement] at hph hd2 hnoadj ⊢

end Ser

theorem closed_succ (frag : Bool) (d : Nat) : LexCtx.closed frag (d + 1) = .content (d + 1) := by
  simp [LexCtx.closed]

namespace PiColon

mutual
theorem serNode_nest (frag : Bool) (inScope : List (Nat × Nat)) (n : Tree) (s : FStack)
    (hn : n.allNodes (nodeOK env) = true) (hdoc : n.value.isDocument = false) (ts : List Token)
    (h : serNode env false inScope false s n = .ok ts) (d : Nat) (rest : List Token)
    (hrest : lexNest frag (if n.value.isElement then LexCtx.closed frag d else .content d) rest = true)
    (hadj : n.value.isText = true → headIsText rest = false) :
    lexNest frag (.content d) (ts ++ rest) = true := by
  cases n with
  | node v ks =>
    obtain ⟨hord, hkinds, _, hnoadj, _⟩ := nodeOK_root hn
    cases v with
    | document => simp [Tree.value, Value.isDocument] at hdoc
    | «attribute» a b | «namespace» a b =>
      have hl := allNodes_leaf env hn rfl
      subst hl
      simp only [serNode, serNode.serKids, Except.ok.injEq] at h
      subst h
      simpa [Tree.value, Value.isElement] using hrest
    | text str =>
      have hl := allNodes_leaf env hn rfl
      subst hl
      simp only [serNode, serNode.serKids, appendOk, List.append_nil, Except.ok.injEq] at h
      subst h
      simp only [Tree.value, Value.isElement, Bool.false_eq_true, if_false] at hrest
      simp only [List.cons_append, List.nil_append, lexNest_text, hrest, hadj rfl, Bool.not_false,
        Bool.and_self]
    | comment str =>
      have hl := allNodes_leaf env hn rfl
      subst hl
      simp only [serNode, serNode.serKids, appendOk, List.append_nil, Except.ok.injEq] at h
      subst h
      simp only [Tree.value, Value.isElement, Bool.false_eq_true, if_false] at hrest
      simp only [List.cons_append, List.nil_append, lexNest_comment, hrest]
    | pi target data =>
      have hl := allNodes_leaf env hn rfl
      subst hl
      rw [serNode] at h
      split at h
      · cases h
      · simp only [serNode.serKids, appendOk, List.append_nil, Except.ok.injEq] at h
        subst h
        simp only [Tree.value, Value.isElement, Bool.false_eq_true, if_false] at hrest
        simp only [List.cons_append, List.nil_append, lexNest_pi, hrest]
    | element name =>
      obtain ⟨p, ats, content, _, _, ha, hk, rfl⟩ := serNode_element_ok env h
      simp only [Tree.value, Value.isElement, if_true] at hrest
      have hattr : ∀ k ∈ ((Tree.node (.element name) ks).nsDecls.flatMap (declTokens env)) ++ ats,
          k.isAttribute = true := by
        intro k hk'
        rcases List.mem_append.mp hk' with hk' | hk'
        · obtain ⟨d', _, hd'⟩ := List.mem_flatMap.mp hk'
          exact declTokens_isAttribute env d' k hd'
        · exact attrTokens_isAttribute env _ _ ats ha k hk'
      simp only [elementTokens, Bool.false_eq_true, if_false, List.append_assoc, List.cons_append,
        List.nil_append, lexNest_start]
      rw [← List.append_assoc, lexNest_attrs frag d _ hattr]
      by_cases hfc : (Tree.node (.element name) ks).firstChild?.isNone = true
      · have hcontent := serKids_abnormal env false inScope
          (s.push (Tree.node (.element name) ks).nsDecls) ks (emptyElement_kids env hn hfc)
        rw [hcontent] at hk
        cases hk
        simp only [hfc, if_true, List.cons_append, List.nil_append, lexNest, hrest]
      · simp only [hfc, Bool.false_eq_true, if_false, List.cons_append, List.append_assoc, lexNest]
        apply serKids_nest frag inScope ks _ (fun k hk' => allNodes_kid hn hk') hord hnoadj hkinds.2.2
          content hk (d + 1) (closed_succ frag d)
        · simp only [List.cons_append, List.nil_append, lexNest_close, hrest]
        · intro _ _ _
          rfl

/-- The tokens of a child list in element content at a depth where an end tag leads back to
    element content, followed by `rest`. -/
theorem serKids_nest (frag : Bool) (inScope : List (Nat × Nat)) (ks : List Tree) (s : FStack)
    (hn : ∀ k ∈ ks, k.allNodes (nodeOK env) = true) (hord : OrderedKids ks)
    (hnoadj : noAdjText ks = true) (hdoc : ∀ k ∈ ks, k.value.isDocument = false) (ts : List Token)
    (h : serNode.serKids env false inScope s ks = .ok ts) (d : Nat)
    (hd : LexCtx.closed frag d = .content d) (rest : List Token)
    (hrest : lexNest frag (.content d) rest = true)
    (hadj : ∀ k, ks.getLast? = some k → k.value.isText = true → headIsText rest = false) :
    lexNest frag (.content d) (ts ++ rest) = true := by
  cases ks with
  | nil =>
    simp only [serNode.serKids, Except.ok.injEq] at h
    subst h
    exact hrest
  | cons k ks =>
    obtain ⟨x, y, hx, hy, rfl⟩ := serKids_cons_ok env h
    rw [List.append_assoc]
    have hord' : OrderedKids ks := (List.pairwise_cons.mp hord).2
    have hy' : lexNest frag (.content d) (y ++ rest) = true := by
      apply serKids_nest frag inScope ks s (fun k' hk' => hn k' (by simp [hk'])) hord' _
        (fun k' hk' => hdoc k' (by simp [hk'])) y hy d hd rest hrest
      · intro k' hk'
        apply hadj k'
        cases ks with
        | nil => cases hk'
        | cons k2 ks2 => rw [List.getLast?_cons_cons]; exact hk'
      · cases ks with
        | nil => rfl
        | cons k2 ks2 =>
          simp only [noAdjText, Bool.and_eq_true] at hnoadj
          exact hnoadj.2
    apply serNode_nest frag inScope k s (hn k (by simp)) (hdoc k (by simp)) x hx d (y ++ rest)
    · split
      · rw [hd]; exact hy'
      · exact hy'
    · exact Ser.headIsText_after_text env hord hnoadj hdoc hy hadj
end

end PiColon

end XotModel

/-!
## `LexOK` of a whole serialisation

  `LexOK` of `serTokensTop` for `Representable` (document mode) and `RepresentableFragment`
  (fragment mode) trees whose serialisation succeeds.
-/

namespace XotModel

variable (env : Env)

theorem serTokensTop_document (ks : List Tree) :
    serTokensTop env (.node .document ks) =
      serNode.serKids env false (namespacesInScopeChain [.node .document ks])
        (FStack.new (namespacesInScopeChain [.node .document ks])) ks := by
  simp [serTokensTop, serTokensAt, Tree.at?, namespacesInScope, Tree.ancestorsOrSelf, serNode]

theorem singleRoot_iff (t : Tree) :
    singleRoot t = true ↔
      (t.kids.filter (fun k => k.value.isElement)).length = 1 ∧ ∀ k ∈ t.kids, k.value.isText = false := by
  simp [singleRoot]

namespace PiColon

theorem ncStack_init (henv : envOK env = true) (t : Tree) (ht : t.allNodes (nodeOK env) = true) :
    NcStack env (FStack.new (namespacesInScopeChain [t])) := by
  have hxml : ncNameOK (env.prefixStr Env.xmlPrefix) = true := by
    rw [envOK_xmlPrefix env henv]; exact ncNameOK_xml
  refine ⟨hxml, ?_⟩
  simp only [FStack.new, FStack.top, List.headD_cons]
  intro d hd hne
  rcases namespacesInScopeChain_origin [t] d hd with h | ⟨a, ha, hda⟩
  · simp only [basePrefixes, List.mem_singleton] at h
    subst h
    exact hxml
  · simp only [List.mem_singleton] at ha
    subst ha
    cases a with
    | node v ks =>
      have := valueOK_namespace_prefix env (nsDecls_valueOK env ht hda) hne
      simp only [ncNameNE, Bool.and_eq_true] at this
      exact this.1

theorem representableFragment_iff (t : Tree) :
    RepresentableFragment env t = true ↔
      envOK env = true ∧ t.value.isDocument = true ∧ t.allNodes (nodeOK env) = true ∧
        (xmlIdValues env t).Nodup := by
  simp [RepresentableFragment, and_assoc]

theorem representable_iff (t : Tree) :
    Representable env t = true ↔ RepresentableFragment env t = true ∧ singleRoot t = true := by
  simp [Representable]

theorem misc_tokens {ugt : Bool} {inScope : List (Nat × Nat)} {s : FStack} {k : Tree}
    (hk : k.allNodes (nodeOK env) = true) (hnormal : k.value.isNormal = true)
    (hdoc : k.value.isDocument = false) (htext : k.value.isText = false)
    (hel : k.value.isElement = false) {x : List Token}
    (hx : serNode env ugt inScope false s k = .ok x) :
    (∃ a b, x = [.comment a b]) ∨ ∃ a b c, x = [.pi a b c] := by
  cases k with
  | node v kk =>
    cases v <;> simp [Tree.value, Value.isNormal, Value.category, Value.isDocument, Value.isText,
      Value.isElement] at hnormal hdoc htext hel
    · have hl := allNodes_leaf env hk rfl
      subst hl
      rw [serNode] at hx
      split at hx
      · cases hx
      · simp only [serNode.serKids, appendOk, List.append_nil, Except.ok.injEq] at hx
        exact Or.inr ⟨_, _, _, hx.symm⟩
    · have hl := allNodes_leaf env hk rfl
      subst hl
      simp only [serNode, serNode.serKids, appendOk, List.append_nil, Except.ok.injEq] at hx
      exact Or.inl ⟨_, _, hx.symm⟩

theorem top_after (inScope : List (Nat × Nat)) (s : FStack) :
    ∀ (ks : List Tree), (∀ k ∈ ks, k.allNodes (nodeOK env) = true) →
      (∀ k ∈ ks, k.value.isNormal = true) → (∀ k ∈ ks, k.value.isDocument = false) →
      (∀ k ∈ ks, k.value.isText = false) → (∀ k ∈ ks, k.value.isElement = false) →
      ∀ ts, serNode.serKids env false inScope s ks = .ok ts → lexNest false .after ts = true
  | [], _, _, _, _, _, ts, h => by
    simp only [serNode.serKids, Except.ok.injEq] at h
    subst h
    rfl
  | k :: ks, hn, hnorm, hdoc, htext, hel, ts, h => by
    obtain ⟨x, y, hx, hy, rfl⟩ := serKids_cons_ok env h
    have ih := top_after inScope s ks (fun k' hk' => hn k' (by simp [hk']))
      (fun k' hk' => hnorm k' (by simp [hk'])) (fun k' hk' => hdoc k' (by simp [hk']))
      (fun k' hk' => htext k' (by simp [hk'])) (fun k' hk' => hel k' (by simp [hk'])) y hy
    rcases misc_tokens env (hn k (by simp)) (hnorm k (by simp)) (hdoc k (by simp)) (htext k (by simp))
      (hel k (by simp)) hx with ⟨a, b, rfl⟩ | ⟨a, b, c, rfl⟩ <;> simpa [lexNest] using ih

theorem top_prolog (inScope : List (Nat × Nat)) (s : FStack) :
    ∀ (ks : List Tree), (∀ k ∈ ks, k.allNodes (nodeOK env) = true) →
      (∀ k ∈ ks, k.value.isNormal = true) → (∀ k ∈ ks, k.value.isDocument = false) →
      (∀ k ∈ ks, k.value.isText = false) →
      (ks.filter (fun k => k.value.isElement)).length = 1 →
      ∀ ts, serNode.serKids env false inScope s ks = .ok ts → lexNest false .prolog ts = true
  | [], _, _, _, _, hone, _, _ => by simp at hone
  | k :: ks, hn, hnorm, hdoc, htext, hone, ts, h => by
    obtain ⟨x, y, hx, hy, rfl⟩ := serKids_cons_ok env h
    have hn' : ∀ k' ∈ ks, k'.allNodes (nodeOK env) = true := fun k' hk' => hn k' (by simp [hk'])
    have hnorm' : ∀ k' ∈ ks, k'.value.isNormal = true := fun k' hk' => hnorm k' (by simp [hk'])
    have hdoc' : ∀ k' ∈ ks, k'.value.isDocument = false := fun k' hk' => hdoc k' (by simp [hk'])
    have htext' : ∀ k' ∈ ks, k'.value.isText = false := fun k' hk' => htext k' (by simp [hk'])
    by_cases hel : k.value.isElement = true
    · -- the document element: afterwards only comments and PIs
      simp only [List.filter_cons, hel, if_true, List.length_cons, Nat.add_eq_right,
        List.length_eq_zero_iff, List.filter_eq_nil_iff, Bool.not_eq_true] at hone
      have hafter := top_after env inScope s ks hn' hnorm' hdoc' htext' hone y hy
      have hnest := serNode_nest env false inScope k s (hn k (by simp)) (hdoc k (by simp)) x hx 0 y
        (by simpa [hel, LexCtx.closed] using hafter) (by simp [htext k (by simp)])
      cases k with
      | node v kk =>
        cases v <;> simp [Tree.value, Value.isElement] at hel
        obtain ⟨p, ats, content, _, _, _, _, rfl⟩ := serNode_element_ok env hx
        simpa [elementTokens, lexNest] using hnest
    · have hel' : k.value.isElement = false := by simpa using hel
      simp only [List.filter_cons, hel', Bool.false_eq_true, if_false] at hone
      have ih := top_prolog inScope s ks hn' hnorm' hdoc' htext' hone y hy
      rcases misc_tokens env (hn k (by simp)) (hnorm k (by simp)) (hdoc k (by simp)) (htext k (by simp))
        hel' hx with ⟨a, b, rfl⟩ | ⟨a, b, c, rfl⟩ <;> simpa [lexNest] using ih

theorem lexOK_fragment (t : Tree) (hr : RepresentableFragment env t = true) (ts : List Token)
    (h : serTokensTop env t = .ok ts) : LexOK true ts = true := by
  obtain ⟨henv, hdocv, hn, _⟩ := (representableFragment_iff env t).mp hr
  obtain ⟨ks, rfl⟩ := Tree.eq_document hdocv
  rw [serTokensTop_document] at h
  have hs := ncStack_init env henv _ hn
  obtain ⟨hord, hkinds, _, hnoadj, _⟩ := nodeOK_root hn
  have hkids : ∀ k ∈ ks, k.allNodes (nodeOK env) = true := fun k hk => allNodes_kid hn hk
  simp only [LexOK, Bool.and_eq_true, List.all_eq_true]
  refine ⟨serKids_lexOK env henv _ ks _ hs hkids ts h, ?_⟩
  have := serKids_nest env true _ ks _ hkids hord hnoadj hkinds.2.2 ts h 0 rfl [] rfl
    (fun _ _ _ => rfl)
  simpa [LexCtx.init] using this

theorem lexOK_document (t : Tree) (hr : Representable env t = true) (ts : List Token)
    (h : serTokensTop env t = .ok ts) : LexOK false ts = true := by
  obtain ⟨hfrag, hsingle⟩ := (representable_iff env t).mp hr
  obtain ⟨henv, hdocv, hn, _⟩ := (representableFragment_iff env t).mp hfrag
  obtain ⟨ks, rfl⟩ := Tree.eq_document hdocv
  rw [serTokensTop_document] at h
  have hs := ncStack_init env henv _ hn
  obtain ⟨_, hkinds, _, _, _⟩ := nodeOK_root hn
  have hkids : ∀ k ∈ ks, k.allNodes (nodeOK env) = true := fun k hk => allNodes_kid hn hk
  obtain ⟨hone, htext⟩ := (singleRoot_iff _).mp hsingle
  simp only [LexOK, Bool.and_eq_true, List.all_eq_true]
  refine ⟨serKids_lexOK env henv _ ks _ hs hkids ts h, ?_⟩
  have := top_prolog env _ _ ks hkids (hkinds.2.1 rfl) hkinds.2.2 htext hone ts h
  simpa [LexCtx.init] using this

end PiColon

theorem representableFragment_iff (t : Tree) :
    RepresentableFragment env t = true ↔
      envOK env = true ∧ t.value.isDocument = true ∧ t.allNodes (nodeOK env) = true ∧
        (xmlIdValues env t).Nodup := by
  simp [RepresentableFragment, and_assoc]

theorem representable_iff (t : Tree) :
    Representable env t = true ↔ RepresentableFragment env t = true ∧ singleRoot t = true := by
  simp [Representable]

/-- The narrow domain is the widened one under the guard `PlainPiTargets` (Model/AcceptedGuard.lean); the other
    direction is `PiColon.representableFragment_of`. -/
theorem representableFragment_of_plain (t : Tree) (hr : PiColon.RepresentableFragment env t = true)
    (hpi : PlainPiTargets env t = true) : RepresentableFragment env t = true := by
  obtain ⟨henv, hdoc, hn, hids⟩ := (PiColon.representableFragment_iff env t).mp hr
  exact (representableFragment_iff env t).mpr ⟨henv, hdoc, allNodes_and (PiColon.nodeOK_of_plain env) t hn hpi, hids⟩

theorem lexOK_fragment (t : Tree) (hr : RepresentableFragment env t = true) (ts : List Token)
    (h : serTokensTop env t = .ok ts) : LexOK true ts = true :=
  PiColon.lexOK_fragment env t (PiColon.representableFragment_of env t hr) ts h

theorem lexOK_document (t : Tree) (hr : Representable env t = true) (ts : List Token)
    (h : serTokensTop env t = .ok ts) : LexOK false ts = true :=
  PiColon.lexOK_document env t (PiColon.representable_of env t hr) ts h

theorem representableFragment_of_representable {t : Tree} (h : Representable env t = true) :
    RepresentableFragment env t = true := ((representable_iff env t).mp h).1

theorem allNodes_of_representable {t : Tree} (h : Representable env t = true) : t.allNodes (nodeOK env) = true :=
  ((representableFragment_iff env t).mp (representableFragment_of_representable env h)).2.2.1

theorem PiColon.representableFragment_of_representable {t : Tree} (h : PiColon.Representable env t = true) :
    PiColon.RepresentableFragment env t = true := ((PiColon.representable_iff env t).mp h).1

theorem singleRoot_element_kid {t : Tree} (h : singleRoot t = true) : ∃ k ∈ t.kids, k.value.isElement = true := by
  have hone := ((singleRoot_iff t).mp h).1
  obtain ⟨k, hk⟩ := List.exists_mem_of_length_pos (Nat.lt_of_lt_of_eq Nat.one_pos hone.symm)
  exact ⟨k, (List.mem_filter.mp hk).1, (List.mem_filter.mp hk).2⟩

end XotModel
