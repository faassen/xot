/-
  What a pass keeps: the declarations of the rebuilt node, unique prefixes per element, every
  undeclaration, and (the point of `is_redundant_declaration`, `isRedundantDeclaration_spec`)
  writability of every name from any top frame (`keep_wr`).
-/
import XotModel.Lemmas.DedupPass
import XotModel.Lemmas.ScopeUnres

/-! ### Declarations, unique prefixes, undeclarations

  A pass of `deduplicate_namespaces` on a tree whose elements declare
  no prefix twice (`UniqueDeclsBelow`: always true of trees built through the API, the namespace view
  is a map; the removal loop goes by PREFIX and deletes the first node with that key):

  * the declarations left on an element are exactly the ones the traversal kept
    (`nsDecls_dpWalk`: `dpKeep`), the result has unique prefixes again (`UniqueDeclsBelow.dpWalk`);
  * no binding to the no-namespace id is ever removed (`dedup_keeps_undeclarations`).
-/

namespace XotModel
open ScopePath

/-! ### Removing by prefix under unique prefixes -/

theorem declsOfKids_removeNsKid_filter (pfx : Nat) : ∀ ks : List Tree,
    ((declsOfKids ks).map Prod.fst).Nodup →
    declsOfKids (removeNsKid pfx ks) = (declsOfKids ks).filter (fun kv => kv.1 != pfx) := by
  intro ks
  induction ks with
  | nil => intro _; rfl
  | cons k rest ih =>
    intro hnd
    by_cases hc : (k.value.category == Category.namespace) = true
    · obtain ⟨p, n, hv⟩ := (category_namespace_iff_ex _).1 hc
      simp only [declsOfKids, hv, List.map_cons, List.nodup_cons] at hnd
      simp only [removeNsKid, hv]
      by_cases hp : p = pfx
      · subst hp
        simp only [beq_self_eq_true, ↓reduceIte, declsOfKids, hv, List.filter_cons, bne_self_eq_false,
          Bool.false_eq_true]
        symm
        rw [List.filter_eq_self]
        intro kv hkv
        have : kv.1 ≠ p := fun h => hnd.1 (h ▸ List.mem_map.2 ⟨kv, hkv, rfl⟩)
        simpa using this
      · have hb : (p == pfx) = false := beq_false_of_ne hp
        have hb2 : (p != pfx) = true := by simpa using hp
        simp only [hb, Bool.false_eq_true, ↓reduceIte, declsOfKids, hv, List.filter_cons, hb2, ih hnd.2]
    · rw [removeNsKid_not_namespace pfx k rest hc, declsOfKids_not_namespace k rest hc]; rfl

theorem declsOfKids_foldl_remove (l : List Nat) : ∀ ks : List Tree,
    ((declsOfKids ks).map Prod.fst).Nodup →
    declsOfKids (l.foldl (fun ks p => removeNsKid p ks) ks) =
      (declsOfKids ks).filter (fun kv => !l.contains kv.1) := by
  induction l with
  | nil =>
    intro ks _
    simp only [List.foldl_nil, List.contains_nil, Bool.not_false]
    exact (List.filter_eq_self.2 (fun _ _ => rfl)).symm
  | cons a rest ih =>
    intro ks hnd
    simp only [List.foldl_cons]
    have h1 := declsOfKids_removeNsKid_filter a ks hnd
    have hnd' : ((declsOfKids (removeNsKid a ks)).map Prod.fst).Nodup :=
      ((nsDel_removeNsKid a ks).declsOfKids.map Prod.fst).nodup hnd
    rw [ih _ hnd', h1, List.filter_filter]
    apply List.filter_congr
    intro kv _
    by_cases hk : kv.1 = a
    · simp [hk]
    · have : (kv.1 != a) = true := by simpa using hk
      simp [this, hk]

theorem declsOfKids_removeOwn (pfxs : List Nat) (ks : List Tree)
    (hnd : ((declsOfKids ks).map Prod.fst).Nodup) :
    declsOfKids (removeOwn pfxs ks) = (declsOfKids ks).filter (fun kv => !pfxs.contains kv.1) := by
  rw [removeOwn, declsOfKids_foldl_remove _ ks hnd]
  apply List.filter_congr
  intro kv _
  simp

theorem eq_of_mem_of_key_eq {d : List (Nat × Nat)} (hnd : (d.map Prod.fst).Nodup) {a b : Nat × Nat}
    (ha : a ∈ d) (hb : b ∈ d) (h : a.1 = b.1) : a = b := by
  have h1 := (lookup_some_iff hnd a.1 a.2).2 ha
  have h2 := (lookup_some_iff hnd b.1 b.2).2 hb
  rw [h, h2] at h1
  simp only [Option.some.injEq] at h1
  exact Prod.ext h h1.symm

/-- Under unique prefixes the element keeps exactly the declarations the traversal kept. -/
theorem nsDecls_dpWalk (env : Env) (K : List (List (Nat × Nat))) (v : Value) (ks : List Tree)
    (he : v.isElement = true) (hnd : (((Tree.node v ks).nsDecls).map Prod.fst).Nodup) :
    (dpWalk env K (.node v ks)).nsDecls = dpKeep env K (.node v ks) := by
  rw [nsDecls_node] at hnd
  simp only [dpWalk, he, ↓reduceIte, nsDecls_node]
  rw [declsOfKids_removeOwn _ _ (by rw [declsOfKids_dpWalkList]; exact hnd), declsOfKids_dpWalkList]
  simp only [dpKeep, nsDecls_node]
  apply List.filter_congr
  intro kv hkv
  congr 1
  apply Bool.eq_iff_iff.2
  simp only [List.contains_iff_mem, List.mem_map, dpRed, nsDecls_node, List.mem_filter]
  constructor
  · rintro ⟨kv', ⟨hm, hr⟩, hk⟩
    rw [← eq_of_mem_of_key_eq hnd hm hkv hk]; exact hr
  · intro hr; exact ⟨kv, ⟨hkv, hr⟩, rfl⟩

theorem nsDecls_dpWalk_nonElement (env : Env) (K : List (List (Nat × Nat))) (v : Value) (ks : List Tree)
    (he : v.isElement = false) : (dpWalk env K (.node v ks)).nsDecls = (Tree.node v ks).nsDecls := by
  simp only [dpWalk, he, Bool.false_eq_true, ↓reduceIte, nsDecls_node, declsOfKids_dpWalkList]

theorem isRedundantDeclaration_nil (env : Env) (x : Tree) (kv : Nat × Nat) :
    isRedundantDeclaration env x [] kv = false := by
  unfold isRedundantDeclaration
  split <;> rfl

theorem dpRed_nil (env : Env) (x : Tree) : dpRed env [] x = [] := by
  simp [dpRed, isRedundantDeclaration_nil]

/-- The call node itself never loses a declaration (the kept stack is empty there). -/
theorem nsDecls_dpWalk_nil (env : Env) (x : Tree) : (dpWalk env [] x).nsDecls = x.nsDecls := by
  obtain ⟨v, ks⟩ := x
  unfold dpWalk
  split
  · simp only [dpRed_nil, List.map_nil, removeOwn_nil, nsDecls_node, declsOfKids_dpWalkList]
  · simp only [nsDecls_node, declsOfKids_dpWalkList]

/-! ### Unique prefixes, as a recursive check -/

mutual
theorem uniqueDeclsB_complete : ∀ (t : Tree), UniqueDeclsBelow t → uniqueDeclsB t = true
  | .node v ks, h => by
    simp only [uniqueDeclsB, Bool.and_eq_true, Bool.or_eq_true, Bool.not_eq_true', decide_eq_true_eq]
    refine ⟨?_, uniqueDeclsBList_complete ks (fun i k hk => h.kid hk)⟩
    cases he : v.isElement with
    | false => exact .inl rfl
    | true => exact .inr (h.self (t := .node v ks) he)
theorem uniqueDeclsBList_complete : ∀ (ks : List Tree),
    (∀ (i : Nat) (k : Tree), ks[i]? = some k → UniqueDeclsBelow k) →
    uniqueDeclsB.uniqueDeclsBList ks = true
  | [], _ => rfl
  | k :: ks, h => by
    simp only [uniqueDeclsB.uniqueDeclsBList, Bool.and_eq_true]
    exact ⟨uniqueDeclsB_complete k (h 0 k rfl),
      uniqueDeclsBList_complete ks (fun i k' hk => h (i + 1) k' hk)⟩
end

theorem NsDel.uniqueDeclsBList {ks' ks : List Tree} (h : NsDel ks' ks)
    (hu : uniqueDeclsB.uniqueDeclsBList ks = true) : uniqueDeclsB.uniqueDeclsBList ks' = true := by
  induction h with
  | refl => exact hu
  | drop _ _ ih =>
    simp only [uniqueDeclsB.uniqueDeclsBList, Bool.and_eq_true] at hu
    exact ih hu.2
  | keep _ _ ih =>
    simp only [uniqueDeclsB.uniqueDeclsBList, Bool.and_eq_true] at hu ⊢
    exact ⟨hu.1, ih hu.2⟩

mutual
theorem uniqueDeclsB_dpWalk (env : Env) : ∀ (x : Tree) (K : List (List (Nat × Nat))),
    uniqueDeclsB x = true → uniqueDeclsB (dpWalk env K x) = true
  | .node v ks, K, h => by
    simp only [uniqueDeclsB, Bool.and_eq_true, Bool.or_eq_true, Bool.not_eq_true', decide_eq_true_eq,
      nsDecls_node] at h
    by_cases he : v.isElement = true
    · have hnd : ((declsOfKids ks).map Prod.fst).Nodup := by
        rcases h.1 with h1 | h1
        · rw [he] at h1; cases h1
        · exact h1
      simp only [dpWalk, he, ↓reduceIte, uniqueDeclsB, Bool.and_eq_true, Bool.or_eq_true,
        Bool.not_eq_true', decide_eq_true_eq, nsDecls_node]
      have hdel := nsDel_removeOwn ((dpRed env K (.node v ks)).map (·.1))
        (dpWalk.dpWalkList env (dpKeep env K (.node v ks) :: K) ks)
      refine ⟨.inr ?_, hdel.uniqueDeclsBList (uniqueDeclsBList_dpWalk env ks _ h.2)⟩
      have hs := hdel.declsOfKids
      rw [declsOfKids_dpWalkList] at hs
      exact (hs.map Prod.fst).nodup hnd
    · have he' : v.isElement = false := Bool.eq_false_iff.2 he
      simp only [dpWalk, he', Bool.false_eq_true, ↓reduceIte, uniqueDeclsB, Bool.not_false,
        Bool.true_or, Bool.true_and]
      exact uniqueDeclsBList_dpWalk env ks K h.2
theorem uniqueDeclsBList_dpWalk (env : Env) : ∀ (ks : List Tree) (K : List (List (Nat × Nat))),
    uniqueDeclsB.uniqueDeclsBList ks = true →
    uniqueDeclsB.uniqueDeclsBList (dpWalk.dpWalkList env K ks) = true
  | [], _, _ => rfl
  | k :: ks, K, h => by
    simp only [uniqueDeclsB.uniqueDeclsBList, Bool.and_eq_true] at h
    simp only [dpWalk.dpWalkList, uniqueDeclsB.uniqueDeclsBList, Bool.and_eq_true]
    exact ⟨uniqueDeclsB_dpWalk env k K h.1, uniqueDeclsBList_dpWalk env ks K h.2⟩
end

theorem UniqueDeclsBelow.dpWalk {x : Tree} (h : UniqueDeclsBelow x) (env : Env)
    (K : List (List (Nat × Nat))) : UniqueDeclsBelow (dpWalk env K x) :=
  uniqueDeclsB_sound _ (uniqueDeclsB_dpWalk env x K (uniqueDeclsB_complete x h))

/-! ### Undeclarations stay -/

/-- Every binding to the no-namespace id in `b` (before) is in `a` (after). -/
def KeepsUndecl (a b : List (Nat × Nat)) : Prop :=
  ∀ kv ∈ b, kv.2 = Env.noNamespace → kv ∈ a

/-- Pointwise `KeepsUndecl` over the per-node declaration lists (`declsOfTree`). -/
inductive AllKeep : List (List (Nat × Nat)) → List (List (Nat × Nat)) → Prop
  | nil : AllKeep [] []
  | cons {a b : List (Nat × Nat)} {as bs : List (List (Nat × Nat))} :
      KeepsUndecl a b → AllKeep as bs → AllKeep (a :: as) (b :: bs)

theorem AllKeep.refl : ∀ l, AllKeep l l
  | [] => .nil
  | _ :: as => .cons (fun _ h _ => h) (AllKeep.refl as)

theorem AllKeep.trans {a b c : List (List (Nat × Nat))} (h1 : AllKeep a b) (h2 : AllKeep b c) :
    AllKeep a c := by
  induction h1 generalizing c with
  | nil => exact h2
  | cons hs _ ih =>
    cases h2 with
    | cons hs2 h2' => exact .cons (fun kv hkv h0 => hs kv (hs2 kv hkv h0) h0) (ih h2')

theorem AllKeep.append {a b c d : List (List (Nat × Nat))} (h1 : AllKeep a b) (h2 : AllKeep c d) :
    AllKeep (a ++ c) (b ++ d) := by
  induction h1 with
  | nil => exact h2
  | cons hs _ ih => exact .cons hs ih

theorem AllKeep.length_eq {a b : List (List (Nat × Nat))} (h : AllKeep a b) : a.length = b.length := by
  induction h with
  | nil => rfl
  | cons _ _ ih => simp [ih]

theorem AllKeep.get {a b : List (List (Nat × Nat))} (h : AllKeep a b) (i : Nat)
    (x y : List (Nat × Nat)) (hx : a[i]? = some x) (hy : b[i]? = some y) : KeepsUndecl x y := by
  induction h generalizing i with
  | nil => simp at hx
  | cons hs _ ih =>
    cases i with
    | zero =>
      cases hx
      cases hy
      exact hs
    | succ j => exact ih j hx hy

theorem isRedundantDeclaration_undecl (env : Env) (x : Tree) (K : List (List (Nat × Nat)))
    (kv : Nat × Nat) (h : kv.2 = Env.noNamespace) : isRedundantDeclaration env x K kv = false := by
  simp [isRedundantDeclaration, h]

mutual
theorem dp_keeps (env : Env) : ∀ (x : Tree) (K : List (List (Nat × Nat))),
    UniqueDeclsBelow x → AllKeep (declsOfTree (dpWalk env K x)) (declsOfTree x)
  | .node v ks, K, hu => by
    have hkids := fun (K : List (List (Nat × Nat))) =>
      dp_keeps_list env ks K (fun i k hk => hu.kid hk)
    by_cases he : v.isElement = true
    · have hnd := hu.self (t := .node v ks) he
      have hd := nsDecls_dpWalk env K v ks he hnd
      have hw := dpWalk_of_isElement env K ks he
      rw [hw] at hd ⊢
      simp only [declsOfTree, hd, (nsDel_removeOwn _ _).declsOfList]
      refine .cons ?_ (hkids _)
      intro kv hkv h0
      simp only [dpKeep, List.mem_filter, isRedundantDeclaration_undecl env _ K kv h0, Bool.not_false,
        and_true]
      exact hkv
    · have he' : v.isElement = false := Bool.eq_false_iff.2 he
      have hd := nsDecls_dpWalk_nonElement env K v ks he'
      have hw := dpWalk_nonElement env K ks he'
      rw [hw] at hd ⊢
      simp only [declsOfTree, hd]
      exact .cons (fun _ h _ => h) (hkids _)
theorem dp_keeps_list (env : Env) : ∀ (ks : List Tree) (K : List (List (Nat × Nat))),
    (∀ (i : Nat) (k : Tree), ks[i]? = some k → UniqueDeclsBelow k) →
    AllKeep (declsOfTree.declsOfList (dpWalk.dpWalkList env K ks)) (declsOfTree.declsOfList ks)
  | [], K, _ => by simpa [dpWalk.dpWalkList, declsOfTree.declsOfList] using AllKeep.nil
  | k :: ks, K, hu => by
    have h1 := dp_keeps env k K (hu 0 k rfl)
    have h2 := dp_keeps_list env ks K (fun i k' hk => hu (i + 1) k' hk)
    simp only [dpWalk.dpWalkList, declsOfTree.declsOfList, dpWalk_value env k K]
    split
    · exact h2
    · exact h1.append h2
end

/-! ### Down the path of an inner call -/

theorem keep_modifyAt (f : Tree → Tree) (q : Path) (x sub : Tree) (h : x.at? q = some sub)
    (hv : (f sub).value = sub.value) (hk : AllKeep (declsOfTree (f sub)) (declsOfTree sub)) :
    (scopeModifyAt f x q).value = x.value ∧ AllKeep (declsOfTree (scopeModifyAt f x q)) (declsOfTree x) := by
  refine scopeModifyAt_rel
    (R := fun a' a => a'.value = a.value ∧ AllKeep (declsOfTree a') (declsOfTree a))
    (RL := fun l' l => declsOfKids l' = declsOfKids l ∧
      AllKeep (declsOfTree.declsOfList l') (declsOfTree.declsOfList l)) f ?_ ?_ ?_ q x sub h ⟨hv, hk⟩
  · intro a a' l h
    simp only [declsOfKids, h.1, declsOfTree.declsOfList, true_and]
    split
    · exact AllKeep.refl _
    · exact h.2.append (AllKeep.refl _)
  · intro a l l' h
    simp only [declsOfKids, h.1, declsOfTree.declsOfList, true_and]
    split
    · exact h.2
    · exact (AllKeep.refl _).append h.2
  · intro v l l' h
    simp only [declsOfTree, nsDecls_node, h.1]
    exact ⟨rfl, .cons (fun _ h _ => h) h.2⟩

/-- One pass, any call node: every binding to the no-namespace id stays. -/
theorem dedupPass_keeps_undeclarations (env : Env) (t : Tree) (path : Path) (sub : Tree)
    (hs : t.at? path = some sub) (hu : UniqueDeclsBelow sub) :
    AllKeep (declsOfTree (dedupPass env t path sub).1) (declsOfTree t) := by
  rw [dedupPass_eq env t path sub hs]
  exact (keep_modifyAt _ path t sub hs (dpWalk_value env sub []) (dp_keeps env sub [] hu)).2

theorem dedupLoop_induction (env : Env) (path : Path) (P : Tree → Tree → Prop)
    (hstep : ∀ t sub, t.at? path = some sub → UniqueDeclsBelow sub →
      P (dedupPass env t path sub).1 t)
    (hrefl : ∀ t, P t t) (htrans : ∀ a b c, P a b → P b c → P a c) :
    ∀ (fuel : Nat) (t sub : Tree), t.at? path = some sub → UniqueDeclsBelow sub →
      P (dedupLoop env path fuel t) t :=
  fun fuel t sub hs hu => dedupLoop_rel env path
    (I := fun t => ∃ sub, t.at? path = some sub ∧ UniqueDeclsBelow sub) hrefl (htrans _ _ _)
    (fun t sub hs ⟨sub', hs', hu⟩ => by
      cases hs.symm.trans hs'
      exact ⟨hstep t sub hs hu, _, dedupPass_at? env t path sub hs, hu.dpWalk env []⟩)
    fuel t ⟨sub, hs, hu⟩

/-- `deduplicate_namespaces(node)`, any node: every binding to the no-namespace id stays. -/
theorem dedup_keeps_undeclarations (env : Env) (t t' : Tree) (path : Path) (sub : Tree)
    (hs : t.at? path = some sub) (hu : UniqueDeclsBelow sub)
    (h : deduplicateNamespaces env t path = some t') : AllKeep (declsOfTree t') (declsOfTree t) := by
  simp only [deduplicateNamespaces, hs, Option.some.injEq] at h
  subst h
  exact dedupLoop_induction env path (fun a b => AllKeep (declsOfTree a) (declsOfTree b))
    (fun t sub hs hu => dedupPass_keeps_undeclarations env t path sub hs hu)
    (fun t => AllKeep.refl _) (fun _ _ _ h1 h2 => h1.trans h2) _ t sub hs hu

end XotModel

/-! ### Writability

  One pass of `deduplicate_namespaces` keeps every name writable.

  `is_redundant_declaration(node, p, N, kept)` answers `true` only with a WITNESS `q`: the nearest
  kept declaration of `q` above binds it to `N`, and `q = p`, or `q` is bound to nothing but `N`
  anywhere in the subtree of `node` and not (`q` is the empty prefix and an attribute of the subtree
  is in `N`) (`isRedundantDeclaration_spec`).

  Along the simultaneous recursion of the serialiser's check `wr` on the tree before and on the tree
  after the pass (`dpWalk`), the two top frames `W` (before) and `W'` (after) are related by
    `DdInv x W W'`  : every binding `(p, N)` of `W` is in `W'`, or `W'` has a binding `(q, N)` of a
                     prefix `q` that the subtree of `x` never binds to anything else (non-empty if an
                     attribute below is in `N`);
    `DdInv3 W W'`   : a default namespace in `W'` means one in `W`;
    `KW K W'`      : the nearest binding of every prefix in the kept stack is in `W'`.
  These are preserved by `push` on an element with unique prefixes (`DdInv.push`, …) and give every
  name check of the element (`elementOk_keep`).  `keep_wr`: `wr W x → wr W' (dpWalk K x)`.
-/

namespace XotModel

/-! ### Membership in the pushed frame -/

theorem ddMem_pushTop (W d : List (Nat × Nat)) (p n : Nat) :
    (p, n) ∈ pushTop W d ↔ (p, n) ∈ d ∨ (p ∉ d.map Prod.fst ∧ (p, n) ∈ W) := by
  unfold pushTop
  cases d with
  | nil => simp
  | cons d0 rest => rw [if_neg (by simp), mem_fullnameInfoNew, or_comm, and_comm]

/-! ### What `is_redundant_declaration` has found when it says `true` -/

/-- `q` is a witness for the removal of `xmlns:p = N` on `x`. -/
def RedWitness (env : Env) (x : Tree) (p N q : Nat) : Prop :=
  q = p ∨ (isPrefixRebound q N x = false ∧
    ¬ (q = Env.emptyPrefix ∧ hasAttributeInNamespace env N x = true))

/-- Does the kept declaration `(kp, kn)`, `kp` not seen before, end the scan with `true`? -/
def redHit (env : Env) (x : Tree) (p N kp kn : Nat) : Bool :=
  kn == N && (kp == p ||
    !(isPrefixRebound kp N x || (kp == Env.emptyPrefix && hasAttributeInNamespace env N x)))

theorem redHit_iff {env : Env} {x : Tree} {p N kp kn : Nat} :
    redHit env x p N kp kn = true ↔ kn = N ∧ RedWitness env x p N kp := by
  simp only [redHit, RedWitness, Bool.and_eq_true, Bool.or_eq_true, beq_iff_eq, Bool.not_eq_true',
    not_or, ← Bool.not_eq_true]

theorem redundantScan_cons_seen {env : Env} {x : Tree} {p N : Nat} {seen : List Nat} {kp : Nat}
    (h : kp ∈ seen) (kn : Nat) (rest : List (Nat × Nat)) :
    redundantScan env x p N seen ((kp, kn) :: rest) = redundantScan env x p N seen rest := by
  rw [redundantScan, if_pos (List.contains_iff_mem.2 h)]

theorem redundantScan_cons_new {env : Env} {x : Tree} {p N : Nat} {seen : List Nat} {kp : Nat}
    (h : kp ∉ seen) (kn : Nat) (rest : List (Nat × Nat)) :
    redundantScan env x p N seen ((kp, kn) :: rest) =
      if redHit env x p N kp kn then (seen ++ [kp], true)
      else redundantScan env x p N (seen ++ [kp]) rest := by
  rw [redundantScan, if_neg (mt List.contains_iff_mem.1 h)]
  unfold redHit bne
  cases kn == N
  · rfl
  cases kp == p
  · cases isPrefixRebound kp N x
    · cases kp == Env.emptyPrefix && hasAttributeInNamespace env N x <;> rfl
    · rfl
  · rfl

theorem redundantScan_spec (env : Env) (x : Tree) (p N : Nat) : ∀ (d : List (Nat × Nat)) (seen : List Nat),
    ((redundantScan env x p N seen d).2 = true →
      ∃ q, q ∉ seen ∧ d.lookup q = some N ∧ RedWitness env x p N q) ∧
    ((redundantScan env x p N seen d).2 = false →
      ∀ q, q ∈ seen ∨ q ∈ d.map Prod.fst → q ∈ (redundantScan env x p N seen d).1) := by
  intro d
  induction d with
  | nil =>
    intro seen
    rw [redundantScan]
    refine ⟨fun h => Bool.noConfusion h, fun _ q h => ?_⟩
    rcases h with h | h
    · exact h
    · cases h
  | cons kv rest ih =>
    intro seen
    obtain ⟨kp, kn⟩ := kv
    -- going on with `rest` and a `seen` list that has `kp` in it
    have lift : ∀ seen', kp ∈ seen' → (∀ q, q ∈ seen → q ∈ seen') →
        ((redundantScan env x p N seen' rest).2 = true →
          ∃ q, q ∉ seen ∧ ((kp, kn) :: rest).lookup q = some N ∧ RedWitness env x p N q) ∧
        ((redundantScan env x p N seen' rest).2 = false →
          ∀ q, q ∈ seen ∨ q ∈ ((kp, kn) :: rest).map Prod.fst →
            q ∈ (redundantScan env x p N seen' rest).1) := by
      intro seen' hkp hsub
      obtain ⟨h1, h2⟩ := ih seen'
      refine ⟨fun ht => ?_, fun hf q hq => h2 hf q ?_⟩
      · obtain ⟨q, hq, hl, hw⟩ := h1 ht
        refine ⟨q, fun h => hq (hsub q h), ?_, hw⟩
        rw [List.lookup_cons, beq_false_of_ne (fun e => hq (by rw [e]; exact hkp))]
        exact hl
      · rw [List.map_cons, List.mem_cons] at hq
        rcases hq with hq | rfl | hq
        · exact .inl (hsub q hq)
        · exact .inl hkp
        · exact .inr hq
    by_cases hs : kp ∈ seen
    · rw [redundantScan_cons_seen hs]
      exact lift seen hs (fun _ h => h)
    · rw [redundantScan_cons_new hs]
      cases hc : redHit env x p N kp kn with
      | false =>
        exact lift (seen ++ [kp]) (List.mem_append_right _ (List.mem_cons_self ..))
          (fun _ h => List.mem_append_left _ h)
      | true =>
        obtain ⟨rfl, hw⟩ := redHit_iff.1 hc
        exact ⟨fun _ => ⟨kp, hs, List.lookup_cons_self, hw⟩, fun h => nomatch h⟩
theorem redundantStack_spec (env : Env) (x : Tree) (p N : Nat) : ∀ (K : List (List (Nat × Nat)))
    (seen : List Nat), redundantStack env x p N seen K = true →
      ∃ q, q ∉ seen ∧ scopeOf K q = some N ∧ RedWitness env x p N q := by
  intro K
  induction K with
  | nil => intro seen h; simp [redundantStack] at h
  | cons d rest ih =>
    intro seen h
    simp only [redundantStack, Bool.or_eq_true] at h
    obtain ⟨h1, h2⟩ := redundantScan_spec env x p N d seen
    cases hr : (redundantScan env x p N seen d).2 with
    | true =>
      obtain ⟨q, hq, hl, hw⟩ := h1 hr
      exact ⟨q, hq, by rw [scopeOf, hl], hw⟩
    | false =>
      -- the scan of `d` ran to its end: the witness further out is not declared by `d`
      rw [hr, Bool.false_eq_true, false_or] at h
      obtain ⟨q, hq, hl, hw⟩ := ih _ h
      have hnone := (lookup_none_iff q d).2 fun hm => hq (h2 hr q (.inr hm))
      exact ⟨q, fun hm => hq (h2 hr q (.inl hm)), by rw [scopeOf, hnone]; exact hl, hw⟩

theorem isRedundantDeclaration_spec (env : Env) (x : Tree) (K : List (List (Nat × Nat))) (p N : Nat)
    (h : isRedundantDeclaration env x K (p, N) = true) :
    N ≠ Env.noNamespace ∧ ∃ q, scopeOf K q = some N ∧ RedWitness env x p N q := by
  unfold isRedundantDeclaration at h
  by_cases h0 : N = Env.noNamespace
  · simp [h0] at h
  · have : (N == Env.noNamespace) = false := beq_false_of_ne h0
    simp only [this, Bool.false_eq_true, ↓reduceIte] at h
    obtain ⟨q, _, hl, hw⟩ := redundantStack_spec env x p N K [] h
    exact ⟨h0, q, hl, hw⟩

/-! ### `descendants(node).any(..)` -/

theorem anyNormal_node (f : Tree → Bool) (v : Value) (ks : List Tree) :
    Tree.anyNormal f (.node v ks) = ((v.isNormal && f (.node v ks)) || Tree.anyNormalList f ks) := by
  rw [Tree.anyNormal]

theorem anyNormalList_of_mem (f : Tree → Bool) : ∀ (ks : List Tree) (k : Tree), k ∈ ks →
    Tree.anyNormal f k = true → Tree.anyNormalList f ks = true
  | [] => by
    intro _ h _
    cases h
  | k0 :: ks => by
    intro k h hk
    rw [Tree.anyNormalList]
    simp only [List.mem_cons] at h
    rcases h with rfl | h
    · simp [hk]
    · simp [anyNormalList_of_mem f ks k h hk]

theorem anyNormal_kid (f : Tree → Bool) (v : Value) (ks : List Tree) (k : Tree) (hk : k ∈ ks)
    (h : Tree.anyNormal f k = true) : Tree.anyNormal f (.node v ks) = true := by
  rw [anyNormal_node, anyNormalList_of_mem f ks k hk h]; simp

theorem isPrefixRebound_kid {q N : Nat} {v : Value} {ks : List Tree} {k : Tree} (hk : k ∈ ks)
    (h : isPrefixRebound q N (.node v ks) = false) : isPrefixRebound q N k = false := by
  cases hr : isPrefixRebound q N k with
  | false => rfl
  | true =>
    have := anyNormal_kid _ v ks k hk hr
    unfold isPrefixRebound at h
    rw [this] at h; cases h

theorem isPrefixRebound_self {q N n' : Nat} {x : Tree} (hn : x.value.isNormal = true)
    (hm : (q, n') ∈ x.nsDecls) (h : isPrefixRebound q N x = false) : n' = N := by
  obtain ⟨v, ks⟩ := x
  unfold isPrefixRebound at h
  rw [anyNormal_node] at h
  simp only [Tree.value] at hn
  simp only [hn, Bool.true_and, Bool.or_eq_false_iff] at h
  have h1 := h.1
  rw [List.any_eq_false] at h1
  have := h1 (q, n') hm
  simpa using this

theorem hasAttributeInNamespace_self {env : Env} {N a : Nat} {x : Tree}
    (hn : x.value.isNormal = true) (ha : a ∈ x.attrs.map (·.1)) (hN : env.nsOfName a = N) :
    hasAttributeInNamespace env N x = true := by
  obtain ⟨v, ks⟩ := x
  unfold hasAttributeInNamespace
  rw [anyNormal_node]
  simp only [Tree.value] at hn
  obtain ⟨kv, hkv, rfl⟩ := List.mem_map.1 ha
  simp only [hn, Bool.true_and, Bool.or_eq_true, List.any_eq_true, beq_iff_eq]
  exact .inl ⟨kv, hkv, hN⟩

/-! ### The three invariants -/

/-- The nearest binding of every prefix in the kept stack is in the frame (bindings to the
    no-namespace id excepted: they are never the reason of a removal, and the frames of
    `namespaces_in_scope` do not list `xmlns=""`). -/
def KW (K : List (List (Nat × Nat))) (W' : List (Nat × Nat)) : Prop :=
  ∀ q n, n ≠ Env.noNamespace → scopeOf K q = some n → (q, n) ∈ W'

/-- Every binding of `W` is in `W'` or is made up for by a binding of the same namespace that the
    subtree of `x` can use. -/
def DdInv (env : Env) (x : Tree) (W W' : List (Nat × Nat)) : Prop :=
  ∀ p N, (p, N) ∈ W → (p, N) ∈ W' ∨ ∃ q, (q, N) ∈ W' ∧ isPrefixRebound q N x = false ∧
    ¬ (q = Env.emptyPrefix ∧ hasAttributeInNamespace env N x = true)

/-- A default namespace after means a default namespace before. -/
def DdInv3 (W W' : List (Nat × Nat)) : Prop :=
  ∀ n, (Env.emptyPrefix, n) ∈ W' → n ≠ Env.noNamespace →
    ∃ m, m ≠ Env.noNamespace ∧ (Env.emptyPrefix, m) ∈ W

/-- `W₁` is the frame `W` with the declarations `d` on top: the pairs of `d`, and the pairs of `W`
    whose prefix `d` does not declare.  `strict`: without the undeclaration `xmlns=""` (the frames
    `namespaces_in_scope` yields; the serialiser's `push` keeps the pair: `strict = false`). -/
def IsPush (strict : Bool) (W d W₁ : List (Nat × Nat)) : Prop :=
  ∀ p n, (p, n) ∈ W₁ ↔ (strict = true → ¬ (p = Env.emptyPrefix ∧ n = Env.noNamespace)) ∧
    ((p, n) ∈ d ∨ (p ∉ d.map Prod.fst ∧ (p, n) ∈ W))

theorem IsPush.pushTop (W d : List (Nat × Nat)) : IsPush false W d (pushTop W d) := by
  intro p n
  rw [ddMem_pushTop]
  exact ⟨fun h => ⟨fun h' => Bool.noConfusion h', h⟩, fun h => h.2⟩

theorem KW.nil (W' : List (Nat × Nat)) : KW [] W' := fun _ _ _ h => by simp [scopeOf] at h

theorem DdInv.refl (env : Env) (x : Tree) (W : List (Nat × Nat)) : DdInv env x W W :=
  fun _ _ h => .inl h

theorem DdInv3.refl (W : List (Nat × Nat)) : DdInv3 W W := fun n h hn => ⟨n, hn, h⟩

theorem DdInv.kid {env : Env} {v : Value} {ks : List Tree} {W W' : List (Nat × Nat)}
    (h : DdInv env (.node v ks) W W') {k : Tree} (hk : k ∈ ks) : DdInv env k W W' := by
  intro p N hp
  rcases h p N hp with h1 | ⟨q, hq, hr, ha⟩
  · exact .inl h1
  · refine .inr ⟨q, hq, isPrefixRebound_kid hk hr, fun hc => ha ⟨hc.1, ?_⟩⟩
    exact anyNormal_kid _ _ _ _ hk hc.2

theorem KW.push {K : List (List (Nat × Nat))} {W' W₁' : List (Nat × Nat)} (h : KW K W')
    {s : Bool} {d' : List (Nat × Nat)} (hp : IsPush s W' d' W₁') : KW (d' :: K) W₁' := by
  intro q n hn0 hq
  rw [hp]
  refine ⟨fun _ hc => hn0 hc.2, ?_⟩
  simp only [scopeOf] at hq
  cases hl : d'.lookup q with
  | some m =>
    simp only [hl, Option.some.injEq] at hq
    subst hq
    exact .inl (lookup_mem hl)
  | none =>
    simp only [hl] at hq
    exact .inr ⟨(lookup_none_iff q d').1 hl, h q n hn0 hq⟩

theorem dpKeep_sublist (env : Env) (K : List (List (Nat × Nat))) (x : Tree) :
    (dpKeep env K x).Sublist x.nsDecls := List.filter_sublist

theorem not_mem_keys_dpKeep {env : Env} {K : List (List (Nat × Nat))} {x : Tree} {p : Nat}
    (h : p ∉ x.nsDecls.map Prod.fst) : p ∉ (dpKeep env K x).map Prod.fst :=
  fun hm => h (((dpKeep_sublist env K x).map Prod.fst).subset hm)

/-- A usable binding `(q, N)` of the frame after survives the push of the kept declarations. -/
theorem witness_push {env : Env} {x : Tree} {K : List (List (Nat × Nat))} {W' W₁' : List (Nat × Nat)}
    {s : Bool} {q N : Nat} (hn : x.value.isNormal = true) (hp : IsPush s W' (dpKeep env K x) W₁')
    (hq : (q, N) ∈ W') (hnu : s = true → ¬ (q = Env.emptyPrefix ∧ N = Env.noNamespace))
    (hr : isPrefixRebound q N x = false) : (q, N) ∈ W₁' := by
  rw [hp]
  refine ⟨hnu, ?_⟩
  by_cases hk : q ∈ (dpKeep env K x).map Prod.fst
  · obtain ⟨⟨q', n'⟩, hkv, rfl⟩ := List.mem_map.1 hk
    have hm : (q', n') ∈ x.nsDecls := (dpKeep_sublist env K x).subset hkv
    have := isPrefixRebound_self hn hm hr
    subst this
    exact .inl hkv
  · exact .inr ⟨hk, hq⟩

theorem DdInv.push {env : Env} {x : Tree} {K : List (List (Nat × Nat))} {W W' W₁ W₁' : List (Nat × Nat)}
    {s : Bool} (hn : x.value.isNormal = true) (hnd : (x.nsDecls.map Prod.fst).Nodup) (hK : KW K W')
    (h : DdInv env x W W') (hp : IsPush s W x.nsDecls W₁) (hp' : IsPush s W' (dpKeep env K x) W₁')
    (hnu' : s = true → ∀ p n, (p, n) ∈ W' → ¬ (p = Env.emptyPrefix ∧ n = Env.noNamespace)) :
    DdInv env x W₁ W₁' := by
  intro p N hpm
  obtain ⟨hstrict, hpm⟩ := (hp p N).1 hpm
  rcases hpm with hpm | ⟨hpk, hpm⟩
  · -- declared on `x` itself
    by_cases hred : isRedundantDeclaration env x K (p, N) = true
    · obtain ⟨hN0, q, hq, hw⟩ := isRedundantDeclaration_spec env x K p N hred
      have hqW := hK q N hN0 hq
      rcases hw with rfl | ⟨hr, ha⟩
      · -- the same prefix is bound to `N` above: it still is
        refine .inl ((hp' _ _).2 ⟨hstrict, .inr ⟨fun hm => ?_, hqW⟩⟩)
        obtain ⟨⟨q', n'⟩, hkv, rfl⟩ := List.mem_map.1 hm
        have hm' : (q', n') ∈ x.nsDecls := (dpKeep_sublist env K x).subset hkv
        have := eq_of_mem_of_key_eq hnd hm' hpm rfl
        rw [this] at hkv
        simp only [dpKeep, List.mem_filter, hred, Bool.not_true, Bool.false_eq_true, and_false] at hkv
      · exact .inr ⟨q, witness_push hn hp' hqW (fun hs => hnu' hs q N hqW) hr, hr, ha⟩
    · refine .inl ((hp' _ _).2 ⟨hstrict, .inl ?_⟩)
      simp only [dpKeep, List.mem_filter]
      exact ⟨hpm, by simpa using hred⟩
  · -- inherited
    rcases h p N hpm with h1 | ⟨q, hq, hr, ha⟩
    · exact .inl ((hp' _ _).2 ⟨hstrict, .inr ⟨not_mem_keys_dpKeep hpk, h1⟩⟩)
    · exact .inr ⟨q, witness_push hn hp' hq (fun hs => hnu' hs q N hq) hr, hr, ha⟩

theorem DdInv3.push {env : Env} {x : Tree} {K : List (List (Nat × Nat))} {W W' W₁ W₁' : List (Nat × Nat)}
    {s : Bool} (h : DdInv3 W W') (hp : IsPush s W x.nsDecls W₁)
    (hp' : IsPush s W' (dpKeep env K x) W₁') : DdInv3 W₁ W₁' := by
  intro n hn hn0
  obtain ⟨_, hn⟩ := (hp' _ _).1 hn
  rcases hn with hn | ⟨hk, hn⟩
  · exact ⟨n, hn0, (hp _ _).2 ⟨fun _ hc => hn0 hc.2, .inl ((dpKeep_sublist env K x).subset hn)⟩⟩
  · obtain ⟨m, hm0, hm⟩ := h n hn hn0
    by_cases hd : Env.emptyPrefix ∈ x.nsDecls.map Prod.fst
    · -- the element declares the empty prefix but does not keep the declaration: it was removed,
      -- so it is not an undeclaration
      obtain ⟨⟨e, m'⟩, hkv, he⟩ := List.mem_map.1 hd
      simp only at he
      subst he
      have hm'0 : m' ≠ Env.noNamespace := by
        intro h0
        apply hk
        refine List.mem_map.2 ⟨(Env.emptyPrefix, m'), ?_, rfl⟩
        simp only [dpKeep, List.mem_filter]
        exact ⟨hkv, by rw [isRedundantDeclaration_undecl env x K _ h0]; rfl⟩
      exact ⟨m', hm'0, (hp _ _).2 ⟨fun _ hc => hm'0 hc.2, .inl hkv⟩⟩
    · exact ⟨m, hm0, (hp _ _).2 ⟨fun _ hc => hm0 hc.2, .inr ⟨hd, hm⟩⟩⟩

/-! ### The name checks of one element -/

theorem elementOk_keep (env : Env) (x x' : Tree) (name : Nat) (W W' : List (Nat × Nat))
    (hattrs : x'.attrs = x.attrs) (hn : x.value.isNormal = true) (hI : DdInv env x W W')
    (h3 : DdInv3 W W') (h : elementOk env W x name = true) : elementOk env W' x' name = true := by
  simp only [elementOk, Bool.and_eq_true, Bool.not_eq_true', Bool.and_eq_false_iff,
    sc_elementFullname_ok, sc_attributeFullname_ok, List.all_eq_true, Bool.or_eq_true, beq_iff_eq,
    beq_eq_false_iff_ne, ne_eq, hattrs] at h ⊢
  obtain ⟨⟨hd, he⟩, ha⟩ := h
  refine ⟨⟨?_, ?_⟩, ?_⟩
  · rcases hd with hd | hd
    · exact .inl hd
    · refine .inr ?_
      cases hd' : FStack.hasDefaultNamespace [W'] with
      | false => rfl
      | true =>
        obtain ⟨n, hn0, hm⟩ := (hasDefaultNamespace_top_iff [W']).1 hd'
        obtain ⟨m, hm0, hmm⟩ := h3 n hm hn0
        have := (hasDefaultNamespace_top_iff [W]).2 ⟨m, hm0, hmm⟩
        rw [hd] at this; cases this
  · rcases he with he | he
    · exact .inl he
    · refine .inr ?_
      obtain ⟨p, hp⟩ := (knownIn_iff W _).1 he
      rcases hI p _ hp with h1 | ⟨q, hq, _, _⟩
      · exact (knownIn_iff W' _).2 ⟨p, h1⟩
      · exact (knownIn_iff W' _).2 ⟨q, hq⟩
  · intro a hax
    rcases ha a hax with h1 | h1
    · exact .inl h1
    · refine .inr ?_
      obtain ⟨p, hpe, hp⟩ := (attrKnownIn_iff W _).1 h1
      rcases hI p _ hp with h2 | ⟨q, hq, _, hqa⟩
      · exact (attrKnownIn_iff W' _).2 ⟨p, hpe, h2⟩
      · refine (attrKnownIn_iff W' _).2 ⟨q, fun hqe => hqa ⟨hqe, ?_⟩, hq⟩
        exact hasAttributeInNamespace_self hn hax rfl

/-! ### Attributes and writability of a child list under the removals -/

theorem NsDel.attrs {ks' ks : List Tree} (h : NsDel ks' ks) (v : Value) :
    (Tree.node v ks').attrs = (Tree.node v ks).attrs := by
  have hd : ks'.dropWhile (fun k => k.value.category == .namespace) =
      ks.dropWhile (fun k => k.value.category == .namespace) := by
    induction h with
    | refl => rfl
    | drop hv _ ih => rw [List.dropWhile_cons, hv, ih]; rfl
    | keep hv _ ih => rw [List.dropWhile_cons, List.dropWhile_cons, hv, ih]; rfl
  simp only [Tree.attrs, Tree.attributeNodes, Tree.kids, hd]

theorem NsDel.wrList {ks' ks : List Tree} (h : NsDel ks' ks) (env : Env) (top : List (Nat × Nat))
    (hw : wr.wrList env top ks = true) : wr.wrList env top ks' = true := by
  induction h with
  | refl => exact hw
  | drop _ _ ih =>
    simp only [wr.wrList, Bool.and_eq_true] at hw
    exact ih hw.2
  | keep _ _ ih =>
    simp only [wr.wrList, Bool.and_eq_true] at hw ⊢
    exact ⟨hw.1, ih hw.2⟩

/-! ### The pass keeps every name writable -/

/-- An element, given the frames below the push of its declarations as pushes onto frames `S`, `S'`
    that satisfy the invariants (the serialiser's own frames, or the frames of
    `namespaces_in_scope` of the element's parent when serialisation starts at the element). -/
theorem keep_element (env : Env) (name : Nat) (ks : List Tree) (K : List (List (Nat × Nat)))
    (S S' W₀ W₀' : List (Nat × Nat))
    (hnd : ((Tree.node (.element name) ks).nsDecls.map Prod.fst).Nodup) (hK : KW K S')
    (hI : DdInv env (.node (.element name) ks) S S') (h3 : DdInv3 S S')
    (hQ : IsPush false S (Tree.node (.element name) ks).nsDecls
      (pushTop W₀ (Tree.node (.element name) ks).nsDecls))
    (hQ' : IsPush false S' (dpKeep env K (.node (.element name) ks))
      (pushTop W₀' (dpKeep env K (.node (.element name) ks))))
    (hkids : ∀ W₁ W₁', KW (dpKeep env K (.node (.element name) ks) :: K) W₁' →
      (∀ k ∈ ks, DdInv env k W₁ W₁') → DdInv3 W₁ W₁' → wr.wrList env W₁ ks = true →
      wr.wrList env W₁' (dpWalk.dpWalkList env (dpKeep env K (.node (.element name) ks) :: K) ks) = true)
    (hw : wr env W₀ (.node (.element name) ks) = true) :
    wr env W₀' (dpWalk env K (.node (.element name) ks)) = true := by
  have hI₁ := DdInv.push (K := K) (x := .node (.element name) ks) rfl hnd hK hI hQ hQ'
    (fun hs => by cases hs)
  have h3₁ := DdInv3.push h3 hQ hQ'
  have hK₁ := hK.push hQ'
  have hd := nsDecls_dpWalk env K (.element name) ks rfl hnd
  rw [dpWalk_of_isElement env K ks rfl] at hd ⊢
  rw [wr_element, Bool.and_eq_true] at hw ⊢
  rw [hd]
  -- the element's own name checks from the invariants after the push, then its children
  refine ⟨elementOk_keep env _ _ name _ _ ?_ rfl hI₁ h3₁ hw.1,
    (nsDel_removeOwn _ _).wrList env _ (hkids _ _ hK₁ (fun k hk => hI₁.kid hk) h3₁ hw.2)⟩
  rw [(nsDel_removeOwn _ _).attrs]
  exact attrs_of_values (dpWalkList_values env ks _)

mutual
theorem keep_wr (env : Env) : ∀ (x : Tree) (K : List (List (Nat × Nat))) (W W' : List (Nat × Nat)),
    UniqueDeclsBelow x → KW K W' → DdInv env x W W' → DdInv3 W W' →
    wr env W x = true → wr env W' (dpWalk env K x) = true
  | .node v ks => by
    intro K W W' hu hK hI h3 hw
    have hukids : ∀ (i : Nat) (k : Tree), ks[i]? = some k → UniqueDeclsBelow k :=
      fun i k hk => hu.kid hk
    by_cases he : v.isElement = true
    · obtain ⟨name, rfl⟩ := (isElement_iff_ex v).1 he
      have hnd := hu.self (t := .node (.element name) ks) rfl
      exact keep_element env name ks K W W' W W' hnd hK hI h3 (IsPush.pushTop _ _) (IsPush.pushTop _ _)
        (fun W₁ W₁' hK₁ hI₁ h3₁ hwk => keep_wr_list env ks _ W₁ W₁' hukids hK₁ hI₁ h3₁ hwk) hw
    · have he' : v.isElement = false := Bool.eq_false_iff.2 he
      rw [wr_nonElement env W v ks he'] at hw
      have hwalk := dpWalk_nonElement env K ks he'
      rw [hwalk, wr_nonElement env W' v _ he']
      exact keep_wr_list env ks K W W' hukids hK (fun k hk => hI.kid hk) h3 hw
theorem keep_wr_list (env : Env) : ∀ (ks : List Tree) (K : List (List (Nat × Nat)))
    (W W' : List (Nat × Nat)),
    (∀ (i : Nat) (k : Tree), ks[i]? = some k → UniqueDeclsBelow k) → KW K W' →
    (∀ k ∈ ks, DdInv env k W W') → DdInv3 W W' →
    wr.wrList env W ks = true → wr.wrList env W' (dpWalk.dpWalkList env K ks) = true
  | [] => by
    intros
    simp [dpWalk.dpWalkList, wr.wrList]
  | k :: ks => by
    intro K W W' hu hK hI h3 hw
    simp only [wr.wrList, Bool.and_eq_true] at hw
    simp only [dpWalk.dpWalkList, wr.wrList, Bool.and_eq_true]
    exact ⟨keep_wr env k K W W' (hu 0 k rfl) hK (hI k (List.mem_cons_self ..)) h3 hw.1,
      keep_wr_list env ks K W W' (fun i k' hk => hu (i + 1) k' hk) hK
        (fun k' hk' => hI k' (List.mem_cons_of_mem _ hk')) h3 hw.2⟩
end

/-- A pass started at `x` (empty kept stack), seen from ANY serialiser frame `W`. -/
theorem keep_from_empty (env : Env) (x : Tree) (W : List (Nat × Nat)) (hu : UniqueDeclsBelow x)
    (hw : wr env W x = true) : wr env W (dpWalk env [] x) = true :=
  keep_wr env x [] W W hu (KW.nil W) (DdInv.refl env x W) (DdInv3.refl W) hw

end XotModel
