/-
  Folds over `xot.traverse(node)` with a name stack that every element pushes and pops, as
  structural recursion on the top frame (`wr`, `unresolvedRec`); the frames behind the top frame
  (`FrameInv`); the serialiser's name checks as membership in the top frame.
-/
import XotModel.Model.Scope
import XotModel.Lemmas.FStack
import XotModel.Lemmas.ScopePath

/-! ### The frames behind the top frame

  The `FullnameSerializer` stack (output/fullname.rs) keeps, in its top
  frame, exactly the nearest-declaration-wins bindings of the frames pushed so far
  (DESIGN.md section 10a, "one scope function behind three implementations", item ii).
-/

namespace XotModel

/-- Nearest declaration wins over a list of frames (innermost first); raw bindings, the
    `xmlns=""` convention is applied by the readers. -/
def scopeOf : List (List (Nat × Nat)) → Nat → Option Nat
  | [], _ => none
  | f :: fs, p =>
    match f.lookup p with
    | some ns => some ns
    | none => scopeOf fs p

theorem scopeOf_eq_lookupFrames : ∀ (fs : List (List (Nat × Nat))) (p : Nat),
    scopeOf fs p = lookupFrames fs p
  | [], _ => rfl
  | f :: fs, p => by
    rw [scopeOf, lookupFrames, scopeOf_eq_lookupFrames fs p]
    rfl

/-- The invariant of the top frame with respect to the frames pushed so far. -/
structure FrameInv (top : List (Nat × Nat)) (frames : List (List (Nat × Nat))) : Prop where
  nodup : (top.map Prod.fst).Nodup
  mem : ∀ p ns, (p, ns) ∈ top ↔ scopeOf frames p = some ns

theorem frameInv_iff_flat {top : List (Nat × Nat)} {frames : List (List (Nat × Nat))} :
    FrameInv top frames ↔ Flat top frames :=
  ⟨fun h => ⟨h.nodup, fun p ns => by rw [← scopeOf_eq_lookupFrames]; exact h.mem p ns⟩,
   fun h => ⟨h.1, fun p ns => by rw [scopeOf_eq_lookupFrames]; exact h.2 p ns⟩⟩

theorem FrameInv.new (defined : List (Nat × Nat)) (h : (defined.map Prod.fst).Nodup) :
    FrameInv (FStack.new defined).top [defined] :=
  frameInv_iff_flat.2 (flat_single h)

/-- `push` does nothing for an element without declarations. -/
theorem FrameInv.push {s : FStack} {frames : List (List (Nat × Nat))} (h : FrameInv s.top frames)
    (decls : List (Nat × Nat)) (hd : (decls.map Prod.fst).Nodup) :
    FrameInv (s.push decls).top (decls :: frames) :=
  frameInv_iff_flat.2 (Flat.push (frameInv_iff_flat.1 h) hd)

end XotModel

/-! ### Folds over the edge stream as recursion on the top frame

  The loops of nameaccess.rs / xml_serializer.rs run over the edge stream with a stack that every
  element pushes at `Start` and pops at `End`.  Here the stack discipline is discharged once:
  the serialiser's "every name has a prefix" fold is a recursive function of the top frame.
-/

namespace XotModel

/-- The top frame after `push`. -/
def pushTop (top decls : List (Nat × Nat)) : List (Nat × Nat) :=
  if decls.isEmpty then top else fullnameInfoNew decls top

theorem FStack.top_push (s : FStack) (decls : List (Nat × Nat)) :
    (s.push decls).top = pushTop s.top decls := by
  unfold FStack.push pushTop
  cases decls <;> simp [FStack.top]

/-- Name checks of one element against the top frame (what `element_fullname` /
    `attribute_fullname` need). -/
def elementOk (env : Env) (top : List (Nat × Nat)) (t : Tree) (name : Nat) : Bool :=
  !(env.nsOfName name == Env.noNamespace && FStack.hasDefaultNamespace [top]) &&
    exceptIsOk (FStack.elementFullname env [top] name) &&
    (t.attrs.map (·.1)).all (fun n => exceptIsOk (FStack.attributeFullname env [top] n))

/-- `to_string` finds every prefix, as a recursive function of the top frame. -/
def wr (env : Env) (top : List (Nat × Nat)) : Tree → Bool
  | .node v ks =>
    match v with
    | .element name =>
      elementOk env (pushTop top (Tree.node v ks).nsDecls) (.node v ks) name &&
        wrList env (pushTop top (Tree.node v ks).nsDecls) ks
    | _ => wrList env top ks
where
  wrList (env : Env) (top : List (Nat × Nat)) : List Tree → Bool
    | [] => true
    | k :: ks => wr env top k && wrList env top ks

theorem isElement_iff_ex (v : Value) : v.isElement = true ↔ ∃ name, v = .element name := by
  cases v <;> simp [Value.isElement]

theorem wr_element (env : Env) (W : List (Nat × Nat)) (name : Nat) (ks : List Tree) :
    wr env W (.node (.element name) ks) =
      (elementOk env (pushTop W (Tree.node (.element name) ks).nsDecls) (.node (.element name) ks) name &&
        wr.wrList env (pushTop W (Tree.node (.element name) ks).nsDecls) ks) := rfl

theorem wr_nonElement (env : Env) (W : List (Nat × Nat)) (v : Value) (ks : List Tree)
    (he : v.isElement = false) : wr env W (.node v ks) = wr.wrList env W ks := by
  cases v <;> first | rfl | cases he

/-- Only elements move the name stack: the other edges leave the serialiser's state alone. -/
theorem writableStep_nonElement (env : Env) (st : WritableState) (pre : Path) (t : Tree)
    (he : t.value.isElement = false) :
    writableStep env st (.start pre t) = st ∧ writableStep env st (.stop pre t) = st := by
  refine ⟨?_, by simp only [writableStep, he, Bool.false_eq_true, if_false]⟩
  simp only [writableStep]
  split
  · rename_i h; rw [h] at he; cases he
  · rfl

theorem hasDefaultNamespace_top (s : FStack) :
    s.hasDefaultNamespace = FStack.hasDefaultNamespace [s.top] := by
  simp [FStack.hasDefaultNamespace, FStack.top]

theorem elementFullname_top (env : Env) (s : FStack) (name : Nat) :
    FStack.elementFullname env s name = FStack.elementFullname env [s.top] name := by
  simp [FStack.elementFullname, FStack.elementPrefix, FStack.top]

theorem attributeFullname_top (env : Env) (s : FStack) (name : Nat) :
    FStack.attributeFullname env s name = FStack.attributeFullname env [s.top] name := by
  simp [FStack.attributeFullname, FStack.attributePrefix, FStack.top]

mutual
theorem writable_fold (env : Env) : ∀ (t : Tree) (pre : Path) (st : WritableState),
    (scopeTraverse pre t).foldl (writableStep env) st =
      { fs := st.fs, ok := st.ok && wr env st.fs.top t }
  | .node v ks, pre, st => by
    rw [foldl_scopeTraverse]
    by_cases he : v.isElement = true
    · obtain ⟨name, rfl⟩ := (isElement_iff_ex v).1 he
      simp only [Value.isNormal, Value.category, beq_self_eq_true, ↓reduceIte]
      rw [writable_fold_list env ks pre 0]
      simp only [writableStep, Tree.value, Value.isElement, ↓reduceIte, hasNamespaceDeclarations,
        FStack.pop_push, FStack.top_push, wr, elementOk]
      congr 1
      rw [elementFullname_top, FStack.top_push, hasDefaultNamespace_top, FStack.top_push]
      simp only [attributeFullname_top env (st.fs.push _), FStack.top_push, Bool.and_assoc]
    · have he' : v.isElement = false := Bool.eq_false_iff.2 he
      obtain ⟨h1, h2⟩ := writableStep_nonElement env st pre (.node v ks) he'
      rw [wr_nonElement env _ v ks he', h1]
      split
      · rw [writable_fold_list env ks pre 0 st, (writableStep_nonElement env _ pre (.node v ks) he').2]
      · exact writable_fold_list env ks pre 0 st
theorem writable_fold_list (env : Env) : ∀ (ks : List Tree) (pre : Path) (i : Nat) (st : WritableState),
    (scopeTraverse.go pre i ks).foldl (writableStep env) st =
      { fs := st.fs, ok := st.ok && wr.wrList env st.fs.top ks }
  | [] => by
    intro pre i st
    simp [foldl_go_nil, wr.wrList]
  | k :: ks => by
    intro pre i st
    rw [foldl_go_cons, writable_fold env k, writable_fold_list env ks]
    simp [wr.wrList, Bool.and_assoc]
end

/-- `namesWritable` as a recursive function. -/
theorem namesWritableChain_eq (env : Env) (chain : List Tree) (sub : Tree) :
    namesWritableChain env chain sub = wr env (namespacesInScopeChain chain) sub := by
  simp [namesWritableChain, writable_fold, FStack.new, FStack.top]

/-- `to_string(node)` finds every prefix: the node exists and its subtree is writable from the scope of
    its ancestor-or-self chain. -/
theorem namesWritable_eq_some_true (env : Env) (t : Tree) (q : Path) :
    namesWritable env t q = some true ↔
      ∃ chain sub, t.ancestorsOrSelf q = some chain ∧ t.at? q = some sub ∧
        wr env (namespacesInScopeChain chain) sub = true := by
  unfold namesWritable
  constructor
  · intro h
    split at h
    · rename_i chain sub hc hs
      simp only [Option.some.injEq, namesWritableChain_eq] at h
      exact ⟨chain, sub, hc, hs, h⟩
    · cases h
  · rintro ⟨chain, sub, hc, hs, h⟩
    simp only [hc, hs, namesWritableChain_eq, h]

/-! ### `unresolved_namespaces` as a recursive function -/

theorem elementPrefix_top (env : Env) (s : FStack) (name : Nat) :
    FStack.elementPrefix env s name = FStack.elementPrefix env [s.top] name := by
  simp [FStack.elementPrefix, FStack.top]

theorem attributePrefix_top (env : Env) (s : FStack) (name : Nat) :
    FStack.attributePrefix env s name = FStack.attributePrefix env [s.top] name := by
  simp [FStack.attributePrefix, FStack.top]

/-- The namespaces one element contributes: of its own name when `element_prefix` fails in the
    top frame, then of every attribute name for which `attribute_prefix` fails. -/
def unresolvedOfElement (env : Env) (top : List (Nat × Nat)) (t : Tree) (name : Nat) : List Nat :=
  (if !exceptIsOk (FStack.elementPrefix env [top] name) then [env.nsOfName name] else []) ++
    (t.attrs.map (·.1)).filterMap fun n =>
      if !exceptIsOk (FStack.attributePrefix env [top] n) then some (env.nsOfName n) else none

def unresolvedRec (env : Env) (top : List (Nat × Nat)) : Tree → List Nat
  | .node v ks =>
    match v with
    | .element name =>
      unresolvedOfElement env (pushTop top (Tree.node v ks).nsDecls) (.node v ks) name ++
        unresolvedRecList env (pushTop top (Tree.node v ks).nsDecls) ks
    | _ => unresolvedRecList env top ks
where
  unresolvedRecList (env : Env) (top : List (Nat × Nat)) : List Tree → List Nat
    | [] => []
    | k :: ks => unresolvedRec env top k ++ unresolvedRecList env top ks

theorem unresolvedRec_other (env : Env) (top : List (Nat × Nat)) (v : Value) (ks : List Tree)
    (h : v.isElement = false) :
    unresolvedRec env top (.node v ks) = unresolvedRec.unresolvedRecList env top ks := by
  cases v <;> first | rfl | cases h

theorem unresolvedStep_nonElement (env : Env) (st : UnresolvedState) (pre : Path) (t : Tree)
    (he : t.value.isElement = false) :
    unresolvedStep env st (.start pre t) = st ∧ unresolvedStep env st (.stop pre t) = st := by
  refine ⟨?_, by simp only [unresolvedStep, he, Bool.false_eq_true, if_false]⟩
  simp only [unresolvedStep]
  split
  · rename_i h; rw [h] at he; cases he
  · rfl

theorem foldl_push_if {α : Type} (c : α → Bool) (f : α → Nat) (l : List α) : ∀ (out : List Nat),
    l.foldl (fun out n => if c n then out ++ [f n] else out) out =
      out ++ l.filterMap (fun n => if c n then some (f n) else none) := by
  induction l with
  | nil => intro out; simp
  | cons a rest ih =>
    intro out
    simp only [List.foldl_cons, ih, List.filterMap_cons]
    cases c a <;> simp

mutual
theorem unresolved_fold (env : Env) : ∀ (t : Tree) (pre : Path) (st : UnresolvedState),
    (scopeTraverse pre t).foldl (unresolvedStep env) st =
      { fs := st.fs, out := st.out ++ unresolvedRec env st.fs.top t }
  | .node v ks, pre, st => by
    rw [foldl_scopeTraverse]
    by_cases he : v.isElement = true
    · obtain ⟨name, rfl⟩ := (isElement_iff_ex v).1 he
      simp only [Value.isNormal, Value.category, beq_self_eq_true, ↓reduceIte]
      have hstart : unresolvedStep env st (.start pre (.node (.element name) ks)) =
          { fs := st.fs.push (Tree.node (.element name) ks).nsDecls,
            out := st.out ++ unresolvedOfElement env
              (pushTop st.fs.top (Tree.node (.element name) ks).nsDecls) (.node (.element name) ks) name } := by
        simp only [unresolvedStep, Tree.value, unresolvedOfElement,
          elementPrefix_top env (st.fs.push _), attributePrefix_top env (st.fs.push _), FStack.top_push]
        rw [foldl_push_if (fun n => !exceptIsOk (FStack.attributePrefix env
          [pushTop st.fs.top (Tree.node (.element name) ks).nsDecls] n)) (fun n => env.nsOfName n)]
        split <;> simp
      rw [hstart, unresolved_fold_list env ks pre 0]
      simp only [unresolvedStep, Tree.value, Value.isElement, ↓reduceIte, hasNamespaceDeclarations,
        FStack.pop_push, FStack.top_push, unresolvedRec, List.append_assoc]
    · have he' : v.isElement = false := Bool.eq_false_iff.2 he
      obtain ⟨h1, h2⟩ := unresolvedStep_nonElement env st pre (.node v ks) he'
      rw [unresolvedRec_other env _ v ks he', h1]
      split
      · rw [unresolved_fold_list env ks pre 0 st, (unresolvedStep_nonElement env _ pre (.node v ks) he').2]
      · exact unresolved_fold_list env ks pre 0 st
theorem unresolved_fold_list (env : Env) : ∀ (ks : List Tree) (pre : Path) (i : Nat) (st : UnresolvedState),
    (scopeTraverse.go pre i ks).foldl (unresolvedStep env) st =
      { fs := st.fs, out := st.out ++ unresolvedRec.unresolvedRecList env st.fs.top ks }
  | [] => by
    intro pre i st
    simp [foldl_go_nil, unresolvedRec.unresolvedRecList]
  | k :: ks => by
    intro pre i st
    rw [foldl_go_cons, unresolved_fold env k, unresolved_fold_list env ks]
    simp [unresolvedRec.unresolvedRecList, List.append_assoc]
end

/-- `unresolved_namespaces(node)`: the name stack starts EMPTY. -/
theorem unresolvedNamespacesSub_eq (env : Env) (sub : Tree) :
    unresolvedNamespacesSub env sub = unresolvedRec env [] sub := by
  simp [unresolvedNamespacesSub, unresolved_fold, FStack.new, FStack.top]

end XotModel

/-! ### The name checks as membership in the top frame

  `element_fullname` / `attribute_fullname` succeed iff the name is in no namespace, in the XML
  namespace, or some (non-empty, for attributes) prefix of the top frame is bound to its namespace
  (`sc_elementFullname_ok`, `sc_attributeFullname_ok`); `unresolved_namespaces` never reports the
  no-namespace id or the XML namespace.
-/

namespace XotModel

/-! ### Name checks as membership in the top frame -/

/-- Some prefix is bound to `ns`. -/
def knownIn (l : List (Nat × Nat)) (ns : Nat) : Bool := l.any (fun kv => kv.2 == ns)

/-- Some non-empty prefix is bound to `ns` (what an attribute name needs). -/
def attrKnownIn (l : List (Nat × Nat)) (ns : Nat) : Bool :=
  l.any (fun kv => kv.2 == ns && kv.1 != Env.emptyPrefix)

theorem knownIn_iff (l : List (Nat × Nat)) (ns : Nat) : knownIn l ns = true ↔ ∃ p, (p, ns) ∈ l := by
  simp only [knownIn, List.any_eq_true, beq_iff_eq]
  constructor
  · rintro ⟨⟨a, b⟩, hm, rfl⟩; exact ⟨a, hm⟩
  · rintro ⟨p, hp⟩; exact ⟨(p, ns), hp, rfl⟩

theorem attrKnownIn_iff (l : List (Nat × Nat)) (ns : Nat) :
    attrKnownIn l ns = true ↔ ∃ p, p ≠ Env.emptyPrefix ∧ (p, ns) ∈ l := by
  simp only [attrKnownIn, List.any_eq_true, Bool.and_eq_true, beq_iff_eq, bne_iff_ne]
  constructor
  · rintro ⟨⟨a, b⟩, hm, rfl, hne⟩; exact ⟨a, hne, hm⟩
  · rintro ⟨p, hne, hp⟩; exact ⟨(p, ns), hp, rfl, hne⟩

theorem exceptIsOk_eq_false_iff {ε α : Type} (r : Except ε α) : exceptIsOk r = false ↔ ∃ e, r = .error e := by
  cases r <;> simp [exceptIsOk]

theorem sc_elementPrefix_ok (env : Env) (top : List (Nat × Nat)) (name : Nat) :
    exceptIsOk (FStack.elementPrefix env [top] name) =
      (env.nsOfName name == Env.noNamespace || env.nsOfName name == Env.xmlNamespace ||
        knownIn top (env.nsOfName name)) := by
  rw [FStack.exceptIsOk_elementPrefix]
  congr 1
  rw [Bool.eq_iff_iff, knownIn_iff]
  exact elementPrefixByNamespace_isSome_iff top _

theorem sc_attributePrefix_ok (env : Env) (top : List (Nat × Nat)) (name : Nat) :
    exceptIsOk (FStack.attributePrefix env [top] name) =
      (env.nsOfName name == Env.noNamespace || env.nsOfName name == Env.xmlNamespace ||
        attrKnownIn top (env.nsOfName name)) := by
  rw [FStack.exceptIsOk_attributePrefix]
  congr 1
  rw [Bool.eq_iff_iff, attrKnownIn_iff]
  exact attributePrefixByNamespace_isSome_iff top _

theorem sc_elementFullname_ok (env : Env) (top : List (Nat × Nat)) (name : Nat) :
    exceptIsOk (FStack.elementFullname env [top] name) =
      (env.nsOfName name == Env.noNamespace || env.nsOfName name == Env.xmlNamespace ||
        knownIn top (env.nsOfName name)) := by
  rw [FStack.exceptIsOk_elementFullname, sc_elementPrefix_ok]

theorem sc_attributeFullname_ok (env : Env) (top : List (Nat × Nat)) (name : Nat) :
    exceptIsOk (FStack.attributeFullname env [top] name) =
      (env.nsOfName name == Env.noNamespace || env.nsOfName name == Env.xmlNamespace ||
        attrKnownIn top (env.nsOfName name)) := by
  rw [FStack.exceptIsOk_attributeFullname, sc_attributePrefix_ok]

/-! ### `unresolved_namespaces` never reports the no-namespace id or the XML namespace -/

/-- What one element contributes: the namespace of its name if no prefix is bound to it, the
    namespace of an attribute name if no non-empty prefix is; never the no-namespace id or the XML
    namespace. -/
theorem mem_unresolvedOfElement_iff (env : Env) (top : List (Nat × Nat)) (t : Tree) (name ns : Nat) :
    ns ∈ unresolvedOfElement env top t name ↔
      (env.nsOfName name = ns ∧ ns ≠ Env.noNamespace ∧ ns ≠ Env.xmlNamespace ∧ knownIn top ns = false) ∨
      (∃ a ∈ t.attrs.map (·.1), env.nsOfName a = ns ∧ ns ≠ Env.noNamespace ∧
        ns ≠ Env.xmlNamespace ∧ attrKnownIn top ns = false) := by
  have h1 : ∀ (c : Bool) (x : Nat), ns ∈ (if (!c) = true then [x] else []) ↔ x = ns ∧ c = false := by
    intro c x; cases c <;> simp [eq_comm]
  have h2 : ∀ (c : Bool) (x : Nat), (if (!c) = true then some x else none) = some ns ↔ x = ns ∧ c = false := by
    intro c x; cases c <;> simp
  simp only [unresolvedOfElement, List.mem_append, List.mem_filterMap, sc_elementPrefix_ok,
    sc_attributePrefix_ok, h1, h2, Bool.or_eq_false_iff, beq_eq_false_iff_ne, ne_eq, and_assoc]
  constructor
  · rintro (⟨rfl, h⟩ | ⟨a, ha, rfl, h⟩)
    · exact .inl ⟨rfl, h⟩
    · exact .inr ⟨a, ha, rfl, h⟩
  · rintro (⟨rfl, h⟩ | ⟨a, ha, rfl, h⟩)
    · exact .inl ⟨rfl, h⟩
    · exact .inr ⟨a, ha, rfl, h⟩
theorem unresolvedOfElement_real (env : Env) (top : List (Nat × Nat)) (t : Tree) (name ns : Nat)
    (h : ns ∈ unresolvedOfElement env top t name) :
    ns ≠ Env.noNamespace ∧ ns ≠ Env.xmlNamespace := by
  rcases (mem_unresolvedOfElement_iff env top t name ns).1 h with h | ⟨_, _, h⟩
  · exact ⟨h.2.1, h.2.2.1⟩
  · exact ⟨h.2.1, h.2.2.1⟩

mutual
theorem unresolvedRec_real (env : Env) (ns : Nat) : ∀ (t : Tree) (top : List (Nat × Nat)),
    ns ∈ unresolvedRec env top t → ns ≠ Env.noNamespace ∧ ns ≠ Env.xmlNamespace
  | .node v ks, top, h => by
    by_cases he : v.isElement = true
    · obtain ⟨name, rfl⟩ := (isElement_iff_ex v).1 he
      simp only [unresolvedRec, List.mem_append] at h
      rcases h with h | h
      · exact unresolvedOfElement_real env _ _ _ _ h
      · exact unresolvedRecList_real env ns ks _ h
    · rw [unresolvedRec_other env top v ks (Bool.eq_false_iff.2 he)] at h
      exact unresolvedRecList_real env ns ks top h
theorem unresolvedRecList_real (env : Env) (ns : Nat) : ∀ (ks : List Tree) (top : List (Nat × Nat)),
    ns ∈ unresolvedRec.unresolvedRecList env top ks → ns ≠ Env.noNamespace ∧ ns ≠ Env.xmlNamespace
  | [], top, h => by simp [unresolvedRec.unresolvedRecList] at h
  | k :: ks, top, h => by
    simp only [unresolvedRec.unresolvedRecList, List.mem_append] at h
    rcases h with h | h
    · exact unresolvedRec_real env ns k top h
    · exact unresolvedRecList_real env ns ks top h
end

end XotModel
