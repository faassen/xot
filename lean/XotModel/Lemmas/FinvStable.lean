/-
  A handle keeps denoting the same value.  Built on the frame relation of the
  C06 lemmas (`Forest.Frame f f' P`: outside `P` every node keeps its parent and its value up to
  text content).  Text nodes are the one exception by design: consolidation rewrites the content
  of a neighbouring text node, so for them only "is still a text node" holds.
-/
import XotModel.Lemmas.FatomComposite
import XotModel.Lemmas.FinvCompound

namespace XotModel
open HTree

namespace Forest

theorem shape_eq_of_nontext {v v' : Value} (hv : v.isText = false) (h : v'.shape = v.shape) : v' = v := by
  cases v <;> cases v' <;> simp_all [Value.shape, Value.isText]

theorem Frame.value_nontext {f f' : Forest} {P : List Nat} (a : Frame f f' P) {x : Nat} (hx : x ∉ P)
    {v : Value} (hv : f.value? x = some v) (hnt : v.isText = false) : f'.value? x = some v := by
  have := a.shape x hx
  rw [hv] at this
  cases h1 : f'.value? x with
  | none => rw [h1] at this; cases this
  | some v' =>
    rw [h1] at this
    simp only [Option.map_some, Option.some.injEq] at this
    rw [shape_eq_of_nontext hnt this]

theorem Frame.value_text {f f' : Forest} {P : List Nat} (a : Frame f f' P) {x : Nat} (hx : x ∉ P)
    {v : Value} (hv : f.value? x = some v) (ht : v.isText = true) :
    ∃ v', f'.value? x = some v' ∧ v'.isText = true := by
  have := a.shape x hx
  rw [hv] at this
  cases h1 : f'.value? x with
  | none => rw [h1] at this; cases this
  | some v' =>
    rw [h1] at this
    simp only [Option.map_some, Option.some.injEq] at this
    refine ⟨v', rfl, ?_⟩
    rw [← shape_isText, this, shape_isText]; exact ht

theorem value_stable_of_outcome {f : Forest} {r : Forest × Res} {c : Nat} (m : MoveOutcome f r c)
    {h : Nat} {v : Value} (hv : f.value? h = some v) (hnt : v.isText = false)
    (hc : c ∉ f.ancestors h) : r.1.value? h = some v := by
  rcases m with m | m
  · rw [m]; exact hv
  · obtain ⟨P, fr, hP⟩ := m.frame
    apply fr.value_nontext _ hv hnt
    intro hx
    rcases hP h hx with h1 | ⟨_, h2⟩
    · exact hc h1
    · have : f.textOf h = none := Forest.textOf_eq_none_of_value hv hnt
      rw [this] at h2; cases h2

theorem removeConsolidate_value_nontext {f : Forest} (w : f.W) (prev next : Option Nat) {h : Nat} {v : Value}
    (hv : f.value? h = some v) (hnt : v.isText = false) :
    (f.removeConsolidate prev next).1.value? h = some v := by
  obtain ⟨_, _, P, hP, fr⟩ := removeConsolidate_spec w prev next
  apply fr.value_nontext _ hv hnt
  intro hx
  have := (hP h hx).2.1
  rw [Forest.textOf_eq_none_of_value hv hnt] at this; cases this

theorem value_stable_remove {f : Forest} (hi : f.Inv) (n : Nat) {h : Nat} {v : Value}
    (hv : f.value? h = some v) (hnt : v.isText = false) (hsub : ∀ t, f.get? n = some t → h ∉ handles t) :
    (f.remove n).1.value? h = some v := by
  have w := hi.toW
  unfold remove
  cases hg : f.get? n with
  | none =>
    have hd : f.dropSubtree n = f := by unfold dropSubtree; rw [cut_dead hg]
    rw [hd]
    exact removeConsolidate_value_nontext w _ _ hv hnt
  | some t =>
    obtain ⟨_, w1, _, fr1, _⟩ := cut_spec w hg
    exact removeConsolidate_value_nontext (f := f.dropSubtree n) w1 _ _ (fr1.value_nontext (hsub t hg) hv hnt) hnt

theorem value_stable_detach {f : Forest} (hi : f.Inv) (n : Nat) {h : Nat} {v : Value}
    (hv : f.value? h = some v) (hnt : v.isText = false) (hsub : ∀ t, f.get? n = some t → h ∉ handles t) :
    (f.detach n).1.value? h = some v := by
  have w := hi.toW
  unfold detach
  cases hg : f.get? n with
  | none =>
    rw [detachRaw_dead hg]
    exact removeConsolidate_value_nontext w _ _ hv hnt
  | some t =>
    obtain ⟨w1, fr1, _⟩ := detachRaw_spec w hg
    exact removeConsolidate_value_nontext w1 _ _ (fr1.value_nontext (hsub t hg) hv hnt) hnt

end Forest
end XotModel
