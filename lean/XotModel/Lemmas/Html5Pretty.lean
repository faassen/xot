/-
  Where HTML pretty printing puts white space (C19_pretty_*): a subtree leaves the `Pretty` stack as it found
  it, nothing inside mixed content is decorated, a mixed element is written on one line; and the statements of
  Lemmas/PrettyBetween on the decorated HTML token stream.
-/
import XotModel.Lemmas.Html5Default
import XotModel.Lemmas.Html5Names
import XotModel.Lemmas.Html5Stream
import XotModel.Lemmas.Html5PrettyTrace
import XotModel.Lemmas.PrettyBetween

/-! ## Subtrees and mixed content

  What `StartTagClose` pushes `EndTag` pops.  Mixed content: an element with a text or inline-element child, a
  formatted element, a suppressed name.
-/

namespace XotModel
open Gen

/-- The `Pretty` stack after the events. -/
def htmlPrettyFinal (c : HtmlCtx) (sup : List Nat) (t : Tree) : PStack → List (Path × Output) → PStack
  | ps, [] => ps
  | ps, (p, o) :: rest => htmlPrettyFinal c sup t (prettifyHtmlAt c sup t ps p o).1 rest

theorem htmlPrettyFinal_append (c : HtmlCtx) (sup : List Nat) (t : Tree) (a b : List (Path × Output)) :
    ∀ ps, htmlPrettyFinal c sup t ps (a ++ b) = htmlPrettyFinal c sup t (htmlPrettyFinal c sup t ps a) b := by
  induction a with
  | nil => intro ps; rfl
  | cons e a ih => intro ps; obtain ⟨p, o⟩ := e; simp only [List.cons_append, htmlPrettyFinal, ih]

theorem htmlPrettyTrace_append (c : HtmlCtx) (sup : List Nat) (t : Tree) (a b : List (Path × Output)) :
    ∀ ps, htmlPrettyTrace c sup t ps (a ++ b) =
      htmlPrettyTrace c sup t ps a ++ htmlPrettyTrace c sup t (htmlPrettyFinal c sup t ps a) b := by
  induction a with
  | nil => intro ps; rfl
  | cons e a ih =>
    intro ps; obtain ⟨p, o⟩ := e
    simp only [List.cons_append, htmlPrettyTrace, htmlPrettyFinal, ih]

/-- Declaration, attribute and text events never touch the stack and get no whitespace. -/
def Output.isQuiet : Output → Bool
  | .pfx _ _ => true
  | .attribute _ _ => true
  | .text _ => true
  | _ => false

theorem prettifyHtmlAt_quiet (c : HtmlCtx) (sup : List Nat) (t : Tree) (ps : PStack) (p : Path) {o : Output}
    (ho : o.isQuiet = true) : prettifyHtmlAt c sup t ps p o = (ps, 0, false) := by
  unfold prettifyHtmlAt
  cases t.at? p with
  | none => rfl
  | some node => cases o <;> first | rfl | cases ho

theorem quiet_events (c : HtmlCtx) (sup : List Nat) (t : Tree) (evs : List (Path × Output))
    (h : ∀ po ∈ evs, po.2.isQuiet = true) :
    ∀ ps, htmlPrettyFinal c sup t ps evs = ps ∧
      htmlPrettyTrace c sup t ps evs = List.replicate evs.length (0, false) := by
  induction evs with
  | nil => intro ps; exact ⟨rfl, rfl⟩
  | cons e evs ih =>
    intro ps
    obtain ⟨p, o⟩ := e
    have h1 := prettifyHtmlAt_quiet c sup t ps p (h (p, o) (by simp))
    obtain ⟨i1, i2⟩ := ih (fun po hpo => h po (List.mem_cons_of_mem _ hpo)) ps
    simp only [htmlPrettyFinal, htmlPrettyTrace, h1, i1, i2, List.length_cons, List.replicate_succ]
    exact ⟨trivial, trivial⟩

theorem declEvents_quiet (inScope : List (Nat × Nat)) (isTop : Bool) (path : Path) (n : Tree) :
    ∀ po ∈ declEvents inScope isTop path n, po.2.isQuiet = true := by
  intro po hpo
  have := (declEvents_isDecl inScope isTop path n po hpo).2
  cases hpo2 : po.2 <;> simp_all [Output.isDecl, Output.isQuiet]

theorem prettifyHtmlAt_open_mixed (c : HtmlCtx) (sup : List Nat) (t : Tree) {ps : PStack} (p : Path) {o : Output}
    (hm : ps.inMixed = true)
    (ho : (∃ n, o = .startTagOpen n) ∨ (∃ s, o = .comment s) ∨ (∃ tg d, o = .pi tg d)) :
    prettifyHtmlAt c sup t ps p o = (ps, 0, false) := by
  obtain ⟨h0, h1⟩ := inMixed_zero hm
  unfold prettifyHtmlAt
  cases t.at? p with
  | none => rfl
  | some node =>
    rcases ho with ⟨n, rfl⟩ | ⟨s, rfl⟩ | ⟨tg, d, rfl⟩ <;> simp [prettifyHtml, h0, h1]

theorem prettifyHtml_close_shape (c : HtmlCtx) (sup : List Nat) (ps : PStack) (node : Tree)
    (hc : node.firstChild?.isSome = true) :
    ∃ e nl, prettifyHtml c sup ps node .startTagClose = (e :: ps, 0, nl) ∧ (ps.inMixed = true → nl = false) := by
  rw [prettifyHtml_eq_with, Pretty.prettifyWith_close _ _ ps node hc]
  refine ⟨_, _, rfl, fun h => (inMixed_zero ?_).2⟩
  rw [PStack.inMixed_cons, h, Bool.or_true]

/-- `>` then (any events that restore the stack) then the end tag of the same node: the stack is
    restored; inside mixed content neither event gets whitespace. -/
theorem close_end_pair (c : HtmlCtx) (sup : List Nat) (t : Tree) (ps : PStack) (p : Path) (name : Nat) :
    (prettifyHtmlAt c sup t (prettifyHtmlAt c sup t ps p .startTagClose).1 p (.endTag name)).1 = ps ∧
    (ps.inMixed = true →
      (prettifyHtmlAt c sup t ps p .startTagClose).2 = (0, false) ∧
      (prettifyHtmlAt c sup t ps p .startTagClose).1.inMixed = true ∧
      (prettifyHtmlAt c sup t (prettifyHtmlAt c sup t ps p .startTagClose).1 p (.endTag name)).2 = (0, false)) := by
  unfold prettifyHtmlAt
  cases t.at? p with
  | none => exact ⟨rfl, fun h => ⟨rfl, h, rfl⟩⟩
  | some node =>
    simp only
    by_cases hc : node.firstChild?.isSome = true
    · obtain ⟨e, nl, hsc, hnl⟩ := prettifyHtml_close_shape c sup ps node hc
      rw [hsc]
      simp only [prettifyHtml, hc, if_true, List.tail_cons]
      refine ⟨trivial, fun h => ?_⟩
      have hm : PStack.inMixed (e :: ps) = true := by simp [PStack.inMixed] at h ⊢; exact Or.inr h
      simp [hnl h, hm, (inMixed_zero h).2]
    · have hc' : node.firstChild?.isSome = false := by simpa using hc
      simp only [prettifyHtml, hc', Bool.false_eq_true, if_false]
      exact ⟨trivial, fun h => by simp [h, (inMixed_zero h).2]⟩

mutual
/-- The events of a subtree restore the `Pretty` stack, and inside mixed content none of them
    gets indentation or a newline. -/
theorem pretty_subtree (c : HtmlCtx) (sup : List Nat) (t : Tree) (inScope : List (Nat × Nat)) (n : Tree)
    (isTop : Bool) (path : Path) (ps : PStack) :
    htmlPrettyFinal c sup t ps (genNode inScope isTop path n) = ps ∧
    (ps.inMixed = true → htmlPrettyTrace c sup t ps (genNode inScope isTop path n) =
      List.replicate (genNode inScope isTop path n).length (0, false)) := by
  cases n with
  | node v ks =>
    have leaf : ∀ (o : Output), ((∃ s, o = .comment s) ∨ (∃ tg d, o = .pi tg d) ∨ o.isQuiet = true) →
        htmlPrettyFinal c sup t ps ((path, o) :: genNode.genKids inScope path 0 ks) = ps ∧
        (ps.inMixed = true → htmlPrettyTrace c sup t ps ((path, o) :: genNode.genKids inScope path 0 ks) =
          List.replicate ((path, o) :: genNode.genKids inScope path 0 ks).length (0, false)) := by
      intro o ho
      have hst : (prettifyHtmlAt c sup t ps path o).1 = ps := by
        unfold prettifyHtmlAt
        cases t.at? path with
        | none => rfl
        | some node =>
          rcases ho with ⟨s, rfl⟩ | ⟨tg, d, rfl⟩ | hq
          · rfl
          · rfl
          · cases o <;> first | rfl | cases hq
      obtain ⟨k1, k2⟩ := pretty_kids c sup t inScope ks path 0 ps
      refine ⟨by simp only [htmlPrettyFinal, hst, k1], fun hm => ?_⟩
      have hd : prettifyHtmlAt c sup t ps path o = (ps, 0, false) := by
        rcases ho with h | h | h
        · exact prettifyHtmlAt_open_mixed c sup t path hm (Or.inr (Or.inl h))
        · exact prettifyHtmlAt_open_mixed c sup t path hm (Or.inr (Or.inr h))
        · exact prettifyHtmlAt_quiet c sup t ps path h
      simp only [htmlPrettyTrace, hd, k2 hm, List.length_cons, List.replicate_succ]
    cases v with
    | element name =>
      rw [genNode_element_shape]
      obtain ⟨d1, d2⟩ := quiet_events c sup t _ (declEvents_quiet inScope isTop path (.node (.element name) ks)) ps
      have hso : (prettifyHtmlAt c sup t ps path (.startTagOpen name)).1 = ps := by
        unfold prettifyHtmlAt; cases t.at? path <;> rfl
      obtain ⟨hp1, hp2⟩ := close_end_pair c sup t ps path name
      obtain ⟨k1, k2⟩ := pretty_kids c sup t inScope ks path 0 (prettifyHtmlAt c sup t ps path .startTagClose).1
      constructor
      · simp only [htmlPrettyFinal, hso, htmlPrettyFinal_append, d1, k1]
        exact hp1
      · intro hm
        obtain ⟨q1, q2, q3⟩ := hp2 hm
        have hso' := prettifyHtmlAt_open_mixed c sup t path hm (Or.inl ⟨name, rfl⟩) (o := .startTagOpen name)
        simp only [htmlPrettyTrace, hso', htmlPrettyTrace_append, d1, d2, k1, k2 q2,
          List.length_cons, List.length_append, List.length_nil]
        have e1 : ((prettifyHtmlAt c sup t ps path .startTagClose).2.1,
            (prettifyHtmlAt c sup t ps path .startTagClose).2.2) = (0, false) := q1
        have e2 : ((prettifyHtmlAt c sup t (prettifyHtmlAt c sup t ps path .startTagClose).1 path (.endTag name)).2.1,
            (prettifyHtmlAt c sup t (prettifyHtmlAt c sup t ps path .startTagClose).1 path (.endTag name)).2.2)
              = (0, false) := q3
        rw [e1, e2]
        have r1 : ∀ n, ((0 : Nat), false) :: List.replicate n ((0 : Nat), false) = List.replicate (n + 1) (0, false) :=
          fun n => rfl
        have r2 : ∀ n, List.replicate n ((0 : Nat), false) ++ [(0, false)] = List.replicate (n + 1) (0, false) :=
          fun n => by rw [List.replicate_succ']
        simp only [r2, r1, List.replicate_append_replicate]
    | text s => rw [genNode_text]; exact leaf _ (Or.inr (Or.inr rfl))
    | comment s => rw [genNode_comment]; exact leaf _ (Or.inl ⟨s, rfl⟩)
    | pi tg d => rw [genNode_pi]; exact leaf _ (Or.inr (Or.inl ⟨tg, d, rfl⟩))
    | document => rw [genNode_document]; exact pretty_kids c sup t inScope ks path 0 ps
    | «attribute» a v => rw [genNode_attribute]; exact pretty_kids c sup t inScope ks path 0 ps
    | «namespace» p ns => rw [genNode_namespace]; exact pretty_kids c sup t inScope ks path 0 ps

theorem pretty_kids (c : HtmlCtx) (sup : List Nat) (t : Tree) (inScope : List (Nat × Nat)) (ks : List Tree)
    (path : Path) (i : Nat) (ps : PStack) :
    htmlPrettyFinal c sup t ps (genNode.genKids inScope path i ks) = ps ∧
    (ps.inMixed = true → htmlPrettyTrace c sup t ps (genNode.genKids inScope path i ks) =
      List.replicate (genNode.genKids inScope path i ks).length (0, false)) := by
  cases ks with
  | nil => exact ⟨rfl, fun _ => rfl⟩
  | cons k ks =>
    simp only [genNode.genKids]
    obtain ⟨a1, a2⟩ := pretty_subtree c sup t inScope k false (path ++ [i]) ps
    obtain ⟨b1, b2⟩ := pretty_kids c sup t inScope ks path (i + 1) ps
    refine ⟨by rw [htmlPrettyFinal_append, a1, b1], fun hm => ?_⟩
    rw [htmlPrettyTrace_append, a1, a2 hm, b2 hm, List.length_append, List.replicate_append_replicate]
end

/-! ### Mixed elements are written on one line -/

theorem close_pushes_mixed (c : HtmlCtx) (sup : List Nat) (ps : PStack) (node : Tree) (name : Nat)
    (hv : node.value = .element name) (hc : node.firstChild?.isSome = true)
    (hm : htmlHasInlineChild c node = true ∨ htmlIsSuppressed c sup name = true) :
    prettifyHtml c sup ps node .startTagClose = (.mixed :: ps, 0, false) := by
  have he := (Pretty.entryFor_mixed_iff (htmlHasInlineChild c) (htmlIsSuppressed c sup) node name hv).mpr hm
  rw [prettifyHtml_eq_with, Pretty.prettifyWith_close _ _ ps node hc, he]
  rfl

/-- The decoration of a mixed element (text or inline-element child, formatted element,
    suppressed name), children included: only its start tag can be indented and only its end tag
    can be followed by a newline — both as the surrounding content decides. -/
theorem mixed_element_trace (c : HtmlCtx) (sup : List Nat) (t : Tree) (inScope : List (Nat × Nat))
    (name : Nat) (ks : List Tree) (isTop : Bool) (path : Path) (ps : PStack)
    (hat : t.at? path = some (.node (.element name) ks))
    (hc : (Tree.node (.element name) ks).firstChild?.isSome = true)
    (hm : htmlHasInlineChild c (.node (.element name) ks) = true ∨ htmlIsSuppressed c sup name = true) :
    htmlPrettyTrace c sup t ps (genNode inScope isTop path (.node (.element name) ks)) =
      (ps.getIndentation, false) ::
        (List.replicate ((declEvents inScope isTop path (.node (.element name) ks)).length + 1
          + (genNode.genKids inScope path 0 ks).length) (0, false) ++ [(0, ps.getNewline)]) := by
  rw [genNode_element_shape]
  obtain ⟨d1, d2⟩ := quiet_events c sup t _ (declEvents_quiet inScope isTop path (.node (.element name) ks)) ps
  have hso : prettifyHtmlAt c sup t ps path (.startTagOpen name) = (ps, ps.getIndentation, false) := by
    simp [prettifyHtmlAt, hat, prettifyHtml]
  have hsc : prettifyHtmlAt c sup t ps path .startTagClose = (.mixed :: ps, 0, false) := by
    simp only [prettifyHtmlAt, hat]
    exact close_pushes_mixed c sup ps _ name rfl hc hm
  have hmx : PStack.inMixed (StackEntry.mixed :: ps) = true := by simp [PStack.inMixed]
  obtain ⟨k1, k2⟩ := pretty_kids c sup t inScope ks path 0 (.mixed :: ps)
  have het : prettifyHtmlAt c sup t (.mixed :: ps) path (.endTag name) = (ps, 0, ps.getNewline) := by
    simp only [prettifyHtmlAt, hat, prettifyHtml, hc, if_true, List.tail_cons, hmx]
    simp
  simp only [htmlPrettyTrace, hso, htmlPrettyTrace_append, d1, d2, hsc, k1, k2 hmx, het]
  rw [← List.replicate_append_replicate, ← List.replicate_append_replicate]
  simp [List.replicate_succ, List.append_assoc]

end XotModel

/-! ## Where a token is decorated

  `htmlPrettyTrace` (the decoration `serialize_pretty` computes) against the explicit stack `hpentriesFor` of
  Lemmas/Html5PrettyTrace, and the consequences for mixed content and `xml:space="preserve"`.
-/

namespace XotModel

variable (c : HtmlCtx) (sup : List Nat) (t : Tree)

/-- The decoration list, paired with its events, is `prettify` on the traced stacks. -/
theorem htmlPrettyTrace_zip (ps : PStack) (evs : List (Path × Output)) :
    List.zip (htmlPrettyTrace c sup t ps evs) evs =
      (htrace c sup t ps evs).map (fun x => ((prettifyHtmlAt c sup t x.1 x.2.1 x.2.2).2, (x.2.1, x.2.2))) := by
  induction evs generalizing ps with
  | nil => rfl
  | cons po evs ih =>
    obtain ⟨p, o⟩ := po
    simp only [htmlPrettyTrace, htrace, List.zip_cons_cons, List.map_cons, hstep, ih]

theorem htmlPrettyTrace_zip_decorated (ps : PStack) (evs : List (Path × Output)) :
    List.zip (htmlPrettyTrace c sup t ps evs) evs =
      Pretty.decorated (htmlHasInlineChild c) (htmlIsSuppressed c sup) t ps evs := by
  rw [htmlPrettyTrace_zip, htrace_eq_pretty, hstep_eq_pretty, prettifyHtmlAt_eq_with]
  rfl

/-- The stack the newline decision of an event looks at (= the stack after the event): `>` decides
    after pushing the element's own entry, every other event on the entries above its node. -/
def hpentriesAfter (o : Output) (n : Tree) (rel : Path) : PStack :=
  match o with
  | .startTagClose => hpentriesIncl c sup n rel
  | _ => hpentriesAbove c sup n rel

theorem hpentriesAfter_eq_pretty :
    hpentriesAfter c sup = Pretty.entriesAfter (htmlHasInlineChild c) (htmlIsSuppressed c sup) := by
  funext o n rel
  cases o <;>
    simp only [hpentriesAfter, Pretty.entriesAfter, hpentriesAbove_eq_pretty, hpentriesIncl_eq_pretty]

/-- Every decoration of the HTML run, against the tree: the pair is `prettify` on the entries of
    the open elements between the start node and the event's node; indentation requires those
    entries to be neither mixed nor in `preserve` scope, a newline the entries it lands in. -/
theorem html_pretty_where_tree (start : Path) (n : Tree) (inScope : List (Nat × Nat))
    (hat : t.at? start = some n) (hs : namespacesInScope t start = some inScope)
    (x : (Nat × Bool) × Path × Output)
    (hx : x ∈ List.zip (htmlPrettyTrace c sup t [] (genOutputs t start)) (genOutputs t start)) :
    ∃ rel node, x.2.1 = start ++ rel ∧ n.at? rel = some node ∧
      x.1 = (prettifyHtml c sup (hpentriesFor c sup x.2.2 n rel) node x.2.2).2 ∧
      (x.1.1 > 0 → PStack.inMixed (hpentriesFor c sup x.2.2 n rel) = false ∧
        PStack.inSpacePreserve (hpentriesFor c sup x.2.2 n rel) = false) ∧
      (x.1.2 = true → PStack.inMixed (hpentriesAfter c sup x.2.2 n rel) = false ∧
        PStack.inSpacePreserve (hpentriesAfter c sup x.2.2 n rel) = false) := by
  rw [htmlPrettyTrace_zip] at hx
  obtain ⟨y, hy, rfl⟩ := List.mem_map.mp hx
  rw [htrace_eq_pretty, hstep_eq_pretty] at hy
  rw [prettifyHtmlAt_eq_with, prettifyHtml_eq_with, hpentriesFor_eq_pretty, hpentriesAfter_eq_pretty]
  obtain ⟨rel, node, h1, hnode, _, hd, hi, hn⟩ := Pretty.where_tree _ _ t start n inScope hat hs y hy
  exact ⟨rel, node, h1, hnode, hd, hi, hn⟩

/-- Mixed content in HTML's sense, on trees: an event is decorated with indentation or a newline
    only if no open element strictly above its node has a text or inline-element child, is a
    formatted element or matches the suppress list. -/
theorem html_pretty_where_tree_mixed (start : Path) (n : Tree) (inScope : List (Nat × Nat))
    (hat : t.at? start = some n) (hs : namespacesInScope t start = some inScope)
    (x : (Nat × Bool) × Path × Output)
    (hx : x ∈ List.zip (htmlPrettyTrace c sup t [] (genOutputs t start)) (genOutputs t start))
    (hw : x.1.1 > 0 ∨ x.1.2 = true) :
    ∃ rel, x.2.1 = start ++ rel ∧
      ∀ a name, OpenAbove n rel a → a.value = .element name → a.firstChild?.isSome = true →
        htmlHasInlineChild c a = false ∧ htmlIsSuppressed c sup name = false := by
  obtain ⟨rel, node, hp, hnode, _, hi, hn⟩ := html_pretty_where_tree c sup t start n inScope hat hs x hx
  rw [hpentriesFor_eq_pretty] at hi
  rw [hpentriesAfter_eq_pretty] at hn
  refine ⟨rel, hp, Pretty.not_mixed_above _ _ n rel ?_⟩
  rcases hw with hw | hw
  · exact Pretty.inMixed_above_of_for _ _ _ n rel node hnode (hi hw).1
  · exact Pretty.inMixed_above_of_after _ _ _ n rel node hnode (hn hw).1

end XotModel

/-! ## Two consecutive tokens

  `serialize_pretty` of html5_serializer.rs with `Pretty::prettify` of pretty.rs: the instance of
  Lemmas/PrettyBetween for the HTML closures, and the texts of the markup tokens — a token that opens markup
  begins with `<`, one that closes markup ends with `>`, except the empty end-tag token of a void element.
-/

namespace XotModel
open Gen

variable (c : HtmlCtx) (sup : List Nat) (t : Tree)

theorem htmlHasInlineChild_of_text (a k : Tree) (hk : k ∈ a.normalKids) (hv : k.value.isText = true) :
    htmlHasInlineChild c a = true := by
  refine List.any_eq_true.mpr ⟨k, hk, ?_⟩
  cases hkv : k.value <;> simp_all [Value.isText]

theorem hpb_newline_after (s : PStack) (p : Path) (o : Output)
    (h : (prettifyHtmlAt c sup t s p o).2.2 = true) :
    o.closesMarkup = true ∧ (hstep c sup t s (p, o)).getNewline = true := by
  rw [prettifyHtmlAt_eq_with] at h
  rw [hstep_eq_pretty]
  exact Pretty.prettifyAtWith_newline_after _ _ t s p o h

theorem hpb_indent_before (s : PStack) (p : Path) (o : Output)
    (h : (prettifyHtmlAt c sup t s p o).2.1 > 0) :
    o.opensMarkup = true ∧ s.inMixed = false ∧ s.inSpacePreserve = false := by
  rw [prettifyHtmlAt_eq_with] at h
  exact Pretty.prettifyAtWith_indent_before _ _ t s p o h

theorem hpb_zip_forget (d : List (Nat × Bool)) (l : List (Path × Output × OutputToken)) :
    (List.zip d l).map (fun x => (x.1, x.2.1, x.2.2.1)) = List.zip d (l.map (fun k => (k.1, k.2.1))) := by
  induction d generalizing l with
  | nil => simp
  | cons a d ih =>
    cases l with
    | nil => simp
    | cons k l => simp [ih]

theorem hpb_text_event_ok (start : Path) (n : Tree) (inScope : List (Nat × Nat))
    (hat : t.at? start = some n) (hs : namespacesInScope t start = some inScope) (hok : TextOk n)
    (ps : PStack) (p : Path) (x : Str)
    (hx : (ps, p, Output.text x) ∈ htrace c sup t [] (genOutputs t start)) :
    (genOutputs t start).length = 1 ∨ ps.inMixed = true := by
  rw [htrace_eq_pretty, hstep_eq_pretty] at hx
  exact Pretty.text_event_ok _ _ t (htmlHasInlineChild_of_text c) start n inScope hat hs hok ps p x hx

/-! ### What the markup tokens look like -/

/-- A token that opens markup begins with `<`, one that closes markup ends with `>` — except the
    empty end-tag token of a void element. -/
theorem renderHtml_markup (s s' : HState) (node : Tree) (parent : Option Tree) (o : Output) (tok : OutputToken)
    (h : renderHtml c s node parent o = .ok (s', tok)) :
    (o.opensMarkup = true → tok.space = false ∧
      (tok.text.head? = some '<' ∨
        (∃ name, o = .endTag name ∧ c.h.void.matches c.env name = true) ∧ tok.text = [])) ∧
    (o.closesMarkup = true →
      (tok.text.getLast? = some '>' ∨
        (∃ name, o = .endTag name ∧ c.h.void.matches c.env name = true) ∧ tok.text = [])) := by
  cases o with
  | startTagOpen name =>
    refine ⟨fun _ => ?_, fun hc => Bool.noConfusion hc⟩
    simp only [renderHtml] at h
    split at h
    · cases h; exact ⟨rfl, Or.inl (Pretty.fmt_head? '<' _ _ _)⟩
    · split at h
      · cases h; exact ⟨rfl, Or.inl (Pretty.fmt_head? '<' _ _ _)⟩
      · cases h
  | startTagClose =>
    cases h
    exact ⟨fun ho => Bool.noConfusion ho, fun _ => Or.inl rfl⟩
  | endTag name =>
    simp only [renderHtml] at h
    split at h
    · rename_i hv
      cases h
      exact ⟨fun _ => ⟨rfl, Or.inr ⟨⟨name, rfl, hv⟩, rfl⟩⟩, fun _ => Or.inr ⟨⟨name, rfl, hv⟩, rfl⟩⟩
    · split at h
      · cases h
        exact ⟨fun _ => ⟨rfl, Or.inl (Pretty.fmt_head? '<' _ _ _)⟩,
          fun _ => Or.inl (Pretty.fmt_getLast? [['<','/']] [] '>' _)⟩
      · cases h
  | comment x =>
    cases h
    exact ⟨fun _ => ⟨rfl, Or.inl (Pretty.fmt_head? '<' _ _ _)⟩,
      fun _ => Or.inl (Pretty.fmt_getLast? [['<','!','-','-']] ['-','-'] '>' _)⟩
  | pi tg d =>
    simp only [renderHtml] at h
    split at h
    · cases h
    · split at h
      · split at h
        · cases h
        · cases h
          exact ⟨fun _ => ⟨rfl, Or.inl (Pretty.fmt_head? '<' _ _ _)⟩,
            fun _ => Or.inl (Pretty.fmt_getLast? [['<','?'], [' ']] [] '>' _)⟩
      · cases h
        exact ⟨fun _ => ⟨rfl, Or.inl (Pretty.fmt_head? '<' _ _ _)⟩,
          fun _ => Or.inl (Pretty.fmt_getLast? [['<','?']] [] '>' _)⟩
  | text x => cases h; exact ⟨fun ho => Bool.noConfusion ho, fun ho => Bool.noConfusion ho⟩
  | pfx a b => exact ⟨fun ho => Bool.noConfusion ho, fun ho => Bool.noConfusion ho⟩
  | «attribute» a v => exact ⟨fun ho => Bool.noConfusion ho, fun ho => Bool.noConfusion ho⟩

/-! ### The statement on the decorated token stream -/

/-- The decorated token stream of a successful run: between two consecutive tokens `x1 x2` that have
    whitespace between them (a newline behind `x1` or indentation in front of `x2`), EVERY tree: each is a
    markup token of the right kind and shape, or the token of a text node that is not the child of an
    element; the stack between them is neither mixed nor in `preserve` scope. -/
theorem hpb_between_tokens (start : Path) (n : Tree) (inScope : List (Nat × Nat))
    (hat : t.at? start = some n) (hs : namespacesInScope t start = some inScope)
    (s0 : HState) (l : List (Path × Output × OutputToken))
    (hl : renderHtmlAll c t s0 (genOutputs t start) = .ok l)
    (pre post : List ((Nat × Bool) × Path × Output × OutputToken)) (x1 x2 : (Nat × Bool) × Path × Output × OutputToken)
    (hz : List.zip (htmlPrettyTrace c sup t [] (genOutputs t start)) l = pre ++ x1 :: x2 :: post)
    (hw : x1.1.2 = true ∨ x2.1.1 > 0) :
    ((x1.2.2.1.closesMarkup = true ∧
        (x1.2.2.2.text.getLast? = some '>' ∨
          (∃ name, x1.2.2.1 = .endTag name ∧ c.h.void.matches c.env name = true) ∧ x1.2.2.2.text = [])) ∨
      ∃ x rel node, x1.2.2.1 = .text x ∧ x1.2.1 = start ++ rel ∧ n.at? rel = some node ∧ node.value = .text x ∧
        ∀ rel0 i a name, rel = rel0 ++ [i] → n.at? rel0 = some a → a.value ≠ .element name) ∧
    ((x2.2.2.1.opensMarkup = true ∧ x2.2.2.2.space = false ∧
        (x2.2.2.2.text.head? = some '<' ∨
          (∃ name, x2.2.2.1 = .endTag name ∧ c.h.void.matches c.env name = true) ∧ x2.2.2.2.text = [])) ∨
      ∃ x rel node, x2.2.2.1 = .text x ∧ x2.2.1 = start ++ rel ∧ n.at? rel = some node ∧ node.value = .text x ∧
        ∀ rel0 i a name, rel = rel0 ++ [i] → n.at? rel0 = some a → a.value ≠ .element name) ∧
    ∃ rel, x2.2.1 = start ++ rel ∧
      PStack.inMixed (hpentriesFor c sup x2.2.2.1 n rel) = false ∧
      PStack.inSpacePreserve (hpentriesFor c sup x2.2.2.1 n rel) = false := by
  have hev := (renderHtmlAll_ok c t _ s0 l hl).1
  have hz' := congrArg (List.map (fun x : (Nat × Bool) × Path × Output × OutputToken => (x.1, x.2.1, x.2.2.1))) hz
  rw [hpb_zip_forget, hev, htmlPrettyTrace_zip_decorated] at hz'
  simp only [List.map_append, List.map_cons] at hz'
  obtain ⟨ps1, m1, m2, hS1, hS2, k1, k2⟩ :=
    Pretty.between_events _ _ t start n inScope hat hs _ _ _ _ hz' hw
  simp only at m1 m2 hS1 hS2 k1 k2
  have hx1 : x1.2 ∈ l := by
    have : x1 ∈ List.zip (htmlPrettyTrace c sup t [] (genOutputs t start)) l :=
      hz ▸ List.mem_append_right _ List.mem_cons_self
    exact (List.of_mem_zip this).2
  have hx2 : x2.2 ∈ l := by
    have : x2 ∈ List.zip (htmlPrettyTrace c sup t [] (genOutputs t start)) l :=
      hz ▸ List.mem_append_right _ (List.mem_cons_of_mem _ List.mem_cons_self)
    exact (List.of_mem_zip this).2
  obtain ⟨sa, sb, node1, hn1, hr1⟩ := (renderHtmlAll_ok c t _ s0 l hl).2 _ hx1
  obtain ⟨sc, sd, node2, hn2, hr2⟩ := (renderHtmlAll_ok c t _ s0 l hl).2 _ hx2
  obtain ⟨rel, hr1', hr2'⟩ := Pretty.genOutputs_trace _ _ t start n inScope hat hs _ m2
  simp only at hr1' hr2'
  rw [hpentriesFor_eq_pretty]
  -- the stack around the text token of an element's child is mixed
  have text : ∀ ps p x, (ps, p, Output.text x) ∈
      Pretty.trace (Pretty.step (htmlHasInlineChild c) (htmlIsSuppressed c sup) t) [] (genOutputs t start) →
      ps.inMixed = false →
      ∃ rel node, p = start ++ rel ∧ n.at? rel = some node ∧ node.value = .text x ∧
        ∀ rel0 i a name, rel = rel0 ++ [i] → n.at? rel0 = some a → a.value ≠ .element name := by
    intro ps p x hm hps
    obtain ⟨rel1, nd, e1, e2, e3, e4⟩ :=
      Pretty.text_event_stack _ _ t (htmlHasInlineChild_of_text c) start n inScope hat hs ps p x hm
    refine ⟨rel1, nd, e1, e2, e3, fun rel0 i a name hrel ha hav => ?_⟩
    rw [e4 rel0 i a name hrel ha hav] at hps
    cases hps
  refine ⟨?_, ?_, rel, hr1', by rw [← hr2']; exact hS1, by rw [← hr2']; exact hS2⟩
  · rcases k1 with k1 | ⟨x, hx⟩
    · exact Or.inl ⟨k1, (renderHtml_markup c sa sb node1 _ _ _ hr1).2 k1⟩
    · rw [hx] at m1 hS1
      rw [Pretty.step_neutral _ _ t ps1 _ _ rfl] at hS1
      obtain ⟨rel1, nd, e⟩ := text _ _ x m1 hS1
      exact Or.inr ⟨x, rel1, nd, hx, e⟩
  · rcases k2 with k2 | ⟨x, hx⟩
    · obtain ⟨a, b⟩ := (renderHtml_markup c sc sd node2 _ _ _ hr2).1 k2
      exact Or.inl ⟨k2, a, b⟩
    · rw [hx] at m2
      obtain ⟨rel1, nd, e⟩ := text _ _ x m2 hS1
      exact Or.inr ⟨x, rel1, nd, hx, e⟩

/-- `TextOk` trees (well-formed documents and element-rooted subtrees): no text token is involved. -/
theorem hpb_between_tokens_ok (start : Path) (n : Tree) (inScope : List (Nat × Nat))
    (hat : t.at? start = some n) (hs : namespacesInScope t start = some inScope) (hok : TextOk n)
    (s0 : HState) (l : List (Path × Output × OutputToken))
    (hl : renderHtmlAll c t s0 (genOutputs t start) = .ok l)
    (pre post : List ((Nat × Bool) × Path × Output × OutputToken)) (x1 x2 : (Nat × Bool) × Path × Output × OutputToken)
    (hz : List.zip (htmlPrettyTrace c sup t [] (genOutputs t start)) l = pre ++ x1 :: x2 :: post)
    (hw : x1.1.2 = true ∨ x2.1.1 > 0) :
    (x1.2.2.1.closesMarkup = true ∧
      (x1.2.2.2.text.getLast? = some '>' ∨
        (∃ name, x1.2.2.1 = .endTag name ∧ c.h.void.matches c.env name = true) ∧ x1.2.2.2.text = [])) ∧
    (x2.2.2.1.opensMarkup = true ∧ x2.2.2.2.space = false ∧
      (x2.2.2.2.text.head? = some '<' ∨
        (∃ name, x2.2.2.1 = .endTag name ∧ c.h.void.matches c.env name = true) ∧ x2.2.2.2.text = [])) ∧
    ∃ rel, x2.2.1 = start ++ rel ∧
      PStack.inMixed (hpentriesFor c sup x2.2.2.1 n rel) = false ∧
      PStack.inSpacePreserve (hpentriesFor c sup x2.2.2.1 n rel) = false ∧
      ∀ a name, OpenAbove n rel a → a.value = .element name → a.firstChild?.isSome = true →
        htmlHasInlineChild c a = false ∧ htmlIsSuppressed c sup name = false := by
  obtain ⟨g1, g2, rel, g3, g4, g5⟩ :=
    hpb_between_tokens c sup t start n inScope hat hs s0 l hl pre post x1 x2 hz hw
  -- no text event is involved
  have hz' := congrArg (List.map (fun x : (Nat × Bool) × Path × Output × OutputToken => (x.1, x.2.1, x.2.2.1))) hz
  rw [hpb_zip_forget, (renderHtmlAll_ok c t _ s0 l hl).1, htmlPrettyTrace_zip_decorated] at hz'
  simp only [List.map_append, List.map_cons] at hz'
  obtain ⟨k1, k2, _⟩ := Pretty.between_events_ok _ _ t (htmlHasInlineChild_of_text c) start n inScope hat hs hok
    _ _ _ _ hz' hw
  obtain ⟨node2, hnode2⟩ : ∃ node, n.at? rel = some node := by
    have hx2 : x2.2 ∈ l := by
      have : x2 ∈ List.zip (htmlPrettyTrace c sup t [] (genOutputs t start)) l :=
        hz ▸ List.mem_append_right _ (List.mem_cons_of_mem _ List.mem_cons_self)
      exact (List.of_mem_zip this).2
    obtain ⟨_, _, node2, hn2, _⟩ := (renderHtmlAll_ok c t _ s0 l hl).2 _ hx2
    rw [g3, at?_append, hat] at hn2
    exact ⟨node2, hn2⟩
  refine ⟨g1.resolve_right ?_, g2.resolve_right ?_, rel, g3, g4, g5, ?_⟩
  · rintro ⟨x, _, _, hx, _⟩
    rw [show x1.2.2.1 = Output.text x from hx] at k1
    cases k1
  · rintro ⟨x, _, _, hx, _⟩
    rw [show x2.2.2.1 = Output.text x from hx] at k2
    cases k2
  · rw [hpentriesFor_eq_pretty] at g4
    exact Pretty.not_mixed_above _ _ n rel (Pretty.inMixed_above_of_for _ _ _ n rel node2 hnode2 g4)

end XotModel
