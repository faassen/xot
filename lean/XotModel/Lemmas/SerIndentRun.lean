/-
  Specification side of C14_options_indent (`prettyTree`, `spellNodeP`, `AddsWs`), the write loop of
  `serialize_pretty` as one fold over the `Pretty` stack and the name stack (`runPEvents`), and what that fold
  needs about single events: what `prettify` answers on the events of an element, that the granted runs are white
  space, the regrouping of the bytes around child nodes.
-/
import XotModel.Lemmas.SerOptDefs
import XotModel.Lemmas.PrettyTrace
import XotModel.Lemmas.SerOptResp

/-!
## Specification

  Specification side of C14_options_indent (NOT a model of Rust code).

  * `prettyTree sup t` : the tree a parser reads the indented serialisation of the document `t` as:
    `t` with one whitespace-only text node in front of every child and behind the last child of every
    element whose content the `Pretty` stack grants whitespace to (`PStack.getNewline`: no open element
    with a text child or in the suppress list, innermost `xml:space` not `preserve`).  White space
    between the top-level nodes of the document is not part of it (the tokenizer skips it).
  * `spellNodeP` : the spelling (Lemmas/RoundTripDefs.lean vocabulary) of what the indenting writer writes
    for a subtree: `spellNodeO` with those whitespace runs as character data nodes.
  * `AddsWs t t'` : "`t'` differs from `t` only by added whitespace-only text nodes".
-/

namespace XotModel
open Gen

/-! ### What the `Pretty` stack grants -/

/-- The bytes `serialize_pretty` writes in front of a token that opens markup. -/
def indOf (ps : PStack) : Str := if ps.getIndentation > 0 then indentBytes ps.getIndentation else []

/-- … and behind a token that closes markup. -/
def nlOf (ps : PStack) : Str := if ps.getNewline then prettyNewline else []

/-- The white space between two children in content whose stack is `pc`. -/
def gapOf (pc : PStack) : Str := nlOf pc ++ indOf pc

/-- The white space between the last child and the end tag (`pc` = content stack, `ps` = the stack
    around the element). -/
def gapEnd (pc ps : PStack) : Str := nlOf pc ++ (if !(pc.inMixed || pc.inSpacePreserve) then indOf ps else [])

/-- Blank or line feed. -/
def isWsChar (c : Char) : Bool := c == ' ' || c == '\n'

/-- A non-empty run becomes one text node. -/
def wsNode (w : Str) : List Tree := if w.isEmpty then [] else [.node (.text w) []]

/-! ### The tree the indented output is read as -/

/-- The subtree `n`, written inside content whose `Pretty` stack is `ps`. -/
def prettyNode (sup : List Nat) (ps : PStack) : Tree → Tree
  | .node v ks =>
    match v with
    | .element name =>
      if (Tree.node (.element name) ks).firstChild?.isSome then
        .node v (prettyKids sup (entryFor sup (.node (.element name) ks) :: ps)
            (gapOf (entryFor sup (.node (.element name) ks) :: ps)) ks
          ++ wsNode (gapEnd (entryFor sup (.node (.element name) ks) :: ps) ps))
      else .node v ks
    | _ => .node v ks
where
  prettyKids (sup : List Nat) (pc : PStack) (gap : Str) : List Tree → List Tree
    | [] => []
    | k :: ks => (if k.value.isNormal then wsNode gap else []) ++ prettyNode sup pc k :: prettyKids sup pc gap ks

/-- The document: no white space node at the top level. -/
def prettyTree (sup : List Nat) : Tree → Tree
  | .node v ks => .node v (ks.map (prettyNode sup []))

/-! ### The spelling the indenting writer writes -/

/-- A non-empty run as a character data node. -/
def wsChars (w : Str) : List NSNode := if w.isEmpty then [] else [.chars [.txt (textPieces w) 0]]

/-- `spellNodeO` with the white space of `serialize_pretty` inside elements. -/
def spellNodeP (env : Env) (pr : TokenParams) (sup : List Nat) (inScope : List (Nat × Nat)) (isTop : Bool)
    (s : FStack) (cd : Bool) (ps : PStack) : Tree → List NSNode
  | .node v ks =>
    match v with
    | .element name =>
      let n := Tree.node (.element name) ks
      let s' := s.push n.nsDecls
      let pfx := sp0 (prefixText env (okPrefix (s'.elementPrefix env name)))
      let loc := sp0 (env.localName name)
      if n.firstChild?.isNone then
        .empty pfx loc noSpan (spellItems env inScope isTop s' n) noSpan ::
          spellKidsP env pr sup inScope s' (kidsCd pr (.element name)) ps [] ks
      else
        [.elem pfx loc noSpan (spellItems env inScope isTop s' n) noSpan
          (spellKidsP env pr sup inScope s' (kidsCd pr (.element name)) (entryFor sup n :: ps)
              (gapOf (entryFor sup n :: ps)) ks
            ++ wsChars (gapEnd (entryFor sup n :: ps) ps)) pfx loc noSpan]
    | .text str => .chars (textParts pr cd str) :: spellKidsP env pr sup inScope s false ps [] ks
    | .comment str => .comment (sp0 str) noSpan :: spellKidsP env pr sup inScope s false ps [] ks
    | .pi target data =>
      .pi (sp0 (env.localName target)) (data.map sp0) noSpan :: spellKidsP env pr sup inScope s false ps [] ks
    | _ => spellKidsP env pr sup inScope s false ps [] ks
where
  spellKidsP (env : Env) (pr : TokenParams) (sup : List Nat) (inScope : List (Nat × Nat)) (s : FStack)
      (cd : Bool) (pc : PStack) (gap : Str) : List Tree → List NSNode
    | [] => []
    | k :: ks =>
      (if k.value.isNormal then wsChars gap else []) ++ spellNodeP env pr sup inScope false s cd pc k
        ++ spellKidsP env pr sup inScope s cd pc gap ks

/-- What is written for one node in content with stack `ps`: markup nodes (element, comment, PI) get the
    indentation in front and the newline behind. -/
def wrapP (ps : PStack) (v : Value) (x : Str) : Str :=
  match v with
  | .element _ => indOf ps ++ x ++ nlOf ps
  | .comment _ => indOf ps ++ x ++ nlOf ps
  | .pi _ _ => indOf ps ++ x ++ nlOf ps
  | _ => x

/-! ### "Differs only by added whitespace-only text nodes" -/

/-- A whitespace-only text leaf. -/
def Tree.isWsText : Tree → Bool
  | .node (.text w) [] => !w.isEmpty && w.all isWsChar
  | _ => false

mutual
/-- `t'` is `t` with whitespace-only text nodes added among the children of some nodes. -/
inductive AddsWs : Tree → Tree → Prop where
  | node (v : Value) {ks ks' : List Tree} : AddsWsList ks ks' → AddsWs (.node v ks) (.node v ks')
/-- Child lists: the same children in the same order (each possibly with additions inside), with
    whitespace-only text leaves inserted anywhere. -/
inductive AddsWsList : List Tree → List Tree → Prop where
  | nil : AddsWsList [] []
  | cons {k k' : Tree} {ks ks' : List Tree} : AddsWs k k' → AddsWsList ks ks' → AddsWsList (k :: ks) (k' :: ks')
  | ins {w : Tree} {ks ks' : List Tree} : w.isWsText = true → AddsWsList ks ks' → AddsWsList ks (w :: ks')
end

end XotModel

/-!
## The indenting write loop as a fold

  The indenting write loop (`XmlSerializer::serialize_pretty`) as one fold returning the final `Pretty`
  stack, the final `FullnameSerializer` stack and the bytes written (`runPEvents`), with the laws the tree
  induction of Lemmas/SerIndentNode.lean needs.
-/

namespace XotModel
open Gen

variable (env : Env) (pr : TokenParams) (sup : List Nat) (t : Tree)

/-- Indentation in front, newline behind. -/
def prePost (r : PStack × Nat × Bool) (w : Str) : Str :=
  (if r.2.1 > 0 then indentBytes r.2.1 else []) ++ w ++ (if r.2.2 then prettyNewline else [])

/-- One event of the indenting writer. -/
def runPEvent (ps : PStack) (s : FStack) (p : Path) (o : Output) : Outcome XotError (PStack × FStack × Str) :=
  match runEvent xmlEscapers env pr t s p o with
  | .ok (s', w) => .ok ((prettifyAt sup t ps p o).1, s', prePost (prettifyAt sup t ps p o) w)
  | .err e => .err e
  | .panic => .panic

def runPThen (a : Outcome XotError (PStack × FStack × Str))
    (f : PStack → FStack → Outcome XotError (PStack × FStack × Str)) : Outcome XotError (PStack × FStack × Str) :=
  match a with
  | .ok (ps, s, w) =>
    (match f ps s with
     | .ok (ps', s', w') => .ok (ps', s', w ++ w')
     | .err e => .err e
     | .panic => .panic)
  | .err e => .err e
  | .panic => .panic

def runPEvents : PStack → FStack → List (Path × Output) → Outcome XotError (PStack × FStack × Str)
  | ps, s, [] => .ok (ps, s, [])
  | ps, s, (p, o) :: rest => runPThen (runPEvent env pr sup t ps s p o) (fun ps' s' => runPEvents ps' s' rest)

theorem runPThen_ok (ps : PStack) (s : FStack) (w : Str)
    (f : PStack → FStack → Outcome XotError (PStack × FStack × Str)) :
    runPThen (.ok (ps, s, w)) f =
      (match f ps s with
       | .ok (ps', s', w') => .ok (ps', s', w ++ w')
       | .err e => .err e
       | .panic => .panic) := rfl

theorem runPThen_assoc (a : Outcome XotError (PStack × FStack × Str))
    (f g : PStack → FStack → Outcome XotError (PStack × FStack × Str)) :
    runPThen (runPThen a f) g = runPThen a (fun ps s => runPThen (f ps s) g) := by
  cases a with
  | ok x =>
    obtain ⟨ps, s, w⟩ := x
    simp only [runPThen]
    cases f ps s with
    | ok y =>
      obtain ⟨ps', s', w'⟩ := y
      simp only []
      cases g ps' s' with
      | ok z => simp
      | err e => rfl
      | panic => rfl
    | err e => rfl
    | panic => rfl
  | err e => rfl
  | panic => rfl

theorem runPThen_pure (a : Outcome XotError (PStack × FStack × Str)) :
    runPThen a (fun ps s => .ok (ps, s, [])) = a := by
  cases a with
  | ok x => obtain ⟨ps, s, w⟩ := x; simp [runPThen]
  | err e => rfl
  | panic => rfl

theorem runPEvents_cons (ps : PStack) (s : FStack) (p : Path) (o : Output) (rest : List (Path × Output)) :
    runPEvents env pr sup t ps s ((p, o) :: rest) =
      runPThen (runPEvent env pr sup t ps s p o) (fun ps' s' => runPEvents env pr sup t ps' s' rest) := rfl

theorem runPEvents_single (ps : PStack) (s : FStack) (p : Path) (o : Output) :
    runPEvents env pr sup t ps s [(p, o)] = runPEvent env pr sup t ps s p o := by
  simp only [runPEvents, runPThen_pure]

theorem runPEvents_append (ps : PStack) (s : FStack) (a b : List (Path × Output)) :
    runPEvents env pr sup t ps s (a ++ b) =
      runPThen (runPEvents env pr sup t ps s a) (fun ps' s' => runPEvents env pr sup t ps' s' b) := by
  induction a generalizing ps s with
  | nil =>
    simp only [List.nil_append, runPEvents, runPThen]
    cases runPEvents env pr sup t ps s b with
    | ok x => simp
    | err e => rfl
    | panic => rfl
  | cons po a ih =>
    obtain ⟨p, o⟩ := po
    simp only [List.cons_append, runPEvents, runPThen_assoc]
    congr 1
    funext ps' s'
    exact ih ps' s'

/-- The indenting write loop is `runPEvents` (bytes of a failed run aside). -/
theorem writePrettyGo_runPEvents (ps : PStack) (s : FStack) (outs : List (Path × Output)) :
    bufferToString (writePrettyGoWith xmlEscapers env pr sup t ps s outs) =
      (match runPEvents env pr sup t ps s outs with
       | .ok (_, _, w) => .ok w
       | .err e => .err e
       | .panic => .panic) := by
  induction outs generalizing ps s with
  | nil => rfl
  | cons po rest ih =>
    obtain ⟨p, o⟩ := po
    simp only [writePrettyGoWith, runPEvents, runPEvent, runEvent]
    cases renderAtWith xmlEscapers env pr t s p o with
    | ok st =>
      rw [Ser.bufferToString_append, ih (prettifyAt sup t ps p o).1 st.1]
      simp only [runPThen, prePost]
      cases runPEvents env pr sup t (prettifyAt sup t ps p o).1 st.1 rest <;> simp
    | err e => rfl
    | panic => rfl

/-- `serialize_xml_string` with indentation (token parameters, suppress list) in terms of `runPEvents`. -/
theorem serializePretty_runPEvents (start : Path) :
    serializePrettyWith xmlEscapers env pr sup t start =
      (match runPEvents env pr sup t [] (initStack t start) (genOutputs t start) with
       | .ok (_, _, w) => .ok w
       | .err e => .err e
       | .panic => .panic) := by
  unfold serializePrettyWith serializePrettyWriteWith
  exact writePrettyGo_runPEvents env pr sup t _ _ _

/-- An event `prettify` neither moves the stack for nor grants white space to: the plain event. -/
theorem runPEvent_plain (ps : PStack) (s : FStack) (p : Path) (o : Output)
    (h : prettifyAt sup t ps p o = (ps, 0, false)) :
    runPEvent env pr sup t ps s p o =
      (match runEvent xmlEscapers env pr t s p o with
       | .ok (s', w) => .ok (ps, s', w)
       | .err e => .err e
       | .panic => .panic) := by
  unfold runPEvent
  rw [h]
  cases runEvent xmlEscapers env pr t s p o with
  | ok x => obtain ⟨s', w⟩ := x; simp [prePost]
  | err e => rfl
  | panic => rfl

/-- A run of such events (the declarations and attributes of a start tag). -/
theorem runPEvents_plain (ps : PStack) (s : FStack) (evs : List (Path × Output))
    (h : ∀ po ∈ evs, prettifyAt sup t ps po.1 po.2 = (ps, 0, false)) :
    runPEvents env pr sup t ps s evs =
      (match runEvents xmlEscapers env pr t s evs with
       | .ok (s', w) => .ok (ps, s', w)
       | .err e => .err e
       | .panic => .panic) := by
  induction evs generalizing s with
  | nil => rfl
  | cons po evs ih =>
    obtain ⟨p, o⟩ := po
    rw [runPEvents_cons, runPEvent_plain env pr sup t ps s p o (h (p, o) (by simp)), runEvents_cons]
    cases runEvent xmlEscapers env pr t s p o with
    | ok x =>
      obtain ⟨s', w⟩ := x
      simp only [runPThen, runThen, ih s' (fun po hpo => h po (by simp [hpo]))]
      cases runEvents xmlEscapers env pr t s' evs with
      | ok y => rfl
      | err e => rfl
      | panic => rfl
    | err e => rfl
    | panic => rfl

theorem prettifyAt_at (ps : PStack) (p : Path) (o : Output) (n : Tree) (h : t.at? p = some n) :
    prettifyAt sup t ps p o = prettify sup ps n o := by
  simp only [prettifyAt, h]

end XotModel

/-! ## Single events and white space -/

namespace XotModel
open Gen

variable (env : Env) (pr : TokenParams) (sup : List Nat) (t : Tree)

theorem prettify_close_some (ps : PStack) (name : Nat) (ks : List Tree)
    (hc : (Tree.node (.element name) ks).firstChild?.isSome = true) :
    prettify sup ps (.node (.element name) ks) .startTagClose =
      (entryFor sup (.node (.element name) ks) :: ps, 0,
        PStack.getNewline (entryFor sup (.node (.element name) ks) :: ps)) := by
  simp only [prettify, entryFor, Tree.value, hc, if_true]
  by_cases hi : hasInlineChild (.node (.element name) ks) = true
  · simp [hi, PStack.getNewline, PStack.inMixed]
  · by_cases hsup : sup.contains name = true
    · have : name ∈ sup := by simpa using hsup
      simp [hi, this]
    · have : name ∉ sup := by simpa using hsup
      simp [hi, this]

theorem prettify_close_none (ps : PStack) (n : Tree) (hc : n.firstChild?.isSome = false) :
    prettify sup ps n .startTagClose = (ps, 0, false) := by
  simp [prettify, hc]

theorem prettify_end_some (pc : PStack) (n : Tree) (name : Nat) (hc : n.firstChild?.isSome = true) :
    prettify sup pc n (.endTag name) =
      (pc.tail, if !(pc.inMixed || pc.inSpacePreserve) then PStack.getIndentation pc.tail else 0,
        PStack.getNewline pc.tail) := by
  simp [prettify, hc]

theorem prettify_end_none (ps : PStack) (n : Tree) (name : Nat) (hc : n.firstChild?.isSome = false) :
    prettify sup ps n (.endTag name) = (ps, 0, ps.getNewline) := by
  simp [prettify, hc]

theorem indentBytes_ws (k : Nat) : (indentBytes k).all isWsChar = true := by
  simp only [indentBytes, List.all_eq_true, List.mem_flatten, List.mem_replicate]
  rintro c ⟨l, ⟨_, rfl⟩, hc⟩
  simp only [indentUnit, List.mem_singleton] at hc
  subst hc; rfl

theorem indOf_ws (ps : PStack) : (indOf ps).all isWsChar = true := by
  unfold indOf; split
  · exact indentBytes_ws _
  · rfl

theorem nlOf_ws (ps : PStack) : (nlOf ps).all isWsChar = true := by
  unfold nlOf; split <;> rfl

theorem gapOf_ws (ps : PStack) : (gapOf ps).all isWsChar = true := by
  simp [gapOf, List.all_append, indOf_ws, nlOf_ws, -List.all_eq_true]

theorem gapEnd_ws (pc ps : PStack) : (gapEnd pc ps).all isWsChar = true := by
  unfold gapEnd
  rw [List.all_append, nlOf_ws, Bool.true_and]
  split
  · exact indOf_ws _
  · rfl

theorem textPiece_ws {c : Char} (h : isWsChar c = true) : textPiece c = .lit c := by
  simp only [isWsChar, Bool.or_eq_true, beq_iff_eq] at h
  rcases h with rfl | rfl <;> rfl

theorem renderPieces_ws (w : Str) (h : w.all isWsChar = true) : renderPieces (textPieces w) = w := by
  induction w with
  | nil => rfl
  | cons c cs ih =>
    simp only [List.all_cons, Bool.and_eq_true] at h
    have := ih h.2
    simp only [renderPieces, textPieces, List.map_cons, List.flatMap_cons, textPiece_ws h.1, renderPiece] at this ⊢
    rw [this]; rfl

theorem render_wsChars (w : Str) (h : w.all isWsChar = true) :
    renderTokens (NSNode.tokens.tokensList (wsChars w)) = w := by
  unfold wsChars
  cases w with
  | nil => rfl
  | cons c cs =>
    simp only [List.isEmpty_cons, Bool.false_eq_true, if_false, NSNode.tokens.tokensList, NSNode.tokens,
      List.map_cons, List.map_nil, SPart.token, List.append_nil, renderTokens_single, renderToken,
      renderPieces_ws _ h]

/-- A run that leaves both stacks as they were. -/
def tokRunP (ps : PStack) (s : FStack) (r : Except XotError (List Token)) (x : Str) :
    Outcome XotError (PStack × FStack × Str) :=
  match r with
  | .ok _ => .ok (ps, s, x)
  | .error e => .err e

theorem runPThen_tokRunP (ps : PStack) (s : FStack) (a b : Except XotError (List Token)) (x y : Str)
    (f : PStack → FStack → Outcome XotError (PStack × FStack × Str)) (hf : f ps s = tokRunP ps s b y) :
    runPThen (tokRunP ps s a x) f = tokRunP ps s (appendOk a b) (x ++ y) := by
  cases a with
  | error e => rfl
  | ok u =>
    simp only [tokRunP, runPThen, hf, appendOk]
    cases b with
    | error e => rfl
    | ok v => rfl

/-- The bytes of a child list in content with stack `pc`. -/
def kidsBytes (inScope : List (Nat × Nat)) (s : FStack) (cd : Bool) (pc : PStack) (ks : List Tree) : Str :=
  ks.flatMap (fun k => wrapP pc k.value
    (renderTokens (NSNode.tokens.tokensList (spellNodeP env pr sup inScope false s cd pc k))))

theorem tokensList_spellKidsP (inScope : List (Nat × Nat)) (s : FStack) (cd : Bool) (pc : PStack) (gap : Str)
    (hgap : gap.all isWsChar = true) (ks : List Tree) :
    renderTokens (NSNode.tokens.tokensList (spellNodeP.spellKidsP env pr sup inScope s cd pc gap ks)) =
      ks.flatMap (fun k => (if k.value.isNormal then gap else []) ++
        renderTokens (NSNode.tokens.tokensList (spellNodeP env pr sup inScope false s cd pc k))) := by
  induction ks with
  | nil => rfl
  | cons k ks ih =>
    simp only [spellNodeP.spellKidsP, tokensList_append, renderTokens_append, ih, List.flatMap_cons,
      List.append_assoc]
    congr 1
    split
    · exact render_wsChars gap hgap
    · rfl

/-- Regrouping: newline, then per child indentation / child / newline, then the end tag's indentation
    = per child (newline + indentation) / child, then (newline + end tag's indentation). -/
theorem regroup (nl ind e : Str) (xs : List (Bool × Str))
    (hx : ∀ x ∈ xs, x.1 = false → x.2 = []) :
    nl ++ (xs.flatMap (fun x => if x.1 then ind ++ (x.2 ++ nl) else x.2) ++ e) =
      xs.flatMap (fun x => (if x.1 then nl ++ ind else []) ++ x.2) ++ (nl ++ e) := by
  induction xs with
  | nil => simp
  | cons x xs ih =>
    have ih' := ih (fun y hy => hx y (by simp [hy]))
    simp only [List.flatMap_cons, List.append_assoc]
    cases hb : x.1 with
    | true =>
      simp only [if_true, List.append_assoc]
      rw [ih']
    | false =>
      have := hx x (by simp) hb
      simp only [Bool.false_eq_true, if_false, this, List.nil_append]
      exact ih'

end XotModel
