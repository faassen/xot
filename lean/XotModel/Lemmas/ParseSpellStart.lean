/-
  C02_spelled: interning facts and the start tag of a plain (namespace-free) element.
-/
import XotModel.Lemmas.BasicFacts
import XotModel.Lemmas.ParseSpellDefs
import XotModel.Lemmas.Parse

namespace XotModel

/-! ### Interning -/

theorem internIn_get {α : Type} [BEq α] [LawfulBEq α] (l : List α) (v : α) :
    (internIn l v).1[(internIn l v).2]? = some v := by
  unfold internIn
  by_cases h : v ∈ l
  · have hc : l.contains v = true := by simpa using h
    simp only [hc, if_true]
    have hlt := List.idxOf_lt_length_of_mem h
    rw [List.getElem?_eq_getElem hlt]
    simp [List.getElem_idxOf]
  · have hc : l.contains v = false := by simpa using h
    simp only [hc, Bool.false_eq_true, if_false]
    rw [List.idxOf_eq_length h]
    simp

theorem internIn_ext {α : Type} [BEq α] (l : List α) (v : α) : ∃ ext, (internIn l v).1 = l ++ ext := by
  unfold internIn
  split
  · exact ⟨[], by simp⟩
  · exact ⟨[v], rfl⟩

theorem internIn_of_mem {α : Type} [BEq α] [LawfulBEq α] {l : List α} {v : α} (h : v ∈ l) :
    internIn l v = (l, l.idxOf v) := by
  unfold internIn
  have hc : l.contains v = true := by simpa using h
  simp only [hc, if_true]

theorem idxOf_ext {α : Type} [BEq α] [LawfulBEq α] {l : List α} {v : α} (h : v ∈ l) (ext : List α) :
    (l ++ ext).idxOf v = l.idxOf v := by
  rw [List.idxOf_append]; simp [h]

theorem internIn_mem {α : Type} [BEq α] [LawfulBEq α] (l : List α) (v : α) : v ∈ (internIn l v).1 := by
  unfold internIn
  split
  · rename_i h; simpa using h
  · simp

theorem internIn_idx {α : Type} [BEq α] [LawfulBEq α] (l : List α) (v : α) :
    (internIn l v).1.idxOf v = (internIn l v).2 := by
  by_cases hmem : v ∈ l
  · rw [internIn_of_mem hmem]
  · unfold internIn
    have hc : l.contains v = false := by simpa using hmem
    simp only [hc, Bool.false_eq_true, if_false]
    rw [List.idxOf_append]
    simp [hmem, List.idxOf_eq_length hmem]

theorem internIn_snd_eq {α : Type} [BEq α] (l : List α) (v : α) : (internIn l v).2 = l.idxOf v := rfl

theorem mem_ext {α : Type} {l l' : List α} {v : α} (h : ∃ x, l' = l ++ x) (hv : v ∈ l) : v ∈ l' := by
  obtain ⟨x, hx⟩ := h; rw [hx]; simp [hv]

theorem idxOf_app {α : Type} [BEq α] [LawfulBEq α] {l l' : List α} {v : α} (h : ∃ x, l' = l ++ x) (hv : v ∈ l) :
    l'.idxOf v = l.idxOf v := by
  obtain ⟨x, hx⟩ := h; rw [hx]; exact idxOf_ext hv x

theorem getElem?_app {α : Type} {l l' : List α} {i : Nat} {v : α} (h : ∃ x, l' = l ++ x) (hv : l[i]? = some v) :
    l'[i]? = some v := by
  obtain ⟨x, hx⟩ := h; rw [hx]; exact getElem?_ext hv

/-- Names only grow; prefixes and namespaces stay (plain documents declare nothing). -/
def EnvExt (e e' : Env) : Prop :=
  e'.prefixes = e.prefixes ∧ e'.namespaces = e.namespaces ∧ ∃ ext, e'.names = e.names ++ ext

theorem EnvExt.refl (e : Env) : EnvExt e e := ⟨rfl, rfl, [], by simp⟩

theorem EnvExt.trans {a b c : Env} (h1 : EnvExt a b) (h2 : EnvExt b c) : EnvExt a c := by
  obtain ⟨p1, n1, x1, e1⟩ := h1
  obtain ⟨p2, n2, x2, e2⟩ := h2
  exact ⟨p2.trans p1, n2.trans n1, x1 ++ x2, by rw [e2, e1, List.append_assoc]⟩

theorem internName_ext (e : Env) (a : Str) (ns : Nat) : EnvExt e (e.internName a ns).1 := by
  obtain ⟨ext, h⟩ := internIn_ext e.names (a, ns)
  exact ⟨rfl, rfl, ext, h⟩

theorem EnvExt.names_get {e e' : Env} (h : EnvExt e e') {i : Nat} {x : Str × Nat} (hx : e.names[i]? = some x) :
    e'.names[i]? = some x :=
  getElem?_app h.2.2 hx

theorem internName_get (e : Env) (a : Str) (ns : Nat) :
    (e.internName a ns).1.names[(e.internName a ns).2]? = some (a, ns) :=
  internIn_get e.names (a, ns)

/-- Interning a name that was interned before, in tables whose names have only grown since: same id, nothing
    changes. -/
theorem internName_again_of {e e' : Env} (a : Str) (ns : Nat) (h : ∃ x, e'.names = (e.internName a ns).1.names ++ x) :
    e'.internName a ns = (e', (e.internName a ns).2) := by
  have hm : (a, ns) ∈ (e.internName a ns).1.names := internIn_mem e.names (a, ns)
  unfold Env.internName
  rw [internIn_of_mem (mem_ext h hm)]
  simp only
  congr 1
  rw [idxOf_app h hm]
  exact internIn_idx e.names (a, ns)

/-! ### The state between two nodes -/

/-- The builder between two nodes of a namespace-free spelling: no start tag pending, the empty prefix is id 0
    and bound to no namespace, and name id 1 (`xml:id`) is in a namespace, so no unprefixed name gets it. -/
structure Ready (b : Builder) : Prop where
  eb : b.eb = none
  pfx0 : b.env.prefixes.head? = some []
  look : lookupPrefix b.nsStack 0 = some 0
  xmlId : ∃ x ns, b.env.names[1]? = some (x, ns) ∧ ns ≠ 0

theorem elementNameId_plain {env : Env} {stack : NsStack} (name : Str) (sp : Span)
    (h0 : env.prefixes.head? = some []) (hl : lookupPrefix stack 0 = some 0) :
    elementNameId env stack [] name sp = .ok (env.internName name 0) := by
  unfold elementNameId
  rw [internPrefix_empty h0]
  simp [hl]

/-! ### Attributes -/

def SAttr.builder (a : SAttr) : AttributeBuilder :=
  { pfx := [], name := a.name.text, value := valueOf true a.pieces,
    nameSpan := Span.fromPrefixName ⟨[], a.pstart⟩ a.name,
    valueSpan := (⟨renderPieces a.pieces, a.vstart⟩ : StrSpan).span,
    prefixSpan := (⟨[], a.pstart⟩ : StrSpan).span }

/-- The attribute tokens of a start tag fill the `ElementBuilder`. -/
theorem run_attrs (rest : List Token) (lexErr : Option Nat) : ∀ (attrs : List SAttr) (b : Builder) (eb : ElementBuilder),
    b.eb = some eb → (∀ a ∈ attrs, a.Well) → (∀ ab ∈ eb.attributes, ab.pfx = []) →
    (eb.attributes.map (fun ab => ab.name) ++ attrs.map (fun a => a.name.text)).Nodup →
    b.run (attrs.map SAttr.token ++ rest) lexErr =
      Builder.run { b with eb := some { eb with attributes := eb.attributes ++ attrs.map SAttr.builder } } rest lexErr := by
  intro attrs
  induction attrs with
  | nil =>
    intro b eb heb _ _ _
    simp only [List.map_nil, List.nil_append, List.append_nil]
    congr 1
    cases b; simp_all
  | cons a as ih =>
    intro b eb heb hw hp hn
    obtain ⟨hwp, hwx, hps⟩ := hw a (by simp)
    simp only [List.map_cons, List.cons_append, Builder.run]
    have hstep : b.step a.token =
        .ok { b with eb := some { eb with attributes := eb.attributes ++ [a.builder] } } := by
      have h1 : (([] : Str) == ['x', 'm', 'l', 'n', 's']) = false := by decide
      have h2 : (a.name.text == ['x', 'm', 'l', 'n', 's']) = false := by simpa using hwx
      have hbc : (⟨[], a.pstart⟩ : StrSpan).bareColon = false := by simp [StrSpan.bareColon, hps]
      simp only [SAttr.token, Builder.step, hbc, h1, Bool.false_eq_true, if_false, h2, Bool.and_false]
      unfold Builder.attribute
      rw [heb]
      simp only
      have hany : (eb.attributes.any fun ab => ab.pfx == [] && ab.name == a.name.text) = false := by
        rw [List.any_eq_false]
        intro ab hab
        simp only [Bool.and_eq_true, beq_iff_eq, not_and]
        intro _ hname
        simp only [List.map_cons] at hn
        have hnd := (List.nodup_append.mp hn).2.2
        exact hnd ab.name (by simp only [List.mem_map]; exact ⟨ab, hab, rfl⟩) a.name.text (by simp) hname
      simp only [hany, Bool.false_eq_true, if_false]
      have hparse := parse_pieces true a.vstart a.pieces 0 hwp
      simp only [hparse]
      have hx : (([] : Str) == ['x', 'm', 'l']) = false := by decide
      simp [hx, SAttr.builder]
    rw [hstep]
    simp only
    have := ih { b with eb := some { eb with attributes := eb.attributes ++ [a.builder] } }
      { eb with attributes := eb.attributes ++ [a.builder] } rfl
      (fun x hx => hw x (by simp [hx]))
      (by
        intro ab hab
        simp only [List.mem_append, List.mem_singleton] at hab
        rcases hab with hab | rfl
        · exact hp ab hab
        · rfl)
      (by
        simp only [List.map_append, List.map_cons, List.map_nil, List.append_assoc, List.cons_append,
          List.nil_append]
        simpa [SAttr.builder] using hn)
    rw [this]
    simp [List.append_assoc]

/-- The attribute loop of `open_element` on unprefixed attributes with pairwise different names. -/
theorem addAttributes_plain (stack : NsStack) (node : Path) : ∀ (abs : List AttributeBuilder) (st : AttrLoop),
    (∀ ab ∈ abs, ab.pfx = []) → st.env.prefixes.head? = some [] →
    (∃ x ns, st.env.names[1]? = some (x, ns) ∧ ns ≠ 0) →
    (∀ n ∈ st.seenNames, ∃ a, a ∉ abs.map (fun ab => ab.name) ∧ st.env.names[n]? = some (a, 0)) →
    (abs.map (fun ab => ab.name)).Nodup →
    ∃ st', addAttributes stack node st abs = .ok st' ∧
      st'.env = (encodeAttrs st.env (abs.map fun ab => (ab.name, ab.value))).1 ∧
      st'.rkids = (encodeAttrs st.env (abs.map fun ab => (ab.name, ab.value))).2.reverse ++ st.rkids ∧
      st'.seenIds = st.seenIds ∧ st'.idNodes = st.idNodes := by
  intro abs
  induction abs with
  | nil => intro st _ _ _ _ _; exact ⟨st, rfl, rfl, by simp [encodeAttrs], rfl, rfl⟩
  | cons ab rest ih =>
    intro st hp h0 hx hseen hnd
    have hab : ab.pfx = [] := hp ab (by simp)
    have hname : attributeNameId st.env stack ab.pfx ab.name ab.prefixSpan =
        .ok (st.env.internName ab.name Env.noNamespace) := by
      rw [hab]; exact attributeNameId_unprefixed st.env stack ab.name ab.prefixSpan h0
    have hext := internName_ext st.env ab.name Env.noNamespace
    have hget := internName_get st.env ab.name Env.noNamespace
    -- the new id is none of the ids seen so far
    have hnew : (st.seenNames.contains (st.env.internName ab.name Env.noNamespace).2) = false := by
      rw [Bool.eq_false_iff]
      intro hc
      have hm : (st.env.internName ab.name Env.noNamespace).2 ∈ st.seenNames := by simpa using hc
      obtain ⟨a, ha, hga⟩ := hseen _ hm
      have := hext.names_get hga
      rw [hget] at this
      simp only [Option.some.injEq, Prod.mk.injEq] at this
      exact ha (by simp [this.1])
    -- … and not the id of xml:id
    have hnotid : ((st.env.internName ab.name Env.noNamespace).2 == Env.xmlIdName) = false := by
      rw [beq_eq_false_iff_ne]
      intro heq
      obtain ⟨x, ns, hx1, hns⟩ := hx
      have := hext.names_get hx1
      rw [← show Env.xmlIdName = 1 from rfl, ← heq, hget] at this
      simp only [Option.some.injEq, Prod.mk.injEq] at this
      exact hns this.2.symm
    have hval : xmlIdValue (st.env.internName ab.name Env.noNamespace).2 ab.value = ab.value := by
      simp only [xmlIdValue, hnotid, Bool.false_eq_true, if_false]
    simp only [addAttributes, hname, hnew, Bool.false_eq_true, if_false, hnotid, Bool.false_and, hval]
    obtain ⟨hp0, _, _⟩ := hext
    simp only [List.map_cons] at hnd
    have hnd' := List.nodup_cons.mp hnd
    obtain ⟨st', hr, he, hk, hs, hi⟩ := ih
      { env := (st.env.internName ab.name Env.noNamespace).1, seenIds := st.seenIds, idNodes := st.idNodes,
        seenNames := st.seenNames ++ [(st.env.internName ab.name Env.noNamespace).2],
        rkids := .node (.attribute (st.env.internName ab.name Env.noNamespace).2 ab.value) [] :: st.rkids,
        aspans := st.aspans ++ [((st.env.internName ab.name Env.noNamespace).2, ab.nameSpan, ab.valueSpan)] }
      (fun x hx => hp x (by simp [hx]))
      (by simp only; rw [hp0]; exact h0)
      (by
        obtain ⟨x, ns, hx1, hns⟩ := hx
        exact ⟨x, ns, (internName_ext st.env ab.name Env.noNamespace).names_get hx1, hns⟩)
      (by
        intro n hn
        simp only [List.mem_append, List.mem_singleton] at hn
        rcases hn with hn | rfl
        · obtain ⟨a, ha, hga⟩ := hseen n hn
          refine ⟨a, fun hmem => ha (by simp [hmem]), (internName_ext st.env ab.name Env.noNamespace).names_get hga⟩
        · exact ⟨ab.name, hnd'.1, hget⟩)
      hnd'.2
    refine ⟨st', hr, ?_, ?_, hs, hi⟩
    · rw [he]; simp [encodeAttrs]
    · rw [hk]; simp [encodeAttrs]

end XotModel
