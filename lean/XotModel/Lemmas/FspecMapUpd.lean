/-
  C05 for the attribute / namespace maps: `MutableNodeMap::insert(key, value)`
  and `remove(key)` touch exactly one entry of one view of one element.

  * list level (no forest): what the specification's list functions `updateEntry`, `insertEntry`
    and the filter of `specMapRemove` do to a child list — exactly one child changes / appears /
    disappears, everything else stays in place;
  * forest level: the model (`Forest.mapInsert`, `Forest.mapRemove`, xot's statement order) equals
    the specification (`Spec.specMapInsert`, `Spec.specMapRemove`, one `editAt` of the element's
    child list) on every forest satisfying the invariant — the forest-level work is shared with
    the C11 development (`Fmap.insert_existing`, `Fmap.place_absent`, `Fmap.remove_present`);
  * the frame of the two specifications: every node under another parent keeps parent, value and
    the handles of its left and right siblings; parentless trees stay parentless.
-/
import XotModel.Model.FspecSpec2
import XotModel.Lemmas.FspecFrame
import XotModel.Lemmas.FmapSteps

namespace XotModel
open HTree Spec
open Forest (MapKind entryKey entryUpdate)

/-! ### Ranks, views and entries -/

theorem kidRank_eq (c : HTree) : kidRank c = c.value.category.rank := by
  unfold kidRank
  cases c.value <;> rfl

theorem viewRank_eq (k : MapKind) : viewRank k = (Fmap.kindCat k).rank := by
  cases k <;> rfl

theorem matches_iff_rank (k : MapKind) (c : HTree) : k.matches c.value = true ↔ kidRank c = viewRank k := by
  rw [Fmap.matches_iff_cat, kidRank_eq, viewRank_eq]
  constructor
  · intro h; rw [h]
  · intro h
    cases k <;> cases hc : c.value.category <;> rw [hc] at h <;> simp [Category.rank, Fmap.kindCat] at h ⊢

theorem isEntry_of_rank_ne {k : MapKind} {key : Nat} {c : HTree} (h : kidRank c ≠ viewRank k) :
    isEntry k key c = false := by
  unfold isEntry
  cases hm : k.matches c.value with
  | false => rfl
  | true => exact absurd ((matches_iff_rank k c).1 hm) h

theorem isEntry_of_rank_eq {k : MapKind} {key : Nat} {c : HTree} (h : kidRank c = viewRank k) :
    isEntry k key c = (entryKey c.value == key) := by
  unfold isEntry
  rw [(matches_iff_rank k c).2 h, Bool.true_and]

theorem isEntry_rank {k : MapKind} {key : Nat} {c : HTree} (h : isEntry k key c = true) :
    kidRank c = viewRank k := by
  unfold isEntry at h
  rw [Bool.and_eq_true] at h
  exact (matches_iff_rank k c).1 h.1

theorem isEntry_key {k : MapKind} {key : Nat} {c : HTree} (h : isEntry k key c = true) :
    entryKey c.value = key := by
  unfold isEntry at h
  rw [Bool.and_eq_true] at h
  simpa using h.2

/-! ### `updateEntry`: the payload of exactly one child changes -/

theorem updateEntry_nil (k : MapKind) (entry : Value) : updateEntry k entry [] = [] := rfl

theorem updateEntry_cons (k : MapKind) (entry : Value) (c : HTree) (cs : List HTree) :
    updateEntry k entry (c :: cs) =
      if isEntry k (entryKey entry) c then c.setValue (entryUpdate c.value entry) :: cs
      else c :: updateEntry k entry cs := rfl

/-- On a child list split at the first entry with the key: that child gets the new payload
    (`setValue` keeps handle and children), nothing else changes. -/
theorem updateEntry_split {k : MapKind} {entry : Value} {X : List HTree} {n : HTree} {Y : List HTree}
    (hX : ∀ c ∈ X, isEntry k (entryKey entry) c = false) (hn : isEntry k (entryKey entry) n = true) :
    updateEntry k entry (X ++ n :: Y) = X ++ n.setValue (entryUpdate n.value entry) :: Y := by
  induction X with
  | nil => rw [List.nil_append, updateEntry_cons, if_pos hn]; rfl
  | cons a X ih =>
    have ha : ¬ isEntry k (entryKey entry) a = true := by
      rw [hX a List.mem_cons_self]; exact Bool.false_ne_true
    rw [List.cons_append, updateEntry_cons, if_neg ha, ih (fun c hc => hX c (List.mem_cons_of_mem _ hc))]
    rfl

theorem updateEntry_absent {k : MapKind} {entry : Value} : ∀ {L : List HTree},
    (∀ c ∈ L, isEntry k (entryKey entry) c = false) → updateEntry k entry L = L
  | [], _ => rfl
  | a :: L, h => by
    have ha : ¬ isEntry k (entryKey entry) a = true := by
      rw [h a List.mem_cons_self]; exact Bool.false_ne_true
    rw [updateEntry_cons, if_neg ha, updateEntry_absent (fun c hc => h c (List.mem_cons_of_mem _ hc))]

/-- **updateEntry touches exactly one child**: the first entry `n` of view `k` with the key (if
    there is one) is replaced by `n.setValue (entryUpdate n.value entry)` — same handle, same
    children — and every other child is the child it was, at the place it was. -/
theorem updateEntry_spec (k : MapKind) (entry : Value) (L : List HTree) :
    (∀ n, L.find? (isEntry k (entryKey entry)) = some n →
      ∃ X Y, L = X ++ n :: Y ∧ (∀ c ∈ X, isEntry k (entryKey entry) c = false) ∧
        updateEntry k entry L = X ++ n.setValue (entryUpdate n.value entry) :: Y) ∧
    (L.find? (isEntry k (entryKey entry)) = none → updateEntry k entry L = L) := by
  constructor
  · intro n hf
    obtain ⟨hp, X, Y, hs, hX⟩ := List.find?_eq_some_iff_append.mp hf
    refine ⟨X, Y, hs, fun c hc => by simpa using hX c hc, ?_⟩
    rw [hs]
    exact updateEntry_split (fun c hc => by simpa using hX c hc) hp
  · intro hf
    exact updateEntry_absent (fun c hc => by simpa using List.find?_eq_none.mp hf c hc)

theorem updateEntry_length (k : MapKind) (entry : Value) : ∀ L : List HTree,
    (updateEntry k entry L).length = L.length
  | [] => rfl
  | c :: cs => by
    rw [updateEntry_cons]
    split
    · rfl
    · rw [List.length_cons, List.length_cons, updateEntry_length k entry cs]

theorem updateEntry_handlesList (k : MapKind) (entry : Value) : ∀ L : List HTree,
    handlesList (updateEntry k entry L) = handlesList L
  | [] => rfl
  | c :: cs => by
    rw [updateEntry_cons]
    split
    · rw [handlesList_cons, handlesList_cons, setValue_handles]
    · rw [handlesList_cons, handlesList_cons, updateEntry_handlesList k entry cs]

theorem updateEntry_map_handle (k : MapKind) (entry : Value) : ∀ L : List HTree,
    (updateEntry k entry L).map (·.handle) = L.map (·.handle) ∧
    (updateEntry k entry L).map (·.kids) = L.map (·.kids)
  | [] => ⟨rfl, rfl⟩
  | c :: cs => by
    rw [updateEntry_cons]
    split
    · simp only [List.map_cons, setValue_handle, setValue_kids]
      exact ⟨trivial, trivial⟩
    · obtain ⟨h1, h2⟩ := updateEntry_map_handle k entry cs
      simp only [List.map_cons, h1, h2]
      exact ⟨trivial, trivial⟩

/-! ### `insertEntry`: exactly one child appears -/

theorem insertEntry_nil (k : MapKind) (t : HTree) : insertEntry k t [] = [t] := rfl

theorem insertEntry_cons (k : MapKind) (t c : HTree) (cs : List HTree) :
    insertEntry k t (c :: cs) = if kidRank c ≤ viewRank k then c :: insertEntry k t cs else t :: c :: cs := rfl

theorem insertEntry_split {k : MapKind} {t : HTree} {X Q : List HTree}
    (hX : ∀ c ∈ X, kidRank c ≤ viewRank k) (hQ : ∀ c, Q.head? = some c → viewRank k < kidRank c) :
    insertEntry k t (X ++ Q) = X ++ t :: Q := by
  induction X with
  | nil =>
    cases Q with
    | nil => rfl
    | cons q Q =>
      have := hQ q rfl
      rw [List.nil_append, insertEntry_cons, if_neg (by omega)]
      rfl
  | cons a X ih =>
    rw [List.cons_append, insertEntry_cons, if_pos (hX a List.mem_cons_self),
      ih (fun c hc => hX c (List.mem_cons_of_mem _ hc))]
    rfl

/-- **insertEntry inserts exactly `t`**: the old children, unchanged and in order, with `t`
    between a prefix `A` of children of rank at most the view's and the rest `B`, which starts
    with a child of a higher rank (all of `B` has a higher rank when the list is ordered). -/
theorem insertEntry_spec (k : MapKind) (t : HTree) : ∀ L : List HTree,
    ∃ A B, L = A ++ B ∧ insertEntry k t L = A ++ t :: B ∧ (∀ c ∈ A, kidRank c ≤ viewRank k) ∧
      (∀ c, B.head? = some c → viewRank k < kidRank c)
  | [] => ⟨[], [], rfl, rfl, fun _ h => (by cases h), fun _ h => (by cases h)⟩
  | c :: cs => by
    by_cases hc : kidRank c ≤ viewRank k
    · obtain ⟨A, B, h1, h2, h3, h4⟩ := insertEntry_spec k t cs
      refine ⟨c :: A, B, by rw [h1]; rfl, ?_, ?_, h4⟩
      · rw [insertEntry_cons, if_pos hc, h2]; rfl
      · intro x hx
        cases List.mem_cons.1 hx with
        | inl e => rw [e]; exact hc
        | inr e => exact h3 x e
    · refine ⟨[], c :: cs, rfl, ?_, fun _ h => (by cases h), ?_⟩
      · rw [insertEntry_cons, if_neg hc]; rfl
      · intro x hx
        cases hx
        omega

theorem kidsOrdered_kidRank_le {a : HTree} {rest : List HTree} (h : kidsOrdered (a :: rest) = true) :
    ∀ b ∈ rest, kidRank a ≤ kidRank b := by
  intro b hb
  rw [kidRank_eq, kidRank_eq]
  exact kidsOrdered_rank_le rest h b hb

theorem insertEntry_spec_ordered (k : MapKind) (t : HTree) {L : List HTree} (ho : kidsOrdered L = true) :
    ∃ A B, L = A ++ B ∧ insertEntry k t L = A ++ t :: B ∧ (∀ c ∈ A, kidRank c ≤ viewRank k) ∧
      (∀ c ∈ B, viewRank k < kidRank c) := by
  obtain ⟨A, B, h1, h2, h3, h4⟩ := insertEntry_spec k t L
  refine ⟨A, B, h1, h2, h3, ?_⟩
  cases B with
  | nil => intro c hc; cases hc
  | cons b B =>
    have hb := h4 b rfl
    rw [h1] at ho
    have hoB := kidsOrdered_drop A ho
    intro c hc
    cases List.mem_cons.1 hc with
    | inl e => rw [e]; exact hb
    | inr e => exact Nat.lt_of_lt_of_le hb (kidsOrdered_kidRank_le hoB c e)

theorem insertEntry_length (k : MapKind) (t : HTree) (L : List HTree) :
    (insertEntry k t L).length = L.length + 1 := by
  obtain ⟨A, B, h1, h2, _, _⟩ := insertEntry_spec k t L
  rw [h2, h1]
  simp only [List.length_append, List.length_cons]
  omega

/-! ### The filter of `specMapRemove`: at most one child disappears -/

/-- The list function of `specMapRemove`. -/
def removeEntry (k : MapKind) (key : Nat) (L : List HTree) : List HTree :=
  L.filter (fun c => !isEntry k key c)

theorem specMapRemove_eq (k : MapKind) (e key : Nat) (f : Forest) :
    specMapRemove k e key f = f.editAt (some e) (removeEntry k key) := rfl

theorem removeEntry_sublist (k : MapKind) (key : Nat) (L : List HTree) :
    (removeEntry k key L).Sublist L := List.filter_sublist

theorem removeEntry_keeps {k : MapKind} {key : Nat} {L : List HTree} {c : HTree} (hc : c ∈ L)
    (hn : isEntry k key c = false) : c ∈ removeEntry k key L := by
  unfold removeEntry
  rw [List.mem_filter]
  exact ⟨hc, by rw [hn]; rfl⟩

theorem removeEntry_absent {k : MapKind} {key : Nat} {L : List HTree}
    (h : ∀ c ∈ L, isEntry k key c = false) : removeEntry k key L = L := by
  unfold removeEntry
  rw [List.filter_eq_self]
  intro c hc
  rw [h c hc]; rfl

theorem removeEntry_split {k : MapKind} {key : Nat} {X : List HTree} {n : HTree} {Y : List HTree}
    (hX : ∀ c ∈ X, isEntry k key c = false) (hn : isEntry k key n = true)
    (hY : ∀ c ∈ Y, isEntry k key c = false) : removeEntry k key (X ++ n :: Y) = X ++ Y := by
  have e1 := removeEntry_absent hX
  have e2 := removeEntry_absent hY
  unfold removeEntry at e1 e2 ⊢
  rw [List.filter_append, List.filter_cons, e1, e2, hn]
  rfl

theorem no_second_entry {k : MapKind} {key : Nat} {X : List HTree} {n : HTree} {Y : List HTree}
    (hu : keysUnique (Fmap.kindCat k) (X ++ n :: Y) = true) (hn : isEntry k key n = true) :
    ∀ c ∈ Y, isEntry k key c = false := by
  intro c hc
  cases h : isEntry k key c with
  | false => rfl
  | true =>
    exfalso
    have hcat : ∀ x : HTree, isEntry k key x = true → (x.value.category == Fmap.kindCat k) = true := by
      intro x hx
      unfold isEntry at hx
      rw [Bool.and_eq_true] at hx
      rw [(Fmap.matches_iff_cat k x.value).1 hx.1]
      exact beq_self_eq_true _
    unfold keysUnique at hu
    simp only [decide_eq_true_eq] at hu
    rw [List.filter_append, List.filter_cons, hcat n hn, if_pos rfl, List.map_append, List.map_cons] at hu
    have h2 := (List.nodup_append.1 hu).2.1
    rw [List.nodup_cons] at h2
    apply h2.1
    rw [isEntry_key hn, ← isEntry_key h]
    exact List.mem_map.2 ⟨c, List.mem_filter.2 ⟨hc, hcat c h⟩, rfl⟩

/-- **The filter of `specMapRemove` removes exactly one child** when the key is present and the
    keys of the view are unique (part of `Forest.Inv`): the entry with the key; every other child
    stays at its place. -/
theorem removeEntry_spec {k : MapKind} {key : Nat} {L : List HTree}
    (hu : keysUnique (Fmap.kindCat k) L = true) :
    (∀ n, L.find? (isEntry k key) = some n →
      ∃ X Y, L = X ++ n :: Y ∧ removeEntry k key L = X ++ Y) ∧
    (L.find? (isEntry k key) = none → removeEntry k key L = L) := by
  constructor
  · intro n hf
    obtain ⟨hp, X, Y, hs, hX⟩ := List.find?_eq_some_iff_append.mp hf
    refine ⟨X, Y, hs, ?_⟩
    rw [hs] at hu ⊢
    exact removeEntry_split (fun c hc => by simpa using hX c hc) hp (no_second_entry hu hp)
  · intro hf
    exact removeEntry_absent (fun c hc => by simpa using List.find?_eq_none.mp hf c hc)

theorem removeEntry_length {k : MapKind} {key : Nat} {L : List HTree}
    (hu : keysUnique (Fmap.kindCat k) L = true) :
    L.length ≤ (removeEntry k key L).length + 1 := by
  cases hf : L.find? (isEntry k key) with
  | none => rw [(removeEntry_spec hu).2 hf]; omega
  | some n =>
    obtain ⟨X, Y, h1, h2⟩ := (removeEntry_spec hu).1 n hf
    rw [h2, h1]
    simp only [List.length_append, List.length_cons]
    omega

/-! ### The specification on a child list cut at the entry -/

theorem any_isEntry_split {k : MapKind} {key : Nat} {X : List HTree} {n : HTree} {Y : List HTree}
    (hn : isEntry k key n = true) : (X ++ n :: Y).any (isEntry k key) = true := by
  rw [List.any_append, List.any_cons, hn]
  simp

theorem any_isEntry_absent {k : MapKind} {key : Nat} {L : List HTree}
    (h : ∀ c ∈ L, isEntry k key c = false) : L.any (isEntry k key) = false := by
  rw [List.any_eq_false]
  intro c hc
  rw [h c hc]; exact Bool.false_ne_true

theorem specMapInsert_present {f : Forest} {e : Nat} {v : Value} {L : List HTree} (s : SiteAt f e v L)
    {k : MapKind} {entry : Value} {X : List HTree} {n : HTree} {Y : List HTree} (hL : L = X ++ n :: Y)
    (hX : ∀ c ∈ X, isEntry k (entryKey entry) c = false) (hn : isEntry k (entryKey entry) n = true) :
    specMapInsert k e entry f =
      { f with roots := Fmap.withKids f.roots e (X ++ n.setValue (entryUpdate n.value entry) :: Y) } := by
  unfold specMapInsert
  rw [Forest.kidsOf_of_get s.kids, s.editAt_eq_withKids]
  subst hL
  rw [any_isEntry_split hn, if_pos rfl, updateEntry_split hX hn]

theorem specMapInsert_absent {f : Forest} {e : Nat} {v : Value} {L : List HTree} (s : SiteAt f e v L)
    {k : MapKind} {entry : Value} {X Q : List HTree} (hL : L = X ++ Q)
    (habs : ∀ c ∈ L, isEntry k (entryKey entry) c = false)
    (hX : ∀ c ∈ X, kidRank c ≤ viewRank k) (hQ : ∀ c ∈ Q, viewRank k < kidRank c) :
    specMapInsert k e entry f =
      { f with roots := Fmap.withKids f.roots e (X ++ .node f.next entry [] :: Q), next := f.next + 1 } := by
  unfold specMapInsert
  rw [Forest.kidsOf_of_get s.kids, any_isEntry_absent habs, if_neg Bool.false_ne_true,
    s.editAt_eq_withKids]
  subst hL
  rw [insertEntry_split hX (fun c hc => hQ c (List.mem_of_mem_head? hc))]

theorem specMapRemove_present {f : Forest} {e : Nat} {v : Value} {L : List HTree} (s : SiteAt f e v L)
    {k : MapKind} {key : Nat} {X : List HTree} {n : HTree} {Y : List HTree} (hL : L = X ++ n :: Y)
    (hX : ∀ c ∈ X, isEntry k key c = false) (hn : isEntry k key n = true)
    (hY : ∀ c ∈ Y, isEntry k key c = false) :
    specMapRemove k e key f = { f with roots := Fmap.withKids f.roots e (X ++ Y) } := by
  rw [specMapRemove_eq, s.editAt_eq_withKids]
  subst hL
  rw [removeEntry_split hX hn hY]

theorem specMapRemove_absent {f : Forest} {e : Nat} {v : Value} {L : List HTree} (s : SiteAt f e v L)
    {k : MapKind} {key : Nat} (habs : ∀ c ∈ L, isEntry k key c = false) :
    specMapRemove k e key f = f := by
  rw [specMapRemove_eq, s.congr (g' := id) (removeEntry_absent habs), Forest.editAt_id]

/-! ### The sections of an element's child list, by rank -/

theorem pre_rank {ks N A S : List HTree} (h : Fmap.Sect ks N A S) (k : MapKind) :
    ∀ c ∈ Fmap.preK k N, kidRank c < viewRank k := by
  intro c hc
  cases k with
  | attributes =>
    have : c.value.category = .namespace := h.allNs c hc
    rw [kidRank_eq, this]; decide
  | namespaces => cases hc

theorem sec_rank {ks N A S : List HTree} (h : Fmap.Sect ks N A S) (k : MapKind) :
    ∀ c ∈ Fmap.Sect.sec k N A, kidRank c = viewRank k := by
  intro c hc
  rw [kidRank_eq, viewRank_eq, h.sec_cat k c hc]

theorem post_rank {ks N A S : List HTree} (h : Fmap.Sect ks N A S) (k : MapKind) :
    ∀ c ∈ Fmap.postK k A S, viewRank k < kidRank c := by
  intro c hc
  cases k with
  | attributes =>
    have : c.value.category = .normal := h.allNm c hc
    rw [kidRank_eq, this]; decide
  | namespaces =>
    rcases List.mem_append.1 hc with hc | hc
    · have : c.value.category = .attribute := h.allAt c hc
      rw [kidRank_eq, this]; decide
    · have : c.value.category = .normal := h.allNm c hc
      rw [kidRank_eq, this]; decide

theorem isEntry_sec {ks N A S : List HTree} (h : Fmap.Sect ks N A S) (k : MapKind) (key : Nat) {c : HTree}
    (hc : c ∈ Fmap.Sect.sec k N A) : isEntry k key c = (Fmap.keyOf c == key) :=
  isEntry_of_rank_eq (sec_rank h k c hc)

theorem isEntry_pre {ks N A S : List HTree} (h : Fmap.Sect ks N A S) (k : MapKind) (key : Nat) {c : HTree}
    (hc : c ∈ Fmap.preK k N) : isEntry k key c = false :=
  isEntry_of_rank_ne (Nat.ne_of_lt (pre_rank h k c hc))

theorem isEntry_post {ks N A S : List HTree} (h : Fmap.Sect ks N A S) (k : MapKind) (key : Nat) {c : HTree}
    (hc : c ∈ Fmap.postK k A S) : isEntry k key c = false :=
  isEntry_of_rank_ne (Nat.ne_of_gt (post_rank h k c hc))

theorem isEntry_false_of_key {ks N A S : List HTree} (h : Fmap.Sect ks N A S) (k : MapKind) (key : Nat)
    {s : List HTree} (hs : ∀ c ∈ s, c ∈ Fmap.Sect.sec k N A) (hk : ∀ c ∈ s, Fmap.keyOf c ≠ key) :
    ∀ c ∈ s, isEntry k key c = false := by
  intro c hc
  rw [isEntry_sec h k key (hs c hc)]
  exact beq_false_of_ne (hk c hc)

theorem fs_entry_found {ks N A S : List HTree} (h : Fmap.Sect ks N A S) (k : MapKind) {key : Nat}
    {s1 s2 : List HTree} {n : HTree} (hs : Fmap.Sect.sec k N A = s1 ++ n :: s2) (hkey : Fmap.keyOf n = key)
    (hs1 : ∀ a ∈ s1, Fmap.keyOf a ≠ key) :
    isEntry k key n = true ∧ ∀ c ∈ Fmap.preK k N ++ s1, isEntry k key c = false := by
  constructor
  · rw [isEntry_sec h k _ (by rw [hs]; simp)]
    exact beq_iff_eq.2 hkey
  · intro c hc
    rcases List.mem_append.1 hc with hc | hc
    · exact isEntry_pre h k _ hc
    · exact isEntry_false_of_key h k _ (fun c hc => by rw [hs]; simp [hc]) hs1 c hc

theorem fs_entry_absent {ks N A S : List HTree} (h : Fmap.Sect ks N A S) (k : MapKind) {key : Nat}
    (habs : ∀ a ∈ Fmap.Sect.sec k N A, Fmap.keyOf a ≠ key) : ∀ c ∈ N ++ A ++ S, isEntry k key c = false := by
  intro c hc
  rw [Fmap.split_kids k N A S] at hc
  rcases List.mem_append.1 hc with hc | hc
  · rcases List.mem_append.1 hc with hc | hc
    · exact isEntry_pre h k _ hc
    · exact isEntry_false_of_key h k _ (fun _ hc => hc) habs c hc
  · exact isEntry_post h k _ hc

/-! ### The model equals the specification -/

theorem MInv_site {f : Forest} {e nm : Nat} {N A S : List HTree} (h : Fmap.MInv f e nm N A S) :
    SiteAt f e (.element nm) (N ++ A ++ S) := ⟨h.loc.nodup, h.loc.get⟩

/-- **C05, `insert(key, value)` on an attribute / namespace view**: on a forest satisfying the
    invariant the call succeeds and does exactly what the specification says — an existing key
    keeps its node and only its payload changes; a new key is carried by exactly one new node
    (handle `f.next`) placed last in the view. -/
theorem mapInsert_spec {f : Forest} (inv : f.Inv) {k : Forest.MapKind} {e : Nat} {entry : Value}
    (he : f.isElement e = true) (hm : k.matches entry = true) :
    f.mapInsert k e entry = (Spec.specMapInsert k e entry f, .ok) := by
  obtain ⟨nm, N, A, S, h⟩ := Fmap.minv_of_inv f e inv he
  have s := MInv_site h
  unfold Forest.mapInsert
  rw [he]
  simp only [Bool.not_true, Bool.false_eq_true, if_false]
  rw [h.getNode k]
  cases hf : (Fmap.Sect.sec k N A).find? (fun c => entryKey c.value == entryKey entry) with
  | some n =>
    obtain ⟨hkey, s1, s2, hs, hs1⟩ := Fmap.find?_key_split _ _ _ hf
    obtain ⟨heq, _⟩ := Fmap.insert_existing h k entry hm n s1 s2 hs _ hkey hs1
    obtain ⟨hn, hX⟩ := fs_entry_found h.sect k hs hkey hs1
    simp only
    rw [heq, specMapInsert_present s (Fmap.kids_around k N A S s1 s2 n hs) hX hn]
    simp
  | none =>
    have habs := Fmap.find?_key_none _ _ hf
    obtain ⟨hloc1, hroot1, hne1, hbelow1⟩ := Fmap.located_newNode h.loc h.below entry
    have h1 : Fmap.MInv (f.newNode entry).1 e nm N A S := ⟨hloc1, h.sect, h.uniq, hbelow1, h.leaf⟩
    obtain ⟨hplace, _⟩ := Fmap.place_absent h1 k f.next entry hm hroot1 hne1 habs
    rw [Fmap.rootsWithout_newNode f h.below entry] at hplace
    show (f.newNode entry).1.mapPlace k e f.next = _
    rw [hplace]
    have hL : N ++ A ++ S = (Fmap.preK k N ++ Fmap.Sect.sec k N A) ++ Fmap.postK k A S :=
      Fmap.split_kids k N A S
    have hno := fs_entry_absent h.sect k habs
    have hX : ∀ c ∈ Fmap.preK k N ++ Fmap.Sect.sec k N A, kidRank c ≤ viewRank k := by
      intro c hc
      rcases List.mem_append.1 hc with hc | hc
      · exact Nat.le_of_lt (pre_rank h.sect k c hc)
      · exact Nat.le_of_eq (sec_rank h.sect k c hc)
    rw [specMapInsert_absent s hL hno hX (post_rank h.sect k)]
    simp [Fmap.newNode_eq]

/-- **C05, `remove(key)` on an attribute / namespace view**: exactly the entry node with the key
    disappears (nothing at all for an absent key); no text is merged. -/
theorem mapRemove_spec {f : Forest} (inv : f.Inv) {k : Forest.MapKind} {e key : Nat}
    (he : f.isElement e = true) :
    f.mapRemove k e key = (Spec.specMapRemove k e key f, .ok) := by
  obtain ⟨nm, N, A, S, h⟩ := Fmap.minv_of_inv f e inv he
  have s := MInv_site h
  unfold Forest.mapRemove
  rw [he]
  simp only [Bool.not_true, Bool.false_eq_true, if_false]
  rw [h.getNode k]
  cases hf : (Fmap.Sect.sec k N A).find? (fun c => entryKey c.value == key) with
  | some n =>
    obtain ⟨hkey, s1, s2, hs, hs1⟩ := Fmap.find?_key_split _ _ _ hf
    obtain ⟨hrem, _⟩ := Fmap.remove_present h k key n s1 s2 hs hkey hs1
    obtain ⟨hn, hX⟩ := fs_entry_found h.sect k hs hkey hs1
    have hs2 : ∀ a ∈ s2, Fmap.keyOf a ≠ key := by
      have hu := h.uniq k
      rw [hs, List.map_append, List.map_cons] at hu
      have h2 := (List.nodup_append.1 hu).2.1
      rw [List.nodup_cons] at h2
      intro a ha hak
      exact h2.1 (by rw [hkey, ← hak]; exact List.mem_map.2 ⟨a, ha, rfl⟩)
    have hY : ∀ c ∈ s2 ++ Fmap.postK k A S, isEntry k key c = false := by
      intro c hc
      rcases List.mem_append.1 hc with hc | hc
      · exact isEntry_false_of_key h.sect k _ (fun c hc => by rw [hs]; simp [hc]) hs2 c hc
      · exact isEntry_post h.sect k _ hc
    simp only
    rw [hrem, specMapRemove_present s (Fmap.kids_around k N A S s1 s2 n hs) hX hn hY]
    simp
  | none =>
    have habs := Fmap.find?_key_none _ _ hf
    simp only
    rw [specMapRemove_absent s (fs_entry_absent h.sect k habs)]

end XotModel
