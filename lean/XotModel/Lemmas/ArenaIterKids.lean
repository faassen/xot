/-
  The sibling-chain iterators on a well-formed arena:
  `children` yields the list-level children in order, `reverse_children` (= what xot's own
  `reverse_children` walks) the same list reversed, `following_siblings` / `preceding_siblings`
  the node and what follows / precedes it; none of them reaches its limit, panics or yields a
  removed id.
-/
import XotModel.Lemmas.ArenaInsert

namespace XotModel
namespace Arena

/-- A suffix of a child list is linked by `next_sibling`. -/
theorem Rep.links_next {a : Arena} {g : Shape} (r : Rep a g) (p : Nat) :
    ∀ (ks pre : List Nat), g.kids p = pre ++ ks → Links a a (·.next) ks
  | [], _, _ => trivial
  | c :: rest, pre, hk => by
    obtain ⟨s, hs, _, _, _, _, hn⟩ := r.child_slot hk
    exact ⟨⟨s, hs, hn⟩, r.links_next p rest (pre ++ [c]) (by rw [hk]; simp)⟩

/-- Forward walk over a suffix of the children of `p`, up to the given last child. -/
theorem Rep.walkTo_next {a : Arena} {g : Shape} (r : Rep a g) (p : Nat) (last : Nat) (suf pre : List Nat) (k : Nat)
    (hk : g.kids p = pre ++ k :: suf) (hl : (k :: suf).getLast? = some last) (limit : Nat)
    (hlim : (k :: suf).length ≤ limit) :
    walkTo a (·.next) limit (some (a.idAt k)) (some (a.idAt last)) = .done a ((k :: suf).map a.idAt) := by
  rw [← List.take_of_length_le hlim]
  have hnd : (pre ++ k :: suf).Nodup := hk ▸ r.kidsNodup p
  exact walkTo_links a _ last _ limit (r.links_next p _ pre hk) (List.nodup_append.mp hnd).2.1 hl

theorem Rep.children_eq {a : Arena} {g : Shape} (r : Rep a g) (p : Nat) (hp : Live a p) (limit : Nat)
    (hlim : (g.kids p).length ≤ limit) :
    children a (a.idAt p) limit = .done a ((g.kids p).map a.idAt) := by
  obtain ⟨sp, hsp, hp0⟩ := hp
  unfold children
  rw [rd_idAt a a hsp]
  have P := r.ptrs p sp hsp hp0
  rw [P.first, P.last]
  cases hk : g.kids p with
  | nil => cases limit <;> simp [walkTo]
  | cons k suf =>
    cases hl : (k :: suf).getLast? with
    | none => simp at hl
    | some last =>
      simp only [List.head?_cons, Option.map_some]
      exact r.walkTo_next p last suf [] k (by rw [hk]; rfl) hl limit (by rw [hk] at hlim; exact hlim)

/-- The children before `k`, nearest first, are linked by `previous_sibling`. -/
theorem Rep.links_prev {a : Arena} {g : Shape} (r : Rep a g) (p : Nat) :
    ∀ (rpre suf : List Nat) (k : Nat), g.kids p = rpre.reverse ++ k :: suf → Links a a (·.prev) (k :: rpre)
  | [], suf, k, hk => by
    obtain ⟨sk, hsk, _, _, _, e2, _⟩ := r.child_slot hk
    exact ⟨⟨sk, hsk, e2⟩, trivial⟩
  | k' :: rp, suf, k, hk => by
    obtain ⟨sk, hsk, _, _, _, e2, _⟩ := r.child_slot hk
    exact ⟨⟨sk, hsk, by show sk.prev = _; rw [e2]; simp⟩, r.links_prev p rp (k :: suf) k' (by rw [hk]; simp)⟩

/-- Backward walk (`Iter` along `previous_sibling`) over a prefix of the children of `p`. -/
theorem Rep.walk_prev {a : Arena} {g : Shape} (r : Rep a g) (p : Nat) (rpre suf : List Nat) (k : Nat)
    (hk : g.kids p = rpre.reverse ++ k :: suf) (limit : Nat) (hlim : (k :: rpre).length ≤ limit) :
    walk a (·.prev) limit (some (a.idAt k)) = .done a ((k :: rpre).map a.idAt) := by
  rw [← List.take_of_length_le hlim]
  exact walk_links a _ _ limit (r.links_prev p rpre suf k hk)

/-- `reverse_children` (the deprecated `ReverseChildren`; xot's `reverse_children` walks the
    same pointers itself). -/
theorem Rep.reverseChildren_eq {a : Arena} {g : Shape} (r : Rep a g) (p : Nat) (hp : Live a p) (limit : Nat)
    (hlim : (g.kids p).length ≤ limit) :
    reverseChildren a (a.idAt p) limit = .done a ((g.kids p).reverse.map a.idAt) := by
  obtain ⟨sp, hsp, hp0⟩ := hp
  unfold reverseChildren
  rw [rd_idAt a a hsp]
  rw [(r.ptrs p sp hsp hp0).last]
  rcases List.eq_nil_or_concat (g.kids p) with hk | ⟨pre, k, hk⟩
  · rw [hk]
    cases limit <;> rfl
  · have := r.walk_prev p pre.reverse [] k (by rw [hk]; simp) limit (by rw [hk] at hlim; simpa using hlim)
    rw [hk]
    simp
    rw [this]; simp

/-- `following_siblings` of a node with a parent: the node, then what follows it. -/
theorem Rep.followingSiblings_eq {a : Arena} {g : Shape} (r : Rep a g) (i p : Nat) (L R : List Nat) (hi : Live a i)
    (hpar : g.par i = some p) (hk : g.kids p = L ++ i :: R) (limit : Nat) (hlim : (i :: R).length ≤ limit) :
    followingSiblings a (a.idAt i) limit = .done a ((i :: R).map a.idAt) := by
  obtain ⟨si, hsi, hi0⟩ := hi
  obtain ⟨sp, hsp, hp0⟩ := (r.live_of_par hpar).2
  unfold followingSiblings parentField get
  have hsi' : a.nodes[(a.idAt i).index0]? = some si := hsi
  have hparent : si.parent = some (a.idAt p) := by rw [(r.ptrs i si hsi hi0).parent, hpar]; rfl
  have hsp' : a.nodes[(a.idAt p).index0]? = some sp := hsp
  simp only [hsi', hparent, hsp']
  rw [(r.ptrs p sp hsp hp0).last, hk]
  cases hl : (L ++ i :: R).getLast? with
  | none => simp at hl
  | some last =>
    simp only [Option.map_some]
    have hl' : (i :: R).getLast? = some last := by
      rw [List.getLast?_append] at hl
      cases h : (i :: R).getLast? with
      | none => simp at h
      | some x => rw [h] at hl; simpa using hl
    exact r.walkTo_next p last R L i hk hl' limit hlim

/-- A parentless node is its own only following / preceding sibling. -/
theorem Rep.followingSiblings_root {a : Arena} {g : Shape} (r : Rep a g) (i : Nat) (hi : Live a i)
    (hpar : g.par i = none) (limit : Nat) (hlim : 1 ≤ limit) :
    followingSiblings a (a.idAt i) limit = .done a [a.idAt i] := by
  obtain ⟨si, hsi, hi0⟩ := hi
  unfold followingSiblings parentField get
  have hsi' : a.nodes[(a.idAt i).index0]? = some si := hsi
  have hparent : si.parent = none := by rw [(r.ptrs i si hsi hi0).parent, hpar]; rfl
  simp only [hsi', hparent]
  obtain ⟨n, rfl⟩ : ∃ n, limit = n + 1 := ⟨limit - 1, by omega⟩
  unfold walkTo
  simp only []
  rw [rd_idAt a a hsi]
  rw [((r.ptrs i si hsi hi0).root hpar).2]
  cases n <;> simp [walkTo]

/-- Backward walk up to the first child (`DoubleEndedIter` along `previous_sibling`). -/
theorem Rep.walkTo_prev {a : Arena} {g : Shape} (r : Rep a g) (p : Nat) (first : Nat) (rpre suf : List Nat) (k : Nat)
    (hk : g.kids p = rpre.reverse ++ k :: suf) (hf : (g.kids p).head? = some first) (limit : Nat)
    (hlim : (k :: rpre).length ≤ limit) :
    walkTo a (·.prev) limit (some (a.idAt k)) (some (a.idAt first)) = .done a ((k :: rpre).map a.idAt) := by
  rw [← List.take_of_length_le hlim]
  have hnd : (rpre.reverse ++ k :: suf).Nodup := hk ▸ r.kidsNodup p
  have hnd' := List.nodup_append.mp hnd
  refine walkTo_links a _ first _ limit (r.links_prev p rpre suf k hk) ?_ ?_
  · exact List.nodup_cons.mpr ⟨fun hm => hnd'.2.2 k (List.mem_reverse.mpr hm) k List.mem_cons_self rfl,
      (List.pairwise_reverse.mp hnd'.1).imp Ne.symm⟩
  · rw [hk] at hf
    cases rpre with
    | nil => simpa using hf
    | cons y ys =>
      rw [List.getLast?_cons_cons, ← List.head?_reverse]
      cases h : (y :: ys).reverse with
      | nil => simp at h
      | cons z zs => rw [h] at hf; simpa using hf

/-- `preceding_siblings` of a node with a parent: the node, then what precedes it, nearest first. -/
theorem Rep.precedingSiblings_eq {a : Arena} {g : Shape} (r : Rep a g) (i p : Nat) (L R : List Nat) (hi : Live a i)
    (hpar : g.par i = some p) (hk : g.kids p = L ++ i :: R) (limit : Nat) (hlim : (i :: L).length ≤ limit) :
    precedingSiblings a (a.idAt i) limit = .done a ((i :: L.reverse).map a.idAt) := by
  obtain ⟨si, hsi, hi0⟩ := hi
  obtain ⟨sp, hsp, hp0⟩ := (r.live_of_par hpar).2
  unfold precedingSiblings parentField get
  have hsi' : a.nodes[(a.idAt i).index0]? = some si := hsi
  have hparent : si.parent = some (a.idAt p) := by rw [(r.ptrs i si hsi hi0).parent, hpar]; rfl
  have hsp' : a.nodes[(a.idAt p).index0]? = some sp := hsp
  simp only [hsi', hparent, hsp']
  rw [(r.ptrs p sp hsp hp0).first]
  cases hf : (g.kids p).head? with
  | none => rw [hk] at hf; cases L <;> simp at hf
  | some first =>
    simp only [Option.map_some]
    exact r.walkTo_prev p first L.reverse R i (by rw [hk]; simp) hf limit (by simpa using hlim)

end Arena
end XotModel
