/-
  C17 "the recorded span is the span of the token that made the node,
  and the node's value is the decoding of that token": the vocabulary.

  `Desc ts g env stack path t`: every node of the subtree `t` sitting at `path` is DESCRIBED by a
  token of the token list `ts` — `g` reads the span map, `env` the interning tables, `stack` the
  namespace declarations in force around `t`:
    * element   `ElementStart` = `Span::from_prefix_name` of an `ElementStart` token whose local
                name is the local name of the node's name id and whose prefix resolves (in the
                element's own declarations, then the enclosing ones) to the name's namespace;
                `ElementEnd` = the whole span of a `/>` or `</q>` token, and an end tag `</q>` is
                written with the prefix and the local name of that `ElementStart` token (`EndLink`;
                `PfxDesc` carries `open_prefixes` against the open frames for it); every attribute child
                has `AttributeName` / `AttributeValue` = name / value span of an `Attribute` token
                whose decoded value (ID-normalised for the name id of xml:id) is the child's value;
    * text      `Text` = from the start of the first to the end of the last token of a RUN of
                consecutive tokens of `ts` (text and CDATA tokens, with tokens the builder ignores
                in between), and the value is the concatenation of the decoded run;
    * comment / PI   the body / target / content spans of a `Comment` / `PI` token; the node's value
                (PI: data) is `normalizeLineEnds` (CR LF / CR → LF) of the body / content text, the PI's
                name is the target text as written, which is not `xml` in any letter case.
  `DInv ts done b` is the invariant of the token loop after the tokens `done` (Lemmas/SpanDesc).
-/
import XotModel.Lemmas.ParseSpanKeys
import XotModel.Lemmas.ParseSpans
import XotModel.Lemmas.LineEnds

namespace XotModel

/-- The interning tables only grow at the end. -/
structure SdEnvApp (e e' : Env) : Prop where
  pfx : ∃ x, e'.prefixes = e.prefixes ++ x
  ns : ∃ x, e'.namespaces = e.namespaces ++ x
  nm : ∃ x, e'.names = e.names ++ x

theorem SdEnvApp.refl (e : Env) : SdEnvApp e e := ⟨⟨[], by simp⟩, ⟨[], by simp⟩, ⟨[], by simp⟩⟩

theorem SdEnvApp.trans {a b c : Env} (h1 : SdEnvApp a b) (h2 : SdEnvApp b c) : SdEnvApp a c := by
  obtain ⟨⟨x1, e1⟩, ⟨y1, f1⟩, ⟨z1, g1⟩⟩ := h1
  obtain ⟨⟨x2, e2⟩, ⟨y2, f2⟩, ⟨z2, g2⟩⟩ := h2
  exact ⟨⟨x1 ++ x2, by rw [e2, e1, List.append_assoc]⟩, ⟨y1 ++ y2, by rw [f2, f1, List.append_assoc]⟩,
    ⟨z1 ++ z2, by rw [g2, g1, List.append_assoc]⟩⟩

/-- `(prefix id, namespace id)` of the namespace-node children, in document order. -/
def sdDeclsOf (ks : List Tree) : List (Nat × Nat) :=
  ks.filterMap fun k => match k.value with
    | .namespace p n => some (p, n)
    | _ => none

/-- The bottom of the namespace stack (`NameIdBuilder::new`). -/
def baseStack : NsStack := [[(Env.emptyPrefix, Env.noNamespace)], [(Env.xmlPrefix, Env.xmlNamespace)]]

/-- The name id `id` is (local name as written, namespace the written prefix is bound to in
    `stack`); for an attribute the prefix with id 0 (the empty prefix) means no namespace. -/
def NameFacts (env : Env) (stack : NsStack) (attr : Bool) (id : Nat) (p l : Str) : Prop :=
  p ∈ env.prefixes ∧
  ∃ ns, env.names[id]? = some (l, ns) ∧
    if attr = true ∧ env.prefixes.idxOf p = Env.emptyPrefix then ns = Env.noNamespace
    else lookupPrefix stack (env.prefixes.idxOf p) = some ns

def AttrFacts (ts : List Token) (g : SpanKey → Option Span) (env : Env) (stack : NsStack) (path : Path)
    (n : Nat) (v : Str) : Prop :=
  ∃ p l val sp, Token.attribute p l val sp ∈ ts ∧
    g ⟨path, .attributeName n⟩ = some (Span.fromPrefixName p l) ∧
    g ⟨path, .attributeValue n⟩ = some val.span ∧
    (∃ raw, parseContentGo true val.start 0 val.text = .ok raw ∧ v = xmlIdValue n raw) ∧
    NameFacts env stack true n p.text l.text

/-- Start tag of the element `id` at `path` with children `ks` (any order). -/
def StartFacts (ts : List Token) (g : SpanKey → Option Span) (env : Env) (stack : NsStack) (path : Path)
    (id : Nat) (ks : List Tree) : Prop :=
  (∃ p l sp, Token.elementStart p l sp ∈ ts ∧
    g ⟨path, .elementStart⟩ = some (Span.fromPrefixName p l) ∧ NameFacts env stack false id p.text l.text) ∧
  ∀ k ∈ ks, ∀ n v, k.value = .attribute n v → AttrFacts ts g env stack path n v

/-- An end tag `</p:l>` closes an element whose start tag - the `ElementStart` token whose name span is
    recorded for the element - is written with the same prefix and the same local name
    (`close_element`: same name id AND `open_prefixes.last() == prefix`). -/
def EndLink (ts : List Token) (g : SpanKey → Option Span) (path : Path) (e : ElementEnd) : Prop :=
  ∀ p l, e = .close p l → ∃ ps ls wsp, Token.elementStart ps ls wsp ∈ ts ∧
    g ⟨path, .elementStart⟩ = some (Span.fromPrefixName ps ls) ∧ ps.text = p.text ∧ ls.text = l.text

def EndFacts (ts : List Token) (g : SpanKey → Option Span) (path : Path) : Prop :=
  ∃ e sp, Token.elementEnd e sp ∈ ts ∧ e ≠ .open ∧ g ⟨path, .elementEnd⟩ = some sp.span ∧ EndLink ts g path e

/-! ### Text runs -/

/-- A token that makes or extends a text node. -/
def Token.isReal : Token → Bool
  | .text _ => true
  | .cdata t _ => !t.text.isEmpty
  | _ => false

/-- A token that leaves the children of the current node and the `Text` spans alone. -/
def Token.passive : Token → Bool
  | .cdata t _ => t.text.isEmpty
  | .declaration _ _ _ _ => true
  | .elementStart _ _ _ => true
  | .attribute _ _ _ _ => true
  | _ => false

/-- What may occur inside a run. -/
def Token.isRunTok (t : Token) : Bool := t.isReal || t.passive

/-- The character data a run contributes: text tokens decoded by `parse_content`, CDATA content
    with CR LF / CR turned into LF. -/
def runValue : List Token → Option Str
  | [] => some []
  | .text t :: r =>
    match parseContentGo false t.start 0 t.text, runValue r with
    | .ok v, some w => some (v ++ w)
    | _, _ => none
  | .cdata t _ :: r => (runValue r).map (fun w => replaceCr (replaceCrLf t.text) ++ w)
  | _ :: r => runValue r

/-- `run` starts and ends with a real character-data token, and `sp` goes from the start of the
    first one's text to the end of the last one's. -/
structure RunOk (run : List Token) (sp : Span) : Prop where
  toks : ∀ t ∈ run, t.isRunTok = true
  first : ∃ t rest f, run = t :: rest ∧ t.isReal = true ∧ t.textSpan? = some f ∧ sp.start = f.start
  last : ∃ pre t l, run = pre ++ [t] ∧ t.isReal = true ∧ t.textSpan? = some l ∧ sp.stop = l.stop

def TextFacts (ts : List Token) (g : SpanKey → Option Span) (path : Path) (v : Str) : Prop :=
  ∃ run sp, run <:+: ts ∧ RunOk run sp ∧ runValue run = some v ∧ g ⟨path, .text⟩ = some sp

/-- The text node that can still be extended: its run ends, up to passive tokens, where the
    consumed tokens `done` end. -/
def OpenText (done : List Token) (g : SpanKey → Option Span) (path : Path) (v : Str) : Prop :=
  ∃ run skips sp, (run ++ skips) <:+ done ∧ (∀ t ∈ skips, t.passive = true) ∧ RunOk run sp ∧
    runValue run = some v ∧ g ⟨path, .text⟩ = some sp

def CommentFacts (ts : List Token) (g : SpanKey → Option Span) (path : Path) (v : Str) : Prop :=
  ∃ t sp, Token.comment t sp ∈ ts ∧ g ⟨path, .comment⟩ = some t.span ∧
    v = normalizeLineEnds t.text

def PiFacts (ts : List Token) (g : SpanKey → Option Span) (env : Env) (path : Path) (id : Nat)
    (d : Option Str) : Prop :=
  ∃ target content sp, Token.pi target content sp ∈ ts ∧
    g ⟨path, .piTarget⟩ = some target.span ∧
    env.names[id]? = some (target.text, Env.noNamespace) ∧
    d = content.map (fun c => normalizeLineEnds c.text) ∧
    (∀ c, content = some c → g ⟨path, .piContent⟩ = some c.span) ∧
    isReservedPiTarget target.text = false

/-! ### The tree -/

/-- The declarations in force inside a node: an element adds its own. -/
def innerStack (v : Value) (ks : List Tree) (stack : NsStack) : NsStack :=
  match v with
  | .element _ => sdDeclsOf ks :: stack
  | _ => stack

def NodeFacts (ts : List Token) (g : SpanKey → Option Span) (env : Env) (stack : NsStack) (path : Path)
    (v : Value) (ks : List Tree) : Prop :=
  match v with
  | .element id => StartFacts ts g env stack path id ks ∧ EndFacts ts g path
  | .text s => TextFacts ts g path s
  | .comment s => CommentFacts ts g path s
  | .pi id d => PiFacts ts g env path id d
  | _ => True

/-- Every node of the tree at `path` is described by a token; `stack` = declarations around it. -/
def Desc (ts : List Token) (g : SpanKey → Option Span) (env : Env) : NsStack → Path → Tree → Prop
  | stack, path, .node v ks =>
    NodeFacts ts g env (innerStack v ks stack) path v ks ∧ descList (innerStack v ks stack) path 0 ks
where
  descList : NsStack → Path → Nat → List Tree → Prop
    | _, _, _, [] => True
    | stack, path, i, k :: ks => Desc ts g env stack (path ++ [i]) k ∧ descList stack path (i + 1) ks

/-- Finished children of a frame at `path`, last child first. -/
def DescR (ts : List Token) (g : SpanKey → Option Span) (env : Env) (stack : NsStack) (path : Path) :
    List Tree → Prop
  | [] => True
  | k :: rest => Desc ts g env stack (path ++ [rest.length]) k ∧ DescR ts g env stack path rest

/-- One open frame at `path`; `stack` = the declarations in force inside it. -/
def FrameDesc (ts : List Token) (g : SpanKey → Option Span) (env : Env) (stack : NsStack) (path : Path)
    (f : Frame) : Prop :=
  DescR ts g env stack path f.rkids ∧
  match f.value with
  | .element id => StartFacts ts g env stack path id f.rkids ∧ stack.head? = some (sdDeclsOf f.rkids.reverse)
  | _ => stack = baseStack

/-- The stack below a frame. -/
def outerStack (v : Value) (stack : NsStack) : NsStack :=
  match v with
  | .element _ => stack.tail
  | _ => stack

/-- All open frames, current first. -/
def StackDesc (ts : List Token) (g : SpanKey → Option Span) (env : Env) : NsStack → List Frame → Prop
  | _, [] => True
  | stack, f :: rest =>
    FrameDesc ts g env stack (framesPath rest) f ∧ StackDesc ts g env (outerStack f.value stack) rest

/-- `open_prefixes` against the open frames (current first): every open element was opened by an
    `ElementStart` token whose name span is the recorded one, whose prefix AS WRITTEN is the entry of
    `open_prefixes` and whose local name is that of the element's name id. -/
def PfxDesc (ts : List Token) (g : SpanKey → Option Span) (env : Env) : List Frame → List Str → Prop
  | [], _ => True
  | f :: rest, ops =>
    match f.value with
    | .element id =>
      (∃ p l sp, Token.elementStart p l sp ∈ ts ∧
        g ⟨framesPath rest, .elementStart⟩ = some (Span.fromPrefixName p l) ∧ ops.head? = some p.text ∧
        ∃ ns, env.names[id]? = some (l.text, ns)) ∧ PfxDesc ts g env rest ops.tail
    | _ => PfxDesc ts g env rest ops

/-! ### Which keys a step may not touch -/

/-- `x` lies inside a finished subtree of one of the frames. -/
def Frozen : List Frame → Path → Prop
  | [], _ => False
  | f :: rest, x => (∃ i, i < f.rkids.length ∧ (framesPath rest ++ [i]) <+: x) ∨ Frozen rest x

/-- `k` is a start-tag key of one of the open frames. -/
def OwnKey : List Frame → SpanKey → Prop
  | [], _ => False
  | _ :: rest, k => (k.path = framesPath rest ∧ k.kind ≠ .elementEnd) ∨ OwnKey rest k

def Prot (l : List Frame) (k : SpanKey) : Prop := Frozen l k.path ∨ OwnKey l k

/-! ### The pending start tag -/

def AbFacts (ts : List Token) (ab : AttributeBuilder) : Prop :=
  ∃ p l val sp, Token.attribute p l val sp ∈ ts ∧ ab.pfx = p.text ∧ ab.name = l.text ∧
    ab.nameSpan = Span.fromPrefixName p l ∧ ab.valueSpan = val.span ∧
    parseContentGo true val.start 0 val.text = .ok ab.value

def EbFacts (ts : List Token) (eb : ElementBuilder) : Prop :=
  (∃ p l sp, Token.elementStart p l sp ∈ ts ∧ eb.pfx = p.text ∧ eb.name = l.text ∧
    eb.span = Span.fromPrefixName p l) ∧
  ∀ ab ∈ eb.attributes, AbFacts ts ab

/-- The invariant of the token loop: `done` = the tokens consumed so far. -/
structure DInv (ts done : List Token) (b : Builder) : Prop where
  pre : done <+: ts
  stack : StackDesc ts b.spans.get b.env b.nsStack (b.cur :: b.parents)
  pfx : PfxDesc ts b.spans.get b.env (b.cur :: b.parents) b.openPrefixes
  eb : ∀ e, b.eb = some e → EbFacts ts e
  opn : ∀ s ks more, b.cur.rkids = .node (.text s) ks :: more →
    OpenText done b.spans.get (b.curPath ++ [more.length]) s
  /-- Every recorded key belongs to a node that comes, in document order (the lexicographic order of paths),
      before the node that would be made next: the keys of that node are still free. -/
  seen : ∀ k, HasKey b.spans k → k.path < framesPath (b.cur :: b.parents)

end XotModel
