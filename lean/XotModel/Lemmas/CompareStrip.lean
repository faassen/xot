/-
  C13: removing comments and processing instructions.
  `Tree.stripCommentsPis` deletes every comment / PI node below the root (nothing is merged: two
  text nodes separated by a comment become two adjacent text nodes).  On trees whose discarded
  nodes are leaves the stripped tree is structurally valid, and the XPath-filtered comparison of
  two trees is the unfiltered comparison of the stripped trees.
-/
import XotModel.Lemmas.BasicFacts
import XotModel.Lemmas.CompareCanon
import XotModel.Lemmas.CompareText
import XotModel.Model.ValidDoc

namespace XotModel

mutual
/-- Delete every comment and processing instruction below the root (with whatever hangs under
    it); every other node stays where it is.  Adjacent text nodes are NOT merged. -/
def Tree.stripCommentsPis : Tree → Tree
  | .node v ks => .node v (stripCommentsPisList ks)
def stripCommentsPisList : List Tree → List Tree
  | [] => []
  | k :: ks =>
    if k.value.isCommentOrPi then stripCommentsPisList ks
    else Tree.stripCommentsPis k :: stripCommentsPisList ks
end

/-- No document node below the root (a document node is only ever a root). -/
def Tree.noInnerDocument : Tree → Bool
  | .node _ ks => noDocList ks
where
  noDocList : List Tree → Bool
    | [] => true
    | k :: ks => !k.value.isDocument && Tree.noInnerDocument k && noDocList ks

/-! ### `stripCommentsPis` is `discard xpathKeep` when no document node sits below the root -/

theorem xpathKeep_iff_not_commentOrPi {v : Value} (h : v.isDocument = false) :
    (v.isNormal && !xpathKeep v) = v.isCommentOrPi := by
  cases v <;> first | rfl | cases h

mutual
theorem strip_eq_discard : ∀ t : Tree, t.noInnerDocument = true → t.stripCommentsPis = discard xpathKeep t
  | .node v ks => by
    intro h
    simp only [Tree.noInnerDocument] at h
    simp only [Tree.stripCommentsPis, discard, stripList_eq_discardList ks h]
theorem stripList_eq_discardList : ∀ ks : List Tree, Tree.noInnerDocument.noDocList ks = true →
    stripCommentsPisList ks = discardList xpathKeep ks
  | [] => fun _ => rfl
  | k :: ks => by
    intro h
    simp only [Tree.noInnerDocument.noDocList, Bool.and_eq_true, Bool.not_eq_true'] at h
    obtain ⟨⟨hd, hk⟩, hks⟩ := h
    simp only [stripCommentsPisList, discardList, xpathKeep_iff_not_commentOrPi hd,
      strip_eq_discard k hk, stripList_eq_discardList ks hks]
end

/-! ### The tree with the dropped leaves discarded is structurally valid -/

theorem mem_discardList {g : Value → Bool} {ks : List Tree} {x : Tree} (h : x ∈ discardList g ks) :
    ∃ k ∈ ks, x = discard g k := by
  induction ks with
  | nil => simp [discardList] at h
  | cons k ks ih =>
    simp only [discardList] at h
    split at h
    · obtain ⟨k', hk', e⟩ := ih h
      exact ⟨k', List.mem_cons_of_mem _ hk', e⟩
    · rcases List.mem_cons.mp h with e | h'
      · exact ⟨k, List.mem_cons_self, e⟩
      · obtain ⟨k', hk', e⟩ := ih h'
        exact ⟨k', List.mem_cons_of_mem _ hk', e⟩

theorem all_discardList {g : Value → Bool} (q : Value → Bool) {ks : List Tree}
    (h : ks.all (fun k => q k.value) = true) : (discardList g ks).all (fun k => q k.value) = true := by
  rw [List.all_eq_true] at h ⊢
  intro x hx
  obtain ⟨k, hk, e⟩ := mem_discardList hx
  rw [e, discard_value]; exact h k hk

theorem all_dropWhile {α} (p q : α → Bool) {l : List α} (h : l.all q = true) : (l.dropWhile p).all q = true := by
  rw [List.all_eq_true] at h ⊢
  exact fun x hx => h x (List.dropWhile_subset _ hx)

theorem ordered2_discardList (g : Value → Bool) (ks : List Tree)
    (h : (ks.dropWhile (fun k => k.value.category == .attribute)).all (fun k => k.value.isNormal) = true) :
    ((discardList g ks).dropWhile (fun k => k.value.category == .attribute)).all (fun k => k.value.isNormal) = true := by
  induction ks with
  | nil => simp [discardList]
  | cons k ks ih =>
    by_cases hc : k.value.category = .attribute
    · have hn : k.value.isNormal = false := by simp [Value.isNormal, hc]
      have hd : discardList g (k :: ks) = discard g k :: discardList g ks := by simp [discardList, hn]
      rw [hd, List.dropWhile_cons]
      rw [List.dropWhile_cons] at h
      simp only [discard_value, hc, beq_self_eq_true, ↓reduceIte] at h ⊢
      exact ih h
    · have hb : (k.value.category == Category.attribute) = false := by simpa using hc
      rw [List.dropWhile_cons] at h
      simp only [hb, Bool.false_eq_true, ↓reduceIte] at h
      exact all_dropWhile _ _ (all_discardList (g := g) Value.isNormal h)

theorem orderedKids_discardList (g : Value → Bool) (ks : List Tree) (h : orderedKids ks = true) :
    orderedKids (discardList g ks) = true := by
  unfold orderedKids at h ⊢
  induction ks with
  | nil => simp [discardList]
  | cons k ks ih =>
    by_cases hc : k.value.category = .namespace
    · have hn : k.value.isNormal = false := by simp [Value.isNormal, hc]
      have hd : discardList g (k :: ks) = discard g k :: discardList g ks := by simp [discardList, hn]
      rw [hd, List.dropWhile_cons]
      rw [List.dropWhile_cons] at h
      simp only [discard_value, hc, beq_self_eq_true, ↓reduceIte] at h ⊢
      exact ih h
    · have hb : (k.value.category == Category.namespace) = false := by simpa using hc
      rw [List.dropWhile_cons] at h
      simp only [hb, Bool.false_eq_true, ↓reduceIte] at h
      have h2 := ordered2_discardList g (k :: ks) h
      -- dropping leading namespace nodes of a list that already satisfies the rest
      generalize discardList g (k :: ks) = l at h2
      clear h ih hb hc
      induction l with
      | nil => simp
      | cons x xs ihx =>
        rw [List.dropWhile_cons]
        split
        · rename_i hx
          have hx' : x.value.category = .namespace := by simpa using hx
          have : (x.value.category == Category.attribute) = false := by simp [hx']
          rw [List.dropWhile_cons] at h2
          simp only [this, Bool.false_eq_true, ↓reduceIte, List.all_cons, Bool.and_eq_true] at h2
          have hxn : x.value.isNormal = false := by simp [Value.isNormal, hx']
          rw [hxn] at h2; exact absurd h2.1 (by simp)
        · exact h2

theorem valid_discard_of_valid (g : Value → Bool) (t : Tree) : t.valid = true → (discard g t).valid = true := by
  induction t using Tree.induct_mem with
  | h v ks ih =>
    intro hv
    obtain ⟨ho, hn, hl, hk⟩ := valid_node hv
    simp only [discard, Tree.valid, Bool.and_eq_true, Bool.or_eq_true, List.isEmpty_iff, validList_iff]
    refine ⟨⟨⟨orderedKids_discardList g ks ho, ?_⟩, ?_⟩, ?_⟩
    · simpa [attrNamesNodup, attrPairs_discardList] using hn
    · rcases hl with hl | hl
      · exact Or.inl hl
      · subst hl; exact Or.inr rfl
    · intro x hx
      obtain ⟨k, hk', e⟩ := mem_discardList hx
      rw [e]; exact ih k hk' (hk k hk')

/-- `validFor g` asks more than `valid`: the nodes `g` drops are leaves too. -/
theorem Compare.valid_of_validFor (g : Value → Bool) (t : Tree) : t.validFor g = true → t.valid = true := by
  induction t using Tree.induct_mem with
  | h v ks ih =>
    intro hv
    obtain ⟨ho, hn, hl, hk⟩ := validFor_node hv
    simp only [Tree.valid, Bool.and_eq_true, Bool.or_eq_true, List.isEmpty_iff, validList_iff]
    refine ⟨⟨⟨ho, hn⟩, hl.imp (fun h => ?_) id⟩, fun k hk' => ih k hk' (hk k hk')⟩
    simp only [keptBy, Tree.value, Bool.and_eq_true] at h
    exact h.1

/-- Root version: the root itself is kept whatever its value, provided it is a normal node. -/
theorem valid_discard_of_validRootFor (g : Value → Bool) (t : Tree) (hn : t.value.isNormal = true)
    (hv : t.validRootFor g = true) : (discard g t).valid = true := by
  refine valid_discard_of_valid g t ?_
  obtain ⟨v, ks⟩ := t
  simp only [Tree.validRootFor, Tree.kids, Bool.and_eq_true, List.all_eq_true] at hv
  simp only [Tree.valid, Bool.and_eq_true, Bool.or_eq_true, validList_iff]
  exact ⟨⟨hv.1, Or.inl hn⟩, fun k hk => Compare.valid_of_validFor g k (hv.2 k hk)⟩

/-- `deep_equal_xpath` on two elements / two documents whose comments and PIs are leaves: the
    plain (unfiltered) comparison, with the same text comparison, of the discarded trees. -/
theorem xpath_eq_advanced_discard (cmp : TextCmp) (a b : Tree) (va : a.validRootFor xpathKeep = true)
    (vb : b.validRootFor xpathKeep = true)
    (h : (a.value.isElement = true ∧ b.value.isElement = true) ∨ (a.value = .document ∧ b.value = .document)) :
    advancedDeepEqual xpathFilter cmp a b =
      advancedDeepEqual (fun _ => true) cmp (discard xpathKeep a) (discard xpathKeep b) := by
  have na : a.value.isNormal = true := by
    rcases h with ⟨ea, _⟩ | ⟨da, _⟩
    · exact Compare.isNormal_of_isElement ea
    · rw [da]; rfl
  have nb : b.value.isNormal = true := by
    rcases h with ⟨_, eb⟩ | ⟨_, db⟩
    · exact Compare.isNormal_of_isElement eb
    · rw [db]; rfl
  rw [advancedDeepEqual_all_rel cmp _ _ (valid_discard_of_validRootFor _ a na va)
    (valid_discard_of_validRootFor _ b nb vb)]
  rcases h with ⟨ea, eb⟩ | ⟨da, db⟩
  · exact xpath_elements_rel cmp a b va vb ea eb
  · exact xpath_documents_rel cmp a b va vb da db

/-! ### Stripping any structurally valid tree gives a structurally valid tree -/

mutual
theorem strip_eq_discard_all : ∀ t : Tree, t.stripCommentsPis = discard (fun v => !v.isCommentOrPi) t
  | .node v ks => by simp only [Tree.stripCommentsPis, discard, stripList_eq_discardList_all ks]
theorem stripList_eq_discardList_all : ∀ ks : List Tree,
    stripCommentsPisList ks = discardList (fun v => !v.isCommentOrPi) ks
  | [] => rfl
  | k :: ks => by
    have hc : (k.value.isNormal && !(!k.value.isCommentOrPi)) = k.value.isCommentOrPi := by
      cases h : k.value <;> simp [Value.isNormal, Value.category, Value.isCommentOrPi]
    simp only [stripCommentsPisList, discardList, hc, strip_eq_discard_all k, stripList_eq_discardList_all ks]
end

theorem valid_stripCommentsPis (t : Tree) (hv : t.valid = true) : t.stripCommentsPis.valid = true := by
  rw [strip_eq_discard_all]; exact valid_discard_of_valid _ t hv

/-! ### The hypothesis of the XPath theorems from the usual ones -/

theorem noDocList_iff (ks : List Tree) : Tree.noInnerDocument.noDocList ks = true ↔
    ∀ k ∈ ks, k.value.isDocument = false ∧ k.noInnerDocument = true := by
  induction ks with
  | nil => simp [Tree.noInnerDocument.noDocList]
  | cons k ks ih => simp [Tree.noInnerDocument.noDocList, ih, and_assoc]

theorem validFor_xpathKeep_of_valid (t : Tree) : t.valid = true → t.contentLeaves = true →
    t.noInnerDocument = true → t.value.isDocument = false → t.validFor xpathKeep = true := by
  induction t using Tree.induct_mem with
  | h v ks ih =>
    intro hv hl hd hnd
    obtain ⟨ho, hn, hleaf, hk⟩ := valid_node hv
    obtain ⟨hcl, hlk⟩ := contentLeaves_node hl
    simp only [Tree.noInnerDocument, noDocList_iff] at hd
    simp only [Tree.value] at hnd
    simp only [Tree.validFor, Bool.and_eq_true, Bool.or_eq_true, List.isEmpty_iff, validForList_iff]
    refine ⟨⟨⟨ho, hn⟩, ?_⟩, fun k hk' => ih k hk' (hk k hk') (hlk k hk') (hd k hk').2 (hd k hk').1⟩
    cases v
    case document => simp [Value.isDocument] at hnd
    case element n => exact Or.inl (by simp [Value.isNormal, Value.category, xpathKeep, Value.isElement])
    case text s => exact Or.inl (by simp [Value.isNormal, Value.category, xpathKeep, Value.isElement, Value.isText])
    case comment s => exact Or.inr (hcl (Or.inr (Or.inl ⟨s, rfl⟩)))
    case pi t d => exact Or.inr (hcl (Or.inr (Or.inr ⟨t, d, rfl⟩)))
    case «attribute» n s => exact Or.inr (hleaf.resolve_left (by simp [Value.isNormal, Value.category]))
    case «namespace» p n => exact Or.inr (hleaf.resolve_left (by simp [Value.isNormal, Value.category]))

/-- Structurally valid, text / comment / PI nodes are leaves, no document node below the root:
    the hypothesis `validRootFor xpathKeep` of the XPath theorems. -/
theorem validRootFor_xpathKeep_of_valid (t : Tree) (hv : t.valid = true) (hl : t.contentLeaves = true)
    (hd : t.noInnerDocument = true) : t.validRootFor xpathKeep = true := by
  obtain ⟨v, ks⟩ := t
  obtain ⟨ho, hn, _, hk⟩ := valid_node hv
  obtain ⟨_, hlk⟩ := contentLeaves_node hl
  simp only [Tree.noInnerDocument, noDocList_iff] at hd
  simp only [Tree.validRootFor, Tree.kids, Bool.and_eq_true, List.all_eq_true]
  exact ⟨⟨ho, hn⟩, fun k hk' => validFor_xpathKeep_of_valid k (hk k hk') (hlk k hk') (hd k hk').2 (hd k hk').1⟩

end XotModel
