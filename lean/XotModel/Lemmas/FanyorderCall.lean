/-
  One call of a construction program.  After xot's argument checks nothing goes wrong (`moveImpl_ok`, from C06); a
  call the specification accepts keeps `Forest.Inv` and is the implementation's call (`spec_inv`, `call_spec_impl`),
  and a call answered `ok` is accepted (`spec_of_ok`, `call_impl_spec`).
-/
import XotModel.Lemmas.FanyorderMove
import XotModel.Lemmas.FatomMoves
import XotModel.Lemmas.FanyorderEntry
import XotModel.Lemmas.SpecSideMove
import XotModel.Lemmas.FinvCompound

/-! ### After the argument checks nothing goes wrong

`moveImpl_ok` is C06's account of the four moves (`Forest.append_ok` … `Forest.insertBefore_ok`).  With it the
specification's well-formedness test is EXACTLY "the implementation answers `ok`". -/

namespace XotModel
namespace Prog
open Spec

/-- **After the checks nothing goes wrong**: a move that passes xot's argument checks is `ok`. -/
theorem moveImpl_ok {f : Forest} {d : Dest} {n : Nat} (inv : f.Inv)
    (hck : implCheck f d n = true) : (moveImpl f d n).2 = .ok := by
  cases d with
  | lastChildOf p => exact (Forest.append_ok inv.toW hck).ok
  | firstNormalChildOf p => exact (Forest.prepend_ok inv.toW hck).ok
  | after r =>
    simp only [implCheck, Bool.and_eq_true] at hck
    cases hp : f.parent? r with
    | none => rw [hp] at hck; simp [Forest.structureCheck] at hck
    | some q => rw [hp] at hck; exact (Forest.insertAfter_ok inv.toW hp hck.1 hck.2).ok
  | before r =>
    simp only [implCheck, Bool.and_eq_true] at hck
    cases hp : f.parent? r with
    | none => rw [hp] at hck; simp [Forest.structureCheck] at hck
    | some q => rw [hp] at hck; exact (Forest.insertBefore_ok inv.toW hp hck.1 hck.2).ok

end Prog
end XotModel

/-! ### One call: specification and implementation

`call_spec_impl`: a call the specification accepts is answered `ok` and yields the specification's store, so it
keeps the invariant, as every call of the implementation does (`Call.impl_inv`, `spec_inv`); conversely a call
answered `ok` is accepted (`spec_of_ok`), hence with the same store (`call_impl_spec`).  Whole programs: `Lemmas/FprogNavigation.lean`. -/

namespace XotModel
namespace Prog
open Spec Fmap

/-- **One call, specification ⇒ implementation**: a call the specification accepts is answered `ok`
    and yields the specification's store, handle for handle. -/
theorem call_spec_impl {f : Forest} (inv : f.Inv) (hfl : FlagsOk f) (c : Call)
    {f' : Forest} {o : Option Nat} (h : c.spec f = some (f', o)) : c.impl f = (f', .ok, o) := by
  have norm := normal_of_flags inv hfl
  cases c with
  | create v =>
    simp only [Call.spec, Option.some.injEq, Prod.mk.injEq] at h
    simp only [Call.impl, Forest.newNode]
    rw [← h.1, ← h.2]
  | move d n =>
    obtain ⟨hm, e⟩ := of_ite_some h
    cases e
    have hck : implCheck f d n = true := by rw [← moveOk_eq]; exact hm
    have hok := moveImpl_ok inv hck
    simp only [Call.impl]
    rw [← moveImpl_spec inv norm hok, ← hok]
  | anyAppend p c =>
    simp only [Call.spec] at h
    split at h
    · cases h
    · rename_i t hg
      split at h
      · rename_i hn
        split at h
        · rename_i hm
          simp only [Option.some.injEq, Prod.mk.injEq] at h
          have hck : implCheck f (.lastChildOf p) c = true := by rw [← moveOk_eq]; exact hm
          have hok := moveImpl_ok inv hck
          have hst := moveImpl_spec inv norm hok
          simp only [moveImpl] at hok hst
          simp only [Call.impl]
          rw [anyAppend_normal f p c t hg hn]
          simp only
          rw [← h.1, ← h.2, ← hst, hok]
        · cases h
      · rename_i hn
        split at h
        · rename_i hc
          simp only [Option.some.injEq, Prod.mk.injEq] at h
          simp only [Bool.and_eq_true, isElementAt_eq] at hc
          have hn' : t.value.isNormal = false := by simpa using hn
          obtain ⟨k, hm, hk⟩ := anyAppend_entry' f p c t hg hn'
          obtain ⟨e1, e2⟩ := appendEntryNode_spec inv k p c t hc.1 hg hc.2 hm
          simp only [Call.impl]
          rw [hk, ← h.1, ← h.2, ← e1, ← e2]
        · cases h
  | setAttribute e name v =>
    obtain ⟨he, e'⟩ := of_ite_some h
    cases e'
    simp only [Call.impl, mapInsert_spec inv .attributes e (.attribute name v) he rfl]
  | setNamespace e pfx ns =>
    obtain ⟨he, e'⟩ := of_ite_some h
    cases e'
    simp only [Call.impl, mapInsert_spec inv .namespaces e (.namespace pfx ns) he rfl]

/-- Every call of a construction program keeps the invariant, whatever its arguments and its answer: each is one of
    the calls of C04. -/
theorem Call.impl_inv {f : Forest} (inv : f.Inv) (c : Call) : (c.impl f).1.Inv := by
  cases c with
  | create v => exact Fcreation.newNode_inv inv v
  | move d n =>
    cases d with
    | lastChildOf p => exact Forest.append_inv inv p n
    | firstNormalChildOf p => exact Forest.prepend_inv inv p n
    | after r => exact Forest.insertAfter_inv inv r n
    | before r => exact Forest.insertBefore_inv inv r n
  | anyAppend p c => exact Forest.anyAppend_inv inv p c
  | setAttribute e name v => exact Forest.mapInsert_inv inv .attributes e (.attribute name v) rfl
  | setNamespace e pfx ns => exact Forest.mapInsert_inv inv .namespaces e (.namespace pfx ns) rfl

/-- A call the specification accepts preserves the invariant: it is the implementation's call. -/
theorem spec_inv {f f' : Forest} {c : Call} {o : Option Nat} (inv : f.Inv) (hfl : FlagsOk f)
    (h : c.spec f = some (f', o)) : f'.Inv := by
  have := Call.impl_inv inv c
  rwa [call_spec_impl inv hfl c h] at this

/-- **ok ⇒ accepted**: a call the implementation answers `ok` is well-formed for the specification. -/
theorem spec_of_ok {f : Forest} (c : Call) (hs : c.inScope f = true)
    {f' : Forest} {o : Option Nat} (h : c.impl f = (f', .ok, o)) : ∃ g o', c.spec f = some (g, o') := by
  cases c with
  | create v => exact ⟨_, _, rfl⟩
  | move d n =>
    simp only [Call.impl, Prod.mk.injEq] at h
    have hck := implCheck_of_ok h.2.1
    exact ⟨_, _, by simp only [Call.spec, moveOk_eq, hck, if_true]; rfl⟩
  | anyAppend p c =>
    simp only [Call.impl, Prod.mk.injEq] at h
    obtain ⟨_, h2, _⟩ := h
    simp only [Call.spec]
    cases hg : f.get? c with
    | none =>
      exfalso
      have hv : f.value? c = none := by simp [Forest.value?, hg]
      have : f.anyAppend p c = ((f.append p c).1, (f.append p c).2,
          Forest.anyAppendRet (f.append p c).1 (f.append p c).2 p c) := by
        unfold Forest.anyAppend; rw [hv]
      rw [this] at h2
      exact append_dead f p c hg h2
    | some t =>
      simp only
      cases hn : t.value.isNormal with
      | true =>
        rw [anyAppend_normal f p c t hg hn] at h2
        have hck := implCheck_of_ok (d := .lastChildOf p) (n := c) h2
        exact ⟨_, _, by simp only [if_true, moveOk_eq, hck]; rfl⟩
      | false =>
        obtain ⟨k, _, hk⟩ := anyAppend_entry' f p c t hg hn
        rw [hk] at h2
        have hv := Prog2.value_of_get hg
        have he : f.isElement p = true := by
          cases he : f.isElement p with
          | true => rfl
          | false =>
            unfold Forest.appendEntryNode at h2
            simp [he] at h2
        have hroot : f.isRoot c = true := by
          simp only [Call.inScope, hv, hn, Bool.false_or] at hs
          exact hs
        exact ⟨_, _, by simp only [Bool.false_eq_true, if_false, isElementAt_eq, he, hroot, Bool.and_self, if_true]; rfl⟩
  | setAttribute e name v | setNamespace e pfx ns =>
    simp only [Call.impl, Prod.mk.injEq] at h
    have he : f.isElement e = true := by
      cases he : f.isElement e with
      | true => rfl
      | false => unfold Forest.mapInsert at h; simp [he] at h
    exact ⟨_, _, by simp only [Call.spec, isElementAt_eq, he, if_true]; rfl⟩

/-- **One call, implementation ⇒ specification**: what the implementation answers `ok` the
    specification accepts, with the same resulting store (handle for handle) and the same created node. -/
theorem call_impl_spec {f : Forest} (inv : f.Inv) (hfl : FlagsOk f) (c : Call) (hs : c.inScope f = true)
    {f' : Forest} {o : Option Nat} (h : c.impl f = (f', .ok, o)) : c.spec f = some (f', o) := by
  obtain ⟨g, o', hsp⟩ := spec_of_ok c hs h
  have := call_spec_impl inv hfl c hsp
  rw [h] at this
  simp only [Prod.mk.injEq, true_and] at this
  rw [hsp, this.1, this.2]

end Prog
end XotModel
