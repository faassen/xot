/-
  Ids that are not (or no longer) the current id of a live slot.

  `classify a x` sorts every id into exactly one of four classes with respect to the arena `a`:
    `live`     the current id of a slot that holds a node;
    `freed`    REMOVED, the slot is on the free list (its stamp is negative) and the id's stamp is
               one the slot has handed out before;
    `stale`    REMOVED, the slot has been reused: it holds a node again, under a later stamp;
    `foreign`  never issued by this arena: index out of range (or 0), a negative stamp, or a stamp
               the slot has not reached yet.
  `Removed a x` = `freed` or `stale`.  The slot's stamp runs 0, -1, 1, -2, 2, …, 32766, -32767,
  32767, -32767, 32767, … (`Stamp.asRemoved`, `Stamp.reuse`): a slot whose stamp is `c ≥ 0` has
  issued the stamps `0 … c`, a slot whose stamp is `c < 0` the stamps `0 … -c - 1` (and, saturated
  at `c = -32767`, possibly 32767).

  What the operations look at is less than the class: whether the slot exists, the SIGN of the
  slot's stamp (`Node::is_removed`, used by the `checked_*` functions) or the EQUALITY of the two
  stamps (`NodeId::is_removed`).  `Freed` / `Stale` below are these slot-level conditions; the
  theorems about the calls are stated with them (so they also cover in-range foreign ids).

  This file: the classification, its relation to `LiveId` / `Gone`, removed-for-ever in terms of the
  classes, and the READ accessors on removed ids.  No accessor and no iterator writes: the arena
  reached is the arena given, whatever the id (`*_arena`).
-/
import XotModel.Lemmas.ArenaHistory

namespace XotModel
namespace Arena

/-- The class of an id with respect to an arena. -/
inductive IdClass where
  | live | freed | stale | foreign
  deriving DecidableEq, Repr

/-- Could a slot whose stamp is now `c < 0` have handed out the stamp `t`? -/
def Stamp.issuedFree (c t : Int) : Bool := decide (t < -c) || (decide (c = -32767) && decide (t = 32767))

/-- The classification (total, computable). -/
def classify (a : Arena) (x : NodeId) : IdClass :=
  if x.index1 = 0 ∨ x.stamp < 0 then .foreign
  else
    match a.nodes[x.index0]? with
    | none => .foreign
    | some s =>
      if 0 ≤ s.stamp then
        if s.stamp = x.stamp then .live else if x.stamp < s.stamp then .stale else .foreign
      else if Stamp.issuedFree s.stamp x.stamp then .freed else .foreign

/-- The id was issued by this arena and its node has been removed since. -/
def Removed (a : Arena) (x : NodeId) : Prop := a.classify x = .freed ∨ a.classify x = .stale

instance (a : Arena) (x : NodeId) : Decidable (Removed a x) := by unfold Removed; infer_instance

/-- The id's slot exists and is free (`arena[id].is_removed()`). -/
def Freed (a : Arena) (x : NodeId) : Prop := ∃ s, a.slot x.index0 = some s ∧ s.stamp < 0

/-- The id's slot exists and holds a node under ANOTHER stamp. -/
def Stale (a : Arena) (x : NodeId) : Prop := ∃ s, a.slot x.index0 = some s ∧ 0 ≤ s.stamp ∧ s.stamp ≠ x.stamp

/-- The id's slot exists and holds a node (under whatever stamp): live or stale. -/
def Occupied (a : Arena) (x : NodeId) : Prop := ∃ s, a.slot x.index0 = some s ∧ 0 ≤ s.stamp

/-- `classify` on an id with a positive index and a non-negative stamp whose slot exists. -/
theorem classify_of_slot {a : Arena} {x : NodeId} {s : Slot} (h1 : 1 ≤ x.index1) (h2 : 0 ≤ x.stamp)
    (hs : a.slot x.index0 = some s) :
    a.classify x = if 0 ≤ s.stamp then
        if s.stamp = x.stamp then .live else if x.stamp < s.stamp then .stale else .foreign
      else if Stamp.issuedFree s.stamp x.stamp then .freed else .foreign := by
  unfold classify
  unfold slot at hs
  rw [if_neg (by omega), hs]

/-- Every other id is foreign. -/
theorem classify_slot {a : Arena} {x : NodeId} (h : a.classify x ≠ .foreign) :
    1 ≤ x.index1 ∧ 0 ≤ x.stamp ∧ ∃ s, a.slot x.index0 = some s := by
  unfold classify at h
  by_cases h1 : x.index1 = 0 ∨ x.stamp < 0
  · rw [if_pos h1] at h; exact absurd rfl h
  · cases hs : a.nodes[x.index0]? with
    | none => rw [if_neg h1, hs] at h; exact absurd rfl h
    | some s => exact ⟨by omega, by omega, s, hs⟩

/-- What each class says about the id and its slot. -/
theorem classify_spec (a : Arena) (x : NodeId) :
    match a.classify x with
    | .live => LiveId a x
    | .freed => Freed a x ∧ 1 ≤ x.index1 ∧ 0 ≤ x.stamp ∧
        ∃ s, a.slot x.index0 = some s ∧ (x.stamp < -s.stamp ∨ (s.stamp = -32767 ∧ x.stamp = 32767))
    | .stale => Stale a x ∧ 1 ≤ x.index1 ∧ 0 ≤ x.stamp ∧ ∃ s, a.slot x.index0 = some s ∧ x.stamp < s.stamp
    | .foreign => True := by
  by_cases hf : a.classify x = .foreign
  · rw [hf]; trivial
  obtain ⟨h1, h2, s, hs⟩ := classify_slot hf
  rw [classify_of_slot h1 h2 hs]
  by_cases h0 : 0 ≤ s.stamp
  · rw [if_pos h0]
    by_cases e1 : s.stamp = x.stamp
    · rw [if_pos e1]
      refine ⟨h1, ⟨s, hs, h0⟩, ?_⟩
      rw [idAt_of_slot hs, e1]
      cases x with
      | mk i st => simp only [NodeId.index0] at *; congr 1; omega
    · rw [if_neg e1]
      by_cases e2 : x.stamp < s.stamp
      · rw [if_pos e2]; exact ⟨⟨s, hs, h0, e1⟩, h1, h2, s, hs, e2⟩
      · rw [if_neg e2]; trivial
  · rw [if_neg h0]
    by_cases hi : Stamp.issuedFree s.stamp x.stamp = true
    · rw [if_pos hi]
      exact ⟨⟨s, hs, by omega⟩, h1, h2, s, hs, by simpa [Stamp.issuedFree] using hi⟩
    · rw [if_neg hi]; trivial

theorem classify_live_iff (a : Arena) (x : NodeId) : a.classify x = .live ↔ LiveId a x := by
  constructor
  · intro h
    have := classify_spec a x
    rw [h] at this
    exact this
  · rintro ⟨h1, ⟨s, hs, h0⟩, he⟩
    have e1 : s.stamp = x.stamp := by rw [← he, idAt_of_slot hs]
    rw [classify_of_slot h1 (by omega) hs, if_pos h0, if_pos e1]

theorem classify_freed {a : Arena} {x : NodeId} (h : a.classify x = .freed) :
    Freed a x ∧ 1 ≤ x.index1 ∧ 0 ≤ x.stamp ∧
      ∃ s, a.slot x.index0 = some s ∧ (x.stamp < -s.stamp ∨ (s.stamp = -32767 ∧ x.stamp = 32767)) := by
  have := classify_spec a x
  rw [h] at this
  exact this

theorem classify_stale {a : Arena} {x : NodeId} (h : a.classify x = .stale) :
    Stale a x ∧ 1 ≤ x.index1 ∧ 0 ≤ x.stamp ∧ ∃ s, a.slot x.index0 = some s ∧ x.stamp < s.stamp := by
  have := classify_spec a x
  rw [h] at this
  exact this

/-- `Gone` (the notion the removed-for-ever theorems are stated with) is `Removed` below saturation. -/
theorem Gone.removed {a : Arena} {x : NodeId} (h : Gone a x) (h1 : 1 ≤ x.index1) : Removed a x := by
  obtain ⟨s, hs, h0, hlt⟩ := h
  unfold Removed
  rw [classify_of_slot h1 h0 hs]
  by_cases hs0 : 0 ≤ s.stamp
  · right
    rw [if_pos hs0, if_neg (by omega), if_pos (by omega)]
  · left
    rw [if_neg hs0, if_pos (by simp only [Stamp.issuedFree, Bool.or_eq_true, decide_eq_true_eq]; omega)]

theorem Removed.gone {a : Arena} {x : NodeId} (h : Removed a x) :
    Gone a x ∨ (x.stamp = 32767 ∧ ∃ s, a.slot x.index0 = some s ∧ s.stamp = -32767) := by
  rcases h with h | h
  · obtain ⟨_, _, h0, s, hs, hc⟩ := classify_freed h
    rcases hc with hc | hc
    · exact Or.inl ⟨s, hs, h0, Or.inr hc⟩
    · exact Or.inr ⟨hc.2, s, hs, hc.1⟩
  · obtain ⟨_, _, h0, s, hs, hc⟩ := classify_stale h
    exact Or.inl ⟨s, hs, h0, Or.inl hc⟩

theorem Removed.not_liveId {a : Arena} {x : NodeId} (h : Removed a x) : ¬ LiveId a x := by
  intro hl
  have := (classify_live_iff a x).mpr hl
  rcases h with h | h <;> rw [this] at h <;> cases h

theorem Removed.freed_or_stale {a : Arena} {x : NodeId} (h : Removed a x) : Freed a x ∨ Stale a x := by
  rcases h with h | h
  · exact Or.inl (classify_freed h).1
  · exact Or.inr (classify_stale h).1

/-- Removed is for ever, in terms of the classes: an id that is removed (freed or stale) and whose
    stamp is below 32767 is removed after every further history of calls. -/
theorem Removed.forever {a a' : Arena} {x : NodeId} (w : Wf a) (h : Removed a x) (hlt : x.stamp < 32767)
    (hist : Steps a a') : Removed a' x := by
  have h1 : 1 ≤ x.index1 := by
    rcases h with h | h
    · exact (classify_freed h).2.1
    · exact (classify_stale h).2.1
  rcases h.gone with hg | ⟨h32, _⟩
  · exact (hg.mono (hist.wf w).2).removed h1
  · omega

/-! ### The read accessors never write -/

theorem isRemoved_arena (a : Arena) (x : NodeId) : (isRemoved a x).arena = a :=
  rd_arena a x _ (fun _ => rfl)

theorem value_arena (a : Arena) (x : NodeId) : (value a x).arena = a :=
  rd_arena a x _ (fun s => by cases s.data <;> rfl)

theorem walk_arena (a : Arena) (next : Slot → Option NodeId) :
    ∀ (limit : Nat) (cur : Option NodeId), (walk a next limit cur).arena = a
  | 0, _ => rfl
  | limit + 1, cur => by
    unfold walk
    cases cur with
    | none => rfl
    | some node =>
      exact rd_arena a node _ (fun s => Step.bind_arena_const a _ _ (walk_arena a next limit (next s)))

theorem walkTo_arena (a : Arena) (next : Slot → Option NodeId) :
    ∀ (limit : Nat) (head tail : Option NodeId), (walkTo a next limit head tail).arena = a
  | 0, _, _ => rfl
  | limit + 1, head, tail => by
    unfold walkTo
    cases head with
    | none => rfl
    | some h =>
      cases tail with
      | none => exact rd_arena a h _ (fun s => Step.bind_arena_const a _ _ (walkTo_arena a next limit (next s) none))
      | some t =>
        simp only []
        split
        · rfl
        · exact rd_arena a h _ (fun s => Step.bind_arena_const a _ _ (walkTo_arena a next limit (next s) (some t)))

theorem walkBack_arena (a : Arena) (nb : Slot → Option NodeId) :
    ∀ (limit : Nat) (head tail : Option NodeId), (walkBack a nb limit head tail).arena = a
  | 0, _, _ => rfl
  | limit + 1, head, tail => by
    unfold walkBack
    cases tail with
    | none => cases head <;> rfl
    | some t =>
      cases head with
      | none => exact rd_arena a t _ (fun s => Step.bind_arena_const a _ _ (walkBack_arena a nb limit (nb s) (some t)))
      | some h =>
        simp only []
        split
        · rfl
        · exact rd_arena a t _ (fun s => Step.bind_arena_const a _ _ (walkBack_arena a nb limit (nb s) (some t)))

theorem parentField_arena {α : Type} (a : Arena) (id : NodeId) (f : Slot → Option NodeId) (k : Option NodeId → Step α)
    (hk : ∀ o, (k o).arena = a) : (parentField a id f k).arena = a := by
  unfold parentField
  split
  · rfl
  · split
    · exact hk _
    · split <;> exact hk _

theorem nextTraverse_arena {α : Type} (a : Arena) (e : NodeEdge) (k : Option NodeEdge → Step α)
    (hk : ∀ o, (k o).arena = a) : (nextTraverse a e k).arena = a := by
  unfold nextTraverse
  cases e with
  | start n => exact rd_arena a n _ (fun s => by cases s.first <;> exact hk _)
  | «end» n => exact rd_arena a n _ (fun s => by cases s.next <;> exact hk _)

theorem prevTraverse_arena {α : Type} (a : Arena) (e : NodeEdge) (k : Option NodeEdge → Step α)
    (hk : ∀ o, (k o).arena = a) : (prevTraverse a e k).arena = a := by
  unfold prevTraverse
  cases e with
  | start n => exact rd_arena a n _ (fun s => by cases s.prev <;> exact hk _)
  | «end» n => exact rd_arena a n _ (fun s => by cases s.last <;> exact hk _)

theorem traverseGo_arena (a : Arena) (root : NodeId) :
    ∀ (limit : Nat) (cur : Option NodeEdge), (traverseGo a root limit cur).arena = a
  | 0, _ => rfl
  | limit + 1, cur => by
    unfold traverseGo
    cases cur with
    | none => rfl
    | some e =>
      simp only []
      split
      · exact Step.bind_arena_const a _ _ (traverseGo_arena a root limit none)
      · exact nextTraverse_arena a e _ (fun o => Step.bind_arena_const a _ _ (traverseGo_arena a root limit o))

theorem reverseTraverseGo_arena (a : Arena) (root : NodeId) :
    ∀ (limit : Nat) (cur : Option NodeEdge), (reverseTraverseGo a root limit cur).arena = a
  | 0, _ => rfl
  | limit + 1, cur => by
    unfold reverseTraverseGo
    cases cur with
    | none => rfl
    | some e =>
      simp only []
      split
      · exact Step.bind_arena_const a _ _ (reverseTraverseGo_arena a root limit none)
      · exact prevTraverse_arena a e _ (fun o => Step.bind_arena_const a _ _ (reverseTraverseGo_arena a root limit o))

/-- Every iterator, from every id (live, removed, foreign), on every arena: the arena reached is the
    arena given. -/
theorem iterators_arena (a : Arena) (x : NodeId) (limit : Nat) :
    (ancestors a x limit).arena = a ∧ (predecessors a x limit).arena = a ∧ (children a x limit).arena = a ∧
    (childrenRev a x limit).arena = a ∧ (reverseChildren a x limit).arena = a ∧
    (followingSiblings a x limit).arena = a ∧ (precedingSiblings a x limit).arena = a ∧
    (traverse a x limit).arena = a ∧ (reverseTraverse a x limit).arena = a ∧ (descendants a x limit).arena = a :=
  ⟨walk_arena a _ limit _, walk_arena a _ limit _, rd_arena a x _ (fun s => walkTo_arena a _ limit _ _),
   rd_arena a x _ (fun s => walkBack_arena a _ limit _ _), rd_arena a x _ (fun s => walk_arena a _ limit _),
   parentField_arena a x _ _ (fun o => walkTo_arena a _ limit _ _),
   parentField_arena a x _ _ (fun o => walkTo_arena a _ limit _ _),
   traverseGo_arena a x limit _, reverseTraverseGo_arena a x limit _,
   Step.bind_arena_const a _ _ (traverseGo_arena a x limit _)⟩

/-! ### The read accessors on removed and foreign ids -/

/-- `NodeId::is_removed` of an id whose slot is free: `true` (the id's stamp is not negative). -/
theorem Freed.isRemoved {a : Arena} {x : NodeId} (h : Freed a x) (h0 : 0 ≤ x.stamp) :
    Arena.isRemoved a x = .done a true := by
  obtain ⟨s, hs, hn⟩ := h
  unfold Arena.isRemoved
  rw [rd_some _ _ _ _ hs]
  have : s.stamp ≠ x.stamp := by omega
  simp [this]

/-- `NodeId::is_removed` of an id whose slot has been reused: `true`. -/
theorem Stale.isRemoved {a : Arena} {x : NodeId} (h : Stale a x) : Arena.isRemoved a x = .done a true := by
  obtain ⟨s, hs, _, hne⟩ := h
  unfold Arena.isRemoved
  rw [rd_some _ _ _ _ hs]
  simp [hne]

theorem Removed.isRemoved {a : Arena} {x : NodeId} (h : Removed a x) : Arena.isRemoved a x = .done a true := by
  rcases h with h | h
  · exact (classify_freed h).1.isRemoved (classify_freed h).2.2.1
  · exact (classify_stale h).1.isRemoved

/-- `NodeId::is_removed` of an id beyond the slot vector: `arena[self]` panics (index out of bounds). -/
theorem isRemoved_out_of_range {a : Arena} {x : NodeId} (h : a.slot x.index0 = none) :
    Arena.isRemoved a x = .panic a := by
  unfold Arena.isRemoved rd
  unfold slot at h
  rw [h]

/-- `Arena::get` does not look at the stamp: for an id whose slot is free it returns the freed slot
    (`Node::is_removed()` is `true` on it) … -/
theorem Freed.get {a : Arena} {x : NodeId} (h : Freed a x) : ∃ s, a.get x = some s ∧ s.isRemoved = true := by
  obtain ⟨s, hs, hn⟩ := h
  exact ⟨s, hs, by simp [Slot.isRemoved, Stamp.isRemoved, hn]⟩

/-- … and for a stale id the slot of the NEW occupant. -/
theorem Stale.get {a : Arena} {x : NodeId} (h : Stale a x) :
    ∃ s, a.get x = some s ∧ s.isRemoved = false ∧ s.stamp ≠ x.stamp ∧ LiveId a ⟨x.index0 + 1, s.stamp⟩ := by
  obtain ⟨s, hs, h0, hne⟩ := h
  refine ⟨s, hs, by simp [Slot.isRemoved, Stamp.isRemoved]; omega, hne, ?_⟩
  have := LiveId.idAt (a := a) (i := x.index0) ⟨s, hs, h0⟩
  rwa [idAt_of_slot hs] at this

/-- `arena[id].get()` on an id whose slot is free: `unreachable!("Try to access a freed node")`. -/
theorem Freed.value_panics {a : Arena} {g : Shape} (r : Rep a g) {x : NodeId} (h : Freed a x) :
    Arena.value a x = .panic a := by
  obtain ⟨s, hs, hn⟩ := h
  unfold Arena.value
  rw [rd_some _ _ _ _ hs]
  cases hd : s.data with
  | nextFree n => rfl
  | data v =>
    have := (r.dataLive _ s hs).mpr ⟨v, hd⟩
    omega

/-- … on a stale id: the payload of the new occupant. -/
theorem Stale.value {a : Arena} {g : Shape} (r : Rep a g) {x : NodeId} (h : Stale a x) :
    ∃ v, Arena.value a x = .done a v := by
  obtain ⟨s, hs, h0, _⟩ := h
  obtain ⟨v, hv⟩ := (r.dataLive _ s hs).mp h0
  refine ⟨v, ?_⟩
  unfold Arena.value
  rw [rd_some _ _ _ _ hs, hv]

/-- `Arena::get_node_id_at` only ever answers with a live id. -/
theorem getNodeIdAt_live {a : Arena} {i : Nat} {x : NodeId} (h1 : 1 ≤ i) (h : a.getNodeIdAt i = some x) : LiveId a x := by
  unfold getNodeIdAt at h
  split at h
  · cases h
  · rename_i n hn
    split at h
    · cases h
    · rename_i hr
      cases h
      have h0 : 0 ≤ n.stamp := by
        simp [Slot.isRemoved, Stamp.isRemoved] at hr; exact hr
      have hl : Live a (i - 1) := ⟨n, hn, h0⟩
      have := LiveId.idAt hl
      rw [idAt_of_slot (show a.slot (i - 1) = some n from hn)] at this
      have e : i - 1 + 1 = i := by omega
      rwa [e] at this

end Arena
end XotModel
