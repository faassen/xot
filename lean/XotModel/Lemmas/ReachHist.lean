/-
  Reach: histories.  Every forest reachable from the empty store by an extended history
  (`Store.xrun` over `Forest.XCall`, Model/FhistSpec.lean) has the invariant (`Store.xrun_inv`,
  Lemmas/FhistExt.lean — the theorem `C04_reach_ext` of Props/C04 is this one), so every root of it
  erases to a structurally valid tree.  This file states that once, so that the Props files of the
  tree-level properties (C07, C09, C13) can import it without importing Props/C04, and holds the
  closed example history their non-vacuity examples use (the 16-step history of Props/C04).
-/
import XotModel.Lemmas.FhistExt
import XotModel.Lemmas.ReachNode
import XotModel.Model.FspecSpec

namespace XotModel.Reach
open XotModel

theorem init_inv : Forest.init.Inv := (Forest.inv_iff _).mp (by decide)

/-- Every extended history from the empty store ends in a forest with the invariant (= `C04_reach_ext`). -/
theorem inv_reachable (env : Env) (cs : List Forest.XCall) (hw : ∀ c ∈ cs, c.wellKinded) :
    ((⟨Forest.init, env⟩ : Store).xrun cs).forest.Inv := Store.xrun_inv cs init_inv hw

/-- **The bridge, on histories**: every parentless tree of every reachable forest erases to a tree
    satisfying the structural clauses of `StructValid` at every node. -/
theorem structural_reachable (env : Env) (cs : List Forest.XCall) (hw : ∀ c ∈ cs, c.wellKinded)
    (r : HTree) (hr : r ∈ ((⟨Forest.init, env⟩ : Store).xrun cs).forest.roots) : Structural r.erase :=
  structural_root (inv_reachable env cs hw) hr

/-- … `StructValid` itself when the root is a document node. -/
theorem structValid_reachable (env : Env) (cs : List Forest.XCall) (hw : ∀ c ∈ cs, c.wellKinded)
    (r : HTree) (hr : r ∈ ((⟨Forest.init, env⟩ : Store).xrun cs).forest.roots)
    (hd : r.value.isDocument = true) : StructValid r.erase :=
  structValid_root (inv_reachable env cs hw) hr hd

/-- … and without adjacent text nodes while consolidation has never been switched off. -/
theorem noAdjacentText_reachable (env : Env) (cs : List Forest.XCall) (hw : ∀ c ∈ cs, c.wellKinded)
    (hoff : ((⟨Forest.init, env⟩ : Store).xrun cs).forest.everOff = false)
    (r : HTree) (hr : r ∈ ((⟨Forest.init, env⟩ : Store).xrun cs).forest.roots) : NoAdjacentText r.erase :=
  noAdjacentText_root (inv_reachable env cs hw) hoff hr

/-! ### A closed history

  Creates `<a:e><a:e>x</a:e></a:e>`, declares `p` twice, repairs (`create_missing_prefixes` invents `n0`),
  deduplicates, clones the inner element with prefixes, is refused a repair on a text node, hits the
  documented panic of `attributes_mut` on a text node, moves the clone in front of its source, strips
  whitespace, removes the source, deduplicates on the removed handle. -/

def exEnv : Env :=
  { namespaces := [[], ['x'], ['u'], ['w']], prefixes := [[], ['x','m','l'], ['p']],
    names := [(['s'], 1), (['e'], 3)] }

/-- The 16-step history `xhCalls` of Props/C04 (tables `xhEnv` there, `exEnv` here) under the name the files that do
    not import Props/C04 use; an `example` in Props/C04 checks that the two copies are equal. -/
def exCalls : List Forest.XCall :=
  [.newNode (.element 1), .newNode (.element 1), .newNode (.text ['x']),
   .call (.append 0 1), .call (.append 1 2),
   .call (.mapInsert .namespaces 0 (.namespace 2 2)), .call (.mapInsert .namespaces 1 (.namespace 2 2)),
   .createMissingPrefixes 0, .deduplicateNamespaces 0,
   .cloneWithPrefixes 1 [(3, 3)],
   .createMissingPrefixes 2, .call (.mapInsert .attributes 2 (.attribute 1 [])),
   .call (.insertBefore 1 7), .removeInsignificantWhitespace 0, .call (.remove 1), .deduplicateNamespaces 1]

theorem exCalls_wellKinded : ∀ c ∈ exCalls, c.wellKinded := by decide

theorem exCalls_take_wellKinded (n : Nat) : ∀ c ∈ exCalls.take n, c.wellKinded :=
  fun c hc => exCalls_wellKinded c (List.mem_of_mem_take hc)

/-- The forest after all 16 steps: one tree, `<e xmlns:p=".." xmlns:n0=".."><e xmlns:n0="..">x</e></e>`. -/
def exRoot : HTree :=
  .node 0 (.element 1) [.node 3 (.namespace 2 2) [], .node 5 (.namespace 3 3) [],
    .node 7 (.element 1) [.node 9 (.namespace 3 3) [], .node 8 (.text ['x']) []]]

theorem exRoots : ((⟨Forest.init, exEnv⟩ : Store).xrun exCalls).forest.roots = [exRoot] := by decide +kernel

/-- The forest after the first 10 steps: the source tree (inner element 1 with its text) and the clone
    7 (which carries the declaration of `n0` the source inherits). -/
def exRootA : HTree :=
  .node 0 (.element 1) [.node 3 (.namespace 2 2) [], .node 5 (.namespace 3 3) [],
    .node 1 (.element 1) [.node 2 (.text ['x']) []]]
def exRootB : HTree :=
  .node 7 (.element 1) [.node 9 (.namespace 3 3) [], .node 8 (.text ['x']) []]

theorem exRoots10 : ((⟨Forest.init, exEnv⟩ : Store).xrun (exCalls.take 10)).forest.roots = [exRootA, exRootB] := by
  decide +kernel

theorem exRoot_mem : exRoot ∈ ((⟨Forest.init, exEnv⟩ : Store).xrun exCalls).forest.roots := by
  rw [exRoots]; exact List.mem_singleton.mpr rfl

theorem exRootA_mem : exRootA ∈ ((⟨Forest.init, exEnv⟩ : Store).xrun (exCalls.take 10)).forest.roots := by
  rw [exRoots10]; exact List.mem_cons_self ..

theorem exRootB_mem : exRootB ∈ ((⟨Forest.init, exEnv⟩ : Store).xrun (exCalls.take 10)).forest.roots := by
  rw [exRoots10]; exact List.mem_cons_of_mem _ (List.mem_singleton.mpr rfl)

end XotModel.Reach
