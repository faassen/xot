/-
  Lemmas for C12: lookup of a node's own handle; `findSome?` over `ctxBelow` / `ancestorsOf` and the two
  root filters on a list of trees that does not contain the handle.
-/
import XotModel.Lemmas.HTreeBasic

namespace XotModel
open HTree

theorem handlesList_singleton (t : HTree) : handlesList [t] = handles t := by
  simp [handlesList]

/-! ### find? -/

theorem fc_find?_self (h : Nat) (v : Value) (ks : List HTree) :
    find? h (.node h v ks) = some (.node h v ks) := by
  simp [find?]

theorem fc_findList?_cons_self (h : Nat) (v : Value) (ks : List HTree) (B : List HTree) :
    findList? h (.node h v ks :: B) = some (.node h v ks) := by
  simp [findList?, find?]

/-! ### ctxBelow -/

theorem fc_findSome?_ctxBelow_none (h : Nat) (L : List HTree) (hn : h ∉ handlesList L) :
    L.findSome? (ctxBelow h) = none := by
  induction L with
  | nil => rfl
  | cons a L ih =>
    simp only [handlesList, List.mem_append, not_or] at hn
    simp [List.findSome?_cons, ctxBelow_none_of_not_mem h a hn.1, ih hn.2]

/-! ### ancestorsOf -/

theorem findSome?_ancestorsOf_none (h : Nat) (L : List HTree) (hn : h ∉ handlesList L) :
    L.findSome? (ancestorsOf h) = none := by
  induction L with
  | nil => rfl
  | cons a L ih =>
    simp only [handlesList, List.mem_append, not_or] at hn
    simp [List.findSome?_cons, ancestorsOf_none_of_not_mem h a hn.1, ih hn.2]

/-! ### root filters -/

theorem filter_handle_ne_of_not_mem (n : Nat) (L : List HTree) (hn : n ∉ handlesList L) :
    L.filter (fun r => r.handle != n) = L := by
  apply List.filter_eq_self.mpr
  intro a ha
  have : a.handle ≠ n := fun e => hn (e ▸ rootHandle_mem_handlesList ha)
  simp [this]

theorem any_handle_eq_false_of_not_mem (n : Nat) (L : List HTree) (hn : n ∉ handlesList L) :
    L.any (fun r => decide (r.handle = n)) = false := by
  simp only [List.any_eq_false, decide_eq_true_eq]
  intro a ha e
  exact hn (e ▸ rootHandle_mem_handlesList ha)

end XotModel
