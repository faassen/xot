/-
  Lemmas for C11: forest-level facts under the invariant — which root a node lives in
  (distinct handles: a handle lies in one tree only), roots filtered; `ancestors` read off the node's position
  (`Fws.Occurs`, Lemmas/FwsBasic.lean); `ctxKids` of a direct child.
-/
import XotModel.Lemmas.FmapTree
import XotModel.Lemmas.FwsBasic
import XotModel.Lemmas.FspecEditAt

namespace XotModel
namespace Fmap
open HTree

theorem sameTree (ks : List HTree) (hnd : (handlesList ks).Nodup) (r r' : HTree)
    (hr : r ∈ ks) (hr' : r' ∈ ks) (x : Nat) (hx : x ∈ handles r) (hx' : x ∈ handles r') :
    r = r' := by
  induction ks with
  | nil => cases hr
  | cons k ks ih =>
    simp only [handlesList] at hnd
    have hnd' := List.nodup_append.mp hnd
    rcases List.mem_cons.mp hr with h1 | h1
    · rcases List.mem_cons.mp hr' with h2 | h2
      · rw [h1, h2]
      · subst h1
        exact absurd rfl (hnd'.2.2 _ hx _ (handles_subset_handlesList h2 x hx'))
    · rcases List.mem_cons.mp hr' with h2 | h2
      · subst h2
        exact absurd rfl (hnd'.2.2 _ hx' _ (handles_subset_handlesList h1 x hx))
      · exact ih hnd'.2.1 h1 h2

/-! ### `ancestors` -/

theorem anc_has_kid {f : Forest} {t : HTree} {anc : List HTree} (o : Fws.Occurs f t anc) :
    ∀ a ∈ anc, (∃ anc', Fws.Occurs f a anc') ∧ a.kids ≠ [] := by
  induction o with
  | root _ => intro a ha; cases ha
  | @kid p k anc op hk ih =>
    intro a ha
    rcases List.mem_cons.1 ha with rfl | ha
    · exact ⟨⟨anc, op⟩, List.ne_nil_of_mem hk⟩
    · exact ih a ha

theorem ancestors_of_not_live (f : Forest) (h : Nat) (hg : f.get? h = none) : f.ancestors h = [] := by
  have : f.roots.findSome? (ancestorsOf h) = none := by
    rw [List.findSome?_eq_none_iff]
    intro r hr
    cases ha : ancestorsOf h r with
    | none => rfl
    | some l =>
      exact absurd (handles_subset_handlesList hr h (Fws.ancestorsOf_support h r l ha))
        (not_mem_of_findList?_none h f.roots hg)
  unfold Forest.ancestors
  rw [this]; rfl

theorem ancestors_not_leaf (f : Forest) (hnd : f.allHandles.Nodup) (nd h : Nat) (n : HTree)
    (hg : f.get? nd = some n) (hk : n.kids = []) (hne : h ≠ nd) :
    (f.ancestors h).contains nd = false := by
  cases hc : (f.ancestors h).contains nd with
  | false => rfl
  | true =>
    exfalso
    have hm : nd ∈ f.ancestors h := by simpa using hc
    cases hh : f.get? h with
    | none => rw [ancestors_of_not_live f h hh] at hm; cases hm
    | some t =>
      obtain ⟨anc, o⟩ := Fws.occurs_of_get? hh
      have hanc := o.ancestors hnd
      rw [Forest.get?_handle hh] at hanc
      rw [hanc] at hm
      rcases List.mem_cons.1 hm with hm | hm
      · exact hne hm.symm
      · -- `nd` is the handle of a proper ancestor `a`, which has a child; but `a = n` is a leaf
        obtain ⟨a, ha, hah⟩ := List.mem_map.1 hm
        obtain ⟨⟨anc', oa⟩, hkids⟩ := anc_has_kid o a ha
        have hga := oa.get? hnd
        rw [hah, hg] at hga
        cases hga
        exact hkids hk

theorem ancestors_not_leafRoot (f : Forest) (hnd : f.allHandles.Nodup) (nd h : Nat) (v : Value)
    (hroot : HTree.node nd v [] ∈ f.roots) (hne : h ≠ nd) :
    (f.ancestors h).contains nd = false :=
  ancestors_not_leaf f hnd nd h _ (findList?_direct f.roots hnd _ hroot) rfl hne

/-! ### roots filtered -/

theorem handlesList_sublist {a b : List HTree} (h : a.Sublist b) :
    (handlesList a).Sublist (handlesList b) := by
  induction h with
  | slnil => exact List.Sublist.refl _
  | cons k _ ih => exact ih.trans (List.sublist_append_right _ _)
  | cons_cons k _ ih => exact List.Sublist.append (List.Sublist.refl _) ih

theorem handlesList_filter_sublist (p : HTree → Bool) (ks : List HTree) :
    (handlesList (ks.filter p)).Sublist (handlesList ks) :=
  handlesList_sublist List.filter_sublist

theorem findList?_filter (e : Nat) (p : HTree → Bool) (ks : List HTree)
    (h : ∀ r ∈ ks, p r = false → find? e r = none) :
    findList? e (ks.filter p) = findList? e ks := by
  induction ks with
  | nil => rfl
  | cons k ks ih =>
    have ih' := ih (fun r hr => h r (List.mem_cons_of_mem _ hr))
    simp only [List.filter_cons]
    cases hp : p k with
    | true => simp [findList?, ih']
    | false =>
      simp only [findList?, h k List.mem_cons_self hp]
      simpa using ih'

theorem find?_leafRoot_filter (ks : List HTree) (hnd : (handlesList ks).Nodup) (nd e : Nat)
    (v : Value) (hroot : HTree.node nd v [] ∈ ks) (hne : e ≠ nd) :
    findList? e (ks.filter (fun r => r.handle != nd)) = findList? e ks := by
  apply findList?_filter
  intro r hr hp
  have hh : r.handle = nd := by simpa using hp
  have : r = .node nd v [] :=
    sameTree ks hnd r _ hr hroot nd (hh ▸ handle_mem_handles r) (by simp [handles])
  subst this
  apply find?_none_of_not_mem
  simp [handles, handlesList, hne]

theorem not_mem_handlesList_filter_leafRoot (ks : List HTree) (hnd : (handlesList ks).Nodup)
    (nd : Nat) (v : Value) (hroot : HTree.node nd v [] ∈ ks) :
    nd ∉ handlesList (ks.filter (fun r => r.handle != nd)) := by
  induction ks with
  | nil => cases hroot
  | cons k ks ih =>
    simp only [handlesList] at hnd
    have hnd' := List.nodup_append.mp hnd
    simp only [List.filter_cons]
    rcases List.mem_cons.mp hroot with heq | hr
    · subst heq
      simp only [HTree.handle, bne_self_eq_false, Bool.false_eq_true, if_false]
      intro hx
      have := (handlesList_filter_sublist (fun r => r.handle != nd) ks).subset hx
      exact hnd'.2.2 nd (by simp [handles]) nd this rfl
    · have hndks : nd ∈ handlesList ks := handles_subset_handlesList hr nd (by simp [handles])
      have hk : nd ∉ handles k := fun hx => hnd'.2.2 _ hx _ hndks rfl
      have hkh : k.handle ≠ nd := fun hh => hk (hh ▸ handle_mem_handles k)
      simp only [bne_iff_ne, ne_eq, hkh, not_false_eq_true, if_true, handlesList, List.mem_append,
        not_or]
      exact ⟨hk, ih hnd'.2.1 hr⟩

/-- The list form of `Forest.ctx_of_kids`, for any accumulator and parent handle. -/
theorem ctxKids_child (e : Nat) (l r : List HTree) (n : HTree) (p : Nat) :
      ∀ (ks acc : List HTree) (t : HTree),
      (handlesList ks).Nodup → findList? e ks = some t → t.kids = l ++ n :: r →
      ctxKids n.handle p acc ks = some ⟨e, l, n, r⟩ := by
  intro ks acc t hnd hf hk
  obtain ⟨path, L, R, lc⟩ := Loc.of_findList? hnd hf
  exact (lc.kid hk).ctxKids_snoc hnd p acc

end Fmap
end XotModel
