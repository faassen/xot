/-
  Machinery for closed witnesses: `build` calls `parseContentGo`, which is defined by
  well-founded recursion and therefore does not reduce under `decide`.  `parseContentFuel` is the
  same loop by structural recursion on a fuel argument, `buildE` is `build` with every call of
  `parseContentGo` replaced by it; `build_eq_buildE` proves the two equal on every input, so a
  closed witness can be evaluated by the kernel (`decide +kernel`).
  Observables of a `BuildResult` used by the witnesses are projected to decidable data.
-/
import XotModel.Model.Parse
import XotModel.Model.Valid
import XotModel.Lemmas.ParseContent

namespace XotModel

/-- `parseContentGo` by structural recursion on `fuel`. -/
def parseContentFuel (attr : Bool) (base : Nat) : Nat → Nat → Str → Except ContentErr Str
  | 0, _, _ => .ok []
  | _ + 1, _, [] => .ok []
  | fuel + 1, pos, c :: rest =>
    if c = '\r' then
      consOk (if attr then ' ' else '\n')
        (parseContentFuel attr base fuel (pos + 1 + (rest.length - (skipLf rest).length)) (skipLf rest))
    else if c = '&' then
      match splitSemi rest with
      | none => .error (.unclosed rest (base + pos))
      | some (ent, rest') =>
        match decodeEntity ent with
        | none => .error (.invalid (entityErrText ent) (base + pos) (base + (pos + 1 + strLen ent + 1)))
        | some ch => consOk ch (parseContentFuel attr base fuel (pos + 1 + strLen ent + 1) rest')
    else if attr && (c = '\t' || c = '\n') then
      consOk ' ' (parseContentFuel attr base fuel (pos + utf8Len c) rest)
    else
      consOk c (parseContentFuel attr base fuel (pos + utf8Len c) rest)

theorem parseContentFuel_eq (attr : Bool) (base : Nat) : ∀ (fuel pos : Nat) (s : Str), s.length < fuel →
    parseContentFuel attr base fuel pos s = parseContentGo attr base pos s := by
  intro fuel
  induction fuel with
  | zero => intro pos s h; omega
  | succ fuel ih =>
    intro pos s hs
    cases s with
    | nil => rw [parseGo_nil]; rfl
    | cons c rest =>
      simp only [List.length_cons] at hs
      simp only [parseContentFuel]
      by_cases h1 : c = '\r'
      · subst h1
        simp only [if_true]
        rw [parseGo_cr, ih _ _ (by have := skipLf_length rest; omega)]
      · simp only [h1, if_false]
        by_cases h2 : c = '&'
        · subst h2
          simp only [if_true]
          rw [parseGo_amp]
          cases hsp : splitSemi rest with
          | none => rfl
          | some p =>
            obtain ⟨ent, rest'⟩ := p
            simp only
            cases decodeEntity ent with
            | none => rfl
            | some ch =>
              simp only
              rw [ih _ _ (by have := splitSemi_length hsp; omega)]
        · simp only [h2, if_false]
          by_cases h3 : attr = true ∧ (c = '\t' ∨ c = '\n')
          · obtain ⟨ha, hc⟩ := h3
            subst ha
            have : (true && (decide (c = '\t') || decide (c = '\n'))) = true := by
              rcases hc with h | h <;> subst h <;> decide
            simp only [this, if_true]
            rw [parseGo_attr_ws base pos c rest hc, ih _ _ (by omega)]
          · have hplain : plainFor attr c = true := plainFor_iff.2 ⟨h1, h2, h3⟩
            have : (attr && (decide (c = '\t') || decide (c = '\n'))) = false := by
              cases attr with
              | false => rfl
              | true =>
                simp only [Bool.true_and, Bool.or_eq_false_iff, decide_eq_false_iff_not]
                exact ⟨fun h => h3 ⟨rfl, Or.inl h⟩, fun h => h3 ⟨rfl, Or.inr h⟩⟩
            simp only [this, Bool.false_eq_true, if_false]
            rw [parseGo_plain attr base pos c rest hplain, ih _ _ (by omega)]

/-- `parse_content(content, attribute, base_position)` in kernel-evaluable form. -/
def parseContentE (attr : Bool) (base : Nat) (s : Str) : Except ContentErr Str :=
  parseContentFuel attr base (s.length + 1) 0 s

theorem parseContentE_eq (attr : Bool) (base : Nat) (s : Str) :
    parseContentE attr base s = parseContentGo attr base 0 s :=
  parseContentFuel_eq attr base _ 0 s (by omega)

/-- `Builder.prefix` / `attribute` / `text` with `parseContentE`. -/
def Builder.prefixE (b : Builder) (pfx : Str) (uri : StrSpan) (nameSpan : Span) : Step Builder :=
  match parseContentE true uri.start uri.text with
  | .error e => .err (ParseErr.ofContent e) b.env
  | .ok u =>
    if reservedDecl pfx u then
      .err (.invalidNamespaceDeclaration (declDisplayName pfx) nameSpan) b.env
    else
    let r1 := b.env.internPrefix pfx
    let r2 := r1.1.internNamespace u
    match b.eb with
    | none => .panic
    | some eb =>
      if eb.namespaces.any (fun d => d.1 == r1.2) then
        .err (.duplicateAttribute (declDisplayName pfx) nameSpan) r2.1
      else
        .ok { b with env := r2.1, eb := some { eb with namespaces := eb.namespaces ++ [(r1.2, r2.2)] } }

def Builder.attributeE (b : Builder) (pfx loc value : StrSpan) : Step Builder :=
  match b.eb with
  | none => .panic
  | some eb =>
    if eb.attributes.any (fun ab => ab.pfx == pfx.text && ab.name == loc.text) then
      .err (.duplicateAttribute (attrDisplayName pfx.text loc.text) (Span.fromPrefixName pfx loc)) b.env
    else
      match parseContentE true value.start value.text with
      | .error e => .err (ParseErr.ofContent e) b.env
      | .ok v =>
        let ab : AttributeBuilder :=
          { pfx := pfx.text, name := loc.text, value := v,
            nameSpan := Span.fromPrefixName pfx loc, valueSpan := value.span, prefixSpan := pfx.span }
        .ok { b with eb := some { eb with attributes := eb.attributes ++ [ab] } }

def Builder.textE (b : Builder) (t : StrSpan) : Step Builder :=
  match parseContentE false t.start t.text with
  | .error e => .err (ParseErr.ofContent e) b.env
  | .ok content =>
    let r := b.addText content
    .ok { r.1 with spans := r.1.spans.extendText r.2 t.span }

theorem prefixE_eq (b : Builder) (pfx : Str) (uri : StrSpan) (sp : Span) :
    b.prefixE pfx uri sp = b.prefix pfx uri sp := by
  unfold Builder.prefixE Builder.prefix
  rw [parseContentE_eq]
  cases parseContentGo true uri.start 0 uri.text <;> rfl

theorem attributeE_eq (b : Builder) (pfx loc value : StrSpan) :
    b.attributeE pfx loc value = b.attribute pfx loc value := by
  unfold Builder.attributeE Builder.attribute
  rw [parseContentE_eq]
  cases b.eb with
  | none => rfl
  | some eb =>
    simp only
    split
    · rfl
    · cases parseContentGo true value.start 0 value.text <;> rfl

theorem textE_eq (b : Builder) (t : StrSpan) : b.textE t = b.text t := by
  unfold Builder.textE Builder.text
  rw [parseContentE_eq]
  cases parseContentGo false t.start 0 t.text <;> rfl

def Builder.stepE (b : Builder) : Token → Step Builder
  | .attribute pfx loc value _ =>
    if pfx.bareColon then .err (qnameError pfx loc) b.env
    else if pfx.text == ['x', 'm', 'l', 'n', 's'] then b.prefixE loc.text value (Span.fromPrefixName pfx loc)
    else if pfx.text.isEmpty && loc.text == ['x', 'm', 'l', 'n', 's'] then
      b.prefixE [] value (Span.fromPrefixName pfx loc)
    else b.attributeE pfx loc value
  | .text t => b.textE t
  | .elementEnd .empty sp =>
    match b.openElement with
    | .ok b1 => b1.closeImmediate sp
    | r => r
  | t => b.step t

theorem stepE_eq (b : Builder) (t : Token) : b.stepE t = b.step t := by
  cases t with
  | «attribute» pfx loc value sp =>
    simp only [Builder.stepE, Builder.step, prefixE_eq, attributeE_eq]
  | text t => simp only [Builder.stepE, Builder.step, textE_eq]
  | elementEnd e sp => cases e <;> rfl
  | _ => rfl

def Builder.runE (b : Builder) : List Token → Option Nat → Step Builder
  | [], none =>
    match b.eb with
    | some eb => .err (.unclosedTag eb.span) b.env
    | none => .ok b
  | [], some pos => .err (.xmlParser pos) b.env
  | t :: ts, lexErr =>
    match b.stepE t with
    | .ok b1 => Builder.runE b1 ts lexErr
    | r => r

theorem runE_eq (ts : List Token) (lexErr : Option Nat) : ∀ b : Builder, b.runE ts lexErr = b.run ts lexErr := by
  induction ts with
  | nil => intro b; cases lexErr <;> simp only [Builder.runE, Builder.run] <;> cases b.eb <;> rfl
  | cons t ts ih =>
    intro b
    simp only [Builder.runE, Builder.run, stepE_eq]
    cases b.step t with
    | ok b1 => exact ih b1
    | err e env => rfl
    | panic => rfl

def buildE (m : Mode) (len : Nat) (env : Env) (ts : List Token) (lexErr : Option Nat) : BuildResult :=
  match (Builder.new env).runE ts lexErr with
  | .panic => .panic
  | .err e env' => .err e env'
  | .ok b =>
    match m with
    | .document => b.finishDocument len
    | .fragment => b.finishFragment

theorem build_eq_buildE (m : Mode) (len : Nat) (env : Env) (ts : List Token) (lexErr : Option Nat) :
    build m len env ts lexErr = buildE m len env ts lexErr := by
  unfold build buildE
  rw [runE_eq]
  cases (Builder.new env).run ts lexErr with
  | panic => rfl
  | err e env' => rfl
  | ok b => cases m <;> rfl

/-! ### Decidable observables -/

def BuildResult.isPanic : BuildResult → Bool
  | .panic => true
  | _ => false

def BuildResult.isOk : BuildResult → Bool
  | .ok _ => true
  | _ => false

/-- The tree as nested lists of values (`Tree` itself has no decidable equality). -/
def Tree.flat : Tree → List (Nat × Value)
  | t => go 0 t
where
  go (d : Nat) : Tree → List (Nat × Value)
    | .node v ks => (d, v) :: goList (d + 1) ks
  goList (d : Nat) : List Tree → List (Nat × Value)
    | [] => []
    | k :: ks => go d k ++ goList d ks

/-- Pre-order list of (depth, value) of the accepted tree. -/
def BuildResult.flat : BuildResult → Option (List (Nat × Value))
  | .ok p => some p.tree.flat
  | _ => none

/-- Decidable form of "attribute names and declared prefixes are unique at every node". -/
def Tree.uniqueB : Tree → Bool
  | .node _ ks => decide ((attrNames ks).Nodup) && decide ((nsPrefixes ks).Nodup) && uniqueBList ks
where
  uniqueBList : List Tree → Bool
    | [] => true
    | k :: ks => Tree.uniqueB k && uniqueBList ks

mutual
theorem uniqueB_of_forall : ∀ t : Tree, t.Forall (fun _ ks => UniqueKids ks) → t.uniqueB = true
  | .node v ks, h => by
    rw [Tree.Forall] at h
    rw [Tree.uniqueB]
    simp only [Bool.and_eq_true, decide_eq_true_eq]
    exact ⟨⟨h.1.1, h.1.2⟩, uniqueBList_of_forall ks h.2⟩
theorem uniqueBList_of_forall : ∀ ks : List Tree,
    Tree.Forall.forallList (fun _ ks => UniqueKids ks) ks → Tree.uniqueB.uniqueBList ks = true
  | [], _ => rfl
  | k :: ks, h => by
    rw [Tree.uniqueB.uniqueBList]
    simp only [Bool.and_eq_true]
    exact ⟨uniqueB_of_forall k h.1, uniqueBList_of_forall ks h.2⟩
end

def BuildResult.uniqueB : BuildResult → Option Bool
  | .ok p => some p.tree.uniqueB
  | _ => none

def BuildResult.err? : BuildResult → Option ParseErr
  | .err e _ => some e
  | _ => none

def BuildResult.errSpan : BuildResult → Option Span
  | .err e _ => some e.span
  | _ => none

/-- The recorded span for a key, if the call succeeded. -/
def BuildResult.spanOf (r : BuildResult) (k : SpanKey) : Option Span :=
  match r with
  | .ok p => p.spans.get k
  | _ => none

/-- The namespace table after the call. -/
def BuildResult.namespaces : BuildResult → List Str
  | .ok p => p.env.namespaces
  | .err _ env => env.namespaces
  | .panic => []

/-- The interning tables of a fresh `Xot` (`Xot::new`). -/
def Env.fresh : Env :=
  { namespaces := [[], ['h', 't', 't', 'p', ':', '/', '/', 'w', 'w', 'w', '.', 'w', '3', '.', 'o', 'r', 'g', '/', 'X', 'M', 'L', '/', '1', '9', '9', '8', '/', 'n', 'a', 'm', 'e', 's', 'p', 'a', 'c', 'e']],
    prefixes := [[], ['x', 'm', 'l']],
    names := [(['s', 'p', 'a', 'c', 'e'], 1), (['i', 'd'], 1)] }

end XotModel
