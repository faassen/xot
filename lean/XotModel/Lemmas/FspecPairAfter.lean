/-
  `insert_after` against the pair reading (`specMoveP`), for every forest with the invariant:
  the second half of the call (`tail_core`) for a moved node that is parentless, a child of another
  node or a child of the destination parent, the call after its argument checks, and
  `insertAfter_pair`; examples on a forest with adjacent text nodes.
-/
import XotModel.Lemmas.BasicFacts
import XotModel.Lemmas.FspecPairStage

/-! ## The second half of the call in the three geometries -/

namespace XotModel
open HTree Spec

namespace PairAfter

theorem nextOf_map {φ : HTree → HTree} (hφ : KidMap φ) (B : List HTree) (w : HTree) :
    nextOf (B.map φ) (φ w) = nextOf B w := by
  cases B with
  | nil => rfl
  | cons k B2 => simp [nextOf, hφ.value, hφ.handle]

/-! ### The second half of `insert_after`, from what the model reads -/

/-- `X` is the forest after the old-place consolidation, `Y` the forest after the cut (package
    `PairAppend.Stage`), in which the destination child list is `A ++ w :: B`. -/
theorem tail_core {f X Y : Forest} {q : Nat} {vq : Value} {t : HTree} {A : List HTree} {w : HTree}
    {B : List HTree} (hX : f.afterOldSite t.handle = X) (S : PairAppend.Stage X Y q t.handle t vq (A ++ w :: B))
    (hXnext : textData w = none → X.nextSibling w.handle = nextOf B w)
    (hwn : w.value.isNormal = true)
    (hplace : X.checkedInsertAfter w.handle t.handle = (Y.editAt (some q) (insertAfterTop w.handle t), true))
    (hleaf : t.value.isText = true → t.kids = []) :
    (f.moveTail t.handle (fun _ => some w.handle) (fun g => g.nextSibling w.handle)
        (fun g => g.checkedInsertAfter w.handle t.handle)).1 =
      (Y.editAt (some q) (insertAfterTop w.handle t)).mergeNewAt q t.handle := by
  obtain ⟨ndL, _⟩ := S.ysite.nodupKids
  have eL : A ++ w :: B = (A ++ [w]) ++ B := by simp
  have hI : insertAfterTop w.handle t ((A ++ [w]) ++ B) = (A ++ [w]) ++ t :: B := by
    rw [← eL, insertAfterTop_mid t (tops_ne_of_nodup ndL).1]; simp
  have hlast : ∀ ka, (A ++ [w]).getLast? = some ka → ka = w := fun ka h => by simpa using h.symm
  exact (eL ▸ S : PairAppend.Stage X Y q t.handle t vq ((A ++ [w]) ++ B)).moveTail hX hleaf rfl
    (fun ka hka _ => by rw [hlast ka hka])
    (fun a h => ⟨w, by simp, Option.some.inj h⟩)
    (fun hnl => by
      rw [hXnext (textData_none_of_not_text (hnl w (by simp)))]
      refine ⟨fun kb hkb hkbt => ?_, fun b h => ?_⟩
      · obtain ⟨B2, rfl⟩ := List.head?_eq_some_iff.1 hkb
        exact nextOf_cons_normal _ (Forest.normal_of_isText hkbt) hwn
      · obtain ⟨kb, B2, e, ekb, _⟩ := nextOf_eq_some h
        exact ⟨kb, by rw [e]; rfl, ekb⟩)
    hI (fun _ => hplace)

/-! ### Instance 1: the moved node is a parentless tree -/

theorem tail_root {f : Forest} {q : Nat} {vq : Value} {t : HTree} {A : List HTree} {w : HTree} {B : List HTree}
    (inv : f.Inv) (sq : SiteAt f q vq (A ++ w :: B)) (hgc : f.get? t.handle = some t)
    (hroot : f.ctx? t.handle = none) (hqt : q ∉ handles t) (hwn : w.value.isNormal = true) :
    (f.moveTail t.handle (fun _ => some w.handle) (fun g => g.nextSibling w.handle)
        (fun g => g.checkedInsertAfter w.handle t.handle)).1 =
      ((f.editAt none (dropTop t.handle)).editAt (some q) (insertAfterTop w.handle t)).mergeNewAt q t.handle := by
  have S := PairAppend.stage_root sq hgc hroot hqt
  refine tail_core (Forest.afterOldSite_of_no_ctx hroot) S (fun _ => Forest.nextSibling_of_ctx sq.ctx) hwn ?_
    (leaf_of_text inv.valid hgc)
  rw [Forest.checkedInsertAfter_ok hgc sq hqt (S.ynot w (by simp)), Forest.parent?_of_no_ctx hroot,
    Forest.placeAfter_of_ctx t S.ysite.nd S.ysite.ctx]

/-! ### Instance 2: the moved node is a child of another node -/

theorem tail_kid {f X : Forest} {po q : Nat} {vo vq : Value} {l1 : List HTree} {t : HTree} {r1 A : List HTree}
    {w : HTree} {B : List HTree} (hX : f.afterOldSite t.handle = X)
    (so : SiteAt X po vo (l1 ++ t :: r1)) (sq : SiteAt X q vq (A ++ w :: B)) (hne : po ≠ q)
    (hqt : q ∉ handles t) (hwn : w.value.isNormal = true)
    (hleaf : t.value.isText = true → t.kids = []) :
    (f.moveTail t.handle (fun _ => some w.handle) (fun g => g.nextSibling w.handle)
        (fun g => g.checkedInsertAfter w.handle t.handle)).1 =
      ((X.editAt (some po) (dropTop t.handle)).editAt (some q) (insertAfterTop w.handle t)).mergeNewAt q
        t.handle := by
  let φ : HTree → HTree := HTree.editAt po (dropTop t.handle)
  have hφ : KidMap φ := kidMap_editAt _ _
  have S : PairAppend.Stage X (X.editAt (some po) (dropTop t.handle)) q t.handle t vq
      (A.map φ ++ φ w :: B.map φ) := by
    simpa using PairAppend.stage_kid so sq hne hqt
  have hcw : w.handle ≠ t.handle := by
    have := S.ynot (φ w) (by simp)
    rwa [hφ.handle] at this
  have h := tail_core hX S
    (by
      intro _
      rw [hφ.handle, nextOf_map hφ]
      exact Forest.nextSibling_of_ctx sq.ctx)
    (by rw [hφ.value]; exact hwn)
    (by
      rw [hφ.handle, Forest.checkedInsertAfter_ok so.getKid sq hqt hcw, Forest.parent?_of_ctx? so.ctx]
      have hctx := S.ysite.ctx
      rw [hφ.handle] at hctx
      rw [Forest.placeAfter_of_ctx t S.ysite.nd hctx])
    hleaf
  rw [hφ.handle] at h
  exact h

/-! ### Instance 3: the moved node is a child of the destination parent -/

theorem split_around {L1 L2 A B : List HTree} {w : HTree} (h : L1 ++ L2 = A ++ w :: B) :
    (∃ m, L1 = A ++ w :: m ∧ B = m ++ L2) ∨ (∃ m, A = L1 ++ m ∧ L2 = m ++ w :: B) := by
  rcases List.append_eq_append_iff.1 h with ⟨a', h1, h2⟩ | ⟨c', h1, h2⟩
  · -- A = L1 ++ a', L2 = a' ++ w :: B
    exact Or.inr ⟨a', h1, h2⟩
  · -- L1 = A ++ c', w :: B = c' ++ L2
    cases c' with
    | nil =>
      simp only [List.nil_append] at h2
      simp only [List.append_nil] at h1
      exact Or.inr ⟨[], by simp [h1], by simp [h2]⟩
    | cons x c'' =>
      simp only [List.cons_append] at h2
      injection h2 with e1 e2
      subst e1
      exact Or.inl ⟨c'', h1, e2⟩

theorem tail_same {f X : Forest} {q : Nat} {vq : Value} {L1 : List HTree} {t : HTree} {L2 A : List HTree}
    {w : HTree} {B : List HTree} (hX : f.afterOldSite t.handle = X)
    (sX : SiteAt X q vq (L1 ++ t :: L2)) (hsplit : L1 ++ L2 = A ++ w :: B)
    (hwn : w.value.isNormal = true) (hleaf : t.value.isText = true → t.kids = [])
    (hadj : ∀ A', L1 = A' ++ [w] → w.value.isText = true) :
    (f.moveTail t.handle (fun _ => some w.handle) (fun g => g.nextSibling w.handle)
        (fun g => g.checkedInsertAfter w.handle t.handle)).1 =
      ((X.editAt (some q) (dropTop t.handle)).editAt (some q) (insertAfterTop w.handle t)).mergeNewAt q
        t.handle := by
  have S : PairAppend.Stage X (X.editAt (some q) (dropTop t.handle)) q t.handle t vq (A ++ w :: B) :=
    hsplit ▸ PairAppend.stage_same sX
  have hwL : w ∈ L1 ++ t :: L2 := by
    have : w ∈ L1 ++ L2 := by rw [hsplit]; simp
    exact List.mem_append.2 ((List.mem_append.1 this).imp_right (List.mem_cons_of_mem _))
  obtain ⟨Pw, Qw, _, sw⟩ := site_split sX hwL
  refine tail_core hX S ?_ hwn ?_ hleaf
  · intro hta
    rcases split_around hsplit with ⟨m, e1, e2⟩ | ⟨m, e1, e2⟩
    · have s1 : SiteAt X q vq (A ++ w :: (m ++ t :: L2)) := by
        have : A ++ w :: (m ++ t :: L2) = L1 ++ t :: L2 := by rw [e1]; simp
        rw [this]; exact sX
      rw [Forest.nextSibling_of_ctx s1.ctx, e2]
      simp only
      cases m with
      | nil =>
        exact absurd (hadj A (by rw [e1])) (not_text_of_textData_none hta)
      | cons x m' => simp [nextOf]
    · have s1 : SiteAt X q vq ((L1 ++ t :: m) ++ w :: B) := by
        have : (L1 ++ t :: m) ++ w :: B = L1 ++ t :: L2 := by rw [e2]; simp
        rw [this]; exact sX
      rw [Forest.nextSibling_of_ctx s1.ctx]
  · rw [Forest.checkedInsertAfter_ok sX.getKid sw sX.not_mem_kid (S.ynot w (by simp)),
      Forest.parent?_of_ctx? sX.ctx, Forest.placeAfter_of_ctx t S.ysite.nd S.ysite.ctx]

end PairAfter
end XotModel

/-! ## After the argument checks; the moved node comes from elsewhere -/

namespace XotModel
open HTree Spec

namespace PairAfter

/-- `insert_after` after the two argument checks and the same-position exit: the common tail of the
    moves with the reference the call really uses (`Forest.insertAfterRef`). -/
def afterChecks (f : Forest) (r c : Nat) : Forest × Res :=
  f.moveTail c (fun _ => some (f.insertAfterRef r c)) (fun g => g.nextSibling (f.insertAfterRef r c))
    (fun g => g.checkedInsertAfter (f.insertAfterRef r c) c)

theorem insertAfter_eq_afterChecks {f : Forest} {r c : Nat}
    (hsc : f.structureCheck (f.parent? r) c = true) (hsr : f.siblingReferenceCheck r c = true)
    (hns : ¬ f.nextSibling r = some c) : f.insertAfter r c = afterChecks f r c := by
  rw [Forest.insertAfter_eq]
  simp only [hsc, hsr, Bool.not_true, Bool.false_eq_true, if_false, beq_iff_eq, hns]
  rfl

/-! ### The moved node is a parentless tree -/

theorem geo_root {f : Forest} {q : Nat} {vq : Value} {t : HTree} {A : List HTree} {kr : HTree} {B : List HTree}
    (inv : f.Inv) (sq : SiteAt f q vq (A ++ kr :: B)) (hgc : f.get? t.handle = some t)
    (hroot : f.ctx? t.handle = none) (hqt : q ∉ handles t) (hkrn : kr.value.isNormal = true) :
    (afterChecks f kr.handle t.handle).1 =
      (((f.editAt (f.parent? t.handle) (dropTop t.handle)).editAt (some q) (insertAfterTop kr.handle t)).mergeLeftAt
        (f.parent? t.handle) (f.nbOf t.handle)).mergeNewAt q t.handle := by
  unfold afterChecks Forest.insertAfterRef
  rw [Forest.prevSibling_of_no_ctx hroot, Forest.nextSibling_of_no_ctx hroot,
    Forest.removeConsolidate_none_left, Forest.parent?_of_no_ctx hroot, Forest.mergeLeftAt_none]
  simp only [Bool.false_and, Bool.false_eq_true, if_false]
  exact tail_root inv sq hgc hroot hqt hkrn

/-! ### The moved node is a child of another node -/

theorem geo_kid {f : Forest} {po q : Nat} {vo vq : Value} {l : List HTree} {t : HTree} {r A : List HTree}
    {kr : HTree} {B : List HTree} (inv : f.Inv)
    (so : SiteAt f po vo (l ++ t :: r)) (sq : SiteAt f q vq (A ++ kr :: B)) (hne : po ≠ q)
    (hqt : q ∉ handles t) (hkrn : kr.value.isNormal = true) (hvq : vq.isText = false)
    (hocc : Dest.occupiedBy f t.handle (.after kr.handle) = false) :
    (afterChecks f kr.handle t.handle).1 = specMoveP (.after kr.handle) t.handle f := by
  have hleaft : t.value.isText = true → t.kids = [] := so.leaf inv.valid t (by simp)
  -- the reference is not a sibling of the moved node: it is not rewritten
  have hnr : (nextOf r t == some kr.handle) = false := by
    cases h : nextOf r t == some kr.handle with
    | false => rfl
    | true =>
      exfalso
      obtain ⟨kb, r2, er, ekb, _⟩ := nextOf_eq_some (by simpa using h)
      subst er
      have := site_parent so (k := kb) (by simp)
      rw [ekb, Forest.parent?_of_ctx? sq.ctx] at this
      exact hne (Option.some.inj this).symm
  obtain ⟨X, l1, r1, M, hrcX, O⟩ := oldP inv so
  unfold afterChecks Forest.insertAfterRef
  rw [Forest.prevSibling_of_ctx so.ctx, Forest.nextSibling_of_ctx so.ctx]
  simp only [hnr, Bool.and_false, Bool.false_eq_true, if_false]
  -- the destination child list in `X`
  let φ : HTree → HTree := HTree.editAt po (fun _ => l1 ++ t :: r1)
  have hφ : KidMap φ := kidMap_editAt _ _
  have sXq : SiteAt X q vq (A.map φ ++ φ kr :: B.map φ) := by
    simpa using O.dest so sq hne hvq
  have h := tail_kid ((Forest.afterOldSite_of_ctx so.ctx).trans hrcX) O.site sXq hne hqt
    (by rw [hφ.value]; exact hkrn) hleaft
  rw [hφ.handle] at h
  rw [h]
  exact (O.spec_far so hne hocc (by simp only [Dest.site]; exact Forest.parent?_of_ctx? sq.ctx)
    (fun ψ hk hψ => natFor_insertAfterTop hk _ hψ)).symm

end PairAfter
end XotModel

/-! ## The moved node is a sibling of the reference; `insertAfter_pair` -/

namespace XotModel
open HTree Spec

namespace PairAfter

/-! ### The child list after the model's steps and after the specification's steps -/

/-- The model inserts after the child called `h`, or after the survivor `a` when `h` is the consumed
    text node `b`; the specification inserts after `h` and merges `a b` afterwards. -/
theorem list_ref {l' r' : List HTree} {a t b : HTree} {x y : Str} {h : Nat}
    (nd : (handlesList ((l' ++ [a]) ++ t :: b :: r')).Nodup)
    (hx : a.value = .text x) (hy : b.value = .text y) (hh : h ≠ a.handle) :
    mergeAdj a.handle b.handle (insertAfterTop h t ((l' ++ [a]) ++ b :: r')) =
      insertAfterTop (if h = b.handle then a.handle else h) t ((l' ++ [a.setValue (.text (x ++ y))]) ++ r') := by
  have e1 : (l' ++ [a]) ++ t :: b :: r' = l' ++ a :: (t :: b :: r') := by simp
  have e2 : (l' ++ [a]) ++ t :: b :: r' = (l' ++ [a] ++ [t]) ++ b :: r' := by simp
  obtain ⟨ta, ta2⟩ := tops_ne_of_nodup (e1 ▸ nd)
  obtain ⟨tb, _⟩ := tops_ne_of_nodup (e2 ▸ nd)
  have e3 : (l' ++ [a.setValue (.text (x ++ y))]) ++ r' = l' ++ a.setValue (.text (x ++ y)) :: r' := by simp
  have e4 : (l' ++ [a]) ++ b :: r' = l' ++ a :: b :: r' := by simp
  rw [e3, e4]
  exact mergeAdj_replaceTop hx hy (fun e => tb a (by simp) e) (F := fun k => [k, t]) (P := []) (Q := [t])
    (fun _ => rfl) (fun k hk => by
      have : k = t := by simpa using hk
      rw [this]; exact ta2 t (by simp))
    (fun e => absurd e hh) (fun _ => rfl) r' l'
    (fun k hk => ⟨ta k hk, tb k (by simp [hk])⟩)

/-! ### The moved node is a sibling of the reference node -/

theorem geo_same {f : Forest} {q : Nat} {vq : Value} {l : List HTree} {t : HTree} {r A : List HTree}
    {kr : HTree} {B : List HTree} (inv : f.Inv)
    (so : SiteAt f q vq (l ++ t :: r)) (hAB : A ++ kr :: B = l ++ t :: r)
    (hrc : kr.handle ≠ t.handle) (hkrn : kr.value.isNormal = true) (hnt : t.value.isNormal = true)
    (hsame : ¬ nextOf B kr = some t.handle)
    (hocc : Dest.occupiedBy f t.handle (.after kr.handle) = false) :
    (afterChecks f kr.handle t.handle).1 = specMoveP (.after kr.handle) t.handle f := by
  have sq : SiteAt f q vq (A ++ kr :: B) := hAB ▸ so
  have hsite : Dest.site f (.after kr.handle) = some q := by
    simp only [Dest.site]; exact Forest.parent?_of_ctx? sq.ctx
  obtain ⟨ndL, _⟩ := so.nodupKids
  have hleafo := so.leaf inv.valid
  have hleaft : t.value.isText = true → t.kids = [] := hleafo t (by simp)
  have hord := (validTree_node (so.valid inv.valid)).2.1
  have hkrL : kr ∈ l ++ t :: r := by rw [← hAB]; simp
  have hkrLR : kr ∈ l ++ r := mem_without_of_ne hkrL hrc
  -- the reference does not stand directly before the moved node
  have hnotadj : ∀ A', l = A' ++ [kr] → False := by
    intro A' e
    have s1 : SiteAt f q vq (A' ++ kr :: (t :: r)) := by
      have : A' ++ kr :: (t :: r) = l ++ t :: r := by rw [e]; simp
      rw [this]; exact so
    have h1 := s1.ctx
    rw [sq.ctx] at h1
    injection (Option.some.inj h1) with _ _ _ eB
    apply hsame
    rw [eB]
    exact nextOf_cons_normal _ hnt hkrn
  -- with the reference `w` the model continues with, in the state `X` after the old-place step
  have key : ∀ {X : Forest} {l1 r1 : List HTree} {M : List HTree → List HTree} (w : HTree),
      f.afterOldSite t.handle = X → OldP f q vq l t r X l1 r1 M → w ∈ l1 ++ r1 → w.value.isNormal = true →
      (∀ A', l1 = A' ++ [w] → w.value.isText = true) →
      M (insertAfterTop kr.handle t (l ++ r)) = insertAfterTop w.handle t (l1 ++ r1) →
      (f.moveTail t.handle (fun _ => some w.handle) (fun g => g.nextSibling w.handle) (fun g => g.checkedInsertAfter w.handle t.handle)).1 =
        specMoveP (.after kr.handle) t.handle f := by
    intro X l1 r1 M w hX O hw hwn hwadj hadj
    obtain ⟨A2, B2, hsplit⟩ := List.append_of_mem hw
    rw [tail_same hX O.site hsplit hwn hleaft hwadj]
    exact (O.spec_same so hocc hsite hadj).symm
  have hold := oldSite (k := t) (show SiteAt f q vq (l ++ ([t] ++ r)) from so)
    (fun k hk => hleafo k (List.mem_append_right _ (List.mem_cons_of_mem _ hk))) (hcat_of_ordered hord)
  have hX0 := Forest.afterOldSite_of_ctx so.ctx
  unfold afterChecks Forest.insertAfterRef
  rw [Forest.prevSibling_of_ctx so.ctx, Forest.nextSibling_of_ctx so.ctx]
  simp only
  rcases hold with ⟨h1, h2⟩ | ⟨hc, l', a, b, r', x, y, el, er, hx, hy, hp, hn, h3⟩
  · rw [h1]
    simp only [Bool.false_and, Bool.false_eq_true, if_false]
    obtain ⟨M, O, hnoop⟩ := oldP_same so h2
    exact key kr (hX0.trans (congrArg Prod.fst h1)) O hkrLR hkrn (fun A' e => (hnotadj A' e).elim)
      (hnoop _ (fun x hx => mem_of_mem_insert (fun k y hy => by simpa using hy) hx))
  · subst el er
    have hX := hX0.trans (congrArg Prod.fst h3)
    rw [h3, hp, hn]
    simp only [Bool.true_and, Option.getD_some]
    have O := oldP_merged so hleafo hc hx hy
    have hat' : (a.setValue (.text (x ++ y))).value.isText = true := by rw [setValue_value]; rfl
    have hkra : kr.handle ≠ a.handle := by
      intro e
      exact hnotadj l' (by rw [eq_of_handle ndL hkrL (by simp) e])
    have hadj := list_ref ndL hx hy hkra
    by_cases hb : b.handle = kr.handle
    · -- the reference is the consumed text node: the model continues with the survivor
      have hb' : (some b.handle == some kr.handle) = true := by simpa using hb
      simp only [hb', if_true]
      rw [if_pos hb.symm] at hadj
      have := key (a.setValue (.text (x ++ y))) hX O (by simp) (Forest.normal_of_isText hat') (fun _ _ => hat')
        (by rw [setValue_handle]; exact hadj)
      rwa [setValue_handle] at this
    · have hb' : (some b.handle == some kr.handle) = false := by simpa using hb
      simp only [hb', Bool.false_eq_true, if_false]
      rw [if_neg (fun e => hb e.symm)] at hadj
      refine key kr hX O (mem_merged _ hkrLR hkra (fun e => hb e.symm)) hkrn ?_ hadj
      · intro A' e
        have : a.setValue (.text (x ++ y)) = kr := by simpa using (List.append_inj' e rfl).2
        rw [← this]; exact hat'

end PairAfter

/-- **insert_after**, pair reading: for EVERY forest satisfying the invariant (adjacent text nodes
    allowed), a successful `insert_after(r, c)` yields exactly the specification's move of `c` to
    the place after `r` — handle for handle; all geometries (parentless `c`, `c` a child of
    another node, `c` a sibling of `r` before or after it, `r` consumed by the old-place merge). -/
theorem insertAfter_pair {f : Forest} {r c : Nat} (inv : f.Inv) (hok : (f.insertAfter r c).2 = .ok) :
    (f.insertAfter r c).1 = specMoveP (.after r) c f := by
  have nd := inv.nodup
  obtain ⟨hsc, hsr⟩ := insertAfter_ok_checks hok
  obtain ⟨q, vq, A, kr, B, t, sq, ekr, hkrn, hrc, hgc, hqt, hnorm, hndoc, hvq⟩ := sibling_checks_unpack nd hsc hsr
  subst ekr
  have htc : t.handle = c := (findList?_some f.roots t hgc).1
  subst htc
  have hnext : f.nextSibling kr.handle = nextOf B kr := Forest.nextSibling_of_ctx sq.ctx
  have hparref : f.parent? kr.handle = some q := Forest.parent?_of_ctx? sq.ctx
  have hoccIff := occupied_after sq hgc hnorm hkrn
  by_cases hsame : nextOf B kr = some t.handle
  · rw [specMoveP_occupied (hoccIff.2 hsame), Forest.insertAfter_eq]
    simp [hsc, hsr, hnext, hsame]
  · have hocc : Dest.occupiedBy f t.handle (.after kr.handle) = false := by
      cases h : Dest.occupiedBy f t.handle (.after kr.handle) with
      | false => rfl
      | true => exact absurd (hoccIff.1 h) hsame
    have hsite : Dest.site f (.after kr.handle) = some q := by simp only [Dest.site]; exact hparref
    rw [PairAfter.insertAfter_eq_afterChecks hsc hsr (by rw [hnext]; exact hsame)]
    rcases sq.mover hgc with hno | ⟨l, r, hctx, hAB⟩ | ⟨po, vo, l, r, hpo, hctx, so⟩
    · rw [specMoveP_unfold hocc hgc hsite]
      exact PairAfter.geo_root inv sq hgc hno hqt hkrn
    · exact PairAfter.geo_same inv (hAB ▸ sq) hAB hrc hkrn hnorm hsame hocc
    · exact PairAfter.geo_kid inv so sq hpo hqt hkrn hvq hocc

/-! ### Non-vacuity: forests WITH adjacent text nodes (consolidation on again after it was off) -/

/-- `<e>a b c <x>d e</x> f g</e>`, the parentless text `h`, `<y>i</y>`: text nodes `1 2 3`, `5 6`,
    `7 8` are adjacent. -/
def pairAfterEx : Forest :=
  { roots := [.node 0 (.element 2) [.node 1 (.text ['a']) [], .node 2 (.text ['b']) [], .node 3 (.text ['c']) [],
                .node 4 (.element 6) [.node 5 (.text ['d']) [], .node 6 (.text ['e']) []],
                .node 7 (.text ['f']) [], .node 8 (.text ['g']) []],
              .node 9 (.text ['h']) [], .node 10 (.element 3) [.node 11 (.text ['i']) []]],
    next := 12, consolidation := true, everOff := true }

/-- The hypotheses hold: `insert_after(3, 2)` on `a b c` (all text; `a` and `c` are merged around
    `b`, the reference `c` is consumed, `b` is merged into the survivor `a`). -/
example : (pairAfterEx.insertAfter 3 2).1 = specMoveP (.after 3) 2 pairAfterEx :=
  insertAfter_pair ((Forest.inv_iff _).1 (by decide +kernel)) (by decide +kernel)

example :
    pairAfterEx.inv = true ∧
    -- `b` between `a` and `c`, moved behind `c`: one node `a` with `a c b`
    pairAfterEx.insertAfter 3 2 = (specMoveP (.after 3) 2 pairAfterEx, .ok) ∧
    (pairAfterEx.insertAfter 3 2).1.get? 1 = some (.node 1 (.text ['a', 'c', 'b']) []) ∧
    (pairAfterEx.insertAfter 3 2).1.isLive 3 = false ∧ (pairAfterEx.insertAfter 3 2).1.isLive 2 = false ∧
    -- the parentless text `h` behind `a`: merged into `a` only, `b` stays
    (pairAfterEx.insertAfter 1 9).1 = specMoveP (.after 1) 9 pairAfterEx ∧
    (pairAfterEx.insertAfter 1 9).1.get? 1 = some (.node 1 (.text ['a', 'h']) []) ∧
    (pairAfterEx.insertAfter 1 9).1.isLive 2 = true ∧
    -- `d` (child of `x`) behind the element `x`: merged into the following `f`, which survives
    (pairAfterEx.insertAfter 4 5).1 = specMoveP (.after 4) 5 pairAfterEx ∧
    (pairAfterEx.insertAfter 4 5).1.get? 7 = some (.node 7 (.text ['d', 'f']) []) ∧
    -- the element `x` between `c` and `f`, moved behind `g`: `c f` merged, `g` stays
    (pairAfterEx.insertAfter 8 4).1 = specMoveP (.after 8) 4 pairAfterEx ∧
    (pairAfterEx.insertAfter 8 4).1.get? 3 = some (.node 3 (.text ['c', 'f']) []) ∧
    (pairAfterEx.insertAfter 8 4).1.isLive 8 = true := by
  decide +kernel

end XotModel
