/-
  `NodeEdge::previous` stepping enumerates `reverse_traverse` (well-formed trees, normal start node).
-/
import XotModel.Lemmas.AxesEdgesNext

namespace XotModel.Axes

theorem reverseTraverse_eq (t : Tree) (π : Path) : reverseTraverse t π = (traverse t π).reverse := by
  simp [reverseTraverse, arenaReverseTraverse, traverse, List.filter_reverse]

/-- Continue the backward walk from an optional edge. -/
def contP (t : Tree) (m : Nat) : Option Edge → List Edge
  | none => []
  | some e => edgeWalk (Edge.previous t) m e

@[simp] theorem contP_none (t : Tree) (m : Nat) : contP t m none = [] := rfl

theorem contP_succ (t : Tree) (m : Nat) (e : Edge) :
    contP t (m + 1) (some e) = e :: contP t m (Edge.previous t e) := by
  simp only [contP, edgeWalk]
  cases Edge.previous t e <;> rfl

/-- The walk yields what `NodeEdge::previous` visits; the fuel left over goes on from there. -/
theorem contP_visits (t : Tree) {a b : Option Edge} {l : List Edge} (h : Visits (Edge.previous t) a l b) (m : Nat) :
    contP t (l.length + m) a = l ++ contP t m b := by
  induction h with
  | nil a => rw [List.length_nil, Nat.zero_add, List.nil_append]
  | cons _ ih => rw [List.length_cons, Nat.add_right_comm, contP_succ, ih, List.cons_append]

theorem previous_start_snoc (t : Tree) (π : Path) (i : Nat) :
    Edge.previous t (.start (π ++ [i])) =
      if i = 0 then some (.start π)
      else if categoryAt t (π ++ [i - 1]) == categoryAt t (π ++ [i]) then some (.stop (π ++ [i - 1]))
      else some (.start π) := by
  simp only [Edge.previous, previousSibling_snoc]
  by_cases h0 : i = 0
  · simp [h0]
  · simp only [h0, if_false]
    by_cases hc : (categoryAt t (π ++ [i - 1]) == categoryAt t (π ++ [i])) = true
    · simp [hc]
    · simp [hc]

theorem kidEdges_take_succ {t : Tree} {π : Path} {v : Value} {all : List Tree}
    (h : t.at? π = some (.node v all)) {i : Nat} (hi : i < all.length) :
    kidEdges t π 0 (all.take (i + 1)) = kidEdges t π 0 (all.take i) ++ traverse t (π ++ [i]) := by
  have hk : all[i]? = some all[i] := List.getElem?_eq_getElem hi
  rw [List.take_add_one, hk, kidEdges_append]
  have : (all.take i).length = i := by simp; omega
  simp only [Option.toList_some, this, Nat.zero_add]
  rw [kidEdges_cons h hk]; simp

theorem kidEdges_take_abnormal {t : Tree} {π : Path} {v : Value} {all : List Tree}
    (h : t.at? π = some (.node v all)) (hord : kidsOrdered all = true) (hwl : wfList all = true)
    {i : Nat} (hi : i < all.length) (hab : all[i].value.isNormal = false) :
    kidEdges t π 0 (all.take (i + 1)) = [] := by
  apply kidEdges_abnormal h _ 0 ?_ (take_abnormal_leaves hord hwl hi hab)
  intro j k hj
  rw [List.getElem?_take] at hj
  split at hj
  · rw [Nat.zero_add]; exact hj
  · cases hj

/-- From the end edge of normal child `i` back through the children `i..0`, then `Start(π)` (`hsub`: from the
    end edge of a normal child, its `traverse` backwards). -/
theorem visits_previous_kids {t : Tree} {π : Path} {v : Value} {all : List Tree}
    (h : t.at? π = some (.node v all)) (hord : kidsOrdered all = true) (hwl : wfList all = true)
    (hsub : ∀ k ∈ all, ∀ ρ, t.at? ρ = some k → k.value.isNormal = true →
      Visits (Edge.previous t) (some (.stop ρ)) (traverse t ρ).reverse (Edge.previous t (.start ρ))) :
    ∀ (i : Nat) (hi : i < all.length), all[i].value.isNormal = true →
    Visits (Edge.previous t) (some (.stop (π ++ [i]))) ((kidEdges t π 0 (all.take (i + 1))).reverse ++ [.start π])
      (Edge.previous t (.start π))
  | i, hi, hn => by
    have hk : all[i]? = some all[i] := List.getElem?_eq_getElem hi
    have := hsub all[i] (List.getElem_mem hi) (π ++ [i]) (by rw [at?_snoc h, hk]) hn
    rw [previous_start_snoc] at this
    rw [kidEdges_take_succ h hi, List.reverse_append, List.append_assoc]
    cases i with
    | zero =>
      rw [if_pos rfl] at this
      simpa using this.append (Visits.single _ _)
    | succ i =>
      have hi' : i < all.length := by omega
      have hk' : all[i]? = some all[i] := List.getElem?_eq_getElem hi'
      rw [if_neg (Nat.add_one_ne_zero i), Nat.add_sub_cancel, categoryAt_snoc h hk', categoryAt_snoc h hk] at this
      by_cases hc : (all[i].value.category == all[i + 1].value.category) = true
      · have hn' : all[i].value.isNormal = true := by
          simp only [Value.isNormal, beq_iff_eq] at hn ⊢
          rw [beq_iff_eq] at hc; rw [hc, hn]
        rw [if_pos hc] at this
        exact this.append (visits_previous_kids h hord hwl hsub i hi' hn')
      · have hab : all[i].value.isNormal = false := by
          cases hn' : all[i].value.isNormal
          · rfl
          · rw [category_eq_of_normal hn' hn, beq_self_eq_true] at hc; exact absurd rfl hc
        rw [if_neg hc] at this
        rw [kidEdges_take_abnormal h hord hwl hi' hab, List.reverse_nil, List.nil_append]
        exact this.append (Visits.single _ _)
termination_by i => i
decreasing_by omega

theorem kidPaths_concat (p : Path) (i : Nat) (l : List Tree) (x : Tree) :
    kidPaths p i (l ++ [x]) = kidPaths p i l ++ [(p ++ [i + l.length], x)] := by
  rw [kidPaths_append]; rfl

theorem lastChild_of {t : Tree} {π : Path} {v : Value} {l : List Tree} {x : Tree}
    (h : t.at? π = some (.node v (l ++ [x]))) :
    lastChild t π = if x.value.isNormal then some (π ++ [l.length]) else none := by
  unfold lastChild
  rw [allChildren_of_at? h, kidPaths_concat, List.getLast?_concat]
  simp [itemNormal]

theorem lastChild_of_nil {t : Tree} {π : Path} {v : Value}
    (h : t.at? π = some (.node v [])) : lastChild t π = none := by
  unfold lastChild
  rw [allChildren_of_at? h]; rfl

/-- From the end edge of a normal node: its `traverse` backwards, then whatever precedes its start edge. -/
theorem visits_previous_sub (t : Tree) (hw : wf t = true) : ∀ (n : Nat) (s : Tree), s.size ≤ n →
    ∀ (π : Path), t.at? π = some s → s.value.isNormal = true →
    Visits (Edge.previous t) (some (.stop π)) (traverse t π).reverse (Edge.previous t (.start π))
  | 0, s, hs => by cases s; simp [Tree.size] at hs
  | n + 1, .node v all, hs => by
    intro π h hn
    obtain ⟨hord, hwl⟩ := wf_node hw h
    have hsub : ∀ k ∈ all, ∀ ρ, t.at? ρ = some k → k.value.isNormal = true →
        Visits (Edge.previous t) (some (.stop ρ)) (traverse t ρ).reverse (Edge.previous t (.start ρ)) := by
      intro k hk
      apply visits_previous_sub t hw n k
      obtain ⟨i, hi, rfl⟩ := List.getElem_of_mem hk
      have := size_getElem?_le all i _ (List.getElem?_eq_getElem hi)
      simp [Tree.size] at hs; omega
    rw [traverse_node h hn]
    simp only [List.reverse_cons, List.reverse_append, List.reverse_nil, List.nil_append, List.cons_append]
    refine .cons ?_
    rcases List.eq_nil_or_concat all with hnil | ⟨l, x, hl⟩
    · subst hnil
      simp only [Edge.previous, lastChild_of_nil h, kidEdges_nil, List.reverse_nil, List.nil_append]
      exact Visits.single _ _
    · have hl' : all = l ++ [x] := by simpa using hl
      have hlen : l.length < all.length := by rw [hl']; simp
      have hx : all[l.length] = x := by simp [hl']
      have htake : all.take (l.length + 1) = all := by
        apply List.take_of_length_le; rw [hl']; simp
      have hlc : lastChild t π = if x.value.isNormal then some (π ++ [l.length]) else none := by
        subst hl'; exact lastChild_of h
      by_cases hxn : x.value.isNormal = true
      · have := visits_previous_kids h hord hwl hsub l.length hlen (by rw [hx]; exact hxn)
        rw [htake] at this
        simpa only [Edge.previous, hlc, hxn, if_true] using this
      · have hab : all[l.length].value.isNormal = false := by rw [hx]; simpa using hxn
        have hnil := kidEdges_take_abnormal h hord hwl hlen hab
        rw [htake] at hnil
        simp only [Edge.previous, hlc, hxn, Bool.false_eq_true, if_false, hnil, List.reverse_nil, List.nil_append]
        exact Visits.single _ _

/-- `NodeEdge::previous` from `End(π)` (normal node of a well-formed tree) runs through
    `reverse_traverse(π)` and goes on with whatever precedes `Start(π)`. -/
theorem edgeWalk_previous_eq {t : Tree} {π : Path} (hw : wf t = true) (h : Valid t π)
    (hn : isNormalAt t π = true) (m : Nat) :
    edgeWalk (Edge.previous t) ((reverseTraverse t π).length + m) (.stop π) =
      reverseTraverse t π ++ contP t m (Edge.previous t (.start π)) := by
  rw [reverseTraverse_eq]
  exact contP_visits t (visits_previous_sub t hw _ _ (Nat.le_refl _) π h.at? hn) m

theorem edgeWalk_previous_root {t : Tree} (hw : wf t = true) (hn : isNormalAt t [] = true) (m : Nat) :
    edgeWalk (Edge.previous t) ((reverseTraverse t []).length + m) (.stop []) = reverseTraverse t [] := by
  rw [edgeWalk_previous_eq hw (valid_nil t) hn]
  simp [Edge.previous, previousSibling, internalPreviousSibling]

end XotModel.Axes
