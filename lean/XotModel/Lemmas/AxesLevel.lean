/-
  `level_order` (levelorder.rs): the queue machine yields the levels below the start node, one
  after the other, with `End` wherever the parent changes and at the very end.
-/
import XotModel.Lemmas.AxesEdgesPrevious

namespace XotModel.Axes

/-- Level `k` below `p`: `[p]`, its children, their children, … -/
def levelAt (t : Tree) (p : Path) : Nat → List Path
  | 0 => [p]
  | k + 1 => (levelAt t p k).flatMap (children t)

/-- Breadth-first order below `p`: the levels one after the other (levels from the node count of
    the tree on are empty: `levelAt_size`). -/
def bfsOrder (t : Tree) (p : Path) : List Path := (List.range t.size).flatMap (levelAt t p)

/-- `End` before every node whose parent differs from its predecessor's, and at the end. -/
def withEnds : Path → List Path → List LevelOrder
  | _, [] => [.stop]
  | last, n :: ns => (if parent last != parent n then [LevelOrder.stop] else []) ++ .node n :: withEnds n ns

/-- The order in which the queue is consumed. -/
def queueOrder (t : Tree) : Nat → List Path → List Path
  | 0, _ => []
  | _ + 1, [] => []
  | fuel + 1, n :: q => n :: queueOrder t fuel (q ++ children t n)

@[simp] theorem queueOrder_nil (t : Tree) (f : Nat) : queueOrder t f [] = [] := by cases f <;> rfl

theorem queueOrder_append (t : Tree) : ∀ (a b : List Path) (f : Nat),
    queueOrder t (a.length + f) (a ++ b) = a ++ queueOrder t f (b ++ a.flatMap (children t))
  | [], b, f => by simp
  | x :: a, b, f => by
    rw [show (x :: a).length + f = (a.length + f) + 1 by simp; omega]
    simp only [List.cons_append, queueOrder, List.flatMap_cons]
    rw [List.append_assoc, queueOrder_append t a (b ++ children t x) f]
    simp [List.append_assoc]

/-- The queue runs through the levels. -/
theorem queueOrder_levels (t : Tree) (p : Path) : ∀ (d f : Nat),
    queueOrder t (((List.range d).flatMap (levelAt t p)).length + f) [p] =
      (List.range d).flatMap (levelAt t p) ++ queueOrder t f (levelAt t p d)
  | 0, f => by simp [levelAt]
  | d + 1, f => by
    rw [List.range_succ, List.flatMap_append, List.length_append]
    simp only [List.flatMap_cons, List.flatMap_nil, List.append_nil]
    rw [Nat.add_assoc, queueOrder_levels t p d, List.append_assoc]
    congr 1
    have := queueOrder_append t (levelAt t p d) [] f
    simpa [levelAt] using this

/-- The machine is the queue order with the `End` markers, provided the fuel did not run out. -/
theorem levelOrderLoop_eq (t : Tree) : ∀ (F : Nat) (q : List Path) (last : Path),
    (queueOrder t F q).length < F → levelOrderLoop t F q last = withEnds last (queueOrder t F q)
  | 0, _, _, h => by simp at h
  | F + 1, [], last, _ => by simp [levelOrderLoop, withEnds]
  | F + 1, n :: q, last, h => by
    simp only [queueOrder, List.length_cons] at h
    simp only [levelOrderLoop, queueOrder, withEnds]
    rw [levelOrderLoop_eq t F _ n (by omega)]

/-! ### The fuel is adequate -/

theorem valid_length_lt_size : ∀ (t : Tree) (p : Path), Valid t p → p.length < t.size
  | t, [], _ => by cases t; simp [Tree.size]; omega
  | .node v ks, i :: p, h => by
    unfold Valid at h
    simp only [Tree.at?] at h
    cases hk : ks[i]? with
    | none => rw [hk] at h; cases h
    | some k =>
      rw [hk] at h
      have h1 := valid_length_lt_size k p h
      have h2 := size_getElem?_le ks i k hk
      simp [Tree.size]; omega

theorem children_valid {t : Tree} {n : Path} (h : Valid t n) {c : Path} (hc : c ∈ children t n) :
    Valid t c ∧ c.length = n.length + 1 := by
  unfold children normalChildren at hc
  obtain ⟨x, hx, rfl⟩ := List.mem_map.mp hc
  have hx' : x ∈ allChildren t n := (List.dropWhile_sublist _).subset hx
  have := allChildren_item h hx'
  refine ⟨this.2.1, ?_⟩
  obtain ⟨j, hj⟩ := (parent_eq_some_iff _ _).mp this.2.2
  rw [hj]; simp

theorem levelAt_valid {t : Tree} {p : Path} (h : Valid t p) : ∀ (k : Nat) (n : Path), n ∈ levelAt t p k →
    Valid t n ∧ n.length = p.length + k
  | 0, n, hn => by simp [levelAt] at hn; subst hn; exact ⟨h, rfl⟩
  | k + 1, n, hn => by
    simp only [levelAt, List.mem_flatMap] at hn
    obtain ⟨m, hm, hn⟩ := hn
    have h1 := levelAt_valid h k m hm
    have h2 := children_valid h1.1 hn
    exact ⟨h2.1, by omega⟩

theorem levelAt_size {t : Tree} {p : Path} (h : Valid t p) (k : Nat) (hk : t.size ≤ k) :
    levelAt t p k = [] := by
  cases hl : levelAt t p k with
  | nil => rfl
  | cons n l =>
    have := levelAt_valid h k n (by rw [hl]; simp)
    have := valid_length_lt_size t n this.1
    omega

/-- Sum of the subtree sizes of a list of nodes. -/
def weight (t : Tree) (l : List Path) : Nat := (l.map (fun n => (subAt t n).size)).sum

theorem weight_append (t : Tree) (a b : List Path) : weight t (a ++ b) = weight t a + weight t b := by
  simp [weight]

theorem length_le_weight (t : Tree) : ∀ l : List Path, l.length ≤ weight t l
  | [] => by simp [weight]
  | n :: l => by
    have := length_le_weight t l
    have h1 : 1 ≤ (subAt t n).size := by cases subAt t n; simp [Tree.size]
    simp [weight] at this ⊢; omega

theorem sizeList_eq_sum : ∀ ks : List Tree, Tree.size.sizeList ks = (ks.map Tree.size).sum
  | [] => rfl
  | k :: ks => by simp [Tree.size.sizeList, sizeList_eq_sum ks]

theorem kidPaths_weight {t : Tree} {n : Path} (h : Valid t n) : ∀ (l : List (Path × Tree)),
    (∀ x ∈ l, x ∈ allChildren t n) → weight t (l.map (·.1)) = (l.map (fun x => x.2.size)).sum
  | [], _ => by simp [weight]
  | x :: l, hl => by
    have hx := (allChildren_item h (hl x (by simp))).1
    have := kidPaths_weight h l (fun y hy => hl y (by simp [hy]))
    simp [weight] at this ⊢
    rw [hx, this]

theorem sum_sublist_le {l₁ l₂ : List Nat} (h : l₁.Sublist l₂) : l₁.sum ≤ l₂.sum := by
  induction h with
  | slnil => simp
  | cons a _ ih => simp; omega
  | cons_cons a _ ih => simp; omega

theorem weight_children (t : Tree) (n : Path) : weight t (children t n) + 1 ≤ (subAt t n).size := by
  by_cases h : Valid t n
  · unfold children normalChildren
    have hsub : ((allChildren t n).dropWhile (fun x => !itemNormal x)).Sublist (allChildren t n) :=
      List.dropWhile_sublist _
    rw [kidPaths_weight h _ (fun x hx => hsub.subset hx)]
    have h1 := sum_sublist_le (hsub.map (fun x => x.2.size))
    have h2 : ((allChildren t n).map (fun x => x.2.size)).sum = Tree.size.sizeList (subAt t n).kids := by
      unfold allChildren
      rw [show (fun x : Path × Tree => x.2.size) = Tree.size ∘ (·.2) from rfl, ← List.map_map, kidPaths_map_snd,
        ← sizeList_eq_sum]
    rw [h2] at h1
    cases hs : subAt t n with
    | node v ks => rw [hs] at h1; simp only [Tree.size, Tree.kids] at h1 ⊢; omega
  · have : subAt t n = .node .document [] := by
      unfold Valid at h
      unfold subAt
      cases h' : t.at? n with
      | none => rfl
      | some s => rw [h'] at h; simp at h
    simp [children, normalChildren, allChildren, this, Tree.kids, kidPaths, weight, Tree.size,
      Tree.size.sizeList]

theorem weight_flatMap_children (t : Tree) : ∀ l : List Path,
    l.length + weight t (l.flatMap (children t)) ≤ weight t l
  | [] => by simp [weight]
  | n :: l => by
    have h1 := weight_flatMap_children t l
    have h2 := weight_children t n
    simp only [List.flatMap_cons, weight_append, List.length_cons]
    have : weight t (n :: l) = (subAt t n).size + weight t l := by simp [weight]
    omega

theorem levels_weight (t : Tree) (p : Path) : ∀ d : Nat,
    ((List.range d).flatMap (levelAt t p)).length + weight t (levelAt t p d) ≤ (subAt t p).size
  | 0 => by simp [levelAt, weight]
  | d + 1 => by
    have ih := levels_weight t p d
    have := weight_flatMap_children t (levelAt t p d)
    rw [List.range_succ, List.flatMap_append, List.length_append]
    simp only [List.flatMap_cons, List.flatMap_nil, List.append_nil, levelAt]
    omega

theorem bfsOrder_length_le {t : Tree} {p : Path} (h : Valid t p) : (bfsOrder t p).length ≤ t.size := by
  have h1 := levels_weight t p t.size
  have h2 := size_at?_le t p _ h.at?
  unfold bfsOrder; omega

/-- `level_order` = the levels below `p` in order, `End` wherever the parent changes and at the
    end. -/
theorem levelOrder_eq {t : Tree} {p : Path} (h : Valid t p) :
    levelOrder t p = withEnds p (bfsOrder t p) := by
  have hlen := bfsOrder_length_le h
  obtain ⟨f, hf⟩ : ∃ f, t.size + 1 = (bfsOrder t p).length + f := ⟨t.size + 1 - (bfsOrder t p).length, by omega⟩
  have hq : queueOrder t (t.size + 1) [p] = bfsOrder t p := by
    rw [hf]
    unfold bfsOrder
    rw [queueOrder_levels t p t.size f, levelAt_size h t.size (Nat.le_refl _)]
    simp
  unfold levelOrder
  rw [levelOrderLoop_eq t (t.size + 1) [p] p (by rw [hq]; omega), hq]

end XotModel.Axes
