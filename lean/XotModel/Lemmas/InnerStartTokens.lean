/-
  Round trip for a start node INSIDE a tree: the tokens.

  `serTokensAt env ugt t q` (what `to_string(node at q)` renders) for an element at `q` are the
  tokens of the document `standalone t q` (Model/InnerStartSpec.lean) serialised from its root —
  for EVERY tree, sound or not.

  Why.  Inner start: the stack starts as `[I]`, `I = namespaces_in_scope(node)`, the node pushes its
  own declarations `N`: top frame `I∖N ++ N`.  Standalone: the stack starts as `[[xml]]`, the element
  pushes `X ++ N` (`X` = `I∖N` without the built-in `xml` binding): top frame `[xml]? ++ X ++ N`.  The
  two frames differ only in where (and whether) the pair `(xml, XML namespace)` stands, and no lookup
  of the serialiser sees that pair (`TopRel`): names in the XML namespace are answered before the
  frame is consulted, `has_default_namespace` looks at the empty prefix only.  The relation survives
  every further `push` (`topRel_pushTop`).
-/
import XotModel.Lemmas.BasicFacts
import XotModel.Lemmas.SerTokensTop
import XotModel.Lemmas.RepairWalk
import XotModel.Lemmas.Doctype
import XotModel.Model.InnerStartSpec

namespace XotModel
open XotModel.Repair

variable {env : Env}

/-! ### Frames up to the built-in `xml` binding -/

/-- Not the built-in `xml` binding. -/
def keepNB (d : Nat × Nat) : Bool := !isBaseXml d

/-- Two top frames that agree once the pair `(xml, XML namespace)` is taken out. -/
def TopRel (a b : List (Nat × Nat)) : Prop := a.filter keepNB = b.filter keepNB

theorem TopRel.refl (a : List (Nat × Nat)) : TopRel a a := rfl

/-- `pushTop` without the case split: nothing is filtered out when nothing is declared. -/
theorem pushTop_eq_filter (top D : List (Nat × Nat)) :
    pushTop top D = top.filter (fun d => !D.any (fun d' => d'.1 == d.1)) ++ D := by
  unfold pushTop
  cases D with
  | nil =>
    simp only [List.isEmpty_nil, if_true, List.any_nil, Bool.not_false, List.append_nil]
    exact (List.filter_eq_self.mpr (fun _ _ => rfl)).symm
  | cons d D => simp only [List.isEmpty_cons, Bool.false_eq_true, if_false, fullnameInfoNew]

theorem topRel_pushTop {a b : List (Nat × Nat)} (h : TopRel a b) (D : List (Nat × Nat)) :
    TopRel (pushTop a D) (pushTop b D) := by
  unfold TopRel at h ⊢
  rw [pushTop_eq_filter, pushTop_eq_filter, List.filter_append, List.filter_append, List.filter_filter,
    List.filter_filter]
  have hc : ∀ l : List (Nat × Nat),
      l.filter (fun d => keepNB d && !D.any (fun d' => d'.1 == d.1)) =
        (l.filter keepNB).filter (fun d => !D.any (fun d' => d'.1 == d.1)) := by
    intro l
    rw [List.filter_filter]
    apply List.filter_congr
    intro x _
    exact Bool.and_comm _ _
  rw [hc a, hc b, h]

theorem topRel_hasDefault {a b : List (Nat × Nat)} (h : TopRel a b) : hasDefault a = hasDefault b := by
  have key : ∀ l : List (Nat × Nat), hasDefault l = hasDefault (l.filter keepNB) := by
    intro l
    unfold hasDefault
    rw [List.any_filter]
    congr 1
    funext d
    by_cases hd : (d.1 == Env.emptyPrefix) = true
    · have : keepNB d = true := by
        have h1 : d.1 = Env.emptyPrefix := by simpa using hd
        simp [keepNB, isBaseXml, h1, Env.emptyPrefix, Env.xmlPrefix]
      simp [this]
    · have hd' : (d.1 == Env.emptyPrefix) = false := by simpa using hd
      simp [hd']
  rw [key a, key b, h]

theorem topRel_prefixesByNamespace {a b : List (Nat × Nat)} (h : TopRel a b) {ns : Nat}
    (hns : ns ≠ Env.xmlNamespace) : prefixesByNamespace a ns = prefixesByNamespace b ns := by
  have key : ∀ l : List (Nat × Nat),
      l.filter (fun d => d.2 == ns) = (l.filter keepNB).filter (fun d => d.2 == ns) := by
    intro l
    rw [List.filter_filter]
    apply List.filter_congr
    intro d _
    by_cases hd : (d.2 == ns) = true
    · have h1 : d.2 = ns := by simpa using hd
      have : keepNB d = true := by
        simp only [keepNB, isBaseXml, Bool.not_eq_true', Bool.and_eq_false_iff, beq_eq_false_iff_ne, ne_eq]
        right; rw [h1]; exact hns
      simp [hd, this]
    · have hd' : (d.2 == ns) = false := by simpa using hd
      simp [hd']
  have e : ∀ l : List (Nat × Nat), prefixesByNamespace l ns =
      ((l.filter (fun d => d.2 == ns)).reverse).map (·.1) := by
    intro l
    unfold prefixesByNamespace
    rw [List.filter_reverse]
  rw [e a, e b, key a, key b, h]

theorem topRel_elementPrefix {s1 s2 : FStack} (h : TopRel s1.top s2.top) (name : Nat) :
    s1.elementPrefix env name = s2.elementPrefix env name := by
  unfold FStack.elementPrefix
  by_cases h1 : (env.nsOfName name == Env.noNamespace) = true
  · simp [h1]
  · by_cases h2 : (env.nsOfName name == Env.xmlNamespace) = true
    · simp [h1, h2]
    · have hne : env.nsOfName name ≠ Env.xmlNamespace := by simpa using h2
      simp only [h1, h2, Bool.false_eq_true, if_false]
      unfold elementPrefixByNamespace
      rw [topRel_prefixesByNamespace h hne]

theorem topRel_attributePrefix {s1 s2 : FStack} (h : TopRel s1.top s2.top) (name : Nat) :
    s1.attributePrefix env name = s2.attributePrefix env name := by
  unfold FStack.attributePrefix
  by_cases h1 : (env.nsOfName name == Env.noNamespace) = true
  · simp [h1]
  · by_cases h2 : (env.nsOfName name == Env.xmlNamespace) = true
    · simp [h1, h2]
    · have hne : env.nsOfName name ≠ Env.xmlNamespace := by simpa using h2
      simp only [h1, h2, Bool.false_eq_true, if_false]
      unfold attributePrefixByNamespace
      rw [topRel_prefixesByNamespace h hne]

theorem topRel_push {s1 s2 : FStack} (h : TopRel s1.top s2.top) (D : List (Nat × Nat)) :
    TopRel (s1.push D).top (s2.push D).top := by
  rw [top_push, top_push]; exact topRel_pushTop h D

theorem topRel_attrTokens {s1 s2 : FStack} (h : TopRel s1.top s2.top) :
    ∀ (as : List (Nat × Str)), attrTokens env s1 as = attrTokens env s2 as
  | [] => rfl
  | (name, v) :: rest => by
    rw [attrTokens, attrTokens, topRel_attributePrefix (env := env) h name, topRel_attrTokens h rest]

/-! ### `serNode` below the start node sees the stack only through its top frame up to `TopRel` -/

section AnyParams
variable (env : Env) (pr : TokenParams)

mutual
theorem serNodeO_topRel (i1 i2 : List (Nat × Nat)) (cd : Bool) (n : Tree) (s1 s2 : FStack)
    (h : TopRel s1.top s2.top) :
    serNodeO env pr i1 false s1 cd n = serNodeO env pr i2 false s2 cd n := by
  cases n with
  | node v ks =>
    have hk := fun cd' => serKidsO_topRel i1 i2 cd' ks s1 s2 h
    cases v with
    | document => simpa [serNodeO] using hk false
    | «attribute» a b => simpa [serNodeO] using hk false
    | «namespace» a b => simpa [serNodeO] using hk false
    | text str => rw [serNodeO, serNodeO, hk]
    | comment str => rw [serNodeO, serNodeO, hk]
    | pi target data => rw [serNodeO, serNodeO, hk]
    | element name =>
      have ht := topRel_push h (Tree.node (.element name) ks).nsDecls
      have hk' := serKidsO_topRel i1 i2 (kidsCd pr (.element name)) ks _ _ ht
      have hd : (s1.push (Tree.node (.element name) ks).nsDecls).hasDefaultNamespace =
          (s2.push (Tree.node (.element name) ks).nsDecls).hasDefaultNamespace := by
        rw [hasDefaultNamespace_eq, hasDefaultNamespace_eq]; exact topRel_hasDefault ht
      have he := topRel_elementPrefix (env := env) ht name
      have ha := topRel_attrTokens (env := env) ht (Tree.node (.element name) ks).attrs
      rw [serNodeO, serNodeO]
      simp only [hd, he, ha, hk', Bool.false_eq_true, if_false]

theorem serKidsO_topRel (i1 i2 : List (Nat × Nat)) (cd : Bool) (ks : List Tree) (s1 s2 : FStack)
    (h : TopRel s1.top s2.top) :
    serNodeO.serKidsO env pr i1 s1 cd ks = serNodeO.serKidsO env pr i2 s2 cd ks := by
  cases ks with
  | nil => simp [serNodeO.serKidsO]
  | cons k ks =>
    rw [serNodeO.serKidsO, serNodeO.serKidsO, serNodeO_topRel i1 i2 cd k s1 s2 h,
      serKidsO_topRel i1 i2 cd ks s1 s2 h]
end

end AnyParams

theorem serNode_topRel (ugt : Bool) (i1 i2 : List (Nat × Nat)) (n : Tree) (s1 s2 : FStack)
    (h : TopRel s1.top s2.top) :
    serNode env ugt i1 false s1 n = serNode env ugt i2 false s2 n := by
  rw [serNode_eq_O, serNode_eq_O, serNodeO_topRel env _ i1 i2 false n s1 s2 h]

theorem nsLeaves_category (X : List (Nat × Nat)) :
    ∀ k ∈ nsLeaves X, (k.value.category == Category.namespace) = true := by
  intro k hk
  simp only [nsLeaves, List.mem_map] at hk
  obtain ⟨d, _, rfl⟩ := hk
  rfl

theorem nsLeaves_abnormal (X : List (Nat × Nat)) : ∀ k ∈ nsLeaves X, (!k.value.isNormal) = true := by
  intro k hk
  simp only [nsLeaves, List.mem_map] at hk
  obtain ⟨d, _, rfl⟩ := hk
  rfl

theorem nsLeaves_append_unseen {β : Type} (F : List Tree → β)
    (h : ∀ p ns l, F (.node (.namespace p ns) [] :: l) = F l) (X : List (Nat × Nat)) (ks : List Tree) :
    F (nsLeaves X ++ ks) = F ks := by
  induction X with
  | nil => rfl
  | cons d X ih => exact (h d.1 d.2 _).trans ih

theorem nsDecls_nsLeaves_append (v : Value) (X : List (Nat × Nat)) (ks : List Tree) :
    (Tree.node v (nsLeaves X ++ ks)).nsDecls = X ++ (Tree.node v ks).nsDecls := by
  simp only [Tree.nsDecls, Tree.namespaceNodes, Tree.kids]
  rw [List.takeWhile_append_of_pos (nsLeaves_category X), List.filterMap_append]
  congr 1
  induction X with
  | nil => rfl
  | cons d X ih =>
    simp only [nsLeaves, List.map_cons, List.filterMap_cons, Tree.value] at ih ⊢
    rw [ih]

theorem attrs_nsLeaves_append (v : Value) (X : List (Nat × Nat)) (ks : List Tree) :
    (Tree.node v (nsLeaves X ++ ks)).attrs = (Tree.node v ks).attrs := by
  simp only [Tree.attrs, Tree.attributeNodes, Tree.kids]
  rw [List.dropWhile_append_of_pos (nsLeaves_category X)]

theorem firstChild_nsLeaves_append (v : Value) (X : List (Nat × Nat)) (ks : List Tree) :
    (Tree.node v (nsLeaves X ++ ks)).firstChild? = (Tree.node v ks).firstChild? := by
  simp only [Tree.firstChild?, Tree.normalKids, Tree.kids]
  rw [List.dropWhile_append_of_pos (nsLeaves_abnormal X)]

theorem appendOk_ok_nil_left (a : Except XotError (List Token)) : appendOk (.ok []) a = a := by
  cases a <;> simp [appendOk]

theorem appendOk_ok_nil_right (a : Except XotError (List Token)) : appendOk a (.ok []) = a := by
  cases a <;> simp [appendOk]

section AnyParams
variable (env : Env) (pr : TokenParams)

theorem serKidsO_nsLeaves_append (i : List (Nat × Nat)) (s : FStack) (cd : Bool) (X : List (Nat × Nat))
    (ks : List Tree) :
    serNodeO.serKidsO env pr i s cd (nsLeaves X ++ ks) = serNodeO.serKidsO env pr i s cd ks :=
  nsLeaves_append_unseen _ (fun p ns l => by
    have h0 : serNodeO env pr i false s cd (Tree.node (.namespace p ns) []) = .ok [] := by
      simp [serNodeO, serNodeO.serKidsO]
    rw [serNodeO.serKidsO, h0, appendOk_ok_nil_left]) X ks

end AnyParams

/-- What is written for a binding of the XML namespace is nothing, so the built-in `xml` binding may be
    filtered out before. -/
theorem flatMap_filter_keepNB {β : Type} (f : Nat × Nat → List β)
    (hf : ∀ d, (d.2 == Env.xmlNamespace) = true → f d = []) (l : List (Nat × Nat)) :
    (l.filter keepNB).flatMap f = l.flatMap f := by
  induction l with
  | nil => rfl
  | cons d l ih =>
    by_cases hd : keepNB d = true
    · simp only [List.filter_cons, hd, if_true, List.flatMap_cons, ih]
    · have hb : isBaseXml d = true := by simpa [keepNB] using hd
      have h0 : f d = [] := hf d (by simp only [isBaseXml, Bool.and_eq_true] at hb; exact hb.2)
      have hd' : keepNB d = false := by simpa using hd
      simp only [List.filter_cons, hd', Bool.false_eq_true, if_false, List.flatMap_cons, ih, h0,
        List.nil_append]

theorem flatMap_declTokens_filter_keepNB (l : List (Nat × Nat)) :
    (l.filter keepNB).flatMap (declTokens env) = l.flatMap (declTokens env) :=
  flatMap_filter_keepNB _ (fun d h2 => by simp [declTokens, h2]) l

theorem inheritedExtra_eq (I : List (Nat × Nat)) (n : Tree) :
    inheritedExtra I n = (I.filter (fun d => !n.declaresPrefix d.1)).filter keepNB := by
  unfold inheritedExtra
  rw [List.filter_filter]
  apply List.filter_congr
  intro d _
  simp only [keepNB]
  exact Bool.and_comm _ _

/-- The start frame of the standalone document's element: the base frame after pushing `Y`. -/
theorem pushTop_base_filter (Y : List (Nat × Nat)) :
    (pushTop basePrefixes Y).filter keepNB = Y.filter keepNB := by
  rw [pushTop_eq_filter, List.filter_append, List.filter_filter]
  have : basePrefixes.filter (fun a => keepNB a && !Y.any (fun d' => d'.1 == a.1)) = [] := by
    apply List.filter_eq_nil_iff.mpr
    intro a ha
    simp only [basePrefixes, List.mem_singleton] at ha
    subst ha
    simp [keepNB, isBaseXml]
  rw [this, List.nil_append]

/-- The frames the two serialisations hold inside the start element are `TopRel`-related. -/
theorem topRel_start (I : List (Nat × Nat)) (n : Tree) :
    TopRel (pushTop I n.nsDecls) (pushTop basePrefixes (inheritedExtra I n ++ n.nsDecls)) := by
  unfold TopRel
  rw [pushTop_base_filter, pushTop_eq_filter, List.filter_append, List.filter_append, inheritedExtra_eq,
    List.filter_filter, List.filter_filter, List.filter_filter]
  congr 1
  apply List.filter_congr
  intro d _
  simp only [Tree.declaresPrefix]
  cases keepNB d <;> simp

theorem nsDecls_document_single (name : Nat) (ks : List Tree) :
    (Tree.node .document [.node (.element name) ks]).nsDecls = [] := rfl

theorem inScope_document_single (e : Tree) (he : e.value.isElement = true) :
    namespacesInScopeChain [Tree.node .document [e]] = basePrefixes := by
  obtain ⟨v, ks⟩ := e
  obtain ⟨name, rfl⟩ := eq_element_of_isElement he
  simp [namespacesInScopeChain, traverseChain, traverseDecls, nsDecls_document_single, basePrefixes]

/-! ### The inner element and the standalone element: the same tokens -/

section Standalone

variable (env : Env) (pr : TokenParams) (I : List (Nat × Nat)) (name : Nat) (ks : List Tree)

theorem topRel_standalone :
    TopRel ((FStack.new I).push (Tree.node (.element name) ks).nsDecls).top
      ((FStack.new basePrefixes).push (Tree.node (.element name)
        (nsLeaves (inheritedExtra I (.node (.element name) ks)) ++ ks)).nsDecls).top := by
  rw [nsDecls_nsLeaves_append, top_push, top_push]
  exact topRel_start I _

/-- **Tokens, any token parameters**: the inner element written as start node against the standalone element
    written below its document node: the same tokens, or the same error. -/
theorem serNodeO_standalone (cd cd' : Bool) :
    serNodeO env pr I true (FStack.new I) cd (.node (.element name) ks) =
      serNodeO env pr basePrefixes false (FStack.new basePrefixes) cd'
        (.node (.element name) (nsLeaves (inheritedExtra I (.node (.element name) ks)) ++ ks)) := by
  have ht := topRel_standalone I name ks
  generalize hX : inheritedExtra I (.node (.element name) ks) = X at ht
  have hN : (Tree.node (.element name) (nsLeaves X ++ ks)).nsDecls = X ++ (Tree.node (.element name) ks).nsDecls :=
    nsDecls_nsLeaves_append _ X ks
  have hA := attrs_nsLeaves_append (.element name) X ks
  have hF := firstChild_nsLeaves_append (.element name) X ks
  have hd : ((FStack.new I).push (Tree.node (.element name) ks).nsDecls).hasDefaultNamespace =
      ((FStack.new basePrefixes).push (Tree.node (.element name) (nsLeaves X ++ ks)).nsDecls).hasDefaultNamespace := by
    rw [hasDefaultNamespace_eq, hasDefaultNamespace_eq]; exact topRel_hasDefault ht
  have he := topRel_elementPrefix (env := env) ht name
  have ha := topRel_attrTokens (env := env) ht (Tree.node (.element name) ks).attrs
  have hk : serNodeO.serKidsO env pr I ((FStack.new I).push (Tree.node (.element name) ks).nsDecls)
        (kidsCd pr (.element name)) ks =
      serNodeO.serKidsO env pr basePrefixes
        ((FStack.new basePrefixes).push (Tree.node (.element name) (nsLeaves X ++ ks)).nsDecls)
        (kidsCd pr (.element name)) (nsLeaves X ++ ks) := by
    rw [serKidsO_nsLeaves_append]
    exact serKidsO_topRel env pr _ _ _ ks _ _ ht
  have hdecl : ((I.filter (fun d => !(Tree.node (.element name) ks).declaresPrefix d.1)) ++
        (Tree.node (.element name) ks).nsDecls).flatMap (declTokens env) =
      (Tree.node (.element name) (nsLeaves X ++ ks)).nsDecls.flatMap (declTokens env) := by
    rw [hN, List.flatMap_append, List.flatMap_append, ← hX, inheritedExtra_eq, flatMap_declTokens_filter_keepNB]
  rw [serNodeO, serNodeO]
  simp only [if_true, Bool.false_eq_true, if_false, List.nil_append, hd, he, ha, hk, hdecl, hA, hF]

end Standalone

/-- **The tokens of an inner element are the tokens of its standalone document**, for every tree, every path
    leading to an element and any token parameters. -/
theorem serTokensAtO_standalone (pr : TokenParams) (t : Tree) (q : Path) (name : Nat) (ks : List Tree)
    (hat : t.at? q = some (.node (.element name) ks)) :
    ∃ t', standalone t q = some t' ∧ serTokensAtO env pr t q = serTokensAtO env pr t' [] := by
  obtain ⟨rest, hsc⟩ := namespacesInScope_of_at? t q _ hat
  generalize namespacesInScopeChain (.node (.element name) ks :: rest) = I at hsc
  refine ⟨.node .document [.node (.element name) (nsLeaves (inheritedExtra I (.node (.element name) ks)) ++ ks)],
    ?_, ?_⟩
  · simp only [standalone, hat, hsc, standaloneElement, Option.map_some]
  · have hdoc := inScope_document_single
      (Tree.node (.element name) (nsLeaves (inheritedExtra I (.node (.element name) ks)) ++ ks)) rfl
    have hL : serTokensAtO env pr t q =
        serNodeO env pr I true (FStack.new I) (startCd pr t q) (.node (.element name) ks) := by
      simp only [serTokensAtO, hat, hsc]
    have hRt : ∀ d : Tree, d = .node .document
          [.node (.element name) (nsLeaves (inheritedExtra I (.node (.element name) ks)) ++ ks)] →
        serTokensAtO env pr d [] =
          serNodeO env pr basePrefixes false (FStack.new basePrefixes) false
            (.node (.element name) (nsLeaves (inheritedExtra I (.node (.element name) ks)) ++ ks)) := by
      rintro d rfl
      simp only [serTokensAtO, Tree.at?, namespacesInScope, Tree.ancestorsOrSelf, Option.map_some, hdoc]
      -- the document node passes its one child on
      simp only [serNodeO]
      exact appendOk_ok_nil_right _
    rw [hL, hRt _ rfl, serNodeO_standalone env pr I name ks _ false]

/-- … in particular without CDATA-section elements; `unescaped_gt` on or off. -/
theorem serTokensAt_standalone (ugt : Bool) (t : Tree) (q : Path) (name : Nat) (ks : List Tree)
    (hat : t.at? q = some (.node (.element name) ks)) :
    ∃ t', standalone t q = some t' ∧ serTokensAt env ugt t q = serTokensAt env ugt t' [] := by
  obtain ⟨t', h1, h2⟩ := serTokensAtO_standalone (env := env) (plainParams ugt) t q name ks hat
  exact ⟨t', h1, by rwa [serTokensAtO_plain env _ t rfl, serTokensAtO_plain env _ t' rfl] at h2⟩

end XotModel
