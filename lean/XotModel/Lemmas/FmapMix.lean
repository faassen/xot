/-
  Lemmas for C11 (interleavings): map updates interleaved with arbitrary `PCall` steps
  (Model/FmapMixSpec.lean).  The reference step `specStep` is local (it reads and writes the maps of
  `MapOp2.elems` only); a `PCall` step that names no written argument inside the root tree of `x` leaves
  `get? x` alone (`SepB.fphl_step`, Lemmas/FparseHistLocal.lean).
-/
import XotModel.Model.FmapMixSpec
import XotModel.Lemmas.FmapHistStep
import XotModel.Lemmas.FparseHistLocal

namespace XotModel
namespace Fmap
open HTree
open Forest (MapKind)

/-! ### The reference step is local -/

theorem upd_off (F : Fam) (e : Nat) (k : MapKind) (g : OMap Payload → OMap Payload) (x : Nat) (k' : MapKind)
    (h : x ≠ e) : F.upd e k g x k' = F x k' := by
  simp [Fam.upd, Fam.set, h]

theorem upd_congr (F G : Fam) (e : Nat) (k : MapKind) (g : OMap Payload → OMap Payload) (x : Nat) (k' : MapKind)
    (he : F e k = G e k) (hx : F x k' = G x k') : F.upd e k g x k' = G.upd e k g x k' := by
  simp only [Fam.upd, Fam.set]
  split
  · rw [he]
  · exact hx

theorem specAppendEntryOf_off (F : Fam) (k : MapKind) (e e2 key x : Nat) (k' : MapKind)
    (h1 : x ≠ e) (h2 : x ≠ e2) : specAppendEntryOf F k e e2 key x k' = F x k' := by
  unfold specAppendEntryOf
  split
  · rfl
  · generalize omGet (F e2 k) key = o
    cases o with
    | none => rfl
    | some p =>
      simp only []
      split
      · exact upd_off _ _ _ _ _ _ h1
      · rw [upd_off _ _ _ _ _ _ h1, upd_off _ _ _ _ _ _ h2]

theorem specAppendEntryOf_congr (F G : Fam) (k : MapKind) (e e2 key x : Nat) (k' : MapKind)
    (he : ∀ k, F e k = G e k) (he2 : ∀ k, F e2 k = G e2 k) (hx : F x k' = G x k') :
    specAppendEntryOf F k e e2 key x k' = specAppendEntryOf G k e e2 key x k' := by
  unfold specAppendEntryOf
  rw [he2 k, he k]
  split
  · exact hx
  · generalize omGet (G e2 k) key = o
    cases o with
    | none => exact hx
    | some p =>
      simp only []
      split
      · exact upd_congr _ _ _ _ _ _ _ (he k) hx
      · refine upd_congr _ _ _ _ _ _ _ ?_ ?_
        · by_cases h : e = e2
          · subst h; simp [Fam.upd, Fam.set, he k]
          · rw [upd_off _ _ _ _ _ _ h, upd_off _ _ _ _ _ _ h]; exact he k
        · exact upd_congr _ _ _ _ _ _ _ (he2 k) hx

theorem target_mem_elems (op : MapOp2) : op.target ∈ op.elems := by
  cases op with
  | anyAppend e r => cases r <;> exact List.mem_cons_self
  | _ => exact List.mem_cons_self

/-- The reference step rewrites one view of the target, or does nothing, or is the move of an entry
    between the two elements of `elems`. -/
theorem specStep_shape (op : MapOp2) :
    (∃ k g, ∀ F, specStep F op = F.upd op.target k g) ∨ (∀ F, specStep F op = F) ∨
    ∃ k e2 key, op.elems = [op.target, e2] ∧
      ∀ F, specStep F op = specAppendEntryOf F k op.target e2 key := by
  cases op with
  | appendOwnNode k e key => exact .inr (.inl fun _ => rfl)
  | appendAttachedNode k e e2 key => exact .inr (.inr ⟨k, e2, key, rfl, fun _ => rfl⟩)
  | anyAppend e r =>
    cases r with
    | entry k e2 key => exact .inr (.inr ⟨k, e2, key, rfl, fun _ => rfl⟩)
    | new v =>
      cases hk : kindOf? v with
      | some k => exact .inl ⟨k, opInsert v, fun F => by simp only [specStep, hk]; rfl⟩
      | none => exact .inr (.inl fun F => by simp only [specStep, hk])
    | detached nd v =>
      cases hk : kindOf? v with
      | some k => exact .inl ⟨k, opInsert v, fun F => by simp only [specStep, hk]; rfl⟩
      | none => exact .inr (.inl fun F => by simp only [specStep, hk])
  | remove k e key | entryRemove k e key | detachEntryNode k e key | removeEntryNode k e key =>
    exact .inl ⟨k, fun m => omRemove m key, fun _ => rfl⟩
  | removeAttribute e name => exact .inl ⟨.attributes, fun m => omRemove m name, fun _ => rfl⟩
  | removeNamespace e pfx => exact .inl ⟨.namespaces, fun m => omRemove m pfx, fun _ => rfl⟩
  | getMutSet k e key new =>
    exact .inl ⟨k, fun m => omModify m key (fun _ => payloadOf new), fun _ => rfl⟩
  | entryAndModify k e key g => exact .inl ⟨k, fun m => omModify m key (modP k key g), fun _ => rfl⟩
  | _ => exact .inl ⟨_, _, fun _ => rfl⟩

theorem specStep_off (F : Fam) (op : MapOp2) (x : Nat) (k' : MapKind) (hx : x ∉ op.elems) :
    specStep F op x k' = F x k' := by
  have ht : x ≠ op.target := fun h => hx (h ▸ target_mem_elems op)
  rcases specStep_shape op with ⟨k, g, h⟩ | h | ⟨k, e2, key, hel, h⟩
  · rw [h]; exact upd_off _ _ _ _ _ _ ht
  · rw [h]
  · rw [h]
    refine specAppendEntryOf_off F k _ e2 key x k' ht (fun h2 => hx ?_)
    rw [hel, h2]; exact List.mem_cons_of_mem _ List.mem_cons_self

theorem specStep_congr_on (F G : Fam) (op : MapOp2) (x : Nat) (k' : MapKind)
    (he : ∀ y ∈ op.elems, ∀ k, F y k = G y k) (hx : F x k' = G x k') :
    specStep F op x k' = specStep G op x k' := by
  have ht := he _ (target_mem_elems op)
  rcases specStep_shape op with ⟨k, g, h⟩ | h | ⟨k, e2, key, hel, h⟩
  · rw [h, h]; exact upd_congr _ _ _ _ _ _ _ (ht k) hx
  · rw [h, h]; exact hx
  · rw [h, h]
    refine specAppendEntryOf_congr F G k _ e2 key x k' ht (he e2 ?_) hx
    rw [hel]; exact List.mem_cons_of_mem _ List.mem_cons_self

/-- Locality of the reference step for a set of tracked elements closed under the step's `elems`. -/
theorem specStep_congr (T : List Nat) (F G : Fam) (op : MapOp2)
    (hFG : ∀ y ∈ T, ∀ k, F y k = G y k)
    (hcl : (∃ x ∈ op.elems, x ∈ T) → ∀ y ∈ op.elems, y ∈ T) :
    ∀ x ∈ T, ∀ k, specStep F op x k = specStep G op x k := by
  intro x hx k
  by_cases hm : x ∈ op.elems
  · exact specStep_congr_on F G op x k (fun y hy k => hFG y (hcl ⟨x, hm, hx⟩ y hy) k) (hFG x hx k)
  · rw [specStep_off F op x k hm, specStep_off G op x k hm]; exact hFG x hx k

/-! ### A step that does not touch the tree of `x` -/

theorem findList?_eq_find?_of_mem {x : Nat} {r : HTree} {ks : List HTree} (hn : (handlesList ks).Nodup)
    (hr : r ∈ ks) (hx : x ∈ handles r) : findList? x ks = find? x r := by
  rw [Fws.findList?_eq_findSome?, Fws.findSome?_descend (find? x) x (fun _ _ => find?_some_mem) ks r hr hx hn]

theorem rootOf?_some {f : Forest} {x : Nat} {r : HTree} (h : rootOf? f x = some r) :
    r ∈ f.roots ∧ x ∈ handles r := by
  unfold rootOf? at h
  refine ⟨List.mem_of_find?_eq_some h, ?_⟩
  have := List.find?_some h
  simpa using this

theorem get?_step_of_not_touches {s : PStore} (hi : s.forest.Inv) (c : PCall) (hw : c.wellKinded) (x : Nat)
    (ht : touchesEntries s.forest x c = false) : (s.step c).forest.get? x = s.forest.get? x := by
  have hi' : (s.step c).forest.Inv := PStore.fph_step_inv hi c hw
  have key : ∀ r, rootOf? s.forest x = some r →
      (∀ y, c = .api y → ∀ a ∈ y.writeArgs, a ∉ handles r) → (s.step c).forest.get? x = s.forest.get? x := by
    intro r hr hargs
    obtain ⟨hm, hx⟩ := rootOf?_some hr
    have sep := SepB.of_inv hi hm
    have hm' : r ∈ (s.step c).forest.roots := (sep.fphl_step c hargs).sep.mem
    show findList? x _ = findList? x _
    rw [findList?_eq_find?_of_mem hi'.nodup hm' hx, findList?_eq_find?_of_mem hi.nodup hm hx]
  cases c with
  | parse m text =>
    simp only [touchesEntries, Bool.not_eq_false'] at ht
    obtain ⟨t, hg⟩ := (Forest.isLive_iff s.forest x).mp ht
    obtain ⟨r, hr, hf⟩ := fc_findList?_root x _ t hg
    have hxr : x ∈ handles r := by
      by_cases hn : x ∈ handles r
      · exact hn
      · rw [(find?_none_iff _ _).2 hn] at hf; cases hf
    have hro : ∃ r', rootOf? s.forest x = some r' := by
      unfold rootOf?
      cases h : s.forest.roots.find? (fun r => (handles r).contains x) with
      | some r' => exact ⟨r', rfl⟩
      | none =>
        have := List.find?_eq_none.mp h r hr
        simp [hxr] at this
    obtain ⟨r', hr'⟩ := hro
    exact key r' hr' (fun y hy => by cases hy)
  | api y =>
    simp only [touchesEntries] at ht
    cases hr : rootOf? s.forest x with
    | none => rw [hr] at ht; cases ht
    | some r =>
      rw [hr] at ht
      simp only [] at ht
      refine key r hr (fun y' hy' a ha har => ?_)
      cases hy'
      have : (y.writeArgs.any fun a => (handles r).contains a) = true :=
        List.any_eq_true.mpr ⟨a, ha, by simpa using har⟩
      rw [this] at ht; cases ht

theorem abs_step_of_not_touches {s : PStore} (hi : s.forest.Inv) (c : PCall) (hw : c.wellKinded) (x : Nat)
    (ht : touchesEntries s.forest x c = false) (k : MapKind) :
    abs k (s.step c).forest x = abs k s.forest x := by
  unfold abs; rw [get?_step_of_not_touches hi c hw x ht]

theorem isElement_step_of_not_touches {s : PStore} (hi : s.forest.Inv) (c : PCall) (hw : c.wellKinded) (x : Nat)
    (ht : touchesEntries s.forest x c = false) :
    (s.step c).forest.isElement x = s.forest.isElement x := by
  unfold Forest.isElement Forest.value?; rw [get?_step_of_not_touches hi c hw x ht]

/-! ### Interleaved histories -/

/-- Interleaved histories for any side condition `ok` that unfolds as `mixOk` does: a map update
    satisfies `MapOp2.ok` and stays inside or outside the tracked elements, another step is
    well-kinded and leaves the views of the tracked elements alone. -/
theorem mix_history_of (T : List Nat) (ok : PStore → List MixStep → Prop)
    (hmap : ∀ s op rest, ok s (.map op :: rest) → op.ok s.forest = true ∧
      ((∃ x ∈ op.elems, x ∈ T) → ∀ y ∈ op.elems, y ∈ T) ∧ ok (MixStep.run s (.map op)) rest)
    (hother : ∀ s c rest, s.forest.Inv → ok s (.other c :: rest) → c.wellKinded ∧
      (∀ x ∈ T, (∀ k, abs k (s.step c).forest x = abs k s.forest x) ∧
        (s.step c).forest.isElement x = s.forest.isElement x) ∧
      ok (MixStep.run s (.other c)) rest) :
    ∀ (steps : List MixStep) (s : PStore) (F : Fam), s.forest.Inv →
    (∀ x ∈ T, ∀ k, abs k s.forest x = F x k) → ok s steps →
    (mixRun s steps).forest.Inv ∧
    (∀ x ∈ T, ∀ k, abs k (mixRun s steps).forest x = specOps2 F (mapOpsOf steps) x k) ∧
    (∀ x ∈ T, (mixRun s steps).forest.isElement x = s.forest.isElement x)
  | [], s, F, hi, hF, _ => ⟨hi, hF, fun _ _ => rfl⟩
  | .map op :: rest, s, F, hi, hF, hok => by
    obtain ⟨h1, hcl, h3⟩ := hmap s op rest hok
    obtain ⟨_, st⟩ := step_all (F := famOf s.forest) hi (fun _ _ => rfl) op h1
    have hF' : ∀ x ∈ T, ∀ k, abs k (MixStep.run s (.map op)).forest x = specStep F op x k := by
      intro x hx k
      show abs k (op.run s.forest).1 x = _
      rw [st.agree x k]
      exact specStep_congr T (famOf s.forest) F op hF hcl x hx k
    obtain ⟨g1, g2, g3⟩ :=
      mix_history_of T ok hmap hother rest (MixStep.run s (.map op)) (specStep F op) st.inv hF' h3
    refine ⟨g1, g2, fun x hx => ?_⟩
    rw [show mixRun s (.map op :: rest) = mixRun (MixStep.run s (.map op)) rest from rfl, g3 x hx]
    exact st.elem x
  | .other c :: rest, s, F, hi, hF, hok => by
    obtain ⟨hw, hkeep, h3⟩ := hother s c rest hi hok
    have hi' : (MixStep.run s (.other c)).forest.Inv := PStore.fph_step_inv hi c hw
    have hF' : ∀ x ∈ T, ∀ k, abs k (MixStep.run s (.other c)).forest x = F x k := by
      intro x hx k
      show abs k (s.step c).forest x = _
      rw [(hkeep x hx).1 k]; exact hF x hx k
    obtain ⟨g1, g2, g3⟩ :=
      mix_history_of T ok hmap hother rest (MixStep.run s (.other c)) F hi' hF' h3
    refine ⟨g1, g2, fun x hx => ?_⟩
    rw [show mixRun s (.other c :: rest) = mixRun (MixStep.run s (.other c)) rest from rfl, g3 x hx]
    exact (hkeep x hx).2

theorem mix_history (T : List Nat) : ∀ (steps : List MixStep) (s : PStore) (F : Fam), s.forest.Inv →
    (∀ x ∈ T, ∀ k, abs k s.forest x = F x k) → mixOk T s steps →
    (mixRun s steps).forest.Inv ∧
    (∀ x ∈ T, ∀ k, abs k (mixRun s steps).forest x = specOps2 F (mapOpsOf steps) x k) ∧
    (∀ x ∈ T, (mixRun s steps).forest.isElement x = s.forest.isElement x) :=
  mix_history_of T (mixOk T) (fun _ _ _ h => h) (fun s c _ hi h => ⟨h.1, fun x hx =>
    ⟨abs_step_of_not_touches hi c h.1 x (h.2.1 x hx),
      isElement_step_of_not_touches hi c h.1 x (h.2.1 x hx)⟩, h.2.2⟩)

end Fmap
end XotModel
