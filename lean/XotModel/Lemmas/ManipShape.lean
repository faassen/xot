/-
  The shape of every call after its guards, as used by the lemma families of C04 (Lemmas/Finv*), C05
  (Lemmas/Fspec*), C06 (Lemmas/Fatom*) and of the properties kept by every edit (Lemmas/ForestClosed.lean).
  The two text consolidation helpers do nothing or one merge (`removeConsolidate_outcome`,
  `addConsolidateOld_outcome`; `addConsolidateOld` is the helper with the neighbours taken as given,
  Lemmas/SelfMergeBridge.lean).
  The four moves (`append`, `prepend`, `insert_after`, `insert_before`) differ in their guards, in the
  neighbours the moved node is consolidated with, and in the final placement; everything between is
  common (`Forest.moveTail`).  Facts about all four are proved once about the tail.  Likewise
  `replace`, `element_wrap` and `element_unwrap` are their argument checks (`replaceRefused`, `wrapRefused`,
  `unwrapRefused`: Model/FrefusalSpec.lean) followed by `Forest.replaceBody`, `wrapBody`, `unwrapBody`
  (`replace_shape`, `elementWrap_shape`, `elementUnwrap_shape`).
-/
import XotModel.Model.Manip2
import XotModel.Model.FrefusalSpec
import XotModel.Lemmas.SelfMergeBridge

namespace XotModel
namespace Forest

/-- `remove_consolidate_text_nodes` does nothing and answers `false`, or, with consolidation on and both
    neighbours text nodes, appends the text of `next` to `prev`, takes `next` out and answers `true`. -/
theorem removeConsolidate_outcome (f : Forest) (prev next : Option Nat) :
    f.removeConsolidate prev next = (f, false) ∨
    ∃ p n ps ns, prev = some p ∧ next = some n ∧ f.consolidation = true ∧
      f.textOf p = some ps ∧ f.textOf n = some ns ∧
      f.removeConsolidate prev next = ((f.setValue p (.text (ps ++ ns))).spliceOut n, true) := by
  unfold removeConsolidate
  cases hc : f.consolidation with
  | false => exact .inl rfl
  | true =>
    cases prev with
    | none => exact .inl rfl
    | some p =>
      cases next with
      | none => exact .inl rfl
      | some n =>
        cases hp : f.textOf p with
        | none => exact .inl (by simp [hp])
        | some ps =>
          cases hn : f.textOf n with
          | none => exact .inl (by simp [hp, hn])
          | some ns => exact .inr ⟨p, n, ps, ns, rfl, rfl, rfl, hp, hn, by simp [hp, hn]⟩

/-- `add_consolidate_text_nodes` on given neighbours does nothing and answers `false`, or, with consolidation on
    and `node` a text node, puts its text behind that of a text node `prev`, else in front of that of a text
    node `next`, takes `node` out and answers `true`. -/
theorem addConsolidateOld_outcome (f : Forest) (node : Nat) (prev next : Option Nat) :
    f.addConsolidateOld node prev next = (f, false) ∨
    ∃ added, f.consolidation = true ∧ f.textOf node = some added ∧
      ((∃ p ps, prev = some p ∧ f.textOf p = some ps ∧
          f.addConsolidateOld node prev next = ((f.setValue p (.text (ps ++ added))).spliceOut node, true)) ∨
       (∃ n ns, next = some n ∧ f.textOf n = some ns ∧
          f.addConsolidateOld node prev next = ((f.setValue n (.text (added ++ ns))).spliceOut node, true))) := by
  cases hc : f.consolidation with
  | false => exact .inl (by unfold addConsolidateOld; simp [hc])
  | true =>
    cases ha : f.textOf node with
    | none => exact .inl (by unfold addConsolidateOld; simp [hc, ha])
    | some added =>
      -- no merge into `prev`: the outcome is the merge into `next`, if there is one
      have viaNext : (prev = none ∨ ∃ p, prev = some p ∧ f.textOf p = none) →
          f.addConsolidateOld node prev next = (f, false) ∨
          ∃ n ns, next = some n ∧ f.textOf n = some ns ∧
            f.addConsolidateOld node prev next = ((f.setValue n (.text (added ++ ns))).spliceOut node, true) := by
        intro hprev
        cases next with
        | none => exact .inl (by unfold addConsolidateOld; rcases hprev with rfl | ⟨p, rfl, hp⟩ <;> simp [*])
        | some n =>
          cases hn : f.textOf n with
          | none => exact .inl (by unfold addConsolidateOld; rcases hprev with rfl | ⟨p, rfl, hp⟩ <;> simp [*])
          | some ns =>
            exact .inr ⟨n, ns, rfl, hn,
              by unfold addConsolidateOld; rcases hprev with rfl | ⟨p, rfl, hp⟩ <;> simp [*]⟩
      cases prev with
      | none => exact (viaNext (.inl rfl)).imp id (fun h => ⟨added, rfl, rfl, .inr h⟩)
      | some p =>
        cases hp : f.textOf p with
        | none => exact (viaNext (.inr ⟨p, rfl, hp⟩)).imp id (fun h => ⟨added, rfl, rfl, .inr h⟩)
        | some ps =>
          exact .inr ⟨added, rfl, rfl, .inl ⟨p, ps, rfl, hp, by unfold addConsolidateOld; simp [hc, ha, hp]⟩⟩

/-- The state after the old-site consolidation of a move of `c`. -/
def afterOldSite (f : Forest) (c : Nat) : Forest :=
  (f.removeConsolidate (f.prevSibling c) (f.nextSibling c)).1

/-- The reference node `insert_after` really uses: the previous sibling of the moved node when the
    old-site consolidation has just merged the reference node away. -/
def insertAfterRef (f : Forest) (ref c : Nat) : Nat :=
  if ((f.removeConsolidate (f.prevSibling c) (f.nextSibling c)).2 && f.nextSibling c == some ref) = true
  then (f.prevSibling c).getD ref else ref

/-- A move of `c` after its guards: consolidate at the old site, consolidate `c` with its new
    neighbours `prev`, `next` (read in the state reached), and, unless that merged `c` away,
    place it with `k`. -/
def moveTail (f : Forest) (c : Nat) (prev next : Forest → Option Nat) (k : Forest → Forest × Bool) :
    Forest × Res :=
  let a := (f.afterOldSite c).addConsolidate c (prev (f.afterOldSite c)) (next (f.afterOldSite c))
  if a.2 then (a.1, .ok) else if (k a.1).2 then ((k a.1).1, .ok) else ((k a.1).1, .err .nodeError)

/-- The state a move ends in: the merged one, or the one after placement. -/
theorem moveTail_fst (f : Forest) (c : Nat) (prev next : Forest → Option Nat) (k : Forest → Forest × Bool) :
    (f.moveTail c prev next k).1 =
      if ((f.afterOldSite c).addConsolidate c (prev (f.afterOldSite c)) (next (f.afterOldSite c))).2 = true
      then ((f.afterOldSite c).addConsolidate c (prev (f.afterOldSite c)) (next (f.afterOldSite c))).1
      else (k ((f.afterOldSite c).addConsolidate c (prev (f.afterOldSite c)) (next (f.afterOldSite c))).1).1 := by
  unfold moveTail
  dsimp only
  generalize (f.afterOldSite c).addConsolidate c (prev (f.afterOldSite c)) (next (f.afterOldSite c)) = a
  cases a.2 with
  | true => rfl
  | false => cases (k a.1).2 <;> rfl

/-- Nothing is consolidated at the old place of a node without previous sibling, a parentless one above all. -/
theorem afterOldSite_of_prevSibling_none {f : Forest} {c : Nat} (h : f.prevSibling c = none) :
    f.afterOldSite c = f := by
  unfold afterOldSite
  rw [h]
  rcases f.removeConsolidate_outcome none (f.nextSibling c) with e | ⟨p, _, _, _, hp, _⟩
  · rw [e]
  · cases hp

/-- A move in which the moved node is not merged at its new place (`hno`; `X` is the state after the old
    place) is its placement. -/
theorem moveTail_of_no_merge {f X : Forest} {c : Nat} {prev next : Forest → Option Nat} {k : Forest → Forest × Bool}
    (hX : f.afterOldSite c = X) (hno : X.addConsolidate c (prev X) (next X) = (X, false)) :
    f.moveTail c prev next k = if (k X).2 then ((k X).1, .ok) else ((k X).1, .err .nodeError) := by
  unfold moveTail
  rw [hX]
  dsimp only
  rw [hno]
  rfl

/-- A move in which the moved node is not merged at its new place and the placement `k` is accepted ends in
    the placed forest.  Apply it against a known goal: when `X` is a variable of the caller,
    `prev X`, `next X`, `k X` are not patterns, and `prev`, `next`, `k` are found from `hno`, `hk` alone slowly or
    not at all. -/
theorem moveTail_of_placed {f X f' : Forest} {c : Nat} {prev next : Forest → Option Nat} {k : Forest → Forest × Bool}
    (hX : f.afterOldSite c = X) (hno : X.addConsolidate c (prev X) (next X) = (X, false))
    (hk : k X = (f', true)) : f.moveTail c prev next k = (f', .ok) := by
  rw [moveTail_of_no_merge hX hno, hk]
  rfl

/-- A move in which the moved node is merged into a neighbour at its new place ends there. -/
theorem moveTail_of_merged {f X g : Forest} {c : Nat} {prev next : Forest → Option Nat} {k : Forest → Forest × Bool}
    (hX : f.afterOldSite c = X) (hm : X.addConsolidate c (prev X) (next X) = (g, true)) :
    f.moveTail c prev next k = (g, .ok) := by
  unfold moveTail
  rw [hX]
  dsimp only
  rw [hm]
  rfl

theorem append_eq (f : Forest) (p c : Nat) : f.append p c =
    if !f.structureCheck (some p) c then (f, .err .invalidOperation) else
    if f.lastChild p == some c then (f, .ok) else
    f.moveTail c (fun g => g.lastChild p) (fun _ => none) (fun g => g.checkedAppend p c) := by
  unfold append moveTail; rfl

theorem prepend_eq (f : Forest) (p c : Nat) : f.prepend p c =
    if !f.structureCheck (some p) c then (f, .err .invalidOperation) else
    if f.firstChild p == some c then (f, .ok) else
    f.moveTail c (fun _ => none) (fun g => g.firstChild p) (fun g =>
      match g.prependPoint p with
      | some ip => g.checkedInsertAfter ip c
      | none => g.checkedPrepend p c) := by
  unfold prepend moveTail; rfl

theorem insertAfter_eq (f : Forest) (ref c : Nat) : f.insertAfter ref c =
    if !f.structureCheck (f.parent? ref) c then (f, .err .invalidOperation) else
    if !f.siblingReferenceCheck ref c then (f, .err .invalidOperation) else
    if f.nextSibling ref == some c then (f, .ok) else
    f.moveTail c (fun _ => some (f.insertAfterRef ref c)) (fun g => g.nextSibling (f.insertAfterRef ref c))
      (fun g => g.checkedInsertAfter (f.insertAfterRef ref c) c) := by
  unfold insertAfter moveTail; rfl

theorem insertBefore_eq (f : Forest) (ref c : Nat) : f.insertBefore ref c =
    if !f.structureCheck (f.parent? ref) c then (f, .err .invalidOperation) else
    if !f.siblingReferenceCheck ref c then (f, .err .invalidOperation) else
    if f.prevSibling ref == some c then (f, .ok) else
    f.moveTail c (fun g => g.prevSibling ref) (fun _ => some ref) (fun g => g.checkedInsertBefore ref c) := by
  unfold insertBefore moveTail; rfl

/-- What `replace(a, b)` does once the argument checks have passed (`parent` is the parent of `a`):
    `remove(a)` when `b` stands next to `a`; otherwise `b` is moved to the place of the subtree `a`,
    and the two neighbours of that place are consolidated where the move was accepted. -/
def replaceBody (f : Forest) (a b parent : Nat) : Forest × Res :=
  let previous := f.prevSibling a
  let next := f.nextSibling a
  if previous == some b || next == some b then f.remove a else
  let f1 := f.dropSubtree a
  match previous with
  | some p =>
    let (f2, r) := f1.insertAfter p b
    (match r with
     | .ok =>
       (match next with
        | some n => ((f2.removeConsolidate (f2.prevSibling n) (some n)).1, .ok)
        | none => (f2, .ok))
     | r => (f2, r))
  | none => f1.prepend parent b

theorem replace_eq (f : Forest) (a b : Nat) : f.replace a b =
    if f.isDocument a then (f, .err .invalidOperation) else
    match f.parent? a with
    | none => (f, .err .invalidOperation)
    | some parent =>
      if !f.isNormalNode a then (f, .err .invalidOperation) else
      if !f.structureCheck (some parent) b then (f, .err .invalidOperation) else
      if (f.ancestors b).contains a then (f, .err .invalidOperation) else
      f.replaceBody a b parent := by
  unfold replace replaceBody; rfl

/-- `replace` is refused, with nothing changed, exactly when `replaceRefused` (Model/FrefusalSpec.lean);
    otherwise the five checks have passed and it is `replaceBody`. -/
theorem replace_shape (f : Forest) (a b : Nat) :
    (f.replaceRefused a b = true ∧ f.replace a b = (f, .err .invalidOperation)) ∨
    (f.replaceRefused a b = false ∧ ∃ parent, f.isDocument a = false ∧ f.parent? a = some parent ∧
      f.isNormalNode a = true ∧ f.structureCheck (some parent) b = true ∧
      (f.ancestors b).contains a = false ∧ f.replace a b = f.replaceBody a b parent) := by
  rw [replace_eq]
  unfold replaceRefused
  cases hd : f.isDocument a with
  | true => exact .inl ⟨rfl, rfl⟩
  | false =>
    cases hpa : f.parent? a with
    | none => exact .inl ⟨rfl, rfl⟩
    | some parent =>
      dsimp only
      cases hna : f.isNormalNode a with
      | false => exact .inl ⟨rfl, rfl⟩
      | true =>
        cases hs : f.structureCheck (some parent) b with
        | false => exact .inl ⟨rfl, rfl⟩
        | true =>
          cases hanc : (f.ancestors b).contains a with
          | true => exact .inl ⟨rfl, rfl⟩
          | false => exact .inr ⟨rfl, parent, rfl, rfl, rfl, hs, rfl, rfl⟩

/-- To prove something of `replace(a, b)`: prove it of the refusal and of `replaceBody` under the
    argument checks. -/
theorem replace_cases {P : Forest × Res → Prop} (f : Forest) (a b : Nat)
    (h0 : P (f, .err .invalidOperation))
    (h1 : ∀ parent, f.parent? a = some parent → f.structureCheck (some parent) b = true →
      (f.ancestors b).contains a = false → P (f.replaceBody a b parent)) : P (f.replace a b) := by
  rcases replace_shape f a b with ⟨_, e⟩ | ⟨_, parent, _, hp, _, hs, hanc, e⟩
  · rw [e]; exact h0
  · rw [e]; exact h1 parent hp hs hanc

/-- What `element_unwrap(node)` does to an element with a parent, first normal child `first` and last
    normal child `last`: take the element out, then consolidate at both ends of the run of its
    children. -/
def unwrapBody (f : Forest) (node first last : Nat) : Forest × Res :=
  let f1 := f.removeElement node
  let prev := f1.prevSibling first
  let next := f1.nextSibling last
  let (f2, c) := f1.removeConsolidate prev (some first)
  if c then
    if first == last then ((f2.removeConsolidate prev next).1, .ok)
    else ((f2.removeConsolidate (some last) (f2.nextSibling last)).1, .ok)
  else ((f2.removeConsolidate (some last) (f2.nextSibling last)).1, .ok)

theorem elementUnwrap_eq (f : Forest) (node : Nat) : f.elementUnwrap node =
    if !f.isElement node then (f, .err .invalidOperation) else
    match f.firstChild node with
    | none => f.remove node
    | some first =>
      if (f.parent? node).isNone then (f, .err .invalidOperation) else
      match f.lastChild node with
      | none => (f, .panic)
      | some last => f.unwrapBody node first last := by
  unfold elementUnwrap unwrapBody; rfl

/-- `element_unwrap` is refused, with nothing changed, exactly when `unwrapRefused`; otherwise the node is an
    element and the call is `remove` (no normal child), the `unwrap` panic (a first but no last normal child) or
    `unwrapBody`. -/
theorem elementUnwrap_shape (f : Forest) (node : Nat) :
    (f.unwrapRefused node = true ∧ f.elementUnwrap node = (f, .err .invalidOperation)) ∨
    (f.unwrapRefused node = false ∧ f.isElement node = true ∧
      ((f.firstChild node = none ∧ f.elementUnwrap node = f.remove node) ∨
       ∃ first, f.firstChild node = some first ∧ (f.parent? node).isNone = false ∧
         ((f.lastChild node = none ∧ f.elementUnwrap node = (f, .panic)) ∨
          ∃ last, f.lastChild node = some last ∧ f.elementUnwrap node = f.unwrapBody node first last))) := by
  rw [elementUnwrap_eq]
  unfold unwrapRefused
  cases hel : f.isElement node with
  | false => exact .inl ⟨rfl, rfl⟩
  | true =>
    cases hfc : f.firstChild node with
    | none => exact .inr ⟨rfl, rfl, .inl ⟨rfl, rfl⟩⟩
    | some first =>
      dsimp only
      cases hpar : (f.parent? node).isNone with
      | true => exact .inl ⟨rfl, rfl⟩
      | false =>
        cases hlc : f.lastChild node with
        | none => exact .inr ⟨rfl, rfl, .inr ⟨first, rfl, rfl, .inl ⟨rfl, rfl⟩⟩⟩
        | some last => exact .inr ⟨rfl, rfl, .inr ⟨first, rfl, rfl, .inr ⟨last, rfl, rfl⟩⟩⟩

/-- To prove something of `element_unwrap(node)`: prove it of the refusals, of `remove(node)` for an
    element without normal children, and of `unwrapBody`. -/
theorem elementUnwrap_cases {P : Forest × Res → Prop} (f : Forest) (node : Nat)
    (h0 : ∀ r, P (f, r)) (h1 : f.isElement node = true → f.firstChild node = none → P (f.remove node))
    (h2 : ∀ first last, f.isElement node = true → f.firstChild node = some first →
      (f.parent? node).isNone = false → f.lastChild node = some last → P (f.unwrapBody node first last)) :
    P (f.elementUnwrap node) := by
  rcases elementUnwrap_shape f node with ⟨_, e⟩ | ⟨_, hel, ⟨hfc, e⟩ | ⟨first, hfc, hpar, ⟨_, e⟩ | ⟨last, hlc, e⟩⟩⟩
  · rw [e]; exact h0 _
  · rw [e]; exact h1 hel hfc
  · rw [e]; exact h0 _
  · rw [e]; exact h2 first last hel hfc hpar hlc

/-- What `element_wrap(node, name)` does once the argument checks have passed: a new element takes
    the place of `node`, and `node` becomes its only child. -/
def wrapBody (f : Forest) (node name : Nat) : Forest × Res × Nat :=
  match f.parent? node with
  | some parent =>
    let previous := f.prevSibling node
    let (f1, wrapper) := f.newElement name
    let f2 := f1.detachRaw node
    let (f3, r3) := f2.append wrapper node
    match r3 with
    | .ok =>
      let (f4, r4) :=
        match previous with
        | some p => f3.insertAfter p wrapper
        | none => f3.prepend parent wrapper
      (f4, r4, wrapper)
    | r => (f3, r, wrapper)
  | none =>
    let (f1, wrapper) := f.newElement name
    let (f2, r) := f1.append wrapper node
    (f2, r, wrapper)

theorem elementWrap_eq (f : Forest) (node name : Nat) : f.elementWrap node name =
    if f.isDocument node then (f, .err .invalidOperation, 0) else
    if !f.isNormalNode node then (f, .err .invalidOperation, 0) else
    if f.hasDocumentParent node && !f.isDocumentElement node then (f, .err .invalidOperation, 0) else
    f.wrapBody node name := by
  unfold elementWrap wrapBody; rfl

/-- `element_wrap` is refused, with nothing changed, exactly when `wrapRefused`; otherwise the three checks
    have passed and it is `wrapBody`. -/
theorem elementWrap_shape (f : Forest) (node name : Nat) :
    (f.wrapRefused node = true ∧ f.elementWrap node name = (f, .err .invalidOperation, 0)) ∨
    (f.wrapRefused node = false ∧ f.isDocument node = false ∧ f.isNormalNode node = true ∧
      (f.hasDocumentParent node && !f.isDocumentElement node) = false ∧
      f.elementWrap node name = f.wrapBody node name) := by
  rw [elementWrap_eq]
  unfold wrapRefused
  cases hd : f.isDocument node with
  | true => exact .inl ⟨rfl, rfl⟩
  | false =>
    cases hn : f.isNormalNode node with
    | false => exact .inl ⟨rfl, rfl⟩
    | true =>
      cases hdp : (f.hasDocumentParent node && !f.isDocumentElement node) with
      | true => exact .inl ⟨rfl, rfl⟩
      | false => exact .inr ⟨rfl, rfl, rfl, rfl, rfl⟩

/-- To prove something of `element_wrap(node, name)`: prove it of the refusal and of `wrapBody` for a
    normal node that is not a document. -/
theorem elementWrap_cases {P : Forest × Res × Nat → Prop} (f : Forest) (node name : Nat)
    (h0 : P (f, .err .invalidOperation, 0))
    (h1 : f.isDocument node = false → f.isNormalNode node = true → P (f.wrapBody node name)) :
    P (f.elementWrap node name) := by
  rcases elementWrap_shape f node name with ⟨_, e⟩ | ⟨_, hd, hn, _, e⟩
  · rw [e]; exact h0
  · rw [e]; exact h1 hd hn

end Forest
end XotModel
