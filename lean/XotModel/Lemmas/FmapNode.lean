/-
  Node-style removal: `remove` and `detach` of an entry node of the element are `remove(key)` of
  the view; and the structural validity of an element whose entry section is rewritten, with
  `Forest.Inv` along histories of one element.
-/
import XotModel.Lemmas.FmapReads
import XotModel.Lemmas.FinvMap

/-! ## Node-style removal

The detached node stays as a parentless tree. -/

namespace XotModel
namespace Fmap
open HTree
open Forest (MapKind entryKey mapChildren)

/-- With distinct keys, `get_node` of an entry node's key finds that node. -/
theorem getNode_of_mem {f : Forest} {e nm : Nat} {N A S : List HTree} (h : MInv f e nm N A S)
    (k : MapKind) (n : HTree) (hn : n ∈ Sect.sec k N A) :
    f.mapGetNode k e (keyOf n) = some n ∧
    ∃ s1 s2, Sect.sec k N A = s1 ++ n :: s2 ∧ ∀ a ∈ s1, keyOf a ≠ keyOf n := by
  obtain ⟨s1, s2, hs⟩ := List.append_of_mem hn
  have hu := h.uniq k
  rw [hs] at hu
  simp only [List.map_append, List.map_cons] at hu
  have hs1 : ∀ a ∈ s1, keyOf a ≠ keyOf n := by
    intro a ha hk
    have := (List.nodup_append.mp hu).2.2 (keyOf a) (List.mem_map.mpr ⟨a, ha, rfl⟩)
      (keyOf n) List.mem_cons_self
    exact this hk
  refine ⟨?_, s1, s2, hs, hs1⟩
  rw [h.getNode k, hs]
  apply List.find?_eq_some_iff_append.mpr
  refine ⟨by simp [keyOf], s1, s2, rfl, ?_⟩
  intro a ha
  have := hs1 a ha
  simpa [keyOf] using this

/-- `remove(node)` of an entry node of view `k` of `e` is `remove(key)` on the view. -/
theorem remove_node_eq {f : Forest} {e nm : Nat} {N A S : List HTree} (h : MInv f e nm N A S)
    (k : MapKind) (hd : Nat) (hm : hd ∈ absNodes k f e) :
    ∃ n, f.mapGetNode k e (keyOf n) = some n ∧ n.handle = hd ∧
      f.remove hd = f.mapRemove k e (keyOf n) := by
  rw [h.absNodes_eq k] at hm
  obtain ⟨n, hn, hh⟩ := List.mem_map.mp hm
  obtain ⟨hg, _⟩ := getNode_of_mem h k n hn
  refine ⟨n, hg, hh, ?_⟩
  unfold Forest.mapRemove
  rw [h.isElement, hg, ← hh]
  rfl

/-- `detach(node)` of a direct child that is an entry node. -/
theorem detach_child {f : Forest} {e : Nat} {ev : Value} {l r : List HTree} {n : HTree}
    (h : Located f e ev (l ++ n :: r)) (hc : n.value.category ≠ .normal) :
    f.detach n.handle = ({ f with roots := withKids f.roots e (l ++ r) ++ [n] }, .ok) := by
  unfold Forest.detach
  simp only
  congr 1
  unfold Forest.detachRaw
  rw [cut_child h]
  exact removeConsolidate_entry h hc (fun x hx =>
    fi_findList?_append_left ((located_after_cut h).childFound x (List.mem_append_left _ hx)))

/-- After the detachment `e` is located with the remaining children; handles stay distinct. -/
theorem located_after_detach {f : Forest} {e : Nat} {ev : Value} {l r : List HTree} {n : HTree}
    (h : Located f e ev (l ++ n :: r)) :
    Located { f with roots := withKids f.roots e (l ++ r) ++ [n] } e ev (l ++ r) := by
  have hloc := located_after_cut h
  constructor
  · show (handlesList (withKids f.roots e (l ++ r) ++ [n])).Nodup
    rw [handlesList_append]
    simp only [handlesList, List.append_nil]
    apply List.nodup_append.mpr
    refine ⟨hloc.nodup, (nodup_mid h.kidsNodup.1).2.2.2.2.1, ?_⟩
    intro x hx y hy hxy
    subst hxy
    -- a handle of the detached subtree is in no other part of the old forest
    obtain ⟨pre, post, h1, h2⟩ :=
      handlesList_mapAtList_split e (atKids (fun _ => l ++ r)) f.roots _ h.nodup h.get
    have hnd := h.nodup
    unfold Forest.allHandles at hnd
    rw [h1] at hnd
    unfold withKids at hx
    rw [h2] at hx
    change x ∈ pre ++ handles (.node e ev (l ++ r)) ++ post at hx
    have hxt : x ∈ handles (.node e ev (l ++ n :: r)) := by
      simp only [handles, handlesList_append, handlesList, List.mem_cons, List.mem_append]
      exact Or.inr (Or.inr (Or.inl hy))
    have ha := List.nodup_append.mp hnd
    have hb := List.nodup_append.mp ha.1
    simp only [List.mem_append] at hx
    rcases hx with (hx | hx) | hx
    · exact hb.2.2 _ hx _ hxt rfl
    · -- inside `e`'s remaining subtree: contradiction with distinctness inside `e`
      have hk := findList?_nodup e f.roots _ h.nodup h.get
      simp only [handles, List.nodup_cons, handlesList_append, handlesList] at hk hx
      simp only [List.mem_cons, List.mem_append] at hx
      have hk2 := List.nodup_append.mp hk.2
      have hk3 := List.nodup_append.mp hk2.2.1
      rcases hx with hx | hx | hx
      · exact hk.1 (by
          rw [← hx]
          simp only [List.mem_append]
          exact Or.inr (Or.inl hy))
      · exact hk2.2.2 _ hx _ (List.mem_append_left _ hy) rfl
      · exact hk3.2.2 _ hy _ hx rfl
    · exact ha.2.2 _ (List.mem_append_right _ hxt) _ hx rfl
  · exact fi_findList?_append_left hloc.get

/-- `detach(node)` of an entry node of view `k`: the view loses that key (`omRemove`), the node
    becomes a parentless tree with its value, everything else stays. -/
theorem detach_node_step {f : Forest} {e nm : Nat} {N A S : List HTree} (h : MInv f e nm N A S)
    (k : MapKind) (n : HTree) (hn : n ∈ Sect.sec k N A) :
    ∃ s', Step f (f.detach n.handle).1 e nm N A S k (f.roots ++ [n]) s' ∧
      (f.detach n.handle).2 = .ok ∧
      s'.map entryPair = omRemove ((Sect.sec k N A).map entryPair) (keyOf n) ∧
      n ∈ (f.detach n.handle).1.roots := by
  obtain ⟨_, s1, s2, hs, hs1⟩ := getNode_of_mem h k n hn
  have hloc : Located f e (.element nm) ((preK k N ++ s1) ++ n :: (s2 ++ postK k A S)) := by
    rw [← kids_around k N A S s1 s2 n hs]; exact h.loc
  have hncat : n.value.category = kindCat k := h.sect.sec_cat k n hn
  have hdet := detach_child hloc (by rw [hncat]; exact kindCat_ne_normal k)
  have hkids : (preK k N ++ s1) ++ (s2 ++ postK k A S) = preK k N ++ (s1 ++ s2) ++ postK k A S := by
    simp
  have hloc' := located_after_detach hloc
  rw [hkids] at hdet hloc'
  rw [hdet]
  have hen : e ∉ handles n := by
    intro hx
    apply hloc.kidsNodup.2
    rw [handlesList_append]
    simp only [handlesList, List.mem_append]
    exact Or.inr (Or.inl hx)
  have hsub : (s1 ++ s2).Sublist (Sect.sec k N A) := by
    rw [hs]; exact (List.Sublist.refl _).append (List.sublist_cons_self _ _)
  refine ⟨s1 ++ s2, ⟨?_, h.update_sublist k hsub hloc' ?_, Nat.le_refl _⟩, rfl, ?_, by simp⟩
  · simp only
    congr 1
    unfold withKids
    rw [mapAtList_append]
    simp only [mapAtList, mapAt_of_not_mem e _ n hen]
  · -- the handles are those of the forest with the entry gone, and those of the entry
    intro x hx
    change x ∈ handlesList (withKids f.roots e _ ++ [n]) at hx
    rw [handlesList_append] at hx
    simp only [handlesList, List.append_nil] at hx
    rcases List.mem_append.mp hx with hx | hx
    · exact h.below_withKids k hsub x hx
    · apply h.below
      apply findList?_handles_sub e f.roots _ h.loc.get
      rw [kids_around k N A S s1 s2 n hs]
      simp only [handles, handlesList_append, handlesList, List.mem_cons, List.mem_append]
      exact Or.inr (Or.inr (Or.inl hx))
  · rw [hs]
    simp only [List.map_append, List.map_cons]
    have e1 : entryPair n = (keyOf n, payloadOf n.value) := rfl
    rw [e1, omRemove_split]
    intro a ha
    obtain ⟨x, hx, rfl⟩ := List.mem_map.mp ha
    exact hs1 x hx


theorem entryUpdate_self (k : MapKind) (v : Value) (hc : v.category = kindCat k) :
    Forest.entryUpdate v v = v := by
  cases k <;> cases v <;> simp_all [Value.category, kindCat, Forest.entryUpdate]

theorem setValue_self (n : HTree) : n.setValue n.value = n := by
  cases n; rfl

/-- The node finds itself under its key and is "updated" with its own value. -/
theorem appendEntryNode_own {f : Forest} {e nm : Nat} {N A S : List HTree} (h : MInv f e nm N A S)
    (k : MapKind) (n : HTree) (hn : n ∈ Sect.sec k N A) :
    f.appendEntryNode k e n.handle = (f, .ok, n.handle) := by
  obtain ⟨hg, s1, s2, hs, hs1⟩ := getNode_of_mem h k n hn
  have hncat : n.value.category = kindCat k := h.sect.sec_cat k n hn
  have hm : k.matches n.value = true := (matches_iff_cat k _).mpr hncat
  have hnk : n ∈ N ++ A ++ S := by
    cases k
    · exact List.mem_append_left _ (List.mem_append_right _ hn)
    · exact List.mem_append_left _ (List.mem_append_left _ hn)
  have hval : f.value? n.handle = some n.value := by
    simp [Forest.value?, h.loc.childFound n hnk]
  rw [appendEntryNode_found h.isElement hval hm hg]
  obtain ⟨heq, _⟩ := insert_existing h k n.value hm n s1 s2 hs _ rfl hs1
  rw [heq, entryUpdate_self k n.value hncat, setValue_self, ← hs, ← split_kids, withKids_self h.loc]


/-- `append_*_node` of ANY live entry node (detached, or attached anywhere) whose key the view
    already has: the existing node takes the value and is returned; nothing else changes (in
    particular the passed node stays where it is). -/
theorem appendEntryNode_existing {f : Forest} {e nm : Nat} {N A S : List HTree}
    (h : MInv f e nm N A S) (k : MapKind) (nd : Nat) (v : Value) (hval : f.value? nd = some v)
    (hm : k.matches v = true) (n : HTree) (hn : f.mapGetNode k e (entryKey v) = some n) :
    ∃ s', Step f (f.appendEntryNode k e nd).1 e nm N A S k f.roots s' ∧
      f.appendEntryNode k e nd = (f.setValue n.handle (Forest.entryUpdate n.value v), .ok, n.handle) ∧
      s'.map entryPair = omInsert ((Sect.sec k N A).map entryPair) (entryKey v) (payloadOf v) ∧
      s'.map (·.handle) = (Sect.sec k N A).map (·.handle) := by
  have heq := appendEntryNode_found h.isElement hval hm hn
  rw [h.getNode k] at hn
  obtain ⟨hkey, s1, s2, hs, hs1⟩ := find?_key_split _ _ _ hn
  obtain ⟨hset, hinv, hmap, hnodes⟩ := insert_existing h k v hm n s1 s2 hs _ hkey hs1
  rw [heq]
  refine ⟨_, ⟨?_, ?_, ?_⟩, rfl, hmap, hnodes⟩
  · simp only; rw [hset]
  · simp only; rw [hset]; exact hinv
  · simp only; rw [hset]; exact Nat.le_refl _

end Fmap
end XotModel

/-! ## Validity under a rewritten child list; `Forest.Inv` along histories of one element

`validList_withKids`: the new list has to be valid under the node's value.  `op_inv`, `runOps_inv`: each call by its
lemma in Lemmas/FinvMap.lean. -/

namespace XotModel
namespace Fmap
open HTree
open Forest (MapKind entryKey mapChildren)

/-! ### The checks a parent makes on its children depend on the children's values only -/

theorem all_kidAllowed_map (v : Value) (φ : HTree → HTree) (hφ : ∀ k, (φ k).value = k.value)
    (ks : List HTree) :
    (ks.map φ).all (fun k => kidAllowed v k.value) = ks.all (fun k => kidAllowed v k.value) := by
  induction ks with
  | nil => rfl
  | cons k ks ih => simp only [List.map_cons, List.all_cons, hφ, ih]

theorem kidsOrdered_map (φ : HTree → HTree) (hφ : ∀ k, (φ k).value = k.value) :
    ∀ ks : List HTree, kidsOrdered (ks.map φ) = kidsOrdered ks
  | [] => rfl
  | [_] => rfl
  | a :: b :: rest => by
    have ih := kidsOrdered_map φ hφ (b :: rest)
    simp only [List.map_cons] at ih ⊢
    simp only [kidsOrdered, hφ, ih]

theorem noAdjacentText_map (φ : HTree → HTree) (hφ : ∀ k, (φ k).value = k.value) :
    ∀ ks : List HTree, noAdjacentText (ks.map φ) = noAdjacentText ks
  | [] => rfl
  | [_] => rfl
  | a :: b :: rest => by
    have ih := noAdjacentText_map φ hφ (b :: rest)
    simp only [List.map_cons] at ih ⊢
    simp only [noAdjacentText, hφ, ih]

theorem keysUnique_map (c : Category) (φ : HTree → HTree) (hφ : ∀ k, (φ k).value = k.value)
    (ks : List HTree) : keysUnique c (ks.map φ) = keysUnique c ks := by
  have : ((ks.map φ).filter (fun k => k.value.category == c)).map (fun k => entryKey k.value) =
      (ks.filter (fun k => k.value.category == c)).map (fun k => entryKey k.value) := by
    induction ks with
    | nil => rfl
    | cons k ks ih =>
      simp only [List.map_cons, List.filter_cons, hφ]
      split
      · simp only [List.map_cons, hφ, ih]
      · exact ih
  simp only [keysUnique, this]

theorem mapAt_atKids_value (e : Nat) (F : List HTree → List HTree) (k : HTree) :
    (mapAt e (atKids F) k).value = k.value := by
  cases k with
  | node h v ks =>
    simp only [mapAt]
    split <;> rfl

/-- Replacing the child list of the node `e` by a list that is valid under `e`'s value keeps
    every tree valid: on the way down to `e` the checks a node makes on its children see their
    values only, and those stay. -/
theorem validList_withKids (b : Bool) (e : Nat) (ev : Value) (ks ks' : List HTree)
    (hnew : validTree b (.node e ev ks') = true) : ∀ l : List HTree, (handlesList l).Nodup →
    findList? e l = some (.node e ev ks) → validList b l = true →
    validList b (mapAtList e (atKids (fun _ => ks')) l) = true := by
  intro L hnd hf hv
  have a := At.of_find e L _ hnd hf
  clear hnd hf
  induction a with
  | @top l r he hl hr =>
    rw [mapAtList_around _ _ l r _ hl hr, mapAt_of_handle _ he]
    rw [validList_append] at hv ⊢
    simp only [validList, Bool.and_eq_true] at hv ⊢
    exact ⟨hv.1, hnew, hv.2.2⟩
  | @under l r cs h v hne hl hr _ ih =>
    rw [mapAtList_around _ _ l r _ hl hr]
    rw [validList_append] at hv ⊢
    simp only [validList, Bool.and_eq_true] at hv ⊢
    refine ⟨hv.1, ?_, hv.2.2⟩
    have hk := hv.2.1
    simp only [mapAt, if_neg hne, validTree, Bool.and_eq_true] at hk ⊢
    obtain ⟨⟨⟨⟨⟨h1, h2⟩, h3⟩, h4⟩, h5⟩, h6⟩ := hk
    have hφ := mapAt_atKids_value e (fun _ => ks')
    rw [mapAtList_eq_map, all_kidAllowed_map v _ hφ, kidsOrdered_map _ hφ,
      keysUnique_map _ _ hφ, keysUnique_map _ _ hφ, noAdjacentText_map _ hφ,
      ← mapAtList_eq_map]
    exact ⟨⟨⟨⟨⟨h1, h2⟩, h3⟩, h4⟩, h5⟩, ih h6⟩

theorem validTree_withKids (b : Bool) (e : Nat) (ev : Value) (ks ks' : List HTree)
      (hnew : validTree b (.node e ev ks') = true) : ∀ k : HTree, (handles k).Nodup →
      find? e k = some (.node e ev ks) → validTree b k = true →
      validTree b (mapAt e (atKids (fun _ => ks')) k) = true := by
  intro k hnd hf hv
  have := validList_withKids b e ev ks ks' hnew [k] (by simpa [handlesList] using hnd)
    (by simp only [findList?, hf]) (by simp only [validList, hv, Bool.and_self])
  simpa [mapAtList, validList] using this

/-! ### Histories -/

theorem isElement_newNode (f : Forest) (v : Value) (e : Nat) (he : f.isElement e = true) :
    (f.newNode v).1.isElement e = true := by
  unfold Forest.isElement Forest.value? at he ⊢
  cases hg : f.get? e with
  | none => rw [hg] at he; simp at he
  | some t =>
    have : (f.newNode v).1.get? e = some t := fi_findList?_append_left hg
    rw [this]
    rw [hg] at he
    exact he

theorem op_inv (f : Forest) (hi : f.Inv) (e : Nat) (op : MapOp) (hwf : op.wf = true) : (op.run e f).1.Inv := by
  cases op with
  | insert k v => exact Forest.mapInsert_inv hi k e v hwf
  | remove k key => exact Forest.mapRemove_inv hi k e key
  | clear k => exact Forest.mapClear_inv hi k e
  | insertNode k v => exact Forest.appendEntryNode_inv (Fcreation.newNode_inv hi v) k e _

theorem runOps_inv (e : Nat) : ∀ (ops : List MapOp) (f : Forest), f.Inv → (∀ op ∈ ops, op.wf = true) →
    (runOps e f ops).1.Inv
  | [], _ => fun hi _ => hi
  | op :: ops, f => fun hi hwf =>
    runOps_inv e ops _ (op_inv f hi e op (hwf op List.mem_cons_self))
      (fun o ho => hwf o (List.mem_cons_of_mem _ ho))

end Fmap
end XotModel
