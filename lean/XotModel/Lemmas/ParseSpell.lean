/-
  C02_spelled: what the builder does on the tokens of one spelled node (start tag, empty-element tag, end
  tag, character-data runs, comments, PIs), the induction over the spelled document (`sim_node`, `sim_list`),
  and the parse entry points on the tokens of a spelled document / fragment, with the id tree read back as an
  abstract document.
-/
import XotModel.Lemmas.ParseOps
import XotModel.Lemmas.ParseSpellStart
import XotModel.Lemmas.LineEnds

/-! ## One spelled node

  Given what the builder does on the node's children.
-/

namespace XotModel

/-- The builder after some finished nodes `trees` (in document order) were added to the current
    frame, with the interning tables `env'` and some span map. -/
def Builder.emit (b : Builder) (env' : Env) (trees : List Tree) (sp : SpanMap) : Builder :=
  { b with env := env', cur := { b.cur with rkids := trees.reverse ++ b.cur.rkids }, spans := sp }

theorem emit_emit (b : Builder) (e1 e2 : Env) (t1 t2 : List Tree) (s1 s2 : SpanMap) :
    (b.emit e1 t1 s1).emit e2 t2 s2 = b.emit e2 (t1 ++ t2) s2 := by
  simp [Builder.emit, List.reverse_append, List.append_assoc]

/-- The last child of the current frame is not a text node. -/
def HeadOk (b : Builder) : Prop := ∀ s ks more, b.cur.rkids ≠ .node (.text s) ks :: more

theorem Ready.emit {b : Builder} (h : Ready b) {e' : Env} (hx : EnvExt b.env e') (trees : List Tree) (sp : SpanMap) :
    Ready (b.emit e' trees sp) := by
  have hp := hx.1
  refine ⟨h.eb, ?_, h.look, ?_⟩
  · simp only [Builder.emit]; rw [hp]; exact h.pfx0
  · obtain ⟨x, ns, hx1, hns⟩ := h.xmlId
    exact ⟨x, ns, EnvExt.names_get hx hx1, hns⟩

/-! ### `encode` only extends the name table -/

theorem encodeAttrs_ext : ∀ (attrs : List (Str × Str)) (env : Env), EnvExt env (encodeAttrs env attrs).1
  | [], env => EnvExt.refl env
  | (a, v) :: rest, env => by
    simp only [encodeAttrs]
    exact (internName_ext env a Env.noNamespace).trans (encodeAttrs_ext rest _)

mutual
theorem encode_ext : ∀ (n : PNode) (env : Env), EnvExt env (n.encode env).1
  | .elem name attrs kids, env => by
    simp only [PNode.encode]
    exact ((internName_ext env name Env.noNamespace).trans (encodeAttrs_ext attrs _)).trans (encodeList_ext kids _)
  | .text s, env => EnvExt.refl env
  | .comment s, env => EnvExt.refl env
  | .pi t d, env => by simp only [PNode.encode]; exact internName_ext env t Env.noNamespace
theorem encodeList_ext : ∀ (ns : List PNode) (env : Env), EnvExt env (PNode.encode.encodeList env ns).1
  | [], env => EnvExt.refl env
  | k :: ks, env => by
    simp only [PNode.encode.encodeList]
    exact (encode_ext k env).trans (encodeList_ext ks _)
end

theorem encodeList_append (env : Env) : ∀ (l1 l2 : List PNode),
    PNode.encode.encodeList env (l1 ++ l2) =
      ((PNode.encode.encodeList (PNode.encode.encodeList env l1).1 l2).1,
       (PNode.encode.encodeList env l1).2 ++ (PNode.encode.encodeList (PNode.encode.encodeList env l1).1 l2).2) := by
  intro l1
  induction l1 generalizing env with
  | nil => intro l2; simp [PNode.encode.encodeList]
  | cons k ks ih =>
    intro l2
    simp only [List.cons_append, PNode.encode.encodeList]
    rw [ih]

theorem encodeList_single (env : Env) (n : PNode) :
    PNode.encode.encodeList env [n] = ((n.encode env).1, [(n.encode env).2]) := by
  simp [PNode.encode.encodeList]

/-! ### Start tag -/

theorem lookup_push_empty (st : NsStack) (p : Nat) : lookupPrefix ([] :: st) p = lookupPrefix st p := by
  rw [lookupPrefix_cons]; rfl

/-- The builder right after the start tag `<name attrs>`. -/
def Builder.opened (b : Builder) (name : Str) (attrs : List (Str × Str)) (sp : SpanMap) : Builder :=
  { env := (encodeAttrs (b.env.internName name Env.noNamespace).1 attrs).1,
    cur := ⟨.element (b.env.internName name Env.noNamespace).2,
            (encodeAttrs (b.env.internName name Env.noNamespace).1 attrs).2.reverse⟩,
    parents := b.cur :: b.parents, nsStack := [] :: b.nsStack, eb := none,
    seenIds := b.seenIds, idNodes := b.idNodes, spans := sp, openPrefixes := [] :: b.openPrefixes }

theorem run_start (b : Builder) (hr : Ready b) (name : StrSpan) (pstart : Nat) (junk : StrSpan) (attrs : List SAttr)
    (hw : attrsWell attrs) (hps : pstart = 0) (tail : List Token) (lexErr : Option Nat) :
    ∃ b2 : Builder, b2.eb = some { (ElementBuilder.new ⟨[], pstart⟩ name) with attributes := attrs.map SAttr.builder } ∧
      b2.env = b.env ∧ b2.cur = b.cur ∧ b2.parents = b.parents ∧ b2.nsStack = b.nsStack ∧
      b2.seenIds = b.seenIds ∧ b2.idNodes = b.idNodes ∧ b2.spans = b.spans ∧ b2.openPrefixes = b.openPrefixes ∧
      b.run (.elementStart ⟨[], pstart⟩ name junk :: (attrs.map SAttr.token ++ tail)) lexErr = b2.run tail lexErr := by
  refine ⟨{ b with eb := some { (ElementBuilder.new ⟨[], pstart⟩ name) with attributes := attrs.map SAttr.builder } },
    rfl, rfl, rfl, rfl, rfl, rfl, rfl, rfl, rfl, ?_⟩
  have hbc : (⟨[], pstart⟩ : StrSpan).bareColon = false := by rw [hps]; rfl
  simp only [Builder.run, Builder.step, hbc, Bool.false_eq_true, if_false]
  have := run_attrs tail lexErr attrs (b.element ⟨[], pstart⟩ name) (ElementBuilder.new ⟨[], pstart⟩ name) rfl hw.1
    (fun ab hab => by simp [ElementBuilder.new] at hab) (by simpa [ElementBuilder.new] using hw.2)
  rw [this]
  simp [Builder.element, ElementBuilder.new]

theorem openElement_plain (b b2 : Builder) (hr : Ready b) (name : StrSpan) (pstart : Nat) (attrs : List SAttr)
    (hw : attrsWell attrs)
    (heb : b2.eb = some { (ElementBuilder.new ⟨[], pstart⟩ name) with attributes := attrs.map SAttr.builder })
    (henv : b2.env = b.env) (hcur : b2.cur = b.cur) (hpar : b2.parents = b.parents) (hns : b2.nsStack = b.nsStack)
    (hsi : b2.seenIds = b.seenIds) (hid : b2.idNodes = b.idNodes) (hop : b2.openPrefixes = b.openPrefixes) :
    ∃ sp, b2.openElement = .ok (b.opened name.text (attrs.map SAttr.denote) sp) := by
  have hname : elementNameId b2.env ([] :: b2.nsStack) [] name.text (⟨[], pstart⟩ : StrSpan).span =
      .ok (b.env.internName name.text 0) := by
    rw [henv, hns]
    exact elementNameId_plain name.text _ hr.pfx0 (by rw [lookup_push_empty]; exact hr.look)
  have hext := internName_ext b.env name.text 0
  obtain ⟨st', hst, he, hk, hs, hi⟩ := addAttributes_plain ([] :: b2.nsStack) (b2.curPath ++ [b2.cur.rkids.length])
    (attrs.map SAttr.builder)
    { env := (b.env.internName name.text 0).1, seenIds := b2.seenIds, idNodes := b2.idNodes, seenNames := [],
      rkids := namespaceKids [], aspans := [] }
    (by intro ab hab; simp only [List.mem_map] at hab; obtain ⟨a, _, rfl⟩ := hab; rfl)
    (by simp only; rw [hext.1]; exact hr.pfx0)
    (by obtain ⟨x, ns, hx1, hns'⟩ := hr.xmlId; exact ⟨x, ns, hext.names_get hx1, hns'⟩)
    (by intro n hn; simp at hn)
    (by rw [List.map_map]; exact hw.2)
  have hmap : (attrs.map SAttr.builder).map (fun ab => (ab.name, ab.value)) = attrs.map SAttr.denote := by
    simp [List.map_map, SAttr.builder, SAttr.denote, Function.comp]
  rw [hmap] at he hk
  dsimp only at he hk hs hi
  refine ⟨(b2.spans.add ⟨b2.curPath ++ [b2.cur.rkids.length], .elementStart⟩
      (Span.fromPrefixName ⟨[], pstart⟩ name)).addAttributeSpans (b2.curPath ++ [b2.cur.rkids.length]) st'.aspans, ?_⟩
  unfold Builder.openElement
  rw [heb]
  dsimp only [ElementBuilder.new] at hname ⊢
  rw [hname]
  dsimp only
  rw [hst]
  dsimp only
  simp only [Builder.opened, he, hk, hs, hi, hcur, hpar, hns, hsi, hid, hop, namespaceKids, List.map_nil,
    List.reverse_nil, List.append_nil]
  rfl

/-! ### Leaves -/

theorem headOk_of_head {b : Builder} {k : Tree} {more : List Tree} (hk : k.value.isText = false)
    (h : b.cur.rkids = k :: more) : HeadOk b := by
  intro s ks more' heq
  rw [h] at heq
  simp only [List.cons.injEq] at heq
  rw [heq.1] at hk
  simp [Tree.value, Value.isText] at hk

theorem run_comment (b : Builder) (text junk : StrSpan) (rest : List Token) (lexErr : Option Nat) :
    ∃ sp, b.run (.comment text junk :: rest) lexErr =
      (b.emit b.env [.node (.comment (normalizeLineEnds text.text)) []] sp).run rest lexErr := by
  refine ⟨b.spans.add ⟨b.curPath ++ [b.cur.rkids.length], .comment⟩ text.span, ?_⟩
  simp only [Builder.run, Builder.step, Builder.comment, Builder.addLeaf, Builder.emit, List.reverse_cons,
    List.reverse_nil, List.nil_append, List.singleton_append]

theorem run_pi (b : Builder) (target : StrSpan) (content : Option StrSpan) (junk : StrSpan) (rest : List Token)
    (lexErr : Option Nat) (ht : isReservedPiTarget target.text = false) :
    ∃ sp, b.run (.pi target content junk :: rest) lexErr =
      (b.emit (b.env.internName target.text Env.noNamespace).1
        [.node (.pi (b.env.internName target.text Env.noNamespace).2
          (content.map fun c => normalizeLineEnds c.text)) []] sp).run
        rest lexErr := by
  refine ⟨(Builder.processingInstruction b target content).spans, ?_⟩
  simp only [Builder.run, Builder.step, ht, Bool.false_eq_true, if_false, Builder.processingInstruction, Builder.addLeaf, Builder.emit,
    List.reverse_cons, List.reverse_nil, List.nil_append, List.singleton_append]

/-! ### Character data -/

theorem pieceValue_isSome_of_ok (attr : Bool) : ∀ (p : Piece), (p.ok ∨ p = .cr) → (pieceValue attr p).isSome = true
  | .lit c, _ => rfl
  | .named n, h => by rcases h with h | h; exact h.2.2; cases h
  | .dec ds, h => by rcases h with h | h; exact h.2.2; cases h
  | .hex ds, h => by rcases h with h | h; exact h.2.2; cases h
  | .cr, _ => rfl
  | .crlf, _ => rfl

theorem valueOf_ne_nil (attr : Bool) {ps : List Piece} (hne : ps ≠ []) (hw : WellSpelled ps) : valueOf attr ps ≠ [] := by
  cases ps with
  | nil => exact absurd rfl hne
  | cons p rest =>
    have hsome : (pieceValue attr p).isSome = true := by
      apply pieceValue_isSome_of_ok
      cases p with
      | cr => exact Or.inr rfl
      | lit c => exact Or.inl hw.1
      | named n => exact Or.inl hw.1
      | dec ds => exact Or.inl hw.1
      | hex ds => exact Or.inl hw.1
      | crlf => exact Or.inl hw.1
    obtain ⟨c, hc⟩ := Option.isSome_iff_exists.mp hsome
    rw [valueOf_cons rest hc]
    simp

/-- The state after character data `acc` was fed to `b` (nothing when `acc` is empty). -/
def Builder.fed (b : Builder) (acc : Str) (sp : SpanMap) : Builder :=
  if acc = [] then { b with spans := sp } else { (b.addText acc).1 with spans := sp }

theorem addText_spans_comm (x : Builder) (sp : SpanMap) (w : Str) :
    (({ x with spans := sp } : Builder).addText w).1 = { (x.addText w).1 with spans := sp } := by
  unfold Builder.addText
  dsimp only
  cases x.cur.rkids with
  | nil => rfl
  | cons k more =>
    cases k with
    | node v ks => cases v <;> rfl

theorem addText_headOk {b : Builder} (h : HeadOk b) (w : Str) :
    (b.addText w).1 = { b with cur := { b.cur with rkids := .node (.text w) [] :: b.cur.rkids } } := by
  unfold Builder.addText
  split
  · rename_i s ks more hr; exact absurd hr (h s ks more)
  · rfl

/-- Feeding one more non-empty piece of character data. -/
theorem fed_addText {b : Builder} (hh : HeadOk b) (acc w : Str) (sp sp' : SpanMap) :
    { ((b.fed acc sp).addText w).1 with spans := sp' } = b.fed (acc ++ w) sp' ∨ w = [] := by
  by_cases hw : w = []
  · exact Or.inr hw
  · left
    unfold Builder.fed
    by_cases ha : acc = []
    · subst ha
      simp only [if_true, List.nil_append, hw, if_false]
      rw [addText_spans_comm]
    · have : acc ++ w ≠ [] := by simp [ha]
      simp only [ha, this, if_false]
      rw [addText_spans_comm, addText_addText]

theorem run_parts (b : Builder) (hh : HeadOk b) (rest : List Token) (lexErr : Option Nat) :
    ∀ (parts : List SPart) (acc : Str) (sp : SpanMap), (∀ p ∈ parts, p.Well) →
      ∃ sp', (b.fed acc sp).run (parts.map SPart.token ++ rest) lexErr =
        (b.fed (acc ++ partsValue parts) sp').run rest lexErr := by
  intro parts
  induction parts with
  | nil => intro acc sp _; exact ⟨sp, by simp [partsValue]⟩
  | cons p ps ih =>
    intro acc sp hw
    have hwp := hw p (by simp)
    have hws : ∀ q ∈ ps, q.Well := fun q hq => hw q (by simp [hq])
    simp only [List.map_cons, List.cons_append, Builder.run]
    have hval : partsValue (p :: ps) = p.value ++ partsValue ps := by simp [partsValue]
    cases p with
    | txt pcs start =>
      obtain ⟨hne, hwell⟩ := hwp
      have hparse := parse_pieces false start pcs 0 hwell
      have hv := valueOf_ne_nil false hne hwell
      simp only [SPart.token, Builder.step, Builder.text, hparse]
      rcases fed_addText hh acc (valueOf false pcs) sp
          (((b.fed acc sp).addText (valueOf false pcs)).1.spans.extendText ((b.fed acc sp).addText (valueOf false pcs)).2
            (⟨renderPieces pcs, start⟩ : StrSpan).span) with h | h
      · rw [h]
        obtain ⟨sp', h'⟩ := ih (acc ++ valueOf false pcs) _ hws
        exact ⟨sp', by rw [h', hval, List.append_assoc]; rfl⟩
      · exact absurd h hv
    | cd t junk =>
      simp only [SPart.token, Builder.step, Builder.cdata]
      by_cases ht : t.text = []
      · simp only [ht, List.isEmpty_nil, if_true]
        obtain ⟨sp', h'⟩ := ih acc sp hws
        refine ⟨sp', ?_⟩
        rw [h', hval]
        simp [SPart.value, ht, replaceCrLf, replaceCr]
      · have hemp : t.text.isEmpty = false := by
          cases h : t.text with
          | nil => exact absurd h ht
          | cons _ _ => rfl
        simp only [hemp, Bool.false_eq_true, if_false]
        rcases fed_addText hh acc (replaceCr (replaceCrLf t.text)) sp
            (((b.fed acc sp).addText (replaceCr (replaceCrLf t.text))).1.spans.extendText
              ((b.fed acc sp).addText (replaceCr (replaceCrLf t.text))).2 t.span) with h | h
        · rw [h]
          obtain ⟨sp', h'⟩ := ih (acc ++ replaceCr (replaceCrLf t.text)) _ hws
          exact ⟨sp', by rw [h', hval, List.append_assoc]; rfl⟩
        · exact absurd h (normalizeLineEnds_ne_nil ht)

/-- A run of character data: one text node with the concatenated value, or nothing. -/
theorem run_chars (b : Builder) (hh : HeadOk b) (parts : List SPart) (hw : ∀ p ∈ parts, p.Well)
    (rest : List Token) (lexErr : Option Nat) :
    ∃ sp, b.run (parts.map SPart.token ++ rest) lexErr =
      (b.emit b.env (if partsValue parts = [] then [] else [.node (.text (partsValue parts)) []]) sp).run rest lexErr := by
  obtain ⟨sp', h⟩ := run_parts b hh rest lexErr parts [] b.spans hw
  have h0 : b.fed [] b.spans = b := by simp [Builder.fed]
  rw [h0, List.nil_append] at h
  refine ⟨sp', ?_⟩
  rw [h]
  congr 1
  unfold Builder.fed Builder.emit
  by_cases hv : partsValue parts = []
  · simp [hv]
  · simp only [hv, if_false, List.reverse_cons, List.reverse_nil, List.nil_append, List.singleton_append]
    rw [addText_headOk hh]

end XotModel

/-! ## The spelled document -/

namespace XotModel

/-- Running `toks` from `b` adds `trees` to the current frame and leaves the tables `env'`. -/
def Sim (b : Builder) (toks : List Token) (env' : Env) (trees : List Tree) : Prop :=
  ∀ (rest : List Token) (lexErr : Option Nat),
    ∃ sp, b.run (toks ++ rest) lexErr = (b.emit env' trees sp).run rest lexErr

theorem encodeAttrs_leaves : ∀ (attrs : List (Str × Str)) (env : Env),
    ∀ k ∈ (encodeAttrs env attrs).2, ∃ n v, k = .node (.attribute n v) []
  | [], _, k, hk => by simp [encodeAttrs] at hk
  | (a, v) :: rest, env, k, hk => by
    simp only [encodeAttrs, List.mem_cons] at hk
    rcases hk with rfl | hk
    · exact ⟨_, _, rfl⟩
    · exact encodeAttrs_leaves rest _ k hk

theorem headOk_opened (b : Builder) (name : Str) (attrs : List (Str × Str)) (sp : SpanMap) :
    HeadOk (b.opened name attrs sp) := by
  intro s ks more heq
  simp only [Builder.opened] at heq
  have hm : Tree.node (.text s) ks ∈ (encodeAttrs (b.env.internName name Env.noNamespace).1 attrs).2 := by
    have : Tree.node (.text s) ks ∈ (encodeAttrs (b.env.internName name Env.noNamespace).1 attrs).2.reverse := by
      rw [heq]; simp
    simpa using this
  obtain ⟨n, v, h⟩ := encodeAttrs_leaves attrs _ _ hm
  cases h

theorem ready_opened {b : Builder} (hr : Ready b) (name : Str) (attrs : List (Str × Str)) (sp : SpanMap) :
    Ready (b.opened name attrs sp) := by
  have hext : EnvExt b.env (encodeAttrs (b.env.internName name Env.noNamespace).1 attrs).1 :=
    (internName_ext b.env name Env.noNamespace).trans (encodeAttrs_ext attrs _)
  refine ⟨rfl, ?_, ?_, ?_⟩
  · simp only [Builder.opened]; rw [hext.1]; exact hr.pfx0
  · simp only [Builder.opened]; rw [lookup_push_empty]; exact hr.look
  · obtain ⟨x, ns, hx1, hns⟩ := hr.xmlId
    exact ⟨x, ns, hext.names_get hx1, hns⟩

/-- The end tag `</name>` after the children were added. -/
theorem run_close (b : Builder) (hr : Ready b) (name : Str) (attrs : List (Str × Str)) (sp0 : SpanMap)
    (ek : Env) (tk : List Tree) (spk : SpanMap)
    (hext : EnvExt (encodeAttrs (b.env.internName name Env.noNamespace).1 attrs).1 ek)
    (cname : StrSpan) (cp : Nat) (closeSp : StrSpan) (hc : cname.text = name) (hcp : cp = 0)
    (rest : List Token) (lexErr : Option Nat) :
    ∃ sp, ((b.opened name attrs sp0).emit ek tk spk).run (.elementEnd (.close ⟨[], cp⟩ cname) closeSp :: rest) lexErr =
      (b.emit ek [.node (.element (b.env.internName name Env.noNamespace).2)
        ((encodeAttrs (b.env.internName name Env.noNamespace).1 attrs).2 ++ tk)] sp).run rest lexErr := by
  have hext0 : EnvExt (b.env.internName name Env.noNamespace).1 ek := (encodeAttrs_ext attrs _).trans hext
  have hall : EnvExt b.env ek := (internName_ext b.env name Env.noNamespace).trans hext0
  have hname : elementNameId ek ([] :: b.nsStack) [] cname.text (⟨[], cp⟩ : StrSpan).span =
      .ok (ek, (b.env.internName name Env.noNamespace).2) := by
    rw [elementNameId_plain cname.text _ (by rw [hall.1]; exact hr.pfx0) (by rw [lookup_push_empty]; exact hr.look), hc]
    exact congrArg Step.ok (internName_again_of name 0 hext0.2.2)
  refine ⟨spk.add ⟨(b.opened name attrs sp0).curPath, .elementEnd⟩ closeSp.span, ?_⟩
  have hbc : (⟨[], cp⟩ : StrSpan).bareColon = false := by rw [hcp]; rfl
  simp only [Builder.run, Builder.step, hbc, Bool.false_eq_true, if_false]
  have hstep : ((b.opened name attrs sp0).emit ek tk spk).closeElement ⟨[], cp⟩ cname closeSp =
      .ok (b.emit ek [.node (.element (b.env.internName name Env.noNamespace).2)
        ((encodeAttrs (b.env.internName name Env.noNamespace).1 attrs).2 ++ tk)]
        (spk.add ⟨(b.opened name attrs sp0).curPath, .elementEnd⟩ closeSp.span)) := by
    unfold Builder.closeElement
    simp only [Builder.emit, Builder.opened] at hname ⊢
    rw [hname]
    simp only [List.isEmpty_cons, Bool.false_eq_true, if_false, bne_self_eq_false, samePrefix, List.head?_cons,
      BEq.rfl, Bool.not_true, Bool.or_false]
    simp only [Builder.leave, Builder.toParent, Frame.close, Builder.curPath, List.reverse_append, List.reverse_reverse,
      List.reverse_cons, List.reverse_nil, List.nil_append, List.singleton_append, List.tail_cons, hr.eb]
  rw [hstep]

/-- The empty-element tag `/>` right after the start tag was read. -/
theorem closeImmediate_opened (b : Builder) (he : b.eb = none) (name : Str) (attrs : List (Str × Str)) (sp0 : SpanMap)
    (endSp : StrSpan) :
    (b.opened name attrs sp0).closeImmediate endSp =
      .ok (b.emit (encodeAttrs (b.env.internName name Env.noNamespace).1 attrs).1
        [.node (.element (b.env.internName name Env.noNamespace).2)
          (encodeAttrs (b.env.internName name Env.noNamespace).1 attrs).2]
        (sp0.add ⟨(b.opened name attrs sp0).curPath, .elementEnd⟩ endSp.span)) := by
  simp only [Builder.closeImmediate, Builder.opened, Value.isElement, if_true, Builder.leave, Builder.toParent,
    Frame.close, Builder.emit, Builder.curPath, List.reverse_reverse, List.reverse_cons, List.reverse_nil,
    List.nil_append, List.singleton_append, List.tail_cons, he]

theorem headOk_emit_single {b : Builder} {env' : Env} {t : Tree} {sp : SpanMap} (h : t.value.isText = false) :
    HeadOk (b.emit env' [t] sp) :=
  headOk_of_head (k := t) (more := b.cur.rkids) h (by simp [Builder.emit])

theorem noAdjChars_tail {k : SNode} {ks : List SNode} (h : noAdjChars (k :: ks) = true) : noAdjChars ks = true := by
  cases ks with
  | nil => rfl
  | cons k2 rest => simp only [noAdjChars, Bool.and_eq_true] at h; exact h.2

mutual
theorem sim_node : ∀ (sn : SNode), sn.Well → ∀ (b : Builder), Ready b → (sn.isChars = true → HeadOk b) →
    Sim b sn.tokens (PNode.encode.encodeList b.env sn.denote).1 (PNode.encode.encodeList b.env sn.denote).2 ∧
    (sn.isChars = false → ∀ sp, HeadOk (b.emit (PNode.encode.encodeList b.env sn.denote).1
      (PNode.encode.encodeList b.env sn.denote).2 sp))
  | .elem name pstart junk attrs openSp kids cname cpstart closeSp, hw, b, hr, _ => by
    obtain ⟨hwa, hcn, hadj, hwk, hps, hcps⟩ := hw
    simp only [SNode.denote, encodeList_single, PNode.encode]
    refine ⟨?_, fun _ sp => headOk_emit_single rfl⟩
    intro rest lexErr
    simp only [SNode.tokens, List.cons_append, List.append_assoc, List.nil_append]
    obtain ⟨b2, heb, henv, hcur, hpar, hns, hsi, hid, _, hop, hrun⟩ := run_start b hr name pstart junk attrs hwa hps
      (.elementEnd .open openSp :: (SNode.tokens.tokensList kids ++
        (.elementEnd (.close ⟨[], cpstart⟩ cname) closeSp :: rest))) lexErr
    rw [hrun]
    obtain ⟨sp0, hopen⟩ := openElement_plain b b2 hr name pstart attrs hwa heb henv hcur hpar hns hsi hid hop
    simp only [Builder.run, Builder.step, hopen]
    have hr1 := ready_opened hr name.text (attrs.map SAttr.denote) sp0
    obtain ⟨hsim, _⟩ := sim_list kids hwk hadj (b.opened name.text (attrs.map SAttr.denote) sp0) hr1
      (fun _ _ _ _ => headOk_opened b _ _ sp0)
    obtain ⟨spk, hk⟩ := hsim (.elementEnd (.close ⟨[], cpstart⟩ cname) closeSp :: rest) lexErr
    rw [hk]
    have hext := encodeList_ext (SNode.denote.denoteList kids) (b.opened name.text (attrs.map SAttr.denote) sp0).env
    obtain ⟨sp, hc⟩ := run_close b hr name.text (attrs.map SAttr.denote) sp0 _ _ spk hext cname cpstart closeSp hcn hcps rest lexErr
    exact ⟨sp, hc⟩
  | .empty name pstart junk attrs endSp, hw, b, hr, _ => by
    simp only [SNode.denote, encodeList_single, PNode.encode, PNode.encode.encodeList, List.append_nil]
    refine ⟨?_, fun _ sp => headOk_emit_single rfl⟩
    intro rest lexErr
    simp only [SNode.tokens, List.cons_append, List.append_assoc, List.nil_append]
    obtain ⟨b2, heb, henv, hcur, hpar, hns, hsi, hid, _, hop, hrun⟩ := run_start b hr name pstart junk attrs hw.1 hw.2
      (.elementEnd .empty endSp :: rest) lexErr
    rw [hrun]
    obtain ⟨sp0, hopen⟩ := openElement_plain b b2 hr name pstart attrs hw.1 heb henv hcur hpar hns hsi hid hop
    simp only [Builder.run, Builder.step, hopen, closeImmediate_opened b hr.eb]
    exact ⟨_, rfl⟩
  | .chars parts, hw, b, hr, hh => by
    refine ⟨?_, fun h => by simp [SNode.isChars] at h⟩
    intro rest lexErr
    obtain ⟨sp, h⟩ := run_chars b (hh rfl) parts hw rest lexErr
    refine ⟨sp, ?_⟩
    simp only [SNode.tokens, SNode.denote]
    rw [h]
    by_cases hv : partsValue parts = []
    · simp [hv, PNode.encode.encodeList]
    · simp [hv, PNode.encode.encodeList, PNode.encode]
  | .comment text junk, _, b, _, _ => by
    simp only [SNode.denote, encodeList_single, PNode.encode]
    refine ⟨?_, fun _ sp => headOk_emit_single rfl⟩
    intro rest lexErr
    exact run_comment b text junk rest lexErr
  | .pi target content junk, hw, b, _, _ => by
    simp only [SNode.denote, encodeList_single, PNode.encode]
    refine ⟨?_, fun _ sp => headOk_emit_single rfl⟩
    intro rest lexErr
    exact run_pi b target content junk rest lexErr hw
theorem sim_list : ∀ (sns : List SNode), SNode.Well.wellList sns → noAdjChars sns = true →
    ∀ (b : Builder), Ready b → (∀ sn rest, sns = sn :: rest → sn.isChars = true → HeadOk b) →
    Sim b (SNode.tokens.tokensList sns) (PNode.encode.encodeList b.env (SNode.denote.denoteList sns)).1
      (PNode.encode.encodeList b.env (SNode.denote.denoteList sns)).2 ∧ True
  | [], _, _, b, _, _ => by
    refine ⟨?_, trivial⟩
    intro rest lexErr
    refine ⟨b.spans, ?_⟩
    simp [SNode.tokens.tokensList, SNode.denote.denoteList, PNode.encode.encodeList, Builder.emit]
  | k :: ks, hw, hadj, b, hr, hstart => by
    refine ⟨?_, trivial⟩
    obtain ⟨hwk, hwks⟩ := hw
    obtain ⟨hsimk, hheadk⟩ := sim_node k hwk b hr (hstart k ks rfl)
    intro rest lexErr
    simp only [SNode.tokens.tokensList, SNode.denote.denoteList, List.append_assoc]
    obtain ⟨sp1, h1⟩ := hsimk (SNode.tokens.tokensList ks ++ rest) lexErr
    rw [h1]
    have hext1 := encodeList_ext k.denote b.env
    have hr1 : Ready (b.emit (PNode.encode.encodeList b.env k.denote).1 (PNode.encode.encodeList b.env k.denote).2 sp1) :=
      hr.emit hext1 _ _
    have hstart1 : ∀ sn rest', ks = sn :: rest' → sn.isChars = true →
        HeadOk (b.emit (PNode.encode.encodeList b.env k.denote).1 (PNode.encode.encodeList b.env k.denote).2 sp1) := by
      intro sn rest' hks hsn
      subst hks
      have hk : k.isChars = false := by
        simp only [noAdjChars, Bool.and_eq_true, Bool.not_eq_true', Bool.and_eq_false_iff] at hadj
        rcases hadj.1 with h | h
        · exact h
        · rw [hsn] at h; cases h
      exact hheadk hk sp1
    obtain ⟨hsims, _⟩ := sim_list ks hwks (noAdjChars_tail hadj) _ hr1 hstart1
    obtain ⟨sp2, h2⟩ := hsims rest lexErr
    refine ⟨sp2, ?_⟩
    rw [h2, emit_emit, encodeList_append]
    rfl
end

end XotModel

/-! ## Entry points and reading back -/

namespace XotModel

/-- What a fresh `Xot` guarantees about the interning tables: `""` is prefix 0 and name 1
    (`xml:id`) is in a namespace other than "no namespace". -/
structure EnvBase (env : Env) : Prop where
  pfx0 : env.prefixes.head? = some []
  xmlId : ∃ x ns, env.names[1]? = some (x, ns) ∧ ns ≠ 0

theorem ready_new {env : Env} (h : EnvBase env) : Ready (Builder.new env) :=
  ⟨rfl, h.pfx0, lookup_default_new env, h.xmlId⟩

theorem run_spelled {env : Env} (h : EnvBase env) (sns : List SNode) (hw : SNode.Well.wellList sns)
    (hadj : noAdjChars sns = true) :
    ∃ sp, (Builder.new env).run (SNode.tokens.tokensList sns) none =
      .ok ((Builder.new env).emit (PNode.encode.encodeList env (SNode.denote.denoteList sns)).1
        (PNode.encode.encodeList env (SNode.denote.denoteList sns)).2 sp) := by
  obtain ⟨hsim, _⟩ := sim_list sns hw hadj (Builder.new env) (ready_new h)
    (fun _ _ _ _ => by intro s ks more heq; simp [Builder.new] at heq)
  obtain ⟨sp, hrun⟩ := hsim [] none
  refine ⟨sp, ?_⟩
  rw [List.append_nil] at hrun
  rw [hrun]
  simp [Builder.run, Builder.emit, Builder.new]

theorem emit_new_root (env env' : Env) (trees : List Tree) (sp : SpanMap) :
    ((Builder.new env).emit env' trees sp).root = .node .document trees := by
  simp [Builder.root, Builder.emit, Builder.new, zipInto, Frame.close]

/-- `parse_fragment` on a spelled fragment. -/
theorem build_fragment_spelled {env : Env} (h : EnvBase env) (len : Nat) (sns : List SNode)
    (hw : SNode.Well.wellList sns) (hadj : noAdjChars sns = true) :
    ∃ p, build .fragment len env (SNode.tokens.tokensList sns) none = .ok p ∧
      p.tree = .node .document (PNode.encode.encodeList env (SNode.denote.denoteList sns)).2 ∧
      p.env = (PNode.encode.encodeList env (SNode.denote.denoteList sns)).1 := by
  obtain ⟨sp, hrun⟩ := run_spelled h sns hw hadj
  exact ⟨_, (build_of_run len hrun rfl).1, emit_new_root env _ _ sp, rfl⟩

/-- `parse` on a spelled document whose top level has exactly one element and no text. -/
theorem build_document_spelled {env : Env} (h : EnvBase env) (len : Nat) (sns : List SNode)
    (hw : SNode.Well.wellList sns) (hadj : noAdjChars sns = true)
    (htop : WellFormedTop (.node .document (PNode.encode.encodeList env (SNode.denote.denoteList sns)).2)) :
    ∃ p, build .document len env (SNode.tokens.tokensList sns) none = .ok p ∧
      p.tree = .node .document (PNode.encode.encodeList env (SNode.denote.denoteList sns)).2 ∧
      p.env = (PNode.encode.encodeList env (SNode.denote.denoteList sns)).1 := by
  obtain ⟨sp, hrun⟩ := run_spelled h sns hw hadj
  refine ⟨_, (build_of_run len hrun rfl).2 ?_, emit_new_root env _ _ sp, rfl⟩
  rw [show Parsed.tree _ = _ from emit_new_root env _ _ sp]
  exact htop

/-! ### Reading the id tree back -/

/-- An id tree read back through the interning tables: an attribute leaf as `(name, value)`, any
    other node as an abstract node. -/
def decodeTree (env : Env) : Tree → Option (Sum (Str × Str) PNode)
  | .node (.attribute n v) [] => some (.inl (env.localName n, v))
  | .node (.element n) ks =>
    match decodeList ks with
    | some items =>
      some (.inr (.elem (env.localName n)
        (items.filterMap fun x => match x with | .inl a => some a | .inr _ => none)
        (items.filterMap fun x => match x with | .inl _ => none | .inr k => some k)))
    | none => none
  | .node (.text s) [] => some (.inr (.text s))
  | .node (.comment s) [] => some (.inr (.comment s))
  | .node (.pi t d) [] => some (.inr (.pi (env.localName t) d))
  | _ => none
where
  decodeList : List Tree → Option (List (Sum (Str × Str) PNode))
    | [] => some []
    | k :: ks =>
      match decodeTree env k, decodeList ks with
      | some a, some as => some (a :: as)
      | _, _ => none

theorem localName_of_get {env : Env} {n : Nat} {a : Str} {ns : Nat} (h : env.names[n]? = some (a, ns)) :
    env.localName n = a := by
  simp [Env.localName, List.getD, h]

theorem decodeList_append (env : Env) : ∀ (l1 l2 : List Tree) (r1 r2 : List (Sum (Str × Str) PNode)),
    decodeTree.decodeList env l1 = some r1 → decodeTree.decodeList env l2 = some r2 →
    decodeTree.decodeList env (l1 ++ l2) = some (r1 ++ r2) := by
  intro l1
  induction l1 with
  | nil => intro l2 r1 r2 h1 h2; simp only [decodeTree.decodeList, Option.some.injEq] at h1; subst h1; simpa using h2
  | cons k ks ih =>
    intro l2 r1 r2 h1 h2
    simp only [decodeTree.decodeList] at h1
    cases hk : decodeTree env k with
    | none => simp [hk] at h1
    | some a =>
      cases hks : decodeTree.decodeList env ks with
      | none => simp [hk, hks] at h1
      | some as =>
        simp only [hk, hks, Option.some.injEq] at h1
        subst h1
        simp only [List.cons_append, decodeTree.decodeList, hk, ih l2 as r2 hks h2]

/-- Attribute leaves read back as the pairs they were made from. -/
theorem decode_encodeAttrs : ∀ (attrs : List (Str × Str)) (env envF : Env), EnvExt (encodeAttrs env attrs).1 envF →
    decodeTree.decodeList envF (encodeAttrs env attrs).2 = some (attrs.map Sum.inl)
  | [], _, _, _ => rfl
  | (a, v) :: rest, env, envF, h => by
    simp only [encodeAttrs] at h ⊢
    have hget := (((encodeAttrs_ext rest (env.internName a Env.noNamespace).1).trans h).names_get
      (internName_get env a Env.noNamespace))
    simp only [decodeTree.decodeList, decodeTree, localName_of_get hget,
      decode_encodeAttrs rest _ envF h, List.map_cons]

theorem filterMap_inl (as : List (Str × Str)) (ks : List PNode) :
    ((as.map Sum.inl ++ ks.map Sum.inr : List (Sum (Str × Str) PNode)).filterMap
      fun x => match x with | .inl a => some a | .inr _ => none) = as := by
  induction as with
  | nil => induction ks with
    | nil => rfl
    | cons k ks ih => simpa using ih
  | cons a as ih => simp [ih]

theorem filterMap_inr (as : List (Str × Str)) (ks : List PNode) :
    ((as.map Sum.inl ++ ks.map Sum.inr : List (Sum (Str × Str) PNode)).filterMap
      fun x => match x with | .inl _ => none | .inr k => some k) = ks := by
  induction as with
  | nil => induction ks with
    | nil => rfl
    | cons k ks ih => simpa using ih
  | cons a as ih => simpa using ih

mutual
/-- Reading back what `encode` produced gives the abstract node, in every later state of the tables. -/
theorem decode_encode : ∀ (n : PNode) (env envF : Env), EnvExt (n.encode env).1 envF →
    decodeTree envF (n.encode env).2 = some (.inr n)
  | .elem name attrs kids, env, envF, h => by
    simp only [PNode.encode] at h ⊢
    have hk := decodeList_encodeList kids _ envF h
    have hak : EnvExt (encodeAttrs (env.internName name Env.noNamespace).1 attrs).1 envF :=
      (encodeList_ext kids _).trans h
    have ha := decode_encodeAttrs attrs _ envF hak
    have hget := (((encodeAttrs_ext attrs _).trans hak).names_get (internName_get env name Env.noNamespace))
    simp only [decodeTree, decodeList_append envF _ _ _ _ ha hk, localName_of_get hget, filterMap_inl, filterMap_inr]
  | .text s, _, _, _ => rfl
  | .comment s, _, _, _ => rfl
  | .pi t d, env, envF, h => by
    simp only [PNode.encode] at h ⊢
    simp only [decodeTree, localName_of_get (h.names_get (internName_get env t Env.noNamespace))]
theorem decodeList_encodeList : ∀ (ns : List PNode) (env envF : Env),
    EnvExt (PNode.encode.encodeList env ns).1 envF →
    decodeTree.decodeList envF (PNode.encode.encodeList env ns).2 = some (ns.map Sum.inr)
  | [], _, _, _ => rfl
  | k :: ks, env, envF, h => by
    simp only [PNode.encode.encodeList] at h ⊢
    have hk := decode_encode k env envF ((encodeList_ext ks _).trans h)
    have hks := decodeList_encodeList ks _ envF h
    simp only [decodeTree.decodeList, hk, hks, List.map_cons]
end

/-! ### Top-level shape in abstract terms -/

def PNode.isElem : PNode → Bool
  | .elem _ _ _ => true
  | _ => false

def PNode.isText : PNode → Bool
  | .text _ => true
  | _ => false

/-- Exactly one element and no text among the top-level nodes. -/
def AbstractTop (ds : List PNode) : Prop :=
  (ds.filter PNode.isElem).length = 1 ∧ ∀ d ∈ ds, d.isText = false

theorem encode_kind (n : PNode) (env : Env) :
    (n.encode env).2.value.isElement = n.isElem ∧ (n.encode env).2.value.isText = n.isText := by
  cases n <;> simp [PNode.encode, Tree.value, Value.isElement, Value.isText, PNode.isElem, PNode.isText]

theorem encodeList_top : ∀ (ds : List PNode) (env : Env),
    countElements (PNode.encode.encodeList env ds).2 = (ds.filter PNode.isElem).length ∧
    ((∀ d ∈ ds, d.isText = false) → ∀ k ∈ (PNode.encode.encodeList env ds).2, k.value.isText = false)
  | [], _ => ⟨rfl, fun _ k hk => by simp [PNode.encode.encodeList] at hk⟩
  | d :: ds, env => by
    obtain ⟨h1, h2⟩ := encodeList_top ds (d.encode env).1
    obtain ⟨k1, k2⟩ := encode_kind d env
    simp only [PNode.encode.encodeList]
    constructor
    · simp only [countElements, List.filter_cons, k1] at h1 ⊢
      cases d.isElem <;> simp [h1]
    · intro hd k hk
      simp only [List.mem_cons] at hk
      rcases hk with rfl | hk
      · rw [k2]; exact hd d (by simp)
      · exact h2 (fun x hx => hd x (by simp [hx])) k hk

theorem wellFormedTop_of_abstract {env : Env} {ds : List PNode} (h : AbstractTop ds) :
    WellFormedTop (.node .document (PNode.encode.encodeList env ds).2) := by
  obtain ⟨h1, h2⟩ := encodeList_top ds env
  exact ⟨by simp only [Tree.kids]; rw [h1]; exact h.1, by simp only [Tree.kids]; exact h2 h.2⟩

end XotModel
