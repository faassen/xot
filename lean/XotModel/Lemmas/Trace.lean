/-
  The `FullnameSerializer` stack along a list of events: the stack after one event and after a list
  (`stepStack`, `runStack`), the stack before each reached event (`stackTrace`), `Trace.Along` (a claim
  about every entry and about the final stack) with its composition rules, what each kind of event does
  to the stack, and the frames of the open elements on a path (`framesAlong`).  The invariant itself is
  in Lemmas/TraceInv.
-/
import XotModel.Model.Output
import XotModel.Lemmas.Events
import XotModel.Lemmas.Scope

namespace XotModel

variable (esc : Escapers) (env : Env) (pr : TokenParams) (t : Tree)

/-- The stack after rendering one event (`none`: the event fails). -/
def stepStack (s : FStack) (po : Path × Output) : Option FStack :=
  match renderAtWith esc env pr t s po.1 po.2 with
  | .ok (s', _) => some s'
  | _ => none

/-- The stack after rendering a list of events. -/
def runStack : FStack → List (Path × Output) → Option FStack
  | s, [] => some s
  | s, po :: rest =>
    match stepStack esc env pr t s po with
    | some s' => runStack s' rest
    | none => none

/-- The stack held before each event that is reached. -/
def stackTrace : FStack → List (Path × Output) → List (FStack × Path × Output)
  | _, [] => []
  | s, po :: rest =>
    (s, po.1, po.2) ::
      (match stepStack esc env pr t s po with
       | some s' => stackTrace s' rest
       | none => [])

theorem runStack_append (s : FStack) (a b : List (Path × Output)) :
    runStack esc env pr t s (a ++ b) =
      (runStack esc env pr t s a).bind (fun s' => runStack esc env pr t s' b) := by
  induction a generalizing s with
  | nil => simp [runStack]
  | cons po a ih =>
    simp only [List.cons_append, runStack]
    cases stepStack esc env pr t s po with
    | none => simp
    | some s' => exact ih s'

theorem mem_stackTrace_append (s : FStack) (a b : List (Path × Output)) (x : FStack × Path × Output) :
    x ∈ stackTrace esc env pr t s (a ++ b) ↔
      x ∈ stackTrace esc env pr t s a ∨
        ∃ s', runStack esc env pr t s a = some s' ∧ x ∈ stackTrace esc env pr t s' b := by
  induction a generalizing s with
  | nil => simp [stackTrace, runStack]
  | cons po a ih =>
    simp only [List.cons_append, stackTrace, runStack, List.mem_cons]
    cases stepStack esc env pr t s po with
    | none => simp
    | some s' => simp only []; rw [ih s']; simp [or_assoc]

/-- Every entry of the trace of `evs` from `s` satisfies `Q`, and a run that gets through ends in a
    stack satisfying `R`. -/
abbrev Trace.Along (s : FStack) (evs : List (Path × Output)) (Q : FStack × Path × Output → Prop)
    (R : FStack → Prop) : Prop :=
  (∀ x ∈ stackTrace esc env pr t s evs, Q x) ∧ (∀ s', runStack esc env pr t s evs = some s' → R s')

theorem Trace.Along.nil {s : FStack} {Q : FStack × Path × Output → Prop} {R : FStack → Prop} (h : R s) :
    Trace.Along esc env pr t s [] Q R :=
  ⟨fun _ hx => (nomatch hx), fun _ h' => by cases h'; exact h⟩

theorem Trace.Along.cons {s : FStack} {po : Path × Output} {evs : List (Path × Output)}
    {Q : FStack × Path × Output → Prop} {R : FStack → Prop} (hq : Q (s, po.1, po.2))
    (hrest : ∀ s1, stepStack esc env pr t s po = some s1 → Trace.Along esc env pr t s1 evs Q R) :
    Trace.Along esc env pr t s (po :: evs) Q R := by
  unfold Trace.Along
  simp only [stackTrace, runStack, List.mem_cons]
  cases hs : stepStack esc env pr t s po with
  | none => exact ⟨fun x hx => hx.elim (fun e => e ▸ hq) (fun h => (nomatch h)), fun _ h => (nomatch h)⟩
  | some s1 => exact ⟨fun x hx => hx.elim (fun e => e ▸ hq) ((hrest s1 hs).1 x), (hrest s1 hs).2⟩

theorem Trace.Along.append {s : FStack} {a b : List (Path × Output)} {Q : FStack × Path × Output → Prop}
    {R1 R : FStack → Prop} (ha : Trace.Along esc env pr t s a Q R1)
    (hb : ∀ s1, R1 s1 → Trace.Along esc env pr t s1 b Q R) : Trace.Along esc env pr t s (a ++ b) Q R := by
  refine ⟨fun x hx => ?_, fun s' h => ?_⟩
  · rcases (mem_stackTrace_append esc env pr t s a b x).mp hx with hx | ⟨s1, hr, hx⟩
    · exact ha.1 x hx
    · exact (hb s1 (ha.2 s1 hr)).1 x hx
  · rw [runStack_append] at h
    cases hr : runStack esc env pr t s a with
    | none => rw [hr] at h; cases h
    | some s1 => rw [hr] at h; exact (hb s1 (ha.2 s1 hr)).2 s' h

theorem Trace.Along.imp {s : FStack} {evs : List (Path × Output)} {Q Q' : FStack × Path × Output → Prop}
    {R : FStack → Prop} (h : Trace.Along esc env pr t s evs Q R) (hq : ∀ x, Q x → Q' x) :
    Trace.Along esc env pr t s evs Q' R :=
  ⟨fun x hx => hq x (h.1 x hx), h.2⟩

/-- Events that leave the stack alone. -/
def Output.isNeutral : Output → Bool
  | .startTagOpen _ => false
  | .endTag _ => false
  | _ => true

theorem renderXml_neutral (s s' : FStack) (node : Tree) (parent : Option Tree) (o : Output)
    (tok : OutputToken) (ho : o.isNeutral = true)
    (h : renderXmlWith esc env pr s node parent o = .ok (s', tok)) : s' = s := by
  cases o with
  | startTagOpen n => simp [Output.isNeutral] at ho
  | endTag n => simp [Output.isNeutral] at ho
  | startTagClose =>
    simp only [renderXmlWith] at h
    split at h <;> (simp only [Outcome.ok.injEq, Prod.mk.injEq] at h; exact h.1.symm)
  | pfx a b =>
    simp only [renderXmlWith] at h
    split at h
    · simp only [Outcome.ok.injEq, Prod.mk.injEq] at h; exact h.1.symm
    · split at h <;> (simp only [Outcome.ok.injEq, Prod.mk.injEq] at h; exact h.1.symm)
  | «attribute» a v =>
    simp only [renderXmlWith] at h
    split at h
    · simp only [Outcome.ok.injEq, Prod.mk.injEq] at h; exact h.1.symm
    · cases h
  | text x =>
    simp only [renderXmlWith] at h
    split at h <;> (simp only [Outcome.ok.injEq, Prod.mk.injEq] at h; exact h.1.symm)
  | comment x =>
    simp only [renderXmlWith, Outcome.ok.injEq, Prod.mk.injEq] at h
    exact h.1.symm
  | pi a d =>
    simp only [renderXmlWith] at h
    split at h
    · cases h
    · split at h <;> (simp only [Outcome.ok.injEq, Prod.mk.injEq] at h; exact h.1.symm)

theorem stepStack_of_ok {s s' : FStack} {p : Path} {o : Output} {tok : OutputToken}
    (h : renderAtWith esc env pr t s p o = .ok (s', tok)) : stepStack esc env pr t s (p, o) = some s' := by
  simp [stepStack, h]

theorem stepStack_some (s s' : FStack) (p : Path) (o : Output)
    (h : stepStack esc env pr t s (p, o) = some s') :
    ∃ node tok, t.at? p = some node ∧
      renderXmlWith esc env pr s node (t.parentAt? p) o = .ok (s', tok) := by
  unfold stepStack renderAtWith at h
  cases hn : t.at? p with
  | none => simp [hn] at h
  | some node =>
    simp only [hn] at h
    cases hr : renderXmlWith esc env pr s node (t.parentAt? p) o with
    | ok st =>
      obtain ⟨s1, tok⟩ := st
      simp only [hr, Option.some.injEq] at h
      subst h
      exact ⟨node, tok, rfl, hr⟩
    | err e => simp [hr] at h
    | panic => simp [hr] at h

theorem stepStack_neutral (s s' : FStack) (p : Path) (o : Output) (ho : o.isNeutral = true)
    (h : stepStack esc env pr t s (p, o) = some s') : s' = s := by
  obtain ⟨node, tok, _, hr⟩ := stepStack_some esc env pr t s s' p o h
  exact renderXml_neutral esc env pr s s' node _ o tok ho hr

/-- What a rendered `StartTagOpen` is: the element's declarations are pushed, the token is `<` + the name with
    the prefix `element_prefix` answers on that stack, and the name is not a no-namespace name under a default
    namespace. -/
theorem renderXmlWith_startTagOpen_ok {s s' : FStack} {node : Tree} {parent : Option Tree} {name : Nat}
    {tok : OutputToken} (h : renderXmlWith esc env pr s node parent (.startTagOpen name) = .ok (s', tok)) :
    ∃ p, (s.push node.nsDecls).elementPrefix env name = .ok p ∧ s' = s.push node.nsDecls ∧
      tok = ⟨false, fmt Gen.fmtStartTagOpen [qname env p name]⟩ ∧
      ¬ (env.nsOfName name = Env.noNamespace ∧ (s.push node.nsDecls).hasDefaultNamespace = true) := by
  simp only [renderXmlWith] at h
  split at h
  · cases h
  · rename_i hc
    unfold FStack.elementFullname at h
    cases hp : (s.push node.nsDecls).elementPrefix env name with
    | error e => simp [hp] at h
    | ok p =>
      simp only [hp, Outcome.ok.injEq, Prod.mk.injEq] at h
      exact ⟨p, rfl, h.1.symm, h.2.symm, fun hh => hc (by simp [hh.1, hh.2])⟩

/-- A `StartTagOpen` that is rendered pushes the element's declarations, and the element is not a no-namespace
    element inside the scope of a default namespace (`has_default_namespace` after the push). -/
theorem stepStack_open (s s' : FStack) (p : Path) (name : Nat) (node : Tree) (hn : t.at? p = some node)
    (h : stepStack esc env pr t s (p, .startTagOpen name) = some s') :
    s' = s.push node.nsDecls ∧
      ¬ (env.nsOfName name = Env.noNamespace ∧ (s.push node.nsDecls).hasDefaultNamespace = true) := by
  obtain ⟨node', tok, hn', hr⟩ := stepStack_some esc env pr t s s' p _ h
  rw [hn] at hn'
  cases hn'
  obtain ⟨_, _, hs, _, hd⟩ := renderXmlWith_startTagOpen_ok esc env pr hr
  exact ⟨hs, hd⟩

theorem stepStack_end (s s' : FStack) (p : Path) (name : Nat) (node : Tree) (hn : t.at? p = some node)
    (h : stepStack esc env pr t s (p, .endTag name) = some s') : s' = s.pop node.hasNsDecls := by
  obtain ⟨node', tok, hn', hr⟩ := stepStack_some esc env pr t s s' p _ h
  rw [hn] at hn'
  cases hn'
  simp only [renderXmlWith] at hr
  split at hr
  · split at hr
    · simp only [Outcome.ok.injEq, Prod.mk.injEq] at hr; exact hr.1.symm
    · cases hr
  · simp only [Outcome.ok.injEq, Prod.mk.injEq] at hr; exact hr.1.symm

theorem neutral_run (s : FStack) (evs : List (Path × Output))
    (hall : ∀ po ∈ evs, po.2.isNeutral = true) :
    (∀ x ∈ stackTrace esc env pr t s evs, x.1 = s ∧ (x.2.1, x.2.2) ∈ evs) ∧
    (∀ s', runStack esc env pr t s evs = some s' → s' = s) := by
  induction evs with
  | nil => simp [stackTrace, runStack]
  | cons po evs ih =>
    obtain ⟨ih1, ih2⟩ := ih (fun q hq => hall q (by simp [hq]))
    have hpo := hall po (by simp)
    simp only [stackTrace, runStack, List.mem_cons]
    cases hs : stepStack esc env pr t s po with
    | none => simp
    | some s1 =>
      have : s1 = s := stepStack_neutral esc env pr t s s1 po.1 po.2 hpo hs
      subst this
      refine ⟨?_, fun s' h => ih2 s' h⟩
      rintro x (rfl | hx)
      · simp
      · exact ⟨(ih1 x hx).1, Or.inr (ih1 x hx).2⟩

theorem declEvents_neutral (inScope : List (Nat × Nat)) (isTop : Bool) (path : Path) (n : Tree) :
    ∀ po ∈ declEvents inScope isTop path n, po.2.isNeutral = true := by
  intro po hpo
  have h := (declEvents_isDecl inScope isTop path n po hpo).2
  cases hpo2 : po.2 <;> first | rfl | (rw [hpo2] at h; cases h)

/-! ### Frames of the open elements -/

/-- What an open node contributes to the scope: an element its declarations, anything else nothing. -/
def frameOf (n : Tree) : List (Nat × Nat) :=
  match n.value with
  | .element _ => n.nsDecls
  | _ => []

/-- Frames of the nodes from `n` down to the node at `rel` (both included), innermost first. -/
def framesAlong : Tree → Path → Frames
  | n, [] => [frameOf n]
  | n, i :: rel =>
    match n.kids[i]? with
    | some k => framesAlong k rel ++ [frameOf n]
    | none => [frameOf n]

/-- Before `StartTagOpen` the node's own frame is not pushed yet. -/
def framesFor (o : Output) (fs : Frames) : Frames :=
  match o with
  | .startTagOpen _ => fs.tail
  | _ => fs

theorem framesAlong_ne_nil (n : Tree) (rel : Path) : framesAlong n rel ≠ [] := by
  cases rel with
  | nil => simp [framesAlong]
  | cons i rel =>
    simp only [framesAlong]
    split <;> simp

theorem framesFor_append (o : Output) (n : Tree) (rel : Path) (extra : Frames) :
    framesFor o (framesAlong n rel ++ extra) = framesFor o (framesAlong n rel) ++ extra := by
  cases o <;> simp [framesFor, List.tail_append_of_ne_nil (framesAlong_ne_nil n rel)]

/-- Every element at or below `n` declares no prefix twice. -/
def UniqueBelow (n : Tree) : Prop := ∀ rel n', n.at? rel = some n' → UniquePrefixes (frameOf n')

theorem UniqueBelow.kid {v : Value} {ks : List Tree} (h : UniqueBelow (.node v ks)) {i : Nat} {k : Tree}
    (hk : ks[i]? = some k) : UniqueBelow k := by
  intro rel n' hn
  apply h (i :: rel) n'
  rw [at?_cons, hk]
  exact hn

theorem UniqueBelow.sub {t : Tree} (h : UniqueBelow t) {path : Path} {n : Tree} (hat : t.at? path = some n) :
    UniqueBelow n :=
  fun rel n' hn => h (path ++ rel) n' (by rw [at?_append, hat]; exact hn)

end XotModel
