/-
  Every text `parse_content` accepts IS the rendering of a well-spelled piece list: the converse of
  `parse_pieces` (Lemmas/ParseContent.lean).  Completeness of `WellNsDoc` (Lemmas/ParseNsComplete.lean) and
  the independence of the value from the byte positions (Lemmas/ParseErase.lean) rest on it.
-/
import XotModel.Lemmas.ParseContent

namespace XotModel
open Gen

/-! ### Digits read back -/

/-- The three digit ranges of `char::to_digit`. -/
theorem digitVal_inv {r : Nat} {c : Char} {d : Nat} (h : digitVal r c = some d) :
    d < r ∧ ((48 ≤ c.toNat ∧ c.toNat ≤ 57 ∧ d = c.toNat - 48) ∨ (97 ≤ c.toNat ∧ c.toNat ≤ 122 ∧ d = c.toNat - 97 + 10) ∨
      (65 ≤ c.toNat ∧ c.toNat ≤ 90 ∧ d = c.toNat - 65 + 10)) := by
  unfold digitVal at h
  dsimp only at h
  split at h
  · rename_i v hv
    split at h
    · rename_i hlt
      cases h
      refine ⟨hlt, ?_⟩
      split at hv
      · rename_i hr; cases hv; exact .inl ⟨hr.1, hr.2, rfl⟩
      · split at hv
        · rename_i hr; cases hv; exact .inr (.inl ⟨hr.1, hr.2, rfl⟩)
        · split at hv
          · rename_i hr; cases hv; exact .inr (.inr ⟨hr.1, hr.2, rfl⟩)
          · cases hv
    · cases h
  · cases h

theorem digitVal_dec_inv {c : Char} {d : Nat} (h : digitVal 10 c = some d) : d < 10 ∧ decChar d = c := by
  obtain ⟨hlt, ⟨h1, h2, rfl⟩ | ⟨h1, _, rfl⟩ | ⟨h1, _, rfl⟩⟩ := digitVal_inv h
  · refine ⟨hlt, ?_⟩
    unfold decChar
    rw [show 48 + (c.toNat - 48) = c.toNat by omega]; exact Char.ofNat_toNat c
  · omega
  · omega

theorem digitVal_hex_inv {c : Char} {d : Nat} (h : digitVal 16 c = some d) :
    d < 16 ∧ ∃ up, hexChar (d, up) = c := by
  obtain ⟨hlt, ⟨h1, h2, rfl⟩ | ⟨h1, _, rfl⟩ | ⟨h1, _, rfl⟩⟩ := digitVal_inv h
  · refine ⟨hlt, false, ?_⟩
    unfold hexChar
    rw [if_pos (by omega), show 48 + (c.toNat - 48) = c.toNat by omega]; exact Char.ofNat_toNat c
  · refine ⟨hlt, false, ?_⟩
    unfold hexChar
    rw [if_neg (by omega), if_neg Bool.false_ne_true, show 87 + (c.toNat - 97 + 10) = c.toNat by omega]
    exact Char.ofNat_toNat c
  · refine ⟨hlt, true, ?_⟩
    unfold hexChar
    rw [if_neg (by omega), if_pos rfl, show 55 + (c.toNat - 65 + 10) = c.toNat by omega]
    exact Char.ofNat_toNat c
/-- A digit string that parses is written with digits; `ch` writes the digit `a` of value `val a`. -/
theorem parseDigits_inv {α : Type} (radix : Nat) (val : α → Nat) (ch : α → Char)
    (hinv : ∀ {c d}, digitVal radix c = some d → ∃ a, val a = d ∧ d < radix ∧ ch a = c) :
    ∀ (s : Str) (acc n : Nat), parseDigits radix acc s = some n →
      ∃ ds : List α, ds.map ch = s ∧ (∀ a ∈ ds, val a < radix) ∧ evalDigits radix acc (ds.map val) = n
  | [], _, _, h => ⟨[], rfl, nofun, Option.some.inj h⟩
  | c :: cs, acc, n, h => by
    simp only [parseDigits] at h
    cases hd : digitVal radix c with
    | none => simp [hd] at h
    | some d =>
      simp only [hd] at h
      split at h
      · obtain ⟨ds, h1, h2, h3⟩ := parseDigits_inv radix val ch hinv cs _ n h
        obtain ⟨a, rfl, hlt, hch⟩ := hinv hd
        exact ⟨a :: ds, by rw [List.map_cons, h1, hch], List.forall_mem_cons.2 ⟨hlt, h2⟩, h3⟩
      · cases h

/-- A reference `&ent;` that decodes is the rendering of one well-spelled piece. -/
theorem decodeEntity_piece {ent : Str} {ch : Char} (hsemi : ';' ∉ ent) (h : decodeEntity ent = some ch) :
    ∃ p : Piece, p.ok ∧ p ≠ .cr ∧ renderPiece p = '&' :: (ent ++ [';']) := by
  unfold decodeEntity at h
  split at h
  · rename_i num
    split at h
    · cases h
    · rename_i hex
      -- hexadecimal
      cases hp : parseU32 16 hex with
      | none => simp [hp] at h
      | some n =>
        simp only [hp, Option.bind_some] at h
        unfold parseU32 at hp
        split at hp
        · cases hp
        · rename_i hne
          obtain ⟨ds, h1, h2, h3⟩ := parseDigits_inv 16 Prod.fst hexChar
            (fun hd => have ⟨hlt, up, hch⟩ := digitVal_hex_inv hd; ⟨(_, up), rfl, hlt, hch⟩) hex 0 n hp
          refine ⟨.hex ds, ⟨?_, h2, by rw [h3, h]; rfl⟩, by simp, by simp [renderPiece, h1]⟩
          intro hds; subst hds
          simp only [List.map_nil] at h1
          exact hne h1.symm
    · rename_i hnil hx
      cases hp : parseU32 10 num with
      | none => simp [hp] at h
      | some n =>
        simp only [hp, Option.bind_some] at h
        unfold parseU32 at hp
        split at hp
        · cases hp
        · rename_i hne
          obtain ⟨ds, h1, h2, h3⟩ := parseDigits_inv 10 id decChar (fun hd => ⟨_, rfl, digitVal_dec_inv hd⟩) num 0 n hp
          rw [List.map_id] at h3
          refine ⟨.dec ds, ⟨?_, h2, by rw [h3, h]; rfl⟩, by simp, by simp [renderPiece, h1]⟩
          intro hds; subst hds
          simp only [List.map_nil] at h1
          exact hne h1.symm
  · rename_i hns
    refine ⟨.named ent, ⟨hsemi, fun r hr => hns r hr, by rw [h]; rfl⟩, by simp, by simp [renderPiece]⟩

/-- Whatever `parse_content` accepts is the rendering of a well-spelled piece list. -/
theorem parseContentGo_pieces (attr : Bool) (base : Nat) : ∀ (n : Nat) (s : Str), s.length ≤ n →
    ∀ pos v, parseContentGo attr base pos s = .ok v → ∃ ps, WellSpelled ps ∧ renderPieces ps = s := by
  intro n
  induction n with
  | zero =>
    intro s hs pos v _
    have : s = [] := List.eq_nil_of_length_eq_zero (by omega)
    subst this
    exact ⟨[], trivial, rfl⟩
  | succ n ih =>
    intro s hs pos v h
    cases s with
    | nil => exact ⟨[], trivial, rfl⟩
    | cons c rest =>
      have hlen : rest.length ≤ n := by simpa using hs
      rw [parseContentGo.eq_def] at h
      simp only at h
      split at h
      · -- CR
        rename_i hc
        subst hc
        obtain ⟨v', hv', _⟩ := consOk_ok h
        have hl2 : (skipLf rest).length ≤ n := Nat.le_trans (skipLf_length rest) hlen
        obtain ⟨ps, hw, hr⟩ := ih _ hl2 _ _ hv'
        cases rest with
        | nil =>
          refine ⟨[.cr], ⟨by simp, trivial⟩, rfl⟩
        | cons d rest' =>
          by_cases hd : d = '\n'
          · subst hd
            simp only [skipLf] at hr
            exact ⟨.crlf :: ps, ⟨trivial, hw⟩, by simp [renderPieces, renderPiece] at hr ⊢; exact hr⟩
          · have hsk : skipLf (d :: rest') = d :: rest' := skipLf_of_ne _ (fun r hr' => hd (by cases hr'; rfl))
            rw [hsk] at hr
            refine ⟨.cr :: ps, ⟨?_, hw⟩, by simp [renderPieces, renderPiece] at hr ⊢; exact hr⟩
            intro hh
            cases ps with
            | nil => cases hh
            | cons p ps' =>
              simp only [List.head?_cons, Option.some.injEq] at hh
              subst hh
              simp [renderPieces, renderPiece] at hr
              exact hd hr.1.symm
      · split at h
        · -- reference
          rename_i hcr hc
          subst hc
          split at h
          · cases h
          · rename_i ent rest' hsplit
            obtain ⟨hrest, hsemi⟩ := splitSemi_spec hsplit
            cases hdec : decodeEntity ent with
            | none => simp [hdec] at h
            | some ch =>
              simp only [hdec] at h
              obtain ⟨v', hv', _⟩ := consOk_ok h
              have hl2 : rest'.length ≤ n := by
                have := splitSemi_length hsplit; omega
              obtain ⟨ps, hw, hr⟩ := ih _ hl2 _ _ hv'
              obtain ⟨p, hpok, hpcr, hpr⟩ := decodeEntity_piece hsemi hdec
              refine ⟨p :: ps, wellSpelled_cons hpcr hpok hw, ?_⟩
              simp only [renderPieces, List.flatMap_cons] at hr ⊢
              rw [hpr, hr, hrest]
              simp
        · rename_i hcr hamp
          have hlit : WellSpelled [Piece.lit c] := ⟨⟨hamp, hcr⟩, trivial⟩
          split at h
          all_goals
            obtain ⟨v', hv', _⟩ := consOk_ok h
            obtain ⟨ps, hw, hr⟩ := ih _ hlen _ _ hv'
            exact ⟨.lit c :: ps, ⟨⟨hamp, hcr⟩, hw⟩, by simp [renderPieces, renderPiece] at hr ⊢; exact hr⟩

theorem parseContentGo_ok_pieces {attr : Bool} {base pos : Nat} {s v : Str}
    (h : parseContentGo attr base pos s = .ok v) : ∃ ps, WellSpelled ps ∧ renderPieces ps = s :=
  parseContentGo_pieces attr base s.length s (Nat.le_refl _) pos v h

end XotModel
