/-
  The ghost flag `everOff` ("has consolidation ever been switched off?") is read by
  no manipulation function and by no specification: switching it on (`Forest.off`) commutes with
  all of them.  `Forest.Inv` of `f.off` needs non-strict validity only, so a statement proved for
  every forest with `Forest.Inv` can be used for an INTERMEDIATE forest of a composite call
  (`replace` after `remove_subtree`: the two neighbours of the removed node may be adjacent text
  nodes although consolidation was never switched off).
-/
import XotModel.Lemmas.FspecMoveCalls
import XotModel.Model.FspecSpec4

namespace XotModel

/-- The same store with the ghost flag set to `b`. -/
def Forest.withOff (f : Forest) (b : Bool) : Forest := { f with everOff := b }

/-- The same store with the ghost flag set. -/
abbrev Forest.off (f : Forest) : Forest := f.withOff true

namespace Forest
variable (e : Bool)

theorem off_get? (f : Forest) (h : Nat) : (f.withOff e).get? h = f.get? h := rfl
theorem off_ctx? (f : Forest) (h : Nat) : (f.withOff e).ctx? h = f.ctx? h := rfl
theorem off_parent? (f : Forest) (h : Nat) : (f.withOff e).parent? h = f.parent? h := rfl
theorem off_roots (f : Forest) : (f.withOff e).roots = f.roots := rfl
theorem off_consolidation (f : Forest) : (f.withOff e).consolidation = f.consolidation := rfl
theorem off_everOff (f : Forest) : (f.withOff e).everOff = e := rfl
theorem off_isRoot (f : Forest) (h : Nat) : (f.withOff e).isRoot h = f.isRoot h := rfl
theorem off_textOf (f : Forest) (h : Nat) : (f.withOff e).textOf h = f.textOf h := rfl
theorem off_prevSibling (f : Forest) (h : Nat) : (f.withOff e).prevSibling h = f.prevSibling h := rfl
theorem off_nextSibling (f : Forest) (h : Nat) : (f.withOff e).nextSibling h = f.nextSibling h := rfl
theorem off_firstChild (f : Forest) (h : Nat) : (f.withOff e).firstChild h = f.firstChild h := rfl
theorem off_lastChild (f : Forest) (h : Nat) : (f.withOff e).lastChild h = f.lastChild h := rfl
theorem off_ancestors (f : Forest) (h : Nat) : (f.withOff e).ancestors h = f.ancestors h := rfl
theorem off_structureCheck (f : Forest) (p : Option Nat) (c : Nat) :
    (f.withOff e).structureCheck p c = f.structureCheck p c := rfl
theorem off_siblingReferenceCheck (f : Forest) (r c : Nat) :
    (f.withOff e).siblingReferenceCheck r c = f.siblingReferenceCheck r c := rfl
theorem off_prependPoint (f : Forest) (p : Nat) : (f.withOff e).prependPoint p = f.prependPoint p := rfl
theorem off_setValue (f : Forest) (h : Nat) (v : Value) : (f.withOff e).setValue h v = ((f.setValue h v).withOff e) := rfl
theorem off_placeAfter (f : Forest) (r : Nat) (t : HTree) : (f.withOff e).placeAfter r t = ((f.placeAfter r t).withOff e) := rfl
theorem off_placeFirst (f : Forest) (p : Nat) (t : HTree) : (f.withOff e).placeFirst p t = ((f.placeFirst p t).withOff e) := rfl
theorem off_editAt (f : Forest) (s : Option Nat) (g : List HTree → List HTree) :
    (f.withOff e).editAt s g = ((f.editAt s g).withOff e) := by
  cases s <;> rfl
theorem off_kidsOf (f : Forest) (p : Nat) : (f.withOff e).kidsOf p = f.kidsOf p := rfl
theorem off_nbOf (f : Forest) (n : Nat) : (f.withOff e).nbOf n = f.nbOf n := rfl

theorem withOff_self (f : Forest) : f.withOff f.everOff = f := rfl

theorem off_inj {X Y : Forest} (h : (X.withOff e) = (Y.withOff e)) (he : X.everOff = Y.everOff) : X = Y := by
  cases X; cases Y
  simp only [withOff, Forest.mk.injEq] at h
  simp only at he
  simp [h, he]

theorem off_inv {f : Forest} (inv : f.Inv) : f.off.Inv := by
  refine ⟨inv.notCorrupt, inv.nodup, inv.below, ?_, Or.inr rfl⟩
  show validList (!true) f.roots = true
  have := inv.valid
  cases h : f.everOff with
  | true => rw [h] at this; exact this
  | false => rw [h] at this; exact validList_weaken _ this

theorem ite_withOff {c : Prop} [Decidable c] {X' Y' X Y : Forest} (hx : X' = X.withOff e) (hy : Y' = Y.withOff e) :
    (if c then X' else Y') = (if c then X else Y).withOff e := by
  subst hx hy
  split <;> rfl

theorem ite_withOff_fst {α : Type} {c : Prop} [Decidable c] {X' Y' X Y : Forest × α}
    (hx : X' = (X.1.withOff e, X.2)) (hy : Y' = (Y.1.withOff e, Y.2)) :
    (if c then X' else Y') = ((if c then X else Y).1.withOff e, (if c then X else Y).2) := by
  subst hx hy
  split <;> rfl

theorem off_spliceOut (f : Forest) (h : Nat) : (f.withOff e).spliceOut h = ((f.spliceOut h).withOff e) := by
  unfold spliceOut
  rw [off_get?]
  cases f.get? h with
  | none => rfl
  | some t => exact ite_withOff e (ite_withOff e rfl rfl) rfl

theorem off_cut (f : Forest) (h : Nat) : (f.withOff e).cut h = (((f.cut h).1.withOff e), (f.cut h).2) := by
  unfold cut
  rw [off_get?]
  cases f.get? h with
  | none => rfl
  | some t =>
    exact ite_withOff_fst e rfl rfl

theorem off_dropSubtree (f : Forest) (h : Nat) : (f.withOff e).dropSubtree h = ((f.dropSubtree h).withOff e) := by
  unfold dropSubtree
  rw [off_cut]

theorem off_removeConsolidate (f : Forest) (a b : Option Nat) :
    (f.withOff e).removeConsolidate a b = (((f.removeConsolidate a b).1.withOff e), (f.removeConsolidate a b).2) := by
  unfold removeConsolidate
  refine ite_withOff_fst e rfl ?_
  cases a <;> cases b <;> try rfl
  rename_i p n
  simp only [off_textOf]
  cases f.textOf p <;> cases f.textOf n <;> try rfl
  simp only [off_setValue, off_spliceOut]

theorem off_addConsolidate (f : Forest) (node : Nat) (a b : Option Nat) :
    (f.withOff e).addConsolidate node a b = (((f.addConsolidate node a b).1.withOff e), (f.addConsolidate node a b).2) := by
  unfold addConsolidate
  refine ite_withOff_fst e rfl ?_
  · simp only [off_textOf, off_prevSibling, off_nextSibling]
    cases f.textOf node with
    | none => rfl
    | some added =>
      simp only
      generalize (if a == some node then f.prevSibling node else a) = a'
      generalize (if b == some node then f.nextSibling node else b) = b'
      cases a' with
      | none =>
        simp only
        cases b' with
        | none => rfl
        | some n =>
          simp only
          cases f.textOf n <;> simp only [off_setValue, off_spliceOut]
      | some p =>
        simp only
        cases f.textOf p with
        | some ps => simp only [off_setValue, off_spliceOut]
        | none =>
          simp only
          cases b' with
          | none => rfl
          | some n =>
            simp only
            cases f.textOf n <;> simp only [off_setValue, off_spliceOut]

theorem off_checkedInsertAfter (f : Forest) (r n : Nat) :
    (f.withOff e).checkedInsertAfter r n = (((f.checkedInsertAfter r n).1.withOff e), (f.checkedInsertAfter r n).2) := by
  unfold checkedInsertAfter
  refine ite_withOff_fst e rfl (ite_withOff_fst e rfl ?_)
  rw [off_cut]
  cases h : f.cut n with
  | mk f' o => cases o <;> rfl

theorem off_checkedPrepend (f : Forest) (p c : Nat) :
    (f.withOff e).checkedPrepend p c = (((f.checkedPrepend p c).1.withOff e), (f.checkedPrepend p c).2) := by
  unfold checkedPrepend
  refine ite_withOff_fst e rfl ?_
  rw [off_cut]
  cases h : f.cut c with
  | mk f' o => cases o <;> rfl

end Forest

namespace Forest
variable (e : Bool)

/-- The common tail of the moves, given that its three parameters do not read the ghost flag. -/
theorem off_moveTail (f : Forest) (c : Nat) {prev next : Forest → Option Nat} {k : Forest → Forest × Bool}
    (hprev : ∀ g, prev (g.withOff e) = prev g) (hnext : ∀ g, next (g.withOff e) = next g)
    (hk : ∀ g, k (g.withOff e) = ((k g).1.withOff e, (k g).2)) :
    (f.withOff e).moveTail c prev next k =
      ((f.moveTail c prev next k).1.withOff e, (f.moveTail c prev next k).2) := by
  unfold moveTail afterOldSite
  simp only [off_prevSibling, off_nextSibling, off_removeConsolidate, hprev, hnext, off_addConsolidate, hk]
  exact ite_withOff_fst e rfl (ite_withOff_fst e rfl rfl)

theorem off_insertAfterRef (f : Forest) (ref c : Nat) : (f.withOff e).insertAfterRef ref c = f.insertAfterRef ref c := by
  unfold insertAfterRef
  simp only [off_prevSibling, off_nextSibling, off_removeConsolidate]

theorem off_insertAfter (f : Forest) (r c : Nat) :
    (f.withOff e).insertAfter r c = (((f.insertAfter r c).1.withOff e), (f.insertAfter r c).2) := by
  rw [insertAfter_eq, insertAfter_eq]
  simp only [off_structureCheck, off_parent?, off_siblingReferenceCheck, off_nextSibling, off_insertAfterRef]
  exact ite_withOff_fst e rfl (ite_withOff_fst e rfl (ite_withOff_fst e rfl
    (off_moveTail e f c (fun _ => rfl) (fun g => off_nextSibling e g _) (fun g => off_checkedInsertAfter e g _ _))))

theorem off_prepend (f : Forest) (p c : Nat) :
    (f.withOff e).prepend p c = (((f.prepend p c).1.withOff e), (f.prepend p c).2) := by
  rw [prepend_eq, prepend_eq]
  simp only [off_structureCheck, off_firstChild]
  refine ite_withOff_fst e rfl (ite_withOff_fst e rfl
    (off_moveTail e f c (fun _ => rfl) (fun g => off_firstChild e g _) (fun g => ?_)))
  simp only [off_prependPoint]
  cases g.prependPoint p with
  | none => exact off_checkedPrepend e g p c
  | some ip => exact off_checkedInsertAfter e g ip c

/-! ### The specifications -/

theorem off_mergeLeftAt (f : Forest) (s : Option Nat) (nb : Option Nat × Option Nat) :
    (f.withOff e).mergeLeftAt s nb = ((f.mergeLeftAt s nb).withOff e) := by
  obtain ⟨a, b⟩ := nb
  cases s <;> cases a <;> cases b <;> try rfl
  simp only [mergeLeftAt, off_editAt]
  exact ite_withOff e rfl rfl

theorem off_mergeNewAt (f : Forest) (q n : Nat) : (f.withOff e).mergeNewAt q n = ((f.mergeNewAt q n).withOff e) := by
  simp only [mergeNewAt, off_editAt]
  exact ite_withOff e rfl rfl

end Forest

theorem Spec.off_specMoveP (e : Bool) (dest : Dest) (c : Nat) (f : Forest) :
    Spec.specMoveP dest c (f.withOff e) = ((Spec.specMoveP dest c f).withOff e) := by
  unfold Spec.specMoveP
  have h1 : dest.occupiedBy (f.withOff e) c = dest.occupiedBy f c := by cases dest <;> rfl
  have h2 : dest.site (f.withOff e) = dest.site f := by cases dest <;> rfl
  rw [h1, h2, Forest.off_get?]
  split
  · rfl
  · cases f.get? c with
    | none => rfl
    | some t =>
      cases dest.site f with
      | none => rfl
      | some q =>
        simp only [Forest.off_parent?, Forest.off_nbOf, Forest.off_editAt, Forest.off_mergeLeftAt,
          Forest.off_mergeNewAt]

end XotModel

namespace XotModel
namespace Forest

/-! ### The ghost flag is carried along unchanged -/

theorem insertAfter_everOff (f : Forest) (r c : Nat) : (f.insertAfter r c).1.everOff = f.everOff :=
  congrArg (·.1.everOff) (off_insertAfter f.everOff f r c)

theorem prepend_everOff (f : Forest) (p c : Nat) : (f.prepend p c).1.everOff = f.everOff :=
  congrArg (·.1.everOff) (off_prepend f.everOff f p c)

theorem dropSubtree_everOff (f : Forest) (a : Nat) : (f.dropSubtree a).everOff = f.everOff :=
  (congrArg Forest.everOff (off_dropSubtree f.everOff f a) :)

theorem removeConsolidate_everOff (f : Forest) (a b : Option Nat) :
    (f.removeConsolidate a b).1.everOff = f.everOff :=
  congrArg (·.1.everOff) (off_removeConsolidate f.everOff f a b)

theorem mergeLeftAt_everOff (f : Forest) (s : Option Nat) (nb : Option Nat × Option Nat) :
    (f.mergeLeftAt s nb).everOff = f.everOff :=
  (congrArg Forest.everOff (off_mergeLeftAt f.everOff f s nb) :)

theorem mergeNewAt_everOff (f : Forest) (q n : Nat) : (f.mergeNewAt q n).everOff = f.everOff :=
  (congrArg Forest.everOff (off_mergeNewAt f.everOff f q n) :)

theorem editAt_everOff (f : Forest) (s : Option Nat) (g : List HTree → List HTree) :
    (f.editAt s g).everOff = f.everOff := by
  cases s <;> rfl

end Forest

theorem Spec.specMoveP_everOff (dest : Dest) (c : Nat) (f : Forest) :
    (Spec.specMoveP dest c f).everOff = f.everOff :=
  (congrArg Forest.everOff (Spec.off_specMoveP f.everOff dest c f) :)

end XotModel
