/-
  Completeness of `WellNsDoc`: from the success of the builder on a token list the spelling is reconstructed
  — a start tag the builder accepts, the pieces that concern one node, the induction over the length of the
  token list, the parse entry points. `build_accepts_iff`: `build` succeeds exactly on the token lists of
  well-formed spellings.
-/
import XotModel.Lemmas.ParseNsNodes
import XotModel.Lemmas.ParseContentConverse
import XotModel.Lemmas.ParseNs
import XotModel.Model.TokenShape
import XotModel.Lemmas.ParseErase

/-! ## A start tag the builder accepts

  Accepted attribute tokens are the tokens of well-spelled items; the clauses of `attrsWellNs` are then the
  left-to-right readings of `start_tag_iff` (what the attribute arms test: no reserved declaration, no
  prefix declared twice, no attribute written twice, no bare colon) and of `openElement_ns_iff` (what
  `open_element` tests: every prefix bound, attributes pairwise different by expanded name, no ID value seen
  before), Lemmas/ParseNsNodes.
-/

namespace XotModel

def Token.isAttrTok : Token → Bool
  | .attribute _ _ _ _ => true
  | _ => false

theorem attrTok_item {b b1 : Builder} {pfx loc value sp : StrSpan} (h : b.step (.attribute pfx loc value sp) = .ok b1) :
    ∃ a : NSAttr, a.token = .attribute pfx loc value sp ∧ WellSpelled a.pieces := by
  have hq := Builder.step_ok_prefixOk h
  simp only [Token.prefixOk, Bool.not_eq_true'] at hq
  rw [step_attribute_eq b ⟨pfx, loc, [], value.start, sp⟩ value sp hq] at h
  -- both arms decode the value first
  have hv : ∃ u, parseContentGo true value.start 0 value.text = .ok u := by
    split at h
    · obtain ⟨u, _, hu, _⟩ := Builder.prefix_ok_inv h; exact ⟨u, hu⟩
    · obtain ⟨_, u, _, _, hu, _⟩ := Builder.attribute_ok_inv h; exact ⟨u, hu⟩
  obtain ⟨u, hu⟩ := hv
  obtain ⟨ps, hw, hr⟩ := parseContentGo_ok_pieces hu
  exact ⟨⟨pfx, loc, ps, value.start, sp⟩, by simp only [NSAttr.token, hr], hw⟩

theorem attrToks_items : ∀ (toks : List Token), (∀ t ∈ toks, t.isAttrTok = true) → ∀ {b b1 : Builder},
    b.steps toks = .ok b1 → ∃ attrs : List NSAttr, attrs.map NSAttr.token = toks ∧ ∀ a ∈ attrs, WellSpelled a.pieces
  | [], _, _, _, _ => ⟨[], rfl, fun _ h => nomatch h⟩
  | t :: toks, hall, b, b1, h => by
    obtain ⟨b2, hs, h2⟩ := Builder.steps_cons_iff.1 h
    obtain ⟨attrs, h1, hw⟩ := attrToks_items toks (fun x hx => hall x (List.mem_cons_of_mem _ hx)) h2
    cases t with
    | «attribute» pfx loc value sp =>
      obtain ⟨a, ha, hwa⟩ := attrTok_item hs
      exact ⟨a :: attrs, by rw [List.map_cons, ha, h1], List.forall_mem_cons.2 ⟨hwa, hw⟩⟩
    | _ => exact nomatch hall _ List.mem_cons_self

end XotModel

/-! ## One node

  The shape of a start tag's token run (`TagsOk`), runs of character data, the end tag — and the
  common tail of the induction (`complete_cons`): once the first node of a token list is known to
  be a well-formed spelling, soundness (`sim_node_ns`) gives the builder state after it.
-/

namespace XotModel

/-- The guard of the completeness theorem on single tokens: no EMPTY text token (the tokenizer
    never emits one — `Token.Spelled` — but the builder would make an empty text node of it, which
    no spelling denotes) and no XML declaration (the builder skips a version-1.0 declaration
    wherever it stands; the theorem is stated on the list without them). -/
def Token.plain : Token → Bool
  | .text t => !t.text.isEmpty
  | .declaration _ _ _ _ => false
  | _ => true

/-! ### The token run of a start tag -/

/-- After an element start: attribute tokens, then `>` or `/>` — or the list ends inside the tag. -/
theorem tagsOk_true_split : ∀ (ts : List Token), TagsOk true ts →
    (∃ toks e endSp rest, ts = toks ++ .elementEnd e endSp :: rest ∧ (∀ t ∈ toks, t.isAttrTok = true) ∧
      (e = .open ∨ e = .empty) ∧ TagsOk false rest) ∨ (∀ t ∈ ts, t.isAttrTok = true)
  | [], _ => Or.inr (fun _ h => by cases h)
  | t :: ts, h => by
    cases t with
    | «attribute» p l v sp =>
      simp only [TagsOk] at h
      rcases tagsOk_true_split ts h with ⟨toks, e, endSp, rest, h1, h2, h3, h4⟩ | h2
      · left
        refine ⟨.attribute p l v sp :: toks, e, endSp, rest, by rw [h1]; rfl, ?_, h3, h4⟩
        intro t ht
        simp only [List.mem_cons] at ht
        rcases ht with rfl | ht
        · rfl
        · exact h2 t ht
      · right
        intro t ht
        simp only [List.mem_cons] at ht
        rcases ht with rfl | ht
        · rfl
        · exact h2 t ht
    | elementEnd e sp =>
      cases e with
      | «open» =>
        simp only [TagsOk] at h
        exact Or.inl ⟨[], .open, sp, ts, rfl, fun _ h => (by cases h), Or.inl rfl, h⟩
      | empty =>
        simp only [TagsOk] at h
        exact Or.inl ⟨[], .empty, sp, ts, rfl, fun _ h => (by cases h), Or.inr rfl, h⟩
      | close p l => simp [TagsOk] at h
    | _ => simp [TagsOk] at h

/-- The start tag up to its `>` / `/>`: the items are a spelled start tag that passes the tests of
    the attribute arms, and the builder is in the state `run_start_ns` describes. -/
theorem start_tag_inv {b : Builder} (pfx loc junk : StrSpan) (toks : List Token)
    (hall : ∀ t ∈ toks, t.isAttrTok = true) (tail : List Token)
    (bfin : Builder) (h : b.run (.elementStart pfx loc junk :: (toks ++ tail)) none = .ok bfin) :
    pfx.bareColon = false ∧ ∃ attrs : List NSAttr, attrs.map NSAttr.token = toks ∧
      (∀ a ∈ attrs, WellSpelled a.pieces) ∧ (∀ d ∈ declsOf attrs, reservedDecl d.1 d.2 = false) ∧
      ((declsOf attrs).map Prod.fst).Nodup ∧
      ((ordinary attrs).map (fun a => (a.pfx.text, a.loc.text))).Nodup ∧
      (∀ a ∈ attrs, a.pfx.bareColon = false) ∧
      Builder.run (b.tagRead pfx loc attrs) tail none = .ok bfin := by
  obtain ⟨b1, hsteps, hrun⟩ := Builder.steps_of_run_ok (.elementStart pfx loc junk :: toks) (rest := tail) h
  obtain ⟨_, _, h2⟩ := Builder.steps_cons_iff.1 hsteps
  obtain ⟨attrs, h1, hw⟩ := attrToks_items toks hall h2
  rw [← h1] at hsteps
  obtain ⟨hbc, c1, c3, c5, c6, rfl⟩ := (start_tag_iff b pfx loc junk attrs hw b1).1 hsteps
  exact ⟨hbc, attrs, h1, hw, c1, c3, c5, c6, hrun⟩

/-! ### Runs of character data -/

/-- The longest run of character-data tokens at the front. -/
theorem chardata_split : ∀ (ts : List Token), ∃ cs ts', ts = cs ++ ts' ∧ (∀ t ∈ cs, t.isCharData = true) ∧
    (∀ t r, ts' = t :: r → t.isCharData = false)
  | [] => ⟨[], [], rfl, fun _ h => (by cases h), fun _ _ h => (by cases h)⟩
  | t :: ts => by
    cases hcd : t.isCharData with
    | false => exact ⟨[], t :: ts, rfl, fun _ h => (by cases h), fun t' r h => (by cases h; exact hcd)⟩
    | true =>
      obtain ⟨cs, ts', h1, h2, h3⟩ := chardata_split ts
      refine ⟨t :: cs, ts', by rw [h1]; rfl, ?_, h3⟩
      exact List.forall_mem_cons.2 ⟨hcd, h2⟩

theorem tagsOk_chardata_append : ∀ (cs : List Token), (∀ t ∈ cs, t.isCharData = true) → ∀ (ts : List Token),
    TagsOk false (cs ++ ts) → TagsOk false ts
  | [], _, _, h => h
  | t :: cs, hcs, ts, h => by
    have ht := hcs t (by simp)
    have ih := tagsOk_chardata_append cs (fun x hx => hcs x (by simp [hx])) ts
    cases t with
    | text s => simp only [List.cons_append, TagsOk] at h; exact ih h
    | cdata s sp => simp only [List.cons_append, TagsOk] at h; exact ih h
    | _ => simp [Token.isCharData] at ht

theorem run_chardata_inv : ∀ (cs : List Token), (∀ t ∈ cs, t.isCharData = true) → (∀ t ∈ cs, t.plain = true) →
    ∀ (b : Builder) (rest : List Token) (bfin : Builder), b.run (cs ++ rest) none = .ok bfin →
    ∃ parts : List SPart, parts.map SPart.token = cs ∧ ∀ p ∈ parts, p.Well
  | [], _, _, _, _, _, _ => ⟨[], rfl, fun _ h => by cases h⟩
  | t :: cs, hcs, hpl, b, rest, bfin, h => by
    have ht := hcs t (by simp)
    have hp := hpl t (by simp)
    simp only [List.cons_append] at h
    obtain ⟨b1, hstep, hrun1⟩ := run_cons_ok h
    obtain ⟨parts, h1, h2⟩ := run_chardata_inv cs (fun x hx => hcs x (by simp [hx]))
      (fun x hx => hpl x (by simp [hx])) b1 rest bfin hrun1
    cases t with
    | text s =>
      simp only [Builder.step, Builder.text] at hstep
      split at hstep
      · cases hstep
      · rename_i c hc
        obtain ⟨ps, hw, hrp⟩ := parseContentGo_ok_pieces hc
        have hne : ps ≠ [] := by
          intro hps; subst hps
          simp only [renderPieces, List.flatMap_nil] at hrp
          simp [Token.plain, ← hrp] at hp
        refine ⟨.txt ps s.start :: parts, ?_, ?_⟩
        · simp only [List.map_cons, SPart.token, hrp, h1]
        · exact List.forall_mem_cons.2 ⟨⟨hne, hw⟩, h2⟩
    | cdata s sp =>
      refine ⟨.cd s sp :: parts, by simp only [List.map_cons, SPart.token, h1], ?_⟩
      intro p hpm
      simp only [List.mem_cons] at hpm
      rcases hpm with rfl | hpm
      · trivial
      · exact h2 p hpm
    | _ => simp [Token.isCharData] at ht

/-! ### The end tag -/

/-- The end tag of an open element is accepted: it repeats the start tag's name as written. -/
theorem close_inv {b : Builder} {frames : List (List (Str × Str))} (hr : ReadyNs b frames) (wp ns loc : Str)
    (decls : List (Str × Str)) (nattrs : List ((Str × Str) × Str)) (idn0 : List (Str × Path)) (sp0 : SpanMap)
    (ek : Env) (tk : List Tree) (seenk : List Str) (idnk : List (Str × Path)) (spk : SpanMap)
    (hext : EnvApp (b.openedNs wp ns loc decls nattrs idn0 sp0).env ek)
    (cpfx cloc closeSp : StrSpan) (hl : ((flatScope frames).push decls).lookup wp = some ns) {b1 : Builder}
    (h : ((b.openedNs wp ns loc decls nattrs idn0 sp0).emitNs ek tk seenk idnk spk).step
      (.elementEnd (.close cpfx cloc) closeSp) = .ok b1) :
    cpfx.text = wp ∧ cloc.text = loc ∧ cpfx.bareColon = false := by
  have hq := Builder.step_ok_prefixOk h
  simp only [Token.prefixOk, Bool.not_eq_true'] at hq
  have hc := Builder.step_ok_core h
  simp only [Builder.stepCore] at hc
  obtain ⟨hcp, hcn, _⟩ :=
    (closeElement_ns_iff hr wp ns loc decls nattrs idn0 sp0 ek tk seenk idnk spk hext hl cpfx cloc closeSp b1).1 hc
  exact ⟨hcp, hcn, hq⟩

/-! ### The common tail of the induction -/

/-- What the reconstruction finds in a token list `ts`, in the scope of `frames` and with the ID values `seen`
    before it: `ts` begins with the tokens of a well-formed list of sibling spellings (which starts with
    character data only if `ts` does), followed by nothing or by an end tag. -/
def SiblingsAhead (frames : List (List (Str × Str))) (seen : List Str) (ts : List Token) : Prop :=
  ∃ sns rest, ts = NSNode.tokens.tokensList sns ++ rest ∧
    NSNode.Well.wellList (flatScope frames) sns ∧ noAdjCharsNs sns = true ∧
    IdsFresh (NPNode.ids.idsList (NSNode.denote.denoteList (flatScope frames) sns)) seen ∧
    (∀ sn more, sns = sn :: more → sn.isChars = true → ∃ t r, ts = t :: r ∧ t.isCharData = true) ∧
    (rest = [] ∨ ∃ p l sp r, rest = .elementEnd (.close p l) sp :: r) ∧ TagsOk false rest

/-- The statement of the reconstruction for token lists of length at most `n`: from a state
    between two nodes (`ReadyNs`), in an accepted list whose final state is at document level. -/
def CompleteUpTo (n : Nat) : Prop :=
  ∀ (ts : List Token), ts.length ≤ n → TagsOk false ts → (∀ t ∈ ts, t.plain = true) →
  ∀ (b : Builder) (frames : List (List (Str × Str))) (bfin : Builder), ReadyNs b frames →
    (∀ t rest, ts = t :: rest → t.isCharData = true → HeadOk b) →
    bfin.cur.value.isDocument = true →
    b.run ts none = .ok bfin → SiblingsAhead frames b.seenIds ts

/-- Once the first node `k` is known: soundness gives the state after it, the induction hypothesis
    the siblings. -/
theorem complete_cons {n : Nat} (ih : CompleteUpTo n) (k : NSNode) (ts' : List Token) (hlen : ts'.length ≤ n)
    (htags : TagsOk false ts') (hplain : ∀ t ∈ ts', t.plain = true)
    {b : Builder} {frames : List (List (Str × Str))} {bfin : Builder} (hr : ReadyNs b frames)
    (hwk : k.Well (flatScope frames)) (hhead : k.isChars = true → HeadOk b)
    (hidk : IdsFresh (NPNode.ids.idsList (k.denote (flatScope frames))) b.seenIds)
    (hk : k.isChars = true → ∃ t r, k.tokens = t :: r ∧ t.isCharData = true)
    (hnext : k.isChars = true → ∀ t r, ts' = t :: r → t.isCharData = false)
    (hdoc : bfin.cur.value.isDocument = true) (hrun : b.run (k.tokens ++ ts') none = .ok bfin) :
    SiblingsAhead frames b.seenIds (k.tokens ++ ts') := by
  obtain ⟨hsimk, hheadk⟩ := sim_node_ns k frames hwk b hr hhead hidk
  obtain ⟨idn1, sp1, h1⟩ := hsimk ts' none
  rw [h1] at hrun
  have hext1 := encodeNsList_app (k.denote (flatScope frames)) b.env
  have hr1 := hr.emitNs hext1 (NPNode.encode.encodeList b.env (k.denote (flatScope frames))).2
    ((NPNode.ids.idsList (k.denote (flatScope frames))).reverse ++ b.seenIds) idn1 sp1
  obtain ⟨sns', rest, e1, e2, e3, e4, e5, e6, e7⟩ := ih ts' hlen htags hplain _ frames bfin hr1
    (by
      intro t r hts hcd
      cases hkc : k.isChars with
      | true => have := hnext hkc t r hts; rw [hcd] at this; cases this
      | false => exact hheadk hkc _ idn1 sp1)
    hdoc hrun
  refine ⟨k :: sns', rest, ?_, ⟨hwk, e2⟩, ?_, ?_, ?_, e6, e7⟩
  · simp only [NSNode.tokens.tokensList, List.append_assoc]; rw [← e1]
  · cases sns' with
    | nil => rfl
    | cons s2 more =>
      simp only [noAdjCharsNs, Bool.and_eq_true, Bool.not_eq_true', Bool.and_eq_false_iff]
      refine ⟨?_, e3⟩
      cases hkc : k.isChars with
      | false => exact Or.inl rfl
      | true =>
        right
        cases hs2 : s2.isChars with
        | false => rfl
        | true =>
          obtain ⟨t, r, hts, hcd⟩ := e5 s2 more rfl hs2
          have := hnext hkc t r hts
          rw [hcd] at this; cases this
  · simp only [NSNode.denote.denoteList, idsList_append]
    exact hidk.join e4
  · intro sn more hsn hc
    simp only [List.cons.injEq] at hsn
    obtain ⟨rfl, _⟩ := hsn
    obtain ⟨t, r, hkt, hcd⟩ := hk hc
    exact ⟨t, r ++ ts', by rw [hkt]; rfl, hcd⟩

/-- … for a node `k` that is no character data, at the head of the list `ts`. -/
theorem complete_node {n : Nat} (ih : CompleteUpTo n) (k : NSNode) (hkc : k.isChars = false) {ts ts' : List Token}
    (htok : k.tokens ++ ts' = ts) (hlen : ts'.length ≤ n) (htags : TagsOk false ts')
    (hplain : ∀ t ∈ ts', t.plain = true) {b : Builder} {frames : List (List (Str × Str))} {bfin : Builder}
    (hr : ReadyNs b frames) (hwk : k.Well (flatScope frames))
    (hidk : IdsFresh (NPNode.ids.idsList (k.denote (flatScope frames))) b.seenIds)
    (hdoc : bfin.cur.value.isDocument = true) (hrun : b.run ts none = .ok bfin) :
    SiblingsAhead frames b.seenIds ts := by
  subst htok
  exact complete_cons ih k ts' hlen htags hplain hr hwk (fun h => nomatch hkc.symm.trans h) hidk
    (fun h => nomatch hkc.symm.trans h) (fun h => nomatch hkc.symm.trans h) hdoc hrun

end XotModel

/-! ## The token list

  By induction over the length of the token list (the builder's loop): an accepted list begins with the
  tokens of a well-formed list of sibling spellings.
-/

namespace XotModel

/-- `>` or `/>` was accepted: `open_element` succeeded. -/
theorem endtok_open_inv {b b2 : Builder} {e : ElementEnd} {sp : StrSpan} (he : e = .open ∨ e = .empty)
    (h : b.step (.elementEnd e sp) = .ok b2) : ∃ b3, b.openElement = .ok b3 := by
  rcases he with rfl | rfl
  · exact ⟨b2, by simpa only [Builder.step] using h⟩
  · simp only [Builder.step] at h
    cases hb : b.openElement with
    | ok b3 => exact ⟨b3, rfl⟩
    | err e env => rw [hb] at h; cases h
    | panic => rw [hb] at h; cases h

theorem ids_chars (scope : Scope) (parts : List SPart) :
    NPNode.ids.idsList ((NSNode.chars parts).denote scope) = [] := by
  simp only [NSNode.denote]
  split <;> simp [NPNode.ids.idsList, NPNode.ids]

/-- The reconstruction stops: no node, the whole list is left. -/
theorem complete_stop (ts : List Token) (frames : List (List (Str × Str))) (seen : List Str)
    (htags : TagsOk false ts) (hrest : ts = [] ∨ ∃ p l sp r, ts = .elementEnd (.close p l) sp :: r) :
    SiblingsAhead frames seen ts :=
  ⟨[], ts, rfl, trivial, rfl, idsFresh_nil _, fun _ _ h => (by cases h), hrest, htags⟩

theorem complete_upTo : ∀ n, CompleteUpTo n := by
  intro n
  induction n with
  | zero =>
    intro ts hlen htags _ b frames _ _ _ _ _
    have : ts = [] := List.eq_nil_of_length_eq_zero (by omega)
    subst this
    exact complete_stop [] frames b.seenIds htags (Or.inl rfl)
  | succ n ih =>
    intro ts hlen htags hplain b frames bfin hr hhead hdoc hrun
    cases ts with
    | nil => exact complete_stop [] frames b.seenIds htags (Or.inl rfl)
    | cons t ts1 =>
      have hlen1 : ts1.length ≤ n := by simpa using hlen
      have hplain1 : ∀ x ∈ ts1, x.plain = true := fun x hx => hplain x (by simp [hx])
      cases hcd : t.isCharData with
      | true =>
        -- a run of character data
        obtain ⟨cs, ts', hsplit, hcs, hnext⟩ := chardata_split (t :: ts1)
        cases cs with
        | nil =>
          simp only [List.nil_append] at hsplit
          have := hnext t ts1 hsplit.symm
          rw [hcd] at this; cases this
        | cons c cs1 =>
          have hl' : ts'.length ≤ n := by
            have := congrArg List.length hsplit
            simp only [List.length_cons, List.length_append] at this hlen
            omega
          have hmem : ∀ x, x ∈ (c :: cs1) ++ ts' → x.plain = true := by
            intro x hx; rw [← hsplit] at hx; exact hplain x hx
          rw [hsplit] at hrun htags
          obtain ⟨parts, hp1, hp2⟩ := run_chardata_inv (c :: cs1) hcs
            (fun x hx => hmem x (List.mem_append_left _ hx)) b ts' bfin hrun
          have htok : (NSNode.chars parts).tokens = c :: cs1 := by simp only [NSNode.tokens, hp1]
          have hres := complete_cons ih (.chars parts) ts' hl' (tagsOk_chardata_append _ hcs _ htags)
            (fun x hx => hmem x (List.mem_append_right _ hx)) hr hp2 (fun _ => hhead t ts1 rfl hcd)
            (by rw [ids_chars]; exact idsFresh_nil _)
            (fun _ => ⟨c, cs1, htok, hcs c (by simp)⟩) (fun _ => hnext) hdoc (by rw [htok]; exact hrun)
          rw [htok, ← hsplit] at hres
          exact hres
      | false =>
        cases t with
        | text s => simp [Token.isCharData] at hcd
        | cdata s sp => simp [Token.isCharData] at hcd
        | declaration v e s sp => have := hplain _ (List.mem_cons_self ..); simp [Token.plain] at this
        | dtdStart sp | dtdEnd sp | emptyDtd sp | entityDecl sp => obtain ⟨_, hs, _⟩ := run_cons_ok hrun; simp [Builder.step] at hs
        | «attribute» p l v sp => simp [TagsOk] at htags
        | comment text junk =>
          simp only [TagsOk] at htags
          exact complete_node ih (.comment text junk) rfl rfl hlen1 htags hplain1 hr trivial (idsFresh_nil _) hdoc hrun
        | pi target content junk =>
          simp only [TagsOk] at htags
          have hnr : isReservedPiTarget target.text = false := by
            obtain ⟨_, hs, _⟩ := run_cons_ok hrun
            cases hrt : isReservedPiTarget target.text with
            | false => rfl
            | true => simp [Builder.step, hrt] at hs
          exact complete_node ih (.pi target content junk) rfl rfl hlen1 htags hplain1 hr hnr (idsFresh_nil _) hdoc hrun
        | elementEnd e sp =>
          cases e with
          | close p l => exact complete_stop _ frames b.seenIds htags (Or.inr ⟨p, l, sp, ts1, rfl⟩)
          | «open» => simp [TagsOk] at htags
          | empty => simp [TagsOk] at htags
        | elementStart pfx loc junk =>
          have htags' : TagsOk true ts1 := by simpa only [TagsOk] using htags
          rcases tagsOk_true_split ts1 htags' with ⟨toks, e, endSp, rest, hts1, hattr, he, htr⟩ | hattr
          · subst hts1
            have hlenr : rest.length ≤ n := by
              simp only [List.length_append, List.length_cons] at hlen1; omega
            have hplainr : ∀ x ∈ rest, x.plain = true := fun x hx => hplain1 x (by simp [hx])
            obtain ⟨hbc, attrs, ha1, ha2, ha3, ha5, _, ha8, hrun2⟩ :=
              start_tag_inv pfx loc junk toks hattr _ bfin hrun
            obtain ⟨b2, hstep2, hrun3⟩ := run_cons_ok hrun2
            obtain ⟨b3, hb3⟩ := endtok_open_inv he hstep2
            obtain ⟨hacc, hout⟩ := openElement_ns_iff hr pfx loc attrs
            obtain ⟨hp, i1, i3, hidA⟩ := hacc.1 ⟨b3, hb3⟩
            obtain ⟨idn0, sp0, hopen⟩ := hout b3 hb3
            have hwa : attrsWellNs ((flatScope frames).push (declsOf attrs)) attrs := ⟨ha2, ha3, ha5, i3, i1, ha8⟩
            rcases he with rfl | rfl
            · -- `>`: the children, then the end tag
              simp only [Builder.step] at hstep2
              rw [hb3, hopen] at hstep2
              have hb2 := (Step.ok.inj hstep2).symm
              subst hb2
              have hr1 := readyNs_opened hr pfx.text (((flatScope frames).push (declsOf attrs)).resolve pfx.text)
                loc.text (declsOf attrs) (attrsOf ((flatScope frames).push (declsOf attrs)) attrs) idn0 sp0
              obtain ⟨kids, restk, ek1, ek2, ek3, ek4, _, ek6, ek7⟩ := ih rest hlenr htr hplainr _
                (declsOf attrs :: frames) bfin hr1 (fun _ _ _ _ => headOk_openedNs b _ _ _ _ _ idn0 sp0) hdoc hrun3
              obtain ⟨hsim, _⟩ := sim_list_ns kids (declsOf attrs :: frames) ek2 ek3 _ hr1
                (fun _ _ _ _ => headOk_openedNs b _ _ _ _ _ idn0 sp0) ek4
              obtain ⟨idnk, spk, hk⟩ := hsim restk none
              rw [ek1, hk] at hrun3
              rcases ek6 with hnil | ⟨cpfx, cloc, closeSp, r, hcl⟩
              · -- nothing follows: the final state would be inside the element
                exfalso
                subst hnil
                simp only [Builder.run, Builder.emitNs, Builder.openedNs] at hrun3
                have hfin := (Step.ok.inj hrun3).symm
                subst hfin
                simp [Value.isDocument] at hdoc
              · subst hcl
                obtain ⟨b4, hstep4, _⟩ := run_cons_ok hrun3
                obtain ⟨u, hu⟩ := Option.isSome_iff_exists.mp hp
                have hres : ((flatScope frames).push (declsOf attrs)).resolve pfx.text = u := by
                  simp [Scope.resolve, hu]
                obtain ⟨hcp, hcn, hbcp⟩ := close_inv hr pfx.text
                  (((flatScope frames).push (declsOf attrs)).resolve pfx.text) loc.text (declsOf attrs)
                  (attrsOf ((flatScope frames).push (declsOf attrs)) attrs) idn0 sp0 _ _ _ idnk spk
                  (encodeNsList_app _ _) cpfx cloc closeSp (by rw [hres]; exact hu) hstep4
                have htok : (NSNode.elem pfx loc junk attrs endSp kids cpfx cloc closeSp).tokens ++ r =
                    .elementStart pfx loc junk :: (toks ++ .elementEnd .open endSp :: rest) := by
                  rw [ek1]; simp [NSNode.tokens, ha1]
                have hlr : r.length ≤ n := by
                  have := congrArg List.length ek1
                  simp only [List.length_append, List.length_cons] at this
                  omega
                have hplr : ∀ x ∈ r, x.plain = true := fun x hx => hplainr x (by rw [ek1]; simp [hx])
                simp only [TagsOk] at ek7
                refine complete_node ih (.elem pfx loc junk attrs endSp kids cpfx cloc closeSp) rfl htok hlr ek7 hplr hr
                  ⟨hwa, hp, hcp, hcn, ek3, ek2, hbc, hbcp⟩ ?_ hdoc hrun
                simp only [NSNode.denote, NPNode.ids.idsList, NPNode.ids, List.append_nil]
                exact hidA.join ek4
            · -- `/>`
              have htok : (NSNode.empty pfx loc junk attrs endSp).tokens ++ rest =
                  .elementStart pfx loc junk :: (toks ++ .elementEnd .empty endSp :: rest) := by
                simp [NSNode.tokens, ha1]
              refine complete_node ih (.empty pfx loc junk attrs endSp) rfl htok hlenr htr hplainr hr ⟨hwa, hp, hbc⟩ ?_
                hdoc hrun
              simp only [NSNode.denote, NPNode.ids.idsList, NPNode.ids, List.append_nil]
              exact hidA
          · -- the list ends inside the start tag
            exfalso
            obtain ⟨_, attrs, _, _, _, _, _, _, hrun2⟩ :=
              start_tag_inv pfx loc junk ts1 hattr [] bfin (by simpa using hrun)
            simp [Builder.run, Builder.tagRead] at hrun2

end XotModel

/-! ## The parse entry points

  `WellSpelledTokens mode ts`  : every XML declaration in `ts` has version 1.0 and `ts` without its
                                 declaration tokens IS the token list of a well-formed spelling
                                 (with one element and no text at top level in document mode).
  `build_accepts_iff`          : `build mode len env ts none` succeeds exactly on these lists (token
                                 lists with the tag shape a tokenizer guarantees and no empty text
                                 token).
-/

namespace XotModel

/-! ### The two guards / corners -/

def Token.isDeclTok : Token → Bool
  | .declaration _ _ _ _ => true
  | _ => false

/-- No EMPTY text token (the tokenizer never emits one; the builder would make an empty text node
    of it, which no spelling denotes). -/
def Token.nonEmptyText : Token → Bool
  | .text t => !t.text.isEmpty
  | _ => true

/-- The token list without its XML-declaration tokens. -/
def dropDecls (ts : List Token) : List Token := ts.filter fun t => !t.isDeclTok

/-- Every XML declaration in the list says version 1.0 (the only test the builder makes on it;
    WHERE it stands is the tokenizer's business). -/
def declsV10 (ts : List Token) : Prop :=
  ∀ v e s sp, Token.declaration v e s sp ∈ ts → v.text = ['1', '.', '0']

theorem Token.plain_eq (t : Token) : t.plain = (t.nonEmptyText && !t.isDeclTok) := by
  cases t <;> first | rfl | exact (Bool.and_true _).symm

theorem plain_of_dropDecls {ts : List Token} (h : ∀ t ∈ ts, t.nonEmptyText = true) :
    ∀ t ∈ dropDecls ts, t.plain = true := by
  intro t ht
  simp only [dropDecls, List.mem_filter] at ht
  rw [Token.plain_eq, h t ht.1, ht.2]
  rfl

/-- What follows a token enters `TagsOk` only through `TagsOk` itself: each clause of the definition
    is `False`, or `TagsOk j` of the tail. -/
theorem TagsOk.cons_imp {ts ts' : List Token} (h : ∀ j, TagsOk j ts → TagsOk j ts') (i : Bool) (t : Token)
    (h0 : TagsOk i (t :: ts)) : TagsOk i (t :: ts') := by
  cases i <;> cases t
  case false.elementEnd e _ | true.elementEnd e _ =>
    cases e <;> first | exact h _ h0 | exact False.elim h0
  all_goals first | exact h _ h0 | exact False.elim h0

theorem tagsOk_dropDecls : ∀ (ts : List Token) (i : Bool), TagsOk i ts → TagsOk i (dropDecls ts)
  | [], _, _ => trivial
  | t :: ts, i, h => by
    have ih := tagsOk_dropDecls ts
    cases t with
    | declaration v e s sp =>
      cases i
      · exact ih false h
      · exact h.elim
    | _ => exact TagsOk.cons_imp ih i _ h

theorem step_declaration (b : Builder) {v : StrSpan} (e : Option StrSpan) (s : Option Bool) (sp : StrSpan)
    (hv : v.text = ['1', '.', '0']) : b.step (.declaration v e s sp) = .ok b := by
  simp [Builder.step, hv]

/-- The builder skips version-1.0 declarations. -/
theorem run_dropDecls : ∀ (ts : List Token) (b : Builder) (le : Option Nat), declsV10 ts →
    b.run ts le = b.run (dropDecls ts) le
  | [], _, _, _ => rfl
  | t :: ts, b, le, h => by
    have ih := fun b' => run_dropDecls ts b' le (fun v e s sp hm => h v e s sp (by simp [hm]))
    cases ht : t.isDeclTok with
    | true =>
      cases t with
      | declaration v e s sp =>
        have hv := h v e s sp (by simp)
        simp only [dropDecls, List.filter_cons, ht, Bool.not_true, Bool.false_eq_true, if_false]
        simp only [Builder.run, step_declaration b e s sp hv]
        exact ih b
      | _ => simp [Token.isDeclTok] at ht
    | false =>
      simp only [dropDecls, List.filter_cons, ht, Bool.not_false, if_true]
      simp only [Builder.run]
      cases b.step t with
      | ok b1 => exact ih b1
      | err e env => rfl
      | panic => rfl

/-- A run that comes to its end met version-1.0 declarations only. -/
theorem run_ok_declsV10 : ∀ (ts : List Token) (b bfin : Builder) (le : Option Nat), b.run ts le = .ok bfin →
    declsV10 ts
  | [], _, _, _, _ => fun _ _ _ _ h => by cases h
  | t :: ts, b, bfin, le, h => by
    obtain ⟨b1, hs, hr⟩ := run_cons_ok h
    have ih := run_ok_declsV10 ts b1 bfin le hr
    intro v e s sp hm
    simp only [List.mem_cons] at hm
    rcases hm with hm | hm
    · subst hm
      simp only [Builder.step] at hs
      split at hs
      · cases hs
      · rename_i hne
        simpa using hne
    · exact ih v e s sp hm

/-! ### From `build` to the loop and back -/

theorem build_dropDecls (mode : Mode) (len : Nat) (env : Env) (ts : List Token) (h : declsV10 ts) :
    build mode len env ts none = build mode len env (dropDecls ts) none := by
  unfold build
  rw [run_dropDecls ts _ none h]

/-- An end tag at document level is refused. -/
theorem closeElement_top {b b1 : Builder} {p l sp : StrSpan} (hp : b.parents = []) :
    b.closeElement p l sp ≠ .ok b1 := by
  intro h
  obtain ⟨_, _, _, hne, _⟩ := Builder.closeElement_ok_inv h
  exact hne hp

/-! ### The loop from the initial state -/

/-- The whole token list the loop accepts from the initial state (ending at document level) is
    the token list of a well-formed spelling. -/
theorem run_complete {env : Env} (h : EnvBaseNs env) (ts : List Token) (htags : TagsOk false ts)
    (hplain : ∀ t ∈ ts, t.plain = true) {bfin : Builder} (hrun : (Builder.new env).run ts none = .ok bfin)
    (hdoc : bfin.cur.value.isDocument = true) :
    ∃ sns, NSNode.tokens.tokensList sns = ts ∧ WellNsDoc sns := by
  have hh0 : HeadOk (Builder.new env) := by intro s ks more heq; simp [Builder.new] at heq
  obtain ⟨sns, rest, e1, e2, e3, e4, _, e6, _⟩ := complete_upTo ts.length ts (Nat.le_refl _) htags hplain
    (Builder.new env) baseFrames bfin (readyNs_new h) (fun _ _ _ _ => hh0) hdoc hrun
  rcases e6 with hnil | ⟨p, l, sp, r, hcl⟩
  · subst hnil
    refine ⟨sns, by rw [e1]; simp, e2, e3, e4.1⟩
  · exfalso
    subst hcl
    obtain ⟨hsim, _⟩ := sim_list_ns sns baseFrames e2 e3 (Builder.new env) (readyNs_new h)
      (fun _ _ _ _ => hh0) e4
    obtain ⟨idn, spn, hk⟩ := hsim (.elementEnd (.close p l) sp :: r) none
    rw [e1, hk] at hrun
    obtain ⟨b1, hs, _⟩ := run_cons_ok hrun
    have hc := Builder.step_ok_core hs
    simp only [Builder.stepCore] at hc
    exact closeElement_top (by simp [Builder.emitNs, Builder.new]) hc

/-! ### The characterisation -/

/-- The token lists `build` accepts, as spellings: every XML declaration says version 1.0, and the
    list without its declaration tokens is EXACTLY the token list of a well-formed spelling (every
    span, every position) which, in document mode, has one element and no text at top level. -/
def WellSpelledTokens (mode : Mode) (ts : List Token) : Prop :=
  declsV10 ts ∧ ∃ sns, WellNsDoc sns ∧ (mode = .document → AbstractTopNs (NSNode.denote.denoteList baseScope sns)) ∧
    NSNode.tokens.tokensList sns = dropDecls ts

/-- Soundness at the entry points (`build_document_spelled_ns` / `build_fragment_spelled_ns`), read
    back as the denoted document. -/
theorem build_spelled_ns {env : Env} (h : EnvBaseNs env) (mode : Mode) (len : Nat) (sns : List NSNode)
    (hw : WellNsDoc sns) (htop : mode = .document → AbstractTopNs (NSNode.denote.denoteList baseScope sns)) :
    ∃ p, build mode len env (NSNode.tokens.tokensList sns) none = .ok p ∧ p.tree.value = .document ∧
      decodeNs p.env p.tree.kids = some (NSNode.denote.denoteList baseScope sns) := by
  cases mode with
  | document =>
    obtain ⟨p, hb, ht, he⟩ := build_document_spelled_ns h len sns hw (wellFormedTop_of_abstractNs (htop rfl))
    refine ⟨p, hb, by rw [ht]; rfl, ?_⟩
    rw [ht, he]
    exact decodeNs_encodeList _ env
  | fragment =>
    obtain ⟨p, hb, ht, he⟩ := build_fragment_spelled_ns h len sns hw
    refine ⟨p, hb, by rw [ht]; rfl, ?_⟩
    rw [ht, he]
    exact decodeNs_encodeList _ env

/-- … with the declarations: a well-spelled list is accepted and the result is the denoted
    document. -/
theorem build_of_spelling {env : Env} (h : EnvBaseNs env) (mode : Mode) (len : Nat) (ts : List Token)
    (hd : declsV10 ts) (sns : List NSNode) (hw : WellNsDoc sns)
    (htop : mode = .document → AbstractTopNs (NSNode.denote.denoteList baseScope sns))
    (htok : NSNode.tokens.tokensList sns = dropDecls ts) :
    ∃ p, build mode len env ts none = .ok p ∧ p.tree.value = .document ∧
      decodeNs p.env p.tree.kids = some (NSNode.denote.denoteList baseScope sns) := by
  rw [build_dropDecls mode len env ts hd, ← htok]
  exact build_spelled_ns h mode len sns hw htop

/-- Completeness at the entry points: whatever `build` accepts is a well-spelled list, and the
    result is the document its spelling denotes. -/
theorem build_complete {env : Env} (h : EnvBaseNs env) (mode : Mode) (len : Nat) (ts : List Token)
    (htags : TagsOk false ts) (hne : ∀ t ∈ ts, t.nonEmptyText = true) {p : Parsed}
    (hb : build mode len env ts none = .ok p) :
    declsV10 ts ∧ ∃ sns, WellNsDoc sns ∧
      (mode = .document → AbstractTopNs (NSNode.denote.denoteList baseScope sns)) ∧
      NSNode.tokens.tokensList sns = dropDecls ts ∧ p.tree.value = .document ∧
      decodeNs p.env p.tree.kids = some (NSNode.denote.denoteList baseScope sns) := by
  obtain ⟨b0, hrun0, _, _⟩ := build_ok_parsed hb
  have hd := run_ok_declsV10 ts _ b0 none hrun0
  refine ⟨hd, ?_⟩
  rw [build_dropDecls mode len env ts hd] at hb
  obtain ⟨b, hrun, hp, hdoc⟩ := build_ok_parsed hb
  obtain ⟨sns, htok, hw⟩ := run_complete h (dropDecls ts) (tagsOk_dropDecls ts false htags)
    (plain_of_dropDecls hne) hrun hdoc
  -- the state the loop ends in, from soundness
  obtain ⟨seen, idn, sp, hrs⟩ := run_spelled_ns h sns hw
  rw [htok, hrun] at hrs
  have hb' := Step.ok.inj hrs
  subst hb'
  have htree : p.tree = .node .document (NPNode.encode.encodeList env (NSNode.denote.denoteList baseScope sns)).2 := by
    rw [hp]; simp only [Builder.parsed]; exact emitNs_new_root env _ _ _ _ sp
  have henv : p.env = (NPNode.encode.encodeList env (NSNode.denote.denoteList baseScope sns)).1 := by
    rw [hp]; rfl
  refine ⟨sns, hw, ?_, htok, by rw [htree]; rfl, ?_⟩
  · intro hm
    subst hm
    have := build_document_wellFormed hb
    rw [htree] at this
    exact wellFormedTop_iff_abstractNs.1 this
  · rw [htree, henv]
    exact decodeNs_encodeList _ env

/-- `build` accepts EXACTLY the well-spelled token lists. -/
theorem build_accepts_iff {env : Env} (h : EnvBaseNs env) (mode : Mode) (len : Nat) (ts : List Token)
    (htags : TagsOk false ts) (hne : ∀ t ∈ ts, t.nonEmptyText = true) :
    (∃ p, build mode len env ts none = .ok p) ↔ WellSpelledTokens mode ts := by
  constructor
  · rintro ⟨p, hb⟩
    obtain ⟨hd, sns, hw, htop, htok, _, _⟩ := build_complete h mode len ts htags hne hb
    exact ⟨hd, sns, hw, htop, htok⟩
  · rintro ⟨hd, sns, hw, htop, htok⟩
    obtain ⟨p, hb, _, _⟩ := build_of_spelling h mode len ts hd sns hw htop htok
    exact ⟨p, hb⟩

/-! ### Up to byte positions -/

/-- The same up to byte positions and whole-token spans (`Token.erase`): the list lets
    `check_qname` pass (every empty prefix at offset 0 — the one position xot reads), every XML
    declaration says version 1.0, and the list without its declarations has the erased tokens of
    a well-formed spelling. -/
def SpelledUpToPositions (mode : Mode) (ts : List Token) : Prop :=
  tokensPrefixOk ts = true ∧ declsV10 ts ∧
    ∃ sns, WellNsDoc sns ∧ (mode = .document → AbstractTopNs (NSNode.denote.denoteList baseScope sns)) ∧
      (NSNode.tokens.tokensList sns).map Token.erase = (dropDecls ts).map Token.erase

theorem prefixOk_dropDecls {ts : List Token} (h : tokensPrefixOk ts = true) : tokensPrefixOk (dropDecls ts) = true := by
  simp only [tokensPrefixOk, List.all_eq_true] at h ⊢
  intro t ht
  simp only [dropDecls, List.mem_filter] at ht
  exact h t ht.1

theorem build_accepts_iff_erased {env : Env} (h : EnvBaseNs env) (mode : Mode) (len : Nat) (ts : List Token)
    (htags : TagsOk false ts) (hne : ∀ t ∈ ts, t.nonEmptyText = true) :
    (∃ p, build mode len env ts none = .ok p) ↔ SpelledUpToPositions mode ts := by
  constructor
  · rintro ⟨p, hb⟩
    obtain ⟨hd, sns, hw, htop, htok, _, _⟩ := build_complete h mode len ts htags hne hb
    exact ⟨build_ok_prefixOk hb, hd, sns, hw, htop, by rw [htok]⟩
  · rintro ⟨hq, hd, sns, hw, htop, htok⟩
    obtain ⟨p0, hb0, _, _⟩ := build_spelled_ns h mode len sns hw htop
    obtain ⟨p, hb, _⟩ := build_erase_ok mode len len env _ (dropDecls ts) htok (prefixOk_dropDecls hq) p0 hb0
    exact ⟨p, by rw [build_dropDecls mode len env ts hd]; exact hb⟩

end XotModel
