/-
  Name resolution on the way back: `ScopeRel`, the bridge from the serialiser's id-level stack to
  the string scope of the builder theorems, kept by `push` of a `nodeOK` element's declarations;
  then the items of a start tag (declarations and attributes) as the parser reads them.
-/
import XotModel.Lemmas.RoundTripEnv
import XotModel.Lemmas.ScopeSound
import XotModel.Lemmas.TraceInv
import XotModel.Lemmas.RepairDocument
import XotModel.Lemmas.RepairKeep
import XotModel.Lemmas.RepairValid
import XotModel.Lemmas.SerResolve

/-! ### From the id-level stack to the string scope

  Round trip, name resolution: the bridge from the id-level scoping of the serialiser (C10: the top
  frame of the `FullnameSerializer` stack is nearest-declaration-wins over the declaration lists
  pushed, `StackInv`) to the STRING scope the builder theorems use (`Scope`, Lemmas/ParseNsDefs.lean).

  `ScopeRel` is kept by `push` of the declarations of a `nodeOK` element; then the prefix `element_prefix` /
  `attribute_prefix` chooses resolves, in the string scope, to the URI of the name's namespace
  (via `sound_prefix`, `sound_attribute` of Lemmas/ScopeSound.lean = C10_sound_prefix, C10_sound_attribute).
-/

namespace XotModel
open XotModel.Props

/-- A declaration as strings. -/
def declStr (env : Env) (d : Nat × Nat) : Str × Str := (env.prefixStr d.1, env.namespaceStr d.2)

/-- The stack `s` stands for the id frames `fs`, and looking a prefix id's string up in `sc` gives the
    string of the namespace id the frames bind it to (the empty prefix is bound to no namespace at the
    outset, `xml` to the XML namespace throughout). -/
structure ScopeRel (env : Env) (s : FStack) (fs : Frames) (sc : Scope) : Prop where
  inv : StackInv s fs
  xmlBound : lookupFrames fs Env.xmlPrefix = some Env.xmlNamespace
  valid : ∀ p n, lookupFrames fs p = some n → p < env.prefixes.length
  validNs : ∀ p n, lookupFrames fs p = some n → n < env.namespaces.length
  notXmlns : ∀ p n, lookupFrames fs p = some n → env.prefixStr p ≠ xmlnsName
  look : ∀ p, p < env.prefixes.length →
    sc.lookup (env.prefixStr p) =
      match lookupFrames fs p with
      | some n => some (env.namespaceStr n)
      | none => if p = Env.emptyPrefix then some [] else none

/-- The declarations of one element of a `nodeOK` tree. -/
def DeclsOK (env : Env) (decls : List (Nat × Nat)) : Prop :=
  UniquePrefixes decls ∧ ∀ d ∈ decls, valueOK env (.namespace d.1 d.2) = true

theorem nodup_map_of_inj_on {α β : Type} (f : α → β) {l : List α}
    (hinj : ∀ a ∈ l, ∀ b ∈ l, f a = f b → a = b) (h : l.Nodup) : (l.map f).Nodup := by
  unfold List.Nodup at h ⊢
  rw [List.pairwise_map]
  exact List.Pairwise.imp_of_mem (fun ha hb hne he => hne (hinj _ ha _ hb he)) h

variable {env : Env}

theorem valueOK_namespace_facts {p ns : Nat} (h : valueOK env (.namespace p ns) = true) :
    p ≠ Env.xmlPrefix ∧ ns ≠ Env.xmlNamespace ∧
      (p ≠ Env.emptyPrefix → env.prefixStr p ≠ [] ∧ env.prefixStr p ≠ xmlnsName ∧ ns ≠ Env.noNamespace) ∧
      (ns ≠ Env.noNamespace → env.namespaceStr ns ≠ []) := by
  simp only [valueOK, Bool.and_eq_true, Bool.or_eq_true, beq_iff_eq, bne_iff_ne, ne_eq,
    Bool.not_eq_true', List.isEmpty_eq_false_iff] at h
  obtain ⟨⟨⟨⟨⟨h1, h2⟩, _⟩, h3⟩, h4⟩, _⟩ := h
  refine ⟨h1, h2, fun hp => ?_, fun hn => ?_⟩
  · rcases h3 with h3 | h3
    · exact absurd h3 hp
    · have := h3.1.1
      simp only [ncNameNE, Bool.and_eq_true, Bool.not_eq_true', List.isEmpty_eq_false_iff] at this
      exact ⟨this.2, h3.1.2, h3.2⟩
  · rcases h4 with h4 | h4
    · exact absurd h4 hn
    · exact h4

namespace DeclsOK

theorem prefix_lt (he : EnvFacts env) {decls : List (Nat × Nat)} (h : DeclsOK env decls)
    {d : Nat × Nat} (hd : d ∈ decls) : d.1 < env.prefixes.length := by
  by_cases hp : d.1 = Env.emptyPrefix
  · rw [hp]; exact he.emptyPrefix_lt
  · exact EnvFacts.prefix_lt_of_ne ((valueOK_namespace_facts (h.2 d hd)).2.2.1 hp).1

theorem namespace_lt (he : EnvFacts env) {decls : List (Nat × Nat)} (h : DeclsOK env decls)
    {d : Nat × Nat} (hd : d ∈ decls) : d.2 < env.namespaces.length := by
  by_cases hp : d.2 = Env.noNamespace
  · rw [hp]; exact he.noNamespace_lt
  · exact EnvFacts.namespace_lt_of_ne ((valueOK_namespace_facts (h.2 d hd)).2.2.2 hp)

theorem keys_nodup (he : EnvFacts env) {decls : List (Nat × Nat)} (h : DeclsOK env decls) :
    ((decls.map (declStr env)).map Prod.fst).Nodup := by
  rw [List.map_map]
  have : (Prod.fst ∘ declStr env) = (fun d : Nat × Nat => env.prefixStr d.1) := rfl
  rw [this]
  have h1 : (decls.map Prod.fst).Nodup := h.1
  have := nodup_map_of_inj_on env.prefixStr (l := decls.map Prod.fst) (fun a ha b hb hab => by
    obtain ⟨da, hda, rfl⟩ := List.mem_map.mp ha
    obtain ⟨db, hdb, rfl⟩ := List.mem_map.mp hb
    exact he.prefixStr_inj (h.prefix_lt he hda) (h.prefix_lt he hdb) hab) h1
  simpa [List.map_map, Function.comp_def] using this

end DeclsOK

/-- A declaration of a `nodeOK` tree is none of those `DocumentBuilder::prefix` refuses. -/
theorem valueOK_namespace_not_reserved (he : EnvFacts env) {p ns : Nat}
    (h : valueOK env (.namespace p ns) = true) :
    reservedDecl (env.prefixStr p) (env.namespaceStr ns) = false := by
  obtain ⟨_, hnx, hpfx, hnsne⟩ := valueOK_namespace_facts h
  have hxmlns : env.namespaceStr ns ≠ xmlnsNamespaceUri := by
    simp only [valueOK, Bool.and_eq_true, bne_iff_ne, ne_eq] at h
    exact h.1.1.1.2
  have hnotXmlUri : env.namespaceStr ns ≠ xmlNamespaceUri := by
    intro heq
    have hlt : ns < env.namespaces.length :=
      EnvFacts.namespace_lt_of_ne (by rw [heq]; decide)
    have h1 : env.namespaceStr ns = env.namespaceStr Env.xmlNamespace := by rw [heq, he.ns1]; rfl
    exact hnx (he.namespaceStr_inj hlt he.xmlNamespace_lt h1)
  have hpx : env.prefixStr p ≠ xmlnsName := by
    by_cases hp : p = Env.emptyPrefix
    · rw [hp, he.p0]; decide
    · exact (hpfx hp).2.1
  have hundecl : ¬ (env.prefixStr p ≠ [] ∧ env.namespaceStr ns = []) := by
    rintro ⟨hp1, hu⟩
    have hp : p ≠ Env.emptyPrefix := fun hp => hp1 (by rw [hp, he.p0])
    exact hnsne (hpfx hp).2.2 hu
  have e1 : (env.prefixStr p == ['x', 'm', 'l', 'n', 's']) = false := beq_eq_false_iff_ne.mpr hpx
  have e2 : (env.namespaceStr ns == xmlNamespaceUri) = false := beq_eq_false_iff_ne.mpr hnotXmlUri
  have e3 : (env.namespaceStr ns == xmlnsNamespaceUri) = false := beq_eq_false_iff_ne.mpr hxmlns
  simp only [reservedDecl, e1, e2, e3, Bool.and_false, Bool.or_false, Bool.false_or]
  by_cases hp1 : env.prefixStr p = []
  · rw [hp1]; rfl
  · have : (env.namespaceStr ns).isEmpty = false :=
      List.isEmpty_eq_false_iff.mpr fun hu => hundecl ⟨hp1, hu⟩
    rw [this, Bool.and_false]

theorem DeclsOK.not_reserved (he : EnvFacts env) {decls : List (Nat × Nat)} (h : DeclsOK env decls) :
    ∀ d ∈ decls.map (declStr env), reservedDecl d.1 d.2 = false := by
  intro d hd
  obtain ⟨x, hx, rfl⟩ := List.mem_map.mp hd
  exact valueOK_namespace_not_reserved he (h.2 x hx)

theorem nodup_reverse_gen {α : Type} {l : List α} : l.reverse.Nodup ↔ l.Nodup := by
  unfold List.Nodup
  rw [List.pairwise_reverse]
  constructor <;> exact fun h => h.imp (fun hne he => hne he.symm)

theorem lookupFrames_base_eq (p : Nat) :
    lookupFrames [basePrefixes] p = if p = Env.xmlPrefix then some Env.xmlNamespace else none := by
  by_cases hp : p = Env.xmlPrefix
  · rw [if_pos hp, hp]; rfl
  · rw [if_neg hp]
    simp only [lookupFrames, basePrefixes, List.lookup, beq_eq_false_iff_ne.mpr hp]

namespace ScopeRel

theorem base (he : EnvFacts env) :
    ScopeRel env (FStack.new basePrefixes) [basePrefixes] baseScope := by
  have hu : UniquePrefixes basePrefixes := List.pairwise_singleton _ _
  have hx : ∀ {p n}, lookupFrames [basePrefixes] p = some n → p = Env.xmlPrefix ∧ n = Env.xmlNamespace := by
    intro p n h
    rw [lookupFrames_base_eq] at h
    by_cases hp : p = Env.xmlPrefix
    · rw [if_pos hp] at h; exact ⟨hp, (Option.some.inj h).symm⟩
    · rw [if_neg hp] at h; cases h
  refine ⟨StackInv.base _ hu, rfl, ?_, ?_, ?_, ?_⟩
  · intro p n hl
    rw [(hx hl).1]; exact he.xmlPrefix_lt
  · intro p n hl
    rw [(hx hl).2]; exact he.xmlNamespace_lt
  · intro p n hl
    rw [(hx hl).1, he.p1]; decide
  · intro p hp
    rw [lookupFrames_base_eq]
    by_cases h1 : p = Env.xmlPrefix
    · rw [h1, he.p1]
      show _ = some (env.namespaceStr Env.xmlNamespace)
      rw [he.ns1]; rfl
    · rw [if_neg h1]
      by_cases h0 : p = Env.emptyPrefix
      · rw [h0, he.p0]; rfl
      · have b0 : (env.prefixStr p == ([] : Str)) = false := beq_eq_false_iff_ne.mpr fun h =>
          h0 (he.prefixStr_inj hp he.emptyPrefix_lt (by rw [h, he.p0]))
        have b1 : (env.prefixStr p == ['x', 'm', 'l']) = false := beq_eq_false_iff_ne.mpr fun h =>
          h1 (he.prefixStr_inj hp he.xmlPrefix_lt (by rw [h, he.p1]))
        show _ = if p = Env.emptyPrefix then some [] else none
        rw [if_neg h0]
        simp only [baseScope, List.lookup, b0, b1]

theorem push (he : EnvFacts env) {s : FStack} {fs : Frames} {sc : Scope}
    (h : ScopeRel env s fs sc) {decls : List (Nat × Nat)} (hd : DeclsOK env decls) :
    ScopeRel env (s.push decls) (decls :: fs) (sc.push (decls.map (declStr env))) := by
  have hmem : ∀ p n, List.lookup p decls = some n → (p, n) ∈ decls := fun p n hl =>
    (lookup_some_iff hd.1 p n).mp hl
  -- a binding of the new frames is one of `decls` or a binding of the old frames
  have hsplit : ∀ {p n}, lookupFrames (decls :: fs) p = some n →
      (p, n) ∈ decls ∨ lookupFrames fs p = some n := by
    intro p n hl
    rw [lookupFrames_cons] at hl
    cases hq : List.lookup p decls with
    | some m => rw [hq] at hl; exact Or.inl (Option.some.inj hl ▸ hmem p m hq)
    | none => rw [hq] at hl; exact Or.inr hl
  refine ⟨h.inv.push' hd.1, ?_, ?_, ?_, ?_, ?_⟩
  · rw [lookupFrames_cons]
    have : List.lookup Env.xmlPrefix decls = none := by
      rw [lookup_none_iff]
      intro hm
      obtain ⟨d, hd', hd1⟩ := List.mem_map.mp hm
      exact (valueOK_namespace_facts (hd.2 d hd')).1 hd1
    rw [this]; exact h.xmlBound
  · intro p n hl
    rcases hsplit hl with hm | hl'
    · exact hd.prefix_lt he hm
    · exact h.valid p n hl'
  · intro p n hl
    rcases hsplit hl with hm | hl'
    · exact hd.namespace_lt he hm
    · exact h.validNs p n hl'
  · intro p n hl
    rcases hsplit hl with hm | hl'
    · by_cases hp : p = Env.emptyPrefix
      · rw [hp, he.p0]; decide
      · exact ((valueOK_namespace_facts (hd.2 _ hm)).2.2.1 hp).2.1
    · exact h.notXmlns p n hl'
  · intro p hp
    have hkeys := hd.keys_nodup he
    have hkeys' : (((decls.map (declStr env)).reverse).map Prod.fst).Nodup := by
      rw [List.map_reverse]; exact nodup_reverse_gen.mpr hkeys
    simp only [Scope.push, List.lookup_append, lookupFrames_cons]
    cases hq : List.lookup p decls with
    | some m =>
      have hin : (env.prefixStr p, env.namespaceStr m) ∈ (decls.map (declStr env)).reverse :=
        List.mem_reverse.mpr (List.mem_map.mpr ⟨(p, m), hmem p m hq, rfl⟩)
      rw [(lookup_some_iff_mem hkeys' _ _).mpr hin]
      rfl
    | none =>
      have hnot : p ∉ decls.map Prod.fst := (lookup_none_iff p decls).mp hq
      have : ((decls.map (declStr env)).reverse).lookup (env.prefixStr p) = none := by
        rw [lookup_none_iff_not_mem]
        intro hm
        obtain ⟨x, hx, hx1⟩ := List.mem_map.mp hm
        obtain ⟨d, hd', rfl⟩ := List.mem_map.mp (List.mem_reverse.mp hx)
        have : d.1 = p := he.prefixStr_inj (hd.prefix_lt he hd') hp hx1
        exact hnot (this ▸ List.mem_map_of_mem (f := Prod.fst) hd')
      rw [this]
      exact h.look p hp

theorem resolvePrefix (he : EnvFacts env) {s : FStack} {fs : Frames} {sc : Scope}
    (h : ScopeRel env s fs sc) {q ns : Nat} (hr : resolvePrefix fs q = some ns) :
    sc.lookup (env.prefixStr q) = some (env.namespaceStr ns) ∧ q < env.prefixes.length ∧
      env.prefixStr q ≠ xmlnsName ∧ ns < env.namespaces.length := by
  unfold Props.resolvePrefix at hr
  by_cases hq : (q == Env.xmlPrefix) = true
  · have hq' : q = Env.xmlPrefix := by simpa using hq
    simp only [hq, if_true, Option.some.injEq] at hr
    subst hr hq'
    refine ⟨?_, he.xmlPrefix_lt, by rw [he.p1]; simp [xmlnsName], he.xmlNamespace_lt⟩
    rw [h.look _ he.xmlPrefix_lt, h.xmlBound]
  · simp only [hq, Bool.false_eq_true, if_false] at hr
    have hv := h.valid q ns hr
    refine ⟨?_, hv, h.notXmlns q ns hr, h.validNs q ns hr⟩
    rw [h.look q hv, hr]

end ScopeRel

theorem ScopeRel.reserved {s : FStack} {fs : Frames} {sc : Scope} (h : ScopeRel env s fs sc) :
    XmlPrefixReserved fs := by
  intro n hn
  rw [h.xmlBound] at hn
  exact (Option.some.inj hn).symm

/-- Element names: the prefix text the serialiser writes resolves to the URI of the name's
    namespace in the string scope (the element's own declarations pushed). -/
theorem ScopeRel.element (he : EnvFacts env) {s : FStack} {fs : Frames} {sc : Scope}
    (h : ScopeRel env s fs sc) {name : Nat} {p : Option Nat} (hp : s.elementPrefix env name = .ok p)
    (hcheck : ¬ (env.nsOfName name = Env.noNamespace ∧ s.hasDefaultNamespace = true)) :
    sc.lookup (prefixText env p) = some (env.namespaceStr (env.nsOfName name)) ∧
      env.nsOfName name < env.namespaces.length := by
  have hres := sound_prefix env s fs name p h.inv h.reserved hp hcheck
  cases p with
  | none =>
    simp only [resolveElementName, Option.some.injEq] at hres
    simp only [prefixText]
    have := h.look Env.emptyPrefix he.emptyPrefix_lt
    rw [he.p0] at this
    rw [this, ← hres]
    cases hl : lookupFrames fs Env.emptyPrefix with
    | none => exact ⟨by simp [he.ns0], he.noNamespace_lt⟩
    | some n => exact ⟨rfl, h.validNs _ n hl⟩
  | some q =>
    simp only [resolveElementName] at hres
    exact ⟨(h.resolvePrefix he hres).1, (h.resolvePrefix he hres).2.2.2⟩

theorem ScopeRel.attribute (he : EnvFacts env) {s : FStack} {fs : Frames} {sc : Scope}
    (h : ScopeRel env s fs sc) {name : Nat} {p : Option Nat} (hp : s.attributePrefix env name = .ok p) :
    sc.attrNs (prefixText env p) = env.namespaceStr (env.nsOfName name) ∧
      (prefixText env p ≠ [] → (sc.lookup (prefixText env p)).isSome = true) ∧
      prefixText env p ≠ xmlnsName ∧
      (prefixText env p = [] → env.nsOfName name = Env.noNamespace) ∧
      (prefixText env p = ['x', 'm', 'l'] → env.nsOfName name = Env.xmlNamespace) ∧
      env.nsOfName name < env.namespaces.length := by
  obtain ⟨hres, hne⟩ := sound_attribute env s fs name p h.inv h.reserved hp
  cases p with
  | none =>
    simp only [resolveAttributeName, Option.some.injEq] at hres
    simp only [prefixText, Scope.attrNs, if_true, ← hres, he.ns0]
    refine ⟨trivial, fun hh => absurd rfl hh, by simp [xmlnsName], fun _ => trivial, fun hh => (by cases hh),
      he.noNamespace_lt⟩
  | some q =>
    simp only [resolveAttributeName] at hres
    obtain ⟨hl, hq, hx, hnslt⟩ := h.resolvePrefix he hres
    have hq0 : q ≠ Env.emptyPrefix := fun hh => hne (by rw [hh])
    have hstr : env.prefixStr q ≠ [] := fun hh =>
      hq0 (he.prefixStr_inj hq he.emptyPrefix_lt (by rw [hh, he.p0]))
    refine ⟨?_, fun _ => by simp [prefixText, hl], hx, fun hh => absurd hh hstr, fun hh => ?_, hnslt⟩
    · simp only [prefixText, Scope.attrNs, hstr, if_false, Scope.resolve, hl, Option.getD_some]
    have hq1 : q = Env.xmlPrefix := he.prefixStr_inj hq he.xmlPrefix_lt (by rw [he.p1]; exact hh)
    rw [hq1] at hres
    exact (Option.some.inj hres).symm

namespace PiColon

/-- `XotModel.DeclsOK` read with the widened `valueOK`: the same proposition, since the two `valueOK` differ at PI
    values only. -/
def DeclsOK (env : Env) (decls : List (Nat × Nat)) : Prop :=
  UniquePrefixes decls ∧ ∀ d ∈ decls, valueOK env (.namespace d.1 d.2) = true

theorem ScopeRel.push (he : EnvFacts env) {s : FStack} {fs : Frames} {sc : Scope}
    (h : ScopeRel env s fs sc) {decls : List (Nat × Nat)} (hd : DeclsOK env decls) :
    ScopeRel env (s.push decls) (decls :: fs) (sc.push (decls.map (declStr env))) :=
  XotModel.ScopeRel.push he h hd

end PiColon

end XotModel

/-! ### The items of a start tag

  Round trip: the children of a `nodeOK` element split into declarations, attributes and content
  (`kidDecls`, `kidAttrs`), and what the items of the spelled start tag (`spellItems`) are to the
  builder theorems: the declaration items declare exactly the element's declarations as strings,
  the attribute items are ordinary attributes denoting (expanded name, value).
-/

namespace XotModel

def nsPair : Value → Option (Nat × Nat)
  | .namespace p n => some (p, n)
  | _ => none

def attrPair : Value → Option (Nat × Str)
  | .attribute n v => some (n, v)
  | _ => none

/-- The declarations among a child list, wherever they stand. -/
def kidDecls (ks : List Tree) : List (Nat × Nat) := ks.filterMap (fun k => nsPair k.value)

/-- The attributes among a child list, wherever they stand. -/
def kidAttrs (ks : List Tree) : List (Nat × Str) := ks.filterMap (fun k => attrPair k.value)

theorem kidDecls_cons (k : Tree) (ks : List Tree) : kidDecls (k :: ks) = kidDecls [k] ++ kidDecls ks :=
  filterMap_cons_append _ k ks

theorem kidAttrs_cons (k : Tree) (ks : List Tree) : kidAttrs (k :: ks) = kidAttrs [k] ++ kidAttrs ks :=
  filterMap_cons_append _ k ks

theorem mem_kidAttrs_cons {a : Nat × Str} {ks : List Tree} (k : Tree) (h : a ∈ kidAttrs ks) :
    a ∈ kidAttrs (k :: ks) := by
  rw [kidAttrs_cons]
  exact List.mem_append_right _ h

/-- An attribute as strings: ((namespace URI, local name), value). -/
def attrStr (env : Env) (a : Nat × Str) : (Str × Str) × Str := (env.expanded a.1, a.2)

/-- In an ordered child list the namespace nodes form an initial segment. -/
theorem orderedKids_namespaces_first {ks : List Tree} (hord : OrderedKids ks) :
    ks.Pairwise (fun a b => (b.value.category == .namespace) = true →
      (a.value.category == .namespace) = true) :=
  hord.imp (fun {a b} hab hb => by
    rw [category_namespace_iff] at hb ⊢
    omega)

/-- After the namespace nodes, the attribute nodes form an initial segment. -/
theorem orderedKids_attributes_next {ks : List Tree} (hord : OrderedKids ks) :
    (ks.filter (fun k => !(k.value.category == .namespace))).Pairwise
      (fun a b => (b.value.category == .attribute) = true → (a.value.category == .attribute) = true) := by
  refine List.Pairwise.imp_of_mem (fun {a b} ha _ hab hb => ?_) (List.Pairwise.filter _ hord)
  have hna : ¬ a.value.phase = 0 := by
    rw [← category_namespace_iff]; simpa using (List.mem_filter.mp ha).2
  rw [category_attribute_iff] at hb ⊢
  omega

theorem nsDecls_eq_kidDecls (v : Value) (ks : List Tree) (hord : OrderedKids ks) :
    (Tree.node v ks).nsDecls = kidDecls ks := by
  simp only [Tree.nsDecls, Tree.namespaceNodes, Tree.kids,
    takeWhile_eq_filter_of_pairwise _ ks (orderedKids_namespaces_first hord), List.filterMap_filter, kidDecls]
  congr 1
  funext k
  generalize k.value = w
  cases w <;> rfl

theorem attrs_eq_kidAttrs (v : Value) (ks : List Tree) (hord : OrderedKids ks) :
    (Tree.node v ks).attrs = kidAttrs ks := by
  simp only [Tree.attrs, Tree.attributeNodes, Tree.kids,
    dropWhile_eq_filter_of_pairwise _ ks (orderedKids_namespaces_first hord),
    takeWhile_eq_filter_of_pairwise _ _ (orderedKids_attributes_next hord), List.filterMap_filter, kidAttrs]
  congr 1
  funext k
  generalize k.value = w
  cases w <;> rfl

theorem kidDecls_fst (ks : List Tree) : (kidDecls ks).map Prod.fst = nsPrefixes ks := by
  simp only [kidDecls, nsPrefixes, List.map_filterMap]
  congr 1
  funext k
  generalize k.value = w
  cases w <;> rfl

theorem kidAttrs_fst (ks : List Tree) : (kidAttrs ks).map Prod.fst = attrNames ks := by
  simp only [kidAttrs, attrNames, List.map_filterMap]
  congr 1
  funext k
  generalize k.value = w
  cases w <;> rfl

variable {env : Env}

namespace PiColon

theorem declsOK_of_nodeOK {v : Value} {ks : List Tree} (hn : (Tree.node v ks).allNodes (nodeOK env) = true) :
    XotModel.DeclsOK env (Tree.node v ks).nsDecls := by
  obtain ⟨hord, _, huniq, _, _⟩ := nodeOK_root hn
  refine ⟨?_, fun d hd => nsDecls_valueOK env hn hd⟩
  unfold UniquePrefixes
  rw [nsDecls_eq_kidDecls v ks hord, kidDecls_fst]
  exact huniq.2

end PiColon

theorem xmlnsName_eq : xmlnsName = xmlnsStr := rfl

theorem declsOf_append (a b : List NSAttr) : declsOf (a ++ b) = declsOf a ++ declsOf b := by
  simp [declsOf, List.filterMap_append]

theorem ordinary_append (a b : List NSAttr) : ordinary (a ++ b) = ordinary a ++ ordinary b := by
  simp [ordinary, List.filter_append]

/-- `spellDecl` writes nothing (the XML namespace) or one item at offset 0 carrying the URI. -/
theorem spellDecl_cases (env : Env) (d : Nat × Nat) :
    spellDecl env d = [] ∨ ∃ p l : Str,
      spellDecl env d = [⟨sp0 p, sp0 l, attrPieces (env.namespaceStr d.2), 0, noSpan⟩] := by
  unfold spellDecl
  by_cases h1 : (d.2 == Env.xmlNamespace) = true
  · rw [if_pos h1]; exact Or.inl rfl
  · rw [if_neg h1]
    by_cases h2 : (d.1 == Env.emptyPrefix) = true
    · rw [if_pos h2]; exact Or.inr ⟨_, _, rfl⟩
    · rw [if_neg h2]; exact Or.inr ⟨_, _, rfl⟩

theorem spellDecl_items (he : EnvFacts env) (d : Nat × Nat) (h : d.2 ≠ Env.xmlNamespace) :
    declsOf (spellDecl env d) = [declStr env d] ∧ ordinary (spellDecl env d) = [] := by
  have key : ∀ a : NSAttr, a.declares = some (env.prefixStr d.1) →
      a.pieces = attrPieces (env.namespaceStr d.2) →
      declsOf [a] = [declStr env d] ∧ ordinary [a] = [] := by
    intro a h1 h2
    simp only [declsOf, ordinary, NSAttr.isDecl, List.filterMap_cons, List.filterMap_nil, List.filter_cons,
      List.filter_nil, h1, h2, Option.map_some, valueOf_attrPieces, declStr, Option.isSome_some,
      Bool.not_true, Bool.false_eq_true, if_false, and_self]
  unfold spellDecl
  rw [if_neg (by simpa using h)]
  by_cases h0 : d.1 = Env.emptyPrefix
  · rw [if_pos (by simpa using h0)]
    exact key _ (by rw [h0, he.p0]; rfl) rfl
  · rw [if_neg (by simpa using h0)]
    exact key _ rfl rfl

theorem spellDecls_items (he : EnvFacts env) (ds : List (Nat × Nat)) (h : ∀ d ∈ ds, d.2 ≠ Env.xmlNamespace) :
    declsOf (ds.flatMap (spellDecl env)) = ds.map (declStr env) ∧ ordinary (ds.flatMap (spellDecl env)) = [] := by
  induction ds with
  | nil => exact ⟨rfl, rfl⟩
  | cons d ds ih =>
    obtain ⟨h1, h2⟩ := spellDecl_items he d (h d List.mem_cons_self)
    obtain ⟨h3, h4⟩ := ih (fun d' hd' => h d' (List.mem_cons_of_mem _ hd'))
    rw [List.flatMap_cons, declsOf_append, ordinary_append, h1, h2, h3, h4]
    exact ⟨rfl, rfl⟩

theorem valueOK_attribute_facts {name : Nat} {v : Str} (h : valueOK env (.attribute name v) = true) :
    env.localName name ≠ [] ∧
      ¬ (env.nsOfName name = Env.noNamespace ∧ env.localName name = xmlnsName) ∧
      (isXmlIdName env name = true → normalizeXmlId v = v) := by
  simp only [valueOK, Bool.and_eq_true, Bool.or_eq_true, Bool.not_eq_true', beq_iff_eq, ncNameNE,
    List.isEmpty_eq_false_iff, Bool.and_eq_false_iff, beq_eq_false_iff_ne, ne_eq] at h
  obtain ⟨⟨⟨⟨_, h1⟩, _⟩, h2⟩, h3⟩ := h
  refine ⟨h1, fun hh => ?_, fun hid => ?_⟩
  · rcases h2 with h2 | h2
    · exact h2 hh.1
    · exact h2 hh.2
  · rcases h3 with h3 | h3
    · rw [hid] at h3; cases h3
    · exact h3

/-- The value of an attribute whose EXPANDED name (as strings) is `xml:id` is ID-normalised already
    (`valueOK`): whether the builder applies the ID normalisation by the name as written or by the
    expanded name, it changes nothing on the values the serialiser wrote. -/
theorem attr_id_normalized (he : EnvFacts env) {a : Nat × Str} (hv : valueOK env (.attribute a.1 a.2) = true)
    (hns : env.nsOfName a.1 < env.namespaces.length)
    (hx : env.namespaceStr (env.nsOfName a.1) = xmlNsUri ∧ env.localName a.1 = ['i', 'd']) :
    normalizeXmlId a.2 = a.2 := by
  have h1 : env.nsOfName a.1 = Env.xmlNamespace :=
    he.namespaceStr_inj hns he.xmlNamespace_lt (by rw [hx.1, he.ns1])
  refine (valueOK_attribute_facts hv).2.2 ?_
  rw [isXmlIdName, h1, hx.2]
  rfl

theorem spellAttr_facts (he : EnvFacts env) {s : FStack} {fs : Frames} {sc : Scope}
    (hrel : ScopeRel env s fs sc) {a : Nat × Str} (hv : valueOK env (.attribute a.1 a.2) = true)
    {p : Option Nat} (hp : s.attributePrefix env a.1 = .ok p) :
    (spellAttr env s a).declares = none ∧ NSAttr.denote sc (spellAttr env s a) = attrStr env a ∧
      (spellAttr env s a).pfx.text = prefixText env p ∧
      ((spellAttr env s a).pfx.text ≠ [] → (sc.lookup (spellAttr env s a).pfx.text).isSome = true) := by
  obtain ⟨h1, h2, h3, h4, _, hns⟩ := hrel.attribute he hp
  have hpfx : (spellAttr env s a).pfx.text = prefixText env p := by
    simp only [spellAttr, hp, okPrefix, sp0]
  have hloc : (spellAttr env s a).loc.text = env.localName a.1 := rfl
  refine ⟨?_, ?_, hpfx, fun hne => hpfx ▸ h2 (hpfx ▸ hne)⟩
  · unfold NSAttr.declares
    rw [hpfx, hloc, if_neg (by simpa [← xmlnsName_eq] using h3)]
    apply if_neg
    simp only [Bool.and_eq_true, List.isEmpty_iff, beq_iff_eq, not_and]
    exact fun he0 hh => (valueOK_attribute_facts hv).2.1 ⟨h4 he0, hh⟩
  · unfold NSAttr.denote NSAttr.value
    rw [hpfx, hloc, h1]
    show (_, ite _ (normalizeXmlId (valueOf true (attrPieces a.2))) (valueOf true (attrPieces a.2))) = _
    rw [valueOf_attrPieces]
    simp only [attrStr, Env.expanded, Prod.mk.injEq, true_and, ite_eq_right_iff, beq_iff_eq]
    -- the ID normalisation applies to `xml:id` by expanded name: such a value is normalised already
    exact fun hc => attr_id_normalized he hv hns hc

theorem attrTokens_prefixes {s : FStack} (as : List (Nat × Str)) (ats : List Token)
    (h : attrTokens env s as = .ok ats) : ∀ a ∈ as, ∃ p, s.attributePrefix env a.1 = .ok p := by
  induction as generalizing ats with
  | nil => intro a ha; cases ha
  | cons x rest ih =>
    obtain ⟨p, ts', hp, hr, _⟩ := attrTokens_cons_ok env (name := x.1) (v := x.2) h
    intro a ha
    rcases List.mem_cons.mp ha with rfl | ha
    · exact ⟨p, hp⟩
    · exact ih ts' hr a ha

theorem spellAttrs_items (he : EnvFacts env) {s : FStack} {fs : Frames} {sc : Scope}
    (hrel : ScopeRel env s fs sc) (as : List (Nat × Str))
    (hv : ∀ a ∈ as, valueOK env (.attribute a.1 a.2) = true)
    (hp : ∀ a ∈ as, ∃ p, s.attributePrefix env a.1 = .ok p) :
    declsOf (as.map (spellAttr env s)) = [] ∧ ordinary (as.map (spellAttr env s)) = as.map (spellAttr env s) ∧
      (as.map (spellAttr env s)).map (NSAttr.denote sc) = as.map (attrStr env) := by
  have hf : ∀ a ∈ as, (spellAttr env s a).declares = none ∧
      NSAttr.denote sc (spellAttr env s a) = attrStr env a := fun a ha => by
    obtain ⟨p, hpa⟩ := hp a ha
    exact ⟨(spellAttr_facts he hrel (hv a ha) hpa).1, (spellAttr_facts he hrel (hv a ha) hpa).2.1⟩
  refine ⟨?_, ?_, ?_⟩
  · rw [declsOf, List.filterMap_map, List.filterMap_eq_nil_iff]
    intro a ha
    simp only [Function.comp, (hf a ha).1, Option.map_none]
  · rw [ordinary, List.filter_eq_self]
    intro x hx
    obtain ⟨a, ha, rfl⟩ := List.mem_map.mp hx
    simp only [NSAttr.isDecl, (hf a ha).1, Option.isSome_none, Bool.not_false]
  · rw [List.map_map]
    exact List.map_congr_left (fun a ha => (hf a ha).2)

theorem spellItems_facts (he : EnvFacts env) {s' : FStack} {fs : Frames} {sc : Scope}
    (hrel : ScopeRel env s' fs sc) (inScope : List (Nat × Nat)) (n : Tree) (hd : DeclsOK env n.nsDecls)
    (hv : ∀ a ∈ n.attrs, valueOK env (.attribute a.1 a.2) = true)
    (hp : ∀ a ∈ n.attrs, ∃ p, s'.attributePrefix env a.1 = .ok p) :
    declsOf (spellItems env inScope false s' n) = n.nsDecls.map (declStr env) ∧
      attrsOf sc (spellItems env inScope false s' n) = n.attrs.map (attrStr env) ∧
      ordinary (spellItems env inScope false s' n) = n.attrs.map (spellAttr env s') := by
  obtain ⟨h1, h2⟩ := spellDecls_items he n.nsDecls (fun d hd' => (valueOK_namespace_facts (hd.2 d hd')).2.1)
  obtain ⟨h3, h4, h5⟩ := spellAttrs_items he hrel n.attrs hv hp
  simp only [spellItems, writtenDecls, Bool.false_eq_true, if_false, List.nil_append, attrsOf,
    declsOf_append, ordinary_append, h1, h2, h3, h4, h5, List.append_nil, List.nil_append, and_self]

end XotModel
