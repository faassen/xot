/-
  The call keeps a tree in the C01 domain (`Keeps` for the rebuilt element, the element loop, a
  document, a fragment, an inner element), so the repaired tree serialises and reparses deep-equal
  to the tree before the call.
-/
import XotModel.Lemmas.BasicFacts
import XotModel.Lemmas.RepairRepresentable
import XotModel.Lemmas.CanonDropNs
import XotModel.Lemmas.RoundTripDeepEqual

/-! ### One call on an element of a `nodeOK` tree

  C10 and the round trip: `create_missing_prefixes` keeps a document inside the C01 domain.

  Hypothesis on the tables besides `envOK`: `nameTableOK env` — the namespace of every registered name
  has an XML-expressible URI (XML Chars only, and not empty unless it is the no-namespace id).  A tree
  can be `Representable` with an element in a namespace whose URI is, say, U+0001 (it is just not
  writable: no declaration of that namespace is `valueOK`); `create_missing_prefixes` would then add
  `xmlns:n0="&#x1;"`, which no parser accepts.  With `nameTableOK` every declaration the call adds —
  `xmlns:n{k}="URI of a name's namespace"`, `xmlns=""` — is a well-formed declaration.
-/

namespace XotModel.Repair
open XotModel

/-- The namespace `ns` can be declared: the no-namespace id, or a non-empty URI of XML Chars other
    than the xmlns namespace name (to which nothing can be bound: the parser refuses it). -/
def nsStrOK (env : Env) (ns : Nat) : Bool :=
  ns == Env.noNamespace || (!(env.namespaceStr ns).isEmpty && (env.namespaceStr ns).all isXmlChar &&
    env.namespaceStr ns != xmlnsNamespaceUri)

/-- Every registered name is in a declarable namespace. -/
def nameTableOK (env : Env) : Bool := env.names.all (fun n => nsStrOK env n.2)

theorem nsStrOK_nsOfName {env : Env} (h : nameTableOK env = true) (a : Nat) :
    nsStrOK env (env.nsOfName a) = true := by
  simp only [Env.nsOfName, List.getD_eq_getElem?_getD]
  cases hg : env.names[a]? with
  | none => simp [nsStrOK, Env.noNamespace]
  | some n =>
    simp only [nameTableOK, List.all_eq_true] at h
    exact h n (List.mem_of_getElem? hg)

theorem nameTableOK_ext {env env' : Env} (h : PrefixExt env env') (ht : nameTableOK env = true) :
    nameTableOK env' = true := by
  have e : nsStrOK env' = nsStrOK env := by funext ns; rw [nsStrOK, nsStrOK, h.namespaceStr]
  rw [nameTableOK, h.names, e]; exact ht

/-! ### What the walk reports missing -/

/-- A namespace the walk can report: a name's namespace other than none and XML. -/
def Reportable (nsOf : Nat → Nat) (ns : Nat) : Prop :=
  ns ≠ Env.noNamespace ∧ ns ≠ Env.xmlNamespace ∧ ∃ a, ns = nsOf a

theorem mem_missOf (nsOf : Nat → Nat) (top : List (Nat × Nat)) (name : Nat) (attrs m : List Nat) (x : Nat)
    (h : x ∈ missOf nsOf top name attrs m) : x ∈ m ∨ Reportable nsOf x := by
  rcases (mem_missOf_iff nsOf top name attrs m x).mp h with (h | ⟨he, rfl⟩) | ⟨a, _, ha, rfl⟩
  · exact Or.inl h
  · simp only [elemOk, Bool.or_eq_false_iff, beq_eq_false_iff_ne, ne_eq] at he
    exact Or.inr ⟨he.1.1, he.1.2, name, rfl⟩
  · simp only [attrOk, Bool.not_eq_true', Bool.or_eq_false_iff, beq_eq_false_iff_ne, ne_eq] at ha
    exact Or.inr ⟨ha.1.1, ha.1.2, a, rfl⟩

mutual
theorem mem_missing_collectRec (nsOf : Nat → Nat) : ∀ (t : Tree) (top : List (Nat × Nat)) (pre : Path)
    (acc : Acc) (x : Nat), x ∈ (collectRec nsOf top pre t acc).missing → x ∈ acc.missing ∨ Reportable nsOf x
  | .node v ks, top, pre, acc, x, h => by
    by_cases hv : v.isElement = true
    · obtain ⟨name, rfl⟩ := eq_element_of_isElement hv
      simp only [collectRec] at h
      rcases mem_missing_collectKids nsOf ks _ pre 0 _ x h with h1 | h1
      · exact mem_missOf nsOf _ name _ _ x h1
      · exact Or.inr h1
    · rw [collectRec_other nsOf top pre v ks acc (Bool.eq_false_iff.mpr hv)] at h
      exact mem_missing_collectKids nsOf ks top pre 0 acc x h
theorem mem_missing_collectKids (nsOf : Nat → Nat) : ∀ (ks : List Tree) (top : List (Nat × Nat)) (pre : Path)
    (i : Nat) (acc : Acc) (x : Nat), x ∈ (collectKids nsOf top pre i ks acc).missing →
      x ∈ acc.missing ∨ Reportable nsOf x
  | [], _, _, _, _, _, h => by simp only [collectKids] at h; exact Or.inl h
  | k :: ks, top, pre, i, acc, x, h => by
    simp only [collectKids] at h
    rcases mem_missing_collectKids nsOf ks top pre (i + 1) _ x h with h1 | h1
    · exact mem_missing_collectRec nsOf k top (pre ++ [i]) acc x h1
    · exact Or.inr h1
end

/-! ### The rebuilt element stays in the C01 domain -/

mutual
theorem keeps_rebuild {env : Env} (nsOf : Nat → Nat) (nd : List (Nat × Nat))
    (hnd : ∀ d ∈ nd, valueOK env (.namespace d.1 d.2) = true)
    (h00 : valueOK env (.namespace Env.emptyPrefix Env.noNamespace) = true) :
    ∀ (t : Tree) (isTop : Bool) (top : List (Nat × Nat)), t.allNodes (nodeOK env) = true →
      (isTop = true → t.value.isElement = true) → Keeps env (rebuild nsOf nd isTop top t) t
  | .node v ks, isTop, top, h, htop => by
    obtain ⟨ins, top', hins, hnil, e⟩ := rebuild_eq_insert nsOf nd isTop top v ks
    have K1 := keeps_node v (keepsList_rebuildKids nsOf nd hnd h00 ks top'
      (fun k hk => allNodes_kid h hk)) (nodeOK_of_allNodes h)
    rw [e]
    by_cases hv : v.isElement = true
    · refine (keeps_insertNamespaces ins (fun d hd => ?_) (.node v _) hv K1.ok).trans K1
      rcases hins d hd with h | rfl
      · exact hnd d h
      · exact h00
    · rw [hnil (Bool.eq_false_iff.mpr fun hb => hv (htop hb)) (Bool.eq_false_iff.mpr hv)]
      exact K1
theorem keepsList_rebuildKids {env : Env} (nsOf : Nat → Nat) (nd : List (Nat × Nat))
    (hnd : ∀ d ∈ nd, valueOK env (.namespace d.1 d.2) = true)
    (h00 : valueOK env (.namespace Env.emptyPrefix Env.noNamespace) = true) :
    ∀ (ks : List Tree) (top : List (Nat × Nat)), (∀ k ∈ ks, k.allNodes (nodeOK env) = true) →
      KeepsList env (rebuildKids nsOf nd top ks) ks
  | [], _, _ => by simp only [rebuildKids]; exact .nil
  | k :: ks, top, h => by
    simp only [rebuildKids]
    exact .cons (keeps_rebuild nsOf nd hnd h00 k false top (h k List.mem_cons_self) (fun hf => by cases hf))
      (keepsList_rebuildKids nsOf nd hnd h00 ks top (fun k' hk' => h k' (List.mem_cons_of_mem _ hk')))
end

theorem valueOK_undeclaration {env : Env} (he : envOK env = true) :
    valueOK env (.namespace Env.emptyPrefix Env.noNamespace) = true := by
  have f := envFacts_of_envOK he
  have h0 := f.ns0
  simp only [Env.noNamespace] at h0
  have : ([] : Str) ≠ xmlnsNamespaceUri := by decide
  simp [valueOK, h0, Env.emptyPrefix, Env.noNamespace, Env.xmlPrefix, Env.xmlNamespace, this]

/-- A declaration `xmlns:n{k}="URI"` of a reportable, declarable namespace is well formed. -/
theorem valueOK_generated {env : Env} (he : envOK env = true) {p ns : Nat} {s : Str}
    (hp : env.prefixes[p]? = some s) (hs : IsGenerated s) (hns : nsStrOK env ns = true)
    (h0 : ns ≠ Env.noNamespace) (h1 : ns ≠ Env.xmlNamespace) :
    valueOK env (.namespace p ns) = true := by
  have f := envFacts_of_envOK he
  have hstr : env.prefixStr p = s := by simp [Env.prefixStr, List.getD_eq_getElem?_getD, hp]
  obtain ⟨g1, g2⟩ := ncNameNE_generated hs
  have hpx : p ≠ Env.xmlPrefix := by
    intro hx
    rw [hx, f.p1] at hstr
    obtain ⟨k, hk⟩ := hs
    rw [hk] at hstr
    simp [generatedPrefixName] at hstr
  simp only [nsStrOK, Bool.or_eq_true, beq_iff_eq, h0, false_or, Bool.and_eq_true, bne_iff_ne, ne_eq] at hns
  simp only [valueOK, hstr, g1, Bool.and_eq_true, Bool.or_eq_true, bne_iff_ne, ne_eq, beq_iff_eq, hpx,
    not_false_eq_true, h1, h0, g2, and_self, or_true, true_and, hns.1.1, hns.1.2, hns.2]

theorem uniqueBelow_of_allNodes {env : Env} (t : Tree) (h : t.allNodes (nodeOK env) = true) :
    UniqueBelow t := by
  intro rel n' hn
  obtain ⟨v, ks⟩ := n'
  obtain ⟨_, _, hu, _, _⟩ := nodeOK_root (allNodes_at? rel t _ h hn)
  rw [frameOf_node]
  split
  · exact hu.2.sublist (keys_declsOfKids_sublist ks)
  · exact List.nodup_nil

/-- `create_missing_prefixes_for_element` on an element of a `nodeOK` tree, sane tables: only the
    prefix table grows, and the result is an edit of `t` inside the C01 domain of the NEW tables. -/
theorem repairElement_keeps (env : Env) (he : envOK env = true) (htab : nameTableOK env = true)
    (t : Tree) (hok : t.allNodes (nodeOK env) = true) (path : Path) (name : Nat) (ks : List Tree)
    (hat : t.at? path = some (.node (.element name) ks)) (env' : Env) (t' : Tree)
    (h : repairElement env t path = .ok (env', t')) : PrefixExt env env' ∧ Keeps env' t' t := by
  obtain ⟨nd, ha, rfl⟩ := repairElement_ok_inv hat h
  generalize hR : collectRec env.nsOfName (inheritedDecls t path) path (.node (.element name) ks) ⟨[], [], []⟩ = R at ha
  obtain ⟨s1, _⟩ := assignPrefixes_spec _ _ _ _ _ _ ha
  obtain ⟨hext, hgen⟩ := assignPrefixes_ext _ _ _ _ _ _ ha
  have he1 := envOK_ext hext he
  have hok1 := allNodes_ext hext t hok
  have hnd : ∀ d ∈ nd, valueOK env' (.namespace d.1 d.2) = true := by
    intro d hd
    obtain ⟨s, hs1, hs2⟩ := hgen d hd
    have hmem : d.2 ∈ R.missing := by rw [← s1]; exact List.mem_map_of_mem hd
    rw [← hR] at hmem
    rcases mem_missing_collectRec env.nsOfName _ _ _ _ _ hmem with h0 | ⟨r0, r1, a, ra⟩
    · cases h0
    · refine valueOK_generated he1 hs1 hs2 ?_ r0 r1
      rw [ra, ← hext.nsOfName]
      exact nsStrOK_nsOfName (nameTableOK_ext hext htab) a
  refine ⟨hext, keeps_scopeModifyAt_at _ path t hok1 (fun sub hs => ?_)⟩
  rw [hat] at hs
  cases hs
  exact keeps_rebuild env.nsOfName nd hnd (valueOK_undeclaration he1) _ true _
    (allNodes_at? path t _ hok1 hat) (fun _ => rfl)

end XotModel.Repair

/-! ### Documents, fragments, inner elements

  C10 and the round trip: `create_missing_prefixes` on the ROOT of a document or fragment (the
  loop over the element children) and on an element anywhere keeps the tree inside the C01 domain of
  the new tables; hypotheses of the writability theorems (`C10_repair_document_writable`) from
  `nodeOK`; `Repair.stripNs` is the neutral eraser `dropNs`.
-/

namespace XotModel.Repair
open XotModel

theorem kid_element_of_values {t1 t : Tree} (h : t1.kids.map Tree.value = t.kids.map Tree.value) {i : Nat}
    (hk : ∃ k, t.kids[i]? = some k ∧ k.value.isElement = true) :
    ∃ k1, t1.kids[i]? = some k1 ∧ k1.value.isElement = true := by
  obtain ⟨k, hk, hv⟩ := hk
  have := congrArg (fun l => l[i]?) h
  simp only [List.getElem?_map, hk, Option.map_some] at this
  cases h1 : t1.kids[i]? with
  | none => rw [h1] at this; cases this
  | some k1 =>
    rw [h1] at this
    simp only [Option.map_some, Option.some.injEq] at this
    exact ⟨k1, rfl, by rw [this]; exact hv⟩

theorem repairElements_keeps : ∀ (idxs : List Nat) (env : Env) (t : Tree), envOK env = true →
    nameTableOK env = true → t.allNodes (nodeOK env) = true → t.value.isElement = false →
    (∀ i ∈ idxs, ∃ k, t.kids[i]? = some k ∧ k.value.isElement = true) →
    ∀ (env' : Env) (t' : Tree), repairElements idxs [] env t = .ok (env', t') →
      PrefixExt env env' ∧ Keeps env' t' t
  | [], env, t, _, _, hok, _, _, env', t', h => by
    simp only [repairElements, Outcome.ok.injEq, Prod.mk.injEq] at h
    obtain ⟨rfl, rfl⟩ := h
    exact ⟨PrefixExt.refl _, Keeps.refl hok⟩
  | i :: rest, env, t, he, htab, hok, hne, hidx, env', t', h => by
    simp only [repairElements, List.nil_append] at h
    cases hr : repairElement env t [i] with
    | err e => rw [hr] at h; cases h
    | panic => rw [hr] at h; cases h
    | ok r =>
      obtain ⟨env1, t1⟩ := r
      rw [hr] at h
      simp only at h
      obtain ⟨k, hk, hv⟩ := hidx i List.mem_cons_self
      obtain ⟨name, ks, rfl⟩ := isElement_node hv
      have hat : t.at? [i] = some (.node (.element name) ks) := by
        have := at?_child t [] i t rfl
        simpa [hk] using this
      obtain ⟨e1, k1⟩ := repairElement_keeps env he htab t hok [i] name ks hat env1 t1 hr
      have hne1 : t1.value.isElement = false := by rw [k1.value]; exact hne
      obtain ⟨e2, k2⟩ := repairElements_keeps rest env1 t1 (envOK_ext e1 he) (nameTableOK_ext e1 htab) k1.ok hne1
        (fun j hj => kid_element_of_values (k1.top hne) (hidx j (List.mem_cons_of_mem _ hj))) env' t' h
      exact ⟨e1.trans e2, k2.trans (Keeps.ext e2 k1)⟩

/-- `create_missing_prefixes(root)` of a document or fragment. -/
theorem createMissingPrefixes_keeps (env : Env) (he : envOK env = true) (htab : nameTableOK env = true)
    (t : Tree) (hok : t.allNodes (nodeOK env) = true) (hdoc : t.value.isDocument = true)
    (env' : Env) (t' : Tree) (h : createMissingPrefixes env t [] = .ok (env', t')) :
    PrefixExt env env' ∧ Keeps env' t' t := by
  obtain ⟨_, hrun⟩ := createMissingPrefixes_document env t [] t rfl hdoc env' t' h
  have hne : t.value.isElement = false := not_isElement_of_isDocument hdoc
  exact repairElements_keeps _ env t he htab hok hne (fun i hi => mem_elementKidIndices.mp hi) env' t' hrun

/-- `create_missing_prefixes(element)` for an element anywhere in the tree. -/
theorem createMissingPrefixes_element_keeps (env : Env) (he : envOK env = true) (htab : nameTableOK env = true)
    (t : Tree) (hok : t.allNodes (nodeOK env) = true) (path : Path) (name : Nat) (ks : List Tree)
    (hat : t.at? path = some (.node (.element name) ks))
    (env' : Env) (t' : Tree) (h : createMissingPrefixes env t path = .ok (env', t')) :
    PrefixExt env env' ∧ Keeps env' t' t := by
  have : createMissingPrefixes env t path = repairElement env t path := by
    simp [createMissingPrefixes, hat, Tree.value, Value.isDocument, Value.isElement]
  rw [this] at h
  exact repairElement_keeps env he htab t hok path name ks hat env' t' h

/-! ### Back to `Representable` -/

theorem representableFragment_ext {env env' : Env} (h : PrefixExt env env') {t : Tree}
    (hr : RepresentableFragment env t = true) : RepresentableFragment env' t = true := by
  obtain ⟨h1, h2, h3, h4⟩ := (representableFragment_iff env t).mp hr
  exact (representableFragment_iff env' t).mpr
    ⟨envOK_ext h h1, h2, allNodes_ext h t h3, by rw [xmlIdValues_ext h]; exact h4⟩

theorem representable_ext {env env' : Env} (h : PrefixExt env env') {t : Tree}
    (hr : Representable env t = true) : Representable env' t = true := by
  rw [representable_iff] at hr ⊢
  exact ⟨representableFragment_ext h hr.1, hr.2⟩

theorem allNodes_of_representableFragment {env : Env} {t : Tree} (hr : RepresentableFragment env t = true) :
    envOK env = true ∧ t.value.isDocument = true ∧ t.allNodes (nodeOK env) = true := by
  obtain ⟨h1, h2, h3, _⟩ := (representableFragment_iff env t).mp hr
  exact ⟨h1, h2, h3⟩

/-- **The call keeps a fragment in the C01 domain** (new tables). -/
theorem createMissingPrefixes_representableFragment (env : Env) (t : Tree)
    (hr : RepresentableFragment env t = true) (htab : nameTableOK env = true) (env' : Env) (t' : Tree)
    (h : createMissingPrefixes env t [] = .ok (env', t')) :
    PrefixExt env env' ∧ RepresentableFragment env' t' = true ∧ nameTableOK env' = true := by
  obtain ⟨h1, h2, h3⟩ := allNodes_of_representableFragment hr
  obtain ⟨e, k⟩ := createMissingPrefixes_keeps env h1 htab t h3 h2 env' t' h
  exact ⟨e, representableFragment_of_keeps (representableFragment_ext e hr) k, nameTableOK_ext e htab⟩

theorem createMissingPrefixes_representable (env : Env) (t : Tree)
    (hr : Representable env t = true) (htab : nameTableOK env = true) (env' : Env) (t' : Tree)
    (h : createMissingPrefixes env t [] = .ok (env', t')) :
    PrefixExt env env' ∧ Representable env' t' = true ∧ nameTableOK env' = true := by
  obtain ⟨h1, h2, h3⟩ := allNodes_of_representableFragment ((representable_iff _ t).mp hr).1
  obtain ⟨e, k⟩ := createMissingPrefixes_keeps env h1 htab t h3 h2 env' t' h
  exact ⟨e, representable_of_keeps (representable_ext e hr) k, nameTableOK_ext e htab⟩

theorem createMissingPrefixes_element_representable (env : Env) (t : Tree)
    (hr : Representable env t = true) (htab : nameTableOK env = true) (path : Path) (name : Nat)
    (ks : List Tree) (hat : t.at? path = some (.node (.element name) ks)) (env' : Env) (t' : Tree)
    (h : createMissingPrefixes env t path = .ok (env', t')) :
    PrefixExt env env' ∧ Representable env' t' = true ∧ nameTableOK env' = true := by
  obtain ⟨h1, _, h3⟩ := allNodes_of_representableFragment ((representable_iff _ t).mp hr).1
  obtain ⟨e, k⟩ := createMissingPrefixes_element_keeps env h1 htab t h3 path name ks hat env' t' h
  exact ⟨e, representable_of_keeps (representable_ext e hr) k, nameTableOK_ext e htab⟩

/-! ### The hypotheses of the C10 writability theorems, from `nodeOK` -/

theorem envOk_of_envOK {env : Env} (he : envOK env = true) : EnvOk env := by
  have f := envFacts_of_envOK he
  have hp1 : env.prefixStr Env.xmlPrefix ≠ [] := by rw [f.p1]; simp
  have h0 := f.p0
  unfold EnvOk
  simp only [Env.prefixStr, Env.emptyPrefix, Env.xmlPrefix, List.getD_eq_getElem?_getD] at h0 hp1
  cases hp : env.prefixes with
  | nil => rw [hp] at hp1; simp at hp1
  | cons a rest => rw [hp] at h0; simp at h0; simp [h0]

theorem kids_unique_of_allNodes {env : Env} {t : Tree} (h : t.allNodes (nodeOK env) = true) :
    ∀ (i : Nat) (k : Tree), t.kids[i]? = some k → k.value.isElement = true → UniqueBelow k := by
  intro i k hk _
  cases t with
  | node v ks => exact uniqueBelow_of_allNodes k (allNodes_kid h (List.mem_of_getElem? hk))

theorem kids_leaves_of_allNodes {env : Env} {t : Tree} (h : t.allNodes (nodeOK env) = true)
    (hdoc : t.value.isDocument = true) :
    ∀ (i : Nat) (k : Tree), t.kids[i]? = some k → k.value.isElement = false → k.kids = [] := by
  intro i k hk hne
  cases t with
  | node v ks =>
    simp only [Tree.kids] at hk
    have hmem := List.mem_of_getElem? hk
    obtain ⟨_, hkind, _⟩ := nodeOK_root h
    have hko := allNodes_kid h hmem
    cases k with
    | node kv kk => exact allNodes_leaf env hko (isLeafKind_of_not hne (hkind.2.2 _ hmem))

mutual
theorem stripNs_eq_dropNs : ∀ t : Tree, stripNs t = dropNs t
  | .node v ks => by simp only [stripNs, dropNs, stripNsKids_eq_dropNsList ks]
theorem stripNsKids_eq_dropNsList : ∀ ks : List Tree, stripNsKids ks = dropNsList ks
  | [] => by simp [stripNsKids, dropNsList]
  | k :: ks => by
    simp only [stripNsKids, dropNsList, stripNs_eq_dropNs k, stripNsKids_eq_dropNsList ks]
end

/-- Two `nodeOK` trees with the same skeleton (namespace nodes erased) are `deep_equal`. -/
theorem deepEqual_of_stripNs {env : Env} {a b : Tree} (ha : a.allNodes (nodeOK env) = true)
    (hb : b.allNodes (nodeOK env) = true) (h : stripNs a = stripNs b) : deepEqual a b = true :=
  deepEqual_of_dropNs a b (valid_of_nodeOK a ha) (valid_of_nodeOK b hb)
    (by rw [← stripNs_eq_dropNs, ← stripNs_eq_dropNs, h])

end XotModel.Repair
