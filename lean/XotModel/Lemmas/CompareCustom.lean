/-
  Lemmas for C13: `advanced_deep_equal` with ANY filter and text comparison, on ARBITRARY trees (children
  in any order, children under attribute / namespace nodes, repeated attribute names).
  * where the supplied comparison is consulted (`compareValue_cases`; `compareAttributes_true_iff` is in
    Lemmas/CompareBasic.lean);
  * the equivalence-relation laws of `cmp` on strings carry over to `advancedDeepEqual f cmp` on trees:
    transitivity on ALL trees, reflexivity and symmetry whenever no attribute view
    (`skip_while namespace / take_while attribute`) repeats a name (`attrViewsNodup`, implied by `valid`);
    with a repeated name both fail.
  `deep_equal` itself is the instance `==` with the trivial filter (last section).
-/
import XotModel.Lemmas.CompareBasic

/-! ## `advanced_deep_equal` with any filter and text comparison -/

namespace XotModel

theorem compareAttributes_refl {cmp : TextCmp} (hr : ∀ s, cmp s s = true) {a : Tree} (h : keysNodup a.attrs) :
    compareAttributes cmp a a = true := by
  rw [compareAttributes_true_iff]
  exact ⟨rfl, fun kv hkv => ⟨kv.2, lookup_of_mem h hkv, hr _⟩⟩

theorem compareAttributes_trans {cmp : TextCmp} (ht : ∀ s t u, cmp s t = true → cmp t u = true → cmp s u = true)
    {a b c : Tree} (h1 : compareAttributes cmp a b = true) (h2 : compareAttributes cmp b c = true) :
    compareAttributes cmp a c = true := by
  rw [compareAttributes_true_iff] at *
  refine ⟨h1.1.trans h2.1, fun kv hkv => ?_⟩
  obtain ⟨w, hw, hc⟩ := h1.2 kv hkv
  obtain ⟨u, hu, hc'⟩ := h2.2 (kv.1, w) (mem_of_lookup hw)
  exact ⟨u, hu, ht _ _ _ hc hc'⟩

theorem compareAttributes_symm' {cmp : TextCmp} (hs : ∀ s t, cmp s t = true → cmp t s = true) {a b : Tree}
    (ha : keysNodup a.attrs) (h : compareAttributes cmp a b = true) : compareAttributes cmp b a = true := by
  rw [compareAttributes_true_iff] at *
  obtain ⟨hlen, hall⟩ := h
  refine ⟨hlen.symm, ?_⟩
  -- `a` with every value replaced by the one `b` holds under that name: key-unique, included in `b`,
  -- of the same length, hence a permutation of `b`
  let g : Nat × Str → Nat × Str := fun kv => (kv.1, (b.attrs.lookup kv.1).getD [])
  have hkeys : (a.attrs.map g).map (·.1) = a.attrs.map (·.1) := by
    rw [List.map_map]; rfl
  have hn : keysNodup (a.attrs.map g) := by unfold keysNodup; rw [hkeys]; exact ha
  have hsub : ∀ x ∈ a.attrs.map g, x ∈ b.attrs := by
    intro x hx
    obtain ⟨kv, hkv, rfl⟩ := List.mem_map.mp hx
    obtain ⟨w, hw, _⟩ := hall kv hkv
    show (kv.1, (b.attrs.lookup kv.1).getD []) ∈ b.attrs
    rw [hw]; exact mem_of_lookup hw
  have hp : (a.attrs.map g).Perm b.attrs :=
    perm_of_subset_length (nodup_of_keysNodup hn) hsub (by rw [List.length_map]; exact hlen)
  intro kv hkv
  obtain ⟨kv0, hkv0, he⟩ := List.mem_map.mp (hp.symm.subset hkv)
  obtain ⟨w, hw, hc⟩ := hall kv0 hkv0
  have hk : kv.1 = kv0.1 := by rw [← he]
  have hv : kv.2 = w := by rw [← he]; show (b.attrs.lookup kv0.1).getD [] = w; rw [hw]; rfl
  refine ⟨kv0.2, ?_, ?_⟩
  · rw [hk]; exact lookup_of_mem ha hkv0
  · rw [hv]; exact hs _ _ hc

/-- The seven arms of `advanced_compare_value`, with the place of the supplied comparison visible: text,
    PI data (both present), the value of an attribute node, and (through `compareAttributes`) the values of
    the attributes of an element; comment data, names, PI targets, prefixes, namespaces: `==`. -/
theorem compareValue_cases (cmp : TextCmp) (a b : Tree) :
    compareValue cmp a b = true ↔
      (a.value = .document ∧ b.value = .document) ∨
      (∃ n, a.value = .element n ∧ b.value = .element n ∧ compareAttributes cmp a b = true) ∨
      (∃ s t, a.value = .text s ∧ b.value = .text t ∧ cmp s t = true) ∨
      (∃ s, a.value = .comment s ∧ b.value = .comment s) ∨
      (∃ tg, a.value = .pi tg none ∧ b.value = .pi tg none) ∨
      (∃ tg s t, a.value = .pi tg (some s) ∧ b.value = .pi tg (some t) ∧ cmp s t = true) ∨
      (∃ n s t, a.value = .attribute n s ∧ b.value = .attribute n t ∧ cmp s t = true) ∨
      (∃ p n, a.value = .namespace p n ∧ b.value = .namespace p n) := by
  constructor
  · intro h
    unfold compareValue at h
    split at h
    next ha hb => exact Or.inl ⟨ha, hb⟩
    next na nb ha hb =>
      rw [Bool.and_eq_true, beq_iff_eq] at h
      obtain ⟨rfl, h⟩ := h
      exact Or.inr (Or.inl ⟨na, ha, hb, h⟩)
    next sa sb ha hb => exact Or.inr (Or.inr (Or.inl ⟨sa, sb, ha, hb, h⟩))
    next sa sb ha hb =>
      rw [beq_iff_eq] at h
      subst h
      exact Or.inr (Or.inr (Or.inr (Or.inl ⟨sa, ha, hb⟩)))
    next ta da tb db ha hb =>
      split at h
      · cases h
      next ht =>
        rw [bne_iff_ne, ne_eq, Decidable.not_not] at ht
        subst ht
        split at h
        next ca cb => exact Or.inr (Or.inr (Or.inr (Or.inr (Or.inr (Or.inl ⟨ta, ca, cb, ha, hb, h⟩)))))
        next => exact Or.inr (Or.inr (Or.inr (Or.inr (Or.inl ⟨ta, ha, hb⟩))))
        next => cases h
    next na va nb vb ha hb =>
      rw [Bool.and_eq_true, beq_iff_eq] at h
      obtain ⟨rfl, h⟩ := h
      exact Or.inr (Or.inr (Or.inr (Or.inr (Or.inr (Or.inr (Or.inl ⟨na, va, vb, ha, hb, h⟩))))))
    next pa na pb nb ha hb =>
      rw [Bool.and_eq_true, beq_iff_eq, beq_iff_eq] at h
      obtain ⟨rfl, rfl⟩ := h
      exact Or.inr (Or.inr (Or.inr (Or.inr (Or.inr (Or.inr (Or.inr ⟨pa, na, ha, hb⟩))))))
    next => cases h
  · -- each alternative names the arm of the match that is taken
    rintro (⟨h1, h2⟩ | ⟨n, h1, h2, h3⟩ | ⟨s, t, h1, h2, h3⟩ | ⟨s, h1, h2⟩ | ⟨t, h1, h2⟩ |
      ⟨tg, s, t, h1, h2, h3⟩ | ⟨n, s, t, h1, h2, h3⟩ | ⟨p, n, h1, h2⟩) <;>
    simp only [compareValue, *, beq_self_eq_true, Bool.and_self, bne_self_eq_false, Bool.false_eq_true, if_false]

theorem compareValue_refl {cmp : TextCmp} (hr : ∀ s, cmp s s = true) {a : Tree} (h : keysNodup a.attrs) :
    compareValue cmp a a = true := by
  obtain ⟨v, ks⟩ := a
  cases v with
  | element n =>
    simp only [compareValue, Tree.value, beq_self_eq_true, Bool.true_and]
    exact compareAttributes_refl hr h
  | pi t d => cases d <;> simp only [compareValue, Tree.value, bne_self_eq_false, Bool.false_eq_true, if_false, hr]
  | _ => simp only [compareValue, Tree.value, hr, beq_self_eq_true, Bool.and_self]

theorem compareValue_symm' {cmp : TextCmp} (hs : ∀ s t, cmp s t = true → cmp t s = true) {a b : Tree}
    (ha : keysNodup a.attrs) (h : compareValue cmp a b = true) : compareValue cmp b a = true := by
  rw [compareValue_cases] at h
  -- with the two values known the match evaluates; what is left is the symmetry of `cmp`
  rcases h with ⟨h1, h2⟩ | ⟨n, h1, h2, h3⟩ | ⟨s, t, h1, h2, h3⟩ | ⟨s, h1, h2⟩ | ⟨t, h1, h2⟩ |
    ⟨tg, s, t, h1, h2, h3⟩ | ⟨n, s, t, h1, h2, h3⟩ | ⟨p, n, h1, h2⟩ <;>
  simp only [compareValue, h1, h2, beq_self_eq_true, Bool.true_and, Bool.and_self, bne_self_eq_false,
    Bool.false_eq_true, if_false]
  · exact compareAttributes_symm' hs ha h3
  · exact hs _ _ h3
  · exact hs _ _ h3
  · exact hs _ _ h3

theorem compareValue_symm {cmp : TextCmp} (hs : ∀ s t, cmp s t = true → cmp t s = true) {a b : Tree}
    (ha : keysNodup a.attrs) (hb : keysNodup b.attrs) :
    compareValue cmp a b = compareValue cmp b a := by
  cases h1 : compareValue cmp a b
  · cases h2 : compareValue cmp b a
    · rfl
    · rw [compareValue_symm' hs hb h2] at h1; cases h1
  · exact (compareValue_symm' hs ha h1).symm

theorem compareValue_trans {cmp : TextCmp} (ht : ∀ s t u, cmp s t = true → cmp t u = true → cmp s u = true)
    {a b c : Tree} (h1 : compareValue cmp a b = true) (h2 : compareValue cmp b c = true) :
    compareValue cmp a c = true := by
  rw [compareValue_cases] at h1 h2
  -- the two alternatives have to agree on the value of `b`
  rcases h1 with ⟨a1, b1⟩ | ⟨n, a1, b1, c1⟩ | ⟨s, t, a1, b1, c1⟩ | ⟨s, a1, b1⟩ | ⟨t, a1, b1⟩ |
    ⟨tg, s, t, a1, b1, c1⟩ | ⟨n, s, t, a1, b1, c1⟩ | ⟨p, n, a1, b1⟩ <;>
  rcases h2 with ⟨a2, b2⟩ | ⟨n', a2, b2, c2⟩ | ⟨s', t', a2, b2, c2⟩ | ⟨s', a2, b2⟩ | ⟨t', a2, b2⟩ |
    ⟨tg', s', t', a2, b2, c2⟩ | ⟨n', s', t', a2, b2, c2⟩ | ⟨p', n', a2, b2⟩ <;>
  (rw [b1] at a2) <;> cases a2 <;>
  simp only [compareValue, a1, b2, beq_self_eq_true, Bool.true_and, Bool.and_self, bne_self_eq_false,
    Bool.false_eq_true, if_false]
  · exact compareAttributes_trans ht c1 c2
  · exact ht _ _ _ c1 c2
  · exact ht _ _ _ c1 c2
  · exact ht _ _ _ c1 c2

theorem compareValue_isNormal {cmp : TextCmp} {a b : Tree} (h : compareValue cmp a b = true) :
    a.value.isNormal = b.value.isNormal := by
  rw [compareValue_cases] at h
  rcases h with ⟨h1, h2⟩ | ⟨n, h1, h2, _⟩ | ⟨s, t, h1, h2, _⟩ | ⟨s, h1, h2⟩ | ⟨t, h1, h2⟩ |
    ⟨tg, s, t, h1, h2, _⟩ | ⟨n, s, t, h1, h2, _⟩ | ⟨p, n, h1, h2⟩ <;> rw [h1, h2] <;> rfl

/-- Every node of the forest has an attribute view without repeated names. -/
def FNode.ok : FNode → Prop
  | .mk o ks => keysNodup o.attrs ∧ okList ks
where
  okList : List FNode → Prop
    | [] => True
    | k :: ks => FNode.ok k ∧ okList ks

theorem okList_append (a b : List FNode) : FNode.ok.okList (a ++ b) ↔ FNode.ok.okList a ∧ FNode.ok.okList b := by
  induction a with
  | nil => simp [FNode.ok.okList]
  | cons x xs ih => simp [FNode.ok.okList, ih, and_assoc]

section
variable {cmp : TextCmp}

mutual
theorem nodeEqv_cmp_trans (ht : ∀ s t u, cmp s t = true → cmp t u = true → cmp s u = true) :
    ∀ (x y z : FNode), nodeEqv cmp x y = true → nodeEqv cmp y z = true → nodeEqv cmp x z = true
  | .mk a ka, .mk b kb, .mk c kc, h1, h2 => by
    simp only [nodeEqv, Bool.and_eq_true] at *
    exact ⟨compareValue_trans ht h1.1 h2.1, forestEqv_cmp_trans ht ka kb kc h1.2 h2.2⟩
theorem forestEqv_cmp_trans (ht : ∀ s t u, cmp s t = true → cmp t u = true → cmp s u = true) :
    ∀ (xs ys zs : List FNode), forestEqv cmp xs ys = true → forestEqv cmp ys zs = true →
      forestEqv cmp xs zs = true
  | [], [], [], _, _ => rfl
  | [], [], _ :: _, _, h2 => by simp [forestEqv] at h2
  | [], _ :: _, _, h1, _ => by simp [forestEqv] at h1
  | _ :: _, [], _, h1, _ => by simp [forestEqv] at h1
  | _ :: _, _ :: _, [], _, h2 => by simp [forestEqv] at h2
  | x :: xs, y :: ys, z :: zs, h1, h2 => by
    simp only [forestEqv, Bool.and_eq_true] at *
    exact ⟨nodeEqv_cmp_trans ht x y z h1.1 h2.1, forestEqv_cmp_trans ht xs ys zs h1.2 h2.2⟩
end

mutual
theorem nodeEqv_cmp_refl (hr : ∀ s, cmp s s = true) : ∀ (x : FNode), x.ok → nodeEqv cmp x x = true
  | .mk a ka, h => by
    simp only [nodeEqv, Bool.and_eq_true]
    exact ⟨compareValue_refl hr h.1, forestEqv_cmp_refl hr ka h.2⟩
theorem forestEqv_cmp_refl (hr : ∀ s, cmp s s = true) :
    ∀ (xs : List FNode), FNode.ok.okList xs → forestEqv cmp xs xs = true
  | [], _ => rfl
  | x :: xs, h => by
    simp only [forestEqv, Bool.and_eq_true]
    exact ⟨nodeEqv_cmp_refl hr x h.1, forestEqv_cmp_refl hr xs h.2⟩
end

mutual
theorem nodeEqv_cmp_symm (hs : ∀ s t, cmp s t = true → cmp t s = true) :
    ∀ (x y : FNode), x.ok → y.ok → nodeEqv cmp x y = nodeEqv cmp y x
  | .mk a ka, .mk b kb, hx, hy => by
    simp only [nodeEqv, compareValue_symm hs hx.1 hy.1, forestEqv_cmp_symm hs ka kb hx.2 hy.2]
theorem forestEqv_cmp_symm (hs : ∀ s t, cmp s t = true → cmp t s = true) :
    ∀ (xs ys : List FNode), FNode.ok.okList xs → FNode.ok.okList ys →
      forestEqv cmp xs ys = forestEqv cmp ys xs
  | [], [], _, _ => rfl
  | [], _ :: _, _, _ => rfl
  | _ :: _, [], _, _ => rfl
  | x :: xs, y :: ys, hx, hy => by
    simp only [forestEqv, nodeEqv_cmp_symm hs x y hx.1 hy.1, forestEqv_cmp_symm hs xs ys hx.2 hy.2]
end

end

/-- At every node below (and including) `t` the attribute view has no repeated name.  Nothing is
    asked about the order of the children or about children of attribute / namespace nodes. -/
def Tree.attrViewsNodup : Tree → Bool
  | .node v ks => decide (((Tree.node v ks).attrs.map (·.1)).Nodup) && viewsList ks
where
  viewsList : List Tree → Bool
    | [] => true
    | k :: ks => Tree.attrViewsNodup k && viewsList ks

mutual
theorem proj_ok (f : NodeFilter) : ∀ t : Tree, t.attrViewsNodup = true → FNode.ok.okList (proj f t)
  | .node v ks => by
    intro h
    simp only [Tree.attrViewsNodup, Bool.and_eq_true, decide_eq_true_eq] at h
    have hk := projList_ok f ks h.2
    simp only [proj]
    split
    · exact ⟨⟨h.1, hk⟩, trivial⟩
    · exact hk
theorem projList_ok (f : NodeFilter) : ∀ ks : List Tree, Tree.attrViewsNodup.viewsList ks = true →
    FNode.ok.okList (projList f ks)
  | [] => fun _ => trivial
  | k :: ks => by
    intro h
    simp only [Tree.attrViewsNodup.viewsList, Bool.and_eq_true] at h
    simp only [projList, okList_append]
    exact ⟨proj_ok f k h.1, projList_ok f ks h.2⟩
end

theorem attrViewsNodup_root {t : Tree} (h : t.attrViewsNodup = true) : keysNodup t.attrs := by
  obtain ⟨v, ks⟩ := t
  simp only [Tree.attrViewsNodup, Bool.and_eq_true, decide_eq_true_eq] at h
  exact h.1

/-- A structurally valid tree satisfies the hypothesis. -/
theorem attrViewsNodup_of_valid (t : Tree) : t.valid = true → t.attrViewsNodup = true := by
  induction t using Tree.induct_mem with
  | h v ks ih =>
    intro hv
    obtain ⟨ho, hn, _, hk⟩ := valid_node hv
    simp only [Tree.attrViewsNodup, Bool.and_eq_true, decide_eq_true_eq]
    refine ⟨?_, ?_⟩
    · rw [attrs_of_ordered ho]; simpa [attrNamesNodup, keysNodup] using hn
    · have : ∀ l : List Tree, (∀ k ∈ l, k.attrViewsNodup = true) → Tree.attrViewsNodup.viewsList l = true := by
        intro l
        induction l with
        | nil => intro _; rfl
        | cons x xs ihx =>
          intro hl
          simp only [Tree.attrViewsNodup.viewsList, Bool.and_eq_true]
          exact ⟨hl x List.mem_cons_self, ihx (fun y hy => hl y (List.mem_cons_of_mem _ hy))⟩
      exact this ks (fun k hk' => ih k hk' (hk k hk'))

theorem advancedDeepEqual_refl (f : NodeFilter) {cmp : TextCmp} (hr : ∀ s, cmp s s = true) (a : Tree)
    (h : a.attrViewsNodup = true) : advancedDeepEqual f cmp a a = true := by
  by_cases hn : a.value.isNormal = true
  · rw [advancedDeepEqual_eq _ _ _ _ hn hn]; exact forestEqv_cmp_refl hr _ (proj_ok _ a h)
  · rw [advancedDeepEqual_abnormal _ _ _ _ (Or.inl hn)]; exact compareValue_refl hr (attrViewsNodup_root h)

theorem advancedDeepEqual_symm (f : NodeFilter) {cmp : TextCmp} (hs : ∀ s t, cmp s t = true → cmp t s = true)
    (a b : Tree) (ha : a.attrViewsNodup = true) (hb : b.attrViewsNodup = true) :
    advancedDeepEqual f cmp a b = advancedDeepEqual f cmp b a := by
  by_cases h : a.value.isNormal = true ∧ b.value.isNormal = true
  · rw [advancedDeepEqual_eq _ _ _ _ h.1 h.2, advancedDeepEqual_eq _ _ _ _ h.2 h.1]
    exact forestEqv_cmp_symm hs _ _ (proj_ok _ a ha) (proj_ok _ b hb)
  · have h' := Decidable.not_and_iff_not_or_not.mp h
    rw [advancedDeepEqual_abnormal _ _ _ _ h', advancedDeepEqual_abnormal _ _ _ _ h'.symm]
    exact compareValue_symm hs (attrViewsNodup_root ha) (attrViewsNodup_root hb)

/-- Transitivity needs nothing of the trees: a true answer of the direct comparison relates nodes of the
    same normality, so the three comparisons are of the same kind (the filtered zip alone would not give
    this: a filter that drops everything makes any two normal nodes equal). -/
theorem advancedDeepEqual_trans (f : NodeFilter) {cmp : TextCmp}
    (ht : ∀ s t u, cmp s t = true → cmp t u = true → cmp s u = true) (a b c : Tree)
    (hab : advancedDeepEqual f cmp a b = true) (hbc : advancedDeepEqual f cmp b c = true) :
    advancedDeepEqual f cmp a c = true := by
  by_cases ha : a.value.isNormal = true
  · by_cases hb : b.value.isNormal = true
    · rw [advancedDeepEqual_eq _ _ _ _ ha hb] at hab
      by_cases hc : c.value.isNormal = true
      · rw [advancedDeepEqual_eq _ _ _ _ hb hc] at hbc
        rw [advancedDeepEqual_eq _ _ _ _ ha hc]
        exact forestEqv_cmp_trans ht _ _ _ hab hbc
      · rw [advancedDeepEqual_abnormal _ _ _ _ (Or.inr hc)] at hbc
        exact absurd (compareValue_isNormal hbc ▸ hb) hc
    · rw [advancedDeepEqual_abnormal _ _ _ _ (Or.inr hb)] at hab
      exact absurd (compareValue_isNormal hab ▸ ha) hb
  · rw [advancedDeepEqual_abnormal _ _ _ _ (Or.inl ha)] at hab
    have hb : ¬ b.value.isNormal = true := compareValue_isNormal hab ▸ ha
    rw [advancedDeepEqual_abnormal _ _ _ _ (Or.inl hb)] at hbc
    rw [advancedDeepEqual_abnormal _ _ _ _ (Or.inl ha)]
    exact compareValue_trans ht hab hbc

end XotModel

/-! ## `deep_equal`: the instance `==`, trivial filter -/

namespace XotModel

theorem Compare.strEq_refl (s : Str) : strEq s s = true := beq_self_eq_true s

theorem Compare.strEq_symm (s t : Str) (h : strEq s t = true) : strEq t s = true :=
  beq_iff_eq.mpr (beq_iff_eq.mp h).symm

theorem Compare.strEq_trans (s t u : Str) (h1 : strEq s t = true) (h2 : strEq t u = true) : strEq s u = true :=
  beq_iff_eq.mpr ((beq_iff_eq.mp h1).trans (beq_iff_eq.mp h2))

theorem nodeEqv_trans : ∀ (x y z : FNode), nodeEqv strEq x y = true → nodeEqv strEq y z = true →
    nodeEqv strEq x z = true :=
  nodeEqv_cmp_trans Compare.strEq_trans

theorem nodeEqv_refl : ∀ (x : FNode), x.ok → nodeEqv strEq x x = true :=
  nodeEqv_cmp_refl Compare.strEq_refl

theorem nodeEqv_symm : ∀ (x y : FNode), x.ok → y.ok → nodeEqv strEq x y = nodeEqv strEq y x :=
  nodeEqv_cmp_symm Compare.strEq_symm

theorem deepEqual_trans_all (a b c : Tree) (hab : deepEqual a b = true) (hbc : deepEqual b c = true) :
    deepEqual a c = true :=
  advancedDeepEqual_trans _ Compare.strEq_trans a b c hab hbc

theorem deepEqual_refl_all (a : Tree) (h : a.attrViewsNodup = true) : deepEqual a a = true :=
  advancedDeepEqual_refl _ Compare.strEq_refl a h

theorem deepEqual_symm_all (a b : Tree) (ha : a.attrViewsNodup = true) (hb : b.attrViewsNodup = true) :
    deepEqual a b = deepEqual b a :=
  advancedDeepEqual_symm _ Compare.strEq_symm a b ha hb

end XotModel
