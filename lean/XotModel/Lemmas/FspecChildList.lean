/-
  The child list of one node under xot's and the specification's operations:
  `remove_consolidate_text_nodes` at a site (`oldSite`), `Forest.Normal` and what validity gives at
  a site, maps over the children that commute with the specification's list functions (`KidMap`,
  `NatFor`) with a site seen after an edit elsewhere, and the handles after an edit that takes
  some of them out.
-/
import XotModel.Lemmas.FspecList
import XotModel.Lemmas.BasicFacts
import XotModel.Lemmas.FspecSite

/-! ## xot's `remove_consolidate_text_nodes` at one site -/

namespace XotModel
open HTree Spec

/-- `previous_sibling` / `next_sibling` computed from the pieces of a context. -/
def prevOf (l : List HTree) (k : HTree) : Option Nat :=
  match l.getLast? with
  | none => none
  | some q => if q.value.category == k.value.category then some q.handle else none

def nextOf (r : List HTree) (k : HTree) : Option Nat :=
  match r.head? with
  | none => none
  | some q => if q.value.category == k.value.category then some q.handle else none

namespace Forest

theorem prevSibling_of_ctx {f : Forest} {n : Nat} {c : Ctx} (e : f.ctx? n = some c) :
    f.prevSibling n = prevOf c.left c.self := by
  unfold prevSibling prevOf
  rw [e]
  simp only
  cases c.left.getLast? <;> rfl

theorem nextSibling_of_ctx {f : Forest} {n : Nat} {c : Ctx} (e : f.ctx? n = some c) :
    f.nextSibling n = nextOf c.right c.self := by
  unfold nextSibling nextOf
  rw [e]
  simp only
  cases c.right.head? <;> rfl

theorem prevSibling_of_no_ctx {f : Forest} {n : Nat} (e : f.ctx? n = none) : f.prevSibling n = none := by
  unfold prevSibling; rw [e]

theorem nextSibling_of_no_ctx {f : Forest} {n : Nat} (e : f.ctx? n = none) : f.nextSibling n = none := by
  unfold nextSibling; rw [e]

theorem removeConsolidate_off {f : Forest} (h : f.consolidation = false) (a b : Option Nat) :
    f.removeConsolidate a b = (f, false) := by
  simp [removeConsolidate, h]

theorem removeConsolidate_text {f : Forest} (hc : f.consolidation = true) {a b : Nat} {x y : Str}
    (ha : f.textOf a = some x) (hb : f.textOf b = some y) :
    f.removeConsolidate (some a) (some b) = ((f.setValue a (.text (x ++ y))).spliceOut b, true) := by
  unfold removeConsolidate
  simp [hc, ha, hb]

theorem removeConsolidate_not_text_left {f : Forest} {a b : Nat} (ha : f.textOf a = none) :
    f.removeConsolidate (some a) (some b) = (f, false) := by
  unfold removeConsolidate
  cases f.consolidation <;> simp [ha]

theorem removeConsolidate_not_text_right {f : Forest} {a b : Nat} (hb : f.textOf b = none) :
    f.removeConsolidate (some a) (some b) = (f, false) := by
  unfold removeConsolidate
  cases f.consolidation <;> cases h : f.textOf a <;> simp [hb]

theorem textOf_of_get {f : Forest} {a : Nat} {t : HTree} (e : f.get? a = some t) : f.textOf a = textData t := by
  unfold textOf value? textData
  rw [e]
  simp only [Option.map_some]
  cases t.value <;> rfl

theorem editAt_consolidation (f : Forest) (s : Option Nat) (g : List HTree → List HTree) :
    (f.editAt s g).consolidation = f.consolidation := by
  cases s <;> rfl

end Forest

theorem nextOf_eq_some {B : List HTree} {kr : HTree} {x : Nat} (h : nextOf B kr = some x) :
    ∃ kb B2, B = kb :: B2 ∧ kb.handle = x ∧ kb.value.category = kr.value.category := by
  unfold nextOf at h
  cases hB : B.head? with
  | none => rw [hB] at h; cases h
  | some kb =>
    rw [hB] at h
    simp only at h
    obtain ⟨B2, e⟩ := List.head?_eq_some_iff.1 hB
    by_cases hc : (kb.value.category == kr.value.category) = true
    · rw [if_pos hc] at h
      exact ⟨kb, B2, e, Option.some.inj h, by simpa using hc⟩
    · rw [if_neg hc] at h; cases h

theorem prevOf_eq_some {A : List HTree} {kr : HTree} {x : Nat} (h : prevOf A kr = some x) :
    ∃ A2 ka, A = A2 ++ [ka] ∧ ka.handle = x ∧ ka.value.category = kr.value.category := by
  unfold prevOf at h
  cases hA : A.getLast? with
  | none => rw [hA] at h; cases h
  | some ka =>
    rw [hA] at h
    simp only at h
    obtain ⟨A2, e⟩ := List.getLast?_eq_some_iff.1 hA
    by_cases hc : (ka.value.category == kr.value.category) = true
    · rw [if_pos hc] at h
      exact ⟨A2, ka, e, Option.some.inj h, by simpa using hc⟩
    · rw [if_neg hc] at h; cases h

/-- The two text nodes `a … b` (with `mid` between them) become one: the model's merge as an
    edit of the child list. -/
theorem merge_at_site {f : Forest} {p : Nat} {v : Value} {l' mid r' : List HTree} {a b : HTree} {x y : Str}
    (s : SiteAt f p v (l' ++ a :: (mid ++ b :: r'))) (hc : f.consolidation = true)
    (hx : a.value = .text x) (hy : b.value = .text y) (hleaf : b.kids = []) :
    f.removeConsolidate (some a.handle) (some b.handle) =
      (f.editAt (some p) (fun _ => l' ++ a.setValue (.text (x ++ y)) :: (mid ++ r')), true) := by
  have ha : f.textOf a.handle = some x := by
    rw [Forest.textOf_of_get s.getKid]; exact textData_of_value hx
  have s' : SiteAt f p v ((l' ++ a :: mid) ++ b :: r') := by
    have : (l' ++ a :: mid) ++ b :: r' = l' ++ a :: (mid ++ b :: r') := by simp
    rw [this]; exact s
  have hb : f.textOf b.handle = some y := by
    rw [Forest.textOf_of_get s'.getKid]; exact textData_of_value hy
  rw [Forest.removeConsolidate_text hc ha hb]
  -- the value update
  obtain ⟨ndL, _⟩ := s.nodupKids
  obtain ⟨ta, tb⟩ := tops_ne_of_nodup ndL
  let g1 : List HTree → List HTree := replaceTop a.handle (fun k => [k.setValue (.text (x ++ y))])
  have e1 : f.setValue a.handle (.text (x ++ y)) = f.editAt (some p) g1 :=
    Forest.setValue_of_ctx _ s.nd s.ctx
  have hg1 : g1 (l' ++ a :: (mid ++ b :: r')) = l' ++ a.setValue (.text (x ++ y)) :: (mid ++ b :: r') := by
    simp only [g1]
    rw [replaceTop_mid rfl ta]
    simp
  have s1 : SiteAt (f.editAt (some p) g1) p v (l' ++ a.setValue (.text (x ++ y)) :: (mid ++ b :: r')) := by
    have := s.edit g1 (by
      rw [hg1]
      simp only [handlesList_append, handlesList_cons, setValue_handles]
      exact List.Sublist.refl _)
    rw [hg1] at this
    exact this
  -- the removal of the later node
  have s1' : SiteAt (f.editAt (some p) g1) p v ((l' ++ a.setValue (.text (x ++ y)) :: mid) ++ b :: r') := by
    have : (l' ++ a.setValue (.text (x ++ y)) :: mid) ++ b :: r'
        = l' ++ a.setValue (.text (x ++ y)) :: (mid ++ b :: r') := by simp
    rw [this]; exact s1
  obtain ⟨ndL1, _⟩ := s1'.nodupKids
  obtain ⟨tb1, _⟩ := tops_ne_of_nodup ndL1
  let g2 : List HTree → List HTree := replaceTop b.handle (fun k => k.kids)
  have e2 : (f.editAt (some p) g1).spliceOut b.handle = (f.editAt (some p) g1).editAt (some p) g2 :=
    Forest.spliceOut_of_ctx s1'.nd s1'.ctx
  rw [e1, e2, Forest.editAt_editAt]
  congr 1
  apply s.congr
  simp only [Function.comp]
  rw [hg1]
  have : l' ++ a.setValue (.text (x ++ y)) :: (mid ++ b :: r')
      = (l' ++ a.setValue (.text (x ++ y)) :: mid) ++ b :: r' := by simp
  rw [this]
  simp only [g2]
  rw [replaceTop_mid rfl tb1, hleaf]
  simp

/-- The outcome of the model's old-site merge around the leaving node `k`. -/
theorem oldSite {f : Forest} {p : Nat} {v : Value} {l mid r : List HTree} {k : HTree}
    (s : SiteAt f p v (l ++ (mid ++ r)))
    (hleaf : ∀ t ∈ r, t.value.isText = true → t.kids = [])
    (hcat : ∀ a b, l.getLast? = some a → r.head? = some b → a.value.isText = true → b.value.isText = true →
      a.value.category = k.value.category ∧ b.value.category = k.value.category) :
    (f.removeConsolidate (prevOf l k) (nextOf r k) = (f, false) ∧
      (f.consolidation = true → ∀ a b, l.getLast? = some a → r.head? = some b →
        ¬ (a.value.isText = true ∧ b.value.isText = true)))
    ∨ (f.consolidation = true ∧ ∃ l' a b r' x y, l = l' ++ [a] ∧ r = b :: r' ∧
        a.value = .text x ∧ b.value = .text y ∧
        prevOf l k = some a.handle ∧ nextOf r k = some b.handle ∧
        f.removeConsolidate (prevOf l k) (nextOf r k) =
          (f.editAt (some p) (fun _ => l' ++ a.setValue (.text (x ++ y)) :: (mid ++ r')), true)) := by
  rcases Bool.eq_false_or_eq_true f.consolidation with hc | hc
  case inr =>
    left
    exact ⟨Forest.removeConsolidate_off hc _ _, fun h => by rw [hc] at h; cases h⟩
  by_cases hboth : ∃ a b, l.getLast? = some a ∧ r.head? = some b ∧ a.value.isText = true ∧ b.value.isText = true
  · right
    obtain ⟨a, b, hl, hr, hta, htb⟩ := hboth
    obtain ⟨l', rfl⟩ := List.getLast?_eq_some_iff.1 hl
    obtain ⟨r', rfl⟩ := List.head?_eq_some_iff.1 hr
    obtain ⟨x, hxa⟩ := isText_iff_textData.1 hta
    obtain ⟨y, hyb⟩ := isText_iff_textData.1 htb
    obtain ⟨c1, c2⟩ := hcat a b hl hr hta htb
    have hp : prevOf (l' ++ [a]) k = some a.handle := by simp [prevOf, c1]
    have hn : nextOf (b :: r') k = some b.handle := by simp [nextOf, c2]
    have s0 : SiteAt f p v (l' ++ a :: (mid ++ b :: r')) := by simpa using s
    refine ⟨hc, l', a, b, r', x, y, rfl, rfl, textData_some hxa, textData_some hyb, hp, hn, ?_⟩
    rw [hp, hn]
    exact merge_at_site s0 hc (textData_some hxa) (textData_some hyb) (hleaf b List.mem_cons_self htb)
  · -- the siblings the model is given are raw neighbours, and one of them is not a text node
    left
    refine ⟨?_, fun _ a b ha hb h => hboth ⟨a, b, ha, hb, h.1, h.2⟩⟩
    cases hp : prevOf l k with
    | none => exact Forest.removeConsolidate_none_left _ _
    | some a' =>
      cases hn : nextOf r k with
      | none => exact Forest.removeConsolidate_none_right _ _
      | some b' =>
        obtain ⟨l', a, rfl, rfl, _⟩ := prevOf_eq_some hp
        obtain ⟨b, r', rfl, rfl, _⟩ := nextOf_eq_some hn
        have s0 : SiteAt f p v (l' ++ a :: (mid ++ b :: r')) := by simpa using s
        have s0' : SiteAt f p v ((l' ++ a :: mid) ++ b :: r') := by simpa using s
        by_cases hta : a.value.isText = true
        · apply Forest.removeConsolidate_not_text_right
          rw [Forest.textOf_of_get s0'.getKid]
          exact textData_none_of_not_text (fun htb => hboth ⟨a, b, by simp, rfl, hta, htb⟩)
        · apply Forest.removeConsolidate_not_text_left
          rw [Forest.textOf_of_get s0.getKid]
          exact textData_none_of_not_text hta

/-- A normal node without a previous sibling (of its category) stands right behind the attribute and
    namespace nodes. -/
theorem split_of_no_prev {l : List HTree} {t : HTree} {r : List HTree} (ho : kidsOrdered (l ++ t :: r) = true)
    (ht : t.value.isNormal = true) (hp : prevOf l t = none) :
    (∀ k ∈ l, k.value.isNormal = false) ∧ (∀ k ∈ r, k.value.isNormal = true) := by
  have ht2 : t.value.category.rank = 2 := isNormal_iff_rank.1 ht
  constructor
  · cases hl : l.getLast? with
    | none =>
      have : l = [] := List.getLast?_eq_none_iff.1 hl
      subst this
      intro k hk; cases hk
    | some a =>
      obtain ⟨l', el⟩ := List.getLast?_eq_some_iff.1 hl
      unfold prevOf at hp
      rw [hl] at hp
      simp only at hp
      have hac : a.value.category ≠ t.value.category := by
        intro e
        rw [e] at hp
        simp at hp
      have ha2 : a.value.category.rank ≠ 2 := by
        intro e
        apply hac
        rw [rank_normal.1 e, rank_normal.1 ht2]
      subst el
      have ho' : kidsOrdered (l' ++ a :: (t :: r)) = true := by simpa using ho
      intro k hk
      have hka : k.value.category.rank ≤ a.value.category.rank := by
        cases List.mem_append.1 hk with
        | inl h => exact rank_le_of_ordered l' ho' k h
        | inr h => simp only [List.mem_singleton] at h; rw [h]; exact Nat.le_refl _
      have := fi_rank_le_two a.value.category
      cases hn : k.value.isNormal with
      | false => rfl
      | true => have := isNormal_iff_rank.1 hn; omega
  · intro k hk
    have := kidsOrdered_rank_le r (kidsOrdered_drop l ho) k hk
    have := fi_rank_le_two k.value.category
    exact isNormal_iff_rank.2 (by omega)

end XotModel

/-! ## `Forest.Normal`, live nodes, and what validity gives at a site -/

namespace XotModel
open HTree Spec

/-- With consolidation on the forest holds no adjacent text nodes (always the case while
    consolidation has never been switched off; the scope of the C05 theorems). -/
def Forest.Normal (f : Forest) : Prop := f.consolidation = true → validList true f.roots = true

/-! ### A live node is a parentless tree or has a context -/

mutual
  theorem find?_root_or_ctx {n : Nat} : ∀ (t u : HTree), find? n t = some u →
      t.handle = n ∨ (ctxBelow n t).isSome = true
    | .node h v ks, u => by
      intro e
      rw [find?_node] at e
      by_cases hh : h = n
      · exact Or.inl hh
      · rw [if_neg hh] at e
        right
        rw [ctxBelow_node]
        exact findList?_ctxKids h [] ks u e
  theorem findList?_ctxKids {n : Nat} (p : Nat) : ∀ (left ks : List HTree) (u : HTree),
      findList? n ks = some u → (ctxKids n p left ks).isSome = true
    | left, [], u => by intro e; rw [findList?_nil] at e; cases e
    | left, k :: ks, u => by
      intro e
      by_cases hk : k.handle = n
      · rw [ctxKids_cons_hit hk]; rfl
      · cases hb : ctxBelow n k with
        | some c => rw [ctxKids_cons_below hk hb]; rfl
        | none =>
          rw [ctxKids_cons_skip hk hb]
          cases hf : find? n k with
          | some t =>
            cases find?_root_or_ctx k t hf with
            | inl h => exact absurd h hk
            | inr h => rw [hb] at h; cases h
          | none =>
            rw [findList?_cons_none hf] at e
            exact findList?_ctxKids p (left ++ [k]) ks u e
end

theorem Forest.root_or_ctx {f : Forest} {n : Nat} {u : HTree} (e : f.get? n = some u) :
    f.isRoot n = true ∨ ∃ c, f.ctx? n = some c := by
  unfold Forest.isRoot
  rw [Forest.ctx?_eq]
  rw [Forest.get?_eq] at e
  generalize f.roots = rs at e
  induction rs with
  | nil => rw [findList?_nil] at e; cases e
  | cons k rs ih =>
    cases hf : find? n k with
    | some t =>
      cases find?_root_or_ctx k t hf with
      | inl h => left; simp [h]
      | inr h =>
        right
        cases hb : ctxBelow n k with
        | none => rw [hb] at h; cases h
        | some c => exact ⟨c, by simp [List.findSome?_cons, hb]⟩
    | none =>
      rw [findList?_cons_none hf] at e
      cases ih e with
      | inl h => left; rw [List.any_cons, h]; simp
      | inr h =>
        right
        obtain ⟨c, hc⟩ := h
        cases hb : ctxBelow n k with
        | none => exact ⟨c, by simp [List.findSome?_cons, hb, hc]⟩
        | some c' => exact ⟨c', by simp [List.findSome?_cons, hb]⟩

/-! ### What validity gives at a site -/

theorem SiteAt.valid {f : Forest} {p : Nat} {v : Value} {L : List HTree} (s : SiteAt f p v L) {b : Bool}
    (hv : validList b f.roots = true) : validTree b (.node p v L) = true :=
  findList?_valid _ _ f.roots _ hv s.kids

theorem SiteAt.leaf {f : Forest} {p : Nat} {v : Value} {L : List HTree} (s : SiteAt f p v L) {b : Bool}
    (hv : validList b f.roots = true) : ∀ t ∈ L, t.value.isText = true → t.kids = [] :=
  fun t ht => kids_nil_of_text (validList_all b L (validTree_node (s.valid hv)).2.2.2 t ht)

/-- The category condition of `oldSite` from the ordering of the child list. -/
theorem hcat_of_ordered {l : List HTree} {k : HTree} {r : List HTree} (ho : kidsOrdered (l ++ k :: r) = true) :
    ∀ a b, l.getLast? = some a → r.head? = some b → a.value.isText = true → b.value.isText = true →
      a.value.category = k.value.category ∧ b.value.category = k.value.category := by
  intro a b hl hr ha hb
  obtain ⟨l', el⟩ := List.getLast?_eq_some_iff.1 hl
  obtain ⟨r', er⟩ := List.head?_eq_some_iff.1 hr
  subst el er
  have : (l' ++ [a]) ++ k :: b :: r' = l' ++ a :: k :: b :: r' := by simp
  rw [this] at ho
  have hk := between_texts_normal ho ha
  rw [category_normal_of_isText ha, category_normal_of_isText hb, hk]
  exact ⟨rfl, rfl⟩

/-! ### The two survivor rules keep every node but the moved one as the earlier node -/

theorem Keep.resident_spec (n : Nat) : ∀ a b, a ≠ n → Keep.resident n a b = true := by
  intro a b h; simp [Keep.resident, h]

theorem Keep.earlier_spec (n : Nat) : ∀ a b, a ≠ n → Keep.earlier a b = true := fun _ _ _ => rfl

end XotModel

/-! ## Maps over the children that commute with the list functions (`KidMap`, `NatFor`) -/

namespace XotModel
open HTree Spec

/-- A map over trees that keeps the root's handle and value and commutes with value updates. -/
structure KidMap (φ : HTree → HTree) : Prop where
  handle : ∀ k, (φ k).handle = k.handle
  value : ∀ k, (φ k).value = k.value
  setValue : ∀ k v, φ (k.setValue v) = (φ k).setValue v

theorem editAt_setValue (s : Nat) (g : List HTree → List HTree) (t : HTree) (v : Value) :
    HTree.editAt s g (t.setValue v) = (HTree.editAt s g t).setValue v := by
  cases t with
  | node h v' ks =>
    simp only [HTree.setValue]
    rw [editAt_node, editAt_node]
    split <;> rfl

theorem kidMap_editAt (s : Nat) (g : List HTree → List HTree) : KidMap (HTree.editAt s g) :=
  ⟨editAt_handle s g, editAt_value s g, editAt_setValue s g⟩

theorem map_handle_kidMap {φ : HTree → HTree} (hφ : KidMap φ) (L : List HTree) :
    (L.map φ).map (·.handle) = L.map (·.handle) := by
  rw [List.map_map]
  apply List.map_congr_left
  intro k _
  exact hφ.handle k

theorem NatFor.comp {φ : HTree → HTree} {g1 g2 : List HTree → List HTree} (h1 : NatFor φ g1)
    (h2 : NatFor φ g2) : NatFor φ (g2 ∘ g1) := by
  intro L; simp only [Function.comp]; rw [h1 L, h2]

theorem natFor_id (φ : HTree → HTree) : NatFor φ id := fun _ => rfl

theorem natFor_dropTop {φ : HTree → HTree} (hφ : KidMap φ) (n : Nat) : NatFor φ (dropTop n) := by
  intro L
  induction L with
  | nil => rfl
  | cons k ks ih =>
    rw [List.map_cons, dropTop_cons, dropTop_cons, hφ.handle, ih]
    split <;> rfl

theorem natFor_replaceTop {φ : HTree → HTree} (hφ : KidMap φ) (h : Nat) {F : HTree → List HTree}
    (hF : ∀ k, F (φ k) = (F k).map φ) : NatFor φ (replaceTop h F) := by
  intro L
  induction L with
  | nil => rfl
  | cons k ks ih =>
    rw [List.map_cons, replaceTop_cons, replaceTop_cons, hφ.handle, ih, hF]
    split <;> simp

theorem natFor_insertLast {φ : HTree → HTree} {t : HTree} (ht : φ t = t) : NatFor φ (insertLast t) := by
  intro L; simp [insertLast, ht]

theorem natFor_insertFirstNormal {φ : HTree → HTree} (hφ : KidMap φ) {t : HTree} (ht : φ t = t) :
    NatFor φ (insertFirstNormal t) := by
  intro L
  induction L with
  | nil => simp [insertFirstNormal, ht]
  | cons k ks ih =>
    simp only [List.map_cons, insertFirstNormal, hφ.value]
    split
    · simp [ht]
    · rw [ih]; rfl

theorem natFor_insertAfterTop {φ : HTree → HTree} (hφ : KidMap φ) (r : Nat) {t : HTree} (ht : φ t = t) :
    NatFor φ (insertAfterTop r t) :=
  natFor_replaceTop hφ r (by intro k; simp [ht])

theorem natFor_insertBeforeTop {φ : HTree → HTree} (hφ : KidMap φ) (r : Nat) {t : HTree} (ht : φ t = t) :
    NatFor φ (insertBeforeTop r t) :=
  natFor_replaceTop hφ r (by intro k; simp [ht])

theorem natFor_setValTop {φ : HTree → HTree} (hφ : KidMap φ) (a : Nat) (v : Value) :
    NatFor φ (replaceTop a (fun k => [k.setValue v])) :=
  natFor_replaceTop hφ a (by intro k; simp [hφ.setValue])

theorem natFor_cutTop {φ : HTree → HTree} (hφ : KidMap φ) (a : Nat) :
    NatFor φ (replaceTop a (fun _ => [])) :=
  natFor_replaceTop hφ a (by intro k; rfl)

theorem join_map {φ : HTree → HTree} (hφ : KidMap φ) (keep : Keep) (a b : HTree) (x y : Str) :
    join keep (φ a) (φ b) x y = φ (join keep a b x y) := by
  unfold join
  rw [hφ.handle, hφ.handle]
  split <;> rw [hφ.setValue]

theorem mergeInto_map {φ : HTree → HTree} (hφ : KidMap φ) (keep : Keep) : ∀ (rest : List HTree) (cur : HTree),
    mergeInto keep (φ cur) (rest.map φ) = (mergeInto keep cur rest).map φ
  | [], cur => rfl
  | b :: rest, cur => by
    rw [List.map_cons]
    by_cases h : cur.value.isText = true ∧ b.value.isText = true
    · obtain ⟨x, hx⟩ := isText_iff_textData.1 h.1
      obtain ⟨y, hy⟩ := isText_iff_textData.1 h.2
      have hx' := textData_some hx
      have hy' := textData_some hy
      rw [mergeInto_cons_text (by rw [hφ.value]; exact hx') (by rw [hφ.value]; exact hy'),
        mergeInto_cons_text hx' hy', join_map hφ, mergeInto_map hφ keep rest]
    · have h' : ¬ ((φ cur).value.isText = true ∧ (φ b).value.isText = true) := by
        rw [hφ.value, hφ.value]; exact h
      rw [mergeInto_cons_other h', mergeInto_cons_other h, List.map_cons, mergeInto_map hφ keep rest]

theorem natFor_mergeRuns {φ : HTree → HTree} (hφ : KidMap φ) (keep : Keep) : NatFor φ (mergeRuns keep) := by
  intro L
  cases L with
  | nil => rfl
  | cons a rest => exact mergeInto_map hφ keep rest a

/-! ### Lookups in a child list -/

theorem find?_setValue {x : Nat} {k : HTree} (v : Value) (hx : k.handle ≠ x) :
    find? x (k.setValue v) = find? x k := by
  cases k with
  | node h v' ks =>
    simp only [HTree.handle] at hx
    simp only [HTree.setValue]
    rw [find?_node, find?_node, if_neg hx, if_neg hx]

/-! ### A site seen after an edit at another site -/

theorem SiteAt.other {f : Forest} {p : Nat} {v : Value} {L : List HTree} (s : SiteAt f p v L)
    {x : Nat} {vx : Value} {Lx : List HTree} (hx : f.get? x = some (.node x vx Lx)) (hne : x ≠ p)
    (g : List HTree → List HTree)
    (hsub : (handlesList (g L)).Sublist (handlesList L))
    (hlook : findList? x (g L) = findList? x L) :
    SiteAt (f.editAt (some p) g) x vx (Lx.map (HTree.editAt p g)) := by
  constructor
  · exact (s.edit g hsub).nd
  · have := Forest.get?_editAt_other (g := g) hne s.nd (by
      intro v' L' e
      rw [s.kids] at e
      have e' := Option.some.inj e
      injection e' with _ _ e3
      subst e3
      exact hlook)
    rw [this, hx]
    simp only [Option.map_some]
    rw [editAt_node, if_neg hne]

/-! ### The list of parentless trees as a site -/

theorem findList?_dropTop {x n : Nat} : ∀ L : List HTree,
    (∀ k ∈ L, k.handle = n → x ∉ handles k) → findList? x (dropTop n L) = findList? x L
  | [] => fun _ => rfl
  | k :: ks => by
    intro h
    rw [dropTop_cons]
    have ih := findList?_dropTop ks (fun k' hk' => h k' (List.mem_cons_of_mem _ hk'))
    by_cases hk : k.handle = n
    · rw [if_pos hk, ih, findList?_cons_none (find?_none_of_not_mem _ k (h k List.mem_cons_self hk))]
    · rw [if_neg hk, findList?_cons, findList?_cons, ih]

theorem handlesList_dropTop_sublist (n : Nat) : ∀ L : List HTree,
    (handlesList (dropTop n L)).Sublist (handlesList L)
  | [] => List.Sublist.refl _
  | k :: ks => by
    rw [dropTop_cons, handlesList_cons]
    split
    · exact (handlesList_dropTop_sublist n ks).trans (List.sublist_append_right _ _)
    · rw [handlesList_cons]
      exact (List.Sublist.refl _).append (handlesList_dropTop_sublist n ks)

theorem SiteAt.dropKid {f : Forest} {p : Nat} {v : Value} {l : List HTree} {t : HTree} {r : List HTree}
    (s : SiteAt f p v (l ++ t :: r)) : SiteAt (f.editAt (some p) (dropTop t.handle)) p v (l ++ r) := by
  obtain ⟨tl, tr⟩ := tops_ne_of_nodup s.nodupKids.1
  have := s.edit (dropTop t.handle) (handlesList_dropTop_sublist _ _)
  rwa [dropTop_mid rfl tl tr] at this

theorem SiteAt.dropRoot {f : Forest} {q : Nat} {v : Value} {L : List HTree} (s : SiteAt f q v L)
    {c : Nat} {t : HTree} (hc : f.get? c = some t) (hq : q ∉ handles t) :
    SiteAt (f.editAt none (dropTop c)) q v L := by
  constructor
  · exact (handlesList_dropTop_sublist c f.roots).nodup s.nd
  · show findList? q (dropTop c f.roots) = _
    rw [findList?_dropTop f.roots, ← Forest.get?_eq]
    · exact s.kids
    · intro k hk hkc
      -- the parentless tree with handle `c` is `t`
      obtain ⟨A, B, hAB⟩ := List.append_of_mem hk
      have nd := s.nd
      unfold Forest.allHandles at nd
      rw [hAB] at nd
      obtain ⟨m1, _⟩ := nodup_mid nd
      have : f.get? k.handle = some k := by
        rw [Forest.get?_eq, hAB]
        exact findList?_mid (m1 _ (handle_mem_handles k))
      rw [hkc, hc] at this
      have := Option.some.inj this
      subst this
      exact hq

theorem Forest.editAt_none_comm (f : Forest) (q c : Nat) (g : List HTree → List HTree) :
    (f.editAt (some q) g).editAt none (dropTop c) = (f.editAt none (dropTop c)).editAt (some q) g := by
  simp only [Forest.editAt]
  rw [natFor_dropTop (kidMap_editAt q g) c]

end XotModel

/-! ## The handles after an edit that takes some handles `E` out of one child list -/

namespace XotModel
open HTree Spec

mutual
  theorem handles_editAt_perm {p : Nat} {v : Value} {L : List HTree} {g : List HTree → List HTree} {E : List Nat}
      (hg : (handlesList (g L) ++ E).Perm (handlesList L)) : ∀ t : HTree, (handles t).Nodup →
      find? p t = some (.node p v L) → (handles (HTree.editAt p g t) ++ E).Perm (handles t)
    | .node h v' ks => by
      intro nd e
      obtain ⟨n1, n2⟩ := nodup_handles_node nd
      rw [find?_node] at e
      rw [editAt_node]
      by_cases hh : h = p
      · rw [if_pos hh] at e
        have e' := Option.some.inj e
        injection e' with _ _ e3
        subst e3
        rw [if_pos hh, handles_node, handles_node, List.cons_append]
        exact hg.cons h
      · rw [if_neg hh] at e
        rw [if_neg hh, handles_node, handles_node, List.cons_append]
        exact (handlesList_editAt_perm hg ks n2 e).cons h
  theorem handlesList_editAt_perm {p : Nat} {v : Value} {L : List HTree} {g : List HTree → List HTree} {E : List Nat}
      (hg : (handlesList (g L) ++ E).Perm (handlesList L)) : ∀ ks : List HTree, (handlesList ks).Nodup →
      findList? p ks = some (.node p v L) →
      (handlesList (ks.map (HTree.editAt p g)) ++ E).Perm (handlesList ks)
    | [] => by intro _ e; rw [findList?_nil] at e; cases e
    | k :: ks => by
      intro nd e
      obtain ⟨n1, n2, n3⟩ := Fws.nodup_handlesList_cons nd
      rw [List.map_cons, handlesList_cons, handlesList_cons]
      cases hk : find? p k with
      | some t =>
        rw [findList?_cons_some hk] at e
        have e' := Option.some.inj e
        subst e'
        have hpn : p ∉ handlesList ks := n3 p (find?_some_mem hk)
        rw [map_editAt_of_not_mem ks hpn]
        have ih := handles_editAt_perm hg k n1 hk
        have h1 : (handles (HTree.editAt p g k) ++ handlesList ks ++ E).Perm
            (handles (HTree.editAt p g k) ++ E ++ handlesList ks) := by
          rw [List.append_assoc, List.append_assoc]
          exact List.Perm.append_left _ List.perm_append_comm
        exact h1.trans (ih.append_right _)
      | none =>
        rw [findList?_cons_none hk] at e
        have hpk : p ∉ handles k := (find?_none_iff _ k).1 hk
        rw [editAt_of_not_mem k hpk, List.append_assoc]
        exact List.Perm.append_left _ (handlesList_editAt_perm hg ks n2 e)
end

end XotModel
