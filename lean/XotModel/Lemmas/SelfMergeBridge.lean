/-
  `add_consolidate_text_nodes` (as of /repo eccbbb7) reads a neighbour it is handed as "the node's
  own sibling" when that neighbour is the node itself.  `addConsolidateOld` is the helper with the
  neighbours taken as given; `addConsolidate` is `addConsolidateOld` applied to the substituted
  neighbours (`addConsolidate_eq_old`), and the two agree whenever neither neighbour is the node
  itself, or the node is not a text node, or consolidation is off.
-/
import XotModel.Model.Manip

namespace XotModel
namespace Forest

/-- `add_consolidate_text_nodes` with the neighbours taken as given (no substitution of the node's
    own sibling for a neighbour that is the node itself). -/
def addConsolidateOld (f : Forest) (node : Nat) (prev next : Option Nat) : Forest × Bool :=
  if !f.consolidation then (f, false) else
  match f.textOf node with
  | none => (f, false)
  | some added =>
    let viaPrev : Option Forest :=
      match prev with
      | some p => (match f.textOf p with
          | some ps => some ((f.setValue p (.text (ps ++ added))).spliceOut node)
          | none => none)
      | none => none
    match viaPrev with
    | some f' => (f', true)
    | none =>
      match next with
      | some n => (match f.textOf n with
          | some ns => ((f.setValue n (.text (added ++ ns))).spliceOut node, true)
          | none => (f, false))
      | none => (f, false)

/-- The previous neighbour `add_consolidate_text_nodes` works with. -/
def selfPrev (f : Forest) (node : Nat) (prev : Option Nat) : Option Nat :=
  if prev == some node then f.prevSibling node else prev

/-- The next neighbour `add_consolidate_text_nodes` works with. -/
def selfNext (f : Forest) (node : Nat) (next : Option Nat) : Option Nat :=
  if next == some node then f.nextSibling node else next

theorem addConsolidate_eq_old (f : Forest) (node : Nat) (prev next : Option Nat) :
    f.addConsolidate node prev next =
      f.addConsolidateOld node (f.selfPrev node prev) (f.selfNext node next) := by
  unfold addConsolidate addConsolidateOld selfPrev selfNext
  rfl

theorem selfPrev_of_ne {f : Forest} {node : Nat} {prev : Option Nat} (h : prev ≠ some node) :
    f.selfPrev node prev = prev := by
  unfold selfPrev; simp [h]

theorem selfNext_of_ne {f : Forest} {node : Nat} {next : Option Nat} (h : next ≠ some node) :
    f.selfNext node next = next := by
  unfold selfNext; simp [h]

@[simp] theorem selfPrev_none (f : Forest) (node : Nat) : f.selfPrev node none = none := by
  unfold selfPrev; simp

@[simp] theorem selfNext_none (f : Forest) (node : Nat) : f.selfNext node none = none := by
  unfold selfNext; simp

theorem selfPrev_self (f : Forest) (node : Nat) :
    f.selfPrev node (some node) = f.prevSibling node := by
  unfold selfPrev; simp

theorem selfNext_self (f : Forest) (node : Nat) :
    f.selfNext node (some node) = f.nextSibling node := by
  unfold selfNext; simp

theorem addConsolidate_eq_old_of_ne {f : Forest} {node : Nat} {prev next : Option Nat}
    (hp : prev ≠ some node) (hn : next ≠ some node) :
    f.addConsolidate node prev next = f.addConsolidateOld node prev next := by
  rw [addConsolidate_eq_old, selfPrev_of_ne hp, selfNext_of_ne hn]

theorem addConsolidateOld_off {f : Forest} (h : f.consolidation = false) (node : Nat)
    (prev next : Option Nat) : f.addConsolidateOld node prev next = (f, false) := by
  simp [addConsolidateOld, h]

theorem addConsolidateOld_not_text {f : Forest} {node : Nat} (h : f.textOf node = none)
    (prev next : Option Nat) : f.addConsolidateOld node prev next = (f, false) := by
  unfold addConsolidateOld
  cases f.consolidation <;> simp [h]

theorem addConsolidateOld_none_none (f : Forest) (node : Nat) :
    f.addConsolidateOld node none none = (f, false) := by
  unfold addConsolidateOld
  split
  · rfl
  · cases f.textOf node <;> rfl

/-- `addConsolidateOld` looks at a neighbour only through `textOf`: neighbours that are not text nodes
    may be replaced by anything that is not a text node. -/
theorem addConsolidateOld_nontext_neighbours {f : Forest} {node : Nat} {prev next : Option Nat}
    (hprev : ∀ a, prev = some a → f.textOf a = none) (hnext : ∀ b, next = some b → f.textOf b = none) :
    f.addConsolidateOld node prev next = (f, false) := by
  unfold addConsolidateOld
  cases hcc : f.consolidation
  · simp
  · cases hn : f.textOf node with
    | none => simp
    | some added =>
      cases prev with
      | none =>
        cases next with
        | none => simp
        | some b => simp [hnext b rfl]
      | some a =>
        cases next with
        | none => simp [hprev a rfl]
        | some b => simp [hprev a rfl, hnext b rfl]

theorem addConsolidate_none {f : Forest} {n : Nat} {prev next : Option Nat}
    (hprev : ∀ a, prev = some a → f.textOf a = none) (hnext : ∀ b, next = some b → f.textOf b = none) :
    f.addConsolidate n prev next = (f, false) := by
  cases hn : f.textOf n with
  | none => rw [addConsolidate_eq_old]; exact addConsolidateOld_not_text hn _ _
  | some added =>
    have h1 : prev ≠ some n := fun h => by rw [hprev n h] at hn; cases hn
    have h2 : next ≠ some n := fun h => by rw [hnext n h] at hn; cases hn
    rw [addConsolidate_eq_old_of_ne h1 h2]
    exact addConsolidateOld_nontext_neighbours hprev hnext

/-- Consolidation off, or the node is not a text node: both helpers leave the forest alone, so
    they agree whatever the neighbours. -/
theorem addConsolidate_eq_old_of_not_text {f : Forest} {node : Nat} (h : f.textOf node = none)
    (prev next : Option Nat) :
    f.addConsolidate node prev next = f.addConsolidateOld node prev next := by
  rw [addConsolidate_eq_old, addConsolidateOld_not_text h, addConsolidateOld_not_text h]

theorem addConsolidate_eq_old_of_off {f : Forest} (h : f.consolidation = false) (node : Nat)
    (prev next : Option Nat) :
    f.addConsolidate node prev next = f.addConsolidateOld node prev next := by
  rw [addConsolidate_eq_old, addConsolidateOld_off h, addConsolidateOld_off h]

/-- The bridging lemma in the form the move proofs use: a neighbour handed to the helper is the
    node itself only if the node is not a text node (or consolidation is off). -/
theorem addConsolidate_eq_old_of {f : Forest} {node : Nat} {prev next : Option Nat}
    (hp : prev = some node → f.consolidation = false ∨ f.textOf node = none)
    (hn : next = some node → f.consolidation = false ∨ f.textOf node = none) :
    f.addConsolidate node prev next = f.addConsolidateOld node prev next := by
  by_cases h1 : prev = some node
  · rcases hp h1 with h | h
    · exact addConsolidate_eq_old_of_off h _ _ _
    · exact addConsolidate_eq_old_of_not_text h _ _
  · by_cases h2 : next = some node
    · rcases hn h2 with h | h
      · exact addConsolidate_eq_old_of_off h _ _ _
      · exact addConsolidate_eq_old_of_not_text h _ _
    · exact addConsolidate_eq_old_of_ne h1 h2

end Forest
end XotModel
