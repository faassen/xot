/-
  `namespaces_mut(e).remove(p)` of the forest model (`Forest.mapRemove
  .namespaces e p`) as ONE edit of the child list of `e` by `removeNsKidH`, the tree-level `removeNsKid`
  (Model/Scope.lean) with handles: the first namespace node with prefix `p` in the leading run of
  namespace nodes goes, nothing else changes; `next` is unchanged.  `eraseList` turns `removeNsKidH`
  into `removeNsKid`.
-/
import XotModel.Lemmas.FpxRefinePath
import XotModel.Lemmas.FpxDedup
import XotModel.Lemmas.FinvValid

namespace XotModel
open HTree
open Forest (MapKind entryKey entryUpdate)

namespace HTree

/-- `removeNsKid` (Model/Scope.lean) on a child list with handles. -/
def removeNsKidH (p : Nat) : List HTree → List HTree
  | [] => []
  | k :: ks =>
    match k.value with
    | .namespace q _ => if q == p then ks else k :: removeNsKidH p ks
    | _ => k :: ks

theorem eraseList_removeNsKidH (p : Nat) : ∀ ks : List HTree,
    eraseList (removeNsKidH p ks) = removeNsKid p (eraseList ks)
  | [] => rfl
  | k :: ks => by
    have ih := eraseList_removeNsKidH p ks
    cases k with
    | node h v kk =>
      cases v with
      | «namespace» q x =>
        by_cases hq : (q == p) = true
        · simp [removeNsKidH, removeNsKid, eraseList, erase, HTree.value, Tree.value, hq]
        · simp [removeNsKidH, removeNsKid, eraseList, erase, HTree.value, Tree.value, hq, ih]
      | _ => simp [removeNsKidH, removeNsKid, eraseList, erase, HTree.value, Tree.value]

theorem removeNsKidH_skip (p : Nat) : ∀ (X rest : List HTree),
    (∀ a ∈ X, a.value.category = .namespace) → (∀ a ∈ X, Fmap.keyOf a ≠ p) →
    removeNsKidH p (X ++ rest) = X ++ removeNsKidH p rest
  | [], _, _, _ => rfl
  | a :: X, rest, hc, hk => by
    obtain ⟨q, x, hv⟩ := (fpxr_cat_ns a).mp (hc a (by simp))
    have hq : (q == p) = false := by
      have := hk a (by simp)
      simp only [Fmap.keyOf, hv, entryKey] at this
      simpa using this
    have ih := removeNsKidH_skip p X rest (fun b hb => hc b (by simp [hb])) (fun b hb => hk b (by simp [hb]))
    simp only [List.cons_append, removeNsKidH, hv, hq, Bool.false_eq_true, if_false, ih]

theorem removeNsKidH_hit (p : Nat) (n : HTree) (rest : List HTree)
    (hc : n.value.category = .namespace) (hk : Fmap.keyOf n = p) :
    removeNsKidH p (n :: rest) = rest := by
  obtain ⟨q, x, hv⟩ := (fpxr_cat_ns n).mp hc
  have hq : q = p := by simpa [Fmap.keyOf, hv, entryKey] using hk
  subst hq
  simp [removeNsKidH, hv]

theorem removeNsKidH_cons_other (p : Nat) {k : HTree} (ks : List HTree)
    (hk : ¬ ∃ q x, k.value = .namespace q x) : removeNsKidH p (k :: ks) = k :: ks := by
  rw [removeNsKidH]
  split
  · next q x hv => exact absurd ⟨q, x, hv⟩ hk
  · rfl

theorem removeNsKid_cons_other (p : Nat) {k : Tree} (ks : List Tree)
    (hk : ¬ ∃ q x, k.value = .namespace q x) : removeNsKid p (k :: ks) = k :: ks := by
  rw [removeNsKid]
  split
  · next q x hv => exact absurd ⟨q, x, hv⟩ hk
  · rfl

theorem removeNsKidH_end (p : Nat) (rest : List HTree)
    (hc : ∀ a ∈ rest, a.value.category ≠ .namespace) : removeNsKidH p rest = rest := by
  cases rest with
  | nil => rfl
  | cons a rest =>
    exact removeNsKidH_cons_other p rest (fun ⟨q, x, h⟩ => hc a List.mem_cons_self (by rw [h]; rfl))

/-! ### Handles and values under the removal -/

theorem handlesList_removeNsKidH_sublist (p : Nat) : ∀ ks : List HTree,
    (handlesList (removeNsKidH p ks)).Sublist (handlesList ks)
  | [] => List.Sublist.refl _
  | k :: ks => by
    rw [removeNsKidH]
    split
    · split
      · rw [handlesList_cons]; exact List.sublist_append_right _ _
      · rw [handlesList_cons, handlesList_cons]
        exact (List.Sublist.refl _).append (handlesList_removeNsKidH_sublist p ks)
    · exact List.Sublist.refl _

/-- A pair `(handle, value)` is that of a node which is not a namespace node. -/
def notNsPair (x : Nat × Value) : Bool := x.2.category != .namespace

/-- Namespace nodes being leaves, only pairs of namespace nodes go. -/
theorem hvList_removeNsKidH (p : Nat) : ∀ ks : List HTree,
    (∀ k ∈ ks, k.value.category = .namespace → k.kids = []) →
    (hvList (removeNsKidH p ks)).filter notNsPair = (hvList ks).filter notNsPair
  | [], _ => rfl
  | .node h v kk :: ks, hl => by
    rw [removeNsKidH]
    split
    · next q x hv =>
      split
      · -- the node that goes is a namespace leaf: its one pair is filtered out
        have hkk : kk = [] := hl _ List.mem_cons_self (by rw [hv]; rfl)
        cases hv
        rw [hvList_cons, hkk, List.filter_append]
        exact (List.nil_append _).symm
      · rw [hvList_cons, hvList_cons, List.filter_append, List.filter_append,
          hvList_removeNsKidH p ks (fun k' hk' => hl k' (List.mem_cons_of_mem _ hk'))]
    · rfl

end HTree

namespace Forest
open Fmap

/-- **One call `namespaces_mut(e).remove(p)`** on an element of a forest with the invariant: it answers
    `ok`, and the forest afterwards is the forest with the child list of `e` edited by `removeNsKidH`
    (in particular `next` is unchanged). -/
theorem fpxd_mapRemove {f : Forest} (hi : f.Inv) {e : Nat} (he : f.isElement e = true) (p : Nat) :
    f.mapRemove .namespaces e p =
      ({ f with roots := mapAtList e (atKids (removeNsKidH p)) f.roots }, .ok) := by
  obtain ⟨nm, N, A, S, h⟩ := minv_of_inv f e hi he
  have hw := withKids_of f.roots e (removeNsKidH p) _ h.loc.nodup h.loc.get
  rw [hw]
  simp only [HTree.kids]
  have hrest : ∀ a ∈ A ++ S, a.value.category ≠ .namespace := by
    intro a ha
    rcases List.mem_append.mp ha with ha | ha
    · rw [h.sect.allAt a ha]; decide
    · rw [h.sect.allNm a ha]; decide
  unfold Forest.mapRemove
  rw [he]
  simp only [Bool.not_true, Bool.false_eq_true, if_false]
  cases hn : f.mapGetNode .namespaces e p with
  | some n =>
    simp only
    rw [h.getNode .namespaces] at hn
    obtain ⟨hkey, s1, s2, hs, hs1⟩ := find?_key_split _ _ _ hn
    obtain ⟨hrem, _, _⟩ := remove_present h .namespaces p n s1 s2 hs hkey hs1
    simp only [Sect.sec] at hs
    have hNs : ∀ a ∈ s1, a.value.category = .namespace := fun a ha => h.sect.allNs a (by rw [hs]; simp [ha])
    have hnc : n.value.category = .namespace := h.sect.allNs n (by rw [hs]; simp)
    rw [hrem]
    simp only [preK, postK, List.nil_append]
    have : N ++ A ++ S = s1 ++ (n :: (s2 ++ (A ++ S))) := by rw [hs]; simp
    rw [this, removeNsKidH_skip p s1 _ hNs hs1, removeNsKidH_hit p n _ hnc hkey]
    simp
  | none =>
    simp only
    rw [h.getNode .namespaces] at hn
    have habs := find?_key_none _ _ hn
    simp only [Sect.sec] at habs
    rw [List.append_assoc N A S, removeNsKidH_skip p N _ h.sect.allNs habs, removeNsKidH_end p _ hrest,
      ← List.append_assoc, withKids_self h.loc]

end Forest
end XotModel
