/-
  Errors of `parse_content`: where they arise (`parseGo_error_at`: at an `&` of the text, with the exact
  payload), hence (C17_errors, entity part) every position reported by `parseContentGo attr base pos s` lies in
  `[base + pos, base + pos + strLen s]`, i.e. inside the slice that was handed to it, including the
  `base_position` arithmetic.
-/
import XotModel.Lemmas.ParseContent
import XotModel.Model.LexProgress

namespace XotModel

theorem utf8Len_pos (c : Char) : 1 ≤ utf8Len c := by
  unfold utf8Len; split <;> (try split) <;> (try split) <;> omega

theorem strLen_cons (c : Char) (s : Str) : strLen (c :: s) = utf8Len c + strLen s := rfl

theorem splitSemi_strLen {s e r : Str} (h : splitSemi s = some (e, r)) :
    strLen s = strLen e + 1 + strLen r := by
  rw [(splitSemi_spec h).1, Lex.strLen_app, strLen_cons, ← Nat.add_assoc]
  rfl

/-- The positions carried by an error lie in `[lo, hi]`. -/
def ContentErr.within (lo hi : Nat) : ContentErr → Prop
  | .unclosed _ p => lo ≤ p ∧ p ≤ hi
  | .invalid _ a b => lo ≤ a ∧ a ≤ b ∧ b ≤ hi

theorem consOk_error {c : Char} {r : Except ContentErr Str} {e : ContentErr}
    (h : consOk c r = .error e) : r = .error e := by
  cases r with
  | ok v => simp [consOk] at h
  | error e' => simp [consOk] at h; rw [h]

theorem skipLf_eq (s : Str) : s = (s.take (s.length - (skipLf s).length)) ++ skipLf s ∧
    strLen (s.take (s.length - (skipLf s).length)) = s.length - (skipLf s).length := by
  unfold skipLf
  split
  · rename_i r
    simp [strLen, utf8Len]
  · simp [strLen]

/-- `e` is what `parse_content` reports for a reference that starts after `pre` in `s` (`s` read from offset `pos`):
    no `;` follows (`UnclosedEntity`, at the `&`), or the reference does not decode (`InvalidEntity`, from the `&`
    to behind the `;`). -/
def ContentErr.At (base pos : Nat) (s : Str) (e : ContentErr) : Prop :=
  ∃ pre rest, s = pre ++ '&' :: rest ∧
    ((splitSemi rest = none ∧ e = .unclosed rest (base + (pos + strLen pre))) ∨
      ∃ ent rest', splitSemi rest = some (ent, rest') ∧ decodeEntity ent = none ∧
        e = .invalid (entityErrText ent) (base + (pos + strLen pre)) (base + (pos + strLen pre + 1 + strLen ent + 1)))

/-- The same error, seen from before `read`. -/
theorem ContentErr.At.shift {base pos pos' : Nat} {s : Str} {e : ContentErr} (read : Str)
    (hp : pos' = pos + strLen read) (h : e.At base pos' s) : e.At base pos (read ++ s) := by
  obtain ⟨pre, rest, rfl, hc⟩ := h
  refine ⟨read ++ pre, rest, (List.append_assoc ..).symm, ?_⟩
  have hq : pos + strLen (read ++ pre) = pos' + strLen pre := by rw [Lex.strLen_app, hp, Nat.add_assoc]
  rw [hq]
  exact hc

/-- Where `parse_content` fails. -/
theorem parseGo_error_at (attr : Bool) (base : Nat) :
    ∀ (n : Nat) (s : Str) (pos : Nat) (e : ContentErr), s.length = n →
      parseContentGo attr base pos s = .error e → e.At base pos s := by
  intro n
  induction n using Nat.strongRecOn with
  | _ n ih =>
    intro s pos e hn h
    match s, hn with
    | [], _ => rw [parseGo_nil] at h; cases h
    | c :: rest, hn =>
      rw [parseContentGo.eq_def] at h
      simp only at h
      split at h
      · -- carriage return: `\r` and, if it follows, `\n` are read
        rename_i hcr
        have hl := skipLf_length rest
        obtain ⟨hsplit, hlen⟩ := skipLf_eq rest
        have := ih (skipLf rest).length (by simp at hn; omega) (skipLf rest) _ e rfl (consOk_error h)
        have := this.shift (pos := pos) (c :: rest.take (rest.length - (skipLf rest).length))
          (by rw [strLen_cons, hlen, hcr]; simp [utf8Len]; omega)
        rwa [List.cons_append, ← hsplit] at this
      · split at h
        · rename_i hamp
          subst hamp
          split at h
          · rename_i hsp
            cases h
            exact ⟨[], rest, rfl, .inl ⟨hsp, rfl⟩⟩
          · rename_i ent rest' hsp
            split at h
            · rename_i hdec
              cases h
              exact ⟨[], rest, rfl, .inr ⟨ent, rest', hsp, hdec, rfl⟩⟩
            · -- a reference that decodes: `&`, the name, `;` are read
              have hl := splitSemi_length hsp
              have := ih rest'.length (by simp at hn; omega) rest' _ e rfl (consOk_error h)
              have := this.shift (pos := pos) ('&' :: (ent ++ [';']))
                (by rw [strLen_cons, Lex.strLen_app]; simp [strLen, utf8Len]; omega)
              rw [(splitSemi_spec hsp).1]
              simpa using this
        · have hstep : ∀ (h' : parseContentGo attr base (pos + utf8Len c) rest = .error e), e.At base pos (c :: rest) :=
            fun h' => (ih rest.length (by simp at hn; omega) rest _ e rfl h').shift [c] (by simp [strLen])
          split at h
          · exact hstep (consOk_error h)
          · exact hstep (consOk_error h)

/-- Error positions of `parse_content` lie inside the slice it was given. -/
theorem parseGo_error_within {attr : Bool} {base pos : Nat} {s : Str} {e : ContentErr}
    (h : parseContentGo attr base pos s = .error e) : e.within (base + pos) (base + pos + strLen s) := by
  obtain ⟨pre, rest, rfl, ⟨_, rfl⟩ | ⟨ent, rest', hsp, _, rfl⟩⟩ := parseGo_error_at attr base _ s pos e rfl h
  · simp only [ContentErr.within, Lex.strLen_app, strLen_cons]
    omega
  · have := splitSemi_strLen hsp
    have h1 : utf8Len '&' = 1 := rfl
    simp only [ContentErr.within, Lex.strLen_app, strLen_cons, this, h1]
    omega

end XotModel
