/-
  The character-level layer (Model/Entity): escaping with a table read back by `parse_content`, `unescaped_gt`,
  CDATA sections, and which characters an escaped string hides.
-/
import XotModel.Model.Entity
import XotModel.Lemmas.BasicFacts

namespace XotModel
open Gen

theorem splitSemi_append (ent rest : Str) (h : ';' ∉ ent) :
    splitSemi (ent ++ ';' :: rest) = some (ent, rest) := by
  induction ent with
  | nil => simp [splitSemi]
  | cons c cs ih =>
    have hc : c ≠ ';' := by intro h'; apply h; simp [h']
    have hcs : ';' ∉ cs := by intro h'; apply h; simp [h']
    simp [splitSemi, hc, ih hcs]

/-- A character `parse_content` copies unchanged. -/
def plainFor (attr : Bool) (c : Char) : Bool :=
  c != '\r' && c != '&' && !(attr && (c == '\t' || c == '\n'))

theorem parseGo_plain (attr : Bool) (base pos : Nat) (c : Char) (rest : Str)
    (h : plainFor attr c = true) :
    parseContentGo attr base pos (c :: rest) =
      consOk c (parseContentGo attr base (pos + utf8Len c) rest) := by
  simp [plainFor] at h
  obtain ⟨⟨h1, h2⟩, h3⟩ := h
  rw [parseContentGo.eq_def]
  simp only [h1, h2, if_false]
  cases attr with
  | false => simp
  | true =>
    simp at h3
    simp [h3]

/-- A well-formed reference row: `&` + entity text without `;` + `;` that decodes to `c`. -/
def refOk (c : Char) (esc : Str) : Bool :=
  match esc with
  | '&' :: body =>
    (match body.reverse with
     | ';' :: rent => !(rent.contains ';') && decodeEntity rent.reverse == some c
     | _ => false)
  | _ => false

theorem refOk_shape {c : Char} {esc : Str} (h : refOk c esc = true) :
    ∃ ent, esc = '&' :: (ent ++ [';']) ∧ ';' ∉ ent ∧ decodeEntity ent = some c := by
  unfold refOk at h
  split at h
  · rename_i body
    split at h
    · rename_i rent hb
      simp at h
      refine ⟨rent.reverse, ?_, ?_, h.2⟩
      · have : body = (';' :: rent).reverse := by rw [← hb]; simp
        simp [this]
      · simpa using h.1
    · simp at h
  · simp at h

theorem parseGo_amp (attr : Bool) (base pos : Nat) (rest : Str) :
    parseContentGo attr base pos ('&' :: rest) =
      match splitSemi rest with
      | none => .error (.unclosed rest (base + pos))
      | some (ent, rest') =>
        match decodeEntity ent with
        | none => .error (.invalid (entityErrText ent) (base + pos) (base + (pos + 1 + strLen ent + 1)))
        | some ch => consOk ch (parseContentGo attr base (pos + 1 + strLen ent + 1) rest') := by
  rw [parseContentGo.eq_def]
  have h1 : ('&' : Char) ≠ '\r' := by decide
  simp only [h1, if_false, if_true]
  split
  · next hs => rw [hs]
  · next hs => rw [hs]; rfl

theorem parseGo_entity (attr : Bool) (base pos : Nat) (c : Char) (ent rest : Str)
    (hsemi : ';' ∉ ent) (hdec : decodeEntity ent = some c) :
    parseContentGo attr base pos ('&' :: (ent ++ ';' :: rest)) =
      consOk c (parseContentGo attr base (pos + 1 + strLen ent + 1) rest) := by
  rw [parseGo_amp, splitSemi_append ent rest hsemi]
  simp only [hdec]

theorem parseGo_ref (attr : Bool) (base pos : Nat) (c : Char) (esc rest : Str)
    (h : refOk c esc = true) :
    ∃ pos', parseContentGo attr base pos (esc ++ rest) =
      consOk c (parseContentGo attr base pos' rest) := by
  obtain ⟨ent, rfl, hsemi, hdec⟩ := refOk_shape h
  exact ⟨_, by simpa using parseGo_entity attr base pos c ent rest hsemi hdec⟩

/-- Every row of the table is a reference that decodes to its key. -/
def tableOk (t : List (Char × Str)) : Bool := t.all (fun r => refOk r.1 r.2)

/-- Every character that `parse_content` would not copy unchanged has a row. -/
def tableCovers (attr : Bool) (t : List (Char × Str)) : Bool :=
  ['\r', '&', '\t', '\n'].all (fun c => plainFor attr c || (t.lookup c).isSome)

theorem lookup_refOk {t : List (Char × Str)} (ht : tableOk t = true) {c : Char} {esc : Str}
    (h : t.lookup c = some esc) : refOk c esc = true :=
  List.all_eq_true.mp ht _ (lookup_mem h)

theorem plain_of_covers {attr : Bool} {t : List (Char × Str)} (hc : tableCovers attr t = true)
    {c : Char} (h : t.lookup c = none) : plainFor attr c = true := by
  simp only [tableCovers, List.all_cons, List.all_nil, Bool.and_true, Bool.and_eq_true, Bool.or_eq_true] at hc
  obtain ⟨h1, h2, h3, h4⟩ := hc
  by_cases e1 : c = '\r'
  · subst e1; simpa [h] using h1
  by_cases e2 : c = '&'
  · subst e2; simpa [h] using h2
  by_cases e3 : c = '\t'
  · subst e3; simpa [h] using h3
  by_cases e4 : c = '\n'
  · subst e4; simpa [h] using h4
  simp [plainFor, e1, e2, e3, e4]

/-- What a covering, well-formed table writes for `c` (its reference, or `c` itself) reads back
    as `c`. -/
theorem parseGo_escapeWith {attr : Bool} {t : List (Char × Str)} (ht : tableOk t = true)
    (hc : tableCovers attr t = true) (base pos : Nat) (c : Char) (rest : Str) :
    ∃ pos', parseContentGo attr base pos (escapeWith t c ++ rest) =
      consOk c (parseContentGo attr base pos' rest) := by
  cases hl : t.lookup c with
  | some esc =>
    rw [show escapeWith t c = esc by simp [escapeWith, hl]]
    exact parseGo_ref attr base pos c esc rest (lookup_refOk ht hl)
  | none =>
    rw [show escapeWith t c = [c] by simp [escapeWith, hl]]
    exact ⟨_, parseGo_plain attr base pos c rest (plain_of_covers hc hl)⟩

theorem parse_escape_roundtrip (attr : Bool) (t : List (Char × Str))
    (ht : tableOk t = true) (hc : tableCovers attr t = true) (s : Str) :
    ∀ base pos, parseContentGo attr base pos (s.flatMap (escapeWith t)) = .ok s := by
  induction s with
  | nil => intro base pos; simp [parseContentGo]
  | cons c cs ih =>
    intro base pos
    obtain ⟨pos', hp⟩ := parseGo_escapeWith ht hc base pos c (cs.flatMap (escapeWith t))
    rw [List.flatMap_cons, hp, ih base pos']; rfl

end XotModel

namespace XotModel
open Gen

/-- The piece `serialize_text(unescaped_gt = true)` writes for `c` when the output so far,
    reversed, is `racc`. -/
def gtPiece (racc : Str) (c : Char) : Str :=
  if c = '>' then
    match racc with
    | ']' :: ']' :: _ => textGtEscape
    | _ => ['>']
  else escapeWith textEscapes c

/-- Non-accumulating form of `serializeTextGtGo`. -/
def gtOut : Str → Str → Str
  | _, [] => []
  | racc, c :: cs => gtPiece racc c ++ gtOut ((gtPiece racc c).reverse ++ racc) cs

theorem serializeTextGtGo_eq (racc s : Str) :
    serializeTextGtGo racc s = racc.reverse ++ gtOut racc s := by
  induction s generalizing racc with
  | nil => simp [serializeTextGtGo, gtOut]
  | cons c cs ih =>
    unfold serializeTextGtGo gtOut gtPiece
    by_cases hc : c = '>'
    · simp only [hc, if_true]
      split <;> simp [ih]
    · simp only [hc, if_false]
      simp [ih]

/-- The piece written for `c` with `>` unescaped where it can be reads back as `c`. -/
theorem parseGo_gtPiece (ht : tableOk textEscapes = true) (hc : tableCovers false textEscapes = true)
    (hgt : refOk '>' textGtEscape = true) (racc : Str) (base pos : Nat) (c : Char) (rest : Str) :
    ∃ pos', parseContentGo false base pos (gtPiece racc c ++ rest) =
      consOk c (parseContentGo false base pos' rest) := by
  unfold gtPiece
  split
  · next h =>
    subst h
    split
    · exact parseGo_ref false base pos '>' textGtEscape rest hgt
    · exact ⟨_, parseGo_plain false base pos '>' rest (by decide)⟩
  · exact parseGo_escapeWith ht hc base pos c rest

theorem gt_roundtrip (ht : tableOk textEscapes = true) (hc : tableCovers false textEscapes = true)
    (hgt : refOk '>' textGtEscape = true) (s : Str) :
    ∀ racc base pos, parseContentGo false base pos (gtOut racc s) = .ok s := by
  induction s with
  | nil => intro racc base pos; simp [gtOut, parseContentGo]
  | cons c cs ih =>
    intro racc base pos
    obtain ⟨pos', hp⟩ := parseGo_gtPiece ht hc hgt racc base pos c (gtOut ((gtPiece racc c).reverse ++ racc) cs)
    rw [gtOut, hp, ih _ base pos']; rfl

theorem inSection_cons_ne (c : Char) (rest : Str) (h : c ≠ ']') :
    inSection (c :: rest) = (inSection rest).map (c :: ·) := by
  rw [inSection.eq_def]
  split
  · simp_all
  · rename_i heq; simp at heq; exact absurd heq.1 h
  · rename_i c' rest' _ heq; simp at heq; obtain ⟨rfl, rfl⟩ := heq; rfl

theorem inSection_bracket (rest : Str) (h : ∀ r, rest ≠ ']' :: '>' :: r) :
    inSection (']' :: rest) = (inSection rest).map (']' :: ·) := by
  rw [inSection.eq_def]
  split
  · simp_all
  · rename_i r heq; simp at heq; exact absurd heq (h r)
  · rename_i c' rest' _ heq; simp at heq; obtain ⟨rfl, rfl⟩ := heq; rfl

theorem inSection_end (rest : Str) :
    inSection (']' :: ']' :: '>' :: rest) = afterSection rest := by
  simp [inSection]

theorem replicate_bracket_ne (m : Nat) (c : Char) (rest r : Str) (hc : c ≠ ']')
    (h : c = '>' → m + 1 < 2) : List.replicate m ']' ++ c :: rest ≠ ']' :: '>' :: r := by
  intro heq
  cases m with
  | zero => simp at heq; exact hc heq.1
  | succ m =>
    cases m with
    | zero =>
      simp at heq
      have := h heq.1
      omega
    | succ m => simp [List.replicate_succ] at heq

/-- Reading past `m` brackets followed by a non-bracket that does not complete `]]>`. -/
theorem inSection_brackets_then (m : Nat) (c : Char) (rest : Str) (hc : c ≠ ']')
    (h : c = '>' → m < 2) :
    inSection (List.replicate m ']' ++ c :: rest) =
      (inSection rest).map (fun r => List.replicate m ']' ++ c :: r) := by
  induction m with
  | zero =>
    simp only [List.replicate_zero, List.nil_append]
    exact inSection_cons_ne c rest hc
  | succ m ih =>
    simp only [List.replicate_succ, List.cons_append]
    rw [inSection_bracket _ (fun r => replicate_bracket_ne m c rest r hc h)]
    rw [ih (fun hgt => by have := h hgt; omega)]
    cases inSection rest <;> simp

theorem replicate_end_ne (m : Nat) (r : Str) :
    List.replicate m ']' ++ [']', ']', '>'] ≠ ']' :: '>' :: r := by
  intro heq
  cases m with
  | zero => simp at heq
  | succ m => cases m <;> simp [List.replicate_succ] at heq

theorem inSection_brackets_end (m : Nat) (rest : Str) :
    inSection (List.replicate m ']' ++ ']' :: ']' :: '>' :: rest) =
      (afterSection rest).map (fun r => List.replicate m ']' ++ r) := by
  induction m with
  | zero => simp [inSection_end]
  | succ m ih =>
    simp only [List.replicate_succ, List.cons_append]
    rw [inSection_bracket]
    · rw [ih]; cases afterSection rest <;> simp
    · intro r heq
      cases m with
      | zero => simp at heq
      | succ m => cases m <;> simp [List.replicate_succ] at heq

end XotModel

namespace XotModel
open Gen

theorem afterSection_open (rest : Str) :
    afterSection ('<' :: '!' :: '[' :: 'C' :: 'D' :: 'A' :: 'T' :: 'A' :: '[' :: rest) = inSection rest := by
  simp [afterSection]

theorem replicate_snoc_append (n : Nat) (a : Char) (l : Str) :
    List.replicate (n + 1) a ++ l = List.replicate n a ++ a :: l := by
  rw [List.replicate_succ']; simp

theorem afterSection_cr (rest : Str) :
    afterSection ('&' :: '#' :: 'x' :: 'D' :: ';' :: rest) = (afterSection rest).map ('\r' :: ·) := by
  simp [afterSection]

/-- The bracket-counter invariant of `serialize_cdata`: with `j` brackets already written (only
    possible while the counter is saturated at 2) and `k` brackets pending, reading the rest of
    the output back as section content yields all `j + k` brackets and then the input. -/
theorem cdataGo_sections
    (hO : cdataOpen = ['<','!','[','C','D','A','T','A','['])
    (hS : cdataSplit = [']',']',']',']','>'] ++ cdataOpen ++ ['>'])
    (hR : cdataCr = [']',']','>'] ++ ['&','#','x','D',';'] ++ cdataOpen)
    (hC : cdataClose = [']',']','>']) (cs : Str) :
    ∀ j k, k ≤ 2 → (k < 2 → j = 0) →
      inSection (List.replicate j ']' ++ serializeCdataGo k cs) = some (List.replicate (j + k) ']' ++ cs) := by
  induction cs with
  | nil =>
    intro j k _ _
    simp only [serializeCdataGo, hC]
    rw [← List.append_assoc, List.replicate_append_replicate, inSection_brackets_end]
    simp [afterSection]
  | cons c cs ih =>
    intro j k hk hj
    unfold serializeCdataGo
    by_cases hb : c = ']'
    · subst hb
      simp only [if_true]
      by_cases hk2 : k < 2
      · simp only [hk2, if_true]
        have hj0 := hj hk2
        subst hj0
        have := ih 0 (k + 1) (by omega) (by intro; rfl)
        simp only [List.replicate_zero, List.nil_append, Nat.zero_add] at this ⊢
        rw [this, replicate_snoc_append]
      · simp only [hk2, if_false]
        have hk' : k = 2 := by omega
        subst hk'
        have := ih (j + 1) 2 (by omega) (by omega)
        rw [replicate_snoc_append] at this
        rw [this]
        congr 1
        rw [show j + 1 + 2 = (j + 2) + 1 by omega, replicate_snoc_append]
    · simp only [hb, if_false]
      by_cases hg : c = '>'
      · subst hg
        simp only [if_true]
        by_cases hk2 : k = 2
        · subst hk2
          simp only [if_true, hS, hO]
          have h0 := ih 0 0 (by omega) (by intro; rfl)
          simp only [List.replicate_zero, List.nil_append, Nat.zero_add] at h0
          have : List.replicate j ']' ++ ([']', ']', ']', ']', '>'] ++ ['<','!','[','C','D','A','T','A','['] ++ ['>'] ++ serializeCdataGo 0 cs)
              = List.replicate (j + 2) ']' ++ ']' :: ']' :: '>' :: ('<' :: '!' :: '[' :: 'C' :: 'D' :: 'A' :: 'T' :: 'A' :: '[' :: '>' :: serializeCdataGo 0 cs) := by
            rw [← List.replicate_append_replicate]; simp [List.replicate]
          rw [this, inSection_brackets_end, afterSection_open, inSection_cons_ne _ _ (by decide), h0]
          simp
        · simp only [hk2, if_false]
          have hk' : k < 2 := by omega
          have hj0 := hj hk'
          subst hj0
          have h0 := ih 0 0 (by omega) (by intro; rfl)
          simp only [List.replicate_zero, List.nil_append, Nat.zero_add] at h0 ⊢
          rw [inSection_brackets_then k '>' _ (by decide) (fun _ => hk'), h0]
          simp
      · simp only [hg, if_false]
        have h0 := ih 0 0 (by omega) (by intro; rfl)
        simp only [List.replicate_zero, List.nil_append, Nat.zero_add] at h0
        by_cases hr : c = '\r'
        · subst hr
          simp only [if_true, hR, hO]
          have : List.replicate j ']' ++ (List.replicate k ']' ++ ([']', ']', '>'] ++ ['&', '#', 'x', 'D', ';'] ++ ['<','!','[','C','D','A','T','A','['] ++ serializeCdataGo 0 cs))
              = List.replicate (j + k) ']' ++ ']' :: ']' :: '>' :: ('&' :: '#' :: 'x' :: 'D' :: ';' :: ('<' :: '!' :: '[' :: 'C' :: 'D' :: 'A' :: 'T' :: 'A' :: '[' :: serializeCdataGo 0 cs)) := by
            rw [← List.append_assoc, List.replicate_append_replicate]; simp
          rw [this, inSection_brackets_end, afterSection_cr, afterSection_open, h0]
          simp
        · simp only [hr, if_false]
          rw [← List.append_assoc, List.replicate_append_replicate,
            inSection_brackets_then (j + k) c _ hb (fun h => absurd h hg), h0]
          simp

theorem startsCdataEnd_append_noGt (l piece : Str) (h : '>' ∉ piece) :
    startsCdataEnd (l ++ piece) = startsCdataEnd l := by
  match l with
  | [] =>
    match piece with
    | [] => rfl
    | [a] => simp [startsCdataEnd]
    | [a, b] => simp [startsCdataEnd]
    | a :: b :: c :: r =>
      have : c ≠ '>' := by intro hc; apply h; simp [hc]
      simp [startsCdataEnd, this]
  | [a] =>
    match piece with
    | [] => rfl
    | [b] => simp [startsCdataEnd]
    | b :: c :: r =>
      have : c ≠ '>' := by intro hc; apply h; simp [hc]
      simp [startsCdataEnd, this]
  | [a, b] =>
    match piece with
    | [] => rfl
    | c :: r =>
      have : c ≠ '>' := by intro hc; apply h; simp [hc]
      simp [startsCdataEnd, this]
  | a :: b :: c :: r => simp [startsCdataEnd]

theorem hasCdataEnd_append_noGt (out piece : Str) (h : '>' ∉ piece) :
    hasCdataEnd (out ++ piece) = hasCdataEnd out := by
  induction out with
  | nil =>
    simp only [List.nil_append]
    induction piece with
    | nil => rfl
    | cons c cs ih =>
      have hcs : '>' ∉ cs := by intro h'; apply h; simp [h']
      have := startsCdataEnd_append_noGt [] (c :: cs) h
      simp only [List.nil_append] at this
      have h0 : startsCdataEnd [] = false := rfl
      show (startsCdataEnd (c :: cs) || hasCdataEnd cs) = false
      rw [this, h0, ih hcs]; rfl
  | cons c o ih =>
    have := startsCdataEnd_append_noGt (c :: o) piece h
    simp only [List.cons_append] at this ⊢
    simp [hasCdataEnd, this, ih]

theorem hasCdataEnd_append_gt (out : Str) (h : hasCdataEnd out = false)
    (hr : ∀ r, out.reverse ≠ ']' :: ']' :: r) : hasCdataEnd (out ++ ['>']) = false := by
  induction out with
  | nil => simp [hasCdataEnd, startsCdataEnd]
  | cons c o ih =>
    simp only [hasCdataEnd, Bool.or_eq_false_iff] at h
    have ho : ∀ r, o.reverse ≠ ']' :: ']' :: r := by
      intro r heq
      apply hr (r ++ [c])
      simp [heq]
    simp only [List.cons_append, hasCdataEnd, Bool.or_eq_false_iff]
    refine ⟨?_, ih h.2 ho⟩
    match o, h, hr with
    | [], _, _ => simp [startsCdataEnd]
    | [d], _, hr =>
      simp only [List.cons_append, List.nil_append]
      by_cases hc : c = ']'
      · by_cases hd : d = ']'
        · exfalso; apply hr []; simp [hc, hd]
        · simp [startsCdataEnd, hd]
      · simp [startsCdataEnd, hc]
    | d :: e :: o', h, _ =>
      have := h.1
      simp only [List.cons_append]
      simpa [startsCdataEnd] using this

/-- No escape string contains `>` or `]`. -/
def tableNoGtBracket (t : List (Char × Str)) : Bool :=
  t.all (fun r => !(r.2.contains '>'))

theorem escapeWith_noGt {t : List (Char × Str)} (ht : tableNoGtBracket t = true) {c : Char}
    (hc : c ≠ '>') : '>' ∉ escapeWith t c := by
  unfold escapeWith
  cases hl : t.lookup c with
  | none => simp; exact fun h => hc h.symm
  | some esc => simpa using List.all_eq_true.mp ht _ (lookup_mem hl)

theorem gtOut_noCdataEnd (ht : tableNoGtBracket textEscapes = true)
    (hg : textGtEscape.contains '>' = false) (s : Str) :
    ∀ racc, hasCdataEnd racc.reverse = false → hasCdataEnd (racc.reverse ++ gtOut racc s) = false := by
  induction s with
  | nil => intro racc h; simpa [gtOut] using h
  | cons c cs ih =>
    intro racc h
    unfold gtOut
    have key : hasCdataEnd (racc.reverse ++ gtPiece racc c) = false := by
      unfold gtPiece
      by_cases hc : c = '>'
      · simp only [hc, if_true]
        split
        · rw [hasCdataEnd_append_noGt _ _ (by simpa using hg)]; exact h
        · rename_i hne
          apply hasCdataEnd_append_gt _ h
          intro r heq
          simp at heq
          exact hne r heq
      · simp only [hc, if_false]
        rw [hasCdataEnd_append_noGt _ _ (escapeWith_noGt ht hc)]; exact h
    have := ih ((gtPiece racc c).reverse ++ racc) (by simpa using key)
    simpa using this

/-- `c` has a row and no escape string of the table contains `c`. -/
def tableHides (t : List (Char × Str)) (c : Char) : Bool :=
  (t.lookup c).isSome && t.all (fun r => !(r.2.contains c))

theorem escapeWith_hides {t : List (Char × Str)} {c : Char} (h : tableHides t c = true) (d : Char) :
    c ∉ escapeWith t d := by
  simp only [tableHides, Bool.and_eq_true] at h
  obtain ⟨hk, hrows⟩ := h
  unfold escapeWith
  cases hl : t.lookup d with
  | none =>
    simp only [List.mem_singleton]
    intro hcd; subst hcd; simp [hl] at hk
  | some esc => simpa using List.all_eq_true.mp hrows _ (lookup_mem hl)

theorem flatMap_escape_hides {t : List (Char × Str)} {c : Char} (h : tableHides t c = true) (s : Str) :
    c ∉ s.flatMap (escapeWith t) := by
  simp only [List.mem_flatMap, not_exists, not_and]
  intro d _
  exact escapeWith_hides h d

theorem gtOut_hides {c : Char} (h : tableHides textEscapes c = true) (hc : c ≠ '>')
    (hg : textGtEscape.contains c = false) (s : Str) : ∀ racc, c ∉ gtOut racc s := by
  induction s with
  | nil => intro racc; simp [gtOut]
  | cons d ds ih =>
    intro racc
    unfold gtOut
    simp only [List.mem_append, not_or]
    refine ⟨?_, ih _⟩
    unfold gtPiece
    split
    · split
      · simpa using hg
      · simp; exact hc
    · exact escapeWith_hides h d

/-- `serialize_text(unescaped_gt = false)` is table-driven escaping with the `>` row added. -/
theorem serializeText_false_eq (s : Str) :
    serializeText false s = s.flatMap (escapeWith (('>', textGtEscape) :: textEscapes)) := by
  simp only [serializeText, serializeTextEsc, Bool.false_eq_true, if_false]
  congr 1; funext c
  by_cases hc : c = '>'
  · subst hc; simp [escapeWith, List.lookup]
  · have : (c == '>') = false := by simpa using hc
    simp [escapeWith, List.lookup, hc, this]

theorem cdata_literals_ok :
    cdataOpen = ['<','!','[','C','D','A','T','A','['] ∧
    cdataSplit = [']',']',']',']','>'] ++ cdataOpen ++ ['>'] ∧
    cdataCr = [']',']','>'] ++ ['&','#','x','D',';'] ++ cdataOpen ∧
    cdataClose = [']',']','>'] := by decide

theorem gt_tables_ok :
    tableOk textEscapes = true ∧ tableCovers false textEscapes = true ∧
    refOk '>' textGtEscape = true ∧ tableNoGtBracket textEscapes = true ∧
    textGtEscape.contains '>' = false := by decide

theorem cdata_sections_roundtrip (s : Str) : cdataSectionsContent (serializeCdata s) = some s := by
  obtain ⟨hO, hS, hR, hC⟩ := cdata_literals_ok
  have h := cdataGo_sections hO hS hR hC s 0 0 (by omega) (by intro; rfl)
  simp only [List.replicate_zero, List.nil_append, Nat.zero_add] at h
  unfold cdataSectionsContent serializeCdata
  rw [hO]
  simp only [List.cons_append, List.nil_append]
  rw [afterSection_open, h]

theorem gt_text_roundtrip (s : Str) : parseText (serializeText true s) = .ok s := by
  obtain ⟨h1, h2, h3, _, _⟩ := gt_tables_ok
  unfold parseText parseContent serializeText
  simp only [if_true]
  rw [serializeTextGtGo_eq]
  simpa using gt_roundtrip h1 h2 h3 s [] 0 0

theorem gt_no_cdata_end (s : Str) : hasCdataEnd (serializeText true s) = false := by
  obtain ⟨_, _, _, h4, h5⟩ := gt_tables_ok
  unfold serializeText
  simp only [if_true]
  rw [serializeTextGtGo_eq]
  exact gtOut_noCdataEnd h4 h5 s [] rfl

end XotModel
