/-
  Locality for every call (C12): histories of edits, the two sides of a clone right after
  `clone_node` and `clone_with_prefixes`, separated roots below `next` (`SepB`), every constructor
  of `Forest.Call`, the steps of `Forest.HStep` and their histories.  No invariant is needed.
-/
import XotModel.Lemmas.FlocalSep
import XotModel.Lemmas.FcloneMain
import XotModel.Lemmas.FlocalNext
import XotModel.Model.FcloneModel
import XotModel.Model.FlocalSpec

/-! ## Histories, and separation of the clone and of every old root right after `clone_node`. -/

namespace XotModel
open HTree

theorem Sep.edit {r : HTree} {f : Forest} (s : Sep r f) (op : EditOp)
    (h : ∀ a ∈ op.args, a ∉ handles r) : Sep r (f.edit op) := by
  cases op with
  | append p c => exact s.append (h p List.mem_cons_self) (h c (List.mem_cons_of_mem _ List.mem_cons_self))
  | prepend p c => exact s.prepend (h p List.mem_cons_self) (h c (List.mem_cons_of_mem _ List.mem_cons_self))
  | insertAfter a b =>
    exact (Sep.closed r).insertAfter s (h a List.mem_cons_self) (h b (List.mem_cons_of_mem _ List.mem_cons_self))
  | insertBefore a b =>
    exact (Sep.closed r).insertBefore s (h a List.mem_cons_self) (h b (List.mem_cons_of_mem _ List.mem_cons_self))
  | detach n => exact s.detach (h n List.mem_cons_self)
  | remove n => exact s.remove (h n List.mem_cons_self)
  | setText n x => exact s.setText (h n List.mem_cons_self) x
  | setComment n x => exact s.setComment (h n List.mem_cons_self) x
  | setPiData n d => exact s.setPiData (h n List.mem_cons_self) d
  | setElementName n x => exact s.setElementName (h n List.mem_cons_self) x

theorem Sep.edits {r : HTree} : ∀ (ops : List EditOp) {f : Forest}, Sep r f →
    (∀ op ∈ ops, ∀ a ∈ op.args, a ∉ handles r) → Sep r (f.edits ops)
  | [], _, s, _ => s
  | op :: ops, f, s, h => by
    have s1 := s.edit op (h op List.mem_cons_self)
    exact Sep.edits ops s1 (fun o ho => h o (List.mem_cons_of_mem _ ho))

theorem nodup_disj : ∀ (L : List HTree), (handlesList L).Nodup → ∀ t ∈ L, ∀ r ∈ L, t ≠ r →
    ∀ a ∈ handles r, a ∉ handles t
  | [], _, t, ht, _, _, _, _, _ => by cases ht
  | x :: L, hn, t, ht, r, hr, hne, a, har => by
    simp only [handlesList] at hn
    obtain ⟨_, h2, h3⟩ := List.nodup_append.mp hn
    intro hat
    rcases List.mem_cons.mp ht with rfl | ht'
    · rcases List.mem_cons.mp hr with rfl | hr'
      · exact hne rfl
      · exact h3 a hat a (handles_subset_handlesList hr' a har) rfl
    · rcases List.mem_cons.mp hr with rfl | hr'
      · exact h3 a har a (handles_subset_handlesList ht' a hat) rfl
      · exact nodup_disj L h2 t ht' r hr' hne a har hat

theorem Sep.of_inv {f : Forest} (inv : f.Inv) {r : HTree} (hr : r ∈ f.roots) : Sep r f :=
  ⟨hr, fun t ht hne => nodup_disj f.roots inv.nodup t ht r hr hne⟩

theorem sep_after_clone (f : Forest) (inv : f.Inv) (C : HTree) (f' : Forest)
    (h2 : f'.roots = f.roots ++ [C]) (h4 : ∀ a ∈ handles C, f.next ≤ a) :
    Sep C f' ∧ ∀ r ∈ f.roots, Sep r f' := by
  refine ⟨⟨by rw [h2]; simp, ?_⟩, ?_⟩
  · intro t ht hne a ha hat
    rw [h2] at ht
    rcases List.mem_append.mp ht with x | x
    · have := inv.below a (handles_subset_handlesList x a hat)
      have := h4 a ha
      omega
    · simp at x; exact hne x
  · intro r hr
    refine ⟨by rw [h2]; simp [hr], ?_⟩
    intro t ht hne a ha hat
    rw [h2] at ht
    rcases List.mem_append.mp ht with x | x
    · exact nodup_disj f.roots inv.nodup t x r hr hne a ha hat
    · simp at x
      subst x
      have := inv.below a (handles_subset_handlesList hr a ha)
      have := h4 a hat
      omega

end XotModel

/-! ## Inserting the inherited declarations on the clone, in any order, leaves every other root as it is. -/

namespace XotModel
open HTree

/-- Every handle of `r` was handed out before `f.next`. -/
def Below (r : HTree) (f : Forest) : Prop := ∀ a ∈ handles r, a < f.next

theorem Below.le {r : HTree} {f f' : Forest} (hb : Below r f) (hle : Forest.NLe f f') : Below r f' :=
  fun a ha => Nat.lt_of_lt_of_le (hb a ha) hle

namespace Sep

variable {r : HTree} {f : Forest}

theorem newNode (s : Sep r f) (hb : Below r f) (v : Value) :
    Sep r (f.newNode v).1 ∧ Below r (f.newNode v).1 ∧ (f.newNode v).2 ∉ handles r := by
  refine ⟨?_, ?_, ?_⟩
  · refine s.appendRoots [.node f.next v []] ?_ rfl
    intro t ht a ha hat
    simp only [List.mem_singleton] at ht
    subst ht
    simp only [handles, handlesList, List.mem_cons, List.not_mem_nil, or_false] at hat
    have := hb a ha
    omega
  · intro a ha
    have := hb a ha
    show a < f.next + 1
    omega
  · intro h
    exact Nat.lt_irrefl _ (hb _ h)

theorem mapInsert (s : Sep r f) (hb : Below r f) {k : Forest.MapKind} {p : Nat} (hp : p ∉ handles r)
    (entry : Value) : Sep r (f.mapInsert k p entry).1 ∧ Below r (f.mapInsert k p entry).1 :=
  ⟨(closed r).mapInsert s hp trivial (s.newNode hb entry).1 (s.newNode hb entry).2.2,
    hb.le ((Forest.nle_closed f).mapInsert (Forest.NLe.refl f) trivial trivial
      (Forest.nle_newNode f entry) trivial)⟩

theorem addPrefixes (clone : Nat) (hc : clone ∉ handles r) (order : List (Nat × Nat)) {f : Forest}
    (s : Sep r f) (hb : Below r f) : Sep r (f.addPrefixes clone order).1 :=
  (Forest.Closed.addPrefixes_keeps (P := fun g => Sep r g ∧ Below r g) clone order ⟨s, hb⟩
    (fun _ _ _ hg => hg.1.mapInsert hg.2 hc _)).1

end Sep

/-- `clone_with_prefixes`, whatever the iteration order of the inherited prefixes: every tree
    that existed before is still a root, unchanged. -/
theorem cloneWithPrefixes_frame (f : Forest) (inv : f.Inv) (node : Nat) (src : HTree)
    (hsrc : f.get? node = some src) (order : List (Nat × Nat)) :
    ∀ r ∈ f.roots, r ∈ (f.cloneWithPrefixes node order).1.roots := by
  obtain ⟨C, f', h1, h2, _, h4, h5, -⟩ := cloneNode_full f inv node src hsrc
  obtain ⟨_, g4⟩ := sep_after_clone f inv C f' h2 (fun a ha => (h4 a ha).1)
  intro r hr
  have s := g4 r hr
  have hb : Below r f' := fun a ha => by
    have := inv.below a (handles_subset_handlesList hr a ha)
    omega
  have hc : C.handle ∉ handles r := by
    intro h
    have := inv.below _ (handles_subset_handlesList hr _ h)
    have := (h4 _ (handle_mem_handles C)).1
    omega
  unfold Forest.cloneWithPrefixes
  rw [h1]
  simp only
  split
  · have h := Sep.addPrefixes C.handle hc order s hb
    generalize f'.addPrefixes C.handle order = ap at h ⊢
    obtain ⟨f2, res⟩ := ap
    cases res <;> exact h.mem
  · exact s.mem

end XotModel

/-! ## `SepB`; the node-map calls, `any_append` and `remove_insignificant_whitespace`

`SepB`: `Sep` and `Below`, a separated root whose handles were all handed out already.  The statements hold for all
forests and all arguments, whatever the call answers. -/

namespace XotModel
open HTree

/-- `r` is a separated root of `f` and all its handles are below `f.next`. -/
structure SepB (r : HTree) (f : Forest) : Prop where
  sep : Sep r f
  below : Below r f

namespace Sep

variable {r : HTree} {f : Forest}

theorem mapRemove (s : Sep r f) {k : Forest.MapKind} {p : Nat} (hp : p ∉ handles r) (key : Nat) :
    Sep r (f.mapRemove k p key).1 :=
  (closed r).mapRemove s hp key

theorem mapClear (s : Sep r f) {k : Forest.MapKind} {p : Nat} (hp : p ∉ handles r) :
    Sep r (f.mapClear k p).1 :=
  (closed r).mapClear s hp

theorem mapInsertNode (s : Sep r f) (hb : Below r f) {k : Forest.MapKind} {p n : Nat}
    (hp : p ∉ handles r) (hn : n ∉ handles r) : Sep r (f.mapInsertNode k p n).1 :=
  (closed r).mapInsertNode s hp hn

theorem anyAppend (s : Sep r f) (hb : Below r f) {p n : Nat}
    (hp : p ∉ handles r) (hn : n ∉ handles r) : Sep r (f.anyAppend p n).1 :=
  (closed r).anyAppend s hp hn

theorem setConsolidation (s : Sep r f) (b : Bool) : Sep r (f.setConsolidation b) := s.of_roots rfl

theorem removeInsignificantWhitespace (s : Sep r f) {n : Nat} (hn : n ∉ handles r) :
    Sep r (f.removeInsignificantWhitespace n) :=
  (closed r).removeInsignificantWhitespace s hn

end Sep
end XotModel

/-! ## `replace`, and `clone_node` (which creates nodes: `SepB`) -/

namespace XotModel
open HTree

namespace Sep

variable {r : HTree} {f : Forest}

theorem replace (s : Sep r f) {a b : Nat} (ha : a ∉ handles r) (hb : b ∉ handles r) :
    Sep r (f.replace a b).1 :=
  (closed r).replace s ha hb

end Sep

namespace SepB

variable {r : HTree} {f : Forest}

theorem newNode (s : SepB r f) (v : Value) : SepB r (f.newNode v).1 ∧ (f.newNode v).2 ∉ handles r := by
  obtain ⟨a, b, c⟩ := s.sep.newNode s.below v
  exact ⟨⟨a, b⟩, c⟩

theorem anyAppend (s : SepB r f) {p n : Nat} (hp : p ∉ handles r) (hn : n ∉ handles r) :
    SepB r (f.anyAppend p n).1 :=
  ⟨s.sep.anyAppend s.below hp hn, s.below.le (Forest.nle_anyAppend f p n)⟩

theorem spliceOut (s : SepB r f) {n : Nat} (hn : n ∉ handles r) : SepB r (f.spliceOut n) :=
  ⟨s.sep.spliceOut hn, s.below.le (Forest.nle_spliceOut f n)⟩

/-- One step of the replay: a new node, added under a node outside `r`. -/
theorem clone_step (s : SepB r f) {v : Value} {cur : Nat} (hcur : cur ∉ handles r) :
    SepB r ((f.newNode v).1.anyAppend cur (f.newNode v).2).1 ∧ (f.newNode v).2 ∉ handles r :=
  ⟨(s.newNode v).1.anyAppend hcur (s.newNode v).2, (s.newNode v).2⟩

/-- `clone_node`, for any source node at all (inside `r` or not: cloning only reads the source);
    the node it returns lies outside `r` too. -/
theorem cloneNode_both (s : SepB r f) (n : Nat) :
    SepB r (f.cloneNode n).1 ∧ ∀ c, (f.cloneNode n).2 = some c → c ∉ handles r :=
  Forest.Closed.cloneNode_keeps (P := SepB r) (S := fun _ => True) (Sv := fun _ => True)
    (fun _ => ⟨trivial, fun _ _ => trivial⟩) (fun s _ => s.newNode _) (fun s hcur _ => s.clone_step hcur)
    (fun s h => s.spliceOut h) (fun s h hfc => s.sep.firstChild_disj h hfc) s (fun _ _ => trivial)

theorem cloneNode (s : SepB r f) (n : Nat) : SepB r (f.cloneNode n).1 := (s.cloneNode_both n).1

/-- The node `clone_node` returns lies outside `r` — wherever the source lies. -/
theorem cloneNode_result (s : SepB r f) (n : Nat) {c : Nat} (hc : (f.cloneNode n).2 = some c) :
    c ∉ handles r := (s.cloneNode_both n).2 c hc

end SepB
end XotModel

/-! ## Every constructor of `Forest.Call`, the steps of `Forest.HStep`, histories, the two sides of a clone -/

namespace XotModel
open HTree

namespace Forest

theorem nle_call (f : Forest) (c : Call) : NLe f (c.run f).1 :=
  (nle_closed f).call c (NLe.refl f) (fun _ _ => trivial) c.fpvNewQ_trivial
    (fun v _ => ⟨nle_newNode f v, trivial⟩) (nle_cloneNode f)
    (fun _ _ _ _ _ => (nle_closed f).textContentSet (NLe.refl f) trivial trivial (nle_newNode f _) trivial)

theorem nle_stepAll (f : Forest) (s : HStep) : NLe f (f.stepAll s) := by
  cases s with
  | call c => exact nle_call f c
  | newNode v => exact nle_newNode f v
  | setConsolidation b => exact nle_setConsolidation f b
  | removeInsignificantWhitespace n => exact nle_removeInsignificantWhitespace f n

end Forest

namespace SepB

variable {r : HTree} {f : Forest}

/-- One call none of whose node arguments lies in `r` (for `clone_node` the source may lie anywhere). -/
theorem call (s : SepB r f) (c : Forest.Call)
    (h : ∀ a ∈ c.args, a ∉ handles r) : SepB r (c.run f).1 := by
  have new : ∀ v, Sep r (f.newNode v).1 ∧ (f.newNode v).2 ∉ handles r :=
    fun v => ⟨(s.sep.newNode s.below v).1, (s.sep.newNode s.below v).2.2⟩
  exact ⟨(Sep.closed r).call c s.sep h c.fpvNewQ_trivial (fun v _ => new v) (fun n => (s.cloneNode n).sep)
      (fun _ _ _ hn _ => (Sep.closed r).textContentSet s.sep hn trivial (new _).1 (new _).2),
    s.below.le (Forest.nle_call f c)⟩

theorem stepAll (s : SepB r f) (st : Forest.HStep)
    (h : ∀ a ∈ st.args, a ∉ handles r) : SepB r (f.stepAll st) := by
  cases st with
  | call c => exact s.call c h
  | newNode v => exact (s.newNode v).1
  | setConsolidation b => exact ⟨s.sep.setConsolidation b, s.below⟩
  | removeInsignificantWhitespace n =>
    exact ⟨s.sep.removeInsignificantWhitespace (h n (by simp [Forest.HStep.args])),
      s.below.le (Forest.nle_removeInsignificantWhitespace f n)⟩

theorem runAll : ∀ (ss : List Forest.HStep) {f : Forest}, SepB r f →
    (∀ st ∈ ss, ∀ a ∈ st.args, a ∉ handles r) → SepB r (f.runAll ss)
  | [], _, s, _ => s
  | st :: ss, f, s, h => by
    have s1 := s.stepAll st (h st List.mem_cons_self)
    exact runAll ss s1 (fun o ho => h o (List.mem_cons_of_mem _ ho))

theorem of_inv {f : Forest} (inv : f.Inv) {r : HTree} (hr : r ∈ f.roots) : SepB r f :=
  ⟨Sep.of_inv inv hr, fun a ha => inv.below a (handles_subset_handlesList hr a ha)⟩

end SepB

/-- Right after `clone_node`: the clone and every old root are separated roots below `next`. -/
theorem sepB_after_clone (f : Forest) (inv : f.Inv) (C : HTree) (f' : Forest)
    (h2 : f'.roots = f.roots ++ [C]) (h4 : ∀ a ∈ handles C, f.next ≤ a ∧ a < f'.next) :
    SepB C f' ∧ ∀ r ∈ f.roots, SepB r f' := by
  obtain ⟨g3, g4⟩ := sep_after_clone f inv C f' h2 (fun a ha => (h4 a ha).1)
  refine ⟨⟨g3, fun a ha => (h4 a ha).2⟩, fun r hr => ⟨g4 r hr, ?_⟩⟩
  intro a ha
  have h1 := inv.below a (handles_subset_handlesList hr a ha)
  have hC := h4 C.handle (handle_mem_handles C)
  omega

end XotModel

namespace XotModel

theorem Forest.run_eq_runAll (f : Forest) (ops : List Op) : f.run ops = f.runAll (ops.map Op.toStep) := by
  unfold Forest.run Forest.runAll
  induction ops generalizing f with
  | nil => rfl
  | cons o ops ih => simp only [List.foldl_cons, List.map_cons]; rw [Forest.step_eq_stepAll]; exact ih _

end XotModel
