/-
  Character level of C14_options, CDATA-section elements: `serialize_cdata s` IS the canonical rendering of
  the run `cdataPartsGo [] s` (CDATA tokens, and one text token `&#xD;` between two sections for every
  carriage return); the run denotes `s` (no carriage return ever stands inside a section, so the parser's
  line-end normalisation changes nothing), every part is well spelled, every token meets the tokenizer's
  side condition (no `]]>` inside a section), no two text tokens are neighbours.
-/
import XotModel.Lemmas.SerOptChars
import XotModel.Lemmas.SerTokensRun
import XotModel.Lemmas.LineEnds

namespace XotModel
open Gen

theorem startsBrBr_replicate (k : Nat) (cur : Str) (hk : k ≤ 2) (hcur : k < 2 → cur.head? ≠ some ']') :
    startsBrBr (List.replicate k ']' ++ cur) = decide (k = 2) := by
  match k, hk with
  | 0, _ =>
    have h0 := hcur (by omega)
    match cur, h0 with
    | [], _ => rfl
    | [a], h0 =>
      have : a ≠ ']' := fun e => h0 (by simp [e])
      simp [startsBrBr]
    | a :: b :: r, h0 =>
      have : a ≠ ']' := fun e => h0 (by simp [e])
      simp [startsBrBr, this]
  | 1, _ =>
    have h0 := hcur (by omega)
    match cur, h0 with
    | [], _ => rfl
    | a :: r, h0 =>
      have : a ≠ ']' := fun e => h0 (by simp [e])
      simp [startsBrBr, List.replicate, this]
  | 2, _ => simp [startsBrBr, List.replicate]

theorem renderToken_cd (x : Str) :
    renderToken (SPart.token (.cd (sp0 x) noSpan)) = cdataOpen ++ x ++ cdataClose := by
  simp [SPart.token, renderToken, sp0, cdataOpen, cdataClose]

theorem renderToken_crPart : renderToken (SPart.token crPart) = ['&', '#', 'x', 'D', ';'] := by decide

/-- `serialize_cdata`, mid-way: `k` brackets pending, `cur` (reversed) already written into the section. -/
theorem render_cdataPartsGo (s : Str) : ∀ (k : Nat) (cur : Str), k ≤ 2 → (k < 2 → cur.head? ≠ some ']') →
    renderTokens ((cdataPartsGo (List.replicate k ']' ++ cur) s).map SPart.token) =
      cdataOpen ++ (cur.reverse ++ serializeCdataGo k s) := by
  induction s with
  | nil =>
    intro k cur _ _
    simp only [cdataPartsGo, List.map_cons, List.map_nil, renderTokens_single, renderToken_cd,
      serializeCdataGo, List.reverse_append, List.reverse_replicate, List.append_assoc]
  | cons c cs ih =>
    intro k cur hk hcur
    have hbr := startsBrBr_replicate k cur hk hcur
    unfold cdataPartsGo serializeCdataGo
    by_cases hb : c = ']'
    · subst hb
      have e1 : ¬ (']' = '>' ∧ startsBrBr (List.replicate k ']' ++ cur) = true) := by
        intro h; exact absurd h.1 (by decide)
      have e2 : ¬ (']' = '\r') := by decide
      simp only [e1, e2, if_false, if_true]
      by_cases hk2 : k < 2
      · simp only [hk2, if_true]
        have := ih (k + 1) cur (by omega) (fun h => hcur (by omega))
        rw [List.replicate_succ, List.cons_append] at this
        exact this
      · have hk' : k = 2 := by omega
        subst hk'
        simp only [Nat.lt_irrefl, if_false]
        have := ih 2 (']' :: cur) (by omega) (fun h => absurd h (by omega))
        have e : ']' :: (List.replicate 2 ']' ++ cur) = List.replicate 2 ']' ++ ']' :: cur := by
          simp [List.replicate]
        rw [e, this]
        simp
    · simp only [hb, if_false]
      by_cases hg : c = '>'
      · subst hg
        by_cases hk2 : k = 2
        · subst hk2
          have hbr' : startsBrBr (List.replicate 2 ']' ++ cur) = true := by rw [hbr]; rfl
          simp only [hbr', and_self, if_true, List.map_cons, renderTokens_cons, renderToken_cd]
          have := ih 0 ['>'] (by omega) (fun _ => by simp)
          simp only [List.replicate_zero, List.nil_append] at this
          rw [this]
          simp [cdataSplit, cdataOpen, cdataClose, List.replicate]
        · have hbr' : startsBrBr (List.replicate k ']' ++ cur) = false := by rw [hbr]; simp [hk2]
          have e2 : ¬ ('>' = '\r') := by decide
          simp only [hbr', Bool.false_eq_true, and_false, if_false, hk2, e2]
          have := ih 0 ('>' :: (List.replicate k ']' ++ cur)) (by omega) (fun _ => by simp)
          simp only [List.replicate_zero, List.nil_append] at this
          rw [this]
          simp [List.reverse_replicate]
      · have e1 : ¬ (c = '>' ∧ startsBrBr (List.replicate k ']' ++ cur) = true) := fun h => hg h.1
        simp only [hg, false_and, if_false]
        by_cases hr : c = '\r'
        · subst hr
          simp only [if_true, List.map_cons, renderTokens_cons, renderToken_cd, renderToken_crPart]
          have := ih 0 [] (by omega) (fun _ => by simp)
          simp only [List.replicate_zero, List.nil_append, List.reverse_nil] at this
          rw [this]
          simp [cdataCr, cdataOpen, cdataClose, List.reverse_replicate]
        · simp only [hr, if_false]
          have := ih 0 (c :: (List.replicate k ']' ++ cur)) (by omega) (fun _ => by simp [hb])
          simp only [List.replicate_zero, List.nil_append] at this
          rw [this]
          simp [List.reverse_replicate]

/-- **`serialize_cdata s` is the canonical rendering of `cdataTokens s`.** -/
theorem renderTokens_cdataTokens (s : Str) : renderTokens (cdataTokens s) = serializeCdata s := by
  have := render_cdataPartsGo s 0 [] (by omega) (fun _ => by simp)
  simpa [cdataTokens, serializeCdata] using this

theorem cdValue_noCr (x : Str) (h : '\r' ∉ x) : SPart.value (.cd (sp0 x) noSpan) = x := by
  simp only [SPart.value, sp0, replaceCrLf_noCr x h, replaceCr_noCr x h]

theorem crPart_value : SPart.value crPart = ['\r'] := by decide

/-- The run denotes the string; in particular **no carriage return stands inside a section**. -/
theorem partsValue_cdataPartsGo (s : Str) : ∀ (rc : Str), '\r' ∉ rc →
    partsValue (cdataPartsGo rc s) = rc.reverse ++ s := by
  induction s with
  | nil =>
    intro rc h
    simp [cdataPartsGo, partsValue, cdValue_noCr rc.reverse (by simpa using h)]
  | cons c cs ih =>
    intro rc h
    have hrev : '\r' ∉ rc.reverse := by simpa using h
    unfold cdataPartsGo
    split
    · rename_i hc
      have := ih ['>'] (by decide)
      simp only [partsValue] at this
      simp [partsValue, cdValue_noCr _ hrev, this, hc.1]
    · split
      · rename_i hc
        have := ih [] (by simp)
        simp only [partsValue] at this
        simp [partsValue, cdValue_noCr _ hrev, this, hc, crPart_value]
      · rename_i _ hc
        have := ih (c :: rc) (by simp [h, Ne.symm hc])
        rw [this]
        simp

namespace Ser

/-- What holds of every part of a run: an invariant `I` of the section being written (reversed), kept by every
    character of the string that goes into it, true of the section `>` that follows a cut inside `]]>` (there is
    one only if the string has a `>`) and of the empty section behind a carriage return; every section written
    under `I`, and the carriage-return part, satisfy `P`. -/
theorem cdataPartsGo_forall {I : Str → Prop} {P : SPart → Prop} (s : Str) (hgt : '>' ∈ s → I ['>']) (hnil : I [])
    (hcd : ∀ rc, I rc → P (.cd (sp0 rc.reverse) noSpan)) (hcr : P crPart) :
    (∀ c ∈ s, ∀ rc, I rc → ¬ (c = '>' ∧ startsBrBr rc = true) → c ≠ '\r' → I (c :: rc)) →
    ∀ (rc : Str), I rc → ∀ p ∈ cdataPartsGo rc s, P p := by
  induction s with
  | nil =>
    intro _ rc h p hp
    simp only [cdataPartsGo, List.mem_singleton] at hp
    subst hp
    exact hcd rc h
  | cons c cs ih =>
    intro hstep rc h p hp
    have ih := ih (fun hg => hgt (List.mem_cons_of_mem _ hg)) (fun c' hc' => hstep c' (List.mem_cons_of_mem _ hc'))
    unfold cdataPartsGo at hp
    split at hp
    · rename_i hc
      rcases List.mem_cons.mp hp with rfl | hp
      · exact hcd rc h
      · exact ih ['>'] (hgt (hc.1 ▸ List.mem_cons_self ..)) p hp
    · rename_i hsplit
      split at hp
      · rcases List.mem_cons.mp hp with rfl | hp
        · exact hcd rc h
        · rcases List.mem_cons.mp hp with rfl | hp
          · exact hcr
          · exact ih [] hnil p hp
      · rename_i hc
        exact ih (c :: rc) (hstep c (List.mem_cons_self ..) rc h hsplit hc) p hp

end Ser

theorem cdataPartsGo_noCr (s : Str) : ∀ (rc : Str), '\r' ∉ rc →
    ∀ t j, SPart.cd t j ∈ cdataPartsGo rc s → '\r' ∉ t.text := by
  intro rc h t j hm
  exact Ser.cdataPartsGo_forall (I := fun rc => '\r' ∉ rc)
    (P := fun p => ∀ t j, p = .cd t j → '\r' ∉ t.text) s (fun _ => by decide) (by simp)
    (fun rc h t j e => by cases e; simpa [sp0] using h) (fun t j e => by simp [crPart] at e)
    (fun c _ rc h _ hc => by simp [h, Ne.symm hc]) rc h _ hm t j rfl

theorem crPart_well : crPart.Well := by
  refine ⟨by simp, ?_⟩
  exact wellSpelled_cons (by simp) (hex_ok 13 (by decide) (by decide)) trivial

theorem cdataPartsGo_well (s : Str) : ∀ (rc : Str), ∀ p ∈ cdataPartsGo rc s, p.Well := fun rc =>
  Ser.cdataPartsGo_forall (I := fun _ => True) s (fun _ => trivial) trivial (fun _ _ => trivial) crPart_well
    (fun _ _ _ _ _ _ => trivial) rc trivial

theorem cd_lexOK {x : Str} (h1 : x.all isXmlChar = true) (h2 : hasCdataEnd x = false) :
    (SPart.token (.cd (sp0 x) noSpan)).lexOK = true := by
  simp [SPart.token, Token.lexOK, sp0, hasInfix_cdataEnd, h2, -List.all_eq_true, h1]

theorem crPart_lexOK : (SPart.token crPart).lexOK = true := by decide

/-- Every token of the run meets the tokenizer's side condition: XML characters, no `]]>` in a section. -/
theorem cdataPartsGo_lexOK (s : Str) (hs : s.all isXmlChar = true) : ∀ (rc : Str), rc.all isXmlChar = true →
    hasCdataEnd rc.reverse = false → ∀ p ∈ cdataPartsGo rc s, (SPart.token p).lexOK = true := by
  intro rc h1 h2
  refine Ser.cdataPartsGo_forall (I := fun rc => rc.all isXmlChar = true ∧ hasCdataEnd rc.reverse = false)
    s (fun _ => by decide) ⟨rfl, rfl⟩ (fun rc h => cd_lexOK (by simpa using h.1) h.2) crPart_lexOK ?_ rc ⟨h1, h2⟩
  intro c hc rc h hsplit _
  refine ⟨by simp [List.all_eq_true.mp hs c hc, h.1], ?_⟩
  simp only [List.reverse_cons]
  by_cases hg : c = '>'
  · subst hg
    apply hasCdataEnd_append_gt _ h.2
    intro r hr
    rw [List.reverse_reverse] at hr
    exact hsplit ⟨rfl, by rw [hr]; rfl⟩
  · rw [hasCdataEnd_append_noGt _ _ (by simpa using Ne.symm hg)]
    exact h.2

def SPart.isCd : SPart → Bool
  | .cd _ _ => true
  | _ => false

theorem cdataPartsGo_head (rc s : Str) : ∃ t rest, cdataPartsGo rc s = .cd t noSpan :: rest := by
  induction s generalizing rc with
  | nil => exact ⟨_, _, rfl⟩
  | cons c cs ih =>
    unfold cdataPartsGo
    split
    · exact ⟨_, _, rfl⟩
    · split
      · exact ⟨_, _, rfl⟩
      · exact ih _

namespace Ser

/-- A CDATA token is no text token: it may stand anywhere in a run. -/
theorem noAdjTextTok_cd (t j : StrSpan) (l : List Token) :
    noAdjTextTok (SPart.token (.cd t j) :: l) = noAdjTextTok l := by
  cases l <;> rfl

end Ser

theorem cdataPartsGo_noAdj (s : Str) : ∀ (rc : Str),
    noAdjTextTok ((cdataPartsGo rc s).map SPart.token) = true := by
  induction s with
  | nil => intro rc; rfl
  | cons c cs ih =>
    intro rc
    unfold cdataPartsGo
    split
    · rw [List.map_cons, Ser.noAdjTextTok_cd]
      exact ih ['>']
    · split
      · -- the text part of a carriage return stands between two sections
        obtain ⟨t, rest, e⟩ := cdataPartsGo_head [] cs
        have := ih []
        rw [e] at this ⊢
        rw [List.map_cons, Ser.noAdjTextTok_cd]
        exact this
      · exact ih _

theorem parts_charData (ps : List SPart) : ∀ k ∈ ps.map SPart.token, k.isCharData = true := by
  intro k hk
  obtain ⟨p, _, rfl⟩ := List.mem_map.mp hk
  cases p <;> rfl

/-- The tokens `serialize_cdata s` stands for may replace a text token. -/
theorem cdataTokens_goodRun (s : Str) (hs : s.all isXmlChar = true) : GoodRun (cdataTokens s) := by
  refine ⟨?_, ?_, parts_charData _, cdataPartsGo_noAdj s []⟩
  · obtain ⟨t, rest, e⟩ := cdataPartsGo_head [] s
    simp [cdataTokens, e]
  · intro k hk
    obtain ⟨p, hp, rfl⟩ := List.mem_map.mp hk
    exact cdataPartsGo_lexOK s hs [] rfl rfl p hp

end XotModel
