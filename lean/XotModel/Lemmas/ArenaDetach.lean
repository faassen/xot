/-
  The three writes of `connect_neighbors` described field by field (`slot_unlink`), and
  `NodeId::detach`: its closed form for any arena whose neighbours are in range, and on a well-formed
  arena the list-level `Shape.detach` (`Rep.detach`).
-/
import XotModel.Lemmas.ArenaShape

/-! ### `connect_neighbors` field by field; `detach` in closed form

  The three writes as one arena (`unlink`).  The closed forms (also of `SiblingsRange::new(x, x).detach_from_siblings`)
  ask that the three neighbours of `x` are in range and are other slots than `x`.
-/

namespace XotModel
namespace Arena

/-- `previous_sibling.take()` and `next_sibling.take()` on one slot. -/
def clearSib (s : Slot) : Slot := { s with prev := none, next := none }

theorem clearSib_root {s : Slot} (hp : s.parent = none) (hv : s.prev = none) (hn : s.next = none) :
    { clearSib s with parent := none } = s := by
  obtain ⟨_, _, _, _, _, _, _⟩ := s
  simp only at hp hv hn
  subst hp hv hn
  rfl

theorem ext_of_slot {a a' : Arena} (h : ∀ j, a'.slot j = a.slot j) (hf : a'.firstFree = a.firstFree)
    (hl : a'.lastFree = a.lastFree) : a' = a := by
  obtain ⟨n, f, l⟩ := a
  obtain ⟨n', f', l'⟩ := a'
  simp only at hf hl
  subst hf hl
  have : n' = n := List.ext_getElem? h
  subst this
  rfl

theorem mod_id_of_fix {a : Arena} {i : Nat} {s : Slot} {f : Slot → Slot} (hs : a.slot i = some s) (hf : f s = s) :
    a.mod i f = a := by
  apply ext_of_slot
  · intro j
    rw [slot_mod]
    by_cases h : i = j
    · subst h; simp [hs, hf]
    · simp [h]
  · rfl
  · rfl

theorem slot_mod_map (a : Arena) (i j : Nat) (f : Slot → Slot) :
    (a.mod i f).slot j = (a.slot j).map fun s => if i = j then f s else s := by
  rw [slot_mod]
  by_cases h : i = j
  · simp only [if_pos h]
  · simp only [if_neg h, Option.map_id']

theorem slot_modOpt_map (b a : Arena) (o : Option Nat) (f : Slot → Slot) (j : Nat) :
    (b.modOpt (o.map a.idAt) f).slot j = if o = some j then (b.slot j).map f else b.slot j := by
  cases o with
  | none => simp
  | some k => simp

/-- The three writes of `connect_neighbors` go to different fields, so slot `j` afterwards is slot `j`
    before with each field rewritten on its own condition (no distinctness of the ids is needed). -/
theorem slot_unlink (b a : Arena) (p : Nat) (v n : Option Nat) (j : Nat) :
    (unlink b (some (a.idAt p)) (v.map a.idAt) (n.map a.idAt)).slot j =
      (b.slot j).map fun s => { s with
        next := if v = some j then n.map a.idAt else s.next
        prev := if n = some j then v.map a.idAt else s.prev
        first := if p = j then newFirst s.first (v.map a.idAt) (n.map a.idAt) else s.first
        last := if p = j then newLast s.last (v.map a.idAt) (n.map a.idAt) else s.last } := by
  unfold unlink
  rw [show some (a.idAt p) = (some p).map a.idAt from rfl, slot_modOpt_map, slot_modOpt_map, slot_modOpt_map]
  cases hs : b.slot j with
  | none => simp
  | some s =>
    by_cases h1 : p = j
    · subst h1
      by_cases h2 : v = some p <;> by_cases h3 : n = some p <;> simp [h2, h3, parentEnds, hs]
    · by_cases h2 : v = some j <;> by_cases h3 : n = some j <;> simp [h1, h2, h3]

/-- Two `connect_neighbors` in a row, as `transplant` issues them for the range `c1 … ck` placed under
    `p` between `v` and `n`. -/
theorem slot_unlink_unlink (b a : Arena) (p c1 ck : Nat) (v n : Option Nat) (j : Nat) :
    (unlink (unlink b (some (a.idAt p)) (v.map a.idAt) (some (a.idAt c1))) (some (a.idAt p))
        (some (a.idAt ck)) (n.map a.idAt)).slot j =
      (b.slot j).map fun s => { s with
        prev := if n = some j then some (a.idAt ck) else if c1 = j then v.map a.idAt else s.prev
        next := if ck = j then n.map a.idAt else if v = some j then some (a.idAt c1) else s.next
        first := if p = j then newFirst (newFirst s.first (v.map a.idAt) (some (a.idAt c1)))
          (some (a.idAt ck)) (n.map a.idAt) else s.first
        last := if p = j then newLast (newLast s.last (v.map a.idAt) (some (a.idAt c1)))
          (some (a.idAt ck)) (n.map a.idAt) else s.last } := by
  have e1 := slot_unlink b a p v (some c1)
  have e2 := slot_unlink (unlink b (some (a.idAt p)) (v.map a.idAt) (some (a.idAt c1))) a p (some ck) n
  simp only [Option.map_some] at e1 e2
  rw [e2, e1, Option.map_map]
  congr 1
  funext s
  by_cases h : p = j <;> simp [h]

theorem mod_mod_same (a : Arena) (i : Nat) (f g : Slot → Slot) : (a.mod i f).mod i g = a.mod i (g ∘ f) := by
  unfold mod
  simp [List.modify_modify_eq]

theorem detachFromSiblings_self_eq (a : Arena) (x : NodeId) (s : Slot) (hs : a.slot x.index0 = some s)
    (hp : InRange a s.parent) (hv : InRange a s.prev) (hn : InRange a s.next) :
    detachFromSiblings a x x = .done (unlink (a.mod x.index0 clearSib) s.parent s.prev s.next) () := by
  unfold detachFromSiblings
  rw [rd_some _ _ _ _ hs, wr_some _ _ _ _ _ hs]
  have hs1 : (a.mod x.index0 (fun s => { s with prev := none })).slot x.index0 = some { s with prev := none } := by
    simp [hs]
  rw [rd_some _ _ _ _ hs1, wr_some _ _ _ _ _ hs1, mod_mod_same]
  have hf : ((fun s : Slot => { s with next := none }) ∘ fun s : Slot => { s with prev := none }) = clearSib := by
    funext s; rfl
  rw [hf]
  exact connectNeighbors_eq _ _ _ _ (hp.mod _ _) (hv.mod _ _) (hn.mod _ _)

theorem slot_modOpt_ne (a : Arena) (o : Option NodeId) (f : Slot → Slot) (j : Nat)
    (h : ∀ id, o = some id → id.index0 ≠ j) : (a.modOpt o f).slot j = a.slot j := by
  cases o with
  | none => rfl
  | some id => simp [h id rfl]

theorem slot_unlink_ne (b : Arena) (parent prev next : Option NodeId) (j : Nat)
    (h1 : ∀ id, parent = some id → id.index0 ≠ j) (h2 : ∀ id, prev = some id → id.index0 ≠ j)
    (h3 : ∀ id, next = some id → id.index0 ≠ j) : (unlink b parent prev next).slot j = b.slot j := by
  unfold unlink
  rw [slot_modOpt_ne _ _ _ _ h1, slot_modOpt_ne _ _ _ _ h3, slot_modOpt_ne _ _ _ _ h2]

theorem MetaEq.unlink (b : Arena) (parent prev next : Option NodeId) : MetaEq b (unlink b parent prev next) := by
  unfold Arena.unlink
  exact (MetaEq.modOpt b prev (f := fun s => { s with next := next }) (fun s => ⟨rfl, rfl⟩)).trans
    ((MetaEq.modOpt _ next (f := fun s => { s with prev := prev }) (fun s => ⟨rfl, rfl⟩)).trans
      (MetaEq.modOpt _ parent (fun s => ⟨rfl, rfl⟩)))

theorem two_le_fuel {a : Arena} {j : Nat} {s : Slot} (h : a.slot j = some s) : 2 ≤ a.fuel := by
  have := lt_of_slot h
  unfold fuel; omega

theorem unlink_fuel (b : Arena) (parent prev next : Option NodeId) : (unlink b parent prev next).fuel = b.fuel := by
  simp [unlink]

/-- Closed form of `detach`. -/
theorem detach_eq (a : Arena) (x : NodeId) (s : Slot) (hs : a.slot x.index0 = some s)
    (hp : InRange a s.parent) (hv : InRange a s.prev) (hn : InRange a s.next)
    (h1 : ∀ id, s.parent = some id → id.index0 ≠ x.index0) (h2 : ∀ id, s.prev = some id → id.index0 ≠ x.index0)
    (h3 : ∀ id, s.next = some id → id.index0 ≠ x.index0) :
    detach a x = .done ((unlink (a.mod x.index0 clearSib) s.parent s.prev s.next).mod x.index0
      (fun s => { s with parent := none })) () := by
  unfold detach
  rw [detachFromSiblings_self_eq a x s hs hp hv hn]
  simp only [Step.bind_done]
  have hb : (a.mod x.index0 clearSib).slot x.index0 = some (clearSib s) := by simp [hs]
  have hu : (unlink (a.mod x.index0 clearSib) s.parent s.prev s.next).slot x.index0 = some (clearSib s) := by
    rw [slot_unlink_ne _ _ _ _ _ h1 h2 h3, hb]
  have hfuel : (unlink (a.mod x.index0 clearSib) s.parent s.prev s.next).fuel = a.fuel := by
    rw [unlink_fuel]; simp
  rw [hfuel]
  obtain ⟨n, hn2⟩ : ∃ n, a.fuel = n + 2 := ⟨a.fuel - 2, by have := two_le_fuel hs; omega⟩
  rw [hn2]
  unfold rewriteParents
  simp only [reduceCtorEq, if_false]
  rw [wr_some _ _ _ _ _ hu]
  have hu2 : ((unlink (a.mod x.index0 clearSib) s.parent s.prev s.next).mod x.index0
      (fun s => { s with parent := none })).slot x.index0 = some { clearSib s with parent := none } := by
    simp [hu]
  rw [rd_some _ _ _ _ hu2]
  simp only [clearSib]
  unfold rewriteParents
  rfl

/-- `detach` of a node without parent and siblings writes back what is there. -/
theorem detach_root (a : Arena) (x : NodeId) (s : Slot) (hs : a.slot x.index0 = some s)
    (hp : s.parent = none) (hv : s.prev = none) (hn : s.next = none) : detach a x = .done a () := by
  have hd := detach_eq a x s hs (by rw [hp]; exact InRange.none a) (by rw [hv]; exact InRange.none a)
    (by rw [hn]; exact InRange.none a) (by rw [hp]; intro id h; cases h) (by rw [hv]; intro id h; cases h)
    (by rw [hn]; intro id h; cases h)
  rw [hp, hv, hn] at hd
  rw [hd]
  exact congrArg (Step.done · ()) ((mod_mod_same _ _ _ _).trans (mod_id_of_fix hs (clearSib_root hp hv hn)))

end Arena
end XotModel

/-! ### `detach` on a well-formed arena

  The node leaves its parent's child list and becomes parentless; nothing else changes; no panic.
-/

namespace XotModel
namespace Arena

/-- List-level `detach`. -/
def Shape.detach (g : Shape) (i : Nat) : Shape :=
  match g.par i with
  | none => g
  | some p => { g with par := fun j => if j = i then none else g.par j,
                       kids := fun q => if q = p then (g.kids p).erase i else g.kids q }

theorem head?_erase_of_ne {l : List Nat} {i : Nat} (h : l.head? ≠ some i) : (l.erase i).head? = l.head? := by
  cases l with
  | nil => rfl
  | cons y ys =>
    have : y ≠ i := fun e => h (by simp [e])
    simp [List.erase_cons, this]

theorem Shape.detach_of_root (g : Shape) (i : Nat) (h : g.par i = none) : g.detach i = g := by
  unfold Shape.detach; rw [h]

theorem Shape.detach_kids_ne (g : Shape) (i p q : Nat) (h : g.par i = some p) (hq : q ≠ p) :
    (g.detach i).kids q = g.kids q := by
  unfold Shape.detach; rw [h]; simp [hq]

theorem Shape.detach_par_self (g : Shape) (i : Nat) : (g.detach i).par i = none := by
  unfold Shape.detach
  cases h : g.par i with
  | none => simpa using h
  | some p => simp

theorem Shape.detach_par_le (g : Shape) (i c q : Nat) (h : (g.detach i).par c = some q) : g.par c = some q := by
  unfold Shape.detach at h
  cases hp : g.par i with
  | none => rw [hp] at h; exact h
  | some p =>
    rw [hp] at h
    simp only at h
    by_cases hc : c = i
    · rw [if_pos hc] at h; cases h
    · rw [if_neg hc] at h; exact h

theorem Shape.detach_par_ne (g : Shape) (i c : Nat) (h : c ≠ i) : (g.detach i).par c = g.par c := by
  unfold Shape.detach
  cases hp : g.par i with
  | none => rfl
  | some p => simp [h]

theorem Shape.detach_kids_head (g : Shape) (i p : Nat) (h : (g.kids p).head? ≠ some i) :
    ((g.detach i).kids p).head? = (g.kids p).head? := by
  unfold Shape.detach
  cases hp : g.par i with
  | none => rfl
  | some q =>
    simp only
    by_cases hq : p = q
    · subst hq; rw [if_pos rfl]; exact head?_erase_of_ne h
    · rw [if_neg hq]

theorem Shape.detach_kids_self (g : Shape) (r : ∀ c p, g.par c = some p → p ≠ c) (i : Nat) :
    (g.detach i).kids i = g.kids i := by
  unfold Shape.detach
  cases hp : g.par i with
  | none => rfl
  | some p => simp [(r i p hp).symm]

theorem Shape.detach_free (g : Shape) (i : Nat) : (g.detach i).free = g.free := by
  unfold Shape.detach
  cases g.par i <;> rfl

theorem Shape.detach_kids_par (g : Shape) (i p : Nat) (L R : List Nat) (hpar : g.par i = some p)
    (hk : g.kids p = L ++ i :: R) (hnd : (g.kids p).Nodup) : (g.detach i).kids p = L ++ R := by
  unfold Shape.detach
  rw [hpar]
  simp only [if_true]
  rw [hk]; rw [hk] at hnd
  exact erase_split hnd

theorem newFirst_erase (f : Nat → NodeId) (L R : List Nat) (i : Nat) :
    newFirst ((L ++ i :: R).head?.map f) (L.getLast?.map f) (R.head?.map f) = (L ++ R).head?.map f := by
  cases L with
  | nil => simp [newFirst]
  | cons y L' =>
    have : ((y :: L').getLast?).isSome := by simp [List.getLast?_cons]
    cases hl : (y :: L').getLast? with
    | none => rw [hl] at this; cases this
    | some l => simp [newFirst]

theorem newLast_erase (f : Nat → NodeId) (L R : List Nat) (i : Nat) :
    newLast ((L ++ i :: R).getLast?.map f) (L.getLast?.map f) (R.head?.map f) = (L ++ R).getLast?.map f := by
  cases R with
  | nil => simp [newLast]
  | cons y R' =>
    simp only [List.head?_cons, Option.map_some, newLast, List.getLast?_append, List.getLast?_cons_cons]
    cases hl : (y :: R').getLast? with
    | none => simp at hl
    | some l => simp

theorem Reach.mono {par par' : Nat → Option Nat} (h : ∀ i q, par' i = some q → par i = some q) {i j : Nat}
    (hr : Reach par' i j) : Reach par i j := by
  induction hr with
  | refl => exact .refl _
  | step hp _ ih => exact .step (h _ _ hp) ih

theorem Rep.liveId_slot {a : Arena} {x : NodeId} (hx : LiveId a x) :
    ∃ s, a.slot x.index0 = some s ∧ 0 ≤ s.stamp ∧ x = ⟨x.index0 + 1, s.stamp⟩ := by
  obtain ⟨_, ⟨s, hs, h0⟩, he⟩ := hx
  exact ⟨s, hs, h0, by rw [← idAt_of_slot hs]; exact he.symm⟩

/-- The slot of a node whose child list is rewritten (and which is not itself a member of a rewritten
    list): parent and sibling pointers stay, first / last child are those of the new list. -/
theorem PtrOk.newKids {a D : Arena} {g g' : Shape} {p : Nat} {sp s' : Slot} (h : PtrOk a g p sp)
    (hid : D.idAt = a.idAt) (hpar : g'.par p = g.par p) (hpk : ∀ q, g.par p = some q → g'.kids q = g.kids q)
    (hparent : s'.parent = sp.parent) (hprev : s'.prev = sp.prev) (hnext : s'.next = sp.next)
    (hfirst : s'.first = (g'.kids p).head?.map a.idAt) (hlast : s'.last = (g'.kids p).getLast?.map a.idAt) :
    PtrOk D g' p s' := by
  refine ⟨by rw [hparent, hpar, hid]; exact h.parent, by rw [hid]; exact hfirst, by rw [hid]; exact hlast,
    fun hn => ?_, fun q hq => ?_⟩
  · rw [hprev, hnext]; exact h.root (hpar ▸ hn)
  · rw [hpar] at hq
    obtain ⟨L', R', e1, e2, e3⟩ := h.sib q hq
    exact ⟨L', R', (hpk q hq).trans e1, by rw [hid, hprev]; exact e2, by rw [hid, hnext]; exact e3⟩

/-- The writes of `detach` on slot `i` with parent slot `p` and neighbours `v`, `n`. -/
def detachArena (a : Arena) (i p : Nat) (v n : Option Nat) : Arena :=
  (unlink (a.mod i clearSib) (some (a.idAt p)) (v.map a.idAt) (n.map a.idAt)).mod i
    (fun s => { s with parent := none })

theorem MetaEq.detachArena (a : Arena) (i p : Nat) (v n : Option Nat) : MetaEq a (detachArena a i p v n) :=
  (MetaEq.mod a i (f := clearSib) (fun _ => ⟨rfl, rfl⟩)).trans
    ((MetaEq.unlink _ _ _ _).trans (MetaEq.mod _ i (fun _ => ⟨rfl, rfl⟩)))

theorem slot_detachArena (a : Arena) (i p : Nat) (v n : Option Nat) (j : Nat) :
    (detachArena a i p v n).slot j = (a.slot j).map fun s => { s with
      parent := if i = j then none else s.parent
      prev := if n = some j then v.map a.idAt else if i = j then none else s.prev
      next := if v = some j then n.map a.idAt else if i = j then none else s.next
      first := if p = j then newFirst s.first (v.map a.idAt) (n.map a.idAt) else s.first
      last := if p = j then newLast s.last (v.map a.idAt) (n.map a.idAt) else s.last } := by
  unfold detachArena
  rw [slot_mod_map, slot_unlink, slot_mod_map, Option.map_map, Option.map_map]
  congr 1
  funext s
  by_cases h : i = j <;> simp [h, clearSib]

/-- The arena after `detach` of the child `i` of `p` stores the shape without that edge. -/
theorem Rep.detachArena {a : Arena} {g : Shape} (r : Rep a g) {i p : Nat} {L R : List Nat}
    (hpar : g.par i = some p) (hk : g.kids p = L ++ i :: R) :
    Rep (detachArena a i p L.getLast? R.head?) (g.detach i) := by
  have hnd : (L ++ i :: R).Nodup := hk ▸ r.kidsNodup p
  have hpi : p ≠ i := r.par_ne hpar
  have hnd' := List.nodup_append.mp hnd
  have hiL : i ∉ L := fun hm => hnd'.2.2 i hm i List.mem_cons_self rfl
  have hiR : i ∉ R := (List.nodup_cons.mp hnd'.2.1).1
  have hLp : ∀ y, y ∈ L → y ∈ g.kids p := fun y h => hk ▸ List.mem_append_left _ h
  have hRp : ∀ y, y ∈ R → y ∈ g.kids p := fun y h => hk ▸ List.mem_append_right _ (List.mem_cons_of_mem _ h)
  have hmem : ∀ y, y ∈ L ++ R ↔ y ∈ g.kids p ∧ y ≠ i := by
    intro y
    rw [hk]
    simp only [List.mem_append, List.mem_cons]
    constructor
    · rintro (h | h)
      · exact ⟨Or.inl h, fun e => hiL (e ▸ h)⟩
      · exact ⟨Or.inr (Or.inr h), fun e => hiR (e ▸ h)⟩
    · rintro ⟨h | h | h, hne⟩
      · exact Or.inl h
      · exact absurd h hne
      · exact Or.inr h
  have hM := MetaEq.detachArena a i p L.getLast? R.head?
  have hslot := slot_detachArena a i p L.getLast? R.head?
  generalize Arena.detachArena a i p L.getLast? R.head? = D at hM hslot
  have hidAt : D.idAt = a.idAt := funext hM.idAt
  have hg' : g.detach i = ⟨fun j => if j = i then none else g.par j,
      fun q => if q = p then L ++ R else g.kids q, g.free⟩ := by
    simp only [Shape.detach, hpar, hk, erase_split hnd]
  have hmono : ∀ c q, (if c = i then none else g.par c) = some q → g.par c = some q ∧ c ≠ i := by
    intro c q h
    by_cases hci : c = i
    · rw [if_pos hci] at h; cases h
    · rw [if_neg hci] at h; exact ⟨h, hci⟩
  rw [hg']
  refine ⟨hM.stampRange r.stampRange, hM.dataLive r.dataLive, hM.freeOk r.free, ?_, ?_, ?_, ?_, ?_⟩
  · intro q c hc
    dsimp only at hc ⊢
    have hc' : c ∈ g.kids q ∧ c ≠ i := by
      by_cases hq : q = p
      · rw [if_pos hq] at hc; rw [hq]; exact (hmem c).mp hc
      · rw [if_neg hq] at hc
        refine ⟨hc, fun e => hq ?_⟩
        have := (r.kidsLive q c hc).2.2
        rw [e, hpar] at this
        exact (Option.some.inj this).symm
    obtain ⟨l1, l2, l3⟩ := r.kidsLive q c hc'.1
    exact ⟨(hM.live _).mpr l1, (hM.live _).mpr l2, (if_neg hc'.2).trans l3⟩
  · intro c q hcq
    dsimp only
    obtain ⟨hcq, hci⟩ := hmono c q hcq
    obtain ⟨l1, l2⟩ := r.parKids c q hcq
    refine ⟨(hM.live _).mpr l1, ?_⟩
    by_cases hq : q = p
    · rw [if_pos hq]; exact (hmem c).mpr ⟨hq ▸ l2, hci⟩
    · rw [if_neg hq]; exact l2
  · intro q
    dsimp only
    by_cases hq : q = p
    · rw [if_pos hq]
      exact List.nodup_append.mpr ⟨hnd'.1, (List.nodup_cons.mp hnd'.2.1).2,
        fun y h1 z h2 => hnd'.2.2 y h1 z (List.mem_cons_of_mem _ h2)⟩
    · rw [if_neg hq]; exact r.kidsNodup q
  · intro c q hcq hreach
    exact r.acyclic c q (hmono c q hcq).1 (Reach.mono (fun c q h => (hmono c q h).1) hreach)
  · intro j s' hs' h0'
    obtain ⟨sj, hsj, h0j⟩ := (hM.live j).mp ⟨s', hs', h0'⟩
    have Pj := r.ptrs j sj hsj h0j
    rw [hslot, hsj] at hs'
    cases hs'
    by_cases h1 : i = j
    · -- the detached node itself
      have hl : L.getLast? ≠ some j := fun h => hiL (h1 ▸ List.mem_of_getLast? h)
      have hr : R.head? ≠ some j := fun h => hiR (h1 ▸ List.mem_of_mem_head? h)
      have hpj : p ≠ j := h1 ▸ hpi
      refine ⟨?_, ?_, ?_, fun _ => ?_, fun q hq => ?_⟩
      · simp only [if_pos h1, if_pos h1.symm]; rfl
      · simp only [if_neg hpj, if_neg hpj.symm, hidAt]; exact Pj.first
      · simp only [if_neg hpj, if_neg hpj.symm, hidAt]; exact Pj.last
      · simp only [if_pos h1, if_neg hl, if_neg hr, and_self]
      · simp only [if_pos h1.symm] at hq; cases hq
    · have hji : j ≠ i := fun e => h1 e.symm
      by_cases h2 : p = j
      · -- the old parent
        have hl : L.getLast? ≠ some j := fun h => r.kid_ne (hLp j (List.mem_of_getLast? h)) h2.symm
        have hr : R.head? ≠ some j := fun h => r.kid_ne (hRp j (List.mem_of_mem_head? h)) h2.symm
        refine Pj.newKids hidAt (if_neg hji) ?_ (if_neg h1) ?_ ?_ ?_ ?_
        · intro q hq; exact if_neg (fun e => r.par_ne hq (e.trans h2))
        · simp only [if_neg hr, if_neg h1]
        · simp only [if_neg hl, if_neg h1]
        · simp only [Pj.first, ← h2, hk]; exact newFirst_erase _ L R i
        · simp only [Pj.last, ← h2, hk]; exact newLast_erase _ L R i
      · have hjp : j ≠ p := fun e => h2 e.symm
        by_cases hjk : j ∈ g.kids p
        · -- a sibling of the detached node
          have hjLR := (hmem j).mpr ⟨hjk, hji⟩
          exact Pj.seam (M := [i]) (M' := []) hidAt (r.kidsLive p j hjk).2.2
            (by rw [hk]; simp only [List.append_assoc, List.singleton_append]) (r.kidsNodup p)
            (List.mem_append.mp hjLR) ((if_neg hji).trans (r.kidsLive p j hjk).2.2)
            (by simp only [if_pos, List.append_nil]) (if_neg hjp) (if_neg h1) (if_neg h2) (if_neg h2)
            (by simp only [if_neg h1, List.append_nil]) (by simp only [if_neg h1, List.nil_append])
        · -- an unrelated slot
          have hl : L.getLast? ≠ some j := fun h => hjk (hLp j (List.mem_of_getLast? h))
          have hr : R.head? ≠ some j := fun h => hjk (hRp j (List.mem_of_mem_head? h))
          have : PtrOk a g j _ := Pj
          simp only [if_neg h1, if_neg h2, if_neg hl, if_neg hr]
          refine Pj.transfer r hM.idAgree (if_neg hji) (if_neg hjp) fun q hq => if_neg ?_
          intro e; exact hjk (e ▸ (r.parKids j q hq).2)

/-- The neighbours of a live slot are in range and are other slots. -/
theorem Rep.neighbours {a : Arena} {g : Shape} (r : Rep a g) (i : Nat) (s : Slot) (hs : a.slot i = some s)
    (h0 : 0 ≤ s.stamp) :
    InRange a s.parent ∧ InRange a s.prev ∧ InRange a s.next ∧
    (∀ id, s.parent = some id → id.index0 ≠ i) ∧ (∀ id, s.prev = some id → id.index0 ≠ i) ∧
    (∀ id, s.next = some id → id.index0 ≠ i) := by
  have P := r.ptrs i s hs h0
  cases hpar : g.par i with
  | none =>
    have hsp : s.parent = none := by rw [P.parent, hpar]; rfl
    obtain ⟨hsv, hsn⟩ := P.root hpar
    rw [hsp, hsv, hsn]
    exact ⟨InRange.none a, InRange.none a, InRange.none a, (by intro id h; cases h), (by intro id h; cases h),
      (by intro id h; cases h)⟩
  | some p =>
    obtain ⟨L, R, hk, hsv, hsn⟩ := P.sib p hpar
    have hsp : s.parent = (some p).map a.idAt := by rw [P.parent, hpar]
    have hnd' := List.nodup_append.mp (hk ▸ r.kidsNodup p : (L ++ i :: R).Nodup)
    have hLp : ∀ y, y ∈ L → y ∈ g.kids p := fun y h => hk ▸ List.mem_append_left _ h
    have hRp : ∀ y, y ∈ R → y ∈ g.kids p := fun y h => hk ▸ List.mem_append_right _ (List.mem_cons_of_mem _ h)
    rw [hsp, hsv, hsn]
    refine ⟨Rep.inRange_map _ (fun j hj => by cases hj; exact (r.live_of_par hpar).2),
      Rep.inRange_map _ (fun j hj => r.live_kid p j (hLp j (List.mem_of_getLast? hj))),
      Rep.inRange_map _ (fun j hj => r.live_kid p j (hRp j (List.mem_of_mem_head? hj))),
      fun id h e => r.par_ne hpar ((Option.some.inj (eq_some_of_map_idAt h)).trans e),
      fun id h e => hnd'.2.2 i (e ▸ List.mem_of_getLast? (eq_some_of_map_idAt h)) i List.mem_cons_self rfl,
      fun id h e => (List.nodup_cons.mp hnd'.2.1).1 (e ▸ List.mem_of_mem_head? (eq_some_of_map_idAt h))⟩

/-- `detach` on a well-formed arena. -/
theorem Rep.detach {a : Arena} {g : Shape} (r : Rep a g) (x : NodeId) (hx : LiveId a x) :
    ∃ a', Arena.detach a x = .done a' () ∧ Rep a' (g.detach x.index0) ∧ MetaEq a a' := by
  obtain ⟨s, hs, h0, _⟩ := Rep.liveId_slot hx
  have P := r.ptrs _ s hs h0
  cases hpar : g.par x.index0 with
  | none =>
    -- a parentless node: nothing changes
    have hsp : s.parent = none := by rw [P.parent, hpar]; rfl
    obtain ⟨hsv, hsn⟩ := P.root hpar
    exact ⟨a, detach_root a x s hs hsp hsv hsn, by rw [Shape.detach_of_root g _ hpar]; exact r, MetaEq.refl a⟩
  | some p =>
    obtain ⟨L, R, hk, hsv, hsn⟩ := P.sib p hpar
    have hsp : s.parent = (some p).map a.idAt := by rw [P.parent, hpar]
    obtain ⟨n1, n2, n3, n4, n5, n6⟩ := r.neighbours x.index0 s hs h0
    have hd := detach_eq a x s hs n1 n2 n3 n4 n5 n6
    rw [hsp, hsv, hsn] at hd
    exact ⟨_, hd, r.detachArena hpar hk, MetaEq.detachArena _ _ _ _ _⟩

theorem Rep.detach_idAt {a : Arena} {g : Shape} (r : Rep a g) (i : Nat) (hi : Live a i) :
    ∃ a', Arena.detach a (a.idAt i) = .done a' () ∧ Rep a' (g.detach i) ∧ MetaEq a a' :=
  r.detach (a.idAt i) (LiveId.idAt hi)

end Arena
end XotModel
