/-
  The write loop of `XmlSerializer::serialize` as one fold returning the final `FullnameSerializer` stack
  and the bytes written (`runEvents`), with its append law and the string entry point in terms of it; and
  what each single event writes, as the rendering of parser tokens.
-/
import XotModel.Model.SerTokens
import XotModel.Lemmas.LexCanonDefs
import XotModel.Lemmas.Events
import XotModel.Lemmas.FStack
import XotModel.Lemmas.Scope

/-! ## The write loop as a fold

  With the laws the tree induction of `SerTokensMain.lean` needs.
-/

namespace XotModel
open Gen

variable (esc : Escapers) (env : Env) (pr : TokenParams) (t : Tree)

/-- Sequencing of two runs: the bytes are concatenated, the first failure wins. -/
def runThen (a : Outcome XotError (FStack × Str)) (f : FStack → Outcome XotError (FStack × Str)) :
    Outcome XotError (FStack × Str) :=
  match a with
  | .ok (s, w) =>
    (match f s with
     | .ok (s', w') => .ok (s', w ++ w')
     | .err e => .err e
     | .panic => .panic)
  | .err e => .err e
  | .panic => .panic

/-- One event: the stack afterwards and the bytes `serialize_node` writes for its token. -/
def runEvent (s : FStack) (p : Path) (o : Output) : Outcome XotError (FStack × Str) :=
  match renderAtWith esc env pr t s p o with
  | .ok (s', tok) => .ok (s', tokenBytes tok)
  | .err e => .err e
  | .panic => .panic

/-- `XmlSerializer::serialize` over a list of events. -/
def runEvents : FStack → List (Path × Output) → Outcome XotError (FStack × Str)
  | s, [] => .ok (s, [])
  | s, (p, o) :: rest => runThen (runEvent esc env pr t s p o) (fun s' => runEvents s' rest)

theorem runThen_ok (s : FStack) (w : Str) (f : FStack → Outcome XotError (FStack × Str)) :
    runThen (.ok (s, w)) f =
      (match f s with
       | .ok (s', w') => .ok (s', w ++ w')
       | .err e => .err e
       | .panic => .panic) := rfl

theorem runThen_err (e : XotError) (f : FStack → Outcome XotError (FStack × Str)) :
    runThen (.err e) f = .err e := rfl

theorem runThen_assoc (a : Outcome XotError (FStack × Str))
    (f g : FStack → Outcome XotError (FStack × Str)) :
    runThen (runThen a f) g = runThen a (fun s => runThen (f s) g) := by
  cases a with
  | ok sw =>
    obtain ⟨s, w⟩ := sw
    simp only [runThen]
    cases f s with
    | ok sw' =>
      obtain ⟨s', w'⟩ := sw'
      simp only []
      cases g s' with
      | ok sw'' => simp
      | err e => rfl
      | panic => rfl
    | err e => rfl
    | panic => rfl
  | err e => rfl
  | panic => rfl

theorem runThen_pure (a : Outcome XotError (FStack × Str)) :
    runThen a (fun s => .ok (s, [])) = a := by
  cases a with
  | ok sw => obtain ⟨s, w⟩ := sw; simp [runThen]
  | err e => rfl
  | panic => rfl

theorem runEvents_append (s : FStack) (a b : List (Path × Output)) :
    runEvents esc env pr t s (a ++ b) =
      runThen (runEvents esc env pr t s a) (fun s' => runEvents esc env pr t s' b) := by
  induction a generalizing s with
  | nil =>
    simp only [List.nil_append, runEvents, runThen]
    cases runEvents esc env pr t s b with
    | ok sw => simp
    | err e => rfl
    | panic => rfl
  | cons po a ih =>
    obtain ⟨p, o⟩ := po
    simp only [List.cons_append, runEvents, runThen_assoc]
    congr 1
    funext s'
    exact ih s'

theorem runEvents_single (s : FStack) (p : Path) (o : Output) :
    runEvents esc env pr t s [(p, o)] = runEvent esc env pr t s p o := by
  simp only [runEvents, runThen_pure]

theorem runEvents_cons (s : FStack) (p : Path) (o : Output) (rest : List (Path × Output)) :
    runEvents esc env pr t s ((p, o) :: rest) =
      runThen (runEvent esc env pr t s p o) (fun s' => runEvents esc env pr t s' rest) := rfl

namespace Ser

theorem bufferToString_append (a : Str) (r : Str × Outcome XotError Unit) :
    bufferToString (a ++ r.1, r.2) =
      (match bufferToString r with
       | .ok w => .ok (a ++ w)
       | .err e => .err e
       | .panic => .panic) := by
  obtain ⟨w, o⟩ := r
  cases o <;> rfl

end Ser

/-- The write loop is `runEvents` (bytes of a failed run aside). -/
theorem writeGo_runEvents (s : FStack) (outs : List (Path × Output)) :
    bufferToString (writeGoWith esc env pr t s outs) =
      (match runEvents esc env pr t s outs with
       | .ok (_, w) => .ok w
       | .err e => .err e
       | .panic => .panic) := by
  induction outs generalizing s with
  | nil => rfl
  | cons po rest ih =>
    obtain ⟨p, o⟩ := po
    simp only [writeGoWith, runEvents, runEvent]
    cases renderAtWith esc env pr t s p o with
    | ok st =>
      rw [Ser.bufferToString_append, ih st.1]
      simp only [runThen]
      cases runEvents esc env pr t st.1 rest <;> rfl
    | err e => rfl
    | panic => rfl

/-- `serialize_xml_string` (token parameters only) in terms of `runEvents`. -/
theorem serializeString_runEvents (start : Path) :
    serializeStringWith esc env pr t start =
      (match runEvents esc env pr t (initStack t start) (genOutputs t start) with
       | .ok (_, w) => .ok w
       | .err e => .err e
       | .panic => .panic) := by
  unfold serializeStringWith serializeWriteWith
  exact writeGo_runEvents esc env pr t _ _

/-- An event of a node that exists: `render_output` on that node. -/
theorem runEvent_at (s : FStack) (p : Path) (o : Output) (n : Tree) (h : t.at? p = some n) :
    runEvent esc env pr t s p o =
      (match renderXmlWith esc env pr s n (t.parentAt? p) o with
       | .ok (s', tok) => .ok (s', tokenBytes tok)
       | .err e => .err e
       | .panic => .panic) := by
  simp only [runEvent, renderAtWith, h]

end XotModel

/-!
## What one event writes

  What `render_output` writes for each kind of event of a node, as `runEvent` equations, and the
  runs of declaration and attribute events of one start tag as token renderings.
-/

namespace XotModel
open Gen

variable (env : Env) (pr : TokenParams) (t : Tree)

/-- Every prefix the top frame binds (other than the empty one) satisfies `P`, and so does `xml`. -/
def TopAll (P : Nat → Prop) (s : FStack) : Prop :=
  P Env.xmlPrefix ∧ ∀ d ∈ s.top, d.1 ≠ Env.emptyPrefix → P d.1

theorem TopAll.push {P : Nat → Prop} {s : FStack} (h : TopAll P s) {decls : List (Nat × Nat)}
    (hd : ∀ d ∈ decls, d.1 ≠ Env.emptyPrefix → P d.1) : TopAll P (s.push decls) := by
  refine ⟨h.1, ?_⟩
  unfold FStack.push
  split
  · exact h.2
  · intro d hd' hne
    simp only [FStack.top, List.headD_cons] at hd'
    obtain ⟨p, n⟩ := d
    rcases (mem_fullnameInfoNew decls s.top p n).mp hd' with h1 | h1
    · exact h.2 (p, n) h1.1 hne
    · exact hd (p, n) h1 hne

theorem elementPrefix_some {P : Nat → Prop} {s : FStack} (h : TopAll P s) {name p : Nat}
    (hp : s.elementPrefix env name = .ok (some p)) : P p := by
  rcases FStack.elementPrefix_ok hp with ⟨_, h0⟩ | ⟨_, h0⟩ | ⟨_, q, hq, h0⟩
  · cases h0
  · cases h0; exact h.1
  · by_cases hq0 : q = Env.emptyPrefix
    · rw [if_pos hq0] at h0; cases h0
    · rw [if_neg hq0] at h0; cases h0; exact h.2 _ hq hq0

theorem attributePrefix_some {P : Nat → Prop} {s : FStack} (h : TopAll P s) {name p : Nat}
    (hp : s.attributePrefix env name = .ok (some p)) : P p := by
  rcases FStack.attributePrefix_ok hp with ⟨_, h0⟩ | ⟨_, h0⟩ | ⟨_, q, hq, hne, h0⟩
  · cases h0
  · cases h0; exact h.1
  · cases h0; exact h.2 _ hq hne

theorem tokQName_ne (x loc : Str) (h : x ≠ []) : tokQName x loc = x ++ [':'] ++ loc := by
  cases x with
  | nil => exact absurd rfl h
  | cons c cs => simp [tokQName]

theorem qname_tokQName (p : Option Nat) (name : Nat)
    (h : ∀ q, p = some q → env.prefixStr q ≠ []) :
    qname env p name = tokQName (prefixText env p) (env.localName name) := by
  cases p with
  | none => simp [qname, tokQName, prefixText]
  | some q =>
    simp only [qname, prefixText, tokQName_ne _ _ (h q rfl)]

theorem xmlEscapers_attr : xmlEscapers.attr = serializeAttribute := rfl
theorem xmlEscapers_txt : xmlEscapers.txt = serializeText := rfl

theorem runEvent_open (s : FStack) (path : Path) (n : Tree) (hat : t.at? path = some n) (name : Nat) :
    runEvent xmlEscapers env pr t s path (.startTagOpen name) =
      (if env.nsOfName name == Env.noNamespace && (s.push n.nsDecls).hasDefaultNamespace then
        .err (.missingPrefix Env.noNamespace)
       else match (s.push n.nsDecls).elementPrefix env name with
        | .ok p => .ok (s.push n.nsDecls, '<' :: qname env p name)
        | .error e => .err e) := by
  rw [runEvent_at _ _ _ _ _ _ _ _ hat]
  simp only [renderXmlWith, FStack.elementFullname]
  by_cases hc : (env.nsOfName name == Env.noNamespace && (s.push n.nsDecls).hasDefaultNamespace) = true
  · simp only [hc, if_true]
  · simp only [hc, if_false]
    cases (s.push n.nsDecls).elementPrefix env name with
    | ok p => simp [tokenBytes, fmt, fmtStartTagOpen]
    | error e => rfl

theorem runEvent_close (s : FStack) (path : Path) (n : Tree) (hat : t.at? path = some n) :
    runEvent xmlEscapers env pr t s path .startTagClose =
      .ok (s, if n.firstChild?.isNone then ['/', '>'] else ['>']) := by
  rw [runEvent_at _ _ _ _ _ _ _ _ hat]
  simp only [renderXmlWith]
  by_cases hc : n.firstChild?.isNone = true <;>
    simp [hc, tokenBytes, litEmptyTagClose, litTagClose]

theorem runEvent_end (s : FStack) (path : Path) (n : Tree) (hat : t.at? path = some n) (name : Nat) :
    runEvent xmlEscapers env pr t s path (.endTag name) =
      (if n.firstChild?.isSome then
        match s.elementPrefix env name with
        | .ok p => .ok (s.pop n.hasNsDecls, '<' :: '/' :: (qname env p name ++ ['>']))
        | .error e => .err e
       else .ok (s.pop n.hasNsDecls, [])) := by
  rw [runEvent_at _ _ _ _ _ _ _ _ hat]
  simp only [renderXmlWith, FStack.elementFullname]
  by_cases hc : n.firstChild?.isSome = true
  · simp only [hc, if_true]
    cases s.elementPrefix env name with
    | ok p => simp [tokenBytes, fmt, fmtEndTag]
    | error e => rfl
  · simp [hc, tokenBytes, litEmptyEndTag]

theorem runEvent_comment (s : FStack) (path : Path) (n : Tree) (hat : t.at? path = some n) (str : Str) :
    runEvent xmlEscapers env pr t s path (.comment str) =
      .ok (s, renderTokens [.comment (sp0 str) noSpan]) := by
  rw [runEvent_at _ _ _ _ _ _ _ _ hat]
  simp [renderXmlWith, tokenBytes, renderTokens, renderToken, sp0, fmt, fmtComment]

theorem runEvent_pi (s : FStack) (path : Path) (n : Tree) (hat : t.at? path = some n) (target : Nat)
    (data : Option Str) :
    runEvent xmlEscapers env pr t s path (.pi target data) =
      (if !(env.namespaceStr (env.nsOfName target)).isEmpty then .err .namespaceInProcessingInstruction
       else .ok (s, renderTokens [.pi (sp0 (env.localName target)) (data.map sp0) noSpan])) := by
  rw [runEvent_at _ _ _ _ _ _ _ _ hat]
  simp only [renderXmlWith]
  by_cases hc : (!(env.namespaceStr (env.nsOfName target)).isEmpty) = true
  · simp only [hc, if_true]
  · cases data <;>
      simp [hc, tokenBytes, renderTokens, renderToken, sp0, fmt, fmtPi, fmtPiData]

theorem runEvents_pfx (s : FStack) (path : Path) (n : Tree) (hat : t.at? path = some n)
    (ds : List (Nat × Nat)) :
    runEvents xmlEscapers env pr t s (ds.map (fun d => (path, Output.pfx d.1 d.2))) =
      .ok (s, renderTokens (ds.flatMap (declTokens env))) := by
  induction ds with
  | nil => rfl
  | cons d ds ih =>
    simp only [List.map_cons, runEvents_cons, List.flatMap_cons, renderTokens_append]
    rw [runEvent_at _ _ _ _ _ _ _ _ hat]
    simp only [renderXmlWith, declTokens]
    by_cases h1 : (d.2 == Env.xmlNamespace) = true
    · simp [h1, runThen, ih, tokenBytes, litXmlPrefix, renderTokens]
    · by_cases h2 : (d.1 == Env.emptyPrefix) = true
      · simp [h1, h2, runThen, ih, tokenBytes, tokenSpace, fmt, fmtXmlnsDefault, xmlEscapers_attr, renderTokens,
          renderToken, tokQName, sp0, xmlnsName]
      · simp [h1, h2, runThen, ih, tokenBytes, tokenSpace, fmt, fmtXmlnsPrefix, xmlEscapers_attr, renderTokens,
          renderToken, tokQName, sp0, xmlnsName]

theorem runEvents_attrs (s : FStack) (hs : TopAll (fun p => env.prefixStr p ≠ []) s) (path : Path)
    (n : Tree) (hat : t.at? path = some n) (as : List (Nat × Str)) :
    runEvents xmlEscapers env pr t s (as.map (fun a => (path, Output.attribute a.1 a.2))) =
      (match attrTokens env s as with
       | .ok ts => .ok (s, renderTokens ts)
       | .error e => .err e) := by
  induction as with
  | nil => rfl
  | cons a as ih =>
    obtain ⟨name, v⟩ := a
    simp only [List.map_cons, runEvents_cons, attrTokens]
    rw [runEvent_at _ _ _ _ _ _ _ _ hat]
    simp only [renderXmlWith, FStack.attributeFullname]
    cases hp : s.attributePrefix env name with
    | error e => simp [runThen]
    | ok p =>
      have hq := qname_tokQName env p name (fun q hq => attributePrefix_some env hs (hq ▸ hp))
      simp only [runThen, ih]
      cases attrTokens env s as with
      | error e => rfl
      | ok ts =>
        simp [tokenBytes, tokenSpace, fmt, fmtAttribute, xmlEscapers_attr, renderTokens_cons, renderToken,
          sp0, hq]

end XotModel
