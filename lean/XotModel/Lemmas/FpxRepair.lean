/-
  `create_missing_prefixes` in the forest model on a forest with the invariant: the node at a path of a root tree is
  what `get?` finds for its handle; every call of the two composites is a namespace-map edit on an element and runs to
  the end (`Call.isNsEdit`, `fpx_runCalls_ok`); the walk never panics and the call answers `Ok` or one of its two
  refusals.
-/
import XotModel.Lemmas.FinvTrav
import XotModel.Lemmas.FmapTouch
import XotModel.Lemmas.FinvPrefix
import XotModel.Lemmas.BasicFacts
import XotModel.Lemmas.RepairDocument

/-! ## The node at a path of a root tree is what the store finds for its handle -/

namespace XotModel

namespace HTree

theorem fpx_findList?_getElem? (x : Nat) : ∀ (ks : List HTree) (i : Nat) (k s : HTree),
    (handlesList ks).Nodup → ks[i]? = some k → find? x k = some s → findList? x ks = some s
  | [], _, _, _, _, hk, _ => by simp at hk
  | k' :: ks, 0, k, s, _, hk, hf => by
    simp only [List.getElem?_cons_zero, Option.some.injEq] at hk
    subst hk
    simp [findList?, hf]
  | k' :: ks, i + 1, k, s, hnd, hk, hf => by
    simp only [List.getElem?_cons_succ] at hk
    simp only [handlesList, List.nodup_append] at hnd
    have hxk : x ∈ handles k := by
      apply Classical.byContradiction
      intro hn; rw [find?_none_of_not_mem x k hn] at hf; cases hf
    have hx : x ∈ handlesList ks := fhl_getElem?_handles ks i k hk x hxk
    have hnone : find? x k' = none :=
      find?_none_of_not_mem x k' (fun hm => hnd.2.2 x hm x hx rfl)
    simp only [findList?, hnone]
    exact fpx_findList?_getElem? x ks i k s hnd.2.1 hk hf

theorem fpx_nodup_getElem? : ∀ (ks : List HTree) (i : Nat) (k : HTree), ks[i]? = some k →
    (handlesList ks).Nodup → (handles k).Nodup
  | [], _, _, hk, _ => by simp at hk
  | a :: ks, 0, k, hk, hn => by
    simp only [handlesList, List.nodup_append] at hn
    simp only [List.getElem?_cons_zero, Option.some.injEq] at hk; subst hk; exact hn.1
  | a :: ks, i + 1, k, hk, hn => by
    simp only [handlesList, List.nodup_append] at hn
    exact fpx_nodup_getElem? ks i k (by simpa using hk) hn.2.1

theorem fpx_find?_of_at? : ∀ (p : Path) (r s : HTree), (handles r).Nodup → r.at? p = some s →
    find? s.handle r = some s
  | [], r, s, _, h => by
    simp only [HTree.at?, Option.some.injEq] at h; subst h
    cases r; simp [find?, handle]
  | i :: p, node h' v ks, s, hnd, h => by
    simp only [HTree.at?] at h
    cases hk : ks[i]? with
    | none => rw [hk] at h; cases h
    | some k =>
      rw [hk] at h
      simp only [handles, List.nodup_cons] at hnd
      have hsk : s.handle ∈ handles k := ftrav_handles_at? p k s h _ (handle_mem_handles s)
      have hne : ¬ h' = s.handle := by
        intro e; exact hnd.1 (e ▸ fhl_getElem?_handles ks i k hk _ hsk)
      have := fpx_find?_of_at? p k s (fpx_nodup_getElem? ks i k hk hnd.2) h
      simp only [find?, hne, if_false]
      exact fpx_findList?_getElem? s.handle ks i k s hnd.2 hk this

end HTree

open HTree

namespace Forest

/-- In a forest with distinct handles the node at a path of one of its trees is what `get?` finds for
    its handle. -/
theorem fpx_get?_of_at? {f : Forest} (hn : f.allHandles.Nodup) {r : HTree} (hr : r ∈ f.roots) {p : Path}
    {s : HTree} (hs : r.at? p = some s) : f.get? s.handle = some s := by
  obtain ⟨i, hi⟩ := List.getElem?_of_mem hr
  exact fpx_findList?_getElem? s.handle f.roots i r s hn hi
    (fpx_find?_of_at? p r s (fpx_nodup_getElem? f.roots i r hi hn) hs)

/-- … so `is_element` of that handle is the kind of the erased node. -/
theorem fpx_isElement_of_at? {f : Forest} (hn : f.allHandles.Nodup) {r : HTree} (hr : r ∈ f.roots) {p : Path}
    {h : Nat} {e : Tree} (hh : r.handleAt p = some h) (he : r.erase.at? p = some e) :
    f.isElement h = e.value.isElement := by
  rw [ftrav_handleAt_eq] at hh
  rw [Reach.at?_erase] at he
  cases hs : r.at? p with
  | none => rw [hs] at hh; cases hh
  | some s =>
    rw [hs] at hh he
    simp only [Option.map_some, Option.some.injEq] at hh he
    subst hh; subst he
    have := fpx_get?_of_at? hn hr hs
    cases s with
    | node sh sv sk =>
      simp only [isElement, value?, this, Option.map_some, HTree.value, erase, Tree.value]
      cases sv.isElement <;> rfl

theorem fpx_located {f : Forest} (hn : f.allHandles.Nodup) {h : Nat} (hl : f.isLive h = true) :
    ∃ r q s, f.rootOf? h = some r ∧ r ∈ f.roots ∧ r.pathOf h = some q ∧ r.at? q = some s ∧ s.handle = h ∧
      f.get? h = some s ∧ r.erase.at? q = some s.erase := by
  obtain ⟨r, h1, h2, q, h3⟩ := rootOf?_of_live hl
  obtain ⟨s, hs, rfl⟩ := ftrav_pathOf_at? _ r q h3
  exact ⟨r, q, s, h1, h2, h3, hs, rfl, fpx_get?_of_at? hn h2 hs, by rw [Reach.at?_erase, hs]; rfl⟩

end Forest
end XotModel

/-! ## The calls of the two composites are namespace-map edits on elements and run to the end -/

namespace XotModel
namespace Forest

/-- A namespace-map insertion or removal whose target is an element of `f`. -/
def Call.isNsEdit (f : Forest) : Call → Prop
  | .mapInsert .namespaces h (.namespace _ _) => f.isElement h = true
  | .mapRemove .namespaces h _ => f.isElement h = true
  | _ => False

theorem fpx_call_ok {f : Forest} (hi : f.Inv) {c : Call} (hc : c.isNsEdit f) :
    (c.run f).2 = .ok ∧ (c.run f).1.Inv ∧ ∀ x, (c.run f).1.isElement x = f.isElement x := by
  cases c with
  | mapInsert k h e =>
    cases k with
    | attributes => exact hc.elim
    | namespaces =>
      cases e with
      | «namespace» p n =>
        have he : f.isElement h = true := hc
        obtain ⟨hok, t⟩ := Fmap.touch_mapInsert hi .namespaces h (.namespace p n) he rfl
        refine ⟨hok, t.inv, fun x => ?_⟩
        by_cases hx : x = h
        · subst hx; show (f.mapInsert _ _ _).1.isElement x = _; rw [t.elem, he]
        · exact (t.frame x hx).elem
      | _ => exact hc.elim
  | mapRemove k h key =>
    cases k with
    | attributes => exact hc.elim
    | namespaces =>
      have he : f.isElement h = true := hc
      obtain ⟨hok, t⟩ := Fmap.touch_mapRemove hi .namespaces h key he
      refine ⟨hok, t.inv, fun x => ?_⟩
      by_cases hx : x = h
      · subst hx; show (f.mapRemove _ _ _).1.isElement x = _; rw [t.elem, he]
      · exact (t.frame x hx).elem
  | _ => exact hc.elim

theorem fpx_isNsEdit_congr {f f' : Forest} (h : ∀ x, f'.isElement x = f.isElement x) {c : Call}
    (hc : c.isNsEdit f) : c.isNsEdit f' := by
  cases c with
  | mapInsert k p e =>
    cases k with
    | attributes => exact hc.elim
    | namespaces =>
      cases e with
      | «namespace» a b => show f'.isElement p = true; rw [h]; exact hc
      | _ => exact hc.elim
  | mapRemove k p key =>
    cases k with
    | attributes => exact hc.elim
    | namespaces => show f'.isElement p = true; rw [h]; exact hc
  | _ => exact hc.elim

/-- A list of namespace edits on elements runs to the end. -/
theorem fpx_runCalls_ok : ∀ (cs : List Call) {f : Forest}, f.Inv → (∀ c ∈ cs, c.isNsEdit f) →
    (f.runCalls cs).2 = .ok ∧ (f.runCalls cs).1.Inv ∧ ∀ x, (f.runCalls cs).1.isElement x = f.isElement x
  | [], _, hi, _ => ⟨rfl, hi, fun _ => rfl⟩
  | c :: cs, f, hi, hc => by
    obtain ⟨h1, h2, h3⟩ := fpx_call_ok hi (hc c (by simp))
    unfold runCalls
    rcases hr : c.run f with ⟨f', r⟩
    rw [hr] at h1 h2 h3
    simp only at h1 h2 h3
    subst h1
    simp only
    obtain ⟨k1, k2, k3⟩ := fpx_runCalls_ok cs h2 (fun c' h' => fpx_isNsEdit_congr h3 (hc c' (by simp [h'])))
    exact ⟨k1, k2, fun x => (k3 x).trans (h3 x)⟩

end Forest
end XotModel

/-! ## `create_missing_prefixes` in the forest model never fails on a forest with the invariant -/

section
namespace XotModel
namespace Repair

/-- The subtree at `q` is an element node. -/
def ElemAt (t : Tree) (q : Path) : Prop := ∃ name ks, t.at? q = some (.node (.element name) ks)

mutual
/-- Every recorded `undeclare` node is an element of the subtree it was recorded in. -/
theorem fpx_undOf_elem (nsOf : Nat → Nat) : ∀ (t : Tree) (top : List (Nat × Nat)) (pre q : Path),
    q ∈ undOf nsOf top pre t → ∃ q', q = pre ++ q' ∧ ElemAt t q'
  | .node v ks, top, pre, q, h => by
    have hkids : ∀ top', q ∈ undOfKids nsOf top' pre 0 ks →
        ∃ q', q = pre ++ q' ∧ ElemAt (.node v ks) q' := by
      intro top' h
      obtain ⟨j, k, q', hk, rfl, he⟩ := fpx_undOfKids_elem nsOf ks _ pre 0 q h
      refine ⟨(0 + j) :: q', rfl, ?_⟩
      obtain ⟨n, kk, hn⟩ := he
      exact ⟨n, kk, by simp only [Tree.at?, Nat.zero_add, hk]; exact hn⟩
    cases hv : v.isElement with
    | false => rw [undOf_other nsOf top pre v ks hv] at h; exact hkids _ h
    | true =>
      obtain ⟨name, rfl⟩ := Repair.eq_element_of_isElement hv
      rw [undOf_element, List.mem_append] at h
      rcases h with h | h
      · split at h
        · simp only [List.mem_singleton] at h; subst h
          exact ⟨[], by simp, name, ks, rfl⟩
        · cases h
      · exact hkids _ h
theorem fpx_undOfKids_elem (nsOf : Nat → Nat) : ∀ (ks : List Tree) (top : List (Nat × Nat)) (pre : Path) (i : Nat)
    (q : Path), q ∈ undOfKids nsOf top pre i ks →
      ∃ j k q', ks[j]? = some k ∧ q = pre ++ (i + j) :: q' ∧ ElemAt k q'
  | [], top, pre, i, q, h => by simp [undOfKids, collectKids] at h
  | k :: ks, top, pre, i, q, h => by
    rw [undOfKids_cons, List.mem_append] at h
    rcases h with h | h
    · obtain ⟨q', rfl, he⟩ := fpx_undOf_elem nsOf k top (pre ++ [i]) q h
      exact ⟨0, k, q', rfl, by simp, he⟩
    · obtain ⟨j, k', q', hk, rfl, he⟩ := fpx_undOfKids_elem nsOf ks top pre (i + 1) q h
      exact ⟨j + 1, k', q', by simpa using hk, by rw [Nat.add_right_comm i 1 j]; rfl, he⟩
end

end Repair

open HTree Repair

namespace Forest

/-- The call list of `create_missing_prefixes_for_element(node)` for an element of a forest with the
    invariant: it exists, and every call is a namespace insertion on an element. -/
theorem fpx_repairCalls {f : Forest} (hi : f.Inv) (env : Env) {node : Nat} (he : f.isElement node = true) :
    ∃ env' cs, f.repairCalls env node = some (env', cs) ∧ ∀ c ∈ cs, c.isNsEdit f := by
  obtain ⟨r, q, s, h1, h2, h3, h4, h5, h6, h7⟩ := fpx_located hi.nodup (Forest.Fatom.isLive_of_isElement he)
  unfold repairCalls
  simp only [h1, h3, h7]
  rw [repairWalk_eq]
  simp only [withAcc, Bool.false_eq_true, if_false]
  have ha := assignPrefixes_isSome
    (collectRec env.nsOfName (inheritedDecls r.erase q) q s.erase ⟨[], [], []⟩).missing env
    ((collectRec env.nsOfName (inheritedDecls r.erase q) q s.erase ⟨[], [], []⟩).used ++
      ((namespacesInScope r.erase q).getD []).map (·.1)) 0
  cases hap : assignPrefixes env _ 0 _ with
  | none => rw [hap] at ha; cases ha
  | some res =>
    obtain ⟨env', newDecls⟩ := res
    refine ⟨env', _, rfl, ?_⟩
    intro c hc
    rcases List.mem_append.mp hc with hc | hc
    · obtain ⟨d, _, rfl⟩ := List.mem_map.mp hc
      exact he
    · obtain ⟨up, hup, h2'⟩ := List.mem_filterMap.mp hc
      simp only [Option.map_eq_some_iff] at h2'
      obtain ⟨hh, hhh, rfl⟩ := h2'
      obtain ⟨q', rfl, name, ks, hel⟩ := fpx_undOf_elem _ _ _ _ _ hup
      have hat : r.erase.at? (q ++ q') = some (.node (.element name) ks) := by
        rw [Axes.at?_append, h7]; exact hel
      show f.isElement hh = true
      rw [fpx_isElement_of_at? hi.nodup h2 hhh hat]; rfl

/-- `create_missing_prefixes_for_element(node)` on an element: `Ok`, the invariant is kept, no node
    changes between element and non-element. -/
theorem fpx_repairElementF {f : Forest} (hi : f.Inv) (env : Env) {node : Nat} (he : f.isElement node = true) :
    (f.repairElementF env node).2.2 = .ok ∧ (f.repairElementF env node).1.Inv ∧
      ∀ x, (f.repairElementF env node).1.isElement x = f.isElement x := by
  obtain ⟨env', cs, h1, h2⟩ := fpx_repairCalls hi env he
  unfold repairElementF
  rw [h1]
  exact fpx_runCalls_ok cs hi h2

/-- The loop over the top-level elements of a document (fragment). -/
theorem fpx_repairElementsF : ∀ (es : List Nat) (env : Env) {f : Forest}, f.Inv →
    (∀ e ∈ es, f.isElement e = true) → (repairElementsF es env f).2.2 = .ok
  | [], _, _, _, _ => rfl
  | e :: rest, env, f, hi, hes => by
    obtain ⟨h1, h2, h3⟩ := fpx_repairElementF hi env (hes e (by simp))
    unfold repairElementsF
    rcases hr : f.repairElementF env e with ⟨f', env', r⟩
    rw [hr] at h1 h2 h3
    simp only at h1 h2 h3
    subst h1
    simp only
    exact fpx_repairElementsF rest env' h2 (fun x hx => by rw [h3]; exact hes x (by simp [hx]))

/-- The element children collected by the document branch are elements of the forest. -/
theorem fpx_docElements {f : Forest} (hi : f.Inv) {node : Nat} {t : HTree} (hg : f.get? node = some t) :
    ∀ e ∈ (t.kids.filter (fun k => k.value.isElement)).map (·.handle), f.isElement e = true := by
  intro e hemem
  obtain ⟨k, hk, rfl⟩ := List.mem_map.mp hemem
  obtain ⟨hkm, hke⟩ := List.mem_filter.mp hk
  have hl : f.isLive node = true := by unfold isLive; rw [hg]; rfl
  obtain ⟨r, q, s, _, h2, _, h4, _, h6, _⟩ := fpx_located hi.nodup hl
  rw [hg] at h6
  simp only [Option.some.injEq] at h6
  subst h6
  obtain ⟨i, hik⟩ := List.getElem?_of_mem hkm
  have hat : r.at? (q ++ [i]) = some k := by
    have : ∀ (q : Path) (r t : HTree), r.at? q = some t → t.kids[i]? = some k → r.at? (q ++ [i]) = some k := by
      intro q
      induction q with
      | nil =>
        intro r t h hk'
        simp only [HTree.at?, Option.some.injEq] at h; subst h
        cases r with | node a b c => simp only [List.nil_append, HTree.at?, HTree.kids] at hk' ⊢; rw [hk']
      | cons j q ih =>
        intro r t h hk'
        cases r with
        | node a b c =>
          simp only [List.cons_append, HTree.at?] at h ⊢
          cases hc : c[j]? with
          | none => rw [hc] at h; cases h
          | some cj => rw [hc] at h; exact ih cj t h hk'
    exact this q r t h4 hik
  have := fpx_get?_of_at? hi.nodup h2 hat
  cases k with
  | node kh kv kk =>
    simp only [HTree.value] at hke
    have this' : f.get? kh = some (.node kh kv kk) := this
    show f.isElement kh = true
    simp [isElement, value?, this', HTree.value, hke]

/-- **`create_missing_prefixes` at forest level, every case**: the two refusals return the forest
    and the interning tables as they were; every other call answers `Ok`. -/
theorem fpx_createMissingPrefixes {f : Forest} (hi : f.Inv) (env : Env) (node : Nat) :
    (f.isDocument node = false → f.isElement node = false →
      f.createMissingPrefixes env node = (f, env, .err .notElement)) ∧
    (f.isDocument node = true → (∀ t, f.get? node = some t → ∀ k ∈ t.kids, k.value.isElement = false) →
      f.createMissingPrefixes env node = (f, env, .err .noElementAtTopLevel)) ∧
    ((f.isElement node = true ∨ (f.isDocument node = true ∧
        ∃ t k, f.get? node = some t ∧ k ∈ t.kids ∧ k.value.isElement = true)) →
      (f.createMissingPrefixes env node).2.2 = .ok) := by
  refine ⟨fun hd he => by simp [createMissingPrefixes, hd, he], fun hd hk => ?_, ?_⟩
  · unfold createMissingPrefixes
    simp only [hd, if_true]
    cases hg : f.get? node with
    | none => simp
    | some t =>
      have : t.kids.filter (fun k => k.value.isElement) = [] := by
        rw [List.filter_eq_nil_iff]; intro k hkm; simp [hk t hg k hkm]
      simp [this]
  · rintro (he | ⟨hd, t, k, hg, hkm, hke⟩)
    · have hd : f.isDocument node = false := by
        unfold isElement at he; unfold isDocument
        cases hv : f.value? node with
        | none => rw [hv] at he; cases he
        | some v =>
          rw [hv] at he
          cases v with
          | element n => rfl
          | _ => cases he
      unfold createMissingPrefixes
      simp only [hd, he, Bool.false_eq_true, if_false, Bool.not_true]
      exact (fpx_repairElementF hi env he).1
    · unfold createMissingPrefixes
      simp only [hd, if_true, hg]
      have hne : ((t.kids.filter (fun k => k.value.isElement)).map (·.handle)).isEmpty = false := by
        have : k ∈ t.kids.filter (fun k => k.value.isElement) := List.mem_filter.mpr ⟨hkm, hke⟩
        cases hf : t.kids.filter (fun k => k.value.isElement) with
        | nil => rw [hf] at this; cases this
        | cons a l => rfl
      simp only [hne, Bool.false_eq_true, if_false]
      exact fpx_repairElementsF _ env hi (fpx_docElements hi hg)

end Forest
end XotModel
end
