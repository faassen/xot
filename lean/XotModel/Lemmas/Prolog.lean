/-
  The prolog written by `serialize_xml_write` (`Declaration::serialize`, `DocType::serialize`)
  against the XML 1.0 grammar, given as a small recogniser:

    [23] XMLDecl      ::= '<?xml' VersionInfo EncodingDecl? SDDecl? S? '?>'
    [24] VersionInfo  ::= S 'version' Eq ("'" VersionNum "'" | '"' VersionNum '"')
    [25] Eq           ::= S? '=' S?
    [26] VersionNum   ::= '1.' [0-9]+
    [80] EncodingDecl ::= S 'encoding' Eq ('"' EncName '"' | "'" EncName "'")
    [81] EncName      ::= [A-Za-z] ([A-Za-z0-9._] | '-')*
    [32] SDDecl       ::= S 'standalone' Eq (("'" ('yes' | 'no') "'") | ('"' ('yes' | 'no') '"'))
    [28] doctypedecl  ::= '<!DOCTYPE' S Name (S ExternalID)? S? ('[' intSubset ']' S?)? '>'
    [75] ExternalID   ::= 'SYSTEM' S SystemLiteral | 'PUBLIC' S PubidLiteral S SystemLiteral
    [11] SystemLiteral::= ('"' [^"]* '"') | ("'" [^']* "'")
    [12] PubidLiteral ::= '"' PubidChar* '"' | "'" (PubidChar - "'")* "'"
    [13] PubidChar    ::= #x20 | #xD | #xA | [a-zA-Z0-9] | [-'()+,./:=?;!*#@$_%]
    [5]  Name         ::= NameStartChar (NameChar)*

  The recognisers return the unread rest of the input.  Options are tried first (PEG style), so
  acceptance implies a derivation in the grammar; the internal subset (never written) is left out.
-/
import XotModel.Model.XmlDecl

namespace XotModel
namespace Prolog
open Gen

/-! ### Combinators -/

def lit : Str → Str → Option Str
  | [], s => some s
  | _ :: _, [] => none
  | p :: ps, c :: cs => if p == c then lit ps cs else none

/-- [3] S. -/
def isS (c : Char) : Bool := c == ' ' || c == '\t' || c == '\r' || c == '\n'

def optS (s : Str) : Str := s.dropWhile isS

def reqS : Str → Option Str
  | [] => none
  | c :: cs => if isS c then some (optS cs) else none

/-- [25] Eq. -/
def eqP (s : Str) : Option Str := (lit ['='] (optS s)).map optS

/-- A quoted literal, either quote: the content up to the first matching quote, and the rest. -/
def quoted : Str → Option (Str × Str)
  | [] => none
  | q :: cs =>
    if q == '"' || q == '\'' then
      (match cs.dropWhile (· != q) with
       | [] => none
       | _ :: rest => some (cs.takeWhile (· != q), rest))
    else none

/-! ### Character classes -/

def inRange (c : Char) (lo hi : Nat) : Bool := lo ≤ c.toNat && c.toNat ≤ hi

def isAsciiLetter (c : Char) : Bool := inRange c 0x41 0x5A || inRange c 0x61 0x7A
def isAsciiDigit (c : Char) : Bool := inRange c 0x30 0x39

/-- [4] NameStartChar. -/
def isNameStartChar (c : Char) : Bool :=
  c == ':' || c == '_' || isAsciiLetter c || inRange c 0xC0 0xD6 || inRange c 0xD8 0xF6 ||
  inRange c 0xF8 0x2FF || inRange c 0x370 0x37D || inRange c 0x37F 0x1FFF || inRange c 0x200C 0x200D ||
  inRange c 0x2070 0x218F || inRange c 0x2C00 0x2FEF || inRange c 0x3001 0xD7FF ||
  inRange c 0xF900 0xFDCF || inRange c 0xFDF0 0xFFFD || inRange c 0x10000 0xEFFFF

/-- [4a] NameChar. -/
def isNameChar (c : Char) : Bool :=
  isNameStartChar c || c == '-' || c == '.' || isAsciiDigit c || c.toNat == 0xB7 ||
  inRange c 0x300 0x36F || inRange c 0x203F 0x2040

/-- [5] Name. -/
def isXmlName : Str → Bool
  | [] => false
  | c :: cs => isNameStartChar c && cs.all isNameChar

/-- [81] EncName. -/
def isEncName : Str → Bool
  | [] => false
  | c :: cs => isAsciiLetter c &&
      cs.all (fun d => isAsciiLetter d || isAsciiDigit d || d == '.' || d == '_' || d == '-')

/-- [26] VersionNum. -/
def isVersionNum : Str → Bool
  | '1' :: '.' :: d :: ds => isAsciiDigit d && ds.all isAsciiDigit
  | _ => false

/-- [13] PubidChar. -/
def isPubidChar (c : Char) : Bool :=
  c == ' ' || c == '\r' || c == '\n' || isAsciiLetter c || isAsciiDigit c ||
  ['-', '\'', '(', ')', '+', ',', '.', '/', ':', '=', '?', ';', '!', '*', '#', '@', '$', '_', '%'].contains c

/-! ### The productions -/

/-- `S keyword Eq quoted-value` with a check of the value. -/
def pseudoAttr (keyword : Str) (ok : Str → Bool) (s : Str) : Option Str :=
  match reqS s with
  | none => none
  | some s1 =>
    match lit keyword s1 with
    | none => none
    | some s2 =>
      match eqP s2 with
      | none => none
      | some s3 =>
        match quoted s3 with
        | none => none
        | some (v, rest) => if ok v then some rest else none

def kwVersion : Str := ['v','e','r','s','i','o','n']
def kwEncoding : Str := ['e','n','c','o','d','i','n','g']
def kwStandalone : Str := ['s','t','a','n','d','a','l','o','n','e']

/-- [23] XMLDecl. -/
def xmlDecl (s : Str) : Option Str :=
  match lit ['<','?','x','m','l'] s with
  | none => none
  | some s1 =>
    match pseudoAttr kwVersion isVersionNum s1 with
    | none => none
    | some s2 =>
      let s3 := (pseudoAttr kwEncoding isEncName s2).getD s2
      let s4 := (pseudoAttr kwStandalone (fun v => v == ['y','e','s'] || v == ['n','o']) s3).getD s3
      lit ['?','>'] (optS s4)

/-- [75] ExternalID (after the `S` that separates it from the name). -/
def externalId (s : Str) : Option Str :=
  match lit ['S','Y','S','T','E','M'] s with
  | some s1 =>
    (match reqS s1 with
     | none => none
     | some s2 => (quoted s2).map (·.2))
  | none =>
    match lit ['P','U','B','L','I','C'] s with
    | none => none
    | some s1 =>
      match reqS s1 with
      | none => none
      | some s2 =>
        match quoted s2 with
        | none => none
        | some (pubid, s3) =>
          if pubid.all isPubidChar then
            (match reqS s3 with
             | none => none
             | some s4 => (quoted s4).map (·.2))
          else none

/-- [28] doctypedecl (without internal subset). -/
def doctypeDecl (s : Str) : Option Str :=
  match lit ['<','!','D','O','C','T','Y','P','E'] s with
  | none => none
  | some s1 =>
    match reqS s1 with
    | none => none
    | some s2 =>
      if isXmlName (s2.takeWhile isNameChar) then
        let s3 := s2.dropWhile isNameChar
        let s4 := ((reqS s3).bind externalId).getD s3
        lit ['>'] (optS s4)
      else none

/-- [22] prolog ::= XMLDecl? Misc* (doctypedecl Misc*)?  with `Misc` restricted to white space. -/
def prolog (s : Str) : Str :=
  let s1 := optS ((xmlDecl s).getD s)
  optS ((doctypeDecl s1).getD s1)

/-! ### Facts about the combinators -/

theorem lit_append (p r : Str) : lit p (p ++ r) = some r := by
  induction p with
  | nil => cases r <;> rfl
  | cons c p ih => simp [lit, ih]

theorem optS_cons_not (c : Char) (s : Str) (h : isS c = false) : optS (c :: s) = c :: s := by
  simp [optS, h]

theorem dropWhile_append_stop {α : Type} (p : α → Bool) (a : List α) (x : α) (r : List α)
    (ha : ∀ y ∈ a, p y = true) (hx : p x = false) :
    (a ++ x :: r).dropWhile p = x :: r ∧ (a ++ x :: r).takeWhile p = a := by
  have hx' : ¬ p x = true := by simp [hx]
  exact ⟨by rw [List.dropWhile_append_of_pos ha, List.dropWhile_cons_of_neg hx'],
    by rw [List.takeWhile_append_of_pos ha, List.takeWhile_cons_of_neg hx', List.append_nil]⟩

theorem quoted_dq (body r : Str) (h : '"' ∉ body) :
    quoted ('"' :: (body ++ '"' :: r)) = some (body, r) := by
  obtain ⟨h1, h2⟩ := dropWhile_append_stop (fun c => c != '"') body '"' r
    (fun y hy => by
      have : y ≠ '"' := fun e => h (e ▸ hy)
      simpa using this) (by simp)
  simp only [quoted, beq_self_eq_true, Bool.true_or, if_true]
  rw [h1, h2]

theorem quoted_dq_early (a b r : Str) (h : '"' ∉ a) :
    quoted ('"' :: (a ++ '"' :: b ++ '"' :: r)) = some (a, b ++ '"' :: r) := by
  have := quoted_dq a (b ++ '"' :: r) h
  simpa using this

/-! ### The declaration writer -/

theorem declaration_bytes (d : Declaration) :
    d.bytes =
      ['<','?','x','m','l',' ','v','e','r','s','i','o','n','=','"','1','.','0','"']
      ++ (match d.encoding with
          | some e => [' ','e','n','c','o','d','i','n','g','=','"'] ++ e ++ ['"']
          | none => [])
      ++ (match d.standalone with
          | some true => [' ','s','t','a','n','d','a','l','o','n','e','=','"','y','e','s','"']
          | some false => [' ','s','t','a','n','d','a','l','o','n','e','=','"','n','o','"']
          | none => [])
      ++ ['?','>','\n'] := by
  obtain ⟨e, sa⟩ := d
  cases e <;> cases sa <;> (try rename_i b; cases b) <;> rfl

theorem doctype_bytes (d : DocType) (name : Str) :
    d.bytes name =
      ['<','!','D','O','C','T','Y','P','E',' '] ++ name
      ++ (match d with
          | .pub p s => [' ','P','U','B','L','I','C',' ','"'] ++ p ++ ['"',' ','"'] ++ s ++ ['"']
          | .sys s => [' ','S','Y','S','T','E','M',' ','"'] ++ s ++ ['"'])
      ++ ['>','\n'] := by
  cases d <;> rfl

theorem encName_no_quote (e : Str) (h : isEncName e = true) : '"' ∉ e := by
  cases e with
  | nil => simp
  | cons c cs =>
    simp only [isEncName, Bool.and_eq_true, List.all_eq_true] at h
    intro hm
    rcases List.mem_cons.mp hm with rfl | hm
    · exact absurd h.1 (by decide)
    · exact absurd (h.2 _ hm) (by decide)

theorem pubid_no_quote (p : Str) (h : p.all isPubidChar = true) : '"' ∉ p := by
  intro hm
  exact absurd (List.all_eq_true.mp h _ hm) (by decide)

/-- The encoding pseudo-attribute as written is read back when the value is an `EncName`. -/
theorem pseudoAttr_written (kw : Str) (ok : Str → Bool) (open_ v r : Str)
    (hopen : open_ = ' ' :: kw ++ ['=', '"']) (hk : ∀ r', optS (kw ++ r') = kw ++ r')
    (hv : ok v = true) (hq : '"' ∉ v) :
    pseudoAttr kw ok (open_ ++ v ++ '"' :: r) = some r := by
  subst hopen
  have h1 : reqS ((' ' :: kw ++ ['=', '"']) ++ v ++ '"' :: r) = some (kw ++ ('=' :: '"' :: (v ++ '"' :: r))) := by
    simp only [List.cons_append, List.append_assoc, reqS]
    rw [if_pos (by decide)]
    simpa using hk ('=' :: '"' :: (v ++ '"' :: r))
  unfold pseudoAttr
  rw [h1]
  simp only [lit_append]
  have h2 : eqP ('=' :: '"' :: (v ++ '"' :: r)) = some ('"' :: (v ++ '"' :: r)) := by
    simp [eqP, optS, isS, lit]
  rw [h2]
  simp only [quoted_dq v r hq, hv, if_true]

theorem optS_kwEncoding (r : Str) : optS (kwEncoding ++ r) = kwEncoding ++ r := rfl
theorem optS_kwStandalone (r : Str) : optS (kwStandalone ++ r) = kwStandalone ++ r := rfl
theorem optS_kwVersion (r : Str) : optS (kwVersion ++ r) = kwVersion ++ r := rfl

theorem pseudoAttr_absent_q (kw : Str) (ok : Str → Bool) (r : Str) :
    pseudoAttr kw ok ('?' :: r) = none := by
  simp [pseudoAttr, reqS, isS]

def saOk (v : Str) : Bool := v == ['y','e','s'] || v == ['n','o']

def verBytes : Str := [' ','v','e','r','s','i','o','n','=','"','1','.','0','"']
def encOpenBytes : Str := [' ','e','n','c','o','d','i','n','g','=','"']
def saOpenBytes : Str := [' ','s','t','a','n','d','a','l','o','n','e','=','"']

/-- After `<?xml` and the version: the optional parts, then `?>`. -/
theorem xmlDecl_steps (x : Str) :
    xmlDecl (['<','?','x','m','l'] ++ (verBytes ++ x)) =
      (let s3 := (pseudoAttr kwEncoding isEncName x).getD x
       let s4 := (pseudoAttr kwStandalone saOk s3).getD s3
       lit ['?','>'] (optS s4)) := by
  have hver : pseudoAttr kwVersion isVersionNum (verBytes ++ x) = some x := by
    have := pseudoAttr_written kwVersion isVersionNum [' ','v','e','r','s','i','o','n','=','"'] ['1','.','0'] x
      rfl optS_kwVersion (by decide) (by decide)
    simpa [verBytes] using this
  unfold xmlDecl
  simp only [lit_append, hver]
  rfl

theorem enc_step_some (e x : Str) (he : isEncName e = true) :
    pseudoAttr kwEncoding isEncName (encOpenBytes ++ e ++ '"' :: x) = some x :=
  pseudoAttr_written kwEncoding isEncName _ e x rfl optS_kwEncoding he (encName_no_quote e he)

theorem enc_step_sa (x : Str) : pseudoAttr kwEncoding isEncName (saOpenBytes ++ x) = none := by
  simp [pseudoAttr, reqS, isS, optS, lit, kwEncoding, saOpenBytes]

theorem sa_step_some (v x : Str) (hv : saOk v = true) (hq : '"' ∉ v) :
    pseudoAttr kwStandalone saOk (saOpenBytes ++ v ++ '"' :: x) = some x :=
  pseudoAttr_written kwStandalone saOk _ v x rfl optS_kwStandalone hv hq

/-- The three optional parts as `Declaration::serialize` writes them. -/
def encPart (d : Declaration) : Str :=
  match d.encoding with
  | some e => encOpenBytes ++ e ++ ['"']
  | none => []

def saPart (d : Declaration) : Str :=
  match d.standalone with
  | some b => saOpenBytes ++ (if b then ['y','e','s'] else ['n','o']) ++ ['"']
  | none => []

theorem declaration_bytes_parts (d : Declaration) :
    d.bytes = ['<','?','x','m','l'] ++ (verBytes ++ (encPart d ++ (saPart d ++ ['?','>','\n']))) := by
  obtain ⟨e, sa⟩ := d
  cases e <;> cases sa <;>
    simp only [Declaration.bytes, encPart, saPart, List.append_assoc] <;> rfl

/-- The declaration: written with an `EncName` (or no encoding), the bytes are an `XMLDecl`
    of the grammar, read up to the line break the writer appends. -/
theorem xmlDecl_written (d : Declaration) (r : Str)
    (henc : ∀ e, d.encoding = some e → isEncName e = true) :
    xmlDecl (d.bytes ++ r) = some ('\n' :: r) := by
  rw [declaration_bytes_parts]
  simp only [List.append_assoc]
  rw [xmlDecl_steps]
  have hclose : lit ['?','>'] (optS (['?','>','\n'] ++ r)) = some ('\n' :: r) := rfl
  have hsa : ∀ x : Str, x = ['?','>','\n'] ++ r →
      (pseudoAttr kwStandalone saOk (saPart d ++ x)).getD (saPart d ++ x) = x := by
    intro x hx
    unfold saPart
    cases hs : d.standalone with
    | none => subst hx; simp [pseudoAttr_absent_q]
    | some b =>
      cases b
      · have := sa_step_some ['n','o'] x (by decide) (by decide)
        simp only [List.append_assoc, List.cons_append, List.nil_append] at this
        simp [this]
      · have := sa_step_some ['y','e','s'] x (by decide) (by decide)
        simp only [List.append_assoc, List.cons_append, List.nil_append] at this
        simp [this]
  have henc2 : ∀ x : Str, (x = ['?','>','\n'] ++ r ∨ ∃ y, x = saOpenBytes ++ y) →
      (pseudoAttr kwEncoding isEncName (encPart d ++ x)).getD (encPart d ++ x) = x := by
    intro x hx
    unfold encPart
    cases he : d.encoding with
    | none =>
      rcases hx with rfl | ⟨y, rfl⟩
      · simp [pseudoAttr_absent_q]
      · simp [enc_step_sa]
    | some e =>
      have := enc_step_some e x (henc e he)
      simp only [List.append_assoc] at this
      simp [this]
  have hx : (saPart d ++ (['?','>','\n'] ++ r) = ['?','>','\n'] ++ r ∨
      ∃ y, saPart d ++ (['?','>','\n'] ++ r) = saOpenBytes ++ y) := by
    unfold saPart
    cases d.standalone with
    | none => exact Or.inl rfl
    | some b => exact Or.inr ⟨_, by simp only [List.append_assoc]; rfl⟩
  simp only []
  rw [henc2 _ hx, hsa _ rfl]
  exact hclose

/-! ### The doctype writer -/

theorem isS_cases {c : Char} (h : isS c = true) : c = ' ' ∨ c = '\t' ∨ c = '\r' ∨ c = '\n' := by
  simpa [isS, or_assoc] using h

theorem nameStart_not_S {c : Char} (h : isNameStartChar c = true) : isS c = false := by
  cases hs : isS c with
  | false => rfl
  | true =>
    rcases isS_cases hs with rfl | rfl | rfl | rfl <;> exact absurd h (by decide)

theorem xmlName_all (name : Str) (h : isXmlName name = true) :
    (∀ c ∈ name, isNameChar c = true) ∧ optS name = name ∧ ∀ x, optS (name ++ x) = name ++ x := by
  cases name with
  | nil => cases h
  | cons c cs =>
    simp only [isXmlName, Bool.and_eq_true, List.all_eq_true] at h
    refine ⟨?_, optS_cons_not c cs (nameStart_not_S h.1), fun x => optS_cons_not c (cs ++ x) (nameStart_not_S h.1)⟩
    intro d hd
    rcases List.mem_cons.mp hd with rfl | hd
    · simp [isNameChar, h.1]
    · exact h.2 d hd

def doctypeKw : Str := ['<','!','D','O','C','T','Y','P','E']

/-- After `<!DOCTYPE name`: the external identifier, then `>`. -/
theorem doctypeDecl_steps (name x : Str) (hn : isXmlName name = true) :
    doctypeDecl (doctypeKw ++ ' ' :: (name ++ ' ' :: x)) =
      lit ['>'] (optS ((externalId (optS x)).getD (' ' :: x))) := by
  obtain ⟨hall, _, hopt⟩ := xmlName_all name hn
  obtain ⟨hd, ht⟩ := dropWhile_append_stop isNameChar name ' ' x hall (by decide)
  unfold doctypeDecl
  have h1 : lit ['<','!','D','O','C','T','Y','P','E'] (doctypeKw ++ ' ' :: (name ++ ' ' :: x)) =
      some (' ' :: (name ++ ' ' :: x)) := lit_append _ _
  have h2 : reqS (' ' :: (name ++ ' ' :: x)) = some (name ++ ' ' :: x) := by
    simp only [reqS]
    rw [if_pos (by decide), hopt]
  simp only [h1, h2, ht, hn, if_true, hd]
  have h3 : reqS (' ' :: x) = some (optS x) := by
    simp only [reqS]
    rw [if_pos (by decide)]
  rw [h3]
  rfl

theorem externalId_system (sysId x : Str) (hs : '"' ∉ sysId) :
    externalId (['S','Y','S','T','E','M',' ','"'] ++ sysId ++ '"' :: x) = some x := by
  have h1 : lit ['S','Y','S','T','E','M'] (['S','Y','S','T','E','M',' ','"'] ++ sysId ++ '"' :: x) =
      some (' ' :: '"' :: (sysId ++ '"' :: x)) := by
    have := lit_append ['S','Y','S','T','E','M'] (' ' :: '"' :: (sysId ++ '"' :: x))
    simpa using this
  have h2 : reqS (' ' :: '"' :: (sysId ++ '"' :: x)) = some ('"' :: (sysId ++ '"' :: x)) := by
    simp only [reqS]
    rw [if_pos (by decide), optS_cons_not _ _ (by decide)]
  unfold externalId
  simp only [h1, h2, quoted_dq sysId x hs, Option.map_some]

theorem externalId_public (pubId sysId x : Str) (hp : pubId.all isPubidChar = true) (hs : '"' ∉ sysId) :
    externalId (['P','U','B','L','I','C',' ','"'] ++ pubId ++ ['"',' ','"'] ++ sysId ++ '"' :: x) = some x := by
  have h0 : lit ['S','Y','S','T','E','M']
      (['P','U','B','L','I','C',' ','"'] ++ pubId ++ ['"',' ','"'] ++ sysId ++ '"' :: x) = none := by
    simp [lit]
  have h1 : lit ['P','U','B','L','I','C']
      (['P','U','B','L','I','C',' ','"'] ++ pubId ++ ['"',' ','"'] ++ sysId ++ '"' :: x) =
      some (' ' :: '"' :: (pubId ++ '"' :: (' ' :: '"' :: (sysId ++ '"' :: x)))) := by
    have := lit_append ['P','U','B','L','I','C'] (' ' :: '"' :: (pubId ++ '"' :: (' ' :: '"' :: (sysId ++ '"' :: x))))
    simpa using this
  have h2 : ∀ y : Str, reqS (' ' :: '"' :: y) = some ('"' :: y) := by
    intro y
    simp only [reqS]
    rw [if_pos (by decide), optS_cons_not _ _ (by decide)]
  unfold externalId
  simp only [h0, h1, h2, quoted_dq pubId _ (pubid_no_quote pubId hp), hp, if_true,
    quoted_dq sysId x hs, Option.map_some]

/-- What the caller must guarantee about the identifiers. -/
def idsOk : DocType → Bool
  | .pub p s => p.all isPubidChar && !s.contains '"'
  | .sys s => !s.contains '"'

/-- The doctype: written with an XML `Name`, a public identifier of `PubidChar`s and a
    system identifier without `"`, the bytes are a `doctypedecl` of the grammar, read up to the
    line break the writer appends. -/
theorem doctypeDecl_written (d : DocType) (name r : Str) (hn : isXmlName name = true)
    (hd : idsOk d = true) : doctypeDecl (d.bytes name ++ r) = some ('\n' :: r) := by
  rw [doctype_bytes]
  cases d with
  | sys s =>
    have hs : '"' ∉ s := by simpa [idsOk] using hd
    have h := doctypeDecl_steps name (['S','Y','S','T','E','M',' ','"'] ++ s ++ '"' :: ('>' :: '\n' :: r)) hn
    have he := externalId_system s ('>' :: '\n' :: r) hs
    have ho : optS (['S','Y','S','T','E','M',' ','"'] ++ s ++ '"' :: ('>' :: '\n' :: r)) =
        ['S','Y','S','T','E','M',' ','"'] ++ s ++ '"' :: ('>' :: '\n' :: r) := rfl
    rw [ho, he] at h
    simp only [doctypeKw, List.cons_append, List.nil_append, List.append_assoc] at h ⊢
    rw [h]
    rfl
  | pub p s =>
    simp only [idsOk, Bool.and_eq_true] at hd
    have hs : '"' ∉ s := by simpa using hd.2
    have h := doctypeDecl_steps name
      (['P','U','B','L','I','C',' ','"'] ++ p ++ ['"',' ','"'] ++ s ++ '"' :: ('>' :: '\n' :: r)) hn
    have he := externalId_public p s ('>' :: '\n' :: r) hd.1 hs
    have ho : optS (['P','U','B','L','I','C',' ','"'] ++ p ++ ['"',' ','"'] ++ s ++ '"' :: ('>' :: '\n' :: r)) =
        ['P','U','B','L','I','C',' ','"'] ++ p ++ ['"',' ','"'] ++ s ++ '"' :: ('>' :: '\n' :: r) := rfl
    rw [ho, he] at h
    simp only [doctypeKw, List.cons_append, List.nil_append, List.append_assoc] at h ⊢
    rw [h]
    rfl

/-! ### Necessity: closed witnesses -/

/-- An encoding with a double quote is written literally and ends the literal early: no `XMLDecl`. -/
theorem xmlDecl_quote_witness :
    (⟨some ['x','"','y'], none⟩ : Declaration).bytes =
      ['<','?','x','m','l',' ','v','e','r','s','i','o','n','=','"','1','.','0','"',
       ' ','e','n','c','o','d','i','n','g','=','"','x','"','y','"','?','>','\n'] ∧
    xmlDecl ((⟨some ['x','"','y'], none⟩ : Declaration).bytes) = none := by decide

/-- Quote-freeness is not enough: `encoding="é"` and `encoding=""` are no `EncName`s. -/
theorem xmlDecl_encname_witness :
    xmlDecl ((⟨some ['é'], none⟩ : Declaration).bytes) = none ∧
    xmlDecl ((⟨some [], none⟩ : Declaration).bytes) = none ∧
    xmlDecl ((⟨some ['a',' ','b'], some true⟩ : Declaration).bytes) = none := by decide

theorem doctypeDecl_quote_witness :
    doctypeDecl ((DocType.sys ['x','"','y']).bytes ['a']) = none ∧
    doctypeDecl ((DocType.pub ['p','"','q'] ['d']).bytes ['a']) = none ∧
    doctypeDecl ((DocType.pub ['p','<','q'] ['d']).bytes ['a']) = none := by decide

end Prolog
end XotModel
