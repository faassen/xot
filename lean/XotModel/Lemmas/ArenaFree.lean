/-
  `Arena::free_node`: on any arena with a well-threaded free list it appends the slot to the end of
  the list, negates the stamp with a larger magnitude and writes no tree pointer (`freeStep`;
  `FreeMany` for a run of them).  Freeing a set of live slots closed under parent and child stores the
  pruned shape (`Rep.prune`; one isolated node: `Rep.freeNode`); stamps never lose magnitude
  (`StampMono`), so an id whose slot has moved on is removed for ever (`Gone`).
-/
import XotModel.Lemmas.ArenaIterKids

/-! ### `free_node` without the tree part of the invariant

  `freeStep`: the slot goes to the END of the free list (FIFO reuse); the magnitude of its stamp grows strictly unless
  saturated at 32767.
-/

namespace XotModel
namespace Arena

theorem asRemoved_of_nonneg (t : Int) (h0 : 0 ≤ t) (h1 : t ≤ 32767) :
    Stamp.asRemoved t = (if t < 32767 then -t - 1 else -t) := by
  unfold Stamp.asRemoved
  by_cases h : t < 32767
  · rw [if_pos h, if_pos h, wrap16_id (-t) (by omega) (by omega), wrap16_id _ (by omega) (by omega)]
  · rw [if_neg h, if_neg h, wrap16_id (-t) (by omega) (by omega)]

/-- The five tree pointers of a slot. -/
def Slot.ptrs (s : Slot) : Option NodeId × Option NodeId × Option NodeId × Option NodeId × Option NodeId :=
  (s.parent, s.prev, s.next, s.first, s.last)

theorem Slot.ptrs_eq {s s' : Slot} (h : s'.ptrs = s.ptrs) :
    s'.parent = s.parent ∧ s'.prev = s.prev ∧ s'.next = s.next ∧ s'.first = s.first ∧ s'.last = s.last := by
  unfold Slot.ptrs at h
  simp only [Prod.mk.injEq] at h
  exact h

/-- The arena after `free_node` on slot `j`. -/
def free1 (b : Arena) (j : Nat) : Arena := (freeNode b ⟨j + 1, 0⟩).arena

/-- What one `free_node` does (no tree invariant needed). -/
structure FreeStep (b : Arena) (fl : List Nat) (j : Nat) (b' : Arena) : Prop where
  free : FreeOk b' (fl ++ [j])
  ptrs : ∀ k, (b'.slot k).map Slot.ptrs = (b.slot k).map Slot.ptrs
  stampOther : ∀ k, k ≠ j → (b'.slot k).map (·.stamp) = (b.slot k).map (·.stamp)
  dataOther : ∀ k s, k ≠ j → b.slot k = some s → ∃ s', b'.slot k = some s' ∧
    ((∃ v, s'.data = .data v) ↔ (∃ v, s.data = .data v))
  self : ∀ s, b.slot j = some s → ∃ s' nf, b'.slot j = some s' ∧
    s'.stamp = (if s.stamp < 32767 then -s.stamp - 1 else -s.stamp) ∧ s'.data = .nextFree nf
  length : b'.nodes.length = b.nodes.length
  payload : ∀ k s v, k ≠ j → b.slot k = some s → s.data = .data v → ∃ s', b'.slot k = some s' ∧ s'.data = .data v

theorem freeNode_index0 (a : Arena) (x y : NodeId) (h : x.index0 = y.index0) : freeNode a x = freeNode a y := by
  unfold freeNode; rw [h]

theorem setSlot_length (a : Arena) (i : Nat) (s : Slot) : (a.setSlot i s).nodes.length = a.nodes.length := by
  simp [setSlot]

/-- The arena `free_node` reaches from a well-threaded free list `fl`: the old tail of the list (if
    any) is linked to `j`, slot `j` gets the removed stamp and an empty link. -/
theorem freeNode_eq {b : Arena} {fl : List Nat} (f : FreeOk b fl) (j : Nat) (s : Slot) (hs : b.slot j = some s)
    (h0 : 0 ≤ s.stamp) (hhi : s.stamp ≤ 32767) :
    ∃ b', freeNode b ⟨j + 1, 0⟩ = .done b' () ∧
      (∀ k, b'.slot k =
        if fl.getLast? = some k then (b.slot k).map (fun t => { t with data := .nextFree (some j) })
        else if j = k then some { s with data := .nextFree none, stamp := Stamp.asRemoved s.stamp }
        else b.slot k) ∧
      b'.firstFree = (fl ++ [j]).head? ∧ b'.lastFree = some j ∧ b'.nodes.length = b.nodes.length := by
  have hst := asRemoved_of_nonneg s.stamp h0 hhi
  have hreuse : Stamp.reuseable (Stamp.asRemoved s.stamp) = true := by
    simp only [Stamp.reuseable, decide_eq_true_eq, hst]; split <;> omega
  have hb1 := fun k => slot_setSlot b j k s { s with data := .nextFree none, stamp := Stamp.asRemoved s.stamp } hs
  have hs' : b.nodes[j]? = some s := hs
  unfold freeNode
  simp only [show (⟨j + 1, 0⟩ : NodeId).index0 = j from rfl, hs', hreuse, if_true]
  rw [show (b.setSlot j _).lastFree = fl.getLast? from f.last]
  cases hlf : fl.getLast? with
  | none =>
    refine ⟨_, rfl, fun k => ?_, ?_, rfl, setSlot_length _ _ _⟩
    · rw [if_neg (fun h => by cases h)]; exact hb1 k
    · rw [List.getLast?_eq_none_iff.mp hlf]; rfl
  | some jl =>
    have hjl : jl ∈ fl := List.mem_of_getLast? hlf
    obtain ⟨sj, hsj, hsjn⟩ := (f.mem jl).mp hjl
    have hjli : j ≠ jl := fun e => by rw [← e, hs] at hsj; cases hsj; omega
    have hsj1 : (b.setSlot j { s with data := .nextFree none, stamp := Stamp.asRemoved s.stamp }).slot jl
        = some sj := by rw [hb1, if_neg hjli]; exact hsj
    simp only [show (b.setSlot j _).nodes[jl]? = some sj from hsj1]
    refine ⟨_, rfl, fun k => ?_, ?_, rfl, ?_⟩
    · show ((b.setSlot j _).setSlot jl _).slot k = _
      rw [slot_setSlot _ jl k sj _ hsj1, hb1]
      by_cases hk : jl = k
      · rw [if_pos hk, if_pos (congrArg some hk), ← hk, hsj]; rfl
      · rw [if_neg hk, if_neg (fun h => hk (Option.some.inj h))]
    · show b.firstFree = _
      rw [f.head]
      cases hf : fl with
      | nil => rw [hf] at hlf; cases hlf
      | cons y ys => rfl
    · show ((b.setSlot j _).setSlot jl _).nodes.length = _
      rw [setSlot_length, setSlot_length]

/-- Appending a freshly removed slot to a well-threaded free list. -/
theorem FreeOk.snoc {b b' : Arena} {fl : List Nat} (f : FreeOk b fl) {j : Nat} {n' : Slot} (hj : j ∉ fl)
    (hneg : n'.stamp < 0) (hdata : n'.data = .nextFree none)
    (hslot : ∀ k, b'.slot k =
      if fl.getLast? = some k then (b.slot k).map (fun t => { t with data := .nextFree (some j) })
      else if j = k then some n' else b.slot k)
    (hfirst : b'.firstFree = (fl ++ [j]).head?) (hlast : b'.lastFree = some j) : FreeOk b' (fl ++ [j]) := by
  have hjl : fl.getLast? ≠ some j := fun h => hj (List.mem_of_getLast? h)
  refine ⟨List.nodup_append.mpr ⟨f.nodup, List.nodup_cons.mpr ⟨List.not_mem_nil, List.nodup_nil⟩,
    fun x hx y hy e => hj (by rw [List.mem_singleton.mp hy] at e; exact e ▸ hx)⟩, fun k => ?_, hfirst,
    by rw [hlast, List.getLast?_append, List.getLast?_singleton]; rfl, fun k m hk => ?_⟩
  · rw [hslot, List.mem_append, List.mem_singleton]
    by_cases h1 : fl.getLast? = some k
    · rw [if_pos h1]
      have hk := List.mem_of_getLast? h1
      obtain ⟨t, ht, hn⟩ := (f.mem k).mp hk
      exact ⟨fun _ => ⟨{ t with data := .nextFree (some j) }, by rw [ht]; rfl, hn⟩, fun _ => Or.inl hk⟩
    · rw [if_neg h1]
      by_cases h2 : j = k
      · rw [if_pos h2]; exact ⟨fun _ => ⟨_, rfl, hneg⟩, fun _ => Or.inr h2.symm⟩
      · rw [if_neg h2, ← f.mem k]
        exact ⟨fun hh => hh.elim id (fun e => absurd e.symm h2), Or.inl⟩
  · rw [hslot]
    by_cases hklt : k < fl.length
    · rw [List.getElem?_append_left hklt] at hk
      obtain ⟨t, ht, hd⟩ := f.link k m hk
      have hmj : j ≠ m := fun e => hj (e ▸ List.mem_of_getElem? hk)
      rw [List.getLast?_eq_getElem?]
      by_cases hk1 : k + 1 < fl.length
      · -- an inner link stays
        have : fl[fl.length - 1]? ≠ some m := fun h =>
          absurd ((List.getElem?_inj (by omega) f.nodup).mp (h.trans hk.symm)) (by omega)
        rw [if_neg this, if_neg hmj, List.getElem?_append_left hk1]
        exact ⟨t, ht, hd⟩
      · -- the old tail now points to `j`
        have hke : fl.length - 1 = k := by omega
        rw [hke, if_pos hk, ht]
        refine ⟨_, rfl, ?_⟩
        rw [List.getElem?_append_right (by omega), show k + 1 - fl.length = 0 by omega]; rfl
    · have hkge : fl.length ≤ k := Nat.le_of_not_lt hklt
      rw [List.getElem?_append_right hkge] at hk
      have hk0 : k - fl.length = 0 := by
        cases hkk : k - fl.length with
        | zero => rfl
        | succ m' => rw [hkk] at hk; cases hk
      rw [hk0] at hk
      cases hk
      rw [if_neg hjl, if_pos rfl]
      refine ⟨n', rfl, ?_⟩
      rw [hdata, List.getElem?_append_right (by omega), show k + 1 - fl.length = 1 by omega]; rfl

theorem freeStep {b : Arena} {fl : List Nat} (f : FreeOk b fl) (j : Nat) (s : Slot) (hs : b.slot j = some s)
    (h0 : 0 ≤ s.stamp) (hhi : s.stamp ≤ 32767) (id : NodeId) (hid : id.index0 = j) :
    freeNode b id = .done (free1 b j) () ∧ FreeStep b fl j (free1 b j) := by
  have hst := asRemoved_of_nonneg s.stamp h0 hhi
  have hneg : Stamp.asRemoved s.stamp < 0 := by rw [hst]; split <;> omega
  have hjfree : j ∉ fl := fun hm => by
    obtain ⟨s', hs', hn⟩ := (f.mem j).mp hm
    rw [hs] at hs'; cases hs'; omega
  obtain ⟨b', hc, hslot, hfirst, hlast, hlen⟩ := freeNode_eq f j s hs h0 hhi
  have hfree1 : free1 b j = b' := by unfold free1; rw [hc]; rfl
  rw [freeNode_index0 b id ⟨j + 1, 0⟩ hid, hfree1]
  refine ⟨hc, ?_⟩
  -- the old tail of the free list carries a free-list link
  have htail : ∀ k, fl.getLast? = some k → k ≠ j ∧ ∃ t nf, b.slot k = some t ∧ t.data = .nextFree nf := by
    intro k hk
    have hm := List.mem_of_getLast? hk
    obtain ⟨kk, hkk⟩ := List.getElem?_of_mem hm
    obtain ⟨t, ht, hd⟩ := f.link kk k hkk
    exact ⟨fun e => hjfree (e ▸ hm), t, _, ht, hd⟩
  have hother : ∀ k, k ≠ j → fl.getLast? ≠ some k → b'.slot k = b.slot k := fun k hk hl => by
    rw [hslot, if_neg hl, if_neg (Ne.symm hk)]
  refine ⟨f.snoc (n' := { s with data := .nextFree none, stamp := Stamp.asRemoved s.stamp }) hjfree hneg rfl hslot
      hfirst hlast, fun k => ?_, fun k hk => ?_, fun k sk hk hsk => ?_,
    fun s2 hs2 => ?_, hlen, fun k sk v hk hsk hd => ?_⟩
  · rw [hslot]
    by_cases h1 : fl.getLast? = some k
    · rw [if_pos h1, Option.map_map]; rfl
    · rw [if_neg h1]
      by_cases h2 : j = k
      · rw [if_pos h2, ← h2, hs]; rfl
      · rw [if_neg h2]
  · rw [hslot, if_neg (Ne.symm hk)]
    by_cases h1 : fl.getLast? = some k
    · rw [if_pos h1, Option.map_map]; rfl
    · rw [if_neg h1]
  · by_cases h1 : fl.getLast? = some k
    · obtain ⟨_, t, nf, ht, hd⟩ := htail k h1
      cases hsk.symm.trans ht
      refine ⟨_, by rw [hslot, if_pos h1, hsk]; rfl, ?_⟩
      exact ⟨fun ⟨v, hv⟩ => (by cases hv), fun ⟨v, hv⟩ => (by rw [hd] at hv; cases hv)⟩
    · exact ⟨sk, (hother k hk h1).trans hsk, Iff.rfl⟩
  · cases hs.symm.trans hs2
    exact ⟨_, none, by rw [hslot, if_neg (fun h => (htail j h).1 rfl), if_pos rfl], hst, rfl⟩
  · by_cases h1 : fl.getLast? = some k
    · obtain ⟨_, t, nf, ht, hd'⟩ := htail k h1
      cases hsk.symm.trans ht
      rw [hd'] at hd; cases hd
    · exact ⟨sk, (hother k hk h1).trans hsk, hd⟩

/-- What `free_node` guarantees on an isolated live node. -/
structure FreeNodeOk (b : Arena) (h : Shape) (i : Nat) (b' : Arena) : Prop where
  rep : Rep b' { h with free := h.free ++ [i] }
  others : ∀ j, j ≠ i → (b'.slot j).map (·.stamp) = (b.slot j).map (·.stamp)
  stamp : ∀ s, b.slot i = some s → ∃ s', b'.slot i = some s' ∧
    s'.stamp = (if s.stamp < 32767 then -s.stamp - 1 else -s.stamp)
  live : ∀ j, Live b' j ↔ (Live b j ∧ j ≠ i)
  payload : ∀ j s v, j ≠ i → b.slot j = some s → s.data = .data v → ∃ s', b'.slot j = some s' ∧ s'.data = .data v

theorem PtrOk.of_ptrs_eq {a : Arena} {g : Shape} {j : Nat} {s s' : Slot} (h : PtrOk a g j s)
    (e : s'.ptrs = s.ptrs) : PtrOk a g j s' := by
  obtain ⟨e1, e2, e3, e4, e5⟩ := Slot.ptrs_eq e
  exact ⟨e1 ▸ h.parent, e4 ▸ h.first, e5 ▸ h.last, e2 ▸ e3 ▸ h.root, e2 ▸ e3 ▸ h.sib⟩

end Arena
end XotModel

/-! ### A run of `free_node`s

  The state of the arena while `remove_subtree` is freeing slots
  one after the other: `FreeMany a fl F b` says that `b` is `a` with the slots `F` freed in that
  order (free list `fl ++ F`), all tree pointers and every other slot's stamp untouched.
-/

namespace XotModel
namespace Arena

structure FreeMany (a : Arena) (fl F : List Nat) (b : Arena) : Prop where
  free : FreeOk b (fl ++ F)
  ptrs : ∀ k, (b.slot k).map Slot.ptrs = (a.slot k).map Slot.ptrs
  stampOther : ∀ k, k ∉ F → (b.slot k).map (·.stamp) = (a.slot k).map (·.stamp)
  dataOther : ∀ k s, k ∉ F → a.slot k = some s → ∃ s', b.slot k = some s' ∧
    ((∃ v, s'.data = .data v) ↔ (∃ v, s.data = .data v))
  self : ∀ j, j ∈ F → ∀ s, a.slot j = some s → ∃ s' nf, b.slot j = some s' ∧
    s'.stamp = (if s.stamp < 32767 then -s.stamp - 1 else -s.stamp) ∧ s'.data = .nextFree nf
  length : b.nodes.length = a.nodes.length
  payload : ∀ k s v, k ∉ F → a.slot k = some s → s.data = .data v → ∃ s', b.slot k = some s' ∧ s'.data = .data v

theorem FreeMany.refl {a : Arena} {fl : List Nat} (f : FreeOk a fl) : FreeMany a fl [] a :=
  ⟨by simpa using f, fun _ => rfl, fun _ _ => rfl, fun k s _ hs => ⟨s, hs, Iff.rfl⟩,
   (fun j hj => by cases hj), rfl, fun k s v _ hs hd => ⟨s, hs, hd⟩⟩

theorem FreeMany.slot_of {a b : Arena} {fl F : List Nat} (m : FreeMany a fl F b) {k : Nat} {s : Slot}
    (hs : a.slot k = some s) : ∃ s', b.slot k = some s' ∧ s'.ptrs = s.ptrs := by
  have := m.ptrs k
  rw [hs] at this
  cases h : b.slot k with
  | none => rw [h] at this; simp at this
  | some s' => rw [h] at this; simp at this; exact ⟨s', rfl, this⟩

/-- The slot of a node that was live keeps the pointers the shape dictates (freed or not). -/
theorem FreeMany.ptrOk {a b : Arena} {g : Shape} {fl F : List Nat} (m : FreeMany a fl F b) (r : Rep a g) {c : Nat}
    (hc : Live a c) : ∃ s', b.slot c = some s' ∧ PtrOk a g c s' := by
  obtain ⟨s, hs, h0⟩ := hc
  obtain ⟨s', hs', hpt⟩ := m.slot_of hs
  exact ⟨s', hs', (r.ptrs c s hs h0).of_ptrs_eq hpt⟩

theorem FreeMany.slot_other {a b : Arena} {fl F : List Nat} (m : FreeMany a fl F b) {k : Nat} {s : Slot}
    (hk : k ∉ F) (hs : a.slot k = some s) : ∃ s', b.slot k = some s' ∧ s'.ptrs = s.ptrs ∧ s'.stamp = s.stamp := by
  obtain ⟨s', hs', hp⟩ := m.slot_of hs
  have := m.stampOther k hk
  rw [hs, hs'] at this
  simp at this
  exact ⟨s', hs', hp, this⟩

/-- Liveness after a run of `free_node`s on live slots. -/
theorem FreeMany.live {a b : Arena} {fl l : List Nat} (m : FreeMany a fl l b) (hl : ∀ u ∈ l, Live a u) (k : Nat) :
    Live b k ↔ (Live a k ∧ k ∉ l) := by
  constructor
  · rintro ⟨s', hs', h0'⟩
    have hp := m.ptrs k
    rw [hs'] at hp
    cases hs : a.slot k with
    | none => rw [hs] at hp; simp at hp
    | some s =>
      by_cases hk : k ∈ l
      · exfalso
        obtain ⟨s0, hs0, h00⟩ := hl k hk
        rw [hs] at hs0; cases hs0
        obtain ⟨s2, nf, hs2, e1, _⟩ := m.self k hk s hs
        rw [hs'] at hs2; cases hs2
        split at e1 <;> omega
      · obtain ⟨s2, hs2, _, hst⟩ := m.slot_other hk hs
        rw [hs'] at hs2; cases hs2
        exact ⟨⟨s, hs, by omega⟩, hk⟩
  · rintro ⟨⟨s, hs, h0⟩, hk⟩
    obtain ⟨s2, hs2, _, hst⟩ := m.slot_other hk hs
    exact ⟨s2, hs2, by omega⟩

theorem FreeMany.snoc {a b b1 : Arena} {fl F : List Nat} {c : Nat} (m : FreeMany a fl F b)
    (st : FreeStep b (fl ++ F) c b1) (hc : c ∉ F) : FreeMany a fl (F ++ [c]) b1 := by
  refine ⟨by rw [← List.append_assoc]; exact st.free, fun k => (st.ptrs k).trans (m.ptrs k), ?_, ?_, ?_,
    st.length.trans m.length, ?_⟩
  rotate_right
  · intro k s v hk hs hd
    have h1 : k ∉ F := fun h => hk (List.mem_append_left _ h)
    have h2 : k ≠ c := fun e => hk (by rw [e]; simp)
    obtain ⟨s1, hs1, hd1⟩ := m.payload k s v h1 hs hd
    exact st.payload k s1 v h2 hs1 hd1
  · intro k hk
    have h1 : k ∉ F := fun h => hk (List.mem_append_left _ h)
    have h2 : k ≠ c := fun e => hk (by rw [e]; simp)
    exact (st.stampOther k h2).trans (m.stampOther k h1)
  · intro k s hk hs
    have h1 : k ∉ F := fun h => hk (List.mem_append_left _ h)
    have h2 : k ≠ c := fun e => hk (by rw [e]; simp)
    obtain ⟨s1, hs1, e1⟩ := m.dataOther k s h1 hs
    obtain ⟨s2, hs2, e2⟩ := st.dataOther k s1 h2 hs1
    exact ⟨s2, hs2, e2.trans e1⟩
  · intro j hj s hs
    rcases List.mem_append.mp hj with h | h
    · obtain ⟨s1, nf, hs1, e1, e2⟩ := m.self j h s hs
      have hjc : j ≠ c := fun e => hc (e ▸ h)
      obtain ⟨s2, hs2, e3⟩ := st.dataOther j s1 hjc hs1
      have hst := st.stampOther j hjc
      rw [hs1, hs2] at hst
      simp at hst
      refine ⟨s2, ?_, hs2, by rw [hst]; exact e1, ?_⟩
      · exact match s2.data with | .nextFree n => n | .data _ => none
      · cases hd : s2.data with
        | nextFree n => rfl
        | data v =>
          exfalso
          have := e3.mp ⟨v, hd⟩
          obtain ⟨v', hv'⟩ := this
          rw [e2] at hv'; cases hv'
    · simp at h; subst h
      obtain ⟨s1, hs1, hp, hst⟩ := m.slot_other hc hs
      obtain ⟨s2, nf, hs2, e1, e2⟩ := st.self s1 hs1
      exact ⟨s2, nf, hs2, by rw [e1, hst], e2⟩

end Arena
end XotModel

/-! ### Freeing whole trees

  `Rep.prune` is what `remove_subtree` reaches; `Rep.freeNode`, the last step of `remove`, is its case of a
  one-element set.
-/

namespace XotModel
namespace Arena

/-- List-level removal of a set of whole trees: the slots `l` (in the order they were freed). -/
def Shape.prune (g : Shape) (l : List Nat) : Shape :=
  ⟨fun u => if u ∈ l then none else g.par u, fun u => if u ∈ l then [] else g.kids u, g.free ++ l⟩

theorem Rep.prune {a b : Arena} {g : Shape} (r : Rep a g) (l : List Nat) (m : FreeMany a g.free l b)
    (hl : ∀ u ∈ l, Live a u) (hdown : ∀ c q, g.par c = some q → q ∈ l → c ∈ l)
    (hup : ∀ c q, g.par c = some q → c ∈ l → q ∈ l) : Rep b (g.prune l) := by
  have aslot : ∀ k s', b.slot k = some s' → ∃ s, a.slot k = some s ∧ s'.ptrs = s.ptrs := by
    intro k s' hs'
    have := m.ptrs k
    rw [hs'] at this
    cases h : a.slot k with
    | none => rw [h] at this; simp at this
    | some s => rw [h] at this; simp at this; exact ⟨s, rfl, this⟩
  have hlive := m.live hl
  have hid : ∀ k, k ∉ l → Live a k → b.idAt k = a.idAt k := by
    intro k hk ⟨s, hs, _⟩
    obtain ⟨s2, hs2, _, hst⟩ := m.slot_other hk hs
    rw [idAt_of_slot hs, idAt_of_slot hs2, hst]
  refine ⟨?_, ?_, m.free, ?_, ?_, ?_, ?_, ?_⟩
  · intro k s' hs'
    obtain ⟨s, hs, _⟩ := aslot k s' hs'
    by_cases hk : k ∈ l
    · obtain ⟨s0, hs0, h00⟩ := hl k hk
      rw [hs] at hs0; cases hs0
      have := r.stampRange k s hs
      obtain ⟨s2, nf, hs2, e1, _⟩ := m.self k hk s hs
      rw [hs'] at hs2; cases hs2
      split at e1 <;> omega
    · obtain ⟨s2, hs2, _, hst⟩ := m.slot_other hk hs
      rw [hs'] at hs2; cases hs2
      rw [hst]; exact r.stampRange k s hs
  · intro k s' hs'
    obtain ⟨s, hs, _⟩ := aslot k s' hs'
    by_cases hk : k ∈ l
    · obtain ⟨s0, hs0, h00⟩ := hl k hk
      rw [hs] at hs0; cases hs0
      have := r.stampRange k s hs
      obtain ⟨s2, nf, hs2, e1, e2⟩ := m.self k hk s hs
      rw [hs'] at hs2; cases hs2
      constructor
      · intro h; exfalso; split at e1 <;> omega
      · rintro ⟨v, hv⟩; rw [e2] at hv; cases hv
    · obtain ⟨s2, hs2, _, hst⟩ := m.slot_other hk hs
      rw [hs'] at hs2; cases hs2
      obtain ⟨s3, hs3, e3⟩ := m.dataOther k s hk hs
      rw [hs'] at hs3; cases hs3
      rw [hst, e3]; exact r.dataLive k s hs
  · intro p c hc
    simp only [Shape.prune] at hc ⊢
    by_cases hp : p ∈ l
    · rw [if_pos hp] at hc; cases hc
    · rw [if_neg hp] at hc
      obtain ⟨l1, l2, l3⟩ := r.kidsLive p c hc
      have hcl : c ∉ l := fun h => hp (hup c p l3 h)
      exact ⟨(hlive p).mpr ⟨l1, hp⟩, (hlive c).mpr ⟨l2, hcl⟩, by rw [if_neg hcl]; exact l3⟩
  · intro c p hcp
    simp only [Shape.prune] at hcp ⊢
    by_cases hcl : c ∈ l
    · rw [if_pos hcl] at hcp; cases hcp
    · rw [if_neg hcl] at hcp
      obtain ⟨l1, l2⟩ := r.parKids c p hcp
      have hp : p ∉ l := fun h => hcl (hdown c p hcp h)
      exact ⟨(hlive c).mpr ⟨l1, hcl⟩, by rw [if_neg hp]; exact l2⟩
  · intro p
    simp only [Shape.prune]
    split
    · exact List.nodup_nil
    · exact r.kidsNodup p
  · intro c q hcq hreach
    have hmono : ∀ c q, (g.prune l).par c = some q → g.par c = some q := by
      intro c q h
      simp only [Shape.prune] at h
      split at h
      · cases h
      · exact h
    exact r.acyclic c q (hmono c q hcq) (Reach.mono hmono hreach)
  · intro j s' hs' h0'
    have hjl := (hlive j).mp ⟨s', hs', h0'⟩
    obtain ⟨⟨s, hs, h0⟩, hj⟩ := hjl
    obtain ⟨s2, hs2, hpt, _⟩ := m.slot_other hj hs
    rw [hs'] at hs2; cases hs2
    refine ((r.ptrs j s hs h0).congr (g' := g.prune l) (fun k hk => ?_) (by simp [Shape.prune, hj])
      (by simp [Shape.prune, hj]) (fun p hp => ?_)).of_ptrs_eq hpt
    · -- the slots `j` points to are outside `l`, like `j`
      rcases hk with hk | hk | ⟨p, hp, hk⟩
      · exact hid k (fun h => hj (hdown j k hk h)) (r.live_of_par hk).2
      · exact hid k (fun h => hj (hup k j (r.kidsLive j k hk).2.2 h)) (r.live_kid j k hk)
      · exact hid k (fun h => hj (hdown j p hp (hup k p (r.kidsLive p k hk).2.2 h))) (r.live_kid p k hk)
    · have hpl : p ∉ l := fun h => hj (hdown j p hp h)
      simp [Shape.prune, hpl]

/-- `free_node` on a live node without parent and children: the freed slot is mentioned by no pointer, so
    the shape stays. -/
theorem Rep.freeNode {b : Arena} {h : Shape} (r : Rep b h) (i : Nat) (hi : Live b i) (hpar : h.par i = none)
    (hkids : h.kids i = []) : ∃ b', Arena.freeNode b (b.idAt i) = .done b' () ∧ FreeNodeOk b h i b' := by
  obtain ⟨s, hs, h0⟩ := hi
  obtain ⟨hc, F⟩ := freeStep r.free i s hs h0 (r.stampRange i s hs).2 (b.idAt i) (idAt_index0 b i)
  refine ⟨_, hc, ?_⟩
  have hl : ∀ u ∈ [i], Live b u := fun u hu => by cases List.mem_singleton.mp hu; exact ⟨s, hs, h0⟩
  have m : FreeMany b h.free [i] (free1 b i) :=
    (FreeMany.refl r.free).snoc (by simpa using F) List.not_mem_nil
  have rp := r.prune [i] m hl
    (fun c q hc hq => by
      cases List.mem_singleton.mp hq
      have := (r.parKids c i hc).2; rw [hkids] at this; cases this)
    (fun c q hc hq => by cases List.mem_singleton.mp hq; rw [hpar] at hc; cases hc)
  have e : h.prune [i] = { h with free := h.free ++ [i] } := by
    unfold Shape.prune
    congr 1
    · funext u; by_cases hu : u = i
      · subst hu; simp [hpar]
      · simp [hu]
    · funext u; by_cases hu : u = i
      · subst hu; simp [hkids]
      · simp [hu]
  rw [e] at rp
  refine ⟨rp, F.stampOther, fun s2 hs2 => ?_, fun j => by simpa using m.live hl j, F.payload⟩
  cases hs.symm.trans hs2
  obtain ⟨s', _, hs', hst', _⟩ := F.self s hs
  exact ⟨s', hs', hst'⟩

end Arena
end XotModel

/-! ### Stamps along calls

  `Gone`: the id's stamp is below the magnitude of its slot's stamp.  `remove` of a live id with stamp below 32767
  makes it `Gone`.
-/

namespace XotModel
namespace Arena

/-- `|x| ≤ |y|` without `natAbs`. -/
def AbsLe (x y : Int) : Prop := (x ≤ y ∨ x ≤ -y) ∧ (-x ≤ y ∨ -x ≤ -y)

/-- Every slot stays, and the magnitude of its stamp does not decrease. -/
def StampMono (a a' : Arena) : Prop :=
  ∀ j s, a.slot j = some s → ∃ s', a'.slot j = some s' ∧ AbsLe s.stamp s'.stamp

theorem AbsLe.of_eq {x y : Int} (h : y = x) : AbsLe x y := by unfold AbsLe; omega

/-- `new_node` on a free slot negates the stamp. -/
theorem AbsLe.of_eq_neg {x y : Int} (h : y = -x) : AbsLe x y := by unfold AbsLe; omega

theorem AbsLe.trans {x y z : Int} (h1 : AbsLe x y) (h2 : AbsLe y z) : AbsLe x z := by unfold AbsLe at *; omega

/-- `free_node` on a live slot: `Stamp.asRemoved` does not lose magnitude. -/
theorem AbsLe.removed {x y : Int} (h0 : 0 ≤ x) (h : y = if x < 32767 then -x - 1 else -x) : AbsLe x y := by
  unfold AbsLe
  split at h <;> omega

/-- A stamp below the magnitude of `x` is below that of `y`. -/
theorem AbsLe.lt_mono {t x y : Int} (h : AbsLe x y) (ht : t < x ∨ t < -x) : t < y ∨ t < -y := by
  unfold AbsLe at h; omega

theorem StampMono.refl (a : Arena) : StampMono a a := fun _ s hs => ⟨s, hs, .of_eq rfl⟩

theorem StampMono.trans {a b c : Arena} (h1 : StampMono a b) (h2 : StampMono b c) : StampMono a c := by
  intro j s hs
  obtain ⟨s1, hs1, l1⟩ := h1 j s hs
  obtain ⟨s2, hs2, l2⟩ := h2 j s1 hs1
  exact ⟨s2, hs2, l1.trans l2⟩

theorem MetaEq.stampMono {a a' : Arena} (h : MetaEq a a') : StampMono a a' := by
  intro j s hs
  obtain ⟨s', hs', hst, _⟩ := h.slot_some hs
  exact ⟨s', hs', .of_eq hst⟩

/-- The id was handed out for an earlier occupancy of its slot. -/
def Gone (a : Arena) (id : NodeId) : Prop :=
  ∃ s, a.slot id.index0 = some s ∧ 0 ≤ id.stamp ∧ (id.stamp < s.stamp ∨ id.stamp < -s.stamp)

theorem Gone.mono {a a' : Arena} {id : NodeId} (h : Gone a id) (hm : StampMono a a') : Gone a' id := by
  obtain ⟨s, hs, h0, hlt⟩ := h
  obtain ⟨s', hs', l⟩ := hm _ s hs
  exact ⟨s', hs', h0, l.lt_mono hlt⟩

theorem Gone.isRemoved {a : Arena} {id : NodeId} (h : Gone a id) : Arena.isRemoved a id = .done a true := by
  obtain ⟨s, hs, h0, hlt⟩ := h
  unfold Arena.isRemoved
  rw [rd_some _ _ _ _ hs]
  have : s.stamp ≠ id.stamp := by omega
  simp [this]

theorem LiveId.isRemoved {a : Arena} {id : NodeId} (h : LiveId a id) : Arena.isRemoved a id = .done a false := by
  obtain ⟨s, hs, _, he⟩ := Rep.liveId_slot h
  unfold Arena.isRemoved
  rw [rd_some _ _ _ _ hs]
  have : id.stamp = s.stamp := by rw [he]
  simp [this]

theorem Gone.not_liveId {a : Arena} {id : NodeId} (h : Gone a id) : ¬ LiveId a id := by
  intro hl
  have h1 := h.isRemoved
  rw [hl.isRemoved] at h1
  cases h1

theorem NewNodeOk.stampMono {a a' : Arena} {g g' : Shape} {v : Nat} {id : NodeId} (r : Rep a g)
    (h : NewNodeOk a g v a' id g') : StampMono a a' := by
  intro j s hs
  by_cases hj : j = id.index0
  · subst hj
    cases hf : g.free with
    | nil =>
      exfalso
      have e := h.slotFresh hf
      have := lt_of_slot hs
      rw [e] at this
      simp [NodeId.index0] at this
    | cons i rest =>
      obtain ⟨s0, hs0, e⟩ := h.slotReuse i rest hf
      have hi : id.index0 = i := by rw [e]; simp [NodeId.index0]
      rw [hi] at hs
      rw [hs0] at hs; cases hs
      obtain ⟨_, ⟨s', hs', _⟩, hid⟩ := h.liveId
      rw [idAt_of_slot hs'] at hid
      have : s'.stamp = -s.stamp := by
        have := congrArg NodeId.stamp hid
        rw [e] at this; simpa using this
      exact ⟨s', hs', .of_eq_neg this⟩
  · exact ⟨s, by rw [h.others j hj]; exact hs, .of_eq rfl⟩

theorem FreeNodeOk.stampMono {b b' : Arena} {h : Shape} {i : Nat} (r : Rep b h) (ok : FreeNodeOk b h i b') (hi : Live b i) :
    StampMono b b' := by
  intro j s hs
  by_cases hj : j = i
  · subst hj
    obtain ⟨s', hs', hst⟩ := ok.stamp s hs
    obtain ⟨s0, hs0, h0⟩ := hi
    rw [hs] at hs0; cases hs0
    exact ⟨s', hs', .removed h0 hst⟩
  · have := ok.others j hj
    rw [hs] at this
    cases hs' : b'.slot j with
    | none => rw [hs'] at this; simp at this
    | some s' =>
      rw [hs'] at this
      simp at this
      exact ⟨s', rfl, .of_eq this⟩

theorem FreeMany.stampMono {a b : Arena} {fl l : List Nat} (m : FreeMany a fl l b) (hl : ∀ u ∈ l, Live a u) :
    StampMono a b := by
  intro j s hs
  by_cases hj : j ∈ l
  · obtain ⟨s0, hs0, h00⟩ := hl j hj
    rw [hs] at hs0; cases hs0
    obtain ⟨s', nf, hs', e1, _⟩ := m.self j hj s hs
    exact ⟨s', hs', .removed h00 e1⟩
  · obtain ⟨s', hs', _, hst⟩ := m.slot_other hj hs
    exact ⟨s', hs', .of_eq hst⟩

/-- After `free_node` the id that was current is `Gone`, unless its stamp is saturated. -/
theorem FreeNodeOk.gone {b b' : Arena} {h : Shape} {i : Nat} (ok : FreeNodeOk b h i b') (hi : Live b i)
    (hlt : (b.idAt i).stamp < 32767) : Gone b' (b.idAt i) := by
  obtain ⟨s, hs, h0⟩ := hi
  obtain ⟨s', hs', hst⟩ := ok.stamp s hs
  have e : (b.idAt i).stamp = s.stamp := by rw [idAt_of_slot hs]
  rw [e] at hlt
  refine ⟨s', hs', by rw [e]; exact h0, ?_⟩
  rw [e, hst, if_pos hlt]
  omega

end Arena
end XotModel
