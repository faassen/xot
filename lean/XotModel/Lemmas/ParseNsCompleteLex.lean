/-
  Completeness of `WellNsDoc`: the guard is necessary and the tokenizer satisfies it; closed
  examples.

  * a well-formed spelling has no empty text token and no XML-declaration token, so
    `WellSpelledTokens` implies the guard `nonEmptyText` of `build_accepts_iff`;
  * every text token of the reference tokenizer is non-empty (from `Token.accLex`);
  * `goodDocSpelling`: the spelling reconstructed from the witness token list `goodDoc`.
-/
import XotModel.Lemmas.ParseNsComplete
import XotModel.Lemmas.ParseNsCheck
import XotModel.Lemmas.AcceptedLex
import XotModel.Lemmas.ParseWitnessData

namespace XotModel

theorem renderPieces_ne_nil {ps : List Piece} (h : ps ≠ []) : renderPieces ps ≠ [] := by
  cases ps with
  | nil => exact absurd rfl h
  | cons p rest =>
    simp only [renderPieces, List.flatMap_cons]
    cases p <;> simp [renderPiece]

mutual
/-- The tokens of a well-formed spelling: no empty text token, no XML declaration. -/
theorem well_tokens_plain : ∀ (sn : NSNode) (scope : Scope), sn.Well scope → ∀ t ∈ sn.tokens, t.plain = true
  | .elem pfx loc junk attrs openSp kids cpfx cloc closeSp, scope, hw, t, ht => by
    simp only [NSNode.tokens, List.mem_cons, List.mem_append, List.mem_map, List.mem_singleton, List.not_mem_nil,
      or_false] at ht
    rcases ht with rfl | ⟨a, _, rfl⟩ | rfl | ht | rfl
    · rfl
    · rfl
    · rfl
    · exact wellList_tokens_plain kids _ hw.2.2.2.2.2.1 t ht
    · rfl
  | .empty pfx loc junk attrs endSp, scope, hw, t, ht => by
    simp only [NSNode.tokens, List.mem_cons, List.mem_append, List.mem_map, List.mem_singleton, List.not_mem_nil,
      or_false] at ht
    rcases ht with rfl | ⟨a, _, rfl⟩ | rfl
    · rfl
    · rfl
    · rfl
  | .chars parts, scope, hw, t, ht => by
    simp only [NSNode.tokens, List.mem_map] at ht
    obtain ⟨p, hp, rfl⟩ := ht
    have hpw := hw p hp
    cases p with
    | txt ps st =>
      have := renderPieces_ne_nil hpw.1
      simp only [SPart.token, Token.plain]
      cases h : renderPieces ps with
      | nil => exact absurd h this
      | cons c r => rfl
    | cd s sp => rfl
  | .comment text junk, _, _, t, ht => by
    simp only [NSNode.tokens, List.mem_singleton] at ht; subst ht; rfl
  | .pi target content junk, _, _, t, ht => by
    simp only [NSNode.tokens, List.mem_singleton] at ht; subst ht; rfl
theorem wellList_tokens_plain : ∀ (sns : List NSNode) (scope : Scope), NSNode.Well.wellList scope sns →
    ∀ t ∈ NSNode.tokens.tokensList sns, t.plain = true
  | [], _, _, t, ht => by simp [NSNode.tokens.tokensList] at ht
  | k :: ks, scope, hw, t, ht => by
    simp only [NSNode.tokens.tokensList, List.mem_append] at ht
    rcases ht with ht | ht
    · exact well_tokens_plain k scope hw.1 t ht
    · exact wellList_tokens_plain ks scope hw.2 t ht
end

theorem nonEmptyText_of_plain {t : Token} (h : t.plain = true) : t.nonEmptyText = true := by
  rw [Token.plain_eq, Bool.and_eq_true] at h
  exact h.1

/-- The guard of `build_accepts_iff` is implied by its right-hand side: a well-spelled token list
    has no empty text token. -/
theorem WellSpelledTokens.nonEmptyText {mode : Mode} {ts : List Token} (h : WellSpelledTokens mode ts) :
    ∀ t ∈ ts, t.nonEmptyText = true := by
  obtain ⟨_, sns, hw, _, htok⟩ := h
  intro t ht
  cases hd : t.isDeclTok with
  | true => cases t <;> first | rfl | cases hd
  | false =>
    have hm : t ∈ dropDecls ts := by simp [dropDecls, ht, hd]
    rw [← htok] at hm
    exact nonEmptyText_of_plain (wellList_tokens_plain sns baseScope hw.1 t hm)

/-- Every text token of the reference tokenizer is non-empty. -/
theorem nonEmptyText_of_accLex {t : Token} (h : t.accLex = true) : t.nonEmptyText = true := by
  cases t with
  | text s =>
    simp only [Token.accLex, Bool.and_eq_true] at h
    exact h.1
  | _ => rfl

theorem declsV10_of_noDecl {ts : List Token} (h : ts.all (fun t => !t.isDeclTok) = true) : declsV10 ts := by
  intro v e s sp hm
  rw [List.all_eq_true] at h
  have := h _ hm
  simp [Token.isDeclTok] at this

/-- The tables of a fresh `Xot` (`Env.fresh`) are base tables. -/
theorem envBaseNs_fresh : EnvBaseNs Env.fresh :=
  ⟨⟨[], rfl⟩, ⟨[], rfl⟩, ⟨(['s', 'p', 'a', 'c', 'e'], 1), [], rfl, by decide⟩⟩

/-! ### Closed examples -/

/-- The spelling reconstructed from `goodDoc` (Lemmas/ParseWitnessData.lean), the tokens of
    `<p:a xmlns:p='u' b='x&#10;y'><!--c-->t&lt;<![CDATA[c]]></p:a>`. -/
def goodDocSpelling : List NSNode :=
  [.elem ⟨['p'], 1⟩ ⟨['a'], 3⟩ ⟨['<', 'p', ':', 'a'], 0⟩
    [⟨⟨['x', 'm', 'l', 'n', 's'], 5⟩, ⟨['p'], 11⟩, [.lit 'u'], 14,
        ⟨['x', 'm', 'l', 'n', 's', ':', 'p', '=', '\'', 'u', '\''], 5⟩⟩,
     ⟨⟨[], 0⟩, ⟨['b'], 17⟩, [.lit 'x', .dec [1, 0], .lit 'y'], 20,
        ⟨['b', '=', '\'', 'x', '&', '#', '1', '0', ';', 'y', '\''], 17⟩⟩]
    ⟨['>'], 28⟩
    [.comment ⟨['c'], 33⟩ ⟨['<', '!', '-', '-', 'c', '-', '-', '>'], 29⟩,
     .chars [.txt [.lit 't', .named ['l', 't']] 37,
             .cd ⟨['c'], 51⟩ ⟨['<', '!', '[', 'C', 'D', 'A', 'T', 'A', '[', 'c', ']', ']', '>'], 42⟩]]
    ⟨['p'], 57⟩ ⟨['a'], 59⟩ ⟨['<', '/', 'p', ':', 'a', '>'], 55⟩]

/-- The builder takes an EMPTY text token (which no tokenizer emits) for an empty text node. -/
def emptyTextTokens : List Token := [.text ⟨[], 0⟩]

/-- `<?xml version="1.0"?><a/>` with the declaration token where the tokenizer puts it, and the
    same tokens with the declaration INSIDE the start tag (no tokenizer output). -/
def declFirstTokens : List Token :=
  [.declaration ⟨['1', '.', '0'], 15⟩ none none
     ⟨['<', '?', 'x', 'm', 'l', ' ', 'v', 'e', 'r', 's', 'i', 'o', 'n', '=', '"', '1', '.', '0', '"', '?', '>'], 0⟩,
   .elementStart ⟨[], 0⟩ ⟨['a'], 22⟩ ⟨['<', 'a'], 21⟩,
   .elementEnd .empty ⟨['/', '>'], 23⟩]

def declFirstSpelling : List NSNode := [.empty ⟨[], 0⟩ ⟨['a'], 22⟩ ⟨['<', 'a'], 21⟩ [] ⟨['/', '>'], 23⟩]

end XotModel
