/-
  After the insertions every name of the repaired subtree has a usable prefix: the frames of the
  rebuilt tree are the frames the walk held plus the new declarations (`Ext`), the walk recorded
  the namespace of every name that failed, and the elements it recorded for `xmlns=""` are exactly
  the no-namespace elements under a default namespace.
-/
import XotModel.Lemmas.BasicFacts
import XotModel.Lemmas.RepairApply
import XotModel.Lemmas.RepairSets
import XotModel.Lemmas.Trace

namespace XotModel.Repair
open XotModel

/-- The checks `render_output` makes for one element against the top frame (its own declarations
    pushed): not a no-namespace element under a default namespace, `element_fullname` and every
    `attribute_fullname` succeed. -/
def elementOkAt (nsOf : Nat → Nat) (top1 : List (Nat × Nat)) (name : Nat) (attrs : List Nat) : Bool :=
  !(nsOf name == Env.noNamespace && hasDefault top1) && elemOk (nsOf name) top1 &&
    attrs.all (fun a => attrOk (nsOf a) top1)

mutual
/-- Serialisation of the subtree finds a prefix for every name, entered with the top frame `top`. -/
def okRec (nsOf : Nat → Nat) (top : List (Nat × Nat)) : Tree → Bool
  | .node v ks =>
    match v with
    | .element name =>
      elementOkAt nsOf (pushTop top (Tree.node v ks).nsDecls) name ((Tree.node v ks).attrs.map (·.1)) &&
        okKids nsOf (pushTop top (Tree.node v ks).nsDecls) ks
    | _ => okKids nsOf top ks
def okKids (nsOf : Nat → Nat) (top : List (Nat × Nat)) : List Tree → Bool
  | [] => true
  | k :: ks => okRec nsOf top k && okKids nsOf top ks
end

theorem okRec_element (nsOf : Nat → Nat) (top : List (Nat × Nat)) (name : Nat) (ks : List Tree) :
    okRec nsOf top (.node (.element name) ks) =
      (elementOkAt nsOf (pushTop top (declsOfKids ks)) name ((Tree.node (.element name) ks).attrs.map (·.1)) &&
        okKids nsOf (pushTop top (declsOfKids ks)) ks) := by
  simp only [okRec, nsDecls_node]

theorem okRec_of_value (nsOf : Nat → Nat) (top : List (Nat × Nat)) (t : Tree) (name : Nat)
    (h : t.value = .element name) :
    okRec nsOf top t =
      (elementOkAt nsOf (pushTop top t.nsDecls) name (t.attrs.map (·.1)) &&
        okKids nsOf (pushTop top t.nsDecls) t.kids) := by
  cases t with
  | node v ks =>
    simp only [Tree.value] at h
    subst h
    simp only [okRec, Tree.kids]

theorem okRec_other (nsOf : Nat → Nat) (top : List (Nat × Nat)) (v : Value) (ks : List Tree)
    (hv : v.isElement = false) : okRec nsOf top (.node v ks) = okKids nsOf top ks := by
  cases v <;> simp_all [okRec, Value.isElement]

theorem okKids_cons_ns (nsOf : Nat → Nat) (top : List (Nat × Nat)) (q m : Nat) (kk ks : List Tree) :
    okKids nsOf top (.node (.namespace q m) kk :: ks) = (okKids nsOf top kk && okKids nsOf top ks) := by
  simp only [okKids, okRec]

theorem okKids_insertNsKid (nsOf : Nat → Nat) (top : List (Nat × Nat)) (p ns : Nat) (ks : List Tree) :
    okKids nsOf top (insertNsKid p ns ks) = okKids nsOf top ks := by
  refine insertNsKid_induct p ns (motive := fun ks r => okKids nsOf top r = okKids nsOf top ks)
    (fun ks _ => ?_) (fun m kk ks => ?_) (fun q m kk ks _ ih => ?_) ks
  · rw [okKids_cons_ns, okKids, Bool.true_and]
  · rw [okKids_cons_ns, okKids_cons_ns]
  · rw [okKids_cons_ns, okKids_cons_ns, ih]

theorem okKids_insertNamespace (nsOf : Nat → Nat) (top : List (Nat × Nat)) (p ns : Nat) (t : Tree) :
    okKids nsOf top (insertNamespace p ns t).kids = okKids nsOf top t.kids := by
  cases t with
  | node v ks => simp only [insertNamespace, Tree.kids, okKids_insertNsKid]

theorem okKids_insertNsKids (nsOf : Nat → Nat) (top : List (Nat × Nat)) (nd : List (Nat × Nat)) (v : Value)
    (ks : List Tree) :
    okKids nsOf top (insertNamespaces nd (.node v ks)).kids = okKids nsOf top ks :=
  insertNamespaces_invariant (fun t => okKids nsOf top t.kids) (okKids_insertNamespace nsOf top) nd _

/-! ### `rebuild` keeps values -/

theorem value_rebuild (nsOf : Nat → Nat) (nd : List (Nat × Nat)) (b : Bool) (top : List (Nat × Nat))
    (x : Tree) : (rebuild nsOf nd b top x).value = x.value := by
  cases x with
  | node v ks =>
    obtain ⟨ins, top', _, _, e⟩ := rebuild_eq_insert nsOf nd b top v ks
    rw [e, value_insertNamespaces]; rfl

theorem map_value_rebuildKids (nsOf : Nat → Nat) (nd : List (Nat × Nat)) (top : List (Nat × Nat))
    (ks : List Tree) : (rebuildKids nsOf nd top ks).map Tree.value = ks.map Tree.value := by
  induction ks with
  | nil => simp [rebuildKids]
  | cons k ks ih => simp [rebuildKids, value_rebuild, ih]

/-! ### The collections only grow -/

theorem mem_addMissing_iff (m : List Nat) (ns x : Nat) : x ∈ addMissing m ns ↔ x ∈ m ∨ x = ns := by
  unfold addMissing
  split
  · rename_i h
    exact ⟨Or.inl, fun h' => h'.elim id fun e => e ▸ List.contains_iff_mem.mp h⟩
  · rw [List.mem_append, List.mem_singleton]

theorem mem_foldl_missing (c : Nat → Bool) (g : Nat → Nat) (x : Nat) : ∀ (as m : List Nat),
    x ∈ as.foldl (fun m a => if c a then addMissing m (g a) else m) m ↔
      x ∈ m ∨ ∃ a ∈ as, c a = true ∧ x = g a
  | [], m => ⟨Or.inl, fun h => h.elim id fun ⟨_, ha, _⟩ => nomatch ha⟩
  | b :: as, m => by
    rw [List.foldl_cons, mem_foldl_missing c g x as]
    constructor
    · rintro (h | ⟨a, ha, hc⟩)
      · split at h
        · rename_i hb
          exact ((mem_addMissing_iff _ _ _).mp h).imp id fun e => ⟨b, List.mem_cons_self, hb, e⟩
        · exact Or.inl h
      · exact Or.inr ⟨a, List.mem_cons_of_mem _ ha, hc⟩
    · rintro (h | ⟨a, ha, hc, e⟩)
      · refine Or.inl ?_
        split
        · exact (mem_addMissing_iff _ _ _).mpr (Or.inl h)
        · exact h
      · rcases List.mem_cons.mp ha with rfl | ha
        · exact Or.inl (by rw [if_pos hc]; exact (mem_addMissing_iff _ _ _).mpr (Or.inr e))
        · exact Or.inr ⟨a, ha, hc, e⟩

theorem mem_missOf_iff (nsOf : Nat → Nat) (top : List (Nat × Nat)) (name : Nat) (as m : List Nat) (x : Nat) :
    x ∈ missOf nsOf top name as m ↔
      (x ∈ m ∨ (elemOk (nsOf name) top = false ∧ x = nsOf name)) ∨
        ∃ a ∈ as, (!attrOk (nsOf a) top) = true ∧ x = nsOf a := by
  rw [missOf, mem_foldl_missing (fun a => !attrOk (nsOf a) top) nsOf]
  refine or_congr ?_ Iff.rfl
  cases he : elemOk (nsOf name) top with
  | true => exact ⟨Or.inl, fun h => h.elim id fun h' => nomatch h'.1⟩
  | false =>
    rw [if_pos (show (!false) = true from rfl), mem_addMissing_iff]
    exact or_congr Iff.rfl ⟨fun e => ⟨rfl, e⟩, fun e => e.2⟩
theorem foldl_missing_id (c : Nat → Bool) (g : Nat → Nat) (as : List Nat) (m : List Nat)
    (h : ∀ a ∈ as, c a = false) : as.foldl (fun m a => if c a then addMissing m (g a) else m) m = m := by
  induction as generalizing m with
  | nil => rfl
  | cons b as ih =>
    simp only [List.foldl_cons, h b List.mem_cons_self, Bool.false_eq_true, if_false]
    exact ih m (fun a ha => h a (List.mem_cons_of_mem _ ha))

theorem missOf_ok (nsOf : Nat → Nat) (top : List (Nat × Nat)) (name : Nat) (as m : List Nat)
    (he : elemOk (nsOf name) top = true) (ha : ∀ a ∈ as, attrOk (nsOf a) top = true) :
    missOf nsOf top name as m = m := by
  unfold missOf
  simp only [he, Bool.not_true, Bool.false_eq_true, if_false]
  exact foldl_missing_id (fun a => !attrOk (nsOf a) top) nsOf as m (fun a h => by simp [ha a h])

mutual
theorem collect_mono (nsOf : Nat → Nat) : ∀ (t : Tree) (top : List (Nat × Nat)) (pre : Path) (acc : Acc),
    (∀ x ∈ acc.missing, x ∈ (collectRec nsOf top pre t acc).missing) ∧
    (∀ x ∈ acc.used, x ∈ (collectRec nsOf top pre t acc).used)
  | .node v ks, top, pre, acc => by
    by_cases hv : v.isElement = true
    · obtain ⟨name, rfl⟩ := eq_element_of_isElement hv
      simp only [collectRec]
      exact ⟨fun x hx => (collectKids_mono nsOf ks _ pre 0 _).1 x ((mem_missOf_iff _ _ _ _ _ x).mpr (Or.inl (Or.inl hx))),
        fun x hx => (collectKids_mono nsOf ks _ pre 0 _).2 x (List.mem_append_left _ hx)⟩
    · rw [collectRec_other nsOf top pre v ks acc (Bool.eq_false_iff.mpr hv)]
      exact collectKids_mono nsOf ks top pre 0 acc
theorem collectKids_mono (nsOf : Nat → Nat) : ∀ (ks : List Tree) (top : List (Nat × Nat)) (pre : Path) (i : Nat)
    (acc : Acc),
    (∀ x ∈ acc.missing, x ∈ (collectKids nsOf top pre i ks acc).missing) ∧
    (∀ x ∈ acc.used, x ∈ (collectKids nsOf top pre i ks acc).used)
  | [], top, pre, i, acc => by simp [collectKids]
  | k :: ks, top, pre, i, acc => by
    simp only [collectKids]
    obtain ⟨a1, a2⟩ := collect_mono nsOf k top (pre ++ [i]) acc
    obtain ⟨b1, b2⟩ := collectKids_mono nsOf ks top pre (i + 1) (collectRec nsOf top (pre ++ [i]) k acc)
    exact ⟨fun x hx => b1 x (a1 x hx), fun x hx => b2 x (a2 x hx)⟩
end

/-! ### Frames of the rebuilt tree -/

/-- `topN` holds what `top` holds plus the new declarations. -/
def Ext (nd top topN : List (Nat × Nat)) : Prop :=
  ∀ p n, (p, n) ∈ topN ↔ (p, n) ∈ top ∨ (p, n) ∈ nd

/-- The namespace got a new non-empty prefix. -/
def HasNd (nd : List (Nat × Nat)) (ns : Nat) : Prop := ∃ p, p ≠ Env.emptyPrefix ∧ (p, ns) ∈ nd

theorem ext_push {nd top topN WD D' : List (Nat × Nat)} (h : Ext nd top topN)
    (heq : ∀ q m, (q, m) ∈ D' ↔ (q, m) ∈ WD) (hk : ∀ p ∈ keys nd, p ∉ keys WD) :
    Ext nd (pushTop top WD) (pushTop topN D') := by
  have hkeys : ∀ q, q ∈ keys D' ↔ q ∈ keys WD := by
    intro q
    rw [mem_keys, mem_keys]
    exact exists_congr (fun m => heq q m)
  intro p n
  rw [mem_pushTop, mem_pushTop, h p n, heq, hkeys]
  constructor
  · rintro (⟨h1 | h1, h2⟩ | h1)
    · exact Or.inl (Or.inl ⟨h1, h2⟩)
    · exact Or.inr h1
    · exact Or.inl (Or.inr h1)
  · rintro ((⟨h1, h2⟩ | h1) | h1)
    · exact Or.inl ⟨Or.inl h1, h2⟩
    · exact Or.inr h1
    · exact Or.inl ⟨Or.inr h1, hk p (mem_keys.mpr ⟨n, h1⟩)⟩

theorem elemOk_ext {nd top topN : List (Nat × Nat)} (h : Ext nd top topN) {ns : Nat}
    (hok : elemOk ns top = true) : elemOk ns topN = true := by
  rw [elemOk_iff] at hok ⊢
  rcases hok with h1 | h1 | ⟨p, hp⟩
  · exact Or.inl h1
  · exact Or.inr (Or.inl h1)
  · exact Or.inr (Or.inr ⟨p, (h p ns).mpr (Or.inl hp)⟩)

theorem attrOk_ext {nd top topN : List (Nat × Nat)} (h : Ext nd top topN) {ns : Nat}
    (hok : attrOk ns top = true) : attrOk ns topN = true := by
  rw [attrOk_iff] at hok ⊢
  rcases hok with h1 | h1 | ⟨p, hne, hp⟩
  · exact Or.inl h1
  · exact Or.inr (Or.inl h1)
  · exact Or.inr (Or.inr ⟨p, hne, (h p ns).mpr (Or.inl hp)⟩)

theorem ok_of_hasNd {nd top topN : List (Nat × Nat)} (h : Ext nd top topN) {ns : Nat} (hnd : HasNd nd ns) :
    elemOk ns topN = true ∧ attrOk ns topN = true := by
  obtain ⟨p, hne, hp⟩ := hnd
  exact ⟨(elemOk_iff _ _).mpr (Or.inr (Or.inr ⟨p, (h p ns).mpr (Or.inr hp)⟩)),
    (attrOk_iff _ _).mpr (Or.inr (Or.inr ⟨p, hne, (h p ns).mpr (Or.inr hp)⟩))⟩

theorem hasDefault_ext {nd top topN : List (Nat × Nat)} (h : Ext nd top topN)
    (hn1 : ∀ d ∈ nd, d.1 ≠ Env.emptyPrefix) (hd : hasDefault top = false) : hasDefault topN = false := by
  cases hc : hasDefault topN with
  | false => rfl
  | true =>
    obtain ⟨n, hn, hm⟩ := (hasDefault_iff _).mp hc
    rcases (h _ _).mp hm with h1 | h1
    · have := (hasDefault_iff top).mpr ⟨n, hn, h1⟩
      rw [hd] at this; cases this
    · exact absurd rfl (hn1 _ h1)

theorem mem_undeclaredDecls (D : List (Nat × Nat)) (q m : Nat) :
    (q, m) ∈ undeclaredDecls D ↔
      (q ≠ Env.emptyPrefix ∧ (q, m) ∈ D) ∨ (q = Env.emptyPrefix ∧ m = Env.noNamespace) := by
  unfold undeclaredDecls
  simp only [List.mem_append, List.mem_filter, bne_iff_ne, ne_eq, List.mem_singleton, Prod.mk.injEq]
  constructor
  · rintro (⟨h1, h2⟩ | h)
    · exact Or.inl ⟨h2, h1⟩
    · exact Or.inr h
  · rintro (⟨h1, h2⟩ | h)
    · exact Or.inl ⟨h2, h1⟩
    · exact Or.inr h

theorem walkTop_noDefault (nsOf : Nat → Nat) (top : List (Nat × Nat)) (t : Tree) (name : Nat)
    (hname : nsOf name = Env.noNamespace) : hasDefault (walkTop nsOf top t name) = false := by
  unfold walkTop walkDecls
  cases hu : needsUndeclare nsOf top t name with
  | false =>
    simp only [Bool.false_eq_true, if_false]
    simpa [needsUndeclare, hname] using hu
  | true =>
    simp only [if_true]
    cases hc : hasDefault (pushTop top (undeclaredDecls t.nsDecls)) with
    | false => rfl
    | true =>
      exfalso
      obtain ⟨n, hn, hm⟩ := (hasDefault_iff _).mp hc
      rw [mem_pushTop] at hm
      rcases hm with ⟨_, h2⟩ | h2
      · exact h2 (mem_keys.mpr ⟨Env.noNamespace, (mem_undeclaredDecls _ _ _).mpr (Or.inr ⟨rfl, rfl⟩)⟩)
      · rcases (mem_undeclaredDecls _ _ _).mp h2 with ⟨h3, _⟩ | ⟨_, h3⟩
        · exact h3 rfl
        · exact hn h3

theorem keys_walkDecls_sub (nsOf : Nat → Nat) (top : List (Nat × Nat)) (t : Tree) (name : Nat) (p : Nat)
    (h : p ∈ keys (walkDecls nsOf top t name)) : p ∈ keys t.nsDecls ∨ p = Env.emptyPrefix := by
  unfold walkDecls at h
  split at h
  · obtain ⟨m, hm⟩ := mem_keys.mp h
    rcases (mem_undeclaredDecls _ _ _).mp hm with ⟨_, h2⟩ | ⟨h2, _⟩
    · exact Or.inl (mem_keys.mpr ⟨m, h2⟩)
    · exact Or.inr h2
  · exact Or.inl h

/-! ### The rebuilt element, wherever it stands

  An element of the rebuilt tree — the repaired one (`b = true`) or one below it — read through
  `rebuild_element`: value and attributes stay, the children are the rebuilt children up to namespace
  nodes, and its declarations are, as a set, those the walk continued with plus, at the repaired
  element, the new ones. -/

theorem attrs_rebuild_element (nsOf : Nat → Nat) (nd : List (Nat × Nat)) (b : Bool) (top : List (Nat × Nat))
    (name : Nat) (ks : List Tree) :
    (rebuild nsOf nd b top (.node (.element name) ks)).attrs = (Tree.node (.element name) ks).attrs := by
  rw [rebuild_element, attrs_insertNamespaces]
  exact attrs_of_values (map_value_rebuildKids nsOf nd _ ks)

/-- Its declarations: the old ones after the element's own `insert` calls. -/
theorem nsDecls_rebuild_element (nsOf : Nat → Nat) (nd : List (Nat × Nat)) (b : Bool)
    (top : List (Nat × Nat)) (name : Nat) (ks : List Tree) :
    (rebuild nsOf nd b top (.node (.element name) ks)).nsDecls =
      if needsUndeclare nsOf top (.node (.element name) ks) name = true then
        insertDecl Env.emptyPrefix Env.noNamespace
          ((if b then nd else []).foldl (fun D d => insertDecl d.1 d.2 D) (declsOfKids ks))
      else (if b then nd else []).foldl (fun D d => insertDecl d.1 d.2 D) (declsOfKids ks) := by
  rw [rebuild_element, nsDecls_insertNamespaces, nsDecls_node,
    declsOfKids_congr (map_value_rebuildKids nsOf nd _ ks), List.foldl_append]
  cases needsUndeclare nsOf top (.node (.element name) ks) name <;> rfl

theorem okKids_rebuild_element (nsOf : Nat → Nat) (nd : List (Nat × Nat)) (b : Bool) (top : List (Nat × Nat))
    (name : Nat) (ks : List Tree) (T : List (Nat × Nat)) :
    okKids nsOf T (rebuild nsOf nd b top (.node (.element name) ks)).kids =
      okKids nsOf T (rebuildKids nsOf nd (walkTop nsOf top (.node (.element name) ks) name) ks) := by
  rw [rebuild_element, okKids_insertNsKids]

theorem mem_nsDecls_rebuild (nsOf : Nat → Nat) (nd : List (Nat × Nat)) (b : Bool) (top : List (Nat × Nat))
    (name : Nat) (ks : List Tree) (hD : (keys (declsOfKids ks)).Nodup)
    (hn1 : ∀ d ∈ nd, d.1 ≠ Env.emptyPrefix)
    (hb : b = true → (keys nd).Nodup ∧ ∀ p ∈ keys nd, p ∉ keys (declsOfKids ks)) (q m : Nat) :
    (q, m) ∈ (rebuild nsOf nd b top (.node (.element name) ks)).nsDecls ↔
      (q, m) ∈ walkDecls nsOf top (.node (.element name) ks) name ∨ (b = true ∧ (q, m) ∈ nd) := by
  -- first the new declarations: fresh keys, so a union
  have h1 : (keys ((if b then nd else []).foldl (fun D d => insertDecl d.1 d.2 D) (declsOfKids ks))).Nodup ∧
      ∀ q m, (q, m) ∈ (if b then nd else []).foldl (fun D d => insertDecl d.1 d.2 D) (declsOfKids ks) ↔
        (q, m) ∈ declsOfKids ks ∨ (b = true ∧ (q, m) ∈ nd) := by
    cases b with
    | false => exact ⟨hD, fun q m => by simp⟩
    | true =>
      obtain ⟨u, h⟩ := mem_foldl_insertDecl nd (declsOfKids ks) hD (hb rfl).1 (hb rfl).2
      exact ⟨u, fun q m => by simp [h]⟩
  rw [nsDecls_rebuild_element, walkDecls, nsDecls_node]
  -- then `xmlns=""`, which replaces a declaration of the empty prefix: none of the new ones
  cases needsUndeclare nsOf top (.node (.element name) ks) name with
  | false => exact h1.2 q m
  | true =>
    rw [if_pos rfl, if_pos rfl, mem_insertDecl _ _ _ h1.1, h1.2, mem_undeclaredDecls]
    constructor
    · rintro (⟨hq, h | h⟩ | h)
      · exact Or.inl (Or.inl ⟨hq, h⟩)
      · exact Or.inr h
      · exact Or.inl (Or.inr h)
    · rintro ((⟨hq, h⟩ | h) | h)
      · exact Or.inl ⟨hq, Or.inl h⟩
      · exact Or.inr h
      · exact Or.inl ⟨hn1 _ h.2, Or.inr h⟩

theorem elementOkAt_rebuilt (nsOf : Nat → Nat) (nd : List (Nat × Nat))
    (hn1 : ∀ d ∈ nd, d.1 ≠ Env.emptyPrefix) (top : List (Nat × Nat)) (t : Tree) (name : Nat)
    (top1' : List (Nat × Nat)) (attrs m : List Nat)
    (hext : Ext nd (walkTop nsOf top t name) top1')
    (hm : ∀ ns ∈ missOf nsOf (walkTop nsOf top t name) name attrs m, HasNd nd ns) :
    elementOkAt nsOf top1' name attrs = true := by
  unfold elementOkAt
  simp only [Bool.and_eq_true, Bool.not_eq_true', Bool.and_eq_false_imp, beq_iff_eq, List.all_eq_true]
  refine ⟨⟨?_, ?_⟩, ?_⟩
  · intro hname
    exact hasDefault_ext hext hn1 (walkTop_noDefault nsOf top t name hname)
  · cases he : elemOk (nsOf name) (walkTop nsOf top t name) with
    | true => exact elemOk_ext hext he
    | false => exact (ok_of_hasNd hext (hm _ ((mem_missOf_iff _ _ _ _ _ _).mpr (Or.inl (Or.inr ⟨he, rfl⟩))))).1
  · intro a ha
    cases he : attrOk (nsOf a) (walkTop nsOf top t name) with
    | true => exact attrOk_ext hext he
    | false => exact (ok_of_hasNd hext (hm _ ((mem_missOf_iff _ _ _ _ _ _).mpr (Or.inr ⟨a, ha, by rw [he]; rfl, rfl⟩)))).2

/-- The rebuilt element passes the serialiser's checks in the frame `topN` when the frame it pushes
    extends the walk's by the new declarations, every namespace the walk found missing at it got a
    prefix, and its rebuilt children pass. -/
theorem rebuild_element_ok (nsOf : Nat → Nat) (nd : List (Nat × Nat))
    (hn1 : ∀ d ∈ nd, d.1 ≠ Env.emptyPrefix) (b : Bool) (top topN : List (Nat × Nat)) (name : Nat)
    (ks : List Tree) (m : List Nat)
    (hext : Ext nd (walkTop nsOf top (.node (.element name) ks) name)
      (pushTop topN (rebuild nsOf nd b top (.node (.element name) ks)).nsDecls))
    (hm : ∀ ns ∈ missOf nsOf (walkTop nsOf top (.node (.element name) ks) name) name
      ((Tree.node (.element name) ks).attrs.map (·.1)) m, HasNd nd ns)
    (hk : okKids nsOf (pushTop topN (rebuild nsOf nd b top (.node (.element name) ks)).nsDecls)
      (rebuildKids nsOf nd (walkTop nsOf top (.node (.element name) ks) name) ks) = true) :
    okRec nsOf topN (rebuild nsOf nd b top (.node (.element name) ks)) = true := by
  rw [okRec_of_value nsOf topN _ name (by rw [value_rebuild]; rfl), attrs_rebuild_element,
    okKids_rebuild_element, Bool.and_eq_true]
  exact ⟨elementOkAt_rebuilt nsOf nd hn1 top _ name _ _ m hext hm, hk⟩

theorem uniqueBelow_kids {v : Value} {ks : List Tree} (h : UniqueBelow (.node v ks)) :
    ∀ k ∈ ks, UniqueBelow k := by
  intro k hk
  obtain ⟨i, hi⟩ := List.mem_iff_getElem?.mp hk
  exact h.kid hi

theorem uniqueBelow_self {name : Nat} {ks : List Tree} (h : UniqueBelow (.node (.element name) ks)) :
    (keys (declsOfKids ks)).Nodup := by
  have := h [] _ rfl
  simpa [frameOf, Tree.value, UniquePrefixes, nsDecls_node] using this

mutual
/-- Below the repaired element: the rebuilt subtree is fine in any frame that extends the walk's
    frame by the new declarations. -/
theorem rebuild_ok (nsOf : Nat → Nat) (nd : List (Nat × Nat)) (hn1 : ∀ d ∈ nd, d.1 ≠ Env.emptyPrefix) :
    ∀ (x : Tree) (top topN : List (Nat × Nat)) (pre : Path) (acc : Acc), Ext nd top topN → UniqueBelow x →
      (∀ ns ∈ (collectRec nsOf top pre x acc).missing, HasNd nd ns) →
      (∀ p ∈ keys nd, p ∉ (collectRec nsOf top pre x acc).used) →
      okRec nsOf topN (rebuild nsOf nd false top x) = true
  | .node v ks, top, topN, pre, acc, hext, hu, hm, hused => by
    by_cases hv : v.isElement = true
    · obtain ⟨name, rfl⟩ := eq_element_of_isElement hv
      simp only [collectRec] at hm hused
      have mono := collectKids_mono nsOf ks (walkTop nsOf top (.node (.element name) ks) name) pre 0
      -- new prefixes are not declared here
      have hfresh : ∀ p ∈ keys nd, p ∉ keys (walkDecls nsOf top (.node (.element name) ks) name) := by
        intro p hp hk
        rcases keys_walkDecls_sub nsOf top _ name p hk with h | h
        · exact hused p hp ((mono _).2 p (List.mem_append_right _ h))
        · obtain ⟨n, hn⟩ := mem_keys.mp hp
          exact hn1 _ hn h
      have hext2 := ext_push hext (fun q m =>
        (mem_nsDecls_rebuild nsOf nd false top name ks (uniqueBelow_self hu) hn1 (fun h => nomatch h) q m).trans
          (or_iff_left fun h => nomatch h.1)) hfresh
      exact rebuild_element_ok nsOf nd hn1 false top topN name ks acc.missing hext2
        (fun ns hns => hm ns ((mono _).1 ns hns))
        (rebuildKids_ok nsOf nd hn1 ks _ _ pre 0 _ hext2 (uniqueBelow_kids hu) hm hused)
    · have hve : v.isElement = false := Bool.eq_false_iff.mpr hv
      rw [collectRec_other nsOf top pre v ks acc hve] at hm hused
      rw [rebuild_other nsOf nd false top v ks hve]
      simp only [Bool.false_eq_true, if_false]
      rw [okRec_other nsOf topN v _ hve]
      exact rebuildKids_ok nsOf nd hn1 ks top topN pre 0 acc hext (uniqueBelow_kids hu) hm hused
theorem rebuildKids_ok (nsOf : Nat → Nat) (nd : List (Nat × Nat)) (hn1 : ∀ d ∈ nd, d.1 ≠ Env.emptyPrefix) :
    ∀ (ks : List Tree) (top topN : List (Nat × Nat)) (pre : Path) (i : Nat) (acc : Acc), Ext nd top topN →
      (∀ k ∈ ks, UniqueBelow k) →
      (∀ ns ∈ (collectKids nsOf top pre i ks acc).missing, HasNd nd ns) →
      (∀ p ∈ keys nd, p ∉ (collectKids nsOf top pre i ks acc).used) →
      okKids nsOf topN (rebuildKids nsOf nd top ks) = true
  | [], _, _, _, _, _, _, _, _, _ => by simp [rebuildKids, okKids]
  | k :: ks, top, topN, pre, i, acc, hext, hu, hm, hused => by
    simp only [collectKids] at hm hused
    obtain ⟨b1, b2⟩ := collectKids_mono nsOf ks top pre (i + 1) (collectRec nsOf top (pre ++ [i]) k acc)
    simp only [rebuildKids, okKids, Bool.and_eq_true]
    refine ⟨?_, ?_⟩
    · exact rebuild_ok nsOf nd hn1 k top topN (pre ++ [i]) acc hext (hu k List.mem_cons_self)
        (fun ns hns => hm ns (b1 ns hns)) (fun p hp hin => hused p hp (b2 p hin))
    · exact rebuildKids_ok nsOf nd hn1 ks top topN pre (i + 1) _ hext (fun k' hk' => hu k' (List.mem_cons_of_mem _ hk'))
        hm hused
end

end XotModel.Repair
