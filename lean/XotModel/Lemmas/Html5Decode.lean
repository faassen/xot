/-
  Reading HTML text and attribute values back: a strict
  decoder of character references (`&name;`, `&#N;`, `&#xH;`, with `&nbsp;` besides the XML
  names) — every `&` must start a complete known reference — and the round trip through the
  table-driven escaping functions.
-/
import XotModel.Lemmas.Html5Esc

namespace XotModel
open Gen

/-- The entity names an HTML reader of the serialiser's output has to know: `nbsp`, the five XML
    names and numeric references (`decodeEntity`). -/
def htmlEntity (e : Str) : Option Char :=
  if e = ['n','b','s','p'] then some '\u00a0' else decodeEntity e

/-- Strict decoding: `none` when some `&` does not start a complete known reference. -/
def htmlDecode : Str → Option Str
  | [] => some []
  | c :: rest =>
    if c = '&' then
      match h : splitSemi rest with
      | none => none
      | some (ent, rest') =>
        match htmlEntity ent with
        | none => none
        | some ch => (htmlDecode rest').map (ch :: ·)
    else (htmlDecode rest).map (c :: ·)
termination_by s => s.length
decreasing_by
  all_goals simp_wf
  · have := splitSemi_length h; omega

/-- A row `c ↦ &ent;` the decoder reads back as `c`. -/
def htmlRefOk (c : Char) (esc : Str) : Bool :=
  match esc with
  | '&' :: body =>
    (match body.reverse with
     | ';' :: rent => !(rent.contains ';') && htmlEntity rent.reverse == some c
     | _ => false)
  | _ => false

theorem htmlRefOk_shape {c : Char} {esc : Str} (h : htmlRefOk c esc = true) :
    ∃ ent, esc = '&' :: (ent ++ [';']) ∧ ';' ∉ ent ∧ htmlEntity ent = some c := by
  unfold htmlRefOk at h
  split at h
  · rename_i body
    split at h
    · rename_i rent hb
      simp at h
      refine ⟨rent.reverse, ?_, ?_, h.2⟩
      · have : body = (';' :: rent).reverse := by rw [← hb]; simp
        simp [this]
      · simpa using h.1
    · simp at h
  · simp at h

/-- Every row is a reference the decoder reads back, and `&` has a row. -/
def htmlTableOk (t : List (Char × Str)) : Bool :=
  (t.lookup '&').isSome && t.all (fun r => htmlRefOk r.1 r.2)

theorem htmlDecode_ref {c : Char} {esc : Str} (h : htmlRefOk c esc = true) (rest : Str) :
    htmlDecode (esc ++ rest) = (htmlDecode rest).map (c :: ·) := by
  obtain ⟨ent, rfl, hsemi, hent⟩ := htmlRefOk_shape h
  rw [htmlDecode.eq_def]
  simp only [List.cons_append, List.append_assoc, List.singleton_append, List.nil_append, if_true]
  have hs := splitSemi_append ent rest hsemi
  split
  · rename_i hn; rw [hs] at hn; cases hn
  · rename_i e r hn
    rw [hs] at hn
    simp only [Option.some.injEq, Prod.mk.injEq] at hn
    obtain ⟨rfl, rfl⟩ := hn
    simp [hent]

theorem htmlDecode_plain {c : Char} (hc : c ≠ '&') (rest : Str) :
    htmlDecode (c :: rest) = (htmlDecode rest).map (c :: ·) := by
  rw [htmlDecode.eq_def]
  simp [hc]

theorem htmlDecode_escape {t : List (Char × Str)} (ht : htmlTableOk t = true) (s : Str) :
    htmlDecode (s.flatMap (escapeWith t)) = some s := by
  simp only [htmlTableOk, Bool.and_eq_true, List.all_eq_true] at ht
  obtain ⟨hamp, hrows⟩ := ht
  induction s with
  | nil => simp [htmlDecode]
  | cons c s ih =>
    rw [List.flatMap_cons]
    cases hl : t.lookup c with
    | none =>
      have hc : c ≠ '&' := by intro e; subst e; simp [hl] at hamp
      have he : escapeWith t c = [c] := by simp [escapeWith, hl]
      rw [he, List.singleton_append, htmlDecode_plain hc, ih]; rfl
    | some esc =>
      have := hrows (c, esc) (htmlLookup_mem hl)
      have he : escapeWith t c = esc := by simp [escapeWith, hl]
      rw [he, htmlDecode_ref this, ih]; rfl

/-! ### The four functions of the serialiser -/

theorem htmlDecode_serializeTextHtml (s : Str) : htmlDecode (serializeTextHtml s) = some s :=
  htmlDecode_escape (by decide +kernel) s

theorem htmlDecode_serializeText (s : Str) : htmlDecode (serializeText false s) = some s := by
  rw [serializeText_false_eq]
  exact htmlDecode_escape (by decide +kernel) s

theorem htmlDecode_serializeAttributeHtml (s : Str) : htmlDecode (serializeAttributeHtml s) = some s :=
  htmlDecode_escape (by decide +kernel) s

theorem htmlDecode_serializeAttribute (s : Str) : htmlDecode (serializeAttribute s) = some s :=
  htmlDecode_escape (by decide +kernel) s

end XotModel
