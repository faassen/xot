/-
  The round trip, tokens: the tokens of the spelling of a tree ARE the tokens the serialiser
  writes, literally, for every tree on which the serialiser succeeds — for any token parameters
  (`spellNodeO` / `serNodeO`), and so for the default ones (`spellNode` / `serNode`).
-/
import XotModel.Lemmas.RoundTripEnv
import XotModel.Lemmas.SerOptDefs

namespace XotModel

variable (env : Env)

theorem tokensList_append (a b : List NSNode) :
    NSNode.tokens.tokensList (a ++ b) = NSNode.tokens.tokensList a ++ NSNode.tokens.tokensList b := by
  induction a with
  | nil => rfl
  | cons k ks ih => simp [NSNode.tokens.tokensList, ih]

theorem tokensList_cons (k : NSNode) (ks : List NSNode) :
    NSNode.tokens.tokensList (k :: ks) = k.tokens ++ NSNode.tokens.tokensList ks := rfl

theorem spellDecl_tokens (d : Nat × Nat) : (spellDecl env d).map NSAttr.token = declTokens env d := by
  have key : ∀ p l : Str, [NSAttr.token ⟨sp0 p, sp0 l, attrPieces (env.namespaceStr d.2), 0, noSpan⟩] =
      [.attribute (sp0 p) (sp0 l) (sp0 (serializeAttribute (env.namespaceStr d.2))) noSpan] := by
    intro p l
    rw [NSAttr.token, renderPieces_attrPieces]
    rfl
  unfold spellDecl declTokens
  by_cases h1 : (d.2 == Env.xmlNamespace) = true
  · rw [if_pos h1, if_pos h1]; rfl
  · rw [if_neg h1, if_neg h1]
    by_cases h2 : (d.1 == Env.emptyPrefix) = true
    · rw [if_pos h2, if_pos h2]; exact key _ _
    · rw [if_neg h2, if_neg h2]; exact key _ _

theorem spellDecls_tokens (ds : List (Nat × Nat)) :
    (ds.flatMap (spellDecl env)).map NSAttr.token = ds.flatMap (declTokens env) := by
  induction ds with
  | nil => rfl
  | cons d ds ih => simp [List.flatMap_cons, spellDecl_tokens, ih]

theorem spellAttrs_tokens (s : FStack) : ∀ (as : List (Nat × Str)) (ats : List Token),
    attrTokens env s as = .ok ats → (as.map (spellAttr env s)).map NSAttr.token = ats
  | [], ats, h => by
    simp only [attrTokens, Except.ok.injEq] at h
    subst h; rfl
  | (name, v) :: rest, ats, h => by
    obtain ⟨p, ts', hp, hr, rfl⟩ := attrTokens_cons_ok env h
    simp only [List.map_cons, spellAttrs_tokens s rest ts' hr, List.cons.injEq, and_true]
    simp [spellAttr, NSAttr.token, hp, okPrefix, sp0, renderPieces_attrPieces]

theorem spellItems_tokens (inScope : List (Nat × Nat)) (isTop : Bool) (s' : FStack) (n : Tree)
    (ats : List Token) (h : attrTokens env s' n.attrs = .ok ats) :
    (spellItems env inScope isTop s' n).map NSAttr.token =
      ((if isTop then inScope.filter (fun d => !n.declaresPrefix d.1) else []) ++ n.nsDecls).flatMap
        (declTokens env) ++ ats := by
  unfold spellItems writtenDecls
  rw [List.map_append, spellDecls_tokens, spellAttrs_tokens env s' _ ats h]

section AnyParams
variable (pr : TokenParams)

theorem serKidsO_cons_ok {inScope : List (Nat × Nat)} {s : FStack} {cd : Bool} {k : Tree}
    {ks : List Tree} {ts : List Token}
    (h : serNodeO.serKidsO env pr inScope s cd (k :: ks) = .ok ts) :
    ∃ x y, serNodeO env pr inScope false s cd k = .ok x ∧
      serNodeO.serKidsO env pr inScope s cd ks = .ok y ∧ ts = x ++ y := by
  rw [serNodeO.serKidsO] at h
  exact appendOk_ok h

theorem appendOk_ok_ok (x y : List Token) : appendOk (.ok x) (.ok y) = .ok (x ++ y) := rfl

mutual
theorem spellNodeO_tokens (inScope : List (Nat × Nat)) (isTop : Bool) (s : FStack) (cd : Bool) (n : Tree)
    (ts : List Token) (h : serNodeO env pr inScope isTop s cd n = .ok ts) :
    NSNode.tokens.tokensList (spellNodeO env pr inScope isTop s cd n) = ts := by
  cases n with
  | node v ks =>
    cases v with
    | document | «attribute» a b | «namespace» a b =>
      simp only [serNodeO] at h
      simp only [spellNodeO]
      exact spellKidsO_tokens inScope s false ks ts h
    | text str | comment str =>
      simp only [serNodeO] at h
      obtain ⟨x, y, hx, hy, rfl⟩ := appendOk_ok h
      cases hx
      simp only [spellNodeO, tokensList_cons, spellKidsO_tokens inScope s false ks y hy]
      rfl
    | pi target data =>
      rw [serNodeO] at h
      split at h
      · cases h
      · obtain ⟨x, y, hx, hy, rfl⟩ := appendOk_ok h
        cases hx
        simp only [spellNodeO, tokensList_cons, spellKidsO_tokens inScope s false ks y hy]
        rfl
    | element name =>
      rw [serNodeO] at h
      obtain ⟨p, ats, content, hdef, hp, ha, hk, rfl⟩ := Ser.elementOutcome_ok env h
      have hc := spellKidsO_tokens inScope _ _ ks content hk
      have hi := spellItems_tokens env inScope isTop _ _ ats ha
      simp only [spellNodeO, hp, okPrefix]
      by_cases hfc : (Tree.node (.element name) ks).firstChild?.isNone = true
      · simp only [hfc, if_true, tokensList_cons, hc, NSNode.tokens, hi, elementTokens]
        simp
      · simp only [hfc, Bool.false_eq_true, if_false, tokensList_cons, hc, NSNode.tokens, hi, elementTokens,
          NSNode.tokens.tokensList]
        simp

theorem spellKidsO_tokens (inScope : List (Nat × Nat)) (s : FStack) (cd : Bool) (ks : List Tree)
    (ts : List Token) (h : serNodeO.serKidsO env pr inScope s cd ks = .ok ts) :
    NSNode.tokens.tokensList (spellNodeO.spellKidsO env pr inScope s cd ks) = ts := by
  cases ks with
  | nil =>
    simp only [serNodeO.serKidsO, Except.ok.injEq] at h
    subst h
    rfl
  | cons k ks =>
    obtain ⟨x, y, hx, hy, rfl⟩ := serKidsO_cons_ok env pr h
    simp only [spellNodeO.spellKidsO, tokensList_append, spellNodeO_tokens inScope false s cd k x hx,
      spellKidsO_tokens inScope s cd ks y hy]
end

theorem spellAtO_tokens (t : Tree) (start : Path) (ts : List Token) (h : serTokensAtO env pr t start = .ok ts) :
    NSNode.tokens.tokensList (spellAtO env pr t start) = ts := by
  unfold serTokensAtO at h
  unfold spellAtO
  cases h1 : t.at? start with
  | none => simp only [h1] at h ⊢; cases h; rfl
  | some n =>
    cases h2 : namespacesInScope t start with
    | none => simp only [h1, h2] at h ⊢; cases h; rfl
    | some inScope =>
      simp only [h1, h2] at h ⊢
      exact spellNodeO_tokens env pr inScope true _ _ n ts h

end AnyParams

/-! ### The default parameters: `spellNode` -/

mutual
theorem spellNodeO_default (inScope : List (Nat × Nat)) (isTop : Bool) (s : FStack) (n : Tree) :
    spellNodeO env (plainParams false) inScope isTop s false n = spellNode env inScope isTop s n := by
  cases n with
  | node v ks =>
    cases v <;>
      simp only [spellNodeO, spellNode, spellKidsO_default, kidsCd_plain (plainParams false) rfl] <;> rfl

theorem spellKidsO_default (inScope : List (Nat × Nat)) (s : FStack) (ks : List Tree) :
    spellNodeO.spellKidsO env (plainParams false) inScope s false ks = spellNode.spellKids env inScope s ks := by
  cases ks with
  | nil => rfl
  | cons k ks =>
    simp only [spellNodeO.spellKidsO, spellNode.spellKids, spellNodeO_default, spellKidsO_default]
end

theorem spellNode_tokens (inScope : List (Nat × Nat)) (isTop : Bool) (s : FStack) (n : Tree) (ts : List Token)
    (h : serNode env false inScope isTop s n = .ok ts) :
    NSNode.tokens.tokensList (spellNode env inScope isTop s n) = ts := by
  rw [serNode_eq_O] at h
  rw [← spellNodeO_default]
  exact spellNodeO_tokens env _ inScope isTop s false n ts h

theorem spellKids_tokens (inScope : List (Nat × Nat)) (s : FStack) (ks : List Tree) (ts : List Token)
    (h : serNode.serKids env false inScope s ks = .ok ts) :
    NSNode.tokens.tokensList (spellNode.spellKids env inScope s ks) = ts := by
  rw [serKids_eq_O] at h
  rw [← spellKidsO_default]
  exact spellKidsO_tokens env _ inScope s false ks ts h

theorem spellAt_tokens (t : Tree) (start : Path) (ts : List Token) (h : serTokensAt env false t start = .ok ts) :
    NSNode.tokens.tokensList (spellAt env t start) = ts := by
  unfold serTokensAt at h
  unfold spellAt
  split at h
  · rename_i n inScope h1 h2
    simp only [h1, h2]
    exact spellNode_tokens env inScope true _ n ts h
  · rename_i hno
    cases h
    split
    · rename_i n inScope h1 h2
      exact absurd h2 (hno n inScope h1)
    · rfl

theorem spell_tokens (t : Tree) (ts : List Token) (h : serTokensTop env t = .ok ts) :
    NSNode.tokens.tokensList (spellTop env t) = ts :=
  spellAt_tokens env t [] ts h

end XotModel
