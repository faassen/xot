/-
  The general child-list frame on the domain `XCall.framed`: `Forest.FrameAt` / `GetFrame` (a live node keeps value and
  the handles of its children), the frame of each call in that form (`getFrame_*`, read off the `NodeFrame` theorems of
  the specification functions), `frame_general`, and the parent read off the frame of its parent (`parent_of_frameAt`).
  The setters, node creation and `set_text_consolidation` come first (`frame_general_framed`, with the parent clause).
-/
import XotModel.Model.FframeSpec
import XotModel.Lemmas.FspecTextContentSet
import XotModel.Lemmas.FspecPairFrame
import XotModel.Lemmas.FspecFrameComposite
import XotModel.Lemmas.BasicFacts
import XotModel.Lemmas.FspecFrameReplace
import XotModel.Lemmas.FspecMapFrame
import XotModel.Lemmas.FspecClone
import XotModel.Lemmas.FhistExt

/-! ## `FrameAt`; the setters, node creation, `set_text_consolidation` -/

namespace XotModel
open HTree Spec

/-- What the frame says of one node: still live, same value, same children (handles, in order). -/
structure Forest.FrameAt (f f' : Forest) (h : Nat) : Prop where
  live : f'.isLive h = true
  value : f'.value? h = f.value? h
  kids : f'.kidHandles h = f.kidHandles h

theorem Forest.FrameAt.of_get {f f' : Forest} {h : Nat} {t t' : HTree} (hg : f.get? h = some t)
    (hg' : f'.get? h = some t') (hv : t'.value = t.value)
    (hk : t'.kids.map (·.handle) = t.kids.map (·.handle)) : Forest.FrameAt f f' h := by
  refine ⟨?_, ?_, ?_⟩
  · unfold Forest.isLive; rw [hg']; rfl
  · unfold Forest.value?; rw [hg, hg', Option.map_some, Option.map_some, hv]
  · unfold Forest.kidHandles; rw [hg, hg']; exact hk

theorem Forest.FrameAt.refl {f : Forest} {h : Nat} (hl : f.isLive h = true) : Forest.FrameAt f f h :=
  ⟨hl, rfl, rfl⟩

/-! ### Setters -/

theorem fg_mapAt_setValue_top {n : Nat} (v : Value) : ∀ t : HTree, t.handle ≠ n →
    (mapAt n (HTree.setValue v) t).value = t.value ∧
      (mapAt n (HTree.setValue v) t).kids.map (·.handle) = t.kids.map (·.handle)
  | .node h w ks, hne => by
    have hne' : h ≠ n := hne
    rw [mapAt_node, if_neg hne', mapAtList_eq_map]
    refine ⟨rfl, ?_⟩
    show (ks.map (mapAt n (HTree.setValue v))).map (·.handle) = ks.map (·.handle)
    rw [List.map_map]
    apply List.map_congr_left
    intro k _
    exact handle_mapAt_setValue n v k

theorem frameAt_specSetValue {f : Forest} (nd : f.allHandles.Nodup) {n h : Nat} (v : Value)
    (hl : f.isLive h = true) (hne : h ≠ n) : Forest.FrameAt f (specSetValue n v f) h := by
  obtain ⟨t, hg⟩ := Forest.get?_of_isLive hl
  have hth : t.handle = h := (findList?_some f.roots t hg).1
  have hg' : (specSetValue n v f).get? h = some (mapAt n (HTree.setValue v) t) := by
    rw [specSetValue_get nd n h v, hg]; rfl
  obtain ⟨a, b⟩ := fg_mapAt_setValue_top v t (by rw [hth]; exact hne)
  exact Forest.FrameAt.of_get hg hg' a b

/-! ### Node creation, `set_text_consolidation` -/

theorem parent?_newNode (f : Forest) (v : Value) (h : Nat) : (f.newNode v).1.parent? h = f.parent? h := by
  unfold Forest.parent? Forest.ctx?
  show ((f.roots ++ [HTree.node f.next v []]).findSome? (ctxBelow h)).map _ = _
  rw [List.findSome?_append]
  simp [ctxBelow, ctxKids]

theorem frameAt_newNode {f : Forest} {h : Nat} (v : Value) (hl : f.isLive h = true) :
    Forest.FrameAt f (f.newNode v).1 h := by
  obtain ⟨t, hg⟩ := Forest.get?_of_isLive hl
  exact Forest.FrameAt.of_get hg (Forest.get?_newNode_of_some v hg) rfl rfl

/-- The setters, node creation and `set_text_consolidation`. -/
def simpleCall : Forest.XCall → Bool
  | .call (.setElementName _ _) | .call (.setText _ _) | .call (.setComment _ _) | .call (.setPiData _ _) => true
  | .newNode _ => true
  | .setConsolidation _ => true
  | _ => false

theorem framed_of_simpleCall {c : Forest.XCall} (h : simpleCall c = true) : c.framed = true := by
  cases c with
  | call k => cases k <;> first | rfl | cases h
  | newNode v => rfl
  | setConsolidation b => rfl
  | _ => cases h

/-- A simple call leaves the forest alone, or adds a parentless leaf on a new handle, or flips the consolidation
    flag, or sets the value of the one node in `writtenParents`. -/
inductive FramedShape (f : Forest) (c : Forest.XCall) (f' : Forest) : Prop
  | same (h : f' = f)
  | flag (b : Bool) (h : f' = f.setConsolidation b)
  | fresh (v : Value) (h : f' = (f.newNode v).1)
  | setv (n : Nat) (v : Value) (hw : c.writtenParents f = [n]) (h : f' = specSetValue n v f)

theorem FramedShape.of_setter {f : Forest} {c : Forest.XCall} {n : Nat} (hw : c.writtenParents f = [n])
    (r : Forest × Res) (h : r.1 = f ∨ ∃ v, r.1 = f.setValue n v) : FramedShape f c r.1 := by
  rcases h with h | ⟨v, h⟩
  · exact .same h
  · exact .setv n v hw (h.trans (setValue_eq_spec f n v))

theorem framedShape (s : Store) (c : Forest.XCall) (hf : simpleCall c = true) :
    FramedShape s.forest c (c.run s).1.forest := by
  cases c with
  | call k =>
    cases k with
    | setElementName n name =>
      refine .of_setter rfl (s.forest.setElementName n name) ?_
      unfold Forest.setElementName
      split
      · exact Or.inr ⟨_, rfl⟩
      · exact Or.inl rfl
    | setText n t =>
      refine .of_setter rfl (s.forest.setText n t) ?_
      unfold Forest.setText
      split
      · exact Or.inr ⟨_, rfl⟩
      · exact Or.inl rfl
    | setComment n t =>
      refine .of_setter rfl (s.forest.setComment n t) ?_
      unfold Forest.setComment
      split
      · split
        · exact Or.inl rfl
        · exact Or.inr ⟨_, rfl⟩
      · exact Or.inl rfl
    | setPiData n d =>
      refine .of_setter rfl (s.forest.setPiData n d) ?_
      unfold Forest.setPiData
      split
      · exact Or.inr ⟨_, rfl⟩
      · exact Or.inl rfl
    | _ => cases hf
  | newNode v => exact .fresh v rfl
  | setConsolidation b => exact .flag b rfl
  | _ => cases hf

/-- **The general frame for the simple calls** (`simpleCall`, a proper part of `XCall.framed`), whatever the call
    answers. -/
theorem frame_general_framed {s : Store} {c : Forest.XCall} (inv : s.forest.Inv) (hf : simpleCall c = true)
    {h : Nat} (hl : s.forest.isLive h = true) (hnw : h ∉ c.writtenParents s.forest) :
    Forest.FrameAt s.forest (c.run s).1.forest h ∧ (c.run s).1.forest.parent? h = s.forest.parent? h := by
  rcases framedShape s c hf with e | ⟨b, e⟩ | ⟨v, e⟩ | ⟨n, v, hw, e⟩
  · rw [e]; exact ⟨.refl hl, rfl⟩
  · rw [e]; exact ⟨⟨hl, rfl, rfl⟩, rfl⟩
  · rw [e]; exact ⟨frameAt_newNode v hl, parent?_newNode _ v h⟩
  · rw [e]
    have hne : h ≠ n := by
      intro eq; apply hnw; rw [hw, eq]; exact List.mem_singleton.2 rfl
    exact ⟨frameAt_specSetValue inv.nodup v hl hne, specSetValue_parent _ n h v⟩

end XotModel

/-! ## `GetFrame`; the moves -/

namespace XotModel
open HTree Spec PairAll

/-- The node `z`, if live in `f`, is live in `f'` with the same value and the same child handles. -/
def GetFrame (f f' : Forest) (z : Nat) : Prop :=
  ∀ t, f.get? z = some t →
    ∃ t', f'.get? z = some t' ∧ t'.value = t.value ∧ t'.kids.map (·.handle) = t.kids.map (·.handle)

theorem GetFrame.refl (f : Forest) (z : Nat) : GetFrame f f z := fun t h => ⟨t, h, rfl, rfl⟩

theorem GetFrame.trans {f g h : Forest} {z : Nat} (a : GetFrame f g z) (b : GetFrame g h z) : GetFrame f h z := by
  intro t ht
  obtain ⟨t1, h1, v1, k1⟩ := a t ht
  obtain ⟨t2, h2, v2, k2⟩ := b t1 h1
  exact ⟨t2, h2, v2.trans v1, k2.trans k1⟩

theorem GetFrame.frameAt {f f' : Forest} {z : Nat} (a : GetFrame f f' z) (hl : f.isLive z = true) :
    Forest.FrameAt f f' z := by
  obtain ⟨t, hg⟩ := Forest.get?_of_isLive hl
  obtain ⟨t', hg', hv, hk⟩ := a t hg
  exact Forest.FrameAt.of_get hg hg' hv hk

/-- The frame of the specification functions (`NodeFrame`, Lemmas/FspecFrame.lean) also keeps the values
    of the children. -/
theorem NodeFrame.getFrame {f f' : Forest} {z : Nat} (a : NodeFrame f f' z) : GetFrame f f' z := by
  intro t ht
  obtain ⟨t', h1, hs⟩ := a t ht
  exact ⟨t', h1, congrArg Prod.fst hs, Fmap.map_handle_of_hv (congrArg Prod.snd hs)⟩

theorem textFree_of_not_mem {f : Forest} {z : Nat} {p : Option Nat} (h : z ∉ f.siteW p) : TextFree f z p := by
  intro q v L e hg k hk hkt hkz
  subst e
  apply h
  show z ∈ q :: f.textKidHandles q
  apply List.mem_cons_of_mem
  unfold Forest.textKidHandles
  rw [hg]
  exact List.mem_map.2 ⟨k, List.mem_filter.2 ⟨hk, hkt⟩, hkz⟩

theorem getFrame_specRemoveP {f : Forest} {n : Nat} {t : HTree} (inv : f.Inv)
    (hg : f.get? n = some t) {z : Nat}
    (h1 : some z ≠ f.parent? n) (hT : TextFree f z (f.parent? n)) (h3 : z ∉ handles t) :
    GetFrame f (specRemoveP n f) z :=
  (nodeFrame_specRemoveP inv hg h1 hT h3).getFrame

theorem getFrame_specMoveP {f : Forest} {dest : Dest} {c : Nat} {t : HTree} {q : Nat} {vq : Value}
    {Lq : List HTree} (inv : f.Inv) (hgc : f.get? c = some t) (sq : SiteAt f q vq Lq) (hqt : q ∉ handles t)
    (hvq : vq.isText = false) (hsite : dest.site f = some q)
    {z : Nat} (h1 : z ≠ q) (h2 : some z ≠ f.parent? c) (h3 : z ∉ handles t)
    (hTq : TextFree f z (some q)) (hTo : TextFree f z (f.parent? c)) :
    GetFrame f (specMoveP dest c f) z :=
  ((specMoveP_nodeFrame (dest := dest) inv hgc sq hqt hvq hsite).2 h1 h2 h3 hTq hTo).getFrame

end XotModel

/-! ## `element_unwrap` -/

namespace XotModel
open HTree Spec PairAll

theorem textFree_of_parts {f : Forest} {z n : Nat} (h2 : z ≠ n) (h : z ∉ f.textKidHandles n) :
    TextFree f z (some n) :=
  textFree_of_not_mem (p := some n) (fun hm => by
    rcases List.mem_cons.1 hm with e | e
    · exact h2 e
    · exact h e)

theorem getFrame_specUnwrapP {f : Forest} {n p : Nat} (inv : f.Inv) (hp : f.parent? n = some p)
    {z : Nat} (h1 : z ≠ p) (h2 : z ≠ n) (hTp : TextFree f z (some p)) (hTn : z ∉ f.textKidHandles n)
    (hAb : z ∉ f.abnormalKidHandles n) :
    GetFrame f (specUnwrapP n f) z := by
  refine ((specUnwrapP_nodeFrame inv hp).2 h1 h2 hTp (textFree_of_parts h2 hTn) ?_).getFrame
  intro v L hg k hk hkn e
  apply hAb
  unfold Forest.abnormalKidHandles
  rw [hg]
  exact List.mem_map.2 ⟨k, List.mem_filter.2 ⟨hk, by simp [hkn]⟩, e⟩

theorem getFrame_unwrap_kid {f : Forest} {n p : Nat} (inv : f.Inv) (hok : (f.elementUnwrap n).2 = .ok)
    (hp : f.parent? n = some p) {z : Nat} (h2 : z ≠ n) (hwp : z ∉ f.siteW (some p))
    (hTn : z ∉ f.textKidHandles n) (hAb : z ∉ f.abnormalKidHandles n) :
    GetFrame f (f.elementUnwrap n).1 z := by
  rw [unwrap_pair inv hok]
  exact getFrame_specUnwrapP inv hp (fun e => hwp (by rw [e]; exact List.mem_cons_self ..)) h2
    (textFree_of_not_mem hwp) hTn hAb

end XotModel

/-! ## `replace` -/

namespace XotModel
open HTree Spec PairAll

theorem getFrame_specReplaceP_far {f : Forest} {a b q : Nat} {vq : Value} {l : List HTree} {A : HTree}
    {r : List HTree} {t : HTree} (inv : f.Inv) (ra : ReplArgs f a b q vq l A r t)
    (hnadj : adjacentTo f a b = false)
    {z : Nat} (h1 : z ≠ q) (h2 : some z ≠ f.parent? b) (h3 : z ∉ handles t) (h5 : z ∉ handles A)
    (hTq : TextFree f z (some q)) (hTo : TextFree f z (f.parent? b)) :
    GetFrame f (specReplaceP a b f) z :=
  ((specReplaceP_far_nodeFrame inv ra hnadj).2 h1 h2 h3 h5 hTq hTo).getFrame

/-- **Frame of `replace`, `get?` form**: every forest with the invariant, every geometry. -/
theorem getFrame_replace {f : Forest} {a b : Nat} (inv : f.Inv) (hok : (f.replace a b).2 = .ok) {z : Nat}
    (hwa : z ∉ f.siteW (f.parent? a)) (hwb : z ∉ f.siteW (f.parent? b))
    (h3 : z ∉ f.subtreeHandles b) (h5 : z ∉ f.subtreeHandles a) :
    GetFrame f (f.replace a b).1 z := by
  rw [replace_pair inv hok]
  obtain ⟨q, vq, l, A, r, t, ra, _⟩ := replace_unpack inv hok
  have hq : f.parent? a = some q := Forest.parent?_of_ctx? ra.ctx_a
  rw [hq] at hwa
  have h3' : z ∉ handles t := by
    unfold Forest.subtreeHandles at h3; rw [ra.hgb] at h3; exact h3
  have h5' : z ∉ handles A := by
    unfold Forest.subtreeHandles at h5; rw [ra.live_a] at h5; exact h5
  have hTq : TextFree f z (some q) := textFree_of_not_mem hwa
  have h1 : z ≠ q := fun e => hwa (by rw [e]; exact List.mem_cons_self ..)
  cases hadj : adjacentTo f a b with
  | true =>
    unfold specReplaceP
    rw [hadj, if_pos rfl]
    exact getFrame_specRemoveP inv ra.live_a (by rw [hq]; exact fun e => h1 (Option.some.inj e))
      (by rw [hq]; exact hTq) h5'
  | false =>
    have h2 : some z ≠ f.parent? b := by
      intro e
      apply hwb
      rw [← e]
      exact List.mem_cons_self ..
    have hTo : TextFree f z (f.parent? b) := textFree_of_not_mem hwb
    exact getFrame_specReplaceP_far inv ra hadj h1 h2 h3' h5' hTq hTo

end XotModel

/-! ## Map insert / remove, `clone_node`, `element_wrap`, `text_content_mut().set()` -/

namespace XotModel
open HTree Spec PairAll
open Forest (MapKind)

/-! ### Map updates -/

theorem not_entry_of_not_mem {f : Forest} {k : MapKind} {e z : Nat} (hz : z ∉ f.entryHandles k e) :
    ∀ c ∈ f.kidsOf e, k.matches c.value = true → c.handle ≠ z := by
  intro c hc hm e'
  apply hz
  unfold Forest.entryHandles
  unfold Forest.kidsOf at hc
  cases hg : f.get? e with
  | none => rw [hg] at hc; cases hc
  | some t =>
    rw [hg] at hc
    exact List.mem_map.2 ⟨c, List.mem_filter.2 ⟨hc, hm⟩, e'⟩

theorem getFrame_mapInsert {f : Forest} (inv : f.Inv) {k : MapKind} {e : Nat} {entry : Value}
    (he : f.isElement e = true) (hm : k.matches entry = true) {z : Nat} (hne : z ≠ e)
    (hz : z ∉ f.entryHandles k e) : GetFrame f (f.mapInsert k e entry).1 z := by
  rw [mapInsert_spec inv he hm]
  intro u hu
  obtain ⟨u', h1, _, h3, h4, _⟩ := specMapInsert_get_frame (k := k) (e := e) (entry := entry) inv hne hu
    (fun c hc hce => by
      unfold isEntry at hce
      rw [Bool.and_eq_true] at hce
      exact not_entry_of_not_mem hz c hc hce.1)
  exact ⟨u', h1, h3, h4⟩

theorem getFrame_mapRemove {f : Forest} (inv : f.Inv) {k : MapKind} {e key : Nat}
    (he : f.isElement e = true) {z : Nat} (hne : z ≠ e)
    (hz : z ∉ f.entryHandles k e) : GetFrame f (f.mapRemove k e key).1 z := by
  rw [mapRemove_spec inv he]
  obtain ⟨nm, N, A, S, h⟩ := Fmap.minv_of_inv f e inv he
  have s := MInv_site h
  intro u hu
  obtain ⟨u', h1, _, h3, h4, _⟩ := specMapRemove_get_frame (k := k) (e := e) (key := key) inv hne hu
    (fun c hc hce hin => by
      have hcL : c ∈ N ++ A ++ S := by rw [← Forest.kidsOf_of_get s.kids]; exact hc
      have hvalid := (validTree_node (s.valid inv.valid)).2.2.2
      have hvc := validList_all _ _ hvalid c hcL
      unfold isEntry at hce
      rw [Bool.and_eq_true] at hce
      have hcat : c.value.category ≠ .normal := by
        rw [(Fmap.matches_iff_cat k c.value).1 hce.1]
        exact Fmap.kindCat_ne_normal k
      have hleaf := kids_nil_of_not_normal hvc hcat
      cases c with
      | node ch cv cks =>
        simp only [HTree.kids] at hleaf
        subst hleaf
        rw [handles_node, handlesList_nil, List.mem_singleton] at hin
        exact not_entry_of_not_mem hz _ hc hce.1 hin.symm)
  exact ⟨u', h1, h3, h4⟩

/-! ### clone_node -/

theorem getFrame_cloneNode {f : Forest} {n : Nat} {src : HTree} (inv : f.Inv) (hsrc : f.get? n = some src)
    (z : Nat) : GetFrame f (f.cloneNode n).1 z := by
  obtain ⟨c, C, _, _, h3, _⟩ := cloneNode_spec' inv hsrc
  intro u hu
  refine ⟨u, ?_, rfl, rfl⟩
  show findList? z (f.cloneNode n).1.roots = some u
  rw [h3, Fmap.findList?_append]
  have : findList? z f.roots = some u := hu
  rw [this]; rfl

/-! ### element_wrap -/

theorem getFrame_specWrap {f : Forest} {n : Nat} (name : Nat) {t : HTree} (inv : f.Inv) (hg : f.get? n = some t)
    {z : Nat} (hzl : f.isLive z = true) (h1 : some z ≠ f.parent? n) (h3 : z ∉ handles t) :
    GetFrame f (specWrap n name f) z :=
  ((specWrap_nodeFrame name inv hg).2 h1).getFrame

theorem getFrame_wrap {f : Forest} {n name : Nat} {t : HTree} (inv : f.Inv)
    (hok : (f.elementWrap n name).2.1 = .ok) (hg : f.get? n = some t)
    {z : Nat} (hzl : f.isLive z = true) (h1 : some z ≠ f.parent? n) (h3 : z ∉ handles t) :
    GetFrame f (f.elementWrap n name).1 z := by
  have e : (f.elementWrap n name).1 = specWrap n name f := by
    cases hpar : f.parent? n with
    | none => exact (wrap_spec_root inv hpar hok).1
    | some p => exact (wrap_spec_kid inv hpar hok).1
  rw [e]
  exact getFrame_specWrap name inv hg hzl h1 h3

/-! ### text_content_mut().set() -/

theorem getFrame_specSetValue {f : Forest} (nd : f.allHandles.Nodup) {n z : Nat} (v : Value) (hne : z ≠ n) :
    GetFrame f (specSetValue n v f) z := by
  intro t hg
  have hth : t.handle = z := (findList?_some f.roots t hg).1
  have hg' : (specSetValue n v f).get? z = some (mapAt n (HTree.setValue v) t) := by
    rw [specSetValue_get nd n z v, hg]; rfl
  obtain ⟨a, b⟩ := fg_mapAt_setValue_top v t (by rw [hth]; exact hne)
  exact ⟨_, hg', a, b⟩

theorem getFrame_textContentSet {f : Forest} (inv : f.Inv) {n : Nat} {s : Str}
    (hok : (f.textContentSet n s).2 = .ok) {z : Nat} (hzl : f.isLive z = true) (hne : z ≠ n)
    (hk : z ∉ f.kidHandles n) : GetFrame f (f.textContentSet n s).1 z := by
  rw [textContentSet_spec inv hok]
  have hzn : z ≠ f.next := by
    obtain ⟨u, hu⟩ := Forest.get?_of_isLive hzl
    intro e
    exact Nat.lt_irrefl _ (e ▸ inv.below _ (mem_of_findList?_some hu))
  unfold specTextContentSet
  split
  · intro u hu
    obtain ⟨u', h1, _, _, h3, h4, _⟩ := Forest.editAt_get_frame
      (g := insertLast (.node f.next (.text s) [])) inv.nodup hne hu (fun v L _ => by
        show findList? z (L ++ [HTree.node f.next (.text s) []]) = findList? z L
        rw [Fmap.findList?_append, findList?_cons, find?_fresh_leaf _ hzn, findList?_nil]
        cases findList? z L <;> rfl)
    exact ⟨u', h1, h3, h4⟩
  · rename_i c hc
    apply getFrame_specSetValue inv.nodup
    intro e
    apply hk
    have hcm : c ∈ (f.kidsOf n).filter (fun k => k.value.isNormal) := by
      rw [hc]; exact List.mem_singleton.2 rfl
    have hm := (List.mem_filter.1 hcm).1
    unfold Forest.kidsOf at hm
    unfold Forest.kidHandles
    cases hg : f.get? n with
    | none => rw [hg] at hm; cases hm
    | some t =>
      rw [hg] at hm
      exact List.mem_map.2 ⟨c, hm, e.symm⟩
  · exact GetFrame.refl f z

end XotModel

/-! ## `clone_with_prefixes` -/

namespace XotModel
open HTree Spec PairAll
open Forest (MapKind)

/-- What the loop keeps: the old node `z` is live, is not the clone and not a child of the clone. -/
structure CwpInv (f : Forest) (c z : Nat) : Prop where
  inv : f.Inv
  elem : f.isElement c = true
  live : f.isLive z = true
  ne : z ≠ c
  kid : z ∉ f.kidHandles c

theorem get_node_of_isElement {f : Forest} {c : Nat} (he : f.isElement c = true) :
    ∃ v ks, f.get? c = some (.node c v ks) ∧ v.isElement = true := by
  unfold Forest.isElement Forest.value? at he
  cases hg : f.get? c with
  | none => rw [hg] at he; simp at he
  | some t =>
    have hth : t.handle = c := (findList?_some f.roots t hg).1
    cases t with
    | node h v ks =>
      have : h = c := hth
      subst this
      rw [hg] at he
      refine ⟨v, ks, rfl, ?_⟩
      simpa using he

theorem cwp_step {f : Forest} {c z : Nat} (I : CwpInv f c z) (p ns : Nat) :
    CwpInv (f.mapInsert .namespaces c (.namespace p ns)).1 c z ∧
      GetFrame f (f.mapInsert .namespaces c (.namespace p ns)).1 z := by
  have hm : MapKind.namespaces.matches (.namespace p ns) = true := rfl
  have hent : z ∉ f.entryHandles .namespaces c := by
    intro h
    apply I.kid
    unfold Forest.entryHandles at h
    unfold Forest.kidHandles
    cases hg : f.get? c with
    | none => rw [hg] at h; cases h
    | some t =>
      rw [hg] at h
      obtain ⟨k, hk, e⟩ := List.mem_map.1 h
      exact List.mem_map.2 ⟨k, (List.mem_filter.1 hk).1, e⟩
  have gf := getFrame_mapInsert I.inv I.elem hm I.ne hent
  refine ⟨⟨Forest.mapInsert_inv I.inv .namespaces c _ hm, ?_, (gf.frameAt I.live).live, I.ne, ?_⟩, gf⟩
  · obtain ⟨v, ks, hg, hv⟩ := get_node_of_isElement I.elem
    obtain ⟨k1, k2⟩ := mapInsert_kids (k := .namespaces) (entry := .namespace p ns) I.inv I.elem hm hg
    cases hf : ks.find? (isEntry .namespaces (Forest.entryKey (.namespace p ns))) with
    | some n =>
      obtain ⟨X, Y, _, _, h3, _⟩ := k1 n hf
      unfold Forest.isElement Forest.value?
      rw [h3]
      simpa using hv
    | none =>
      obtain ⟨A, B, _, _, _, h3, _⟩ := k2 hf
      unfold Forest.isElement Forest.value?
      rw [h3]
      simpa using hv
  · obtain ⟨v, ks, hg, hv⟩ := get_node_of_isElement I.elem
    have hzn : z ≠ f.next := by
      obtain ⟨u, hu⟩ := Forest.get?_of_isLive I.live
      intro e
      exact Nat.lt_irrefl _ (e ▸ I.inv.below _ (mem_of_findList?_some hu))
    have hkid : z ∉ ks.map (·.handle) := by
      have := I.kid
      unfold Forest.kidHandles at this
      rw [hg] at this
      exact this
    obtain ⟨k1, k2⟩ := mapInsert_kids (k := .namespaces) (entry := .namespace p ns) I.inv I.elem hm hg
    cases hf : ks.find? (isEntry .namespaces (Forest.entryKey (.namespace p ns))) with
    | some n =>
      obtain ⟨X, Y, e1, _, h3, _⟩ := k1 n hf
      unfold Forest.kidHandles
      rw [h3]
      intro hin
      apply hkid
      rw [e1]
      simp only [HTree.kids, List.map_append, List.map_cons, List.mem_append, List.mem_cons] at hin ⊢
      rcases hin with h | h | h
      · exact Or.inl h
      · refine Or.inr (Or.inl ?_)
        cases n with
        | node nh nv nks => exact h
      · exact Or.inr (Or.inr h)
    | none =>
      obtain ⟨A, B, e1, _, _, h3, _⟩ := k2 hf
      unfold Forest.kidHandles
      rw [h3]
      intro hin
      apply hkid
      rw [e1]
      simp only [HTree.kids, List.map_append, List.map_cons, List.mem_append, List.mem_cons] at hin ⊢
      rcases hin with h | h | h
      · exact Or.inl h
      · exact absurd h hzn
      · exact Or.inr h

theorem getFrame_addPrefixes {c z : Nat} : ∀ (order : List (Nat × Nat)) (f : Forest), CwpInv f c z →
    GetFrame f (f.addPrefixes c order).1 z
  | [], f, _ => GetFrame.refl f z
  | (p, ns) :: rest, f, I => by
    unfold Forest.addPrefixes
    split
    · exact getFrame_addPrefixes rest f I
    · obtain ⟨I', gf⟩ := cwp_step I p ns
      have hm : MapKind.namespaces.matches (.namespace p ns) = true := rfl
      have e := mapInsert_spec (k := .namespaces) (entry := .namespace p ns) I.inv I.elem hm
      rw [e] at I' gf ⊢
      simp only
      exact gf.trans (getFrame_addPrefixes rest _ I')

theorem getFrame_cloneWithPrefixes {f : Forest} {n : Nat} {src : HTree} (inv : f.Inv) (env : Env)
    (hsrc : f.get? n = some src) (order : List (Nat × Nat)) {z : Nat} (hzl : f.isLive z = true) :
    GetFrame f (f.cloneWithPrefixes n order).1 z := by
  have g1 := getFrame_cloneNode inv hsrc z
  obtain ⟨c, C, h1, h2, h3, _, h5, _⟩ := cloneNode_spec' inv hsrc
  have inv1 : (f.cloneNode n).1.Inv :=
    Store.xstep_inv (s := ⟨f, env⟩) inv (.call (.cloneNode n)) trivial
  unfold Forest.cloneWithPrefixes
  cases hcn : f.cloneNode n with
  | mk f1 oc =>
    rw [hcn] at g1 h1 h3 inv1
    simp only at g1 h1 h3 inv1
    subst h1
    simp only
    split
    · rename_i he
      have hz : z < f.next := by
        obtain ⟨u, hu⟩ := Forest.get?_of_isLive hzl
        exact inv.below _ (mem_of_findList?_some hu)
      have hcC : c ∈ handles C := h2 ▸ handle_mem_handles C
      have hne : z ≠ c := by
        intro e
        have := (h5 c hcC).1
        omega
      have hgc : f1.get? c = some C := by
        show findList? c f1.roots = some C
        rw [h3, Fmap.findList?_append, (findList?_none_iff _ _).2 (h5 c hcC).2.2, findList?_cons]
        cases C with
        | node ch cv cks =>
          have : ch = c := h2
          subst this
          rw [find?_node, if_pos rfl]; rfl
      have hkid : z ∉ f1.kidHandles c := by
        unfold Forest.kidHandles
        rw [hgc]
        intro hin
        obtain ⟨k, hk, e⟩ := List.mem_map.1 hin
        cases C with
        | node ch cv cks =>
          have hkin : k.handle ∈ handles (HTree.node ch cv cks) := by
            rw [handles_node]
            exact List.mem_cons_of_mem _ (handles_subset_handlesList hk _ (handle_mem_handles k))
          have := (h5 _ hkin).1
          omega
      have I : CwpInv f1 c z := ⟨inv1, he, (g1.frameAt hzl).live, hne, hkid⟩
      have g2 := getFrame_addPrefixes order f1 I
      revert g2
      generalize f1.addPrefixes c order = res
      intro g2
      obtain ⟨f2, r⟩ := res
      cases r <;> exact g1.trans g2
    · exact g1

end XotModel

/-! ## `frame_general`: constructor by constructor over `XCall.framed` -/

namespace XotModel
open HTree Spec PairAll

/-! ### What `h ∉ siteW …` says -/

theorem ne_of_not_mem_siteW {f : Forest} {z q : Nat} (h : z ∉ f.siteW (some q)) : z ≠ q :=
  fun e => h (by rw [e]; exact List.mem_cons_self ..)

theorem ne_parent_of_not_mem_siteW {f : Forest} {z : Nat} {p : Option Nat} (h : z ∉ f.siteW p) : some z ≠ p := by
  intro e
  apply h
  rw [← e]
  exact List.mem_cons_self ..

theorem not_mem_handles_of_subtree {f : Forest} {z n : Nat} {t : HTree} (hg : f.get? n = some t)
    (h : z ∉ f.subtreeHandles n) : z ∉ handles t := by
  unfold Forest.subtreeHandles at h
  rw [hg] at h
  exact h

/-! ### The six calls -/

theorem getFrame_remove {f : Forest} {n : Nat} {t : HTree} (inv : f.Inv) (hg : f.get? n = some t) {z : Nat}
    (hw : z ∉ f.siteW (f.parent? n)) (h3 : z ∉ handles t) : GetFrame f (f.remove n).1 z := by
  rw [remove_pair inv (Forest.isLive_of_get? hg)]
  exact getFrame_specRemoveP inv hg (ne_parent_of_not_mem_siteW hw) (textFree_of_not_mem hw) h3

theorem getFrame_insertLast (Z : Forest) (t : HTree) (z : Nat) : GetFrame Z (Z.editAt none (insertLast t)) z := by
  intro u hu
  refine ⟨u, ?_, rfl, rfl⟩
  show findList? z (Z.roots ++ [t]) = some u
  rw [Fmap.findList?_append]
  have : findList? z Z.roots = some u := hu
  rw [this]; rfl

theorem getFrame_detach {f : Forest} {n : Nat} {t : HTree} (inv : f.Inv) (hg : f.get? n = some t) {z : Nat}
    (hw : z ∉ f.siteW (f.parent? n)) (h3 : z ∉ handles t) : GetFrame f (f.detach n).1 z := by
  rw [detach_pair inv (Forest.isLive_of_get? hg), specDetachP_eq inv.nodup hg]
  exact (getFrame_specRemoveP inv hg (ne_parent_of_not_mem_siteW hw) (textFree_of_not_mem hw) h3).trans
    (getFrame_insertLast _ t z)

/-- A move under `p` (to either end of its child list), once the structure check has passed. -/
theorem getFrame_move_under {f : Forest} {p c : Nat} {t : HTree} (inv : f.Inv)
    (hsc : f.structureCheck (some p) c = true) (hgc : f.get? c = some t) {dest : Dest}
    (hsite : f.isLive p = true → dest.site f = some p) {z : Nat}
    (hwo : z ∉ f.siteW (f.parent? c)) (hwp : z ∉ f.siteW (some p)) (h3 : z ∉ handles t) :
    GetFrame f (specMoveP dest c f) z := by
  have nd := inv.nodup
  obtain ⟨vp, Lp, t', hgp, hgc', hpt, hnorm, hndoc, hvp⟩ := Forest.structureCheck_unpack nd hsc
  rw [hgc] at hgc'
  have := Option.some.inj hgc'
  subst this
  exact getFrame_specMoveP inv hgc ⟨nd, hgp⟩ hpt (isText_false_of_kind hvp) (hsite (Forest.isLive_of_get? hgp))
    (ne_of_not_mem_siteW hwp) (ne_parent_of_not_mem_siteW hwo) h3 (textFree_of_not_mem hwp) (textFree_of_not_mem hwo)

/-- A move beside `r` (to either side), once the two checks have passed. -/
theorem getFrame_move_beside {f : Forest} {r c : Nat} {t : HTree} (inv : f.Inv)
    (hsc : f.structureCheck (f.parent? r) c = true) (hsr : f.siblingReferenceCheck r c = true)
    (hgc : f.get? c = some t) {dest : Dest} (hsite : dest.site f = f.parent? r) {z : Nat}
    (hwo : z ∉ f.siteW (f.parent? c)) (hwp : z ∉ f.siteW (f.parent? r)) (h3 : z ∉ handles t) :
    GetFrame f (specMoveP dest c f) z := by
  have nd := inv.nodup
  obtain ⟨q, vq, A, kr, B, t', sq, ekr, hkrn, hrc, hgc', hqt, hnorm, hndoc, hvq⟩ := sibling_checks_unpack nd hsc hsr
  subst ekr
  rw [hgc] at hgc'
  have := Option.some.inj hgc'
  subst this
  have hq : f.parent? kr.handle = some q := Forest.parent?_of_ctx? sq.ctx
  rw [hq] at hwp hsite
  exact getFrame_specMoveP inv hgc sq hqt hvq hsite
    (ne_of_not_mem_siteW hwp) (ne_parent_of_not_mem_siteW hwo) h3 (textFree_of_not_mem hwp) (textFree_of_not_mem hwo)

theorem getFrame_append {f : Forest} {p c : Nat} {t : HTree} (inv : f.Inv)
    (hok : (f.append p c).2 = .ok) (hgc : f.get? c = some t) {z : Nat}
    (hwo : z ∉ f.siteW (f.parent? c)) (hwp : z ∉ f.siteW (some p)) (h3 : z ∉ handles t) :
    GetFrame f (f.append p c).1 z := by
  rw [append_pair inv hok]
  exact getFrame_move_under inv (Forest.append_ok_check hok) hgc (fun hl => by simp only [Dest.site, hl, if_true]) hwo hwp h3

theorem getFrame_prepend {f : Forest} {p c : Nat} {t : HTree} (inv : f.Inv)
    (hok : (f.prepend p c).2 = .ok) (hgc : f.get? c = some t) {z : Nat}
    (hwo : z ∉ f.siteW (f.parent? c)) (hwp : z ∉ f.siteW (some p)) (h3 : z ∉ handles t) :
    GetFrame f (f.prepend p c).1 z := by
  rw [prepend_pair inv hok]
  exact getFrame_move_under inv (prepend_ok_check hok) hgc (fun hl => by simp only [Dest.site, hl, if_true]) hwo hwp h3

theorem getFrame_insertAfter {f : Forest} {r c : Nat} {t : HTree} (inv : f.Inv)
    (hok : (f.insertAfter r c).2 = .ok) (hgc : f.get? c = some t) {z : Nat}
    (hwo : z ∉ f.siteW (f.parent? c)) (hwp : z ∉ f.siteW (f.parent? r)) (h3 : z ∉ handles t) :
    GetFrame f (f.insertAfter r c).1 z := by
  rw [insertAfter_pair inv hok]
  exact getFrame_move_beside inv (insertAfter_ok_checks hok).1 (insertAfter_ok_checks hok).2 hgc rfl hwo hwp h3

theorem getFrame_insertBefore {f : Forest} {r c : Nat} {t : HTree} (inv : f.Inv)
    (hok : (f.insertBefore r c).2 = .ok) (hgc : f.get? c = some t) {z : Nat}
    (hwo : z ∉ f.siteW (f.parent? c)) (hwp : z ∉ f.siteW (f.parent? r)) (h3 : z ∉ handles t) :
    GetFrame f (f.insertBefore r c).1 z := by
  rw [insertBefore_pair inv hok]
  exact getFrame_move_beside inv (insertBefore_ok_checks hok).1 (insertBefore_ok_checks hok).2 hgc rfl hwo hwp h3

/-! ### The general frame -/

theorem isElement_of_mapInsert_ok {f : Forest} {k : Forest.MapKind} {e : Nat} {entry : Value}
    (hok : (f.mapInsert k e entry).2 = .ok) : f.isElement e = true := by
  cases he : f.isElement e with
  | true => rfl
  | false => unfold Forest.mapInsert at hok; simp [he] at hok

theorem isElement_of_mapRemove_ok {f : Forest} {k : Forest.MapKind} {e key : Nat}
    (hok : (f.mapRemove k e key).2 = .ok) : f.isElement e = true := by
  cases he : f.isElement e with
  | true => rfl
  | false => unfold Forest.mapRemove at hok; simp [he] at hok

/-- **Value and child list.** -/
theorem frame_general {s : Store} {c : Forest.XCall} (inv : s.forest.Inv) (hw : c.wellKinded) (hf : c.framed = true)
    (hla : c.liveArgs s.forest) (hok : (c.run s).2 = .ok) {h : Nat} (hl : s.forest.isLive h = true)
    (hnw : h ∉ c.writtenParents s.forest) (hnr : h ∉ c.removedHandles s.forest)
    (hnm : h ∉ c.movedSubtree s.forest) :
    Forest.FrameAt s.forest (c.run s).1.forest h := by
  by_cases hs : simpleCall c = true
  · exact (frame_general_framed inv hs hl hnw).1
  · have nd := inv.nodup
    cases c with
    | call k =>
      cases k with
      | append p c =>
        obtain ⟨t, hg⟩ := Forest.get?_of_isLive (hla c (by simp [Forest.XCall.args, Forest.Call.args]))
        simp only [Forest.XCall.writtenParents, List.mem_append, not_or] at hnw
        exact (getFrame_append inv hok hg hnw.1.1 hnw.1.2 (not_mem_handles_of_subtree hg hnm)).frameAt hl
      | prepend p c =>
        obtain ⟨t, hg⟩ := Forest.get?_of_isLive (hla c (by simp [Forest.XCall.args, Forest.Call.args]))
        simp only [Forest.XCall.writtenParents, List.mem_append, not_or] at hnw
        exact (getFrame_prepend inv hok hg hnw.1.1 hnw.1.2 (not_mem_handles_of_subtree hg hnm)).frameAt hl
      | insertAfter r c =>
        obtain ⟨t, hg⟩ := Forest.get?_of_isLive (hla c (by simp [Forest.XCall.args, Forest.Call.args]))
        simp only [Forest.XCall.writtenParents, List.mem_append, not_or] at hnw
        exact (getFrame_insertAfter inv hok hg hnw.1.1 hnw.1.2 (not_mem_handles_of_subtree hg hnm)).frameAt hl
      | insertBefore r c =>
        obtain ⟨t, hg⟩ := Forest.get?_of_isLive (hla c (by simp [Forest.XCall.args, Forest.Call.args]))
        simp only [Forest.XCall.writtenParents, List.mem_append, not_or] at hnw
        exact (getFrame_insertBefore inv hok hg hnw.1.1 hnw.1.2 (not_mem_handles_of_subtree hg hnm)).frameAt hl
      | detach n =>
        cases hg : s.forest.get? n with
        | none =>
          have := hla n (List.mem_singleton.2 rfl)
          unfold Forest.isLive at this
          rw [hg] at this; cases this
        | some t =>
          exact (getFrame_detach inv hg hnw (not_mem_handles_of_subtree hg hnm)).frameAt hl
      | remove n =>
        cases hg : s.forest.get? n with
        | none =>
          have := hla n (List.mem_singleton.2 rfl)
          unfold Forest.isLive at this
          rw [hg] at this; cases this
        | some t =>
          exact (getFrame_remove inv hg hnw (not_mem_handles_of_subtree hg hnr)).frameAt hl
      | elementWrap n name =>
        obtain ⟨t, hg⟩ := Forest.get?_of_isLive (hla n (List.mem_singleton.2 rfl))
        exact (getFrame_wrap inv hok hg hl (ne_parent_of_not_mem_siteW hnw)
          (not_mem_handles_of_subtree hg hnm)).frameAt hl
      | replace a b =>
        simp only [Forest.XCall.writtenParents, List.mem_append, not_or] at hnw
        exact (getFrame_replace inv hok hnw.1.1 hnw.1.2 hnm hnr).frameAt hl
      | elementUnwrap n =>
        obtain ⟨t, hg⟩ := Forest.get?_of_isLive (hla n (List.mem_singleton.2 rfl))
        simp only [Forest.XCall.writtenParents, List.mem_cons, List.mem_append, not_or] at hnw
        simp only [Forest.XCall.removedHandles, List.mem_cons, not_or] at hnr
        have hok' : (s.forest.elementUnwrap n).2 = .ok := hok
        cases hp : s.forest.parent? n with
        | none =>
          have e : (Forest.XCall.run s (.call (.elementUnwrap n))).1.forest = (s.forest.remove n).1 := by
            show (s.forest.elementUnwrap n).1 = _
            rw [elementUnwrap_parentless hok' hp]
          rw [e]
          exact (getFrame_remove inv hg (by rw [hp]; intro hm; cases hm)
            (not_mem_handles_of_subtree hg hnm)).frameAt hl
        | some p =>
          rw [hp] at hnw
          exact (getFrame_unwrap_kid inv hok' hp hnw.1.1 hnw.2 hnw.1.2 hnr.2).frameAt hl
      | cloneNode n =>
        obtain ⟨t, hg⟩ := Forest.get?_of_isLive (hla n (List.mem_singleton.2 rfl))
        exact (getFrame_cloneNode inv hg h).frameAt hl
      | mapInsert k e entry =>
        have he := isElement_of_mapInsert_ok hok
        simp only [Forest.XCall.writtenParents, List.mem_cons, not_or] at hnw
        exact (getFrame_mapInsert inv he hw hnw.1 hnw.2).frameAt hl
      | mapRemove k e key =>
        have he := isElement_of_mapRemove_ok hok
        simp only [Forest.XCall.writtenParents, List.mem_cons, not_or] at hnw
        exact (getFrame_mapRemove inv he hnw.1 hnw.2).frameAt hl
      | textContentSet n str =>
        simp only [Forest.XCall.writtenParents, List.mem_cons, not_or] at hnw
        exact (getFrame_textContentSet inv hok hl hnw.1 hnw.2).frameAt hl
      | setElementName n name => exact absurd rfl hs
      | setText n t => exact absurd rfl hs
      | setComment n t => exact absurd rfl hs
      | setPiData n d => exact absurd rfl hs
      | _ => cases hf
    | newNode v => exact absurd rfl hs
    | setConsolidation b => exact absurd rfl hs
    | cloneWithPrefixes n order =>
      obtain ⟨t, hg⟩ := Forest.get?_of_isLive (hla n (List.mem_singleton.2 rfl))
      exact (getFrame_cloneWithPrefixes inv s.env hg order hl).frameAt hl
    | _ => cases hf

theorem parent?_of_kid {f : Forest} (nd : f.allHandles.Nodup) {p h : Nat} (hk : h ∈ f.kidHandles p) :
    f.parent? h = some p := by
  unfold Forest.kidHandles at hk
  cases hg : f.get? p with
  | none => rw [hg] at hk; cases hk
  | some t =>
    rw [hg] at hk
    obtain ⟨k, hkm, e⟩ := List.mem_map.1 hk
    have hth : t.handle = p := (findList?_some f.roots t hg).1
    cases t with
    | node q v L =>
      have : q = p := hth
      subst this
      have so : SiteAt f q v L := ⟨nd, hg⟩
      rw [← e]
      exact PairAfter.site_parent so hkm

theorem kid_of_parent? {f : Forest} (nd : f.allHandles.Nodup) {p h : Nat} (hp : f.parent? h = some p) :
    h ∈ f.kidHandles p := by
  cases hctx : f.ctx? h with
  | none => rw [Forest.parent?_of_no_ctx hctx] at hp; cases hp
  | some cx =>
    obtain ⟨e0, v, so⟩ := SiteAt.of_ctx nd hctx
    have hpp : cx.parent = p := by
      rw [Forest.parent?_of_ctx? hctx] at hp
      exact Option.some.inj hp
    rw [hpp] at so
    unfold Forest.kidHandles
    rw [so.kids]
    show h ∈ (cx.left ++ cx.self :: cx.right).map (·.handle)
    rw [List.map_append, List.map_cons, e0]
    exact List.mem_append_right _ (List.mem_cons_self ..)

/-- **The parent**: a node whose parent is framed keeps it. -/
theorem parent_of_frameAt {f f' : Forest} (nd : f.allHandles.Nodup) (nd' : f'.allHandles.Nodup) {p h : Nat}
    (hp : f.parent? h = some p) (fr : Forest.FrameAt f f' p) : f'.parent? h = some p := by
  apply parent?_of_kid nd'
  rw [fr.kids]
  exact kid_of_parent? nd hp

end XotModel
