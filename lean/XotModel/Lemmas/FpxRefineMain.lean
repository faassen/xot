/-
  The document loop, the three branches of `create_missing_prefixes`, and the refinement theorems in the vocabulary of
  the models as Props/C04 states them (`fpxr_element`, `fpxr_document`, `fpxr_element_writable`).
-/
import XotModel.Lemmas.FpxRefineElement
import XotModel.Lemmas.BasicFacts

/-! ## The `for element in elements` loop of the document branch -/

namespace XotModel
open HTree Repair

namespace Forest

/-- The loop's elements: handle and raw child index. -/
def LoopOK (f : Forest) (r : HTree) (path : Path) (es : List (Nat × Nat)) : Prop :=
  ∀ e ∈ es, f.isElement e.1 = true ∧ pathOf e.1 r = some (path ++ [e.2])

/-- **The document loop, forest model against tree model.**  Every element of the loop stays where it
    is while the others are repaired, so the steps compose (`RootStep.trans`). -/
theorem fpxr_repairElementsF (path : Path) : ∀ (es : List (Nat × Nat)) (env : Env) {f : Forest} {r : HTree},
    f.Inv → r ∈ f.roots → LoopOK f r path es →
    ∃ r', (repairElementsF (es.map (·.1)) env f).2.2 = .ok ∧
      RootStep f (repairElementsF (es.map (·.1)) env f).1 r r' ∧
      repairElements (es.map (·.2)) path env r.erase =
        .ok ((repairElementsF (es.map (·.1)) env f).2.1, r'.erase) ∧
      ∀ x q, pathOf x r = some q → (∀ e ∈ es, (path ++ [e.2]) <+: q → q = path ++ [e.2]) →
        pathOf x r' = some q
  | [], env, f, r, hi, hrm, _ => ⟨r, rfl, .refl hi hrm, rfl, fun x q hx _ => hx⟩
  | (e, i) :: rest, env, f, r, hi, hrm, hes => by
    obtain ⟨hee, hep⟩ := hes (e, i) (by simp)
    obtain ⟨r1, hok, st, htree, hstab⟩ := fpxr_repairElementF hi env hee hrm hep
    -- one step of both loops
    rcases hrun : f.repairElementF env e with ⟨f1, env1, res1⟩
    rw [hrun] at hok st htree
    simp only at hok st htree
    subst hok
    have hes1 : LoopOK f1 r1 path rest := by
      intro e' he'
      obtain ⟨h1, h2⟩ := hes e' (by simp [he'])
      exact ⟨by rw [st.isElement]; exact h1,
        hstab _ _ h2 (fun hp => (List.IsPrefix.eq_of_length hp (by simp)).symm)⟩
    obtain ⟨r2, k2, st2, k7, k9⟩ := fpxr_repairElementsF path rest env1 st.inv (st.mem hrm) hes1
    have hF : repairElementsF (((e, i) :: rest).map (·.1)) env f = repairElementsF (rest.map (·.1)) env1 f1 := by
      simp only [List.map_cons, repairElementsF, hrun]
    have hT : repairElements (((e, i) :: rest).map (·.2)) path env r.erase =
        repairElements (rest.map (·.2)) path env1 r1.erase := by
      simp only [List.map_cons, repairElements, htree]
    rw [hF, hT]
    exact ⟨r2, k2, st.trans st2, k7, fun x q hx hq =>
      k9 x q (hstab x q hx (hq (e, i) (by simp))) (fun e' he' => hq e' (by simp [he']))⟩

end Forest
end XotModel

/-! ## `create_missing_prefixes(node)`: the three branches -/

namespace XotModel
open HTree Repair

namespace HTree

/-- The element children of a child list: handle and raw index (from `i`). -/
def elemPairs : Nat → List HTree → List (Nat × Nat)
  | _, [] => []
  | i, k :: ks => if k.value.isElement then (k.handle, i) :: elemPairs (i + 1) ks else elemPairs (i + 1) ks

theorem elemPairs_cons (i : Nat) (k : HTree) (ks : List HTree) :
    elemPairs i (k :: ks) =
      if k.value.isElement then (k.handle, i) :: elemPairs (i + 1) ks else elemPairs (i + 1) ks := rfl

theorem elemPairs_fst : ∀ (i : Nat) (ks : List HTree),
    (elemPairs i ks).map (·.1) = (ks.filter (fun k => k.value.isElement)).map (·.handle)
  | _, [] => rfl
  | i, k :: ks => by
    unfold elemPairs
    by_cases hk : k.value.isElement = true
    · simp [hk, elemPairs_fst (i + 1) ks]
    · simp [hk, elemPairs_fst (i + 1) ks]

theorem eraseList_length (ks : List HTree) : (eraseList ks).length = ks.length := by
  rw [eraseList_map, List.length_map]

theorem Fpx.sub_eq_sub_succ_add_one {i j : Nat} (h : i + 1 ≤ j) : j - i = (j - (i + 1)) + 1 := by omega

theorem elemPairs_snd : ∀ (i : Nat) (ks : List HTree),
    (elemPairs i ks).map (·.2) = (List.range' i ks.length).filter (fun j =>
      match (eraseList ks)[j - i]? with
      | some k => k.value.isElement
      | none => false)
  | _, [] => rfl
  | i, k :: ks => by
    have ih := elemPairs_snd (i + 1) ks
    have htail : (List.range' (i + 1) ks.length).filter (fun j =>
        match (erase k :: eraseList ks)[j - i]? with
        | some k => k.value.isElement
        | none => false) = (List.range' (i + 1) ks.length).filter (fun j =>
        match (eraseList ks)[j - (i + 1)]? with
        | some k => k.value.isElement
        | none => false) := by
      apply List.filter_congr
      intro j hj
      rw [Fpx.sub_eq_sub_succ_add_one (List.mem_range'_1.mp hj).1]
      simp
    simp only [List.length_cons, List.range'_succ, List.filter_cons, Nat.sub_self, eraseList,
      List.getElem?_cons_zero, Reach.erase_value]
    rw [htail, ← ih, elemPairs_cons]
    by_cases hk : k.value.isElement = true
    · simp [hk]
    · simp [hk]

theorem elemPairs_snd0 (ks : List HTree) : (elemPairs 0 ks).map (·.2) = elementKidIndices (eraseList ks) := by
  rw [elemPairs_snd]
  unfold elementKidIndices
  rw [List.range_eq_range', eraseList_length]
  rfl

theorem mem_elemPairs : ∀ (i : Nat) (ks : List HTree) (h j : Nat), (h, j) ∈ elemPairs i ks →
    ∃ k, i ≤ j ∧ ks[j - i]? = some k ∧ k.handle = h ∧ k.value.isElement = true
  | _, [], _, _, hm => by simp [elemPairs] at hm
  | i, k :: ks, h, j, hm => by
    unfold elemPairs at hm
    have rec_ : (h, j) ∈ elemPairs (i + 1) ks → ∃ k', i ≤ j ∧ (k :: ks)[j - i]? = some k' ∧ k'.handle = h ∧
        k'.value.isElement = true := by
      intro hm'
      obtain ⟨k', h1, h2, h3, h4⟩ := mem_elemPairs (i + 1) ks h j hm'
      refine ⟨k', Nat.le_of_succ_le h1, ?_, h3, h4⟩
      rw [Fpx.sub_eq_sub_succ_add_one h1, List.getElem?_cons_succ]; exact h2
    by_cases hk : k.value.isElement = true
    · rw [if_pos hk] at hm
      rcases List.mem_cons.mp hm with e | e
      · simp only [Prod.mk.injEq] at e
        obtain ⟨rfl, rfl⟩ := e
        exact ⟨k, Nat.le_refl _, by simp, rfl, hk⟩
      · exact rec_ e
    · rw [if_neg hk] at hm
      exact rec_ hm

end HTree

namespace Forest

theorem fpxr_kinds {f : Forest} {nd : Nat} {D : HTree} (hg : f.get? nd = some D) :
    f.isElement nd = D.value.isElement ∧ f.isDocument nd = D.value.isDocument := by
  unfold isElement isDocument value?
  rw [hg]
  constructor
  · cases h : D.value.isElement <;> simp [h]
  · cases h : D.value.isDocument <;> simp [h]

/-- Element branch: both models call their `create_missing_prefixes_for_element`. -/
theorem fpxr_cmp_element {f : Forest} (hi : f.Inv) (env : Env) {nd : Nat} (he : f.isElement nd = true)
    {r : HTree} (hr : f.rootOf? nd = some r) {path : Path} (hp : r.pathOf nd = some path) :
    f.createMissingPrefixes env nd = f.repairElementF env nd ∧
      XotModel.createMissingPrefixes env r.erase path = repairElement env r.erase path := by
  obtain ⟨D, _, hg, _, _, hDe⟩ := fpxr_locate hi hr hp
  obtain ⟨k1, k2⟩ := fpxr_kinds hg
  rw [he] at k1
  have hdoc : D.value.isDocument = false := by
    obtain ⟨name, hv⟩ := Repair.eq_element_of_isElement k1.symm
    rw [hv]; rfl
  constructor
  · unfold Forest.createMissingPrefixes
    rw [k2, hdoc, he]
    simp
  · unfold XotModel.createMissingPrefixes
    rw [hDe]
    simp only [Reach.erase_value, hdoc, ← k1]
    simp

/-- Refusal `NotElement`: neither model touches anything. -/
theorem fpxr_cmp_notElement {f : Forest} (hi : f.Inv) (env : Env) {nd : Nat} (he : f.isElement nd = false)
    (hd : f.isDocument nd = false) {r : HTree} (hr : f.rootOf? nd = some r) {path : Path}
    (hp : r.pathOf nd = some path) :
    f.createMissingPrefixes env nd = (f, env, .err .notElement) ∧
      XotModel.createMissingPrefixes env r.erase path = .err .notElement := by
  obtain ⟨D, _, hg, _, _, hDe⟩ := fpxr_locate hi hr hp
  obtain ⟨k1, k2⟩ := fpxr_kinds hg
  rw [he] at k1
  rw [hd] at k2
  constructor
  · unfold Forest.createMissingPrefixes
    simp [hd, he]
  · unfold XotModel.createMissingPrefixes
    rw [hDe]
    simp only [Reach.erase_value, ← k1, ← k2]
    simp

/-- Document / fragment branch: both models collect the element children of the node (`elemPairs`:
    handles for the forest model, raw indices for the tree model), refuse when there is none, and loop
    otherwise. -/
theorem fpxr_cmp_document {f : Forest} (hi : f.Inv) (env : Env) {nd : Nat} (hd : f.isDocument nd = true)
    {r : HTree} (hr : f.rootOf? nd = some r) {path : Path} (hp : r.pathOf nd = some path) :
    ∃ D, f.get? nd = some D ∧ r.at? path = some D ∧ LoopOK f r path (elemPairs 0 D.kids) ∧
      f.createMissingPrefixes env nd =
        (if (elemPairs 0 D.kids).isEmpty then (f, env, .err .noElementAtTopLevel)
         else repairElementsF ((elemPairs 0 D.kids).map (·.1)) env f) ∧
      XotModel.createMissingPrefixes env r.erase path =
        (if (elemPairs 0 D.kids).isEmpty then .err .noElementAtTopLevel
         else repairElements ((elemPairs 0 D.kids).map (·.2)) path env r.erase) := by
  obtain ⟨D, hrm, hg, hD, hDh, hDe⟩ := fpxr_locate hi hr hp
  obtain ⟨_, k2⟩ := fpxr_kinds hg
  rw [hd] at k2
  have hndr : (handles r).Nodup := Fws.nodup_of_mem hrm hi.nodup
  refine ⟨D, hg, hD, ?_, ?_, ?_⟩
  · intro e hem
    obtain ⟨h, j⟩ := e
    obtain ⟨k, _, hk, hkh, hke⟩ := mem_elemPairs 0 D.kids h j hem
    simp only [Nat.sub_zero] at hk
    have hat : r.at? (path ++ [j]) = some k := at?_child hD hk
    constructor
    · have hgk := fpx_get?_of_at? hi.nodup hrm hat
      rw [hkh] at hgk
      rw [(fpxr_kinds hgk).1]; exact hke
    · have := ftrav_pathOf_of_at? _ r k hndr hat
      rwa [hkh] at this
  · unfold Forest.createMissingPrefixes
    rw [hd]
    simp only [if_true, hg, ← elemPairs_fst 0 D.kids]
    cases elemPairs 0 D.kids <;> rfl
  · unfold XotModel.createMissingPrefixes
    rw [hDe]
    simp only [Reach.erase_value, ← k2, if_true, erase_kids', ← elemPairs_snd0]
    cases elemPairs 0 D.kids <;> rfl

/-- **Document / fragment case, forest model against tree model.** -/
theorem fpxr_createMissingPrefixes_document {f : Forest} (hi : f.Inv) (env : Env) {nd : Nat}
    (hd : f.isDocument nd = true) {r : HTree} (hr : f.rootOf? nd = some r) {path : Path}
    (hp : r.pathOf nd = some path) :
    -- no element at the top: both refuse, nothing changes
    ((∀ D, f.get? nd = some D → ∀ k ∈ D.kids, k.value.isElement = false) →
      f.createMissingPrefixes env nd = (f, env, .err .noElementAtTopLevel) ∧
      XotModel.createMissingPrefixes env r.erase path = .err .noElementAtTopLevel) ∧
    -- otherwise
    ((∃ D k, f.get? nd = some D ∧ k ∈ D.kids ∧ k.value.isElement = true) →
      ∃ r', (f.createMissingPrefixes env nd).2.2 = .ok ∧
        RootStep f (f.createMissingPrefixes env nd).1 r r' ∧
        XotModel.createMissingPrefixes env r.erase path =
          .ok ((f.createMissingPrefixes env nd).2.1, r'.erase) ∧
        ∀ x q, pathOf x r = some q → q.length ≤ path.length + 1 → pathOf x r' = some q) := by
  obtain ⟨D, hg, hD, hloop, hF, hT⟩ := fpxr_cmp_document hi env hd hr hp
  obtain ⟨hrm, _⟩ := fpxr_rootOf_mem hr
  constructor
  · intro hno
    have : elemPairs 0 D.kids = [] := by
      have h1 := elemPairs_fst 0 D.kids
      have : D.kids.filter (fun k => k.value.isElement) = [] := by
        rw [List.filter_eq_nil_iff]; intro k hk; simp [hno D hg k hk]
      rw [this] at h1
      simpa using h1
    rw [hF, hT, this]
    exact ⟨rfl, rfl⟩
  · rintro ⟨D', k, hg', hk, hke⟩
    rw [hg] at hg'; cases hg'
    have hne : (elemPairs 0 D.kids).isEmpty = false := by
      have h1 := elemPairs_fst 0 D.kids
      have : k ∈ D.kids.filter (fun k => k.value.isElement) := List.mem_filter.mpr ⟨hk, hke⟩
      cases hep : elemPairs 0 D.kids with
      | nil =>
        rw [hep] at h1
        simp only [List.map_nil] at h1
        have h2 := congrArg List.length h1
        simp only [List.length_nil, List.length_map] at h2
        have := List.length_pos_of_mem this
        omega
      | cons a l => rfl
    rw [hF, hT, hne]
    simp only [Bool.false_eq_true, if_false]
    obtain ⟨r', k2, st, k7, k9⟩ := fpxr_repairElementsF path (elemPairs 0 D.kids) env hi hrm hloop
    refine ⟨r', k2, st, k7, fun x q hx hq => k9 x q hx (fun e _ hpre => ?_)⟩
    exact (List.IsPrefix.eq_of_length hpre (by have := hpre.length_le; simp at this ⊢; omega)).symm

end Forest
end XotModel

/-! ## The refinement theorems in the vocabulary of the models, as Props/C04 states them -/

namespace XotModel
open HTree Repair

namespace Forest

/-- The other roots are untouched (any handle `w` of `r` can serve to tell `r` from them). -/
theorem fpxr_roots_graft' {f : Forest} (hnd : f.allHandles.Nodup) {nd w : Nat} {r : HTree} (S' : HTree)
    (hr : r ∈ f.roots) (hn : nd ∈ handles r) (hw : w ∈ handles r) :
    mapAtList nd (fun _ => S') f.roots =
      f.roots.map (fun y => if (pathOf w y).isSome then mapAt nd (fun _ => S') r else y) := by
  rw [fpxr_roots_graft hnd S' hr hn]
  apply List.map_congr_left
  intro y hy
  have : (pathOf nd y).isSome = (pathOf w y).isSome := by
    cases h1 : pathOf nd y with
    | some q =>
      have : y = r := Fmap.sameTree _ hnd _ _ hy hr _ (ftrav_pathOf_mem h1) hn
      subst this
      rw [Option.isSome_some, ftrav_pathOf_isSome w y hw]
    | none =>
      cases h2 : pathOf w y with
      | none => rfl
      | some q =>
        have : y = r := Fmap.sameTree _ hnd _ _ hy hr _ (ftrav_pathOf_mem h2) hw
        subst this
        have := ftrav_pathOf_isSome nd y hn
        rw [h1] at this; cases this
  rw [this]

/-- `RootStep` in the vocabulary of the models: `r'` is the parentless tree of every handle of `r` that
    is still in it, and the other roots are untouched. -/
theorem RootStep.toModel {f f' : Forest} {r r' : HTree} (st : RootStep f f' r r') (hi : f.Inv)
    (hrm : r ∈ f.roots) {nd : Nat} (hnr : nd ∈ handles r) {path : Path} (hpn : pathOf nd r' = some path) :
    f'.rootOf? nd = some r' ∧
      f'.roots = f.roots.map (fun y => if (pathOf nd y).isSome then r' else y) := by
  have hrh : r.handle ∈ handles r := handle_mem_handles r
  have hgr : mapAt r.handle (fun _ => r') r = r' := mapAt_of_handle _ rfl
  constructor
  · unfold rootOf?
    rw [st.roots]
    have := fpxr_find_graft hi.nodup (nd := r.handle) (x := nd) r' hrm hrh hnr
      (by rw [hgr]; exact ftrav_pathOf_mem hpn)
    rw [hgr] at this
    exact this
  · rw [st.roots, fpxr_roots_graft' hi.nodup r' hrm hrh hnr, hgr]

/-- **`create_missing_prefixes(node)` on an element: the forest model refines the tree model.** -/
theorem fpxr_element {f : Forest} (hi : f.Inv) (env : Env) {nd : Nat} (he : f.isElement nd = true)
    {r : HTree} (hr : f.rootOf? nd = some r) {path : Path} (hp : r.pathOf nd = some path) :
    ∃ r',
      (f.createMissingPrefixes env nd).2.2 = .ok ∧
      (f.createMissingPrefixes env nd).1.Inv ∧
      XotModel.createMissingPrefixes env r.erase path = .ok ((f.createMissingPrefixes env nd).2.1, r'.erase) ∧
      (f.createMissingPrefixes env nd).1.rootOf? nd = some r' ∧
      pathOf nd r' = some path ∧
      (f.createMissingPrefixes env nd).1.roots =
        f.roots.map (fun y => if (pathOf nd y).isSome then r' else y) ∧
      (handles r').filter (· < f.next) = handles r ∧
      f.next ≤ (f.createMissingPrefixes env nd).1.next ∧
      (∀ x, (f.createMissingPrefixes env nd).1.isElement x = f.isElement x) ∧
      ∀ x q, pathOf x r = some q → (path <+: q → q = path) → pathOf x r' = some q := by
  obtain ⟨e1, e2⟩ := fpxr_cmp_element hi env he hr hp
  obtain ⟨hrm, hnr⟩ := fpxr_rootOf_mem hr
  obtain ⟨r', hok, st, htree, hstab⟩ := fpxr_repairElementF hi env he hrm hp
  rw [e1, e2]
  have hpn := hstab nd path hp (fun _ => rfl)
  obtain ⟨hroot, hroots⟩ := st.toModel hi hrm hnr hpn
  exact ⟨r', hok, st.inv, htree, hroot, hpn, hroots, st.old, st.next, st.isElement, hstab⟩

/-- **`create_missing_prefixes(node)` on a document / fragment with an element child: the forest
    model refines the tree model.** -/
theorem fpxr_document {f : Forest} (hi : f.Inv) (env : Env) {nd : Nat} (hd : f.isDocument nd = true)
    (hk : ∃ D k, f.get? nd = some D ∧ k ∈ D.kids ∧ k.value.isElement = true)
    {r : HTree} (hr : f.rootOf? nd = some r) {path : Path} (hp : r.pathOf nd = some path) :
    ∃ r',
      (f.createMissingPrefixes env nd).2.2 = .ok ∧
      (f.createMissingPrefixes env nd).1.Inv ∧
      XotModel.createMissingPrefixes env r.erase path = .ok ((f.createMissingPrefixes env nd).2.1, r'.erase) ∧
      (f.createMissingPrefixes env nd).1.rootOf? nd = some r' ∧
      pathOf nd r' = some path ∧
      (f.createMissingPrefixes env nd).1.roots =
        f.roots.map (fun y => if (pathOf nd y).isSome then r' else y) ∧
      (handles r').filter (· < f.next) = handles r ∧
      f.next ≤ (f.createMissingPrefixes env nd).1.next ∧
      (∀ x, (f.createMissingPrefixes env nd).1.isElement x = f.isElement x) ∧
      ∀ x q, pathOf x r = some q → q.length ≤ path.length + 1 → pathOf x r' = some q := by
  obtain ⟨hrm, hnr⟩ := fpxr_rootOf_mem hr
  obtain ⟨r', hok, st, htree, hstab⟩ := (fpxr_createMissingPrefixes_document hi env hd hr hp).2 hk
  have hpn := hstab nd path hp (by omega)
  obtain ⟨hroot, hroots⟩ := st.toModel hi hrm hnr hpn
  exact ⟨r', hok, st.inv, htree, hroot, hpn, hroots, st.old, st.next, st.isElement, hstab⟩

/-- The tree-level theorem WRITABLE of C10 (`facts_writable`, Props/C10 `C10_repair_writable`) carried to
    the forest model: after `create_missing_prefixes` on an element of a forest with the invariant the
    serialiser's `MissingPrefix` checks pass on the erased root tree at the (unchanged) path of the
    element. -/
theorem fpxr_element_writable {f : Forest} (hi : f.Inv) (env : Env) (hok : EnvOk env) {nd : Nat}
    (he : f.isElement nd = true) {r : HTree} (hr : f.rootOf? nd = some r) {path : Path}
    (hp : r.pathOf nd = some path) :
    ∃ r', (f.createMissingPrefixes env nd).1.rootOf? nd = some r' ∧ pathOf nd r' = some path ∧
      namesWritable (f.createMissingPrefixes env nd).2.1 r'.erase path = some true := by
  obtain ⟨r', _, _, htree, hroot, hpath, _⟩ := fpxr_element hi env he hr hp
  obtain ⟨D, _, hg, _, _, hDe⟩ := fpxr_locate hi hr hp
  have hu := fpxr_uniqueBelow hi hg
  have hel : D.value.isElement = true := by rw [← (fpxr_kinds hg).1]; exact he
  rw [(fpxr_cmp_element hi env he hr hp).2] at htree
  cases D with
  | node dh dv dk =>
    obtain ⟨name, rfl⟩ := Repair.eq_element_of_isElement hel
    simp only [erase] at hDe hu
    exact ⟨r', hroot, hpath,
      facts_writable hDe (repairElement_facts env hok r.erase path _ _ hDe hu _ _ htree)⟩

end Forest
end XotModel
