/-
  C10 and the round trip: what `create_missing_prefixes` does to the interning tables and to
  the C01 domain (`Representable`).

  * the `n{counter}` loop: every prefix id it answers spells `n` + decimal digits in the new table
    (`assignPrefixes_ext`), an NCName other than `xmlns` (`valueOK_generated`).
  * `valueOK` / `nodeOK` / `envOK` / `Keeps` survive `PrefixExt` (Lemmas/RepairElement: only the prefix
    table grows, by appending strings that were not there).
  * `namespaces_mut(element).insert(p, ns)` with a well-formed `(p, ns)` is an edit that stays in
    the C01 domain (`keeps_insertNamespace`, `keeps_insertNamespaces`).
-/
import XotModel.Lemmas.BasicFacts
import XotModel.Lemmas.RepresentableEdit
import XotModel.Lemmas.RepairDocument
import XotModel.Lemmas.RepairValid
import XotModel.Lemmas.RoundTripEnv

namespace XotModel.Repair
open XotModel

theorem assignPrefixes_ext (M : List Nat) (env : Env) (used : List Nat) (c : Nat) (env' : Env)
    (nd : List (Nat × Nat)) (h : assignPrefixes env used c M = some (env', nd)) :
      PrefixExt env env' ∧ ∀ d ∈ nd, ∃ s, env'.prefixes[d.1]? = some s ∧ IsGenerated s :=
  let ⟨_, _, _, g, _, h5⟩ := assignPrefixes_outcome M env used c env' nd h
  ⟨g, h5⟩

/-! ### Generated prefixes are NCNames -/

theorem isNameChar_digit {c : Char} (h : c.isDigit = true) : isNameChar c = true ∧ (c != ':') = true := by
  simp only [Char.isDigit, Bool.and_eq_true, decide_eq_true_eq] at h
  have h1 : 48 ≤ c.toNat := by
    have := h.1
    rw [ge_iff_le, UInt32.le_iff_toNat_le] at this
    exact this
  have h2 : c.toNat ≤ 57 := by
    have := h.2
    rw [UInt32.le_iff_toNat_le] at this
    exact this
  have hne : c ≠ ':' := by
    intro hc; subst hc; revert h2; decide
  refine ⟨?_, by simpa using hne⟩
  have : c.toNat ≤ 128 := by omega
  simp only [isNameChar, this, if_true, Bool.or_eq_true, Bool.and_eq_true, decide_eq_true_eq]
  left; left; left; left; right
  exact ⟨h1, h2⟩

theorem ncNameNE_generated {s : Str} (h : IsGenerated s) : ncNameNE s = true ∧ s ≠ xmlnsName := by
  obtain ⟨k, rfl⟩ := h
  refine ⟨?_, by simp [generatedPrefixName, xmlnsName]⟩
  simp only [ncNameNE, ncNameOK, generatedPrefixName, List.all_cons, List.isEmpty_cons, Bool.not_false,
    Bool.and_true, Bool.and_eq_true, List.all_eq_true]
  refine ⟨⟨by decide, fun c hc => isNameChar_digit (Nat.isDigit_of_mem_toDigits (by decide) (by decide) hc)⟩,
    by decide⟩

/-! ### `valueOK`, `nodeOK`, `envOK` survive the growth of the prefix table -/

theorem PrefixExt.localName {env env' : Env} (h : PrefixExt env env') : env'.localName = env.localName := by
  funext n; simp [Env.localName, h.names]

theorem PrefixExt.nsOfName {env env' : Env} (h : PrefixExt env env') : env'.nsOfName = env.nsOfName := by
  funext n; simp [Env.nsOfName, h.names]

theorem PrefixExt.namespaceStr {env env' : Env} (h : PrefixExt env env') :
    env'.namespaceStr = env.namespaceStr := by
  funext n; simp [Env.namespaceStr, h.namespaces]

theorem PrefixExt.prefixStr {env env' : Env} (h : PrefixExt env env') {p : Nat}
    (hp : env.prefixStr p ≠ []) : env'.prefixStr p = env.prefixStr p := by
  obtain ⟨e, he⟩ := h.ext
  have hlt : p < env.prefixes.length := by
    apply Classical.byContradiction
    intro hn
    apply hp
    simp [Env.prefixStr, List.getD_eq_getElem?_getD, List.getElem?_eq_none (Nat.le_of_not_lt hn)]
  simp only [Env.prefixStr, he, List.getD_eq_getElem?_getD, List.getElem?_append_left hlt]

theorem PrefixExt.isXmlIdName {env env' : Env} (h : PrefixExt env env') (n : Nat) :
    isXmlIdName env' n = isXmlIdName env n := by
  simp [XotModel.isXmlIdName, h.nsOfName, h.localName]

theorem valueOK_ext {env env' : Env} (h : PrefixExt env env') (v : Value) (hv : valueOK env v = true) :
    valueOK env' v = true := by
  cases v with
  | «namespace» p ns =>
    simp only [valueOK, h.namespaceStr, Bool.and_eq_true, Bool.or_eq_true] at hv ⊢
    refine ⟨⟨⟨hv.1.1.1, ?_⟩, hv.1.2⟩, hv.2⟩
    rcases hv.1.1.2 with h0 | h1
    · exact Or.inl h0
    · right
      have hne : env.prefixStr p ≠ [] := by
        intro hnil
        have := h1.1.1
        rw [hnil] at this
        simp [ncNameNE] at this
      rw [h.prefixStr hne]
      exact h1
  | document => exact hv
  | element n => rw [valueOK, h.localName]; exact hv
  | text s => exact hv
  | comment s => exact hv
  | pi t d => simp only [valueOK, h.localName, h.nsOfName] at hv ⊢; exact hv
  | «attribute» n s => rw [valueOK, h.localName, h.nsOfName, h.isXmlIdName]; exact hv

theorem nodeOK_ext {env env' : Env} (h : PrefixExt env env') (v : Value) (ks : List Tree)
    (hv : nodeOK env v ks = true) : nodeOK env' v ks = true := by
  simp only [nodeOK, Bool.and_eq_true] at hv ⊢
  exact ⟨hv.1, valueOK_ext h v hv.2⟩

theorem allNodes_ext {env env' : Env} (h : PrefixExt env env') (t : Tree)
    (ht : t.allNodes (nodeOK env) = true) : t.allNodes (nodeOK env') = true :=
  allNodes_mono (nodeOK_ext h) t ht

mutual
theorem xmlIdValues_ext {env env' : Env} (h : PrefixExt env env') :
    ∀ t : Tree, xmlIdValues env' t = xmlIdValues env t
  | .node v ks => by
    simp only [xmlIdValues, idsList_ext h ks]
    cases v <;> simp [h.isXmlIdName]
theorem idsList_ext {env env' : Env} (h : PrefixExt env env') :
    ∀ ks : List Tree, xmlIdValues.idsList env' ks = xmlIdValues.idsList env ks
  | [] => rfl
  | k :: ks => by simp only [xmlIdValues.idsList, xmlIdValues_ext h k, idsList_ext h ks]
end

theorem envOK_ext {env env' : Env} (h : PrefixExt env env') (he : envOK env = true) : envOK env' = true := by
  have f := envFacts_of_envOK he
  have hp1 : env.prefixStr Env.xmlPrefix ≠ [] := by rw [f.p1]; simp
  obtain ⟨e, hext⟩ := h.ext
  have hlen : 1 < env.prefixes.length := by
    apply Classical.byContradiction
    intro hn
    apply hp1
    simp [Env.prefixStr, Env.xmlPrefix, List.getD_eq_getElem?_getD, List.getElem?_eq_none (Nat.le_of_not_lt hn)]
  have hp0 : env'.prefixStr Env.emptyPrefix = env.prefixStr Env.emptyPrefix := by
    simp only [Env.prefixStr, Env.emptyPrefix, hext, List.getD_eq_getElem?_getD,
      List.getElem?_append_left (show 0 < env.prefixes.length by omega)]
  simp only [envOK, Bool.and_eq_true, beq_iff_eq, decide_eq_true_eq, h.namespaceStr, h.names, h.namespaces,
    h.prefixStr hp1, hp0]
  exact ⟨⟨⟨⟨⟨⟨⟨f.ns0, by rw [f.ns1]; rfl⟩, f.p0⟩, f.p1⟩, f.id1⟩, f.nsNodup⟩, h.nodup f.pNodup⟩, f.nNodup⟩

theorem Keeps.ext {env env' : Env} (h : PrefixExt env env') {a b : Tree} (hk : Keeps env a b) :
    Keeps env' a b :=
  ⟨allNodes_ext h a hk.ok, hk.value, by rw [xmlIdValues_ext h, xmlIdValues_ext h]; exact hk.ids, hk.top⟩

/-! ### `namespaces_mut(element).insert(p, ns)` -/

theorem attrNames_insertNsKid (p ns : Nat) (ks : List Tree) :
    attrNames (insertNsKid p ns ks) = attrNames ks := by
  refine insertNsKid_induct p ns (motive := fun ks r => attrNames r = attrNames ks)
    (fun ks _ => ?_) (fun m kk ks => ?_) (fun q m kk ks _ ih => ?_) ks
  · rw [attrNames_cons_ns]
  · rw [attrNames_cons_ns, attrNames_cons_ns]
  · rw [attrNames_cons_ns, attrNames_cons_ns, ih]

theorem noAdjText_insertNsKid (p ns : Nat) (ks : List Tree) :
    noAdjText (insertNsKid p ns ks) = noAdjText ks := by
  refine insertNsKid_induct p ns (motive := fun ks r => noAdjText r = noAdjText ks)
    (fun ks _ => ?_) (fun m kk ks => ?_) (fun q m kk ks _ ih => ?_) ks
  · rw [noAdjText_cons_ns]
  · rw [noAdjText_cons_ns, noAdjText_cons_ns]
  · rw [noAdjText_cons_ns, noAdjText_cons_ns, ih]

theorem idsList_insertNsKid {env : Env} (p ns : Nat) (ks : List Tree) :
    xmlIdValues.idsList env (insertNsKid p ns ks) = xmlIdValues.idsList env ks := by
  refine insertNsKid_induct p ns
    (motive := fun ks r => xmlIdValues.idsList env r = xmlIdValues.idsList env ks)
    (fun ks _ => ?_) (fun m kk ks => ?_) (fun q m kk ks _ ih => ?_) ks
  · rw [idsList_cons_ns]; rfl
  · rw [idsList_cons_ns, idsList_cons_ns]
  · rw [idsList_cons_ns, idsList_cons_ns, ih]

theorem orderedKids_insertNsKid (p ns : Nat) (ks : List Tree) :
    OrderedKids ks → OrderedKids (insertNsKid p ns ks) :=
  insertNsKid_induct p ns (motive := fun ks r => OrderedKids ks → OrderedKids r)
    (fun ks _ h => orderedKids_cons_ns p ns [] ks h)
    (fun _ kk ks h => orderedKids_cons_ns p ns kk ks (List.pairwise_cons.mp h).2)
    (fun q m kk _ _ ih h => orderedKids_cons_ns q m kk _ (ih (List.pairwise_cons.mp h).2)) ks

theorem nsPrefixes_front {ks : List Tree} (hord : OrderedKids ks)
    (h : ∀ k ∈ ks.head?, k.value.category ≠ .namespace) : nsPrefixes ks = [] := by
  have pos : ∀ v : Value, v.category ≠ .namespace → 0 < v.phase := fun v hv => by
    cases v with
    | «namespace» _ _ => exact absurd rfl hv
    | _ => exact Nat.zero_lt_succ _
  have none : ∀ v : Value, 0 < v.phase →
      (match v with | .namespace p _ => some p | _ => none) = none := fun v hv => by
    cases v with
    | «namespace» _ _ => exact absurd hv (Nat.lt_irrefl 0)
    | _ => rfl
  cases ks with
  | nil => rfl
  | cons k ks =>
    have hk := pos _ (h k rfl)
    rw [nsPrefixes, List.filterMap_eq_nil_iff]
    intro x hx
    rcases List.mem_cons.mp hx with rfl | hx
    · exact none _ hk
    · exact none _ (Nat.lt_of_lt_of_le hk ((List.pairwise_cons.mp hord).1 x hx))

theorem nsPrefixes_insertNsKid (p ns : Nat) (ks : List Tree) :
    OrderedKids ks → (nsPrefixes ks).Nodup →
      (nsPrefixes (insertNsKid p ns ks)).Nodup ∧
      ∀ x ∈ nsPrefixes (insertNsKid p ns ks), x ∈ nsPrefixes ks ∨ x = p := by
  refine insertNsKid_induct p ns (motive := fun ks r => OrderedKids ks → (nsPrefixes ks).Nodup →
      (nsPrefixes r).Nodup ∧ ∀ x ∈ nsPrefixes r, x ∈ nsPrefixes ks ∨ x = p)
    (fun ks hf hord _ => ?_) (fun m kk ks _ hnd => ?_) (fun q m kk ks hq ih hord hnd => ?_) ks
  · rw [nsPrefixes_cons_ns, nsPrefixes_front hord hf]
    exact ⟨List.nodup_cons.mpr ⟨List.not_mem_nil, List.nodup_nil⟩, fun x hx => Or.inr (List.mem_singleton.mp hx)⟩
  · rw [nsPrefixes_cons_ns] at hnd ⊢
    exact ⟨hnd, fun x hx => Or.inl hx⟩
  · rw [nsPrefixes_cons_ns, List.nodup_cons] at hnd
    obtain ⟨i1, i2⟩ := ih (List.pairwise_cons.mp hord).2 hnd.2
    rw [nsPrefixes_cons_ns, nsPrefixes_cons_ns, List.nodup_cons]
    refine ⟨⟨fun hx => (i2 q hx).elim hnd.1 hq, i1⟩, fun x hx => ?_⟩
    rcases List.mem_cons.mp hx with rfl | hx
    · exact Or.inl List.mem_cons_self
    · exact (i2 x hx).imp (List.mem_cons_of_mem _) id

theorem forall_insertNsKid {P : Tree → Prop} (p ns : Nat) (h0 : P (.node (.namespace p ns) []))
    (h1 : ∀ m kk, P (.node (.namespace p m) kk) → P (.node (.namespace p ns) kk)) (ks : List Tree) :
    (∀ k ∈ ks, P k) → ∀ k ∈ insertNsKid p ns ks, P k :=
  insertNsKid_induct p ns (motive := fun ks r => (∀ k ∈ ks, P k) → ∀ k ∈ r, P k)
    (fun _ _ h => List.forall_mem_cons.mpr ⟨h0, h⟩)
    (fun m kk _ h => List.forall_mem_cons.mpr
      ⟨h1 m kk (h _ List.mem_cons_self), fun k hk => h k (List.mem_cons_of_mem _ hk)⟩)
    (fun _ _ _ _ _ ih h => List.forall_mem_cons.mpr
      ⟨h _ List.mem_cons_self, ih fun k hk => h k (List.mem_cons_of_mem _ hk)⟩) ks

/-- Inserting (or overwriting) a well-formed declaration on an element stays in the C01 domain. -/
theorem keeps_insertNamespace {env : Env} (p ns : Nat) (hv : valueOK env (.namespace p ns) = true)
    (t : Tree) (hel : t.value.isElement = true) (h : t.allNodes (nodeOK env) = true) :
    Keeps env (insertNamespace p ns t) t := by
  obtain ⟨v, ks⟩ := t
  obtain ⟨name, rfl⟩ := eq_element_of_isElement hel
  obtain ⟨ho, hkind, hu, hadj, hval⟩ := nodeOK_root h
  have hall : ∀ k ∈ insertNsKid p ns ks, k.allNodes (nodeOK env) = true := by
    refine forall_insertNsKid p ns (nodeOK_namespace_leaf hv) (fun m kk hk => ?_) ks
      (fun k hk => allNodes_kid h hk)
    rw [allNodes_node, Bool.and_eq_true] at hk ⊢
    obtain ⟨h1, h2, h3, h4, _⟩ := (nodeOK_iff env _ kk).mp hk.1
    exact ⟨(nodeOK_iff env _ kk).mpr ⟨h1, h2, h3, h4, hv⟩, hk.2⟩
  refine ⟨?_, rfl, ?_, fun hne => by simp [Tree.value, Value.isElement] at hne⟩
  · rw [insertNamespace, allNodes_node, Bool.and_eq_true, List.all_eq_true]
    refine ⟨(nodeOK_iff env _ _).mpr ⟨orderedKids_insertNsKid p ns ks ho,
      ⟨fun hl => by simp [Value.isLeafKind] at hl, fun hne => by simp [Value.isElement] at hne,
        forall_insertNsKid (P := fun k => k.value.isDocument = false) p ns rfl (fun _ _ _ => rfl) ks
          hkind.2.2⟩,
      ⟨by rw [attrNames_insertNsKid]; exact hu.1, (nsPrefixes_insertNsKid p ns ks ho hu.2).1⟩,
      by rw [noAdjText_insertNsKid]; exact hadj, hval⟩, hall⟩
  · simp only [insertNamespace, xmlIdValues, idsList_insertNsKid]; exact List.Sublist.refl _

theorem keeps_insertNamespaces {env : Env} (nd : List (Nat × Nat))
    (hv : ∀ d ∈ nd, valueOK env (.namespace d.1 d.2) = true) :
    ∀ (t : Tree), t.value.isElement = true → t.allNodes (nodeOK env) = true →
      Keeps env (insertNamespaces nd t) t := by
  induction nd with
  | nil => exact fun t _ h => Keeps.refl h
  | cons d nd ih =>
    intro t hel h
    have h1 := keeps_insertNamespace d.1 d.2 (hv d List.mem_cons_self) t hel h
    exact (ih (fun d' hd' => hv d' (List.mem_cons_of_mem _ hd')) _ (by rw [h1.value]; exact hel)
      h1.ok).trans h1

end XotModel.Repair
