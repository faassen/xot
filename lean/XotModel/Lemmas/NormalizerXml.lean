/-
  `Tree.mapText N` keeps everything the serialisers read except the strings it maps, and the event stream of
  the mapped tree is the mapped event stream; the XML serialiser with a normalizer `N` is the serialiser on
  `t.mapText N` (the normalizer is a pre-map), and it ends as without one.
-/
import XotModel.Model.Normalizer
import XotModel.Lemmas.PrettyStack
import XotModel.Lemmas.WriterXml

/-!
## `Tree.mapText`

  What the serialisers read: value categories, child structure, namespace declarations, attribute names,
  paths, namespaces in scope.
-/

namespace XotModel
open Gen

variable (N : Str → Str)

theorem mapTextList_eq_map (ks : List Tree) :
    Tree.mapText.mapTextList N ks = ks.map (Tree.mapText N) := by
  induction ks with
  | nil => rfl
  | cons k ks ih => simp [Tree.mapText.mapTextList, ih]

theorem mapText_node (v : Value) (ks : List Tree) :
    Tree.mapText N (.node v ks) = .node (v.mapText N) (ks.map (Tree.mapText N)) := by
  rw [Tree.mapText, mapTextList_eq_map]

@[simp] theorem mapText_value (t : Tree) : (t.mapText N).value = t.value.mapText N := by
  cases t with | node v ks => simp [mapText_node, Tree.value]

@[simp] theorem mapText_kids (t : Tree) : (t.mapText N).kids = t.kids.map (Tree.mapText N) := by
  cases t with | node v ks => simp [mapText_node, Tree.kids]

@[simp] theorem Value.mapText_category (v : Value) : (v.mapText N).category = v.category := by
  cases v <;> rfl

@[simp] theorem Value.mapText_isNormal (v : Value) : (v.mapText N).isNormal = v.isNormal := by
  simp [Value.isNormal]

@[simp] theorem Value.mapText_isElement (v : Value) : (v.mapText N).isElement = v.isElement := by
  cases v <;> rfl

@[simp] theorem Value.mapText_isText (v : Value) : (v.mapText N).isText = v.isText := by
  cases v <;> rfl

@[simp] theorem Value.mapText_isDocument (v : Value) : (v.mapText N).isDocument = v.isDocument := by
  cases v <;> rfl

theorem Value.mapText_element {v : Value} {name : Nat} (h : v = .element name) :
    v.mapText N = .element name := by subst h; rfl

/-! ### Child views -/

theorem mapText_normalKids (t : Tree) : (t.mapText N).normalKids = t.normalKids.map (Tree.mapText N) := by
  simp [Tree.normalKids, List.dropWhile_map, Function.comp_def]

theorem mapText_abnormalKids (t : Tree) :
    (t.mapText N).abnormalKids = t.abnormalKids.map (Tree.mapText N) := by
  simp [Tree.abnormalKids, List.takeWhile_map, Function.comp_def]

theorem mapText_namespaceNodes (t : Tree) :
    (t.mapText N).namespaceNodes = t.namespaceNodes.map (Tree.mapText N) := by
  simp [Tree.namespaceNodes, List.takeWhile_map, Function.comp_def]

theorem mapText_attributeNodes (t : Tree) :
    (t.mapText N).attributeNodes = t.attributeNodes.map (Tree.mapText N) := by
  simp [Tree.attributeNodes, List.takeWhile_map, List.dropWhile_map, Function.comp_def]

@[simp] theorem mapText_nsDecls (t : Tree) : (t.mapText N).nsDecls = t.nsDecls := by
  simp only [Tree.nsDecls, mapText_namespaceNodes, List.filterMap_map]
  congr 1
  funext k
  simp only [Function.comp_def, mapText_value]
  cases k.value <;> rfl

theorem mapText_attrs (t : Tree) : (t.mapText N).attrs = t.attrs.map (fun a => (a.1, N a.2)) := by
  simp only [Tree.attrs, mapText_attributeNodes, List.filterMap_map, List.map_filterMap]
  congr 1
  funext k
  simp only [Function.comp_def, mapText_value]
  cases k.value <;> rfl

theorem lookup_map_snd (n : Nat) (l : List (Nat × Str)) :
    (l.map (fun a => (a.1, N a.2))).lookup n = (l.lookup n).map N := by
  induction l with
  | nil => rfl
  | cons a l ih =>
    obtain ⟨k, v⟩ := a
    simp only [List.map_cons, List.lookup_cons]
    cases n == k <;> simp [ih]

theorem mapText_getAttribute (t : Tree) (n : Nat) :
    (t.mapText N).getAttribute n = (t.getAttribute n).map N := by
  simp [Tree.getAttribute, mapText_attrs, lookup_map_snd]

@[simp] theorem mapText_hasNsDecls (t : Tree) : (t.mapText N).hasNsDecls = t.hasNsDecls := by
  simp [Tree.hasNsDecls]

@[simp] theorem mapText_declaresPrefix (t : Tree) (p : Nat) :
    (t.mapText N).declaresPrefix p = t.declaresPrefix p := by
  simp [Tree.declaresPrefix]

theorem mapText_firstChild? (t : Tree) : (t.mapText N).firstChild? = t.firstChild?.map (Tree.mapText N) := by
  simp [Tree.firstChild?, mapText_normalKids, List.head?_map]

@[simp] theorem mapText_firstChild?_isNone (t : Tree) :
    (t.mapText N).firstChild?.isNone = t.firstChild?.isNone := by
  simp [mapText_firstChild?]

@[simp] theorem mapText_firstChild?_isSome (t : Tree) :
    (t.mapText N).firstChild?.isSome = t.firstChild?.isSome := by
  simp [mapText_firstChild?]

/-! ### Paths -/

theorem mapText_at? (t : Tree) (p : Path) : (t.mapText N).at? p = (t.at? p).map (Tree.mapText N) := by
  induction p generalizing t with
  | nil => simp [Tree.at?]
  | cons i p ih =>
    cases t with
    | node v ks =>
      rw [mapText_node]
      simp only [Tree.at?, List.getElem?_map]
      cases ks[i]? with
      | none => rfl
      | some k => simpa using ih k

theorem mapText_parentAt? (t : Tree) (p : Path) :
    (t.mapText N).parentAt? p = (t.parentAt? p).map (Tree.mapText N) := by
  unfold Tree.parentAt?
  split
  · rfl
  · exact mapText_at? N t _

theorem mapText_ancestorsOrSelf (t : Tree) (p : Path) :
    (t.mapText N).ancestorsOrSelf p = (t.ancestorsOrSelf p).map (List.map (Tree.mapText N)) := by
  induction p generalizing t with
  | nil => simp [Tree.ancestorsOrSelf]
  | cons i p ih =>
    simp only [Tree.ancestorsOrSelf, mapText_kids, List.getElem?_map]
    cases t.kids[i]? with
    | none => rfl
    | some k =>
      simp only [Option.map_some, ih k, Option.map_map]
      congr 1
      funext l
      simp

theorem traverseChain_mapText (seen : List Nat) (chain : List Tree) :
    traverseChain seen (chain.map (Tree.mapText N)) = traverseChain seen chain := by
  induction chain generalizing seen with
  | nil => rfl
  | cons t rest ih => simp [traverseChain, ih]

@[simp] theorem mapText_namespacesInScope (t : Tree) (p : Path) :
    namespacesInScope (t.mapText N) p = namespacesInScope t p := by
  simp only [namespacesInScope, mapText_ancestorsOrSelf, Option.map_map]
  congr 1
  funext chain
  simp [namespacesInScopeChain, traverseChain_mapText]

@[simp] theorem mapText_initStack (t : Tree) (p : Path) : initStack (t.mapText N) p = initStack t p := by
  simp [initStack]

/-! ### The event stream -/

@[simp] theorem mapText_extraPrefixes (inScope : List (Nat × Nat)) (n : Tree) :
    extraPrefixes inScope (n.mapText N) = extraPrefixes inScope n := by
  simp [extraPrefixes]

theorem extraPrefixes_map_mapText (inScope : List (Nat × Nat)) (n : Tree) :
    (extraPrefixes inScope n).map (Output.mapText N) = extraPrefixes inScope n := by
  simp [extraPrefixes, Function.comp_def, Output.mapText]

theorem mapText_edgeStart (inScope : List (Nat × Nat)) (isTop : Bool) (n : Tree) :
    edgeStart inScope isTop (n.mapText N) = (edgeStart inScope isTop n).map (Output.mapText N) := by
  unfold edgeStart
  rw [mapText_value]
  cases hv : n.value <;> simp [Value.mapText, Output.mapText]
  · cases isTop
    · simp [mapText_attrs, Function.comp_def, Output.mapText]
    · simp [mapText_attrs, Function.comp_def, Output.mapText, extraPrefixes]

theorem mapText_edgeEnd (n : Tree) : edgeEnd (n.mapText N) = (edgeEnd n).map (Output.mapText N) := by
  unfold edgeEnd
  rw [mapText_value]
  cases hv : n.value <;> simp [Value.mapText, Output.mapText]

/-- The tagged event of the normalised tree. -/
def tagMapText (po : Path × Output) : Path × Output := (po.1, po.2.mapText N)

mutual
theorem genNode_mapText (inScope : List (Nat × Nat)) (isTop : Bool) (path : Path) (n : Tree) :
    genNode inScope isTop path (n.mapText N) = (genNode inScope isTop path n).map (tagMapText N) := by
  cases n with
  | node v ks =>
    rw [mapText_node]
    unfold genNode
    rw [← mapText_node, Value.mapText_isNormal, genKids_mapText inScope path 0 ks]
    by_cases hv : v.isNormal = true
    · simp [hv, mapText_edgeStart, mapText_edgeEnd, Function.comp_def, tagMapText]
    · simp [hv]
theorem genKids_mapText (inScope : List (Nat × Nat)) (path : Path) (i : Nat) (ks : List Tree) :
    genNode.genKids inScope path i (ks.map (Tree.mapText N)) =
      (genNode.genKids inScope path i ks).map (tagMapText N) := by
  cases ks with
  | nil => simp [genNode.genKids]
  | cons k ks =>
    simp only [List.map_cons, genNode.genKids, List.map_append]
    rw [genNode_mapText inScope false (path ++ [i]) k, genKids_mapText inScope path (i + 1) ks]
end

theorem genOutputs_mapText (t : Tree) (start : Path) :
    genOutputs (t.mapText N) start = (genOutputs t start).map (tagMapText N) := by
  unfold genOutputs
  rw [mapText_at?, mapText_namespacesInScope]
  cases h1 : t.at? start with
  | none => simp
  | some n =>
    cases h2 : namespacesInScope t start with
    | none => simp
    | some inScope => simp [genNode_mapText]

end XotModel

/-!
## The XML serialiser with a normalizer

  `serializeXmlStringWith_norm`, at every level: one `render_output` call, the token stream, the
  pretty token stream, the written bytes, the full parameter set.

  What the identity needs, exactly:
  * `NsWritten N env outs`  — `N` fixes the namespace URIs the `Prefix` events write (the URI of an `xmlns`
    declaration goes through `serialize_attribute(.., normalizer)` too, but is no string of the tree);
  * `SpaceKept N t outs`    — only with indentation: `Pretty::element_space` reads the `xml:space` attribute
    as stored, so `N` must not turn a value into / away from `preserve` / `default`.
  CDATA-section elements, `unescaped_gt`, `has_inline_child`, the suppress list and the doctype look at
  structure and names only.
-/

namespace XotModel
open Gen

variable (N : Str → Str)

/-- `Outcome` is a functor in its value. -/
def Outcome.mapOk {ε α β : Type} (f : α → β) : Outcome ε α → Outcome ε β
  | .ok a => .ok (f a)
  | .err e => .err e
  | .panic => .panic

theorem Outcome.mapOk_ok {ε α β : Type} (f : α → β) (a : α) :
    (Outcome.ok a : Outcome ε α).mapOk f = .ok (f a) := rfl

theorem Outcome.mapOk_fst_eq {ε σ τ : Type} {r1 r2 : Outcome ε (σ × τ)}
    (h : r1.mapOk Prod.fst = r2.mapOk Prod.fst) :
    (∃ s k1 k2, r1 = .ok (s, k1) ∧ r2 = .ok (s, k2)) ∨ (∃ e, r1 = .err e ∧ r2 = .err e) ∨
      (r1 = .panic ∧ r2 = .panic) := by
  cases r1 with
  | ok a =>
    cases r2 with
    | ok b =>
      obtain ⟨s1, k1⟩ := a
      obtain ⟨s2, k2⟩ := b
      cases h
      exact Or.inl ⟨_, _, _, rfl, rfl⟩
    | err e => cases h
    | panic => cases h
  | err e => cases r2 <;> cases h; exact Or.inr (Or.inl ⟨_, rfl, rfl⟩)
  | panic => cases r2 <;> cases h; exact Or.inr (Or.inr ⟨rfl, rfl⟩)

/-- A rendered event of the normalised tree. -/
def tokMapText {τ : Type} (k : Path × Output × τ) : Path × Output × τ := (k.1, k.2.1.mapText N, k.2.2)

theorem normEscapers_id : normEscapers id = xmlEscapers := rfl

/-- `N` fixes the namespace URI a `Prefix` event writes (the `xml` namespace is written as a literal). -/
def Output.nsFixed (env : Env) : Output → Prop
  | .pfx _ ns => ns = Env.xmlNamespace ∨ N (env.namespaceStr ns) = env.namespaceStr ns
  | _ => True

/-- `N` fixes every namespace URI the events `outs` write. -/
def NsWritten (env : Env) (outs : List (Path × Output)) : Prop := ∀ po ∈ outs, po.2.nsFixed N env

/-- `N` does not change what `element_space` reads off the nodes of the events `outs`. -/
def SpaceKept (t : Tree) (outs : List (Path × Output)) : Prop :=
  ∀ po ∈ outs, ∀ n, t.at? po.1 = some n → elementSpace (n.mapText N) = elementSpace n

/-- Sufficient for `NsWritten` on every stream: `N` fixes every string of the namespace table
    (and the empty string, the URI of an id outside the table). -/
theorem nsWritten_of_fixed (env : Env) (h : ∀ ns, N (env.namespaceStr ns) = env.namespaceStr ns)
    (outs : List (Path × Output)) : NsWritten N env outs := by
  intro po _
  cases h2 : po.2 <;> simp [Output.nsFixed, h]

/-- Sufficient for `SpaceKept` on every tree: `N` maps exactly `preserve` to `preserve` and exactly
    `default` to `default`. -/
def SpaceStable : Prop :=
  ∀ v, (N v == spacePreserve) = (v == spacePreserve) ∧ (N v == spaceDefault) = (v == spaceDefault)

theorem elementSpace_mapText (h : SpaceStable N) (n : Tree) : elementSpace (n.mapText N) = elementSpace n := by
  unfold elementSpace
  rw [mapText_getAttribute]
  cases n.getAttribute Env.xmlSpaceName with
  | none => rfl
  | some v => simp only [Option.map_some, (h v).1, (h v).2]

theorem spaceKept_of_stable (h : SpaceStable N) (t : Tree) (outs : List (Path × Output)) :
    SpaceKept N t outs := fun _ _ n _ => elementSpace_mapText N h n

/-! ### One `render_output` call -/

theorem isCdataElement_mapText (pr : TokenParams) (parent : Option Tree) :
    isCdataElement pr (parent.map (Tree.mapText N)) = isCdataElement pr parent := by
  cases parent with
  | none => rfl
  | some par =>
    simp only [Option.map_some, isCdataElement, mapText_value]
    cases par.value <;> rfl

theorem renderXmlWith_norm (env : Env) (pr : TokenParams) (s : FStack) (node : Tree) (parent : Option Tree)
    (o : Output) (h : o.nsFixed N env) :
    renderXmlWith (normEscapers N) env pr s node parent o =
      renderXmlWith xmlEscapers env pr s (node.mapText N) (parent.map (Tree.mapText N)) (o.mapText N) := by
  cases o with
  | pfx p ns =>
    show _ = renderXmlWith xmlEscapers env pr s _ _ (.pfx p ns)
    rw [renderXmlWith, renderXmlWith]
    by_cases hx : (ns == Env.xmlNamespace) = true
    · rw [if_pos hx, if_pos hx]
    · have hf : (normEscapers N).attr (env.namespaceStr ns) = xmlEscapers.attr (env.namespaceStr ns) :=
        congrArg serializeAttribute (h.resolve_left (fun e => hx (by rw [e]; exact beq_self_eq_true _)))
      rw [if_neg hx, if_neg hx, hf]
  | text x =>
    show _ = renderXmlWith xmlEscapers env pr s _ _ (.text (N x))
    rw [renderXmlWith, renderXmlWith, isCdataElement_mapText]
    rfl
  | «attribute» name value =>
    show _ = renderXmlWith xmlEscapers env pr s _ _ (.attribute name (N value))
    rw [renderXmlWith, renderXmlWith]
    rfl
  | startTagOpen name =>
    show _ = renderXmlWith xmlEscapers env pr s _ _ (.startTagOpen name)
    rw [renderXmlWith, renderXmlWith, mapText_nsDecls]
  | startTagClose =>
    show _ = renderXmlWith xmlEscapers env pr s _ _ .startTagClose
    rw [renderXmlWith, renderXmlWith, mapText_firstChild?_isNone]
  | endTag name =>
    show _ = renderXmlWith xmlEscapers env pr s _ _ (.endTag name)
    rw [renderXmlWith, renderXmlWith, mapText_firstChild?_isSome, mapText_hasNsDecls]
  | _ => rfl

theorem renderAtWith_norm (env : Env) (pr : TokenParams) (t : Tree) (s : FStack) (path : Path) (o : Output)
    (h : o.nsFixed N env) :
    renderAtWith (normEscapers N) env pr t s path o =
      renderAtWith xmlEscapers env pr (t.mapText N) s path (o.mapText N) := by
  unfold renderAtWith
  rw [mapText_at?, mapText_parentAt?]
  cases t.at? path with
  | none => rfl
  | some node => exact renderXmlWith_norm N env pr s node _ o h

/-! ### Streams -/

theorem renderAllWith_norm (env : Env) (pr : TokenParams) (t : Tree) (s : FStack) (outs : List (Path × Output))
    (h : NsWritten N env outs) :
    renderAllWith xmlEscapers env pr (t.mapText N) s (outs.map (tagMapText N)) =
      (renderAllWith (normEscapers N) env pr t s outs).mapOk (List.map (tokMapText N)) := by
  induction outs generalizing s with
  | nil => rfl
  | cons po rest ih =>
    obtain ⟨p, o⟩ := po
    obtain ⟨h1, h2⟩ := List.forall_mem_cons.mp h
    simp only [List.map_cons, tagMapText, renderAllWith, ← renderAtWith_norm N env pr t s p o h1]
    cases renderAtWith (normEscapers N) env pr t s p o with
    | err e => rfl
    | panic => rfl
    | ok r =>
      obtain ⟨s', tok⟩ := r
      have := ih s' h2
      simp only [this]
      cases renderAllWith (normEscapers N) env pr t s' rest <;> rfl

theorem writeGoWith_norm (env : Env) (pr : TokenParams) (t : Tree) (s : FStack) (outs : List (Path × Output))
    (h : NsWritten N env outs) :
    writeGoWith xmlEscapers env pr (t.mapText N) s (outs.map (tagMapText N)) =
      writeGoWith (normEscapers N) env pr t s outs := by
  rw [← writeGoCalls_eq, ← writeGoCalls_eq, writeGoCalls, writeGoCalls,
    callsLoop_congr_map (tagMapText N) (nodeStepCalls (normEscapers N) env pr t)
      (nodeStepCalls xmlEscapers env pr (t.mapText N)) outs
      (fun po hpo s => by simp only [nodeStepCalls, tagMapText, renderAtWith_norm N env pr t s _ _ (h po hpo)])]

/-! ### Pretty -/

theorem hasInlineChild_mapText (n : Tree) : hasInlineChild (n.mapText N) = hasInlineChild n := by
  simp [hasInlineChild, mapText_normalKids, List.any_map, Function.comp_def]

/-- `Pretty` looks at the tree only through `xml:space`, the first child and the two closures. -/
theorem prettifyWith_mapText (inl : Tree → Bool) (supp : Nat → Bool) (ps : PStack) (node : Tree) (o : Output)
    (hinl : inl (node.mapText N) = inl node) (h : elementSpace (node.mapText N) = elementSpace node) :
    prettifyWith inl supp ps (node.mapText N) (o.mapText N) = prettifyWith inl supp ps node o := by
  cases o with
  | startTagClose =>
    show prettifyWith inl supp ps _ .startTagClose = _
    rw [prettifyWith, prettifyWith, mapText_firstChild?_isSome, hinl, h, mapText_value]
    cases node.value <;> rfl
  | endTag name =>
    show prettifyWith inl supp ps _ (.endTag name) = _
    rw [prettifyWith, prettifyWith, mapText_firstChild?_isSome]
  | _ => rfl

theorem prettify_mapText (sup : List Nat) (ps : PStack) (node : Tree) (o : Output)
    (h : elementSpace (node.mapText N) = elementSpace node) :
    prettify sup ps (node.mapText N) (o.mapText N) = prettify sup ps node o := by
  rw [prettify_eq_with]
  exact prettifyWith_mapText N _ _ ps node o (hasInlineChild_mapText N node) h

theorem prettifyAt_mapText (sup : List Nat) (t : Tree) (ps : PStack) (path : Path) (o : Output)
    (h : ∀ n, t.at? path = some n → elementSpace (n.mapText N) = elementSpace n) :
    prettifyAt sup (t.mapText N) ps path (o.mapText N) = prettifyAt sup t ps path o := by
  unfold prettifyAt
  rw [mapText_at?]
  cases hn : t.at? path with
  | none => rfl
  | some node => exact prettify_mapText N sup ps node o (h node hn)

theorem prettyAllWith_norm (env : Env) (pr : TokenParams) (sup : List Nat) (t : Tree) (ps : PStack) (s : FStack)
    (outs : List (Path × Output)) (h : NsWritten N env outs) (hs : SpaceKept N t outs) :
    prettyAllWith xmlEscapers env pr sup (t.mapText N) ps s (outs.map (tagMapText N)) =
      (prettyAllWith (normEscapers N) env pr sup t ps s outs).mapOk (List.map (tokMapText N)) := by
  induction outs generalizing ps s with
  | nil => rfl
  | cons po rest ih =>
    obtain ⟨p, o⟩ := po
    obtain ⟨h1, h2⟩ := List.forall_mem_cons.mp h
    obtain ⟨hs1, hs2⟩ := List.forall_mem_cons.mp hs
    have hs1 := prettifyAt_mapText N sup t ps p o hs1
    simp only [List.map_cons, tagMapText, prettyAllWith, ← renderAtWith_norm N env pr t s p o h1, hs1]
    cases renderAtWith (normEscapers N) env pr t s p o with
    | err e => rfl
    | panic => rfl
    | ok r =>
      obtain ⟨s', tok⟩ := r
      have := ih (prettifyAt sup t ps p o).1 s' h2 hs2
      simp only [this]
      cases prettyAllWith (normEscapers N) env pr sup t (prettifyAt sup t ps p o).1 s' rest <;> rfl

theorem writePrettyGoWith_norm (env : Env) (pr : TokenParams) (sup : List Nat) (t : Tree) (ps : PStack)
    (s : FStack) (outs : List (Path × Output)) (h : NsWritten N env outs) (hs : SpaceKept N t outs) :
    writePrettyGoWith xmlEscapers env pr sup (t.mapText N) ps s (outs.map (tagMapText N)) =
      writePrettyGoWith (normEscapers N) env pr sup t ps s outs := by
  rw [← writePrettyGoCalls_eq, ← writePrettyGoCalls_eq, writePrettyGoCalls, writePrettyGoCalls,
    callsLoop_congr_map (tagMapText N) (prettyStepCalls (normEscapers N) env pr sup t)
      (prettyStepCalls xmlEscapers env pr sup (t.mapText N)) outs
      (fun po hpo st => by
        simp only [prettyStepCalls, tagMapText, renderAtWith_norm N env pr t st.2 _ _ (h po hpo),
          prettifyAt_mapText N sup t st.1 _ _ (hs po hpo)])]

/-! ### Entry points -/

theorem tokensWith_norm (env : Env) (pr : TokenParams) (t : Tree) (start : Path)
    (h : NsWritten N env (genOutputs t start)) :
    tokens env pr (t.mapText N) start =
      (tokensWith (normEscapers N) env pr t start).mapOk (List.map (tokMapText N)) := by
  unfold tokens tokensWith
  rw [genOutputs_mapText, mapText_initStack, renderAllWith_norm N env pr t _ _ h]
  cases renderAllWith (normEscapers N) env pr t (initStack t start) (genOutputs t start) <;> rfl

theorem prettyTokensWith_norm (env : Env) (pr : TokenParams) (sup : List Nat) (t : Tree) (start : Path)
    (h : NsWritten N env (genOutputs t start)) (hs : SpaceKept N t (genOutputs t start)) :
    prettyTokens env pr sup (t.mapText N) start =
      (prettyTokensWith (normEscapers N) env pr sup t start).mapOk (List.map (tokMapText N)) := by
  unfold prettyTokens prettyTokensWith
  rw [genOutputs_mapText, mapText_initStack, prettyAllWith_norm N env pr sup t _ _ _ h hs]
  cases prettyAllWith (normEscapers N) env pr sup t [] (initStack t start) (genOutputs t start) <;> rfl

theorem serializeWriteWith_norm (env : Env) (pr : TokenParams) (t : Tree) (start : Path)
    (h : NsWritten N env (genOutputs t start)) :
    serializeWriteWith (normEscapers N) env pr t start = serializeWrite env pr (t.mapText N) start := by
  unfold serializeWrite serializeWriteWith
  rw [genOutputs_mapText, mapText_initStack, writeGoWith_norm N env pr t _ _ h]

theorem serializeStringWith_norm (env : Env) (pr : TokenParams) (t : Tree) (start : Path)
    (h : NsWritten N env (genOutputs t start)) :
    serializeStringWith (normEscapers N) env pr t start = serializeString env pr (t.mapText N) start := by
  unfold serializeString serializeStringWith
  rw [serializeWriteWith_norm N env pr t start h]

theorem serializePrettyWriteWith_norm (env : Env) (pr : TokenParams) (sup : List Nat) (t : Tree) (start : Path)
    (h : NsWritten N env (genOutputs t start)) (hs : SpaceKept N t (genOutputs t start)) :
    serializePrettyWriteWith (normEscapers N) env pr sup t start =
      serializePrettyWrite env pr sup (t.mapText N) start := by
  unfold serializePrettyWrite serializePrettyWriteWith
  rw [genOutputs_mapText, mapText_initStack, writePrettyGoWith_norm N env pr sup t _ _ _ h hs]

/-! ### Doctype and the full parameter set -/

theorem firstElementIdx_mapText (n : Tree) : firstElementIdx (n.mapText N) = firstElementIdx n := by
  simp [firstElementIdx, mapText_normalKids, List.findIdx?_map, Function.comp_def]

theorem doctypeName_mapText (env : Env) (t : Tree) (start : Path) :
    doctypeName env (t.mapText N) start = doctypeName env t start := by
  unfold doctypeName
  rw [mapText_at?]
  cases hn : t.at? start with
  | none => rfl
  | some n =>
    simp only [Option.map_some, mapText_value, firstElementIdx_mapText]
    have key : ∀ path, (match (t.mapText N).at? path with
        | some el =>
          (match el.value with
           | .element name =>
             (match (doctypeStack (t.mapText N) path el).elementFullname env name with
              | .ok full => (Outcome.ok full : Outcome XotError Str)
              | .error e => .err e)
           | _ => .panic)
        | none => .panic) =
        (match t.at? path with
        | some el =>
          (match el.value with
           | .element name =>
             (match (doctypeStack t path el).elementFullname env name with
              | .ok full => (Outcome.ok full : Outcome XotError Str)
              | .error e => .err e)
           | _ => .panic)
        | none => .panic) := by
      intro path
      rw [mapText_at?]
      cases t.at? path with
      | none => rfl
      | some el =>
        simp only [Option.map_some, mapText_value, doctypeStack, mapText_namespacesInScope, mapText_nsDecls]
        cases el.value <;> rfl
    cases hv : n.value with
    | document =>
      simp only [Value.mapText]
      cases firstElementIdx n with
      | none => rfl
      | some i => exact key _
    | element name => simp only [Value.mapText]; exact key _
    | _ => rfl

/-- **The normalizer is a pre-map** (write level, full parameter set). -/
theorem serializeXmlWriteWith_norm (env : Env) (p : XmlParams) (t : Tree) (start : Path)
    (h : NsWritten N env (genOutputs t start))
    (hs : p.indentation ≠ none → SpaceKept N t (genOutputs t start)) :
    serializeXmlWriteWith (normEscapers N) env p t start = serializeXmlWrite env p (t.mapText N) start := by
  unfold serializeXmlWrite serializeXmlWriteWith
  rw [doctypeName_mapText]
  cases hi : p.indentation with
  | none =>
    simp only [serializeWriteWith_norm N env p.tokenParams t start h]
  | some sup =>
    have hs' := hs (by simp [hi])
    simp only [serializePrettyWriteWith_norm N env p.tokenParams sup t start h hs']

theorem serializeXmlStringWith_norm (env : Env) (p : XmlParams) (t : Tree) (start : Path)
    (h : NsWritten N env (genOutputs t start))
    (hs : p.indentation ≠ none → SpaceKept N t (genOutputs t start)) :
    serializeXmlStringWith (normEscapers N) env p t start = serializeXmlString env p (t.mapText N) start := by
  unfold serializeXmlString serializeXmlStringWith
  rw [serializeXmlWriteWith_norm N env p t start h hs]

/-! ### The escaping functions never decide about success -/

/-- One `render_output` call: same outcome kind, same error, same next stack for any two sets of escaping
    functions (only the token text depends on them). -/
theorem renderXmlWith_outcome (e1 e2 : Escapers) (env : Env) (pr : TokenParams) (s : FStack) (node : Tree)
    (parent : Option Tree) (o : Output) :
    (renderXmlWith e1 env pr s node parent o).mapOk Prod.fst =
      (renderXmlWith e2 env pr s node parent o).mapOk Prod.fst := by
  -- `mapOk` is pushed through the tests first: the tokens, which differ, never meet
  cases o with
  | pfx p ns =>
    rw [renderXmlWith, renderXmlWith]
    simp only [apply_ite (Outcome.mapOk Prod.fst), Outcome.mapOk_ok]
  | text s =>
    rw [renderXmlWith, renderXmlWith]
    simp only [apply_ite (Outcome.mapOk Prod.fst), Outcome.mapOk_ok]
  | «attribute» name value =>
    rw [renderXmlWith, renderXmlWith]
    cases FStack.attributeFullname env s name <;> rfl
  | _ => rfl

theorem renderAtWith_outcome (e1 e2 : Escapers) (env : Env) (pr : TokenParams) (t : Tree) (s : FStack)
    (path : Path) (o : Output) :
    (renderAtWith e1 env pr t s path o).mapOk Prod.fst = (renderAtWith e2 env pr t s path o).mapOk Prod.fst := by
  unfold renderAtWith
  cases t.at? path with
  | none => rfl
  | some node => exact renderXmlWith_outcome e1 e2 env pr s node _ o

theorem nodeStepCalls_outcome (e1 e2 : Escapers) (env : Env) (pr : TokenParams) (t : Tree) (s : FStack)
    (po : Path × Output) :
    (nodeStepCalls e1 env pr t s po).2 = (nodeStepCalls e2 env pr t s po).2 := by
  simp only [nodeStepCalls]
  rcases Outcome.mapOk_fst_eq (renderAtWith_outcome e1 e2 env pr t s po.1 po.2) with
    ⟨s1, k1, k2, h1, h2⟩ | ⟨e, h1, h2⟩ | ⟨h1, h2⟩ <;> rw [h1, h2]

theorem writeGoWith_outcome (e1 e2 : Escapers) (env : Env) (pr : TokenParams) (t : Tree) (s : FStack)
    (outs : List (Path × Output)) :
    (writeGoWith e1 env pr t s outs).2 = (writeGoWith e2 env pr t s outs).2 := by
  rw [← writeGoCalls_snd, ← writeGoCalls_snd]
  exact callsLoop_snd_congr _ _ outs (fun po _ s => nodeStepCalls_outcome e1 e2 env pr t s po) s

theorem writePrettyGoWith_outcome (e1 e2 : Escapers) (env : Env) (pr : TokenParams) (sup : List Nat) (t : Tree)
    (ps : PStack) (s : FStack) (outs : List (Path × Output)) :
    (writePrettyGoWith e1 env pr sup t ps s outs).2 = (writePrettyGoWith e2 env pr sup t ps s outs).2 := by
  rw [← writePrettyGoCalls_snd, ← writePrettyGoCalls_snd]
  refine callsLoop_snd_congr _ _ outs (fun po _ st => ?_) (ps, s)
  simp only [prettyStepCalls]
  rcases Outcome.mapOk_fst_eq (renderAtWith_outcome e1 e2 env pr t st.2 po.1 po.2) with
    ⟨s1, k1, k2, h1, h2⟩ | ⟨e, h1, h2⟩ | ⟨h1, h2⟩ <;> rw [h1, h2]

/-- `serialize_xml_write_with_normalizer` ends as `serialize_xml_write` ends, for every normalizer (any
    escaping functions): success or the same error. -/
theorem serializeXmlWriteWith_outcome (e1 e2 : Escapers) (env : Env) (p : XmlParams) (t : Tree) (start : Path) :
    (serializeXmlWriteWith e1 env p t start).2 = (serializeXmlWriteWith e2 env p t start).2 := by
  unfold serializeXmlWriteWith
  cases p.doctype with
  | none =>
    cases p.indentation with
    | none => exact writeGoWith_outcome e1 e2 env _ t _ _
    | some sup => exact writePrettyGoWith_outcome e1 e2 env _ sup t _ _ _
  | some d =>
    cases doctypeName env t start with
    | err e => rfl
    | panic => rfl
    | ok name =>
      cases p.indentation with
      | none => exact writeGoWith_outcome e1 e2 env _ t _ _
      | some sup => exact writePrettyGoWith_outcome e1 e2 env _ sup t _ _ _
end XotModel
