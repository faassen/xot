/-
  Ancestors against subtrees (a node is below `a` exactly when `a` is among its ancestors), and what
  `placeLast/First/After/Before`, `addRoot`, `newNode` and `detachRaw` do under `W` for a subtree whose handles are not
  in use (`Fresh`).
-/
import XotModel.Lemmas.FatomPrims
import XotModel.Lemmas.FatomEdit

/-! ## The ancestor chain and subtrees -/

namespace XotModel
open HTree

theorem ancestorsOfList_mem_of_find (a x : Nat) : ∀ (ks : List HTree) (t : HTree) (l : List Nat),
    (handlesList ks).Nodup → findList? a ks = some t → x ∈ handles t →
    ancestorsOfList x ks = some l → a ∈ l := by
  intro ks t l hn hf hx hl
  obtain ⟨path, h1, h2⟩ := ancestorsOfList_complete ks t hn hf hx
  rw [hl] at h1
  cases h1
  exact h2

namespace Forest

theorem mem_ancestors_of_subtree {f : Forest} (w : f.W) {a x : Nat} {t : HTree}
    (hg : f.get? a = some t) (hx : x ∈ handles t) : a ∈ f.ancestors x :=
  List.contains_iff_mem.1 ((ancestors_contains_iff w.nodup).2 ⟨t, hg, hx⟩)

theorem not_mem_subtree {f : Forest} (w : f.W) {a x : Nat} {t : HTree}
    (hg : f.get? a = some t) (hx : a ∉ f.ancestors x) : x ∉ handles t :=
  fun h' => hx (mem_ancestors_of_subtree w hg h')

theorem ancestors_suffix {f : Forest} (w : f.W) : ∀ (l : List Nat) (x y : Nat),
    f.ancestors x = l → y ∈ l → ∃ pre, l = pre ++ f.ancestors y
  | [], x, y, _, hy => by cases hy
  | z :: l, x, y, e, hy => by
    cases hl : f.isLive x with
    | false => rw [ancestors_dead hl] at e; cases e
    | true =>
      cases hp : f.parent? x with
      | none =>
        rw [(ancestors_root w hl hp).1] at e
        injection e with e1 e2
        subst e1 e2
        simp only [List.mem_singleton] at hy
        subst hy
        exact ⟨[], by rw [(ancestors_root w hl hp).1]; rfl⟩
      | some q =>
        have hs := ancestors_step w hp
        rw [hs] at e
        injection e with e1 e2
        subst e1
        rcases List.mem_cons.1 hy with h' | h'
        · subst h'; exact ⟨[], by rw [hs, e2]; rfl⟩
        · obtain ⟨pre, hpre⟩ := ancestors_suffix w l q y e2 h'
          exact ⟨x :: pre, by rw [hpre]; rfl⟩

theorem ancestors_trans {f : Forest} (w : f.W) {a y x : Nat} (h1 : a ∈ f.ancestors y)
    (h2 : y ∈ f.ancestors x) : a ∈ f.ancestors x := by
  obtain ⟨pre, hpre⟩ := ancestors_suffix w _ x y rfl h2
  rw [hpre]; exact List.mem_append_right _ h1

theorem not_mem_ancestors_parent {f : Forest} (w : f.W) {x q : Nat} (hp : f.parent? x = some q) :
    x ∉ f.ancestors q := by
  intro h'
  obtain ⟨pre, hpre⟩ := ancestors_suffix w _ q x rfl h'
  have := congrArg List.length hpre
  rw [ancestors_step w hp] at this
  simp only [List.length_append, List.length_cons] at this
  omega

theorem Frame.keepOutside {f f1 : Forest} {h : Nat} {t : HTree} (fr : Frame f f1 (handles t))
    (w : f.W) (w1 : f1.W) (hg : f.get? h = some t) {x : Nat} (hl : f.isLive x = true)
    (hx : h ∉ f.ancestors x) :
    x ∉ handles t ∧ f1.ancestors x = f.ancestors x ∧ f1.parent? x = f.parent? x ∧
      f1.isLive x = true := by
  have hxt := not_mem_subtree w hg hx
  refine ⟨hxt, fr.ancestors' w w1 hl ?_, fr.parent x hxt, by rw [fr.live x hxt]; exact hl⟩
  intro y hy hyt
  exact hx (ancestors_trans w (mem_ancestors_of_subtree w hg hyt) hy)

end Forest
end XotModel

/-! ## Placing a subtree whose handles are not in use; `addRoot`, `newNode`, `detachRaw` -/

namespace XotModel
open HTree

namespace Forest

/-- A detached tree that can be put (back) into `f`. -/
structure Fresh (f : Forest) (t : HTree) : Prop where
  nodup : (handles t).Nodup
  disjoint : ∀ x ∈ handles t, x ∉ f.allHandles
  leaf : leafOk t = true
  below : ∀ x ∈ handles t, x < f.next

theorem W_of_count_add {f f' : Forest} (w : f.W) {t : HTree} (fr : Fresh f t)
    (hn : f'.next = f.next)
    (hc : ∀ a, f'.allHandles.count a = f.allHandles.count a + (handles t).count a)
    (hl : leafOkList f'.roots = true) : f'.W := by
  refine ⟨?_, hl, ?_⟩
  · rw [List.nodup_iff_count]
    intro a
    rw [hc a]
    have h1 := (List.nodup_iff_count.1 w.nodup) a
    have h2 := (List.nodup_iff_count.1 fr.nodup) a
    by_cases ha : a ∈ handles t
    · have := List.count_eq_zero.2 (fr.disjoint a ha); omega
    · have := List.count_eq_zero.2 ha; omega
  · intro x hx
    have := List.count_pos_iff.2 hx
    rw [hc x] at this
    rw [hn]
    by_cases ha : x ∈ handles t
    · exact fr.below x ha
    · have h0 := List.count_eq_zero.2 ha
      exact w.below x (List.count_pos_iff.1 (by omega))

/-- The subtree returned by `cut` can be put back. -/
theorem cut_fresh {f : Forest} (w : f.W) {h : Nat} {t : HTree} (hg : f.get? h = some t) :
    Fresh (f.cut h).1 t := by
  obtain ⟨_, w1, hc, fr, hl⟩ := cut_spec w hg
  have hsub := findList?_sublist h f.roots t hg
  refine ⟨hsub.nodup w.nodup, ?_, hl, ?_⟩
  · intro x hx hx'
    have h1 := (List.nodup_iff_count.1 w.nodup) x
    have h2 := hc x
    have h3 := List.count_pos_iff.2 hx
    have h4 := List.count_pos_iff.2 hx'
    omega
  · intro x hx
    have : x ∈ f.allHandles := hsub.subset hx
    exact Nat.lt_of_lt_of_le (w.below x this) fr.next_le

theorem findSome?_map_congr {α β γ : Type} (g : α → β) (p : β → Option γ) (q : α → Option γ)
    (h : ∀ a, p (g a) = q a) : ∀ l : List α, (l.map g).findSome? p = l.findSome? q
  | [] => rfl
  | a :: l => by
    rw [List.map_cons, List.findSome?_cons, List.findSome?_cons, h a, findSome?_map_congr g p q h l]

theorem placeUnder_spec {f : Forest} (w : f.W) {t : HTree} (fr : Fresh f t) {p : Nat}
    (g : HTree → HTree) (hg : InsertsUnder g t)
    (hgl : ∀ n, f.get? p = some n → leafOk (g n) = true) (hp : f.isLive p = true) :
    let f' : Forest := { f with roots := f.roots.map (mapAt p g) }
    f'.W ∧ (∀ a, f'.allHandles.count a = f.allHandles.count a + (handles t).count a) ∧
    Frame f f' (handles t) := by
  intro f'
  have hroots : f'.roots = mapAtList p g f.roots := (mapAtList_eq_map p g f.roots).symm
  have hc : ∀ a, f'.allHandles.count a = f.allHandles.count a + (handles t).count a := by
    intro a
    show (handlesList f'.roots).count a = _
    rw [hroots]
    exact mapAtList_count_ins p g t hg f.roots w.nodup ((isLive_iff_mem f p).1 hp) a
  have hl : leafOkList f'.roots = true := by
    rw [hroots]
    exact leafOkList_mapAtList p g f.roots w.nodup w.leaves hgl
  refine ⟨W_of_count_add w fr rfl hc hl, hc, ⟨?_, ?_, rfl, rfl, Nat.le_refl _⟩⟩
  · intro x hx
    rw [parent?_eq, parent?_eq]
    exact findSome?_map_congr _ _ _ (fun a => mapAt_parent_ins p x g t hg hx a) f.roots
  · intro x hx
    have : f'.value? x = f.value? x := by
      unfold value? get?
      rw [hroots]
      exact mapAtList_value_ins p x g t hg hx f.roots
    rw [this]

theorem container_leafOk {f : Forest} (w : f.W) {p : Nat}
    (hc : f.isElement p = true ∨ f.isDocument p = true)
    (ks : HTree → List HTree) (hks : ∀ n, leafOkList n.kids = true → leafOkList (ks n) = true) :
    ∀ n, f.get? p = some n → leafOk (n.setKids (ks n)) = true := by
  intro n hn
  have hl := findList?_leafOk p f.roots n w.leaves hn
  have hv : f.value? p = some n.value := by unfold value?; rw [hn]; rfl
  cases n with
  | node h v kids =>
    simp only [HTree.setKids, leafOk, Bool.and_eq_true, Bool.or_eq_true] at hl ⊢
    refine ⟨?_, hks _ hl.2⟩
    simp only [HTree.value] at hv
    unfold isElement isDocument at hc
    rw [hv] at hc
    simp only [Option.map_some, beq_iff_eq, Option.some.injEq] at hc
    rcases hc with h' | h'
    · exact Or.inl (Or.inr h')
    · exact Or.inr h'

theorem placeLast_spec {f : Forest} (w : f.W) {t : HTree} (fr : Fresh f t) {p : Nat}
    (hp : f.isLive p = true) (hc : f.isElement p = true ∨ f.isDocument p = true) :
    (f.placeLast p t).W ∧
    (∀ a, (f.placeLast p t).allHandles.count a = f.allHandles.count a + (handles t).count a) ∧
    Frame f (f.placeLast p t) (handles t) :=
  placeUnder_spec w fr _ (insertsLast t)
    (container_leafOk w hc (fun n => n.kids ++ [t]) (fun n hn => by
      rw [leafOkList_append, hn]; simp [leafOkList, fr.leaf])) hp

theorem placeFirst_spec {f : Forest} (w : f.W) {t : HTree} (fr : Fresh f t) {p : Nat}
    (hp : f.isLive p = true) (hc : f.isElement p = true ∨ f.isDocument p = true) :
    (f.placeFirst p t).W ∧
    (∀ a, (f.placeFirst p t).allHandles.count a = f.allHandles.count a + (handles t).count a) ∧
    Frame f (f.placeFirst p t) (handles t) :=
  placeUnder_spec w fr _ (insertsFirst t)
    (container_leafOk w hc (fun n => t :: n.kids) (fun n hn => by
      simp [leafOkList, fr.leaf, hn])) hp

theorem placeBeside_spec {f : Forest} (w : f.W) {t : HTree} (fr : Fresh f t) {ref : Nat}
    (F : HTree → List HTree) (hF : InsertsBeside F t) (hl : f.isLive ref = true)
    (hr : f.isRoot ref = false) :
    let f' : Forest := { f with roots := f.roots.map (replaceBelow ref F) }
    f'.W ∧ (∀ a, f'.allHandles.count a = f.allHandles.count a + (handles t).count a) ∧
    Frame f f' (handles t) := by
  intro f'
  obtain ⟨tr, hg⟩ : ∃ tr, f.get? ref = some tr := by
    unfold isLive at hl
    cases h : f.get? ref with
    | none => rw [h] at hl; cases hl
    | some tr => exact ⟨tr, rfl⟩
  have hroots : f'.roots = replaceKids ref F f.roots := map_replaceBelow_eq ref F f.roots hr
  have hc : ∀ a, f'.allHandles.count a = f.allHandles.count a + (handles t).count a := by
    intro a
    have h1 := replaceKids_count ref F f.roots tr w.nodup hg a
    have h2 := hF.handles tr a
    show (handlesList f'.roots).count a = _
    rw [hroots]
    unfold allHandles
    omega
  have hlv : leafOkList f'.roots = true := by
    rw [hroots]
    exact leafOkList_replaceKids ref F (hF.leaf fr.leaf) f.roots w.leaves
  refine ⟨W_of_count_add w fr rfl hc hlv, hc, ⟨?_, ?_, rfl, rfl, Nat.le_refl _⟩⟩
  · intro x hx
    rw [parent?_eq, parent?_eq]
    exact findSome?_map_congr _ _ _ (fun a => replaceBelow_parent_ins ref x F t hF hx a) f.roots
  · intro x hx
    have : f'.value? x = f.value? x := by
      unfold value? get?
      rw [hroots]
      exact replaceKids_value_ins ref x F t hF hx f.roots
    rw [this]

theorem placeAfter_spec {f : Forest} (w : f.W) {t : HTree} (fr : Fresh f t) {ref : Nat}
    (hl : f.isLive ref = true) (hr : f.isRoot ref = false) :
    (f.placeAfter ref t).W ∧
    (∀ a, (f.placeAfter ref t).allHandles.count a = f.allHandles.count a + (handles t).count a) ∧
    Frame f (f.placeAfter ref t) (handles t) :=
  placeBeside_spec w fr _ (insertsAfter t) hl hr

theorem placeBefore_spec {f : Forest} (w : f.W) {t : HTree} (fr : Fresh f t) {ref : Nat}
    (hl : f.isLive ref = true) (hr : f.isRoot ref = false) :
    (f.placeBefore ref t).W ∧
    (∀ a, (f.placeBefore ref t).allHandles.count a = f.allHandles.count a + (handles t).count a) ∧
    Frame f (f.placeBefore ref t) (handles t) :=
  placeBeside_spec w fr _ (insertsBefore t) hl hr

theorem addRoot_spec {f : Forest} (w : f.W) {t : HTree} (fr : Fresh f t) :
    (f.addRoot t).W ∧
    (∀ a, (f.addRoot t).allHandles.count a = f.allHandles.count a + (handles t).count a) ∧
    Frame f (f.addRoot t) (handles t) ∧ (f.addRoot t).get? t.handle = some t ∧
    (f.addRoot t).isRoot t.handle = true := by
  have hc : ∀ a, (f.addRoot t).allHandles.count a = f.allHandles.count a + (handles t).count a := by
    intro a
    show (handlesList (f.roots ++ [t])).count a = _
    rw [handlesList_append]
    simp [handlesList, allHandles]
  have hl : leafOkList (f.addRoot t).roots = true := by
    show leafOkList (f.roots ++ [t]) = true
    rw [leafOkList_append, w.leaves]; simp [leafOkList, fr.leaf]
  refine ⟨W_of_count_add w fr rfl hc hl, hc, ⟨?_, ?_, rfl, rfl, Nat.le_refl _⟩, ?_, ?_⟩
  · intro x hx
    rw [parent?_eq, parent?_eq]
    show (f.roots ++ [t]).findSome? _ = _
    rw [List.findSome?_append]
    simp only [List.findSome?_cons, List.findSome?_nil, parentBelow_none_of_not_mem hx]
    cases List.findSome? (parentBelow x) f.roots <;> rfl
  · intro x hx
    have : (f.addRoot t).value? x = f.value? x := by
      show (findList? x (f.roots ++ [t])).map HTree.value = _
      rw [fa_findList?_append]
      simp only [findList?, (find?_none_iff _ _).2 hx]
      unfold value? get?
      cases findList? x f.roots <;> rfl
    rw [this]
  · show findList? t.handle (f.roots ++ [t]) = some t
    rw [fa_findList?_append]
    have : t.handle ∉ f.allHandles := fr.disjoint _ (handle_mem_handles t)
    rw [(findList?_none_iff _ _).2 this]
    simp only [findList?, find?_root]
  · show (f.roots ++ [t]).any _ = true
    simp

/-- `new_node` is `addRoot` of a leaf on the handle `next`, which is then used up. -/
theorem newNode_spec {f : Forest} (w : f.W) (v : Value) :
    (f.newNode v).2 = f.next ∧ (f.newNode v).1.W ∧ Frame f (f.newNode v).1 [f.next] ∧
    (f.newNode v).1.get? f.next = some (.node f.next v []) ∧
    (f.newNode v).1.isRoot f.next = true ∧ f.isLive f.next = false := by
  have hdead : f.next ∉ f.allHandles := fun h' => Nat.lt_irrefl _ (w.below _ h')
  have w' : Forest.W { f with next := f.next + 1 } := ⟨w.nodup, w.leaves, fun h hh => Nat.lt_succ_of_lt (w.below h hh)⟩
  have fr : Fresh { f with next := f.next + 1 } (.node f.next v []) :=
    ⟨by simp [handles, handlesList], fun x hx => by simp [handles, handlesList] at hx; subst hx; exact hdead,
      by simp [leafOk, leafOkList], fun x hx => by simp [handles, handlesList] at hx; subst hx; exact Nat.lt_succ_self _⟩
  obtain ⟨w1, _, fr1, hg, hr⟩ := addRoot_spec w' fr
  refine ⟨rfl, w1, ⟨fr1.parent, fr1.shape, fr1.corrupt, fr1.consolidation, Nat.le_succ _⟩, hg, hr, ?_⟩
  cases h : f.isLive f.next with
  | false => rfl
  | true => exact absurd ((isLive_iff_mem f _).1 h) hdead

/-- `detach` at indextree level: the subtree becomes a root. -/
theorem detachRaw_spec {f : Forest} (w : f.W) {h : Nat} {t : HTree} (hg : f.get? h = some t) :
    (f.detachRaw h).W ∧ Frame f (f.detachRaw h) (handles t) ∧
    (f.detachRaw h).get? h = some t ∧ (f.detachRaw h).isRoot h = true ∧
    (∀ a, (f.detachRaw h).allHandles.count a = f.allHandles.count a) := by
  obtain ⟨h1, w1, hc, fr1, _⟩ := cut_spec w hg
  have fresh := cut_fresh w hg
  have hd : f.detachRaw h = (f.cut h).1.addRoot t := by
    unfold detachRaw
    rcases hcut : f.cut h with ⟨f', o⟩
    rw [hcut] at h1
    simp only at h1
    subst h1
    rfl
  rw [hd]
  obtain ⟨w2, hc2, fr2, hg2, hr2⟩ := addRoot_spec w1 fresh
  rw [get?_handle hg] at hg2 hr2
  refine ⟨w2, (fr1.trans fr2).mono (fun x hx => by simpa using hx), hg2, hr2, ?_⟩
  intro a
  have := hc a
  have := hc2 a
  omega

theorem detachRaw_dead {f : Forest} {h : Nat} (hg : f.get? h = none) : f.detachRaw h = f := by
  unfold detachRaw; rw [cut_dead hg]

end Forest
end XotModel
