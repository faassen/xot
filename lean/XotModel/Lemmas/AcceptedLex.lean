/-
  The lexical classes of the token texts of the reference tokenizer (Model/Lex*.lean: xmlparser 0.13.6), for
  every input, well formed or not: `∀ t ∈ (lexMode m s).1, t.accLex = true`.  One lemma per token parser, then
  `TokStep` (the step analysis of Model/Lex.lean, `parseNextImpl_tokStep'`), then the loop.
-/
import XotModel.Lemmas.LexSlice
import XotModel.Model.ParseString

namespace XotModel

/-- What the tokenizer checks of the texts of one token (and nothing more):
    * element / attribute / end-tag names: prefix and local part NCNames (`consume_qname`), the local
      part not empty;
    * attribute values, text, CDATA, comment and PI content: XML `Char`s only (`skip_chars`);
      text is not empty; comments have no `--` and do not end in `-`; PI content is not empty, does
      not start with white space and has no `?>`;
    * PI targets: `consume_name` — a NAME, colons allowed, and NO test that the target is not
      `xml` in some letter case (only the literal `<?xml ` is refused). -/
def Token.accLex : Token → Bool
  | .elementStart p l _ => qnameOK p.text l.text
  | .attribute p l v _ => qnameOK p.text l.text && v.text.all isXmlChar
  | .elementEnd (.close p l) _ => qnameOK p.text l.text
  | .elementEnd _ _ => true
  | .text t => !t.text.isEmpty && t.text.all isXmlChar
  | .cdata t _ => t.text.all isXmlChar
  | .comment t _ => t.text.all isXmlChar && !hasInfix ['-', '-'] t.text && t.text.getLast? != some '-'
  | .pi t none _ => nameOK t.text
  | .pi t (some c) _ =>
      nameOK t.text && !c.text.isEmpty && !(c.text.head?.any isXmlSpace) && c.text.all isXmlChar &&
        !hasInfix ['?', '>'] c.text
  | _ => true

namespace Lex.Acc

open XotModel.Lex XotModel.Lex.Stream XotModel.Lex.Slice

/-! ### `skip_chars` -/

/-- What `skip_chars(f)` consumed: the text `a` ahead, XML `Char`s at each of which `f` held. -/
theorem skipChars_text {f : Str → Char → Bool} {s s' : Lex.Stream} (h : s.skipChars f = some s') :
    ∃ a r, s.rest = a ++ r ∧ s' = s.adv a.length ∧ (sliceBack s s').text = a ∧ a.all isXmlChar = true ∧
      ∀ u c v, a = u ++ c :: v → f (c :: (v ++ r)) c = true := by
  simp only [skipChars, Option.map_eq_some_iff] at h
  obtain ⟨k, hk, rfl⟩ := h
  obtain ⟨a, r, hs, rfl, ha, _⟩ := scanChars_some hk
  refine ⟨a, r, hs, rfl, by rw [sliceBack_adv_text, hs, List.take_left'  rfl], ?_, fun u c v e => (ha u c v e).2⟩
  rw [List.all_eq_true]
  intro c hc
  obtain ⟨u, v, rfl⟩ := List.append_of_mem hc
  exact (ha u c v rfl).1

/-- No occurrence of a two-character pattern `x y` inside what `skip_chars` consumed when the
    predicate stops at an `x` followed by `y`. -/
theorem no_infix_of_scan {x y : Char} {r : Str} : ∀ {a : Str},
    (∀ u c v, a = u ++ c :: v → (!(c == x && [x, y].isPrefixOf (c :: (v ++ r)))) = true) →
    hasInfix [x, y] a = false
  | [], _ => by simp [hasInfix]
  | c :: cs, h => by
    have ih := no_infix_of_scan (a := cs) fun u d v e => h (c :: u) d v (by rw [e]; rfl)
    have h0 := h [] c cs rfl
    simp only [hasInfix, Bool.or_eq_false_iff, ih, and_true]
    cases cs with
    | nil => simp [List.isPrefixOf]
    | cons d ds =>
      simp only [List.isPrefixOf, Bool.and_true, List.cons_append] at h0 ⊢
      by_cases hc : c = x
      · subst hc
        simpa using h0
      · have : (x == c) = false := by simpa using fun h => hc h.symm
        simp [this]

/-! ### `consume_name`, `consume_qname` -/

theorem consumeName_nameOK {s s' : Lex.Stream} {n : StrSpan} (h : s.consumeName = some (n, s')) :
    nameOK n.text = true := by
  unfold consumeName at h
  split at h
  · simp at h
  · next s1 h1 =>
    dsimp only at h
    split at h
    · simp at h
    · next hne =>
      simp only [Option.some.injEq, Prod.mk.injEq] at h
      obtain ⟨rfl, rfl⟩ := h
      unfold skipName at h1
      split at h1
      · next hr =>
        simp only [Option.some.injEq] at h1
        subst h1
        simp [sliceBack, hr] at hne
      · next c cs hr =>
        split at h1
        · next hc =>
          simp only [Option.some.injEq] at h1
          subst h1
          rw [sliceBack_adv_text, hr]
          have : 1 + (List.takeWhile isNameChar cs).length = (List.takeWhile isNameChar cs).length + 1 := by omega
          rw [this, List.take_succ_cons]
          simp only [nameOK, hc, Bool.true_and]
          rw [List.all_eq_true]
          intro x hx
          rw [← List.prefix_iff_eq_take.mp (List.takeWhile_prefix _)] at hx
          exact List.all_eq_true.mp List.all_takeWhile x hx
        · simp at h1

theorem consumeQName_qnameOK {s s' : Lex.Stream} {p l : StrSpan} (h : s.consumeQName = some (p, l, s')) :
    qnameOK p.text l.text = true := by
  rcases consumeQName_text h with ⟨b, -, rfl, rfl, -, hb, hne⟩ | ⟨a, b, -, rfl, rfl, -, ha, hb, hne⟩
  · simp only [qnameOK, emptySpan, hb, Bool.and_true, Bool.and_eq_true, Bool.not_eq_true',
      List.isEmpty_eq_false_iff]
    exact ⟨rfl, hne⟩
  · simp only [qnameOK, ha, hb, Bool.and_true, Bool.true_and, Bool.not_eq_true', List.isEmpty_eq_false_iff]
    exact hne

end Lex.Acc
end XotModel

/-! ## Every token of every input, in both modes -/

namespace XotModel.Lex.Acc

open XotModel.Lex XotModel.Lex.Stream XotModel.Lex.Slice

theorem parseComment_acc {s s' : Lex.Stream} {t : Token} (h : parseComment s = some (t, s')) :
    t.accLex = true := by
  obtain ⟨s2, h2, -, rfl, hdd, hlast⟩ := parseComment_inv_tests h
  obtain ⟨a, r, _, rfl, ht, hall, _⟩ := skipChars_text h2
  simp only [Token.accLex, Bool.and_eq_true]
  exact ⟨⟨by rw [ht]; exact hall, by simpa [litDashDash] using hdd⟩, by simpa using hlast⟩

theorem parseCdata_acc {s s' : Lex.Stream} {t : Token} (h : parseCdata s = some (t, s')) :
    t.accLex = true := by
  obtain ⟨s2, h2, -, rfl⟩ := parseCdata_inv h
  obtain ⟨a, r, _, rfl, ht, hall, _⟩ := skipChars_text h2
  simp only [Token.accLex]
  rw [ht]
  exact hall

theorem parseText_acc {s s' : Lex.Stream} {t : Token} (h : parseText s = some (t, s'))
    (hc : (s.curr? == some '<') = false) (he : s.atEnd = false) : t.accLex = true := by
  obtain ⟨h1, rfl⟩ := parseText_inv h
  obtain ⟨a, r, _, rfl, ht, hall, _⟩ := skipChars_text h1
  -- the call consumed at least one character
  have hlt := (parseText_adv1 h hc he).len_lt he
  rw [adv_len] at hlt
  simp only [Token.accLex, ht, Bool.and_eq_true, hall, and_true, Bool.not_eq_true', List.isEmpty_eq_false_iff]
  rintro rfl
  exact Nat.lt_irrefl _ hlt

theorem drop_length_takeWhile (p : Char → Bool) : ∀ l : Str, l.drop (l.takeWhile p).length = l.dropWhile p
  | [] => rfl
  | c :: cs => by
    by_cases h : p c = true <;> simp [h, drop_length_takeWhile p cs]

/-- After `skip_spaces` no white space stands at the head. -/
theorem skipSpaces_head (s : Lex.Stream) : s.skipSpaces.rest.head?.any isXmlSpace = false := by
  have e : s.skipSpaces.rest = s.rest.dropWhile isXmlSpace := by
    simp only [skipSpaces, skipBytes, adv_rest]
    exact drop_length_takeWhile _ _
  have := List.head?_dropWhile_not isXmlSpace s.rest
  rw [e]
  cases h : (s.rest.dropWhile isXmlSpace).head? with
  | none => rfl
  | some c => rw [h] at this; simpa using this

theorem parsePI_acc {s s' : Lex.Stream} {t : Token} (h : parsePI s = some (t, s')) :
    t.accLex = true := by
  obtain ⟨tg, s2, s4, h2, h4, -, rfl⟩ := parsePI_inv h
  have hn := consumeName_nameOK h2
  obtain ⟨a, r, hs, rfl, ht, hall, hf⟩ := skipChars_text h4
  split
  · next hemp => simp only [Token.accLex]; exact hn
  · next hemp =>
    simp only [Token.accLex, Bool.and_eq_true, hn, true_and]
    rw [ht] at hemp ⊢
    have hne : a ≠ [] := by simpa using hemp
    refine ⟨⟨⟨by simpa using hemp, ?_⟩, hall⟩, ?_⟩
    · -- the content starts after `skip_spaces`
      have := skipSpaces_head s2
      rw [hs, List.head?_append] at this
      cases a with
      | nil => exact absurd rfl hne
      | cons c cs => simpa using this
    · have := no_infix_of_scan (x := '?') (y := '>') (r := r) (a := a)
        (fun u c v e => by simpa [litPiClose] using hf u c v e)
      simp [this]

theorem parseElementStart_acc {s s' : Lex.Stream} {t : Token} (h : parseElementStart s = some (t, s')) :
    t.accLex = true := by
  obtain ⟨p, l, h1, rfl⟩ := parseElementStart_inv h
  exact consumeQName_qnameOK h1

theorem parseCloseElement_acc {s s' : Lex.Stream} {t : Token} (h : parseCloseElement s = some (t, s')) :
    t.accLex = true := by
  obtain ⟨p, l, s1, h1, -, rfl⟩ := parseCloseElement_inv h
  exact consumeQName_qnameOK h1

theorem parseAttribute_acc {s s' : Lex.Stream} {t : Token} (h : parseAttribute s = some (t, s')) :
    t.accLex = true := by
  rcases parseAttribute_inv h with ⟨-, -, rfl⟩ | ⟨-, -, rfl⟩ |
    ⟨-, p, l, s2, s3, q, s4, s5, h2, -, -, h5, -, rfl⟩
  · rfl
  · rfl
  · obtain ⟨a, r, _, rfl, ht, hall, _⟩ := skipChars_text h5
    simp only [Token.accLex, Bool.and_eq_true]
    exact ⟨consumeQName_qnameOK h2, by rw [ht]; exact hall⟩

theorem parseDeclaration_acc {s s' : Lex.Stream} {t : Token} (h : parseDeclaration s = some (t, s')) :
    t.accLex = true := by
  obtain ⟨_, _, _, rfl, -, -⟩ := (parseDeclaration_shape h).1
  rfl

/-- One token step.  For a text token the step itself says that it was read at a character other
    than `<` (`TokStep.text`). -/
theorem tokStep_acc {tk tk' : Tokenizer} {t : Token} (he : tk.stream.atEnd = false)
    (h : TokStep tk t tk') : t.accLex = true := by
  cases h with
  | decl _ hr => exact parseDeclaration_acc hr
  | doctype _ _ hr _ => rcases (parseDoctype_shape hr).1 with rfl | rfl <;> rfl
  | entity _ hr => rw [(parseEntityDecl_shape hr).1]; rfl
  | comment _ hr => exact parseComment_acc hr
  | pi _ hr => exact parsePI_acc hr
  | dtdEnd _ _ => rfl
  | start _ hr => exact parseElementStart_acc hr
  | cdata _ hr => exact parseCdata_acc hr
  | text _ hr hc => exact parseText_acc hr (by simpa using hc) he
  | close _ hr => exact parseCloseElement_acc hr
  | attr _ hr _ => exact parseAttribute_acc hr
  | tagOpen _ hr => rfl
  | tagEmpty _ hr => rfl

theorem lexLoop_acc (tk : Tokenizer) (position : Nat) :
    ∀ t ∈ (lexLoop tk position).1, t.accLex = true := by
  fun_induction lexLoop tk position with
  | case1 tk pos hc => intro t ht; cases ht
  | case2 tk pos hc tk' hs ih => exact ih
  | case3 tk pos hc t tk' hs r ih =>
    have he := (Tokenizer.running hc).1
    intro t' ht'
    rcases List.mem_cons.mp ht' with rfl | ht'
    · exact tokStep_acc he (parseNextImpl_tokStep' he hs)
    · exact ih t' ht'
  | case4 tk pos hc hs => intro t ht; cases ht

end XotModel.Lex.Acc

namespace XotModel

open XotModel.Lex.Acc XotModel.Lex.Slice

/-- Every token of `parse` / `parse_fragment`'s tokenizer run, on any string, has the lexical
    classes `Token.accLex`. -/
theorem lexMode_accLex (m : Mode) (s : Str) : ∀ t ∈ (lexMode m s).1, t.accLex = true := by
  cases m
  · exact lexLoop_acc (Lex.Tokenizer.ofStr s) _
  · exact lexLoop_acc (Lex.Tokenizer.ofFragment s) _

end XotModel
