/-
  C13: what canonical forms do not see (namespace nodes, attribute order, declarations: `cmpStripNs`, `AttrPerm`,
  `DeclEdit`); `deep_equal_children` and `text_content(_str)` in terms of the children of the canonical form.
-/
import XotModel.Lemmas.CompareCanon
import XotModel.Lemmas.CompareText
import XotModel.Lemmas.CanonDropNs

/-! ## C13: what canonical forms ignore (declarations, prefixes, attribute order), and deep_equal_children. -/

namespace XotModel

/-! ### Namespace nodes do not matter -/

mutual
/-- Erase every namespace node below the root. -/
def cmpStripNs : Tree → Tree
  | .node v ks => .node v (stripNsList ks)
def stripNsList : List Tree → List Tree
  | [] => []
  | k :: ks => if k.value.category == .namespace then stripNsList ks else cmpStripNs k :: stripNsList ks
end

mutual
/-- The eraser of Lemmas/CanonDropNs under its C13 name. -/
theorem cmpStripNs_eq_dropNs : ∀ t : Tree, cmpStripNs t = dropNs t
  | .node v ks => by rw [cmpStripNs, dropNs, cmpStripNsList_eq_dropNsList ks]
theorem cmpStripNsList_eq_dropNsList : ∀ ks : List Tree, stripNsList ks = dropNsList ks
  | [] => rfl
  | k :: ks => by rw [stripNsList, dropNsList, cmpStripNs_eq_dropNs k, cmpStripNsList_eq_dropNsList ks]
end

theorem canon_stripNs (t : Tree) : canon (cmpStripNs t) = canon t := by
  rw [cmpStripNs_eq_dropNs]
  exact canon_dropNs t

theorem canonList_stripNsList : ∀ ks : List Tree,
    canon.canonList (stripNsList ks) = canon.canonList ks ∧ attrPairs (stripNsList ks) = attrPairs ks := by
  intro ks
  rw [cmpStripNsList_eq_dropNsList]
  exact canonList_dropNsList ks

/-! ### Attribute order does not matter -/

theorem attrPairs_perm {l₁ l₂ : List Tree} (p : l₁.Perm l₂) : (attrPairs l₁).Perm (attrPairs l₂) := by
  induction p with
  | nil => exact List.Perm.refl _
  | cons x _ ih => simp only [attrPairs]; split <;> simp [ih]
  | swap x y l =>
    simp only [attrPairs]
    split <;> split <;> first | exact List.Perm.swap _ _ _ | exact List.Perm.refl _
  | trans _ _ ih₁ ih₂ => exact ih₁.trans ih₂

theorem canon_attr_perm (v : Value) (pre A A' rest : List Tree) (p : A.Perm A')
    (hA : ∀ k ∈ A, ¬ k.value.isNormal = true) (nd : attrNamesNodup (pre ++ A ++ rest) = true) :
    canon (.node v (pre ++ A ++ rest)) = canon (.node v (pre ++ A' ++ rest)) := by
  have hA' : ∀ k ∈ A', ¬ k.value.isNormal = true := fun k hk => hA k (p.symm.subset hk)
  have hp : (pre ++ A ++ rest).Perm (pre ++ A' ++ rest) := (p.append_left pre).append_right rest
  have hs : sortAttrs (attrPairs (pre ++ A ++ rest)) = sortAttrs (attrPairs (pre ++ A' ++ rest)) :=
    (sortAttrs_eq_iff_perm (by simpa [attrNamesNodup, keysNodup] using nd)).mpr (attrPairs_perm hp)
  have hc : canon.canonList (pre ++ A ++ rest) = canon.canonList (pre ++ A' ++ rest) := by
    simp only [canonList_append, canonList_eq_nil hA, canonList_eq_nil hA']
  simp only [canon, hc]
  cases v <;> simp only [cvalue, hs]

/-- `canon` keeps exactly the children `Xot::children` iterates over … -/
theorem canonList_normalKids (t : Tree) : canon.canonList t.kids = canon.canonList t.normalKids := by
  unfold Tree.normalKids
  conv => lhs; rw [← List.takeWhile_append_dropWhile (p := fun k : Tree => !k.value.isNormal) (l := t.kids)]
  rw [canonList_append, canonList_eq_nil, List.nil_append]
  intro k hk
  have := mem_takeWhile_imp _ _ _ hk
  simpa using this

/-- … which on well-ordered children are all normal nodes. -/
theorem normalKids_normal {v : Value} {ks : List Tree} (h : orderedKids ks = true) :
    ∀ k ∈ (Tree.node v ks).normalKids, k.value.isNormal = true := by
  obtain ⟨N, A, R, e, _, hN, hA, hR⟩ := Compare.orderedKids_split h
  simp only [Tree.normalKids, Tree.kids]
  rw [e, List.dropWhile_append_of_pos (fun k hk => by simp [Value.isNormal, hN k hk]),
    List.dropWhile_append_of_pos (fun k hk => by simp [Value.isNormal, hA k hk])]
  exact fun k hk => hR k (List.dropWhile_subset _ hk)

theorem deepEqualChildrenLoop_iff (as : List Tree) : ∀ bs : List Tree,
    (∀ k ∈ as, k.valid = true ∧ k.value.isNormal = true) → (∀ k ∈ bs, k.valid = true ∧ k.value.isNormal = true) →
    (deepEqualChildrenLoop as bs = true ↔ as.map canon = bs.map canon) := by
  induction as with
  | nil => intro bs _ _; cases bs <;> simp [deepEqualChildrenLoop]
  | cons a as ih =>
    intro bs ha hb
    cases bs with
    | nil => simp [deepEqualChildrenLoop]
    | cons b bs =>
      have ⟨va, na⟩ := ha a List.mem_cons_self
      have ⟨vb, nb⟩ := hb b List.mem_cons_self
      have h1 : deepEqual a b = true ↔ canon a = canon b := deepEqual_iff_canon a b va vb
      have h2 := ih bs (fun x hx => ha x (List.mem_cons_of_mem _ hx)) (fun x hx => hb x (List.mem_cons_of_mem _ hx))
      simp only [deepEqualChildrenLoop, List.map_cons, List.cons.injEq]
      cases hd : deepEqual a b
      · simp only [hd] at h1
        simp [← h1]
      · simp only [hd, true_iff] at h1
        simp [h1, h2]

theorem deepEqualChildren_iff (a b : Tree) (va : a.valid = true) (vb : b.valid = true) :
    deepEqualChildren a b = true ↔ (canon a).kids = (canon b).kids := by
  obtain ⟨v, ks⟩ := a
  obtain ⟨w, js⟩ := b
  obtain ⟨oa, _, _, vka⟩ := valid_node va
  obtain ⟨ob, _, _, vkb⟩ := valid_node vb
  have na := normalKids_normal (v := v) oa
  have nb := normalKids_normal (v := w) ob
  have sa : ∀ k ∈ (Tree.node v ks).normalKids, k ∈ ks := fun k hk => List.dropWhile_subset _ hk
  have sb : ∀ k ∈ (Tree.node w js).normalKids, k ∈ js := fun k hk => List.dropWhile_subset _ hk
  unfold deepEqualChildren
  rw [deepEqualChildrenLoop_iff _ _ (fun k hk => ⟨vka k (sa k hk), na k hk⟩) (fun k hk => ⟨vkb k (sb k hk), nb k hk⟩)]
  simp only [canon, Canon.kids]
  have ea := canonList_normalKids (.node v ks)
  have eb := canonList_normalKids (.node w js)
  simp only [Tree.kids] at ea eb
  rw [ea, eb, canonList_eq_map na, canonList_eq_map nb]

end XotModel

/-! ## C13: what deep_equal ignores, at every depth. * `AttrPerm a a'`: `a'` is `a` with the attribute children of any set of nodes permuted. * `DeclEdit a a'`: `a'` is `a` after any number of namespace nodes were added, removed or changed anywhere. Both leave the canonical form unchanged (and `AttrPerm` preserves structural validity). -/

namespace XotModel

/-! ### Attribute order, anywhere -/

mutual
/-- `a'` is `a` with, at every node, one block of attribute children permuted (`A.Perm A'`, the
    block may be empty or the whole attribute list) and the other children related recursively. -/
inductive AttrPerm : Tree → Tree → Prop
  | node (v : Value) (pre pre' A A' rest rest' : List Tree) :
      AttrPermList pre pre' → (∀ k ∈ A, k.value.category = .attribute) → A.Perm A' → AttrPermList rest rest' →
      AttrPerm (.node v (pre ++ A ++ rest)) (.node v (pre' ++ A' ++ rest'))
inductive AttrPermList : List Tree → List Tree → Prop
  | nil : AttrPermList [] []
  | cons {k k' : Tree} {ks ks' : List Tree} : AttrPerm k k' → AttrPermList ks ks' → AttrPermList (k :: ks) (k' :: ks')
end

theorem AttrPerm.value_eq {a a' : Tree} (h : AttrPerm a a') : a.value = a'.value := by
  cases h; rfl

mutual
theorem AttrPerm.refl : ∀ t : Tree, AttrPerm t t
  | .node v ks => by
    have := AttrPerm.node v [] [] [] [] ks ks .nil (fun _ h => nomatch h) (List.Perm.refl _) (AttrPermList.refl ks)
    simpa using this
theorem AttrPermList.refl : ∀ ks : List Tree, AttrPermList ks ks
  | [] => .nil
  | k :: ks => .cons (AttrPerm.refl k) (AttrPermList.refl ks)
end

/-- `orderedKids` depends on the categories of the children only. -/
def orderedCats (cs : List Category) : Bool :=
  ((cs.dropWhile (· == .namespace)).dropWhile (· == .attribute)).all (· == .normal)

theorem orderedKids_eq_cats (ks : List Tree) : orderedKids ks = orderedCats (ks.map (·.value.category)) := by
  unfold orderedKids orderedCats
  rw [List.dropWhile_map, List.dropWhile_map, List.all_map]
  rfl

theorem cats_of_attr_block {A : List Tree} (h : ∀ k ∈ A, k.value.category = .attribute) :
    A.map (·.value.category) = List.replicate A.length .attribute := by
  induction A with
  | nil => rfl
  | cons k ks ih =>
    simp only [List.map_cons, List.length_cons, List.replicate_succ, h k List.mem_cons_self,
      ih (fun x hx => h x (List.mem_cons_of_mem _ hx))]

/-- What the recursion establishes for a list of children. -/
structure AttrPermListSpec (ks ks' : List Tree) : Prop where
  canon : canon.canonList ks = canon.canonList ks'
  attrs : attrPairs ks = attrPairs ks'
  cats : ks.map (·.value.category) = ks'.map (·.value.category)
  valid : ∀ k ∈ ks', k.valid = true

mutual
theorem AttrPerm.spec : ∀ {a a' : Tree}, AttrPerm a a' → a.valid = true → canon a = canon a' ∧ a'.valid = true
  | _, _, .node v pre pre' A A' rest rest' hpre hA p hrest, hv => by
    obtain ⟨ho, hn, hl, hk⟩ := valid_node hv
    have hkpre : ∀ k ∈ pre, k.valid = true := fun k h => hk k (by simp [h])
    have hkA : ∀ k ∈ A, k.valid = true := fun k h => hk k (by simp [h])
    have hkrest : ∀ k ∈ rest, k.valid = true := fun k h => hk k (by simp [h])
    have s1 := AttrPermList.spec hpre hkpre
    have s2 := AttrPermList.spec hrest hkrest
    have hA' : ∀ k ∈ A', k.value.category = .attribute := fun k h => hA k (p.symm.subset h)
    have hAn : ∀ k ∈ A, ¬ k.value.isNormal = true := fun k h => by simp [Value.isNormal, hA k h]
    have hAn' : ∀ k ∈ A', ¬ k.value.isNormal = true := fun k h => by simp [Value.isNormal, hA' k h]
    have nd : keysNodup (attrPairs (pre ++ A ++ rest)) := by simpa [attrNamesNodup, keysNodup] using hn
    have hperm : (attrPairs (pre ++ A ++ rest)).Perm (attrPairs (pre' ++ A' ++ rest')) := by
      simp only [attrPairs_append, ← s1.attrs, ← s2.attrs]
      exact ((attrPairs_perm p).append_left _).append_right _
    have hcats : (pre ++ A ++ rest).map (·.value.category) = (pre' ++ A' ++ rest').map (·.value.category) := by
      simp only [List.map_append, s1.cats, s2.cats, cats_of_attr_block hA, cats_of_attr_block hA', p.length_eq]
    constructor
    · have hs := (sortAttrs_eq_iff_perm nd).mpr hperm
      have hc : canon.canonList (pre ++ A ++ rest) = canon.canonList (pre' ++ A' ++ rest') := by
        simp only [canonList_append, canonList_eq_nil hAn, canonList_eq_nil hAn', s1.canon, s2.canon]
      simp only [canon, hc]
      cases v <;> simp only [cvalue, hs]
    · simp only [Tree.valid, Bool.and_eq_true, Bool.or_eq_true, List.isEmpty_iff, validList_iff]
      refine ⟨⟨⟨?_, ?_⟩, ?_⟩, ?_⟩
      · rw [orderedKids_eq_cats, ← hcats, ← orderedKids_eq_cats]; exact ho
      · have := keysNodup_perm hperm nd
        simpa [attrNamesNodup, keysNodup] using this
      · rcases hl with hl | hl
        · exact Or.inl hl
        · refine Or.inr ?_
          have hlen := congrArg List.length hcats
          simp only [List.length_map] at hlen
          rw [hl] at hlen
          exact List.eq_nil_of_length_eq_zero hlen.symm
      · intro k hk'
        simp only [List.mem_append] at hk'
        rcases hk' with (h | h) | h
        · exact s1.valid k h
        · exact hkA k (p.symm.subset h)
        · exact s2.valid k h
theorem AttrPermList.spec : ∀ {ks ks' : List Tree}, AttrPermList ks ks' → (∀ k ∈ ks, k.valid = true) →
    AttrPermListSpec ks ks'
  | _, _, .nil, _ => ⟨rfl, rfl, rfl, fun _ h => nomatch h⟩
  | _, _, .cons (k := k) (k' := k') (ks := ks) (ks' := ks') h hs, hv => by
    have s1 := AttrPerm.spec h (hv k List.mem_cons_self)
    have s2 := AttrPermList.spec hs (fun x hx => hv x (List.mem_cons_of_mem _ hx))
    have hval := h.value_eq
    refine ⟨?_, ?_, ?_, ?_⟩
    · simp only [canon.canonList, ← hval, s1.1, s2.canon]
    · simp only [attrPairs, ← hval, s2.attrs]
    · simp only [List.map_cons, hval, s2.cats]
    · intro x hx
      rcases List.mem_cons.mp hx with e | hx'
      · exact e ▸ s1.2
      · exact s2.valid x hx'
end

/-! ### Namespace declarations, anywhere -/

/-- `a'` is `a` after namespace nodes were added, removed or replaced at any nodes, any number
    of times. -/
inductive DeclEdit : Tree → Tree → Prop
  | add (v : Value) (pre post : List Tree) (d : Tree) : d.value.category = .namespace →
      DeclEdit (.node v (pre ++ post)) (.node v (pre ++ d :: post))
  | remove (v : Value) (pre post : List Tree) (d : Tree) : d.value.category = .namespace →
      DeclEdit (.node v (pre ++ d :: post)) (.node v (pre ++ post))
  | change (v : Value) (pre post : List Tree) (d d' : Tree) : d.value.category = .namespace →
      d'.value.category = .namespace →
      DeclEdit (.node v (pre ++ d :: post)) (.node v (pre ++ d' :: post))
  | child (v : Value) (pre post : List Tree) (k k' : Tree) : DeclEdit k k' →
      DeclEdit (.node v (pre ++ k :: post)) (.node v (pre ++ k' :: post))
  | refl (a : Tree) : DeclEdit a a
  | trans {a b c : Tree} : DeclEdit a b → DeclEdit b c → DeclEdit a c

theorem DeclEdit.value_eq {a b : Tree} (h : DeclEdit a b) : a.value = b.value := by
  induction h with
  | trans _ _ ih₁ ih₂ => exact ih₁.trans ih₂
  | _ => rfl

theorem stripNsList_append (a b : List Tree) : stripNsList (a ++ b) = stripNsList a ++ stripNsList b := by
  induction a with
  | nil => simp [stripNsList]
  | cons k ks ih =>
    simp only [List.cons_append, stripNsList, ih]
    split <;> simp

theorem stripNsList_cons_ns {d : Tree} (h : d.value.category = .namespace) (l : List Tree) :
    stripNsList (d :: l) = stripNsList l := by
  simp [stripNsList, h]

theorem DeclEdit.stripNs_eq {a b : Tree} (h : DeclEdit a b) : cmpStripNs a = cmpStripNs b := by
  induction h with
  | add v pre post d hd => simp only [cmpStripNs, stripNsList_append, stripNsList_cons_ns hd]
  | remove v pre post d hd => simp only [cmpStripNs, stripNsList_append, stripNsList_cons_ns hd]
  | change v pre post d d' hd hd' =>
    simp only [cmpStripNs, stripNsList_append, stripNsList_cons_ns hd, stripNsList_cons_ns hd']
  | child v pre post k k' hk ih =>
    simp only [cmpStripNs, stripNsList_append, stripNsList, hk.value_eq, ih]
  | refl a => rfl
  | trans _ _ ih₁ ih₂ => exact ih₁.trans ih₂

end XotModel

/-! ## C13: text_content / text_content_str. -/

namespace XotModel

theorem isNormal_category {c : Tree} (h : c.value.isNormal = true) : c.value.category = .normal := by
  simpa [Value.isNormal] using h

/-- `text_content` as a function of the normal children (all of them normal nodes). -/
theorem textContent_of_normalKids {t : Tree} (hn : ∀ k ∈ t.normalKids, k.value.isNormal = true) :
    textContent t = (match t.normalKids with
      | [c] => c.textStr
      | _ => none) := by
  unfold textContent
  cases h : t.normalKids with
  | nil => rfl
  | cons c rest =>
    cases rest with
    | nil => rfl
    | cons d r =>
      rw [h] at hn
      have hc := isNormal_category (hn c (by simp))
      have hd := isNormal_category (hn d (by simp))
      simp [hc, hd]

theorem textContentStr_of_normalKids {t : Tree} (hn : ∀ k ∈ t.normalKids, k.value.isNormal = true) :
    textContentStr t = (match t.normalKids with
      | [] => some []
      | [c] => c.textStr
      | _ => none) := by
  unfold textContentStr
  rw [textContent_of_normalKids hn]
  cases t.normalKids with
  | nil => rfl
  | cons c rest => cases rest <;> rfl

theorem textStr_eq_some {c : Tree} {s : Str} : c.textStr = some s ↔ c.value = .text s := by
  unfold Tree.textStr
  cases c.value <;> simp

theorem canon_eq_text_leaf {c : Tree} {s : Str} (hl : c.contentLeaves = true) :
    canon c = .node (.text s) [] ↔ c.value = .text s := by
  obtain ⟨v, ks⟩ := c
  obtain ⟨hcl, _⟩ := contentLeaves_node hl
  simp only [canon, Canon.node.injEq, Tree.value]
  constructor
  · intro h
    cases v <;> simp [cvalue] at h ⊢
    exact h.1
  · intro h
    subst h
    have : ks = [] := hcl (Or.inl rfl)
    subst this
    simp [cvalue, canon.canonList]

/-- `text_content_str` read off the canonical form: `Some("")` for no children, `Some(s)` for
    exactly one child that is the text node `s`, `None` otherwise. -/
theorem textContentStr_iff_canon (t : Tree) (hv : t.valid = true) (hl : t.contentLeaves = true) (s : Str) :
    textContentStr t = some s ↔
      ((canon t).kids = [] ∧ s = []) ∨ (canon t).kids = [.node (.text s) []] := by
  obtain ⟨v, ks⟩ := t
  obtain ⟨ho, _, _, _⟩ := valid_node hv
  obtain ⟨_, hlk⟩ := contentLeaves_node hl
  have hn := normalKids_normal (v := v) ho
  have hsub : ∀ k ∈ (Tree.node v ks).normalKids, k ∈ ks := fun k hk => List.dropWhile_subset _ hk
  have hc : (canon (.node v ks)).kids = (Tree.node v ks).normalKids.map canon := by
    have := canonList_normalKids (.node v ks)
    simp only [Tree.kids] at this
    simp only [canon, Canon.kids, this, canonList_eq_map hn]
  rw [hc, textContentStr_of_normalKids hn]
  cases h : (Tree.node v ks).normalKids with
  | nil => simp
  | cons c rest =>
    cases rest with
    | nil =>
      have hcl := hlk c (hsub c (by rw [h]; simp))
      simp [textStr_eq_some, canon_eq_text_leaf hcl]
    | cons d r => simp

/-- … and `text_content` (no `Some("")` case). -/
theorem textContent_iff_canon (t : Tree) (hv : t.valid = true) (hl : t.contentLeaves = true) (s : Str) :
    textContent t = some s ↔ (canon t).kids = [.node (.text s) []] := by
  have h := textContentStr_iff_canon t hv hl s
  unfold textContentStr at h
  by_cases he : t.normalKids = []
  · have hk : (canon t).kids = [] := by
      obtain ⟨v, ks⟩ := t
      have := canonList_normalKids (.node v ks)
      simp only [Tree.kids] at this
      simp only [canon, Canon.kids, this, he, canon.canonList]
    simp [textContent, he, hk]
  · have : t.normalKids.isEmpty = false := by
      cases hh : t.normalKids with
      | nil => exact absurd hh he
      | cons _ _ => rfl
    simp only [this, Bool.false_eq_true, ↓reduceIte] at h
    rw [h]
    constructor
    · rintro (⟨hk, _⟩ | hk)
      · exfalso
        obtain ⟨v, ks⟩ := t
        obtain ⟨ho, _, _, _⟩ := valid_node hv
        have hn := normalKids_normal (v := v) ho
        have hc := canonList_normalKids (.node v ks)
        simp only [Tree.kids] at hc
        simp only [canon, Canon.kids, hc, canonList_eq_map hn, List.map_eq_nil_iff] at hk
        exact he hk
      · exact hk
    · exact Or.inr

end XotModel
