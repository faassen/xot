/-
  The HTML5 Write entry points in front of a failing writer
  (`serializeHtmlWriteW`, `serializeHtmlWriteNW`): each is its call trace replayed, the trace's calls
  concatenated / its end are the never-failing model, which is therefore the unlimited-budget instance;
  `N = id` is the entry point without normalizer.
-/
import XotModel.Lemmas.NormalizerHtml
import XotModel.Lemmas.Writer

namespace XotModel
open Gen

/-! ### With a normalizer -/

/-- `serialize_write_with_normalizer` threaded = its trace replayed against the writer. -/
theorem serializeHtmlWriteNW_eq_replayCalls (P : WriterPolicy) (N : Str → Str) (env : Env) (p : HtmlParams)
    (t : Tree) (start : Path) :
    serializeHtmlWriteNW P N env p t start = replayCalls P [] (serializeHtmlCallsN N env p t start) := by
  unfold serializeHtmlWriteNW serializeHtmlCallsN
  simp only []
  rw [replayCalls_append]
  cases h1 : writeCalls P [] [htmlDoctype] with
  | error b => rfl
  | ok h1' =>
    simp only []
    cases p.indentation with
    | none => exact writeLoopW_eq_replayCalls P _ _ _ _
    | some sup => exact writeLoopW_eq_replayCalls P _ _ _ _

theorem serializeHtmlCallsN_eq (N : Str → Str) (env : Env) (p : HtmlParams) (t : Tree) (start : Path) :
    ((serializeHtmlCallsN N env p t start).1.flatten, (serializeHtmlCallsN N env p t start).2)
      = serializeHtmlWriteN N env p t start := by
  unfold serializeHtmlCallsN serializeHtmlWriteN
  cases p.indentation with
  | none =>
    simp only [List.flatten_append, List.flatten_cons, List.flatten_nil, List.append_nil]
    rw [← htmlCallsN_eq]
  | some sup =>
    simp only [List.flatten_append, List.flatten_cons, List.flatten_nil, List.append_nil]
    rw [← htmlPrettyCallsN_eq]

theorem serializeHtmlWriteNW_unlimited (N : Str → Str) (env : Env) (p : HtmlParams) (t : Tree) (start : Path) :
    serializeHtmlWriteNW WriterPolicy.unlimited N env p t start = serializeHtmlWriteN N env p t start := by
  rw [serializeHtmlWriteNW_eq_replayCalls, replayCalls_unlimited, List.nil_append, serializeHtmlCallsN_eq]

/-! ### Without one (`N = id`) -/

theorem htmlStepCallsN_id (c : HtmlCtx) (t : Tree) : htmlStepCallsN id c t = htmlStepCalls c t := by
  funext s po
  simp only [htmlStepCallsN, htmlStepCalls, renderHtmlAtN_id]
  cases renderHtmlAt c t s po.1 po.2 with
  | ok v => cases v; rfl
  | err e => rfl
  | panic => rfl

theorem htmlPrettyStepCallsN_id (c : HtmlCtx) (sup : List Nat) (t : Tree) :
    htmlPrettyStepCallsN id c sup t = htmlPrettyStepCalls c sup t := by
  funext st po
  simp only [htmlPrettyStepCallsN, htmlPrettyStepCalls, renderHtmlAtN_id]
  cases renderHtmlAt c t st.2 po.1 po.2 with
  | ok v => cases v; rfl
  | err e => rfl
  | panic => rfl

theorem serializeHtmlWriteNW_id (P : WriterPolicy) (env : Env) (p : HtmlParams) (t : Tree) (start : Path) :
    serializeHtmlWriteNW P id env p t start = serializeHtmlWriteW P env p t start := by
  simp only [serializeHtmlWriteNW, serializeHtmlWriteW, htmlStepCallsN_id, htmlPrettyStepCallsN_id]
  cases writeCalls P [] [htmlDoctype] with
  | error b => rfl
  | ok h => cases p.indentation <;> rfl

theorem serializeHtmlCallsN_id (env : Env) (p : HtmlParams) (t : Tree) (start : Path) :
    serializeHtmlCallsN id env p t start = serializeHtmlCalls env p t start := by
  simp only [serializeHtmlCallsN, serializeHtmlCalls, htmlStepCallsN_id, htmlPrettyStepCallsN_id]
  cases p.indentation <;> rfl

theorem serializeHtmlWriteW_eq_replayCalls (P : WriterPolicy) (env : Env) (p : HtmlParams) (t : Tree)
    (start : Path) :
    serializeHtmlWriteW P env p t start = replayCalls P [] (serializeHtmlCalls env p t start) := by
  rw [← serializeHtmlWriteNW_id, ← serializeHtmlCallsN_id]
  exact serializeHtmlWriteNW_eq_replayCalls P id env p t start

theorem serializeHtmlCalls_eq (env : Env) (p : HtmlParams) (t : Tree) (start : Path) :
    ((serializeHtmlCalls env p t start).1.flatten, (serializeHtmlCalls env p t start).2)
      = serializeHtmlWrite env p t start := by
  rw [← serializeHtmlCallsN_id, serializeHtmlCallsN_eq, serializeHtmlWriteN_id]

theorem serializeHtmlWriteW_unlimited (env : Env) (p : HtmlParams) (t : Tree) (start : Path) :
    serializeHtmlWriteW WriterPolicy.unlimited env p t start = serializeHtmlWrite env p t start := by
  rw [serializeHtmlWriteW_eq_replayCalls, replayCalls_unlimited, List.nil_append, serializeHtmlCalls_eq]

end XotModel
