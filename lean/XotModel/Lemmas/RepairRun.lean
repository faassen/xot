/-
  From `okRec` (the serialiser's `MissingPrefix` checks as a recursion over the tree, Lemmas/RepairOk; what
  `create_missing_prefixes` establishes) to the serialisation RUN itself, for EVERY tree — no well-formedness,
  no `Representable`: along `genOutputs` rendered by `render_output`, every event that is reached is rendered
  `Ok`, except that a processing instruction with a namespaced target answers `NamespaceInProcessingInstruction`.
  So the run ends `Ok` or with that one error: never `MissingPrefix`, never a panic.
-/
import XotModel.Lemmas.RepairElement
import XotModel.Lemmas.TraceInv
import XotModel.Lemmas.Output

namespace XotModel.Repair
open XotModel

variable (esc : Escapers) (env : Env) (pr : TokenParams) (t : Tree)

/-- The step at a reached event: `Ok`, or the event is a processing instruction and the error is
    `NamespaceInProcessingInstruction` (the one error of `render_output` that is not about a name's prefix). -/
def rrun_StepFine (x : FStack × Path × Output) : Prop :=
  (∃ v, renderAtWith esc env pr t x.1 x.2.1 x.2.2 = .ok v) ∨
    ((∃ tg d, x.2.2 = .pi tg d) ∧
      renderAtWith esc env pr t x.1 x.2.1 x.2.2 = .err .namespaceInProcessingInstruction)

theorem rrun_exceptIsOk {ε α : Type} {r : Except ε α} (h : exceptIsOk r = true) : ∃ v, r = .ok v := by
  cases r with
  | ok v => exact ⟨v, rfl⟩
  | error e => cases h

/-- Text, comment, `>`, declaration events are always rendered; a PI is rendered or refused for its target. -/
theorem rrun_neutral_fine (s : FStack) (p : Path) (o : Output) (node : Tree) (hn : t.at? p = some node)
    (hneut : o.isNeutral = true) (ho : ∀ a v, o ≠ .attribute a v) :
    rrun_StepFine esc env pr t (s, p, o) := by
  unfold rrun_StepFine renderAtWith
  simp only [hn]
  cases o with
  | startTagOpen nm => cases hneut
  | endTag nm => cases hneut
  | «attribute» a v => exact absurd rfl (ho a v)
  | startTagClose => left; simp only [renderXmlWith]; split <;> exact ⟨_, rfl⟩
  | pfx a b =>
    left; simp only [renderXmlWith]
    split
    · exact ⟨_, rfl⟩
    · split <;> exact ⟨_, rfl⟩
  | text x => left; simp only [renderXmlWith]; split <;> exact ⟨_, rfl⟩
  | comment x => left; exact ⟨_, rfl⟩
  | pi tg d =>
    simp only [renderXmlWith]
    split
    · right; exact ⟨⟨tg, d, rfl⟩, rfl⟩
    · left; split <;> exact ⟨_, rfl⟩

theorem rrun_single {s s1 : FStack} {p : Path} {o : Output} (hf : rrun_StepFine esc env pr t (s, p, o))
    (hs : ∀ s', stepStack esc env pr t s (p, o) = some s' → s' = s1) :
    (∀ x ∈ stackTrace esc env pr t s [(p, o)], rrun_StepFine esc env pr t x) ∧
    (∀ s', runStack esc env pr t s [(p, o)] = some s' → s' = s1) := by
  constructor
  · intro x hx
    simp only [stackTrace, List.mem_cons] at hx
    rcases hx with rfl | hx
    · exact hf
    · split at hx <;> cases hx
  · intro s' hrun
    simp only [runStack] at hrun
    split at hrun
    next s2 h2 => rw [← hs s2 h2]; exact (Option.some.inj hrun).symm
    next => cases hrun

theorem rrun_append {s s1 s2 : FStack} {a b : List (Path × Output)}
    (ha : (∀ x ∈ stackTrace esc env pr t s a, rrun_StepFine esc env pr t x) ∧
      (∀ s', runStack esc env pr t s a = some s' → s' = s1))
    (hb : (∀ x ∈ stackTrace esc env pr t s1 b, rrun_StepFine esc env pr t x) ∧
      (∀ s', runStack esc env pr t s1 b = some s' → s' = s2)) :
    (∀ x ∈ stackTrace esc env pr t s (a ++ b), rrun_StepFine esc env pr t x) ∧
    (∀ s', runStack esc env pr t s (a ++ b) = some s' → s' = s2) := by
  constructor
  · intro x hx
    rcases (mem_stackTrace_append esc env pr t s a b x).mp hx with hx | ⟨s', hr, hx⟩
    · exact ha.1 x hx
    · rw [ha.2 s' hr] at hx
      exact hb.1 x hx
  · intro s' hrun
    rw [runStack_append] at hrun
    cases hr : runStack esc env pr t s a with
    | none => rw [hr] at hrun; cases hrun
    | some s3 =>
      rw [hr, Option.bind_some, ha.2 s3 hr] at hrun
      exact hb.2 s' hrun

theorem rrun_leaf (path : Path) (node : Tree) (hn : t.at? path = some node) (o : Output)
    (hneut : o.isNeutral = true) (ho : ∀ a v, o ≠ .attribute a v) (s : FStack) {s2 : FStack}
    {evs : List (Path × Output)}
    (hk : (∀ x ∈ stackTrace esc env pr t s evs, rrun_StepFine esc env pr t x) ∧
      (∀ s', runStack esc env pr t s evs = some s' → s' = s2)) :
    (∀ x ∈ stackTrace esc env pr t s ((path, o) :: evs), rrun_StepFine esc env pr t x) ∧
    (∀ s', runStack esc env pr t s ((path, o) :: evs) = some s' → s' = s2) :=
  rrun_append esc env pr t (a := [(path, o)])
    (rrun_single esc env pr t
      (rrun_neutral_fine esc env pr t s path o node hn hneut ho)
      (fun s' h => stepStack_neutral esc env pr t s s' path o hneut h))
    hk

/-- The declaration and attribute events of a start tag, rendered with the element's frame pushed: all fine
    when every attribute name has a prefix in that frame. -/
theorem rrun_decls (inScope : List (Nat × Nat)) (isTop : Bool) (path : Path) (node : Tree)
    (hn : t.at? path = some node) (s1 : FStack)
    (hattrs : ∀ a ∈ node.attrs, exceptIsOk (s1.attributeFullname env a.1) = true) :
    ∀ x ∈ stackTrace esc env pr t s1 (declEvents inScope isTop path node), rrun_StepFine esc env pr t x := by
  intro x hx
  obtain ⟨n1, _⟩ := neutral_run esc env pr t s1 _ (declEvents_neutral inScope isTop path node)
  obtain ⟨e1, e2⟩ := n1 x hx
  obtain ⟨xs, xp, xo⟩ := x
  simp only at e1 e2
  subst e1
  unfold declEvents at e2
  simp only [List.mem_append, List.mem_map, Prod.mk.injEq] at e2
  rcases e2 with (⟨o, ho, rfl, rfl⟩ | ⟨d, _, rfl, rfl⟩) | ⟨a, ha, rfl, rfl⟩
  · split at ho
    · unfold extraPrefixes at ho
      obtain ⟨d, _, rfl⟩ := List.mem_map.mp ho
      exact rrun_neutral_fine esc env pr t xs _ _ node hn rfl (fun _ _ h => Output.noConfusion h)
    · cases ho
  · exact rrun_neutral_fine esc env pr t xs _ _ node hn rfl (fun _ _ h => Output.noConfusion h)
  · left
    obtain ⟨full, hfull⟩ := rrun_exceptIsOk (hattrs a ha)
    unfold renderAtWith
    simp only [hn, renderXmlWith, hfull]
    exact ⟨_, rfl⟩

/-- An element's events, given its children's: the start tag is rendered and pushes the element's frame, the
    rest of the start tag and the children leave that stack alone, the end tag is rendered and pops it. -/
theorem rrun_element (inScope : List (Nat × Nat)) (isTop : Bool) (path : Path) (name : Nat) (ks : List Tree)
    (hat : t.at? path = some (.node (.element name) ks)) (s : FStack)
    (hE : elementOkAt env.nsOfName (s.push (Tree.node (.element name) ks).nsDecls).top name
      ((Tree.node (.element name) ks).attrs.map (·.1)) = true)
    (hk : (∀ x ∈ stackTrace esc env pr t (s.push (Tree.node (.element name) ks).nsDecls)
          (genNode.genKids inScope path 0 ks), rrun_StepFine esc env pr t x) ∧
      (∀ s', runStack esc env pr t (s.push (Tree.node (.element name) ks).nsDecls)
          (genNode.genKids inScope path 0 ks) = some s' → s' = s.push (Tree.node (.element name) ks).nsDecls)) :
    (∀ x ∈ stackTrace esc env pr t s (genNode inScope isTop path (.node (.element name) ks)),
      rrun_StepFine esc env pr t x) ∧
    (∀ s', runStack esc env pr t s (genNode inScope isTop path (.node (.element name) ks)) = some s' → s' = s) := by
  rw [genNode_element_shape]
  simp only [elementOkAt, Bool.and_eq_true, List.all_eq_true] at hE
  obtain ⟨⟨hE1, hE2⟩, hE3⟩ := hE
  rw [← hasDefaultNamespace_eq, Bool.not_eq_true'] at hE1
  rw [← exceptIsOk_elementFullname] at hE2
  obtain ⟨full, hfull⟩ := rrun_exceptIsOk hE2
  have hopen : renderAtWith esc env pr t s path (.startTagOpen name) =
      .ok (s.push (Tree.node (.element name) ks).nsDecls, ⟨false, fmt Gen.fmtStartTagOpen [full]⟩) := by
    unfold renderAtWith
    simp only [hat, renderXmlWith, hE1, Bool.false_eq_true, if_false, hfull]
  have hpop : (s.push (Tree.node (.element name) ks).nsDecls).pop (Tree.node (.element name) ks).hasNsDecls = s :=
    FStack.pop_push s _
  generalize s.push (Tree.node (.element name) ks).nsDecls = s1 at *
  have hattrs : ∀ a ∈ (Tree.node (.element name) ks).attrs, exceptIsOk (s1.attributeFullname env a.1) = true := by
    intro a ha
    rw [exceptIsOk_attributeFullname]
    exact hE3 a.1 (List.mem_map.mpr ⟨a, ha, rfl⟩)
  have hend : ∃ tok, renderAtWith esc env pr t s1 path (.endTag name) =
      .ok (s1.pop (Tree.node (.element name) ks).hasNsDecls, tok) := by
    unfold renderAtWith
    simp only [hat, renderXmlWith]
    split
    · rw [hfull]; exact ⟨_, rfl⟩
    · exact ⟨_, rfl⟩
  obtain ⟨tok, htok⟩ := hend
  exact rrun_append esc env pr t (a := [_])
    (rrun_single esc env pr t (Or.inl ⟨_, hopen⟩)
      (fun s' h => by simp only [stepStack, hopen, Option.some.injEq] at h; exact h.symm))
    (rrun_append esc env pr t
      ⟨rrun_decls esc env pr t inScope isTop path _ hat s1 hattrs,
        (neutral_run esc env pr t s1 _ (declEvents_neutral inScope isTop path (.node (.element name) ks))).2⟩
      (rrun_leaf esc env pr t path _ hat .startTagClose rfl (fun _ _ h => Output.noConfusion h) s1
        (rrun_append esc env pr t hk
          (rrun_single esc env pr t (Or.inl ⟨_, htok⟩)
            (fun s' h => by simp only [stepStack, htok, Option.some.injEq] at h; exact h ▸ hpop)))))

mutual
/-- The events of a subtree whose names are all writable from the top frame of the stack it is entered with:
    every reached event is fine, and the stack is restored. -/
theorem rrun_genNode (inScope : List (Nat × Nat)) (isTop : Bool) (path : Path) (n : Tree)
    (hat : t.at? path = some n) (s : FStack) (hok : okRec env.nsOfName s.top n = true) :
    (∀ x ∈ stackTrace esc env pr t s (genNode inScope isTop path n), rrun_StepFine esc env pr t x) ∧
    (∀ s', runStack esc env pr t s (genNode inScope isTop path n) = some s' → s' = s) := by
  cases n with
  | node v ks =>
    have hkat := at?_kid t hat
    have hK := fun (hv : v.isElement = false) =>
      rrun_genKids inScope path 0 ks hkat s (by rwa [okRec_other _ _ _ _ hv] at hok)
    cases v with
    | element name =>
      rw [okRec_element, Bool.and_eq_true, ← nsDecls_node (.element name), ← top_push] at hok
      exact rrun_element esc env pr t inScope isTop path name ks hat s hok.1
        (rrun_genKids inScope path 0 ks hkat _ hok.2)
    | document => rw [genNode_document]; exact hK rfl
    | «attribute» a val => rw [genNode_attribute]; exact hK rfl
    | «namespace» p ns => rw [genNode_namespace]; exact hK rfl
    | text x =>
      rw [genNode_text]
      exact rrun_leaf esc env pr t path _ hat _ rfl (fun _ _ h => Output.noConfusion h) s (hK rfl)
    | comment x =>
      rw [genNode_comment]
      exact rrun_leaf esc env pr t path _ hat _ rfl (fun _ _ h => Output.noConfusion h) s (hK rfl)
    | pi tg d =>
      rw [genNode_pi]
      exact rrun_leaf esc env pr t path _ hat _ rfl (fun _ _ h => Output.noConfusion h) s (hK rfl)

theorem rrun_genKids (inScope : List (Nat × Nat)) (path : Path) (i : Nat) (ks : List Tree)
    (hat : ∀ (j : Nat) (k : Tree), ks[j]? = some k → t.at? (path ++ [i + j]) = some k)
    (s : FStack) (hok : okKids env.nsOfName s.top ks = true) :
    (∀ x ∈ stackTrace esc env pr t s (genNode.genKids inScope path i ks), rrun_StepFine esc env pr t x) ∧
    (∀ s', runStack esc env pr t s (genNode.genKids inScope path i ks) = some s' → s' = s) := by
  cases ks with
  | nil => exact ⟨fun x hx => (nomatch hx), fun s' h => (Option.some.inj h).symm⟩
  | cons k ks' =>
    rw [okKids, Bool.and_eq_true] at hok
    exact rrun_append esc env pr t
      (rrun_genNode inScope false (path ++ [i]) k (Ser.kidsAt_cons t hat).1 s hok.1)
      (rrun_genKids inScope path (i + 1) ks' (Ser.kidsAt_cons t hat).2 s hok.2)
end

theorem rrun_outcome (evs : List (Path × Output)) : ∀ (s : FStack),
    (∀ x ∈ stackTrace esc env pr t s evs, rrun_StepFine esc env pr t x) →
    (∃ l, renderAllWith esc env pr t s evs = .ok l) ∨
      renderAllWith esc env pr t s evs = .err .namespaceInProcessingInstruction := by
  induction evs with
  | nil => intro s _; exact Or.inl ⟨[], rfl⟩
  | cons po evs ih =>
    intro s h
    obtain ⟨p, o⟩ := po
    have h0 := h (s, p, o) (by simp [stackTrace])
    simp only [renderAllWith]
    rcases h0 with ⟨v, hv⟩ | ⟨_, he⟩
    · obtain ⟨s', tok⟩ := v
      simp only at hv
      have hstep := stepStack_of_ok esc env pr t hv
      have := ih s' (fun x hx => h x (by simp only [stackTrace, List.mem_cons, hstep]; exact Or.inr hx))
      rcases this with ⟨l, hl⟩ | he
      · exact Or.inl ⟨(p, o, tok) :: l, by simp only [hv, hl]⟩
      · exact Or.inr (by simp only [hv, he])
    · simp only at he
      exact Or.inr (by simp only [he])

theorem rrun_ok_of_no_pi (evs : List (Path × Output)) : ∀ (s : FStack),
    (∀ x ∈ stackTrace esc env pr t s evs, rrun_StepFine esc env pr t x) →
    (∀ p tg d, (p, Output.pi tg d) ∈ evs → (env.namespaceStr (env.nsOfName tg)).isEmpty = true) →
    ∃ l, renderAllWith esc env pr t s evs = .ok l := by
  induction evs with
  | nil => intro s _ _; exact ⟨[], rfl⟩
  | cons po evs ih =>
    intro s h hpi
    obtain ⟨p, o⟩ := po
    have h0 := h (s, p, o) (by simp [stackTrace])
    simp only [renderAllWith]
    rcases h0 with ⟨v, hv⟩ | ⟨⟨tg, d, ho⟩, he⟩
    · obtain ⟨s', tok⟩ := v
      simp only at hv
      have hstep := stepStack_of_ok esc env pr t hv
      obtain ⟨l, hl⟩ := ih s' (fun x hx => h x (by simp only [stackTrace, List.mem_cons, hstep]; exact Or.inr hx))
        (fun p' tg d hm => hpi p' tg d (List.mem_cons_of_mem _ hm))
      exact ⟨(p, o, tok) :: l, by simp only [hv, hl]⟩
    · simp only at ho he
      subst ho
      have hemp := hpi p tg d (by simp)
      unfold renderAtWith at he
      cases hn : t.at? p with
      | none => simp [hn] at he
      | some node =>
        simp only [hn, renderXmlWith, hemp, Bool.not_true, Bool.false_eq_true, if_false] at he
        split at he <;> cases he

/-- From the start node: `XmlSerializer::new` starts with `namespaces_in_scope(start)`, which is the frame
    `namesWritable` starts from. -/
theorem rrun_of_namesWritable (start : Path) (hw : namesWritable env t start = some true) :
    (∀ x ∈ stackTrace esc env pr t (initStack t start) (genOutputs t start), rrun_StepFine esc env pr t x) := by
  obtain ⟨chain, n, hc, hn, hw⟩ := (namesWritable_eq_some_true env t start).1 hw
  have hs := namespacesInScope_of_chain hc
  have hinit : (initStack t start).top = namespacesInScopeChain chain := by
    rw [initStack_eq_new hs]; rfl
  rw [genOutputs_eq_genNode hn hs]
  exact (rrun_genNode esc env pr t _ true start n hn _ (by rw [hinit, okRec_eq_wr]; exact hw)).1

/-! ### What a fine step says about a name event -/

/-- A start tag that is rendered: `element_prefix` answered, the token is `<` + the qualified name. -/
theorem rrun_fine_open (s : FStack) (p : Path) (nm : Nat) (node : Tree) (hn : t.at? p = some node)
    (hf : rrun_StepFine esc env pr t (s, p, .startTagOpen nm)) :
    ∃ pfx, (s.push node.nsDecls).elementPrefix env nm = .ok pfx ∧
      renderAtWith esc env pr t s p (.startTagOpen nm) =
        .ok (s.push node.nsDecls, ⟨false, fmt Gen.fmtStartTagOpen [qname env pfx nm]⟩) := by
  rcases hf with ⟨⟨s', tok⟩, hv⟩ | ⟨⟨tg, d, ho⟩, _⟩
  · have hr := hv
    simp only [renderAtWith, hn] at hr
    obtain ⟨q, hq, rfl, rfl, _⟩ := renderXmlWith_startTagOpen_ok esc env pr hr
    exact ⟨q, hq, hv⟩
  · cases ho

theorem rrun_fine_attribute (s : FStack) (p : Path) (nm : Nat) (v : Str) (node : Tree) (hn : t.at? p = some node)
    (hf : rrun_StepFine esc env pr t (s, p, .attribute nm v)) :
    ∃ pfx, s.attributePrefix env nm = .ok pfx ∧
      renderAtWith esc env pr t s p (.attribute nm v) =
        .ok (s, ⟨true, fmt Gen.fmtAttribute [qname env pfx nm, esc.attr v]⟩) := by
  rcases hf with ⟨w, hv⟩ | ⟨⟨tg, d, ho⟩, _⟩
  · simp only at hv
    unfold renderAtWith at hv ⊢
    simp only [hn, renderXmlWith] at hv ⊢
    unfold FStack.attributeFullname at hv ⊢
    cases hp : s.attributePrefix env nm with
    | ok q => exact ⟨q, rfl, by simp only [hp]⟩
    | error e => simp [hp] at hv
  · cases ho

/-- An end tag that is rendered for an element with children: the name is written again. -/
theorem rrun_fine_end (s : FStack) (p : Path) (nm : Nat) (node : Tree) (hn : t.at? p = some node)
    (hc : node.firstChild?.isSome = true)
    (hf : rrun_StepFine esc env pr t (s, p, .endTag nm)) :
    ∃ pfx, s.elementPrefix env nm = .ok pfx ∧
      renderAtWith esc env pr t s p (.endTag nm) =
        .ok (s.pop node.hasNsDecls, ⟨false, fmt Gen.fmtEndTag [qname env pfx nm]⟩) := by
  rcases hf with ⟨w, hv⟩ | ⟨⟨tg, d, ho⟩, _⟩
  · simp only at hv
    unfold renderAtWith at hv ⊢
    simp only [hn, renderXmlWith, hc, if_true] at hv ⊢
    unfold FStack.elementFullname at hv ⊢
    cases hp : s.elementPrefix env nm with
    | ok q => exact ⟨q, rfl, by simp only [hp]⟩
    | error e => simp [hp] at hv
  · cases ho

theorem rrun_fine_step (x : FStack × Path × Output) (hf : rrun_StepFine esc env pr t x)
    (hpi : ∀ tg d, x.2.2 ≠ .pi tg d) : ∃ s', stepStack esc env pr t x.1 (x.2.1, x.2.2) = some s' := by
  rcases hf with ⟨v, hv⟩ | ⟨⟨tg, d, ho⟩, _⟩
  · exact ⟨v.1, stepStack_of_ok esc env pr t hv⟩
  · exact absurd ho (hpi tg d)

/-- The outcome of `serialize_xml_string` / `to_string` follows the rendered stream. -/
theorem rrun_string_outcome (start : Path)
    (h : (∃ l, renderAllWith esc env pr t (initStack t start) (genOutputs t start) = .ok l) ∨
      renderAllWith esc env pr t (initStack t start) (genOutputs t start) = .err .namespaceInProcessingInstruction) :
    (∃ l, renderAllWith esc env pr t (initStack t start) (genOutputs t start) = .ok l ∧
        serializeStringWith esc env pr t start = .ok (streamBytes l)) ∨
      serializeStringWith esc env pr t start = .err .namespaceInProcessingInstruction := by
  rw [serializeStringWith_eq_renderAll]
  rcases h with ⟨l, hl⟩ | he
  · exact .inl ⟨l, hl, by rw [hl]⟩
  · exact .inr (by rw [he])

/-- `attribute_prefix` never answers the empty prefix. -/
theorem rrun_attributePrefix_ne_empty (s : FStack) (name : Nat) (p : Option Nat)
    (h : s.attributePrefix env name = .ok p) : p ≠ some Env.emptyPrefix := by
  rcases FStack.attributePrefix_ok h with ⟨_, rfl⟩ | ⟨_, rfl⟩ | ⟨_, q, _, hne, rfl⟩
  · exact fun e => nomatch e
  · decide
  · exact fun e => hne (Option.some.inj e)

end XotModel.Repair
