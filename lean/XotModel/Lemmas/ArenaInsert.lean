/-
  `insert_with_neighbors` on a node that is still attached is `detach` followed by the link of the
  then parentless node.  `checked_append`, `checked_prepend`, `checked_insert_after`,
  `checked_insert_before` with live arguments on a well-formed arena: which calls are refused, which
  panic, and that every other call stores the list-level insertion.
-/
import XotModel.Lemmas.ArenaAnc

/-! ### `insert_with_neighbors` of an attached node

  The stale `parent` left by `detach_from_siblings` is overwritten by `rewrite_parents`; the result stores the
  list-level insertion.
-/

namespace XotModel
namespace Arena

theorem linkArena_mod_parent (b : Arena) (x pid : NodeId) (prev next : Option NodeId) (o : Option NodeId) :
    linkArena (b.mod x.index0 (fun s => { s with parent := o })) x pid prev next = linkArena b x pid prev next := by
  unfold linkArena
  rw [mod_mod_same]
  rfl

/-- `insert_with_neighbors` of a (possibly attached) node = `detach`, then the three-slot insertion. -/
theorem insertWithNeighbors_attached_eq (a : Arena) (x pid : NodeId) (prev next : Option NodeId) (s : Slot)
    (hs : a.slot x.index0 = some s)
    (hp : InRange a s.parent) (hv : InRange a s.prev) (hn : InRange a s.next)
    (h1 : ∀ id, s.parent = some id → id.index0 ≠ x.index0) (h2 : ∀ id, s.prev = some id → id.index0 ≠ x.index0)
    (h3 : ∀ id, s.next = some id → id.index0 ≠ x.index0)
    (hxp : x ≠ pid) (hxv : prev ≠ some x) (hxn : next ≠ some x)
    (hpr : InRange a (some pid)) (hvr : InRange a prev) (hnr : InRange a next)
    (D : Arena) (hD : detach a x = .done D ()) :
    insertWithNeighbors a x (some pid) prev next = .done (linkArena D x pid prev next) (.ok ()) := by
  rw [detach_eq a x s hs hp hv hn h1 h2 h3] at hD
  cases hD
  unfold insertWithNeighbors
  have e1 : (prev = some x || next = some x) = false := by simp [hxv, hxn]
  have e2 : (some pid = some x) = False := by simp [Ne.symm hxp]
  simp only [e1, Bool.false_eq_true, if_false, e2]
  rw [detachFromSiblings_self_eq a x s hs hp hv hn]
  simp only [Step.bind_done]
  have hb : (a.mod x.index0 clearSib).slot x.index0 = some (clearSib s) := by simp [hs]
  have hu : (unlink (a.mod x.index0 clearSib) s.parent s.prev s.next).slot x.index0 = some (clearSib s) := by
    rw [slot_unlink_ne _ _ _ _ _ h1 h2 h3, hb]
  rw [transplant_single_eq _ x pid prev next (clearSib s) hu rfl hxp ((hpr.mod _ _).unlink _ _ _)
    ((hvr.mod _ _).unlink _ _ _) ((hnr.mod _ _).unlink _ _ _)]
  simp only [Step.bind_done]
  rw [linkArena_mod_parent]

end Arena
end XotModel

/-! ### The guards; `checked_append`, `checked_prepend` -/

namespace XotModel
namespace Arena

/-- The `removed` test on two ids whose slots exist looks at the signs of the slots' stamps (`self` first). -/
theorem eitherRemoved_of_slots {a : Arena} {x y : NodeId} {s t : Slot} (hs : a.slot x.index0 = some s)
    (ht : a.slot y.index0 = some t) :
    eitherRemoved a x y = .done a (decide (s.stamp < 0) || decide (t.stamp < 0)) := by
  unfold eitherRemoved
  rw [rd_some _ _ _ _ hs]
  by_cases hn : s.stamp < 0
  · simp [Slot.isRemoved, Stamp.isRemoved, hn]
  · rw [rd_some _ _ _ _ ht]
    simp [Slot.isRemoved, Stamp.isRemoved, hn]

theorem Rep.eitherRemoved_live {a : Arena} (p i : Nat) (hp : Live a p) (hi : Live a i) :
    eitherRemoved a (a.idAt p) (a.idAt i) = .done a false := by
  obtain ⟨sp, hsp, hp0⟩ := hp
  obtain ⟨si, hsi, hi0⟩ := hi
  rw [eitherRemoved_of_slots (x := a.idAt p) (y := a.idAt i) hsp hsi]
  simp only [decide_eq_false (Int.not_lt.mpr hp0), decide_eq_false (Int.not_lt.mpr hi0), Bool.or_self]

/-- List-level `checked_append` / `checked_prepend`. -/
def Shape.append (g : Shape) (p i : Nat) : Shape := (g.detach i).link p ((g.detach i).kids p) i []
def Shape.prepend (g : Shape) (p i : Nat) : Shape := (g.detach i).link p [] i ((g.detach i).kids p)

/-- Insertion of a parentless live node, as a call of `insert_with_neighbors`. -/
theorem Rep.insertRoot {a : Arena} {g : Shape} (r : Rep a g) (i p : Nat) (L R : List Nat)
    (hil : Live a i) (hroot : g.par i = none) (hpl : Live a p) (hpi : p ≠ i)
    (hk : g.kids p = L ++ R) (hanc : ¬ Reach g.par p i) :
    insertWithNeighbors a (a.idAt i) (some (a.idAt p)) (L.getLast?.map a.idAt) (R.head?.map a.idAt) =
      .done (linkArena a (a.idAt i) (a.idAt p) (L.getLast?.map a.idAt) (R.head?.map a.idAt)) (.ok ()) ∧
    Rep (linkArena a (a.idAt i) (a.idAt p) (L.getLast?.map a.idAt) (R.head?.map a.idAt)) (g.link p L i R) := by
  refine ⟨?_, r.link i p L R hil hroot hpl hk hanc⟩
  obtain ⟨s, hs, h0⟩ := hil
  have P := r.ptrs i s hs h0
  have hikids : i ∉ g.kids p := fun hm => by
    have := (r.kidsLive p i hm).2.2; rw [hroot] at this; cases this
  refine insertWithNeighbors_eq a _ _ _ _ s hs (by rw [P.parent, hroot]; rfl)
    (P.root hroot).1 (P.root hroot).2 (idAt_ne a hpi.symm) ?_ ?_ ?_ ?_ ?_
  · intro h
    have hl := eq_some_of_map_idAt h
    rw [idAt_index0] at hl
    exact hikids (by rw [hk]; exact List.mem_append_left _ (List.mem_of_getLast? hl))
  · intro h
    have hl := eq_some_of_map_idAt h
    rw [idAt_index0] at hl
    exact hikids (by rw [hk]; exact List.mem_append_right _ (List.mem_of_mem_head? hl))
  · exact Rep.inRange_map (some p) (fun j hj => by cases hj; exact hpl)
  · exact Rep.inRange_map _ (fun j hj => r.live_kid p j (by rw [hk]; exact List.mem_append_left _ (List.mem_of_getLast? hj)))
  · exact Rep.inRange_map _ (fun j hj => r.live_kid p j (by rw [hk]; exact List.mem_append_right _ (List.mem_of_mem_head? hj)))

/-- The guards of `checked_append` / `checked_prepend` on a live parent `p` and a live node `i ≠ p`: `self`
    and `removed` pass, the ancestor guard decides `Reach g.par p i`; otherwise the rest `K` runs on `a`. -/
theorem Rep.checked_guards {a : Arena} {g : Shape} (r : Rep a g) (p i : Nat) (hp : Live a p) (hi : Live a i)
    (hpi : p ≠ i) (e1 e2 : NodeError) (K : Arena → Step (Except NodeError Unit)) :
    (Reach g.par p i →
      (if a.idAt i = a.idAt p then Step.done a (.error e1)
        else (eitherRemoved a (a.idAt p) (a.idAt i)).bind fun b rem =>
          if rem then .done b (.error .removed)
          else (ancestorsAny b.fuel b (some (a.idAt p)) (a.idAt i)).bind fun c anc =>
            if anc then .done c (.error e2) else K c) = .done a (.error e2)) ∧
    (¬ Reach g.par p i →
      (if a.idAt i = a.idAt p then Step.done a (.error e1)
        else (eitherRemoved a (a.idAt p) (a.idAt i)).bind fun b rem =>
          if rem then .done b (.error .removed)
          else (ancestorsAny b.fuel b (some (a.idAt p)) (a.idAt i)).bind fun c anc =>
            if anc then .done c (.error e2) else K c) = K a) := by
  rw [if_neg (idAt_ne a hpi.symm), Rep.eitherRemoved_live p i hp hi]
  simp only [Step.bind_done, Bool.false_eq_true, if_false]
  obtain ⟨b, hb, hiff⟩ := r.ancestorsAny_spec p i hp
  rw [hb]
  refine ⟨fun h => by rw [hiff.mpr h]; rfl, fun h => ?_⟩
  cases b with
  | false => rfl
  | true => exact absurd (hiff.mp rfl) h

theorem checkedAppend_self (a : Arena) (x : NodeId) : checkedAppend a x x = .done a (.error .appendSelf) := by
  simp [checkedAppend]

theorem Rep.checkedAppend_ancestor {a : Arena} {g : Shape} (r : Rep a g) (p i : Nat) (hp : Live a p) (hi : Live a i)
    (hpi : p ≠ i) (hanc : Reach g.par p i) :
    checkedAppend a (a.idAt p) (a.idAt i) = .done a (.error .appendAncestor) := by
  unfold checkedAppend
  exact (r.checked_guards p i hp hi hpi _ _ _).1 hanc

theorem Rep.checkedAppend_ok {a : Arena} {g : Shape} (r : Rep a g) (p i : Nat) (hp : Live a p) (hi : Live a i)
    (hpi : p ≠ i) (hanc : ¬ Reach g.par p i) :
    ∃ a', checkedAppend a (a.idAt p) (a.idAt i) = .done a' (.ok ()) ∧ Rep a' (g.append p i) ∧ MetaEq a a' := by
  unfold checkedAppend
  rw [(r.checked_guards p i hp hi hpi _ _ _).2 hanc]
  obtain ⟨a1, hd, r1, hM⟩ := r.detach_idAt i hi
  rw [hd]
  simp only [Step.bind_done]
  have hp1 : Live a1 p := (hM.live p).mpr hp
  have hi1 : Live a1 i := (hM.live i).mpr hi
  obtain ⟨sp1, hsp1, hp10⟩ := hp1
  have hid : a1.idAt = a.idAt := funext hM.idAt
  rw [← hid]
  rw [rd_idAt a1 a1 hsp1]
  have hlast : sp1.last = ((g.detach i).kids p).getLast?.map a1.idAt := (r1.ptrs p sp1 hsp1 hp10).last
  have hanc1 : ¬ Reach (g.detach i).par p i := fun h => hanc (Reach.mono (Shape.detach_par_le g i) h)
  obtain ⟨e1, r2⟩ := r1.insertRoot i p ((g.detach i).kids p) [] hi1 (Shape.detach_par_self g i) ⟨sp1, hsp1, hp10⟩ hpi
    (by simp) hanc1
  rw [hlast]
  simp only [List.head?_nil, Option.map_none] at e1 r2
  rw [e1]
  simp only [expectOk, Step.bind_done]
  exact ⟨_, rfl, r2, hM.trans (MetaEq.linkArena _ _ _ _ _)⟩

theorem checkedPrepend_self (a : Arena) (x : NodeId) : checkedPrepend a x x = .done a (.error .prependSelf) := by
  simp [checkedPrepend]

theorem Rep.checkedPrepend_ancestor {a : Arena} {g : Shape} (r : Rep a g) (p i : Nat) (hp : Live a p) (hi : Live a i)
    (hpi : p ≠ i) (hanc : Reach g.par p i) :
    checkedPrepend a (a.idAt p) (a.idAt i) = .done a (.error .prependAncestor) := by
  unfold checkedPrepend
  exact (r.checked_guards p i hp hi hpi _ _ _).1 hanc

/-- Prepending the node that already is the first child: `insert_with_neighbors` reports
    `SiblingsLoop`, the `expect` panics; nothing has been written. -/
theorem Rep.checkedPrepend_first_panics {a : Arena} {g : Shape} (r : Rep a g) (p i : Nat) (hp : Live a p)
    (hi : Live a i) (hpi : p ≠ i) (hanc : ¬ Reach g.par p i) (hfirst : (g.kids p).head? = some i) :
    checkedPrepend a (a.idAt p) (a.idAt i) = .panic a := by
  unfold checkedPrepend
  rw [(r.checked_guards p i hp hi hpi _ _ _).2 hanc]
  obtain ⟨sp, hsp, hp0⟩ := hp
  rw [rd_idAt a a hsp]
  have hf : sp.first = some (a.idAt i) := by rw [(r.ptrs p sp hsp hp0).first, hfirst]; rfl
  rw [hf]
  simp [insertWithNeighbors, expectOk]

theorem Rep.checkedPrepend_ok {a : Arena} {g : Shape} (r : Rep a g) (p i : Nat) (hp : Live a p) (hi : Live a i)
    (hpi : p ≠ i) (hanc : ¬ Reach g.par p i) (hfirst : (g.kids p).head? ≠ some i) :
    ∃ a', checkedPrepend a (a.idAt p) (a.idAt i) = .done a' (.ok ()) ∧ Rep a' (g.prepend p i) ∧ MetaEq a a' := by
  unfold checkedPrepend
  rw [(r.checked_guards p i hp hi hpi _ _ _).2 hanc]
  obtain ⟨sp, hsp, hp0⟩ := hp
  rw [rd_idAt a a hsp]
  have hf : sp.first = (g.kids p).head?.map a.idAt := (r.ptrs p sp hsp hp0).first
  obtain ⟨a1, hd, r1, hM⟩ := r.detach_idAt i hi
  obtain ⟨si, hsi, hi0⟩ := hi
  obtain ⟨n1, n2, n3, n4, n5, n6⟩ := r.neighbours i si hsi hi0
  have hfne : sp.first ≠ some (a.idAt i) := by
    rw [hf]
    intro h
    have hl := eq_some_of_map_idAt h
    rw [idAt_index0] at hl
    exact hfirst hl
  have e1 := insertWithNeighbors_attached_eq a (a.idAt i) (a.idAt p) none sp.first si
    hsi n1 n2 n3 n4 n5
    n6 (idAt_ne a hpi.symm) (by simp) hfne
    (Rep.inRange_map (some p) (fun j hj => by cases hj; exact ⟨sp, hsp, hp0⟩)) (InRange.none a)
    (by rw [hf]; exact Rep.inRange_map _ (fun j hj => r.live_kid p j (List.mem_of_mem_head? hj))) a1 hd
  rw [e1]
  simp only [expectOk, Step.bind_done]
  refine ⟨_, rfl, ?_, hM.trans (MetaEq.linkArena _ _ _ _ _)⟩
  have hid : a1.idAt = a.idAt := funext hM.idAt
  have hanc1 : ¬ Reach (g.detach i).par p i := fun h => hanc (Reach.mono (Shape.detach_par_le g i) h)
  have r2 := r1.link i p [] ((g.detach i).kids p) ((hM.live i).mpr ⟨si, hsi, hi0⟩) (Shape.detach_par_self g i)
    ((hM.live p).mpr ⟨sp, hsp, hp0⟩) (by simp) hanc1
  rw [Shape.detach_kids_head g i p hfirst, hid] at r2
  simp only [List.getLast?_nil, Option.map_none] at r2
  rw [hf]
  exact r2

end Arena
end XotModel

/-! ### `checked_insert_after`, `checked_insert_before`

  Next to a node that HAS a parent and is not a descendant of the node being inserted: the list-level insertion.
  (indextree checks neither condition; see `Props/C04.lean` for what it does without them.)
-/

namespace XotModel
namespace Arena

theorem checkedInsertAfter_self (a : Arena) (x : NodeId) :
    checkedInsertAfter a x x = .done a (.error .insertAfterSelf) := by
  simp [checkedInsertAfter]

theorem checkedInsertBefore_self (a : Arena) (x : NodeId) :
    checkedInsertBefore a x x = .done a (.error .insertBeforeSelf) := by
  simp [checkedInsertBefore]

/-- `ref.checked_insert_after(new)`. -/
theorem Rep.checkedInsertAfter_ok {a : Arena} {g : Shape} (r : Rep a g) (ref i p : Nat) (hr : Live a ref)
    (hi : Live a i) (hri : ref ≠ i) (hpar : g.par ref = some p) (hanc : ¬ Reach g.par ref i) :
    ∃ a' A B, checkedInsertAfter a (a.idAt ref) (a.idAt i) = .done a' (.ok ()) ∧
      (g.detach i).kids p = A ++ ref :: B ∧
      Rep a' ((g.detach i).link p (A ++ [ref]) i B) ∧ MetaEq a a' := by
  unfold checkedInsertAfter
  rw [if_neg (idAt_ne a hri.symm), Rep.eitherRemoved_live ref i hr hi]
  simp only [Step.bind_done, Bool.false_eq_true, if_false]
  obtain ⟨a1, hd, r1, hM⟩ := r.detach_idAt i hi
  rw [hd]
  simp only [Step.bind_done]
  have hid : a1.idAt = a.idAt := funext hM.idAt
  have hr1 : Live a1 ref := (hM.live ref).mpr hr
  have hi1 : Live a1 i := (hM.live i).mpr hi
  obtain ⟨sr, hsr, hr0⟩ := hr1
  rw [← hid]
  rw [rd_idAt a1 a1 hsr]
  have Pr := r1.ptrs ref sr hsr hr0
  have hpar1 : (g.detach i).par ref = some p := by rw [Shape.detach_par_ne g i ref hri]; exact hpar
  obtain ⟨A, B, hk, hprev, hnext⟩ := Pr.sib p hpar1
  have hpi : p ≠ i := fun e => hanc (by subst e; exact .single hpar)
  have hanc1 : ¬ Reach (g.detach i).par p i := fun h =>
    hanc (.step hpar (Reach.mono (Shape.detach_par_le g i) h))
  have hp1 : Live a1 p := (r1.live_of_par hpar1).2
  obtain ⟨e1, r2⟩ := r1.insertRoot i p (A ++ [ref]) B hi1 (Shape.detach_par_self g i) hp1 hpi
    (by rw [hk]; simp) hanc1
  have hsp : sr.parent = some (a1.idAt p) := by rw [Pr.parent, hpar1]; rfl
  rw [hsp, hnext]
  simp only [List.getLast?_append, List.getLast?_singleton, Option.some_or, Option.map_some] at e1 r2
  rw [e1]
  simp only [expectOk, Step.bind_done]
  exact ⟨_, A, B, rfl, hk, r2, hM.trans (MetaEq.linkArena _ _ _ _ _)⟩

/-- `ref.checked_insert_before(new)`. -/
theorem Rep.checkedInsertBefore_ok {a : Arena} {g : Shape} (r : Rep a g) (ref i p : Nat) (hr : Live a ref)
    (hi : Live a i) (hri : ref ≠ i) (hpar : g.par ref = some p) (hanc : ¬ Reach g.par ref i) :
    ∃ a' A B, checkedInsertBefore a (a.idAt ref) (a.idAt i) = .done a' (.ok ()) ∧
      (g.detach i).kids p = A ++ ref :: B ∧
      Rep a' ((g.detach i).link p A i (ref :: B)) ∧ MetaEq a a' := by
  unfold checkedInsertBefore
  rw [if_neg (idAt_ne a hri.symm), Rep.eitherRemoved_live ref i hr hi]
  simp only [Step.bind_done, Bool.false_eq_true, if_false]
  obtain ⟨a1, hd, r1, hM⟩ := r.detach_idAt i hi
  rw [hd]
  simp only [Step.bind_done]
  have hid : a1.idAt = a.idAt := funext hM.idAt
  have hr1 : Live a1 ref := (hM.live ref).mpr hr
  have hi1 : Live a1 i := (hM.live i).mpr hi
  obtain ⟨sr, hsr, hr0⟩ := hr1
  rw [← hid]
  rw [rd_idAt a1 a1 hsr]
  have Pr := r1.ptrs ref sr hsr hr0
  have hpar1 : (g.detach i).par ref = some p := by rw [Shape.detach_par_ne g i ref hri]; exact hpar
  obtain ⟨A, B, hk, hprev, hnext⟩ := Pr.sib p hpar1
  have hpi : p ≠ i := fun e => hanc (by subst e; exact .single hpar)
  have hanc1 : ¬ Reach (g.detach i).par p i := fun h =>
    hanc (.step hpar (Reach.mono (Shape.detach_par_le g i) h))
  have hp1 : Live a1 p := (r1.live_of_par hpar1).2
  obtain ⟨e1, r2⟩ := r1.insertRoot i p A (ref :: B) hi1 (Shape.detach_par_self g i) hp1 hpi hk hanc1
  have hsp : sr.parent = some (a1.idAt p) := by rw [Pr.parent, hpar1]; rfl
  rw [hsp, hprev]
  simp only [List.head?_cons, Option.map_some] at e1 r2
  rw [e1]
  simp only [expectOk, Step.bind_done]
  exact ⟨_, A, B, rfl, hk, r2, hM.trans (MetaEq.linkArena _ _ _ _ _)⟩

end Arena
end XotModel
