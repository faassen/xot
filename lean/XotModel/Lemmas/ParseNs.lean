/-
  C02_spelled_ns: by induction over the spelled document the builder run on its tokens adds exactly the
  encoded abstract nodes (with namespaces) to the current frame (`sim_node_ns`, `sim_list_ns`); the parse
  entry points on the tokens of a spelled document / fragment with namespaces, and reading the id tree back
  as an abstract document.
-/
import XotModel.Lemmas.ParseNsNodes

/-! ## The spelled document -/

namespace XotModel

/-- Running `toks` from `b` adds `trees` to the current frame, leaves the tables `env'` and has
    seen the ID values `ids` (in that order). -/
def SimNs (b : Builder) (toks : List Token) (env' : Env) (trees : List Tree) (ids : List Str) : Prop :=
  ∀ (rest : List Token) (lexErr : Option Nat),
    ∃ idn sp, b.run (toks ++ rest) lexErr =
      (b.emitNs env' trees (ids.reverse ++ b.seenIds) idn sp).run rest lexErr

theorem idsList_append : ∀ (l1 l2 : List NPNode),
    NPNode.ids.idsList (l1 ++ l2) = NPNode.ids.idsList l1 ++ NPNode.ids.idsList l2
  | [], _ => rfl
  | k :: ks, l2 => by simp only [List.cons_append, NPNode.ids.idsList, idsList_append ks l2, List.append_assoc]

theorem headOk_emitNs_single {b : Builder} {env' : Env} {t : Tree} {seen : List Str} {idn : List (Str × Path)}
    {sp : SpanMap} (h : t.value.isText = false) : HeadOk (b.emitNs env' [t] seen idn sp) :=
  headOk_of_head (k := t) (more := b.cur.rkids) h (by simp [Builder.emitNs])

theorem noAdjCharsNs_tail {k : NSNode} {ks : List NSNode} (h : noAdjCharsNs (k :: ks) = true) :
    noAdjCharsNs ks = true := by
  cases ks with
  | nil => rfl
  | cons k2 rest => simp only [noAdjCharsNs, Bool.and_eq_true] at h; exact h.2

/-- The tokens of a start tag before its `>` or `/>`: the builder is then in the state `open_element` is
    called in (`b.tagRead pfx loc attrs`). -/
theorem run_start_ns {b : Builder} {frames : List (List (Str × Str))} (pfx loc junk : StrSpan)
    (attrs : List NSAttr) (hw : attrsWellNs ((flatScope frames).push (declsOf attrs)) attrs)
    (hbc : pfx.bareColon = false) (tail : List Token) (lexErr : Option Nat) :
    b.run (.elementStart pfx loc junk :: (attrs.map NSAttr.token ++ tail)) lexErr =
      Builder.run (b.tagRead pfx loc attrs) tail lexErr := by
  exact Builder.run_steps ((start_tag_iff b pfx loc junk attrs hw.1 _).2
    ⟨hbc, hw.2.1, hw.2.2.1, written_nodup hw.2.2.2.1, hw.2.2.2.2.2, rfl⟩) tail lexErr

mutual
theorem sim_node_ns : ∀ (sn : NSNode) (frames : List (List (Str × Str))), sn.Well (flatScope frames) →
    ∀ (b : Builder), ReadyNs b frames → (sn.isChars = true → HeadOk b) →
    IdsFresh (NPNode.ids.idsList (sn.denote (flatScope frames))) b.seenIds →
    SimNs b sn.tokens (NPNode.encode.encodeList b.env (sn.denote (flatScope frames))).1
      (NPNode.encode.encodeList b.env (sn.denote (flatScope frames))).2
      (NPNode.ids.idsList (sn.denote (flatScope frames))) ∧
    (sn.isChars = false → ∀ seen idn sp,
      HeadOk (b.emitNs (NPNode.encode.encodeList b.env (sn.denote (flatScope frames))).1
        (NPNode.encode.encodeList b.env (sn.denote (flatScope frames))).2 seen idn sp))
  | .elem pfx loc junk attrs openSp kids cpfx cloc closeSp, frames, hw, b, hr, _, hids => by
    obtain ⟨hwa, hp, hcp, hcn, hadj, hwk, hbp, hbcp⟩ := hw
    simp only [NSNode.denote, encodeNsList_single, NPNode.encode, NPNode.ids.idsList, NPNode.ids, List.append_nil]
      at hids ⊢
    refine ⟨?_, fun _ _ _ _ => headOk_emitNs_single rfl⟩
    intro rest lexErr
    simp only [NSNode.tokens, List.cons_append, List.append_assoc, List.nil_append]
    rw [run_start_ns pfx loc junk attrs hwa hbp]
    obtain ⟨hidA, hidK⟩ := hids.split
    obtain ⟨idn0, sp0, hopen⟩ := openElement_ns hr pfx loc attrs hwa hp hidA
    simp only [Builder.run, Builder.step, hopen]
    have hr1 := readyNs_opened hr pfx.text (((flatScope frames).push (declsOf attrs)).resolve pfx.text) loc.text (declsOf attrs)
      (attrsOf ((flatScope frames).push (declsOf attrs)) attrs) idn0 sp0
    obtain ⟨hsim, _⟩ := sim_list_ns kids (declsOf attrs :: frames) hwk hadj _ hr1
      (fun _ _ _ _ => headOk_openedNs b _ _ _ _ _ idn0 sp0) hidK
    obtain ⟨idnk, spk, hk⟩ := hsim (.elementEnd (.close cpfx cloc) closeSp :: rest) lexErr
    simp only [flatScope_push] at hk
    rw [hk]
    obtain ⟨u, hu⟩ := Option.isSome_iff_exists.mp hp
    have hres : ((flatScope frames).push (declsOf attrs)).resolve pfx.text = u := by simp [Scope.resolve, hu]
    obtain ⟨sp, hc⟩ := run_close_ns hr pfx.text (((flatScope frames).push (declsOf attrs)).resolve pfx.text) loc.text
      (declsOf attrs) (attrsOf ((flatScope frames).push (declsOf attrs)) attrs) idn0 sp0 _ _ _ idnk spk
      (encodeNsList_app (NSNode.denote.denoteList ((flatScope frames).push (declsOf attrs)) kids) _)
      cpfx cloc closeSp hcp hcn (by rw [hres, hcp]; exact hu) hbcp rest lexErr
    refine ⟨idnk, sp, ?_⟩
    rw [hc]
    simp only [Builder.openedNs, List.reverse_append, List.append_assoc]
  | .empty pfx loc junk attrs endSp, frames, hw, b, hr, _, hids => by
    obtain ⟨hwa, hp, hbp⟩ := hw
    simp only [NSNode.denote, encodeNsList_single, NPNode.ids.idsList, NPNode.ids, List.append_nil] at hids ⊢
    refine ⟨?_, fun _ _ _ _ => headOk_emitNs_single (by simp [NPNode.encode, Tree.value, Value.isText])⟩
    intro rest lexErr
    simp only [NSNode.tokens, List.cons_append, List.append_assoc, List.nil_append]
    rw [run_start_ns pfx loc junk attrs hwa hbp]
    obtain ⟨idn0, sp0, hopen⟩ := openElement_ns hr pfx loc attrs hwa hp hids
    simp only [Builder.run, Builder.step, hopen, closeImmediate_openedNs b hr.eb]
    exact ⟨_, _, rfl⟩
  | .chars parts, frames, hw, b, hr, hh, _ => by
    refine ⟨?_, fun h => by simp [NSNode.isChars] at h⟩
    intro rest lexErr
    obtain ⟨sp, h⟩ := run_chars b (hh rfl) parts hw rest lexErr
    refine ⟨b.idNodes, sp, ?_⟩
    simp only [NSNode.tokens, NSNode.denote]
    rw [h, emit_eq_emitNs]
    by_cases hv : partsValue parts = []
    · simp [hv, NPNode.encode.encodeList, NPNode.ids.idsList]
    · simp [hv, NPNode.encode.encodeList, NPNode.encode, NPNode.ids.idsList, NPNode.ids]
  | .comment text junk, frames, _, b, _, _, _ => by
    simp only [NSNode.denote, encodeNsList_single, NPNode.encode]
    refine ⟨?_, fun _ _ _ _ => headOk_emitNs_single rfl⟩
    intro rest lexErr
    obtain ⟨sp, h⟩ := run_comment b text junk rest lexErr
    exact ⟨b.idNodes, sp, by simpa [NSNode.tokens, emit_eq_emitNs, NPNode.ids.idsList, NPNode.ids] using h⟩
  | .pi target content junk, frames, hw, b, _, _, _ => by
    simp only [NSNode.denote, encodeNsList_single, NPNode.encode]
    refine ⟨?_, fun _ _ _ _ => headOk_emitNs_single rfl⟩
    intro rest lexErr
    obtain ⟨sp, h⟩ := run_pi b target content junk rest lexErr hw
    exact ⟨b.idNodes, sp, by simpa [NSNode.tokens, emit_eq_emitNs, NPNode.ids.idsList, NPNode.ids] using h⟩
theorem sim_list_ns : ∀ (sns : List NSNode) (frames : List (List (Str × Str))),
    NSNode.Well.wellList (flatScope frames) sns → noAdjCharsNs sns = true →
    ∀ (b : Builder), ReadyNs b frames → (∀ sn rest, sns = sn :: rest → sn.isChars = true → HeadOk b) →
    IdsFresh (NPNode.ids.idsList (NSNode.denote.denoteList (flatScope frames) sns)) b.seenIds →
    SimNs b (NSNode.tokens.tokensList sns)
      (NPNode.encode.encodeList b.env (NSNode.denote.denoteList (flatScope frames) sns)).1
      (NPNode.encode.encodeList b.env (NSNode.denote.denoteList (flatScope frames) sns)).2
      (NPNode.ids.idsList (NSNode.denote.denoteList (flatScope frames) sns)) ∧ True
  | [], frames, _, _, b, _, _, _ => by
    refine ⟨?_, trivial⟩
    intro rest lexErr
    refine ⟨b.idNodes, b.spans, ?_⟩
    simp [NSNode.tokens.tokensList, NSNode.denote.denoteList, NPNode.encode.encodeList, Builder.emitNs,
      NPNode.ids.idsList]
  | k :: ks, frames, hw, hadj, b, hr, hstart, hids => by
    refine ⟨?_, trivial⟩
    obtain ⟨hwk, hwks⟩ := hw
    simp only [NSNode.denote.denoteList, idsList_append] at hids
    obtain ⟨hidk, hidks⟩ := hids.split
    obtain ⟨hsimk, hheadk⟩ := sim_node_ns k frames hwk b hr (hstart k ks rfl) hidk
    intro rest lexErr
    simp only [NSNode.tokens.tokensList, NSNode.denote.denoteList, List.append_assoc]
    obtain ⟨idn1, sp1, h1⟩ := hsimk (NSNode.tokens.tokensList ks ++ rest) lexErr
    rw [h1]
    have hext1 := encodeNsList_app (k.denote (flatScope frames)) b.env
    have hr1 := hr.emitNs hext1 (NPNode.encode.encodeList b.env (k.denote (flatScope frames))).2
      ((NPNode.ids.idsList (k.denote (flatScope frames))).reverse ++ b.seenIds) idn1 sp1
    have hstart1 : ∀ sn rest', ks = sn :: rest' → sn.isChars = true →
        HeadOk (b.emitNs (NPNode.encode.encodeList b.env (k.denote (flatScope frames))).1
          (NPNode.encode.encodeList b.env (k.denote (flatScope frames))).2
          ((NPNode.ids.idsList (k.denote (flatScope frames))).reverse ++ b.seenIds) idn1 sp1) := by
      intro sn rest' hks hsn
      subst hks
      have hk : k.isChars = false := by
        simp only [noAdjCharsNs, Bool.and_eq_true, Bool.not_eq_true', Bool.and_eq_false_iff] at hadj
        rcases hadj.1 with h | h
        · exact h
        · rw [hsn] at h; cases h
      exact hheadk hk _ idn1 sp1
    obtain ⟨hsims, _⟩ := sim_list_ns ks frames hwks (noAdjCharsNs_tail hadj) _ hr1 hstart1 hidks
    obtain ⟨idn2, sp2, h2⟩ := hsims rest lexErr
    refine ⟨idn2, sp2, ?_⟩
    rw [h2, emitNs_emitNs, encodeNsList_append, idsList_append]
    simp [Builder.emitNs, List.reverse_append, List.append_assoc]
end

end XotModel

/-! ## Entry points and reading back -/

namespace XotModel

/-- The two base frames of `DocumentBuilder::new`. -/
def baseFrames : List (List (Str × Str)) := [[([], [])], [(['x', 'm', 'l'], xmlNsUri)]]

theorem flatScope_base : flatScope baseFrames = baseScope := rfl

theorem readyNs_new {env : Env} (h : EnvBaseNs env) : ReadyNs (Builder.new env) baseFrames := by
  refine ⟨rfl, h, ?_, ?_⟩
  · simp only [Builder.new, baseFrames, List.map_cons, List.map_nil, idFrame, h.pfx_empty.2, h.ns_empty.2,
      h.pfx_xml.2, h.ns_xml.2]
    rfl
  · intro f hf pu hpu
    simp only [baseFrames, List.mem_cons, List.not_mem_nil, or_false] at hf
    rcases hf with rfl | rfl
    · simp only [List.mem_singleton] at hpu; subst hpu; exact ⟨h.pfx_empty.1, h.ns_empty.1⟩
    · simp only [List.mem_singleton] at hpu; subst hpu; exact ⟨h.pfx_xml.1, h.ns_xml.1⟩

theorem run_spelled_ns {env : Env} (h : EnvBaseNs env) (sns : List NSNode) (hw : WellNsDoc sns) :
    ∃ seen idn sp, (Builder.new env).run (NSNode.tokens.tokensList sns) none =
      .ok ((Builder.new env).emitNs (NPNode.encode.encodeList env (NSNode.denote.denoteList baseScope sns)).1
        (NPNode.encode.encodeList env (NSNode.denote.denoteList baseScope sns)).2 seen idn sp) := by
  obtain ⟨hwell, hadj, hids⟩ := hw
  obtain ⟨hsim, _⟩ := sim_list_ns sns baseFrames hwell hadj (Builder.new env) (readyNs_new h)
    (fun _ _ _ _ => by intro s ks more heq; simp [Builder.new] at heq)
    ⟨hids, fun x _ hm => by simp [Builder.new] at hm⟩
  obtain ⟨idn, sp, hrun⟩ := hsim [] none
  refine ⟨(NPNode.ids.idsList (NSNode.denote.denoteList baseScope sns)).reverse ++ (Builder.new env).seenIds,
    idn, sp, ?_⟩
  rw [List.append_nil] at hrun
  rw [hrun]
  simp only [Builder.run, flatScope_base]
  rfl

theorem emitNs_new_root (env env' : Env) (trees : List Tree) (seen : List Str) (idn : List (Str × Path)) (sp : SpanMap) :
    ((Builder.new env).emitNs env' trees seen idn sp).root = .node .document trees := by
  simp [Builder.root, Builder.emitNs, Builder.new, zipInto, Frame.close]

/-- `parse_fragment` on a spelled fragment with namespaces. -/
theorem build_fragment_spelled_ns {env : Env} (h : EnvBaseNs env) (len : Nat) (sns : List NSNode) (hw : WellNsDoc sns) :
    ∃ p, build .fragment len env (NSNode.tokens.tokensList sns) none = .ok p ∧
      p.tree = .node .document (NPNode.encode.encodeList env (NSNode.denote.denoteList baseScope sns)).2 ∧
      p.env = (NPNode.encode.encodeList env (NSNode.denote.denoteList baseScope sns)).1 := by
  obtain ⟨seen, idn, sp, hrun⟩ := run_spelled_ns h sns hw
  exact ⟨_, (build_of_run len hrun rfl).1, emitNs_new_root env _ _ _ _ sp, rfl⟩

/-- `parse` on a spelled document whose top level has exactly one element and no text. -/
theorem build_document_spelled_ns {env : Env} (h : EnvBaseNs env) (len : Nat) (sns : List NSNode) (hw : WellNsDoc sns)
    (htop : WellFormedTop (.node .document (NPNode.encode.encodeList env (NSNode.denote.denoteList baseScope sns)).2)) :
    ∃ p, build .document len env (NSNode.tokens.tokensList sns) none = .ok p ∧
      p.tree = .node .document (NPNode.encode.encodeList env (NSNode.denote.denoteList baseScope sns)).2 ∧
      p.env = (NPNode.encode.encodeList env (NSNode.denote.denoteList baseScope sns)).1 := by
  obtain ⟨seen, idn, sp, hrun⟩ := run_spelled_ns h sns hw
  refine ⟨_, (build_of_run len hrun rfl).2 ?_, emitNs_new_root env _ _ _ _ sp, rfl⟩
  rw [show Parsed.tree _ = _ from emitNs_new_root env _ _ _ _ sp]
  exact htop

/-! ### Reading the id tree back -/

theorem prefixStr_of_get {env : Env} {i : Nat} {p : Str} (h : env.prefixes[i]? = some p) : env.prefixStr i = p := by
  simp [Env.prefixStr, List.getD, h]

theorem namespaceStr_of_get {env : Env} {i : Nat} {u : Str} (h : env.namespaces[i]? = some u) :
    env.namespaceStr i = u := by
  simp [Env.namespaceStr, List.getD, h]

theorem expanded_of_get {env : Env} {n nsid : Nat} {a u : Str} (h : env.names[n]? = some (a, nsid))
    (hu : env.namespaces[nsid]? = some u) : env.expanded n = (u, a) := by
  simp [Env.expanded, Env.nsOfName, Env.localName, List.getD, h, namespaceStr_of_get hu]

theorem decodeItems_cons_some {env : Env} {k : Tree} {ks : List Tree} {items : List NItem}
    (h : decodeNsTree.decodeItems env (k :: ks) = some items) :
    ∃ a as, decodeNsTree env k = some a ∧ decodeNsTree.decodeItems env ks = some as ∧ items = a :: as := by
  simp only [decodeNsTree.decodeItems] at h
  cases hk : decodeNsTree env k with
  | none => simp [hk] at h
  | some a =>
    cases hks : decodeNsTree.decodeItems env ks with
    | none => simp [hk, hks] at h
    | some as =>
      simp only [hk, hks, Option.some.injEq] at h
      exact ⟨a, as, rfl, rfl, h.symm⟩

theorem decodeNsTree_element {env : Env} {n : Nat} {ks : List Tree} {x : NItem}
    (h : decodeNsTree env (.node (.element n) ks) = some x) :
    ∃ items, decodeNsTree.decodeItems env ks = some items ∧
      x = .node (.elem (env.expanded n).1 (env.expanded n).2 (items.filterMap NItem.decl?)
        (items.filterMap NItem.attr?) (items.filterMap NItem.node?)) := by
  simp only [decodeNsTree] at h
  cases hi : decodeNsTree.decodeItems env ks with
  | none => simp [hi] at h
  | some items =>
    simp only [hi, Option.some.injEq] at h
    exact ⟨items, rfl, h.symm⟩

theorem decodeItems_append (env : Env) : ∀ (l1 l2 : List Tree) (r1 r2 : List NItem),
    decodeNsTree.decodeItems env l1 = some r1 → decodeNsTree.decodeItems env l2 = some r2 →
    decodeNsTree.decodeItems env (l1 ++ l2) = some (r1 ++ r2) := by
  intro l1
  induction l1 with
  | nil =>
    intro l2 r1 r2 h1 h2
    simp only [decodeNsTree.decodeItems, Option.some.injEq] at h1; subst h1; simpa using h2
  | cons k ks ih =>
    intro l2 r1 r2 h1 h2
    obtain ⟨a, as, hk, hks, rfl⟩ := decodeItems_cons_some h1
    simp only [List.cons_append, decodeNsTree.decodeItems, hk, ih l2 as r2 hks h2]

/-- Namespace leaves read back as the declarations they were made from. -/
theorem decode_declIds : ∀ (ds : List (Str × Str)) (env envF : Env), EnvApp (declIds env ds).1 envF →
    decodeNsTree.decodeItems envF ((declIds env ds).2.map fun d => Tree.node (.namespace d.1 d.2) []) =
      some (ds.map NItem.decl)
  | [], _, _, _ => rfl
  | (p, u) :: rest, env, envF, h => by
    simp only [declIds] at h ⊢
    have hrest := declIds_app rest ((env.internPrefix p).1.internNamespace u).1
    have hp := ((internNamespace_app _ u).trans (hrest.trans h)).prefixes_get (internPrefix_get env p)
    have hu := (hrest.trans h).namespaces_get (internNamespace_get (env.internPrefix p).1 u)
    simp only [List.map_cons, decodeNsTree.decodeItems, decodeNsTree, prefixStr_of_get hp, namespaceStr_of_get hu,
      decode_declIds rest _ envF h]

/-- Attribute leaves read back as the attributes they were made from. -/
theorem decode_encodeNsAttrs : ∀ (attrs : List ((Str × Str) × Str)) (env envF : Env),
    EnvApp (encodeNsAttrs env attrs).1 envF →
    decodeNsTree.decodeItems envF (encodeNsAttrs env attrs).2 = some (attrs.map NItem.attr)
  | [], _, _, _ => rfl
  | ((ns, a), v) :: rest, env, envF, h => by
    simp only [encodeNsAttrs] at h ⊢
    have hrest := encodeNsAttrs_app rest ((env.internNamespace ns).1.internName a (env.internNamespace ns).2).1
    have hn := (hrest.trans h).names_get (internName_get (env.internNamespace ns).1 a (env.internNamespace ns).2)
    have hu := ((internName_app _ a _).trans (hrest.trans h)).namespaces_get (internNamespace_get env ns)
    simp only [decodeNsTree.decodeItems, decodeNsTree, expanded_of_get hn hu, decode_encodeNsAttrs rest _ envF h,
      List.map_cons]

theorem filterMap_const_none {α β : Type} (l : List α) : l.filterMap (fun _ => (none : Option β)) = [] := by
  induction l with
  | nil => rfl
  | cons x xs ih => simp [ih]

theorem filterMap_decl (ds : List (Str × Str)) (as : List ((Str × Str) × Str)) (ks : List NPNode) :
    ((ds.map NItem.decl ++ (as.map NItem.attr ++ ks.map NItem.node)).filterMap NItem.decl?) = ds := by
  simp [List.filterMap_append, List.filterMap_map, Function.comp_def, NItem.decl?, filterMap_const_none]

theorem filterMap_attr (ds : List (Str × Str)) (as : List ((Str × Str) × Str)) (ks : List NPNode) :
    ((ds.map NItem.decl ++ (as.map NItem.attr ++ ks.map NItem.node)).filterMap NItem.attr?) = as := by
  simp [List.filterMap_append, List.filterMap_map, Function.comp_def, NItem.attr?, filterMap_const_none]

theorem filterMap_node (ds : List (Str × Str)) (as : List ((Str × Str) × Str)) (ks : List NPNode) :
    ((ds.map NItem.decl ++ (as.map NItem.attr ++ ks.map NItem.node)).filterMap NItem.node?) = ks := by
  simp [List.filterMap_append, List.filterMap_map, Function.comp_def, NItem.node?, filterMap_const_none]

mutual
/-- Reading back what `encode` produced gives the abstract node, in every later state of the tables. -/
theorem decodeNs_encode : ∀ (n : NPNode) (env envF : Env), EnvApp (n.encode env).1 envF →
    decodeNsTree envF (n.encode env).2 = some (.node n)
  | .elem ns loc decls attrs kids, env, envF, h => by
    simp only [NPNode.encode] at h ⊢
    have hk := decodeNsItems_encodeList kids _ envF h
    have hak := (encodeNsList_app kids _).trans h
    have ha := decode_encodeNsAttrs attrs _ envF hak
    have hnk := (encodeNsAttrs_app attrs _).trans hak
    have hn := hnk.names_get (internName_get ((encodeDecls env decls).1.internNamespace ns).1 loc
      ((encodeDecls env decls).1.internNamespace ns).2)
    have hu := ((internName_app _ loc _).trans hnk).namespaces_get (internNamespace_get (encodeDecls env decls).1 ns)
    have hd := decode_declIds decls env envF (((internNamespace_app _ ns).trans (internName_app _ loc _)).trans hnk)
    have hall := decodeItems_append envF _ _ _ _ hd (decodeItems_append envF _ _ _ _ ha hk)
    simp only [encodeDecls] at hall hn hu ⊢
    simp only [decodeNsTree, hall, expanded_of_get hn hu, filterMap_decl, filterMap_attr, filterMap_node]
  | .text s, _, _, _ => rfl
  | .comment s, _, _, _ => rfl
  | .pi t d, env, envF, h => by
    simp only [NPNode.encode] at h ⊢
    simp only [decodeNsTree, localName_of_get (h.names_get (internName_get env t Env.noNamespace))]
theorem decodeNsItems_encodeList : ∀ (ns : List NPNode) (env envF : Env),
    EnvApp (NPNode.encode.encodeList env ns).1 envF →
    decodeNsTree.decodeItems envF (NPNode.encode.encodeList env ns).2 = some (ns.map NItem.node)
  | [], _, _, _ => rfl
  | k :: ks, env, envF, h => by
    simp only [NPNode.encode.encodeList] at h ⊢
    have hk := decodeNs_encode k env envF ((encodeNsList_app ks _).trans h)
    have hks := decodeNsItems_encodeList ks _ envF h
    simp only [decodeNsTree.decodeItems, hk, hks, List.map_cons]
end

theorem mapM_node (ns : List NPNode) : (ns.map NItem.node).mapM NItem.node? = some ns := by
  induction ns with
  | nil => rfl
  | cons k ks ih => simp [List.mapM_cons, ih, NItem.node?]

theorem decodeNs_encodeList (ns : List NPNode) (env : Env) :
    decodeNs (NPNode.encode.encodeList env ns).1 (NPNode.encode.encodeList env ns).2 = some ns := by
  unfold decodeNs
  rw [decodeNsItems_encodeList ns env _ (EnvApp.refl _)]
  exact mapM_node ns

/-! ### Top-level shape in abstract terms -/

def NPNode.isElem : NPNode → Bool
  | .elem _ _ _ _ _ => true
  | _ => false

def NPNode.isText : NPNode → Bool
  | .text _ => true
  | _ => false

/-- Exactly one element and no text among the top-level nodes. -/
def AbstractTopNs (ds : List NPNode) : Prop :=
  (ds.filter NPNode.isElem).length = 1 ∧ ∀ d ∈ ds, d.isText = false

theorem encodeNs_kind (n : NPNode) (env : Env) :
    (n.encode env).2.value.isElement = n.isElem ∧ (n.encode env).2.value.isText = n.isText := by
  cases n <;> simp [NPNode.encode, Tree.value, Value.isElement, Value.isText, NPNode.isElem, NPNode.isText]

theorem encodeNsList_top : ∀ (ds : List NPNode) (env : Env),
    countElements (NPNode.encode.encodeList env ds).2 = (ds.filter NPNode.isElem).length ∧
    ((∀ d ∈ ds, d.isText = false) ↔ ∀ k ∈ (NPNode.encode.encodeList env ds).2, k.value.isText = false)
  | [], _ => ⟨rfl, fun _ k hk => by simp [NPNode.encode.encodeList] at hk, fun _ _ hd => nomatch hd⟩
  | d :: ds, env => by
    obtain ⟨h1, h2⟩ := encodeNsList_top ds (d.encode env).1
    obtain ⟨k1, k2⟩ := encodeNs_kind d env
    simp only [NPNode.encode.encodeList]
    refine ⟨?_, ?_⟩
    · simp only [countElements, List.filter_cons, k1] at h1 ⊢
      cases d.isElem <;> simp [h1]
    · rw [List.forall_mem_cons, List.forall_mem_cons, h2, k2]

/-- The top level of an encoded document has the shape `parse` asks for exactly when the abstract one has. -/
theorem wellFormedTop_iff_abstractNs {env : Env} {ds : List NPNode} :
    WellFormedTop (.node .document (NPNode.encode.encodeList env ds).2) ↔ AbstractTopNs ds := by
  obtain ⟨h1, h2⟩ := encodeNsList_top ds env
  simp only [WellFormedTop, AbstractTopNs, Tree.kids, h1, h2]

theorem wellFormedTop_of_abstractNs {env : Env} {ds : List NPNode} (h : AbstractTopNs ds) :
    WellFormedTop (.node .document (NPNode.encode.encodeList env ds).2) :=
  wellFormedTop_iff_abstractNs.2 h

end XotModel
