/-
  Handles and paths (Model/FtravSpec.lean): `HTree.at?` commutes with `erase`, the node at the path of
  a handle carries that handle, the handles of a root tree are live in the forest, a structurally
  valid `HTree` erases to a `wf` tree (Lemmas/ReachAxes.lean) — hence every path a traversal of Model/Axes.lean returns denotes
  a live handle (`Forest.traversals_live`).
-/
import XotModel.Model.FtravSpec
import XotModel.Lemmas.FinvReads
import XotModel.Lemmas.AxesValid
import XotModel.Lemmas.ReachAxes

namespace XotModel
namespace HTree

theorem ftrav_handleAt_eq : ∀ (p : Path) (r : HTree), r.handleAt p = (r.at? p).map handle
  | [], node h v ks => by simp [handleAt, HTree.at?, handle]
  | i :: p, node h v ks => by
    simp only [handleAt, HTree.at?]
    cases hk : ks[i]? with
    | none => rfl
    | some k => simpa using ftrav_handleAt_eq p k

theorem ftrav_handles_at? : ∀ (p : Path) (r s : HTree), r.at? p = some s → ∀ x ∈ handles s, x ∈ handles r
  | [], r, s, h, x, hx => by simp only [HTree.at?, Option.some.injEq] at h; subst h; exact hx
  | i :: p, node h' v ks, s, h, x, hx => by
    simp only [HTree.at?] at h
    cases hk : ks[i]? with
    | none => rw [hk] at h; cases h
    | some k =>
      rw [hk] at h
      have := ftrav_handles_at? p k s h x hx
      simp only [handles, List.mem_cons]
      exact Or.inr (fhl_getElem?_handles ks i k hk x this)

mutual
  theorem ftrav_pathOf_at? (h : Nat) : ∀ (r : HTree) (q : Path), pathOf h r = some q →
      ∃ s, r.at? q = some s ∧ s.handle = h
    | node h' v ks, q, hq => by
      simp only [pathOf] at hq
      split at hq
      · cases hq; exact ⟨_, rfl, by simpa [handle]⟩
      · obtain ⟨i, p, k, rfl, hk, hs⟩ := ftrav_pathOfList_at? h ks 0 q hq
        obtain ⟨s, hs1, hs2⟩ := hs
        refine ⟨s, ?_, hs2⟩
        simp only [HTree.at?]
        rw [Nat.zero_add, hk]; exact hs1
  theorem ftrav_pathOfList_at? (h : Nat) : ∀ (ks : List HTree) (j : Nat) (q : Path), pathOfList h j ks = some q →
      ∃ i p k, q = (j + i) :: p ∧ ks[i]? = some k ∧ ∃ s, k.at? p = some s ∧ s.handle = h
    | [], _, _, hq => by simp [pathOfList] at hq
    | k :: ks, j, q, hq => by
      simp only [pathOfList] at hq
      cases hp : pathOf h k with
      | some p =>
        rw [hp] at hq
        simp only [Option.some.injEq] at hq
        subst hq
        exact ⟨0, p, k, rfl, rfl, ftrav_pathOf_at? h k p hp⟩
      | none =>
        rw [hp] at hq
        obtain ⟨i, p, k', rfl, hk, hs⟩ := ftrav_pathOfList_at? h ks (j + 1) q hq
        exact ⟨i + 1, p, k', by congr 1; omega, by simpa using hk, hs⟩
end

mutual
  theorem ftrav_pathOf_isSome (h : Nat) : ∀ (r : HTree), h ∈ handles r → (pathOf h r).isSome = true
    | node h' v ks, hm => by
      simp only [pathOf]
      split
      · rfl
      · rename_i hne
        simp only [handles, List.mem_cons] at hm
        rcases hm with rfl | hm
        · exact absurd rfl hne
        · exact ftrav_pathOfList_isSome h ks 0 hm
  theorem ftrav_pathOfList_isSome (h : Nat) : ∀ (ks : List HTree) (j : Nat), h ∈ handlesList ks →
      (pathOfList h j ks).isSome = true
    | [], _, hm => by simp [handlesList] at hm
    | k :: ks, j, hm => by
      simp only [pathOfList]
      cases hp : pathOf h k with
      | some p => rfl
      | none =>
        simp only [handlesList, List.mem_append] at hm
        rcases hm with hm | hm
        · have := ftrav_pathOf_isSome h k hm
          rw [hp] at this; cases this
        · exact ftrav_pathOfList_isSome h ks (j + 1) hm
end

theorem ftrav_pathOf_mem {h : Nat} {r : HTree} {q : Path} (hq : pathOf h r = some q) : h ∈ handles r := by
  obtain ⟨s, hs, rfl⟩ := ftrav_pathOf_at? h r q hq
  exact ftrav_handles_at? q r s hs _ (handle_mem_handles s)

theorem ftrav_pathOfList_getElem? (x : Nat) : ∀ (ks : List HTree) (j i : Nat) (k : HTree) (p : Path),
    (handlesList ks).Nodup → ks[i]? = some k → pathOf x k = some p → pathOfList x j ks = some ((j + i) :: p)
  | [], _, _, _, _, _, hk, _ => by simp at hk
  | k' :: ks, j, 0, k, p, _, hk, hp => by
    simp only [List.getElem?_cons_zero, Option.some.injEq] at hk
    subst hk
    simp [pathOfList, hp]
  | k' :: ks, j, i + 1, k, p, hnd, hk, hp => by
    simp only [List.getElem?_cons_succ] at hk
    simp only [handlesList, List.nodup_append] at hnd
    have hx : x ∈ handlesList ks := fhl_getElem?_handles ks i k hk x (ftrav_pathOf_mem hp)
    have hnone : pathOf x k' = none := by
      cases hq : pathOf x k' with
      | none => rfl
      | some q => exact absurd rfl (hnd.2.2 x (ftrav_pathOf_mem hq) x hx)
    simp only [pathOfList, hnone]
    rw [ftrav_pathOfList_getElem? x ks (j + 1) i k p hnd.2.1 hk hp]
    congr 2; omega

theorem ftrav_pathOf_of_at? : ∀ (p : Path) (r s : HTree), (handles r).Nodup → r.at? p = some s →
    pathOf s.handle r = some p
  | [], r, s, _, h => by
    simp only [HTree.at?, Option.some.injEq] at h; subst h
    cases r; simp [pathOf, handle]
  | i :: p, node h' v ks, s, hnd, h => by
    simp only [HTree.at?] at h
    cases hk : ks[i]? with
    | none => rw [hk] at h; cases h
    | some k =>
      rw [hk] at h
      simp only [handles, List.nodup_cons] at hnd
      have hsk : s.handle ∈ handles k := ftrav_handles_at? p k s h _ (handle_mem_handles s)
      have hne : ¬ h' = s.handle := by
        intro e; exact hnd.1 (e ▸ fhl_getElem?_handles ks i k hk _ hsk)
      have hndk : (handles k).Nodup :=
        (Fmap.handles_sublist_of_mem (List.mem_of_getElem? hk)).nodup hnd.2
      have := ftrav_pathOf_of_at? p k s hndk h
      simp only [pathOf, hne, if_false]
      simpa using ftrav_pathOfList_getElem? s.handle ks 0 i k p hnd.2 hk this

end HTree

open HTree

/-- A structurally valid handle tree erases to a tree satisfying the hypothesis `wf` of the C07
    theorems (non-normal nodes are leaves, no normal child before a non-normal one). -/
theorem ftrav_wf_erase (b : Bool) : ∀ (r : HTree), validTree b r = true → Axes.wf r.erase = true :=
  fun r hv => Reach.wf_of_structural _ (Reach.structural_erase b r hv)

theorem ftrav_wfList_erase (b : Bool) : ∀ (ks : List HTree), validList b ks = true →
    Axes.wfList (eraseList ks) = true :=
  fun ks hv => Reach.wfList_of_structural _ fun k hk => by
    obtain ⟨k', hk', rfl⟩ := Reach.mem_eraseList hk
    exact Reach.structural_erase b k' (validList_all b ks hv k' hk')

namespace Forest

theorem rootOf?_of_live {f : Forest} {h : Nat} (hl : f.isLive h = true) :
    ∃ r, f.rootOf? h = some r ∧ r ∈ f.roots ∧ ∃ q, HTree.pathOf h r = some q := by
  have hm := mem_allHandles_of_isLive hl
  unfold allHandles at hm
  have : ∃ r ∈ f.roots, h ∈ handles r := by
    generalize f.roots = L at hm
    induction L with
    | nil => simp [handlesList] at hm
    | cons k L ih =>
      simp only [handlesList, List.mem_append] at hm
      rcases hm with hm | hm
      · exact ⟨k, List.mem_cons_self .., hm⟩
      · obtain ⟨r, hr, hx⟩ := ih hm; exact ⟨r, List.mem_cons_of_mem _ hr, hx⟩
  obtain ⟨r0, hr0, hx0⟩ := this
  unfold rootOf?
  cases hf : f.roots.find? (fun r => (HTree.pathOf h r).isSome) with
  | none =>
    have := List.find?_eq_none.mp hf r0 hr0
    rw [ftrav_pathOf_isSome h r0 hx0] at this
    exact absurd rfl this
  | some r =>
    refine ⟨r, rfl, List.mem_of_find?_eq_some hf, ?_⟩
    have := List.find?_some hf
    cases hp : HTree.pathOf h r with
    | none => rw [hp] at this; cases this
    | some q => exact ⟨q, rfl⟩

/-- **Traversals hand out live nodes.**  `r` a tree of a forest satisfying the invariant, `q` the path
    of a handle `h` in it: every path `p` in the answer of any traversal entry point run on
    `(r.erase, q)` is a node of `r.erase`, namely the erasure of the node `s` of `r` at `p`; its handle is
    live in the forest and not removed. -/
theorem traversals_live {f : Forest} (hi : f.Inv) {r : HTree} (hr : r ∈ f.roots) {h : Nat} {q : Path}
    (hq : HTree.pathOf h r = some q) (tr : Axes.Trav) {p : Path} (hp : p ∈ tr.result r.erase q) :
    ∃ s, r.at? p = some s ∧ r.erase.at? p = some s.erase ∧ HTree.handleAt r p = some s.handle ∧
      HTree.pathOf s.handle r = some p ∧ f.isLive s.handle = true ∧ f.isRemoved s.handle = false := by
  have hwf : Axes.wf r.erase = true := ftrav_wf_erase _ r (validList_all _ _ hi.valid r hr)
  obtain ⟨s0, hs0, _⟩ := ftrav_pathOf_at? h r q hq
  have hvq : Axes.Valid r.erase q := by
    unfold Axes.Valid; rw [Reach.at?_erase, hs0]; rfl
  have hvp := Axes.trav_valid hwf hvq tr p hp
  unfold Axes.Valid at hvp
  rw [Reach.at?_erase] at hvp
  cases hs : r.at? p with
  | none => rw [hs] at hvp; cases hvp
  | some s =>
    have hlive : f.isLive s.handle = true :=
      isLive_of_mem_allHandles (handles_subset_handlesList hr _ (ftrav_handles_at? p r s hs _ (handle_mem_handles s)))
    exact ⟨s, rfl, by rw [Reach.at?_erase, hs]; rfl, by simp [ftrav_handleAt_eq, hs],
      ftrav_pathOf_of_at? p r s (Fws.nodup_of_mem hr hi.nodup) hs, hlive, isRemoved_false_of_live hlive⟩

end Forest
end XotModel
