/-
  What a parse step adds to the forest (`fph_parse_new_root`; from `Xot::new()`: `fph_parse_init`), and the unedited
  parsed document: the value-level hypotheses of the C01 round trip (`envOK`, `valueOK` at every node, distinct xml:id
  values, `singleRoot`, `namesWritable`) are consequences of acceptance (`parse`, well-formed tables) outside the two
  recorded guards (`NoReservedDecls`, `PlainPiTargets`, Model/AcceptedGuard.lean): `fph_accepted_value_conditions`.
-/
import XotModel.Lemmas.FparseHistIds
import XotModel.Lemmas.ReachRepresentable

namespace XotModel
open HTree

namespace PStore

/-- An accepted text adds one parentless tree, numbered from the store's next handle; flags, the other
    trees and their handles are untouched; the tables are the builder's. -/
theorem fph_parse_new_root (s : PStore) {m : Mode} {text : Str} {p : Parsed}
    (h : parseString m s.env text = .ok p) :
    (s.step (.parse m text)).forest =
      { s.forest with roots := s.forest.roots ++ [ofTree s.forest.next p.tree], next := s.forest.next + p.tree.size } ∧
    (s.step (.parse m text)).env = p.env ∧
    (ofTree s.forest.next p.tree).erase = p.tree ∧ (ofTree s.forest.next p.tree).handle = s.forest.next ∧
    (ofTree s.forest.next p.tree).value.isDocument = true := by
  rw [fph_step_parse_ok s h]
  refine ⟨rfl, rfl, fph_erase_ofTree _ _, HTree.handle_ofTree _ _, ?_⟩
  rw [HTree.value_ofTree, fph_parsed_document h]; rfl

/-- From `Xot::new()`: after `parse(text)` of an accepted text the forest is the parsed document. -/
theorem fph_parse_init (env : Env) {m : Mode} {text : Str} {p : Parsed} (h : parseString m env text = .ok p) :
    ((init env).run [.parse m text]).forest.roots = [ofTree 0 p.tree] ∧
    ((init env).run [.parse m text]).forest.everOff = false ∧
    ((init env).run [.parse m text]).env = p.env := by
  have := fph_parse_new_root (init env) (m := m) (text := text) (p := p) h
  refine ⟨?_, ?_, this.2.1⟩
  · show ((init env).step (.parse m text)).forest.roots = _
    rw [this.1]; rfl
  · show ((init env).step (.parse m text)).forest.everOff = _
    rw [this.1]; rfl

end PStore

/-- **For the unedited tree the value-level conditions are consequences of acceptance** (document mode,
    well-formed tables, outside the two guards). -/
theorem fph_accepted_value_conditions {env : Env} {text : Str} {p : Parsed} (henv : envOK env = true)
    (h : parseString .document env text = .ok p) (hg : NoReservedDecls p.env p.tree = true)
    (hpi : PlainPiTargets p.env p.tree = true) :
    envOK p.env = true ∧ p.tree.allNodes (fun v _ => valueOK p.env v) = true ∧
    (xmlIdValues p.env p.tree).Nodup ∧ singleRoot p.tree = true ∧ namesWritable p.env p.tree [] = some true := by
  have hrep := Accepted.accepted_representable henv h hg hpi
  have hwr := Accepted.accepted_writable henv h hg hpi
  obtain ⟨hs, hd⟩ := build_sound (by unfold parseString at h; exact h)
  have hS : Reach.Structural p.tree :=
    ⟨Reach.forall_mono (fun _ _ h => h.1) _ hs, Reach.forall_mono (fun _ _ h => h.2.1) _ hs,
     Reach.forall_mono (fun _ _ h => h.2.2.2) _ hs⟩
  have hA : NoAdjacentText p.tree := Reach.forall_mono (fun _ _ h => h.2.2.1) _ hs
  have heq := (Reach.representable_eq p.env hS hA).2
  rw [heq] at hrep
  simp only [Bool.and_eq_true, decide_eq_true_eq] at hrep
  exact ⟨hrep.1.1.1.1, hrep.1.1.2, hrep.1.2, hrep.2, hwr⟩

end XotModel
