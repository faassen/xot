/-
  Handles are never re-used and keep their meaning — without any invariant, for all forests and all arguments.
  `Forest.Le f f'`: `next` has not decreased and every handle of `f'` is a handle of `f` or fresh; `isRemoved` is
  monotone along it.  `Forest.VStep S T f f'`: every (handle, value) pair of `f'` is fresh or comes from a pair of `f`
  with the same handle and the same value, or a text extended by consolidation (handle in `T`), or a same-kind value
  written by a setter (handle in `S`).  Proved for the indextree primitives, the consolidation helpers, the four moves
  and every other call but `clone_node`, with explicit lists of sites for the composite calls.
-/
import XotModel.Lemmas.FinvCons
import XotModel.Lemmas.FatomForest
import XotModel.Lemmas.ManipShape
import XotModel.Model.FlocalSpec

/-! ## `Forest.Le`; containment of handles under the tree edits -/

namespace XotModel
open HTree

/-! ### Containment of handles under the tree edits (no distinctness needed) -/

theorem handlesList_replaceKids_sub (h : Nat) (g : HTree → List HTree) (E : List Nat)
    (hg : ∀ k, ∀ x ∈ handlesList (g k), x ∈ handles k ∨ x ∈ E) :
    ∀ ks : List HTree, ∀ x ∈ handlesList (replaceKids h g ks), x ∈ handlesList ks ∨ x ∈ E :=
  replaceKids_handles h g E hg

theorem handles_mapAt_sub (h : Nat) (g : HTree → HTree) (E : List Nat)
    (hg : ∀ k, ∀ x ∈ handles (g k), x ∈ handles k ∨ x ∈ E) :
    ∀ t : HTree, ∀ x ∈ handles (mapAt h g t), x ∈ handles t ∨ x ∈ E :=
  mapAt_handles h g E hg

theorem handles_of_find? (h : Nat) : ∀ t s : HTree, find? h t = some s → ∀ x ∈ handles s, x ∈ handles t :=
  fun t s hf _ hx => (fa_find?_sublist h t s hf).subset hx

theorem find?_ne_none_of_mem (h : Nat) : ∀ t : HTree, h ∈ handles t → find? h t ≠ none :=
  fun t hm hn => (find?_none_iff h t).1 hn hm

namespace Forest

/-- `f'` is a later state than `f`. -/
structure Le (f f' : Forest) : Prop where
  next : f.next ≤ f'.next
  old : ∀ h ∈ f'.allHandles, h ∈ f.allHandles ∨ f.next ≤ h

theorem Le.refl (f : Forest) : Le f f := ⟨Nat.le_refl _, fun _ h => Or.inl h⟩

theorem Le.trans {f g k : Forest} (h1 : Le f g) (h2 : Le g k) : Le f k := by
  refine ⟨Nat.le_trans h1.next h2.next, ?_⟩
  intro h hh
  rcases h2.old h hh with h3 | h3
  · exact h1.old h h3
  · exact Or.inr (Nat.le_trans h1.next h3)

theorem isLive_of_mem_allHandles {f : Forest} {h : Nat} (hm : h ∈ f.allHandles) : f.isLive h = true :=
  (isLive_iff_mem f h).2 hm

theorem isRemoved_mono {f f' : Forest} (hle : Le f f') {h : Nat} (hr : f.isRemoved h = true) :
    f'.isRemoved h = true := by
  unfold isRemoved at hr ⊢
  simp only [Bool.and_eq_true, decide_eq_true_eq, Bool.not_eq_true'] at hr ⊢
  refine ⟨Nat.lt_of_lt_of_le hr.1 hle.next, ?_⟩
  cases hl : f'.isLive h with
  | false => rfl
  | true =>
    exfalso
    rcases hle.old h (mem_allHandles_of_isLive hl) with h1 | h1
    · rw [isLive_of_mem_allHandles h1] at hr; cases hr.2
    · exact Nat.lt_irrefl _ (Nat.lt_of_lt_of_le hr.1 h1)

theorem le_newNode (f : Forest) (v : Value) : Le f (f.newNode v).1 := by
  refine ⟨Nat.le_succ _, ?_⟩
  intro h hh
  rw [Fmap.allHandles_newNode, List.mem_append, List.mem_singleton] at hh
  rcases hh with hh | hh
  · exact Or.inl hh
  · exact Or.inr (by rw [hh]; exact Nat.le_refl _)

end Forest
end XotModel

/-! ## `Forest.VStep` and the indextree primitives -/

namespace XotModel
open HTree

/-! ### Containment of (handle, value) pairs under the tree edits (no distinctness needed) -/

mutual
  theorem hv_replaceBelow_sub (h : Nat) (g : HTree → List HTree) (E : List (Nat × Value))
      (hg : ∀ k, ∀ x ∈ hvList (g k), x ∈ hv k ∨ x ∈ E) :
      ∀ t : HTree, ∀ x ∈ hv (replaceBelow h g t), x ∈ hv t ∨ x ∈ E
    | .node h' v ks => by
      intro x hx
      rw [replaceBelow, hv_node, List.mem_cons] at hx
      rcases hx with hx | hx
      · exact Or.inl (by simp [hx])
      · rcases hvList_replaceKids_sub h g E hg ks x hx with h1 | h1
        · exact Or.inl (by simp [h1])
        · exact Or.inr h1
  theorem hvList_replaceKids_sub (h : Nat) (g : HTree → List HTree) (E : List (Nat × Value))
      (hg : ∀ k, ∀ x ∈ hvList (g k), x ∈ hv k ∨ x ∈ E) :
      ∀ ks : List HTree, ∀ x ∈ hvList (replaceKids h g ks), x ∈ hvList ks ∨ x ∈ E
    | [] => by intro x hx; simp [replaceKids] at hx
    | k :: ks => by
      intro x hx
      rw [replaceKids_cons] at hx
      split at hx
      · rw [hvList_append, List.mem_append] at hx
        rcases hx with hx | hx
        · rcases hg k x hx with h1 | h1
          · exact Or.inl (by simp [h1])
          · exact Or.inr h1
        · exact Or.inl (by simp [hx])
      · rw [hvList_cons, List.mem_append] at hx
        rcases hx with hx | hx
        · rcases hv_replaceBelow_sub h g E hg k x hx with h1 | h1
          · exact Or.inl (by simp [h1])
          · exact Or.inr h1
        · rcases hvList_replaceKids_sub h g E hg ks x hx with h1 | h1
          · exact Or.inl (by simp [h1])
          · exact Or.inr h1
end

mutual
  theorem hv_mapAt_sub_of (h : Nat) (g : HTree → HTree) (P : Nat × Value → Prop)
      (hg : ∀ k, k.handle = h → ∀ x ∈ hv (g k), x ∈ hv k ∨ P x) :
      ∀ t : HTree, ∀ x ∈ hv (mapAt h g t), x ∈ hv t ∨ P x
    | .node h' v ks => by
      intro x hx
      rw [mapAt] at hx
      split at hx
      · rename_i e
        exact hg (.node h' v ks) e x hx
      · rw [hv_node, List.mem_cons] at hx
        rcases hx with hx | hx
        · exact Or.inl (by simp [hx])
        · rcases hvList_mapAtList_sub_of h g P hg ks x hx with h1 | h1
          · exact Or.inl (by simp [h1])
          · exact Or.inr h1
  theorem hvList_mapAtList_sub_of (h : Nat) (g : HTree → HTree) (P : Nat × Value → Prop)
      (hg : ∀ k, k.handle = h → ∀ x ∈ hv (g k), x ∈ hv k ∨ P x) :
      ∀ ks : List HTree, ∀ x ∈ hvList (mapAtList h g ks), x ∈ hvList ks ∨ P x
    | [] => by intro x hx; simp [mapAtList] at hx
    | k :: ks => by
      intro x hx
      rw [mapAtList, hvList_cons, List.mem_append] at hx
      rcases hx with hx | hx
      · rcases hv_mapAt_sub_of h g P hg k x hx with h1 | h1
        · exact Or.inl (by simp [h1])
        · exact Or.inr h1
      · rcases hvList_mapAtList_sub_of h g P hg ks x hx with h1 | h1
        · exact Or.inl (by simp [h1])
        · exact Or.inr h1
end

theorem hv_mapAt_sub (h : Nat) (g : HTree → HTree) (E : List (Nat × Value))
    (hg : ∀ k, k.handle = h → ∀ x ∈ hv (g k), x ∈ hv k ∨ x ∈ E) :
    ∀ t : HTree, ∀ x ∈ hv (mapAt h g t), x ∈ hv t ∨ x ∈ E :=
  hv_mapAt_sub_of h g (· ∈ E) hg

mutual
  theorem hv_of_find? (h : Nat) : ∀ t s : HTree, find? h t = some s → ∀ x ∈ hv s, x ∈ hv t
    | .node h' v ks, s => by
      intro hf x hx
      rw [find?] at hf
      split at hf
      · cases hf; exact hx
      · rw [hv_node]; exact List.mem_cons_of_mem _ (hv_of_findList? h ks s hf x hx)
  theorem hv_of_findList? (h : Nat) : ∀ (ks : List HTree) (s : HTree), findList? h ks = some s →
      ∀ x ∈ hv s, x ∈ hvList ks
    | [], s => by intro hf; simp [findList?] at hf
    | k :: ks, s => by
      intro hf x hx
      rw [findList?_cons] at hf
      rw [hvList_cons, List.mem_append]
      cases hk : find? h k with
      | some t' =>
        rw [hk] at hf; simp only [Option.some_or, Option.some.injEq] at hf
        subst hf
        exact Or.inl (hv_of_find? h k t' hk x hx)
      | none =>
        rw [hk] at hf; simp only [Option.none_or] at hf
        exact Or.inr (hv_of_findList? h ks s hf x hx)
end

theorem hvList_map_replaceBelow_sub (h : Nat) (g : HTree → List HTree) (E : List (Nat × Value))
    (hg : ∀ k, ∀ x ∈ hvList (g k), x ∈ hv k ∨ x ∈ E) (ks : List HTree) :
    ∀ x ∈ hvList (ks.map (replaceBelow h g)), x ∈ hvList ks ∨ x ∈ E := by
  induction ks with
  | nil => intro x hx; simp at hx
  | cons k ks ih =>
    intro x hx
    rw [List.map_cons, hvList_cons, List.mem_append] at hx
    rcases hx with hx | hx
    · rcases hv_replaceBelow_sub h g E hg k x hx with h1 | h1
      · exact Or.inl (by simp [h1])
      · exact Or.inr h1
    · rcases ih x hx with h1 | h1
      · exact Or.inl (by simp [h1])
      · exact Or.inr h1

theorem hvList_filter_sub (p : HTree → Bool) (ks : List HTree) :
    ∀ x ∈ hvList (ks.filter p), x ∈ hvList ks := by
  induction ks with
  | nil => intro x hx; simp at hx
  | cons k ks ih =>
    intro x hx
    rw [List.filter_cons] at hx
    split at hx
    · rw [hvList_cons, List.mem_append] at hx ⊢
      rcases hx with hx | hx
      · exact Or.inl hx
      · exact Or.inr (ih x hx)
    · rw [hvList_cons, List.mem_append]; exact Or.inr (ih x hx)

theorem hv_kid_sub {t k : HTree} (hk : k ∈ t.kids) : ∀ x ∈ hv k, x ∈ hv t := by
  intro x hx
  obtain ⟨a, b, e⟩ := List.append_of_mem hk
  rw [hv_eq t, e, hvList_append, hvList_cons]
  exact List.mem_cons_of_mem _ (List.mem_append_right _ (List.mem_append_left _ hx))

theorem hv_self_mem (t : HTree) : (t.handle, t.value) ∈ hv t := by
  rw [hv_eq]; exact List.mem_cons_self ..

namespace Forest

theorem hv_of_get? {f : Forest} {h : Nat} {t : HTree} (hg : f.get? h = some t) :
    ∀ x ∈ hv t, x ∈ hvList f.roots := hv_of_findList? h f.roots t hg

/-- The converse needs distinct handles. -/
theorem hv_of_value? {f : Forest} {x : Nat} {v : Value} (h : f.value? x = some v) :
    (x, v) ∈ hvList f.roots := by
  unfold value? at h
  cases hg : f.get? x with
  | none => rw [hg] at h; cases h
  | some t =>
    rw [hg] at h
    simp only [Option.map_some, Option.some.injEq] at h
    have := hv_of_get? hg _ (hv_self_mem t)
    rw [get?_handle hg, h] at this
    exact this

theorem hv_of_textOf {f : Forest} {x : Nat} {s : Str} (h : f.textOf x = some s) :
    (x, .text s) ∈ hvList f.roots := by
  apply hv_of_value?
  unfold textOf at h
  cases hv' : f.value? x with
  | none => rw [hv'] at h; cases h
  | some v => rw [hv'] at h; cases v <;> simp_all

/-! ### The relation -/

/-- Text consolidation: the old content is a contiguous part of the new one. -/
def TextExt (v v' : Value) : Prop := ∃ s a b, v = .text s ∧ v' = .text (a ++ s ++ b)

theorem TextExt.trans {a b c : Value} (h1 : TextExt a b) (h2 : TextExt b c) : TextExt a c := by
  obtain ⟨s, x, y, rfl, rfl⟩ := h1
  obtain ⟨s', x', y', e, rfl⟩ := h2
  cases e
  exact ⟨s, x' ++ x, y ++ y', rfl, by simp [List.append_assoc]⟩

theorem TextExt.sameKind {a b : Value} (h : TextExt a b) : SameKind a b := by
  obtain ⟨s, x, y, rfl, rfl⟩ := h
  exact ⟨rfl, rfl, rfl, rfl⟩

theorem _root_.XotModel.SameKind.trans' {a b c : Value} (h1 : SameKind a b) (h2 : SameKind b c) : SameKind a c :=
  ⟨h1.cat.trans h2.cat, h1.text.trans h2.text, h1.key.trans h2.key, h1.doc.trans h2.doc⟩

/-- How the value at handle `x` may have changed. -/
def VRel (S T : Nat → Prop) (x : Nat) (v v' : Value) : Prop :=
  v' = v ∨ (T x ∧ TextExt v v') ∨ (S x ∧ SameKind v v')

theorem VRel.sameKind {S T : Nat → Prop} {x : Nat} {v v' : Value} (h : VRel S T x v v') :
    SameKind v v' := by
  rcases h with h | h | h
  · rw [h]; exact SameKind.refl _
  · exact h.2.sameKind
  · exact h.2

theorem VRel.trans {S T : Nat → Prop} {x : Nat} {a b c : Value} (h1 : VRel S T x a b)
    (h2 : VRel S T x b c) : VRel S T x a c := by
  rcases h1 with h1 | h1 | h1
  · rw [h1] at h2; exact h2
  · rcases h2 with h2 | h2 | h2
    · rw [h2]; exact Or.inr (Or.inl h1)
    · exact Or.inr (Or.inl ⟨h1.1, h1.2.trans h2.2⟩)
    · exact Or.inr (Or.inr ⟨h2.1, h1.2.sameKind.trans' h2.2⟩)
  · exact Or.inr (Or.inr ⟨h1.1, h1.2.trans' (VRel.sameKind h2)⟩)

theorem VRel.mono {S T S' T' : Nat → Prop} (hS : ∀ x, S x → S' x) (hT : ∀ x, T x → T' x)
    {x : Nat} {v v' : Value} (h : VRel S T x v v') : VRel S' T' x v v' := by
  rcases h with h | h | h
  · exact Or.inl h
  · exact Or.inr (Or.inl ⟨hT x h.1, h.2⟩)
  · exact Or.inr (Or.inr ⟨hS x h.1, h.2⟩)

/-- Where a pair of a later forest comes from. -/
def VOrigin (S T : Nat → Prop) (f : Forest) (x : Nat) (v' : Value) : Prop :=
  f.next ≤ x ∨ ∃ v, (x, v) ∈ hvList f.roots ∧ VRel S T x v v'

structure VStep (S T : Nat → Prop) (f f' : Forest) : Prop where
  next : f.next ≤ f'.next
  old : ∀ x v', (x, v') ∈ hvList f'.roots → VOrigin S T f x v'

variable {S T : Nat → Prop}

theorem VOrigin.of_mem {f : Forest} {x : Nat} {v : Value} (h : (x, v) ∈ hvList f.roots) :
    VOrigin S T f x v := Or.inr ⟨v, h, Or.inl rfl⟩

theorem VStep.refl (f : Forest) : VStep S T f f := ⟨Nat.le_refl _, fun _ _ h => VOrigin.of_mem h⟩

theorem VOrigin.trans {f g : Forest} (h1 : VStep S T f g) {x : Nat} {v' : Value}
    (h2 : VOrigin S T g x v') : VOrigin S T f x v' := by
  rcases h2 with h2 | ⟨v, hm, hr⟩
  · exact Or.inl (Nat.le_trans h1.next h2)
  · rcases h1.old x v hm with h3 | ⟨v0, hm0, hr0⟩
    · exact Or.inl h3
    · exact Or.inr ⟨v0, hm0, hr0.trans hr⟩

theorem VStep.trans {f g k : Forest} (h1 : VStep S T f g) (h2 : VStep S T g k) : VStep S T f k :=
  ⟨Nat.le_trans h1.next h2.next, fun x v' h => (h2.old x v' h).trans h1⟩

theorem VStep.mono {S' T' : Nat → Prop} (hS : ∀ x, S x → S' x) (hT : ∀ x, T x → T' x) {f g : Forest}
    (h : VStep S T f g) : VStep S' T' f g := by
  refine ⟨h.next, fun x v' hm => ?_⟩
  rcases h.old x v' hm with h1 | ⟨v, h2, h3⟩
  · exact Or.inl h1
  · exact Or.inr ⟨v, h2, h3.mono hS hT⟩

theorem VStep.le {f g : Forest} (h : VStep S T f g) : Le f g := by
  refine ⟨h.next, fun x hx => ?_⟩
  unfold allHandles at hx ⊢
  rw [← map_fst_hvList] at hx
  obtain ⟨⟨x, v'⟩, hp, rfl⟩ := List.mem_map.mp hx
  rcases h.old x v' hp with h1 | ⟨v, hm, _⟩
  · exact Or.inr h1
  · exact Or.inl (mem_handlesList_of_mem_hvList hm)

theorem VStep.of_sub {f f' : Forest} (hn : f'.next = f.next)
    (hs : ∀ x ∈ hvList f'.roots, x ∈ hvList f.roots) : VStep S T f f' :=
  ⟨by rw [hn]; exact Nat.le_refl _, fun x v' h => VOrigin.of_mem (hs _ h)⟩

/-! ### The primitives -/

theorem vstep_newNode (f : Forest) (v : Value) : VStep S T f (f.newNode v).1 := by
  refine ⟨Nat.le_succ _, ?_⟩
  intro x v' hm
  simp only [newNode, hvList_append, hvList_cons, hv_node, hvList_nil, List.append_nil,
    List.mem_append, List.mem_singleton, Prod.mk.injEq] at hm
  rcases hm with hm | hm
  · exact VOrigin.of_mem hm
  · exact Or.inl (by rw [hm.1]; exact Nat.le_refl _)

theorem vstep_setValue (f : Forest) (h : Nat) (v : Value) (ho : VOrigin S T f h v) :
    VStep S T f (f.setValue h v) := by
  refine ⟨Nat.le_refl _, ?_⟩
  intro x v' hm
  unfold setValue at hm
  simp only at hm
  rw [← mapAtList_eq_map] at hm
  rcases hvList_mapAtList_sub_of h (HTree.setValue v) (· ∈ [(h, v)]) (by
      intro k hk x hx
      cases k with
      | node kh kv kks =>
        simp only [HTree.setValue, hv_node, List.mem_cons] at hx ⊢
        simp only [node_handle] at hk
        rcases hx with hx | hx
        · right; rw [hx, hk]; simp
        · exact Or.inl (Or.inr hx)) f.roots _ hm with h1 | h1
  · exact VOrigin.of_mem h1
  · simp only [List.mem_singleton, Prod.mk.injEq] at h1
    rw [h1.1, h1.2]; exact ho

/-- Consolidation writes `ps ++ ns` into the earlier text node `p` … -/
theorem vstep_setText_prefix (f : Forest) {p : Nat} {ps : Str} (hT : T p) (ht : f.textOf p = some ps)
    (ns : Str) : VStep S T f (f.setValue p (.text (ps ++ ns))) :=
  vstep_setValue f p _ (Or.inr ⟨.text ps, hv_of_textOf ht, Or.inr (Or.inl ⟨hT, ps, [], ns, rfl, by simp⟩)⟩)

/-- … or `added ++ ns` into the later text node `n`. -/
theorem vstep_setText_suffix (f : Forest) {n : Nat} {ns : Str} (hT : T n) (ht : f.textOf n = some ns)
    (added : Str) : VStep S T f (f.setValue n (.text (added ++ ns))) :=
  vstep_setValue f n _ (Or.inr ⟨.text ns, hv_of_textOf ht, Or.inr (Or.inl ⟨hT, ns, added, [], rfl, by simp⟩)⟩)

/-- A setter writes a value of the same kind into a handle of `S`. -/
theorem vstep_setValue_target (f : Forest) {h : Nat} {v0 : Value} (v : Value) (hS : S h)
    (h0 : (h, v0) ∈ hvList f.roots) (hk : SameKind v0 v) : VStep S T f (f.setValue h v) :=
  vstep_setValue f h v (Or.inr ⟨v0, h0, Or.inr (Or.inr ⟨hS, hk⟩)⟩)

theorem vstep_cut (f : Forest) (h : Nat) : VStep S T f (f.cut h).1 ∧
    ∀ t, (f.cut h).2 = some t → ∀ x ∈ hv t, x ∈ hvList f.roots := by
  unfold cut
  cases hg : f.get? h with
  | none => exact ⟨VStep.refl f, fun t ht => by cases ht⟩
  | some t =>
    simp only
    refine ⟨?_, ?_⟩
    · split
      · exact VStep.of_sub (by rfl) (hvList_filter_sub _ _)
      · apply VStep.of_sub (by rfl)
        intro x hx
        rcases hvList_map_replaceBelow_sub h _ [] (by intro k x hx; simp at hx) f.roots x hx with h1 | h1
        · exact h1
        · cases h1
    · intro t' ht' x hx
      have : t' = t := by split at ht' <;> (cases ht'; rfl)
      subst this
      exact hv_of_get? hg x hx

theorem vstep_dropSubtree (f : Forest) (h : Nat) : VStep S T f (f.dropSubtree h) := (vstep_cut f h).1

theorem vstep_detachRaw (f : Forest) (h : Nat) : VStep S T f (f.detachRaw h) := by
  unfold detachRaw
  have := vstep_cut (S := S) (T := T) f h
  cases hc : f.cut h with
  | mk f' o =>
    rw [hc] at this
    cases o with
    | none => exact this.1
    | some t =>
      simp only
      refine ⟨this.1.next, ?_⟩
      intro x v' hx
      unfold addRoot at hx
      simp only [hvList_append, hvList_cons, hvList_nil, List.append_nil, List.mem_append] at hx
      rcases hx with hx | hx
      · exact this.1.old x v' hx
      · exact VOrigin.of_mem (this.2 t rfl _ hx)

theorem vstep_spliceOut (f : Forest) (h : Nat) : VStep S T f (f.spliceOut h) := by
  unfold spliceOut
  cases hg : f.get? h with
  | none => exact VStep.refl f
  | some t =>
    simp only
    have hkids : ∀ x ∈ hvList t.kids, x ∈ hvList f.roots := by
      intro x hx
      apply hv_of_get? hg x
      rw [hv_eq]; exact List.mem_cons_of_mem _ hx
    have key : ∀ x ∈ hvList (f.roots.filter (fun r => r.handle != h) ++ t.kids), x ∈ hvList f.roots := by
      intro x hx
      rw [hvList_append, List.mem_append] at hx
      rcases hx with hx | hx
      · exact hvList_filter_sub _ _ x hx
      · exact hkids x hx
    split
    · split
      · exact VStep.of_sub (by rfl) key
      · exact VStep.of_sub (by rfl) key
    · apply VStep.of_sub (by rfl)
      intro x hx
      rcases hvList_map_replaceBelow_sub h (fun n => n.kids) []
        (by intro k x hx; left; rw [hv_eq]; exact List.mem_cons_of_mem _ hx) f.roots x hx with h1 | h1
      · exact h1
      · cases h1

end Forest
end XotModel

/-! ## `VStep` for the consolidation helpers, the four moves, `detach`, `remove` -/

namespace XotModel
open HTree

namespace Forest

variable {S T : Nat → Prop}

theorem hv_setKids (k : HTree) (ks : List HTree) :
    hv (k.setKids ks) = (k.handle, k.value) :: hvList ks := by
  cases k; simp [HTree.setKids]

theorem vstep_place {f0 f : Forest} (hle : VStep S T f0 f) (t : HTree)
    (ht : ∀ x v', (x, v') ∈ hv t → VOrigin S T f0 x v') :
    ∀ ref, VStep S T f0 (f.placeAfter ref t) ∧ VStep S T f0 (f.placeBefore ref t) ∧
      VStep S T f0 (f.placeLast ref t) ∧ VStep S T f0 (f.placeFirst ref t) := by
  intro ref
  have fin : ∀ f' : Forest, f'.next = f.next →
      (∀ x ∈ hvList f'.roots, x ∈ hvList f.roots ∨ x ∈ hv t) → VStep S T f0 f' := by
    intro f' hn hs
    refine ⟨by rw [hn]; exact hle.next, ?_⟩
    intro x v' hx
    rcases hs _ hx with h1 | h1
    · exact hle.old x v' h1
    · exact ht x v' h1
  refine ⟨?_, ?_, ?_, ?_⟩
  · apply fin _ (by rfl)
    intro x hx
    exact hvList_map_replaceBelow_sub ref _ (hv t) (by
      intro k x hx
      simp only [hvList_cons, hvList_nil, List.append_nil, List.mem_append] at hx
      exact hx) f.roots x hx
  · apply fin _ (by rfl)
    intro x hx
    exact hvList_map_replaceBelow_sub ref _ (hv t) (by
      intro k x hx
      simp only [hvList_cons, hvList_nil, List.append_nil, List.mem_append] at hx
      exact hx.symm) f.roots x hx
  · apply fin _ (by rfl)
    intro x hx
    unfold placeLast at hx
    simp only at hx
    rw [← mapAtList_eq_map] at hx
    exact hvList_mapAtList_sub_of ref _ (· ∈ hv t) (by
      intro k _ x hx
      rw [hv_setKids, List.mem_cons, hvList_append, List.mem_append] at hx
      rw [hv_eq k, List.mem_cons]
      simp only [hvList_cons, hvList_nil, List.append_nil] at hx
      rcases hx with hx | hx | hx
      · exact Or.inl (Or.inl hx)
      · exact Or.inl (Or.inr hx)
      · exact Or.inr hx) f.roots x hx
  · apply fin _ (by rfl)
    intro x hx
    unfold placeFirst at hx
    simp only at hx
    rw [← mapAtList_eq_map] at hx
    exact hvList_mapAtList_sub_of ref _ (· ∈ hv t) (by
      intro k _ x hx
      rw [hv_setKids, List.mem_cons, hvList_cons, List.mem_append] at hx
      rw [hv_eq k, List.mem_cons]
      rcases hx with hx | hx | hx
      · exact Or.inl (Or.inl hx)
      · exact Or.inr hx
      · exact Or.inl (Or.inr hx)) f.roots x hx

theorem vstep_corrupt {f0 f : Forest} (h : VStep S T f0 f) : VStep S T f0 { f with corrupt := true } :=
  ⟨h.next, h.old⟩

/-- Cut, then place (the shape of the four indextree `checked_*` calls): the pairs of the cut subtree are old pairs. -/
theorem vstep_cutPlace (f : Forest) (c : Nat) (place : Forest → HTree → Forest)
    (hplace : ∀ g t, VStep S T f g → (∀ x v', (x, v') ∈ hv t → VOrigin S T f x v') →
      VStep S T f (place g t)) :
    VStep S T f (match f.cut c with
      | (f', some t) => (place f' t, true)
      | (f', none) => ({ f' with corrupt := true }, true)).1 := by
  have hc := vstep_cut (S := S) (T := T) f c
  generalize f.cut c = cu at hc ⊢
  obtain ⟨f', o⟩ := cu
  cases o with
  | none => exact vstep_corrupt hc.1
  | some t => exact hplace f' t hc.1 (fun x v' hx => VOrigin.of_mem (hc.2 t rfl _ hx))

theorem vstep_checked (f : Forest) (a b : Nat) :
    VStep S T f (f.checkedAppend a b).1 ∧ VStep S T f (f.checkedPrepend a b).1 ∧
    VStep S T f (f.checkedInsertAfter a b).1 ∧ VStep S T f (f.checkedInsertBefore a b).1 := by
  refine ⟨?_, ?_, ?_, ?_⟩
  · unfold checkedAppend
    split
    · exact VStep.refl f
    · exact vstep_cutPlace f b _ (fun g t hg ht => (vstep_place hg t ht a).2.2.1)
  · unfold checkedPrepend
    split
    · exact VStep.refl f
    · exact vstep_cutPlace f b _ (fun g t hg ht => (vstep_place hg t ht a).2.2.2)
  · unfold checkedInsertAfter
    split
    · exact VStep.refl f
    · split
      · exact vstep_corrupt (VStep.refl f)
      · exact vstep_cutPlace f b _ (fun g t hg ht => (vstep_place hg t ht a).1)
  · unfold checkedInsertBefore
    split
    · exact VStep.refl f
    · split
      · exact vstep_corrupt (VStep.refl f)
      · exact vstep_cutPlace f b _ (fun g t hg ht => (vstep_place hg t ht a).2.1)

/-! ### Consolidation: only the surviving text node changes, by extension -/

theorem vstep_removeConsolidate (f : Forest) (prev next : Option Nat)
    (hT : ∀ p, prev = some p → T p) : VStep S T f (f.removeConsolidate prev next).1 := by
  rcases f.removeConsolidate_outcome prev next with e | ⟨p, n, ps, ns, h1, _, _, hp, _, e⟩
  · rw [e]; exact VStep.refl f
  · rw [e]; exact (vstep_setText_prefix f (hT p h1) hp ns).trans (vstep_spliceOut _ n)

theorem vstep_addConsolidateOld (f : Forest) (node : Nat) (prev next : Option Nat)
    (hTp : ∀ p, prev = some p → T p) (hTn : ∀ n, next = some n → T n) :
    VStep S T f (f.addConsolidateOld node prev next).1 := by
  rcases f.addConsolidateOld_outcome node prev next with
    e | ⟨added, _, _, ⟨p, ps, h1, hp, e⟩ | ⟨n, ns, h1, hn, e⟩⟩
  · rw [e]; exact VStep.refl f
  · rw [e]; exact (vstep_setText_prefix f (hTp p h1) hp added).trans (vstep_spliceOut _ node)
  · rw [e]; exact (vstep_setText_suffix f (hTn n h1) hn added).trans (vstep_spliceOut _ node)

/-- The neighbours that may change are the ones the helper works with (`selfPrev`,
    `selfNext`: the node's own sibling where the neighbour handed in is the node itself). -/
theorem vstep_addConsolidate (f : Forest) (node : Nat) (prev next : Option Nat)
    (hTp : ∀ p, f.selfPrev node prev = some p → T p) (hTn : ∀ n, f.selfNext node next = some n → T n) :
    VStep S T f (f.addConsolidate node prev next).1 := by
  rw [addConsolidate_eq_old]; exact vstep_addConsolidateOld f node _ _ hTp hTn

theorem vstep_res {f g : Forest} {b : Bool} {r1 r2 : Res} (h : VStep S T f g) :
    VStep S T f (if b = true then (g, r1) else (g, r2)).1 := by split <;> exact h

/-! ### The moves -/

/-- The part the four moves share: besides what the placement `k` does, only the previous sibling of
    `c` and the neighbours `c` is consolidated with may be extended. -/
theorem vstep_moveTail (f : Forest) (c : Nat) (prev next : Forest → Option Nat) (k : Forest → Forest × Bool)
    (hT1 : ∀ q, f.prevSibling c = some q → T q)
    (hTp : ∀ q, (f.afterOldSite c).selfPrev c (prev (f.afterOldSite c)) = some q → T q)
    (hTn : ∀ q, (f.afterOldSite c).selfNext c (next (f.afterOldSite c)) = some q → T q)
    (hk : ∀ g, VStep S T g (k g).1) : VStep S T f (f.moveTail c prev next k).1 := by
  have h12 : VStep S T f
      ((f.afterOldSite c).addConsolidate c (prev (f.afterOldSite c)) (next (f.afterOldSite c))).1 :=
    (vstep_removeConsolidate f (f.prevSibling c) (f.nextSibling c) hT1).trans
      (vstep_addConsolidate _ c _ _ hTp hTn)
  rw [moveTail_fst]
  split
  · exact h12
  · exact h12.trans (hk _)

theorem vstep_append (f : Forest) (p c : Nat) (hT1 : ∀ q, f.prevSibling c = some q → T q)
    (hT2 : ∀ q, (f.afterOldSite c).selfPrev c ((f.afterOldSite c).lastChild p) = some q → T q) :
    VStep S T f (f.append p c).1 := by
  rw [append_eq]
  split
  · exact VStep.refl f
  split
  · exact VStep.refl f
  exact vstep_moveTail f c _ _ _ hT1 hT2 (fun _ h => by rw [selfNext_none] at h; cases h)
    (fun g => (vstep_checked g p c).1)

theorem vstep_mapPlace (f : Forest) (k : MapKind) (parent node : Nat) :
    VStep S T f (f.mapPlace k parent node).1 := by
  unfold mapPlace
  cases f.mapInsertionPoint k parent with
  | some ip =>
    simp only
    have := (vstep_checked (S := S) (T := T) f ip node).2.2.1
    cases hc : f.checkedInsertAfter ip node with
    | mk f' okb => rw [hc] at this; exact vstep_res this
  | none =>
    simp only
    have := (vstep_checked (S := S) (T := T) f parent node).2.1
    cases hc : f.checkedPrepend parent node with
    | mk f' okb => rw [hc] at this; exact vstep_res this

theorem vstep_prepend (f : Forest) (p c : Nat) (hT1 : ∀ q, f.prevSibling c = some q → T q)
    (hT2 : ∀ q, (f.afterOldSite c).selfNext c ((f.afterOldSite c).firstChild p) = some q → T q) :
    VStep S T f (f.prepend p c).1 := by
  rw [prepend_eq]
  split
  · exact VStep.refl f
  split
  · exact VStep.refl f
  refine vstep_moveTail f c _ _ _ hT1 (fun _ h => by rw [selfPrev_none] at h; cases h) hT2 (fun g => ?_)
  cases g.prependPoint p with
  | some ip => exact (vstep_checked g ip c).2.2.1
  | none => exact (vstep_checked g p c).2.1

theorem vstep_insertAfter (f : Forest) (ref c : Nat) (hT1 : ∀ q, f.prevSibling c = some q → T q)
    (hT2 : T (f.insertAfterRef ref c))
    (hT3 : ∀ q, (f.afterOldSite c).selfNext c
      ((f.afterOldSite c).nextSibling (f.insertAfterRef ref c)) = some q → T q)
    (hT4 : f.insertAfterRef ref c = c → ∀ q, (f.afterOldSite c).prevSibling c = some q → T q) :
    VStep S T f (f.insertAfter ref c).1 := by
  rw [insertAfter_eq]
  split
  · exact VStep.refl f
  split
  · exact VStep.refl f
  split
  · exact VStep.refl f
  refine vstep_moveTail f c _ _ _ hT1 (fun q h => ?_) hT3 (fun g => (vstep_checked g _ c).2.2.1)
  unfold selfPrev at h
  split at h
  · rename_i e; exact hT4 (by simpa using e) q h
  · cases h; exact hT2

theorem vstep_insertBefore (f : Forest) (ref c : Nat) (hT1 : ∀ q, f.prevSibling c = some q → T q)
    (hT2 : T ref)
    (hT3 : ∀ q, (f.afterOldSite c).selfPrev c ((f.afterOldSite c).prevSibling ref) = some q → T q) :
    VStep S T f (f.insertBefore ref c).1 := by
  rw [insertBefore_eq]
  split
  · exact VStep.refl f
  split
  · exact VStep.refl f
  rename_i hsr
  have hrc : ref ≠ c := by
    unfold siblingReferenceCheck at hsr
    simp only [Bool.not_eq_true', Bool.not_eq_false, Bool.and_eq_true, bne_iff_ne] at hsr
    exact hsr.1
  split
  · exact VStep.refl f
  refine vstep_moveTail f c _ _ _ hT1 hT3 (fun q h => ?_) (fun g => (vstep_checked g ref c).2.2.2)
  rw [selfNext_of_ne (by simpa using hrc)] at h
  cases h; exact hT2

theorem vstep_detach (f : Forest) (node : Nat) (hT : ∀ q, f.prevSibling node = some q → T q) :
    VStep S T f (f.detach node).1 :=
  (vstep_detachRaw f node).trans (vstep_removeConsolidate _ _ _ hT)

theorem vstep_remove (f : Forest) (node : Nat) (hT : ∀ q, f.prevSibling node = some q → T q) :
    VStep S T f (f.remove node).1 :=
  (vstep_dropSubtree f node).trans (vstep_removeConsolidate _ _ _ hT)

end Forest
end XotModel

/-! ## `VStep` for the node maps, the setters and the composite calls -/

namespace XotModel
open HTree

namespace Forest

/-- No restriction. -/
def Any : Nat → Prop := fun _ => True

variable {S T : Nat → Prop}

theorem vstep_append_any (f : Forest) (p c : Nat) : VStep S Any f (f.append p c).1 :=
  vstep_append f p c (fun _ _ => trivial) (fun _ _ => trivial)
theorem vstep_prepend_any (f : Forest) (p c : Nat) : VStep S Any f (f.prepend p c).1 :=
  vstep_prepend f p c (fun _ _ => trivial) (fun _ _ => trivial)
theorem vstep_insertAfter_any (f : Forest) (r c : Nat) : VStep S Any f (f.insertAfter r c).1 :=
  vstep_insertAfter f r c (fun _ _ => trivial) trivial (fun _ _ => trivial) (fun _ _ _ => trivial)
theorem vstep_insertBefore_any (f : Forest) (r c : Nat) : VStep S Any f (f.insertBefore r c).1 :=
  vstep_insertBefore f r c (fun _ _ => trivial) trivial (fun _ _ => trivial)
theorem vstep_detach_any (f : Forest) (n : Nat) : VStep S Any f (f.detach n).1 :=
  vstep_detach f n (fun _ _ => trivial)
theorem vstep_remove_any (f : Forest) (n : Nat) : VStep S Any f (f.remove n).1 :=
  vstep_remove f n (fun _ _ => trivial)

theorem vstep_foldl_remove {α : Type} (g : α → Nat) (xs : List α) (f : Forest) :
    VStep S Any f (xs.foldl (fun acc c => (acc.remove (g c)).1) f) := by
  induction xs generalizing f with
  | nil => exact VStep.refl f
  | cons x xs ih => exact (vstep_remove_any f (g x)).trans (ih _)

theorem hv_of_mapGetNode {f : Forest} {k : MapKind} {p key : Nat} {n : HTree}
    (hn : f.mapGetNode k p key = some n) : (n.handle, n.value) ∈ hvList f.roots := by
  unfold mapGetNode at hn
  cases hg : f.get? p with
  | none => rw [hg] at hn; cases hn
  | some t0 =>
    rw [hg] at hn
    simp only at hn
    have hx : n ∈ t0.kids := Forest.mapChildren_sub k t0 n (List.mem_of_find?_eq_some hn)
    exact hv_of_get? hg _ (hv_kid_sub hx _ (hv_self_mem n))

theorem vstep_mapInsert (f : Forest) (k : MapKind) (parent : Nat) (entry : Value)
    (hS : ∀ n, f.mapGetNode k parent (entryKey entry) = some n → S n.handle) :
    VStep S T f (f.mapInsert k parent entry).1 := by
  unfold mapInsert
  split
  · exact VStep.refl f
  · cases hg : f.mapGetNode k parent (entryKey entry) with
    | some n =>
      exact vstep_setValue_target f _ (hS n hg) (hv_of_mapGetNode hg) (sameKind_entryUpdate _ _).1
    | none => exact (vstep_newNode f entry).trans (vstep_mapPlace _ k parent _)

theorem vstep_mapInsertNode (f : Forest) (k : MapKind) (parent node : Nat)
    (hS : ∀ v n, f.value? node = some v → f.mapGetNode k parent (entryKey v) = some n → S n.handle) :
    VStep S T f (f.mapInsertNode k parent node).1 := by
  unfold mapInsertNode
  cases hv' : f.value? node with
  | none => exact VStep.refl f
  | some v =>
    simp only
    split
    · exact VStep.refl f
    · cases hg : f.mapGetNode k parent (entryKey v) with
      | some e =>
        exact vstep_setValue_target f _ (hS v e hv' hg) (hv_of_mapGetNode hg) (sameKind_entryUpdate _ _).1
      | none => exact vstep_mapPlace f k parent node

theorem vstep_mapRemove (f : Forest) (k : MapKind) (parent key : Nat) :
    VStep S Any f (f.mapRemove k parent key).1 := by
  unfold mapRemove
  split
  · exact VStep.refl f
  · cases f.mapGetNode k parent key with
    | some n => exact vstep_remove_any f _
    | none => exact VStep.refl f

theorem vstep_mapClear (f : Forest) (k : MapKind) (parent : Nat) :
    VStep S Any f (f.mapClear k parent).1 := by
  unfold mapClear
  split
  · exact VStep.refl f
  · cases f.get? parent with
    | none => exact VStep.refl f
    | some t => exact vstep_foldl_remove (fun c : HTree => c.handle) _ f

theorem vstep_appendEntryNode (f : Forest) (k : MapKind) (parent child : Nat)
    (hS : ∀ x ∈ f.entryTarget k parent child, S x) :
    VStep S T f (f.appendEntryNode k parent child).1 := by
  unfold appendEntryNode
  split
  · exact VStep.refl f
  · cases hv' : f.value? child with
    | none => exact VStep.refl f
    | some v =>
      simp only
      split
      · exact VStep.refl f
      · apply vstep_mapInsertNode f k parent child
        intro v1 n h1 h2
        apply hS
        unfold entryTarget
        rw [h1]
        simp [h2]

theorem vstep_anyAppend (f : Forest) (parent child : Nat)
    (hS : ∀ x ∈ (Call.anyAppend parent child).targets f, S x)
    (hT1 : ∀ q, f.prevSibling child = some q → T q)
    (hT2 : ∀ q, (f.afterOldSite child).selfPrev child ((f.afterOldSite child).lastChild parent) = some q →
      T q) :
    VStep S T f (f.anyAppend parent child).1 := by
  unfold anyAppend
  split
  · rename_i a b hv'
    apply vstep_appendEntryNode
    intro x hx; apply hS; simp only [Call.targets, hv']; exact hx
  · rename_i a b hv'
    apply vstep_appendEntryNode
    intro x hx; apply hS; simp only [Call.targets, hv']; exact hx
  · exact vstep_append f _ _ hT1 hT2

theorem vstep_anyAppend_any (f : Forest) (parent child : Nat)
    (hS : ∀ x ∈ (Call.anyAppend parent child).targets f, S x) :
    VStep S Any f (f.anyAppend parent child).1 :=
  vstep_anyAppend f parent child hS (fun _ _ => trivial) (fun _ _ => trivial)

theorem isElement_hv {f : Forest} {c : Nat} (ht : f.isElement c = true) :
    ∃ n, (c, Value.element n) ∈ hvList f.roots := by
  obtain ⟨n, hv⟩ := value?_of_isElement ht
  exact ⟨n, hv_of_value? hv⟩

theorem vstep_setElementName (f : Forest) (node name : Nat) (hS : S node) :
    VStep S Any f (f.setElementName node name).1 := by
  unfold setElementName
  split
  · rename_i he
    obtain ⟨n, e⟩ := isElement_hv he
    exact vstep_setValue_target f _ hS e ⟨rfl, rfl, rfl, rfl⟩
  · exact VStep.refl f

theorem isText_hv {f : Forest} {c : Nat} (ht : f.isText c = true) :
    ∃ s0, (c, Value.text s0) ∈ hvList f.roots := by
  obtain ⟨s0, hv⟩ := value?_of_isText ht
  exact ⟨s0, hv_of_value? hv⟩

theorem vstep_setText (f : Forest) (node : Nat) (s : Str) (hS : S node) :
    VStep S Any f (f.setText node s).1 := by
  unfold setText
  split
  · rename_i ht
    obtain ⟨s0, e⟩ := isText_hv ht
    exact vstep_setValue_target f _ hS e ⟨rfl, rfl, rfl, rfl⟩
  · exact VStep.refl f

theorem vstep_setComment (f : Forest) (node : Nat) (s : Str) (hS : S node) :
    VStep S Any f (f.setComment node s).1 := by
  unfold setComment
  split
  · rename_i c hv'
    split
    · exact VStep.refl f
    · exact vstep_setValue_target f _ hS (hv_of_value? hv') ⟨rfl, rfl, rfl, rfl⟩
  · exact VStep.refl f

theorem vstep_setPiData (f : Forest) (node : Nat) (d : Option Str) (hS : S node) :
    VStep S Any f (f.setPiData node d).1 := by
  unfold setPiData
  split
  · rename_i t d0 hv'
    exact vstep_setValue_target f _ hS (hv_of_value? hv') ⟨rfl, rfl, rfl, rfl⟩
  · exact VStep.refl f

theorem vstep_setConsolidation (f : Forest) (b : Bool) : VStep S Any f (f.setConsolidation b) :=
  VStep.of_sub rfl (fun _ h => h)

theorem vstep_textContentSet (f : Forest) (node : Nat) (s : Str)
    (hS : ∀ c, f.textContentTarget node = some c → S c) :
    VStep S Any f (f.textContentSet node s).1 := by
  unfold textContentSet
  unfold textContentTarget at hS
  cases hfc : f.firstChild node with
  | some child =>
    rw [hfc] at hS
    simp only at hS ⊢
    split
    · exact VStep.refl f
    · split
      · rename_i ht
        obtain ⟨s0, h0⟩ := isText_hv ht
        exact vstep_setValue_target f _ (hS child rfl) h0 ⟨rfl, rfl, rfl, rfl⟩
      · exact VStep.refl f
  | none =>
    rw [hfc] at hS
    simp only at hS ⊢
    split
    · have h1 : VStep S Any f (f.newText []).1 := vstep_newNode f _
      cases hnt : f.newText [] with
      | mk f1 t =>
        rw [hnt] at h1 hS
        simp only at hS ⊢
        have h2 := vstep_append_any (S := S) f1 node t
        cases h3 : f1.append node t with
        | mk f2 r =>
          rw [h3] at h2 hS
          simp only at hS ⊢
          have h12 := h1.trans h2
          cases r with
          | ok =>
            simp only
            cases hfc2 : f2.firstChild node with
            | some c =>
              simp only
              split
              · rename_i ht
                obtain ⟨s0, h0⟩ := isText_hv ht
                exact h12.trans (vstep_setValue_target f2 _ (hS c hfc2) h0 ⟨rfl, rfl, rfl, rfl⟩)
              · exact h12
            | none => exact h12
          | err e => exact h12
          | panic => exact h12
    · exact VStep.refl f

theorem vstep_removeInsignificantWhitespace (f : Forest) (node : Nat) :
    VStep S Any f (f.removeInsignificantWhitespace node) := by
  unfold removeInsignificantWhitespace
  cases f.get? node with
  | none => exact VStep.refl f
  | some t =>
    simp only
    have h0 : VStep S Any f ({ f with consolidation := false } : Forest) := VStep.of_sub rfl (fun _ h => h)
    have h1 := vstep_foldl_remove (S := S) (fun n : Nat => n)
      ((descendantsNormal t).filter f.isInsignificantWhitespace) ({ f with consolidation := false } : Forest)
    exact ⟨(h0.trans h1).next, (h0.trans h1).old⟩

/-! ### The sites of the moves and of the composite calls -/

/-- The handles whose value `append(p, c)` may change. -/
def appendSites (f : Forest) (p c : Nat) : List Nat :=
  (f.prevSibling c).toList ++
    ((f.afterOldSite c).selfPrev c ((f.afterOldSite c).lastChild p)).toList
def prependSites (f : Forest) (p c : Nat) : List Nat :=
  (f.prevSibling c).toList ++
    ((f.afterOldSite c).selfNext c ((f.afterOldSite c).firstChild p)).toList
def insertAfterSites (f : Forest) (ref c : Nat) : List Nat :=
  (f.prevSibling c).toList ++ [f.insertAfterRef ref c] ++
    ((f.afterOldSite c).selfNext c ((f.afterOldSite c).nextSibling (f.insertAfterRef ref c))).toList
def insertBeforeSites (f : Forest) (ref c : Nat) : List Nat :=
  (f.prevSibling c).toList ++ [ref] ++
    ((f.afterOldSite c).selfPrev c ((f.afterOldSite c).prevSibling ref)).toList

theorem vstep_foldl_spliceOut (xs : List HTree) (f : Forest) :
    VStep S T f (xs.foldl (fun acc k => acc.spliceOut k.handle) f) := by
  induction xs generalizing f with
  | nil => exact VStep.refl f
  | cons x xs ih => exact (vstep_spliceOut f x.handle).trans (ih _)

theorem vstep_removeElement (f : Forest) (node : Nat) : VStep S T f (f.removeElement node) := by
  unfold removeElement
  cases f.get? node with
  | none => exact VStep.refl f
  | some t => exact (vstep_foldl_spliceOut _ f).trans (vstep_spliceOut _ node)

/-- The handles whose value `element_unwrap(n)` may change: the node that stands before the
    wrapper (read once the wrapper and its attribute / namespace nodes are taken out: it is then
    the previous sibling of the wrapper's first child) and the wrapper's last child; for a wrapper
    without children (the call is `remove`) the previous sibling. -/
def unwrapSites (f : Forest) (n : Nat) : List Nat :=
  match f.firstChild n with
  | none => (f.prevSibling n).toList
  | some first => ((f.removeElement n).prevSibling first).toList ++ (f.lastChild n).toList

theorem vstep_elementUnwrap_sites (f : Forest) (node : Nat) :
    VStep S (fun q => q ∈ f.unwrapSites node) f (f.elementUnwrap node).1 := by
  refine elementUnwrap_cases (P := fun x => VStep S (fun q => q ∈ f.unwrapSites node) f x.1) f node
    (fun _ => VStep.refl f)
    (fun _ hfc => vstep_remove f node (fun q h => by simp [unwrapSites, hfc, h]))
    (fun first last _ hfc _ hlc => ?_)
  unfold unwrapBody
  simp only
  have hTp : ∀ p, (f.removeElement node).prevSibling first = some p → p ∈ f.unwrapSites node :=
    fun p h => by simp [unwrapSites, hfc, h]
  have hTl : ∀ p, some last = some p → p ∈ f.unwrapSites node :=
    fun p h => by cases h; simp [unwrapSites, hfc, hlc]
  have h1 := vstep_removeElement (S := S) (T := fun q => q ∈ f.unwrapSites node) f node
  have h2 := vstep_removeConsolidate (S := S) (f.removeElement node)
    ((f.removeElement node).prevSibling first) (some first) hTp
  cases hr : (f.removeElement node).removeConsolidate ((f.removeElement node).prevSibling first) (some first) with
  | mk f2 c =>
    rw [hr] at h2
    simp only
    have h12 := h1.trans h2
    split
    · split
      · exact h12.trans (vstep_removeConsolidate _ _ _ hTp)
      · exact h12.trans (vstep_removeConsolidate _ _ _ hTl)
    · exact h12.trans (vstep_removeConsolidate _ _ _ hTl)

/-- `insertAfterSites` plus the site of the last premise of `vstep_insertAfter`: when the reference really used
    (`insertAfterRef`) is the moved node `c` itself, the previous sibling of `c` after the old-site merge, which may
    be extended (empty under the invariant when `ref ≠ c`: no node is its own previous sibling). -/
def insertAfterSitesX (f : Forest) (ref c : Nat) : List Nat :=
  f.insertAfterSites ref c ++
    (if f.insertAfterRef ref c = c then ((f.afterOldSite c).prevSibling c).toList else [])

theorem vstep_insertAfter_sitesX (f : Forest) (ref c : Nat) {sites : List Nat}
    (hs : ∀ q ∈ f.insertAfterSitesX ref c, q ∈ sites) :
    VStep S (fun q => q ∈ sites) f (f.insertAfter ref c).1 := by
  apply vstep_insertAfter f ref c
  · intro q h; exact hs q (by simp [insertAfterSitesX, insertAfterSites, h])
  · exact hs _ (by simp [insertAfterSitesX, insertAfterSites])
  · intro q h; exact hs q (by simp [insertAfterSitesX, insertAfterSites, h])
  · intro e q h; exact hs q (by simp [insertAfterSitesX, e, h])

/-- The handles whose value `replace(a, b)` may change.  `b` next to `a`: the call is `remove(a)`,
    the previous sibling of `a`.  Otherwise, with the subtree `a` taken out: the sites of the move
    of `b` to the place of `a` (`insert_after` the previous sibling of `a`, else `prepend`: the
    previous sibling of `b`, the node `b` arrives behind, and the node behind that read after `b`'s
    old-site merge), and the node that stands before `a`'s former next sibling after that move (the
    final `remove_consolidate_text_nodes`). -/
def replaceSites (f : Forest) (a b : Nat) : List Nat :=
  match f.parent? a with
  | none => []
  | some parent =>
    if (f.prevSibling a == some b || f.nextSibling a == some b) = true then (f.prevSibling a).toList else
    match f.prevSibling a with
    | none => (f.dropSubtree a).prependSites parent b
    | some p => (f.dropSubtree a).insertAfterSitesX p b ++
        (match f.nextSibling a with
         | some n => (((f.dropSubtree a).insertAfter p b).1.prevSibling n).toList
         | none => [])

theorem vstep_replace_sites (f : Forest) (a b : Nat) :
    VStep S (fun q => q ∈ f.replaceSites a b) f (f.replace a b).1 := by
  refine replace_cases (P := fun x => VStep S (fun q => q ∈ f.replaceSites a b) f x.1) f a b
    (VStep.refl f) (fun parent hpa _ _ => ?_)
  unfold replaceBody
  simp only
  split
  · rename_i hadj
    exact vstep_remove f a (fun q h => by simp only [replaceSites, hpa]; rw [if_pos hadj]; simp [h])
  · rename_i hadj
    have h1 := vstep_dropSubtree (S := S) (T := fun q => q ∈ f.replaceSites a b) f a
    have hsub : ∀ q, q ∈ (match f.prevSibling a with
        | none => (f.dropSubtree a).prependSites parent b
        | some p => (f.dropSubtree a).insertAfterSitesX p b ++
            (match f.nextSibling a with
             | some n => (((f.dropSubtree a).insertAfter p b).1.prevSibling n).toList
             | none => [])) → q ∈ f.replaceSites a b := by
      intro q hq
      simp only [replaceSites, hpa]
      rw [if_neg hadj]
      exact hq
    cases hps : f.prevSibling a with
    | none =>
      rw [hps] at hsub
      exact h1.trans (vstep_prepend _ parent b (fun q h => hsub q (by simp [prependSites, h]))
        (fun q h => hsub q (by simp [prependSites, h])))
    | some p =>
      rw [hps] at hsub
      simp only
      have h2 := vstep_insertAfter_sitesX (S := S) (f.dropSubtree a) p b
        (sites := f.replaceSites a b) (fun q h => hsub q (by simp [h]))
      cases hi : (f.dropSubtree a).insertAfter p b with
      | mk f2 r =>
        rw [hi] at h2
        simp only
        cases r with
        | ok =>
          cases hns : f.nextSibling a with
          | none => exact h1.trans h2
          | some n =>
            refine (h1.trans h2).trans (vstep_removeConsolidate _ _ _ (fun q h => hsub q ?_))
            simp [hns, hi, h]
        | err e => exact h1.trans h2
        | panic => exact h1.trans h2

theorem vstep_replace (f : Forest) (a b : Nat) : VStep S Any f (f.replace a b).1 :=
  (vstep_replace_sites f a b).mono (fun _ h => h) (fun _ _ => trivial)

theorem vstep_elementWrap (f : Forest) (node name : Nat) : VStep S Any f (f.elementWrap node name).1 := by
  refine elementWrap_cases (P := fun x => VStep S Any f x.1) f node name (VStep.refl f) (fun _ _ => ?_)
  unfold wrapBody
  cases f.parent? node with
  | some parent =>
    simp only
    have h1 : VStep S Any f (f.newElement name).1 := vstep_newNode f _
    cases hn : f.newElement name with
    | mk f1 wrapper =>
      rw [hn] at h1
      simp only
      have h2 := vstep_detachRaw (S := S) (T := Any) f1 node
      have h3 := vstep_append_any (S := S) (f1.detachRaw node) wrapper node
      cases ha : (f1.detachRaw node).append wrapper node with
      | mk f3 r3 =>
        rw [ha] at h3
        simp only
        have h123 := (h1.trans h2).trans h3
        cases r3 with
        | ok =>
          simp only
          cases f.prevSibling node with
          | some p => exact h123.trans (vstep_insertAfter_any f3 p wrapper)
          | none => exact h123.trans (vstep_prepend_any f3 parent wrapper)
        | err e => exact h123
        | panic => exact h123
  | none =>
    simp only
    have h1 : VStep S Any f (f.newElement name).1 := vstep_newNode f _
    cases hn : f.newElement name with
    | mk f1 wrapper =>
      rw [hn] at h1
      simp only
      exact h1.trans (vstep_append_any f1 wrapper node)

theorem vstep_elementUnwrap (f : Forest) (node : Nat) : VStep S Any f (f.elementUnwrap node).1 :=
  (vstep_elementUnwrap_sites f node).mono (fun _ h => h) (fun _ _ => trivial)

end Forest
end XotModel
