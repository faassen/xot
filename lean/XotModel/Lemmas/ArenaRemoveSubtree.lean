/-
  Subtrees at list level (`Reach` downwards, the node after a subtree `NextAfter`, induction from
  the children) and the cursor loop of `NodeId::remove_subtree`: started at a node it frees exactly
  the node's subtree in document order and arrives at the node that follows it.  Hence
  `remove_subtree` of a live node on a well-formed arena stores the shape without the subtree, does
  not panic and ends.
-/
import XotModel.Lemmas.ArenaFree

/-! ### Subtrees at list level

  `NextAfter`: the next sibling of the nearest ancestor-or-self that has one.
-/

namespace XotModel
namespace Arena

/-- The cursor `remove_subtree` moves to after a subtree: the next sibling of the node, else of its
    parent, … (`none` when the climb reaches a parentless node). -/
inductive NextAfter (g : Shape) : Nat → Option Nat → Prop where
  | sib {c q n : Nat} {L R : List Nat} : g.par c = some q → g.kids q = L ++ c :: n :: R → NextAfter g c (some n)
  | up {c q : Nat} {L : List Nat} {r : Option Nat} : g.par c = some q → g.kids q = L ++ [c] → NextAfter g q r →
      NextAfter g c r
  | root {c : Nat} : g.par c = none → NextAfter g c none

theorem UpChain.unique {par : Nat → Option Nat} {c : Nat} {l1 l2 : List Nat} (h1 : UpChain par c l1)
    (h2 : UpChain par c l2) : l1 = l2 := by
  induction h1 generalizing l2 with
  | root hc =>
    cases h2 with
    | root _ => rfl
    | step hc' _ => rw [hc] at hc'; cases hc'
  | step hc _ ih =>
    cases h2 with
    | root hc' => rw [hc] at hc'; cases hc'
    | step hc' h2' => rw [hc] at hc'; cases hc'; rw [ih h2']

theorem Reach.linear {par : Nat → Option Nat} {u x y : Nat} (h1 : Reach par u x) (h2 : Reach par u y) :
    Reach par x y ∨ Reach par y x := by
  induction h1 with
  | refl => exact Or.inl h2
  | @step c q d hc _ ih =>
    cases h2 with
    | refl => exact Or.inr (.step hc (by assumption))
    | step hc' h2' => rw [hc] at hc'; cases hc'; exact ih h2'

namespace Rep
variable {a : Arena} {g : Shape}

theorem nextAfter_exists (r : Rep a g) (c : Nat) (hc : Live a c) : ∃ o, NextAfter g c o := by
  obtain ⟨l, hl, hlen⟩ := r.upChain c hc
  clear hc hlen
  induction hl with
  | root hp => exact ⟨none, .root hp⟩
  | @step c q l hp _ ih =>
    obtain ⟨L, R, hk⟩ := List.append_of_mem (r.parKids c q hp).2
    cases R with
    | nil => obtain ⟨o, ho⟩ := ih; exact ⟨o, .up hp hk ho⟩
    | cons n R' => exact ⟨some n, .sib hp hk⟩

theorem reach_child (r : Rep a g) {u c : Nat} (h : Reach g.par u c) : u = c ∨ ∃ k ∈ g.kids c, Reach g.par u k := by
  induction h with
  | refl => exact Or.inl rfl
  | @step x q d hx _ ih =>
    rcases ih with e | ⟨k, hk, hr⟩
    · subst e; exact Or.inr ⟨x, (r.parKids x q hx).2, .refl _⟩
    · exact Or.inr ⟨k, hk, .step hx hr⟩

theorem reach_of_child (r : Rep a g) {u c k : Nat} (hk : k ∈ g.kids c) (h : Reach g.par u k) : Reach g.par u c :=
  h.trans (.single (r.kidsLive c k hk).2.2)

theorem child_unique (r : Rep a g) {u c k1 k2 : Nat} (h1 : k1 ∈ g.kids c) (h2 : k2 ∈ g.kids c)
    (r1 : Reach g.par u k1) (r2 : Reach g.par u k2) : k1 = k2 := by
  have p1 := (r.kidsLive c k1 h1).2.2
  have p2 := (r.kidsLive c k2 h2).2.2
  rcases Reach.linear r1 r2 with h | h
  · cases h with
    | refl => rfl
    | step hp hr => rw [p1] at hp; cases hp; exact absurd hr (r.acyclic k2 _ p2)
  · cases h with
    | refl => rfl
    | step hp hr => rw [p2] at hp; cases hp; exact absurd hr (r.acyclic k1 _ p1)

theorem kids_induction (r : Rep a g) (P : Nat → Prop) (step : ∀ c, Live a c → (∀ k ∈ g.kids c, P k) → P c) :
    ∀ c, Live a c → P c := by
  have key : ∀ (d : Nat) (c : Nat) (l : List Nat), Live a c → UpChain g.par c l → a.nodes.length - l.length ≤ d → P c := by
    intro d
    induction d with
    | zero =>
      intro c l hc hl hd
      refine step c hc (fun k hk => ?_)
      exfalso
      have hpk := (r.kidsLive c k hk).2.2
      obtain ⟨lk, hlk, hlen⟩ := r.upChain k (r.kidsLive c k hk).2.1
      have := UpChain.unique hlk (.step hpk hl)
      rw [this] at hlen
      simp at hlen
      omega
    | succ d ih =>
      intro c l hc hl hd
      refine step c hc (fun k hk => ?_)
      have hpk := (r.kidsLive c k hk).2.2
      exact ih k (k :: l) (r.kidsLive c k hk).2.1 (.step hpk hl) (by simp; omega)
  intro c hc
  obtain ⟨l, hl, _⟩ := r.upChain c hc
  exact key a.nodes.length c l hc hl (by omega)

end Rep

end Arena
end XotModel

/-! ### The cursor loop

  Stated for an arena that has the tree pointers of a well-formed arena (slots are being freed while the loop runs).
-/

namespace XotModel
namespace Arena

/-- What the loop does with the result of the climb. -/
def climbK (K : Arena → Option NodeId → Step Unit) (b2 : Arena) (r' : Option NodeId) : Step Unit :=
  match r' with
  | none => K b2 none
  | some n => rd b2 n fun s => K b2 s.next

/-- The climb `ancestors().skip(1).find(has next sibling).and_then(next sibling)`. -/
theorem Rep.climb {a b : Arena} {g : Shape} {fl F : List Nat} (r : Rep a g) (m : FreeMany a fl F b)
    (K : Arena → Option NodeId → Step Unit) :
    ∀ (q : Nat) (o : Option Nat), NextAfter g q o → Live a q → ∀ l, UpChain g.par q l → ∀ fuel, l.length < fuel →
      (findAncestorWithNext fuel b (some (a.idAt q))).bind (climbK K) = K b (o.map a.idAt) := by
  intro q o h
  induction h with
  | @sib c q' n L R hp hk =>
    intro hc l hl fuel hf
    obtain ⟨s', hs', P⟩ := m.ptrOk r hc
    have hnext : s'.next = some (a.idAt n) := (P.at (r.kidsNodup q') hp hk).2
    obtain ⟨f, rfl⟩ : ∃ f, fuel = f + 1 := ⟨fuel - 1, by omega⟩
    have hsb : b.slot (a.idAt c).index0 = some s' := hs'
    unfold findAncestorWithNext
    simp only []
    rw [rd_some _ _ _ _ hsb]
    simp only [hnext, Option.isSome_some, if_true, Step.bind_done, climbK]
    rw [rd_some _ _ _ _ hsb, hnext]
    rfl
  | @up c q' L o hp hk _ ih =>
    intro hc l hl fuel hf
    obtain ⟨s', hs', P⟩ := m.ptrOk r hc
    have hnext : s'.next = none := (P.at (r.kidsNodup q') hp hk).2
    have hparent : s'.parent = some (a.idAt q') := by rw [P.parent, hp]; rfl
    obtain ⟨f, rfl⟩ : ∃ f, fuel = f + 1 := ⟨fuel - 1, by omega⟩
    have hsb : b.slot (a.idAt c).index0 = some s' := hs'
    cases hl with
    | root hp' => rw [hp] at hp'; cases hp'
    | @step _ q'' l' hp' hl' =>
      rw [hp] at hp'; cases hp'
      unfold findAncestorWithNext
      simp only []
      rw [rd_some _ _ _ _ hsb]
      simp only [hnext, Option.isSome_none, Bool.false_eq_true, if_false, hparent]
      exact ih (r.live_of_par hp).2 l' hl' f (by simp at hf; omega)
  | @root c hp =>
    intro hc l hl fuel hf
    obtain ⟨s', hs', P⟩ := m.ptrOk r hc
    have hnext : s'.next = none := (P.root hp).2
    have hparent : s'.parent = none := by rw [P.parent, hp]; rfl
    have hsb : b.slot (a.idAt c).index0 = some s' := hs'
    have hlen : l.length = 1 := by
      cases hl with
      | root _ => rfl
      | step hp' _ => rw [hp] at hp'; cases hp'
    obtain ⟨f, rfl⟩ : ∃ f, fuel = f + 2 := ⟨fuel - 2, by omega⟩
    unfold findAncestorWithNext
    simp only []
    rw [rd_some _ _ _ _ hsb]
    simp only [hnext, Option.isSome_none, Bool.false_eq_true, if_false, hparent]
    unfold findAncestorWithNext
    rfl

theorem removeSubtreeLoop_succ (f : Nat) (b : Arena) (id : NodeId) :
    removeSubtreeLoop (f + 1) b (some id) =
      (freeNode b id).bind fun a1 _ =>
        rd a1 id fun node =>
          match node.first.or node.next with
          | some c => removeSubtreeLoop f a1 (some c)
          | none => (findAncestorWithNext a1.fuel a1 node.parent).bind (climbK (removeSubtreeLoop f)) := by
  rw [removeSubtreeLoop]
  rfl

/-- From the cursor `cur` the loop frees the slots `l`, in this order, and arrives at the cursor `o`: on every
    arena that has the tree pointers of `a` and none of `l` freed yet. -/
def Frees (a : Arena) (cur : Option Nat) (l : List Nat) (o : Option Nat) : Prop :=
  ∀ (fl F : List Nat) (b : Arena) (fuel : Nat), FreeMany a fl F b → (∀ u ∈ l, u ∉ F) → l.length ≤ fuel →
    ∃ b', removeSubtreeLoop fuel b (cur.map a.idAt) = removeSubtreeLoop (fuel - l.length) b' (o.map a.idAt) ∧
      FreeMany a fl (F ++ l) b'

theorem Frees.refl (a : Arena) (o : Option Nat) : Frees a o [] o :=
  fun _ _ b _ m _ _ => ⟨b, rfl, by rw [List.append_nil]; exact m⟩

theorem Frees.trans {a : Arena} {cur o1 o : Option Nat} {l1 l2 : List Nat} (h1 : Frees a cur l1 o1)
    (h2 : Frees a o1 l2 o) (hd : ∀ u ∈ l2, u ∉ l1) : Frees a cur (l1 ++ l2) o := by
  intro fl F b fuel m hF hlen
  simp only [List.length_append] at hlen
  obtain ⟨b1, e1, m1⟩ := h1 fl F b fuel m (fun u hu => hF u (List.mem_append_left _ hu)) (by omega)
  obtain ⟨b2, e2, m2⟩ := h2 fl (F ++ l1) b1 (fuel - l1.length) m1 (fun u hu hm => by
    rcases List.mem_append.mp hm with h | h
    · exact hF u (List.mem_append_right _ hu) h
    · exact hd u hu h) (by omega)
  exact ⟨b2, by rw [e1, e2, List.length_append, Nat.sub_add_eq], by rw [← List.append_assoc]; exact m2⟩

/-- One node of the loop: `c` is freed; the cursor goes to its first child, else to the node after it. -/
theorem Rep.frees_node {a : Arena} {g : Shape} (r : Rep a g) {c : Nat} (hc : Live a c) {o : Option Nat}
    (ho : NextAfter g c o) : Frees a (some c) [c] ((g.kids c).head?.or o) := by
  intro fl F b fuel m hF hlen
  have hcF : c ∉ F := hF c (by simp)
  obtain ⟨s, hs, h0⟩ := hc
  obtain ⟨s', hs', hpt, hst⟩ := m.slot_other hcF hs
  obtain ⟨_, hhi⟩ := r.stampRange c s hs
  obtain ⟨hfree, st⟩ := freeStep m.free c s' hs' (by omega) (by omega) (a.idAt c) (by simp)
  have m1 := m.snoc st hcF
  obtain ⟨s1, hs1, P⟩ := m1.ptrOk r ⟨s, hs, h0⟩
  obtain ⟨f, rfl⟩ : ∃ f, fuel = f + 1 := ⟨fuel - 1, by simp at hlen; omega⟩
  refine ⟨free1 b c, ?_, m1⟩
  rw [Option.map_some, removeSubtreeLoop_succ, hfree]
  simp only [Step.bind_done, List.length_singleton, Nat.add_sub_cancel]
  rw [rd_some _ _ _ _ (show (free1 b c).slot (a.idAt c).index0 = some s1 from hs1)]
  cases hk : g.kids c with
  | cons k1 ks =>
    have hfirst : s1.first = some (a.idAt k1) := by rw [P.first, hk]; rfl
    simp only [hfirst, Option.some_or, List.head?_cons, Option.map_some]
  | nil =>
    have hfirst : s1.first = none := by rw [P.first, hk]; rfl
    simp only [hfirst, Option.none_or, List.head?_nil]
    cases ho with
    | @sib _ q n L' R' hp hkq =>
      have hnext : s1.next = some (a.idAt n) := (P.at (r.kidsNodup q) hp hkq).2
      simp only [hnext, Option.map_some]
    | @up _ q L' _ hp hkq hq =>
      have hnext : s1.next = none := (P.at (r.kidsNodup q) hp hkq).2
      have hparent : s1.parent = some (a.idAt q) := by rw [P.parent, hp]; rfl
      simp only [hnext, hparent]
      obtain ⟨lq, hlq, hlqlen⟩ := r.upChain q (r.live_of_par hp).2
      have hfuel : (free1 b c).fuel = a.fuel := by unfold fuel; rw [m1.length]
      exact r.climb m1 (fun b2 o' => removeSubtreeLoop f b2 o') q o hq (r.live_of_par hp).2 lq hlq
        (free1 b c).fuel (by rw [hfuel]; unfold fuel; omega)
    | @root _ hp =>
      have hnext : s1.next = none := (P.root hp).2
      have hparent : s1.parent = none := by rw [P.parent, hp]; rfl
      simp only [hnext, hparent]
      obtain ⟨n, hn⟩ : ∃ n, (free1 b c).fuel = n + 1 := ⟨(free1 b c).nodes.length, rfl⟩
      rw [hn]
      unfold findAncestorWithNext
      rfl

/-- The subtree of `c` as a list, and the loop over it. -/
def SubtreeOk (a : Arena) (g : Shape) (c : Nat) : Prop :=
  ∃ l, l.Nodup ∧ (∀ u, u ∈ l ↔ Reach g.par u c) ∧ ∀ o, NextAfter g c o → Frees a (some c) l o

/-- The loop over the subtrees of a suffix of the children of `c`, then on to the node after `c`. -/
theorem Rep.kidsSeq {a : Arena} {g : Shape} (r : Rep a g) (c : Nat) (hP : ∀ k ∈ g.kids c, SubtreeOk a g k) :
    ∀ (suf pre : List Nat), g.kids c = pre ++ suf →
      ∃ L, L.Nodup ∧ (∀ u, u ∈ L ↔ ∃ k ∈ suf, Reach g.par u k) ∧
        ∀ o, NextAfter g c o → Frees a (suf.head?.or o) L o := by
  intro suf
  induction suf with
  | nil =>
    intro pre _
    exact ⟨[], List.nodup_nil, by simp, fun o _ => Frees.refl a o⟩
  | cons k rest ih =>
    intro pre hk
    have hkmem : k ∈ g.kids c := by rw [hk]; simp
    have hpk := (r.kidsLive c k hkmem).2.2
    obtain ⟨lk, hlknd, hlkmem, hlkloop⟩ := hP k hkmem
    obtain ⟨L', hL'nd, hL'mem, hL'loop⟩ := ih (pre ++ [k]) (by rw [hk]; simp)
    have hnd : (pre ++ k :: rest).Nodup := by rw [← hk]; exact r.kidsNodup c
    have hkrest : k ∉ rest := (List.nodup_cons.mp (List.nodup_append.mp hnd).2.1).1
    have hdisj : ∀ u, u ∈ L' → u ∉ lk := by
      intro u h2 h1
      obtain ⟨k', hk', hr'⟩ := (hL'mem u).mp h2
      have hk'mem : k' ∈ g.kids c := by rw [hk]; exact List.mem_append_right _ (List.mem_cons_of_mem _ hk')
      have := r.child_unique hkmem hk'mem ((hlkmem u).mp h1) hr'
      subst this
      exact hkrest hk'
    refine ⟨lk ++ L', List.nodup_append.mpr ⟨hlknd, hL'nd, fun x hx y hy e => hdisj y hy (e ▸ hx)⟩, ?_, ?_⟩
    · intro u
      simp only [List.mem_append, List.mem_cons]
      constructor
      · rintro (h | h)
        · exact ⟨k, Or.inl rfl, (hlkmem u).mp h⟩
        · obtain ⟨k', hk', hr'⟩ := (hL'mem u).mp h
          exact ⟨k', Or.inr hk', hr'⟩
      · rintro ⟨k', hk' | hk', hr'⟩
        · subst hk'; exact Or.inl ((hlkmem u).mpr hr')
        · exact Or.inr ((hL'mem u).mpr ⟨k', hk', hr'⟩)
    · intro o ho
      -- what follows the subtree of `k`: its next sibling, else what follows `c`
      have hna : NextAfter g k (rest.head?.or o) := by
        cases rest with
        | nil => exact .up hpk hk ho
        | cons k' rest' => exact .sib hpk hk
      exact (hlkloop _ hna).trans (hL'loop o ho) hdisj

theorem Rep.subtreeOk_step {a : Arena} {g : Shape} (r : Rep a g) (c : Nat) (hc : Live a c)
    (hP : ∀ k ∈ g.kids c, SubtreeOk a g k) : SubtreeOk a g c := by
  obtain ⟨L, hLnd, hLmem, hLloop⟩ := r.kidsSeq c hP (g.kids c) [] rfl
  have hcL : c ∉ L := by
    intro hm
    obtain ⟨k, hk, hr⟩ := (hLmem c).mp hm
    exact r.acyclic k c (r.kidsLive c k hk).2.2 hr
  refine ⟨c :: L, List.nodup_cons.mpr ⟨hcL, hLnd⟩, ?_, fun o ho =>
    (r.frees_node hc ho).trans (hLloop o ho) (fun u hu h => hcL (List.mem_singleton.mp h ▸ hu))⟩
  intro u
  simp only [List.mem_cons]
  constructor
  · rintro (e | h)
    · subst e; exact .refl _
    · obtain ⟨k, hk, hr⟩ := (hLmem u).mp h
      exact r.reach_of_child hk hr
  · intro h
    rcases r.reach_child h with e | ⟨k, hk, hr⟩
    · exact Or.inl e
    · exact Or.inr ((hLmem u).mpr ⟨k, hk, hr⟩)

/-- Every live node: the loop started there frees exactly its subtree. -/
theorem Rep.subtreeOk {a : Arena} {g : Shape} (r : Rep a g) (c : Nat) (hc : Live a c) : SubtreeOk a g c :=
  r.kids_induction (SubtreeOk a g) (fun c hc hk => r.subtreeOk_step c hc hk) c hc

end Arena
end XotModel

/-! ### `remove_subtree` assembled -/

namespace XotModel
namespace Arena

/-- What `remove_subtree` guarantees. -/
structure RemoveSubtreeOk (a : Arena) (g : Shape) (i : Nat) (a' : Arena) (l : List Nat) : Prop where
  rep : Rep a' ((g.detach i).prune l)
  nodup : l.Nodup
  mem : ∀ u, u ∈ l ↔ Reach (g.detach i).par u i
  mono : StampMono a a'
  gone : ∀ u, u ∈ l → (a.idAt u).stamp < 32767 → Gone a' (a.idAt u)
  live : ∀ j, Live a' j ↔ (Live a j ∧ j ∉ l)
  payload : ∀ j s v, j ∉ l → a.slot j = some s → s.data = .data v → ∃ s', a'.slot j = some s' ∧ s'.data = .data v

theorem Rep.removeSubtree {a : Arena} {g : Shape} (r : Rep a g) (i : Nat) (hi : Live a i) :
    ∃ a' l, Arena.removeSubtree a (a.idAt i) = .done a' () ∧ RemoveSubtreeOk a g i a' l := by
  obtain ⟨a1, hd, r1, hM⟩ := r.detach_idAt i hi
  have hi1 : Live a1 i := (hM.live i).mpr hi
  obtain ⟨l, hnd, hmem, hloop⟩ := r1.subtreeOk i hi1
  have hroot : (g.detach i).par i = none := Shape.detach_par_self g i
  have hlive : ∀ u, u ∈ l → Live a1 u := by
    intro u hu
    have := (hmem u).mp hu
    cases this with
    | refl => exact hi1
    | step hp _ => exact (r1.live_of_par hp).1
  have hlen : l.length ≤ a1.nodes.length :=
    nodup_bounded _ _ hnd (fun u hu => by obtain ⟨s, hs, _⟩ := hlive u hu; exact lt_of_slot hs)
  obtain ⟨b', e, m⟩ := hloop none (.root hroot) (g.detach i).free [] a1 a1.fuel (FreeMany.refl r1.free)
    (fun u _ h => by cases h) (by unfold fuel; omega)
  simp only [List.nil_append, Option.map_none, Option.map_some] at e m
  have hdone : removeSubtreeLoop (a1.fuel - l.length) b' none = .done b' () := by
    obtain ⟨n, hn⟩ : ∃ n, a1.fuel - l.length = n + 1 := ⟨a1.fuel - l.length - 1, by unfold fuel; omega⟩
    rw [hn]; rfl
  have hcomp : Arena.removeSubtree a (a.idAt i) = .done b' () := by
    unfold Arena.removeSubtree
    rw [hd]
    simp only [Step.bind_done]
    rw [← hM.idAt i, e, hdone]
  have hdown : ∀ c q, (g.detach i).par c = some q → q ∈ l → c ∈ l := fun c q hp hq =>
    (hmem c).mpr (.step hp ((hmem q).mp hq))
  have hup : ∀ c q, (g.detach i).par c = some q → c ∈ l → q ∈ l := fun c q hp hc =>
    (hmem q).mpr (Reach.par_below_root hroot hp ((hmem c).mp hc))
  have rep' := r1.prune l m hlive hdown hup
  refine ⟨b', l, hcomp, rep', hnd, hmem, hM.stampMono.trans (m.stampMono hlive), ?_, ?_, ?_⟩
  rotate_left
  · intro j
    rw [← hM.live j]
    exact m.live hlive j
  · intro j s v hj hs hd
    obtain ⟨s1, hs1, _, hd1⟩ := hM.slot_some hs
    exact m.payload j s1 v hj hs1 (by rw [hd1]; exact hd)
  intro u hu hlt
  obtain ⟨s, hs, h0⟩ := hlive u hu
  obtain ⟨s', nf, hs', e1, _⟩ := m.self u hu s hs
  have est : (a.idAt u).stamp = s.stamp := by rw [← hM.idAt u, idAt_of_slot hs]
  rw [est] at hlt
  refine ⟨s', hs', by rw [est]; exact h0, ?_⟩
  rw [est, e1, if_pos hlt]
  omega

end Arena
end XotModel
