/-
  Lemmas for C12: merging adjacent text nodes changes neither the declarations, nor the
  attributes, nor whether the tree can be serialised (for structurally valid trees, where text
  nodes, attribute nodes and namespace nodes have no children).
-/
import XotModel.Lemmas.FclonePrefixLoop
import XotModel.Lemmas.FcloneMain

namespace XotModel
open HTree

/-! ### `mergeInto` only ever touches the last element of what it has produced -/

theorem snocMerge_append (B C : List Tree) (x : Tree) (hC : C ≠ []) :
    snocMerge (B ++ C) x = B ++ snocMerge C x := by
  obtain ⟨C', y, rfl⟩ : ∃ C' y, C = C' ++ [y] := by
    rcases List.eq_nil_or_concat C with h | ⟨C', y, h⟩
    · exact absurd h hC
    · exact ⟨C', y, by rw [h, List.concat_eq_append]⟩
  unfold snocMerge
  have e1 : (B ++ (C' ++ [y])).getLast? = some y := by rw [← List.append_assoc]; simp
  have e2 : (C' ++ [y]).getLast? = some y := by simp
  have e3 : (B ++ (C' ++ [y])).dropLast = B ++ C' := by rw [← List.append_assoc]; simp
  have e4 : (C' ++ [y]).dropLast = C' := by simp
  rw [e1, e2, e3, e4]
  split
  · simp only [List.append_assoc]
  · simp only [List.append_assoc]

theorem snocMerge_ne_nil (C : List Tree) (x : Tree) : snocMerge C x ≠ [] := by
  unfold snocMerge
  split <;> simp

theorem mergeInto_append : ∀ (Z : List Tree) (B C : List Tree), C ≠ [] →
    mergeInto (B ++ C) Z = B ++ mergeInto C Z
  | [], B, C, _ => by simp [mergeInto]
  | z :: Z, B, C, hC => by
    simp only [mergeInto]
    rw [snocMerge_append B C _ hC]
    exact mergeInto_append Z B _ (snocMerge_ne_nil C _)

theorem mergeInto_prefix (Z : List Tree) (B : List Tree)
    (hB : ∀ B' x, B = B' ++ [x] → x.value.isText = false) :
    mergeInto B Z = B ++ mergeInto [] Z := by
  cases Z with
  | nil => simp [mergeInto]
  | cons z Z =>
    simp only [mergeInto]
    rw [snocMerge_plain B _ (fun A' x h => by rw [hB A' x h]; rfl), snocMerge_nil]
    exact mergeInto_append Z B [_] (by simp)

theorem mergeInto_leaves : ∀ (E : List Tree) (A : List Tree) (Z : List Tree),
    (∀ e ∈ E, e.value.isText = false ∧ e.kids = []) →
    mergeInto A (E ++ Z) = mergeInto (A ++ E) Z
  | [], A, Z, _ => by simp
  | e :: E, A, Z, hE => by
    obtain ⟨h1, h2⟩ := hE e List.mem_cons_self
    have he : mergeAdjacentText e = e := by
      cases e with
      | node v ks =>
        simp only [Tree.kids] at h2
        subst h2
        simp [mergeAdjacentText, mergeInto]
    simp only [List.cons_append, mergeInto]
    rw [he, snocMerge_nontext _ _ h1, mergeInto_leaves E (A ++ [e]) Z (fun x hx => hE x (List.mem_cons_of_mem _ hx))]
    simp

theorem mergeInto_normal : ∀ (Z A : List Tree), (∀ x ∈ A, x.value.isNormal = true) →
    (∀ z ∈ Z, z.value.isNormal = true) → ∀ x ∈ mergeInto A Z, x.value.isNormal = true
  | [], A, hA, _ => by simpa [mergeInto] using hA
  | z :: Z, A, hA, hZ => by
    simp only [mergeInto]
    apply mergeInto_normal Z _ _ (fun y hy => hZ y (List.mem_cons_of_mem _ hy))
    intro x hx
    have hz : (mergeAdjacentText z).value.isNormal = true := by
      cases z with
      | node v ks =>
        have := hZ (Tree.node v ks) List.mem_cons_self
        simpa [mergeAdjacentText, Tree.value] using this
    unfold snocMerge at hx
    split at hx
    · rcases List.mem_append.mp hx with h | h
      · exact hA x ((List.dropLast_sublist A).mem h)
      · simp at h; subst h; rfl
    · rcases List.mem_append.mp hx with h | h
      · exact hA x h
      · simp at h; subst h; exact hz

/-! ### ordered children: entries first, then normal nodes -/

theorem ordered_decomp (K : List HTree)
    (hp : K.Pairwise (fun a b => a.value.category.rank ≤ b.value.category.rank)) :
    ∃ E Z, K = E ++ Z ∧ (∀ k ∈ E, k.value.isNormal = false) ∧ (∀ k ∈ Z, k.value.isNormal = true) := by
  have h := Fmap.sect_of_ordered K ((Fmap.kidsOrdered_iff K).mpr hp)
  refine ⟨_ ++ _, _, h.eq, fun k hk => ?_, fun k hk => by simp [Value.isNormal, h.allNm k hk]⟩
  rcases List.mem_append.mp hk with hk | hk
  · simp [Value.isNormal, h.allNs k hk]
  · simp [Value.isNormal, h.allAt k hk]

/-- What the declarations and attributes of a node look at. -/
theorem nsDecls_congr (v : Value) (E Z Z' : List Tree) (hZ : ∀ z ∈ Z, z.value.isNormal = true)
    (hZ' : ∀ z ∈ Z', z.value.isNormal = true) :
    (Tree.node v (E ++ Z)).nsDecls = (Tree.node v (E ++ Z')).nsDecls ∧
    (Tree.node v (E ++ Z)).attrs = (Tree.node v (E ++ Z')).attrs := by
  have key : ∀ (p : Tree → Bool), (∀ z, z.value.isNormal = true → p z = false) → ∀ (W : List Tree),
      (∀ z ∈ W, z.value.isNormal = true) → ∀ E : List Tree,
      (E ++ W).takeWhile p = E.takeWhile p ∧ ((E ++ W).dropWhile p = E.dropWhile p ++ W ∨
        (E.dropWhile p ≠ [] ∧ (E ++ W).dropWhile p = E.dropWhile p ++ W)) := by
    intro p hp W hW E
    induction E with
    | nil =>
      cases W with
      | nil => simp
      | cons w W => simp [List.takeWhile_cons, List.dropWhile_cons, hp w (hW w List.mem_cons_self)]
    | cons e E ih =>
      simp only [List.cons_append, List.takeWhile_cons, List.dropWhile_cons]
      by_cases he : p e = true
      · simp only [he, if_true]
        exact ⟨by rw [ih.1], by rcases ih.2 with h | h <;> simp [h]⟩
      · simp [he]
  have pn : ∀ z : Tree, z.value.isNormal = true → (z.value.category == Category.namespace) = false := by
    intro z hz
    have : z.value.category = .normal := by simpa [Value.isNormal] using hz
    simp [this]
  have pa : ∀ z : Tree, z.value.isNormal = true → (z.value.category == Category.attribute) = false := by
    intro z hz
    have : z.value.category = .normal := by simpa [Value.isNormal] using hz
    simp [this]
  refine ⟨?_, ?_⟩
  · simp only [Tree.nsDecls, Tree.namespaceNodes, Tree.kids]
    rw [(key _ pn Z hZ E).1, (key _ pn Z' hZ' E).1]
  · simp only [Tree.attrs, Tree.attributeNodes, Tree.kids]
    have d1 : (E ++ Z).dropWhile (fun k => k.value.category == Category.namespace) =
        E.dropWhile (fun k => k.value.category == Category.namespace) ++ Z := by
      rcases (key _ pn Z hZ E).2 with h | h
      · exact h
      · exact h.2
    have d2 : (E ++ Z').dropWhile (fun k => k.value.category == Category.namespace) =
        E.dropWhile (fun k => k.value.category == Category.namespace) ++ Z' := by
      rcases (key _ pn Z' hZ' E).2 with h | h
      · exact h
      · exact h.2
    rw [d1, d2, (key _ pa Z hZ _).1, (key _ pa Z' hZ' _).1]

end XotModel

namespace XotModel
open HTree

theorem mergeAdjacentText_value (t : Tree) : (mergeAdjacentText t).value = t.value := by
  cases t; rfl

theorem entry_leaf (b : Bool) (k : HTree) (hv : validTree b k = true) (hn : k.value.isNormal = false) :
    (erase k).value.isText = false ∧ (erase k).kids = [] := by
  cases k with
  | node h v ks =>
    have hne : v.isElement = false := by
      cases v <;> simp_all [HTree.value, Value.isNormal, Value.category, Value.isElement]
    have hnd : v.isDocument = false := by
      cases v <;> simp_all [HTree.value, Value.isNormal, Value.category, Value.isDocument]
    have : ks = [] := kids_nil_of_valid hv hne hnd
    subst this
    refine ⟨?_, rfl⟩
    cases v <;> simp_all [HTree.value, Value.isNormal, Value.category, Value.isText, erase, Tree.value]

theorem merge_decls_attrs (b : Bool) (h : Nat) (v : Value) (ks : List HTree)
    (hv : validTree b (.node h v ks) = true) :
    (Tree.node v (mergeInto [] (eraseList ks))).nsDecls = (Tree.node v (eraseList ks)).nsDecls ∧
    (Tree.node v (mergeInto [] (eraseList ks))).attrs = (Tree.node v (eraseList ks)).attrs := by
  have hks := validTree_kids b h v ks hv
  have hord : kidsOrdered ks = true := by
    simp only [validTree, Bool.and_eq_true] at hv
    exact hv.1.1.1.1.2
  obtain ⟨E, Z, rfl, hE, hZ⟩ := ordered_decomp ks ((Fmap.kidsOrdered_iff ks).mp hord)
  have hEl : ∀ e ∈ eraseList E, e.value.isText = false ∧ e.kids = [] := by
    intro e he
    rw [eraseList_map] at he
    obtain ⟨k, hk, rfl⟩ := List.mem_map.mp he
    exact entry_leaf b k (validList_all b _ hks k (by simp [hk])) (hE k hk)
  have hZn : ∀ z ∈ eraseList Z, z.value.isNormal = true := by
    intro z hz
    rw [eraseList_map] at hz
    obtain ⟨k, hk, rfl⟩ := List.mem_map.mp hz
    rw [Reach.erase_value]; exact hZ k hk
  have hM : mergeInto [] (eraseList (E ++ Z)) = eraseList E ++ mergeInto [] (eraseList Z) := by
    rw [eraseList_append, mergeInto_leaves (eraseList E) [] (eraseList Z) hEl, List.nil_append]
    apply mergeInto_prefix
    intro B' x hB
    exact (hEl x (by rw [hB]; simp)).1
  rw [hM, eraseList_append]
  have hMn := mergeInto_normal (eraseList Z) [] (by simp) hZn
  exact nsDecls_congr v (eraseList E) _ _ hMn hZn

mutual
  theorem writable_merge (env : Env) (b : Bool) : ∀ (t : HTree), validTree b t = true → ∀ s : FStack,
      writableTree env s (mergeAdjacentText (erase t)) = writableTree env s (erase t)
    | .node h v ks => by
      intro hv s
      have hks := validTree_kids b h v ks hv
      have hl := writableList_merge env b ks hks
      obtain ⟨hd, ha⟩ := merge_decls_attrs b h v ks hv
      simp only [erase, mergeAdjacentText]
      cases v with
      | element name =>
        simp only [writableTree]
        rw [hd, ha, hl _ []]
        simp [writableList]
      | _ => simp only [writableTree]; rw [hl s []]; simp [writableList]
  theorem writableList_merge (env : Env) (b : Bool) : ∀ (ks : List HTree), validList b ks = true →
      ∀ (s : FStack) (A : List Tree),
      writableList env s (mergeInto A (eraseList ks)) =
        (writableList env s A && writableList env s (eraseList ks))
    | [] => by intro _ s A; simp [eraseList, mergeInto, writableList]
    | k :: ks => by
      intro hv s A
      obtain ⟨h1, h2⟩ := fc_validList_cons b k ks hv
      simp only [eraseList, mergeInto, writableList]
      rw [writableList_merge env b ks h2 s _]
      have step : writableList env s (snocMerge A (mergeAdjacentText (erase k))) =
          (writableList env s A && writableTree env s (erase k)) := by
        by_cases ht : k.value.isText = true
        · -- a valid text node has no children and is its own merge
          cases k with
          | node hk vk kk =>
            cases vk with
            | text x =>
              have : kk = [] := kids_nil_of_valid h1 rfl rfl
              subst this
              have e : mergeAdjacentText (erase (.node hk (.text x) [])) = Tree.node (.text x) [] := by
                simp [erase, eraseList, mergeAdjacentText, mergeInto]
              rw [e]
              have wx : writableTree env s (erase (.node hk (.text x) [])) = true := by
                simp [erase, eraseList, writableTree, writableList]
              rw [wx, Bool.and_true]
              rcases List.eq_nil_or_concat A with rfl | ⟨A', y, rfl⟩
              · simp [snocMerge_nil, writableList, writableTree]
              · rw [List.concat_eq_append]
                cases y with
                | node vy ky =>
                  by_cases hy : vy.isText = true
                  · cases vy with
                    | text ps =>
                      rw [snocMerge_merge]
                      simp [writableList_append, writableList, writableTree]
                    | _ => simp [Value.isText] at hy
                  · rw [snocMerge_last_nontext _ _ _ (by simpa [Tree.value] using hy)]
                    have : A' ++ [Tree.node vy ky, Tree.node (.text x) []] =
                        (A' ++ [Tree.node vy ky]) ++ [Tree.node (.text x) []] := by simp
                    rw [this, writableList_append]
                    simp [writableList, writableTree]
            | _ => simp [HTree.value, Value.isText] at ht
        · have hnt : (mergeAdjacentText (erase k)).value.isText = false := by
            rw [mergeAdjacentText_value, Reach.erase_value]; simpa using ht
          rw [snocMerge_nontext _ _ hnt, writableList_append]
          simp only [writableList, Bool.and_true]
          rw [writable_merge env b k h1 s]
      rw [step, Bool.and_assoc]
end

/-- The children of the expected clone, as far as serialising is concerned, are the source's. -/
theorem expectedClone_serial (env : Env) (b cons : Bool) (h : Nat) (v : Value) (ks : List HTree)
    (hv : validTree b (.node h v ks) = true) :
    ∃ L, expectedClone cons (erase (.node h v ks)) = Tree.node v L ∧
      (Tree.node v L).nsDecls = (Tree.node v (eraseList ks)).nsDecls ∧
      (Tree.node v L).attrs = (Tree.node v (eraseList ks)).attrs ∧
      ∀ s, writableList env s L = writableList env s (eraseList ks) := by
  cases cons with
  | false => exact ⟨eraseList ks, rfl, rfl, rfl, fun _ => rfl⟩
  | true =>
    refine ⟨mergeInto [] (eraseList ks), rfl, (merge_decls_attrs b h v ks hv).1,
      (merge_decls_attrs b h v ks hv).2, ?_⟩
    intro s
    rw [writableList_merge env b ks (validTree_kids b h v ks hv) s []]
    simp [writableList]

end XotModel
