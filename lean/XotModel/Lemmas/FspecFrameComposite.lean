/-
  The frame of `detach`, `element_unwrap` and `element_wrap` for EVERY forest with the
  invariant (no `Forest.Normal`): a node whose parent is not a touched node keeps its parent, its value and
  the handles of its left and right siblings (`HTree.Ctx.shape`).  From the pair readings (`detach_pair`,
  `unwrap_pair`, `wrap_spec_kid` / `wrap_spec_root`) and the one-edit frame `SiteAt.nodeFrame`: the untouched
  nodes themselves keep value and children (`specUnwrapP_nodeFrame`), their children keep their place.
-/
import XotModel.Lemmas.FspecPairFrame
import XotModel.Lemmas.FspecPairUnwrap
import XotModel.Lemmas.FspecWrap
import XotModel.Lemmas.FmapForest

namespace XotModel
open HTree Spec PairAll

/-! ### detach -/

theorem ctx_insertLast_root {Z : Forest} {x : Nat} {cx : Ctx} (t : HTree) (h : Z.ctx? x = some cx) :
    (Z.editAt none (insertLast t)).ctx? x = some cx := by
  show (Z.roots ++ [t]).findSome? (ctxBelow x) = some cx
  rw [List.findSome?_append]
  have : Z.roots.findSome? (ctxBelow x) = some cx := h
  rw [this]; rfl

theorem specDetachP_eq {f : Forest} {n : Nat} {t : HTree} (nd : f.allHandles.Nodup) (hg : f.get? n = some t) :
    specDetachP n f = (specRemoveP n f).editAt none (insertLast t) := by
  unfold specDetachP
  rw [hg]
  simp only
  cases hpar : f.parent? n with
  | none => rw [specRemoveP_root hpar]; rfl
  | some p =>
    have hpt : p ∉ handles t := parent_not_mem_subtree nd hg hpar
    rw [specRemoveP_kid hpar, mergeLeftAt_eq_pairOpt]
    simp only [Forest.editAt_consolidation]
    rw [← Forest.editAt_editAt]
    simp only [Forest.editAt, insertLast, List.map_append, List.map_cons, List.map_nil, editAt_of_not_mem t hpt]

/-- **Frame of detach, pair reading**: every forest with the invariant. -/
theorem frame_specDetachP {f : Forest} {n : Nat} {t : HTree} (inv : f.Inv)
    (hg : f.get? n = some t) {x : Nat} {cx : Ctx} (hx : f.ctx? x = some cx)
    (h1 : some cx.parent ≠ f.parent? n) (h3 : cx.parent ∉ handles t) (h4 : x ∉ handles t) :
    ∃ cx', (specDetachP n f).ctx? x = some cx' ∧ cx'.shape = cx.shape := by
  obtain ⟨cx', h', hs'⟩ := frame_specRemoveP inv hg hx h1 h3 h4
  rw [specDetachP_eq inv.nodup hg]
  exact ⟨cx', ctx_insertLast_root t h', hs'⟩

theorem detach_frame_all {f : Forest} {n : Nat} {t : HTree} (inv : f.Inv)
    (hg : f.get? n = some t) {x : Nat} {cx : Ctx} (hx : f.ctx? x = some cx)
    (h1 : some cx.parent ≠ f.parent? n) (h3 : cx.parent ∉ handles t) (h4 : x ∉ handles t) :
    ∃ cx', (f.detach n).1.ctx? x = some cx' ∧ cx'.shape = cx.shape := by
  rw [detach_pair inv (Forest.isLive_of_get? hg)]
  exact frame_specDetachP inv hg hx h1 h3 h4

/-! ### element_unwrap -/

theorem leaf_of_not_normal {f : Forest} {c : Nat} {t : HTree} {b : Bool} (hv : validList b f.roots = true)
    (hg : f.get? c = some t) (ht : t.value.isNormal = false) : t.kids = [] :=
  abn_leaf (findList?_valid _ _ f.roots t hv hg) ht

/-- `specUnwrapP` of a node with a parent is ONE edit of the parent's child list. -/
theorem specUnwrapP_kid {f : Forest} {n p : Nat} (h : f.parent? n = some p) :
    specUnwrapP n f = f.editAt (some p)
      (pairOpt f.consolidation (f.nbOf n) ∘
       pairOpt f.consolidation ((((f.kidsOf n).filter (fun k => k.value.isNormal)).getLast?.map (·.handle)), (f.nbOf n).2) ∘
       pairOpt f.consolidation ((f.nbOf n).1, (((f.kidsOf n).filter (fun k => k.value.isNormal)).head?.map (·.handle))) ∘
       replaceTop n (fun w => w.kids.filter (fun k => k.value.isNormal))) := by
  unfold specUnwrapP
  rw [h]
  simp only
  rw [mergeLeftAt_eq_pairOpt, mergeLeftAt_eq_pairOpt, mergeLeftAt_eq_pairOpt]
  simp only [Forest.editAt_consolidation]
  rw [Forest.editAt_editAt, Forest.editAt_editAt, Forest.editAt_editAt]
  rfl

/-- **Unwrap, pair reading**: the wrapper `n` has the parent `p`.  The handles stay distinct, and every node
    that is neither `p` nor `n`, not a text child of either and not an attribute or namespace node of `n` (these
    disappear) is left alone - in particular everything deeper inside `n`. -/
theorem specUnwrapP_nodeFrame {f : Forest} {n p : Nat} (inv : f.Inv) (hp : f.parent? n = some p) :
    (specUnwrapP n f).allHandles.Nodup ∧
    ∀ {z : Nat}, z ≠ p → z ≠ n → TextFree f z (some p) → TextFree f z (some n) →
      (∀ v L, f.get? n = some (.node n v L) → ∀ k ∈ L, k.value.isNormal = false → k.handle ≠ z) →
      NodeFrame f (specUnwrapP n f) z := by
  have nd := inv.nodup
  cases hctx : f.ctx? n with
  | none => rw [Forest.parent?_of_no_ctx hctx] at hp; cases hp
  | some cc =>
    obtain ⟨e0, vo, so⟩ := SiteAt.of_ctx nd hctx
    obtain ⟨po', l, W, r⟩ := cc
    simp only at e0 so
    subst e0
    have hpo' : po' = p := by
      rw [Forest.parent?_of_ctx? hctx] at hp
      exact Option.some.inj hp
    subst hpo'
    obtain ⟨ndL, _⟩ := so.nodupKids
    obtain ⟨tl, tr⟩ := tops_ne_of_nodup ndL
    have hgW : f.get? W.handle = some W := so.getKid
    rw [specUnwrapP_kid hp]
    have hrep : replaceTop W.handle (fun w => w.kids.filter (fun k => k.value.isNormal)) (l ++ W :: r) =
        l ++ W.kids.filter (fun k => k.value.isNormal) ++ r := replaceTop_mid rfl tl
    constructor
    · refine (so.edit _ ?_).nd
      simp only [Function.comp]
      rw [hrep]
      refine (pairOpt_sublist _ _ _).trans ((pairOpt_sublist _ _ _).trans ((pairOpt_sublist _ _ _).trans ?_))
      -- the normal children of the wrapper are among its handles
      rw [handlesList_append, handlesList_append, handlesList_append, handlesList_cons, List.append_assoc]
      refine (List.Sublist.refl _).append (List.Sublist.append ?_ (List.Sublist.refl _))
      cases W with
      | node wh wv wks =>
        rw [handles_node]
        exact (Fmap.handlesList_filter_sublist _ wks).trans (List.sublist_cons_self _ _)
    · intro z h1 h2 hTp hTn hAb
      have hLZ := leafZ_of_textFree so inv.valid hTp
      -- the children of the wrapper
      have hWkids : LeafZ z W.kids ∧ (∀ k ∈ W.kids, k.value.isNormal = false → find? z k = none) := by
        cases W with
        | node wh wv wks =>
          have sW : SiteAt f wh wv wks := ⟨nd, hgW⟩
          refine ⟨leafZ_of_textFree sW inv.valid hTn, ?_⟩
          intro k hk hkn
          obtain ⟨A, B, hAB⟩ := List.append_of_mem hk
          have sW' : SiteAt f wh wv (A ++ k :: B) := hAB ▸ sW
          exact find?_leaf (leaf_of_not_normal inv.valid sW'.getKid hkn) (hAb wv wks hgW k hk hkn)
      obtain ⟨hLZW, hWabn⟩ := hWkids
      have hLZ1 : LeafZ z (l ++ W.kids.filter (fun k => k.value.isNormal) ++ r) := by
        intro k hk hkt
        rcases List.mem_append.1 hk with hk' | hk'
        · rcases List.mem_append.1 hk' with hk'' | hk''
          · exact hLZ k (List.mem_append_left _ hk'') hkt
          · exact hLZW k (List.mem_filter.1 hk'').1 hkt
        · exact hLZ k (List.mem_append_right _ (List.mem_cons_of_mem _ hk')) hkt
      apply so.nodeFrame _ h1
      simp only [Function.comp]
      rw [hrep]
      rw [((((TextMerge.of_pairOpt _ _ _).trans (TextMerge.of_pairOpt _ _ _)).trans
        (TextMerge.of_pairOpt _ _ _)).leafZ hLZ1).2]
      rw [Fmap.findList?_append, Fmap.findList?_append, Fmap.findList?_append, findList?_cons,
        Fmap.findList?_filter z _ W.kids hWabn]
      cases W with
      | node wh wv wks =>
        simp only [HTree.handle] at h2
        rw [find?_node, if_neg (fun e => h2 e.symm)]
        simp only [HTree.kids]
        cases findList? z l <;> rfl

/-- **Frame of unwrap, pair reading**: a node whose parent is neither `p` (the siblings of `n`) nor `n` (its
    children: the normal ones move up, the others disappear) keeps parent, value and siblings. -/
theorem frame_specUnwrapP {f : Forest} {n p : Nat} (inv : f.Inv) (hp : f.parent? n = some p)
    {x : Nat} {cx : Ctx} (hx : f.ctx? x = some cx) (h1 : cx.parent ≠ p) (h2 : cx.parent ≠ n) :
    ∃ cx', (specUnwrapP n f).ctx? x = some cx' ∧ cx'.shape = cx.shape := by
  obtain ⟨nd', fr⟩ := specUnwrapP_nodeFrame inv hp
  refine (fr h1 h2 (textFree_of_ctx inv hx _) (textFree_of_ctx inv hx _) ?_).ctxShape inv.nodup nd' hx
  -- an attribute or namespace node is a leaf, the parent of `x` is not
  intro v L hg k hk hkn
  have sW : SiteAt f n v L := ⟨inv.nodup, hg⟩
  obtain ⟨A, B, hAB⟩ := List.append_of_mem hk
  have sW' : SiteAt f n v (A ++ k :: B) := hAB ▸ sW
  exact not_text_leaf_of_parent inv.nodup hx sW'.getKid (leaf_of_not_normal inv.valid sW'.getKid hkn)

/-- A parentless element that `element_unwrap` accepts has no normal child: the call is `remove`. -/
theorem elementUnwrap_parentless {f : Forest} {n : Nat} (hok : (f.elementUnwrap n).2 = .ok)
    (hp : f.parent? n = none) : f.elementUnwrap n = f.remove n := by
  rcases Forest.elementUnwrap_shape f n with ⟨_, e⟩ | ⟨_, _, ⟨_, e⟩ | ⟨first, _, hpn, _⟩⟩
  · rw [e] at hok; cases hok
  · exact e
  · rw [hp] at hpn; cases hpn

theorem unwrap_frame_all {f : Forest} {n p : Nat} (inv : f.Inv) (hok : (f.elementUnwrap n).2 = .ok)
    (hp : f.parent? n = some p) {x : Nat} {cx : Ctx} (hx : f.ctx? x = some cx)
    (h1 : cx.parent ≠ p) (h2 : cx.parent ≠ n) :
    ∃ cx', (f.elementUnwrap n).1.ctx? x = some cx' ∧ cx'.shape = cx.shape := by
  rw [unwrap_pair inv hok]
  exact frame_specUnwrapP inv hp hx h1 h2

/-! ### element_wrap -/

/-- **Wrap** (`specWrap` merges nothing, it is its own pair reading): the handles stay distinct, and every node
    other than the parent of `n` is left alone - everything inside `n` included, which only moves below the new
    element. -/
theorem specWrap_nodeFrame {f : Forest} {n : Nat} (name : Nat) {t : HTree} (inv : f.Inv) (hg : f.get? n = some t) :
    (specWrap n name f).allHandles.Nodup ∧
    ∀ {z : Nat}, some z ≠ f.parent? n → NodeFrame f (specWrap n name f) z := by
  have nd := inv.nodup
  -- the new handle is not in use
  have hnew : ∀ z, f.next = z → f.allHandles.count z = 0 := fun z hz =>
    List.count_eq_zero.2 (fun hm => Nat.lt_irrefl _ (hz ▸ inv.below _ hm))
  have hzlt : ∀ {z : Nat} {u : HTree}, f.get? z = some u → z ≠ f.next := fun hu e =>
    Nat.lt_irrefl _ (e ▸ inv.below _ (mem_of_findList?_some hu))
  rcases Forest.root_or_ctx hg with hroot | ⟨c, hctx⟩
  · -- parentless: the tree moves to the end of the list, inside the wrapper
    have hno : f.ctx? n = none := Forest.ctx_none_of_root nd hroot
    rw [specWrap_root hg (Forest.parent?_of_no_ctx hno)]
    have hcount := count_dropTop_root nd hg hroot
    constructor
    · show (handlesList (dropTop n f.roots ++ [HTree.node f.next (.element name) [t]])).Nodup
      rw [List.nodup_iff_count]
      intro z
      have c1 := hcount z
      have c5 := (List.nodup_iff_count.1 nd) z
      have c6 : (handlesList (dropTop n f.roots ++ [HTree.node f.next (.element name) [t]])).count z =
          (handlesList (dropTop n f.roots)).count z + (handles t).count z + (if f.next = z then 1 else 0) := by
        simp only [handlesList_append, handlesList_cons, handlesList_nil, handles_node, List.count_append,
          List.count_cons, List.append_nil, beq_iff_eq]
        omega
      by_cases hz : f.next = z
      · have := hnew z hz
        rw [c6, if_pos hz]; omega
      · rw [c6, if_neg hz]; omega
    · intro z _ u hu
      refine ⟨u, ?_, rfl⟩
      show findList? z (dropTop n f.roots ++ [HTree.node f.next (.element name) [t]]) = some u
      rw [Fmap.findList?_append]
      by_cases hzt : z ∈ handles t
      · -- `z` is only inside `t`
        have hz0 : z ∉ handlesList (dropTop n f.roots) := by
          intro hm
          have c1 := hcount z
          have c5 := (List.nodup_iff_count.1 nd) z
          have := List.count_pos_iff.2 hm
          have := List.count_pos_iff.2 hzt
          omega
        rw [findList?_none_of_not_mem _ _ hz0, findList?_cons, find?_node, if_neg (fun e => hzlt hu e.symm), findList?_cons,
          findList?_nil, ← findList?_inside f.roots t nd hg hzt]
        have : findList? z f.roots = some u := hu
        rw [this]; rfl
      · rw [findList?_dropTop f.roots (by
          intro k hk hkn
          rw [root_is nd hg k hk hkn]; exact hzt)]
        have : findList? z f.roots = some u := hu
        rw [this]; rfl
  · obtain ⟨e0, v, so⟩ := SiteAt.of_ctx nd hctx
    obtain ⟨p, l, k, r⟩ := c
    simp only at e0 so
    subst e0
    have hpar : f.parent? k.handle = some p := Forest.parent?_of_ctx? hctx
    rw [specWrap_kid hg hpar]
    obtain ⟨ndL, _⟩ := so.nodupKids
    obtain ⟨tl, tr⟩ := tops_ne_of_nodup ndL
    have hrep : replaceTop k.handle (fun k' => [HTree.node f.next (.element name) [k']]) (l ++ k :: r) =
        l ++ [HTree.node f.next (.element name) [k]] ++ r := replaceTop_mid rfl tl
    constructor
    · apply so.nodup_of_count
      intro z
      rw [hrep]
      have c5 := (List.nodup_iff_count.1 nd) z
      have c6 : (handlesList (l ++ [HTree.node f.next (.element name) [k]] ++ r)).count z =
          (handlesList (l ++ k :: r)).count z + (if f.next = z then 1 else 0) := by
        simp only [handlesList_append, handlesList_cons, handlesList_nil, handles_node, List.count_append,
          List.count_cons, List.append_nil, beq_iff_eq]
        omega
      by_cases hz : f.next = z
      · have := hnew z hz
        rw [c6, if_pos hz]; omega
      · rw [c6, if_neg hz]; omega
    · intro z h1 u hu
      have hne : z ≠ p := fun e => h1 (by rw [e, hpar])
      refine so.nodeFrame (replaceTop k.handle (fun k' => [HTree.node f.next (.element name) [k']])) hne ?_ u hu
      rw [hrep, Fmap.findList?_append, Fmap.findList?_append, Fmap.findList?_append, findList?_cons, findList?_cons, find?_node,
        if_neg (fun e => hzlt hu e.symm), findList?_cons, findList?_nil]
      cases findList? z l <;> cases find? z k <;> rfl

/-- **Frame of wrap**: every node with a parent other than the parent of `n` keeps parent, value and siblings -
    everything inside `n` included; when `n` is parentless, every node that has a parent does. -/
theorem frame_specWrap {f : Forest} {n : Nat} (name : Nat) {t : HTree} (inv : f.Inv) (hg : f.get? n = some t)
    {x : Nat} {cx : Ctx} (hx : f.ctx? x = some cx) (h1 : some cx.parent ≠ f.parent? n) :
    ∃ cx', (specWrap n name f).ctx? x = some cx' ∧ cx'.shape = cx.shape := by
  obtain ⟨nd', fr⟩ := specWrap_nodeFrame name inv hg
  exact (fr h1).ctxShape inv.nodup nd' hx

theorem wrap_frame_all {f : Forest} {n name : Nat} {t : HTree} (inv : f.Inv)
    (hok : (f.elementWrap n name).2.1 = .ok) (hg : f.get? n = some t)
    {x : Nat} {cx : Ctx} (hx : f.ctx? x = some cx) (h1 : some cx.parent ≠ f.parent? n) :
    ∃ cx', (f.elementWrap n name).1.ctx? x = some cx' ∧ cx'.shape = cx.shape := by
  have e : (f.elementWrap n name).1 = specWrap n name f := by
    cases hpar : f.parent? n with
    | none => exact (wrap_spec_root inv hpar hok).1
    | some p => exact (wrap_spec_kid inv hpar hok).1
  rw [e]
  exact frame_specWrap name inv hg hx h1

end XotModel
