/-
  Lookups (`find?`), handle lists and the two rewriting traversals (`mapAt`, `replaceKids`) on
  handle-labelled trees: what `find?` returns has distinct handles and is valid if the tree is
  (`find?_nodup`, an instance of `find?_closed` in Lemmas/HTreeCore; `validTree_find?`).  With distinct handles, replacing the children of a node
  strictly below `e` is a rewrite of `e`'s child list (`atKids`, `replaceKids_inside`).
-/
import XotModel.Lemmas.HTreeBasic
import XotModel.Model.FmapSpec

/-! ## Lookups and the two rewriting traversals

Distinctness of handles in found subtrees is an instance of `find?_closed`. -/

namespace XotModel
namespace Fmap
open HTree

/-! ### `find?` -/

theorem nodup_kid {p k : HTree} (hp : (handles p).Nodup) (hk : k ∈ p.kids) : (handles k).Nodup :=
  (handles_kid_sublist hk).nodup hp

theorem find?_nodup (h : Nat) : ∀ (t s : HTree), (handles t).Nodup → find? h t = some s →
    (handles s).Nodup :=
  fun t s => find?_closed (P := fun s => (handles s).Nodup) (fun _ _ => nodup_kid) h t s

theorem findList?_nodup (h : Nat) : ∀ (ks : List HTree) (s : HTree), (handlesList ks).Nodup →
    findList? h ks = some s → (handles s).Nodup :=
  fun ks s hnd => findList?_closed (P := fun s => (handles s).Nodup) (fun _ _ => nodup_kid) h ks s
    (fun _ hk => (handles_sublist_of_mem hk).nodup hnd)

theorem not_mem_of_findList?_none (h : Nat) : ∀ ks : List HTree, findList? h ks = none →
    h ∉ handlesList ks :=
  fun ks => (findList?_none_iff h ks).1

theorem validTree_find? (b : Bool) (e : Nat) : ∀ (k t : HTree), validTree b k = true →
    find? e k = some t → validTree b t = true :=
  find?_valid b e

/-! ### `mapAt` / `replaceKids` away from the handle -/

theorem mapAtList_around (e : Nat) (g : HTree → HTree) (l r : List HTree) (k : HTree)
    (hl : e ∉ handlesList l) (hr : e ∉ handlesList r) :
    mapAtList e g (l ++ k :: r) = l ++ mapAt e g k :: r := by
  rw [mapAtList_append, mapAtList_of_not_mem e g l hl]
  simp only [mapAtList]
  rw [mapAtList_of_not_mem e g r hr]

/-! ### The place of a found node -/

/-- Where the node `t` with handle `e` sits in a list of trees with distinct handles: in one of the
    trees, at its root or below, and `e` occurs in no tree passed on the way. -/
inductive At (e : Nat) (t : HTree) : List HTree → Prop where
  | top {l r : List HTree} : t.handle = e → e ∉ handlesList l → e ∉ handlesList r →
      At e t (l ++ t :: r)
  | under {l r cs : List HTree} {h : Nat} {v : Value} : h ≠ e → e ∉ handlesList l →
      e ∉ handlesList r → At e t cs → At e t (l ++ .node h v cs :: r)

/-- With distinct handles, what `findList?` finds is `At` its place: the frames of its location are the
    `under` steps. -/
theorem At.of_find (e : Nat) : ∀ (ks : List HTree) (t : HTree), (handlesList ks).Nodup →
    findList? e ks = some t → At e t ks := by
  intro ks t nd hf
  obtain ⟨path, l, r, lc⟩ := Loc.of_findList? nd hf
  obtain ⟨hp, hl, _, hr⟩ := lc.fresh nd
  have hk := lc.hk
  rw [lc.eq]
  clear lc
  induction path with
  | nil => exact .top hk hl hr
  | cons fr rest ih =>
    obtain ⟨h1, h2, h3, h4⟩ := not_mem_pathHandles_cons hp
    exact .under h2 h1 h4 (ih h3)

theorem replaceKids_around (c : Nat) (fn : HTree → List HTree) (l r : List HTree) (k : HTree)
    (hl : c ∉ handlesList l) (hr : c ∉ handlesList r) (hk : k.handle ≠ c) :
    replaceKids c fn (l ++ k :: r) = l ++ replaceBelow c fn k :: r := by
  induction l with
  | nil => simp only [List.nil_append, replaceKids, if_neg hk, fc_replaceKids_of_not_mem c fn r hr]
  | cons x l ih =>
    simp only [handlesList, List.mem_append, not_or] at hl
    have h3 : x.handle ≠ c := fun hh => hl.1 (hh ▸ handle_mem_handles x)
    have h4 : c ∉ handlesList x.kids :=
      fun hx => hl.1 (by rw [handles_eq]; exact List.mem_cons_of_mem _ hx)
    simp only [List.cons_append, replaceKids, if_neg h3, replaceBelow_id c fn x h4, ih hl.2]

end Fmap
end XotModel

/-! ## Locality

`atKids F` rewrites the child list of a node (`HTree.editAt e g` is `mapAt e (atKids g)`); with distinct handles,
replacing a node `c` strictly below `e` (`replaceKids c fn`) is a rewrite of `e`'s child list in place. -/

namespace XotModel
namespace Fmap
open HTree

def atKids (F : List HTree → List HTree) (n : HTree) : HTree := n.setKids (F n.kids)

@[simp] theorem atKids_handle (F : List HTree → List HTree) (n : HTree) :
    (atKids F n).handle = n.handle := by
  cases n; rfl

@[simp] theorem atKids_value (F : List HTree → List HTree) (n : HTree) :
    (atKids F n).value = n.value := by
  cases n; rfl

@[simp] theorem atKids_kids (F : List HTree → List HTree) (n : HTree) :
    (atKids F n).kids = F n.kids := by
  cases n; rfl

theorem atKids_node (F : List HTree → List HTree) (h : Nat) (v : Value) (ks : List HTree) :
    atKids F (.node h v ks) = .node h v (F ks) := rfl

theorem replaceKids_inside (e c : Nat) (fn : HTree → List HTree) : ∀ (ks : List HTree) (t : HTree),
      (handlesList ks).Nodup → findList? e ks = some t → c ∈ handlesList t.kids →
      replaceKids c fn ks = mapAtList e (atKids (replaceKids c fn)) ks := by
  intro ks t hnd hf hc
  -- both sides evaluated at the location of `c`, which is the location of `e` continued inside `t`
  obtain ⟨path, l, r, lc⟩ := Loc.of_findList? hnd hf
  obtain ⟨p2, l2, k2, r2, lk⟩ := Loc.exists_of_mem hc
  have ndt : (handlesList t.kids).Nodup := by
    have := (findList?_sublist e ks t hf).nodup hnd
    rw [handles_eq] at this
    exact (List.nodup_cons.mp this).2
  rw [(lc.comp lk).replaceKids_eq hnd, lc.mapAtList_eq hnd, ← node_eta t, atKids_node,
    lk.replaceKids_eq ndt, plug_append]
  simp [plug, lc.hk, HTree.value]

/-! ### Handle lists under a rewrite of one node -/

theorem handlesList_mapAtList_split (e : Nat) (g : HTree → HTree) : ∀ (ks : List HTree) (t : HTree),
    (handlesList ks).Nodup → findList? e ks = some t →
    ∃ pre post, handlesList ks = pre ++ handles t ++ post ∧
      handlesList (mapAtList e g ks) = pre ++ handles (g t) ++ post := by
  intro ks t hnd hf
  have a := At.of_find e ks t hnd hf
  clear hnd hf
  induction a with
  | @top l r he hl hr =>
    refine ⟨handlesList l, handlesList r, ?_, ?_⟩
    · rw [handlesList_append]; simp only [handlesList, List.append_assoc]
    · rw [mapAtList_around e g l r t hl hr, mapAt_of_handle g he, handlesList_append]
      simp only [handlesList, List.append_assoc]
  | @under l r cs h v hne hl hr _ ih =>
    obtain ⟨pre, post, h1, h2⟩ := ih
    refine ⟨handlesList l ++ h :: pre, post ++ handlesList r, ?_, ?_⟩
    · rw [handlesList_append]
      simp only [handlesList, handles, h1, List.append_assoc, List.cons_append]
    · rw [mapAtList_around e g l r _ hl hr, handlesList_append]
      simp only [mapAt, if_neg hne, handlesList, handles, h2, List.append_assoc, List.cons_append]

theorem handles_mapAt_split (e : Nat) (g : HTree → HTree) : ∀ (k t : HTree), (handles k).Nodup →
    find? e k = some t →
    ∃ pre post, handles k = pre ++ handles t ++ post ∧
      handles (mapAt e g k) = pre ++ handles (g t) ++ post := by
  intro k t hnd hf
  have := handlesList_mapAtList_split e g [k] t (by simpa [handlesList] using hnd)
    (by simp only [findList?, hf])
  simpa [handlesList, mapAtList] using this

theorem nodup_mapAtList (e : Nat) (g : HTree → HTree) (ks : List HTree) (t : HTree)
    (hnd : (handlesList ks).Nodup) (hf : findList? e ks = some t)
    (hg : (handles (g t)).Nodup)
    (hnew : ∀ x ∈ handles (g t), x ∈ handles t ∨ x ∉ handlesList ks) :
    (handlesList (mapAtList e g ks)).Nodup := by
  obtain ⟨pre, post, h1, h2⟩ := handlesList_mapAtList_split e g ks t hnd hf
  rw [h2]
  rw [h1] at hnd
  have ha := List.nodup_append.mp hnd
  have hb := List.nodup_append.mp ha.1
  have hout : ∀ x ∈ handles (g t), x ∉ pre ∧ x ∉ post := by
    intro x hx
    rcases hnew x hx with hin | hout
    · exact ⟨fun hp => hb.2.2 _ hp _ hin rfl,
        fun hp => ha.2.2 _ (List.mem_append_right _ hin) _ hp rfl⟩
    · rw [h1] at hout
      simp only [List.mem_append, not_or] at hout
      exact ⟨hout.1.1, hout.2⟩
  apply List.nodup_append.mpr
  refine ⟨List.nodup_append.mpr ⟨hb.1, hg, ?_⟩, ha.2.1, ?_⟩
  · intro a ha1 b hb1 hab
    subst hab
    exact (hout _ hb1).1 ha1
  · intro a ha1 b hb1 hab
    subst hab
    rcases List.mem_append.mp ha1 with hp | hp
    · exact ha.2.2 _ (List.mem_append_left _ hp) _ hb1 rfl
    · exact (hout _ hp).2 hb1

theorem mem_handlesList_mapAtList (e : Nat) (g : HTree → HTree) (ks : List HTree) (t : HTree)
    (hnd : (handlesList ks).Nodup) (hf : findList? e ks = some t) (x : Nat)
    (hx : x ∈ handlesList (mapAtList e g ks)) : x ∈ handlesList ks ∨ x ∈ handles (g t) := by
  obtain ⟨pre, post, h1, h2⟩ := handlesList_mapAtList_split e g ks t hnd hf
  rw [h2] at hx
  rw [h1]
  simp only [List.mem_append] at hx ⊢
  rcases hx with (hx | hx) | hx
  · exact Or.inl (Or.inl (Or.inl hx))
  · exact Or.inr hx
  · exact Or.inl (Or.inr hx)

end Fmap
end XotModel
