/-
  `serialize_xml_string` / `to_string` as the rendering of `serTokensAtO` (any token parameters) /
  `serTokensAt` / `serTokensTop`: the entry points, and where the initial stack's bindings come from.
-/
import XotModel.Lemmas.SerTokensMain

namespace XotModel
open Gen

variable (env : Env) (pr : TokenParams) (t : Tree)

theorem traverseDecls_subset (seen : List Nat) (ds : List (Nat × Nat)) :
    ∀ d ∈ (traverseDecls seen ds).2, d ∈ ds := by
  induction ds generalizing seen with
  | nil => simp [traverseDecls]
  | cons d ds ih =>
    obtain ⟨p, n⟩ := d
    by_cases hs : seen.contains p = true
    · rw [traverseDecls_cons_seen seen p n ds hs]
      intro d hd
      exact List.mem_cons_of_mem _ (ih seen d hd)
    · rw [traverseDecls_cons_new seen p n ds hs]
      intro d hd
      simp only [] at hd
      split at hd
      · exact List.mem_cons_of_mem _ (ih _ d hd)
      · rcases List.mem_cons.mp hd with rfl | hd
        · simp
        · exact List.mem_cons_of_mem _ (ih _ d hd)

theorem traverseChain_subset (seen : List Nat) (chain : List Tree) :
    ∀ d ∈ (traverseChain seen chain).2, ∃ a ∈ chain, d ∈ a.nsDecls := by
  induction chain generalizing seen with
  | nil => simp [traverseChain]
  | cons a rest ih =>
    unfold traverseChain
    simp only []
    intro d hd
    rcases List.mem_append.mp hd with hd | hd
    · exact ⟨a, by simp, traverseDecls_subset _ _ d hd⟩
    · obtain ⟨b, hb, hdb⟩ := ih _ d hd
      exact ⟨b, by simp [hb], hdb⟩

theorem namespacesInScopeChain_origin (chain : List Tree) :
    ∀ d ∈ namespacesInScopeChain chain, d ∈ basePrefixes ∨ ∃ a ∈ chain, d ∈ a.nsDecls := by
  unfold namespacesInScopeChain
  simp only []
  intro d hd
  rcases List.mem_append.mp hd with hd | hd
  · exact Or.inr (traverseChain_subset [] chain d hd)
  · exact Or.inl (List.mem_filter.mp hd).1

/-- Every tree of the ancestor-or-self chain is a subtree: a per-node condition carries over. -/
theorem ancestorsOrSelf_allNodes (p : Value → List Tree → Bool) :
    ∀ (t : Tree) (path : Path) (chain : List Tree), t.ancestorsOrSelf path = some chain →
      t.allNodes p = true → ∀ a ∈ chain, a.allNodes p = true
  | t, [], chain, h, ht, a, ha => by
    cases h
    rw [List.mem_singleton.mp ha]
    exact ht
  | .node v ks, i :: path, chain, h, ht, a, ha => by
    obtain ⟨k, c, hk, hc, rfl⟩ := ScopePath.ancestorsOrSelf_cons_eq_some.mp h
    rcases List.mem_append.mp ha with ha | ha
    · exact ancestorsOrSelf_allNodes p k path c hc (allNodes_kid ht (List.mem_of_getElem? hk)) a ha
    · rw [List.mem_singleton.mp ha]
      exact ht

theorem subtree_allNodes (p : Value → List Tree → Bool) :
    ∀ (t : Tree) (path : Path) (n : Tree), t.at? path = some n → t.allNodes p = true →
      n.allNodes p = true
  | t, [], n, h, ht => by
    cases h
    exact ht
  | .node v ks, i :: path, n, h, ht => by
    obtain ⟨k, hk, hn⟩ := ScopePath.at?_cons_eq_some.mp h
    exact subtree_allNodes p k path n hn (allNodes_kid ht (List.mem_of_getElem? hk))

/-- The stack `XmlSerializer::new` builds binds only prefixes with a spelling when `xml` has one
    and every declaration of the tree does. -/
theorem named_initStack (start : Path) (hx : env.prefixStr Env.xmlPrefix ≠ [])
    (ht : t.allNodes (declsNamed env) = true) : Named env (initStack t start) := by
  refine ⟨hx, ?_⟩
  unfold initStack namespacesInScope
  cases hc : t.ancestorsOrSelf start with
  | none => simp [FStack.new, FStack.top]
  | some chain =>
    simp only [Option.map_some, Option.getD_some, FStack.new, FStack.top, List.headD_cons]
    intro d hd hne
    rcases namespacesInScopeChain_origin chain d hd with h | ⟨a, ha, hda⟩
    · simp only [basePrefixes, List.mem_singleton] at h
      subst h
      exact hx
    · have h1 := ancestorsOrSelf_allNodes (declsNamed env) t start chain hc ht a ha
      cases a with
      | node v ks =>
        have h2 := allNodes_root h1
        simp only [declsNamed, List.all_eq_true] at h2
        have := h2 d hda
        simp only [Bool.or_eq_true, beq_iff_eq, Bool.not_eq_true', List.isEmpty_eq_false_iff] at this
        rcases this with h3 | h3
        · exact absurd h3 hne
        · exact h3

/-- **`serialize_xml_string` with any token parameters** — CDATA-section elements, `unescaped_gt`, any
    start node: the string is the canonical rendering of `serTokensAtO`, and the two fail together with
    the same error. -/
theorem serializeString_serTokensAtO (start : Path)
    (hx : env.prefixStr Env.xmlPrefix ≠ []) (ht : t.allNodes (declsNamed env) = true) :
    serializeStringWith xmlEscapers env pr t start =
      (match serTokensAtO env pr t start with
       | .ok ts => .ok (renderTokens ts)
       | .error e => .err e) := by
  rw [serializeString_runEvents]
  have hs := named_initStack env t start hx ht
  unfold genOutputs serTokensAtO
  cases hn : t.at? start with
  | none => simp [runEvents, renderTokens]
  | some n =>
    cases hsc : namespacesInScope t start with
    | none => simp [runEvents, renderTokens]
    | some inScope =>
      simp only []
      have hinit := initStack_eq_new hsc
      rw [hinit] at hs ⊢
      rw [runEvents_nodeO env pr t inScope true start n _ hn hs
        (subtree_allNodes _ t start n hn ht)]
      unfold startCd
      cases serNodeO env pr inScope true (FStack.new inScope) (isCdataElement pr (t.parentAt? start)) n <;> rfl

theorem serTokensAtO_plain (hcd : pr.cdataSectionElements = []) (start : Path) :
    serTokensAtO env pr t start = serTokensAt env pr.unescapedGt t start := by
  unfold serTokensAtO serTokensAt startCd
  cases t.at? start <;> cases namespacesInScope t start <;>
    simp only [isCdataElement_plain pr hcd, serNodeO_plain env pr hcd]

/-- `serialize_xml_string` with token parameters without CDATA-section elements: the string is the
    canonical rendering of `serTokensAt`, and the two fail together with the same error. -/
theorem serializeString_serTokensAt (hcd : pr.cdataSectionElements = []) (start : Path)
    (hx : env.prefixStr Env.xmlPrefix ≠ []) (ht : t.allNodes (declsNamed env) = true) :
    serializeStringWith xmlEscapers env pr t start =
      (match serTokensAt env pr.unescapedGt t start with
       | .ok ts => .ok (renderTokens ts)
       | .error e => .err e) := by
  rw [serializeString_serTokensAtO env pr t start hx ht, serTokensAtO_plain env pr t hcd]

/-- `Xot::to_string(root)`. -/
theorem toXmlString_serTokensTop (hx : env.prefixStr Env.xmlPrefix ≠ [])
    (ht : t.allNodes (declsNamed env) = true) :
    toXmlString env t [] =
      (match serTokensTop env t with
       | .ok ts => .ok (renderTokens ts)
       | .error e => .err e) :=
  serializeString_serTokensAt env {} t rfl [] hx ht

end XotModel
