/-
  UTF-8 bytes WITHOUT an XML declaration are decoded as UTF-8, whatever
  `encoding=` / `charset=` text they contain (as of /repo 72a40b0 and 41ece46): that text is the bait,
  which must not be taken for a declaration.
  "Without declaration" as the reader sees it: `hasDeclLookalike t = false` — after the byte order
  mark the characters up to the first `>` are not all ASCII, or do not begin `<?xml`.
-/
import XotModel.Lemmas.BytesDecode

namespace XotModel.Bytes

/-- `Encoding::decode` (and `xml_declaration`) remove one leading byte order mark. -/
def stripBom : Str → Str
  | [] => []
  | c :: r => if c == '\uFEFF' then r else c :: r

/-- What the `for` loop of `xml_declaration` makes of a UTF-8 text: NUL skipped, a non-ASCII
    character ends it with `none` (/repo 41ece46), the others collected up to the first `>`. -/
def asciiProj : Str → Option Str
  | [] => some []
  | c :: cs =>
    if c.toNat == 0 then asciiProj cs
    else if c.toNat ≥ 0x80 then none
    else if c == '>' then some ['>']
    else match asciiProj cs with
      | some s => some (c :: s)
      | none => none

/-- The reader takes the text for one with a declaration: after the byte order mark, the characters
    up to the first `>` are ASCII (NUL apart) and begin `<?xml`.  False for every text that begins
    with an ASCII character other than `<`, with `<` and an ASCII character other than `?`, with a
    processing instruction whose target is not literally `xml…` — also `<?éxml encoding="latin1"?>`
    (as of /repo 41ece46). -/
def hasDeclLookalike (t : Str) : Bool :=
  match asciiProj (stripBom t) with
  | some a => ['<', '?', 'x', 'm', 'l'].isPrefixOf a
  | none => false

theorem collectAscii_encodeUtf8 (t : Str) : collectAscii (encodeUtf8 t) = asciiProj t := by
  induction t with
  | nil => rfl
  | cons c cs ih =>
    rw [encodeUtf8, asciiProj]
    rcases utf8Bytes_head c with ⟨h1, h2⟩ | ⟨h1, b, r, h2, h3, _, _⟩
    · rw [h2, List.singleton_append, collectAscii, ih]
      have e80 : ¬ (c.toNat ≥ 0x80) := by omega
      by_cases hg : c = '>'
      · subst hg; rfl
      · have : (c.toNat == 0x3E) = false := by
          simp only [beq_eq_false_iff_ne, ne_eq]
          intro e; exact hg (Char.toNat_inj.mp e)
        have h' : (c == '>') = false := by simp [hg]
        simp only [e80, this, h', Char.ofNat_toNat]
        by_cases hz : (c.toNat == 0) = true
        · simp only [hz, if_true]
        · simp only [hz, if_false]
          cases asciiProj cs <;> rfl
    · have e0 : (c.toNat == 0) = false := by simp only [beq_eq_false_iff_ne, ne_eq]; omega
      have e80 : c.toNat ≥ 0x80 := h1
      have b0 : (b == 0) = false := by simp only [beq_eq_false_iff_ne, ne_eq]; omega
      have b80 : b ≥ 0x80 := by omega
      rw [h2, List.cons_append, collectAscii]
      simp only [e0, b0, e80, b80, Bool.false_eq_true, if_false, if_true]

/-! ### The detector on the head of UTF-8 bytes without a declaration -/

def utf8Label : Str := ['u', 't', 'f', '-', '8']

theorem ite_prop {α : Type} {P : α → Prop} {c : Prop} [Decidable c] {x y : α}
    (hx : c → P x) (hy : ¬ c → P y) : P (if c then x else y) := by
  split
  · exact hx ‹_›
  · exact hy ‹_›

theorem bomLabel_utf8_head (a b c d : Nat) (ha : a < 0xF8) (hc : c < 0xF8)
    (hE : ¬ (a = 0x4C ∧ b = 0x6F ∧ c = 0xA7)) :
    bomLabel (detectByteOrderMark a b c d) = none ∨ bomLabel (detectByteOrderMark a b c d) = some utf8Label := by
  have a255 : (a == 255) = false := by simp; omega
  have a254 : (a == 254) = false := by simp; omega
  have c255 : (c == 255) = false := by simp; omega
  have c254 : (c == 254) = false := by simp; omega
  have hEb : (a == 76 && b == 111 && c == 167 && d == 148) = false := by
    simp only [Bool.and_eq_false_iff, beq_eq_false_iff_ne, ne_eq]; omega
  unfold detectByteOrderMark
  simp only [a255, a254, c255, c254, hEb, Bool.false_and, Bool.and_false, Bool.false_eq_true, if_false]
  refine ite_prop (P := fun r => bomLabel r = none ∨ bomLabel r = some utf8Label) (fun _ => Or.inr rfl) (fun _ => ?_)
  refine ite_prop (P := fun r => bomLabel r = none ∨ bomLabel r = some utf8Label) (fun _ => Or.inl rfl) (fun _ => ?_)
  refine ite_prop (P := fun r => bomLabel r = none ∨ bomLabel r = some utf8Label) (fun _ => Or.inl rfl) (fun _ => ?_)
  refine ite_prop (P := fun r => bomLabel r = none ∨ bomLabel r = some utf8Label) (fun _ => Or.inl rfl) (fun _ => ?_)
  refine ite_prop (P := fun r => bomLabel r = none ∨ bomLabel r = some utf8Label) (fun _ => Or.inl rfl) (fun _ => ?_)
  refine ite_prop (P := fun r => bomLabel r = none ∨ bomLabel r = some utf8Label) (fun _ => Or.inl rfl) (fun _ => ?_)
  refine ite_prop (P := fun r => bomLabel r = none ∨ bomLabel r = some utf8Label) (fun _ => Or.inl rfl) (fun _ => ?_)
  refine ite_prop (P := fun r => bomLabel r = none ∨ bomLabel r = some utf8Label) (fun _ => Or.inl rfl) (fun _ => ?_)
  exact Or.inl rfl

theorem encodeUtf8_cons_inv (t : Str) (b : Nat) (r : Bytes) (h : encodeUtf8 t = b :: r) :
    (b < 0x80 ∧ ∃ c t', t = c :: t' ∧ encodeUtf8 t' = r) ∨ 0xC2 ≤ b := by
  cases t with
  | nil => cases h
  | cons c t' =>
    rw [encodeUtf8] at h
    rcases utf8Bytes_head c with ⟨h1, h2⟩ | ⟨_, b', r', h2, h3, _, _⟩
    · rw [h2] at h
      simp only [List.singleton_append, List.cons.injEq] at h
      exact Or.inl ⟨by omega, c, t', rfl, h.2⟩
    · rw [h2] at h
      simp only [List.cons_append, List.cons.injEq] at h
      exact Or.inr (by omega)

theorem not_ebcdic (t : Str) (a b c : Nat) (r : Bytes) (h : encodeUtf8 t = a :: b :: c :: r) :
    ¬ (a = 0x4C ∧ b = 0x6F ∧ c = 0xA7) := by
  rintro ⟨rfl, rfl, rfl⟩
  rcases encodeUtf8_cons_inv _ _ _ h with ⟨_, _, t1, _, h1⟩ | h0
  · rcases encodeUtf8_cons_inv _ _ _ h1 with ⟨_, _, t2, _, h2⟩ | h0
    · rcases encodeUtf8_cons_inv _ _ _ h2 with ⟨h3, _⟩ | h0 <;> omega
    · omega
  · omega

theorem forLabel_utf8 : forLabel utf8Label = some .utf8 ∧ forLabel ['U', 'T', 'F', '-', '8'] = some .utf8 := by
  decide

/-- Without a declaration the encoding chosen for UTF-8 bytes is UTF-8 (or none: then `decode`
    falls back to UTF-8). -/
theorem encodingOf_utf8_undeclared (t : Str) (hx : xmlDeclaration (encodeUtf8 t) = none) :
    (encodingOf (encodeUtf8 t)).getD .utf8 = .utf8 := by
  unfold encodingOf
  rw [hx]
  have hlt := encodeUtf8_lt t
  rcases hdata : encodeUtf8 t with _ | ⟨a, _ | ⟨b, _ | ⟨c, _ | ⟨d, _ | ⟨e, rest⟩⟩⟩⟩⟩
  · rfl
  · rfl
  · rfl
  · rfl
  · simp only [List.take, detectHead, forLabel_utf8.2, Option.getD_some]
  · rw [hdata] at hlt
    have hbl := bomLabel_utf8_head a b c d (hlt a (by simp)) (hlt c (by simp))
      (not_ebcdic t a b c _ hdata)
    simp only [List.take, detectHead]
    rcases hbl with hbl | hbl
    · rw [hbl]
      simp only [List.isEmpty_nil, Bool.true_and]
      by_cases he : e < 0x80
      · simp only [he, decide_true, if_true]
        exact congrArg (fun x => Option.getD x Enc.utf8) forLabel_utf8.1
      · simp only [he, decide_false, Bool.false_eq_true, if_false]
        exact congrArg (fun x => Option.getD x Enc.utf8) forLabel_utf8.2
    · rw [hbl]
      simp only [pushIfNotContains_nil, List.isEmpty_cons, Bool.false_and, Bool.false_eq_true, if_false]
      exact congrArg (fun x => Option.getD x Enc.utf8) forLabel_utf8.1

/-! ### Byte order mark or not -/

theorem bomSniff_none3 (x y z : Nat) (rest : Bytes) (h1 : ¬ (x = 0xEF ∧ y = 0xBB ∧ z = 0xBF))
    (h2 : x ≠ 0xFF) (h3 : x ≠ 0xFE) : bomSniff (x :: y :: z :: rest) = none := by
  have e2 : ¬ 0xFF = x := fun e => h2 e.symm
  have e3 : ¬ 0xFE = x := fun e => h3 e.symm
  by_cases hx : 0xEF = x
  · subst hx
    by_cases hy : 0xBB = y
    · subst hy
      have : ¬ 0xBF = z := fun e => h1 ⟨rfl, rfl, e.symm⟩
      simp [bomSniff, List.isPrefixOf, this]
    · simp [bomSniff, List.isPrefixOf, hy]
  · simp [bomSniff, List.isPrefixOf, hx, e2, e3]

theorem utf8Bytes_bom : utf8Bytes '\uFEFF' = [0xEF, 0xBB, 0xBF] := by decide

theorem bomSniff_utf8 (c : Char) (cs : Str) (hc : c ≠ '\uFEFF') : bomSniff (encodeUtf8 (c :: cs)) = none := by
  rw [encodeUtf8]
  rcases utf8Bytes_form c with ⟨h0, e⟩ | ⟨q, l, e, _, _, _⟩ | ⟨q, m, l, e, _, _, _, _, _, hv⟩ |
    ⟨q, k, m, l, e, _, _, _, _, _, _, _⟩
  · rw [e]; exact bomSniff_lt _ _ (by omega)
  · rw [e]; exact bomSniff_lt _ _ (by omega)
  · -- `EF BB BF` spells U+FEFF
    rw [e]
    refine bomSniff_none3 _ _ _ _ (fun ⟨h1, h2, h3⟩ => hc (Char.toNat_inj.mp ?_)) (by omega) (by omega)
    show c.toNat = 0xFEFF
    omega
  · rw [e]
    exact bomSniff_none3 _ _ _ _ (by omega) (by omega) (by omega)

theorem isPrefixOf_ucs4 (x : Bytes) (h : ∀ b ∈ x, b < 0xF8) :
    ([0, 0, 0xFE, 0xFF].isPrefixOf x || [0, 0, 0xFF, 0xFE].isPrefixOf x) = false := by
  rcases x with _ | ⟨a, _ | ⟨b, _ | ⟨c, rest⟩⟩⟩
  · rfl
  · simp [List.isPrefixOf]
  · simp [List.isPrefixOf]
  · have hc := h c (by simp)
    have c2 : ¬ 0xFF = c := by omega
    have c3 : ¬ 0xFE = c := by omega
    simp [List.isPrefixOf, c2, c3]

theorem bomSniff_none_tests (x : Bytes) (h : bomSniff x = none) :
    [0xEF, 0xBB, 0xBF].isPrefixOf x = false ∧ [0xFF, 0xFE].isPrefixOf x = false ∧ [0xFE, 0xFF].isPrefixOf x = false := by
  unfold bomSniff at h
  by_cases a1 : [0xEF, 0xBB, 0xBF].isPrefixOf x = true
  · rw [if_pos a1] at h; cases h
  · rw [if_neg a1] at h
    by_cases a2 : [0xFF, 0xFE].isPrefixOf x = true
    · rw [if_pos a2] at h; cases h
    · rw [if_neg a2] at h
      by_cases a3 : [0xFE, 0xFF].isPrefixOf x = true
      · rw [if_pos a3] at h; cases h
      · exact ⟨Bool.eq_false_iff.mpr a1, Bool.eq_false_iff.mpr a2, Bool.eq_false_iff.mpr a3⟩

/-- The reader's first statement on UTF-8 bytes: it removes exactly the UTF-8 byte order mark. -/
theorem stripDeclBom_encodeUtf8 (t : Str) : stripDeclBom (encodeUtf8 t) = encodeUtf8 (stripBom t) := by
  cases t with
  | nil => rfl
  | cons c cs =>
    by_cases hc : c = '\uFEFF'
    · subst hc
      rw [encodeUtf8, utf8Bytes_bom]
      simp [stripDeclBom, List.isPrefixOf, stripBom]
    · have hne : (c == '\uFEFF') = false := by simp [hc]
      obtain ⟨h1, h2, h3⟩ := bomSniff_none_tests _ (bomSniff_utf8 c cs hc)
      have h4 := isPrefixOf_ucs4 _ (encodeUtf8_lt (c :: cs))
      simp only [stripDeclBom, h1, h2, h3, h4, Bool.or_self, Bool.false_eq_true, if_false, stripBom, hne]

theorem xmlDeclaration_utf8_none (t : Str) (h : hasDeclLookalike t = false) :
    xmlDeclaration (encodeUtf8 t) = none := by
  apply xmlDeclaration_none
  intro a ha
  rw [stripDeclBom_encodeUtf8, collectAscii_encodeUtf8] at ha
  unfold hasDeclLookalike at h
  rw [ha] at h
  exact h

/-- **UTF-8 bytes without a declaration** (with or without byte order mark) decode to the text, the
    byte order mark removed — whatever `encoding=` / `charset=` text they contain. -/
theorem decodeBytes_utf8_undeclared (t : Str) (h : hasDeclLookalike t = false) :
    decodeBytes (encodeUtf8 t) = some (stripBom t) := by
  cases t with
  | nil => decide
  | cons c cs =>
    by_cases hc : c = '\uFEFF'
    · subst hc
      rw [encodeUtf8, utf8Bytes_bom]
      exact decodeBytes_bom8 cs
    · have hx := xmlDeclaration_utf8_none _ h
      have he := encodingOf_utf8_undeclared _ hx
      unfold decodeBytes decodeSniffed
      rw [bomSniff_utf8 c cs hc, he]
      simp only [decodeWith, decodeUtf8_encode, stripBom]
      have : (c == '\uFEFF') = false := by simp [hc]
      rw [this]
      rfl

/-- A text that begins with `<` and an ASCII character other than `?` (a start tag, a comment, a
    document type declaration) is not taken for one with a declaration. -/
theorem noLookalike_of_lt (c : Char) (r : Str) (h0 : 0 < c.toNat) (h1 : c.toNat < 0x80) (hq : c ≠ '?') :
    hasDeclLookalike ('<' :: c :: r) = false := by
  have e0 : (c.toNat == 0) = false := by simp only [beq_eq_false_iff_ne, ne_eq]; omega
  have e1 : ¬ (c.toNat ≥ 0x80) := by omega
  unfold hasDeclLookalike
  rw [show stripBom ('<' :: c :: r) = '<' :: c :: r from rfl, asciiProj]
  simp only [show ('<'.toNat == 0) = false by decide, show ¬ ('<'.toNat ≥ 0x80) by decide,
    show ('<' == '>') = false by decide, Bool.false_eq_true, if_false]
  rw [asciiProj, e0]
  simp only [Bool.false_eq_true, if_false, e1]
  by_cases hg : c = '>'
  · subst hg; rfl
  · have hg' : (c == '>') = false := by simp [hg]
    rw [hg']
    simp only [Bool.false_eq_true, if_false]
    cases asciiProj r with
    | none => rfl
    | some a =>
      simp only [List.isPrefixOf]
      have : ('?' == c) = false := by
        simp only [beq_eq_false_iff_ne, ne_eq]; exact fun e => hq e.symm
      simp [this]

end XotModel.Bytes
