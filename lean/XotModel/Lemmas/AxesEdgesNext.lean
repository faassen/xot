/-
  `NodeEdge::next` stepping enumerates `traverse` (well-formed trees, normal start node).
-/
import XotModel.Lemmas.AxesChildren

namespace XotModel.Axes

theorem Edge.mapPath_mapPath (f g : Path → Path) (e : Edge) :
    Edge.mapPath f (Edge.mapPath g e) = Edge.mapPath (f ∘ g) e := by cases e <;> rfl

@[simp] theorem Edge.node_mapPath (f : Path → Path) (e : Edge) : (Edge.mapPath f e).node = f e.node := by
  cases e <;> rfl

theorem rawEdgesList_append (j : Nat) (a b : List Tree) :
    rawEdgesList j (a ++ b) = rawEdgesList j a ++ rawEdgesList (j + a.length) b := by
  induction a generalizing j with
  | nil => simp [rawEdgesList]
  | cons k a ih =>
    simp only [List.cons_append, rawEdgesList, ih, List.append_assoc, List.length_cons]
    congr 3; omega

/-- The filtered edges of the children `ks` of `π`, the first of them having raw index `i`. -/
def kidEdges (t : Tree) (π : Path) (i : Nat) (ks : List Tree) : List Edge :=
  ((rawEdgesList i ks).map (Edge.mapPath (π ++ ·))).filter (edgeNormal t)

theorem kidEdges_append (t : Tree) (π : Path) (i : Nat) (a b : List Tree) :
    kidEdges t π i (a ++ b) = kidEdges t π i a ++ kidEdges t π (i + a.length) b := by
  simp [kidEdges, rawEdgesList_append]

@[simp] theorem kidEdges_nil (t : Tree) (π : Path) (i : Nat) : kidEdges t π i [] = [] := by
  simp [kidEdges, rawEdgesList]

theorem kidEdges_cons {t : Tree} {π : Path} {v : Value} {all : List Tree}
    (h : t.at? π = some (.node v all)) {i : Nat} {k : Tree} (hk : all[i]? = some k) (ks : List Tree) :
    kidEdges t π i (k :: ks) = traverse t (π ++ [i]) ++ kidEdges t π (i + 1) ks := by
  have hsub : subAt t (π ++ [i]) = k := by simp [subAt, at?_snoc h, hk]
  simp only [kidEdges, rawEdgesList, List.map_append, List.filter_append, traverse, arenaTraverse, hsub,
    List.map_map]
  congr 2
  apply List.map_congr_left
  intro e _
  cases e <;> simp [Edge.mapPath]

theorem traverse_node {t : Tree} {π : Path} {v : Value} {ks : List Tree}
    (h : t.at? π = some (.node v ks)) (hn : v.isNormal = true) :
    traverse t π = .start π :: (kidEdges t π 0 ks ++ [.stop π]) := by
  have hnπ : isNormalAt t π = true := by simp [isNormalAt, valueAt, subAt_of_at? h, Tree.value, hn]
  simp [traverse, arenaTraverse, subAt_of_at? h, rawEdges, kidEdges, Edge.mapPath, edgeNormal, Edge.node,
    hnπ]

theorem traverse_abnormal_leaf {t : Tree} {π : Path} {v : Value}
    (h : t.at? π = some (.node v [])) (hn : v.isNormal = false) : traverse t π = [] := by
  have hnπ : isNormalAt t π = false := by simp [isNormalAt, valueAt, subAt_of_at? h, Tree.value, hn]
  simp [traverse, arenaTraverse, subAt_of_at? h, rawEdges, rawEdgesList, Edge.mapPath, edgeNormal,
    Edge.node, hnπ]

theorem kidEdges_abnormal {t : Tree} {π : Path} {v : Value} {all : List Tree}
    (h : t.at? π = some (.node v all)) : ∀ (ks : List Tree) (i : Nat),
    (∀ j k, ks[j]? = some k → all[i + j]? = some k) →
    (∀ k ∈ ks, k.value.isNormal = false ∧ k.kids = []) → kidEdges t π i ks = []
  | [], _, _, _ => by simp
  | k :: ks, i, hidx, hab => by
    have hk : all[i]? = some k := by simpa using hidx 0 k rfl
    rw [kidEdges_cons h hk]
    have hk' := hab k (by simp)
    cases k with
    | node vk kk =>
      simp only [Tree.value, Tree.kids] at hk'
      obtain ⟨h1, rfl⟩ := hk'
      have hat : t.at? (π ++ [i]) = some (.node vk []) := by rw [at?_snoc h, hk]
      rw [traverse_abnormal_leaf hat h1, List.nil_append]
      apply kidEdges_abnormal h ks (i + 1)
      · intro j k' hj
        have := hidx (j + 1) k' (by simpa using hj)
        rw [show i + 1 + j = i + (j + 1) by omega]; exact this
      · intro k' hk''; exact hab k' (by simp [hk''])

/-! ### Walking with `NodeEdge::next` -/

/-- Continue the walk from an optional edge. -/
def contN (t : Tree) (m : Nat) : Option Edge → List Edge
  | none => []
  | some e => edgeWalk (Edge.next t) m e

@[simp] theorem contN_none (t : Tree) (m : Nat) : contN t m none = [] := rfl
@[simp] theorem contN_zero (t : Tree) (o : Option Edge) : contN t 0 o = [] := by
  cases o <;> simp [contN, edgeWalk]

theorem contN_succ (t : Tree) (m : Nat) (e : Edge) :
    contN t (m + 1) (some e) = e :: contN t m (Edge.next t e) := by
  simp only [contN, edgeWalk]
  cases Edge.next t e <;> rfl

/-- The walk yields what `NodeEdge::next` visits; the fuel left over goes on from there. -/
theorem contN_visits (t : Tree) {a b : Option Edge} {l : List Edge} (h : Visits (Edge.next t) a l b) (m : Nat) :
    contN t (l.length + m) a = l ++ contN t m b := by
  induction h with
  | nil a => simp
  | cons _ ih => rw [List.length_cons, Nat.add_right_comm, contN_succ, ih, List.cons_append]

theorem next_stop_normal_child {t : Tree} {π : Path} {v : Value} {all : List Tree}
    (h : t.at? π = some (.node v all)) (hord : kidsOrdered all = true) {i : Nat} (hi : i < all.length)
    (hn : all[i].value.isNormal = true) :
    Edge.next t (.stop (π ++ [i])) =
      if i + 1 < all.length then some (.start (π ++ [i + 1])) else some (.stop π) := by
  simp only [Edge.next, nextSibling_normal_child h hord hi hn]
  by_cases hlt : i + 1 < all.length
  · simp only [hlt, if_true]
  · simp only [hlt, if_false, parent_snoc, Option.map_some]

/-- From the start edge of normal child `i`: the edges of the children `i..`, then `End(π)` (`hsub`: from the
    start edge of a normal child, its `traverse`). -/
theorem visits_next_kids {t : Tree} {π : Path} {v : Value} {all : List Tree}
    (h : t.at? π = some (.node v all)) (hord : kidsOrdered all = true)
    (hsub : ∀ k ∈ all, ∀ ρ, t.at? ρ = some k → k.value.isNormal = true →
      Visits (Edge.next t) (some (.start ρ)) (traverse t ρ) (Edge.next t (.stop ρ))) :
    ∀ (n i : Nat), i + n + 1 = all.length → (∀ k, all[i]? = some k → k.value.isNormal = true) →
    Visits (Edge.next t) (some (.start (π ++ [i]))) (kidEdges t π i (all.drop i) ++ [.stop π])
      (Edge.next t (.stop π))
  | n, i, hlen, hnorm => by
    have hi : i < all.length := by omega
    have hk : all[i]? = some all[i] := List.getElem?_eq_getElem hi
    have hn := hnorm _ hk
    have := hsub all[i] (List.getElem_mem hi) (π ++ [i]) (by rw [at?_snoc h, hk]) hn
    rw [next_stop_normal_child h hord hi hn] at this
    rw [List.drop_eq_getElem_cons hi, kidEdges_cons h hk, List.append_assoc]
    cases n with
    | zero =>
      rw [if_neg (by omega)] at this
      rw [List.drop_eq_nil_of_le (by omega), kidEdges_nil, List.nil_append]
      exact this.append (Visits.single _ _)
    | succ n =>
      have hlt : i + 1 < all.length := by omega
      have hk1 : all[i + 1]? = some all[i + 1] := List.getElem?_eq_getElem hlt
      rw [if_pos hlt] at this
      exact this.append (visits_next_kids h hord hsub n (i + 1) (by omega)
        (by intro k hk'; rw [hk1] at hk'; cases hk'; exact kidsOrdered_mono all hord i (i + 1) _ _ (by omega) hk hk1 hn))
termination_by n => n
decreasing_by omega

theorem firstChild_of {t : Tree} {π : Path} {v : Value} {all : List Tree}
    (h : t.at? π = some (.node v all)) :
    firstChild t π =
      if all.dropWhile (fun k => !k.value.isNormal) = [] then none
      else some (π ++ [(all.takeWhile (fun k => !k.value.isNormal)).length]) := by
  unfold firstChild normalChildren
  rw [allChildren_of_at? h]
  have := kidPaths_dropWhile π (fun k => !k.value.isNormal) 0 all
  simp only [itemNormal] at this ⊢
  rw [this]
  cases all.dropWhile (fun k => !k.value.isNormal) with
  | nil => simp [kidPaths]
  | cons k ks => simp [kidPaths]

theorem split_kids (f : Tree → Bool) : ∀ (all : List Tree), ∃ abn nor, all = abn ++ nor ∧
    all.takeWhile f = abn ∧ all.dropWhile f = nor ∧ (∀ k ∈ abn, f k = true) ∧
    (∀ k, nor.head? = some k → f k = false)
  | [] => ⟨[], [], rfl, rfl, rfl, by simp, by simp⟩
  | k :: ks => by
    by_cases hk : f k = true
    · obtain ⟨abn, nor, h1, h2, h3, h4, h5⟩ := split_kids f ks
      refine ⟨k :: abn, nor, by rw [h1]; rfl, by simp [hk, h2],
        by simp [hk, h3], ?_, h5⟩
      intro k' hk'
      rcases List.mem_cons.mp hk' with rfl | h
      · exact hk
      · exact h4 k' h
    · refine ⟨[], k :: ks, rfl, by simp [hk], by simp [hk],
        by simp, ?_⟩
      intro k' hk'
      simp at hk'; subst hk'; simpa using hk

/-- From the start edge of a normal node: its `traverse`, then whatever follows its end edge. -/
theorem visits_next_sub (t : Tree) (hw : wf t = true) : ∀ (n : Nat) (s : Tree), s.size ≤ n →
    ∀ (π : Path), t.at? π = some s → s.value.isNormal = true →
    Visits (Edge.next t) (some (.start π)) (traverse t π) (Edge.next t (.stop π))
  | 0, s, hs => by cases s; simp [Tree.size] at hs
  | n + 1, .node v all, hs => by
    intro π h hn
    obtain ⟨hord, hwl⟩ := wf_node hw h
    have hsub : ∀ k ∈ all, ∀ ρ, t.at? ρ = some k → k.value.isNormal = true →
        Visits (Edge.next t) (some (.start ρ)) (traverse t ρ) (Edge.next t (.stop ρ)) := by
      intro k hk
      apply visits_next_sub t hw n k
      obtain ⟨i, hi, rfl⟩ := List.getElem_of_mem hk
      have := size_getElem?_le all i _ (List.getElem?_eq_getElem hi)
      simp [Tree.size] at hs; omega
    rw [traverse_node h hn]
    refine .cons ?_
    simp only [Edge.next, firstChild_of h]
    obtain ⟨abn, nor, hall, htw, hdw, habn, hnor⟩ := split_kids (fun k : Tree => !k.value.isNormal) all
    rw [htw, hdw]
    -- the leading non-normal children are leaves and contribute nothing
    have hpre : kidEdges t π 0 abn = [] := by
      apply kidEdges_abnormal h abn 0
      · intro j k hj
        obtain ⟨hlt, _⟩ := List.getElem?_eq_some_iff.mp hj
        rw [Nat.zero_add, hall, List.getElem?_append_left hlt]; exact hj
      · intro k hk
        have hab : k.value.isNormal = false := by simpa using habn k hk
        exact ⟨hab, abnormal_leaf_of_wf (wfList_mem all k hwl (by rw [hall]; simp [hk])) hab⟩
    have hke : kidEdges t π 0 all = kidEdges t π abn.length nor := by
      rw [hall, kidEdges_append, hpre]; simp
    by_cases hd : nor = []
    · simp only [hd, if_true]
      rw [hke, hd, kidEdges_nil, List.nil_append]
      exact Visits.single _ _
    · simp only [hd, if_false]
      have hdrop : all.drop abn.length = nor := by rw [hall]; simp
      have hlen : abn.length + (nor.length - 1) + 1 = all.length := by
        have hpos : 0 < nor.length := List.length_pos_iff.mpr hd
        rw [hall]; simp; omega
      have hfirst : ∀ k, all[abn.length]? = some k → k.value.isNormal = true := by
        intro k hk
        rw [hall, List.getElem?_append_right (Nat.le_refl _), Nat.sub_self] at hk
        have := hnor k (by rw [List.head?_eq_getElem?]; exact hk)
        simpa using this
      have := visits_next_kids h hord hsub (nor.length - 1) abn.length hlen hfirst
      rwa [hdrop, ← hke] at this

/-- `NodeEdge::next` from `Start(π)` (normal node of a well-formed tree) runs through
    `traverse(π)` and goes on with whatever follows `End(π)`. -/
theorem edgeWalk_next_eq {t : Tree} {π : Path} (hw : wf t = true) (h : Valid t π)
    (hn : isNormalAt t π = true) (m : Nat) :
    edgeWalk (Edge.next t) ((traverse t π).length + m) (.start π) =
      traverse t π ++ contN t m (Edge.next t (.stop π)) :=
  contN_visits t (visits_next_sub t hw _ _ (Nat.le_refl _) π h.at? hn) m

/-- From `Start(root)` the walk is exactly `traverse(root)`, whatever fuel is left over. -/
theorem edgeWalk_next_root {t : Tree} (hw : wf t = true) (hn : isNormalAt t [] = true) (m : Nat) :
    edgeWalk (Edge.next t) ((traverse t []).length + m) (.start []) = traverse t [] := by
  rw [edgeWalk_next_eq hw (valid_nil t) hn]
  simp [Edge.next, nextSibling]

end XotModel.Axes
