/-
  `deduplicate_namespaces` and the C01 round trip: the call keeps a tree in the domain (`Keeps`),
  the domain meets the hypotheses of the C15 theorems (no prefix declared twice, only elements
  declare), and start nodes inside the subtree correspond by their skeleton.
-/
import XotModel.Lemmas.RepresentableEdit
import XotModel.Lemmas.CanonDropNs
import XotModel.Lemmas.RoundTripDeepEqual
import XotModel.Lemmas.ScopeDedup
import XotModel.Lemmas.DedupSerialise
import XotModel.Lemmas.RepairValid
import XotModel.Lemmas.InnerStartRoundTrip

/-! ### The call keeps a tree in the C01 domain

  C15 and the round trip: `deduplicate_namespaces` keeps a tree inside the C01 domain
  (`Representable`: it only deletes namespace-node children, Lemmas/RepresentableEdit.lean), and what it
  leaves is `deep_equal` to what it was given (the eraser `stripNs` of Lemmas/ScopeDedup.lean is the
  neutral `dropNs` of Lemmas/CanonDropNs.lean).
-/

namespace XotModel

variable {env : Env}

theorem keeps_removeNamespacesAt (path : Path) (pfxs : List Nat) :
    ∀ t : Tree, t.allNodes (nodeOK env) = true → Keeps env (removeNamespacesAt t path pfxs) t := by
  induction pfxs with
  | nil => intro t h; exact Keeps.refl h
  | cons pfx rest ih =>
    intro t h
    simp only [removeNamespacesAt, List.foldl_cons]
    have h1 := keeps_scopeModifyAt (removeNsKidsOf pfx) (keeps_removeNsKidsOf pfx) path t h
    exact (ih _ h1.ok).trans h1

theorem keeps_applyFixups (fps : List (Path × List Nat)) :
    ∀ t : Tree, t.allNodes (nodeOK env) = true → Keeps env (applyFixups t fps) t := by
  induction fps with
  | nil => intro t h; exact Keeps.refl h
  | cons fp rest ih =>
    intro t h
    simp only [applyFixups, List.foldl_cons]
    have h1 := keeps_removeNamespacesAt fp.1 fp.2 t h
    exact (ih _ h1.ok).trans h1

theorem keeps_dedupLoop (path : Path) (fuel : Nat) (t : Tree) (h : t.allNodes (nodeOK env) = true) :
    Keeps env (dedupLoop env path fuel t) t :=
  dedupLoop_rel env path (R := fun a b => b.allNodes (nodeOK env) = true → Keeps env a b)
    (I := fun _ => True) (fun _ h => Keeps.refl h) (fun h1 h2 hc => (h1 (h2 hc).ok).trans (h2 hc))
    (fun t _ _ _ => ⟨fun h => keeps_applyFixups _ t h, trivial⟩) fuel t trivial h

/-- `deduplicate_namespaces` (any node, whatever the traversals decided to remove) is an edit that
    stays in the C01 domain. -/
theorem keeps_deduplicateNamespaces (t t' : Tree) (path : Path) (hok : t.allNodes (nodeOK env) = true)
    (h : deduplicateNamespaces env t path = some t') : Keeps env t' t := by
  unfold deduplicateNamespaces at h
  split at h
  · cases h
  · simp only [Option.some.injEq] at h
    subst h
    exact keeps_dedupLoop path _ t hok

theorem representable_deduplicateNamespaces (t t' : Tree) (path : Path) (hr : Representable env t = true)
    (h : deduplicateNamespaces env t path = some t') : Representable env t' = true := by
  exact representable_of_keeps hr (keeps_deduplicateNamespaces t t' path
    ((representableFragment_iff env t).mp ((representable_iff _ t).mp hr).1).2.2.1 h)

theorem representableFragment_deduplicateNamespaces (t t' : Tree) (path : Path)
    (hr : RepresentableFragment env t = true)
    (h : deduplicateNamespaces env t path = some t') : RepresentableFragment env t' = true :=
  representableFragment_of_keeps hr
    (keeps_deduplicateNamespaces t t' path ((representableFragment_iff env t).mp hr).2.2.1 h)

mutual
theorem stripNs_eq_dropNs : ∀ t : Tree, stripNs t = dropNs t
  | .node v ks => by simp only [stripNs, dropNs, stripNsList_eq_dropNsList ks]
theorem stripNsList_eq_dropNsList : ∀ ks : List Tree, stripNs.stripNsList ks = dropNsList ks
  | [] => by simp [stripNs.stripNsList, dropNsList]
  | k :: ks => by
    simp only [stripNs.stripNsList, dropNsList, stripNs_eq_dropNs k, stripNsList_eq_dropNsList ks]
end

/-- Two `nodeOK` trees with the same skeleton (namespace nodes erased) are `deep_equal`. -/
theorem deepEqual_of_stripNs {a b : Tree} (ha : a.allNodes (nodeOK env) = true)
    (hb : b.allNodes (nodeOK env) = true) (h : stripNs a = stripNs b) : deepEqual a b = true :=
  deepEqual_of_dropNs a b (valid_of_nodeOK a ha) (valid_of_nodeOK b hb)
    (by rw [← stripNs_eq_dropNs, ← stripNs_eq_dropNs, h])

end XotModel

/-! ### The C01 domain meets the hypotheses of C15

  The C01 domain meets the hypothesis of the C15 theorems: a tree that
  is `nodeOK` everywhere (`Representable`, `RepresentableFragment`) declares no prefix twice on any
  element (`UniqueKids` is part of `nodeOK`), and only its elements carry namespace nodes (`KindsOk`).
-/

namespace XotModel
open ScopePath

variable {env : Env}

theorem uniqueDeclsBelow_of_allNodes (t : Tree) (h : t.allNodes (nodeOK env) = true) :
    UniqueDeclsBelow t := by
  intro q e hq _
  obtain ⟨v, ks⟩ := e
  obtain ⟨_, _, hu, _, _⟩ := nodeOK_root (allNodes_at? q t _ h hq)
  exact hu.2.sublist (Repair.keys_declsOfKids_sublist ks)

theorem declsOfKids_of_all_normal : ∀ ks : List Tree, (∀ k ∈ ks, k.value.isNormal = true) →
    declsOfKids ks = []
  | [], _ => rfl
  | k :: ks, h => by
    apply declsOfKids_not_namespace
    have := h k (List.mem_cons_self ..)
    intro hc
    obtain ⟨p, n, hv⟩ := (category_namespace_iff_ex _).1 hc
    rw [hv] at this
    simp [Value.isNormal, Value.category] at this

mutual
theorem onlyElementsDeclare_of_allNodes : ∀ (t : Tree), t.allNodes (nodeOK env) = true →
    OnlyElementsDeclare t
  | .node v ks, h => by
    unfold OnlyElementsDeclare
    rw [Tree.Forall]
    refine ⟨fun he => ?_, onlyElementsDeclareList_of_allNodes ks (fun k hk => allNodes_kid h hk)⟩
    obtain ⟨_, hkind, _, _, _⟩ := nodeOK_root h
    rw [nsDecls_node]
    exact declsOfKids_of_all_normal ks (hkind.2.1 he)
theorem onlyElementsDeclareList_of_allNodes : ∀ (ks : List Tree),
    (∀ k ∈ ks, k.allNodes (nodeOK env) = true) →
    Tree.Forall.forallList (fun v ks => v.isElement = false → (Tree.node v ks).nsDecls = []) ks
  | [], _ => trivial
  | k :: ks, h => by
    rw [Tree.Forall.forallList]
    exact ⟨onlyElementsDeclare_of_allNodes k (h k (List.mem_cons_self ..)),
      onlyElementsDeclareList_of_allNodes ks (fun k' hk' => h k' (List.mem_cons_of_mem _ hk'))⟩
end

theorem OnlyElementsDeclare.at : ∀ (q : Path) (t e : Tree), OnlyElementsDeclare t → t.at? q = some e →
    OnlyElementsDeclare e
  | [], t => by
    intro e h hq
    cases hq; exact h
  | i :: q, .node v ks => by
    intro e h hq
    obtain ⟨k, hk, hq'⟩ := at?_cons_eq_some.1 hq
    unfold OnlyElementsDeclare at h
    rw [Tree.forall_node] at h
    exact OnlyElementsDeclare.at q k e (h.2 k (List.mem_of_getElem? hk)) hq'

theorem onlyElementsDeclare_of_representableFragment {t : Tree} (hr : RepresentableFragment env t = true) :
    OnlyElementsDeclare t :=
  onlyElementsDeclare_of_allNodes t ((representableFragment_iff env t).mp hr).2.2.1

theorem uniqueDeclsBelow_of_representableFragment {t : Tree} (hr : RepresentableFragment env t = true) :
    UniqueDeclsBelow t :=
  uniqueDeclsBelow_of_allNodes t ((representableFragment_iff env t).mp hr).2.2.1

theorem uniqueDeclsBelow_of_representable {t : Tree} (hr : Representable env t = true) :
    UniqueDeclsBelow t :=
  uniqueDeclsBelow_of_representableFragment ((representable_iff _ t).mp hr).1

end XotModel

/-! ### Inner start nodes

  Glue between `deduplicate_namespaces` (C15) and the round trip of an
  INNER start node (`standalone`, Model/InnerStartSpec.lean; Lemmas/InnerStart*.lean).

  The call only deletes namespace nodes (`stripNs t' = stripNs t`).  The raw path of a node may shift, so
  nodes before and after are matched by their position in `startPaths` (Lemmas/DedupSerialise.lean).  Here:
  two trees with the same skeleton have, position by position of `startPaths`, subtrees with the same
  skeleton (`startPaths_match`): the list of skeletons of the start nodes is a function of the skeleton
  of the tree (`startPaths_strip`, `preSubs`).
-/

namespace XotModel
open ScopePath

/-- All subtrees in document order (pre-order). -/
def preSubs : Tree → List Tree
  | .node v ks => .node v ks :: preSubsList ks
where
  preSubsList : List Tree → List Tree
    | [] => []
    | k :: ks => preSubs k ++ preSubsList ks

mutual
/-- The skeletons of the start nodes of `x`, in `startPaths` order, are the subtrees of the skeleton of
    `x` in document order. -/
theorem startPaths_strip : ∀ (x : Tree),
    (startPaths x).map (fun q => (x.at? q).map stripNs) = (preSubs (stripNs x)).map some
  | .node v ks => by
    have := startPathsList_strip ks v []
    simp only [List.nil_append, List.length_nil] at this
    simp only [startPaths, List.map_cons, Tree.at?, Option.map_some, stripNs, preSubs, this]
theorem startPathsList_strip : ∀ (ks : List Tree) (v : Value) (done : List Tree),
    (startPaths.startPathsList done.length ks).map
        (fun q => ((Tree.node v (done ++ ks)).at? q).map stripNs) =
      (preSubs.preSubsList (stripNs.stripNsList ks)).map some
  | [], _, _ => rfl
  | k :: ks, v, done => by
    have ih := startPathsList_strip ks v (done ++ [k])
    simp only [List.append_assoc, List.singleton_append, List.length_append, List.length_cons,
      List.length_nil, Nat.zero_add] at ih
    simp only [startPaths.startPathsList, stripNs.stripNsList]
    split
    · exact ih
    · have hk : (done ++ k :: ks)[done.length]? = some k := by
        rw [List.getElem?_append_right (Nat.le_refl _), Nat.sub_self]
        rfl
      simp only [preSubs.preSubsList]
      rw [List.map_append, List.map_append, ih, List.map_map]
      congr 1
      rw [← startPaths_strip k]
      apply List.map_congr_left
      intro r _
      simp only [Function.comp, Tree.at?, hk]
end

theorem dis_stripNs_value (t : Tree) : (stripNs t).value = t.value := by
  cases t with | node v ks => rfl

theorem startPaths_match {t t' : Tree} (h : stripNs t' = stripNs t) (i : Nat) (q q' : Path)
    (hq : (startPaths t)[i]? = some q) (hq' : (startPaths t')[i]? = some q') :
    ∃ s s', t.at? q = some s ∧ t'.at? q' = some s' ∧ stripNs s' = stripNs s := by
  have e := startPaths_strip t
  have e' := startPaths_strip t'
  rw [h] at e'
  obtain ⟨x, hx, hs⟩ := getElem?_of_map_eq_map_some e hq
  obtain ⟨x', hx', hs'⟩ := getElem?_of_map_eq_map_some e' hq'
  cases hx.symm.trans hx'
  obtain ⟨s, h1, h2⟩ := Option.map_eq_some_iff.1 hs
  obtain ⟨s', h1', h2'⟩ := Option.map_eq_some_iff.1 hs'
  exact ⟨s, s', h1, h1', h2'.trans h2.symm⟩

theorem startPaths_at? (t : Tree) (i : Nat) (q : Path) (hq : (startPaths t)[i]? = some q) :
    ∃ s, t.at? q = some s := by
  obtain ⟨s, _, h, _, _⟩ := startPaths_match (t := t) (t' := t) rfl i q q hq hq
  exact ⟨s, h⟩

theorem stripNsList_nsLeaves_append (X : List (Nat × Nat)) (ks : List Tree) :
    stripNs.stripNsList (nsLeaves X ++ ks) = stripNs.stripNsList ks := by
  rw [stripNsList_eq_dropNsList, stripNsList_eq_dropNsList, dropNsList_nsLeaves_append]

theorem stripNs_standalone_doc (name : Nat) (X : List (Nat × Nat)) (ks : List Tree) :
    stripNs (.node .document [.node (.element name) (nsLeaves X ++ ks)]) =
      .node .document [stripNs (.node (.element name) ks)] := by
  simp [stripNs, stripNs.stripNsList, stripNsList_nsLeaves_append, Value.category, Tree.value]

/-! ### A start node that is not strictly inside the call's subtree keeps its path -/

/-- Modifying below `path` by a namespace-node deletion: a node at `q` that is not strictly inside the subtree
    at `path` is found at `q` afterwards, shrunk. -/
theorem at?_scopeModifyAt_outside (f : Tree → Tree) (hf : ∀ k, NsShrink (f k) k) :
    ∀ (path : Path) (t : Tree) (q : Path) (s : Tree), (∀ r, q = path ++ r → r = []) → t.at? q = some s →
      ∃ s', (scopeModifyAt f t path).at? q = some s' ∧ NsShrink s' s := by
  intro path
  induction path with
  | nil =>
    intro t q s hq hat
    have : q = [] := hq q rfl
    subst this
    cases hat
    exact ⟨f t, by simp [scopeModifyAt, Tree.at?], hf t⟩
  | cons i p ih =>
    intro t q s hq hat
    obtain ⟨v, ks⟩ := t
    cases q with
    | nil =>
      cases hat
      exact ⟨_, rfl, NsShrink.scopeModifyAt f hf (i :: p) _⟩
    | cons j q2 =>
      obtain ⟨k, hk, hat'⟩ := at?_cons_eq_some.1 hat
      by_cases hji : j = i
      · subst hji
        have hq2 : ∀ r, q2 = p ++ r → r = [] := fun r h => hq r (by rw [h]; rfl)
        obtain ⟨s', h1, h2⟩ := ih k q2 s hq2 hat'
        refine ⟨s', ?_, h2⟩
        simp only [scopeModifyAt, Tree.at?, List.getElem?_modify_eq, hk]
        exact h1
      · refine ⟨s, ?_, NsShrink.refl s⟩
        simp only [scopeModifyAt, Tree.at?]
        rw [List.getElem?_modify_ne _ ks (fun h => hji h.symm), hk]
        exact hat'

theorem NsShrink.dpWalk_nil (env : Env) (k : Tree) : NsShrink (dpWalk env [] k) k := by
  have := NsShrink.dedupPass env k [] k
  rw [dedupPass_eq env k [] k rfl] at this
  exact this

theorem dedupLoop_at?_outside (env : Env) (path q : Path) (hq : ∀ r, q = path ++ r → r = [])
    (fuel : Nat) (t s : Tree) (hat : t.at? q = some s) :
    ∃ s', (dedupLoop env path fuel t).at? q = some s' ∧ NsShrink s' s :=
  dedupLoop_rel env path
    (R := fun a b => ∀ s, b.at? q = some s → ∃ s', a.at? q = some s' ∧ NsShrink s' s)
    (I := fun _ => True) (fun _ s h => ⟨s, h, NsShrink.refl s⟩)
    (fun h1 h2 s h => by
      obtain ⟨s1, h11, h12⟩ := h2 s h
      obtain ⟨s', h21, h22⟩ := h1 s1 h11
      exact ⟨s', h21, h22.trans h12⟩)
    (fun t sub hs _ => ⟨fun s hat => by
      rw [dedupPass_eq env t path sub hs]
      exact at?_scopeModifyAt_outside _ (NsShrink.dpWalk_nil env) path t q s hq hat, trivial⟩)
    fuel t trivial s hat

/-- `deduplicate_namespaces(node)`: a node that is not strictly inside the subtree of `node` keeps its raw
    path; its subtree differs in namespace nodes only. -/
theorem deduplicateNamespaces_at?_outside (env : Env) (t t' : Tree) (path : Path)
    (hd : deduplicateNamespaces env t path = some t') (q : Path) (hq : ∀ r, q = path ++ r → r = [])
    (s : Tree) (hat : t.at? q = some s) : ∃ s', t'.at? q = some s' ∧ NsShrink s' s := by
  unfold deduplicateNamespaces at hd
  split at hd
  · cases hd
  · simp only [Option.some.injEq] at hd
    subst hd
    exact dedupLoop_at?_outside env path q hq _ t s hat

end XotModel
