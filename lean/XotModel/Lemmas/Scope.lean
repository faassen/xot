/-
  One scope function behind the implementations of nameaccess.rs.

  `allDecls chain` is the list of all declarations visible from a node (nearest element first,
  node order inside an element, then the base `xml` binding).  Nearest-declaration-wins scoping
  is `lookup` in that list; the seen-list walk of `namespace_traverse`, the ancestor walks of
  `namespace_for_prefix` / `prefix_for_namespace` are characterised against it.  For the serialiser:
  what `has_default_namespace` means in the frames, and `namespaces_in_scope` never yields a prefix
  twice.
-/
import XotModel.Model.Scope
import XotModel.Lemmas.FStack
import XotModel.Lemmas.ScopePath

/-! ### The chain queries -/

namespace XotModel
open ScopePath

/-- Declarations along the chain, nearest first. -/
def flatDecls (chain : List Tree) : List (Nat × Nat) := chain.flatMap Tree.nsDecls

/-- … followed by the base prefixes. -/
def allDecls (chain : List Tree) : List (Nat × Nat) := flatDecls chain ++ basePrefixes

/-- What a declaration `(p, ns)` binds `p` to: `xmlns=""` binds nothing. -/
def bindingOf (p ns : Nat) : Option Nat :=
  if p == Env.emptyPrefix && ns == Env.noNamespace then none else some ns

theorem flatDecls_cons (a : Tree) (rest : List Tree) :
    flatDecls (a :: rest) = a.nsDecls ++ flatDecls rest := by
  simp [flatDecls]

theorem allDecls_cons (a : Tree) (rest : List Tree) :
    allDecls (a :: rest) = a.nsDecls ++ allDecls rest := by
  simp [allDecls, flatDecls_cons]

theorem allDecls_nil : allDecls [] = basePrefixes := by simp [allDecls, flatDecls]

theorem scopeSpecChain_eq (chain : List Tree) (p : Nat) :
    scopeSpecChain chain p = ((allDecls chain).lookup p).bind (bindingOf p) := by
  induction chain with
  | nil =>
    simp only [scopeSpecChain, allDecls_nil, basePrefixes, List.lookup_cons, List.lookup_nil]
    by_cases h : p = Env.xmlPrefix
    · subst h; simp [bindingOf, Env.xmlPrefix, Env.xmlNamespace, Env.emptyPrefix]
    · have : (p == Env.xmlPrefix) = false := beq_false_of_ne h
      simp [this]
  | cons a rest ih =>
    simp only [scopeSpecChain, allDecls_cons, List.lookup_append]
    cases h : a.nsDecls.lookup p with
    | none => simp [ih]
    | some ns => simp [bindingOf]

/-! ### `namespace_traverse` -/

theorem traverseDecls_nil (seen : List Nat) : traverseDecls seen [] = (seen, []) := rfl

theorem traverseDecls_cons_seen (seen : List Nat) (p n : Nat) (rest : List (Nat × Nat))
    (h : seen.contains p = true) : traverseDecls seen ((p, n) :: rest) = traverseDecls seen rest := by
  rw [traverseDecls]
  simp only [h, if_true]

theorem traverseDecls_cons_new (seen : List Nat) (p n : Nat) (rest : List (Nat × Nat))
    (h : ¬ seen.contains p = true) :
    traverseDecls seen ((p, n) :: rest) =
      ((traverseDecls (seen ++ [p]) rest).1,
       if ((p == Env.emptyPrefix) && (n == Env.noNamespace)) = true then (traverseDecls (seen ++ [p]) rest).2
       else (p, n) :: (traverseDecls (seen ++ [p]) rest).2) := by
  rw [traverseDecls]
  simp only [h]
  cases traverseDecls (seen ++ [p]) rest
  rfl

theorem bindingOf_eq_some {p n ns : Nat} : bindingOf p n = some ns ↔ n = ns ∧ ¬(p = Env.emptyPrefix ∧ n = Env.noNamespace) := by
  unfold bindingOf
  by_cases h : p = Env.emptyPrefix ∧ n = Env.noNamespace
  · simp [h]
  · have : ((p == Env.emptyPrefix) && (n == Env.noNamespace)) = false := by
      simpa using h
    simp [this, h]

theorem traverseDecls_seen_sc (l : List (Nat × Nat)) : ∀ (seen : List Nat) (q : Nat),
    q ∈ (traverseDecls seen l).1 ↔ q ∈ seen ∨ q ∈ l.map Prod.fst := by
  induction l with
  | nil => intro seen q; simp [traverseDecls_nil]
  | cons d rest ih =>
    obtain ⟨p, n⟩ := d
    intro seen q
    rw [List.map_cons, List.mem_cons]
    by_cases h : seen.contains p = true
    · rw [traverseDecls_cons_seen seen p n rest h, ih]
      have hp : q = p → q ∈ seen := fun e => e ▸ List.contains_iff_mem.1 h
      constructor
      · exact Or.imp_right .inr
      · exact fun h1 => h1.elim .inl (fun h2 => h2.elim (.inl ∘ hp) .inr)
    · rw [traverseDecls_cons_new seen p n rest h]
      simp only [ih, List.mem_append, List.mem_singleton, or_assoc]

theorem bindingOf_self {p ns : Nat} :
    bindingOf p ns = some ns ↔ ((p == Env.emptyPrefix) && (ns == Env.noNamespace)) = false := by
  unfold bindingOf
  cases (p == Env.emptyPrefix) && (ns == Env.noNamespace) <;> simp

/-- What the loop yields: the first declaration of every prefix not seen before, unless it is
    `xmlns=""`. -/
theorem traverseDecls_out_mem (l : List (Nat × Nat)) : ∀ (seen : List Nat) (p ns : Nat),
    (p, ns) ∈ (traverseDecls seen l).2 ↔
      p ∉ seen ∧ l.lookup p = some ns ∧ bindingOf p ns = some ns := by
  induction l with
  | nil => intro seen p ns; simp [traverseDecls_nil]
  | cons d rest ih =>
    obtain ⟨k, v⟩ := d
    intro seen p ns
    rw [List.lookup_cons]
    by_cases h : seen.contains k = true
    · rw [traverseDecls_cons_seen seen k v rest h, ih]
      refine and_congr_right fun hp => ?_
      have : (p == k) = false := beq_false_of_ne fun e => hp (e ▸ List.contains_iff_mem.1 h)
      rw [this]
    · rw [traverseDecls_cons_new seen k v rest h]
      by_cases hpk : p = k
      · subst hpk
        have hk : p ∉ seen := mt List.contains_iff_mem.2 h
        -- `p` is recorded as seen for the rest of the list
        have hnot : (p, ns) ∉ (traverseDecls (seen ++ [p]) rest).2 := fun hx =>
          ((ih _ _ _).1 hx).1 (List.mem_append_right _ (List.mem_cons_self ..))
        rw [beq_self_eq_true, bindingOf_self]
        cases hc : (p == Env.emptyPrefix) && (v == Env.noNamespace) with
        | true =>
          refine ⟨fun hx => absurd hx hnot, ?_⟩
          rintro ⟨_, h2, h3⟩
          cases h2
          rw [hc] at h3
          cases h3
        | false =>
          simp only [Bool.false_eq_true, if_false, List.mem_cons, Prod.mk.injEq, true_and]
          constructor
          · rintro (rfl | hx)
            · exact ⟨hk, rfl, hc⟩
            · exact absurd hx hnot
          · rintro ⟨_, h2, _⟩
            cases h2
            exact .inl rfl
      · have hmem : (p, ns) ∈ (if ((k == Env.emptyPrefix) && (v == Env.noNamespace)) = true
            then (traverseDecls (seen ++ [k]) rest).2
            else (k, v) :: (traverseDecls (seen ++ [k]) rest).2) ↔
            (p, ns) ∈ (traverseDecls (seen ++ [k]) rest).2 := by
          split
          · rfl
          · simp [hpk]
        simp only [hmem, ih, beq_false_of_ne hpk, List.mem_append, List.mem_singleton, hpk, or_false]

theorem traverseDecls_out_nodup (l : List (Nat × Nat)) : ∀ (seen : List Nat),
    ((traverseDecls seen l).2.map Prod.fst).Nodup := by
  induction l with
  | nil => intro seen; simp [traverseDecls_nil]
  | cons d rest ih =>
    obtain ⟨k, v⟩ := d
    intro seen
    by_cases h : seen.contains k = true
    · rw [traverseDecls_cons_seen seen k v rest h]; exact ih seen
    · rw [traverseDecls_cons_new seen k v rest h]
      split
      · exact ih _
      · rw [List.map_cons, List.nodup_cons]
        refine ⟨fun hk => ?_, ih _⟩
        obtain ⟨⟨k', x⟩, hx, rfl⟩ := List.mem_map.1 hk
        exact ((traverseDecls_out_mem rest _ k' x).1 hx).1
          (List.mem_append_right _ (List.mem_cons_self ..))

theorem traverseDecls_append (l1 l2 : List (Nat × Nat)) : ∀ (seen : List Nat),
    traverseDecls seen (l1 ++ l2) =
      ((traverseDecls (traverseDecls seen l1).1 l2).1,
       (traverseDecls seen l1).2 ++ (traverseDecls (traverseDecls seen l1).1 l2).2) := by
  induction l1 with
  | nil => intro seen; rfl
  | cons d rest ih =>
    obtain ⟨k, v⟩ := d
    intro seen
    by_cases h : seen.contains k = true
    · simp only [List.cons_append, traverseDecls_cons_seen seen k v _ h, ih]
    · simp only [List.cons_append, traverseDecls_cons_new seen k v _ h, ih]
      split <;> rfl

theorem traverseChain_eq (chain : List Tree) : ∀ (seen : List Nat),
    traverseChain seen chain = traverseDecls seen (flatDecls chain) := by
  induction chain with
  | nil => intro seen; simp [traverseChain, flatDecls, traverseDecls_nil]
  | cons a rest ih =>
    intro seen
    simp only [traverseChain, flatDecls_cons, traverseDecls_append, ih]

/-- `namespaces_in_scope` is one seen-list pass over `allDecls`. -/
theorem namespacesInScopeChain_eq (chain : List Tree) :
    namespacesInScopeChain chain = (traverseDecls [] (allDecls chain)).2 := by
  simp only [namespacesInScopeChain, traverseChain_eq, allDecls, traverseDecls_append, basePrefixes]
  congr 1
  by_cases h : Env.xmlPrefix ∈ (traverseDecls [] (flatDecls chain)).1
  · rw [traverseDecls_cons_seen _ _ _ _ (List.contains_iff_mem.2 h)]; simp [traverseDecls_nil, h]
  · rw [traverseDecls_cons_new _ _ _ _ (mt List.contains_iff_mem.1 h)]
    have h' : ¬ 1 ∈ (traverseDecls [] (flatDecls chain)).fst := h
    simp [traverseDecls_nil, h', Env.xmlPrefix, Env.emptyPrefix]

theorem scopeSpecChain_eq_some_iff {chain : List Tree} {p ns : Nat} :
    scopeSpecChain chain p = some ns ↔
      (allDecls chain).lookup p = some ns ∧ ¬ (p = Env.emptyPrefix ∧ ns = Env.noNamespace) := by
  rw [scopeSpecChain_eq]
  cases (allDecls chain).lookup p with
  | none => simp
  | some n =>
    rw [Option.bind_some, bindingOf_eq_some, Option.some.injEq]
    exact ⟨fun h => ⟨h.1, h.1 ▸ h.2⟩, fun h => ⟨h.1, h.1 ▸ h.2⟩⟩

theorem mem_namespacesInScopeChain (chain : List Tree) (p ns : Nat) :
    (p, ns) ∈ namespacesInScopeChain chain ↔ scopeSpecChain chain p = some ns := by
  rw [namespacesInScopeChain_eq, traverseDecls_out_mem, scopeSpecChain_eq_some_iff, bindingOf_eq_some]
  exact ⟨fun h => ⟨h.2.1, h.2.2.2⟩, fun h => ⟨List.not_mem_nil, h.1, rfl, h.2⟩⟩

theorem namespacesInScopeChain_nodup (chain : List Tree) :
    ((namespacesInScopeChain chain).map Prod.fst).Nodup := by
  rw [namespacesInScopeChain_eq]; exact traverseDecls_out_nodup _ _

/-- The scope of a node from the scope of its ancestors: the node's first declaration of a prefix decides
    (`xmlns=""` takes the empty prefix out of scope), an undeclared prefix is inherited. -/
theorem mem_namespacesInScopeChain_cons (a : Tree) (rest : List Tree) (p n : Nat) :
    (p, n) ∈ namespacesInScopeChain (a :: rest) ↔
      match a.nsDecls.lookup p with
      | some m => m = n ∧ ¬ (p = Env.emptyPrefix ∧ m = Env.noNamespace)
      | none => (p, n) ∈ namespacesInScopeChain rest := by
  rw [mem_namespacesInScopeChain, mem_namespacesInScopeChain, scopeSpecChain]
  cases a.nsDecls.lookup p with
  | none => rfl
  | some m =>
    dsimp only
    by_cases hu : (p == Env.emptyPrefix && m == Env.noNamespace) = true
    · rw [if_pos hu]
      simp only [Bool.and_eq_true, beq_iff_eq] at hu
      exact ⟨fun h => (by cases h), fun h => absurd hu h.2⟩
    · rw [if_neg hu]
      simp only [Bool.and_eq_true, beq_iff_eq] at hu
      exact ⟨fun h => ⟨Option.some.inj h, hu⟩, fun h => congrArg some h.1⟩

theorem namespacesInScopeChain_cons_nil (a : Tree) (rest : List Tree) (h : a.nsDecls = []) :
    namespacesInScopeChain (a :: rest) = namespacesInScopeChain rest := by
  simp [namespacesInScopeChain, traverseChain, h, traverseDecls]

/-! ### `namespace_for_prefix`, `is_prefix_defined` -/

/-- `namespace_for_prefix` IS the nearest-declaration-wins binding (as of /repo debae56: only
    `xmlns=""` hides). -/
theorem namespaceForPrefixChain_eq (chain : List Tree) (p : Nat) :
    namespaceForPrefixChain chain p = scopeSpecChain chain p := by
  induction chain with
  | nil =>
    simp only [namespaceForPrefixChain, scopeSpecChain, basePrefixes, List.lookup_cons, List.lookup_nil]
    cases p == Env.xmlPrefix <;> rfl
  | cons a rest ih =>
    simp only [namespaceForPrefixChain, scopeSpecChain, Tree.getNamespace, ih, Bool.and_comm]

theorem containsKey_eq_lookup (d : List (Nat × Nat)) (p : Nat) :
    containsKey d p = (d.lookup p).isSome := by
  rw [Bool.eq_iff_iff, lookup_isSome_iff_mem_keys, ← any_key_iff]
  rfl

theorem isPrefixDefinedChain_eq (chain : List Tree) (p : Nat) :
    isPrefixDefinedChain chain p = ((allDecls chain).lookup p).isSome := by
  induction chain with
  | nil => simp [isPrefixDefinedChain, allDecls_nil, containsKey_eq_lookup]
  | cons a rest ih =>
    simp only [isPrefixDefinedChain, allDecls_cons, List.lookup_append, containsKey_eq_lookup, ih]
    cases a.nsDecls.lookup p <;> simp

/-! ### `namespace_prefix` (`prefix_for_namespace` is the instance `nonEmpty = false`) -/

/-- May the loop return prefix `k`?  Not the empty prefix when `non_empty` is set. -/
def pfnUsable (ne : Bool) (k : Nat) : Bool := !(ne && k == Env.emptyPrefix)

@[simp] theorem pfnUsable_false (k : Nat) : pfnUsable false k = true := rfl

theorem pfnUsable_true_iff (k : Nat) : pfnUsable true k = true ↔ k ≠ Env.emptyPrefix := by
  simp [pfnUsable]

theorem pfnDecls_nil (ns : Nat) (ne : Bool) (seen : List Nat) : pfnDecls ns ne seen [] = .cont seen := rfl

theorem pfnDecls_cons_seen {ns : Nat} {ne : Bool} {seen : List Nat} {k v : Nat} {rest : List (Nat × Nat)}
    (h : k ∈ seen) : pfnDecls ns ne seen ((k, v) :: rest) = pfnDecls ns ne seen rest := by
  simp [pfnDecls, h]

theorem pfnDecls_cons_hit {ns : Nat} {ne : Bool} {seen : List Nat} {k v : Nat} {rest : List (Nat × Nat)}
    (h : k ∉ seen) (hu : pfnUsable ne k = true) (hv : v = ns) :
    pfnDecls ns ne seen ((k, v) :: rest) = .ret (some k) := by
  have hu' : (ne && k == Env.emptyPrefix) = false := (Bool.not_eq_true' _).mp hu
  simp [pfnDecls, h, hv, hu']

/-- A new prefix that is not returned (unusable, or bound to another namespace) is recorded. -/
theorem pfnDecls_cons_pass {ns : Nat} {ne : Bool} {seen : List Nat} {k v : Nat} {rest : List (Nat × Nat)}
    (h : k ∉ seen) (hn : ¬ (pfnUsable ne k = true ∧ v = ns)) :
    pfnDecls ns ne seen ((k, v) :: rest) = pfnDecls ns ne (k :: seen) rest := by
  rw [pfnDecls, if_neg (mt List.contains_iff_mem.1 h)]
  unfold pfnUsable at hn
  cases hu : (ne && k == Env.emptyPrefix)
  · have hv : (v == ns) = false := beq_false_of_ne fun e => hn ⟨by rw [hu]; rfl, e⟩
    simp only [hv, Bool.false_eq_true, if_false]
  · simp only [if_true]

/-- The result of a loop that ran to its end without returning is `None`. -/
def pfnResult : PfnStep → Option Nat
  | .ret r => r
  | .cont _ => none

/-- Two loops one after the other. -/
def pfnThen (s : PfnStep) (f : List Nat → PfnStep) : PfnStep :=
  match s with
  | .ret r => .ret r
  | .cont seen => f seen

theorem pfnDecls_append (ns : Nat) (ne : Bool) (l1 l2 : List (Nat × Nat)) : ∀ (seen : List Nat),
    pfnDecls ns ne seen (l1 ++ l2) =
      pfnThen (pfnDecls ns ne seen l1) (fun s => pfnDecls ns ne s l2) := by
  induction l1 with
  | nil => intro seen; rfl
  | cons d rest ih =>
    obtain ⟨k, v⟩ := d
    intro seen
    by_cases h : k ∈ seen
    · simp only [List.cons_append, pfnDecls_cons_seen h, ih]
    · by_cases hh : pfnUsable ne k = true ∧ v = ns
      · simp only [List.cons_append, pfnDecls_cons_hit h hh.1 hh.2, pfnThen]
      · simp only [List.cons_append, pfnDecls_cons_pass h hh, ih]

/-- `namespace_prefix` is one pass over `allDecls`. -/
theorem pfnChain_eq (ns : Nat) (ne : Bool) (chain : List Tree) : ∀ (seen : List Nat),
    pfnChain ns ne seen chain = pfnResult (pfnDecls ns ne seen (allDecls chain)) := by
  induction chain with
  | nil =>
    intro seen
    simp only [pfnChain, allDecls_nil]
    cases pfnDecls ns ne seen basePrefixes <;> rfl
  | cons a rest ih =>
    intro seen
    simp only [pfnChain, allDecls_cons, pfnDecls_append]
    cases pfnDecls ns ne seen a.nsDecls with
    | ret r => rfl
    | cont s => simp only [pfnThen, ih]

theorem namespacePrefixChain_eq (chain : List Tree) (ns : Nat) (ne : Bool) :
    namespacePrefixChain chain ns ne = pfnResult (pfnDecls ns ne [] (allDecls chain)) :=
  pfnChain_eq ns ne chain []

/-- Soundness: a returned prefix was not seen before, its first declaration binds it to `ns`,
    and it is not the empty prefix when `non_empty` is set. -/
theorem pfnDecls_sound (ns : Nat) (ne : Bool) (l : List (Nat × Nat)) : ∀ (seen : List Nat) (p : Nat),
    pfnDecls ns ne seen l = .ret (some p) →
      p ∉ seen ∧ l.lookup p = some ns ∧ pfnUsable ne p = true := by
  induction l with
  | nil => intro seen p h; cases h
  | cons d rest ih =>
    obtain ⟨k, v⟩ := d
    intro seen p h
    rw [List.lookup_cons]
    by_cases hk : k ∈ seen
    · rw [pfnDecls_cons_seen hk] at h
      obtain ⟨h1, h2, h3⟩ := ih _ _ h
      exact ⟨h1, by rw [beq_false_of_ne fun (e : p = k) => h1 (e ▸ hk)]; exact h2, h3⟩
    · by_cases hh : pfnUsable ne k = true ∧ v = ns
      · rw [pfnDecls_cons_hit hk hh.1 hh.2] at h
        cases h
        exact ⟨hk, by rw [beq_self_eq_true, hh.2], hh.1⟩
      · rw [pfnDecls_cons_pass hk hh] at h
        obtain ⟨h1, h2, h3⟩ := ih _ _ h
        rw [List.mem_cons, not_or] at h1
        exact ⟨h1.2, by rw [beq_false_of_ne h1.1]; exact h2, h3⟩

/-- Completeness: a usable prefix not seen before whose first declaration binds it to `ns` makes
    the loop return some prefix (shadowed prefixes are skipped, not fatal). -/
theorem pfnDecls_complete (ns : Nat) (ne : Bool) (l : List (Nat × Nat)) : ∀ (seen : List Nat),
    (∃ p, p ∉ seen ∧ l.lookup p = some ns ∧ pfnUsable ne p = true) →
      ∃ q, pfnDecls ns ne seen l = .ret (some q) := by
  induction l with
  | nil => intro seen ⟨p, _, hl, _⟩; cases hl
  | cons d rest ih =>
    obtain ⟨k, v⟩ := d
    intro seen ⟨p, hp, hl, hpu⟩
    rw [List.lookup_cons] at hl
    by_cases hk : k ∈ seen
    · rw [pfnDecls_cons_seen hk]
      rw [beq_false_of_ne fun (e : p = k) => hp (e ▸ hk)] at hl
      exact ih seen ⟨p, hp, hl, hpu⟩
    · by_cases hh : pfnUsable ne k = true ∧ v = ns
      · exact ⟨k, pfnDecls_cons_hit hk hh.1 hh.2⟩
      · rw [pfnDecls_cons_pass hk hh]
        -- `p` is not `k`: its first declaration is usable and binds it to `ns`
        have hpk : p ≠ k := fun e => by
          subst e
          rw [beq_self_eq_true] at hl
          exact hh ⟨hpu, Option.some.inj hl⟩
        rw [beq_false_of_ne hpk] at hl
        exact ih (k :: seen) ⟨p, by rw [List.mem_cons, not_or]; exact ⟨hpk, hp⟩, hl, hpu⟩

theorem pfnDecls_ret_some (ns : Nat) (ne : Bool) (l : List (Nat × Nat)) : ∀ (seen : List Nat) (r : Option Nat),
    pfnDecls ns ne seen l = .ret r → ∃ p, r = some p := by
  induction l with
  | nil => intro seen r h; cases h
  | cons d rest ih =>
    obtain ⟨k, v⟩ := d
    intro seen r h
    by_cases hk : k ∈ seen
    · rw [pfnDecls_cons_seen hk] at h; exact ih _ _ h
    · by_cases hh : pfnUsable ne k = true ∧ v = ns
      · rw [pfnDecls_cons_hit hk hh.1 hh.2] at h
        cases h
        exact ⟨k, rfl⟩
      · rw [pfnDecls_cons_pass hk hh] at h; exact ih _ _ h

/-! ### Facts about the specification -/

/-- `xmlns=""` is never reported as a binding. -/
theorem scopeSpecChain_empty_ne (chain : List Tree) :
    scopeSpecChain chain Env.emptyPrefix ≠ some Env.noNamespace :=
  fun h => (scopeSpecChain_eq_some_iff.1 h).2 ⟨rfl, rfl⟩

theorem scopeSpecChain_xml (chain : List Tree) : ∃ ns, scopeSpecChain chain Env.xmlPrefix = some ns := by
  rw [scopeSpecChain_eq]
  have : ∃ n, (allDecls chain).lookup Env.xmlPrefix = some n := by
    simp only [allDecls, List.lookup_append, basePrefixes, List.lookup_cons_self]
    cases (flatDecls chain).lookup Env.xmlPrefix <;> simp
  obtain ⟨n, hn⟩ := this
  exact ⟨n, by rw [hn]; simp [bindingOf, Env.xmlPrefix, Env.emptyPrefix]⟩

theorem scopeSpecChain_some_lookup {chain : List Tree} {p ns : Nat}
    (h : scopeSpecChain chain p = some ns) : (allDecls chain).lookup p = some ns :=
  (scopeSpecChain_eq_some_iff.1 h).1

theorem scopeSpecChain_of_lookup {chain : List Tree} {p ns : Nat}
    (h : (allDecls chain).lookup p = some ns) (hns : ns ≠ Env.noNamespace) :
    scopeSpecChain chain p = some ns :=
  scopeSpecChain_eq_some_iff.2 ⟨h, fun hc => hns hc.2⟩

end XotModel

/-! ### For the serialiser's stack -/

namespace XotModel

/-- `has_default_namespace` on a flattened scope: the nearest declaration of the empty prefix binds
    it to a namespace other than the no-namespace id. -/
theorem hasDefaultNamespace_iff {s : FStack} {fs : Frames} (hf : Flat s.top fs) :
    s.hasDefaultNamespace = true ↔
      ∃ n, lookupFrames fs Env.emptyPrefix = some n ∧ n ≠ Env.noNamespace := by
  rw [hasDefaultNamespace_top_iff]
  exact ⟨fun ⟨n, hn, hm⟩ => ⟨n, (hf.2 _ _).mp hm, hn⟩, fun ⟨n, hl, hn⟩ => ⟨n, hn, (hf.2 _ _).mpr hl⟩⟩

theorem namespacesInScope_unique (t : Tree) (start : Path) (d : List (Nat × Nat))
    (h : namespacesInScope t start = some d) : UniquePrefixes d := by
  unfold namespacesInScope at h
  cases hc : t.ancestorsOrSelf start with
  | none => simp [hc] at h
  | some chain =>
    simp only [hc, Option.map_some, Option.some.injEq] at h
    rw [← h]
    exact namespacesInScopeChain_nodup chain

theorem scopeSpec_of_chain {t : Tree} {path : Path} {chain : List Tree} (hc : t.ancestorsOrSelf path = some chain)
    (p : Nat) : scopeSpec t path p = scopeSpecChain chain p := by
  simp only [scopeSpec, hc]

theorem scopeSpec_eq_some {t : Tree} {path : Path} {p ns : Nat} (h : scopeSpec t path p = some ns) :
    ∃ chain, t.ancestorsOrSelf path = some chain ∧ scopeSpecChain chain p = some ns := by
  unfold scopeSpec at h
  cases hc : t.ancestorsOrSelf path with
  | none => rw [hc] at h; cases h
  | some chain => rw [hc] at h; exact ⟨chain, rfl, h⟩

end XotModel
