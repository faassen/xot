/-
  Generated by bin/witness_tokens.py (run from the repository root); do not edit.  Token lists of the closed
  witnesses used in Props/C02, C03, C17: exactly what xmlparser 0.13.6 (fragment tokenizer) returns for the
  quoted source texts.  The same texts are in the `build` suite's corpus, so every witness is replayed on the
  implementation on every run.
-/
import XotModel.Lemmas.ParseWitness

namespace XotModel.Witness
open XotModel

/-- `</a>` (4 bytes) -/
def strayClose : List Token :=
  [.elementEnd (.close ⟨[], 0⟩ ⟨['a'], 2⟩) ⟨['<', '/', 'a', '>'], 0⟩]
def strayCloseLen : Nat := 4
def strayCloseLex : Option Nat := none

/-- `<a/></a>` (8 bytes) -/
def emptyThenClose : List Token :=
  [.elementStart ⟨[], 0⟩ ⟨['a'], 1⟩ ⟨['<', 'a'], 0⟩,
   .elementEnd .empty ⟨['/', '>'], 2⟩,
   .elementEnd (.close ⟨[], 0⟩ ⟨['a'], 6⟩) ⟨['<', '/', 'a', '>'], 4⟩]
def emptyThenCloseLen : Nat := 8
def emptyThenCloseLex : Option Nat := none

/-- `<a xmlns:p='u' xmlns:q='u' p:x='1' q:x='2'/>` (44 bytes) -/
def dupExpanded : List Token :=
  [.elementStart ⟨[], 0⟩ ⟨['a'], 1⟩ ⟨['<', 'a'], 0⟩,
   .attribute ⟨['x', 'm', 'l', 'n', 's'], 3⟩ ⟨['p'], 9⟩ ⟨['u'], 12⟩ ⟨['x', 'm', 'l', 'n', 's', ':', 'p', '=', '\'', 'u', '\''], 3⟩,
   .attribute ⟨['x', 'm', 'l', 'n', 's'], 15⟩ ⟨['q'], 21⟩ ⟨['u'], 24⟩ ⟨['x', 'm', 'l', 'n', 's', ':', 'q', '=', '\'', 'u', '\''], 15⟩,
   .attribute ⟨['p'], 27⟩ ⟨['x'], 29⟩ ⟨['1'], 32⟩ ⟨['p', ':', 'x', '=', '\'', '1', '\''], 27⟩,
   .attribute ⟨['q'], 35⟩ ⟨['x'], 37⟩ ⟨['2'], 40⟩ ⟨['q', ':', 'x', '=', '\'', '2', '\''], 35⟩,
   .elementEnd .empty ⟨['/', '>'], 42⟩]
def dupExpandedLen : Nat := 44
def dupExpandedLex : Option Nat := none

/-- `<a xmlns:p='u' xmlns:p='v'/>` (28 bytes) -/
def prefixTwice : List Token :=
  [.elementStart ⟨[], 0⟩ ⟨['a'], 1⟩ ⟨['<', 'a'], 0⟩,
   .attribute ⟨['x', 'm', 'l', 'n', 's'], 3⟩ ⟨['p'], 9⟩ ⟨['u'], 12⟩ ⟨['x', 'm', 'l', 'n', 's', ':', 'p', '=', '\'', 'u', '\''], 3⟩,
   .attribute ⟨['x', 'm', 'l', 'n', 's'], 15⟩ ⟨['p'], 21⟩ ⟨['v'], 24⟩ ⟨['x', 'm', 'l', 'n', 's', ':', 'p', '=', '\'', 'v', '\''], 15⟩,
   .elementEnd .empty ⟨['/', '>'], 26⟩]
def prefixTwiceLen : Nat := 28
def prefixTwiceLex : Option Nat := none

/-- `<a><![CDATA[x\r\ny]]></a>` (23 bytes) -/
def cdataCrLf : List Token :=
  [.elementStart ⟨[], 0⟩ ⟨['a'], 1⟩ ⟨['<', 'a'], 0⟩,
   .elementEnd .open ⟨['>'], 2⟩,
   .cdata ⟨['x', '\r', '\n', 'y'], 12⟩ ⟨['<', '!', '[', 'C', 'D', 'A', 'T', 'A', '[', 'x', '\r', '\n', 'y', ']', ']', '>'], 3⟩,
   .elementEnd (.close ⟨[], 0⟩ ⟨['a'], 21⟩) ⟨['<', '/', 'a', '>'], 19⟩]
def cdataCrLfLen : Nat := 23
def cdataCrLfLex : Option Nat := none

/-- `<a xmlns:p='x&amp;y'/>` (22 bytes) -/
def uriRef : List Token :=
  [.elementStart ⟨[], 0⟩ ⟨['a'], 1⟩ ⟨['<', 'a'], 0⟩,
   .attribute ⟨['x', 'm', 'l', 'n', 's'], 3⟩ ⟨['p'], 9⟩ ⟨['x', '&', 'a', 'm', 'p', ';', 'y'], 12⟩ ⟨['x', 'm', 'l', 'n', 's', ':', 'p', '=', '\'', 'x', '&', 'a', 'm', 'p', ';', 'y', '\''], 3⟩,
   .elementEnd .empty ⟨['/', '>'], 20⟩]
def uriRefLen : Nat := 22
def uriRefLex : Option Nat := none

/-- `<x` (2 bytes) -/
def truncatedTag : List Token :=
  [.elementStart ⟨[], 0⟩ ⟨['x'], 1⟩ ⟨['<', 'x'], 0⟩]
def truncatedTagLen : Nat := 2
def truncatedTagLex : Option Nat := none

/-- `<a xmlns:p='u' p:xmlns='v'/>` (28 bytes) -/
def localXmlns : List Token :=
  [.elementStart ⟨[], 0⟩ ⟨['a'], 1⟩ ⟨['<', 'a'], 0⟩,
   .attribute ⟨['x', 'm', 'l', 'n', 's'], 3⟩ ⟨['p'], 9⟩ ⟨['u'], 12⟩ ⟨['x', 'm', 'l', 'n', 's', ':', 'p', '=', '\'', 'u', '\''], 3⟩,
   .attribute ⟨['p'], 15⟩ ⟨['x', 'm', 'l', 'n', 's'], 17⟩ ⟨['v'], 24⟩ ⟨['p', ':', 'x', 'm', 'l', 'n', 's', '=', '\'', 'v', '\''], 15⟩,
   .elementEnd .empty ⟨['/', '>'], 26⟩]
def localXmlnsLen : Nat := 28
def localXmlnsLex : Option Nat := none

/-- `<a><![CDATA[]]></a>` (19 bytes) -/
def emptyCdata : List Token :=
  [.elementStart ⟨[], 0⟩ ⟨['a'], 1⟩ ⟨['<', 'a'], 0⟩,
   .elementEnd .open ⟨['>'], 2⟩,
   .cdata ⟨[], 12⟩ ⟨['<', '!', '[', 'C', 'D', 'A', 'T', 'A', '[', ']', ']', '>'], 3⟩,
   .elementEnd (.close ⟨[], 0⟩ ⟨['a'], 17⟩) ⟨['<', '/', 'a', '>'], 15⟩]
def emptyCdataLen : Nat := 19
def emptyCdataLex : Option Nat := none

/-- `<p:a xmlns:p='u' b='x&#10;y'><!--c-->t&lt;<![CDATA[c]]></p:a>` (61 bytes) -/
def goodDoc : List Token :=
  [.elementStart ⟨['p'], 1⟩ ⟨['a'], 3⟩ ⟨['<', 'p', ':', 'a'], 0⟩,
   .attribute ⟨['x', 'm', 'l', 'n', 's'], 5⟩ ⟨['p'], 11⟩ ⟨['u'], 14⟩ ⟨['x', 'm', 'l', 'n', 's', ':', 'p', '=', '\'', 'u', '\''], 5⟩,
   .attribute ⟨[], 0⟩ ⟨['b'], 17⟩ ⟨['x', '&', '#', '1', '0', ';', 'y'], 20⟩ ⟨['b', '=', '\'', 'x', '&', '#', '1', '0', ';', 'y', '\''], 17⟩,
   .elementEnd .open ⟨['>'], 28⟩,
   .comment ⟨['c'], 33⟩ ⟨['<', '!', '-', '-', 'c', '-', '-', '>'], 29⟩,
   .text ⟨['t', '&', 'l', 't', ';'], 37⟩,
   .cdata ⟨['c'], 51⟩ ⟨['<', '!', '[', 'C', 'D', 'A', 'T', 'A', '[', 'c', ']', ']', '>'], 42⟩,
   .elementEnd (.close ⟨['p'], 57⟩ ⟨['a'], 59⟩) ⟨['<', '/', 'p', ':', 'a', '>'], 55⟩]
def goodDocLen : Nat := 61
def goodDocLex : Option Nat := none

/-- `<a/><b/>` (8 bytes) -/
def twoRoots : List Token :=
  [.elementStart ⟨[], 0⟩ ⟨['a'], 1⟩ ⟨['<', 'a'], 0⟩,
   .elementEnd .empty ⟨['/', '>'], 2⟩,
   .elementStart ⟨[], 0⟩ ⟨['b'], 5⟩ ⟨['<', 'b'], 4⟩,
   .elementEnd .empty ⟨['/', '>'], 6⟩]
def twoRootsLen : Nat := 8
def twoRootsLex : Option Nat := none

/-- `<a></b>` (7 bytes) -/
def mismatch : List Token :=
  [.elementStart ⟨[], 0⟩ ⟨['a'], 1⟩ ⟨['<', 'a'], 0⟩,
   .elementEnd .open ⟨['>'], 2⟩,
   .elementEnd (.close ⟨[], 0⟩ ⟨['b'], 5⟩) ⟨['<', '/', 'b', '>'], 3⟩]
def mismatchLen : Nat := 7
def mismatchLex : Option Nat := none

/-- `<a>&#0;</a>` (11 bytes) -/
def nonChar : List Token :=
  [.elementStart ⟨[], 0⟩ ⟨['a'], 1⟩ ⟨['<', 'a'], 0⟩,
   .elementEnd .open ⟨['>'], 2⟩,
   .text ⟨['&', '#', '0', ';'], 3⟩,
   .elementEnd (.close ⟨[], 0⟩ ⟨['a'], 9⟩) ⟨['<', '/', 'a', '>'], 7⟩]
def nonCharLen : Nat := 11
def nonCharLex : Option Nat := none

/-- `<a>&#+65;</a>` (13 bytes) -/
def signedRef : List Token :=
  [.elementStart ⟨[], 0⟩ ⟨['a'], 1⟩ ⟨['<', 'a'], 0⟩,
   .elementEnd .open ⟨['>'], 2⟩,
   .text ⟨['&', '#', '+', '6', '5', ';'], 3⟩,
   .elementEnd (.close ⟨[], 0⟩ ⟨['a'], 11⟩) ⟨['<', '/', 'a', '>'], 9⟩]
def signedRefLen : Nat := 13
def signedRefLex : Option Nat := none

/-- `<a xml:id='i'><b xml:id='  i '/></a>` (36 bytes) -/
def dupIdSpaces : List Token :=
  [.elementStart ⟨[], 0⟩ ⟨['a'], 1⟩ ⟨['<', 'a'], 0⟩,
   .attribute ⟨['x', 'm', 'l'], 3⟩ ⟨['i', 'd'], 7⟩ ⟨['i'], 11⟩ ⟨['x', 'm', 'l', ':', 'i', 'd', '=', '\'', 'i', '\''], 3⟩,
   .elementEnd .open ⟨['>'], 13⟩,
   .elementStart ⟨[], 0⟩ ⟨['b'], 15⟩ ⟨['<', 'b'], 14⟩,
   .attribute ⟨['x', 'm', 'l'], 17⟩ ⟨['i', 'd'], 21⟩ ⟨[' ', ' ', 'i', ' '], 25⟩ ⟨['x', 'm', 'l', ':', 'i', 'd', '=', '\'', ' ', ' ', 'i', ' ', '\''], 17⟩,
   .elementEnd .empty ⟨['/', '>'], 30⟩,
   .elementEnd (.close ⟨[], 0⟩ ⟨['a'], 34⟩) ⟨['<', '/', 'a', '>'], 32⟩]
def dupIdSpacesLen : Nat := 36
def dupIdSpacesLex : Option Nat := none

/-- `<a xml:id='  x   y '/>` (22 bytes) -/
def idSpaces : List Token :=
  [.elementStart ⟨[], 0⟩ ⟨['a'], 1⟩ ⟨['<', 'a'], 0⟩,
   .attribute ⟨['x', 'm', 'l'], 3⟩ ⟨['i', 'd'], 7⟩ ⟨[' ', ' ', 'x', ' ', ' ', ' ', 'y', ' '], 11⟩ ⟨['x', 'm', 'l', ':', 'i', 'd', '=', '\'', ' ', ' ', 'x', ' ', ' ', ' ', 'y', ' ', '\''], 3⟩,
   .elementEnd .empty ⟨['/', '>'], 20⟩]
def idSpacesLen : Nat := 22
def idSpacesLex : Option Nat := none

/-- `<p:a xmlns:p='u' xmlns:q='u'></q:a>` (35 bytes) -/
def endTagOtherPrefix : List Token :=
  [.elementStart ⟨['p'], 1⟩ ⟨['a'], 3⟩ ⟨['<', 'p', ':', 'a'], 0⟩,
   .attribute ⟨['x', 'm', 'l', 'n', 's'], 5⟩ ⟨['p'], 11⟩ ⟨['u'], 14⟩ ⟨['x', 'm', 'l', 'n', 's', ':', 'p', '=', '\'', 'u', '\''], 5⟩,
   .attribute ⟨['x', 'm', 'l', 'n', 's'], 17⟩ ⟨['q'], 23⟩ ⟨['u'], 26⟩ ⟨['x', 'm', 'l', 'n', 's', ':', 'q', '=', '\'', 'u', '\''], 17⟩,
   .elementEnd .open ⟨['>'], 28⟩,
   .elementEnd (.close ⟨['q'], 31⟩ ⟨['a'], 33⟩) ⟨['<', '/', 'q', ':', 'a', '>'], 29⟩]
def endTagOtherPrefixLen : Nat := 35
def endTagOtherPrefixLex : Option Nat := none

/-- `<a xmlns='u' xmlns:q='u'></q:a>` (31 bytes) -/
def endTagDefaultVsPrefix : List Token :=
  [.elementStart ⟨[], 0⟩ ⟨['a'], 1⟩ ⟨['<', 'a'], 0⟩,
   .attribute ⟨[], 0⟩ ⟨['x', 'm', 'l', 'n', 's'], 3⟩ ⟨['u'], 10⟩ ⟨['x', 'm', 'l', 'n', 's', '=', '\'', 'u', '\''], 3⟩,
   .attribute ⟨['x', 'm', 'l', 'n', 's'], 13⟩ ⟨['q'], 19⟩ ⟨['u'], 22⟩ ⟨['x', 'm', 'l', 'n', 's', ':', 'q', '=', '\'', 'u', '\''], 13⟩,
   .elementEnd .open ⟨['>'], 24⟩,
   .elementEnd (.close ⟨['q'], 27⟩ ⟨['a'], 29⟩) ⟨['<', '/', 'q', ':', 'a', '>'], 25⟩]
def endTagDefaultVsPrefixLen : Nat := 31
def endTagDefaultVsPrefixLex : Option Nat := none

/-- `<a xmlns:p='http://www.w3.org/XML/1998/namespace' p:id='  x   y '/>` (67 bytes) -/
def idViaOtherPrefix : List Token :=
  [.elementStart ⟨[], 0⟩ ⟨['a'], 1⟩ ⟨['<', 'a'], 0⟩,
   .attribute ⟨['x', 'm', 'l', 'n', 's'], 3⟩ ⟨['p'], 9⟩ ⟨['h', 't', 't', 'p', ':', '/', '/', 'w', 'w', 'w', '.', 'w', '3', '.', 'o', 'r', 'g', '/', 'X', 'M', 'L', '/', '1', '9', '9', '8', '/', 'n', 'a', 'm', 'e', 's', 'p', 'a', 'c', 'e'], 12⟩ ⟨['x', 'm', 'l', 'n', 's', ':', 'p', '=', '\'', 'h', 't', 't', 'p', ':', '/', '/', 'w', 'w', 'w', '.', 'w', '3', '.', 'o', 'r', 'g', '/', 'X', 'M', 'L', '/', '1', '9', '9', '8', '/', 'n', 'a', 'm', 'e', 's', 'p', 'a', 'c', 'e', '\''], 3⟩,
   .attribute ⟨['p'], 50⟩ ⟨['i', 'd'], 52⟩ ⟨[' ', ' ', 'x', ' ', ' ', ' ', 'y', ' '], 56⟩ ⟨['p', ':', 'i', 'd', '=', '\'', ' ', ' ', 'x', ' ', ' ', ' ', 'y', ' ', '\''], 50⟩,
   .elementEnd .empty ⟨['/', '>'], 65⟩]
def idViaOtherPrefixLen : Nat := 67
def idViaOtherPrefixLex : Option Nat := none

/-- `<a xmlns:p='http://www.w3.org/XML/1998/namespace' p:id=' x '><b xml:id='x'/></a>` (80 bytes) -/
def dupIdViaOtherPrefix : List Token :=
  [.elementStart ⟨[], 0⟩ ⟨['a'], 1⟩ ⟨['<', 'a'], 0⟩,
   .attribute ⟨['x', 'm', 'l', 'n', 's'], 3⟩ ⟨['p'], 9⟩ ⟨['h', 't', 't', 'p', ':', '/', '/', 'w', 'w', 'w', '.', 'w', '3', '.', 'o', 'r', 'g', '/', 'X', 'M', 'L', '/', '1', '9', '9', '8', '/', 'n', 'a', 'm', 'e', 's', 'p', 'a', 'c', 'e'], 12⟩ ⟨['x', 'm', 'l', 'n', 's', ':', 'p', '=', '\'', 'h', 't', 't', 'p', ':', '/', '/', 'w', 'w', 'w', '.', 'w', '3', '.', 'o', 'r', 'g', '/', 'X', 'M', 'L', '/', '1', '9', '9', '8', '/', 'n', 'a', 'm', 'e', 's', 'p', 'a', 'c', 'e', '\''], 3⟩,
   .attribute ⟨['p'], 50⟩ ⟨['i', 'd'], 52⟩ ⟨[' ', 'x', ' '], 56⟩ ⟨['p', ':', 'i', 'd', '=', '\'', ' ', 'x', ' ', '\''], 50⟩,
   .elementEnd .open ⟨['>'], 60⟩,
   .elementStart ⟨[], 0⟩ ⟨['b'], 62⟩ ⟨['<', 'b'], 61⟩,
   .attribute ⟨['x', 'm', 'l'], 64⟩ ⟨['i', 'd'], 68⟩ ⟨['x'], 72⟩ ⟨['x', 'm', 'l', ':', 'i', 'd', '=', '\'', 'x', '\''], 64⟩,
   .elementEnd .empty ⟨['/', '>'], 74⟩,
   .elementEnd (.close ⟨[], 0⟩ ⟨['a'], 78⟩) ⟨['<', '/', 'a', '>'], 76⟩]
def dupIdViaOtherPrefixLen : Nat := 80
def dupIdViaOtherPrefixLex : Option Nat := none

end XotModel.Witness
