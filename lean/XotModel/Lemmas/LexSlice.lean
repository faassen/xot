/-
  The slice theorem of the reference tokenizer, for ALL inputs (well-formed or not): every span of
  every token is a byte slice of the source (`StrSpan.SliceOf`), a prefix abuts its local name, start
  tags are bracketed (`TagsOk`, `NoStrayClose`), a reported error position is a char boundary: the
  token-shape contract `TokenShape` holds of the tokenizer's output.  `SWf`: the stream lies in the
  source; `Good`: one parser; `TokStep` / `SkipStep`: one call of `parse_next_impl`; then the loop.
-/
import XotModel.Lemmas.ParseSpans
import XotModel.Model.Lex

/-! ### Slicing a string by byte offsets

  `sliceBytes`: the `List Char` analogue of Rust's
  `s.get(start..stop)` (byte offsets; `none` unless both offsets are char boundaries of `s` with
  `start ≤ stop ≤ s.len()`), and the fact that a span which is a slice of the source
  (`StrSpan.SliceOf`, Lemmas/ParseSpans.lean) is recovered by it.
-/

namespace XotModel

/-- Drop the characters whose UTF-8 lengths sum to exactly `n` bytes (`s.get(n..)`):
    `none` when `n` is not a char boundary of the text. -/
def dropBytes : Nat → Str → Option Str
  | n, [] => if n = 0 then some [] else none
  | n, c :: cs =>
    if n = 0 then some (c :: cs)
    else if utf8Len c ≤ n then dropBytes (n - utf8Len c) cs
    else none

/-- Take the characters whose UTF-8 lengths sum to exactly `n` bytes (`s.get(..n)`):
    `none` when `n` is not a char boundary of the text. -/
def takeBytes : Nat → Str → Option Str
  | n, [] => if n = 0 then some [] else none
  | n, c :: cs =>
    if n = 0 then some []
    else if utf8Len c ≤ n then (takeBytes (n - utf8Len c) cs).map (c :: ·)
    else none

/-- `s.get(start..stop)` on byte offsets. -/
def sliceBytes (s : Str) (start stop : Nat) : Option Str :=
  if start ≤ stop then (dropBytes start s).bind (takeBytes (stop - start)) else none

theorem dropBytes_zero (s : Str) : dropBytes 0 s = some s := by
  cases s <;> simp [dropBytes]

theorem takeBytes_zero (s : Str) : takeBytes 0 s = some [] := by
  cases s <;> simp [takeBytes]

theorem dropBytes_strLen_append (a b : Str) : dropBytes (strLen a) (a ++ b) = some b := by
  induction a with
  | nil => simp [strLen, dropBytes_zero]
  | cons c cs ih =>
    have hc := utf8Len_pos c
    have h0 : ¬ (utf8Len c + strLen cs = 0) := by omega
    have h1 : utf8Len c ≤ utf8Len c + strLen cs := by omega
    have h2 : utf8Len c + strLen cs - utf8Len c = strLen cs := by omega
    simp only [strLen, List.cons_append, dropBytes, h0, h1, h2, if_true, if_false]
    exact ih

theorem takeBytes_strLen_append (a b : Str) : takeBytes (strLen a) (a ++ b) = some a := by
  induction a with
  | nil => simp [strLen, takeBytes_zero]
  | cons c cs ih =>
    have hc := utf8Len_pos c
    have h0 : ¬ (utf8Len c + strLen cs = 0) := by omega
    have h1 : utf8Len c ≤ utf8Len c + strLen cs := by omega
    have h2 : utf8Len c + strLen cs - utf8Len c = strLen cs := by omega
    simp only [strLen, List.cons_append, takeBytes, h0, h1, h2, if_true, if_false, ih,
      Option.map_some]

/-- A span that is a slice of `src` is what `src.get(start..stop)` returns. -/
theorem sliceBytes_of_sliceOf {src : Str} {sp : StrSpan} (h : sp.SliceOf src) :
    sliceBytes src sp.start sp.stop = some sp.text := by
  obtain ⟨a, b, hsrc, hst⟩ := h
  have hle : sp.start ≤ sp.stop := by simp only [StrSpan.stop]; omega
  have hd : sp.stop - sp.start = strLen sp.text := by simp only [StrSpan.stop]; omega
  simp only [sliceBytes, hle, if_true, hd]
  rw [hst, hsrc, List.append_assoc, dropBytes_strLen_append]
  simp only [Option.bind_some]
  exact takeBytes_strLen_append _ _

theorem Token.All.imp {p q : StrSpan → Prop} (hpq : ∀ s, p s → q s) :
    ∀ t : Token, t.All p → t.All q
  | .declaration _ _ _ _, h => ⟨hpq _ h.1, fun x hx => hpq _ (h.2.1 x hx), hpq _ h.2.2⟩
  | .pi _ _ _, h => ⟨hpq _ h.1, fun x hx => hpq _ (h.2.1 x hx), hpq _ h.2.2⟩
  | .comment _ _, h => ⟨hpq _ h.1, hpq _ h.2⟩
  | .dtdStart _, h => hpq _ h
  | .emptyDtd _, h => hpq _ h
  | .entityDecl _, h => hpq _ h
  | .dtdEnd _, h => hpq _ h
  | .elementStart _ _ _, h => ⟨hpq _ h.1, hpq _ h.2.1, hpq _ h.2.2⟩
  | .attribute _ _ _ _, h => ⟨hpq _ h.1, hpq _ h.2.1, hpq _ h.2.2.1, hpq _ h.2.2.2⟩
  | .elementEnd (.close _ _) _, h => ⟨hpq _ h.1, hpq _ h.2.1, hpq _ h.2.2⟩
  | .elementEnd .open _, h => hpq _ h
  | .elementEnd .empty _, h => hpq _ h
  | .text _, h => hpq _ h
  | .cdata _ _, h => ⟨hpq _ h.1, hpq _ h.2⟩

theorem StrSpan.SliceOf.inside {src : Str} {sp : StrSpan} (h : sp.SliceOf src) :
    sp.Inside (strLen src) := by
  obtain ⟨a, b, hsrc, hst⟩ := h
  simp only [StrSpan.Inside, StrSpan.stop]
  rw [hsrc, Lex.strLen_app, Lex.strLen_app, hst]
  omega

/-- `Token.Inside` is `Token.All` of `StrSpan.Inside`, constructor by constructor. -/
theorem Token.inside_of_all {len : Nat} (t : Token) (h : t.All (StrSpan.Inside len)) : t.Inside len := by
  cases t with
  | elementEnd e _ => cases e <;> exact h
  | _ => exact h

end XotModel

/-! ### The invariant and the stream primitives

  `SWf src st`: the stream `st` lies some whole number of characters into `src`
  (`st = (ofStr src).adv k`).  Under it, `sliceBack st b` is a slice of `src` for ANY `b`
  (it is a prefix of what lies ahead of `st`), and `st.pos` is a char boundary of `src`.
  For `consume_qname`: a non-empty prefix ends one byte (the colon) before the local name.
-/

namespace XotModel.Lex.Slice

open XotModel.Lex.Stream

/-- The stream lies a whole number of characters into `src`. -/
def SWf (src : Str) (st : Lex.Stream) : Prop := Reach (Stream.ofStr src) st

theorem SWf.ofStr (src : Str) : SWf src (Stream.ofStr src) := Reach.refl _

theorem SWf.reach {src : Str} {a b : Lex.Stream} (h : SWf src a) (r : Reach a b) : SWf src b :=
  Reach.trans h r

theorem SWf.adv {src : Str} {a : Lex.Stream} (h : SWf src a) (k : Nat) : SWf src (a.adv k) :=
  h.reach (Reach.adv a k)

theorem SWf.boundary {src : Str} {st : Lex.Stream} (h : SWf src st) : IsBoundary src st.pos := by
  obtain ⟨k, rfl⟩ := h
  refine ⟨src.take k, src.drop k, (List.take_append_drop k src).symm, ?_⟩
  simp [Stream.adv, Stream.ofStr]

/-- KEY LEMMA: whatever `b` is, `sliceBack a b` is a slice of the source. -/
theorem SWf.sliceBack {src : Str} {a : Lex.Stream} (h : SWf src a) (b : Lex.Stream) :
    (sliceBack a b).SliceOf src := by
  obtain ⟨k, rfl⟩ := h
  refine ⟨src.take k, (src.drop k).drop ((src.drop k).length - b.rest.length), ?_, ?_⟩
  · simp only [Stream.sliceBack, Stream.adv, Stream.ofStr]
    rw [List.append_assoc, List.take_append_drop, List.take_append_drop]
  · simp [Stream.sliceBack, Stream.adv, Stream.ofStr]

theorem sliceBack_adv_text (s : Lex.Stream) (k : Nat) : (sliceBack s (s.adv k)).text = s.rest.take k := by
  simp only [Stream.sliceBack, Stream.adv, List.length_drop]
  by_cases h : k ≤ s.rest.length
  · congr 1; omega
  · have h1 : s.rest.length - (s.rest.length - k) = s.rest.length := by omega
    rw [h1, List.take_of_length_le (Nat.le_refl _), List.take_of_length_le (by omega)]

theorem Reach.pos_le {a b : Lex.Stream} (h : Reach a b) : a.pos ≤ b.pos := by
  obtain ⟨k, rfl⟩ := h
  simp only [Stream.adv]
  omega

theorem Reach.sliceBack_stop {a b : Lex.Stream} (h : Reach a b) : (sliceBack a b).stop = b.pos := by
  obtain ⟨k, rfl⟩ := h
  rw [StrSpan.stop, sliceBack_adv_text]
  rfl

theorem emptySpan_sliceOf (src : Str) : emptySpan.SliceOf src :=
  ⟨[], src, by simp [emptySpan], by simp [emptySpan, strLen]⟩

/-! ### `consume_name` -/

theorem consumeName_slice {src : Str} {s s' : Lex.Stream} {n : StrSpan} (hw : SWf src s)
    (h : s.consumeName = some (n, s')) : n.SliceOf src := by
  rw [(consumeName_inv h).2]
  exact hw.sliceBack _

/-! ### `consume_qname` -/

theorem SWf.slice_of_rest {src : Str} {s : Lex.Stream} (hw : SWf src s) {u x y : Str}
    (h : s.rest = u ++ (x ++ y)) : StrSpan.SliceOf src ⟨x, s.pos + strLen u⟩ := by
  obtain ⟨k, rfl⟩ := hw
  simp only [Stream.adv, Stream.ofStr] at h ⊢
  refine ⟨src.take k ++ u, y, ?_, by simp [strLen_app]⟩
  rw [List.append_assoc, List.append_assoc, ← h, List.take_append_drop]

/-- `consume_qname`: both spans are slices of the source and abut. -/
theorem consumeQName_slice {src : Str} {s s' : Lex.Stream} {p l : StrSpan} (hw : SWf src s)
    (h : s.consumeQName = some (p, l, s')) : p.SliceOf src ∧ l.SliceOf src ∧ Abut p l := by
  rcases consumeQName_text h with ⟨b, hr, rfl, rfl, -, -, -⟩ | ⟨a, b, hr, rfl, rfl, -, -, -, -⟩
  · exact ⟨emptySpan_sliceOf src, hw.slice_of_rest (u := []) hr, .inl ⟨rfl, rfl⟩⟩
  · refine ⟨hw.slice_of_rest (u := []) hr, ?_, .inr rfl⟩
    have := hw.slice_of_rest (u := a ++ [':']) (x := b) (y := s'.rest) (by simp [hr])
    simpa [strLen_app, strLen, show utf8Len ':' = 1 by decide, Nat.add_assoc] using this

end XotModel.Lex.Slice

/-! ### One lemma per token parser

  Started on a stream that lies in `src` (`SWf src s`), the token a parser returns carries only slices of
  `src`, its prefix and local name abut, it is of the kind the parser is named after, and its character
  data (text, CDATA) lies between the stream positions before and after the call.
-/

namespace XotModel.Lex.Slice

open XotModel.Lex.Stream

/-- The token kinds the tag bookkeeping (`TagsOk`, `NoStrayClose`) distinguishes. -/
inductive TKind where
  | start | attr | endOpen | endEmpty | endClose | other

def kind : Token → TKind
  | .elementStart _ _ _ => .start
  | .attribute _ _ _ _ => .attr
  | .elementEnd .open _ => .endOpen
  | .elementEnd .empty _ => .endEmpty
  | .elementEnd (.close _ _) _ => .endClose
  | _ => .other

/-- What a parser lemma delivers of the token `t` read between the streams `s` and `s'`; `text`: its character
    data, if it has any, lies between the two positions. -/
structure Good (src : Str) (s : Lex.Stream) (t : Token) (s' : Lex.Stream) (k : TKind) : Prop where
  all : t.All (StrSpan.SliceOf src)
  abuts : t.Abuts
  kind : kind t = k
  text : ∀ sp, t.textSpan? = some sp → s.pos ≤ sp.start ∧ sp.stop ≤ s'.pos

theorem Good.facts {src : Str} {s s' : Lex.Stream} {t : Token} {k : TKind} (g : Good src s t s' k) :
    t.All (StrSpan.SliceOf src) ∧ t.Abuts ∧ ∀ sp, t.textSpan? = some sp → s.pos ≤ sp.start ∧ sp.stop ≤ s'.pos :=
  ⟨g.all, g.abuts, g.text⟩

/-! ### XML declaration -/

theorem parseDeclaration_good {src : Str} {s s' : Lex.Stream} {t : Token} (hw : SWf src s)
    (h : parseDeclaration s = some (t, s')) : Good src s t s' .other := by
  obtain ⟨v, e, sa, rfl, ⟨a, b, ra, rfl⟩, he⟩ := (parseDeclaration_shape h).1
  refine ⟨⟨(hw.reach ra).sliceBack _, fun x hx => ?_, hw.sliceBack _⟩, trivial, rfl, nofun⟩
  obtain ⟨a, b, ra, rfl⟩ := he x hx
  exact (hw.reach ra).sliceBack _

/-! ### Comments, PIs, CDATA, text -/

theorem parseComment_good {src : Str} {s s' : Lex.Stream} {t : Token} (hw : SWf src s)
    (h : parseComment s = some (t, s')) : Good src s t s' .other := by
  obtain ⟨s2, -, -, rfl⟩ := parseComment_inv h
  exact ⟨⟨(hw.adv 4).sliceBack _, hw.sliceBack _⟩, trivial, rfl, nofun⟩

theorem parsePI_good {src : Str} {s s' : Lex.Stream} {t : Token} (hw : SWf src s)
    (h : parsePI s = some (t, s')) : Good src s t s' .other := by
  obtain ⟨tg, s2, s4, h2, h4, h5, rfl⟩ := parsePI_inv h
  have hw3 : SWf src s2.skipSpaces :=
    (hw.adv 2).reach ((consumeName_reach h2).trans (skipSpaces_reach _))
  refine ⟨⟨consumeName_slice (hw.adv 2) h2, ?_, hw.sliceBack _⟩, trivial, rfl, nofun⟩
  intro x hx
  split at hx
  · cases hx
  · simp only [Option.some.injEq] at hx
    subst hx
    exact hw3.sliceBack _

theorem parseCdata_good {src : Str} {s s' : Lex.Stream} {t : Token} (hw : SWf src s)
    (h : parseCdata s = some (t, s')) : Good src s t s' .other := by
  obtain ⟨s2, h2, h3, rfl⟩ := parseCdata_inv h
  refine ⟨⟨(hw.adv 9).sliceBack _, hw.sliceBack _⟩, trivial, rfl, fun sp hsp => ?_⟩
  cases hsp
  exact ⟨Reach.pos_le (Reach.adv _ 9), by
    rw [Reach.sliceBack_stop (skipChars_reach h2)]; exact Reach.pos_le (skipString_reach h3)⟩

theorem parseText_good {src : Str} {s s' : Lex.Stream} {t : Token} (hw : SWf src s)
    (h : parseText s = some (t, s')) : Good src s t s' .other := by
  obtain ⟨h1, rfl⟩ := parseText_inv h
  refine ⟨hw.sliceBack _, trivial, rfl, fun sp hsp => ?_⟩
  cases hsp
  exact ⟨Nat.le_refl _, Nat.le_of_eq (Reach.sliceBack_stop (skipChars_reach h1))⟩

/-! ### DTD -/

theorem parseDoctype_good {src : Str} {s s' : Lex.Stream} {t : Token} (hw : SWf src s)
    (h : parseDoctype s = some (t, s')) : Good src s t s' .other := by
  rcases (parseDoctype_shape h).1 with rfl | rfl <;> exact ⟨hw.sliceBack _, trivial, rfl, nofun⟩

theorem parseEntityDecl_good {src : Str} {s s' : Lex.Stream} {t : Token} (hw : SWf src s)
    (h : parseEntityDecl s = some (t, s')) : Good src s t s' .other := by
  obtain ⟨rfl, -⟩ := parseEntityDecl_shape h
  exact ⟨hw.sliceBack _, trivial, rfl, nofun⟩

/-! ### Elements -/

theorem parseElementStart_good {src : Str} {s s' : Lex.Stream} {t : Token} (hw : SWf src s)
    (h : parseElementStart s = some (t, s')) : Good src s t s' .start := by
  obtain ⟨p, l, h1, rfl⟩ := parseElementStart_inv h
  obtain ⟨a, b, c⟩ := consumeQName_slice (hw.adv 1) h1
  exact ⟨⟨a, b, hw.sliceBack _⟩, c, rfl, nofun⟩

theorem parseCloseElement_good {src : Str} {s s' : Lex.Stream} {t : Token} (hw : SWf src s)
    (h : parseCloseElement s = some (t, s')) : Good src s t s' .endClose := by
  obtain ⟨p, l, s1, h1, -, rfl⟩ := parseCloseElement_inv h
  obtain ⟨a, b, c⟩ := consumeQName_slice (hw.adv 2) h1
  exact ⟨⟨a, b, hw.sliceBack _⟩, c, rfl, nofun⟩

/-- `parse_attribute`: an attribute, or the `>` / `/>` that ends the start tag. -/
theorem parseAttribute_good {src : Str} {s s' : Lex.Stream} {t : Token} (hw : SWf src s)
    (h : parseAttribute s = some (t, s')) : ∃ k, Good src s t s' k := by
  have hw1 : SWf src s.skipSpaces := hw.reach (skipSpaces_reach s)
  rcases parseAttribute_inv h with ⟨-, -, rfl⟩ | ⟨-, -, rfl⟩ |
    ⟨-, p, l, s2, s3, q, s4, s5, h2, h3, h4, -, -, rfl⟩
  · exact ⟨_, hw1.sliceBack _, trivial, rfl, nofun⟩
  · exact ⟨_, hw1.sliceBack _, trivial, rfl, nofun⟩
  · obtain ⟨a, b, c⟩ := consumeQName_slice hw1 h2
    have hw4 : SWf src s4 := hw1.reach (((consumeQName_reach h2).trans
      (consumeEq_reach h3)).trans (consumeQuote_reach h4))
    exact ⟨_, ⟨a, b, hw4.sliceBack _, hw1.sliceBack _⟩, c, rfl, nofun⟩

end XotModel.Lex.Slice

/-! ### One call of `parse_next_impl`

  One call of `parse_next_impl` as the loop lemmas use it: `TokStep` (Model/Lex.lean) for a
  token, `SkipStep` for `None`.
-/

namespace XotModel.Lex.Slice

open XotModel.Lex.Stream

/-- `parse_next_impl` returning `None` (stream not at its end, state not `End`): the stream
    moved forward, depth and mode are unchanged, the state is not `Attributes` before or after the
    call and not `Elements` after it. -/
structure SkipStep (tk tk' : Tokenizer) : Prop where
  reach : Reach tk.stream tk'.stream
  depth : tk'.depth = tk.depth
  fragment : tk'.fragment = tk.fragment
  notAttr : tk.state ≠ .attributes
  notAttr' : tk'.state ≠ .attributes
  notElem' : tk'.state ≠ .elements

theorem parseNextImpl_skipStep {tk tk' : Tokenizer} (he : tk.stream.atEnd = false)
    (hf : tk.state ≠ .finished) (h : parseNextImpl tk = .skip tk') : SkipStep tk tk' := by
  have hr := (parseNextImpl_skip he hf h).1
  cases parseNextImpl_skipCase he h with
  | noDecl hst => exact ⟨hr, rfl, rfl, by rw [hst]; decide, nofun, nofun⟩
  | noDoctype hst => exact ⟨hr, rfl, rfl, by rw [hst]; decide, nofun, nofun⟩
  | spaces hne hna _ => exact ⟨hr, rfl, rfl, hna, hna, hne⟩
  | markupDecl hst _ => exact ⟨hr, rfl, rfl, by rw [hst]; decide, by rw [hst]; decide, by rw [hst]; decide⟩
  | finished hst => exact absurd hst hf

end XotModel.Lex.Slice

/-! ### The loop and the theorems on strings

  `lexDocument s` / `lexFragment s`: the token-shape contract `TokenShape` (Model/TokenShape.lean), and in
  document mode no stray close tag.  Loop induction (`fun_induction lexLoop`) over the step analysis above.
-/

namespace XotModel.Lex.Slice

open XotModel.Lex.Stream

/-! ### What a token step delivers -/

theorem tokStep_good {src : Str} {tk tk' : Tokenizer} {t : Token} (hw : SWf src tk.stream)
    (h : TokStep tk t tk') : t.All (StrSpan.SliceOf src) ∧ t.Abuts ∧
      ∀ sp, t.textSpan? = some sp → tk.stream.pos ≤ sp.start ∧ sp.stop ≤ tk'.stream.pos := by
  cases h with
  | decl _ hr => exact (parseDeclaration_good hw hr).facts
  | doctype _ _ hr _ => exact (parseDoctype_good hw hr).facts
  | entity _ hr => exact (parseEntityDecl_good hw hr).facts
  | comment _ hr => exact (parseComment_good hw hr).facts
  | pi _ hr => exact (parsePI_good hw hr).facts
  | dtdEnd _ _ => exact ⟨hw.sliceBack _, trivial, nofun⟩
  | start _ hr => exact (parseElementStart_good hw hr).facts
  | cdata _ hr => exact (parseCdata_good hw hr).facts
  | text _ hr => exact (parseText_good hw hr).facts
  | close _ hr => exact (parseCloseElement_good hw hr).facts
  | attr _ hr _ => exact (parseAttribute_good hw hr).elim fun _ g => g.facts
  | tagOpen _ hr => exact (parseAttribute_good hw hr).elim fun _ g => g.facts
  | tagEmpty _ hr => exact (parseAttribute_good hw hr).elim fun _ g => g.facts

/-! ### Tag and depth bookkeeping -/

theorem beq_attr_false {st : State} (h : st ≠ .attributes) : (st == State.attributes) = false := by
  cases st <;> simp_all

theorem stateAfterTag_beq (d : Nat) (f : Bool) : (stateAfterTag d f == State.attributes) = false := by
  unfold stateAfterTag
  split <;> rfl

/-- Document mode: in state `Elements` an element is open. -/
def DocInv (tk : Tokenizer) : Prop :=
  tk.fragment = false ∧ (tk.state = .elements → 0 < tk.depth)

theorem stateAfterTag_elements {d : Nat} (h : stateAfterTag d false = .elements) : 0 < d := by
  unfold stateAfterTag at h
  split at h
  · cases h
  · rename_i hn
    cases d with
    | zero => simp at hn
    | succ d => omega

/-- What a token of kind `k` does to "inside a start tag": the flag after it, `none` where `TagsOk` refuses. -/
def tagsNext : Bool → TKind → Option Bool
  | false, .start => some true
  | false, .other | false, .endClose => some false
  | true, .attr => some true
  | true, .endOpen | true, .endEmpty => some false
  | _, _ => none

/-- … and to the number of open elements, `none` where `NoStrayClose` refuses. -/
def depthNext : Nat → TKind → Option Nat
  | d, .endOpen => some (d + 1)
  | 0, .endClose => none
  | d + 1, .endClose => some d
  | d, _ => some d

/-- The two contracts read only the kind of a token. -/
theorem tagsOk_cons (inTag : Bool) (t : Token) (rest : List Token) :
    TagsOk inTag (t :: rest) = (match tagsNext inTag (kind t) with | some b => TagsOk b rest | none => False) := by
  cases inTag <;> cases t <;> (try (rename_i e _; cases e)) <;> rfl

theorem noStrayClose_cons (d : Nat) (t : Token) (rest : List Token) :
    NoStrayClose d (t :: rest) =
      (match depthNext d (kind t) with | some d' => NoStrayClose d' rest | none => False) := by
  cases d <;> cases t <;> (try (rename_i e _; cases e)) <;> rfl

/-- One step of the tokenizer against the two contracts: by the kind of its token, the flag and the depth
    after it are the ones the contracts go on with. -/
theorem tokStep_kind_next {src : Str} {tk tk' : Tokenizer} {t : Token} (hw : SWf src tk.stream)
    (h : TokStep tk t tk') :
    tagsNext (tk.state == .attributes) (kind t) = some (tk'.state == .attributes) ∧
      (DocInv tk → DocInv tk' ∧ depthNext tk.depth (kind t) = some tk'.depth) := by
  -- a token of kind `other` outside a start tag: nothing changes
  have other : kind t = .other → tk.state ≠ .attributes → tk'.state ≠ .attributes → tk'.depth = tk.depth →
      tk'.fragment = tk.fragment → (tk'.state = .elements → tk.state = .elements) →
      tagsNext (tk.state == .attributes) (kind t) = some (tk'.state == .attributes) ∧
        (DocInv tk → DocInv tk' ∧ depthNext tk.depth (kind t) = some tk'.depth) := by
    intro hk h1 h2 hd hf he
    rw [hk, beq_attr_false h1, beq_attr_false h2, hd]
    exact ⟨rfl, fun hi => ⟨⟨hf.trans hi.1, fun h => hd ▸ hi.2 (he h)⟩, by cases tk.depth <;> rfl⟩⟩
  cases h with
  | decl hst hp => exact other (parseDeclaration_good hw hp).kind (by rw [hst]; decide) nofun rfl rfl nofun
  | doctype st hst hp hs =>
    exact other (parseDoctype_good hw hp).kind (by rw [hst]; decide) (by rcases hs with rfl | rfl <;> exact nofun)
      rfl rfl (by rcases hs with rfl | rfl <;> exact nofun)
  | entity hst hp => exact other (parseEntityDecl_good hw hp).kind (by rw [hst]; decide) (by rw [hst]; decide) rfl rfl id
  | comment hst hp => exact other (parseComment_good hw hp).kind hst hst rfl rfl id
  | pi hst hp => exact other (parsePI_good hw hp).kind hst hst rfl rfl id
  | dtdEnd hst _ => exact other rfl (by rw [hst]; decide) nofun rfl rfl nofun
  | cdata hst hp => exact other (parseCdata_good hw hp).kind (by rw [hst]; decide) (by rw [hst]; decide) rfl rfl id
  | text hst hp => exact other (parseText_good hw hp).kind (by rw [hst]; decide) (by rw [hst]; decide) rfl rfl id
  | start hst hp =>
    rw [(parseElementStart_good hw hp).kind, beq_attr_false (by rcases hst with h | h <;> rw [h] <;> decide)]
    exact ⟨rfl, fun hi => ⟨⟨hi.1, nofun⟩, by cases tk.depth <;> rfl⟩⟩
  | close hst hp =>
    rw [(parseCloseElement_good hw hp).kind, hst]
    refine ⟨by rw [stateAfterTag_beq]; rfl, fun hi => ?_⟩
    refine ⟨⟨hi.1, fun h => ?_⟩, ?_⟩
    · simp only [hi.1] at h
      exact stateAfterTag_elements h
    · cases hd : tk.depth with
      | zero => exact absurd (hi.2 hst) (by rw [hd]; exact Nat.lt_irrefl 0)
      | succ d => rfl
  | attr hst hp hk =>
    obtain ⟨_, _, _, _, rfl⟩ := hk
    rw [hst]
    exact ⟨rfl, fun hi => ⟨⟨hi.1, nofun⟩, by cases tk.depth <;> rfl⟩⟩
  | tagOpen hst hp =>
    rw [hst]
    exact ⟨by rw [stateAfterTag_beq]; rfl, fun hi => ⟨⟨hi.1, fun _ => Nat.succ_pos _⟩, rfl⟩⟩
  | tagEmpty hst hp =>
    rw [hst]
    refine ⟨by rw [stateAfterTag_beq]; rfl, fun hi => ⟨⟨hi.1, fun h => ?_⟩, by cases tk.depth <;> rfl⟩⟩
    simp only [hi.1] at h
    exact stateAfterTag_elements h

/-! ### The loop -/

theorem lexLoop_inv (src : Str) (tk : Tokenizer) (position : Nat) :
    SWf src tk.stream → IsBoundary src position →
    (∀ t ∈ (lexLoop tk position).1, t.All (StrSpan.SliceOf src) ∧ t.Abuts) ∧
      TagsOk (tk.state == .attributes) (lexLoop tk position).1 ∧
      ∀ p, (lexLoop tk position).2 = some p → IsBoundary src p := by
  fun_induction lexLoop tk position with
  | case1 tk pos hc =>
    intro _ _
    exact ⟨fun t ht => (by cases ht), trivial, fun p hp => (by cases hp)⟩
  | case2 tk pos hc tk' hs ih =>
    intro hw hb
    have he := (Tokenizer.running hc).1
    have sk := parseNextImpl_skipStep he (Tokenizer.running hc).2 hs
    obtain ⟨h1, h2, h3⟩ := ih (hw.reach sk.reach) hb
    refine ⟨h1, ?_, h3⟩
    rw [beq_attr_false sk.notAttr]
    rw [beq_attr_false sk.notAttr'] at h2
    exact h2
  | case3 tk pos hc t tk' hs r ih =>
    intro hw hb
    have he := (Tokenizer.running hc).1
    have hw' : SWf src tk'.stream := hw.reach (parseNextImpl_token he hs).reach
    have ts := parseNextImpl_tokStep' he hs
    obtain ⟨h1, h2, h3⟩ := ih hw' hw'.boundary
    refine ⟨?_, by rw [tagsOk_cons, (tokStep_kind_next hw ts).1]; exact h2, h3⟩
    intro t' ht'
    rcases List.mem_cons.mp ht' with rfl | ht'
    · exact ⟨(tokStep_good hw ts).1, (tokStep_good hw ts).2.1⟩
    · exact h1 t' ht'
  | case4 tk pos hc hs =>
    intro _ hb
    refine ⟨fun t ht => (by cases ht), trivial, fun p hp => ?_⟩
    simp only [Option.some.injEq] at hp
    subst hp
    exact hb

theorem lexLoop_noStray (src : Str) (tk : Tokenizer) (position : Nat) :
    SWf src tk.stream → DocInv tk → NoStrayClose tk.depth (lexLoop tk position).1 := by
  fun_induction lexLoop tk position with
  | case1 tk pos hc => intro _ _; trivial
  | case2 tk pos hc tk' hs ih =>
    intro hw hi
    have he := (Tokenizer.running hc).1
    have sk := parseNextImpl_skipStep he (Tokenizer.running hc).2 hs
    have := ih (hw.reach sk.reach) ⟨sk.fragment.trans hi.1, fun h => absurd h sk.notElem'⟩
    rw [sk.depth] at this
    exact this
  | case3 tk pos hc t tk' hs r ih =>
    intro hw hi
    have he := (Tokenizer.running hc).1
    have hw' : SWf src tk'.stream := hw.reach (parseNextImpl_token he hs).reach
    obtain ⟨hi', hd⟩ := (tokStep_kind_next hw (parseNextImpl_tokStep' he hs)).2 hi
    rw [noStrayClose_cons, hd]
    exact ih hw' hi'
  | case4 tk pos hc hs => intro _ _; trivial

end XotModel.Lex.Slice

namespace XotModel

open XotModel.Lex.Slice

/-! ### The tokenizers at their start -/

theorem Lex.Slice.ofStr_swf (s : Str) : SWf s (Lex.Tokenizer.ofStr s).stream := by
  unfold Lex.Tokenizer.ofStr
  dsimp only
  split
  · exact (SWf.ofStr s).adv 1
  · exact SWf.ofStr s

theorem Lex.Slice.lexDocument_inv (s : Str) :
    (∀ t ∈ (lexDocument s).1, t.All (StrSpan.SliceOf s) ∧ t.Abuts) ∧
      TagsOk false (lexDocument s).1 ∧ ∀ p, (lexDocument s).2 = some p → IsBoundary s p :=
  lexLoop_inv s (Lex.Tokenizer.ofStr s) _ (ofStr_swf s) (ofStr_swf s).boundary

theorem Lex.Slice.lexFragment_inv (s : Str) :
    (∀ t ∈ (lexFragment s).1, t.All (StrSpan.SliceOf s) ∧ t.Abuts) ∧
      TagsOk false (lexFragment s).1 ∧ ∀ p, (lexFragment s).2 = some p → IsBoundary s p :=
  lexLoop_inv s (Lex.Tokenizer.ofFragment s) _ (SWf.ofStr s) (SWf.ofStr s).boundary

/-! ### The slice theorem -/

/-- Every span of every token of a document is a slice of the source at its byte offset. -/
theorem lexDocument_sliceOf (s : Str) : ∀ t ∈ (lexDocument s).1, t.All (StrSpan.SliceOf s) :=
  fun t ht => ((lexDocument_inv s).1 t ht).1

theorem lexFragment_sliceOf (s : Str) : ∀ t ∈ (lexFragment s).1, t.All (StrSpan.SliceOf s) :=
  fun t ht => ((lexFragment_inv s).1 t ht).1

/-- The position reported with a tokenizer error is a char boundary of the source. -/
theorem lexDocument_errpos (s : Str) (p : Nat) : (lexDocument s).2 = some p → IsBoundary s p :=
  (lexDocument_inv s).2.2 p

theorem lexFragment_errpos (s : Str) (p : Nat) : (lexFragment s).2 = some p → IsBoundary s p :=
  (lexFragment_inv s).2.2 p

/-- A non-empty prefix ends one byte (the colon) before its local name. -/
theorem lexDocument_abuts (s : Str) : ∀ t ∈ (lexDocument s).1, t.Abuts :=
  fun t ht => ((lexDocument_inv s).1 t ht).2

theorem lexFragment_abuts (s : Str) : ∀ t ∈ (lexFragment s).1, t.Abuts :=
  fun t ht => ((lexFragment_inv s).1 t ht).2

/-- Attributes and `>` / `/>` occur exactly between an element start and the end of its tag. -/
theorem lexDocument_tagsOk (s : Str) : TagsOk false (lexDocument s).1 := (lexDocument_inv s).2.1

theorem lexFragment_tagsOk (s : Str) : TagsOk false (lexFragment s).1 := (lexFragment_inv s).2.1

/-- The token-shape contract holds of the tokenizer's output on every input. -/
theorem lexDocument_shape (s : Str) : TokenShape (strLen s) (lexDocument s).1 (lexDocument s).2 where
  inside t ht := Token.inside_of_all t (Token.All.imp (fun _ h => h.inside) t (lexDocument_sliceOf s t ht))
  abuts := lexDocument_abuts s
  tags := lexDocument_tagsOk s
  lexPos p hp := (lexDocument_errpos s p hp).le

theorem lexFragment_shape (s : Str) : TokenShape (strLen s) (lexFragment s).1 (lexFragment s).2 where
  inside t ht := Token.inside_of_all t (Token.All.imp (fun _ h => h.inside) t (lexFragment_sliceOf s t ht))
  abuts := lexFragment_abuts s
  tags := lexFragment_tagsOk s
  lexPos p hp := (lexFragment_errpos s p hp).le

/-- Every span of every token is what `s.get(start..end)` returns. -/
theorem lexDocument_slices (s : Str) :
    ∀ t ∈ (lexDocument s).1, t.All (fun sp => sliceBytes s sp.start sp.stop = some sp.text) :=
  fun t ht => Token.All.imp (fun _ h => sliceBytes_of_sliceOf h) t (lexDocument_sliceOf s t ht)

/-- Every span of every token is what `s.get(start..end)` returns. -/
theorem lexFragment_slices (s : Str) :
    ∀ t ∈ (lexFragment s).1, t.All (fun sp => sliceBytes s sp.start sp.stop = some sp.text) :=
  fun t ht => Token.All.imp (fun _ h => sliceBytes_of_sliceOf h) t (lexFragment_sliceOf s t ht)

/-- In document mode the tokenizer never returns an end tag when no element is open. -/
theorem lexDocument_noStrayClose (s : Str) : NoStrayClose 0 (lexDocument s).1 :=
  lexLoop_noStray s (Lex.Tokenizer.ofStr s) _ (ofStr_swf s) ⟨rfl, fun h => by cases h⟩

end XotModel
