/-
  Boolean checkers for the token-shape contract, so that closed token lists can be shown to
  satisfy it by kernel evaluation.
-/
import XotModel.Model.TokenShape

namespace XotModel

def StrSpan.insideB (len : Nat) (s : StrSpan) : Bool := decide (s.stop ≤ len)

def optInsideB (len : Nat) : Option StrSpan → Bool
  | none => true
  | some s => s.insideB len

def Token.insideB (len : Nat) : Token → Bool
  | .declaration v e _ sp => v.insideB len && optInsideB len e && sp.insideB len
  | .pi t c sp => t.insideB len && optInsideB len c && sp.insideB len
  | .comment t sp => t.insideB len && sp.insideB len
  | .dtdStart sp => sp.insideB len
  | .emptyDtd sp => sp.insideB len
  | .entityDecl sp => sp.insideB len
  | .dtdEnd sp => sp.insideB len
  | .elementStart p l sp => p.insideB len && l.insideB len && sp.insideB len
  | .attribute p l v sp => p.insideB len && l.insideB len && v.insideB len && sp.insideB len
  | .elementEnd (.close p l) sp => p.insideB len && l.insideB len && sp.insideB len
  | .elementEnd _ sp => sp.insideB len
  | .text t => t.insideB len
  | .cdata t sp => t.insideB len && sp.insideB len

theorem optInsideB_spec {len : Nat} {e : Option StrSpan} (h : optInsideB len e = true) :
    ∀ x, e = some x → x.Inside len := by
  intro x hx; subst hx; simpa [optInsideB, StrSpan.insideB, StrSpan.Inside] using h

theorem Token.inside_of_B {len : Nat} {t : Token} (h : t.insideB len = true) : t.Inside len := by
  cases t with
  | declaration v e s sp =>
    simp only [Token.insideB, Bool.and_eq_true] at h
    exact ⟨by simpa [StrSpan.insideB, StrSpan.Inside] using h.1.1, optInsideB_spec h.1.2, by simpa [StrSpan.insideB, StrSpan.Inside] using h.2⟩
  | pi t c sp =>
    simp only [Token.insideB, Bool.and_eq_true] at h
    exact ⟨by simpa [StrSpan.insideB, StrSpan.Inside] using h.1.1, optInsideB_spec h.1.2, by simpa [StrSpan.insideB, StrSpan.Inside] using h.2⟩
  | comment t sp => simpa [Token.insideB, Token.Inside, StrSpan.insideB, StrSpan.Inside] using h
  | dtdStart sp => simpa [Token.insideB, Token.Inside, StrSpan.insideB, StrSpan.Inside] using h
  | emptyDtd sp => simpa [Token.insideB, Token.Inside, StrSpan.insideB, StrSpan.Inside] using h
  | entityDecl sp => simpa [Token.insideB, Token.Inside, StrSpan.insideB, StrSpan.Inside] using h
  | dtdEnd sp => simpa [Token.insideB, Token.Inside, StrSpan.insideB, StrSpan.Inside] using h
  | elementStart p l sp => simpa [Token.insideB, Token.Inside, StrSpan.insideB, StrSpan.Inside, and_assoc] using h
  | «attribute» p l v sp => simpa [Token.insideB, Token.Inside, StrSpan.insideB, StrSpan.Inside, and_assoc] using h
  | elementEnd e sp =>
    cases e <;> simpa [Token.insideB, Token.Inside, StrSpan.insideB, StrSpan.Inside, and_assoc] using h
  | text t => simpa [Token.insideB, Token.Inside, StrSpan.insideB, StrSpan.Inside] using h
  | cdata t sp => simpa [Token.insideB, Token.Inside, StrSpan.insideB, StrSpan.Inside] using h

def abutB (p l : StrSpan) : Bool := (decide (p.text = []) && decide (p.start = 0)) || decide (p.stop + 1 = l.start)

def Token.abutsB : Token → Bool
  | .elementStart p l _ => abutB p l
  | .attribute p l _ _ => abutB p l
  | .elementEnd (.close p l) _ => abutB p l
  | _ => true

theorem Token.abuts_of_B {t : Token} (h : t.abutsB = true) : t.Abuts := by
  cases t with
  | elementStart p l sp => simpa [Token.abutsB, Token.Abuts, abutB, Abut] using h
  | «attribute» p l v sp => simpa [Token.abutsB, Token.Abuts, abutB, Abut] using h
  | elementEnd e sp => cases e <;> simp_all [Token.abutsB, Token.Abuts, abutB, Abut]
  | _ => trivial

def tagsOkB : Bool → List Token → Bool
  | _, [] => true
  | false, .elementStart _ _ _ :: rest => tagsOkB true rest
  | false, .attribute _ _ _ _ :: _ => false
  | false, .elementEnd .open _ :: _ => false
  | false, .elementEnd .empty _ :: _ => false
  | false, _ :: rest => tagsOkB false rest
  | true, .attribute _ _ _ _ :: rest => tagsOkB true rest
  | true, .elementEnd .open _ :: rest => tagsOkB false rest
  | true, .elementEnd .empty _ :: rest => tagsOkB false rest
  | true, _ :: _ => false

/-- Along the cases of the checker, which are those of `TagsOk`: it refuses where the contract is `False` and
    passes on to the rest where the contract does. -/
theorem tagsOk_of_B : ∀ (inTag : Bool) (ts : List Token), tagsOkB inTag ts = true → TagsOk inTag ts := by
  intro inTag ts
  fun_induction tagsOkB inTag ts with
  | case1 => exact fun _ => trivial
  | case2 _ _ _ _ ih => simpa only [TagsOk] using ih
  | case3 | case4 | case5 => exact nofun
  | case6 _ _ h1 h2 h3 h4 ih => rw [TagsOk.eq_6 _ _ h1 h2 h3 h4]; exact ih
  | case7 _ _ _ _ _ ih => simpa only [TagsOk] using ih
  | case8 _ _ ih => simpa only [TagsOk] using ih
  | case9 _ _ ih => simpa only [TagsOk] using ih
  | case10 _ _ h1 h2 h3 => exact nofun

def noStrayCloseB : Nat → List Token → Bool
  | _, [] => true
  | d, .elementEnd .open _ :: rest => noStrayCloseB (d + 1) rest
  | 0, .elementEnd (.close _ _) _ :: _ => false
  | d + 1, .elementEnd (.close _ _) _ :: rest => noStrayCloseB d rest
  | d, _ :: rest => noStrayCloseB d rest

theorem noStrayClose_of_B : ∀ (d : Nat) (ts : List Token), noStrayCloseB d ts = true → NoStrayClose d ts := by
  intro d ts
  fun_induction noStrayCloseB d ts with
  | case1 => exact fun _ => trivial
  | case2 _ _ _ ih => simpa only [NoStrayClose] using ih
  | case3 => exact nofun
  | case4 _ _ _ _ _ ih => simpa only [NoStrayClose] using ih
  | case5 _ _ _ h1 h2 h3 ih => rw [NoStrayClose.eq_5 _ _ _ h1 h2 h3]; exact ih

def tokenShapeB (len : Nat) (ts : List Token) (lexErr : Option Nat) : Bool :=
  ts.all (fun t => t.insideB len) && ts.all Token.abutsB && tagsOkB false ts &&
    (match lexErr with | none => true | some p => decide (p ≤ len))

theorem tokenShape_of_B {len : Nat} {ts : List Token} {lexErr : Option Nat}
    (h : tokenShapeB len ts lexErr = true) : TokenShape len ts lexErr := by
  simp only [tokenShapeB, Bool.and_eq_true, List.all_eq_true] at h
  obtain ⟨⟨⟨h1, h2⟩, h3⟩, h4⟩ := h
  refine ⟨fun t ht => Token.inside_of_B (h1 t ht), fun t ht => Token.abuts_of_B (h2 t ht), tagsOk_of_B _ _ h3, ?_⟩
  intro p hp; subst hp; simpa using h4

end XotModel
