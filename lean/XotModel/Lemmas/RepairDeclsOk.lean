/-
  `create_missing_prefixes_for_element` keeps the hypotheses of `C10_names_resolve_in_tokens`
  (Lemmas/SerResolve.lean), for EVERY tree:
    * `EnvStrings`: the call only appends prefix strings `n<k>` that were not in the table — pairwise different
      strings stay pairwise different, and `n` + decimal digits holds no `:` and no `=`;
    * `DeclsOkBelow` / `DeclsOk` of the bindings in scope: the declarations it inserts are `xmlns=""` and
      prefixes that `add_prefix` has just registered and that are bound nowhere in scope of the element — so
      they are registered and are not the `xml` prefix (which is always in scope).
-/
import XotModel.Lemmas.RepairElement
import XotModel.Lemmas.RepairDocument
import XotModel.Lemmas.RepairRepresentable
import XotModel.Lemmas.SerResolve
import XotModel.Lemmas.ScopeSound

namespace XotModel.Repair
open XotModel XotModel.SerResolve

/-! ### The strings the call registers -/

theorem rdo_digit_lex {c : Char} (h : c.isDigit = true) : c ≠ ':' ∧ c ≠ '=' := by
  simp only [Char.isDigit, Bool.and_eq_true, decide_eq_true_eq] at h
  have h2 : c.toNat ≤ 57 := by
    have := h.2
    rw [UInt32.le_iff_toNat_le] at this
    exact this
  constructor
  · intro hc; subst hc; revert h2; decide
  · intro hc; subst hc; revert h2; decide

theorem rdo_lexOk_generated {s : Str} (h : IsGenerated s) : lexOk s = true := by
  obtain ⟨k, rfl⟩ := h
  rw [lexOk_iff]
  simp only [generatedPrefixName, List.mem_cons]
  constructor
  · rintro (h | h)
    · revert h; decide
    · exact (rdo_digit_lex (Nat.isDigit_of_mem_toDigits (by decide) (by decide) h)).1 rfl
  · rintro (h | h)
    · revert h; decide
    · exact (rdo_digit_lex (Nat.isDigit_of_mem_toDigits (by decide) (by decide) h)).2 rfl

theorem rdo_envStrings_ext {env env' : Env} (h : EnvStrings env) (hx : PrefixExt env env')
    (hnew : ∀ s ∈ env'.prefixes, s ∈ env.prefixes ∨ IsGenerated s) : EnvStrings env' := by
  have hlex := h.lexical
  simp only [NamesLexical, Bool.and_eq_true, List.all_eq_true] at hlex
  refine ⟨hx.nodup h.nodup, hx.getElem? h.empty, hx.getElem? h.xml, ?_, ?_, ?_⟩
  · rw [hx.namespaceStr]; exact h.noNs
  · rw [hx.namespaceStr]; exact h.xmlNs
  · simp only [NamesLexical, Bool.and_eq_true, List.all_eq_true]
    refine ⟨fun s hs => ?_, fun n hn => hlex.2 n (by rw [← hx.names]; exact hn)⟩
    rcases hnew s hs with h1 | h1
    · exact hlex.1 s h1
    · exact rdo_lexOk_generated h1

theorem rdo_declsOk_insertDecl {env : Env} (p ns : Nat) (hp : p < env.prefixes.length)
    (hx : p = Env.xmlPrefix → ns = Env.xmlNamespace) (d : List (Nat × Nat)) (hd : DeclsOk env d) :
    DeclsOk env (insertDecl p ns d) := by
  intro x hxm
  rcases mem_insertDecl_sub p ns d x hxm with h | rfl
  · exact hd x h
  · exact ⟨hp, hx⟩

theorem rdo_declsOk_ext {env env' : Env} (hx : PrefixExt env env') {d : List (Nat × Nat)} (hd : DeclsOk env d) :
    DeclsOk env' d := by
  obtain ⟨e, he⟩ := hx.ext
  intro x hxm
  obtain ⟨h1, h2⟩ := hd x hxm
  exact ⟨by rw [he, List.length_append]; omega, h2⟩

theorem rdo_xml_in_scope (chain : List Tree) : Env.xmlPrefix ∈ keys (namespacesInScopeChain chain) := by
  obtain ⟨ns, h⟩ := scopeSpecChain_xml chain
  exact mem_keys.mpr ⟨ns, (mem_namespacesInScopeChain chain _ ns).mpr h⟩

theorem rdo_scope_cons (a : Tree) (rest : List Tree) (x : Nat × Nat)
    (h : x ∈ namespacesInScopeChain (a :: rest)) : x ∈ a.nsDecls ∨ x ∈ namespacesInScopeChain rest := by
  obtain ⟨p, m⟩ := x
  rw [mem_namespacesInScopeChain_cons] at h
  cases hl : a.nsDecls.lookup p with
  | none => rw [hl] at h; exact Or.inr h
  | some ns => rw [hl] at h; exact Or.inl (h.1 ▸ lookup_mem hl)

/-- `create_missing_prefixes_for_element` keeps `EnvStrings`, `DeclsOkBelow` of the element and `DeclsOk` of
    the bindings in scope at it — for every tree. -/
theorem rdo_repairElement (env : Env) (henv : EnvStrings env) (t : Tree) (path : Path)
    (name : Nat) (ks : List Tree) (hat : t.at? path = some (.node (.element name) ks))
    (hdk : DeclsOkBelow env (.node (.element name) ks)) (hinh : DeclsOk env (inheritedDecls t path))
    (env' : Env) (t' : Tree) (h : repairElement env t path = .ok (env', t')) :
    EnvStrings env' ∧ ∃ E', t'.at? path = some E' ∧ E'.value = .element name ∧ DeclsOkBelow env' E' ∧
      ∀ inScope, namespacesInScope t' path = some inScope → DeclsOk env' inScope := by
  obtain ⟨nd, ha, rfl⟩ := repairElement_ok_inv hat h
  generalize hR : collectRec env.nsOfName (inheritedDecls t path) path (.node (.element name) ks) ⟨[], [], []⟩ = R at ha
  obtain ⟨_, _, s3, hext, hnew, hreg⟩ := assignPrefixes_outcome _ _ _ _ _ _ ha
  have henv1 := rdo_envStrings_ext henv hext hnew
  obtain ⟨rest, hc⟩ := ancestorsOrSelf_of_at? t path _ hat
  have hscope : (namespacesInScope t path).getD [] =
      namespacesInScopeChain (.node (.element name) ks :: rest) := by
    rw [namespacesInScope_of_chain hc]; rfl
  -- the inserted pairs are fine for the grown table
  have hndOk : ∀ x ∈ nd, x.1 < env'.prefixes.length ∧ (x.1 = Env.xmlPrefix → x.2 = Env.xmlNamespace) := by
    intro x hx
    obtain ⟨s, hs, _⟩ := hreg x hx
    refine ⟨(List.getElem?_eq_some_iff.mp hs).1, fun hxml => ?_⟩
    exfalso
    apply s3 x.1 (mem_keys.mpr ⟨x.2, hx⟩)
    simp only [List.mem_append]
    right
    rw [hscope, hxml]
    exact rdo_xml_in_scope _
  have h0lt : Env.emptyPrefix < env'.prefixes.length := (List.getElem?_eq_some_iff.mp henv1.empty).1
  have hP0 : DeclsOk env' [] := fun x hx => by cases hx
  have hrec : rdo_PRec (DeclsOk env') (.node (.element name) ks) :=
    rdo_prec_of_below _ _ (fun rel n' hn => rdo_declsOk_ext hext (hdk rel n' hn))
  have hrec' := rdo_prec_rebuild hP0 env.nsOfName nd
    (fun x hx d hd => rdo_declsOk_insertDecl x.1 x.2 (hndOk x hx).1 (hndOk x hx).2 d hd)
    (fun d hd => rdo_declsOk_insertDecl _ _ h0lt (by intro hh; cases hh) d hd)
    (.node (.element name) ks) true (inheritedDecls t path) hrec
  have hdk' : DeclsOkBelow env' (rebuild env.nsOfName nd true (inheritedDecls t path) (.node (.element name) ks)) :=
    fun rel n' hn => rdo_below_of_prec _ rel _ hrec' n' hn
  have hat' : (scopeModifyAt (fun _ => rebuild env.nsOfName nd true (inheritedDecls t path)
      (.node (.element name) ks)) t path).at? path =
        some (rebuild env.nsOfName nd true (inheritedDecls t path) (.node (.element name) ks)) := by
    rw [at?_scopeModifyAt, hat]; rfl
  have hval := value_rebuild env.nsOfName nd true (inheritedDecls t path) (.node (.element name) ks)
  refine ⟨henv1, _, hat', hval, hdk', ?_⟩
  intro inScope hs
  obtain ⟨rest', hc', hmap⟩ := ancestors_after
    (fun _ => rebuild env.nsOfName nd true (inheritedDecls t path) (.node (.element name) ks)) path t _ rest hc
    hval
  rw [namespacesInScope_of_chain hc', Option.some.injEq] at hs
  subst hs
  intro x hx
  rcases rdo_scope_cons _ rest' x hx with h1 | h1
  · have := hdk' [] _ rfl
    rw [frameOf_rebuild_element] at this
    exact this x h1
  · rw [namespacesInScopeChain_congr rest' rest hmap, ← inheritedDecls_eq t path _ rest hc] at h1
    exact rdo_declsOk_ext hext hinh x h1

theorem rdo_framesOk_along {env : Env} : ∀ (rel : Path) (n : Tree), DeclsOkBelow env n →
    FramesOk env (framesAlong n rel)
  | [], n, h => by
    intro f hf
    simp only [framesAlong, List.mem_singleton] at hf
    subst hf
    exact h [] n rfl
  | i :: rel, .node v ks, h => by
    intro f hf
    simp only [framesAlong, Tree.kids] at hf
    cases hk : ks[i]? with
    | none =>
      simp only [hk, List.mem_singleton] at hf
      subst hf
      exact h [] _ rfl
    | some k =>
      simp only [hk, List.mem_append, List.mem_singleton] at hf
      rcases hf with hf | rfl
      · exact rdo_framesOk_along rel k (h.kid hk) f hf
      · exact h [] _ rfl

/-- Declarations that do not rebind `xml`, below the start node and in scope at it: the frames of every
    event satisfy `XmlPrefixReserved`. -/
theorem rdo_xmlPrefixReserved {env : Env} (n : Tree) (inScope : List (Nat × Nat)) (hdk : DeclsOkBelow env n)
    (hin : DeclsOk env inScope) (rel : Path) : Props.XmlPrefixReserved (framesAlong n rel ++ [inScope]) := by
  have hok : FramesOk env (framesAlong n rel ++ [inScope]) := by
    intro f hf
    rcases List.mem_append.mp hf with hf | hf
    · exact rdo_framesOk_along rel n hdk f hf
    · rw [List.mem_singleton.mp hf]; exact hin
  exact fun m hl => (key_lt_of_lookupFrames hok hl).2 rfl

end XotModel.Repair
