/-
  C05 for `remove` and `detach` against the PAIR reading of the consolidation
  clause (`Model/FspecSpec3.lean`: `specRemoveP`, `specDetachP`), for EVERY forest satisfying the
  invariant — adjacent text nodes allowed (no `Forest.Normal`).

  xot reads the category-filtered siblings of the leaving node, cuts, then merges that pair; the
  specification reads the RAW neighbours, cuts, then merges the pair if both are text.  The two
  agree because two raw text neighbours force the node between them to be normal (`kidsOrdered`).
-/
import XotModel.Lemmas.FspecPair
import XotModel.Lemmas.FspecChildList

namespace XotModel
open HTree Spec

/-! ### xot's consolidation at a seam of a child list -/

namespace SiteAt

/-- At a seam of a child list xot's `remove_consolidate_text_nodes` (given the siblings on the two
    sides; `k` is the node by whose category the sibling lookups filter) and the specification's
    pair merge of the raw neighbours do the same: nothing, or the two text nodes become one. -/
theorem seam_outcome {g : Forest} {p : Nat} {v : Value} {A B : List HTree} (k : HTree)
    (s : SiteAt g p v (A ++ B)) (hleaf : ∀ t ∈ B, t.value.isText = true → t.kids = [])
    (hk : ∀ a b, A.getLast? = some a → B.head? = some b → a.value.isText = true → b.value.isText = true →
      k.value.category = .normal) :
    (g.removeConsolidate (prevOf A k) (nextOf B k) = (g, false) ∧
      g.mergeLeftAt (some p) (A.getLast?.map (·.handle), B.head?.map (·.handle)) = g ∧
      (g.consolidation = true → ∀ a b, A.getLast? = some a → B.head? = some b →
        ¬ (a.value.isText = true ∧ b.value.isText = true)))
    ∨ (∃ A' a b B' x y, A = A' ++ [a] ∧ B = b :: B' ∧ a.value = .text x ∧ b.value = .text y ∧
        g.removeConsolidate (prevOf A k) (nextOf B k) =
          (g.editAt (some p) (fun _ => A' ++ a.setValue (.text (x ++ y)) :: B'), true) ∧
        g.mergeLeftAt (some p) (A.getLast?.map (·.handle), B.head?.map (·.handle)) =
          g.editAt (some p) (fun _ => A' ++ a.setValue (.text (x ++ y)) :: B') ∧
        SiteAt (g.editAt (some p) (fun _ => A' ++ a.setValue (.text (x ++ y)) :: B')) p v
          (A' ++ a.setValue (.text (x ++ y)) :: B')) := by
  have hcat : ∀ a b, A.getLast? = some a → B.head? = some b → a.value.isText = true → b.value.isText = true →
      a.value.category = k.value.category ∧ b.value.category = k.value.category := by
    intro a b h1 h2 h3 h4
    rw [hk a b h1 h2 h3 h4, category_normal_of_isText h3, category_normal_of_isText h4]
    exact ⟨rfl, rfl⟩
  rcases oldSite (k := k) (mid := []) s hleaf hcat with ⟨h1, h2⟩ | ⟨hc, A', a, b, B', x, y, rfl, rfl, hx, hy, _, _, h3⟩
  · refine Or.inl ⟨h1, ?_, h2⟩
    cases hA : A.getLast? with
    | none => exact Forest.mergeLeftAt_none_left _ _ _
    | some a =>
      cases hB : B.head? with
      | none => exact Forest.mergeLeftAt_none_right _ _ _
      | some b =>
        obtain ⟨A', rfl⟩ := List.getLast?_eq_some_iff.1 hA
        obtain ⟨B', rfl⟩ := List.head?_eq_some_iff.1 hB
        rw [Option.map_some, Option.map_some, Forest.mergeLeftAt_some]
        split
        · rename_i hc
          have s' : SiteAt g p v (A' ++ a :: b :: B') := by simpa using s
          rw [s'.congr (g := mergeAdj a.handle b.handle) (g' := id)
            (mergeAdj_mid_other (h2 hc a b hA hB) B' (tops_ne_of_nodup s'.nodupKids.1).1), Forest.editAt_id]
        · rfl
  · have s' : SiteAt g p v (A' ++ a :: b :: B') := by simpa using s
    refine Or.inr ⟨A', a, b, B', x, y, rfl, rfl, hx, hy, h3, ?_, ?_⟩
    · rw [List.getLast?_concat, List.head?_cons, Option.map_some, Option.map_some, Forest.mergeLeftAt_some, hc,
        if_pos rfl]
      exact s'.congr (mergeAdj_mid_text hx hy B' (tops_ne_of_nodup s'.nodupKids.1).1)
    · exact s'.edit _ (by
        simp only [handlesList_append, handlesList_cons, setValue_handles]
        exact (List.Sublist.refl _).append ((List.Sublist.refl _).append (List.sublist_append_right _ _)))

theorem removeConsolidate_seam {g : Forest} {p : Nat} {v : Value} {A B : List HTree} (k : HTree)
    (s : SiteAt g p v (A ++ B)) (hleaf : ∀ t ∈ B, t.value.isText = true → t.kids = [])
    (hk : ∀ a b, A.getLast? = some a → B.head? = some b → a.value.isText = true → b.value.isText = true →
      k.value.category = .normal) :
    (g.removeConsolidate (prevOf A k) (nextOf B k)).1 =
      g.mergeLeftAt (some p) (A.getLast?.map (·.handle), B.head?.map (·.handle)) := by
  rcases seam_outcome k s hleaf hk with ⟨h1, h2, _⟩ | ⟨_, _, _, _, _, _, _, _, _, _, h1, h2, _⟩
  · rw [h1, h2]
  · rw [h1, h2]

theorem removeConsolidate_next {g : Forest} {p : Nat} {v : Value} {P : List HTree} {K : HTree} {R : List HTree}
    (s : SiteAt g p v (P ++ K :: R)) (hleaf : ∀ t ∈ R, t.value.isText = true → t.kids = []) :
    (g.removeConsolidate (some K.handle) (g.nextSibling K.handle)).1 =
      g.mergeLeftAt (some p) (some K.handle, R.head?.map (·.handle)) := by
  have s' : SiteAt g p v ((P ++ [K]) ++ R) := by simpa using s
  have := removeConsolidate_seam K s' hleaf (fun a _ ha _ hat _ => by
    rw [List.getLast?_concat] at ha; cases ha; exact category_normal_of_isText hat)
  have hp : prevOf (P ++ [K]) K = some K.handle := by simp [prevOf]
  rw [List.getLast?_concat, hp] at this
  rw [Forest.nextSibling_of_ctx s.ctx]
  exact this

theorem removeConsolidate_prev {g : Forest} {p : Nat} {v : Value} {P : List HTree} {N : HTree} {R : List HTree}
    (s : SiteAt g p v (P ++ N :: R)) (hleaf : ∀ t ∈ N :: R, t.value.isText = true → t.kids = []) :
    (g.removeConsolidate (g.prevSibling N.handle) (some N.handle)).1 =
      g.mergeLeftAt (some p) (P.getLast?.map (·.handle), some N.handle) := by
  have := removeConsolidate_seam N s hleaf (fun _ b _ hb _ hbt => by
    cases hb; exact category_normal_of_isText hbt)
  have hn : nextOf (N :: R) N = some N.handle := by simp [nextOf]
  rw [hn] at this
  rw [Forest.prevSibling_of_ctx s.ctx]
  exact this

end SiteAt

namespace PairRemove

/-- At the old site of a forest `g` from which the node `k` has already been cut (child list
    `l ++ r`): the model's consolidation with the siblings read before the cut is the
    specification's pair merge with the raw neighbours read before the cut. -/
theorem seam {f g : Forest} {p : Nat} {v : Value} {l r : List HTree} {k : HTree} (inv : f.Inv)
    (s : SiteAt f p v (l ++ k :: r)) (s1 : SiteAt g p v (l ++ r)) :
    (g.removeConsolidate (prevOf l k) (nextOf r k)).1 = g.mergeLeftAt (some p) (f.nbOf k.handle) := by
  rw [s.nbOf]
  refine SiteAt.removeConsolidate_seam k s1
    (fun t ht => s.leaf inv.valid t (List.mem_append_right _ (List.mem_cons_of_mem _ ht))) (fun a b ha hb hat hbt => ?_)
  have := hcat_of_ordered (k := k) (validTree_node (s.valid inv.valid)).2.1 a b ha hb hat hbt
  rw [← this.1]
  exact category_normal_of_isText hat

end PairRemove

open PairRemove

/-! ### remove -/

/-- `remove` against the pair reading: exactly the subtree disappears and exactly the two text
    nodes it separated are merged (into the earlier one) — for every forest with the invariant. -/
theorem remove_pair {f : Forest} {n : Nat} (inv : f.Inv) (live : f.isLive n = true) :
    (f.remove n).1 = specRemoveP n f := by
  have nd := inv.nodup
  unfold Forest.isLive at live
  cases hg : f.get? n with
  | none => rw [hg] at live; cases live
  | some u =>
  unfold Forest.remove specRemoveP Forest.dropSubtree
  rw [Forest.cut_any nd hg]
  rcases Forest.root_or_ctx hg with hroot | ⟨c, hctx⟩
  · -- a parentless tree
    have hno : f.ctx? n = none := Forest.ctx_none_of_root nd hroot
    simp only [Forest.prevSibling_of_no_ctx hno, Forest.removeConsolidate_none_left,
      Forest.parent?_of_no_ctx hno, Forest.mergeLeftAt_none]
  · -- a node with a parent
    obtain ⟨e0, v, s⟩ := SiteAt.of_ctx nd hctx
    obtain ⟨p, l, k, r⟩ := c
    simp only at e0 s
    subst e0
    simp only [Forest.prevSibling_of_ctx hctx, Forest.nextSibling_of_ctx hctx, Forest.parent?_of_ctx? hctx]
    exact seam inv s s.dropKid

/-! ### detach -/

/-- The old site once the child `k` has been detached (cut, and listed last among the parentless
    trees). -/
theorem SiteAt.detached {f : Forest} {p : Nat} {v : Value} {l : List HTree} {k : HTree} {r : List HTree}
    (s : SiteAt f p v (l ++ k :: r)) :
    SiteAt ((f.editAt (some p) (dropTop k.handle)).editAt none (insertLast k)) p v (l ++ r) := by
  obtain ⟨tl, tr⟩ := tops_ne_of_nodup s.nodupKids.1
  have hdrop : dropTop k.handle (l ++ k :: r) = l ++ r := dropTop_mid rfl tl tr
  constructor
  · show (handlesList ((f.roots.map (HTree.editAt p (dropTop k.handle))) ++ [k])).Nodup
    rw [handlesList_append, handlesList_cons, handlesList_nil, List.append_nil]
    have hperm := handlesList_editAt_perm (g := dropTop k.handle) (E := handles k)
      (by
        rw [hdrop]
        simp only [handlesList_append, handlesList_cons]
        rw [List.append_assoc]
        exact List.Perm.append_left _ List.perm_append_comm) f.roots s.nd s.kids
    exact hperm.symm.nodup s.nd
  · show findList? p ((f.roots.map (HTree.editAt p (dropTop k.handle))) ++ [k]) = _
    apply fi_findList?_append_left
    have := findList?_editAt_self (g := dropTop k.handle) f.roots s.kids
    rw [hdrop] at this
    exact this

/-- `detach` against the pair reading: the subtree becomes a parentless tree of its own (listed
    last), nothing else moves, and exactly the two text nodes it separated are merged. -/
theorem detach_pair {f : Forest} {n : Nat} (inv : f.Inv) (live : f.isLive n = true) :
    (f.detach n).1 = specDetachP n f := by
  have nd := inv.nodup
  unfold Forest.isLive at live
  cases hg : f.get? n with
  | none => rw [hg] at live; cases live
  | some u =>
  have hraw : f.detachRaw n = (f.editAt (f.parent? n) (dropTop n)).editAt none (insertLast u) := by
    unfold Forest.detachRaw
    rw [Forest.cut_any nd hg]
    rfl
  unfold Forest.detach specDetachP
  rw [hraw, hg]
  rcases Forest.root_or_ctx hg with hroot | ⟨c, hctx⟩
  · have hno : f.ctx? n = none := Forest.ctx_none_of_root nd hroot
    simp only [Forest.prevSibling_of_no_ctx hno, Forest.removeConsolidate_none_left,
      Forest.parent?_of_no_ctx hno, Forest.mergeLeftAt_none]
  · obtain ⟨e0, v, s⟩ := SiteAt.of_ctx nd hctx
    obtain ⟨p, l, k, r⟩ := c
    simp only at e0 s
    subst e0
    obtain rfl : u = k := by
      have := s.getKid
      rw [hg] at this
      exact Option.some.inj this
    simp only [Forest.prevSibling_of_ctx hctx, Forest.nextSibling_of_ctx hctx, Forest.parent?_of_ctx? hctx]
    exact seam inv s s.detached

/-- Non-vacuity on a forest WITH adjacent text nodes (consolidation switched off and on again):
    `<e a="v">` with the children `w`, `x`, `<b>`, `y`, `z` (four separate text nodes) and a
    parentless text node `r`.  Removing / detaching `b` merges exactly `x` and `y` (`w`, `xy`, `z`
    stay three nodes) where the whole-run specification `specRemove` gives the single node `wxyz`;
    removing `x` (between the text node `w` and the element), `y`, or the attribute merges
    nothing; detaching the parentless `r` only relists it. -/
example :
    let f : Forest := { roots := [.node 0 (.element 2) [.node 1 (.attribute 5 ['v']) [], .node 2 (.text ['w']) [],
                          .node 3 (.text ['x']) [], .node 4 (.element 3) [.node 8 (.text ['i']) [], .node 9 (.text ['j']) []],
                          .node 5 (.text ['y']) [], .node 6 (.text ['z']) []],
                          .node 7 (.text ['r']) []], next := 10, consolidation := true, everOff := true }
    f.inv = true ∧ f.isLive 4 = true ∧
      (f.remove 4).1 = specRemoveP 4 f ∧ (f.detach 4).1 = specDetachP 4 f ∧
      (f.remove 4).1.content = [.node (.element 2) [.node (.attribute 5 ['v']) [], .node (.text ['w']) [],
        .node (.text ['x', 'y']) [], .node (.text ['z']) []], .node (.text ['r']) []] ∧
      (f.detach 4).1.content = [.node (.element 2) [.node (.attribute 5 ['v']) [], .node (.text ['w']) [],
        .node (.text ['x', 'y']) [], .node (.text ['z']) []], .node (.text ['r']) [],
        .node (.element 3) [.node (.text ['i']) [], .node (.text ['j']) []]] ∧
      (f.remove 4).1 ≠ specRemove Keep.earlier 4 f ∧
      (f.remove 3).1 = specRemoveP 3 f ∧
      (f.remove 3).1.content = [.node (.element 2) [.node (.attribute 5 ['v']) [], .node (.text ['w']) [],
        .node (.element 3) [.node (.text ['i']) [], .node (.text ['j']) []], .node (.text ['y']) [], .node (.text ['z']) []],
        .node (.text ['r']) []] ∧
      (f.remove 5).1 = specRemoveP 5 f ∧ (f.remove 1).1 = specRemoveP 1 f ∧ (f.detach 7).1 = specDetachP 7 f := by
  decide +kernel

end XotModel
