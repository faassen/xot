/-
  C05 for the convenience calls of `Model/Fcreation.lean`: what a node creation
  does to the hypotheses of the move theorems (`Forest.Inv`, `Forest.Normal`, the corner
  `Spec.selfMerge`), and `append_namespace` against `namespaces_mut().insert`
  (`appendNamespace_mapInsert`).
-/
import XotModel.Model.Fcreation
import XotModel.Lemmas.FspecTextContentSet
import XotModel.Lemmas.FspecMapFrame
import XotModel.Lemmas.FspecPairAppend

namespace XotModel
namespace Fcreation
open HTree Spec
open Forest (MapKind entryKey entryUpdate)

theorem newNode_normal {f : Forest} (norm : f.Normal) (v : Value) : (f.newNode v).1.Normal := by
  intro hc
  show validList true (f.roots ++ [.node f.next v []]) = true
  rw [Fmap.validList_append, Bool.and_eq_true]
  exact ⟨norm hc, by simp [validList, Fmap.validTree_leaf _ (.node f.next v []) rfl]⟩

theorem get_old {f : Forest} (v : Value) {x : Nat} {t : HTree} (h : f.get? x = some t) :
    (f.newNode v).1.get? x = some t := by
  show findList? x (f.roots ++ [.node f.next v []]) = some t
  rw [Fmap.findList?_append]
  have : findList? x f.roots = some t := h
  rw [this]; rfl

theorem next_fresh {f : Forest} (hi : f.Inv) : findList? f.next f.roots = none := by
  cases h : findList? f.next f.roots with
  | none => rfl
  | some t =>
    have := hi.below f.next (mem_of_findList?_some h)
    omega

theorem get_new {f : Forest} (hi : f.Inv) (v : Value) :
    (f.newNode v).1.get? f.next = some (.node f.next v []) := by
  show findList? f.next (f.roots ++ [.node f.next v []]) = _
  rw [Fmap.findList?_append, next_fresh hi]
  simp [findList?, find?]

theorem isRoot_new (f : Forest) (v : Value) : (f.newNode v).1.isRoot f.next = true := by
  show (f.roots ++ [HTree.node f.next v []]).any _ = true
  simp [HTree.handle]

theorem value_old {f : Forest} (v : Value) {x : Nat} {w : Value} (h : f.value? x = some w) :
    (f.newNode v).1.value? x = some w := Forest.value?_newNode_of_some v h

/-- The fresh node has no context: the corner `selfMerge` cannot arise for it. -/
theorem selfMerge_new {f : Forest} (hi : f.Inv) (v : Value) (p : Nat) :
    selfMerge (f.newNode v).1 (.lastChildOf p) f.next = false := by
  have hc := Forest.ctx_none_of_root (newNode_inv hi v).nodup (isRoot_new f v)
  unfold selfMerge
  rw [hc]; simp

/-- No node has the fresh node as its parent: the corner cannot arise under it either. -/
theorem selfMerge_under_new {f : Forest} (hi : f.Inv) (v : Value) (n : Nat) :
    selfMerge (f.newNode v).1 (.lastChildOf f.next) n = false := by
  unfold selfMerge
  cases hc : (f.newNode v).1.ctx? n with
  | none => simp
  | some c =>
    have hne : c.parent ≠ f.next := by
      intro e
      obtain ⟨_, w, hk⟩ := Forest.kids_of_ctx (newNode_inv hi v).nodup hc
      rw [e, get_new hi v] at hk
      have := congrArg HTree.kids (Option.some.inj hk)
      simp [HTree.kids] at this
    have : (f.next == c.parent) = false := by
      simp only [beq_eq_false_iff_ne, ne_eq]; exact fun e => hne e.symm
    simp only [hc]
    cases hr : c.right with
    | nil => simp
    | cons b rest => simp [this]

theorem mapGetNode_old {f : Forest} (v : Value) (k : MapKind) {e : Nat} (he : f.isElement e = true) (key : Nat) :
    (f.newNode v).1.mapGetNode k e key = f.mapGetNode k e key := by
  unfold Forest.mapGetNode
  unfold Forest.isElement Forest.value? at he
  cases hg : f.get? e with
  | none => rw [hg] at he; simp at he
  | some t => rw [get_old v hg]

theorem mapAt_fresh_leaf {h x : Nat} (g : HTree → HTree) (v : Value) (hne : x ≠ h) :
    mapAt h g (HTree.node x v []) = HTree.node x v [] := by
  simp [mapAt, mapAtList, hne]

theorem setValue_newNode (f : Forest) (v w : Value) {h : Nat} (hlt : h < f.next) :
    (f.newNode v).1.setValue h w = ((f.setValue h w).newNode v).1 := by
  have hne : f.next ≠ h := by omega
  show ({ f with roots := (f.roots ++ [HTree.node f.next v []]).map (mapAt h (HTree.setValue w)), next := f.next + 1 } : Forest) = _
  rw [List.map_append, List.map_cons, List.map_nil, mapAt_fresh_leaf _ _ hne]
  rfl

theorem entry_lt_next {f : Forest} (hi : f.Inv) {k : MapKind} {e key : Nat} {x : HTree}
    (hm : f.mapGetNode k e key = some x) : x.handle < f.next := by
  unfold Forest.mapGetNode at hm
  cases hg : f.get? e with
  | none => rw [hg] at hm; cases hm
  | some t =>
    rw [hg] at hm
    have hx : x ∈ Forest.mapChildren k t := List.mem_of_find?_eq_some hm
    have hk : x ∈ t.kids := by
      cases k with
      | namespaces => exact (List.takeWhile_prefix _).subset hx
      | attributes => exact (List.dropWhile_suffix _).subset ((List.takeWhile_prefix _).subset hx)
    apply hi.below
    have hsub := findList?_sublist _ f.roots t hg
    apply hsub.subset
    cases t with
    | node h' v' ks =>
      rw [handles_node]
      exact List.mem_cons_of_mem _ (rootHandle_mem_handlesList hk)

/-- `append_namespace(e, prefix, ns)` on an element: the outcome is `ok`; for a new prefix the
    state is that of `namespaces_mut(e).insert(prefix, ns)` (the node created by the call IS the
    entry node); for an existing prefix it is that state plus the created node, left parentless. -/
theorem appendNamespace_mapInsert {f : Forest} (hi : f.Inv) {e : Nat} (he : f.isElement e = true) (pfx ns : Nat) :
    (f.appendNamespace e pfx ns).2.1 = .ok ∧
    (f.appendNamespace e pfx ns).1 =
      (match f.mapGetNode .namespaces e pfx with
       | some _ => ((f.mapInsert .namespaces e (.namespace pfx ns)).1.newNode (.namespace pfx ns)).1
       | none => (f.mapInsert .namespaces e (.namespace pfx ns)).1) ∧
    (f.appendNamespace e pfx ns).2.2 =
      (match f.mapGetNode .namespaces e pfx with | some x => x.handle | none => f.next) := by
  have he1 := Fmap.isElement_newNode f (.namespace pfx ns) e he
  have hv1 : (f.newNode (.namespace pfx ns)).1.value? f.next = some (.namespace pfx ns) := by
    unfold Forest.value?; rw [get_new hi]; rfl
  have hg1 := mapGetNode_old (.namespace pfx ns) .namespaces he pfx
  have hmi := mapInsert_spec hi he (k := .namespaces) (entry := .namespace pfx ns) rfl
  unfold Forest.mapInsert at hmi ⊢
  unfold Forest.appendNamespace Forest.appendEntryNode Forest.mapInsertNode
  simp only [he, Bool.not_true, Bool.false_eq_true, if_false, entryKey] at hmi ⊢
  simp only [Forest.newNode] at hv1 hg1 he1 ⊢
  simp only [he1, hv1, MapKind.matches, Bool.not_true, Bool.false_eq_true, if_false, entryKey, hg1]
  cases hm : f.mapGetNode .namespaces e pfx with
  | none =>
    rw [hm] at hmi
    simp only [Forest.newNode] at hmi
    exact ⟨by rw [hmi], rfl, rfl⟩
  | some x =>
    refine ⟨rfl, ?_, rfl⟩
    exact setValue_newNode f _ _ (entry_lt_next hi hm)

end Fcreation
end XotModel
