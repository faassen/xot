/-
  Attribute and namespace entries of a construction program: `set_attribute` / `set_namespace` and `any_append` of a
  parentless entry node are, handle for handle, the specification's `specSetEntry` / `specAttachEntry` (on the C11
  lemmas).  Then what the per-call theorems share: the flag condition `FlagsOk`, `any_append` by the kind of the
  node, what an accepted call leaves alone (`spec_fields`), `InvAlong`.
-/
import XotModel.Model.FanyorderSpec
import XotModel.Lemmas.FmapNode
import XotModel.Lemmas.FmapReads
import XotModel.Lemmas.FspecList
import XotModel.Lemmas.FanyorderMove

/-! ### Attribute and namespace entries

`set_attribute` / `set_namespace` are `MutableNodeMap::insert`.  Same key — the value replaced in place; new key — a
node at the end of its block. -/

namespace XotModel
namespace Prog
open Spec Fmap HTree
open Forest (MapKind entryKey)

/-- `sameKey` holds of two attribute nodes with one name, or two namespace nodes with one prefix. -/
theorem sameKey_true {a b : Value} (h : sameKey a b = true) :
    a.category = b.category ∧ a.category ≠ .normal ∧ entryKey a = entryKey b := by
  unfold sameKey at h
  split at h
  · exact ⟨rfl, (fun e => nomatch e), eq_of_beq h⟩
  · exact ⟨rfl, (fun e => nomatch e), eq_of_beq h⟩
  · cases h

theorem entry_shape {k : MapKind} {a : Value} (ha : a.category = kindCat k) :
    (k = .attributes ∧ ∃ n v, a = .attribute n v) ∨ (k = .namespaces ∧ ∃ p ns, a = .namespace p ns) := by
  have hm := (matches_iff_cat k a).2 ha
  unfold MapKind.matches at hm
  split at hm
  · exact Or.inl ⟨rfl, _, _, rfl⟩
  · exact Or.inr ⟨rfl, _, _, rfl⟩
  · cases hm

theorem entry_same {k : MapKind} {a b : Value} (ha : a.category = kindCat k) (hb : k.matches b = true)
    (hk : entryKey a = entryKey b) : sameKey a b = true ∧ Forest.entryUpdate a b = b := by
  rcases entry_shape ha with ⟨rfl, n, v, rfl⟩ | ⟨rfl, p, ns, rfl⟩
  · rcases entry_shape ((matches_iff_cat _ b).1 hb) with ⟨_, n', v', rfl⟩ | ⟨h, _⟩
    · cases (show n = n' from hk)
      exact ⟨beq_self_eq_true n, rfl⟩
    · cases h
  · rcases entry_shape ((matches_iff_cat _ b).1 hb) with ⟨h, _⟩ | ⟨_, p', ns', rfl⟩
    · cases h
    · cases (show p = p' from hk)
      exact ⟨beq_self_eq_true p, rfl⟩

theorem sameKey_false_of_key {a b : Value} (hk : entryKey a ≠ entryKey b) : sameKey a b = false := by
  cases h : sameKey a b with
  | false => rfl
  | true => exact absurd (sameKey_true h).2.2 hk

theorem sameKey_false_of_cat {a b : Value} (hc : a.category ≠ b.category) : sameKey a b = false := by
  cases h : sameKey a b with
  | false => rfl
  | true => exact absurd (sameKey_true h).1 hc

theorem updEntry_split (entry : Value) (P Q : List HTree) (n : HTree)
    (hP : ∀ a ∈ P, sameKey a.value entry = false) (hn : sameKey n.value entry = true) :
    updEntry entry (P ++ n :: Q) = P ++ n.setValue entry :: Q := by
  induction P with
  | nil => simp [updEntry, hn]
  | cons a P ih =>
    have ha := hP a List.mem_cons_self
    simp only [List.cons_append, updEntry, ha, Bool.false_eq_true, if_false]
    rw [ih (fun x hx => hP x (List.mem_cons_of_mem _ hx))]

theorem hasKey_false (entry : Value) (L : List HTree) (h : ∀ a ∈ L, sameKey a.value entry = false) :
    hasKey entry L = false := by
  unfold hasKey
  rw [List.any_eq_false]
  intro a ha
  simp [h a ha]

theorem hasKey_true (entry : Value) (L : List HTree) (n : HTree) (hn : n ∈ L) (h : sameKey n.value entry = true) :
    hasKey entry L = true := by
  unfold hasKey
  rw [List.any_eq_true]
  exact ⟨n, hn, h⟩

theorem insEntry_sect {N A S : List HTree} (hs : Sect (N ++ A ++ S) N A S) (k : MapKind) (t : HTree)
    (ht : t.value.category = kindCat k) :
    insEntry t (N ++ A ++ S) = preK k N ++ (Sect.sec k N A ++ [t]) ++ postK k A S := by
  unfold insEntry
  cases k with
  | namespaces =>
    have hr : t.value.category.rank = 0 := by rw [ht]; rfl
    rw [hr]
    have := Fmap.takeWhile_dropWhile_seam (fun c : HTree => decide (c.value.category.rank ≤ 0)) N (A ++ S)
      (by intro a ha; simp [hs.allNs a ha, Category.rank])
      (by
        intro a ha
        rcases List.mem_append.1 ha with h | h
        · simp [hs.allAt a h, Category.rank]
        · simp [hs.allNm a h, Category.rank])
    rw [List.append_assoc, this.1, this.2]
    simp [preK, postK, Sect.sec]
  | attributes =>
    have hr : t.value.category.rank = 1 := by rw [ht]; rfl
    rw [hr]
    have := Fmap.takeWhile_dropWhile_seam (fun c : HTree => decide (c.value.category.rank ≤ 1)) (N ++ A) S
      (by
        intro a ha
        rcases List.mem_append.1 ha with h | h
        · simp [hs.allNs a h, Category.rank]
        · simp [hs.allAt a h, Category.rank])
      (by intro a ha; simp [hs.allNm a ha, Category.rank])
    rw [this.1, this.2]
    simp [preK, postK, Sect.sec]

theorem sameKey_outside {N A S : List HTree} (hs : Sect (N ++ A ++ S) N A S) (k : MapKind) (entry : Value)
    (hm : k.matches entry = true) :
    (∀ a ∈ preK k N, sameKey a.value entry = false) ∧ (∀ a ∈ postK k A S, sameKey a.value entry = false) := by
  have hc : entry.category = kindCat k := (matches_iff_cat k entry).1 hm
  cases k with
  | namespaces =>
    refine ⟨(by intro a ha; simp [preK] at ha), ?_⟩
    intro a ha
    apply sameKey_false_of_cat
    rw [hc]
    rcases List.mem_append.1 ha with h | h
    · rw [hs.allAt a h]; simp [kindCat]
    · rw [hs.allNm a h]; simp [kindCat]
  | attributes =>
    refine ⟨?_, ?_⟩
    · intro a ha
      apply sameKey_false_of_cat
      rw [hc, hs.allNs a ha]; simp [kindCat]
    · intro a ha
      apply sameKey_false_of_cat
      rw [hc, hs.allNm a ha]; simp [kindCat]

theorem kidsOf_located {f : Forest} {e : Nat} {ev : Value} {ks : List HTree} (loc : Located f e ev ks) :
    f.kidsOf e = ks := by
  unfold Forest.kidsOf
  rw [loc.get]
  rfl

/-- The specification in the existing-key case, in the normal form of the C11 lemmas. -/
theorem spec_existing {f : Forest} {e nm : Nat} {N A S : List HTree} (h : MInv f e nm N A S)
    (k : MapKind) (entry : Value) (hm : k.matches entry = true) (n : HTree) (s1 s2 : List HTree)
    (hs : Sect.sec k N A = s1 ++ n :: s2) (hkey : keyOf n = entryKey entry)
    (hs1 : ∀ a ∈ s1, keyOf a ≠ entryKey entry) :
    hasKey entry (f.kidsOf e) = true ∧
    f.editAt (some e) (updEntry entry) =
      { f with roots := withKids f.roots e (preK k N ++ (s1 ++ n.setValue (Forest.entryUpdate n.value entry) :: s2) ++ postK k A S) } := by
  have hkids := kidsOf_located h.loc
  have hsplit := kids_around k N A S s1 s2 n hs
  have hncat : n.value.category = kindCat k := h.sect.sec_cat k n (by rw [hs]; simp)
  have hnk : sameKey n.value entry = true := (entry_same hncat hm hkey).1
  obtain ⟨hpre, _⟩ := sameKey_outside h.sect k entry hm
  have hP : ∀ a ∈ preK k N ++ s1, sameKey a.value entry = false := by
    intro a ha
    rcases List.mem_append.1 ha with ha | ha
    · exact hpre a ha
    · exact sameKey_false_of_key (hs1 a ha)
  constructor
  · rw [hkids, hsplit]
    exact hasKey_true entry _ n (by simp) hnk
  · rw [h.loc.site.editAt_eq_withKids, hsplit, updEntry_split entry _ _ n hP hnk,
      (entry_same hncat hm hkey).2]
    simp

/-- The specification in the new-key case. -/
theorem spec_absent {f : Forest} {e nm : Nat} {N A S : List HTree} (h : MInv f e nm N A S)
    (k : MapKind) (t : HTree) (hm : k.matches t.value = true)
    (habs : ∀ a ∈ Sect.sec k N A, keyOf a ≠ entryKey t.value) :
    hasKey t.value (f.kidsOf e) = false ∧
    ∀ g : Forest, Located g e (.element nm) (N ++ A ++ S) →
      g.editAt (some e) (insEntry t) =
        { g with roots := withKids g.roots e (preK k N ++ (Sect.sec k N A ++ [t]) ++ postK k A S) } := by
  have hkids := kidsOf_located h.loc
  obtain ⟨hpre, hpost⟩ := sameKey_outside h.sect k t.value hm
  constructor
  · rw [hkids, split_kids k N A S]
    apply hasKey_false
    intro a ha
    rcases List.mem_append.1 ha with ha | ha
    · rcases List.mem_append.1 ha with ha | ha
      · exact hpre a ha
      · exact sameKey_false_of_key (habs a ha)
    · exact hpost a ha
  · intro g loc
    rw [loc.site.editAt_eq_withKids, insEntry_sect h.sect k t ((matches_iff_cat k _).1 hm)]

theorem isElementAt_eq (f : Forest) (e : Nat) : isElementAt f e = f.isElement e := rfl

/-- `MutableNodeMap::insert` on an element is the specification's `specSetEntry`; it never fails. -/
theorem mapInsert_spec {f : Forest} (hi : f.Inv) (k : MapKind) (e : Nat) (entry : Value)
    (he : f.isElement e = true) (hm : k.matches entry = true) :
    f.mapInsert k e entry = (specSetEntry e entry f, .ok) := by
  obtain ⟨nm, N, A, S, h⟩ := minv_of_inv f e hi he
  unfold Forest.mapInsert specSetEntry
  rw [h.isElement]
  simp only [Bool.not_true, Bool.false_eq_true, if_false]
  rw [h.getNode k]
  cases hf : (Sect.sec k N A).find? (fun c => entryKey c.value == entryKey entry) with
  | some n =>
    obtain ⟨hkey, s1, s2, hs, hs1⟩ := find?_key_split _ _ _ hf
    obtain ⟨heq, _, _, _⟩ := insert_existing h k entry hm n s1 s2 hs _ hkey hs1
    obtain ⟨hk, hsp⟩ := spec_existing h k entry hm n s1 s2 hs hkey hs1
    simp only
    rw [heq, hk, if_pos rfl, hsp]
  | none =>
    have habs := find?_key_none _ _ hf
    obtain ⟨hloc1, hroot1, hne1, hbelow1⟩ := located_newNode h.loc h.below entry
    have h1 : MInv (f.newNode entry).1 e nm N A S := ⟨hloc1, h.sect, h.uniq, hbelow1, h.leaf⟩
    obtain ⟨hplace, _, _, _⟩ := place_absent h1 k f.next entry hm hroot1 hne1 habs
    rw [rootsWithout_newNode f h.below entry] at hplace
    obtain ⟨hk, hsp⟩ := spec_absent h k (.node f.next entry []) hm habs
    have hk' : hasKey entry (f.kidsOf e) = false := hk
    simp only
    show (f.newNode entry).1.mapPlace k e f.next = _
    rw [hplace, hk']
    simp only [Bool.false_eq_true, if_false]
    rw [hsp f h.loc]
    simp only [newNode_eq]

/-- `append_attribute_node` / `append_namespace_node` of a parentless entry node is the
    specification's `specAttachEntry`; it never fails. -/
theorem appendEntryNode_spec {f : Forest} (hi : f.Inv) (k : MapKind) (e c : Nat) (t : HTree)
    (he : f.isElement e = true) (hg : f.get? c = some t) (hroot : f.isRoot c = true)
    (hm : k.matches t.value = true) :
    (f.appendEntryNode k e c).1 = specAttachEntry e c t f ∧ (f.appendEntryNode k e c).2.1 = .ok := by
  obtain ⟨nm, N, A, S, h⟩ := minv_of_inv f e hi he
  have hval := Prog2.value_of_get hg
  have hleaf := leafRoot_of_inv f hi k c t.value hroot hval hm
  have htl : t = .node c t.value [] := by
    have := leafRoot_get f h.loc.nodup c t.value hleaf
    rw [hg] at this
    exact Option.some.inj this
  have hne := leafRoot_ne_elem h k c t.value hm hleaf
  unfold Forest.appendEntryNode specAttachEntry
  rw [h.isElement]
  simp only [Bool.not_true, Bool.false_eq_true, if_false, hval, hm]
  unfold Forest.mapInsertNode
  simp only [hval, hm, Bool.not_true, Bool.false_eq_true, if_false]
  rw [h.getNode k]
  cases hf : (Sect.sec k N A).find? (fun c => entryKey c.value == entryKey t.value) with
  | some n =>
    obtain ⟨hkey, s1, s2, hs, hs1⟩ := find?_key_split _ _ _ hf
    obtain ⟨heq, _, _, _⟩ := insert_existing h k t.value hm n s1 s2 hs _ hkey hs1
    obtain ⟨hk, hsp⟩ := spec_existing h k t.value hm n s1 s2 hs hkey hs1
    simp only
    rw [heq, hk, if_pos rfl, hsp]
    exact ⟨rfl, trivial⟩
  | none =>
    have habs := find?_key_none _ _ hf
    obtain ⟨hplace, _, _, _⟩ := place_absent h k c t.value hm hleaf hne habs
    obtain ⟨hk, hsp⟩ := spec_absent h k t hm habs
    simp only
    rw [hplace, hk]
    simp only [Bool.false_eq_true, if_false]
    have h0 := located_without h.loc c t.value hleaf hne
    have hroots : (f.editAt none (dropTop c)).roots = rootsWithout f c := by
      show dropTop c f.roots = _
      rw [dropTop_eq_filter]
      rfl
    have hloc' : Located (f.editAt none (dropTop c)) e (.element nm) (N ++ A ++ S) := by
      refine ⟨?_, ?_⟩
      · show (handlesList (f.editAt none (dropTop c)).roots).Nodup
        rw [hroots]; exact h0.nodup
      · show findList? e (f.editAt none (dropTop c)).roots = _
        rw [hroots]; exact h0.get
    rw [hsp _ hloc', hroots]
    refine ⟨?_, trivial⟩
    rw [← htl]
    rfl

end Prog
end XotModel

/-! ### What the per-call theorems share

The flag condition `FlagsOk` (consolidation never switched off, or off: `Forest.Normal` follows), what
`any_append` does by the kind of the node, what a call accepted by the specification leaves alone,
and `InvAlong`.  One call: `Lemmas/FanyorderCall.lean`; whole programs: `Lemmas/FprogNavigation.lean`. -/

namespace XotModel
namespace Prog
open Spec Fmap

/-- The flag settings under which the store never holds adjacent text nodes while consolidation
    is on: consolidation has never been switched off, or it is off. -/
def FlagsOk (f : Forest) : Prop := f.everOff = false ∨ f.consolidation = false

theorem normal_of_flags {f : Forest} (inv : f.Inv) (h : FlagsOk f) : f.Normal := by
  intro hc
  rcases h with h | h
  · have := inv.valid
    rw [h] at this
    exact this
  · rw [h] at hc; cases hc

theorem FlagsOk.of_eq {f f' : Forest} (h : FlagsOk f) (h1 : f'.consolidation = f.consolidation)
    (h2 : f'.everOff = f.everOff) : FlagsOk f' := by
  unfold FlagsOk at *
  rw [h1, h2]; exact h

theorem anyAppend_normal (f : Forest) (p c : Nat) (t : HTree) (hg : f.get? c = some t)
    (hn : t.value.isNormal = true) :
    f.anyAppend p c = ((f.append p c).1, (f.append p c).2,
      Forest.anyAppendRet (f.append p c).1 (f.append p c).2 p c) := by
  have hv := Prog2.value_of_get hg
  unfold Forest.anyAppend
  rw [hv]
  cases h : t.value <;> simp_all [Value.isNormal, Value.category]

theorem anyAppend_entry' (f : Forest) (p c : Nat) (t : HTree) (hg : f.get? c = some t)
    (hn : t.value.isNormal = false) :
    ∃ k : Forest.MapKind, k.matches t.value = true ∧ f.anyAppend p c = f.appendEntryNode k p c := by
  have hv := Prog2.value_of_get hg
  cases h : t.value with
  | «attribute» a b =>
    refine ⟨.attributes, by simp [Forest.MapKind.matches], ?_⟩
    exact anyAppend_entry f .attributes p c _ (by rw [hv, h]) (by simp [Forest.MapKind.matches])
  | «namespace» a b =>
    refine ⟨.namespaces, by simp [Forest.MapKind.matches], ?_⟩
    exact anyAppend_entry f .namespaces p c _ (by rw [hv, h]) (by simp [Forest.MapKind.matches])
  | _ => simp_all [Value.isNormal, Value.category]

theorem append_dead (f : Forest) (p c : Nat) (hg : f.get? c = none) : (f.append p c).2 ≠ .ok := by
  intro hok
  have := implCheck_of_ok (d := .lastChildOf p) (n := c) hok
  simp only [implCheck, Forest.structureCheck, Forest.value?, hg] at this
  simp at this

theorem of_ite_some {α : Type} {c : Bool} {x y : α} (h : (if c = true then some x else none) = some y) :
    c = true ∧ x = y := by
  cases c with
  | true => exact ⟨rfl, Option.some.inj h⟩
  | false => cases h

theorem spec_fields {f f' : Forest} {c : Call} {o : Option Nat} (h : c.spec f = some (f', o)) :
    f'.consolidation = f.consolidation ∧ f'.everOff = f.everOff := by
  cases c with
  | create v =>
    simp only [Call.spec, Option.some.injEq, Prod.mk.injEq] at h
    rw [← h.1]; exact ⟨rfl, rfl⟩
  | move d n =>
    cases (of_ite_some h).2
    exact ⟨(specMove_fields _ d n f).1, (specMove_fields _ d n f).2.1⟩
  | anyAppend p c =>
    simp only [Call.spec] at h
    split at h
    · cases h
    · split at h
      · split at h
        · simp only [Option.some.injEq, Prod.mk.injEq] at h
          rw [← h.1]
          exact ⟨(specMove_fields _ _ c f).1, (specMove_fields _ _ c f).2.1⟩
        · cases h
      · split at h
        · simp only [Option.some.injEq, Prod.mk.injEq] at h
          rw [← h.1]
          unfold specAttachEntry
          split
          · exact ⟨rfl, rfl⟩
          · exact ⟨rfl, rfl⟩
        · cases h
  | setAttribute e name v | setNamespace e pfx ns =>
    cases (of_ite_some h).2
    unfold specSetEntry
    split <;> exact ⟨rfl, rfl⟩

/-- `Forest.Inv` holds in every state the implementation passes through while it answers `ok`
    (the start state included).  This is what C04 proves of every history (`C04_step_all`). -/
def InvAlong (s : State) : Program → Prop
  | [] => s.forest.Inv
  | st :: rest =>
    s.forest.Inv ∧
      (match stepImpl s st with
       | (s', .ok) => InvAlong s' rest
       | _ => True)

theorem InvAlong.head {s : State} {P : Program} (h : InvAlong s P) : s.forest.Inv := by
  cases P with
  | nil => exact h
  | cons st rest => exact h.1

end Prog
end XotModel
