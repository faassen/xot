/-
  Structure of the output-event stream (`genOutputs`, Model/Output): per node kind what is
  emitted, tagging of every event with the node it belongs to, document order.
-/
import XotModel.Model.Output
import XotModel.Lemmas.BasicFacts
import XotModel.Lemmas.AxesPreorder

namespace XotModel

/-- Events that open a node: one per normal non-document node. -/
def Output.isOpening : Output → Bool
  | .startTagOpen _ => true
  | .text _ => true
  | .comment _ => true
  | .pi _ _ => true
  | _ => false

/-- The opening event of a node, from its value alone. -/
def openingEvent (n : Tree) : Option Output :=
  match n.value with
  | .element name => some (.startTagOpen name)
  | .text s => some (.text s)
  | .comment s => some (.comment s)
  | .pi target data => some (.pi target data)
  | _ => none

/-- Normal nodes at and below a node with their paths, in document order (pre-order over the raw
    child lists; an abnormal node contributes only what lies below it — nothing in a sound tree). -/
def normalPreorder (path : Path) : Tree → List (Path × Tree)
  | .node v ks => (if v.isNormal then [(path, .node v ks)] else []) ++ kids path 0 ks
where
  kids (path : Path) : Nat → List Tree → List (Path × Tree)
    | _, [] => []
    | i, k :: ks => normalPreorder (path ++ [i]) k ++ kids path (i + 1) ks

theorem genNode_element (inScope : List (Nat × Nat)) (isTop : Bool) (path : Path) (name : Nat)
    (ks : List Tree) :
    genNode inScope isTop path (.node (.element name) ks) =
      [(path, Output.startTagOpen name)]
        ++ (if isTop then extraPrefixes inScope (.node (.element name) ks) else []).map (fun o => (path, o))
        ++ (Tree.node (.element name) ks).nsDecls.map (fun d => (path, Output.pfx d.1 d.2))
        ++ (Tree.node (.element name) ks).attrs.map (fun a => (path, Output.attribute a.1 a.2))
        ++ [(path, Output.startTagClose)]
        ++ genNode.genKids inScope path 0 ks
        ++ [(path, Output.endTag name)] := by
  simp [genNode, Value.isNormal, Value.category, edgeStart, edgeEnd, Tree.value, List.map_append,
    Function.comp_def]

/-- The declaration and attribute events between `<name` and `>`. -/
def declEvents (inScope : List (Nat × Nat)) (isTop : Bool) (path : Path) (n : Tree) : List (Path × Output) :=
  (if isTop then extraPrefixes inScope n else []).map (fun o => (path, o))
    ++ n.nsDecls.map (fun d => (path, Output.pfx d.1 d.2))
    ++ n.attrs.map (fun a => (path, Output.attribute a.1 a.2))

theorem genNode_element_shape (inScope : List (Nat × Nat)) (isTop : Bool) (path : Path) (name : Nat)
    (ks : List Tree) :
    genNode inScope isTop path (.node (.element name) ks) =
      (path, Output.startTagOpen name) ::
        (declEvents inScope isTop path (.node (.element name) ks)
          ++ ((path, Output.startTagClose) :: (genNode.genKids inScope path 0 ks ++ [(path, Output.endTag name)]))) := by
  rw [genNode_element]
  simp [declEvents, List.append_assoc]

def Output.isDecl : Output → Bool
  | .pfx _ _ => true
  | .attribute _ _ => true
  | _ => false

theorem declEvents_isDecl (inScope : List (Nat × Nat)) (isTop : Bool) (path : Path) (n : Tree) :
    ∀ po ∈ declEvents inScope isTop path n, po.1 = path ∧ po.2.isDecl = true := by
  intro po hpo
  simp only [declEvents, List.mem_append, List.mem_map] at hpo
  rcases hpo with (⟨o, ho, rfl⟩ | ⟨d, _, rfl⟩) | ⟨a, _, rfl⟩
  · split at ho
    · simp only [extraPrefixes, List.mem_map] at ho
      obtain ⟨d, _, rfl⟩ := ho; exact ⟨rfl, rfl⟩
    · simp at ho
  · exact ⟨rfl, rfl⟩
  · exact ⟨rfl, rfl⟩

theorem genNode_text (inScope : List (Nat × Nat)) (isTop : Bool) (path : Path) (s : Str) (ks : List Tree) :
    genNode inScope isTop path (.node (.text s) ks) =
      (path, Output.text s) :: genNode.genKids inScope path 0 ks := by
  simp [genNode, Value.isNormal, Value.category, edgeStart, edgeEnd, Tree.value]

theorem genNode_comment (inScope : List (Nat × Nat)) (isTop : Bool) (path : Path) (s : Str) (ks : List Tree) :
    genNode inScope isTop path (.node (.comment s) ks) =
      (path, Output.comment s) :: genNode.genKids inScope path 0 ks := by
  simp [genNode, Value.isNormal, Value.category, edgeStart, edgeEnd, Tree.value]

theorem genNode_pi (inScope : List (Nat × Nat)) (isTop : Bool) (path : Path) (target : Nat)
    (data : Option Str) (ks : List Tree) :
    genNode inScope isTop path (.node (.pi target data) ks) =
      (path, Output.pi target data) :: genNode.genKids inScope path 0 ks := by
  simp [genNode, Value.isNormal, Value.category, edgeStart, edgeEnd, Tree.value]

theorem genNode_document (inScope : List (Nat × Nat)) (isTop : Bool) (path : Path) (ks : List Tree) :
    genNode inScope isTop path (.node .document ks) = genNode.genKids inScope path 0 ks := by
  simp [genNode, Value.isNormal, Value.category, edgeStart, edgeEnd, Tree.value]

theorem genNode_attribute (inScope : List (Nat × Nat)) (isTop : Bool) (path : Path) (name : Nat)
    (v : Str) (ks : List Tree) :
    genNode inScope isTop path (.node (.attribute name v) ks) = genNode.genKids inScope path 0 ks := by
  simp [genNode, Value.isNormal, Value.category]

theorem genNode_namespace (inScope : List (Nat × Nat)) (isTop : Bool) (path : Path) (p ns : Nat)
    (ks : List Tree) :
    genNode inScope isTop path (.node (.namespace p ns) ks) = genNode.genKids inScope path 0 ks := by
  simp [genNode, Value.isNormal, Value.category]

namespace Ser

/-- A document, attribute or namespace node has no event of its own. -/
theorem genNode_noEvent (inScope : List (Nat × Nat)) (isTop : Bool) (path : Path) (v : Value) (ks : List Tree)
    (h : openingEvent (.node v ks) = none) :
    genNode inScope isTop path (.node v ks) = genNode.genKids inScope path 0 ks := by
  cases v with
  | document => exact genNode_document inScope isTop path ks
  | «attribute» a b => exact genNode_attribute inScope isTop path a b ks
  | «namespace» a b => exact genNode_namespace inScope isTop path a b ks
  | _ => cases h

end Ser

theorem genNode_abnormal_leaf (inScope : List (Nat × Nat)) (isTop : Bool) (path : Path) (v : Value)
    (h : v.isNormal = false) : genNode inScope isTop path (.node v []) = [] := by
  simp [genNode, h, genNode.genKids]

theorem genKids_eq (inScope : List (Nat × Nat)) (path : Path) (i : Nat) (ks : List Tree) :
    genNode.genKids inScope path i ks =
      (ks.zipIdx i).flatMap (fun kj => genNode inScope false (path ++ [kj.2]) kj.1) := by
  induction ks generalizing i with
  | nil => simp [genNode.genKids]
  | cons k ks ih => simp [genNode.genKids, List.zipIdx_cons, ih]

theorem at?_cons (v : Value) (ks : List Tree) (i : Nat) (p : Path) :
    (Tree.node v ks).at? (i :: p) = ks[i]?.bind (fun k => k.at? p) := by
  simp only [Tree.at?]
  cases ks[i]? <;> rfl

/-- `o` is one of the events `gen_edge_start` / `gen_edge_end` emit for the node `n`. -/
def OwnEvent (inScope : List (Nat × Nat)) (isTop : Bool) (n : Tree) (o : Output) : Prop :=
  o ∈ edgeStart inScope isTop n ∨ o ∈ edgeEnd n

mutual
theorem genNode_tagged (inScope : List (Nat × Nat)) (isTop : Bool) (path : Path) (n : Tree)
    (p : Path) (o : Output) (h : (p, o) ∈ genNode inScope isTop path n) :
    ∃ rel n', p = path ++ rel ∧ n.at? rel = some n' ∧ n'.value.isNormal = true ∧
      OwnEvent inScope (isTop && rel.isEmpty) n' o := by
  cases n with
  | node v ks =>
    unfold genNode at h
    by_cases hv : v.isNormal = true
    · simp only [hv, if_true, List.mem_append, List.mem_map] at h
      rcases h with (⟨o', ho', heq⟩ | hk) | ⟨o', ho', heq⟩
      · cases heq
        exact ⟨[], .node v ks, by simp, rfl, hv, by simp [OwnEvent, ho']⟩
      · obtain ⟨i, rel, n', hp, hat, _, hn, hown⟩ := genKids_tagged inScope path 0 ks p o hk
        refine ⟨i :: rel, n', by simp [hp], ?_, hn, by simpa using hown⟩
        rw [at?_cons]; simpa using hat
      · cases heq
        exact ⟨[], .node v ks, by simp, rfl, hv, by simp [OwnEvent, ho']⟩
    · simp only [hv] at h
      obtain ⟨i, rel, n', hp, hat, _, hn, hown⟩ := genKids_tagged inScope path 0 ks p o h
      refine ⟨i :: rel, n', by simp [hp], ?_, hn, by simpa using hown⟩
      rw [at?_cons]; simpa using hat

theorem genKids_tagged (inScope : List (Nat × Nat)) (path : Path) (i : Nat) (ks : List Tree)
    (p : Path) (o : Output) (h : (p, o) ∈ genNode.genKids inScope path i ks) :
    ∃ j rel n', p = path ++ j :: rel ∧
      ks[j - i]?.bind (fun k => k.at? rel) = some n' ∧ i ≤ j ∧
      n'.value.isNormal = true ∧ OwnEvent inScope false n' o := by
  cases ks with
  | nil => simp [genNode.genKids] at h
  | cons k ks =>
    unfold genNode.genKids at h
    rcases List.mem_append.mp h with h | h
    · obtain ⟨rel, n', hp, hat, hn, hown⟩ := genNode_tagged inScope false (path ++ [i]) k p o h
      exact ⟨i, rel, n', by simp [hp], by simpa using hat, Nat.le_refl _, hn, by simpa using hown⟩
    · obtain ⟨j, rel, n', hp, hat, hij, hn, hown⟩ := genKids_tagged inScope path (i + 1) ks p o h
      refine ⟨j, rel, n', hp, ?_, by omega, hn, hown⟩
      have : j - i = (j - (i + 1)) + 1 := by omega
      rw [this]
      simpa using hat
end

theorem at?_append (t : Tree) (p q : Path) :
    t.at? (p ++ q) = (match t.at? p with | some n => n.at? q | none => none) := by
  rw [Axes.at?_append]
  cases t.at? p <;> rfl

theorem at?_kid (t : Tree) {path : Path} {v : Value} {ks : List Tree} (hat : t.at? path = some (.node v ks))
    (j : Nat) (k : Tree) (hk : ks[j]? = some k) : t.at? (path ++ [0 + j]) = some k := by
  rw [at?_append, hat]
  simp [Tree.at?, hk]

theorem genOutputs_eq_genNode {t : Tree} {start : Path} {n : Tree} {inScope : List (Nat × Nat)}
    (hat : t.at? start = some n) (hs : namespacesInScope t start = some inScope) :
    genOutputs t start = genNode inScope true start n := by
  simp [genOutputs, hat, hs]

theorem initStack_eq_new {t : Tree} {start : Path} {inScope : List (Nat × Nat)}
    (hs : namespacesInScope t start = some inScope) : initStack t start = FStack.new inScope := by
  rw [initStack, hs]; rfl

/-- Every event of `gen_outputs` is tagged with an existing node that emits it. -/
theorem genOutputs_tagged (t : Tree) (start : Path) (p : Path) (o : Output)
    (h : (p, o) ∈ genOutputs t start) :
    ∃ n inScope isTop, t.at? p = some n ∧ OwnEvent inScope isTop n o := by
  unfold genOutputs at h
  cases hn : t.at? start with
  | none => simp [hn] at h
  | some n =>
    cases hs : namespacesInScope t start with
    | none => simp [hn, hs] at h
    | some inScope =>
      simp only [hn, hs] at h
      obtain ⟨rel, n', hp, hat, _, hown⟩ := genNode_tagged inScope true start n p o h
      refine ⟨n', inScope, _, ?_, hown⟩
      rw [hp, at?_append, hn]
      exact hat

namespace Ser

theorem kidsAt_cons (t : Tree) {path : Path} {i : Nat} {k : Tree} {ks : List Tree}
    (hat : ∀ j k', (k :: ks)[j]? = some k' → t.at? (path ++ [i + j]) = some k') :
    t.at? (path ++ [i]) = some k ∧ ∀ j k', ks[j]? = some k' → t.at? (path ++ [i + 1 + j]) = some k' :=
  ⟨hat 0 k rfl, fun j k' hk' => by
    rw [Nat.add_assoc, Nat.add_comm 1 j]
    exact hat (j + 1) k' (List.getElem?_cons_succ.trans hk')⟩

end Ser

@[simp] theorem isOpening_so (n : Nat) : (Output.startTagOpen n).isOpening = true := rfl
@[simp] theorem isOpening_sc : Output.startTagClose.isOpening = false := rfl
@[simp] theorem isOpening_et (n : Nat) : (Output.endTag n).isOpening = false := rfl
@[simp] theorem isOpening_pfx (p n : Nat) : (Output.pfx p n).isOpening = false := rfl
@[simp] theorem isOpening_at (n : Nat) (v : Str) : (Output.attribute n v).isOpening = false := rfl
@[simp] theorem isOpening_tx (s : Str) : (Output.text s).isOpening = true := rfl
@[simp] theorem isOpening_cm (s : Str) : (Output.comment s).isOpening = true := rfl
@[simp] theorem isOpening_pi (t : Nat) (d : Option Str) : (Output.pi t d).isOpening = true := rfl
@[simp] theorem openingEvent_element (n : Nat) (ks : List Tree) :
    openingEvent (.node (.element n) ks) = some (.startTagOpen n) := rfl
@[simp] theorem openingEvent_text (s : Str) (ks : List Tree) :
    openingEvent (.node (.text s) ks) = some (.text s) := rfl
@[simp] theorem openingEvent_comment (s : Str) (ks : List Tree) :
    openingEvent (.node (.comment s) ks) = some (.comment s) := rfl
@[simp] theorem openingEvent_pi (t : Nat) (d : Option Str) (ks : List Tree) :
    openingEvent (.node (.pi t d) ks) = some (.pi t d) := rfl
@[simp] theorem openingEvent_document (ks : List Tree) : openingEvent (.node .document ks) = none := rfl

theorem filter_const_false {α : Type} (l : List α) : l.filter (fun _ => false) = [] := by
  induction l <;> simp_all

mutual
theorem genNode_opening (inScope : List (Nat × Nat)) (isTop : Bool) (path : Path) (n : Tree) :
    (genNode inScope isTop path n).filter (fun po => po.2.isOpening) =
      (normalPreorder path n).filterMap (fun pn => (openingEvent pn.2).map (fun o => (pn.1, o))) := by
  cases n with
  | node v ks =>
    have hk := genKids_opening inScope path 0 ks
    cases v with
    | document =>
      rw [genNode_document]
      simp [normalPreorder, Value.isNormal, Value.category, hk, List.filterMap_cons]
    | element name =>
      rw [genNode_element]
      simp only [List.filter_append, hk]
      simp only [normalPreorder, Value.isNormal, Value.category, extraPrefixes]
      split <;>
        simp [List.filter_map, Function.comp_def, filter_const_false, List.filter_cons]
    | text s =>
      rw [genNode_text]
      simp [normalPreorder, Value.isNormal, Value.category, hk, List.filter_cons]
    | pi target data =>
      rw [genNode_pi]
      simp [normalPreorder, Value.isNormal, Value.category, hk, List.filter_cons]
    | comment s =>
      rw [genNode_comment]
      simp [normalPreorder, Value.isNormal, Value.category, hk, List.filter_cons]
    | «attribute» name value =>
      rw [genNode_attribute]
      simp [normalPreorder, Value.isNormal, Value.category, hk]
    | «namespace» p ns =>
      rw [genNode_namespace]
      simp [normalPreorder, Value.isNormal, Value.category, hk]

theorem genKids_opening (inScope : List (Nat × Nat)) (path : Path) (i : Nat) (ks : List Tree) :
    (genNode.genKids inScope path i ks).filter (fun po => po.2.isOpening) =
      (normalPreorder.kids path i ks).filterMap (fun pn => (openingEvent pn.2).map (fun o => (pn.1, o))) := by
  cases ks with
  | nil => simp [genNode.genKids, normalPreorder.kids]
  | cons k ks =>
    simp only [genNode.genKids, normalPreorder.kids, List.filter_append, List.filterMap_append]
    rw [genNode_opening inScope false (path ++ [i]) k, genKids_opening inScope path (i + 1) ks]
end

end XotModel
