/-
  The keys of the xml:id index are unique along histories that parse.

  `IdStore.parse` (Model/FidIndex.lean) carries the test `(Tree.idValues t).Nodup` as a stand-in for the
  builder's `DuplicateId`.  With the text going through the builder itself (`PCall.parse`) the test is a
  theorem: the builder's `seen_ids` reject a repeated value (`Accepted.build_ids`, proved for well-formed
  tables `envOK`), and the ID values `parseInto` indexes (`Tree.idValues`: the xml:id attributes of
  elements) are among the ID values of all attribute nodes (`Accepted.idVals`), counted with
  multiplicity (`fph_count_idEntries_le`).  So on `envOK` tables the parse step IS `IdStore.parse` of the
  accepted tree, and `IdStore.Wf` (keys unique, entries handed out earlier) holds along every history
  whose parses run on `envOK` tables (`PStore.parsesOnOKTables`).
-/
import XotModel.Lemmas.FparseHistStep
import XotModel.Lemmas.AcceptedMain

namespace XotModel
open HTree
open Accepted (idVals idValsList idOf)

/-! ### The indexed ID values are among the ID values of the tree -/

theorem fph_idAttrValues_cons (k : HTree) (ks : List HTree) :
    idAttrValues (k :: ks) = idOf k.value ++ idAttrValues ks := by
  rw [idAttrValues]
  cases hv : k.value with
  | «attribute» n val =>
    simp only [idOf]
    by_cases hn : n = Env.xmlIdName
    · simp [hn]
    · have : (n == Env.xmlIdName) = false := by simpa using hn
      simp [hn, this]
  | _ => simp [idOf]

mutual
  theorem fph_count_idEntries_le (a : Str) : ∀ t : HTree,
      ((idEntries t).map (·.1)).count a ≤ (idValsList (eraseList t.kids)).count a
    | .node h v ks => by
      have ih := fph_count_idEntriesList_le a ks
      rw [idEntries, List.map_append, List.count_append]
      have h1 : ((if v.isElement = true then (idAttrValues ks).map (fun s => (s, h)) else []).map (·.1)).count a
          ≤ (idAttrValues ks).count a := by
        split
        · rw [List.map_map]
          have : ((fun x : Str × Nat => x.1) ∘ fun s => (s, h)) = id := rfl
          rw [this, List.map_id]
          exact Nat.le_refl _
        · simp
      show _ ≤ (idValsList (eraseList ks)).count a
      omega
  theorem fph_count_idEntriesList_le (a : Str) : ∀ ks : List HTree,
      (idAttrValues ks).count a + ((idEntriesList ks).map (·.1)).count a ≤ (idValsList (eraseList ks)).count a
    | [] => by simp [idAttrValues, idEntriesList, eraseList, idValsList]
    | k :: ks => by
      have ih1 := fph_count_idEntries_le a k
      have ih2 := fph_count_idEntriesList_le a ks
      rw [fph_idAttrValues_cons, idEntriesList, List.map_append, List.count_append, List.count_append,
        eraseList, idValsList, List.count_append]
      have hk : (idVals (erase k)).count a = (idOf k.value).count a + (idValsList (eraseList k.kids)).count a := by
        cases k with
        | node h v kk => rw [erase, idVals, List.count_append]; rfl
      omega
end

/-- The ID values `parseInto` indexes occur at most as often as among all attribute nodes. -/
theorem fph_count_idValues_le (a : Str) (t : Tree) : (Tree.idValues t).count a ≤ (idVals t).count a := by
  unfold Tree.idValues
  refine Nat.le_trans (fph_count_idEntries_le a (ofTree 0 t)) ?_
  cases t with
  | node v ks =>
    rw [ofTree]
    show (idValsList (eraseList (ofTreeList (0 + 1) ks))).count a ≤ _
    rw [fpr_eraseList_ofTreeList, idVals, List.count_append]
    omega

theorem fph_idValues_nodup {t : Tree} (h : (idVals t).Nodup) : (Tree.idValues t).Nodup := by
  rw [List.nodup_iff_count] at h ⊢
  exact fun a => Nat.le_trans (fph_count_idValues_le a t) (h a)

/-- **`DuplicateId` as a theorem**: the tree of a text accepted on well-formed tables has no ID value
    twice — the test of `IdStore.parse` always succeeds. -/
theorem fph_accepted_idValues_nodup {m : Mode} {env : Env} {text : Str} {p : Parsed} (henv : envOK env = true)
    (h : parseString m env text = .ok p) : (Tree.idValues p.tree).Nodup := by
  obtain ⟨h1, _, _, h4, _, _⟩ := Accepted.accepted_facts henv h
  rw [Accepted.xmlIdValues_eq h1] at h4
  exact fph_idValues_nodup h4

theorem fph_accepted_envOK {m : Mode} {env : Env} {text : Str} {p : Parsed} (henv : envOK env = true)
    (h : parseString m env text = .ok p) : envOK p.env = true :=
  Accepted.envOK_of_facts (Accepted.accepted_facts henv h).1

namespace PStore

theorem fph_idStore_step_parse_ok (s : PStore) (henv : envOK s.env = true) {m : Mode} {text : Str} {p : Parsed}
    (h : parseString m s.env text = .ok p) :
    (s.step (.parse m text)).idStore = s.idStore.step (.parse p.tree) :=
  fph_idStore_step_parse s h (fph_accepted_idValues_nodup henv h)

/-- The index invariant of `C04_xml_id_wf` through one step. -/
theorem fph_wf_step {s : PStore} (hw : s.idStore.Wf) (c : PCall)
    (hok : ∀ m text, c = .parse m text → envOK s.env = true) : (s.step c).idStore.Wf := by
  cases c with
  | api c =>
    refine ⟨fun e he => ?_, hw.keys⟩
    have := hw.below e he
    have hn := (fph_step_le s (.api c)).next
    exact ⟨Nat.lt_of_lt_of_le this.1 hn, Nat.lt_of_lt_of_le this.2 hn⟩
  | parse m text =>
    rcases fph_step_parse_cases s m text with ⟨p, hp, h1, _⟩ | ⟨e, env', _, h1, _⟩
    · rw [h1]
      exact IdStore.wf_parseInto hw p.tree (fph_accepted_idValues_nodup (hok m text rfl) hp)
    · rw [h1]; exact hw

theorem fph_wf_run : ∀ (cs : List PCall) {s : PStore}, s.idStore.Wf → s.parsesOnOKTables cs → (s.run cs).idStore.Wf
  | [], _, hw, _ => hw
  | .api c :: cs, s, hw, hok =>
    fph_wf_run cs (s := s.step (.api c)) (fph_wf_step hw (.api c) (fun _ _ h => by cases h)) hok
  | .parse m text :: cs, s, hw, hok =>
    fph_wf_run cs (s := s.step (.parse m text)) (fph_wf_step hw (.parse m text) (fun _ _ _ => hok.1)) hok.2

theorem fph_wf_init (env : Env) : (init env).idStore.Wf := ⟨fun _ he => (by cases he), List.nodup_nil⟩

/-! ### When do the parses run on well-formed tables? -/

/-- A history of API calls only has no parse. -/
theorem fph_parsesOnOKTables_api : ∀ (cs : List Forest.XCall) (s : PStore), s.parsesOnOKTables (cs.map .api)
  | [], _ => trivial
  | _ :: cs, s => fph_parsesOnOKTables_api cs _

/-- "Parse one text, then edit": the tables of the start state are all that matters. -/
theorem fph_parsesOnOKTables_parse_then_api (s : PStore) (henv : envOK s.env = true) (m : Mode) (text : Str)
    (cs : List Forest.XCall) : s.parsesOnOKTables (.parse m text :: cs.map .api) :=
  ⟨henv, fph_parsesOnOKTables_api cs _⟩

/-- An API step other than `create_missing_prefixes` does not write the tables. -/
theorem fph_env_step_api (s : PStore) (c : Forest.XCall) (h : ∀ n, c ≠ .createMissingPrefixes n) :
    (s.step (.api c)).env = s.env := by
  cases c with
  | createMissingPrefixes n => exact absurd rfl (h n)
  | _ => rfl

end PStore
end XotModel
