/-
  What an accepted operation and an accepted step of the builder did: for every operation of
  `Model/Parse.lean` that can fail, the tests it passed and the state it produced (`*_ok_inv`); `check_qname`
  as a layer over the token arms (`stepCore`, `step_ok_cases`, `step_ok_induct`); the induction along an
  accepted run; which namespace an accepted name resolution interned the name under (`namespace
  BuilderCases`).
-/
import XotModel.Model.Parse
import XotModel.Model.TokenRender

/-! ## Accepted operations -/

namespace XotModel

/-! ### The loop and the entry points -/

theorem run_cons_ok {b bfin : Builder} {t : Token} {ts : List Token} {le : Option Nat}
    (h : b.run (t :: ts) le = .ok bfin) : ∃ b1, b.step t = .ok b1 ∧ b1.run ts le = .ok bfin := by
  simp only [Builder.run] at h
  cases hs : b.step t with
  | ok b1 => rw [hs] at h; exact ⟨b1, rfl, h⟩
  | err e env => rw [hs] at h; cases h
  | panic => rw [hs] at h; cases h

/-- The loop ends well only outside a start tag, and when the tokenizer did not give up. -/
theorem run_nil_ok {b bfin : Builder} {le : Option Nat} (h : b.run [] le = .ok bfin) :
    bfin = b ∧ b.eb = none ∧ le = none := by
  cases le with
  | some p => cases h
  | none =>
    simp only [Builder.run] at h
    split at h
    · cases h
    · rename_i he; cases h; exact ⟨rfl, he, rfl⟩

/-- The token loop without its end: the builder after the tokens `ts`, or the first failure (`Builder.run` also
    asks, at the end of the input, that no start tag is open and the tokenizer did not give up). -/
def Builder.steps (b : Builder) : List Token → Step Builder
  | [] => .ok b
  | t :: ts =>
    match b.step t with
    | .ok b1 => b1.steps ts
    | .err e env => .err e env
    | .panic => .panic

theorem Builder.steps_cons_iff {b b2 : Builder} {t : Token} {ts : List Token} :
    b.steps (t :: ts) = .ok b2 ↔ ∃ b1, b.step t = .ok b1 ∧ b1.steps ts = .ok b2 := by
  simp only [Builder.steps]
  cases b.step t with
  | ok b1 => exact ⟨fun h => ⟨b1, rfl, h⟩, fun ⟨_, h1, h⟩ => Step.ok.inj h1 ▸ h⟩
  | err e env => exact ⟨(fun h => nomatch h), fun ⟨_, h1, _⟩ => nomatch h1⟩
  | panic => exact ⟨(fun h => nomatch h), fun ⟨_, h1, _⟩ => nomatch h1⟩

theorem Builder.run_steps : ∀ {ts : List Token} {b b1 : Builder}, b.steps ts = .ok b1 →
    ∀ (rest : List Token) (le : Option Nat), b.run (ts ++ rest) le = b1.run rest le
  | [], _, _, h, _, _ => by cases h; rfl
  | t :: ts, b, b1, h, rest, le => by
    obtain ⟨b2, hs, h2⟩ := Builder.steps_cons_iff.1 h
    simp only [List.cons_append, Builder.run, hs]
    exact Builder.run_steps h2 rest le

theorem Builder.steps_of_run_ok : ∀ (ts : List Token) {b bfin : Builder} {rest : List Token} {le : Option Nat},
    b.run (ts ++ rest) le = .ok bfin → ∃ b1, b.steps ts = .ok b1 ∧ b1.run rest le = .ok bfin
  | [], b, _, _, _, h => ⟨b, rfl, h⟩
  | t :: ts, b, bfin, rest, le, h => by
    obtain ⟨b2, hs, h2⟩ := run_cons_ok h
    obtain ⟨b1, h3, h4⟩ := Builder.steps_of_run_ok ts h2
    exact ⟨b1, Builder.steps_cons_iff.2 ⟨b2, hs, h3⟩, h4⟩

theorem mem_of_snoc_prefix {α : Type} {done ts : List α} {t : α} (h : done ++ [t] <+: ts) : t ∈ ts :=
  h.subset (List.mem_append_right _ List.mem_cons_self)

/-- An invariant of the token loop (`P done b`: after the tokens `done`), through an accepted run. -/
theorem Builder.run_ok_induct {P : List Token → Builder → Prop} {ts : List Token} {lexErr : Option Nat}
    {b b' : Builder} (h0 : P [] b)
    (hstep : ∀ done t b1 b2, done ++ [t] <+: ts → P done b1 → b1.step t = .ok b2 → P (done ++ [t]) b2)
    (hr : b.run ts lexErr = .ok b') : P ts b' := by
  suffices ∀ (rest done : List Token) (b : Builder), done ++ rest = ts → P done b → b.run rest lexErr = .ok b' →
      P ts b' from this ts [] b rfl h0 hr
  clear hr h0
  intro rest
  induction rest with
  | nil =>
    intro done b hd hp hr
    rw [List.append_nil] at hd
    exact hd ▸ (run_nil_ok hr).1 ▸ hp
  | cons t rest ih =>
    intro done b hd hp hr
    obtain ⟨b1, hs, hr1⟩ := run_cons_ok hr
    have hd' : (done ++ [t]) ++ rest = ts := by rw [List.append_assoc]; exact hd
    exact ih _ b1 hd' (hstep done t b b1 ⟨rest, hd'⟩ hp hs) hr1

/-- An accepted epilogue: the loop ended at document level, the result is read off the final
    state. -/
theorem finish_ok_parsed {b : Builder} {len : Nat} {m : Mode} {p : Parsed}
    (h : (match m with | .document => b.finishDocument len | .fragment => b.finishFragment) = .ok p) :
    b.isCurrentDocument = true ∧ p = b.parsed := by
  cases m with
  | document =>
    simp only [Builder.finishDocument] at h
    split at h
    · rename_i hd
      refine ⟨hd, ?_⟩
      split at h
      · cases h
      · cases h
      · split at h
        · cases h
        · simp only [BuildResult.ok.injEq] at h; exact h.symm
        · split at h <;> cases h
    · unfold Builder.unclosed at h; split at h <;> cases h
  | fragment =>
    simp only [Builder.finishFragment] at h
    split at h
    · rename_i hd
      simp only [BuildResult.ok.injEq] at h
      exact ⟨hd, h.symm⟩
    · unfold Builder.unclosed at h; split at h <;> cases h

theorem build_ok_parsed {mode : Mode} {len : Nat} {env : Env} {ts : List Token} {le : Option Nat} {p : Parsed}
    (h : build mode len env ts le = .ok p) :
    ∃ b, (Builder.new env).run ts le = .ok b ∧ p = b.parsed ∧ b.cur.value.isDocument = true := by
  unfold build at h
  split at h
  · cases h
  · cases h
  · rename_i b hb
    obtain ⟨hd, hp⟩ := finish_ok_parsed (b := b) (len := len) (m := mode) (by cases mode <;> exact h)
    exact ⟨b, hb, hp, hd⟩

/-! ### Name resolution -/

/-- `element_name_id` by its outcome: the prefix is interned and looked up; bound to `ns`, the name is interned in
    `ns`; not bound, the error is `UnknownPrefix` at the prefix' span, with the tables after interning the prefix. -/
theorem elementNameId_cases (env : Env) (stack : NsStack) (pfx name : Str) (sp : Span) :
    (∃ ns, lookupPrefix stack (env.internPrefix pfx).2 = some ns ∧
      elementNameId env stack pfx name sp = .ok ((env.internPrefix pfx).1.internName name ns)) ∨
    (lookupPrefix stack (env.internPrefix pfx).2 = none ∧
      elementNameId env stack pfx name sp = .err (.unknownPrefix pfx sp) (env.internPrefix pfx).1) := by
  cases h : lookupPrefix stack (env.internPrefix pfx).2 with
  | some ns => exact .inl ⟨ns, rfl, by simp only [elementNameId, h]⟩
  | none => exact .inr ⟨rfl, by simp only [elementNameId, h]⟩

/-- `attribute_name_id` is `element_name_id` except that an unprefixed attribute is in no namespace. -/
theorem attributeNameId_eq (env : Env) (stack : NsStack) (pfx name : Str) (sp : Span) :
    attributeNameId env stack pfx name sp =
      if (env.internPrefix pfx).2 == Env.emptyPrefix then .ok ((env.internPrefix pfx).1.internName name Env.noNamespace)
      else elementNameId env stack pfx name sp := rfl

/-! ### The attribute loop and `open_element` -/

/-- The attribute loop's state after the attribute `ab`, whose name resolved to `nameId` in the tables `env1`,
    was added (the last branch of `addAttributes`). -/
def AttrLoop.push (st : AttrLoop) (node : Path) (env1 : Env) (nameId : Nat) (ab : AttributeBuilder) : AttrLoop :=
  { env := env1,
    seenIds := if nameId == Env.xmlIdName then xmlIdValue nameId ab.value :: st.seenIds else st.seenIds,
    idNodes := if nameId == Env.xmlIdName then insertId st.idNodes (xmlIdValue nameId ab.value) node else st.idNodes,
    seenNames := st.seenNames ++ [nameId],
    rkids := .node (.attribute nameId (xmlIdValue nameId ab.value)) [] :: st.rkids,
    aspans := st.aspans ++ [(nameId, ab.nameSpan, ab.valueSpan)] }

@[simp] theorem AttrLoop.push_env (st : AttrLoop) (node : Path) (env1 : Env) (nameId : Nat) (ab : AttributeBuilder) :
    (st.push node env1 nameId ab).env = env1 := rfl

@[simp] theorem AttrLoop.push_seenNames (st : AttrLoop) (node : Path) (env1 : Env) (nameId : Nat)
    (ab : AttributeBuilder) : (st.push node env1 nameId ab).seenNames = st.seenNames ++ [nameId] := rfl

@[simp] theorem AttrLoop.push_seenIds (st : AttrLoop) (node : Path) (env1 : Env) (nameId : Nat) (ab : AttributeBuilder) :
    (st.push node env1 nameId ab).seenIds =
      if nameId == Env.xmlIdName then xmlIdValue nameId ab.value :: st.seenIds else st.seenIds := rfl

@[simp] theorem AttrLoop.push_rkids (st : AttrLoop) (node : Path) (env1 : Env) (nameId : Nat) (ab : AttributeBuilder) :
    (st.push node env1 nameId ab).rkids = .node (.attribute nameId (xmlIdValue nameId ab.value)) [] :: st.rkids := rfl

/-- One turn of the attribute loop once the name has resolved: the loop goes on exactly when the name is new
    and an `xml:id` value is new, and then from the extended state. -/
theorem addAttributes_cons_iff {stack : NsStack} {node : Path} {st st' : AttrLoop} {ab : AttributeBuilder}
    {rest : List AttributeBuilder} {env1 : Env} {nameId : Nat}
    (hn : attributeNameId st.env stack ab.pfx ab.name ab.prefixSpan = .ok (env1, nameId)) :
    addAttributes stack node st (ab :: rest) = .ok st' ↔
      nameId ∉ st.seenNames ∧ (nameId == Env.xmlIdName → xmlIdValue nameId ab.value ∉ st.seenIds) ∧
      addAttributes stack node (st.push node env1 nameId ab) rest = .ok st' := by
  simp only [addAttributes, hn, AttrLoop.push]
  split
  · next h1 => exact ⟨(fun h => nomatch h), fun h => absurd (List.contains_iff_mem.1 h1) h.1⟩
  · next h1 =>
    split
    · next h2 =>
      simp only [Bool.and_eq_true, List.contains_iff_mem] at h2
      exact ⟨(fun h => nomatch h), fun h => absurd h2.2 (h.2.1 h2.1)⟩
    · next h2 =>
      simp only [Bool.and_eq_true, List.contains_iff_mem, not_and] at h2
      exact ⟨fun h => ⟨fun hm => h1 (List.contains_iff_mem.2 hm), h2, h⟩, fun h => h.2.2⟩

theorem addAttributes_cons_ok {stack : NsStack} {node : Path} {st st' : AttrLoop} {ab : AttributeBuilder}
    {rest : List AttributeBuilder} (h : addAttributes stack node st (ab :: rest) = .ok st') :
    ∃ env1 nameId, attributeNameId st.env stack ab.pfx ab.name ab.prefixSpan = .ok (env1, nameId) ∧
      nameId ∉ st.seenNames ∧
      (nameId == Env.xmlIdName && st.seenIds.contains (xmlIdValue nameId ab.value)) = false ∧
      addAttributes stack node
        { env := env1,
          seenIds := if nameId == Env.xmlIdName then xmlIdValue nameId ab.value :: st.seenIds else st.seenIds,
          idNodes := if nameId == Env.xmlIdName then insertId st.idNodes (xmlIdValue nameId ab.value) node
            else st.idNodes,
          seenNames := st.seenNames ++ [nameId],
          rkids := .node (.attribute nameId (xmlIdValue nameId ab.value)) [] :: st.rkids,
          aspans := st.aspans ++ [(nameId, ab.nameSpan, ab.valueSpan)] } rest = .ok st' := by
  cases hn : attributeNameId st.env stack ab.pfx ab.name ab.prefixSpan with
  | panic => simp [addAttributes, hn] at h
  | err e env => simp [addAttributes, hn] at h
  | ok r =>
    obtain ⟨h1, h2, h3⟩ := (addAttributes_cons_iff hn).1 h
    refine ⟨r.1, r.2, rfl, h1, Bool.eq_false_iff.2 fun hc => ?_, h3⟩
    simp only [Bool.and_eq_true, List.contains_iff_mem] at hc
    exact h2 hc.1 hc.2

theorem addAttributes_ok_induct {stack : NsStack} {node : Path} {P : AttrLoop → Prop} {abs : List AttributeBuilder}
    (hstep : ∀ st ab env1 nameId, ab ∈ abs →
      attributeNameId st.env stack ab.pfx ab.name ab.prefixSpan = .ok (env1, nameId) → nameId ∉ st.seenNames →
      (nameId == Env.xmlIdName → xmlIdValue nameId ab.value ∉ st.seenIds) → P st → P (st.push node env1 nameId ab)) :
    ∀ {st st' : AttrLoop}, P st → addAttributes stack node st abs = .ok st' → P st' := by
  induction abs with
  | nil =>
    intro st st' h0 h
    cases h
    exact h0
  | cons ab rest ih =>
    intro st st' h0 h
    obtain ⟨env1, nameId, hn, _⟩ := addAttributes_cons_ok h
    obtain ⟨h1, h2, h3⟩ := (addAttributes_cons_iff hn).1 h
    exact ih (fun st ab' e n hm => hstep st ab' e n (List.mem_cons_of_mem _ hm))
      (hstep st ab env1 nameId List.mem_cons_self hn h1 h2 h0) h3

/-- An accepted `open_element`: a start tag was being read, its name resolved under the pushed
    declarations, the attribute loop came to its end. -/
theorem Builder.openElement_ok_inv {b b' : Builder} (h : b.openElement = .ok b') :
    ∃ eb env1 nameId st, b.eb = some eb ∧
      elementNameId b.env (eb.namespaces :: b.nsStack) eb.pfx eb.name eb.prefixSpan = .ok (env1, nameId) ∧
      addAttributes (eb.namespaces :: b.nsStack) (b.curPath ++ [b.cur.rkids.length])
        { env := env1, seenIds := b.seenIds, idNodes := b.idNodes, seenNames := [],
          rkids := namespaceKids eb.namespaces, aspans := [] } eb.attributes = .ok st ∧
      b' = { env := st.env, cur := ⟨.element nameId, st.rkids⟩, parents := b.cur :: b.parents,
             nsStack := eb.namespaces :: b.nsStack, eb := none, seenIds := st.seenIds, idNodes := st.idNodes,
             spans := (b.spans.add ⟨b.curPath ++ [b.cur.rkids.length], .elementStart⟩ eb.span).addAttributeSpans
               (b.curPath ++ [b.cur.rkids.length]) st.aspans,
             openPrefixes := eb.pfx :: b.openPrefixes } := by
  unfold Builder.openElement at h
  split at h
  · cases h
  · rename_i eb heb
    dsimp only at h
    split at h
    · cases h
    · cases h
    · rename_i env1 nameId hn
      split at h
      · cases h
      · cases h
      · rename_i st hst
        exact ⟨eb, env1, nameId, st, heb, hn, hst, (Step.ok.inj h).symm⟩

theorem Builder.openElement_ok_of {b : Builder} {eb : ElementBuilder} {env1 : Env} {nameId : Nat} {st : AttrLoop}
    (heb : b.eb = some eb)
    (hn : elementNameId b.env (eb.namespaces :: b.nsStack) eb.pfx eb.name eb.prefixSpan = .ok (env1, nameId))
    (hst : addAttributes (eb.namespaces :: b.nsStack) (b.curPath ++ [b.cur.rkids.length])
      { env := env1, seenIds := b.seenIds, idNodes := b.idNodes, seenNames := [],
        rkids := namespaceKids eb.namespaces, aspans := [] } eb.attributes = .ok st) :
    b.openElement = .ok
      { env := st.env, cur := ⟨.element nameId, st.rkids⟩, parents := b.cur :: b.parents,
        nsStack := eb.namespaces :: b.nsStack, eb := none, seenIds := st.seenIds, idNodes := st.idNodes,
        spans := (b.spans.add ⟨b.curPath ++ [b.cur.rkids.length], .elementStart⟩ eb.span).addAttributeSpans
          (b.curPath ++ [b.cur.rkids.length]) st.aspans,
        openPrefixes := eb.pfx :: b.openPrefixes } := by
  unfold Builder.openElement
  rw [heb]
  simp only [hn, hst]

/-! ### Inside a start tag, and character data -/

/-- An accepted namespace declaration: the URI decoded, the declaration is not a reserved one, a
    start tag was being read and had not declared the prefix yet. -/
theorem Builder.prefix_ok_inv {b b' : Builder} {pfx : Str} {uri : StrSpan} {sp : Span}
    (h : b.prefix pfx uri sp = .ok b') :
    ∃ u eb, parseContentGo true uri.start 0 uri.text = .ok u ∧ reservedDecl pfx u = false ∧ b.eb = some eb ∧
      (eb.namespaces.any fun d => d.1 == (b.env.internPrefix pfx).2) = false ∧
      b' = { b with
        env := ((b.env.internPrefix pfx).1.internNamespace u).1,
        eb := some { eb with namespaces := eb.namespaces ++
          [((b.env.internPrefix pfx).2, ((b.env.internPrefix pfx).1.internNamespace u).2)] } } := by
  unfold Builder.prefix at h
  split at h
  · cases h
  · rename_i u hu
    split at h
    · cases h
    · rename_i hres
      dsimp only at h
      split at h
      · cases h
      · rename_i eb heb
        split at h
        · cases h
        · rename_i hnew
          exact ⟨u, eb, hu, Bool.eq_false_iff.2 hres, heb, Bool.eq_false_iff.2 hnew, (Step.ok.inj h).symm⟩

theorem Builder.prefix_ok_of {b : Builder} {pfx : Str} {uri : StrSpan} (sp : Span) {u : Str} {eb : ElementBuilder}
    (hu : parseContentGo true uri.start 0 uri.text = .ok u) (hres : reservedDecl pfx u = false) (heb : b.eb = some eb)
    (hnew : (eb.namespaces.any fun d => d.1 == (b.env.internPrefix pfx).2) = false) :
    b.prefix pfx uri sp = .ok { b with
      env := ((b.env.internPrefix pfx).1.internNamespace u).1,
      eb := some { eb with namespaces := eb.namespaces ++
        [((b.env.internPrefix pfx).2, ((b.env.internPrefix pfx).1.internNamespace u).2)] } } := by
  simp only [Builder.prefix, hu, hres, heb, hnew, Bool.false_eq_true, if_false]

/-- An accepted attribute: a start tag was being read and had no attribute written so, the value
    decoded. -/
theorem Builder.attribute_ok_inv {b b' : Builder} {pfx loc value : StrSpan} (h : b.attribute pfx loc value = .ok b') :
    ∃ eb v, b.eb = some eb ∧
      (eb.attributes.any fun ab => ab.pfx == pfx.text && ab.name == loc.text) = false ∧
      parseContentGo true value.start 0 value.text = .ok v ∧
      b' = { b with eb := some { eb with attributes := eb.attributes ++
        [{ pfx := pfx.text, name := loc.text, value := v, nameSpan := Span.fromPrefixName pfx loc,
           valueSpan := value.span, prefixSpan := pfx.span }] } } := by
  unfold Builder.attribute at h
  split at h
  · cases h
  · rename_i eb heb
    split at h
    · cases h
    · rename_i hnew
      split at h
      · cases h
      · rename_i v hv
        exact ⟨eb, v, heb, Bool.eq_false_iff.2 hnew, hv, (Step.ok.inj h).symm⟩

theorem Builder.attribute_ok_of {b : Builder} {pfx loc value : StrSpan} {eb : ElementBuilder} {v : Str}
    (heb : b.eb = some eb) (hnew : (eb.attributes.any fun ab => ab.pfx == pfx.text && ab.name == loc.text) = false)
    (hv : parseContentGo true value.start 0 value.text = .ok v) :
    b.attribute pfx loc value = .ok { b with eb := some { eb with attributes := eb.attributes ++
      [{ pfx := pfx.text, name := loc.text, value := v, nameSpan := Span.fromPrefixName pfx loc,
         valueSpan := value.span, prefixSpan := pfx.span }] } } := by
  simp only [Builder.attribute, heb, hnew, hv, Bool.false_eq_true, if_false]

theorem Builder.text_ok_inv {b b' : Builder} {t : StrSpan} (h : b.text t = .ok b') :
    ∃ content, parseContentGo false t.start 0 t.text = .ok content ∧
      b' = { (b.addText content).1 with
        spans := (b.addText content).1.spans.extendText (b.addText content).2 t.span } := by
  unfold Builder.text at h
  split at h
  · cases h
  · rename_i content hc; exact ⟨content, hc, (Step.ok.inj h).symm⟩

/-- `cdata` never fails: an empty section changes nothing, any other adds its text. -/
theorem Builder.cdata_ok_inv {b b' : Builder} {t : StrSpan} (h : b.cdata t = .ok b') :
    b' = b ∨ b' = { (b.addText (replaceCr (replaceCrLf t.text))).1 with
      spans := (b.addText (replaceCr (replaceCrLf t.text))).1.spans.extendText
        (b.addText (replaceCr (replaceCrLf t.text))).2 t.span } := by
  unfold Builder.cdata at h
  split at h
  · exact .inl (Step.ok.inj h).symm
  · exact .inr (Step.ok.inj h).symm

theorem addText_spans (b : Builder) (c : Str) : (b.addText c).1.spans = b.spans ∧ (b.addText c).1.eb = b.eb := by
  unfold Builder.addText; split <;> exact ⟨rfl, rfl⟩

theorem addText_env (b : Builder) (c : Str) : (b.addText c).1.env = b.env := by
  unfold Builder.addText; split <;> rfl

theorem addText_nsStack (b : Builder) (c : Str) : (b.addText c).1.nsStack = b.nsStack := by
  unfold Builder.addText; split <;> rfl

/-! ### Closing -/

theorem Builder.toParent_ok_inv {b b' : Builder} (h : b.toParent = .ok b') :
    ∃ p rest, b.parents = p :: rest ∧
      b' = { b with cur := { p with rkids := b.cur.close :: p.rkids }, parents := rest } := by
  unfold Builder.toParent at h
  split at h
  · cases h
  · rename_i p rest hp; exact ⟨p, rest, hp, (Step.ok.inj h).symm⟩

theorem Builder.leave_ok_inv {b b' : Builder} {node : Path} {sp : StrSpan} (h : b.leave node sp = .ok b') :
    ∃ b2, b.toParent = .ok b2 ∧ b' = { b2 with spans := b2.spans.add ⟨node, .elementEnd⟩ sp.span } := by
  unfold Builder.leave at h
  cases hb : b.toParent with
  | ok b2 => rw [hb] at h; exact ⟨b2, rfl, (Step.ok.inj h).symm⟩
  | err e env => rw [hb] at h; cases h
  | panic => rw [hb] at h; cases h

/-- `toParent` followed by the `ElementEnd` span. -/
theorem Builder.leave_ok {b b' : Builder} {node : Path} {endSpan : StrSpan} (h : b.leave node endSpan = .ok b') :
    ∃ p rest, b.parents = p :: rest ∧
      b' = { b with cur := { p with rkids := b.cur.close :: p.rkids }, parents := rest,
                    spans := b.spans.add ⟨node, .elementEnd⟩ endSpan.span } := by
  obtain ⟨b2, h2, rfl⟩ := Builder.leave_ok_inv h
  obtain ⟨p, rest, hp, rfl⟩ := Builder.toParent_ok_inv h2
  exact ⟨p, rest, hp, rfl⟩

/-- An accepted end tag: its name resolved, an element is open, and either the current node is the
    element of that name with that written prefix (the scope and the prefix are popped), or it is no
    element at all. -/
theorem Builder.closeElement_ok_inv {b b' : Builder} {pfx loc sp : StrSpan}
    (h : b.closeElement pfx loc sp = .ok b') :
    ∃ env1 nameId, elementNameId b.env b.nsStack pfx.text loc.text pfx.span = .ok (env1, nameId) ∧
      b.parents ≠ [] ∧
      ((b.cur.value = .element nameId ∧ samePrefix b.openPrefixes pfx.text = true ∧
          ({ b with env := env1, nsStack := b.nsStack.tail, openPrefixes := b.openPrefixes.tail } : Builder).leave
            b.curPath sp = .ok b') ∨
        (b.cur.value.isElement = false ∧ ({ b with env := env1 } : Builder).leave b.curPath sp = .ok b')) := by
  unfold Builder.closeElement at h
  split at h
  · cases h
  · cases h
  · rename_i env1 nameId hn
    split at h
    · cases h
    · rename_i hpar
      refine ⟨env1, nameId, hn, fun hnil => hpar (by rw [hnil]; rfl), ?_⟩
      split at h
      · rename_i n hv
        split at h
        · cases h
        · rename_i hc
          simp only [Bool.or_eq_true, bne_iff_ne, ne_eq, Bool.not_eq_true', not_or, Decidable.not_not,
            Bool.not_eq_false] at hc
          exact .inl ⟨hc.1 ▸ hv, hc.2, h⟩
      · rename_i hv
        refine .inr ⟨?_, h⟩
        cases hb : b.cur.value with
        | element n => exact absurd hb (hv n)
        | _ => rfl

/-- … and conversely: the end tag of the current element, name and written prefix repeated, pops scope and prefix
    and leaves; on a current node that is no element it only leaves. -/
theorem Builder.closeElement_element {b : Builder} {pfx loc sp : StrSpan} {env1 : Env} {nameId : Nat}
    (hn : elementNameId b.env b.nsStack pfx.text loc.text pfx.span = .ok (env1, nameId)) (hpar : b.parents ≠ [])
    (hv : b.cur.value = .element nameId) (hs : samePrefix b.openPrefixes pfx.text = true) :
    b.closeElement pfx loc sp =
      ({ b with env := env1, nsStack := b.nsStack.tail, openPrefixes := b.openPrefixes.tail } : Builder).leave
        b.curPath sp := by
  have hpar' : b.parents.isEmpty = false := by
    cases hp : b.parents with
    | nil => exact absurd hp hpar
    | cons _ _ => rfl
  simp only [Builder.closeElement, hn, hpar', hv, hs, bne_self_eq_false, Bool.not_true, Bool.or_false,
    Bool.false_eq_true, if_false]

theorem Builder.closeElement_other {b : Builder} {pfx loc sp : StrSpan} {env1 : Env} {nameId : Nat}
    (hn : elementNameId b.env b.nsStack pfx.text loc.text pfx.span = .ok (env1, nameId)) (hpar : b.parents ≠ [])
    (hv : b.cur.value.isElement = false) :
    b.closeElement pfx loc sp = ({ b with env := env1 } : Builder).leave b.curPath sp := by
  have hpar' : b.parents.isEmpty = false := by
    cases hp : b.parents with
    | nil => exact absurd hp hpar
    | cons _ _ => rfl
  simp only [Builder.closeElement, hn, hpar', Bool.false_eq_true, if_false]
  cases hc : b.cur.value with
  | element n => rw [hc] at hv; cases hv
  | _ => rfl

end XotModel

/-! ## `check_qname` as a layer over the token arms

  `check_qname` (/repo a5fafb0) as a layer over the token arms.

  `Builder.stepCore` is `Builder.step` WITHOUT the three `check_qname` calls (a proof device: an
  invariant of the builder is a fact about what an arm does once the check has let the token
  pass).  `Builder.step` is `stepCore` behind the test `Token.prefixOk` (`step_eq_core`,
  `step_refused`, `step_cases`); `step_ok_cases` is the case analysis of an accepted step arm by arm,
  `step_ok_induct` the induction over the arms that follows from it.
-/

namespace XotModel

/-- The arms of `_parse` after `check_qname`: `Builder.step` without the check. -/
def Builder.stepCore (b : Builder) : Token → Step Builder
  | .attribute pfx loc value _ =>
    if pfx.text == ['x', 'm', 'l', 'n', 's'] then b.prefix loc.text value (Span.fromPrefixName pfx loc)
    else if pfx.text.isEmpty && loc.text == ['x', 'm', 'l', 'n', 's'] then
      b.prefix [] value (Span.fromPrefixName pfx loc)
    else b.attribute pfx loc value
  | .text t => b.text t
  | .cdata t _ => b.cdata t
  | .elementStart pfx loc _ => .ok (b.element pfx loc)
  | .elementEnd .open _ => b.openElement
  | .elementEnd (.close pfx loc) sp => b.closeElement pfx loc sp
  | .elementEnd .empty sp =>
    match b.openElement with
    | .ok b1 => b1.closeImmediate sp
    | r => r
  | .comment t _ => .ok (b.comment t)
  | .pi target content _ =>
    if isReservedPiTarget target.text then .err (.invalidTarget target.text target.span) b.env
    else .ok (b.processingInstruction target content)
  | .declaration version _ _ _ =>
    if version.text != ['1', '.', '0'] then .err (.unsupportedVersion version.text version.span) b.env
    else .ok b
  | .dtdStart sp => .err (.dtdUnsupported sp.span) b.env
  | .dtdEnd sp => .err (.dtdUnsupported sp.span) b.env
  | .emptyDtd sp => .err (.dtdUnsupported sp.span) b.env
  | .entityDecl sp => .err (.dtdUnsupported sp.span) b.env

/-- The prefix and the local name `check_qname` is called on. -/
def Token.qname : Token → Option (StrSpan × StrSpan)
  | .attribute pfx loc _ _ => some (pfx, loc)
  | .elementStart pfx loc _ => some (pfx, loc)
  | .elementEnd (.close pfx loc) _ => some (pfx, loc)
  | _ => none

theorem Token.qname_elim {t : Token} {p l : StrSpan} (hq : t.qname = some (p, l)) :
    (∃ v sp, t = .attribute p l v sp) ∨ (∃ sp, t = .elementStart p l sp) ∨
      (∃ sp, t = .elementEnd (.close p l) sp) := by
  cases t with
  | elementEnd e sp =>
    cases e <;> simp only [Token.qname, Option.some.injEq, Prod.mk.injEq, reduceCtorEq] at hq
    obtain ⟨rfl, rfl⟩ := hq; exact .inr (.inr ⟨sp, rfl⟩)
  | «attribute» pfx loc value sp =>
    simp only [Token.qname, Option.some.injEq, Prod.mk.injEq] at hq; obtain ⟨rfl, rfl⟩ := hq
    exact .inl ⟨value, sp, rfl⟩
  | elementStart pfx loc sp =>
    simp only [Token.qname, Option.some.injEq, Prod.mk.injEq] at hq; obtain ⟨rfl, rfl⟩ := hq
    exact .inr (.inl ⟨sp, rfl⟩)
  | _ => simp [Token.qname] at hq

theorem Token.prefixOk_of_qname_none {t : Token} (h : t.qname = none) : t.prefixOk = true := by
  cases t with
  | elementEnd e sp => cases e <;> simp_all [Token.qname, Token.prefixOk]
  | _ => simp_all [Token.qname, Token.prefixOk]

theorem Token.prefixOk_of_qname {t : Token} {p l : StrSpan} (h : t.qname = some (p, l)) :
    t.prefixOk = !p.bareColon := by
  rcases Token.qname_elim h with ⟨_, _, rfl⟩ | ⟨_, rfl⟩ | ⟨_, rfl⟩ <;> rfl

theorem Token.qname_of_not_prefixOk {t : Token} (h : t.prefixOk = false) :
    ∃ p l, t.qname = some (p, l) ∧ p.bareColon = true := by
  cases hq : t.qname with
  | none => rw [Token.prefixOk_of_qname_none hq] at h; cases h
  | some pl =>
    obtain ⟨p, l⟩ := pl
    rw [Token.prefixOk_of_qname hq] at h
    exact ⟨p, l, rfl, by simpa using h⟩

theorem Builder.step_eq_core (b : Builder) {t : Token} (h : t.prefixOk = true) :
    b.step t = b.stepCore t := by
  cases t with
  | «attribute» pfx loc value sp =>
    simp only [Token.prefixOk, Bool.not_eq_true'] at h
    simp only [Builder.step, Builder.stepCore, h, Bool.false_eq_true, if_false]
  | elementStart pfx loc sp =>
    simp only [Token.prefixOk, Bool.not_eq_true'] at h
    simp only [Builder.step, Builder.stepCore, h, Bool.false_eq_true, if_false]
  | elementEnd e sp =>
    cases e with
    | close pfx loc =>
      simp only [Token.prefixOk, Bool.not_eq_true'] at h
      simp only [Builder.step, Builder.stepCore, h, Bool.false_eq_true, if_false]
    | «open» => rfl
    | empty => rfl
  | _ => rfl

/-- A token refused by `check_qname`: the error, the tables untouched. -/
theorem Builder.step_refused_of (b : Builder) {t : Token} {p l : StrSpan} (hq : t.qname = some (p, l))
    (hp : p.bareColon = true) : b.step t = .err (.unknownPrefix [] ⟨p.start, l.stop⟩) b.env := by
  rcases Token.qname_elim hq with ⟨_, _, rfl⟩ | ⟨_, rfl⟩ | ⟨_, rfl⟩ <;>
    simp only [Builder.step, hp, if_true, qnameError]

theorem Builder.step_refused (b : Builder) {t : Token} (h : t.prefixOk = false) :
    ∃ p l, t.qname = some (p, l) ∧ p.bareColon = true ∧
      b.step t = .err (.unknownPrefix [] ⟨p.start, l.stop⟩) b.env := by
  obtain ⟨p, l, h1, h2⟩ := Token.qname_of_not_prefixOk h
  exact ⟨p, l, h1, h2, b.step_refused_of h1 h2⟩

/-- Case principle: a statement about `b.step t` follows from the statement about the arm (for a
    token that passes `check_qname`) and about the error of `check_qname`. -/
theorem Builder.step_cases {P : Step Builder → Prop} (b : Builder) (t : Token)
    (hcore : t.prefixOk = true → P (b.stepCore t))
    (href : ∀ p l, t.qname = some (p, l) → p.bareColon = true →
      P (.err (.unknownPrefix [] ⟨p.start, l.stop⟩) b.env)) : P (b.step t) := by
  cases hq : t.prefixOk with
  | true => rw [b.step_eq_core hq]; exact hcore hq
  | false =>
    obtain ⟨p, l, h1, h2, he⟩ := b.step_refused hq
    rw [he]; exact href p l h1 h2

theorem Builder.step_ok_prefixOk {b b1 : Builder} {t : Token} (h : b.step t = .ok b1) :
    t.prefixOk = true := by
  cases hq : t.prefixOk with
  | true => rfl
  | false =>
    obtain ⟨_, _, _, _, he⟩ := b.step_refused hq
    rw [he] at h; cases h

theorem Builder.step_ok_core {b b1 : Builder} {t : Token} (h : b.step t = .ok b1) :
    b.stepCore t = .ok b1 := by
  rw [← Builder.step_eq_core b (Builder.step_ok_prefixOk h)]; exact h

/-- One arm of `_parse` that went through, arm by arm: what was called and the builder it returned.
    `motive` takes the token and the new builder. -/
theorem Builder.step_ok_cases {motive : Token → Builder → Prop} {b b' : Builder} {t : Token} (hr : b.step t = .ok b')
    (nsDecl : ∀ pfx loc value sp p,
      (pfx.text = ['x', 'm', 'l', 'n', 's'] ∧ p = loc.text) ∨
        (pfx.text = [] ∧ loc.text = ['x', 'm', 'l', 'n', 's'] ∧ p = []) →
      b.prefix p value (Span.fromPrefixName pfx loc) = .ok b' → motive (.attribute pfx loc value sp) b')
    (attr : ∀ pfx loc value sp, ¬ (pfx.text = [] ∧ loc.text = ['x', 'm', 'l', 'n', 's']) →
      b.attribute pfx loc value = .ok b' → motive (.attribute pfx loc value sp) b')
    (text : ∀ s content, parseContentGo false s.start 0 s.text = .ok content →
      motive (.text s) { (b.addText content).1 with
        spans := (b.addText content).1.spans.extendText (b.addText content).2 s.span })
    (cdataEmpty : ∀ s sp, s.text = [] → motive (.cdata s sp) b)
    (cdata : ∀ s sp, s.text ≠ [] →
      motive (.cdata s sp) { (b.addText (replaceCr (replaceCrLf s.text))).1 with
        spans := (b.addText (replaceCr (replaceCrLf s.text))).1.spans.extendText
          (b.addText (replaceCr (replaceCrLf s.text))).2 s.span })
    (start : ∀ pfx loc sp, motive (.elementStart pfx loc sp) (b.element pfx loc))
    (opn : ∀ sp, b.openElement = .ok b' → motive (.elementEnd .open sp) b')
    (close : ∀ pfx loc sp, b.closeElement pfx loc sp = .ok b' → motive (.elementEnd (.close pfx loc) sp) b')
    (empty : ∀ sp b1, b.openElement = .ok b1 → b1.closeImmediate sp = .ok b' → motive (.elementEnd .empty sp) b')
    (comment : ∀ s sp, motive (.comment s sp) (b.comment s))
    (pi : ∀ tg c sp, isReservedPiTarget tg.text = false → motive (.pi tg c sp) (b.processingInstruction tg c))
    (decl : ∀ v e s sp, motive (.declaration v e s sp) b) : motive t b' := by
  replace hr := Builder.step_ok_core hr
  cases t with
  | «attribute» pfx loc value sp =>
    rw [Builder.stepCore] at hr
    by_cases h1 : (pfx.text == ['x', 'm', 'l', 'n', 's']) = true
    · rw [if_pos h1] at hr
      exact nsDecl _ _ _ _ _ (.inl ⟨beq_iff_eq.mp h1, rfl⟩) hr
    · rw [if_neg h1] at hr
      by_cases h2 : (pfx.text.isEmpty && loc.text == ['x', 'm', 'l', 'n', 's']) = true
      · rw [if_pos h2] at hr
        rw [Bool.and_eq_true, List.isEmpty_iff, beq_iff_eq] at h2
        exact nsDecl _ _ _ _ _ (.inr ⟨h2.1, h2.2, rfl⟩) hr
      · rw [if_neg h2] at hr
        refine attr _ _ _ _ (fun hh => h2 ?_) hr
        rw [hh.1, hh.2]
        rfl
  | text s =>
    obtain ⟨content, hc, rfl⟩ := Builder.text_ok_inv hr
    exact text s content hc
  | cdata s sp =>
    rw [Builder.stepCore, Builder.cdata] at hr
    by_cases he : s.text.isEmpty = true
    · rw [if_pos he] at hr; cases hr; exact cdataEmpty s sp (List.isEmpty_iff.mp he)
    · rw [if_neg he] at hr; cases hr; exact cdata s sp (fun hn => he (List.isEmpty_iff.mpr hn))
  | elementStart pfx loc sp => cases hr; exact start pfx loc sp
  | elementEnd e sp =>
    cases e with
    | «open» => exact opn sp hr
    | close pfx loc => exact close pfx loc sp hr
    | empty =>
      rw [Builder.stepCore] at hr
      cases hb : b.openElement with
      | ok b1 => rw [hb] at hr; exact empty sp b1 hb hr
      | err e env => rw [hb] at hr; cases hr
      | panic => rw [hb] at hr; cases hr
  | comment s sp => cases hr; exact comment s sp
  | pi tg c sp =>
    rw [Builder.stepCore] at hr
    by_cases hres : isReservedPiTarget tg.text = true
    · rw [if_pos hres] at hr; cases hr
    · rw [if_neg hres] at hr; cases hr; exact pi tg c sp (Bool.not_eq_true _ ▸ hres)
  | declaration v e s sp =>
    rw [Builder.stepCore] at hr
    by_cases hv : (v.text != ['1', '.', '0']) = true
    · rw [if_pos hv] at hr; cases hr
    · rw [if_neg hv] at hr; cases hr; exact decl v e s sp
  | _ => cases hr

/-- Induction over the arms of `_parse`: what the builder's operations keep when they succeed, every
    accepted step keeps (`close_element_immediate` is only ever called on the element just opened). -/
theorem Builder.step_ok_induct {P : Builder → Prop}
    (hprefix : ∀ {b b' : Builder} (p : Str) (u : StrSpan) (sp : Span), P b → b.prefix p u sp = .ok b' → P b')
    (hattribute : ∀ {b b' : Builder} (p l v : StrSpan), P b → b.attribute p l v = .ok b' → P b')
    (htext : ∀ {b b' : Builder} (t : StrSpan), P b → b.text t = .ok b' → P b')
    (hcdata : ∀ {b b' : Builder} (t : StrSpan), P b → b.cdata t = .ok b' → P b')
    (helement : ∀ {b : Builder} (p l : StrSpan), P b → P (b.element p l))
    (hopen : ∀ {b b' : Builder}, P b → b.openElement = .ok b' → P b')
    (hclose : ∀ {b b' : Builder} (p l sp : StrSpan), P b → b.closeElement p l sp = .ok b' → P b')
    (hcloseImm : ∀ {b b' : Builder} (sp : StrSpan), P b → b.cur.value.isElement = true →
      b.closeImmediate sp = .ok b' → P b')
    (hcomment : ∀ {b : Builder} (t : StrSpan), P b → P (b.comment t))
    (hpi : ∀ {b : Builder} (t : StrSpan) (c : Option StrSpan), P b → P (b.processingInstruction t c))
    {b b' : Builder} {t : Token} (h : P b) (hr : b.step t = .ok b') : P b' := by
  refine Builder.step_ok_cases (motive := fun _ b' => P b') hr
    (fun _ _ _ _ _ _ hp => hprefix _ _ _ h hp) (fun _ _ _ _ _ ha => hattribute _ _ _ h ha)
    (fun s c hc => htext s h (by simp only [Builder.text, hc]))
    (fun s _ he => hcdata s h (by simp [Builder.cdata, he]))
    (fun s _ he => hcdata s h (by simp [Builder.cdata, he]))
    (fun p l _ => helement p l h) (fun _ ho => hopen h ho) (fun p l sp hc => hclose p l sp h hc)
    (fun sp b1 ho hc => ?_)
    (fun s _ => hcomment s h) (fun tg c _ _ => hpi tg c h) (fun _ _ _ _ => h)
  obtain ⟨_, _, _, _, _, _, _, rfl⟩ := Builder.openElement_ok_inv ho
  exact hcloseImm sp (hopen h ho) rfl hc

theorem Builder.step_panic_core {b : Builder} {t : Token} (h : b.step t = .panic) :
    b.stepCore t = .panic := by
  cases hq : t.prefixOk with
  | true => rw [← Builder.step_eq_core b hq]; exact h
  | false =>
    obtain ⟨_, _, _, _, he⟩ := b.step_refused hq
    rw [he] at h; cases h

theorem Builder.step_err_cases {b : Builder} {t : Token} {e : ParseErr} {env : Env}
    (h : b.step t = .err e env) :
    (∃ p l, t.qname = some (p, l) ∧ p.bareColon = true ∧
        e = .unknownPrefix [] ⟨p.start, l.stop⟩ ∧ env = b.env) ∨
      (t.prefixOk = true ∧ b.stepCore t = .err e env) := by
  cases hq : t.prefixOk with
  | true => right; exact ⟨rfl, by rw [← Builder.step_eq_core b hq]; exact h⟩
  | false =>
    left
    obtain ⟨p, l, h1, h2, he⟩ := b.step_refused hq
    rw [he] at h
    simp only [Step.err.injEq] at h
    exact ⟨p, l, h1, h2, h.1.symm, h.2.symm⟩

theorem Builder.run_ok_prefixOk : ∀ (ts : List Token) (b b1 : Builder) (le : Option Nat),
    b.run ts le = .ok b1 → tokensPrefixOk ts = true := by
  intro ts
  induction ts with
  | nil => intro _ _ _ _; rfl
  | cons t r ih =>
    intro b b1 le h
    simp only [Builder.run] at h
    cases hs : b.step t with
    | ok b2 =>
      rw [hs] at h
      simp only [tokensPrefixOk, List.all_cons, Bool.and_eq_true]
      exact ⟨Builder.step_ok_prefixOk hs, ih b2 b1 le h⟩
    | err e env => rw [hs] at h; cases h
    | panic => rw [hs] at h; cases h

/-! ### Erasure: an erased token always passes -/

theorem StrSpan.erase_bareColon (s : StrSpan) : s.erase.bareColon = false := by
  simp [StrSpan.erase, StrSpan.bareColon]

theorem Token.erase_prefixOk (t : Token) : t.erase.prefixOk = true := by
  cases t with
  | elementEnd e sp => cases e <;> simp [Token.erase, Token.prefixOk, StrSpan.erase_bareColon]
  | _ => simp [Token.erase, Token.prefixOk, StrSpan.erase_bareColon]

theorem Token.erase_erase (t : Token) : t.erase.erase = t.erase := by
  cases t with
  | elementEnd e sp => cases e <;> rfl
  | declaration v e s sp => cases e <;> rfl
  | pi t c sp => cases c <;> rfl
  | _ => rfl

theorem tokensPrefixOk_erase (ts : List Token) : tokensPrefixOk (ts.map Token.erase) = true := by
  simp [tokensPrefixOk, Token.erase_prefixOk]

theorem tokensPrefixOk_append (a b : List Token) :
    tokensPrefixOk (a ++ b) = (tokensPrefixOk a && tokensPrefixOk b) := by
  simp [tokensPrefixOk]

theorem tokensPrefixOk_cons (t : Token) (ts : List Token) :
    tokensPrefixOk (t :: ts) = (t.prefixOk && tokensPrefixOk ts) := by
  simp [tokensPrefixOk]

theorem StrSpan.bareColon_zero (t : Str) : (⟨t, 0⟩ : StrSpan).bareColon = false := by
  simp [StrSpan.bareColon]

theorem StrSpan.bareColon_false_of_start {s : StrSpan} (h : s.start = 0) : s.bareColon = false := by
  simp [StrSpan.bareColon, h]

theorem StrSpan.bareColon_false_of_ne {s : StrSpan} (h : s.text ≠ []) : s.bareColon = false := by
  cases hs : s.text with
  | nil => exact absurd hs h
  | cons c cs => simp [StrSpan.bareColon, hs]

end XotModel

/-! ## Accepted name resolution -/

namespace XotModel.BuilderCases

theorem Value.eq_document_of_isDocument {v : Value} (h : v.isDocument = true) : v = .document := by
  cases v with
  | document => rfl
  | _ => cases h

theorem elementNameId_ok {env env1 : Env} {stack : NsStack} {pfx name : Str} {sp : Span} {id : Nat}
    (h : elementNameId env stack pfx name sp = .ok (env1, id)) :
    ∃ ns, lookupPrefix stack (env.internPrefix pfx).2 = some ns ∧
      (env.internPrefix pfx).1.internName name ns = (env1, id) := by
  rcases elementNameId_cases env stack pfx name sp with ⟨ns, hns, h'⟩ | ⟨_, h'⟩
  · exact ⟨ns, hns, Step.ok.inj (h'.symm.trans h)⟩
  · cases h'.symm.trans h

/-- An unprefixed attribute is in no namespace; a prefixed one in the namespace its prefix is bound to. -/
theorem attributeNameId_ok {env env1 : Env} {stack : NsStack} {pfx name : Str} {sp : Span} {id : Nat}
    (h : attributeNameId env stack pfx name sp = .ok (env1, id)) :
    ∃ ns, (if (env.internPrefix pfx).2 = Env.emptyPrefix then ns = Env.noNamespace
        else lookupPrefix stack (env.internPrefix pfx).2 = some ns) ∧
      (env.internPrefix pfx).1.internName name ns = (env1, id) := by
  rw [attributeNameId_eq] at h
  split at h
  · next h0 => exact ⟨Env.noNamespace, by rw [if_pos (beq_iff_eq.mp h0)], Step.ok.inj h⟩
  · next h0 =>
    obtain ⟨ns, hns, h⟩ := elementNameId_ok h
    exact ⟨ns, by rw [if_neg (fun e => h0 (beq_iff_eq.mpr e))]; exact hns, h⟩

theorem openElement_cur {b b1 : Builder} (hr : b.openElement = .ok b1) : ∃ id, b1.cur.value = .element id := by
  obtain ⟨_, _, id, _, _, _, _, rfl⟩ := Builder.openElement_ok_inv hr
  exact ⟨id, rfl⟩

end XotModel.BuilderCases
