/-
  `namespaces_mut(e).insert(p, ns)` of the forest model (`Forest.mapInsert
  .namespaces e (.namespace p ns)`) as ONE edit of the child list of `e` by `insertNsKidH`, the
  tree-level `insertNsKid` (Model/Repair.lean) with handles: an existing entry keeps its handle, a new
  one gets the handle `f.next`.  `eraseList` turns `insertNsKidH` into `insertNsKid`.
-/
import XotModel.Lemmas.FpxRefinePath

namespace XotModel
open HTree
open Forest (MapKind entryKey entryUpdate)

namespace HTree

/-- `insertNsKid` (Model/Repair.lean) on a child list with handles; `fresh` is the handle a new
    namespace node gets. -/
def insertNsKidH (p ns fresh : Nat) : List HTree → List HTree
  | [] => [.node fresh (.namespace p ns) []]
  | k :: ks =>
    match k.value with
    | .namespace q _ =>
      if q == p then .node k.handle (.namespace q ns) k.kids :: ks else k :: insertNsKidH p ns fresh ks
    | _ => .node fresh (.namespace p ns) [] :: k :: ks

theorem erase_kids' (k : HTree) : (erase k).kids = eraseList k.kids := by cases k; rfl

theorem eraseList_insertNsKidH (p ns fresh : Nat) : ∀ ks : List HTree,
    eraseList (insertNsKidH p ns fresh ks) = insertNsKid p ns (eraseList ks)
  | [] => by simp [insertNsKidH, insertNsKid, eraseList, erase]
  | k :: ks => by
    have ih := eraseList_insertNsKidH p ns fresh ks
    cases k with
    | node h v kk =>
      cases v with
      | «namespace» q x =>
        by_cases hq : (q == p) = true
        · simp [insertNsKidH, insertNsKid, eraseList, erase, HTree.value, Tree.value, hq, HTree.handle,
            HTree.kids, Tree.kids]
        · simp [insertNsKidH, insertNsKid, eraseList, erase, HTree.value, Tree.value, hq, ih]
      | _ => simp [insertNsKidH, insertNsKid, eraseList, erase, HTree.value, Tree.value]

end HTree

namespace HTree

theorem insertNsKidH_skip (p ns fresh : Nat) : ∀ (X rest : List HTree),
    (∀ a ∈ X, a.value.category = .namespace) → (∀ a ∈ X, Fmap.keyOf a ≠ p) →
    insertNsKidH p ns fresh (X ++ rest) = X ++ insertNsKidH p ns fresh rest
  | [], _, _, _ => rfl
  | a :: X, rest, hc, hk => by
    obtain ⟨q, x, hv⟩ := (fpxr_cat_ns a).mp (hc a (by simp))
    have hq : (q == p) = false := by
      have := hk a (by simp)
      simp only [Fmap.keyOf, hv, entryKey] at this
      simpa using this
    have ih := insertNsKidH_skip p ns fresh X rest (fun b hb => hc b (by simp [hb])) (fun b hb => hk b (by simp [hb]))
    simp only [List.cons_append, insertNsKidH, hv, hq, Bool.false_eq_true, if_false, ih]

theorem insertNsKidH_hit (p ns fresh : Nat) (n : HTree) (rest : List HTree)
    (hc : n.value.category = .namespace) (hk : Fmap.keyOf n = p) :
    insertNsKidH p ns fresh (n :: rest) = n.setValue (entryUpdate n.value (.namespace p ns)) :: rest := by
  obtain ⟨q, x, hv⟩ := (fpxr_cat_ns n).mp hc
  have hq : q = p := by simpa [Fmap.keyOf, hv, entryKey] using hk
  subst hq
  cases n with
  | node h v kk =>
    simp only [HTree.value] at hv
    subst hv
    simp [insertNsKidH, HTree.value, HTree.setValue, entryUpdate, HTree.handle, HTree.kids]

theorem insertNsKidH_cons_other (p ns fresh : Nat) {k : HTree} (ks : List HTree)
    (hk : ¬ ∃ q x, k.value = .namespace q x) :
    insertNsKidH p ns fresh (k :: ks) = .node fresh (.namespace p ns) [] :: k :: ks := by
  rw [insertNsKidH]
  split
  · next q x hv => exact absurd ⟨q, x, hv⟩ hk
  · rfl

theorem insertNsKid_cons_other (p ns : Nat) {k : Tree} (ks : List Tree)
    (hk : ¬ ∃ q x, k.value = .namespace q x) :
    insertNsKid p ns (k :: ks) = .node (.namespace p ns) [] :: k :: ks := by
  rw [insertNsKid]
  split
  · next q x hv => exact absurd ⟨q, x, hv⟩ hk
  · rfl

theorem insertNsKidH_end (p ns fresh : Nat) (rest : List HTree)
    (hc : ∀ a ∈ rest, a.value.category ≠ .namespace) :
    insertNsKidH p ns fresh rest = .node fresh (.namespace p ns) [] :: rest := by
  cases rest with
  | nil => rfl
  | cons a rest =>
    exact insertNsKidH_cons_other p ns fresh rest (fun ⟨q, x, h⟩ => hc a List.mem_cons_self (by rw [h]; rfl))

end HTree

namespace Forest
open Fmap

/-- **One call `namespaces_mut(e).insert(p, ns)`** on an element of a forest with the invariant: the
    roots afterwards are the roots with the child list of `e` edited by `insertNsKidH` (an existing
    entry keeps its handle, a new one gets `f.next`); `next` does not decrease. -/
theorem fpxr_mapInsert_roots {f : Forest} (hi : f.Inv) {e : Nat} (he : f.isElement e = true) (p ns : Nat) :
    (f.mapInsert .namespaces e (.namespace p ns)).1.roots =
      mapAtList e (atKids (insertNsKidH p ns f.next)) f.roots ∧
    f.next ≤ (f.mapInsert .namespaces e (.namespace p ns)).1.next := by
  obtain ⟨nm, N, A, S, h⟩ := minv_of_inv f e hi he
  have hw := withKids_of f.roots e (insertNsKidH p ns f.next) _ h.loc.nodup h.loc.get
  rw [hw]
  simp only [HTree.kids]
  have hrest : ∀ a ∈ A ++ S, a.value.category ≠ .namespace := by
    intro a ha
    rcases List.mem_append.mp ha with ha | ha
    · rw [h.sect.allAt a ha]; decide
    · rw [h.sect.allNm a ha]; decide
  cases hn : f.mapGetNode .namespaces e p with
  | some n =>
    rw [mapInsert_found f .namespaces e (.namespace p ns) n he hn]
    rw [h.getNode .namespaces] at hn
    obtain ⟨hkey, s1, s2, hs, hs1⟩ := find?_key_split _ _ _ hn
    obtain ⟨heq, _⟩ := insert_existing h .namespaces (.namespace p ns) rfl n s1 s2 hs p hkey hs1
    simp only [Sect.sec] at hs
    have hNs : ∀ a ∈ s1, a.value.category = .namespace := fun a ha => h.sect.allNs a (by rw [hs]; simp [ha])
    have hnc : n.value.category = .namespace := h.sect.allNs n (by rw [hs]; simp)
    refine ⟨?_, ?_⟩
    · simp only
      rw [heq]
      simp only [preK, postK, List.nil_append]
      congr 1
      have : N ++ A ++ S = s1 ++ (n :: (s2 ++ (A ++ S))) := by rw [hs]; simp
      rw [this, insertNsKidH_skip p ns f.next s1 _ hNs hs1, insertNsKidH_hit p ns f.next n _ hnc hkey]
      simp
    · simp only; rw [heq]; exact Nat.le_refl _
  | none =>
    have hn' := hn
    rw [h.getNode .namespaces] at hn'
    have habs := find?_key_none _ _ hn'
    obtain ⟨hloc1, hroot1, hne1, hbelow1⟩ := located_newNode h.loc h.below (.namespace p ns)
    have h1 : MInv (f.newNode (.namespace p ns)).1 e nm N A S := ⟨hloc1, h.sect, h.uniq, hbelow1, h.leaf⟩
    obtain ⟨hplace, _⟩ := place_absent h1 .namespaces f.next (.namespace p ns) rfl hroot1 hne1 habs
    rw [rootsWithout_newNode f h.below (.namespace p ns)] at hplace
    have hcall : f.mapInsert .namespaces e (.namespace p ns) =
        (f.newNode (.namespace p ns)).1.mapPlace .namespaces e f.next := by
      simp [Forest.mapInsert, he, hn, entryKey, newNode_eq]
    rw [hcall, hplace]
    simp only [Sect.sec] at habs
    refine ⟨?_, ?_⟩
    · simp only [preK, postK, Sect.sec, List.nil_append]
      congr 1
      rw [List.append_assoc N A S, insertNsKidH_skip p ns f.next N _ h.sect.allNs habs,
        insertNsKidH_end p ns f.next _ hrest]
      simp
    · simp [newNode_eq]

end Forest
end XotModel
