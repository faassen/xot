/-
  What the serialiser's name stack offers (`Offers`, `NameOK`), when a tree is writable from a
  larger stack (`writableList_mono`), and the stack along an ancestor chain (`stackAlong`,
  `nearestDecl`) against `namespaces_in_scope` of the chain.  No forest is involved.
-/
import XotModel.Model.FcloneModel
import XotModel.Lemmas.FStack

/-! ## Writing one name

Whether a name can be written depends only on which (prefix, namespace) pairs the top of the name stack offers, and
is monotone in them; hence the transfer of one name from the serialisation in place to the clone (`name_transfer`). -/

namespace XotModel

/-- The top of the stack offers a prefix for `ns` (a non-empty one when `attr`). -/
def Offers (L : List (Nat × Nat)) (ns : Nat) (attr : Bool) : Prop :=
  ∃ q, (q, ns) ∈ L ∧ (attr = true → q ≠ Env.emptyPrefix)

theorem fc_mem_fullnameInfoNew (d L : List (Nat × Nat)) (b : Nat × Nat) :
    b ∈ fullnameInfoNew d L ↔ b ∈ d ∨ (b ∈ L ∧ ∀ x ∈ d, x.1 ≠ b.1) := by
  unfold fullnameInfoNew
  simp only [List.mem_append, List.mem_filter, Bool.not_eq_true', List.any_eq_false, beq_iff_eq]
  constructor
  · rintro (⟨h1, h2⟩ | h)
    · exact Or.inr ⟨h1, fun x hx => by simpa using h2 x hx⟩
    · exact Or.inl h
  · rintro (h | ⟨h1, h2⟩)
    · exact Or.inr h
    · exact Or.inl ⟨h1, fun x hx => by simpa using h2 x hx⟩

theorem fullnameInfoNew_nil (L : List (Nat × Nat)) : fullnameInfoNew [] L = L := by
  simp [fullnameInfoNew]

theorem push_top (s : FStack) (d : List (Nat × Nat)) : (s.push d).top = fullnameInfoNew d s.top := by
  unfold FStack.push
  by_cases h : d.isEmpty = true
  · have : d = [] := by simpa using h
    subst this
    simp [fullnameInfoNew_nil]
  · simp [h, FStack.top]

theorem elementPrefixByNamespace_isSome (L : List (Nat × Nat)) (ns : Nat) :
    (elementPrefixByNamespace L ns).isSome = true ↔ Offers L ns false := by
  rw [elementPrefixByNamespace_isSome_iff]
  exact ⟨fun ⟨q, hq⟩ => ⟨q, hq, fun h => nomatch h⟩, fun ⟨q, hq, _⟩ => ⟨q, hq⟩⟩

theorem attributePrefixByNamespace_isSome (L : List (Nat × Nat)) (ns : Nat) :
    (attributePrefixByNamespace L ns).isSome = true ↔ Offers L ns true := by
  rw [attributePrefixByNamespace_isSome_iff]
  exact ⟨fun ⟨q, hne, hq⟩ => ⟨q, hq, fun _ => hne⟩, fun ⟨q, hq, hne⟩ => ⟨q, hne rfl, hq⟩⟩

/-- A name can be written. -/
def NameOK (env : Env) (L : List (Nat × Nat)) (name : Nat) (attr : Bool) : Prop :=
  env.nsOfName name = Env.noNamespace ∨ env.nsOfName name = Env.xmlNamespace ∨
    Offers L (env.nsOfName name) attr

theorem fcIsError_eq {ε α : Type} (x : Except ε α) : fcIsError x = !exceptIsOk x := by cases x <;> rfl

theorem fcIsOk_eq {ε α : Type} (x : Except ε α) : fcIsOk x = exceptIsOk x := by cases x <;> rfl

theorem elementPrefix_ok (env : Env) (s : FStack) (name : Nat) :
    fcIsError (s.elementPrefix env name) = false ↔ NameOK env s.top name false := by
  rw [fcIsError_eq, Bool.not_eq_false', FStack.exceptIsOk_elementPrefix, Bool.or_eq_true,
    Bool.or_eq_true, beq_iff_eq, beq_iff_eq, elementPrefixByNamespace_isSome, or_assoc]
  rfl

theorem attributePrefix_ok (env : Env) (s : FStack) (name : Nat) :
    fcIsError (s.attributePrefix env name) = false ↔ NameOK env s.top name true := by
  rw [fcIsError_eq, Bool.not_eq_false', FStack.exceptIsOk_attributePrefix, Bool.or_eq_true,
    Bool.or_eq_true, beq_iff_eq, beq_iff_eq, attributePrefixByNamespace_isSome, or_assoc]
  rfl

theorem elementFullname_ok (env : Env) (s : FStack) (name : Nat) :
    fcIsOk (s.elementFullname env name) = true ↔ NameOK env s.top name false := by
  rw [← elementPrefix_ok, fcIsOk_eq, fcIsError_eq, FStack.exceptIsOk_elementFullname,
    Bool.not_eq_false']

theorem attributeFullname_ok (env : Env) (s : FStack) (name : Nat) :
    fcIsOk (s.attributeFullname env name) = true ↔ NameOK env s.top name true := by
  rw [← attributePrefix_ok, fcIsOk_eq, fcIsError_eq, FStack.exceptIsOk_attributeFullname,
    Bool.not_eq_false']

theorem NameOK.mono {env : Env} {L1 L2 : List (Nat × Nat)} {name : Nat} {attr : Bool}
    (h : NameOK env L1 name attr) (hsub : ∀ b ∈ L1, b.2 = env.nsOfName name → b ∈ L2) :
    NameOK env L2 name attr := by
  rcases h with h | h | ⟨q, hq, hne⟩
  · exact Or.inl h
  · exact Or.inr (Or.inl h)
  · exact Or.inr (Or.inr ⟨q, hsub _ hq rfl, hne⟩)

/-- One name: written in place, hence in the clone — either the declarations inside the source
    suffice, or its namespace is unresolved and the clone offers what the context offers. -/
theorem name_transfer (env : Env) (U : Nat → Prop) (sIn sOnly sCl : FStack) (name : Nat) (attr : Bool)
    (H1 : ∀ b ∈ sOnly.top, b ∈ sCl.top) (H2 : ∀ b ∈ sIn.top, U b.2 → b ∈ sCl.top)
    (hU : ¬ NameOK env sOnly.top name attr → U (env.nsOfName name))
    (hin : NameOK env sIn.top name attr) : NameOK env sCl.top name attr := by
  by_cases ho : NameOK env sOnly.top name attr
  · exact ho.mono (fun b hb _ => H1 b hb)
  · exact hin.mono (fun b hb e => H2 b hb (e ▸ hU ho))

end XotModel

/-! ## The transfer induction

If a subtree is writable with the stack `sIn` (in place), the stack `sCl` (in the clone) offers everything the
declarations inside the subtree offer (`sOnly`) and everything `sIn` offers for the namespaces that
`unresolved_namespaces` reports, then the subtree is writable with `sCl`. -/

namespace XotModel

theorem fcIsError_eq_true_iff {ε α} (x : Except ε α) : fcIsError x = true ↔ ¬ fcIsError x = false := by
  cases x <;> simp [fcIsError]

theorem unresolvedHere_elem (env : Env) (s : FStack) (name : Nat) (attrs : List Nat)
    (h : ¬ NameOK env s.top name false) : env.nsOfName name ∈ unresolvedHere env s name attrs := by
  unfold unresolvedHere
  have : fcIsError (s.elementPrefix env name) = true := by
    rw [fcIsError_eq_true_iff, elementPrefix_ok]; exact h
  simp [this]

theorem unresolvedHere_attr (env : Env) (s : FStack) (name : Nat) (attrs : List Nat) (a : Nat)
    (ha : a ∈ attrs) (h : ¬ NameOK env s.top a true) :
    env.nsOfName a ∈ unresolvedHere env s name attrs := by
  unfold unresolvedHere
  have : fcIsError (s.attributePrefix env a) = true := by
    rw [fcIsError_eq_true_iff, attributePrefix_ok]; exact h
  simp only [List.mem_append, List.mem_filterMap]
  right
  exact ⟨a, ha, by simp [this]⟩

/-- The top of the stack binds the empty prefix to a real namespace. -/
def HasDefault (L : List (Nat × Nat)) : Prop := ∃ n, (Env.emptyPrefix, n) ∈ L ∧ n ≠ Env.noNamespace

theorem fcHasDefaultNamespace_iff (s : FStack) : s.hasDefaultNamespace = true ↔ HasDefault s.top := by
  unfold FStack.hasDefaultNamespace HasDefault
  simp only [List.any_eq_true, Bool.and_eq_true, beq_iff_eq, bne_iff_ne]
  constructor
  · rintro ⟨⟨p, n⟩, hm, hp, hn⟩
    simp only at hp hn
    subst hp
    exact ⟨n, hm, hn⟩
  · rintro ⟨n, hm, hn⟩
    exact ⟨(Env.emptyPrefix, n), hm, rfl, hn⟩

theorem push_default {sA sB : FStack} (d : List (Nat × Nat))
    (h : HasDefault sA.top → HasDefault sB.top) : HasDefault (sA.push d).top → HasDefault (sB.push d).top := by
  rintro ⟨n, hm, hn⟩
  rw [push_top, fc_mem_fullnameInfoNew] at hm
  rcases hm with h1 | ⟨h1, h2⟩
  · exact ⟨n, by rw [push_top, fc_mem_fullnameInfoNew]; exact Or.inl h1, hn⟩
  · obtain ⟨m, hm2, hn2⟩ := h ⟨n, h1, hn⟩
    exact ⟨m, by rw [push_top, fc_mem_fullnameInfoNew]; exact Or.inr ⟨hm2, h2⟩, hn2⟩

/-- The default-namespace check of the serializer (as of /repo a32c6f4) passes for the clone when it passes in place. -/
theorem noDefault_transfer (a : Bool) (sIn sCl : FStack) (h4 : HasDefault sCl.top → HasDefault sIn.top)
    (h : (!(a && sIn.hasDefaultNamespace)) = true) : (!(a && sCl.hasDefaultNamespace)) = true := by
  cases a with
  | false => rfl
  | true =>
    simp only [Bool.true_and, Bool.not_eq_true'] at h ⊢
    cases hc : sCl.hasDefaultNamespace with
    | false => rfl
    | true =>
      have := (fcHasDefaultNamespace_iff sIn).mpr (h4 ((fcHasDefaultNamespace_iff sCl).mp hc))
      rw [h] at this
      cases this

theorem push_sub {sA sB : FStack} (d : List (Nat × Nat)) (P : Nat × Nat → Prop)
    (h : ∀ b ∈ sA.top, P b → b ∈ sB.top) : ∀ b ∈ (sA.push d).top, P b → b ∈ (sB.push d).top := by
  intro b hb hp
  rw [push_top, fc_mem_fullnameInfoNew] at hb ⊢
  rcases hb with h1 | ⟨h1, h2⟩
  · exact Or.inl h1
  · exact Or.inr ⟨h b h1 hp, h2⟩

mutual
  theorem writable_transfer (env : Env) (U : Nat → Prop) : ∀ (t : Tree) (sIn sOnly sCl : FStack),
      (∀ b ∈ sOnly.top, b ∈ sCl.top) → (∀ b ∈ sIn.top, U b.2 → b ∈ sCl.top) →
      (∀ n ∈ unresolvedTree env sOnly t, U n) → (HasDefault sCl.top → HasDefault sIn.top) →
      writableTree env sIn t = true → writableTree env sCl t = true
    | .node v ks, sIn, sOnly, sCl, H1, H2, H3, H4, hw => by
      cases v with
      | element name =>
        simp only [writableTree, Bool.and_eq_true, List.all_eq_true] at hw ⊢
        simp only [unresolvedTree, List.mem_append] at H3
        obtain ⟨⟨⟨hd, hn⟩, ha⟩, hk⟩ := hw
        have H4' := push_default (sA := sCl) (sB := sIn) (Tree.node (.element name) ks).nsDecls H4
        have H1' := push_sub (sA := sOnly) (sB := sCl) (Tree.node (.element name) ks).nsDecls (fun _ => True)
          (fun b hb _ => H1 b hb)
        have H2' := push_sub (sA := sIn) (sB := sCl) (Tree.node (.element name) ks).nsDecls (fun b => U b.2) H2
        refine ⟨⟨⟨noDefault_transfer _ _ _ H4' hd, ?_⟩, ?_⟩, ?_⟩
        · rw [elementFullname_ok] at hn ⊢
          exact name_transfer env U _ _ _ name false (fun b hb => H1' b hb trivial) H2'
            (fun h => H3 _ (Or.inl (unresolvedHere_elem env _ name _ h))) hn
        · intro a haa
          have := ha a haa
          rw [attributeFullname_ok] at this ⊢
          exact name_transfer env U _ _ _ a true (fun b hb => H1' b hb trivial) H2'
            (fun h => H3 _ (Or.inl (unresolvedHere_attr env _ name _ a haa h))) this
        · exact writableList_transfer env U ks _ _ _ (fun b hb => H1' b hb trivial) H2'
            (fun n hn => H3 n (Or.inr hn)) H4' hk
      | pi t d =>
        simp only [writableTree, Bool.and_eq_true] at hw ⊢
        simp only [unresolvedTree] at H3
        exact ⟨hw.1, writableList_transfer env U ks _ _ _ H1 H2 H3 H4 hw.2⟩
      | _ =>
        simp only [writableTree] at hw ⊢
        simp only [unresolvedTree] at H3
        exact writableList_transfer env U ks _ _ _ H1 H2 H3 H4 hw
  theorem writableList_transfer (env : Env) (U : Nat → Prop) : ∀ (ks : List Tree) (sIn sOnly sCl : FStack),
      (∀ b ∈ sOnly.top, b ∈ sCl.top) → (∀ b ∈ sIn.top, U b.2 → b ∈ sCl.top) →
      (∀ n ∈ unresolvedList env sOnly ks, U n) → (HasDefault sCl.top → HasDefault sIn.top) →
      writableList env sIn ks = true → writableList env sCl ks = true
    | [], _, _, _, _, _, _, _, _ => by simp [writableList]
    | k :: ks, sIn, sOnly, sCl, H1, H2, H3, H4, hw => by
      simp only [writableList, Bool.and_eq_true] at hw ⊢
      simp only [unresolvedList, List.mem_append] at H3
      exact ⟨writable_transfer env U k _ _ _ H1 H2 (fun n hn => H3 n (Or.inl hn)) H4 hw.1,
        writableList_transfer env U ks _ _ _ H1 H2 (fun n hn => H3 n (Or.inr hn)) H4 hw.2⟩
end

/-- Monotonicity: a stack that offers more, without a new default namespace, writes at least as
    much. -/
theorem writableList_mono (env : Env) (ks : List Tree) (s1 s2 : FStack) (h : ∀ b ∈ s1.top, b ∈ s2.top)
    (h4 : HasDefault s2.top → HasDefault s1.top)
    (hw : writableList env s1 ks = true) : writableList env s2 ks = true :=
  writableList_transfer env (fun _ => True) ks s1 s1 s2 h (fun b hb _ => h b hb) (fun _ _ => trivial) h4 hw

end XotModel

/-! ## `stackAlong` against `namespaces_in_scope`

The serializer's name stack on the way down from a root offers nothing that `namespaces_in_scope` of the same
ancestor chain does not list (the `xml` binding and `xmlns=""` aside). -/

namespace XotModel

/-- Top of the serializer's stack after the start tags of the trees of `rest` (nearest first,
    outermost last), starting from `L0`. -/
def stackAlong (L0 : List (Nat × Nat)) : List Tree → List (Nat × Nat)
  | [] => L0
  | a :: more =>
    if a.value.isElement then fullnameInfoNew a.nsDecls (stackAlong L0 more) else stackAlong L0 more

/-- Nearest declaration of the prefix `q` on the chain. -/
def nearestDecl : List Tree → Nat → Option Nat
  | [], _ => none
  | a :: more, q =>
    match a.nsDecls.lookup q with
    | some n => some n
    | none => nearestDecl more q

/-- Elements declare each prefix once; other nodes declare nothing. -/
def ChainOK (rest : List Tree) : Prop :=
  ∀ a ∈ rest, (a.value.isElement = false → a.nsDecls = []) ∧ (a.nsDecls.map (·.1)).Nodup

/-- What the stack offers is the nearest declaration, or comes from the start value. -/
theorem stackAlong_mem : ∀ (rest : List Tree) (L0 : List (Nat × Nat)) (b : Nat × Nat), ChainOK rest →
    b ∈ stackAlong L0 rest →
    nearestDecl rest b.1 = some b.2 ∨ (nearestDecl rest b.1 = none ∧ b ∈ L0)
  | [], L0, b, _, hb => Or.inr ⟨rfl, hb⟩
  | a :: more, L0, b, ok, hb => by
    have oka := ok a List.mem_cons_self
    have okm : ChainOK more := fun x hx => ok x (List.mem_cons_of_mem _ hx)
    simp only [stackAlong] at hb
    simp only [nearestDecl]
    by_cases hel : a.value.isElement = true
    · rw [if_pos hel, fc_mem_fullnameInfoNew] at hb
      rcases hb with h1 | ⟨h1, h2⟩
      · rw [(lookup_some_iff oka.2 b.1 b.2).mpr h1]
        exact Or.inl rfl
      · rw [(lookup_none_iff_forall a.nsDecls b.1).mpr h2]
        exact stackAlong_mem more L0 b okm h1
    · rw [if_neg hel] at hb
      have : a.nsDecls = [] := oka.1 (by simpa using hel)
      rw [this]
      simp only [List.lookup_nil]
      exact stackAlong_mem more L0 b okm hb

/-! #### `namespace_traverse` yields the nearest declaration -/

theorem traverseDecls_yields : ∀ (d : List (Nat × Nat)) (seen : List Nat) (q n : Nat), q ∉ seen →
    d.lookup q = some n → ¬(q = Env.emptyPrefix ∧ n = Env.noNamespace) →
    (q, n) ∈ (traverseDecls seen d).2
  | [], _, _, _, _, h, _ => by simp at h
  | (p, m) :: d, seen, q, n, hs, hl, hu => by
    rw [lookup_cons_eq] at hl
    simp only [traverseDecls]
    by_cases e : q = p
    · subst e
      rw [if_pos rfl] at hl
      cases hl
      have : seen.contains q = false := by simpa using hs
      simp only [this, Bool.false_eq_true, if_false]
      have hu' : (q == Env.emptyPrefix && m == Env.noNamespace) = false := by
        simp only [Bool.and_eq_false_iff, beq_eq_false_iff_ne]
        by_cases h1 : q = Env.emptyPrefix
        · exact Or.inr (fun h2 => hu ⟨h1, h2⟩)
        · exact Or.inl h1
      simp [hu']
    · rw [if_neg e] at hl
      by_cases hc : seen.contains p = true
      · simp only [hc, if_true]
        exact traverseDecls_yields d seen q n hs hl hu
      · simp only [hc, Bool.false_eq_true, if_false]
        have hs' : q ∉ seen ++ [p] := by simp [hs, e]
        have ih := traverseDecls_yields d (seen ++ [p]) q n hs' hl hu
        split <;> simp [ih]

theorem fc_traverseDecls_seen : ∀ (d : List (Nat × Nat)) (seen : List Nat) (q : Nat), q ∉ seen →
    d.lookup q = none → q ∉ (traverseDecls seen d).1
  | [], _, _, hs, _ => by simpa [traverseDecls] using hs
  | (p, m) :: d, seen, q, hs, hl => by
    rw [lookup_cons_eq] at hl
    have e : q ≠ p := by
      intro e; rw [if_pos e] at hl; cases hl
    rw [if_neg e] at hl
    simp only [traverseDecls]
    by_cases hc : seen.contains p = true
    · simp only [hc, if_true]
      exact fc_traverseDecls_seen d seen q hs hl
    · simp only [hc, Bool.false_eq_true, if_false]
      exact fc_traverseDecls_seen d (seen ++ [p]) q (by simp [hs, e]) hl

theorem traverseDecls_out_sub : ∀ (d : List (Nat × Nat)) (seen : List Nat) (b : Nat × Nat),
    b ∈ (traverseDecls seen d).2 → b ∈ d
  | [], _, _, h => by simp [traverseDecls] at h
  | (p, m) :: d, seen, b, h => by
    simp only [traverseDecls] at h
    by_cases hc : seen.contains p = true
    · simp only [hc, if_true] at h
      simp [traverseDecls_out_sub d seen b h]
    · simp only [hc, Bool.false_eq_true, if_false] at h
      split at h
      · simp [traverseDecls_out_sub d _ b h]
      · rcases List.mem_cons.mp h with rfl | h'
        · simp
        · simp [traverseDecls_out_sub d _ b h']

/-- The nearest declaration of a prefix not seen before is yielded by `namespace_traverse`
    over the chain (the undeclaration `xmlns=""` aside). -/
theorem traverseChain_yields : ∀ (chain : List Tree) (seen : List Nat) (q n : Nat), q ∉ seen →
    nearestDecl chain q = some n → ¬(q = Env.emptyPrefix ∧ n = Env.noNamespace) →
    (q, n) ∈ (traverseChain seen chain).2
  | [], _, _, _, _, h, _ => by simp [nearestDecl] at h
  | t :: rest, seen, q, n, hs, hn, hu => by
    simp only [nearestDecl] at hn
    simp only [traverseChain, List.mem_append]
    cases hl : t.nsDecls.lookup q with
    | some m =>
      rw [hl] at hn
      cases hn
      exact Or.inl (traverseDecls_yields _ seen q n hs hl hu)
    | none =>
      rw [hl] at hn
      exact Or.inr (traverseChain_yields rest _ q n (fc_traverseDecls_seen _ seen q hs hl) hn hu)

theorem nearestDecl_none : ∀ (chain : List Tree) (q : Nat), nearestDecl chain q = none →
    ∀ a ∈ chain, a.nsDecls.lookup q = none
  | [], _, _, a, ha => by cases ha
  | t :: rest, q, h, a, ha => by
    simp only [nearestDecl] at h
    cases hl : t.nsDecls.lookup q with
    | some m => rw [hl] at h; cases h
    | none =>
      rw [hl] at h
      rcases List.mem_cons.mp ha with rfl | ha'
      · exact hl
      · exact nearestDecl_none rest q h a ha'

/-- What the serializer's stack offers at a node, started at the root `r` of its chain with
    `namespaces_in_scope(r)`, is listed by `namespaces_in_scope` of the chain — except the `xml`
    binding and the `xmlns=""` undeclaration. -/
theorem stackAlong_sub_inScope (rest : List Tree) (r : Tree) (hr : r ∈ rest) (ok : ChainOK rest)
    (b : Nat × Nat) (hb : b ∈ stackAlong (namespacesInScopeChain [r]) rest)
    (hx : b.2 ≠ Env.xmlNamespace) (hu : ¬(b.1 = Env.emptyPrefix ∧ b.2 = Env.noNamespace)) :
    b ∈ namespacesInScopeChain rest := by
  have key : nearestDecl rest b.1 = some b.2 := by
    rcases stackAlong_mem rest _ b ok hb with h | ⟨h1, h2⟩
    · exact h
    · exfalso
      have hnone := nearestDecl_none rest b.1 h1 r hr
      unfold namespacesInScopeChain at h2
      simp only [traverseChain, List.append_nil, List.mem_append, List.mem_filter] at h2
      rcases h2 with h3 | ⟨h3, _⟩
      · exact (lookup_none_iff_forall _ _).mp hnone b (traverseDecls_out_sub r.nsDecls [] b h3) rfl
      · simp only [basePrefixes, List.mem_singleton] at h3
        apply hx
        rw [h3]
  unfold namespacesInScopeChain
  simp only [List.mem_append]
  exact Or.inl (traverseChain_yields rest [] b.1 b.2 (by simp) key hu)

/-! #### the converse: what `namespaces_in_scope` lists is on the serializer's stack -/

theorem traverseDecls_seen_mono : ∀ (d : List (Nat × Nat)) (seen : List Nat),
    (∀ q ∈ seen, q ∈ (traverseDecls seen d).1) ∧ (∀ x ∈ d, x.1 ∈ (traverseDecls seen d).1)
  | [], seen => by simp [traverseDecls]
  | (p, m) :: d, seen => by
    simp only [traverseDecls]
    by_cases hc : seen.contains p = true
    · simp only [hc, if_true]
      obtain ⟨h1, h2⟩ := traverseDecls_seen_mono d seen
      refine ⟨h1, ?_⟩
      intro x hx
      rcases List.mem_cons.mp hx with rfl | hx'
      · exact h1 _ (by simpa using hc)
      · exact h2 x hx'
    · simp only [hc, Bool.false_eq_true, if_false]
      obtain ⟨h1, h2⟩ := traverseDecls_seen_mono d (seen ++ [p])
      refine ⟨fun q hq => h1 q (by simp [hq]), ?_⟩
      intro x hx
      rcases List.mem_cons.mp hx with rfl | hx'
      · exact h1 _ (by simp)
      · exact h2 x hx'

/-- What one declaration list yields is its first declaration of a prefix not seen before. -/
theorem traverseDecls_out_first : ∀ (d : List (Nat × Nat)) (seen : List Nat) (b : Nat × Nat),
    b ∈ (traverseDecls seen d).2 → b.1 ∉ seen ∧ d.lookup b.1 = some b.2
  | [], _, _, h => by simp [traverseDecls] at h
  | (p, m) :: d, seen, b, h => by
    simp only [traverseDecls] at h
    rw [lookup_cons_eq]
    by_cases hc : seen.contains p = true
    · simp only [hc, if_true] at h
      obtain ⟨h1, h2⟩ := traverseDecls_out_first d seen b h
      have : b.1 ≠ p := fun e => h1 (e ▸ (by simpa using hc))
      rw [if_neg this]
      exact ⟨h1, h2⟩
    · simp only [hc, Bool.false_eq_true, if_false] at h
      have hp : p ∉ seen := by simpa using hc
      have tail : b ∈ (traverseDecls (seen ++ [p]) d).2 → b.1 ∉ seen ∧
          (if b.1 = p then some m else d.lookup b.1) = some b.2 := by
        intro hb
        obtain ⟨h1, h2⟩ := traverseDecls_out_first d (seen ++ [p]) b hb
        simp only [List.mem_append, List.mem_singleton, not_or] at h1
        rw [if_neg h1.2]
        exact ⟨h1.1, h2⟩
      split at h
      · exact tail h
      · rcases List.mem_cons.mp h with rfl | h'
        · exact ⟨hp, by simp⟩
        · exact tail h'

theorem traverseChain_out_nearest : ∀ (chain : List Tree) (seen : List Nat) (b : Nat × Nat),
    b ∈ (traverseChain seen chain).2 → b.1 ∉ seen ∧ nearestDecl chain b.1 = some b.2
  | [], _, _, h => by simp [traverseChain] at h
  | t :: rest, seen, b, h => by
    simp only [traverseChain, List.mem_append] at h
    simp only [nearestDecl]
    rcases h with h | h
    · obtain ⟨h1, h2⟩ := traverseDecls_out_first t.nsDecls seen b h
      rw [h2]
      exact ⟨h1, rfl⟩
    · obtain ⟨h1, h2⟩ := traverseChain_out_nearest rest _ b h
      obtain ⟨m1, m2⟩ := traverseDecls_seen_mono t.nsDecls seen
      have hs : b.1 ∉ seen := fun hq => h1 (m1 _ hq)
      have hl : t.nsDecls.lookup b.1 = none := by
        cases hl : t.nsDecls.lookup b.1 with
        | none => rfl
        | some n => exact absurd (m2 _ (lookup_mem hl)) h1
      rw [hl]
      exact ⟨hs, h2⟩

theorem nearestDecl_on_stack : ∀ (rest : List Tree) (L0 : List (Nat × Nat)) (q n : Nat), ChainOK rest →
    nearestDecl rest q = some n → (q, n) ∈ stackAlong L0 rest
  | [], _, _, _, _, h => by simp [nearestDecl] at h
  | a :: more, L0, q, n, ok, h => by
    have oka := ok a List.mem_cons_self
    have okm : ChainOK more := fun x hx => ok x (List.mem_cons_of_mem _ hx)
    simp only [nearestDecl] at h
    simp only [stackAlong]
    cases hl : a.nsDecls.lookup q with
    | some m =>
      rw [hl] at h
      cases h
      have hel : a.value.isElement = true := by
        cases he : a.value.isElement with
        | true => rfl
        | false => rw [oka.1 he] at hl; simp at hl
      rw [if_pos hel, fc_mem_fullnameInfoNew]
      exact Or.inl (lookup_mem hl)
    | none =>
      rw [hl] at h
      have ih := nearestDecl_on_stack more L0 q n okm h
      by_cases hel : a.value.isElement = true
      · rw [if_pos hel, fc_mem_fullnameInfoNew]
        exact Or.inr ⟨ih, (lookup_none_iff_forall _ _).mp hl⟩
      · rw [if_neg hel]; exact ih

/-- Every binding that `namespaces_in_scope` lists for the chain, the `xml` one aside, is on
    the serializer's stack there. -/
theorem inScope_sub_stackAlong (rest : List Tree) (L0 : List (Nat × Nat)) (ok : ChainOK rest)
    (b : Nat × Nat) (hb : b ∈ namespacesInScopeChain rest) (hx : b.1 ≠ Env.xmlPrefix) :
    b ∈ stackAlong L0 rest := by
  unfold namespacesInScopeChain at hb
  simp only [List.mem_append, List.mem_filter] at hb
  rcases hb with h | ⟨h, _⟩
  · exact nearestDecl_on_stack rest L0 b.1 b.2 ok (traverseChain_out_nearest rest [] b h).2
  · simp only [basePrefixes, List.mem_singleton] at h
    exact absurd (by rw [h]) hx

theorem stackAlong_append (L0 : List (Nat × Nat)) (A B : List Tree) :
    stackAlong L0 (A ++ B) = stackAlong (stackAlong L0 B) A := by
  induction A with
  | nil => rfl
  | cons a A ih => simp [stackAlong, ih]

end XotModel
