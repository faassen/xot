/-
  From the list-level content of an arena to the handle trees of the forest model: `IsTree g w c t`
  says that `t` is the subtree at slot `c` under the numbering and values of the view `w`.
  `HTree.find?`, `replaceBelow`, `mapAt` and `ancestorsOf` on such trees compute what the lists say.
-/
import XotModel.Lemmas.ArenaHistory
import XotModel.Lemmas.HTreeCore

/-! ### Trees read off a shape; `HTree.find?`

  Lookup in such a tree finds exactly the descendants.
-/

namespace XotModel
namespace Arena

/-- How slots are read as forest nodes: handle numbering and value. -/
structure View where
  rho : Nat → Nat
  val : Nat → Value

mutual
/-- `t` is the subtree at slot `c`. -/
inductive IsTree (g : Shape) (w : View) : Nat → HTree → Prop
  | mk {c : Nat} {ts : List HTree} : IsTrees g w (g.kids c) ts → IsTree g w c (.node (w.rho c) (w.val c) ts)
/-- `ts` are the subtrees at the slots `cs`, in order. -/
inductive IsTrees (g : Shape) (w : View) : List Nat → List HTree → Prop
  | nil : IsTrees g w [] []
  | cons {c : Nat} {cs : List Nat} {t : HTree} {ts : List HTree} :
      IsTree g w c t → IsTrees g w cs ts → IsTrees g w (c :: cs) (t :: ts)
end

theorem IsTree.handle {g : Shape} {w : View} {c : Nat} {t : HTree} (h : IsTree g w c t) : t.handle = w.rho c := by
  cases h with
  | mk _ => rfl

theorem IsTree.kids {g : Shape} {w : View} {c : Nat} {t : HTree} (h : IsTree g w c t) : IsTrees g w (g.kids c) t.kids := by
  cases h with
  | mk hk => exact hk

theorem IsTree.value {g : Shape} {w : View} {c : Nat} {t : HTree} (h : IsTree g w c t) : t.value = w.val c := by
  cases h with
  | mk _ => rfl

mutual
theorem IsTree.unique {g : Shape} {w : View} {c : Nat} {t1 t2 : HTree} (h1 : IsTree g w c t1) (h2 : IsTree g w c t2) :
    t1 = t2 := by
  match h1, h2 with
  | .mk k1, .mk k2 => rw [IsTrees.unique k1 k2]
theorem IsTrees.unique {g : Shape} {w : View} {cs : List Nat} {ts1 ts2 : List HTree} (h1 : IsTrees g w cs ts1)
    (h2 : IsTrees g w cs ts2) : ts1 = ts2 := by
  match h1, h2 with
  | .nil, .nil => rfl
  | .cons a1 b1, .cons a2 b2 => rw [IsTree.unique a1 a2, IsTrees.unique b1 b2]
end

theorem IsTrees.append {g : Shape} {w : View} : ∀ {cs1 cs2 : List Nat} {ts1 ts2 : List HTree},
    IsTrees g w cs1 ts1 → IsTrees g w cs2 ts2 → IsTrees g w (cs1 ++ cs2) (ts1 ++ ts2)
  | _, _, _, _, .nil, h2 => h2
  | _, _, _, _, .cons a b, h2 => .cons a (IsTrees.append b h2)

theorem IsTrees.split {g : Shape} {w : View} : ∀ {cs1 cs2 : List Nat} {ts : List HTree},
    IsTrees g w (cs1 ++ cs2) ts → ∃ ts1 ts2, ts = ts1 ++ ts2 ∧ IsTrees g w cs1 ts1 ∧ IsTrees g w cs2 ts2
  | [], _, ts, h => ⟨[], ts, rfl, .nil, h⟩
  | c :: cs1, cs2, _, .cons a b => by
    obtain ⟨ts1, ts2, e, h1, h2⟩ := IsTrees.split (cs1 := cs1) b
    exact ⟨_ :: ts1, ts2, by rw [e]; rfl, .cons a h1, h2⟩

theorem IsTrees.length {g : Shape} {w : View} : ∀ {cs : List Nat} {ts : List HTree}, IsTrees g w cs ts → ts.length = cs.length
  | _, _, .nil => rfl
  | _, _, .cons _ b => by simp [IsTrees.length b]

theorem IsTrees.handles_map {g : Shape} {w : View} : ∀ {cs : List Nat} {ts : List HTree}, IsTrees g w cs ts →
    ts.map HTree.handle = cs.map w.rho
  | _, _, .nil => rfl
  | _, _, .cons a b => by simp [a.handle, IsTrees.handles_map b]

/-- The hypotheses under which trees are read: a well-formed arena and a numbering that is
    injective on its live slots. -/
structure TreeCtx (a : Arena) (g : Shape) (w : View) : Prop where
  rep : Rep a g
  inj : ∀ u v, Live a u → Live a v → w.rho u = w.rho v → u = v

mutual
theorem IsTree.find_none {a : Arena} {g : Shape} {w : View} (x : TreeCtx a g w) {c : Nat} {t : HTree}
    (h : IsTree g w c t) (hc : Live a c) (u : Nat) (hu : Live a u) (hn : ¬ Reach g.par u c) :
    HTree.find? (w.rho u) t = none := by
  match h with
  | .mk hk =>
    unfold HTree.find?
    have : w.rho c ≠ w.rho u := fun e => hn (by rw [x.inj c u hc hu e]; exact .refl _)
    rw [if_neg this]
    exact IsTrees.find_none x hk (fun k hk' => (x.rep.kidsLive c k hk').2.1) u hu
      (fun k hk' hr => hn (x.rep.reach_of_child hk' hr))
theorem IsTrees.find_none {a : Arena} {g : Shape} {w : View} (x : TreeCtx a g w) {cs : List Nat} {ts : List HTree}
    (h : IsTrees g w cs ts) (hc : ∀ k ∈ cs, Live a k) (u : Nat) (hu : Live a u) (hn : ∀ k ∈ cs, ¬ Reach g.par u k) :
    HTree.findList? (w.rho u) ts = none := by
  match h with
  | .nil => rfl
  | .cons h1 h2 =>
    unfold HTree.findList?
    rw [IsTree.find_none x h1 (hc _ (by simp)) u hu (hn _ (by simp))]
    exact IsTrees.find_none x h2 (fun k hk => hc k (List.mem_cons_of_mem _ hk)) u hu
      (fun k hk => hn k (List.mem_cons_of_mem _ hk))
end

mutual
theorem IsTree.find_some {a : Arena} {g : Shape} {w : View} (x : TreeCtx a g w) {c : Nat} {t : HTree}
    (h : IsTree g w c t) (hc : Live a c) (u : Nat) (hu : Live a u) (hr : Reach g.par u c) :
    ∃ tu, IsTree g w u tu ∧ HTree.find? (w.rho u) t = some tu := by
  match h with
  | .mk hk =>
    unfold HTree.find?
    by_cases e : w.rho c = w.rho u
    · have := x.inj c u hc hu e
      subst this
      exact ⟨_, .mk hk, by rw [if_pos rfl]⟩
    · rw [if_neg e]
      rcases x.rep.reach_child hr with e' | ⟨k, hk', hr'⟩
      · subst e'; exact absurd rfl e
      · exact IsTrees.find_some x hk (fun k hk'' => (x.rep.kidsLive c k hk'').2.1) u hu k hk' hr'
          (fun k' hk'' hr'' => x.rep.child_unique hk'' hk' hr'' hr')
theorem IsTrees.find_some {a : Arena} {g : Shape} {w : View} (x : TreeCtx a g w) {cs : List Nat} {ts : List HTree}
    (h : IsTrees g w cs ts) (hc : ∀ k ∈ cs, Live a k) (u : Nat) (hu : Live a u) (k : Nat) (hk : k ∈ cs)
    (hr : Reach g.par u k) (huniq : ∀ k' ∈ cs, Reach g.par u k' → k' = k) :
    ∃ tu, IsTree g w u tu ∧ HTree.findList? (w.rho u) ts = some tu := by
  match h with
  | .nil => cases hk
  | @IsTrees.cons _ _ c0 cs0 t0 ts0 h1 h2 =>
    unfold HTree.findList?
    by_cases e : c0 = k
    · subst e
      obtain ⟨tu, h3, h4⟩ := IsTree.find_some x h1 (hc _ (by simp)) u hu hr
      exact ⟨tu, h3, by rw [h4]⟩
    · have hn : ¬ Reach g.par u c0 := fun hr' => e (huniq c0 (by simp) hr')
      rw [IsTree.find_none x h1 (hc _ (by simp)) u hu hn]
      have hk' : k ∈ cs0 := by
        rcases List.mem_cons.mp hk with h | h
        · exact absurd h.symm e
        · exact h
      exact IsTrees.find_some x h2 (fun k' hk'' => hc k' (List.mem_cons_of_mem _ hk'')) u hu k hk' hr
        (fun k' hk'' => huniq k' (List.mem_cons_of_mem _ hk''))
end

end Arena
end XotModel

/-! ### `HTree.replaceBelow`

  `HTree.replaceBelow` (used by `cut`, `spliceOut`, `placeAfter`, `placeBefore`) and `HTree.mapAt` (used by
  `placeLast`, `placeFirst`, `setValue`) produce the trees of the correspondingly changed list-level content.
-/

namespace XotModel
namespace Arena

mutual
/-- A subtree whose nodes are untouched reads the same. -/
theorem IsTree.congr {g g' : Shape} {w w' : View} (S : Nat → Prop)
    (hS : ∀ u, S u → g'.kids u = g.kids u ∧ w'.rho u = w.rho u ∧ w'.val u = w.val u ∧ ∀ k ∈ g.kids u, S k)
    {c : Nat} {t : HTree} (h : IsTree g w c t) (hc : S c) : IsTree g' w' c t := by
  match h with
  | .mk hk =>
    obtain ⟨e1, e2, e3, e4⟩ := hS c hc
    rw [← e2, ← e3]
    exact .mk (by rw [e1]; exact IsTrees.congr S hS hk e4)
theorem IsTrees.congr {g g' : Shape} {w w' : View} (S : Nat → Prop)
    (hS : ∀ u, S u → g'.kids u = g.kids u ∧ w'.rho u = w.rho u ∧ w'.val u = w.val u ∧ ∀ k ∈ g.kids u, S k)
    {cs : List Nat} {ts : List HTree} (h : IsTrees g w cs ts) (hc : ∀ k ∈ cs, S k) : IsTrees g' w' cs ts := by
  match h with
  | .nil => exact .nil
  | .cons h1 h2 =>
    exact .cons (IsTree.congr S hS h1 (hc _ (by simp)))
      (IsTrees.congr S hS h2 (fun k hk => hc k (List.mem_cons_of_mem _ hk)))
end

/-! ### Pure facts about the list versions of the rewriting functions -/

theorem replaceKids_no_match (h : Nat) (f : HTree → List HTree) : ∀ (ts : List HTree),
    (∀ t ∈ ts, t.handle ≠ h) → HTree.replaceKids h f ts = ts.map (HTree.replaceBelow h f)
  | [], _ => rfl
  | t :: ts, hne => by
    unfold HTree.replaceKids
    rw [if_neg (hne t (by simp)), replaceKids_no_match h f ts (fun t' ht' => hne t' (List.mem_cons_of_mem _ ht'))]
    rfl

theorem replaceKids_match (h : Nat) (f : HTree → List HTree) : ∀ (ts1 : List HTree) (t : HTree) (ts2 : List HTree),
    (∀ t' ∈ ts1, t'.handle ≠ h) → t.handle = h →
    HTree.replaceKids h f (ts1 ++ t :: ts2) = ts1.map (HTree.replaceBelow h f) ++ f t ++ ts2
  | [], t, ts2, _, ht => by
    simp only [List.nil_append, List.map_nil]
    unfold HTree.replaceKids
    rw [if_pos ht]
  | t1 :: ts1, t, ts2, hne, ht => by
    simp only [List.cons_append, List.map_cons]
    unfold HTree.replaceKids
    rw [if_neg (hne t1 (by simp)), replaceKids_match h f ts1 t ts2 (fun t' ht' => hne t' (List.mem_cons_of_mem _ ht')) ht]

/-- The change of list-level content that `replaceBelow` at the (non-root) slot `u` implements:
    `u` (under `p`, between `L` and `R`) is replaced by the slots `X`. -/
structure ReplaceAt (a : Arena) (g g' : Shape) (w : View) (u p : Nat) (L R X : List Nat) (F : HTree → List HTree) : Prop where
  ulive : Live a u
  par : g.par u = some p
  kids : g.kids p = L ++ u :: R
  kids' : g'.kids p = L ++ X ++ R
  image : ∀ tu, IsTree g w u tu → IsTrees g' w X (F tu)
  agree : ∀ q, Live a q → q ≠ p → ¬ Reach g.par q u → g'.kids q = g.kids q

/-- Subtrees of the siblings after `u` do not meet `p` or the subtree of `u`. -/
theorem ReplaceAt.after_untouched {a : Arena} {g g' : Shape} {w : View} (x : TreeCtx a g w) {u p : Nat}
    {L R X : List Nat} {F : HTree → List HTree} (ra : ReplaceAt a g g' w u p L R X F) {cs : List Nat} {ts : List HTree}
    (h : IsTrees g w cs ts) (hcs : ∀ k ∈ cs, k ∈ R) : IsTrees g' w cs ts := by
  have hnd : (L ++ u :: R).Nodup := by rw [← ra.kids]; exact x.rep.kidsNodup p
  have hRp : ∀ r, r ∈ R → r ∈ g.kids p := fun r hr => by
    rw [ra.kids]; exact List.mem_append_right _ (List.mem_cons_of_mem _ hr)
  have huR : u ∉ R := (List.nodup_cons.mp (List.nodup_append.mp hnd).2.1).1
  have hup : u ∈ g.kids p := by rw [ra.kids]; simp
  refine IsTrees.congr (fun q => Live a q ∧ ∃ r, r ∈ R ∧ Reach g.par q r) ?_ h ?_
  · intro q ⟨hq, r, hr, hqr⟩
    have hqp : q ≠ p := by
      intro e; subst e
      exact x.rep.acyclic r q (x.rep.kidsLive q r (hRp r hr)).2.2 hqr
    have hqu : ¬ Reach g.par q u := by
      intro hqu
      have := x.rep.child_unique (hRp r hr) hup hqr hqu
      subst this; exact huR hr
    refine ⟨ra.agree q hq hqp hqu, rfl, rfl, fun k hk => ?_⟩
    exact ⟨(x.rep.kidsLive q k hk).2.1, r, hr, .step (x.rep.kidsLive q k hk).2.2 hqr⟩
  · intro k hk
    exact ⟨(x.rep.kidsLive p k (hRp k (hcs k hk))).2.1, k, hcs k hk, .refl _⟩

mutual
theorem IsTree.replaceBelow {a : Arena} {g g' : Shape} {w : View} (x : TreeCtx a g w) {u p : Nat} {L R X : List Nat}
    {F : HTree → List HTree} (ra : ReplaceAt a g g' w u p L R X F) {c : Nat} {t : HTree} (h : IsTree g w c t)
    (hc : Live a c) (hcu : ¬ Reach g.par c u) : IsTree g' w c (HTree.replaceBelow (w.rho u) F t) := by
  match h with
  | @IsTree.mk _ _ _ ts hk =>
    unfold HTree.replaceBelow
    refine .mk ?_
    have kidsLive : ∀ k ∈ g.kids c, Live a k := fun k hk' => (x.rep.kidsLive c k hk').2.1
    by_cases hcp : c = p
    · subst hcp
      rw [ra.kids']
      have hnd : (L ++ u :: R).Nodup := by rw [← ra.kids]; exact x.rep.kidsNodup c
      refine IsTrees.replaceKidsAt x ra hk L ra.kids (fun k hk' => ?_)
      have hkmem : k ∈ g.kids c := by rw [ra.kids]; exact List.mem_append_left _ hk'
      refine ⟨kidsLive k hkmem, fun hr => ?_⟩
      have hku : k ≠ u := fun e => (List.nodup_append.mp hnd).2.2 k hk' u (by simp) e
      cases hr with
      | refl => exact hku rfl
      | step hp hr' =>
        rw [(x.rep.kidsLive c k hkmem).2.2] at hp; cases hp
        exact x.rep.acyclic u _ ra.par hr'
    · rw [ra.agree c hc hcp hcu]
      have hne : ∀ t' ∈ ts, t'.handle ≠ w.rho u := by
        intro t' ht' e
        have hm := hk.handles_map
        have : t'.handle ∈ ts.map HTree.handle := List.mem_map.mpr ⟨t', ht', rfl⟩
        rw [hm] at this
        obtain ⟨k, hk', ek⟩ := List.mem_map.mp this
        have hku : k = u := x.inj k u (kidsLive k hk') ra.ulive (ek.trans e)
        subst hku
        have := (x.rep.kidsLive c k hk').2.2
        rw [ra.par] at this; cases this; exact hcp rfl
      rw [replaceKids_no_match _ _ ts hne]
      refine IsTrees.replaceBelowList x ra hk (fun k hk' => ⟨kidsLive k hk', fun hr => ?_⟩)
      have hpk := (x.rep.kidsLive c k hk').2.2
      cases hr with
      | refl => rw [ra.par] at hpk; cases hpk; exact hcp rfl
      | step hp hr' => rw [hpk] at hp; cases hp; exact hcu hr'
theorem IsTrees.replaceBelowList {a : Arena} {g g' : Shape} {w : View} (x : TreeCtx a g w) {u p : Nat}
    {L R X : List Nat} {F : HTree → List HTree} (ra : ReplaceAt a g g' w u p L R X F) {cs : List Nat}
    {ts : List HTree} (h : IsTrees g w cs ts) (hc : ∀ k ∈ cs, Live a k ∧ ¬ Reach g.par k u) :
    IsTrees g' w cs (ts.map (HTree.replaceBelow (w.rho u) F)) := by
  match h with
  | .nil => exact .nil
  | .cons h1 h2 =>
    exact .cons (IsTree.replaceBelow x ra h1 (hc _ (by simp)).1 (hc _ (by simp)).2)
      (IsTrees.replaceBelowList x ra h2 (fun k hk => hc k (List.mem_cons_of_mem _ hk)))
/-- The child list that contains `u`: everything before `u` is rewritten (to itself), `u` is
    replaced by the image, what follows is kept. -/
theorem IsTrees.replaceKidsAt {a : Arena} {g g' : Shape} {w : View} (x : TreeCtx a g w) {u p : Nat}
    {L R X : List Nat} {F : HTree → List HTree} (ra : ReplaceAt a g g' w u p L R X F) {cs : List Nat}
    {ts : List HTree} (h : IsTrees g w cs ts) (L0 : List Nat) (hsplit : cs = L0 ++ u :: R)
    (hL0 : ∀ k ∈ L0, Live a k ∧ ¬ Reach g.par k u) :
    IsTrees g' w (L0 ++ X ++ R) (HTree.replaceKids (w.rho u) F ts) := by
  match h with
  | .nil => cases L0 <;> simp at hsplit
  | @IsTrees.cons _ _ c0 cs0 t0 ts0 h1 h2 =>
    cases L0 with
    | nil =>
      simp only [List.nil_append, List.cons.injEq] at hsplit
      obtain ⟨e1, e2⟩ := hsplit
      subst e1 e2
      unfold HTree.replaceKids
      rw [if_pos h1.handle]
      simp only [List.nil_append]
      exact IsTrees.append (ra.image t0 h1) (ra.after_untouched x h2 (fun k hk => hk))
    | cons l L0' =>
      simp only [List.cons_append, List.cons.injEq] at hsplit
      obtain ⟨e1, e2⟩ := hsplit
      subst e1
      have hl := hL0 c0 (by simp)
      unfold HTree.replaceKids
      have hne : t0.handle ≠ w.rho u := by
        rw [h1.handle]
        intro e
        have := x.inj c0 u hl.1 ra.ulive e
        subst this
        exact hl.2 (.refl _)
      rw [if_neg hne]
      simp only [List.cons_append]
      exact .cons (IsTree.replaceBelow x ra h1 hl.1 hl.2)
        (IsTrees.replaceKidsAt x ra h2 L0' e2 (fun k hk => hL0 k (List.mem_cons_of_mem _ hk)))
end

end Arena
end XotModel

/-! ### `HTree.mapAt` and `HTree.ancestorsOf` -/

namespace XotModel
namespace Arena

/-- The change that `mapAt` at slot `p` implements: only `p`'s own node changes (its child list
    and / or its value). -/
structure MapAtSpec (a : Arena) (g g' : Shape) (w w' : View) (p : Nat) (G : HTree → HTree) : Prop where
  plive : Live a p
  image : ∀ tp, IsTree g w p tp → IsTree g' w' p (G tp)
  agree : ∀ q, Live a q → q ≠ p → g'.kids q = g.kids q ∧ w'.rho q = w.rho q ∧ w'.val q = w.val q

mutual
theorem IsTree.mapAt {a : Arena} {g g' : Shape} {w w' : View} (x : TreeCtx a g w) {p : Nat} {G : HTree → HTree}
    (ms : MapAtSpec a g g' w w' p G) {c : Nat} {t : HTree} (h : IsTree g w c t) (hc : Live a c) :
    IsTree g' w' c (HTree.mapAt (w.rho p) G t) := by
  match h with
  | @IsTree.mk _ _ _ ts hk =>
    unfold HTree.mapAt
    by_cases e : w.rho c = w.rho p
    · rw [if_pos e]
      have := x.inj c p hc ms.plive e
      subst this
      exact ms.image _ (.mk hk)
    · rw [if_neg e]
      have hcp : c ≠ p := fun h => e (by rw [h])
      obtain ⟨e1, e2, e3⟩ := ms.agree c hc hcp
      rw [← e2, ← e3, mapAtList_eq_map]
      refine .mk ?_
      rw [e1]
      exact IsTrees.mapAtList x ms hk (fun k hk' => (x.rep.kidsLive c k hk').2.1)
theorem IsTrees.mapAtList {a : Arena} {g g' : Shape} {w w' : View} (x : TreeCtx a g w) {p : Nat} {G : HTree → HTree}
    (ms : MapAtSpec a g g' w w' p G) {cs : List Nat} {ts : List HTree} (h : IsTrees g w cs ts)
    (hc : ∀ k ∈ cs, Live a k) : IsTrees g' w' cs (ts.map (HTree.mapAt (w.rho p) G)) := by
  match h with
  | .nil => exact .nil
  | .cons h1 h2 =>
    exact .cons (IsTree.mapAt x ms h1 (hc _ (by simp)))
      (IsTrees.mapAtList x ms h2 (fun k hk => hc k (List.mem_cons_of_mem _ hk)))
end

theorem Rep.reach_antisymm {a : Arena} {g : Shape} (r : Rep a g) {u v : Nat} (h1 : Reach g.par u v)
    (h2 : Reach g.par v u) : u = v := by
  cases h1 with
  | refl => rfl
  | step hp hr => exact absurd (hr.trans h2) (r.acyclic u _ hp)

mutual
theorem IsTree.ancestorsOf_none {a : Arena} {g : Shape} {w : View} (x : TreeCtx a g w) {c : Nat} {t : HTree}
    (h : IsTree g w c t) (hc : Live a c) (u : Nat) (hu : Live a u) (hn : ¬ Reach g.par u c) :
    HTree.ancestorsOf (w.rho u) t = none := by
  match h with
  | .mk hk =>
    unfold HTree.ancestorsOf
    have : w.rho c ≠ w.rho u := fun e => hn (by rw [x.inj c u hc hu e]; exact .refl _)
    rw [if_neg this]
    rw [IsTrees.ancestorsOf_none x hk (fun k hk' => (x.rep.kidsLive c k hk').2.1) u hu
      (fun k hk' hr => hn (x.rep.reach_of_child hk' hr))]
theorem IsTrees.ancestorsOf_none {a : Arena} {g : Shape} {w : View} (x : TreeCtx a g w) {cs : List Nat}
    {ts : List HTree} (h : IsTrees g w cs ts) (hc : ∀ k ∈ cs, Live a k) (u : Nat) (hu : Live a u)
    (hn : ∀ k ∈ cs, ¬ Reach g.par u k) : HTree.ancestorsOfList (w.rho u) ts = none := by
  match h with
  | .nil => rfl
  | .cons h1 h2 =>
    unfold HTree.ancestorsOfList
    rw [IsTree.ancestorsOf_none x h1 (hc _ (by simp)) u hu (hn _ (by simp))]
    exact IsTrees.ancestorsOf_none x h2 (fun k hk => hc k (List.mem_cons_of_mem _ hk)) u hu
      (fun k hk => hn k (List.mem_cons_of_mem _ hk))
end

mutual
/-- `ancestorsOf` yields the handles of the nodes between `u` and the root of the tree. -/
theorem IsTree.ancestorsOf_some {a : Arena} {g : Shape} {w : View} (x : TreeCtx a g w) {c : Nat} {t : HTree}
    (h : IsTree g w c t) (hc : Live a c) (u : Nat) (hu : Live a u) (hr : Reach g.par u c) :
    ∃ l, HTree.ancestorsOf (w.rho u) t = some l ∧
      ∀ y, y ∈ l ↔ ∃ v, y = w.rho v ∧ Reach g.par u v ∧ Reach g.par v c := by
  match h with
  | .mk hk =>
    unfold HTree.ancestorsOf
    by_cases e : w.rho c = w.rho u
    · have := x.inj c u hc hu e
      subst this
      refine ⟨[w.rho c], by rw [if_pos rfl], fun y => ?_⟩
      simp only [List.mem_singleton]
      constructor
      · intro e'; exact ⟨c, e', .refl _, .refl _⟩
      · rintro ⟨v, e', h1, h2⟩
        rw [e', x.rep.reach_antisymm h1 h2]
    · rw [if_neg e]
      rcases x.rep.reach_child hr with e' | ⟨k, hk', hr'⟩
      · subst e'; exact absurd rfl e
      · obtain ⟨l, hl, hmem⟩ := IsTrees.ancestorsOf_some x hk (fun k hk'' => (x.rep.kidsLive c k hk'').2.1) u hu k hk' hr'
          (fun k' hk'' hr'' => x.rep.child_unique hk'' hk' hr'' hr')
        refine ⟨l ++ [w.rho c], by rw [hl], fun y => ?_⟩
        simp only [List.mem_append, List.mem_singleton]
        constructor
        · rintro (h1 | h1)
          · obtain ⟨v, e1, h2, h3⟩ := (hmem y).mp h1
            exact ⟨v, e1, h2, x.rep.reach_of_child hk' h3⟩
          · exact ⟨c, h1, hr, .refl _⟩
        · rintro ⟨v, e1, h2, h3⟩
          rcases x.rep.reach_child h3 with e2 | ⟨k2, hk2, hr2⟩
          · subst e2; exact Or.inr e1
          · have : k2 = k := x.rep.child_unique hk2 hk' (h2.trans hr2) hr'
            subst this
            exact Or.inl ((hmem y).mpr ⟨v, e1, h2, hr2⟩)
theorem IsTrees.ancestorsOf_some {a : Arena} {g : Shape} {w : View} (x : TreeCtx a g w) {cs : List Nat}
    {ts : List HTree} (h : IsTrees g w cs ts) (hc : ∀ k ∈ cs, Live a k) (u : Nat) (hu : Live a u) (k : Nat)
    (hk : k ∈ cs) (hr : Reach g.par u k) (huniq : ∀ k' ∈ cs, Reach g.par u k' → k' = k) :
    ∃ l, HTree.ancestorsOfList (w.rho u) ts = some l ∧
      ∀ y, y ∈ l ↔ ∃ v, y = w.rho v ∧ Reach g.par u v ∧ Reach g.par v k := by
  match h with
  | .nil => cases hk
  | @IsTrees.cons _ _ c0 cs0 t0 ts0 h1 h2 =>
    unfold HTree.ancestorsOfList
    by_cases e : c0 = k
    · subst e
      obtain ⟨l, h3, h4⟩ := IsTree.ancestorsOf_some x h1 (hc _ (by simp)) u hu hr
      exact ⟨l, by rw [h3], h4⟩
    · have hn : ¬ Reach g.par u c0 := fun hr' => e (huniq c0 (by simp) hr')
      rw [IsTree.ancestorsOf_none x h1 (hc _ (by simp)) u hu hn]
      have hk' : k ∈ cs0 := by
        rcases List.mem_cons.mp hk with h | h
        · exact absurd h.symm e
        · exact h
      exact IsTrees.ancestorsOf_some x h2 (fun k' hk'' => hc k' (List.mem_cons_of_mem _ hk'')) u hu k hk' hr
        (fun k' hk'' => huniq k' (List.mem_cons_of_mem _ hk''))
end

theorem IsTrees.filter_ne {a : Arena} {g : Shape} {w : View} (x : TreeCtx a g w) (i : Nat) (hi : Live a i) :
    ∀ {cs : List Nat} {ts : List HTree}, IsTrees g w cs ts → (∀ k ∈ cs, Live a k) →
      IsTrees g w (cs.filter (· ≠ i)) (ts.filter (fun r => r.handle != w.rho i))
  | _, _, .nil, _ => .nil
  | _, _, @IsTrees.cons _ _ c0 cs0 t0 ts0 h1 h2, hc => by
    have ih := IsTrees.filter_ne x i hi h2 (fun k hk => hc k (List.mem_cons_of_mem _ hk))
    by_cases e : c0 = i
    · subst e
      have : (t0.handle != w.rho c0) = false := by rw [h1.handle]; simp
      simp only [List.filter_cons, this, ne_eq, not_true_eq_false, decide_false]
      exact ih
    · have : (t0.handle != w.rho i) = true := by
        rw [h1.handle]
        simp only [bne_iff_ne, ne_eq]
        intro e'; exact e (x.inj c0 i (hc _ (by simp)) hi e')
      simp only [List.filter_cons, this, ne_eq, e, not_false_eq_true, decide_true]
      exact .cons h1 ih

end Arena
end XotModel
