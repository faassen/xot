/-
  C08 and parsing: ids keep their meaning as tables grow (`Env.PrefixOf`), the summary of
  a parse used by `Props/C08.lean`, and the capacity witness.
-/
import XotModel.Lemmas.BasicFacts
import XotModel.Lemmas.ParseOps
import XotModel.Lemmas.IdMapHistory

namespace XotModel
open IdParse IdMap Gen

/-! ### An id of `e` means in `e'` what it means in `e` -/

theorem IdParse.prefix_get_eq {α : Type} {l l' : List α} (h : l <+: l') {i : Nat} (hi : i < l.length) :
    l'[i]? = l[i]? := by
  rw [List.getElem?_eq_getElem hi]
  exact prefix_getElem? h (List.getElem?_eq_getElem hi)

theorem Env.PrefixOf.names_get {e e' : Env} (h : e.PrefixOf e') {n : Nat} (hn : n < e.names.length) :
    e'.names[n]? = e.names[n]? := prefix_get_eq h.names hn

theorem Env.PrefixOf.prefixStr_eq {e e' : Env} (h : e.PrefixOf e') {p : Nat} (hp : p < e.prefixes.length) :
    e'.prefixStr p = e.prefixStr p := by
  simp only [Env.prefixStr, List.getD_eq_getElem?_getD, prefix_get_eq h.prefixes hp]

theorem Env.PrefixOf.namespaceStr_eq {e e' : Env} (h : e.PrefixOf e') {p : Nat} (hp : p < e.namespaces.length) :
    e'.namespaceStr p = e.namespaceStr p := by
  simp only [Env.namespaceStr, List.getD_eq_getElem?_getD, prefix_get_eq h.namespaces hp]

/-- The expanded name (namespace URI, local name) of a name id of `e` is the same in `e'`. -/
theorem Env.PrefixOf.expanded_eq {e e' : Env} (h : e.PrefixOf e') (hd : e.DupFree) {n : Nat}
    (hn : n < e.names.length) : e'.expanded n = e.expanded n := by
  have hg := h.names_get hn
  have hns : e'.nsOfName n = e.nsOfName n := by
    simp only [Env.nsOfName, List.getD_eq_getElem?_getD, hg]
  have hl : e'.localName n = e.localName n := by
    simp only [Env.localName, List.getD_eq_getElem?_getD, hg]
  have hr : e.nsOfName n < e.namespaces.length := by
    have := hd.nsInRange _ (getD_mem ([], 0) hn)
    exact this
  simp only [Env.expanded, hns, hl, h.namespaceStr_eq hr]

theorem Value.idsIn_mono {e e' : Env} (h : e.PrefixOf e') {v : Value} (hv : v.idsIn e = true) :
    v.idsIn e' = true := by
  have a := h.names.length_le
  have b := h.prefixes.length_le
  have c := h.namespaces.length_le
  cases v <;> simp only [Value.idsIn, Bool.and_eq_true, decide_eq_true_eq] at hv ⊢ <;> omega

mutual
theorem Tree.idsIn_mono {e e' : Env} (h : e.PrefixOf e') : ∀ (t : Tree), t.idsIn e = true → t.idsIn e' = true
  | .node v ks, ht => by
    rw [Tree.idsIn, Bool.and_eq_true] at ht ⊢
    exact ⟨Value.idsIn_mono h ht.1, Tree.idsInList_mono h ks ht.2⟩
theorem Tree.idsInList_mono {e e' : Env} (h : e.PrefixOf e') : ∀ (ks : List Tree),
    Tree.idsIn.idsInList e ks = true → Tree.idsIn.idsInList e' ks = true
  | [], _ => rfl
  | k :: ks, hk => by
    rw [Tree.idsIn.idsInList, Bool.and_eq_true] at hk ⊢
    exact ⟨Tree.idsIn_mono h k hk.1, Tree.idsInList_mono h ks hk.2⟩
end

/-! ### What one parse does to a well-formed interner -/

/-- Accepted or rejected: the interner after the parse is the interner before after exactly the
    calls `buildRegs`; its `by_id` vectors are the tables the parser model reports. -/
theorem Interner.parse_tables {x : Interner} (h : x.WF) (m : Mode) (len : Nat) (ts : List Token)
    (lexErr : Option Nat) {env' : Env}
    (hb : (∃ p, build m len x.env ts lexErr = .ok p ∧ p.env = env') ∨
          (∃ e, build m len x.env ts lexErr = .err e env')) :
    (x.parse ts).env = env' ∧ env' = (x.env.regAll (buildRegs x.env ts)).1 ∧ (x.parse ts).WF ∧
      x.Mono (x.parse ts) ∧ x.env.PrefixOf env' ∧ env'.DupFree ∧ x.env.RegsInRange (buildRegs x.env ts) := by
  obtain ⟨b1, b2⟩ := Interner.parse_build h.inv m len ts lexErr
  have he : (x.parse ts).env = env' := by
    rcases hb with ⟨p, hp, rfl⟩ | ⟨e, he⟩
    · exact b1 p hp
    · exact b2 e env' he
  have hwf := h.parse ts
  refine ⟨he, ?_, hwf, Interner.regAll_mono _ x, ?_, ?_,
    buildRegs_inRange h.dupFree.prefixes h.dupFree.namespaces h.pf2 h.ns2 ts⟩
  · rw [← he]; exact Interner.regAll_env _ h.inv
  · rw [← he]; exact (Interner.regAll_mono _ x).prefixOf
  · rw [← he]; exact hwf.dupFree

/-- Accepted: every id in the tree was returned by one of the parse's calls and is an id of the
    tables left behind. -/
theorem Interner.parse_tree {x : Interner} {m : Mode} {len : Nat} {ts : List Token}
    {lexErr : Option Nat} {p : Parsed} (hb : build m len x.env ts lexErr = .ok p) :
    AllV (IssuedBy x.env (buildRegs x.env ts)) p.tree ∧ p.tree.idsIn p.env = true := by
  have hi := build_issued hb
  refine ⟨hi, ?_⟩
  rw [(build_trace m len x.env ts lexErr).of_ok hb]
  exact idsIn_of_allV _ _ (allV_imp (fun v hv => IssuedBy.idsIn hv) _ hi)

/-- A full name table (exactly `2^bits` entries — still within `Env.Cap`) and one more name: the
    interner hands out id 0, the id of another name; the width-free tables of the parser model say
    `2^bits`.  So "at most `2^bits` entries in the table REACHED" cannot be dropped. -/
theorem Interner.full_table_wraps (x : Interner) (hx : x.Inv)
    (hfull : x.nameLookup.byId.length = 2 ^ nameIdBits) (loc : Str) (ns : Nat)
    (hnew : (loc, ns) ∉ x.nameLookup.byId) :
    (x.reg (.name loc ns)).2 = 0 ∧ (x.env.reg (.name loc ns)).2 = 2 ^ nameIdBits ∧
    x.env.names.length ≤ 2 ^ nameIdBits ∧
    (∃ k, x.nameLookup.getValue 0 = some k ∧ k ≠ (loc, ns)) := by
  refine ⟨?_, ?_, Nat.le_of_eq hfull, ?_⟩
  · show (getIdMut nameIdBits x.nameLookup (loc, ns)).2 = 0
    rw [getIdMut_of_not_mem hx.nm hnew]
    show toId nameIdBits x.nameLookup.byId.length = 0
    rw [hfull, toId_pow]
  · show (internIn x.nameLookup.byId (loc, ns)).2 = 2 ^ nameIdBits
    rw [internIn_snd_eq, List.idxOf_eq_length hnew, hfull]
  · have hpos : 0 < x.nameLookup.byId.length := by rw [hfull]; exact Nat.two_pow_pos _
    refine ⟨x.nameLookup.byId[0], List.getElem?_eq_getElem hpos, ?_⟩
    intro he
    exact hnew (he ▸ List.getElem_mem hpos)

/-! ### The smallest document that registers a name -/

/-- The tokens of `<loc/>`. -/
def emptyElementTokens (loc : Str) : List Token :=
  [.elementStart ⟨[], 0⟩ ⟨loc, 1⟩ ⟨'<' :: loc, 0⟩, .elementEnd .empty ⟨['/', '>'], 1 + strLen loc⟩]

theorem buildRegs_emptyElement (env : Env) (h0 : env.prefixes.idxOf ([] : Str) = 0) (loc : Str) :
    buildRegs env (emptyElementTokens loc) = [.pfx [], .name loc Env.noNamespace] := by
  have hp : (env.internPrefix []).2 = 0 := h0
  have hl : lookupPrefix ([] :: (Builder.new env).nsStack) (env.internPrefix []).2 = some Env.noNamespace := by
    rw [hp]; rfl
  simp only [buildRegs, emptyElementTokens, Builder.runRegs, Builder.stepRegs, Builder.step, Builder.element,
    ElementBuilder.new, List.nil_append, StrSpan.bareColon_zero, Bool.false_eq_true, if_false]
  simp only [Builder.openRegs, Builder.new, elementNameRegs, elementNameId, attrsRegs] at hl ⊢
  simp only [hl, List.cons_append, List.nil_append, List.append_nil, List.cons.injEq, true_and]
  split <;> rfl

/-! ### Which call names which place of the document -/

/-- A start tag `<p:loc …>` (`eb` = what `DocumentBuilder::element` kept of the `ElementStart`
    token: prefix and local name as written): the calls of `open_element` begin with the prefix as
    written and the name (local name as written, the namespace id the prefix resolves to on the
    namespace stack with this tag's own declarations on top); the element node stores the id the
    second call returned. -/
theorem openElement_place {b b' : Builder} {eb : ElementBuilder} (heb : b.eb = some eb)
    (hr : b.openElement = .ok b') :
    ∃ ns rest id, lookupPrefix (eb.namespaces :: b.nsStack) (b.env.internPrefix eb.pfx).2 = some ns ∧
      b.openRegs = .pfx eb.pfx :: .name eb.name ns :: rest ∧
      (b.env.regAll b.openRegs).2[1]? = some id ∧ b'.cur.value = .element id := by
  obtain ⟨eb', env1, nameId, st, heb', hn, _, hopen, hcur, _, _⟩ := openElement_ok hr
  cases heb.symm.trans heb'
  obtain ⟨ns, hns, hregs, hall⟩ := elementNameId_ok hn
  refine ⟨ns, _, nameId, hns, by rw [hopen, hregs]; rfl, ?_, by rw [hcur]⟩
  rw [hopen, Env.regAll_append, hall]
  rfl

/-- `DocumentBuilder::element` keeps prefix and local name of the `ElementStart` token as written. -/
theorem element_place (b : Builder) (pfx loc : StrSpan) :
    ∃ eb, (b.element pfx loc).eb = some eb ∧ eb.pfx = pfx.text ∧ eb.name = loc.text ∧ eb.namespaces = [] :=
  ⟨_, rfl, rfl, rfl, rfl⟩

/-- One attribute `p:loc="…"` of the start tag (`ab` = what `DocumentBuilder::attribute` kept):
    two calls, the prefix as written and (local name as written, namespace id: none for an
    unprefixed attribute, else what the prefix resolves to); the attribute node stores the id
    the second call returned. -/
theorem attribute_place {stack : NsStack} {node : Path} {st st1 : AttrLoop} {ab : AttributeBuilder}
    (h : addAttributes stack node st [ab] = .ok st1) :
    ∃ ns id v, attributeNameRegs st.env stack ab.pfx ab.name = [.pfx ab.pfx, .name ab.name ns] ∧
      (ns = Env.noNamespace ∨ lookupPrefix stack (st.env.internPrefix ab.pfx).2 = some ns) ∧
      (st.env.regAll (attributeNameRegs st.env stack ab.pfx ab.name)).2[1]? = some id ∧
      st1.rkids = .node (.attribute id v) [] :: st.rkids := by
  obtain ⟨env1, nameId, hn, hk⟩ := addAttributes_one_ok h
  obtain ⟨ns, hregs, hns, hall⟩ := attributeNameId_ok hn
  exact ⟨ns, nameId, _, hregs, hns, by rw [hall]; rfl, hk⟩

/-- A namespace declaration `xmlns:p="…"` / `xmlns="…"`: two calls, the prefix as written (empty
    for `xmlns=`) and the DECODED attribute value; the pair of ids returned is what the namespace
    node of the element will hold. -/
theorem prefix_place {b b' : Builder} {p : Str} {u : StrSpan} {sp : Span} (hr : b.prefix p u sp = .ok b') :
    ∃ us eb eb', parseContentGo true u.start 0 u.text = .ok us ∧ prefixRegs p u = [.pfx p, .ns us] ∧
      b.eb = some eb ∧ b'.eb = some eb' ∧
      eb'.namespaces = eb.namespaces ++ [((b.env.regAll (prefixRegs p u)).2.getD 0 0, (b.env.regAll (prefixRegs p u)).2.getD 1 0)] := by
  obtain ⟨us, eb, hus, hres, heb, _, rfl⟩ := Builder.prefix_ok_inv hr
  refine ⟨us, eb, _, hus, by simp only [prefixRegs, hus, hres, Bool.false_eq_true, if_false], heb, rfl, ?_⟩
  simp only [prefixRegs, hus, hres, Bool.false_eq_true, if_false]
  rfl

/-- A processing instruction `<?target …?>` (target other than `xml`): one call, (target as
    written, no namespace); the node stores the id returned. -/
theorem processingInstruction_place (b : Builder) (target : StrSpan) (content : Option StrSpan) :
    (b.processingInstruction target content).cur.rkids =
      .node (.pi ((b.env.regAll [.name target.text Env.noNamespace]).2.getD 0 0) (content.map (fun c => normalizeLineEnds c.text))) []
        :: b.cur.rkids := rfl

end XotModel
