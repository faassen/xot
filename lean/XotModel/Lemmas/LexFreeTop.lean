/-
  The layout theorem on strings: whole documents (byte order mark, XML declaration with any layout,
  white space after the last item: `lexDocument_layout_doc`), document and fragment mode
  (`lexMode_layout`), and composed with the builder: `parseString` on any layout of a token list
  builds what the tokens build (`parseString_of_ldoc`).
-/
import XotModel.Lemmas.LexFree
import XotModel.Lemmas.LexFreeDecl
import XotModel.Model.ParseString
import XotModel.Lemmas.ParseErase

/-! ### Documents and fragments as strings

  The layout theorems of the reference tokenizer at string level:

      LexOKL m.isFragment lts  →  lexMode m (renderL lts) = the tokens of lts (up to positions), no error
      LDoc.ok d                →  lexDocument d.render    = the tokens of d   (up to positions), no error

  `LDoc` adds the byte-order mark, the XML declaration (with its own layout) and white space after
  the last top-level item.
-/

namespace XotModel.Lex.Free

open XotModel.Lex XotModel.Lex.Stream XotModel.Lex.Canon

/-- The text of a document after BOM and declaration begins with white space or `<`. -/
theorem prolog_head {lts : List LToken} {trail : Str} (hok : lts.all LToken.okL = true)
    (hn : lexNest false .prolog (lts.map LToken.token) = true) (ht : isWs trail = true) :
    ∀ c, (renderL lts ++ trail).head? = some c → c = '<' ∨ isXmlSpace c = true := by
  intro c hc
  cases lts with
  | nil =>
    simp only [renderL, List.flatMap_nil, List.nil_append] at hc
    cases trail with
    | nil => simp at hc
    | cons x xs =>
      simp only [List.head?_cons, Option.some.injEq] at hc
      subst hc; exact .inr (isWs_cons ht).1
  | cons lt rest =>
    rw [renderL_cons_app] at hc
    simp only [List.all_cons, Bool.and_eq_true] at hok
    obtain ⟨tok, w, e1, e2, b⟩ := lt
    have hw : isWs w = true := by
      have := hok.1; simp only [LToken.okL, Bool.and_eq_true] at this; exact this.1
    cases w with
    | cons x xs =>
      simp only [List.cons_append, List.head?_cons, Option.some.injEq] at hc
      subst hc; exact .inr (isWs_cons hw).1
    | nil =>
      simp only [List.map_cons] at hn
      simp only [List.nil_append] at hc
      cases tok with
      | comment a sp => simp [LToken.body, renderToken] at hc; exact .inl hc.symm
      | pi a c sp => cases c <;> (simp [LToken.body] at hc; exact .inl hc.symm)
      | elementStart p l sp => simp [LToken.body, renderToken] at hc; exact .inl hc.symm
      | _ => simp [lexNest] at hn

/-- The loop on a document after the BOM: declaration (if any), then the items. -/
theorem lexLoop_doc (d : LDoc) (h : d.ok = true) (p0 position : Nat) :
    ∃ ts', lexLoop ⟨⟨p0, d.declText ++
        (renderL d.items ++ d.trail)⟩, .declaration, 0, false⟩ position = (ts', none) ∧
      ReadAsList ts' d.tokens := by
  simp only [LDoc.ok, LexOKL, Bool.and_eq_true] at h
  obtain ⟨⟨hdecl, ⟨hok, hn⟩, hl⟩, ht⟩ := h
  cases hd : d.decl with
  | none =>
    simp only [LDoc.tokens, LDoc.declText, hd, List.nil_append]
    exact lexLoop_layout false d.items d.trail .prolog _ position ⟨rfl, rfl, .inl rfl⟩ hok hn hl ht rfl
  | some x =>
    simp only [hd] at hdecl
    simp only [LDoc.tokens, LDoc.declText, hd, List.cons_append, List.nil_append]
    obtain ⟨t', pos', hp, he⟩ := parseDeclaration_L p0 x (renderL d.items ++ d.trail) hdecl
    have hx : litXmlDecl.isPrefixOf (x.render ++ (renderL d.items ++ d.trail)) = true := by
      rw [List.isPrefixOf_iff_prefix, render_app]
      exact List.prefix_append _ _
    have hstep : parseNextImpl ⟨⟨p0, x.render ++ (renderL d.items ++ d.trail)⟩, .declaration, 0, false⟩ =
        .token t' ⟨⟨pos', renderL d.items ++ d.trail⟩, .afterDeclaration, 0, false⟩ := by
      have hend : (Stream.mk p0 (x.render ++ (renderL d.items ++ d.trail))).atEnd = false := by
        simp [LDecl.render, atEnd]
      unfold parseNextImpl
      simp only [hend, Bool.false_eq_true, if_false, startsWith, hx, if_true, hp, Step.ofParse]
    obtain ⟨ts', h1, h2⟩ :=
      lexLoop_layout false d.items d.trail .prolog
        ⟨⟨pos', renderL d.items ++ d.trail⟩, .afterDeclaration, 0, false⟩ pos'
        ⟨rfl, rfl, .inr (.inl rfl)⟩ hok hn hl ht rfl
    refine ⟨t' :: ts', ?_, ReadAsList.cons (Token.readAs_of_erase he rfl) h2⟩
    rw [lexLoop_token position (by simp [LDecl.render, atEnd]) (by simp) hstep, h1]

theorem bom_ne_lt : ('\uFEFF' : Char) ≠ '<' := by decide
theorem bom_not_space : isXmlSpace '\uFEFF' = false := by decide
theorem utf8Len_bom : utf8Len '\uFEFF' = 3 := by decide

end XotModel.Lex.Free

namespace XotModel

open XotModel.Lex XotModel.Lex.Canon XotModel.Lex.Free

/-- **Layout theorem, whole documents.**  BOM or not, XML declaration (any layout) or not, every
    layout of the tokens, white space between the top-level items and after the last one: the
    reference tokenizer returns the document's tokens (the `Declaration` token first when there is
    a declaration) up to byte positions, and no error. -/
theorem lexDocument_layout_doc (d : LDoc) (h : d.ok = true) :
    ∃ ts', lexDocument d.render = (ts', none) ∧ ReadAsList ts' d.tokens := by
  cases hb : d.bom with
  | true =>
    unfold lexDocument
    have e : Tokenizer.ofStr d.render = ⟨⟨3, d.declText ++
        (renderL d.items ++ d.trail)⟩, .declaration, 0, false⟩ := by
      simp [Tokenizer.ofStr, LDoc.render, hb, Stream.ofStr, Stream.curr?, Stream.adv, strLen, utf8Len_bom]
    rw [e]
    exact lexLoop_doc d h 3 _
  | false =>
    have hne : ((Stream.ofStr d.render).curr? == some '\uFEFF') = false := by
      simp only [LDoc.render, hb, Bool.false_eq_true, if_false, List.nil_append, Stream.ofStr, Stream.curr?]
      have hh := h
      simp only [LDoc.ok, LexOKL, Bool.and_eq_true] at hh
      obtain ⟨⟨_, ⟨hok, hn⟩, _⟩, ht⟩ := hh
      cases hd : d.decl with
      | some x => simp [LDoc.declText, hd, LDecl.render]
      | none =>
        simp only [LDoc.declText, hd, List.nil_append]
        cases hc : (renderL d.items ++ d.trail).head? with
        | none => rfl
        | some c =>
          have hw : isWs d.trail = true := by
            simp only [trailOK, Bool.and_eq_true] at ht; exact ht.1
          rcases prolog_head hok hn hw c hc with rfl | hs
          · decide
          · have : c ≠ '\uFEFF' := by intro e; rw [e, bom_not_space] at hs; cases hs
            simpa using this
    rw [lexDocument_noBom hne]
    simpa [LDoc.render, hb] using lexLoop_doc d h 0 0

/-- **Layout theorem, document mode** (no BOM, no declaration, nothing after the last token). -/
theorem lexDocument_layout (lts : List LToken) (h : LexOKL false lts = true) :
    ∃ ts', lexDocument (renderL lts) = (ts', none) ∧ ReadAsList ts' (lts.map LToken.token) := by
  have := lexDocument_layout_doc { items := lts } (by simp [LDoc.ok, h, trailOK, isWs])
  simpa [LDoc.render, LDoc.tokens, LDoc.declText] using this

theorem lexFragment_layout (lts : List LToken) (h : LexOKL true lts = true) :
    ∃ ts', lexFragment (renderL lts) = (ts', none) ∧ ReadAsList ts' (lts.map LToken.token) := by
  simp only [LexOKL, Bool.and_eq_true] at h
  obtain ⟨⟨hok, hn⟩, hl⟩ := h
  exact lexLoop_layout true lts [] (.content 0) (Tokenizer.ofFragment (renderL lts)) _ ⟨rfl, rfl, rfl⟩
    hok hn hl (by simp [trailOK, isWs]) (by simp [Tokenizer.ofFragment, Stream.ofStr])

/-- **Layout theorem, either mode**: for every token list that meets `LexOKL` — of any length and
    nesting depth, with any quote per attribute and any white space wherever the grammar allows
    it — the reference tokenizer reads the text back as the same tokens up to byte positions (an
    absent prefix at offset 0: `ReadAsList`), without error. -/
theorem lexMode_layout (m : Mode) (lts : List LToken) (h : LexOKL m.isFragment lts = true) :
    ReadAsList (lexMode m (renderL lts)).1 (lts.map LToken.token) ∧
      (lexMode m (renderL lts)).2 = none := by
  cases m with
  | document =>
    obtain ⟨ts', e, he⟩ := lexDocument_layout lts h
    rw [show lexMode .document (renderL lts) = (ts', none) from e]; exact ⟨he, rfl⟩
  | fragment =>
    obtain ⟨ts', e, he⟩ := lexFragment_layout lts h
    rw [show lexMode .fragment (renderL lts) = (ts', none) from e]; exact ⟨he, rfl⟩

end XotModel

/-! ### From the layout theorems to `parseString`

  From the tokenizer's layout theorems to `parseString`: the builder
  does not look at byte positions (`build_erase_ok`), and a `Declaration` token of version 1.0 is a
  no-op for it; `parseString_of_ldoc` puts the two together for a whole laid-out document (`LDoc`).
-/

namespace XotModel

/-- `Token::Declaration` with version `1.0`: the builder goes on unchanged. -/
theorem build_declaration (m : Mode) (len : Nat) (env : Env) (v : StrSpan) (e : Option StrSpan)
    (s : Option Bool) (sp : StrSpan) (ts : List Token) (lexErr : Option Nat)
    (hv : v.text = ['1', '.', '0']) :
    build m len env (.declaration v e s sp :: ts) lexErr = build m len env ts lexErr := by
  simp [build, Builder.run, Builder.step, hv]

/-- If the tokenizer returns (up to positions, an absent prefix at offset 0) a token list on which
    `build` succeeds, `parseString` succeeds with the same tree, interning tables and id map. -/
theorem parseString_of_lex (m : Mode) (env : Env) (s : Str) (ts : List Token) (len : Nat) (p : Parsed)
    (hlex : ReadAsList (lexMode m s).1 ts ∧ (lexMode m s).2 = none)
    (hb : build m len env ts none = .ok p) :
    ∃ p', parseString m env s = .ok p' ∧ p'.tree = p.tree ∧ p'.env = p.env ∧ p'.ids = p.ids := by
  unfold parseString
  rw [hlex.2]
  exact build_erase_ok m len (strLen s) env ts (lexMode m s).1 hlex.1.1.symm hlex.1.2 p hb

/-- A whole laid-out document (BOM or not, XML declaration of version 1.0 or not, items, trailing
    white space) whose items are — up to positions — a token list on which `build` succeeds:
    `parseString` of its text succeeds with the same tree and interning tables. -/
theorem parseString_of_ldoc (env : Env) (ts : List Token) (p0 : Parsed)
    (hb : build .document 0 env ts none = .ok p0) (d : LDoc)
    (hl : d.items.map (Token.erase ∘ LToken.token) = ts.map Token.erase)
    (hok : d.ok = true) (hver : ∀ x, d.decl = some x → x.minor = ['0']) :
    ∃ p, parseString .document env d.render = .ok p ∧ p.tree = p0.tree ∧ p.env = p0.env := by
  obtain ⟨ts', e, he⟩ := lexDocument_layout_doc d hok
  have hitems : (d.items.map LToken.token).map Token.erase = ts.map Token.erase := by rw [← hl, List.map_map]
  have hlex : ∀ us : List Token, d.tokens.map Token.erase = us.map Token.erase →
      ReadAsList (lexMode .document d.render).1 us ∧
        (lexMode .document d.render).2 = none := by
    intro us hus
    rw [show lexMode .document d.render = (ts', none) from e]
    exact ⟨⟨he.1.trans hus, he.2⟩, rfl⟩
  cases hdec : d.decl with
  | none =>
    obtain ⟨p, hp, ht, hev, _⟩ := parseString_of_lex .document env _ _ 0 p0
      (hlex _ (by simp [LDoc.tokens, hdec, hitems])) hb
    exact ⟨p, hp, ht, hev⟩
  | some x =>
    have hb' : build .document 0 env (x.token :: ts) none = .ok p0 := by
      rw [LDecl.token, build_declaration _ _ _ _ _ _ _ _ _ (by rw [hver x hdec]), hb]
    obtain ⟨p, hp, ht, hev, _⟩ := parseString_of_lex .document env _ _ 0 p0
      (hlex _ (by simp [LDoc.tokens, hdec, hitems])) hb'
    exact ⟨p, hp, ht, hev⟩

end XotModel
