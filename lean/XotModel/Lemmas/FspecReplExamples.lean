/-
  `replace(a, b)` where the replaced node `a` stands between two text nodes (`remove_subtree(a)`
  leaves an intermediate forest with two adjacent text nodes): closed instances for every place the
  replacing node `b` can come from — parentless, a child of another node, an earlier or a later
  child of the same node — with `b` a text node (three-way merge) or not.  Each states what
  `insert_after(previous, b)` and the last consolidation compute on the intermediate forest, and
  that the whole call is the specification.
-/
import XotModel.Lemmas.FspecReplArgs

namespace XotModel
open HTree Spec

/-! ### The replacing node is not text, and comes from another child list or is parentless -/

/-- `b = 6` (an element with a text child) is a child of `4`, between the text nodes `5` and `7`;
    `a = 2` sits between the text nodes `1` and `3` under `0`. -/
example :
    let f : Forest := { roots := [
      .node 0 (.element 2) [.node 1 (.text ['x']) [], .node 2 (.element 3) [], .node 3 (.text ['y']) []],
      .node 4 (.element 2) [.node 5 (.text ['u']) [], .node 6 (.element 3) [.node 8 (.text ['w']) []],
        .node 7 (.text ['v']) []]], next := 9 }
    ∃ f2, (f.editAt (some 0) (dropTop 2)).insertAfter 1 6 = (f2, .ok) ∧
      (f2.removeConsolidate (some 1) (f2.nextSibling 1)).1 = specReplace (Keep.resident 6) 2 6 f := by
  intro f
  exact ⟨((f.editAt (some 0) (dropTop 2)).insertAfter 1 6).1, by decide +kernel, by decide +kernel⟩

/-- The same call evaluated: the forest satisfies the invariant, `replace(2, 6)` succeeds and
    yields the specified forest (`5` keeps its identity with the data `uv`, `7` is gone);
    and the parentless geometry (`b = 6` a tree of its own). -/
example :
    let f : Forest := { roots := [
      .node 0 (.element 2) [.node 1 (.text ['x']) [], .node 2 (.element 3) [], .node 3 (.text ['y']) []],
      .node 4 (.element 2) [.node 5 (.text ['u']) [], .node 6 (.element 3) [.node 8 (.text ['w']) []],
        .node 7 (.text ['v']) []]], next := 9 }
    let g : Forest := { roots := [
      .node 0 (.element 2) [.node 1 (.text ['x']) [], .node 2 (.element 3) [], .node 3 (.text ['y']) []],
      .node 6 (.element 3) [.node 8 (.text ['w']) []]], next := 9 }
    f.inv = true ∧ (f.replace 2 6).2 = .ok ∧ f.parent? 6 = some 4 ∧
      (f.replace 2 6).1 = specReplace (Keep.resident 6) 2 6 f ∧
      (f.replace 2 6).1.roots =
        [.node 0 (.element 2) [.node 1 (.text ['x']) [], .node 6 (.element 3) [.node 8 (.text ['w']) []],
           .node 3 (.text ['y']) []],
         .node 4 (.element 2) [.node 5 (.text ['u', 'v']) []]] ∧
      g.inv = true ∧ (g.replace 2 6).2 = .ok ∧ g.parent? 6 = none ∧
      (g.replace 2 6).1 = specReplace (Keep.resident 6) 2 6 g := by
  decide +kernel

/-! ### The replacing node is not text, and is a child of the same node -/

namespace ReplGapNS

/-- `<p>x<b/>y<a/>z</p>`: text 1, element 2 (`b`), text 3 (`P`), element 4 (`a`), text 5 (`N`). -/
def witnessLeft : Forest :=
  { roots := [.node 0 (.element 2) [.node 1 (.text ['x']) [], .node 2 (.element 3) [],
      .node 3 (.text ['y']) [], .node 4 (.element 4) [], .node 5 (.text ['z']) []]], next := 6 }

/-- `<p>y<a/>z<b/>w</p>`: text 1 (`P`), element 2 (`a`), text 3 (`N`), element 4 (`b`), text 5. -/
def witnessRight : Forest :=
  { roots := [.node 0 (.element 2) [.node 1 (.text ['y']) [], .node 2 (.element 4) [],
      .node 3 (.text ['z']) [], .node 4 (.element 3) [.node 6 (.text ['i']) []],
      .node 5 (.text ['w']) []]], next := 7 }

/-- What the model computes on the two witnesses: `replace(a, b)` succeeds and is the
    specification; on the left witness `P` (node 3) is consumed by the merge at the old place of
    `b` and node 1 carries `xy`; on the right one node 3 carries `zw` and node 5 is gone. -/
example :
    witnessLeft.inv = true ∧ (witnessLeft.replace 4 2).2 = .ok ∧
    (witnessLeft.replace 4 2).1 = specReplace (Keep.resident 2) 4 2 witnessLeft ∧
    (witnessLeft.replace 4 2).1.roots = [.node 0 (.element 2) [.node 1 (.text ['x', 'y']) [],
      .node 2 (.element 3) [], .node 5 (.text ['z']) []]] ∧
    witnessRight.inv = true ∧ (witnessRight.replace 2 4).2 = .ok ∧
    (witnessRight.replace 2 4).1 = specReplace (Keep.resident 4) 2 4 witnessRight ∧
    (witnessRight.replace 2 4).1.roots = [.node 0 (.element 2) [.node 1 (.text ['y']) [],
      .node 4 (.element 3) [.node 6 (.text ['i']) []], .node 3 (.text ['z', 'w']) []]] := by
  decide +kernel

/-- On the left witness (`b` left of the gap, `P` itself is the consumed text node): the forest
    after `remove_subtree(a)`, `insert_after(P, b)` and the consolidation around `P`. -/
example : ∃ f2, (witnessLeft.editAt (some 0) (dropTop 4)).insertAfter 3 2 = (f2, .ok) ∧
    (f2.removeConsolidate (some 3) (f2.nextSibling 3)).1 = specReplace (Keep.resident 2) 4 2 witnessLeft :=
  ⟨((witnessLeft.editAt (some 0) (dropTop 4)).insertAfter 3 2).1, by decide +kernel, by decide +kernel⟩

/-- … and on the right witness (`b` right of the gap, `N` absorbs the text after `b`). -/
example : ∃ f2, (witnessRight.editAt (some 0) (dropTop 2)).insertAfter 1 4 = (f2, .ok) ∧
    (f2.removeConsolidate (some 1) (f2.nextSibling 1)).1 = specReplace (Keep.resident 4) 2 4 witnessRight :=
  ⟨((witnessRight.editAt (some 0) (dropTop 2)).insertAfter 1 4).1, by decide +kernel, by decide +kernel⟩

end ReplGapNS

/-! ### The replacing node is a text node: the three-way merge -/

/-- `<e>x<a>q</a>y<c/></e>` and the parentless text node `b`. -/
def gapTExRoot : Forest :=
  { roots := [.node 0 (.element 2) [.node 1 (.text ['x']) [], .node 2 (.element 3) [.node 7 (.text ['q']) []],
                .node 3 (.text ['y']) [], .node 4 (.element 6) []], .node 5 (.text ['b']) []], next := 8 }

/-- `b` is the child of the following element `c`. -/
def gapTExFar : Forest :=
  { roots := [.node 0 (.element 2) [.node 1 (.text ['x']) [], .node 2 (.element 3) [.node 7 (.text ['q']) []],
                .node 3 (.text ['y']) [], .node 4 (.element 6) [.node 5 (.text ['b']) []]]], next := 8 }

/-- `b` is a later child of the same element. -/
def gapTExSame : Forest :=
  { roots := [.node 0 (.element 2) [.node 1 (.text ['x']) [], .node 2 (.element 3) [.node 7 (.text ['q']) []],
                .node 3 (.text ['y']) [], .node 4 (.element 6) [], .node 5 (.text ['b']) [],
                .node 6 (.element 6) []]], next := 8 }

/-- On `gapTExSame` (`a = 2`, `b = 5`, `q = 0`): the forest after `remove_subtree(a)`,
    `insert_after(P, b)` and the consolidation around `P`. -/
example : ∃ f2, (gapTExSame.editAt (some 0) (dropTop 2)).insertAfter 1 5 = (f2, .ok) ∧
    (f2.removeConsolidate (some 1) (f2.nextSibling 1)).1 = specReplace (Keep.resident 5) 2 5 gapTExSame :=
  ⟨((gapTExSame.editAt (some 0) (dropTop 2)).insertAfter 1 5).1, by decide +kernel, by decide +kernel⟩

/-- The whole call on the three forests: `replace(2, 5)` succeeds and yields the specification's
    forest, `x ++ b ++ y` under the handle of `x`. -/
example :
    gapTExRoot.inv = true ∧ gapTExFar.inv = true ∧ gapTExSame.inv = true ∧
    gapTExRoot.replace 2 5 = (specReplace (Keep.resident 5) 2 5 gapTExRoot, .ok) ∧
    gapTExFar.replace 2 5 = (specReplace (Keep.resident 5) 2 5 gapTExFar, .ok) ∧
    gapTExSame.replace 2 5 = (specReplace (Keep.resident 5) 2 5 gapTExSame, .ok) ∧
    (gapTExSame.replace 2 5).1.get? 1 = some (.node 1 (.text ['x', 'b', 'y']) []) ∧
    (gapTExSame.replace 2 5).1.isLive 3 = false ∧ (gapTExSame.replace 2 5).1.isLive 5 = false := by
  decide +kernel

end XotModel
