/-
  C03, PI targets with a colon: the round-trip domain with the PI-target clause widened.

  `valueOK` (Model/SerTokens.lean, unchanged) asks of a PI target an NCName.  The tokenizer reads a target
  with `consume_name` (`nameOK`: a name-start character, then name characters, COLONS ALLOWED), the builder
  interns it as a name in no namespace, the serialiser writes it back as it is: `<?a:b?>` is accepted and
  round-trips.  `PiColon.valueOK` is `valueOK` with that one clause replaced by `nameOK`; `PiColon.nodeOK`,
  `PiColon.RepresentableFragment`, `PiColon.Representable` (= `RepresentablePi`, the name Props/C03.lean states
  its theorems with) are the same definitions over it.  The round trip (Lemmas/SerTokens*.lean,
  RoundTrip*.lean) and "accepted ⇒ representable" (Lemmas/Accepted*.lean) are proved for these, in the
  namespace `XotModel.PiColon` (where these names shadow the originals); the lemmas on `Representable` follow by `allNodes_of_allNodes` / `representable_of` below, and
  `valueOK = PiColon.valueOK ∧ plainPiTarget` (`valueOK_of_valueOK`, `valueOK_of_plain`).  The two `valueOK` agree
  by reduction at every value but a PI, so a lemma about `valueOK env (.namespace ..)` or `(.attribute ..)` serves both.
-/
import XotModel.Model.SerTokens
import XotModel.Model.AcceptedGuard
import XotModel.Lemmas.SerTokensChars

namespace XotModel.PiColon

/-- What a node's own value must satisfy; PI target: what `consume_name` reads back (colons allowed). -/
def valueOK (env : Env) : Value → Bool
  | .document => true
  | .element name => ncNameNE (env.localName name)
  | .text s => !s.isEmpty && s.all isXmlChar
  | .comment s => s.all isXmlChar && !hasInfix ['-', '-'] s && s.getLast? != some '-' && !s.contains '\r'
  | .pi target data =>
    env.nsOfName target == Env.noNamespace && nameOK (env.localName target) &&
    (env.localName target).map asciiLowerChar != ['x', 'm', 'l'] &&
    (match data with
     | none => true
     | some d => !d.isEmpty && !(d.head?.any isXmlSpace) && d.all isXmlChar && !hasInfix ['?', '>'] d &&
        !d.contains '\r')
  | .attribute name v =>
    ncNameNE (env.localName name) && v.all isXmlChar &&
    !(env.nsOfName name == Env.noNamespace && env.localName name == xmlnsName) &&
    (!isXmlIdName env name || normalizeXmlId v == v)
  | .namespace p ns =>
    p != Env.xmlPrefix && ns != Env.xmlNamespace && env.namespaceStr ns != xmlnsNamespaceUri &&
    (p == Env.emptyPrefix ||
      (ncNameNE (env.prefixStr p) && env.prefixStr p != xmlnsName && ns != Env.noNamespace)) &&
    (ns == Env.noNamespace || !(env.namespaceStr ns).isEmpty) && (env.namespaceStr ns).all isXmlChar

def nodeOK (env : Env) (v : Value) (ks : List Tree) : Bool :=
  decide (OrderedKids ks) && decide (KindsOk v ks) && decide (UniqueKids ks) && noAdjText ks &&
  valueOK env v

def RepresentableFragment (env : Env) (t : Tree) : Bool :=
  envOK env && t.value.isDocument && t.allNodes (nodeOK env) && decide (xmlIdValues env t).Nodup

def Representable (env : Env) (t : Tree) : Bool := RepresentableFragment env t && singleRoot t

/-- The widened domain contains the original one. -/
theorem valueOK_of_valueOK (env : Env) (v : Value) (h : XotModel.valueOK env v = true) : valueOK env v = true := by
  cases v with
  | pi target data =>
    simp only [XotModel.valueOK, Bool.and_eq_true] at h
    simp only [valueOK, Bool.and_eq_true]
    exact ⟨⟨⟨h.1.1.1, ncNameNE_nameOK _ h.1.1.2⟩, h.1.2⟩, h.2⟩
  | _ => exact h

theorem nodeOK_of_nodeOK (env : Env) (v : Value) (ks : List Tree) (h : XotModel.nodeOK env v ks = true) :
    nodeOK env v ks = true := by
  simp only [XotModel.nodeOK, nodeOK, Bool.and_eq_true] at h ⊢
  exact ⟨h.1, valueOK_of_valueOK env v h.2⟩

/-- … and what it adds is the guard `plainPiTarget` (Model/AcceptedGuard.lean): the target is an NCName. -/
theorem valueOK_of_plain (env : Env) (v : Value) (ks : List Tree) (h : valueOK env v = true)
    (hp : plainPiTarget env v ks = true) : XotModel.valueOK env v = true := by
  cases v with
  | pi target data =>
    simp only [valueOK, Bool.and_eq_true] at h
    simp only [XotModel.valueOK, Bool.and_eq_true]
    exact ⟨⟨⟨h.1.1.1, hp⟩, h.1.2⟩, h.2⟩
  | _ => exact h

theorem nodeOK_of_plain (env : Env) (v : Value) (ks : List Tree) (h : nodeOK env v ks = true)
    (hp : plainPiTarget env v ks = true) : XotModel.nodeOK env v ks = true := by
  simp only [XotModel.nodeOK, nodeOK, Bool.and_eq_true] at h ⊢
  exact ⟨h.1, valueOK_of_plain env v ks h.2 hp⟩

mutual
theorem allNodes_of_allNodes (env : Env) : ∀ (t : Tree), t.allNodes (XotModel.nodeOK env) = true →
    t.allNodes (nodeOK env) = true
  | .node v ks, h => by
    rw [Tree.allNodes, Bool.and_eq_true] at h ⊢
    exact ⟨nodeOK_of_nodeOK env v ks h.1, allList_of_allList env ks h.2⟩
theorem allList_of_allList (env : Env) : ∀ (ks : List Tree), Tree.allNodes.allList (XotModel.nodeOK env) ks = true →
    Tree.allNodes.allList (nodeOK env) ks = true
  | [], _ => rfl
  | k :: ks, h => by
    rw [Tree.allNodes.allList, Bool.and_eq_true] at h ⊢
    exact ⟨allNodes_of_allNodes env k h.1, allList_of_allList env ks h.2⟩
end

theorem representableFragment_of (env : Env) (t : Tree) (h : XotModel.RepresentableFragment env t = true) :
    RepresentableFragment env t = true := by
  simp only [XotModel.RepresentableFragment, RepresentableFragment, Bool.and_eq_true] at h ⊢
  exact ⟨⟨h.1.1, allNodes_of_allNodes env t h.1.2⟩, h.2⟩

theorem representable_of (env : Env) (t : Tree) (h : XotModel.Representable env t = true) :
    Representable env t = true := by
  simp only [XotModel.Representable, Representable, Bool.and_eq_true] at h ⊢
  exact ⟨representableFragment_of env t h.1, h.2⟩

end XotModel.PiColon

namespace XotModel

/-- `Representable` with the PI-target clause widened to what `consume_name` accepts. -/
abbrev RepresentablePi (env : Env) (t : Tree) : Bool := PiColon.Representable env t

/-- … for `parse_fragment`. -/
abbrev RepresentableFragmentPi (env : Env) (t : Tree) : Bool := PiColon.RepresentableFragment env t

end XotModel
