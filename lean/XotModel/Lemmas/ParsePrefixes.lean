/-
  `open_prefixes` of `DocumentBuilder` (`Builder.openPrefixes`): the stack of the prefixes written
  in the start tags of the open elements.  What each token does to it.
-/
import XotModel.Lemmas.ParseOps
import XotModel.Model.Parse

namespace XotModel

theorem prefix_openPrefixes {b b' : Builder} {pfx : Str} {uri : StrSpan} {sp : Span}
    (h : b.prefix pfx uri sp = .ok b') : b'.openPrefixes = b.openPrefixes := by
  obtain ⟨_, _, _, _, _, _, rfl⟩ := Builder.prefix_ok_inv h; rfl

theorem attribute_openPrefixes {b b' : Builder} {pfx loc value : StrSpan}
    (h : b.attribute pfx loc value = .ok b') : b'.openPrefixes = b.openPrefixes := by
  obtain ⟨_, _, _, _, _, rfl⟩ := Builder.attribute_ok_inv h; rfl

theorem addText_openPrefixes (b : Builder) (c : Str) : (b.addText c).1.openPrefixes = b.openPrefixes := by
  unfold Builder.addText
  split <;> rfl

theorem leave_openPrefixes {b b' : Builder} {node : Path} {sp : StrSpan} (h : b.leave node sp = .ok b') :
    b'.openPrefixes = b.openPrefixes := by
  obtain ⟨b2, hb, rfl⟩ := Builder.leave_ok_inv h
  obtain ⟨_, _, _, rfl⟩ := Builder.toParent_ok_inv hb
  rfl

/-- `open_element` pushes the prefix the start tag was written with. -/
theorem openElement_openPrefixes {b b1 : Builder} {eb : ElementBuilder} (heb : b.eb = some eb)
    (h : b.openElement = .ok b1) :
    b1.openPrefixes = eb.pfx :: b.openPrefixes ∧ ∃ n, b1.cur.value = .element n := by
  obtain ⟨eb', _, n, _, heb', _, _, rfl⟩ := Builder.openElement_ok_inv h
  cases heb.symm.trans heb'
  exact ⟨rfl, n, rfl⟩

/-- `close_element_immediate` on an element pops. -/
theorem closeImmediate_openPrefixes {b b' : Builder} {sp : StrSpan} (hcur : b.cur.value.isElement = true)
    (h : b.closeImmediate sp = .ok b') : b'.openPrefixes = b.openPrefixes.tail := by
  unfold Builder.closeImmediate at h
  rw [if_pos hcur] at h
  exact leave_openPrefixes h

/-- An accepted end tag of an element was written with the prefix on top of the stack, and pops it. -/
theorem closeElement_openPrefixes {b b' : Builder} {p l sp : StrSpan} {n : Nat} (hcur : b.cur.value = .element n)
    (h : b.closeElement p l sp = .ok b') : b.openPrefixes = p.text :: b'.openPrefixes := by
  obtain ⟨_, _, _, _, ⟨_, hs, hl⟩ | ⟨hne, _⟩⟩ := Builder.closeElement_ok_inv h
  · rw [leave_openPrefixes hl]
    unfold samePrefix at hs
    cases hop : b.openPrefixes with
    | nil => rw [hop] at hs; cases hs
    | cons x xs =>
      rw [hop] at hs
      cases (beq_iff_eq.1 hs : some x = some p.text)
      rfl
  · rw [hcur] at hne; cases hne

/-- What one token does to `open_prefixes`. -/
theorem openPrefixes_step {b b' : Builder} {t : Token} (h : b.step t = .ok b') :
    match t with
    | .elementEnd .open _ => ∃ eb, b.eb = some eb ∧ b'.openPrefixes = eb.pfx :: b.openPrefixes
    | .elementEnd (.close p _) _ =>
      (∃ n, b.cur.value = .element n) → b.openPrefixes = p.text :: b'.openPrefixes
    | _ => b'.openPrefixes = b.openPrefixes := by
  -- the `match` of the statement takes `h` along (its type mentions `t`), so the motive does too
  refine Builder.step_ok_cases (motive := fun t b' => ∀ _ : b.step t = .ok b', match t with
      | .elementEnd .open _ => ∃ eb, b.eb = some eb ∧ b'.openPrefixes = eb.pfx :: b.openPrefixes
      | .elementEnd (.close p _) _ => (∃ n, b.cur.value = .element n) → b.openPrefixes = p.text :: b'.openPrefixes
      | _ => b'.openPrefixes = b.openPrefixes) h
    (fun _ _ _ _ _ _ hp _ => prefix_openPrefixes hp) (fun _ _ _ _ _ ha _ => attribute_openPrefixes ha)
    (fun _ c _ _ => addText_openPrefixes b c) (fun _ _ _ _ => rfl) (fun _ _ _ _ => addText_openPrefixes b _)
    (fun _ _ _ _ => rfl) ?_ (fun _ _ _ hc _ ⟨_, hn⟩ => closeElement_openPrefixes hn hc) ?_
    (fun _ _ _ => rfl) (fun _ _ _ _ _ => rfl) (fun _ _ _ _ _ => rfl) h
  · intro _ ho _
    obtain ⟨eb, _, _, _, heb, _, _, rfl⟩ := Builder.openElement_ok_inv ho
    exact ⟨eb, heb, rfl⟩
  · intro sp b1 ho hc _
    obtain ⟨eb, _, _, _, _, _, _, rfl⟩ := Builder.openElement_ok_inv ho
    exact closeImmediate_openPrefixes rfl hc

end XotModel
