/-
  `next`, the handle the next node creation hands out: it never decreases, and it stays where it is
  under whatever creates no node — for every primitive and every operation of the model, all forests,
  all arguments (instances of `Forest.Closed`).
-/
import XotModel.Lemmas.ForestClosed

namespace XotModel
open HTree

namespace Forest

/-- `f'` is not earlier than `f`. -/
def NLe (f f' : Forest) : Prop := f.next ≤ f'.next

theorem NLe.refl (f : Forest) : NLe f f := Nat.le_refl _
theorem NLe.trans {f g k : Forest} (h1 : NLe f g) (h2 : NLe g k) : NLe f k := Nat.le_trans h1 h2

theorem nle_newNode (f : Forest) (v : Value) : NLe f (f.newNode v).1 := Nat.le_succ _

theorem nle_spliceOut (f : Forest) (h : Nat) : NLe f (f.spliceOut h) := Nat.le_of_eq (nle_next_spliceOut f h).symm

/-- Only `new_node` moves `next`: whatever is said of the counter alone is kept by every primitive
    edit, hence by every call and composite that creates no node. -/
theorem Closed.ofNext (Q : Nat → Prop) :
    Closed (fun _ => True) (fun _ => True) (fun _ => True) (fun f => Q f.next) where
  flags := fun h _ hn => hn ▸ h
  prevSibling := fun _ _ _ => trivial
  nextSibling := fun _ _ _ => trivial
  firstChild := fun _ _ _ => trivial
  lastChild := fun _ _ _ => trivial
  parent? := fun _ _ _ => trivial
  prependPoint := fun _ _ _ => trivial
  mapInsertionPoint := fun _ _ _ => trivial
  mapGetNode := fun _ _ _ => ⟨trivial, trivial⟩
  kids := fun _ _ _ _ _ => trivial
  descendants := fun _ _ _ _ _ => trivial
  value? := fun _ _ => trivial
  cat := fun _ _ => trivial
  setValue := fun h _ _ => h
  spliceOut := fun {f h} hp _ => (nle_next_spliceOut f h).symm ▸ hp
  cut := fun {f h} hp _ => ⟨(nle_next_cut f h).symm ▸ hp, fun _ _ => trivial⟩
  addRoot := fun h _ => h
  placeLast := fun h _ _ => h
  placeFirst := fun h _ _ => h
  placeAfter := fun h _ _ => h
  placeBefore := fun h _ _ => h

theorem nle_closed (f0 : Forest) :
    Closed (fun _ => True) (fun _ => True) (fun _ => True) (NLe f0) :=
  Closed.ofNext (f0.next ≤ ·)

theorem nx_closed (f0 : Forest) :
    Closed (fun _ => True) (fun _ => True) (fun _ => True) (fun f => f.next = f0.next) :=
  Closed.ofNext (· = f0.next)

theorem nle_anyAppend (f : Forest) (p c : Nat) : NLe f (f.anyAppend p c).1 :=
  (nle_closed f).anyAppend (NLe.refl f) trivial trivial

theorem nle_removeInsignificantWhitespace (f : Forest) (node : Nat) :
    NLe f (f.removeInsignificantWhitespace node) :=
  (nle_closed f).removeInsignificantWhitespace (NLe.refl f) trivial

theorem nle_setConsolidation (f : Forest) (b : Bool) : NLe f (f.setConsolidation b) :=
  NLe.refl _

theorem nle_cloneNode (f : Forest) (node : Nat) : NLe f (f.cloneNode node).1 :=
  (Closed.cloneNode_keeps (P := NLe f) (A := fun _ => True) (S := fun _ => True) (Sv := fun _ => True)
    (fun _ => ⟨trivial, fun _ _ => trivial⟩)
    (fun h _ => ⟨h.trans (nle_newNode _ _), trivial⟩)
    (fun h _ _ => ⟨(h.trans (nle_newNode _ _)).trans (nle_anyAppend _ _ _), trivial⟩)
    (fun h _ => h.trans (nle_spliceOut _ _)) (fun _ _ _ => trivial) (NLe.refl f)
    (fun _ _ => trivial)).1

end Forest
end XotModel
