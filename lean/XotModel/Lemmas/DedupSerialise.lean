/-
  `to_string(start)` keeps succeeding after `deduplicate_namespaces(node)` for every start node:
  those not strictly inside the call's subtree keep their raw path (`namesWritable_dedup`), those
  inside are matched by position in `startPaths` (`namesWritable_dedup_everywhere`).
-/
import XotModel.Lemmas.DedupKeep
import XotModel.Lemmas.Scope
import XotModel.Model.Valid

/-! ### Start nodes that are not strictly inside the call's subtree

  The root, every ancestor of `node`, `node` itself, every node beside it: such a node has
  the same path of raw child indices before and after, the declarations on its ancestor-or-self
  chain are untouched (the call node itself never loses one), and the subtree it serialises changes
  only by `dpWalk` at `node` (`keep_from_empty`).
-/

namespace XotModel
open ScopePath

/-! ### Values and declarations below a path -/

theorem nsDecls_scopeModifyAt (f : Tree → Tree) (hfv : ∀ s, (f s).value = s.value) :
    ∀ (q : Path) (x sub : Tree), x.at? q = some sub → (f sub).nsDecls = sub.nsDecls →
      (scopeModifyAt f x q).nsDecls = x.nsDecls
  | [], x, sub, h, hd => by
    cases h
    rw [scopeModifyAt_nil]
    exact hd
  | i :: q, x, _, _, _ => nsDecls_scopeModifyAt_below f i q x fun s _ => hfv s

theorem wr_modifyAt (env : Env) (f : Tree → Tree) (hfv : ∀ s, (f s).value = s.value) (q : Path)
    (x sub : Tree) (W : List (Nat × Nat)) (h : x.at? q = some sub)
    (hf : ∀ W, wr env W sub = true → wr env W (f sub) = true) (hw : wr env W x = true) :
    wr env W (scopeModifyAt f x q) = true := by
  refine (scopeModifyAt_rel
    (R := fun a' a => a'.value = a.value ∧ ∀ W, wr env W a = true → wr env W a' = true)
    (RL := fun l' l => l'.map Tree.value = l.map Tree.value ∧
      ∀ W, wr.wrList env W l = true → wr.wrList env W l' = true)
    f ?_ ?_ ?_ q x sub h ⟨hfv sub, hf⟩).2 W hw
  · intro a a' l h
    refine ⟨by simp only [List.map_cons, h.1], fun W hw => ?_⟩
    simp only [wr.wrList, Bool.and_eq_true] at hw ⊢
    exact ⟨h.2 W hw.1, hw.2⟩
  · intro a l l' h
    refine ⟨by simp only [List.map_cons, h.1], fun W hw => ?_⟩
    simp only [wr.wrList, Bool.and_eq_true] at hw ⊢
    exact ⟨hw.1, h.2 W hw.2⟩
  · intro v l l' h
    refine ⟨rfl, fun W hw => ?_⟩
    by_cases he : v.isElement = true
    · -- the element's own checks read its declarations and attributes: child values only
      obtain ⟨name, rfl⟩ := (isElement_iff_ex v).1 he
      rw [wr_element, Bool.and_eq_true] at hw ⊢
      have hd : (Tree.node (.element name) l').nsDecls = (Tree.node (.element name) l).nsDecls := by
        rw [nsDecls_node, nsDecls_node]
        exact ddDeclsOfKids_congr _ _ h.1
      rw [hd]
      refine ⟨?_, h.2 _ hw.2⟩
      simpa only [elementOk, attrs_of_values (v := .element name) (v' := .element name) h.1] using hw.1
    · rw [wr_nonElement env W v _ (Bool.eq_false_iff.2 he)] at hw ⊢
      exact h.2 W hw

/-! ### Start nodes that are not strictly inside the modified subtree -/

/-- The serialiser's input for start node `q` — the declaration lists on the ancestor-or-self
    chain and the subtree — before and after a change at `path`, for `q` not strictly below `path`. -/
theorem start_modifyAt (env : Env) (f : Tree → Tree) (hfv : ∀ s, (f s).value = s.value) :
    ∀ (q path : Path) (x sub : Tree), x.at? path = some sub → (f sub).nsDecls = sub.nsDecls →
    (∀ W, wr env W sub = true → wr env W (f sub) = true) →
    (∀ r, q = path ++ r → r = []) →
    ∀ chain subq, x.ancestorsOrSelf q = some chain → x.at? q = some subq →
      ∃ chain' subq', (scopeModifyAt f x path).ancestorsOrSelf q = some chain' ∧
        (scopeModifyAt f x path).at? q = some subq' ∧
        chain'.map Tree.nsDecls = chain.map Tree.nsDecls ∧
        ∀ W, wr env W subq = true → wr env W subq' = true
  | [], path, x => by
    intro sub hs hd hf _ chain subq hc hq
    simp only [Tree.ancestorsOrSelf, Option.some.injEq] at hc
    simp only [Tree.at?, Option.some.injEq] at hq
    subst hc hq
    refine ⟨[scopeModifyAt f x path], scopeModifyAt f x path, rfl, rfl, ?_, ?_⟩
    · simp only [List.map_cons, List.map_nil, nsDecls_scopeModifyAt f hfv path x sub hs hd]
    · exact fun W => wr_modifyAt env f hfv path x sub W hs hf
  | j :: q, [], x => fun _ _ _ _ hr => nomatch hr (j :: q) rfl
  | j :: q, i :: p, .node v l => by
    intro sub hs hd hf hr chain subq hc hq
    have hx' : (scopeModifyAt f (.node v l) (i :: p)).nsDecls = (Tree.node v l).nsDecls :=
      nsDecls_scopeModifyAt f hfv (i :: p) (.node v l) sub hs hd
    obtain ⟨kj, ck, hkj, hck, rfl⟩ := ancestorsOrSelf_cons_eq_some.1 hc
    obtain ⟨kj', hkj', hq'⟩ := at?_cons_eq_some.1 hq
    cases hkj.symm.trans hkj'
    by_cases hij : i = j
    · subst hij
      obtain ⟨k, hk, hs'⟩ := at?_cons_eq_some.1 hs
      cases hkj'.symm.trans hk
      obtain ⟨ck', subq', h1, h2, h3, h4⟩ := start_modifyAt env f hfv q p kj sub hs' hd hf
        (fun r hr' => hr r (by rw [hr']; rfl)) ck subq hck hq'
      have hm : (l.modify i fun k => scopeModifyAt f k p)[i]? = some (scopeModifyAt f kj p) := by
        rw [List.getElem?_modify_eq, hkj']; rfl
      exact ⟨ck' ++ [scopeModifyAt f (.node v l) (i :: p)], subq',
        ancestorsOrSelf_cons_eq_some.2 ⟨_, ck', hm, h1, rfl⟩, at?_cons_eq_some.2 ⟨_, hm, h2⟩,
        by simp only [List.map_append, List.map_cons, List.map_nil, h3, hx'], h4⟩
    · have hm : (l.modify i fun k => scopeModifyAt f k p)[j]? = some kj := by
        rw [List.getElem?_modify_ne _ _ hij, hkj']
      exact ⟨ck ++ [scopeModifyAt f (.node v l) (i :: p)], subq,
        ancestorsOrSelf_cons_eq_some.2 ⟨_, ck, hm, hck, rfl⟩, at?_cons_eq_some.2 ⟨_, hm, hq'⟩,
        by simp only [List.map_append, List.map_cons, List.map_nil, hx'], fun _ h => h⟩

/-- One pass, every start node `q` that is not strictly below the call node. -/
theorem dedupPass_writable (env : Env) (t : Tree) (path : Path) (sub : Tree)
    (hs : t.at? path = some sub) (hu : UniqueDeclsBelow sub) (q : Path)
    (hq : ∀ r, q = path ++ r → r = []) (hw : namesWritable env t q = some true) :
    namesWritable env (dedupPass env t path sub).1 q = some true := by
  rw [dedupPass_eq env t path sub hs]
  obtain ⟨chain, subq, hc, hsq, hwr⟩ := (namesWritable_eq_some_true env t q).1 hw
  obtain ⟨chain', subq', h1, h2, h3, h4⟩ := start_modifyAt env (dpWalk env [])
    (fun s => dpWalk_value env s []) q path t sub hs (nsDecls_dpWalk_nil env sub)
    (fun W => keep_from_empty env sub W hu) hq chain subq hc hsq
  refine (namesWritable_eq_some_true env _ q).2 ⟨chain', subq', h1, h2, ?_⟩
  rw [namespacesInScopeChain_congr chain' chain h3]
  exact h4 _ hwr

/-- `deduplicate_namespaces(node)`, every start node `q` that is not strictly below `node`. -/
theorem namesWritable_dedup (env : Env) (t t' : Tree) (path : Path) (sub : Tree)
    (hs : t.at? path = some sub) (hu : UniqueDeclsBelow sub)
    (hd : deduplicateNamespaces env t path = some t') (q : Path)
    (hq : ∀ r, q = path ++ r → r = []) (hw : namesWritable env t q = some true) :
    namesWritable env t' q = some true := by
  simp only [deduplicateNamespaces, hs, Option.some.injEq] at hd
  subst hd
  exact dedupLoop_induction env path
    (fun a b => namesWritable env b q = some true → namesWritable env a q = some true)
    (fun t sub hs hu => dedupPass_writable env t path sub hs hu q hq)
    (fun _ h => h) (fun _ _ _ h1 h2 h => h1 (h2 h)) _ t sub hs hu hw

end XotModel

/-! ### Start nodes inside the call's subtree

  Such a node may have another raw path afterwards (namespace nodes before it, or before one of its
  ancestors, are gone), so start nodes are matched by position in `startPaths`: the raw-order list of
  the nodes that are not namespace nodes (nor inside one) — the enumeration of `declsOfTree`.
  `startW env anc x` lists, in that order, whether serialisation started at each node of `x` finds
  every prefix, `anc` being the ancestors of `x` (`startPaths_map`: it is `namesWritable` along
  `startPaths`).

  For a start node `y` inside the subtree the serialiser's first frame is `namespaces_in_scope(y)`:
  the nearest-declaration scope of ALL ancestors, a STRICT push (`IsPush true`, Lemmas/DedupKeep) of
  `y`'s declarations onto `namespaces_in_scope(parent)`.  The invariants `KW` / `DdInv` / `DdInv3`
  of Lemmas/DedupKeep are carried down the subtree on these frames (`inside_tree`); at `y` the frame
  after the serialiser's own `push` of `y`'s declarations is a plain push onto the parent's scope
  (`IsPush.absorb`), so `keep_element` applies.  This needs that inside the call's subtree only
  elements carry namespace nodes (`OnlyElementsDeclare`): the call reads the declarations of
  elements, `namespaces_in_scope` those of every ancestor.
-/

namespace XotModel
open ScopePath

/-! ### Only elements carry declarations -/

/-- No node other than an element has namespace nodes as leading children. -/
def OnlyElementsDeclare (t : Tree) : Prop :=
  t.Forall (fun v ks => v.isElement = false → (Tree.node v ks).nsDecls = [])

mutual
theorem onlyElementsDeclare_dpWalk (env : Env) : ∀ (x : Tree) (K : List (List (Nat × Nat))),
    OnlyElementsDeclare x → OnlyElementsDeclare (dpWalk env K x)
  | .node v ks, K, h => by
    unfold OnlyElementsDeclare at h ⊢
    rw [Tree.forall_node] at h
    by_cases he : v.isElement = true
    · have hw := dpWalk_of_isElement env K ks he
      rw [hw, Tree.forall_node]
      refine ⟨fun hne => (by rw [he] at hne; cases hne), fun k hk => ?_⟩
      exact onlyElementsDeclare_dpWalkList env ks _ h.2 k ((nsDel_removeOwn _ _).sublist.subset hk)
    · have he' : v.isElement = false := Bool.eq_false_iff.2 he
      have hw := dpWalk_nonElement env K ks he'
      have hd := nsDecls_dpWalk_nonElement env K v ks he'
      rw [hw] at hd ⊢
      rw [Tree.forall_node]
      exact ⟨fun _ => by rw [hd]; exact h.1 he', onlyElementsDeclare_dpWalkList env ks K h.2⟩
theorem onlyElementsDeclare_dpWalkList (env : Env) : ∀ (ks : List Tree) (K : List (List (Nat × Nat))),
    (∀ k ∈ ks, OnlyElementsDeclare k) → ∀ k' ∈ dpWalk.dpWalkList env K ks, OnlyElementsDeclare k'
  | [] => by
    intro _ _ k' hk'
    simp [dpWalk.dpWalkList] at hk'
  | k :: ks => by
    intro K h k' hk'
    simp only [dpWalk.dpWalkList, List.mem_cons] at hk'
    rcases hk' with rfl | hk'
    · exact onlyElementsDeclare_dpWalk env k K (h k (List.mem_cons_self ..))
    · exact onlyElementsDeclare_dpWalkList env ks K (fun k0 hk0 => h k0 (List.mem_cons_of_mem _ hk0)) k' hk'
end

/-! ### `namespaces_in_scope` as strict pushes -/

theorem inScope_no_undecl (chain : List Tree) (p n : Nat)
    (h : (p, n) ∈ namespacesInScopeChain chain) : ¬ (p = Env.emptyPrefix ∧ n = Env.noNamespace) := by
  rintro ⟨rfl, rfl⟩
  exact scopeSpecChain_empty_ne chain ((mem_namespacesInScopeChain chain _ _).1 h)

theorem inScope_isPush (a : Tree) (rest : List Tree) (hnd : (a.nsDecls.map Prod.fst).Nodup) :
    IsPush true (namespacesInScopeChain rest) a.nsDecls (namespacesInScopeChain (a :: rest)) := by
  intro p n
  rw [mem_namespacesInScopeChain_cons, ← lookup_some_iff hnd, ← lookup_none_iff]
  cases a.nsDecls.lookup p with
  | none =>
    simp only [true_implies, reduceCtorEq, false_or, true_and]
    exact ⟨fun h => ⟨inScope_no_undecl rest p n h, h⟩, fun h => h.2⟩
  | some m =>
    simp only [true_implies, Option.some.injEq, reduceCtorEq, false_and, or_false]
    exact ⟨fun h => ⟨h.1 ▸ h.2, h.1⟩, fun h => ⟨h.2, h.2 ▸ h.1⟩⟩

/-- The serialiser's push of a node's declarations onto the scope of that very node: a plain push
    onto the scope of the parent. -/
theorem IsPush.absorb {S d W : List (Nat × Nat)} (h : IsPush true S d W)
    (hS : ∀ p n, (p, n) ∈ S → ¬ (p = Env.emptyPrefix ∧ n = Env.noNamespace)) :
    IsPush false S d (XotModel.pushTop W d) := by
  intro p n
  rw [ddMem_pushTop]
  simp only [Bool.false_eq_true, false_implies, true_and]
  constructor
  · rintro (h1 | ⟨hk, h1⟩)
    · exact .inl h1
    · exact ((h p n).1 h1).2
  · rintro (h1 | ⟨hk, h1⟩)
    · exact .inl h1
    · exact .inr ⟨hk, (h p n).2 ⟨fun _ => hS p n h1, .inr ⟨hk, h1⟩⟩⟩

/-! ### Writability of every start node, in raw document order -/

/-- For every node of `x` that is not a namespace node (nor inside one), in raw document order:
    does serialisation started there find every prefix?  `anc`: the ancestors of `x`, nearest first. -/
def startW (env : Env) (anc : List Tree) : Tree → List Bool
  | .node v ks =>
    wr env (namespacesInScopeChain (.node v ks :: anc)) (.node v ks) ::
      startWList env (.node v ks :: anc) ks
where
  startWList (env : Env) (anc : List Tree) : List Tree → List Bool
    | [] => []
    | k :: ks =>
      if k.value.category == .namespace then startWList env anc ks
      else startW env anc k ++ startWList env anc ks

inductive ImpAll : List Bool → List Bool → Prop
  | nil : ImpAll [] []
  | cons {a b : Bool} {as bs : List Bool} : (a = true → b = true) → ImpAll as bs → ImpAll (a :: as) (b :: bs)

theorem ImpAll.refl : ∀ l, ImpAll l l
  | [] => .nil
  | _ :: as => .cons id (ImpAll.refl as)

theorem ImpAll.of_eq {a b : List Bool} (h : a = b) : ImpAll a b := h ▸ ImpAll.refl a

theorem ImpAll.trans {a b c : List Bool} (h1 : ImpAll a b) (h2 : ImpAll b c) : ImpAll a c := by
  induction h1 generalizing c with
  | nil => exact h2
  | cons hs _ ih =>
    cases h2 with
    | cons hs2 h2' => exact .cons (fun h => hs2 (hs h)) (ih h2')

theorem ImpAll.append {a b c d : List Bool} (h1 : ImpAll a b) (h2 : ImpAll c d) :
    ImpAll (a ++ c) (b ++ d) := by
  induction h1 with
  | nil => exact h2
  | cons hs _ ih => exact .cons hs ih

theorem ImpAll.length_eq {a b : List Bool} (h : ImpAll a b) : a.length = b.length := by
  induction h with
  | nil => rfl
  | cons _ _ ih => simp [ih]

theorem ImpAll.get {a b : List Bool} (h : ImpAll a b) (i : Nat) (hx : a[i]? = some true) :
    b[i]? = some true := by
  induction h generalizing i with
  | nil => simp at hx
  | cons hs _ ih =>
    cases i with
    | zero =>
      exact congrArg some (hs (Option.some.inj hx))
    | succ j => exact ih j hx

mutual
theorem startW_congr (env : Env) : ∀ (x : Tree) (A A' : List Tree),
    A.map Tree.nsDecls = A'.map Tree.nsDecls → startW env A x = startW env A' x
  | .node v ks => by
    intro A A' h
    have h1 : (Tree.node v ks :: A).map Tree.nsDecls = (Tree.node v ks :: A').map Tree.nsDecls := by
      simp [h]
    simp only [startW, namespacesInScopeChain_congr _ _ h1, startWList_congr env ks _ _ h1]
theorem startWList_congr (env : Env) : ∀ (ks : List Tree) (A A' : List Tree),
    A.map Tree.nsDecls = A'.map Tree.nsDecls → startW.startWList env A ks = startW.startWList env A' ks
  | [] => fun _ _ _ => rfl
  | k :: ks => by
    intro A A' h
    simp only [startW.startWList, startW_congr env k A A' h, startWList_congr env ks A A' h]
end

theorem NsDel.startWList {ks' ks : List Tree} (h : NsDel ks' ks) (env : Env) (A : List Tree) :
    startW.startWList env A ks' = startW.startWList env A ks := by
  have hns : ∀ {k : Tree} {p n : Nat} (l : List Tree), k.value = .namespace p n →
      startW.startWList env A (k :: l) = startW.startWList env A l := fun l hv => by
    simp only [startW.startWList, hv, Value.category, beq_self_eq_true, if_true]
  induction h with
  | refl => rfl
  | drop hv _ ih => rw [hns _ hv, ih]
  | keep hv _ ih => rw [hns _ hv, hns _ hv, ih]

/-! ### Inside the call's subtree -/

mutual
theorem inside_tree (env : Env) : ∀ (x : Tree) (K : List (List (Nat × Nat))) (A A' : List Tree),
    UniqueDeclsBelow x → OnlyElementsDeclare x → KW K (namespacesInScopeChain A') →
    DdInv env x (namespacesInScopeChain A) (namespacesInScopeChain A') →
    DdInv3 (namespacesInScopeChain A) (namespacesInScopeChain A') →
    ImpAll (startW env A x) (startW env A' (dpWalk env K x))
  | .node v ks => by
    intro K A A' hu ho hK hI h3
    have hukids : ∀ (i : Nat) (k : Tree), ks[i]? = some k → UniqueDeclsBelow k :=
      fun i k hk => hu.kid hk
    have ho' := ho
    unfold OnlyElementsDeclare at ho'
    rw [Tree.forall_node] at ho'
    have hokids : ∀ k ∈ ks, OnlyElementsDeclare k := ho'.2
    by_cases he : v.isElement = true
    · obtain ⟨name, rfl⟩ := (isElement_iff_ex v).1 he
      have hnd := hu.self (t := .node (.element name) ks) rfl
      have hd := nsDecls_dpWalk env K (.element name) ks rfl hnd
      have hnd' : ((dpWalk env K (.node (.element name) ks)).nsDecls.map Prod.fst).Nodup := by
        rw [hd]; exact ((dpKeep_sublist env K _).map Prod.fst).nodup hnd
      -- the scopes of the node itself: strict pushes onto the scopes of the parents
      have hP := inScope_isPush (.node (.element name) ks) A hnd
      have hP' := inScope_isPush (dpWalk env K (.node (.element name) ks)) A' hnd'
      rw [hd] at hP'
      have hK₁ := hK.push hP'
      have hI₁ := DdInv.push (K := K) (x := .node (.element name) ks) rfl hnd hK hI hP hP'
        (fun _ => inScope_no_undecl A')
      have h3₁ := DdInv3.push h3 hP hP'
      -- the frames after the serialiser's own push: plain pushes onto the scopes of the parents
      have hQ := hP.absorb (inScope_no_undecl A)
      have hQ' := hP'.absorb (inScope_no_undecl A')
      have hhead : wr env (namespacesInScopeChain (.node (.element name) ks :: A))
            (.node (.element name) ks) = true →
          wr env (namespacesInScopeChain (dpWalk env K (.node (.element name) ks) :: A'))
            (dpWalk env K (.node (.element name) ks)) = true :=
        keep_element env name ks K _ _ _ _ hnd hK hI h3 hQ hQ'
          (fun W₁ W₁' hK₂ hI₂ h3₂ hwk => keep_wr_list env ks _ W₁ W₁' hukids hK₂ hI₂ h3₂ hwk)
      have htail := inside_list env ks (dpKeep env K (.node (.element name) ks) :: K)
        (.node (.element name) ks :: A) (dpWalk env K (.node (.element name) ks) :: A') hukids hokids
        hK₁ (fun k hk => hI₁.kid hk) h3₁
      rw [dpWalk_of_isElement env K ks rfl] at hhead htail ⊢
      simp only [startW, (nsDel_removeOwn _ _).startWList]
      exact .cons hhead htail
    · have he' : v.isElement = false := Bool.eq_false_iff.2 he
      have hd0 : (Tree.node v ks).nsDecls = [] := ho'.1 he'
      have hd := nsDecls_dpWalk_nonElement env K v ks he'
      have hwalk := dpWalk_nonElement env K ks he'
      rw [hwalk] at hd ⊢
      have e1 := namespacesInScopeChain_cons_nil (.node v ks) A hd0
      have e2 := namespacesInScopeChain_cons_nil (.node v (dpWalk.dpWalkList env K ks)) A'
        (by rw [hd]; exact hd0)
      have htail := inside_list env ks K (.node v ks :: A) (.node v (dpWalk.dpWalkList env K ks) :: A')
        hukids hokids (by rw [e2]; exact hK) (fun k hk => by rw [e1, e2]; exact hI.kid hk)
        (by rw [e1, e2]; exact h3)
      simp only [startW]
      refine .cons ?_ htail
      rw [e1, e2, wr_nonElement env _ v ks he', wr_nonElement env _ v _ he']
      exact keep_wr_list env ks K _ _ hukids hK (fun k hk => hI.kid hk) h3
theorem inside_list (env : Env) : ∀ (ks : List Tree) (K : List (List (Nat × Nat))) (A A' : List Tree),
    (∀ (i : Nat) (k : Tree), ks[i]? = some k → UniqueDeclsBelow k) →
    (∀ k ∈ ks, OnlyElementsDeclare k) → KW K (namespacesInScopeChain A') →
    (∀ k ∈ ks, DdInv env k (namespacesInScopeChain A) (namespacesInScopeChain A')) →
    DdInv3 (namespacesInScopeChain A) (namespacesInScopeChain A') →
    ImpAll (startW.startWList env A ks) (startW.startWList env A' (dpWalk.dpWalkList env K ks))
  | [] => by
    intros
    simp only [dpWalk.dpWalkList, startW.startWList]; exact .nil
  | k :: ks => by
    intro K A A' hu ho hK hI h3
    have htail := inside_list env ks K A A' (fun i k' hk => hu (i + 1) k' hk)
      (fun k' hk' => ho k' (List.mem_cons_of_mem _ hk')) hK
      (fun k' hk' => hI k' (List.mem_cons_of_mem _ hk')) h3
    simp only [dpWalk.dpWalkList, startW.startWList, dpWalk_value env k K]
    split
    · exact htail
    · exact (inside_tree env k K A A' (hu 0 k rfl) (ho k (List.mem_cons_self ..)) hK
        (hI k (List.mem_cons_self ..)) h3).append htail
end

/-! ### From the root down to the call node -/

theorem outside_list (env : Env) (g : Tree → Tree) (B B' : List Tree)
    (hB : B.map Tree.nsDecls = B'.map Tree.nsDecls) (hgv : ∀ k, (g k).value = k.value) :
    ∀ (l : List Tree) (i : Nat) (k : Tree), l[i]? = some k →
    ImpAll (startW env B k) (startW env B' (g k)) →
    ImpAll (startW.startWList env B l) (startW.startWList env B' (l.modify i g))
  | [], _ => by
    intro _ h _
    simp at h
  | a :: l, 0 => by
    intro k h hk
    cases h
    simp only [List.modify_zero_cons, startW.startWList, hgv]
    split
    · exact ImpAll.of_eq (startWList_congr env l B B' hB)
    · exact hk.append (ImpAll.of_eq (startWList_congr env l B B' hB))
  | a :: l, i + 1 => by
    intro k h hk
    simp only [List.getElem?_cons_succ] at h
    have ih := outside_list env g B B' hB hgv l i k h hk
    simp only [List.modify_succ_cons, startW.startWList]
    split
    · exact ih
    · exact (ImpAll.of_eq (startW_congr env a B B' hB)).append ih

/-- One pass rebuilt at `path`, all start nodes, from any ancestors with the same declarations. -/
theorem outside_tree (env : Env) : ∀ (path : Path) (x sub : Tree) (A A' : List Tree),
    x.at? path = some sub → UniqueDeclsBelow sub → OnlyElementsDeclare sub →
    A.map Tree.nsDecls = A'.map Tree.nsDecls →
    ImpAll (startW env A x) (startW env A' (scopeModifyAt (dpWalk env []) x path))
  | [], x => by
    intro sub A A' hs hu ho hA
    cases hs
    simp only [scopeModifyAt]
    have e := namespacesInScopeChain_congr A A' hA
    exact inside_tree env x [] A A' hu ho (KW.nil _) (by rw [e]; exact DdInv.refl env x _)
      (by rw [e]; exact DdInv3.refl _)
  | i :: p, .node v l => by
    intro sub A A' hs hu ho hA
    have hfv : ∀ s, (dpWalk env [] s).value = s.value := fun s => dpWalk_value env s []
    have hd := nsDecls_scopeModifyAt _ hfv (i :: p) (.node v l) sub hs (nsDecls_dpWalk_nil env sub)
    have hwr := wr_modifyAt env (dpWalk env []) hfv (i :: p) (.node v l) sub
      (namespacesInScopeChain (.node v l :: A)) hs (fun W => keep_from_empty env sub W hu)
    simp only [scopeModifyAt] at hd hwr ⊢
    obtain ⟨k, hk, hs'⟩ := at?_cons_eq_some.1 hs
    have hB : (Tree.node v l :: A).map Tree.nsDecls =
        (Tree.node v (l.modify i (fun k => scopeModifyAt (dpWalk env []) k p)) :: A').map Tree.nsDecls := by
      simp only [List.map_cons, hd, hA]
    have e := namespacesInScopeChain_congr _ _ hB
    have ih := outside_tree env p k sub (.node v l :: A)
      (.node v (l.modify i (fun k => scopeModifyAt (dpWalk env []) k p)) :: A') hs' hu ho hB
    have htail := outside_list env (fun k => scopeModifyAt (dpWalk env []) k p) _ _ hB
      (fun k => value_scopeModifyAt _ p k (fun x _ => hfv x)) l i k hk ih
    simp only [startW]
    refine .cons ?_ htail
    rw [← e]
    exact hwr

/-! ### The enumeration by paths -/

/-- The raw paths of the nodes that are not namespace nodes (nor inside one), in raw document order. -/
def startPaths : Tree → List Path
  | .node _ ks => [] :: startPathsList 0 ks
where
  startPathsList (i : Nat) : List Tree → List Path
    | [] => []
    | k :: ks =>
      if k.value.category == .namespace then startPathsList (i + 1) ks
      else (startPaths k).map (i :: ·) ++ startPathsList (i + 1) ks

/-- `namesWritable` for a node of `x` given by its path inside `x`, `x` having the ancestors `A`. -/
def startAt (env : Env) (A : List Tree) (x : Tree) (r : Path) : Option Bool :=
  match x.ancestorsOrSelf r, x.at? r with
  | some c, some s => some (wr env (namespacesInScopeChain (c ++ A)) s)
  | _, _ => none

theorem namesWritable_eq_startAt (env : Env) (t : Tree) (q : Path) :
    namesWritable env t q = startAt env [] t q := by
  unfold namesWritable startAt
  split <;> simp_all [namesWritableChain_eq]

theorem startAt_nil (env : Env) (A : List Tree) (x : Tree) :
    startAt env A x [] = some (wr env (namespacesInScopeChain (x :: A)) x) := by
  simp [startAt, Tree.ancestorsOrSelf, Tree.at?]

theorem startAt_cons (env : Env) (A : List Tree) (v : Value) (l : List Tree) (j : Nat) (r : Path)
    (k : Tree) (hk : l[j]? = some k) :
    startAt env A (.node v l) (j :: r) = startAt env (.node v l :: A) k r := by
  simp only [startAt, Tree.ancestorsOrSelf, Tree.kids, Tree.at?, hk]
  cases k.ancestorsOrSelf r with
  | none => rfl
  | some c => cases k.at? r <;> simp

mutual
theorem startPaths_map (env : Env) : ∀ (x : Tree) (A : List Tree),
    (startPaths x).map (startAt env A x) = (startW env A x).map some
  | .node v ks, A => by
    have := startPathsList_map env ks v [] A
    simp only [List.nil_append, List.length_nil] at this
    simp only [startPaths, startW, List.map_cons, startAt_nil, this]
theorem startPathsList_map (env : Env) : ∀ (ks : List Tree) (v : Value) (done : List Tree) (A : List Tree),
    (startPaths.startPathsList done.length ks).map (startAt env A (.node v (done ++ ks))) =
      (startW.startWList env (.node v (done ++ ks) :: A) ks).map some
  | [] => fun _ _ _ => rfl
  | k :: ks => by
    intro v done A
    have ih := startPathsList_map env ks v (done ++ [k]) A
    simp only [List.append_assoc, List.singleton_append, List.length_append, List.length_cons,
      List.length_nil, Nat.zero_add] at ih
    simp only [startPaths.startPathsList, startW.startWList]
    split
    · exact ih
    · have hk : (done ++ k :: ks)[done.length]? = some k := by
        rw [List.getElem?_append_right (Nat.le_refl _), Nat.sub_self]
        rfl
      rw [List.map_append, List.map_append, ih, List.map_map]
      congr 1
      rw [← startPaths_map env k (.node v (done ++ k :: ks) :: A)]
      apply List.map_congr_left
      intro r _
      exact startAt_cons env A v (done ++ k :: ks) done.length r k hk
end

theorem startPaths_namesWritable (env : Env) (t : Tree) :
    (startPaths t).map (namesWritable env t) = (startW env [] t).map some := by
  rw [← startPaths_map env t []]
  apply List.map_congr_left
  intro q _
  exact namesWritable_eq_startAt env t q

theorem positions_of_impAll (env : Env) (t t' : Tree)
    (h : ImpAll (startW env [] t) (startW env [] t')) :
    (startPaths t').length = (startPaths t).length ∧
    ∀ (i : Nat) (q q' : Path), (startPaths t)[i]? = some q → (startPaths t')[i]? = some q' →
      namesWritable env t q = some true → namesWritable env t' q' = some true := by
  have e := startPaths_namesWritable env t
  have e' := startPaths_namesWritable env t'
  refine ⟨?_, fun i q q' hq hq' hw => ?_⟩
  · have l1 := congrArg List.length e
    have l2 := congrArg List.length e'
    simp only [List.length_map] at l1 l2
    rw [l1, l2, h.length_eq]
  · obtain ⟨b, hb, hwb⟩ := getElem?_of_map_eq_map_some e hq
    obtain ⟨b', hb', hwb'⟩ := getElem?_of_map_eq_map_some e' hq'
    cases hw.symm.trans hwb
    rw [hwb', ← Option.some.inj ((h.get i hb).symm.trans hb')]

/-! ### The pass, the loop -/

theorem dedupPass_everywhere (env : Env) (t : Tree) (path : Path) (sub : Tree)
    (hs : t.at? path = some sub) (hu : UniqueDeclsBelow sub) (ho : OnlyElementsDeclare sub) :
    ImpAll (startW env [] t) (startW env [] (dedupPass env t path sub).1) := by
  rw [dedupPass_eq env t path sub hs]
  exact outside_tree env path t sub [] [] hs hu ho rfl

theorem dedupLoop_everywhere (env : Env) (path : Path) : ∀ (fuel : Nat) (t sub : Tree),
    t.at? path = some sub → UniqueDeclsBelow sub → OnlyElementsDeclare sub →
    ImpAll (startW env [] t) (startW env [] (dedupLoop env path fuel t)) :=
  fun fuel t sub hs hu ho => dedupLoop_rel env path
    (R := fun a b => ImpAll (startW env [] b) (startW env [] a))
    (I := fun t => ∃ sub, t.at? path = some sub ∧ UniqueDeclsBelow sub ∧ OnlyElementsDeclare sub)
    (fun _ => ImpAll.refl _) (fun h1 h2 => h2.trans h1)
    (fun t sub hs ⟨sub', hs', hu, ho⟩ => by
      cases hs.symm.trans hs'
      exact ⟨dedupPass_everywhere env t path sub hs hu ho, _, dedupPass_at? env t path sub hs,
        hu.dpWalk env [], onlyElementsDeclare_dpWalk env sub [] ho⟩)
    fuel t ⟨sub, hs, hu, ho⟩

/-- `deduplicate_namespaces(node)`: every start node, matched by position in `startPaths`. -/
theorem namesWritable_dedup_everywhere (env : Env) (t t' : Tree) (path : Path) (sub : Tree)
    (hs : t.at? path = some sub) (hu : UniqueDeclsBelow sub) (ho : OnlyElementsDeclare sub)
    (hd : deduplicateNamespaces env t path = some t') :
    (startPaths t').length = (startPaths t).length ∧
    ∀ (i : Nat) (q q' : Path), (startPaths t)[i]? = some q → (startPaths t')[i]? = some q' →
      namesWritable env t q = some true → namesWritable env t' q' = some true := by
  simp only [deduplicateNamespaces, hs, Option.some.injEq] at hd
  subst hd
  exact positions_of_impAll env t _ (dedupLoop_everywhere env path _ t sub hs hu ho)

end XotModel
