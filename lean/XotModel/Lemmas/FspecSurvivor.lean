/-
  Which text node survives a merge at the destination: what the code does.
  `(f.setValue a v).spliceOut c` (xot: set the data of the resident node, remove the moved
  one): afterwards `c` is dead, `a` is live and carries `v`.
-/
import XotModel.Lemmas.FspecFrame

namespace XotModel
open HTree Spec

theorem get?_none_of_count {f : Forest} {c : Nat} (h : f.allHandles.count c = 0) : f.get? c = none := by
  apply findList?_none_of_not_mem _
  intro hm
  have := List.count_pos_iff.2 hm
  unfold Forest.allHandles at h
  omega

/-- Dropping a live leaf `c` with `spliceOut`: it is gone, every other node is found as before
    (up to the edit of the child list `c` was in). -/
theorem spliceOut_leaf_effect {Z : Forest} {c : Nat} {t : HTree} (nd : Z.allHandles.Nodup)
    (hg : Z.get? c = some t) (hleaf : t.kids = []) :
    (Z.spliceOut c).get? c = none ∧
    ∀ a ka, a ≠ c → Z.get? a = some ka → ka.kids = [] → (Z.spliceOut c).get? a = some ka := by
  have htc : t.handle = c := (findList?_some Z.roots t hg).1
  have hct : (handles t).count c = 1 := by
    cases t with
    | node h v ks =>
      simp only [HTree.kids] at hleaf; subst hleaf
      simp only [HTree.handle] at htc; subst htc
      simp [handles_node, handlesList_nil]
  have hcZ : Z.allHandles.count c ≤ 1 := (List.nodup_iff_count.1 nd) c
  rw [Forest.spliceOut_leaf nd hg hleaf]
  rcases Forest.root_or_ctx hg with hroot | ⟨cx, hctx⟩
  · rw [Forest.parent?_of_no_ctx (Forest.ctx_none_of_root nd hroot)]
    constructor
    · apply get?_none_of_count
      have := count_dropTop_root nd hg hroot c
      show (handlesList (dropTop c Z.roots)).count c = 0
      omega
    · intro a ka hac ha _
      show findList? a (dropTop c Z.roots) = some ka
      rw [findList?_dropTop Z.roots, ← Forest.get?_eq]
      · exact ha
      · intro k hk hkc
        rw [root_is nd hg k hk hkc]
        cases t with
        | node h v ks =>
          simp only [HTree.kids] at hleaf; subst hleaf
          simp only [HTree.handle] at htc; subst htc
          simp [handles_node, handlesList_nil, hac]
  · obtain ⟨po, v, l, k, r, rfl, rfl, e0, so⟩ := SiteAt.of_get_ctx nd hg hctx
    subst e0
    have hpar : Z.parent? k.handle = some po := Forest.parent?_of_ctx? hctx
    rw [hpar]
    obtain ⟨ndL, _⟩ := so.nodupKids
    obtain ⟨tl, tr⟩ := tops_ne_of_nodup ndL
    have hdrop : dropTop k.handle (l ++ k :: r) = l ++ r := dropTop_mid rfl tl tr
    constructor
    · apply get?_none_of_count
      have h1 := so.count (dropTop k.handle) k.handle
      rw [hdrop] at h1
      have h2 := count_handles_mid k.handle l k r
      have h3 : 1 ≤ Z.allHandles.count k.handle := by
        have : k.handle ∈ Z.allHandles := by
          apply Classical.byContradiction
          intro hn
          have := findList?_none_of_not_mem _ Z.roots hn
          rw [← Forest.get?_eq, hg] at this; cases this
        exact List.count_pos_iff.2 this
      omega
    · intro a ka hac ha hka
      have hapo : a ≠ po := by
        intro e
        rw [e, so.kids] at ha
        have := Option.some.inj ha
        rw [← this] at hka
        simp only [HTree.kids] at hka
        cases l <;> cases hka
      rw [Forest.get?_editAt_other hapo nd (by
        intro v' L' e
        rw [so.kids] at e
        have e' := Option.some.inj e
        injection e' with _ _ e3
        subst e3
        apply findList?_dropTop
        intro k' hk' hkc
        have : k' = k := fs_eq_of_mem_of_handle so.nodupKids.1 hk' hkc
        rw [this]
        cases k with
        | node h vv ks =>
          simp only [HTree.kids] at hleaf; subst hleaf
          simp only [HTree.handle] at hac
          simp [handles_node, handlesList_nil, hac]), ha]
      simp only [Option.map_some]
      cases ka with
      | node h vv ks =>
        simp only [HTree.kids] at hka; subst hka
        have hh : h = a := (findList?_some Z.roots _ ha).1
        rw [editAt_node, if_neg (by rw [hh]; exact hapo)]
        rfl

theorem fs_find?_mapAt_self {a : Nat} {G : HTree → HTree} (hG : ∀ k, (G k).handle = k.handle) :
    ∀ (t u : HTree), find? a t = some u → find? a (mapAt a G t) = some (G u) := by
  intro t u e
  rw [ffx_find?_mapAt_self a G hG t, e]
  rfl

theorem Forest.get?_setValue_self {f : Forest} {a : Nat} {ka : HTree} (v : Value) (h : f.get? a = some ka) :
    (f.setValue a v).get? a = some (ka.setValue v) := by
  unfold Forest.setValue
  show findList? a (f.roots.map (mapAt a (HTree.setValue v))) = _
  rw [← mapAtList_eq_map, ff_findList?_mapAtList_self a _ (setValue_handle v) f.roots]
  exact congrArg (Option.map (HTree.setValue v)) h

mutual
  theorem find?_mapAt_setValue_any (n x : Nat) (v : Value) : ∀ t : HTree, (handles t).Nodup →
      find? x (mapAt n (HTree.setValue v) t) = (find? x t).map (mapAt n (HTree.setValue v))
    | .node h v' ks => by
      intro nd
      obtain ⟨n1, n2⟩ := nodup_handles_node nd
      rw [mapAt_node]
      by_cases hh : h = n
      · rw [if_pos hh]
        simp only [HTree.setValue]
        rw [find?_node, find?_node]
        by_cases hhx : h = x
        · rw [if_pos hhx, if_pos hhx, Option.map_some, mapAt_node, if_pos hh]
          rfl
        · rw [if_neg hhx, if_neg hhx]
          cases hf : findList? x ks with
          | none => rfl
          | some u =>
            have hnu : n ∉ handles u := fun hm => n1 (hh ▸ (findList?_some ks u hf).2 n hm)
            rw [Option.map_some, mapAt_of_not_mem _ _ u hnu]
      · rw [if_neg hh, find?_node, find?_node]
        by_cases hhx : h = x
        · rw [if_pos hhx, if_pos hhx, Option.map_some, mapAt_node, if_neg hh]
        · rw [if_neg hhx, if_neg hhx]
          exact findList?_mapAtList_setValue_any n x v ks n2
  theorem findList?_mapAtList_setValue_any (n x : Nat) (v : Value) : ∀ ks : List HTree, (handlesList ks).Nodup →
      findList? x (mapAtList n (HTree.setValue v) ks) = (findList? x ks).map (mapAt n (HTree.setValue v))
    | [] => by intro _; rfl
    | k :: ks => by
      intro nd
      obtain ⟨n1, n2, _⟩ := Fws.nodup_handlesList_cons nd
      simp only [mapAtList]
      rw [findList?_cons, findList?_cons, find?_mapAt_setValue_any n x v k n1,
        findList?_mapAtList_setValue_any n x v ks n2]
      cases find? x k <;> rfl
end

set_option linter.unusedVariables false in
/-- (`hx` is not needed.) -/
theorem find?_mapAt_setValue_other {a x : Nat} (v : Value) (hx : x ≠ a) : ∀ t : HTree, (handles t).Nodup →
    find? x (mapAt a (HTree.setValue v) t) = (find? x t).map (mapAt a (HTree.setValue v)) :=
  find?_mapAt_setValue_any a x v

theorem Forest.get?_setValue_other {f : Forest} {a x : Nat} {u : HTree} (v : Value) (nd : f.allHandles.Nodup)
    (h : f.get? x = some u) (hau : a ∉ handles u) : (f.setValue a v).get? x = some u := by
  unfold Forest.setValue
  show findList? x (f.roots.map (mapAt a (HTree.setValue v))) = _
  rw [← mapAtList_eq_map, findList?_mapAtList_setValue_any a x v f.roots nd, ← Forest.get?_eq, h]
  simp only [Option.map_some]
  rw [mapAt_of_not_mem _ _ u hau]

/-- **The merge step of xot** (`set` the data of the resident text node `a`, remove the moved text
    node `c`): afterwards `c` is gone and `a` carries the new data. -/
theorem merge_into_effect {f : Forest} {a c : Nat} {ka t : HTree} (v : Value) (nd : f.allHandles.Nodup)
    (ha : f.get? a = some ka) (hc : f.get? c = some t) (hka : ka.kids = []) (ht : t.kids = []) (hac : a ≠ c) :
    ((f.setValue a v).spliceOut c).isLive c = false ∧
    ((f.setValue a v).spliceOut c).value? a = some v := by
  have ndZ : (f.setValue a v).allHandles.Nodup := by rw [Forest.allHandles_setValue]; exact nd
  have hat : a ∉ handles t := by
    have htc : t.handle = c := (findList?_some f.roots t hc).1
    cases t with
    | node h vv ks =>
      simp only [HTree.kids] at ht; subst ht
      simp only [HTree.handle] at htc; subst htc
      simp [handles_node, handlesList_nil, hac]
  have hcZ : (f.setValue a v).get? c = some t := Forest.get?_setValue_other v nd hc hat
  have haZ : (f.setValue a v).get? a = some (ka.setValue v) := Forest.get?_setValue_self v ha
  obtain ⟨e1, e2⟩ := spliceOut_leaf_effect ndZ hcZ ht
  constructor
  · unfold Forest.isLive; rw [e1]; rfl
  · unfold Forest.value?
    rw [e2 a (ka.setValue v) hac haZ (by rw [setValue_kids]; exact hka)]
    simp [setValue_value]

theorem node_of_textOf {f : Forest} {a : Nat} {s : Str} (h : f.textOf a = some s) :
    ∃ ka, f.get? a = some ka ∧ ka.value = .text s := by
  cases hg : f.get? a with
  | none =>
    unfold Forest.textOf Forest.value? at h
    rw [hg] at h
    simp at h
  | some ka =>
    refine ⟨ka, rfl, ?_⟩
    rw [Forest.textOf_of_get hg] at h
    exact textData_some h

/-- A text node in a forest without adjacent text has no two text neighbours to merge. -/
theorem old_noop_of_text {f : Forest} {c : Nat} {t : HTree} (inv : f.Inv) (norm : f.Normal)
    (hgc : f.get? c = some t) (ht : t.value.isText = true) :
    f.removeConsolidate (f.prevSibling c) (f.nextSibling c) = (f, false) := by
  have nd := inv.nodup
  rcases Forest.root_or_site nd hgc with hno | ⟨po, vo, l, r, hctx, so⟩
  · rw [Forest.prevSibling_of_no_ctx hno]
    exact Forest.removeConsolidate_none_left _ _
  · rw [Forest.prevSibling_of_ctx hctx, Forest.nextSibling_of_ctx hctx]
    simp only
    have hleaf : ∀ k ∈ r, k.value.isText = true → k.kids = [] :=
      fun k hk => so.leaf inv.valid k (List.mem_append_right _ (List.mem_cons_of_mem _ hk))
    rcases oldSite (k := t) (show SiteAt f po vo (l ++ ([t] ++ r)) from so) hleaf
        (hcat_of_ordered (validTree_node (so.valid inv.valid)).2.1) with
      ⟨h1, _⟩ | ⟨hc, l', a, b, r', x, y, el, er, hx, hy, _, _, _⟩
    · exact h1
    · -- `t` between the text nodes `a` and `b`: `a t` are adjacent text nodes
      subst el er
      have hstrict := (validTree_node (so.valid (norm hc))).2.2.1 rfl
      exact absurd ⟨by rw [hx]; rfl, ht⟩ ((noAdj_append.1 hstrict).2.2 a t (by simp) rfl)

/-- The common end of the four statements below: the move was the merge of the text node `c` into
    the text node `a`. -/
theorem survivor_of_merge {f : Forest} {a c : Nat} {sa sc : Str} {v : Value} {res : Forest × Res} (inv : f.Inv)
    (hta : f.textOf a = some sa) (htc : f.textOf c = some sc) (hac : a ≠ c)
    (hmodel : res = ((f.setValue a v).spliceOut c, .ok)) :
    res.2 = .ok ∧ res.1.isLive c = false ∧ res.1.value? a = some v := by
  obtain ⟨ka, hga, hka⟩ := node_of_textOf hta
  obtain ⟨t, hgc, htv⟩ := node_of_textOf htc
  rw [hmodel]
  have := merge_into_effect v inv.nodup hga hgc (leaf_of_text inv.valid hga (by rw [hka]; rfl))
    (leaf_of_text inv.valid hgc (by rw [htv]; rfl)) hac
  exact ⟨rfl, this.1, this.2⟩

/-- The node that is about to move is text, so nothing is merged at the place it leaves. -/
theorem old_noop_of_textOf {f : Forest} {c : Nat} {sc : Str} (inv : f.Inv) (norm : f.Normal)
    (htc : f.textOf c = some sc) : f.removeConsolidate (f.prevSibling c) (f.nextSibling c) = (f, false) := by
  obtain ⟨t, hgc, htv⟩ := node_of_textOf htc
  exact old_noop_of_text inv norm hgc (by rw [htv]; rfl)

theorem afterOldSite_of_textOf {f : Forest} {c : Nat} {sc : Str} (inv : f.Inv) (norm : f.Normal)
    (htc : f.textOf c = some sc) : f.afterOldSite c = f :=
  congrArg Prod.fst (old_noop_of_textOf inv norm htc)

/-- **append**: a text node appended after a text node is merged into that EARLIER node. -/
theorem append_survivor {f : Forest} {p c a : Nat} {ta tc : Str} (inv : f.Inv) (norm : f.Normal)
    (hc : f.consolidation = true) (hsc : f.structureCheck (some p) c = true)
    (hlast : f.lastChild p = some a) (hac : a ≠ c)
    (hta : f.textOf a = some ta) (htc : f.textOf c = some tc) :
    (f.append p c).2 = .ok ∧ (f.append p c).1.isLive c = false ∧
      (f.append p c).1.value? a = some (.text (ta ++ tc)) := by
  apply survivor_of_merge inv hta htc hac
  have hne : ¬ (some a = some c) := fun e => hac (Option.some.inj e)
  rw [Forest.append_eq]
  simp only [hsc, hlast, Bool.not_true, Bool.false_eq_true, if_false, beq_iff_eq, hne]
  refine Forest.moveTail_of_merged (afterOldSite_of_textOf inv norm htc) ?_
  rw [hlast]
  exact Forest.addConsolidate_prev hc htc hta _ hac

/-- **insert_after**: a text node inserted after a text node is merged into that EARLIER node. -/
theorem insertAfter_survivor {f : Forest} {r c : Nat} {tr tc : Str} (inv : f.Inv) (norm : f.Normal)
    (hc : f.consolidation = true) (hsc : f.structureCheck (f.parent? r) c = true)
    (hsr : f.siblingReferenceCheck r c = true) (hsame : f.nextSibling r ≠ some c)
    (htr : f.textOf r = some tr) (htc : f.textOf c = some tc) :
    (f.insertAfter r c).2 = .ok ∧ (f.insertAfter r c).1.isLive c = false ∧
      (f.insertAfter r c).1.value? r = some (.text (tr ++ tc)) := by
  have hrc := Forest.siblingReferenceCheck_ne hsr
  apply survivor_of_merge inv htr htc hrc
  have href : f.insertAfterRef r c = r := by
    unfold Forest.insertAfterRef
    simp only [old_noop_of_textOf inv norm htc, Bool.false_and, Bool.false_eq_true, if_false]
  rw [Forest.insertAfter_eq]
  simp only [hsc, hsr, href, Bool.not_true, Bool.false_eq_true, if_false, beq_iff_eq, hsame]
  exact Forest.moveTail_of_merged (afterOldSite_of_textOf inv norm htc)
    (Forest.addConsolidate_prev hc htc htr _ hrc)

/-- **prepend**: a text node prepended before a text node is merged into that LATER node. -/
theorem prepend_survivor {f : Forest} {p c b : Nat} {tb tc : Str} (inv : f.Inv) (norm : f.Normal)
    (hc : f.consolidation = true) (hsc : f.structureCheck (some p) c = true)
    (hfirst : f.firstChild p = some b) (hbc : b ≠ c)
    (htb : f.textOf b = some tb) (htc : f.textOf c = some tc) :
    (f.prepend p c).2 = .ok ∧ (f.prepend p c).1.isLive c = false ∧
      (f.prepend p c).1.value? b = some (.text (tc ++ tb)) := by
  apply survivor_of_merge inv htb htc hbc
  have hne : ¬ (some b = some c) := fun e => hbc (Option.some.inj e)
  rw [Forest.prepend_eq]
  simp only [hsc, hfirst, Bool.not_true, Bool.false_eq_true, if_false, beq_iff_eq, hne]
  refine Forest.moveTail_of_merged (afterOldSite_of_textOf inv norm htc) ?_
  rw [hfirst]
  exact Forest.addConsolidate_next hc htc (fun a h => by cases h) htb hbc

/-- **insert_before**: a text node inserted before a text node (with no text node before that) is
    merged into that LATER node. -/
theorem insertBefore_survivor {f : Forest} {r c : Nat} {tr tc : Str} (inv : f.Inv) (norm : f.Normal)
    (hc : f.consolidation = true) (hsc : f.structureCheck (f.parent? r) c = true)
    (hsr : f.siblingReferenceCheck r c = true) (hsame : f.prevSibling r ≠ some c)
    (hprev : ∀ a, f.prevSibling r = some a → f.textOf a = none)
    (htr : f.textOf r = some tr) (htc : f.textOf c = some tc) :
    (f.insertBefore r c).2 = .ok ∧ (f.insertBefore r c).1.isLive c = false ∧
      (f.insertBefore r c).1.value? r = some (.text (tc ++ tr)) := by
  have hrc := Forest.siblingReferenceCheck_ne hsr
  apply survivor_of_merge inv htr htc hrc
  rw [Forest.insertBefore_eq]
  simp only [hsc, hsr, Bool.not_true, Bool.false_eq_true, if_false, beq_iff_eq, hsame]
  exact Forest.moveTail_of_merged (afterOldSite_of_textOf inv norm htc)
    (Forest.addConsolidate_next hc htc hprev htr hrc)

end XotModel
