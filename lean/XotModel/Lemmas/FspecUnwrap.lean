/-
  `element_unwrap`: `remove_element` as one edit of the parent's child list
  (`removeElement_site`); without normal children the specification is that of `remove`
  (`specUnwrap_eq_specRemove`).
-/
import XotModel.Lemmas.BasicFacts
import XotModel.Lemmas.FspecSurvivor

namespace XotModel
open HTree Spec

/-! ### The child list of the wrapper: non-normal prefix, normal suffix -/

theorem takeWhile_abn_all (K : List HTree) : ∀ k ∈ K.takeWhile abn, k.value.isNormal = false := by
  intro k hk
  simpa [abn] using abn_of_mem_takeWhile hk

theorem dropWhile_abn_normal : ∀ (K : List HTree), kidsOrdered K = true →
    ∀ k ∈ K.dropWhile abn, k.value.isNormal = true
  | [] => by intro _ k hk; cases hk
  | a :: K => by
    intro ho k hk
    rw [List.dropWhile_cons] at hk
    cases ha : abn a with
    | true => rw [ha] at hk; exact dropWhile_abn_normal K (kidsOrdered_tail ho) k hk
    | false =>
      rw [ha] at hk
      have han : a.value.isNormal = true := by unfold abn at ha; simpa using ha
      cases List.mem_cons.1 hk with
      | inl e => rw [e]; exact han
      | inr e =>
        have := kidsOrdered_rank_le K ho k e
        rw [isNormal_iff_rank.1 han] at this
        exact isNormal_iff_rank.2 (Nat.le_antisymm (fi_rank_le_two _) this)

theorem filter_normal_eq_dropWhile {K : List HTree} (ho : kidsOrdered K = true) :
    K.filter (fun k => k.value.isNormal) = K.dropWhile abn := by
  have e : K.filter (fun k => k.value.isNormal) =
      (K.takeWhile abn ++ K.dropWhile abn).filter (fun k => k.value.isNormal) := by
    rw [List.takeWhile_append_dropWhile]
  rw [e, List.filter_append]
  have h1 : (K.takeWhile abn).filter (fun k => k.value.isNormal) = [] := by
    rw [List.filter_eq_nil_iff]
    intro k hk; rw [takeWhile_abn_all K k hk]; simp
  have h2 : (K.dropWhile abn).filter (fun k => k.value.isNormal) = K.dropWhile abn := by
    rw [List.filter_eq_self]
    intro k hk; exact dropWhile_abn_normal K ho k hk
  rw [h1, h2]; rfl

theorem abn_leaf {b : Bool} {t : HTree} (hv : validTree b t = true) (hn : t.value.isNormal = false) :
    t.kids = [] :=
  kids_nil_of_not_normal hv fun e => by rw [isNormal_iff.2 e] at hn; cases hn

theorem join_keep {keep : Keep} {a b : HTree} {x y : Str} (h : keep a.handle b.handle = true) :
    join keep a b x y = a.setValue (.text (x ++ y)) := by
  simp [join, h]

/-! ### `remove_element` as one edit of the parent's child list -/

namespace Forest

theorem editAt_kid {f : Forest} {n : Nat} {c : Ctx} (g : List HTree → List HTree) (nd : f.allHandles.Nodup)
    (e : f.ctx? n = some c) :
    f.editAt (some n) g = f.editAt (some c.parent) (replaceTop n (fun k => [kidsFn g k])) := by
  have := map_mapAt (kidsFn g) nd e
  simp only [Forest.editAt]
  rw [← this]
  rfl

theorem fs_foldl_spliceOut_leaves {n : Nat} {vn : Value} {R : List HTree} : ∀ (A : List HTree) (g : Forest),
    (∀ k ∈ A, k.kids = []) → SiteAt g n vn (A ++ R) →
    A.foldl (fun acc k => acc.spliceOut k.handle) g = g.editAt (some n) (fun _ => R)
  | [], g => by
    intro _ s
    simp only [List.foldl_nil]
    have := s.congr (g := fun _ => R) (g' := id) (by simp)
    rw [this, Forest.editAt_id]
  | a :: A, g => by
    intro hl s
    simp only [List.foldl_cons]
    have s' : SiteAt g n vn ([] ++ a :: (A ++ R)) := s
    have hsp : g.spliceOut a.handle = g.editAt (some n) (dropTop a.handle) := by
      rw [spliceOut_leaf s.nd s'.getKid (hl a List.mem_cons_self), Forest.parent?_of_ctx? s'.ctx]
    obtain ⟨ndL, _⟩ := s'.nodupKids
    obtain ⟨tl, tr⟩ := tops_ne_of_nodup ndL
    have hd : dropTop a.handle ([] ++ a :: (A ++ R)) = A ++ R := by rw [dropTop_mid rfl tl tr]; rfl
    have s1 : SiteAt (g.editAt (some n) (dropTop a.handle)) n vn (A ++ R) := by
      have := s'.edit (dropTop a.handle) (handlesList_dropTop_sublist _ _)
      rw [hd] at this; exact this
    rw [hsp, fs_foldl_spliceOut_leaves A _ (fun k hk => hl k (List.mem_cons_of_mem _ hk)) s1,
      Forest.editAt_editAt]
    exact s'.congr rfl

theorem removeElement_site {f : Forest} {p n : Nat} {v vn : Value} {l K r : List HTree}
    (s : SiteAt f p v (l ++ .node n vn K :: r)) (hleaf : ∀ k ∈ K.takeWhile abn, k.kids = []) :
    f.removeElement n = f.editAt (some p) (fun _ => l ++ K.dropWhile abn ++ r) ∧
    SiteAt (f.removeElement n) p v (l ++ K.dropWhile abn ++ r) := by
  have hgn : f.get? n = some (.node n vn K) := s.getKid
  have hctx : f.ctx? n = some ⟨p, l, .node n vn K, r⟩ := s.ctx
  have sn : SiteAt f n vn (K.takeWhile abn ++ K.dropWhile abn) := by
    rw [List.takeWhile_append_dropWhile]; exact ⟨s.nd, hgn⟩
  obtain ⟨ndL, _⟩ := s.nodupKids
  obtain ⟨tl, tr⟩ := tops_ne_of_nodup ndL
  have hsubK : (handlesList (K.dropWhile abn)).Sublist (handlesList K) := by
    have : handlesList K = handlesList (K.takeWhile abn ++ K.dropWhile abn) := by
      rw [List.takeWhile_append_dropWhile]
    rw [this, handlesList_append]
    exact List.sublist_append_right _ _
  have e1 : f.removeElement n =
      (f.editAt (some n) (fun _ => K.dropWhile abn)).spliceOut n := by
    unfold Forest.removeElement
    rw [hgn]
    simp only [HTree.kids]
    exact congrArg (fun z => Forest.spliceOut z n) (fs_foldl_spliceOut_leaves _ f hleaf sn)
  let g1 : List HTree → List HTree := replaceTop n (fun k => [kidsFn (fun _ => K.dropWhile abn) k])
  have hg1 : g1 (l ++ .node n vn K :: r) = l ++ .node n vn (K.dropWhile abn) :: r := by
    simp only [g1]
    rw [replaceTop_mid (h := n) (s := .node n vn K) rfl tl]
    simp [kidsFn, HTree.setKids]
  have s0 : SiteAt (f.editAt (some p) g1) p v (l ++ .node n vn (K.dropWhile abn) :: r) := by
    have := s.edit g1 (by
      rw [hg1]
      simp only [handlesList_append, handlesList_cons, handles_node]
      exact (List.Sublist.refl _).append ((hsubK.cons_cons n).append (List.Sublist.refl _)))
    rw [hg1] at this; exact this
  obtain ⟨ndL0, _⟩ := s0.nodupKids
  obtain ⟨tl0, _⟩ := tops_ne_of_nodup ndL0
  have e2 : f.removeElement n = f.editAt (some p) (fun _ => l ++ K.dropWhile abn ++ r) := by
    rw [e1, editAt_kid _ s.nd hctx]
    show (f.editAt (some p) g1).spliceOut n = _
    have hc0 : (f.editAt (some p) g1).ctx? n = some ⟨p, l, .node n vn (K.dropWhile abn), r⟩ := s0.ctx
    rw [spliceOut_of_ctx s0.nd hc0, Forest.editAt_editAt]
    apply s.congr
    simp only [Function.comp]
    rw [hg1, replaceTop_mid (h := n) (s := .node n vn (K.dropWhile abn)) rfl tl0]
    rfl
  refine ⟨e2, ?_⟩
  rw [e2]
  exact s.edit (fun _ => l ++ K.dropWhile abn ++ r) (by
    simp only [handlesList_append, handlesList_cons, handles_node, List.append_assoc]
    exact (List.Sublist.refl _).append (((hsubK.cons n)).append (List.Sublist.refl _)))

end Forest

theorem replaceTop_eq_dropTop {n : Nat} {F : HTree → List HTree} {l : List HTree} {w : HTree} {r : List HTree}
    (hw : w.handle = n) (hl : ∀ k ∈ l, k.handle ≠ n) (hr : ∀ k ∈ r, k.handle ≠ n) (hF : F w = []) :
    replaceTop n F (l ++ w :: r) = dropTop n (l ++ w :: r) := by
  rw [replaceTop_mid hw hl, dropTop_mid hw hl hr, hF]; simp

theorem specUnwrap_eq_specRemove {f : Forest} {n : Nat} {keep : Keep} {w : HTree} (nd : f.allHandles.Nodup)
    (hg : f.get? n = some w) (hF : w.kids.filter (fun k => k.value.isNormal) = []) :
    specUnwrap keep n f = specRemove keep n f := by
  unfold specUnwrap specRemove
  simp only
  congr 1
  rcases Forest.root_or_ctx hg with hroot | ⟨c, hctx⟩
  · rw [Forest.parent?_of_no_ctx (Forest.ctx_none_of_root nd hroot)]
    unfold Forest.isRoot at hroot
    obtain ⟨k, hk, hkc⟩ := List.any_eq_true.1 hroot
    have hkc' : k.handle = n := by simpa using hkc
    have hkt := root_is nd hg k hk hkc'
    subst hkt
    obtain ⟨A, B, hAB⟩ := List.append_of_mem hk
    have nd' := nd
    unfold Forest.allHandles at nd'
    rw [hAB] at nd'
    obtain ⟨tl, tr⟩ := tops_ne_of_nodup nd'
    simp only [Forest.editAt]
    rw [hAB, replaceTop_eq_dropTop hkc' (fun k' h' => hkc' ▸ tl k' h') (fun k' h' => hkc' ▸ tr k' h') hF]
  · obtain ⟨e0, v, s⟩ := SiteAt.of_ctx nd hctx
    have hself : c.self = w := by
      have := Forest.get?_of_ctx nd hctx
      rw [hg] at this
      exact (Option.some.inj this).symm
    rw [Forest.parent?_of_ctx? hctx]
    obtain ⟨ndL, _⟩ := s.nodupKids
    obtain ⟨tl, tr⟩ := tops_ne_of_nodup ndL
    apply s.congr
    exact replaceTop_eq_dropTop e0 (fun k hk => e0 ▸ tl k hk) (fun k hk => e0 ▸ tr k hk) (by rw [hself]; exact hF)

end XotModel
