/-
  The insertion phase of `create_missing_prefixes_for_element` (Model/Repair `applyRepair`, driven by
  the `undeclare_nodes` list of paths) equals a recursion `rebuild` that decides, node by node, from
  the top frame the walk held there — the same decision the walk took when it recorded the node.
-/
import XotModel.Lemmas.BasicFacts
import XotModel.Lemmas.RepairWalk

namespace XotModel.Repair
open XotModel

mutual
/-- The repaired subtree, as a function of the top frame the walk enters it with. -/
def rebuild (nsOf : Nat → Nat) (nd : List (Nat × Nat)) (isTop : Bool) (top : List (Nat × Nat)) : Tree → Tree
  | .node v ks =>
    match v with
    | .element name =>
      let n1 := Tree.node v (rebuildKids nsOf nd (walkTop nsOf top (.node v ks) name) ks)
      let n2 := if isTop then insertNamespaces nd n1 else n1
      if needsUndeclare nsOf top (.node v ks) name then
        insertNamespace Env.emptyPrefix Env.noNamespace n2
      else n2
    | _ =>
      let n1 := Tree.node v (rebuildKids nsOf nd top ks)
      if isTop then insertNamespaces nd n1 else n1
def rebuildKids (nsOf : Nat → Nat) (nd : List (Nat × Nat)) (top : List (Nat × Nat)) : List Tree → List Tree
  | [] => []
  | k :: ks => rebuild nsOf nd false top k :: rebuildKids nsOf nd top ks
end

theorem rebuild_other (nsOf : Nat → Nat) (nd : List (Nat × Nat)) (b : Bool) (top : List (Nat × Nat))
    (v : Value) (ks : List Tree) (hv : v.isElement = false) :
    rebuild nsOf nd b top (.node v ks) =
      if b then insertNamespaces nd (.node v (rebuildKids nsOf nd top ks))
      else .node v (rebuildKids nsOf nd top ks) := by
  cases v with
  | element _ => cases hv
  | _ => simp only [rebuild]

theorem insertNamespaces_append (a b : List (Nat × Nat)) (t : Tree) :
    insertNamespaces (a ++ b) t = insertNamespaces b (insertNamespaces a t) :=
  List.foldl_append

/-- `rebuild` at an element: the children rebuilt in the frame the walk held below it, then the
    element's own `insert` calls — the new declarations if it is the repaired element, `xmlns=""`
    if the walk recorded it. -/
theorem rebuild_element (nsOf : Nat → Nat) (nd : List (Nat × Nat)) (b : Bool) (top : List (Nat × Nat))
    (name : Nat) (ks : List Tree) :
    rebuild nsOf nd b top (.node (.element name) ks) =
      insertNamespaces ((if b then nd else []) ++
          if needsUndeclare nsOf top (.node (.element name) ks) name then
            [(Env.emptyPrefix, Env.noNamespace)] else [])
        (.node (.element name) (rebuildKids nsOf nd (walkTop nsOf top (.node (.element name) ks) name) ks)) := by
  rw [insertNamespaces_append, rebuild]
  cases b <;> cases needsUndeclare nsOf top (.node (.element name) ks) name <;> rfl

/-- `rebuild` rebuilds the children and then inserts declarations at the node, each one a new
    declaration or `xmlns=""`; none at a node other than an element below the repaired one. -/
theorem rebuild_eq_insert (nsOf : Nat → Nat) (nd : List (Nat × Nat)) (b : Bool) (top : List (Nat × Nat))
    (v : Value) (ks : List Tree) : ∃ ins top',
      (∀ d ∈ ins, d ∈ nd ∨ d = (Env.emptyPrefix, Env.noNamespace)) ∧
      (b = false → v.isElement = false → ins = []) ∧
      rebuild nsOf nd b top (.node v ks) = insertNamespaces ins (.node v (rebuildKids nsOf nd top' ks)) := by
  by_cases hv : v.isElement = true
  · obtain ⟨name, rfl⟩ := eq_element_of_isElement hv
    refine ⟨_, _, fun d hd => ?_, fun _ h => Bool.noConfusion h, rebuild_element nsOf nd b top name ks⟩
    rcases List.mem_append.mp hd with h | h
    · split at h
      · exact Or.inl h
      · cases h
    · split at h
      · exact Or.inr (List.mem_singleton.mp h)
      · cases h
  · have hv : v.isElement = false := Bool.eq_false_iff.mpr hv
    refine ⟨if b then nd else [], top, fun d hd => ?_, fun hb _ => by rw [hb]; rfl, ?_⟩
    · split at hd
      · exact Or.inl hd
      · cases hd
    · rw [rebuild_other nsOf nd b top v ks hv]
      cases b <;> rfl

/-- `undeclare_nodes` contributed by one subtree. -/
def undOf (nsOf : Nat → Nat) (top : List (Nat × Nat)) (pre : Path) (t : Tree) : List Path :=
  (collectRec nsOf top pre t ⟨[], [], []⟩).undeclare

def undOfKids (nsOf : Nat → Nat) (top : List (Nat × Nat)) (pre : Path) (i : Nat) (ks : List Tree) : List Path :=
  (collectKids nsOf top pre i ks ⟨[], [], []⟩).undeclare

mutual
theorem undeclare_acc (nsOf : Nat → Nat) : ∀ (t : Tree) (top : List (Nat × Nat)) (pre : Path) (acc : Acc),
    (collectRec nsOf top pre t acc).undeclare = acc.undeclare ++ undOf nsOf top pre t
  | .node v ks, top, pre, acc => by
    by_cases hv : v.isElement = true
    · obtain ⟨name, rfl⟩ := eq_element_of_isElement hv
      simp only [undOf, collectRec]
      rw [undeclare_acc_kids nsOf ks, undeclare_acc_kids nsOf ks _ _ _ ⟨_, _, _⟩]
      simp only [List.nil_append]
      split <;> simp [undOfKids]
    · have hv : v.isElement = false := Bool.eq_false_iff.mpr hv
      rw [undOf, collectRec_other _ _ _ _ _ _ hv, collectRec_other _ _ _ _ _ _ hv]
      exact undeclare_acc_kids nsOf ks top pre 0 acc
theorem undeclare_acc_kids (nsOf : Nat → Nat) : ∀ (ks : List Tree) (top : List (Nat × Nat)) (pre : Path) (i : Nat)
    (acc : Acc), (collectKids nsOf top pre i ks acc).undeclare = acc.undeclare ++ undOfKids nsOf top pre i ks
  | [], top, pre, i, acc => by simp [undOfKids, collectKids]
  | k :: ks, top, pre, i, acc => by
    simp only [undOfKids, collectKids]
    rw [undeclare_acc_kids nsOf ks, undeclare_acc nsOf k, undeclare_acc_kids nsOf ks _ _ _ (collectRec _ _ _ _ _),
      undeclare_acc nsOf k _ _ ⟨[], [], []⟩]
    simp [undOfKids, List.append_assoc]
end

theorem undOf_element (nsOf : Nat → Nat) (top : List (Nat × Nat)) (pre : Path) (name : Nat) (ks : List Tree) :
    undOf nsOf top pre (.node (.element name) ks) =
      (if needsUndeclare nsOf top (.node (.element name) ks) name then [pre] else []) ++
        undOfKids nsOf (walkTop nsOf top (.node (.element name) ks) name) pre 0 ks := by
  simp only [undOf, collectRec]
  rw [undeclare_acc_kids]
  split <;> simp

theorem undOf_other (nsOf : Nat → Nat) (top : List (Nat × Nat)) (pre : Path) (v : Value) (ks : List Tree)
    (hv : v.isElement = false) : undOf nsOf top pre (.node v ks) = undOfKids nsOf top pre 0 ks := by
  rw [undOf, collectRec_other _ _ _ _ _ _ hv]; rfl

theorem undOfKids_cons (nsOf : Nat → Nat) (top : List (Nat × Nat)) (pre : Path) (i : Nat) (k : Tree)
    (ks : List Tree) :
    undOfKids nsOf top pre i (k :: ks) = undOf nsOf top (pre ++ [i]) k ++ undOfKids nsOf top pre (i + 1) ks := by
  simp only [undOfKids, collectKids]
  rw [undeclare_acc_kids, undeclare_acc]
  simp [undOfKids]

mutual
theorem undOf_prefix (nsOf : Nat → Nat) : ∀ (t : Tree) (top : List (Nat × Nat)) (pre q : Path),
    q ∈ undOf nsOf top pre t → pre <+: q
  | .node v ks, top, pre, q, h => by
    by_cases hv : v.isElement = true
    · obtain ⟨name, rfl⟩ := eq_element_of_isElement hv
      rw [undOf_element, List.mem_append] at h
      rcases h with h | h
      · split at h
        · simp only [List.mem_singleton] at h; subst h; exact List.prefix_refl _
        · cases h
      · obtain ⟨j, _, hj⟩ := undOfKids_prefix nsOf ks _ pre 0 q h
        exact (List.prefix_append pre [j]).trans hj
    · rw [undOf_other nsOf top pre v ks (Bool.eq_false_iff.mpr hv)] at h
      obtain ⟨j, _, hj⟩ := undOfKids_prefix nsOf ks _ pre 0 q h
      exact (List.prefix_append pre [j]).trans hj
theorem undOfKids_prefix (nsOf : Nat → Nat) : ∀ (ks : List Tree) (top : List (Nat × Nat)) (pre : Path) (i : Nat)
    (q : Path), q ∈ undOfKids nsOf top pre i ks → ∃ j, i ≤ j ∧ (pre ++ [j]) <+: q
  | [], top, pre, i, q, h => by simp [undOfKids, collectKids] at h
  | k :: ks, top, pre, i, q, h => by
    rw [undOfKids_cons, List.mem_append] at h
    rcases h with h | h
    · exact ⟨i, Nat.le_refl _, undOf_prefix nsOf k top _ q h⟩
    · obtain ⟨j, hj, hp⟩ := undOfKids_prefix nsOf ks top pre (i + 1) q h
      exact ⟨j, by omega, hp⟩
end

/-- Two children of one node have no common descendant. -/
theorem prefix_snoc_inj {pre q : Path} {i j : Nat} (h1 : (pre ++ [i]) <+: q) (h2 : (pre ++ [j]) <+: q) :
    i = j := by
  obtain ⟨r1, rfl⟩ := h1
  obtain ⟨r2, h2⟩ := h2
  simp only [List.append_assoc, List.append_cancel_left_eq, List.cons_append, List.nil_append,
    List.cons.injEq] at h2
  exact h2.1.symm

/-! ### Where a path can be recorded

  A path is recorded at the node it names and nowhere else: the node itself is not recorded by its
  children, and a path through child `j` only below child `j`. -/

theorem self_not_mem_undOfKids (nsOf : Nat → Nat) (top : List (Nat × Nat)) (cur : Path) (i : Nat)
    (ks : List Tree) : cur ∉ undOfKids nsOf top cur i ks := fun h => by
  obtain ⟨j, _, hj⟩ := undOfKids_prefix nsOf ks top cur i cur h
  exact snoc_not_prefix_self _ _ hj

theorem self_mem_undOf_element (nsOf : Nat → Nat) (top : List (Nat × Nat)) (cur : Path) (name : Nat)
    (ks : List Tree) :
    cur ∈ undOf nsOf top cur (.node (.element name) ks) ↔
      needsUndeclare nsOf top (.node (.element name) ks) name = true := by
  rw [undOf_element, List.mem_append, or_iff_left (self_not_mem_undOfKids nsOf _ cur 0 ks)]
  cases needsUndeclare nsOf top (.node (.element name) ks) name <;> simp

theorem mem_undOf_element_of_kid (nsOf : Nat → Nat) (top : List (Nat × Nat)) (cur : Path) (name : Nat)
    (ks : List Tree) {q : Path} {j : Nat} (hq : (cur ++ [j]) <+: q) :
    q ∈ undOf nsOf top cur (.node (.element name) ks) ↔
      q ∈ undOfKids nsOf (walkTop nsOf top (.node (.element name) ks) name) cur 0 ks := by
  rw [undOf_element, List.mem_append]
  refine or_iff_right fun h => ?_
  split at h
  · exact snoc_not_prefix_self _ _ (List.mem_singleton.mp h ▸ hq)
  · cases h

theorem mem_undOfKids_cons_iff (nsOf : Nat → Nat) (top : List (Nat × Nat)) (cur : Path) (i : Nat) (k : Tree)
    (ks : List Tree) {q : Path} {j : Nat} (hq : (cur ++ [j]) <+: q) :
    q ∈ undOfKids nsOf top cur i (k :: ks) ↔
      (j = i ∧ q ∈ undOf nsOf top (cur ++ [i]) k) ∨ (i < j ∧ q ∈ undOfKids nsOf top cur (i + 1) ks) := by
  rw [undOfKids_cons, List.mem_append]
  refine ⟨fun h => h.imp (fun h => ⟨?_, h⟩) (fun h => ⟨?_, h⟩), fun h => h.imp And.right And.right⟩
  · exact prefix_snoc_inj hq (undOf_prefix nsOf k top _ q h)
  · obtain ⟨j', hj', hp⟩ := undOfKids_prefix nsOf ks top cur (i + 1) q h
    have := prefix_snoc_inj hq hp
    omega

mutual
theorem apply_eq_rebuild (nsOf : Nat → Nat) (nd : List (Nat × Nat)) (U : List Path) (tp : Path) :
    ∀ (x : Tree) (cur : Path) (top : List (Nat × Nat)), tp.length ≤ cur.length →
      (∀ q, cur <+: q → (q ∈ U ↔ q ∈ undOf nsOf top cur x)) →
      applyRepair nd U tp cur x = rebuild nsOf nd (cur == tp) top x
  | .node v ks, cur, top, hlen, hU => by
    have hbelow : ∀ {q : Path} {j : Nat}, (cur ++ [j]) <+: q → cur <+: q :=
      fun hq => (List.prefix_append cur _).trans hq
    by_cases hv : v.isElement = true
    · obtain ⟨name, rfl⟩ := eq_element_of_isElement hv
      have hkids := apply_eq_rebuild_kids nsOf nd U tp ks cur 0
        (walkTop nsOf top (.node (.element name) ks) name) hlen
        (fun q j _ hq => (hU q (hbelow hq)).trans (mem_undOf_element_of_kid nsOf top cur name ks hq))
      have hown : U.contains cur = needsUndeclare nsOf top (.node (.element name) ks) name := by
        rw [Bool.eq_iff_iff, List.contains_iff_mem, hU cur (List.prefix_refl _), self_mem_undOf_element]
      simp only [applyRepair, rebuild, hkids, hown]
    · have hve : v.isElement = false := Bool.eq_false_iff.mpr hv
      have hkids := apply_eq_rebuild_kids nsOf nd U tp ks cur 0 top hlen
        (fun q j _ hq => by rw [hU q (hbelow hq), undOf_other nsOf top cur v ks hve])
      have hown : U.contains cur = false := by
        rw [Bool.eq_false_iff, ne_eq, List.contains_iff_mem, hU cur (List.prefix_refl _),
          undOf_other nsOf top cur v ks hve]
        exact self_not_mem_undOfKids nsOf top cur 0 ks
      rw [rebuild_other nsOf nd _ top v ks hve]
      simp only [applyRepair, hkids, hown, Bool.false_eq_true, ↓reduceIte]
theorem apply_eq_rebuild_kids (nsOf : Nat → Nat) (nd : List (Nat × Nat)) (U : List Path) (tp : Path) :
    ∀ (ks : List Tree) (cur : Path) (i : Nat) (top : List (Nat × Nat)), tp.length ≤ cur.length →
      (∀ q j, i ≤ j → (cur ++ [j]) <+: q → (q ∈ U ↔ q ∈ undOfKids nsOf top cur i ks)) →
      applyRepair.applyKids nd U tp cur i ks = rebuildKids nsOf nd top ks
  | [], cur, i, top, _, _ => by simp [applyRepair.applyKids, rebuildKids]
  | k :: ks, cur, i, top, hlen, hU => by
    -- a child lies deeper than the repaired element
    have hne : ((cur ++ [i]) == tp) = false := by
      rw [beq_eq_false_iff_ne]
      intro h
      have := congrArg List.length h
      simp at this
      omega
    have h1 := apply_eq_rebuild nsOf nd U tp k (cur ++ [i]) top (by simp; omega) (fun q hq =>
      (hU q i (Nat.le_refl _) hq).trans ((mem_undOfKids_cons_iff nsOf top cur i k ks hq).trans
        ((or_iff_left fun h => Nat.lt_irrefl _ h.1).trans (and_iff_right rfl))))
    have h2 := apply_eq_rebuild_kids nsOf nd U tp ks cur (i + 1) top hlen (fun q j hj hq =>
      (hU q j (by omega) hq).trans ((mem_undOfKids_cons_iff nsOf top cur i k ks hq).trans
        ((or_iff_right fun h => by omega).trans (and_iff_right (by omega)))))
    simp only [applyRepair.applyKids, rebuildKids, h1, h2, hne]
end

/-- The insertion phase with the walk's own `undeclare_nodes`. -/
theorem applyRepair_walk (nsOf : Nat → Nat) (nd : List (Nat × Nat)) (inherited : List (Nat × Nat)) (path : Path)
    (sub : Tree) :
    applyRepair nd (collectRec nsOf inherited path sub ⟨[], [], []⟩).undeclare path path sub =
      rebuild nsOf nd true inherited sub := by
  have := apply_eq_rebuild nsOf nd (undOf nsOf inherited path sub) path sub path inherited (Nat.le_refl _)
    (fun q _ => Iff.rfl)
  simpa [undOf] using this

end XotModel.Repair
