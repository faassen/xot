/-
  C20, parse route: an abstract document whose tree is in the C01 domain (`nodeOK` at every node) is
  well formed in the sense the construction routes need (`FContent.wf strict`, both settings of text
  consolidation) and has no empty text item (`FContent.noEmptyText`).
-/
import XotModel.Lemmas.RepresentableEdit
import XotModel.Model.Fixed

namespace XotModel

variable {env : Env}

/-- The value of the node an item becomes. -/
def contentValue : FContent → Value
  | .text s => .text s
  | .comment s => .comment s
  | .pi t d => .pi t d
  | .element n _ _ _ => .element n

theorem treeOfContent_value (c : FContent) : (treeOfContent c).value = contentValue c := by
  cases c <;> simp [treeOfContent, contentValue, Tree.value]

theorem treeOfList_values : ∀ cs : List FContent, (treeOfList cs).map Tree.value = cs.map contentValue
  | [] => by simp [treeOfList]
  | c :: cs => by simp [treeOfList, treeOfContent_value, treeOfList_values cs]

theorem element_kid_values (ps : List (Nat × Nat)) (as : List (Nat × Str)) (cs : List FContent) :
    (ps.map nsTree ++ (as.map attrTree ++ treeOfList cs)).map Tree.value =
      ps.map (fun p => Value.namespace p.1 p.2) ++ (as.map (fun a => Value.attribute a.1 a.2) ++
        cs.map contentValue) := by
  simp [treeOfList_values, nsTree, attrTree, Tree.value, Function.comp_def]

theorem ffx_contentValue_keys (c : FContent) : (contentValue c).nsKey = none ∧ (contentValue c).attrKey = none := by
  cases c <;> exact ⟨rfl, rfl⟩

theorem nsPrefixes_element (ps : List (Nat × Nat)) (as : List (Nat × Str)) (cs : List FContent) :
    nsPrefixes (ps.map nsTree ++ (as.map attrTree ++ treeOfList cs)) = ps.map (·.1) := by
  rw [nsPrefixes_eq_map, element_kid_values, List.filterMap_append, List.filterMap_append,
    List.filterMap_map, List.filterMap_map, List.filterMap_map]
  have h1 : ps.filterMap (Value.nsKey ∘ fun p => Value.namespace p.1 p.2) = ps.map (·.1) :=
    congrFun List.filterMap_eq_map' ps
  have h2 : as.filterMap (Value.nsKey ∘ fun a => Value.attribute a.1 a.2) = [] :=
    List.filterMap_eq_nil_iff.2 (fun _ _ => rfl)
  have h3 : cs.filterMap (Value.nsKey ∘ contentValue) = [] :=
    List.filterMap_eq_nil_iff.2 (fun c _ => (ffx_contentValue_keys c).1)
  rw [h1, h2, h3, List.append_nil, List.append_nil]

theorem attrNames_element (ps : List (Nat × Nat)) (as : List (Nat × Str)) (cs : List FContent) :
    attrNames (ps.map nsTree ++ (as.map attrTree ++ treeOfList cs)) = as.map (·.1) := by
  rw [attrNames_eq_map, element_kid_values, List.filterMap_append, List.filterMap_append,
    List.filterMap_map, List.filterMap_map, List.filterMap_map]
  have h1 : ps.filterMap (Value.attrKey ∘ fun p => Value.namespace p.1 p.2) = [] :=
    List.filterMap_eq_nil_iff.2 (fun _ _ => rfl)
  have h2 : as.filterMap (Value.attrKey ∘ fun a => Value.attribute a.1 a.2) = as.map (·.1) :=
    congrFun List.filterMap_eq_map' as
  have h3 : cs.filterMap (Value.attrKey ∘ contentValue) = [] :=
    List.filterMap_eq_nil_iff.2 (fun c _ => (ffx_contentValue_keys c).2)
  rw [h1, h2, h3, List.append_nil, List.nil_append]

theorem noAdjText_append_right : ∀ (a b : List Tree), noAdjText (a ++ b) = true → noAdjText b = true
  | [] => fun _ h => h
  | _ :: a => fun b h => noAdjText_append_right a b (noAdjText_tail h)

theorem noAdjText_treeOfList : ∀ cs : List FContent, noAdjText (treeOfList cs) = noAdjacentFText cs
  | [] => rfl
  | [c] => by simp [treeOfList, noAdjText, noAdjacentFText]
  | a :: b :: rest => by
    have ih := noAdjText_treeOfList (b :: rest)
    have ha : (treeOfContent a).value.isText = a.isText := by
      cases a <;> simp [treeOfContent, Tree.value, Value.isText, FContent.isText]
    have hb : (treeOfContent b).value.isText = b.isText := by
      cases b <;> simp [treeOfContent, Tree.value, Value.isText, FContent.isText]
    simp only [treeOfList] at ih ⊢
    simp only [noAdjText, noAdjacentFText, ha, hb, ih]

mutual
theorem wf_of_nodeOK (strict : Bool) : ∀ c : FContent, (treeOfContent c).allNodes (nodeOK env) = true →
    c.wf strict = true ∧ c.noEmptyText = true
  | .text s => by
    intro h
    have := allNodes_value (env := env) h
    simp only [treeOfContent, Tree.value, valueOK, Bool.and_eq_true] at this
    exact ⟨rfl, by simpa [FContent.noEmptyText] using this.1⟩
  | .comment _ => fun _ => ⟨rfl, rfl⟩
  | .pi _ _ => fun _ => ⟨rfl, rfl⟩
  | .element n ps as cs => by
    intro h
    simp only [treeOfContent] at h
    obtain ⟨_, _, hu, hadj, _⟩ := (nodeOK_iff env _ _).mp (nodeOK_of_allNodes h)
    have hk := wfList_of_nodeOK strict cs (fun k hk => allNodes_kid h (by simp [hk]))
    have h1 : (ps.map (·.1)).Nodup := by rw [← nsPrefixes_element ps as cs]; exact hu.2
    have h2 : (as.map (·.1)).Nodup := by rw [← attrNames_element ps as cs]; exact hu.1
    have h3 : noAdjacentFText cs = true := by
      rw [← noAdjText_treeOfList]
      exact noAdjText_append_right _ _ (noAdjText_append_right _ _ hadj)
    simp only [FContent.wf, FContent.noEmptyText, Bool.and_eq_true, decide_eq_true_eq, Bool.or_eq_true]
    exact ⟨⟨⟨⟨h1, h2⟩, Or.inr h3⟩, hk.1⟩, hk.2⟩
theorem wfList_of_nodeOK (strict : Bool) : ∀ cs : List FContent,
    (∀ k ∈ treeOfList cs, k.allNodes (nodeOK env) = true) →
    FContent.wfList strict cs = true ∧ FContent.noEmptyTextList cs = true
  | [] => fun _ => ⟨rfl, rfl⟩
  | c :: cs => by
    intro h
    have h1 := wf_of_nodeOK strict c (h _ (by simp [treeOfList]))
    have h2 := wfList_of_nodeOK strict cs (fun k hk => h k (by simp [treeOfList, hk]))
    simp only [FContent.wfList, FContent.noEmptyTextList, Bool.and_eq_true]
    exact ⟨⟨h1.1, h2.1⟩, h1.2, h2.2⟩
end

/-- A document whose tree is in the C01 domain is well formed for every construction route (text
    consolidation on or off) and has no empty text item. -/
theorem FDocument.wf_of_representable (strict : Bool) (d : FDocument)
    (hr : RepresentableFragment env (treeOf d) = true) :
    d.wf strict = true ∧ d.documentElement.toContent.noEmptyText = true := by
  obtain ⟨_, _, h3, _⟩ := (representableFragment_iff env _).mp hr
  unfold FDocument.wf
  apply wf_of_nodeOK strict
  apply allNodes_kid h3
  have : ∀ cs : List FContent, ∀ c ∈ cs, treeOfContent c ∈ treeOfList cs := by
    intro cs
    induction cs with
    | nil => intro c hc; cases hc
    | cons a cs ih =>
      intro c hc
      rcases List.mem_cons.mp hc with rfl | hc
      · simp [treeOfList]
      · simp [treeOfList, ih c hc]
  exact this _ _ (by simp [FDocument.items])

end XotModel
