/-
  Locality (C12): a separated root `r` below `next` (`SepB`, Lemmas/FlocalAll.lean) stays
  exactly what it is along a FULL history (`PCall`: parses of arbitrary texts and extended API calls) none
  of whose API steps names a node of `r` as a written argument.  Installing a parsed tree adds a root on fresh handles,
  so every separated root stays (`SepB.fphl_parseInto`); an API call is `SepB.xcall`.

  No invariant is needed (as for `SepB.xrun`, Lemmas/FhistLocal.lean).
-/
import XotModel.Lemmas.FparseHistStep
import XotModel.Lemmas.FhistLocal

namespace XotModel
open HTree

namespace SepB

variable {r : HTree}

/-- `IdStore.parseInto`: the new tree has the handles `next …`, `r`'s are all below `next`. -/
theorem fphl_parseInto {s : IdStore} (hs : SepB r s.forest) (t : Tree) : SepB r (s.parseInto t).1.forest := by
  refine ⟨⟨List.mem_append_left _ hs.sep.mem, ?_⟩, fun a ha => Nat.lt_of_lt_of_le (hs.below a ha) (Nat.le_add_right _ _)⟩
  intro t' ht' hne a ha hat
  rcases List.mem_append.mp ht' with h | h
  · exact hs.sep.disj t' h hne a ha hat
  · rw [List.mem_singleton.mp h] at hat
    have h1 := (handles_ofTree _ t a hat).1
    have h2 := hs.below a ha
    omega

/-- **One step of a full history**: an API call none of whose written node arguments lies in `r`, or the
    parse of any text. -/
theorem fphl_step {st : PStore} (hs : SepB r st.forest) (c : PCall)
    (h : ∀ x, c = .api x → ∀ a ∈ x.writeArgs, a ∉ handles r) : SepB r (st.step c).forest := by
  cases c with
  | api x => exact hs.xcall (st := st.store) x (h x rfl)
  | parse m text =>
    rcases PStore.fph_step_parse_cases st m text with ⟨p, _, h1, _⟩ | ⟨e, env', _, h1, _⟩
    · have : (st.step (.parse m text)).forest = (st.idStore.parseInto p.tree).1.forest := congrArg IdStore.forest h1
      rw [this]; exact fphl_parseInto (s := st.idStore) hs p.tree
    · have : (st.step (.parse m text)).forest = st.forest := congrArg IdStore.forest h1
      rw [this]; exact hs

/-- **Any full history.** -/
theorem fphl_run : ∀ (cs : List PCall) {st : PStore}, SepB r st.forest →
    (∀ c ∈ cs, ∀ x, c = .api x → ∀ a ∈ x.writeArgs, a ∉ handles r) → SepB r (st.run cs).forest
  | [], _, hs, _ => hs
  | c :: cs, st, hs, h =>
    fphl_run cs (st := st.step c) (hs.fphl_step c (h c List.mem_cons_self)) (fun c' h' => h c' (List.mem_cons_of_mem _ h'))

end SepB
end XotModel
