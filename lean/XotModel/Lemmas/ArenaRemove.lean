/-
  `NodeId::remove` on a well-formed arena: of a childless node (`detach`, `free_node`), of a node
  with a parent and children (the children take its place: the list-level splice, a graft of the whole
  child chain), and of a parentless node with exactly one child.
-/
import XotModel.Lemmas.ArenaFree

/-! ### `remove` of a childless node -/

namespace XotModel
namespace Arena

/-- List-level `remove` of a childless node. -/
def Shape.removeLeaf (g : Shape) (i : Nat) : Shape := { g.detach i with free := g.free ++ [i] }

theorem Rep.remove_leaf {a : Arena} {g : Shape} (r : Rep a g) (i : Nat) (hi : Live a i) (hk : g.kids i = []) :
    ∃ a1 a', Arena.detach a (a.idAt i) = .done a1 () ∧ MetaEq a a1 ∧ Rep a1 (g.detach i) ∧
      Arena.remove a (a.idAt i) = .done a' () ∧ FreeNodeOk a1 (g.detach i) i a' ∧ Rep a' (g.removeLeaf i) := by
  obtain ⟨a1, hd, r1, hM⟩ := r.detach_idAt i hi
  have hi1 : Live a1 i := (hM.live i).mpr hi
  have hk1 : (g.detach i).kids i = [] := by
    rw [Shape.detach_kids_self g (fun c p h => r.par_ne h) i]; exact hk
  obtain ⟨a', hf, hok⟩ := r1.freeNode i hi1 (Shape.detach_par_self g i) hk1
  refine ⟨a1, a', hd, hM, r1, ?_, hok, ?_⟩
  · obtain ⟨s, hs, h0⟩ := hi
    unfold Arena.remove
    rw [rd_idAt a a hs]
    have P := r.ptrs i s hs h0
    have hfirst : s.first = none := by rw [P.first, hk]; rfl
    have hlast : s.last = none := by rw [P.last, hk]; rfl
    simp only [hfirst, hlast, Option.isSome_none, bne_self_eq_false, Bool.false_eq_true, if_false]
    rw [hd]
    simp only [Step.bind_done]
    rw [← hM.idAt i]
    exact hf
  · have := hok.rep
    rw [Shape.detach_free] at this
    exact this

end Arena
end XotModel

/-! ### The list-level splice -/

namespace XotModel
namespace Arena

/-- List-level splice: the children of the parentless node `i` go under `p` between `L` and `R`. -/
def Shape.splice (g : Shape) (i p : Nat) (L R : List Nat) : Shape :=
  ⟨fun j => if j ∈ g.kids i then some p else g.par j,
   fun q => if q = p then L ++ g.kids i ++ R else if q = i then [] else g.kids q, g.free⟩

/-- The arena after the two `connect_neighbors` of the range transplant. -/
def spliceArena (a : Arena) (i p c1 ck : Nat) (V N : Option NodeId) (K : List Nat) : Arena :=
  unlink (unlink (setParents (a.mod i (fun s => { s with first := none, last := none })) K (some (a.idAt p)))
    (some (a.idAt p)) V (some (a.idAt c1))) (some (a.idAt p)) (some (a.idAt ck)) N

theorem MetaEq.spliceArena (a : Arena) (i p c1 ck : Nat) (V N : Option NodeId) (K : List Nat) :
    MetaEq a (spliceArena a i p c1 ck V N K) := by
  unfold Arena.spliceArena
  exact (MetaEq.mod a i (f := fun s => { s with first := none, last := none }) (fun s => ⟨rfl, rfl⟩)).trans
    ((MetaEq.setParents _ K _).trans ((MetaEq.unlink _ _ _ _).trans (MetaEq.unlink _ _ _ _)))

end Arena
end XotModel

/-! ### The splice is stored

  The node `i` is already detached when its children move to its old place.
-/

namespace XotModel
namespace Arena

theorem Shape.graft_splice (g : Shape) (i p : Nat) (L R : List Nat) :
    g.graft (some i) (g.kids i) p L R = g.splice i p L R := by
  simp only [Shape.graft, Shape.splice, Option.some.injEq, eq_comm]

theorem graftArena_splice (a : Arena) (i p c1 ck : Nat) (V N : Option NodeId) (K : List Nat) :
    graftArena a (some i) p c1 ck V N K = spliceArena a i p c1 ck V N K := by
  simp [graftArena, spliceArena]

theorem Rep.splice {a : Arena} {g : Shape} (r : Rep a g) (i p : Nat) (L R : List Nat) (c1 ck : Nat)
    (hroot : g.par i = none) (hpl : Live a p)
    (hk : g.kids p = L ++ R) (hanc : ¬ Reach g.par p i)
    (hhead : (g.kids i).head? = some c1) (hlast : (g.kids i).getLast? = some ck) :
    Rep (spliceArena a i p c1 ck (L.getLast?.map a.idAt) (R.head?.map a.idAt) (g.kids i)) (g.splice i p L R) := by
  rw [← graftArena_splice, ← Shape.graft_splice]
  have hKpar : ∀ c ∈ g.kids i, g.par c = some i := fun c hc => (r.kidsLive i c hc).2.2
  exact r.graft (some i) _ p L R c1 ck hKpar (fun c hc => r.live_kid i c hc)
    (fun j hj => by cases hj; exact ⟨rfl, hroot⟩) (fun h => by cases h) hhead hlast hpl
    (fun e => hanc (by cases e; exact .refl _)) hk (fun c hc h => hanc (h.trans (.single (hKpar c hc))))

end Arena
end XotModel

/-! ### `remove` of a node with a parent and with children

  The slot is freed; no panic.
-/

namespace XotModel
namespace Arena

theorem Rep.kids_length_le {a : Arena} {g : Shape} (r : Rep a g) (p : Nat) : (g.kids p).length ≤ a.nodes.length :=
  nodup_bounded _ _ (r.kidsNodup p) (fun c hc => by
    obtain ⟨s, hs, _⟩ := (r.kidsLive p c hc).2.1
    exact lt_of_slot hs)

/-- List-level `remove` of a node with parent `p` (`kids p = L ++ i :: R`) and children. -/
def Shape.removeInner (g : Shape) (i p : Nat) (L R : List Nat) : Shape :=
  { (g.detach i).splice i p L R with free := g.free ++ [i] }

theorem Rep.remove_inner {a : Arena} {g : Shape} (r : Rep a g) (i p : Nat) (L R : List Nat) (c1 ck : Nat)
    (hi : Live a i) (hpar : g.par i = some p) (hk : g.kids p = L ++ i :: R)
    (hhead : (g.kids i).head? = some c1) (hlast : (g.kids i).getLast? = some ck) :
    ∃ a5 a', MetaEq a a5 ∧ Rep a5 ((g.detach i).splice i p L R) ∧
      Arena.remove a (a.idAt i) = .done a' () ∧ FreeNodeOk a5 ((g.detach i).splice i p L R) i a' ∧
      Rep a' (g.removeInner i p L R) := by
  obtain ⟨a1, hd, r1, hM⟩ := r.detach_idAt i hi
  have hid : a1.idAt = a.idAt := funext hM.idAt
  have hi1 : Live a1 i := (hM.live i).mpr hi
  have hpi : p ≠ i := r.par_ne hpar
  have hkids1 : (g.detach i).kids i = g.kids i := Shape.detach_kids_self g (fun c p h => r.par_ne h) i
  have hkp1 : (g.detach i).kids p = L ++ R := Shape.detach_kids_par g i p L R hpar hk (r.kidsNodup p)
  have hp1 : Live a1 p := (hM.live p).mpr (r.live_of_par hpar).2
  have hanc1 : ¬ Reach (g.detach i).par p i := fun h =>
    r.acyclic i p hpar (Reach.mono (Shape.detach_par_le g i) h)
  have r5 := r1.splice i p L R c1 ck (Shape.detach_par_self g i) hp1 hkp1 hanc1
    (by rw [hkids1]; exact hhead) (by rw [hkids1]; exact hlast)
  rw [hkids1, hid] at r5
  generalize ha5 : spliceArena a1 i p c1 ck (L.getLast?.map a.idAt) (R.head?.map a.idAt) (g.kids i) = a5 at r5
  have hM5 : MetaEq a a5 := by rw [← ha5]; exact hM.trans (MetaEq.spliceArena _ _ _ _ _ _ _ _)
  have hi5 : Live a5 i := (hM5.live i).mpr hi
  have hpar5 : ((g.detach i).splice i p L R).par i = none := by
    have : i ∉ (g.detach i).kids i := fun hm => by
      have := (r1.kidsLive i i hm).2.2
      rw [Shape.detach_par_self] at this; cases this
    simp [Shape.splice, this, Shape.detach_par_self]
  have hkids5 : ((g.detach i).splice i p L R).kids i = [] := by simp [Shape.splice, hpi.symm]
  obtain ⟨a', hf, hok⟩ := r5.freeNode i hi5 hpar5 hkids5
  have hfinal : Rep a' (g.removeInner i p L R) := by
    have := hok.rep
    simp only [Shape.splice, Shape.detach_free] at this
    exact this
  refine ⟨a5, a', hM5, r5, ?_, hok, hfinal⟩
  -- the computation
  obtain ⟨s, hs, h0⟩ := hi
  have P := r.ptrs i s hs h0
  unfold Arena.remove
  rw [rd_idAt a a hs]
  have hfirst : s.first = some (a.idAt c1) := by rw [P.first, hhead]; rfl
  have hlast' : s.last = some (a.idAt ck) := by rw [P.last, hlast]; rfl
  have hsp : s.parent = some (a.idAt p) := by rw [P.parent, hpar]; rfl
  obtain ⟨L', R', e1, hsv, hsn⟩ := P.sib p hpar
  obtain ⟨hL, hR⟩ := split_unique (by rw [← e1]; exact r.kidsNodup p) (e1.symm.trans hk)
  subst hL hR
  simp only [hfirst, hlast', Option.isSome_some, bne_self_eq_false, Bool.false_eq_true, if_false]
  rw [hd]
  simp only [Step.bind_done]
  -- `detach_from_siblings` of the whole child list
  have hc1K : c1 ∈ g.kids i := List.mem_of_mem_head? hhead
  have hckK : ck ∈ g.kids i := List.mem_of_getLast? hlast
  obtain ⟨tl, htl⟩ := List.head?_eq_some_iff.mp hhead
  obtain ⟨ini, hini⟩ := List.getLast?_eq_some_iff.mp hlast
  obtain ⟨sf, hsf, _, _, hsfpar, hsfp, _⟩ := r1.child_slot (pre := []) (hkids1.trans htl)
  obtain ⟨sl, hsl, _, _, _, _, hsln⟩ := r1.child_slot (suf := []) (hkids1.trans hini)
  have hsfp : sf.prev = none := hsfp
  have hsln : sl.next = none := hsln
  rw [hid] at hsfpar
  obtain ⟨si1, hsi1, hsi10⟩ := hi1
  have e2 := detachFromSiblings_all_eq a1 (a.idAt c1) (a.idAt ck) sf sl hsf hsfp
    hsl hsln (by
      rw [hsfpar]; intro id hid'; cases hid'; exact ⟨si1, hsi1⟩)
  rw [e2, hsfpar]
  simp only [Step.bind_done, modOpt_some, idAt_index0]
  -- `transplant`
  generalize ha2 : a1.mod i (fun s => { s with first := none, last := none }) = a2
  have ha2slot : ∀ j, j ≠ i → a2.slot j = a1.slot j := fun j hj => by rw [← ha2]; simp [Ne.symm hj]
  have hiK : i ∉ g.kids i := fun hm => by
    have := (r.kidsLive i i hm).2.2
    exact r.par_ne this rfl
  have hchain : Links a2 a1 (·.next) (g.kids i) :=
    Links.congr _ (fun c hc => ha2slot c (fun e => hiK (e ▸ hc)))
      (r1.links_next i (g.kids i) [] (by rw [hkids1]; rfl))
  have hlen : (g.kids i).length < a2.fuel := by
    have := r.kids_length_le i
    have hl : a2.nodes.length = a.nodes.length := by rw [← ha2, mod_length, hM.length]
    unfold fuel; omega
  have inr : ∀ (o : Option Nat), (∀ j, o = some j → Live a j) → InRange a2 (o.map a.idAt) := fun o ho => by
    rw [← ha2, ← hid]
    exact (Rep.inRange_map o fun j hj => (hM.live j).mpr (ho j hj)).mod _ _
  have hLp : ∀ y, y ∈ L' → y ∈ g.kids p := fun y h => by rw [hk]; exact List.mem_append_left _ h
  have hRp : ∀ y, y ∈ R' → y ∈ g.kids p := fun y h => by rw [hk]; exact List.mem_append_right _ (List.mem_cons_of_mem _ h)
  have e3 := transplant_chain_eq a1 a2 (g.kids i) c1 ck (some (a.idAt p)) (L'.getLast?.map a.idAt) (R'.head?.map a.idAt)
    hhead (r.kidsNodup i) (fun c hc => by
      rw [hid]; intro e
      have hcp : c = p := idAt_inj a (Option.some.inj e)
      exact r.acyclic c i (r.kidsLive i c hc).2.2 (hcp ▸ .single hpar)) hchain hlen
    (inr (some p) (fun j hj => by cases hj; exact (r.live_of_par hpar).2))
    (inr _ (fun j hj => r.live_kid p j (hLp j (List.mem_of_getLast? hj))))
    (inr _ (fun j hj => r.live_kid p j (hRp j (List.mem_of_mem_head? hj))))
    (by rw [hid]; exact inr (some c1) (fun j hj => by cases hj; exact r.live_kid i c1 hc1K))
    (by rw [hid]; exact inr (some ck) (fun j hj => by cases hj; exact r.live_kid i ck hckK))
  rw [hid] at e3
  rw [hsp, hsv, hsn, e3]
  simp only [expectOk, Step.bind_done]
  have e5 : unlink (unlink (setParents a2 (g.kids i) (some (a.idAt p))) (some (a.idAt p)) (L'.getLast?.map a.idAt)
      (some (a.idAt c1))) (some (a.idAt p)) (some (a.idAt ck)) (R'.head?.map a.idAt) = a5 := by
    rw [← ha5, ← ha2]
    unfold spliceArena
    rw [hid]
  rw [e5, ← hM5.idAt i]
  exact hf

end Arena
end XotModel

/-! ### `remove` of a parentless node with exactly one child

  The child becomes a parentless node, the slot is freed; no panic, the arena stays well-formed.  (With two or more
  children the children become parentless but stay each other's siblings: the arena leaves the invariant, closed
  example in `Props/C04`.)

  The computation is `detach(i)` (nothing to do), then on the child `c`
  `detach_from_siblings` + `rewrite_parents(None)` — which is literally `detach(c)` — then the two
  `connect_neighbors(None, …)` of `transplant`, which rewrite `c.previous_sibling = None` and
  `c.next_sibling = None` (already so), then `free_node(i)`.
-/

namespace XotModel
namespace Arena

/-- List-level `remove` of the parentless node `i` whose only child is `c`. -/
def Shape.removeRootOne (g : Shape) (i c : Nat) : Shape :=
  { par := fun j => if j = c then none else g.par j,
    kids := fun q => if q = i then [] else g.kids q,
    free := g.free ++ [i] }

theorem Shape.removeRootOne_eq (g : Shape) (i c : Nat) (hpc : g.par c = some i) (hk : g.kids i = [c]) :
    g.removeRootOne i c = { g.detach c with free := g.free ++ [i] } := by
  unfold Shape.removeRootOne Shape.detach
  rw [hpc]
  simp only [Shape.mk.injEq, and_true, true_and]
  funext q
  by_cases hq : q = i
  · subst hq; simp [hk]
  · simp [hq]

/-- `detach` taken apart: the range detachment, then the parent rewrite. -/
theorem detach_done_inv {a b : Arena} {x : NodeId} (h : Arena.detach a x = .done b ()) :
    ∃ a1, detachFromSiblings a x x = .done a1 () ∧ rewriteParents a1.fuel a1 (some x) none = .done b (.ok ()) := by
  unfold Arena.detach expectOk at h
  obtain ⟨a1, _, h1, h⟩ := Step.bind_eq_done h
  obtain ⟨a2, res, h2, h⟩ := Step.bind_eq_done h
  cases res with
  | error e => cases h
  | ok u => cases h; exact ⟨a1, h1, h2⟩

theorem Rep.remove_root_one {a : Arena} {g : Shape} (r : Rep a g) (i c : Nat) (hi : Live a i)
    (hpar : g.par i = none) (hk : g.kids i = [c]) :
    ∃ a2 a', MetaEq a a2 ∧ Rep a2 (g.detach c) ∧ Arena.remove a (a.idAt i) = .done a' () ∧
      FreeNodeOk a2 (g.detach c) i a' ∧ Rep a' (g.removeRootOne i c) := by
  -- `detach(i)`: nothing at list level
  obtain ⟨a1, hd, r1, hM⟩ := r.detach_idAt i hi
  rw [Shape.detach_of_root g i hpar] at r1
  have hid : a1.idAt = a.idAt := funext hM.idAt
  have hcK : c ∈ g.kids i := by rw [hk]; simp
  have hpc : g.par c = some i := (r.kidsLive i c hcK).2.2
  have hc1 : Live a1 c := (r1.kidsLive i c hcK).2.1
  -- `detach(c)` from there
  obtain ⟨a2, hdc, r2, hM2⟩ := r1.detach_idAt c hc1
  rw [hid] at hdc
  obtain ⟨aS, hS, hR⟩ := detach_done_inv hdc
  have hMM : MetaEq a a2 := hM.trans hM2
  have hid2 : a2.idAt = a.idAt := funext hMM.idAt
  have hi2 : Live a2 i := (hMM.live i).mpr hi
  have hc2 : Live a2 c := (hM2.live c).mpr hc1
  have hpar2 : (g.detach c).par i = none := by
    unfold Shape.detach; rw [hpc]
    by_cases hic : i = c
    · simp [hic]
    · simp [hic, hpar]
  have hkids2 : (g.detach c).kids i = [] := by
    unfold Shape.detach; rw [hpc]; simp [hk]
  have hparc2 : (g.detach c).par c = none := Shape.detach_par_self g c
  obtain ⟨a', hf, hok⟩ := r2.freeNode i hi2 hpar2 hkids2
  have hfinal : Rep a' (g.removeRootOne i c) := by
    rw [Shape.removeRootOne_eq g i c hpc hk]
    have := hok.rep
    rw [Shape.detach_free] at this
    exact this
  refine ⟨a2, a', hMM, r2, ?_, hok, hfinal⟩
  -- the computation
  obtain ⟨s, hs, h0⟩ := hi
  have P := r.ptrs i s hs h0
  unfold Arena.remove
  rw [rd_idAt a a hs]
  have hfirst : s.first = some (a.idAt c) := by rw [P.first, hk]; rfl
  have hlast : s.last = some (a.idAt c) := by rw [P.last, hk]; rfl
  have hsp : s.parent = none := by rw [P.parent, hpar]; rfl
  have hsv : s.prev = none := (P.root hpar).1
  have hsn : s.next = none := (P.root hpar).2
  simp only [hfirst, hlast, Option.isSome_some, bne_self_eq_false, Bool.false_eq_true, if_false]
  rw [hd]
  simp only [Step.bind_done]
  rw [hS]
  simp only [Step.bind_done]
  rw [hsp, hsv, hsn]
  -- `transplant(None, None, None)` of the one-node range
  obtain ⟨sc, hsc, hsc0⟩ := hc2
  have Pc := r2.ptrs c sc hsc hsc0
  have hscv : sc.prev = none := (Pc.root hparc2).1
  have hscn : sc.next = none := (Pc.root hparc2).2
  have hslot : a2.slot (a.idAt c).index0 = some sc := hsc
  have e1 : a2.mod c (fun s => { s with prev := none }) = a2 :=
    mod_id_of_fix hsc (by cases sc; simp_all)
  have e2 : a2.mod c (fun s => { s with next := none }) = a2 :=
    mod_id_of_fix hsc (by cases sc; simp_all)
  unfold transplant
  rw [hR]
  simp only [Step.bind_done]
  unfold connectNeighbors
  simp only []
  rw [wr_some _ _ _ _ _ hslot, idAt_index0, e1]
  simp only [Step.bind_done]
  rw [wr_some _ _ _ _ _ hslot, idAt_index0, e2]
  simp only [expectOk, Step.bind_done]
  rw [← hid2]
  exact hf

/-! ### Reading the hypotheses off the pointers -/

theorem singleton_of_head_last {l : List Nat} {c : Nat} (hn : l.Nodup) (hh : l.head? = some c)
    (hl : l.getLast? = some c) : l = [c] := by
  cases l with
  | nil => cases hh
  | cons y t =>
    simp only [List.head?_cons, Option.some.injEq] at hh
    subst hh
    cases t with
    | nil => rfl
    | cons z t' =>
      exfalso
      rw [List.getLast?_cons_cons] at hl
      exact (List.nodup_cons.mp hn).1 (List.mem_of_getLast? hl)

/-- A live slot without parent pointer whose `first_child` and `last_child` are the same id: a
    parentless node with exactly one child. -/
theorem Rep.root_one_of_ptrs {a : Arena} {g : Shape} (r : Rep a g) {i : Nat} {s : Slot} {x : NodeId}
    (hs : a.slot i = some s) (h0 : 0 ≤ s.stamp) (hp : s.parent = none) (hf : s.first = some x)
    (hl : s.last = some x) : g.par i = none ∧ g.kids i = [x.index0] := by
  have P := r.ptrs i s hs h0
  constructor
  · have := P.parent
    rw [hp] at this
    cases h : g.par i with
    | none => rfl
    | some p => rw [h] at this; cases this
  · have h1 := P.first
    have h2 := P.last
    rw [hf] at h1
    rw [hl] at h2
    cases hh : (g.kids i).head? with
    | none => rw [hh] at h1; cases h1
    | some c1 =>
      cases hg : (g.kids i).getLast? with
      | none => rw [hg] at h2; cases h2
      | some c2 =>
        rw [hh] at h1
        rw [hg] at h2
        simp only [Option.map_some, Option.some.injEq] at h1 h2
        have e1 : x.index0 = c1 := by rw [h1]; simp
        have e2 : x.index0 = c2 := by rw [h2]; simp
        subst e1
        exact singleton_of_head_last (r.kidsNodup i) hh (by rw [hg, e2])

end Arena
end XotModel
