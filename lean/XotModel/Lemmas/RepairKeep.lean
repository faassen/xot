/-
  What the call does to the declarations below the repaired element and to the bindings in force
  there, node by node in document order (`KeptNode`, `BindingsKept`): for the nodes below the
  element, for the repaired element itself and for every element child of a document.
-/
import XotModel.Lemmas.BasicFacts
import XotModel.Lemmas.RepairDocument

/-! ### The nodes below the repaired element

  What `create_missing_prefixes_for_element` does to the declarations of the nodes BELOW the repaired
  element and to the bindings in force there, stated without paths (raw child indices shift when
  namespace nodes are inserted): the nodes other than namespace nodes are listed in document order,
  each with the declaration frames in force at it (`nodesInScope`); the call keeps that list's length
  (it only inserts namespace nodes) and its k-th entry before and after the call are related by
  `KeptNode`:

  * same value;
  * the node's declaration list is unchanged, except that an element in no namespace at which a
    default namespace is in force gets `insert("", no namespace)` — exactly then;
  * every binding of a non-empty prefix in force before is in force after, and the binding of the
    empty prefix is the same or has become "undeclared" where it was a default namespace.
-/

namespace XotModel.Repair
open XotModel

/-- The two lists have the same length and `R` relates their entries position by position. -/
def AllPairs {α β : Type} (R : α → β → Prop) : List α → List β → Prop
  | [], [] => True
  | a :: as, b :: bs => R a b ∧ AllPairs R as bs
  | _, _ => False

theorem allPairs_append {α β : Type} {R : α → β → Prop} : ∀ {l1 l1' : List α} {l2 l2' : List β},
    AllPairs R l1 l2 → AllPairs R l1' l2' → AllPairs R (l1 ++ l1') (l2 ++ l2')
  | [], _, [], _, _, h => h
  | a :: as, _, b :: bs, _, h1, h => ⟨h1.1, allPairs_append h1.2 h⟩
  | [], _, _ :: _, _, h1, _ => h1.elim
  | _ :: _, _, [], _, h1, _ => h1.elim

theorem allPairs_imp {α β : Type} {R S : α → β → Prop} (h : ∀ a b, R a b → S a b) :
    ∀ {l1 : List α} {l2 : List β}, AllPairs R l1 l2 → AllPairs S l1 l2
  | [], [], _ => trivial
  | a :: as, b :: bs, h1 => ⟨h a b h1.1, allPairs_imp h h1.2⟩
  | [], _ :: _, h1 => h1.elim
  | _ :: _, [], h1 => h1.elim

theorem allPairs_iff_getElem {α β : Type} {R : α → β → Prop} : ∀ {l1 : List α} {l2 : List β},
    AllPairs R l1 l2 ↔ l1.length = l2.length ∧
      ∀ (k : Nat) (a : α) (b : β), l1[k]? = some a → l2[k]? = some b → R a b
  | [], [] => ⟨fun _ => ⟨rfl, fun _ _ _ ha _ => nomatch ha⟩, fun _ => trivial⟩
  | [], _ :: _ => ⟨False.elim, fun h => absurd h.1 (Nat.succ_ne_zero _).symm⟩
  | _ :: _, [] => ⟨False.elim, fun h => absurd h.1 (Nat.succ_ne_zero _)⟩
  | a :: as, b :: bs => by
    simp only [AllPairs, List.length_cons, Nat.add_right_cancel_iff]
    rw [allPairs_iff_getElem (l1 := as) (l2 := bs)]
    constructor
    · rintro ⟨h1, h2, h3⟩
      refine ⟨h2, fun k a' b' ha hb => ?_⟩
      cases k with
      | zero => cases ha; cases hb; exact h1
      | succ k => exact h3 k a' b' ha hb
    · rintro ⟨h2, h3⟩
      exact ⟨h3 0 a b rfl rfl, h2, fun k a' b' ha hb => h3 (k + 1) a' b' ha hb⟩

/-! ### The nodes of a subtree with the frames in force at them -/

mutual
/-- The nodes of the subtree other than namespace nodes, in document order, each with the
    declaration frames in force at it: its own (`frameOf`: the declarations of an element, nothing
    for another node) on top of `fs`. -/
def nodesInScope (fs : Frames) : Tree → List (Frames × Tree)
  | .node v ks => (frameOf (.node v ks) :: fs, .node v ks) :: nodesKids (frameOf (.node v ks) :: fs) ks
def nodesKids (fs : Frames) : List Tree → List (Frames × Tree)
  | [] => []
  | k :: ks => (if k.value.category == .namespace then [] else nodesInScope fs k) ++ nodesKids fs ks
end

/-- The nodes below `t` (not `t` itself), with `t`'s frame pushed. -/
def nodesBelow (fs : Frames) (t : Tree) : List (Frames × Tree) := nodesKids (frameOf t :: fs) t.kids

theorem nodesInScope_eq (fs : Frames) (t : Tree) :
    nodesInScope fs t = (frameOf t :: fs, t) :: nodesBelow fs t := by
  cases t; simp [nodesInScope, nodesBelow, Tree.kids]

theorem nodesKids_cons_ns (fs : Frames) (q m : Nat) (kk ks : List Tree) :
    nodesKids fs (.node (.namespace q m) kk :: ks) = nodesKids fs ks := by
  rw [nodesKids]; rfl

theorem nodesKids_insertNsKid (fs : Frames) (p ns : Nat) (ks : List Tree) :
    nodesKids fs (insertNsKid p ns ks) = nodesKids fs ks := by
  refine insertNsKid_induct p ns (motive := fun ks r => nodesKids fs r = nodesKids fs ks)
    (fun ks _ => ?_) (fun m kk ks => ?_) (fun q m kk ks _ ih => ?_) ks
  · rw [nodesKids_cons_ns]
  · rw [nodesKids_cons_ns, nodesKids_cons_ns]
  · rw [nodesKids_cons_ns, nodesKids_cons_ns, ih]

theorem nodesKids_insertNamespace (fs : Frames) (p ns : Nat) (t : Tree) :
    nodesKids fs (insertNamespace p ns t).kids = nodesKids fs t.kids := by
  cases t; simp [insertNamespace, Tree.kids, nodesKids_insertNsKid]

theorem nodesKids_insertNamespaces (fs : Frames) (nd : List (Nat × Nat)) (t : Tree) :
    nodesKids fs (insertNamespaces nd t).kids = nodesKids fs t.kids :=
  insertNamespaces_invariant (fun t => nodesKids fs t.kids) (nodesKids_insertNamespace fs) nd t

theorem lookup_foldl_insertDecl (q : Nat) : ∀ (nd D : List (Nat × Nat)), q ∉ keys nd →
    List.lookup q (nd.foldl (fun D d => insertDecl d.1 d.2 D) D) = List.lookup q D
  | [], _, _ => rfl
  | d :: nd, D, h => by
    simp only [keys, List.map_cons, List.mem_cons, not_or] at h
    simp only [List.foldl_cons]
    rw [lookup_foldl_insertDecl q nd _ h.2, lookup_insertDecl_ne _ _ _ h.1]

/-- Bindings in force before (`fb`) and after (`fa`): every binding of a non-empty prefix is kept; the
    empty prefix means the same, or a default namespace has become "no namespace" (`xmlns=""`). -/
def BindingsKept (fb fa : Frames) : Prop :=
  (∀ p, p ≠ Env.emptyPrefix → ∀ ns, lookupFrames fb p = some ns → lookupFrames fa p = some ns) ∧
  (lookupFrames fa Env.emptyPrefix = lookupFrames fb Env.emptyPrefix ∨
    (lookupFrames fa Env.emptyPrefix = some Env.noNamespace ∧
      ∃ n, n ≠ Env.noNamespace ∧ lookupFrames fb Env.emptyPrefix = some n))

/-- `y` is an element in no namespace at which — with the frames `fa` around it and its own
    declarations — the empty prefix is bound to a namespace. -/
def NeedsUndeclaration (nsOf : Nat → Nat) (fa : Frames) (y : Tree) : Prop :=
  ∃ name, y.value = .element name ∧ nsOf name = Env.noNamespace ∧
    ∃ n, n ≠ Env.noNamespace ∧ lookupFrames (y.nsDecls :: fa) Env.emptyPrefix = some n

/-- A node before (`b`) and after (`a`) the call, each with the frames in force at it (own frame
    first, so `a.1.tail` are the frames around the node after the call). -/
def KeptNode (nsOf : Nat → Nat) (b a : Frames × Tree) : Prop :=
  a.2.value = b.2.value ∧
  ((NeedsUndeclaration nsOf a.1.tail b.2 ∧
      a.2.nsDecls = insertDecl Env.emptyPrefix Env.noNamespace b.2.nsDecls) ∨
    (¬ NeedsUndeclaration nsOf a.1.tail b.2 ∧ a.2.nsDecls = b.2.nsDecls)) ∧
  BindingsKept b.1 a.1

/-- The walk's top frame and the frames of the rebuilt tree agree on the empty prefix. -/
def WDefault (top : List (Nat × Nat)) (fa : Frames) : Prop :=
  ∀ n, (Env.emptyPrefix, n) ∈ top ↔ lookupFrames fa Env.emptyPrefix = some n

theorem bindingsKept_push {fb fa : Frames} (hk : BindingsKept fb fa) (D D' : List (Nat × Nat))
    (hp : ∀ p, p ≠ Env.emptyPrefix → ∀ ns, lookupFrames (D :: fb) p = some ns →
      List.lookup p D' = List.lookup p D)
    (h0 : List.lookup Env.emptyPrefix D' = List.lookup Env.emptyPrefix D ∨
      (List.lookup Env.emptyPrefix D' = some Env.noNamespace ∧
        ∃ n, n ≠ Env.noNamespace ∧ lookupFrames (D :: fa) Env.emptyPrefix = some n)) :
    BindingsKept (D :: fb) (D' :: fa) := by
  refine ⟨fun p hpe ns hl => ?_, ?_⟩
  · rw [lookupFrames_cons, hp p hpe ns hl]
    rw [lookupFrames_cons] at hl
    cases hd : List.lookup p D with
    | some m => simpa [hd] using hl
    | none => simp only [hd] at hl ⊢; exact hk.1 p hpe ns hl
  · rcases h0 with h0 | ⟨h0, n, hn, hl⟩
    · rw [lookupFrames_cons, lookupFrames_cons, h0]
      cases hd : List.lookup Env.emptyPrefix D with
      | some m => exact Or.inl rfl
      | none => exact hk.2
    · right
      refine ⟨by rw [lookupFrames_cons, h0], n, hn, ?_⟩
      rw [lookupFrames_cons] at hl ⊢
      cases hd : List.lookup Env.emptyPrefix D with
      | some m => simpa [hd] using hl
      | none =>
        simp only [hd] at hl ⊢
        rcases hk.2 with h | ⟨h, _⟩
        · rw [← h]; exact hl
        · rw [h] at hl; cases hl; exact absurd rfl hn

theorem wDefault_push {top : List (Nat × Nat)} {fa : Frames} (hw : WDefault top fa)
    (WD D' : List (Nat × Nat))
    (h : ∀ n, (Env.emptyPrefix, n) ∈ WD ↔ List.lookup Env.emptyPrefix D' = some n) :
    WDefault (pushTop top WD) (D' :: fa) := by
  intro n
  rw [mem_pushTop, lookupFrames_cons]
  cases hd : List.lookup Env.emptyPrefix D' with
  | some m =>
    have hm : (Env.emptyPrefix, m) ∈ WD := (h m).mpr hd
    have hk : Env.emptyPrefix ∈ keys WD := mem_keys.mpr ⟨m, hm⟩
    rw [h n, hd]
    simp [hk]
  | none =>
    have hk : Env.emptyPrefix ∉ keys WD := by
      intro hk
      obtain ⟨m, hm⟩ := mem_keys.mp hk
      have := (h m).mp hm
      rw [hd] at this; cases this
    have hn : (Env.emptyPrefix, n) ∉ WD := fun hm => hk (mem_keys.mpr ⟨n, hm⟩)
    simp only [hk, not_false_eq_true, and_true, hn, or_false]
    exact hw n

/-- `needsUndeclare` of the walk, read in the frames of the rebuilt tree. -/
theorem needsUndeclare_frames (nsOf : Nat → Nat) {top : List (Nat × Nat)} {fa : Frames}
    (hw : WDefault top fa) (name : Nat) (ks : List Tree)
    (hu : UniquePrefixes (declsOfKids ks)) :
    needsUndeclare nsOf top (.node (.element name) ks) name = true ↔
      NeedsUndeclaration nsOf fa (.node (.element name) ks) := by
  rw [needsUndeclare_iff]
  have hwp := wDefault_push hw (declsOfKids ks) (declsOfKids ks)
    (fun n => (lookup_some_iff hu _ n).symm)
  unfold NeedsUndeclaration
  simp only [Tree.value, nsDecls_node]
  constructor
  · rintro ⟨h1, n, hn, hm⟩
    exact ⟨name, rfl, h1, n, hn, (hwp n).mp hm⟩
  · rintro ⟨name', he, h1, n, hn, hl⟩
    cases he
    exact ⟨h1, n, hn, (hwp n).mpr hl⟩

theorem not_needsUndeclaration_of_value (nsOf : Nat → Nat) (fa : Frames) (v : Value) (ks : List Tree)
    (hv : v.isElement = false) : ¬ NeedsUndeclaration nsOf fa (.node v ks) := by
  rintro ⟨name, he, _⟩
  simp only [Tree.value] at he
  subst he
  cases hv

/-! ### The rebuilt element: its frame against the frame before and against the walk's -/

/-- A prefix that is not a new one reads the declarations of the rebuilt element as it read the old
    ones, except that the empty prefix reads `xmlns=""` where the walk recorded the element. -/
theorem lookup_nsDecls_rebuild (nsOf : Nat → Nat) (nd : List (Nat × Nat)) (b : Bool) (top : List (Nat × Nat))
    (name : Nat) (ks : List Tree) (q : Nat) (hq : b = true → q ∉ keys nd) :
    List.lookup q (rebuild nsOf nd b top (.node (.element name) ks)).nsDecls =
      if needsUndeclare nsOf top (.node (.element name) ks) name = true ∧ q = Env.emptyPrefix then
        some Env.noNamespace
      else List.lookup q (declsOfKids ks) := by
  have h1 : List.lookup q ((if b then nd else []).foldl (fun D d => insertDecl d.1 d.2 D) (declsOfKids ks)) =
      List.lookup q (declsOfKids ks) := by
    cases b with
    | false => rfl
    | true => exact lookup_foldl_insertDecl q nd _ (hq rfl)
  rw [nsDecls_rebuild_element]
  cases needsUndeclare nsOf top (.node (.element name) ks) name with
  | false => simpa using h1
  | true =>
    simp only [↓reduceIte, true_and]
    by_cases he : q = Env.emptyPrefix
    · rw [if_pos he, he, lookup_insertDecl_self]
    · rw [if_neg he, lookup_insertDecl_ne _ _ _ he, h1]

theorem frameOf_rebuild_element (nsOf : Nat → Nat) (nd : List (Nat × Nat)) (b : Bool) (top : List (Nat × Nat))
    (name : Nat) (ks : List Tree) :
    frameOf (rebuild nsOf nd b top (.node (.element name) ks)) =
      (rebuild nsOf nd b top (.node (.element name) ks)).nsDecls := by
  unfold frameOf; rw [value_rebuild]; rfl

theorem nodesBelow_rebuild_element (nsOf : Nat → Nat) (nd : List (Nat × Nat)) (b : Bool)
    (top : List (Nat × Nat)) (name : Nat) (ks : List Tree) (fs : Frames) :
    nodesBelow fs (rebuild nsOf nd b top (.node (.element name) ks)) =
      nodesKids ((rebuild nsOf nd b top (.node (.element name) ks)).nsDecls :: fs)
        (rebuildKids nsOf nd (walkTop nsOf top (.node (.element name) ks) name) ks) := by
  rw [nodesBelow, frameOf_rebuild_element, rebuild_element, nodesKids_insertNamespaces]
  rfl

/-- The frame the rebuilt element pushes: every binding in force before the call is kept (the new
    prefixes, at the repaired element, rebind none of them), and the frame agrees with the walk's on
    the empty prefix. -/
theorem rebuild_element_frames (nsOf : Nat → Nat) (nd : List (Nat × Nat)) (b : Bool) (top : List (Nat × Nat))
    (name : Nat) (ks : List Tree) {fb fa : Frames} (hD : UniquePrefixes (declsOfKids ks))
    (hw : WDefault top fa) (hk : BindingsKept fb fa)
    (hb : b = true → Env.emptyPrefix ∉ keys nd ∧
      ∀ p ns, lookupFrames (declsOfKids ks :: fb) p = some ns → p ∉ keys nd) :
    BindingsKept (declsOfKids ks :: fb) ((rebuild nsOf nd b top (.node (.element name) ks)).nsDecls :: fa) ∧
      WDefault (walkTop nsOf top (.node (.element name) ks) name)
        ((rebuild nsOf nd b top (.node (.element name) ks)).nsDecls :: fa) := by
  have l0 := lookup_nsDecls_rebuild nsOf nd b top name ks Env.emptyPrefix (fun h => (hb h).1)
  constructor
  · refine bindingsKept_push hk _ _ (fun p hp ns hl => ?_) ?_
    · rw [lookup_nsDecls_rebuild nsOf nd b top name ks p (fun h => (hb h).2 p ns hl), if_neg (fun h => hp h.2)]
    · rw [l0]
      cases hc : needsUndeclare nsOf top (.node (.element name) ks) name with
      | false => exact Or.inl (if_neg (fun h => nomatch h.1))
      | true =>
        obtain ⟨_, _, _, n, hn, hl⟩ := (needsUndeclare_frames nsOf hw name ks hD).mp hc
        exact Or.inr ⟨if_pos ⟨rfl, rfl⟩, n, hn, hl⟩
  · apply wDefault_push hw
    intro n
    rw [l0, walkDecls, nsDecls_node]
    cases needsUndeclare nsOf top (.node (.element name) ks) name with
    | false =>
      rw [if_neg (fun h => nomatch h), if_neg (fun h => nomatch h.1)]
      exact (lookup_some_iff hD _ n).symm
    | true =>
      rw [if_pos rfl, if_pos ⟨rfl, rfl⟩, mem_undeclaredDecls]
      constructor
      · rintro (⟨h, _⟩ | ⟨_, h⟩)
        · exact absurd rfl h
        · rw [h]
      · intro h
        exact Or.inr ⟨rfl, (Option.some.inj h).symm⟩

/-! ### The rebuilt subtree, node by node -/

mutual
theorem rebuild_kept (nsOf : Nat → Nat) (nd : List (Nat × Nat)) : ∀ (y : Tree) (top : List (Nat × Nat))
    (fb fa : Frames), URec y → WDefault top fa → BindingsKept fb fa →
    AllPairs (KeptNode nsOf) (nodesInScope fb y) (nodesInScope fa (rebuild nsOf nd false top y))
  | .node v ks, top, fb, fa, hu, hw, hk => by
    by_cases hv : v.isElement = true
    · obtain ⟨name, rfl⟩ := eq_element_of_isElement hv
      have hD : UniquePrefixes (declsOfKids ks) := by
        have := hu.1; rwa [frameOf_node] at this
      have hfr : frameOf (.node (.element name) ks) = declsOfKids ks := by simp [frameOf_node, Value.isElement]
      obtain ⟨hbk, hw'⟩ := rebuild_element_frames nsOf nd false top name ks hD hw hk (fun h => nomatch h)
      have hnu := needsUndeclare_frames nsOf hw name ks hD
      rw [nodesInScope_eq, nodesInScope_eq, nodesBelow_rebuild_element, frameOf_rebuild_element, hfr]
      refine ⟨⟨value_rebuild _ _ _ _ _, ?_, hbk⟩, rebuildKids_kept nsOf nd ks _ _ _ hu.2 hw' hbk⟩
      -- no new declaration here: the old ones, with `xmlns=""` inserted where the walk recorded the element
      show (_ ∧ (rebuild nsOf nd false top (.node (.element name) ks)).nsDecls = _) ∨ _
      rw [nsDecls_rebuild_element]
      cases hc : needsUndeclare nsOf top (.node (.element name) ks) name with
      | false => exact Or.inr ⟨fun h => Bool.noConfusion (hc.symm.trans (hnu.mpr h)), rfl⟩
      | true => exact Or.inl ⟨hnu.mp hc, rfl⟩
    · have hv' : v.isElement = false := Bool.eq_false_iff.mpr hv
      rw [rebuild_other nsOf nd false top v ks hv']
      simp only [Bool.false_eq_true, if_false]
      rw [nodesInScope_eq, nodesInScope_eq]
      have hfr : frameOf (.node v ks) = [] := by simp [frameOf_node, hv']
      have hfr' : frameOf (.node v (rebuildKids nsOf nd top ks)) = [] := by simp [frameOf_node, hv']
      have hbk : BindingsKept ([] :: fb) ([] :: fa) :=
        bindingsKept_push hk _ _ (fun _ _ _ _ => rfl) (Or.inl rfl)
      rw [hfr, hfr']
      refine ⟨⟨rfl, Or.inr ⟨not_needsUndeclaration_of_value nsOf _ v ks hv', ?_⟩, hbk⟩, ?_⟩
      · simp only [nsDecls_node]; exact declsOfKids_congr (map_value_rebuildKids nsOf nd top ks)
      · simp only [nodesBelow, hfr, hfr', Tree.kids]
        apply rebuildKids_kept nsOf nd ks _ _ _ hu.2 ?_ hbk
        intro n
        rw [lookupFrames_nil_cons]
        exact hw n
theorem rebuildKids_kept (nsOf : Nat → Nat) (nd : List (Nat × Nat)) : ∀ (ks : List Tree)
    (top : List (Nat × Nat)) (fb fa : Frames), UKids ks → WDefault top fa → BindingsKept fb fa →
    AllPairs (KeptNode nsOf) (nodesKids fb ks) (nodesKids fa (rebuildKids nsOf nd top ks))
  | [], _, _, _, _, _, _ => by simp [rebuildKids, nodesKids, AllPairs]
  | k :: ks, top, fb, fa, hu, hw, hk => by
    simp only [rebuildKids, nodesKids, value_rebuild]
    apply allPairs_append
    · split
      · trivial
      · exact rebuild_kept nsOf nd k top fb fa hu.1 hw hk
    · exact rebuildKids_kept nsOf nd ks top fb fa hu.2 hw hk
end

end XotModel.Repair

/-! ### The repaired element itself

  `KeptNode` / `BindingsKept` for one whole call of
  `create_missing_prefixes_for_element`: the repaired element itself receives the new prefix
  declarations, which are fresh, so every binding in force at it and below it is kept.
-/

namespace XotModel.Repair
open XotModel

theorem bindingsKept_refl (fs : Frames) : BindingsKept fs fs :=
  ⟨fun _ _ _ h => h, Or.inl rfl⟩

theorem lookupFrames_single (inh : List (Nat × Nat)) (p : Nat) :
    lookupFrames [inh] p = List.lookup p inh := by
  simp only [lookupFrames]
  cases List.lookup p inh <;> rfl

theorem wDefault_base {inh : List (Nat × Nat)} (hu : UniquePrefixes inh) : WDefault inh [inh] := by
  intro n
  rw [lookupFrames_single]
  exact (lookup_some_iff hu _ n).symm

theorem rebuild_top_kept (nsOf : Nat → Nat) (nd : List (Nat × Nat)) (name : Nat) (ks : List Tree)
    (inh : List (Nat × Nat)) (hu : URec (.node (.element name) ks)) (hinhU : UniquePrefixes inh)
    (hne : ∀ d ∈ nd, d.1 ≠ Env.emptyPrefix)
    (hfD : ∀ p ∈ keys nd, p ∉ keys (declsOfKids ks)) (hfI : ∀ p ∈ keys nd, p ∉ keys inh) :
    BindingsKept ((Tree.node (.element name) ks).nsDecls :: [inh])
        ((rebuild nsOf nd true inh (.node (.element name) ks)).nsDecls :: [inh]) ∧
      AllPairs (KeptNode nsOf) (nodesBelow [inh] (.node (.element name) ks))
        (nodesBelow [inh] (rebuild nsOf nd true inh (.node (.element name) ks))) := by
  have hD : UniquePrefixes (declsOfKids ks) := by
    have := hu.1; rwa [frameOf_node] at this
  have h0nd : Env.emptyPrefix ∉ keys nd := by
    intro h
    obtain ⟨n, hn⟩ := mem_keys.mp h
    exact hne _ hn rfl
  -- a prefix bound at the element before the call is not one of the new prefixes
  have hfresh : ∀ p ns, lookupFrames (declsOfKids ks :: [inh]) p = some ns → p ∉ keys nd := by
    intro p ns hl hp
    rw [lookupFrames_cons_or, lookupFrames_single, Option.or_eq_some_iff] at hl
    rcases hl with hl | ⟨_, hl⟩
    · exact hfD p hp ((lookup_isSome_iff_mem_keys _ p).mp (by rw [hl]; rfl))
    · exact hfI p hp ((lookup_isSome_iff_mem_keys _ p).mp (by rw [hl]; rfl))
  obtain ⟨hbk, hw'⟩ := rebuild_element_frames nsOf nd true inh name ks hD (wDefault_base hinhU)
    (bindingsKept_refl _) (fun _ => ⟨h0nd, hfresh⟩)
  refine ⟨hbk, ?_⟩
  rw [nodesBelow_rebuild_element]
  have hfr : frameOf (.node (.element name) ks) = declsOfKids ks := by simp [frameOf_node, Value.isElement]
  simp only [nodesBelow, hfr, Tree.kids]
  exact rebuildKids_kept nsOf nd ks _ _ _ hu.2 hw' hbk

theorem inheritedDecls_unique (t : Tree) (path : Path) (E : Tree) (hat : t.at? path = some E) :
    UniquePrefixes (inheritedDecls t path) := by
  obtain ⟨rest, hc⟩ := ancestorsOrSelf_of_at? t path _ hat
  rw [inheritedDecls_eq t path _ rest hc]
  exact namespacesInScopeChain_nodup rest

/-- One call: the repaired element keeps its value; the bindings in force at it are kept; every node
    below it is `KeptNode`. -/
theorem facts_kept {env : Env} {t : Tree} {path : Path} {name : Nat} {ks : List Tree} {env' : Env}
    {t' : Tree} (hat : t.at? path = some (.node (.element name) ks))
    (hu : UniqueBelow (.node (.element name) ks))
    (hf : RepairFacts env t path (.node (.element name) ks) env' t') :
    ∃ E', t'.at? path = some E' ∧ E'.value = .element name ∧
      BindingsKept ((Tree.node (.element name) ks).nsDecls :: [inheritedDecls t path])
        (E'.nsDecls :: [inheritedDecls t path]) ∧
      AllPairs (KeptNode env.nsOfName) (nodesBelow [inheritedDecls t path] (.node (.element name) ks))
        (nodesBelow [inheritedDecls t path] E') := by
  obtain ⟨nd, hat', _, _, hne, hsc, hdecl, _⟩ := hf.nd
  have hfD : ∀ p ∈ keys nd, p ∉ keys (declsOfKids ks) := fun p hp => hdecl p hp [] _ name rfl rfl
  have hfI := facts_fresh_inherited hat hsc hfD
  obtain ⟨h1, h2⟩ := rebuild_top_kept env.nsOfName nd name ks (inheritedDecls t path)
    ((uniqueBelow_iff _).mp hu) (inheritedDecls_unique t path _ hat) hne hfD hfI
  exact ⟨_, hat', by rw [value_rebuild]; rfl, h1, h2⟩

end XotModel.Repair

/-! ### The call on a document node

  `KeptNode` / `BindingsKept` (above) for the DOCUMENT branch of
  `create_missing_prefixes`: the loop over the element children is a sequence of
  `create_missing_prefixes_for_element` calls; a call leaves the siblings, the scope of the document node and
  the namespaces of the names alone, so what `facts_kept` says of each call — relative to the element as it was
  BEFORE the whole loop and to the declarations it inherited then — still holds at the end.
-/

namespace XotModel.Repair
open XotModel

/-- What one call establishes about the repaired element `E` (before) / `E'` (after), `inh` the declarations
    it inherits: same value, the bindings in force at it are kept, every node below it is `KeptNode`. -/
def rdk_KeptCall (nsOf : Nat → Nat) (inh : List (Nat × Nat)) (E E' : Tree) : Prop :=
  E'.value = E.value ∧
  BindingsKept (E.nsDecls :: [inh]) (E'.nsDecls :: [inh]) ∧
  AllPairs (KeptNode nsOf) (nodesBelow [inh] E) (nodesBelow [inh] E')

/-- The loop of the document branch: every repaired child is `rdk_KeptCall` relative to the tree before the
    loop. -/
theorem rdk_repairElements_kept (path : Path) : ∀ (is : List Nat) (env : Env) (t : Tree) (env' : Env) (t' : Tree),
    is.Nodup → EnvOk env →
    (∀ i ∈ is, ∃ name ks, t.at? (path ++ [i]) = some (.node (.element name) ks) ∧
      UniqueBelow (.node (.element name) ks)) →
    repairElements is path env t = .ok (env', t') →
    ∀ i ∈ is, ∀ E, t.at? (path ++ [i]) = some E →
      ∃ E', t'.at? (path ++ [i]) = some E' ∧
        rdk_KeptCall env.nsOfName ((namespacesInScope t path).getD []) E E'
  | [], _, _, _, _, _, _, _, _ => fun i hi => by cases hi
  | i0 :: is, env, t, env', t', hnd, hok, hel, h => by
    obtain ⟨env1, t1, name, ks, hat0, hu0, hf, hrest, hsib, hscope1, _, hel1⟩ :=
      repairElements_step path i0 is env t env' t' hnd hok hel h
    simp only [List.nodup_cons] at hnd
    intro i hi E hE
    rcases List.mem_cons.mp hi with rfl | hi
    · -- the child repaired by this call; the rest of the loop leaves it alone
      rw [hat0] at hE
      cases hE
      obtain ⟨E', k1, k2, k3, k4⟩ := facts_kept hat0 hu0 hf
      have hothers := (repairElements_facts path is env1 t1 env' t' hnd.2 hf.envOk hel1 hrest).others i hnd.1 []
      rw [inheritedDecls_child] at k3 k4
      exact ⟨E', by rw [hothers]; exact k1, by rw [k2]; rfl, k3, k4⟩
    · have hne : i ≠ i0 := fun he => hnd.1 (he ▸ hi)
      obtain ⟨E', k1, k2⟩ := rdk_repairElements_kept path is env1 t1 env' t' hnd.2 hf.envOk hel1 hrest i hi E
        (by rw [hsib i hne []]; exact hE)
      rw [nsOfName_congr hf.names, hscope1] at k2
      exact ⟨E', k1, k2⟩

/-- The call on a document node: every element child is `rdk_KeptCall`; the other children are untouched. -/
theorem rdk_document_kept (env : Env) (hok : EnvOk env) (t : Tree) (path : Path) (doc : Tree)
    (hat : t.at? path = some doc) (hdoc : doc.value.isDocument = true)
    (hu : ∀ (i : Nat) (k : Tree), doc.kids[i]? = some k → k.value.isElement = true → UniqueBelow k)
    (env' : Env) (t' : Tree) (h : createMissingPrefixes env t path = .ok (env', t')) :
    (∀ (i : Nat) (k : Tree), doc.kids[i]? = some k → k.value.isElement = true →
      ∃ E', t'.at? (path ++ [i]) = some E' ∧
        rdk_KeptCall env.nsOfName ((namespacesInScope t path).getD []) k E') ∧
    (∀ (j : Nat) (k : Tree), doc.kids[j]? = some k → k.value.isElement = false →
      ∀ r, t'.at? (path ++ j :: r) = t.at? (path ++ j :: r)) := by
  obtain ⟨_, hrun⟩ := createMissingPrefixes_document env t path doc hat hdoc env' t' h
  have hel : ∀ i ∈ elementKidIndices doc.kids, ∃ name ks,
      t.at? (path ++ [i]) = some (.node (.element name) ks) ∧ UniqueBelow (.node (.element name) ks) := by
    intro i hi
    obtain ⟨k, hk, hv⟩ := mem_elementKidIndices.mp hi
    obtain ⟨name, ks, rfl⟩ := isElement_node hv
    exact ⟨name, ks, by rw [at?_child t path i doc hat]; exact hk, hu i _ hk hv⟩
  constructor
  · intro i k hk hv
    have hi : i ∈ elementKidIndices doc.kids := mem_elementKidIndices.mpr ⟨k, hk, hv⟩
    exact rdk_repairElements_kept path _ env t env' t' (elementKidIndices_nodup _) hok hel hrun i hi k
      (by rw [at?_child t path i doc hat]; exact hk)
  · intro j k hk hv r
    have hj : j ∉ elementKidIndices doc.kids := by
      intro hj
      obtain ⟨k', hk', hv'⟩ := mem_elementKidIndices.mp hj
      rw [hk] at hk'
      cases hk'
      rw [hv] at hv'
      cases hv'
    exact (document_facts env hok t path doc hat hdoc hu env' t' h).others j hj r

end XotModel.Repair
