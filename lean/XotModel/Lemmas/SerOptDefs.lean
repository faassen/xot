/-
  Specification side of C14_options: the spelling of a tree under ANY `TokenSerializeParameters`
  (`unescaped_gt`, CDATA-section elements).  NOT a model of Rust code; the token list `serNodeO` is in
  Lemmas/SerOptTokens.lean, `Lemmas/SerOpt*.lean` prove that `serialize_xml_string` IS `renderTokens` of it.

  * `spellNodeO`    : `spellNode` (Lemmas/RoundTripDefs.lean) with `textParts` for text nodes; the flag is
                      threaded from the parent.
  * `NSNode.Resp`   : "the same spelling up to how the character data runs are spelled".
  * `TokRel`        : the same on token lists: a text token replaced by a `GoodRun`.
-/
import XotModel.Lemmas.RoundTripDefs
import XotModel.Lemmas.SerOptTokens

namespace XotModel
open Gen

/-! ### Spelling of a tree under any token parameters -/

/-- `spellNode` with CDATA-section elements and `unescaped_gt`. -/
def spellNodeO (env : Env) (pr : TokenParams) (inScope : List (Nat × Nat)) (isTop : Bool) (s : FStack)
    (cd : Bool) : Tree → List NSNode
  | .node v ks =>
    match v with
    | .element name =>
      let n := Tree.node (.element name) ks
      let s' := s.push n.nsDecls
      let pfx := sp0 (prefixText env (okPrefix (s'.elementPrefix env name)))
      let loc := sp0 (env.localName name)
      if n.firstChild?.isNone then
        .empty pfx loc noSpan (spellItems env inScope isTop s' n) noSpan ::
          spellKidsO env pr inScope s' (kidsCd pr (.element name)) ks
      else
        [.elem pfx loc noSpan (spellItems env inScope isTop s' n) noSpan
          (spellKidsO env pr inScope s' (kidsCd pr (.element name)) ks) pfx loc noSpan]
    | .text str => .chars (textParts pr cd str) :: spellKidsO env pr inScope s false ks
    | .comment str => .comment (sp0 str) noSpan :: spellKidsO env pr inScope s false ks
    | .pi target data =>
      .pi (sp0 (env.localName target)) (data.map sp0) noSpan :: spellKidsO env pr inScope s false ks
    | _ => spellKidsO env pr inScope s false ks
where
  spellKidsO (env : Env) (pr : TokenParams) (inScope : List (Nat × Nat)) (s : FStack) (cd : Bool) :
      List Tree → List NSNode
    | [] => []
    | k :: ks => spellNodeO env pr inScope false s cd k ++ spellKidsO env pr inScope s cd ks

def spellAtO (env : Env) (pr : TokenParams) (t : Tree) (start : Path) : List NSNode :=
  match t.at? start, namespacesInScope t start with
  | some n, some inScope => spellNodeO env pr inScope true (FStack.new inScope) (startCd pr t start) n
  | _, _ => []

/-! ### Same spelling up to the character data runs -/

/-- `b` spells what `a` spells, node for node, except that a character data run of `a` — one text part —
    may be spelled in `b` as any well-spelled run of parts with the same value. -/
def NSNode.Resp : NSNode → NSNode → Prop
  | .elem p l j as o ks cp cl c, b => ∃ ks', b = .elem p l j as o ks' cp cl c ∧ respList ks ks'
  | .empty p l j as e, b => b = .empty p l j as e
  | .chars ps, b => ∃ ps', b = .chars ps' ∧ (∃ q st, ps = [.txt q st]) ∧ partsValue ps' = partsValue ps ∧
      (∀ p ∈ ps', p.Well) ∧ GoodRun (ps'.map SPart.token)
  | .comment a j, b => b = .comment a j
  | .pi a c j, b => b = .pi a c j
where
  respList : List NSNode → List NSNode → Prop
    | [], bs => bs = []
    | k :: ks, bs => ∃ k' ks', bs = k' :: ks' ∧ NSNode.Resp k k' ∧ respList ks ks'

/-- The same on token lists. -/
inductive TokRel : List Token → List Token → Prop where
  | nil : TokRel [] []
  | same (k : Token) {a b : List Token} : TokRel a b → TokRel (k :: a) (k :: b)
  | run (x : StrSpan) {r a b : List Token} : GoodRun r → TokRel a b → TokRel (.text x :: a) (r ++ b)

end XotModel
