/-
  C13: for every value filter `g` and text comparison `cmp`, the comparison of two valid trees is `Canon.rel cmp` of the
  canonical forms of `discard g` (`relSpec`); canonical forms have strictly sorted attribute lists, on which the
  finite-map relation is position-wise; with `==` this is equality: `deep_equal a b ↔ canon a = canon b`.
-/
import XotModel.Lemmas.CompareBasic

/-! ## The relational theorem, for a value-based filter whose dropped nodes are leaves -/

namespace XotModel

/-! ### `attrsRel` does not depend on the order of either list -/

theorem lookup_perm {B B' : Attrs} (p : B.Perm B') (h : keysNodup B) (k : Nat) : B.lookup k = B'.lookup k := by
  have h' := keysNodup_perm p h
  cases hb : B.lookup k with
  | some v => exact (lookup_of_mem h' (p.subset (mem_of_lookup hb))).symm
  | none =>
    cases hb' : B'.lookup k with
    | none => rfl
    | some v =>
      have := lookup_of_mem h (p.symm.subset (mem_of_lookup hb'))
      rw [hb] at this; cases this

theorem attrsRel_perm {cmp : TextCmp} {A A' B B' : Attrs} (pa : A.Perm A') (pb : B.Perm B') (hB : keysNodup B) :
    attrsRel cmp A B = attrsRel cmp A' B' := by
  unfold attrsRel
  have hf : (fun kv : Nat × Str => cmpFound cmp kv.2 (B.lookup kv.1)) =
      (fun kv : Nat × Str => cmpFound cmp kv.2 (B'.lookup kv.1)) := by
    funext kv; rw [lookup_perm pb hB]
  rw [hf, pa.length_eq, pb.length_eq, pa.all_eq]

theorem attrsRel_sort {cmp : TextCmp} {A B : Attrs} (hB : keysNodup B) :
    attrsRel cmp A B = attrsRel cmp (sortAttrs A) (sortAttrs B) :=
  attrsRel_perm (sortAttrs_perm A).symm (sortAttrs_perm B).symm hB

/-! ### `compareValue cmp` is `CValue.rel cmp` on the canonical values -/

theorem compareAttributes_eq_rel {cmp : TextCmp} {va vb : Value} {ka kb : List Tree}
    (oa : orderedKids ka = true) (ob : orderedKids kb = true) (nb : attrNamesNodup kb = true) :
    compareAttributes cmp (.node va ka) (.node vb kb) =
      attrsRel cmp (sortAttrs (attrPairs ka)) (sortAttrs (attrPairs kb)) := by
  have nb' : keysNodup (attrPairs kb) := by simpa [attrNamesNodup, keysNodup] using nb
  rw [← attrsRel_sort nb']
  unfold compareAttributes attrsRel
  rw [attrLen_of_ordered oa, attrLen_of_ordered ob, attrs_of_ordered oa]
  unfold Tree.getAttribute
  rw [attrs_of_ordered ob]
  by_cases hlen : (attrPairs ka).length = (attrPairs kb).length
  · simp [hlen]
  · have : ((attrPairs ka).length != (attrPairs kb).length) = true := by simpa using hlen
    simp [this, hlen]

theorem compareValue_eq_rel {cmp : TextCmp} {a b : Tree}
    (oa : orderedKids a.kids = true) (ob : orderedKids b.kids = true) (nb : attrNamesNodup b.kids = true) :
    compareValue cmp a b = CValue.rel cmp (cvalue a.value a.kids) (cvalue b.value b.kids) := by
  obtain ⟨va, ka⟩ := a
  obtain ⟨vb, kb⟩ := b
  simp only [Tree.value, Tree.kids] at *
  -- every pair of kinds evaluates, except element / element and PI / PI
  cases va <;> cases vb <;> try rfl
  case element.element n m =>
    simp only [compareValue, cvalue, CValue.rel, Tree.value]
    rw [compareAttributes_eq_rel oa ob nb]
  case pi.pi t d t' d' =>
    simp only [compareValue, cvalue, CValue.rel, Tree.value]
    by_cases ht : t = t'
    · subst ht; simp
    · simp [ht]

/-! ### Discarding dropped leaves -/

theorem discard_value (g : Value → Bool) (t : Tree) : (discard g t).value = t.value := by
  cases t; simp [discard, Tree.value]

theorem discard_kids (g : Value → Bool) (t : Tree) : (discard g t).kids = discardList g t.kids := by
  cases t; simp [discard, Tree.kids]

theorem attrPairs_discardList (g : Value → Bool) (ks : List Tree) : attrPairs (discardList g ks) = attrPairs ks := by
  induction ks with
  | nil => rfl
  | cons k ks ih =>
    by_cases h : (k.value.isNormal && !g k.value) = true
    · have hn : k.value.isNormal = true := by simp only [Bool.and_eq_true] at h; exact h.1
      have hv : ∀ n s, k.value ≠ .attribute n s := by
        intro n s e; rw [e] at hn; simp [Value.isNormal, Value.category] at hn
      simp only [discardList, h, ↓reduceIte, ih]
      simp only [attrPairs]
    · have h' : (k.value.isNormal && !g k.value) = false := by simpa using h
      simp only [discardList, h', Bool.false_eq_true, ↓reduceIte, attrPairs, discard_value, ih]

theorem cvalue_discardList (g : Value → Bool) (v : Value) (ks : List Tree) :
    cvalue v (discardList g ks) = cvalue v ks := by
  cases v <;> simp [cvalue, attrPairs_discardList]

def valueFilter (g : Value → Bool) : NodeFilter := fun t => g t.value
/-- The children that `canonList (discardList g ·)` keeps: normal, and `g` of the value. -/
def keptBy (g : Value → Bool) (t : Tree) : Bool := t.value.isNormal && g t.value

theorem canonList_discardList_cons (g : Value → Bool) (k : Tree) (ks : List Tree) :
    canon.canonList (discardList g (k :: ks)) =
      if keptBy g k then canon (discard g k) :: canon.canonList (discardList g ks)
      else canon.canonList (discardList g ks) := by
  by_cases hn : k.value.isNormal = true
  · by_cases hg : g k.value = true
    · simp [discardList, keptBy, hn, hg, canon.canonList, discard_value]
    · simp [discardList, keptBy, hn, hg]
  · simp [discardList, keptBy, hn, canon.canonList, discard_value]

theorem validForList_iff (g : Value → Bool) (ks : List Tree) :
    Tree.validFor.validForList g ks = true ↔ ∀ k ∈ ks, k.validFor g = true := by
  induction ks with
  | nil => simp [Tree.validFor.validForList]
  | cons k ks ih => simp [Tree.validFor.validForList, ih]

theorem validFor_node {g : Value → Bool} {v : Value} {ks : List Tree} (h : (Tree.node v ks).validFor g = true) :
    orderedKids ks = true ∧ attrNamesNodup ks = true ∧ (keptBy g (.node v ks) = true ∨ ks = []) ∧
      ∀ k ∈ ks, k.validFor g = true := by
  simp only [Tree.validFor, Bool.and_eq_true, Bool.or_eq_true, List.isEmpty_iff, validForList_iff] at h
  exact ⟨h.1.1.1, h.1.1.2, by simpa [keptBy, Tree.value] using h.1.2, h.2⟩

theorem proj_kept {g : Value → Bool} {t : Tree} (h : keptBy g t = true) :
    proj (valueFilter g) t = [.mk t (projList (valueFilter g) t.kids)] := by
  obtain ⟨v, ks⟩ := t
  have : keepNode (valueFilter g) (.node v ks) = true := by simpa [keepNode, valueFilter, keptBy] using h
  simp [proj, this, Tree.kids]

theorem proj_dropped {g : Value → Bool} {t : Tree} (hv : t.validFor g = true) (h : ¬ keptBy g t = true) :
    proj (valueFilter g) t = [] := by
  obtain ⟨v, ks⟩ := t
  obtain ⟨_, _, hl, _⟩ := validFor_node hv
  have hk : ¬ keepNode (valueFilter g) (.node v ks) = true := by simpa [keepNode, valueFilter, keptBy] using h
  rcases hl with hl | hl
  · exact absurd hl h
  · subst hl; simp [proj, hk, projList]

/-- What the theorem says about one kept node (against every other kept node). -/
def RelSpec (g : Value → Bool) (cmp : TextCmp) (k : Tree) : Prop :=
  ∀ j : Tree, k.validFor g = true → j.validFor g = true → keptBy g k = true → keptBy g j = true →
    forestEqv cmp (proj (valueFilter g) k) (proj (valueFilter g) j) =
      Canon.rel cmp (canon (discard g k)) (canon (discard g j))

theorem forestEqv_projList_rel (g : Value → Bool) (cmp : TextCmp) (as : List Tree) :
    ∀ (bs : List Tree), (∀ k ∈ as, RelSpec g cmp k) →
      (∀ k ∈ as, k.validFor g = true) → (∀ j ∈ bs, j.validFor g = true) →
      forestEqv cmp (projList (valueFilter g) as) (projList (valueFilter g) bs) =
        Canon.relList cmp (canon.canonList (discardList g as)) (canon.canonList (discardList g bs)) := by
  induction as with
  | nil =>
    intro bs _ _ vb
    induction bs with
    | nil => simp [projList, forestEqv, discardList, canon.canonList, Canon.relList]
    | cons j bs ihb =>
      have vj := vb j List.mem_cons_self
      have vb' : ∀ x ∈ bs, x.validFor g = true := fun x hx => vb x (List.mem_cons_of_mem _ hx)
      rw [canonList_discardList_cons]
      by_cases hj : keptBy g j = true
      · simp [projList, proj_kept hj, forestEqv, hj, discardList, canon.canonList, Canon.relList]
      · have hb := ihb vb'
        simp only [hj, Bool.false_eq_true, ↓reduceIte, ← hb]
        simp [projList, proj_dropped vj hj]
  | cons k as iha =>
    intro bs ih va vb
    have vk := va k List.mem_cons_self
    have va' : ∀ x ∈ as, x.validFor g = true := fun x hx => va x (List.mem_cons_of_mem _ hx)
    have ih' : ∀ x ∈ as, RelSpec g cmp x := fun x hx => ih x (List.mem_cons_of_mem _ hx)
    rw [canonList_discardList_cons g k as]
    by_cases hk : keptBy g k = true
    · simp only [hk, ↓reduceIte]
      induction bs with
      | nil => simp [projList, proj_kept hk, forestEqv, discardList, canon.canonList, Canon.relList]
      | cons j bs ihb =>
        have vj := vb j List.mem_cons_self
        have vb' : ∀ x ∈ bs, x.validFor g = true := fun x hx => vb x (List.mem_cons_of_mem _ hx)
        rw [canonList_discardList_cons g j bs]
        by_cases hj : keptBy g j = true
        · have hkj := ih k List.mem_cons_self j vk vj hk hj
          have hrest := iha bs ih' va' vb'
          rw [proj_kept hk, proj_kept hj] at hkj
          simp only [forestEqv, Bool.and_true] at hkj
          simp only [projList, proj_kept hk, proj_kept hj, List.cons_append, List.nil_append, forestEqv,
            hj, ↓reduceIte, Canon.relList, hkj, hrest]
        · have hb := ihb vb'
          simp only [hj, Bool.false_eq_true, ↓reduceIte, ← hb]
          simp [projList, proj_dropped vj hj]
    · simp only [hk, Bool.false_eq_true, ↓reduceIte, ← iha bs ih' va' vb]
      simp [projList, proj_dropped vk hk]

theorem relSpec (g : Value → Bool) (cmp : TextCmp) (t : Tree) : RelSpec g cmp t := by
  induction t using Tree.induct_mem with
  | h v ks ih =>
    intro j vk vj nk nj
    obtain ⟨w, js⟩ := j
    obtain ⟨oa, _, _, va⟩ := validFor_node vk
    obtain ⟨ob, nb, _, vb⟩ := validFor_node vj
    have hv := compareValue_eq_rel (cmp := cmp) (a := .node v ks) (b := .node w js) oa ob nb
    have hl := forestEqv_projList_rel g cmp ks js ih va vb
    rw [proj_kept nk, proj_kept nj]
    simp only [Tree.value, Tree.kids] at hv
    simp only [forestEqv, nodeEqv, Bool.and_true, Tree.kids, discard, canon, Canon.rel, cvalue_discardList, hv, hl]

/-! ### Instances: no filter, and the XPath filter -/

mutual
theorem discard_true : ∀ t : Tree, discard (fun _ => true) t = t
  | .node v ks => by simp [discard, discardList_true ks]
theorem discardList_true : ∀ ks : List Tree, discardList (fun _ => true) ks = ks
  | [] => rfl
  | k :: ks => by simp [discardList, discard_true k, discardList_true ks]
end

mutual
theorem validFor_true : ∀ t : Tree, t.validFor (fun _ => true) = t.valid
  | .node v ks => by simp [Tree.validFor, Tree.valid, validForList_true ks]
theorem validForList_true : ∀ ks : List Tree,
    Tree.validFor.validForList (fun _ => true) ks = Tree.valid.validList ks
  | [] => rfl
  | k :: ks => by simp [Tree.validFor.validForList, Tree.valid.validList, validFor_true k, validForList_true ks]
end

theorem cvalue_rel_isNormal {cmp : TextCmp} {v w : Value} {ks js : List Tree}
    (h : CValue.rel cmp (cvalue v ks) (cvalue w js) = true) : v.isNormal = w.isNormal := by
  cases v <;> cases w <;> first | rfl | cases h

/-- No filter, any text comparison, any two nodes of valid trees: the canonical forms are related
    up to `cmp`. -/
theorem advancedDeepEqual_all_rel (cmp : TextCmp) (a b : Tree) (va : a.valid = true) (vb : b.valid = true) :
    advancedDeepEqual (fun _ => true) cmp a b = Canon.rel cmp (canon a) (canon b) := by
  by_cases hn : a.value.isNormal = true ∧ b.value.isNormal = true
  · obtain ⟨na, nb⟩ := hn
    rw [advancedDeepEqual_eq _ _ _ _ na nb]
    have h := relSpec (fun _ => true) cmp a b (by rw [validFor_true]; exact va) (by rw [validFor_true]; exact vb)
      (by simp [keptBy, na]) (by simp [keptBy, nb])
    rw [discard_true, discard_true] at h
    exact h
  · have h' : ¬ a.value.isNormal = true ∨ ¬ b.value.isNormal = true := by
      by_cases ha : a.value.isNormal = true
      · exact Or.inr (fun hb => hn ⟨ha, hb⟩)
      · exact Or.inl ha
    rw [advancedDeepEqual_abnormal _ _ _ _ h']
    obtain ⟨v, ks⟩ := a
    obtain ⟨w, js⟩ := b
    obtain ⟨oa, _, _, _⟩ := valid_node va
    obtain ⟨ob, nb, _, _⟩ := valid_node vb
    rw [compareValue_eq_rel (a := .node v ks) (b := .node w js) oa ob nb]
    simp only [Tree.value, Tree.kids, canon, Canon.rel]
    cases hr : CValue.rel cmp (cvalue v ks) (cvalue w js)
    · rfl
    · have hnm := cvalue_rel_isNormal hr
      simp only [Tree.value] at h'
      have ha : ¬ v.isNormal = true := by rcases h' with h | h; exact h; rw [hnm]; exact h
      have hb : ¬ w.isNormal = true := by rw [← hnm]; exact ha
      have e1 := kids_nil_of_abnormal va (by simpa [Tree.value] using ha)
      have e2 := kids_nil_of_abnormal vb (by simpa [Tree.value] using hb)
      simp only [Tree.kids] at e1 e2
      subst e1 e2; rfl

theorem validFor_of_root {g : Value → Bool} {t : Tree} (h : t.validRootFor g = true) (hk : keptBy g t = true) :
    t.validFor g = true := by
  obtain ⟨v, ks⟩ := t
  simp only [Tree.validRootFor, Tree.kids, Bool.and_eq_true, List.all_eq_true] at h
  simp only [keptBy, Tree.value] at hk
  simp only [Tree.validFor, Bool.and_eq_true, Bool.or_eq_true, validForList_iff]
  exact ⟨⟨⟨h.1.1, h.1.2⟩, Or.inl (by simpa using hk)⟩, h.2⟩

theorem Compare.keptBy_xpathKeep_of_isElement {t : Tree} (h : t.value.isElement = true) : keptBy xpathKeep t = true := by
  obtain ⟨v, ks⟩ := t
  cases v with
  | element n => rfl
  | _ => cases h

theorem xpath_elements_rel (cmp : TextCmp) (a b : Tree) (va : a.validRootFor xpathKeep = true)
    (vb : b.validRootFor xpathKeep = true) (ea : a.value.isElement = true) (eb : b.value.isElement = true) :
    advancedDeepEqual xpathFilter cmp a b =
      Canon.rel cmp (canon (discard xpathKeep a)) (canon (discard xpathKeep b)) := by
  have ka := Compare.keptBy_xpathKeep_of_isElement ea
  have kb := Compare.keptBy_xpathKeep_of_isElement eb
  have na : a.value.isNormal = true := by simp only [keptBy, Bool.and_eq_true] at ka; exact ka.1
  have nb : b.value.isNormal = true := by simp only [keptBy, Bool.and_eq_true] at kb; exact kb.1
  rw [advancedDeepEqual_eq _ _ _ _ na nb]
  exact relSpec xpathKeep cmp a b (validFor_of_root va ka) (validFor_of_root vb kb) ka kb

/-- The XPath filter on two documents: the document nodes themselves are filtered out, their
    children are compared as forests. -/
theorem xpath_documents_rel (cmp : TextCmp) (a b : Tree) (va : a.validRootFor xpathKeep = true)
    (vb : b.validRootFor xpathKeep = true) (da : a.value = .document) (db : b.value = .document) :
    advancedDeepEqual xpathFilter cmp a b =
      Canon.rel cmp (canon (discard xpathKeep a)) (canon (discard xpathKeep b)) := by
  obtain ⟨v, ks⟩ := a
  obtain ⟨w, js⟩ := b
  simp only [Tree.value] at da db
  subst da db
  simp only [Tree.validRootFor, Tree.kids, Bool.and_eq_true, List.all_eq_true] at va vb
  rw [advancedDeepEqual_eq _ _ _ _ (by rfl) (by rfl)]
  have hl := forestEqv_projList_rel xpathKeep cmp ks js (fun k _ => relSpec xpathKeep cmp k) va.2 vb.2
  have hk : ∀ l : List Tree, keepNode xpathFilter (.node .document l) = false := by
    intro l; simp [keepNode, xpathFilter, Tree.value, Value.isElement, Value.isText]
  have hf : xpathFilter = valueFilter xpathKeep := rfl
  simp only [proj, hk, Bool.false_eq_true, ↓reduceIte, discard, canon, Canon.rel, cvalue, CValue.rel, Bool.true_and]
  rw [hf]; exact hl

end XotModel

/-! ## The canonical form is a sorted normal form. The attribute list of every element of `canon t` (t structurally valid) is strictly sorted by name; on strictly sorted lists the finite-map relation `attrsRel` (same size + lookup) is the position-wise comparison `attrsRelPos`; and position-wise comparison with `==` is equality. -/

namespace XotModel

/-- Position-wise comparison of two attribute lists: same names in the same order, values
    related by `cmp`. -/
def attrsRelPos (cmp : TextCmp) : Attrs → Attrs → Bool
  | [], [] => true
  | x :: as, y :: bs => x.1 == y.1 && cmp x.2 y.2 && attrsRelPos cmp as bs
  | _, _ => false

def keyLt (a b : Nat × Str) : Prop := a.1 < b.1

/-- Strictly increasing names. -/
def strictSorted (l : Attrs) : Prop := l.Pairwise keyLt

theorem strictSorted_of_sorted_nodup {l : Attrs} (hs : l.Pairwise keyLe) (hn : keysNodup l) : strictSorted l := by
  induction l with
  | nil => exact List.Pairwise.nil
  | cons x xs ih =>
    rw [keysNodup_cons] at hn
    rw [List.pairwise_cons] at hs
    refine List.pairwise_cons.mpr ⟨?_, ih hs.2 hn.2⟩
    intro y hy
    have h1 : x.1 ≤ y.1 := hs.1 y hy
    have h2 : y.1 ≠ x.1 := hn.1 y hy
    show x.1 < y.1
    omega

theorem sortAttrs_strictSorted {l : Attrs} (hn : keysNodup l) : strictSorted (sortAttrs l) :=
  strictSorted_of_sorted_nodup (sortAttrs_sorted l) (keysNodup_perm (sortAttrs_perm l).symm hn)

theorem keysNodup_of_strictSorted {l : Attrs} (h : strictSorted l) : keysNodup l := by
  induction l with
  | nil => exact List.nodup_nil
  | cons x xs ih =>
    rw [strictSorted, List.pairwise_cons] at h
    rw [keysNodup_cons]
    refine ⟨fun y hy e => ?_, ih h.2⟩
    have : x.1 < y.1 := h.1 y hy
    omega

theorem keys_pairwise_lt {l : Attrs} (h : strictSorted l) : (l.map (·.1)).Pairwise (· < ·) := by
  induction l with
  | nil => exact List.Pairwise.nil
  | cons x xs ih =>
    rw [strictSorted, List.pairwise_cons] at h
    simp only [List.map_cons, List.pairwise_cons, List.mem_map]
    refine ⟨?_, ih h.2⟩
    rintro k ⟨y, hy, rfl⟩
    exact h.1 y hy

/-! ### `attrsRel` on strictly sorted lists -/

theorem lookup_isSome_mem_keys {l : Attrs} {k : Nat} (h : (l.lookup k).isSome = true) : k ∈ l.map (·.1) := by
  cases hl : l.lookup k with
  | none => rw [hl] at h; cases h
  | some v => exact List.mem_map.mpr ⟨(k, v), mem_of_lookup hl, rfl⟩

/-- The finite-map relation forces the same names; strictly sorted lists then list them in the
    same order. -/
theorem keys_eq_of_attrsRel {cmp : TextCmp} {a b : Attrs} (ha : strictSorted a) (hb : strictSorted b)
    (h : attrsRel cmp a b = true) : a.map (·.1) = b.map (·.1) := by
  simp only [attrsRel, Bool.and_eq_true, beq_iff_eq, List.all_eq_true] at h
  obtain ⟨hlen, hall⟩ := h
  have hsub : ∀ k ∈ a.map (·.1), k ∈ b.map (·.1) := by
    intro k hk
    obtain ⟨kv, hkv, rfl⟩ := List.mem_map.mp hk
    have := hall kv hkv
    apply lookup_isSome_mem_keys
    cases hl : b.lookup kv.1 with
    | none => rw [hl] at this; simp [cmpFound] at this
    | some v => rfl
  have hp : (a.map (·.1)).Perm (b.map (·.1)) :=
    perm_of_subset_length (keysNodup_of_strictSorted ha) hsub (by simpa using hlen)
  refine List.Perm.eq_of_pairwise (le := (· < ·)) ?_ (keys_pairwise_lt ha) (keys_pairwise_lt hb) hp
  intro x y _ _ hxy hyx
  omega

theorem keys_eq_of_attrsRelPos {cmp : TextCmp} : ∀ {a b : Attrs}, attrsRelPos cmp a b = true →
    a.map (·.1) = b.map (·.1)
  | [], [], _ => rfl
  | [], _ :: _, h => by simp [attrsRelPos] at h
  | _ :: _, [], h => by simp [attrsRelPos] at h
  | x :: as, y :: bs, h => by
    simp only [attrsRelPos, Bool.and_eq_true, beq_iff_eq] at h
    simp only [List.map_cons, h.1.1, keys_eq_of_attrsRelPos h.2]

theorem lookup_cons_ne {k k' : Nat} {v : Str} {l : Attrs} (h : k ≠ k') : List.lookup k ((k', v) :: l) = l.lookup k := by
  have : (k == k') = false := by simpa using h
  rw [List.lookup_cons, this]

/-- With the same names in the same order (no repetition), lookup is position. -/
theorem attrsRel_eq_pos_of_keys {cmp : TextCmp} : ∀ {a b : Attrs}, keysNodup a → a.map (·.1) = b.map (·.1) →
    attrsRel cmp a b = attrsRelPos cmp a b
  | [], [], _, _ => by simp [attrsRel, attrsRelPos]
  | [], _ :: _, _, h => by simp at h
  | _ :: _, [], _, h => by simp at h
  | (k, v) :: as, (k', v') :: bs, hn, h => by
    simp only [List.map_cons, List.cons.injEq] at h
    obtain ⟨hk, hrest⟩ := h
    subst hk
    rw [keysNodup_cons] at hn
    have ih := attrsRel_eq_pos_of_keys (cmp := cmp) hn.2 hrest
    have hl : as.all (fun kv => cmpFound cmp kv.2 (List.lookup kv.1 ((k, v') :: bs))) =
        as.all (fun kv => cmpFound cmp kv.2 (bs.lookup kv.1)) := by
      rw [Bool.eq_iff_iff]
      simp only [List.all_eq_true]
      constructor
      · intro h kv hkv; rw [← lookup_cons_ne (v := v') (hn.1 kv hkv)]; exact h kv hkv
      · intro h kv hkv; rw [lookup_cons_ne (hn.1 kv hkv)]; exact h kv hkv
    simp only [attrsRel, List.length_cons, List.all_cons, hl] at ih ⊢
    simp only [attrsRelPos, ← ih, List.lookup_cons_self, cmpFound, beq_self_eq_true, Bool.true_and]
    have : (as.length + 1 == bs.length + 1) = (as.length == bs.length) := by
      cases hh : as.length == bs.length <;> simp_all
    rw [this]
    cases as.length == bs.length <;> cases cmp v v' <;> simp

/-- On strictly sorted attribute lists "same size and every entry found" is position-wise
    comparison. -/
theorem attrsRel_eq_attrsRelPos (cmp : TextCmp) {a b : Attrs} (ha : strictSorted a) (hb : strictSorted b) :
    attrsRel cmp a b = attrsRelPos cmp a b := by
  by_cases hk : a.map (·.1) = b.map (·.1)
  · exact attrsRel_eq_pos_of_keys (keysNodup_of_strictSorted ha) hk
  · cases h1 : attrsRel cmp a b
    · cases h2 : attrsRelPos cmp a b
      · rfl
      · exact absurd (keys_eq_of_attrsRelPos h2) hk
    · exact absurd (keys_eq_of_attrsRel ha hb h1) hk

theorem attrsRelPos_strEq_iff : ∀ {a b : Attrs}, attrsRelPos strEq a b = true ↔ a = b
  | [], [] => by simp [attrsRelPos]
  | [], _ :: _ => by simp [attrsRelPos]
  | _ :: _, [] => by simp [attrsRelPos]
  | (k, v) :: as, (k', v') :: bs => by
    simp only [attrsRelPos, Bool.and_eq_true, beq_iff_eq, strEq, attrsRelPos_strEq_iff (a := as) (b := bs),
      List.cons.injEq, Prod.mk.injEq, and_assoc]

/-- `CValue.rel` with the attribute lists compared position-wise. -/
def CValue.relPos (cmp : TextCmp) : CValue → CValue → Bool
  | .element n a, .element m b => n == m && attrsRelPos cmp a b
  | v, w => CValue.rel cmp v w

mutual
/-- `Canon.rel` with the attribute lists compared position-wise: a plain simultaneous walk over the
    two normal forms. -/
def Canon.relPos (cmp : TextCmp) : Canon → Canon → Bool
  | .node v ks, .node w js => CValue.relPos cmp v w && Canon.relPosList cmp ks js
def Canon.relPosList (cmp : TextCmp) : List Canon → List Canon → Bool
  | [], [] => true
  | [], _ :: _ => false
  | _ :: _, [] => false
  | x :: xs, y :: ys => Canon.relPos cmp x y && Canon.relPosList cmp xs ys
end

def CValue.sorted : CValue → Prop
  | .element _ attrs => strictSorted attrs
  | _ => True

/-- Every element's attribute list is strictly sorted by name. -/
def Canon.sorted : Canon → Prop
  | .node v ks => v.sorted ∧ sortedList ks
where
  sortedList : List Canon → Prop
    | [] => True
    | k :: ks => Canon.sorted k ∧ sortedList ks

theorem cvalue_sorted {v : Value} {ks : List Tree} (h : attrNamesNodup ks = true) : (cvalue v ks).sorted := by
  cases v <;> simp only [cvalue, CValue.sorted]
  exact sortAttrs_strictSorted (by simpa [attrNamesNodup, keysNodup] using h)

theorem canonList_sorted {ks : List Tree} (h : ∀ k ∈ ks, (canon k).sorted) : Canon.sorted.sortedList (canon.canonList ks) := by
  induction ks with
  | nil => simp [canon.canonList, Canon.sorted.sortedList]
  | cons k ks ih =>
    have ih' := ih (fun x hx => h x (List.mem_cons_of_mem _ hx))
    simp only [canon.canonList]
    split
    · exact ⟨h k List.mem_cons_self, ih'⟩
    · exact ih'

theorem canon_sorted (t : Tree) : t.valid = true → (canon t).sorted := by
  induction t using Tree.induct_mem with
  | h v ks ih =>
    intro hv
    obtain ⟨_, hn, _, hk⟩ := valid_node hv
    exact ⟨cvalue_sorted hn, canonList_sorted (fun k hk' => ih k hk' (hk k hk'))⟩

theorem CValue.rel_eq_relPos (cmp : TextCmp) {v w : CValue} (hv : v.sorted) (hw : w.sorted) :
    CValue.rel cmp v w = CValue.relPos cmp v w := by
  cases v <;> cases w <;> simp only [CValue.rel, CValue.relPos]
  rw [attrsRel_eq_attrsRelPos cmp hv hw]

mutual
theorem Canon.rel_eq_relPos (cmp : TextCmp) : ∀ (x y : Canon), x.sorted → y.sorted →
    Canon.rel cmp x y = Canon.relPos cmp x y
  | .node v ks, .node w js, hx, hy => by
    simp only [Canon.rel, Canon.relPos, CValue.rel_eq_relPos cmp hx.1 hy.1,
      Canon.relList_eq_relPosList cmp ks js hx.2 hy.2]
theorem Canon.relList_eq_relPosList (cmp : TextCmp) : ∀ (xs ys : List Canon),
    Canon.sorted.sortedList xs → Canon.sorted.sortedList ys → Canon.relList cmp xs ys = Canon.relPosList cmp xs ys
  | [], [], _, _ => rfl
  | [], _ :: _, _, _ => rfl
  | _ :: _, [], _, _ => rfl
  | x :: xs, y :: ys, hx, hy => by
    simp only [Canon.relList, Canon.relPosList, Canon.rel_eq_relPos cmp x y hx.1 hy.1,
      Canon.relList_eq_relPosList cmp xs ys hx.2 hy.2]
end

theorem CValue.relPos_strEq_iff {v w : CValue} : CValue.relPos strEq v w = true ↔ v = w := by
  cases v <;> cases w <;> simp [CValue.relPos, CValue.rel, strEq, attrsRelPos_strEq_iff]
  case pi.pi t d t' d' =>
    cases d <;> cases d' <;> simp

/-- `advanced_compare_value` with `==` is equality of the canonical values. -/
theorem compareValue_strEq_iff {a b : Tree} (oa : orderedKids a.kids = true) (ob : orderedKids b.kids = true)
    (na : attrNamesNodup a.kids = true) (nb : attrNamesNodup b.kids = true) :
    compareValue strEq a b = true ↔ cvalue a.value a.kids = cvalue b.value b.kids := by
  rw [compareValue_eq_rel oa ob nb, CValue.rel_eq_relPos strEq (cvalue_sorted na) (cvalue_sorted nb)]
  exact CValue.relPos_strEq_iff

mutual
theorem Canon.relPos_strEq_iff : ∀ (x y : Canon), Canon.relPos strEq x y = true ↔ x = y
  | .node v ks, .node w js => by
    simp only [Canon.relPos, Bool.and_eq_true, CValue.relPos_strEq_iff, Canon.relPosList_strEq_iff ks js,
      Canon.node.injEq]
theorem Canon.relPosList_strEq_iff : ∀ (xs ys : List Canon), Canon.relPosList strEq xs ys = true ↔ xs = ys
  | [], [] => by simp [Canon.relPosList]
  | [], _ :: _ => by simp [Canon.relPosList]
  | _ :: _, [] => by simp [Canon.relPosList]
  | x :: xs, y :: ys => by
    simp only [Canon.relPosList, Bool.and_eq_true, Canon.relPos_strEq_iff x y, Canon.relPosList_strEq_iff xs ys,
      List.cons.injEq]
end

end XotModel

/-! ## `deep_equal`: the instance "no filter, `==`" of the relational theorem, read on the sorted normal form -/

namespace XotModel

/-- `deep_equal` on any two nodes of valid trees holds exactly when the canonical forms agree. -/
theorem deepEqual_iff_canon (a b : Tree) (va : a.valid = true) (vb : b.valid = true) :
    deepEqual a b = true ↔ canon a = canon b := by
  rw [deepEqual, advancedDeepEqual_all_rel strEq a b va vb,
    Canon.rel_eq_relPos strEq _ _ (canon_sorted a va) (canon_sorted b vb)]
  exact Canon.relPos_strEq_iff _ _

end XotModel
