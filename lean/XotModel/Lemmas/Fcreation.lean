/-
  The convenience calls of `Model/Fcreation.lean` (compositions of a node creation
  and one call of the forest model, node-map wrappers, value setters): preservation of the
  invariant (C04) and the C06 clauses, as corollaries of the statements about the calls they
  consist of.  (The C05 statements about them are proved in `Props/C05.lean`.)
-/
import XotModel.Model.Fcreation
import XotModel.Lemmas.FinvStep
import XotModel.Lemmas.FatomAll

namespace XotModel
namespace Forest

theorem attributeSetValue_inv {f : Forest} (hi : f.Inv) (node : Nat) (s : Str) :
    (f.attributeSetValue node s).1.Inv := by
  unfold attributeSetValue
  split
  · rename_i n v0 hv
    exact setValue_inv hi hv ⟨rfl, rfl, rfl, rfl⟩ (fun x => rfl)
  · exact hi

theorem namespaceSetNamespace_inv {f : Forest} (hi : f.Inv) (node ns : Nat) :
    (f.namespaceSetNamespace node ns).1.Inv := by
  unfold namespaceSetNamespace
  split
  · rename_i p n0 hv
    exact setValue_inv hi hv ⟨rfl, rfl, rfl, rfl⟩ (fun x => rfl)
  · exact hi

theorem piSetTarget_inv {f : Forest} (hi : f.Inv) (node target : Nat) : (f.piSetTarget node target).1.Inv := by
  unfold piSetTarget
  split
  · rename_i t d hv
    exact setValue_inv hi hv ⟨rfl, rfl, rfl, rfl⟩ (fun x => rfl)
  · exact hi

theorem textPush_inv {f : Forest} (hi : f.Inv) (node : Nat) (s : Str) : (f.textPush node s).1.Inv := by
  unfold textPush
  split
  · rename_i old hv
    exact setValue_inv hi hv ⟨rfl, rfl, rfl, rfl⟩ (fun x => rfl)
  · exact hi

theorem elementSetName_inv {f : Forest} (hi : f.Inv) (node name : Nat) : (f.elementSetName node name).1.Inv := by
  unfold elementSetName
  split
  · rename_i he
    obtain ⟨n, hv⟩ := value?_of_isElement he
    exact setValue_inv hi hv ⟨rfl, rfl, rfl, rfl⟩ (fun x => rfl)
  · exact hi

theorem valueMutSet_inv {f : Forest} (hi : f.Inv) (node : Nat) (s : Str) : (f.valueMutSet node s).1.Inv := by
  unfold valueMutSet
  split
  · exact setText_inv hi node s
  · exact setComment_inv hi node s
  · exact attributeSetValue_inv hi node s
  · exact setPiData_inv hi node (some s)
  · exact hi

theorem newDocumentWithElement_inv {f : Forest} (hi : f.Inv) (node : Nat) :
    (f.newDocumentWithElement node).1.Inv := by
  unfold newDocumentWithElement
  split
  · exact hi
  · exact append_inv (Fcreation.newNode_inv hi _) _ _

/-- Every call of `Model/Fcreation.lean` preserves the invariant, for all arguments (live or
    not) and whatever it answers: each is a composition of steps of `Forest.step`. -/
theorem COp.run_inv {f : Forest} (hi : f.Inv) (c : COp) : (c.run f).1.Inv := by
  cases c with
  | newDocumentWithElement n => exact newDocumentWithElement_inv hi n
  | appendNew p v => exact append_inv (Fcreation.newNode_inv hi v) _ _
  | appendNamespace p pfx ns => exact appendEntryNode_inv (Fcreation.newNode_inv hi _) _ _ _
  | setAttribute n k v => exact mapInsert_inv hi _ n _ rfl
  | removeAttribute n k => exact mapRemove_inv hi _ n k
  | setNamespace n p ns => exact mapInsert_inv hi _ n _ rfl
  | removeNamespace n p => exact mapRemove_inv hi _ n p
  | elementSetName n name => exact elementSetName_inv hi n name
  | attributeSetValue n s => exact attributeSetValue_inv hi n s
  | namespaceSetNamespace n ns => exact namespaceSetNamespace_inv hi n ns
  | piSetTarget n t => exact piSetTarget_inv hi n t
  | textPush n s => exact textPush_inv hi n s
  | valueMutSet n s => exact valueMutSet_inv hi n s

/-- The clauses of C06 for one call of `Model/Fcreation.lean`. -/
structure CClauses (f : Forest) (c : COp) : Prop where
  /-- a refusal leaves the store as it was, plus (for the calls that create a node before they
      ask `append`) that one fresh node, parentless -/
  atomic : ∀ e, (c.run f).2 = .err e → (c.run f).1 = c.refusedState f
  /-- the only panics are the documented ones … -/
  panic_iff : (c.run f).2 = .panic ↔ c.documentedPanic f = true
  /-- … and they change nothing -/
  panic_same : (c.run f).2 = .panic → (c.run f).1 = f
  notCorrupt : (c.run f).1.corrupt = false

theorem cclauses_of_clauses {f g : Forest} {c : COp} (hdoc : c.documentedPanic f = false)
    (hg : c.refusedState f = g) (h : C06Clauses g (c.run f)) : CClauses f c :=
  ⟨fun e he => (by rw [hg]; exact h.atomic e he),
   ⟨fun hp => absurd hp h.noPanic, fun hd => (by rw [hdoc] at hd; cases hd)⟩,
   fun hp => absurd hp h.noPanic, h.notCorrupt⟩

theorem cclauses_of_elementOnly {f : Forest} {c : COp} {n : Nat}
    (hdoc : c.documentedPanic f = !f.isElement n) (hg : c.refusedState f = f) (hc : f.corrupt = false)
    (h : ElementOnly f n (c.run f)) : CClauses f c := by
  refine ⟨fun e he => ?_, ?_, fun hp => ?_, h.notCorrupt hc⟩
  · rw [hg]
    cases hel : f.isElement n with
    | false => rw [h.panics hel] at he; cases he
    | true => exact (h.clauses hel).atomic e he
  · rw [hdoc, h.panic_iff]; cases f.isElement n <;> simp
  · rw [h.panics (h.panic_iff.mp hp)]

/-- A setter: refused with nothing changed, or exactly one value written. -/
def SetterShape (f : Forest) (r : Forest × Res) : Prop :=
  r = (f, .err .invalidOperation) ∨ (∃ n v, r = (f.setValue n v, .ok)) ∨ r = (f, .err .invalidComment)

theorem cclauses_of_setter {f : Forest} {c : COp} (hdoc : c.documentedPanic f = false)
    (hg : c.refusedState f = f) (hc : f.corrupt = false) (h : SetterShape f (c.run f)) : CClauses f c := by
  have key : ∀ g r, c.run f = (g, r) → r ≠ .panic → (∀ e, r = .err e → g = f) → g.corrupt = false →
      CClauses f c := by
    intro g r h hnp hat hgc
    refine ⟨fun e he => ?_, ⟨fun hp => ?_, fun hd => ?_⟩, fun hp => ?_, ?_⟩
    · rw [h] at he ⊢; rw [hg]; exact hat e he
    · rw [h] at hp; exact absurd hp hnp
    · rw [hdoc] at hd; cases hd
    · rw [h] at hp; exact absurd hp hnp
    · rw [h]; exact hgc
  rcases h with h | ⟨n, v, h⟩ | h
  · exact key _ _ h (by simp) (fun _ _ => rfl) hc
  · exact key _ _ h (by simp) (fun e he => by cases he) hc
  · exact key _ _ h (by simp) (fun _ _ => rfl) hc

theorem setText_shape (f : Forest) (n : Nat) (s : Str) : SetterShape f (f.setText n s) := by
  unfold setText; split
  · exact Or.inr (Or.inl ⟨_, _, rfl⟩)
  · exact Or.inl rfl

theorem setComment_shape (f : Forest) (n : Nat) (s : Str) : SetterShape f (f.setComment n s) := by
  unfold setComment; split
  · split
    · exact Or.inr (Or.inr rfl)
    · exact Or.inr (Or.inl ⟨_, _, rfl⟩)
  · exact Or.inl rfl

theorem setPiData_shape (f : Forest) (n : Nat) (d : Option Str) : SetterShape f (f.setPiData n d) := by
  unfold setPiData; split
  · exact Or.inr (Or.inl ⟨_, _, rfl⟩)
  · exact Or.inl rfl

theorem elementSetName_shape (f : Forest) (n name : Nat) : SetterShape f (f.elementSetName n name) := by
  unfold elementSetName; split
  · exact Or.inr (Or.inl ⟨_, _, rfl⟩)
  · exact Or.inl rfl

theorem attributeSetValue_shape (f : Forest) (n : Nat) (s : Str) : SetterShape f (f.attributeSetValue n s) := by
  unfold attributeSetValue; split
  · exact Or.inr (Or.inl ⟨_, _, rfl⟩)
  · exact Or.inl rfl

theorem namespaceSetNamespace_shape (f : Forest) (n ns : Nat) : SetterShape f (f.namespaceSetNamespace n ns) := by
  unfold namespaceSetNamespace; split
  · exact Or.inr (Or.inl ⟨_, _, rfl⟩)
  · exact Or.inl rfl

theorem piSetTarget_shape (f : Forest) (n t : Nat) : SetterShape f (f.piSetTarget n t) := by
  unfold piSetTarget; split
  · exact Or.inr (Or.inl ⟨_, _, rfl⟩)
  · exact Or.inl rfl

theorem textPush_shape (f : Forest) (n : Nat) (s : Str) : SetterShape f (f.textPush n s) := by
  unfold textPush; split
  · exact Or.inr (Or.inl ⟨_, _, rfl⟩)
  · exact Or.inl rfl

theorem valueMutSet_shape (f : Forest) (n : Nat) (s : Str) : SetterShape f (f.valueMutSet n s) := by
  unfold valueMutSet; split
  · exact setText_shape f n s
  · exact setComment_shape f n s
  · exact attributeSetValue_shape f n s
  · exact setPiData_shape f n (some s)
  · exact Or.inl rfl

/-- Under a fresh document node `append` of an element passes the structure check, so it is
    carried out (`append_ok`: no late `NodeError`). -/
theorem newDocument_append_ok {f : Forest} (w : f.W) {n : Nat} (he : f.isElement n = true) :
    MoveOk (f.newNode .document).1 ((f.newNode .document).1.append f.next n) n := by
  obtain ⟨_, w1, fr, hg, hr, _⟩ := newNode_spec w .document
  have hlive : f.isLive n = true := by
    unfold isElement value? at he; unfold isLive
    cases hgn : f.get? n with
    | none => rw [hgn] at he; simp at he
    | some t => rfl
  have hne : n ≠ f.next := fun e => by
    have := w.below n ((isLive_iff_mem f n).1 hlive); omega
  have hsc : (f.newNode .document).1.structureCheck (some f.next) n = true := by
    have h1 : (f.newNode .document).1.isDocument f.next = true := by
      unfold isDocument value?; rw [hg]; rfl
    have h2 : (f.newNode .document).1.ancestors f.next = [f.next] := ancestors_root_of_isRoot w1 hr
    have h3 : (f.newNode .document).1.value? n = f.value? n := by
      unfold value?; rw [newNode_get? _ hlive]
    obtain ⟨nm, hv⟩ := value?_of_isElement he
    simp only [structureCheck, h1, h2, h3, hv]
    simp [hne]
  exact append_ok w1 hsc

/-- `new_document_with_element` of an element never fails (the only refusal is the `is_element`
    test, made before anything is created) and returns the new document node. -/
theorem newDocumentWithElement_ok {f : Forest} (w : f.W) {n : Nat} (he : f.isElement n = true) :
    (f.newDocumentWithElement n).2.1 = .ok ∧ (f.newDocumentWithElement n).2.2 = f.next := by
  have m := newDocument_append_ok w he
  unfold newDocumentWithElement
  simp only [he, Bool.not_true, Bool.false_eq_true, if_false]
  exact ⟨m.ok, rfl⟩

/-- The calls of `Model/Fcreation.lean` on a store satisfying the invariant: C06. -/
theorem COp.run_clauses {f : Forest} (hi : f.Inv) (c : COp) : CClauses f c := by
  have w := hi.toW
  have hc := hi.notCorrupt
  cases c with
  | newDocumentWithElement n =>
    refine cclauses_of_clauses rfl rfl ?_
    show C06Clauses f ((f.newDocumentWithElement n).1, (f.newDocumentWithElement n).2.1)
    unfold Forest.newDocumentWithElement
    split
    · exact clauses_refused hc _
    · -- after the `is_element` test the `append` under the fresh document node cannot be refused
      rename_i he
      have m := newDocument_append_ok w (n := n) (by simpa using he)
      show C06Clauses f (((f.newNode .document).1.append f.next n).1, ((f.newNode .document).1.append f.next n).2)
      exact ⟨fun e he' => (by rw [m.ok] at he'; cases he'), (by rw [m.ok]; simp),
        (by rw [m.corrupt]; exact hc)⟩
  | appendNew p v =>
    obtain ⟨_, w1, _, _, _, _⟩ := newNode_spec w v
    exact cclauses_of_clauses rfl rfl ((append_outcome w1 p _).clauses hc)
  | appendNamespace p pfx ns =>
    obtain ⟨_, w1, _, hg, _, _⟩ := newNode_spec w (.namespace pfx ns)
    have hl := Forest.isLive_of_get? hg
    exact cclauses_of_clauses rfl rfl
      (clauses_of_outcome3 (f := (f.newNode (.namespace pfx ns)).1) hc (appendEntryNode_outcome w1 .namespaces p f.next hl))
  | setAttribute n k v =>
    exact cclauses_of_elementOnly rfl rfl hc (elementOnly_of hc (mapInsert_outcome w _ n _))
  | removeAttribute n k =>
    exact cclauses_of_elementOnly rfl rfl hc (elementOnly_of hc (mapRemove_outcome w _ n k))
  | setNamespace n p ns =>
    exact cclauses_of_elementOnly rfl rfl hc (elementOnly_of hc (mapInsert_outcome w _ n _))
  | removeNamespace n p =>
    exact cclauses_of_elementOnly rfl rfl hc (elementOnly_of hc (mapRemove_outcome w _ n p))
  | elementSetName n name => exact cclauses_of_setter rfl rfl hc (elementSetName_shape f n name)
  | attributeSetValue n s => exact cclauses_of_setter rfl rfl hc (attributeSetValue_shape f n s)
  | namespaceSetNamespace n ns => exact cclauses_of_setter rfl rfl hc (namespaceSetNamespace_shape f n ns)
  | piSetTarget n t => exact cclauses_of_setter rfl rfl hc (piSetTarget_shape f n t)
  | textPush n s => exact cclauses_of_setter rfl rfl hc (textPush_shape f n s)
  | valueMutSet n s => exact cclauses_of_setter rfl rfl hc (valueMutSet_shape f n s)

end Forest
end XotModel
