/-
  Parse, then edit — the values of every tree of the resulting store are in the XML domain
  when the parsed text was accepted outside the two guards and the values handed to the API are in the
  domain (of the tables at the time of each call).
-/
import XotModel.Lemmas.FparseValsDomain
import XotModel.Lemmas.FparseHistReach

namespace XotModel
open HTree Repair

theorem fpvd_parse_VOK {env : Env} {text : Str} {p : Parsed} (henv : envOK env = true)
    (h : parseString .document env text = .ok p) (hg : NoReservedDecls p.env p.tree = true)
    (hpi : PlainPiTargets p.env p.tree = true) (htab : nameTableOK p.env = true) :
    ((PStore.init env).run [.parse .document text]).store.FpvdOK := by
  obtain ⟨h1, _, h3⟩ := PStore.fph_parse_init env h
  obtain ⟨c1, c2, _, _, _⟩ := fph_accepted_value_conditions henv h hg hpi
  have hinv : ((PStore.init env).run [.parse .document text]).forest.Inv :=
    PStore.fph_run_inv _ (PStore.fph_init_inv env) (fun c hc => by
      rcases List.mem_singleton.mp hc with rfl; trivial)
  refine ⟨hinv, ?_, ?_, ?_⟩
  · show envOK ((PStore.init env).run [.parse .document text]).env = true
    rw [h3]; exact c1
  · show nameTableOK ((PStore.init env).run [.parse .document text]).env = true
    rw [h3]; exact htab
  · show Forest.fpvQF (fpvdVal ((PStore.init env).run [.parse .document text]).env)
      ((PStore.init env).run [.parse .document text]).forest
    rw [fpvd_QF_iff, h1, h3]
    intro r hr
    rcases List.mem_singleton.mp hr with rfl
    rw [fph_erase_ofTree]; exact c2

/-- **Parse, then edit: every value of every tree of the resulting store is in the XML domain of the
    tables the store has then**, and those tables are well formed — only the prefix table has grown
    since the parse. -/
theorem fpvd_parse_then_edit {env : Env} {text : Str} {p : Parsed} (henv : envOK env = true)
    (h : parseString .document env text = .ok p) (hg : NoReservedDecls p.env p.tree = true)
    (hpi : PlainPiTargets p.env p.tree = true) (htab : nameTableOK p.env = true)
    (cs : List Forest.XCall) (hw : ∀ c ∈ cs, c.wellKinded)
    (ha : ((PStore.init env).run [.parse .document text]).store.argValuesOKAlong cs) :
    envOK ((PStore.init env).run (.parse .document text :: cs.map .api)).env = true ∧
    PrefixExt p.env ((PStore.init env).run (.parse .document text :: cs.map .api)).env ∧
    ∀ r ∈ ((PStore.init env).run (.parse .document text :: cs.map .api)).forest.roots,
      r.erase.allNodes
        (fun v _ => valueOK ((PStore.init env).run (.parse .document text :: cs.map .api)).env v) = true := by
  have h0 := fpvd_parse_VOK henv h hg hpi htab
  obtain ⟨hv, hext⟩ := Store.fpvd_xrun cs h0 hw ha
  have hrun : (PStore.init env).run (.parse .document text :: cs.map .api) =
      ((PStore.init env).run [.parse .document text]).run (cs.map .api) := rfl
  have hst := (PStore.fph_run_api cs ((PStore.init env).run [.parse .document text])).1
  have he : ((PStore.init env).run (.parse .document text :: cs.map .api)).env =
      (((PStore.init env).run [.parse .document text]).store.xrun cs).env := by
    rw [hrun]; exact congrArg Store.env hst
  have hf : ((PStore.init env).run (.parse .document text :: cs.map .api)).forest =
      (((PStore.init env).run [.parse .document text]).store.xrun cs).forest := by
    rw [hrun]; exact congrArg Store.forest hst
  have h3 := (PStore.fph_parse_init env h).2.2
  refine ⟨by rw [he]; exact hv.tables, ?_, ?_⟩
  · rw [he]
    have : ((PStore.init env).run [.parse .document text]).store.env = p.env := h3
    rw [← this]; exact hext
  · rw [he, hf]
    exact (fpvd_QF_iff _ _).mp hv.values

end XotModel
