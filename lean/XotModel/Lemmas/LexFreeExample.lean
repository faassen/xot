/-
  Closed data for the non-vacuity examples of the lexical-layout
  theorems (Props/C02.lean): one spelling `exSns`, one layout of its tokens `exDoc` with a BOM, an
  XML declaration with single quotes and white space around `=`, a comment before the root, single
  and double quotes, TAB / LF / CR LF inside tags, white space around `=`, before `>` and `/>`, in
  the end tag, between the top-level items and at the end:

      U+FEFF<?xml version = '1.0' encoding="UTF-8" ?>LF<!--c-->LF<p:a LF TAB xmlns:p='u' k = CR LF "v&amp;" TAB><b LF/>t</p:a LF>LF
-/
import XotModel.Lemmas.LexFreeTop
import XotModel.Lemmas.ParseNsDefs

namespace XotModel.Witness

/-- `<!--c--><p:a xmlns:p="u" k="v&amp;"><b/>t</p:a>` as a spelling (all positions 0: they play no
    role for the result, `C02_positions_irrelevant`). -/
def exSns : List NSNode :=
  [.comment ⟨['c'], 0⟩ ⟨[], 0⟩,
   .elem ⟨['p'], 0⟩ ⟨['a'], 0⟩ ⟨[], 0⟩
     [{ pfx := ⟨xmlnsStr, 0⟩, loc := ⟨['p'], 0⟩, pieces := [.lit 'u'], vstart := 0, junk := ⟨[], 0⟩ },
      { pfx := ⟨[], 0⟩, loc := ⟨['k'], 0⟩, pieces := [.lit 'v', .named ['a', 'm', 'p']], vstart := 0,
        junk := ⟨[], 0⟩ }]
     ⟨[], 0⟩
     [.empty ⟨[], 0⟩ ⟨['b'], 0⟩ ⟨[], 0⟩ [] ⟨[], 0⟩, .chars [.txt [.lit 't'] 0]]
     ⟨['p'], 0⟩ ⟨['a'], 0⟩ ⟨[], 0⟩]

/-- One layout per token of `exSns`. -/
def exLayouts : List (Token → LToken) :=
  [fun t => { token := t, lead := ['\n'] },                                    -- <!--c-->
   fun t => { token := t, lead := ['\n'] },                                    -- <p:a
   fun t => { token := t, lead := ['\n', '\t'], single := true },              -- xmlns:p='u'
   fun t => { token := t, lead := [' '], ws1 := [' '], ws2 := ['\r', '\n'] },  -- k = "v&amp;"
   fun t => { token := t, lead := ['\t'] },                                    -- >
   fun t => { token := t },                                                    -- <b
   fun t => { token := t, lead := ['\n'] },                                    -- />
   fun t => { token := t },                                                    -- t
   fun t => { token := t, ws1 := ['\n'] }]                                     -- </p:a >

def exItems : List LToken := List.zipWith (fun t f => f t) (NSNode.tokens.tokensList exSns) exLayouts

def exDecl : LDecl :=
  { minor := ['0'], encoding := some ['U', 'T', 'F', '-', '8'],
    vEq := { before := [' '], after := [' '], single := true }, wEnd := [' '] }

def exDoc : LDoc := { bom := true, decl := some exDecl, items := exItems, trail := ['\n'] }

/-- The text of `exDoc` (the line quoted in the header). -/
def exText : Str :=
  ['\uFEFF', '<', '?', 'x', 'm', 'l', ' ', 'v', 'e', 'r', 's', 'i', 'o', 'n', ' ', '=', ' ', '\'', '1', '.', '0', '\'',
   ' ', 'e', 'n', 'c', 'o', 'd', 'i', 'n', 'g', '=', '"', 'U', 'T', 'F', '-', '8', '"', ' ', '?', '>', '\n',
   '<', '!', '-', '-', 'c', '-', '-', '>', '\n',
   '<', 'p', ':', 'a', '\n', '\t', 'x', 'm', 'l', 'n', 's', ':', 'p', '=', '\'', 'u', '\'',
   ' ', 'k', ' ', '=', '\r', '\n', '"', 'v', '&', 'a', 'm', 'p', ';', '"', '\t', '>',
   '<', 'b', '\n', '/', '>', 't', '<', '/', 'p', ':', 'a', '\n', '>', '\n']

end XotModel.Witness
