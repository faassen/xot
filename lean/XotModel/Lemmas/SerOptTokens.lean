/-
  The token list a tree stands for under ANY `TokenSerializeParameters` (`unescaped_gt`, CDATA-section
  elements): specification vocabulary, NOT a model of Rust code.  `serNode` (Model/SerTokens.lean) is the
  instance without CDATA-section elements (`serNodeO_plain`, Lemmas/SerTokensMain.lean).

  * `gtPieces`      : `serialize_text(unescaped_gt = true)` as spelling-as-data, one `Piece` per character
                      (a `>` is the entity `&gt;` exactly after `]]`).
  * `cdataPartsGo`  : `serialize_cdata` as a run of parts: CDATA sections, cut inside every `]]>` (between
                      `]]` and `>`) and at every carriage return, which is written BETWEEN two sections as the
                      text part `&#xD;` (/repo c51f6e9).  A run begins and ends with a section, so no
                      two text parts are neighbours.
  * `textParts`     : the parts of one text node (`cd` = its parent is a CDATA-section element).
  * `serNodeO`      : `serNode` with `textParts` for text nodes; the flag is threaded from the parent.
  * `GoodRun`       : a run of tokens that may stand where one text token stood.
-/
import XotModel.Model.SerTokens
import XotModel.Lemmas.ParseSpellDefs
import XotModel.Lemmas.SerTokensPieces
import XotModel.Lemmas.Entity
import XotModel.Lemmas.SharedDefs

namespace XotModel
open Gen

/-! ### `unescaped_gt` as pieces -/

/-- The content written so far (reversed) ends with `]]`. -/
def startsBrBr : Str → Bool
  | a :: b :: _ => a == ']' && b == ']'
  | _ => false

/-- The piece `serialize_text(unescaped_gt = true)` writes for `c` when the output so far, reversed, is
    `racc` (`gtPiece`, Lemmas/Entity.lean, is its rendering). -/
def gtPieceP (racc : Str) (c : Char) : Piece :=
  if c = '>' then (if startsBrBr racc then .named ['g', 't'] else .lit '>') else textPiece c

def gtPieces : Str → Str → List Piece
  | _, [] => []
  | racc, c :: cs => gtPieceP racc c :: gtPieces ((gtPiece racc c).reverse ++ racc) cs

/-- The pieces of a text node outside CDATA-section elements. -/
def txtPieces (ugt : Bool) (s : Str) : List Piece := if ugt then gtPieces [] s else textPieces s

/-! ### `serialize_cdata` as parts -/

/-- The reference written for a carriage return between two sections. -/
def crPart : SPart := .txt [.hex [(13, true)]] 0

/-- `rc` = content of the section being written, reversed. -/
def cdataPartsGo : Str → Str → List SPart
  | rc, [] => [.cd (sp0 rc.reverse) noSpan]
  | rc, c :: cs =>
    if c = '>' ∧ startsBrBr rc = true then .cd (sp0 rc.reverse) noSpan :: cdataPartsGo ['>'] cs
    else if c = '\r' then .cd (sp0 rc.reverse) noSpan :: crPart :: cdataPartsGo [] cs
    else cdataPartsGo (c :: rc) cs

/-- The parts of one text node: `cd` = the parent is a CDATA-section element. -/
def textParts (pr : TokenParams) (cd : Bool) (s : Str) : List SPart :=
  if cd then cdataPartsGo [] s else [.txt (txtPieces pr.unescapedGt s) 0]

/-- The tokens of one text node. -/
def textTokens (pr : TokenParams) (cd : Bool) (s : Str) : List Token := (textParts pr cd s).map SPart.token

/-- The tokens `serialize_cdata s` stands for. -/
def cdataTokens (s : Str) : List Token := (cdataPartsGo [] s).map SPart.token

/-- Are the text children of a node with this value written as CDATA sections?
    (`isCdataElement pr (some parent)`.) -/
def kidsCd (pr : TokenParams) : Value → Bool
  | .element name => pr.cdataSectionElements.contains name
  | _ => false

/-! ### Tokens and spelling of a tree under any token parameters -/

/-- `serNode` with CDATA-section elements: `cd` = the node's parent is one. -/
def serNodeO (env : Env) (pr : TokenParams) (inScope : List (Nat × Nat)) (isTop : Bool) (s : FStack)
    (cd : Bool) : Tree → Except XotError (List Token)
  | .node v ks =>
    match v with
    | .element name =>
      let n := Tree.node (.element name) ks
      let s' := s.push n.nsDecls
      if env.nsOfName name == Env.noNamespace && s'.hasDefaultNamespace then
        .error (.missingPrefix Env.noNamespace)
      else match s'.elementPrefix env name with
        | .error e => .error e
        | .ok p =>
          match attrTokens env s' n.attrs with
          | .error e => .error e
          | .ok ats =>
            match serKidsO env pr inScope s' (kidsCd pr (.element name)) ks with
            | .error e => .error e
            | .ok content =>
              .ok (elementTokens (prefixText env p) (env.localName name)
                (((if isTop then inScope.filter (fun d => !n.declaresPrefix d.1) else []) ++ n.nsDecls).flatMap
                  (declTokens env))
                ats n.firstChild?.isNone content)
    | .text str => appendOk (.ok (textTokens pr cd str)) (serKidsO env pr inScope s false ks)
    | .comment str => appendOk (.ok [.comment (sp0 str) noSpan]) (serKidsO env pr inScope s false ks)
    | .pi target data =>
      if !(env.namespaceStr (env.nsOfName target)).isEmpty then .error .namespaceInProcessingInstruction
      else appendOk (.ok [.pi (sp0 (env.localName target)) (data.map sp0) noSpan])
        (serKidsO env pr inScope s false ks)
    | _ => serKidsO env pr inScope s false ks
where
  serKidsO (env : Env) (pr : TokenParams) (inScope : List (Nat × Nat)) (s : FStack) (cd : Bool) :
      List Tree → Except XotError (List Token)
    | [] => .ok []
    | k :: ks => appendOk (serNodeO env pr inScope false s cd k) (serKidsO env pr inScope s cd ks)

/-- The flag of the start node. -/
def startCd (pr : TokenParams) (t : Tree) (start : Path) : Bool := isCdataElement pr (t.parentAt? start)

/-- `serTokensAt` for any token parameters. -/
def serTokensAtO (env : Env) (pr : TokenParams) (t : Tree) (start : Path) : Except XotError (List Token) :=
  match t.at? start, namespacesInScope t start with
  | some n, some inScope => serNodeO env pr inScope true (FStack.new inScope) (startCd pr t start) n
  | _, _ => .ok []

/-! ### Runs of character data tokens -/

def Token.isText : Token → Bool
  | .text _ => true
  | _ => false

/-- No two text tokens in a row. -/
def noAdjTextTok : List Token → Bool
  | a :: b :: rest => !(a.isText && b.isText) && noAdjTextTok (b :: rest)
  | _ => true

/-- A run of tokens that may stand where one text token stood: text and CDATA tokens only, at least one,
    each meeting the tokenizer's side condition, no two text tokens in a row. -/
structure GoodRun (r : List Token) : Prop where
  ne : r ≠ []
  ok : ∀ k ∈ r, k.lexOK = true
  kind : ∀ k ∈ r, k.isCharData = true
  adj : noAdjTextTok r = true

end XotModel
