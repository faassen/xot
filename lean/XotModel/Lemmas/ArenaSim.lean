/-
  The abstraction relation `Abs a g w rs f` between an arena and a state of the forest model
  (`Model/Forest.lean`), and one refinement theorem per primitive: `detach`, `new_node`, the four
  checked insertions, `remove`, `remove_subtree`.  Every call of `Arena.Call` is matched by a forest
  primitive and keeps `Abs`, so every history from the empty arena is simulated by a history from the
  empty forest.
-/
import XotModel.Lemmas.ArenaTree

/-! ### The abstraction relation

  `Abs a g w rs f`: the forest `f` is the arena `a` read through the list-level content `g` and the view `w` (handle
  numbering, values), with the parentless live slots `rs` as roots in the forest's order.  The forest model's reads
  (`get?`, `isRoot`, `ancestors`) answer what the list level says.
-/

namespace XotModel
namespace Arena

/-- Payloads as values (indextree is generic in the payload; any injection will do). -/
def dec (n : Nat) : Value := .element n

structure Abs (a : Arena) (g : Shape) (w : View) (rs : List Nat) (f : Forest) : Prop where
  ctx : TreeCtx a g w
  trees : IsTrees g w rs f.roots
  rsNodup : rs.Nodup
  rsMem : ∀ i, i ∈ rs ↔ (Live a i ∧ g.par i = none)
  below : ∀ u, Live a u → w.rho u < f.next
  vals : ∀ i s v, a.slot i = some s → s.data = .data v → w.val i = dec v
  clean : f.corrupt = false

theorem UpChain.top {par : Nat → Option Nat} {u : Nat} {l : List Nat} (h : UpChain par u l) :
    ∃ r, par r = none ∧ Reach par u r := by
  induction h with
  | @root c hc => exact ⟨c, hc, .refl _⟩
  | @step c q l hc _ ih =>
    obtain ⟨r, h1, h2⟩ := ih
    exact ⟨r, h1, .step hc h2⟩

theorem Rep.live_of_reach {a : Arena} {g : Shape} (r : Rep a g) {x y : Nat} (h : Reach g.par x y) (hx : Live a x) :
    Live a y := by
  induction h with
  | refl => exact hx
  | step hp _ ih => exact ih (r.live_of_par hp).2

namespace Abs
variable {a : Arena} {g : Shape} {w : View} {rs : List Nat} {f : Forest}

theorem rsLive (h : Abs a g w rs f) : ∀ k ∈ rs, Live a k := fun k hk => ((h.rsMem k).mp hk).1

theorem root_of (h : Abs a g w rs f) (u : Nat) (hu : Live a u) :
    ∃ r, r ∈ rs ∧ Reach g.par u r ∧ ∀ r' ∈ rs, Reach g.par u r' → r' = r := by
  obtain ⟨l, hl, _⟩ := h.ctx.rep.upChain u hu
  obtain ⟨r, hr, hur⟩ := hl.top
  have hrl : Live a r := h.ctx.rep.live_of_reach hur hu
  refine ⟨r, (h.rsMem r).mpr ⟨hrl, hr⟩, hur, fun r' hr' hur' => ?_⟩
  have hr'n := ((h.rsMem r').mp hr').2
  rcases Reach.linear hur hur' with h1 | h1
  · exact Reach.eq_of_root hr h1
  · exact (Reach.eq_of_root hr'n h1).symm

theorem get?_live (h : Abs a g w rs f) (u : Nat) (hu : Live a u) :
    ∃ tu, IsTree g w u tu ∧ f.get? (w.rho u) = some tu := by
  obtain ⟨r, hr, hur, huniq⟩ := h.root_of u hu
  exact IsTrees.find_some h.ctx h.trees h.rsLive u hu r hr hur huniq

theorem isRoot_iff (h : Abs a g w rs f) (u : Nat) (hu : Live a u) : f.isRoot (w.rho u) = true ↔ u ∈ rs := by
  unfold Forest.isRoot
  rw [List.any_eq_true]
  constructor
  · rintro ⟨t, ht, e⟩
    simp only [decide_eq_true_eq] at e
    have hm := h.trees.handles_map
    have : t.handle ∈ f.roots.map HTree.handle := List.mem_map.mpr ⟨t, ht, rfl⟩
    rw [hm] at this
    obtain ⟨r, hr, er⟩ := List.mem_map.mp this
    have : r = u := h.ctx.inj r u (h.rsLive r hr) hu (er.trans e)
    subst this; exact hr
  · intro hu'
    have hm := h.trees.handles_map
    have : w.rho u ∈ rs.map w.rho := List.mem_map.mpr ⟨u, hu', rfl⟩
    rw [← hm] at this
    obtain ⟨t, ht, e⟩ := List.mem_map.mp this
    exact ⟨t, ht, by simpa using e⟩

theorem isRoot_of_par (h : Abs a g w rs f) {u p : Nat} (hu : Live a u) (hp : g.par u = some p) :
    f.isRoot (w.rho u) = false :=
  Bool.eq_false_iff.mpr fun hr => by
    have := ((h.rsMem u).mp ((h.isRoot_iff u hu).mp hr)).2
    rw [hp] at this; cases this

theorem ancestors_contains (h : Abs a g w rs f) (p c : Nat) (hp : Live a p) (hc : Live a c) :
    (f.ancestors (w.rho p)).contains (w.rho c) = true ↔ Reach g.par p c := by
  obtain ⟨r, hr, hpr, huniq⟩ := h.root_of p hp
  obtain ⟨l, hl, hmem⟩ := IsTrees.ancestorsOf_some h.ctx h.trees h.rsLive p hp r hr hpr huniq
  unfold Forest.ancestors
  rw [← Fws.ancestorsOfList_eq_findSome?, hl]
  simp only [Option.getD_some, List.contains_iff_mem]
  rw [hmem]
  constructor
  · rintro ⟨v, e, h1, h2⟩
    have hvl : Live a v := h.ctx.rep.live_of_reach h1 hp
    rw [h.ctx.inj c v hc hvl e]; exact h1
  · intro hpc
    refine ⟨c, rfl, hpc, ?_⟩
    -- `c` lies between `p` and the root of `p`
    rcases Reach.linear hpc hpr with h1 | h1
    · exact h1
    · exact Reach.eq_of_root ((h.rsMem r).mp hr).2 h1 ▸ .refl _

/-- A call after which every live slot was live before and has kept its payload: numbering, values and
    handle supply are inherited; the trees and the roots are the call's own. -/
theorem of_survivors {a' : Arena} {g' : Shape} {rs' : List Nat} {f' : Forest} (h : Abs a g w rs f) (r' : Rep a' g')
    (hlive : ∀ j, Live a' j → Live a j)
    (hpay : ∀ j s v, Live a' j → a.slot j = some s → s.data = .data v →
      ∃ s', a'.slot j = some s' ∧ s'.data = .data v)
    (htrees : IsTrees g' w rs' f'.roots) (hnd : rs'.Nodup) (hmem : ∀ i, i ∈ rs' ↔ (Live a' i ∧ g'.par i = none))
    (hnext : f'.next = f.next) (hclean : f'.corrupt = f.corrupt) : Abs a' g' w rs' f' := by
  refine ⟨⟨r', fun u v hu hv => h.ctx.inj u v (hlive u hu) (hlive v hv)⟩, htrees, hnd, hmem,
    fun u hu => hnext ▸ h.below u (hlive u hu), fun j s v hs hd => ?_, hclean.trans h.clean⟩
  have hlj : Live a' j := ⟨s, hs, (r'.dataLive j s hs).mpr ⟨v, hd⟩⟩
  obtain ⟨s0, hs0, h00⟩ := hlive j hlj
  obtain ⟨v0, hv0⟩ := (h.ctx.rep.dataLive j s0 hs0).mp h00
  obtain ⟨s2, hs2, hd2⟩ := hpay j s0 v0 hlj hs0 hv0
  rw [hs] at hs2; cases hs2
  rw [hd] at hd2; cases hd2
  exact h.vals j s0 v hs0 hv0

/-- Pointer writes only. -/
theorem of_metaEq {a' : Arena} {g' : Shape} {rs' : List Nat} {f' : Forest} (h : Abs a g w rs f) (r' : Rep a' g')
    (hM : MetaEq a a') (htrees : IsTrees g' w rs' f'.roots) (hnd : rs'.Nodup)
    (hmem : ∀ i, i ∈ rs' ↔ (Live a' i ∧ g'.par i = none)) (hnext : f'.next = f.next)
    (hclean : f'.corrupt = f.corrupt) : Abs a' g' w rs' f' :=
  h.of_survivors r' (fun j => (hM.live j).mp) (fun j s v _ hs hd => by
    obtain ⟨s', hs', _, hd'⟩ := hM.slot_some hs
    exact ⟨s', hs', hd'.trans hd⟩) htrees hnd hmem hnext hclean

/-- Pointer writes, then `free_node` of slot `i`: the last steps of `remove`. -/
theorem of_freeNode {a5 a' : Arena} {g5 g' : Shape} {rs' : List Nat} {f' : Forest} {i : Nat} (h : Abs a g w rs f)
    (hM : MetaEq a a5) (ok : FreeNodeOk a5 g5 i a') (r' : Rep a' g') (htrees : IsTrees g' w rs' f'.roots)
    (hnd : rs'.Nodup) (hmem : ∀ j, j ∈ rs' ↔ ((Live a j ∧ j ≠ i) ∧ g'.par j = none))
    (hnext : f'.next = f.next) (hclean : f'.corrupt = f.corrupt) : Abs a' g' w rs' f' := by
  have hlive' : ∀ j, Live a' j ↔ (Live a j ∧ j ≠ i) := fun j => by rw [ok.live j, hM.live j]
  refine h.of_survivors r' (fun j hj => ((hlive' j).mp hj).1) (fun j s v hj hs hd => ?_) htrees hnd
    (fun j => by rw [hlive' j]; exact hmem j) hnext hclean
  obtain ⟨s1, hs1, _, hd1⟩ := hM.slot_some hs
  exact ok.payload j s1 v ((hlive' j).mp hj).2 hs1 (by rw [hd1]; exact hd)

end Abs

end Arena
end XotModel

/-! ### `detach`

  The forest model's `cut` / `detachRaw`.
-/

namespace XotModel
namespace Arena

/-- The forest model's `cut` on the abstraction of a well-formed arena. -/
theorem Abs.cut {a : Arena} {g : Shape} {w : View} {rs : List Nat} {f : Forest} (h : Abs a g w rs f) (i : Nat)
    (hi : Live a i) :
    ∃ ti f1, f.cut (w.rho i) = (f1, some ti) ∧ IsTree g w i ti ∧ IsTree (g.detach i) w i ti ∧
      IsTrees (g.detach i) w (rs.filter (· ≠ i)) f1.roots ∧ f1.next = f.next ∧ f1.corrupt = f.corrupt := by
  obtain ⟨ti, hti, hget⟩ := h.get?_live i hi
  cases hpar : g.par i with
  | none =>
    have hroot : f.isRoot (w.rho i) = true := (h.isRoot_iff i hi).mpr ((h.rsMem i).mpr ⟨hi, hpar⟩)
    refine ⟨ti, { f with roots := f.roots.filter (fun r => r.handle != w.rho i) }, ?_, hti, ?_, ?_, rfl, rfl⟩
    · unfold Forest.cut; rw [hget]; simp only [hroot, if_true]
    · rw [Shape.detach_of_root g i hpar]; exact hti
    · rw [Shape.detach_of_root g i hpar]
      exact IsTrees.filter_ne h.ctx i hi h.trees h.rsLive
  | some p =>
    have hnr : f.isRoot (w.rho i) = false := h.isRoot_of_par hi hpar
    obtain ⟨L, R, hk⟩ := List.append_of_mem (h.ctx.rep.parKids i p hpar).2
    have ra : ReplaceAt a g (g.detach i) w i p L R [] (fun _ => []) := by
      refine ⟨hi, hpar, hk, ?_, fun _ _ => .nil, fun q _ hq _ => Shape.detach_kids_ne g i p q hpar hq⟩
      rw [Shape.detach_kids_par g i p L R hpar hk (h.ctx.rep.kidsNodup p)]; simp
    have hrs : ∀ k ∈ rs, Live a k ∧ ¬ Reach g.par k i := fun k hk' =>
      ⟨h.rsLive k hk', Reach.not_of_root ((h.rsMem k).mp hk').2 hpar⟩
    have hfilter : rs.filter (· ≠ i) = rs := by
      apply List.filter_eq_self.mpr
      intro k hk'
      simp only [ne_eq, decide_eq_true_eq]
      intro e; subst e
      have := ((h.rsMem k).mp hk').2
      rw [hpar] at this; cases this
    refine ⟨ti, { f with roots := f.roots.map (HTree.replaceBelow (w.rho i) (fun _ => [])) }, ?_, hti, ?_, ?_, rfl, rfl⟩
    · unfold Forest.cut; rw [hget]; simp only [hnr, Bool.false_eq_true, if_false]
    · refine IsTree.congr (fun q => Reach g.par q i) ?_ hti (.refl _)
      intro q hq
      have hqp : q ≠ p := fun e => h.ctx.rep.acyclic i p hpar (e ▸ hq)
      exact ⟨Shape.detach_kids_ne g i p q hpar hqp, rfl, rfl, fun k hk' =>
        .step (h.ctx.rep.kidsLive q k hk').2.2 hq⟩
    · rw [hfilter]
      exact IsTrees.replaceBelowList h.ctx ra h.trees hrs

/-- Refinement, `detach`: the arena call is the forest model's `detachRaw`. -/
theorem Abs.detach {a : Arena} {g : Shape} {w : View} {rs : List Nat} {f : Forest} (h : Abs a g w rs f)
    (x : NodeId) (hx : LiveId a x) :
    ∃ a', Arena.detach a x = .done a' () ∧
      Abs a' (g.detach x.index0) w (rs.filter (· ≠ x.index0) ++ [x.index0]) (f.detachRaw (w.rho x.index0)) := by
  obtain ⟨a', hd, r', hM⟩ := h.ctx.rep.detach x hx
  refine ⟨a', hd, ?_⟩
  have hi0 : Live a x.index0 := hx.2.1
  generalize x.index0 = i at *
  have hi : Live a i := hi0
  obtain ⟨ti, f1, hcut, _, hti', htrees, hnext, hcorrupt⟩ := h.cut i hi
  have hdr : f.detachRaw (w.rho i) = f1.addRoot ti := by
    unfold Forest.detachRaw; rw [hcut]
  rw [hdr]
  refine h.of_metaEq r' hM (IsTrees.append htrees (.cons hti' .nil)) ?_ (fun j => ?_) hnext hcorrupt
  · refine List.nodup_append.mpr ⟨h.rsNodup.filter _, by simp, fun y hy z hz e => ?_⟩
    simp at hz; subst hz; subst e
    simp at hy
  · simp only [List.mem_append, List.mem_filter, List.mem_singleton, ne_eq, decide_eq_true_eq]
    rw [hM.live j]
    by_cases hji : j = i
    · subst hji
      simp [Shape.detach_par_self, hi]
    · rw [Shape.detach_par_ne g i j hji, h.rsMem j]
      simp [hji]

end Arena
end XotModel

/-! ### `new_node`

  The forest model's `newNode`, with the handle numbering extended by the slot handed out (fresh or reused).
-/

namespace XotModel
namespace Arena

/-- The view after `new_node` handed out slot `i` for the forest handle `h` with payload `v`. -/
def View.extend (w : View) (i h : Nat) (v : Value) : View :=
  ⟨fun j => if j = i then h else w.rho j, fun j => if j = i then v else w.val j⟩

theorem Abs.newNode {a : Arena} {g : Shape} {w : View} {rs : List Nat} {f : Forest} (h : Abs a g w rs f) (v : Nat) :
    ∃ a' id g', Arena.newNode a v = .done a' id ∧ LiveId a' id ∧ ¬ Live a id.index0 ∧
      Abs a' g' (w.extend id.index0 f.next (dec v)) (rs ++ [id.index0]) (f.newNode (dec v)).1 ∧
      (f.newNode (dec v)).2 = (w.extend id.index0 f.next (dec v)).rho id.index0 := by
  obtain ⟨a', id, g', hn, ok⟩ := h.ctx.rep.newNode v
  refine ⟨a', id, g', hn, ok.liveId, ok.fresh, ?_, by simp [Forest.newNode, View.extend]⟩
  have hfresh : ¬ Live a id.index0 := ok.fresh
  have hliveold : ∀ j, Live a j → Live a' j ∧ j ≠ id.index0 := by
    intro j hj
    have hji : j ≠ id.index0 := fun e => hfresh (e ▸ hj)
    obtain ⟨s, hs, h0⟩ := hj
    exact ⟨⟨s, by rw [ok.others j hji]; exact hs, h0⟩, hji⟩
  have hlivenew : ∀ j, Live a' j → Live a j ∨ j = id.index0 := by
    intro j hj
    by_cases hji : j = id.index0
    · exact Or.inr hji
    · obtain ⟨s, hs, h0⟩ := hj
      exact Or.inl ⟨s, by rw [← ok.others j hji]; exact hs, h0⟩
  have hi' : Live a' id.index0 := ok.liveId.2.1
  have hkidsLive : ∀ u, Live a u → ∀ k ∈ g.kids u, Live a k := fun u _ k hk => (h.ctx.rep.kidsLive u k hk).2.1
  refine ⟨⟨ok.rep, ?_⟩, ?_, ?_, ?_, ?_, ?_, h.clean⟩
  · -- injectivity of the extended numbering
    intro u v' hu hv e
    simp only [View.extend] at e
    by_cases hui : u = id.index0
    · by_cases hvi : v' = id.index0
      · rw [hui, hvi]
      · rw [if_pos hui, if_neg hvi] at e
        have := h.below v' ((hlivenew v' hv).resolve_right hvi)
        omega
    · by_cases hvi : v' = id.index0
      · rw [if_neg hui, if_pos hvi] at e
        have := h.below u ((hlivenew u hu).resolve_right hui)
        omega
      · rw [if_neg hui, if_neg hvi] at e
        exact h.ctx.inj u v' ((hlivenew u hu).resolve_right hui) ((hlivenew v' hv).resolve_right hvi) e
  · -- the old trees read the same, the new node is a new root
    simp only [Forest.newNode]
    refine IsTrees.append ?_ (.cons ?_ .nil)
    · refine IsTrees.congr (fun u => Live a u) ?_ h.trees h.rsLive
      intro u hu
      have hui := (hliveold u hu).2
      exact ⟨by rw [ok.kids], by simp [View.extend, hui], by simp [View.extend, hui], hkidsLive u hu⟩
    · have : IsTree g' (w.extend id.index0 f.next (dec v)) id.index0
          (.node ((w.extend id.index0 f.next (dec v)).rho id.index0) ((w.extend id.index0 f.next (dec v)).val id.index0) []) :=
        .mk (by rw [ok.kidsNil]; exact .nil)
      simpa [View.extend] using this
  · refine List.nodup_append.mpr ⟨h.rsNodup, by simp, fun y hy z hz e => ?_⟩
    simp at hz; subst hz; subst e
    exact hfresh (h.rsLive _ hy)
  · intro j
    simp only [List.mem_append, List.mem_singleton]
    constructor
    · rintro (hj | hj)
      · obtain ⟨hl, hp⟩ := (h.rsMem j).mp hj
        exact ⟨(hliveold j hl).1, by rw [ok.par]; exact hp⟩
      · subst hj; exact ⟨hi', ok.parNone⟩
    · rintro ⟨hl, hp⟩
      rcases hlivenew j hl with hl' | e
      · exact Or.inl ((h.rsMem j).mpr ⟨hl', by rw [← ok.par]; exact hp⟩)
      · exact Or.inr e
  · intro u hu
    simp only [Forest.newNode, View.extend]
    by_cases hui : u = id.index0
    · rw [if_pos hui]; omega
    · rw [if_neg hui]
      have := h.below u ((hlivenew u hu).resolve_right hui)
      omega
  · intro j s v' hs hd
    simp only [View.extend]
    by_cases hji : j = id.index0
    · subst hji
      rw [if_pos rfl]
      obtain ⟨s0, hs0, hd0⟩ := ok.value
      rw [hs] at hs0; cases hs0
      rw [hd] at hd0; cases hd0; rfl
    · rw [if_neg hji]
      exact h.vals j s v' (by rw [← ok.others j hji]; exact hs) hd

end Arena
end XotModel

/-! ### `checked_append`, `checked_prepend`

  The forest model's `checkedAppend` / `checkedPrepend` (`cut`, then `placeLast` / `placeFirst`).
-/

namespace XotModel
namespace Arena

theorem Shape.link_kids_ne (g : Shape) (p : Nat) (L : List Nat) (i : Nat) (R : List Nat) (q : Nat) (hq : q ≠ p) :
    (g.link p L i R).kids q = g.kids q := by
  simp [Shape.link, hq]

/-- Placing the (cut, parentless) tree of `c` under `p` between `L` and `R` by `mapAt`. -/
theorem IsTrees.link_mapAt {a1 : Arena} {g1 : Shape} {w : View} (x1 : TreeCtx a1 g1 w) {rs1 : List Nat}
    {roots1 : List HTree} (htrees : IsTrees g1 w rs1 roots1) (hrs1 : ∀ k ∈ rs1, Live a1 k) (p c : Nat) (L R : List Nat)
    (hk : g1.kids p = L ++ R) (hp : Live a1 p) (hanc : ¬ Reach g1.par p c) (tc : HTree)
    (htc : IsTree g1 w c tc) (G : HTree → HTree)
    (hG : ∀ (hd : Nat) (v : Value) (tsL tsR : List HTree), tsL.length = L.length → tsR.length = R.length →
      G (.node hd v (tsL ++ tsR)) = .node hd v (tsL ++ tc :: tsR)) :
    IsTrees (g1.link p L c R) w rs1 (roots1.map (HTree.mapAt (w.rho p) G)) := by
  refine IsTrees.mapAtList x1 ⟨hp, ?_, fun q _ hq => ⟨Shape.link_kids_ne g1 p L c R q hq, rfl, rfl⟩⟩ htrees hrs1
  intro tp htp
  match htp with
  | @IsTree.mk _ _ _ ts hts =>
    rw [hk] at hts
    obtain ⟨tsL, tsR, e, hL, hR⟩ := IsTrees.split hts
    rw [e, hG _ _ tsL tsR hL.length hR.length]
    refine .mk ?_
    have hkids' : (g1.link p L c R).kids p = L ++ c :: R := by simp [Shape.link]
    rw [hkids']
    have hLp : ∀ k ∈ L, k ∈ g1.kids p := fun k hk' => by rw [hk]; exact List.mem_append_left _ hk'
    have hRp : ∀ k ∈ R, k ∈ g1.kids p := fun k hk' => by rw [hk]; exact List.mem_append_right _ hk'
    -- subtrees of the old children and of `c` do not contain `p`
    have below : ∀ {cs : List Nat} {ts : List HTree}, IsTrees g1 w cs ts → (∀ k ∈ cs, k ∈ g1.kids p) →
        IsTrees (g1.link p L c R) w cs ts := by
      intro cs ts h hcs
      refine IsTrees.congr (fun q => ∃ k, k ∈ g1.kids p ∧ Reach g1.par q k) ?_ h (fun k hk' => ⟨k, hcs k hk', .refl _⟩)
      intro q ⟨k, hk', hqk⟩
      have hqp : q ≠ p := fun e => x1.rep.acyclic k p (x1.rep.kidsLive p k hk').2.2 (e ▸ hqk)
      exact ⟨Shape.link_kids_ne g1 p L c R q hqp, rfl, rfl,
        fun k' hk'' => ⟨k, hk', .step (x1.rep.kidsLive q k' hk'').2.2 hqk⟩⟩
    refine IsTrees.append (below hL hLp) (.cons ?_ (below hR hRp))
    refine IsTree.congr (fun q => Reach g1.par q c) ?_ htc (.refl _)
    intro q hq
    have hqp : q ≠ p := fun e => hanc (e ▸ hq)
    exact ⟨Shape.link_kids_ne g1 p L c R q hqp, rfl, rfl, fun k' hk'' => .step (x1.rep.kidsLive q k' hk'').2.2 hq⟩

/-- The roots after a node that had been cut has been given a parent again. -/
theorem Abs.rsMem_link {a a' : Arena} {g : Shape} {w : View} {rs : List Nat} {f : Forest} (h : Abs a g w rs f)
    (hM : MetaEq a a') (p c : Nat) (L R : List Nat) (j : Nat) :
    j ∈ rs.filter (· ≠ c) ↔ (Live a' j ∧ ((g.detach c).link p L c R).par j = none) := by
  simp only [List.mem_filter, ne_eq, decide_eq_true_eq, Shape.link]
  rw [hM.live j, h.rsMem j]
  by_cases hjc : j = c
  · subst hjc; simp
  · rw [if_neg hjc, Shape.detach_par_ne g c j hjc]
    simp [hjc]

/-- After `cut` of `c` and its re-insertion under `p`: all of the abstraction relation but the trees is
    inherited. -/
theorem Abs.of_cut_link {a a' : Arena} {g : Shape} {w : View} {rs : List Nat} {f f1 : Forest} (h : Abs a g w rs f)
    (p c : Nat) {L R : List Nat} {roots : List HTree} (r' : Rep a' ((g.detach c).link p L c R)) (hM : MetaEq a a')
    (hnext : f1.next = f.next) (hcorrupt : f1.corrupt = f.corrupt)
    (htrees : IsTrees ((g.detach c).link p L c R) w (rs.filter (· ≠ c)) roots) :
    Abs a' ((g.detach c).link p L c R) w (rs.filter (· ≠ c)) { f1 with roots := roots } :=
  h.of_metaEq r' hM htrees (h.rsNodup.filter _) (fun j => h.rsMem_link hM p c _ _ j) hnext hcorrupt

/-- What `checked_append` and `checked_prepend` share: the forest model passes its guard and cuts the tree
    of `c`; putting it among the children of `p` (`L` before, `R` after) by `mapAt` with `G` gives the forest
    of the arena reached. -/
theorem Abs.placeChild {a : Arena} {g : Shape} {w : View} {rs : List Nat} {f : Forest} (h : Abs a g w rs f)
    (p c : Nat) (hp : Live a p) (hc : Live a c) (hpc : p ≠ c) (hanc : ¬ Reach g.par p c) :
    ∃ tc f1, f.cut (w.rho c) = (f1, some tc) ∧
      (decide (w.rho p = w.rho c) || (f.ancestors (w.rho p)).contains (w.rho c)) = false ∧
      ∀ (a' : Arena) (L R : List Nat) (G : HTree → HTree), (g.detach c).kids p = L ++ R →
        Rep a' ((g.detach c).link p L c R) → MetaEq a a' →
        (∀ (hd : Nat) (v : Value) (tsL tsR : List HTree), tsL.length = L.length → tsR.length = R.length →
          G (.node hd v (tsL ++ tsR)) = .node hd v (tsL ++ tc :: tsR)) →
        Abs a' ((g.detach c).link p L c R) w (rs.filter (· ≠ c))
          { f1 with roots := f1.roots.map (HTree.mapAt (w.rho p) G) } := by
  obtain ⟨a1, _, r1, hM1⟩ := h.ctx.rep.detach_idAt c hc
  obtain ⟨tc, f1, hcut, _, htc1, htrees1, hnext, hcorrupt⟩ := h.cut c hc
  have hne : w.rho p ≠ w.rho c := fun e => hpc (h.ctx.inj p c hp hc e)
  have hcont : (f.ancestors (w.rho p)).contains (w.rho c) = false :=
    Bool.eq_false_iff.mpr fun hh => hanc ((h.ancestors_contains p c hp hc).mp hh)
  refine ⟨tc, f1, hcut, by rw [hcont, decide_eq_false hne]; rfl, ?_⟩
  intro a' L R G hk r' hM hG
  have x1 : TreeCtx a1 (g.detach c) w :=
    ⟨r1, fun u v hu hv => h.ctx.inj u v ((hM1.live u).mp hu) ((hM1.live v).mp hv)⟩
  have hanc1 : ¬ Reach (g.detach c).par p c := fun hr => hanc (Reach.mono (Shape.detach_par_le g c) hr)
  exact h.of_cut_link p c r' hM hnext hcorrupt
    (IsTrees.link_mapAt x1 htrees1 (fun k hk => (hM1.live k).mpr (h.rsLive k (List.mem_filter.mp hk).1))
      p c L R hk ((hM1.live p).mpr hp) hanc1 tc htc1 G hG)

theorem Abs.checkedAppend_ok {a : Arena} {g : Shape} {w : View} {rs : List Nat} {f : Forest} (h : Abs a g w rs f)
    (p c : Nat) (hp : Live a p) (hc : Live a c) (hpc : p ≠ c) (hanc : ¬ Reach g.par p c) :
    ∃ a', Arena.checkedAppend a (a.idAt p) (a.idAt c) = .done a' (.ok ()) ∧
      (f.checkedAppend (w.rho p) (w.rho c)).2 = true ∧
      Abs a' (g.append p c) w (rs.filter (· ≠ c)) (f.checkedAppend (w.rho p) (w.rho c)).1 := by
  obtain ⟨a', hcall, r', hM⟩ := h.ctx.rep.checkedAppend_ok p c hp hc hpc hanc
  obtain ⟨tc, f1, hcut, hguard, hplace⟩ := h.placeChild p c hp hc hpc hanc
  have hfa : f.checkedAppend (w.rho p) (w.rho c) = (f1.placeLast (w.rho p) tc, true) := by
    unfold Forest.checkedAppend
    simp only [hguard, Bool.false_eq_true, if_false, hcut]
  rw [hfa]
  refine ⟨a', hcall, rfl, hplace a' _ [] _ (List.append_nil _).symm r' hM ?_⟩
  intro hd v tsL tsR _ hR
  cases List.length_eq_zero_iff.mp hR
  simp [HTree.setKids, HTree.kids]

theorem Abs.checkedPrepend_ok {a : Arena} {g : Shape} {w : View} {rs : List Nat} {f : Forest} (h : Abs a g w rs f)
    (p c : Nat) (hp : Live a p) (hc : Live a c) (hpc : p ≠ c) (hanc : ¬ Reach g.par p c)
    (hfirst : (g.kids p).head? ≠ some c) :
    ∃ a', Arena.checkedPrepend a (a.idAt p) (a.idAt c) = .done a' (.ok ()) ∧
      (f.checkedPrepend (w.rho p) (w.rho c)).2 = true ∧
      Abs a' (g.prepend p c) w (rs.filter (· ≠ c)) (f.checkedPrepend (w.rho p) (w.rho c)).1 := by
  obtain ⟨a', hcall, r', hM⟩ := h.ctx.rep.checkedPrepend_ok p c hp hc hpc hanc hfirst
  obtain ⟨tc, f1, hcut, hguard, hplace⟩ := h.placeChild p c hp hc hpc hanc
  have hfa : f.checkedPrepend (w.rho p) (w.rho c) = (f1.placeFirst (w.rho p) tc, true) := by
    unfold Forest.checkedPrepend
    simp only [hguard, Bool.false_eq_true, if_false, hcut]
  rw [hfa]
  refine ⟨a', hcall, rfl, hplace a' [] _ _ rfl r' hM ?_⟩
  intro hd v tsL tsR hL _
  cases List.length_eq_zero_iff.mp hL
  simp [HTree.setKids, HTree.kids]

end Arena
end XotModel

/-! ### `checked_insert_after`, `checked_insert_before`

  Inside the list semantics: the forest model's `checkedInsertAfter` / `checkedInsertBefore` (`cut`, then
  `placeAfter` / `placeBefore`).
-/

namespace XotModel
namespace Arena

/-- Placing the (cut, parentless) tree of `n` next to `ref` by `replaceBelow`. -/
theorem IsTrees.link_replaceBelow {a1 : Arena} {g1 : Shape} {w : View} (x1 : TreeCtx a1 g1 w) {rs1 : List Nat}
    {roots1 : List HTree} (htrees : IsTrees g1 w rs1 roots1) (hrs1 : ∀ k ∈ rs1, Live a1 k ∧ g1.par k = none)
    (ref n p : Nat) (A B : List Nat) (hr : Live a1 ref) (hpar : g1.par ref = some p) (hk : g1.kids p = A ++ ref :: B)
    (hanc : ¬ Reach g1.par p n) (tn : HTree) (htn : IsTree g1 w n tn)
    (L' R' X : List Nat) (F : HTree → List HTree) (hL : L' ++ n :: R' = A ++ X ++ B)
    (himage : ∀ tr, IsTree (g1.link p L' n R') w ref tr → IsTree (g1.link p L' n R') w n tn →
      IsTrees (g1.link p L' n R') w X (F tr)) :
    IsTrees (g1.link p L' n R') w rs1 (roots1.map (HTree.replaceBelow (w.rho ref) F)) := by
  have hkids' : (g1.link p L' n R').kids p = A ++ X ++ B := by simp [Shape.link, hL]
  have hpn : ∀ q, Reach g1.par q ref → q ≠ p := fun q hq e =>
    x1.rep.acyclic ref p hpar (e ▸ hq)
  have htr' : ∀ tr, IsTree g1 w ref tr → IsTree (g1.link p L' n R') w ref tr := by
    intro tr htr
    refine IsTree.congr (fun q => Reach g1.par q ref) ?_ htr (.refl _)
    intro q hq
    exact ⟨Shape.link_kids_ne g1 p L' n R' q (hpn q hq), rfl, rfl,
      fun k' hk'' => .step (x1.rep.kidsLive q k' hk'').2.2 hq⟩
  have htn' : IsTree (g1.link p L' n R') w n tn := by
    refine IsTree.congr (fun q => Reach g1.par q n) ?_ htn (.refl _)
    intro q hq
    have hqp : q ≠ p := fun e => hanc (e ▸ hq)
    exact ⟨Shape.link_kids_ne g1 p L' n R' q hqp, rfl, rfl, fun k' hk'' => .step (x1.rep.kidsLive q k' hk'').2.2 hq⟩
  have ra : ReplaceAt a1 g1 (g1.link p L' n R') w ref p A B X F :=
    ⟨hr, hpar, hk, hkids', fun tr htr => himage tr (htr' tr htr) htn',
     fun q _ hq _ => Shape.link_kids_ne g1 p L' n R' q hq⟩
  exact IsTrees.replaceBelowList x1 ra htrees fun k hk' => ⟨(hrs1 k hk').1, Reach.not_of_root (hrs1 k hk').2 hpar⟩

/-- What `checked_insert_after` and `checked_insert_before` share: the forest model passes its guards and
    cuts the tree of `n`; placing it next to `ref` (new child list `L' ++ n :: R'`, image `X` of `ref`
    under `F`) gives the forest of the arena reached. -/
theorem Abs.placeSibling {a : Arena} {g : Shape} {w : View} {rs : List Nat} {f : Forest} (h : Abs a g w rs f)
    (ref n p : Nat) (hr : Live a ref) (hn : Live a n) (hrn : ref ≠ n) (hpar : g.par ref = some p)
    (hanc : ¬ Reach g.par ref n) :
    ∃ tn f1, f.cut (w.rho n) = (f1, some tn) ∧ w.rho ref ≠ w.rho n ∧
      ((f.ancestors (w.rho ref)).contains (w.rho n) || f.isRoot (w.rho ref)) = false ∧
      ∀ (a' : Arena) (A B L' R' X : List Nat) (F : HTree → List HTree),
        (g.detach n).kids p = A ++ ref :: B → Rep a' ((g.detach n).link p L' n R') → MetaEq a a' →
        L' ++ n :: R' = A ++ X ++ B →
        (∀ tr, IsTree ((g.detach n).link p L' n R') w ref tr → IsTree ((g.detach n).link p L' n R') w n tn →
          IsTrees ((g.detach n).link p L' n R') w X (F tr)) →
        Abs a' ((g.detach n).link p L' n R') w (rs.filter (· ≠ n))
          { f1 with roots := f1.roots.map (HTree.replaceBelow (w.rho ref) F) } := by
  obtain ⟨a1, _, r1, hM1⟩ := h.ctx.rep.detach_idAt n hn
  obtain ⟨tn, f1, hcut, _, htn1, htrees1, hnext, hcorrupt⟩ := h.cut n hn
  have hcont : (f.ancestors (w.rho ref)).contains (w.rho n) = false :=
    Bool.eq_false_iff.mpr fun hh => hanc ((h.ancestors_contains ref n hr hn).mp hh)
  have hnr : f.isRoot (w.rho ref) = false := h.isRoot_of_par hr hpar
  refine ⟨tn, f1, hcut, fun e => hrn (h.ctx.inj ref n hr hn e), by rw [hcont, hnr]; rfl, ?_⟩
  intro a' A B L' R' X F hk1 r' hM hL himage
  have x1 : TreeCtx a1 (g.detach n) w :=
    ⟨r1, fun u v hu hv => h.ctx.inj u v ((hM1.live u).mp hu) ((hM1.live v).mp hv)⟩
  have hpar1 : (g.detach n).par ref = some p := by rw [Shape.detach_par_ne g n ref hrn]; exact hpar
  have hanc1 : ¬ Reach (g.detach n).par p n := fun hreach =>
    hanc (.step hpar (Reach.mono (Shape.detach_par_le g n) hreach))
  refine h.of_cut_link p n r' hM hnext hcorrupt ?_
  refine IsTrees.link_replaceBelow x1 htrees1 (fun k hk => ?_) ref n p A B ((hM1.live ref).mpr hr) hpar1 hk1 hanc1
    tn htn1 L' R' X F hL himage
  obtain ⟨hk1', hk2'⟩ := List.mem_filter.mp hk
  have hkn : k ≠ n := by simpa using hk2'
  exact ⟨(hM1.live k).mpr (h.rsLive k hk1'), by rw [Shape.detach_par_ne g n k hkn]; exact ((h.rsMem k).mp hk1').2⟩

theorem Abs.checkedInsertAfter_ok {a : Arena} {g : Shape} {w : View} {rs : List Nat} {f : Forest} (h : Abs a g w rs f)
    (ref n p : Nat) (hr : Live a ref) (hn : Live a n) (hrn : ref ≠ n) (hpar : g.par ref = some p)
    (hanc : ¬ Reach g.par ref n) :
    ∃ a' A B, Arena.checkedInsertAfter a (a.idAt ref) (a.idAt n) = .done a' (.ok ()) ∧
      (f.checkedInsertAfter (w.rho ref) (w.rho n)).2 = true ∧
      Abs a' ((g.detach n).link p (A ++ [ref]) n B) w (rs.filter (· ≠ n)) (f.checkedInsertAfter (w.rho ref) (w.rho n)).1 := by
  obtain ⟨a', A, B, hcall, hk1, r', hM⟩ := h.ctx.rep.checkedInsertAfter_ok ref n p hr hn hrn hpar hanc
  obtain ⟨tn, f1, hcut, hne, hguard, hplace⟩ := h.placeSibling ref n p hr hn hrn hpar hanc
  have hfa : f.checkedInsertAfter (w.rho ref) (w.rho n) = (f1.placeAfter (w.rho ref) tn, true) := by
    unfold Forest.checkedInsertAfter
    simp only [hne, if_false, hguard, Bool.false_eq_true, hcut]
  rw [hfa]
  exact ⟨a', A, B, hcall, rfl, hplace a' A B (A ++ [ref]) B [ref, n] _ hk1 r' hM (by simp)
    (fun tr h1 h2 => .cons h1 (.cons h2 .nil))⟩

theorem Abs.checkedInsertBefore_ok {a : Arena} {g : Shape} {w : View} {rs : List Nat} {f : Forest} (h : Abs a g w rs f)
    (ref n p : Nat) (hr : Live a ref) (hn : Live a n) (hrn : ref ≠ n) (hpar : g.par ref = some p)
    (hanc : ¬ Reach g.par ref n) :
    ∃ a' A B, Arena.checkedInsertBefore a (a.idAt ref) (a.idAt n) = .done a' (.ok ()) ∧
      (f.checkedInsertBefore (w.rho ref) (w.rho n)).2 = true ∧
      Abs a' ((g.detach n).link p A n (ref :: B)) w (rs.filter (· ≠ n)) (f.checkedInsertBefore (w.rho ref) (w.rho n)).1 := by
  obtain ⟨a', A, B, hcall, hk1, r', hM⟩ := h.ctx.rep.checkedInsertBefore_ok ref n p hr hn hrn hpar hanc
  obtain ⟨tn, f1, hcut, hne, hguard, hplace⟩ := h.placeSibling ref n p hr hn hrn hpar hanc
  have hfa : f.checkedInsertBefore (w.rho ref) (w.rho n) = (f1.placeBefore (w.rho ref) tn, true) := by
    unfold Forest.checkedInsertBefore
    simp only [hne, if_false, hguard, Bool.false_eq_true, hcut]
  rw [hfa]
  exact ⟨a', A, B, hcall, rfl, hplace a' A B A (ref :: B) [n, ref] _ hk1 r' hM (by simp)
    (fun tr h1 h2 => .cons h2 (.cons h1 .nil))⟩

end Arena
end XotModel

/-! ### `remove`, `remove_subtree`

  The forest model's `spliceOut` and `dropSubtree`.
-/

namespace XotModel
namespace Arena

/-- `spliceOut` on the trees: the node `i` (under `p`, between `L` and `R`) is replaced by its children. -/
theorem IsTrees.splice_replaceBelow {a : Arena} {g g' : Shape} {w : View} (x : TreeCtx a g w) {rs : List Nat}
    {roots : List HTree} (htrees : IsTrees g w rs roots) (hrs : ∀ k ∈ rs, Live a k ∧ g.par k = none)
    (i p : Nat) (L R : List Nat) (hi : Live a i) (hpar : g.par i = some p) (hk : g.kids p = L ++ i :: R)
    (hk' : g'.kids p = L ++ g.kids i ++ R) (hagree : ∀ q, q ≠ p → q ≠ i → g'.kids q = g.kids q) :
    IsTrees g' w rs (roots.map (HTree.replaceBelow (w.rho i) (fun n => n.kids))) := by
  have ra : ReplaceAt a g g' w i p L R (g.kids i) (fun n => n.kids) := by
    refine ⟨hi, hpar, hk, hk', fun ti hti => ?_, fun q _ hq hqi => hagree q hq (fun e => hqi (e ▸ .refl _))⟩
    refine IsTrees.congr (fun q => ∃ k, k ∈ g.kids i ∧ Reach g.par q k) ?_ hti.kids (fun k hk'' => ⟨k, hk'', .refl _⟩)
    intro q ⟨k, hk'', hqk⟩
    have hki := (x.rep.kidsLive i k hk'').2.2
    have hqi : q ≠ i := fun e => x.rep.acyclic k i hki (e ▸ hqk)
    have hqp : q ≠ p := fun e => x.rep.acyclic i p hpar (e ▸ (hqk.trans (.single hki)))
    exact ⟨hagree q hqp hqi, rfl, rfl, fun k' hk3 => ⟨k, hk'', .step (x.rep.kidsLive q k' hk3).2.2 hqk⟩⟩
  exact IsTrees.replaceBelowList x ra htrees fun k hk'' => ⟨(hrs k hk'').1, Reach.not_of_root (hrs k hk'').2 hpar⟩

/-- Refinement, `remove` of a node with a parent (with or without children): `spliceOut`. -/
theorem Abs.remove_inner {a : Arena} {g : Shape} {w : View} {rs : List Nat} {f : Forest} (h : Abs a g w rs f)
    (i p : Nat) (L R : List Nat) (hi : Live a i) (hpar : g.par i = some p) (hk : g.kids p = L ++ i :: R) :
    ∃ a' g', Arena.remove a (a.idAt i) = .done a' () ∧ g'.kids p = L ++ g.kids i ++ R ∧
      Abs a' g' w rs (f.spliceOut (w.rho i)) := by
  obtain ⟨ti, hti, hget⟩ := h.get?_live i hi
  have hnr : f.isRoot (w.rho i) = false := h.isRoot_of_par hi hpar
  have hfs : f.spliceOut (w.rho i) = { f with roots := f.roots.map (HTree.replaceBelow (w.rho i) (fun n => n.kids)) } := by
    unfold Forest.spliceOut; rw [hget]; simp only [hnr, Bool.false_eq_true, if_false]
  rw [hfs]
  have hpi : p ≠ i := h.ctx.rep.par_ne hpar
  have hrs : ∀ k ∈ rs, Live a k ∧ g.par k = none := fun k hk' => (h.rsMem k).mp hk'
  have hirs : i ∉ rs := fun hm => by
    have := ((h.rsMem i).mp hm).2; rw [hpar] at this; cases this
  by_cases hK : g.kids i = []
  · -- a childless node
    obtain ⟨a1, a', _, hM, r1, hcall, ok, r'⟩ := h.ctx.rep.remove_leaf i hi hK
    have hkp : (g.detach i).kids p = L ++ R := Shape.detach_kids_par g i p L R hpar hk (h.ctx.rep.kidsNodup p)
    refine ⟨a', g.removeLeaf i, hcall, by simp [Shape.removeLeaf, hkp, hK],
      h.of_freeNode hM ok r' ?_ h.rsNodup (fun j => ?_) rfl rfl⟩
    · refine IsTrees.splice_replaceBelow h.ctx h.trees hrs i p L R hi hpar hk (by simp [Shape.removeLeaf, hkp, hK]) ?_
      intro q hq _
      simp only [Shape.removeLeaf]
      exact Shape.detach_kids_ne g i p q hpar hq
    · rw [h.rsMem j]
      simp only [Shape.removeLeaf]
      by_cases hji : j = i
      · subst hji; simp [hpar]
      · rw [Shape.detach_par_ne g i j hji]; simp [hji]
  · -- children take the node's place
    cases hh : (g.kids i).head? with
    | none => exact absurd (List.head?_eq_none_iff.mp hh) hK
    | some c1 =>
      cases hl : (g.kids i).getLast? with
      | none => exact absurd (List.getLast?_eq_none_iff.mp hl) hK
      | some ck =>
        obtain ⟨a5, a', hM5, r5, hcall, ok, r'⟩ := h.ctx.rep.remove_inner i p L R c1 ck hi hpar hk hh hl
        have hkids1 : (g.detach i).kids i = g.kids i := Shape.detach_kids_self g (fun c p hcp => h.ctx.rep.par_ne hcp) i
        have hkp' : (g.removeInner i p L R).kids p = L ++ g.kids i ++ R := by
          simp [Shape.removeInner, Shape.splice, hkids1]
        refine ⟨a', g.removeInner i p L R, hcall, hkp', h.of_freeNode hM5 ok r' ?_ h.rsNodup (fun j => ?_) rfl rfl⟩
        · refine IsTrees.splice_replaceBelow h.ctx h.trees hrs i p L R hi hpar hk hkp' ?_
          intro q hq hqi
          simp only [Shape.removeInner, Shape.splice, if_neg hq, if_neg hqi]
          exact Shape.detach_kids_ne g i p q hpar hq
        · rw [h.rsMem j]
          simp only [Shape.removeInner, Shape.splice, hkids1]
          by_cases hji : j = i
          · subst hji; simp [hpar]
          · by_cases hjK : j ∈ g.kids i
            · have := (h.ctx.rep.kidsLive i j hjK).2.2
              simp [hjK, this]
            · rw [if_neg hjK, Shape.detach_par_ne g i j hji]; simp [hji]

/-- Refinement, `remove_subtree`: `dropSubtree`. -/
theorem Abs.removeSubtree {a : Arena} {g : Shape} {w : View} {rs : List Nat} {f : Forest} (h : Abs a g w rs f)
    (i : Nat) (hi : Live a i) :
    ∃ a' l, Arena.removeSubtree a (a.idAt i) = .done a' () ∧ (∀ u, u ∈ l ↔ Reach g.par u i) ∧
      Abs a' ((g.detach i).prune l) w (rs.filter (· ≠ i)) (f.dropSubtree (w.rho i)) := by
  obtain ⟨a', l, hcall, ok⟩ := h.ctx.rep.removeSubtree i hi
  obtain ⟨ti, f1, hcut, _, _, htrees1, hnext, hcorrupt⟩ := h.cut i hi
  have hfd : f.dropSubtree (w.rho i) = f1 := by unfold Forest.dropSubtree; rw [hcut]
  rw [hfd]
  refine ⟨a', l, hcall, fun u => (ok.mem u).trans (h.ctx.rep.reach_detach_iff i u), ?_⟩
  obtain ⟨a1, _, r1, hM1⟩ := h.ctx.rep.detach_idAt i hi
  have hup : ∀ c q, (g.detach i).par c = some q → c ∈ l → q ∈ l := fun c q hp hc =>
    (ok.mem q).mpr (Reach.par_below_root (Shape.detach_par_self g i) hp ((ok.mem c).mp hc))
  refine h.of_survivors ok.rep (fun j hj => ((ok.live j).mp hj).1)
    (fun j s v hj => ok.payload j s v ((ok.live j).mp hj).2) ?_ (h.rsNodup.filter _) (fun j => ?_) hnext hcorrupt
  · -- the remaining trees are untouched
    refine IsTrees.congr (fun q => q ∉ l) ?_ htrees1 ?_
    · intro q hq
      refine ⟨by simp [Shape.prune, hq], rfl, rfl, fun k hk hkl => ?_⟩
      exact hq (hup k q (r1.kidsLive q k hk).2.2 hkl)
    · intro k hk hkl
      obtain ⟨hk1, hk2⟩ := List.mem_filter.mp hk
      have hki : k ≠ i := by simpa using hk2
      have hkn : (g.detach i).par k = none := by rw [Shape.detach_par_ne g i k hki]; exact ((h.rsMem k).mp hk1).2
      exact hki (Reach.eq_of_root hkn ((ok.mem k).mp hkl)).symm
  · simp only [List.mem_filter, ne_eq, decide_eq_true_eq]
    rw [ok.live j, h.rsMem j]
    simp only [Shape.prune]
    have hil : i ∈ l := (ok.mem i).mpr (.refl _)
    by_cases hji : j = i
    · subst hji; simp [hil]
    · by_cases hjl : j ∈ l
      · -- a proper descendant of `i` has a parent
        have := (ok.mem j).mp hjl
        cases this with
        | refl => exact absurd rfl hji
        | step hp _ =>
          rw [Shape.detach_par_ne g i j hji] at hp
          simp [hjl, hp]
      · rw [if_neg hjl, Shape.detach_par_ne g i j hji]; simp [hji, hjl]

end Arena
end XotModel

/-! ### The simulation -/

namespace XotModel
namespace Arena

/-- One primitive of the forest model. -/
inductive FCall (f : Forest) : Forest → Prop where
  | newNode (v : Value) : FCall f (f.newNode v).1
  | detach (h : Nat) : FCall f (f.detachRaw h)
  | append (p c : Nat) : FCall f (f.checkedAppend p c).1
  | prepend (p c : Nat) : FCall f (f.checkedPrepend p c).1
  | insertAfter (r n : Nat) : FCall f (f.checkedInsertAfter r n).1
  | insertBefore (r n : Nat) : FCall f (f.checkedInsertBefore r n).1
  | splice (h : Nat) : FCall f (f.spliceOut h)
  | drop (h : Nat) : FCall f (f.dropSubtree h)

inductive FSteps : Forest → Forest → Prop where
  | refl (f : Forest) : FSteps f f
  | tail {f f1 f2 : Forest} : FSteps f f1 → FCall f1 f2 → FSteps f f2

theorem Abs.empty : Abs {} Shape.empty ⟨fun _ => 0, fun _ => .document⟩ [] {} := by
  refine ⟨⟨Rep.empty, fun u v hu _ _ => ?_⟩, .nil, List.nodup_nil, fun i => ?_, fun u hu => ?_, fun i s v hs _ => ?_, rfl⟩
  · obtain ⟨s, hs, _⟩ := hu; simp [slot] at hs
  · constructor
    · intro h; cases h
    · rintro ⟨⟨s, hs, _⟩, _⟩; simp [slot] at hs
  · obtain ⟨s, hs, _⟩ := hu; simp [slot] at hs
  · simp [slot] at hs

/-- A refused `checked_append` / `checked_prepend` is refused by the forest model too. -/
theorem Abs.checkedAppend_refused {a : Arena} {g : Shape} {w : View} {rs : List Nat} {f : Forest} (h : Abs a g w rs f)
    (p c : Nat) (hp : Live a p) (hc : Live a c) (hr : p = c ∨ Reach g.par p c) :
    f.checkedAppend (w.rho p) (w.rho c) = (f, false) ∧ f.checkedPrepend (w.rho p) (w.rho c) = (f, false) := by
  have : (decide (w.rho p = w.rho c) || (f.ancestors (w.rho p)).contains (w.rho c)) = true := by
    rcases hr with e | hr
    · subst e; simp
    · rw [(h.ancestors_contains p c hp hc).mpr hr]; simp
  constructor
  · unfold Forest.checkedAppend; rw [if_pos this]
  · unfold Forest.checkedPrepend; rw [if_pos this]

/-- `remove` of a childless parentless node: `spliceOut` drops the root. -/
theorem Abs.remove_leaf_root {a : Arena} {g : Shape} {w : View} {rs : List Nat} {f : Forest} (h : Abs a g w rs f)
    (i : Nat) (hi : Live a i) (hpar : g.par i = none) (hK : g.kids i = []) :
    ∃ a', Arena.remove a (a.idAt i) = .done a' () ∧ Abs a' (g.removeLeaf i) w (rs.filter (· ≠ i)) (f.spliceOut (w.rho i)) := by
  obtain ⟨ti, hti, hget⟩ := h.get?_live i hi
  have hroot : f.isRoot (w.rho i) = true := (h.isRoot_iff i hi).mpr ((h.rsMem i).mpr ⟨hi, hpar⟩)
  have htk : ti.kids = [] := by
    have := hti.kids; rw [hK] at this
    exact List.length_eq_zero_iff.mp (by simpa using this.length)
  have hfs : f.spliceOut (w.rho i) = { f with roots := f.roots.filter (fun r => r.handle != w.rho i) } := by
    unfold Forest.spliceOut; rw [hget]; simp only [hroot, if_true, htk, List.append_nil, List.length_nil, Nat.zero_le]
  rw [hfs]
  obtain ⟨a1, a', _, hM, r1, hcall, ok, r'⟩ := h.ctx.rep.remove_leaf i hi hK
  refine ⟨a', hcall, h.of_freeNode hM ok r' ?_ (h.rsNodup.filter _) (fun j => ?_) rfl rfl⟩
  · have := IsTrees.filter_ne h.ctx i hi h.trees h.rsLive
    simp only [Shape.removeLeaf, Shape.detach_of_root g i hpar]
    exact IsTrees.congr (g := g) (g' := { par := g.par, kids := g.kids, free := g.free ++ [i] }) (w := w) (w' := w) (fun _ => True) (fun _ _ => ⟨rfl, rfl, rfl, fun _ _ => trivial⟩) this (fun _ _ => trivial)
  · simp only [List.mem_filter, ne_eq, decide_eq_true_eq, Shape.removeLeaf, Shape.detach_of_root g i hpar]
    rw [h.rsMem j]
    constructor
    · rintro ⟨⟨h1, h2⟩, h3⟩; exact ⟨⟨h1, h3⟩, h2⟩
    · rintro ⟨⟨h1, h3⟩, h2⟩; exact ⟨⟨h1, h2⟩, h3⟩

/-- One arena call is simulated by one forest primitive. -/
theorem Abs.call {a a' : Arena} {g : Shape} {w : View} {rs : List Nat} {f : Forest} (h : Abs a g w rs f)
    (c : Call a a') : ∃ g' w' rs' f', Abs a' g' w' rs' f' ∧ FCall f f' := by
  cases c with
  | newNode v id a' hn =>
    obtain ⟨a2, id2, g2, h2, _, _, habs, _⟩ := h.newNode v
    rw [h2] at hn; cases hn
    exact ⟨_, _, _, _, habs, .newNode _⟩
  | detach x a' hx hd =>
    obtain ⟨a2, h2, habs⟩ := h.detach x hx
    rw [h2] at hd; cases hd
    exact ⟨_, _, _, _, habs, .detach _⟩
  | append p x res a' hp hx hc =>
    rw [hp.eq, hx.eq] at hc
    by_cases hpx : p.index0 = x.index0
    · rw [hpx, checkedAppend_self] at hc; cases hc
      have := (h.checkedAppend_refused x.index0 x.index0 hx.2.1 hx.2.1 (Or.inl rfl)).1
      exact ⟨g, w, rs, f, h, by have e := FCall.append (f := f) (w.rho x.index0) (w.rho x.index0); rw [this] at e; exact e⟩
    · by_cases hanc : Reach g.par p.index0 x.index0
      · rw [h.ctx.rep.checkedAppend_ancestor _ _ hp.2.1 hx.2.1 hpx hanc] at hc; cases hc
        have := (h.checkedAppend_refused p.index0 x.index0 hp.2.1 hx.2.1 (Or.inr hanc)).1
        exact ⟨g, w, rs, f, h, by have e := FCall.append (f := f) (w.rho p.index0) (w.rho x.index0); rw [this] at e; exact e⟩
      · obtain ⟨a2, h2, _, habs⟩ := h.checkedAppend_ok _ _ hp.2.1 hx.2.1 hpx hanc
        rw [h2] at hc; cases hc
        exact ⟨_, _, _, _, habs, .append _ _⟩
  | prepend p x res a' hp hx hc =>
    rw [hp.eq, hx.eq] at hc
    by_cases hpx : p.index0 = x.index0
    · rw [hpx, checkedPrepend_self] at hc; cases hc
      have := (h.checkedAppend_refused x.index0 x.index0 hx.2.1 hx.2.1 (Or.inl rfl)).2
      exact ⟨g, w, rs, f, h, by have e := FCall.prepend (f := f) (w.rho x.index0) (w.rho x.index0); rw [this] at e; exact e⟩
    · by_cases hanc : Reach g.par p.index0 x.index0
      · rw [h.ctx.rep.checkedPrepend_ancestor _ _ hp.2.1 hx.2.1 hpx hanc] at hc; cases hc
        have := (h.checkedAppend_refused p.index0 x.index0 hp.2.1 hx.2.1 (Or.inr hanc)).2
        exact ⟨g, w, rs, f, h, by have e := FCall.prepend (f := f) (w.rho p.index0) (w.rho x.index0); rw [this] at e; exact e⟩
      · by_cases hfirst : (g.kids p.index0).head? = some x.index0
        · rw [h.ctx.rep.checkedPrepend_first_panics _ _ hp.2.1 hx.2.1 hpx hanc hfirst] at hc; cases hc
        · obtain ⟨a2, h2, _, habs⟩ := h.checkedPrepend_ok _ _ hp.2.1 hx.2.1 hpx hanc hfirst
          rw [h2] at hc; cases hc
          exact ⟨_, _, _, _, habs, .prepend _ _⟩
  | insertAfter ref x res a' hr hx hpar hanc hc =>
    rw [hr.eq, hx.eq] at hc hanc
    rw [hr.eq] at hpar
    obtain ⟨p, hp⟩ := (h.ctx.rep.hasParent_iff _ hr.2.1).mp hpar
    have hanc' := fun hh => hanc ((h.ctx.rep.isAncestorOrSelf_iff _ _ hr.2.1).mpr hh)
    have hne : ref.index0 ≠ x.index0 := fun e => hanc' (e ▸ .refl _)
    obtain ⟨a2, A, B, h2, _, habs⟩ := h.checkedInsertAfter_ok _ _ p hr.2.1 hx.2.1 hne hp hanc'
    rw [h2] at hc; cases hc
    exact ⟨_, _, _, _, habs, .insertAfter _ _⟩
  | insertBefore ref x res a' hr hx hpar hanc hc =>
    rw [hr.eq, hx.eq] at hc hanc
    rw [hr.eq] at hpar
    obtain ⟨p, hp⟩ := (h.ctx.rep.hasParent_iff _ hr.2.1).mp hpar
    have hanc' := fun hh => hanc ((h.ctx.rep.isAncestorOrSelf_iff _ _ hr.2.1).mpr hh)
    have hne : ref.index0 ≠ x.index0 := fun e => hanc' (e ▸ .refl _)
    obtain ⟨a2, A, B, h2, _, habs⟩ := h.checkedInsertBefore_ok _ _ p hr.2.1 hx.2.1 hne hp hanc'
    rw [h2] at hc; cases hc
    exact ⟨_, _, _, _, habs, .insertBefore _ _⟩
  | remove x a' hx hcond hc =>
    rw [hx.eq] at hc hcond
    cases hpar : g.par x.index0 with
    | some p =>
      obtain ⟨L, R, hkp⟩ := List.append_of_mem (h.ctx.rep.parKids _ _ hpar).2
      obtain ⟨a2, g2, h2, _, habs⟩ := h.remove_inner _ p L R hx.2.1 hpar hkp
      rw [h2] at hc; cases hc
      exact ⟨_, _, _, _, habs, .splice _⟩
    | none =>
      have hK : g.kids x.index0 = [] := by
        rcases hcond with h1 | h1
        · obtain ⟨p, hp⟩ := (h.ctx.rep.hasParent_iff _ hx.2.1).mp h1
          rw [hpar] at hp; cases hp
        · exact (h.ctx.rep.childless_iff _ hx.2.1).mp h1
      obtain ⟨a2, h2, habs⟩ := h.remove_leaf_root _ hx.2.1 hpar hK
      rw [h2] at hc; cases hc
      exact ⟨_, _, _, _, habs, .splice _⟩
  | removeSubtree x a' hx hc =>
    rw [hx.eq] at hc
    obtain ⟨a2, l, h2, _, habs⟩ := h.removeSubtree _ hx.2.1
    rw [h2] at hc; cases hc
    exact ⟨_, _, _, _, habs, .drop _⟩

/-- Histories of arena calls are simulated by histories of forest primitives. -/
theorem Abs.steps {a a' : Arena} {g : Shape} {w : View} {rs : List Nat} {f : Forest} (h : Abs a g w rs f)
    (s : Steps a a') : ∃ g' w' rs' f', Abs a' g' w' rs' f' ∧ FSteps f f' := by
  induction s with
  | refl => exact ⟨g, w, rs, f, h, .refl f⟩
  | tail _ c ih =>
    obtain ⟨g1, w1, rs1, f1, h1, s1⟩ := ih
    obtain ⟨g2, w2, rs2, f2, h2, c2⟩ := h1.call c
    exact ⟨g2, w2, rs2, f2, h2, .tail s1 c2⟩

end Arena
end XotModel
