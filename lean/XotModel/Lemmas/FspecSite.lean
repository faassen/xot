/-
  Working at one site: a forest with distinct handles in which the node `p` has the child list
  `L` (`SiteAt`).  An edit of `p` only depends on `g L`; the site description after an edit;
  validity facts (`validTree`) of the subtrees found by `get?`; `ancestorsOfList` sound and complete.
-/
import XotModel.Lemmas.FspecEditAt

namespace XotModel
open HTree Spec

/-! ### An edit only depends on what it does to the actual child list -/

theorem editAt_congr_list {p : Nat} {v : Value} {L : List HTree} {g g' : List HTree → List HTree}
    (hg : g L = g' L) : ∀ ks : List HTree, (handlesList ks).Nodup → findList? p ks = some (.node p v L) →
    ks.map (HTree.editAt p g) = ks.map (HTree.editAt p g') := by
  intro ks nd e
  obtain ⟨path, l, r, lc⟩ := Loc.of_findList? nd e
  rw [map_editAt_of_loc lc nd, map_editAt_of_loc lc nd, hg]

theorem editAt_congr_tree {p : Nat} {v : Value} {L : List HTree} {g g' : List HTree → List HTree}
    (hg : g L = g' L) : ∀ t : HTree, (handles t).Nodup → find? p t = some (.node p v L) →
    HTree.editAt p g t = HTree.editAt p g' t := by
  intro t nd e
  have := editAt_congr_list hg [t] (by simpa [handlesList] using nd) (by rw [Fmap.findList?_singleton]; exact e)
  simpa using this

/-- The node `p` is live with value `v` and child list `L`, in a forest with distinct handles. -/
structure SiteAt (f : Forest) (p : Nat) (v : Value) (L : List HTree) : Prop where
  nd : f.allHandles.Nodup
  kids : f.get? p = some (.node p v L)

namespace SiteAt

theorem congr {f : Forest} {p : Nat} {v : Value} {L : List HTree} (s : SiteAt f p v L)
    {g g' : List HTree → List HTree} (hg : g L = g' L) :
    f.editAt (some p) g = f.editAt (some p) g' := by
  simp only [Forest.editAt]
  rw [editAt_congr_list hg f.roots s.nd s.kids]

theorem edit {f : Forest} {p : Nat} {v : Value} {L : List HTree} (s : SiteAt f p v L)
    (g : List HTree → List HTree) (hg : (handlesList (g L)).Sublist (handlesList L)) :
    SiteAt (f.editAt (some p) g) p v (g L) := by
  obtain ⟨path, l, r, lc⟩ := Loc.of_findList? s.nd s.kids
  refine ⟨?_, Forest.get?_editAt_self g s.kids⟩
  -- the edited roots are the old ones with `g L` in the hole of `p`
  have nd0 : (handlesList (plug path (l ++ .node p v L :: r))).Nodup :=
    lc.eq ▸ (show (handlesList f.roots).Nodup from s.nd)
  show (handlesList (f.roots.map (HTree.editAt p g))).Nodup
  rw [map_editAt_of_loc lc s.nd]
  refine (handlesList_plug_sublist path ?_).nodup nd0
  simp only [handlesList_append, handlesList_cons, handles_node]
  exact List.Sublist.append_left (List.Sublist.append_right (List.Sublist.cons_cons _ hg) _) _

theorem ctx {f : Forest} {p : Nat} {v : Value} {l : List HTree} {k : HTree} {r : List HTree}
    (s : SiteAt f p v (l ++ k :: r)) : f.ctx? k.handle = some ⟨p, l, k, r⟩ :=
  Forest.ctx_of_kids s.nd s.kids

theorem getKid {f : Forest} {p : Nat} {v : Value} {l : List HTree} {k : HTree} {r : List HTree}
    (s : SiteAt f p v (l ++ k :: r)) : f.get? k.handle = some k :=
  findList?_kid f.roots s.nd s.kids

theorem of_ctx {f : Forest} {h : Nat} {c : Ctx} (nd : f.allHandles.Nodup) (e : f.ctx? h = some c) :
    c.self.handle = h ∧ ∃ v, SiteAt f c.parent v (c.left ++ c.self :: c.right) := by
  obtain ⟨e0, v, e1⟩ := Forest.kids_of_ctx nd e
  exact ⟨e0, v, nd, e1⟩

theorem of_get_ctx {f : Forest} {h : Nat} {t : HTree} {c : Ctx} (nd : f.allHandles.Nodup)
    (hg : f.get? h = some t) (e : f.ctx? h = some c) :
    ∃ po v l k r, c = ⟨po, l, k, r⟩ ∧ k = t ∧ k.handle = h ∧ SiteAt f po v (l ++ k :: r) := by
  obtain ⟨e0, v, s⟩ := of_ctx nd e
  have hself := Forest.get?_of_ctx nd e
  rw [hg] at hself
  obtain ⟨po, l, k, r⟩ := c
  exact ⟨po, v, l, k, r, rfl, (Option.some.inj hself).symm, e0, s⟩

theorem unique {f : Forest} {p : Nat} {v v' : Value} {L L' : List HTree} (s : SiteAt f p v L)
    (s' : SiteAt f p v' L') : v = v' ∧ L = L' := by
  have := s.kids
  rw [s'.kids] at this
  injection Option.some.inj this with _ e2 e3
  exact ⟨e2.symm, e3.symm⟩

theorem nodupKids {f : Forest} {p : Nat} {v : Value} {L : List HTree} (s : SiteAt f p v L) :
    (handlesList L).Nodup ∧ p ∉ handlesList L := by
  have hsub := findList?_sublist _ f.roots _ s.kids
  have := nodup_handles_node (hsub.nodup s.nd)
  exact ⟨this.2, this.1⟩

theorem not_mem_kid {f : Forest} {p : Nat} {v : Value} {l : List HTree} {k : HTree} {r : List HTree}
    (s : SiteAt f p v (l ++ k :: r)) : p ∉ handles k := by
  intro hin
  apply s.nodupKids.2
  rw [handlesList_append, handlesList_cons]
  exact List.mem_append_right _ (List.mem_append_left _ hin)

end SiteAt

/-! ### Validity of the subtrees found -/

theorem valid_find {b : Bool} {h : Nat} : ∀ (t u : HTree), validTree b t = true → find? h t = some u →
    validTree b u = true :=
  find?_valid b h

theorem validTree_node {b : Bool} {h : Nat} {v : Value} {ks : List HTree}
    (hv : validTree b (.node h v ks) = true) :
    (∀ k ∈ ks, kidAllowed v k.value = true) ∧ kidsOrdered ks = true ∧
    (b = true → noAdjacentText ks = true) ∧ validList b ks = true := by
  simp only [validTree, Bool.and_eq_true, List.all_eq_true, Bool.or_eq_true, Bool.not_eq_true'] at hv
  obtain ⟨⟨⟨⟨⟨h1, h2⟩, _⟩, _⟩, h5⟩, h6⟩ := hv
  refine ⟨h1, h2, ?_, h6⟩
  intro hb
  cases h5 with
  | inl h => rw [hb] at h; cases h
  | inr h => exact h

end XotModel
