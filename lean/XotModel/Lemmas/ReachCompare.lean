/-
  Reach: the structural hypotheses of the C13 theorems — `Tree.valid` (children ordered,
  attribute names unique, attribute / namespace nodes are leaves), `Tree.contentLeaves` (text, comment
  and PI nodes are leaves), `Tree.noInnerDocument` (no document node below the root),
  `Tree.validRootFor xpathKeep` — follow from `Reach.Structural`, hence hold of the erasure of every
  root of a forest with the invariant and of every subtree of it.
-/
import XotModel.Lemmas.ReachNode
import XotModel.Lemmas.CompareStrip

namespace XotModel.Reach
open XotModel

theorem attrPairs_fst : ∀ ks : List Tree, (attrPairs ks).map (·.1) = attrNames ks
  | [] => rfl
  | k :: ks => by
    rw [attrPairs, attrNames, List.filterMap_cons, ← attrNames, ← attrPairs_fst ks]
    cases k.value <;> rfl

theorem attrNamesNodup_of_uniqueKids {ks : List Tree} (h : UniqueKids ks) : attrNamesNodup ks = true := by
  simp only [attrNamesNodup, decide_eq_true_eq, attrPairs_fst]
  exact h.1

mutual
  /-- The hypothesis `valid` of the C13 theorems. -/
  theorem valid_of_structural : ∀ t : Tree, Structural t → t.valid = true
    | .node v ks, h => by
      obtain ⟨ho, hk, hu, hkids⟩ := h.node
      simp only [Tree.valid, Bool.and_eq_true, Bool.or_eq_true]
      refine ⟨⟨⟨orderedKids_of_ordered ks ho, attrNamesNodup_of_uniqueKids hu⟩, ?_⟩,
        validList_of_structural ks hkids⟩
      by_cases hn : v.isNormal = true
      · exact Or.inl hn
      · right
        rw [hk.1 (isLeafKind_of_not_normal hn)]; rfl
  theorem validList_of_structural : ∀ ks : List Tree, (∀ k ∈ ks, Structural k) →
      Tree.valid.validList ks = true
    | [], _ => rfl
    | k :: ks, h => by
      simp only [Tree.valid.validList, Bool.and_eq_true]
      exact ⟨valid_of_structural k (h k (List.mem_cons_self ..)),
        validList_of_structural ks (fun k' hk' => h k' (List.mem_cons_of_mem _ hk'))⟩
end

mutual
  theorem contentLeaves_of_structural : ∀ t : Tree, Structural t → t.contentLeaves = true
    | .node v ks, h => by
      obtain ⟨_, hk, _, hkids⟩ := h.node
      simp only [Tree.contentLeaves, Bool.and_eq_true]
      refine ⟨?_, leavesList_of_structural ks hkids⟩
      cases v <;> first | rfl | (rw [hk.1 rfl]; rfl)
  theorem leavesList_of_structural : ∀ ks : List Tree, (∀ k ∈ ks, Structural k) →
      Tree.contentLeaves.leavesList ks = true
    | [], _ => rfl
    | k :: ks, h => by
      simp only [Tree.contentLeaves.leavesList, Bool.and_eq_true]
      exact ⟨contentLeaves_of_structural k (h k (List.mem_cons_self ..)),
        leavesList_of_structural ks (fun k' hk' => h k' (List.mem_cons_of_mem _ hk'))⟩
end

mutual
  theorem noInnerDocument_of_structural : ∀ t : Tree, Structural t → t.noInnerDocument = true
    | .node v ks, h => by
      obtain ⟨_, hk, _, hkids⟩ := h.node
      simp only [Tree.noInnerDocument]
      exact noDocList_of_structural ks hkids hk.2.2
  theorem noDocList_of_structural : ∀ ks : List Tree, (∀ k ∈ ks, Structural k) →
      (∀ k ∈ ks, k.value.isDocument = false) → Tree.noInnerDocument.noDocList ks = true
    | [], _, _ => rfl
    | k :: ks, h, hd => by
      simp only [Tree.noInnerDocument.noDocList, Bool.and_eq_true, Bool.not_eq_true']
      exact ⟨⟨hd k (List.mem_cons_self ..), noInnerDocument_of_structural k (h k (List.mem_cons_self ..))⟩,
        noDocList_of_structural ks (fun k' hk' => h k' (List.mem_cons_of_mem _ hk'))
          (fun k' hk' => hd k' (List.mem_cons_of_mem _ hk'))⟩
end

/-- The hypothesis of the `deep_equal_xpath` theorems. -/
theorem validRootFor_xpathKeep_of_structural {t : Tree} (h : Structural t) :
    t.validRootFor xpathKeep = true :=
  validRootFor_xpathKeep_of_valid t (valid_of_structural t h) (contentLeaves_of_structural t h)
    (noInnerDocument_of_structural t h)

/-- All C13 hypotheses at once, for a node anywhere in a structurally valid tree. -/
theorem compare_hyps_at {t : Tree} (h : Structural t) {p : Path} {s : Tree} (hs : t.at? p = some s) :
    s.valid = true ∧ s.contentLeaves = true ∧ s.noInnerDocument = true ∧
      s.validRootFor xpathKeep = true ∧ orderedKids s.kids = true ∧ attrNamesNodup s.kids = true := by
  have hsub := h.sub hs
  refine ⟨valid_of_structural s hsub, contentLeaves_of_structural s hsub,
    noInnerDocument_of_structural s hsub, validRootFor_xpathKeep_of_structural hsub, ?_, ?_⟩
  · cases s with
    | node v ks => exact orderedKids_of_ordered ks hsub.node.1
  · cases s with
    | node v ks => exact attrNamesNodup_of_uniqueKids hsub.node.2.2.1

/-- **Every node of every root of a forest with the invariant satisfies the hypotheses of the C13
    theorems.** -/
theorem compare_hyps_root {f : Forest} (hi : f.Inv) {r : HTree} (hr : r ∈ f.roots) {p : Path} {s : Tree}
    (hs : r.erase.at? p = some s) :
    s.valid = true ∧ s.contentLeaves = true ∧ s.noInnerDocument = true ∧
      s.validRootFor xpathKeep = true ∧ orderedKids s.kids = true ∧ attrNamesNodup s.kids = true :=
  compare_hyps_at (structural_root hi hr) hs

end XotModel.Reach
