/-
  Histories with returned values: what every update returns is what the reference returns
  (`ret_all`), one `MapCall` (`call_step`), histories of calls (`history_calls`), and the `MapOp2`
  histories as their instance (`history_all`).
-/
import XotModel.Lemmas.FmapHistStep
import XotModel.Model.FmapRet

/-! ## `ret_all`

What every update of `MapOp2` returns (`MapOp2.ret`) is what the reference returns (`specRet2`), from any forest
satisfying the invariant whose views agree with the reference family. -/

namespace XotModel
namespace Fmap
open HTree
open Forest (MapKind entryKey mapChildren MapEntry)

/-! ### The reads -/

theorem getP_eq (f : Forest) (k : MapKind) (e key : Nat) : getP f k e key = omGet (abs k f e) key :=
  get_eq f k e key

theorem getP_agree {f : Forest} {F : Fam} (hF : Agree f F) (k : MapKind) (e key : Nat) :
    getP f k e key = omGet (F e k) key := by
  rw [getP_eq, hF]

theorem Fam.upd_same (F : Fam) (e : Nat) (k : MapKind) (g : OMap Payload → OMap Payload) :
    F.upd e k g e k = g (F e k) := by
  simp [Fam.upd, Fam.set]

theorem post_get {f : Forest} {F : Fam} (hi : f.Inv) (hF : Agree f F) (op : MapOp2)
    (hok : op.ok f = true) (k : MapKind) (e key : Nat) :
    getP (op.run f).1 k e key = omGet (specStep F op e k) key := by
  rw [getP_eq, (step_all hi hF op hok).2.agree e k]

/-! ### The entry calls -/

theorem entryAndModify_occupied (f : Forest) (k : MapKind) (e key : Nat) (g : Value → Value)
    (he : f.isElement e = true) :
    (f.entryAndModify k e key g).2.2.isOccupied = omContainsKey (abs k f e) key := by
  cases hn : f.mapGetNode k e key with
  | some n =>
    rw [entryAndModify_found f k e key g n he hn, contains_of_getNode hn]
    rfl
  | none =>
    rw [entryAndModify_absent f k e key g he hn, (getNode_none_iff f k e key).mp hn]
    rfl

/-- `match entry(key) { Occupied(_) => Some(old), Vacant(_) => None }` is the reference lookup. -/
theorem occupied_old {f : Forest} {F : Fam} (hF : Agree f F) (k : MapKind) (e key : Nat) :
    (match f.mapEntry k e key with
      | .occupied key' => Ret.value (getP f k e key')
      | .vacant _ => Ret.value none) = Ret.value (omGet (F e k) key) := by
  rw [mapEntry_eq, hF]
  cases hc : omContainsKey (F e k) key with
  | true => simp only [if_true]; rw [getP_agree hF]
  | false =>
    simp only [Bool.false_eq_true, if_false]
    rw [get_none_of_not_contains _ _ hc]

theorem ret_all {f : Forest} {F : Fam} (hi : f.Inv) (hF : Agree f F) (op : MapOp2)
    (hok : op.ok f = true) : op.ret f = specRet2 F (nodeView f) op := by
  obtain rfl : F = famOf f := funext fun x => funext fun k => (hF x k).symm
  cases op with
  | insert k e v | remove k e key | getMutSet k e key new =>
    exact congrArg Ret.value (getP_agree hF k e _)
  | clear k e | setAttribute e name value | removeAttribute e name | setNamespace e pfx ns
  | removeNamespace e pfx | detachEntryNode k e key | removeEntryNode k e key => rfl
  | entryOrInsert k e d =>
    have := post_get hi hF (.entryOrInsert k e d) hok k e (entryKey d)
    rw [show specStep (famOf f) (.entryOrInsert k e d) = (famOf f).upd e k (opOrInsert d) from rfl,
      Fam.upd_same] at this
    exact congrArg Ret.value this
  | entryOrDefault e name =>
    have := post_get hi hF (.entryOrDefault e name) hok .attributes e name
    rw [show specStep (famOf f) (.entryOrDefault e name) =
      (famOf f).upd e .attributes (opOrInsert (.attribute name [])) from rfl, Fam.upd_same] at this
    exact congrArg Ret.value this
  | entryAndModify k e key g =>
    simp only [MapOp2.ok] at hok
    show Ret.bool _ = Ret.bool _
    rw [entryAndModify_occupied f k e key _ hok, hF]
  | entryAndModifyOrInsert k e d g =>
    have := post_get hi hF (.entryAndModifyOrInsert k e d g) hok k e (entryKey d)
    rw [show specStep (famOf f) (.entryAndModifyOrInsert k e d g) =
      (famOf f).upd e k (opModifyOrInsert k d g) from rfl, Fam.upd_same] at this
    exact congrArg Ret.value this
  | entryInsert k e v | occupiedInsert k e v | entryRemove k e key => exact occupied_old hF k e _
  | vacantInsert k e v =>
    show (match f.mapEntry k e (entryKey v) with
      | .occupied _ => Ret.value none
      | .vacant key => Ret.value (getP (f.vacantInsert k e v).1 k e key)) = _
    rw [mapEntry_eq, hF]
    show _ = Ret.value (if omContainsKey (famOf f e k) (entryKey v) then none else some (payloadOf v))
    cases hc : omContainsKey (famOf f e k) (entryKey v) with
    | true => rfl
    | false =>
      simp only [Bool.false_eq_true, if_false]
      have := post_get hi hF (.vacantInsert k e v) hok k e (entryKey v)
      rw [show specStep (famOf f) (.vacantInsert k e v) = (famOf f).upd e k (opOrInsert v) from rfl,
        Fam.upd_same, opInsert_of_contains_false v _ hc] at this
      rw [show (MapOp2.vacantInsert k e v).run f = f.vacantInsert k e v from rfl] at this
      rw [this]
      unfold opInsert
      rw [omGet_insert_self]
  | appendNewNode k e v =>
    simp only [MapOp2.ok, Bool.and_eq_true] at hok
    exact congrArg Ret.node (change_appendNew hi k e v hok.1 hok.2).2.1
  | appendDetachedNode k e nd v =>
    simp only [MapOp2.ok, Bool.and_eq_true] at hok
    obtain ⟨hroot, hm, _⟩ := isDetachedEntry_root hi k nd v hok.2
    exact congrArg Ret.node (change_appendLeafRoot hi k e nd v hok.1 hm hroot).2.1
  | appendOwnNode k e key =>
    simp only [MapOp2.ok] at hok
    have := (stepOK_appendRef hi hF k e e key hok hok).2.1
    unfold carrierOf at this
    rw [if_pos rfl] at this
    exact congrArg Ret.node this
  | appendAttachedNode k e e2 key =>
    simp only [MapOp2.ok, Bool.and_eq_true] at hok
    exact congrArg Ret.node (stepOK_appendRef hi hF k e e2 key hok.1.1 hok.1.2).2.1
  | anyAppend e r =>
    cases r with
    | new v =>
      obtain ⟨k, hk, he, hm, heq⟩ := anyAppend_new hi e v hok
      show Ret.node (some ((f.newNode v).1.anyAppend e f.next).2.2) = specRet2 _ (nodeView f) _
      simp only [specRet2, hk]
      rw [heq]
      exact congrArg Ret.node (change_appendNew hi k e v he hm).2.1
    | detached nd v =>
      obtain ⟨k, hk, he, hm, hroot, heq⟩ := anyAppend_detached hi e nd v hok
      show Ret.node (some (f.anyAppend e nd).2.2) = specRet2 _ (nodeView f) _
      simp only [specRet2, hk]
      rw [heq]
      exact congrArg Ret.node (change_appendLeafRoot hi k e nd v he hm hroot).2.1
    | entry k e2 key =>
      simp only [MapOp2.ok, Bool.and_eq_true] at hok
      show Ret.node ((f.mapGetNode k e2 key).map fun n => (f.anyAppend e n.handle).2.2) =
        Ret.node (carrierOf (famOf f) (nodeView f) k e e2 key)
      rw [← (stepOK_appendRef hi hF k e e2 key hok.1 hok.2).2.1]
      cases hn : f.mapGetNode k e2 key with
      | none => rfl
      | some n =>
        obtain ⟨hval, hmv, _⟩ := getNode_value hi k e2 key n hok.2 hn
        simp only [Option.map_some]
        rw [anyAppend_entry f k e n.handle n.value hval hmv]

end Fmap
end XotModel

/-! ## `call_step`, `history_calls`, and the embedding of the `MapOp2` histories -/

namespace XotModel
namespace Fmap
open HTree
open Forest (MapKind entryKey mapChildren MapEntry)

/-! ### The remaining entry calls as the calls they reduce to -/

/-- `or_insert_with(call)` computes the forest and the outcome of `or_insert(call())`. -/
theorem entryOrInsertWith_eq (f : Forest) (k : MapKind) (e key : Nat) (call : Unit → Value)
    (hk : entryKey (call ()) = key) :
    (f.entryOrInsertWith k e key call).1 = (f.entryOrInsert k e (call ())).1 ∧
    (f.entryOrInsertWith k e key call).2.1 = (f.entryOrInsert k e (call ())).2 := by
  unfold Forest.entryOrInsertWith Forest.entryOrInsert
  rw [hk]
  cases he : f.isElement e
  · simp
  · simp only [Bool.not_true, Bool.false_eq_true, if_false]
    unfold Forest.mapEntry Forest.mapGet
    cases hn : f.mapGetNode k e key <;> simp

/-- `OccupiedEntry::into_mut` / `get_mut` behind a successful `get` is `get_mut`. -/
theorem occupiedIntoMutSet_eq (f : Forest) (k : MapKind) (e key : Nat) (new : Value) :
    f.occupiedIntoMutSet k e key new = f.mapGetMutSet k e key new := by
  unfold Forest.occupiedIntoMutSet Forest.mapGetMutSet Forest.mapEntry Forest.mapGet
  cases f.isElement e
  · simp
  · cases hn : f.mapGetNode k e key <;> simp [hn]

theorem mapGetMutSet_found (f : Forest) (k : MapKind) (e key : Nat) (new : Value)
    (he : f.isElement e = true) :
    (f.mapGetMutSet k e key new).2.2 = (f.mapGetNode k e key).isSome := by
  unfold Forest.mapGetMutSet
  rw [he]
  cases f.mapGetNode k e key <;> rfl

theorem getP_if_found (f : Forest) (k : MapKind) (e key : Nat) :
    (if (f.mapGetNode k e key).isSome then getP f k e key else none) = getP f k e key := by
  unfold getP
  cases f.mapGetNode k e key <;> rfl

/-! ### One call -/

/-- One step of a history of calls: it returns `ok`, it returns what the reference returns, and
    it is a `StepOK` towards the reference family after the call, with the reference's carrier of a
    new entry and its count of nodes made. -/
theorem call_step {f : Forest} {F : Fam} (hi : f.Inv) (hF : Agree f F) (c : MapCall)
    (hok : c.ok f = true) :
    (c.run f).2.1 = .ok ∧ (c.run f).2.2 = c.specRet F (nodeView f) ∧
    StepOK f (c.run f).1 (c.spec F) (c.given (nfamOf f) f.next) (c.creates F) := by
  cases c with
  | base op =>
    obtain ⟨r, s⟩ := step_all hi hF op hok
    exact ⟨r, ret_all hi hF op hok, s⟩
  | entryOrInsertWith k e key call =>
    simp only [MapCall.ok, Bool.and_eq_true, beq_iff_eq] at hok
    obtain ⟨⟨he, hm⟩, hk⟩ := hok
    subst hk
    obtain ⟨e1, e2⟩ := entryOrInsertWith_eq f k e _ call rfl
    obtain ⟨r, t⟩ := change_entryOrInsert hi k e (call ()) he hm
    show (f.entryOrInsertWith k e _ call).2.1 = .ok ∧
      Ret.value (getP (f.entryOrInsertWith k e _ call).1 k e _) =
        Ret.value (omGet (opOrInsert (call ()) (F e k)) _) ∧
      StepOK f (f.entryOrInsertWith k e _ call).1 (F.upd e k (opOrInsert (call ()))) f.next
        (if omContainsKey (F e k) (entryKey (call ())) then 0 else 1)
    rw [e1, e2, ← hF e k]
    exact ⟨r, by rw [getP_eq, t.same], t.stepOK hF he⟩
  | occupiedIntoMutSet k e key new | occupiedGetMutSet k e key new =>
    simp only [MapCall.ok, Bool.and_eq_true] at hok
    obtain ⟨r, t⟩ := change_getMutSet hi k e key new hok.1 hok.2 f.next
    show (f.occupiedIntoMutSet k e key new).2.1 = .ok ∧
      Ret.value (if (f.occupiedIntoMutSet k e key new).2.2 then getP f k e key else none) =
        Ret.value (omGet (F e k) key) ∧
      StepOK f (f.occupiedIntoMutSet k e key new).1
        (F.upd e k (fun m => omModify m key (fun _ => payloadOf new))) f.next 0
    rw [occupiedIntoMutSet_eq, mapGetMutSet_found f k e key new hok.1, getP_if_found,
      getP_agree hF]
    exact ⟨r, rfl, t.stepOK (g := fun m => omModify m key (fun _ => payloadOf new)) hF hok.1⟩
  | peekKey k e key =>
    simp only [MapCall.ok] at hok
    show (peekKeyRun f k e key).2.1 = .ok ∧ (peekKeyRun f k e key).2.2 = Ret.key key ∧
      StepOK f (peekKeyRun f k e key).1 F f.next 0
    unfold peekKeyRun
    rw [hok, mapEntry_eq]
    cases omContainsKey (abs k f e) key <;> exact ⟨rfl, rfl, StepOK.refl hi hF⟩
  | occupiedGet k e key =>
    simp only [MapCall.ok] at hok
    show (occupiedGetRun f k e key).2.1 = .ok ∧
      (occupiedGetRun f k e key).2.2 = Ret.value (omGet (F e k) key) ∧
      StepOK f (occupiedGetRun f k e key).1 F f.next 0
    unfold occupiedGetRun
    rw [hok, mapEntry_eq]
    cases hn : f.mapGetNode k e key with
    | some n =>
      rw [contains_of_getNode hn]
      simp only [Bool.not_true, Bool.false_eq_true, if_false, if_true, Forest.mapGet, hn,
        Option.map_some]
      refine ⟨trivial, ?_, StepOK.refl hi hF⟩
      rw [← hF, getNode_payload f k e key n hn]
    | none =>
      have hc := (getNode_none_iff f k e key).mp hn
      rw [hc]
      simp only [Bool.not_true, Bool.false_eq_true, if_false]
      refine ⟨trivial, ?_, StepOK.refl hi hF⟩
      rw [← hF, get_none_of_not_contains _ _ hc]
  | get k e key =>
    exact ⟨rfl, congrArg Ret.value (getP_agree hF k e key), StepOK.refl hi hF⟩
  | getNode k e key => exact ⟨rfl, rfl, StepOK.refl hi hF⟩
  | containsKey k e key =>
    refine ⟨rfl, ?_, StepOK.refl hi hF⟩
    show Ret.bool _ = Ret.bool _
    rw [containsKey_eq, hF]

/-! ### Histories of calls -/

theorem traceCalls_head (f : Forest) (cs : List MapCall) : ∃ rest, traceCalls f cs = f :: rest := by
  cases cs <;> exact ⟨_, rfl⟩

theorem history_calls : ∀ (cs : List MapCall) (f : Forest) (F : Fam), f.Inv → Agree f F →
    (runCalls f cs).2.2 = true →
    (∀ r ∈ (runCalls f cs).2.1, r.1 = .ok) ∧
    (runCalls f cs).2.1.map (·.2) = specRets f F cs ∧
    (runCalls f cs).1.Inv ∧ Agree (runCalls f cs).1 (specCalls F cs) ∧
    (∀ x, (runCalls f cs).1.isElement x = f.isElement x) ∧
    (∀ g ∈ traceCalls f cs, g.Inv) ∧ StableTrace (traceCalls f cs)
  | [], f, F => by
    intro hi hF _
    refine ⟨by simp [runCalls], rfl, hi, hF, fun _ => rfl, ?_, trivial⟩
    intro g hg
    simp only [traceCalls, List.mem_singleton] at hg
    rw [hg]; exact hi
  | c :: cs, f, F => by
    intro hi hF hok
    simp only [runCalls, Bool.and_eq_true] at hok
    obtain ⟨r, hret, s⟩ := call_step hi hF c hok.1
    obtain ⟨h1, hr, h2, h3, h4, h5, h6⟩ :=
      history_calls cs (c.run f).1 (c.spec F) s.inv s.agree hok.2
    refine ⟨?_, ?_, h2, h3, fun x => (h4 x).trans (s.elem x), ?_, ?_⟩
    · intro r' hr'
      simp only [runCalls, List.mem_cons] at hr'
      rcases hr' with hr' | hr'
      · rw [hr']; exact r
      · exact h1 r' hr'
    · simp only [runCalls, specRets, List.map_cons]
      rw [hret, hr]
    · intro g hg
      simp only [traceCalls, List.mem_cons] at hg
      rcases hg with hg | hg
      · rw [hg]; exact hi
      · exact h5 g hg
    · obtain ⟨rest, hrest⟩ := traceCalls_head (c.run f).1 cs
      simp only [traceCalls]
      rw [hrest] at h6 ⊢
      exact ⟨s.kn, h6⟩

theorem traceCalls_last (cs : List MapCall) : ∀ f : Forest, (runCalls f cs).1 ∈ traceCalls f cs := by
  induction cs with
  | nil => intro f; simp [runCalls, traceCalls]
  | cons c cs ih =>
    intro f
    simp only [runCalls, traceCalls, List.mem_cons]
    exact Or.inr (ih _)

/-! ### The `MapOp2` histories are the histories of `base` calls -/

theorem runCalls_base : ∀ (ops : List MapOp2) (f : Forest),
    (runCalls f (ops.map .base)).1 = (runOps2 f ops).1 ∧
    (runCalls f (ops.map .base)).2.1.map (·.1) = (runOps2 f ops).2.1 ∧
    (runCalls f (ops.map .base)).2.2 = (runOps2 f ops).2.2 ∧
    traceCalls f (ops.map .base) = trace2 f ops
  | [], f => ⟨rfl, rfl, rfl, rfl⟩
  | op :: ops, f => by
    obtain ⟨a, b, c, d⟩ := runCalls_base ops (op.run f).1
    simp only [List.map_cons, runCalls, runOps2, traceCalls, trace2, MapCall.run, MapCall.ok]
    exact ⟨a, by rw [b], by rw [c], by rw [d]⟩

theorem specCalls_base (F : Fam) (ops : List MapOp2) :
    specCalls F (ops.map .base) = specOps2 F ops := by
  unfold specCalls specOps2
  induction ops generalizing F with
  | nil => rfl
  | cons op ops ih => simp only [List.map_cons, List.foldl_cons]; exact ih _

/-- A history of updates: that of its `base` calls. -/
theorem history_all : ∀ (ops : List MapOp2) (f : Forest) (F : Fam), f.Inv → Agree f F →
    (runOps2 f ops).2.2 = true →
    (∀ r ∈ (runOps2 f ops).2.1, r = .ok) ∧
    (runOps2 f ops).1.Inv ∧ Agree (runOps2 f ops).1 (specOps2 F ops) ∧
    (∀ x, (runOps2 f ops).1.isElement x = f.isElement x) ∧
    (∀ g ∈ trace2 f ops, g.Inv) ∧ StableTrace (trace2 f ops) := by
  intro ops f F hi hF hok
  obtain ⟨e1, e2, e3, e4⟩ := runCalls_base ops f
  obtain ⟨h1, _, h2, h3, h4, h5, h6⟩ := history_calls (ops.map .base) f F hi hF (e3.trans hok)
  rw [e1] at h2 h3 h4
  rw [specCalls_base] at h3
  rw [e4] at h5 h6
  refine ⟨fun r hr => ?_, h2, h3, h4, h5, h6⟩
  rw [← e2] at hr
  obtain ⟨r', hr', rfl⟩ := List.mem_map.mp hr
  exact h1 r' hr'

theorem trace2_head (f : Forest) (ops : List MapOp2) : ∃ rest, trace2 f ops = f :: rest := by
  cases ops <;> exact ⟨_, rfl⟩

theorem trace2_last (ops : List MapOp2) : ∀ f : Forest, (runOps2 f ops).1 ∈ trace2 f ops := by
  intro f
  obtain ⟨e1, _, _, e4⟩ := runCalls_base ops f
  rw [← e1, ← e4]
  exact traceCalls_last _ f

end Fmap
end XotModel
