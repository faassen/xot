/-
  Histories of arena calls.  `Call a a'`: one call of the API xot
  uses, with live arguments (ids that are the current id of a live slot), leads from `a` to `a'`;
  the sibling insertions additionally require what indextree itself does not check (the reference
  node has a parent; the inserted node is not the reference node or one of its ancestors), and
  `remove` that the node has a parent or no children; `remove_subtree` needs nothing more.  Every
  such call keeps the pointer invariant and never lowers the magnitude of a stamp.
-/
import XotModel.Lemmas.ArenaRemove
import XotModel.Lemmas.ArenaRemoveSubtree

namespace XotModel
namespace Arena

/-- The slot of `x` has a `parent` pointer. -/
def HasParent (a : Arena) (x : NodeId) : Prop := ∃ s, a.slot x.index0 = some s ∧ s.parent.isSome = true

/-- The slot of `x` has no `first_child` pointer. -/
def Childless (a : Arena) (x : NodeId) : Prop := ∃ s, a.slot x.index0 = some s ∧ s.first = none

/-- `x` is `ref` or one of its ancestors, as the `ancestors` iterator sees it. -/
def IsAncestorOrSelf (a : Arena) (x ref : NodeId) : Prop :=
  ∃ l, ancestors a ref a.fuel = .done a l ∧ x ∈ l

/-- One call with live arguments inside the list semantics. -/
inductive Call (a : Arena) : Arena → Prop where
  | newNode (v : Nat) (id : NodeId) (a' : Arena) : Arena.newNode a v = .done a' id → Call a a'
  | detach (x : NodeId) (a' : Arena) : LiveId a x → Arena.detach a x = .done a' () → Call a a'
  | append (p x : NodeId) (res : Except NodeError Unit) (a' : Arena) : LiveId a p → LiveId a x →
      checkedAppend a p x = .done a' res → Call a a'
  | prepend (p x : NodeId) (res : Except NodeError Unit) (a' : Arena) : LiveId a p → LiveId a x →
      checkedPrepend a p x = .done a' res → Call a a'
  | insertAfter (ref x : NodeId) (res : Except NodeError Unit) (a' : Arena) : LiveId a ref → LiveId a x →
      HasParent a ref → ¬ IsAncestorOrSelf a x ref → checkedInsertAfter a ref x = .done a' res → Call a a'
  | insertBefore (ref x : NodeId) (res : Except NodeError Unit) (a' : Arena) : LiveId a ref → LiveId a x →
      HasParent a ref → ¬ IsAncestorOrSelf a x ref → checkedInsertBefore a ref x = .done a' res → Call a a'
  | remove (x : NodeId) (a' : Arena) : LiveId a x → (HasParent a x ∨ Childless a x) →
      Arena.remove a x = .done a' () → Call a a'
  | removeSubtree (x : NodeId) (a' : Arena) : LiveId a x → Arena.removeSubtree a x = .done a' () → Call a a'

inductive Steps : Arena → Arena → Prop where
  | refl (a : Arena) : Steps a a
  | tail {a b c : Arena} : Steps a b → Call b c → Steps a c

theorem Rep.hasParent_iff {a : Arena} {g : Shape} (r : Rep a g) (i : Nat) (hi : Live a i) :
    HasParent a (a.idAt i) ↔ ∃ p, g.par i = some p := by
  obtain ⟨s, hs, h0⟩ := hi
  have P := r.ptrs i s hs h0
  constructor
  · rintro ⟨s', hs', hp⟩
    rw [idAt_index0, hs] at hs'; cases hs'
    rw [P.parent] at hp
    cases h : g.par i with
    | none => rw [h] at hp; simp at hp
    | some p => exact ⟨p, rfl⟩
  · rintro ⟨p, hp⟩
    exact ⟨s, hs, by rw [P.parent, hp]; rfl⟩

theorem Rep.childless_iff {a : Arena} {g : Shape} (r : Rep a g) (i : Nat) (hi : Live a i) :
    Childless a (a.idAt i) ↔ g.kids i = [] := by
  obtain ⟨s, hs, h0⟩ := hi
  have P := r.ptrs i s hs h0
  constructor
  · rintro ⟨s', hs', hp⟩
    rw [idAt_index0, hs] at hs'; cases hs'
    rw [P.first] at hp
    cases h : g.kids i with
    | nil => rfl
    | cons y ys => rw [h] at hp; simp at hp
  · intro hk
    exact ⟨s, hs, by rw [P.first, hk]; rfl⟩

theorem Rep.isAncestorOrSelf_iff {a : Arena} {g : Shape} (r : Rep a g) (x ref : Nat) (hr : Live a ref) :
    IsAncestorOrSelf a (a.idAt x) (a.idAt ref) ↔ Reach g.par ref x := by
  obtain ⟨l, hl, hlen⟩ := r.upChain ref hr
  have hanc := r.ancestors_chain ref l hl hr a.fuel (by unfold fuel; omega)
  constructor
  · rintro ⟨l', hl', hm⟩
    rw [hanc] at hl'; cases hl'
    obtain ⟨y, hy, e⟩ := List.mem_map.mp hm
    exact idAt_inj a e ▸ (hl.mem_iff y).mp hy
  · intro hreach
    exact ⟨_, hanc, List.mem_map.mpr ⟨x, (hl.mem_iff x).mpr hreach, rfl⟩⟩

/-- `remove` of a live node that has a parent or no children (the cases inside the list semantics):
    pointer writes up to an arena `a2` that stores a shape in which the node is isolated, then `free_node`. -/
theorem Rep.remove_ok {a : Arena} {g : Shape} (r : Rep a g) (i : Nat) (hi : Live a i)
    (hcond : HasParent a (a.idAt i) ∨ Childless a (a.idAt i)) :
    ∃ a2 g2 a' g', MetaEq a a2 ∧ Rep a2 g2 ∧ Arena.remove a (a.idAt i) = .done a' () ∧
      FreeNodeOk a2 g2 i a' ∧ Rep a' g' := by
  by_cases hk : g.kids i = []
  · obtain ⟨a1, a2, _, hM, r1, h2, ok, r2⟩ := r.remove_leaf i hi hk
    exact ⟨a1, _, a2, _, hM, r1, h2, ok, r2⟩
  · obtain ⟨p, hp⟩ : ∃ p, g.par i = some p := by
      rcases hcond with h1 | h1
      · exact (r.hasParent_iff i hi).mp h1
      · exact absurd ((r.childless_iff i hi).mp h1) hk
    obtain ⟨L, R, hkp⟩ := List.append_of_mem (r.parKids _ _ hp).2
    cases hh : (g.kids i).head? with
    | none => exact absurd (List.head?_eq_none_iff.mp hh) hk
    | some c1 =>
      cases hl : (g.kids i).getLast? with
      | none => exact absurd (List.getLast?_eq_none_iff.mp hl) hk
      | some ck =>
        obtain ⟨a5, a2, hM5, r5, h2, ok, r2⟩ := r.remove_inner i p L R c1 ck hi hp hkp hh hl
        exact ⟨a5, _, a2, _, hM5, r5, h2, ok, r2⟩

/-- Every call keeps the invariant and never lowers a stamp's magnitude. -/
theorem Call.rep {a a' : Arena} {g : Shape} (r : Rep a g) (c : Call a a') :
    (∃ g', Rep a' g') ∧ StampMono a a' := by
  cases c with
  | newNode v id a' h =>
    obtain ⟨a2, id2, g2, h2, ok⟩ := r.newNode v
    rw [h2] at h; cases h
    exact ⟨⟨g2, ok.rep⟩, ok.stampMono r⟩
  | detach x a' hx h =>
    obtain ⟨a2, h2, r2, hM⟩ := r.detach x hx
    rw [h2] at h; cases h
    exact ⟨⟨_, r2⟩, hM.stampMono⟩
  | append p x res a' hp hx h =>
    rw [hp.eq, hx.eq] at h
    by_cases hpx : p.index0 = x.index0
    · rw [hpx, checkedAppend_self] at h; cases h
      exact ⟨⟨g, r⟩, StampMono.refl a⟩
    · by_cases hanc : Reach g.par p.index0 x.index0
      · rw [r.checkedAppend_ancestor _ _ hp.2.1 hx.2.1 hpx hanc] at h; cases h
        exact ⟨⟨g, r⟩, StampMono.refl a⟩
      · obtain ⟨a2, h2, r2, hM⟩ := r.checkedAppend_ok _ _ hp.2.1 hx.2.1 hpx hanc
        rw [h2] at h; cases h
        exact ⟨⟨_, r2⟩, hM.stampMono⟩
  | prepend p x res a' hp hx h =>
    rw [hp.eq, hx.eq] at h
    by_cases hpx : p.index0 = x.index0
    · rw [hpx, checkedPrepend_self] at h; cases h
      exact ⟨⟨g, r⟩, StampMono.refl a⟩
    · by_cases hanc : Reach g.par p.index0 x.index0
      · rw [r.checkedPrepend_ancestor _ _ hp.2.1 hx.2.1 hpx hanc] at h; cases h
        exact ⟨⟨g, r⟩, StampMono.refl a⟩
      · by_cases hfirst : (g.kids p.index0).head? = some x.index0
        · rw [r.checkedPrepend_first_panics _ _ hp.2.1 hx.2.1 hpx hanc hfirst] at h; cases h
        · obtain ⟨a2, h2, r2, hM⟩ := r.checkedPrepend_ok _ _ hp.2.1 hx.2.1 hpx hanc hfirst
          rw [h2] at h; cases h
          exact ⟨⟨_, r2⟩, hM.stampMono⟩
  | insertAfter ref x res a' hr hx hpar hanc h =>
    rw [hr.eq, hx.eq] at h hanc
    rw [hr.eq] at hpar
    obtain ⟨p, hp⟩ := (r.hasParent_iff _ hr.2.1).mp hpar
    have hanc' := fun hh => hanc ((r.isAncestorOrSelf_iff _ _ hr.2.1).mpr hh)
    have hne : ref.index0 ≠ x.index0 := fun e => hanc' (e ▸ .refl _)
    obtain ⟨a2, A, B, h2, _, r2, hM⟩ := r.checkedInsertAfter_ok _ _ p hr.2.1 hx.2.1 hne hp hanc'
    rw [h2] at h; cases h
    exact ⟨⟨_, r2⟩, hM.stampMono⟩
  | insertBefore ref x res a' hr hx hpar hanc h =>
    rw [hr.eq, hx.eq] at h hanc
    rw [hr.eq] at hpar
    obtain ⟨p, hp⟩ := (r.hasParent_iff _ hr.2.1).mp hpar
    have hanc' := fun hh => hanc ((r.isAncestorOrSelf_iff _ _ hr.2.1).mpr hh)
    have hne : ref.index0 ≠ x.index0 := fun e => hanc' (e ▸ .refl _)
    obtain ⟨a2, A, B, h2, _, r2, hM⟩ := r.checkedInsertBefore_ok _ _ p hr.2.1 hx.2.1 hne hp hanc'
    rw [h2] at h; cases h
    exact ⟨⟨_, r2⟩, hM.stampMono⟩
  | remove x a' hx hcond h =>
    rw [hx.eq] at h hcond
    obtain ⟨a2, g2, a3, g3, hM, r2, h2, ok, r3⟩ := r.remove_ok _ hx.2.1 hcond
    rw [h2] at h; cases h
    exact ⟨⟨_, r3⟩, hM.stampMono.trans (ok.stampMono r2 ((hM.live _).mpr hx.2.1))⟩
  | removeSubtree x a' hx h =>
    rw [hx.eq] at h
    obtain ⟨a2, l, h2, ok⟩ := r.removeSubtree _ hx.2.1
    rw [h2] at h; cases h
    exact ⟨⟨_, ok.rep⟩, ok.mono⟩

theorem Steps.wf {a a' : Arena} (h : Steps a a') (w : Wf a) : Wf a' ∧ StampMono a a' := by
  induction h with
  | refl => exact ⟨w, StampMono.refl _⟩
  | tail _ c ih =>
    obtain ⟨⟨g, r⟩, m⟩ := ih
    obtain ⟨w', m'⟩ := c.rep r
    exact ⟨w', m.trans m'⟩

/-- `remove` of a live id with unsaturated stamp makes it `Gone`. -/
theorem Rep.remove_gone {a a' : Arena} {g : Shape} (r : Rep a g) (x : NodeId) (hx : LiveId a x)
    (hcond : HasParent a x ∨ Childless a x) (hlt : x.stamp < 32767) (h : Arena.remove a x = .done a' ()) :
    Gone a' x := by
  rw [hx.eq] at h hcond hlt ⊢
  obtain ⟨a2, g2, a3, g3, hM, r2, h2, ok, r3⟩ := r.remove_ok _ hx.2.1 hcond
  rw [h2] at h; cases h
  have := ok.gone ((hM.live _).mpr hx.2.1) (by rw [hM.idAt]; exact hlt)
  rw [hM.idAt] at this; exact this

theorem Rep.reach_detach_iff {a : Arena} {g : Shape} (r : Rep a g) (i u : Nat) :
    Reach (g.detach i).par u i ↔ Reach g.par u i := by
  constructor
  · exact Reach.mono (Shape.detach_par_le g i)
  · intro h
    induction h with
    | refl => exact .refl _
    | @step c q d hc hr ih =>
      have hci : c ≠ d := by
        intro e; subst e
        exact r.acyclic c q hc hr
      exact .step (by rw [Shape.detach_par_ne g d c hci]; exact hc) ih

/-- `remove_subtree` makes every id of the subtree `Gone` (stamps below 32767). -/
theorem Rep.removeSubtree_gone {a a' : Arena} {g : Shape} (r : Rep a g) (x : NodeId) (hx : LiveId a x)
    (h : Arena.removeSubtree a x = .done a' ()) (u : Nat) (hu : Reach g.par u x.index0)
    (hlt : (a.idAt u).stamp < 32767) : Gone a' (a.idAt u) := by
  rw [hx.eq] at h
  obtain ⟨a2, l, h2, ok⟩ := r.removeSubtree _ hx.2.1
  rw [h2] at h; cases h
  exact ok.gone u ((ok.mem u).mpr ((r.reach_detach_iff _ u).mpr hu)) hlt

end Arena
end XotModel
