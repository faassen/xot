/-
  C06 for `clone_node`: on a live node of a forest satisfying the invariant a node is returned
  (no `unwrap` panics) and the list semantics is never left.  Both are read off the state after
  the replay as `XotModel.cloneNode_spec` (Lemmas/FcloneReplay.lean) describes it.
-/
import XotModel.Lemmas.FatomStep
import XotModel.Lemmas.FcloneMain

namespace XotModel
open HTree

namespace Forest

/-- The forest grew below `cur`: old nodes are untouched (parents, liveness; containers keep
    everything), new nodes hang below `cur` or below other new nodes. -/
structure Grow (f f' : Forest) (cur : Nat) : Prop where
  w : f'.W
  corrupt : f'.corrupt = f.corrupt
  par : ∀ x, f.isLive x = true → f'.parent? x = f.parent? x
  live : ∀ x, f.isLive x = true → f'.isLive x = true
  kept : ∀ x, f.isLive x = true → (f.isElement x = true ∨ f.isDocument x = true) → Kept f f' x
  newpar : ∀ x q, f.isLive x = false → f'.parent? x = some q → q = cur ∨ f.isLive q = false

/-- `clone_node`: a node is returned and `corrupt` stays false. -/
theorem cloneNode_spec {f : Forest} (hi : f.Inv) {n : Nat} (hl : f.isLive n = true) :
    (f.cloneNode n).2 ≠ none ∧ (f.cloneNode n).1.corrupt = false := by
  obtain ⟨src, hg⟩ := (Forest.isLive_iff f n).mp hl
  obtain ⟨f', h1, _, _, ⟨_, _, hc⟩, _⟩ := XotModel.cloneNode_spec f hi n src hg
  rw [h1]
  exact ⟨by simp, hc.trans hi.notCorrupt⟩

end Forest
end XotModel
