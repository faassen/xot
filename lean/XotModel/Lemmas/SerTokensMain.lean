/-
  The serialised string is the canonical rendering of `serNodeO` (Lemmas/SerOptTokens.lean), for any token
  parameters (CDATA-section elements, `unescaped_gt`): the tree induction.  `serNode` is the instance without
  CDATA-section elements.
-/
import XotModel.Lemmas.SerOptCdata

namespace XotModel
open Gen

variable (env : Env) (pr : TokenParams) (t : Tree)

theorem allList_eq (p : Value → List Tree → Bool) (ks : List Tree) :
    Tree.allNodes.allList p ks = ks.all (Tree.allNodes p) := by
  induction ks with
  | nil => rfl
  | cons k ks ih => simp [Tree.allNodes.allList, ih]

theorem allNodes_node (p : Value → List Tree → Bool) (v : Value) (ks : List Tree) :
    (Tree.node v ks).allNodes p = (p v ks && ks.all (Tree.allNodes p)) := by
  rw [Tree.allNodes, allList_eq]

theorem allNodes_root {p : Value → List Tree → Bool} {v : Value} {ks : List Tree}
    (h : (Tree.node v ks).allNodes p = true) : p v ks = true := by
  rw [allNodes_node, Bool.and_eq_true] at h
  exact h.1

theorem allNodes_kid {p : Value → List Tree → Bool} {v : Value} {ks : List Tree}
    (h : (Tree.node v ks).allNodes p = true) {k : Tree} (hk : k ∈ ks) : k.allNodes p = true := by
  rw [allNodes_node, Bool.and_eq_true, List.all_eq_true] at h
  exact h.2 k hk

theorem allNodes_mono {p q : Value → List Tree → Bool} (h : ∀ v ks, p v ks = true → q v ks = true) (n : Tree) :
    n.allNodes p = true → n.allNodes q = true := by
  induction n using Tree.induct_mem with
  | h v ks ih =>
    rw [allNodes_node, allNodes_node]
    simp only [Bool.and_eq_true, List.all_eq_true]
    exact fun ⟨h1, h2⟩ => ⟨h v ks h1, fun k hk => ih k hk (h2 k hk)⟩

theorem allNodes_self {p : Value → List Tree → Bool} (n : Tree) :
    n.allNodes p = true → n.allNodes (fun v ks => (Tree.node v ks).allNodes p) = true := by
  induction n using Tree.induct_mem with
  | h v ks ih =>
    intro h
    rw [allNodes_node, Bool.and_eq_true, List.all_eq_true]
    exact ⟨h, fun k hk => ih k hk (allNodes_kid h hk)⟩

theorem allNodes_and {p q r : Value → List Tree → Bool}
    (h : ∀ v ks, p v ks = true → q v ks = true → r v ks = true) (n : Tree) :
    n.allNodes p = true → n.allNodes q = true → n.allNodes r = true := by
  induction n using Tree.induct_mem with
  | h v ks ih =>
    rw [allNodes_node, allNodes_node, allNodes_node]
    simp only [Bool.and_eq_true, List.all_eq_true]
    exact fun ⟨h1, h2⟩ ⟨k1, k2⟩ => ⟨h v ks h1 k1, fun k hk => ih k hk (h2 k hk) (k2 k hk)⟩

/-- Every prefix an element of the subtree declares (other than the empty one) has a non-empty
    spelling in the tables. -/
def declsNamed (env : Env) (v : Value) (ks : List Tree) : Bool :=
  (Tree.node v ks).nsDecls.all (fun d => d.1 == Env.emptyPrefix || !(env.prefixStr d.1).isEmpty)

/-- The chosen prefixes can be written: `xml` and every declared prefix have a spelling. -/
abbrev Named (env : Env) : FStack → Prop := TopAll (fun p => env.prefixStr p ≠ [])

theorem Named.push {s : FStack} (h : Named env s) {v : Value} {ks : List Tree}
    (hd : declsNamed env v ks = true) : Named env (s.push (Tree.node v ks).nsDecls) := by
  apply TopAll.push h
  intro d hd' hne
  simp only [declsNamed, List.all_eq_true] at hd
  have := hd d hd'
  simp only [Bool.or_eq_true, beq_iff_eq, Bool.not_eq_true', List.isEmpty_eq_false_iff] at this
  rcases this with h1 | h1
  · exact absurd h1 hne
  · exact h1

/-- A run that leaves the stack as it was and writes the rendering of a token list. -/
def tokRun (s : FStack) (r : Except XotError (List Token)) : Outcome XotError (FStack × Str) :=
  match r with
  | .ok ts => .ok (s, renderTokens ts)
  | .error e => .err e

theorem runThen_tokRun (s : FStack) (a b : Except XotError (List Token))
    (f : FStack → Outcome XotError (FStack × Str)) (hf : f s = tokRun s b) :
    runThen (tokRun s a) f = tokRun s (appendOk a b) := by
  cases a with
  | error e => rfl
  | ok x =>
    simp only [tokRun, runThen, hf, appendOk]
    cases b with
    | error e => rfl
    | ok y => simp [renderTokens_append]

theorem genNode_element' (inScope : List (Nat × Nat)) (isTop : Bool) (path : Path) (name : Nat)
    (ks : List Tree) :
    genNode inScope isTop path (.node (.element name) ks) =
      (path, Output.startTagOpen name) ::
        (((if isTop then inScope.filter (fun d => !(Tree.node (.element name) ks).declaresPrefix d.1) else [])
            ++ (Tree.node (.element name) ks).nsDecls).map (fun d => (path, Output.pfx d.1 d.2))
          ++ ((Tree.node (.element name) ks).attrs.map (fun a => (path, Output.attribute a.1 a.2))
            ++ ((path, Output.startTagClose) ::
              (genNode.genKids inScope path 0 ks ++ [(path, Output.endTag name)])))) := by
  rw [genNode_element]
  cases isTop <;> simp [extraPrefixes, List.map_append, List.map_map, Function.comp_def]

namespace Ser

/-- The element case of `serNode` (and of `serNodeO`) with the outcome of the children, under the pushed
    stack, as a parameter. -/
def elementOutcome (env : Env) (inScope : List (Nat × Nat)) (isTop : Bool) (s : FStack) (name : Nat)
    (ks : List Tree) (kids : Except XotError (List Token)) : Except XotError (List Token) :=
  let n := Tree.node (.element name) ks
  let s' := s.push n.nsDecls
  if env.nsOfName name == Env.noNamespace && s'.hasDefaultNamespace then
    .error (.missingPrefix Env.noNamespace)
  else match s'.elementPrefix env name with
    | .error e => .error e
    | .ok p =>
      match attrTokens env s' n.attrs with
      | .error e => .error e
      | .ok ats =>
        match kids with
        | .error e => .error e
        | .ok content =>
          .ok (elementTokens (prefixText env p) (env.localName name)
            (((if isTop then inScope.filter (fun d => !n.declaresPrefix d.1) else []) ++ n.nsDecls).flatMap
              (declTokens env))
            ats n.firstChild?.isNone content)

theorem elementOutcome_ok {inScope : List (Nat × Nat)} {isTop : Bool} {s : FStack} {name : Nat} {ks : List Tree}
    {kids : Except XotError (List Token)} {ts : List Token}
    (h : Ser.elementOutcome env inScope isTop s name ks kids = .ok ts) :
    ∃ p ats content,
      (env.nsOfName name == Env.noNamespace &&
          (s.push (Tree.node (.element name) ks).nsDecls).hasDefaultNamespace) = false ∧
      (s.push (Tree.node (.element name) ks).nsDecls).elementPrefix env name = .ok p ∧
      attrTokens env (s.push (Tree.node (.element name) ks).nsDecls)
        (Tree.node (.element name) ks).attrs = .ok ats ∧
      kids = .ok content ∧
      ts = elementTokens (prefixText env p) (env.localName name)
        (((if isTop then inScope.filter (fun d => !(Tree.node (.element name) ks).declaresPrefix d.1)
            else []) ++ (Tree.node (.element name) ks).nsDecls).flatMap (declTokens env))
        ats (Tree.node (.element name) ks).firstChild?.isNone content := by
  rw [Ser.elementOutcome] at h
  by_cases hc : (env.nsOfName name == Env.noNamespace &&
      (s.push (Tree.node (.element name) ks).nsDecls).hasDefaultNamespace) = true
  · simp [hc] at h
  · simp only [hc, Bool.false_eq_true, if_false] at h
    cases hp : (s.push (Tree.node (.element name) ks).nsDecls).elementPrefix env name with
    | error e => simp [hp] at h
    | ok p =>
      simp only [hp] at h
      cases ha : attrTokens env (s.push (Tree.node (.element name) ks).nsDecls)
          (Tree.node (.element name) ks).attrs with
      | error e => simp [ha] at h
      | ok ats =>
        simp only [ha] at h
        cases kids with
        | error e => simp at h
        | ok content =>
          simp only [Except.ok.injEq] at h
          exact ⟨p, ats, content, by simpa using hc, rfl, rfl, rfl, h.symm⟩

/-- The events of an element whose children's events run to the rendering of `kids`: start tag, declarations,
    attributes, `>` or `/>`, the children, the end tag; the stack pushed at the start tag is popped at the end
    tag. -/
theorem runEvents_element (inScope : List (Nat × Nat)) (isTop : Bool) (path : Path) (name : Nat)
    (ks : List Tree) (s : FStack) (hat : t.at? path = some (.node (.element name) ks)) (hs : Named env s)
    (hd : declsNamed env (.element name) ks = true) (kids : Except XotError (List Token))
    (hk : runEvents xmlEscapers env pr t (s.push (Tree.node (.element name) ks).nsDecls)
        (genNode.genKids inScope path 0 ks) = tokRun (s.push (Tree.node (.element name) ks).nsDecls) kids) :
    runEvents xmlEscapers env pr t s (genNode inScope isTop path (.node (.element name) ks)) =
      tokRun s (Ser.elementOutcome env inScope isTop s name ks kids) := by
  have hs' := Named.push env hs hd
  rw [genNode_element', runEvents_cons, runEvent_open env pr t s path _ hat, Ser.elementOutcome]
  by_cases hc : (env.nsOfName name == Env.noNamespace &&
      (s.push (Tree.node (.element name) ks).nsDecls).hasDefaultNamespace) = true
  · simp only [hc, if_true]; rfl
  · simp only [hc, Bool.false_eq_true, if_false]
    cases hp : (s.push (Tree.node (.element name) ks).nsDecls).elementPrefix env name with
    | error e => rfl
    | ok p =>
      simp only [runThen_ok]
      rw [runEvents_append, runEvents_pfx env pr t _ path _ hat, runThen_ok, runEvents_append,
        runEvents_attrs env pr t _ hs' path _ hat]
      cases ha : attrTokens env (s.push (Tree.node (.element name) ks).nsDecls)
          (Tree.node (.element name) ks).attrs with
      | error e => rfl
      | ok ats =>
        simp only [runThen_ok]
        rw [runEvents_cons, runEvent_close env pr t _ path _ hat, runThen_ok, runEvents_append, hk]
        cases kids with
        | error e => rfl
        | ok content =>
          have hq := qname_tokQName env p name (fun q hq => elementPrefix_some env hs' (hq ▸ hp))
          have hpop : (s.push (Tree.node (.element name) ks).nsDecls).pop
              (Tree.node (.element name) ks).hasNsDecls = s := FStack.pop_push s _
          simp only [tokRun, runThen_ok, runEvents_single,
            runEvent_end env pr t _ path _ hat, hp, hpop]
          cases hfc : (Tree.node (.element name) ks).firstChild? with
          | none =>
            simp [elementTokens, renderTokens_append, renderTokens_cons, renderToken, hq, sp0]
          | some c =>
            simp [elementTokens, renderTokens_append, renderTokens_cons, renderToken, hq, sp0,
              renderTokens_nil]

end Ser

/-! ### The tree induction, for any token parameters -/

theorem isCdataElement_some (par : Tree) : isCdataElement pr (some par) = kidsCd pr par.value := by
  cases par with
  | node v ks => cases v <;> rfl

theorem renderTokens_textTokens (cd : Bool) (str : Str) :
    renderTokens (textTokens pr cd str) = (if cd then serializeCdata str else serializeText pr.unescapedGt str) := by
  cases cd
  · simp [textTokens, textParts, renderTokens, SPart.token, renderToken, renderPieces_txtPieces]
  · simp only [textTokens, textParts, if_true]
    exact renderTokens_cdataTokens str

theorem runEvent_textO (s : FStack) (path : Path) (n : Tree) (hat : t.at? path = some n) (str : Str) :
    runEvent xmlEscapers env pr t s path (.text str) =
      .ok (s, renderTokens (textTokens pr (isCdataElement pr (t.parentAt? path)) str)) := by
  rw [runEvent_at _ _ _ _ _ _ _ _ hat, renderTokens_textTokens]
  cases hc : isCdataElement pr (t.parentAt? path) <;>
    simp [renderXmlWith, tokenBytes, xmlEscapers, hc]

theorem parentAt?_kid (path : Path) (i : Nat) : t.parentAt? (path ++ [i]) = t.at? path := by
  simp [Tree.parentAt?]

mutual
theorem runEvents_nodeO (inScope : List (Nat × Nat)) (isTop : Bool) (path : Path) (n : Tree) (s : FStack)
    (hat : t.at? path = some n) (hs : Named env s) (hn : n.allNodes (declsNamed env) = true) :
    runEvents xmlEscapers env pr t s (genNode inScope isTop path n) =
      tokRun s (serNodeO env pr inScope isTop s (isCdataElement pr (t.parentAt? path)) n) := by
  cases n with
  | node v ks =>
    rw [allNodes_node, Bool.and_eq_true, ← allList_eq] at hn
    have hk := fun s' hs' => runEvents_kidsO inScope path 0 ks s' v ks hat (at?_kid t hat) hs' hn.2
    cases v with
    | document | «attribute» a b | «namespace» a b =>
      rw [Ser.genNode_noEvent _ _ _ _ _ rfl, hk s hs]; simp only [serNodeO, kidsCd]
    | text str =>
      rw [genNode_text, runEvents_cons, runEvent_textO env pr t s path _ hat, serNodeO]
      exact runThen_tokRun s (.ok _) _ _ (hk s hs)
    | comment str =>
      rw [genNode_comment, runEvents_cons, runEvent_comment env pr t s path _ hat, serNodeO]
      exact runThen_tokRun s (.ok _) _ _ (hk s hs)
    | pi target data =>
      rw [genNode_pi, runEvents_cons, runEvent_pi env pr t s path _ hat, serNodeO]
      by_cases hc : (!(env.namespaceStr (env.nsOfName target)).isEmpty) = true
      · simp only [hc, if_true]; rfl
      · simp only [hc]
        exact runThen_tokRun s (.ok _) _ _ (hk s hs)
    | element name =>
      rw [serNodeO]
      exact Ser.runEvents_element env pr t inScope isTop path name ks s hat hs hn.1 _ (hk _ (Named.push env hs hn.1))

theorem runEvents_kidsO (inScope : List (Nat × Nat)) (path : Path)
    (i : Nat) (ks : List Tree) (s : FStack) (pv : Value) (pks : List Tree)
    (hpar : t.at? path = some (.node pv pks))
    (hat : ∀ j k, ks[j]? = some k → t.at? (path ++ [i + j]) = some k) (hs : Named env s)
    (hn : Tree.allNodes.allList (declsNamed env) ks = true) :
    runEvents xmlEscapers env pr t s (genNode.genKids inScope path i ks) =
      tokRun s (serNodeO.serKidsO env pr inScope s (kidsCd pr pv) ks) := by
  cases ks with
  | nil => rfl
  | cons k ks =>
    simp only [Tree.allNodes.allList, Bool.and_eq_true] at hn
    have hcd : isCdataElement pr (t.parentAt? (path ++ [i])) = kidsCd pr pv := by
      rw [parentAt?_kid, hpar, isCdataElement_some]; rfl
    obtain ⟨hat0, hat'⟩ := Ser.kidsAt_cons t hat
    rw [genNode.genKids, runEvents_append, serNodeO.serKidsO,
      runEvents_nodeO inScope false (path ++ [i]) k s hat0 hs hn.1, hcd]
    exact runThen_tokRun _ _ _ _ (runEvents_kidsO inScope path (i + 1) ks s pv pks hpar hat' hs hn.2)
end

/-! ### Without CDATA-section elements: `serNode` -/

theorem kidsCd_plain (hcd : pr.cdataSectionElements = []) (v : Value) : kidsCd pr v = false := by
  cases v <;> simp [kidsCd, hcd]

theorem isCdataElement_plain (hcd : pr.cdataSectionElements = []) (parent : Option Tree) :
    isCdataElement pr parent = false := by
  cases parent with
  | none => rfl
  | some par => rw [isCdataElement_some, kidsCd_plain pr hcd]

/-- Outside CDATA-section elements: ONE text token, `serialize_text` with the `unescaped_gt` setting. -/
theorem textTokens_plain (pr : TokenParams) (str : Str) :
    textTokens pr false str = [.text (sp0 (serializeText pr.unescapedGt str))] := by
  simp [textTokens, textParts, SPart.token, renderPieces_txtPieces, sp0]

mutual
theorem serNodeO_plain (hcd : pr.cdataSectionElements = []) (inScope : List (Nat × Nat)) (isTop : Bool)
    (s : FStack) (n : Tree) :
    serNodeO env pr inScope isTop s false n = serNode env pr.unescapedGt inScope isTop s n := by
  cases n with
  | node v ks =>
    cases v with
    | element name =>
      simp only [serNodeO, serNode, kidsCd_plain pr hcd, serKidsO_plain hcd]
      rfl
    | _ => simp only [serNodeO, serNode, textTokens_plain, serKidsO_plain hcd]

theorem serKidsO_plain (hcd : pr.cdataSectionElements = []) (inScope : List (Nat × Nat)) (s : FStack)
    (ks : List Tree) :
    serNodeO.serKidsO env pr inScope s false ks = serNode.serKids env pr.unescapedGt inScope s ks := by
  cases ks with
  | nil => rfl
  | cons k ks =>
    simp only [serNodeO.serKidsO, serNode.serKids, serNodeO_plain hcd, serKidsO_plain hcd]
end

/-- The parameters under which `serNodeO` is `serNode env ugt`. -/
def plainParams (ugt : Bool) : TokenParams := { cdataSectionElements := [], unescapedGt := ugt }

theorem serNode_eq_O (ugt : Bool) (inScope : List (Nat × Nat)) (isTop : Bool) (s : FStack) (n : Tree) :
    serNode env ugt inScope isTop s n = serNodeO env (plainParams ugt) inScope isTop s false n :=
  (serNodeO_plain env (plainParams ugt) rfl inScope isTop s n).symm

theorem serKids_eq_O (ugt : Bool) (inScope : List (Nat × Nat)) (s : FStack) (ks : List Tree) :
    serNode.serKids env ugt inScope s ks = serNodeO.serKidsO env (plainParams ugt) inScope s false ks :=
  (serKidsO_plain env (plainParams ugt) rfl inScope s ks).symm

/-! ### How `serNodeO` ends does not depend on the token parameters -/

/-- How a result ends: success, or which error. -/
def endOf {α : Type} (r : Except XotError α) : Except XotError Unit := r.map (fun _ => ())

theorem endOf_eq_ok {α : Type} {r : Except XotError α} (h : endOf r = .ok ()) : ∃ x, r = .ok x := by
  cases r with
  | ok x => exact ⟨x, rfl⟩
  | error e => cases h

theorem ok_of_endOf_eq {α β : Type} {a : Except XotError α} {b : Except XotError β} (h : endOf a = endOf b)
    {x : α} (ha : a = .ok x) : ∃ y, b = .ok y :=
  endOf_eq_ok (by rw [← h, ha]; rfl)

theorem endOf_appendOk_eq (a b : Except XotError (List Token)) :
    endOf (appendOk a b) = (match endOf a with | .ok _ => endOf b | .error e => .error e) := by
  cases a <;> cases b <;> rfl

theorem endOf_appendOk {a a' b b' : Except XotError (List Token)} (ha : endOf a = endOf a')
    (hb : endOf b = endOf b') : endOf (appendOk a b) = endOf (appendOk a' b') := by
  rw [endOf_appendOk_eq, endOf_appendOk_eq, ha, hb]

/-- How an element ends is decided by its own names and by how its children end. -/
theorem Ser.endOf_elementOutcome_eq (inScope : List (Nat × Nat)) (isTop : Bool) (s : FStack) (name : Nat)
    (ks : List Tree) (kids : Except XotError (List Token)) :
    endOf (Ser.elementOutcome env inScope isTop s name ks kids) =
      (match endOf (Ser.elementOutcome env inScope isTop s name ks (.ok [])) with
       | .ok _ => endOf kids
       | .error e => .error e) := by
  unfold Ser.elementOutcome
  simp only []
  split
  · rfl
  · split
    · rfl
    · split
      · rfl
      · cases kids <;> rfl

theorem Ser.endOf_elementOutcome (inScope : List (Nat × Nat)) (isTop : Bool) (s : FStack) (name : Nat)
    (ks : List Tree) {kids kids' : Except XotError (List Token)} (h : endOf kids = endOf kids') :
    endOf (Ser.elementOutcome env inScope isTop s name ks kids) =
      endOf (Ser.elementOutcome env inScope isTop s name ks kids') := by
  rw [Ser.endOf_elementOutcome_eq, Ser.endOf_elementOutcome_eq env inScope isTop s name ks kids', h]

mutual
/-- Whether `serNodeO` fails, and with which error, is decided by the names alone (`MissingPrefix`,
    `NamespaceInProcessingInstruction`): the token parameters and the CDATA flag play no role. -/
theorem endOf_serNodeO (pr' : TokenParams) (cd cd' : Bool) (inScope : List (Nat × Nat)) (isTop : Bool)
    (s : FStack) (n : Tree) :
    endOf (serNodeO env pr inScope isTop s cd n) = endOf (serNodeO env pr' inScope isTop s cd' n) := by
  cases n with
  | node v ks =>
    cases v with
    | element name =>
      rw [serNodeO, serNodeO]
      exact Ser.endOf_elementOutcome env inScope isTop s name ks (endOf_serKidsO pr' _ _ inScope _ ks)
    | text str | comment str =>
      rw [serNodeO, serNodeO]
      exact endOf_appendOk rfl (endOf_serKidsO pr' _ _ inScope s ks)
    | pi target data =>
      rw [serNodeO, serNodeO]
      split
      · rfl
      · exact endOf_appendOk rfl (endOf_serKidsO pr' _ _ inScope s ks)
    | document | «attribute» a b | «namespace» a b =>
      simp only [serNodeO]
      exact endOf_serKidsO pr' _ _ inScope s ks

theorem endOf_serKidsO (pr' : TokenParams) (cd cd' : Bool) (inScope : List (Nat × Nat)) (s : FStack)
    (ks : List Tree) :
    endOf (serNodeO.serKidsO env pr inScope s cd ks) = endOf (serNodeO.serKidsO env pr' inScope s cd' ks) := by
  cases ks with
  | nil => rfl
  | cons k ks =>
    rw [serNodeO.serKidsO, serNodeO.serKidsO]
    exact endOf_appendOk (endOf_serNodeO pr' cd cd' inScope false s k) (endOf_serKidsO pr' cd cd' inScope s ks)
end

theorem endOf_serNodeO_default (cd : Bool) (inScope : List (Nat × Nat)) (isTop : Bool) (s : FStack) (n : Tree) :
    endOf (serNodeO env pr inScope isTop s cd n) = endOf (serNode env false inScope isTop s n) := by
  rw [serNode_eq_O]; exact endOf_serNodeO env pr _ cd false inScope isTop s n

theorem endOf_serKidsO_default (cd : Bool) (inScope : List (Nat × Nat)) (s : FStack) (ks : List Tree) :
    endOf (serNodeO.serKidsO env pr inScope s cd ks) = endOf (serNode.serKids env false inScope s ks) := by
  rw [serKids_eq_O]; exact endOf_serKidsO env pr _ cd false inScope s ks

theorem runEvents_kids (hcd : pr.cdataSectionElements = []) (inScope : List (Nat × Nat)) (path : Path)
    (i : Nat) (ks : List Tree) (s : FStack)
    (hat : ∀ j k, ks[j]? = some k → t.at? (path ++ [i + j]) = some k) (hs : Named env s)
    (hn : Tree.allNodes.allList (declsNamed env) ks = true) :
    runEvents xmlEscapers env pr t s (genNode.genKids inScope path i ks) =
      tokRun s (serNode.serKids env pr.unescapedGt inScope s ks) := by
  cases ks with
  | nil => rfl
  | cons k ks' =>
    -- a child exists, so does its parent
    obtain ⟨pv, pks, hpar⟩ : ∃ pv pks, t.at? path = some (.node pv pks) := by
      have h0 := hat 0 k rfl
      rw [at?_append] at h0
      cases hp : t.at? path with
      | none => simp [hp] at h0
      | some n => cases n; exact ⟨_, _, rfl⟩
    rw [runEvents_kidsO env pr t inScope path i _ s pv pks hpar hat hs hn, kidsCd_plain pr hcd,
      serKidsO_plain env pr hcd]

end XotModel
