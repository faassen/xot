/-
  An independent XML-Namespaces resolver over the token TEXTS of the serialiser (the Lean counterpart of
  `check_names` in harness/src/ser_oracle.rs) answers, on the tokens of any serialisation run, the expanded names
  of the nodes: the resolver and its lexical facts, the correspondence of its string-level scope with the
  `FullnameSerializer` frames (`Corr`), closed segments token by token, the tree induction, and the start node
  with the serialiser's initial stack.
-/
import XotModel.Model.Output
import XotModel.Lemmas.Scope
import XotModel.Lemmas.TraceInv
import XotModel.Lemmas.Entity
import XotModel.Lemmas.Output

/-!
## The resolver

  The resolver sees, per token, only its kind (start-tag-open / declaration / attribute /
  start-tag-close / end-tag / other) and its text.  Declarations are read out of the texts
  (`xmlns="…"`, `xmlns:p="…"`, value unescaped), qualified names are split at the first colon, a
  prefix is looked up in the declarations read so far (innermost start tag first; `xml` is
  reserved), an unprefixed element name takes the default namespace, an unprefixed attribute none.

  Then the expected answer (`expectedGo`: the nodes' expanded names as strings, through the interning
  tables), and the lexical facts (what the parsing functions answer on the texts the serialiser formats).
-/

namespace XotModel.SerResolve
open XotModel

/-- What the resolver is told about a token besides its text. -/
inductive TokKind where
  | startOpen | decl | attr | startClose | endTag | other
  deriving DecidableEq, Repr

def kindOf : Output → TokKind
  | .startTagOpen _ => .startOpen
  | .pfx _ _ => .decl
  | .attribute _ _ => .attr
  | .startTagClose => .startClose
  | .endTag _ => .endTag
  | _ => .other

/-- Declarations read from one start tag: (prefix, namespace URI), in token order. -/
abbrev SFrame := List (Str × Str)

/-- Innermost start tag first; within one start tag the first declaration of the prefix. -/
def lookupStr : List SFrame → Str → Option Str
  | [], _ => none
  | f :: fs, p =>
    match List.lookup p f with
    | some u => some u
    | none => lookupStr fs p

/-- `prefix:local` split at the first colon. -/
def splitQName (q : Str) : Option Str × Str :=
  if q.contains ':' then (some (q.takeWhile (· != ':')), (q.dropWhile (· != ':')).drop 1)
  else (none, q)

def xmlPrefixStr : Str := ['x','m','l']

/-- XML Namespaces: the namespace name a (possibly absent) prefix stands for; `none` = the prefix is
    not declared. -/
def resolveStr (sc : List SFrame) (isAttr : Bool) : Option Str → Option Str
  | some p => if p == xmlPrefixStr then some Gen.xmlNs else lookupStr sc p
  | none => if isAttr then some [] else some ((lookupStr sc []).getD [])

/-- (is an attribute name, namespace name or `none` for an undeclared prefix, local part). -/
abbrev RName := Bool × Option Str × Str

def resolveName (sc : List SFrame) (isAttr : Bool) (q : Str) : RName :=
  (isAttr, resolveStr sc isAttr (splitQName q).1, (splitQName q).2)

/-- Text up to the first `=`. -/
def beforeEq (text : Str) : Str := text.takeWhile (· != '=')
/-- `lhs="value"`: the text between the `="` after `lhs` and the final `"`. -/
def quotedValue (text : Str) : Str := ((text.dropWhile (· != '=')).drop 2).dropLast
/-- `xmlns:p` ↦ `p`; `xmlns` ↦ the empty prefix. -/
def declPrefix (lhs : Str) : Str :=
  if lhs.take 6 == ['x','m','l','n','s',':'] then lhs.drop 6 else []

def parseDecl (unesc : Str → Str) (text : Str) : Str × Str :=
  (declPrefix (beforeEq text), unesc (quotedValue text))

/-- `<name` ↦ `name`. -/
def startName (text : Str) : Str := text.drop 1
/-- `</name>` ↦ `name`. -/
def endName (text : Str) : Str := (text.drop 2).dropLast

/-- The start tag being read: its qualified name, the declarations and attribute names so far. -/
structure Pending where
  q : Str
  frame : SFrame
  attrs : List Str

/-- The resolver: `sc` = declarations of the open elements (innermost first). -/
def resolveGo (unesc : Str → Str) : List SFrame → Option Pending → List (TokKind × Str) → List RName
  | _, _, [] => []
  | sc, pend, (k, text) :: rest =>
    match k with
    | .startOpen => resolveGo unesc sc (some ⟨startName text, [], []⟩) rest
    | .decl =>
      (match pend with
       | some pd =>
         resolveGo unesc sc
           (some { pd with frame := if text.isEmpty then pd.frame else pd.frame ++ [parseDecl unesc text] }) rest
       | none => resolveGo unesc sc none rest)
    | .attr =>
      (match pend with
       | some pd => resolveGo unesc sc (some { pd with attrs := pd.attrs ++ [beforeEq text] }) rest
       | none => resolveGo unesc sc none rest)
    | .startClose =>
      (match pend with
       | some pd =>
         resolveName (pd.frame :: sc) false pd.q :: pd.attrs.map (resolveName (pd.frame :: sc) true)
           ++ resolveGo unesc (pd.frame :: sc) none rest
       | none => resolveGo unesc sc none rest)
    | .endTag =>
      (if text.isEmpty then [] else [resolveName sc false (endName text)])
        ++ resolveGo unesc sc.tail pend rest
    | .other => resolveGo unesc sc pend rest

/-- The expanded name of a name id, as strings. -/
def expandedName (env : Env) (isAttr : Bool) (name : Nat) : RName :=
  (isAttr, some (env.namespaceStr (env.nsOfName name)), env.localName name)

/-- What the resolver has to answer: per start tag the element's expanded name and its attributes',
    per written end tag the element's. -/
def expectedGo (env : Env) : Option (Nat × List Nat) → List (Output × OutputToken) → List RName
  | _, [] => []
  | pend, (o, tok) :: rest =>
    match o with
    | .startTagOpen name => expectedGo env (some (name, [])) rest
    | .attribute a _ =>
      (match pend with
       | some pd => expectedGo env (some (pd.1, pd.2 ++ [a])) rest
       | none => expectedGo env none rest)
    | .startTagClose =>
      (match pend with
       | some pd => expandedName env false pd.1 :: pd.2.map (expandedName env true) ++ expectedGo env none rest
       | none => expectedGo env none rest)
    | .endTag name =>
      (if tok.text.isEmpty then [] else [expandedName env false name]) ++ expectedGo env pend rest
    | _ => expectedGo env pend rest

theorem takeWhile_append_stop {α : Type} (p : α → Bool) (a : List α) (x : α) (b : List α)
    (ha : ∀ c ∈ a, p c = true) (hx : p x = false) : (a ++ x :: b).takeWhile p = a := by
  rw [List.takeWhile_append_of_pos ha, List.takeWhile_cons_of_neg (by simp [hx]), List.append_nil]

theorem dropWhile_append_stop {α : Type} (p : α → Bool) (a : List α) (x : α) (b : List α)
    (ha : ∀ c ∈ a, p c = true) (hx : p x = false) : (a ++ x :: b).dropWhile p = x :: b := by
  rw [List.dropWhile_append_of_pos ha, List.dropWhile_cons_of_neg (by simp [hx])]

theorem ne_of_notMem {x : Char} {a : Str} (h : x ∉ a) : ∀ c ∈ a, (c != x) = true := by
  intro c hc
  simp only [bne_iff_ne, ne_eq]
  rintro rfl
  exact h hc

theorem splitQName_prefixed (P L : Str) (hP : ':' ∉ P) :
    splitQName (P ++ [':'] ++ L) = (some P, L) := by
  unfold splitQName
  have hc : (P ++ [':'] ++ L).contains ':' = true := by simp
  rw [if_pos hc]
  have h1 := takeWhile_append_stop (· != ':') P ':' L (ne_of_notMem hP) (by simp)
  have h2 := dropWhile_append_stop (· != ':') P ':' L (ne_of_notMem hP) (by simp)
  simp only [List.append_assoc, List.singleton_append]
  rw [h1, h2]
  rfl

theorem splitQName_plain (L : Str) (hL : ':' ∉ L) : splitQName L = (none, L) := by
  unfold splitQName
  simp [hL]

theorem fmt_startTagOpen (q : Str) : fmt Gen.fmtStartTagOpen [q] = '<' :: q := by
  simp [fmt, Gen.fmtStartTagOpen]

theorem fmt_endTag (q : Str) : fmt Gen.fmtEndTag [q] = '<' :: '/' :: (q ++ ['>']) := by
  simp [fmt, Gen.fmtEndTag]

theorem fmt_xmlnsDefault (u : Str) :
    fmt Gen.fmtXmlnsDefault [u] = ['x','m','l','n','s'] ++ '=' :: ('"' :: (u ++ ['"'])) := by
  simp [fmt, Gen.fmtXmlnsDefault]

theorem fmt_xmlnsPrefix (P u : Str) :
    fmt Gen.fmtXmlnsPrefix [P, u] = (['x','m','l','n','s',':'] ++ P) ++ '=' :: ('"' :: (u ++ ['"'])) := by
  simp [fmt, Gen.fmtXmlnsPrefix]

theorem fmt_attribute (q v : Str) : fmt Gen.fmtAttribute [q, v] = q ++ '=' :: ('"' :: (v ++ ['"'])) := by
  simp [fmt, Gen.fmtAttribute]

theorem startName_fmt (q : Str) : startName (fmt Gen.fmtStartTagOpen [q]) = q := by
  rw [fmt_startTagOpen]; rfl

theorem endName_fmt (q : Str) : endName (fmt Gen.fmtEndTag [q]) = q := by
  rw [fmt_endTag]
  simp [endName]

theorem fmt_endTag_ne_nil (q : Str) : (fmt Gen.fmtEndTag [q]).isEmpty = false := by
  rw [fmt_endTag]; rfl

theorem quotedValue_fmt (lhs u : Str) (hl : '=' ∉ lhs) :
    quotedValue (lhs ++ '=' :: ('"' :: (u ++ ['"']))) = u := by
  unfold quotedValue
  rw [dropWhile_append_stop (· != '=') lhs '=' _ (ne_of_notMem hl) (by simp)]
  simp

theorem beforeEq_fmt (lhs rest : Str) (hl : '=' ∉ lhs) : beforeEq (lhs ++ '=' :: rest) = lhs := by
  unfold beforeEq
  exact takeWhile_append_stop (· != '=') lhs '=' rest (ne_of_notMem hl) (by simp)

theorem parseDecl_default (unesc : Str → Str) (u : Str) :
    parseDecl unesc (fmt Gen.fmtXmlnsDefault [u]) = ([], unesc u) := by
  rw [fmt_xmlnsDefault]
  unfold parseDecl
  rw [beforeEq_fmt _ _ (by decide), quotedValue_fmt _ _ (by decide)]
  rfl

theorem parseDecl_prefixed (unesc : Str → Str) (P u : Str) (hP : '=' ∉ P) :
    parseDecl unesc (fmt Gen.fmtXmlnsPrefix [P, u]) = (P, unesc u) := by
  rw [fmt_xmlnsPrefix]
  have hl : '=' ∉ ['x','m','l','n','s',':'] ++ P := by
    simp only [List.mem_append, not_or]
    exact ⟨by decide, hP⟩
  unfold parseDecl
  rw [beforeEq_fmt _ _ hl, quotedValue_fmt _ _ hl]
  simp [declPrefix]

theorem fmt_xmlnsDefault_ne_nil (u : Str) : (fmt Gen.fmtXmlnsDefault [u]).isEmpty = false := by
  rw [fmt_xmlnsDefault]; rfl

theorem fmt_xmlnsPrefix_ne_nil (P u : Str) : (fmt Gen.fmtXmlnsPrefix [P, u]).isEmpty = false := by
  rw [fmt_xmlnsPrefix]; rfl

theorem beforeEq_attribute (q v : Str) (hq : '=' ∉ q) : beforeEq (fmt Gen.fmtAttribute [q, v]) = q := by
  rw [fmt_attribute]; exact beforeEq_fmt q _ hq

end XotModel.SerResolve

/-!
## String-level scope against the frames of the name stack

  The string-level scope the resolver builds corresponds to the id-level frames
  of the `FullnameSerializer` (`Corr`), and under that correspondence the qualified name the
  serialiser formats resolves to the name's expanded name as strings.

  Hypotheses on the interning tables (`EnvStrings`): prefix strings pairwise different, the built-in
  entries of `Xot::new` (empty prefix, `xml` prefix, no-namespace and XML namespace names), and
  `NamesLexical`: no prefix string and no local name contains `:` or `=`.
-/

namespace XotModel.SerResolve
open XotModel

def lexOk (s : Str) : Bool := !s.contains ':' && !s.contains '='

/-- No prefix and no local name contains a colon or an equals sign (decidable). -/
def NamesLexical (env : Env) : Bool := env.prefixes.all lexOk && env.names.all (fun n => lexOk n.1)

/-- What the resolver needs of the interning tables: prefix strings pairwise different, the built-in entries
    of `Xot::new` in place, and `NamesLexical`. -/
structure EnvStrings (env : Env) : Prop where
  nodup : env.prefixes.Nodup
  empty : env.prefixes[Env.emptyPrefix]? = some []
  xml : env.prefixes[Env.xmlPrefix]? = some xmlPrefixStr
  noNs : env.namespaceStr Env.noNamespace = []
  xmlNs : env.namespaceStr Env.xmlNamespace = Gen.xmlNs
  lexical : NamesLexical env = true

theorem lexOk_iff (s : Str) : lexOk s = true ↔ ':' ∉ s ∧ '=' ∉ s := by
  simp [lexOk]

theorem prefixStr_lex {env : Env} (h : EnvStrings env) (p : Nat) :
    ':' ∉ env.prefixStr p ∧ '=' ∉ env.prefixStr p := by
  rw [← lexOk_iff]
  have hall := h.lexical
  simp only [NamesLexical, Bool.and_eq_true, List.all_eq_true] at hall
  unfold Env.prefixStr
  rw [List.getD_eq_getElem?_getD]
  cases hp : env.prefixes[p]? with
  | none => rfl
  | some s => exact hall.1 s (List.mem_of_getElem? hp)

theorem localName_lex {env : Env} (h : EnvStrings env) (n : Nat) :
    ':' ∉ env.localName n ∧ '=' ∉ env.localName n := by
  rw [← lexOk_iff]
  have hall := h.lexical
  simp only [NamesLexical, Bool.and_eq_true, List.all_eq_true] at hall
  unfold Env.localName
  rw [List.getD_eq_getElem?_getD]
  cases hp : env.names[n]? with
  | none => rfl
  | some s => exact hall.2 s (List.mem_of_getElem? hp)

theorem lt_of_getElem?_some {α : Type} {l : List α} {i : Nat} {a : α} (h : l[i]? = some a) : i < l.length := by
  rcases Nat.lt_or_ge i l.length with h' | h'
  · exact h'
  · rw [List.getElem?_eq_none h'] at h; cases h

theorem prefixStr_empty {env : Env} (h : EnvStrings env) : env.prefixStr Env.emptyPrefix = [] := by
  unfold Env.prefixStr; rw [List.getD_eq_getElem?_getD, h.empty]; rfl

theorem prefixStr_xml {env : Env} (h : EnvStrings env) : env.prefixStr Env.xmlPrefix = xmlPrefixStr := by
  unfold Env.prefixStr; rw [List.getD_eq_getElem?_getD, h.xml]; rfl

theorem prefixStr_inj {env : Env} (h : EnvStrings env) {p q : Nat} (hp : p < env.prefixes.length)
    (hq : q < env.prefixes.length) (he : env.prefixStr p = env.prefixStr q) : p = q :=
  (List.getD_inj hp hq h.nodup).mp he

/-- The declarations of one element as the resolver reads them: a binding to the XML namespace is
    not written (`render_output` writes nothing for it), the others with their strings. -/
def strFrame (env : Env) (d : List (Nat × Nat)) : SFrame :=
  (d.filter (fun x => x.2 != Env.xmlNamespace)).map (fun x => (env.prefixStr x.1, env.namespaceStr x.2))

/-- Declared prefix ids are registered, and the reserved prefix `xml` is not bound to another
    namespace (XML Namespaces §3). -/
def DeclsOk (env : Env) (d : List (Nat × Nat)) : Prop :=
  ∀ x ∈ d, x.1 < env.prefixes.length ∧ (x.1 = Env.xmlPrefix → x.2 = Env.xmlNamespace)

def FramesOk (env : Env) (fs : Frames) : Prop := ∀ f ∈ fs, DeclsOk env f

/-- The string frame answers for a prefix's string what the declarations answer for its id, unless the binding
    found is to the XML namespace (which is not written). -/
theorem lookup_strFrame {env : Env} (h : EnvStrings env) {p : Nat} (hp : p < env.prefixes.length) :
    ∀ (d : List (Nat × Nat)), DeclsOk env d → (∀ ns, List.lookup p d = some ns → ns ≠ Env.xmlNamespace) →
      List.lookup (env.prefixStr p) (strFrame env d) = (List.lookup p d).map env.namespaceStr
  | [], _, _ => rfl
  | (q, m) :: rest, hd, hx => by
    rw [lookup_cons_eq] at hx ⊢
    by_cases hqp : p = q
    · subst hqp
      rw [if_pos rfl] at hx ⊢
      have : (m != Env.xmlNamespace) = true := bne_iff_ne.2 (hx m rfl)
      simp [strFrame, List.filter_cons, this, List.lookup]
    · rw [if_neg hqp] at hx ⊢
      rw [← lookup_strFrame h hp rest (fun x hx' => hd x (List.mem_cons_of_mem _ hx')) hx]
      by_cases hm : (m != Env.xmlNamespace) = true
      · have hne : (env.prefixStr p == env.prefixStr q) = false :=
          beq_eq_false_iff_ne.2 fun he => hqp (prefixStr_inj h hp (hd (q, m) List.mem_cons_self).1 he)
        simp only [strFrame, List.filter_cons, hm, if_true, List.map_cons, List.lookup, hne]
      · simp only [strFrame, List.filter_cons, hm, Bool.false_eq_true, if_false]

theorem key_lt_of_lookupFrames {env : Env} : ∀ {fs : Frames}, FramesOk env fs → ∀ {p ns : Nat},
    lookupFrames fs p = some ns → p < env.prefixes.length ∧ (p = Env.xmlPrefix → ns = Env.xmlNamespace)
  | [], _, _, _, hl => by simp [lookupFrames] at hl
  | f :: fs, hok, p, ns, hl => by
    simp only [lookupFrames] at hl
    cases hf : List.lookup p f with
    | some m =>
      simp only [hf, Option.some.injEq] at hl
      subst hl
      exact hok f (by simp) _ (lookup_mem hf)
    | none =>
      simp only [hf] at hl
      exact key_lt_of_lookupFrames (fun g hg => hok g (by simp [hg])) hl

/-- The resolver's scope `sc` answers for a prefix string what the frames `fs` answer for the prefix
    id (bindings to the XML namespace excepted: they are not written). -/
def Corr (env : Env) (sc : List SFrame) (fs : Frames) : Prop :=
  (∀ p ns, lookupFrames fs p = some ns → ns ≠ Env.xmlNamespace →
    lookupStr sc (env.prefixStr p) = some (env.namespaceStr ns)) ∧
  (∀ p, p < env.prefixes.length → lookupFrames fs p = none → lookupStr sc (env.prefixStr p) = none)

theorem corr_nil (env : Env) : Corr env [] [] :=
  ⟨fun _ _ h => by simp [lookupFrames] at h, fun _ _ _ => rfl⟩

theorem corr_congr {env : Env} {sc : List SFrame} {fs fs' : Frames}
    (h : ∀ p, lookupFrames fs' p = lookupFrames fs p) (hc : Corr env sc fs) : Corr env sc fs' :=
  ⟨fun p ns hl hns => hc.1 p ns (by rw [← h]; exact hl) hns,
    fun p hp hl => hc.2 p hp (by rw [← h]; exact hl)⟩

theorem corr_skip {env : Env} {sc : List SFrame} {fs : Frames} (hc : Corr env sc fs) :
    Corr env sc ([] :: fs) :=
  corr_congr (fun p => lookupFrames_nil_cons fs p) hc

theorem corr_push {env : Env} (h : EnvStrings env) {sc : List SFrame} {fs : Frames}
    (hc : Corr env sc fs) (hok : FramesOk env fs) {d : List (Nat × Nat)} (hd : DeclsOk env d) :
    Corr env (strFrame env d :: sc) (d :: fs) := by
  constructor
  · intro p ns hl hns
    simp only [lookupFrames] at hl
    simp only [lookupStr]
    cases hf : List.lookup p d with
    | some m =>
      simp only [hf, Option.some.injEq] at hl
      subst hl
      rw [lookup_strFrame h (hd _ (lookup_mem hf)).1 d hd (fun _ h' => by rw [hf] at h'; cases h'; exact hns), hf]
      rfl
    | none =>
      simp only [hf] at hl
      rw [lookup_strFrame h (key_lt_of_lookupFrames hok hl).1 d hd (fun _ h' => by rw [hf] at h'; cases h'), hf]
      exact hc.1 p ns hl hns
  · intro p hp hl
    simp only [lookupFrames] at hl
    simp only [lookupStr]
    cases hf : List.lookup p d with
    | some m => simp [hf] at hl
    | none =>
      simp only [hf] at hl
      rw [lookup_strFrame h hp d hd (fun _ h' => by rw [hf] at h'; cases h'), hf]
      exact hc.2 p hp hl

theorem lookup_filter_key (p : Nat) (f : Nat × Nat → Bool) (hf : ∀ x, x.1 = p → f x = true) :
    ∀ l : List (Nat × Nat), List.lookup p (l.filter f) = List.lookup p l
  | [] => rfl
  | (q, m) :: rest => by
    by_cases hqp : p = q
    · subst hqp
      simp [List.filter_cons, hf (p, m) rfl, List.lookup]
    · have hb : (p == q) = false := by simpa using hqp
      by_cases hfx : f (q, m) = true
      · simp only [List.filter_cons, hfx, if_true, List.lookup, hb]
        exact lookup_filter_key p f hf rest
      · simp only [List.filter_cons, hfx, Bool.false_eq_true, if_false, List.lookup, hb]
        exact lookup_filter_key p f hf rest

/-- The declarations written on the top element (`gen_edge_start`): the bindings in scope that it
    does not declare itself, then its own. -/
def topDecls (inScope : List (Nat × Nat)) (n : Tree) : List (Nat × Nat) :=
  inScope.filter (fun d => !n.declaresPrefix d.1) ++ n.nsDecls

theorem lookupFrames_topDecls (inScope : List (Nat × Nat)) (n : Tree) (p : Nat) :
    lookupFrames [topDecls inScope n] p = lookupFrames [n.nsDecls, inScope] p := by
  simp only [lookupFrames, topDecls]
  rw [List.lookup_append]
  cases hown : List.lookup p n.nsDecls with
  | some m =>
    -- declared by the element: not among the extras
    have hk : p ∈ n.nsDecls.map Prod.fst := by
      by_cases hk : p ∈ n.nsDecls.map Prod.fst
      · exact hk
      · rw [(lookup_none_iff p _).mpr hk] at hown; cases hown
    have hnone : List.lookup p (inScope.filter (fun d => !n.declaresPrefix d.1)) = none := by
      rw [lookup_none_iff]
      intro hmem
      obtain ⟨x, hx, hxp⟩ := List.mem_map.mp hmem
      have hx2 := (List.mem_filter.mp hx).2
      have : n.declaresPrefix x.1 = true := by
        unfold Tree.declaresPrefix
        rw [any_key_iff, hxp]; exact hk
      simp [this] at hx2
    simp [hnone]
  | none =>
    have hk : p ∉ n.nsDecls.map Prod.fst := (lookup_none_iff p _).mp hown
    rw [lookup_filter_key p _ (fun x hx => by
      have : n.declaresPrefix x.1 = false := by
        cases hc : n.declaresPrefix x.1 with
        | false => rfl
        | true =>
          unfold Tree.declaresPrefix at hc
          rw [any_key_iff, hx] at hc
          exact absurd hc hk
      simp [this]) inScope]
    cases List.lookup p inScope <;> rfl

theorem declsOk_topDecls {env : Env} {inScope : List (Nat × Nat)} {n : Tree} (h1 : DeclsOk env inScope)
    (h2 : DeclsOk env n.nsDecls) : DeclsOk env (topDecls inScope n) := by
  intro x hx
  rcases List.mem_append.mp hx with hx | hx
  · exact h1 x (List.mem_filter.mp hx).1
  · exact h2 x hx

theorem corr_top {env : Env} (h : EnvStrings env) {inScope : List (Nat × Nat)} {n : Tree}
    (h1 : DeclsOk env inScope) (h2 : DeclsOk env n.nsDecls) :
    Corr env [strFrame env (topDecls inScope n)] [n.nsDecls, inScope] :=
  corr_congr (fun p => (lookupFrames_topDecls inScope n p).symm)
    (corr_push h (corr_nil env) (fun _ hf => by cases hf) (declsOk_topDecls h1 h2))

theorem resolveName_prefixed {env : Env} (h : EnvStrings env) (sc : List SFrame) (isAttr : Bool)
    (p name : Nat) :
    resolveName sc isAttr (qname env (some p) name) =
      (isAttr, resolveStr sc isAttr (some (env.prefixStr p)), env.localName name) := by
  unfold resolveName qname
  rw [splitQName_prefixed _ _ (prefixStr_lex h p).1]

theorem resolveName_plain {env : Env} (h : EnvStrings env) (sc : List SFrame) (isAttr : Bool) (name : Nat) :
    resolveName sc isAttr (qname env none name) =
      (isAttr, resolveStr sc isAttr none, env.localName name) := by
  unfold resolveName qname
  rw [splitQName_plain _ (localName_lex h name).1]

theorem resolveStr_bound {env : Env} (h : EnvStrings env) {sc : List SFrame} {fs : Frames}
    (hc : Corr env sc fs) (hok : FramesOk env fs) (isAttr : Bool) {p ns : Nat}
    (hl : lookupFrames fs p = some ns) (hns : ns ≠ Env.xmlNamespace) :
    resolveStr sc isAttr (some (env.prefixStr p)) = some (env.namespaceStr ns) := by
  obtain ⟨hlt, hx⟩ := key_lt_of_lookupFrames hok hl
  have hne : (env.prefixStr p == xmlPrefixStr) = false := by
    rw [beq_eq_false_iff_ne]
    intro he
    rw [← prefixStr_xml h] at he
    exact hns (hx (prefixStr_inj h hlt (lt_of_getElem?_some h.xml) he))
  simp only [resolveStr, hne, Bool.false_eq_true, if_false]
  exact hc.1 p ns hl hns

theorem resolveStr_xml {env : Env} (h : EnvStrings env) (sc : List SFrame) (isAttr : Bool) :
    resolveStr sc isAttr (some (env.prefixStr Env.xmlPrefix)) = some (env.namespaceStr Env.xmlNamespace) := by
  rw [prefixStr_xml h, h.xmlNs]
  simp [resolveStr]

theorem resolveStr_default {env : Env} (h : EnvStrings env) {sc : List SFrame} {fs : Frames}
    (hc : Corr env sc fs) {ns : Nat} (hns : ns ≠ Env.xmlNamespace)
    (hl : (lookupFrames fs Env.emptyPrefix).getD Env.noNamespace = ns) :
    resolveStr sc false none = some (env.namespaceStr ns) := by
  subst hl
  simp only [resolveStr, Bool.false_eq_true, if_false]
  cases hf : lookupFrames fs Env.emptyPrefix with
  | none =>
    have := hc.2 Env.emptyPrefix (lt_of_getElem?_some h.empty) hf
    rw [prefixStr_empty h] at this
    rw [this, Option.getD_none, Option.getD_none, h.noNs]
  | some n =>
    rw [hf] at hns
    have := hc.1 Env.emptyPrefix n hf hns
    rw [prefixStr_empty h] at this
    rw [this]; rfl

theorem element_resolves {env : Env} (h : EnvStrings env) {sc : List SFrame} {fs : Frames} {s : FStack}
    (hc : Corr env sc fs) (hok : FramesOk env fs) (hinv : StackInv s fs) (name : Nat) (pfx : Option Nat)
    (hp : s.elementPrefix env name = .ok pfx)
    (hcheck : ¬ (env.nsOfName name = Env.noNamespace ∧ s.hasDefaultNamespace = true)) :
    resolveName sc false (qname env pfx name) = expandedName env false name := by
  unfold expandedName
  rcases FStack.elementPrefix_ok hp with ⟨hz, rfl⟩ | ⟨hz, rfl⟩ | ⟨hz, q, hq, rfl⟩
  · -- no namespace: by the check no default namespace is in scope
    have hnd : ¬ s.hasDefaultNamespace = true := fun hd => hcheck ⟨hz, hd⟩
    rw [hasDefaultNamespace_iff hinv.flat] at hnd
    rw [resolveName_plain h, hz]
    refine congrArg (fun x => (false, x, _)) (resolveStr_default h hc (by decide) ?_)
    cases hl : lookupFrames fs Env.emptyPrefix with
    | none => rfl
    | some n => exact Classical.not_not.1 fun hn => hnd ⟨n, hl, hn⟩
  · rw [resolveName_prefixed h, resolveStr_xml h, hz]
  · have hl := (hinv.flat.2 q _).mp hq
    by_cases hq0 : q = Env.emptyPrefix
    · subst hq0
      rw [if_pos rfl, resolveName_plain h, resolveStr_default h hc hz (by rw [hl]; rfl)]
    · rw [if_neg hq0, resolveName_prefixed h, resolveStr_bound h hc hok false hl hz]

theorem attribute_resolves {env : Env} (h : EnvStrings env) {sc : List SFrame} {fs : Frames} {s : FStack}
    (hc : Corr env sc fs) (hok : FramesOk env fs) (hinv : StackInv s fs) (name : Nat) (pfx : Option Nat)
    (hp : s.attributePrefix env name = .ok pfx) :
    resolveName sc true (qname env pfx name) = expandedName env true name := by
  unfold expandedName
  rcases FStack.attributePrefix_ok hp with ⟨hz, rfl⟩ | ⟨hz, rfl⟩ | ⟨hz, q, hq, _, rfl⟩
  · rw [resolveName_plain h, hz, h.noNs]
    rfl
  · rw [resolveName_prefixed h, resolveStr_xml h, hz]
  · rw [resolveName_prefixed h, resolveStr_bound h hc hok true ((hinv.flat.2 q _).mp hq) hz]

end XotModel.SerResolve

/-!
## Token by token

  The resolver run over the tokens of one serialisation: closed
  segments (`SegOk`: the tokens leave the resolver's scope as they found it, and what it answers on them is
  what `expectedGo` lists), and the head of a start tag (declarations, attributes).
-/

namespace XotModel.SerResolve
open XotModel

abbrev Tok := Path × Output × OutputToken

/-- What the resolver is given: kind and text of every token. -/
def view (toks : List Tok) : List (TokKind × Str) := toks.map (fun x => (kindOf x.2.1, x.2.2.text))
/-- What the expected answer is computed from: the events (with the tokens, to know which end tags
    are written). -/
def evs (toks : List Tok) : List (Output × OutputToken) := toks.map (fun x => x.2)

theorem view_cons (p : Path) (o : Output) (tok : OutputToken) (l : List Tok) :
    view ((p, o, tok) :: l) = (kindOf o, tok.text) :: view l := rfl
theorem evs_cons (p : Path) (o : Output) (tok : OutputToken) (l : List Tok) :
    evs ((p, o, tok) :: l) = (o, tok) :: evs l := rfl
theorem kindOf_pfx (p ns : Nat) : kindOf (.pfx p ns) = .decl := rfl
theorem kindOf_attribute (a : Nat) (v : Str) : kindOf (.attribute a v) = .attr := rfl
theorem kindOf_startTagOpen (n : Nat) : kindOf (.startTagOpen n) = .startOpen := rfl
theorem kindOf_startTagClose : kindOf .startTagClose = .startClose := rfl
theorem kindOf_endTag (n : Nat) : kindOf (.endTag n) = .endTag := rfl

theorem view_append (a b : List Tok) : view (a ++ b) = view a ++ view b := by simp [view]
theorem evs_append (a b : List Tok) : evs (a ++ b) = evs a ++ evs b := by simp [evs]

variable (esc : Escapers) (env : Env) (pr : TokenParams) (t : Tree)

theorem renderAll_append_ok : ∀ (a b : List (Path × Output)) (s : FStack) (toks : List Tok),
    renderAllWith esc env pr t s (a ++ b) = .ok toks →
    ∃ ta tb s', renderAllWith esc env pr t s a = .ok ta ∧ runStack esc env pr t s a = some s' ∧
      renderAllWith esc env pr t s' b = .ok tb ∧ toks = ta ++ tb
  | [], b, s, toks, h => ⟨[], toks, s, rfl, rfl, h, rfl⟩
  | (p, o) :: a, b, s, toks, h => by
    obtain ⟨s1, tok, l, h1, h2, rfl⟩ := renderAll_cons_ok esc env pr t h
    obtain ⟨ta, tb, s', i1, i2, i3, rfl⟩ := renderAll_append_ok a b s1 l h2
    refine ⟨(p, o, tok) :: ta, tb, s', ?_, ?_, i3, rfl⟩
    · simp only [renderAllWith, h1, i1]
    · simp only [runStack, stepStack, h1, i2]

variable (unesc : Str → Str)

/-- The tokens `L` are a closed segment for the resolver standing at scope `sc` outside a start tag:
    it answers some `out` and is back at `sc`; `out` is what is expected for the events of `L`. -/
def SegOk (sc : List SFrame) (L : List Tok) : Prop :=
  ∃ out, (∀ rest, resolveGo unesc sc none (view L ++ rest) = out ++ resolveGo unesc sc none rest) ∧
    (∀ erest, expectedGo env none (evs L ++ erest) = out ++ expectedGo env none erest)

theorem segOk_nil (sc : List SFrame) : SegOk env unesc sc [] :=
  ⟨[], fun _ => rfl, fun _ => rfl⟩

theorem segOk_append {sc : List SFrame} {L1 L2 : List Tok} (h1 : SegOk env unesc sc L1)
    (h2 : SegOk env unesc sc L2) : SegOk env unesc sc (L1 ++ L2) := by
  obtain ⟨o1, a1, b1⟩ := h1
  obtain ⟨o2, a2, b2⟩ := h2
  refine ⟨o1 ++ o2, fun rest => ?_, fun erest => ?_⟩
  · rw [view_append, List.append_assoc, a1, a2, List.append_assoc]
  · rw [evs_append, List.append_assoc, b1, b2, List.append_assoc]

theorem segOk_other {sc : List SFrame} (p : Path) (o : Output) (tok : OutputToken)
    (ho : (∃ s, o = .text s) ∨ (∃ s, o = .comment s) ∨ (∃ a b, o = .pi a b)) :
    SegOk env unesc sc [(p, o, tok)] := by
  refine ⟨[], fun rest => ?_, fun erest => ?_⟩
  · rcases ho with ⟨s, rfl⟩ | ⟨s, rfl⟩ | ⟨a, b, rfl⟩ <;> rfl
  · rcases ho with ⟨s, rfl⟩ | ⟨s, rfl⟩ | ⟨a, b, rfl⟩ <;> rfl

/-- The token of a declaration event. -/
def tokPfx (p ns : Nat) : OutputToken :=
  if ns == Env.xmlNamespace then ⟨false, Gen.litXmlPrefix⟩
  else if p == Env.emptyPrefix then ⟨true, fmt Gen.fmtXmlnsDefault [esc.attr (env.namespaceStr ns)]⟩
  else ⟨true, fmt Gen.fmtXmlnsPrefix [env.prefixStr p, esc.attr (env.namespaceStr ns)]⟩

theorem render_pfx (s : FStack) (path : Path) (node : Tree) (hat : t.at? path = some node) (p ns : Nat) :
    renderAtWith esc env pr t s path (.pfx p ns) = .ok (s, tokPfx esc env p ns) := by
  simp only [renderAtWith, hat, renderXmlWith, tokPfx]
  split
  · rfl
  · split <;> rfl

theorem declStep_tokPfx (h : EnvStrings env) (hue : ∀ u, unesc (esc.attr u) = u) (f : SFrame) (p ns : Nat) :
    (if (tokPfx esc env p ns).text.isEmpty then f else f ++ [parseDecl unesc (tokPfx esc env p ns).text]) =
      f ++ strFrame env [(p, ns)] := by
  unfold tokPfx
  by_cases hx : (ns == Env.xmlNamespace) = true
  · have : (ns != Env.xmlNamespace) = false := by simp [bne, hx]
    simp [hx, strFrame, this, Gen.litXmlPrefix]
  · have hx' : (ns != Env.xmlNamespace) = true := by simpa [bne] using hx
    simp only [hx, Bool.false_eq_true, if_false]
    by_cases hp : (p == Env.emptyPrefix) = true
    · have hp0 : p = Env.emptyPrefix := by simpa using hp
      simp only [hp, if_true, fmt_xmlnsDefault_ne_nil, Bool.false_eq_true, if_false, parseDecl_default, hue]
      simp [strFrame, hx', hp0, prefixStr_empty h]
    · simp only [hp, Bool.false_eq_true, if_false, fmt_xmlnsPrefix_ne_nil,
        parseDecl_prefixed _ _ _ (prefixStr_lex h p).2, hue]
      simp [strFrame, hx']

theorem strFrame_append (a b : List (Nat × Nat)) : strFrame env (a ++ b) = strFrame env a ++ strFrame env b := by
  simp [strFrame]

/-- The declaration tokens of a start tag: the resolver reads `strFrame` of the events. -/
theorem decl_run (h : EnvStrings env) (hue : ∀ u, unesc (esc.attr u) = u) (path : Path) (node : Tree)
    (hat : t.at? path = some node) (s : FStack) (more : List (Path × Output)) :
    ∀ (ds : List (Nat × Nat)) (toks : List Tok),
    renderAllWith esc env pr t s (ds.map (fun d => (path, Output.pfx d.1 d.2)) ++ more) = .ok toks →
    ∃ dt toks', toks = dt ++ toks' ∧ renderAllWith esc env pr t s more = .ok toks' ∧
      (∀ sc q f as rest, resolveGo unesc sc (some ⟨q, f, as⟩) (view dt ++ rest) =
        resolveGo unesc sc (some ⟨q, f ++ strFrame env ds, as⟩) rest) ∧
      (∀ pend erest, expectedGo env pend (evs dt ++ erest) = expectedGo env pend erest)
  | [], toks, hr => ⟨[], toks, rfl, hr, fun _ _ _ _ _ => by simp [view, strFrame], fun _ _ => rfl⟩
  | (p, ns) :: ds, toks, hr => by
    simp only [List.map_cons, List.cons_append] at hr
    obtain ⟨s1, tok, l, h1, h2, rfl⟩ := renderAll_cons_ok esc env pr t hr
    rw [render_pfx esc env pr t s path node hat] at h1
    simp only [Outcome.ok.injEq, Prod.mk.injEq] at h1
    obtain ⟨rfl, rfl⟩ := h1
    obtain ⟨dt, toks', rfl, i2, i3, i4⟩ := decl_run h hue path node hat s more ds l h2
    refine ⟨(path, .pfx p ns, tokPfx esc env p ns) :: dt, toks', rfl, i2, ?_, ?_⟩
    · intro sc q f as rest
      simp only [view_cons, List.cons_append, kindOf_pfx, resolveGo]
      rw [declStep_tokPfx esc env unesc h hue, i3 sc q (f ++ strFrame env [(p, ns)]) as rest,
        List.append_assoc, ← strFrame_append]
      rfl
    · intro pend erest
      simp only [evs_cons, List.cons_append, expectedGo]
      exact i4 pend erest

theorem qname_noEq (h : EnvStrings env) (pfx : Option Nat) (name : Nat) : '=' ∉ qname env pfx name := by
  cases pfx with
  | none => exact (localName_lex h name).2
  | some p =>
    simp only [qname, List.mem_append, List.mem_singleton, not_or]
    exact ⟨⟨(prefixStr_lex h p).2, by decide⟩, (localName_lex h name).2⟩

/-- The attribute tokens of a start tag: the resolver reads names that resolve (in any scope
    corresponding to the stack's frames) to the attributes' expanded names. -/
theorem attr_run (h : EnvStrings env) (path : Path) (node : Tree) (hat : t.at? path = some node)
    (s : FStack) (fs : Frames) (hinv : StackInv s fs) (hok : FramesOk env fs) (sc' : List SFrame)
    (hc : Corr env sc' fs) (more : List (Path × Output)) :
    ∀ (avs : List (Nat × Str)) (toks : List Tok),
    renderAllWith esc env pr t s (avs.map (fun a => (path, Output.attribute a.1 a.2)) ++ more) = .ok toks →
    ∃ at' toks' qs, toks = at' ++ toks' ∧ renderAllWith esc env pr t s more = .ok toks' ∧
      (∀ sc q f as rest, resolveGo unesc sc (some ⟨q, f, as⟩) (view at' ++ rest) =
        resolveGo unesc sc (some ⟨q, f, as ++ qs⟩) rest) ∧
      (∀ n l erest, expectedGo env (some (n, l)) (evs at' ++ erest) =
        expectedGo env (some (n, l ++ avs.map Prod.fst)) erest) ∧
      qs.map (resolveName sc' true) = (avs.map Prod.fst).map (expandedName env true)
  | [], toks, hr => ⟨[], toks, [], rfl, hr, fun _ _ _ _ _ => by simp [view], fun _ _ _ => by simp [evs], rfl⟩
  | (a, v) :: avs, toks, hr => by
    simp only [List.map_cons, List.cons_append] at hr
    obtain ⟨s1, tok, l, h1, h2, rfl⟩ := renderAll_cons_ok esc env pr t hr
    simp only [renderAtWith, hat, renderXmlWith, FStack.attributeFullname] at h1
    cases hp : s.attributePrefix env a with
    | error e => simp [hp] at h1
    | ok pfx =>
      simp only [hp, Outcome.ok.injEq, Prod.mk.injEq] at h1
      obtain ⟨rfl, rfl⟩ := h1
      obtain ⟨at', toks', qs, rfl, i2, i3, i4, i5⟩ := attr_run h path node hat s fs hinv hok sc' hc more avs l h2
      refine ⟨(path, .attribute a v, _) :: at', toks', qname env pfx a :: qs, rfl, i2, ?_, ?_, ?_⟩
      · intro sc q f as rest
        simp only [view_cons, List.cons_append, kindOf_attribute, resolveGo]
        rw [beforeEq_attribute _ _ (qname_noEq env h pfx a), i3 sc q f (as ++ [qname env pfx a]) rest,
          List.append_assoc]
        rfl
      · intro n l erest
        simp only [evs_cons, List.cons_append, expectedGo]
        rw [i4 n (l ++ [a]) erest, List.append_assoc]
        rfl
      · simp only [List.map_cons, i5]
        rw [attribute_resolves h hc hok hinv a pfx hp]

end XotModel.SerResolve

/-!
## Over the tree

  By structural recursion over the tree: the events of a subtree are `genNode`, and the `FullnameSerializer`
  stack is back where it was after them (Lemmas/TraceInv.lean).
-/

namespace XotModel.SerResolve
open XotModel

/-- Every element at or below `n` declares registered prefixes only and does not rebind `xml`. -/
def DeclsOkBelow (env : Env) (n : Tree) : Prop := ∀ rel y, n.at? rel = some y → DeclsOk env (frameOf y)

theorem DeclsOkBelow.kid {env : Env} {v : Value} {ks : List Tree} (h : DeclsOkBelow env (.node v ks))
    {i : Nat} {k : Tree} (hk : ks[i]? = some k) : DeclsOkBelow env k := by
  intro rel y hy
  apply h (i :: rel) y
  rw [at?_cons, hk]
  exact hy

/-- The (prefix, namespace) pairs whose `pfx` events a start tag emits: `topDecls inScope n` for the start
    node, the node's own declarations otherwise. -/
def declEvs (isTop : Bool) (inScope : List (Nat × Nat)) (n : Tree) : List (Nat × Nat) :=
  if isTop then topDecls inScope n else n.nsDecls

theorem declEvents_eq (inScope : List (Nat × Nat)) (isTop : Bool) (path : Path) (n : Tree) :
    declEvents inScope isTop path n =
      (declEvs isTop inScope n).map (fun d => (path, Output.pfx d.1 d.2)) ++
        n.attrs.map (fun a => (path, Output.attribute a.1 a.2)) := by
  cases isTop <;>
    simp [declEvents, declEvs, topDecls, extraPrefixes, List.map_append, List.map_map, Function.comp_def]

variable (esc : Escapers) (env : Env) (pr : TokenParams) (t : Tree) (unesc : Str → Str)

theorem render_neutral_stack {s s' : FStack} {path : Path} {o : Output} {tok : OutputToken}
    (ho : o.isNeutral = true) (h : renderAtWith esc env pr t s path o = .ok (s', tok)) : s' = s := by
  exact stepStack_neutral esc env pr t s s' path o ho (stepStack_of_ok esc env pr t h)

theorem render_open {s s' : FStack} {path : Path} {node : Tree} (hat : t.at? path = some node) {name : Nat}
    {tok : OutputToken} (h : renderAtWith esc env pr t s path (.startTagOpen name) = .ok (s', tok)) :
    ∃ pfx, s' = s.push node.nsDecls ∧ (s.push node.nsDecls).elementPrefix env name = .ok pfx ∧
      tok.text = fmt Gen.fmtStartTagOpen [qname env pfx name] ∧
      ¬ (env.nsOfName name = Env.noNamespace ∧ (s.push node.nsDecls).hasDefaultNamespace = true) := by
  simp only [renderAtWith, hat] at h
  obtain ⟨pfx, hp, rfl, rfl, hd⟩ := renderXmlWith_startTagOpen_ok esc env pr h
  exact ⟨pfx, rfl, hp, rfl, hd⟩

/-- The end-tag token, rendered with the stack the start tag was rendered with. -/
theorem render_end {s s' : FStack} {path : Path} {node : Tree} (hat : t.at? path = some node) {name : Nat}
    {pfx : Option Nat} (hp : s.elementPrefix env name = .ok pfx)
    {tok : OutputToken} (h : renderAtWith esc env pr t s path (.endTag name) = .ok (s', tok)) :
    tok.text = [] ∨ tok.text = fmt Gen.fmtEndTag [qname env pfx name] := by
  simp only [renderAtWith, hat, renderXmlWith, FStack.elementFullname, hp] at h
  split at h
  · simp only [Outcome.ok.injEq, Prod.mk.injEq] at h
    exact Or.inr (by rw [← h.2])
  · simp only [Outcome.ok.injEq, Prod.mk.injEq] at h
    exact Or.inl (by rw [← h.2]; rfl)

/-- One element, given that the resolver is right on the tokens of its children under any stack and scope that
    correspond. -/
theorem element_seg (h : EnvStrings env) (hue : ∀ u, unesc (esc.attr u) = u)
    (inScope : List (Nat × Nat)) (isTop : Bool) (path : Path) (name : Nat) (ks : List Tree)
    (hat : t.at? path = some (.node (.element name) ks)) (hu : UniqueBelow (.node (.element name) ks))
    (hdk : DeclsOkBelow env (.node (.element name) ks))
    (s : FStack) (fs : Frames) (hinv : StackInv s fs) (hok : FramesOk env fs) (sc : List SFrame)
    (h1 : isTop = true → Corr env (strFrame env (topDecls inScope (.node (.element name) ks)) :: sc)
      ((Tree.node (.element name) ks).nsDecls :: fs))
    (h2 : isTop = false → Corr env sc fs)
    (hkids : ∀ (s' : FStack) (fs' : Frames), StackInv s' fs' → FramesOk env fs' → ∀ sc', Corr env sc' fs' →
      ∀ toks', renderAllWith esc env pr t s' (genNode.genKids inScope path 0 ks) = .ok toks' →
        SegOk env unesc sc' toks')
    (toks : List Tok)
    (hr : renderAllWith esc env pr t s (genNode inScope isTop path (.node (.element name) ks)) = .ok toks) :
    SegOk env unesc sc toks := by
  have hkat := at?_kid t hat
  have hku : ∀ (j : Nat) (k : Tree), ks[j]? = some k → UniqueBelow k := fun j k hk => hu.kid hk
  rw [genNode_element_shape, declEvents_eq] at hr
  simp only [List.append_assoc] at hr
  have hD : DeclsOk env (Tree.node (.element name) ks).nsDecls := hdk [] _ rfl
  have hun : UniquePrefixes (Tree.node (.element name) ks).nsDecls := hu [] _ rfl
  have hinv1 := hinv.push' hun
  have hok1 : FramesOk env ((Tree.node (.element name) ks).nsDecls :: fs) := by
    intro f hf
    rcases List.mem_cons.mp hf with rfl | hf
    · exact hD
    · exact hok f hf
  -- the scope the resolver holds inside the element
  have hcorr : Corr env (strFrame env (declEvs isTop inScope (.node (.element name) ks)) :: sc)
      ((Tree.node (.element name) ks).nsDecls :: fs) := by
    cases isTop with
    | true => exact h1 rfl
    | false => exact corr_push h (h2 rfl) hok hD
  obtain ⟨s1, tok0, l0, r0, rr0, rfl⟩ := renderAll_cons_ok esc env pr t hr
  obtain ⟨pfx, rfl, hp, htext0, hcheck⟩ := render_open esc env pr t hat r0
  obtain ⟨dt, l1, rfl, rr1, d3, d4⟩ := decl_run esc env pr t unesc h hue path _ hat _ _ _ l0 rr0
  obtain ⟨at', l2, qs, rfl, rr2, a3, a4, a5⟩ := attr_run esc env pr t unesc h path _ hat _ _ hinv1 hok1 _ hcorr
    _ _ l1 rr1
  obtain ⟨s2, tokc, l3, r3, rr3, rfl⟩ := renderAll_cons_ok esc env pr t rr2
  have := render_neutral_stack esc env pr t (o := .startTagClose) rfl r3
  subst this
  obtain ⟨ta, tb, s3, k1, k2, k3, rfl⟩ := renderAll_append_ok esc env pr t _ _ _ l3 rr3
  have := (genKids_trace esc env pr t inScope path 0 ks hkat hku _ _ hinv1).2 s3 k2
  subst this
  obtain ⟨s4, toke, l4, r4, rr4, rfl⟩ := renderAll_cons_ok esc env pr t k3
  simp only [renderAllWith, Outcome.ok.injEq] at rr4
  subst rr4
  obtain ⟨kout, ko1, ko2⟩ := hkids _ _ hinv1 hok1 _ hcorr ta k1
  have hel := element_resolves h hcorr hok1 hinv1 name pfx hp hcheck
  refine ⟨expandedName env false name ::
      ((Tree.node (.element name) ks).attrs.map Prod.fst).map (expandedName env true) ++ kout ++
      (if toke.text.isEmpty then [] else [expandedName env false name]), fun rest => ?_, fun erest => ?_⟩
  · simp only [view_cons, view_append, List.cons_append, List.append_assoc, kindOf_startTagOpen,
      kindOf_startTagClose, kindOf_endTag, List.nil_append]
    rw [resolveGo, htext0, startName_fmt, d3, a3]
    simp only [List.nil_append, resolveGo]
    rw [ko1, hel, a5]
    simp only [resolveGo, List.tail_cons, List.append_assoc, List.cons_append]
    have hend : (if toke.text.isEmpty then [] else [resolveName
          (strFrame env (declEvs isTop inScope (.node (.element name) ks)) :: sc) false (endName toke.text)]) =
        (if toke.text.isEmpty then [] else [expandedName env false name]) := by
      rcases render_end esc env pr t hat hp r4 with he | he
      · rw [he]; rfl
      · rw [he, fmt_endTag_ne_nil, endName_fmt, hel]
    rw [hend]
    rfl
  · simp only [evs_cons, evs_append, List.cons_append, List.append_assoc, List.nil_append]
    rw [expectedGo, d4, a4]
    simp only [List.nil_append, expectedGo]
    rw [ko2]
    simp only [expectedGo, List.append_assoc, List.cons_append]
    rfl

mutual
theorem genNode_seg (h : EnvStrings env) (hue : ∀ u, unesc (esc.attr u) = u)
    (inScope : List (Nat × Nat)) (isTop : Bool) (path : Path) (n : Tree)
    (hat : t.at? path = some n) (hu : UniqueBelow n) (hdk : DeclsOkBelow env n)
    (s : FStack) (fs : Frames) (hinv : StackInv s fs) (hok : FramesOk env fs) (sc : List SFrame)
    (h1 : isTop = true → n.value.isElement = true →
      Corr env (strFrame env (topDecls inScope n) :: sc) (n.nsDecls :: fs))
    (h2 : (isTop = false ∨ n.value.isElement = false) → Corr env sc fs)
    (toks : List Tok) (hr : renderAllWith esc env pr t s (genNode inScope isTop path n) = .ok toks) :
    SegOk env unesc sc toks := by
  cases n with
  | node v ks =>
    have hkat := at?_kid t hat
    have hku : ∀ (j : Nat) (k : Tree), ks[j]? = some k → UniqueBelow k := fun j k hk => hu.kid hk
    have hkd : ∀ (j : Nat) (k : Tree), ks[j]? = some k → DeclsOkBelow env k := fun j k hk => hdk.kid hk
    -- a node that is not an element: its own token (if any) is skipped, then the children
    have other : ∀ (o : Output), o.isNeutral = true →
        ((∃ x, o = .text x) ∨ (∃ x, o = .comment x) ∨ (∃ a b, o = .pi a b)) →
        Corr env sc fs →
        renderAllWith esc env pr t s ((path, o) :: genNode.genKids inScope path 0 ks) = .ok toks →
        SegOk env unesc sc toks := by
      intro o hn ho hc hr'
      obtain ⟨s1, tok, l, r1, r2, rfl⟩ := renderAll_cons_ok esc env pr t hr'
      have := render_neutral_stack esc env pr t hn r1
      subst this
      exact segOk_append env unesc (L1 := [(path, o, tok)]) (segOk_other env unesc path o tok ho)
        (genKids_seg h hue inScope path 0 ks hkat hku hkd s1 fs hinv hok sc hc l r2)
    cases v with
    | element name =>
      exact element_seg esc env pr t unesc h hue inScope isTop path name ks hat hu hdk s fs hinv hok sc
        (fun ht => h1 ht rfl) (fun hf => h2 (Or.inl hf))
        (fun s' fs' hi ho sc' hc toks' hr' => genKids_seg h hue inScope path 0 ks hkat hku hkd s' fs' hi ho sc' hc
          toks' hr') toks hr
    | document | «attribute» a b | «namespace» a b =>
      rw [Ser.genNode_noEvent _ _ _ _ _ rfl] at hr
      exact genKids_seg h hue inScope path 0 ks hkat hku hkd s fs hinv hok sc (h2 (Or.inr rfl)) toks hr
    | text x =>
      rw [genNode_text] at hr
      exact other (.text x) rfl (Or.inl ⟨x, rfl⟩) (h2 (Or.inr rfl)) hr
    | comment x =>
      rw [genNode_comment] at hr
      exact other (.comment x) rfl (Or.inr (Or.inl ⟨x, rfl⟩)) (h2 (Or.inr rfl)) hr
    | pi a b =>
      rw [genNode_pi] at hr
      exact other (.pi a b) rfl (Or.inr (Or.inr ⟨a, b, rfl⟩)) (h2 (Or.inr rfl)) hr

theorem genKids_seg (h : EnvStrings env) (hue : ∀ u, unesc (esc.attr u) = u)
    (inScope : List (Nat × Nat)) (path : Path) (i : Nat) (ks : List Tree)
    (hat : ∀ (j : Nat) (k : Tree), ks[j]? = some k → t.at? (path ++ [i + j]) = some k)
    (hu : ∀ (j : Nat) (k : Tree), ks[j]? = some k → UniqueBelow k)
    (hdk : ∀ (j : Nat) (k : Tree), ks[j]? = some k → DeclsOkBelow env k)
    (s : FStack) (fs : Frames) (hinv : StackInv s fs) (hok : FramesOk env fs) (sc : List SFrame)
    (hc : Corr env sc fs) (toks : List Tok)
    (hr : renderAllWith esc env pr t s (genNode.genKids inScope path i ks) = .ok toks) :
    SegOk env unesc sc toks := by
  cases ks with
  | nil =>
    simp only [genNode.genKids, renderAllWith, Outcome.ok.injEq] at hr
    subst hr
    exact segOk_nil env unesc sc
  | cons k ks' =>
    simp only [genNode.genKids] at hr
    obtain ⟨ta, tb, s', k1, k2, k3, rfl⟩ := renderAll_append_ok esc env pr t _ _ _ toks hr
    obtain ⟨hatk, hat'⟩ := Ser.kidsAt_cons t hat
    have := (genNode_trace esc env pr t inScope false (path ++ [i]) k hatk (hu 0 k rfl) s fs hinv).2 s' k2
    subst this
    exact segOk_append env unesc
      (genNode_seg h hue inScope false (path ++ [i]) k hatk (hu 0 k rfl) (hdk 0 k rfl) s' fs hinv hok sc
        (fun hh => by cases hh) (fun _ => hc) ta k1)
      (genKids_seg h hue inScope path (i + 1) ks' hat' (fun j k' hk => hu (j + 1) k' hk)
        (fun j k' hk => hdk (j + 1) k' hk) s' fs hinv hok sc hc tb k3)
end

end XotModel.SerResolve

/-!
## From the start node

  `Xot::tokens(node)` / `serialize`: with the serialiser's initial stack (`namespaces_in_scope(node)`), and
  the crate's own unescaper for the declaration values.
-/

namespace XotModel.SerResolve
open XotModel

/-- Unescape a declaration value with `parse_attribute` (entity.rs); a value that does not parse is
    taken as it stands. -/
def unescapeValue (s : Str) : Str :=
  match parseAttribute s with
  | .ok u => u
  | .error _ => s

theorem unescapeValue_serializeAttribute (u : Str) : unescapeValue (serializeAttribute u) = u := by
  have ht : tableOk Gen.attrEscapes = true ∧ tableCovers true Gen.attrEscapes = true := by decide
  have : parseAttribute (serializeAttribute u) = .ok u := parse_escape_roundtrip true _ ht.1 ht.2 u 0 0
  simp [unescapeValue, this]

/-- Only bindings to the XML namespace (which need no declaration) are in scope. -/
def OnlyXmlInScope (inScope : List (Nat × Nat)) : Prop := ∀ d ∈ inScope, d.2 = Env.xmlNamespace

theorem corr_onlyXml {env : Env} {inScope : List (Nat × Nat)} (h : OnlyXmlInScope inScope) :
    Corr env [] [inScope] := by
  refine ⟨fun p ns hl hns => ?_, fun _ _ _ => rfl⟩
  exfalso
  simp only [lookupFrames] at hl
  cases hf : List.lookup p inScope with
  | none => simp [hf] at hl
  | some m =>
    simp only [hf, Option.some.injEq] at hl
    subst hl
    exact hns (h _ (lookup_mem hf))

/-- Every name token of a successful run resolves, by the rules of XML Namespaces applied to the
    token texts, to the expanded name of its node. -/
theorem tokens_resolve (esc : Escapers) (env : Env) (pr : TokenParams) (t : Tree) (unesc : Str → Str)
    (h : EnvStrings env) (hue : ∀ u, unesc (esc.attr u) = u) (start : Path) (n : Tree)
    (inScope : List (Nat × Nat)) (hat : t.at? start = some n)
    (hs : namespacesInScope t start = some inScope) (hu : UniqueBelow n) (hdk : DeclsOkBelow env n)
    (hin : DeclsOk env inScope) (hstart : n.value.isElement = true ∨ OnlyXmlInScope inScope)
    (toks : List Tok)
    (hr : renderAllWith esc env pr t (initStack t start) (genOutputs t start) = .ok toks) :
    resolveGo unesc [] none (view toks) = expectedGo env none (evs toks) := by
  rw [genOutputs_eq_genNode hat hs, initStack_eq_new hs] at hr
  have hinv : StackInv (FStack.new inScope) [inScope] := StackInv.base inScope (namespacesInScope_unique t start inScope hs)
  have hok : FramesOk env [inScope] := by
    intro f hf
    simp only [List.mem_singleton] at hf
    subst hf; exact hin
  obtain ⟨out, o1, o2⟩ := genNode_seg esc env pr t unesc h hue inScope true start n hat hu hdk _ _ hinv hok []
    (fun _ hel => by
      have hD : DeclsOk env n.nsDecls := by
        have := hdk [] n rfl
        cases n with
        | node v ks =>
          cases v <;> simp [Tree.value, Value.isElement] at hel
          simpa [frameOf, Tree.value] using this
      exact corr_top h hin hD)
    (fun hne => by
      rcases hne with hne | hne
      · cases hne
      · rcases hstart with hel | hx
        · rw [hel] at hne; cases hne
        · exact corr_onlyXml hx)
    toks hr
  have a := o1 []
  have b := o2 []
  simp only [List.append_nil, resolveGo, expectedGo] at a b
  rw [a, b]

end XotModel.SerResolve
