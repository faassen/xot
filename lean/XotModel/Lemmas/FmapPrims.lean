/-
  The forest primitives used by the map operations at a located element, each in normal form ("the
  forest afterwards is the forest before with the child list of `e` replaced by …", `withKids`),
  and the placing of a parentless entry node at the insertion point of a view.
-/
import XotModel.Lemmas.FmapKids
import XotModel.Lemmas.FspecSite
import XotModel.Lemmas.ManipShape

/-! ## The primitives in normal form

Under distinct handles.  `Located` is `SiteAt` of Lemmas/FspecSite.lean and `withKids` is an edit at that site
(`SiteAt.editAt_eq_withKids`), so each primitive at a direct child is its `…_of_ctx` equation of
Lemmas/FspecEditAt.lean read at the site (`site_replaceTop`). -/

namespace XotModel
namespace Fmap
open HTree Spec
open Forest (MapKind entryKey mapChildren)

theorem mapAtList_congr (e : Nat) (g1 g2 : HTree → HTree) : ∀ (ks : List HTree) (t : HTree),
    (handlesList ks).Nodup → findList? e ks = some t → g1 t = g2 t →
    mapAtList e g1 ks = mapAtList e g2 ks := by
  intro ks t hnd hf hg
  obtain ⟨path, l, r, lc⟩ := Loc.of_findList? hnd hf
  rw [lc.mapAtList_eq hnd, lc.mapAtList_eq hnd, hg]

theorem mapAt_mapAt (e : Nat) (g1 g2 : HTree → HTree) (hg : ∀ x, (g1 x).handle = x.handle) :
    ∀ k : HTree, mapAt e g2 (mapAt e g1 k) = mapAt e (fun x => g2 (g1 x)) k :=
  mapAt_mapAt_self e g1 g2 hg

/-- The forest with the child list of `e` replaced by `ks'` (everything else as it was). -/
def withKids (roots : List HTree) (e : Nat) (ks' : List HTree) : List HTree :=
  mapAtList e (atKids (fun _ => ks')) roots

theorem withKids_withKids (roots : List HTree) (e : Nat) (k1 k2 : List HTree) :
    withKids (withKids roots e k1) e k2 = withKids roots e k2 := by
  unfold withKids
  rw [mapAtList_mapAtList_self e _ _ (fun x => atKids_handle _ x)]
  congr 1
  funext x
  cases x; rfl

theorem withKids_of (roots : List HTree) (e : Nat) (F : List HTree → List HTree) (t : HTree)
    (hnd : (handlesList roots).Nodup) (hf : findList? e roots = some t) :
    mapAtList e (atKids F) roots = withKids roots e (F t.kids) := by
  unfold withKids
  apply mapAtList_congr e _ _ roots t hnd hf
  cases t; rfl

theorem withKids_eq_map (rs : List HTree) (e : Nat) (ks' : List HTree) :
    withKids rs e ks' = rs.map (HTree.editAt e (fun _ => ks')) := by
  unfold withKids
  rw [mapAtList_eq_map]
  rfl

theorem get_withKids (roots : List HTree) (e : Nat) (ks' : List HTree) (h : Nat) (v : Value)
    (ks : List HTree) (hf : findList? e roots = some (.node h v ks)) :
    findList? e (withKids roots e ks') = some (.node e v ks') := by
  have he : h = e := findList?_handle e roots _ hf
  subst he
  rw [withKids_eq_map]
  exact findList?_editAt_self roots hf

theorem nodup_withKids (roots : List HTree) (e : Nat) (ks' : List HTree) (v : Value)
    (ks : List HTree) (hnd : (handlesList roots).Nodup)
    (hf : findList? e roots = some (.node e v ks))
    (hk : (handlesList ks').Nodup)
    (hnew : ∀ x ∈ handlesList ks', x ∈ handlesList ks ∨ x ∉ handlesList roots) :
    (handlesList (withKids roots e ks')).Nodup := by
  unfold withKids
  have hem : e ∈ handlesList roots := mem_of_findList?_some hf
  apply nodup_mapAtList e _ roots _ hnd hf
  · show (handles (.node e v ks')).Nodup
    simp only [handles, List.nodup_cons]
    refine ⟨?_, hk⟩
    intro hx
    rcases hnew e hx with h1 | h1
    · have := findList?_nodup e roots _ hnd hf
      simp only [handles, List.nodup_cons] at this
      exact this.1 h1
    · exact h1 hem
  · intro x hx
    change x ∈ handles (.node e v ks') at hx
    simp only [handles, List.mem_cons] at hx ⊢
    rcases hx with hx | hx
    · exact Or.inl (Or.inl hx)
    · rcases hnew x hx with h1 | h1
      · exact Or.inl (Or.inr h1)
      · exact Or.inr h1

theorem mem_withKids (roots : List HTree) (e : Nat) (ks' : List HTree) (t : HTree)
    (hnd : (handlesList roots).Nodup) (hf : findList? e roots = some t) (x : Nat)
    (hx : x ∈ handlesList (withKids roots e ks')) : x ∈ handlesList roots ∨ x ∈ handlesList ks' := by
  unfold withKids at hx
  rcases mem_handlesList_mapAtList e _ roots t hnd hf x hx with h | h
  · exact Or.inl h
  · cases t with
    | node h' v ks =>
      change x ∈ handles (.node h' v ks') at h
      simp only [handles, List.mem_cons] at h
      rcases h with h | h
      · left
        rw [h]
        have := mem_of_findList?_some hf
        rwa [← findList?_handle e roots _ hf] at this
      · exact Or.inr h

/-! ### `append_*_node` after its guards -/

theorem appendEntryNode_found {f : Forest} {k : MapKind} {e nd : Nat} {v : Value} {n : HTree}
    (he : f.isElement e = true) (hval : f.value? nd = some v) (hm : k.matches v = true)
    (hn : f.mapGetNode k e (entryKey v) = some n) :
    f.appendEntryNode k e nd = (f.setValue n.handle (Forest.entryUpdate n.value v), .ok, n.handle) := by
  simp only [Forest.appendEntryNode, Forest.mapInsertNode, he, hval, hm, hn, Bool.not_true,
    Bool.false_eq_true, if_false]

theorem appendEntryNode_place {f : Forest} {k : MapKind} {e nd : Nat} {v : Value}
    (he : f.isElement e = true) (hval : f.value? nd = some v) (hm : k.matches v = true)
    (hn : f.mapGetNode k e (entryKey v) = none) :
    f.appendEntryNode k e nd = ((f.mapPlace k e nd).1, (f.mapPlace k e nd).2, nd) := by
  simp only [Forest.appendEntryNode, Forest.mapInsertNode, he, hval, hm, hn, Bool.not_true,
    Bool.false_eq_true, if_false]

/-! ### What the theorems need from the invariant at the element -/

/-- Handles are distinct and `e` is a node with value `ev` and children `ks`. -/
structure Located (f : Forest) (e : Nat) (ev : Value) (ks : List HTree) : Prop where
  nodup : f.allHandles.Nodup
  get : f.get? e = some (.node e ev ks)

theorem Located.site {f : Forest} {e : Nat} {ev : Value} {ks : List HTree} (h : Located f e ev ks) :
    SiteAt f e ev ks := ⟨h.nodup, h.get⟩

theorem _root_.XotModel.SiteAt.located {f : Forest} {e : Nat} {ev : Value} {ks : List HTree}
    (s : SiteAt f e ev ks) : Located f e ev ks := ⟨s.nd, s.kids⟩

theorem _root_.XotModel.SiteAt.roots_editAt {f : Forest} {e : Nat} {v : Value} {L : List HTree}
    (s : SiteAt f e v L) (g : List HTree → List HTree) :
    f.roots.map (HTree.editAt e g) = withKids f.roots e (g L) := by
  rw [withKids_eq_map]
  exact editAt_congr_list (g := g) (g' := fun _ => g L) rfl f.roots s.nd s.kids

/-- An edit at a site, in the normal form of the C11 development. -/
theorem _root_.XotModel.SiteAt.editAt_eq_withKids {f : Forest} {e : Nat} {v : Value} {L : List HTree}
    (s : SiteAt f e v L) (g : List HTree → List HTree) :
    f.editAt (some e) g = { f with roots := withKids f.roots e (g L) } := by
  simp only [Forest.editAt]
  rw [s.roots_editAt]

theorem site_replaceTop {f : Forest} {e : Nat} {ev : Value} {l r : List HTree} {n : HTree}
    (s : SiteAt f e ev (l ++ n :: r)) (F : HTree → List HTree) :
    f.editAt (some e) (replaceTop n.handle F) = { f with roots := withKids f.roots e (l ++ F n ++ r) } := by
  rw [s.editAt_eq_withKids, replaceTop_mid rfl]
  intro k hk e'
  have := s.nodupKids.1
  rw [handlesList_append, handlesList_cons] at this
  exact (List.nodup_append.mp this).2.2 _ (e' ▸ rootHandle_mem_handlesList hk) _
    (List.mem_append_left _ (handle_mem_handles n)) rfl

theorem Located.kidsNodup {f : Forest} {e : Nat} {ev : Value} {ks : List HTree}
    (h : Located f e ev ks) : (handlesList ks).Nodup ∧ e ∉ handlesList ks :=
  h.site.nodupKids

theorem Located.childFound {f : Forest} {e : Nat} {ev : Value} {ks : List HTree}
    (h : Located f e ev ks) (x : HTree) (hx : x ∈ ks) : f.get? x.handle = some x := by
  obtain ⟨anc, o⟩ := Fws.occurs_of_get? h.get
  exact (Fws.Occurs.kid o hx).get? h.nodup

theorem Located.isRoot_child {f : Forest} {e : Nat} {ev : Value} {l r : List HTree} {n : HTree}
    (h : Located f e ev (l ++ n :: r)) : f.isRoot n.handle = false :=
  Forest.isRoot_of_ctx h.nodup h.site.ctx

/-! ### `setValue` at a direct child -/

theorem setValue_child {f : Forest} {e : Nat} {ev : Value} {l r : List HTree} {n : HTree}
    (h : Located f e ev (l ++ n :: r)) (v' : Value) :
    f.setValue n.handle v' = { f with roots := withKids f.roots e (l ++ n.setValue v' :: r) } := by
  rw [Forest.setValue_of_ctx v' h.nodup h.site.ctx, site_replaceTop h.site]
  simp

/-! ### `remove` of a direct child that is an entry node -/

theorem cut_child {f : Forest} {e : Nat} {ev : Value} {l r : List HTree} {n : HTree}
    (h : Located f e ev (l ++ n :: r)) :
    f.cut n.handle = ({ f with roots := withKids f.roots e (l ++ r) }, some n) := by
  rw [Forest.cut_of_ctx h.nodup h.site.ctx, site_replaceTop h.site]
  simp

theorem located_after_cut {f : Forest} {e : Nat} {ev : Value} {l r : List HTree} {n : HTree}
    (h : Located f e ev (l ++ n :: r)) :
    Located { f with roots := withKids f.roots e (l ++ r) } e ev (l ++ r) := by
  have := (h.site.edit (fun _ => l ++ r) (by
    simp only [handlesList_append, handlesList_cons]
    exact List.Sublist.append (List.Sublist.refl _) (List.sublist_append_right _ _))).located
  rwa [h.site.editAt_eq_withKids] at this

theorem textOf_none_of_entry (f : Forest) (x : HTree) (hx : f.get? x.handle = some x)
    (hc : x.value.category ≠ .normal) : f.textOf x.handle = none := by
  unfold Forest.textOf Forest.value?
  rw [hx]
  cases x with
  | node h v ks =>
    cases v <;> simp [HTree.value, Value.category] at hc ⊢

/-- Where an entry node goes no text is merged: the previous sibling that is reported, if any, is
    an entry node of the same category.  `f1` is the forest without the node. -/
theorem removeConsolidate_entry {f f1 : Forest} {e : Nat} {ev : Value} {l r : List HTree}
    {n : HTree} (h : Located f e ev (l ++ n :: r)) (hc : n.value.category ≠ .normal)
    (hfound : ∀ x ∈ l, f1.get? x.handle = some x) :
    (f1.removeConsolidate (f.prevSibling n.handle) (f.nextSibling n.handle)).1 = f1 := by
  rcases Forest.removeConsolidate_outcome f1 (f.prevSibling n.handle) (f.nextSibling n.handle) with
    h0 | ⟨p, nx, ps, ns, hp, -, -, hps, -, -⟩
  · rw [h0]
  · exfalso
    unfold Forest.prevSibling at hp
    rw [h.site.ctx] at hp
    simp only at hp
    cases hl : l.getLast? with
    | none => rw [hl] at hp; cases hp
    | some pt =>
      rw [hl] at hp
      simp only at hp
      split at hp
      · rename_i hcat
        cases hp
        have hpc : pt.value.category ≠ .normal := by
          have : pt.value.category = n.value.category := by simpa using hcat
          rw [this]; exact hc
        rw [textOf_none_of_entry f1 pt (hfound pt (List.mem_of_getLast? hl)) hpc] at hps
        cases hps
      · cases hp

theorem remove_child {f : Forest} {e : Nat} {ev : Value} {l r : List HTree} {n : HTree}
    (h : Located f e ev (l ++ n :: r)) (hc : n.value.category ≠ .normal) :
    f.remove n.handle = ({ f with roots := withKids f.roots e (l ++ r) }, .ok) := by
  unfold Forest.remove
  simp only
  congr 1
  unfold Forest.dropSubtree
  rw [cut_child h]
  exact removeConsolidate_entry h hc
    (fun x hx => (located_after_cut h).childFound x (List.mem_append_left _ hx))

end Fmap
end XotModel

/-! ## Placing a parentless entry node at the insertion point of a view

A fresh node or a detached one: `checked_insert_after` next to a direct child, `checked_prepend`. -/

namespace XotModel
namespace Fmap
open HTree Spec
open Forest (MapKind entryKey mapChildren)

/-- The roots other than the parentless node `nd`. -/
def rootsWithout (f : Forest) (nd : Nat) : List HTree := f.roots.filter (fun r => r.handle != nd)

theorem cut_leafRoot (f : Forest) (hnd : f.allHandles.Nodup) (nd : Nat) (v : Value)
    (hroot : HTree.node nd v [] ∈ f.roots) :
    f.cut nd = ({ f with roots := rootsWithout f nd }, some (.node nd v [])) := by
  unfold Forest.cut
  have hg : f.get? nd = some (.node nd v []) := findList?_direct f.roots hnd _ hroot
  have hr : f.isRoot nd = true := by
    unfold Forest.isRoot
    exact List.any_eq_true.mpr ⟨_, hroot, by simp [HTree.handle]⟩
  rw [hg, hr]
  rfl

theorem located_without {f : Forest} {e : Nat} {ev : Value} {ks : List HTree}
    (h : Located f e ev ks) (nd : Nat) (v : Value) (hroot : HTree.node nd v [] ∈ f.roots)
    (hne : e ≠ nd) : Located { f with roots := rootsWithout f nd } e ev ks := by
  constructor
  · exact List.Nodup.sublist (handlesList_filter_sublist _ _) h.nodup
  · show findList? e (rootsWithout f nd) = _
    unfold rootsWithout
    rw [find?_leafRoot_filter f.roots h.nodup nd e v hroot hne]
    exact h.get

theorem checkedInsertAfter_child {f : Forest} {e : Nat} {ev : Value} {l r : List HTree} {n : HTree}
    (h : Located f e ev (l ++ n :: r)) (nd : Nat) (v : Value)
    (hroot : HTree.node nd v [] ∈ f.roots) (hne : e ≠ nd) :
    f.checkedInsertAfter n.handle nd =
      ({ f with roots := withKids (rootsWithout f nd) e (l ++ n :: .node nd v [] :: r) }, true) := by
  have hn : n.handle ≠ nd := by
    intro hh
    have hr : f.isRoot nd = true := List.any_eq_true.mpr ⟨_, hroot, by simp [HTree.handle]⟩
    rw [← hh, h.isRoot_child] at hr
    cases hr
  unfold Forest.checkedInsertAfter
  rw [if_neg hn, ancestors_not_leafRoot f h.nodup nd n.handle v hroot hn, h.isRoot_child]
  simp only [Bool.or_self, Bool.false_eq_true, if_false]
  rw [cut_leafRoot f h.nodup nd v hroot]
  simp only
  have h0 := located_without h nd v hroot hne
  rw [Forest.placeAfter_of_ctx _ h0.nodup h0.site.ctx]
  unfold insertAfterTop
  rw [site_replaceTop h0.site]
  simp

theorem checkedPrepend_leafRoot {f : Forest} {e : Nat} {ev : Value} {ks : List HTree}
    (h : Located f e ev ks) (nd : Nat) (v : Value)
    (hroot : HTree.node nd v [] ∈ f.roots) (hne : e ≠ nd) :
    f.checkedPrepend e nd =
      ({ f with roots := withKids (rootsWithout f nd) e (.node nd v [] :: ks) }, true) := by
  unfold Forest.checkedPrepend
  rw [ancestors_not_leafRoot f h.nodup nd e v hroot hne]
  simp only [Bool.or_false, decide_eq_true_eq, if_neg hne]
  rw [cut_leafRoot f h.nodup nd v hroot]
  simp only
  have h0 := located_without h nd v hroot hne
  rw [Forest.placeFirst_eq, h0.site.editAt_eq_withKids]

/-- After the placement: `e` is located with the new child list, given that the new node's
    handle is new to the element's tree. -/
theorem located_placed {f : Forest} {e : Nat} {ev : Value} {ks : List HTree}
    (h : Located f e ev ks) (nd : Nat) (v : Value) (hroot : HTree.node nd v [] ∈ f.roots)
    (hne : e ≠ nd) (a b : List HTree) (hks : ks = a ++ b) :
    Located { f with roots := withKids (rootsWithout f nd) e (a ++ .node nd v [] :: b) } e ev
      (a ++ .node nd v [] :: b) := by
  have h0 := located_without h nd v hroot hne
  have hk := h.kidsNodup.1
  subst hks
  rw [handlesList_append] at hk
  have hnd0 : nd ∉ handlesList (rootsWithout f nd) :=
    not_mem_handlesList_filter_leafRoot f.roots h.nodup nd v hroot
  have hndk : nd ∉ handlesList (a ++ b) := by
    intro hx
    apply hnd0
    have : nd ∈ handles (HTree.node e ev (a ++ b)) := by
      simp only [handles, List.mem_cons]; exact Or.inr hx
    exact findList?_handles_sub e _ _ h0.get nd this
  rw [handlesList_append] at hndk
  simp only [List.mem_append, not_or] at hndk
  constructor
  · show (handlesList (withKids (rootsWithout f nd) e _)).Nodup
    apply nodup_withKids _ e _ ev _ h0.nodup h0.get
    · rw [handlesList_append]
      simp only [handlesList, handles, List.cons_append, List.nil_append]
      have hk' := List.nodup_append.mp hk
      apply List.nodup_append.mpr
      refine ⟨hk'.1, List.nodup_cons.mpr ⟨hndk.2, hk'.2.1⟩, ?_⟩
      intro x hx y hy hxy
      subst hxy
      rcases List.mem_cons.mp hy with hy | hy
      · exact hndk.1 (hy ▸ hx)
      · exact hk'.2.2 _ hx _ hy rfl
    · intro x hx
      rw [handlesList_append] at hx ⊢
      simp only [handlesList, handles, List.cons_append, List.nil_append, List.mem_append, List.mem_cons] at hx ⊢
      rcases hx with hx | hx | hx
      · exact Or.inl (Or.inl hx)
      · right; rw [hx]; exact hnd0
      · exact Or.inl (Or.inr hx)
  · exact get_withKids _ e _ e ev _ h0.get

end Fmap
end XotModel
