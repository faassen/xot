/-
  One pass of `deduplicate_namespaces` as structural recursion (`dpRem`, `dpWalk`, `dedupPass_eq`),
  and the loop: a pass that reports a removal makes the tree smaller, the fuel of the model suffices,
  a second call changes nothing.
-/
import XotModel.Lemmas.BasicFacts
import XotModel.Lemmas.ScopeWalk
import XotModel.Lemmas.ScopeDedup

/-! ### One pass as structural recursion

  1. `dpRem`: the traversal loop of `deduplicate_namespaces_pass` (kept stack, `to_remove`) as a
     recursive function of the kept stack; `dedup_fold` ties it to the fold over the edge stream.
  2. `dpWalk`: the tree after the removal loop, rebuilt recursively; `dedupPass_eq`:
     `dedupPass env t path sub = (scopeModifyAt (dpWalk env []) t path, !(dpRem env [] sub).isEmpty)`.
-/

namespace XotModel
open ScopePath

/-- The declarations of `x` found redundant against the kept stack `K`. -/
def dpRed (env : Env) (K : List (List (Nat × Nat))) (x : Tree) : List (Nat × Nat) :=
  x.nsDecls.filter (isRedundantDeclaration env x K)

/-- The declarations of `x` that are kept (`kept` of the Rust loop). -/
def dpKeep (env : Env) (K : List (List (Nat × Nat))) (x : Tree) : List (Nat × Nat) :=
  x.nsDecls.filter (fun kv => !isRedundantDeclaration env x K kv)

def prefixRem (pre : Path) (r : Path × Nat) : Path × Nat := (pre ++ r.1, r.2)

/-- `to_remove` of a pass over the subtree, paths relative to the subtree, traversal order. -/
def dpRem (env : Env) (K : List (List (Nat × Nat))) : Tree → List (Path × Nat)
  | .node v ks =>
    if v.isElement then
      (dpRed env K (.node v ks)).map (fun kv => (([] : Path), kv.1)) ++
        dpRemList env (dpKeep env K (.node v ks) :: K) 0 ks
    else dpRemList env K 0 ks
where
  dpRemList (env : Env) (K : List (List (Nat × Nat))) (i : Nat) : List Tree → List (Path × Nat)
    | [] => []
    | k :: ks => (dpRem env K k).map (prefixRem [i]) ++ dpRemList env K (i + 1) ks

theorem prefixRem_prefixRem (pre : Path) (i : Nat) (l : List (Path × Nat)) :
    (l.map (prefixRem [i])).map (prefixRem pre) = l.map (prefixRem (pre ++ [i])) := by
  simp [prefixRem, List.append_assoc]

mutual
theorem dedup_fold (env : Env) : ∀ (t : Tree) (pre : Path) (st : DedupState),
    (scopeTraverse pre t).foldl (dedupStep env) st =
      { kept := st.kept, toRemove := st.toRemove ++ (dpRem env st.kept t).map (prefixRem pre) }
  | .node v ks, pre, st => by
    rw [foldl_scopeTraverse]
    by_cases he : v.isElement = true
    · have hn := Compare.isNormal_of_isElement he
      simp only [hn, ↓reduceIte]
      rw [show dedupStep env st (.start pre (.node v ks)) =
          { kept := dpKeep env st.kept (.node v ks) :: st.kept,
            toRemove := st.toRemove ++ (dpRed env st.kept (.node v ks)).map (fun kv => (pre, kv.1)) } by
        simp [dedupStep, Tree.value, he, dpKeep, dpRed]]
      rw [dedup_fold_list env ks pre 0]
      simp only [dedupStep, Tree.value, he, ↓reduceIte, List.tail_cons, dpRem, List.map_append,
        List.map_map, List.append_assoc]
      congr 2
      simp [prefixRem, Function.comp_def]
    · have he' : v.isElement = false := Bool.eq_false_iff.2 he
      by_cases hn : v.isNormal = true
      · simp only [hn, ↓reduceIte, dedupStep, Tree.value, he', Bool.false_eq_true, dpRem]
        exact dedup_fold_list env ks pre 0 st
      · simp only [hn, Bool.false_eq_true, ↓reduceIte, dpRem, he']
        exact dedup_fold_list env ks pre 0 st
theorem dedup_fold_list (env : Env) : ∀ (ks : List Tree) (pre : Path) (i : Nat) (st : DedupState),
    (scopeTraverse.go pre i ks).foldl (dedupStep env) st =
      { kept := st.kept,
        toRemove := st.toRemove ++ (dpRem.dpRemList env st.kept i ks).map (prefixRem pre) }
  | [] => by
    intro pre i st
    simp [foldl_go_nil, dpRem.dpRemList]
  | k :: ks => by
    intro pre i st
    rw [foldl_go_cons, dedup_fold env k, dedup_fold_list env ks]
    simp [dpRem.dpRemList, prefixRem, List.append_assoc]
end

theorem dedupToRemove_eq (env : Env) (path : Path) (sub : Tree) :
    dedupToRemove env path sub = (dpRem env [] sub).map (prefixRem path) := by
  simp [dedupToRemove, dedup_fold]

/-! ### The tree after the removals, rebuilt recursively -/

/-- The removal loop for one element's own entries of `to_remove`, last entry first. -/
def removeOwn (pfxs : List Nat) (ks : List Tree) : List Tree :=
  pfxs.reverse.foldl (fun ks p => removeNsKid p ks) ks

theorem nsDel_foldl_removeNsKid (l : List Nat) : ∀ ks : List Tree,
    NsDel (l.foldl (fun ks p => removeNsKid p ks) ks) ks := by
  induction l with
  | nil => exact NsDel.refl
  | cons a rest ih => exact fun ks => (ih _).trans (nsDel_removeNsKid a ks)

theorem nsDel_removeOwn (pfxs : List Nat) (ks : List Tree) : NsDel (removeOwn pfxs ks) ks :=
  nsDel_foldl_removeNsKid _ ks

/-- The subtree after one pass with kept stack `K` above it. -/
def dpWalk (env : Env) (K : List (List (Nat × Nat))) : Tree → Tree
  | .node v ks =>
    if v.isElement then
      .node v (removeOwn ((dpRed env K (.node v ks)).map (·.1))
        (dpWalkList env (dpKeep env K (.node v ks) :: K) ks))
    else .node v (dpWalkList env K ks)
where
  dpWalkList (env : Env) (K : List (List (Nat × Nat))) : List Tree → List Tree
    | [] => []
    | k :: ks => dpWalk env K k :: dpWalkList env K ks

theorem dpWalk_of_isElement (env : Env) (K : List (List (Nat × Nat))) {v : Value} (ks : List Tree)
    (he : v.isElement = true) :
    dpWalk env K (.node v ks) = .node v (removeOwn ((dpRed env K (.node v ks)).map (·.1))
      (dpWalk.dpWalkList env (dpKeep env K (.node v ks) :: K) ks)) := by
  simp only [dpWalk, he, ↓reduceIte]

theorem dpWalk_nonElement (env : Env) (K : List (List (Nat × Nat))) {v : Value} (ks : List Tree)
    (he : v.isElement = false) : dpWalk env K (.node v ks) = .node v (dpWalk.dpWalkList env K ks) := by
  simp only [dpWalk, he, Bool.false_eq_true, ↓reduceIte]

/-- The fix-up list a removal list stands for: last entry first, one prefix each. -/
def remFixups (rem : List (Path × Nat)) : List (Path × List Nat) :=
  rem.reverse.map fun r => (r.1, [r.2])

def prefixFix (pre : Path) (fp : Path × List Nat) : Path × List Nat := (pre ++ fp.1, fp.2)

theorem remFixups_append (a b : List (Path × Nat)) :
    remFixups (a ++ b) = remFixups b ++ remFixups a := by
  simp [remFixups]

theorem remFixups_prefix (pre : Path) (rem : List (Path × Nat)) :
    remFixups (rem.map (prefixRem pre)) = (remFixups rem).map (prefixFix pre) := by
  simp [remFixups, prefixRem, prefixFix, Function.comp_def]

theorem applyFixups_append' (t : Tree) (a b : List (Path × List Nat)) :
    applyFixups t (a ++ b) = applyFixups (applyFixups t a) b := by
  simp [applyFixups, List.foldl_append]

theorem foldl_modify_kid {α : Type} (v : Value) (i : Nat) (G g : α → Tree → Tree)
    (hG : ∀ a l, G a (.node v l) = .node v (l.modify i (g a))) : ∀ (as : List α) (l : List Tree),
    as.foldl (fun t a => G a t) (.node v l) =
      .node v (l.modify i fun k => as.foldl (fun k a => g a k) k)
  | [], l => congrArg (Tree.node v) (List.modify_id i l).symm
  | a :: as, l => by
    rw [List.foldl_cons, hG, foldl_modify_kid v i G g hG as, List.modify_modify_eq]
    rfl

theorem removeNamespacesAt_cons' (v : Value) (q : Path) (i : Nat) (pfxs : List Nat) (l : List Tree) :
    removeNamespacesAt (.node v l) (i :: q) pfxs =
      .node v (l.modify i (fun k => removeNamespacesAt k q pfxs)) :=
  foldl_modify_kid v i (fun p t => scopeModifyAt (removeNsKidsOf p) t (i :: q))
    (fun p k => scopeModifyAt (removeNsKidsOf p) k q) (fun _ _ => rfl) pfxs l

theorem applyFixups_kid' (v : Value) (i : Nat) (fps : List (Path × List Nat)) (l : List Tree) :
    applyFixups (.node v l) (fps.map (prefixFix [i])) =
      .node v (l.modify i (fun k => applyFixups k fps)) := by
  rw [applyFixups, List.foldl_map]
  exact foldl_modify_kid v i (fun fp t => removeNamespacesAt t ([i] ++ fp.1) fp.2)
    (fun fp k => removeNamespacesAt k fp.1 fp.2)
    (fun fp l => removeNamespacesAt_cons' v fp.1 i fp.2 l) fps l

theorem modify_length_append' (done : List Tree) (k : Tree) (ks : List Tree) (f : Tree → Tree) :
    (done ++ k :: ks).modify done.length f = done ++ f k :: ks := by
  induction done with
  | nil => simp
  | cons d rest ih => simp [ih]

/-- The element's own removals, carried out on its (already rebuilt) child list. -/
theorem applyFixups_own (v : Value) (pfxs : List Nat) : ∀ (ks : List Tree),
    applyFixups (.node v ks) (remFixups (pfxs.map fun p => (([] : Path), p))) =
      .node v (removeOwn pfxs ks) := by
  intro ks
  simp only [remFixups, removeOwn, ← List.map_reverse, List.map_map]
  generalize pfxs.reverse = l
  induction l generalizing ks with
  | nil => rfl
  | cons p rest ih =>
    simp only [List.map_cons, applyFixups, List.foldl_cons, Function.comp_apply] at ih ⊢
    rw [show removeNamespacesAt (Tree.node v ks) [] [p] = .node v (removeNsKid p ks) from rfl]
    exact ih _

mutual
theorem rebuild_tree (env : Env) : ∀ (x : Tree) (K : List (List (Nat × Nat))),
    applyFixups x (remFixups (dpRem env K x)) = dpWalk env K x
  | .node v ks, K => by
    by_cases he : v.isElement = true
    · have h2 := rebuild_list env ks (dpKeep env K (.node v ks) :: K) 0 v [] rfl
      simp only [List.nil_append] at h2
      simp only [dpRem, dpWalk, he, ↓reduceIte, remFixups_append, applyFixups_append', h2]
      have := applyFixups_own v ((dpRed env K (.node v ks)).map (·.1))
        (dpWalk.dpWalkList env (dpKeep env K (Tree.node v ks) :: K) ks)
      simpa only [List.map_map, Function.comp_def] using this
    · have he' : v.isElement = false := Bool.eq_false_iff.2 he
      have h2 := rebuild_list env ks K 0 v [] rfl
      simp only [List.nil_append] at h2
      simp only [dpRem, dpWalk, he', Bool.false_eq_true, ↓reduceIte, h2]
theorem rebuild_list (env : Env) : ∀ (ks : List Tree) (K : List (List (Nat × Nat))) (i : Nat)
    (v : Value) (done : List Tree), done.length = i →
    applyFixups (.node v (done ++ ks)) (remFixups (dpRem.dpRemList env K i ks)) =
      .node v (done ++ dpWalk.dpWalkList env K ks)
  | [] => by
    intro K i v done _
    simp [dpRem.dpRemList, dpWalk.dpWalkList, remFixups, applyFixups]
  | k :: ks => by
    intro K i v done hd
    subst hd
    have h4 := rebuild_list env ks K (done.length + 1) v (done ++ [k]) (by simp)
    simp only [List.append_assoc, List.singleton_append] at h4
    simp only [dpRem.dpRemList, dpWalk.dpWalkList, remFixups_append, applyFixups_append', h4,
      remFixups_prefix, applyFixups_kid']
    rw [modify_length_append', rebuild_tree env k K]
end

/-! ### A pass on an inner node -/

theorem applyFixups_at (fps : List (Path × List Nat)) : ∀ (q : Path) (x : Tree),
    applyFixups x (fps.map (prefixFix q)) = scopeModifyAt (fun s => applyFixups s fps) x q
  | [], x => by
    have : prefixFix [] = id := by funext ⟨a, b⟩; rfl
    simp [this, scopeModifyAt]
  | i :: q, .node v l => by
    have h1 : fps.map (prefixFix (i :: q)) = (fps.map (prefixFix q)).map (prefixFix [i]) := by
      simp [prefixFix]
    rw [h1, applyFixups_kid']
    simp only [scopeModifyAt]
    congr 2
    funext k
    exact applyFixups_at fps q k

/-- One pass started at `path`: the subtree there is rebuilt from an EMPTY kept stack (nothing above
    the node is looked at), everything else is untouched. -/
theorem dedupPass_eq (env : Env) (t : Tree) (path : Path) (sub : Tree) (hs : t.at? path = some sub) :
    dedupPass env t path sub =
      (scopeModifyAt (dpWalk env []) t path, !(dpRem env [] sub).isEmpty) := by
  simp only [dedupPass, dedupToRemove_eq, List.isEmpty_map]
  congr 1
  have := remFixups_prefix path (dpRem env [] sub)
  simp only [remFixups] at this
  rw [this, applyFixups_at]
  exact scopeModifyAt_congr _ _ path t fun x hx => by
    rw [hs] at hx; cases hx; exact rebuild_tree env sub []

end XotModel

/-! ### The loop terminates

  `while self.deduplicate_namespaces_pass(node) {}` terminates.

  * every pass that reports a removal makes the tree strictly smaller (`dedupPass_size_lt`): each
    entry of `to_remove` names an element and a prefix among its declarations, so the first
    `remove(prefix)` carried out deletes a node, and no removal adds one;
  * hence `t.size + 1` rounds are enough: the loop of the model stops because a pass removed
    nothing, never because the fuel ran out (`dedupLoop_fixpoint`), more fuel changes nothing
    (`dedupLoop_fuel_irrelevant`);
  * a second call does one pass that removes nothing (`deduplicateNamespaces_idem`).
-/

namespace XotModel
open ScopePath

/-! ### Values are preserved by the rebuild -/

theorem removeOwn_nil (ks : List Tree) : removeOwn [] ks = ks := rfl

mutual
theorem dpWalk_value (env : Env) : ∀ (x : Tree) (K : List (List (Nat × Nat))),
    (dpWalk env K x).value = x.value
  | .node v ks, K => by
    unfold dpWalk
    split <;> rfl
theorem dpWalkList_values (env : Env) : ∀ (ks : List Tree) (K : List (List (Nat × Nat))),
    (dpWalk.dpWalkList env K ks).map Tree.value = ks.map Tree.value
  | [], K => by simp [dpWalk.dpWalkList]
  | k :: ks, K => by
    simp [dpWalk.dpWalkList, dpWalk_value env k K, dpWalkList_values env ks K]
end

theorem ddDeclsOfKids_congr (ks ks' : List Tree) (h : ks.map Tree.value = ks'.map Tree.value) :
    declsOfKids ks = declsOfKids ks' := by
  rw [← nsDecls_node .document, ← nsDecls_node .document]
  exact nsDecls_of_values h

theorem declsOfKids_dpWalkList (env : Env) (ks : List Tree) (K : List (List (Nat × Nat))) :
    declsOfKids (dpWalk.dpWalkList env K ks) = declsOfKids ks :=
  ddDeclsOfKids_congr _ _ (dpWalkList_values env ks K)

/-! ### Sizes -/

theorem removeNsKid_not_namespace (pfx : Nat) (k : Tree) (rest : List Tree)
    (hc : ¬ (k.value.category == Category.namespace) = true) :
    removeNsKid pfx (k :: rest) = k :: rest := by
  unfold removeNsKid
  split
  · rename_i p n h; exact absurd ((category_namespace_iff_ex _).2 ⟨p, n, h⟩) hc
  · rfl

theorem declsOfKids_not_namespace (k : Tree) (rest : List Tree)
    (hc : ¬ (k.value.category == Category.namespace) = true) : declsOfKids (k :: rest) = [] := by
  unfold declsOfKids
  split
  · rename_i p n h; exact absurd ((category_namespace_iff_ex _).2 ⟨p, n, h⟩) hc
  · rfl

theorem NsDel.sizeList_le {ks' ks : List Tree} (h : NsDel ks' ks) :
    Tree.size.sizeList ks' ≤ Tree.size.sizeList ks := by
  induction h with
  | refl => exact Nat.le_refl _
  | drop _ _ ih => exact Nat.le_trans ih (Nat.le_add_left _ _)
  | keep _ _ ih => exact Nat.add_le_add_left ih _

/-- `remove(prefix)` on a child list: nothing happens if no leading namespace node has the key,
    otherwise a node goes. -/
theorem removeNsKid_key (pfx : Nat) : ∀ ks : List Tree,
    (pfx ∉ (declsOfKids ks).map Prod.fst → removeNsKid pfx ks = ks) ∧
    (pfx ∈ (declsOfKids ks).map Prod.fst →
      Tree.size.sizeList (removeNsKid pfx ks) < Tree.size.sizeList ks)
  | [] => ⟨fun _ => rfl, fun h => nomatch h⟩
  | k :: ks => by
    by_cases hc : (k.value.category == Category.namespace) = true
    · obtain ⟨p, n, hv⟩ := (category_namespace_iff_ex _).1 hc
      obtain ⟨ih1, ih2⟩ := removeNsKid_key pfx ks
      simp only [declsOfKids_cons_nsNode hv, List.map_cons, List.mem_cons, not_or, removeNsKid, hv]
      by_cases hp : p = pfx
      · simp only [hp, beq_self_eq_true, if_true]
        exact ⟨fun h => absurd trivial h.1, fun _ => Nat.lt_add_of_pos_left (Tree.size_pos k)⟩
      · simp only [beq_false_of_ne hp, Bool.false_eq_true, if_false]
        exact ⟨fun h => by rw [ih1 h.2],
          fun h => Nat.add_lt_add_left (ih2 (h.resolve_left (Ne.symm hp))) _⟩
    · rw [removeNsKid_not_namespace pfx k ks hc, declsOfKids_not_namespace k ks hc]
      exact ⟨fun _ => rfl, fun h => nomatch h⟩

theorem sizeList_foldl_remove_lt (l : List Nat) : ∀ ks : List Tree,
    (∃ p ∈ l, p ∈ (declsOfKids ks).map Prod.fst) →
    Tree.size.sizeList (l.foldl (fun ks p => removeNsKid p ks) ks) < Tree.size.sizeList ks := by
  induction l with
  | nil => intro ks h; obtain ⟨p, hp, _⟩ := h; simp at hp
  | cons a rest ih =>
    intro ks h
    simp only [List.foldl_cons]
    by_cases ha : a ∈ (declsOfKids ks).map Prod.fst
    · exact Nat.lt_of_le_of_lt (nsDel_foldl_removeNsKid rest _).sizeList_le ((removeNsKid_key a ks).2 ha)
    · rw [(removeNsKid_key a ks).1 ha]
      apply ih
      obtain ⟨p, hp, hk⟩ := h
      simp only [List.mem_cons] at hp
      rcases hp with rfl | hp
      · exact absurd hk ha
      · exact ⟨p, hp, hk⟩

theorem sizeList_removeOwn_lt (pfxs : List Nat) (ks : List Tree)
    (h : ∃ p ∈ pfxs, p ∈ (declsOfKids ks).map Prod.fst) :
    Tree.size.sizeList (removeOwn pfxs ks) < Tree.size.sizeList ks := by
  apply sizeList_foldl_remove_lt
  obtain ⟨p, hp, hk⟩ := h
  exact ⟨p, by simpa using hp, hk⟩

theorem dpRed_keys_mem (env : Env) (K : List (List (Nat × Nat))) (v : Value) (ks : List Tree)
    (kv : Nat × Nat) (h : kv ∈ dpRed env K (.node v ks)) : kv.1 ∈ (declsOfKids ks).map Prod.fst := by
  simp only [dpRed, List.mem_filter, nsDecls_node] at h
  exact List.mem_map.2 ⟨kv, h.1, rfl⟩

mutual
theorem size_dpWalk (env : Env) : ∀ (x : Tree) (K : List (List (Nat × Nat))),
    (dpWalk env K x).size ≤ x.size ∧ (dpRem env K x ≠ [] → (dpWalk env K x).size < x.size)
  | .node v ks, K => by
    by_cases he : v.isElement = true
    · obtain ⟨h1, h2⟩ := size_dpWalkList env ks (dpKeep env K (.node v ks) :: K) 0
      have hdel := nsDel_removeOwn ((dpRed env K (.node v ks)).map (·.1))
        (dpWalk.dpWalkList env (dpKeep env K (.node v ks) :: K) ks)
      rw [dpWalk_of_isElement env K ks he]
      refine ⟨Nat.add_le_add_left (Nat.le_trans hdel.sizeList_le h1) 1, fun hne => ?_⟩
      apply Nat.add_lt_add_left
      by_cases hred : dpRed env K (.node v ks) = []
      · -- nothing removed on the element itself: something is removed below
        simp only [dpRem, he, ↓reduceIte, hred, List.map_nil, List.nil_append] at hne
        exact Nat.lt_of_le_of_lt hdel.sizeList_le (h2 hne)
      · obtain ⟨kv, hkv⟩ := List.exists_mem_of_ne_nil _ hred
        refine Nat.lt_of_lt_of_le (sizeList_removeOwn_lt _ _ ⟨kv.1, List.mem_map.2 ⟨kv, hkv, rfl⟩, ?_⟩) h1
        rw [declsOfKids_dpWalkList]
        exact dpRed_keys_mem env K v ks kv hkv
    · have he' : v.isElement = false := Bool.eq_false_iff.2 he
      obtain ⟨h1, h2⟩ := size_dpWalkList env ks K 0
      rw [dpWalk_nonElement env K ks he']
      refine ⟨Nat.add_le_add_left h1 1, fun hne => Nat.add_lt_add_left (h2 ?_) 1⟩
      simpa only [dpRem, he', Bool.false_eq_true, ↓reduceIte] using hne
theorem size_dpWalkList (env : Env) : ∀ (ks : List Tree) (K : List (List (Nat × Nat))) (i : Nat),
    Tree.size.sizeList (dpWalk.dpWalkList env K ks) ≤ Tree.size.sizeList ks ∧
    (dpRem.dpRemList env K i ks ≠ [] →
      Tree.size.sizeList (dpWalk.dpWalkList env K ks) < Tree.size.sizeList ks)
  | [], K, i => ⟨Nat.le_refl _, fun h => absurd rfl h⟩
  | k :: ks, K, i => by
    obtain ⟨h1, h2⟩ := size_dpWalk env k K
    obtain ⟨h3, h4⟩ := size_dpWalkList env ks K (i + 1)
    refine ⟨Nat.add_le_add h1 h3, fun hne => ?_⟩
    by_cases hk : dpRem env K k = []
    · simp only [dpRem.dpRemList, hk, List.map_nil, List.nil_append] at hne
      exact Nat.add_lt_add_of_le_of_lt h1 (h4 hne)
    · exact Nat.add_lt_add_of_lt_of_le (h2 hk) h3
end

/-! ### Modifying below a path: size and `at?` -/

theorem size_scopeModifyAt_le (f : Tree → Tree) (q : Path) (x sub : Tree) (h : x.at? q = some sub)
    (hle : (f sub).size ≤ sub.size) : (scopeModifyAt f x q).size ≤ x.size :=
  scopeModifyAt_rel (R := fun a' a => a'.size ≤ a.size)
    (RL := fun l' l => Tree.size.sizeList l' ≤ Tree.size.sizeList l) f
    (fun _ _ _ h => Nat.add_le_add_right h _) (fun _ _ _ h => Nat.add_le_add_left h _)
    (fun _ _ _ h => Nat.add_le_add_left h _) q x sub h hle

theorem size_scopeModifyAt_lt (f : Tree → Tree) (q : Path) (x sub : Tree) (h : x.at? q = some sub)
    (hlt : (f sub).size < sub.size) : (scopeModifyAt f x q).size < x.size :=
  scopeModifyAt_rel (R := fun a' a => a'.size < a.size)
    (RL := fun l' l => Tree.size.sizeList l' < Tree.size.sizeList l) f
    (fun _ _ _ h => Nat.add_lt_add_right h _) (fun _ _ _ h => Nat.add_lt_add_left h _)
    (fun _ _ _ h => Nat.add_lt_add_left h _) q x sub h hlt

/-! ### One pass -/

theorem dedupPass_of_no_removal (env : Env) (t : Tree) (path : Path) (sub : Tree)
    (h : (dedupPass env t path sub).2 = false) : (dedupPass env t path sub).1 = t := by
  simp only [dedupPass, Bool.not_eq_eq_eq_not, Bool.not_false, List.isEmpty_iff] at h
  simp [dedupPass, h, applyFixups]

/-- **Progress**: a pass that reports a removal has made the tree strictly smaller. -/
theorem dedupPass_size_lt (env : Env) (t : Tree) (path : Path) (sub : Tree)
    (hs : t.at? path = some sub) (h : (dedupPass env t path sub).2 = true) :
    (dedupPass env t path sub).1.size < t.size := by
  rw [dedupPass_eq env t path sub hs] at h ⊢
  simp only [Bool.not_eq_eq_eq_not, Bool.not_true, List.isEmpty_eq_false_iff] at h
  exact size_scopeModifyAt_lt _ path t sub hs ((size_dpWalk env sub []).2 h)

theorem dedupPass_size_le (env : Env) (t : Tree) (path : Path) (sub : Tree)
    (hs : t.at? path = some sub) : (dedupPass env t path sub).1.size ≤ t.size := by
  rw [dedupPass_eq env t path sub hs]
  exact size_scopeModifyAt_le _ path t sub hs (size_dpWalk env sub []).1

theorem dedupPass_at? (env : Env) (t : Tree) (path : Path) (sub : Tree)
    (hs : t.at? path = some sub) :
    (dedupPass env t path sub).1.at? path = some (dpWalk env [] sub) := by
  rw [dedupPass_eq env t path sub hs]
  rw [at?_scopeModifyAt, hs]; rfl

/-! ### The loop -/

/-- A tree on which a pass from `path` finds nothing to remove. -/
def DedupFixpoint (env : Env) (path : Path) (t : Tree) : Prop :=
  ∃ sub, t.at? path = some sub ∧ dedupToRemove env path sub = []

theorem dedupLoop_at? (env : Env) (path : Path) : ∀ (fuel : Nat) (t : Tree),
    (t.at? path).isSome = true → ((dedupLoop env path fuel t).at? path).isSome = true :=
  fun fuel t => dedupLoop_rel env path
    (R := fun a b => (b.at? path).isSome = true → (a.at? path).isSome = true) (I := fun _ => True)
    (fun _ h => h) (fun h1 h2 h => h1 (h2 h))
    (fun t sub hs _ => ⟨fun _ => by rw [dedupPass_at? env t path sub hs]; rfl, trivial⟩) fuel t trivial

/-- **The fuel suffices**: with more fuel than the tree has nodes the loop stops because a pass
    found nothing to remove — the result is a fixpoint of the pass. -/
theorem dedupLoop_fixpoint (env : Env) (path : Path) : ∀ (fuel : Nat) (t : Tree),
    t.size < fuel → (t.at? path).isSome = true → DedupFixpoint env path (dedupLoop env path fuel t)
  | 0 => by
    intro t hf _
    omega
  | fuel + 1 => by
    intro t hf h
    unfold dedupLoop
    cases hs : t.at? path with
    | none => simp [hs] at h
    | some sub =>
      dsimp only
      cases hr : (dedupPass env t path sub).2 with
      | true =>
        simp only [↓reduceIte]
        have hlt := dedupPass_size_lt env t path sub hs hr
        exact dedupLoop_fixpoint env path fuel _ (by omega)
          (by rw [dedupPass_at? env t path sub hs]; rfl)
      | false =>
        simp only [Bool.false_eq_true, ↓reduceIte]
        rw [dedupPass_of_no_removal env t path sub hr]
        refine ⟨sub, hs, ?_⟩
        simpa [dedupPass] using hr

theorem dedupLoop_of_fixpoint (env : Env) (path : Path) (t : Tree) (h : DedupFixpoint env path t) :
    ∀ fuel, dedupLoop env path fuel t = t
  | 0 => rfl
  | fuel + 1 => by
    obtain ⟨sub, hs, hr⟩ := h
    unfold dedupLoop
    simp only [hs]
    have : (dedupPass env t path sub).2 = false := by simp [dedupPass, hr]
    simp only [this, Bool.false_eq_true, ↓reduceIte]
    exact dedupPass_of_no_removal env t path sub this

/-- More fuel than `t.size + 1` changes nothing: the bound of the model is not a restriction. -/
theorem dedupLoop_fuel_irrelevant (env : Env) (path : Path) : ∀ (fuel extra : Nat) (t : Tree),
    t.size < fuel → dedupLoop env path (fuel + extra) t = dedupLoop env path fuel t
  | 0 => by
    intro _ t hf
    omega
  | fuel + 1 => by
    intro extra t hf
    rw [show fuel + 1 + extra = (fuel + extra) + 1 by omega]
    unfold dedupLoop
    cases hs : t.at? path with
    | none => rfl
    | some sub =>
      dsimp only
      cases hr : (dedupPass env t path sub).2 with
      | true =>
        simp only [↓reduceIte]
        have hlt := dedupPass_size_lt env t path sub hs hr
        exact dedupLoop_fuel_irrelevant env path fuel extra _ (by omega)
      | false => rfl

theorem deduplicateNamespaces_isSome (env : Env) (t t' : Tree) (path : Path)
    (h : deduplicateNamespaces env t path = some t') : ∃ sub, t.at? path = some sub := by
  unfold deduplicateNamespaces at h
  cases hs : t.at? path with
  | none => simp [hs] at h
  | some sub => exact ⟨sub, rfl⟩

/-- The result of `deduplicate_namespaces` is a tree on which a pass
    removes nothing. -/
theorem deduplicateNamespaces_fixpoint (env : Env) (t t' : Tree) (path : Path)
    (h : deduplicateNamespaces env t path = some t') : DedupFixpoint env path t' := by
  obtain ⟨sub, hs⟩ := deduplicateNamespaces_isSome env t t' path h
  simp only [deduplicateNamespaces, hs, Option.some.injEq] at h
  subst h
  exact dedupLoop_fixpoint env path (t.size + 1) t (by omega) (by rw [hs]; rfl)

theorem deduplicateNamespaces_idem (env : Env) (t t' : Tree) (path : Path)
    (h : deduplicateNamespaces env t path = some t') : deduplicateNamespaces env t' path = some t' := by
  have hf := deduplicateNamespaces_fixpoint env t t' path h
  obtain ⟨sub', hs', _⟩ := id hf
  simp only [deduplicateNamespaces, hs', Option.some.injEq]
  exact dedupLoop_of_fixpoint env path t' hf _

end XotModel
