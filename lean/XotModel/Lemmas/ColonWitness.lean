/-
  The three texts of C03_reject_colon_without_prefix, `<:a/>`, `<a :b='1'/>`, `<a></:a>`, through the
  reference tokenizer.  The tokenizer ACCEPTS the three texts: the empty prefix is an empty slice of
  the source, positioned at the colon (offset ≠ 0).
-/
import XotModel.Lemmas.LexCanonStep
import XotModel.Model.ParseString

namespace XotModel.Witness
open XotModel XotModel.Lex XotModel.Lex.Canon

def colonElementText : Str := ['<', ':', 'a', '/', '>']
def colonAttributeText : Str := ['<', 'a', ' ', ':', 'b', '=', '\'', '1', '\'', '/', '>']
def colonEndTagText : Str := ['<', 'a', '>', '<', '/', ':', 'a', '>']

def colonElementTokens : List Token :=
  [.elementStart ⟨[], 1⟩ ⟨['a'], 2⟩ ⟨['<', ':', 'a'], 0⟩, .elementEnd .empty ⟨['/', '>'], 3⟩]

def colonAttributeTokens : List Token :=
  [.elementStart ⟨[], 0⟩ ⟨['a'], 1⟩ ⟨['<', 'a'], 0⟩,
   .attribute ⟨[], 3⟩ ⟨['b'], 4⟩ ⟨['1'], 7⟩ ⟨[':', 'b', '=', '\'', '1', '\''], 3⟩,
   .elementEnd .empty ⟨['/', '>'], 9⟩]

def colonEndTagTokens : List Token :=
  [.elementStart ⟨[], 0⟩ ⟨['a'], 1⟩ ⟨['<', 'a'], 0⟩, .elementEnd .open ⟨['>'], 2⟩,
   .elementEnd (.close ⟨[], 5⟩ ⟨['a'], 6⟩) ⟨['<', '/', ':', 'a', '>'], 3⟩]

theorem lex_colonElement : lexDocument colonElementText = (colonElementTokens, none) := by decide +kernel

theorem lex_colonAttribute : lexDocument colonAttributeText = (colonAttributeTokens, none) := by decide +kernel

theorem lex_colonEndTag : lexDocument colonEndTagText = (colonEndTagTokens, none) := by decide +kernel

end XotModel.Witness
