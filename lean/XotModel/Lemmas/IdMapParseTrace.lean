/-
  C08 and parsing: the interning tables a parse leaves are the tables it started from after exactly the calls
  of `Builder.runRegs` (`Model/IdMapParse.lean`), for every token list, accepted or rejected; per function of
  the builder, with the registration trace of one token behind `check_qname` first.
-/
import XotModel.Model.IdMapParse
import XotModel.Lemmas.ParseOps
import XotModel.Lemmas.IdMapParse

/-! ## The trace of one token behind `check_qname`

  The registration trace of one token (`Builder.stepRegs`) behind
  `check_qname` (/repo a5fafb0): a refused name registers nothing; for a token that passes, the
  trace is the one of the arm (`stepRegsCore`: the trace of `Builder.stepCore`, the step without the check).
-/

namespace XotModel

/-- The registrations of an arm of `_parse` after `check_qname`. -/
def Builder.stepRegsCore (b : Builder) : Token → List Reg
  | .attribute pfx loc value _ =>
    if pfx.text == ['x', 'm', 'l', 'n', 's'] then prefixRegs loc.text value
    else if pfx.text.isEmpty && loc.text == ['x', 'm', 'l', 'n', 's'] then prefixRegs [] value
    else []
  | .elementEnd .open _ => b.openRegs
  | .elementEnd (.close pfx loc) _ => elementNameRegs b.env b.nsStack pfx.text loc.text
  | .elementEnd .empty _ => b.openRegs
  | .pi target _ _ => if isReservedPiTarget target.text then [] else [.name target.text Env.noNamespace]
  | _ => []

theorem Builder.stepRegs_eq_core (b : Builder) {t : Token} (h : t.prefixOk = true) :
    b.stepRegs t = b.stepRegsCore t := by
  cases t with
  | «attribute» pfx loc value sp =>
    simp only [Token.prefixOk, Bool.not_eq_true'] at h
    simp only [Builder.stepRegs, Builder.stepRegsCore, h, Bool.false_eq_true, if_false]
  | elementEnd e sp =>
    cases e with
    | close pfx loc =>
      simp only [Token.prefixOk, Bool.not_eq_true'] at h
      simp only [Builder.stepRegs, Builder.stepRegsCore, h, Bool.false_eq_true, if_false]
    | «open» => rfl
    | empty => rfl
  | _ => rfl

/-- Nothing is registered for a name `check_qname` refuses. -/
theorem Builder.stepRegs_refused (b : Builder) {t : Token} (h : t.prefixOk = false) :
    b.stepRegs t = [] := by
  cases t with
  | «attribute» pfx loc value sp =>
    simp only [Token.prefixOk, Bool.not_eq_false'] at h
    simp only [Builder.stepRegs, h, if_true]
  | elementStart pfx loc sp => rfl
  | elementEnd e sp =>
    cases e with
    | close pfx loc =>
      simp only [Token.prefixOk, Bool.not_eq_false'] at h
      simp only [Builder.stepRegs, h, if_true]
    | «open» => simp [Token.prefixOk] at h
    | empty => simp [Token.prefixOk] at h
  | _ => simp [Token.prefixOk] at h

end XotModel

/-! ## The tables after each function of the builder

  Accepted (`.ok`) or rejected (`.err`, which carries the tables as the failing call left them).
  Each statement says: whatever result carries tables, those tables are `regAll` of the function's trace
  (`Step.EnvIs`).  Nothing else of the builder state is looked at.
-/

namespace XotModel

/-- The interning tables a result carries — the state's after `.ok`, those recorded in `.err` — are `E`
    (a panic carries none). -/
def Step.EnvIs {α : Type} (env : α → Env) (E : Env) : Step α → Prop
  | .ok a => env a = E
  | .err _ env' => env' = E
  | .panic => True

theorem Step.EnvIs.of_ok {α : Type} {env : α → Env} {E : Env} {r : Step α} (h : r.EnvIs env E) {a : α}
    (hr : r = .ok a) : env a = E := by
  subst hr; exact h

theorem Step.EnvIs.of_err {α : Type} {env : α → Env} {E : Env} {r : Step α} (h : r.EnvIs env E)
    {e : ParseErr} {env' : Env} (hr : r = .err e env') : env' = E := by
  subst hr; exact h

/-- The same for the result of a whole parse. -/
def BuildResult.EnvIs (E : Env) : BuildResult → Prop
  | .ok p => p.env = E
  | .err _ env' => env' = E
  | .panic => True

theorem BuildResult.EnvIs.of_ok {E : Env} {r : BuildResult} (h : r.EnvIs E) {p : Parsed} (hr : r = .ok p) :
    p.env = E := by
  subst hr; exact h

theorem BuildResult.EnvIs.of_err {E : Env} {r : BuildResult} (h : r.EnvIs E) {e : ParseErr} {env' : Env}
    (hr : r = .err e env') : env' = E := by
  subst hr; exact h

theorem Env.regAll_append_fst (e : Env) (a b : List Reg) :
    (e.regAll (a ++ b)).1 = ((e.regAll a).1.regAll b).1 := by
  rw [Env.regAll_append]

namespace IdParse

theorem elementNameId_ok {env env' : Env} {stack : NsStack} {p n : Str} {sp : Span} {id : Nat}
    (h : elementNameId env stack p n sp = .ok (env', id)) :
    ∃ ns, lookupPrefix stack (env.internPrefix p).2 = some ns ∧
      elementNameRegs env stack p n = [.pfx p, .name n ns] ∧
      env.regAll (elementNameRegs env stack p n) = (env', [(env.internPrefix p).2, id]) := by
  obtain ⟨ns, hns, h⟩ := BuilderCases.elementNameId_ok h
  refine ⟨ns, hns, by simp only [elementNameRegs, hns], ?_⟩
  simp only [elementNameRegs, hns, Env.regAll, Env.reg]
  rw [h]

theorem elementNameId_err {env env' : Env} {stack : NsStack} {p n : Str} {sp : Span} {e : ParseErr}
    (h : elementNameId env stack p n sp = .err e env') :
    (env.regAll (elementNameRegs env stack p n)).1 = env' := by
  rcases elementNameId_cases env stack p n sp with ⟨_, _, h'⟩ | ⟨hns, h'⟩
  · cases h'.symm.trans h
  · cases h'.symm.trans h
    simp only [elementNameRegs, hns, Env.regAll, Env.reg]

/-- The calls of `attribute_name_id` are those of `element_name_id`, except for an unprefixed attribute. -/
theorem attributeNameRegs_eq (env : Env) (stack : NsStack) (p n : Str) :
    attributeNameRegs env stack p n =
      if (env.internPrefix p).2 == Env.emptyPrefix then [.pfx p, .name n Env.noNamespace]
      else elementNameRegs env stack p n := by
  unfold attributeNameRegs elementNameRegs
  split <;> rfl

theorem attributeNameId_ok {env env' : Env} {stack : NsStack} {p n : Str} {sp : Span} {id : Nat}
    (h : attributeNameId env stack p n sp = .ok (env', id)) :
    ∃ ns, attributeNameRegs env stack p n = [.pfx p, .name n ns] ∧
      (ns = Env.noNamespace ∨ lookupPrefix stack (env.internPrefix p).2 = some ns) ∧
      env.regAll (attributeNameRegs env stack p n) = (env', [(env.internPrefix p).2, id]) := by
  rw [attributeNameId_eq] at h
  rw [attributeNameRegs_eq]
  split at h
  · next h0 =>
    rw [if_pos h0]
    refine ⟨Env.noNamespace, rfl, Or.inl rfl, ?_⟩
    simp only [Env.regAll, Env.reg]
    rw [Step.ok.inj h]
  · next h0 =>
    rw [if_neg h0]
    obtain ⟨ns, hns, hr, hall⟩ := elementNameId_ok h
    exact ⟨ns, hr, Or.inr hns, hall⟩

theorem attributeNameId_err {env env' : Env} {stack : NsStack} {p n : Str} {sp : Span} {e : ParseErr}
    (h : attributeNameId env stack p n sp = .err e env') :
    (env.regAll (attributeNameRegs env stack p n)).1 = env' := by
  rw [attributeNameId_eq] at h
  rw [attributeNameRegs_eq]
  split at h
  · cases h
  · next h0 => rw [if_neg h0]; exact elementNameId_err h

theorem addAttributes_cons (stack : NsStack) (node : Path) (st : AttrLoop) (ab : AttributeBuilder)
    (rest : List AttributeBuilder) :
    addAttributes stack node st (ab :: rest) =
      match addAttributes stack node st [ab] with
      | .ok st1 => addAttributes stack node st1 rest
      | .err e env => .err e env
      | .panic => .panic := by
  rw [addAttributes, addAttributes]
  cases attributeNameId st.env stack ab.pfx ab.name ab.prefixSpan with
  | panic => rfl
  | err e env => rfl
  | ok r =>
    dsimp only
    by_cases h1 : st.seenNames.contains r.2 = true
    · rw [if_pos h1, if_pos h1]
    · rw [if_neg h1, if_neg h1]
      by_cases h2 : (r.2 == Env.xmlIdName && st.seenIds.contains (xmlIdValue r.2 ab.value)) = true
      · rw [if_pos h2, if_pos h2]
      · rw [if_neg h2, if_neg h2, addAttributes]

/-- One turn of the loop, by its result: a turn that goes on has resolved the attribute's name, keeps the
    tables of that call and puts the attribute node in front of the children; a turn that fails leaves the
    tables as the name resolution left them. -/
theorem addAttributes_one_cases (stack : NsStack) (node : Path) (st : AttrLoop) (ab : AttributeBuilder) :
    match addAttributes stack node st [ab] with
    | .ok st1 => ∃ nameId, attributeNameId st.env stack ab.pfx ab.name ab.prefixSpan = .ok (st1.env, nameId) ∧
        st1.rkids = .node (.attribute nameId (xmlIdValue nameId ab.value)) [] :: st.rkids
    | .err _ env' => (∃ e, attributeNameId st.env stack ab.pfx ab.name ab.prefixSpan = .err e env') ∨
        ∃ nameId, attributeNameId st.env stack ab.pfx ab.name ab.prefixSpan = .ok (env', nameId)
    | .panic => True := by
  rw [addAttributes]
  cases attributeNameId st.env stack ab.pfx ab.name ab.prefixSpan with
  | panic => trivial
  | err e env => exact Or.inl ⟨e, rfl⟩
  | ok r =>
    dsimp only
    by_cases h1 : st.seenNames.contains r.2 = true
    · rw [if_pos h1]; exact Or.inr ⟨r.2, rfl⟩
    · rw [if_neg h1]
      by_cases h2 : (r.2 == Env.xmlIdName && st.seenIds.contains (xmlIdValue r.2 ab.value)) = true
      · rw [if_pos h2]; exact Or.inr ⟨r.2, rfl⟩
      · rw [if_neg h2, addAttributes]; exact ⟨r.2, rfl, rfl⟩

theorem addAttributes_one_ok {stack : NsStack} {node : Path} {st st1 : AttrLoop} {ab : AttributeBuilder}
    (h : addAttributes stack node st [ab] = .ok st1) :
    ∃ env1 nameId, attributeNameId st.env stack ab.pfx ab.name ab.prefixSpan = .ok (env1, nameId) ∧
      st1.rkids = .node (.attribute nameId (xmlIdValue nameId ab.value)) [] :: st.rkids := by
  have := addAttributes_one_cases stack node st ab
  rw [h] at this
  obtain ⟨nameId, hn, hk⟩ := this
  exact ⟨_, nameId, hn, hk⟩

/-- One turn of the loop: the tables it leaves. -/
theorem addAttributes_one (stack : NsStack) (node : Path) (st : AttrLoop) (ab : AttributeBuilder) :
    (addAttributes stack node st [ab]).EnvIs AttrLoop.env
      (st.env.regAll (attributeNameRegs st.env stack ab.pfx ab.name)).1 := by
  have := addAttributes_one_cases stack node st ab
  cases h : addAttributes stack node st [ab] with
  | panic => trivial
  | ok st1 =>
    rw [h] at this
    obtain ⟨nameId, hn, _⟩ := this
    obtain ⟨_, _, _, hall⟩ := attributeNameId_ok hn
    rw [hall]; rfl
  | err e env' =>
    rw [h] at this
    rcases this with ⟨e', hn⟩ | ⟨nameId, hn⟩
    · exact (attributeNameId_err hn).symm
    · obtain ⟨_, _, _, hall⟩ := attributeNameId_ok hn
      rw [hall]; rfl

theorem addAttributes_trace (stack : NsStack) (node : Path) (abs : List AttributeBuilder) :
    ∀ (st : AttrLoop),
      (addAttributes stack node st abs).EnvIs AttrLoop.env (st.env.regAll (attrsRegs stack node st abs)).1 := by
  induction abs with
  | nil => intro st; rfl
  | cons ab rest ih =>
    intro st
    have h1 := addAttributes_one stack node st ab
    rw [addAttributes_cons, attrsRegs, Env.regAll_append_fst]
    cases hone : addAttributes stack node st [ab] with
    | panic => trivial
    | err e env => exact h1.of_err hone
    | ok st1 => rw [← h1.of_ok hone]; exact ih st1

theorem openElement_trace (b : Builder) : b.openElement.EnvIs Builder.env (b.env.regAll b.openRegs).1 := by
  unfold Builder.openElement Builder.openRegs
  cases heb : b.eb with
  | none => trivial
  | some eb =>
    dsimp only
    rw [Env.regAll_append_fst]
    cases hn : elementNameId b.env (eb.namespaces :: b.nsStack) eb.pfx eb.name eb.prefixSpan with
    | panic => trivial
    | err e env => exact (elementNameId_err hn).symm
    | ok r =>
      obtain ⟨env1, nameId⟩ := r
      obtain ⟨ns, _, _, hall⟩ := elementNameId_ok hn
      rw [hall]
      have ha := addAttributes_trace (eb.namespaces :: b.nsStack) (b.curPath ++ [b.cur.rkids.length])
        eb.attributes
          { env := env1, seenIds := b.seenIds, idNodes := b.idNodes, seenNames := [],
            rkids := namespaceKids eb.namespaces, aspans := [] }
      dsimp only
      split
      · trivial
      next e env hp => exact ha.of_err hp
      next st hp => exact ha.of_ok hp

/-- An accepted `open_element`: a start tag was being read, its name resolved (with the tag's own
    declarations on top of the stack), the attribute loop went through; the new current node is the element
    with the children the loop built, and the frame left becomes a parent. -/
theorem openElement_ok {b b' : Builder} (hr : b.openElement = .ok b') :
    ∃ eb env1 nameId st, b.eb = some eb ∧
      elementNameId b.env (eb.namespaces :: b.nsStack) eb.pfx eb.name eb.prefixSpan = .ok (env1, nameId) ∧
      addAttributes (eb.namespaces :: b.nsStack) (b.curPath ++ [b.cur.rkids.length])
        { env := env1, seenIds := b.seenIds, idNodes := b.idNodes, seenNames := [],
          rkids := namespaceKids eb.namespaces, aspans := [] } eb.attributes = .ok st ∧
      b.openRegs = elementNameRegs b.env (eb.namespaces :: b.nsStack) eb.pfx eb.name ++
        attrsRegs (eb.namespaces :: b.nsStack) (b.curPath ++ [b.cur.rkids.length])
          { env := env1, seenIds := b.seenIds, idNodes := b.idNodes, seenNames := [],
            rkids := namespaceKids eb.namespaces, aspans := [] } eb.attributes ∧
      b'.cur = ⟨.element nameId, st.rkids⟩ ∧ b'.parents = b.cur :: b.parents ∧ b'.eb = none := by
  obtain ⟨eb, env1, nameId, st, heb, hn, hst, rfl⟩ := Builder.openElement_ok_inv hr
  refine ⟨eb, env1, nameId, st, heb, hn, hst, ?_, rfl, rfl, rfl⟩
  unfold Builder.openRegs
  rw [heb]
  simp only [hn]

theorem prefix_trace (b : Builder) (p : Str) (u : StrSpan) (sp : Span) :
    (b.prefix p u sp).EnvIs Builder.env (b.env.regAll (prefixRegs p u)).1 := by
  unfold Builder.prefix prefixRegs
  cases parseContentGo true u.start 0 u.text with
  | error e => rfl
  | ok us =>
    dsimp only
    split
    · rfl
    · cases b.eb with
      | none => trivial
      | some eb =>
        dsimp only
        split <;> rfl

theorem toParent_env (b : Builder) : b.toParent.EnvIs Builder.env b.env := by
  unfold Builder.toParent
  split
  · trivial
  · rfl

theorem leave_env (b : Builder) (node : Path) (sp : StrSpan) : (b.leave node sp).EnvIs Builder.env b.env := by
  have h := toParent_env b
  unfold Builder.leave
  split
  next b2 ht => exact (h.of_ok ht : b2.env = b.env)
  next r _ => exact h

theorem closeImmediate_env (b : Builder) (sp : StrSpan) : (b.closeImmediate sp).EnvIs Builder.env b.env := by
  unfold Builder.closeImmediate
  dsimp only
  split
  · exact leave_env _ b.curPath sp
  · exact leave_env b b.curPath sp

theorem closeElement_trace (b : Builder) (pfx loc sp : StrSpan) :
    (b.closeElement pfx loc sp).EnvIs Builder.env
      (b.env.regAll (elementNameRegs b.env b.nsStack pfx.text loc.text)).1 := by
  unfold Builder.closeElement
  cases hn : elementNameId b.env b.nsStack pfx.text loc.text pfx.span with
  | panic => trivial
  | err e env => exact (elementNameId_err hn).symm
  | ok r =>
    obtain ⟨env1, nameId⟩ := r
    obtain ⟨ns, _, _, hall⟩ := elementNameId_ok hn
    rw [hall]
    dsimp only
    split
    · rfl
    · split
      · split
        · rfl
        · exact leave_env _ b.curPath sp
      · exact leave_env _ b.curPath sp

theorem attribute_env (b : Builder) (pfx loc value : StrSpan) :
    (b.attribute pfx loc value).EnvIs Builder.env b.env := by
  unfold Builder.attribute
  cases b.eb with
  | none => trivial
  | some eb =>
    dsimp only
    split
    · rfl
    · split <;> rfl

theorem text_env (b : Builder) (t : StrSpan) : (b.text t).EnvIs Builder.env b.env := by
  unfold Builder.text
  split
  · rfl
  · exact addText_env b _

theorem cdata_env (b : Builder) (t : StrSpan) : (b.cdata t).EnvIs Builder.env b.env := by
  unfold Builder.cdata
  split
  · rfl
  · exact addText_env b _

theorem processingInstruction_env (b : Builder) (target : StrSpan) (content : Option StrSpan) :
    (b.processingInstruction target content).env = (b.env.internName target.text Env.noNamespace).1 :=
  rfl

/-- One arm (after `check_qname`). -/
theorem stepCore_trace (b : Builder) (t : Token) :
    (b.stepCore t).EnvIs Builder.env (b.env.regAll (b.stepRegsCore t)).1 := by
  cases t with
  | «attribute» pfx loc value sp =>
    simp only [Builder.stepCore, Builder.stepRegsCore]
    split
    · exact prefix_trace b _ _ _
    · split
      · exact prefix_trace b _ _ _
      · exact attribute_env b pfx loc value
  | text t => exact text_env b t
  | cdata t sp => exact cdata_env b t
  | elementEnd ee sp =>
    cases ee with
    | «open» => exact openElement_trace b
    | close pfx loc => exact closeElement_trace b pfx loc sp
    | empty =>
      have ho := openElement_trace b
      simp only [Builder.stepCore, Builder.stepRegsCore]
      split
      next b1 hb => rw [← ho.of_ok hb]; exact closeImmediate_env b1 sp
      next r _ => exact ho
  | pi target content sp =>
    simp only [Builder.stepCore, Builder.stepRegsCore]
    split <;> rfl
  | declaration version enc sa sp =>
    simp only [Builder.stepCore, Builder.stepRegsCore]
    split <;> rfl
  | _ => rfl

/-- One token: whatever result carries tables, they are the tables before after the token's calls
    (a name refused by `check_qname` registers nothing and leaves the tables alone). -/
theorem step_trace (b : Builder) (t : Token) : (b.step t).EnvIs Builder.env (b.env.regAll (b.stepRegs t)).1 := by
  cases hq : t.prefixOk with
  | true =>
    rw [b.step_eq_core hq, b.stepRegs_eq_core hq]
    exact stepCore_trace b t
  | false =>
    obtain ⟨p, l, _, _, he⟩ := b.step_refused hq
    rw [he, b.stepRegs_refused hq]
    rfl

theorem run_trace (ts : List Token) (lexErr : Option Nat) : ∀ (b : Builder),
    (b.run ts lexErr).EnvIs Builder.env (b.env.regAll (b.runRegs ts)).1 := by
  induction ts with
  | nil =>
    intro b
    cases lexErr with
    | none =>
      simp only [Builder.run]
      split <;> rfl
    | some pos => rfl
  | cons t ts ih =>
    intro b
    have hs := step_trace b t
    rw [Builder.run, Builder.runRegs, Env.regAll_append_fst]
    split
    next b1 hb => rw [hb, ← hs.of_ok hb]; exact ih b1
    next r hr =>
      cases hb : b.step t with
      | ok b1 => exact absurd hb (hr b1)
      | err e env => exact hs.of_err hb
      | panic => trivial

theorem finish_env (m : Mode) (len : Nat) (b : Builder) :
    (match m with | .document => b.finishDocument len | .fragment => b.finishFragment).EnvIs b.env := by
  have hu : b.unclosed.EnvIs b.env := by
    unfold Builder.unclosed
    split
    · rfl
    · trivial
  cases m with
  | document =>
    simp only [Builder.finishDocument]
    split
    · split
      · trivial
      · rfl
      · split
        · rfl
        · rfl
        · split
          · rfl
          · trivial
    · exact hu
  | fragment =>
    simp only [Builder.finishFragment]
    split
    · rfl
    · exact hu

/-- `parse` / `parse_fragment`: accepted or rejected, the tables left behind are the tables at the
    outset after exactly the calls `buildRegs env ts`. -/
theorem build_trace (m : Mode) (len : Nat) (env : Env) (ts : List Token) (lexErr : Option Nat) :
    (build m len env ts lexErr).EnvIs (env.regAll (buildRegs env ts)).1 := by
  have hr : ((Builder.new env).run ts lexErr).EnvIs Builder.env (env.regAll ((Builder.new env).runRegs ts)).1 :=
    run_trace ts lexErr (Builder.new env)
  unfold build buildRegs
  cases hb : (Builder.new env).run ts lexErr with
  | panic => trivial
  | err e env1 => exact hr.of_err hb
  | ok b => rw [← hr.of_ok hb]; exact finish_env m len b

end IdParse
end XotModel
