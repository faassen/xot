/-
  The stream primitives of the reference tokenizer evaluated on text of a known shape `a ++ r` (the
  piece they are meant to consume, then anything that stops them: `Stops`), and on them the token
  parsers for the token kinds without layout freedom (start-tag name, text, CDATA, comment): on the
  canonical spelling of a token that meets `Token.lexOK` they return the token re-positioned
  (`Token.place`) and stop exactly before `r`.
-/
import XotModel.Model.Lex
import XotModel.Lemmas.LexCanonDefs

/-! ### The stream primitives on text of a known shape

  `Stops f r`: the text `r` does not begin with a character satisfying `f`.
-/

namespace XotModel.Lex.Canon

open XotModel.Lex XotModel.Lex.Stream

/-- `r` is empty or begins with a character on which `f` is false. -/
def Stops (f : Char → Bool) (r : Str) : Prop := ∀ c, r.head? = some c → f c = false

theorem Stops.nil (f : Char → Bool) : Stops f [] := by intro c h; simp at h

theorem Stops.cons {f : Char → Bool} {c : Char} (r : Str) (h : f c = false) : Stops f (c :: r) := by
  intro d hd; simp at hd; subst hd; exact h

theorem adv_app (pos : Nat) (a r : Str) (k : Nat) (hk : k = a.length) :
    (Stream.mk pos (a ++ r)).adv k = ⟨pos + strLen a, r⟩ := by
  subst hk; simp [adv]

theorem adv_one (pos : Nat) (c : Char) (r : Str) :
    (Stream.mk pos (c :: r)).adv 1 = ⟨pos + utf8Len c, r⟩ := by
  simp [adv, strLen]

theorem sliceBack_app (p q : Nat) (a r : Str) : sliceBack ⟨p, a ++ r⟩ ⟨q, r⟩ = ⟨a, p⟩ := by
  simp [sliceBack]

theorem takeWhile_app_stop {f : Char → Bool} {a r : Str} (ha : a.all f = true) (hr : Stops f r) :
    (a ++ r).takeWhile f = a := by
  rw [List.takeWhile_append_of_pos (List.all_eq_true.mp ha)]
  cases r with
  | nil => simp
  | cons c cs => rw [List.takeWhile_cons_of_neg (by simp [hr c rfl]), List.append_nil]

theorem skipBytes_app {f : Char → Bool} (pos : Nat) {a r : Str} (ha : a.all f = true)
    (hr : Stops f r) : skipBytes f ⟨pos, a ++ r⟩ = ⟨pos + strLen a, r⟩ := by
  simp only [skipBytes, takeWhile_app_stop ha hr]
  exact adv_app pos a r _ rfl

theorem skipSpaces_stop (pos : Nat) {r : Str} (hr : Stops isXmlSpace r) :
    skipSpaces ⟨pos, r⟩ = ⟨pos, r⟩ := by
  have := skipBytes_app (f := isXmlSpace) pos (a := []) (by simp) hr
  simpa [skipSpaces, strLen] using this

/-! ### `skip_chars` -/

/-- `skip_chars(|_, c| g c)` over characters that all pass, up to a stopper. -/
theorem scanChars_simple {g : Char → Bool} {a r : Str}
    (ha : a.all (fun c => isXmlChar c && g c) = true)
    (hr : r = [] ∨ ∃ c cs, r = c :: cs ∧ isXmlChar c = true ∧ g c = false) :
    scanChars (fun _ c => g c) (a ++ r) = some a.length := by
  have hx : a.all isXmlChar = true := by
    rw [List.all_eq_true] at ha ⊢
    exact fun c hc => (Bool.and_eq_true_iff.mp (ha c hc)).1
  rw [scanChars_app (fun u c v e => (Bool.and_eq_true_iff.mp
    (List.all_eq_true.mp ha c (by rw [e]; simp))).2) hr, hx]
  rfl

/-! ### Scanning for a closing literal (`-->`, `]]>`, `?>`) -/

theorem hasInfix_false {p a : Str} (h : hasInfix p a = false) :
    ∀ u v, a = u ++ v → p.isPrefixOf v = false := by
  induction a with
  | nil =>
    intro u v e
    obtain ⟨rfl, rfl⟩ := List.append_eq_nil_iff.mp e.symm
    cases p with
    | nil => cases h
    | cons => rfl
  | cons c cs ih =>
    simp only [hasInfix, Bool.or_eq_false_iff] at h
    intro u v e
    cases u with
    | nil => rw [← show c :: cs = v from e]; exact h.1
    | cons u0 u => rw [List.cons_append, List.cons.injEq] at e; exact ih h.2 u v e.2

theorem hasInfix_of_prefix {p q a : Str} (hpq : p <+: q) (h : hasInfix p a = false) :
    hasInfix q a = false := by
  induction a with
  | nil =>
    cases p with
    | nil => cases h
    | cons => cases q with
      | nil => cases List.prefix_nil.mp hpq
      | cons => rfl
  | cons c cs ih =>
    simp only [hasInfix, Bool.or_eq_false_iff] at h ⊢
    refine ⟨?_, ih h.2⟩
    cases hq : q.isPrefixOf (c :: cs) with
    | false => rfl
    | true =>
      rw [← h.1]
      exact (List.isPrefixOf_iff_prefix.mpr (hpq.trans (List.isPrefixOf_iff_prefix.mp hq))).symm

/-- No proper non-empty end of `lit` begins `lit`: two occurrences of `lit` cannot overlap. -/
def Unbordered (lit : Str) : Prop :=
  ∀ n, n < lit.length → 0 < n → (lit.drop n).isPrefixOf lit = false

theorem unbordered_commentClose : Unbordered litCommentClose := by unfold Unbordered; decide
theorem unbordered_cdataClose : Unbordered litCdataClose := by unfold Unbordered; decide
theorem unbordered_piClose : Unbordered litPiClose := by unfold Unbordered; decide

/-- An occurrence of `lit` that begins inside `v`, in front of an occurrence of `lit`, lies within
    `v`. -/
theorem isPrefixOf_overlap {lit v r : Str} (hb : Unbordered lit) (hv : v ≠ [])
    (h : lit.isPrefixOf (v ++ (lit ++ r)) = true) : lit.isPrefixOf v = true := by
  rw [List.isPrefixOf_iff_prefix] at h ⊢
  rcases Nat.lt_or_ge v.length lit.length with hl | hl
  · exfalso
    -- `v` is a proper beginning of `lit`; what is left of `lit` then begins `lit ++ r`, hence `lit`
    obtain ⟨w, rfl⟩ := List.prefix_of_prefix_length_le (List.prefix_append _ _) h (Nat.le_of_lt hl)
    have hw : w <+: (v ++ w) ++ r := (List.prefix_append_right_inj v).mp h
    have hw' : w <+: v ++ w := List.prefix_of_prefix_length_le hw (List.prefix_append _ _) (by simp)
    have := hb v.length (by simpa using List.length_pos_iff.mpr (fun e : w = [] => by simp [e] at hl))
      (List.length_pos_iff.mpr hv)
    rw [List.drop_left, ← Bool.not_eq_true, List.isPrefixOf_iff_prefix] at this
    exact this hw'
  · exact List.prefix_of_prefix_length_le h (List.prefix_append _ _) hl

/-- The scan for a closing literal that cannot overlap itself, over a body `a` that does not
    contain it: it stops exactly at the literal behind `a`. -/
theorem scanChars_close {c0 : Char} {lit a r : Str} (hb : Unbordered lit) (hl : ∃ t, lit = c0 :: t)
    (hx : isXmlChar c0 = true) (h : hasInfix lit a = false) :
    scanChars (fun r c => !(c == c0 && lit.isPrefixOf r)) (a ++ (lit ++ r)) =
      if a.all isXmlChar then some a.length else none := by
  obtain ⟨t, rfl⟩ := hl
  refine scanChars_app (fun u c v e => ?_) (.inr ⟨c0, t ++ r, rfl, hx, ?_⟩)
  · cases hp : (c0 :: t).isPrefixOf (c :: (v ++ (c0 :: t ++ r))) with
    | false => simp
    | true =>
      have := isPrefixOf_overlap hb (v := c :: v) (List.cons_ne_nil _ _) hp
      rw [hasInfix_false h u (c :: v) e] at this
      cases this
  · simp

theorem skipChars_of_scan {f : Str → Char → Bool} (pos : Nat) {a r : Str}
    (h : scanChars f (a ++ r) = some a.length) :
    skipChars f ⟨pos, a ++ r⟩ = some ⟨pos + strLen a, r⟩ := by
  simp only [skipChars, h, Option.map_some]
  rw [adv_app pos a r _ rfl]

theorem skipChars_close (pos : Nat) {c0 : Char} {lit a r : Str} (hb : Unbordered lit)
    (hl : ∃ t, lit = c0 :: t) (hx : isXmlChar c0 = true) (ha : a.all isXmlChar = true)
    (h : hasInfix lit a = false) :
    skipChars (fun r c => !(c == c0 && lit.isPrefixOf r)) ⟨pos, a ++ (lit ++ r)⟩ =
      some ⟨pos + strLen a, lit ++ r⟩ :=
  skipChars_of_scan pos ((scanChars_close hb hl hx h).trans (by rw [ha]; rfl))

/-! ### Names -/

theorem isNameChar_colon : isNameChar ':' = true := by decide

theorem qnameLoop_nc {x r : Str} {k : Nat} {sp : Option Nat}
    (hx : x.all (fun c => isNameChar c && c != ':') = true) :
    qnameLoop (x ++ r) k sp = qnameLoop r (k + x.length) sp := by
  induction x generalizing k with
  | nil => simp
  | cons c cs ih =>
    simp only [List.all_cons, Bool.and_eq_true, bne_iff_ne, ne_eq] at hx
    have hc : (c == ':') = false := by simpa using hx.1.2
    simp only [List.cons_append, qnameLoop, hc, Bool.false_eq_true, if_false, hx.1.1, if_true,
      List.length_cons]
    rw [ih (by simpa using hx.2)]
    congr 1; omega

theorem qnameLoop_stop {r : Str} {k : Nat} {sp : Option Nat} (hr : Stops isNameChar r) :
    qnameLoop r k sp = some (k, sp) := by
  cases r with
  | nil => rfl
  | cons c cs =>
    have h := hr c rfl
    have hc : (c == ':') = false := by
      cases hcc : c == ':'
      · rfl
      · have : c = ':' := by simpa using hcc
        rw [this, isNameChar_colon] at h; cases h
    simp [qnameLoop, hc, h]

theorem ncNameOK_all {s : Str} (h : ncNameOK s = true) :
    s.all (fun c => isNameChar c && c != ':') = true := by
  simp only [ncNameOK, Bool.and_eq_true] at h; exact h.1

theorem ncNameOK_start {c : Char} {cs : Str} (h : ncNameOK (c :: cs) = true) : isNameStart c = true := by
  simp only [ncNameOK, Bool.and_eq_true] at h; exact h.2

/-- `consume_qname` on a canonical `prefix:local` followed by a non-name character. -/
theorem consumeQName_app (pos : Nat) {p l r : Str} (h : qnameOK p l = true)
    (hr : Stops isNameChar r) :
    consumeQName ⟨pos, tokQName p l ++ r⟩ =
      some ((placeQName pos p l).1, (placeQName pos p l).2, ⟨pos + strLen (tokQName p l), r⟩) := by
  simp only [qnameOK, Bool.and_eq_true, Bool.not_eq_true', List.isEmpty_eq_false_iff] at h
  obtain ⟨⟨hp, hl⟩, hne⟩ := h
  obtain ⟨lc, ls, rfl⟩ := List.exists_cons_of_ne_nil hne
  have hls := ncNameOK_start hl
  cases p with
  | nil =>
    have e : qnameLoop ((lc :: ls) ++ r) 0 none = some ((lc :: ls).length, none) := by
      rw [qnameLoop_nc (ncNameOK_all hl), qnameLoop_stop hr]; simp
    simp only [tokQName, List.isEmpty_nil, if_true, placeQName]
    unfold consumeQName
    simp only [e]
    rw [adv_app pos (lc :: ls) r _ rfl, sliceBack_app]
    simp [startsName, emptySpan, hls]
  | cons pc ps =>
    have hps := ncNameOK_start hp
    have e : qnameLoop ((pc :: ps) ++ (':' :: ((lc :: ls) ++ r))) 0 none =
        some ((pc :: ps).length + 1 + (lc :: ls).length, some (pc :: ps).length) := by
      rw [qnameLoop_nc (ncNameOK_all hp)]
      simp only [qnameLoop, beq_self_eq_true, if_true, Nat.zero_add]
      rw [qnameLoop_nc (ncNameOK_all hl), qnameLoop_stop hr]
    have sh : tokQName (pc :: ps) (lc :: ls) ++ r = (pc :: ps) ++ (':' :: ((lc :: ls) ++ r)) := by
      simp [tokQName]
    have sh2 : (pc :: ps) ++ (':' :: ((lc :: ls) ++ r)) = ((pc :: ps) ++ [':']) ++ ((lc :: ls) ++ r) := by
      simp
    have len1 : strLen ((pc :: ps) ++ [':']) = strLen (pc :: ps) + 1 := by
      rw [strLen_app]; simp [strLen, show utf8Len ':' = 1 by decide]
    have len2 : strLen (tokQName (pc :: ps) (lc :: ls)) = strLen (pc :: ps) + 1 + strLen (lc :: ls) := by
      have : tokQName (pc :: ps) (lc :: ls) = ((pc :: ps) ++ [':']) ++ (lc :: ls) := by simp [tokQName]
      rw [this, strLen_app, len1]
    rw [sh]
    unfold consumeQName
    simp only [e]
    have a1 : (Stream.mk pos ((pc :: ps) ++ (':' :: ((lc :: ls) ++ r)))).adv (pc :: ps).length =
        ⟨pos + strLen (pc :: ps), ':' :: ((lc :: ls) ++ r)⟩ := adv_app _ _ _ _ rfl
    have a2 : (Stream.mk pos ((pc :: ps) ++ (':' :: ((lc :: ls) ++ r)))).adv ((pc :: ps).length + 1) =
        ⟨pos + strLen (pc :: ps) + 1, (lc :: ls) ++ r⟩ := by
      rw [sh2, adv_app pos _ _ _ (by simp), len1]; rfl
    have a3 : (Stream.mk pos ((pc :: ps) ++ (':' :: ((lc :: ls) ++ r)))).adv
        ((pc :: ps).length + 1 + (lc :: ls).length) = ⟨pos + strLen (tokQName (pc :: ps) (lc :: ls)), r⟩ := by
      rw [← sh, adv_app pos _ _ _ (by simp [tokQName]; omega)]
    rw [a1, a2, a3, sliceBack_app, sliceBack_app]
    simp [startsName, hps, hls, placeQName]

theorem nameOK_cons {s : Str} (h : nameOK s = true) :
    ∃ c cs, s = c :: cs ∧ isNameStart c = true ∧ cs.all isNameChar = true := by
  cases s with
  | nil => simp [nameOK] at h
  | cons c cs =>
    simp only [nameOK, Bool.and_eq_true] at h
    exact ⟨c, cs, rfl, h.1, h.2⟩

/-- `consume_name` on a name followed by a non-name character. -/
theorem consumeName_app (pos : Nat) {t r : Str} (h : nameOK t = true) (hr : Stops isNameChar r) :
    consumeName ⟨pos, t ++ r⟩ = some (⟨t, pos⟩, ⟨pos + strLen t, r⟩) := by
  obtain ⟨c, cs, rfl, hc, hcs⟩ := nameOK_cons h
  have e : skipName ⟨pos, (c :: cs) ++ r⟩ = some ⟨pos + strLen (c :: cs), r⟩ := by
    simp only [skipName, List.cons_append, hc, if_true, takeWhile_app_stop hcs hr]
    rw [show c :: (cs ++ r) = (c :: cs) ++ r from rfl, adv_app pos (c :: cs) r _ (by simp; omega)]
  unfold consumeName
  simp only [e, sliceBack_app]
  simp

end XotModel.Lex.Canon

/-! ### The token parsers without layout freedom

  The other kinds: Lemmas/LexFreeStep.lean.
-/

namespace XotModel.Lex.Canon

open XotModel.Lex XotModel.Lex.Stream

theorem utf8Len_ascii {c : Char} (h : c.toNat < 0x80) : utf8Len c = 1 := by
  simp [utf8Len, h]

theorem stops_name_of {c : Char} (r : Str) (h : isNameChar c = false) : Stops isNameChar (c :: r) :=
  Stops.cons r h

theorem sliceBack_eq {a b : Stream} (x : Str) (h : a.rest = x ++ b.rest) :
    sliceBack a b = ⟨x, a.pos⟩ := by
  cases a; cases b; simp only at h; subst h; exact sliceBack_app _ _ _ _

theorem parseElementStart_app (pos : Nat) (p l sp : StrSpan) (r : Str)
    (h : qnameOK p.text l.text = true) (hr : Stops isNameChar r) :
    parseElementStart ⟨pos, renderToken (.elementStart p l sp) ++ r⟩ =
      some ((Token.elementStart p l sp).place pos,
        ⟨pos + strLen (renderToken (.elementStart p l sp)), r⟩) := by
  have hs : renderToken (.elementStart p l sp) = ['<'] ++ tokQName p.text l.text := rfl
  rw [hs, List.append_assoc]
  simp only [parseElementStart, adv_app pos ['<'] _ 1 rfl, Option.bind_eq_bind,
    consumeQName_app _ h hr, Option.bind_some]
  rw [sliceBack_eq (['<'] ++ tokQName p.text l.text) (by simp)]
  simp only [Token.place, strLen_app, Nat.add_assoc]
  rfl

theorem curr?_cons (p : Nat) (c : Char) (r : Str) : (Stream.mk p (c :: r)).curr? = some c := rfl

theorem consumeByte_self (c : Char) (p : Nat) (r : Str) :
    consumeByte c ⟨p, c :: r⟩ = some ⟨p + utf8Len c, r⟩ := by
  simp [consumeByte, curr?, adv_one]

theorem consumeQuote_dq (p : Nat) (r : Str) : consumeQuote ⟨p, '"' :: r⟩ = some ('"', ⟨p + 1, r⟩) := by
  simp [consumeQuote, curr?, adv_one, show utf8Len '"' = 1 from by decide]

theorem consumeEq_eq (p : Nat) (r : Str) (hr : Stops isXmlSpace r) :
    consumeEq ⟨p, '=' :: r⟩ = some ⟨p + 1, r⟩ := by
  have h1 : Stops isXmlSpace ('=' :: r) := Stops.cons _ (by decide)
  simp [consumeEq, skipSpaces_stop _ h1, consumeByte_self, skipSpaces_stop _ hr,
    show utf8Len '=' = 1 from by decide]

theorem tokQName_head {p l : Str} (h : qnameOK p l = true) :
    ∃ c cs, tokQName p l = c :: cs ∧ isNameStart c = true := by
  simp only [qnameOK, Bool.and_eq_true, Bool.not_eq_true', List.isEmpty_eq_false_iff] at h
  obtain ⟨⟨hp, hl⟩, hne⟩ := h
  cases p with
  | nil =>
    obtain ⟨lc, ls, rfl⟩ := List.exists_cons_of_ne_nil hne
    exact ⟨lc, ls, by simp [tokQName], ncNameOK_start hl⟩
  | cons pc ps => exact ⟨pc, ps ++ ':' :: l, by simp [tokQName], ncNameOK_start hp⟩

theorem nameStart_not_space {c : Char} (h : isNameStart c = true) : isXmlSpace c = false := by
  cases hs : isXmlSpace c
  · rfl
  · simp only [isXmlSpace, Bool.or_eq_true, beq_iff_eq] at hs
    rcases hs with ((rfl | rfl) | rfl) | rfl <;> revert h <;> decide

theorem nameStart_ne {c d : Char} (h : isNameStart c = true) (hd : isNameStart d = false) : c ≠ d := by
  intro e; rw [e, hd] at h; cases h

/-! ### Character data, CDATA, comments -/

/-- What may follow a text token: nothing, or markup. -/
def StartsMarkup (r : Str) : Prop := r = [] ∨ ∃ cs, r = '<' :: cs

theorem parseText_app (pos : Nat) (t : StrSpan) (r : Str)
    (h : (Token.text t).lexOK = true) (hr : StartsMarkup r) :
    parseText ⟨pos, renderToken (.text t) ++ r⟩ =
      some ((Token.text t).place pos, ⟨pos + strLen (renderToken (.text t)), r⟩) := by
  simp only [Token.lexOK, Bool.and_eq_true, Bool.not_eq_true'] at h
  obtain ⟨⟨_, hall⟩, hinf⟩ := h
  have hr' : r = [] ∨ ∃ c cs, r = c :: cs ∧ isXmlChar c = true ∧ (fun c => c != '<') c = false := by
    rcases hr with rfl | ⟨cs, rfl⟩
    · exact .inl rfl
    · exact .inr ⟨'<', cs, rfl, by decide, by decide⟩
  have hscan := scanChars_simple (g := fun c => c != '<') (a := t.text) (r := r) hall hr'
  have e := skipChars_of_scan (f := fun _ c => c != '<') pos hscan
  simp only [renderToken, parseText, Option.bind_eq_bind, e, Option.bind_some, Token.place,
    sliceBack_app, litCdataClose, hinf, Bool.and_false, Bool.false_eq_true, if_false]

theorem skipString_app (lit : Str) (p : Nat) (r : Str) :
    skipString lit ⟨p, lit ++ r⟩ = some ⟨p + strLen lit, r⟩ := by
  have : lit.isPrefixOf (lit ++ r) = true := by
    rw [List.isPrefixOf_iff_prefix]; exact List.prefix_append lit r
  simp only [skipString, startsWith, this, if_true, adv_app p lit r _ rfl]

theorem parseCdata_app (pos : Nat) (t sp : StrSpan) (r : Str) (h : (Token.cdata t sp).lexOK = true) :
    parseCdata ⟨pos, renderToken (.cdata t sp) ++ r⟩ =
      some ((Token.cdata t sp).place pos, ⟨pos + strLen (renderToken (.cdata t sp)), r⟩) := by
  simp only [Token.lexOK, Bool.and_eq_true, Bool.not_eq_true'] at h
  have hr : renderToken (.cdata t sp) = litCdataOpen ++ (t.text ++ litCdataClose) := rfl
  rw [hr, List.append_assoc, List.append_assoc]
  simp only [parseCdata, Option.bind_eq_bind, adv_app pos litCdataOpen _ 9 rfl,
    skipChars_close _ unbordered_cdataClose ⟨_, rfl⟩ (by decide) h.1 h.2, Option.bind_some, skipString_app]
  rw [sliceBack_eq t.text rfl, sliceBack_eq (litCdataOpen ++ (t.text ++ litCdataClose)) (by simp)]
  simp only [Token.place, hr, strLen_app, Nat.add_assoc]
  rfl

theorem parseComment_app (pos : Nat) (t sp : StrSpan) (r : Str)
    (h : (Token.comment t sp).lexOK = true) :
    parseComment ⟨pos, renderToken (.comment t sp) ++ r⟩ =
      some ((Token.comment t sp).place pos, ⟨pos + strLen (renderToken (.comment t sp)), r⟩) := by
  simp only [Token.lexOK, Bool.and_eq_true, Bool.not_eq_true', bne_iff_ne, ne_eq] at h
  obtain ⟨⟨hall, hinf⟩, hlast⟩ := h
  have hinf : hasInfix litDashDash t.text = false := hinf
  have hl : (t.text.getLast? == some '-') = false := by simpa using hlast
  have hr : renderToken (.comment t sp) = litCommentOpen ++ (t.text ++ litCommentClose) := rfl
  rw [hr, List.append_assoc, List.append_assoc]
  -- no `--` inside, so no `-->` either
  simp only [parseComment, Option.bind_eq_bind, adv_app pos litCommentOpen _ 4 rfl,
    skipChars_close _ unbordered_commentClose ⟨_, rfl⟩ (by decide) hall
      (hasInfix_of_prefix ⟨['>'], rfl⟩ hinf),
    Option.bind_some, skipString_app, sliceBack_app, hinf, hl, Bool.false_eq_true, if_false]
  rw [sliceBack_eq (litCommentOpen ++ (t.text ++ litCommentClose)) (by simp)]
  simp only [Token.place, hr, strLen_app, Nat.add_assoc]
  rfl

end XotModel.Lex.Canon
