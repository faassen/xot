/-
  The C01 round trip on the widened domain (`PiColon.Representable`: a PI target may contain a colon) under the names
  `PiColon.C01_x`: each is `Props.C01_x_pi_colon` of Props/C01.lean.
-/
import XotModel.Props.C01

namespace XotModel.PiColon
open XotModel XotModel.Gen XotModel.Props

theorem C01_rendering_lexok (env : Env) (t : Tree) (hr : Representable env t = true)
    (ts : List Token) (h : serTokensTop env t = .ok ts) : LexOK false ts = true :=
  C01_rendering_lexok_pi_colon env t hr ts h

theorem C01_build (env : Env) (t : Tree) (hr : Representable env t = true) (ts : List Token)
    (h : serTokensTop env t = .ok ts) (len : Nat) :
    ∃ p, build .document len env ts none = .ok p ∧ p.tree = t ∧ p.env = env :=
  C01_build_pi_colon env t hr ts h len

theorem C01_build_fragment (env : Env) (t : Tree) (hr : RepresentableFragment env t = true)
    (ts : List Token) (h : serTokensTop env t = .ok ts) (len : Nat) :
    ∃ p, build .fragment len env ts none = .ok p ∧ p.tree = t ∧ p.env = env :=
  C01_build_fragment_pi_colon env t hr ts h len

theorem C01_main_identical (env : Env) (t : Tree) (hr : Representable env t = true)
    (lex : Str → List Token × Option Nat) (hlex : LexCanon false lex) (s : Str)
    (hs : toXmlString env t [] = .ok s) :
    ∃ ts p, lex s = (ts, none) ∧ build .document (strLen s) env ts none = .ok p ∧
      p.tree = t ∧ p.env = env :=
  C01_main_identical_pi_colon env t hr lex hlex s hs

theorem C01_serialises (env : Env) (t : Tree) (hr : RepresentableFragment env t = true) :
    (∃ s, toXmlString env t [] = .ok s) ↔ namesWritable env t [] = some true :=
  C01_serialises_pi_colon env t hr

theorem C01_main_deep_equal (env : Env) (t : Tree) (hr : Representable env t = true)
    (lex : Str → List Token × Option Nat) (hlex : LexCanon false lex) (s : Str)
    (hs : toXmlString env t [] = .ok s) :
    ∃ ts p, lex s = (ts, none) ∧ build .document (strLen s) env ts none = .ok p ∧
      deepEqual p.tree t = true :=
  C01_main_deep_equal_pi_colon env t hr lex hlex s hs

theorem C01_roundtrip_identical (env : Env) (t : Tree) (hr : Representable env t = true) (s : Str)
    (hs : toXmlString env t [] = .ok s) :
    ∃ p, parseString .document env s = .ok p ∧ p.tree = t ∧ p.env = env ∧ deepEqual p.tree t = true :=
  C01_roundtrip_identical_pi_colon env t hr s hs

theorem C01_roundtrip_writable (env : Env) (t : Tree) (hr : Representable env t = true)
    (hw : namesWritable env t [] = some true) :
    ∃ s p, toXmlString env t [] = .ok s ∧ parseString .document env s = .ok p ∧ p.tree = t ∧ p.env = env ∧
      deepEqual p.tree t = true :=
  C01_roundtrip_writable_pi_colon env t hr hw

end XotModel.PiColon
