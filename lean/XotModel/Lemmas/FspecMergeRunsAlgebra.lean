/-
  List algebra of `mergeRuns` (for `replace`, C05), and `Spec.TextMerge`, the relation of which every merge of the
  specification is an instance (moves, unwrap, frames, string values and the C04 validity theory use it).

  A survivor rule is *associative* when merging a run in stages gives the same node as merging it
  in one sweep (`Keep.earlier` and `Keep.resident n` are).  For such a rule
  `mergeRuns (U ++ mergeRuns V) = mergeRuns (U ++ V)`; merging never crosses a node that is not
  text; hence "merge, drop a non-text child, merge again" = "drop it, merge".

  `Spec.TextMerge L L'`: `L'` arises from `L` by merging adjacent text children.  What every merge
  of the specification keeps (handles, lookups past text leaves, members up to their text) is proved
  of this relation; `mergeRuns` is an instance here, the pair merges in `FspecAgreeMove.lean`.
-/
import XotModel.Lemmas.FspecMove

namespace XotModel
open HTree Spec

/-- Merging in stages picks the same survivor as merging in one sweep. -/
structure Keep.Assoc (keep : Keep) : Prop where
  tt : ∀ a b c, keep a b = true → keep b c = true → keep a c = true
  ff : ∀ a b c, keep a b = false → keep b c = false → keep a c = false

theorem Keep.assoc_earlier : Keep.Assoc Keep.earlier := ⟨fun _ _ _ _ _ => rfl, fun _ _ _ h _ => by cases h⟩

theorem Keep.assoc_resident (n : Nat) : Keep.Assoc (Keep.resident n) := by
  constructor
  · intro a b c h _; exact h
  · intro a b c h _; exact h

namespace Spec

theorem join_handle (keep : Keep) (a b : HTree) (x y : Str) :
    (join keep a b x y).handle = if keep a.handle b.handle then a.handle else b.handle := by
  unfold join
  split <;> simp [setValue_handle]

theorem setValue_setValue (t : HTree) (v w : Value) : (t.setValue v).setValue w = t.setValue w := by
  cases t; rfl

end Spec

/-! ### Merging adjacent text, as a relation

  Every merge of the specification - the whole-run merge `mergeRuns` and the pair merges `mergeAdj`,
  `mergeNew`, `mergeNew3` - only ever replaces two neighbours that are both text by one of them with
  both data.  What such a step keeps is proved once, by induction on the relation. -/

/-- Text children are leaves other than `z`. -/
def PairAll.LeafZ (z : Nat) (L : List HTree) : Prop := ∀ k ∈ L, k.value.isText = true → k.kids = [] ∧ k.handle ≠ z

namespace Spec

/-- `L'` arises from `L` by merging adjacent text children. -/
inductive TextMerge : List HTree → List HTree → Prop
  | refl (L : List HTree) : TextMerge L L
  | cons (k : HTree) {L L' : List HTree} : TextMerge L L' → TextMerge (k :: L) (k :: L')
  | join {a b j : HTree} {x y : Str} (L : List HTree) : a.value = .text x → b.value = .text y →
      (j = a.setValue (.text (x ++ y)) ∨ j = b.setValue (.text (x ++ y))) → TextMerge (a :: b :: L) (j :: L)
  | trans {L L' L'' : List HTree} : TextMerge L L' → TextMerge L' L'' → TextMerge L L''

namespace TextMerge

theorem of_mergeInto (keep : Keep) : ∀ (rest : List HTree) (cur : HTree),
    TextMerge (cur :: rest) (mergeInto keep cur rest)
  | [], cur => refl _
  | b :: rest, cur => by
    by_cases h : cur.value.isText = true ∧ b.value.isText = true
    · obtain ⟨x, hx⟩ := exists_text_of_isText h.1
      obtain ⟨y, hy⟩ := exists_text_of_isText h.2
      rw [mergeInto_cons_text hx hy]
      refine (join rest hx hy ?_).trans (of_mergeInto keep rest _)
      unfold Spec.join
      split
      · exact Or.inl rfl
      · exact Or.inr rfl
    · rw [mergeInto_cons_other h]
      exact (of_mergeInto keep rest b).cons cur

theorem of_mergeRuns (keep : Keep) : ∀ L : List HTree, TextMerge L (mergeRuns keep L)
  | [] => refl _
  | a :: rest => of_mergeInto keep rest a

/-- The merged node has the handles of the one that survives. -/
theorem handles_sublist {L L' : List HTree} (h : TextMerge L L') : (handlesList L').Sublist (handlesList L) := by
  induction h with
  | refl L => exact List.Sublist.refl _
  | cons k _ ih => rw [handlesList_cons, handlesList_cons]; exact (List.Sublist.refl _).append ih
  | @join a b j x y L _ _ hj =>
    rw [handlesList_cons, handlesList_cons, handlesList_cons]
    rcases hj with rfl | rfl <;> rw [setValue_handles]
    · exact (List.Sublist.refl _).append (List.sublist_append_right _ _)
    · exact List.sublist_append_right _ _
  | trans _ _ ih1 ih2 => exact ih2.trans ih1

theorem mem_cases {L L' : List HTree} (h : TextMerge L L') :
    ∀ k ∈ L', k ∈ L ∨ ∃ a ∈ L, a.value.isText = true ∧ ∃ s, k = a.setValue (.text s) := by
  induction h with
  | refl L => exact fun _ hk => Or.inl hk
  | cons k0 _ ih =>
    intro k hk
    rcases List.mem_cons.1 hk with e | e
    · exact Or.inl (e ▸ List.mem_cons_self)
    · rcases ih k e with e' | ⟨a, ha, r⟩
      · exact Or.inl (List.mem_cons_of_mem _ e')
      · exact Or.inr ⟨a, List.mem_cons_of_mem _ ha, r⟩
  | @join a b j x y L ha hb hj =>
    intro k hk
    rcases List.mem_cons.1 hk with e | e
    · rcases hj with rfl | rfl
      · exact Or.inr ⟨a, by simp, by rw [ha]; rfl, _, e⟩
      · exact Or.inr ⟨b, by simp, by rw [hb]; rfl, _, e⟩
    · exact Or.inl (by simp [e])
  | trans _ _ ih1 ih2 =>
    intro k hk
    rcases ih2 k hk with e | ⟨a', ha', hat, s, hs⟩
    · exact ih1 k e
    · rcases ih1 a' ha' with e | ⟨a, ha, hat', s', hs'⟩
      · exact Or.inr ⟨a', e, hat, s, hs⟩
      · exact Or.inr ⟨a, ha, hat', s, by rw [hs, hs', setValue_setValue]⟩

theorem tops {L L' : List HTree} (h : TextMerge L L') {k : HTree} (hk : k ∈ L') : ∃ k' ∈ L, k.handle = k'.handle := by
  rcases h.mem_cases k hk with e | ⟨a, ha, _, s, hs⟩
  · exact ⟨k, e, rfl⟩
  · exact ⟨a, ha, by rw [hs, setValue_handle]⟩

theorem mem_nontext {L L' : List HTree} (h : TextMerge L L') {k : HTree} (hkt : k.value.isText = false) :
    k ∈ L → k ∈ L' := by
  induction h with
  | refl L => exact id
  | cons k0 _ ih =>
    intro hk
    rcases List.mem_cons.1 hk with e | e
    · exact e ▸ List.mem_cons_self
    · exact List.mem_cons_of_mem _ (ih e)
  | @join a b j x y L ha hb _ =>
    intro hk
    rcases List.mem_cons.1 hk with e | e
    · rw [e, ha] at hkt; cases hkt
    · rcases List.mem_cons.1 e with e' | e'
      · rw [e', hb] at hkt; cases hkt
      · exact List.mem_cons_of_mem _ e'
  | trans _ _ ih1 ih2 => exact fun hk => ih2 (ih1 hk)

theorem mem_handle {z : Nat} {L L' : List HTree} (h : TextMerge L L')
    (hz : ∀ k ∈ L, k.value.isText = true → z ∉ handles k) : z ∈ handlesList L → z ∈ handlesList L' := by
  induction h with
  | refl L => exact id
  | cons k0 _ ih =>
    rw [handlesList_cons, handlesList_cons]
    intro hm
    rcases List.mem_append.1 hm with e | e
    · exact List.mem_append_left _ e
    · exact List.mem_append_right _ (ih (fun k hk => hz k (List.mem_cons_of_mem _ hk)) e)
  | @join a b j x y L ha hb _ =>
    rw [handlesList_cons, handlesList_cons, handlesList_cons]
    intro hm
    rcases List.mem_append.1 hm with e | e
    · exact absurd e (hz a (by simp) (by rw [ha]; rfl))
    · rcases List.mem_append.1 e with e' | e'
      · exact absurd e' (hz b (by simp) (by rw [hb]; rfl))
      · exact List.mem_append_right _ e'
  | trans h1 _ ih1 ih2 =>
    refine fun hm => ih2 (fun k hk hkt => ?_) (ih1 hz hm)
    rcases h1.mem_cases k hk with e | ⟨a, ha, hat, s, hs⟩
    · exact hz k e hkt
    · rw [hs, setValue_handles]; exact hz a ha hat

/-- Text children that are leaves other than `z` hide nothing of `z`: they stay such, and the
    lookup of `z` in the list is unchanged. -/
theorem leafZ {z : Nat} {L L' : List HTree} (h : TextMerge L L') (hL : PairAll.LeafZ z L) :
    PairAll.LeafZ z L' ∧ findList? z L' = findList? z L := by
  induction h with
  | refl L => exact ⟨hL, rfl⟩
  | cons k _ ih =>
    obtain ⟨h1, h2⟩ := ih (fun k' hk' => hL k' (List.mem_cons_of_mem _ hk'))
    refine ⟨fun k' hk' => ?_, by rw [findList?_cons, findList?_cons, h2]⟩
    rcases List.mem_cons.1 hk' with e | e
    · exact hL k' (e ▸ List.mem_cons_self)
    · exact h1 k' e
  | @join a b j x y L ha hb hj =>
    obtain ⟨la, za⟩ := hL a (by simp) (by rw [ha]; rfl)
    obtain ⟨lb, zb⟩ := hL b (by simp) (by rw [hb]; rfl)
    have hjl : j.kids = [] ∧ j.handle ≠ z := by
      rcases hj with rfl | rfl
      · exact ⟨by cases a; exact la, by rw [setValue_handle]; exact za⟩
      · exact ⟨by cases b; exact lb, by rw [setValue_handle]; exact zb⟩
    refine ⟨fun k' hk' hkt => ?_, ?_⟩
    · rcases List.mem_cons.1 hk' with e | e
      · rw [e]; exact hjl
      · exact hL k' (by simp [e]) hkt
    · rw [findList?_cons, findList?_cons, findList?_cons, find?_leaf hjl.1 hjl.2, find?_leaf la za, find?_leaf lb zb]
      rfl
  | trans _ _ ih1 ih2 =>
    obtain ⟨h1, e1⟩ := ih1 hL
    obtain ⟨h2, e2⟩ := ih2 h1
    exact ⟨h2, e2.trans e1⟩

end TextMerge
end Spec

namespace Spec

theorem join_assoc {keep : Keep} (hk : keep.Assoc) (A B C : HTree) (x y z : Str) :
    join keep (join keep A B x y) C (x ++ y) z = join keep A (join keep B C y z) x (y ++ z) := by
  rcases Bool.eq_false_or_eq_true (keep A.handle B.handle) with h1 | h1 <;>
  rcases Bool.eq_false_or_eq_true (keep B.handle C.handle) with h2 | h2
  · have h3 := hk.tt _ _ _ h1 h2
    simp [join, setValue_handle, h1, h2, h3, setValue_setValue]
  · rcases Bool.eq_false_or_eq_true (keep A.handle C.handle) with h3 | h3 <;>
      simp [join, setValue_handle, h1, h2, h3, setValue_setValue]
  · simp [join, setValue_handle, h1, h2, setValue_setValue]
  · have h3 := hk.ff _ _ _ h1 h2
    simp [join, setValue_handle, h1, h2, h3, setValue_setValue]

/-- A finished prefix can be merged first. -/
theorem mergeInto_mergeInto {keep : Keep} (hk : keep.Assoc) : ∀ (rest : List HTree) (cur b : HTree),
    mergeInto keep cur (mergeInto keep b rest) = mergeInto keep cur (b :: rest)
  | [], cur, b => rfl
  | c :: rest, cur, b => by
    by_cases hbc : b.value.isText = true ∧ c.value.isText = true
    · obtain ⟨y, hy⟩ := isText_iff_textData.1 hbc.1
      obtain ⟨z, hz⟩ := isText_iff_textData.1 hbc.2
      have hy' := textData_some hy
      have hz' := textData_some hz
      rw [mergeInto_cons_text hy' hz', mergeInto_mergeInto hk rest cur (join keep b c y z)]
      by_cases hcur : cur.value.isText = true
      · obtain ⟨x, hx⟩ := isText_iff_textData.1 hcur
        have hx' := textData_some hx
        rw [mergeInto_cons_text hx' (join_value keep b c y z), mergeInto_cons_text hx' hy',
          mergeInto_cons_text (join_value keep cur b x y) hz', join_assoc hk]
      · have n1 : ¬ (cur.value.isText = true ∧ (join keep b c y z).value.isText = true) := fun h => hcur h.1
        have n2 : ¬ (cur.value.isText = true ∧ b.value.isText = true) := fun h => hcur h.1
        rw [mergeInto_cons_other n1, mergeInto_cons_other n2, mergeInto_cons_text hy' hz']
    · rw [mergeInto_cons_other hbc]
      by_cases hcb : cur.value.isText = true ∧ b.value.isText = true
      · obtain ⟨x, hx⟩ := isText_iff_textData.1 hcb.1
        obtain ⟨y, hy⟩ := isText_iff_textData.1 hcb.2
        have hx' := textData_some hx
        have hy' := textData_some hy
        rw [mergeInto_cons_text hx' hy', mergeInto_cons_text hx' hy',
          mergeInto_mergeInto hk rest (join keep cur b x y) c]
      · rw [mergeInto_cons_other hcb, mergeInto_cons_other hcb, mergeInto_mergeInto hk rest b c,
          mergeInto_cons_other hbc]

theorem mergeInto_mergeRuns {keep : Keep} (hk : keep.Assoc) (cur : HTree) (V : List HTree) :
    mergeInto keep cur (mergeRuns keep V) = mergeInto keep cur V := by
  cases V with
  | nil => rfl
  | cons b rest => exact mergeInto_mergeInto hk rest cur b

/-- **Merging a list in two parts**: what the first part yields is final except for its last node, which
    goes on into the second part. -/
theorem mergeInto_append (keep : Keep) : ∀ (U : List HTree) (cur : HTree),
    ∃ init z, mergeInto keep cur U = init ++ [z] ∧
      ∀ V, mergeInto keep cur (U ++ V) = init ++ mergeInto keep z V
  | [], cur => ⟨[], cur, rfl, fun _ => rfl⟩
  | b :: U, cur => by
    by_cases h : cur.value.isText = true ∧ b.value.isText = true
    · obtain ⟨x, hx⟩ := exists_text_of_isText h.1
      obtain ⟨y, hy⟩ := exists_text_of_isText h.2
      obtain ⟨init, z, e, hV⟩ := mergeInto_append keep U (join keep cur b x y)
      exact ⟨init, z, by rw [mergeInto_cons_text hx hy, e],
        fun V => by rw [List.cons_append, mergeInto_cons_text hx hy, hV V]⟩
    · obtain ⟨init, z, e, hV⟩ := mergeInto_append keep U b
      exact ⟨cur :: init, z, by rw [mergeInto_cons_other h, e]; rfl,
        fun V => by rw [List.cons_append, mergeInto_cons_other h, hV V]; rfl⟩

theorem mergeRuns_append_mergeRuns {keep : Keep} (hk : keep.Assoc) (U V : List HTree) :
    mergeRuns keep (U ++ mergeRuns keep V) = mergeRuns keep (U ++ V) := by
  cases U with
  | nil => simp only [List.nil_append]; exact mergeRuns_idem keep V
  | cons a U =>
    obtain ⟨init, z, _, h⟩ := mergeInto_append keep U a
    show mergeInto keep a (U ++ mergeRuns keep V) = mergeInto keep a (U ++ V)
    rw [h, h, mergeInto_mergeRuns hk]

theorem mergeInto_nontext {keep : Keep} {A : HTree} (hA : A.value.isText = false) (V : List HTree) :
    mergeInto keep A V = A :: mergeRuns keep V := by
  cases V with
  | nil => rfl
  | cons b r =>
    rw [mergeInto_cons_other (by intro h; rw [hA] at h; cases h.1)]
    rfl

theorem mergeInto_head_nontext {keep : Keep} {b : HTree} (hb : b.value.isText = false) (r : List HTree) :
    ∃ T, mergeInto keep b r = b :: T := ⟨_, mergeInto_nontext hb r⟩

theorem mergeRuns_mergeRuns_append (keep : Keep) (U V : List HTree) :
    mergeRuns keep (mergeRuns keep U ++ V) = mergeRuns keep (U ++ V) := by
  cases U with
  | nil => rfl
  | cons a U =>
    obtain ⟨init, z, e, h⟩ := mergeInto_append keep U a
    have hno : noAdjacentText (init ++ [z]) = true := e ▸ (noAdj_mergeInto keep U a).1
    show mergeRuns keep (mergeInto keep a U ++ V) = mergeInto keep a (U ++ V)
    rw [h V, e]
    -- nothing is merged inside `init ++ [z]`: merging it again yields the same split
    cases init with
    | nil => rfl
    | cons c W =>
      obtain ⟨init', z', e', h'⟩ := mergeInto_append keep (W ++ [z]) c
      rw [mergeInto_id keep (W ++ [z]) c hno] at e'
      obtain ⟨rfl, ez⟩ := List.append_inj' (show init' ++ [z'] = (c :: W) ++ [z] from e'.symm) rfl
      cases ez
      exact h' V

theorem mergeRuns_barrier {keep : Keep} {A : HTree} (hA : A.value.isText = false) (U V : List HTree) :
    mergeRuns keep (U ++ A :: V) = mergeRuns keep U ++ A :: mergeRuns keep V := by
  cases U with
  | nil =>
    simp only [List.nil_append]
    show mergeInto keep A V = _
    rw [mergeInto_nontext hA]; rfl
  | cons a U =>
    obtain ⟨init, z, e, h⟩ := mergeInto_append keep U a
    show mergeInto keep a (U ++ A :: V) = mergeInto keep a U ++ A :: mergeRuns keep V
    rw [h, e, mergeInto_cons_other (by intro h'; rw [hA] at h'; cases h'.2), mergeInto_nontext hA,
      List.append_assoc]
    rfl

theorem mergeRuns_tops (keep : Keep) {L : List HTree} {k : HTree} (h : k ∈ mergeRuns keep L) :
    ∃ k' ∈ L, k.handle = k'.handle :=
  (TextMerge.of_mergeRuns keep L).tops h

theorem mergeRuns_drop_mergeRuns {keep : Keep} (hk : keep.Assoc) {A : HTree} (hA : A.value.isText = false)
    {U V : List HTree} (hU : ∀ k ∈ U, k.handle ≠ A.handle) (hV : ∀ k ∈ V, k.handle ≠ A.handle) :
    mergeRuns keep (dropTop A.handle (mergeRuns keep (U ++ A :: V))) = mergeRuns keep (U ++ V) := by
  rw [mergeRuns_barrier hA]
  have hU' : ∀ k ∈ mergeRuns keep U, k.handle ≠ A.handle := by
    intro k hk'
    obtain ⟨k', hk'', e⟩ := mergeRuns_tops keep hk'
    rw [e]; exact hU k' hk''
  have hV' : ∀ k ∈ mergeRuns keep V, k.handle ≠ A.handle := by
    intro k hk'
    obtain ⟨k', hk'', e⟩ := mergeRuns_tops keep hk'
    rw [e]; exact hV k' hk''
  rw [dropTop_mid rfl hU' hV', mergeRuns_mergeRuns_append, mergeRuns_append_mergeRuns hk]

theorem mergeInto_keep_congr {keep keep' : Keep} : ∀ (rest : List HTree) (cur : HTree),
    (cur.value.isText = true → ∀ y, keep cur.handle y = keep' cur.handle y) →
    (∀ k ∈ rest, k.value.isText = true → ∀ y, keep k.handle y = keep' k.handle y) →
    mergeInto keep cur rest = mergeInto keep' cur rest
  | [], _, _, _ => rfl
  | b :: rest, cur, hc, hr => by
    by_cases hcb : cur.value.isText = true ∧ b.value.isText = true
    · obtain ⟨x, hx⟩ := isText_iff_textData.1 hcb.1
      obtain ⟨y, hy⟩ := isText_iff_textData.1 hcb.2
      rw [mergeInto_cons_text (textData_some hx) (textData_some hy),
        mergeInto_cons_text (textData_some hx) (textData_some hy)]
      have hj : join keep cur b x y = join keep' cur b x y := by
        unfold join; rw [hc hcb.1]
      rw [hj]
      apply mergeInto_keep_congr rest
      · intro _ z
        rw [join_handle]
        split
        · exact hc hcb.1 z
        · exact hr b List.mem_cons_self hcb.2 z
      · exact fun k hk => hr k (List.mem_cons_of_mem _ hk)
    · rw [mergeInto_cons_other hcb, mergeInto_cons_other hcb,
        mergeInto_keep_congr rest b (hr b List.mem_cons_self) (fun k hk => hr k (List.mem_cons_of_mem _ hk))]

theorem mergeRuns_keep_congr {keep keep' : Keep} {L : List HTree}
    (h : ∀ k ∈ L, k.value.isText = true → ∀ y, keep k.handle y = keep' k.handle y) :
    mergeRuns keep L = mergeRuns keep' L := by
  cases L with
  | nil => rfl
  | cons a rest =>
    exact mergeInto_keep_congr rest a (h a List.mem_cons_self) (fun k hk => h k (List.mem_cons_of_mem _ hk))

end Spec

end XotModel
