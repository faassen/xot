/-
  Structural validity (Model/Valid) gives the two side conditions of the document-level repair
  theorems: no element declares a prefix twice (`UniqueKids`), and the children of a document that
  are not elements are leaves (`KindsOk`: text / comment / PI nodes have no children, a document is
  never a child).
-/
import XotModel.Model.Valid
import XotModel.Lemmas.BasicFacts
import XotModel.Lemmas.RepairKeep

namespace XotModel.Repair
open XotModel

theorem keys_declsOfKids_sublist (ks : List Tree) : (keys (declsOfKids ks)).Sublist (nsPrefixes ks) := by
  have h1 : keys (declsOfKids ks) =
      nsPrefixes (ks.takeWhile (fun k => k.value.category == .namespace)) := by
    unfold keys declsOfKids nsPrefixes
    rw [List.map_filterMap]
    congr 1
    funext k
    cases k.value <;> rfl
  rw [h1]
  exact (List.takeWhile_sublist _).filterMap _

theorem uniqueBelow_of_uniqueKids (t : Tree) (h : t.Forall (fun _ ks => UniqueKids ks)) : UniqueBelow t := by
  intro rel n' hn
  cases n' with
  | node v ks =>
    have hu := Tree.forall_at? _ t rel _ h hn
    rw [frameOf_node]
    split
    · exact hu.2.sublist (keys_declsOfKids_sublist ks)
    · exact List.nodup_nil

theorem isLeafKind_of_not {v : Value} (he : v.isElement = false) (hd : v.isDocument = false) :
    v.isLeafKind = true := by
  cases v with
  | element _ => cases he
  | document => cases hd
  | _ => rfl

theorem leaves_of_kindsOk (doc : Tree) (h : doc.Forall KindsOk) :
    ∀ (i : Nat) (k : Tree), doc.kids[i]? = some k → k.value.isElement = false → k.kids = [] := by
  intro i k hk hne
  cases doc with
  | node v ks =>
    simp only [Tree.kids] at hk
    obtain ⟨hdoc, hkids⟩ := (Tree.forall_node KindsOk v ks).mp h
    have hmem : k ∈ ks := List.mem_of_getElem? hk
    have hnd : k.value.isDocument = false := hdoc.2.2 k hmem
    cases k with
    | node kv kk =>
      have hkk := ((Tree.forall_node KindsOk kv kk).mp (hkids _ hmem)).1.1
      exact hkk (isLeafKind_of_not hne hnd)

end XotModel.Repair
