/-
  Structural validity is local (`localOK`, `validX`: the no-adjacent-text clause switched on per node, `validX_editAt`),
  and the local conditions of a child list survive the three list edits of a move: `dropTop`, `Dest.insert`, `mergeRuns`.
  What `Lemmas/SpecSideMove.lean` puts together.  The namespace `Prog` (`Prog2` in `Lemmas/SpecSideComposite.lean`) is
  that of the construction programs of `Model/FanyorderSpec.lean`; here and in the two files on top it holds the
  validity theory of the specification's edits, which mentions no program and serves C04 as well as C20.
-/
import XotModel.Lemmas.FspecSite
import XotModel.Lemmas.FmapNode
import XotModel.Lemmas.BasicFacts
import XotModel.Lemmas.FspecMoveCalls
import XotModel.Lemmas.FspecContent
import XotModel.Lemmas.FspecMove
import XotModel.Lemmas.FspecMergeRunsAlgebra

/-! ### Structural validity is local

`validTree b` checks, at every node, a condition on the node's value and the VALUES of its
children (`localOK`).  `validX sx` is the same with the "no adjacent text" clause switched on
per node (`sx h`), so that the intermediate states of a move (adjacent text at the two touched
child lists, nowhere else) can be described.  Main lemma: `validX_editAt` — editing the child
list of one node keeps validity if the new child list is locally fine and its members are valid. -/

namespace XotModel
namespace Prog
open HTree Spec

/-- What a node with value `v` requires of its child list (`b`: no adjacent text). -/
def localOK (b : Bool) (v : Value) (ks : List HTree) : Bool :=
  ks.all (fun k => kidAllowed v k.value) && kidsOrdered ks && keysUnique .attribute ks &&
    keysUnique .namespace ks && (!b || noAdjacentText ks)

theorem validTree_eq (b : Bool) (h : Nat) (v : Value) (ks : List HTree) :
    validTree b (.node h v ks) = (localOK b v ks && validList b ks) := by
  simp [validTree, localOK]

theorem localOK_weaken {b : Bool} {v : Value} {ks : List HTree} (h : localOK b v ks = true) :
    localOK false v ks = true := by
  simp only [localOK, Bool.and_eq_true] at h ⊢
  exact ⟨h.1, by simp⟩

theorem localOK_mono {b b' : Bool} {v : Value} {ks : List HTree} (hb : b' = true → b = true)
    (h : localOK b v ks = true) : localOK b' v ks = true := by
  cases b' with
  | false => exact localOK_weaken h
  | true => rw [hb rfl] at h; exact h

theorem localOK_strict {v : Value} {ks : List HTree} (h : localOK false v ks = true)
    (hn : noAdjacentText ks = true) : localOK true v ks = true := by
  simp only [localOK, Bool.and_eq_true] at h ⊢
  exact ⟨h.1, by simp [hn]⟩

theorem localOK_map (b : Bool) (v : Value) (φ : HTree → HTree) (hφ : ∀ k, (φ k).value = k.value)
    (ks : List HTree) : localOK b v (ks.map φ) = localOK b v ks := by
  simp only [localOK, Fmap.all_kidAllowed_map v φ hφ, Fmap.kidsOrdered_map φ hφ, Fmap.keysUnique_map _ φ hφ,
    Fmap.noAdjacentText_map φ hφ]

theorem localOK_nil (b : Bool) (v : Value) : localOK b v [] = true := by
  simp [localOK, kidsOrdered, keysUnique, noAdjacentText]

mutual
  /-- Validity with the no-adjacent-text clause required at the nodes `h` with `sx h = true`. -/
  def validX (sx : Nat → Bool) : HTree → Bool
    | .node h v ks => localOK (sx h) v ks && validXList sx ks
  def validXList (sx : Nat → Bool) : List HTree → Bool
    | [] => true
    | k :: ks => validX sx k && validXList sx ks
end

theorem validXList_cons (sx : Nat → Bool) (k : HTree) (ks : List HTree) :
    validXList sx (k :: ks) = (validX sx k && validXList sx ks) := by simp [validXList]

theorem validX_node (sx : Nat → Bool) (h : Nat) (v : Value) (ks : List HTree) :
    validX sx (.node h v ks) = (localOK (sx h) v ks && validXList sx ks) := by simp [validX]

mutual
  theorem validX_const (b : Bool) : ∀ t : HTree, validX (fun _ => b) t = validTree b t
    | .node h v ks => by rw [validX_node, validTree_eq, validXList_const b ks]
  theorem validXList_const (b : Bool) : ∀ ks : List HTree, validXList (fun _ => b) ks = validList b ks
    | [] => by simp [validXList, validList]
    | k :: ks => by rw [validXList_cons, validList_cons, validX_const b k, validXList_const b ks]
end

mutual
  theorem validX_mono {sx sx' : Nat → Bool} : ∀ t : HTree, (∀ h ∈ handles t, sx' h = true → sx h = true) →
      validX sx t = true → validX sx' t = true
    | .node h v ks => by
      intro hm hv
      rw [validX_node, Bool.and_eq_true] at hv ⊢
      rw [handles_node] at hm
      exact ⟨localOK_mono (hm h List.mem_cons_self) hv.1,
        validXList_mono ks (fun x hx => hm x (List.mem_cons_of_mem _ hx)) hv.2⟩
  theorem validXList_mono {sx sx' : Nat → Bool} : ∀ ks : List HTree,
      (∀ h ∈ handlesList ks, sx' h = true → sx h = true) → validXList sx ks = true → validXList sx' ks = true
    | [] => by intro _ _; simp [validXList]
    | k :: ks => by
      intro hm hv
      rw [validXList_cons, Bool.and_eq_true] at hv ⊢
      rw [handlesList_cons] at hm
      exact ⟨validX_mono k (fun x hx => hm x (List.mem_append_left _ hx)) hv.1,
        validXList_mono ks (fun x hx => hm x (List.mem_append_right _ hx)) hv.2⟩
end

theorem validXList_append (sx : Nat → Bool) (a b : List HTree) :
    validXList sx (a ++ b) = (validXList sx a && validXList sx b) := by
  induction a with
  | nil => simp [validXList]
  | cons k ks ih => simp [validXList_cons, ih, Bool.and_assoc]

theorem validXList_mem {sx : Nat → Bool} {ks : List HTree} (h : validXList sx ks = true) :
    ∀ k ∈ ks, validX sx k = true := by
  induction ks with
  | nil => intro k hk; cases hk
  | cons a ks ih =>
    rw [validXList_cons, Bool.and_eq_true] at h
    intro k hk
    rcases List.mem_cons.1 hk with e | e
    · rw [e]; exact h.1
    · exact ih h.2 k e

theorem validXList_of_mem {sx : Nat → Bool} {ks : List HTree} (h : ∀ k ∈ ks, validX sx k = true) :
    validXList sx ks = true := by
  induction ks with
  | nil => simp [validXList]
  | cons a ks ih =>
    rw [validXList_cons, Bool.and_eq_true]
    exact ⟨h a List.mem_cons_self, ih (fun k hk => h k (List.mem_cons_of_mem _ hk))⟩

theorem validXList_sublist {sx : Nat → Bool} {ks ks' : List HTree} (hs : ks'.Sublist ks)
    (h : validXList sx ks = true) : validXList sx ks' = true :=
  validXList_of_mem (fun k hk => validXList_mem h k (hs.subset hk))

mutual
  theorem validX_find {sx : Nat → Bool} {h : Nat} : ∀ (t u : HTree), validX sx t = true → find? h t = some u →
      validX sx u = true
    | .node h' v ks, u => by
      intro hv e
      rw [find?_node] at e
      by_cases hh : h' = h
      · rw [if_pos hh] at e
        have e' := Option.some.inj e
        subst e'
        exact hv
      · rw [if_neg hh] at e
        rw [validX_node, Bool.and_eq_true] at hv
        exact validX_findList ks u hv.2 e
  theorem validX_findList {sx : Nat → Bool} {h : Nat} : ∀ (ks : List HTree) (u : HTree),
      validXList sx ks = true → findList? h ks = some u → validX sx u = true
    | [], u => by intro _ e; rw [findList?_nil] at e; cases e
    | k :: ks, u => by
      intro hv e
      rw [validXList_cons, Bool.and_eq_true] at hv
      cases hk : find? h k with
      | some t =>
        rw [findList?_cons_some hk] at e
        have e' := Option.some.inj e
        subst e'
        exact validX_find k t hv.1 hk
      | none =>
        rw [findList?_cons_none hk] at e
        exact validX_findList ks u hv.2 e
end

mutual
  /-- **Editing one child list.**  `sx'` may be anything at `p` and must not be stricter than `sx`
      elsewhere; the new child list of `p` must be locally fine (under `sx' p`) with valid members. -/
  theorem validX_editAt {sx sx' : Nat → Bool} {p : Nat} {g : List HTree → List HTree} {v : Value} {L : List HTree}
      (hother : ∀ h, h ≠ p → sx' h = true → sx h = true)
      (hloc : localOK (sx' p) v (g L) = true) (hmem : validXList sx' (g L) = true) :
      ∀ t : HTree, (handles t).Nodup → validX sx t = true → find? p t = some (.node p v L) →
        validX sx' (HTree.editAt p g t) = true
    | .node h v' ks => by
      intro nd hv e
      obtain ⟨n1, n2⟩ := nodup_handles_node nd
      rw [find?_node] at e
      rw [editAt_node]
      by_cases hh : h = p
      · rw [if_pos hh] at e
        have e' := Option.some.inj e
        injection e' with e1 e2 e3
        subst e2 e3
        rw [if_pos hh, validX_node, Bool.and_eq_true, hh]
        exact ⟨hloc, hmem⟩
      · rw [if_neg hh] at e
        rw [if_neg hh, validX_node, Bool.and_eq_true]
        rw [validX_node, Bool.and_eq_true] at hv
        refine ⟨?_, validXList_editAt hother hloc hmem ks n2 hv.2 e⟩
        rw [localOK_map _ _ _ (editAt_value p g)]
        exact localOK_mono (hother h hh) hv.1
  theorem validXList_editAt {sx sx' : Nat → Bool} {p : Nat} {g : List HTree → List HTree} {v : Value} {L : List HTree}
      (hother : ∀ h, h ≠ p → sx' h = true → sx h = true)
      (hloc : localOK (sx' p) v (g L) = true) (hmem : validXList sx' (g L) = true) :
      ∀ ks : List HTree, (handlesList ks).Nodup → validXList sx ks = true → findList? p ks = some (.node p v L) →
        validXList sx' (ks.map (HTree.editAt p g)) = true
    | [] => by intro _ _ e; rw [findList?_nil] at e; cases e
    | k :: ks => by
      intro nd hv e
      obtain ⟨n1, n2, n3⟩ := Fws.nodup_handlesList_cons nd
      rw [validXList_cons, Bool.and_eq_true] at hv
      rw [List.map_cons, validXList_cons, Bool.and_eq_true]
      cases hk : find? p k with
      | some t =>
        rw [findList?_cons_some hk] at e
        have e' := Option.some.inj e
        subst e'
        have hpn : p ∉ handlesList ks := n3 p (find?_some_mem hk)
        rw [map_editAt_of_not_mem ks hpn]
        refine ⟨validX_editAt hother hloc hmem k n1 hv.1 hk, ?_⟩
        exact validXList_mono ks (fun x hx => hother x (fun ex => hpn (ex ▸ hx))) hv.2
      | none =>
        rw [findList?_cons_none hk] at e
        have hpk : p ∉ handles k := (find?_none_iff _ k).1 hk
        rw [editAt_of_not_mem k hpk]
        refine ⟨?_, validXList_editAt hother hloc hmem ks n2 hv.2 e⟩
        exact validX_mono k (fun x hx => hother x (fun ex => hpk (ex ▸ hx))) hv.1
end

theorem kids_nil_of_validX {sx : Nat → Bool} {t : HTree} (hv : validX sx t = true)
    (hne : t.value.isElement = false) (hnd : t.value.isDocument = false) : t.kids = [] := by
  cases t with
  | node h v ks =>
    simp only [HTree.value] at hne hnd
    simp only [HTree.kids]
    cases ks with
    | nil => rfl
    | cons k ks =>
      rw [validX_node, Bool.and_eq_true] at hv
      have := hv.1
      simp only [localOK, Bool.and_eq_true, List.all_cons] at this
      have hk := this.1.1.1.1.1
      rcases Fatom.kidAllowed_container hk with h | h
      · rw [hne] at h; cases h
      · rw [hnd] at h; cases h

theorem validX_leaf (sx : Nat → Bool) (h : Nat) (v : Value) : validX sx (.node h v []) = true := by
  rw [validX_node, localOK_nil]; simp [validXList]

end Prog
end XotModel

/-! ### The local conditions under the list edits of a move

The three list functions of a move (`dropTop`, `Dest.insert`, `mergeRuns`) keep the local validity
conditions of a child list.

The non-strict local condition is a property of the list of the children's SHAPES (value with
the text data forgotten): closed under sublists, and under insertion of a normal node in front
of normal nodes.  `dropTop` and `mergeRuns` shorten the shape list. -/

namespace XotModel
namespace Prog
open HTree Spec Fmap
open Forest (entryKey)

/-- Forget the character data. -/
def nv : Value → Value
  | .text _ => .text []
  | v => v

def shape (k : HTree) : Value := nv k.value

theorem nv_category (v : Value) : (nv v).category = v.category := by cases v <;> rfl
theorem nv_isDocument (v : Value) : (nv v).isDocument = v.isDocument := by cases v <;> rfl
theorem nv_isNormal (v : Value) : (nv v).isNormal = v.isNormal := by cases v <;> rfl
theorem nv_entryKey (v : Value) : entryKey (nv v) = entryKey v := by cases v <;> rfl
theorem nv_kidAllowed (v k : Value) : kidAllowed v (nv k) = kidAllowed v k := by
  cases v <;> simp [kidAllowed, nv_isDocument, nv_isNormal]

def rankV (v : Value) : Nat := v.category.rank

/-- The non-strict local condition on a list of shapes. -/
structure LocalV (v : Value) (S : List Value) : Prop where
  allowed : ∀ s ∈ S, kidAllowed v s = true
  ordered : S.Pairwise (fun a b => rankV a ≤ rankV b)
  attrs : ((S.filter (fun s => s.category == .attribute)).map entryKey).Nodup
  nss : ((S.filter (fun s => s.category == .namespace)).map entryKey).Nodup

theorem keys_shape (c : Category) (L : List HTree) :
    ((L.map shape).filter (fun s => s.category == c)).map entryKey =
      (L.filter (fun k => k.value.category == c)).map (fun k => entryKey k.value) := by
  induction L with
  | nil => rfl
  | cons k ks ih =>
    simp only [List.map_cons, List.filter_cons, shape, nv_category]
    split
    · simp only [List.map_cons, nv_entryKey]
      rw [← ih]
    · exact ih

theorem localOK_false_iff (v : Value) (L : List HTree) :
    localOK false v L = true ↔ LocalV v (L.map shape) := by
  simp only [localOK, Bool.and_eq_true, Bool.not_false, Bool.true_or, and_true, List.all_eq_true,
    keysUnique, decide_eq_true_eq]
  constructor
  · intro ⟨⟨⟨h1, h2⟩, h3⟩, h4⟩
    refine ⟨?_, ?_, by rw [keys_shape]; exact h3, by rw [keys_shape]; exact h4⟩
    · intro s hs
      obtain ⟨k, hk, e⟩ := List.mem_map.1 hs
      rw [← e, shape, nv_kidAllowed]
      exact h1 k hk
    · rw [List.pairwise_map]
      have := (Fmap.kidsOrdered_iff L).1 h2
      exact this.imp (fun h => by simpa [rankV, shape, nv_category, rankLe] using h)
  · intro ⟨h1, h2, h3, h4⟩
    refine ⟨⟨⟨?_, ?_⟩, by rw [← keys_shape]; exact h3⟩, by rw [← keys_shape]; exact h4⟩
    · intro k hk
      have := h1 (shape k) (List.mem_map_of_mem hk)
      rw [shape, nv_kidAllowed] at this
      exact this
    · rw [Fmap.kidsOrdered_iff]
      rw [List.pairwise_map] at h2
      exact h2.imp (fun h => by simpa [rankV, shape, nv_category, rankLe] using h)

theorem LocalV.sublist {v : Value} {S S' : List Value} (h : LocalV v S) (hs : S'.Sublist S) : LocalV v S' :=
  ⟨fun s hs' => h.allowed s (hs.subset hs'), h.ordered.sublist hs,
    h.attrs.sublist ((hs.filter _).map _), h.nss.sublist ((hs.filter _).map _)⟩

theorem LocalV.insert {v s : Value} {A B : List Value} (h : LocalV v (A ++ B)) (hal : kidAllowed v s = true)
    (hs : s.category = .normal) (hB : ∀ b ∈ B, b.category = .normal) : LocalV v (A ++ s :: B) := by
  have hrs : rankV s = 2 := by simp [rankV, hs, Category.rank]
  refine ⟨?_, ?_, ?_, ?_⟩
  · intro x hx
    rcases List.mem_append.1 hx with e | e
    · exact h.allowed x (List.mem_append_left _ e)
    · rcases List.mem_cons.1 e with e | e
      · rw [e]; exact hal
      · exact h.allowed x (List.mem_append_right _ e)
  · have ho := List.pairwise_append.1 h.ordered
    rw [List.pairwise_append]
    refine ⟨ho.1, ?_, ?_⟩
    · rw [List.pairwise_cons]
      refine ⟨?_, ho.2.1⟩
      intro b hb
      simp [rankV, hs, hB b hb]
    · intro a ha b hb
      rcases List.mem_cons.1 hb with e | e
      · rw [e, hrs]
        simp only [rankV]
        cases a.category <;> simp [Category.rank]
      · exact ho.2.2 a ha b e
  · have : (A ++ s :: B).filter (fun s => s.category == .attribute) = (A ++ B).filter (fun s => s.category == .attribute) := by
      simp [List.filter_append, List.filter_cons, hs]
    rw [this]; exact h.attrs
  · have : (A ++ s :: B).filter (fun s => s.category == .namespace) = (A ++ B).filter (fun s => s.category == .namespace) := by
      simp [List.filter_append, List.filter_cons, hs]
    rw [this]; exact h.nss

theorem dropTop_sublist (n : Nat) (L : List HTree) : (dropTop n L).Sublist L := by
  rw [dropTop_eq_filter]; exact List.filter_sublist

theorem localOK_dropTop {v : Value} {L : List HTree} (n : Nat) (h : localOK false v L = true) :
    localOK false v (dropTop n L) = true := by
  rw [localOK_false_iff] at h ⊢
  exact h.sublist ((dropTop_sublist n L).map _)

theorem validXList_dropTop {sx : Nat → Bool} {L : List HTree} (n : Nat) (h : validXList sx L = true) :
    validXList sx (dropTop n L) = true :=
  validXList_sublist (dropTop_sublist n L) h

/-- A merge of adjacent text drops shapes, and changes none: both neighbours and the merged node are text. -/
theorem shape_textMerge {L L' : List HTree} (h : TextMerge L L') : (L'.map shape).Sublist (L.map shape) := by
  induction h with
  | refl L => exact List.Sublist.refl _
  | cons k _ ih => exact ih.cons_cons _
  | @join a b j x y L ha hb hj =>
    have ea : shape a = .text [] := by simp [shape, ha, nv]
    have eb : shape b = .text [] := by simp [shape, hb, nv]
    have ej : shape j = .text [] := by rcases hj with rfl | rfl <;> (cases a <;> cases b <;> rfl)
    simp only [List.map_cons]
    rw [ea, eb, ej]
    exact (List.Sublist.refl _).cons _
  | trans _ _ ih1 ih2 => exact ih2.trans ih1

theorem localOK_textMerge {v : Value} {L L' : List HTree} (hm : TextMerge L L') (h : localOK false v L = true) :
    localOK false v L' = true := by
  rw [localOK_false_iff] at h ⊢
  exact h.sublist (shape_textMerge hm)

theorem localOK_mergeRuns {v : Value} {L : List HTree} (keep : Keep) (h : localOK false v L = true) :
    localOK true v (mergeRuns keep L) = true := by
  apply localOK_strict
  · rw [localOK_false_iff] at h ⊢
    exact h.sublist (shape_textMerge (.of_mergeRuns keep L))
  · exact noAdj_mergeRuns keep L

/-- A text leaf is valid whatever its data, so merging adjacent text keeps the members valid. -/
theorem validXList_textMerge {sx : Nat → Bool} {L L' : List HTree} (hm : TextMerge L L')
    (h : validXList sx L = true) : validXList sx L' = true := by
  apply validXList_of_mem
  intro k hk
  rcases hm.mem_cases k hk with e | ⟨a, ha, hat, s, hs⟩
  · exact validXList_mem h k e
  · have hv := validXList_mem h a ha
    obtain ⟨s', hs'⟩ := exists_text_of_isText hat
    have hleaf : a.kids = [] := kids_nil_of_validX hv (by rw [hs']; rfl) (by rw [hs']; rfl)
    rw [hs]
    cases a with
    | node h' v' ks' =>
      simp only [HTree.kids] at hleaf
      subst hleaf
      exact validX_leaf sx h' _

theorem validXList_mergeRuns {sx : Nat → Bool} {L : List HTree} (keep : Keep) (h : validXList sx L = true) :
    validXList sx (mergeRuns keep L) = true :=
  validXList_textMerge (.of_mergeRuns keep L) h

theorem normal_after {L : List HTree} (ho : kidsOrdered L = true) {A B : List HTree} {k : HTree}
    (e : L = A ++ k :: B) (hk : k.value.isNormal = true) : ∀ b ∈ B, b.value.isNormal = true := by
  intro b hb
  have hp := (Fmap.kidsOrdered_iff L).1 ho
  rw [e] at hp
  have := (List.pairwise_append.1 hp).2.1
  have hkb := (List.pairwise_cons.1 this).1 b hb
  simp only [rankLe] at hkb
  have hkn : k.value.category = .normal := by simpa [Value.isNormal] using hk
  rw [hkn] at hkb
  cases hc : b.value.category <;> simp_all [Category.rank, Value.isNormal]

theorem dropWhile_head_false {α : Type} (p : α → Bool) (l : List α) {k : α} {B : List α}
    (h : l.dropWhile p = k :: B) : p k = false := by
  have := List.head?_dropWhile_not p l
  rw [h] at this
  exact this

/-- Where an insertion puts `t`: nowhere (the reference node is not in the list), or in front of
    normal nodes only. -/
theorem insert_split {L : List HTree} (ho : kidsOrdered L = true) (dest : Dest) (t : HTree)
    (href : ∀ r, (dest = .after r ∨ dest = .before r) → ∀ k ∈ L, k.handle = r → k.value.isNormal = true) :
    dest.insert t L = L ∨
      ∃ A B, L = A ++ B ∧ dest.insert t L = A ++ t :: B ∧ ∀ b ∈ B, b.value.isNormal = true := by
  rcases dest.insert_cases t L with ⟨_, e⟩ | ⟨A, B, e1, e2, info⟩
  · exact Or.inl e
  · refine Or.inr ⟨A, B, e1, e2, ?_⟩
    -- `B` is empty, or everything from a normal child on
    have tail : ∀ k B', B = k :: B' → k.value.isNormal = true → ∀ b ∈ B, b.value.isNormal = true := by
      intro k B' eB hk b hb
      rw [eB] at hb e1
      rcases List.mem_cons.1 hb with e | e
      · rw [e]; exact hk
      · exact normal_after ho e1 hk b e
    cases dest with
    | lastChildOf p => rw [show B = [] from info]; exact fun b hb => nomatch hb
    | firstNormalChildOf p =>
      cases hB : B with
      | nil => exact fun b hb => nomatch hb
      | cons k B' =>
        refine hB ▸ tail k B' hB ?_
        have hd : L.dropWhile abn = k :: B' := by
          have := List.takeWhile_append_dropWhile (p := abn) (l := L)
          rw [← show A = L.takeWhile abn from info] at this
          exact List.append_cancel_left (this.trans (e1.trans (by rw [hB])))
        simpa [abn] using dropWhile_head_false abn L hd
    | after x =>
      obtain ⟨k, hk, ek⟩ := info
      obtain ⟨A', rfl⟩ := List.getLast?_eq_some_iff.1 hk
      exact normal_after ho (A := A') (by rw [e1]; simp) (href x (Or.inl rfl) k (by rw [e1]; simp) ek)
    | before x =>
      obtain ⟨k, hk, ek⟩ := info
      obtain ⟨B', rfl⟩ := List.head?_eq_some_iff.1 hk
      exact tail k B' rfl (href x (Or.inr rfl) k (by rw [e1]; simp) ek)

theorem kidsOrdered_of_localOK {b : Bool} {v : Value} {L : List HTree} (h : localOK b v L = true) :
    kidsOrdered L = true := by
  simp only [localOK, Bool.and_eq_true] at h
  exact h.1.1.1.2

theorem localOK_insert {v : Value} {L : List HTree} (dest : Dest) (t : HTree) (h : localOK false v L = true)
    (hal : kidAllowed v t.value = true) (hn : t.value.isNormal = true)
    (href : ∀ r, (dest = .after r ∨ dest = .before r) → ∀ k ∈ L, k.handle = r → k.value.isNormal = true) :
    localOK false v (dest.insert t L) = true := by
  rcases insert_split (kidsOrdered_of_localOK h) dest t href with e | ⟨A, B, e1, e2, e3⟩
  · rw [e]; exact h
  · rw [e2]
    rw [localOK_false_iff] at h ⊢
    rw [e1, List.map_append] at h
    rw [List.map_append, List.map_cons]
    apply h.insert
    · rw [shape, nv_kidAllowed]; exact hal
    · rw [shape, nv_category]; simpa [Value.isNormal] using hn
    · intro b hb
      obtain ⟨k, hk, e⟩ := List.mem_map.1 hb
      rw [← e, shape, nv_category]
      simpa [Value.isNormal] using e3 k hk

theorem validXList_insert {sx : Nat → Bool} {L : List HTree} (dest : Dest) (t : HTree)
    (h : validXList sx L = true) (ht : validX sx t = true) : validXList sx (dest.insert t L) = true := by
  apply validXList_of_mem
  intro k hk
  rcases mem_insert hk with e | e
  · rw [e]; exact ht
  · exact validXList_mem h k e

end Prog
end XotModel
