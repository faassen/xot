/-
  A tree seen from a node on its right-most spine (`fcPlug`): during `clone_node` the node being
  filled is always the last child of the last child … of the temporary top node.  The state just
  after `new_node(value.clone())` (`Work`), what the queries and the primitives answer there, and
  the one step of the replay: `any_append` of the fresh node at the focus, for every kind of value
  (`Admissible`).
-/
import XotModel.Lemmas.FcloneBasic
import XotModel.Lemmas.ManipShape
import XotModel.Lemmas.FmapKids
import XotModel.Model.FcloneSpec

/-! ## `fcPlug`, and what the primitives do at the focus -/

namespace XotModel
open HTree

/-- One step up from the focus: the parent's handle and value, and the siblings to the left
    (the focus is the last child). -/
structure CFrame where
  h : Nat
  v : Value
  left : List HTree

/-- Rebuild the tree: frames from the root inwards, focus `t` at the bottom right. -/
def fcPlug : List CFrame → HTree → HTree
  | [], t => t
  | fr :: fs, t => .node fr.h fr.v (fr.left ++ [fcPlug fs t])

/-- All handles that belong to the frames. -/
def frameHandles : List CFrame → List Nat
  | [] => []
  | fr :: fs => fr.h :: (handlesList fr.left ++ frameHandles fs)

theorem frameHandles_append (A B : List CFrame) :
    frameHandles (A ++ B) = frameHandles A ++ frameHandles B := by
  induction A with
  | nil => rfl
  | cons a A ih => simp [frameHandles, ih, List.append_assoc]

theorem handles_plug (fs : List CFrame) (t : HTree) :
    handles (fcPlug fs t) = frameHandles fs ++ handles t := by
  induction fs with
  | nil => rfl
  | cons fr fs ih =>
    simp [fcPlug, handles, frameHandles, handlesList_append, handlesList_singleton, ih, List.append_assoc]

theorem fcPlug_append (fs : List CFrame) (fr : CFrame) (t : HTree) :
    fcPlug (fs ++ [fr]) t = fcPlug fs (.node fr.h fr.v (fr.left ++ [t])) := by
  induction fs with
  | nil => rfl
  | cons a fs ih => simp [fcPlug, ih]

/-- Handle of the root of the plugged tree. -/
def plugRoot : List CFrame → HTree → Nat
  | [], t => t.handle
  | fr :: _, _ => fr.h

theorem handle_plug (fs : List CFrame) (t : HTree) : (fcPlug fs t).handle = plugRoot fs t := by
  cases fs <;> rfl

theorem plugRoot_mem (fs : List CFrame) (t : HTree) :
    plugRoot fs t ∈ frameHandles fs ++ [t.handle] := by
  cases fs with
  | nil => simp [plugRoot, frameHandles]
  | cons fr fs => simp [plugRoot, frameHandles]

/-! ### the primitives at (or below) the focus -/

theorem find?_node_ne {h h' : Nat} (v : Value) (ks : List HTree) (hne : h' ≠ h) :
    find? h (.node h' v ks) = findList? h ks := by
  simp [find?, hne]

theorem mapAt_node_ne {h h' : Nat} (g : HTree → HTree) (v : Value) (ks : List HTree) (hne : h' ≠ h) :
    mapAt h g (.node h' v ks) = .node h' v (mapAtList h g ks) := by
  simp [mapAt, hne]

theorem ancestorsOf_node_ne {h h' : Nat} (v : Value) (ks : List HTree) (hne : h' ≠ h) :
    ancestorsOf h (.node h' v ks) = (ancestorsOfList h ks).map (· ++ [h']) := by
  simp only [ancestorsOf, if_neg hne]
  cases ancestorsOfList h ks <;> rfl

theorem ancestorsOfList_singleton (h : Nat) (t : HTree) : ancestorsOfList h [t] = ancestorsOf h t := by
  simp only [ancestorsOfList]
  cases ancestorsOf h t <;> rfl

theorem find?_plug (h : Nat) (fs : List CFrame) (t : HTree) (hn : h ∉ frameHandles fs) :
    find? h (fcPlug fs t) = find? h t := by
  induction fs with
  | nil => rfl
  | cons fr fs ih =>
    simp only [frameHandles, List.mem_cons, List.mem_append, not_or] at hn
    simp only [fcPlug]
    rw [find?_node_ne _ _ (fun e => hn.1 e.symm), findList?_append_of_not_mem h _ _ hn.2.1,
      Fmap.findList?_singleton, ih hn.2.2]

theorem mapAt_plug (h : Nat) (g : HTree → HTree) (fs : List CFrame) (t : HTree)
    (hn : h ∉ frameHandles fs) : mapAt h g (fcPlug fs t) = fcPlug fs (mapAt h g t) := by
  induction fs with
  | nil => rfl
  | cons fr fs ih =>
    simp only [frameHandles, List.mem_cons, List.mem_append, not_or] at hn
    simp only [fcPlug]
    rw [mapAt_node_ne _ _ _ (fun e => hn.1 e.symm), mapAtList_append, mapAtList_of_not_mem h g _ hn.2.1]
    simp only [mapAtList]
    rw [ih hn.2.2]

theorem mapAt_self (h : Nat) (g : HTree → HTree) (v : Value) (ks : List HTree) :
    mapAt h g (.node h v ks) = g (.node h v ks) := by
  simp [mapAt]

theorem replaceBelow_plug (h : Nat) (f : HTree → List HTree) (fs : List CFrame) (c : Nat) (vc : Value)
    (K : List HTree) (hn : h ∉ frameHandles fs) (hc : h ≠ c) :
    replaceBelow h f (fcPlug fs (.node c vc K)) = fcPlug fs (.node c vc (replaceKids h f K)) := by
  induction fs with
  | nil => simp [fcPlug, replaceBelow]
  | cons fr fs ih =>
    simp only [frameHandles, List.mem_cons, List.mem_append, not_or] at hn
    simp only [fcPlug]
    rw [show ∀ p v ks, replaceBelow h f (.node p v ks) = .node p v (replaceKids h f ks) from
      fun _ _ _ => by simp [replaceBelow]]
    rw [replaceKids_append_of_not_mem h f _ _ hn.2.1]
    have hr : (fcPlug fs (.node c vc K)).handle ≠ h := by
      rw [handle_plug]
      intro e
      have := plugRoot_mem fs (.node c vc K)
      rw [e] at this
      simp only [List.mem_append, List.mem_singleton, HTree.handle] at this
      cases this with
      | inl h1 => exact hn.2.2 h1
      | inr h1 => exact hc h1
    simp only [replaceKids]
    rw [if_neg hr, ih hn.2.2]

theorem replaceKids_last (h : Nat) (f : HTree → List HTree) (K' : List HTree) (x : HTree)
    (hx : x.handle = h) (hn : h ∉ handlesList K') :
    replaceKids h f (K' ++ [x]) = K' ++ f x := by
  rw [replaceKids_append_of_not_mem h f _ _ hn]
  simp [replaceKids, hx]

theorem ancestorsOf_plug (fs : List CFrame) (t : HTree) (hn : t.handle ∉ frameHandles fs) :
    ancestorsOf t.handle (fcPlug fs t) = some (t.handle :: (fs.map (·.h)).reverse) := by
  induction fs with
  | nil =>
    cases t with
    | node h v ks => simp [fcPlug, ancestorsOf, HTree.handle]
  | cons fr fs ih =>
    simp only [frameHandles, List.mem_cons, List.mem_append, not_or] at hn
    simp only [fcPlug]
    rw [ancestorsOf_node_ne _ _ (fun e => hn.1 e.symm), ancestorsOfList_append_of_not_mem _ _ _ hn.2.1,
      ancestorsOfList_singleton, ih hn.2.2]
    simp

theorem ancestorsOf_plug_mem (fs : List CFrame) (t : HTree) (hn : t.handle ∉ frameHandles fs) :
    ∀ l, ancestorsOf t.handle (fcPlug fs t) = some l → ∀ a ∈ l, a = t.handle ∨ a ∈ frameHandles fs := by
  intro l hl a ha
  rw [ancestorsOf_plug fs t hn] at hl
  cases hl
  simp only [List.mem_cons, List.mem_reverse, List.mem_map] at ha
  cases ha with
  | inl h1 => exact Or.inl h1
  | inr h1 =>
    obtain ⟨fr, hfr, rfl⟩ := h1
    right
    clear hn
    induction fs with
    | nil => cases hfr
    | cons g fs ih =>
      simp only [frameHandles, List.mem_cons, List.mem_append]
      cases hfr with
      | head => exact Or.inl rfl
      | tail _ h2 => exact Or.inr (Or.inr (ih h2))

end XotModel

/-! ## The forest in the middle of `clone_node`

The old roots `R`, the work tree `fcPlug fs (node c vc K)` (focus = `current`) and the node just created
`node n v []`; what the queries and indextree primitives used by `any_append(current, new)` give on it. -/

namespace XotModel
open HTree

/-- Same store, other roots. -/
def Forest.withRoots (g : Forest) (rs : List HTree) : Forest := { g with roots := rs }

@[simp] theorem Forest.withRoots_roots (g : Forest) (rs : List HTree) : (g.withRoots rs).roots = rs := rfl
@[simp] theorem Forest.withRoots_next (g : Forest) (rs : List HTree) : (g.withRoots rs).next = g.next := rfl
@[simp] theorem Forest.withRoots_consolidation (g : Forest) (rs : List HTree) :
    (g.withRoots rs).consolidation = g.consolidation := rfl
@[simp] theorem Forest.withRoots_everOff (g : Forest) (rs : List HTree) : (g.withRoots rs).everOff = g.everOff := rfl
@[simp] theorem Forest.withRoots_corrupt (g : Forest) (rs : List HTree) : (g.withRoots rs).corrupt = g.corrupt := rfl
@[simp] theorem Forest.withRoots_withRoots (g : Forest) (a b : List HTree) :
    (g.withRoots a).withRoots b = g.withRoots b := rfl
theorem Forest.withRoots_self (g : Forest) : g.withRoots g.roots = g := rfl

/-- The state just after `new_node(value.clone())` inside the edge replay. -/
structure Work (g : Forest) (R : List HTree) (fs : List CFrame) (c : Nat) (vc : Value)
    (K : List HTree) (n : Nat) (v : Value) : Prop where
  roots : g.roots = R ++ [fcPlug fs (.node c vc K), .node n v []]
  nodup : (handlesList R ++ (frameHandles fs ++ c :: handlesList K)).Nodup
  fresh : n ∉ handlesList R ++ (frameHandles fs ++ c :: handlesList K)

namespace Work

variable {g : Forest} {R : List HTree} {fs : List CFrame} {c : Nat} {vc : Value} {K : List HTree}
  {n : Nat} {v : Value}

theorem cR (w : Work g R fs c vc K n v) : c ∉ handlesList R := by
  intro h
  have := (List.nodup_append.mp w.nodup).2.2 c h c (by simp)
  exact this rfl

theorem cF (w : Work g R fs c vc K n v) : c ∉ frameHandles fs := by
  intro h
  have h2 := (List.nodup_append.mp w.nodup).2.1
  have := (List.nodup_append.mp h2).2.2 c h c List.mem_cons_self
  exact this rfl

theorem cK (w : Work g R fs c vc K n v) : c ∉ handlesList K := by
  have h2 := (List.nodup_append.mp w.nodup).2.1
  have h3 := (List.nodup_append.mp h2).2.1
  exact (List.nodup_cons.mp h3).1

theorem nR (w : Work g R fs c vc K n v) : n ∉ handlesList R := fun h => w.fresh (by simp [h])
theorem nF (w : Work g R fs c vc K n v) : n ∉ frameHandles fs := fun h => w.fresh (by simp [h])
theorem nK (w : Work g R fs c vc K n v) : n ∉ handlesList K := fun h => w.fresh (by simp [h])
theorem nc (w : Work g R fs c vc K n v) : n ≠ c := fun h => w.fresh (by simp [h])

theorem nW (w : Work g R fs c vc K n v) : n ∉ handles (fcPlug fs (.node c vc K)) := by
  rw [handles_plug]
  simp only [handles, List.mem_append, List.mem_cons, not_or]
  exact ⟨w.nF, w.nc, w.nK⟩

/-- Handles of `K` are not handles of `R`, of the frames, nor `c`. -/
theorem kR (w : Work g R fs c vc K n v) {x : Nat} (hx : x ∈ handlesList K) : x ∉ handlesList R := by
  intro h
  exact (List.nodup_append.mp w.nodup).2.2 x h x (by simp [hx]) rfl

theorem kF (w : Work g R fs c vc K n v) {x : Nat} (hx : x ∈ handlesList K) : x ∉ frameHandles fs := by
  intro h
  have h2 := (List.nodup_append.mp w.nodup).2.1
  exact (List.nodup_append.mp h2).2.2 x h x (List.mem_cons_of_mem _ hx) rfl

theorem kc (w : Work g R fs c vc K n v) {x : Nat} (hx : x ∈ handlesList K) : x ≠ c :=
  fun e => w.cK (e ▸ hx)

theorem kn (w : Work g R fs c vc K n v) {x : Nat} (hx : x ∈ handlesList K) : x ≠ n :=
  fun e => w.nK (e ▸ hx)

theorem nodupK (w : Work g R fs c vc K n v) : (handlesList K).Nodup := by
  have h2 := (List.nodup_append.mp w.nodup).2.1
  have h3 := (List.nodup_append.mp h2).2.1
  exact (List.nodup_cons.mp h3).2

/-! #### queries -/

theorem get?_c (w : Work g R fs c vc K n v) : g.get? c = some (.node c vc K) := by
  unfold Forest.get?
  rw [w.roots, findList?_append_of_not_mem c _ _ w.cR]
  simp only [findList?]
  rw [find?_plug c fs _ w.cF, fc_find?_self]

theorem get?_n (w : Work g R fs c vc K n v) : g.get? n = some (.node n v []) := by
  unfold Forest.get?
  rw [w.roots, findList?_append_of_not_mem n _ _ w.nR, findList?_cons_of_not_mem n _ _ w.nW,
    fc_findList?_cons_self]

theorem value?_c (w : Work g R fs c vc K n v) : g.value? c = some vc := by
  simp [Forest.value?, w.get?_c, HTree.value]

theorem value?_n (w : Work g R fs c vc K n v) : g.value? n = some v := by
  simp [Forest.value?, w.get?_n, HTree.value]

theorem isElement_c (w : Work g R fs c vc K n v) : g.isElement c = vc.isElement := by
  simp [Forest.isElement, w.value?_c]

theorem isDocument_c (w : Work g R fs c vc K n v) : g.isDocument c = vc.isDocument := by
  simp [Forest.isDocument, w.value?_c]

theorem ctx?_n (w : Work g R fs c vc K n v) : g.ctx? n = none := by
  unfold Forest.ctx?
  rw [w.roots, List.findSome?_append, fc_findSome?_ctxBelow_none n R w.nR]
  simp [List.findSome?_cons, ctxBelow_none_of_not_mem n _ w.nW, ctxBelow, ctxKids]

theorem prevSibling_n (w : Work g R fs c vc K n v) : g.prevSibling n = none := by
  simp [Forest.prevSibling, w.ctx?_n]

theorem nextSibling_n (w : Work g R fs c vc K n v) : g.nextSibling n = none := by
  simp [Forest.nextSibling, w.ctx?_n]

theorem ancestors_c (w : Work g R fs c vc K n v) : g.ancestors c = c :: (fs.map (·.h)).reverse := by
  unfold Forest.ancestors
  rw [w.roots, List.findSome?_append, findSome?_ancestorsOf_none c R w.cR]
  have := ancestorsOf_plug fs (.node c vc K) (by simpa [HTree.handle] using w.cF)
  simp only [HTree.handle] at this
  simp [List.findSome?_cons, this]

theorem not_anc (w : Work g R fs c vc K n v) : (g.ancestors c).contains n = false := by
  rw [w.ancestors_c]
  simp only [List.contains_eq_mem, List.mem_cons, List.mem_reverse, List.mem_map, decide_eq_false_iff_not,
    not_or]
  refine ⟨w.nc, ?_⟩
  rintro ⟨fr, hfr, e⟩
  apply w.nF
  rw [← e]
  clear w
  induction fs with
  | nil => cases hfr
  | cons a fs ih =>
    simp only [frameHandles, List.mem_cons, List.mem_append]
    cases hfr with
    | head => exact Or.inl rfl
    | tail _ h2 => exact Or.inr (Or.inr (ih h2))

theorem isRoot_n (w : Work g R fs c vc K n v) : g.isRoot n = true := by
  unfold Forest.isRoot
  rw [w.roots]
  simp [HTree.handle]

theorem lastChild_nil (w : Work g R fs c vc [] n v) : g.lastChild c = none := by
  simp [Forest.lastChild, w.get?_c, HTree.kids]

theorem lastChild_snoc {K' : List HTree} {x : HTree} (w : Work g R fs c vc (K' ++ [x]) n v) :
    g.lastChild c = if x.value.isNormal then some x.handle else none := by
  simp [Forest.lastChild, w.get?_c, HTree.kids]

theorem rootW_ne_n (w : Work g R fs c vc K n v) : (fcPlug fs (.node c vc K)).handle ≠ n := by
  intro e
  exact w.nW (e ▸ handle_mem_handles _)

theorem cut_n (w : Work g R fs c vc K n v) :
    g.cut n = (g.withRoots (R ++ [fcPlug fs (.node c vc K)]), some (.node n v [])) := by
  unfold Forest.cut
  rw [w.get?_n]
  simp only [w.isRoot_n, if_true]
  rw [w.roots, List.filter_append, filter_handle_ne_of_not_mem n R w.nR]
  have h1 := w.rootW_ne_n
  have h2 : (HTree.node n v []).handle = n := rfl
  simp [List.filter_cons, h1, h2, Forest.withRoots]

end Work

/-! #### placing the new node -/

theorem placeLast_work (g : Forest) (R : List HTree) (fs : List CFrame) (c : Nat) (vc : Value)
    (K : List HTree) (t : HTree) (cR : c ∉ handlesList R) (cF : c ∉ frameHandles fs) :
    (g.withRoots (R ++ [fcPlug fs (.node c vc K)])).placeLast c t =
      g.withRoots (R ++ [fcPlug fs (.node c vc (K ++ [t]))]) := by
  unfold Forest.placeLast
  simp only [Forest.withRoots_roots, List.map_append, List.map_cons, List.map_nil]
  rw [map_mapAt_of_not_mem c _ R cR, mapAt_plug c _ fs _ cF, mapAt_self]
  rfl

theorem placeFirst_work (g : Forest) (R : List HTree) (fs : List CFrame) (c : Nat) (vc : Value)
    (K : List HTree) (t : HTree) (cR : c ∉ handlesList R) (cF : c ∉ frameHandles fs) :
    (g.withRoots (R ++ [fcPlug fs (.node c vc K)])).placeFirst c t =
      g.withRoots (R ++ [fcPlug fs (.node c vc (t :: K))]) := by
  unfold Forest.placeFirst
  simp only [Forest.withRoots_roots, List.map_append, List.map_cons, List.map_nil]
  rw [map_mapAt_of_not_mem c _ R cR, mapAt_plug c _ fs _ cF, mapAt_self]
  rfl

theorem placeAfter_work (g : Forest) (R : List HTree) (fs : List CFrame) (c : Nat) (vc : Value)
    (K' : List HTree) (x t : HTree) (rR : x.handle ∉ handlesList R) (rF : x.handle ∉ frameHandles fs)
    (rc : x.handle ≠ c) (rK : x.handle ∉ handlesList K') :
    (g.withRoots (R ++ [fcPlug fs (.node c vc (K' ++ [x]))])).placeAfter x.handle t =
      g.withRoots (R ++ [fcPlug fs (.node c vc (K' ++ [x, t]))]) := by
  unfold Forest.placeAfter
  simp only [Forest.withRoots_roots, List.map_append, List.map_cons, List.map_nil]
  rw [map_replaceBelow_of_not_mem _ _ R rR, replaceBelow_plug _ _ fs c vc _ rF rc,
    replaceKids_last _ _ K' x rfl rK]
  rfl

end XotModel

/-! ## `any_append(current, new)` inside the edge replay: a normal node appended -/

namespace XotModel
open HTree

namespace Work

variable {g : Forest} {R : List HTree} {fs : List CFrame} {c : Nat} {vc : Value} {K : List HTree}
  {n : Nat} {v : Value}

theorem descend {K' : List HTree} {m : Nat} {vm : Value} {mk : List HTree}
    (w : Work g R fs c vc (K' ++ [.node m vm mk]) n v) :
    Work g R (fs ++ [⟨c, vc, K'⟩]) m vm mk n v := by
  have e : frameHandles (fs ++ [⟨c, vc, K'⟩]) ++ m :: handlesList mk =
      frameHandles fs ++ c :: handlesList (K' ++ [.node m vm mk]) := by
    simp [frameHandles_append, frameHandles, handlesList_append, handlesList, handles]
  refine ⟨?_, ?_, ?_⟩
  · rw [w.roots, fcPlug_append]
  · rw [e]; exact w.nodup
  · rw [e]; exact w.fresh

theorem lastChild_ne (w : Work g R fs c vc K n v) : (g.lastChild c == some n) = false := by
  rcases List.eq_nil_or_concat K with rfl | ⟨K', x, rfl⟩
  · simp [w.lastChild_nil]
  · rw [List.concat_eq_append] at w
    rw [w.lastChild_snoc]
    have hx : x.handle ≠ n := w.kn (by
      rw [handlesList_append, handlesList_singleton]
      exact List.mem_append_right _ (handle_mem_handles x))
    by_cases hN : x.value.isNormal = true <;> simp [hN, hx]

theorem structureCheck_fresh (w : Work g R fs c vc K n v)
    (hvc : vc.isElement = true ∨ vc.isDocument = true)
    (hv : v.isNormal = true) (hnd : v.isDocument = false) :
    g.structureCheck (some c) n = true := by
  unfold Forest.structureCheck
  simp only [w.isElement_c, w.isDocument_c, w.not_anc, w.value?_n]
  cases v <;> simp_all [Value.isNormal, Value.category, Value.isDocument]

theorem checkedAppend_fresh (w : Work g R fs c vc K n v) :
    g.checkedAppend c n = (g.withRoots (R ++ [fcPlug fs (.node c vc (K ++ [.node n v []]))]), true) := by
  unfold Forest.checkedAppend
  have h1 : (c = n) = False := by simp [Ne.symm w.nc]
  simp only [h1, w.not_anc, decide_false, Bool.or_false, Bool.false_eq_true, if_false, w.cut_n]
  rw [placeLast_work g R fs c vc K _ w.cR w.cF]

theorem textOf_n (w : Work g R fs c vc K n v) :
    g.textOf n = (match v with | .text s => some s | _ => none) := by
  unfold Forest.textOf
  rw [w.value?_n]
  cases v <;> rfl

theorem textOf_last {K' : List HTree} {x : HTree} (w : Work g R fs c vc (K' ++ [x]) n v) :
    g.textOf x.handle = (match x.value with | .text s => some s | _ => none) := by
  cases x with
  | node m vm mk =>
    have w' := w.descend
    unfold Forest.textOf
    simp only [HTree.handle, HTree.value]
    rw [w'.value?_c]
    cases vm <;> rfl

theorem addConsolidate_plain (w : Work g R fs c vc K n v)
    (hnm : g.consolidation = false ∨ v.isText = false ∨
      ∀ K' x, K = K' ++ [x] → x.value.isText = false) :
    g.addConsolidate n (g.lastChild c) none = (g, false) := by
  rw [Forest.addConsolidate_eq_old_of_ne (by simpa using w.lastChild_ne) (by simp)]
  rcases Forest.addConsolidateOld_outcome g n (g.lastChild c) none with
    h | ⟨added, hc, hadd, ⟨p, ps, hp, hps, -⟩ | ⟨nx, ns, hnx, -, -⟩⟩
  · exact h
  · -- a merge into the last child: consolidation is on, both are text nodes
    exfalso
    rw [w.textOf_n] at hadd
    rcases hnm with h | h | h
    · rw [h] at hc; cases hc
    · cases v <;> simp [Value.isText] at h hadd
    · rcases List.eq_nil_or_concat K with rfl | ⟨K', x, rfl⟩
      · rw [w.lastChild_nil] at hp; cases hp
      · rw [List.concat_eq_append] at w h
        rw [w.lastChild_snoc] at hp
        split at hp
        · cases hp
          rw [w.textOf_last] at hps
          have := h K' x rfl
          cases hx : x.value <;> simp [hx, Value.isText] at this hps
        · cases hp
  · cases hnx

theorem append_plain (w : Work g R fs c vc K n v)
    (hvc : vc.isElement = true ∨ vc.isDocument = true)
    (hv : v.isNormal = true) (hnd : v.isDocument = false)
    (hnm : g.consolidation = false ∨ v.isText = false ∨
      ∀ K' x, K = K' ++ [x] → x.value.isText = false) :
    g.append c n = (g.withRoots (R ++ [fcPlug fs (.node c vc (K ++ [.node n v []]))]), .ok) := by
  unfold Forest.append
  simp only [w.structureCheck_fresh hvc hv hnd, w.lastChild_ne, w.prevSibling_n, w.nextSibling_n,
    Forest.removeConsolidate_none_left, w.addConsolidate_plain hnm, w.checkedAppend_fresh,
    Bool.not_true, Bool.false_eq_true, if_false, if_true]

end Work
end XotModel

/-! ## `any_append(current, new)`: a text node absorbed by the preceding text; namespace and attribute nodes -/

namespace XotModel
open HTree

namespace Work

variable {g : Forest} {R : List HTree} {fs : List CFrame} {c : Nat} {vc : Value} {K : List HTree}
  {n : Nat} {v : Value}

theorem isRoot_focus (w : Work g R fs c vc K n v) (hfs : fs ≠ []) : g.isRoot c = false := by
  cases fs with
  | nil => exact absurd rfl hfs
  | cons a fs' =>
    unfold Forest.isRoot
    rw [w.roots]
    have h1 : a.h ≠ c := by
      intro e
      apply w.cF
      simp [frameHandles, e]
    have h2 : (HTree.node n v []).handle = n := rfl
    have h3 : (fcPlug (a :: fs') (.node c vc K)).handle = a.h := rfl
    simp only [List.any_append, any_handle_eq_false_of_not_mem c R w.cR, List.any_cons, h2, h3,
      List.any_nil, Bool.or_false, Bool.false_or, h1, w.nc, decide_false]

theorem spliceOut_n (w : Work g R fs c vc K n v) :
    g.spliceOut n = g.withRoots (R ++ [fcPlug fs (.node c vc K)]) := by
  unfold Forest.spliceOut
  rw [w.get?_n]
  simp only [w.isRoot_n, if_true, HTree.kids, List.length_nil, Nat.zero_le, List.append_nil]
  rw [w.roots, List.filter_append, filter_handle_ne_of_not_mem n R w.nR]
  have h1 := w.rootW_ne_n
  have h2 : (HTree.node n v []).handle = n := rfl
  simp [List.filter_cons, h1, h2, Forest.withRoots]

theorem setValue_last {K' : List HTree} {m : Nat} {vm : Value} {mk : List HTree}
    (w : Work g R fs c vc (K' ++ [.node m vm mk]) n v) (val : Value) :
    g.setValue m val =
      g.withRoots (R ++ [fcPlug fs (.node c vc (K' ++ [.node m val mk])), .node n v []]) := by
  have w' := w.descend
  unfold Forest.setValue
  rw [w.roots]
  simp only [List.map_append, List.map_cons, List.map_nil]
  rw [map_mapAt_of_not_mem m _ R w'.cR]
  have e1 : fcPlug fs (.node c vc (K' ++ [.node m vm mk])) = fcPlug (fs ++ [⟨c, vc, K'⟩]) (.node m vm mk) := by
    rw [fcPlug_append]
  rw [e1, mapAt_plug m _ _ _ w'.cF, mapAt_self, fcPlug_append]
  have e2 : mapAt m (HTree.setValue val) (.node n v []) = .node n v [] :=
    mapAt_of_not_mem m _ _ (by simp [handles, handlesList, Ne.symm w'.nc])
  rw [e2]
  rfl

theorem reval_last {K' : List HTree} {m : Nat} {vm : Value} {mk : List HTree}
    (w : Work g R fs c vc (K' ++ [.node m vm mk]) n v) (val : Value) :
    Work (g.withRoots (R ++ [fcPlug fs (.node c vc (K' ++ [.node m val mk])), .node n v []]))
      R fs c vc (K' ++ [.node m val mk]) n v := by
  have e : handlesList (K' ++ [.node m val mk]) = handlesList (K' ++ [.node m vm mk]) := by
    simp [handlesList_append, handlesList, handles]
  refine ⟨rfl, ?_, ?_⟩
  · rw [e]; exact w.nodup
  · rw [e]; exact w.fresh

theorem append_merge {K' : List HTree} {m : Nat} {ps s : Str} {mk : List HTree}
    (w : Work g R fs c vc (K' ++ [.node m (.text ps) mk]) n (.text s))
    (hvc : vc.isElement = true ∨ vc.isDocument = true) (hc : g.consolidation = true) :
    g.append c n =
      (g.withRoots (R ++ [fcPlug fs (.node c vc (K' ++ [.node m (.text (ps ++ s)) mk]))]), .ok) := by
  unfold Forest.append
  have h1 : g.lastChild c = some m := by
    rw [w.lastChild_snoc]; simp [HTree.value, HTree.handle, Value.isNormal, Value.category]
  have h2 : g.textOf m = some ps := by
    have := w.textOf_last
    simpa [HTree.handle, HTree.value] using this
  have h3 : g.textOf n = some s := by rw [w.textOf_n]
  have h4 : g.addConsolidate n (some m) none =
      (g.withRoots (R ++ [fcPlug fs (.node c vc (K' ++ [.node m (.text (ps ++ s)) mk]))]), true) := by
    rw [Forest.addConsolidate_eq_old_of_ne (by simpa using Ne.symm w.descend.nc) (by simp)]
    unfold Forest.addConsolidateOld
    simp only [hc, Bool.not_true, Bool.false_eq_true, if_false, h3, h2]
    rw [w.setValue_last, (w.reval_last _).spliceOut_n]
    rfl
  have h5 : (some m == some n) = false := by
    have := w.descend.nc
    simp [Ne.symm this]
  simp only [w.structureCheck_fresh hvc rfl rfl, w.prevSibling_n, w.nextSibling_n,
    Forest.removeConsolidate_none_left, h1, h4, h5, Bool.not_true, Bool.false_eq_true, if_false, if_true]

/-! #### namespace / attribute nodes -/

theorem checkedPrepend_fresh (w : Work g R fs c vc K n v) :
    g.checkedPrepend c n = (g.withRoots (R ++ [fcPlug fs (.node c vc (.node n v [] :: K))]), true) := by
  unfold Forest.checkedPrepend
  have h1 : (c = n) = False := by simp [Ne.symm w.nc]
  simp only [h1, w.not_anc, decide_false, Bool.or_false, Bool.false_eq_true, if_false, w.cut_n]
  rw [placeFirst_work g R fs c vc K _ w.cR w.cF]

theorem checkedInsertAfter_last {K' : List HTree} {x : HTree} (w : Work g R fs c vc (K' ++ [x]) n v) :
    g.checkedInsertAfter x.handle n =
      (g.withRoots (R ++ [fcPlug fs (.node c vc (K' ++ [x, .node n v []]))]), true) := by
  cases x with
  | node m vm mk =>
    have w' := w.descend
    unfold Forest.checkedInsertAfter
    simp only [HTree.handle]
    have h1 : (m = n) = False := by simp [Ne.symm w'.nc]
    have h2 : g.isRoot m = false := w'.isRoot_focus (by simp)
    simp only [h1, if_false, w'.not_anc, h2, Bool.or_false, Bool.false_eq_true, w.cut_n]
    have hF : m ∉ frameHandles fs := fun h => w'.cF (by simp [frameHandles_append, h])
    have hcm : m ≠ c := fun e => w'.cF (by simp [frameHandles_append, frameHandles, e])
    have hK : m ∉ handlesList K' := fun h => w'.cF (by simp [frameHandles_append, frameHandles, h])
    have := placeAfter_work g R fs c vc K' (.node m vm mk) (.node n v []) w'.cR hF hcm hK
    simp only [HTree.handle] at this
    rw [this]

/-- Entry nodes always land at the end of what has been copied so far. -/
theorem mapPlace_fresh (w : Work g R fs c vc K n v) (k : Forest.MapKind)
    (hip : g.mapInsertionPoint k c = K.getLast?.map (·.handle)) :
    g.mapPlace k c n = (g.withRoots (R ++ [fcPlug fs (.node c vc (K ++ [.node n v []]))]), .ok) := by
  unfold Forest.mapPlace
  rw [hip]
  rcases List.eq_nil_or_concat K with rfl | ⟨K', x, rfl⟩
  · simp [w.checkedPrepend_fresh]
  · rw [List.concat_eq_append] at w ⊢
    simp [w.checkedInsertAfter_last]

theorem mapInsertNode_fresh (w : Work g R fs c vc K n v) (k : Forest.MapKind)
    (hm : k.matches v = true)
    (hget : g.mapGetNode k c (Forest.entryKey v) = none)
    (hip : g.mapInsertionPoint k c = K.getLast?.map (·.handle)) :
    g.mapInsertNode k c n =
      (g.withRoots (R ++ [fcPlug fs (.node c vc (K ++ [.node n v []]))]), .ok, n) := by
  unfold Forest.mapInsertNode
  simp [w.value?_n, hm, hget, w.mapPlace_fresh k hip]

theorem appendEntryNode_fresh (w : Work g R fs c vc K n v) (k : Forest.MapKind)
    (hvc : vc.isElement = true) (hm : k.matches v = true)
    (hget : g.mapGetNode k c (Forest.entryKey v) = none)
    (hip : g.mapInsertionPoint k c = K.getLast?.map (·.handle)) :
    g.appendEntryNode k c n =
      (g.withRoots (R ++ [fcPlug fs (.node c vc (K ++ [.node n v []]))]), .ok, n) := by
  unfold Forest.appendEntryNode
  simp [w.isElement_c, hvc, w.value?_n, hm, w.mapInsertNode_fresh k hm hget hip]

end Work
end XotModel

/-! ## One step of the edge replay = `snocClone`. -/

namespace XotModel
open HTree

/-- `v` may come next under a node with value `vc` whose (already copied) children are `K`:
    what structural validity of the source gives at each step of the replay. -/
def Admissible (vc : Value) (K : List HTree) (v : Value) : Prop :=
  match v with
  | .document => False
  | .namespace p _ =>
    vc.isElement = true ∧ (∀ k ∈ K, k.value.category = .namespace) ∧
      (∀ k ∈ K, Forest.entryKey k.value ≠ p)
  | .attribute a _ =>
    vc.isElement = true ∧ ∃ Kn Ka, K = Kn ++ Ka ∧ (∀ k ∈ Kn, k.value.category = .namespace) ∧
      (∀ k ∈ Ka, k.value.category = .attribute ∧ Forest.entryKey k.value ≠ a)
  | _ => vc.isElement = true ∨ vc.isDocument = true

theorem Admissible.not_document {vc : Value} {K : List HTree} {v : Value} (adm : Admissible vc K v) :
    v.isDocument = false := by
  cases v with
  | document => exact adm.elim
  | _ => rfl

theorem snocClone_cases (b : Bool) (K : List HTree) (t : HTree) :
    snocClone b K t = K ++ [t] ∨
    ∃ s K' m ps mk, b = true ∧ t.value = .text s ∧ K = K' ++ [.node m (.text ps) mk] ∧
      snocClone b K t = K' ++ [.node m (.text (ps ++ s)) mk] := by
  unfold snocClone
  split
  · next s m ps mk ht hl =>
    obtain ⟨K', rfl⟩ := List.getLast?_eq_some_iff.mp hl
    exact .inr ⟨s, K', m, ps, mk, rfl, ht, rfl, by rw [List.dropLast_concat]⟩
  · exact .inl rfl

theorem snocClone_off (K : List HTree) (t : HTree) : snocClone false K t = K ++ [t] := by
  simp [snocClone]

theorem snocClone_nontext (b : Bool) (K : List HTree) (t : HTree) (h : t.value.isText = false) :
    snocClone b K t = K ++ [t] := by
  unfold snocClone
  split
  · next ht _ => simp [ht, Value.isText] at h
  · rfl

theorem snocClone_merge (K' : List HTree) (m n : Nat) (ps s : Str) (mk : List HTree) :
    snocClone true (K' ++ [.node m (.text ps) mk]) (.node n (.text s) []) =
      K' ++ [.node m (.text (ps ++ s)) mk] := by
  simp [snocClone, HTree.value]

theorem snocClone_nomerge (b : Bool) (K : List HTree) (t : HTree)
    (h : ∀ K' x, K = K' ++ [x] → x.value.isText = false) : snocClone b K t = K ++ [t] := by
  unfold snocClone
  split
  · next hl =>
    obtain ⟨K', e⟩ := List.getLast?_eq_some_iff.mp hl
    exact absurd (h K' _ e) (by simp [HTree.value, Value.isText])
  · rfl

namespace Work

variable {g : Forest} {R : List HTree} {fs : List CFrame} {c : Nat} {vc : Value} {K : List HTree}
  {n : Nat} {v : Value}

theorem sect_ns (h : ∀ k ∈ K, k.value.category = .namespace) :
    Fmap.Sect (HTree.node c vc K).kids K [] [] :=
  ⟨by simp [HTree.kids], h, by simp, by simp⟩

theorem sect_attr {Kn Ka : List HTree} (hn : ∀ k ∈ Kn, k.value.category = .namespace)
    (ha : ∀ k ∈ Ka, k.value.category = .attribute) :
    Fmap.Sect (HTree.node c vc (Kn ++ Ka)).kids Kn Ka [] :=
  ⟨by simp [HTree.kids], hn, ha, by simp⟩

theorem mapGetNode_ns_none (w : Work g R fs c vc K n v) (p : Nat)
    (hc : ∀ k ∈ K, k.value.category = .namespace) (h : ∀ k ∈ K, Forest.entryKey k.value ≠ p) :
    g.mapGetNode .namespaces c p = none := by
  rw [Fmap.Sect.getNode w.get?_c (sect_ns hc), List.find?_eq_none]
  intro x hx
  simpa using h x hx

theorem mapIP_ns (w : Work g R fs c vc K n v) (h : ∀ k ∈ K, k.value.category = .namespace) :
    g.mapInsertionPoint .namespaces c = K.getLast?.map (·.handle) := by
  rw [Fmap.Sect.insertionPoint w.get?_c (sect_ns h)]
  simp only [Fmap.Sect.sec]
  cases K.getLast? <;> rfl

theorem mapGetNode_attr_none {Kn Ka : List HTree} (w : Work g R fs c vc (Kn ++ Ka) n v) (a : Nat)
    (hn : ∀ k ∈ Kn, k.value.category = .namespace)
    (ha : ∀ k ∈ Ka, k.value.category = .attribute ∧ Forest.entryKey k.value ≠ a) :
    g.mapGetNode .attributes c a = none := by
  rw [Fmap.Sect.getNode w.get?_c (sect_attr hn (fun k hk => (ha k hk).1)), List.find?_eq_none]
  intro x hx
  simpa using (ha x hx).2

theorem mapIP_attr {Kn Ka : List HTree} (w : Work g R fs c vc (Kn ++ Ka) n v)
    (hn : ∀ k ∈ Kn, k.value.category = .namespace)
    (ha : ∀ k ∈ Ka, k.value.category = .attribute) :
    g.mapInsertionPoint .attributes c = (Kn ++ Ka).getLast?.map (·.handle) := by
  rw [Fmap.Sect.insertionPoint w.get?_c (sect_attr hn ha), List.getLast?_append]
  simp only [Fmap.Sect.sec]
  cases Ka.getLast? <;> rfl

/-- One step of the replay: `any_append(current, new_node)` puts the new node where `snocClone`
    says, and does not fail. -/
theorem anyAppend_fresh12 (w : Work g R fs c vc K n v) (adm : Admissible vc K v) :
    ((g.anyAppend c n).1, (g.anyAppend c n).2.1) =
      (g.withRoots (R ++ [fcPlug fs (.node c vc (snocClone g.consolidation K (.node n v [])))]), .ok) := by
  unfold Forest.anyAppend
  rw [w.value?_n]
  cases v with
  | document => exact absurd adm (by simp [Admissible])
  | text s =>
    simp only
    by_cases hc : g.consolidation = true
    · by_cases hl : ∀ K' x, K = K' ++ [x] → x.value.isText = false
      · rw [w.append_plain adm rfl rfl (Or.inr (Or.inr hl)), snocClone_nomerge _ _ _ hl]
      · have : ∃ K' m ps mk, K = K' ++ [.node m (.text ps) mk] := by
          apply Classical.byContradiction
          intro hne
          apply hl
          intro K' x hK
          cases x with
          | node m vm mk =>
            cases vm <;> try rfl
            exact absurd ⟨K', m, _, mk, hK⟩ hne
        obtain ⟨K', m, ps, mk, rfl⟩ := this
        rw [w.append_merge adm hc, hc, snocClone_merge]
    · have hc' : g.consolidation = false := by simpa using hc
      rw [w.append_plain adm rfl rfl (Or.inl hc'), hc', snocClone_off]
  | «namespace» p ns =>
    simp only
    obtain ⟨h1, h2, h3⟩ := adm
    rw [w.appendEntryNode_fresh .namespaces h1 rfl (w.mapGetNode_ns_none p h2 h3) (w.mapIP_ns h2),
      snocClone_nontext _ _ _ rfl]
  | «attribute» a s =>
    simp only
    obtain ⟨h1, Kn, Ka, rfl, h2, h3⟩ := adm
    rw [w.appendEntryNode_fresh .attributes h1 rfl (w.mapGetNode_attr_none a h2 h3)
      (w.mapIP_attr h2 (fun k hk => (h3 k hk).1)), snocClone_nontext _ _ _ rfl]
  | _ =>
    simp only
    rw [w.append_plain adm rfl rfl (Or.inr (Or.inl rfl)), snocClone_nontext _ _ _ rfl]

/-- The answered handle is the new node, or the text node it was merged into. -/
theorem anyAppend_fresh (w : Work g R fs c vc K n v) (adm : Admissible vc K v) :
    ∃ h, g.anyAppend c n =
      (g.withRoots (R ++ [fcPlug fs (.node c vc (snocClone g.consolidation K (.node n v [])))]), .ok, h) := by
  have h := w.anyAppend_fresh12 adm
  refine ⟨(g.anyAppend c n).2.2, ?_⟩
  have h1 := congrArg Prod.fst h
  have h2 := congrArg Prod.snd h
  simp only at h1 h2
  rw [← h1, ← h2]

end Work
end XotModel
