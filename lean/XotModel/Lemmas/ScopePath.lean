/-
  Paths of raw child indices: `Tree.at?` one step down; declarations and attributes are read off the
  values of the children; `scopeModifyAt` (its equations, what stands at the path and above it
  afterwards, and `scopeModifyAt_rel`: a relation between the rewritten and the original subtree passes
  up to the root); folds over `scopeTraverse` one node at a time; `namespaces_in_scope` reads the
  declarations of the ancestor chain only; the ancestor-or-self chain one step up and one step down.
-/
import XotModel.Model.Scope

namespace XotModel

/-! ### `List.modify` -/

theorem modify_congr {α : Type} (l : List α) (i : Nat) (g g' : α → α)
    (h : ∀ a, l[i]? = some a → g a = g' a) : l.modify i g = l.modify i g' := by
  apply List.ext_getElem?
  intro j
  rw [List.getElem?_modify, List.getElem?_modify]
  cases hj : l[j]? with
  | none => rfl
  | some a =>
    by_cases hij : i = j
    · subst hij; simp [h a hj]
    · simp [hij]

theorem modify_eq_self {α : Type} (l : List α) (i : Nat) (g : α → α)
    (h : ∀ a, l[i]? = some a → g a = a) : l.modify i g = l :=
  (modify_congr l i g id h).trans (List.modify_id i l)

theorem map_value_modify (ks : List Tree) (i : Nat) (g : Tree → Tree)
    (h : ∀ k, ks[i]? = some k → (g k).value = k.value) :
    (ks.modify i g).map Tree.value = ks.map Tree.value := by
  induction ks generalizing i with
  | nil => simp
  | cons a ks ih =>
    cases i with
    | zero => simp [h a rfl]
    | succ i =>
      simp only [List.modify_succ_cons, List.map_cons]
      rw [ih i (fun k hk => h k hk)]

/-! ### Declarations and attributes are read off the values of the children -/

theorem nsDecls_of_values {v v' : Value} {ks ks' : List Tree} (h : ks.map Tree.value = ks'.map Tree.value) :
    (Tree.node v ks).nsDecls = (Tree.node v' ks').nsDecls := by
  have e : ∀ (w : Value) (l : List Tree), (Tree.node w l).nsDecls =
      ((l.map Tree.value).takeWhile (·.category == .namespace)).filterMap fun v => match v with
        | .namespace p n => some (p, n)
        | _ => none := by
    intro w l; rw [List.takeWhile_map, List.filterMap_map]; rfl
  rw [e, e, h]

theorem attrs_of_values {v v' : Value} {ks ks' : List Tree} (h : ks.map Tree.value = ks'.map Tree.value) :
    (Tree.node v ks).attrs = (Tree.node v' ks').attrs := by
  have e : ∀ (w : Value) (l : List Tree), (Tree.node w l).attrs =
      (((l.map Tree.value).dropWhile (·.category == .namespace)).takeWhile
        (·.category == .attribute)).filterMap fun v => match v with
          | .attribute n s => some (n, s)
          | _ => none := by
    intro w l; rw [List.dropWhile_map, List.takeWhile_map, List.filterMap_map]; rfl
  rw [e, e, h]

/-! ### `scopeModifyAt`, equations -/

theorem scopeModifyAt_nil (f : Tree → Tree) (t : Tree) : scopeModifyAt f t [] = f t := by
  cases t; rfl

theorem scopeModifyAt_cons (f : Tree → Tree) (v : Value) (ks : List Tree) (i : Nat) (p : Path) :
    scopeModifyAt f (.node v ks) (i :: p) = .node v (ks.modify i (fun k => scopeModifyAt f k p)) := rfl

theorem scopeModifyAt_congr (f g : Tree → Tree) : ∀ (path : Path) (t : Tree),
    (∀ x, t.at? path = some x → f x = g x) → scopeModifyAt f t path = scopeModifyAt g t path
  | [], t, h => by rw [scopeModifyAt_nil, scopeModifyAt_nil]; exact h t rfl
  | i :: p, .node v ks, h => by
    rw [scopeModifyAt_cons, scopeModifyAt_cons, modify_congr ks i _ _ fun k hk =>
      scopeModifyAt_congr f g p k (fun x hx => h x (by rw [Tree.at?, hk]; exact hx))]

theorem at?_scopeModifyAt_prefix (f : Tree → Tree) : ∀ (q r : Path) (t : Tree),
    (scopeModifyAt f t (q ++ r)).at? q = (t.at? q).map fun s => scopeModifyAt f s r
  | [], _, _ => rfl
  | i :: q, r, .node v ks => by
    rw [List.cons_append, scopeModifyAt_cons, Tree.at?, Tree.at?, List.getElem?_modify_eq]
    cases ks[i]? with
    | none => rfl
    | some k => exact at?_scopeModifyAt_prefix f q r k

theorem at?_scopeModifyAt (f : Tree → Tree) (path : Path) (t : Tree) :
    (scopeModifyAt f t path).at? path = (t.at? path).map f := by
  have := at?_scopeModifyAt_prefix f path [] t
  rw [List.append_nil, funext (scopeModifyAt_nil f)] at this
  exact this

theorem scopeModifyAt_const (f : Tree → Tree) (path : Path) (t E : Tree) (h : t.at? path = some E) :
    scopeModifyAt f t path = scopeModifyAt (fun _ => f E) t path :=
  scopeModifyAt_congr f (fun _ => f E) path t (fun x hx => by rw [h] at hx; cases hx; rfl)

theorem scopeModifyAt_id : ∀ (path : Path) (t E : Tree), t.at? path = some E →
    scopeModifyAt (fun _ => E) t path = t
  | [], t, E, h => by rw [scopeModifyAt_nil]; simp only [Tree.at?, Option.some.injEq] at h; exact h.symm
  | i :: p, .node v ks, E, h => by
    rw [scopeModifyAt_cons, modify_eq_self ks i _ fun k hk =>
      scopeModifyAt_id p k E (by rw [Tree.at?, hk] at h; exact h)]

theorem value_scopeModifyAt (f : Tree → Tree) : ∀ (path : Path) (t : Tree),
    (∀ x, t.at? path = some x → (f x).value = x.value) → (scopeModifyAt f t path).value = t.value
  | [], t, h => by rw [scopeModifyAt_nil]; exact h t rfl
  | _ :: _, .node _ _, _ => rfl

theorem nsDecls_scopeModifyAt_below (f : Tree → Tree) (i : Nat) (r : Path) (t : Tree)
    (h : ∀ x, t.at? (i :: r) = some x → (f x).value = x.value) :
    (scopeModifyAt f t (i :: r)).nsDecls = t.nsDecls := by
  cases t with
  | node v ks =>
    rw [scopeModifyAt_cons]
    exact nsDecls_of_values (map_value_modify ks i _ fun k hk =>
      value_scopeModifyAt f r k fun x hx => h x (by rw [Tree.at?, hk]; exact hx))

/-! ### Folds over `xot.traverse(node)`, one node at a time -/

theorem foldl_scopeTraverse {σ : Type} (step : σ → ScopeEdge → σ) (pre : Path) (v : Value)
    (ks : List Tree) (st : σ) :
    (scopeTraverse pre (.node v ks)).foldl step st =
      if v.isNormal then
        step ((scopeTraverse.go pre 0 ks).foldl step (step st (.start pre (.node v ks))))
          (.stop pre (.node v ks))
      else (scopeTraverse.go pre 0 ks).foldl step st := by
  unfold scopeTraverse
  split <;> simp [List.foldl_append]

theorem foldl_go_nil {σ : Type} (step : σ → ScopeEdge → σ) (pre : Path) (i : Nat) (st : σ) :
    (scopeTraverse.go pre i []).foldl step st = st := by
  simp [scopeTraverse.go]

theorem foldl_go_cons {σ : Type} (step : σ → ScopeEdge → σ) (pre : Path) (i : Nat) (k : Tree)
    (ks : List Tree) (st : σ) :
    (scopeTraverse.go pre i (k :: ks)).foldl step st =
      (scopeTraverse.go pre (i + 1) ks).foldl step ((scopeTraverse (pre ++ [i]) k).foldl step st) := by
  simp [scopeTraverse.go, List.foldl_append]

/-! ### `namespaces_in_scope` reads the declarations of the chain only -/

theorem traverseChain_congr : ∀ (c1 c2 : List Tree) (seen : List Nat),
    c1.map Tree.nsDecls = c2.map Tree.nsDecls → traverseChain seen c1 = traverseChain seen c2
  | [], [], _, _ => rfl
  | [], _ :: _, _, h => by simp at h
  | _ :: _, [], _, h => by simp at h
  | a :: r1, b :: r2, seen, h => by
    simp only [List.map_cons, List.cons.injEq] at h
    simp only [traverseChain, h.1, traverseChain_congr r1 r2 _ h.2]

theorem namespacesInScopeChain_congr (c1 c2 : List Tree) (h : c1.map Tree.nsDecls = c2.map Tree.nsDecls) :
    namespacesInScopeChain c1 = namespacesInScopeChain c2 := by
  unfold namespacesInScopeChain
  rw [traverseChain_congr c1 c2 [] h]

end XotModel

namespace XotModel.ScopePath

theorem at?_cons_eq_some {v : Value} {ks : List Tree} {i : Nat} {q : Path} {e : Tree} :
    (Tree.node v ks).at? (i :: q) = some e ↔ ∃ k, ks[i]? = some k ∧ k.at? q = some e := by
  rw [Tree.at?]
  cases ks[i]? <;> simp

theorem ancestorsOrSelf_cons_eq_some {t : Tree} {i : Nat} {q : Path} {chain : List Tree} :
    t.ancestorsOrSelf (i :: q) = some chain ↔
      ∃ k c, t.kids[i]? = some k ∧ k.ancestorsOrSelf q = some c ∧ chain = c ++ [t] := by
  rw [Tree.ancestorsOrSelf]
  constructor
  · intro h
    cases hk : t.kids[i]? with
    | none => rw [hk] at h; cases h
    | some k =>
      rw [hk] at h
      obtain ⟨c, hc, rfl⟩ := Option.map_eq_some_iff.1 h
      exact ⟨k, c, rfl, hc, rfl⟩
  · rintro ⟨k, c, hk, hc, rfl⟩
    simp only [hk, hc, Option.map_some]

theorem getElem?_of_map_eq_map_some {α β : Type} {l : List α} {f : α → Option β} {xs : List β}
    (h : l.map f = xs.map some) {i : Nat} {a : α} (ha : l[i]? = some a) :
    ∃ b, xs[i]? = some b ∧ f a = some b := by
  have := congrArg (·[i]?) h
  simp only [List.getElem?_map, ha, Option.map_some] at this
  cases hx : xs[i]? with
  | none => rw [hx] at this; cases this
  | some b => rw [hx] at this; exact ⟨b, rfl, Option.some.inj this⟩

/-- A relation `R` between the rewritten and the original tree that holds at the subtree `f` is
    applied to holds at the root, if it passes from a child to its parent: through the child list
    (`RL`: the changed child in front, or behind an unchanged one) and through the node. -/
theorem scopeModifyAt_rel {R : Tree → Tree → Prop} {RL : List Tree → List Tree → Prop}
    (f : Tree → Tree)
    (head : ∀ a a' l, R a' a → RL (a' :: l) (a :: l))
    (tail : ∀ a l l', RL l' l → RL (a :: l') (a :: l))
    (node : ∀ v l l', RL l' l → R (.node v l') (.node v l)) :
    ∀ (q : Path) (x sub : Tree), x.at? q = some sub → R (f sub) sub → R (scopeModifyAt f x q) x
  | [], x => by
    intro sub h hr
    cases h
    exact hr
  | i :: q, .node v l => by
    intro sub h hr
    obtain ⟨k, hk, hq⟩ := at?_cons_eq_some.1 h
    have ih := scopeModifyAt_rel f head tail node q k sub hq hr
    refine node v _ _ ?_
    clear h hq hr
    induction l generalizing i with
    | nil => cases hk
    | cons a l ihl =>
      cases i with
      | zero => cases hk; exact head _ _ _ ih
      | succ j => exact tail _ _ _ (ihl j hk)

theorem scopeModifyAt_of_at?_none (f : Tree → Tree) : ∀ (q : Path) (x : Tree), x.at? q = none →
    scopeModifyAt f x q = x
  | [], x, h => by cases h
  | i :: q, .node v l, h => by
    rw [scopeModifyAt, modify_eq_self]
    intro k hk
    apply scopeModifyAt_of_at?_none f q k
    rw [Tree.at?, hk] at h
    exact h

/-- `scopeModifyAt_rel` for a reflexive `R`: the path need not exist. -/
theorem scopeModifyAt_rel_refl {R : Tree → Tree → Prop} {RL : List Tree → List Tree → Prop}
    (f : Tree → Tree) (refl : ∀ t, R t t)
    (head : ∀ a a' l, R a' a → RL (a' :: l) (a :: l))
    (tail : ∀ a l l', RL l' l → RL (a :: l') (a :: l))
    (node : ∀ v l l', RL l' l → R (.node v l') (.node v l)) (q : Path) (x : Tree)
    (h : ∀ sub, x.at? q = some sub → R (f sub) sub) : R (scopeModifyAt f x q) x := by
  cases hs : x.at? q with
  | none => rw [scopeModifyAt_of_at?_none f q x hs]; exact refl x
  | some sub => exact scopeModifyAt_rel f head tail node q x sub hs (h sub hs)

end XotModel.ScopePath

/-! ### The ancestor-or-self chain -/

namespace XotModel
open ScopePath

theorem ancestorsOrSelf_ne_nil : ∀ (path : Path) (t : Tree) (chain : List Tree),
    t.ancestorsOrSelf path = some chain → chain ≠ []
  | [], t, chain, h => by cases h; exact List.cons_ne_nil _ _
  | i :: p, t, chain, h => by
    obtain ⟨k, c, _, _, rfl⟩ := ancestorsOrSelf_cons_eq_some.1 h
    exact List.append_ne_nil_of_right_ne_nil _ (List.cons_ne_nil _ _)

theorem ancestorsOrSelf_head : ∀ (path : Path) (t : Tree) (chain : List Tree),
    t.ancestorsOrSelf path = some chain → chain.head? = t.at? path
  | [], t, chain, h => by cases h; rfl
  | i :: p, .node v ks, chain, h => by
    obtain ⟨k, c, hk, hc, rfl⟩ := ancestorsOrSelf_cons_eq_some.1 h
    have hk' : ks[i]? = some k := hk
    simp only [Tree.at?, hk', ← ancestorsOrSelf_head p k c hc]
    cases c with
    | nil => exact absurd rfl (ancestorsOrSelf_ne_nil p k [] hc)
    | cons a r => rfl

theorem ancestorsOrSelf_snoc_eq_some : ∀ {p : Path} {t : Tree} {i : Nat} {el : Tree} {chain : List Tree},
    t.ancestorsOrSelf (p ++ [i]) = some (el :: chain) ↔
      t.ancestorsOrSelf p = some chain ∧ ∃ d, chain.head? = some d ∧ d.kids[i]? = some el
  | [], t, i, el, chain => by
    rw [List.nil_append, ancestorsOrSelf_cons_eq_some]
    constructor
    · rintro ⟨k, c, hk, hc, e⟩
      cases hc
      cases e
      exact ⟨rfl, t, rfl, hk⟩
    · rintro ⟨hc, d, hd, hk⟩
      cases hc
      cases hd
      exact ⟨el, [el], hk, rfl, rfl⟩
  | j :: p, t, i, el, chain => by
    rw [List.cons_append, ancestorsOrSelf_cons_eq_some, ancestorsOrSelf_cons_eq_some]
    constructor
    · rintro ⟨k, c, hk, hc, e⟩
      cases c with
      | nil => exact absurd rfl (ancestorsOrSelf_ne_nil _ k [] hc)
      | cons a c0 =>
        cases e
        obtain ⟨hc0, d, hd, hel⟩ := ancestorsOrSelf_snoc_eq_some.1 hc
        refine ⟨⟨k, c0, hk, hc0, rfl⟩, d, ?_, hel⟩
        cases c0 with
        | nil => cases hd
        | cons _ _ => exact hd
    · rintro ⟨⟨k, c0, hk, hc0, rfl⟩, d, hd, hel⟩
      cases c0 with
      | nil => exact absurd rfl (ancestorsOrSelf_ne_nil p k [] hc0)
      | cons a c1 => exact ⟨k, el :: a :: c1, hk, ancestorsOrSelf_snoc_eq_some.2 ⟨hc0, d, hd, hel⟩, rfl⟩

end XotModel
