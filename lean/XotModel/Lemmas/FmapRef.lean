/-
  Lemmas for C11: the reference map is a map — lookups after updates, keys stay
  distinct, `omRemove` drops every entry of the key.  (Pure list facts, no forest.)
-/
import XotModel.Model.FmapSpec

namespace XotModel
namespace Fmap

variable {β : Type}

theorem omKeys_insert_mem (m : OMap β) (k : Nat) (v : β) (x : Nat) :
    x ∈ omKeys (omInsert m k v) ↔ x ∈ omKeys m ∨ x = k := by
  induction m with
  | nil => simp [omInsert, omKeys]
  | cons a m ih =>
    obtain ⟨ka, va⟩ := a
    simp only [omInsert]
    split
    · rename_i h
      simp only [omKeys, List.map_cons, List.mem_cons]
      constructor
      · intro hx; exact Or.inl hx
      · intro hx
        rcases hx with hx | hx
        · exact hx
        · exact Or.inl (by rw [hx, h])
    · simp only [omKeys, List.map_cons, List.mem_cons] at ih ⊢
      rw [ih]
      constructor
      · rintro (h | h | h)
        · exact Or.inl (Or.inl h)
        · exact Or.inl (Or.inr h)
        · exact Or.inr h
      · rintro ((h | h) | h)
        · exact Or.inl h
        · exact Or.inr (Or.inl h)
        · exact Or.inr (Or.inr h)

theorem omWf_insert (m : OMap β) (k : Nat) (v : β) (h : omWf m) : omWf (omInsert m k v) := by
  induction m with
  | nil => simp [omInsert, omWf, omKeys]
  | cons a m ih =>
    obtain ⟨ka, va⟩ := a
    simp only [omWf, omKeys, List.map_cons, List.nodup_cons] at h
    simp only [omInsert]
    split
    · simp only [omWf, omKeys, List.map_cons, List.nodup_cons]; exact h
    · rename_i hne
      simp only [omWf, omKeys, List.map_cons, List.nodup_cons]
      refine ⟨?_, ih h.2⟩
      intro hx
      rcases (omKeys_insert_mem m k v ka).mp hx with hx | hx
      · exact h.1 hx
      · exact hne hx

theorem omKeys_remove_sublist (m : OMap β) (k : Nat) :
    (omKeys (omRemove m k)).Sublist (omKeys m) := by
  induction m with
  | nil => simp [omRemove, omKeys]
  | cons a m ih =>
    obtain ⟨ka, va⟩ := a
    simp only [omRemove]
    split
    · simp only [omKeys, List.map_cons]; exact List.sublist_cons_self _ _
    · simp only [omKeys, List.map_cons]; exact List.Sublist.cons_cons _ ih

theorem omWf_remove (m : OMap β) (k : Nat) (h : omWf m) : omWf (omRemove m k) :=
  List.Nodup.sublist (omKeys_remove_sublist m k) h

theorem omRemove_eq_filter (m : OMap β) (k : Nat) (h : omWf m) :
    omRemove m k = m.filter (fun p => p.1 != k) := by
  induction m with
  | nil => rfl
  | cons a m ih =>
    obtain ⟨ka, va⟩ := a
    simp only [omWf, omKeys, List.map_cons, List.nodup_cons] at h
    simp only [omRemove, List.filter_cons]
    split
    · rename_i hk
      subst hk
      simp only [bne_self_eq_false, Bool.false_eq_true, if_false]
      symm
      apply List.filter_eq_self.mpr
      intro p hp
      have : p.1 ≠ ka := fun hh => h.1 (hh ▸ List.mem_map.mpr ⟨p, hp, rfl⟩)
      simpa using this
    · rename_i hk
      have : (ka != k) = true := by simpa using hk
      simp only [this, if_true]
      rw [ih h.2]

theorem omGet_insert_self (m : OMap β) (k : Nat) (v : β) : omGet (omInsert m k v) k = some v := by
  induction m with
  | nil => simp [omInsert, omGet]
  | cons a m ih =>
    obtain ⟨ka, va⟩ := a
    simp only [omInsert]
    split
    · rename_i h; subst h; simp [omGet, List.lookup]
    · rename_i h
      have : (k == ka) = false := by simpa using fun hh : k = ka => h hh.symm
      simp only [omGet, List.lookup, this] at ih ⊢
      exact ih

theorem omGet_insert_other (m : OMap β) (k k' : Nat) (v : β) (hne : k' ≠ k) :
    omGet (omInsert m k v) k' = omGet m k' := by
  induction m with
  | nil =>
    have : (k' == k) = false := by simpa using hne
    simp [omInsert, omGet, List.lookup, this]
  | cons a m ih =>
    obtain ⟨ka, va⟩ := a
    simp only [omInsert]
    split
    · rename_i h
      subst h
      have : (k' == ka) = false := by simpa using hne
      simp [omGet, List.lookup, this]
    · simp only [omGet, List.lookup] at ih ⊢
      split
      · rfl
      · exact ih

theorem omGet_remove_other (m : OMap β) (k k' : Nat) (hne : k' ≠ k) :
    omGet (omRemove m k) k' = omGet m k' := by
  induction m with
  | nil => rfl
  | cons a m ih =>
    obtain ⟨ka, va⟩ := a
    simp only [omRemove]
    split
    · rename_i h
      subst h
      have : (k' == ka) = false := by simpa using hne
      simp [omGet, List.lookup, this]
    · simp only [omGet, List.lookup] at ih ⊢
      split
      · rfl
      · exact ih

theorem omGet_none_iff (m : OMap β) (k : Nat) : omGet m k = none ↔ k ∉ omKeys m := by
  induction m with
  | nil => simp [omGet, omKeys]
  | cons a m ih =>
    obtain ⟨ka, va⟩ := a
    simp only [omGet, List.lookup, omKeys, List.map_cons, List.mem_cons, not_or] at ih ⊢
    by_cases h : k = ka
    · subst h; simp
    · have : (k == ka) = false := by simpa using h
      simp only [this]
      rw [ih]
      exact ⟨fun hx => ⟨h, hx⟩, fun hx => hx.2⟩

theorem omGet_remove_self (m : OMap β) (k : Nat) (h : omWf m) : omGet (omRemove m k) k = none := by
  rw [omGet_none_iff, omRemove_eq_filter m k h]
  simp only [omKeys, List.mem_map, List.mem_filter, bne_iff_ne, ne_eq]
  rintro ⟨p, ⟨_, hp⟩, rfl⟩
  exact hp rfl

theorem omInsert_of_get_none (m : OMap β) (k : Nat) (v : β) (h : omGet m k = none) :
    omInsert m k v = m ++ [(k, v)] := by
  induction m with
  | nil => rfl
  | cons a m ih =>
    obtain ⟨ka, va⟩ := a
    simp only [omGet, List.lookup] at h ih
    simp only [omInsert]
    by_cases hk : k = ka
    · subst hk; simp at h
    · have hb : (k == ka) = false := by simpa using hk
      rw [hb] at h
      rw [if_neg (fun hh => hk hh.symm), ih h]
      rfl

theorem omModify_of_get_none (m : OMap β) (k : Nat) (g : β → β) (h : omGet m k = none) :
    omModify m k g = m := by
  induction m with
  | nil => rfl
  | cons a m ih =>
    obtain ⟨ka, va⟩ := a
    simp only [omGet, List.lookup] at h ih
    simp only [omModify]
    by_cases hk : k = ka
    · subst hk; simp at h
    · have hb : (k == ka) = false := by simpa using hk
      rw [hb] at h
      rw [if_neg (fun hh => hk hh.symm), ih h]

/-! ### Operations that do not lengthen the map -/

theorem omInsert_length_contains (m : OMap β) (key : Nat) (p : β)
    (h : omContainsKey m key = true) : (omInsert m key p).length = m.length := by
  induction m with
  | nil => simp [omContainsKey, omGet] at h
  | cons a m ih =>
    obtain ⟨ka, va⟩ := a
    simp only [omInsert]
    by_cases hk : ka = key
    · simp [hk]
    · simp only [if_neg hk, List.length_cons]
      have hb : (key == ka) = false := by simpa using fun hh : key = ka => hk hh.symm
      have : omContainsKey m key = true := by
        simp only [omContainsKey, omGet, List.lookup_cons, hb] at h ⊢
        exact h
      rw [ih this]

theorem omRemove_length_le (m : OMap β) (key : Nat) : (omRemove m key).length ≤ m.length := by
  induction m with
  | nil => simp [omRemove]
  | cons a m ih =>
    obtain ⟨ka, va⟩ := a
    simp only [omRemove]
    by_cases hk : ka = key
    · simp [hk]
    · simp only [if_neg hk, List.length_cons]; omega

theorem omKeys_modify (m : OMap β) (k : Nat) (g : β → β) : omKeys (omModify m k g) = omKeys m := by
  induction m with
  | nil => rfl
  | cons a m ih =>
    obtain ⟨ka, va⟩ := a
    simp only [omModify]
    split
    · rfl
    · simp only [omKeys, List.map_cons] at ih ⊢; rw [ih]

end Fmap
end XotModel
