/-
  A store with pairwise distinct handles in which the tree to be attached is a parentless tree (`RootAt f X tc Y`):
  lookup, context, ancestors and `cut` of that tree (it is located at the top level: `RootAt.loc`) and of every handle
  in the other trees.  Underneath: every handle `ancestorsOf` reports lies in the tree, and the list of all subtrees,
  in which `find?` is a search (so that distinct handles give unique lookup).
-/
import XotModel.Lemmas.HTreeBasic
import XotModel.Model.Fixed

/-! ### Small facts the routes use -/

namespace XotModel
open HTree

theorem ffx_of_not_normal {v : Value} (h : v.category ≠ .normal) :
    v.isText = false ∧ v.isDocument = false := by
  cases v <;> first | exact ⟨rfl, rfl⟩ | exact absurd rfl h

theorem ffx_findList?_cons_self (t : HTree) (b : List HTree) : findList? t.handle (t :: b) = some t := by
  unfold findList?; rw [find?_root]

theorem ffx_ancestorsOfList_none_of_not_mem (h : Nat) : ∀ ks : List HTree, h ∉ handlesList ks →
    ancestorsOfList h ks = none :=
  ancestorsOfList_none_of_not_mem h

mutual
  theorem ancestorsOf_subset (h : Nat) : ∀ (t : HTree) (l : List Nat), ancestorsOf h t = some l →
      ∀ x ∈ l, x ∈ handles t
    | .node h' v ks, l => by
      intro hl x hx
      unfold ancestorsOf at hl
      split at hl
      · cases hl; simp at hx; simp [handles, hx]
      · split at hl
        · rename_i l' hl'
          cases hl
          simp only [List.mem_append, List.mem_singleton] at hx
          cases hx with
          | inl hx => simp [handles, ancestorsOfList_subset h ks l' hl' x hx]
          | inr hx => simp [handles, hx]
        · cases hl
  theorem ancestorsOfList_subset (h : Nat) : ∀ (ks : List HTree) (l : List Nat),
      ancestorsOfList h ks = some l → ∀ x ∈ l, x ∈ handlesList ks
    | [], l => by intro hl; cases hl
    | k :: ks, l => by
      intro hl x hx
      unfold ancestorsOfList at hl
      cases hk : ancestorsOf h k with
      | some l' =>
        rw [hk] at hl
        cases hl
        simp [handlesList, ancestorsOf_subset h k l hk x hx]
      | none =>
        rw [hk] at hl
        simp [handlesList, ancestorsOfList_subset h ks l hl x hx]
end

end XotModel

/-! ### The list of all subtrees -/

namespace XotModel
open HTree

mutual
  /-- All subtrees, in document order (the tree itself first). -/
  def HTree.subtrees : HTree → List HTree
    | .node h v ks => .node h v ks :: subtreesList ks
  def HTree.subtreesList : List HTree → List HTree
    | [] => []
    | k :: ks => subtrees k ++ subtreesList ks
end

mutual
  theorem find?_eq_find (h : Nat) : ∀ t : HTree,
      find? h t = (subtrees t).find? (fun s => s.handle == h)
    | .node h' v ks => by
      unfold find?
      rw [subtrees, List.find?_cons]
      by_cases e : h' = h
      · simp [e, HTree.handle]
      · have : ((HTree.node h' v ks).handle == h) = false := by simp [HTree.handle, e]
        rw [this, if_neg e]
        exact findList?_eq_find h ks
  theorem findList?_eq_find (h : Nat) : ∀ ks : List HTree,
      findList? h ks = (subtreesList ks).find? (fun s => s.handle == h)
    | [] => rfl
    | k :: ks => by
      unfold findList?
      simp only [subtreesList, List.find?_append]
      rw [find?_eq_find h k, findList?_eq_find h ks]
      cases (subtrees k).find? (fun s => s.handle == h) <;> rfl
end

mutual
  theorem subtrees_trans : ∀ (t s : HTree), s ∈ subtrees t → ∀ x ∈ subtrees s, x ∈ subtrees t
    | .node h v ks, s => by
      intro hs x hx
      simp only [subtrees, List.mem_cons] at hs
      cases hs with
      | inl e => subst e; exact hx
      | inr hs =>
        simp only [subtrees, List.mem_cons]
        exact Or.inr (subtreesList_trans ks s hs x hx)
  theorem subtreesList_trans : ∀ (ks : List HTree) (s : HTree), s ∈ subtreesList ks →
      ∀ x ∈ subtrees s, x ∈ subtreesList ks
    | [], s => by intro hs; cases hs
    | k :: ks, s => by
      intro hs x hx
      simp only [subtreesList, List.mem_append] at hs ⊢
      cases hs with
      | inl hs => exact Or.inl (subtrees_trans k s hs x hx)
      | inr hs => exact Or.inr (subtreesList_trans ks s hs x hx)
end

end XotModel

/-! ### A parentless tree among trees with distinct handles -/

namespace XotModel
open HTree

/-- `tc` is a root of `f` (between the roots `X` and `Y`) and all handles are distinct. -/
structure RootAt (f : Forest) (X : List HTree) (tc : HTree) (Y : List HTree) : Prop where
  roots : f.roots = X ++ tc :: Y
  nodup : (handlesList f.roots).Nodup

theorem Forest.get?_kid {f : Forest} (nd : f.allHandles.Nodup) {p : Nat} {t k : HTree}
    (hg : f.get? p = some t) (hk : k ∈ t.kids) : f.get? k.handle = some k := by
  obtain ⟨path, l, r, lc⟩ := Loc.of_findList? nd hg
  obtain ⟨l', r', e⟩ := List.append_of_mem hk
  exact Forest.get?_of_loc (lc.kid e) nd

namespace RootAt
variable {f : Forest} {X Y : List HTree} {tc : HTree}

theorem handles_split (h : RootAt f X tc Y) :
    handlesList f.roots = handlesList X ++ (handles tc ++ handlesList Y) := by
  rw [h.roots, handlesList_append]; simp [handlesList]

theorem nodup' (h : RootAt f X tc Y) : (handlesList X ++ (handles tc ++ handlesList Y)).Nodup := by
  rw [← h.handles_split]; exact h.nodup

theorem not_mem_X (h : RootAt f X tc Y) : ∀ x ∈ handles tc, x ∉ handlesList X := by
  intro x hx hX
  have := (List.nodup_append.1 h.nodup').2.2 x hX x (List.mem_append_left _ hx)
  exact this rfl

theorem not_mem_Y (h : RootAt f X tc Y) : ∀ x ∈ handles tc, x ∉ handlesList Y := by
  intro x hx hY
  have h2 := (List.nodup_append.1 h.nodup').2.1
  exact (List.nodup_append.1 h2).2.2 x hx x hY rfl

theorem not_mem_rest (h : RootAt f X tc Y) : ∀ x ∈ handles tc, x ∉ handlesList (X ++ Y) := by
  intro x hx
  rw [handlesList_append, List.mem_append, not_or]
  exact ⟨h.not_mem_X x hx, h.not_mem_Y x hx⟩

theorem nodup_rest (h : RootAt f X tc Y) : (handlesList (X ++ Y)).Nodup := by
  rw [handlesList_append]
  have h1 := List.nodup_append.1 h.nodup'
  have h2 := List.nodup_append.1 h1.2.1
  refine List.nodup_append.2 ⟨h1.1, h2.2.1, ?_⟩
  intro a ha b hb
  exact h1.2.2 a ha b (List.mem_append_right _ hb)

theorem rest_not_mem_tc (h : RootAt f X tc Y) {p : Nat} (hp : p ∈ handlesList (X ++ Y)) :
    p ∉ handles tc := fun hx => h.not_mem_rest p hx hp

theorem loc (h : RootAt f X tc Y) : Loc f.roots tc.handle [] X tc Y := ⟨h.roots, rfl⟩

theorem get?_self (h : RootAt f X tc Y) : f.get? tc.handle = some tc :=
  Forest.get?_of_loc h.loc h.nodup

theorem get?_rest (h : RootAt f X tc Y) {p : Nat} (hp : p ∈ handlesList (X ++ Y)) :
    f.get? p = findList? p (X ++ Y) := by
  unfold Forest.get?
  rw [h.roots, Fmap.findList?_append, Fmap.findList?_append, findList?_cons_of_not_mem _ _ _ (h.rest_not_mem_tc hp)]

theorem ctx?_self (h : RootAt f X tc Y) : f.ctx? tc.handle = none :=
  Forest.ctx?_of_loc_nil h.loc h.nodup

/-- indextree `detach` of a root: the tree leaves the root list. -/
theorem cut_self (h : RootAt f X tc Y) :
    f.cut tc.handle = ({ f with roots := X ++ Y }, some tc) :=
  Forest.cut_of_loc h.loc h.nodup

theorem ancestors_rest (h : RootAt f X tc Y) {p : Nat} (hp : p ∈ handlesList (X ++ Y)) :
    tc.handle ∉ f.ancestors p := by
  have hn := h.rest_not_mem_tc hp
  unfold Forest.ancestors
  rw [h.roots, List.findSome?_append, List.findSome?_cons, ancestorsOf_none_of_not_mem p tc hn]
  intro hmem
  -- the answer comes from X or Y
  have key : ∀ (Z : List HTree), (∀ r ∈ Z, r ∈ X ++ Y) → ∀ l, Z.findSome? (ancestorsOf p) = some l →
      tc.handle ∉ l := by
    intro Z hZ l hl hm
    obtain ⟨r, hr, hrl⟩ := List.exists_of_findSome?_eq_some hl
    have := ancestorsOf_subset p r l hrl _ hm
    exact h.not_mem_rest _ (handle_mem_handles tc) (Fws.mem_handlesList.2 ⟨r, hZ r hr, this⟩)
  cases hx : X.findSome? (ancestorsOf p) with
  | some l =>
    rw [hx] at hmem
    exact key X (fun r hr => List.mem_append_left _ hr) l hx (by simpa using hmem)
  | none =>
    rw [hx] at hmem
    cases hy : Y.findSome? (ancestorsOf p) with
    | some l =>
      rw [hy] at hmem
      exact key Y (fun r hr => List.mem_append_right _ hr) l hy (by simpa using hmem)
    | none => rw [hy] at hmem; simp at hmem

end RootAt
end XotModel
