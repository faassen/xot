/-
  `append` of a parentless tree to a parent that lives anywhere in the other trees (`RootAt.append_spec`), and, for a
  parent that is itself a parentless tree given by its shape, `append`, `checked_prepend`, `checked_insert_after/before`
  next to a child and placement at the end after a given last child.
-/
import XotModel.Lemmas.FfixedRootAt
import XotModel.Lemmas.ManipShape

/-! ### `append` of a parentless tree into another tree

`append(parent, child)` when `child` is a root of a forest with distinct handles and `parent`
lives in another tree: the child's tree becomes the last child of `parent`, nothing else moves. -/

namespace XotModel
open HTree

namespace Forest

theorem addConsolidate_of_textOf_none (f : Forest) (node : Nat) (prev next : Option Nat)
    (h : f.textOf node = none) : f.addConsolidate node prev next = (f, false) := by
  rw [addConsolidate_eq_old]; exact addConsolidateOld_not_text h _ _

theorem addConsolidate_off_ff (f : Forest) (node : Nat) (prev next : Option Nat)
    (h : f.consolidation = false) : f.addConsolidate node prev next = (f, false) := by
  rw [addConsolidate_eq_old]; exact addConsolidateOld_off h _ _ _

theorem lastChild_eq {f : Forest} {p : Nat} {tp : HTree} (hg : f.get? p = some tp) :
    f.lastChild p = tp.kids.getLast?.bind (fun k => if k.value.isNormal then some k.handle else none) := by
  unfold lastChild; rw [hg]
  cases hk : tp.kids.getLast? <;> simp [hk]

end Forest

namespace RootAt
variable {f : Forest} {X Y : List HTree} {tc : HTree}

theorem kid_handle_ne {p : Nat} {tp k : HTree} (h : RootAt f X tc Y)
    (hp : findList? p (X ++ Y) = some tp) (hk : k ∈ tp.kids) : k.handle ≠ tc.handle := by
  intro e
  apply h.not_mem_rest tc.handle (handle_mem_handles tc)
  rw [← e]
  exact (findList?_sublist p _ tp hp).subset ((Fmap.handles_kid_sublist hk).subset (handle_mem_handles k))

theorem structureCheck_ok (h : RootAt f X tc Y) {p : Nat} {tp : HTree}
    (hp : findList? p (X ++ Y) = some tp)
    (hpv : tp.value.isElement = true ∨ tp.value.isDocument = true)
    (hcn : tc.value.isNormal = true) (hcd : tc.value.isDocument = false) :
    f.structureCheck (some p) tc.handle = true := by
  have hpm := mem_of_findList?_some hp
  have hget : f.get? p = some tp := by rw [h.get?_rest hpm]; exact hp
  have hvp := Prog2.value_of_get hget
  have hvc := Prog2.value_of_get h.get?_self
  have hanc : (f.ancestors p).contains tc.handle = false := by
    simpa using h.ancestors_rest hpm
  unfold Forest.structureCheck
  simp only [Forest.isElement, Forest.isDocument, hvp, hvc, hanc, Option.map_some]
  have h1 : (tp.value.isElement || tp.value.isDocument) = true := by
    rcases hpv with h | h <;> simp [h]
  generalize tc.value = v at hcn hcd
  cases v <;> first | exact Bool.noConfusion hcd | exact Bool.noConfusion hcn | simpa using h1

/-- A parentless tree has no neighbours: nothing is consolidated where it was. -/
theorem afterOldSite_self (h : RootAt f X tc Y) : f.afterOldSite tc.handle = f :=
  Forest.afterOldSite_of_prevSibling_none (by unfold Forest.prevSibling; rw [h.ctx?_self])

theorem addConsolidate_self (h : RootAt f X tc Y) (prev next : Option Nat)
    (hp : f.consolidation = true → tc.value.isText = true → ∀ p, prev = some p → f.textOf p = none)
    (hn : f.consolidation = true → tc.value.isText = true → ∀ n, next = some n → f.textOf n = none) :
    f.addConsolidate tc.handle prev next = (f, false) := by
  cases hc : f.consolidation with
  | false => exact Forest.addConsolidate_off_ff _ _ _ _ hc
  | true =>
    cases ht : tc.value.isText with
    | false =>
      exact Forest.addConsolidate_of_textOf_none _ _ _ _
        (Forest.textOf_eq_none_of_value (Prog2.value_of_get h.get?_self) ht)
    | true => exact Forest.addConsolidate_none (hp hc ht) (hn hc ht)

/-- **A move of a parentless tree, after its guards, is its placement** (`Forest.moveTail`: the common part of
    the four moves), when the tree is not merged into a text neighbour at the new place. -/
theorem moveTail_self (h : RootAt f X tc Y) (prev next : Forest → Option Nat) (k : Forest → Forest × Bool)
    (hp : f.consolidation = true → tc.value.isText = true → ∀ p, prev f = some p → f.textOf p = none)
    (hn : f.consolidation = true → tc.value.isText = true → ∀ n, next f = some n → f.textOf n = none)
    {f' : Forest} (hk : k f = (f', true)) : f.moveTail tc.handle prev next k = (f', .ok) :=
  Forest.moveTail_of_placed h.afterOldSite_self (h.addConsolidate_self _ _ hp hn) hk

/-- `append` of a root into another tree. -/
theorem append_spec (h : RootAt f X tc Y) {p : Nat} {tp : HTree}
    (hp : findList? p (X ++ Y) = some tp)
    (hpv : tp.value.isElement = true ∨ tp.value.isDocument = true)
    (hcn : tc.value.isNormal = true) (hcd : tc.value.isDocument = false)
    (htext : f.consolidation = true → tc.value.isText = true →
        ∀ k, tp.kids.getLast? = some k → k.value.isText = false) :
    f.append p tc.handle =
      ({ f with roots := (X ++ Y).map (mapAt p (fun n => n.setKids (n.kids ++ [tc]))) }, .ok) := by
  have hpm := mem_of_findList?_some hp
  have hget : f.get? p = some tp := by rw [h.get?_rest hpm]; exact hp
  have hlast : (f.lastChild p == some tc.handle) = false := by
    rw [Forest.lastChild_eq hget]
    cases hk : tp.kids.getLast? with
    | none => simp
    | some k =>
      have hne := h.kid_handle_ne hp (List.mem_of_getLast? hk)
      simp only [Option.bind_some]
      split <;> simp [hne]
  have hplace : f.checkedAppend p tc.handle =
      ({ f with roots := (X ++ Y).map (mapAt p (fun n => n.setKids (n.kids ++ [tc]))) }, true) := by
    have hanc : (f.ancestors p).contains tc.handle = false := by simpa using h.ancestors_rest hpm
    have hne : ¬ (p = tc.handle) := fun e => h.rest_not_mem_tc hpm (e ▸ handle_mem_handles tc)
    unfold Forest.checkedAppend
    simp only [hanc, h.cut_self, Bool.or_false, hne, decide_false, Bool.false_eq_true, if_false]
    rfl
  rw [Forest.append_eq]
  simp only [h.structureCheck_ok hp hpv hcn hcd, hlast, Bool.not_true, Bool.false_eq_true, if_false]
  refine h.moveTail_self _ _ _ ?_ (fun _ _ n (e : none = some n) => nomatch e) hplace
  -- the last child, the only new neighbour, is not text
  intro hc ht l hl
  rw [Forest.lastChild_eq hget] at hl
  cases hk : tp.kids.getLast? with
  | none => rw [hk] at hl; cases hl
  | some k =>
    rw [hk, Option.bind_some] at hl
    split at hl
    · cases hl
      exact Forest.textOf_eq_none_of_value
        (Prog2.value_of_get (Forest.get?_kid h.nodup hget (List.mem_of_getLast? hk))) (htext hc ht k hk)
    · cases hl

end RootAt
end XotModel

/-! ### Placement into a parentless parent given by its shape

Placement of a root `tc` into a *root* parent `node p v ks` (explicit shape of the root list): after the cut the
parent is located at the top level of the other trees and its children one level down (`loc_root`, `loc_kid`), so
`append`, `checked_prepend`, `checked_insert_after/before` next to a child of that parent are the zipper's placements;
"place at the end given the last child as insertion point" is shared by node-map `insert` and `prepend` into a parent
without normal children. -/

namespace XotModel
open HTree

namespace RootAt
variable {f : Forest} {X Y : List HTree} {tc : HTree}

theorem ne_of_rest (h : RootAt f X tc Y) {x : Nat} (hx : x ∈ handlesList (X ++ Y)) : x ≠ tc.handle :=
  fun e => h.rest_not_mem_tc hx (e ▸ handle_mem_handles tc)

theorem loc_root {A B ks : List HTree} {p : Nat} {v : Value} (hXY : X ++ Y = A ++ HTree.node p v ks :: B) :
    Loc (X ++ Y) p [] A (HTree.node p v ks) B := ⟨hXY, rfl⟩

theorem loc_kid {A B k1 k2 : List HTree} {p : Nat} {v : Value} {r : HTree}
    (hXY : X ++ Y = A ++ HTree.node p v (k1 ++ r :: k2) :: B) :
    Loc (X ++ Y) r.handle [⟨A, p, v, B⟩] k1 r k2 := ⟨hXY, rfl⟩

theorem mem_rest_of_loc {x : Nat} {path : List ZipFrame} {l r : List HTree} {k : HTree}
    (lc : Loc (X ++ Y) x path l k r) : x ∈ handlesList (X ++ Y) := by
  rw [lc.eq, mem_handlesList_plug, handlesList_append, handlesList_cons, ← lc.hk]
  exact Or.inr (List.mem_append_right _ (List.mem_append_left _ (handle_mem_handles k)))

/-- `append` of the root `tc` to the root `p`. -/
theorem append_root (h : RootAt f X tc Y) {A B ks : List HTree} {p : Nat} {v : Value}
    (hXY : X ++ Y = A ++ HTree.node p v ks :: B)
    (hpv : v.isElement = true ∨ v.isDocument = true)
    (hcn : tc.value.isNormal = true) (hcd : tc.value.isDocument = false)
    (htext : f.consolidation = true → tc.value.isText = true →
        ∀ k, ks.getLast? = some k → k.value.isText = false) :
    f.append p tc.handle = ({ f with roots := A ++ HTree.node p v (ks ++ [tc]) :: B }, .ok) := by
  have lc := loc_root hXY
  rw [h.append_spec (lc.findList?_eq h.nodup_rest) hpv hcn hcd htext, ← mapAtList_eq_map,
    lc.mapAtList_eq h.nodup_rest]
  rfl

/-- `checked_prepend` of the root `tc` under the root `p`. -/
theorem checkedPrepend_root (h : RootAt f X tc Y) {A B ks : List HTree} {p : Nat} {v : Value}
    (hXY : X ++ Y = A ++ HTree.node p v ks :: B) :
    f.checkedPrepend p tc.handle = ({ f with roots := A ++ HTree.node p v (tc :: ks) :: B }, true) := by
  have lc := loc_root hXY
  have hpm := mem_rest_of_loc lc
  have hanc : (f.ancestors p).contains tc.handle = false := by simpa using h.ancestors_rest hpm
  have hne : ¬ (p = tc.handle) := h.ne_of_rest hpm
  unfold Forest.checkedPrepend
  simp only [hanc, h.cut_self, Bool.or_false, hne, decide_false, Bool.false_eq_true, if_false]
  rw [Forest.placeFirst_of_loc (f := { f with roots := X ++ Y }) tc lc h.nodup_rest]
  rfl

theorem isRoot_kid (h : RootAt f X tc Y) {A B k1 k2 : List HTree} {p : Nat} {v : Value} {r : HTree}
    (hXY : X ++ Y = A ++ HTree.node p v (k1 ++ r :: k2) :: B) : f.isRoot r.handle = false := by
  have lc := loc_kid hXY
  -- not a root among the other trees, and not `tc`
  have hrest := Forest.isRoot_of_loc_cons (f := { f with roots := X ++ Y }) lc h.nodup_rest
  have hc : ¬ (tc.handle = r.handle) := fun e => h.ne_of_rest (mem_rest_of_loc lc) e.symm
  unfold Forest.isRoot at hrest ⊢
  rw [h.roots, List.any_append, List.any_cons]
  rw [List.any_append, Bool.or_eq_false_iff] at hrest
  simp [hrest.1, hrest.2, hc]

/-- `checked_insert_after(r, tc)` with `r` a child of the root `p`. -/
theorem checkedInsertAfter_kid (h : RootAt f X tc Y) {A B k1 k2 : List HTree} {p : Nat} {v : Value}
    {r : HTree} (hXY : X ++ Y = A ++ HTree.node p v (k1 ++ r :: k2) :: B) :
    f.checkedInsertAfter r.handle tc.handle =
      ({ f with roots := A ++ HTree.node p v (k1 ++ r :: tc :: k2) :: B }, true) := by
  have lc := loc_kid hXY
  have hrm := mem_rest_of_loc lc
  have hanc : (f.ancestors r.handle).contains tc.handle = false := by
    simpa using h.ancestors_rest hrm
  have hne : ¬ (r.handle = tc.handle) := h.ne_of_rest hrm
  unfold Forest.checkedInsertAfter
  simp only [hne, if_false, hanc, h.isRoot_kid hXY, Bool.or_false, Bool.false_eq_true, h.cut_self]
  rw [Forest.placeAfter_of_loc (f := { f with roots := X ++ Y }) tc lc h.nodup_rest]
  rfl

/-- `checked_insert_before(r, tc)` with `r` a child of the root `p`. -/
theorem checkedInsertBefore_kid (h : RootAt f X tc Y) {A B k1 k2 : List HTree} {p : Nat} {v : Value}
    {r : HTree} (hXY : X ++ Y = A ++ HTree.node p v (k1 ++ r :: k2) :: B) :
    f.checkedInsertBefore r.handle tc.handle =
      ({ f with roots := A ++ HTree.node p v (k1 ++ tc :: r :: k2) :: B }, true) := by
  have lc := loc_kid hXY
  have hrm := mem_rest_of_loc lc
  have hanc : (f.ancestors r.handle).contains tc.handle = false := by
    simpa using h.ancestors_rest hrm
  have hne : ¬ (r.handle = tc.handle) := h.ne_of_rest hrm
  unfold Forest.checkedInsertBefore
  simp only [hne, if_false, hanc, h.isRoot_kid hXY, Bool.or_false, Bool.false_eq_true, h.cut_self]
  rw [Forest.placeBefore_of_loc (f := { f with roots := X ++ Y }) tc lc h.nodup_rest]
  rfl

/-- Insertion after the last child, or `checked_prepend` when there is none: `tc` becomes the
    last child. -/
theorem placeAtEnd (h : RootAt f X tc Y) {A B ks : List HTree} {p : Nat} {v : Value}
    (hXY : X ++ Y = A ++ HTree.node p v ks :: B) :
    (∀ l, ks.getLast? = some l → f.checkedInsertAfter l.handle tc.handle =
      ({ f with roots := A ++ HTree.node p v (ks ++ [tc]) :: B }, true)) ∧
    (ks.getLast? = none → f.checkedPrepend p tc.handle =
      ({ f with roots := A ++ HTree.node p v (ks ++ [tc]) :: B }, true)) := by
  refine ⟨?_, ?_⟩
  · intro l hl
    obtain ⟨k1, rfl⟩ := List.getLast?_eq_some_iff.1 hl
    rw [h.checkedInsertAfter_kid (k2 := []) hXY]
    simp
  · intro hl
    have : ks = [] := List.getLast?_eq_none_iff.1 hl
    subst this
    exact h.checkedPrepend_root hXY

end RootAt
end XotModel
