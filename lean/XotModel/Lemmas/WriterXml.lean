/-
  The XML Write entry point in front of a failing writer
  (`serializeXmlWriteW`): it is its call trace replayed (`serializeXmlWriteW_eq_replayCalls`), and the trace's
  calls concatenated / its end are the never-failing model of `XmlDecl.lean`
  (`serializeXmlCalls_eq`), so every theorem about `serializeXmlWriteWith` speaks about the
  unlimited-budget instance (`serializeXmlWriteW_unlimited`).
-/
import XotModel.Model.XmlDecl
import XotModel.Lemmas.Writer

namespace XotModel
open Gen

theorem tokenCalls_flatten (k : OutputToken) : (tokenCalls k).flatten = tokenBytes k := by
  unfold tokenCalls tokenBytes
  cases k.space <;> simp

/-- `serialize`: the calls concatenated are the bytes of the never-failing model, same end. -/
theorem writeGoCalls_eq (esc : Escapers) (env : Env) (pr : TokenParams) (t : Tree) (s : FStack)
    (outs : List (Path × Output)) :
    ((writeGoCalls esc env pr t s outs).1.flatten, (writeGoCalls esc env pr t s outs).2)
      = writeGoWith esc env pr t s outs := by
  induction outs generalizing s with
  | nil => simp [writeGoCalls, callsLoop, writeGoWith]
  | cons po rest ih =>
    obtain ⟨p, o⟩ := po
    unfold writeGoCalls at ih ⊢
    simp only [callsLoop, writeGoWith, nodeStepCalls]
    cases hr : renderAtWith esc env pr t s p o with
    | ok v =>
      obtain ⟨s', tok⟩ := v
      simp only [List.flatten_append, tokenCalls_flatten]
      rw [← ih s']
    | err e => simp
    | panic => simp

theorem writePrettyGoCalls_eq (esc : Escapers) (env : Env) (pr : TokenParams) (sup : List Nat)
    (t : Tree) (ps : PStack) (s : FStack) (outs : List (Path × Output)) :
    ((writePrettyGoCalls esc env pr sup t (ps, s) outs).1.flatten,
      (writePrettyGoCalls esc env pr sup t (ps, s) outs).2)
      = writePrettyGoWith esc env pr sup t ps s outs := by
  induction outs generalizing ps s with
  | nil => simp [writePrettyGoCalls, callsLoop, writePrettyGoWith]
  | cons po rest ih =>
    obtain ⟨p, o⟩ := po
    unfold writePrettyGoCalls at ih ⊢
    simp only [callsLoop, writePrettyGoWith, prettyStepCalls]
    cases hp : prettifyAt sup t ps p o with
    | mk ps' r =>
      obtain ⟨ind, nl⟩ := r
      simp only []
      cases hr : renderAtWith esc env pr t s p o with
      | ok v =>
        obtain ⟨s', tok⟩ := v
        simp only [List.flatten_append, tokenCalls_flatten, Writer.flatten_ite_singleton, List.append_assoc]
        rw [← ih ps' s']
      | err e => simp only [Writer.flatten_ite_singleton]
      | panic => simp only [Writer.flatten_ite_singleton]

theorem Declaration.calls_flatten (d : Declaration) : d.calls.flatten = d.bytes := by
  unfold Declaration.calls Declaration.bytes
  cases d.encoding <;> cases d.standalone <;> simp

theorem DocType.calls_flatten (d : DocType) (name : Str) : (d.calls name).flatten = d.bytes name := by
  unfold DocType.calls DocType.bytes
  cases d <;> simp

theorem serializeXmlWriteW_eq_replayCalls (P : WriterPolicy) (esc : Escapers) (env : Env) (p : XmlParams)
    (t : Tree) (start : Path) :
    serializeXmlWriteW P esc env p t start = replayCalls P [] (serializeXmlCalls esc env p t start) := by
  unfold serializeXmlWriteW serializeXmlCalls
  cases hd : (doctypeBlockCalls env p t start).2 with
  | err e =>
    simp only [replayCalls]
    cases writeCalls P [] p.declCalls <;> rfl
  | panic =>
    simp only [replayCalls]
    cases writeCalls P [] p.declCalls <;> rfl
  | ok u =>
    cases u
    simp only [List.append_assoc]
    rw [replayCalls_append]
    cases h1 : writeCalls P [] p.declCalls with
    | error b => rfl
    | ok h1' =>
      simp only []
      rw [replayCalls_append]
      cases h2 : writeCalls P h1' (doctypeBlockCalls env p t start).1 with
      | error b => rfl
      | ok h2' =>
        simp only []
        cases p.indentation with
        | none => simp only [writeGoW, writeGoCalls]; exact writeLoopW_eq_replayCalls P _ _ _ _
        | some sup => simp only [writePrettyGoW, writePrettyGoCalls]; exact writeLoopW_eq_replayCalls P _ _ _ _

theorem writeGoCalls_fst (esc : Escapers) (env : Env) (pr : TokenParams) (t : Tree) (s : FStack)
    (outs : List (Path × Output)) :
    (writeGoCalls esc env pr t s outs).1.flatten = (writeGoWith esc env pr t s outs).1 :=
  congrArg Prod.fst (writeGoCalls_eq esc env pr t s outs)

theorem writeGoCalls_snd (esc : Escapers) (env : Env) (pr : TokenParams) (t : Tree) (s : FStack)
    (outs : List (Path × Output)) :
    (writeGoCalls esc env pr t s outs).2 = (writeGoWith esc env pr t s outs).2 :=
  congrArg Prod.snd (writeGoCalls_eq esc env pr t s outs)

theorem writePrettyGoCalls_fst (esc : Escapers) (env : Env) (pr : TokenParams) (sup : List Nat)
    (t : Tree) (ps : PStack) (s : FStack) (outs : List (Path × Output)) :
    (writePrettyGoCalls esc env pr sup t (ps, s) outs).1.flatten
      = (writePrettyGoWith esc env pr sup t ps s outs).1 :=
  congrArg Prod.fst (writePrettyGoCalls_eq esc env pr sup t ps s outs)

theorem writePrettyGoCalls_snd (esc : Escapers) (env : Env) (pr : TokenParams) (sup : List Nat)
    (t : Tree) (ps : PStack) (s : FStack) (outs : List (Path × Output)) :
    (writePrettyGoCalls esc env pr sup t (ps, s) outs).2
      = (writePrettyGoWith esc env pr sup t ps s outs).2 :=
  congrArg Prod.snd (writePrettyGoCalls_eq esc env pr sup t ps s outs)

theorem serializeXmlCalls_eq (esc : Escapers) (env : Env) (p : XmlParams) (t : Tree) (start : Path) :
    ((serializeXmlCalls esc env p t start).1.flatten, (serializeXmlCalls esc env p t start).2)
      = serializeXmlWriteWith esc env p t start := by
  unfold serializeXmlCalls serializeXmlWriteWith doctypeBlockCalls XmlParams.declCalls
  cases p.declaration <;> cases p.doctype <;> try (cases doctypeName env t start) <;>
    cases p.indentation <;>
    simp only [List.append_nil, List.nil_append, List.flatten_append, List.flatten_nil,
      Declaration.calls_flatten, DocType.calls_flatten, serializeWriteWith, serializePrettyWriteWith,
      writeGoCalls_fst, writeGoCalls_snd, writePrettyGoCalls_fst, writePrettyGoCalls_snd]

/-- The instance lemma: in front of a writer that never fails (`Vec<u8>`, unlimited budget) the
    threaded entry point is the never-failing model. -/
theorem serializeXmlWriteW_unlimited (esc : Escapers) (env : Env) (p : XmlParams) (t : Tree) (start : Path) :
    serializeXmlWriteW WriterPolicy.unlimited esc env p t start = serializeXmlWriteWith esc env p t start := by
  rw [serializeXmlWriteW_eq_replayCalls, replayCalls_unlimited, List.nil_append, serializeXmlCalls_eq]

/-- Loop level: `serialize` in front of a never-failing writer that already holds `hist`. -/
theorem writeGoW_unlimited (esc : Escapers) (env : Env) (pr : TokenParams) (t : Tree) (hist : List Str)
    (s : FStack) (outs : List (Path × Output)) :
    writeGoW WriterPolicy.unlimited esc env pr t hist s outs
      = (hist.flatten ++ (writeGoWith esc env pr t s outs).1, (writeGoWith esc env pr t s outs).2) := by
  unfold writeGoW
  rw [writeLoopW_eq_replayCalls, replayCalls_unlimited, List.flatten_append]
  have h1 := writeGoCalls_fst esc env pr t s outs
  have h2 := writeGoCalls_snd esc env pr t s outs
  unfold writeGoCalls at h1 h2
  rw [h1, h2]

/-- Loop level: `serialize_pretty` in front of a never-failing writer that already holds `hist`. -/
theorem writePrettyGoW_unlimited (esc : Escapers) (env : Env) (pr : TokenParams) (sup : List Nat) (t : Tree)
    (hist : List Str) (ps : PStack) (s : FStack) (outs : List (Path × Output)) :
    writePrettyGoW WriterPolicy.unlimited esc env pr sup t hist (ps, s) outs
      = (hist.flatten ++ (writePrettyGoWith esc env pr sup t ps s outs).1,
         (writePrettyGoWith esc env pr sup t ps s outs).2) := by
  unfold writePrettyGoW
  rw [writeLoopW_eq_replayCalls, replayCalls_unlimited, List.flatten_append]
  have h1 := writePrettyGoCalls_fst esc env pr sup t ps s outs
  have h2 := writePrettyGoCalls_snd esc env pr sup t ps s outs
  unfold writePrettyGoCalls at h1 h2
  rw [h1, h2]

/-- `Xot::write` in front of a never-failing writer is `serializeWriteWith`. -/
theorem serializeWriteW_unlimited (esc : Escapers) (env : Env) (pr : TokenParams) (t : Tree) (start : Path) :
    serializeWriteW WriterPolicy.unlimited esc env pr t start = serializeWriteWith esc env pr t start := by
  unfold serializeWriteW serializeWriteWith
  rw [writeGoW_unlimited]
  simp

/-- `Xot::write` (default parameters) threaded = the full entry point with default parameters. -/
theorem serializeXmlWriteW_default (P : WriterPolicy) (esc : Escapers) (env : Env) (t : Tree) (start : Path) :
    serializeXmlWriteW P esc env {} t start = serializeWriteW P esc env {} t start := by
  unfold serializeXmlWriteW serializeWriteW doctypeBlockCalls XmlParams.declCalls
  simp [writeCalls, XmlParams.tokenParams]

end XotModel
