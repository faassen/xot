/-
  Handle-addressed `namespaces_mut(h).insert` calls (one call as an edit: Lemmas/FpxRefineIns.lean): a list of calls
  erases to `eraseWith`, and the run on a forest replaces one subtree.
-/
import XotModel.Lemmas.FpxRefineIns

/-! ## A list of handle-addressed insertions erases to `eraseWith` -/

namespace XotModel
open HTree
open Forest (MapKind entryKey entryUpdate)

namespace HTree

/-- The insertions addressed to the node `h` (only elements take any). -/
def declsFor (cs : List (Nat × Nat × Nat)) (h : Nat) (v : Value) : List (Nat × Nat) :=
  if v.isElement then (cs.filter (fun c => c.1 == h)).map (·.2) else []

mutual
  /-- Forget the handles, giving every element the insertions `(handle, prefix, namespace)` of `cs`
      addressed to it. -/
  def eraseWith (cs : List (Nat × Nat × Nat)) : HTree → Tree
    | node h v ks => insertNamespaces (declsFor cs h v) (.node v (eraseWithList cs ks))
  def eraseWithList (cs : List (Nat × Nat × Nat)) : List HTree → List Tree
    | [] => []
    | k :: ks => eraseWith cs k :: eraseWithList cs ks
end

theorem insertNamespaces_nil (t : Tree) : insertNamespaces [] t = t := rfl

theorem insertNamespaces_cons (d : Nat × Nat) (ds : List (Nat × Nat)) (t : Tree) :
    insertNamespaces (d :: ds) t = insertNamespaces ds (insertNamespace d.1 d.2 t) := rfl

theorem declsFor_nil (h : Nat) (v : Value) : declsFor [] h v = [] := by
  unfold declsFor; split <;> rfl

mutual
  theorem eraseWith_nil : ∀ r : HTree, eraseWith [] r = erase r
    | node h v ks => by simp only [eraseWith, declsFor_nil, insertNamespaces_nil, erase, eraseWithList_nil ks]
  theorem eraseWithList_nil : ∀ ks : List HTree, eraseWithList [] ks = eraseList ks
    | [] => rfl
    | k :: ks => by simp only [eraseWithList, eraseList, eraseWith_nil k, eraseWithList_nil ks]
end

theorem eraseWith_value (cs : List (Nat × Nat × Nat)) (k : HTree) : (eraseWith cs k).value = k.value := by
  cases k with
  | node h v ks => simp only [eraseWith, Repair.value_insertNamespaces]; rfl

theorem eraseWith_nonElement (cs : List (Nat × Nat × Nat)) (h : Nat) (v : Value) (ks : List HTree)
    (hv : v.isElement = false) : eraseWith cs (node h v ks) = .node v (eraseWithList cs ks) := by
  simp [eraseWith, declsFor, hv, insertNamespaces_nil]

theorem eraseWith_ns (cs : List (Nat × Nat × Nat)) (h q x : Nat) (ks : List HTree) :
    eraseWith cs (node h (.namespace q x) ks) = .node (.namespace q x) (eraseWithList cs ks) :=
  eraseWith_nonElement cs h _ ks rfl

/-- Namespace nodes take no insertions themselves. -/
theorem eraseWithList_insertNsKidH (cs : List (Nat × Nat × Nat)) (p ns fresh : Nat) : ∀ ks : List HTree,
    eraseWithList cs (insertNsKidH p ns fresh ks) = insertNsKid p ns (eraseWithList cs ks)
  | [] => by
    simp only [insertNsKidH, insertNsKid, eraseWithList, eraseWith_ns]
  | k :: ks => by
    have ih := eraseWithList_insertNsKidH cs p ns fresh ks
    cases k with
    | node h v kk =>
      by_cases hv : ∃ q x, v = .namespace q x
      · obtain ⟨q, x, rfl⟩ := hv
        by_cases hq : (q == p) = true
        · simp only [insertNsKidH, insertNsKid, eraseWithList, eraseWith_ns, HTree.value, Tree.value, hq,
            if_true, HTree.handle, HTree.kids, Tree.kids]
        · simp only [insertNsKidH, insertNsKid, eraseWithList, eraseWith_ns, HTree.value, Tree.value, hq,
            Bool.false_eq_true, if_false, ih]
      · rw [insertNsKidH_cons_other p ns fresh (k := node h v kk) ks hv]
        simp only [eraseWithList]
        have h2 : (eraseWith cs (node h v kk)).value = v := eraseWith_value cs _
        generalize eraseWith cs (node h v kk) = t at h2
        rw [eraseWith_ns]
        cases t with
        | node tv tk =>
          simp only [Tree.value] at h2
          subst h2
          exact (insertNsKid_cons_other p ns (k := .node tv tk) _ hv).symm

mutual
  theorem eraseWith_cons_not_mem (c : Nat × Nat × Nat) (cs : List (Nat × Nat × Nat)) : ∀ r : HTree,
      c.1 ∉ handles r → eraseWith (c :: cs) r = eraseWith cs r
    | node h v ks => by
      intro hn
      simp only [handles_node, List.mem_cons, not_or] at hn
      have : declsFor (c :: cs) h v = declsFor cs h v := by
        unfold declsFor
        have : (c.1 == h) = false := by simpa using hn.1
        simp [this]
      simp only [eraseWith, this, eraseWithList_cons_not_mem c cs ks hn.2]
  theorem eraseWithList_cons_not_mem (c : Nat × Nat × Nat) (cs : List (Nat × Nat × Nat)) : ∀ ks : List HTree,
      c.1 ∉ handlesList ks → eraseWithList (c :: cs) ks = eraseWithList cs ks
    | [] => fun _ => rfl
    | k :: ks => by
      intro hn
      simp only [handlesList_cons, List.mem_append, not_or] at hn
      simp only [eraseWithList, eraseWith_cons_not_mem c cs k hn.1, eraseWithList_cons_not_mem c cs ks hn.2]
end

/-- The edit one insertion call makes at its target, were it asked of a non-element too (it is not:
    `Forest.mapInsert` panics there). -/
def nsEdit (p ns fresh : Nat) (n : HTree) : HTree :=
  if n.value.isElement then Fmap.atKids (insertNsKidH p ns fresh) n else n

theorem eraseWith_cons_self_node (cs : List (Nat × Nat × Nat)) (h p ns : Nat) (v : Value)
    (ks : List HTree) (hn : h ∉ handlesList ks) :
    eraseWith ((h, p, ns) :: cs) (node h v ks) =
      insertNamespaces (declsFor ((h, p, ns) :: cs) h v) (.node v (eraseWithList cs ks)) := by
  simp only [eraseWith, eraseWithList_cons_not_mem (h, p, ns) cs ks hn]

mutual
  /-- **One call, erased**: editing the child list of `e` by `insertNsKidH` and then giving every node
      the calls `cs` is giving every node the calls `(e, p, ns) :: cs`. -/
  theorem eraseWith_nsEdit (cs : List (Nat × Nat × Nat)) (e p ns fresh : Nat) : ∀ r : HTree, (handles r).Nodup →
      eraseWith cs (mapAt e (nsEdit p ns fresh) r) = eraseWith ((e, p, ns) :: cs) r
    | node h v ks => by
      intro hnd
      simp only [handles_node, List.nodup_cons] at hnd
      unfold mapAt
      by_cases hh : h = e
      · subst hh
        rw [if_pos rfl, eraseWith_cons_self_node cs h p ns v ks hnd.1]
        by_cases hv : v.isElement = true
        · have hd : declsFor ((h, p, ns) :: cs) h v = (p, ns) :: declsFor cs h v := by
            simp [declsFor, hv]
          simp only [nsEdit, HTree.value, hv, if_true, Fmap.atKids, HTree.setKids, HTree.kids, eraseWith,
            eraseWithList_insertNsKidH, hd, insertNamespaces_cons, insertNamespace]
        · have hd : declsFor ((h, p, ns) :: cs) h v = declsFor cs h v := by
            simp [declsFor, hv]
          simp only [nsEdit, HTree.value, hv, Bool.false_eq_true, if_false, eraseWith, hd]
      · have hd : declsFor ((e, p, ns) :: cs) h v = declsFor cs h v := by
          unfold declsFor
          have : (e == h) = false := by simpa using fun x : e = h => hh x.symm
          simp [this]
        rw [if_neg hh]
        simp only [eraseWith, hd, eraseWithList_nsEdit cs e p ns fresh ks hnd.2]
  theorem eraseWithList_nsEdit (cs : List (Nat × Nat × Nat)) (e p ns fresh : Nat) : ∀ ks : List HTree,
      (handlesList ks).Nodup →
      eraseWithList cs (mapAtList e (nsEdit p ns fresh) ks) = eraseWithList ((e, p, ns) :: cs) ks
    | [] => fun _ => rfl
    | k :: ks => by
      intro hnd
      simp only [handlesList_cons, List.nodup_append] at hnd
      simp only [mapAtList, eraseWithList, eraseWith_nsEdit cs e p ns fresh k hnd.1,
        eraseWithList_nsEdit cs e p ns fresh ks hnd.2.1]
end

end HTree
end XotModel

/-! ## The run on a forest replaces one subtree -/

namespace XotModel
open HTree
open Forest (MapKind entryKey entryUpdate)

namespace HTree

/-! ### Old handles keep their document order -/

theorem handlesList_insertNsKidH_filter (p ns fresh b : Nat) (hb : b ≤ fresh) : ∀ ks : List HTree,
    (handlesList (insertNsKidH p ns fresh ks)).filter (· < b) = (handlesList ks).filter (· < b)
  | [] => by
    have : ¬ fresh < b := by omega
    simp [insertNsKidH, handlesList, handles, this]
  | k :: ks => by
    have ih := handlesList_insertNsKidH_filter p ns fresh b hb ks
    have hf : ¬ fresh < b := by omega
    cases k with
    | node h v kk =>
      by_cases hv : ∃ q x, v = .namespace q x
      · obtain ⟨q, x, rfl⟩ := hv
        by_cases hq : (q == p) = true
        · simp [insertNsKidH, HTree.value, hq, handlesList, handles, HTree.handle, HTree.kids]
        · simp only [insertNsKidH, HTree.value, hq, Bool.false_eq_true, if_false, handlesList_cons,
            List.filter_append, ih]
      · rw [insertNsKidH_cons_other p ns fresh (k := node h v kk) ks hv]
        simp [handlesList, handles, hf]

mutual
  theorem handles_nsEdit_filter (e p ns fresh b : Nat) (hb : b ≤ fresh) : ∀ r : HTree,
      (handles (mapAt e (nsEdit p ns fresh) r)).filter (· < b) = (handles r).filter (· < b)
    | node h v ks => by
      unfold mapAt
      by_cases hh : h = e
      · rw [if_pos hh]
        unfold nsEdit
        by_cases hv : v.isElement = true
        · simp only [HTree.value, hv, if_true, Fmap.atKids, HTree.setKids, HTree.kids, handles_node,
            List.filter_cons, handlesList_insertNsKidH_filter p ns fresh b hb ks]
        · simp only [HTree.value, hv, Bool.false_eq_true, if_false]
      · rw [if_neg hh]
        simp only [handles_node, List.filter_cons, handlesList_nsEdit_filter e p ns fresh b hb ks]
  theorem handlesList_nsEdit_filter (e p ns fresh b : Nat) (hb : b ≤ fresh) : ∀ ks : List HTree,
      (handlesList (mapAtList e (nsEdit p ns fresh) ks)).filter (· < b) = (handlesList ks).filter (· < b)
    | [] => rfl
    | k :: ks => by
      simp only [mapAtList, handlesList_cons, List.filter_append, handles_nsEdit_filter e p ns fresh b hb k,
        handlesList_nsEdit_filter e p ns fresh b hb ks]
end

theorem nsEdit_handle (p ns fresh : Nat) (n : HTree) : (nsEdit p ns fresh n).handle = n.handle := by
  unfold nsEdit; split
  · exact Fmap.atKids_handle _ _
  · rfl

end HTree

namespace Forest

/-- A handle-addressed insertion as a `Call`. -/
def nsCallOf (c : Nat × Nat × Nat) : Call := nsInsertCall c.1 c.2

theorem fpxr_call_roots {f : Forest} (hi : f.Inv) (c : Nat × Nat × Nat) (he : f.isElement c.1 = true) :
    ((nsCallOf c).run f).1.roots = mapAtList c.1 (nsEdit c.2.1 c.2.2 f.next) f.roots ∧
      f.next ≤ ((nsCallOf c).run f).1.next := by
  obtain ⟨e, p, ns⟩ := c
  obtain ⟨h1, h2⟩ := fpxr_mapInsert_roots hi he p ns
  obtain ⟨t, hg, hv⟩ := fpxr_get_of_isElement he
  refine ⟨?_, h2⟩
  show (f.mapInsert .namespaces e (.namespace p ns)).1.roots = _
  rw [h1]
  exact Fmap.mapAtList_congr e _ _ f.roots t hi.nodup hg (by simp [nsEdit, hv])

theorem fpxr_call_ok {f : Forest} (hi : f.Inv) (c : Nat × Nat × Nat) (he : f.isElement c.1 = true) :
    ((nsCallOf c).run f).2 = .ok ∧ ((nsCallOf c).run f).1.Inv ∧
      ∀ x, ((nsCallOf c).run f).1.isElement x = f.isElement x :=
  fpx_call_ok hi (c := nsCallOf c) he

theorem fpxr_runCalls_cons {f : Forest} (hi : f.Inv) (c : Nat × Nat × Nat) (cs : List Call)
    (he : f.isElement c.1 = true) :
    f.runCalls (nsCallOf c :: cs) = ((nsCallOf c).run f).1.runCalls cs := by
  have h := (fpxr_call_ok hi c he).1
  conv => lhs; unfold runCalls
  rcases hr : (nsCallOf c).run f with ⟨f', r⟩
  rw [hr] at h
  simp only at h
  subst h
  rfl

theorem fpxr_runCalls_erase : ∀ (cs : List (Nat × Nat × Nat)) {f : Forest}, f.Inv →
    (∀ c ∈ cs, f.isElement c.1 = true) → ∀ cs' : List (Nat × Nat × Nat),
      eraseWithList cs' (f.runCalls (cs.map nsCallOf)).1.roots = eraseWithList (cs ++ cs') f.roots
  | [], _, _, _, _ => rfl
  | c :: cs, f, hi, hc, cs' => by
    have he := hc c (by simp)
    obtain ⟨_, hi1, hel⟩ := fpxr_call_ok hi c he
    obtain ⟨hroots, _⟩ := fpxr_call_roots hi c he
    rw [List.map_cons, fpxr_runCalls_cons hi c _ he,
      fpxr_runCalls_erase cs hi1 (fun c' h' => by rw [hel]; exact hc c' (by simp [h'])) cs', hroots]
    exact eraseWithList_nsEdit (cs ++ cs') c.1 c.2.1 c.2.2 f.next f.roots hi.nodup

/-- **The run as a replacement of one subtree**: all targets are elements inside the subtree `S` of
    `nd`. -/
theorem fpxr_runCalls_graft : ∀ (cs : List (Nat × Nat × Nat)) {f : Forest}, f.Inv → ∀ {nd : Nat} {S : HTree},
    f.get? nd = some S → (∀ c ∈ cs, f.isElement c.1 = true ∧ c.1 ∈ handles S) → ∀ b, b ≤ f.next →
    ∃ S', S'.handle = nd ∧
      (f.runCalls (cs.map nsCallOf)).1.roots = mapAtList nd (fun _ => S') f.roots ∧
      (f.runCalls (cs.map nsCallOf)).1.get? nd = some S' ∧
      (handles S').filter (· < b) = (handles S).filter (· < b) ∧
      (∀ cs' : List (Nat × Nat × Nat), eraseWith cs' S' = eraseWith (cs ++ cs') S) ∧
      f.next ≤ (f.runCalls (cs.map nsCallOf)).1.next
  | [], f, hi, nd, S, hg, _, b, _ => by
    refine ⟨S, findList?_handle nd _ _ hg, ?_, hg, rfl, fun _ => rfl, Nat.le_refl _⟩
    exact (graftList_self nd S f.roots hi.nodup hg).symm
  | c :: cs, f, hi, nd, S, hg, hc, b, hb => by
    obtain ⟨he, hin⟩ := hc c (by simp)
    obtain ⟨_, hi1, hel⟩ := fpxr_call_ok hi c he
    obtain ⟨hroots, hnext⟩ := fpxr_call_roots hi c he
    have hSh : S.handle = nd := findList?_handle nd _ _ hg
    let S1 := mapAt c.1 (nsEdit c.2.1 c.2.2 f.next) S
    have hS1h : S1.handle = nd := by
      rw [HTree.mapAt_handle _ _ (nsEdit_handle _ _ _), hSh]
    have hroots1 : ((nsCallOf c).run f).1.roots = mapAtList nd (fun _ => S1) f.roots := by
      rw [hroots]
      exact mapAtList_as_graft c.1 nd _ S hin f.roots hi.nodup hg
    have hg1 : ((nsCallOf c).run f).1.get? nd = some S1 := by
      unfold get?
      rw [hroots1]
      exact Fmap.findList?_mapAtList_self nd _ f.roots S hg hS1h
    have hsub : ∀ x ∈ handles S, x ∈ handles S1 := by
      intro x hx
      have hx' : x < f.next := hi.below x ((findList?_sublist nd f.roots S hg).subset hx)
      have h1 := handles_nsEdit_filter c.1 c.2.1 c.2.2 f.next f.next (Nat.le_refl _) S
      have : x ∈ (handles S).filter (· < f.next) := List.mem_filter.mpr ⟨hx, by simpa using hx'⟩
      rw [← h1] at this
      exact (List.mem_filter.mp this).1
    obtain ⟨S', h1, h2, h3, h4, h5, h6⟩ := fpxr_runCalls_graft cs hi1 hg1
      (fun c' h' => ⟨by rw [hel]; exact (hc c' (by simp [h'])).1, hsub _ (hc c' (by simp [h'])).2⟩)
      b (Nat.le_trans hb hnext)
    refine ⟨S', h1, ?_, ?_, ?_, ?_, ?_⟩
    · rw [List.map_cons, fpxr_runCalls_cons hi c _ he, h2, hroots1]
      exact graftList_graftList nd S1 S' hS1h f.roots
    · rw [List.map_cons, fpxr_runCalls_cons hi c _ he]; exact h3
    · rw [h4]
      exact handles_nsEdit_filter c.1 c.2.1 c.2.2 f.next b hb S
    · intro cs'
      rw [h5 cs']
      exact eraseWith_nsEdit (cs ++ cs') c.1 c.2.1 c.2.2 f.next S (Fmap.findList?_nodup nd f.roots S hi.nodup hg)
    · rw [List.map_cons, fpxr_runCalls_cons hi c _ he]
      exact Nat.le_trans hnext h6

end Forest
end XotModel
