/-
  Exactly which values a call can change.  A move can change the value of the previous sibling of the moved node
  (old-site merge) and of the text node the moved node is merged into — nothing else; every node inside the moved
  subtree keeps its value, and so does its root if it is still live.  The same for the composite calls from explicit
  lists of sites; `remove_insignificant_whitespace` and the map insertion extend no text node at all.
-/
import XotModel.Lemmas.FinvHistory
import XotModel.Lemmas.FinvCompound

/-! ## Exactly which values a move can change -/

namespace XotModel
open HTree

namespace Forest

theorem VStep.exact {f f' : Forest} {sites : List Nat}
    (h : VStep (fun _ => False) (fun q => q ∈ sites) f f') (hi : f.Inv) {x : Nat} {v v' : Value}
    (hv : f.value? x = some v) (hv' : f'.value? x = some v') (hx : x ∉ sites) : v' = v := by
  rcases h.value hi hv hv' with h1 | h1 | h1
  · exact h1
  · exact absurd h1.1 hx
  · exact h1.1.elim

/-- Under the invariant no node is its own previous sibling, so the reference `insert_after`
    works with is never the moved node once the sibling reference check has passed. -/
theorem insertAfterRef_ne {f : Forest} (w : f.W) {r c : Nat} (hrc : r ≠ c) :
    f.insertAfterRef r c ≠ c := by
  unfold insertAfterRef
  split
  · cases hp : f.prevSibling c with
    | none => simpa using hrc
    | some q => simpa using (prevSibling_sib w hp).ne
  · exact hrc

theorem append_value_exact {f : Forest} (hi : f.Inv) (p c : Nat) {x : Nat} {v v' : Value}
    (hv : f.value? x = some v) (hv' : (f.append p c).1.value? x = some v')
    (hx : x ∉ f.appendSites p c) : v' = v :=
  (vstep_append f p c (fun q h => by simp [appendSites, h]) (fun q h => by simp [appendSites, h])).exact
    hi hv hv' hx

theorem prepend_value_exact {f : Forest} (hi : f.Inv) (p c : Nat) {x : Nat} {v v' : Value}
    (hv : f.value? x = some v) (hv' : (f.prepend p c).1.value? x = some v')
    (hx : x ∉ f.prependSites p c) : v' = v :=
  (vstep_prepend f p c (fun q h => by simp [prependSites, h]) (fun q h => by simp [prependSites, h])).exact
    hi hv hv' hx

theorem insertAfter_value_exact {f : Forest} (hi : f.Inv) (r c : Nat) {x : Nat} {v v' : Value}
    (hv : f.value? x = some v) (hv' : (f.insertAfter r c).1.value? x = some v')
    (hx : x ∉ f.insertAfterSites r c) : v' = v :=
  by
    by_cases hrc : r = c
    · subst hrc
      have : f.insertAfter r r = (f, .err .invalidOperation) := by
        unfold insertAfter siblingReferenceCheck; simp
      rw [this, hv] at hv'; cases hv'; rfl
    · exact (vstep_insertAfter f r c (fun q h => by simp [insertAfterSites, h]) (by simp [insertAfterSites])
        (fun q h => by simp [insertAfterSites, h])
        (fun e => absurd e (insertAfterRef_ne hi.toW hrc))).exact hi hv hv' hx

theorem insertBefore_value_exact {f : Forest} (hi : f.Inv) (r c : Nat) {x : Nat} {v v' : Value}
    (hv : f.value? x = some v) (hv' : (f.insertBefore r c).1.value? x = some v')
    (hx : x ∉ f.insertBeforeSites r c) : v' = v :=
  (vstep_insertBefore f r c (fun q h => by simp [insertBeforeSites, h]) (by simp [insertBeforeSites])
    (fun q h => by simp [insertBeforeSites, h])).exact hi hv hv' hx

theorem detach_value_exact {f : Forest} (hi : f.Inv) (n : Nat) {x : Nat} {v v' : Value}
    (hv : f.value? x = some v) (hv' : (f.detach n).1.value? x = some v')
    (hx : f.prevSibling n ≠ some x) : v' = v :=
  (vstep_detach (T := fun q => q ∈ (f.prevSibling n).toList) f n (fun q h => by simp [h])).exact
    hi hv hv' (by simpa using hx)

theorem remove_value_exact {f : Forest} (hi : f.Inv) (n : Nat) {x : Nat} {v v' : Value}
    (hv : f.value? x = some v) (hv' : (f.remove n).1.value? x = some v')
    (hx : f.prevSibling n ≠ some x) : v' = v :=
  (vstep_remove (T := fun q => q ∈ (f.prevSibling n).toList) f n (fun q h => by simp [h])).exact
    hi hv hv' (by simpa using hx)

/-! ### The sites lie outside the moved subtree (or are its root) -/

theorem sib_not_mem_subtree {f : Forest} (w : f.W) {c q : Nat} {tc : HTree} (hg : f.get? c = some tc)
    (s : Sib f c q) : q ∉ handles tc := by
  intro hm
  obtain ⟨par, hpc, hpq⟩ := s.parent
  have h1 := mem_ancestors_of_subtree w hg hm
  rw [ancestors_step w hpq] at h1
  rcases List.mem_cons.1 h1 with e | e
  · exact s.ne e.symm
  · exact not_mem_ancestors_parent w hpc e

theorem site_outside {f : Forest} (w : f.W) {c par l : Nat} {tc : HTree} (hg : f.get? c = some tc)
    (hanc : c ∉ f.ancestors par) (hp : (f.afterOldSite c).parent? l = some par) (hlc : l ≠ c) :
    l ∉ handles tc := by
  obtain ⟨_, _, P, hP, fr⟩ := removeConsolidate_spec w (f.prevSibling c) (f.nextSibling c)
  by_cases hl : l ∈ P
  · exact sib_not_mem_subtree w hg (nextSibling_sib w (hP l hl).1)
  · have hpar : f.parent? l = some par := by rw [← fr.parent l hl]; exact hp
    intro hm
    have h1 := mem_ancestors_of_subtree w hg hm
    rw [ancestors_step w hpar] at h1
    rcases List.mem_cons.1 h1 with e | e
    · exact hlc e.symm
    · exact hanc e

theorem afterOldSite_W {f : Forest} (w : f.W) (c : Nat) : (f.afterOldSite c).W :=
  (removeConsolidate_spec w (f.prevSibling c) (f.nextSibling c)).1

theorem afterOldSite_cases {f : Forest} (w : f.W) (c : Nat) :
    f.afterOldSite c = f ∨
    ∃ n, f.nextSibling c = some n ∧ Frame f (f.afterOldSite c) [n] ∧ (f.afterOldSite c).isLive n = false := by
  unfold afterOldSite
  rcases f.removeConsolidate_outcome (f.prevSibling c) (f.nextSibling c) with
    e | ⟨p, n, ps, ns, _, h2, _, hps, hns, e⟩
  · rw [e]; exact Or.inl rfl
  · rw [e]
    obtain ⟨_, fr, hd⟩ := merge_spec w (ps ++ ns) hps hns
    exact Or.inr ⟨n, h2, fr, hd⟩

theorem afterOldSite_parent {f : Forest} (w : f.W) (c : Nat) {l : Nat}
    (hl : (f.afterOldSite c).isLive l = true) : (f.afterOldSite c).parent? l = f.parent? l := by
  rcases afterOldSite_cases w c with h | ⟨n, _, fr, hd⟩
  · rw [h]
  · apply fr.parent
    intro hm
    simp only [List.mem_singleton] at hm
    subst hm
    rw [hd] at hl; cases hl

/-- A sibling of `c` after the old-site merge is outside the subtree of `c` (this is the
    neighbour the helper takes when it is handed `c` itself). -/
theorem own_sibling_outside {f : Forest} (w : f.W) {c q : Nat} {tc : HTree} (hg : f.get? c = some tc)
    (sb : Sib (f.afterOldSite c) c q) : q ∉ handles tc := by
  obtain ⟨par1, h1, h2⟩ := sb.parent
  have hl1 : (f.afterOldSite c).isLive c = true := (parent?_live h1).1
  rw [afterOldSite_parent w c hl1] at h1
  exact site_outside w hg (not_mem_ancestors_parent w h1) h2 sb.ne

/-- `append`: every node of the moved subtree other than its root keeps its value exactly. -/
theorem append_subtree_exact {f : Forest} (hi : f.Inv) (p c : Nat) {tc : HTree}
    (hg : f.get? c = some tc) {x : Nat} (hx : x ∈ handles tc) (hxc : x ≠ c) {v v' : Value}
    (hv : f.value? x = some v) (hv' : (f.append p c).1.value? x = some v') : v' = v := by
  have w := hi.toW
  cases hs : f.structureCheck (some p) c with
  | false =>
    have : f.append p c = (f, .err .invalidOperation) := by simp [append, hs]
    rw [this, hv] at hv'; cases hv'; rfl
  | true =>
    have ck := structureCheck_some hs
    apply append_value_exact hi p c hv hv'
    simp only [appendSites, List.mem_append, Option.mem_toList, not_or]
    refine ⟨fun h => sib_not_mem_subtree w hg (prevSibling_sib w h) hx, fun h => ?_⟩
    unfold selfPrev at h
    split at h
    · exact own_sibling_outside w hg (prevSibling_sib (afterOldSite_W w c) h) hx
    · exact site_outside w hg ck.notAnc (lastChild_parent (afterOldSite_W w c) h) hxc hx

theorem prepend_subtree_exact {f : Forest} (hi : f.Inv) (p c : Nat) {tc : HTree}
    (hg : f.get? c = some tc) {x : Nat} (hx : x ∈ handles tc) (hxc : x ≠ c) {v v' : Value}
    (hv : f.value? x = some v) (hv' : (f.prepend p c).1.value? x = some v') : v' = v := by
  have w := hi.toW
  cases hs : f.structureCheck (some p) c with
  | false =>
    have : f.prepend p c = (f, .err .invalidOperation) := by simp [prepend, hs]
    rw [this, hv] at hv'; cases hv'; rfl
  | true =>
    have ck := structureCheck_some hs
    apply prepend_value_exact hi p c hv hv'
    simp only [prependSites, List.mem_append, Option.mem_toList, not_or]
    refine ⟨fun h => sib_not_mem_subtree w hg (prevSibling_sib w h) hx, fun h => ?_⟩
    unfold selfNext at h
    split at h
    · exact own_sibling_outside w hg (nextSibling_sib (afterOldSite_W w c) h) hx
    · exact site_outside w hg ck.notAnc (firstChild_parent (afterOldSite_W w c) h) hxc hx

/-! ### `insert_after`, `insert_before` -/

theorem outside_of_parent {f : Forest} (w : f.W) {c par l : Nat} {tc : HTree} (hg : f.get? c = some tc)
    (hanc : c ∉ f.ancestors par) (hp : f.parent? l = some par) (hlc : l ≠ c) : l ∉ handles tc := by
  intro hm
  have h1 := mem_ancestors_of_subtree w hg hm
  rw [ancestors_step w hp] at h1
  rcases List.mem_cons.1 h1 with e | e
  · exact hlc e.symm
  · exact hanc e

theorem insertBefore_subtree_exact {f : Forest} (hi : f.Inv) (r c : Nat) {tc : HTree}
    (hg : f.get? c = some tc) {x : Nat} (hx : x ∈ handles tc) (hxc : x ≠ c) {v v' : Value}
    (hv : f.value? x = some v) (hv' : (f.insertBefore r c).1.value? x = some v') : v' = v := by
  have w := hi.toW
  have w1 := afterOldSite_W w c
  cases hs : f.structureCheck (f.parent? r) c with
  | false =>
    have : f.insertBefore r c = (f, .err .invalidOperation) := by simp [insertBefore, hs]
    rw [this, hv] at hv'; cases hv'; rfl
  | true =>
    cases hsr : f.siblingReferenceCheck r c with
    | false =>
      have : f.insertBefore r c = (f, .err .invalidOperation) := by simp [insertBefore, hs, hsr]
      rw [this, hv] at hv'; cases hv'; rfl
    | true =>
      cases hpr : f.parent? r with
      | none => rw [hpr] at hs; cases hs
      | some par =>
        rw [hpr] at hs
        have ck := structureCheck_some hs
        have hrc : r ≠ c := siblingReferenceCheck_ne hsr
        apply insertBefore_value_exact hi r c hv hv'
        simp only [insertBeforeSites, List.mem_append, Option.mem_toList, List.mem_singleton, not_or]
        refine ⟨⟨fun h => sib_not_mem_subtree w hg (prevSibling_sib w h) hx, ?_⟩, fun h => ?_⟩
        · intro e
          subst e
          exact outside_of_parent w hg ck.notAnc hpr hrc hx
        · unfold selfPrev at h
          split at h
          · exact own_sibling_outside w hg (prevSibling_sib w1 h) hx
          have sb := prevSibling_sib w1 h
          obtain ⟨par1, h1, h2⟩ := sb.parent
          have hl1 : (f.afterOldSite c).isLive r = true := (parent?_live h1).1
          rw [afterOldSite_parent w c hl1, hpr] at h1
          cases h1
          exact site_outside w hg ck.notAnc h2 hxc hx

theorem insertAfterRef_cases (f : Forest) (r c : Nat) :
    f.insertAfterRef r c = r ∨ f.prevSibling c = some (f.insertAfterRef r c) := by
  unfold insertAfterRef
  split
  · cases hp : f.prevSibling c with
    | none => exact Or.inl rfl
    | some q => exact Or.inr rfl
  · exact Or.inl rfl

theorem insertAfter_subtree_exact {f : Forest} (hi : f.Inv) (r c : Nat) {tc : HTree}
    (hg : f.get? c = some tc) {x : Nat} (hx : x ∈ handles tc) (hxc : x ≠ c) {v v' : Value}
    (hv : f.value? x = some v) (hv' : (f.insertAfter r c).1.value? x = some v') : v' = v := by
  have w := hi.toW
  have w1 := afterOldSite_W w c
  cases hs : f.structureCheck (f.parent? r) c with
  | false =>
    have : f.insertAfter r c = (f, .err .invalidOperation) := by simp [insertAfter, hs]
    rw [this, hv] at hv'; cases hv'; rfl
  | true =>
    cases hsr : f.siblingReferenceCheck r c with
    | false =>
      have : f.insertAfter r c = (f, .err .invalidOperation) := by simp [insertAfter, hs, hsr]
      rw [this, hv] at hv'; cases hv'; rfl
    | true =>
      cases hpr : f.parent? r with
      | none => rw [hpr] at hs; cases hs
      | some par =>
        rw [hpr] at hs
        have ck := structureCheck_some hs
        have hrc : r ≠ c := siblingReferenceCheck_ne hsr
        -- the reference actually used: outside the subtree, and its parent is not below `c`
        have href : f.insertAfterRef r c ∉ handles tc ∧
            ∀ par', f.parent? (f.insertAfterRef r c) = some par' → c ∉ f.ancestors par' := by
          rcases insertAfterRef_cases f r c with e | e
          · rw [e]
            exact ⟨outside_of_parent w hg ck.notAnc hpr hrc, fun par' h => by
              rw [hpr] at h; cases h; exact ck.notAnc⟩
          · have sb := prevSibling_sib w e
            refine ⟨sib_not_mem_subtree w hg sb, fun par' h => ?_⟩
            obtain ⟨q, h1, h2⟩ := sb.parent
            rw [h2] at h; cases h
            exact not_mem_ancestors_parent w h1
        apply insertAfter_value_exact hi r c hv hv'
        simp only [insertAfterSites, List.mem_append, Option.mem_toList, List.mem_singleton, not_or]
        refine ⟨⟨fun h => sib_not_mem_subtree w hg (prevSibling_sib w h) hx, ?_⟩, fun h => ?_⟩
        · intro e
          exact href.1 (e ▸ hx)
        · unfold selfNext at h
          split at h
          · exact own_sibling_outside w hg (nextSibling_sib w1 h) hx
          have sb := nextSibling_sib w1 h
          obtain ⟨par1, h1, h2⟩ := sb.parent
          have hl1 : (f.afterOldSite c).isLive (f.insertAfterRef r c) = true := (parent?_live h1).1
          rw [afterOldSite_parent w c hl1] at h1
          exact site_outside w hg (href.2 par1 h1) h2 hxc hx

end Forest
end XotModel

/-! ## The root of a moved subtree -/

namespace XotModel
open HTree

namespace Forest

/-- Only the previous sibling of `c` may be extended. -/
def PrevOf (f : Forest) (c : Nat) : Nat → Prop := fun q => f.prevSibling c = some q

theorem vstep_afterOldSite (f : Forest) (c : Nat) :
    VStep (fun _ => False) (f.PrevOf c) f (f.afterOldSite c) :=
  vstep_removeConsolidate f _ _ (fun _ h => h)

/-- In the part the four moves share, `add_consolidate_text_nodes` either deletes `c` (answer `true`)
    or changes nothing, and the placement `k` does not write to `c`. -/
theorem moveTail_root_exact {f : Forest} (hi : f.Inv) {c : Nat} {v v' : Value}
    (prev next : Forest → Option Nat) (k : Forest → Forest × Bool)
    (hk : ∀ g, VStep (fun _ => False) (f.PrevOf c) g (k g).1)
    (hv : f.value? c = some v) (hv' : (f.moveTail c prev next k).1.value? c = some v') : v' = v := by
  have w := hi.toW
  have w1 := afterOldSite_W w c
  obtain ⟨_, hsame, _, hdead⟩ :=
    addConsolidate_spec w1 c (prev (f.afterOldSite c)) (next (f.afterOldSite c))
  have h1 := vstep_afterOldSite f c
  rw [moveTail_fst] at hv'
  split at hv'
  · rename_i hflag
    have := hdead hflag
    rw [isLive_iff_value?, hv'] at this
    cases this
  · rename_i hflag
    rw [hsame (by simpa using hflag)] at hv'
    rcases (h1.trans (hk _)).value hi hv hv' with e | e | e
    · exact e
    · exact absurd e.1 (fun h => (prevSibling_sib w h).ne rfl)
    · exact e.1.elim

theorem append_root_exact {f : Forest} (hi : f.Inv) (p c : Nat) {v v' : Value}
    (hv : f.value? c = some v) (hv' : (f.append p c).1.value? c = some v') : v' = v := by
  rw [append_eq] at hv'
  split at hv'
  · rw [hv] at hv'; cases hv'; rfl
  split at hv'
  · rw [hv] at hv'; cases hv'; rfl
  exact moveTail_root_exact hi _ _ _ (fun g => (vstep_checked g p c).1) hv hv'

theorem prepend_root_exact {f : Forest} (hi : f.Inv) (p c : Nat) {v v' : Value}
    (hv : f.value? c = some v) (hv' : (f.prepend p c).1.value? c = some v') : v' = v := by
  rw [prepend_eq] at hv'
  split at hv'
  · rw [hv] at hv'; cases hv'; rfl
  split at hv'
  · rw [hv] at hv'; cases hv'; rfl
  refine moveTail_root_exact hi _ _ _ (fun g => ?_) hv hv'
  cases g.prependPoint p with
  | some ip => exact (vstep_checked g ip c).2.2.1
  | none => exact (vstep_checked g p c).2.1

theorem insertBefore_root_exact {f : Forest} (hi : f.Inv) (r c : Nat) {v v' : Value}
    (hv : f.value? c = some v) (hv' : (f.insertBefore r c).1.value? c = some v') : v' = v := by
  rw [insertBefore_eq] at hv'
  split at hv'
  · rw [hv] at hv'; cases hv'; rfl
  split at hv'
  · rw [hv] at hv'; cases hv'; rfl
  split at hv'
  · rw [hv] at hv'; cases hv'; rfl
  exact moveTail_root_exact hi _ _ _ (fun g => (vstep_checked g r c).2.2.2) hv hv'

theorem insertAfter_root_exact {f : Forest} (hi : f.Inv) (r c : Nat) {v v' : Value}
    (hv : f.value? c = some v) (hv' : (f.insertAfter r c).1.value? c = some v') : v' = v := by
  rw [insertAfter_eq] at hv'
  split at hv'
  · rw [hv] at hv'; cases hv'; rfl
  split at hv'
  · rw [hv] at hv'; cases hv'; rfl
  split at hv'
  · rw [hv] at hv'; cases hv'; rfl
  exact moveTail_root_exact hi _ _ _ (fun g => (vstep_checked g _ c).2.2.1) hv hv'

end Forest
end XotModel

/-! ## The composite calls -/

namespace XotModel
open HTree

namespace Forest

variable {S T : Nat → Prop}

theorem VStep.exactS {f f' : Forest} {sites : List Nat}
    (h : VStep S (fun q => q ∈ sites) f f') (hi : f.Inv) {x : Nat} {v v' : Value}
    (hv : f.value? x = some v) (hv' : f'.value? x = some v') (hS : ¬ S x) (hx : x ∉ sites) : v' = v := by
  rcases h.value hi hv hv' with h1 | h1 | h1
  · exact h1
  · exact absurd h1.1 hx
  · exact absurd h1.1 hS

/-- A site is extended, never overwritten: old content is a contiguous part of the new one. -/
theorem VStep.site {f f' : Forest} {sites : List Nat}
    (h : VStep (fun _ => False) (fun q => q ∈ sites) f f') (hi : f.Inv) {x : Nat} {v v' : Value}
    (hv : f.value? x = some v) (hv' : f'.value? x = some v') : v' = v ∨ (x ∈ sites ∧ TextExt v v') := by
  rcases h.value hi hv hv' with h1 | h1 | h1
  · exact Or.inl h1
  · exact Or.inr h1
  · exact h1.1.elim

/-! ### remove_insignificant_whitespace: it only removes -/

theorem vstep_remove_off (f : Forest) (n : Nat) (hc : f.consolidation = false) :
    VStep S T f (f.remove n).1 ∧ (f.remove n).1.consolidation = false := by
  have hd : (f.dropSubtree n).consolidation = false := by rw [consolidation_dropSubtree]; exact hc
  have e : (f.remove n).1 = f.dropSubtree n := by
    unfold remove removeConsolidate
    simp [hd]
  rw [e]
  exact ⟨vstep_dropSubtree f n, hd⟩

theorem vstep_foldl_remove_off (xs : List Nat) (f : Forest) (hc : f.consolidation = false) :
    VStep S T f (xs.foldl (fun acc n => (acc.remove n).1) f) := by
  induction xs generalizing f with
  | nil => exact VStep.refl f
  | cons x xs ih => exact (vstep_remove_off f x hc).1.trans (ih _ (vstep_remove_off (S := S) (T := T) f x hc).2)

/-- `remove_insignificant_whitespace` for ANY `T`: no text node is extended (consolidation is off
    around the loop). -/
theorem vstep_strip (f : Forest) (node : Nat) : VStep S T f (f.removeInsignificantWhitespace node) := by
  unfold removeInsignificantWhitespace
  cases f.get? node with
  | none => exact VStep.refl f
  | some t =>
    simp only
    have h0 : VStep S T f ({ f with consolidation := false } : Forest) := VStep.of_sub rfl (fun _ h => h)
    have h1 := vstep_foldl_remove_off (S := S) (T := T)
      ((descendantsNormal t).filter f.isInsignificantWhitespace) ({ f with consolidation := false } : Forest) rfl
    exact ⟨(h0.trans h1).next, (h0.trans h1).old⟩

theorem strip_value_exact {f : Forest} (hi : f.Inv) (node : Nat) {x : Nat} {v v' : Value}
    (hv : f.value? x = some v) (hv' : (f.removeInsignificantWhitespace node).value? x = some v') : v' = v :=
  (vstep_strip (S := fun _ => False) (T := fun q => q ∈ ([] : List Nat)) f node).exact hi hv hv' (by simp)

/-! ### map insertion: only the existing entry of the key is rewritten -/

theorem mapInsert_value_exact {f : Forest} (hi : f.Inv) (k : MapKind) (e : Nat) (entry : Value) {x : Nat}
    {v v' : Value} (hv : f.value? x = some v) (hv' : (f.mapInsert k e entry).1.value? x = some v')
    (hx : ∀ n, f.mapGetNode k e (entryKey entry) = some n → n.handle ≠ x) : v' = v :=
  (vstep_mapInsert (S := fun y => ∃ n, f.mapGetNode k e (entryKey entry) = some n ∧ n.handle = y)
    (T := fun q => q ∈ ([] : List Nat)) f k e entry (fun n hn => ⟨n, hn, rfl⟩)).exactS hi hv hv'
    (fun ⟨n, hn, e1⟩ => hx n hn e1) (by simp)

theorem elementUnwrap_value_exact {f : Forest} (hi : f.Inv) (n : Nat) {x : Nat} {v v' : Value}
    (hv : f.value? x = some v) (hv' : (f.elementUnwrap n).1.value? x = some v')
    (hx : x ∉ f.unwrapSites n) : v' = v :=
  (vstep_elementUnwrap_sites (S := fun _ => False) f n).exact hi hv hv' hx

theorem replace_value_exact {f : Forest} (hi : f.Inv) (a b : Nat) {x : Nat} {v v' : Value}
    (hv : f.value? x = some v) (hv' : (f.replace a b).1.value? x = some v')
    (hx : x ∉ f.replaceSites a b) : v' = v :=
  (vstep_replace_sites (S := fun _ => False) f a b).exact hi hv hv' hx

end Forest
end XotModel
