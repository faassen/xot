/-
  The indentation stack of output/pretty.rs (Model/Pretty): `Empty` entries are transparent, and what a granted
  indentation or newline says about the stack.  Then the stack along the traversal, for any pair of closures
  `is_inline` / `is_suppressed`: the stack before an event is the entries of the open elements above its node
  (`Pretty.genNode_trace`), and where that grants white space.
-/
import XotModel.Model.Pretty
import XotModel.Lemmas.Events

/-! ## Readings of the stack

  `Empty` entries are transparent for `in_mixed` / `in_space_preserve` / `get_indentation`.
-/

namespace XotModel
namespace PStack

/-- Every entry is `Unmixed(Space::Empty)`. -/
def AllEmpty (s : PStack) : Prop := ∀ e ∈ s, e = StackEntry.unmixed .empty

theorem inMixed_cons (e : StackEntry) (s : PStack) : inMixed (e :: s) = (e == .mixed || inMixed s) := rfl

theorem inMixed_append (a b : PStack) : inMixed (a ++ b) = (inMixed a || inMixed b) := by
  simp [inMixed, List.any_append]

theorem inMixed_allEmpty {s : PStack} (h : AllEmpty s) : inMixed s = false := by
  simp only [inMixed, List.any_eq_false]
  intro e he
  rw [h e he]
  decide

/-- `in_space_preserve` skips the `Empty` entries on top. -/
theorem inSpacePreserve_allEmpty_append {a : PStack} (h : AllEmpty a) (b : PStack) :
    inSpacePreserve (a ++ b) = inSpacePreserve b := by
  induction a with
  | nil => rfl
  | cons e a ih =>
    have he : e = StackEntry.unmixed .empty := h e (by simp)
    subst he
    simp only [List.cons_append, inSpacePreserve]
    exact ih (fun x hx => h x (by simp [hx]))

/-- Shape of a stack inside a `preserve` scope: `Empty` entries, then the `Preserve` entry. -/
theorem inSpacePreserve_shape {s : PStack} (h : inSpacePreserve s = true) :
    ∃ a below, s = a ++ StackEntry.unmixed .preserve :: below ∧ AllEmpty a := by
  induction s with
  | nil => simp [inSpacePreserve] at h
  | cons e s ih =>
    cases e with
    | mixed => simp [inSpacePreserve] at h
    | unmixed sp =>
      cases sp with
      | preserve => exact ⟨[], s, rfl, by intro e he; simp at he⟩
      | default => simp [inSpacePreserve] at h
      | empty =>
        simp only [inSpacePreserve] at h
        obtain ⟨a, below, hs, ha⟩ := ih h
        refine ⟨StackEntry.unmixed .empty :: a, below, by simp [hs], ?_⟩
        intro e he
        rcases List.mem_cons.mp he with rfl | he
        · rfl
        · exact ha e he

/-- Once `in_preserve` is set, `Empty` entries do not count. -/
theorem foldl_indentStep_allEmpty {a : PStack} (h : AllEmpty a) (c : Nat) :
    a.foldl indentStep (c, true) = (c, true) := by
  induction a with
  | nil => rfl
  | cons e a ih =>
    have he : e = StackEntry.unmixed .empty := h e (by simp)
    subst he
    simp only [List.foldl_cons, indentStep]
    exact ih (fun x hx => h x (by simp [hx]))

theorem allEmpty_reverse {a : PStack} (h : AllEmpty a) : AllEmpty a.reverse := by
  intro e he
  exact h e (by simpa using he)

/-- Inside a `preserve` scope the loop of `get_indentation` yields the count accumulated below the
    `Preserve` entry: the indentation is frozen at the depth of the `preserve` element. -/
theorem foldl_indentStep_preserve {a : PStack} (h : AllEmpty a) (below : PStack) :
    ((a ++ StackEntry.unmixed .preserve :: below).reverse.foldl indentStep (0, false)).1 =
      (below.reverse.foldl indentStep (0, false)).1 := by
  simp only [List.reverse_append, List.reverse_cons, List.foldl_append, List.foldl_cons,
    List.foldl_nil, List.append_assoc]
  generalize below.reverse.foldl indentStep (0, false) = st
  obtain ⟨c, b⟩ := st
  simp only [indentStep]
  rw [foldl_indentStep_allEmpty (allEmpty_reverse h)]

end PStack
/-! ### What a granted indentation or newline says about the stack -/

theorem inMixed_zero {ps : PStack} (h : ps.inMixed = true) : ps.getIndentation = 0 ∧ ps.getNewline = false := by
  simp [PStack.getIndentation, PStack.getNewline, h]

theorem getIndentation_pos {s : PStack} (h : s.getIndentation > 0) : s.inMixed = false := by
  unfold PStack.getIndentation at h
  cases hm : s.inMixed
  · rfl
  · simp [hm] at h

theorem getNewline_true {s : PStack} (h : s.getNewline = true) : s.inMixed = false := by
  unfold PStack.getNewline at h
  cases hm : s.inMixed
  · rfl
  · simp [hm] at h

theorem getIndentation_pos_preserve {s : PStack} (h : s.getIndentation > 0) : s.inSpacePreserve = false := by
  unfold PStack.getIndentation at h
  cases hp : s.inSpacePreserve
  · rfl
  · simp [hp] at h

theorem getNewline_true_preserve {s : PStack} (h : s.getNewline = true) : s.inSpacePreserve = false := by
  unfold PStack.getNewline at h
  cases hp : s.inSpacePreserve
  · rfl
  · simp [hp] at h

end XotModel

/-! ## The stack along the traversal

  The `Pretty` machine with its two closures left open (`prettifyWith`): before every event of `genOutputs`
  the stack consists of the entries of the open elements (those with children) between the start node and the
  event's node, an explicit function of the tree (`Pretty.entriesAbove` / `Pretty.entriesIncl`).
  The XML and HTML serialisers are the two instances (Lemmas/PrettyTrace, Lemmas/Html5PrettyTrace).
-/

namespace XotModel

/-- `Pretty::prettify(node, output)` with the closures of its caller as parameters:
    `inl` = `has_inline_child` (which depends on `is_inline`), `supp` = `is_suppressed`. -/
def prettifyWith (inl : Tree → Bool) (supp : Nat → Bool) (s : PStack) (node : Tree) :
    Output → PStack × Nat × Bool
  | .startTagOpen _ => (s, s.getIndentation, false)
  | .comment _ => (s, s.getIndentation, s.getNewline)
  | .pi _ _ => (s, s.getIndentation, s.getNewline)
  | .startTagClose =>
    if node.firstChild?.isSome then
      if !inl node then
        let isSuppressed := match node.value with
          | .element name => supp name
          | _ => false
        let s' : PStack := if isSuppressed then .mixed :: s else .unmixed (elementSpace node) :: s
        (s', 0, s'.getNewline)
      else (.mixed :: s, 0, false)
    else (s, 0, false)
  | .endTag _ =>
    if node.firstChild?.isSome then
      let noIndentation := s.inMixed || s.inSpacePreserve
      let s' : PStack := s.tail
      (s', if !noIndentation then s'.getIndentation else 0, s'.getNewline)
    else (s, 0, s.getNewline)
  | _ => (s, 0, false)

def prettifyAtWith (inl : Tree → Bool) (supp : Nat → Bool) (t : Tree) (s : PStack) (path : Path)
    (o : Output) : PStack × Nat × Bool :=
  match t.at? path with
  | some node => prettifyWith inl supp s node o
  | none => (s, 0, false)

theorem prettify_eq_with (sup : List Nat) : prettify sup = prettifyWith hasInlineChild sup.contains := by
  funext s node o
  cases o <;> rfl

theorem prettifyAt_eq_with (sup : List Nat) :
    prettifyAt sup = prettifyAtWith hasInlineChild sup.contains := by
  funext t s p o
  unfold prettifyAt prettifyAtWith
  rw [prettify_eq_with]
  rfl

/-! ### Kinds of events -/

/-- Events `prettify` does not move the stack for. -/
def Output.isPrettyNeutral : Output → Bool
  | .startTagClose => false
  | .endTag _ => false
  | _ => true

/-- Events whose token ends a piece of markup: `>` / `/>`, an end tag, a comment, a PI. -/
def Output.closesMarkup : Output → Bool
  | .startTagClose => true
  | .endTag _ => true
  | .comment _ => true
  | .pi _ _ => true
  | _ => false

/-- Events whose token begins a piece of markup: `<name`, an end tag, a comment, a PI. -/
def Output.opensMarkup : Output → Bool
  | .startTagOpen _ => true
  | .endTag _ => true
  | .comment _ => true
  | .pi _ _ => true
  | _ => false

theorem ownEvent_endTag {inScope : List (Nat × Nat)} {b : Bool} {n : Tree} {name : Nat}
    (h : OwnEvent inScope b n (.endTag name)) : n.value = .element name := by
  unfold OwnEvent edgeStart edgeEnd at h
  cases hv : n.value <;> simp [hv] at h
  rcases h with h1 | h1
  · have h2 := h1.2
    unfold extraPrefixes at h2
    simp at h2
  · rw [h1]

theorem ownEvent_startTagClose {inScope : List (Nat × Nat)} {b : Bool} {n : Tree}
    (h : OwnEvent inScope b n .startTagClose) : ∃ name, n.value = .element name := by
  unfold OwnEvent edgeStart edgeEnd at h
  cases hv : n.value <;> simp [hv] at h
  exact ⟨_, rfl⟩

/-- The events of an element up to its `>` leave the `Pretty` stack alone. -/
theorem startTag_neutral (inScope : List (Nat × Nat)) (isTop : Bool) (path : Path) (name : Nat) (n : Tree) :
    ∀ po ∈ (path, Output.startTagOpen name) :: declEvents inScope isTop path n,
      po.2.isPrettyNeutral = true ∧ po.1 = path := by
  intro po hpo
  rcases List.mem_cons.mp hpo with rfl | h
  · exact ⟨rfl, rfl⟩
  · obtain ⟨h1, h2⟩ := declEvents_isDecl inScope isTop path n po h
    exact ⟨by cases hpo2 : po.2 <;> first | rfl | (rw [hpo2] at h2; cases h2), h1⟩

/-- The open elements strictly above the node at `rel`: `a` sits at a proper prefix of `rel`. -/
def OpenAbove (n : Tree) (rel : Path) (a : Tree) : Prop :=
  ∃ rel1 rel2, rel = rel1 ++ rel2 ∧ rel2 ≠ [] ∧ (∃ node, n.at? rel = some node) ∧ n.at? rel1 = some a

namespace Pretty

/-! ### Stacks along a list of events, for any step function -/

section Trace
variable (step : PStack → Path × Output → PStack)

/-- The stack held before each event (the stack after the events is `evs.foldl step ps`). -/
def trace : PStack → List (Path × Output) → List (PStack × Path × Output)
  | _, [] => []
  | ps, po :: rest => (ps, po.1, po.2) :: trace (step ps po) rest

theorem mem_trace_append (ps : PStack) (a b : List (Path × Output)) (x : PStack × Path × Output) :
    x ∈ trace step ps (a ++ b) ↔ x ∈ trace step ps a ∨ x ∈ trace step (a.foldl step ps) b := by
  induction a generalizing ps with
  | nil => simp [trace]
  | cons po a ih => simp only [List.cons_append, trace, List.foldl_cons, List.mem_cons, ih, or_assoc]

theorem trace_mem_events (ps : PStack) (evs : List (Path × Output)) (x : PStack × Path × Output)
    (h : x ∈ trace step ps evs) : (x.2.1, x.2.2) ∈ evs := by
  induction evs generalizing ps with
  | nil => cases h
  | cons po evs ih =>
    rcases List.mem_cons.mp h with rfl | h
    · exact List.mem_cons_self
    · exact List.mem_cons_of_mem _ (ih _ h)

theorem trace_neutral (ps : PStack) (evs : List (Path × Output)) (hall : ∀ po ∈ evs, step ps po = ps) :
    (∀ x ∈ trace step ps evs, x.1 = ps) ∧ evs.foldl step ps = ps := by
  induction evs with
  | nil => exact ⟨fun _ h => (nomatch h), rfl⟩
  | cons po evs ih =>
    obtain ⟨ih1, ih2⟩ := ih (fun q hq => hall q (List.mem_cons_of_mem _ hq))
    simp only [trace, List.foldl_cons, hall po List.mem_cons_self, List.mem_cons]
    refine ⟨?_, ih2⟩
    rintro x (rfl | hx)
    · rfl
    · exact ih1 x hx

end Trace

variable (inl : Tree → Bool) (supp : Nat → Bool) (t : Tree)

/-- The stack after `prettify` of one event. -/
def step (ps : PStack) (po : Path × Output) : PStack := (prettifyAtWith inl supp t ps po.1 po.2).1

/-- The entry `StartTagClose` pushes for an element with children. -/
def entryFor (node : Tree) : StackEntry :=
  if inl node then .mixed
  else if (match node.value with
           | .element name => supp name
           | _ => false) then .mixed
  else .unmixed (elementSpace node)

/-- What an open node has on the stack: elements with children one entry, anything else nothing. -/
def openEntryOf (node : Tree) : PStack :=
  match node.value with
  | .element _ => if node.firstChild?.isSome then [entryFor inl supp node] else []
  | _ => []

theorem step_neutral (ps : PStack) (p : Path) (o : Output) (ho : o.isPrettyNeutral = true) :
    step inl supp t ps (p, o) = ps := by
  unfold step prettifyAtWith
  cases t.at? p with
  | none => rfl
  | some node => cases o <;> first | rfl | cases ho

/-- `StartTagClose` of a node with children pushes its entry and decides the newline on the new stack. -/
theorem prettifyWith_close (ps : PStack) (node : Tree) (hc : node.firstChild?.isSome = true) :
    prettifyWith inl supp ps node .startTagClose =
      (entryFor inl supp node :: ps, 0, PStack.getNewline (entryFor inl supp node :: ps)) := by
  simp only [prettifyWith, hc, if_true, entryFor]
  cases inl node with
  | true => rfl
  | false =>
    simp only [Bool.not_false, if_true, Bool.false_eq_true, if_false]
    cases node.value with
    | element name =>
      simp only []
      split <;> rfl
    | _ => rfl

theorem prettifyWith_close_indent (ps : PStack) (node : Tree) :
    (prettifyWith inl supp ps node .startTagClose).2.1 = 0 := by
  by_cases hc : node.firstChild?.isSome = true
  · rw [prettifyWith_close inl supp ps node hc]
  · simp only [prettifyWith, hc, Bool.false_eq_true, if_false]

theorem step_close (ps : PStack) (p : Path) (name : Nat) (ks : List Tree)
    (hn : t.at? p = some (.node (.element name) ks)) :
    step inl supp t ps (p, .startTagClose) = openEntryOf inl supp (.node (.element name) ks) ++ ps := by
  simp only [step, prettifyAtWith, hn, openEntryOf, Tree.value]
  by_cases hc : (Tree.node (.element name) ks).firstChild?.isSome = true
  · rw [prettifyWith_close inl supp ps _ hc, if_pos hc]
    rfl
  · simp only [prettifyWith, hc, Bool.false_eq_true, if_false]
    rfl

theorem step_end (ps : PStack) (p : Path) (name : Nat) (ks : List Tree)
    (hn : t.at? p = some (.node (.element name) ks)) :
    step inl supp t (openEntryOf inl supp (.node (.element name) ks) ++ ps) (p, .endTag name) = ps := by
  simp only [step, prettifyAtWith, hn, prettifyWith, openEntryOf, Tree.value]
  by_cases hc : (Tree.node (.element name) ks).firstChild?.isSome = true <;> simp [hc]

/-! ### Entries of the open elements -/

/-- Entries of the nodes from `n` down to the parent of the node at `rel`, innermost first. -/
def entriesAbove : Tree → Path → PStack
  | _, [] => []
  | n, i :: rel =>
    match n.kids[i]? with
    | some k => entriesAbove k rel ++ openEntryOf inl supp n
    | none => []

/-- … down to the node at `rel` itself. -/
def entriesIncl : Tree → Path → PStack
  | n, [] => openEntryOf inl supp n
  | n, i :: rel =>
    match n.kids[i]? with
    | some k => entriesIncl k rel ++ openEntryOf inl supp n
    | none => openEntryOf inl supp n

/-- The stack an event of the node at `rel` sees: the end tag is handled with the element's own
    entry still on the stack. -/
def entriesFor (o : Output) (n : Tree) (rel : Path) : PStack :=
  match o with
  | .endTag _ => entriesIncl inl supp n rel
  | _ => entriesAbove inl supp n rel

/-- The stack an event of the node at `rel` leaves behind, on which its newline is decided:
    `StartTagClose` has pushed the element's own entry. -/
def entriesAfter (o : Output) (n : Tree) (rel : Path) : PStack :=
  match o with
  | .startTagClose => entriesIncl inl supp n rel
  | _ => entriesAbove inl supp n rel

theorem entriesFor_cons (o : Output) (v : Value) (ks : List Tree) (j : Nat) (k : Tree) (rel : Path)
    (hk : ks[j]? = some k) :
    entriesFor inl supp o (.node v ks) (j :: rel) =
      entriesFor inl supp o k rel ++ openEntryOf inl supp (.node v ks) := by
  cases o <;> simp only [entriesFor, entriesAbove, entriesIncl, Tree.kids, hk]

theorem entriesFor_nil_neutral (o : Output) (n : Tree) (ho : o.isPrettyNeutral = true) :
    entriesFor inl supp o n [] = [] := by
  cases o <;> first | rfl | cases ho

mutual
/-- The events of a subtree are handled with the entries of the open elements on top of the stack
    the subtree is entered with, and leave that stack behind. -/
theorem genNode_trace (inScope : List (Nat × Nat)) (isTop : Bool) (path : Path) (n : Tree)
    (hat : t.at? path = some n) (ps : PStack) :
    (∀ x ∈ trace (step inl supp t) ps (genNode inScope isTop path n),
      ∃ rel, x.2.1 = path ++ rel ∧ x.1 = entriesFor inl supp x.2.2 n rel ++ ps) ∧
    (genNode inScope isTop path n).foldl (step inl supp t) ps = ps := by
  cases n with
  | node v ks =>
    have hkat := at?_kid t hat
    have kidsPart : ∀ ps1, ps1 = openEntryOf inl supp (.node v ks) ++ ps →
        (∀ x ∈ trace (step inl supp t) ps1 (genNode.genKids inScope path 0 ks),
          ∃ rel, x.2.1 = path ++ rel ∧ x.1 = entriesFor inl supp x.2.2 (.node v ks) rel ++ ps) ∧
        (genNode.genKids inScope path 0 ks).foldl (step inl supp t) ps1 = ps1 := by
      intro ps1 h1
      obtain ⟨k1, k2⟩ := genKids_trace inScope path 0 ks hkat ps1
      refine ⟨fun x hx => ?_, k2⟩
      obtain ⟨j, k, rel, hk, hp, hs⟩ := k1 x hx
      refine ⟨j :: rel, by simpa using hp, ?_⟩
      rw [entriesFor_cons inl supp _ v ks j k rel hk, hs, h1, List.append_assoc]
    have leaf : ∀ (o : Output), o.isPrettyNeutral = true → openEntryOf inl supp (.node v ks) = [] →
        (∀ x ∈ trace (step inl supp t) ps ((path, o) :: genNode.genKids inScope path 0 ks),
          ∃ rel, x.2.1 = path ++ rel ∧ x.1 = entriesFor inl supp x.2.2 (.node v ks) rel ++ ps) ∧
        ((path, o) :: genNode.genKids inScope path 0 ks).foldl (step inl supp t) ps = ps := by
      intro o ho he
      obtain ⟨k1, k2⟩ := kidsPart ps (by rw [he]; rfl)
      simp only [trace, List.foldl_cons, step_neutral inl supp t ps path o ho, List.mem_cons]
      refine ⟨?_, k2⟩
      rintro x (rfl | hx)
      · exact ⟨[], (List.append_nil _).symm, by rw [entriesFor_nil_neutral inl supp o _ ho]; rfl⟩
      · exact k1 x hx
    cases v with
    | element name =>
      rw [show genNode inScope isTop path (.node (.element name) ks) = (_ :: declEvents inScope isTop path _) ++ _
        from genNode_element_shape inScope isTop path name ks]
      have hpre := startTag_neutral inScope isTop path name (.node (.element name) ks)
      obtain ⟨n1, n2⟩ := trace_neutral (step inl supp t) ps _
        (fun po hpo => step_neutral inl supp t ps po.1 po.2 (hpre po hpo).1)
      have hclose := step_close inl supp t ps path name ks hat
      obtain ⟨k1, k2⟩ := kidsPart (openEntryOf inl supp (.node (.element name) ks) ++ ps) rfl
      constructor
      · intro x hx
        rcases (mem_trace_append _ ps _ _ x).mp hx with hx | hx
        · obtain ⟨e3, e4⟩ := hpre _ (trace_mem_events _ _ _ x hx)
          exact ⟨[], by rw [List.append_nil]; exact e4,
            by rw [n1 x hx, entriesFor_nil_neutral inl supp _ _ e3]; rfl⟩
        · rw [n2] at hx
          simp only [trace, List.mem_cons, hclose] at hx
          rcases hx with rfl | hx
          · exact ⟨[], (List.append_nil _).symm, rfl⟩
          · rcases (mem_trace_append _ _ _ _ x).mp hx with hx | hx
            · exact k1 x hx
            · rw [k2] at hx
              simp only [trace, List.mem_cons, List.not_mem_nil, or_false] at hx
              subst hx
              exact ⟨[], (List.append_nil _).symm, rfl⟩
      · rw [List.foldl_append, n2, List.foldl_cons, hclose, List.foldl_append, k2]
        exact step_end inl supp t ps path name ks hat
    | document => rw [genNode_document]; exact kidsPart ps rfl
    | «attribute» a val => rw [genNode_attribute]; exact kidsPart ps rfl
    | «namespace» p ns => rw [genNode_namespace]; exact kidsPart ps rfl
    | text x => rw [genNode_text]; exact leaf _ rfl rfl
    | comment x => rw [genNode_comment]; exact leaf _ rfl rfl
    | pi tg d => rw [genNode_pi]; exact leaf _ rfl rfl

theorem genKids_trace (inScope : List (Nat × Nat)) (path : Path) (i : Nat) (ks : List Tree)
    (hat : ∀ (j : Nat) (k : Tree), ks[j]? = some k → t.at? (path ++ [i + j]) = some k) (ps : PStack) :
    (∀ x ∈ trace (step inl supp t) ps (genNode.genKids inScope path i ks),
        ∃ (j : Nat) (k : Tree) (rel : Path), ks[j]? = some k ∧ x.2.1 = path ++ (i + j) :: rel ∧
          x.1 = entriesFor inl supp x.2.2 k rel ++ ps) ∧
    (genNode.genKids inScope path i ks).foldl (step inl supp t) ps = ps := by
  cases ks with
  | nil => exact ⟨fun _ h => (nomatch h), rfl⟩
  | cons k ks' =>
    simp only [genNode.genKids]
    obtain ⟨hk0, hrest⟩ := Ser.kidsAt_cons t hat
    obtain ⟨a1, a2⟩ := genNode_trace inScope false (path ++ [i]) k hk0 ps
    obtain ⟨b1, b2⟩ := genKids_trace inScope path (i + 1) ks' hrest ps
    constructor
    · intro x hx
      rcases (mem_trace_append _ ps _ _ x).mp hx with hx1 | hx1
      · obtain ⟨rel, hp, hs⟩ := a1 x hx1
        exact ⟨0, k, rel, rfl, by simp [hp], hs⟩
      · rw [a2] at hx1
        obtain ⟨j, k', rel, hk, hp, hs⟩ := b1 x hx1
        exact ⟨j + 1, k', rel, by simpa using hk, by rw [hp]; simp; omega, hs⟩
    · rw [List.foldl_append, a2, b2]
end

/-- From the start node: the `Pretty` stack starts empty. -/
theorem genOutputs_trace (start : Path) (n : Tree) (inScope : List (Nat × Nat))
    (hat : t.at? start = some n) (hs : namespacesInScope t start = some inScope)
    (x : PStack × Path × Output) (hx : x ∈ trace (step inl supp t) [] (genOutputs t start)) :
    ∃ rel, x.2.1 = start ++ rel ∧ x.1 = entriesFor inl supp x.2.2 n rel := by
  rw [genOutputs_eq_genNode hat hs] at hx
  obtain ⟨rel, h1, h2⟩ := (genNode_trace inl supp t inScope true start n hat []).1 x hx
  exact ⟨rel, h1, by rw [h2, List.append_nil]⟩

theorem genOutputs_trace_node (start : Path) (n : Tree) (inScope : List (Nat × Nat))
    (hat : t.at? start = some n) (hs : namespacesInScope t start = some inScope)
    (x : PStack × Path × Output) (hx : x ∈ trace (step inl supp t) [] (genOutputs t start)) :
    ∃ rel node, x.2.1 = start ++ rel ∧ n.at? rel = some node ∧ t.at? x.2.1 = some node ∧
      OwnEvent inScope (true && rel.isEmpty) node x.2.2 ∧ x.1 = entriesFor inl supp x.2.2 n rel := by
  obtain ⟨rel, h1, h2⟩ := genOutputs_trace inl supp t start n inScope hat hs x hx
  have hev := trace_mem_events _ _ _ x hx
  rw [genOutputs_eq_genNode hat hs] at hev
  obtain ⟨rel', node, hp', hat', _, hown⟩ := genNode_tagged inScope true start n _ _ hev
  have hrr : rel' = rel := List.append_cancel_left (hp'.symm.trans h1)
  subst hrr
  exact ⟨rel', node, h1, hat', by rw [h1, at?_append, hat]; exact hat', hown, h2⟩

/-! ### Reading the entries off the tree -/

theorem mem_openEntryOf {a : Tree} {e : StackEntry} (h : e ∈ openEntryOf inl supp a) :
    (∃ name, a.value = .element name) ∧ a.firstChild?.isSome = true ∧ e = entryFor inl supp a := by
  unfold openEntryOf at h
  cases hv : a.value <;> simp [hv] at h
  rename_i name
  exact ⟨⟨name, rfl⟩, h.1, h.2⟩

theorem openEntryOf_element {a : Tree} {name : Nat} (hv : a.value = .element name)
    (hc : a.firstChild?.isSome = true) : openEntryOf inl supp a = [entryFor inl supp a] := by
  simp only [openEntryOf, hv, hc, if_true]

theorem mem_entriesAbove (n : Tree) (rel : Path) (node : Tree) (hat : n.at? rel = some node)
    (e : StackEntry) (h : e ∈ entriesAbove inl supp n rel) :
    ∃ a, OpenAbove n rel a ∧ e ∈ openEntryOf inl supp a := by
  induction rel generalizing n with
  | nil => cases h
  | cons i rel ih =>
    cases n with
    | node v ks =>
      rw [at?_cons] at hat
      cases hk : ks[i]? with
      | none => simp [hk] at hat
      | some k =>
        simp only [hk, Option.bind_some] at hat
        simp only [entriesAbove, Tree.kids, hk, List.mem_append] at h
        rcases h with h | h
        · obtain ⟨a, ⟨r1, r2, hr, hne, _, ha⟩, he⟩ := ih k hat h
          refine ⟨a, ⟨i :: r1, r2, by simp [hr], hne, ⟨node, by rw [at?_cons, hk]; exact hat⟩, ?_⟩, he⟩
          rw [at?_cons, hk]; exact ha
        · exact ⟨.node v ks, ⟨[], i :: rel, rfl, by simp, ⟨node, by rw [at?_cons, hk]; exact hat⟩, rfl⟩, h⟩

theorem entryFor_mixed_iff (a : Tree) (name : Nat) (hv : a.value = .element name) :
    entryFor inl supp a = .mixed ↔ (inl a = true ∨ supp name = true) := by
  simp only [entryFor, hv]
  cases inl a <;> cases supp name <;> simp

theorem openAbove_entry (n : Tree) (rel : Path) (a : Tree) (h : OpenAbove n rel a) :
    ∀ e ∈ openEntryOf inl supp a, e ∈ entriesAbove inl supp n rel := by
  obtain ⟨rel1, rel2, hr, hne, ⟨node, hnode⟩, ha⟩ := h
  subst hr
  induction rel1 generalizing n with
  | nil =>
    simp only [Tree.at?, Option.some.injEq] at ha
    subst ha
    cases rel2 with
    | nil => exact absurd rfl hne
    | cons i rel' =>
      cases n with
      | node v ks =>
        simp only [List.nil_append] at hnode ⊢
        rw [at?_cons] at hnode
        cases hk : ks[i]? with
        | none => simp [hk] at hnode
        | some k =>
          intro e he
          simp [entriesAbove, Tree.kids, hk, he]
  | cons i r1 ih =>
    cases n with
    | node v ks =>
      simp only [List.cons_append] at hnode ⊢
      rw [at?_cons] at hnode ha
      cases hk : ks[i]? with
      | none => simp [hk] at ha
      | some k =>
        simp only [hk, Option.bind_some] at hnode ha
        intro e he
        simp only [entriesAbove, Tree.kids, hk, List.mem_append]
        exact Or.inl (ih k ha hnode e he)

theorem entriesIncl_eq (n : Tree) (rel : Path) (node : Tree) (h : n.at? rel = some node) :
    entriesIncl inl supp n rel = openEntryOf inl supp node ++ entriesAbove inl supp n rel := by
  induction rel generalizing n with
  | nil =>
    simp only [Tree.at?, Option.some.injEq] at h
    subst h
    simp [entriesIncl, entriesAbove]
  | cons i rel ih =>
    cases n with
    | node v ks =>
      rw [at?_cons] at h
      cases hk : ks[i]? with
      | none => simp [hk] at h
      | some k =>
        simp only [hk, Option.bind_some] at h
        simp [entriesIncl, entriesAbove, Tree.kids, hk, ih k h]

/-- The entries above the node are a suffix of the stack before and of the stack after each of
    its events. -/
theorem inMixed_above_of_for (o : Output) (n : Tree) (rel : Path) (node : Tree) (hat : n.at? rel = some node)
    (h : PStack.inMixed (entriesFor inl supp o n rel) = false) :
    PStack.inMixed (entriesAbove inl supp n rel) = false := by
  cases o <;> first | exact h | skip
  rw [entriesFor, entriesIncl_eq inl supp n rel node hat, PStack.inMixed_append, Bool.or_eq_false_iff] at h
  exact h.2

theorem inMixed_above_of_after (o : Output) (n : Tree) (rel : Path) (node : Tree) (hat : n.at? rel = some node)
    (h : PStack.inMixed (entriesAfter inl supp o n rel) = false) :
    PStack.inMixed (entriesAbove inl supp n rel) = false := by
  cases o <;> first | exact h | skip
  rw [entriesAfter, entriesIncl_eq inl supp n rel node hat, PStack.inMixed_append, Bool.or_eq_false_iff] at h
  exact h.2

/-- No `Mixed` entry above the node: no open element strictly above it has an inline child or a
    suppressed name. -/
theorem not_mixed_above (n : Tree) (rel : Path)
    (hm : PStack.inMixed (entriesAbove inl supp n rel) = false) (a : Tree) (name : Nat)
    (ha : OpenAbove n rel a) (hv : a.value = .element name) (hc : a.firstChild?.isSome = true) :
    inl a = false ∧ supp name = false := by
  have hin := openAbove_entry inl supp n rel a ha _
    (by rw [openEntryOf_element inl supp hv hc]; exact List.mem_singleton_self _)
  have hne : entryFor inl supp a ≠ StackEntry.mixed := by
    intro he
    rw [PStack.inMixed, List.any_eq_false] at hm
    exact hm _ hin (by rw [he]; rfl)
  have h3 : ¬ (inl a = true ∨ supp name = true) := fun hor => hne ((entryFor_mixed_iff inl supp a name hv).mpr hor)
  simpa only [not_or, Bool.not_eq_true] using h3

/-! ### What `prettify` grants, and where -/

theorem prettifyWith_newline_after (s : PStack) (node : Tree) (o : Output)
    (h : (prettifyWith inl supp s node o).2.2 = true) :
    o.closesMarkup = true ∧ (prettifyWith inl supp s node o).1.getNewline = true := by
  cases o with
  | startTagClose =>
    refine ⟨rfl, ?_⟩
    by_cases hc : node.firstChild?.isSome = true
    · rw [prettifyWith_close inl supp s node hc] at h ⊢
      exact h
    · simp only [prettifyWith, hc, Bool.false_eq_true, if_false] at h
  | endTag name =>
    refine ⟨rfl, ?_⟩
    simp only [prettifyWith] at h ⊢
    split <;> simpa only [*, if_true, if_false, Bool.false_eq_true] using h
  | comment x => exact ⟨rfl, h⟩
  | pi tg d => exact ⟨rfl, h⟩
  | startTagOpen name => cases h
  | text x => cases h
  | pfx a b => cases h
  | «attribute» a v => cases h

theorem prettifyWith_indent_before (s : PStack) (node : Tree) (o : Output)
    (h : (prettifyWith inl supp s node o).2.1 > 0) :
    o.opensMarkup = true ∧ s.inMixed = false ∧ s.inSpacePreserve = false := by
  cases o with
  | startTagOpen name => exact ⟨rfl, getIndentation_pos h, getIndentation_pos_preserve h⟩
  | comment x => exact ⟨rfl, getIndentation_pos h, getIndentation_pos_preserve h⟩
  | pi tg d => exact ⟨rfl, getIndentation_pos h, getIndentation_pos_preserve h⟩
  | endTag name =>
    refine ⟨rfl, ?_⟩
    simp only [prettifyWith] at h
    split at h
    · cases hb : (s.inMixed || s.inSpacePreserve) with
      | false => exact Bool.or_eq_false_iff.mp hb
      | true => rw [hb] at h; exact absurd h (Nat.lt_irrefl 0)
    · cases h
  | startTagClose =>
    rw [prettifyWith_close_indent] at h
    exact absurd h (Nat.lt_irrefl 0)
  | text x => cases h
  | pfx a b => cases h
  | «attribute» a v => cases h

theorem prettifyAtWith_newline_after (s : PStack) (p : Path) (o : Output)
    (h : (prettifyAtWith inl supp t s p o).2.2 = true) :
    o.closesMarkup = true ∧ (step inl supp t s (p, o)).getNewline = true := by
  unfold step
  unfold prettifyAtWith at h ⊢
  cases hn : t.at? p with
  | none => rw [hn] at h; cases h
  | some node =>
    rw [hn] at h
    exact prettifyWith_newline_after inl supp s node o h

theorem prettifyAtWith_indent_before (s : PStack) (p : Path) (o : Output)
    (h : (prettifyAtWith inl supp t s p o).2.1 > 0) :
    o.opensMarkup = true ∧ s.inMixed = false ∧ s.inSpacePreserve = false := by
  unfold prettifyAtWith at h
  cases hn : t.at? p with
  | none => rw [hn] at h; cases h
  | some node =>
    rw [hn] at h
    exact prettifyWith_indent_before inl supp s node o h

theorem prettifyAtWith_nil_indent (p : Path) (o : Output) : (prettifyAtWith inl supp t [] p o).2.1 = 0 := by
  unfold prettifyAtWith
  cases t.at? p with
  | none => rfl
  | some node =>
    cases o with
    | startTagClose => exact prettifyWith_close_indent inl supp [] node
    | endTag name =>
      simp only [prettifyWith]
      split <;> rfl
    | _ => rfl

/-! ### The decorated event stream -/

/-- The decoration `prettify` computes for each event, paired with the event. -/
def decorated (ps : PStack) (evs : List (Path × Output)) : List ((Nat × Bool) × Path × Output) :=
  (trace (step inl supp t) ps evs).map
    (fun x => ((prettifyAtWith inl supp t x.1 x.2.1 x.2.2).2, x.2.1, x.2.2))

theorem decorated_events (ps : PStack) (evs : List (Path × Output)) :
    (decorated inl supp t ps evs).map (fun y => y.2) = evs := by
  unfold decorated
  induction evs generalizing ps with
  | nil => rfl
  | cons po evs ih => simp only [trace, List.map_cons, ih]

/-- Two consecutive decorated events: both are trace entries, the second one's stack is the stack
    the first leaves behind. -/
theorem decorated_adjacent (ps : PStack) (evs : List (Path × Output))
    (pre post : List ((Nat × Bool) × Path × Output)) (y1 y2 : (Nat × Bool) × Path × Output)
    (h : decorated inl supp t ps evs = pre ++ y1 :: y2 :: post) :
    ∃ ps1, (ps1, y1.2.1, y1.2.2) ∈ trace (step inl supp t) ps evs ∧
      (step inl supp t ps1 y1.2, y2.2.1, y2.2.2) ∈ trace (step inl supp t) ps evs ∧
      y1.1 = (prettifyAtWith inl supp t ps1 y1.2.1 y1.2.2).2 ∧
      y2.1 = (prettifyAtWith inl supp t (step inl supp t ps1 y1.2) y2.2.1 y2.2.2).2 := by
  unfold decorated at h
  induction evs generalizing ps pre with
  | nil => cases pre <;> cases h
  | cons po evs ih =>
    cases pre with
    | nil =>
      cases evs with
      | nil => cases h
      | cons po2 evs2 =>
        simp only [trace, List.map_cons, List.nil_append, List.cons.injEq] at h
        obtain ⟨rfl, rfl, _⟩ := h
        exact ⟨ps, List.mem_cons_self, List.mem_cons_of_mem _ List.mem_cons_self, rfl, rfl⟩
    | cons x pre' =>
      simp only [trace, List.map_cons, List.cons_append, List.cons.injEq] at h
      obtain ⟨ps1, m1, m2, e⟩ := ih _ pre' h.2
      exact ⟨ps1, List.mem_cons_of_mem _ m1, List.mem_cons_of_mem _ m2, e⟩

/-! ### Where whitespace is granted, on the tree -/

theorem step_own (start rel : Path) (n node : Tree) (inScope : List (Nat × Nat)) (b : Bool) (o : Output)
    (hnode : n.at? rel = some node) (htn : t.at? (start ++ rel) = some node)
    (hown : OwnEvent inScope b node o) :
    step inl supp t (entriesFor inl supp o n rel) (start ++ rel, o) = entriesAfter inl supp o n rel := by
  cases o with
  | startTagClose =>
    obtain ⟨name, hval⟩ := ownEvent_startTagClose hown
    cases node with
    | node v ks =>
      cases hval
      rw [step_close inl supp t _ _ name ks htn, entriesAfter, entriesIncl_eq inl supp n rel _ hnode]
      rfl
  | endTag name =>
    have hval := ownEvent_endTag hown
    cases node with
    | node v ks =>
      cases hval
      rw [entriesFor, entriesIncl_eq inl supp n rel _ hnode]
      exact step_end inl supp t _ _ name ks htn
  | startTagOpen name => exact step_neutral inl supp t _ _ _ rfl
  | comment s => exact step_neutral inl supp t _ _ _ rfl
  | pi tg d => exact step_neutral inl supp t _ _ _ rfl
  | text s => exact step_neutral inl supp t _ _ _ rfl
  | pfx a b => exact step_neutral inl supp t _ _ _ rfl
  | «attribute» a v => exact step_neutral inl supp t _ _ _ rfl

/-- Every event of the run, against the tree: its decoration is `prettify` on the entries of the
    open elements between the start node and the event's node; indentation requires those entries
    to be neither mixed nor in `preserve` scope, a newline the entries it lands in. -/
theorem where_tree (start : Path) (n : Tree) (inScope : List (Nat × Nat))
    (hat : t.at? start = some n) (hs : namespacesInScope t start = some inScope)
    (x : PStack × Path × Output) (hx : x ∈ trace (step inl supp t) [] (genOutputs t start)) :
    ∃ rel node, x.2.1 = start ++ rel ∧ n.at? rel = some node ∧
      OwnEvent inScope (true && rel.isEmpty) node x.2.2 ∧
      (prettifyAtWith inl supp t x.1 x.2.1 x.2.2).2 =
        (prettifyWith inl supp (entriesFor inl supp x.2.2 n rel) node x.2.2).2 ∧
      ((prettifyAtWith inl supp t x.1 x.2.1 x.2.2).2.1 > 0 →
        PStack.inMixed (entriesFor inl supp x.2.2 n rel) = false ∧
        PStack.inSpacePreserve (entriesFor inl supp x.2.2 n rel) = false) ∧
      ((prettifyAtWith inl supp t x.1 x.2.1 x.2.2).2.2 = true →
        PStack.inMixed (entriesAfter inl supp x.2.2 n rel) = false ∧
        PStack.inSpacePreserve (entriesAfter inl supp x.2.2 n rel) = false) := by
  obtain ⟨rel, node, h1, hnode, htn, hown, h2⟩ := genOutputs_trace_node inl supp t start n inScope hat hs x hx
  obtain ⟨ps, p, o⟩ := x
  simp only at h1 h2 htn hown ⊢
  subst h1 h2
  refine ⟨rel, node, rfl, hnode, hown, by rw [prettifyAtWith, htn], fun hw => ?_, fun hw => ?_⟩
  · exact (prettifyAtWith_indent_before inl supp t _ _ o hw).2
  · have hnl := (prettifyAtWith_newline_after inl supp t _ _ o hw).2
    rw [step_own inl supp t start rel n node inScope _ o hnode htn hown] at hnl
    exact ⟨getNewline_true hnl, getNewline_true_preserve hnl⟩

end Pretty
end XotModel
