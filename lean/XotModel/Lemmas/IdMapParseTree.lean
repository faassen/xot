/-
  C08 and parsing: every id stored in the tree a parse builds was returned by one of the calls of the parse's
  trace (`IssuedBy`; `BuilderAll P` through the steps, the token loop and `build`); every name the parser
  registers names a namespace id the table already holds, hence `Env.DupFree` is kept by a parse and issued
  ids are ids of the tables reached (`Tree.idsIn`).
-/
import XotModel.Lemmas.BasicFacts
import XotModel.Lemmas.IdMapParseTrace

/-! ## Every id was issued: the builder invariant

  An id `IssuedBy` a call is an id of the tables the parse leaves and stands there for the value that call
  registered.  The builder holds the tree as a zipper; `BuilderAll P b` says `P` holds of every value in the
  open frames, their finished children and the declarations collected for the start tag being
  read.  Each step keeps `P ∨ issued by this step's calls`.
-/

namespace XotModel
namespace IdParse

/-- The name id `n` was returned by a name registration of the sequence `rs` made from `e`. -/
def NameIssued (e : Env) (rs : List Reg) (n : Nat) : Prop :=
  ∃ (i : Nat) (loc : Str) (ns : Nat), rs[i]? = some (Reg.name loc ns) ∧ (e.regAll rs).2[i]? = some n

/-- The pair of a namespace node was returned by a prefix registration and the namespace
    registration right after it (`DocumentBuilder::prefix`). -/
def DeclIssued (e : Env) (rs : List Reg) (p ns : Nat) : Prop :=
  ∃ (i : Nat) (s u : Str), rs[i]? = some (Reg.pfx s) ∧ rs[i + 1]? = some (Reg.ns u) ∧
    (e.regAll rs).2[i]? = some p ∧ (e.regAll rs).2[i + 1]? = some ns

/-- Every id the value holds was returned by a call of `rs`. -/
def IssuedBy (e : Env) (rs : List Reg) : Value → Prop
  | .element n => NameIssued e rs n
  | .attribute n _ => NameIssued e rs n
  | .pi n _ => NameIssued e rs n
  | .namespace p ns => DeclIssued e rs p ns
  | _ => True

theorem getElem?_append_shift {α : Type} (l l' : List α) (i : Nat) : (l ++ l')[l.length + i]? = l'[i]? := by
  rw [List.getElem?_append_right (by omega)]
  congr 1; omega

theorem NameIssued.mono {e : Env} {rs : List Reg} {n : Nat} (h : NameIssued e rs n) (rs' : List Reg) :
    NameIssued e (rs ++ rs') n := by
  obtain ⟨i, loc, ns, h1, h2⟩ := h
  refine ⟨i, loc, ns, getElem?_ext h1, ?_⟩
  rw [Env.regAll_append]; exact getElem?_ext h2

theorem NameIssued.shift {e : Env} (rs : List Reg) {rs' : List Reg} {n : Nat}
    (h : NameIssued (e.regAll rs).1 rs' n) : NameIssued e (rs ++ rs') n := by
  obtain ⟨i, loc, ns, h1, h2⟩ := h
  refine ⟨rs.length + i, loc, ns, by rw [getElem?_append_shift]; exact h1, ?_⟩
  rw [Env.regAll_append]
  simp only
  rw [← Env.regAll_length rs e, getElem?_append_shift]; exact h2

theorem DeclIssued.mono {e : Env} {rs : List Reg} {p ns : Nat} (h : DeclIssued e rs p ns) (rs' : List Reg) :
    DeclIssued e (rs ++ rs') p ns := by
  obtain ⟨i, s, u, h1, h2, h3, h4⟩ := h
  refine ⟨i, s, u, getElem?_ext h1, getElem?_ext h2, ?_, ?_⟩
  · rw [Env.regAll_append]; exact getElem?_ext h3
  · rw [Env.regAll_append]; exact getElem?_ext h4

theorem DeclIssued.shift {e : Env} (rs : List Reg) {rs' : List Reg} {p ns : Nat}
    (h : DeclIssued (e.regAll rs).1 rs' p ns) : DeclIssued e (rs ++ rs') p ns := by
  obtain ⟨i, s, u, h1, h2, h3, h4⟩ := h
  refine ⟨rs.length + i, s, u, by rw [getElem?_append_shift]; exact h1,
    by rw [Nat.add_assoc, getElem?_append_shift]; exact h2, ?_, ?_⟩
  · rw [Env.regAll_append]
    simp only
    rw [← Env.regAll_length rs e, getElem?_append_shift]; exact h3
  · rw [Env.regAll_append]
    simp only
    rw [← Env.regAll_length rs e, Nat.add_assoc, getElem?_append_shift]; exact h4

theorem IssuedBy.mono {e : Env} {rs : List Reg} {v : Value} (h : IssuedBy e rs v) (rs' : List Reg) :
    IssuedBy e (rs ++ rs') v := by
  cases v with
  | element n => exact NameIssued.mono h rs'
  | «attribute» n s => exact NameIssued.mono h rs'
  | pi n s => exact NameIssued.mono h rs'
  | «namespace» p ns => exact DeclIssued.mono h rs'
  | document => trivial
  | text s => trivial
  | comment s => trivial

theorem IssuedBy.shift {e : Env} (rs : List Reg) {rs' : List Reg} {v : Value}
    (h : IssuedBy (e.regAll rs).1 rs' v) : IssuedBy e (rs ++ rs') v := by
  cases v with
  | element n => exact NameIssued.shift rs h
  | «attribute» n s => exact NameIssued.shift rs h
  | pi n s => exact NameIssued.shift rs h
  | «namespace» p ns => exact DeclIssued.shift rs h
  | document => trivial
  | text s => trivial
  | comment s => trivial

/-! ### A predicate on every value the builder holds -/

/-- `P` holds of the value of every node. -/
abbrev AllV (P : Value → Prop) (t : Tree) : Prop := t.Forall (fun v _ => P v)

mutual
theorem allV_imp {P Q : Value → Prop} (h : ∀ v, P v → Q v) : ∀ (t : Tree), AllV P t → AllV Q t
  | .node v ks, ht => by
    rw [AllV, Tree.Forall] at ht ⊢
    exact ⟨h v ht.1, allV_imp_list h ks ht.2⟩
theorem allV_imp_list {P Q : Value → Prop} (h : ∀ v, P v → Q v) : ∀ (ks : List Tree),
    Tree.Forall.forallList (fun v _ => P v) ks → Tree.Forall.forallList (fun v _ => Q v) ks
  | [], _ => trivial
  | k :: ks, hk => ⟨allV_imp h k hk.1, allV_imp_list h ks hk.2⟩
end

theorem allV_leaf {P : Value → Prop} {v : Value} (h : P v) : AllV P (.node v []) := by
  rw [AllV, Tree.forall_node]; exact ⟨h, fun k hk => by cases hk⟩

def FrameAll (P : Value → Prop) (f : Frame) : Prop := P f.value ∧ ∀ k ∈ f.rkids, AllV P k

theorem FrameAll.imp {P Q : Value → Prop} (h : ∀ v, P v → Q v) {f : Frame} (hf : FrameAll P f) : FrameAll Q f :=
  ⟨h _ hf.1, fun k hk => allV_imp h k (hf.2 k hk)⟩

theorem FrameAll.close {P : Value → Prop} {f : Frame} (hf : FrameAll P f) : AllV P f.close := by
  rw [AllV, Frame.close, Tree.forall_node]
  exact ⟨hf.1, fun k hk => hf.2 k (List.mem_reverse.mp hk)⟩

structure BuilderAll (P : Value → Prop) (b : Builder) : Prop where
  cur : FrameAll P b.cur
  parents : ∀ f ∈ b.parents, FrameAll P f
  eb : ∀ eb, b.eb = some eb → ∀ d ∈ eb.namespaces, P (.namespace d.1 d.2)

theorem BuilderAll.imp {P Q : Value → Prop} (h : ∀ v, P v → Q v) {b : Builder} (hb : BuilderAll P b) :
    BuilderAll Q b :=
  ⟨hb.cur.imp h, fun f hf => (hb.parents f hf).imp h, fun eb he d hd => h _ (hb.eb eb he d hd)⟩

/-- Only `cur`, `parents` and the declarations of `eb` matter. -/
theorem BuilderAll.congr {P : Value → Prop} {b b' : Builder} (hb : BuilderAll P b) (hc : b'.cur = b.cur)
    (hp : b'.parents = b.parents)
    (he : ∀ eb', b'.eb = some eb' → eb'.namespaces = [] ∨ ∃ eb, b.eb = some eb ∧ eb'.namespaces = eb.namespaces) :
    BuilderAll P b' := by
  refine ⟨by rw [hc]; exact hb.cur, by rw [hp]; exact hb.parents, ?_⟩
  intro eb' he' d hd
  rcases he eb' he' with h0 | ⟨eb, h1, h2⟩
  · rw [h0] at hd; cases hd
  · rw [h2] at hd; exact hb.eb eb h1 d hd

theorem BuilderAll.of_eq {P : Value → Prop} {b b' : Builder} (hb : BuilderAll P b) (hc : b'.cur = b.cur)
    (hp : b'.parents = b.parents) (he : b'.eb = b.eb) : BuilderAll P b' :=
  hb.congr hc hp (fun eb' h => Or.inr ⟨eb', he ▸ h, rfl⟩)

theorem builderAll_new {P : Value → Prop} (hd : P .document) (env : Env) : BuilderAll P (Builder.new env) :=
  ⟨⟨hd, fun k hk => by cases hk⟩, fun f hf => (by cases hf), fun eb he => by cases he⟩

theorem zipInto_all {P : Value → Prop} : ∀ (parents : List Frame) (t : Tree), AllV P t →
    (∀ f ∈ parents, FrameAll P f) → AllV P (zipInto t parents) := by
  intro parents
  induction parents with
  | nil => intro t ht _; exact ht
  | cons p rest ih =>
    intro t ht hp
    simp only [zipInto]
    refine ih _ ?_ (fun f hf => hp f (List.mem_cons_of_mem _ hf))
    have hpf := hp p List.mem_cons_self
    rw [AllV, Tree.forall_node]
    refine ⟨hpf.1, fun k hk => ?_⟩
    rw [List.mem_reverse, List.mem_cons] at hk
    rcases hk with rfl | hk
    · exact ht
    · exact hpf.2 k hk

theorem BuilderAll.root {P : Value → Prop} {b : Builder} (h : BuilderAll P b) : AllV P b.root :=
  zipInto_all b.parents b.cur.close h.cur.close h.parents

/-! ### Steps that add no ids -/

theorem addText_all {P : Value → Prop} (hT : ∀ s, P (.text s)) {b : Builder} (h : BuilderAll P b) (c : Str) :
    BuilderAll P (b.addText c).1 := by
  unfold Builder.addText
  split
  · rename_i s ks more hk
    refine ⟨⟨h.cur.1, ?_⟩, h.parents, h.eb⟩
    intro k hk'
    simp only [List.mem_cons] at hk'
    have hold := h.cur.2
    rw [hk] at hold
    rcases hk' with rfl | hk'
    · have h0 := hold _ List.mem_cons_self
      rw [AllV, Tree.forall_node] at h0 ⊢
      exact ⟨hT _, h0.2⟩
    · exact hold k (List.mem_cons_of_mem _ hk')
  · refine ⟨⟨h.cur.1, ?_⟩, h.parents, h.eb⟩
    intro k hk'
    simp only [List.mem_cons] at hk'
    rcases hk' with rfl | hk'
    · exact allV_leaf (hT _)
    · exact h.cur.2 k hk'

theorem addLeaf_all {P : Value → Prop} {b : Builder} (h : BuilderAll P b) {v : Value} (hv : P v) :
    BuilderAll P (b.addLeaf v).1 := by
  refine ⟨⟨h.cur.1, ?_⟩, h.parents, h.eb⟩
  intro k hk
  simp only [Builder.addLeaf, List.mem_cons] at hk
  rcases hk with rfl | hk
  · exact allV_leaf hv
  · exact h.cur.2 k hk

theorem toParent_all {P : Value → Prop} {b b' : Builder} (h : BuilderAll P b) (hr : b.toParent = .ok b') :
    BuilderAll P b' := by
  obtain ⟨p, rest, hp, rfl⟩ := Builder.toParent_ok_inv hr
  have hpar := h.parents
  rw [hp] at hpar
  refine ⟨⟨(hpar p List.mem_cons_self).1, ?_⟩, fun f hf => hpar f (List.mem_cons_of_mem _ hf), h.eb⟩
  intro k hk
  simp only [List.mem_cons] at hk
  rcases hk with rfl | hk
  · exact h.cur.close
  · exact (hpar p List.mem_cons_self).2 k hk

theorem leave_all {P : Value → Prop} {b b' : Builder} (h : BuilderAll P b) (node : Path) (sp : StrSpan)
    (hr : b.leave node sp = .ok b') : BuilderAll P b' := by
  obtain ⟨b2, ht, rfl⟩ := Builder.leave_ok_inv hr
  exact (toParent_all h ht).of_eq rfl rfl rfl

theorem closeImmediate_all {P : Value → Prop} {b b' : Builder} (h : BuilderAll P b) (sp : StrSpan)
    (hr : b.closeImmediate sp = .ok b') : BuilderAll P b' := by
  unfold Builder.closeImmediate at hr
  dsimp only at hr
  split at hr
  · refine leave_all ?_ _ _ hr
    exact h.of_eq rfl rfl rfl
  · exact leave_all h _ _ hr

theorem closeElement_all {P : Value → Prop} {b b' : Builder} (h : BuilderAll P b) (pfx loc sp : StrSpan)
    (hr : b.closeElement pfx loc sp = .ok b') : BuilderAll P b' := by
  obtain ⟨env1, _, _, _, ⟨_, _, hl⟩ | ⟨_, hl⟩⟩ := Builder.closeElement_ok_inv hr
  · exact leave_all (b := { b with env := env1, nsStack := _, openPrefixes := _ }) (h.of_eq rfl rfl rfl) _ _ hl
  · exact leave_all (b := { b with env := env1 }) (h.of_eq rfl rfl rfl) _ _ hl

theorem attribute_all {P : Value → Prop} {b b' : Builder} (h : BuilderAll P b) (pfx loc value : StrSpan)
    (hr : b.attribute pfx loc value = .ok b') : BuilderAll P b' := by
  obtain ⟨eb, _, heb, _, _, rfl⟩ := Builder.attribute_ok_inv hr
  refine h.congr rfl rfl (fun eb' he => Or.inr ⟨eb, heb, ?_⟩)
  simp only [Option.some.injEq] at he
  rw [← he]

theorem element_all {P : Value → Prop} {b : Builder} (h : BuilderAll P b) (pfx loc : StrSpan) :
    BuilderAll P (b.element pfx loc) :=
  h.congr rfl rfl (fun eb' he => Or.inl (by
    simp only [Builder.element, Option.some.injEq] at he
    rw [← he]; rfl))

theorem comment_all {P : Value → Prop} (hC : ∀ s, P (.comment s)) {b : Builder} (h : BuilderAll P b) (t : StrSpan) :
    BuilderAll P (b.comment t) :=
  (addLeaf_all h (hC (normalizeLineEnds t.text))).of_eq rfl rfl rfl

end IdParse
end XotModel

/-! ## The steps that store ids, the loop, `build`

  The steps that store ids: `DocumentBuilder::prefix`, `processing_instruction`, `open_element`.
-/

namespace XotModel
namespace IdParse

theorem prefix_all {P : Value → Prop} {b b' : Builder} (h : BuilderAll P b) (p : Str) (u : StrSpan) (sp : Span)
    (hr : b.prefix p u sp = .ok b') : BuilderAll (fun v => P v ∨ IssuedBy b.env (prefixRegs p u) v) b' := by
  obtain ⟨us, eb, hus, hres, heb, _, rfl⟩ := Builder.prefix_ok_inv hr
  unfold prefixRegs
  rw [hus]
  simp only [hres]
  refine ⟨h.cur.imp (fun _ => Or.inl), fun f hf => (h.parents f hf).imp (fun _ => Or.inl), ?_⟩
  intro eb' he d hd
  simp only [Option.some.injEq] at he
  subst he
  simp only [List.mem_append, List.mem_singleton] at hd
  rcases hd with hd | rfl
  · exact Or.inl (h.eb eb heb d hd)
  · exact Or.inr ⟨0, p, us, rfl, rfl, rfl, rfl⟩

theorem processingInstruction_all {P : Value → Prop} {b : Builder} (h : BuilderAll P b) (target : StrSpan)
    (content : Option StrSpan) :
    BuilderAll (fun v => P v ∨ IssuedBy b.env [.name target.text Env.noNamespace] v)
      (b.processingInstruction target content) := by
  unfold Builder.processingInstruction
  have h1 : BuilderAll (fun v => P v ∨ IssuedBy b.env [.name target.text Env.noNamespace] v)
      ({ b with env := (b.env.internName target.text Env.noNamespace).1 } : Builder) :=
    (h.imp (fun _ => Or.inl)).of_eq rfl rfl rfl
  refine (addLeaf_all h1 (v := .pi (b.env.internName target.text Env.noNamespace).2 (content.map (fun c => normalizeLineEnds c.text)))
    (Or.inr ⟨0, target.text, Env.noNamespace, rfl, rfl⟩)).of_eq rfl rfl rfl

theorem addAttributes_one_rkids (stack : NsStack) (node : Path) (st st1 : AttrLoop) (ab : AttributeBuilder)
    (h : addAttributes stack node st [ab] = .ok st1) :
    ∀ k ∈ st1.rkids, k ∈ st.rkids ∨ ∃ n v, k = .node (.attribute n v) [] ∧
      NameIssued st.env (attributeNameRegs st.env stack ab.pfx ab.name) n := by
  obtain ⟨env1, nameId, hn, hk⟩ := addAttributes_one_ok h
  obtain ⟨ns, hregs, _, hall⟩ := attributeNameId_ok hn
  intro k hk'
  rw [hk, List.mem_cons] at hk'
  rcases hk' with rfl | hk'
  · exact Or.inr ⟨nameId, _, rfl, 1, ab.name, ns, by rw [hregs]; rfl, by rw [hall]; rfl⟩
  · exact Or.inl hk'

theorem addAttributes_rkids (stack : NsStack) (node : Path) (abs : List AttributeBuilder) :
    ∀ (st st' : AttrLoop), addAttributes stack node st abs = .ok st' →
      ∀ k ∈ st'.rkids, k ∈ st.rkids ∨ ∃ n v, k = .node (.attribute n v) [] ∧
        NameIssued st.env (attrsRegs stack node st abs) n := by
  induction abs with
  | nil =>
    intro st st' h k hk
    simp only [addAttributes, Step.ok.injEq] at h
    subst h; exact Or.inl hk
  | cons ab rest ih =>
    intro st st' h k hk
    rw [addAttributes_cons] at h
    simp only [attrsRegs]
    cases hone : addAttributes stack node st [ab] with
    | panic => rw [hone] at h; cases h
    | err e env => rw [hone] at h; cases h
    | ok st1 =>
      rw [hone] at h
      simp only at h
      have henv := (addAttributes_one stack node st ab).of_ok hone
      rcases ih st1 st' h k hk with h1 | ⟨n, v, hkv, hiss⟩
      · rcases addAttributes_one_rkids stack node st st1 ab hone k h1 with h2 | ⟨n, v, hkv, hiss⟩
        · exact Or.inl h2
        · exact Or.inr ⟨n, v, hkv, hiss.mono _⟩
      · rw [henv] at hiss
        exact Or.inr ⟨n, v, hkv, NameIssued.shift _ hiss⟩

theorem mem_namespaceKids {decls : List (Nat × Nat)} {k : Tree} (h : k ∈ namespaceKids decls) :
    ∃ d ∈ decls, k = .node (.namespace d.1 d.2) [] := by
  simp only [namespaceKids, List.mem_reverse, List.mem_map] at h
  obtain ⟨d, hd, rfl⟩ := h
  exact ⟨d, hd, rfl⟩

theorem openElement_all {P : Value → Prop} {b b' : Builder} (h : BuilderAll P b) (hr : b.openElement = .ok b') :
    BuilderAll (fun v => P v ∨ IssuedBy b.env b.openRegs v) b' := by
  obtain ⟨eb, env1, nameId, st, heb, hn, hst, hopen, hcur, hpar, hebn⟩ := openElement_ok hr
  obtain ⟨ns, _, hregs, hall⟩ := elementNameId_ok hn
  have henv1 : (b.env.regAll (elementNameRegs b.env (eb.namespaces :: b.nsStack) eb.pfx eb.name)).1 = env1 := by
    rw [hall]
  refine ⟨?_, ?_, fun eb' he => by rw [hebn] at he; cases he⟩
  · rw [hcur]
    refine ⟨Or.inr ?_, fun k hk => ?_⟩
    · rw [hopen]
      exact NameIssued.mono ⟨1, eb.name, ns, by rw [hregs]; rfl, by rw [hall]; rfl⟩ _
    · rcases addAttributes_rkids _ _ _ _ st hst k hk with h1 | ⟨n, v, hkv, hiss⟩
      · obtain ⟨d, hd, rfl⟩ := mem_namespaceKids h1
        exact allV_leaf (Or.inl (h.eb eb heb d hd))
      · subst hkv
        refine allV_leaf (Or.inr ?_)
        rw [hopen]
        refine NameIssued.shift _ ?_
        rw [henv1]; exact hiss
  · rw [hpar]
    intro f hf
    rcases List.mem_cons.mp hf with rfl | hf
    · exact h.cur.imp (fun _ => Or.inl)
    · exact (h.parents f hf).imp (fun _ => Or.inl)

theorem step_all {P : Value → Prop} (hT : ∀ s, P (.text s)) (hC : ∀ s, P (.comment s)) {b b' : Builder}
    (h : BuilderAll P b) (t : Token) (hr : b.step t = .ok b') :
    BuilderAll (fun v => P v ∨ IssuedBy b.env (b.stepRegs t) v) b' := by
  -- the arms that store no id keep `P`, whatever the trace
  have keep : ∀ {b1 : Builder} {rs : List Reg}, BuilderAll P b1 →
      BuilderAll (fun v => P v ∨ IssuedBy b.env rs v) b1 := fun h1 => h1.imp (fun _ => Or.inl)
  rw [b.stepRegs_eq_core (Builder.step_ok_prefixOk hr)]
  refine Builder.step_ok_cases
    (motive := fun t b' => BuilderAll (fun v => P v ∨ IssuedBy b.env (b.stepRegsCore t) v) b') hr
    ?_ (fun _ _ _ _ _ ha => keep (attribute_all h _ _ _ ha))
    (fun _ _ _ => keep ((addText_all hT h _).of_eq rfl rfl rfl)) (fun _ _ _ => keep h)
    (fun _ _ _ => keep ((addText_all hT h _).of_eq rfl rfl rfl))
    (fun pfx loc _ => keep (element_all h pfx loc)) (fun _ ho => openElement_all h ho)
    (fun pfx loc sp hc => keep (closeElement_all h pfx loc sp hc))
    (fun sp b1 ho hc => closeImmediate_all (openElement_all h ho) sp hc)
    (fun s _ => keep (comment_all hC h s)) ?_ (fun _ _ _ _ => keep h)
  · intro pfx loc value sp p hp hpre
    have hregs : b.stepRegsCore (.attribute pfx loc value sp) = prefixRegs p value := by
      rcases hp with ⟨h1, rfl⟩ | ⟨h1, h2, rfl⟩
      · simp only [Builder.stepRegsCore, h1, beq_self_eq_true, if_true]
      · simp only [Builder.stepRegsCore, h1, h2]
        rfl
    rw [hregs]
    exact prefix_all h _ _ _ hpre
  · intro tg c sp hres
    simp only [Builder.stepRegsCore, hres, Bool.false_eq_true, if_false]
    exact processingInstruction_all h tg c

theorem run_issued (ts : List Token) (lexErr : Option Nat) : ∀ (b b' : Builder) (e0 : Env) (tr : List Reg),
    b.env = (e0.regAll tr).1 → BuilderAll (IssuedBy e0 tr) b → b.run ts lexErr = .ok b' →
    BuilderAll (IssuedBy e0 (tr ++ b.runRegs ts)) b' := by
  induction ts with
  | nil =>
    intro b b' e0 tr _ h hr
    cases (run_nil_ok hr).1
    simpa [Builder.runRegs] using h
  | cons t ts ih =>
    intro b b' e0 tr he h hr
    obtain ⟨b1, hs, hr⟩ := run_cons_ok hr
    simp only [Builder.runRegs, hs]
    have h1 := step_all (P := IssuedBy e0 tr) (fun _ => trivial) (fun _ => trivial) h t hs
    have h2 : BuilderAll (IssuedBy e0 (tr ++ b.stepRegs t)) b1 := by
      refine h1.imp ?_
      intro v hv
      rcases hv with hv | hv
      · exact hv.mono _
      · rw [he] at hv; exact IssuedBy.shift _ hv
    have he1 : b1.env = (e0.regAll (tr ++ b.stepRegs t)).1 := by
      rw [(step_trace b t).of_ok hs, Env.regAll_append, he]
    have := ih b1 b' e0 (tr ++ b.stepRegs t) he1 h2 hr
    rwa [List.append_assoc] at this

/-- Every id stored in the tree of an accepted parse was returned by one of the parse's own calls. -/
theorem build_issued {m : Mode} {len : Nat} {env : Env} {ts : List Token} {lexErr : Option Nat} {p : Parsed}
    (h : build m len env ts lexErr = .ok p) : AllV (IssuedBy env (buildRegs env ts)) p.tree := by
  obtain ⟨b, hb, rfl, _⟩ := build_ok_parsed h
  have := run_issued ts lexErr (Builder.new env) b env [] rfl (builderAll_new trivial env) hb
  exact this.root

end IdParse
end XotModel

/-! ## Namespace ids in range

  The ids come off the namespace stack, which only ever holds ids returned by earlier `add_namespace` calls
  (`ScopeOk`, Lemmas/ParseScope).
-/

namespace XotModel
namespace IdParse

theorem Reg.NsInRange.mono {e e' : Env} (h : e.PrefixOf e') {r : Reg} (hr : r.NsInRange e) : r.NsInRange e' := by
  cases r with
  | pfx p => trivial
  | ns u => trivial
  | name l n => exact Nat.lt_of_lt_of_le hr h.namespaces.length_le

theorem regsInRange_of_forall (rs : List Reg) : ∀ (e : Env), (∀ r ∈ rs, r.NsInRange e) → e.RegsInRange rs := by
  induction rs with
  | nil => intro e _; trivial
  | cons r rs ih =>
    intro e h
    exact ⟨h r List.mem_cons_self, ih _ (fun r' hr' =>
      Reg.NsInRange.mono (e.reg_prefixOf r) (h r' (List.mem_cons_of_mem _ hr')))⟩

/-- The name registration (if it is one) names a namespace id below `N`. -/
def RegBelow (N : Nat) : Reg → Prop
  | .name _ n => n < N
  | _ => True

theorem RegBelow.inRange {N : Nat} {e : Env} (hN : N ≤ e.namespaces.length) {r : Reg} (h : RegBelow N r) :
    r.NsInRange e := by
  cases r with
  | pfx p => trivial
  | ns u => trivial
  | name l n => exact Nat.lt_of_lt_of_le h hN

/-- Every namespace id on the stack is below `N`. -/
def NsBelow (N : Nat) (stack : NsStack) : Prop := ∀ d ∈ stack, ∀ x ∈ d, x.2 < N

theorem lookupPrefix_lt {N : Nat} : ∀ {stack : NsStack}, NsBelow N stack → ∀ {p ns : Nat},
    lookupPrefix stack p = some ns → ns < N := by
  intro stack
  induction stack with
  | nil => intro _ p ns h; simp [lookupPrefix] at h
  | cons d rest ih =>
    intro hs p ns h
    simp only [lookupPrefix, List.findSome?_cons] at h
    split at h
    · rename_i v hv
      simp only [Option.some.injEq] at h
      subst h
      simp only [findInDecls, Option.map_eq_some_iff] at hv
      obtain ⟨x, hx, rfl⟩ := hv
      have hm := List.mem_of_find?_eq_some hx
      exact hs d List.mem_cons_self x (List.mem_reverse.mp hm)
    · exact ih (fun d' hd' => hs d' (List.mem_cons_of_mem _ hd')) h

theorem elementNameRegs_below {N : Nat} {stack : NsStack} (hs : NsBelow N stack) (env : Env) (p n : Str) :
    ∀ r ∈ elementNameRegs env stack p n, RegBelow N r := by
  intro r hr
  unfold elementNameRegs at hr
  simp only [List.mem_cons] at hr
  rcases hr with rfl | hr
  · trivial
  · split at hr
    · rename_i ns hns
      simp only [List.mem_singleton] at hr
      subst hr
      exact lookupPrefix_lt hs hns
    · cases hr

theorem attributeNameRegs_below {N : Nat} (h0 : 0 < N) {stack : NsStack} (hs : NsBelow N stack) (env : Env)
    (p n : Str) : ∀ r ∈ attributeNameRegs env stack p n, RegBelow N r := by
  rw [attributeNameRegs_eq]
  split
  · intro r hr
    simp only [List.mem_cons, List.not_mem_nil, or_false] at hr
    rcases hr with rfl | rfl
    · trivial
    · exact h0
  · exact elementNameRegs_below hs env p n

theorem attrsRegs_below {N : Nat} (h0 : 0 < N) {stack : NsStack} (hs : NsBelow N stack) (node : Path)
    (abs : List AttributeBuilder) : ∀ (st : AttrLoop), ∀ r ∈ attrsRegs stack node st abs, RegBelow N r := by
  induction abs with
  | nil => intro st r hr; cases hr
  | cons ab rest ih =>
    intro st r hr
    simp only [attrsRegs, List.mem_append] at hr
    rcases hr with hr | hr
    · exact attributeNameRegs_below h0 hs _ _ _ r hr
    · split at hr
      · exact ih _ r hr
      · cases hr

theorem nsBelow_of_stackValid {env : Env} {stack : NsStack} (h : StackValid env stack) :
    NsBelow env.namespaces.length stack := fun d hd x hx => (h d hd x hx).2

/-- One token: every name it registers names a namespace id already in the table. -/
theorem stepRegs_inRange {b : Builder} (h : ScopeOk b) (h0 : 0 < b.env.namespaces.length) (t : Token) :
    ∀ r ∈ b.stepRegs t, r.NsInRange b.env := by
  have hst : NsBelow b.env.namespaces.length b.nsStack := nsBelow_of_stackValid h.stack
  have hopen : ∀ r ∈ b.openRegs, r.NsInRange b.env := by
    intro r hr
    unfold Builder.openRegs at hr
    split at hr
    · cases hr
    · rename_i eb heb
      have hs : NsBelow b.env.namespaces.length (eb.namespaces :: b.nsStack) := by
        intro d hd
        simp only [List.mem_cons] at hd
        rcases hd with rfl | hd
        · exact fun x hx => (h.eb eb heb x hx).2
        · exact hst d hd
      simp only [List.mem_append] at hr
      rcases hr with hr | hr
      · exact (elementNameRegs_below hs _ _ _ r hr).inRange (Nat.le_refl _)
      · split at hr
        · exact (attrsRegs_below h0 hs _ _ _ r hr).inRange (Nat.le_refl _)
        · cases hr
  have hpre : ∀ p u, ∀ r ∈ prefixRegs p u, r.NsInRange b.env := by
    intro p u r hr
    unfold prefixRegs at hr
    split at hr
    · cases hr
    · split at hr
      · cases hr
      simp only [List.mem_cons, List.not_mem_nil, or_false] at hr
      rcases hr with rfl | rfl <;> trivial
  intro r hr
  cases t with
  | «attribute» pfx loc value sp =>
    simp only [Builder.stepRegs] at hr
    split at hr
    · cases hr
    split at hr
    · exact hpre _ _ r hr
    · split at hr
      · exact hpre _ _ r hr
      · cases hr
  | elementEnd ee sp =>
    cases ee with
    | «open» => exact hopen r hr
    | close pfx loc =>
      simp only [Builder.stepRegs] at hr
      split at hr
      · cases hr
      exact (elementNameRegs_below hst _ _ _ r hr).inRange (Nat.le_refl _)
    | empty => exact hopen r hr
  | pi target content sp =>
    simp only [Builder.stepRegs] at hr
    split at hr
    · cases hr
    simp only [List.mem_singleton] at hr
    subst hr
    exact h0
  | text t => cases hr
  | cdata t sp => cases hr
  | elementStart pfx loc sp => cases hr
  | comment t sp => cases hr
  | declaration version enc sa sp => cases hr
  | dtdStart sp => cases hr
  | dtdEnd sp => cases hr
  | emptyDtd sp => cases hr
  | entityDecl sp => cases hr

theorem runRegs_inRange (ts : List Token) : ∀ (b : Builder), ScopeOk b → 0 < b.env.namespaces.length →
    b.env.RegsInRange (b.runRegs ts) := by
  induction ts with
  | nil => intro b _ _; trivial
  | cons t ts ih =>
    intro b h h0
    simp only [Builder.runRegs]
    rw [Env.regsInRange_append]
    refine ⟨regsInRange_of_forall _ _ (stepRegs_inRange h h0 t), ?_⟩
    cases hs : b.step t with
    | panic => trivial
    | err e env => trivial
    | ok b1 =>
      simp only
      have he := (step_trace b t).of_ok hs
      rw [← he]
      refine ih b1 (step_scopeOk t h hs) ?_
      have hp : b.env.PrefixOf b1.env := by rw [he]; exact Env.regAll_prefixOf _ _
      exact Nat.lt_of_lt_of_le h0 hp.namespaces.length_le

/-- The whole parse, from duplicate-free tables that hold the built-ins. -/
theorem buildRegs_inRange {env : Env} (hp : env.prefixes.Nodup) (hn : env.namespaces.Nodup)
    (h2p : 2 ≤ env.prefixes.length) (h2n : 2 ≤ env.namespaces.length) (ts : List Token) :
    env.RegsInRange (buildRegs env ts) :=
  runRegs_inRange ts (Builder.new env) (scopeOk_new hp hn h2p h2n) (by show 0 < env.namespaces.length; omega)

/-! ### Issued ids are in range of the tables reached -/

theorem IssuedBy.idsIn {e : Env} {rs : List Reg} {v : Value} (h : IssuedBy e rs v) :
    v.idsIn (e.regAll rs).1 = true := by
  cases v with
  | element n =>
    obtain ⟨i, loc, ns, h1, h2⟩ := h
    have := (Env.regAll_holds rs e i _ n h1 h2).lt
    simpa [Value.idsIn] using this
  | «attribute» n s =>
    obtain ⟨i, loc, ns, h1, h2⟩ := h
    have := (Env.regAll_holds rs e i _ n h1 h2).lt
    simpa [Value.idsIn] using this
  | pi n s =>
    obtain ⟨i, loc, ns, h1, h2⟩ := h
    have := (Env.regAll_holds rs e i _ n h1 h2).lt
    simpa [Value.idsIn] using this
  | «namespace» p ns =>
    obtain ⟨i, s, u, h1, h2, h3, h4⟩ := h
    have a := (Env.regAll_holds rs e i _ p h1 h3).lt
    have b := (Env.regAll_holds rs e (i + 1) _ ns h2 h4).lt
    simp only [Value.idsIn, Bool.and_eq_true, decide_eq_true_eq]
    exact ⟨a, b⟩
  | document => rfl
  | text s => rfl
  | comment s => rfl

mutual
theorem idsIn_of_allV (e : Env) : ∀ (t : Tree), AllV (fun v => v.idsIn e = true) t → t.idsIn e = true
  | .node v ks, h => by
    rw [AllV, Tree.Forall] at h
    rw [Tree.idsIn, Bool.and_eq_true]
    exact ⟨h.1, idsInList_of_allV e ks h.2⟩
theorem idsInList_of_allV (e : Env) : ∀ (ks : List Tree),
    Tree.Forall.forallList (fun v _ => v.idsIn e = true) ks → Tree.idsIn.idsInList e ks = true
  | [], _ => rfl
  | k :: ks, h => by
    rw [Tree.idsIn.idsInList, Bool.and_eq_true]
    exact ⟨idsIn_of_allV e k h.1, idsInList_of_allV e ks h.2⟩
end

end IdParse
end XotModel
