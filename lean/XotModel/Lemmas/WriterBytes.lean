/-
  The failing writer at byte level (`Model/WriterBytes.lean`).

  * `utf8` is a monoid morphism (`utf8_append`, `utf8_flatten`), is `String.toUTF8` (`utf8_toUTF8`, for every
    text, through `utf8Char_eq_core`), and its length is the model's `strLen`;
  * `writeCallsB` / `replayCallsB`: the byte-level copies of the lemmas of `Lemmas/Writer.lean`, the
    decomposition of a refusal (`writeCallsB_error_iff`), the byte budget (`replayCallsB_byteBudget`);
  * the bridge to the character level (`replayCallsB_chars`): a byte-level writer `B` and the character-level
    writer `B.chars` refuse the same call; the bytes `B` holds are the `utf8` of the characters `B.chars` holds
    followed by at most 3 bytes — a proper prefix of the next character's encoding.
-/
import XotModel.Model.WriterBytes
import XotModel.Lemmas.Writer

namespace XotModel

/-! ### `utf8` -/

theorem utf8_append (a b : Str) : utf8 (a ++ b) = utf8 a ++ utf8 b := by
  induction a with
  | nil => rfl
  | cons c cs ih => simp only [List.cons_append, utf8, ih, List.append_assoc]

theorem utf8_nil : utf8 [] = [] := rfl

theorem utf8_flatten (l : List Str) : utf8 l.flatten = (l.map utf8).flatten := by
  induction l with
  | nil => rfl
  | cons c cs ih => simp only [List.flatten_cons, utf8_append, ih, List.map_cons]

/-- The hand-written encoder is the one of Lean's core (`String.utf8EncodeChar`), for every character. -/
theorem utf8Char_eq_core (c : Char) : utf8Char c = String.utf8EncodeChar c := by
  unfold utf8Char String.utf8EncodeChar
  simp only []
  have hlt : c.val.toNat < 0x110000 := by
    rcases c.valid with h | h
    · exact Nat.lt_trans h (by decide)
    · exact h.2
  generalize c.val.toNat = v at hlt
  by_cases h1 : v < 0x80
  · have h1' : v ≤ 0x7f := by omega
    simp only [h1, h1', ↓reduceIte]
  · have h1' : ¬ v ≤ 0x7f := by omega
    by_cases h2 : v < 0x800
    · have h2' : v ≤ 0x7ff := by omega
      have : v / 64 % 0x20 = v / 64 := by omega
      simp only [h1, h1', h2, h2', ↓reduceIte, this, Nat.add_comm]
    · have h2' : ¬ v ≤ 0x7ff := by omega
      by_cases h3 : v < 0x10000
      · have h3' : v ≤ 0xffff := by omega
        have : v / 4096 % 0x10 = v / 4096 := by omega
        simp only [h1, h1', h2, h2', h3, h3', ↓reduceIte, this, Nat.add_comm]
      · have h3' : ¬ v ≤ 0xffff := by omega
        have : v / 262144 % 0x08 = v / 262144 := by omega
        simp only [h1, h1', h2, h2', h3, h3', ↓reduceIte, this, Nat.add_comm]

theorem utf8_eq_flatMap (s : Str) : utf8 s = s.flatMap String.utf8EncodeChar := by
  induction s with
  | nil => rfl
  | cons c cs ih => simp [utf8, ih, utf8Char_eq_core]

/-- `utf8` is `String::as_bytes` as Lean's own strings have it: the bytes of `String.ofList s`. -/
theorem utf8_toUTF8 (s : Str) : (String.ofList s).toUTF8 = (utf8 s).toByteArray := by
  rw [String.toUTF8_eq_toByteArray, String.toByteArray_ofList, utf8_eq_flatMap]; rfl

/-- `char::len_utf8`. -/
theorem utf8Char_length (c : Char) : (utf8Char c).length = utf8Len c := by
  unfold utf8Char utf8Len Char.toNat
  simp only []
  split
  · rfl
  · split
    · rfl
    · split <;> rfl

theorem utf8Char_length_bounds (c : Char) : 0 < (utf8Char c).length ∧ (utf8Char c).length ≤ 4 := by
  rw [utf8Char_length]
  unfold utf8Len
  split <;> (try split) <;> (try split) <;> omega

theorem utf8Char_length_pos (c : Char) : 0 < (utf8Char c).length := (utf8Char_length_bounds c).1

theorem utf8Char_length_le (c : Char) : (utf8Char c).length ≤ 4 := (utf8Char_length_bounds c).2

/-- `str::len`. -/
theorem utf8_length (s : Str) : (utf8 s).length = strLen s := by
  induction s with
  | nil => rfl
  | cons c cs ih => simp only [utf8, strLen, List.length_append, utf8Char_length, ih]

/-! ### `writeCallsB` -/

theorem writeCallsB_append (B : BytePolicy) (hist : List (List UInt8)) (a b : List Str) :
    writeCallsB B hist (a ++ b) =
      (match writeCallsB B hist a with
       | .ok h => writeCallsB B h b
       | .error e => .error e) := by
  induction a generalizing hist with
  | nil => simp [writeCallsB]
  | cons c cs ih =>
    simp only [List.cons_append, writeCallsB]
    cases B hist (utf8 c) with
    | none => exact ih _
    | some k => rfl

theorem writeCallsB_ok (B : BytePolicy) (hist : List (List UInt8)) (cs : List Str) (h : List (List UInt8))
    (hw : writeCallsB B hist cs = .ok h) : h = hist ++ cs.map utf8 := by
  induction cs generalizing hist with
  | nil => simp [writeCallsB] at hw; simp [hw]
  | cons c cs ih =>
    simp only [writeCallsB] at hw
    cases hp : B hist (utf8 c) with
    | none => rw [hp] at hw; simp only [] at hw; rw [ih _ hw]; simp
    | some k => rw [hp] at hw; cases hw

/-- **A refusal, decomposed.**  `writeCallsB` ends in an error holding `b` exactly when the calls split into
    accepted calls `pre`, the refused call `c` (the writer answers `some k`) and calls never made; `b` is the
    bytes held before, the accepted calls' bytes, and the first `k` bytes of the refused call. -/
theorem writeCallsB_error_iff (B : BytePolicy) (hist : List (List UInt8)) (cs : List Str) (b : List UInt8) :
    writeCallsB B hist cs = .error b ↔
      ∃ pre c post k, cs = pre ++ c :: post ∧ writeCallsB B hist pre = .ok (hist ++ pre.map utf8) ∧
        B (hist ++ pre.map utf8) (utf8 c) = some k ∧
        b = (hist ++ pre.map utf8).flatten ++ (utf8 c).take k := by
  induction cs generalizing hist with
  | nil =>
    simp only [writeCallsB]
    constructor
    · intro h; cases h
    · rintro ⟨pre, c, post, k, h, _⟩; cases pre <;> cases h
  | cons c cs ih =>
    simp only [writeCallsB]
    cases hp : B hist (utf8 c) with
    | none =>
      simp only []
      rw [ih]
      constructor
      · rintro ⟨pre, c', post, k, h1, h2, h3, h4⟩
        refine ⟨c :: pre, c', post, k, by rw [h1]; rfl, ?_, ?_, ?_⟩
        · simp only [writeCallsB, hp, List.map_cons]
          rw [h2]; simp
        · rw [← h3]; simp
        · rw [h4]; simp
      · rintro ⟨pre, c', post, k, h1, h2, h3, h4⟩
        cases pre with
        | nil =>
          simp only [List.nil_append, List.cons.injEq] at h1
          obtain ⟨rfl, rfl⟩ := h1
          simp only [List.map_nil, List.append_nil] at h3
          rw [hp] at h3; cases h3
        | cons c0 pre =>
          simp only [List.cons_append, List.cons.injEq] at h1
          obtain ⟨rfl, rfl⟩ := h1
          refine ⟨pre, c', post, k, rfl, ?_, ?_, ?_⟩
          · simp only [writeCallsB, hp, List.map_cons] at h2
            rw [h2]; simp
          · rw [← h3]; simp
          · rw [h4]; simp
    | some k =>
      simp only []
      constructor
      · intro h
        injection h with h
        exact ⟨[], c, cs, k, rfl, by simp [writeCallsB], by simpa using hp, by rw [← h]; simp⟩
      · rintro ⟨pre, c', post, k', h1, h2, h3, h4⟩
        cases pre with
        | nil =>
          simp only [List.nil_append, List.cons.injEq] at h1
          obtain ⟨rfl, rfl⟩ := h1
          simp only [List.map_nil, List.append_nil] at h3 h4
          rw [hp] at h3; injection h3 with h3
          rw [h4, h3]
        | cons c0 pre =>
          simp only [List.cons_append, List.cons.injEq] at h1
          obtain ⟨rfl, rfl⟩ := h1
          simp only [writeCallsB, hp] at h2
          cases h2

theorem writeCallsB_error (B : BytePolicy) (hist : List (List UInt8)) (cs : List Str) (b : List UInt8)
    (hw : writeCallsB B hist cs = .error b) : ∃ rest, (hist ++ cs.map utf8).flatten = b ++ rest := by
  obtain ⟨pre, c, post, k, h1, _, _, h4⟩ := (writeCallsB_error_iff B hist cs b).1 hw
  refine ⟨(utf8 c).drop k ++ (post.map utf8).flatten, ?_⟩
  rw [h4, h1]
  simp only [List.map_append, List.map_cons, List.flatten_append, List.flatten_cons, List.append_assoc]
  rw [← List.append_assoc ((utf8 c).take k), List.take_append_drop]

theorem writeCallsB_unlimited (hist : List (List UInt8)) (cs : List Str) :
    writeCallsB BytePolicy.unlimited hist cs = .ok (hist ++ cs.map utf8) := by
  induction cs generalizing hist with
  | nil => simp [writeCallsB]
  | cons c cs ih => simp only [writeCallsB, BytePolicy.unlimited]; rw [ih]; simp

/-- The byte budget: everything is accepted while the budget lasts; the call that does not fit is refused and
    the writer then holds exactly the first `n` bytes of what was offered. -/
theorem writeCallsB_byteBudget (n : Nat) (hist : List (List UInt8)) (cs : List Str)
    (hn : hist.flatten.length ≤ n) :
    writeCallsB (BytePolicy.byteBudget n) hist cs =
      if (hist ++ cs.map utf8).flatten.length ≤ n then .ok (hist ++ cs.map utf8)
      else .error ((hist ++ cs.map utf8).flatten.take n) := by
  induction cs generalizing hist with
  | nil =>
    simp only [writeCallsB, List.map_nil, List.append_nil]
    rw [if_pos hn]
  | cons c cs ih =>
    simp only [writeCallsB]
    have hB : BytePolicy.byteBudget n hist (utf8 c) =
        if hist.flatten.length + (utf8 c).length ≤ n then none else some (n - hist.flatten.length) := rfl
    rw [hB]
    by_cases hfit : hist.flatten.length + (utf8 c).length ≤ n
    · rw [if_pos hfit]
      simp only []
      have := ih (hist ++ [utf8 c]) (by
        simp only [List.flatten_append, List.length_append, List.flatten_cons, List.flatten_nil,
          List.append_nil]; omega)
      rw [this]
      simp only [List.map_cons, List.append_assoc, List.singleton_append]
    · rw [if_neg hfit]
      simp only []
      have hlen : ¬ (hist ++ (c :: cs).map utf8).flatten.length ≤ n := by
        simp only [List.map_cons, List.flatten_append, List.flatten_cons, List.length_append]; omega
      rw [if_neg hlen]
      congr 1
      simp only [List.map_cons, List.flatten_append, List.flatten_cons]
      rw [List.take_append, List.take_of_length_le hn, List.take_append]
      have : n - hist.flatten.length - (utf8 c).length = 0 := by omega
      rw [this]; simp

/-! ### Replaying a trace against a byte-level writer -/

theorem replayCallsB_outcome (B : BytePolicy) (hist : List (List UInt8)) (tr : List Str × Outcome XotError Unit) :
    (replayCallsB B hist tr = ((hist ++ tr.1.map utf8).flatten, tr.2)) ∨ (replayCallsB B hist tr).2 = .err .io := by
  unfold replayCallsB
  cases hw : writeCallsB B hist tr.1 with
  | ok h => left; rw [writeCallsB_ok B _ _ _ hw]
  | error b => right; rfl

theorem replayCallsB_prefix (B : BytePolicy) (hist : List (List UInt8)) (tr : List Str × Outcome XotError Unit) :
    ∃ rest, (hist ++ tr.1.map utf8).flatten = (replayCallsB B hist tr).1 ++ rest := by
  unfold replayCallsB
  cases hw : writeCallsB B hist tr.1 with
  | ok h => exact ⟨[], by rw [writeCallsB_ok B _ _ _ hw]; simp⟩
  | error b => exact writeCallsB_error B _ _ _ hw

theorem replayCallsB_panic (B : BytePolicy) (hist : List (List UInt8)) (tr : List Str × Outcome XotError Unit)
    (h : (replayCallsB B hist tr).2 = .panic) : tr.2 = .panic := by
  rcases replayCallsB_outcome B hist tr with h' | h'
  · rw [h'] at h; exact h
  · rw [h'] at h; cases h

theorem replayCallsB_unlimited (hist : List (List UInt8)) (tr : List Str × Outcome XotError Unit) :
    replayCallsB BytePolicy.unlimited hist tr = ((hist ++ tr.1.map utf8).flatten, tr.2) := by
  simp [replayCallsB, writeCallsB_unlimited]

/-- Byte budget `n`, from an empty history: enough budget gives the trace's own end with all its bytes;
    otherwise `Io`, the writer holding exactly the first `n` bytes. -/
theorem replayCallsB_byteBudget (n : Nat) (tr : List Str × Outcome XotError Unit) :
    replayCallsB (BytePolicy.byteBudget n) [] tr =
      if (utf8 tr.1.flatten).length ≤ n then (utf8 tr.1.flatten, tr.2)
      else ((utf8 tr.1.flatten).take n, .err .io) := by
  simp only [replayCallsB, writeCallsB_byteBudget n [] tr.1 (Nat.zero_le _), List.nil_append, utf8_flatten]
  by_cases h : (tr.1.map utf8).flatten.length ≤ n
  · rw [if_pos h, if_pos h]
  · rw [if_neg h, if_neg h]

/-! ### The bridge to the character-level writer -/

/-- Cutting the bytes of a text after `k` bytes: the whole characters that fit, then a proper prefix (at most 3
    bytes) of the next character's encoding — empty if there is no next character. -/
theorem utf8_take (c : Str) (k : Nat) :
    ∃ tail, (utf8 c).take k = utf8 (c.take (wholeChars c k)) ++ tail ∧ tail.length ≤ 3 ∧
      (c.drop (wholeChars c k) = [] → tail = []) ∧
      (∀ ch rest, c.drop (wholeChars c k) = ch :: rest → ∃ more, more ≠ [] ∧ utf8Char ch = tail ++ more) := by
  induction c generalizing k with
  | nil => exact ⟨[], by simp [utf8, wholeChars], by simp, by simp, by simp [wholeChars]⟩
  | cons ch cs ih =>
    by_cases hfit : (utf8Char ch).length ≤ k
    · obtain ⟨tail, h1, h2, h3, h4⟩ := ih (k - (utf8Char ch).length)
      refine ⟨tail, ?_, h2, ?_, ?_⟩
      · simp only [utf8, wholeChars, if_pos hfit, List.take_succ_cons, List.append_assoc]
        rw [List.take_append, List.take_of_length_le hfit, h1]
      · simpa only [wholeChars, if_pos hfit, List.drop_succ_cons] using h3
      · simpa only [wholeChars, if_pos hfit, List.drop_succ_cons] using h4
    · have hlen := utf8Char_length_le ch
      refine ⟨(utf8Char ch).take k, ?_, ?_, ?_, ?_⟩
      · simp only [utf8, wholeChars, if_neg hfit, List.take_zero, List.nil_append]
        rw [List.take_append]
        have : k - (utf8Char ch).length = 0 := by omega
        rw [this]; simp
      · rw [List.length_take]; omega
      · simp [wholeChars, if_neg hfit]
      · intro ch' rest h
        simp only [wholeChars, if_neg hfit, List.drop_zero, List.cons.injEq] at h
        obtain ⟨rfl, _⟩ := h
        refine ⟨(utf8Char ch).drop k, ?_, (List.take_append_drop k _).symm⟩
        intro h0
        have := congrArg List.length h0
        simp only [List.length_drop, List.length_nil] at this
        omega

/-- **The bridge to the character level.**  The byte-level writer `B` and the character-level writer `B.chars`
    accept the same calls and refuse the same call; at a refusal `B` holds the `utf8` of the characters `B.chars`
    holds, followed by at most 3 bytes (a proper prefix of the next character). -/
theorem writeCallsB_chars (B : BytePolicy) (hist : List Str) (cs : List Str) :
    (∀ h, writeCalls B.chars hist cs = .ok h → writeCallsB B (hist.map utf8) cs = .ok (h.map utf8)) ∧
    (∀ b, writeCalls B.chars hist cs = .error b →
      ∃ tail, writeCallsB B (hist.map utf8) cs = .error (utf8 b ++ tail) ∧ tail.length ≤ 3) := by
  induction cs generalizing hist with
  | nil =>
    simp only [writeCalls, writeCallsB]
    exact ⟨fun h hh => (by injection hh with hh; rw [hh]), fun b hb => (by cases hb)⟩
  | cons c cs ih =>
    simp only [writeCalls, writeCallsB, BytePolicy.chars]
    cases hp : B (hist.map utf8) (utf8 c) with
    | none =>
      simp only []
      have := ih (hist ++ [c])
      simp only [List.map_append, List.map_cons, List.map_nil] at this
      exact this
    | some k =>
      simp only []
      refine ⟨fun h hh => (by cases hh), fun b hb => ?_⟩
      injection hb with hb
      obtain ⟨tail, h1, h2, _⟩ := utf8_take c k
      refine ⟨tail, ?_, h2⟩
      rw [← hb, utf8_append, utf8_flatten, h1, List.append_assoc]

theorem replayCallsB_chars (B : BytePolicy) (tr : List Str × Outcome XotError Unit) :
    (replayCallsB B [] tr).2 = (replayCalls B.chars [] tr).2 ∧
    ∃ tail, (replayCallsB B [] tr).1 = utf8 (replayCalls B.chars [] tr).1 ++ tail ∧ tail.length ≤ 3 ∧
      ((replayCallsB B [] tr).2 ≠ .err .io → tail = []) := by
  have hb := writeCallsB_chars B [] tr.1
  simp only [List.map_nil] at hb
  unfold replayCallsB replayCalls
  cases hw : writeCalls B.chars [] tr.1 with
  | ok h =>
    rw [hb.1 h hw]
    exact ⟨rfl, [], by simp [utf8_flatten], by simp, fun _ => rfl⟩
  | error b =>
    obtain ⟨tail, h1, h2⟩ := hb.2 b hw
    rw [h1]
    exact ⟨rfl, tail, rfl, h2, fun h => absurd rfl h⟩

/-! ### The two ways a replay ends -/

/-- Either one call is refused — the calls split into accepted ones, the refused one (`some k`) and calls never
    made; the outcome is `Io` and the writer holds the accepted calls' bytes followed by the first `k` bytes of
    the refused call — or none is, and the replay is the trace: all its bytes, its own end. -/
theorem replayCallsB_cases (B : BytePolicy) (tr : List Str × Outcome XotError Unit) :
    (∃ pre c post k, tr.1 = pre ++ c :: post ∧ writeCallsB B [] pre = .ok (pre.map utf8) ∧
        B (pre.map utf8) (utf8 c) = some k ∧
        writeCallsB B [] tr.1 = .error (utf8 pre.flatten ++ (utf8 c).take k) ∧
        replayCallsB B [] tr = (utf8 pre.flatten ++ (utf8 c).take k, .err .io)) ∨
    (writeCallsB B [] tr.1 = .ok (tr.1.map utf8) ∧ replayCallsB B [] tr = (utf8 tr.1.flatten, tr.2)) := by
  unfold replayCallsB
  cases hw : writeCallsB B [] tr.1 with
  | error b =>
    left
    obtain ⟨pre, c, post, k, h1, h2, h3, h4⟩ := (writeCallsB_error_iff B [] tr.1 b).1 hw
    simp only [List.nil_append] at h2 h3 h4
    rw [← utf8_flatten] at h4
    exact ⟨pre, c, post, k, h1, h2, h3, by rw [h4], by rw [h4]⟩
  | ok h =>
    right
    have hh := writeCallsB_ok B _ _ _ hw
    rw [List.nil_append] at hh
    subst hh
    exact ⟨rfl, by rw [utf8_flatten]⟩

theorem replayCallsB_prefix_utf8 (B : BytePolicy) (tr : List Str × Outcome XotError Unit) :
    ∃ rest, utf8 tr.1.flatten = (replayCallsB B [] tr).1 ++ rest := by
  obtain ⟨rest, h⟩ := replayCallsB_prefix B [] tr
  rw [List.nil_append, ← utf8_flatten] at h
  exact ⟨rest, h⟩

/-! ### Everything a byte-level writer can do to a trace -/

theorem replayCallsB_ok {B : BytePolicy} {hist h : List (List UInt8)} {tr : List Str × Outcome XotError Unit}
    (hw : writeCallsB B hist tr.1 = .ok h) : replayCallsB B hist tr = (h.flatten, tr.2) := by
  simp only [replayCallsB, hw]

theorem replayCallsB_error {B : BytePolicy} {hist : List (List UInt8)} {b : List UInt8}
    {tr : List Str × Outcome XotError Unit} (hw : writeCallsB B hist tr.1 = .error b) :
    replayCallsB B hist tr = (b, .err .io) := by
  simp only [replayCallsB, hw]

/-- From an empty history: the two ways a replay ends; no panic of the writer's making; the writer holds a prefix of
    the `utf8` of the trace's text; a byte budget; the character-level writer seen through `B`; the never-failing
    writer. -/
theorem replayCallsB_writer (B : BytePolicy) (tr : List Str × Outcome XotError Unit) :
    ((∃ pre c post k, tr.1 = pre ++ c :: post ∧ writeCallsB B [] pre = .ok (pre.map utf8) ∧
          B (pre.map utf8) (utf8 c) = some k ∧
          replayCallsB B [] tr = (utf8 pre.flatten ++ (utf8 c).take k, .err .io)) ∨
      (writeCallsB B [] tr.1 = .ok (tr.1.map utf8) ∧ replayCallsB B [] tr = (utf8 tr.1.flatten, tr.2))) ∧
    ((replayCallsB B [] tr).2 = .panic → tr.2 = .panic) ∧
    (∃ rest, utf8 tr.1.flatten = (replayCallsB B [] tr).1 ++ rest) ∧
    (∀ n, replayCallsB (BytePolicy.byteBudget n) [] tr =
        if (utf8 tr.1.flatten).length ≤ n then (utf8 tr.1.flatten, tr.2)
        else ((utf8 tr.1.flatten).take n, .err .io)) ∧
    ((replayCallsB B [] tr).2 = (replayCalls B.chars [] tr).2 ∧
      ∃ tail, (replayCallsB B [] tr).1 = utf8 (replayCalls B.chars [] tr).1 ++ tail ∧ tail.length ≤ 3 ∧
        ((replayCallsB B [] tr).2 ≠ .err .io → tail = [])) ∧
    replayCallsB BytePolicy.unlimited [] tr = (utf8 tr.1.flatten, tr.2) := by
  refine ⟨?_, replayCallsB_panic B [] tr, replayCallsB_prefix_utf8 B tr, fun n => replayCallsB_byteBudget n tr,
    replayCallsB_chars B tr, ?_⟩
  · rcases replayCallsB_cases B tr with ⟨pre, c, post, k, a1, a2, a3, _, a5⟩ | h
    · exact Or.inl ⟨pre, c, post, k, a1, a2, a3, a5⟩
    · exact Or.inr h
  · rw [replayCallsB_unlimited, List.nil_append, ← utf8_flatten]

end XotModel
