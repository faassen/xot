/-
  Navigation under `W`: siblings, first and last child, the prepend point, `next_sibling x = y` iff
  `previous_sibling y = x`; and the two text consolidation helpers (`merge_spec`, `removeConsolidate_spec`,
  `addConsolidate_spec`).
-/
import XotModel.Lemmas.BasicFacts
import XotModel.Lemmas.FatomPrims
import XotModel.Lemmas.ManipShape

/-! ## Navigation results are children of the expected parent; the consolidation helpers keep `W` and only touch text leaves -/

namespace XotModel
open HTree

namespace Forest

theorem ctx?_self {f : Forest} (w : f.W) {x : Nat} {c : Ctx} (e : f.ctx? x = some c) :
    f.get? x = some c.self := get?_of_ctx w.nodup e

theorem Fatom.ctx?_nodup {f : Forest} (w : f.W) {x : Nat} {c : Ctx} (e : f.ctx? x = some c) :
    (handlesList c.left ++ (handles c.self ++ handlesList c.right)).Nodup := by
  obtain ⟨⟨v, hg⟩, _⟩ := ctx?_spec w e
  have hn : (handles (.node c.parent v (c.left ++ c.self :: c.right))).Nodup :=
    List.Sublist.nodup (findList?_sublist _ _ _ hg) w.nodup
  unfold handles at hn
  have hn2 := (List.nodup_cons.1 hn).2
  rwa [handlesList_append, show handlesList (c.self :: c.right) =
    handles c.self ++ handlesList c.right from rfl] at hn2

theorem ctx?_sibling {f : Forest} (w : f.W) {x : Nat} {c : Ctx} (e : f.ctx? x = some c)
    {k : HTree} (hk : k ∈ c.left ∨ k ∈ c.right) :
    f.get? k.handle = some k ∧ f.parent? k.handle = some c.parent ∧ k.handle ≠ x := by
  obtain ⟨⟨v, hg⟩, hh⟩ := ctx?_spec w e
  have hmem : k ∈ (HTree.node c.parent v (c.left ++ c.self :: c.right)).kids := by
    simp only [HTree.kids, List.mem_append, List.mem_cons]
    rcases hk with h | h
    · exact Or.inl h
    · exact Or.inr (Or.inr h)
  have hks := kid_spec w hg hmem
  refine ⟨hks.1, hks.2, ?_⟩
  have hn3 := List.nodup_append.1 (Fatom.ctx?_nodup w e)
  have hxs : x ∈ handles c.self := hh ▸ handle_mem_handles c.self
  intro e'
  rcases hk with h | h
  · have : k.handle ∈ handlesList c.left := handles_subset_handlesList h _ (handle_mem_handles k)
    exact hn3.2.2 _ this _ (List.mem_append_left _ hxs) e'
  · have : k.handle ∈ handlesList c.right := handles_subset_handlesList h _ (handle_mem_handles k)
    exact (List.nodup_append.1 hn3.2.1).2.2 _ hxs _ this e'.symm

/-- `y` is another child of `x`'s parent, of the same category. -/
structure Sib (f : Forest) (x y : Nat) : Prop where
  ne : y ≠ x
  parent : ∃ q, f.parent? x = some q ∧ f.parent? y = some q
  cat : (f.value? y).map Value.category = (f.value? x).map Value.category

theorem Sib.live {f : Forest} {x y : Nat} (s : Sib f x y) : f.isLive y = true := by
  obtain ⟨q, _, h⟩ := s.parent; exact (parent?_live h).1

theorem prevSibling_ctx {f : Forest} {x y : Nat} (e : f.prevSibling x = some y) :
    ∃ c k, f.ctx? x = some c ∧ c.left.getLast? = some k ∧ k.handle = y ∧
      (k.value.category == c.self.value.category) = true := by
  unfold prevSibling at e
  cases hc : f.ctx? x with
  | none => rw [hc] at e; cases e
  | some c =>
    rw [hc] at e
    simp only at e
    cases hl : c.left.getLast? with
    | none => rw [hl] at e; cases e
    | some p =>
      rw [hl] at e
      simp only at e
      split at e
      · rename_i hcat
        injection e with e
        exact ⟨c, p, rfl, hl, e, hcat⟩
      · cases e

theorem nextSibling_ctx {f : Forest} {x y : Nat} (e : f.nextSibling x = some y) :
    ∃ c k, f.ctx? x = some c ∧ c.right.head? = some k ∧ k.handle = y ∧
      (k.value.category == c.self.value.category) = true := by
  unfold nextSibling at e
  cases hc : f.ctx? x with
  | none => rw [hc] at e; cases e
  | some c =>
    rw [hc] at e
    simp only at e
    cases hl : c.right.head? with
    | none => rw [hl] at e; cases e
    | some p =>
      rw [hl] at e
      simp only at e
      split at e
      · rename_i hcat
        injection e with e
        exact ⟨c, p, rfl, hl, e, hcat⟩
      · cases e

theorem Fatom.sib_of_ctx {f : Forest} (w : f.W) {x : Nat} {c : Ctx} (hc : f.ctx? x = some c) {k : HTree}
    (hk : k ∈ c.left ∨ k ∈ c.right) (hcat : (k.value.category == c.self.value.category) = true) :
    Sib f x k.handle := by
  obtain ⟨h1, h2, h3⟩ := ctx?_sibling w hc hk
  refine ⟨h3, ⟨c.parent, parent?_of_ctx? hc, h2⟩, ?_⟩
  unfold value?
  rw [h1, ctx?_self w hc]
  simpa using hcat

theorem prevSibling_sib {f : Forest} (w : f.W) {x y : Nat} (e : f.prevSibling x = some y) :
    Sib f x y := by
  obtain ⟨c, k, hc, hl, hk, hcat⟩ := prevSibling_ctx e
  exact hk ▸ Fatom.sib_of_ctx w hc (Or.inl (List.mem_of_getLast? hl)) hcat

theorem nextSibling_sib {f : Forest} (w : f.W) {x y : Nat} (e : f.nextSibling x = some y) :
    Sib f x y := by
  obtain ⟨c, k, hc, hl, hk, hcat⟩ := nextSibling_ctx e
  exact hk ▸ Fatom.sib_of_ctx w hc (Or.inr (List.mem_of_head? hl)) hcat

theorem prevSibling_none_of_root {f : Forest} {x : Nat} (h : f.parent? x = none) :
    f.prevSibling x = none := by
  unfold prevSibling; rw [(ctx?_none_iff f x).2 h]

theorem nextSibling_none_of_root {f : Forest} {x : Nat} (h : f.parent? x = none) :
    f.nextSibling x = none := by
  unfold nextSibling; rw [(ctx?_none_iff f x).2 h]

theorem lastChild_parent {f : Forest} (w : f.W) {p c : Nat} (e : f.lastChild p = some c) :
    f.parent? c = some p := by
  unfold lastChild at e
  cases hg : f.get? p with
  | none => rw [hg] at e; cases e
  | some t =>
    rw [hg] at e
    simp only at e
    cases hl : t.kids.getLast? with
    | none => rw [hl] at e; cases e
    | some k =>
      rw [hl] at e
      simp only at e
      split at e
      · injection e with e
        rw [← e]; exact (kid_spec w hg (List.mem_of_getLast? hl)).2
      · cases e

theorem firstChild_parent {f : Forest} (w : f.W) {p c : Nat} (e : f.firstChild p = some c) :
    f.parent? c = some p := by
  unfold firstChild at e
  cases hg : f.get? p with
  | none => rw [hg] at e; cases e
  | some t =>
    rw [hg] at e
    simp only at e
    cases hl : (t.kids.dropWhile (fun k => !k.value.isNormal)).head? with
    | none => rw [hl] at e; cases e
    | some k =>
      rw [hl] at e
      simp only [Option.map_some, Option.some.injEq] at e
      have : k ∈ t.kids := (List.dropWhile_sublist _).subset (List.mem_of_head? hl)
      rw [← e]; exact (kid_spec w hg this).2

/-- The node `prepend` inserts after is an attribute or namespace child of `p`. -/
theorem prependPoint_spec {f : Forest} (w : f.W) {p c : Nat} (e : f.prependPoint p = some c) :
    f.parent? c = some p ∧ ∃ v, f.value? c = some v ∧ v.category ≠ .normal := by
  unfold prependPoint at e
  cases hg : f.get? p with
  | none => rw [hg] at e; cases e
  | some t =>
    rw [hg] at e
    simp only at e
    cases hl : (t.kids.takeWhile (fun k => k.value.category != .normal)).getLast? with
    | none => rw [hl] at e; cases e
    | some k =>
      rw [hl] at e
      simp only [Option.map_some, Option.some.injEq] at e
      have hm := List.mem_of_getLast? hl
      have hk := kid_spec w hg ((List.takeWhile_sublist _).subset hm)
      refine e ▸ ⟨hk.2, k.value, ?_, by simpa using mem_takeWhile_imp _ _ _ hm⟩
      unfold value?
      rw [hk.1]; rfl

/-! ### Text nodes are leaves -/

theorem text_leaf {f : Forest} (w : f.W) {x : Nat} {s : Str} (e : f.textOf x = some s) :
    ∃ t, f.get? x = some t ∧ t.kids = [] ∧ handles t = [x] := by
  have hv := textOf_value e
  unfold value? at hv
  cases hg : f.get? x with
  | none => rw [hg] at hv; cases hv
  | some t =>
    rw [hg] at hv
    simp only [Option.map_some, Option.some.injEq] at hv
    have hl := findList?_leafOk x f.roots t w.leaves hg
    have hk : t.kids = [] := leafOk_kids_nil hl (by rw [hv]; rfl) (by rw [hv]; rfl)
    refine ⟨t, rfl, hk, ?_⟩
    rw [handles_eq, hk, get?_handle hg]; rfl

theorem text_not_ancestor {f : Forest} (w : f.W) {y x : Nat} (ht : (f.textOf y).isSome = true)
    (hne : y ≠ x) : y ∉ f.ancestors x := by
  obtain ⟨s, hs⟩ := Option.isSome_iff_exists.1 ht
  obtain ⟨t, hg, hk, _⟩ := text_leaf w hs
  exact leaf_not_ancestor w hg hk hne

/-- Merge text into `target` and delete the text leaf `src` (both consolidation helpers). -/
theorem merge_spec {f : Forest} (w : f.W) {target src : Nat} {a b : Str} (v : Str)
    (ht : f.textOf target = some a) (hs : f.textOf src = some b) :
    ((f.setValue target (.text v)).spliceOut src).W ∧
    Frame f ((f.setValue target (.text v)).spliceOut src) [src] ∧
    ((f.setValue target (.text v)).spliceOut src).isLive src = false := by
  obtain ⟨tt, htg, htk, _⟩ := text_leaf w ht
  have w0 : (f.setValue target (.text v)).W := setValue_W w target _ (fun t e => by
    rw [htg] at e; injection e with e; subst e; exact Or.inl htk)
  have fr0 := setValue_frame_text f ht v
  have hs0 : ∃ s', (f.setValue target (.text v)).textOf src = some s' := by
    unfold textOf
    rw [setValue_value?]
    by_cases hst : src = target
    · subst hst; rw [textOf_value ht]; exact ⟨v, by simp⟩
    · simp only [hst, if_false]; rw [textOf_value hs]; exact ⟨b, by simp⟩
  obtain ⟨s', hs0⟩ := hs0
  obtain ⟨ts, hsg, hsk, hsh⟩ := text_leaf w0 hs0
  obtain ⟨w1, hcnt, fr1⟩ := spliceOut_spec w0 hsg (fun _ => by rw [hsk]; exact Nat.zero_le _)
  rw [hsh] at fr1
  refine ⟨w1, (fr0.trans fr1).mono (fun x hx => by simpa using hx), ?_⟩
  cases hl : ((f.setValue target (.text v)).spliceOut src).isLive src with
  | false => rfl
  | true => exact absurd (List.mem_singleton.2 rfl) ((isLive_of_count w0 hcnt src).1 hl).2

theorem removeConsolidate_spec {f : Forest} (w : f.W) (prev next : Option Nat) :
    (f.removeConsolidate prev next).1.W ∧
    ((f.removeConsolidate prev next).2 = false → (f.removeConsolidate prev next).1 = f) ∧
    ∃ P, (∀ x ∈ P, next = some x ∧ (f.textOf x).isSome = true ∧
        (f.removeConsolidate prev next).2 = true ∧ ∃ p, prev = some p) ∧
      Frame f (f.removeConsolidate prev next).1 P := by
  rcases f.removeConsolidate_outcome prev next with e | ⟨p, n, ps, ns, rfl, rfl, _, hp, hn, e⟩
  · rw [e]; exact ⟨w, fun _ => rfl, [], by simp, Frame.refl _ _⟩
  · rw [e]
    obtain ⟨w1, fr, _⟩ := merge_spec w (ps ++ ns) hp hn
    refine ⟨w1, (fun h => by cases h), [n], ?_, fr⟩
    intro x hx; simp only [List.mem_singleton] at hx; subst hx; simp [hn]

/-- What `add_consolidate_text_nodes` leaves behind: the weak invariant; nothing changed unless it answers
    `true`; only `node` touched; `node` gone when it answers `true`. -/
def AddConsolidated (f : Forest) (node : Nat) (r : Forest × Bool) : Prop :=
  r.1.W ∧ (r.2 = false → r.1 = f) ∧ Frame f r.1 [node] ∧ (r.2 = true → r.1.isLive node = false)

theorem AddConsolidated.none {f : Forest} (w : f.W) (node : Nat) : AddConsolidated f node (f, false) :=
  ⟨w, fun _ => rfl, Frame.refl _ _, fun h => by cases h⟩

theorem AddConsolidated.merged {f : Forest} (w : f.W) {node target : Nat} {a b : Str} (v : Str)
    (ht : f.textOf target = some a) (hn : f.textOf node = some b) :
    AddConsolidated f node ((f.setValue target (.text v)).spliceOut node, true) := by
  obtain ⟨w1, fr, hd⟩ := merge_spec w v ht hn
  exact ⟨w1, (fun h => by cases h), fr, fun _ => hd⟩

theorem addConsolidate_spec {f : Forest} (w : f.W) (node : Nat) (prev next : Option Nat) :
    (f.addConsolidate node prev next).1.W ∧
    ((f.addConsolidate node prev next).2 = false → (f.addConsolidate node prev next).1 = f) ∧
    Frame f (f.addConsolidate node prev next).1 [node] ∧
    ((f.addConsolidate node prev next).2 = true →
      (f.addConsolidate node prev next).1.isLive node = false) := by
  show AddConsolidated f node (f.addConsolidate node prev next)
  rw [addConsolidate_eq_old]
  rcases f.addConsolidateOld_outcome node (f.selfPrev node prev) (f.selfNext node next) with
    e | ⟨added, _, ha, ⟨p, ps, _, hp, e⟩ | ⟨n, ns, _, hn, e⟩⟩
  · rw [e]; exact .none w node
  · rw [e]; exact .merged w (ps ++ added) hp ha
  · rw [e]; exact .merged w (added ++ ns) hn ha

end Forest
end XotModel

/-! ## The context of a child read off the parent's child list -/

namespace XotModel
open HTree

theorem ctxKids_of_find (q : Nat) (v : Value) (l : List HTree) (k : HTree) (r : List HTree) :
    ∀ ks : List HTree, (handlesList ks).Nodup → findList? q ks = some (.node q v (l ++ k :: r)) →
    ∀ (p : Nat) (acc : List HTree), ctxKids k.handle p acc ks = some ⟨q, l, k, r⟩ := by
  intro ks nd e p acc
  obtain ⟨path, L, R, lc⟩ := Loc.of_findList? nd e
  exact (lc.kid rfl).ctxKids_snoc nd p acc

namespace Forest

theorem ctx?_of_get? {f : Forest} (w : f.W) {q : Nat} {v : Value} {l : List HTree} {k : HTree}
    {r : List HTree} (e : f.get? q = some (.node q v (l ++ k :: r))) :
    f.ctx? k.handle = some ⟨q, l, k, r⟩ :=
  ctx_of_kids w.nodup e

theorem prevSibling_of_nextSibling {f : Forest} (w : f.W) {x y : Nat}
    (e : f.nextSibling x = some y) : f.prevSibling y = some x := by
  obtain ⟨c, k, hc, hh, hk, hcat⟩ := nextSibling_ctx e
  obtain ⟨⟨v, hg⟩, hs⟩ := ctx?_spec w hc
  cases hr : c.right with
  | nil => rw [hr] at hh; cases hh
  | cons k' r' =>
    rw [hr] at hh hg
    simp only [List.head?_cons, Option.some.injEq] at hh
    subst hh
    have hg' : f.get? c.parent = some (.node c.parent v ((c.left ++ [c.self]) ++ k' :: r')) := by
      rw [hg]; simp
    have hc' := ctx?_of_get? w hg'
    rw [hk] at hc'
    unfold prevSibling
    rw [hc']
    simp only [List.getLast?_append, List.getLast?_singleton, Option.some_or]
    have hcat' : (c.self.value.category == k'.value.category) = true := by
      simp only [beq_iff_eq] at hcat ⊢; exact hcat.symm
    simp only [hcat', if_true, hs]

theorem prev_ne_next {f : Forest} (w : f.W) {x y z : Nat} (hy : f.prevSibling x = some y)
    (hz : f.nextSibling x = some z) : y ≠ z := by
  obtain ⟨c, k, hc, hh, hk, _⟩ := prevSibling_ctx hy
  obtain ⟨c', k', hc', hh', hk', _⟩ := nextSibling_ctx hz
  rw [hc] at hc'
  injection hc' with hc'
  subst hc'
  have hn3 := List.nodup_append.1 (Fatom.ctx?_nodup w hc)
  have h1 : y ∈ handlesList c.left :=
    hk ▸ handles_subset_handlesList (List.mem_of_getLast? hh) _ (handle_mem_handles k)
  have h2 : z ∈ handlesList c.right :=
    hk' ▸ handles_subset_handlesList (List.mem_of_head? hh') _ (handle_mem_handles k')
  exact fun e => hn3.2.2 _ h1 _ (List.mem_append_right _ h2) e

end Forest
end XotModel
