/-
  Round trip: a `nodeOK` tree satisfies the structural hypothesis `Tree.valid` of the `deep_equal`
  theorems (C13), so the reparsed tree — which IS the original tree — is `deep_equal` to it.
-/
import XotModel.Lemmas.RoundTripEncode
import XotModel.Lemmas.CompareCanon

namespace XotModel

variable {env : Env}

theorem attrPairs_eq_kidAttrs (ks : List Tree) : attrPairs ks = kidAttrs ks := by
  induction ks with
  | nil => rfl
  | cons k ks ih =>
    rw [kidAttrs_cons, ← ih]
    cases k with
    | node v kk => cases v <;> rfl

namespace PiColon

theorem valid_of_nodeOK (n : Tree) : n.allNodes (nodeOK env) = true → n.valid = true := by
  refine (tree_induction_both (P := fun n => n.allNodes (nodeOK env) = true → n.valid = true)
    (Q := fun ks => (∀ k ∈ ks, k.allNodes (nodeOK env) = true) → Tree.valid.validList ks = true)
    ?_ ?_ ?_).1 n
  · intro v ks ih hn
    obtain ⟨hord, hkinds, huniq, _, _⟩ := nodeOK_root hn
    simp only [Tree.valid, Bool.and_eq_true, Bool.or_eq_true]
    refine ⟨⟨⟨orderedKids_of_ordered ks hord, ?_⟩, ?_⟩, ih (fun k hk => allNodes_kid hn hk)⟩
    · rw [attrNamesNodup, decide_eq_true_eq, attrPairs_eq_kidAttrs]
      exact (kidAttrs_fst ks).symm ▸ huniq.1
    · by_cases hnorm : v.isNormal = true
      · exact Or.inl hnorm
      · right
        rw [hkinds.1 (abnormal_leafKind (Bool.not_eq_true _ ▸ hnorm))]
        rfl
  · intro _
    rfl
  · intro k ks ihk ihks hn
    rw [Tree.valid.validList, Bool.and_eq_true]
    exact ⟨ihk (hn k List.mem_cons_self), ihks (fun k' hk' => hn k' (List.mem_cons_of_mem _ hk'))⟩

end PiColon

theorem valid_of_nodeOK (n : Tree) (h : n.allNodes (nodeOK env) = true) : n.valid = true :=
  PiColon.valid_of_nodeOK n (PiColon.allNodes_of_allNodes env n h)

end XotModel
