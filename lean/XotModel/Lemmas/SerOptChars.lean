/-
  Character level of C14_options: the spelling-as-data of `serialize_text(unescaped_gt = true)`
  (`gtPieces`) — renders to what the serialiser writes, denotes the value, is well spelled, and the text
  token meets the tokenizer's side condition.
-/
import XotModel.Lemmas.SerOptTokens
import XotModel.Lemmas.SerTokensChars
import XotModel.Lemmas.SerTokensPieces

namespace XotModel
open Gen

theorem beq_swap (a b : Char) : (a == b) = (b == a) := by
  by_cases h : a = b
  · subst h; rfl
  · have h' : ¬ b = a := fun e => h e.symm
    rw [beq_eq_false_iff_ne.mpr h, beq_eq_false_iff_ne.mpr h']

theorem isPrefixOf_cdataEnd (l : Str) : [']', ']', '>'].isPrefixOf l = startsCdataEnd l := by
  match l with
  | [] => rfl
  | [a] => simp [List.isPrefixOf, startsCdataEnd]
  | [a, b] => simp [List.isPrefixOf, startsCdataEnd]
  | a :: b :: c :: r =>
    simp only [List.isPrefixOf, startsCdataEnd, Bool.and_true, beq_swap ']' a, beq_swap ']' b,
      beq_swap '>' c, Bool.and_assoc]

theorem hasInfix_cdataEnd (s : Str) : hasInfix [']', ']', '>'] s = hasCdataEnd s := by
  induction s with
  | nil => rfl
  | cons c cs ih => simp only [hasInfix, hasCdataEnd, isPrefixOf_cdataEnd, ih]

theorem gtPiece_gt (racc : Str) : gtPiece racc '>' = if startsBrBr racc then textGtEscape else ['>'] := by
  unfold gtPiece
  simp only [if_true]
  split
  · simp [startsBrBr]
  · rename_i hno
    have : startsBrBr racc = false := by
      match racc, hno with
      | [], _ => rfl
      | [a], _ => rfl
      | a :: b :: r, hno =>
        simp only [startsBrBr, Bool.and_eq_false_iff, beq_eq_false_iff_ne, ne_eq]
        by_cases ha : a = ']'
        · by_cases hb : b = ']'
          · exact absurd (by rw [ha, hb]) (hno r)
          · exact .inr hb
        · exact .inl ha
    simp [this]

theorem renderPiece_gtPieceP (racc : Str) (c : Char) : renderPiece (gtPieceP racc c) = gtPiece racc c := by
  by_cases hc : c = '>'
  · subst hc
    rw [gtPiece_gt]
    unfold gtPieceP
    simp only [if_true]
    split <;> rfl
  · unfold gtPieceP gtPiece
    simp only [hc, if_false, renderPiece_textPiece]

theorem renderPieces_gtPieces (s : Str) : ∀ racc, renderPieces (gtPieces racc s) = gtOut racc s := by
  induction s with
  | nil => intro racc; rfl
  | cons c cs ih =>
    intro racc
    have := ih ((gtPiece racc c).reverse ++ racc)
    simp only [renderPieces] at this
    simp only [gtPieces, gtOut, renderPieces, List.flatMap_cons, renderPiece_gtPieceP, this]

theorem serializeText_true_eq (s : Str) : serializeText true s = gtOut [] s := by
  simp [serializeText, serializeTextGtGo_eq]

/-- The pieces render to what `serialize_text` writes, with or without `unescaped_gt`. -/
theorem renderPieces_txtPieces (ugt : Bool) (s : Str) : renderPieces (txtPieces ugt s) = serializeText ugt s := by
  cases ugt
  · exact renderPieces_textPieces s
  · simp only [txtPieces, if_true, renderPieces_gtPieces, serializeText_true_eq]

theorem pieceValue_gtPieceP (racc : Str) (c : Char) : pieceValue false (gtPieceP racc c) = some c := by
  unfold gtPieceP
  by_cases hc : c = '>'
  · subst hc
    simp only [if_true]
    split
    · decide
    · rfl
  · simp only [hc, if_false, pieceValue_textPiece]

theorem valueOf_gtPieces (s : Str) : ∀ racc, valueOf false (gtPieces racc s) = s := by
  induction s with
  | nil => intro racc; rfl
  | cons c cs ih =>
    intro racc
    have := ih ((gtPiece racc c).reverse ++ racc)
    simp only [valueOf] at this
    simp only [valueOf, gtPieces, List.filterMap_cons, pieceValue_gtPieceP, this]

theorem valueOf_txtPieces (ugt : Bool) (s : Str) : valueOf false (txtPieces ugt s) = s := by
  cases ugt
  · exact valueOf_textPieces s
  · simp only [txtPieces, if_true, valueOf_gtPieces]

theorem gtPieceP_ok (racc : Str) (c : Char) : (gtPieceP racc c).ok ∧ gtPieceP racc c ≠ .cr := by
  unfold gtPieceP
  by_cases hc : c = '>'
  · simp only [hc, if_true]
    split
    · exact ⟨named_ok _ (by decide) (by decide) (by decide), by simp⟩
    · exact ⟨⟨by decide, by decide⟩, by simp⟩
  · simp only [hc, if_false]
    exact textPiece_ok c

theorem wellSpelled_gtPieces (s : Str) : ∀ racc, WellSpelled (gtPieces racc s) := by
  induction s with
  | nil => intro racc; trivial
  | cons c cs ih =>
    intro racc
    exact wellSpelled_cons (gtPieceP_ok racc c).2 (gtPieceP_ok racc c).1 (ih _)

theorem wellSpelled_txtPieces (ugt : Bool) (s : Str) : WellSpelled (txtPieces ugt s) := by
  cases ugt
  · exact wellSpelled_textPieces s
  · simp only [txtPieces, if_true]; exact wellSpelled_gtPieces s []

theorem txtPieces_ne_nil (ugt : Bool) {s : Str} (h : s ≠ []) : txtPieces ugt s ≠ [] := by
  cases s with
  | nil => exact absurd rfl h
  | cons c cs => cases ugt <;> simp [txtPieces, textPieces, gtPieces]

theorem gtPiece_all {P : Char → Bool} (ht : tableAll P textEscapes = true) (hg : textGtEscape.all P = true)
    (hgt : P '>' = true) (racc : Str) (c : Char) (hc : P c = true) : (gtPiece racc c).all P = true := by
  unfold gtPiece
  by_cases h : c = '>'
  · simp only [h, if_true]
    split
    · exact hg
    · simp [hgt]
  · simp only [h, if_false]
    exact escapeWith_all ht c hc

theorem gtOut_all {P : Char → Bool} (ht : tableAll P textEscapes = true) (hg : textGtEscape.all P = true)
    (hgt : P '>' = true) (s : Str) (hs : s.all P = true) : ∀ racc, (gtOut racc s).all P = true := by
  induction s with
  | nil => intro racc; rfl
  | cons c cs ih =>
    intro racc
    simp only [List.all_cons, Bool.and_eq_true] at hs
    simp only [gtOut, List.all_append, Bool.and_eq_true]
    exact ⟨gtPiece_all ht hg hgt racc c hs.1, ih hs.2 _⟩

theorem gtPiece_ne_nil (racc : Str) (c : Char) : gtPiece racc c ≠ [] := by
  unfold gtPiece
  by_cases h : c = '>'
  · simp only [h, if_true]
    split <;> simp [textGtEscape]
  · simp only [h, if_false]
    exact escapeWith_ne_nil (by decide) c

/-- `serialize_text s` (either setting) of a non-empty string of XML characters: not empty, XML
    characters other than `<` only, no `]]>`. -/
theorem serializeText_lexOK (ugt : Bool) (s : Str) (hne : s ≠ []) (hs : s.all isXmlChar = true) :
    (Token.text (sp0 (serializeText ugt s))).lexOK = true := by
  simp only [Token.lexOK, sp0, Bool.and_eq_true, Bool.not_eq_true', List.isEmpty_eq_false_iff]
  cases ugt
  · exact ⟨⟨serializeText_ne_nil s hne, serializeText_chars s hs⟩, serializeText_noCdataEnd s⟩
  · rw [serializeText_true_eq]
    refine ⟨⟨?_, ?_⟩, ?_⟩
    · cases s with
      | nil => exact absurd rfl hne
      | cons c cs =>
        simp only [gtOut, ne_eq, List.append_eq_nil_iff, not_and]
        intro h; exact absurd h (gtPiece_ne_nil [] c)
    · have h1 := gtOut_all (P := isXmlChar) (by decide) (by decide) (by decide) s hs []
      have h3 : '<' ∉ gtOut [] s := gtOut_hides (c := '<') (by decide) (by decide) (by decide) s []
      simp only [List.all_eq_true, Bool.and_eq_true, bne_iff_ne, ne_eq] at h1 ⊢
      intro c hc
      exact ⟨h1 c hc, by rintro rfl; exact h3 hc⟩
    · rw [hasInfix_cdataEnd]
      have := gtOut_noCdataEnd (by decide) (by decide) s [] rfl
      simpa using this

end XotModel
