/-
  The builder invariant behind "accepted ⇒ representable": the open frames in their scopes (`ChainAcc`), the
  pending start tag, name resolution, the attribute loop and `open_element`; every step of `_parse` on a
  token with the tokenizer's lexical classes keeps `AccInv`, so the tree an accepted run returns satisfies
  `TreeAcc` in the base scope; the xml:id values of an accepted tree are pairwise different.
-/
import XotModel.Lemmas.AcceptedDefs
import XotModel.Lemmas.AcceptedContent
import XotModel.Lemmas.ParseScope
import XotModel.Lemmas.ParseOps
import XotModel.Lemmas.BasicFacts

/-! ## Frames, the start tag, `open_element`

  Name resolution: `elementNameId_acc`, `attributeNameId_acc`.
-/

namespace XotModel.Accepted

open XotModel BuilderCases

/-! ### Interning: what the id stands for afterwards -/

theorem getD_of_get {α : Type} {l : List α} {i : Nat} {x : α} (d : α) (h : l[i]? = some x) : l.getD i d = x := by
  simp [List.getD_eq_getElem?_getD, h]

theorem internName_facts (e : Env) (a : Str) (ns : Nat) :
    (e.internName a ns).2 < (e.internName a ns).1.names.length ∧
      (e.internName a ns).1.localName (e.internName a ns).2 = a ∧
      (e.internName a ns).1.nsOfName (e.internName a ns).2 = ns := by
  have h : (e.internName a ns).1.names[(e.internName a ns).2]? = some (a, ns) := internIn_get e.names (a, ns)
  exact ⟨SerResolve.lt_of_getElem?_some h, by simp only [Env.localName, getD_of_get _ h], by simp only [Env.nsOfName, getD_of_get _ h]⟩

theorem internPrefix_facts (e : Env) (p : Str) :
    (e.internPrefix p).2 < (e.internPrefix p).1.prefixes.length ∧
      (e.internPrefix p).1.prefixStr (e.internPrefix p).2 = p := by
  have h := internPrefix_get e p
  exact ⟨SerResolve.lt_of_getElem?_some h, by simp only [Env.prefixStr, getD_of_get _ h]⟩

theorem internNamespace_facts (e : Env) (u : Str) :
    (e.internNamespace u).2 < (e.internNamespace u).1.namespaces.length ∧
      (e.internNamespace u).1.namespaceStr (e.internNamespace u).2 = u := by
  have h := internNamespace_get e u
  exact ⟨SerResolve.lt_of_getElem?_some h, by simp only [Env.namespaceStr, getD_of_get _ h]⟩

/-- `element_name_id`: the new id names (`name`, the namespace some prefix in scope is bound to). -/
theorem elementNameId_acc {env env1 : Env} {stack : NsStack} {pfx name : Str} {sp : Span} {id : Nat}
    (h : elementNameId env stack pfx name sp = .ok (env1, id)) :
    EnvReach env env1 ∧ id < env1.names.length ∧ env1.localName id = name ∧
      ∃ q, lookupPrefix stack q = some (env1.nsOfName id) := by
  obtain ⟨ns, hl, h⟩ := BuilderCases.elementNameId_ok h
  obtain ⟨h1, h2, h3⟩ := internName_facts (env.internPrefix pfx).1 name ns
  have hr := EnvReach.name name ns (EnvReach.pfx pfx (EnvReach.refl env))
  rw [h] at h1 h2 h3 hr
  exact ⟨hr, h1, h2, (env.internPrefix pfx).2, by rw [h3]; exact hl⟩

theorem attributeNameId_acc {env env1 : Env} (hf : EnvFacts env) {stack : NsStack} {pfx name : Str} {sp : Span}
    {id : Nat} (h : attributeNameId env stack pfx name sp = .ok (env1, id)) :
    EnvReach env env1 ∧ id < env1.names.length ∧ env1.localName id = name ∧
      ((pfx = [] ∧ env1.nsOfName id = Env.noNamespace) ∨
        ∃ q, q ≠ Env.emptyPrefix ∧ lookupPrefix stack q = some (env1.nsOfName id)) := by
  obtain ⟨ns, hns, h⟩ := BuilderCases.attributeNameId_ok h
  obtain ⟨h1, h2, h3⟩ := internName_facts (env.internPrefix pfx).1 name ns
  have hr := EnvReach.name name ns (EnvReach.pfx pfx (EnvReach.refl env))
  rw [h] at h1 h2 h3 hr
  refine ⟨hr, h1, h2, ?_⟩
  by_cases h0 : (env.internPrefix pfx).2 = Env.emptyPrefix
  · rw [if_pos h0] at hns
    refine .inl ⟨?_, by rw [h3]; exact hns⟩
    -- the empty prefix is the string at index 0 of the tables
    have hp := (internPrefix_facts env pfx).2
    rw [h0, ((EnvReach.pfx pfx (EnvReach.refl env)).facts hf).p0] at hp
    exact hp.symm
  · rw [if_neg h0] at hns
    exact .inr ⟨(env.internPrefix pfx).2, h0, by rw [h3]; exact hns⟩

/-! ### Frames in their scopes -/

/-- The declarations among the children of a frame (kept last first). -/
def rdecls (rk : List Tree) : List (Nat × Nat) := kidDecls rk.reverse

theorem rdecls_cons {k : Tree} (rk : List Tree) (h : nsPair k.value = none) : rdecls (k :: rk) = rdecls rk := by
  simp [rdecls, kidDecls, List.filterMap_append, h]

/-- An open node in the scope `st` (for an element: its own declarations on top). -/
structure FrameAcc (env : Env) (f : Frame) (st : NsStack) : Prop where
  val : ValAcc env st f.value
  kids : ∀ k ∈ f.rkids, TreeAcc env st k
  top : f.value.isElement = true → ∃ st', st = rdecls f.rkids :: st'
  kind : f.value.isElement = true ∨ f.value = .document

theorem kind_nsPair {v : Value} (h : v.isElement = true ∨ v = .document) : nsPair v = none := by
  rcases h with h | h
  · cases v <;> simp_all [Value.isElement, nsPair]
  · subst h; rfl

/-- The scope of the parent of an open node. -/
def parentStack (f : Frame) (st : NsStack) : NsStack := if f.value.isElement then st.tail else st

/-- The chain of open nodes, innermost first, against the builder's namespace stack. -/
def ChainAcc (env : Env) : List Frame → NsStack → Prop
  | [], st => st = base2
  | f :: rest, st => FrameAcc env f st ∧ ChainAcc env rest (parentStack f st)

theorem FrameAcc.mono {e e' : Env} (h : EnvApp e e') {f : Frame} {st : NsStack} (hf : FrameAcc e f st) :
    FrameAcc e' f st :=
  ⟨ValAcc.mono h hf.val, fun k hk => TreeAcc.mono h k (hf.kids k hk), hf.top, hf.kind⟩

theorem ChainAcc.mono {e e' : Env} (h : EnvApp e e') : ∀ {fs : List Frame} {st : NsStack},
    ChainAcc e fs st → ChainAcc e' fs st
  | [], _, hc => hc
  | _ :: _, _, hc => ⟨hc.1.mono h, ChainAcc.mono h hc.2⟩

/-- The finished node of a frame, in the scope of its parent. -/
theorem FrameAcc.close {env : Env} {f : Frame} {st : NsStack} (h : FrameAcc env f st) :
    TreeAcc env (parentStack f st) f.close := by
  unfold Frame.close
  rw [treeAcc_node]
  have hctx : ctx f.value f.rkids.reverse (parentStack f st) = st := by
    unfold ctx parentStack
    by_cases he : f.value.isElement = true
    · obtain ⟨st', hst⟩ := h.top he
      simp only [he, if_true]
      rw [hst]; rfl
    · simp [he]
  rw [hctx]
  exact ⟨h.val, fun k hk => h.kids k (List.mem_reverse.mp hk)⟩

/-- A finished normal child is added to the current frame. -/
theorem FrameAcc.addKid {env : Env} {f : Frame} {st : NsStack} (h : FrameAcc env f st) {k : Tree}
    (hk : TreeAcc env st k) (hn : nsPair k.value = none) :
    FrameAcc env { f with rkids := k :: f.rkids } st := by
  refine ⟨h.val, fun k' hk' => ?_, fun he => ?_, h.kind⟩
  · rcases List.mem_cons.mp hk' with rfl | hk'
    · exact hk
    · exact h.kids k' hk'
  · obtain ⟨st', hst⟩ := h.top he
    exact ⟨st', by rw [rdecls_cons _ hn]; exact hst⟩

/-! ### The pending start tag -/

/-- An attribute waiting in the pending start tag is lexically sound and is not the unprefixed `xmlns`. -/
def AbAcc (ab : AttributeBuilder) : Prop :=
  ncNameNE ab.name = true ∧ ab.value.all isXmlChar = true ∧ ¬ (ab.pfx = [] ∧ ab.name = xmlnsName)

/-- What the pending start tag has collected so far is as `ValAcc` will need it when `open_element` builds
    the element: the name, each declaration, each attribute. -/
structure EbAcc (env : Env) (eb : ElementBuilder) : Prop where
  name : ncNameNE eb.name = true
  decls : ∀ d ∈ eb.namespaces, ValAcc env [] (.namespace d.1 d.2)
  attrs : ∀ ab ∈ eb.attributes, AbAcc ab

theorem EbAcc.mono {e e' : Env} (h : EnvApp e e') {eb : ElementBuilder} (hb : EbAcc e eb) : EbAcc e' eb :=
  ⟨hb.name, fun d hd => ValAcc.mono h (hb.decls d hd), hb.attrs⟩

/-! ### The attribute loop of `open_element` -/

theorem addAttributes_acc (stack : NsStack) (node : Path) (abs : List AttributeBuilder) (st st' : AttrLoop)
    (hf : EnvFacts st.env) (hab : ∀ ab ∈ abs, AbAcc ab) (hk : ∀ k ∈ st.rkids, TreeAcc st.env stack k)
    (h : addAttributes stack node st abs = .ok st') :
    EnvReach st.env st'.env ∧ (∀ k ∈ st'.rkids, TreeAcc st'.env stack k) ∧ rdecls st'.rkids = rdecls st.rkids := by
  refine (addAttributes_ok_induct (P := fun s => EnvFacts s.env ∧ EnvReach st.env s.env ∧
    (∀ k ∈ s.rkids, TreeAcc s.env stack k) ∧ rdecls s.rkids = rdecls st.rkids) ?_
    ⟨hf, EnvReach.refl _, hk, rfl⟩ h).2
  intro s ab env1 nameId hm hn _ _ ⟨hfs, hreach, hks, hdecl⟩
  obtain ⟨hr, hlt, hloc, hscope⟩ := attributeNameId_acc hfs hn
  obtain ⟨ha1, ha2, ha3⟩ := hab ab hm
  have hval : (xmlIdValue nameId ab.value).all isXmlChar = true := by
    unfold xmlIdValue
    split
    · exact normalizeXmlId_all _ ha2
    · exact ha2
  have hnew : TreeAcc env1 stack (.node (.attribute nameId (xmlIdValue nameId ab.value)) []) := by
    refine treeAcc_leaf rfl ⟨hlt, by rw [hloc]; exact ha1, hval, ?_, ?_⟩
    · intro hid
      simp only [xmlIdValue, hid, beq_self_eq_true, if_true]
      exact normalizeXmlId_idem _
    · rcases hscope with ⟨hp, hns⟩ | hq
      · exact .inl ⟨hns, by rw [hloc]; exact fun hx => ha3 ⟨hp, hx⟩⟩
      · exact .inr hq
  refine ⟨hr.facts hfs, hreach.trans hr, fun k hk' => ?_, (rdecls_cons _ rfl).trans hdecl⟩
  rcases List.mem_cons.mp hk' with rfl | hk'
  · exact hnew
  · exact TreeAcc.mono hr.app k (hks k hk')

theorem rdecls_namespaceKids (decls : List (Nat × Nat)) : rdecls (namespaceKids decls) = decls := by
  simp only [rdecls, namespaceKids, List.reverse_reverse, kidDecls, List.filterMap_map]
  induction decls with
  | nil => rfl
  | cons d ds ih =>
    rw [List.filterMap_cons]
    have : ((fun k : Tree => nsPair k.value) ∘ fun d : Nat × Nat => Tree.node (Value.namespace d.fst d.snd) []) d = some d := rfl
    rw [this, ih]

/-! ### `open_element` -/

theorem openElement_acc {b b' : Builder} (hf : EnvFacts b.env) (hc : ChainAcc b.env (b.cur :: b.parents) b.nsStack)
    (heb : ∀ e, b.eb = some e → EbAcc b.env e) (hr : b.openElement = .ok b') :
    EnvReach b.env b'.env ∧ ChainAcc b'.env (b'.cur :: b'.parents) b'.nsStack ∧ b'.eb = none := by
  obtain ⟨eb, env1, nameId, st, hebs, hn, hst, rfl⟩ := Builder.openElement_ok_inv hr
  have hE := heb eb hebs
  obtain ⟨hr1, hlt, hloc, hq⟩ := elementNameId_acc hn
  have hkids0 : ∀ k ∈ namespaceKids eb.namespaces, TreeAcc env1 (eb.namespaces :: b.nsStack) k := by
    intro k hk
    simp only [namespaceKids, List.mem_reverse, List.mem_map] at hk
    obtain ⟨d, hd, rfl⟩ := hk
    -- `ValAcc` of a namespace node does not mention the scope
    exact treeAcc_leaf rfl (ValAcc.mono hr1.app (st := []) (hE.decls d hd))
  obtain ⟨r1, r2, r3⟩ := addAttributes_acc (eb.namespaces :: b.nsStack) _ eb.attributes
    { env := env1, seenIds := b.seenIds, idNodes := b.idNodes, seenNames := [],
      rkids := namespaceKids eb.namespaces, aspans := [] } st (hr1.facts hf) hE.attrs hkids0 hst
  simp only at r1 r3
  refine ⟨hr1.trans r1, ⟨⟨?_, r2, fun _ => ⟨b.nsStack, ?_⟩, .inl rfl⟩, ?_⟩, rfl⟩
  · refine ValAcc.mono r1.app ⟨hlt, ?_, hq⟩
    rw [hloc]; exact hE.name
  · rw [r3, rdecls_namespaceKids]
  · exact ChainAcc.mono (hr1.trans r1).app hc

end XotModel.Accepted

/-! ## Along the run

  The tables an accepted run leaves keep the standing facts (`EnvFacts`).
-/

namespace XotModel.Accepted

open XotModel BuilderCases

structure AccInv (b : Builder) : Prop where
  facts : EnvFacts b.env
  chain : ChainAcc b.env (b.cur :: b.parents) b.nsStack
  eb : ∀ e, b.eb = some e → EbAcc b.env e

theorem accInv_new {env : Env} (hf : EnvFacts env) : AccInv (Builder.new env) := by
  refine ⟨hf, ⟨⟨trivial, fun k hk => by simp [Builder.new] at hk, fun h => by simp [Builder.new, Value.isElement] at h, .inr rfl⟩, ?_⟩,
    fun e he => by simp [Builder.new] at he⟩
  simp [ChainAcc, parentStack, Builder.new, Value.isElement, base2]

/-! ### Adding to the current frame -/

/-- `consolidate_text` + `add(Value::Text)` for content that is not empty (`sp`: the span map afterwards). -/
theorem addText_acc {b : Builder} (h : AccInv b) {content : Str} (hne : content ≠ [])
    (hall : content.all isXmlChar = true) (sp : SpanMap) :
    AccInv { (b.addText content).1 with spans := sp } ∧ EnvReach b.env (b.addText content).1.env := by
  obtain ⟨hcur, hrest⟩ := h.chain
  unfold Builder.addText
  split
  · next s ks more hk =>
    refine ⟨⟨h.facts, ⟨⟨hcur.val, fun k hk' => ?_, fun he => ?_, hcur.kind⟩, hrest⟩, h.eb⟩, EnvReach.refl _⟩
    · rcases List.mem_cons.mp hk' with rfl | hk'
      · have hold := hcur.kids (.node (.text s) ks) (by rw [hk]; exact List.mem_cons_self)
        rw [treeAcc_node] at hold ⊢
        simp only [ctx, Value.isElement, Bool.false_eq_true, if_false] at hold ⊢
        refine ⟨⟨by simp [hold.1.1], ?_⟩, hold.2⟩
        simp only [List.all_append, hold.1.2, hall, Bool.and_self]
      · exact hcur.kids k (by rw [hk]; exact List.mem_cons_of_mem _ hk')
    · obtain ⟨st', hst⟩ := hcur.top he
      refine ⟨st', ?_⟩
      rw [hst, hk, rdecls_cons _ rfl, rdecls_cons _ rfl]
  · exact ⟨⟨h.facts, ⟨hcur.addKid (treeAcc_leaf rfl ⟨hne, hall⟩) rfl, hrest⟩, h.eb⟩, EnvReach.refl _⟩

theorem addLeaf_chain {b : Builder} {env : Env} (v : Value)
    (hc : ChainAcc env (b.cur :: b.parents) b.nsStack) (hv : ValAcc env b.nsStack v) (he : v.isElement = false)
    (hn : nsPair v = none) :
    ChainAcc env ((b.addLeaf v).1.cur :: (b.addLeaf v).1.parents) (b.addLeaf v).1.nsStack :=
  ⟨hc.1.addKid (treeAcc_leaf he hv) hn, hc.2⟩

/-! ### Leaving an element -/

/-- Leaving the current node from a builder `b1` that differs from `b` in that the tables have grown and
    the namespace stack is already that of the parent. -/
theorem leave_acc {b b1 b' : Builder} {node : Path} {sp : StrSpan} (h : AccInv b) (hr : b1.leave node sp = .ok b')
    (hcur : b1.cur = b.cur) (hpar : b1.parents = b.parents) (heb : b1.eb = b.eb)
    (hns : b1.nsStack = parentStack b.cur b.nsStack) (hreach : EnvReach b.env b1.env) :
    AccInv b' ∧ EnvReach b.env b'.env := by
  obtain ⟨p, rest, hp, rfl⟩ := Builder.leave_ok hr
  rw [hpar] at hp
  have hc := ChainAcc.mono hreach.app h.chain
  rw [hp] at hc
  obtain ⟨hcur', hp', hrest⟩ := hc
  refine ⟨⟨hreach.facts h.facts, ?_, fun e he => (h.eb e (heb ▸ he)).mono hreach.app⟩, hreach⟩
  show ChainAcc b1.env ({ p with rkids := b1.cur.close :: p.rkids } :: rest) b1.nsStack
  rw [hns, hcur]
  exact ⟨hp'.addKid hcur'.close (kind_nsPair hcur'.kind), hrest⟩

theorem closeImmediate_acc {b b' : Builder} (sp : StrSpan) (h : AccInv b) (hr : b.closeImmediate sp = .ok b') :
    AccInv b' ∧ EnvReach b.env b'.env := by
  by_cases he : b.cur.value.isElement = true
  · simp only [Builder.closeImmediate, if_pos he] at hr
    exact leave_acc h hr rfl rfl rfl (by rw [parentStack, if_pos he]) (EnvReach.refl _)
  · simp only [Builder.closeImmediate, if_neg he] at hr
    exact leave_acc h hr rfl rfl rfl (by rw [parentStack, if_neg he]) (EnvReach.refl _)

theorem closeElement_acc {b b' : Builder} (pfx loc sp : StrSpan) (h : AccInv b)
    (hr : b.closeElement pfx loc sp = .ok b') : AccInv b' ∧ EnvReach b.env b'.env := by
  obtain ⟨env1, nameId, hn, _, ⟨hv, _, hr⟩ | ⟨hv, hr⟩⟩ := Builder.closeElement_ok_inv hr
  · exact leave_acc h hr rfl rfl rfl (by rw [parentStack, hv]; rfl) (elementNameId_acc hn).1
  · exact leave_acc h hr rfl rfl rfl (by rw [parentStack, if_neg (by rw [hv]; decide)]) (elementNameId_acc hn).1

/-! ### Declarations and attributes of the pending start tag -/

theorem prefix_acc {b b' : Builder} (p : Str) (u : StrSpan) (sp : Span) (h : AccInv b)
    (hp : ncNameOK p = true) (hu : u.text.all isXmlChar = true) (hr : b.prefix p u sp = .ok b') :
    AccInv b' ∧ EnvReach b.env b'.env := by
  obtain ⟨uri, eb, hdec, hres, heb, _, rfl⟩ := Builder.prefix_ok_inv hr
  have hreach : EnvReach b.env ((b.env.internPrefix p).1.internNamespace uri).1 :=
    EnvReach.ns uri (EnvReach.pfx p (EnvReach.refl _))
  have hE := (h.eb eb heb).mono hreach.app
  refine ⟨⟨hreach.facts h.facts, ChainAcc.mono hreach.app h.chain, ?_⟩, hreach⟩
  intro e he
  simp only [Option.some.injEq] at he
  subst he
  refine ⟨hE.name, fun d hd => ?_, hE.attrs⟩
  simp only [List.mem_append, List.mem_singleton] at hd
  rcases hd with hd | rfl
  · exact hE.decls d hd
  · obtain ⟨p1, p2⟩ := internPrefix_facts b.env p
    obtain ⟨n1, n2⟩ := internNamespace_facts (b.env.internPrefix p).1 uri
    have happ := internNamespace_app (b.env.internPrefix p).1 uri
    refine ⟨Nat.lt_of_lt_of_le p1 (EnvApp.prefixes_le happ), n1, ?_, ?_, ?_⟩
    · rw [EnvApp.prefixStr happ p1, p2]; exact hp
    · rw [n2]; exact parseGo_all hu hdec
    · rw [EnvApp.prefixStr happ p1, p2, n2]; simpa using hres

theorem attribute_acc {b b' : Builder} (pfx loc value : StrSpan) (h : AccInv b)
    (hq : qnameOK pfx.text loc.text = true) (hv : value.text.all isXmlChar = true)
    (hx : ¬ (pfx.text = [] ∧ loc.text = xmlnsName)) (hr : b.attribute pfx loc value = .ok b') :
    AccInv b' ∧ b'.env = b.env := by
  obtain ⟨eb, v, heb, _, hdec, rfl⟩ := Builder.attribute_ok_inv hr
  have hE := h.eb eb heb
  refine ⟨⟨h.facts, h.chain, ?_⟩, rfl⟩
  intro e he
  simp only [Option.some.injEq] at he
  subst he
  refine ⟨hE.name, hE.decls, fun ab hab => ?_⟩
  simp only [List.mem_append, List.mem_singleton] at hab
  rcases hab with hab | rfl
  · exact hE.attrs ab hab
  · simp only [qnameOK, Bool.and_eq_true, Bool.not_eq_true', List.isEmpty_eq_false_iff] at hq
    refine ⟨?_, parseGo_all hv hdec, hx⟩
    simp only [ncNameNE, Bool.and_eq_true, hq.1.2, Bool.not_eq_true', List.isEmpty_eq_false_iff, true_and]
    exact hq.2

/-! ### One token -/

theorem step_acc {b b' : Builder} (t : Token) (h : AccInv b) (ht : t.accLex = true) (hr : b.step t = .ok b') :
    AccInv b' ∧ EnvReach b.env b'.env := by
  revert ht
  refine Builder.step_ok_cases (motive := fun t b' => t.accLex = true → AccInv b' ∧ EnvReach b.env b'.env) hr
    ?_ ?_ ?_ ?_ ?_ ?_ ?_ ?_ ?_ ?_ ?_ ?_
  · intro pfx loc value sp p hp hr ht
    simp only [Token.accLex, qnameOK, Bool.and_eq_true] at ht
    refine prefix_acc _ _ _ h ?_ ht.2 hr
    rcases hp with ⟨_, rfl⟩ | ⟨_, _, rfl⟩
    · exact ht.1.1.2
    · rfl
  · intro pfx loc value sp hx hr ht
    simp only [Token.accLex, Bool.and_eq_true] at ht
    obtain ⟨h1, h2⟩ := attribute_acc pfx loc value h ht.1 ht.2 hx hr
    exact ⟨h1, by rw [h2]; exact EnvReach.refl _⟩
  · intro s content hdec ht
    simp only [Token.accLex, Bool.and_eq_true, Bool.not_eq_true', List.isEmpty_eq_false_iff] at ht
    exact addText_acc h (parseGo_ne_nil ht.2 hdec ht.1) (parseGo_all ht.2 hdec) _
  · exact fun _ _ _ _ => ⟨h, EnvReach.refl _⟩
  · intro s sp hne ht
    have hv := cdata_value ht hne
    exact addText_acc h hv.2 hv.1 _
  · intro pfx loc sp ht
    simp only [Token.accLex, qnameOK, Bool.and_eq_true, Bool.not_eq_true', List.isEmpty_eq_false_iff] at ht
    refine ⟨⟨h.facts, h.chain, fun e he => ?_⟩, EnvReach.refl _⟩
    cases he
    refine ⟨?_, fun d hd => (nomatch hd), fun ab hab => (nomatch hab)⟩
    simp only [ElementBuilder.new, ncNameNE, Bool.and_eq_true, ht.1.2, Bool.not_eq_true', List.isEmpty_eq_false_iff,
      true_and]
    exact ht.2
  · intro sp hr _
    obtain ⟨h1, h2, h3⟩ := openElement_acc h.facts h.chain h.eb hr
    exact ⟨⟨h1.facts h.facts, h2, fun e he => by rw [h3] at he; cases he⟩, h1⟩
  · exact fun pfx loc sp hr _ => closeElement_acc pfx loc sp h hr
  · intro sp b1 hb hr _
    obtain ⟨h1, h2, h3⟩ := openElement_acc h.facts h.chain h.eb hb
    obtain ⟨k1, k2⟩ := closeImmediate_acc sp ⟨h1.facts h.facts, h2, fun e he => by rw [h3] at he; cases he⟩ hr
    exact ⟨k1, h1.trans k2⟩
  · intro t sp ht
    have hval : ValAcc b.env b.nsStack (.comment (normalizeLineEnds t.text)) := by
      obtain ⟨c1, c2, c3, c4⟩ := commentAcc_normalize ht
      simp only [ValAcc, commentAcc, Bool.and_eq_true, Bool.not_eq_true', bne_iff_ne, ne_eq]
      exact ⟨⟨⟨c1, c2⟩, c3⟩, c4⟩
    exact ⟨⟨h.facts, addLeaf_chain (.comment (normalizeLineEnds t.text)) h.chain hval rfl rfl, h.eb⟩,
      EnvReach.refl _⟩
  · intro target content sp hres ht
    have hreach : EnvReach b.env (b.env.internName target.text Env.noNamespace).1 :=
      EnvReach.name _ _ (EnvReach.refl _)
    obtain ⟨n1, n2, n3⟩ := internName_facts b.env target.text Env.noNamespace
    have hval : ValAcc (b.env.internName target.text Env.noNamespace).1 b.nsStack
        (.pi (b.env.internName target.text Env.noNamespace).2
          (content.map fun c => normalizeLineEnds c.text)) := by
      refine ⟨n1, n3, ?_, ?_, ?_⟩
      · rw [n2]; cases content <;> simp only [Token.accLex, Bool.and_eq_true] at ht
        · exact ht
        · exact ht.1.1.1.1
      · cases content with
        | none => rfl
        | some c =>
          simp only [Token.accLex, Bool.and_eq_true] at ht
          simp only [Option.map_some, dataAcc]
          apply piData_normalize
          simp only [Bool.and_eq_true]
          exact ⟨⟨⟨ht.1.1.1.2, ht.1.1.2⟩, ht.1.2⟩, ht.2⟩
      · rw [n2]; exact hres
    refine ⟨⟨hreach.facts h.facts, ?_, fun e he => (h.eb e he).mono hreach.app⟩, hreach⟩
    exact addLeaf_chain (b := { b with env := (b.env.internName target.text Env.noNamespace).1 }) _
      (ChainAcc.mono hreach.app h.chain) hval rfl rfl
  · exact fun _ _ _ _ _ => ⟨h, EnvReach.refl _⟩

theorem run_acc (ts : List Token) (lexErr : Option Nat) {b b' : Builder} (h : AccInv b)
    (hts : ∀ t ∈ ts, t.accLex = true) (hr : b.run ts lexErr = .ok b') : AccInv b' ∧ EnvReach b.env b'.env := by
  refine Builder.run_ok_induct (P := fun _ b1 => AccInv b1 ∧ EnvReach b.env b1.env) ⟨h, EnvReach.refl _⟩ ?_ hr
  intro done t b1 b2 hpre hp hs
  obtain ⟨h1, r1⟩ := step_acc t hp.1 (hts t (mem_of_snoc_prefix hpre)) hs
  exact ⟨h1, hp.2.trans r1⟩

/-! ### The finished tree -/

theorem chain_zip {env : Env} : ∀ (rest : List Frame) (f : Frame) (st : NsStack),
    ChainAcc env (f :: rest) st → TreeAcc env base2 (zipInto f.close rest)
  | [], f, st, hc => by
    have h2 : parentStack f st = base2 := hc.2
    rw [← h2]
    exact hc.1.close
  | p :: rest, f, st, hc => by
    obtain ⟨hf, hp, hrest⟩ := hc
    have : zipInto f.close (p :: rest) = zipInto (Frame.close { p with rkids := f.close :: p.rkids }) rest := rfl
    rw [this]
    exact chain_zip rest _ (parentStack f st) ⟨hp.addKid hf.close (kind_nsPair hf.kind), hrest⟩

/-- Whatever `build` accepts from tokens with the tokenizer's lexical classes: the tables keep the
    standing facts and only grow by interning, and every node of the tree is as `TreeAcc` says. -/
theorem build_acc {m : Mode} {len : Nat} {env : Env} {ts : List Token} {lexErr : Option Nat} {p : Parsed}
    (hf : EnvFacts env) (hts : ∀ t ∈ ts, t.accLex = true) (h : build m len env ts lexErr = .ok p) :
    EnvFacts p.env ∧ EnvReach env p.env ∧ TreeAcc p.env base2 p.tree := by
  obtain ⟨b, hb, rfl, _⟩ := build_ok_parsed h
  obtain ⟨hinv, hreach⟩ := run_acc ts lexErr (accInv_new hf) hts hb
  exact ⟨hinv.facts, hreach, chain_zip b.parents b.cur b.nsStack hinv.chain⟩

end XotModel.Accepted

/-! ## The xml:id values

  `DuplicateId` is raised otherwise: the builder's `seen_ids` holds every xml:id value of the
  nodes built so far, and no value occurs twice among them.
-/

namespace XotModel.Accepted

open XotModel BuilderCases

/-- The xml:id value a node carries itself (by the name id of `xml:id`, no tables needed). -/
def idOf : Value → List Str
  | .attribute n val => if n == Env.xmlIdName then [val] else []
  | _ => []

mutual
def idVals : Tree → List Str
  | .node v ks => idOf v ++ idValsList ks
def idValsList : List Tree → List Str
  | [] => []
  | k :: ks => idVals k ++ idValsList ks
end

theorem idValsList_eq (ks : List Tree) : idValsList ks = ks.flatMap idVals := by
  induction ks with
  | nil => rfl
  | cons k ks ih => simp [idValsList, ih]

theorem idValsList_reverse (ks : List Tree) : (idValsList ks.reverse).Perm (idValsList ks) := by
  rw [idValsList_eq, idValsList_eq]
  exact List.Perm.flatMap_right _ (List.reverse_perm ks)

theorem isXmlIdName_eq {env : Env} (hf : EnvFacts env) (n : Nat) : isXmlIdName env n = (n == Env.xmlIdName) := by
  by_cases hn : n = Env.xmlIdName
  · subst hn
    show ((env.names.getD Env.xmlIdName ([], 0)).2 == Env.xmlNamespace &&
      (env.names.getD Env.xmlIdName ([], 0)).1 == ['i', 'd']) = (Env.xmlIdName == Env.xmlIdName)
    rw [hf.id1]; rfl
  · have hb : (n == Env.xmlIdName) = false := by simpa using hn
    rw [hb]
    cases hc : isXmlIdName env n with
    | false => rfl
    | true =>
      exfalso
      simp only [isXmlIdName, Bool.and_eq_true, beq_iff_eq] at hc
      apply hn
      have hlt : n < env.names.length := EnvFacts.name_lt_of_ne (by rw [hc.2]; simp)
      apply (List.getD_inj (fallback := (([], 0) : Str × Nat)) hlt hf.names_len hf.nNodup).mp
      show env.names.getD n ([], 0) = env.names.getD Env.xmlIdName ([], 0)
      rw [hf.id1]
      exact Prod.ext hc.2 hc.1

mutual
theorem xmlIdValues_eq {env : Env} (hf : EnvFacts env) : ∀ t : Tree, xmlIdValues env t = idVals t
  | .node v ks => by
    cases v <;> simp only [xmlIdValues, idVals, idOf, idsList_eq hf ks, isXmlIdName_eq hf]
theorem idsList_eq {env : Env} (hf : EnvFacts env) : ∀ ks : List Tree, xmlIdValues.idsList env ks = idValsList ks
  | [] => rfl
  | k :: ks => by rw [xmlIdValues.idsList, idValsList, xmlIdValues_eq hf k, idsList_eq hf ks]
end

/-- The xml:id values of all nodes built so far. -/
def allIds (frames : List Frame) : List Str := frames.flatMap (fun f => idValsList f.rkids)

/-- The xml:id values of the nodes built so far are pairwise different and all in the builder's `seen_ids`. -/
structure IdInv (b : Builder) : Prop where
  nodup : (allIds (b.cur :: b.parents)).Nodup
  seen : ∀ v ∈ allIds (b.cur :: b.parents), v ∈ b.seenIds

theorem idInv_new (env : Env) : IdInv (Builder.new env) :=
  ⟨by simp [allIds, Builder.new, idValsList], fun v hv => by simp [allIds, Builder.new, idValsList] at hv⟩

theorem allIds_cons (f : Frame) (rest : List Frame) : allIds (f :: rest) = idValsList f.rkids ++ allIds rest := by
  simp [allIds]

/-- Same ids up to order, same `seen_ids`: the invariant carries over. -/
theorem IdInv.of_perm {b b' : Builder} (h : IdInv b)
    (hp : (allIds (b'.cur :: b'.parents)).Perm (allIds (b.cur :: b.parents))) (hs : b'.seenIds = b.seenIds) :
    IdInv b' :=
  ⟨hp.nodup_iff.mpr h.nodup, fun v hv => by rw [hs]; exact h.seen v (hp.mem_iff.mp hv)⟩

theorem addText_ids (b : Builder) (c : Str) :
    allIds ((b.addText c).1.cur :: (b.addText c).1.parents) = allIds (b.cur :: b.parents) ∧
      (b.addText c).1.seenIds = b.seenIds := by
  unfold Builder.addText
  split
  · next s ks more hk =>
    refine ⟨?_, rfl⟩
    simp only [allIds_cons, hk, idValsList, idVals, idOf]
  · exact ⟨by simp only [allIds_cons, idValsList, idVals, idOf, List.nil_append], rfl⟩

theorem addLeaf_ids (b : Builder) (v : Value) (hv : idOf v = []) :
    allIds ((b.addLeaf v).1.cur :: (b.addLeaf v).1.parents) = allIds (b.cur :: b.parents) ∧
      (b.addLeaf v).1.seenIds = b.seenIds := by
  unfold Builder.addLeaf
  exact ⟨by simp only [allIds_cons, idValsList, idVals, hv, List.nil_append], rfl⟩

theorem leave_ids {b b' : Builder} (node : Path) (sp : StrSpan) (hk : idOf b.cur.value = [])
    (hr : b.leave node sp = .ok b') :
    (allIds (b'.cur :: b'.parents)).Perm (allIds (b.cur :: b.parents)) ∧ b'.seenIds = b.seenIds := by
  obtain ⟨p, rest, hpar, rfl⟩ := Builder.leave_ok hr
  refine ⟨?_, rfl⟩
  rw [hpar]
  simp only [allIds_cons, idValsList, Frame.close, idVals, hk, List.nil_append, List.append_assoc]
  exact List.Perm.append (idValsList_reverse _) (List.Perm.refl _)

/-- The attribute loop: `others` are the ids of the nodes outside the element being opened. -/
theorem addAttributes_ids (stack : NsStack) (node : Path) (others : List Str) (abs : List AttributeBuilder)
    (st st' : AttrLoop) (h1 : (idValsList st.rkids ++ others).Nodup)
    (h2 : ∀ v ∈ idValsList st.rkids ++ others, v ∈ st.seenIds) (h : addAttributes stack node st abs = .ok st') :
    (idValsList st'.rkids ++ others).Nodup ∧ (∀ v ∈ idValsList st'.rkids ++ others, v ∈ st'.seenIds) := by
  refine addAttributes_ok_induct (P := fun s => (idValsList s.rkids ++ others).Nodup ∧
    ∀ v ∈ idValsList s.rkids ++ others, v ∈ s.seenIds) ?_ ⟨h1, h2⟩ h
  intro s ab env1 nameId _ _ _ hdup ⟨g1, g2⟩
  simp only [AttrLoop.push, idValsList, idVals, idOf, List.append_nil]
  by_cases hid : (nameId == Env.xmlIdName) = true
  · simp only [hid, if_true, List.cons_append, List.nodup_cons, List.mem_cons]
    exact ⟨⟨fun hm => hdup hid (g2 _ hm), g1⟩, fun v hv => hv.imp id (g2 v)⟩
  · simp only [hid, Bool.false_eq_true, if_false, List.nil_append]
    exact ⟨g1, g2⟩

theorem idValsList_namespaceKids (decls : List (Nat × Nat)) : idValsList (namespaceKids decls) = [] := by
  rw [idValsList_eq, List.flatMap_eq_nil_iff]
  intro k hk
  simp only [namespaceKids, List.mem_reverse, List.mem_map] at hk
  obtain ⟨d, _, rfl⟩ := hk
  rfl

theorem openElement_ids {b b' : Builder} (h : IdInv b) (hr : b.openElement = .ok b') : IdInv b' := by
  obtain ⟨eb, env1, nameId, st, _, _, hst, rfl⟩ := Builder.openElement_ok_inv hr
  obtain ⟨r1, r2⟩ := addAttributes_ids _ _ (allIds (b.cur :: b.parents)) eb.attributes _ st
    (by simp only [idValsList_namespaceKids, List.nil_append]; exact h.nodup)
    (by simp only [idValsList_namespaceKids, List.nil_append]; exact h.seen) hst
  exact ⟨by rw [allIds_cons]; exact r1, by rw [allIds_cons]; exact r2⟩

theorem kind_idOf {v : Value} (h : v.isElement = true ∨ v = .document) : idOf v = [] := by
  rcases h with h | rfl
  · obtain ⟨id, rfl⟩ := Repair.eq_element_of_isElement h
    rfl
  · rfl

theorem step_ids {b b' : Builder} (t : Token) (ha : AccInv b) (h : IdInv b) (hr : b.step t = .ok b') : IdInv b' := by
  have hleave : ∀ (b1 b2 : Builder) (node : Path) (sp : StrSpan), b1.leave node sp = .ok b2 → IdInv b →
      b1.cur = b.cur → b1.parents = b.parents → b1.seenIds = b.seenIds → IdInv b2 := by
    intro b1 b2 node sp hl hi h1 h2 h3
    obtain ⟨p1, p2⟩ := leave_ids node sp (by rw [h1]; exact kind_idOf ha.chain.1.kind) hl
    exact hi.of_perm (by rw [h1, h2] at p1; exact p1) (by rw [p2, h3])
  refine Builder.step_ok_cases (motive := fun _ b' => IdInv b') hr ?_ ?_ ?_ ?_ ?_ ?_ ?_ ?_ ?_ ?_ ?_ ?_
  · intro _ _ _ _ _ _ hp
    obtain ⟨_, _, _, _, _, _, rfl⟩ := Builder.prefix_ok_inv hp
    exact ⟨h.nodup, h.seen⟩
  · intro _ _ _ _ _ hp
    obtain ⟨_, _, _, _, _, rfl⟩ := Builder.attribute_ok_inv hp
    exact ⟨h.nodup, h.seen⟩
  · intro _ content _
    obtain ⟨e1, e2⟩ := addText_ids b content
    exact h.of_perm (.of_eq e1) e2
  · exact fun _ _ _ => h
  · intro s _ _
    obtain ⟨e1, e2⟩ := addText_ids b (replaceCr (replaceCrLf s.text))
    exact h.of_perm (.of_eq e1) e2
  · exact fun _ _ _ => ⟨h.nodup, h.seen⟩
  · exact fun _ hp => openElement_ids h hp
  · intro _ _ _ hp
    obtain ⟨_, _, _, _, ⟨_, _, hp⟩ | ⟨_, hp⟩⟩ := Builder.closeElement_ok_inv hp
    · exact hleave _ _ _ _ hp h rfl rfl rfl
    · exact hleave _ _ _ _ hp h rfl rfl rfl
  · intro sp b1 hb hp
    obtain ⟨id, hid⟩ := openElement_cur hb
    have he : b1.cur.value.isElement = true := by rw [hid]; rfl
    simp only [Builder.closeImmediate, if_pos he] at hp
    obtain ⟨p1, p2⟩ := leave_ids _ sp (by rw [hid]; rfl) hp
    exact (openElement_ids h hb).of_perm p1 p2
  · intro s _
    obtain ⟨e1, e2⟩ := addLeaf_ids b (.comment (normalizeLineEnds s.text)) rfl
    exact h.of_perm (.of_eq e1) e2
  · intro tg c _ _
    obtain ⟨e1, e2⟩ := addLeaf_ids { b with env := (b.env.internName tg.text Env.noNamespace).1 }
      (.pi (b.env.internName tg.text Env.noNamespace).2 (c.map fun c => normalizeLineEnds c.text)) rfl
    exact h.of_perm (.of_eq e1) e2
  · exact fun _ _ _ _ => h

theorem run_ids (ts : List Token) (lexErr : Option Nat) {b b' : Builder} (ha : AccInv b) (h : IdInv b)
    (hts : ∀ t ∈ ts, t.accLex = true) (hr : b.run ts lexErr = .ok b') : IdInv b' := by
  refine (Builder.run_ok_induct (P := fun _ b1 => AccInv b1 ∧ IdInv b1) ⟨ha, h⟩ ?_ hr).2
  intro done t b1 b2 hpre hp hs
  exact ⟨(step_acc t hp.1 (hts t (mem_of_snoc_prefix hpre)) hs).1, step_ids t hp.1 hp.2 hs⟩

theorem chain_ids {env : Env} : ∀ (rest : List Frame) (f : Frame) (st : NsStack),
    ChainAcc env (f :: rest) st → (idVals (zipInto f.close rest)).Perm (allIds (f :: rest))
  | [], f, st, hc => by
    simp only [zipInto, Frame.close, idVals, kind_idOf hc.1.kind, List.nil_append, allIds_cons, allIds,
      List.flatMap_nil, List.flatMap_cons, List.append_nil]
    exact idValsList_reverse _
  | p :: rest, f, st, hc => by
    obtain ⟨hf, hp, hrest⟩ := hc
    have e : zipInto f.close (p :: rest) = zipInto (Frame.close { p with rkids := f.close :: p.rkids }) rest := rfl
    rw [e]
    refine (chain_ids rest _ (parentStack f st) ⟨hp.addKid hf.close (kind_nsPair hf.kind), hrest⟩).trans ?_
    simp only [allIds_cons, idValsList, Frame.close, idVals, kind_idOf hf.kind, List.nil_append, List.append_assoc]
    exact List.Perm.append (idValsList_reverse _) (List.Perm.refl _)

/-- The xml:id values of an accepted tree are pairwise different. -/
theorem build_ids {m : Mode} {len : Nat} {env : Env} {ts : List Token} {lexErr : Option Nat} {p : Parsed}
    (hf : EnvFacts env) (hts : ∀ t ∈ ts, t.accLex = true) (h : build m len env ts lexErr = .ok p) :
    (xmlIdValues p.env p.tree).Nodup := by
  obtain ⟨hfp, _, _⟩ := build_acc hf hts h
  rw [xmlIdValues_eq hfp]
  obtain ⟨b, hb, rfl, _⟩ := build_ok_parsed h
  obtain ⟨hinv, _⟩ := run_acc ts lexErr (accInv_new hf) hts hb
  have hid := run_ids ts lexErr (accInv_new hf) (idInv_new env) hts hb
  exact (chain_ids b.parents b.cur b.nsStack hinv.chain).nodup_iff.mpr hid.nodup

end XotModel.Accepted
