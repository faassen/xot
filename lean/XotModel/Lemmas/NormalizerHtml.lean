/-
  The HTML5 serialiser with a normalizer (`Model/Normalizer.lean`: `renderHtmlN` … `serializeHtmlStringN`).

  * `N = id` is `Model/Html5.lean` (`serializeHtmlStringN_id`).
  * The normalizer is a pre-map (`serializeHtmlStringN_norm`): serialising WITH `N` = serialising
    `t.mapText N` without one, provided
      - `N` fixes the namespace URIs of the serialiser's table (they are written through
        `serialize_attribute_html(.., normalizer)`; MathML / SVG / XHTML URIs registered by `xot.html5()` included),
      - `BoolKept`: `N` does not change the outcome of the boolean-attribute test, which compares the local
        name with the value AS STORED (`value.to_ascii_lowercase()`, not normalised),
      - `SpaceKept` (only with indentation): as for XML, `xml:space` is read as stored.
  * For EVERY `N`, without any of these: what is written for character data / an attribute value / a namespace
    URI is the escaping function applied to the normalizer's result (`htmlTextValueN_eq`, `c19n_attr`,
    `c19n_attr_xmlns`), so markup characters produced by the normalizer are escaped.
-/
import XotModel.Lemmas.NormalizerXml
import XotModel.Lemmas.Html5Esc
import XotModel.Lemmas.Html5PrettyTrace

namespace XotModel
open Gen

variable (N : Str → Str)

/-! ### What is written, for every normalizer -/

theorem htmlTextValueN_eq (c : HtmlCtx) (parent : Option Tree) (text : Str) :
    htmlTextValueN N c parent text = htmlTextValue c parent (N text) := by
  unfold htmlTextValueN htmlTextValue
  rfl

theorem htmlAttrValueN_eq (c : HtmlCtx) (name : Nat) (value : Str) :
    htmlAttrValueN N c name value = htmlAttrValue c name (N value) := rfl

/-- The attribute token under a normalizer: the bare name (decided on the value as stored) or
    `name="v"` with `v` the escaped NORMALISED value. -/
theorem c19n_attr (c : HtmlCtx) (s s' : HState) (node : Tree) (parent : Option Tree) (name : Nat)
    (value : Str) (tok : OutputToken)
    (h : renderHtmlN N c s node parent (.attribute name value) = .ok (s', tok)) :
    ∃ full, s.stack.attributeFullname c.env name = .ok full ∧ tok.space = true ∧
      ((tok.text = full ∧ asciiLower (c.env.localName name) = asciiLower value) ∨
       (tok.text = full ++ ['=','"'] ++ htmlAttrValue c name (N value) ++ ['"'] ∧
        '"' ∉ htmlAttrValue c name (N value) ∧ refsOnly knownRefs (htmlAttrValue c name (N value)) = true)) := by
  simp only [renderHtmlN] at h
  cases hf : s.stack.attributeFullname c.env name with
  | error e => rw [hf] at h; cases h
  | ok full =>
    rw [hf] at h
    simp only at h
    refine ⟨full, rfl, ?_⟩
    cases hb : htmlIsBooleanAttr c s.stack name value with
    | error e => rw [hb] at h; cases h
    | ok b =>
      rw [hb] at h
      cases b with
      | true =>
        simp only [Outcome.ok.injEq, Prod.mk.injEq] at h
        obtain ⟨_, rfl⟩ := h
        refine ⟨rfl, Or.inl ⟨List.append_nil _, ?_⟩⟩
        unfold htmlIsBooleanAttr at hb
        split at hb
        · split at hb
          · simp only [Except.ok.injEq, Bool.and_eq_true, beq_iff_eq] at hb
            exact hb.2
          · cases hb
        · cases hb
      | false =>
        simp only [Outcome.ok.injEq, Prod.mk.injEq] at h
        obtain ⟨_, rfl⟩ := h
        refine ⟨rfl, Or.inr ⟨by simp [fmt, fmtHtmlAttribute, htmlAttrValueN_eq], ?_⟩⟩
        unfold htmlAttrValue
        split
        · exact ⟨(serializeAttribute_safe _).1, (serializeAttribute_safe _).2.2⟩
        · exact serializeAttributeHtml_safe _

/-- The `xmlns` token under a normalizer: the URI is normalised, then escaped. -/
theorem c19n_attr_xmlns (c : HtmlCtx) (s s' : HState) (node : Tree) (parent : Option Tree) (p ns : Nat)
    (tok : OutputToken) (h : renderHtmlN N c s node parent (.pfx p ns) = .ok (s', tok)) :
    tok.text = [] ∨
    ∃ v, (tok.text = ['x','m','l','n','s','=','"'] ++ v ++ ['"'] ∨
          tok.text = ['x','m','l','n','s',':'] ++ c.env.prefixStr p ++ ['=','"'] ++ v ++ ['"']) ∧
      v = serializeAttributeHtml (N (c.env.namespaceStr ns)) ∧ '"' ∉ v ∧ refsOnly knownRefs v = true := by
  simp only [renderHtmlN] at h
  split at h
  · split at h
    · simp only [Outcome.ok.injEq, Prod.mk.injEq] at h
      obtain ⟨_, rfl⟩ := h
      left; rfl
    · split at h
      · simp only [Outcome.ok.injEq, Prod.mk.injEq] at h
        obtain ⟨_, rfl⟩ := h
        exact Or.inr ⟨serializeAttributeHtml (N (c.env.namespaceStr ns)),
          Or.inl rfl, rfl, serializeAttributeHtml_safe _⟩
      · simp only [Outcome.ok.injEq, Prod.mk.injEq] at h
        obtain ⟨_, rfl⟩ := h
        exact Or.inr ⟨serializeAttributeHtml (N (c.env.namespaceStr ns)),
          Or.inr (by simp [fmt, fmtHtmlXmlnsPrefix, serializeAttributeHtmlN]), rfl, serializeAttributeHtml_safe _⟩
  · cases h

/-! ### The write loops are `callsLoop` of their steps -/

theorem htmlTokenCalls_flatten (k : OutputToken) : (htmlTokenCalls k).flatten = htmlTokenBytes k := by
  unfold htmlTokenCalls htmlTokenBytes
  cases k.space <;> simp

theorem htmlCallsN_eq (N : Str → Str) (c : HtmlCtx) (t : Tree) (s : HState) (outs : List (Path × Output)) :
    ((callsLoop (htmlStepCallsN N c t) s outs).1.flatten, (callsLoop (htmlStepCallsN N c t) s outs).2)
      = writeHtmlGoN N c t s outs := by
  induction outs generalizing s with
  | nil => simp [callsLoop, writeHtmlGoN]
  | cons po rest ih =>
    obtain ⟨p, o⟩ := po
    simp only [callsLoop, writeHtmlGoN, htmlStepCallsN]
    cases hr : renderHtmlAtN N c t s p o with
    | ok v =>
      obtain ⟨s', tok⟩ := v
      simp only [List.flatten_append, htmlTokenCalls_flatten]
      rw [← ih s']
    | err e => simp
    | panic => simp

theorem htmlPrettyCallsN_eq (N : Str → Str) (c : HtmlCtx) (sup : List Nat) (t : Tree) (ps : PStack)
    (s : HState) (outs : List (Path × Output)) :
    ((callsLoop (htmlPrettyStepCallsN N c sup t) (ps, s) outs).1.flatten,
      (callsLoop (htmlPrettyStepCallsN N c sup t) (ps, s) outs).2)
      = writeHtmlPrettyGoN N c sup t ps s outs := by
  induction outs generalizing ps s with
  | nil => simp [callsLoop, writeHtmlPrettyGoN]
  | cons po rest ih =>
    obtain ⟨p, o⟩ := po
    simp only [callsLoop, writeHtmlPrettyGoN, htmlPrettyStepCallsN]
    cases hp : prettifyHtmlAt c sup t ps p o with
    | mk ps' r =>
      obtain ⟨ind, nl⟩ := r
      simp only []
      cases hr : renderHtmlAtN N c t s p o with
      | ok v =>
        obtain ⟨s', tok⟩ := v
        simp only [List.flatten_append, htmlTokenCalls_flatten, Writer.flatten_ite_singleton, List.append_assoc]
        rw [← ih ps' s']
      | err e => simp only [Writer.flatten_ite_singleton]
      | panic => simp only [Writer.flatten_ite_singleton]

/-! ### `N = id` -/

theorem renderHtmlN_id (c : HtmlCtx) (s : HState) (node : Tree) (parent : Option Tree) (o : Output) :
    renderHtmlN id c s node parent o = renderHtml c s node parent o := by
  cases o <;> rfl

theorem renderHtmlAtN_id (c : HtmlCtx) (t : Tree) (s : HState) (path : Path) (o : Output) :
    renderHtmlAtN id c t s path o = renderHtmlAt c t s path o := by
  unfold renderHtmlAtN renderHtmlAt
  cases t.at? path with
  | none => rfl
  | some node => exact renderHtmlN_id c s node _ o

theorem renderHtmlAllN_id (c : HtmlCtx) (t : Tree) (s : HState) (outs : List (Path × Output)) :
    renderHtmlAllN id c t s outs = renderHtmlAll c t s outs := by
  induction outs generalizing s with
  | nil => rfl
  | cons po rest ih =>
    obtain ⟨p, o⟩ := po
    simp only [renderHtmlAllN, renderHtmlAll, renderHtmlAtN_id]
    cases renderHtmlAt c t s p o with
    | err e => rfl
    | panic => rfl
    | ok r =>
      simp only [ih]
      cases renderHtmlAll c t r.1 rest <;> rfl

theorem writeHtmlGoN_id (c : HtmlCtx) (t : Tree) (s : HState) (outs : List (Path × Output)) :
    writeHtmlGoN id c t s outs = writeHtmlGo c t s outs := by
  induction outs generalizing s with
  | nil => rfl
  | cons po rest ih =>
    obtain ⟨p, o⟩ := po
    simp only [writeHtmlGoN, writeHtmlGo, renderHtmlAtN_id]
    cases renderHtmlAt c t s p o with
    | err e => rfl
    | panic => rfl
    | ok r => simp only [ih]

theorem writeHtmlPrettyGoN_id (c : HtmlCtx) (sup : List Nat) (t : Tree) (ps : PStack) (s : HState)
    (outs : List (Path × Output)) :
    writeHtmlPrettyGoN id c sup t ps s outs = writeHtmlPrettyGo c sup t ps s outs := by
  induction outs generalizing ps s with
  | nil => rfl
  | cons po rest ih =>
    obtain ⟨p, o⟩ := po
    simp only [writeHtmlPrettyGoN, writeHtmlPrettyGo, renderHtmlAtN_id]
    cases renderHtmlAt c t s p o with
    | err e => rfl
    | panic => rfl
    | ok r => simp only [ih]

theorem serializeHtmlWriteN_id (env : Env) (p : HtmlParams) (t : Tree) (start : Path) :
    serializeHtmlWriteN id env p t start = serializeHtmlWrite env p t start := by
  unfold serializeHtmlWriteN serializeHtmlWrite
  cases p.indentation with
  | none => simp only [writeHtmlGoN_id]
  | some sup => simp only [writeHtmlPrettyGoN_id]

theorem serializeHtmlStringN_id (env : Env) (p : HtmlParams) (t : Tree) (start : Path) :
    serializeHtmlStringN id env p t start = serializeHtmlString env p t start := by
  unfold serializeHtmlStringN serializeHtmlString
  rw [serializeHtmlWriteN_id]

/-! ### The normalizer as a pre-map -/

/-- The boolean-attribute test has the same outcome on the normalised value. -/
def Output.boolKept (c : HtmlCtx) : Output → Prop
  | .attribute name v =>
    c.h.isHtmlNamespace (c.env.nsOfName name) = true →
      (asciiLower (c.env.localName name) == asciiLower (N v)) = (asciiLower (c.env.localName name) == asciiLower v)
  | _ => True

def BoolKept (c : HtmlCtx) (outs : List (Path × Output)) : Prop := ∀ po ∈ outs, po.2.boolKept N c

theorem parentElementName_mapText (parent : Option Tree) :
    parentElementName (parent.map (Tree.mapText N)) = parentElementName parent := by
  cases parent with
  | none => rfl
  | some par =>
    simp only [Option.map_some, parentElementName, mapText_value]
    cases par.value <;> rfl

theorem htmlTextValue_mapText (c : HtmlCtx) (parent : Option Tree) (text : Str) :
    htmlTextValue c (parent.map (Tree.mapText N)) text = htmlTextValue c parent text := by
  unfold htmlTextValue
  rw [parentElementName_mapText]

theorem htmlPrefixHidden_mapText (c : HtmlCtx) (node : Tree) (en p ns : Nat) :
    htmlPrefixHidden c (node.mapText N) en p ns = htmlPrefixHidden c node en p ns := by
  simp [htmlPrefixHidden, mapText_attrs, List.any_map, Function.comp_def]

theorem htmlDeclarations_mapText (node : Tree) (ns : Nat) :
    htmlDeclarations (node.mapText N) ns = htmlDeclarations node ns := by
  simp [htmlDeclarations]

theorem htmlIsBooleanAttr_kept (c : HtmlCtx) (s : FStack) (name : Nat) (v : Str)
    (h : Output.boolKept N c (.attribute name v)) :
    htmlIsBooleanAttr c s name (N v) = htmlIsBooleanAttr c s name v := by
  unfold htmlIsBooleanAttr
  by_cases hn : c.h.isHtmlNamespace (c.env.nsOfName name) = true
  · simp only [hn, if_true, h hn]
  · simp [hn]

theorem renderHtmlN_norm (c : HtmlCtx) (s : HState) (node : Tree) (parent : Option Tree) (o : Output)
    (hns : ∀ ns, N (c.env.namespaceStr ns) = c.env.namespaceStr ns) (hb : o.boolKept N c) :
    renderHtmlN N c s node parent o =
      renderHtml c s (node.mapText N) (parent.map (Tree.mapText N)) (o.mapText N) := by
  cases o with
  | startTagOpen name =>
    show _ = renderHtml c s _ _ (.startTagOpen name)
    rw [renderHtmlN, renderHtml]
    simp only [htmlDeclarations_mapText, serializeAttributeHtmlN, hns]
    rfl
  | pfx p ns =>
    show _ = renderHtml c s _ _ (.pfx p ns)
    rw [renderHtmlN, renderHtml, mapText_value]
    cases node.value with
    | element en => simp only [Value.mapText, htmlPrefixHidden_mapText, serializeAttributeHtmlN, hns]
    | _ => rfl
  | text x =>
    show _ = renderHtml c s _ _ (.text (N x))
    rw [renderHtmlN, renderHtml, htmlTextValueN_eq, htmlTextValue_mapText]
  | «attribute» name value =>
    show _ = renderHtml c s _ _ (.attribute name (N value))
    rw [renderHtmlN, renderHtml, htmlIsBooleanAttr_kept N c _ _ _ hb]
    rfl
  | _ => rfl

theorem renderHtmlAtN_norm (c : HtmlCtx) (t : Tree) (s : HState) (path : Path) (o : Output)
    (hns : ∀ ns, N (c.env.namespaceStr ns) = c.env.namespaceStr ns) (hb : o.boolKept N c) :
    renderHtmlAtN N c t s path o = renderHtmlAt c (t.mapText N) s path (o.mapText N) := by
  unfold renderHtmlAtN renderHtmlAt
  rw [mapText_at?, mapText_parentAt?]
  cases t.at? path with
  | none => rfl
  | some node => exact renderHtmlN_norm N c s node _ o hns hb

theorem renderHtmlAllN_norm (c : HtmlCtx) (t : Tree) (s : HState) (outs : List (Path × Output))
    (hns : ∀ ns, N (c.env.namespaceStr ns) = c.env.namespaceStr ns) (hb : BoolKept N c outs) :
    renderHtmlAll c (t.mapText N) s (outs.map (tagMapText N)) =
      (renderHtmlAllN N c t s outs).mapOk (List.map (tokMapText N)) := by
  induction outs generalizing s with
  | nil => rfl
  | cons po rest ih =>
    obtain ⟨p, o⟩ := po
    obtain ⟨h1, h2⟩ := List.forall_mem_cons.mp hb
    simp only [List.map_cons, tagMapText, renderHtmlAll, renderHtmlAllN, ← renderHtmlAtN_norm N c t s p o hns h1]
    cases renderHtmlAtN N c t s p o with
    | err e => rfl
    | panic => rfl
    | ok r =>
      obtain ⟨s', tok⟩ := r
      simp only [ih s' h2]
      cases renderHtmlAllN N c t s' rest <;> rfl

theorem writeHtmlGoN_norm (c : HtmlCtx) (t : Tree) (s : HState) (outs : List (Path × Output))
    (hns : ∀ ns, N (c.env.namespaceStr ns) = c.env.namespaceStr ns) (hb : BoolKept N c outs) :
    writeHtmlGo c (t.mapText N) s (outs.map (tagMapText N)) = writeHtmlGoN N c t s outs := by
  rw [← writeHtmlGoN_id, ← htmlCallsN_eq, ← htmlCallsN_eq,
    callsLoop_congr_map (tagMapText N) (htmlStepCallsN N c t) (htmlStepCallsN id c (t.mapText N)) outs
      (fun po hpo s => by
        simp only [htmlStepCallsN, tagMapText, renderHtmlAtN_id, renderHtmlAtN_norm N c t s _ _ hns (hb po hpo)])]

theorem htmlHasInlineChild_mapText (c : HtmlCtx) (n : Tree) :
    htmlHasInlineChild c (n.mapText N) = htmlHasInlineChild c n := by
  simp only [htmlHasInlineChild, mapText_normalKids, List.any_map]
  congr 1
  funext k
  simp only [Function.comp_def, mapText_value]
  cases k.value <;> rfl

theorem prettifyHtml_mapText (c : HtmlCtx) (sup : List Nat) (ps : PStack) (node : Tree) (o : Output)
    (h : elementSpace (node.mapText N) = elementSpace node) :
    prettifyHtml c sup ps (node.mapText N) (o.mapText N) = prettifyHtml c sup ps node o := by
  rw [prettifyHtml_eq_with]
  exact prettifyWith_mapText N _ _ ps node o (htmlHasInlineChild_mapText N c node) h

theorem prettifyHtmlAt_mapText (c : HtmlCtx) (sup : List Nat) (t : Tree) (ps : PStack) (path : Path) (o : Output)
    (h : ∀ n, t.at? path = some n → elementSpace (n.mapText N) = elementSpace n) :
    prettifyHtmlAt c sup (t.mapText N) ps path (o.mapText N) = prettifyHtmlAt c sup t ps path o := by
  unfold prettifyHtmlAt
  rw [mapText_at?]
  cases hn : t.at? path with
  | none => rfl
  | some node => exact prettifyHtml_mapText N c sup ps node o (h node hn)

theorem writeHtmlPrettyGoN_norm (c : HtmlCtx) (sup : List Nat) (t : Tree) (ps : PStack) (s : HState)
    (outs : List (Path × Output))
    (hns : ∀ ns, N (c.env.namespaceStr ns) = c.env.namespaceStr ns) (hb : BoolKept N c outs)
    (hs : SpaceKept N t outs) :
    writeHtmlPrettyGo c sup (t.mapText N) ps s (outs.map (tagMapText N)) =
      writeHtmlPrettyGoN N c sup t ps s outs := by
  rw [← writeHtmlPrettyGoN_id, ← htmlPrettyCallsN_eq, ← htmlPrettyCallsN_eq,
    callsLoop_congr_map (tagMapText N) (htmlPrettyStepCallsN N c sup t)
      (htmlPrettyStepCallsN id c sup (t.mapText N)) outs
      (fun po hpo st => by
        simp only [htmlPrettyStepCallsN, tagMapText, renderHtmlAtN_id,
          renderHtmlAtN_norm N c t st.2 _ _ hns (hb po hpo), prettifyHtmlAt_mapText N c sup t st.1 _ _ (hs po hpo)])]

theorem htmlInitState_mapText (c : HtmlCtx) (t : Tree) (start : Path) :
    htmlInitState c (t.mapText N) start = htmlInitState c t start := by
  unfold htmlInitState
  rw [mapText_at?, mapText_namespacesInScope]
  cases t.at? start with
  | none => rfl
  | some n =>
    simp only [Option.map_some, mapText_value]
    cases n.value <;> rfl

/-- **The normalizer is a pre-map** (HTML, write level). -/
theorem serializeHtmlWriteN_norm (env : Env) (p : HtmlParams) (t : Tree) (start : Path)
    (hns : ∀ ns, N ((htmlCtx env p).env.namespaceStr ns) = (htmlCtx env p).env.namespaceStr ns)
    (hb : BoolKept N (htmlCtx env p) (genOutputs t start))
    (hs : p.indentation ≠ none → SpaceKept N t (genOutputs t start)) :
    serializeHtmlWriteN N env p t start = serializeHtmlWrite env p (t.mapText N) start := by
  unfold serializeHtmlWriteN serializeHtmlWrite
  simp only [genOutputs_mapText, htmlInitState_mapText]
  cases hi : p.indentation with
  | none => simp only [writeHtmlGoN_norm N _ t _ _ hns hb]
  | some sup =>
    have hs' := hs (by simp [hi])
    simp only [writeHtmlPrettyGoN_norm N _ sup t _ _ _ hns hb hs']

theorem serializeHtmlStringN_norm (env : Env) (p : HtmlParams) (t : Tree) (start : Path)
    (hns : ∀ ns, N ((htmlCtx env p).env.namespaceStr ns) = (htmlCtx env p).env.namespaceStr ns)
    (hb : BoolKept N (htmlCtx env p) (genOutputs t start))
    (hs : p.indentation ≠ none → SpaceKept N t (genOutputs t start)) :
    serializeHtmlStringN N env p t start = serializeHtmlString env p (t.mapText N) start := by
  unfold serializeHtmlStringN serializeHtmlString
  rw [serializeHtmlWriteN_norm N env p t start hns hb hs]

/-! ### The normalizer never decides about success -/

/-- One `render_output` call: same outcome kind, same error, same next state under every normalizer
    (only the token text depends on it). -/
theorem renderHtmlN_outcome (c : HtmlCtx) (s : HState) (node : Tree) (parent : Option Tree) (o : Output) :
    (renderHtmlN N c s node parent o).mapOk Prod.fst = (renderHtml c s node parent o).mapOk Prod.fst := by
  -- `mapOk` is pushed through the tests first: the tokens, which differ, never meet
  cases o with
  | startTagOpen name =>
    rw [renderHtmlN, renderHtml]
    simp only [apply_ite (Outcome.mapOk Prod.fst), Outcome.mapOk_ok]
    cases FStack.elementFullname c.env (s.stack.push (htmlDeclarations node (c.env.nsOfName name))) name <;> rfl
  | pfx p ns =>
    rw [renderHtmlN, renderHtml]
    cases node.value with
    | element en => simp only [apply_ite (Outcome.mapOk Prod.fst), Outcome.mapOk_ok]
    | _ => rfl
  | «attribute» name value =>
    rw [renderHtmlN, renderHtml]
    cases FStack.attributeFullname c.env s.stack name with
    | error e => rfl
    | ok full =>
      cases htmlIsBooleanAttr c s.stack name value with
      | error e => rfl
      | ok b => cases b <;> simp only [Outcome.mapOk_ok]
  | text x => simp only [renderHtmlN, renderHtml, Outcome.mapOk_ok]
  | _ => rfl

theorem renderHtmlAtN_outcome (c : HtmlCtx) (t : Tree) (s : HState) (path : Path) (o : Output) :
    (renderHtmlAtN N c t s path o).mapOk Prod.fst = (renderHtmlAt c t s path o).mapOk Prod.fst := by
  unfold renderHtmlAtN renderHtmlAt
  cases t.at? path with
  | none => rfl
  | some node => exact renderHtmlN_outcome N c s node _ o

theorem writeHtmlGoN_outcome (c : HtmlCtx) (t : Tree) (s : HState) (outs : List (Path × Output)) :
    (writeHtmlGoN N c t s outs).2 = (writeHtmlGo c t s outs).2 := by
  rw [← writeHtmlGoN_id, ← htmlCallsN_eq, ← htmlCallsN_eq]
  refine callsLoop_snd_congr _ _ outs (fun po _ s => ?_) s
  simp only [htmlStepCallsN, renderHtmlAtN_id]
  rcases Outcome.mapOk_fst_eq (renderHtmlAtN_outcome N c t s po.1 po.2) with
    ⟨s1, k1, k2, h1, h2⟩ | ⟨e, h1, h2⟩ | ⟨h1, h2⟩ <;> rw [h1, h2]

theorem writeHtmlPrettyGoN_outcome (c : HtmlCtx) (sup : List Nat) (t : Tree) (ps : PStack) (s : HState)
    (outs : List (Path × Output)) :
    (writeHtmlPrettyGoN N c sup t ps s outs).2 = (writeHtmlPrettyGo c sup t ps s outs).2 := by
  rw [← writeHtmlPrettyGoN_id, ← htmlPrettyCallsN_eq, ← htmlPrettyCallsN_eq]
  refine callsLoop_snd_congr _ _ outs (fun po _ st => ?_) (ps, s)
  simp only [htmlPrettyStepCallsN, renderHtmlAtN_id]
  rcases Outcome.mapOk_fst_eq (renderHtmlAtN_outcome N c t st.2 po.1 po.2) with
    ⟨s1, k1, k2, h1, h2⟩ | ⟨e, h1, h2⟩ | ⟨h1, h2⟩ <;> rw [h1, h2]

/-- Under EVERY normalizer the call ends as it ends without one: success, the same error, never a panic. -/
theorem serializeHtmlWriteN_outcome (env : Env) (p : HtmlParams) (t : Tree) (start : Path) :
    (serializeHtmlWriteN N env p t start).2 = (serializeHtmlWrite env p t start).2 := by
  unfold serializeHtmlWriteN serializeHtmlWrite
  cases p.indentation with
  | none => exact writeHtmlGoN_outcome N _ t _ _
  | some sup => exact writeHtmlPrettyGoN_outcome N _ sup t _ _ _
end XotModel
