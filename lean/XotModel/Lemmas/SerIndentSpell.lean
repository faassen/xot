/-
  `prettyTree sup t` of a `Representable` document is `Representable`, and the indented spelling `spellNodeP`
  of `t` is the default spelling of `prettyTree sup t` up to the character data runs (`NSNode.Resp`): the indented
  output is read back as `prettyTree sup t`.
-/
import XotModel.Lemmas.SerIndentNode
import XotModel.Lemmas.RoundTripItems
import XotModel.Lemmas.RoundTripDenote
import XotModel.Lemmas.RepresentableEdit

/-! ## `prettyTree` stays in the round-trip domain

  The inserted nodes are non-empty text nodes of XML characters, they stand among the normal children, never
  next to another text node, and nothing else changes (values, declarations, attributes, `xml:id` values, the
  top level).
-/

namespace XotModel
open Gen

variable (env : Env) (sup : List Nat)

theorem prettyNode_value (ps : PStack) : ∀ (n : Tree), (prettyNode sup ps n).value = n.value
  | .node v ks => by
    cases v with
    | element name =>
      by_cases hc : (Tree.node (.element name) ks).firstChild?.isSome = true <;> simp [prettyNode, hc, Tree.value]
    | _ => rfl

theorem mem_wsNode {w : Str} {x : Tree} (h : x ∈ wsNode w) : x = .node (.text w) [] ∧ w ≠ [] := by
  unfold wsNode at h
  split at h
  · cases h
  · rename_i hw
    simp only [List.mem_singleton] at h
    exact ⟨h, by simpa using hw⟩

theorem wsNode_cases (w : Str) : wsNode w = [] ∨ wsNode w = [.node (.text w) []] := by
  unfold wsNode; split <;> simp

theorem mem_prettyKids {pc : PStack} {gap : Str} : ∀ {ks : List Tree} {x : Tree},
    x ∈ prettyNode.prettyKids sup pc gap ks → x ∈ wsNode gap ∨ ∃ k ∈ ks, x = prettyNode sup pc k
  | [], x, h => by cases h
  | k :: ks, x, h => by
    simp only [prettyNode.prettyKids, List.mem_append, List.mem_cons] at h
    rcases h with h | rfl | h
    · split at h
      · exact .inl h
      · cases h
    · exact .inr ⟨k, by simp, rfl⟩
    · rcases mem_prettyKids h with h | ⟨k', hk', rfl⟩
      · exact .inl h
      · exact .inr ⟨k', by simp [hk'], rfl⟩

theorem filterMap_prettyKids {α : Type} (g : Tree → Option α) (hg1 : ∀ pc k, g (prettyNode sup pc k) = g k)
    (hg2 : ∀ w, g (.node (.text w) []) = none) (pc : PStack) (gap : Str) : ∀ (ks : List Tree),
    (prettyNode.prettyKids sup pc gap ks).filterMap g = ks.filterMap g
  | [] => rfl
  | k :: ks => by
    have hws : (if k.value.isNormal then wsNode gap else []).filterMap g = [] := by
      split
      · rcases wsNode_cases gap with h | h <;> rw [h] <;> simp [hg2]
      · rfl
    simp only [prettyNode.prettyKids, List.filterMap_append, hws, List.nil_append, List.filterMap_cons,
      hg1, filterMap_prettyKids g hg1 hg2 pc gap ks]

theorem filterMap_wsNode {α : Type} (g : Tree → Option α) (hg2 : ∀ w, g (.node (.text w) []) = none) (w : Str) :
    (wsNode w).filterMap g = [] := by
  rcases wsNode_cases w with h | h <;> rw [h] <;> simp [hg2]

theorem orderedKids_prettyKids (pc : PStack) (gap : Str) (tail : List Tree)
    (htail : ∀ x ∈ tail, x.value.phase = 2) : ∀ (ks : List Tree), OrderedKids ks →
    OrderedKids (prettyNode.prettyKids sup pc gap ks ++ tail)
  | [], _ => by
    simp only [prettyNode.prettyKids, List.nil_append, OrderedKids]
    apply List.pairwise_of_forall_mem_list
    intro a ha b hb
    rw [htail a ha, htail b hb]
    exact Nat.le_refl _
  | k :: ks, hord => by
    have hk := (List.pairwise_cons.mp hord).1
    have ih := orderedKids_prettyKids pc gap tail htail ks (List.pairwise_cons.mp hord).2
    have hrest : ∀ x ∈ prettyNode.prettyKids sup pc gap ks ++ tail, k.value.phase ≤ x.value.phase := by
      intro x hx
      rcases List.mem_append.mp hx with hx | hx
      · rcases mem_prettyKids sup hx with hx | ⟨k2, hk2, rfl⟩
        · rw [(mem_wsNode hx).1]; exact phase_le_two _
        · rw [prettyNode_value]; exact hk k2 hk2
      · rw [htail x hx]; exact phase_le_two _
    have h1 : OrderedKids (prettyNode sup pc k :: (prettyNode.prettyKids sup pc gap ks ++ tail)) := by
      refine List.pairwise_cons.mpr ⟨?_, ih⟩
      intro x hx
      rw [prettyNode_value]
      exact hrest x hx
    simp only [prettyNode.prettyKids, List.append_assoc, List.cons_append]
    split
    · rename_i hn
      have hp := (isNormal_iff_phase _).mp hn
      rcases wsNode_cases gap with hw | hw <;> rw [hw]
      · exact h1
      · simp only [List.cons_append, List.nil_append]
        refine List.pairwise_cons.mpr ⟨?_, h1⟩
        intro x hx
        have h2 : (Tree.node (.text gap) []).value.phase = 2 := rfl
        rw [h2]
        rcases List.mem_cons.mp hx with rfl | hx
        · rw [prettyNode_value, hp]; exact Nat.le_refl _
        · have := hrest x hx
          omega
    · exact h1

theorem noAdjText_text_cons (w : Str) (k : Tree) (rest : List Tree) :
    noAdjText (.node (.text w) [] :: k :: rest) = (!k.value.isText && noAdjText (k :: rest)) := by
  simp [noAdjText, Tree.value, Value.isText]

theorem noAdjText_prettyKids_granting (pc : PStack) (gap e : Str) : ∀ (ks : List Tree),
    (∀ k ∈ ks, k.value.isText = false) →
    noAdjText (prettyNode.prettyKids sup pc gap ks ++ wsNode e) = true
  | [], _ => by
    simp only [prettyNode.prettyKids, List.nil_append]
    unfold wsNode; split <;> rfl
  | k :: ks, h => by
    have ih := noAdjText_prettyKids_granting pc gap e ks (fun k' hk' => h k' (by simp [hk']))
    have hk : (prettyNode sup pc k).value.isText = false := by rw [prettyNode_value]; exact h k (by simp)
    have h1 := (noAdjText_cons_notText hk _).trans ih
    simp only [prettyNode.prettyKids, List.append_assoc, List.cons_append]
    split
    · rcases wsNode_cases gap with hw | hw <;> rw [hw]
      · exact h1
      · simp only [List.cons_append, List.nil_append]
        rw [noAdjText_text_cons, hk, h1]; rfl
    · exact h1

theorem prettyKids_nil_gap (pc : PStack) : ∀ (ks : List Tree),
    prettyNode.prettyKids sup pc [] ks = ks.map (prettyNode sup pc)
  | [] => rfl
  | k :: ks => by
    simp only [prettyNode.prettyKids, wsNode, List.isEmpty_nil, if_true, ite_self, List.nil_append, List.map_cons,
      prettyKids_nil_gap pc ks]

theorem noAdjText_map {f : Tree → Tree} (hf : ∀ k, (f k).value = k.value) (ks : List Tree) :
    noAdjText (ks.map f) = noAdjText ks :=
  noAdjText_congr _ _ (by rw [List.map_map]; exact List.map_congr_left fun k _ => hf k)

theorem isWsChar_xml {c : Char} (h : isWsChar c = true) : isXmlChar c = true := by
  simp only [isWsChar, Bool.or_eq_true, beq_iff_eq] at h
  rcases h with rfl | rfl <;> decide

theorem wsNode_allNodes {w : Str} (hw : w.all isWsChar = true) : ∀ x ∈ wsNode w, x.allNodes (nodeOK env) = true := by
  intro x hx
  obtain ⟨rfl, hne⟩ := mem_wsNode hx
  rw [allNodes_node]
  simp only [List.all_nil, Bool.and_true]
  rw [nodeOK_iff]
  refine ⟨List.Pairwise.nil, ⟨fun _ => rfl, fun _ k hk => (by cases hk), fun k hk => (by cases hk)⟩,
    ⟨List.nodup_nil, List.nodup_nil⟩, rfl, ?_⟩
  simp only [valueOK, Bool.and_eq_true, Bool.not_eq_true', List.isEmpty_eq_false_iff, List.all_eq_true]
  refine ⟨hne, fun c hc => isWsChar_xml ?_⟩
  simp only [List.all_eq_true] at hw
  exact hw c hc

theorem gapEnd_notGranting {pc : PStack} (h : pc.getNewline = false) (ps : PStack) : gapEnd pc ps = [] := by
  have hm : (pc.inMixed || pc.inSpacePreserve) = true := by
    simp only [PStack.getNewline, Bool.and_eq_false_iff, Bool.not_eq_false'] at h
    simpa using h
  simp [gapEnd, (notGranting_nil h).1, hm]

theorem gapOf_notGranting {pc : PStack} (h : pc.getNewline = false) : gapOf pc = [] := by
  simp [gapOf, (notGranting_nil h).1, (notGranting_nil h).2]

theorem nodeOK_prettyKids {name : Nat} {ks : List Tree}
    (hn : (Tree.node (.element name) ks).allNodes (nodeOK env) = true) (ps : PStack) :
    nodeOK env (.element name)
      (prettyNode.prettyKids sup (entryFor sup (.node (.element name) ks) :: ps)
          (gapOf (entryFor sup (.node (.element name) ks) :: ps)) ks
        ++ wsNode (gapEnd (entryFor sup (.node (.element name) ks) :: ps) ps)) = true := by
  obtain ⟨hord, hkinds, huniq, hnoadj, hval⟩ := nodeOK_root hn
  have hf := kidsFacts_element env sup hn ps
  rw [nodeOK_iff]
  refine ⟨?_, ⟨fun h => by simp [Value.isLeafKind] at h, fun h => by simp [Value.isElement] at h, ?_⟩,
    ⟨?_, ?_⟩, ?_, hval⟩
  · apply orderedKids_prettyKids sup _ _ _ _ ks hord
    intro x hx
    rw [(mem_wsNode hx).1]; rfl
  · intro x hx
    rcases List.mem_append.mp hx with hx | hx
    · rcases mem_prettyKids sup hx with hx | ⟨k, hk, rfl⟩
      · rw [(mem_wsNode hx).1]; rfl
      · rw [prettyNode_value]; exact hkinds.2.2 k hk
    · rw [(mem_wsNode hx).1]; rfl
  · unfold attrNames
    rw [List.filterMap_append, filterMap_prettyKids sup _ (fun pc k => by simp only [prettyNode_value]) (fun _ => rfl),
      filterMap_wsNode _ (fun _ => rfl), List.append_nil]
    exact huniq.1
  · unfold nsPrefixes
    rw [List.filterMap_append, filterMap_prettyKids sup _ (fun pc k => by simp only [prettyNode_value]) (fun _ => rfl),
      filterMap_wsNode _ (fun _ => rfl), List.append_nil]
    exact huniq.2
  · cases hg : PStack.getNewline (entryFor sup (.node (.element name) ks) :: ps) with
    | false =>
      rw [gapOf_notGranting hg, gapEnd_notGranting hg, prettyKids_nil_gap]
      simp only [wsNode, List.isEmpty_nil, if_true, List.append_nil]
      rw [noAdjText_map (prettyNode_value sup _)]
      exact hnoadj
    | true =>
      apply noAdjText_prettyKids_granting
      intro k hk
      cases hnorm : k.value.isNormal with
      | true =>
        have := hf.markup hg k hk hnorm
        cases hv : k.value <;> simp [hv, Value.isMarkup, Value.isText] at this ⊢
      | false =>
        cases hv : k.value <;> simp [hv, Value.isNormal, Value.category, Value.isText] at hnorm ⊢

theorem prettyNode_allNodes (n : Tree) : ∀ (ps : PStack), n.allNodes (nodeOK env) = true →
    (prettyNode sup ps n).allNodes (nodeOK env) = true := by
  induction n using Tree.induct_mem with
  | h v ks ih =>
    intro ps hn
    cases v with
    | element name =>
      by_cases hc : (Tree.node (.element name) ks).firstChild?.isSome = true
      · simp only [prettyNode, hc, if_true]
        rw [allNodes_node, Bool.and_eq_true, List.all_eq_true]
        refine ⟨nodeOK_prettyKids env sup hn ps, ?_⟩
        intro x hx
        rcases List.mem_append.mp hx with hx | hx
        · rcases mem_prettyKids sup hx with hx | ⟨k, hk, rfl⟩
          · exact wsNode_allNodes env (gapOf_ws _) x hx
          · exact ih k hk _ (allNodes_kid hn hk)
        · exact wsNode_allNodes env (gapEnd_ws _ ps) x hx
      · simpa [prettyNode, hc] using hn
    | _ => exact hn

theorem idsList_wsNode (w : Str) : xmlIdValues.idsList env (wsNode w) = [] := by
  rcases wsNode_cases w with h | h <;> rw [h] <;> simp [xmlIdValues.idsList, xmlIdValues]

theorem idsList_prettyKids (pc : PStack) (gap : Str) : ∀ (ks : List Tree),
    (∀ k ∈ ks, xmlIdValues env (prettyNode sup pc k) = xmlIdValues env k) →
    xmlIdValues.idsList env (prettyNode.prettyKids sup pc gap ks) = xmlIdValues.idsList env ks
  | [], _ => rfl
  | k :: ks, h => by
    have hws : xmlIdValues.idsList env (if k.value.isNormal then wsNode gap else []) = [] := by
      split
      · exact idsList_wsNode env gap
      · rfl
    simp only [prettyNode.prettyKids, xmlIds_append, hws, List.nil_append, xmlIdValues.idsList,
      h k (by simp), idsList_prettyKids pc gap ks (fun k' hk' => h k' (by simp [hk']))]

theorem ids_prettyNode (n : Tree) : ∀ (ps : PStack), xmlIdValues env (prettyNode sup ps n) = xmlIdValues env n := by
  induction n using Tree.induct_mem with
  | h v ks ih =>
    intro ps
    cases v with
    | element name =>
      by_cases hc : (Tree.node (.element name) ks).firstChild?.isSome = true
      · simp only [prettyNode, hc, if_true, xmlIdValues, xmlIds_append, idsList_wsNode, List.append_nil]
        congr 1
        exact idsList_prettyKids env sup _ _ ks (fun k hk => ih k hk _)
      · simp [prettyNode, hc]
    | _ => rfl

theorem idsList_map_prettyNode (ps : PStack) : ∀ (ks : List Tree),
    xmlIdValues.idsList env (ks.map (prettyNode sup ps)) = xmlIdValues.idsList env ks
  | [] => rfl
  | k :: ks => by
    simp only [List.map_cons, xmlIdValues.idsList, ids_prettyNode, idsList_map_prettyNode ps ks]

/-- At the top level nothing is inserted, so the document node keeps the values of its children. -/
theorem representable_prettyTree {t : Tree} (hr : Representable env t = true) :
    Representable env (prettyTree sup t) = true := by
  obtain ⟨_, _, hn, _⟩ := (representableFragment_iff env t).mp ((representable_iff env t).mp hr).1
  cases t with
  | node v ks =>
    have hvals : (ks.map (prettyNode sup [])).map Tree.value = ks.map Tree.value := by
      rw [List.map_map]
      exact List.map_congr_left fun k _ => prettyNode_value sup [] k
    refine representable_of_keeps hr ⟨?_, rfl, ?_, fun _ => hvals⟩
    · rw [prettyTree, allNodes_node, Bool.and_eq_true, List.all_eq_true]
      refine ⟨by rw [nodeOK_congr hvals]; exact nodeOK_of_allNodes hn, fun x hx => ?_⟩
      obtain ⟨k, hk, rfl⟩ := List.mem_map.mp hx
      exact prettyNode_allNodes env sup k [] (allNodes_kid hn hk)
    · simp only [prettyTree, xmlIdValues, idsList_map_prettyNode]
      exact List.Sublist.refl _

end XotModel

/-!
## The indented spelling against the default spelling of `prettyTree`

  The tree the indented output is read as, `prettyNode sup ps n`, against the original subtree `n`:
    F  the default serialisation of `prettyNode n` succeeds where that of `n` does;
    R  the default spelling `spellNode` of `prettyNode n` is, up to how the character data runs are
       spelled (`NSNode.Resp`), the spelling `spellNodeP` of what the indenting writer writes for `n`.
-/

namespace XotModel
open Gen

variable (env : Env) (pr : TokenParams) (sup : List Nat)

/-- What the start tag and the `<a/>` / `<a>` decision read off an element is unchanged. -/
structure ElemSame (n n' : Tree) : Prop where
  decls : n'.nsDecls = n.nsDecls
  attrs : n'.attrs = n.attrs
  first : n'.firstChild?.isNone = false

theorem dropWhile_cons_head_false {α : Type} (p : α → Bool) : ∀ (l : List α) (a : α) (r : List α),
    l.dropWhile p = a :: r → p a = false ∧ a ∈ l
  | [], a, r, h => by simp at h
  | x :: l, a, r, h => by
    rw [List.dropWhile_cons] at h
    split at h
    · obtain ⟨h1, h2⟩ := dropWhile_cons_head_false p l a r h
      exact ⟨h1, List.mem_cons_of_mem _ h2⟩
    · rename_i hx
      simp only [List.cons.injEq] at h
      obtain ⟨rfl, _⟩ := h
      exact ⟨by simpa using hx, by simp⟩

theorem mem_prettyKids_of_mem (pc : PStack) (gap : Str) {k : Tree} : ∀ {ks : List Tree}, k ∈ ks →
    prettyNode sup pc k ∈ prettyNode.prettyKids sup pc gap ks
  | [], h => by cases h
  | k0 :: ks, h => by
    simp only [prettyNode.prettyKids, List.mem_append, List.mem_cons]
    rcases List.mem_cons.mp h with rfl | h
    · exact .inr (.inl rfl)
    · exact .inr (.inr (mem_prettyKids_of_mem pc gap h))

theorem elemSame_pretty {name : Nat} {ks : List Tree}
    (hn : (Tree.node (.element name) ks).allNodes (nodeOK env) = true)
    (hc : (Tree.node (.element name) ks).firstChild?.isSome = true) (ps : PStack) :
    ElemSame (.node (.element name) ks)
      (.node (.element name) (prettyNode.prettyKids sup (entryFor sup (.node (.element name) ks) :: ps)
          (gapOf (entryFor sup (.node (.element name) ks) :: ps)) ks
        ++ wsNode (gapEnd (entryFor sup (.node (.element name) ks) :: ps) ps))) := by
  obtain ⟨hord, _, _, _, _⟩ := nodeOK_root hn
  obtain ⟨hord', _, _, _, _⟩ := (nodeOK_iff env _ _).mp (nodeOK_prettyKids env sup hn ps)
  refine ⟨?_, ?_, ?_⟩
  · rw [nsDecls_eq_kidDecls _ _ hord', nsDecls_eq_kidDecls _ _ hord]
    unfold kidDecls
    rw [List.filterMap_append, filterMap_prettyKids sup _ (fun pc k => by simp only [prettyNode_value]) (fun _ => rfl),
      filterMap_wsNode _ (fun _ => rfl), List.append_nil]
  · rw [attrs_eq_kidAttrs _ _ hord', attrs_eq_kidAttrs _ _ hord]
    unfold kidAttrs
    rw [List.filterMap_append, filterMap_prettyKids sup _ (fun pc k => by simp only [prettyNode_value]) (fun _ => rfl),
      filterMap_wsNode _ (fun _ => rfl), List.append_nil]
  · -- a normal child of the original is a normal child of the result
    have hex : ∃ k ∈ ks, k.value.isNormal = true := by
      simp only [Tree.firstChild?, Tree.normalKids, Tree.kids] at hc
      cases hd : ks.dropWhile (fun k => !k.value.isNormal) with
      | nil => simp [hd] at hc
      | cons k rest =>
        obtain ⟨h1, h2⟩ := dropWhile_cons_head_false _ ks k rest hd
        exact ⟨k, h2, by simpa using h1⟩
    obtain ⟨k, hk, hnorm⟩ := hex
    have hmem : prettyNode sup (entryFor sup (.node (.element name) ks) :: ps) k ∈
        (prettyNode.prettyKids sup (entryFor sup (.node (.element name) ks) :: ps)
          (gapOf (entryFor sup (.node (.element name) ks) :: ps)) ks
        ++ wsNode (gapEnd (entryFor sup (.node (.element name) ks) :: ps) ps)) :=
      List.mem_append_left _ (mem_prettyKids_of_mem sup _ _ hk)
    have := mem_normalKids (Tree.node (.element name) _) _ hmem (by rw [prettyNode_value]; exact hnorm)
    simp only [Tree.firstChild?]
    cases hnk : (Tree.node (.element name)
        (prettyNode.prettyKids sup (entryFor sup (.node (.element name) ks) :: ps)
          (gapOf (entryFor sup (.node (.element name) ks) :: ps)) ks
        ++ wsNode (gapEnd (entryFor sup (.node (.element name) ks) :: ps) ps))).normalKids with
    | nil => rw [hnk] at this; cases this
    | cons a b => rfl

theorem declaresPrefix_same {n n' : Tree} (h : n'.nsDecls = n.nsDecls) (p : Nat) :
    n'.declaresPrefix p = n.declaresPrefix p := by
  simp only [Tree.declaresPrefix, h]

theorem spellItems_same {n n' : Tree} (h : ElemSame n n') (inScope : List (Nat × Nat)) (isTop : Bool) (s : FStack) :
    spellItems env inScope isTop s n' = spellItems env inScope isTop s n := by
  simp only [spellItems, writtenDecls, h.decls, h.attrs, declaresPrefix_same h.decls]

theorem spellKids_append (inScope : List (Nat × Nat)) (s : FStack) (a b : List Tree) :
    spellNode.spellKids env inScope s (a ++ b) =
      spellNode.spellKids env inScope s a ++ spellNode.spellKids env inScope s b := by
  induction a with
  | nil => rfl
  | cons k ks ih => simp only [List.cons_append, spellNode.spellKids, ih, List.append_assoc]

theorem spellKids_wsNode (inScope : List (Nat × Nat)) (s : FStack) (w : Str) :
    spellNode.spellKids env inScope s (wsNode w) = wsChars w := by
  unfold wsNode wsChars
  split
  · rfl
  · simp [spellNode.spellKids, spellNode]

theorem resp_wsChars {w : Str} (hw : w.all isWsChar = true) : NSNode.Resp.respList (wsChars w) (wsChars w) := by
  unfold wsChars
  split
  · rfl
  · rename_i hne
    have hne' : w ≠ [] := by simpa using hne
    have hx : w.all isXmlChar = true := by
      simp only [List.all_eq_true] at hw ⊢
      exact fun c hc => isWsChar_xml (hw c hc)
    have := resp_text {} false w hne' hx
    simp only [textParts, Bool.false_eq_true, if_false, txtPieces] at this
    exact respList_cons this rfl

mutual
theorem spellP_resp (inScope : List (Nat × Nat)) (isTop : Bool) (s : FStack) (cd : Bool) (ps : PStack) (n : Tree)
    (hn : n.allNodes (nodeOK env) = true) (hdoc : n.value.isDocument = false) :
    NSNode.Resp.respList (spellNode env inScope isTop s (prettyNode sup ps n))
      (spellNodeP env pr sup inScope isTop s cd ps n) := by
  cases n with
  | node v ks =>
    have hkn : ∀ k ∈ ks, k.allNodes (nodeOK env) = true := fun k hk => allNodes_kid hn hk
    have hval := allNodes_value env hn
    cases v with
    | document => simp [Tree.value, Value.isDocument] at hdoc
    | «attribute» a b | «namespace» a b =>
      have hl := allNodes_leaf env hn rfl
      subst hl; rfl
    | text str =>
      have hl := allNodes_leaf env hn rfl
      subst hl
      obtain ⟨h1, h2⟩ := text_valueOK env hval
      simp only [prettyNode, spellNode, spellNodeP, spellNode.spellKids, spellNodeP.spellKidsP]
      exact respList_cons (resp_text pr cd str h1 h2) rfl
    | comment str | pi target data =>
      have hl := allNodes_leaf env hn rfl
      subst hl
      simp only [prettyNode, spellNode, spellNodeP, spellNode.spellKids, spellNodeP.spellKidsP]
      exact respList_cons rfl rfl
    | element name =>
      obtain ⟨_, hkinds, _, _, _⟩ := nodeOK_root hn
      by_cases hc : (Tree.node (.element name) ks).firstChild?.isSome = true
      · have hnone : (Tree.node (.element name) ks).firstChild?.isNone = false :=
          Option.isNone_eq_false_iff.2 hc
        have hsame := elemSame_pretty env sup hn hc ps
        have hk := spellKidsP_resp inScope (s.push (Tree.node (.element name) ks).nsDecls)
          (kidsCd pr (.element name)) (entryFor sup (.node (.element name) ks) :: ps)
          (gapOf (entryFor sup (.node (.element name) ks) :: ps)) (gapOf_ws _) ks hkn hkinds.2.2
        simp only [prettyNode, hc, if_true, spellNode, hsame.decls, hsame.first, Bool.false_eq_true, if_false,
          spellItems_same env hsame, spellNodeP, hnone, spellKids_append, spellKids_wsNode]
        exact respList_cons ⟨_, rfl, respList_append hk (resp_wsChars (gapEnd_ws _ ps))⟩ rfl
      · have hnone : (Tree.node (.element name) ks).firstChild?.isNone = true :=
          Option.isSome_eq_false_iff.1 (Bool.eq_false_iff.2 hc)
        have hab := emptyElement_kids env hn hnone
        simp only [prettyNode, hc, Bool.false_eq_true, if_false, spellNode, hnone, if_true, spellNodeP,
          spellKids_abnormal inScope _ ks hab, spellKidsP_abnormal env pr sup inScope _ _ ps [] ks hab]
        exact respList_cons rfl rfl

theorem spellKidsP_resp (inScope : List (Nat × Nat)) (s : FStack) (cd : Bool) (pc : PStack) (gap : Str)
    (hgap : gap.all isWsChar = true) (ks : List Tree)
    (hn : ∀ k ∈ ks, k.allNodes (nodeOK env) = true) (hdocs : ∀ k ∈ ks, k.value.isDocument = false) :
    NSNode.Resp.respList (spellNode.spellKids env inScope s (prettyNode.prettyKids sup pc gap ks))
      (spellNodeP.spellKidsP env pr sup inScope s cd pc gap ks) := by
  cases ks with
  | nil => rfl
  | cons k ks =>
    simp only [prettyNode.prettyKids, spellNodeP.spellKidsP, spellKids_append, spellNode.spellKids, List.append_assoc]
    refine respList_append ?_ (respList_append (spellP_resp inScope false s cd pc k (hn k (by simp)) (hdocs k (by simp)))
      (spellKidsP_resp inScope s cd pc gap hgap ks (fun k' hk' => hn k' (by simp [hk']))
        (fun k' hk' => hdocs k' (by simp [hk']))))
    split
    · rw [spellKids_wsNode]; exact resp_wsChars hgap
    · rfl
end

theorem serKids_append (inScope : List (Nat × Nat)) (s : FStack) (a b : List Tree) :
    serNode.serKids env false inScope s (a ++ b) =
      appendOk (serNode.serKids env false inScope s a) (serNode.serKids env false inScope s b) := by
  induction a with
  | nil =>
    simp only [List.nil_append, serNode.serKids, appendOk]
    cases serNode.serKids env false inScope s b <;> simp
  | cons k ks ih =>
    simp only [List.cons_append, serNode.serKids, ih]
    cases serNode env false inScope false s k with
    | error e => rfl
    | ok x =>
      cases serNode.serKids env false inScope s ks with
      | error e => rfl
      | ok y =>
        cases serNode.serKids env false inScope s b with
        | error e => rfl
        | ok z => simp [appendOk]

theorem serKids_wsNode_ok (inScope : List (Nat × Nat)) (s : FStack) (w : Str) :
    ∃ ts, serNode.serKids env false inScope s (wsNode w) = .ok ts := by
  rcases wsNode_cases w with h | h <;> rw [h]
  · exact ⟨_, rfl⟩
  · exact ⟨[.text (sp0 (serializeText false w))], by simp [serNode.serKids, serNode, appendOk]⟩

mutual
theorem serNode_pretty_ok (inScope : List (Nat × Nat)) (isTop : Bool) (s : FStack) (ps : PStack) (n : Tree)
    (hn : n.allNodes (nodeOK env) = true) (ts : List Token)
    (h : serNode env false inScope isTop s n = .ok ts) :
    ∃ ts', serNode env false inScope isTop s (prettyNode sup ps n) = .ok ts' := by
  cases n with
  | node v ks =>
    have hkn : ∀ k ∈ ks, k.allNodes (nodeOK env) = true := fun k hk => allNodes_kid hn hk
    cases v with
    | element name =>
      by_cases hc : (Tree.node (.element name) ks).firstChild?.isSome = true
      · have hnone : (Tree.node (.element name) ks).firstChild?.isNone = false :=
          Option.isNone_eq_false_iff.2 hc
        have hsame := elemSame_pretty env sup hn hc ps
        obtain ⟨p, ats, content, hdef, hp, ha, hk, _⟩ := serNode_element_ok env h
        obtain ⟨c1, hc1⟩ := serKids_pretty_ok inScope (s.push (Tree.node (.element name) ks).nsDecls)
          (entryFor sup (.node (.element name) ks) :: ps) (gapOf (entryFor sup (.node (.element name) ks) :: ps))
          ks hkn content hk
        obtain ⟨c2, hc2⟩ := serKids_wsNode_ok env inScope (s.push (Tree.node (.element name) ks).nsDecls)
          (gapEnd (entryFor sup (.node (.element name) ks) :: ps) ps)
        have hdef' : (env.nsOfName name == Env.noNamespace &&
            (s.push (Tree.node (.element name) ks).nsDecls).hasDefaultNamespace) = false := by
          cases hcc : (env.nsOfName name == Env.noNamespace &&
            (s.push (Tree.node (.element name) ks).nsDecls).hasDefaultNamespace) with
          | false => rfl
          | true =>
            simp only [Bool.and_eq_true, beq_iff_eq] at hcc
            exact absurd hcc hdef
        simp only [prettyNode, hc, if_true]
        rw [serNode]
        simp only [hsame.decls, hsame.attrs, hdef', Bool.false_eq_true, if_false, hp, ha, serKids_append, hc1, hc2,
          appendOk]
        exact ⟨_, rfl⟩
      · exact ⟨ts, by simpa [prettyNode, hc] using h⟩
    | _ => exact ⟨ts, h⟩

theorem serKids_pretty_ok (inScope : List (Nat × Nat)) (s : FStack) (pc : PStack) (gap : Str) (ks : List Tree)
    (hn : ∀ k ∈ ks, k.allNodes (nodeOK env) = true) (ts : List Token)
    (h : serNode.serKids env false inScope s ks = .ok ts) :
    ∃ ts', serNode.serKids env false inScope s (prettyNode.prettyKids sup pc gap ks) = .ok ts' := by
  cases ks with
  | nil => exact ⟨_, rfl⟩
  | cons k ks =>
    obtain ⟨x, y, hx, hy, _⟩ := serKids_cons_ok env h
    obtain ⟨x', hx'⟩ := serNode_pretty_ok inScope false s pc k (hn k (by simp)) x hx
    obtain ⟨y', hy'⟩ := serKids_pretty_ok inScope s pc gap ks (fun k' hk' => hn k' (by simp [hk'])) y hy
    obtain ⟨w, hw⟩ : ∃ w, serNode.serKids env false inScope s (if k.value.isNormal then wsNode gap else []) = .ok w := by
      split
      · exact serKids_wsNode_ok env inScope s gap
      · exact ⟨_, rfl⟩
    simp only [prettyNode.prettyKids, serKids_append, hw, serNode.serKids, hx', hy', appendOk]
    exact ⟨_, rfl⟩
end

end XotModel
