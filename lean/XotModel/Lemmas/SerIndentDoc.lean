/-
  C14_options_indent for documents: the indented serialisation of a representable document — any token
  parameters, any suppress list, with or without an XML declaration — parses back to `prettyTree sup t`; and where
  `prettyTree` differs from the tree: only by added whitespace-only text nodes, none inside mixed content or
  `xml:space="preserve"`.
-/
import XotModel.Lemmas.SerIndentSpell
import XotModel.Lemmas.LexLines
import XotModel.Lemmas.SerOptMain

/-! ## Documents -/

namespace XotModel
open Gen XotModel.Lex.Canon

variable (env : Env) (pr : TokenParams) (sup : List Nat)

/-- The spelled top-level nodes of the indented document (no white space node between them). -/
def spellTopP (ks : List Tree) : List NSNode :=
  spellNodeP.spellKidsP env pr sup basePrefixes (FStack.new basePrefixes) false [] [] ks

theorem indOf_nil : indOf [] = [] := by decide
theorem nlOf_nil : nlOf [] = ['\n'] := by decide

theorem spellNodeP_single (inScope : List (Nat × Nat)) (isTop : Bool) (s : FStack) (cd : Bool) (ps : PStack)
    {k : Tree} (hk : k.allNodes (nodeOK env) = true) (hm : k.value.isMarkup = true) :
    ∃ nd, spellNodeP env pr sup inScope isTop s cd ps k = [nd] ∧ nd.isChars = false := by
  cases k with
  | node v ks =>
    cases v <;> simp [Tree.value, Value.isMarkup] at hm
    · rename_i name
      by_cases hc : (Tree.node (.element name) ks).firstChild?.isNone = true
      · have hab := emptyElement_kids env hk hc
        refine ⟨?nd1, ?ha1, ?hb1⟩
        case ha1 => simp only [spellNodeP, hc, if_true, spellKidsP_abnormal env pr sup inScope _ _ ps [] ks hab]; rfl
        case hb1 => rfl
      · refine ⟨?nd2, ?ha2, ?hb2⟩
        case ha2 => simp only [spellNodeP, hc, Bool.false_eq_true, if_false]; rfl
        case hb2 => rfl
    · have hl := allNodes_leaf env hk rfl
      subst hl
      refine ⟨?nd3, ?ha3, ?hb3⟩
      case ha3 => simp only [spellNodeP, spellNodeP.spellKidsP]; rfl
      case hb3 => rfl
    · have hl := allNodes_leaf env hk rfl
      subst hl
      refine ⟨?nd4, ?ha4, ?hb4⟩
      case ha4 => simp only [spellNodeP, spellNodeP.spellKidsP]; rfl
      case hb4 => rfl

theorem renderLines_append (a b : List NSNode) : renderLines (a ++ b) = renderLines a ++ renderLines b := by
  simp [renderLines]

theorem kidsBytes_top (ks : List Tree) (hk : ∀ k ∈ ks, k.allNodes (nodeOK env) = true)
    (hm : ∀ k ∈ ks, k.value.isMarkup = true) :
    kidsBytes env pr sup basePrefixes (FStack.new basePrefixes) false [] ks = renderLines (spellTopP env pr sup ks) ∧
      ∀ nd ∈ spellTopP env pr sup ks, nd.isChars = false := by
  induction ks with
  | nil => exact ⟨rfl, fun nd h => by cases h⟩
  | cons k ks ih =>
    obtain ⟨ih1, ih2⟩ := ih (fun k' hk' => hk k' (by simp [hk'])) (fun k' hk' => hm k' (by simp [hk']))
    obtain ⟨nd, hnd, hch⟩ := spellNodeP_single env pr sup basePrefixes false (FStack.new basePrefixes) false []
      (hk k (by simp)) (hm k (by simp))
    have hn : k.value.isNormal = true := by
      have := hm k (by simp)
      cases hv : k.value <;> simp [hv, Value.isMarkup, Value.isNormal, Value.category] at this ⊢
    simp only [spellTopP] at ih1 ih2 ⊢
    constructor
    · simp only [kidsBytes, List.flatMap_cons] at ih1 ⊢
      rw [ih1, wrapP_markup [] (hm k (by simp)), hnd]
      simp only [spellNodeP.spellKidsP, hn, if_true, wsChars, List.isEmpty_nil, List.nil_append, hnd,
        List.cons_append, renderLines, List.flatMap_cons, NSNode.tokens.tokensList, List.append_nil, indOf_nil,
        nlOf_nil, List.append_assoc]
    · intro x hx
      simp only [spellNodeP.spellKidsP, hn, if_true, wsChars, List.isEmpty_nil, List.nil_append, hnd,
        List.cons_append, List.mem_cons] at hx
      rcases hx with rfl | hx
      · exact hch
      · exact ih2 x hx

theorem top_kids_markup {ks : List Tree} (hr : Representable env (.node .document ks) = true) :
    (∀ k ∈ ks, k.allNodes (nodeOK env) = true) ∧ (∀ k ∈ ks, k.value.isMarkup = true) ∧
      (∀ k ∈ ks, k.value.isDocument = false) := by
  obtain ⟨hfrag, hsingle⟩ := (representable_iff env _).mp hr
  obtain ⟨_, _, hn, _⟩ := (representableFragment_iff env _).mp hfrag
  obtain ⟨_, hkinds, _, _, _⟩ := nodeOK_root hn
  exact ⟨fun k hk => allNodes_kid hn hk,
    fun k hk => normal_notText_markup (hkinds.2.1 rfl k hk) (((singleRoot_iff _).mp hsingle).2 k hk) (hkinds.2.2 k hk),
    hkinds.2.2⟩

/-- **The indented string of a representable document** is its top-level nodes, spelled with the white
    space inside the elements, one per line; and the plain serialisation succeeds with the same parameters. -/
theorem serializePretty_document {ks : List Tree} (hr : Representable env (.node .document ks) = true) {str : Str}
    (hs : serializePretty env pr sup (.node .document ks) [] = .ok str) :
    str = renderLines (spellTopP env pr sup ks) ∧
      ∃ ts, serNodeO.serKidsO env pr basePrefixes (FStack.new basePrefixes) false ks = .ok ts := by
  obtain ⟨henv, _, hn, _⟩ := (representableFragment_iff env _).mp ((representable_iff env _).mp hr).1
  obtain ⟨hkn, hmark, hdocs⟩ := top_kids_markup env hr
  obtain ⟨hord, hkinds, _, _, _⟩ := nodeOK_root hn
  have hin := inScope_document ks hord (hkinds.2.1 rfl)
  have hnamed := named_initStack env (.node .document ks) [] (by rw [envOK_xmlPrefix env henv]; simp)
    (nodeOK_declsNamed env _ hn)
  have hinit : initStack (.node .document ks) [] = FStack.new basePrefixes := by
    simp [initStack, namespacesInScope, Tree.ancestorsOrSelf, hin]
  have hgen : genOutputs (.node .document ks) [] = genNode.genKids basePrefixes [] 0 ks := by
    simp [genOutputs, Tree.at?, namespacesInScope, Tree.ancestorsOrSelf, hin, genNode_document]
  rw [show serializePretty env pr sup (.node .document ks) [] =
    serializePrettyWith xmlEscapers env pr sup (.node .document ks) [] from rfl,
    serializePretty_runPEvents, hinit, hgen] at hs
  rw [hinit] at hnamed
  have hrun := runP_kids env pr sup (.node .document ks) basePrefixes [] 0 ks (FStack.new basePrefixes) []
    .document ks rfl (fun j k hj => by simp [Tree.at?, hj]) hnamed hkn hdocs
  rw [hrun] at hs
  simp only [kidsCd] at hs
  cases hser : serNodeO.serKidsO env pr basePrefixes (FStack.new basePrefixes) false ks with
  | error e => rw [hser] at hs; cases hs
  | ok ts =>
    rw [hser] at hs
    simp only [tokRunP, Outcome.ok.injEq] at hs
    exact ⟨by rw [← hs]; exact (kidsBytes_top env pr sup ks hkn hmark).1, ts, rfl⟩

/-- Everything the round trip needs about the indented document. -/
structure IndentFacts (ks : List Tree) : Prop where
  /-- the tree it is read as is representable -/
  hr' : Representable env (prettyTree sup (.node .document ks)) = true
  /-- the spelled top-level nodes are markup -/
  hmarkup : ∀ nd ∈ spellTopP env pr sup ks, nd.isChars = false
  /-- their tokens meet the tokenizer contract -/
  hlex : LexOK false (NSNode.tokens.tokensList (spellTopP env pr sup ks)) = true
  /-- the builder turns them into that tree -/
  hbuild : ∀ len, ∃ p, build .document len env (NSNode.tokens.tokensList (spellTopP env pr sup ks)) none = .ok p ∧
    p.tree = prettyTree sup (.node .document ks) ∧ p.env = env

theorem indentFacts {ks : List Tree} (hr : Representable env (.node .document ks) = true) {ts : List Token}
    (hser : serNodeO.serKidsO env pr basePrefixes (FStack.new basePrefixes) false ks = .ok ts) :
    IndentFacts env pr sup ks := by
  obtain ⟨hkn, hmark, hdocs⟩ := top_kids_markup env hr
  have hr' := representable_prettyTree env sup hr
  have hfrag' := ((representable_iff env _).mp hr').1
  have hsingle' := ((representable_iff env _).mp hr').2
  -- the children of the tree the output is read as
  have hkids' : prettyTree sup (.node .document ks) =
      .node .document (prettyNode.prettyKids sup [] [] ks) := by
    simp only [prettyTree, prettyKids_nil_gap]
  -- its default serialisation succeeds
  obtain ⟨ts0, hts0⟩ := ok_of_endOf_eq (endOf_serKidsO_default env pr false basePrefixes (FStack.new basePrefixes) ks) hser
  obtain ⟨ts1, hts1⟩ := serKids_pretty_ok env sup basePrefixes (FStack.new basePrefixes) [] [] ks hkn ts0 hts0
  obtain ⟨_, _, hn', _⟩ := (representableFragment_iff env _).mp hfrag'
  obtain ⟨hord', hkinds', _, _, _⟩ := nodeOK_root (hkids' ▸ hn')
  have hin' := inScope_document _ hord' (hkinds'.2.1 rfl)
  have hser' : serTokensTop env (prettyTree sup (.node .document ks)) = .ok ts1 := by
    rw [hkids', serTokensTop_document, hin']; exact hts1
  obtain ⟨ks', hk', hf⟩ := topFacts hfrag' hser'
  rw [hkids'] at hk'
  cases hk'
  -- the pretty spelling respells the default spelling of that tree
  have hresp : NSNode.Resp.respList (spellTop env (prettyTree sup (.node .document ks))) (spellTopP env pr sup ks) := by
    rw [hkids', hf.hspell]
    exact spellKidsP_resp env pr sup basePrefixes (FStack.new basePrefixes) false [] [] rfl ks hkn hdocs
  have hrel := respList_tokRel _ _ hresp
  rw [spell_tokens env _ ts1 hser'] at hrel
  refine ⟨hr', (kidsBytes_top env pr sup ks hkn hmark).2,
    tokRel_lexOK false hrel (lexOK_document env _ hr' ts1 hser'), ?_⟩
  intro len
  have hwell : WellNsDoc (spellTop env (prettyTree sup (.node .document ks))) := by
    rw [hkids']; exact spellTop_well hf
  have hden := respList_denote _ _ baseScope hresp
  obtain ⟨p0, hb, ht, he⟩ := build_document_spelled_ns hf.he.envBaseNs len (spellTopP env pr sup ks)
    (respList_wellNsDoc hresp hwell)
    (by rw [← hden, hkids']; exact wellFormedTop_of_abstractNs (spellTop_abstractTop hf (by rw [← hkids']; exact hsingle')))
  rw [← hden, hkids', spellTop_encode hf] at ht he
  exact ⟨p0, hb, by rw [ht, hkids'], he⟩

/-- **C14_options_indent, documents** (`parse`): the indented serialisation — any token parameters, any
    suppress list — parses back to `prettyTree sup t`, tables unchanged. -/
theorem indent_roundtrip {t : Tree} (hr : Representable env t = true) {str : Str}
    (hs : serializePretty env pr sup t [] = .ok str) :
    ∃ p, parseString .document env str = .ok p ∧ p.tree = prettyTree sup t ∧ p.env = env := by
  have hfrag := ((representable_iff env _).mp hr).1
  obtain ⟨_, hdocv, _, _⟩ := (representableFragment_iff env t).mp hfrag
  obtain ⟨ks, rfl⟩ := Tree.eq_document hdocv
  obtain ⟨rfl, ts, hser⟩ := serializePretty_document env pr sup hr hs
  have hf := indentFacts env pr sup hr hser
  obtain ⟨ts', hl, her⟩ := lexDocument_lines _ hf.hmarkup hf.hlex
  obtain ⟨p0, hb, ht, he⟩ := hf.hbuild 0
  obtain ⟨p, hp, h1, h2, _⟩ := parseString_of_lex .document env _ _ 0 p0
    (by rw [show lexMode .document _ = _ from hl]; exact ⟨her, rfl⟩) hb
  exact ⟨p, hp, h1.trans ht, h2.trans he⟩

/-- **The indented string for an element (comment, PI, text) start node** of a `nodeOK` tree: the rendering
    of `spellNodeP` of the subtree — white space runs inside its elements included — followed by one line
    feed for a markup node; it fails exactly where the plain serialisation fails.  (The reparse of such a
    string is a document around the node; for an ELEMENT start node: Lemmas/SerIndentInner.lean,
    C14_indent_roundtrip_inner.) -/
theorem serializePretty_at (t : Tree) (start : Path) (n : Tree) (inScope : List (Nat × Nat))
    (hat : t.at? start = some n) (hsc : namespacesInScope t start = some inScope)
    (henv : envOK env = true) (ht : t.allNodes (nodeOK env) = true) (hdoc : n.value.isDocument = false) :
    serializePretty env pr sup t start =
      (match serTokensAtO env pr t start with
       | .ok _ => .ok (wrapP [] n.value (renderTokens (NSNode.tokens.tokensList
            (spellNodeP env pr sup inScope true (FStack.new inScope) (startCd pr t start) [] n))))
       | .error e => .err e) := by
  have hnamed := named_initStack env t start (by rw [envOK_xmlPrefix env henv]; simp) (nodeOK_declsNamed env _ ht)
  have hinit := initStack_eq_new hsc
  rw [hinit] at hnamed
  rw [show serializePretty env pr sup t start = serializePrettyWith xmlEscapers env pr sup t start from rfl,
    serializePretty_runPEvents, hinit]
  rw [genOutputs_eq_genNode hat hsc, runP_node env pr sup t inScope true start n _ [] hat hnamed (subtree_allNodes _ t start n hat ht) hdoc]
  simp only [serTokensAtO, hat, hsc, startCd]
  cases serNodeO env pr inScope true (FStack.new inScope) (isCdataElement pr (t.parentAt? start)) n <;> rfl

end XotModel

/-! ## With a declaration; where white space is added -/

namespace XotModel
open Gen XotModel.Lex.Canon

variable (env : Env) (sup : List Nat)

theorem xmlString_decl_pretty (p : XmlParams) (t : Tree) (start : Path) (hdt : p.doctype = none)
    (sup : List Nat) (hind : p.indentation = some sup) (s : Str) (hs : serializeXmlString env p t start = .ok s) :
    ∃ body, serializePretty env p.tokenParams sup t start = .ok body ∧ s = p.declBytes ++ body := by
  rw [show serializeXmlString env p t start = serializeXmlStringWith xmlEscapers env p t start from rfl,
    Ser.serializeXmlString_noDoctype xmlEscapers env p t start hdt, hind] at hs
  exact Outcome.prependOk_eq_ok hs

/-- **C14_options_indent** (`parse`), full parameter set: indentation with any suppress list, any token
    parameters, with or without an XML declaration, no doctype. -/
theorem indent_decl_roundtrip (p : XmlParams) {t : Tree} (hr : Representable env t = true)
    (hdt : p.doctype = none) (hind : p.indentation = some sup)
    (henc : ∀ d e, p.declaration = some d → d.encoding = some e → Prolog.isEncName e = true)
    {s : Str} (hs : serializeXmlString env p t [] = .ok s) :
    ∃ q, parseString .document env s = .ok q ∧ q.tree = prettyTree sup t ∧ q.env = env := by
  obtain ⟨body, hb, rfl⟩ := xmlString_decl_pretty env p t [] hdt sup hind s hs
  cases hd : p.declaration with
  | none =>
    simp only [XmlParams.declBytes, hd, List.nil_append]
    exact indent_roundtrip env p.tokenParams sup hr hb
  | some d =>
    simp only [XmlParams.declBytes, hd]
    have hfrag := ((representable_iff env _).mp hr).1
    obtain ⟨_, hdocv, _, _⟩ := (representableFragment_iff env t).mp hfrag
    obtain ⟨ks, rfl⟩ := Tree.eq_document hdocv
    obtain ⟨rfl, ts, hser⟩ := serializePretty_document env p.tokenParams sup hr hb
    have hf := indentFacts env p.tokenParams sup hr hser
    obtain ⟨v, e, sa, sp, ts', hl, her⟩ := lexDocument_declaration_lines d _ hf.hmarkup hf.hlex
      (fun e he => isEncName_encChar (henc d e hd he))
    obtain ⟨p0, hb0, ht, he⟩ := hf.hbuild 0
    obtain ⟨q, hq, h1, h2, _⟩ := parseString_of_lex .document env _ (.declaration ⟨['1', '.', '0'], v⟩ e sa sp :: _) 0 p0
      (by rw [show lexMode .document _ = _ from hl]; exact ⟨.cons ⟨rfl, rfl⟩ her, rfl⟩)
      (by rw [build_declaration _ _ _ _ _ _ _ _ _ rfl]; exact hb0)
    exact ⟨q, hq, h1.trans ht, h2.trans he⟩

mutual
theorem AddsWs.refl : ∀ (n : Tree), AddsWs n n
  | .node v ks => .node v (AddsWsList.refl ks)
theorem AddsWsList.refl : ∀ (ks : List Tree), AddsWsList ks ks
  | [] => .nil
  | k :: ks => .cons (AddsWs.refl k) (AddsWsList.refl ks)
end

theorem wsNode_isWsText {w : Str} (hw : w.all isWsChar = true) : ∀ x ∈ wsNode w, x.isWsText = true := by
  intro x hx
  obtain ⟨rfl, hne⟩ := mem_wsNode hx
  have : w.isEmpty = false := by simpa using hne
  simp [Tree.isWsText, this, hw, -List.all_eq_true]

theorem addsWsList_ins_front {ws ks ks' : List Tree} (hws : ∀ x ∈ ws, x.isWsText = true)
    (h : AddsWsList ks ks') : AddsWsList ks (ws ++ ks') := by
  induction ws with
  | nil => exact h
  | cons w ws ih => exact .ins (hws w (by simp)) (ih (fun x hx => hws x (by simp [hx])))

mutual
theorem addsWs_prettyNode : ∀ (n : Tree) (ps : PStack), AddsWs n (prettyNode sup ps n)
  | .node v ks, ps => by
    cases v with
    | element name =>
      by_cases hc : (Tree.node (.element name) ks).firstChild?.isSome = true
      · simp only [prettyNode, hc, if_true]
        exact .node _ (addsWsList_prettyKids ks _ _ (gapOf_ws _) _ (wsNode_isWsText (gapEnd_ws _ ps)))
      · simp only [prettyNode, hc, Bool.false_eq_true, if_false]
        exact AddsWs.refl _
    | _ => exact AddsWs.refl _
theorem addsWsList_prettyKids : ∀ (ks : List Tree) (pc : PStack) (gap : Str), gap.all isWsChar = true →
    ∀ (tail : List Tree), (∀ x ∈ tail, x.isWsText = true) →
    AddsWsList ks (prettyNode.prettyKids sup pc gap ks ++ tail)
  | [], pc, gap, _, tail, ht => by
    simpa [prettyNode.prettyKids] using addsWsList_ins_front ht .nil
  | k :: ks, pc, gap, hg, tail, ht => by
    simp only [prettyNode.prettyKids, List.append_assoc, List.cons_append]
    apply addsWsList_ins_front
    · intro x hx
      split at hx
      · exact wsNode_isWsText hg x hx
      · cases hx
    · exact .cons (addsWs_prettyNode k pc) (addsWsList_prettyKids ks pc gap hg tail ht)
end

theorem addsWsList_map (ps : PStack) : ∀ (ks : List Tree), AddsWsList ks (ks.map (prettyNode sup ps))
  | [] => .nil
  | k :: ks => .cons (addsWs_prettyNode sup k ps) (addsWsList_map ps ks)

/-- **The tree the indented output is read as differs from the original only by added whitespace-only
    text nodes.** -/
theorem addsWs_prettyTree : ∀ (t : Tree), AddsWs t (prettyTree sup t)
  | .node v ks => .node v (addsWsList_map sup [] ks)

theorem map_id_of_mem {α : Type} {f : α → α} {l : List α} (h : ∀ x ∈ l, f x = x) : l.map f = l :=
  (List.map_congr_left h).trans (List.map_id l)

theorem prettyNode_mixed (n : Tree) : ∀ (ps : PStack), ps.inMixed = true → prettyNode sup ps n = n := by
  induction n using Tree.induct_mem with
  | h v ks ih =>
    intro ps h
    cases v with
    | element name =>
      by_cases hc : (Tree.node (.element name) ks).firstChild?.isSome = true
      · have hm : PStack.inMixed (entryFor sup (.node (.element name) ks) :: ps) = true := by
          simp only [PStack.inMixed, List.any_cons, Bool.or_eq_true] at h ⊢
          exact .inr h
        have hg : PStack.getNewline (entryFor sup (.node (.element name) ks) :: ps) = false := by
          simp [PStack.getNewline, hm]
        simp only [prettyNode, hc, if_true, gapOf_notGranting hg, gapEnd_notGranting hg, prettyKids_nil_gap, wsNode,
          List.isEmpty_nil, List.append_nil]
        congr 1
        exact map_id_of_mem (fun k hk => ih k hk _ hm)
      · simp [prettyNode, hc]
    | _ => rfl

theorem prettyNode_mixed_element (ps : PStack) (name : Nat) (ks : List Tree)
    (h : hasInlineChild (.node (.element name) ks) = true ∨ sup.contains name = true) :
    prettyNode sup ps (.node (.element name) ks) = .node (.element name) ks := by
  by_cases hc : (Tree.node (.element name) ks).firstChild?.isSome = true
  · have he : entryFor sup (.node (.element name) ks) = .mixed :=
      (entryFor_mixed_iff sup _ name rfl).mpr h
    have hm : PStack.inMixed (entryFor sup (.node (.element name) ks) :: ps) = true := by
      simp [PStack.inMixed, he]
    have hg : PStack.getNewline (entryFor sup (.node (.element name) ks) :: ps) = false := by
      simp [PStack.getNewline, hm]
    simp only [prettyNode, hc, if_true, gapOf_notGranting hg, gapEnd_notGranting hg, prettyKids_nil_gap, wsNode,
      List.isEmpty_nil, List.append_nil]
    congr 1
    exact map_id_of_mem (fun k _ => prettyNode_mixed sup k _ hm)
  · simp [prettyNode, hc]

/-- In the scope of `xml:space="preserve"` (the innermost `preserve` / `default` among the open elements,
    the element itself included, is `preserve`) no white space node is added among the children; a
    descendant with `xml:space="default"` may get some again. -/
theorem prettyNode_preserve (ps : PStack) (name : Nat) (ks : List Tree)
    (h : PStack.inSpacePreserve (entryFor sup (.node (.element name) ks) :: ps) = true) :
    prettyNode sup ps (.node (.element name) ks) =
      .node (.element name) (ks.map (prettyNode sup (entryFor sup (.node (.element name) ks) :: ps))) := by
  by_cases hc : (Tree.node (.element name) ks).firstChild?.isSome = true
  · have hg : PStack.getNewline (entryFor sup (.node (.element name) ks) :: ps) = false := by
      simp [PStack.getNewline, h]
    simp only [prettyNode, hc, if_true, gapOf_notGranting hg, gapEnd_notGranting hg, prettyKids_nil_gap, wsNode,
      List.isEmpty_nil, List.append_nil]
  · have hnone : (Tree.node (.element name) ks).firstChild?.isNone = true :=
      Option.isSome_eq_false_iff.1 (Bool.eq_false_iff.2 hc)
    simp only [prettyNode, hc, Bool.false_eq_true, if_false]
    congr 1
    symm
    apply map_id_of_mem
    intro k hk
    have hab := firstChild_none_abnormal hnone k hk
    cases k with
    | node v kk =>
      cases v <;> simp [Tree.value, Value.isNormal, Value.category] at hab <;> rfl

end XotModel
