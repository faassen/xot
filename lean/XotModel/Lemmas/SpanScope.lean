/-
  C17, scoping at string level: in the tables a parse leaves when it started from tables reachable from
  `Xot::new()`, the id-level prefix lookup over `scopeAt` is "nearest enclosing declaration wins" on the
  declared strings (`scopeStrAt`); and when the content reads back as the document a spelling denotes, those
  frames are the `declsOf` of the start tags of the spelled elements on the path.
-/
import XotModel.Lemmas.SpanSlice
import XotModel.Lemmas.ParseScope
import XotModel.Lemmas.IdMapParseTop
import XotModel.Lemmas.IdMapParseWitness
import XotModel.Lemmas.ParseNsEnv
import XotModel.Lemmas.ParseNs

/-! ## The frames read off the tree

  `parseString_sliced` (Lemmas/SpanSlice.lean) resolves the written prefix of an element / attribute by
  `lookupPrefix` over the ids on `scopeAt p.tree baseStack q`.  Here: the tables a parse leaves behind when it
  started from tables REACHABLE from `Xot::new()` are duplicate-free, start with the empty prefix and hold
  the ids of every namespace node of the tree, hence (`lookupPrefix_str`, C02_scope_strings) the id-level
  lookup IS "nearest enclosing declaration wins" on the declared STRINGS: `scopeStrAt`, the frames of
  (prefix string, namespace URI string) of the namespace nodes of the elements on the path.
-/

namespace XotModel
open IdMap Gen

/-! ### What every reachable interner has: the built-in entries -/

open Witness in
theorem interner_new_env : Interner.new.env = Env.fresh := ofInterner_new

/-- The first entries `Xot::new()` registers stay where they are: every reachable interner meets `EnvBaseNs`. -/
theorem Interner.Reachable.envBaseNs {x : Interner} (h : Interner.Reachable x) : EnvBaseNs x.env := by
  induction h with
  | new =>
    rw [interner_new_env]
    exact ⟨⟨[], rfl⟩, ⟨[], rfl⟩, ⟨(['s', 'p', 'a', 'c', 'e'], 1), [], rfl, by decide⟩⟩
  | addNameNs x l ns _ ih =>
    obtain ⟨t, ht, _⟩ := getIdMut_prefix nameIdBits x.nameLookup (l, ns)
    exact ih.app ⟨⟨[], (List.append_nil _).symm⟩, ⟨[], (List.append_nil _).symm⟩, ⟨t, ht⟩⟩
  | addNamespace x s _ ih =>
    obtain ⟨t, ht, _⟩ := getIdMut_prefix namespaceIdBits x.namespaceLookup s
    exact ih.app ⟨⟨[], (List.append_nil _).symm⟩, ⟨t, ht⟩, ⟨[], (List.append_nil _).symm⟩⟩
  | addPrefix x s _ ih =>
    obtain ⟨t, ht, _⟩ := getIdMut_prefix prefixIdBits x.prefixLookup s
    exact ih.app ⟨⟨t, ht⟩, ⟨[], (List.append_nil _).symm⟩, ⟨[], (List.append_nil _).symm⟩⟩
  | clone x _ ih => exact ih

/-! ### The stack of declarations of a tree whose ids are in range -/

theorem frameValid_declsOf {e : Env} (ks : List Tree) (h : ∀ k ∈ ks, k.idsIn e = true) :
    FrameValid e (sdDeclsOf ks) := by
  intro x hx
  simp only [sdDeclsOf, List.mem_filterMap] at hx
  obtain ⟨k, hk, hkx⟩ := hx
  have hi := h k hk
  cases k with
  | node v ks' =>
    rw [Tree.idsIn, Bool.and_eq_true] at hi
    cases v <;> simp only [Tree.value, reduceCtorEq, Option.some.injEq] at hkx
    subst hkx
    simpa [Value.idsIn] using hi.1

theorem stackValid_inner {e : Env} {v : Value} {ks : List Tree} {stack : NsStack}
    (h : ∀ k ∈ ks, k.idsIn e = true) (hs : StackValid e stack) : StackValid e (innerStack v ks stack) := by
  cases v <;> try exact hs
  intro d hd
  simp only [innerStack, List.mem_cons] at hd
  rcases hd with rfl | hd
  · exact frameValid_declsOf ks h
  · exact hs d hd

theorem stackValid_scopeAt {e : Env} : ∀ (q : Path) (t : Tree) (stack : NsStack), t.idsIn e = true →
    StackValid e stack → StackValid e (scopeAt t stack q) := by
  intro q
  induction q with
  | nil =>
    intro t stack ht hs
    cases t with
    | node v ks =>
      rw [Tree.idsIn, Bool.and_eq_true] at ht
      exact stackValid_inner ((idsInList_iff e ks).1 ht.2) hs
  | cons i rest ih =>
    intro t stack ht hs
    cases t with
    | node v ks =>
      rw [Tree.idsIn, Bool.and_eq_true] at ht
      have hks := (idsInList_iff e ks).1 ht.2
      have hin := stackValid_inner (v := v) hks hs
      simp only [scopeAt]
      cases hk : ks[i]? with
      | none => exact hin
      | some k => exact ih k _ (hks k (List.mem_of_getElem? hk)) hin

theorem stackValid_base {e : Env} (h : EnvBaseNs e) : StackValid e baseStack := by
  obtain ⟨r1, h1⟩ := h.pfx
  obtain ⟨r2, h2⟩ := h.ns
  intro d hd x hx
  simp only [baseStack, List.mem_cons, List.not_mem_nil, or_false] at hd
  rcases hd with rfl | rfl <;>
    (simp only [List.mem_cons, List.not_mem_nil, or_false] at hx; subst hx
     simp only [Env.emptyPrefix, Env.noNamespace, Env.xmlPrefix, Env.xmlNamespace, h1, h2, List.length_cons]; omega)

/-! ### The declared strings in force at a node -/

/-- The namespace declarations in force inside the node at `q`, as STRINGS: one frame per element on the
    path (innermost first, the node itself included) holding (prefix, namespace URI) of its namespace-node
    children in document order, above the two initial bindings. -/
def scopeStrAt (p : Parsed) (q : Path) : List (List (Str × Str)) :=
  strStack p.env (scopeAt p.tree baseStack q)

/-- The tables after an accepted parse from reachable tables. -/
structure ParsedTables (p : Parsed) : Prop where
  nodup : p.env.prefixes.Nodup
  nsNodup : p.env.namespaces.Nodup
  base : EnvBaseNs p.env
  ids : p.tree.idsIn p.env = true

theorem build_envBaseNs {x : Interner} (hx : Interner.Reachable x) {m : Mode} {len : Nat} {ts : List Token}
    {lexErr : Option Nat} {p : Parsed} (hb : build m len x.env ts lexErr = .ok p) : EnvBaseNs p.env := by
  have he : (x.parse ts).env = p.env := (Interner.parse_build hx.inv m len ts lexErr).1 p hb
  obtain ⟨⟨a, ha⟩, ⟨b, hb'⟩, ⟨c, hc⟩⟩ := (Interner.regAll_mono (buildRegs x.env ts) x).prefixOf
  rw [← he]
  exact hx.envBaseNs.app ⟨⟨b, hb'.symm⟩, ⟨a, ha.symm⟩, ⟨c, hc.symm⟩⟩

theorem build_parsedTables {x : Interner} (hx : Interner.Reachable x) {m : Mode} {len : Nat} {ts : List Token}
    {lexErr : Option Nat} {p : Parsed} (hb : build m len x.env ts lexErr = .ok p) : ParsedTables p := by
  have he : (x.parse ts).env = p.env := (Interner.parse_build hx.inv m len ts lexErr).1 p hb
  have hi := Interner.regAll_inv (buildRegs x.env ts) hx.inv
  refine ⟨?_, ?_, build_envBaseNs hx hb, (Interner.parse_tree hb).2⟩
  · rw [← he]; exact hi.pf.nodup
  · rw [← he]; exact hi.ns.nodup

theorem idxOf_eq_zero_iff {e : Env} (hb : EnvBaseNs e) {pfx : Str} :
    e.prefixes.idxOf pfx = Env.emptyPrefix ↔ pfx = [] := by
  obtain ⟨r, h1⟩ := hb.pfx
  rw [h1]
  simp only [Env.emptyPrefix, List.idxOf_cons]
  constructor
  · intro h
    by_cases hc : ([] : Str) = pfx
    · exact hc.symm
    · have : (([] : Str) == pfx) = false := by simpa using hc
      rw [this] at h
      simp at h
  · rintro rfl; simp

/-- The id-level lookup of `NameFacts` read as strings. -/
theorem lookup_scope_str {p : Parsed} (ht : ParsedTables p) (q : Path) (pfx : Str) {ns : Nat}
    (h : lookupPrefix (scopeAt p.tree baseStack q) (p.env.prefixes.idxOf pfx) = some ns) :
    lookupStr (scopeStrAt p q) pfx = some (p.env.namespaceStr ns) := by
  have hv : StackValid p.env (scopeAt p.tree baseStack q) :=
    stackValid_scopeAt q p.tree baseStack ht.ids (stackValid_base ht.base)
  have := lookupPrefix_str ht.nodup pfx _ hv
  have hid : (p.env.internPrefix pfx).2 = p.env.prefixes.idxOf pfx := rfl
  rw [hid, h] at this
  exact this.symm

/-- The scope at a child is the child's own declarations on top of the scope at its parent. -/
theorem scopeAt_snoc : ∀ (q : Path) (i : Nat) (t : Tree) (stack : NsStack) {v : Value} {ks : List Tree}
    {v' : Value} {ks' : List Tree}, t.at? q = some (.node v ks) → ks[i]? = some (.node v' ks') →
    scopeAt t stack (q ++ [i]) = innerStack v' ks' (scopeAt t stack q) := by
  intro q
  induction q with
  | nil =>
    intro i t stack v ks v' ks' hat hk
    cases t with
    | node tv tks =>
      simp only [Tree.at?, Option.some.injEq, Tree.node.injEq] at hat
      obtain ⟨rfl, rfl⟩ := hat
      simp only [List.nil_append, scopeAt, hk]
  | cons j rest ih =>
    intro i t stack v ks v' ks' hat hk
    cases t with
    | node tv tks =>
      simp only [List.cons_append, scopeAt]
      cases hj : tks[j]? with
      | none => simp [Tree.at?, hj] at hat
      | some c =>
        have hat' : c.at? rest = some (.node v ks) := by simpa [Tree.at?, hj] using hat
        exact ih i c _ hat' hk

/-! ### A witness: `<p:a xmlns:p='u'><p:b xmlns:p='w'/><p:c/></p:a>` -/

def scopeWitness : List Token :=
  [.elementStart ⟨['p'], 0⟩ ⟨['a'], 0⟩ ⟨[], 0⟩,
   .attribute ⟨['x', 'm', 'l', 'n', 's'], 0⟩ ⟨['p'], 0⟩ ⟨['u'], 0⟩ ⟨[], 0⟩,
   .elementEnd .open ⟨[], 0⟩,
   .elementStart ⟨['p'], 0⟩ ⟨['b'], 0⟩ ⟨[], 0⟩,
   .attribute ⟨['x', 'm', 'l', 'n', 's'], 0⟩ ⟨['p'], 0⟩ ⟨['w'], 0⟩ ⟨[], 0⟩,
   .elementEnd .empty ⟨[], 0⟩,
   .elementStart ⟨['p'], 0⟩ ⟨['c'], 0⟩ ⟨[], 0⟩,
   .elementEnd .empty ⟨[], 0⟩,
   .elementEnd (.close ⟨['p'], 0⟩ ⟨['a'], 0⟩) ⟨[], 0⟩]

/-- `p:b` (path `0.1`) sees its own `p ↦ w` above `p ↦ u`; `p:c` (path `0.2`) sees `p ↦ u` only; the names
    of the two elements carry these namespaces. -/
def scopeWitnessCheck (r : BuildResult) : Bool :=
  match r with
  | .ok p =>
    (scopeStrAt p [0, 1]).take 2 == [[(['p'], ['w'])], [(['p'], ['u'])]] &&
    (scopeStrAt p [0, 2]).take 2 == [[], [(['p'], ['u'])]] &&
    lookupStr (scopeStrAt p [0, 1]) ['p'] == some ['w'] &&
    lookupStr (scopeStrAt p [0, 2]) ['p'] == some ['u'] &&
    (match p.tree.at? [0, 1] with
     | some (.node (.element id) _) => p.env.namespaceStr (p.env.nsOfName id) == ['w'] && p.env.localName id == ['b']
     | _ => false) &&
    (match p.tree.at? [0, 2] with
     | some (.node (.element id) _) => p.env.namespaceStr (p.env.nsOfName id) == ['u'] && p.env.localName id == ['c']
     | _ => false)
  | _ => false

/-- What `scopeWitnessCheck` says about the element `p:b` at path `0.1`. -/
theorem scopeWitnessCheck_spec {r : BuildResult} (h : scopeWitnessCheck r = true) :
    ∃ p, r = .ok p ∧ (∃ id ks, p.tree.at? [0, 1] = some (.node (.element id) ks) ∧ p.env.localName id = ['b']) ∧
      (scopeStrAt p [0, 1]).take 2 = [[(['p'], ['w'])], [(['p'], ['u'])]] := by
  unfold scopeWitnessCheck at h
  split at h
  · rename_i p
    simp only [Bool.and_eq_true] at h
    obtain ⟨⟨⟨⟨⟨h1, _⟩, _⟩, _⟩, h5⟩, _⟩ := h
    refine ⟨p, rfl, ?_, by simpa using h1⟩
    split at h5
    · rename_i id ks hat
      simp only [Bool.and_eq_true, beq_iff_eq] at h5
      exact ⟨id, ks, hat, h5.2⟩
    · cases h5
  · cases h

end XotModel

/-! ## The frames read off the text

  `scopeStrAt p q` reads the frames off the namespace NODES of the accepted tree.
  When the content of the document node reads back (`decodeNs`) as the document a spelling `sns` denotes
  (C03_string_accepted_is_denoted: true of every accepted text, `sns` having the text's tokens), the frames
  are those of the spelling: there is a chain of spelled elements `e₁ ∋ e₂ ∋ … ∋ e_k` (`NsPath`: `e₁` a
  top-level node of the spelling, each next one a child of the one before) such that the frames at `q` are,
  innermost first, `declsOf` of the start-tag items of `e_k, …, e₁` — for every `xmlns:p="…"` / `xmlns="…"`
  item of that start tag, in the order written, (`p`, the value decoded as an attribute value).
-/

namespace XotModel

/-! ### Chains of spelled elements -/

def NSNode.startAttrs : NSNode → List NSAttr
  | .elem _ _ _ attrs _ _ _ _ _ => attrs
  | .empty _ _ _ attrs _ => attrs
  | _ => []

def NSNode.content : NSNode → List NSNode
  | .elem _ _ _ _ _ kids _ _ _ => kids
  | _ => []

/-- The local name a start tag writes (empty for a non-element). -/
def NSNode.nameLoc : NSNode → Str
  | .elem _ loc _ _ _ _ _ _ _ => loc.text
  | .empty _ loc _ _ _ => loc.text
  | _ => []

/-- The prefix a start tag writes. -/
def NSNode.namePfx : NSNode → Str
  | .elem pfx _ _ _ _ _ _ _ _ => pfx.text
  | .empty pfx _ _ _ _ => pfx.text
  | _ => []

def NSNode.isElement : NSNode → Bool
  | .elem _ _ _ _ _ _ _ _ _ => true
  | .empty _ _ _ _ _ => true
  | _ => false

/-- `chain` (outermost first) descends through the spelling: its head is an element among `cands`, the next
    one an element among the head's children, and so on. -/
def NsPath : List NSNode → List NSNode → Prop
  | _, [] => True
  | cands, e :: rest => e ∈ cands ∧ e.isElement = true ∧ NsPath e.content rest

/-- The frames a chain contributes, innermost first: the declarations each start tag writes, decoded. -/
def chainFrames (chain : List NSNode) : List (List (Str × Str)) :=
  chain.reverse.map fun e => declsOf e.startAttrs

/-! ### Reading an id tree back, piecewise -/

theorem decodeItems_get {env : Env} : ∀ (ks : List Tree) (items : List NItem) (i : Nat) (k : Tree),
    decodeNsTree.decodeItems env ks = some items → ks[i]? = some k →
    ∃ a, decodeNsTree env k = some a ∧ a ∈ items := by
  intro ks
  induction ks with
  | nil => intro items i k _ hk; simp at hk
  | cons x xs ih =>
    intro items i k h hk
    obtain ⟨a, as, hx, hxs, rfl⟩ := decodeItems_cons_some h
    cases i with
    | zero =>
      simp only [List.getElem?_cons_zero, Option.some.injEq] at hk
      subst hk
      exact ⟨a, hx, by simp⟩
    | succ j =>
      simp only [List.getElem?_cons_succ] at hk
      obtain ⟨b, hb, hm⟩ := ih as j k hxs hk
      exact ⟨b, hb, by simp [hm]⟩

theorem decodeNsTree_kids {env : Env} {v : Value} {ks : List Tree} {x : NItem}
    (h : decodeNsTree env (.node v ks) = some x) (hne : ks ≠ []) : ∃ n, v = .element n := by
  cases v with
  | element n => exact ⟨n, rfl⟩
  | _ =>
    cases ks with
    | nil => exact absurd rfl hne
    | cons _ _ => simp [decodeNsTree] at h

/-- What a child reads back as, as a declaration: exactly the namespace nodes do. -/
theorem decodeNsTree_decl {env : Env} {k : Tree} {a : NItem} (h : decodeNsTree env k = some a) :
    a.decl? = (match k.value with
      | .namespace p n => some (env.prefixStr p, env.namespaceStr n)
      | _ => none) := by
  cases k with
  | node v ks =>
    cases v with
    | element n =>
      obtain ⟨items, _, rfl⟩ := decodeNsTree_element h
      rfl
    | document => simp [decodeNsTree] at h
    | _ =>
      -- a leaf: it reads back as the item of its own kind
      cases ks with
      | nil => simp only [decodeNsTree, Option.some.injEq] at h; subst h; rfl
      | cons _ _ => simp [decodeNsTree] at h

/-- The declarations an element reads back with are the frame `scopeAt` pushes for it. -/
theorem decodeItems_decls {env : Env} : ∀ (ks : List Tree) (items : List NItem),
    decodeNsTree.decodeItems env ks = some items →
    items.filterMap NItem.decl? = strFrame env (sdDeclsOf ks) := by
  intro ks
  induction ks with
  | nil =>
    intro items h
    simp only [decodeNsTree.decodeItems, Option.some.injEq] at h
    subst h; rfl
  | cons x xs ih =>
    intro items h
    obtain ⟨a, as, hx, hxs, rfl⟩ := decodeItems_cons_some h
    have hd := decodeNsTree_decl hx
    have ihx := ih as hxs
    simp only [strFrame, sdDeclsOf] at ihx ⊢
    simp only [List.filterMap_cons, hd]
    cases hv : x.value <;> simp only [hv] <;> try exact ihx
    simp only [List.map_cons, ihx]

/-! ### What a spelling denotes, piecewise -/

theorem mem_denoteList {scope : Scope} {d : NPNode} : ∀ (cands : List NSNode),
    d ∈ NSNode.denote.denoteList scope cands → ∃ e ∈ cands, d ∈ NSNode.denote scope e
  | [], h => by simp [NSNode.denote.denoteList] at h
  | c :: cs, h => by
    simp only [NSNode.denote.denoteList, List.mem_append] at h
    rcases h with h | h
    · exact ⟨c, by simp, h⟩
    · obtain ⟨e, he, hd⟩ := mem_denoteList cs h
      exact ⟨e, by simp [he], hd⟩

theorem denote_elem {scope : Scope} {e : NSNode} {ns loc : Str} {decls : List (Str × Str)}
    {attrs : List ((Str × Str) × Str)} {kids : List NPNode}
    (h : NPNode.elem ns loc decls attrs kids ∈ NSNode.denote scope e) :
    e.isElement = true ∧ decls = declsOf e.startAttrs ∧
      kids = NSNode.denote.denoteList (scope.push (declsOf e.startAttrs)) e.content ∧ loc = e.nameLoc := by
  cases e with
  | elem pfx l junk as openSp ks cpfx cloc closeSp =>
    simp only [NSNode.denote, List.mem_singleton, NPNode.elem.injEq] at h
    exact ⟨rfl, h.2.2.1, h.2.2.2.2, h.2.1⟩
  | empty pfx l junk as endSp =>
    simp only [NSNode.denote, List.mem_singleton, NPNode.elem.injEq] at h
    exact ⟨rfl, h.2.2.1, by rw [h.2.2.2.2]; rfl, h.2.1⟩
  | chars parts =>
    simp only [NSNode.denote] at h
    split at h <;> simp at h
  | comment t j => simp [NSNode.denote] at h
  | pi t c j => simp [NSNode.denote] at h

theorem mapM_node_mem : ∀ (items : List NItem) (ds : List NPNode), items.mapM NItem.node? = some ds →
    ∀ a ∈ items, ∃ d, a = .node d ∧ d ∈ ds := by
  intro items
  induction items with
  | nil => intro ds _ a ha; simp at ha
  | cons x xs ih =>
    intro ds h a ha
    rw [List.mapM_cons] at h
    cases hx : NItem.node? x with
    | none => simp [hx] at h
    | some d0 =>
      cases hxs : xs.mapM NItem.node? with
      | none => simp [hx, hxs] at h
      | some ds0 =>
        simp only [hx, hxs, Option.bind_eq_bind, Option.bind_some, Option.pure_def, Option.some.injEq] at h
        subst h
        rcases List.mem_cons.mp ha with rfl | ha'
        · cases a with
          | node d => simp only [NItem.node?, Option.some.injEq] at hx; subst hx; exact ⟨d, rfl, by simp⟩
          | decl _ => simp [NItem.node?] at hx
          | attr _ => simp [NItem.node?] at hx
        · obtain ⟨d, hd, hm⟩ := ih ds0 hxs a ha'
          exact ⟨d, hd, by simp [hm]⟩

/-! ### The frames along a path -/

theorem scope_frames_node {env : Env} : ∀ (q : Path) (t : Tree) (stack : NsStack) (scope : Scope)
    (cands : List NSNode) (d : NPNode) (id : Nat) (ks' : List Tree),
    decodeNsTree env t = some (.node d) → d ∈ NSNode.denote.denoteList scope cands →
    t.at? q = some (.node (.element id) ks') →
    ∃ chain, chain ≠ [] ∧ NsPath cands chain ∧
      strStack env (scopeAt t stack q) = chainFrames chain ++ strStack env stack ∧
      ∃ e, chain.getLast? = some e ∧ e.nameLoc = (env.expanded id).2 := by
  intro q
  induction q with
  | nil =>
    intro t stack scope cands d id ks' hdec hd hat
    simp only [Tree.at?, Option.some.injEq] at hat
    subst hat
    obtain ⟨items, hitems, hx⟩ := decodeNsTree_element hdec
    simp only [NItem.node.injEq] at hx
    subst hx
    obtain ⟨e, he, hde⟩ := mem_denoteList cands hd
    obtain ⟨h1, h2, _, h4⟩ := denote_elem hde
    refine ⟨[e], by simp, ⟨he, h1, trivial⟩, ?_, e, rfl, h4.symm⟩
    simp only [scopeAt, innerStack, strStack, List.map_cons, chainFrames, List.reverse_singleton,
      List.map_nil, List.singleton_append]
    rw [← h2, decodeItems_decls ks' items hitems]
  | cons i rest ih =>
    intro t stack scope cands d id ks' hdec hd hat
    cases t with
    | node v ks =>
      cases hk : ks[i]? with
      | none => simp [Tree.at?, hk] at hat
      | some k =>
        have hat' : k.at? rest = some (.node (.element id) ks') := by simpa [Tree.at?, hk] using hat
        have hne : ks ≠ [] := by intro e; rw [e] at hk; simp at hk
        obtain ⟨n, rfl⟩ := decodeNsTree_kids hdec hne
        obtain ⟨items, hitems, hx⟩ := decodeNsTree_element hdec
        simp only [NItem.node.injEq] at hx
        subst hx
        obtain ⟨e, he, hde⟩ := mem_denoteList cands hd
        obtain ⟨h1, h2, h3, _⟩ := denote_elem hde
        obtain ⟨a, ha, ham⟩ := decodeItems_get ks items i k hitems hk
        -- the child on the path is an element, so it reads back as a node
        have hkel : ∃ n' ks'', k = .node (.element n') ks'' := by
          cases rest with
          | nil => simp only [Tree.at?, Option.some.injEq] at hat'; exact ⟨id, ks', hat'⟩
          | cons j r =>
            cases k with
            | node kv kks =>
              have : kks ≠ [] := by
                intro e0; subst e0; simp [Tree.at?] at hat'
              obtain ⟨n', rfl⟩ := decodeNsTree_kids ha this
              exact ⟨n', kks, rfl⟩
        obtain ⟨n', ks'', rfl⟩ := hkel
        obtain ⟨items', _, ha'⟩ := decodeNsTree_element ha
        subst ha'
        have hmem : NPNode.elem (env.expanded n').1 (env.expanded n').2 (items'.filterMap NItem.decl?)
            (items'.filterMap NItem.attr?) (items'.filterMap NItem.node?) ∈ items.filterMap NItem.node? := by
          rw [List.mem_filterMap]
          exact ⟨_, ham, rfl⟩
        rw [h3] at hmem
        obtain ⟨chain, hcne, hpath, hfr, el, hlast, hloc⟩ := ih (.node (.element n') ks'')
          (innerStack (.element n) ks stack) _ e.content _ id ks' ha hmem hat'
        have hlast' : (e :: chain).getLast? = some el := by
          cases chain with
          | nil => exact absurd rfl hcne
          | cons c cs => rw [List.getLast?_cons_cons]; exact hlast
        refine ⟨e :: chain, by simp, ⟨he, h1, hpath⟩, ?_, el, hlast', hloc⟩
        simp only [scopeAt, hk]
        rw [hfr]
        simp only [innerStack, strStack, List.map_cons, chainFrames, List.reverse_cons, List.map_append,
          List.map_nil, List.append_assoc, List.singleton_append]
        rw [← h2, decodeItems_decls ks items hitems]

/-- From the document node: the content reads back as the document `sns` denotes. -/
theorem scope_frames_document {env : Env} {kids : List Tree} {sns : List NSNode}
    (hdec : decodeNs env kids = some (NSNode.denote.denoteList baseScope sns))
    {q : Path} {id : Nat} {ks' : List Tree}
    (hat : (Tree.node .document kids).at? q = some (.node (.element id) ks')) (stack : NsStack) :
    ∃ chain, chain ≠ [] ∧ NsPath sns chain ∧
      strStack env (scopeAt (.node .document kids) stack q) = chainFrames chain ++ strStack env stack ∧
      ∃ e, chain.getLast? = some e ∧ e.nameLoc = (env.expanded id).2 := by
  cases q with
  | nil => simp [Tree.at?] at hat
  | cons i rest =>
    cases hk : kids[i]? with
    | none => simp [Tree.at?, hk] at hat
    | some k =>
      have hat' : k.at? rest = some (.node (.element id) ks') := by simpa [Tree.at?, hk] using hat
      unfold decodeNs at hdec
      cases hitems : decodeNsTree.decodeItems env kids with
      | none => simp [hitems] at hdec
      | some items =>
        simp only [hitems] at hdec
        obtain ⟨a, ha, ham⟩ := decodeItems_get kids items i k hitems hk
        obtain ⟨d, rfl, hd⟩ := mapM_node_mem items _ hdec a ham
        obtain ⟨chain, h1, h2, h3, h4⟩ := scope_frames_node rest k (innerStack .document kids stack) baseScope sns d
          id ks' ha hd hat'
        refine ⟨chain, h1, h2, ?_, h4⟩
        simp only [scopeAt, hk]
        exact h3

/-! ### The bottom of the stack as strings -/

/-- The two frames at the bottom, as strings, in tables that meet `EnvBaseNs`. -/
theorem strStack_base {e : Env} (h : EnvBaseNs e) :
    strStack e baseStack = [[([], [])], [(['x', 'm', 'l'], xmlNsUri)]] := by
  obtain ⟨r1, h1⟩ := h.pfx
  obtain ⟨r2, h2⟩ := h.ns
  simp only [strStack, strFrame, baseStack, Env.prefixStr, Env.namespaceStr, h1, h2, Env.emptyPrefix, Env.noNamespace,
    Env.xmlPrefix, Env.xmlNamespace, List.map_cons, List.map_nil, List.getD_cons_zero, List.getD_cons_succ]

end XotModel
