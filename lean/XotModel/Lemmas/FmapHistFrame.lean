/-
  Lemmas for C11 histories: the frame for ALL the other nodes of the forest.

  `SameViews f f' x`: both views of the node `x` (entry nodes with their handles and values) and
  its being an element are the same in `f` and `f'`.  `frame_withKids`: replacing, in the child
  list of `e`, a run of entry leaves by another run of entry leaves leaves every node other
  than `e` with the same views.
-/
import XotModel.Lemmas.FmapMove
import XotModel.Model.FmapSpec2

namespace XotModel
namespace Fmap
open HTree
open Forest (MapKind entryKey mapChildren)

/-- The (handle, value) pairs of the entry nodes of a view, in order: `abs`, `absNodes` and
    `absKN` are projections of it. -/
def absHV (k : MapKind) (f : Forest) (e : Nat) : List (Nat × Value) :=
  match f.get? e with
  | some t => (mapChildren k t).map hv
  | none => []

theorem abs_of_absHV (k : MapKind) (f : Forest) (e : Nat) :
    abs k f e = (absHV k f e).map (fun p => (entryKey p.2, payloadOf p.2)) := by
  unfold Fmap.abs absHV absT
  cases f.get? e with
  | none => rfl
  | some t => simp only [List.map_map]; rfl

theorem absNodes_of_absHV (k : MapKind) (f : Forest) (e : Nat) :
    absNodes k f e = (absHV k f e).map (·.1) := by
  unfold absNodes absHV
  cases f.get? e with
  | none => rfl
  | some t => simp only [List.map_map]; rfl

theorem absKN_of_absHV (k : MapKind) (f : Forest) (e : Nat) :
    absKN k f e = (absHV k f e).map (fun p => (entryKey p.2, p.1)) := by
  unfold absKN absHV
  cases f.get? e with
  | none => rfl
  | some t => simp only [List.map_map]; rfl

theorem absNodes_of_absKN (k : MapKind) (f : Forest) (e : Nat) :
    absNodes k f e = (absKN k f e).map (·.2) := by
  rw [absNodes_of_absHV, absKN_of_absHV, List.map_map]; rfl

theorem absHV_shallow (k : MapKind) (f : Forest) (e : Nat) :
    absHV k f e = match (f.get? e).map shallow with
      | some s => kidsOfP k s.2
      | none => [] := by
  unfold absHV
  cases f.get? e with
  | none => rfl
  | some t =>
    simp only [Option.map_some, shallow]
    rw [mapChildren_eq, kidsOf_hv]

/-- The node `x` has the same views and the same element-ness in `f` and in `f'`. -/
structure SameViews (f f' : Forest) (x : Nat) : Prop where
  hv : ∀ k, absHV k f' x = absHV k f x
  elem : f'.isElement x = f.isElement x

theorem SameViews.refl (f : Forest) (x : Nat) : SameViews f f x := ⟨fun _ => rfl, rfl⟩

theorem SameViews.trans {f f1 f2 : Forest} {x : Nat} (a : SameViews f f1 x) (b : SameViews f1 f2 x) :
    SameViews f f2 x :=
  ⟨fun k => (b.hv k).trans (a.hv k), b.elem.trans a.elem⟩

theorem SameViews.abs {f f' : Forest} {x : Nat} (s : SameViews f f' x) (k : MapKind) :
    abs k f' x = abs k f x := by
  rw [abs_of_absHV, abs_of_absHV, s.hv k]

theorem SameViews.nodes {f f' : Forest} {x : Nat} (s : SameViews f f' x) (k : MapKind) :
    absNodes k f' x = absNodes k f x := by
  rw [absNodes_of_absHV, absNodes_of_absHV, s.hv k]

theorem SameViews.kn {f f' : Forest} {x : Nat} (s : SameViews f f' x) (k : MapKind) :
    absKN k f' x = absKN k f x := by
  rw [absKN_of_absHV, absKN_of_absHV, s.hv k]

theorem sameViews_of_shallow {f f' : Forest} {x : Nat}
    (h : (f'.get? x).map shallow = (f.get? x).map shallow) : SameViews f f' x := by
  refine ⟨fun k => ?_, (views_of_shallow f f' x h).2.2.1⟩
  rw [absHV_shallow, absHV_shallow, h]

theorem sameViews_of_get {f f' : Forest} {x : Nat} (h : f'.get? x = f.get? x) : SameViews f f' x :=
  sameViews_of_shallow (by rw [h])

/-- `x` is not in the forest, or is a childless node that is not an element (an attribute or
    namespace node). -/
def Entryish (f : Forest) (x : Nat) : Prop :=
  ∀ t, f.get? x = some t → t.kids = [] ∧ t.value.isElement = false

theorem entryish_of_none {f : Forest} {x : Nat} (h : f.get? x = none) : Entryish f x := by
  intro t ht; rw [h] at ht; cases ht

theorem entryish_of_get {f : Forest} {x : Nat} {t : HTree} (h : f.get? x = some t)
    (hk : t.kids = []) (hv : t.value.isElement = false) : Entryish f x := by
  intro t' ht'; rw [h] at ht'; cases ht'; exact ⟨hk, hv⟩

theorem Entryish.absHV_nil {f : Forest} {x : Nat} (h : Entryish f x) (k : MapKind) :
    absHV k f x = [] := by
  unfold absHV
  cases hg : f.get? x with
  | none => rfl
  | some t =>
    simp only
    rw [mapChildren_eq, (h t hg).1]
    cases k <;> rfl

theorem Entryish.isElement {f : Forest} {x : Nat} (h : Entryish f x) : f.isElement x = false := by
  unfold Forest.isElement Forest.value?
  cases hg : f.get? x with
  | none => rfl
  | some t => simp [(h t hg).2]

theorem sameViews_of_entryish {f f' : Forest} {x : Nat} (h1 : Entryish f x) (h2 : Entryish f' x) :
    SameViews f f' x :=
  ⟨fun k => by rw [h1.absHV_nil, h2.absHV_nil], by rw [h1.isElement, h2.isElement]⟩

theorem isElement_false_of_cat (v : Value) (h : v.category ≠ .normal) : v.isElement = false := by
  cases v <;> simp [Value.category, Value.isElement] at h ⊢

/-! ### Lookups in a child list whose entry leaves changed -/

theorem handlesList_leaves (m : List HTree) (hm : ∀ c ∈ m, c.kids = []) :
    handlesList m = m.map (·.handle) := by
  induction m with
  | nil => rfl
  | cons c m ih =>
    simp only [handlesList, List.map_cons]
    rw [handles_eq, hm c List.mem_cons_self, ih (fun x hx => hm x (List.mem_cons_of_mem _ hx))]
    simp [handlesList]

theorem findList?_leaves_none (x : Nat) (m : List HTree) (hm : ∀ c ∈ m, c.kids = [])
    (hx : x ∉ m.map (·.handle)) : findList? x m = none := by
  apply findList?_none_of_not_mem
  rw [handlesList_leaves m hm]
  exact hx

theorem findList?_skip_leaves (x : Nat) (a m b : List HTree) (hm : ∀ c ∈ m, c.kids = [])
    (hx : x ∉ m.map (·.handle)) : findList? x (a ++ m ++ b) = findList? x (a ++ b) := by
  rw [findList?_append, findList?_append, findList?_append, findList?_leaves_none x m hm hx]
  simp

theorem not_mem_withKids (roots : List HTree) (e : Nat) (ev : Value) (ks ks' : List HTree)
    (hnd : (handlesList roots).Nodup) (hf : findList? e roots = some (.node e ev ks)) (x : Nat)
    (hx : x ∈ handlesList ks) (hx' : x ∉ handlesList ks') : x ∉ handlesList (withKids roots e ks') := by
  obtain ⟨pre, post, h1, h2⟩ :=
    handlesList_mapAtList_split e (atKids (fun _ => ks')) roots _ hnd hf
  unfold withKids
  rw [h2]
  rw [h1] at hnd
  have ha := List.nodup_append.mp hnd
  have hb := List.nodup_append.mp ha.1
  have hxt : x ∈ handles (.node e ev ks) := by simp only [handles, List.mem_cons]; exact Or.inr hx
  have hne : x ≠ e := by
    intro hh
    have := hb.2.1
    simp only [handles, List.nodup_cons] at this
    exact this.1 (hh ▸ hx)
  intro hm
  simp only [List.mem_append] at hm
  rcases hm with (hm | hm) | hm
  · exact hb.2.2 _ hm _ hxt rfl
  · change x ∈ handles (.node e ev ks') at hm
    simp only [handles, List.mem_cons] at hm
    rcases hm with hm | hm
    · exact hne hm
    · exact hx' hm
  · exact ha.2.2 _ (List.mem_append_right _ hxt) _ hm rfl

/-- The frame.  In the child list of `e` the run `m` of entry leaves is replaced by the run `m'`
    of entry leaves (each new leaf is an old one of the run or was not in the forest): every
    node other than `e` keeps its views. -/
theorem frame_withKids {f f' : Forest} {e : Nat} {ev : Value} (pre m m' post : List HTree)
    (hl : Located f e ev (pre ++ m ++ post))
    (hr : f'.roots = withKids f.roots e (pre ++ m' ++ post))
    (hl' : Located f' e ev (pre ++ m' ++ post))
    (hm : ∀ c ∈ m, c.kids = [] ∧ c.value.isElement = false)
    (hm' : ∀ c ∈ m', c.kids = [] ∧ c.value.isElement = false)
    (hnew : ∀ c ∈ m', c.handle ∈ m.map (·.handle) ∨ f.get? c.handle = none)
    (x : Nat) (hx : x ≠ e) : SameViews f f' x := by
  have hin : ∀ c ∈ m, c ∈ pre ++ m ++ post := fun c hc =>
    List.mem_append_left _ (List.mem_append_right _ hc)
  have hin' : ∀ c ∈ m', c ∈ pre ++ m' ++ post := fun c hc =>
    List.mem_append_left _ (List.mem_append_right _ hc)
  have old : x ∈ m.map (·.handle) → Entryish f x := by
    intro h
    obtain ⟨c, hc, rfl⟩ := List.mem_map.mp h
    exact entryish_of_get (hl.childFound c (hin c hc)) (hm c hc).1 (hm c hc).2
  by_cases h1 : x ∈ m'.map (·.handle)
  · obtain ⟨c, hc, hcx⟩ := List.mem_map.mp h1
    have e2 : Entryish f' x := by
      rw [← hcx]
      exact entryish_of_get (hl'.childFound c (hin' c hc)) (hm' c hc).1 (hm' c hc).2
    have e1 : Entryish f x := by
      rcases hnew c hc with h | h
      · rw [← hcx]; rw [hcx]; exact old (hcx ▸ h)
      · rw [← hcx]; exact entryish_of_none h
    exact sameViews_of_entryish e1 e2
  · by_cases h2 : x ∈ m.map (·.handle)
    · refine sameViews_of_entryish (old h2) (entryish_of_none ?_)
      show findList? x f'.roots = none
      rw [hr]
      apply findList?_none_of_not_mem
      have hkn := hl.kidsNodup.1
      rw [handlesList_append, handlesList_append] at hkn
      have hmh : handlesList m = m.map (·.handle) := handlesList_leaves m (fun c hc => (hm c hc).1)
      have hmh' : handlesList m' = m'.map (·.handle) :=
        handlesList_leaves m' (fun c hc => (hm' c hc).1)
      have ha := List.nodup_append.mp hkn
      have hb := List.nodup_append.mp ha.1
      apply not_mem_withKids f.roots e ev _ _ hl.nodup hl.get x
      · rw [handlesList_append, handlesList_append, hmh]
        exact List.mem_append_left _ (List.mem_append_right _ h2)
      · rw [handlesList_append, handlesList_append, hmh']
        simp only [List.mem_append, not_or]
        refine ⟨⟨?_, h1⟩, ?_⟩
        · intro hp; exact hb.2.2 _ hp _ (hmh ▸ h2) rfl
        · intro hp
          exact ha.2.2 _ (List.mem_append_right _ (hmh ▸ h2)) _ hp rfl
    · apply sameViews_of_shallow
      have hH : (findList? x (pre ++ m' ++ post)).map shallow =
          (findList? x (pre ++ m ++ post)).map shallow := by
        rw [findList?_skip_leaves x pre m' post (fun c hc => (hm' c hc).1) h1,
          findList?_skip_leaves x pre m post (fun c hc => (hm c hc).1) h2]
      have := shallow_findList?_withKids e x ev _ _ hx hH f.roots hl.nodup hl.get
      show (findList? x f'.roots).map shallow = _
      rw [hr]
      exact this

end Fmap
end XotModel
