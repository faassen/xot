/-
  The three stepwise construction routes.  Bottom-up (children first, then the parent, `append` in order) and
  right-to-left (`prepend`, then `insert_before` the sibling attached before) work on parentless parents; top-down
  appends every node to its already attached parent, which sits anywhere inside the tree (algebra of `mapAt` /
  `appKids`).  Each adds one tree that erases to the document.
-/
import XotModel.Lemmas.FfixedDocument

/-! ### Bottom-up -/

namespace XotModel
open HTree

namespace Forest

/-- The `append` loop when the children are roots right *before* the parent. -/
theorem appendAllOk_before {A B : List HTree} {p : Nat} {v : Value}
    (hpv : v.isElement = true ∨ v.isDocument = true) : ∀ (ts : List HTree) (f : Forest)
    (ks : List HTree), f.roots = A ++ (ts ++ HTree.node p v ks :: B) → Good f →
    (∀ t ∈ ts, t.value.isNormal = true ∧ t.value.isDocument = false) →
    (f.consolidation = true → noAdjacentText (ks ++ ts) = true) →
    f.appendAllOk p (ts.map HTree.handle) = some { f with roots := A ++ HTree.node p v (ks ++ ts) :: B }
  | [] => by
    intro f ks hroots _ _ _
    simp only [List.map_nil, appendAllOk, List.append_nil]
    simp only [List.nil_append] at hroots
    rw [← hroots]
  | t :: ts => by
    intro f ks hroots hg hnorm htext
    have hR : RootAt f A t (ts ++ HTree.node p v ks :: B) := ⟨by simp [hroots], hg.nodup⟩
    have hXY : A ++ (ts ++ HTree.node p v ks :: B) = (A ++ ts) ++ HTree.node p v ks :: B := by simp
    have happ := hR.append_root hXY hpv (hnorm t (by simp)).1 (hnorm t (by simp)).2 (by
      intro hc ht k hk
      obtain ⟨k1, rfl⟩ := List.getLast?_eq_some_iff.1 hk
      have := noAdjacentText_last k1 k t ts (by simpa using htext hc)
      cases hkt : k.value.isText with
      | false => rfl
      | true => exact absurd ⟨hkt, ht⟩ this)
    simp only [List.map_cons, appendAllOk]
    rw [appendOk_eq happ]
    simp only
    have hg' : Good { f with roots := (A ++ ts) ++ HTree.node p v (ks ++ [t]) :: B } := by
      refine Good.of_count_eq (f' := { f with roots := (A ++ ts) ++ HTree.node p v (ks ++ [t]) :: B })
        hg (Nat.le_refl f.next) ?_
      intro a
      show (handlesList ((A ++ ts) ++ HTree.node p v (ks ++ [t]) :: B)).count a = _
      rw [count_move_last hXY a, hR.roots]
    rw [appendAllOk_before (A := A) (B := B) hpv ts _ (ks ++ [t]) (by simp) hg'
      (fun x hx => hnorm x (List.mem_cons_of_mem _ hx))
      (by intro hc; simpa using htext hc)]
    simp

mutual
  theorem bottomUpContent_spec : ∀ (c : FContent) (f : Forest), Good f → c.wf f.consolidation = true →
      ∃ t, Built f.next c t ∧
        bottomUpContent f c = some ({ f with roots := f.roots ++ [t], next := f.next + c.size }, t.handle)
    | .text s => fun f _ _ => ⟨.node f.next (.text s) [], Built.leaf _ _ _ rfl rfl, rfl⟩
    | .comment s => fun f _ _ => ⟨.node f.next (.comment s) [], Built.leaf _ _ _ rfl rfl, rfl⟩
    | .pi t d => fun f _ _ => ⟨.node f.next (.pi t d) [], Built.leaf _ _ _ rfl rfl, rfl⟩
    | .element nm ps as cs => by
      intro f hg hwf
      obtain ⟨hps, has, hadj, hwfl⟩ := FContent.wf_element hwf
      obtain ⟨ts, hts, hlist⟩ := bottomUpList_spec cs f hg hwfl
      let f1 : Forest := { f with roots := f.roots ++ ts, next := f.next + FContent.sizeList cs }
      have hg1 : Good f1 := hg.add_roots ts _ hts.nodup hts.bounds (by omega)
      have hhead := newElementWithMaps_spec f1 hg1 nm ps as hps has
      let el := f1.next
      let K := headKids el ps as
      let f2 : Forest := { f1 with roots := f1.roots ++ [HTree.node el (.element nm) K],
                                   next := el + 1 + ps.length + as.length }
      have hg2 : Good f2 := good_add_head hg1 nm ps as
      have hroots2 : f2.roots = f.roots ++ (ts ++ HTree.node el (.element nm) K :: []) := by
        simp [f2, f1]
      have happ := appendAllOk_before (A := f.roots) (B := []) (p := el) (v := .element nm)
        (Or.inl rfl) ts f2 K hroots2 hg2 (built_normal ts cs hts.erase)
        (element_adjacency (f := f) hts.erase hadj)
      refine ⟨HTree.node el (.element nm) (K ++ ts), ?_, ?_⟩
      · exact built_element f.next hts (by simp only [el, f1, FContent.size]; omega)
          (by simp only [FContent.size]; omega) (Or.inl (by simp only [el, f1]; omega))
      · unfold bottomUpContent
        rw [hlist]
        simp only
        rw [hhead]
        simp only
        rw [happ]
        simp only [f2, f1, el, FContent.size, HTree.handle, Option.some.injEq, Prod.mk.injEq, and_true]
        congr 1
        omega
  theorem bottomUpList_spec : ∀ (cs : List FContent) (f : Forest), Good f →
      FContent.wfList f.consolidation cs = true →
      ∃ ts, BuiltL f.next cs ts ∧
        bottomUpList f cs = some ({ f with roots := f.roots ++ ts, next := f.next + FContent.sizeList cs },
          ts.map HTree.handle)
    | [] => fun f _ _ => ⟨[], BuiltL.nil _, by simp [bottomUpList, FContent.sizeList]⟩
    | c :: cs => by
      intro f hg hwf
      simp only [FContent.wfList, Bool.and_eq_true] at hwf
      obtain ⟨t, ht, hc⟩ := bottomUpContent_spec c f hg hwf.1
      let f1 : Forest := { f with roots := f.roots ++ [t], next := f.next + c.size }
      obtain ⟨ts, hts, hl⟩ := bottomUpList_spec cs f1 (good_add_built hg ht) hwf.2
      refine ⟨t :: ts, BuiltL.cons ht hts, ?_⟩
      · unfold bottomUpList
        rw [hc]
        simp only
        rw [hl]
        simp only [f1, List.map_cons, FContent.sizeList, List.append_assoc,
          List.cons_append, List.nil_append, Option.some.injEq, Prod.mk.injEq, and_true]
        congr 1
        omega
end

end Forest
end XotModel

/-! ### Right-to-left; the document level of both -/

namespace XotModel
open HTree

theorem noAdjacentFText_of_no_text : ∀ (l : List FContent), (∀ c ∈ l, c.isText = false) →
    noAdjacentFText l = true
  | [] => fun _ => rfl
  | [_] => fun _ => rfl
  | a :: b :: rest => by
    intro h
    simp only [noAdjacentFText, Bool.and_eq_true]
    exact ⟨by simp [h a (by simp)],
      noAdjacentFText_of_no_text (b :: rest) (fun c hc => h c (List.mem_cons_of_mem _ hc))⟩

theorem items_no_text (d : FDocument) : ∀ c ∈ d.items, c.isText = false := by
  intro c hc
  simp only [FDocument.items, List.mem_append, List.mem_map, List.mem_cons] at hc
  rcases hc with ⟨b, _, rfl⟩ | rfl | ⟨b, _, rfl⟩
  · cases b <;> rfl
  · rfl
  · cases b <;> rfl

theorem wfList_append (b : Bool) (l1 l2 : List FContent) :
    FContent.wfList b (l1 ++ l2) = (FContent.wfList b l1 && FContent.wfList b l2) := by
  induction l1 with
  | nil => simp [FContent.wfList]
  | cons c cs ih => simp [FContent.wfList, ih, Bool.and_assoc]

theorem wfList_docContent (b : Bool) (l : List FDocContent) :
    FContent.wfList b (l.map FDocContent.toContent) = true := by
  induction l with
  | nil => rfl
  | cons c cs ih => cases c <;> simp [FContent.wfList, FDocContent.toContent, FContent.wf, ih]

theorem items_wfList (d : FDocument) (b : Bool) (h : d.wf b = true) :
    FContent.wfList b d.items = true := by
  unfold FDocument.items
  rw [wfList_append]
  simp only [FContent.wfList, wfList_docContent, Bool.and_true, Bool.true_and]
  exact h

theorem built_document {f : Forest} (hg : Good f) (d : FDocument) {ts : List HTree} {dn lo : Nat}
    (hts : BuiltL lo d.items ts)
    (hdn : f.next ≤ dn ∧ dn < f.next + d.size) (hlo : f.next ≤ lo ∧ lo + FContent.sizeList d.items ≤ f.next + d.size)
    (hdisj : dn < lo ∨ lo + FContent.sizeList d.items ≤ dn) :
    (HTree.node dn .document ts).erase = treeOf d ∧
    Good { f with roots := f.roots ++ [HTree.node dn .document ts], next := f.next + d.size } := by
  refine ⟨by simp [erase, treeOf, hts.erase], ?_⟩
  apply hg.add_roots [HTree.node dn .document ts] _
  · simp only [handlesList, handles, List.append_nil, List.nodup_cons]
    refine ⟨?_, hts.nodup⟩
    intro hh; have := hts.bounds _ hh; omega
  · intro h hh
    simp only [handlesList, handles, List.append_nil, List.mem_cons] at hh
    rcases hh with rfl | hh
    · omega
    · have := hts.bounds h hh; omega
  · omega

theorem Good.add_kids {f : Forest} (hg : Good f) {A K : List HTree} {p : Nat} {v : Value}
    (hroots : f.roots = A ++ [HTree.node p v K]) (ts : List HTree) (n' : Nat)
    (hnd : (handlesList ts).Nodup) (hb : ∀ h ∈ handlesList ts, f.next ≤ h ∧ h < n') (hn : f.next ≤ n') :
    Good { f with roots := A ++ [HTree.node p v (K ++ ts)], next := n' } := by
  refine hg.of_count_add _ n' (handlesList ts) (fun a => ?_) hnd hb hn
  rw [hroots]
  simp only [handlesList_append, handlesList, handles, List.count_append, List.count_cons,
    List.append_nil]
  omega

namespace Forest

theorem bottomUpDocument_spec (f : Forest) (d : FDocument) (hg : Good f)
    (hwf : d.wf f.consolidation = true) :
    ∃ t, f.bottomUpDocument d =
          some ({ f with roots := f.roots ++ [t], next := f.next + d.size }, t.handle) ∧
        t.erase = treeOf d ∧
        Good { f with roots := f.roots ++ [t], next := f.next + d.size } := by
  obtain ⟨ts, hts, hlist⟩ := bottomUpList_spec d.items f hg (items_wfList d _ hwf)
  let f1 : Forest := { f with roots := f.roots ++ ts, next := f.next + FContent.sizeList d.items }
  have hg1 : Good f1 := hg.add_roots ts _ hts.nodup hts.bounds (by omega)
  let dn := f1.next
  let f2 : Forest := { f1 with roots := f1.roots ++ [HTree.node dn .document []], next := dn + 1 }
  have hg2 : Good f2 := hg1.newNode .document
  have happ := appendAllOk_before (A := f.roots) (B := []) (p := dn) (v := .document) (Or.inr rfl)
    ts f2 [] (by simp [f2, f1]) hg2 (built_normal ts _ hts.erase)
    (fun _ => by
      simpa using built_noAdjacentText ts _ hts.erase (noAdjacentFText_of_no_text _ (items_no_text d)))
  obtain ⟨he, hgood⟩ := built_document hg d (dn := dn) hts
    (by simp only [dn, f1, FDocument.size]; omega) (by simp only [FDocument.size]; omega)
    (Or.inr (by simp only [dn, f1]; omega))
  refine ⟨HTree.node dn .document ts, ?_, he, hgood⟩
  unfold bottomUpDocument
  rw [hlist]
  simp only [newDocument, newNode]
  show (match f2.appendAllOk dn (ts.map HTree.handle) with
    | none => none
    | some f3 => some (f3, dn)) = _
  rw [happ]
  simp only [f2, f1, dn, FDocument.size, List.nil_append, HTree.handle, Option.some.injEq,
    Prod.mk.injEq, and_true]
  congr 1
  omega

theorem attachFirst_prepend {f f' : Forest} {p h : Nat} (hp : f.prepend p h = (f', .ok)) :
    f.attachFirst p none h = some f' := by
  unfold attachFirst; simp only; rw [hp]

theorem attachFirst_insert {f f' : Forest} {p n h : Nat} (hp : f.insertBefore n h = (f', .ok)) :
    f.attachFirst p (some n) h = some f' := by
  unfold attachFirst; simp only; rw [hp]

mutual
  theorem rtlContent_spec : ∀ (c : FContent) (f : Forest), Good f → c.wf f.consolidation = true →
      ∃ t, Built f.next c t ∧
        rtlContent f c = some ({ f with roots := f.roots ++ [t], next := f.next + c.size }, t.handle)
    | .text s => fun f _ _ => ⟨.node f.next (.text s) [], Built.leaf _ _ _ rfl rfl, rfl⟩
    | .comment s => fun f _ _ => ⟨.node f.next (.comment s) [], Built.leaf _ _ _ rfl rfl, rfl⟩
    | .pi t d => fun f _ _ => ⟨.node f.next (.pi t d) [], Built.leaf _ _ _ rfl rfl, rfl⟩
    | .element nm ps as cs => by
      intro f hg hwf
      obtain ⟨hps, has, hadj, hwfl⟩ := FContent.wf_element hwf
      have hhead := newElementWithMaps_spec f hg nm ps as hps has
      let el := f.next
      let K := headKids el ps as
      let f1 : Forest := { f with roots := f.roots ++ [HTree.node el (.element nm) K],
                                  next := el + 1 + ps.length + as.length }
      have hg1 : Good f1 := good_add_head hg nm ps as
      obtain ⟨ts, hts, hl⟩ := rtlList_spec cs f1 f.roots el (.element nm) K rfl hg1 (Or.inl rfl)
        (fun k hk => (headKids_nontext k hk).2) hwfl hadj
      refine ⟨HTree.node el (.element nm) (K ++ ts), ?_, ?_⟩
      · exact built_element f1.next hts (by simp only [el, FContent.size]; omega)
          (by simp only [f1, el, FContent.size]; omega) (Or.inr (by simp only [f1]; omega))
      · unfold rtlContent
        rw [hhead]
        simp only
        rw [hl]
        simp only [f1, el, FContent.size, HTree.handle, Option.some.injEq, Prod.mk.injEq, and_true]
        congr 1
        omega
  theorem rtlList_spec : ∀ (cs : List FContent) (f : Forest) (A : List HTree) (p : Nat) (v : Value)
      (K : List HTree), f.roots = A ++ [HTree.node p v K] → Good f →
      (v.isElement = true ∨ v.isDocument = true) → (∀ k ∈ K, k.value.isNormal = false) →
      FContent.wfList f.consolidation cs = true →
      (f.consolidation = true → noAdjacentFText cs = true) →
      ∃ ts, BuiltL f.next cs ts ∧
        rtlList f p cs = some ({ f with roots := A ++ [HTree.node p v (K ++ ts)],
                                        next := f.next + FContent.sizeList cs },
          ts.head?.map HTree.handle)
    | [] => fun f A p v K hroots _ _ _ _ _ =>
      ⟨[], BuiltL.nil _, by simp [rtlList, FContent.sizeList, ← hroots]⟩
    | c :: cs => by
      intro f A p v K hroots hg hpv hK hwf hadj
      simp only [FContent.wfList, Bool.and_eq_true] at hwf
      obtain ⟨ts, hts, hl⟩ := rtlList_spec cs f A p v K hroots hg hpv hK hwf.2
        (fun hc => noAdjacentFText_tail (hadj hc))
      let f1 : Forest := { f with roots := A ++ [HTree.node p v (K ++ ts)],
                                  next := f.next + FContent.sizeList cs }
      have hg1 : Good f1 := hg.add_kids hroots ts _ hts.nodup hts.bounds (by omega)
      obtain ⟨tc, htc, hc⟩ := rtlContent_spec c f1 hg1 hwf.1
      let f2 : Forest := { f1 with roots := f1.roots ++ [tc], next := f1.next + c.size }
      have hg2 : Good f2 := good_add_built hg1 htc
      have hR : RootAt f2 (A ++ [HTree.node p v (K ++ ts)]) tc [] := ⟨by simp [f2, f1], hg2.nodup⟩
      have htcn := treeOfContent_normal c
      rw [← htc.erase, Reach.erase_value] at htcn
      -- the attachment
      have hattach : f2.attachFirst p (ts.head?.map HTree.handle) tc.handle =
          some { f2 with roots := A ++ [HTree.node p v (K ++ tc :: ts)] } := by
        cases ts with
        | nil =>
          have hXY : (A ++ [HTree.node p v (K ++ [])]) ++ [] = A ++ HTree.node p v K :: [] := by simp
          have := hR.prepend_root hXY hpv htcn.1 htcn.2 hK
          simp only [List.head?_nil, Option.map_none]
          rw [attachFirst_prepend this]
        | cons r ts' =>
          have hXY : (A ++ [HTree.node p v (K ++ r :: ts')]) ++ [] =
              A ++ HTree.node p v (K ++ r :: ts') :: [] := by simp
          have hrn := built_normal (r :: ts') cs hts.erase r (by simp)
          have := hR.insertBefore_kid hXY hpv htcn.1 htcn.2 hrn.1 (by
            intro hcons htt
            refine ⟨?_, ?_⟩
            · -- r is the tree of the head of cs, which is not text since c is
              cases cs with
              | nil =>
                have he := hts.erase
                simp [eraseList, treeOfList] at he
              | cons c' cs' =>
                have he := hts.erase
                simp only [eraseList, treeOfList, List.cons.injEq] at he
                have hn := noAdjacentFText_head (hadj hcons)
                rw [← htc.isText, htt, Bool.true_and] at hn
                rw [← Reach.erase_value, he.1, treeOfContent_isText]
                exact hn
            · intro k hk
              exact (ffx_of_not_normal (fun e => by
                have := hK k (List.mem_of_getLast? hk)
                rw [Value.isNormal, e] at this; cases this)).1)
          simp only [List.head?_cons, Option.map_some]
          rw [attachFirst_insert this]
      refine ⟨tc :: ts, BuiltL.cons_rev htc hts, ?_⟩
      · unfold rtlList
        rw [hl]
        simp only
        rw [hc]
        simp only
        rw [hattach]
        simp only [f2, f1, FContent.sizeList, List.head?_cons, Option.map_some, Option.some.injEq,
          Prod.mk.injEq, and_true]
        congr 1
        omega
end

theorem rtlDocument_spec (f : Forest) (d : FDocument) (hg : Good f)
    (hwf : d.wf f.consolidation = true) :
    ∃ t, f.rtlDocument d =
          some ({ f with roots := f.roots ++ [t], next := f.next + d.size }, t.handle) ∧
        t.erase = treeOf d ∧
        Good { f with roots := f.roots ++ [t], next := f.next + d.size } := by
  let dn := f.next
  let f1 : Forest := { f with roots := f.roots ++ [HTree.node dn .document []], next := dn + 1 }
  have hg1 : Good f1 := hg.newNode .document
  obtain ⟨ts, hts, hl⟩ := rtlList_spec d.items f1 f.roots dn .document [] rfl hg1 (Or.inr rfl)
    (by intro k hk; cases hk) (items_wfList d _ hwf)
    (fun _ => noAdjacentFText_of_no_text _ (items_no_text d))
  obtain ⟨he, hgood⟩ := built_document hg d (dn := dn) hts
    (by simp only [dn, FDocument.size]; omega) (by simp only [f1, dn, FDocument.size]; omega)
    (Or.inl (by simp only [f1, dn]; omega))
  refine ⟨HTree.node dn .document ts, ?_, he, hgood⟩
  unfold rtlDocument
  simp only [newDocument, newNode]
  show (match rtlList f1 dn d.items with
    | none => none
    | some (f2, _) => some (f2, dn)) = _
  rw [hl]
  simp only [f1, dn, FDocument.size, List.nil_append, HTree.handle, Option.some.injEq,
    Prod.mk.injEq, and_true]
  congr 1
  omega

end Forest
end XotModel

/-! ### Algebra of `mapAt` for a parent anywhere inside a tree

Appending children (`appKids`): an update and a lookup inside a freshly appended child, and how often
a given handle occurs after appending (for distinctness of handles). -/

namespace XotModel
open HTree

/-- Append `xs` to the children. -/
def appKids (xs : List HTree) : HTree → HTree := fun n => n.setKids (n.kids ++ xs)

theorem appKids_handle (xs : List HTree) (t : HTree) : (appKids xs t).handle = t.handle := by
  cases t; rfl

theorem appKids_node (xs : List HTree) (h : Nat) (v : Value) (ks : List HTree) :
    appKids xs (.node h v ks) = .node h v (ks ++ xs) := rfl

theorem appKids_comp (xs ys : List HTree) : appKids ys ∘ appKids xs = appKids (xs ++ ys) := by
  funext t; cases t; simp [appKids, HTree.setKids, HTree.kids]

mutual
  theorem mapAt_in_appended (p c : Nat) (g : HTree → HTree) (x : HTree) (hx : x.handle = c) (hpc : p ≠ c) :
      ∀ t : HTree, c ∉ handles t → mapAt c g (mapAt p (appKids [x]) t) = mapAt p (appKids [g x]) t
    | .node h v ks => by
      intro hn
      simp only [handles, List.mem_cons, not_or] at hn
      by_cases e : h = p
      · subst e
        have e1 : mapAt h (appKids [x]) (.node h v ks) = .node h v (ks ++ [x]) := by
          simp [mapAt, appKids_node]
        have e2 : mapAt h (appKids [g x]) (.node h v ks) = .node h v (ks ++ [g x]) := by
          simp [mapAt, appKids_node]
        rw [e1, e2]
        unfold mapAt
        rw [if_neg (fun e' => hn.1 e'.symm), mapAtList_append, mapAtList_of_not_mem c g ks hn.2]
        simp [mapAtList, mapAt_of_handle g hx]
      · simp only [mapAt, e, if_false]
        rw [if_neg (fun e' => hn.1 e'.symm), mapAtList_in_appended p c g x hx hpc ks hn.2]
  theorem mapAtList_in_appended (p c : Nat) (g : HTree → HTree) (x : HTree) (hx : x.handle = c) (hpc : p ≠ c) :
      ∀ ks : List HTree, c ∉ handlesList ks →
        mapAtList c g (mapAtList p (appKids [x]) ks) = mapAtList p (appKids [g x]) ks
    | [] => by intro _; rfl
    | k :: ks => by
      intro hn
      simp only [handlesList, List.mem_append, not_or] at hn
      simp only [mapAtList]
      rw [mapAt_in_appended p c g x hx hpc k hn.1, mapAtList_in_appended p c g x hx hpc ks hn.2]
end

mutual
  theorem find?_appended (p c : Nat) (x : HTree) (hx : x.handle = c) :
      ∀ t : HTree, c ∉ handles t → p ∈ handles t → find? c (mapAt p (appKids [x]) t) = some x
    | .node h v ks => by
      intro hn hp
      simp only [handles, List.mem_cons, not_or] at hn
      by_cases e : h = p
      · rw [mapAt_of_handle _ (by simp [HTree.handle, e]), appKids_node]
        unfold find?
        rw [if_neg (fun e' => hn.1 e'.symm), findList?_append_of_not_mem _ _ _ hn.2, ← hx]
        exact ffx_findList?_cons_self x []
      · have hp' : p ∈ handlesList ks := by
          simp only [handles, List.mem_cons] at hp
          rcases hp with hp | hp
          · exact absurd hp.symm e
          · exact hp
        simp only [mapAt, e, if_false]
        unfold find?
        rw [if_neg (fun e' => hn.1 e'.symm)]
        exact findList?_appended p c x hx ks hn.2 hp'
  theorem findList?_appended (p c : Nat) (x : HTree) (hx : x.handle = c) :
      ∀ ks : List HTree, c ∉ handlesList ks → p ∈ handlesList ks →
        findList? c (mapAtList p (appKids [x]) ks) = some x
    | [] => by intro _ hp; simp [handlesList] at hp
    | k :: ks => by
      intro hn hp
      simp only [handlesList, List.mem_append, not_or] at hn
      simp only [handlesList, List.mem_append] at hp
      simp only [mapAtList]
      unfold findList?
      by_cases hk : p ∈ handles k
      · rw [find?_appended p c x hx k hn.1 hk]
      · rw [mapAt_of_not_mem p _ k hk, find?_none_of_not_mem c k hn.1]
        exact findList?_appended p c x hx ks hn.2 (hp.resolve_left hk)
end

mutual
  theorem count_handles_mapAt_app (p a : Nat) (xs : List HTree) : ∀ t : HTree, (handles t).Nodup →
      (handles (mapAt p (appKids xs) t)).count a =
        (handles t).count a + (if p ∈ handles t then (handlesList xs).count a else 0)
    | .node h v ks => by
      intro hn
      simp only [handles, List.nodup_cons] at hn
      by_cases e : h = p
      · rw [mapAt_of_handle _ (by simp [HTree.handle, e]), appKids_node]
        simp only [handles, handlesList_append, List.count_cons, List.count_append, List.mem_cons, e,
          true_or, if_true]
        omega
      · simp only [mapAt, e, if_false, handles, List.count_cons, List.mem_cons]
        rw [count_handlesList_mapAtList_app p a xs ks hn.2]
        have : (p = h ∨ p ∈ handlesList ks) ↔ p ∈ handlesList ks :=
          ⟨fun o => o.resolve_left (fun e' => e e'.symm), Or.inr⟩
        simp only [this]
        omega
  theorem count_handlesList_mapAtList_app (p a : Nat) (xs : List HTree) : ∀ ks : List HTree,
      (handlesList ks).Nodup →
      (handlesList (mapAtList p (appKids xs) ks)).count a =
        (handlesList ks).count a + (if p ∈ handlesList ks then (handlesList xs).count a else 0)
    | [] => by intro _; simp [mapAtList, handlesList]
    | k :: ks => by
      intro hn
      simp only [handlesList] at hn
      have hn' := List.nodup_append.1 hn
      simp only [mapAtList, handlesList, List.count_append, List.mem_append]
      rw [count_handles_mapAt_app p a xs k hn'.1, count_handlesList_mapAtList_app p a xs ks hn'.2.1]
      by_cases hk : p ∈ handles k
      · have : p ∉ handlesList ks := fun hm => hn'.2.2 p hk p hm rfl
        simp [hk, this]; omega
      · simp [hk]; omega
end

end XotModel

/-! ### Top-down -/

namespace XotModel
open HTree

theorem appKids_nil (t : HTree) : appKids [] t = t := by
  cases t; simp [appKids, HTree.setKids, HTree.kids]

namespace Forest

/-- Fresh subtrees `xs` become the last children of the node `p`, wherever it lives. -/
theorem good_appKids {f : Forest} (hg : Good f) {p : Nat} {tp : HTree} (hget : f.get? p = some tp)
    (xs : List HTree) (n' : Nat) (hnd : (handlesList xs).Nodup)
    (hb : ∀ h ∈ handlesList xs, f.next ≤ h ∧ h < n') (hn : f.next ≤ n') :
    let f2 : Forest := { f with roots := f.roots.map (mapAt p (appKids xs)), next := n' }
    Good f2 ∧ f2.get? p = some (appKids xs tp) := by
  refine ⟨?_, ?_⟩
  · apply hg.of_count_add _ n' (handlesList xs) _ hnd hb hn
    intro a
    rw [← mapAtList_eq_map, count_handlesList_mapAtList_app p a xs f.roots hg.nodup, if_pos (mem_of_findList?_some hget)]
  · show findList? p (f.roots.map (mapAt p (appKids xs))) = some (appKids xs tp)
    rw [← mapAtList_eq_map, ff_findList?_mapAtList_self p _ (appKids_handle xs)]
    have : findList? p f.roots = some tp := hget
    rw [this]; rfl

/-- Create-then-append of a finished tree `x` under a parent `p` that lives anywhere in the
    store. -/
theorem appendNew_spec (f : Forest) (hg : Good f) {p : Nat} {tp x : HTree} (n' : Nat)
    (hget : f.get? p = some tp) (hpv : tp.value.isElement = true ∨ tp.value.isDocument = true)
    (hnd : (handles x).Nodup) (hb : ∀ h ∈ handles x, f.next ≤ h ∧ h < n')
    (hxn : x.value.isNormal = true) (hxd : x.value.isDocument = false)
    (htext : f.consolidation = true → x.value.isText = true →
      ∀ k, tp.kids.getLast? = some k → k.value.isText = false) :
    let f1 : Forest := { f with roots := f.roots ++ [x], next := n' }
    let f2 : Forest := { f with roots := f.roots.map (mapAt p (appKids [x])), next := n' }
    f1.append p x.handle = (f2, .ok) ∧ Good f2 ∧ f2.get? x.handle = some x ∧
      f2.get? p = some (appKids [x] tp) := by
  intro f1 f2
  have hn : f.next ≤ n' := by have := hb x.handle (handle_mem_handles x); omega
  have hg1 : Good f1 := hg.add_roots [x] n' (by simpa [handlesList] using hnd)
    (by intro h hh; simp only [handlesList, List.append_nil] at hh; exact hb h hh) hn
  have hR : RootAt f1 f.roots x [] := ⟨rfl, hg1.nodup⟩
  have hp : findList? p (f.roots ++ []) = some tp := by rw [List.append_nil]; exact hget
  have hpm : p ∈ handlesList f.roots := mem_of_findList?_some hget
  have hxm : x.handle ∉ handlesList f.roots := by
    intro hm
    have := hg.below _ hm
    have := (hb x.handle (handle_mem_handles x)).1
    omega
  have hpx : p ≠ x.handle := fun e => hxm (e ▸ hpm)
  obtain ⟨hg2, hget2⟩ := good_appKids hg hget [x] n' (by simpa [handlesList] using hnd)
    (by intro h hh; simp only [handlesList, List.append_nil] at hh; exact hb h hh) hn
  refine ⟨?_, hg2, ?_, hget2⟩
  · rw [hR.append_spec hp hpv hxn hxd htext]
    simp only [List.append_nil]
    rfl
  · show findList? x.handle (f.roots.map (mapAt p (appKids [x]))) = some x
    rw [← mapAtList_eq_map]
    exact findList?_appended p x.handle x rfl f.roots hxm hpm

theorem topDown_leaf (f : Forest) (hg : Good f) {p : Nat} {tp : HTree} (v : Value)
    (hget : f.get? p = some tp) (hpv : tp.value.isElement = true ∨ tp.value.isDocument = true)
    (hvn : v.isNormal = true) (hvd : v.isDocument = false)
    (htext : f.consolidation = true → v.isText = true →
      ∀ k, tp.kids.getLast? = some k → k.value.isText = false) :
    ({ f with roots := f.roots ++ [HTree.node f.next v []], next := f.next + 1 } : Forest).appendOk p f.next =
      some { f with roots := f.roots.map (mapAt p (appKids [HTree.node f.next v []])), next := f.next + 1 } := by
  have := appendNew_spec f hg (x := HTree.node f.next v []) (f.next + 1) hget hpv
    (by simp [handles, handlesList])
    (by intro h hh; simp only [handles, handlesList, List.mem_singleton] at hh; omega)
    hvn hvd htext
  exact appendOk_eq this.1

mutual
  theorem topDownContent_spec : ∀ (c : FContent) (f : Forest) (p : Nat) (tp : HTree), Good f →
      f.get? p = some tp → (tp.value.isElement = true ∨ tp.value.isDocument = true) →
      c.wf f.consolidation = true →
      (f.consolidation = true → c.isText = true →
        ∀ k, tp.kids.getLast? = some k → k.value.isText = false) →
      ∃ t, Built f.next c t ∧
        topDownContent f p c =
          some { f with roots := f.roots.map (mapAt p (appKids [t])), next := f.next + c.size }
    | .text s => fun f p tp hg hget hpv _ htext =>
      ⟨.node f.next (.text s) [], Built.leaf _ _ _ rfl rfl,
        topDown_leaf f hg (.text s) hget hpv rfl rfl (fun hc _ => htext hc rfl)⟩
    | .comment s => fun f p tp hg hget hpv _ _ =>
      ⟨.node f.next (.comment s) [], Built.leaf _ _ _ rfl rfl,
        topDown_leaf f hg (.comment s) hget hpv rfl rfl (fun _ ht => by cases ht)⟩
    | .pi t d => fun f p tp hg hget hpv _ _ =>
      ⟨.node f.next (.pi t d) [], Built.leaf _ _ _ rfl rfl,
        topDown_leaf f hg (.pi t d) hget hpv rfl rfl (fun _ ht => by cases ht)⟩
    | .element nm ps as cs => by
      intro f p tp hg hget hpv hwf _
      obtain ⟨hps, has, hadj, hwfl⟩ := FContent.wf_element hwf
      have hhead := newElementWithMaps_spec f hg nm ps as hps has
      let el := f.next
      let K := headKids el ps as
      let elT : HTree := .node el (.element nm) K
      let n1 := el + 1 + ps.length + as.length
      obtain ⟨hnd, hb⟩ := headTree_handles el nm ps as
      obtain ⟨happ, hg2, hgetel, _⟩ := appendNew_spec f hg (x := elT) n1 hget hpv hnd hb
        rfl rfl (fun _ ht => by cases ht)
      let f2 : Forest := { f with roots := f.roots.map (mapAt p (appKids [elT])), next := n1 }
      obtain ⟨ts, hts, hl⟩ := topDownList_spec cs f2 el elT hg2 hgetel (Or.inl rfl) hwfl hadj
        (by
          intro _ _ _ _ k hk
          exact (headKids_nontext k (List.mem_of_getLast? hk)).1)
      have hpm : p ∈ handlesList f.roots := mem_of_findList?_some hget
      have helm : el ∉ handlesList f.roots := fun hm => Nat.lt_irrefl _ (hg.below el hm)
      refine ⟨HTree.node el (.element nm) (K ++ ts), ?_, ?_⟩
      · exact built_element n1 hts (by simp only [el, FContent.size]; omega)
          (by simp only [n1, el, FContent.size]; omega) (Or.inr (by omega))
      · unfold topDownContent
        rw [hhead]
        simp only
        show (match (({ f with roots := f.roots ++ [elT], next := n1 } : Forest).appendOk p elT.handle) with
          | none => none
          | some f2 => topDownList f2 el cs) = _
        rw [appendOk_eq happ]
        simp only
        rw [hl]
        simp only [f2, n1, el, FContent.size, Option.some.injEq]
        have hcomp : (f.roots.map (mapAt p (appKids [elT]))).map (mapAt el (appKids ts)) =
            f.roots.map (mapAt p (appKids [HTree.node el (.element nm) (K ++ ts)])) := by
          rw [← mapAtList_eq_map, ← mapAtList_eq_map, ← mapAtList_eq_map,
            mapAtList_in_appended p el (appKids ts) elT rfl (fun e => helm (e ▸ hpm)) f.roots helm]
          rfl
        rw [hcomp]
        congr 1
        omega
  theorem topDownList_spec : ∀ (cs : List FContent) (f : Forest) (p : Nat) (tp : HTree), Good f →
      f.get? p = some tp → (tp.value.isElement = true ∨ tp.value.isDocument = true) →
      FContent.wfList f.consolidation cs = true →
      (f.consolidation = true → noAdjacentFText cs = true) →
      (f.consolidation = true → ∀ c0, cs.head? = some c0 → c0.isText = true →
        ∀ k, tp.kids.getLast? = some k → k.value.isText = false) →
      ∃ ts, BuiltL f.next cs ts ∧
        topDownList f p cs =
          some { f with roots := f.roots.map (mapAt p (appKids ts)), next := f.next + FContent.sizeList cs }
    | [] => by
      intro f p tp _ _ _ _ _ _
      refine ⟨[], BuiltL.nil _, ?_⟩
      have : f.roots.map (mapAt p (appKids [])) = f.roots := by
        rw [← mapAtList_eq_map]; exact ff_mapAtList_id p _ appKids_nil f.roots
      simp [topDownList, FContent.sizeList, this]
    | c :: cs => by
      intro f p tp hg hget hpv hwf hadj hfirst
      simp only [FContent.wfList, Bool.and_eq_true] at hwf
      obtain ⟨t, ht, hc⟩ := topDownContent_spec c f p tp hg hget hpv hwf.1
        (fun hcons hct => hfirst hcons c rfl hct)
      let f1 : Forest := { f with roots := f.roots.map (mapAt p (appKids [t])), next := f.next + c.size }
      obtain ⟨hg1, hget1⟩ : Good f1 ∧ f1.get? p = some (appKids [t] tp) :=
        good_appKids hg hget [t] _ (by simpa [handlesList] using ht.nodup)
          (by intro h hh; simp only [handlesList, List.append_nil] at hh; exact ht.bounds h hh) (by omega)
      obtain ⟨ts, hts, hl⟩ := topDownList_spec cs f1 p (appKids [t] tp) hg1 hget1
        (by cases tp; exact hpv) hwf.2 (fun hcons => noAdjacentFText_tail (hadj hcons))
        (by
          intro hcons c0 hc0 hc0t k hk
          -- the last child is now `t`, the tree of `c`; `c` and `c0` are adjacent
          have hk' : k = t := by
            cases tp with
            | node h v ks =>
              simp only [appKids_node, HTree.kids] at hk
              simpa using hk.symm
          subst hk'
          cases cs with
          | nil => cases hc0
          | cons c' cs' =>
            simp only [List.head?_cons, Option.some.injEq] at hc0
            subst hc0
            have hn := noAdjacentFText_head (hadj hcons)
            rw [hc0t, Bool.and_true] at hn
            rw [ht.isText]
            exact hn)
      refine ⟨t :: ts, BuiltL.cons ht hts, ?_⟩
      · unfold topDownList
        rw [hc]
        simp only
        rw [hl]
        simp only [f1, FContent.sizeList, Option.some.injEq]
        have hcomp : (f.roots.map (mapAt p (appKids [t]))).map (mapAt p (appKids ts)) =
            f.roots.map (mapAt p (appKids (t :: ts))) := by
          rw [← mapAtList_eq_map, ← mapAtList_eq_map, ← mapAtList_eq_map,
            mapAtList_mapAtList_self p _ _ (appKids_handle [t]), appKids_comp]
          rfl
        rw [hcomp]
        congr 1
        omega
end

theorem topDownDocument_spec (f : Forest) (d : FDocument) (hg : Good f)
    (hwf : d.wf f.consolidation = true) :
    ∃ t, f.topDownDocument d =
          some ({ f with roots := f.roots ++ [t], next := f.next + d.size }, t.handle) ∧
        t.erase = treeOf d ∧
        Good { f with roots := f.roots ++ [t], next := f.next + d.size } := by
  let dn := f.next
  let docleaf : HTree := .node dn .document []
  let f1 : Forest := { f with roots := f.roots ++ [docleaf], next := dn + 1 }
  have hg1 : Good f1 := hg.newNode .document
  have lcd : Loc f1.roots dn [] f.roots docleaf [] := ⟨rfl, rfl⟩
  have hget1 : f1.get? dn = some docleaf := get?_of_loc lcd hg1.nodup
  obtain ⟨ts, hts, hl⟩ := topDownList_spec d.items f1 dn docleaf hg1 hget1 (Or.inr rfl)
    (items_wfList d _ hwf) (fun _ => noAdjacentFText_of_no_text _ (items_no_text d))
    (by intro _ _ _ _ k hk; simp [docleaf, HTree.kids] at hk)
  obtain ⟨he, hgood⟩ := built_document hg d (dn := dn) hts
    (by simp only [dn, FDocument.size]; omega) (by simp only [f1, dn, FDocument.size]; omega)
    (Or.inl (by simp only [f1, dn]; omega))
  refine ⟨HTree.node dn .document ts, ?_, he, hgood⟩
  unfold topDownDocument
  simp only [newDocument, newNode]
  show (match topDownList f1 dn d.items with
    | none => none
    | some f2 => some (f2, dn)) = _
  rw [hl]
  have hmap : (f.roots ++ [docleaf]).map (mapAt dn (appKids ts)) = f.roots ++ [HTree.node dn .document ts] := by
    rw [← mapAtList_eq_map]
    exact lcd.mapAtList_eq hg1.nodup _
  simp only [f1, hmap, dn, FDocument.size, HTree.handle, Option.some.injEq, Prod.mk.injEq, and_true]
  congr 1
  omega

end Forest
end XotModel
