/-
  The canonical-rendering theorem of the reference tokenizer:

      LexOK true  ts  →  lexFragment (renderTokens ts) = (placeTokens 0 ts, none)
      LexOK false ts  →  lexDocument (renderTokens ts) = (placeTokens 0 ts, none)

  for token lists of every length and nesting depth; `placeTokens` (Lemmas/LexCanonDefs.lean) only
  re-positions: `(placeTokens 0 ts).map Token.erase = ts.map Token.erase`.  It is the layout theorem
  (Lemmas/LexFree.lean) at the layout `LToken.canonical`: one blank before an attribute and before
  the content of a PI, double quotes, no other white space.
-/
import XotModel.Lemmas.LexFree

namespace XotModel.Lex.Canon

open XotModel.Lex XotModel.Lex.Stream XotModel.Lex.Free

/-! ### The canonical rendering is the layout `LToken.canonical` -/

/-- At the canonical layout `okL` asks what `lexOK` asks: the layout strings are empty or one
    blank, the quote is `"`. -/
theorem okL_canonical {t : Token} (h : t.lexOK = true) : (LToken.canonical t).okL = true := by
  cases t with
  | «attribute» p l v sp =>
    simp only [Token.lexOK, Bool.and_eq_true] at h
    simp only [LToken.okL, LToken.canonical, Bool.and_eq_true]
    exact ⟨rfl, ⟨⟨h.1, rfl⟩, rfl⟩, h.2⟩
  | pi a c sp =>
    cases c with
    | none => simp only [LToken.okL, LToken.canonical, Bool.and_eq_true]; exact ⟨rfl, ⟨h, rfl⟩, rfl⟩
    | some c => simp only [LToken.okL, LToken.canonical, Bool.and_eq_true]; exact ⟨rfl, ⟨h, rfl⟩, rfl⟩
  | elementEnd e sp =>
    cases e with
    | close p l => simp only [LToken.okL, LToken.canonical, Bool.and_eq_true]; exact ⟨rfl, h, rfl⟩
    | _ => exact h
  | _ => exact h
theorem all_okL_canonical {ts : List Token} (h : ts.all Token.lexOK = true) :
    (ts.map LToken.canonical).all LToken.okL = true := by
  simp only [List.all_map, List.all_eq_true, Function.comp] at h ⊢
  exact fun t ht => okL_canonical (h t ht)

theorem token_canonical (t : Token) : (LToken.canonical t).token = t := by
  cases t with
  | pi a c sp => cases c <;> rfl
  | _ => rfl

theorem map_token_canonical (ts : List Token) : (ts.map LToken.canonical).map LToken.token = ts := by
  simp [Function.comp_def, token_canonical]

theorem leadsOK_canonical {frag : Bool} : ∀ (ts : List Token) (ctx : LexCtx),
    lexNest frag ctx ts = true → leadsOK frag ctx (ts.map LToken.canonical) = true := by
  intro ts
  induction ts with
  | nil => intros; rfl
  | cons t ts ih =>
    intro ctx hn
    simp only [List.map_cons, leadsOK, Bool.and_eq_true, token_canonical]
    refine ⟨?_, ih _ (lexNest_cons hn)⟩
    cases ctx with
    | prolog => rfl
    | after => rfl
    | inTag d =>
      cases t with
      | pi a c sp => cases hn
      | _ => simp [leadOK, LToken.canonical]
    | content d =>
      cases t with
      | «attribute» => cases hn
      | pi a c sp => cases c <;> rfl
      | _ => rfl

theorem followL_canonical {frag : Bool} : ∀ (ts : List Token) (ctx : LexCtx) (r : Str),
    lexNest frag ctx ts = true → JoinOK ts r → FollowL (ts.map LToken.canonical) r := by
  intro ts
  induction ts with
  | nil => intros; trivial
  | cons t ts ih =>
    intro ctx r hn hj
    refine ⟨?_, ih _ r (lexNest_cons hn) hj.tail⟩
    rw [token_canonical, renderL_canonical]
    cases t with
    | elementStart p l sp =>
      cases ctx with
      | prolog => exact stops_of_join (d := 0) hn hj
      | content d => exact stops_of_join (d := d) hn hj
      | inTag d => cases hn
      | after => cases hn
    | text a =>
      cases ctx with
      | content d => exact (markup_of_join hn hj).1
      | prolog => cases hn
      | inTag d => cases hn
      | after => cases hn
    | _ => trivial

/-- **Canonical prefix.**  On the canonical spelling of `ts` followed by ANY text `r` that does not
    extend the last token, the tokenizer reads `ts` back (re-positioned) and then continues on `r`
    from the context `ts` ends in, with the position of the last token end as the pending error
    position. -/
theorem lexLoop_render_app (frag : Bool) (ts : List Token) (r : Str) (ctx : LexCtx) (tk : Tokenizer)
    (position : Nat) (hm : Matches frag ctx tk) (hok : ts.all Token.lexOK = true)
    (hn : lexNest frag ctx ts = true) (hs : tk.stream.rest = renderTokens ts ++ r) (hj : JoinOK ts r) :
    ∃ tk', Matches frag (ctxAfter frag ctx ts) tk' ∧
      tk'.stream = ⟨tk.stream.pos + strLen (renderTokens ts), r⟩ ∧
      lexLoop tk position =
        (placeTokens tk.stream.pos ts ++
            (lexLoop tk' (if ts.isEmpty then position else tk'.stream.pos)).1,
          (lexLoop tk' (if ts.isEmpty then position else tk'.stream.pos)).2) := by
  have := lexLoop_layout_app frag (ts.map LToken.canonical) r ctx tk position hm (all_okL_canonical hok)
    (by rwa [map_token_canonical]) (leadsOK_canonical ts ctx hn) (by rwa [renderL_canonical])
    (followL_canonical ts ctx r hn hj)
  simpa only [map_token_canonical, renderL_canonical, placeL_canonical, List.isEmpty_map] using this

theorem lexLoop_render (frag : Bool) (ts : List Token) (ctx : LexCtx) (tk : Tokenizer) (position : Nat)
    (hm : Matches frag ctx tk) (hok : ts.all Token.lexOK = true) (hn : lexNest frag ctx ts = true)
    (hs : tk.stream.rest = renderTokens ts) :
    lexLoop tk position = (placeTokens tk.stream.pos ts, none) := by
  obtain ⟨tk', _, hst', e⟩ := lexLoop_render_app frag ts [] ctx tk position hm hok hn (by simpa using hs)
    (JoinOK.nil_right ts)
  have hend : ∀ p, lexLoop tk' p = ([], none) := fun p => lexLoop_end p (by rw [hst']; rfl)
  rw [e, hend]; simp

theorem prolog_no_bom {ts : List Token} (h : lexNest false .prolog ts = true) :
    ((Stream.ofStr (renderTokens ts)).curr? == some '\uFEFF') = false := by
  cases ts with
  | nil => rfl
  | cons t ts =>
    rw [renderTokens_cons]
    cases t with
    | comment a sp => rfl
    | pi a c sp => cases c <;> rfl
    | elementStart p l sp => rfl
    | _ => simp [lexNest] at h

end XotModel.Lex.Canon

namespace XotModel

open XotModel.Lex XotModel.Lex.Canon

/-- **Canonical rendering, fragment mode.**  For every token list that meets `LexOK true` — of any
    length and nesting depth — the reference tokenizer reads the canonical spelling back as the
    same tokens, at the byte positions the spelling implies, without error. -/
theorem lexFragment_render (ts : List Token) (h : LexOK true ts = true) :
    lexFragment (renderTokens ts) = (placeTokens 0 ts, none) := by
  simp only [LexOK, Bool.and_eq_true] at h
  exact lexLoop_render true ts (.content 0) (Tokenizer.ofFragment (renderTokens ts)) _
    ⟨rfl, rfl, rfl⟩ h.1 h.2 rfl

theorem lexDocument_render (ts : List Token) (h : LexOK false ts = true) :
    lexDocument (renderTokens ts) = (placeTokens 0 ts, none) := by
  simp only [LexOK, Bool.and_eq_true] at h
  rw [lexDocument_noBom (prolog_no_bom h.2)]
  exact lexLoop_render false ts .prolog _ _ ⟨rfl, rfl, .inl rfl⟩ h.1 h.2 rfl

/-- The tokens read back are the given ones up to byte positions. -/
theorem lexFragment_render_erase (ts : List Token) (h : LexOK true ts = true) :
    ∃ ts', lexFragment (renderTokens ts) = (ts', none) ∧ ts'.map Token.erase = ts.map Token.erase ∧
      tokensPrefixOk ts' = true :=
  ⟨placeTokens 0 ts, lexFragment_render ts h, placeTokens_erase 0 ts,
    placeTokens_prefixOk ts 0⟩

theorem lexDocument_render_erase (ts : List Token) (h : LexOK false ts = true) :
    ∃ ts', lexDocument (renderTokens ts) = (ts', none) ∧ ts'.map Token.erase = ts.map Token.erase ∧
      tokensPrefixOk ts' = true :=
  ⟨placeTokens 0 ts, lexDocument_render ts h, placeTokens_erase 0 ts,
    placeTokens_prefixOk ts 0⟩

end XotModel
