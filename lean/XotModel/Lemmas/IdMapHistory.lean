/-
  C08 and parsing: histories that mix direct registrations, parses, `html5()` and clone (`Interner.Mono`,
  `Interner.WF`, `Interner.parse_build`), and the ids `html5()` stores: `HtmlNames.ids` holds exactly the ids
  of the four (local name, namespace id) pairs per entry.
-/
import XotModel.Lemmas.IdMapParseTree

/-! ## Histories

  * `Interner.Mono x x'`: every `get_value` / `get_id` answer of `x` is still the answer of `x'`,
    and the built-in id fields agree — kept by every step (no invariant, no bound needed).
  * `Interner.WF`: the table invariant of C08 + every registered name's namespace id is an id of
    the namespace table + the built-ins are there.  Kept by every step whose `add_name_ns` names a
    namespace id the `Xot` has issued (`Interner.RunOk`); parses and `html5()` always do.
  * `Interner.parse` is what `build` leaves (`Interner.parse_build`).
-/

namespace XotModel
open IdParse IdMap Gen

/-! ### Answers are never taken back -/

structure Interner.Mono (x x' : Interner) : Prop where
  nsValue : ∀ id v, x.namespaceLookup.getValue id = some v → x'.namespaceLookup.getValue id = some v
  nsId : ∀ v id, x.namespaceLookup.getId v = some id → x'.namespaceLookup.getId v = some id
  pfValue : ∀ id v, x.prefixLookup.getValue id = some v → x'.prefixLookup.getValue id = some v
  pfId : ∀ v id, x.prefixLookup.getId v = some id → x'.prefixLookup.getId v = some id
  nmValue : ∀ id v, x.nameLookup.getValue id = some v → x'.nameLookup.getValue id = some v
  nmId : ∀ v id, x.nameLookup.getId v = some id → x'.nameLookup.getId v = some id
  consts : x'.noNamespaceId = x.noNamespaceId ∧ x'.emptyPrefixId = x.emptyPrefixId ∧
    x'.xmlNamespaceId = x.xmlNamespaceId ∧ x'.xmlPrefixId = x.xmlPrefixId ∧
    x'.xmlSpaceId = x.xmlSpaceId ∧ x'.xmlIdId = x.xmlIdId

theorem Interner.Mono.refl (x : Interner) : x.Mono x :=
  ⟨fun _ _ h => h, fun _ _ h => h, fun _ _ h => h, fun _ _ h => h, fun _ _ h => h, fun _ _ h => h,
   rfl, rfl, rfl, rfl, rfl, rfl⟩

theorem Interner.Mono.trans {a b c : Interner} (h1 : a.Mono b) (h2 : b.Mono c) : a.Mono c := by
  obtain ⟨c1, c2, c3, c4, c5, c6⟩ := h1.consts
  obtain ⟨d1, d2, d3, d4, d5, d6⟩ := h2.consts
  exact ⟨fun i v h => h2.nsValue i v (h1.nsValue i v h), fun v i h => h2.nsId v i (h1.nsId v i h),
    fun i v h => h2.pfValue i v (h1.pfValue i v h), fun v i h => h2.pfId v i (h1.pfId v i h),
    fun i v h => h2.nmValue i v (h1.nmValue i v h), fun v i h => h2.nmId v i (h1.nmId v i h),
    d1.trans c1, d2.trans c2, d3.trans c3, d4.trans c4, d5.trans c5, d6.trans c6⟩

theorem Interner.reg_mono (x : Interner) (r : Reg) : x.Mono (x.reg r).1 := by
  cases r with
  | pfx p =>
    exact ⟨fun _ _ h => h, fun _ _ h => h, fun _ _ h => getValue_getIdMut_mono p h,
      fun _ _ h => getId_getIdMut_mono p h, fun _ _ h => h, fun _ _ h => h, rfl, rfl, rfl, rfl, rfl, rfl⟩
  | ns u =>
    exact ⟨fun _ _ h => getValue_getIdMut_mono u h, fun _ _ h => getId_getIdMut_mono u h,
      fun _ _ h => h, fun _ _ h => h, fun _ _ h => h, fun _ _ h => h, rfl, rfl, rfl, rfl, rfl, rfl⟩
  | name l n =>
    exact ⟨fun _ _ h => h, fun _ _ h => h, fun _ _ h => h, fun _ _ h => h,
      fun _ _ h => getValue_getIdMut_mono (l, n) h, fun _ _ h => getId_getIdMut_mono (l, n) h,
      rfl, rfl, rfl, rfl, rfl, rfl⟩

theorem Interner.regAll_mono (rs : List Reg) : ∀ (x : Interner), x.Mono (x.regAll rs).1 := by
  induction rs with
  | nil => intro x; exact Interner.Mono.refl x
  | cons r rs ih => intro x; exact (x.reg_mono r).trans (ih _)

/-! ### `html5()` as a sequence of calls -/

theorem Interner.html5Names_eq (xh : Nat) (tables : List (List Str)) : ∀ (x : Interner),
    (x.html5Names xh tables).1 = (x.regAll (tables.flatMap (htmlNamesRegs x.noNamespaceId xh))).1 ∧
    (x.html5Names xh tables).2.flatten = (x.regAll (tables.flatMap (htmlNamesRegs x.noNamespaceId xh))).2 := by
  induction tables with
  | nil => intro x; exact ⟨rfl, rfl⟩
  | cons t ts ih =>
    intro x
    simp only [Interner.html5Names, List.flatMap_cons, Interner.regAll_append, List.flatten_cons]
    obtain ⟨h1, h2⟩ := ih (x.regAll (htmlNamesRegs x.noNamespaceId xh t)).1
    rw [(Interner.regAll_consts _ x).1] at h1 h2
    exact ⟨h1, by rw [h2]⟩

theorem Interner.regAll_cons (x : Interner) (r : Reg) (rs : List Reg) :
    x.regAll (r :: rs) = (((x.reg r).1.regAll rs).1, (x.reg r).2 :: ((x.reg r).1.regAll rs).2) := rfl

theorem Interner.reg_ns (x : Interner) (u : Str) : x.reg (.ns u) = x.addNamespace u := rfl

/-- `html5()` is the call sequence `html5Regs`: same interner, and the ids it stores are the ids
    those calls return (after the three namespace ids). -/
theorem Interner.html5_regs (x : Interner) :
    x.html5.1 = (x.regAll (html5Regs x.noNamespaceId (x.addNamespace xhtmlNs).2)).1 ∧
    x.html5.2.xhtml :: x.html5.2.mathml :: x.html5.2.svg :: x.html5.2.ids.flatten =
      (x.regAll (html5Regs x.noNamespaceId (x.addNamespace xhtmlNs).2)).2 := by
  unfold Interner.html5 html5Regs
  generalize html5Tables = T
  obtain ⟨h1, h2⟩ := Interner.html5Names_eq (x.addNamespace xhtmlNs).2 T
    (((x.addNamespace xhtmlNs).1.addNamespace mathmlNs).1.addNamespace svgNs).1
  have hc : (((x.addNamespace xhtmlNs).1.addNamespace mathmlNs).1.addNamespace svgNs).1.noNamespaceId
      = x.noNamespaceId := (Interner.regAll_consts [.ns xhtmlNs, .ns mathmlNs, .ns svgNs] x).1
  rw [hc] at h1 h2
  rw [List.cons_append, List.cons_append, List.cons_append, List.nil_append,
    Interner.regAll_cons, Interner.regAll_cons, Interner.regAll_cons, Interner.reg_ns, Interner.reg_ns, Interner.reg_ns]
  exact ⟨h1, by rw [h2]⟩

/-- The C08 table invariant, every registered name's namespace id an id of this `Xot`, the
    built-in prefixes / namespaces present, "no namespace" at id 0. -/
structure Interner.WF (x : Interner) : Prop where
  inv : x.Inv
  nsInRange : ∀ k ∈ x.nameLookup.byId, k.2 < x.namespaceLookup.byId.length
  pf2 : 2 ≤ x.prefixLookup.byId.length
  ns2 : 2 ≤ x.namespaceLookup.byId.length
  noNs : x.noNamespaceId = Env.noNamespace

theorem Interner.WF.dupFree {x : Interner} (h : x.WF) : x.env.DupFree :=
  Env.dupFree_of_inv x h.inv h.nsInRange

theorem Interner.wf_new : Interner.new.WF :=
  ⟨Interner.inv_new, by decide, by decide, by decide, by decide⟩

theorem Interner.WF.reg {x : Interner} (h : x.WF) (r : Reg) (hr : r.NsInRange x.env) : (x.reg r).1.WF := by
  have hd := Env.reg_dupFree h.dupFree r hr
  rw [← Interner.reg_env h.inv r] at hd
  have hp : x.env.PrefixOf (x.reg r).1.env := by rw [Interner.reg_env h.inv r]; exact Env.reg_prefixOf _ r
  exact ⟨Interner.reg_inv h.inv r, hd.nsInRange, Nat.le_trans h.pf2 hp.prefixes.length_le,
    Nat.le_trans h.ns2 hp.namespaces.length_le, (x.reg_consts r).1.trans h.noNs⟩

theorem Interner.WF.regAll (rs : List Reg) : ∀ {x : Interner}, x.WF → x.env.RegsInRange rs → (x.regAll rs).1.WF := by
  induction rs with
  | nil => intro x h _; exact h
  | cons r rs ih =>
    intro x h hr
    refine ih (h.reg r hr.1) ?_
    rw [Interner.reg_env h.inv r]; exact hr.2

theorem Interner.WF.parse {x : Interner} (h : x.WF) (ts : List Token) : (x.parse ts).WF :=
  h.regAll _ (buildRegs_inRange h.dupFree.prefixes h.dupFree.namespaces h.pf2 h.ns2 ts)

/-- The id `get_id_mut` returns is in range of the table it leaves — whatever the width. -/
theorem IdMap.getIdMut_lt {α : Type} [DecidableEq α] {bits : Nat} {m : IdMap α} (h : IdMap.Inv bits m) (v : α) :
    (getIdMut bits m v).2 < (getIdMut bits m v).1.byId.length := by
  obtain ⟨h1, h2⟩ := getIdMut_id h v
  rw [h1]
  exact Nat.lt_of_le_of_lt (Nat.mod_le _ _) (List.idxOf_lt_length_of_mem h2)

theorem htmlNamesRegs_inRange {e : Env} {noNs xh : Nat} (h0 : noNs < e.namespaces.length)
    (hx : xh < e.namespaces.length) (tables : List (List Str)) :
    ∀ r ∈ tables.flatMap (htmlNamesRegs noNs xh), r.NsInRange e := by
  intro r hr
  simp only [List.mem_flatMap, htmlNamesRegs, List.mem_cons, List.not_mem_nil, or_false] at hr
  obtain ⟨t, _, n, _, hr⟩ := hr
  rcases hr with rfl | rfl | rfl | rfl
  · exact h0
  · exact h0
  · exact hx
  · exact hx

theorem Interner.html5_inRange {x : Interner} (h : x.WF) :
    x.env.RegsInRange (html5Regs x.noNamespaceId (x.addNamespace xhtmlNs).2) := by
  unfold html5Regs
  rw [Env.regsInRange_append]
  refine ⟨regsInRange_of_forall _ _ (fun r hr => ?_), regsInRange_of_forall _ _ ?_⟩
  · simp only [List.mem_cons, List.not_mem_nil, or_false] at hr
    rcases hr with rfl | rfl | rfl <;> trivial
  · have hp : x.env.PrefixOf (x.env.regAll [.ns xhtmlNs, .ns mathmlNs, .ns svgNs]).1 := Env.regAll_prefixOf _ _
    have hp1 : (x.env.reg (.ns xhtmlNs)).1.PrefixOf (x.env.regAll [.ns xhtmlNs, .ns mathmlNs, .ns svgNs]).1 :=
      Env.regAll_prefixOf [.ns mathmlNs, .ns svgNs] _
    refine htmlNamesRegs_inRange ?_ ?_ _
    · rw [h.noNs]
      exact Nat.lt_of_lt_of_le (by have := h.ns2; show 0 < x.namespaceLookup.byId.length; omega)
        hp.namespaces.length_le
    · have hlt := IdMap.getIdMut_lt h.inv.ns xhtmlNs
      have he : (x.addNamespace xhtmlNs).1.env = (x.env.reg (.ns xhtmlNs)).1 := Interner.reg_env h.inv (.ns xhtmlNs)
      have : (x.addNamespace xhtmlNs).2 < (x.env.reg (.ns xhtmlNs)).1.namespaces.length := by
        rw [← he]; exact hlt
      exact Nat.lt_of_lt_of_le this hp1.namespaces.length_le

theorem Interner.WF.html5 {x : Interner} (h : x.WF) : x.html5.1.WF := by
  rw [(Interner.html5_regs x).1]
  exact h.regAll _ (Interner.html5_inRange h)

/-- `parse` as a step of a history is what `build` leaves, accepted or not. -/
theorem Interner.parse_build {x : Interner} (h : x.Inv) (m : Mode) (len : Nat) (ts : List Token)
    (lexErr : Option Nat) :
    (∀ p, build m len x.env ts lexErr = .ok p → (x.parse ts).env = p.env) ∧
    (∀ e env', build m len x.env ts lexErr = .err e env' → (x.parse ts).env = env') := by
  have hb := build_trace m len x.env ts lexErr
  unfold Interner.parse
  rw [Interner.regAll_env _ h]
  exact ⟨fun p hp => (hb.of_ok hp).symm, fun e env' he => (hb.of_err he).symm⟩

theorem Interner.step_mono (x : Interner) (s : HStep) : x.Mono (x.step s) := by
  cases s with
  | addName s => exact x.reg_mono (.name s x.noNamespaceId)
  | addNameNs s ns => exact x.reg_mono (.name s ns)
  | addNamespace s => exact x.reg_mono (.ns s)
  | addPrefix s => exact x.reg_mono (.pfx s)
  | parse ts => exact Interner.regAll_mono _ x
  | html5 =>
    show x.Mono x.html5.1
    rw [(Interner.html5_regs x).1]; exact Interner.regAll_mono _ x
  | clone => exact Interner.Mono.refl x

theorem Interner.hstep_inv {x : Interner} (h : x.Inv) (s : HStep) : (x.step s).Inv := by
  cases s with
  | addName s => exact Interner.inv_addNameNs h s _
  | addNameNs s ns => exact Interner.inv_addNameNs h s ns
  | addNamespace s => exact Interner.inv_addNamespace h s
  | addPrefix s => exact Interner.inv_addPrefix h s
  | parse ts => exact Interner.regAll_inv _ h
  | html5 =>
    show x.html5.1.Inv
    rw [(Interner.html5_regs x).1]; exact Interner.regAll_inv _ h
  | clone => exact h

/-- The step names only namespace ids this `Xot` has issued (`add_name_ns` accepts any id). -/
def HStep.NsOk (x : Interner) : HStep → Prop
  | .addNameNs _ ns => ns < x.namespaceLookup.byId.length
  | _ => True

def Interner.RunOk (x : Interner) : List HStep → Prop
  | [] => True
  | s :: ss => s.NsOk x ∧ Interner.RunOk (x.step s) ss

theorem Interner.WF.step {x : Interner} (h : x.WF) (s : HStep) (hs : s.NsOk x) : (x.step s).WF := by
  cases s with
  | addName s =>
    refine h.reg (.name s x.noNamespaceId) ?_
    show x.noNamespaceId < x.namespaceLookup.byId.length
    rw [h.noNs]; have := h.ns2; show 0 < _; omega
  | addNameNs s ns => exact h.reg (.name s ns) hs
  | addNamespace s => exact h.reg (.ns s) trivial
  | addPrefix s => exact h.reg (.pfx s) trivial
  | parse ts => exact h.parse ts
  | html5 => exact h.html5
  | clone => exact h

theorem Interner.run_mono (ss : List HStep) : ∀ (x : Interner), x.Mono (x.run ss) := by
  induction ss with
  | nil => intro x; exact Interner.Mono.refl x
  | cons s ss ih => intro x; exact (x.step_mono s).trans (ih _)

theorem Interner.run_inv (ss : List HStep) : ∀ {x : Interner}, x.Inv → (x.run ss).Inv := by
  induction ss with
  | nil => intro x h; exact h
  | cons s ss ih => intro x h; exact ih (Interner.hstep_inv h s)

theorem Interner.run_wf (ss : List HStep) : ∀ {x : Interner}, x.WF → x.RunOk ss → (x.run ss).WF := by
  induction ss with
  | nil => intro x h _; exact h
  | cons s ss ih => intro x h hr; exact ih (h.step s hr.1) hr.2

theorem Interner.run_append (a b : List HStep) : ∀ (x : Interner), x.run (a ++ b) = (x.run a).run b := by
  induction a with
  | nil => intro x; rfl
  | cons s ss ih => intro x; exact ih _

/-- `Mono` on the `by_id` vectors: every id of `x` is an id of `x'` with the same value. -/
theorem Interner.Mono.prefixOf {x x' : Interner} (h : x.Mono x') : x.env.PrefixOf x'.env := by
  have aux : ∀ {α : Type} {l l' : List α}, (∀ (i : Nat) (v : α), l[i]? = some v → l'[i]? = some v) → l <+: l' := by
    intro α l l' hh
    rw [List.prefix_iff_getElem?]
    intro i hi
    rw [hh i l[i] (List.getElem?_eq_getElem hi)]
  exact ⟨aux h.nsValue, aux h.pfValue, aux h.nmValue⟩

end XotModel

/-! ## The ids of `html5()`

  Read through the tables, what `HtmlNames.ids` holds for each of the five name tables is the predicate
  `HtmlNames.idsContain` the HTML5 serializer model (`Model/Html5.lean`, C19) uses instead of a set of ids.
-/

namespace XotModel
open IdParse IdMap Gen

/-- The ids a sequence of calls returns are exactly the ids that stand — in any later,
    duplicate-free state of the tables — for one of the values registered. -/
theorem Env.regAll_mem_ids (e : Env) (rs : List Reg) {e' : Env} (hp : (e.regAll rs).1.PrefixOf e')
    (hd : e'.DupFree) (id : Nat) : id ∈ (e.regAll rs).2 ↔ ∃ r ∈ rs, e'.Holds r id := by
  constructor
  · intro h
    obtain ⟨i, hi, hid⟩ := List.getElem_of_mem h
    have hi' : i < rs.length := by rw [← Env.regAll_length rs e]; exact hi
    refine ⟨rs[i], List.getElem_mem hi', ?_⟩
    refine (Env.regAll_holds rs e i rs[i] id (List.getElem?_eq_getElem hi') ?_).mono hp
    rw [List.getElem?_eq_getElem hi, hid]
  · rintro ⟨r, hr, hh⟩
    obtain ⟨i, hi, rfl⟩ := List.getElem_of_mem hr
    have hi' : i < (e.regAll rs).2.length := by rw [Env.regAll_length rs e]; exact hi
    have h1 := (Env.regAll_holds rs e i rs[i] _ (List.getElem?_eq_getElem hi)
      (List.getElem?_eq_getElem hi')).mono hp
    rw [hh.id_eq hd h1]
    exact List.getElem_mem hi'

theorem Interner.html5Names_ids (xh : Nat) (tables : List (List Str)) : ∀ (x : Interner), x.Inv →
    ∀ (e' : Env), (x.html5Names xh tables).1.env.PrefixOf e' → e'.Cap → e'.DupFree →
    ∀ (j : Nat) (L : List Str) (ids : List Nat), tables[j]? = some L → (x.html5Names xh tables).2[j]? = some ids →
    ∀ id, id ∈ ids ↔ ∃ r ∈ htmlNamesRegs x.noNamespaceId xh L, e'.Holds r id := by
  induction tables with
  | nil => intro x _ e' _ _ _ j L ids hL; simp at hL
  | cons t ts ih =>
    intro x hinv e' hp hc hd j L ids hL hids
    have hinv1 := Interner.regAll_inv (htmlNamesRegs x.noNamespaceId xh t) hinv
    have hmono : (x.regAll (htmlNamesRegs x.noNamespaceId xh t)).1.env.PrefixOf
        ((x.regAll (htmlNamesRegs x.noNamespaceId xh t)).1.html5Names xh ts).1.env := by
      rw [(Interner.html5Names_eq xh ts _).1]
      exact (Interner.regAll_mono _ _).prefixOf
    cases j with
    | zero =>
      simp only [Interner.html5Names, List.getElem?_cons_zero, Option.some.injEq] at hL hids
      subst hL
      have hp1 : (x.regAll (htmlNamesRegs x.noNamespaceId xh t)).1.env.PrefixOf e' := hmono.trans hp
      have hcap : (x.env.regAll (htmlNamesRegs x.noNamespaceId xh t)).1.Cap := by
        rw [← Interner.regAll_env _ hinv]; exact Env.Cap.of_prefix hp1 hc
      rw [← hids, Interner.regAll_ids _ hinv hcap]
      rw [Interner.regAll_env _ hinv] at hp1
      exact Env.regAll_mem_ids x.env _ hp1 hd
    | succ j =>
      simp only [Interner.html5Names, List.getElem?_cons_succ] at hL hids
      have := ih _ hinv1 e' hp hc hd j L ids hL hids
      rw [(Interner.regAll_consts _ x).1] at this
      exact this

/-- `html5()`: the `ids` of table `j` (in the order `html5_names`, `void_names`,
    `phrasing_content_names`, `formatted_names`, `no_escape_names`) are exactly the ids that stand —
    in the tables `html5()` leaves, or any later ones — for `(n, no namespace)`, `(N, no namespace)`,
    `(n, xhtml)`, `(N, xhtml)` with `n` an entry of the table and `N` its upper-casing. -/
theorem Interner.html5_ids {x : Interner} (h : x.Inv) {e' : Env} (hp : x.html5.1.env.PrefixOf e')
    (hc : e'.Cap) (hd : e'.DupFree) {j : Nat} {L : List Str} {ids : List Nat}
    (hL : html5Tables[j]? = some L) (hids : x.html5.2.ids[j]? = some ids) (id : Nat) :
    id ∈ ids ↔ ∃ r ∈ htmlNamesRegs x.noNamespaceId x.html5.2.xhtml L, e'.Holds r id := by
  have h3 : (((x.addNamespace xhtmlNs).1.addNamespace mathmlNs).1.addNamespace svgNs).1.Inv :=
    Interner.inv_addNamespace (Interner.inv_addNamespace (Interner.inv_addNamespace h _) _) _
  revert hp hids
  unfold Interner.html5
  generalize html5Tables = T at hL ⊢
  intro hp hids
  exact Interner.html5Names_ids (x.addNamespace xhtmlNs).2 T _ h3 e' hp hc hd j L ids hL hids id

/-- The three namespace ids `html5()` keeps are found under their URIs afterwards. -/
theorem Interner.html5_namespaces {x : Interner} (h : x.Inv) :
    x.html5.1.namespace xhtmlNs = some x.html5.2.xhtml ∧
    x.html5.1.namespace mathmlNs = some x.html5.2.mathml ∧
    x.html5.1.namespace svgNs = some x.html5.2.svg := by
  unfold Interner.html5
  generalize html5Tables = T
  have i1 := Interner.inv_addNamespace h xhtmlNs
  have i2 := Interner.inv_addNamespace i1 mathmlNs
  have m3 : (((x.addNamespace xhtmlNs).1.addNamespace mathmlNs).1.addNamespace svgNs).1.Mono
      ((((x.addNamespace xhtmlNs).1.addNamespace mathmlNs).1.addNamespace svgNs).1.html5Names
        (x.addNamespace xhtmlNs).2 T).1 := by
    rw [(Interner.html5Names_eq _ _ _).1]; exact Interner.regAll_mono _ _
  have m2 := (Interner.reg_mono ((x.addNamespace xhtmlNs).1.addNamespace mathmlNs).1 (.ns svgNs)).trans m3
  have m1 := (Interner.reg_mono (x.addNamespace xhtmlNs).1 (.ns mathmlNs)).trans m2
  exact ⟨m1.nsId _ _ (IdMap.getId_getIdMut_self h.ns xhtmlNs),
    m2.nsId _ _ (IdMap.getId_getIdMut_self i1.ns mathmlNs),
    m3.nsId _ _ (IdMap.getId_getIdMut_self i2.ns svgNs)⟩

/-! ### … which is `HtmlNames.idsContain` -/

theorem Env.holds_name_iff (e : Env) (l : Str) (n id : Nat) :
    e.Holds (.name l n) id ↔ id < e.names.length ∧ e.localName id = l ∧ e.nsOfName id = n := by
  simp only [Env.Holds, Env.localName, Env.nsOfName]
  constructor
  · intro h
    have hlt : id < e.names.length := by
      rcases Nat.lt_or_ge id e.names.length with h' | h'
      · exact h'
      · rw [List.getElem?_eq_none h'] at h; cases h
    rw [List.getElem?_eq_getElem hlt, Option.some.injEq] at h
    simp [List.getD_eq_getElem?_getD, hlt, h]
  · rintro ⟨hlt, h1, h2⟩
    rw [List.getD_eq_getElem?_getD, List.getElem?_eq_getElem hlt] at h1 h2
    rw [List.getElem?_eq_getElem hlt]
    simp only [Option.getD_some] at h1 h2
    rw [← h1, ← h2]

/-- The four registrations per entry, read back through the tables, are the membership test the
    serializer model makes. -/
theorem htmlNamesRegs_idsContain (e : Env) (xh : Nat) (L : List Str) (id : Nat) (hlt : id < e.names.length) :
    (∃ r ∈ htmlNamesRegs Env.noNamespace xh L, e.Holds r id) ↔ (HtmlNames.mk xh L).idsContain e id = true := by
  simp only [htmlNamesRegs, List.mem_flatMap, List.mem_cons, List.not_mem_nil, or_false,
    HtmlNames.idsContain, Bool.and_eq_true, Bool.or_eq_true, beq_iff_eq, List.contains_iff_mem, List.mem_map]
  constructor
  · rintro ⟨r, ⟨n, hn, hr⟩, hh⟩
    rcases hr with rfl | rfl | rfl | rfl <;> rw [Env.holds_name_iff] at hh <;> obtain ⟨_, h1, h2⟩ := hh
    · exact ⟨Or.inl h2, Or.inl (h1 ▸ hn)⟩
    · exact ⟨Or.inl h2, Or.inr ⟨n, hn, h1.symm⟩⟩
    · exact ⟨Or.inr h2, Or.inl (h1 ▸ hn)⟩
    · exact ⟨Or.inr h2, Or.inr ⟨n, hn, h1.symm⟩⟩
  · rintro ⟨hns, hl⟩
    rcases hns with hns | hns <;> rcases hl with hl | ⟨n, hn, hl⟩
    · exact ⟨_, ⟨_, hl, Or.inl rfl⟩, (Env.holds_name_iff _ _ _ _).2 ⟨hlt, rfl, hns⟩⟩
    · exact ⟨_, ⟨n, hn, Or.inr (Or.inl rfl)⟩, (Env.holds_name_iff _ _ _ _).2 ⟨hlt, hl.symm, hns⟩⟩
    · exact ⟨_, ⟨_, hl, Or.inr (Or.inr (Or.inl rfl))⟩, (Env.holds_name_iff _ _ _ _).2 ⟨hlt, rfl, hns⟩⟩
    · exact ⟨_, ⟨n, hn, Or.inr (Or.inr (Or.inr rfl))⟩, (Env.holds_name_iff _ _ _ _).2 ⟨hlt, hl.symm, hns⟩⟩

end XotModel
