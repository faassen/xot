/-
  `Forest.VStep` for `clone_node` (no value of a node that existed before changes, every handle of the clone is
  new), for each constructor of `Forest.Call`, for the steps of a history; and what it means for the value read at a
  handle under the invariant (`VStep.value`, `VStep.live_or_removed`, `history_value`).
-/
import XotModel.Lemmas.FinvVStep
import XotModel.Lemmas.FcloneMain
import XotModel.Lemmas.FinvStep

/-! ## `clone_node` -/

namespace XotModel
open HTree

namespace Forest

theorem isLive_of_hv {f : Forest} {x : Nat} {v : Value} (h : (x, v) ∈ hvList f.roots) :
    f.isLive x = true := isLive_of_mem_allHandles (mem_handlesList_of_mem_hvList h)

/-- `clone_node` on a forest with the invariant. -/
theorem vstep_cloneNode {S T : Nat → Prop} {f : Forest} (hi : f.Inv) (n : Nat) :
    VStep S T f (f.cloneNode n).1 := by
  cases hg : f.get? n with
  | none => unfold cloneNode; rw [hg]; exact VStep.refl f
  | some src =>
    obtain ⟨C, f', h1, h2, _, h4, h5, _⟩ := cloneNode_full f hi n src hg
    rw [h1]
    refine ⟨h5, fun x v' hx => ?_⟩
    rw [h2, hvList_append, List.mem_append] at hx
    rcases hx with hx | hx
    · exact VOrigin.of_mem hx
    · refine Or.inl (h4 x ?_).1
      simpa [handlesList] using mem_handlesList_of_mem_hvList hx

end Forest
end XotModel

/-! ## Every call and every history -/

namespace XotModel
open HTree

namespace Forest

variable {S : Nat → Prop}

/-- Every call: the handles it may overwrite are `c.targets f`; text consolidation may extend text
    nodes; everything else that is still there is as it was. -/
theorem vstep_call {f : Forest} (hi : f.Inv) (c : Call) (hS : ∀ x ∈ c.targets f, S x) :
    VStep S Any f (c.run f).1 := by
  cases c with
  | append p c => exact vstep_append_any f p c
  | prepend p c => exact vstep_prepend_any f p c
  | insertAfter a b => exact vstep_insertAfter_any f a b
  | insertBefore a b => exact vstep_insertBefore_any f a b
  | detach n => exact vstep_detach_any f n
  | remove n => exact vstep_remove_any f n
  | replace a b => exact vstep_replace f a b
  | elementWrap n name => exact vstep_elementWrap f n name
  | elementUnwrap n => exact vstep_elementUnwrap f n
  | cloneNode n => exact vstep_cloneNode hi n
  | anyAppend p c => exact vstep_anyAppend_any f p c hS
  | appendEntryNode k p c => exact vstep_appendEntryNode f k p c hS
  | mapInsert k p e =>
    apply vstep_mapInsert f k p e
    intro n hn
    apply hS
    simp [Call.targets, hn]
  | mapRemove k p key => exact vstep_mapRemove f k p key
  | mapClear k p => exact vstep_mapClear f k p
  | setElementName n name => exact vstep_setElementName f n name (hS n (by simp [Call.targets]))
  | setText n s => exact vstep_setText f n s (hS n (by simp [Call.targets]))
  | setComment n s => exact vstep_setComment f n s (hS n (by simp [Call.targets]))
  | setPiData n d => exact vstep_setPiData f n d (hS n (by simp [Call.targets]))
  | textContentSet n s =>
    apply vstep_textContentSet f n s
    intro c hc
    apply hS
    simp [Call.targets, hc]

theorem vstep_stepAll {f : Forest} (hi : f.Inv) (st : HStep) (hS : ∀ x ∈ st.targets f, S x) :
    VStep S Any f (f.stepAll st) := by
  cases st with
  | call c => exact vstep_call hi c hS
  | newNode v => exact vstep_newNode f v
  | setConsolidation b => exact vstep_setConsolidation f b
  | removeInsignificantWhitespace n => exact vstep_removeInsignificantWhitespace f n

theorem vstep_step {f : Forest} (hi : f.Inv) (o : Op) (hS : ∀ x ∈ o.targets f, S x) :
    VStep S Any f (f.step o) := by
  rw [Forest.step_eq_stepAll]; exact vstep_stepAll hi o.toStep hS

/-! ### Reading the relation at a handle -/

/-- Under distinct handles below `next`, `VStep` says how the value read at a handle that is live
    before and after is related. -/
theorem VStep.value {S T : Nat → Prop} {f f' : Forest} (h : VStep S T f f') (hi : f.Inv) {x : Nat}
    {v v' : Value} (hv : f.value? x = some v) (hv' : f'.value? x = some v') : VRel S T x v v' := by
  rcases h.old x v' (hv_of_value? hv') with h1 | ⟨v0, h2, h3⟩
  · have := hi.below x (mem_allHandles_of_value? hv)
    omega
  · have := (value?_eq_some_iff hi.nodup x v0).2 h2
    rw [hv] at this
    cases this
    exact h3

theorem VStep.live_or_removed {S T : Nat → Prop} {f f' : Forest} (h : VStep S T f f') (hi : f.Inv)
    {x : Nat} (hl : f.isLive x = true) : f'.isLive x = true ∨ f'.isRemoved x = true := by
  cases hl' : f'.isLive x with
  | true => exact Or.inl rfl
  | false =>
    right
    have := hi.below x (mem_allHandles_of_isLive hl)
    have := h.next
    simp [isRemoved, hl']
    omega

theorem TextExt.of_nontext {v v' : Value} (h : TextExt v v') (hv : v.isText = false) : False := by
  obtain ⟨s, a, b, rfl, _⟩ := h
  simp [Value.isText] at hv

theorem VRel.cases_any {x : Nat} {v v' : Value} (h : VRel S Any x v v') :
    SameKind v v' ∧ (¬ S x → v' = v ∨ TextExt v v') ∧ (¬ S x → v.isText = false → v' = v) := by
  refine ⟨h.sameKind, ?_, ?_⟩
  · intro hS
    rcases h with h | h | h
    · exact Or.inl h
    · exact Or.inr h.2
    · exact absurd h.1 hS
  · intro hS hnt
    rcases h with h | h | h
    · exact h
    · exact (h.2.of_nontext hnt).elim
    · exact absurd h.1 hS

/-! ### Histories -/

/-- A handle live at both ends of a history is live throughout (a removed handle stays removed). -/
theorem live_between {f : Forest} (hi : f.Inv) (o : Op) (os : List Op) {x : Nat}
    (hl : f.isLive x = true) (hl' : ((f.step o).run os).isLive x = true) : (f.step o).isLive x = true := by
  cases h1 : (f.step o).isLive x with
  | true => rfl
  | false =>
    exfalso
    have hlt := hi.below x (mem_allHandles_of_isLive hl)
    have hr : (f.step o).isRemoved x = true := by
      have := (le_step f o).next
      simp [isRemoved, h1]; omega
    have := isRemoved_mono (le_run (f.step o) os) hr
    simp [isRemoved, hl'] at this

theorem run_cons (f : Forest) (o : Op) (os : List Op) : f.run (o :: os) = (f.step o).run os := rfl

/-- Along any history: a handle live at the start and at the end denotes a node of the same kind;
    if no call in between had it among its targets, the value is the same, up to the extension of
    text content by consolidation. -/
theorem history_value : ∀ (ops : List Op) {f : Forest}, f.Inv → ∀ {x : Nat} {v v' : Value},
    f.value? x = some v → (f.run ops).value? x = some v' →
    SameKind v v' ∧ (f.neverTarget x ops → v' = v ∨ TextExt v v')
  | [], f, _, x, v, v', hv, hv' => by
    have : f.run [] = f := rfl
    rw [this, hv] at hv'
    cases hv'
    exact ⟨SameKind.refl _, fun _ => Or.inl rfl⟩
  | o :: os, f, hi, x, v, v', hv, hv' => by
    rw [run_cons] at hv'
    have hi1 : (f.step o).Inv := step_inv hi o (by cases o <;> rfl)
    have hl1 := live_between hi o os (isLive_of_value? hv) (isLive_of_value? hv')
    rw [isLive_iff_value?] at hl1
    cases hv1 : (f.step o).value? x with
    | none => rw [hv1] at hl1; cases hl1
    | some v1 =>
      have ih := history_value os hi1 hv1 hv'
      have st := vstep_step (S := fun y => y ∈ o.targets f) hi o (fun _ h => h)
      have r1 := (st.value hi hv hv1).cases_any
      refine ⟨r1.1.trans' ih.1, ?_⟩
      intro hn
      obtain ⟨hn1, hn2⟩ := hn
      rcases r1.2.1 hn1 with e | e
      · rw [e] at ih; exact ih.2 hn2
      · rcases ih.2 hn2 with e2 | e2
        · rw [e2]; exact Or.inr e
        · exact Or.inr (e.trans e2)

end Forest
end XotModel
