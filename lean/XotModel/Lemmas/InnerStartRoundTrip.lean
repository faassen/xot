/-
  Round trip for a start node INSIDE a tree, after the tokens (Lemmas/InnerStartTokens.lean): the
  document `standalone t q` of an element of a `nodeOK` tree is `Representable` and deep-equal to the
  element it was made from, `to_string(node at q)` is `to_string` of that document, and serialising
  from `q` succeeds exactly when `namesWritable env t q`.
-/
import XotModel.Lemmas.InnerStartTokens
import XotModel.Lemmas.Scope
import XotModel.Lemmas.CanonDropNs
import XotModel.Lemmas.RoundTripDeepEqual
import XotModel.Lemmas.RoundTripItems
import XotModel.Lemmas.SerTokensLex
import XotModel.Lemmas.RepresentableEdit
import XotModel.Lemmas.RoundTripSerialises

/-! ### The standalone document is representable

  The inherited declarations come from namespace nodes of ancestors (`mem_inScope_origin`), which are
  `valueOK`; their prefixes are pairwise distinct (`namespaces_in_scope` yields every prefix once)
  and none is declared by the element itself (`extraPrefixes` filters those out).
-/

namespace XotModel
open XotModel.Repair

variable {env : Env}

theorem isBaseXml_of_mem_base {d : Nat × Nat} (h : d ∈ basePrefixes) : isBaseXml d = true := by
  simp only [basePrefixes, List.mem_singleton] at h
  subst h
  rfl

theorem mem_inheritedExtra {I : List (Nat × Nat)} {n : Tree} {d : Nat × Nat} (h : d ∈ inheritedExtra I n) :
    d ∈ I ∧ n.declaresPrefix d.1 = false ∧ isBaseXml d = false := by
  simp only [inheritedExtra, List.mem_filter, Bool.and_eq_true, Bool.not_eq_true'] at h
  exact ⟨h.1, h.2.1, h.2.2⟩

theorem inheritedExtra_origin (chain : List Tree) (n : Tree) (d : Nat × Nat)
    (h : d ∈ inheritedExtra (namespacesInScopeChain chain) n) : ∃ c ∈ chain, d ∈ c.nsDecls := by
  obtain ⟨h1, _, h3⟩ := mem_inheritedExtra h
  rcases namespacesInScopeChain_origin chain d h1 with hb | hc
  · rw [isBaseXml_of_mem_base hb] at h3; cases h3
  · exact hc

theorem inheritedExtra_keys_nodup (chain : List Tree) (n : Tree) :
    ((inheritedExtra (namespacesInScopeChain chain) n).map Prod.fst).Nodup :=
  (namespacesInScopeChain_nodup chain).sublist (List.filter_sublist.map _)

/-! ### Prepending declaration leaves -/

theorem nsPrefixes_nsLeaves_append (X : List (Nat × Nat)) (ks : List Tree) :
    nsPrefixes (nsLeaves X ++ ks) = X.map Prod.fst ++ nsPrefixes ks := by
  induction X with
  | nil => rfl
  | cons d X ih =>
    show nsPrefixes (Tree.node (.namespace d.1 d.2) [] :: (nsLeaves X ++ ks)) = _
    rw [nsPrefixes_cons_ns, ih]
    rfl

theorem attrNames_nsLeaves_append (X : List (Nat × Nat)) (ks : List Tree) :
    attrNames (nsLeaves X ++ ks) = attrNames ks :=
  nsLeaves_append_unseen attrNames (fun _ _ _ => rfl) X ks

theorem noAdjText_nsLeaves_append (X : List (Nat × Nat)) (ks : List Tree) :
    noAdjText (nsLeaves X ++ ks) = noAdjText ks :=
  nsLeaves_append_unseen noAdjText (fun p ns l => noAdjText_cons_ns p ns [] l) X ks

theorem idsList_nsLeaves_append (X : List (Nat × Nat)) (ks : List Tree) :
    xmlIdValues.idsList env (nsLeaves X ++ ks) = xmlIdValues.idsList env ks :=
  nsLeaves_append_unseen _ (fun p ns l => by rw [idsList_cons_ns]; rfl) X ks

theorem orderedKids_nsLeaves_append (X : List (Nat × Nat)) (ks : List Tree) (h : OrderedKids ks) :
    OrderedKids (nsLeaves X ++ ks) := by
  induction X with
  | nil => exact h
  | cons d X ih => exact orderedKids_cons_ns d.1 d.2 [] _ ih

theorem nodeOK_prepend_ns (name : Nat) (ks : List Tree) (X : List (Nat × Nat))
    (hS : (Tree.node (.element name) ks).allNodes (nodeOK env) = true)
    (hv : ∀ d ∈ X, valueOK env (.namespace d.1 d.2) = true)
    (hnd : (X.map Prod.fst ++ nsPrefixes ks).Nodup) :
    (Tree.node (.element name) (nsLeaves X ++ ks)).allNodes (nodeOK env) = true := by
  obtain ⟨hord, hkinds, huniq, hnoadj, hval⟩ := nodeOK_root hS
  rw [allNodes_node, Bool.and_eq_true, List.all_eq_true]
  refine ⟨(nodeOK_iff env _ _).mpr ⟨orderedKids_nsLeaves_append X ks hord,
    ⟨fun h => (by cases h), fun h => (by cases h), ?_⟩, ⟨?_, ?_⟩, ?_, hval⟩, ?_⟩
  · intro k hk
    rcases List.mem_append.mp hk with h | h
    · simp only [nsLeaves, List.mem_map] at h
      obtain ⟨d, _, rfl⟩ := h
      rfl
    · exact hkinds.2.2 k h
  · rw [attrNames_nsLeaves_append]; exact huniq.1
  · rw [nsPrefixes_nsLeaves_append]; exact hnd
  · rw [noAdjText_nsLeaves_append]; exact hnoadj
  · intro k hk
    rcases List.mem_append.mp hk with h | h
    · simp only [nsLeaves, List.mem_map] at h
      obtain ⟨d, hd, rfl⟩ := h
      exact nodeOK_namespace_leaf (hv d hd)
    · exact allNodes_kid hS h

theorem representable_document_single (henv : envOK env = true) (name : Nat) (ks : List Tree)
    (hn : (Tree.node (.element name) ks).allNodes (nodeOK env) = true)
    (hids : (xmlIdValues env (.node (.element name) ks)).Nodup) :
    Representable env (.node .document [.node (.element name) ks]) = true := by
  rw [representable_iff]
  refine ⟨(representableFragment_iff env _).mpr ⟨henv, rfl, ?_, ?_⟩, ?_⟩
  · rw [allNodes_node, Bool.and_eq_true, List.all_eq_true]
    refine ⟨(nodeOK_iff env _ _).mpr ⟨?_, ⟨fun h => (by cases h), ?_, ?_⟩, ⟨?_, ?_⟩, rfl, rfl⟩, ?_⟩
    · exact List.pairwise_singleton _ _
    · intro _ k hk
      simp only [List.mem_singleton] at hk; subst hk; rfl
    · intro k hk
      simp only [List.mem_singleton] at hk; subst hk; rfl
    · simp [attrNames, Tree.value]
    · simp [nsPrefixes, Tree.value]
    · intro k hk
      simp only [List.mem_singleton] at hk; subst hk; exact hn
  · have : xmlIdValues env (.node .document [.node (.element name) ks]) =
        xmlIdValues env (.node (.element name) ks) := by
      simp [xmlIdValues, xmlIdValues.idsList]
    rw [this]; exact hids
  · simp [singleRoot, Tree.kids, Tree.value, Value.isElement, Value.isText]

/-! ### `xml:id` values of a subtree -/

theorem idsList_get_sublist : ∀ (ks : List Tree) (i : Nat) (k : Tree), ks[i]? = some k →
    (xmlIdValues env k).Sublist (xmlIdValues.idsList env ks)
  | [], i, k, h => by simp at h
  | a :: ks, 0, k, h => by
    simp only [List.getElem?_cons_zero, Option.some.injEq] at h
    subst h
    simp only [xmlIdValues.idsList]
    exact List.sublist_append_left _ _
  | a :: ks, i + 1, k, h => by
    simp only [List.getElem?_cons_succ] at h
    simp only [xmlIdValues.idsList]
    exact (idsList_get_sublist ks i k h).trans (List.sublist_append_right _ _)

theorem xmlIdValues_at?_sublist : ∀ (q : Path) (t sub : Tree), t.at? q = some sub →
    (xmlIdValues env sub).Sublist (xmlIdValues env t)
  | [], t, sub, h => by
    simp only [Tree.at?, Option.some.injEq] at h
    subst h
    exact List.Sublist.refl _
  | i :: q, .node v ks, sub, h => by
    rw [at?_cons] at h
    cases hk : ks[i]? with
    | none => rw [hk] at h; cases h
    | some k =>
      rw [hk] at h
      have h1 := xmlIdValues_at?_sublist q k sub h
      have h2 := idsList_get_sublist (env := env) ks i k hk
      simp only [xmlIdValues]
      exact (h1.trans h2).trans (List.sublist_append_right _ _)

/-! ### The standalone document is in the C01 domain -/

theorem standalone_eq (t : Tree) (q : Path) (name : Nat) (ks : List Tree) (rest : List Tree)
    (hat : t.at? q = some (.node (.element name) ks))
    (hchain : t.ancestorsOrSelf q = some (.node (.element name) ks :: rest)) :
    standalone t q = some (.node .document [.node (.element name)
      (nsLeaves (inheritedExtra (namespacesInScopeChain (.node (.element name) ks :: rest))
        (.node (.element name) ks)) ++ ks)]) := by
  simp only [standalone, hat, namespacesInScope_of_chain hchain, Option.map_some, standaloneElement]

/-- **The standalone document of an element of a `nodeOK` tree is `Representable`.**  Hypotheses:
    tables with the built-in values, `nodeOK` at every node of the tree that holds the element
    (ancestors included: the inherited declarations are theirs), no repeated `xml:id` value below
    the element. -/
theorem standalone_representable (henv : envOK env = true) (t : Tree) (q : Path) (name : Nat)
    (ks : List Tree) (hok : t.allNodes (nodeOK env) = true)
    (hat : t.at? q = some (.node (.element name) ks))
    (hids : (xmlIdValues env (.node (.element name) ks)).Nodup) :
    ∃ X, standalone t q = some (.node .document [.node (.element name) (nsLeaves X ++ ks)]) ∧
      Representable env (.node .document [.node (.element name) (nsLeaves X ++ ks)]) = true := by
  obtain ⟨rest, hchain⟩ := ancestorsOrSelf_of_at? t q _ hat
  refine ⟨_, standalone_eq t q name ks rest hat hchain, ?_⟩
  have hsub : (Tree.node (.element name) ks).allNodes (nodeOK env) = true := allNodes_at? q t _ hok hat
  have hch := ancestorsOrSelf_allNodes _ t q _ hchain hok
  obtain ⟨hord, _, huniq, _, _⟩ := nodeOK_root hsub
  apply representable_document_single henv
  · apply nodeOK_prepend_ns name ks _ hsub
    · intro d hd
      obtain ⟨c, hc, hdc⟩ := inheritedExtra_origin _ _ d hd
      cases c with
      | node cv cks => exact nsDecls_valueOK env (hch _ hc) hdc
    · rw [List.nodup_append]
      refine ⟨inheritedExtra_keys_nodup _ _, huniq.2, ?_⟩
      intro a ha b hb hab
      subst hab
      obtain ⟨d, hd, rfl⟩ := List.mem_map.mp ha
      have hnot := (mem_inheritedExtra hd).2.1
      have hmem : d.1 ∈ (Tree.node (.element name) ks).nsDecls.map Prod.fst := by
        rw [nsDecls_eq_kidDecls _ ks hord, kidDecls_fst]; exact hb
      have : (Tree.node (.element name) ks).declaresPrefix d.1 = true :=
        (any_key_iff _ _).mpr hmem
      rw [this] at hnot
      cases hnot
  · simp only [xmlIdValues, idsList_nsLeaves_append]
    exact hids

/-! ### `deep_equal` does not see the inherited declarations -/

theorem dropNsList_nsLeaves_append (X : List (Nat × Nat)) (ks : List Tree) :
    dropNsList (nsLeaves X ++ ks) = dropNsList ks :=
  nsLeaves_append_unseen dropNsList (fun p ns l => by
    rw [dropNsList]
    simp only [Tree.value, Value.category, beq_self_eq_true, if_true]) X ks

/-- The element of the standalone document is `deep_equal` to the element it was made from. -/
theorem deepEqual_prepend_ns (name : Nat) (ks : List Tree) (X : List (Nat × Nat))
    (h1 : (Tree.node (.element name) (nsLeaves X ++ ks)).allNodes (nodeOK env) = true)
    (h2 : (Tree.node (.element name) ks).allNodes (nodeOK env) = true) :
    deepEqual (.node (.element name) (nsLeaves X ++ ks)) (.node (.element name) ks) = true := by
  apply deepEqual_of_dropNs _ _ (valid_of_nodeOK _ h1) (valid_of_nodeOK _ h2)
  simp only [dropNs, dropNsList_nsLeaves_append]

/-! ### The side condition of the rendering theorem -/

theorem standalone_declsNamed (t : Tree) (q : Path) (name : Nat) (ks : List Tree) (rest : List Tree)
    (hat : t.at? q = some (.node (.element name) ks))
    (hchain : t.ancestorsOrSelf q = some (.node (.element name) ks :: rest))
    (ht : t.allNodes (declsNamed env) = true) :
    (Tree.node .document [.node (.element name)
      (nsLeaves (inheritedExtra (namespacesInScopeChain (.node (.element name) ks :: rest))
        (.node (.element name) ks)) ++ ks)]).allNodes (declsNamed env) = true := by
  have hsub : (Tree.node (.element name) ks).allNodes (declsNamed env) = true := allNodes_at? q t _ ht hat
  have hch := ancestorsOrSelf_allNodes _ t q _ hchain ht
  rw [allNodes_node, Bool.and_eq_true, List.all_eq_true]
  refine ⟨?_, fun k hk => ?_⟩
  · simp [declsNamed, nsDecls_document_single]
  · simp only [List.mem_singleton] at hk
    subst hk
    rw [allNodes_node, Bool.and_eq_true, List.all_eq_true]
    refine ⟨?_, fun k hk => ?_⟩
    · simp only [declsNamed, nsDecls_nsLeaves_append, List.all_append, Bool.and_eq_true, List.all_eq_true]
      refine ⟨fun d hd => ?_, ?_⟩
      · obtain ⟨c, hc, hdc⟩ := inheritedExtra_origin _ _ d hd
        have h1 := hch c hc
        cases c with
        | node cv cks =>
          have h2 := allNodes_root h1
          simp only [declsNamed, List.all_eq_true] at h2
          exact h2 d hdc
      · have h2 := allNodes_root hsub
        simp only [declsNamed, List.all_eq_true] at h2
        exact h2
    · rcases List.mem_append.mp hk with h | h
      · simp only [nsLeaves, List.mem_map] at h
        obtain ⟨d, _, rfl⟩ := h
        rw [allNodes_node]
        simp [declsNamed, Tree.nsDecls, Tree.namespaceNodes, Tree.kids]
      · exact allNodes_kid hsub h

end XotModel

/-! ### Strings, and when serialisation succeeds -/

namespace XotModel
open XotModel.Repair

variable {env : Env}

/-- **`to_string(inner element)` is `to_string(standalone document)`**, whatever the token parameters. -/
theorem serializeString_standalone (pr : TokenParams) (t : Tree)
    (q : Path) (name : Nat) (ks : List Tree) (hx : env.prefixStr Env.xmlPrefix ≠ [])
    (ht : t.allNodes (declsNamed env) = true) (hat : t.at? q = some (.node (.element name) ks)) :
    ∃ t', standalone t q = some t' ∧ serializeString env pr t q = serializeString env pr t' [] := by
  obtain ⟨rest, hchain⟩ := ancestorsOrSelf_of_at? t q _ hat
  obtain ⟨t', h1, h2⟩ := serTokensAtO_standalone (env := env) pr t q name ks hat
  refine ⟨t', h1, ?_⟩
  have h3 := standalone_eq t q name ks rest hat hchain
  rw [h1, Option.some.injEq] at h3
  have hd := standalone_declsNamed (env := env) t q name ks rest hat hchain ht
  rw [← h3] at hd
  show serializeStringWith xmlEscapers env pr t q = serializeStringWith xmlEscapers env pr t' []
  rw [serializeString_serTokensAtO env pr t q hx ht, serializeString_serTokensAtO env pr t' [] hx hd, h2]

/-! ### When does serialisation from an inner node succeed? -/

/-- Whether the start node writes the inherited declarations does not change whether it succeeds. -/
theorem exceptIsOk_serNode_top (ugt : Bool) (I : List (Nat × Nat)) (s : FStack) (n : Tree) :
    exceptIsOk (serNode env ugt I true s n) = exceptIsOk (serNode env ugt I false s n) := by
  cases n with
  | node v ks =>
    cases v with
    | element name =>
      rw [serNode, serNode]
      split
      · rfl
      · split
        · rfl
        · split
          · rfl
          · split
            · rfl
            · rfl
    | document => simp [serNode]
    | text str => rw [serNode, serNode]
    | comment str => rw [serNode, serNode]
    | pi target data => rw [serNode, serNode]
    | «attribute» a b => simp [serNode]
    | «namespace» a b => simp [serNode]

theorem serTokensAt_ok_iff (henv : envOK env = true) (ugt : Bool) (t : Tree) (q : Path) (sub : Tree)
    (hok : t.allNodes (nodeOK env) = true) (hat : t.at? q = some sub) :
    exceptIsOk (serTokensAt env ugt t q) = true ↔ namesWritable env t q = some true := by
  have he := envFacts_of_envOK henv
  obtain ⟨rest, hchain⟩ := ancestorsOrSelf_of_at? t q _ hat
  have hsub : sub.allNodes (nodeOK env) = true := allNodes_at? q t _ hok hat
  have hpi := nodeOK_piOK he _ hsub
  simp only [serTokensAt, hat, namespacesInScope, hchain, Option.map_some, namesWritable,
    Repair.namesWritableChain_eq, Option.some.injEq]
  rw [exceptIsOk_serNode_top, serNode_ok_iff ugt _ sub _ hpi]
  rfl

end XotModel
