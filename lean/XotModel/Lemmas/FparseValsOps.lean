/-
  Value provenance for every operation of the forest model, for the calls as data (`Forest.Call`,
  `Forest.XCall`) and for the composites `deduplicate_namespaces` and `clone_with_prefixes`:
  `fpvQF Q` is kept (`fpv_closed`, an instance of `Forest.Closed`).
-/
import XotModel.Lemmas.FparseValsBase
import XotModel.Lemmas.FspecTextContentSet
import XotModel.Lemmas.ForestClosed
import XotModel.Lemmas.FhistExt

/-! ## Every operation of the forest model (Model/Manip.lean, Manip2.lean)

`fpvQF Q` (every node's value satisfies `Q`) is kept by every operation (`fpv_closed`, an instance of
`Forest.Closed`), given
  * `fpvQCat Q`: `Q` is closed under concatenation of text values (text consolidation),
  * `Q` of the values the call is handed (the new value of a setter, the entry of a map insertion, the
    name of a wrapper element),
and nothing else — except `text_content_mut(node).set(s)` on an element without normal children, which
goes through an EMPTY text node (`new_text("")`, appended, then set): there the forest invariant is used
(`textContentSet_new`, Lemmas/FspecTextContentSet.lean) to know that it is that very node that receives `s`. -/

namespace XotModel
open HTree

/-- `Q` is closed under concatenation of text values. -/
def fpvQCat (Q : Value → Prop) : Prop := ∀ a b, Q (.text a) → Q (.text b) → Q (.text (a ++ b))

namespace Forest

variable {Q : Value → Prop}

theorem fpv_mapGetNode_Q {f : Forest} (hq : fpvQF Q f) {k : MapKind} {parent key : Nat} {n : HTree}
    (h : f.mapGetNode k parent key = some n) : Q n.value := by
  unfold mapGetNode at h
  cases hg : f.get? parent with
  | none => rw [hg] at h; cases h
  | some t =>
    rw [hg] at h
    have hm := List.mem_of_find?_eq_some h
    have hk : n ∈ t.kids := by
      cases k with
      | namespaces => exact (List.takeWhile_sublist _).subset (by simpa [mapChildren] using hm)
      | attributes =>
        have : n ∈ (t.kids.dropWhile (fun c => c.value.category == .namespace)) :=
          (List.takeWhile_sublist _).subset (by simpa [mapChildren] using hm)
        exact (List.dropWhile_sublist _).subset this
    exact fpv_QT_value (fpv_QL_mem (fpv_QT_kids (fpv_get? hq hg)) hk)

/-- Values are only moved about, overwritten by values handed in, or concatenated (text consolidation). -/
theorem fpv_closed (hc : fpvQCat Q) : Closed (fun _ => True) Q (fpvQT Q) (fpvQF Q) where
  flags := fun hq h _ => (fpv_QF_roots h).mpr hq
  prevSibling := fun _ _ _ => trivial
  nextSibling := fun _ _ _ => trivial
  firstChild := fun _ _ _ => trivial
  lastChild := fun _ _ _ => trivial
  parent? := fun _ _ _ => trivial
  prependPoint := fun _ _ _ => trivial
  mapInsertionPoint := fun _ _ _ => trivial
  mapGetNode := fun hq _ h => ⟨trivial, fpv_mapGetNode_Q hq h⟩
  kids := fun _ _ _ _ _ => trivial
  descendants := fun _ _ _ _ _ => trivial
  value? := fun hq h => fpv_value? hq h
  cat := fun ha hb => hc _ _ ha hb
  setValue := fun hq _ hv => fpv_setValue hq _ hv
  spliceOut := fun hq _ => fpv_spliceOut hq _
  cut := fun hq _ => fpv_cut hq _
  addRoot := fun hq ht => fpv_addRoot hq ht
  placeLast := fun hq _ ht => (fpv_place hq ht _).2.2.1
  placeFirst := fun hq _ ht => (fpv_place hq ht _).2.2.2
  placeAfter := fun hq _ ht => (fpv_place hq ht _).1
  placeBefore := fun hq _ ht => (fpv_place hq ht _).2.1

/-- `text_content_mut(node).set(s)`.  On an element without normal children the call goes through an
    empty text node; the invariant says it is that node which receives `s`. -/
theorem fpv_textContentSet (hc : fpvQCat Q) {f : Forest} (hi : f.Inv) (hq : fpvQF Q f) (node : Nat) {s : Str}
    (hv : Q (.text s)) : fpvQF Q (f.textContentSet node s).1 := by
  cases hfc : f.firstChild node with
  | some c =>
    unfold textContentSet
    rw [hfc]
    simp only
    split
    · exact hq
    · split
      · exact fpv_setValue hq _ hv
      · exact hq
  | none =>
    cases he : f.isElement node with
    | false =>
      unfold textContentSet
      rw [hfc]
      simp only [he]
      exact hq
    | true =>
      obtain ⟨nm, L, hg⟩ := Forest.get_of_isElement he
      have hnode : (HTree.node node (.element nm) L).handle = node := rfl
      rw [textContentSet_new hi s hg hfc]
      have := (fpv_place hq (t := .node f.next (.text s) []) (fpv_QT_node.mpr ⟨hv, fpv_QL_nil⟩) node).2.2.1
      exact this

theorem fpv_cloneNode (hc : fpvQCat Q) {f : Forest} (hq : fpvQF Q f) (node : Nat) : fpvQF Q (f.cloneNode node).1 :=
  (Closed.cloneNode_keeps (P := fpvQF Q) (A := fun _ => True) (S := fpvQT Q) (Sv := Q)
    (fun h => ⟨(fpv_QT_node.mp h).1, fun _ hk => fpv_QL_mem (fpv_QT_node.mp h).2 hk⟩)
    (fun hq hv => ⟨fpv_newNode hq hv, trivial⟩)
    (fun hq _ hv => ⟨(fpv_closed hc).anyAppend (fpv_newNode hq hv) trivial trivial, trivial⟩)
    (fun hq _ => fpv_spliceOut hq _) (fun _ _ _ => trivial) hq (fun _ hg => fpv_get? hq hg)).1

end Forest
end XotModel

/-! ## The calls as data and the composites

`Forest.Call`, `Forest.XCall`, `deduplicate_namespaces`, `clone_with_prefixes`, for a generic predicate `Q`.
`create_missing_prefixes` generates values itself: Lemmas/FparseValsDomain.lean, for `Q = valueOK env`. -/

namespace XotModel
open HTree

namespace Forest

variable {Q : Value → Prop}

/-- The one call whose proof needs the invariant. -/
def Call.fpvIsTextContentSet : Call → Prop
  | .textContentSet _ _ => True
  | _ => False

/-- **One call keeps `fpvQF Q`**, for all arguments and outcomes. -/
theorem fpv_call (hc : fpvQCat Q) {f : Forest} (hq : fpvQF Q f) (c : Call) (hn : c.fpvNewQ Q)
    (hi : c.fpvIsTextContentSet → f.Inv) : fpvQF Q (c.run f).1 :=
  (fpv_closed hc).call c hq (fun _ _ => trivial) hn (fun _ hv => ⟨fpv_newNode hq hv, trivial⟩)
    (fpv_cloneNode hc hq) (fun n s e _ hv => fpv_textContentSet hc (hi (e ▸ trivial)) hq n hv)

theorem fpv_runCalls (hc : fpvQCat Q) (cs : List Call) {f : Forest} (hq : fpvQF Q f)
    (h : ∀ c ∈ cs, c.fpvNewQ Q ∧ ¬ c.fpvIsTextContentSet) : fpvQF Q (f.runCalls cs).1 :=
  Closed.runCalls_keeps (P := fpvQF Q) (fun c hq hcc => fpv_call hc hq c hcc.1 (fun h => absurd h hcc.2)) cs hq h

theorem fpv_dedupCalls_shape (env : Env) (f : Forest) (node : Nat) :
    ∀ c ∈ f.dedupCalls env node, c.fpvNewQ Q ∧ ¬ c.fpvIsTextContentSet := by
  intro c hcm
  obtain ⟨_, _, _, _, _, -, -, -, -, -, rfl⟩ := mem_dedupCalls hcm
  exact ⟨trivial, fun h => h⟩

theorem fpv_deduplicateNamespaces (hc : fpvQCat Q) (env : Env) {f : Forest} (hq : fpvQF Q f) (node : Nat) :
    fpvQF Q (f.deduplicateNamespaces env node).1 :=
  Closed.dedupLoop_keeps (P := fpvQF Q) (fun c hq hcc => fpv_call hc hq c hcc.1 (fun h => absurd h hcc.2)) env node
    (fun {f} _ => fpv_dedupCalls_shape env f node) _ hq

theorem fpv_cloneWithPrefixes (hc : fpvQCat Q) {f : Forest} (hq : fpvQF Q f) (node : Nat) (order : List (Nat × Nat))
    (hord : ∀ b ∈ order, Q (.namespace b.1 b.2)) : fpvQF Q (f.cloneWithPrefixes node order).1 :=
  Closed.cloneWithPrefixes_keeps (P := fpvQF Q) (fpv_cloneNode hc hq node) fun c _ =>
    Closed.addPrefixes_keeps (P := fpvQF Q) c order (fpv_cloneNode hc hq node) fun b hb _ hg =>
      (fpv_closed hc).mapInsert hg trivial (hord b hb) (fpv_newNode hg (hord b hb)) trivial

/-- `Q` of the values an extended call is handed (`create_missing_prefixes` apart). -/
def XCall.fpvNewQ (Q : Value → Prop) : XCall → Prop
  | .call c => c.fpvNewQ Q
  | .newNode v => Q v
  | .cloneWithPrefixes _ order => ∀ b ∈ order, Q (.namespace b.1 b.2)
  | _ => True

/-- **One extended call other than `create_missing_prefixes` keeps `fpvQF Q`** and the tables. -/
theorem fpv_xcall (hc : fpvQCat Q) {s : Store} (hi : s.forest.Inv) (hq : fpvQF Q s.forest) (c : XCall)
    (hn : c.fpvNewQ Q) (hne : ∀ n, c ≠ .createMissingPrefixes n) :
    fpvQF Q (c.run s).1.forest ∧ (c.run s).1.env = s.env := by
  cases c with
  | call c => exact ⟨fpv_call hc hq c hn (fun _ => hi), rfl⟩
  | newNode v => exact ⟨fpv_newNode hq hn, rfl⟩
  | setConsolidation b => exact ⟨hq, rfl⟩
  | removeInsignificantWhitespace n => exact ⟨(fpv_closed hc).removeInsignificantWhitespace hq trivial, rfl⟩
  | createMissingPrefixes n => exact absurd rfl (hne n)
  | deduplicateNamespaces n => exact ⟨fpv_deduplicateNamespaces hc s.env hq n, rfl⟩
  | cloneWithPrefixes n order => exact ⟨fpv_cloneWithPrefixes hc hq n order hn, rfl⟩

end Forest
end XotModel
