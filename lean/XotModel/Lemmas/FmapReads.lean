/-
  The reads of the views (`get_node`, `get`, `contains_key`, `len`, `keys`, `values`), key
  uniqueness, the serialisation order, the frame of a step; and what `entry(key)` and the
  `unwrap`s of the entry API (Model/FmapEntry.lean) see.
-/
import XotModel.Lemmas.FmapSteps
import XotModel.Lemmas.FmapRef
import XotModel.Model.FmapEntry

/-! ## The reads, key uniqueness, serialisation order, the frame of a step

The serialisation order is that of `Tree.nsDecls`, `Tree.attrs` of the erased element. -/

namespace XotModel
namespace Fmap
open HTree
open Forest (MapKind entryKey mapChildren)

/-! ### Reads -/

theorem lookup_map_key {β : Type} (g : HTree → β) (cs : List HTree) (key : Nat) :
    (cs.map (fun c => (entryKey c.value, g c))).lookup key =
      (cs.find? (fun c => entryKey c.value == key)).map g := by
  induction cs with
  | nil => rfl
  | cons c cs ih =>
    simp only [List.map_cons, List.find?_cons]
    by_cases hk : entryKey c.value = key
    · simp [hk]
    · have h1 : (key == entryKey c.value) = false := by
        simp only [beq_eq_false_iff_ne, ne_eq]; exact fun h => hk h.symm
      have h2 : (entryKey c.value == key) = false := by simpa using hk
      simp only [List.lookup_cons, h1, h2]
      exact ih

theorem get_eq (f : Forest) (k : MapKind) (e key : Nat) :
    (f.mapGetNode k e key).map (fun c => payloadOf c.value) = omGet (abs k f e) key := by
  unfold Forest.mapGetNode Fmap.abs absT omGet
  cases f.get? e with
  | none => rfl
  | some t => exact (lookup_map_key (fun c => payloadOf c.value) _ key).symm

theorem containsKey_eq (f : Forest) (k : MapKind) (e key : Nat) :
    (f.mapGetNode k e key).isSome = omContainsKey (abs k f e) key := by
  unfold omContainsKey
  rw [← get_eq]
  cases f.mapGetNode k e key <;> rfl

theorem getNode_mem (f : Forest) (k : MapKind) (e key : Nat) (n : HTree)
    (h : f.mapGetNode k e key = some n) :
    n.handle ∈ absNodes k f e ∧ entryKey n.value = key := by
  unfold Forest.mapGetNode at h
  unfold absNodes
  cases hg : f.get? e with
  | none => rw [hg] at h; cases h
  | some t =>
    rw [hg] at h
    simp only at h ⊢
    exact ⟨List.mem_map.mpr ⟨n, List.mem_of_find?_eq_some h, rfl⟩,
      by simpa using List.find?_some h⟩

/-- What `showMap` (the driver's `map_read`) prints, in terms of the reference map. -/
theorem reads_eq (f : Forest) (k : MapKind) (e : Nat) (t : HTree) (h : f.get? e = some t) :
    (mapChildren k t).length = omLen (abs k f e) ∧
    (mapChildren k t).isEmpty = omIsEmpty (abs k f e) ∧
    (mapChildren k t).map (fun c => entryKey c.value) = omKeys (abs k f e) ∧
    (mapChildren k t).map (fun c => payloadOf c.value) = omValues (abs k f e) ∧
    (mapChildren k t).map (·.handle) = absNodes k f e := by
  unfold Fmap.abs absT absNodes omLen omIsEmpty omKeys omValues
  rw [h]
  simp only [List.length_map, List.map_map]
  refine ⟨trivial, ?_, rfl, rfl, trivial⟩
  cases mapChildren k t <;> rfl

/-! ### Unique keys, at any node -/

theorem unique_keys_of_inv (f : Forest) (hi : f.Inv) (k : MapKind) (e : Nat) :
    omWf (abs k f e) := by
  unfold omWf omKeys Fmap.abs absT
  cases hg : f.get? e with
  | none => simp
  | some t =>
    cases t with
    | node h v ks =>
      have hv := findList?_valid _ e f.roots _ hi.valid hg
      simp only [validTree, Bool.and_eq_true] at hv
      obtain ⟨⟨⟨⟨⟨_, ho⟩, hua⟩, hun⟩, _⟩, _⟩ := hv
      have hs := sect_of_ordered ks ho
      simp only [List.map_map]
      rw [mapChildren_eq]
      simp only [HTree.kids]
      rw [hs.kidsOf]
      cases k
      · exact hs.keysUnique_at.mp hua
      · exact hs.keysUnique_ns.mp hun

/-! ### Serialisation order: the erased element's declaration and attribute lists -/

theorem erase_kids (t : HTree) : (erase t).kids = t.kids.map erase := by
  cases t with
  | node h v ks => simp [erase, Tree.kids, HTree.kids, eraseList_map]

theorem nsDecls_erase (t : HTree) :
    (erase t).nsDecls = (absT .namespaces t).filterMap
      (fun p => match p.2 with | .ns n => some (p.1, n) | _ => none) := by
  unfold Tree.nsDecls Tree.namespaceNodes absT
  rw [erase_kids, List.takeWhile_map, List.filterMap_map, List.filterMap_map]
  have hp : ((fun k : Tree => k.value.category == Category.namespace) ∘ erase) =
      (fun c : HTree => c.value.category == Category.namespace) := by
    funext c; simp [Reach.erase_value]
  rw [hp]
  show List.filterMap _ (mapChildren .namespaces t) = _
  congr 1
  funext c
  simp only [Function.comp, Reach.erase_value, entryPair]
  cases c.value <;> rfl

theorem attrs_erase (t : HTree) :
    (erase t).attrs = (absT .attributes t).filterMap
      (fun p => match p.2 with | .str s => some (p.1, s) | _ => none) := by
  unfold Tree.attrs Tree.attributeNodes absT
  rw [erase_kids, List.dropWhile_map, List.takeWhile_map, List.filterMap_map, List.filterMap_map]
  have hp : ((fun k : Tree => k.value.category == Category.namespace) ∘ erase) =
      (fun c : HTree => c.value.category == Category.namespace) := by
    funext c; simp [Reach.erase_value]
  have hq : ((fun k : Tree => k.value.category == Category.attribute) ∘ erase) =
      (fun c : HTree => c.value.category == Category.attribute) := by
    funext c; simp [Reach.erase_value]
  rw [hp, hq]
  show List.filterMap _ (mapChildren .attributes t) = _
  congr 1
  funext c
  simp only [Function.comp, Reach.erase_value, entryPair]
  cases c.value <;> rfl

/-! ### The frame of a step -/

theorem filter_not_matches_sec {N A S : List HTree} (k : MapKind)
    (s' : List HTree) (hs : ∀ x ∈ s', x.value.category = kindCat k) :
    (preK k N ++ s' ++ postK k A S).filter (fun c => !k.matches c.value) =
      (preK k N ++ postK k A S).filter (fun c => !k.matches c.value) := by
  have : s'.filter (fun c => !k.matches c.value) = [] := by
    apply List.filter_eq_nil_iff.mpr
    intro x hx
    simp [(matches_iff_cat k x.value).mpr (hs x hx)]
  simp [List.filter_append, this]

/-- Everything of the element that is not an entry of view `k` — the normal children and the
    other view's nodes — is the same after a step, and the rest of the forest is the old one. -/
theorem Step.frame {f f' : Forest} {e nm : Nat} {N A S roots0 s' : List HTree} {k : MapKind}
    (h : MInv f e nm N A S) (st : Step f f' e nm N A S k roots0 s') :
    ∃ ks ks', f.get? e = some (.node e (.element nm) ks) ∧
      f' = { f with roots := withKids roots0 e ks', next := f'.next } ∧
      ks'.filter (fun c => !k.matches c.value) = ks.filter (fun c => !k.matches c.value) := by
  refine ⟨_, _, h.loc.get, st.state, ?_⟩
  have hcat : ∀ x ∈ s', x.value.category = kindCat k := by
    intro x hx
    have := st.inv.sect.sec_cat k x
    rw [sec_setSec] at this
    exact this hx
  rw [filter_not_matches_sec k s' hcat, split_kids k N A S,
    filter_not_matches_sec k _ (h.sect.sec_cat k)]


theorem leafRoot_of_inv (f : Forest) (hi : f.Inv) (k : MapKind) (nd : Nat) (v : Value)
    (hroot : f.isRoot nd = true) (hval : f.value? nd = some v) (hm : k.matches v = true) :
    HTree.node nd v [] ∈ f.roots := by
  unfold Forest.isRoot at hroot
  obtain ⟨r, hr, hh⟩ := List.any_eq_true.mp hroot
  have hh' : r.handle = nd := by simpa using hh
  have hg : f.get? r.handle = some r := findList?_direct f.roots hi.nodup r hr
  rw [hh'] at hg
  unfold Forest.value? at hval
  rw [hg] at hval
  cases r with
  | node h' v' ks =>
    simp only [HTree.handle] at hh'
    simp only [Option.map_some, HTree.value, Option.some.injEq] at hval
    subst hh' hval
    have hvt := validList_all _ _ hi.valid _ hr
    simp only [validTree, Bool.and_eq_true] at hvt
    obtain ⟨⟨⟨⟨⟨hall, _⟩, _⟩, _⟩, _⟩, _⟩ := hvt
    cases ks with
    | nil => exact hr
    | cons c cs =>
      exfalso
      simp only [List.all_cons, Bool.and_eq_true] at hall
      cases k <;> cases v' <;> simp [MapKind.matches, kidAllowed] at hm hall

end Fmap
end XotModel

/-! ## What `entry(key)` and the `unwrap`s of the entry API see, and the facts about the reference map they call for -/

namespace XotModel
namespace Fmap
open HTree
open Forest (MapKind entryKey mapChildren MapEntry)

theorem mapEntry_eq (f : Forest) (k : MapKind) (e key : Nat) :
    f.mapEntry k e key = if omContainsKey (abs k f e) key then .occupied key else .vacant key := by
  rw [← containsKey_eq]
  unfold Forest.mapEntry Forest.mapGet
  cases f.mapGetNode k e key <;> rfl

theorem occGetMut_eq (f : Forest) (k : MapKind) (e key : Nat) :
    f.occGetMut k e key = if omContainsKey (abs k f e) key then .ok else .panic := by
  rw [← containsKey_eq]
  unfold Forest.occGetMut
  cases f.mapGetNode k e key <;> rfl

/-! The `unwrap`s of `VacantEntry::insert`, `OccupiedEntry::insert`, `OccupiedEntry::remove` touch the
    outcome only: the forest is that of `insert` / `remove`. -/

theorem vacInsert_fst (f : Forest) (k : MapKind) (e : Nat) (v : Value) :
    (f.vacInsert k e v).1 = (f.mapInsert k e v).1 := by
  unfold Forest.vacInsert
  cases f.mapInsert k e v with
  | mk f1 r => cases r <;> rfl

theorem occInsert_fst (f : Forest) (k : MapKind) (e : Nat) (v : Value) :
    (f.occInsert k e v).1 = (f.mapInsert k e v).1 := by
  unfold Forest.occInsert
  cases f.mapInsert k e v with
  | mk f1 r => cases r <;> simp <;> split <;> rfl

theorem occRemove_fst (f : Forest) (k : MapKind) (e key : Nat) :
    (f.occRemove k e key).1 = (f.mapRemove k e key).1 := by
  unfold Forest.occRemove
  cases f.mapRemove k e key with
  | mk f1 r => cases r <;> simp <;> split <;> rfl

theorem contains_insert_self (m : OMap Payload) (key : Nat) (p : Payload) :
    omContainsKey (omInsert m key p) key = true := by
  simp [omContainsKey, omGet_insert_self]

theorem omRemove_of_not_contains (m : OMap Payload) (key : Nat)
    (h : omContainsKey m key = false) : omRemove m key = m := by
  have hn : omGet m key = none := by
    unfold omContainsKey at h
    cases hg : omGet m key with
    | none => rfl
    | some _ => rw [hg] at h; cases h
  rw [omGet_none_iff] at hn
  apply omRemove_absent
  intro a ha hk
  exact hn (hk ▸ List.mem_map.mpr ⟨a, ha, rfl⟩)

theorem mkEntry_self (k : MapKind) (v : Value) (hc : v.category = kindCat k) :
    mkEntry k (entryKey v) (payloadOf v) = v := by
  cases k <;> cases v <;> simp_all [Value.category, kindCat, mkEntry, entryKey, payloadOf]

theorem omContainsKey_modify (m : OMap Payload) (key : Nat) (g : Payload → Payload) (k' : Nat) :
    omContainsKey (omModify m key g) k' = omContainsKey m k' := by
  have h1 := omGet_none_iff (omModify m key g) k'
  have h2 := omGet_none_iff m k'
  rw [omKeys_modify] at h1
  unfold omContainsKey
  cases ha : omGet (omModify m key g) k' with
  | none =>
    have := h2.mpr (h1.mp ha)
    rw [this]
  | some x =>
    cases hb : omGet m k' with
    | none => exact absurd (h1.mpr (h2.mp hb)) (by rw [ha]; simp)
    | some y => rfl

end Fmap
end XotModel
