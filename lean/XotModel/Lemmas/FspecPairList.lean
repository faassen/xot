/-
  List-level and site-level facts about the pair merges (`mergeAdj`, `mergeNewHead`,
  `Forest.mergeLeftAt`) used by the pair-reading proofs for `element_unwrap`,
  `replace`, for `specMoveP = specMove` on forests without adjacent text, and for the frames.
-/
import XotModel.Lemmas.FspecPair
import XotModel.Lemmas.FspecUnwrap

namespace XotModel
open HTree Spec

namespace PairAll

theorem handle_ne_of_nodup_append {X Y : List HTree} (nd : (handlesList (X ++ Y)).Nodup) {x y : HTree}
    (hx : x ∈ X) (hy : y ∈ Y) : x.handle ≠ y.handle := by
  rw [handlesList_append] at nd
  exact (List.nodup_append.1 nd).2.2 _ (rootHandle_mem_handlesList hx) _ (rootHandle_mem_handlesList hy)

theorem text_of_isText {k : HTree} (h : k.value.isText = true) : ∃ s, k.value = .text s := by
  obtain ⟨s, hs⟩ := isText_iff_textData.1 h
  exact ⟨s, textData_some hs⟩

theorem mergeNewHead_cases (t : HTree) (B : List HTree) :
    mergeNewHead t B = t :: B ∨ ∃ z rest u w, B = z :: rest ∧ t.value = .text u ∧ z.value = .text w ∧
      mergeNewHead t B = z.setValue (.text (u ++ w)) :: rest := by
  cases B with
  | nil => exact Or.inl rfl
  | cons z rest =>
    by_cases hb : t.value.isText = true ∧ z.value.isText = true
    · obtain ⟨u, hu⟩ := text_of_isText hb.1
      obtain ⟨w, hw⟩ := text_of_isText hb.2
      exact Or.inr ⟨z, rest, u, w, rfl, hu, hw, mergeNewHead_text hu hw rest⟩
    · exact Or.inl (mergeNewHead_other hb rest)

/-! ### `mergeAdj` -/

theorem mergeAdj_sep {A : HTree} {b : Nat} (Y : List HTree)
    (hhead : ∀ c, Y.head? = some c → c.handle ≠ b) (hY : ∀ x ∈ Y, x.handle ≠ A.handle) :
    ∀ (X : List HTree), (∀ x ∈ X, x.handle ≠ A.handle) →
      mergeAdj A.handle b (X ++ A :: Y) = X ++ A :: Y
  | [], _ => by
    simp only [List.nil_append]
    cases Y with
    | nil => exact mergeAdj_single _ _ _
    | cons c Y' =>
      rw [mergeAdj_cons_cons, if_neg (fun e => hhead c rfl e.2), mergeAdj_of_not_top (c :: Y') hY]
  | x :: X, h => by
    have hx : x.handle ≠ A.handle := h x (by simp)
    have ih := mergeAdj_sep Y hhead hY X (fun y hy => h y (List.mem_cons_of_mem _ hy))
    cases X with
    | nil =>
      simp only [List.nil_append, List.cons_append] at ih ⊢
      rw [mergeAdj_cons_cons, if_neg (fun e => hx e.1), ih]
    | cons x' X' =>
      simp only [List.cons_append] at ih ⊢
      rw [mergeAdj_cons_cons, if_neg (fun e => hx e.1), ih]

theorem mergeAdj_no_b {a b : Nat} : ∀ (L : List HTree), (∀ x ∈ L, x.handle ≠ b) → mergeAdj a b L = L
  | [], _ => mergeAdj_nil a b
  | [x], _ => mergeAdj_single a b x
  | x :: y :: rest, h => by
    rw [mergeAdj_cons_cons, if_neg (fun e => h y (by simp) e.2),
      mergeAdj_no_b (y :: rest) (fun z hz => h z (List.mem_cons_of_mem _ hz))]

theorem handlesList_joinLeft {x y j : HTree} (h : joinLeft x y = some j) : handles j = handles x := by
  unfold joinLeft at h
  split at h
  · cases h; exact setValue_handles _ _
  · cases h

theorem handlesList_mergeAdj_sublist (a b : Nat) : ∀ L : List HTree,
    (handlesList (mergeAdj a b L)).Sublist (handlesList L)
  | [] => by rw [mergeAdj_nil]; exact List.Sublist.refl _
  | [x] => by rw [mergeAdj_single]; exact List.Sublist.refl _
  | x :: y :: rest => by
    rw [mergeAdj_cons_cons]
    split
    · cases hj : joinLeft x y with
      | none => exact List.Sublist.refl _
      | some j =>
        simp only [Option.map_some, Option.getD_some]
        rw [handlesList_cons, handlesList_cons, handlesList_cons, handlesList_joinLeft hj]
        exact (List.Sublist.refl _).append (List.sublist_append_right _ _)
    · rw [handlesList_cons, handlesList_cons (k := x)]
      exact (List.Sublist.refl _).append (handlesList_mergeAdj_sublist a b (y :: rest))

end PairAll

/-! ### The pair merge at a site -/

namespace SiteAt

theorem mergeLeftAt_on {g : Forest} {p : Nat} {v : Value} {L : List HTree} (s : SiteAt g p v L)
    (hc : g.consolidation = true) (a b : Nat) :
    g.mergeLeftAt (some p) (some a, some b) = g.editAt (some p) (fun _ => mergeAdj a b L) := by
  rw [Forest.mergeLeftAt_some, hc, if_pos rfl]
  exact s.congr rfl

theorem edit_const_self {g : Forest} {p : Nat} {v : Value} {L : List HTree} (s : SiteAt g p v L) :
    g.editAt (some p) (fun _ => L) = g := by
  rw [s.congr (g := fun _ => L) (g' := id) rfl, Forest.editAt_id]

theorem mergeLeftAt_site {g : Forest} {p : Nat} {v : Value} {L : List HTree} (s : SiteAt g p v L)
    (hc : g.consolidation = true) (a b : Nat) :
    SiteAt (g.mergeLeftAt (some p) (some a, some b)) p v (mergeAdj a b L) := by
  rw [s.mergeLeftAt_on hc]
  exact s.edit (fun _ => mergeAdj a b L) (PairAll.handlesList_mergeAdj_sublist a b L)

end SiteAt

end XotModel
