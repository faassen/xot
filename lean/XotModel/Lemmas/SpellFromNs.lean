/-
  C02: the namespace-free spelled theorems as the special case of the namespaced ones.

  A namespace-free spelling (`SNode`, Lemmas/ParseSpellDefs.lean) IS a namespaced spelling (`NSNode`,
  Lemmas/ParseNsDefs.lean) in which every prefix is absent (empty text, the offset the `SNode` carries) and no
  item of a start tag is a declaration (`SAttr.Well` excludes the name `xmlns`): `SNode.toNs`.  It has the same
  tokens, is well formed in the base scope when the `SNode` is (`WellNsDoc`), denotes the same abstract
  document with every name in no namespace and no declarations (`PNode.toNs`), and — the empty URI being
  namespace 0 — that document is encoded to the same id tree over the same tables.
-/
import XotModel.Lemmas.ParseSpell
import XotModel.Lemmas.ParseNs

namespace XotModel

/-! ### The embedding -/

def SAttr.toNs (a : SAttr) : NSAttr := ⟨⟨[], a.pstart⟩, a.name, a.pieces, a.vstart, a.junk⟩

def SNode.toNs : SNode → NSNode
  | .elem name pstart junk attrs openSp kids cname cpstart closeSp =>
    .elem ⟨[], pstart⟩ name junk (attrs.map SAttr.toNs) openSp (toNsList kids) ⟨[], cpstart⟩ cname closeSp
  | .empty name pstart junk attrs endSp => .empty ⟨[], pstart⟩ name junk (attrs.map SAttr.toNs) endSp
  | .chars parts => .chars parts
  | .comment t j => .comment t j
  | .pi t c j => .pi t c j
where
  toNsList : List SNode → List NSNode
    | [] => []
    | k :: ks => SNode.toNs k :: toNsList ks

/-- A namespace-free abstract node as a namespaced one: no namespace, no declarations. -/
def PNode.toNs : PNode → NPNode
  | .elem name attrs kids => .elem [] name [] (attrs.map fun a => (([], a.1), a.2)) (toNsList kids)
  | .text s => .text s
  | .comment s => .comment s
  | .pi t d => .pi t d
where
  toNsList : List PNode → List NPNode
    | [] => []
    | k :: ks => PNode.toNs k :: toNsList ks

theorem PNode.toNsList_append : ∀ (a b : List PNode),
    PNode.toNs.toNsList (a ++ b) = PNode.toNs.toNsList a ++ PNode.toNs.toNsList b
  | [], _ => rfl
  | x :: xs, b => by simp only [List.cons_append, PNode.toNs.toNsList, PNode.toNsList_append xs b]

/-! ### Same tokens -/

theorem SAttr.toNs_token (a : SAttr) : (SAttr.toNs a).token = a.token := rfl

theorem attrs_toNs_tokens (attrs : List SAttr) :
    (attrs.map SAttr.toNs).map NSAttr.token = attrs.map SAttr.token := by
  rw [List.map_map]; rfl

mutual
theorem SNode.toNs_tokens : ∀ (s : SNode), s.toNs.tokens = s.tokens
  | .elem name pstart junk attrs openSp kids cname cpstart closeSp => by
    simp only [SNode.toNs, NSNode.tokens, SNode.tokens, attrs_toNs_tokens, SNode.toNsList_tokens kids]
  | .empty name pstart junk attrs endSp => by
    simp only [SNode.toNs, NSNode.tokens, SNode.tokens, attrs_toNs_tokens]
  | .chars parts => rfl
  | .comment t j => rfl
  | .pi t c j => rfl
theorem SNode.toNsList_tokens : ∀ (ks : List SNode),
    NSNode.tokens.tokensList (SNode.toNs.toNsList ks) = SNode.tokens.tokensList ks
  | [] => rfl
  | k :: ks => by
    simp only [SNode.toNs.toNsList, NSNode.tokens.tokensList, SNode.tokens.tokensList, SNode.toNs_tokens k,
      SNode.toNsList_tokens ks]
end

/-! ### No declarations, every attribute in no namespace -/

theorem SAttr.toNs_declares {a : SAttr} (h : a.Well) : (SAttr.toNs a).declares = none := by
  have h1 : (([] : Str) == xmlnsStr) = false := by decide
  have h2 : (a.name.text == xmlnsStr) = false := by
    rw [beq_eq_false_iff_ne]; exact h.2.1
  simp [NSAttr.declares, SAttr.toNs, h1, h2]

theorem declsOf_toNs {attrs : List SAttr} (h : ∀ a ∈ attrs, a.Well) : declsOf (attrs.map SAttr.toNs) = [] := by
  simp only [declsOf, List.filterMap_eq_nil_iff, List.mem_map]
  rintro _ ⟨a, ha, rfl⟩
  rw [SAttr.toNs_declares (h a ha)]; rfl

theorem ordinary_toNs {attrs : List SAttr} (h : ∀ a ∈ attrs, a.Well) :
    ordinary (attrs.map SAttr.toNs) = attrs.map SAttr.toNs := by
  simp only [ordinary, List.filter_eq_self, List.mem_map]
  rintro _ ⟨a, ha, rfl⟩
  simp [NSAttr.isDecl, SAttr.toNs_declares (h a ha)]

theorem nil_ne_xmlNs (x : Str) : (((([] : Str), x)) == (xmlNsUri, ['i', 'd'])) = false := by
  rw [beq_eq_false_iff_ne]
  intro h
  have := congrArg Prod.fst h
  simp [xmlNsUri] at this

theorem SAttr.toNs_denote (scope : Scope) (a : SAttr) :
    (SAttr.toNs a).denote scope = (([], a.name.text), valueOf true a.pieces) := by
  have h0 : scope.attrNs (SAttr.toNs a).pfx.text = [] := by simp [Scope.attrNs, SAttr.toNs]
  have hl : (SAttr.toNs a).loc.text = a.name.text := rfl
  have hp : (SAttr.toNs a).pieces = a.pieces := rfl
  simp only [NSAttr.denote, NSAttr.value, h0, hl, hp, nil_ne_xmlNs, Bool.false_eq_true, if_false]

theorem attrsOf_toNs (scope : Scope) {attrs : List SAttr} (h : ∀ a ∈ attrs, a.Well) :
    attrsOf scope (attrs.map SAttr.toNs) = (attrs.map SAttr.denote).map fun a => (([], a.1), a.2) := by
  rw [attrsOf, ordinary_toNs h, List.map_map, List.map_map]
  apply List.map_congr_left
  intro a _
  simp only [Function.comp, SAttr.toNs_denote, SAttr.denote]

theorem push_nil (scope : Scope) : scope.push [] = scope := by simp [Scope.push]

/-! ### Well formed in the base scope -/

theorem attrsWellNs_toNs (scope : Scope) {attrs : List SAttr} (h : attrsWell attrs) :
    attrsWellNs scope (attrs.map SAttr.toNs) := by
  obtain ⟨hw, hnd⟩ := h
  refine ⟨?_, ?_, ?_, ?_, ?_, ?_⟩
  · intro a ha
    obtain ⟨a0, ha0, rfl⟩ := List.mem_map.mp ha
    exact (hw a0 ha0).1
  · rw [declsOf_toNs hw]; intro d hd; cases hd
  · rw [declsOf_toNs hw]; exact List.nodup_nil
  · rw [attrsOf_toNs scope hw, List.map_map, List.map_map]
    have : (attrs.map ((Prod.fst ∘ fun a : Str × Str => ((([] : Str), a.1), a.2)) ∘ SAttr.denote)) =
        (attrs.map fun a => a.name.text).map fun n => (([] : Str), n) := by
      rw [List.map_map]; rfl
    rw [this]
    exact List.Pairwise.map _ (fun a b hab e => hab (congrArg Prod.snd e)) hnd
  · intro a ha hne
    rw [ordinary_toNs hw] at ha
    obtain ⟨a0, _, rfl⟩ := List.mem_map.mp ha
    exact absurd rfl hne
  · intro a ha
    obtain ⟨a0, ha0, rfl⟩ := List.mem_map.mp ha
    simp [StrSpan.bareColon, SAttr.toNs, (hw a0 ha0).2.2]

theorem SNode.toNs_isChars (s : SNode) : s.toNs.isChars = s.isChars := by cases s <;> rfl

theorem noAdjCharsNs_toNs : ∀ (ks : List SNode), noAdjCharsNs (SNode.toNs.toNsList ks) = noAdjChars ks
  | [] => rfl
  | [_] => rfl
  | a :: b :: rest => by
    simp only [SNode.toNs.toNsList, noAdjCharsNs, noAdjChars, SNode.toNs_isChars]
    have := noAdjCharsNs_toNs (b :: rest)
    simp only [SNode.toNs.toNsList] at this
    rw [this]

mutual
theorem SNode.toNs_well : ∀ (s : SNode), s.Well → NSNode.Well baseScope s.toNs
  | .elem name pstart junk attrs openSp kids cname cpstart closeSp, h => by
    obtain ⟨ha, hc, hadj, hk, hp, hcp⟩ := h
    simp only [SNode.toNs, NSNode.Well, declsOf_toNs ha.1, push_nil]
    refine ⟨attrsWellNs_toNs _ ha, by decide, trivial, hc, ?_, SNode.toNsList_well kids hk, ?_, ?_⟩
    · rw [noAdjCharsNs_toNs]; exact hadj
    · simp [StrSpan.bareColon, hp]
    · simp [StrSpan.bareColon, hcp]
  | .empty name pstart junk attrs endSp, h => by
    obtain ⟨ha, hp⟩ := h
    simp only [SNode.toNs, NSNode.Well, declsOf_toNs ha.1, push_nil]
    exact ⟨attrsWellNs_toNs _ ha, by decide, by simp [StrSpan.bareColon, hp]⟩
  | .chars parts, h => h
  | .comment t j, _ => trivial
  | .pi t c j, h => h
theorem SNode.toNsList_well : ∀ (ks : List SNode), SNode.Well.wellList ks →
    NSNode.Well.wellList baseScope (SNode.toNs.toNsList ks)
  | [], _ => trivial
  | k :: ks, h => ⟨SNode.toNs_well k h.1, SNode.toNsList_well ks h.2⟩
end

/-! ### Same denotation -/

mutual
theorem SNode.toNs_denote : ∀ (s : SNode), s.Well →
    NSNode.denote baseScope s.toNs = PNode.toNs.toNsList s.denote
  | .elem name pstart junk attrs openSp kids cname cpstart closeSp, h => by
    obtain ⟨ha, _, _, hk, _, _⟩ := h
    simp only [SNode.toNs, NSNode.denote, declsOf_toNs ha.1, push_nil, attrsOf_toNs _ ha.1,
      SNode.toNsList_denote kids hk, SNode.denote, PNode.toNs.toNsList, PNode.toNs]
    rfl
  | .empty name pstart junk attrs endSp, h => by
    obtain ⟨ha, _⟩ := h
    simp only [SNode.toNs, NSNode.denote, declsOf_toNs ha.1, push_nil, attrsOf_toNs _ ha.1,
      SNode.denote, PNode.toNs.toNsList, PNode.toNs]
    rfl
  | .chars parts, _ => by
    simp only [SNode.toNs, NSNode.denote, SNode.denote]
    split <;> rfl
  | .comment t j, _ => rfl
  | .pi t c j, _ => rfl
theorem SNode.toNsList_denote : ∀ (ks : List SNode), SNode.Well.wellList ks →
    NSNode.denote.denoteList baseScope (SNode.toNs.toNsList ks) = PNode.toNs.toNsList (SNode.denote.denoteList ks)
  | [], _ => rfl
  | k :: ks, h => by
    simp only [SNode.toNs.toNsList, NSNode.denote.denoteList, SNode.denote.denoteList, PNode.toNsList_append,
      SNode.toNs_denote k h.1, SNode.toNsList_denote ks h.2]
end

/-! ### No ID values -/

theorem attrIds_free (attrs : List (Str × Str)) : attrIds (attrs.map fun a => (([], a.1), a.2)) = [] := by
  simp only [attrIds, List.map_eq_nil_iff, List.filter_eq_nil_iff, List.mem_map]
  rintro _ ⟨a, _, rfl⟩
  simp [nil_ne_xmlNs]

mutual
theorem PNode.toNs_ids : ∀ (d : PNode), (PNode.toNs d).ids = []
  | .elem name attrs kids => by
    simp only [PNode.toNs, NPNode.ids, attrIds_free, PNode.toNsList_ids kids, List.append_nil]
  | .text _ => rfl
  | .comment _ => rfl
  | .pi _ _ => rfl
theorem PNode.toNsList_ids : ∀ (ds : List PNode), NPNode.ids.idsList (PNode.toNs.toNsList ds) = []
  | [] => rfl
  | d :: ds => by
    simp only [PNode.toNs.toNsList, NPNode.ids.idsList, PNode.toNs_ids d, PNode.toNsList_ids ds, List.append_nil]
end

theorem wellNsDoc_toNs {sns : List SNode} (hw : SNode.Well.wellList sns) (hadj : noAdjChars sns = true) :
    WellNsDoc (SNode.toNs.toNsList sns) := by
  refine ⟨SNode.toNsList_well sns hw, by rw [noAdjCharsNs_toNs]; exact hadj, ?_⟩
  rw [SNode.toNsList_denote sns hw, PNode.toNsList_ids]
  exact List.nodup_nil

/-! ### Same id tree, same tables -/

theorem internNamespace_nil {env : Env} (h : ∃ rest, env.namespaces = [] :: rest) :
    env.internNamespace [] = (env, Env.noNamespace) := by
  obtain ⟨rest, hr⟩ := h
  cases env with
  | mk namespaces prefixes names =>
    simp only at hr
    subst hr
    simp [Env.internNamespace, internIn, Env.noNamespace]

theorem internName_namespaces (env : Env) (a : Str) (n : Nat) : (env.internName a n).1.namespaces = env.namespaces := rfl

theorem encodeNsAttrs_free : ∀ (attrs : List (Str × Str)) (env : Env), (∃ rest, env.namespaces = [] :: rest) →
    encodeNsAttrs env (attrs.map fun a => (([], a.1), a.2)) = encodeAttrs env attrs ∧
      (encodeAttrs env attrs).1.namespaces = env.namespaces
  | [], _, _ => ⟨rfl, rfl⟩
  | (a, v) :: rest, env, h => by
    have h' : ∃ r, (env.internName a Env.noNamespace).1.namespaces = [] :: r := h
    obtain ⟨e1, e2⟩ := encodeNsAttrs_free rest _ h'
    simp only [List.map_cons, encodeNsAttrs, encodeAttrs, internNamespace_nil h]
    exact ⟨by rw [e1], by rw [e2]; rfl⟩

mutual
theorem PNode.toNs_encode : ∀ (d : PNode) (env : Env), (∃ rest, env.namespaces = [] :: rest) →
    NPNode.encode env (PNode.toNs d) = PNode.encode env d ∧ (PNode.encode env d).1.namespaces = env.namespaces
  | .elem name attrs kids, env, h => by
    have h1 : ∃ r, (env.internName name Env.noNamespace).1.namespaces = [] :: r := h
    obtain ⟨a1, a2⟩ := encodeNsAttrs_free attrs _ h1
    have h2 : ∃ r, (encodeAttrs (env.internName name Env.noNamespace).1 attrs).1.namespaces = [] :: r := by
      rw [a2]; exact h1
    obtain ⟨k1, k2⟩ := PNode.toNsList_encode kids _ h2
    simp only [PNode.toNs, NPNode.encode, PNode.encode, encodeDecls, declIds, internNamespace_nil h, a1, k1,
      List.map_nil, List.nil_append]
    exact ⟨trivial, by rw [k2, a2]; rfl⟩
  | .text _, _, _ => ⟨rfl, rfl⟩
  | .comment _, _, _ => ⟨rfl, rfl⟩
  | .pi _ _, _, _ => ⟨rfl, rfl⟩
theorem PNode.toNsList_encode : ∀ (ds : List PNode) (env : Env), (∃ rest, env.namespaces = [] :: rest) →
    NPNode.encode.encodeList env (PNode.toNs.toNsList ds) = PNode.encode.encodeList env ds ∧
      (PNode.encode.encodeList env ds).1.namespaces = env.namespaces
  | [], _, _ => ⟨rfl, rfl⟩
  | d :: ds, env, h => by
    obtain ⟨d1, d2⟩ := PNode.toNs_encode d env h
    have h' : ∃ r, (PNode.encode env d).1.namespaces = [] :: r := by rw [d2]; exact h
    obtain ⟨l1, l2⟩ := PNode.toNsList_encode ds _ h'
    simp only [PNode.toNs.toNsList, NPNode.encode.encodeList, PNode.encode.encodeList, d1, l1]
    exact ⟨trivial, by rw [l2, d2]⟩
end

theorem EnvBaseNs.ns0 {env : Env} (h : EnvBaseNs env) : ∃ rest, env.namespaces = [] :: rest := by
  obtain ⟨rest, hr⟩ := h.ns
  exact ⟨_, hr⟩

/-- `EnvBaseNs` implies `EnvBase` (`EnvBaseNs.base`) and not conversely: tables with the empty prefix only (no `xml`, no namespaces) meet `EnvBase`. -/
def envBaseOnly : Env := { namespaces := [], prefixes := [[]], names := [([], 0), ([], 1)] }

theorem envBaseOnly_spec : EnvBase envBaseOnly ∧ ¬ EnvBaseNs envBaseOnly := by
  refine ⟨⟨rfl, ⟨[], 1, rfl, by decide⟩⟩, fun h => ?_⟩
  obtain ⟨rest, hr⟩ := h.ns
  simp [envBaseOnly] at hr

end XotModel
