/-
  The name tables of `xot.html5()` (C19): `HtmlNames::matches` is "HTML namespace and lower-cased local name
  in the table"; the ids `Html5Elements::new` obtains name the three namespace URIs; what `html_matches_suppress`
  computes for every suppress list.
-/
import XotModel.Model.Html5
import XotModel.Lemmas.BasicFacts

/-! ## `HtmlNames::matches`

  The shortcut through the registered ids agrees with the case-insensitive lookup.
-/

namespace XotModel
open Gen

/-- Table entries are their own lower-case form, also after upper-casing. -/
def lowerClosed (names : List Str) : Bool :=
  names.all (fun n => asciiLower n == n && asciiLower (asciiUpper n) == n)

theorem lowerClosed_tables :
    lowerClosed html5Names = true ∧ lowerClosed voidNames = true ∧ lowerClosed phrasingContentNames = true ∧
    lowerClosed formattedNames = true ∧ lowerClosed noEscapeNames = true := by decide +kernel

theorem HtmlNames.matches_eq (h : HtmlNames) (env : Env) (name : Nat) (hl : lowerClosed h.names = true) :
    h.matches env name =
      (h.isHtmlElement env name && h.names.contains (asciiLower (env.localName name))) := by
  have hmem : ∀ n ∈ h.names, asciiLower n = n ∧ asciiLower (asciiUpper n) = n := by
    intro n hn
    simp only [lowerClosed, List.all_eq_true, Bool.and_eq_true, beq_iff_eq] at hl
    exact hl n hn
  unfold HtmlNames.matches HtmlNames.idsContain HtmlNames.isHtmlElement
  by_cases hA : (env.nsOfName name == h.xhtml || env.nsOfName name == Env.noNamespace) = true
  · have hA' : (env.nsOfName name == Env.noNamespace || env.nsOfName name == h.xhtml) = true := by
      rw [Bool.or_comm]; exact hA
    rw [hA, hA']
    simp only [Bool.true_and, Bool.not_true, Bool.false_eq_true, if_false]
    split
    · rename_i hids
      symm
      simp only [Bool.or_eq_true, List.contains_eq_mem, decide_eq_true_eq, List.mem_map] at hids ⊢
      rcases hids with hin | ⟨n, hn, hup⟩
      · rw [(hmem _ hin).1]; exact hin
      · rw [← hup, (hmem n hn).2]; exact hn
    · rfl
  · have hA2 : (env.nsOfName name == h.xhtml || env.nsOfName name == Env.noNamespace) = false := by
      simpa using hA
    have hA' : (env.nsOfName name == Env.noNamespace || env.nsOfName name == h.xhtml) = false := by
      rw [Bool.or_comm]; exact hA2
    rw [hA2, hA']
    simp

/-- `void_names.matches`: HTML namespace and lower-cased local name in `voidNames`. -/
theorem void_matches_eq (h : Html5Elements) (env : Env) (name : Nat) :
    h.void.matches env name =
      (h.isHtmlElement env name && voidNames.contains (asciiLower (env.localName name))) :=
  HtmlNames.matches_eq h.void env name lowerClosed_tables.2.1

/-- `no_escape_names.matches`: HTML namespace and local name `script` / `style` in any letter case. -/
theorem noEscape_matches_eq (h : Html5Elements) (env : Env) (name : Nat) :
    h.noEscape.matches env name =
      (h.isHtmlElement env name && noEscapeNames.contains (asciiLower (env.localName name))) :=
  HtmlNames.matches_eq h.noEscape env name lowerClosed_tables.2.2.2.2

/-- `formatted_names.matches`: HTML namespace and `pre` / `script` / `style` / `title` / `textarea`. -/
theorem formatted_matches_eq (h : Html5Elements) (env : Env) (name : Nat) :
    h.formatted.matches env name =
      (h.isHtmlElement env name && formattedNames.contains (asciiLower (env.localName name))) :=
  HtmlNames.matches_eq h.formatted env name lowerClosed_tables.2.2.2.1

/-- `is_inline`: HTML namespace and (phrasing content or not an HTML element name at all). -/
theorem isInline_eq (h : Html5Elements) (env : Env) (name : Nat) :
    h.isInline env name =
      (h.isHtmlElement env name &&
        (phrasingContentNames.contains (asciiLower (env.localName name))
          || !html5Names.contains (asciiLower (env.localName name)))) := by
  unfold Html5Elements.isInline
  rw [HtmlNames.matches_eq h.phrasing env name lowerClosed_tables.2.2.1,
    HtmlNames.matches_eq h.html5 env name lowerClosed_tables.1]
  have e1 : h.phrasing.isHtmlElement env name = h.isHtmlElement env name := rfl
  have e2 : h.html5.isHtmlElement env name = h.isHtmlElement env name := rfl
  rw [e1, e2]
  show (_ && (_ && List.contains phrasingContentNames _ || !(_ && List.contains html5Names _))) = _
  cases h.isHtmlElement env name <;> simp

end XotModel

/-! ## The namespace ids

  None of them is the id of the XML namespace.
-/

namespace XotModel
open Gen

theorem addNamespace_get (nss : List Str) (uri : Str) :
    (addNamespace nss uri).1[(addNamespace nss uri).2]? = some uri := by
  unfold addNamespace
  split
  · rename_i h
    have hm : uri ∈ nss := by simpa using h
    have hlt := List.idxOf_lt_length_of_mem hm
    simp only
    rw [List.getElem?_eq_getElem hlt, List.getElem_idxOf hlt]
  · simp

theorem addNamespace_prefix (nss : List Str) (uri : Str) : nss <+: (addNamespace nss uri).1 := by
  unfold addNamespace
  split
  · exact List.prefix_refl _
  · exact List.prefix_append _ _

/-- The table after `xot.html5()` extends the one before, and the three ids name the three URIs. -/
theorem html5_new_spec (env : Env) :
    env.namespaces <+: (Html5Elements.new env).1.namespaces ∧
    (Html5Elements.new env).1.namespaces[(Html5Elements.new env).2.xhtml]? = some xhtmlNs ∧
    (Html5Elements.new env).1.namespaces[(Html5Elements.new env).2.mathml]? = some mathmlNs ∧
    (Html5Elements.new env).1.namespaces[(Html5Elements.new env).2.svg]? = some svgNs := by
  simp only [Html5Elements.new]
  have p1 := addNamespace_prefix env.namespaces xhtmlNs
  have g1 := addNamespace_get env.namespaces xhtmlNs
  have p2 := addNamespace_prefix (addNamespace env.namespaces xhtmlNs).1 mathmlNs
  have g2 := addNamespace_get (addNamespace env.namespaces xhtmlNs).1 mathmlNs
  have p3 := addNamespace_prefix (addNamespace (addNamespace env.namespaces xhtmlNs).1 mathmlNs).1 svgNs
  have g3 := addNamespace_get (addNamespace (addNamespace env.namespaces xhtmlNs).1 mathmlNs).1 svgNs
  exact ⟨List.IsPrefix.trans p1 (List.IsPrefix.trans p2 p3),
    prefix_getElem? (List.IsPrefix.trans p2 p3) g1, prefix_getElem? p3 g2, g3⟩

/-- In an environment whose namespace 1 is the XML namespace (`Xot::new`), none of the three ids
    is the XML namespace id. -/
theorem html5_new_ne_xml (env : Env) (hxml : env.namespaces[Env.xmlNamespace]? = some xmlNs) :
    (Html5Elements.new env).2.xhtml ≠ Env.xmlNamespace ∧
    (Html5Elements.new env).2.mathml ≠ Env.xmlNamespace ∧
    (Html5Elements.new env).2.svg ≠ Env.xmlNamespace := by
  obtain ⟨hp, hx, hm, hs⟩ := html5_new_spec env
  have h1 := prefix_getElem? hp hxml
  refine ⟨?_, ?_, ?_⟩ <;> intro he
  · rw [he, h1] at hx
    exact absurd (Option.some.inj hx) (by decide)
  · rw [he, h1] at hm
    exact absurd (Option.some.inj hm) (by decide)
  · rw [he, h1] at hs
    exact absurd (Option.some.inj hs) (by decide)

/-- `xot.html5()` registers namespaces only: names and prefixes of the context are the caller's. -/
theorem htmlCtx_names (env : Env) (p : HtmlParams) :
    (htmlCtx env p).env.names = env.names ∧ (htmlCtx env p).env.prefixes = env.prefixes := by
  simp [htmlCtx, Html5Elements.new]

theorem htmlCtx_xml_not_unprefixed (env : Env) (p : HtmlParams)
    (hxml : env.namespaces[Env.xmlNamespace]? = some xmlNs) :
    (htmlCtx env p).h.mustBeUnprefixed Env.xmlNamespace = false := by
  obtain ⟨h1, h2, h3⟩ := html5_new_ne_xml env hxml
  have e1 : (Env.xmlNamespace == (htmlCtx env p).h.xhtml) = false := by
    simpa [htmlCtx] using fun e => h1 e.symm
  have e2 : (Env.xmlNamespace == (htmlCtx env p).h.mathml) = false := by
    simpa [htmlCtx] using fun e => h2 e.symm
  have e3 : (Env.xmlNamespace == (htmlCtx env p).h.svg) = false := by
    simpa [htmlCtx] using fun e => h3 e.symm
  simp [Html5Elements.mustBeUnprefixed, e1, e2, e3]

end XotModel

/-!
## `html_matches_suppress`

  What `html_matches_suppress` (html5_serializer.rs; `htmlMatchesSuppress` of Model/Html5) computes, for
  every suppress list: the loop has two `return false` that leave the whole search, so
    * for an element in the HTML namespaces only the listed names BEFORE the first name outside the HTML
      namespaces count (compared by local name up to ASCII case, no namespace and `XHTML_NS` being one class);
    * for an element outside the HTML namespaces only the FIRST listed name counts (compared by id).
-/

namespace XotModel

theorem c19sup_exact (h : Html5Elements) (env : Env) (sup : List Nat) (name : Nat) :
    htmlMatchesSuppress h env sup name =
      if h.isHtmlNamespace (env.nsOfName name) then
        (sup.takeWhile (fun s => h.isHtmlNamespace (env.nsOfName s))).any
          (fun s => asciiLower (env.localName s) == asciiLower (env.localName name))
      else sup.head? == some name := by
  induction sup with
  | nil => simp [htmlMatchesSuppress]
  | cons s rest ih =>
    simp only [htmlMatchesSuppress, ih]
    by_cases hn : h.isHtmlNamespace (env.nsOfName name) = true
    · by_cases hs : h.isHtmlNamespace (env.nsOfName s) = true
      · by_cases he : name = s
        · subst he; simp [hn]
        · by_cases hl : asciiLower (env.localName s) = asciiLower (env.localName name)
          · simp [hn, hs, he, hl]
          · simp [hn, hs, he, hl]
      · have he : name ≠ s := fun he => hs (he ▸ hn)
        simp [hn, hs, he]
    · by_cases he : name = s
      · subst he; simp [hn]
      · have he' : ¬ s = name := fun x => he x.symm
        simp [hn, he, he']

theorem c19sup_html_list (h : Html5Elements) (env : Env) (sup : List Nat) (name : Nat)
    (hall : ∀ s ∈ sup, h.isHtmlNamespace (env.nsOfName s) = true) :
    htmlMatchesSuppress h env sup name =
      (h.isHtmlNamespace (env.nsOfName name) &&
        sup.any (fun s => asciiLower (env.localName s) == asciiLower (env.localName name))) := by
  rw [c19sup_exact, takeWhile_eq_self_of_all _ sup hall]
  by_cases hn : h.isHtmlNamespace (env.nsOfName name) = true
  · simp [hn]
  · simp only [hn, Bool.false_eq_true, if_false, Bool.false_and]
    cases sup with
    | nil => rfl
    | cons s rest =>
      have hs := hall s (by simp)
      have : s ≠ name := fun he => hn (he ▸ hs)
      simp [this]

end XotModel
