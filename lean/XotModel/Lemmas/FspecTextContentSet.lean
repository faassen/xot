/-
  C05, last clause, second part: `text_content_mut(node).set(s)`.  An element
  without normal children gets exactly one new text child (handle `f.next`, after its attribute
  and namespace nodes); the data of a single text child is replaced; every other outcome is a
  refusal that changes nothing; under the invariant the call never panics.
-/
import XotModel.Lemmas.BasicFacts
import XotModel.Lemmas.FspecSetValue

namespace XotModel
open HTree Spec

/-! ### List facts -/

namespace Forest

theorem newText_eq (f : Forest) (s : Str) :
    f.newText s = (f.bump.addRoot (.node f.next (.text s) []), f.next) := rfl

/-! ### The two shapes of the child list that `text_content_mut` accepts -/

/-- `first_child` is `None`: no child is normal. -/
theorem all_abn_of_firstChild_none {f : Forest} {n : Nat} {v : Value} {L : List HTree}
    (hg : f.get? n = some (.node n v L)) (h : f.firstChild n = none) : ∀ k ∈ L, abn k = true := by
  rw [firstChild_of_get hg] at h
  simp only [Option.map_eq_none_iff, List.head?_eq_none_iff] at h
  exact dropWhile_nil_imp abn L h

theorem filter_normal_nil {L : List HTree} (h : ∀ k ∈ L, abn k = true) :
    L.filter (fun k => k.value.isNormal) = [] := by
  rw [List.filter_eq_nil_iff]
  intro k hk
  have := h k hk
  unfold abn at this
  simpa using this

theorem lastOf_none_of_abn {L : List HTree} (h : ∀ k ∈ L, abn k = true) : lastOf L = none := by
  unfold lastOf
  cases hl : L.getLast? with
  | none => rfl
  | some k =>
    have := h k (List.mem_of_getLast? hl)
    unfold abn at this
    simp only [Bool.not_eq_true'] at this
    simp [this]

/-- `first_child` is `c` and `c` has no next sibling: under the child order of the invariant
    `c` is the only normal child. -/
theorem only_normal_child {f : Forest} (inv : f.Inv) {n c : Nat}
    (hfc : f.firstChild n = some c) (hns : f.nextSibling c = none) :
    ∃ k, (f.kidsOf n).filter (fun k => k.value.isNormal) = [k] ∧ k.handle = c := by
  have hlive : ∃ t, f.get? n = some t := by
    cases hg : f.get? n with
    | some t => exact ⟨t, rfl⟩
    | none => unfold Forest.firstChild at hfc; rw [hg] at hfc; cases hfc
  obtain ⟨t, ht⟩ := hlive
  obtain ⟨v, L, hg⟩ := get_node_of_get ht
  rw [firstChild_of_get hg] at hfc
  cases hd : L.dropWhile abn with
  | nil => rw [hd] at hfc; cases hfc
  | cons k rest =>
    rw [hd] at hfc
    simp only [List.head?_cons, Option.map_some, Option.some.injEq] at hfc
    have hL : L = L.takeWhile abn ++ k :: rest := by
      rw [← hd]; exact List.takeWhile_append_dropWhile.symm
    have hkn : abn k = false := by
      have := List.head?_dropWhile_not abn L
      rw [hd] at this
      simpa using this
    have hknorm : k.value.isNormal = true := by
      unfold abn at hkn; simpa using hkn
    have s : SiteAt f n v (L.takeWhile abn ++ k :: rest) := ⟨inv.nodup, hL ▸ hg⟩
    have hctx := s.ctx
    rw [hfc] at hctx
    rw [nextSibling_of_ctx hctx] at hns
    simp only at hns
    have hord : kidsOrdered (k :: rest) = true :=
      kidsOrdered_drop _ (validTree_node (s.valid inv.valid)).2.1
    have hrest : rest = [] := by
      cases rest with
      | nil => rfl
      | cons nx rest' =>
        exfalso
        have hle := kidsOrdered_rank_le _ hord nx List.mem_cons_self
        have hk2 : k.value.category.rank = 2 := rank_normal.2 (by
          unfold Value.isNormal at hknorm; simpa using hknorm)
        have hnx2 : nx.value.category.rank = 2 := by
          have := fi_rank_le_two nx.value.category
          omega
        have hcat : nx.value.category = k.value.category := by
          rw [rank_normal.1 hk2, rank_normal.1 hnx2]
        unfold nextOf at hns
        simp [hcat] at hns
    refine ⟨k, ?_, hfc⟩
    rw [kidsOf_of_get hg, hL, hrest, List.filter_append,
      filter_normal_nil (fun a ha => mem_takeWhile_imp abn L a ha)]
    simp [hknorm]

end Forest

/-! ### The element without normal children -/

section NewChild
variable {f : Forest} {n nm : Nat} {L : List HTree}

theorem bump_site (nd : f.allHandles.Nodup) (hg : f.get? n = some (.node n (.element nm) L)) :
    SiteAt f.bump n (.element nm) L := ⟨nd, hg⟩

theorem count_handles_leaf (z h : Nat) (v : Value) :
    (handlesList [HTree.node h v []]).count z = if h = z then 1 else 0 := by
  simp [handlesList, handles, List.count_cons]

theorem nodup_insertLast_fresh {X : Forest} {p : Nat} {v : Value} {K : List HTree} (s : SiteAt X p v K)
    {h : Nat} (hf : h ∉ X.allHandles) (vv : Value) :
    (X.editAt (some p) (insertLast (.node h vv []))).allHandles.Nodup := by
  apply s.nodup_of_count
  intro z
  unfold insertLast
  rw [handlesList_append, List.count_append, count_handles_leaf]
  have h1 : X.allHandles.count z ≤ 1 := List.nodup_iff_count.1 s.nd z
  split
  · rename_i e
    subst e
    rw [List.count_eq_zero.2 hf]
    omega
  · omega

/-- The statements of `text_content_mut` + `set` on an element whose `first_child` is `None`. -/
theorem textContentSet_elem_unfold {f2 : Forest} {c : Nat} (s : Str) (hfc : f.firstChild n = none)
    (hel : f.isElement n = true)
    (happ : (f.bump.addRoot (.node f.next (.text []) [])).append n f.next = (f2, .ok))
    (hfc2 : f2.firstChild n = some c) (ht : f2.isText c = true) :
    f.textContentSet n s = (f2.setValue c (.text s), .ok) := by
  unfold Forest.textContentSet
  rw [hfc]
  simp only [hel, if_true, Forest.newText_eq, happ, hfc2, ht]

theorem textContentSet_new (inv : f.Inv) (s : Str)
    (hg : f.get? n = some (.node n (.element nm) L)) (hfc : f.firstChild n = none) :
    f.textContentSet n s =
      ({ f.editAt (some n) (insertLast (.node f.next (.text s) [])) with next := f.next + 1 }, .ok) := by
  have habn := Forest.all_abn_of_firstChild_none hg hfc
  have hfresh : f.next ∉ f.allHandles := fun h => Nat.lt_irrefl _ (inv.below _ h)
  have hnlive : n ∈ f.allHandles := mem_of_findList?_some hg
  have hne : n ≠ f.next := fun e => hfresh (e ▸ hnlive)
  have hel : f.isElement n = true := by
    unfold Forest.isElement Forest.value?; rw [hg]; rfl
  -- the store after `new_text("")`
  let T0 : HTree := .node f.next (.text []) []
  have hT0 : handles T0 = [f.next] := by simp [T0, handles, handlesList]
  have nd1 : (f.bump.addRoot T0).allHandles.Nodup := Forest.addRoot_leaf_nodup (X := f.bump) inv.nodup hfresh _
  have hgw1 : (f.bump.addRoot T0).get? n = some (.node n (.element nm) L) := Forest.addRoot_get_left T0 hg
  have hgn1 : (f.bump.addRoot T0).get? f.next = some T0 := by
    rw [Forest.addRoot_get_new (X := f.bump) T0 hfresh]; exact find?_root T0
  have hroot1 : (f.bump.addRoot T0).isRoot f.next = true := Forest.addRoot_isRoot f.bump T0
  have hanc1 : ((f.bump.addRoot T0).ancestors n).contains f.next = false := by
    cases h : ((f.bump.addRoot T0).ancestors n).contains f.next with
    | false => rfl
    | true =>
      obtain ⟨u, hu, hnu⟩ := (Forest.ancestors_contains_iff nd1).1 h
      rw [hgn1] at hu
      have := Option.some.inj hu
      subst this
      rw [hT0] at hnu
      exact absurd (List.mem_singleton.1 hnu) hne
  have hsc : (f.bump.addRoot T0).structureCheck (some n) f.next = true := by
    unfold Forest.structureCheck
    have h1 : (f.bump.addRoot T0).isElement n = true := by
      unfold Forest.isElement Forest.value?; rw [hgw1]; rfl
    have h2 : (f.bump.addRoot T0).value? f.next = some (.text []) := by
      unfold Forest.value?; rw [hgn1]; rfl
    simp only [h1, hanc1, h2, Bool.true_or, Bool.not_false, Bool.and_self]
  have happ := Forest.append_root_noLast nd1 hgw1 (Forest.lastOf_none_of_abn habn) hgn1 hroot1 hsc
  have hdrop : (f.bump.addRoot T0).editAt none (dropTop f.next) = f.bump := Forest.addRoot_drop f.bump T0 hfresh
  rw [hdrop] at happ
  -- the store after `append`
  have sb := bump_site inv.nodup hg
  have nd2 : (f.bump.editAt (some n) (insertLast T0)).allHandles.Nodup :=
    nodup_insertLast_fresh sb hfresh _
  have s2 : SiteAt (f.bump.editAt (some n) (insertLast T0)) n (.element nm) (L ++ T0 :: []) :=
    ⟨nd2, Forest.get?_editAt_self _ sb.kids⟩
  have hfc2 : (f.bump.editAt (some n) (insertLast T0)).firstChild n = some f.next := by
    rw [Forest.firstChild_of_get s2.kids, List.dropWhile_append_of_pos habn]
    rfl
  have hgt2 : (f.bump.editAt (some n) (insertLast T0)).get? f.next = some T0 := s2.getKid
  have htext2 : (f.bump.editAt (some n) (insertLast T0)).isText f.next = true := by
    unfold Forest.isText Forest.value?; rw [hgt2]; rfl
  have hctx2 : (f.bump.editAt (some n) (insertLast T0)).ctx? f.next = some ⟨n, L, T0, []⟩ := s2.ctx
  have hset := Forest.setValue_of_ctx (.text s) nd2 hctx2
  simp only at hset
  rw [textContentSet_elem_unfold s hfc hel happ hfc2 htext2, hset, Forest.editAt_editAt]
  congr 1
  have : f.bump.editAt (some n) ((replaceTop f.next fun k => [k.setValue (.text s)]) ∘ insertLast T0) =
      f.bump.editAt (some n) (insertLast (.node f.next (.text s) [])) := by
    apply sb.congr
    simp only [Function.comp, insertLast]
    have hLne : ∀ k ∈ L, k.handle ≠ f.next := by
      intro k hk e
      have hin : k.handle ∈ handles (HTree.node n (.element nm) L) := by
        rw [handles_node]; exact List.mem_cons_of_mem _ (rootHandle_mem_handlesList hk)
      exact hfresh (e ▸ (findList?_some f.roots _ hg).2 _ hin)
    rw [replaceTop_mid (h := f.next) (s := T0) (r := []) rfl hLne]
    simp [T0, HTree.setValue]
  rw [this]
  rfl

end NewChild

/-! ### `text_content_mut(node).set(s)` against its specification -/

theorem textContentSet_some {f : Forest} {n c : Nat} (s : Str) (h : f.firstChild n = some c) :
    f.textContentSet n s =
      if (f.nextSibling c).isSome then (f, .err .invalidOperation)
      else if f.isText c then (f.setValue c (.text s), .ok) else (f, .err .invalidOperation) := by
  unfold Forest.textContentSet
  rw [h]

theorem textContentSet_none_other {f : Forest} {n : Nat} (s : Str) (h : f.firstChild n = none)
    (he : f.isElement n = false) : f.textContentSet n s = (f, .err .invalidOperation) := by
  unfold Forest.textContentSet
  rw [h]
  simp [he]

/-- **C05, setters, `text_content_mut`.**  A successful call is the specified one. -/
theorem textContentSet_spec {f : Forest} (inv : f.Inv) {n : Nat} {s : Str}
    (hok : (f.textContentSet n s).2 = .ok) :
    (f.textContentSet n s).1 = Spec.specTextContentSet n s f := by
  cases hfc : f.firstChild n with
  | some c =>
    rw [textContentSet_some s hfc] at hok ⊢
    cases hns : (f.nextSibling c).isSome with
    | true => rw [hns] at hok; simp at hok
    | false =>
      simp only [Bool.false_eq_true, if_false] at hok ⊢
      cases ht : f.isText c with
      | false => rw [ht] at hok; simp at hok
      | true =>
        simp only [if_true]
        have hns' : f.nextSibling c = none := by
          cases h : f.nextSibling c with
          | none => rfl
          | some x => rw [h] at hns; cases hns
        obtain ⟨k, hk, hkc⟩ := Forest.only_normal_child inv hfc hns'
        unfold Spec.specTextContentSet
        rw [hk]
        simp only
        rw [hkc, setValue_eq_spec]
  | none =>
    cases he : f.isElement n with
    | false => rw [textContentSet_none_other s hfc he] at hok; cases hok
    | true =>
      obtain ⟨nm, L, hg⟩ := Forest.get_of_isElement he
      rw [textContentSet_new inv s hg hfc]
      unfold Spec.specTextContentSet
      rw [Forest.kidsOf_of_get hg, Forest.filter_normal_nil (Forest.all_abn_of_firstChild_none hg hfc)]

/-- Under the invariant `text_content_mut(node).set(s)` never panics (live node or not). -/
theorem textContentSet_no_panic {f : Forest} (inv : f.Inv) (n : Nat) (s : Str) :
    (f.textContentSet n s).2 ≠ .panic := by
  cases hfc : f.firstChild n with
  | some c =>
    rw [textContentSet_some s hfc]
    split
    · intro h; cases h
    · split <;> (intro h; cases h)
  | none =>
    cases he : f.isElement n with
    | false => rw [textContentSet_none_other s hfc he]; intro h; cases h
    | true =>
      obtain ⟨nm, L, hg⟩ := Forest.get_of_isElement he
      rw [textContentSet_new inv s hg hfc]
      intro h; cases h

/-- A refusal changes nothing (no hypothesis on the forest). -/
theorem textContentSet_err {f : Forest} {n : Nat} {s : Str} {e : XotError}
    (h : (f.textContentSet n s).2 = .err e) : (f.textContentSet n s).1 = f := by
  cases hfc : f.firstChild n with
  | some c =>
    rw [textContentSet_some s hfc] at h ⊢
    split
    · rfl
    · rename_i h1
      rw [if_neg h1] at h
      split
      · rename_i h2; rw [if_pos h2] at h; cases h
      · rfl
  | none =>
    cases he : f.isElement n with
    | false => rw [textContentSet_none_other s hfc he]
    | true =>
      exfalso
      unfold Forest.textContentSet at h
      rw [hfc] at h
      simp only [he, if_true] at h
      generalize (f.newText []).1.append n (f.newText []).2 = x at h
      obtain ⟨f2, r⟩ := x
      cases r with
      | ok =>
        simp only at h
        cases hc : f2.firstChild n with
        | none => rw [hc] at h; cases h
        | some c =>
          rw [hc] at h
          simp only at h
          split at h <;> cases h
      | err e' => cases h
      | panic => cases h

theorem textContentSet_refused {f : Forest} (inv : f.Inv) {n : Nat} {s : Str}
    (h : (f.textContentSet n s).2 ≠ .ok) : (f.textContentSet n s).1 = f := by
  cases hr : (f.textContentSet n s).2 with
  | ok => exact absurd hr h
  | err e => exact textContentSet_err hr
  | panic => exact absurd hr (textContentSet_no_panic inv n s)

/-! ### The frame of `specTextContentSet` -/

section Frame
variable {f : Forest} {n : Nat} {v : Value} {L : List HTree}

theorem specTextContentSet_new_eq (s : Str) (hg : f.get? n = some (.node n v L))
    (hk : L.filter (fun k => k.value.isNormal) = []) :
    Spec.specTextContentSet n s f =
      { f.editAt (some n) (insertLast (.node f.next (.text s) [])) with next := f.next + 1 } := by
  unfold Spec.specTextContentSet
  rw [Forest.kidsOf_of_get hg, hk]

/-- One normal child: exactly its value changes (framed by the `specSetValue_…` theorems). -/
theorem specTextContentSet_one_eq (s : Str) {c : HTree} (hg : f.get? n = some (.node n v L))
    (hk : L.filter (fun k => k.value.isNormal) = [c]) :
    Spec.specTextContentSet n s f = Spec.specSetValue c.handle (.text s) f := by
  unfold Spec.specTextContentSet
  rw [Forest.kidsOf_of_get hg, hk]

/-- Several normal children: the specification leaves the forest alone (xot refuses). -/
theorem specTextContentSet_many_eq (s : Str) {a b : HTree} {r : List HTree}
    (hg : f.get? n = some (.node n v L)) (hk : L.filter (fun k => k.value.isNormal) = a :: b :: r) :
    Spec.specTextContentSet n s f = f := by
  unfold Spec.specTextContentSet
  rw [Forest.kidsOf_of_get hg, hk]

theorem specTextContentSet_new_handles (s : Str) (nd : f.allHandles.Nodup)
    (hg : f.get? n = some (.node n v L)) (hk : L.filter (fun k => k.value.isNormal) = []) :
    (Spec.specTextContentSet n s f).allHandles.Perm (f.next :: f.allHandles) ∧
      (Spec.specTextContentSet n s f).next = f.next + 1 := by
  rw [specTextContentSet_new_eq s hg hk]
  refine ⟨?_, rfl⟩
  show (f.editAt (some n) (insertLast (.node f.next (.text s) []))).allHandles.Perm _
  rw [List.perm_iff_count]
  intro z
  have st : SiteAt f n v L := ⟨nd, hg⟩
  have := st.count (insertLast (.node f.next (.text s) [])) z
  have e : insertLast (.node f.next (.text s) []) L = L ++ [.node f.next (.text s) []] := rfl
  rw [e, handlesList_append, List.count_append, count_handles_leaf] at this
  rw [List.count_cons]
  simp only [beq_iff_eq]
  omega

theorem specTextContentSet_new_get_self (s : Str) (hg : f.get? n = some (.node n v L))
    (hk : L.filter (fun k => k.value.isNormal) = []) :
    (Spec.specTextContentSet n s f).get? n = some (.node n v (L ++ [.node f.next (.text s) []])) := by
  rw [specTextContentSet_new_eq s hg hk]
  exact Forest.get?_editAt_self _ hg

theorem findList?_insertLast_fresh {x h : Nat} (hx : x ≠ h) (vv : Value) (K : List HTree) :
    findList? x (insertLast (.node h vv []) K) = findList? x K := by
  unfold insertLast
  rw [Fmap.findList?_append, findList?_cons, findList?_nil, find?_node, if_neg (fun e => hx e.symm), findList?_nil]
  cases findList? x K <;> rfl

theorem specTextContentSet_new_get_far (s : Str) (nd : f.allHandles.Nodup) (hfresh : f.next ∉ f.allHandles)
    (hg : f.get? n = some (.node n v L)) (hk : L.filter (fun k => k.value.isNormal) = [])
    {x : Nat} {t : HTree} (hx : f.get? x = some t) (hn : n ∉ handles t) :
    (Spec.specTextContentSet n s f).get? x = some t := by
  rw [specTextContentSet_new_eq s hg hk]
  have hxt : t.handle = x := (findList?_some f.roots t hx).1
  have hxn : x ≠ n := fun e => hn (e ▸ hxt ▸ handle_mem_handles t)
  have hxf : x ≠ f.next := fun e => hfresh (e ▸ mem_of_findList?_some hx)
  show (f.editAt (some n) (insertLast (.node f.next (.text s) []))).get? x = _
  rw [Forest.get?_editAt_other hxn nd (fun _ K _ => findList?_insertLast_fresh hxf _ K), hx, Option.map_some,
    editAt_of_not_mem t hn]

theorem specTextContentSet_new_nodup (s : Str) (nd : f.allHandles.Nodup) (hfresh : f.next ∉ f.allHandles)
    (hg : f.get? n = some (.node n v L)) (hk : L.filter (fun k => k.value.isNormal) = []) :
    (Spec.specTextContentSet n s f).allHandles.Nodup := by
  rw [specTextContentSet_new_eq s hg hk]
  exact nodup_insertLast_fresh (X := f) ⟨nd, hg⟩ hfresh _

theorem specTextContentSet_new_ctx_other (s : Str) (nd : f.allHandles.Nodup) (hfresh : f.next ∉ f.allHandles)
    (hg : f.get? n = some (.node n v L)) (hk : L.filter (fun k => k.value.isNormal) = [])
    {x : Nat} {cx : Ctx} (hx : f.ctx? x = some cx) (hne : cx.parent ≠ n) :
    ∃ cx', (Spec.specTextContentSet n s f).ctx? x = some cx' ∧ cx'.shape = cx.shape := by
  have hnd := specTextContentSet_new_nodup s nd hfresh hg hk
  rw [specTextContentSet_new_eq s hg hk] at hnd ⊢
  have st : SiteAt f n v L := ⟨nd, hg⟩
  have hpf : cx.parent ≠ f.next := by
    obtain ⟨_, vv, e1⟩ := Forest.kids_of_ctx nd hx
    exact fun e => hfresh (e ▸ mem_of_findList?_some e1)
  exact st.frame _ hnd hx hne (findList?_insertLast_fresh hpf _ L)

theorem specTextContentSet_new_ctx_kid (s : Str) (nd : f.allHandles.Nodup) (hfresh : f.next ∉ f.allHandles)
    (hk : L.filter (fun k => k.value.isNormal) = []) {l r : List HTree} {k : HTree}
    (hL : L = l ++ k :: r) (hg : f.get? n = some (.node n v L)) :
    (Spec.specTextContentSet n s f).ctx? k.handle =
      some ⟨n, l, k, r ++ [.node f.next (.text s) []]⟩ := by
  have hnd := specTextContentSet_new_nodup s nd hfresh hg hk
  have hget := specTextContentSet_new_get_self s hg hk
  rw [hL, List.append_assoc, List.cons_append] at hget
  exact Forest.ctx_of_kids hnd hget

theorem specTextContentSet_new_ctx_new (s : Str) (nd : f.allHandles.Nodup) (hfresh : f.next ∉ f.allHandles)
    (hg : f.get? n = some (.node n v L)) (hk : L.filter (fun k => k.value.isNormal) = []) :
    (Spec.specTextContentSet n s f).ctx? f.next = some ⟨n, L, .node f.next (.text s) [], []⟩ ∧
      (Spec.specTextContentSet n s f).get? f.next = some (.node f.next (.text s) []) := by
  have hnd := specTextContentSet_new_nodup s nd hfresh hg hk
  have hget := specTextContentSet_new_get_self s hg hk
  exact ⟨Forest.ctx_of_kids (s := .node f.next (.text s) []) hnd hget,
    findList?_kid (s := .node f.next (.text s) []) _ hnd hget⟩

theorem specTextContentSet_new_root (s : Str) (nd : f.allHandles.Nodup) (hfresh : f.next ∉ f.allHandles)
    (hg : f.get? n = some (.node n v L)) (hk : L.filter (fun k => k.value.isNormal) = [])
    {x : Nat} (hx : f.isRoot x = true) : (Spec.specTextContentSet n s f).ctx? x = none := by
  have hnd := specTextContentSet_new_nodup s nd hfresh hg hk
  rw [specTextContentSet_new_eq s hg hk] at hnd ⊢
  exact frame_root _ hnd hx

end Frame

/-! ### The statements on a closed example -/

/-- `<e1 a2="a"><e3>x</e3><e5 a6="b"/></e1>`: handles 0 (e1), 1 (attribute), 2 (e3), 3 (text),
    4 (e5), 5 (attribute). -/
def setSample : Forest :=
  { roots := [.node 0 (.element 1) [.node 1 (.attribute 2 ['a']) [],
      .node 2 (.element 3) [.node 3 (.text ['x']) []],
      .node 4 (.element 5) [.node 5 (.attribute 6 ['b']) []]]], next := 6 }

example : setSample.inv = true := by decide +kernel
example : (setSample.textContentSet 2 ['y']).2 = .ok ∧
    (setSample.textContentSet 2 ['y']).1 = Spec.specTextContentSet 2 ['y'] setSample := by decide +kernel
example : (setSample.textContentSet 4 ['y']).2 = .ok ∧
    (setSample.textContentSet 4 ['y']).1 = Spec.specTextContentSet 4 ['y'] setSample := by decide +kernel
example : (setSample.textContentSet 4 ['y']).1.get? 4 =
    some (.node 4 (.element 5) [.node 5 (.attribute 6 ['b']) [], .node 6 (.text ['y']) []]) := by decide +kernel
example : setSample.textContentSet 0 ['y'] = (setSample, .err .invalidOperation) := by decide +kernel
example : (setSample.setText 3 ['z']).2 = .ok ∧ (setSample.setComment 3 ['z']).2 ≠ .ok := by decide +kernel

end XotModel
