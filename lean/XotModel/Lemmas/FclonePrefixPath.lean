/-
  Lemmas for C12 (clone_with_prefixes serialises): going down from a root to the source
  with the serializer (`writable_descend`), and the chain conditions that structural validity
  gives (`chainOK_of_valid`).
-/
import XotModel.Lemmas.FclonePrefixStack
import XotModel.Lemmas.FcloneReplay

namespace XotModel
open HTree

mutual
  /-- The path found for `h` in `t` starts at a node with handle `h`, ends at `t`, and every tree on it
      has each property `Φ` of `t` that children inherit. -/
  theorem fc_pathTo_spec (Φ : HTree → Prop) (hkid : ∀ {h v ks}, Φ (.node h v ks) → ∀ k ∈ ks, Φ k)
      (h : Nat) : ∀ (t : HTree) (l : List HTree), Φ t → HTree.pathTo h t = some l →
      (∃ sub rest, l = sub :: rest ∧ sub.handle = h) ∧ l.getLast? = some t ∧ ∀ x ∈ l, Φ x
    | .node h' v ks, l => by
      intro ht hl
      unfold HTree.pathTo at hl
      by_cases e : h' = h
      · rw [if_pos e] at hl
        cases hl
        exact ⟨⟨_, [], rfl, e⟩, rfl, fun x hx => List.mem_singleton.mp hx ▸ ht⟩
      · rw [if_neg e] at hl
        cases hp : HTree.pathToList h ks with
        | none => rw [hp] at hl; cases hl
        | some l' =>
          rw [hp] at hl
          cases hl
          obtain ⟨⟨sub, rest, rfl, hs⟩, ih⟩ := fc_pathToList_spec Φ hkid h ks l' (hkid ht) hp
          refine ⟨⟨sub, rest ++ [_], rfl, hs⟩, List.getLast?_concat (l := sub :: rest), ?_⟩
          intro x hx
          rcases List.mem_append.mp hx with h1 | h1
          · exact ih x h1
          · exact List.mem_singleton.mp h1 ▸ ht
  theorem fc_pathToList_spec (Φ : HTree → Prop) (hkid : ∀ {h v ks}, Φ (.node h v ks) → ∀ k ∈ ks, Φ k)
      (h : Nat) : ∀ (ks : List HTree) (l : List HTree), (∀ k ∈ ks, Φ k) →
      HTree.pathToList h ks = some l → (∃ sub rest, l = sub :: rest ∧ sub.handle = h) ∧ ∀ x ∈ l, Φ x
    | [], l => by intro _ hl; simp [HTree.pathToList] at hl
    | k :: ks, l => by
      intro hv hl
      unfold HTree.pathToList at hl
      cases hp : HTree.pathTo h k with
      | some l' =>
        rw [hp] at hl
        cases hl
        obtain ⟨a, -, c⟩ := fc_pathTo_spec Φ hkid h k _ (hv k List.mem_cons_self) hp
        exact ⟨a, c⟩
      | none =>
        rw [hp] at hl
        exact fc_pathToList_spec Φ hkid h ks l (fun k' hk' => hv k' (List.mem_cons_of_mem _ hk')) hl
end

theorem pathTo_head (h : Nat) (t : HTree) (l : List HTree) (hl : HTree.pathTo h t = some l) :
    ∃ sub rest, l = sub :: rest ∧ sub.handle = h :=
  (fc_pathTo_spec (fun _ => True) (fun _ _ _ => trivial) h t l trivial hl).1

theorem pathToList_head (h : Nat) (ks : List HTree) (l : List HTree)
    (hl : HTree.pathToList h ks = some l) : ∃ sub rest, l = sub :: rest ∧ sub.handle = h :=
  (fc_pathToList_spec (fun _ => True) (fun _ _ _ => trivial) h ks l (fun _ _ => trivial) hl).1

theorem stackAlong_singleton (L : List (Nat × Nat)) (s : FStack) (t : Tree) (hs : s.top = L) :
    stackAlong L [t] = if t.value.isElement then (s.push t.nsDecls).top else s.top := by
  simp only [stackAlong]
  split
  · rw [push_top, hs]
  · rw [hs]

mutual
  /-- Serialising `t` with the stack `s` reaches the node `h` with the stack `stackAlong`. -/
  theorem writable_descend (env : Env) (h : Nat) : ∀ (t : HTree) (s : FStack) (sub : HTree)
      (rest : List HTree), writableTree env s t.erase = true →
      HTree.pathTo h t = some (sub :: rest) →
      ∃ s', writableTree env s' sub.erase = true ∧ s'.top = stackAlong s.top (rest.map erase)
    | .node h' v ks, s, sub, rest, hw, hp => by
      unfold HTree.pathTo at hp
      by_cases e : h' = h
      · rw [if_pos e] at hp
        cases hp
        exact ⟨s, hw, rfl⟩
      · rw [if_neg e] at hp
        cases hpl : HTree.pathToList h ks with
        | none => rw [hpl] at hp; cases hp
        | some l =>
          rw [hpl] at hp
          obtain ⟨sub', rest', rfl, _⟩ := pathToList_head h ks l hpl
          simp only [List.cons_append, Option.some.injEq, List.cons.injEq] at hp
          obtain ⟨rfl, rfl⟩ := hp
          -- the stack with which the children are serialised
          have key : ∃ s1 : FStack, writableList env s1 (eraseList ks) = true ∧
              s1.top = stackAlong s.top [erase (.node h' v ks)] := by
            simp only [erase] at hw
            cases v with
            | element name =>
              simp only [writableTree, Bool.and_eq_true] at hw
              exact ⟨_, hw.2, by simp [stackAlong, erase, Tree.value, Value.isElement, push_top]⟩
            | pi t d =>
              simp only [writableTree, Bool.and_eq_true] at hw
              exact ⟨s, hw.2, by simp [stackAlong, erase, Tree.value, Value.isElement]⟩
            | _ => exact ⟨s, by simpa [writableTree] using hw, by simp [stackAlong, erase, Tree.value, Value.isElement]⟩
          obtain ⟨s1, hw1, ht1⟩ := key
          obtain ⟨s', hw', ht'⟩ := writableList_descend env h ks s1 sub' rest' hw1 hpl
          refine ⟨s', hw', ?_⟩
          rw [ht', ht1, List.map_append, stackAlong_append]
          rfl
  theorem writableList_descend (env : Env) (h : Nat) : ∀ (ks : List HTree) (s : FStack) (sub : HTree)
      (rest : List HTree), writableList env s (eraseList ks) = true →
      HTree.pathToList h ks = some (sub :: rest) →
      ∃ s', writableTree env s' sub.erase = true ∧ s'.top = stackAlong s.top (rest.map erase)
    | [], _, _, _, _, hp => by simp [HTree.pathToList] at hp
    | k :: ks, s, sub, rest, hw, hp => by
      simp only [eraseList, writableList, Bool.and_eq_true] at hw
      unfold HTree.pathToList at hp
      cases hk : HTree.pathTo h k with
      | some l =>
        rw [hk] at hp
        cases hp
        exact writable_descend env h k s sub rest hw.1 hk
      | none =>
        rw [hk] at hp
        exact writableList_descend env h ks s sub rest hw.2 hp
end

theorem fc_validTree_kid (b : Bool) {h : Nat} {v : Value} {ks : List HTree}
    (hv : validTree b (.node h v ks) = true) : ∀ k ∈ ks, validTree b k = true :=
  validList_all b ks (validTree_kids b h v ks hv)

theorem pathTo_props (b : Bool) (h : Nat) (t : HTree) (l : List HTree) (hv : validTree b t = true)
    (hl : HTree.pathTo h t = some l) : l.getLast? = some t ∧ ∀ x ∈ l, validTree b x = true :=
  (fc_pathTo_spec (validTree b · = true) (fc_validTree_kid b) h t l hv hl).2

theorem pathToList_props (b : Bool) (h : Nat) : ∀ (ks : List HTree) (l : List HTree),
    validList b ks = true → HTree.pathToList h ks = some l → ∀ x ∈ l, validTree b x = true :=
  fun ks l hv hl =>
    (fc_pathToList_spec (validTree b · = true) (fc_validTree_kid b) h ks l (validList_all b ks hv) hl).2

/-! #### declarations of a valid node -/

/-- The declaration carried by a namespace node. -/
def fcNsPair : Value → Option (Nat × Nat)
  | .namespace p n => some (p, n)
  | _ => none

theorem fcNsPair_of_ns {v : Value} (h : (v.category == Category.namespace) = true) :
    ∃ ns, fcNsPair v = some (Forest.entryKey v, ns) := by
  cases v with
  | «namespace» p ns => exact ⟨ns, rfl⟩
  | _ => exact absurd h Bool.false_ne_true

theorem fcNsPair_some {v : Value} {b : Nat × Nat} (h : fcNsPair v = some b) : v = .namespace b.1 b.2 := by
  cases v with
  | «namespace» p ns => cases h; rfl
  | _ => cases h

theorem nsDecls_eq (t : Tree) : t.nsDecls = t.namespaceNodes.filterMap (fun k => fcNsPair k.value) := by
  unfold Tree.nsDecls
  congr 1

/-- The declarations of a node in terms of its children with handles. -/
def fcDeclsOfKids (ks : List HTree) : List (Nat × Nat) :=
  (ks.takeWhile (fun k => k.value.category == .namespace)).filterMap (fun k => fcNsPair k.value)

theorem nsDecls_erase (h : Nat) (v : Value) (ks : List HTree) :
    (erase (.node h v ks)).nsDecls = fcDeclsOfKids ks := by
  rw [nsDecls_eq]
  simp only [erase, Tree.namespaceNodes, Tree.kids, fcDeclsOfKids]
  induction ks with
  | nil => rfl
  | cons k ks ih =>
    simp only [eraseList, List.takeWhile_cons, Reach.erase_value]
    by_cases hc : (k.value.category == Category.namespace) = true
    · simp only [hc, if_true, List.filterMap_cons, Reach.erase_value, ih]
    · simp only [hc, Bool.false_eq_true, if_false]
      rfl

theorem takeWhile_sublist_filter {α} (p : α → Bool) : ∀ l : List α, (l.takeWhile p).Sublist (l.filter p)
  | [] => List.Sublist.refl _
  | a :: l => by
    rw [List.takeWhile_cons, List.filter_cons]
    split
    · exact List.Sublist.cons₂ _ (takeWhile_sublist_filter p l)
    · exact List.nil_sublist _

theorem declsOfKids_keys (ks : List HTree) :
    (fcDeclsOfKids ks).map (·.1) =
      (ks.takeWhile (fun k => k.value.category == .namespace)).map (fun k => Forest.entryKey k.value) := by
  unfold fcDeclsOfKids
  induction ks with
  | nil => rfl
  | cons k ks ih =>
    rw [List.takeWhile_cons]
    split
    · next hc =>
      obtain ⟨ns, e⟩ := fcNsPair_of_ns hc
      rw [List.filterMap_cons_some (f := fun k : HTree => fcNsPair k.value) e, List.map_cons,
        List.map_cons, ih]
    · rfl

theorem chainOK_of_valid (b : Bool) (l : List HTree) (hv : ∀ x ∈ l, validTree b x = true) :
    ChainOK (l.map erase) := by
  intro a ha
  obtain ⟨x, hx, rfl⟩ := List.mem_map.mp ha
  have hvx := hv x hx
  cases x with
  | node h v ks =>
    rw [nsDecls_erase]
    refine ⟨?_, ?_⟩
    · intro hne
      have hne' : v.isElement = false := by simpa [erase, Tree.value] using hne
      simp only [validTree, Bool.and_eq_true, List.all_eq_true] at hvx
      have hall := hvx.1.1.1.1.1
      unfold fcDeclsOfKids
      cases ks with
      | nil => rfl
      | cons k ks =>
        have : (k.value.category == Category.namespace) = false := by
          rcases (fc_kidAllowed_cases (hall k List.mem_cons_self)).2 with he | ⟨_, hn⟩
          · exact absurd (hne'.symm.trans he) Bool.false_ne_true
          · rw [hn]; rfl
        rw [List.takeWhile_cons, this]
        rfl
    · rw [declsOfKids_keys]
      simp only [validTree, Bool.and_eq_true] at hvx
      have hk := hvx.1.1.2
      unfold keysUnique at hk
      simp only [decide_eq_true_eq] at hk
      exact List.Nodup.sublist ((takeWhile_sublist_filter _ ks).map _) hk

end XotModel
