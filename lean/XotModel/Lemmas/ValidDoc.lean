/-
  Lemmas about `validateWellFormedDocument` (Model/ValidDoc.lean): the loop against its
  specification, and the bridge from the parser's soundness facts (`StructValid`, `WellFormedTop`).
-/
import XotModel.Model.ValidDoc
import XotModel.Model.Valid
import XotModel.Lemmas.Parse

namespace XotModel

/-- A legal top-level child: element, comment or processing instruction. -/
def topOk (k : Tree) : Bool := k.value.isElement || k.value.isCommentOrPi

/-- The error the loop raises at an illegal child. -/
def topOffence (k : Tree) : XotError := if k.value.isText then .textAtTopLevel else .illegalAtTopLevel

theorem validateScan_cons (k : Tree) (ks : List Tree) (n : Nat) :
    validateScan (k :: ks) n =
      if topOk k then validateScan ks (n + if k.value.isElement then 1 else 0) else .error (topOffence k) := by
  cases k with | node v _ => cases v <;> rfl

theorem validateScan_eq (ks : List Tree) (n : Nat) :
    validateScan ks n = match ks.find? (fun k => !topOk k) with
      | some k => .error (topOffence k)
      | none => .ok (n + countElements ks) := by
  induction ks generalizing n with
  | nil => rfl
  | cons k ks ih =>
    rw [validateScan_cons, List.find?_cons, countElements_cons]
    cases hk : topOk k
    · rfl
    · simp only [if_true, ih, Bool.not_true, Nat.add_assoc]

theorem validateScan_ok_iff (ks : List Tree) (n m : Nat) :
    validateScan ks n = .ok m ↔ ks.all topOk = true ∧ m = n + countElements ks := by
  rw [validateScan_eq]
  split
  next k hf =>
    have hk := List.find?_some hf
    have hm := List.mem_of_find?_eq_some hf
    simp only [reduceCtorEq, List.all_eq_true, false_iff, not_and]
    intro hall
    rw [hall k hm] at hk
    cases hk
  next hf =>
    simp only [Except.ok.injEq, List.all_eq_true, eq_comm (a := m)]
    simp only [List.find?_eq_none, Bool.not_eq_true', Bool.not_eq_false] at hf
    exact ⟨fun h => ⟨hf, h⟩, fun h => h.2⟩

theorem validateScan_error_iff (ks : List Tree) (n : Nat) (e : XotError) :
    validateScan ks n = .error e ↔
      ∃ pre k post, ks = pre ++ k :: post ∧ pre.all topOk = true ∧ topOk k = false ∧ e = topOffence k := by
  rw [validateScan_eq]
  constructor
  · split
    next k hf =>
      intro h
      obtain ⟨hk, pre, post, rfl, hpre⟩ := List.find?_eq_some_iff_append.1 hf
      refine ⟨pre, k, post, rfl, ?_, by simpa using hk, by cases h; rfl⟩
      simpa using hpre
    next => intro h; cases h
  · rintro ⟨pre, k, post, rfl, hpre, hk, rfl⟩
    have : (pre ++ k :: post).find? (fun k => !topOk k) = some k :=
      List.find?_eq_some_iff_append.2 ⟨by simp [hk], pre, post, rfl, by simpa using hpre⟩
    rw [this]

theorem validateCount_ok_iff (n : Nat) : validateCount n = .ok () ↔ n = 1 := by
  unfold validateCount
  by_cases h0 : n = 0
  · simp [h0]
  · by_cases h1 : n > 1
    · simp [h0, h1]; omega
    · simp [h0, h1]; omega

theorem validateCount_error_iff (n : Nat) (e : XotError) :
    validateCount n = .error e ↔
      (n = 0 ∧ e = .noElementAtTopLevel) ∨ (n > 1 ∧ e = .multipleElementsAtTopLevel) := by
  unfold validateCount
  by_cases h0 : n = 0
  · simp [h0, eq_comm]
  · by_cases h1 : n > 1
    · simp [h0, h1, eq_comm]
    · simp [h0, h1]

theorem wellFormedDocument_eq (t : Tree) :
    wellFormedDocument t = (t.value.isDocument && t.normalKids.all topOk && (countElements t.normalKids == 1)) := rfl

/-- `validate_well_formed_document` against its decidable specification. -/
theorem validate_iff (t : Tree) : validateWellFormedDocument t = .ok () ↔ wellFormedDocument t = true := by
  rw [wellFormedDocument_eq]
  unfold validateWellFormedDocument
  cases hd : t.value.isDocument
  · simp only [if_true, reduceCtorEq, Bool.false_and, Bool.false_eq_true]
  · simp only [Bool.true_eq_false, if_false, Bool.true_and, Bool.and_eq_true, beq_iff_eq]
    cases hs : validateScan t.normalKids 0 with
    | error e =>
      simp only [reduceCtorEq, false_iff, not_and]
      intro hall
      have := (validateScan_ok_iff _ 0 _).2 ⟨hall, rfl⟩
      rw [hs] at this
      cases this
    | ok m =>
      obtain ⟨hall, rfl⟩ := (validateScan_ok_iff _ _ _).1 hs
      simp only [validateCount_ok_iff, hall, true_and, Nat.zero_add]

/-- The error answers, one by one (statement order of the Rust). -/
theorem validate_error_iff (t : Tree) (e : XotError) :
    validateWellFormedDocument t = .error e ↔
      (t.value.isDocument = false ∧ e = .notDocument) ∨
      (t.value.isDocument = true ∧ ∃ pre k post, t.normalKids = pre ++ k :: post ∧ pre.all topOk = true ∧
          topOk k = false ∧ e = topOffence k) ∨
      (t.value.isDocument = true ∧ t.normalKids.all topOk = true ∧ countElements t.normalKids = 0 ∧
          e = .noElementAtTopLevel) ∨
      (t.value.isDocument = true ∧ t.normalKids.all topOk = true ∧ countElements t.normalKids > 1 ∧
          e = .multipleElementsAtTopLevel) := by
  unfold validateWellFormedDocument
  rw [← validateScan_error_iff _ 0]
  cases hd : t.value.isDocument
  · simp only [if_true, Except.error.injEq, Bool.false_eq_true, false_and, or_false, true_and, eq_comm]
  · simp only [Bool.true_eq_false, if_false, false_and, true_and, false_or]
    cases hs : validateScan t.normalKids 0 with
    | error e' =>
      have hnall : ¬ t.normalKids.all topOk = true := fun hall => by
        have := (validateScan_ok_iff _ 0 _).2 ⟨hall, rfl⟩
        rw [hs] at this
        cases this
      simp only [hnall, Bool.false_eq_true, false_and, or_false, Except.error.injEq]
    | ok m =>
      obtain ⟨hall, rfl⟩ := (validateScan_ok_iff _ _ _).1 hs
      simp only [reduceCtorEq, false_or, hall, true_and, Nat.zero_add, validateCount_error_iff]

theorem topOk_of_normal {k : Tree} (hn : k.value.isNormal = true) (hd : k.value.isDocument = false)
    (ht : k.value.isText = false) : topOk k = true := by
  cases k with | node v _ => cases v <;> first | rfl | contradiction

theorem normalKids_of_all_normal (v : Value) (ks : List Tree) (h : ∀ k ∈ ks, k.value.isNormal = true) :
    (Tree.node v ks).normalKids = ks := by
  cases ks with
  | nil => rfl
  | cons a r =>
    simp only [Tree.normalKids, Tree.kids, List.dropWhile_cons, h a (List.mem_cons_self ..), Bool.not_true,
      Bool.false_eq_true, if_false]

/-- What the parser's soundness theorems give is what the call checks. -/
theorem validate_of_sound {t : Tree} (hv : StructValid t) (hw : WellFormedTop t) :
    validateWellFormedDocument t = .ok () := by
  rw [validate_iff, wellFormedDocument_eq]
  obtain ⟨hdoc, _, hk, _⟩ := hv
  cases t with
  | node v ks =>
    rw [Tree.forall_node] at hk
    obtain ⟨⟨_, hnorm, hnodoc⟩, _⟩ := hk
    have hne : v.isElement = false := by cases v <;> first | rfl | contradiction
    have hnormal := hnorm hne
    rw [normalKids_of_all_normal v ks hnormal]
    obtain ⟨hc, hnt⟩ := hw
    simp only [Tree.kids] at hc hnt
    simp only [Tree.value] at hdoc
    simp only [Tree.value, hdoc, hc, Bool.true_and, beq_self_eq_true, Bool.and_true, List.all_eq_true]
    exact fun k hkm => topOk_of_normal (hnormal k hkm) (hnodoc k hkm) (hnt k hkm)

end XotModel
