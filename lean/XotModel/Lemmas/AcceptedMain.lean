/-
  From the builder invariant to the C01 domain: a tree every node of which is as the builder leaves it, which
  is sound and meets the guards, satisfies `nodeOK` everywhere, and every name of it can be written by the
  serialiser; then, on strings, whatever `parse` / `parse_fragment` accept is representable and can be
  serialised, outside the known findings.
-/
import XotModel.Lemmas.BasicFacts
import XotModel.Lemmas.AcceptedRun
import XotModel.Lemmas.ParseSound
import XotModel.Lemmas.RoundTripTop
import XotModel.Lemmas.RoundTripSerialises
import XotModel.Lemmas.RepairElement
import XotModel.Lemmas.Parse

/-! ## From `TreeAcc` to `nodeOK` and writable names

    * `PiColon.Accepted.nodeOK_of_acc`: a tree every node of which is as the builder leaves it (`TreeAcc`), which is
      sound (`SoundAt`, C03_sound) and meets the guard `NoReservedDecls`, satisfies the widened `PiColon.nodeOK`
      (Lemmas/PiColonDefs.lean: a PI target is what the tokenizer read, colons allowed) everywhere; under the
      second guard `plainPiTarget` a value satisfies `valueOK` of Model/SerTokens.lean (`valueOK_of_acc`);
    * `PiColon.Accepted.okRec_of_acc`: every name of such a tree can be written by the serialiser (`namesWritable`): the
      prefix the source used is bound, in the declarations of the ancestors, to the name's namespace.
-/

namespace XotModel.Accepted

open XotModel XotModel.Repair BuilderCases

/-! ### Lookups in the builder's stack -/

theorem findInDecls_some {q ns : Nat} {f : List (Nat × Nat)} (h : findInDecls q f = some ns) : (q, ns) ∈ f := by
  simp only [findInDecls, Option.map_eq_some_iff] at h
  obtain ⟨d, hd, rfl⟩ := h
  have hm := List.mem_of_find?_eq_some hd
  have hq := List.find?_some hd
  have : d.1 = q := by simpa using hq
  rw [← this]
  exact List.mem_reverse.mp hm

theorem findInDecls_none {q : Nat} {f : List (Nat × Nat)} (h : findInDecls q f = none) : q ∉ f.map Prod.fst := by
  simp only [findInDecls, Option.map_eq_none_iff] at h
  intro hm
  obtain ⟨d, hd, rfl⟩ := List.mem_map.mp hm
  have := List.find?_eq_none.mp h d (List.mem_reverse.mpr hd)
  simp at this

theorem findInDecls_eq_lookup {q : Nat} {f : List (Nat × Nat)} (hu : UniquePrefixes f) :
    findInDecls q f = List.lookup q f := by
  cases h : findInDecls q f with
  | none => exact ((lookup_none_iff q f).mpr (findInDecls_none h)).symm
  | some ns => exact ((lookup_some_iff hu q ns).mpr (findInDecls_some h)).symm

theorem lookupPrefix_base2 {q ns : Nat} (h : lookupPrefix base2 q = some ns) :
    (q = Env.emptyPrefix ∧ ns = Env.noNamespace) ∨ (q = Env.xmlPrefix ∧ ns = Env.xmlNamespace) := by
  simp only [base2, lookupPrefix_cons] at h
  cases h1 : findInDecls q [(Env.emptyPrefix, Env.noNamespace)] with
  | some n =>
    rw [h1] at h
    have := findInDecls_some h1
    simp only [List.mem_singleton, Prod.mk.injEq] at this
    simp only [Option.some.injEq] at h
    exact .inl ⟨this.1, by rw [← h]; exact this.2⟩
  | none =>
    rw [h1] at h
    simp only at h
    cases h2 : findInDecls q [(Env.xmlPrefix, Env.xmlNamespace)] with
    | some n =>
      rw [h2] at h
      have := findInDecls_some h2
      simp only [List.mem_singleton, Prod.mk.injEq] at this
      simp only [Option.some.injEq] at h
      exact .inr ⟨this.1, by rw [← h]; exact this.2⟩
    | none => rw [h2] at h; simp [lookupPrefix] at h

/-- A lookup in the builder's stack is a lookup in the declarations of the open elements, or falls
    through to the two base bindings. -/
theorem lookupPrefix_frames {q ns : Nat} : ∀ (fs : Frames), (∀ f ∈ fs, UniquePrefixes f) →
    lookupPrefix (fs ++ base2) q = some ns →
      lookupFrames fs q = some ns ∨ (lookupFrames fs q = none ∧ lookupPrefix base2 q = some ns)
  | [], _, h => .inr ⟨rfl, h⟩
  | f :: fs, hu, h => by
    rw [List.cons_append, lookupPrefix_cons, findInDecls_eq_lookup (hu f (by simp))] at h
    simp only [lookupFrames]
    cases hl : List.lookup q f with
    | some n => rw [hl] at h; exact .inl h
    | none =>
      rw [hl] at h
      exact lookupPrefix_frames fs (fun f' hf' => hu f' (by simp [hf'])) h

theorem lookupFrames_mem {q ns : Nat} : ∀ {fs : Frames}, lookupFrames fs q = some ns → ∃ f ∈ fs, (q, ns) ∈ f
  | [], h => by simp [lookupFrames] at h
  | f :: fs, h => by
    simp only [lookupFrames] at h
    cases hl : List.lookup q f with
    | some n =>
      rw [hl] at h
      simp only [Option.some.injEq] at h
      subst h
      exact ⟨f, by simp, lookup_mem hl⟩
    | none =>
      rw [hl] at h
      obtain ⟨f', hf', hm⟩ := lookupFrames_mem h
      exact ⟨f', by simp [hf'], hm⟩

theorem lookupFrames_append_base (fs : Frames) (q : Nat) :
    lookupFrames (fs ++ [basePrefixes]) q =
      (match lookupFrames fs q with
       | some n => some n
       | none => List.lookup q basePrefixes) := by
  induction fs with
  | nil => simp only [List.nil_append, lookupFrames]; cases List.lookup q basePrefixes <;> rfl
  | cons f fs ih =>
    simp only [List.cons_append, lookupFrames]
    cases List.lookup q f with
    | some n => rfl
    | none => exact ih

/-! ### `nodeOK` everywhere -/

/-- What the parser's own tests (`reservedDecl`, recorded in `ValAcc`) and the guard (`declAllowed`:
    not the prefix `xml`) together give of a declaration: it is none of the reserved ones and no
    prefixed undeclaration. -/
def DeclFull (env : Env) (p ns : Nat) : Prop :=
  p ≠ Env.xmlPrefix ∧ env.prefixStr p ≠ xmlnsName ∧ ns ≠ Env.xmlNamespace ∧
    env.namespaceStr ns ≠ xmlnsNamespaceUri ∧ (p ≠ Env.emptyPrefix → ns ≠ Env.noNamespace)

/-- The frames above the two base frames are such declarations. -/
def StackGuard (env : Env) (st : NsStack) : Prop :=
  ∃ fs : Frames, st = fs ++ base2 ∧ ∀ f ∈ fs, ∀ d ∈ f, DeclFull env d.1 d.2

theorem reservedDecl_false {pfx uri : Str} (h : reservedDecl pfx uri = false) :
    pfx ≠ xmlnsName ∧ (pfx ≠ ['x', 'm', 'l'] → uri ≠ xmlNamespaceUri) ∧ uri ≠ xmlnsNamespaceUri ∧
      (pfx ≠ [] → pfx ≠ ['x', 'm', 'l'] → uri ≠ []) := by
  simp only [reservedDecl, Bool.or_eq_false_iff, Bool.and_eq_false_iff, beq_eq_false_iff_ne, ne_eq,
    bne_eq_false_iff_eq, Bool.not_eq_false', List.isEmpty_iff, List.isEmpty_eq_false_iff] at h
  obtain ⟨⟨⟨h1, h2⟩, h3⟩, h4⟩ := h
  refine ⟨h1, fun hp => ?_, h3, fun hp hx => ?_⟩
  · rcases h2 with h2 | h2
    · exact absurd h2 hp
    · exact h2
  · rcases h4 with (h4 | h4) | h4
    · exact absurd h4 hp
    · exact absurd h4 hx
    · exact h4

theorem declFull_of_acc {env : Env} (hf : EnvFacts env) {st : NsStack} {p ns : Nat}
    (ha : ValAcc env st (.namespace p ns)) (hg : declAllowed env p ns = true) : DeclFull env p ns := by
  obtain ⟨a1, a2, _, _, a5⟩ := ha
  obtain ⟨r1, r2, r3, r4⟩ := reservedDecl_false a5
  have g1 : p ≠ Env.xmlPrefix := by simpa [declAllowed] using hg
  have hpx : env.prefixStr p ≠ ['x', 'm', 'l'] := fun hh =>
    g1 (hf.prefixStr_inj a1 hf.xmlPrefix_lt (by rw [hh, hf.p1]))
  refine ⟨g1, r1, fun hn => ?_, r3, fun hp hn => ?_⟩
  · exact r2 hpx (by rw [hn, hf.ns1]; rfl)
  · have hpe : env.prefixStr p ≠ [] := fun hh =>
      hp (hf.prefixStr_inj a1 hf.emptyPrefix_lt (by rw [hh, hf.p0]))
    exact r4 hpe hpx (by rw [hn, hf.ns0])

/-- A non-empty prefix in scope is bound to a namespace other than "none". -/
theorem StackGuard.nonempty_bound {env : Env} {st : NsStack} (hg : StackGuard env st) {q ns : Nat}
    (hq : q ≠ Env.emptyPrefix) (h : lookupPrefix st q = some ns) : ns ≠ Env.noNamespace := by
  obtain ⟨fs, rfl, hfs⟩ := hg
  induction fs with
  | nil =>
    rcases lookupPrefix_base2 h with ⟨h1, _⟩ | ⟨_, h2⟩
    · exact absurd h1 hq
    · rw [h2]; decide
  | cons f fs ih =>
    rw [List.cons_append, lookupPrefix_cons] at h
    cases hl : findInDecls q f with
    | some n =>
      rw [hl] at h
      simp only [Option.some.injEq] at h
      subst h
      exact (hfs f (by simp) _ (findInDecls_some hl)).2.2.2.2 hq
    | none =>
      rw [hl] at h
      exact ih (fun f' hf' => hfs f' (by simp [hf'])) h

theorem kidDecls_mem {ks : List Tree} {d : Nat × Nat} (h : d ∈ kidDecls ks) :
    ∃ k ∈ ks, k.value = .namespace d.1 d.2 := by
  simp only [kidDecls, List.mem_filterMap] at h
  obtain ⟨k, hk, hv⟩ := h
  refine ⟨k, hk, ?_⟩
  cases hkv : k.value <;> simp [hkv, nsPair] at hv
  rw [← hv]

theorem allNodes_root {p : Value → List Tree → Bool} {k : Tree} (h : k.allNodes p = true) :
    p k.value k.kids = true := by
  cases k with
  | node v ks => rw [allNodes_node, Bool.and_eq_true] at h; exact h.1

theorem treeAcc_root {env : Env} {st : NsStack} {k : Tree} (h : TreeAcc env st k) :
    ValAcc env (ctx k.value k.kids st) k.value := by
  cases k with
  | node v ks => rw [treeAcc_node] at h; exact h.1

theorem StackGuard.push {env : Env} (hfacts : EnvFacts env) {st : NsStack} (hg : StackGuard env st)
    {v : Value} {ks : List Tree} {st' : NsStack} (hacc : ∀ k ∈ ks, TreeAcc env st' k)
    (hk : ∀ k ∈ ks, k.allNodes (noReservedDecl env) = true) : StackGuard env (ctx v ks st) := by
  unfold ctx
  split
  · obtain ⟨fs, rfl, hfs⟩ := hg
    refine ⟨kidDecls ks :: fs, rfl, fun f hf d hd => ?_⟩
    rcases List.mem_cons.mp hf with rfl | hf
    · obtain ⟨k, hkm, hv⟩ := kidDecls_mem hd
      have h1 := allNodes_root (hk k hkm)
      have h2 := treeAcc_root (hacc k hkm)
      rw [hv] at h1 h2
      exact declFull_of_acc hfacts h2 h1
    · exact hfs f hf d hd
  · exact hg

/-! ### Every name can be written -/

/-- The serialiser's flattened scope `top` against the builder's stack `st`. -/
def SerRel (env : Env) (top : List (Nat × Nat)) (st : NsStack) : Prop :=
  ∃ fs : Frames, st = fs ++ base2 ∧ Flat top (fs ++ [basePrefixes]) ∧ ∀ f ∈ fs, DeclsOK env f

theorem SerRel.push {env : Env} {top : List (Nat × Nat)} {st : NsStack} (h : SerRel env top st)
    {decls : List (Nat × Nat)} (hd : DeclsOK env decls) : SerRel env (Repair.pushTop top decls) (decls :: st) := by
  obtain ⟨fs, rfl, hflat, hfs⟩ := h
  refine ⟨decls :: fs, rfl, ?_, fun f hf => ?_⟩
  · unfold Repair.pushTop
    cases hdec : decls with
    | nil =>
      simp only [List.isEmpty_nil, if_true, List.cons_append]
      exact ⟨hflat.1, fun p n => by rw [lookupFrames_nil_cons]; exact hflat.2 p n⟩
    | cons d ds =>
      simp only [List.isEmpty_cons, Bool.false_eq_true, if_false, List.cons_append]
      rw [← hdec]
      exact flat_push hflat hd.1
  · rcases List.mem_cons.mp hf with rfl | hf
    · exact hd
    · exact hfs f hf

/-- A binding found by the builder in the scope is in the serialiser's top frame, unless it is one
    of the two base bindings. -/
theorem SerRel.found {env : Env} {top : List (Nat × Nat)} {st : NsStack} (h : SerRel env top st) {q ns : Nat}
    (hl : lookupPrefix st q = some ns) :
    (q, ns) ∈ top ∨ (q = Env.emptyPrefix ∧ ns = Env.noNamespace ∧ ∀ n, (Env.emptyPrefix, n) ∉ top) ∨
      (q = Env.xmlPrefix ∧ ns = Env.xmlNamespace) := by
  obtain ⟨fs, rfl, hflat, hfs⟩ := h
  rcases lookupPrefix_frames fs (fun f hf => (hfs f hf).1) hl with h1 | ⟨h1, h2⟩
  · refine .inl ((hflat.2 q ns).mpr ?_)
    rw [lookupFrames_append_base, h1]
  · rcases lookupPrefix_base2 h2 with ⟨rfl, rfl⟩ | ⟨rfl, rfl⟩
    · refine .inr (.inl ⟨rfl, rfl, fun n hm => ?_⟩)
      have := (hflat.2 _ _).mp hm
      rw [lookupFrames_append_base, h1] at this
      simp [basePrefixes, Env.emptyPrefix, Env.xmlPrefix] at this
    · exact .inr (.inr ⟨rfl, rfl⟩)

/-- In a guarded scope, the empty namespace is bound by the empty prefix only. -/
theorem SerRel.none_by_empty {env : Env} {top : List (Nat × Nat)} {st : NsStack} (h : SerRel env top st) {q : Nat}
    (hm : (q, Env.noNamespace) ∈ top) : q = Env.emptyPrefix := by
  obtain ⟨fs, rfl, hflat, hfs⟩ := h
  have hl := (hflat.2 _ _).mp hm
  rw [lookupFrames_append_base] at hl
  cases h1 : lookupFrames fs q with
  | some n =>
    rw [h1] at hl
    simp only [Option.some.injEq] at hl
    subst hl
    obtain ⟨f, hf, hmem⟩ := lookupFrames_mem h1
    by_cases hq : q = Env.emptyPrefix
    · exact hq
    · exact absurd rfl ((valueOK_namespace_facts ((hfs f hf).2 _ hmem)).2.2.1 hq).2.2
  | none =>
    rw [h1] at hl
    simp [basePrefixes, Env.noNamespace, Env.xmlNamespace] at hl

theorem elemOk_of {env : Env} {top : List (Nat × Nat)} {st : NsStack} (h : SerRel env top st) {ns : Nat}
    (hq : ∃ q, lookupPrefix st q = some ns) :
    (!(ns == Env.noNamespace && hasDefault top) && elemOk ns top) = true := by
  obtain ⟨q, hl⟩ := hq
  simp only [Bool.and_eq_true, Bool.not_eq_true', Bool.and_eq_false_iff, beq_eq_false_iff_ne]
  constructor
  · by_cases hns : ns = Env.noNamespace
    · subst hns
      refine .inr ?_
      cases hd : hasDefault top with
      | false => rfl
      | true =>
        exfalso
        simp only [hasDefault, List.any_eq_true, Bool.and_eq_true, beq_iff_eq, bne_iff_ne] at hd
        obtain ⟨⟨p, n⟩, hm, hp, hn⟩ := hd
        simp only at hp hn
        subst hp
        rcases h.found hl with h1 | ⟨_, _, h3⟩ | ⟨_, h2⟩
        · have hq0 := h.none_by_empty h1
          subst hq0
          obtain ⟨fs, _, hflat, _⟩ := h
          have e1 := (hflat.2 _ _).mp h1
          have e2 := (hflat.2 _ _).mp hm
          rw [e1] at e2
          exact hn (Option.some.inj e2).symm
        · exact h3 n hm
        · cases h2
    · exact .inl hns
  · simp only [elemOk, Bool.or_eq_true, beq_iff_eq]
    by_cases h0 : ns = Env.noNamespace
    · exact .inl (.inl h0)
    · by_cases h1 : ns = Env.xmlNamespace
      · exact .inl (.inr h1)
      · refine .inr ?_
        rcases h.found hl with hm | ⟨_, h2, _⟩ | ⟨_, h2⟩
        · cases he : elementPrefixByNamespace top ns with
          | some p => rfl
          | none => exact absurd hm (elementPrefixByNamespace_none he q)
        · exact absurd h2 h0
        · exact absurd h2 h1

theorem attrOk_of {env : Env} {top : List (Nat × Nat)} {st : NsStack} (h : SerRel env top st) {ns : Nat}
    (hq : ns = Env.noNamespace ∨ ∃ q, q ≠ Env.emptyPrefix ∧ lookupPrefix st q = some ns) : attrOk ns top = true := by
  simp only [attrOk, Bool.or_eq_true, beq_iff_eq]
  rcases hq with h0 | ⟨q, hq, hl⟩
  · exact .inl (.inl h0)
  · by_cases h1 : ns = Env.xmlNamespace
    · exact .inl (.inr h1)
    · refine .inr ?_
      rcases h.found hl with hm | ⟨h2, _, _⟩ | ⟨_, h2⟩
      · cases he : attributePrefixByNamespace top ns with
        | some p => rfl
        | none => exact absurd hm (attributePrefixByNamespace_none he q hq)
      · exact absurd h2 hq
      · exact absurd h2 h1

end XotModel.Accepted

/-! ### `nodeOK` everywhere, and every name can be written: on the widened domain (a PI target may contain a colon) -/

namespace XotModel.PiColon.Accepted

open XotModel.Accepted XotModel XotModel.Repair BuilderCases

theorem valueOK_of_acc {env : Env} (hf : EnvFacts env) {st : NsStack} (hg : StackGuard env st) {v : Value}
    {ks : List Tree} (ha : ValAcc env st v) (h1 : noReservedDecl env v ks = true)
    : valueOK env v = true := by
  cases v with
  | document => rfl
  | element name => exact ha.2.1
  | text s =>
    simp only [valueOK, Bool.and_eq_true, Bool.not_eq_true', List.isEmpty_eq_false_iff]
    exact ha
  | comment s => exact ha
  | pi target data =>
    -- the target: `nameOK` from the tokenizer (`ValAcc`)
    obtain ⟨_, a2, a3, a4, a5⟩ := ha
    simp only [valueOK, Bool.and_eq_true, beq_iff_eq, bne_iff_ne, ne_eq]
    refine ⟨⟨⟨a2, a3⟩, by simpa [isReservedPiTarget] using a5⟩, ?_⟩
    cases data with
    | none => rfl
    | some d => simpa [dataAcc] using a4
  | «attribute» name val =>
    obtain ⟨_, a2, a3, a4, a5⟩ := ha
    simp only [valueOK, Bool.and_eq_true, Bool.not_eq_true', Bool.and_eq_false_iff, beq_eq_false_iff_ne,
      Bool.or_eq_true, beq_iff_eq]
    refine ⟨⟨⟨a2, a3⟩, ?_⟩, ?_⟩
    · rcases a5 with ⟨_, b2⟩ | ⟨q, hq, hl⟩
      · exact .inr b2
      · exact .inl (hg.nonempty_bound hq hl)
    · rw [isXmlIdName_eq hf]
      by_cases hid : name = Env.xmlIdName
      · exact .inr (a4 hid)
      · exact .inl (by simpa using hid)
  | «namespace» p ns =>
    obtain ⟨g1, g2, g3, g5, g4⟩ := declFull_of_acc hf ha (by simpa [noReservedDecl] using h1)
    obtain ⟨a1, a2, a3, a4, _⟩ := ha
    have hpne : p ≠ Env.emptyPrefix → env.prefixStr p ≠ [] := fun hp hh =>
      hp (hf.prefixStr_inj a1 hf.emptyPrefix_lt (by rw [hh, hf.p0]))
    have hnne : ns ≠ Env.noNamespace → env.namespaceStr ns ≠ [] := fun hn hh =>
      hn (hf.namespaceStr_inj a2 hf.noNamespace_lt (by rw [hh, hf.ns0]))
    simp only [valueOK, Bool.and_eq_true, bne_iff_ne, ne_eq, Bool.or_eq_true, beq_iff_eq, ncNameNE,
      Bool.not_eq_true', List.isEmpty_eq_false_iff]
    refine ⟨⟨⟨⟨⟨g1, g3⟩, g5⟩, ?_⟩, ?_⟩, a4⟩
    · by_cases hp : p = Env.emptyPrefix
      · exact .inl hp
      · exact .inr ⟨⟨⟨a3, hpne hp⟩, g2⟩, g4 hp⟩
    · by_cases hn : ns = Env.noNamespace
      · exact .inl hn
      · exact .inr (hnne hn)

mutual
theorem nodeOK_of_acc {env : Env} (hf : EnvFacts env) : ∀ (t : Tree) (st : NsStack), StackGuard env st →
    TreeAcc env st t → t.Forall SoundAt → t.allNodes (noReservedDecl env) = true →
    t.allNodes (nodeOK env) = true
  | .node v ks, st, hg, ha, hs, h1 => by
    rw [treeAcc_node] at ha
    rw [Tree.forall_node] at hs
    rw [allNodes_node, Bool.and_eq_true, List.all_eq_true] at h1
    rw [allNodes_node, Bool.and_eq_true]
    have hg' := hg.push hf (v := v) ha.2 h1.2
    obtain ⟨s1, s2, s3, s4⟩ := hs.1
    exact ⟨(nodeOK_iff env v ks).mpr ⟨s1, s2, s4, s3, valueOK_of_acc hf hg' ha.1 h1.1⟩,
      nodesOK_of_acc hf ks _ hg' ha.2 hs.2 h1.2⟩
theorem nodesOK_of_acc {env : Env} (hf : EnvFacts env) : ∀ (ks : List Tree) (st : NsStack), StackGuard env st →
    (∀ k ∈ ks, TreeAcc env st k) → (∀ k ∈ ks, k.Forall SoundAt) →
    (∀ k ∈ ks, k.allNodes (noReservedDecl env) = true) → ks.all (Tree.allNodes (nodeOK env)) = true
  | [], _, _, _, _, _ => rfl
  | k :: ks, st, hg, ha, hs, h1 => by
    rw [List.all_cons, Bool.and_eq_true]
    exact ⟨nodeOK_of_acc hf k st hg (ha k List.mem_cons_self) (hs k List.mem_cons_self) (h1 k List.mem_cons_self),
      nodesOK_of_acc hf ks st hg (fun x hx => ha x (List.mem_cons_of_mem _ hx))
        (fun x hx => hs x (List.mem_cons_of_mem _ hx)) (fun x hx => h1 x (List.mem_cons_of_mem _ hx))⟩
end

mutual
theorem okRec_of_acc {env : Env} : ∀ (t : Tree) (top : List (Nat × Nat)) (st : NsStack), SerRel env top st →
    TreeAcc env st t → t.allNodes (nodeOK env) = true → okRec env.nsOfName top t = true
  | .node v ks, top, st, hrel, ha, hn => by
    rw [treeAcc_node] at ha
    obtain ⟨hord, -, -, -, -⟩ := nodeOK_root hn
    have hks : ∀ k ∈ ks, k.allNodes (nodeOK env) = true := fun k hk => allNodes_kid hn hk
    by_cases he : v.isElement = true
    · obtain ⟨name, rfl⟩ := Repair.eq_element_of_isElement he
      have hdecls := declsOK_of_nodeOK hn
      have hkd : (Tree.node (.element name) ks).nsDecls = kidDecls ks := nsDecls_eq_kidDecls _ ks hord
      simp only [ctx, Value.isElement, if_true] at ha
      have hrel' : SerRel env (Repair.pushTop top (Tree.node (.element name) ks).nsDecls) (kidDecls ks :: st) := by
        have := hrel.push hdecls
        rw [hkd] at this ⊢
        exact this
      simp only [okRec, elementOkAt, Bool.and_eq_true]
      refine ⟨⟨?_, ?_⟩, okKids_of_acc ks _ _ hrel' ha.2 hks⟩
      · have := elemOk_of hrel' ha.1.2.2
        simpa [Bool.and_eq_true] using this
      · rw [List.all_eq_true]
        intro a hmem
        obtain ⟨av, hav, rfl⟩ := List.mem_map.mp hmem
        obtain ⟨k, hk, hv⟩ := mem_attrs hav
        have hka := ha.2 k hk
        cases k with
        | node kv kks =>
          simp only [Tree.value] at hv
          subst hv
          rw [treeAcc_node] at hka
          simp only [ctx, Value.isElement, Bool.false_eq_true, if_false] at hka
          refine attrOk_of hrel' ?_
          rcases hka.1.2.2.2.2 with ⟨h0, _⟩ | hq
          · exact .inl h0
          · exact .inr hq
    · have he' : v.isElement = false := by simpa using he
      simp only [ctx, he', Bool.false_eq_true, if_false] at ha
      rw [okRec_other _ _ _ _ he']
      exact okKids_of_acc ks top st hrel ha.2 hks
theorem okKids_of_acc {env : Env} : ∀ (ks : List Tree) (top : List (Nat × Nat)) (st : NsStack), SerRel env top st →
    (∀ k ∈ ks, TreeAcc env st k) → (∀ k ∈ ks, k.allNodes (nodeOK env) = true) → okKids env.nsOfName top ks = true
  | [], _, _, _, _, _ => rfl
  | k :: ks, top, st, hrel, ha, hn => by
    rw [okKids, Bool.and_eq_true]
    exact ⟨okRec_of_acc k top st hrel (ha k List.mem_cons_self) (hn k List.mem_cons_self),
      okKids_of_acc ks top st hrel (fun x hx => ha x (List.mem_cons_of_mem _ hx))
        (fun x hx => hn x (List.mem_cons_of_mem _ hx))⟩
end

end XotModel.PiColon.Accepted

namespace XotModel.Accepted

open XotModel XotModel.Repair BuilderCases

/-- With the guard `plainPiTarget` (the target is an NCName): the narrow `valueOK`. -/
theorem valueOK_of_acc {env : Env} (hf : EnvFacts env) {st : NsStack} (hg : StackGuard env st) {v : Value}
    {ks : List Tree} (ha : ValAcc env st v) (h1 : noReservedDecl env v ks = true)
    (h2 : plainPiTarget env v ks = true) : valueOK env v = true :=
  PiColon.valueOK_of_plain env v ks (PiColon.Accepted.valueOK_of_acc hf hg ha h1) h2

end XotModel.Accepted

/-! ## On strings (reference tokenizer + builder) -/

namespace XotModel.Accepted

open XotModel XotModel.Repair

theorem stackGuard_base (env : Env) : StackGuard env base2 := ⟨[], rfl, fun f hf => by cases hf⟩

theorem serRel_base (env : Env) : SerRel env basePrefixes base2 :=
  ⟨[], rfl, flat_single (by simp [UniquePrefixes, basePrefixes]), fun f hf => by cases hf⟩

theorem accepted_facts {m : Mode} {env : Env} {s : Str} {p : Parsed} (henv : envOK env = true)
    (h : parseString m env s = .ok p) :
    EnvFacts p.env ∧ EnvReach env p.env ∧ TreeAcc p.env base2 p.tree ∧ (xmlIdValues p.env p.tree).Nodup ∧
      p.tree.Forall SoundAt ∧ p.tree.value = .document := by
  have hf := envFacts_of_envOK henv
  have hts := lexMode_accLex m s
  unfold parseString at h
  obtain ⟨h1, h2, h3⟩ := build_acc hf hts h
  obtain ⟨h4, h5⟩ := build_sound h
  exact ⟨h1, h2, h3, build_ids hf hts h, h4, h5⟩

end XotModel.Accepted

namespace XotModel.PiColon.Accepted

open XotModel.Accepted XotModel XotModel.Repair

theorem accepted_nodeOK {m : Mode} {env : Env} {s : Str} {p : Parsed} (henv : envOK env = true)
    (h : parseString m env s = .ok p) (hg : NoReservedDecls p.env p.tree = true) : p.tree.allNodes (nodeOK p.env) = true := by
  obtain ⟨h1, _, h3, _, h5, _⟩ := accepted_facts henv h
  exact nodeOK_of_acc h1 p.tree base2 (stackGuard_base _) h3 h5 hg

/-- `parse_fragment` (and `parse`): the accepted tree is in the C01 domain for fragments. -/
theorem accepted_representable_fragment {m : Mode} {env : Env} {s : Str} {p : Parsed} (henv : envOK env = true)
    (h : parseString m env s = .ok p) (hg : NoReservedDecls p.env p.tree = true) : RepresentableFragment p.env p.tree = true := by
  obtain ⟨h1, _, _, h4, _, h6⟩ := accepted_facts henv h
  rw [representableFragment_iff]
  exact ⟨envOK_of_facts h1, by rw [h6]; rfl, accepted_nodeOK henv h hg, h4⟩

/-- `parse`: the accepted tree is in the C01 domain for documents. -/
theorem accepted_representable {env : Env} {s : Str} {p : Parsed} (henv : envOK env = true)
    (h : parseString .document env s = .ok p) (hg : NoReservedDecls p.env p.tree = true) : Representable p.env p.tree = true := by
  have hfrag := accepted_representable_fragment henv h hg
  have hw : WellFormedTop p.tree := by unfold parseString at h; exact build_document_wellFormed h
  simp only [Representable, hfrag, Bool.true_and, singleRoot, Bool.and_eq_true, beq_iff_eq, List.all_eq_true,
    Bool.not_eq_true']
  exact ⟨hw.1, hw.2⟩

/-- Every name the parser resolved can be written by the serialiser. -/
theorem accepted_writable {m : Mode} {env : Env} {s : Str} {p : Parsed} (henv : envOK env = true)
    (h : parseString m env s = .ok p) (hg : NoReservedDecls p.env p.tree = true) : namesWritable p.env p.tree [] = some true := by
  obtain ⟨_, _, h3, _, _, h6⟩ := accepted_facts henv h
  have hn := accepted_nodeOK henv h hg
  cases ht : p.tree with
  | node v ks =>
    rw [ht] at h3 hn h6
    simp only [Tree.value] at h6
    subst h6
    obtain ⟨hord, hkinds, -, -, -⟩ := nodeOK_root hn
    have hin := inScope_document ks hord (hkinds.2.1 rfl)
    have hok := okRec_of_acc _ basePrefixes base2 (serRel_base p.env) h3 hn
    simp only [namesWritable, Tree.ancestorsOrSelf, Tree.at?, Repair.namesWritableChain_eq, hin, hok]

end XotModel.PiColon.Accepted

namespace XotModel.Accepted

/-! With the guard `PlainPiTargets` (every PI target an NCName) the accepted tree is in the narrow domain. -/

/-- `parse_fragment` (and `parse`): the accepted tree is in the C01 domain for fragments. -/
theorem accepted_representable_fragment {m : Mode} {env : Env} {s : Str} {p : Parsed} (henv : envOK env = true)
    (h : parseString m env s = .ok p) (hg : NoReservedDecls p.env p.tree = true)
    (hpi : PlainPiTargets p.env p.tree = true) : RepresentableFragment p.env p.tree = true :=
  representableFragment_of_plain p.env p.tree (PiColon.Accepted.accepted_representable_fragment henv h hg) hpi

/-- `parse`: the accepted tree is in the C01 domain for documents. -/
theorem accepted_representable {env : Env} {s : Str} {p : Parsed} (henv : envOK env = true)
    (h : parseString .document env s = .ok p) (hg : NoReservedDecls p.env p.tree = true)
    (hpi : PlainPiTargets p.env p.tree = true) : Representable p.env p.tree = true := by
  have hw := PiColon.Accepted.accepted_representable henv h hg
  simp only [PiColon.Representable, Bool.and_eq_true] at hw
  simp only [Representable, accepted_representable_fragment henv h hg hpi, hw.2, Bool.and_self]

/-- Every name the parser resolved can be written by the serialiser. -/
theorem accepted_writable {m : Mode} {env : Env} {s : Str} {p : Parsed} (henv : envOK env = true)
    (h : parseString m env s = .ok p) (hg : NoReservedDecls p.env p.tree = true)
    (_ : PlainPiTargets p.env p.tree = true) : namesWritable p.env p.tree [] = some true :=
  PiColon.Accepted.accepted_writable henv h hg

end XotModel.Accepted
