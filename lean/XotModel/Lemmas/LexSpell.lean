/-
  What the spans of a token spell in the source (`Token.Spelled`: names as one slice, attribute
  values inside their quotes, CDATA between its delimiters, text without `<`) and how
  character-data tokens follow each other (`CharAdj`), for every token of every run of the
  reference tokenizer.
-/
import XotModel.Lemmas.LexSliceOrder
import XotModel.Model.TokenRender
import XotModel.Lemmas.SharedDefs

/-! ### What the spans of one token spell

  Beyond "each span is a slice" (Lemmas/LexSlice.lean):

    * `NameSlice src p l`  : prefix and local name of a start tag / attribute / end tag, taken together
                             (`Span::from_prefix_name`), slice to the qualified name as written
                             (`tokQName`: `prefix:local`, or `local`);
    * `Token.Spelled src`  : the per-token facts (names; the whole-token span of `>` / `/>` / `</q >`;
                             a CDATA token's whole span is `<![CDATA[` + content + `]]>` with the
                             content starting 9 bytes in; a text token is not empty and has no `<`);
    * the stream algebra they are proved with: `(sliceBack a b).text ++ b.rest = a.rest` whenever
      `b` lies further along the same text.
-/

namespace XotModel

/-- The qualified name of a tag or attribute as ONE span: from the start of the prefix (of the
    local name when the prefix is empty) with the text `prefix:local` (`local`). -/
def qnameSpan (p l : StrSpan) : StrSpan := ⟨tokQName p.text l.text, (Span.fromPrefixName p l).start⟩

/-- The name span xot records (`Span::from_prefix_name(prefix, local)`) is the slice of the source
    that reads `prefix:local` resp. `local`. -/
structure NameSlice (src : Str) (p l : StrSpan) : Prop where
  slice : (qnameSpan p l).SliceOf src
  span : (qnameSpan p l).span = Span.fromPrefixName p l

/-- The `span` field of a token (the token itself for text). -/
def Token.wholeSpan : Token → StrSpan
  | .declaration _ _ _ sp => sp
  | .pi _ _ sp => sp
  | .comment _ sp => sp
  | .dtdStart sp => sp
  | .emptyDtd sp => sp
  | .entityDecl sp => sp
  | .dtdEnd sp => sp
  | .elementStart _ _ sp => sp
  | .attribute _ _ _ sp => sp
  | .elementEnd _ sp => sp
  | .text t => t
  | .cdata _ sp => sp

def Token.isTextTok : Token → Bool
  | .text _ => true
  | _ => false

def Token.isDecl : Token → Bool
  | .declaration _ _ _ _ => true
  | _ => false

/-- `]]>` does not begin at any position inside the CDATA content `t` (followed by its `]]>`). -/
def NoCloseInside (t : Str) : Prop :=
  ∀ j, j < t.length → Lex.litCdataClose.isPrefixOf ((t ++ Lex.litCdataClose).drop j) = false

/-- What the spans of a token spell. -/
def Token.Spelled (src : Str) : Token → Prop
  | .elementStart p l _ => NameSlice src p l
  | .attribute p l v sp => NameSlice src p l ∧
      ∃ q pre, (q = '"' ∨ q = '\'') ∧ sp.text = pre ++ q :: (v.text ++ [q]) ∧ v.start = sp.start + strLen pre + 1
  | .elementEnd (.close p l) sp => NameSlice src p l ∧ ∃ mid, sp.text = '<' :: '/' :: (mid ++ ['>'])
  | .elementEnd .open sp => sp.text = ['>']
  | .elementEnd .empty sp => sp.text = ['/', '>']
  | .cdata t sp => sp.text = Lex.litCdataOpen ++ t.text ++ Lex.litCdataClose ∧ t.start = sp.start + 9 ∧
      NoCloseInside t.text
  | .text t => t.text ≠ [] ∧ '<' ∉ t.text
  | _ => True

/-- Consecutive tokens `a b`: a character-data token `b` is never preceded by the XML declaration,
    starts where a preceding character-data token's whole span ends, and two text tokens never
    follow each other. -/
def CharAdj (a b : Token) : Prop :=
  b.isCharData = true → a.isDecl = false ∧ (a.isCharData = true → a.wholeSpan.stop = b.wholeSpan.start) ∧
    (a.isTextTok = true → b.isTextTok = false)

/-- `R` holds between every two consecutive tokens. -/
def AdjChain (R : Token → Token → Prop) : List Token → Prop
  | [] => True
  | [_] => True
  | a :: b :: rest => R a b ∧ AdjChain R (b :: rest)

namespace Lex.Slice

open XotModel.Lex.Stream

/-! ### Stream algebra -/

/-- KEY: the text between two states, followed by what lies ahead of the later one, is what lay
    ahead of the earlier one. -/
theorem Reach.text_append {a b : Lex.Stream} (h : Reach a b) : (sliceBack a b).text ++ b.rest = a.rest := by
  obtain ⟨k, rfl⟩ := h
  rw [sliceBack_adv_text]
  exact List.take_append_drop k a.rest

theorem Reach.text_split {a m b : Lex.Stream} (h1 : Reach a m) (h2 : Reach m b) :
    (sliceBack a b).text = (sliceBack a m).text ++ (sliceBack m b).text := by
  have e1 := Reach.text_append (h1.trans h2)
  have e2 := Reach.text_append h1
  have e3 := Reach.text_append h2
  rw [← e3, ← List.append_assoc] at e2
  rw [← e2] at e1
  exact List.append_cancel_right e1

theorem Reach.pos_eq {a b : Lex.Stream} (h : Reach a b) : b.pos = a.pos + strLen (sliceBack a b).text := by
  obtain ⟨k, rfl⟩ := h
  rw [sliceBack_adv_text]
  rfl

theorem startsWith_take {s : Lex.Stream} {lit : Str} (h : s.startsWith lit = true) :
    s.rest.take lit.length = lit := by
  simp only [Stream.startsWith] at h
  obtain ⟨r, hr⟩ := List.isPrefixOf_iff_prefix.mp h
  rw [← hr]
  simp

theorem curr_text {s : Lex.Stream} {c : Char} (h : s.curr? = some c) : (sliceBack s (s.adv 1)).text = [c] := by
  rw [sliceBack_adv_text]
  simp only [Stream.curr?] at h
  cases hr : s.rest with
  | nil => rw [hr] at h; cases h
  | cons d r => rw [hr] at h; cases h; rfl

theorem consumeByte_text {c : Char} {s s' : Lex.Stream} (h : s.consumeByte c = some s') :
    (sliceBack s s').text = [c] := by
  have e := consumeByte_eq h
  subst e
  unfold Stream.consumeByte at h
  split at h
  · next hc =>
    exact curr_text (by simpa using hc)
  · cases h

theorem skipString_text {lit : Str} {s s' : Lex.Stream} (h : s.skipString lit = some s') :
    (sliceBack s s').text = lit := by
  have e := skipString_eq h
  subst e
  unfold Stream.skipString at h
  split at h
  · next hc => rw [sliceBack_adv_text]; exact startsWith_take hc
  · cases h

theorem consumeQuote_text {q : Char} {s s' : Lex.Stream} (h : s.consumeQuote = some (q, s')) :
    (sliceBack s s').text = [q] ∧ (q = '"' ∨ q = '\'') := by
  have e := consumeQuote_eq h
  subst e
  unfold Stream.consumeQuote at h
  split at h
  · cases h
  · next c hc =>
    split at h
    · next hq =>
      simp only [Option.some.injEq, Prod.mk.injEq] at h
      obtain ⟨rfl, _⟩ := h
      refine ⟨curr_text hc, ?_⟩
      simp only [Bool.or_eq_true, beq_iff_eq] at hq
      rcases hq with hq | hq
      · exact .inr hq
      · exact .inl hq
    · cases h

/-! ### `consume_qname`: the two spans together spell the qualified name -/

theorem sliceBack_self_adv (s : Lex.Stream) (k : Nat) : sliceBack s (s.adv k) = ⟨s.rest.take k, s.pos⟩ := by
  have := sliceBack_adv_text s k
  cases h : sliceBack s (s.adv k) with
  | mk t st =>
    rw [h] at this
    simp only at this
    subst this
    have : (sliceBack s (s.adv k)).start = s.pos := rfl
    rw [h] at this
    simp only at this
    rw [this]

theorem consumeQName_name {src : Str} {s s' : Lex.Stream} {p l : StrSpan} (hw : SWf src s)
    (h : s.consumeQName = some (p, l, s')) : NameSlice src p l := by
  rcases consumeQName_text h with ⟨b, hr, rfl, rfl, -, -, -⟩ | ⟨a, b, hr, rfl, rfl, -, -, -, -⟩
  · have e : qnameSpan emptySpan ⟨b, s.pos⟩ = ⟨b, s.pos⟩ := by
      simp [qnameSpan, tokQName, emptySpan, Span.fromPrefixName]
    exact ⟨by rw [e]; exact hw.slice_of_rest (u := []) hr,
      by rw [e]; simp [StrSpan.span, Span.fromPrefixName, emptySpan]⟩
  · cases a with
    | nil =>
      -- a name written `:local`: the empty prefix is dropped from the recorded span
      have e : qnameSpan ⟨[], s.pos⟩ ⟨b, s.pos + strLen [] + 1⟩ = ⟨b, s.pos + strLen [] + 1⟩ := by
        simp [qnameSpan, tokQName, Span.fromPrefixName]
      refine ⟨?_, by rw [e]; simp [StrSpan.span, Span.fromPrefixName]⟩
      rw [e]
      have := hw.slice_of_rest (u := [':']) (x := b) (y := s'.rest) (by simp [hr])
      simpa [strLen, show utf8Len ':' = 1 by decide] using this
    | cons c cs =>
      -- the whole name is the text between `s` and `s'`
      have e : qnameSpan ⟨c :: cs, s.pos⟩ ⟨b, s.pos + strLen (c :: cs) + 1⟩ =
          ⟨(c :: cs) ++ ':' :: b, s.pos⟩ := by
        simp [qnameSpan, tokQName, Span.fromPrefixName]
      refine ⟨by rw [e]; exact hw.slice_of_rest (u := []) (y := s'.rest) (by simp [hr]), ?_⟩
      rw [e]
      simp [StrSpan.span, StrSpan.stop, Span.fromPrefixName, strLen_app, strLen,
        show utf8Len ':' = 1 by decide]
      omega

end Lex.Slice

end XotModel

/-! ### Every token of every run is spelled -/

namespace XotModel.Lex.Slice

open XotModel.Lex.Stream

theorem parseElementStart_spelled {src : Str} {s s' : Lex.Stream} {t : Token} (hw : SWf src s)
    (h : parseElementStart s = some (t, s')) : t.Spelled src ∧ t.isCharData = false ∧ t.isDecl = false := by
  obtain ⟨p, l, h1, rfl⟩ := parseElementStart_inv h
  exact ⟨consumeQName_name (hw.adv 1) h1, rfl, rfl⟩

theorem parseAttribute_spelled {src : Str} {s s' : Lex.Stream} {t : Token} (hw : SWf src s)
    (h : parseAttribute s = some (t, s')) : t.Spelled src ∧ t.isCharData = false ∧ t.isDecl = false := by
  have hw1 : SWf src s.skipSpaces := hw.reach (skipSpaces_reach s)
  rcases parseAttribute_inv h with ⟨hc, h2, rfl⟩ | ⟨hc, rfl, rfl⟩ |
    ⟨-, p, l, s2, s3, q, s4, s5, h2, h3, h4, h5, h6, rfl⟩
  · refine ⟨?_, rfl, rfl⟩
    show (sliceBack s.skipSpaces s').text = ['/', '>']
    have r1 : Reach s.skipSpaces (s.skipSpaces.adv 1) := Reach.adv _ 1
    rw [Reach.text_split r1 (consumeByte_reach h2), consumeByte_text h2, curr_text hc]; rfl
  · refine ⟨?_, rfl, rfl⟩
    exact curr_text hc
  · have r13 : Reach s.skipSpaces s3 := (consumeQName_reach h2).trans (consumeEq_reach h3)
    have r34 : Reach s3 s4 := consumeQuote_reach h4
    have r45 : Reach s4 s5 := skipChars_reach h5
    have r56 : Reach s5 s' := consumeByte_reach h6
    refine ⟨⟨consumeQName_name hw1 h2, q, (sliceBack s.skipSpaces s3).text, (consumeQuote_text h4).2, ?_, ?_⟩,
      rfl, rfl⟩
    · -- the whole span: name, `=`, quote, value, quote
      show (sliceBack s.skipSpaces s').text = _
      rw [Reach.text_split r13 ((r34.trans r45).trans r56), Reach.text_split r34 (r45.trans r56),
        Reach.text_split r45 r56, (consumeQuote_text h4).1, consumeByte_text h6]
      rfl
    · -- the value starts one byte (the quote) after the text in front of it
      show s4.pos = s.skipSpaces.pos + strLen (sliceBack s.skipSpaces s3).text + 1
      rw [Reach.pos_eq r34, Reach.pos_eq r13, (consumeQuote_text h4).1]
      have : strLen [q] = 1 := by
        rcases (consumeQuote_text h4).2 with rfl | rfl <;> decide
      rw [this]

/-- The text `parse_close_element` moves over on a stream that begins `</`: the name, white space,
    `>`; the name begins two bytes in. -/
theorem parseCloseElement_text {s s1 s' : Lex.Stream} {p l : StrSpan}
    (hc : s.curr? = some '<') (hn : s.next? = some '/')
    (h1 : (s.adv 2).consumeQName = some (p, l, s1)) (h2 : s1.skipSpaces.consumeByte '>' = some s') :
    (sliceBack s s').text =
        '<' :: '/' :: ((sliceBack (s.adv 2) s1).text ++ (sliceBack s1 s1.skipSpaces).text ++ ['>']) ∧
      (s.adv 2).pos = s.pos + 2 := by
  have r1 : Reach s (s.adv 2) := Reach.adv s 2
  have r2 : Reach (s.adv 2) s1 := consumeQName_reach h1
  have r3 : Reach s1 s1.skipSpaces := skipSpaces_reach s1
  have r4 : Reach s1.skipSpaces s' := consumeByte_reach h2
  have hopen : (sliceBack s (s.adv 2)).text = ['<', '/'] := by
    rw [sliceBack_adv_text]; exact startsWith_take (Stream.startsWith_of_curr_next hc hn)
  refine ⟨?_, by rw [Reach.pos_eq r1, hopen]; rfl⟩
  rw [Reach.text_split r1 (r2.trans (r3.trans r4)), Reach.text_split r2 (r3.trans r4), Reach.text_split r3 r4,
    consumeByte_text h2, hopen]
  simp only [List.cons_append, List.nil_append, List.append_assoc]

/-- `parse_close_element` on a stream that begins `</`. -/
theorem parseCloseElement_spelled {src : Str} {s s' : Lex.Stream} {t : Token} (hw : SWf src s)
    (hc : s.curr? = some '<') (hn : s.next? = some '/')
    (h : parseCloseElement s = some (t, s')) : t.Spelled src ∧ t.isCharData = false ∧ t.isDecl = false := by
  obtain ⟨p, l, s1, h1, h2, rfl⟩ := parseCloseElement_inv h
  exact ⟨⟨consumeQName_name (hw.adv 2) h1, _, (parseCloseElement_text hc hn h1 h2).1⟩, rfl, rfl⟩

theorem isPrefixOf_close_append (a b : Str) (h : 3 ≤ a.length) :
    litCdataClose.isPrefixOf (a ++ b) = litCdataClose.isPrefixOf a := by
  match a, h with
  | x :: y :: z :: a', _ => simp [litCdataClose, List.isPrefixOf]

/-- A token read as an opening literal, `skip_chars`, a closing literal (comment, CDATA): what its
    whole span spells, and where the part between the literals begins. -/
theorem bracketed_text {s s2 s' : Lex.Stream} {op cl : Str} {f : Str → Char → Bool}
    (ho : s.startsWith op = true) (h2 : (s.adv op.length).skipChars f = some s2)
    (h3 : s2.skipString cl = some s') :
    (sliceBack s s').text = op ++ (sliceBack (s.adv op.length) s2).text ++ cl ∧
      (s.adv op.length).pos = s.pos + strLen op := by
  have r1 : Reach s (s.adv op.length) := Reach.adv s _
  have r2 : Reach (s.adv op.length) s2 := skipChars_reach h2
  have r3 : Reach s2 s' := skipString_reach h3
  have hopen : (sliceBack s (s.adv op.length)).text = op := by
    rw [sliceBack_adv_text]; exact startsWith_take ho
  exact ⟨by rw [Reach.text_split r1 (r2.trans r3), Reach.text_split r2 r3, skipString_text h3, hopen,
    List.append_assoc], by rw [Reach.pos_eq r1, hopen]⟩

/-- `parse_cdata` on a stream that begins `<![CDATA[`. -/
theorem parseCdata_spelled {src : Str} {s s' : Lex.Stream} {t : Token}
    (ho : s.startsWith litCdataOpen = true)
    (h : parseCdata s = some (t, s')) : t.Spelled src := by
  obtain ⟨s2, h2, h3, rfl⟩ := parseCdata_inv h
  obtain ⟨htext, hpos⟩ := bracketed_text (op := litCdataOpen) ho h2 h3
  refine ⟨htext, hpos, ?_⟩
  · -- no `]]>` begins inside the content: the scan passed every position of it, and `]]>` follows
    simp only [skipChars, Option.map_eq_some_iff] at h2
    obtain ⟨k, hk, rfl⟩ := h2
    obtain ⟨a, b, hab, rfl, ha, -⟩ := scanChars_some hk
    have hb : litCdataClose <+: b := by
      unfold Stream.skipString at h3
      split at h3
      · next hc =>
        rw [Stream.startsWith, adv_rest, hab, List.drop_left] at hc
        exact List.isPrefixOf_iff_prefix.mp hc
      · cases h3
    intro j hj
    show litCdataClose.isPrefixOf (((sliceBack (s.adv 9) ((s.adv 9).adv a.length)).text ++ litCdataClose).drop j) = false
    rw [sliceBack_adv_text, hab, List.take_left] at hj ⊢
    obtain ⟨c, v, e⟩ : ∃ c v, a.drop j = c :: v :=
      List.exists_cons_of_ne_nil (by simpa using Nat.not_le.mpr hj)
    have hf := (ha (a.take j) c v (by rw [← e, List.take_append_drop])).2
    rw [List.drop_append_of_le_length (Nat.le_of_lt hj), e]
    cases hp : litCdataClose.isPrefixOf (c :: v ++ litCdataClose) with
    | false => rfl
    | true =>
      -- it would begin `c :: v ++ b` as well, where the scan did not stop
      have hp' : litCdataClose.isPrefixOf (c :: (v ++ b)) = true :=
        List.isPrefixOf_iff_prefix.mpr ((List.isPrefixOf_iff_prefix.mp hp).trans
          ((List.prefix_append_right_inj (c :: v)).mpr hb))
      have hc : c = ']' := by
        obtain ⟨x, hx⟩ := List.isPrefixOf_iff_prefix.mp hp
        simp only [litCdataClose, List.cons_append, List.cons.injEq] at hx
        exact hx.1.symm
      subst hc
      simp [hp'] at hf

/-- `skip_chars(|_, c| c != '<')`: no `<` among the characters skipped; the scan stops at the end of
    the text or in front of a `<`. -/
theorem scanChars_lt (r : Str) (k : Nat) (h : scanChars (fun _ c => c != '<') r = some k) :
    '<' ∉ r.take k ∧ ((r.drop k).isEmpty = true ∨ (r.drop k).head? = some '<') := by
  obtain ⟨a, b, rfl, rfl, ha, hb⟩ := scanChars_some h
  rw [List.take_left, List.drop_left]
  refine ⟨fun hm => ?_, ?_⟩
  · obtain ⟨u, v, e⟩ := List.append_of_mem hm
    simpa using (ha u '<' v e).2
  · rcases hb with rfl | ⟨c, cs, rfl, _, hc⟩
    · exact .inl rfl
    · exact .inr (by simpa using hc)

theorem parseText_spelled {src : Str} {s s' : Lex.Stream} {t : Token}
    (hc : (s.curr? == some '<') = false) (he : s.atEnd = false)
    (h : parseText s = some (t, s')) : t.Spelled src := by
  have ha := parseText_adv1 h hc he
  obtain ⟨h1, rfl⟩ := parseText_inv h
  have r := skipChars_reach h1
  simp only [skipChars, Option.map_eq_some_iff] at h1
  obtain ⟨k, hk, rfl⟩ := h1
  refine ⟨?_, ?_⟩
  · -- not empty: at least one character was consumed
    intro hnil
    have hlt := ha.len_lt he
    have happ := Reach.text_append r
    rw [hnil] at happ
    simp only [List.nil_append] at happ
    rw [happ] at hlt
    omega
  · -- no `<`: the scan stops in front of the first one
    rw [sliceBack_adv_text]
    exact (scanChars_lt _ k hk).1

theorem parseText_after {s s' : Lex.Stream} {t : Token} (h : parseText s = some (t, s')) :
    s'.atEnd = true ∨ s'.curr? = some '<' := by
  have h1 := (parseText_inv h).1
  simp only [skipChars, Option.map_eq_some_iff] at h1
  obtain ⟨k, hk, rfl⟩ := h1
  exact (scanChars_lt _ k hk).2

/-! ### One call of `parse_next_impl` -/

/-- The character-data facts of a token step: what kind of token it is and, when the tokenizer is
    left in `Elements`, where it begins and ends. -/
structure StepFacts (src : Str) (tk : Tokenizer) (t : Token) (tk' : Tokenizer) : Prop where
  spelled : t.Spelled src
  /-- a character-data token comes out of `Elements` and begins at the stream position -/
  charStart : t.isCharData = true → tk.state = .elements ∧ t.wholeSpan.start = tk.stream.pos
  charStop : t.isCharData = true → t.wholeSpan.stop = tk'.stream.pos
  declState : t.isDecl = true → tk'.state = .afterDeclaration
  textBefore : t.isTextTok = true → tk.stream.curr? ≠ some '<'
  textAfter : t.isTextTok = true → tk'.stream.atEnd = true ∨ tk'.stream.curr? = some '<'

theorem Token.isCharData_of_isTextTok {t : Token} (h : t.isTextTok = true) : t.isCharData = true := by
  cases t <;> simp_all [Token.isTextTok, Token.isCharData]

theorem StepFacts.of_other {src : Str} {tk tk' : Tokenizer} {t : Token} (hs : t.Spelled src)
    (h1 : t.isCharData = false) (h2 : t.isDecl = false) : StepFacts src tk t tk' :=
  ⟨hs, fun h => (by rw [h1] at h; cases h), fun h => (by rw [h1] at h; cases h), fun h => (by rw [h2] at h; cases h),
    fun h => (by rw [Token.isCharData_of_isTextTok h] at h1; cases h1),
    fun h => (by rw [Token.isCharData_of_isTextTok h] at h1; cases h1)⟩

theorem parseNextImpl_facts {src : Str} {tk tk' : Tokenizer} {t : Token}
    (hw : SWf src tk.stream) (he : tk.stream.atEnd = false)
    (h : parseNextImpl tk = .token t tk') : StepFacts src tk t tk' := by
  cases parseNextImpl_tokStep' he h with
  | decl _ hp =>
    obtain ⟨v, e, sa, rfl, -, -⟩ := (parseDeclaration_shape hp).1
    exact ⟨trivial, fun hx => (by cases hx), fun hx => (by cases hx), fun _ => rfl, fun hx => (by cases hx),
      fun hx => (by cases hx)⟩
  | doctype _ _ hp _ =>
    rcases (parseDoctype_shape hp).1 with rfl | rfl <;> exact .of_other trivial rfl rfl
  | entity _ hp =>
    obtain ⟨rfl, -⟩ := parseEntityDecl_shape hp
    exact .of_other trivial rfl rfl
  | comment _ hp _ =>
    obtain ⟨_, -, -, rfl⟩ := parseComment_inv hp
    exact .of_other trivial rfl rfl
  | pi _ hp _ =>
    obtain ⟨_, _, _, -, -, -, rfl⟩ := parsePI_inv hp
    exact .of_other trivial rfl rfl
  | dtdEnd _ _ => exact .of_other trivial rfl rfl
  | start _ hp =>
    obtain ⟨a, b, c⟩ := parseElementStart_spelled hw hp
    exact .of_other a b c
  | cdata hst hp ho =>
    have hsp := parseCdata_spelled (src := src) ho hp
    obtain ⟨s2, h2, h3, rfl⟩ := parseCdata_inv hp
    exact ⟨hsp, fun _ => ⟨hst, rfl⟩, fun _ => Reach.sliceBack_stop
        (((Reach.adv _ 9).trans (skipChars_reach h2)).trans (skipString_reach h3)),
      fun hd => (by cases hd), fun hd => (by cases hd), fun hd => (by cases hd)⟩
  | text hst hp hc =>
    have hsp := parseText_spelled (src := src) hc he hp
    have haft := parseText_after hp
    obtain ⟨h1, rfl⟩ := parseText_inv hp
    exact ⟨hsp, fun _ => ⟨hst, rfl⟩, fun _ => Reach.sliceBack_stop (skipChars_reach h1), fun hd => (by cases hd),
      fun _ => (by simpa using hc), fun _ => haft⟩
  | close _ hp hc hn =>
    obtain ⟨a, b, c⟩ := parseCloseElement_spelled hw hc hn hp
    exact .of_other a b c
  | attr _ hp _ =>
    obtain ⟨a, b, c⟩ := parseAttribute_spelled hw hp
    exact .of_other a b c
  | tagOpen _ hp =>
    obtain ⟨a, b, c⟩ := parseAttribute_spelled hw hp
    exact .of_other a b c
  | tagEmpty _ hp =>
    obtain ⟨a, b, c⟩ := parseAttribute_spelled hw hp
    exact .of_other a b c

/-! ### The loop -/

theorem lexLoop_spelled (src : Str) (tk : Tokenizer) (position : Nat) :
    SWf src tk.stream →
    (∀ t ∈ (lexLoop tk position).1, t.Spelled src) ∧
    (∀ t rest, (lexLoop tk position).1 = t :: rest → t.isCharData = true →
      tk.state = .elements ∧ t.wholeSpan.start = tk.stream.pos ∧
        (t.isTextTok = true → tk.stream.curr? ≠ some '<')) ∧
    AdjChain CharAdj (lexLoop tk position).1 := by
  fun_induction lexLoop tk position with
  | case1 tk pos hc =>
    intro _
    exact ⟨fun t ht => (by cases ht), fun t rest h => (by cases h), trivial⟩
  | case2 tk pos hc tk' hs ih =>
    intro hw
    have he := (Tokenizer.running hc).1
    have sk := parseNextImpl_skipStep he (Tokenizer.running hc).2 hs
    obtain ⟨h1, h2, h3⟩ := ih (hw.reach sk.reach)
    refine ⟨h1, ?_, h3⟩
    intro t rest hl hcd
    exact absurd (h2 t rest hl hcd).1 sk.notElem'
  | case3 tk pos hc t tk' hs r ih =>
    intro hw
    have he := (Tokenizer.running hc).1
    have hw' : SWf src tk'.stream := hw.reach (parseNextImpl_token he hs).reach
    have sf := parseNextImpl_facts hw he hs
    obtain ⟨h1, h2, h3⟩ := ih hw'
    refine ⟨?_, ?_, ?_⟩
    · intro t' ht'
      rcases List.mem_cons.mp ht' with rfl | ht'
      · exact sf.spelled
      · exact h1 t' ht'
    · intro t0 rest hl hcd
      simp only [List.cons.injEq] at hl
      obtain ⟨rfl, _⟩ := hl
      exact ⟨(sf.charStart hcd).1, (sf.charStart hcd).2, sf.textBefore⟩
    · cases hr : r.1 with
      | nil => trivial
      | cons t2 rest =>
        rw [hr] at h3
        refine ⟨?_, h3⟩
        intro hcd
        obtain ⟨hst, hstart, htb⟩ := h2 t2 rest hr hcd
        refine ⟨?_, fun hc1 => ?_, fun ht1 => ?_⟩
        · cases hd : t.isDecl with
          | false => rfl
          | true => have := sf.declState hd; rw [hst] at this; cases this
        · rw [sf.charStop hc1, hstart]
        · cases ht2 : t2.isTextTok with
          | false => rfl
          | true =>
            rcases sf.textAfter ht1 with hae | hlt
            · -- nothing follows the end of the text
              have : r.1 = [] := by
                show (lexLoop tk' tk'.stream.pos).1 = []
                rw [lexLoop]; simp [hae]
              rw [this] at hr; cases hr
            · exact absurd hlt (htb ht2)
  | case4 tk pos hc hs =>
    intro _
    exact ⟨fun t ht => (by cases ht), fun t rest h => (by cases h), trivial⟩

end XotModel.Lex.Slice

namespace XotModel

open XotModel.Lex.Slice

theorem lexDocument_spelled (s : Str) :
    (∀ t ∈ (lexDocument s).1, t.Spelled s) ∧ AdjChain CharAdj (lexDocument s).1 :=
  have h := lexLoop_spelled s (Lex.Tokenizer.ofStr s) _ (ofStr_swf s)
  ⟨h.1, h.2.2⟩

theorem lexFragment_spelled (s : Str) :
    (∀ t ∈ (lexFragment s).1, t.Spelled s) ∧ AdjChain CharAdj (lexFragment s).1 :=
  have h := lexLoop_spelled s (Lex.Tokenizer.ofFragment s) _ (SWf.ofStr s)
  ⟨h.1, h.2.2⟩

end XotModel
