/-
  Reach: the structural hypotheses of the C07 theorems (`Axes.wf`: non-normal nodes are
  leaves, no normal child before a non-normal one; `Axes.kidsSorted`: namespaces, attributes, normal
  nodes) follow from `Reach.Structural` (the structural clauses of `StructValid`), hence hold of the
  erasure of every root of a forest with the invariant, at every node.
-/
import XotModel.Lemmas.ReachNode
import XotModel.Lemmas.AxesCats

namespace XotModel.Reach
open XotModel XotModel.Axes

theorem phase_eq_catRank (v : Value) : v.phase = catRank v.category := by
  cases v <;> rfl

/-- `OrderedKids` (pairwise by phase) gives C07's `kidsSorted` (pairwise by category rank). -/
theorem kidsSorted_of_orderedKids {ks : List Tree} (h : OrderedKids ks) : kidsSorted ks := by
  unfold kidsSorted
  rw [List.pairwise_map]
  exact h.imp (fun {a b} hab => by rw [← phase_eq_catRank, ← phase_eq_catRank]; exact hab)

/-- … and C07's `kidsOrdered`. -/
theorem kidsOrdered_of_orderedKids {ks : List Tree} (h : OrderedKids ks) : Axes.kidsOrdered ks = true :=
  kidsOrdered_of_kidsSorted (kidsSorted_of_orderedKids h)

mutual
  /-- The hypothesis `wf` of the C07 theorems. -/
  theorem wf_of_structural : ∀ t : Tree, Structural t → wf t = true
    | .node v ks, h => by
      obtain ⟨ho, hk, _, hkids⟩ := h.node
      simp only [wf, Bool.and_eq_true, Bool.or_eq_true]
      refine ⟨⟨?_, kidsOrdered_of_orderedKids ho⟩, wfList_of_structural ks hkids⟩
      by_cases hn : v.isNormal = true
      · exact Or.inl hn
      · right
        rw [hk.1 (isLeafKind_of_not_normal hn)]; rfl
  theorem wfList_of_structural : ∀ ks : List Tree, (∀ k ∈ ks, Structural k) → wfList ks = true
    | [], _ => by simp [wfList]
    | k :: ks, h => by
      simp only [wfList, Bool.and_eq_true]
      exact ⟨wf_of_structural k (h k (List.mem_cons_self ..)),
        wfList_of_structural ks (fun k' hk' => h k' (List.mem_cons_of_mem _ hk'))⟩
end

/-- `kidsSorted` at EVERY path (at a path that names no node `subAt` is a leaf). -/
theorem kidsSorted_subAt {t : Tree} (h : Structural t) (p : Path) : kidsSorted (subAt t p).kids := by
  unfold subAt
  cases hs : t.at? p with
  | none => simp [Tree.kids, kidsSorted]
  | some s =>
    cases s with
    | node v ks =>
      simp only [Option.getD_some, Tree.kids]
      exact kidsSorted_of_orderedKids (Tree.forall_at? _ t p _ h.ordered hs)

/-- A `StructValid` tree satisfies both hypotheses of the C07 theorems. -/
theorem wf_of_structValid {t : Tree} (h : StructValid t) : wf t = true :=
  wf_of_structural t (Structural.of_structValid h)

/-- **C07's `wf` holds of every root of a forest with the invariant.** -/
theorem wf_root {f : Forest} (hi : f.Inv) {r : HTree} (hr : r ∈ f.roots) : wf r.erase = true :=
  wf_of_structural _ (structural_root hi hr)

/-- **C07's `kidsSorted` holds at every node of every root of a forest with the invariant.** -/
theorem kidsSorted_root {f : Forest} (hi : f.Inv) {r : HTree} (hr : r ∈ f.roots) (p : Path) :
    kidsSorted (subAt r.erase p).kids :=
  kidsSorted_subAt (structural_root hi hr) p

theorem valid_erase_iff (r : HTree) (p : Path) : Valid r.erase p ↔ (r.at? p).isSome = true := by
  unfold Valid
  rw [at?_erase]
  cases r.at? p <;> simp

end XotModel.Reach
