/-
  The specification's composite edits keep the C04 invariant: `specRemove`, `specDetach`, `specUnwrap`, `specWrap`
  and `specReplace`, with the local-validity machinery of `Lemmas/SpecSideMove.lean` (replacing one child by several
  in the middle of a child list: `localOK_replace_mid`, `validXList_replace_mid`).  Also what these functions leave
  alone (`spec*_fields`).
-/
import XotModel.Lemmas.BasicFacts
import XotModel.Lemmas.SpecSideMove
import XotModel.Lemmas.FspecPairFrame
import XotModel.Lemmas.FspecReplFrame

/-! ### Replacing one child by several in the middle of a child list

List-level facts: replacing ONE normal
child of a child list by a list of normal children the parent accepts keeps the local validity
conditions (order namespaces / attributes / normal, unique keys, allowed members).  This is what
`remove` (no child), `replace` and `element_wrap` (one child) and `element_unwrap` (the normal
children of the wrapper) do to a child list before text is merged. -/

namespace XotModel
namespace Prog2
open HTree Spec Prog Fmap

theorem LocalV.insertMany {v : Value} {A B : List Value} : ∀ (X : List Value), LocalV v (A ++ B) →
    (∀ x ∈ X, kidAllowed v x = true ∧ x.category = .normal) → (∀ b ∈ B, b.category = .normal) →
    LocalV v (A ++ X ++ B)
  | [], h, _, _ => by simpa using h
  | x :: X, h, hX, hB => by
    have ih := LocalV.insertMany X h (fun y hy => hX y (List.mem_cons_of_mem _ hy)) hB
    have e : A ++ (x :: X) ++ B = A ++ x :: (X ++ B) := by simp
    rw [e]
    have ih2 : LocalV v (A ++ (X ++ B)) := by rw [← List.append_assoc]; exact ih
    refine ih2.insert (hX x List.mem_cons_self).1 (hX x List.mem_cons_self).2 ?_
    intro b hb
    rcases List.mem_append.1 hb with e | e
    · exact (hX b (List.mem_cons_of_mem _ e)).2
    · exact hB b e

theorem localOK_replace_mid {v : Value} {l r : List HTree} {k : HTree} {X : List HTree}
    (h : localOK false v (l ++ k :: r) = true) (hk : k.value.isNormal = true)
    (hX : ∀ x ∈ X, kidAllowed v x.value = true ∧ x.value.isNormal = true) :
    localOK false v (l ++ X ++ r) = true := by
  have ho := kidsOrdered_of_localOK h
  have hr : ∀ b ∈ r, b.value.isNormal = true := normal_after ho rfl hk
  rw [localOK_false_iff] at h ⊢
  have h0 : LocalV v (l.map shape ++ r.map shape) := by
    refine h.sublist ?_
    rw [List.map_append, List.map_cons]
    exact (List.Sublist.refl _).append (List.sublist_cons_self _ _)
  rw [List.map_append, List.map_append]
  apply LocalV.insertMany _ h0
  · intro x hx
    obtain ⟨y, hy, e⟩ := List.mem_map.1 hx
    rw [← e, shape, nv_kidAllowed, nv_category]
    exact ⟨(hX y hy).1, Spec.isNormal_iff.1 (hX y hy).2⟩
  · intro b hb
    obtain ⟨y, hy, e⟩ := List.mem_map.1 hb
    rw [← e, shape, nv_category]
    exact Spec.isNormal_iff.1 (hr y hy)

theorem noAdj_replace_nontext {w : HTree} (hw : w.value.isText = false) (l : List HTree) {k : HTree} {r : List HTree}
    (h : noAdjacentText (l ++ k :: r) = true) : noAdjacentText (l ++ w :: r) = true := by
  obtain ⟨hl, hkr, _⟩ := noAdj_append.1 h
  exact PairAll.noAdj_around_nontext hw hl (noAdj_tail hkr)

/-- The strict version for a single replacing node that is not text (`element_wrap`: nothing is
    merged). -/
theorem localOK_replace_one {b : Bool} {v : Value} {l r : List HTree} {k w : HTree}
    (h : localOK b v (l ++ k :: r) = true) (hk : k.value.isNormal = true)
    (hal : kidAllowed v w.value = true) (hn : w.value.isNormal = true) (hw : w.value.isText = false) :
    localOK b v (l ++ w :: r) = true := by
  have h0 : localOK false v (l ++ [w] ++ r) = true :=
    localOK_replace_mid (localOK_weaken h) hk (by
      intro x hx
      rw [List.mem_singleton.1 hx]
      exact ⟨hal, hn⟩)
  have e : l ++ [w] ++ r = l ++ w :: r := by simp
  rw [e] at h0
  cases b with
  | false => exact h0
  | true =>
    apply localOK_strict h0
    have : noAdjacentText (l ++ k :: r) = true := by
      simp only [localOK, Bool.and_eq_true, Bool.not_true, Bool.false_or] at h
      exact h.2
    exact noAdj_replace_nontext hw l this

theorem validXList_replace_mid {sx : Nat → Bool} {l r : List HTree} {k : HTree} {X : List HTree}
    (h : validXList sx (l ++ k :: r) = true) (hX : validXList sx X = true) :
    validXList sx (l ++ X ++ r) = true := by
  rw [validXList_append, validXList_cons, Bool.and_eq_true, Bool.and_eq_true] at h
  rw [validXList_append, validXList_append, Bool.and_eq_true, Bool.and_eq_true]
  exact ⟨⟨h.1, hX⟩, h.2.2⟩

theorem count_replace_kids (z : Nat) (l r : List HTree) (w : HTree) (K : List HTree) (hK : K.Sublist w.kids) :
    (handlesList (l ++ K ++ r)).count z ≤ (handlesList (l ++ w :: r)).count z := by
  have hs : (handlesList K).Sublist (handles w) := by
    cases w with
    | node h v ks =>
      rw [handles_node]
      refine List.Sublist.cons _ ?_
      simp only [HTree.kids] at hK
      clear l r
      induction hK with
      | slnil => exact List.Sublist.refl _
      | cons a _ ih => rw [handlesList_cons]; exact ih.trans (List.sublist_append_right _ _)
      | cons_cons a _ ih => rw [handlesList_cons, handlesList_cons]; exact (List.Sublist.refl _).append ih
  rw [handlesList_append, handlesList_append, handlesList_append, handlesList_cons]
  simp only [List.count_append]
  have := hs.count_le z
  omega

end Prog2
end XotModel

/-! ### `specRemove`, `specDetach`, `specUnwrap`, `specWrap`

The SPECIFICATION preserves the C04 invariant: `specRemove`, `specDetach`, `specUnwrap`, `specWrap`, on the
ordered-tree side, with the local-validity machinery of `Lemmas/SpecSideMove.lean`. -/

namespace XotModel
namespace Prog2
open HTree Spec Prog Fmap

theorem specRemove_fields (keep : Keep) (n : Nat) (f : Forest) :
    (specRemove keep n f).consolidation = f.consolidation ∧ (specRemove keep n f).everOff = f.everOff ∧
    (specRemove keep n f).corrupt = f.corrupt ∧ (specRemove keep n f).next = f.next := by
  unfold specRemove
  cases f.parent? n with
  | none => exact ⟨rfl, rfl, rfl, rfl⟩
  | some p =>
    simp only [Forest.mergeAt]
    split <;> exact ⟨rfl, rfl, rfl, rfl⟩

theorem specRemove_valid {f : Forest} {keep : Keep} {n : Nat} {t : HTree} (inv : f.Inv)
    (hg : f.get? n = some t) : validXList (sx0 f) (specRemove keep n f).roots = true := by
  have nd := inv.nodup
  have hv0 := valid0 inv
  rcases Forest.root_or_ctx hg with hroot | ⟨cx, hctx⟩
  · rw [specRemove_root (Forest.parent?_of_no_ctx (Forest.ctx_none_of_root nd hroot))]
    exact validXList_dropTop n hv0
  · obtain ⟨vo, _, htn, so, hpar⟩ := site_of_kid nd hg hctx
    rw [specRemove_kid hpar]
    obtain ⟨hlo, hmo⟩ := site_members (sx0 := sx0 f) so hv0 (fun _ _ h => h)
    exact merge_stage keep so hv0 (fun _ _ h => h) (strict0 inv _) (localOK_dropTop _ hlo)
      (validXList_dropTop _ hmo)

theorem specRemove_inv {f : Forest} {keep : Keep} {n : Nat} {t : HTree} (inv : f.Inv)
    (hg : f.get? n = some t) : (specRemove keep n f).Inv := by
  obtain ⟨a, b, c, d⟩ := specRemove_fields keep n f
  apply inv_of_valid_count inv a b c d (specRemove_valid inv hg)
  intro z
  have := count_specRemove (keep := keep) inv.nodup hg z
  omega

theorem mergeAt_none (f : Forest) (keep : Keep) : f.mergeAt keep none = f := rfl

theorem specDetach_eq {f : Forest} {keep : Keep} {n : Nat} {t : HTree} (nd : f.allHandles.Nodup)
    (hg : f.get? n = some t) :
    specDetach keep n f = { specRemove keep n f with roots := (specRemove keep n f).roots ++ [t] } := by
  unfold specDetach specRemove
  rw [hg]
  simp only
  cases hp : f.parent? n with
  | none => rfl
  | some p =>
    have hpt : p ∉ handles t := by
      cases hctx : f.ctx? n with
      | none => rw [Forest.parent?_of_no_ctx hctx] at hp; cases hp
      | some cx =>
        obtain ⟨vo, _, _, so, hpar⟩ := site_of_kid nd hg hctx
        rw [hp] at hpar
        have e := Option.some.inj hpar
        obtain ⟨_, hpL⟩ := so.nodupKids
        intro hm
        apply hpL
        rw [← e, handlesList_append, handlesList_cons]
        exact List.mem_append_right _ (List.mem_append_left _ hm)
    simp only [Forest.mergeAt, Forest.editAt]
    by_cases hc : f.consolidation = true
    · simp only [hc, if_true, insertLast, List.map_append, List.map_cons, List.map_nil]
      rw [editAt_of_not_mem t hpt]
    · simp only [hc, Bool.false_eq_true, if_false]
      rfl

theorem specDetach_inv {f : Forest} {keep : Keep} {n : Nat} {t : HTree} (inv : f.Inv)
    (hg : f.get? n = some t) : (specDetach keep n f).Inv := by
  rw [specDetach_eq inv.nodup hg]
  obtain ⟨a, b, c, d⟩ := specRemove_fields keep n f
  apply inv_of_valid_count (g := { specRemove keep n f with roots := (specRemove keep n f).roots ++ [t] }) inv a b c d
  · show validXList (sx0 f) ((specRemove keep n f).roots ++ [t]) = true
    rw [validXList_append, Bool.and_eq_true]
    refine ⟨specRemove_valid inv hg, ?_⟩
    rw [validXList_cons, Bool.and_eq_true]
    exact ⟨validX_findList f.roots t (valid0 inv) hg, rfl⟩
  · intro z
    have := count_specRemove (keep := keep) inv.nodup hg z
    show (handlesList ((specRemove keep n f).roots ++ [t])).count z ≤ _
    rw [handlesList_append, List.count_append, handlesList_cons, handlesList_nil, List.append_nil]
    exact this

theorem specUnwrap_fields (keep : Keep) (n : Nat) (f : Forest) :
    (specUnwrap keep n f).consolidation = f.consolidation ∧ (specUnwrap keep n f).everOff = f.everOff ∧
    (specUnwrap keep n f).corrupt = f.corrupt ∧ (specUnwrap keep n f).next = f.next := by
  unfold specUnwrap
  cases f.parent? n with
  | none => exact ⟨rfl, rfl, rfl, rfl⟩
  | some p =>
    simp only [Forest.mergeAt]
    split <;> exact ⟨rfl, rfl, rfl, rfl⟩

theorem specUnwrap_kid {f : Forest} {keep : Keep} {n p : Nat} (h : f.parent? n = some p) :
    specUnwrap keep n f = f.editAt (some p)
      (mergeOpt f.consolidation keep ∘ replaceTop n (fun w => w.kids.filter (fun k => k.value.isNormal))) := by
  unfold specUnwrap
  rw [h, mergeAt_eq_mergeOpt, Forest.editAt_consolidation, Forest.editAt_editAt]

theorem validX_kids {sx : Nat → Bool} {w : HTree} (h : validX sx w = true) :
    localOK (sx w.handle) w.value w.kids = true ∧ validXList sx w.kids = true := by
  cases w with
  | node hw vw ks =>
    rw [validX_node, Bool.and_eq_true] at h
    exact h

theorem element_facts {v : Value} (h : v.isElement = true) :
    v.isNormal = true ∧ ∀ k, kidAllowed v k = !k.isDocument := by
  cases v <;> first | exact ⟨rfl, fun _ => rfl⟩ | cases h

/-- **`specUnwrap` preserves the invariant** (the wrapper is an element; with normal children it has
    a parent). -/
theorem specUnwrap_inv {f : Forest} {keep : Keep} {n : Nat} {w : HTree} (inv : f.Inv)
    (hg : f.get? n = some w) (hel : w.value.isElement = true)
    (hpar : w.kids.filter (fun k => k.value.isNormal) = [] ∨ (f.parent? n).isSome = true) :
    (specUnwrap keep n f).Inv := by
  have nd := inv.nodup
  have hv0 := valid0 inv
  by_cases hK : w.kids.filter (fun k => k.value.isNormal) = []
  · rw [specUnwrap_eq_specRemove nd hg hK]
    exact specRemove_inv inv hg
  · have hsome : (f.parent? n).isSome = true := by
      rcases hpar with h | h
      · exact absurd h hK
      · exact h
    cases hctx : f.ctx? n with
    | none => rw [Forest.parent?_of_no_ctx hctx] at hsome; cases hsome
    | some cx =>
      obtain ⟨vo, _, hwn, so, hp⟩ := site_of_kid nd hg hctx
      obtain ⟨a, b, c, d⟩ := specUnwrap_fields keep n f
      obtain ⟨ndL, _⟩ := so.nodupKids
      obtain ⟨tl, tr⟩ := tops_ne_of_nodup ndL
      rw [hwn] at tl
      have hrep : replaceTop n (fun w => w.kids.filter (fun k => k.value.isNormal)) (cx.left ++ w :: cx.right) =
          cx.left ++ w.kids.filter (fun k => k.value.isNormal) ++ cx.right := replaceTop_mid hwn tl
      obtain ⟨hlo, hmo⟩ := site_members (sx0 := sx0 f) so hv0 (fun _ _ h => h)
      -- the wrapper and its children
      have hwv : validX (sx0 f) w = true := validX_findList f.roots w hv0 hg
      obtain ⟨hwn', hwkid⟩ := element_facts hel
      have hwal : kidAllowed vo w.value = true := by
        simp only [localOK, Bool.and_eq_true, List.all_eq_true] at hlo
        exact hlo.1.1.1.1 w (by simp)
      have hvo := Fatom.kidAllowed_container hwal
      obtain ⟨hwl, hwk⟩ := validX_kids hwv
      have hkal : ∀ x ∈ w.kids.filter (fun k => k.value.isNormal), kidAllowed vo x.value = true ∧ x.value.isNormal = true := by
        intro x hx
        obtain ⟨hxk, hxn⟩ := List.mem_filter.1 hx
        simp only [localOK, Bool.and_eq_true, List.all_eq_true] at hwl
        have h1 := hwl.1.1.1.1 x hxk
        have hxn' : x.value.isNormal = true := by simpa using hxn
        refine ⟨?_, hxn'⟩
        have hxd : x.value.isDocument = false := by
          rw [hwkid] at h1; simpa using h1
        exact kidAllowed_of hvo hxn' hxd
      apply inv_of_valid_count inv a b c d
      · rw [specUnwrap_kid hp]
        apply merge_stage keep so hv0 (fun _ _ h => h) (strict0 inv _)
        · rw [hrep]
          exact localOK_replace_mid hlo hwn' hkal
        · rw [hrep]
          exact validXList_replace_mid hmo (validXList_sublist List.filter_sublist hwk)
      · intro z
        rw [specUnwrap_kid hp]
        have h1 := so.count (mergeOpt f.consolidation keep ∘
          replaceTop n (fun w => w.kids.filter (fun k => k.value.isNormal))) z
        simp only [Function.comp] at h1
        rw [hrep] at h1
        have h2 := (mergeOpt_sublist f.consolidation keep
          (cx.left ++ w.kids.filter (fun k => k.value.isNormal) ++ cx.right)).count_le z
        have h3 := count_replace_kids z cx.left cx.right w (w.kids.filter (fun k => k.value.isNormal))
          List.filter_sublist
        omega

theorem inv_of_valid_fresh {f g : Forest} (inv : f.Inv)
    (hc : g.consolidation = f.consolidation) (he : g.everOff = f.everOff) (hcor : g.corrupt = f.corrupt)
    (hnext : g.next = f.next + 1) (hval : validXList (sx0 f) g.roots = true)
    (hcount : ∀ z, g.allHandles.count z ≤ f.allHandles.count z + (if z = f.next then 1 else 0)) : g.Inv := by
  have hfresh : f.allHandles.count f.next = 0 := by
    rw [List.count_eq_zero]
    intro hm
    exact Nat.lt_irrefl _ (inv.below _ hm)
  apply inv_of_valid inv hc he hcor hval
  · rw [List.nodup_iff_count]
    intro z
    have h1 := hcount z
    have h2 := (List.nodup_iff_count.1 inv.nodup) z
    by_cases hz : z = f.next
    · rw [if_pos hz] at h1
      rw [hz] at h1 ⊢
      omega
    · rw [if_neg hz] at h1
      omega
  · intro z hz
    rw [hnext]
    have hpos : 0 < g.allHandles.count z := List.count_pos_iff.2 hz
    have h1 := hcount z
    by_cases hzn : z = f.next
    · omega
    · rw [if_neg hzn] at h1
      have : z ∈ f.allHandles := List.count_pos_iff.1 (by omega)
      have := inv.below z this
      omega

theorem localOK_single {b : Bool} {name : Nat} {t : HTree} (hn : t.value.isNormal = true)
    (hd : t.value.isDocument = false) : localOK b (.element name) [t] = true := by
  have hc : t.value.category = .normal := Spec.isNormal_iff.1 hn
  simp [localOK, kidAllowed, hd, kidsOrdered, keysUnique, noAdjacentText, hc]

theorem specWrap_fields (n name : Nat) (f : Forest) {t : HTree} (hg : f.get? n = some t) :
    (specWrap n name f).consolidation = f.consolidation ∧ (specWrap n name f).everOff = f.everOff ∧
    (specWrap n name f).corrupt = f.corrupt ∧ (specWrap n name f).next = f.next + 1 := by
  unfold specWrap
  rw [hg]
  simp only
  cases f.parent? n with
  | none => exact ⟨rfl, rfl, rfl, rfl⟩
  | some p => exact ⟨rfl, rfl, rfl, rfl⟩

/-- **`specWrap` preserves the invariant** (the wrapped node is an element, text, comment or PI). -/
theorem specWrap_inv {f : Forest} {n name : Nat} {t : HTree} (inv : f.Inv) (hg : f.get? n = some t)
    (hn : t.value.isNormal = true) (hd : t.value.isDocument = false) : (specWrap n name f).Inv := by
  have nd := inv.nodup
  have hv0 := valid0 inv
  obtain ⟨a, b, c, d⟩ := specWrap_fields n name f hg
  have htv : validX (sx0 f) t = true := validX_findList f.roots t hv0 hg
  have hwv : validX (sx0 f) (.node f.next (.element name) [t]) = true := by
    rw [validX_node, Bool.and_eq_true]
    refine ⟨localOK_single hn hd, ?_⟩
    rw [validXList_cons, Bool.and_eq_true]
    exact ⟨htv, rfl⟩
  have hwc : ∀ z, (handles (.node f.next (.element name) [t])).count z =
      (handles t).count z + (if z = f.next then 1 else 0) := by
    intro z
    rw [handles_node, handlesList_cons, handlesList_nil, List.append_nil, List.count_cons]
    by_cases hz : z = f.next
    · simp [hz]
    · have : (f.next == z) = false := by simpa using fun e => hz e.symm
      simp [hz, this]
  rcases Forest.root_or_ctx hg with hroot | ⟨cx, hctx⟩
  · have hpar := Forest.parent?_of_no_ctx (Forest.ctx_none_of_root nd hroot)
    have hroots : (specWrap n name f).roots = dropTop n f.roots ++ [.node f.next (.element name) [t]] :=
      by rw [specWrap_root hg hpar]; rfl
    apply inv_of_valid_fresh inv a b c d
    · rw [hroots, validXList_append, Bool.and_eq_true, validXList_cons, Bool.and_eq_true]
      exact ⟨validXList_dropTop n hv0, hwv, rfl⟩
    · intro z
      show (handlesList (specWrap n name f).roots).count z ≤ _
      rw [hroots, handlesList_append, List.count_append, handlesList_cons, handlesList_nil,
        List.append_nil, hwc z]
      have := count_dropTop_root nd hg hroot z
      omega
  · obtain ⟨vo, _, htn, so, hp⟩ := site_of_kid nd hg hctx
    obtain ⟨ndL, _⟩ := so.nodupKids
    obtain ⟨tl, _⟩ := tops_ne_of_nodup ndL
    rw [htn] at tl
    have hrep : replaceTop n (fun k => [HTree.node f.next (.element name) [k]]) (cx.left ++ t :: cx.right) =
        cx.left ++ HTree.node f.next (.element name) [t] :: cx.right := by
      rw [replaceTop_mid htn tl, List.append_assoc]; rfl
    have hroots : (specWrap n name f).roots =
        (f.editAt (some cx.parent) (replaceTop n (fun k => [HTree.node f.next (.element name) [k]]))).roots :=
      by rw [specWrap_kid hg hp]
    apply inv_of_valid_fresh inv a b c d
    · rw [hroots]
      have hsite : validX (sx0 f) (.node cx.parent vo (cx.left ++ t :: cx.right)) = true :=
        validX_findList f.roots _ hv0 so.kids
      rw [validX_node, Bool.and_eq_true] at hsite
      obtain ⟨hloS, hmo⟩ := hsite
      have htal : kidAllowed vo t.value = true := by
        have := hloS
        simp only [localOK, Bool.and_eq_true, List.all_eq_true] at this
        exact this.1.1.1.1 t (by simp)
      have hvo := Fatom.kidAllowed_container htal
      apply stage so hv0 (fun _ _ h => h)
      · rw [hrep]
        exact localOK_replace_one hloS hn (kidAllowed_of hvo rfl rfl) rfl rfl
      · rw [hrep]
        have := validXList_replace_mid (X := [_]) hmo
          (by rw [validXList_cons, Bool.and_eq_true]; exact ⟨hwv, rfl⟩)
        rwa [List.append_assoc] at this
    · intro z
      rw [show (specWrap n name f).allHandles = (f.editAt (some cx.parent)
        (replaceTop n (fun k => [HTree.node f.next (.element name) [k]]))).allHandles from
        congrArg handlesList hroots]
      have h1 := so.count (replaceTop n (fun k => [HTree.node f.next (.element name) [k]])) z
      rw [hrep] at h1
      have h2 := count_handles_mid z cx.left t cx.right
      have h3 := count_handles_mid z cx.left (HTree.node f.next (.element name) [t]) cx.right
      have h4 := hwc z
      omega

end Prog2
end XotModel

/-! ### `specReplace`

`replace` preserves the C04 invariant on
the SPECIFICATION side: `specReplace keep a b f` for arguments that pass xot's checks (`ReplArgs`).
Distinct handles, no new handle, flags: `Lemmas/FspecReplFrame.lean`; here: structural validity. -/

namespace XotModel
namespace Prog2
open HTree Spec Prog Fmap ReplFrame

variable {f : Forest} {keep : Keep} {a b q : Nat} {vq : Value} {l : List HTree} {A : HTree} {r : List HTree}
  {t : HTree}

/-- The second half of `specReplace`: in `Y` (the replacing subtree has left) the child `A` of `q` is
    replaced by `t`, and the child list is merged. -/
theorem put_valid {Y : Forest} {l' r' : List HTree} {sxY : Nat → Bool} (inv : f.Inv)
    (ra : ReplArgs f a b q vq l A r t) (st : Stage f keep a b q vq l A r t Y l' r')
    (hvY : validXList sxY Y.roots = true) (hother : ∀ h, h ≠ q → sx0 f h = true → sxY h = true) :
    validXList (sx0 f) (specReplace keep a b f).roots = true := by
  rw [st.spec, ← st.flags.2.1]
  obtain ⟨ndL, _⟩ := st.site.nodupKids
  obtain ⟨tl, _⟩ := tops_ne_of_nodup ndL
  rw [ra.ha] at tl
  have hrep : replaceTop a (fun _ => [t]) (l' ++ A :: r') = l' ++ [t] ++ r' := replaceTop_mid ra.ha tl
  obtain ⟨hlo, hmo⟩ := site_members (sx0 := sx0 f) st.site hvY hother
  apply merge_stage keep st.site hvY hother
  · rw [st.flags.2.1]; exact strict0 inv q
  · rw [hrep]
    apply localOK_replace_mid hlo ra.hAn
    intro x hx
    rw [List.mem_singleton.1 hx]
    exact ⟨kidAllowed_of ra.hvq ra.htn ra.htd, ra.htn⟩
  · rw [hrep]
    apply validXList_replace_mid hmo
    rw [validXList_cons, Bool.and_eq_true]
    exact ⟨validX_findList f.roots t (valid0 inv) ra.hgb, rfl⟩

theorem specReplace_valid (inv : f.Inv) (ra : ReplArgs f a b q vq l A r t) :
    validXList (sx0 f) (specReplace keep a b f).roots = true := by
  have hv0 := valid0 inv
  cases hpb : f.parent? b with
  | none =>
    exact put_valid inv ra (stage_root (keep := keep) inv ra hpb) (validXList_dropTop b hv0) (fun _ _ h => h)
  | some po =>
    by_cases hne : po = q
    · subst hne
      -- `b` leaves the child list of `po` itself: adjacent text may remain there until the final merge
      exact put_valid inv ra (stage_same (keep := keep) inv ra hpb) (valid_dropTop_relaxed ra.sq hv0 b)
        (fun h hh hs => by rwa [if_neg hh])
    · obtain ⟨φ, st⟩ := stage_far (keep := keep) inv ra hpb hne
      exact put_valid inv ra st (specRemove_valid inv ra.hgb) (fun _ _ h => h)

theorem specReplace_inv (inv : f.Inv) (ra : ReplArgs f a b q vq l A r t) : (specReplace keep a b f).Inv := by
  obtain ⟨hn, hc, he, hcor⟩ := specReplace_flags keep inv ra
  apply inv_of_valid inv hc he hcor (specReplace_valid inv ra) (specReplace_nodup keep inv ra)
  intro z hz
  rw [hn]
  exact inv.below z (specReplace_handles_sub keep inv ra z hz).1

end Prog2
end XotModel
