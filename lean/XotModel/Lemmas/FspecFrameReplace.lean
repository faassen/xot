/-
  The frame of `replace` for EVERY forest with the invariant (no `Forest.Normal`), through the
  pair reading `specReplaceP`: the replacing subtree is cut (pair merge at the place it leaves), put in the place of
  the replaced one and merged by `mergeNew3`.  A node outside the replacing subtree whose parent is neither the
  parent of the replaced node nor the old parent of the replacing one, and lies in neither subtree, keeps its
  parent, its value and the handles of its siblings.  Modelled on `frame_specMoveP` (Lemmas/FspecPairFrame.lean).
-/
import XotModel.Lemmas.BasicFacts
import XotModel.Lemmas.FspecFrameComposite
import XotModel.Lemmas.FspecPairReplace
import XotModel.Lemmas.FspecReplFrame

namespace XotModel
open HTree Spec PairAll

/-! ### `mergeNew3` as an optional list function: handles, lookups -/

theorem Spec.TextMerge.of_new3Opt (c : Bool) (n : Nat) (L : List HTree) : TextMerge L (new3Opt c n L) := by
  unfold new3Opt
  split
  · exact .of_mergeNew3 n L
  · exact .refl L

theorem new3Opt_sublist (c : Bool) (n : Nat) (L : List HTree) :
    (handlesList (new3Opt c n L)).Sublist (handlesList L) :=
  (TextMerge.of_new3Opt c n L).handles_sublist

theorem findList?_new3Opt {z : Nat} (c : Bool) (n : Nat) {L : List HTree} (h : LeafZ z L) :
    findList? z (new3Opt c n L) = findList? z L :=
  ((TextMerge.of_new3Opt c n L).leafZ h).2

/-! ### Putting `t` in the place of the child `a` -/

theorem leafZ_putTop {z a : Nat} {t : HTree} {L : List HTree} (h : LeafZ z L)
    (ht : t.value.isText = true → t.kids = [] ∧ t.handle ≠ z) : LeafZ z (replaceTop a (fun _ => [t]) L) := by
  intro k hk hkt
  rcases mem_replaceTop hk with e | ⟨w, _, hkw⟩
  · exact h k e hkt
  · have : k = t := by simpa using hkw
    subst this; exact ht hkt

theorem count_putTop_le (z a : Nat) (t : HTree) : ∀ L : List HTree,
    (handlesList (replaceTop a (fun _ => [t]) L)).count z ≤ (handlesList L).count z + (handles t).count z
  | [] => by simp [replaceTop_nil, handlesList_nil]
  | k :: ks => by
    rw [replaceTop_cons]
    split
    · simp only [List.singleton_append, handlesList_cons, List.count_append]; omega
    · have := count_putTop_le z a t ks
      simp only [handlesList_cons, List.count_append]; omega

/-- The second half of `replace`: `t` is put in the place of the child `a` of `q` in `Y` and merged. -/
theorem nodeFrame_put_stepP {Y : Forest} {t : HTree} {q : Nat} {vq : Value} (a c : Nat)
    {LY : List HTree} (sY : SiteAt Y q vq LY) {z : Nat} (hne : z ≠ q)
    (hleaf : LeafZ z LY)
    (hleaft : t.value.isText = true → t.kids = [] ∧ t.handle ≠ z)
    (hpt : z ∉ handles t) (hpA : ∀ k ∈ LY, k.handle = a → z ∉ handles k) :
    NodeFrame Y ((Y.editAt (some q) (replaceTop a (fun _ => [t]))).mergeNew3At q c) z := by
  rw [mergeNew3At_eq_new3Opt, Forest.editAt_consolidation, Forest.editAt_editAt]
  apply sY.nodeFrame _ hne
  simp only [Function.comp]
  rw [findList?_new3Opt _ _ (leafZ_putTop hleaf hleaft), ReplFrame.findList?_putTop hpt LY hpA]

theorem nodup_put_stepP {Y : Forest} {t : HTree} {q : Nat} {vq : Value} (a c : Nat)
    {LY : List HTree} (sY : SiteAt Y q vq LY)
    (hcount : ∀ z, Y.allHandles.count z + (handles t).count z ≤ 1) :
    ((Y.editAt (some q) (replaceTop a (fun _ => [t]))).mergeNew3At q c).allHandles.Nodup := by
  rw [mergeNew3At_eq_new3Opt, Forest.editAt_consolidation, Forest.editAt_editAt]
  apply sY.nodup_of_count
  intro z
  simp only [Function.comp]
  have h1 := (new3Opt_sublist Y.consolidation c (replaceTop a (fun _ => [t]) LY)).count_le z
  have h2 := count_putTop_le z a t LY
  have h3 := hcount z
  omega

/-- **Replace, pair reading**, the replacing node NOT next to the replaced one, for every forest with the
    invariant: the handles stay distinct, and every node that is neither the parent `q` of the replaced node nor
    the parent of the replacing one, not a text child of either and not inside one of the two subtrees is left
    alone. -/
theorem specReplaceP_far_nodeFrame {f : Forest} {a b q : Nat} {vq : Value} {l : List HTree} {A : HTree}
    {r : List HTree} {t : HTree} (inv : f.Inv) (ra : ReplArgs f a b q vq l A r t)
    (hnadj : adjacentTo f a b = false) :
    (specReplaceP a b f).allHandles.Nodup ∧
    ∀ {z : Nat}, z ≠ q → some z ≠ f.parent? b → z ∉ handles t → z ∉ handles A →
      TextFree f z (some q) → TextFree f z (f.parent? b) → NodeFrame f (specReplaceP a b f) z := by
  have nd := inv.nodup
  have sq := ra.sq
  have hgb := ra.hgb
  have hqt := ra.hqt
  have hvq : vq.isText = false := isText_false_of_kind ra.hvq
  unfold specReplaceP
  rw [hnadj]
  simp only [Bool.false_eq_true, if_false]
  rw [hgb, Forest.parent?_of_ctx? ra.ctx_a]
  simp only
  obtain ⟨ndL, _⟩ := sq.nodupKids
  have hleaft : ∀ {z : Nat}, z ∉ handles t → t.value.isText = true → t.kids = [] ∧ t.handle ≠ z :=
    fun h3 ht => ⟨leaf_of_text inv.valid hgb ht, fun e => h3 (e ▸ handle_mem_handles t)⟩
  have hpA : ∀ {z : Nat}, z ∉ handles A → ∀ k ∈ l ++ A :: r, k.handle = a → z ∉ handles k := by
    intro z h5 k hk hka
    rw [PairAfter.eq_of_handle ndL hk (by simp) (hka.trans ra.ha.symm)]
    exact h5
  have hcountY : ∀ z, (specRemoveP b f).allHandles.count z + (handles t).count z ≤ 1 := by
    intro z
    have := count_specRemoveP nd hgb z
    have := (List.nodup_iff_count.1 nd) z
    omega
  -- the two halves in different child lists: the frame of the cut, then that of the put
  have far : ∀ LY, SiteAt (specRemoveP b f) q vq LY →
      (((specRemoveP b f).editAt (some q) (replaceTop a (fun _ => [t]))).mergeNew3At q b).allHandles.Nodup ∧
      ∀ {z : Nat}, z ≠ q → some z ≠ f.parent? b → z ∉ handles t → TextFree f z (f.parent? b) → LeafZ z LY →
        (∀ k ∈ LY, k.handle = a → z ∉ handles k) →
        NodeFrame f (((specRemoveP b f).editAt (some q) (replaceTop a (fun _ => [t]))).mergeNew3At q b) z :=
    fun LY sY => ⟨nodup_put_stepP a b sY hcountY, fun h1 h2 h3 hTo hLY hA =>
      (nodeFrame_specRemoveP inv hgb h2 hTo h3).trans
        (nodeFrame_put_stepP (t := t) a b sY h1 hLY (hleaft h3) h3 hA)⟩
  cases hpar : f.parent? b with
  | none =>
    rw [Forest.nbOf_root hpar, Forest.mergeLeftAt_none, ← specRemoveP_root hpar]
    obtain ⟨n1, fr⟩ := far _ (by rw [specRemoveP_root hpar]; exact sq.dropRoot hgb hqt)
    exact ⟨n1, fun h1 h2 h3 h5 hTq hTo =>
      fr h1 (hpar ▸ h2) h3 (hpar ▸ hTo) (leafZ_of_textFree sq inv.valid hTq) (hpA h5)⟩
  | some po =>
    have hpot : po ∉ handles t := parent_not_mem_subtree nd hgb hpar
    rw [mergeLeftAt_eq_pairOpt]
    simp only [Forest.editAt_consolidation]
    by_cases hpq : po = q
    · -- same child list: one edit
      subst hpq
      rw [mergeNew3At_eq_new3Opt]
      simp only [Forest.editAt_consolidation]
      rw [Forest.editAt_editAt, Forest.editAt_editAt, Forest.editAt_editAt]
      constructor
      · apply sq.nodup_of_count
        intro z
        simp only [Function.comp]
        have c1 := (new3Opt_sublist f.consolidation b
          (pairOpt f.consolidation (f.nbOf b) (replaceTop a (fun _ => [t]) (dropTop b (l ++ A :: r))))).count_le z
        have c2 := (pairOpt_sublist f.consolidation (f.nbOf b)
          (replaceTop a (fun _ => [t]) (dropTop b (l ++ A :: r)))).count_le z
        have c3 := count_putTop_le z a t (dropTop b (l ++ A :: r))
        have c4 : (handlesList (dropTop b (l ++ A :: r))).count z + (handles t).count z ≤
            (handlesList (l ++ A :: r)).count z := by
          -- `t` is a child of `po = q`
          rcases Forest.root_or_site nd hgb with hno | ⟨po', vo, lo, ro, hctx, so⟩
          · rw [Forest.parent?_of_no_ctx hno] at hpar; cases hpar
          · rw [Forest.parent?_of_ctx? hctx] at hpar
            cases hpar
            obtain ⟨_, hL⟩ := so.unique sq
            obtain ⟨tl, tr⟩ := tops_ne_of_nodup so.nodupKids.1
            have e0 : t.handle = b := (findList?_some f.roots t hgb).1
            rw [← hL, dropTop_mid e0 (fun k hk => e0 ▸ tl k hk) (fun k hk => e0 ▸ tr k hk), count_handles_mid]
            exact Nat.le_refl _
        have c5 := (List.nodup_iff_count.1 nd) z
        omega
      · intro z h1 _ h3 h5 hTq _
        have hleafq : LeafZ z (l ++ A :: r) := leafZ_of_textFree sq inv.valid hTq
        have hdropb : ∀ k ∈ l ++ A :: r, k.handle = b → z ∉ handles k := by
          intro k hk hkb
          rw [ra.kid_eq hk hkb]; exact h3
        have hLZ1 : LeafZ z (dropTop b (l ++ A :: r)) :=
          fun k hk hkt => hleafq k (mem_of_mem_dropTop hk) hkt
        have hLZ2 := leafZ_putTop (a := a) hLZ1 (hleaft h3)
        apply sq.nodeFrame _ h1
        simp only [Function.comp]
        rw [findList?_new3Opt _ _ (leafZ_pairOpt _ _ hLZ2), findList?_pairOpt _ _ hLZ2,
          ReplFrame.findList?_putTop h3 _ (fun k hk hka => hpA h5 k (mem_of_mem_dropTop hk) hka),
          findList?_dropTop _ hdropb]
    · -- another child list: the old-place merge moved in front of the put
      cases hctx : f.ctx? b with
      | none => rw [Forest.parent?_of_no_ctx hctx] at hpar; cases hpar
      | some cc =>
        obtain ⟨po', vo, lo, k, ro, rfl, rfl, e0, so⟩ := SiteAt.of_get_ctx nd hgb hctx
        have hpo' : po' = po := by
          rw [Forest.parent?_of_ctx? hctx] at hpar
          exact Option.some.inj hpar
        subst hpo'
        have hnatI : ∀ g, NatFor (HTree.editAt po' g) (replaceTop a (fun _ => [k])) :=
          fun g => ReplFrame.natFor_putTop (kidMap_editAt _ _) a (editAt_of_not_mem k hpot)
        have hnatP : NatFor (HTree.editAt q (replaceTop a (fun _ => [k]))) (pairOpt f.consolidation (f.nbOf b)) := by
          unfold pairOpt
          split
          · exact natFor_adjOpt (kidMap_editAt _ _) _
          · exact natFor_id _
        rw [Forest.editAt_comm _ hpq hnatP (hnatI _), Forest.editAt_editAt, ← specRemoveP_kid hpar]
        subst e0
        have sY := site_after_leave so sq inv.valid hpq hqt hvq f.consolidation (f.nbOf k.handle)
        rw [← specRemoveP_kid hpar] at sY
        have hkm := kidMap_editAt po' (pairOpt f.consolidation (f.nbOf k.handle) ∘ dropTop k.handle)
        obtain ⟨n1, fr⟩ := far _ sY
        refine ⟨n1, fun {z} h1 h2 h3 h5 hTq hTo => fr h1 (hpar ▸ h2) h3 (hpar ▸ hTo) (fun k' hk' hkt => ?_)
          (fun k' hk' hka => ?_)⟩
        · have hleafq : LeafZ z (l ++ A :: r) := leafZ_of_textFree sq inv.valid hTq
          obtain ⟨k0, hk0, e⟩ := List.mem_map.1 hk'
          subst e
          rw [hkm.value] at hkt
          obtain ⟨hl0, hz0⟩ := hleafq k0 hk0 hkt
          exact ⟨ReplGapNF.editAt_kids_leaf hl0 (PairAfter.leaf_ne_site so (PairAfter.site_getKid sq hk0) hl0),
            by rw [hkm.handle]; exact hz0⟩
        · obtain ⟨k0, hk0, e⟩ := List.mem_map.1 hk'
          subst e
          rw [hkm.handle] at hka
          intro hin
          exact hpA h5 k0 hk0 hka ((handles_editAt_sublist
            (fun L => (pairOpt_sublist _ _ _).trans (handlesList_dropTop_sublist _ _)) k0).subset hin)

/-- **Frame of replace, pair reading**, the replacing node NOT next to the replaced one: every forest with the
    invariant. -/
theorem frame_specReplaceP_far {f : Forest} {a b q : Nat} {vq : Value} {l : List HTree} {A : HTree}
    {r : List HTree} {t : HTree} (inv : f.Inv) (ra : ReplArgs f a b q vq l A r t)
    (hnadj : adjacentTo f a b = false)
    {x : Nat} {cx : Ctx} (hx : f.ctx? x = some cx)
    (h1 : cx.parent ≠ q) (h2 : some cx.parent ≠ f.parent? b) (h3 : cx.parent ∉ handles t) (_h4 : x ∉ handles t)
    (h5 : cx.parent ∉ handles A) :
    ∃ cx', (specReplaceP a b f).ctx? x = some cx' ∧ cx'.shape = cx.shape := by
  obtain ⟨nd', fr⟩ := specReplaceP_far_nodeFrame inv ra hnadj
  exact (fr h1 h2 h3 h5 (textFree_of_ctx inv hx _) (textFree_of_ctx inv hx _)).ctxShape inv.nodup nd' hx

/-- **Frame of `replace`**: every forest with the invariant, every geometry. -/
theorem replace_frame_all {f : Forest} {a b q : Nat} {A t : HTree} (inv : f.Inv)
    (hok : (f.replace a b).2 = .ok) (hA : f.get? a = some A) (hb : f.get? b = some t)
    (hq : f.parent? a = some q)
    {x : Nat} {cx : Ctx} (hx : f.ctx? x = some cx)
    (h1 : cx.parent ≠ q) (h2 : some cx.parent ≠ f.parent? b) (h3 : cx.parent ∉ handles t)
    (h4 : x ∉ handles t) (h5 : cx.parent ∉ handles A) (h6 : x ∉ handles A) :
    ∃ cx', (f.replace a b).1.ctx? x = some cx' ∧ cx'.shape = cx.shape := by
  rw [replace_pair inv hok]
  obtain ⟨q', vq, l, A', r, t', ra, _⟩ := replace_unpack inv hok
  have e1 : A' = A := by
    have := ra.live_a; rw [hA] at this; exact (Option.some.inj this).symm
  have e2 : t' = t := by
    have := ra.hgb; rw [hb] at this; exact (Option.some.inj this).symm
  have e3 : q' = q := by
    have := Forest.parent?_of_ctx? ra.ctx_a; rw [hq] at this; exact (Option.some.inj this).symm
  subst e1 e2 e3
  cases hadj : adjacentTo f a b with
  | true =>
    unfold specReplaceP
    rw [hadj, if_pos rfl]
    exact frame_specRemoveP inv hA hx (by rw [hq]; exact fun e => h1 (Option.some.inj e)) h5 h6
  | false => exact frame_specReplaceP_far inv ra hadj hx h1 h2 h3 h4 h5

end XotModel
