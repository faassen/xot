/-
  Literal `get?` results across `newNode`, the `cut` of a root and `placeLast`; `text_content_mut(node).set(s)`: on an
  element without normal children the fresh text node is found again as first child, so no `unwrap` panics.
-/
import XotModel.Lemmas.FatomMap
import XotModel.Lemmas.BasicFacts

/-! ## Literal `get?` results across `newNode`, the `cut` of a root and `placeLast` -/

namespace XotModel
open HTree

theorem find?_mapAt_self (p : Nat) (g : HTree → HTree) (hg : ∀ n, (g n).handle = n.handle) :
    ∀ T : HTree, find? p (mapAt p g T) = (find? p T).map g :=
  ffx_find?_mapAt_self p g hg

namespace Forest

theorem newNode_get? {f : Forest} (v : Value) {x : Nat} (hl : f.isLive x = true) :
    (f.newNode v).1.get? x = f.get? x := by
  obtain ⟨t, hg⟩ := get?_of_isLive hl
  show findList? x (f.roots ++ [HTree.node f.next v []]) = _
  rw [fa_findList?_append]
  unfold get? at hg ⊢
  rw [hg]

theorem cut_root_get? {f : Forest} (w : f.W) {h x : Nat} {t : HTree} (hg : f.get? h = some t)
    (hr : f.isRoot h = true) (hx : x ∉ handles t) : (f.cut h).1.get? x = f.get? x := by
  have hc : f.cut h = ({ f with roots := f.roots.filter (fun r => r.handle != h) }, some t) := by
    unfold cut; rw [hg, hr]; rfl
  rw [hc]
  exact (rootsFilter h f.roots t w.nodup hr hg).2.2.1 x hx

theorem placeLast_get? (f : Forest) (p : Nat) (t : HTree) :
    (f.placeLast p t).get? p = (f.get? p).map (fun n => n.setKids (n.kids ++ [t])) := by
  unfold placeLast get?
  simp only
  rw [← mapAtList_eq_map]
  exact ff_findList?_mapAtList_self p _ (insertsLast t).handle f.roots

end Forest
end XotModel

/-! ## `text_content_mut(node)` + `set` -/

namespace XotModel
open HTree

namespace Forest

/-- Appending a parentless node under a parent that has no (normal) last child: no
    consolidation happens, the node is cut from the roots and placed last. -/
theorem append_root_last {f : Forest} (w : f.W) {p t : Nat} {tt : HTree} (ck : Checked f p t)
    (hroot : f.isRoot t = true) (hg : f.get? t = some tt) (hlast : f.lastChild p = none) :
    f.append p t = ((f.cut t).1.placeLast p tt, .ok) := by
  have hlc : (f.lastChild p == some t) = false := by rw [hlast]; rfl
  rw [append_eq]
  simp only [structureCheck_of_checked ck, hlc, Bool.not_true, Bool.false_eq_true, if_false]
  refine moveTail_of_placed (afterOldSite_of_prevSibling_none (prevSibling_none_of_root (isRoot_noParent w hroot)))
    ?_ (checkedAppend_eq hg w (ck.ne w) ck.notAnc)
  rw [hlast]
  exact addConsolidate_none_none f t

theorem lastChild_none_of_firstChild_none {f : Forest} {n : Nat} (h : f.firstChild n = none) :
    f.lastChild n = none ∧
    ∀ t, f.get? n = some t → ∀ k ∈ t.kids, (!k.value.isNormal) = true := by
  unfold firstChild at h
  unfold lastChild
  cases hg : f.get? n with
  | none => exact ⟨rfl, fun t e => by cases e⟩
  | some t =>
    rw [hg] at h
    simp only [Option.map_eq_none_iff, List.head?_eq_none_iff] at h
    replace h := dropWhile_nil_imp _ _ h
    refine ⟨?_, fun t' e => by injection e with e; subst e; exact h⟩
    simp only
    cases hl : t.kids.getLast? with
    | none => rfl
    | some k =>
      have := h k (List.mem_of_getLast? hl)
      simp only [Bool.not_eq_true', ] at this
      simp [this]

theorem lastChild_congr {f g : Forest} {n : Nat} (h : g.get? n = f.get? n) :
    g.lastChild n = f.lastChild n := by
  unfold lastChild; rw [h]

/-- `text_content_mut(node).set(s)`: refused with nothing changed exactly when `textContentRefused`
    (`text_content_mut` is `None`), otherwise carried out. -/
theorem textContentSet_run {f : Forest} (w : f.W) (node : Nat) (s : Str) :
    if f.textContentRefused node then f.textContentSet node s = (f, .err .invalidOperation)
    else OkRes f (f.textContentSet node s) := by
  unfold textContentRefused textContentSet
  cases hfc : f.firstChild node with
  | some child =>
    simp only
    cases (f.nextSibling child).isSome with
    | true => simp
    | false =>
      simp only [Bool.false_or, Bool.false_eq_true, if_false]
      cases ht : f.isText child with
      | false => simp
      | true =>
        simp only [Bool.not_true, Bool.false_eq_true, if_false, if_true]
        exact okRes_setText w ht s
  | none =>
    simp only
    cases hel : f.isElement node with
    | false => simp
    | true =>
      simp only [Bool.not_true, Bool.false_eq_true, if_false, if_true]
      have hlp : f.isLive node = true := Fatom.isLive_of_isElement hel
      obtain ⟨n, hgn⟩ := get?_of_isLive hlp
      obtain ⟨hlast, hkids⟩ := lastChild_none_of_firstChild_none hfc
      -- the fresh text node
      obtain ⟨hwr, w1, fr1, hg1, hr1, hdead⟩ := newNode_spec w (.text [])
      have kp := newNode_kept w (.text []) hlp
      have hgn1 := newNode_get? (f := f) (.text []) hlp
      unfold newText
      rcases hnew : f.newNode (.text []) with ⟨f1, t⟩
      rw [hnew] at hwr w1 fr1 hg1 hr1 kp hgn1
      simp only at hwr w1 fr1 hg1 hr1 kp hgn1
      subst hwr
      rw [hgn] at hgn1
      have hne : node ≠ f.next := fun e => by rw [e, hdead] at hlp; cases hlp
      have ck : Checked f1 node f.next := by
        refine ⟨Or.inl (by rw [kp.isElement]; exact hel), ?_, ?_⟩
        · rw [kp.anc]; intro h'; rw [ancestors_live w h'] at hdead; cases hdead
        · refine ⟨.text [], ?_, rfl, rfl⟩
          unfold value?; rw [hg1]; rfl
      have hlast1 : f1.lastChild node = none := by
        rw [lastChild_congr (f := f) (by rw [hgn1, hgn])]; exact hlast
      have happ := append_root_last w1 ck hr1 hg1 hlast1
      have m := append_ok w1 (structureCheck_of_checked ck)
      rw [happ] at m ⊢
      simp only
      have w2 := m.w
      simp only at w2
      have hnt : node ∉ handles (HTree.node f.next (.text []) []) := by
        simpa [handles, handlesList] using hne
      have hg2 : ((f1.cut f.next).1.placeLast node (.node f.next (.text []) [])).get? node =
          some (n.setKids (n.kids ++ [.node f.next (.text []) []])) := by
        rw [placeLast_get?, cut_root_get? w1 hg1 hr1 hnt, hgn1]; rfl
      generalize (f1.cut f.next).1.placeLast node (.node f.next (.text []) []) = f2 at m w2 hg2 ⊢
      have hkids2 : (n.setKids (n.kids ++ [.node f.next (.text []) []])).kids =
          n.kids ++ [.node f.next (.text []) []] := by cases n; rfl
      have hfc2 : f2.firstChild node = some f.next := by
        unfold firstChild
        rw [hg2]
        simp only [hkids2]
        rw [List.dropWhile_append_of_pos (hkids n hgn)]
        simp [List.dropWhile, HTree.value, Value.isNormal, Value.category, HTree.handle]
      have hmem : (HTree.node f.next (.text []) []) ∈
          (n.setKids (n.kids ++ [.node f.next (.text []) []])).kids := by
        rw [hkids2]; simp
      have hgt2 := (kid_spec w2 hg2 hmem).1
      simp only [HTree.handle] at hgt2
      have htext2 : f2.isText f.next = true := by
        unfold isText value?; rw [hgt2]; rfl
      simp only [hfc2, htext2, if_true]
      have := okRes_setLeaf (f := f2) w2 hgt2 rfl (.text s)
      exact ⟨this.ok, this.w, by
        rw [this.corrupt]
        have := m.corrupt
        simp only at this
        rw [this, fr1.corrupt]⟩

theorem textContentSet_outcome {f : Forest} (w : f.W) (node : Nat) (s : Str) :
    f.textContentSet node s = (f, .err .invalidOperation) ∨ OkRes f (f.textContentSet node s) :=
  OkRes.outcome_of_refused (textContentSet_run w node s)

end Forest
end XotModel
