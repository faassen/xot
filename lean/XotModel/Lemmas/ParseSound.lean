/-
  C03_sound, ordering / kinds / adjacency part: an invariant of the zipper builder.

  Every open frame's finished children (kept last-first) are ordered namespaces → attributes →
  normal, respect the kind rules, contain no two neighbouring text nodes, and are themselves
  sound trees; the chain of open frames is `element … element document`.
-/
import XotModel.Lemmas.ParseOps
import XotModel.Lemmas.BasicFacts
import XotModel.Model.Parse
import XotModel.Model.Valid

namespace XotModel

/-- What `C03_sound` establishes at every node. -/
def SoundAt (v : Value) (ks : List Tree) : Prop :=
  OrderedKids ks ∧ KindsOk v ks ∧ noAdjText ks = true ∧ UniqueKids ks

/-! ### Attribute names / prefixes of a child list -/

theorem attrNames_append (a b : List Tree) : attrNames (a ++ b) = attrNames a ++ attrNames b := by
  simp [attrNames]

theorem nsPrefixes_append (a b : List Tree) : nsPrefixes (a ++ b) = nsPrefixes a ++ nsPrefixes b := by
  simp [nsPrefixes]

theorem attrNames_reverse (l : List Tree) : attrNames l.reverse = (attrNames l).reverse := by
  simp [attrNames, List.filterMap_reverse]

theorem nsPrefixes_reverse (l : List Tree) : nsPrefixes l.reverse = (nsPrefixes l).reverse := by
  simp [nsPrefixes, List.filterMap_reverse]

theorem nodup_reverse' {l : List Nat} : l.reverse.Nodup ↔ l.Nodup := by
  unfold List.Nodup
  rw [List.pairwise_reverse]
  constructor <;> intro h <;> exact h.imp (fun hab => fun e => hab e.symm)

theorem uniqueKids_reverse {l : List Tree} (h : UniqueKids l) : UniqueKids l.reverse := by
  unfold UniqueKids at h ⊢
  rw [attrNames_reverse, nsPrefixes_reverse, nodup_reverse', nodup_reverse']
  exact h

/-! ### Normal values -/

theorem Value.of_isElement {v : Value} (h : v.isElement = true) :
    v.phase = 2 ∧ v.isDocument = false ∧ v.isText = false := by
  cases v <;> first | exact ⟨rfl, rfl, rfl⟩ | cases h

theorem Value.isNormal_of_phase {v : Value} (h : v.phase = 2) : v.isNormal = true := by
  cases v <;> first | rfl | cases h

theorem attrNames_cons_normal {k : Tree} {l : List Tree} (h : k.value.phase = 2) :
    attrNames (k :: l) = attrNames l := by
  unfold attrNames
  rw [List.filterMap_cons]
  cases hv : k.value <;> first | rfl | (rw [hv] at h; cases h)

theorem nsPrefixes_cons_normal {k : Tree} {l : List Tree} (h : k.value.phase = 2) :
    nsPrefixes (k :: l) = nsPrefixes l := by
  unfold nsPrefixes
  rw [List.filterMap_cons]
  cases hv : k.value <;> first | rfl | (rw [hv] at h; cases h)

theorem uniqueKids_cons_normal {k : Tree} {l : List Tree} (hph : k.value.phase = 2) (h : UniqueKids l) :
    UniqueKids (k :: l) := by
  unfold UniqueKids
  rw [attrNames_cons_normal hph, nsPrefixes_cons_normal hph]
  exact h

/-! ### `noAdjText` and reversal -/

theorem noAdjText_snoc (l : List Tree) (a : Tree) :
    noAdjText (l ++ [a]) =
      (noAdjText l && !((l.getLast?.map (fun t => t.value.isText)).getD false && a.value.isText)) := by
  match l with
  | [] => simp [noAdjText]
  | [x] => simp [noAdjText]
  | x :: y :: rest =>
    have ih := noAdjText_snoc (y :: rest) a
    simp only [List.cons_append] at ih ⊢
    simp only [noAdjText, ih, List.getLast?_cons_cons, Bool.and_assoc]

theorem noAdjText_reverse (l : List Tree) : noAdjText l.reverse = noAdjText l := by
  induction l with
  | nil => rfl
  | cons x l ih =>
    rw [List.reverse_cons, noAdjText_snoc, ih, List.getLast?_reverse]
    cases l with
    | nil => simp [noAdjText]
    | cons y rest => simp [noAdjText, Bool.and_comm]

/-! ### Frames -/

/-- Invariant of one open frame, stated on the children as stored (last child first). -/
def FrameOk (f : Frame) : Prop :=
  f.rkids.Pairwise (fun a b => b.value.phase ≤ a.value.phase) ∧
  KindsOk f.value f.rkids ∧
  noAdjText f.rkids = true ∧
  UniqueKids f.rkids ∧
  ∀ k ∈ f.rkids, k.Forall SoundAt

theorem kindsOk_reverse {v : Value} {ks : List Tree} (h : KindsOk v ks) : KindsOk v ks.reverse := by
  obtain ⟨h1, h2, h3⟩ := h
  refine ⟨fun hv => by simp [h1 hv], fun hv k hk => h2 hv k (by simpa using hk), fun k hk => h3 k (by simpa using hk)⟩

theorem Frame.close_sound {f : Frame} (h : FrameOk f) : f.close.Forall SoundAt := by
  obtain ⟨h1, h2, h3, hu, h4⟩ := h
  unfold Frame.close
  rw [Tree.forall_node]
  refine ⟨⟨?_, kindsOk_reverse h2, ?_, uniqueKids_reverse hu⟩, fun k hk => h4 k (by simpa using hk)⟩
  · unfold OrderedKids; rw [List.pairwise_reverse]; exact h1
  · rw [noAdjText_reverse]; exact h3

/-- Adding a normal, non-document node in front of the stored children. -/
theorem FrameOk.cons_normal {f : Frame} {k : Tree} (h : FrameOk f)
    (hleaf : f.value.isLeafKind = false) (hph : k.value.phase = 2) (hdoc : k.value.isDocument = false)
    (hadj : k.value.isText = true → (f.rkids.head?.map (fun t => t.value.isText)).getD false = false)
    (hk : k.Forall SoundAt) : FrameOk { f with rkids := k :: f.rkids } := by
  obtain ⟨h1, h2, h3, hu, h4⟩ := h
  have hnormal := Value.isNormal_of_phase hph
  refine ⟨?_, ?_, ?_, uniqueKids_cons_normal hph hu, ?_⟩
  · simp only [List.pairwise_cons]
    exact ⟨fun b _ => by rw [hph]; exact phase_le_two _, h1⟩
  · obtain ⟨a, b, c⟩ := h2
    refine ⟨fun hv => by simp [hleaf] at hv, fun hv x hx => ?_, fun x hx => ?_⟩
    · simp only [List.mem_cons] at hx
      rcases hx with rfl | hx
      · exact hnormal
      · exact b hv x hx
    · simp only [List.mem_cons] at hx
      rcases hx with rfl | hx
      · exact hdoc
      · exact c x hx
  · cases hr : f.rkids with
    | nil => simp [noAdjText]
    | cons y rest =>
      simp only [hr] at h3 hadj ⊢
      simp only [noAdjText, h3, Bool.and_true, Bool.not_eq_true', Bool.and_eq_false_iff]
      by_cases ht : k.value.isText = true
      · right; simpa using hadj ht
      · left; simpa using ht
  · exact List.forall_mem_cons.2 ⟨hk, h4⟩

/-- A finished element becomes the last child of its parent's frame. -/
theorem FrameOk.cons_close {p c : Frame} (hp : FrameOk p) (hc : FrameOk c) (hel : c.value.isElement = true)
    (hleaf : p.value.isLeafKind = false) : FrameOk { p with rkids := c.close :: p.rkids } :=
  have ⟨hph, hdoc, htext⟩ := Value.of_isElement hel
  hp.cons_normal hleaf hph hdoc (fun ht => absurd (htext.symm.trans ht) Bool.false_ne_true)
    (Frame.close_sound hc)

theorem soundAt_leaf (v : Value) : SoundAt v [] := by
  refine ⟨List.Pairwise.nil, ⟨fun _ => rfl, fun _ k hk => by simp at hk, fun k hk => by simp at hk⟩, rfl,
    ⟨List.nodup_nil, List.nodup_nil⟩⟩

theorem forall_leaf (v : Value) : (Tree.node v []).Forall SoundAt := by
  rw [Tree.forall_node]; exact ⟨soundAt_leaf v, fun k hk => by simp at hk⟩

/-- The chain of open frames: elements, then the document node at the bottom. -/
def ShapeOk : List Frame → Prop
  | [] => False
  | [f] => f.value = .document
  | f :: rest => f.value.isElement = true ∧ ShapeOk rest

theorem ShapeOk.head_not_leaf : ∀ {fs : List Frame} {f : Frame}, ShapeOk (f :: fs) → f.value.isLeafKind = false
  | [], f, h => by simp only [ShapeOk] at h; rw [h]; rfl
  | g :: gs, f, h => by
    simp only [ShapeOk] at h
    cases hv : f.value <;> simp_all [Value.isElement, Value.isLeafKind]

/-- The document node is at the bottom of the chain only. -/
theorem ShapeOk.nil_of_document {f : Frame} : ∀ {fs : List Frame}, ShapeOk (f :: fs) → f.value.isDocument = true → fs = []
  | [], _, _ => rfl
  | _ :: _, h, hd => absurd ((Value.of_isElement h.1).2.1.symm.trans hd) Bool.false_ne_true

/-- The prefixes declared so far on the start tag being read are pairwise different. -/
def EbOk (eb : Option ElementBuilder) : Prop :=
  ∀ e, eb = some e → (e.namespaces.map (fun d => d.1)).Nodup

/-- Builder invariant (independent of interning tables, spans, namespace stack): the open
    frames, and the prefixes collected for the start tag being read are pairwise different. -/
def BuilderOk (b : Builder) : Prop :=
  FrameOk b.cur ∧ (∀ p ∈ b.parents, FrameOk p) ∧ ShapeOk (b.cur :: b.parents) ∧ EbOk b.eb

theorem builderOk_new (env : Env) : BuilderOk (Builder.new env) := by
  refine ⟨⟨List.Pairwise.nil, ⟨fun _ => rfl, fun _ k hk => by simp [Builder.new] at hk, fun k hk => by simp [Builder.new] at hk⟩, rfl, ⟨List.nodup_nil, List.nodup_nil⟩, fun k hk => by simp [Builder.new] at hk⟩, fun p hp => by simp [Builder.new] at hp, ?_, fun e he => by simp [Builder.new] at he⟩
  simp [Builder.new, ShapeOk]

/-! ### Steps that add a node to the current frame -/

theorem shape_congr {c c' : Frame} {ps : List Frame} (hv : c'.value = c.value) (hs : ShapeOk (c :: ps)) :
    ShapeOk (c' :: ps) := by
  cases ps with
  | nil => simpa [ShapeOk, hv] using hs
  | cons g gs => simpa [ShapeOk, hv] using hs

/-- The text of the last child is extended (`consolidate_text`): nothing `FrameOk` looks at changes. -/
theorem FrameOk.setText {f : Frame} {s : Str} {ks more : List Tree} (h : FrameOk f)
    (hr : f.rkids = .node (.text s) ks :: more) (s' : Str) :
    FrameOk { f with rkids := .node (.text s') ks :: more } := by
  obtain ⟨h1, ⟨a, c, d⟩, h3, hu, h4⟩ := h
  rw [hr] at h1 a c d h3 hu h4
  refine ⟨List.pairwise_cons.2 (List.pairwise_cons.1 h1), ⟨fun hv => (nomatch a hv), fun hv => ?_, ?_⟩, ?_, ?_, ?_⟩
  · exact List.forall_mem_cons.2 ⟨rfl, (List.forall_mem_cons.1 (c hv)).2⟩
  · exact List.forall_mem_cons.2 ⟨rfl, (List.forall_mem_cons.1 d).2⟩
  · cases more with
    | nil => rfl
    | cons y rest => exact h3
  · unfold UniqueKids at hu ⊢
    rw [attrNames_cons_normal rfl, nsPrefixes_cons_normal rfl] at hu ⊢
    exact hu
  · have ⟨hs, hm⟩ := List.forall_mem_cons.1 h4
    exact List.forall_mem_cons.2 ⟨hs, hm⟩

theorem addText_ok {b : Builder} (content : Str) (h : BuilderOk b) : BuilderOk (b.addText content).1 := by
  obtain ⟨hc, hp, hs, he⟩ := h
  unfold Builder.addText
  split
  · rename_i s ks more hr
    exact ⟨hc.setText hr _, hp, shape_congr (c := b.cur) rfl hs, he⟩
  · rename_i hne
    refine ⟨?_, hp, shape_congr (c := b.cur) rfl hs, he⟩
    refine FrameOk.cons_normal (k := .node (.text content) []) hc hs.head_not_leaf rfl rfl (fun _ => ?_) (forall_leaf _)
    -- the last child is no text node, or `addText` had extended it
    cases hr : b.cur.rkids with
    | nil => rfl
    | cons y rest =>
      obtain ⟨v, ks⟩ := y
      cases v with
      | text s => exact absurd hr (hne s ks rest)
      | _ => rfl

theorem addLeaf_ok {b : Builder} (v : Value) (h : BuilderOk b) (hph : v.phase = 2)
    (hdoc : v.isDocument = false) (htext : v.isText = false) : BuilderOk (b.addLeaf v).1 := by
  obtain ⟨hc, hp, hs, he⟩ := h
  unfold Builder.addLeaf
  refine ⟨?_, hp, shape_congr (c := b.cur) rfl hs, he⟩
  exact FrameOk.cons_normal (k := .node v []) hc hs.head_not_leaf hph hdoc
    (fun ht => by simp [Tree.value, htext] at ht) (forall_leaf _)

theorem builderOk_congr {b b' : Builder} (h : BuilderOk b) (hc : b'.cur = b.cur) (hp : b'.parents = b.parents)
    (he : b'.eb = b.eb) : BuilderOk b' := by
  unfold BuilderOk at h ⊢
  rw [hc, hp, he]; exact h

theorem builderOk_setEb {b b' : Builder} (h : BuilderOk b) (hc : b'.cur = b.cur) (hp : b'.parents = b.parents)
    (he : EbOk b'.eb) : BuilderOk b' := by
  obtain ⟨h1, h2, h3, _⟩ := h
  unfold BuilderOk
  rw [hc, hp]; exact ⟨h1, h2, h3, he⟩

/-! ### Opening an element -/

/-- Children of a fresh element: attribute leaves (names `names`, in order of appearance) in
    front of the namespace leaves for `decls` (all last first). -/
def AttrKids (rk : List Tree) (names : List Nat) (decls : List (Nat × Nat)) : Prop :=
  ∃ attrs : List Tree, rk = attrs ++ namespaceKids decls ∧
    (∀ k ∈ attrs, ∃ n v, k = .node (.attribute n v) []) ∧ attrNames attrs = names.reverse

theorem attrKids_namespaceKids (decls : List (Nat × Nat)) : AttrKids (namespaceKids decls) [] decls :=
  ⟨[], rfl, fun k hk => by simp at hk, rfl⟩

theorem namespaceKids_spec (decls : List (Nat × Nat)) :
    (∀ k ∈ namespaceKids decls, ∃ p n, k = .node (.namespace p n) []) ∧
    attrNames (namespaceKids decls) = [] ∧
    nsPrefixes (namespaceKids decls) = (decls.map (fun d => d.1)).reverse := by
  refine ⟨fun k hk => ?_, ?_, ?_⟩
  · simp only [namespaceKids, List.mem_reverse, List.mem_map] at hk
    obtain ⟨d, _, rfl⟩ := hk
    exact ⟨d.1, d.2, rfl⟩
  · induction decls with
    | nil => rfl
    | cons d ds ih =>
      simp only [namespaceKids, List.map_cons, List.reverse_cons] at ih ⊢
      rw [attrNames_append, ih]; rfl
  · induction decls with
    | nil => rfl
    | cons d ds ih =>
      simp only [namespaceKids, List.map_cons, List.reverse_cons] at ih ⊢
      rw [nsPrefixes_append, ih]; rfl

theorem addAttributes_attrKids (stack : NsStack) (node : Path) (decls : List (Nat × Nat))
    (abs : List AttributeBuilder) (st st' : AttrLoop) (h : AttrKids st.rkids st.seenNames decls)
    (hn : st.seenNames.Nodup) (hr : addAttributes stack node st abs = .ok st') :
    AttrKids st'.rkids st'.seenNames decls ∧ st'.seenNames.Nodup := by
  refine addAttributes_ok_induct (P := fun st => AttrKids st.rkids st.seenNames decls ∧ st.seenNames.Nodup) ?_ ⟨h, hn⟩ hr
  rintro st ab env1 nameId _ _ hnew _ ⟨⟨attrs, he, ha, hnames⟩, hn⟩
  constructor
  · refine ⟨.node (.attribute nameId (xmlIdValue nameId ab.value)) [] :: attrs, by rw [AttrLoop.push_rkids, he]; rfl,
      List.forall_mem_cons.2 ⟨⟨_, _, rfl⟩, ha⟩, ?_⟩
    show nameId :: attrNames attrs = _
    rw [AttrLoop.push_seenNames, hnames, List.reverse_append]; rfl
  · refine List.nodup_append.2 ⟨hn, List.pairwise_singleton _ _, fun a ha c hc => ?_⟩
    rw [List.mem_singleton.1 hc]
    intro hac
    exact hnew (hac ▸ ha)

theorem frameOk_of_attrKids {name : Nat} {rk : List Tree} {names : List Nat} {decls : List (Nat × Nat)}
    (h : AttrKids rk names decls) (hn : names.Nodup) (hd : (decls.map (fun d => d.1)).Nodup) :
    FrameOk ⟨.element name, rk⟩ := by
  obtain ⟨attrs, rfl, ha, hnames⟩ := h
  obtain ⟨hns, hns1, hns2⟩ := namespaceKids_spec decls
  have hattr_ns : nsPrefixes attrs = [] := by
    clear hnames
    induction attrs with
    | nil => rfl
    | cons x xs ih =>
      obtain ⟨n, v, rfl⟩ := ha x (by simp)
      simp only [nsPrefixes, List.filterMap_cons, Tree.value]
      exact ih (fun k hk => ha k (by simp [hk]))
  have hph : ∀ k ∈ attrs ++ namespaceKids decls, k.value.phase ≤ 1 ∧ k.value.isDocument = false ∧ k.value.isText = false ∧ k.Forall SoundAt := by
    intro k hk
    simp only [List.mem_append] at hk
    rcases hk with hk | hk
    · obtain ⟨n, v, rfl⟩ := ha k hk; exact ⟨by simp [Tree.value, Value.phase], rfl, rfl, forall_leaf _⟩
    · obtain ⟨p, n, rfl⟩ := hns k hk; exact ⟨by simp [Tree.value, Value.phase], rfl, rfl, forall_leaf _⟩
  refine ⟨?_, ⟨fun hv => by simp [Value.isLeafKind] at hv, fun hv => by simp [Value.isElement] at hv, fun k hk => (hph k hk).2.1⟩, ?_, ?_, fun k hk => (hph k hk).2.2.2⟩
  · -- attribute leaves have phase 1, namespace leaves phase 0
    have h1 : ∀ a ∈ attrs, a.value.phase = 1 := fun a ha' => by obtain ⟨n, v, rfl⟩ := ha a ha'; rfl
    have h0 : ∀ b ∈ namespaceKids decls, b.value.phase = 0 := fun b hb' => by obtain ⟨p, n, rfl⟩ := hns b hb'; rfl
    refine List.pairwise_append.2 ⟨?_, ?_, fun a ha' b hb' => by rw [h1 a ha', h0 b hb']; exact Nat.zero_le _⟩
    · exact List.Pairwise.imp_of_mem (R := fun _ _ => True)
        (fun ha' hb' _ => by rw [h1 _ ha', h1 _ hb']; exact Nat.le_refl _) (List.pairwise_of_forall fun _ _ => trivial)
    · exact List.Pairwise.imp_of_mem (R := fun _ _ => True)
        (fun ha' hb' _ => by rw [h0 _ ha', h0 _ hb']; exact Nat.le_refl _) (List.pairwise_of_forall fun _ _ => trivial)
  · -- no text at all
    have : ∀ l : List Tree, (∀ k ∈ l, k.value.isText = false) → noAdjText l = true := by
      intro l
      induction l with
      | nil => intro _; rfl
      | cons x xs ih =>
        intro hx
        cases xs with
        | nil => rfl
        | cons y ys =>
          simp only [noAdjText, hx x (by simp), Bool.false_and, Bool.not_false, Bool.true_and]
          exact ih (fun k hk => hx k (by simp [hk]))
    exact this _ (fun k hk => (hph k hk).2.2.1)
  · unfold UniqueKids
    rw [attrNames_append, nsPrefixes_append, hnames, hns1, hns2, hattr_ns]
    simp only [List.append_nil, List.nil_append, nodup_reverse']
    exact ⟨hn, hd⟩

theorem openElement_ok {b b' : Builder} (h : BuilderOk b) (hr : b.openElement = .ok b') : BuilderOk b' := by
  obtain ⟨hc, hp, hs, he⟩ := h
  obtain ⟨eb, env1, nameId, st, heb, _, hst, rfl⟩ := Builder.openElement_ok_inv hr
  obtain ⟨hk, hn⟩ := addAttributes_attrKids _ _ eb.namespaces _ _ st
    (attrKids_namespaceKids eb.namespaces) List.nodup_nil hst
  exact ⟨frameOk_of_attrKids hk hn (he eb heb), List.forall_mem_cons.2 ⟨hc, hp⟩, ⟨rfl, hs⟩, nofun⟩

/-! ### Closing an element -/

theorem toParent_ok {b b' : Builder} (h : BuilderOk b) (hr : b.toParent = .ok b') : BuilderOk b' := by
  obtain ⟨hc, hp, hs, he⟩ := h
  obtain ⟨p, rest, hpar, rfl⟩ := Builder.toParent_ok_inv hr
  rw [hpar] at hs hp
  exact ⟨(hp p (List.mem_cons_self ..)).cons_close hc hs.1 hs.2.head_not_leaf,
    fun q hq => hp q (List.mem_cons_of_mem _ hq), shape_congr (c := p) rfl hs.2, he⟩

theorem leave_ok {b b' : Builder} (node : Path) (sp : StrSpan) (h : BuilderOk b)
    (hr : b.leave node sp = .ok b') : BuilderOk b' := by
  obtain ⟨b2, hb, rfl⟩ := Builder.leave_ok_inv hr
  exact builderOk_congr (toParent_ok h hb) rfl rfl rfl

theorem closeImmediate_ok {b b' : Builder} (sp : StrSpan) (h : BuilderOk b)
    (hr : b.closeImmediate sp = .ok b') : BuilderOk b' := by
  unfold Builder.closeImmediate at hr
  refine leave_ok _ _ ?_ hr
  split
  · exact builderOk_congr h rfl rfl rfl
  · exact h

theorem closeElement_ok {b b' : Builder} (pfx loc sp : StrSpan) (h : BuilderOk b)
    (hr : b.closeElement pfx loc sp = .ok b') : BuilderOk b' := by
  obtain ⟨env1, nameId, _, _, ⟨_, _, hl⟩ | ⟨_, hl⟩⟩ := Builder.closeElement_ok_inv hr
  · exact leave_ok _ _ (b := { b with env := env1, nsStack := _, openPrefixes := _ }) (builderOk_congr h rfl rfl rfl) hl
  · exact leave_ok _ _ (b := { b with env := env1 }) (builderOk_congr h rfl rfl rfl) hl

/-! ### The token loop -/

theorem prefix_ok {b b' : Builder} (p : Str) (u : StrSpan) (sp : Span) (h : BuilderOk b)
    (hr : b.prefix p u sp = .ok b') : BuilderOk b' := by
  obtain ⟨_, eb, _, _, heb, hnew, rfl⟩ := Builder.prefix_ok_inv hr
  refine builderOk_setEb h rfl rfl ?_
  intro e he
  cases he
  rw [List.map_append]
  refine List.nodup_append.2 ⟨h.2.2.2 eb heb, List.pairwise_singleton _ _, fun a ha c hc hac => ?_⟩
  -- the prefix was not among those declared on this start tag
  obtain ⟨d, hd, hda⟩ := List.mem_map.1 ha
  rw [← hac, ← hda] at hc
  have := List.any_eq_false.1 hnew d hd
  rw [List.mem_singleton.1 hc] at this
  exact this (beq_self_eq_true _)

theorem attribute_ok {b b' : Builder} (p l v : StrSpan) (h : BuilderOk b)
    (hr : b.attribute p l v = .ok b') : BuilderOk b' := by
  obtain ⟨eb, _, heb, _, _, rfl⟩ := Builder.attribute_ok_inv hr
  exact builderOk_setEb h rfl rfl (fun e he => by cases he; exact h.2.2.2 eb heb)

theorem text_ok {b b' : Builder} (t : StrSpan) (h : BuilderOk b) (hr : b.text t = .ok b') : BuilderOk b' := by
  obtain ⟨content, _, rfl⟩ := Builder.text_ok_inv hr
  exact builderOk_congr (addText_ok content h) rfl rfl rfl

theorem cdata_ok {b b' : Builder} (t : StrSpan) (h : BuilderOk b) (hr : b.cdata t = .ok b') : BuilderOk b' := by
  rcases Builder.cdata_ok_inv hr with rfl | rfl
  · exact h
  · exact builderOk_congr (addText_ok _ h) rfl rfl rfl

theorem element_ok {b : Builder} (p l : StrSpan) (h : BuilderOk b) : BuilderOk (b.element p l) :=
  builderOk_setEb h rfl rfl (fun e he => by cases he; exact List.nodup_nil)

theorem comment_ok {b : Builder} (t : StrSpan) (h : BuilderOk b) : BuilderOk (b.comment t) :=
  builderOk_congr (addLeaf_ok (.comment (normalizeLineEnds t.text)) h rfl rfl rfl) rfl rfl rfl

theorem processingInstruction_ok {b : Builder} (t : StrSpan) (c : Option StrSpan) (h : BuilderOk b) :
    BuilderOk (b.processingInstruction t c) :=
  builderOk_congr
    (addLeaf_ok (b := { b with env := (b.env.internName t.text Env.noNamespace).1 })
      (.pi (b.env.internName t.text Env.noNamespace).2 (c.map fun c => normalizeLineEnds c.text))
      (builderOk_congr h rfl rfl rfl) rfl rfl rfl) rfl rfl rfl

theorem step_ok {b b' : Builder} (t : Token) (h : BuilderOk b) (hr : b.step t = .ok b') : BuilderOk b' :=
  Builder.step_ok_induct (P := BuilderOk) prefix_ok attribute_ok text_ok cdata_ok element_ok
    openElement_ok closeElement_ok (fun sp h _ => closeImmediate_ok sp h) comment_ok processingInstruction_ok h hr

theorem run_ok (ts : List Token) (lexErr : Option Nat) :
    ∀ {b b' : Builder}, BuilderOk b → b.run ts lexErr = .ok b' → BuilderOk b' :=
  fun h hr => Builder.run_ok_induct (P := fun _ b => BuilderOk b) h (fun _ t _ _ _ hp hs => step_ok t hp hs) hr

/-! ### The finished tree -/

theorem zipInto_sound : ∀ (parents : List Frame) (cur : Frame), FrameOk cur → (∀ p ∈ parents, FrameOk p) →
    ShapeOk (cur :: parents) →
    (zipInto cur.close parents).Forall SoundAt ∧ (zipInto cur.close parents).value = .document
  | [], _, hc, _, hs => ⟨Frame.close_sound hc, hs⟩
  | p :: rest, cur, hc, hp, hs =>
    zipInto_sound rest { p with rkids := cur.close :: p.rkids }
      ((hp p (List.mem_cons_self ..)).cons_close hc hs.1 hs.2.head_not_leaf)
      (fun q hq => hp q (List.mem_cons_of_mem _ hq)) (shape_congr (c := p) rfl hs.2)

theorem root_sound {b : Builder} (h : BuilderOk b) :
    b.root.Forall SoundAt ∧ b.root.value = .document :=
  zipInto_sound b.parents b.cur h.1 h.2.1 h.2.2.1

/-- Whatever `build` accepts is a document-rooted tree that is sound at every node. -/
theorem build_sound {m : Mode} {len : Nat} {env : Env} {ts : List Token} {lexErr : Option Nat} {p : Parsed}
    (h : build m len env ts lexErr = .ok p) : p.tree.Forall SoundAt ∧ p.tree.value = .document := by
  obtain ⟨b, hb, rfl, _⟩ := build_ok_parsed h
  exact root_sound (run_ok ts lexErr (builderOk_new env) hb)

end XotModel
