/-
  Decoded values of accepted input: `parse_content` of XML `Char`s yields XML `Char`s only and a non-empty
  value for a non-empty text; `normalize_xml_id` keeps XML `Char`s and is idempotent; the line-end
  normalisation of CDATA, comment and PI content keeps XML `Char`s, non-emptiness, the absence of `--`, of
  `?>` and of a trailing `-`.
-/
import XotModel.Lemmas.Parse
import XotModel.Lemmas.ParseContentErr
import XotModel.Lemmas.LineEnds
import XotModel.Model.LexOK
import XotModel.Model.Parse

/-! ## `parse_content` and `normalize_xml_id`

  For C03, "accepted ⇒ representable".  References decode to XML Chars: C03_reject_nonchar.
-/

namespace XotModel.Accepted

open XotModel

/-! ### XML `Char`: entity.rs against xmlchar.rs -/

theorem char_eq_of_toNat {c d : Char} (h : c.toNat = d.toNat) : c = d := by
  apply Char.ext
  apply UInt32.toNat_inj.mp
  exact h

theorem isXmlChar_of_code {c : Char} (h : isXmlCharCode c.toNat = true) : isXmlChar c = true := by
  unfold isXmlChar
  simp only [isXmlCharCode, Bool.or_eq_true, beq_iff_eq, Bool.and_eq_true, decide_eq_true_eq] at h
  split
  · next hlt =>
    have : c.toNat = 9 ∨ c.toNat = 10 ∨ c.toNat = 13 := by omega
    rcases this with h9 | h10 | h13
    · rw [char_eq_of_toNat (d := '\t') h9]; rfl
    · rw [char_eq_of_toNat (d := '\n') h10]; rfl
    · rw [char_eq_of_toNat (d := '\r') h13]; rfl
  · simp only [Bool.not_eq_true', Bool.or_eq_false_iff, beq_eq_false_iff_ne, ne_eq]
    omega

theorem isXmlChar_space : isXmlChar ' ' = true := by decide
theorem isXmlChar_lf : isXmlChar '\n' = true := by decide

/-! ### `parse_content` -/

theorem splitSemi_all {P : Char → Bool} {s e r : Str} (h : splitSemi s = some (e, r)) (hs : s.all P = true) :
    r.all P = true := by
  revert e r
  fun_induction splitSemi s with
  | case1 => exact nofun
  | case2 cs =>
    intro e r h
    cases h
    rw [List.all_cons, Bool.and_eq_true] at hs
    exact hs.2
  | case3 c cs _ e' r' hsp ih =>
    intro e r h
    cases h
    rw [List.all_cons, Bool.and_eq_true] at hs
    exact ih hs.2 hsp
  | case4 => exact nofun

theorem skipLf_all {P : Char → Bool} {s : Str} (h : s.all P = true) : (skipLf s).all P = true := by
  unfold skipLf
  split
  · simp only [List.all_cons, Bool.and_eq_true] at h; exact h.2
  · exact h

theorem consOk_chars {c : Char} {r : Except ContentErr Str} {v : Str} (hc : isXmlChar c = true)
    (hr : ∀ w, r = .ok w → w.all isXmlChar = true) (h : consOk c r = .ok v) :
    v.all isXmlChar = true ∧ v ≠ [] := by
  obtain ⟨w, hw, rfl⟩ := consOk_ok h
  exact ⟨by rw [List.all_cons, hc, hr w hw]; rfl, List.cons_ne_nil _ _⟩

theorem parseGo_chars (attr : Bool) (base pos : Nat) (s : Str) :
    ∀ v, s.all isXmlChar = true → parseContentGo attr base pos s = .ok v →
      v.all isXmlChar = true ∧ (s ≠ [] → v ≠ []) := by
  -- every arm that goes on puts one XML `Char` in front: a space or LF, the decoded reference, the character itself
  fun_induction parseContentGo attr base pos s with
  | case1 =>
    intro v _ h
    cases h
    exact ⟨rfl, fun hh => absurd rfl hh⟩
  | case2 pos rest out ih =>
    intro v hs h
    rw [List.all_cons, Bool.and_eq_true] at hs
    exact (consOk_chars (by cases attr; exact isXmlChar_lf; exact isXmlChar_space)
      (fun w hw => (ih w (skipLf_all hs.2) hw).1) h).imp id fun hne _ => hne
  | case3 => intro v _ h; cases h
  | case4 => intro v _ h; cases h
  | case5 pos rest ent rest' hsp stop ch hdec _ ih =>
    intro v hs h
    rw [List.all_cons, Bool.and_eq_true] at hs
    exact (consOk_chars (isXmlChar_of_code (decodeEntity_xmlChar hdec))
      (fun w hw => (ih w (splitSemi_all hsp hs.2) hw).1) h).imp id fun hne _ => hne
  | case6 pos c rest _ _ _ ih =>
    intro v hs h
    rw [List.all_cons, Bool.and_eq_true] at hs
    exact (consOk_chars isXmlChar_space (fun w hw => (ih w hs.2 hw).1) h).imp id fun hne _ => hne
  | case7 pos c rest _ _ _ ih =>
    intro v hs h
    rw [List.all_cons, Bool.and_eq_true] at hs
    exact (consOk_chars hs.1 (fun w hw => (ih w hs.2 hw).1) h).imp id fun hne _ => hne

theorem parseGo_all {attr : Bool} {base pos : Nat} {s v : Str} (hs : s.all isXmlChar = true)
    (h : parseContentGo attr base pos s = .ok v) : v.all isXmlChar = true :=
  (parseGo_chars attr base pos s v hs h).1

theorem parseGo_ne_nil {attr : Bool} {base pos : Nat} {s v : Str} (hs : s.all isXmlChar = true)
    (h : parseContentGo attr base pos s = .ok v) (hne : s ≠ []) : v ≠ [] :=
  (parseGo_chars attr base pos s v hs h).2 hne

/-! ### CDATA line ends -/

theorem replaceCrLf_all (s : Str) (h : s.all isXmlChar = true) : (replaceCrLf s).all isXmlChar = true := by
  fun_induction replaceCrLf s with
  | case1 => rfl
  | case2 => exact h
  | case3 c d rest _ ih =>
    rw [List.all_cons, List.all_cons, Bool.and_eq_true, Bool.and_eq_true] at h
    rw [List.all_cons, isXmlChar_lf, Bool.true_and]
    exact ih h.2.2
  | case4 c d rest _ ih =>
    rw [List.all_cons, Bool.and_eq_true] at h
    rw [List.all_cons, h.1, Bool.true_and]
    exact ih h.2

theorem replaceCr_all (s : Str) (h : s.all isXmlChar = true) : (replaceCr s).all isXmlChar = true := by
  unfold replaceCr
  rw [List.all_map]
  rw [List.all_eq_true] at h ⊢
  intro c hc
  simp only [Function.comp]
  split
  · exact isXmlChar_lf
  · exact h c hc

theorem cdata_value {s : Str} (h : s.all isXmlChar = true) (hne : s ≠ []) :
    (replaceCr (replaceCrLf s)).all isXmlChar = true ∧ replaceCr (replaceCrLf s) ≠ [] := by
  refine ⟨replaceCr_all _ (replaceCrLf_all s h), ?_⟩
  have := replaceCrLf_ne_nil s hne
  unfold replaceCr
  simpa using this

/-! ### `normalize_xml_id` -/

theorem trimSpacesStart_all {P : Char → Bool} : ∀ (s : Str), s.all P = true → (trimSpacesStart s).all P = true := by
  intro s
  rw [trimSpacesStart_eq]
  intro h
  rw [List.all_eq_true] at h ⊢
  intro c hc
  exact h c (List.dropWhile_subset _ hc)

theorem collapseSpaces_all {P : Char → Bool} (b : Bool) (s : Str) (h : s.all P = true) :
    (collapseSpaces b s).all P = true := by
  fun_induction collapseSpaces b s with
  | case1 => rfl
  | case2 cs ih =>
    rw [List.all_cons, Bool.and_eq_true] at h
    exact ih h.2
  | case3 _ cs _ ih =>
    rw [List.all_cons, Bool.and_eq_true] at h ⊢
    exact ⟨h.1, ih h.2⟩
  | case4 _ c cs _ ih =>
    rw [List.all_cons, Bool.and_eq_true] at h ⊢
    exact ⟨h.1, ih h.2⟩

theorem normalizeXmlId_all {P : Char → Bool} (s : Str) (h : s.all P = true) : (normalizeXmlId s).all P = true := by
  unfold normalizeXmlId trimSpaces
  apply collapseSpaces_all
  rw [List.all_reverse]
  apply trimSpacesStart_all
  rw [List.all_reverse]
  exact trimSpacesStart_all s h

theorem collapseSpaces_idem (b : Bool) (s : Str) : collapseSpaces b (collapseSpaces b s) = collapseSpaces b s := by
  fun_induction collapseSpaces b s with
  | case1 => rfl
  | case2 cs ih => exact ih
  | case3 b cs hb ih =>
    cases b with
    | true => exact absurd rfl hb
    | false => rw [collapseSpaces, if_pos rfl, if_neg Bool.false_ne_true, ih]
  | case4 b c cs hc ih => rw [collapseSpaces, if_neg hc, ih]

theorem trimSpacesStart_id {s : Str} (h : s.head? ≠ some ' ') : trimSpacesStart s = s := by
  cases s with
  | nil => rfl
  | cons c cs =>
    have hc : c ≠ ' ' := by simpa using h
    unfold trimSpacesStart
    split
    · next heq => simp only [List.cons.injEq] at heq; exact absurd heq.1 hc
    · rfl

theorem head_trimSpacesStart (s : Str) : (trimSpacesStart s).head? ≠ some ' ' := by
  induction s with
  | nil => simp [trimSpacesStart]
  | cons c cs ih =>
    by_cases hc : c = ' '
    · subst hc
      have : trimSpacesStart (' ' :: cs) = trimSpacesStart cs := by simp [trimSpacesStart]
      rw [this]; exact ih
    · rw [trimSpacesStart_id (by simpa using hc)]
      simpa using hc

theorem getLast_trimSpacesStart (s : Str) (h : s.getLast? ≠ some ' ') : (trimSpacesStart s).getLast? ≠ some ' ' := by
  induction s with
  | nil => simp [trimSpacesStart]
  | cons c cs ih =>
    by_cases hc : c = ' '
    · subst hc
      have : trimSpacesStart (' ' :: cs) = trimSpacesStart cs := by simp [trimSpacesStart]
      rw [this]
      apply ih
      cases cs with
      | nil => simp
      | cons d ds => simpa [List.getLast?_cons_cons] using h
    · rw [trimSpacesStart_id (by simpa using hc)]
      exact h

theorem head_collapseSpaces (s : Str) : (collapseSpaces false s).head? = s.head? := by
  cases s with
  | nil => rfl
  | cons c cs =>
    unfold collapseSpaces
    by_cases hc : c = ' '
    · subst hc; simp
    · simp [hc]

theorem collapseSpaces_getLast {x : Char} (hx : x ≠ ' ') (b : Bool) (s : Str) (h : s.getLast? = some x) :
    (collapseSpaces b s).getLast? = some x := by
  have tail : ∀ {l : Str}, (' ' :: l).getLast? = some x → l.getLast? = some x := by
    intro l hl
    cases l with
    | nil => exact absurd (Option.some.inj hl).symm hx
    | cons d ds => rwa [List.getLast?_cons_cons] at hl
  have cons : ∀ {a : Char} {l : Str}, l.getLast? = some x → (a :: l).getLast? = some x := by
    intro a l hl
    cases l with
    | nil => cases hl
    | cons d ds => rwa [List.getLast?_cons_cons]
  fun_induction collapseSpaces b s with
  | case1 => cases h
  | case2 cs ih => exact ih (tail h)
  | case3 _ cs _ ih => exact cons (ih (tail h))
  | case4 _ c cs _ ih =>
    cases cs with
    | nil => exact h
    | cons d ds => exact cons (ih (by rwa [List.getLast?_cons_cons] at h))

theorem getLast_collapseSpaces (b : Bool) (s : Str) (h : s.getLast? ≠ some ' ') :
    (collapseSpaces b s).getLast? ≠ some ' ' := by
  cases hs : s.getLast? with
  | none =>
    rw [List.getLast?_eq_none_iff.mp hs]
    exact nofun
  | some x =>
    have hx : x ≠ ' ' := fun e => h (by rw [hs, e])
    rw [collapseSpaces_getLast hx b s hs]
    exact fun e => hx (Option.some.inj e)

theorem trimSpaces_ends (s : Str) : (trimSpaces s).head? ≠ some ' ' ∧ (trimSpaces s).getLast? ≠ some ' ' := by
  unfold trimSpaces
  constructor
  · rw [List.head?_reverse]
    apply getLast_trimSpacesStart
    rw [List.getLast?_reverse]
    exact head_trimSpacesStart s
  · rw [List.getLast?_reverse]
    exact head_trimSpacesStart _

theorem trimSpaces_id {s : Str} (h1 : s.head? ≠ some ' ') (h2 : s.getLast? ≠ some ' ') : trimSpaces s = s := by
  unfold trimSpaces
  rw [trimSpacesStart_id h1, trimSpacesStart_id (by rw [List.head?_reverse]; exact h2), List.reverse_reverse]

theorem normalizeXmlId_idem (s : Str) : normalizeXmlId (normalizeXmlId s) = normalizeXmlId s := by
  unfold normalizeXmlId
  obtain ⟨h1, h2⟩ := trimSpaces_ends s
  rw [trimSpaces_id (by rw [head_collapseSpaces]; exact h1) (getLast_collapseSpaces false _ h2)]
  exact collapseSpaces_idem false _

end XotModel.Accepted

/-! ## Line ends of comment text and processing-instruction data

  `normalizeLineEnds` (CR LF → LF, then CR → LF) as `DocumentBuilder::comment` / `processing_instruction`
  apply it; it also keeps the last character and a first character that is not white space.
-/

namespace XotModel
namespace Accepted

/-- Two neighbouring characters `a`, `b`. -/
def adj (a b : Char) : Str → Bool
  | c :: d :: rest => (c == a && d == b) || adj a b (d :: rest)
  | _ => false

theorem hasInfix2_eq_adj (a b : Char) : ∀ s : Str, hasInfix [a, b] s = adj a b s
  | [] => rfl
  | [c] => by simp [hasInfix, adj, List.isPrefixOf]
  | c :: d :: rest => by
    rw [hasInfix, hasInfix2_eq_adj a b (d :: rest), adj]
    congr 1
    simp only [List.isPrefixOf, Bool.and_true]
    rw [Bool.eq_iff_iff]
    simp only [Bool.and_eq_true, beq_iff_eq]
    exact ⟨fun h => ⟨h.1.symm, h.2.symm⟩, fun h => ⟨h.1.symm, h.2.symm⟩⟩

theorem adj_cons_false {a b c : Char} {s : Str} (h : adj a b (c :: s) = false) : adj a b s = false := by
  cases s with
  | nil => rfl
  | cons d rest =>
    rw [adj, Bool.or_eq_false_iff] at h
    exact h.2

theorem replaceCrLf_head (d : Char) (rest : Str) :
    ∃ tl, replaceCrLf (d :: rest) = d :: tl ∨ replaceCrLf (d :: rest) = '\n' :: tl := by
  cases rest with
  | nil => exact ⟨[], .inl (by simp [replaceCrLf])⟩
  | cons e rest' =>
    unfold replaceCrLf
    split
    · exact ⟨_, .inr rfl⟩
    · exact ⟨_, .inl rfl⟩

theorem adj_replaceCrLf {a b : Char} (ha : a ≠ '\n') (hb : b ≠ '\n') :
    ∀ s : Str, adj a b s = false → adj a b (replaceCrLf s) = false
  | [], _ => by simp [replaceCrLf, adj]
  | [c], _ => by simp [replaceCrLf, adj]
  | c :: d :: rest, h => by
    have h' := h
    rw [adj, Bool.or_eq_false_iff] at h'
    unfold replaceCrLf
    split
    · -- LF followed by the rest
      have ih := adj_replaceCrLf ha hb rest (adj_cons_false h'.2)
      cases hr : replaceCrLf rest with
      | nil => simp [adj]
      | cons x xs =>
        rw [adj, ← hr, ih, Bool.or_false]
        have : (('\n' : Char) == a) = false := by simpa using fun e : '\n' = a => ha e.symm
        simp [this]
    · have ih := adj_replaceCrLf ha hb (d :: rest) h'.2
      obtain ⟨tl, htl | htl⟩ := replaceCrLf_head d rest
      · rw [htl] at ih ⊢
        rw [adj, ih, Bool.or_false]
        exact h'.1
      · rw [htl] at ih ⊢
        rw [adj, ih, Bool.or_false]
        have : (('\n' : Char) == b) = false := by simpa using fun e : '\n' = b => hb e.symm
        simp [this]

theorem adj_replaceCr {a b : Char} (ha : a ≠ '\n') (hb : b ≠ '\n') :
    ∀ s : Str, adj a b s = false → adj a b (replaceCr s) = false
  | [], _ => by simp [replaceCr, adj]
  | [c], _ => by simp [replaceCr, adj]
  | c :: d :: rest, h => by
    rw [adj, Bool.or_eq_false_iff] at h
    have ih := adj_replaceCr ha hb (d :: rest) h.2
    simp only [replaceCr, List.map_cons] at ih ⊢
    rw [adj, ih, Bool.or_false]
    by_cases hc : c = '\r'
    · have : (('\n' : Char) == a) = false := by simpa using fun e : '\n' = a => ha e.symm
      simp [hc, this]
    · by_cases hd : d = '\r'
      · have : (('\n' : Char) == b) = false := by simpa using fun e : '\n' = b => hb e.symm
        simp [hd, this]
      · simpa [hc, hd] using h.1

theorem hasInfix2_normalize {a b : Char} (ha : a ≠ '\n') (hb : b ≠ '\n') {s : Str}
    (h : hasInfix [a, b] s = false) : hasInfix [a, b] (normalizeLineEnds s) = false := by
  rw [hasInfix2_eq_adj] at h ⊢
  exact adj_replaceCr ha hb _ (adj_replaceCrLf ha hb s h)

/-- The last character stays (a CR is only dropped in front of an LF). -/
theorem replaceCrLf_getLast? (s : Str) : (replaceCrLf s).getLast? = s.getLast? := by
  fun_induction replaceCrLf s with
  | case1 => rfl
  | case2 => rfl
  | case3 c d rest hcd ih =>
    cases rest with
    | nil => rw [hcd.2]; rfl
    | cons e rest' =>
      rw [List.getLast?_cons_of_ne_nil (replaceCrLf_ne_nil _ (List.cons_ne_nil _ _)), ih, List.getLast?_cons_cons,
        List.getLast?_cons_cons]
  | case4 c d rest _ ih =>
    rw [List.getLast?_cons_of_ne_nil (replaceCrLf_ne_nil _ (List.cons_ne_nil _ _)), ih, List.getLast?_cons_cons]

theorem normalizeLineEnds_getLast? (s : Str) :
    (normalizeLineEnds s).getLast? = s.getLast?.map (fun c => if c = '\r' then '\n' else c) := by
  unfold normalizeLineEnds replaceCr
  rw [List.getLast?_map, replaceCrLf_getLast?]

theorem normalizeLineEnds_last_ne {s : Str} {x : Char} (hx : x ≠ '\n') (h : s.getLast? ≠ some x) :
    (normalizeLineEnds s).getLast? ≠ some x := by
  rw [normalizeLineEnds_getLast?]
  cases hl : s.getLast? with
  | none => simp
  | some c =>
    rw [hl] at h
    simp only [Option.map_some, ne_eq, Option.some.injEq]
    split
    · exact fun e => hx e.symm
    · exact fun e => h (by rw [e])

theorem normalizeLineEnds_all {s : Str} (h : s.all isXmlChar = true) :
    (normalizeLineEnds s).all isXmlChar = true :=
  replaceCr_all _ (replaceCrLf_all s h)

theorem normalizeLineEnds_head {s : Str} (h : s.head?.any isXmlSpace = false) :
    (normalizeLineEnds s).head?.any isXmlSpace = false := by
  cases s with
  | nil => simp [normalizeLineEnds_nil]
  | cons c rest =>
    have hc : isXmlSpace c = false := by simpa using h
    have hcr : c ≠ '\r' := by
      intro e; rw [e] at hc; revert hc; decide
    have : ∃ tl, replaceCrLf (c :: rest) = c :: tl := by
      cases rest with
      | nil => exact ⟨[], by simp [replaceCrLf]⟩
      | cons d rest' =>
        refine ⟨replaceCrLf (d :: rest'), ?_⟩
        rw [replaceCrLf]
        simp [hcr]
    obtain ⟨tl, htl⟩ := this
    simp only [normalizeLineEnds, htl, replaceCr, List.map_cons, hcr, if_false, List.head?_cons,
      Option.any_some, hc]

/-- The comment conditions survive normalisation, and the result has no CR. -/
theorem commentAcc_normalize {s : Str}
    (h : (s.all isXmlChar && !hasInfix ['-', '-'] s && s.getLast? != some '-') = true) :
    (normalizeLineEnds s).all isXmlChar = true ∧ hasInfix ['-', '-'] (normalizeLineEnds s) = false ∧
      (normalizeLineEnds s).getLast? ≠ some '-' ∧ (normalizeLineEnds s).contains '\r' = false := by
  simp only [Bool.and_eq_true, Bool.not_eq_true', bne_iff_ne, ne_eq] at h
  refine ⟨normalizeLineEnds_all h.1.1, hasInfix2_normalize (by decide) (by decide) h.1.2,
    normalizeLineEnds_last_ne (by decide) h.2, ?_⟩
  simpa using normalizeLineEnds_no_cr s

/-- The PI-data conditions survive normalisation, and the result has no CR. -/
theorem piData_normalize {s : Str}
    (h : (!s.isEmpty && !(s.head?.any isXmlSpace) && s.all isXmlChar && !hasInfix ['?', '>'] s) = true) :
    (!(normalizeLineEnds s).isEmpty && !((normalizeLineEnds s).head?.any isXmlSpace) &&
      (normalizeLineEnds s).all isXmlChar && !hasInfix ['?', '>'] (normalizeLineEnds s) &&
      !(normalizeLineEnds s).contains '\r') = true := by
  simp only [Bool.and_eq_true, Bool.not_eq_true', List.isEmpty_eq_false_iff] at h
  obtain ⟨⟨⟨h1, h2⟩, h3⟩, h4⟩ := h
  simp only [Bool.and_eq_true, Bool.not_eq_true', List.isEmpty_eq_false_iff]
  refine ⟨⟨⟨⟨normalizeLineEnds_ne_nil h1, normalizeLineEnds_head h2⟩, normalizeLineEnds_all h3⟩,
    hasInfix2_normalize (by decide) (by decide) h4⟩, ?_⟩
  simpa using normalizeLineEnds_no_cr s

end Accepted
end XotModel
