/-
  Every node an entry point of access.rs / levelorder.rs hands out is a node of the tree: for a
  well-formed tree `t` and a valid start path `p`, every path in the answer of every traversal is a
  valid path of `t` (`trav_valid`).  `Trav` enumerates the entry points of Model/Axes.lean;
  `Trav.result` flattens their answers (options, edges, level-order items, outcomes) to the list of
  node paths occurring in them.
-/
import XotModel.Lemmas.AxesCats
import XotModel.Model.AxesChildLists

namespace XotModel.Axes

/-- The node-returning entry points. -/
inductive Trav where
  | parent | firstChild | lastChild | nextSibling | previousSibling
  | ancestors | children | allChildren | abnormalChildren | namespaceNodes | attributeNodes
  | reverseChildren | descendants | allDescendants | followingSiblings | precedingSiblings
  | following | allFollowing | preceding | reversePreorder | allReversePreorder
  | traverse | allTraverse | reverseTraverse | reverseAllTraverse
  | edgeNextStart | edgeNextEnd | edgePreviousStart | edgePreviousEnd
  | levelOrder | root | topElement | documentElement
  | axis (a : Axis)
  deriving Repr, DecidableEq

def outcomePaths : Outcome AxErr Path → List Path
  | .ok p => [p]
  | _ => []

def LevelOrder.node? : LevelOrder → Option Path
  | .node p => some p
  | .stop => none

def optEdgePaths : Option Edge → List Path
  | some e => [e.node]
  | none => []

/-- The node paths occurring in the answer of the entry point at `p`. -/
def Trav.result (t : Tree) (p : Path) : Trav → List Path
  | .parent => (Axes.parent p).toList
  | .firstChild => (Axes.firstChild t p).toList
  | .lastChild => (Axes.lastChild t p).toList
  | .nextSibling => (Axes.nextSibling t p).toList
  | .previousSibling => (Axes.previousSibling t p).toList
  | .ancestors => Axes.ancestors p
  | .children => Axes.children t p
  | .allChildren => (Axes.allChildren t p).map (·.1)
  | .abnormalChildren => (Axes.abnormalChildren t p).map (·.1)
  | .namespaceNodes => Axes.namespaceNodes t p
  | .attributeNodes => Axes.attributeNodes t p
  | .reverseChildren => Axes.reverseChildren t p
  | .descendants => Axes.descendants t p
  | .allDescendants => Axes.allDescendants t p
  | .followingSiblings => Axes.followingSiblings t p
  | .precedingSiblings => Axes.precedingSiblings t p
  | .following => Axes.following t p
  | .allFollowing => Axes.allFollowing t p
  | .preceding => Axes.preceding t p
  | .reversePreorder => Axes.reversePreorder t p
  | .allReversePreorder => Axes.allReversePreorder t p
  | .traverse => (Axes.traverse t p).map Edge.node
  | .allTraverse => (Axes.allTraverse t p).map Edge.node
  | .reverseTraverse => (Axes.reverseTraverse t p).map Edge.node
  | .reverseAllTraverse => (Axes.reverseAllTraverse t p).map Edge.node
  | .edgeNextStart => optEdgePaths (Edge.next t (.start p))
  | .edgeNextEnd => optEdgePaths (Edge.next t (.stop p))
  | .edgePreviousStart => optEdgePaths (Edge.previous t (.start p))
  | .edgePreviousEnd => optEdgePaths (Edge.previous t (.stop p))
  | .levelOrder => (Axes.levelOrder t p).filterMap LevelOrder.node?
  | .root => outcomePaths (Axes.root p)
  | .topElement => outcomePaths (Axes.topElement t p)
  | .documentElement => outcomePaths (Axes.documentElement t p)
  | .axis a => Axes.axis t a p

theorem valid_append {t : Tree} {p q : Path} (h : Valid t p) (hq : Valid (subAt t p) q) : Valid t (p ++ q) := by
  have h1 := h.at?
  unfold Valid at *
  rw [at?_append, h1]
  exact hq

theorem valid_allChildren {t : Tree} {p : Path} (h : Valid t p) :
    ∀ q ∈ (allChildren t p).map (·.1), Valid t q := by
  intro q hq
  obtain ⟨x, hx, rfl⟩ := List.mem_map.mp hq
  exact (allChildren_item h hx).2.1

theorem valid_sub_allChildren {t : Tree} {p : Path} (h : Valid t p) {l : List (Path × Tree)}
    (hl : l.Sublist (allChildren t p)) : ∀ q ∈ l.map (·.1), Valid t q := by
  intro q hq
  obtain ⟨x, hx, rfl⟩ := List.mem_map.mp hq
  exact (allChildren_item h (hl.subset hx)).2.1

theorem valid_rawChildPaths {t : Tree} {p : Path} (h : Valid t p) : ∀ q ∈ rawChildPaths t p, Valid t q := by
  rw [← allChildren_paths]; exact valid_allChildren h

theorem valid_parent {t : Tree} {p q : Path} (h : Valid t p) (hq : parent p = some q) : Valid t q := by
  obtain ⟨j, rfl⟩ := (parent_eq_some_iff _ _).mp hq
  exact valid_prefix h

theorem valid_ancestors {t : Tree} {p : Path} (hw : wf t = true) (h : Valid t p) :
    ∀ q ∈ ancestors p, Valid t q := by
  intro q hq
  rw [ancestors_eq, ← axis_ancestor_eq t p, List.mem_cons] at hq
  rcases hq with rfl | hq
  · exact h
  · exact (ancestor_normal_only hw h q hq).1

theorem valid_firstChild {t : Tree} {p q : Path} (h : Valid t p) (hq : firstChild t p = some q) : Valid t q := by
  rw [firstChild_eq] at hq
  exact (children_valid h (List.mem_of_mem_head? hq)).1

theorem valid_lastChild {t : Tree} {p q : Path} (h : Valid t p) (hq : lastChild t p = some q) : Valid t q := by
  unfold lastChild at hq
  cases hl : (allChildren t p).getLast? with
  | none => rw [hl] at hq; cases hq
  | some x =>
    rw [hl] at hq
    simp only at hq
    split at hq
    · cases hq; exact (allChildren_item h (List.mem_of_getLast? hl)).2.1
    · cases hq

theorem valid_internalNextSibling {t : Tree} {p q : Path} (h : Valid t p)
    (hq : internalNextSibling t p = some q) : Valid t q := by
  rcases path_cases p with rfl | ⟨π, i, rfl⟩
  · simp at hq
  · have hπ := valid_prefix h
    have h1 := hπ.at?
    rw [tree_eta (subAt t π)] at h1
    rw [internalNextSibling_snoc h1] at hq
    split at hq
    · cases hq; exact (valid_snoc_iff hπ _).mpr (by assumption)
    · cases hq

theorem valid_internalPreviousSibling {t : Tree} {p q : Path} (h : Valid t p)
    (hq : internalPreviousSibling p = some q) : Valid t q := by
  rcases path_cases p with rfl | ⟨π, i, rfl⟩
  · simp [internalPreviousSibling, splitLast] at hq
  · have hπ := valid_prefix h
    have hi := (valid_snoc_iff hπ i).mp h
    rw [internalPreviousSibling_snoc] at hq
    split at hq
    · cases hq
    · cases hq; exact (valid_snoc_iff hπ _).mpr (by omega)

theorem valid_nextSibling {t : Tree} {p q : Path} (h : Valid t p) (hq : nextSibling t p = some q) : Valid t q :=
  valid_internalNextSibling h (nextSibling_eq_some.mp hq).1

theorem valid_previousSibling {t : Tree} {p q : Path} (h : Valid t p) (hq : previousSibling t p = some q) :
    Valid t q :=
  valid_internalPreviousSibling h (previousSibling_eq_some.mp hq).1

theorem valid_followingSiblings {t : Tree} {p : Path} (h : Valid t p) : ∀ q ∈ followingSiblings t p, Valid t q := by
  intro q hq
  rcases path_cases p with rfl | ⟨π, i, rfl⟩
  · rw [(siblings_root t).1] at hq; simp at hq; subst hq; exact h
  · rw [(followingSiblings_snoc h).1, List.mem_cons] at hq
    rcases hq with rfl | hq
    · exact h
    · exact valid_rawChildPaths (valid_prefix h) q ((List.drop_sublist _ _).subset (List.mem_filter.mp hq).1)

theorem valid_precedingSiblings {t : Tree} {p : Path} (h : Valid t p) : ∀ q ∈ precedingSiblings t p, Valid t q := by
  intro q hq
  rcases path_cases p with rfl | ⟨π, i, rfl⟩
  · rw [(siblings_root t).2.1] at hq; simp at hq; subst hq; exact h
  · rw [(precedingSiblings_snoc h).1, List.mem_cons] at hq
    rcases hq with rfl | hq
    · exact h
    · rw [List.mem_reverse] at hq
      exact valid_rawChildPaths (valid_prefix h) q ((List.take_sublist _ _).subset (List.mem_filter.mp hq).1)

mutual
  theorem rawEdges_valid : ∀ (s : Tree) (e : Edge), e ∈ rawEdges s → Valid s e.node
    | .node v ks, e, h => by
      simp only [rawEdges, List.mem_cons, List.mem_append, List.not_mem_nil, or_false] at h
      rcases h with rfl | h | rfl
      · exact valid_nil _
      · simpa using rawEdgesList_valid v ks 0 [] e rfl h
      · exact valid_nil _
  theorem rawEdgesList_valid (v : Value) : ∀ (ks : List Tree) (i : Nat) (pre : List Tree) (e : Edge),
      i = pre.length → e ∈ rawEdgesList i ks → Valid (.node v (pre ++ ks)) e.node
    | [], _, _, _, _, h => by simp [rawEdgesList] at h
    | k :: ks, i, pre, e, hi, h => by
      simp only [rawEdgesList, List.mem_append, List.mem_map] at h
      rcases h with ⟨e', he', rfl⟩ | h
      · have := rawEdges_valid k e' he'
        cases e' <;>
        · simp only [Edge.mapPath, Edge.node] at this ⊢
          unfold Valid at *
          simp only [Tree.at?]
          rw [hi]
          simpa using this
      · have := rawEdgesList_valid v ks (i + 1) (pre ++ [k]) e (by simp [hi]) h
        simpa using this
end

theorem valid_arenaTraverse {t : Tree} {p : Path} (h : Valid t p) : ∀ e ∈ arenaTraverse t p, Valid t e.node := by
  intro e he
  unfold arenaTraverse at he
  obtain ⟨e', he', rfl⟩ := List.mem_map.mp he
  have := rawEdges_valid _ e' he'
  cases e' <;> exact valid_append h this

theorem withEnds_nodes : ∀ (last : Path) (l : List Path), (withEnds last l).filterMap LevelOrder.node? = l
  | _, [] => by simp [withEnds, LevelOrder.node?]
  | last, n :: ns => by
    simp only [withEnds]
    split <;>
      simp only [List.cons_append, List.nil_append, List.filterMap_cons, LevelOrder.node?, withEnds_nodes n ns]

theorem valid_levelOrder {t : Tree} {p : Path} (h : Valid t p) :
    ∀ q ∈ (levelOrder t p).filterMap LevelOrder.node?, Valid t q := by
  intro q hq
  rw [levelOrder_eq h, withEnds_nodes] at hq
  unfold bfsOrder at hq
  obtain ⟨k, _, hk⟩ := List.mem_flatMap.mp hq
  exact (levelAt_valid h k q hk).1

theorem valid_documentElement {t : Tree} {p c : Path} (h : Valid t p) (hc : documentElement t p = .ok c) :
    Valid t c := by
  rw [documentElement_eq] at hc
  split at hc
  · cases hf : (children t p).find? (fun c => (valueAt t c).isElement) with
    | none => rw [hf] at hc; cases hc
    | some c' =>
      rw [hf] at hc
      simp only [docElemOf, Outcome.ok.injEq] at hc
      subst hc
      exact (children_valid h (List.mem_of_find?_eq_some hf)).1
  · cases hc

theorem valid_topElement {t : Tree} {p c : Path} (hw : wf t = true) (h : Valid t p)
    (hc : topElement t p = .ok c) : Valid t c := by
  unfold topElement at hc
  split at hc
  · cases hd : documentElement t p with
    | ok c' => rw [hd] at hc; cases hc; exact valid_documentElement h hd
    | err e => rw [hd] at hc; cases hc; exact h
    | panic => rw [hd] at hc; cases hc; exact h
  · simp only [Outcome.ok.injEq] at hc
    rw [foldl_last] at hc
    cases hf : (ancestors p).reverse.find? (fun a => (valueAt t a).isElement) with
    | none => rw [hf] at hc; simp at hc; subst hc; exact h
    | some a =>
      rw [hf] at hc; simp at hc; subst hc
      exact valid_ancestors hw h _ (List.mem_reverse.mp (List.mem_of_find?_eq_some hf))

theorem valid_optEdge_next {t : Tree} {e : Edge} (h : Valid t e.node) :
    ∀ q ∈ optEdgePaths (Edge.next t e), Valid t q := by
  intro q hq
  cases e with
  | start c =>
    simp only [Edge.next] at hq
    cases hf : firstChild t c with
    | none => rw [hf] at hq; simp [optEdgePaths, Edge.node] at hq; subst hq; exact h
    | some x => rw [hf] at hq; simp [optEdgePaths, Edge.node] at hq; subst hq; exact valid_firstChild h hf
  | stop c =>
    simp only [Edge.next] at hq
    cases hf : nextSibling t c with
    | some x => rw [hf] at hq; simp [optEdgePaths, Edge.node] at hq; subst hq; exact valid_nextSibling h hf
    | none =>
      rw [hf] at hq
      cases hp : parent c with
      | none => rw [hp] at hq; simp [optEdgePaths] at hq
      | some x => rw [hp] at hq; simp [optEdgePaths, Edge.node] at hq; subst hq; exact valid_parent h hp

theorem valid_optEdge_previous {t : Tree} {e : Edge} (h : Valid t e.node) :
    ∀ q ∈ optEdgePaths (Edge.previous t e), Valid t q := by
  intro q hq
  cases e with
  | stop c =>
    simp only [Edge.previous] at hq
    cases hf : lastChild t c with
    | none => rw [hf] at hq; simp [optEdgePaths, Edge.node] at hq; subst hq; exact h
    | some x => rw [hf] at hq; simp [optEdgePaths, Edge.node] at hq; subst hq; exact valid_lastChild h hf
  | start c =>
    simp only [Edge.previous] at hq
    cases hf : previousSibling t c with
    | some x => rw [hf] at hq; simp [optEdgePaths, Edge.node] at hq; subst hq; exact valid_previousSibling h hf
    | none =>
      rw [hf] at hq
      cases hp : parent c with
      | none => rw [hp] at hq; simp [optEdgePaths] at hq
      | some x => rw [hp] at hq; simp [optEdgePaths, Edge.node] at hq; subst hq; exact valid_parent h hp

theorem valid_axis {t : Tree} {p : Path} (hw : wf t = true) (h : Valid t p) (a : Axis) :
    ∀ q ∈ axis t a p, Valid t q := by
  intro q hq
  cases a with
  | child => exact (children_valid h hq).1
  | descendant => exact (descendants_normal_only h q ((List.drop_sublist _ _).subset hq)).1
  | parent =>
    simp only [axis] at hq
    cases hp : parent p with
    | none => rw [hp] at hq; simp at hq
    | some x => rw [hp] at hq; simp at hq; subst hq; exact valid_parent h hp
  | ancestor => exact (ancestor_normal_only hw h q hq).1
  | followingSibling => exact valid_followingSiblings h q ((List.drop_sublist _ _).subset hq)
  | precedingSibling => exact valid_precedingSiblings h q ((List.drop_sublist _ _).subset hq)
  | following => exact (following_normal_only h q hq).1
  | preceding => exact (preceding_normal_only hw h q hq).1
  | «attribute» => exact (attributeNodes_sound h hq).2.2
  | self => simp [axis] at hq; subst hq; exact h
  | descendantOrSelf => exact (descendants_normal_only h q hq).1
  | ancestorOrSelf => exact valid_ancestors hw h q hq

/-- **Every node handed out by a traversal is a node of the tree.** -/
theorem trav_valid {t : Tree} {p : Path} (hw : wf t = true) (h : Valid t p) (tr : Trav) :
    ∀ q ∈ tr.result t p, Valid t q := by
  intro q hq
  cases tr with
  | parent => exact valid_parent h (by simpa [Trav.result] using hq)
  | firstChild => exact valid_firstChild h (by simpa [Trav.result] using hq)
  | lastChild => exact valid_lastChild h (by simpa [Trav.result] using hq)
  | nextSibling => exact valid_nextSibling h (by simpa [Trav.result] using hq)
  | previousSibling => exact valid_previousSibling h (by simpa [Trav.result] using hq)
  | ancestors => exact valid_ancestors hw h q hq
  | children => exact (children_valid h hq).1
  | allChildren => exact valid_allChildren h q hq
  | abnormalChildren => exact valid_sub_allChildren h (List.takeWhile_sublist _) q hq
  | namespaceNodes => exact valid_sub_allChildren h (List.takeWhile_sublist _) q hq
  | attributeNodes => exact (attributeNodes_sound h hq).2.2
  | reverseChildren =>
    simp only [Trav.result] at hq
    rw [reverseChildren_eq_spec h] at hq
    exact valid_rawChildPaths h q (List.mem_reverse.mp ((List.takeWhile_sublist _).subset hq))
  | descendants => exact (descendants_normal_only h q hq).1
  | allDescendants =>
    simp only [Trav.result, allDescendants] at hq
    rw [arenaDescendants_eq h] at hq
    exact (mem_allPre_iff t q).mp (List.mem_filter.mp hq).1
  | followingSiblings => exact valid_followingSiblings h q hq
  | precedingSiblings => exact valid_precedingSiblings h q hq
  | following => exact (following_normal_only h q hq).1
  | allFollowing =>
    simp only [Trav.result] at hq
    rw [allFollowing_eq h] at hq
    exact (mem_allPre_iff t q).mp (List.mem_filter.mp hq).1
  | preceding => exact (preceding_normal_only hw h q hq).1
  | reversePreorder => exact (reversePreorder_normal_only h q hq).1
  | allReversePreorder =>
    simp only [Trav.result] at hq
    rw [allReversePreorder_eq h, List.mem_reverse] at hq
    exact (mem_allPre_iff t q).mp (List.mem_filter.mp hq).1
  | traverse =>
    obtain ⟨e, he, rfl⟩ := List.mem_map.mp hq
    exact valid_arenaTraverse h e (List.mem_filter.mp he).1
  | allTraverse =>
    obtain ⟨e, he, rfl⟩ := List.mem_map.mp hq
    exact valid_arenaTraverse h e he
  | reverseTraverse =>
    obtain ⟨e, he, rfl⟩ := List.mem_map.mp hq
    exact valid_arenaTraverse h e (List.mem_reverse.mp (List.mem_filter.mp he).1)
  | reverseAllTraverse =>
    obtain ⟨e, he, rfl⟩ := List.mem_map.mp hq
    exact valid_arenaTraverse h e (List.mem_reverse.mp he)
  | edgeNextStart => exact valid_optEdge_next (e := .start p) h q hq
  | edgeNextEnd => exact valid_optEdge_next (e := .stop p) h q hq
  | edgePreviousStart => exact valid_optEdge_previous (e := .start p) h q hq
  | edgePreviousEnd => exact valid_optEdge_previous (e := .stop p) h q hq
  | levelOrder => exact valid_levelOrder h q hq
  | root =>
    simp only [Trav.result, root] at hq
    cases hl : (ancestors p).getLast? with
    | none => rw [hl] at hq; simp [outcomePaths] at hq
    | some r =>
      rw [hl] at hq; simp [outcomePaths] at hq; subst hq
      exact valid_ancestors hw h _ (List.mem_of_getLast? hl)
  | topElement =>
    simp only [Trav.result] at hq
    cases hc : topElement t p with
    | ok c => rw [hc] at hq; simp [outcomePaths] at hq; subst hq; exact valid_topElement hw h hc
    | err e => rw [hc] at hq; simp [outcomePaths] at hq
    | panic => rw [hc] at hq; simp [outcomePaths] at hq
  | documentElement =>
    simp only [Trav.result] at hq
    cases hc : documentElement t p with
    | ok c => rw [hc] at hq; simp [outcomePaths] at hq; subst hq; exact valid_documentElement h hc
    | err e => rw [hc] at hq; simp [outcomePaths] at hq
    | panic => rw [hc] at hq; simp [outcomePaths] at hq
  | axis a => exact valid_axis hw h a q hq

end XotModel.Axes
