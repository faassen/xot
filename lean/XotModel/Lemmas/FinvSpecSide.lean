/-
  The four moves keep `Forest.Inv`, for every forest with the invariant and every argument.  A move is refused
  with the forest unchanged (`append_outcome` …, Lemmas/FatomMoves), or it is accepted, and then its result is
  the pair-reading specification `specMoveP` applied to the forest (`append_pair` …, Lemmas/FspecPair*).  The
  specification is a composition of edits of one child list each, and an edit whose new child list is locally
  valid keeps validity (`Prog.stage`).

  If consolidation has never been off the forest has no adjacent text nodes, the pair reading is the run reading,
  and `Prog.specMove_inv` says that it keeps the invariant.  Otherwise validity is the non-strict one, and all it
  needs of the pair merges `mergeAdj`, `mergeNew` is that they only merge text (`Spec.TextMerge`): the shapes of
  the new list are a sublist of the old shapes, and every member is an old member or a text leaf with new data;
  `specMoveP_inv_off` is then the instance of `Prog.move_valid` for these two merges.
-/
import XotModel.Lemmas.FatomMoves
import XotModel.Lemmas.FspecPairAppend
import XotModel.Lemmas.FspecPairAfter
import XotModel.Lemmas.FspecPairBefore
import XotModel.Lemmas.FspecPairFrame
import XotModel.Lemmas.SpecSideMove

namespace XotModel
open HTree Spec PairAll Prog

/-! ### The pair merges only merge text -/

namespace Finv

theorem localOK_pairOpt {v : Value} {L : List HTree} (c : Bool) (nb : Option Nat × Option Nat)
    (h : localOK false v L = true) : localOK false v (pairOpt c nb L) = true :=
  localOK_textMerge (.of_pairOpt c nb L) h

theorem validXList_pairOpt {sx : Nat → Bool} {L : List HTree} (c : Bool) (nb : Option Nat × Option Nat)
    (h : validXList sx L = true) : validXList sx (pairOpt c nb L) = true :=
  validXList_textMerge (.of_pairOpt c nb L) h

theorem count_editAt_le {f : Forest} {p : Nat} {v : Value} {L : List HTree} (s : SiteAt f p v L)
    {g : List HTree → List HTree} (h : ∀ z, (handlesList (g L)).count z ≤ (handlesList L).count z) (z : Nat) :
    (f.editAt (some p) g).allHandles.count z ≤ f.allHandles.count z := by
  have h1 := s.count g z
  have h2 := h z
  omega

theorem sx0_off {f : Forest} (hoff : f.everOff = true) (h : Nat) : sx0 f h = false := by
  show (!f.everOff) = false; rw [hoff]; rfl

/-! ### The four moves: the specification -/

theorem specRemoveP_fields (n : Nat) (f : Forest) :
    (specRemoveP n f).consolidation = f.consolidation ∧ (specRemoveP n f).everOff = f.everOff ∧
    (specRemoveP n f).corrupt = f.corrupt ∧ (specRemoveP n f).next = f.next := by
  cases hp : f.parent? n with
  | none => rw [specRemoveP_root hp]; exact ⟨rfl, rfl, rfl, rfl⟩
  | some p => rw [specRemoveP_kid hp]; exact ⟨rfl, rfl, rfl, rfl⟩

/-- The first half of a move, non-strict validity: the subtree dropped, the pair it separated merged. -/
theorem specRemoveP_valid_off {f : Forest} {n : Nat} {t : HTree} (inv : f.Inv) (hoff : f.everOff = true)
    (hg : f.get? n = some t) : validXList (sx0 f) (specRemoveP n f).roots = true := by
  have nd := inv.nodup
  have hv0 := valid0 inv
  rcases Forest.root_or_ctx hg with hroot | ⟨cx, hctx⟩
  · rw [specRemoveP_root (Forest.parent?_of_no_ctx (Forest.ctx_none_of_root nd hroot))]
    exact validXList_dropTop n hv0
  · obtain ⟨vo, _, _, so, hpar⟩ := site_of_kid nd hg hctx
    rw [specRemoveP_kid hpar]
    obtain ⟨hlo, hmo⟩ := site_members (sx0 := sx0 f) so hv0 (fun _ _ h => h)
    apply stage so hv0 (fun _ _ h => h)
    · rw [sx0_off hoff]; exact localOK_pairOpt _ _ (localOK_dropTop _ hlo)
    · exact validXList_pairOpt _ _ (validXList_dropTop _ hmo)


theorem specRemoveP_inv_off {f : Forest} {n : Nat} {t : HTree} (inv : f.Inv) (hoff : f.everOff = true)
    (hg : f.get? n = some t) : (specRemoveP n f).Inv := by
  obtain ⟨a, b, c, d⟩ := specRemoveP_fields n f
  refine inv_of_valid_count inv a b c d (specRemoveP_valid_off inv hoff hg) (fun z => ?_)
  have := count_specRemoveP inv.nodup hg z
  omega

/-- The pair-reading move keeps the invariant when consolidation has been off at some time (validity is the
    non-strict one, and the pair merges `pairOpt`, `newOpt` are merges of adjacent text). -/
theorem specMoveP_inv_off {f : Forest} {d : Dest} {n : Nat} (inv : f.Inv) (hoff : f.everOff = true)
    (hck : implCheck f d n = true) : (specMoveP d n f).Inv := by
  cases hocc : d.occupiedBy f n with
  | true => unfold specMoveP; rw [hocc]; exact inv
  | false =>
  obtain ⟨q, vq, Lq, t, sq, hsite, hgc, hqt, hnorm, hndoc, hvq, href⟩ := check_unpack inv.nodup hck
  have hv0 : validXList (fun _ => false) f.roots = true := by
    have := valid0 inv
    unfold sx0 at this
    rwa [hoff] at this
  obtain ⟨a, b, c, e⟩ : (specMoveP d n f).consolidation = f.consolidation ∧ (specMoveP d n f).everOff = f.everOff ∧
      (specMoveP d n f).corrupt = f.corrupt ∧ (specMoveP d n f).next = f.next := by
    rw [specMoveP_unfold hocc hgc hsite, mergeNewAt_eq_newOpt]
    cases f.parent? n with
    | none => rw [Forest.mergeLeftAt_none]; exact ⟨rfl, rfl, rfl, rfl⟩
    | some po => rw [mergeLeftAt_eq_pairOpt]; exact ⟨rfl, rfl, rfl, rfl⟩
  obtain ⟨r1, r2⟩ := move_valid (b := false) (R := specMoveP d n f) inv hv0 sq hgc hqt hnorm hndoc hvq href
    (pairOpt f.consolidation (f.nbOf n)) (newOpt f.consolidation n) (fun L => TextMerge.of_pairOpt _ _ L)
    (fun L => TextMerge.of_newOpt _ _ L) (fun _ hφ => natFor_pairOpt hφ _ _) (fun h => nomatch h) (by
      rw [specMoveP_unfold hocc hgc hsite, mergeNewAt_eq_newOpt]
      cases hpar : f.parent? n with
      | none =>
        rw [Forest.nbOf_root hpar, Forest.mergeLeftAt_none]
        simp only [Forest.editAt_consolidation]
      | some po =>
        rw [mergeLeftAt_eq_pairOpt]
        simp only [Forest.editAt_consolidation])
  exact inv_of_valid_count inv a b c e (by unfold sx0; rw [hoff]; exact r1) r2

end Finv

open Finv in
/-- **The pair-reading move keeps the invariant**, all four destinations.  (`Prog.specMove_inv` is the
    case without adjacent text nodes, read through `specMoveP = specMove`.) -/
theorem Spec.specMoveP_inv {f : Forest} {d : Dest} {n : Nat} (inv : f.Inv) (hck : implCheck f d n = true) :
    (specMoveP d n f).Inv := by
  cases hoff : f.everOff with
  | true => exact specMoveP_inv_off inv hoff hck
  | false =>
    have norm : f.Normal := fun _ => by have := inv.valid; rw [hoff] at this; exact this
    have e : specMoveP d n f = specMove (Keep.resident n) d n f := by
      cases d with
      | lastChildOf p => exact (specMoveP_eq_specMove_under inv norm hck).1
      | firstNormalChildOf p => exact (specMoveP_eq_specMove_under inv norm hck).2
      | after r =>
        simp only [implCheck, Bool.and_eq_true] at hck
        exact (specMoveP_eq_specMove_beside inv norm hck.1 hck.2).1
      | before r =>
        simp only [implCheck, Bool.and_eq_true] at hck
        exact (specMoveP_eq_specMove_beside inv norm hck.1 hck.2).2
    rw [e]; exact specMove_inv inv norm hck

/-! ### The calls -/

namespace Forest

theorem append_inv {f : Forest} (hi : f.Inv) (p c : Nat) : (f.append p c).1.Inv := by
  rcases append_outcome hi.toW p c with h | h
  · rw [h]; exact hi
  · rw [append_pair hi h.ok]; exact specMoveP_inv hi (append_ok_check h.ok)

theorem prepend_inv {f : Forest} (hi : f.Inv) (p c : Nat) : (f.prepend p c).1.Inv := by
  rcases prepend_outcome hi.toW p c with h | h
  · rw [h]; exact hi
  · rw [prepend_pair hi h.ok]; exact specMoveP_inv hi (prepend_ok_check h.ok)

theorem insertAfter_inv {f : Forest} (hi : f.Inv) (ref c : Nat) : (f.insertAfter ref c).1.Inv := by
  rcases insertAfter_outcome hi.toW ref c with h | h
  · rw [h]; exact hi
  · rw [insertAfter_pair hi h.ok]
    exact specMoveP_inv hi (by simp only [implCheck, Bool.and_eq_true]; exact insertAfter_ok_checks h.ok)

theorem insertBefore_inv {f : Forest} (hi : f.Inv) (ref c : Nat) : (f.insertBefore ref c).1.Inv := by
  rcases insertBefore_outcome hi.toW ref c with h | h
  · rw [h]; exact hi
  · rw [insertBefore_pair hi h.ok]
    exact specMoveP_inv hi (by simp only [implCheck, Bool.and_eq_true]; exact insertBefore_ok_checks h.ok)

end Forest
end XotModel
