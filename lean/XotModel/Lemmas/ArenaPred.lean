/-
  Indextree's `predecessors` iterator (`Iter` along
  `previous_sibling.or(parent)`; not used by xot) on a well-formed arena: from a live node it yields the
  node, its preceding siblings nearest first, its parent, the parent's preceding siblings, … up to the
  root (`PredChain`, the list-level definition); the chain exists, has no repetition, hence at most
  `count` members, so the limit is never reached; no panic.
-/
import XotModel.Lemmas.ArenaAnc
import XotModel.Lemmas.ArenaIterKids

namespace XotModel
namespace Arena

/-- `l` is the list `c`, the siblings before `c` (nearest first), then the same for the parent of `c`,
    … up to a parentless node (which has no siblings). -/
inductive PredChain (g : Shape) : Nat → List Nat → Prop where
  | root {c : Nat} : g.par c = none → PredChain g c [c]
  | step {c q : Nat} {L R l : List Nat} : g.par c = some q → g.kids q = L ++ c :: R → PredChain g q l →
      PredChain g c (c :: L.reverse ++ l)

theorem PredChain.head {g : Shape} {c : Nat} {l : List Nat} (h : PredChain g c l) : ∃ rest, l = c :: rest := by
  cases h with
  | root _ => exact ⟨[], rfl⟩
  | step _ _ _ => exact ⟨_, rfl⟩

/-- The chain of a node with a parent exists along its ancestor chain. -/
theorem Rep.predChain_of_upChain {a : Arena} {g : Shape} (r : Rep a g) {c : Nat} {u : List Nat}
    (h : UpChain g.par c u) : ∃ l, PredChain g c l := by
  induction h with
  | root hc => exact ⟨_, .root hc⟩
  | @step c q _ hc _ ih =>
    obtain ⟨l, hl⟩ := ih
    obtain ⟨L, R, e⟩ := List.append_of_mem (r.parKids c q hc).2
    exact ⟨_, .step hc e hl⟩

/-- Every member of the chain is a sibling-or-self of an ancestor-or-self of `c`. -/
theorem Rep.predChain_mem {a : Arena} {g : Shape} (r : Rep a g) {c : Nat} {l : List Nat} (h : PredChain g c l) :
    ∀ z ∈ l, Live a c → Live a z ∧ ∃ y, Reach g.par c y ∧ g.par z = g.par y := by
  induction h with
  | @root c hc =>
    intro z hz hl
    simp at hz; subst hz
    exact ⟨hl, z, .refl _, rfl⟩
  | @step c q L R l hc hk _ ih =>
    intro z hz hl
    rw [List.cons_append, List.mem_cons, List.mem_append, List.mem_reverse] at hz
    rcases hz with hz | hz | hz
    · subst hz; exact ⟨hl, z, .refl _, rfl⟩
    · have hm : z ∈ g.kids q := by rw [hk]; simp [hz]
      have := r.kidsLive q z hm
      exact ⟨this.2.1, c, .refl _, by rw [this.2.2, hc]⟩
    · obtain ⟨h1, y, hy, e⟩ := ih z hz (r.live_of_par hc).2
      exact ⟨h1, y, .step hc hy, e⟩

theorem Rep.predChain_nodup {a : Arena} {g : Shape} (r : Rep a g) {c : Nat} {l : List Nat} (h : PredChain g c l) :
    Live a c → l.Nodup := by
  induction h with
  | root _ => intro _; simp
  | @step c q L R l hc hk hq ih =>
    intro hl
    have hql := (r.live_of_par hc).2
    have hnd : (L ++ c :: R).Nodup := by rw [← hk]; exact r.kidsNodup q
    have h1 : (c :: L.reverse).Nodup := by
      have h2 : (L ++ [c]).Nodup := by
        have : (L ++ c :: R) = (L ++ [c]) ++ R := by simp
        rw [this] at hnd
        exact (List.nodup_append.mp hnd).1
      have : (c :: L.reverse) = (L ++ [c]).reverse := by simp
      rw [this]
      exact (List.reverse_perm _).nodup_iff.mpr h2
    rw [show c :: L.reverse ++ l = (c :: L.reverse) ++ l by rfl]
    refine List.nodup_append.mpr ⟨h1, ih hql, ?_⟩
    intro x hx z hz e
    subst e
    have hxq : g.par x = some q := by
      rcases List.mem_cons.mp hx with e | e
      · subst e; exact hc
      · exact (r.kidsLive q x (by rw [hk]; simp [List.mem_reverse.mp e])).2.2
    obtain ⟨_, y, hy, e⟩ := r.predChain_mem hq x hz hql
    rw [hxq] at e
    exact r.acyclic y q e.symm hy

theorem Rep.predChain_length {a : Arena} {g : Shape} (r : Rep a g) {c : Nat} {l : List Nat} (h : PredChain g c l)
    (hl : Live a c) : l.length ≤ a.nodes.length := by
  refine nodup_bounded a.nodes.length l (r.predChain_nodup h hl) ?_
  intro x hx
  obtain ⟨⟨s, hs, _⟩, _⟩ := r.predChain_mem h x hx hl
  exact lt_of_slot hs

theorem Rep.predChain {a : Arena} {g : Shape} (r : Rep a g) (c : Nat) (hc : Live a c) :
    ∃ l, PredChain g c l ∧ l.length ≤ a.nodes.length := by
  obtain ⟨u, hu, _⟩ := r.upChain c hc
  obtain ⟨l, hl⟩ := r.predChain_of_upChain hu
  exact ⟨l, hl, r.predChain_length hl hc⟩

/-- The siblings before `k`, then the chain of the parent `q`, are linked by `previous_sibling.or(parent)`. -/
theorem Rep.links_pred_sibs {a : Arena} {g : Shape} (r : Rep a g) (q : Nat) (lq : List Nat)
    (hq : Links a a (fun s => s.prev.or s.parent) (q :: lq)) :
    ∀ (rpre suf : List Nat) (k : Nat), g.kids q = rpre.reverse ++ k :: suf →
      Links a a (fun s => s.prev.or s.parent) (k :: rpre ++ q :: lq)
  | [], suf, k, hk => by
    obtain ⟨sk, hsk, hk0, hpar, _, e2, _⟩ := r.child_slot hk
    refine ⟨⟨sk, hsk, ?_⟩, hq⟩
    show sk.prev.or sk.parent = _
    rw [e2, (r.ptrs k sk hsk hk0).parent, hpar]; rfl
  | k' :: rp, suf, k, hk => by
    obtain ⟨sk, hsk, _, _, _, e2, _⟩ := r.child_slot hk
    refine ⟨⟨sk, hsk, ?_⟩, r.links_pred_sibs q lq hq rp (k :: suf) k' (by rw [hk]; simp)⟩
    show sk.prev.or sk.parent = _
    rw [e2]; simp

/-- The `predecessors` chain is linked by `previous_sibling.or(parent)`. -/
theorem Rep.links_pred {a : Arena} {g : Shape} (r : Rep a g) {c : Nat} {l : List Nat} (h : PredChain g c l)
    (hc : Live a c) : Links a a (fun s => s.prev.or s.parent) l := by
  induction h with
  | @root c hp =>
    obtain ⟨s, hs, h0⟩ := hc
    have P := r.ptrs c s hs h0
    refine ⟨⟨s, hs, ?_⟩, trivial⟩
    show s.prev.or s.parent = _
    rw [(P.root hp).1, P.parent, hp]; rfl
  | @step c q L R l hp hk hl ih =>
    obtain ⟨rest, rfl⟩ := hl.head
    have := r.links_pred_sibs q rest (ih (r.live_of_par hp).2) L.reverse R c (by rw [hk]; simp)
    simpa using this

/-- The `predecessors` iterator yields the chain. -/
theorem Rep.predecessors_chain {a : Arena} {g : Shape} (r : Rep a g) :
    ∀ (c : Nat) (l : List Nat), PredChain g c l → Live a c → ∀ limit, l.length ≤ limit →
      predecessors a (a.idAt c) limit = .done a (l.map a.idAt) := fun c l h hc limit hlim => by
  obtain ⟨rest, rfl⟩ := h.head
  rw [← List.take_of_length_le hlim]
  exact walk_links a _ _ limit (r.links_pred h hc)

end Arena
end XotModel
