/-
  Locality (C12): a root that shares no handle with the other roots (`Sep`) is left exactly as it
  is by every primitive whose handle arguments lie outside it, and navigation from outside stays
  outside: `Sep.closed`, the instance of `Forest.Closed` all operations go through, and the
  manipulation functions as its corollaries.
-/
import XotModel.Lemmas.FcloneBasic
import XotModel.Lemmas.ForestClosed

/-! ## Where the handles of the results of the primitives and of the navigation queries come from. -/

namespace XotModel
open HTree

/-! ### lookups return subtrees -/

theorem findList?_sub (h : Nat) : ∀ (ks : List HTree) (s : HTree), findList? h ks = some s →
      s.handle = h ∧ ∀ a ∈ handles s, a ∈ handlesList ks :=
  findList?_some

theorem kids_handles_sub (t : HTree) : ∀ k ∈ t.kids, ∀ a ∈ handles k, a ∈ handles t := by
  cases t with
  | node h v ks =>
    intro k hk a ha
    simp only [handles, List.mem_cons]
    exact Or.inr (handles_subset_handlesList hk a ha)

/-! ### contexts -/

mutual
  theorem ctxBelow_sub (h : Nat) : ∀ (t : HTree) (c : Ctx), ctxBelow h t = some c →
      c.self.handle = h ∧ (∀ a ∈ handlesList c.left, a ∈ handles t) ∧
      (∀ a ∈ handles c.self, a ∈ handles t) ∧ (∀ a ∈ handlesList c.right, a ∈ handles t)
    | .node p v ks, c => by
      intro hc
      unfold ctxBelow at hc
      obtain ⟨h1, h2, h3, h4⟩ := ctxKids_sub h p ks [] c hc
      refine ⟨h1, ?_, ?_, ?_⟩
      · intro a ha
        rcases h2 a ha with x | x
        · simp [handlesList] at x
        · simp [handles, x]
      · intro a ha; simp [handles, h3 a ha]
      · intro a ha; simp [handles, h4 a ha]
  theorem ctxKids_sub (h p : Nat) : ∀ (ks left : List HTree) (c : Ctx), ctxKids h p left ks = some c →
      c.self.handle = h ∧ (∀ a ∈ handlesList c.left, a ∈ handlesList left ∨ a ∈ handlesList ks) ∧
      (∀ a ∈ handles c.self, a ∈ handlesList ks) ∧ (∀ a ∈ handlesList c.right, a ∈ handlesList ks)
    | [], left, c => by intro hc; simp [ctxKids] at hc
    | k :: ks, left, c => by
      intro hc
      unfold ctxKids at hc
      by_cases e : k.handle = h
      · rw [if_pos e] at hc
        cases hc
        refine ⟨e, fun a ha => Or.inl ha, ?_, ?_⟩
        · intro a ha; simp [handlesList, ha]
        · intro a ha; simp [handlesList, ha]
      · rw [if_neg e] at hc
        cases hb : ctxBelow h k with
        | some c' =>
          rw [hb] at hc
          cases hc
          obtain ⟨h1, h2, h3, h4⟩ := ctxBelow_sub h k _ hb
          refine ⟨h1, ?_, ?_, ?_⟩
          · intro a ha; right; simp [handlesList, h2 a ha]
          · intro a ha; simp [handlesList, h3 a ha]
          · intro a ha; simp [handlesList, h4 a ha]
        | none =>
          rw [hb] at hc
          obtain ⟨h1, h2, h3, h4⟩ := ctxKids_sub h p ks (left ++ [k]) c hc
          refine ⟨h1, ?_, ?_, ?_⟩
          · intro a ha
            rcases h2 a ha with x | x
            · rw [handlesList_append, handlesList_singleton, List.mem_append] at x
              rcases x with x | x
              · exact Or.inl x
              · right; simp [handlesList, x]
            · right; simp [handlesList, x]
          · intro a ha; simp [handlesList, h3 a ha]
          · intro a ha; simp [handlesList, h4 a ha]
end

theorem findSome?_root {β} (F : HTree → Option β) : ∀ (L : List HTree) (c : β),
    L.findSome? F = some c → ∃ t ∈ L, F t = some c
  | [], c => by intro h; simp at h
  | k :: ks, c => by
    intro h
    rw [List.findSome?_cons] at h
    cases hk : F k with
    | some x =>
      rw [hk] at h
      cases h
      exact ⟨k, by simp, hk⟩
    | none =>
      rw [hk] at h
      obtain ⟨t, ht, h2⟩ := findSome?_root F ks c h
      exact ⟨t, by simp [ht], h2⟩

end XotModel

/-! ## `Sep.closed` -/

namespace XotModel
open HTree

theorem descendantsNormal_mem : ∀ (t : HTree) (x : Nat), x ∈ Forest.descendantsNormal t → x ∈ handles t :=
  fun t _ hx => (Fws.descendantsNormal_sublist t).subset hx

theorem descendantsNormalList_mem : ∀ (ks : List HTree) (x : Nat),
      x ∈ Forest.descendantsNormalList ks → x ∈ handlesList ks :=
  fun ks _ hx => (Fws.descendantsNormalList_sublist ks).subset hx

/-- `r` is one of the roots and shares no handle with any other root. -/
structure Sep (r : HTree) (f : Forest) : Prop where
  mem : r ∈ f.roots
  disj : ∀ t ∈ f.roots, t ≠ r → ∀ a ∈ handles r, a ∉ handles t

namespace Sep

variable {r : HTree} {f : Forest}

theorem of_roots {f g : Forest} (s : Sep r f) (h : g.roots = f.roots) : Sep r g :=
  ⟨h ▸ s.mem, fun t ht => s.disj t (h ▸ ht)⟩

theorem map (s : Sep r f) (F : HTree → HTree) (E : List Nat) (hr : F r = r)
    (hF : ∀ t a, a ∈ handles (F t) → a ∈ handles t ∨ a ∈ E) (hE : ∀ a ∈ handles r, a ∉ E)
    {g : Forest} (hg : g.roots = f.roots.map F) : Sep r g := by
  refine ⟨?_, ?_⟩
  · rw [hg]; exact List.mem_map.mpr ⟨r, s.mem, hr⟩
  · intro t' ht' hne a ha hat
    rw [hg] at ht'
    obtain ⟨t, ht, rfl⟩ := List.mem_map.mp ht'
    have htr : t ≠ r := fun e => hne (e ▸ hr)
    rcases hF t a hat with x | x
    · exact s.disj t ht htr a ha x
    · exact hE a ha x

theorem filter (s : Sep r f) (p : HTree → Bool) (hp : p r = true) {g : Forest}
    (hg : g.roots = f.roots.filter p) : Sep r g := by
  refine ⟨?_, ?_⟩
  · rw [hg]; exact List.mem_filter.mpr ⟨s.mem, hp⟩
  · intro t ht
    rw [hg] at ht
    exact s.disj t (List.mem_filter.mp ht).1

theorem appendRoots (s : Sep r f) (M : List HTree) (hM : ∀ t ∈ M, ∀ a ∈ handles r, a ∉ handles t)
    {g : Forest} (hg : g.roots = f.roots ++ M) : Sep r g := by
  refine ⟨?_, ?_⟩
  · rw [hg]; exact List.mem_append_left _ s.mem
  · intro t ht hne
    rw [hg] at ht
    rcases List.mem_append.mp ht with x | x
    · exact s.disj t x hne
    · exact hM t x

theorem get?_disj (s : Sep r f) {h : Nat} (hn : h ∉ handles r) {t0 : HTree} (hg : f.get? h = some t0) :
    ∀ a ∈ handles r, a ∉ handles t0 := by
  obtain ⟨t, ht, hf⟩ := fc_findList?_root h f.roots t0 hg
  have htr : t ≠ r := by
    intro e
    rw [e, find?_none_of_not_mem h r hn] at hf
    cases hf
  intro a ha hat
  exact s.disj t ht htr a ha ((find?_some t t0 hf).2 a hat)

theorem ctx?_disj (s : Sep r f) {h : Nat} (hn : h ∉ handles r) {c : Ctx} (hc : f.ctx? h = some c) :
    (∀ a ∈ handlesList c.left, a ∉ handles r) ∧ (∀ a ∈ handlesList c.right, a ∉ handles r) := by
  obtain ⟨t, ht, hb⟩ := findSome?_root (ctxBelow h) f.roots c hc
  obtain ⟨h1, h2, h3, h4⟩ := ctxBelow_sub h t c hb
  have hmem : h ∈ handles t := h3 h (h1 ▸ handle_mem_handles c.self)
  have htr : t ≠ r := fun e => hn (e ▸ hmem)
  exact ⟨fun a ha har => s.disj t ht htr a har (h2 a ha), fun a ha har => s.disj t ht htr a har (h4 a ha)⟩

theorem prevSibling_disj (s : Sep r f) {h p : Nat} (hn : h ∉ handles r) (hp : f.prevSibling h = some p) :
    p ∉ handles r := by
  unfold Forest.prevSibling at hp
  cases hc : f.ctx? h with
  | none => simp [hc] at hp
  | some c =>
    rw [hc] at hp
    simp only at hp
    cases hl : c.left.getLast? with
    | none => simp [hl] at hp
    | some x =>
      rw [hl] at hp
      simp only at hp
      split at hp
      · cases hp
        have hx : x ∈ c.left := List.mem_of_getLast? hl
        exact (s.ctx?_disj hn hc).1 _ (rootHandle_mem_handlesList hx)
      · cases hp

theorem nextSibling_disj (s : Sep r f) {h p : Nat} (hn : h ∉ handles r) (hp : f.nextSibling h = some p) :
    p ∉ handles r := by
  unfold Forest.nextSibling at hp
  cases hc : f.ctx? h with
  | none => simp [hc] at hp
  | some c =>
    rw [hc] at hp
    simp only at hp
    cases hl : c.right.head? with
    | none => simp [hl] at hp
    | some x =>
      rw [hl] at hp
      simp only at hp
      split at hp
      · cases hp
        have hx : x ∈ c.right := List.mem_of_head? hl
        exact (s.ctx?_disj hn hc).2 _ (rootHandle_mem_handlesList hx)
      · cases hp

theorem lastChild_disj (s : Sep r f) {h l : Nat} (hn : h ∉ handles r) (hl : f.lastChild h = some l) :
    l ∉ handles r := by
  unfold Forest.lastChild at hl
  cases hg : f.get? h with
  | none => simp [hg] at hl
  | some t0 =>
    rw [hg] at hl
    simp only at hl
    cases hk : t0.kids.getLast? with
    | none => simp [hk] at hl
    | some k =>
      rw [hk] at hl
      simp only at hl
      split at hl
      · cases hl
        have hx : k ∈ t0.kids := List.mem_of_getLast? hk
        intro har
        exact s.get?_disj hn hg _ har (kids_handles_sub t0 k hx _ (handle_mem_handles k))
      · cases hl

theorem firstChild_disj (s : Sep r f) {h l : Nat} (hn : h ∉ handles r) (hl : f.firstChild h = some l) :
    l ∉ handles r := by
  unfold Forest.firstChild at hl
  cases hg : f.get? h with
  | none => simp [hg] at hl
  | some t0 =>
    rw [hg] at hl
    simp only [Option.map_eq_some_iff] at hl
    obtain ⟨k, hk, rfl⟩ := hl
    have hx : k ∈ t0.kids := (List.dropWhile_sublist _).mem (List.mem_of_head? hk)
    intro har
    exact s.get?_disj hn hg _ har (kids_handles_sub t0 k hx _ (handle_mem_handles k))

theorem prependPoint_disj (s : Sep r f) {h l : Nat} (hn : h ∉ handles r) (hl : f.prependPoint h = some l) :
    l ∉ handles r := by
  unfold Forest.prependPoint at hl
  cases hg : f.get? h with
  | none => simp [hg] at hl
  | some t0 =>
    rw [hg] at hl
    simp only [Option.map_eq_some_iff] at hl
    obtain ⟨k, hk, rfl⟩ := hl
    have hx : k ∈ t0.kids := (List.takeWhile_sublist _).mem (List.mem_of_getLast? hk)
    intro har
    exact s.get?_disj hn hg _ har (kids_handles_sub t0 k hx _ (handle_mem_handles k))

theorem parent?_disj (s : Sep r f) {h p : Nat} (hn : h ∉ handles r) (hp : f.parent? h = some p) :
    p ∉ handles r := by
  unfold Forest.parent? at hp
  cases hc : f.ctx? h with
  | none => simp [hc] at hp
  | some c =>
    rw [hc] at hp
    simp only [Option.map_some, Option.some.injEq] at hp
    subst hp
    obtain ⟨t, ht, hb⟩ := findSome?_root (ctxBelow h) f.roots c hc
    obtain ⟨h1, _, h3, _⟩ := ctxBelow_sub h t c hb
    have hmem : h ∈ handles t := h3 h (h1 ▸ handle_mem_handles c.self)
    have htr : t ≠ r := fun e => hn (e ▸ hmem)
    intro har
    exact s.disj t ht htr _ har (ctxBelow_parent_mem h t c hb)

theorem kids_disj (s : Sep r f) {h : Nat} (hn : h ∉ handles r) {t0 : HTree} (hg : f.get? h = some t0) :
    ∀ k ∈ t0.kids, ∀ a ∈ handles k, a ∉ handles r :=
  fun k hk a ha har => s.get?_disj hn hg a har (kids_handles_sub t0 k hk a ha)

theorem mapGetNode_disj (s : Sep r f) {k : Forest.MapKind} {p key : Nat} {n : HTree}
    (hp : p ∉ handles r) (hn : f.mapGetNode k p key = some n) : n.handle ∉ handles r := by
  unfold Forest.mapGetNode at hn
  cases hg : f.get? p with
  | none => simp [hg] at hn
  | some t0 =>
    rw [hg] at hn
    simp only at hn
    have hx : n ∈ t0.kids := Forest.mapChildren_sub k t0 n (List.mem_of_find?_eq_some hn)
    intro har
    exact s.get?_disj hp hg _ har (kids_handles_sub t0 n hx _ (handle_mem_handles n))

theorem mapInsertionPoint_disj (s : Sep r f) {k : Forest.MapKind} {p ip : Nat}
    (hp : p ∉ handles r) (hi : f.mapInsertionPoint k p = some ip) : ip ∉ handles r := by
  unfold Forest.mapInsertionPoint at hi
  cases hg : f.get? p with
  | none => simp [hg] at hi
  | some t0 =>
    rw [hg] at hi
    simp only at hi
    have key : ∀ x ∈ t0.kids, x.handle ∉ handles r := fun x hx har =>
      s.get?_disj hp hg _ har (kids_handles_sub t0 x hx _ (handle_mem_handles x))
    cases hl : (Forest.mapChildren k t0).getLast? with
    | some l =>
      rw [hl] at hi
      cases hi
      exact key l (Forest.mapChildren_sub k t0 l (List.mem_of_getLast? hl))
    | none =>
      rw [hl] at hi
      cases k with
      | namespaces => simp at hi
      | attributes =>
        simp only [Option.map_eq_some_iff] at hi
        obtain ⟨x, hx, rfl⟩ := hi
        exact key x ((List.takeWhile_sublist _).mem (List.mem_of_getLast? hx))

/-! #### primitives -/

theorem setValue (s : Sep r f) {h : Nat} (hn : h ∉ handles r) (v : Value) : Sep r (f.setValue h v) :=
  s.map (mapAt h (HTree.setValue v)) [] (mapAt_of_not_mem h _ r hn)
    (fun t a ha => Or.inl (by rwa [handles_mapAt_setValue] at ha)) (fun _ _ h => by simp at h) rfl

theorem not_root_handle (hn : h ∉ handles r) : (r.handle != h) = true := by
  have : r.handle ≠ h := fun e => hn (e ▸ handle_mem_handles r)
  simp [this]

theorem spliceOut (s : Sep r f) {h : Nat} (hn : h ∉ handles r) : Sep r (f.spliceOut h) := by
  unfold Forest.spliceOut
  cases hg : f.get? h with
  | none => exact s
  | some t0 =>
    simp only
    have hd := s.get?_disj hn hg
    split
    · have s1 : Sep r { f with roots := f.roots.filter (fun x => x.handle != h) ++ t0.kids } := by
        have sf : Sep r { f with roots := f.roots.filter (fun x => x.handle != h) } :=
          s.filter _ (not_root_handle hn) rfl
        exact sf.appendRoots t0.kids
          (fun k hk a ha hak => hd a ha (kids_handles_sub t0 k hk a hak)) rfl
      split
      · exact s1
      · exact s1.of_roots rfl
    · exact s.map (replaceBelow h (fun n => n.kids)) [] (replaceBelow_of_not_mem h _ r hn)
        (replaceBelow_handles h _ [] (fun x a ha => by
          left
          cases x with
          | node hx vx kx => simp [handles, HTree.kids] at ha ⊢; exact Or.inr ha))
        (fun _ _ h => by simp at h) rfl

theorem cut (s : Sep r f) {h : Nat} (hn : h ∉ handles r) :
    Sep r (f.cut h).1 ∧ ∀ t0, (f.cut h).2 = some t0 → ∀ a ∈ handles r, a ∉ handles t0 := by
  unfold Forest.cut
  cases hg : f.get? h with
  | none => exact ⟨s, fun t0 h0 => by simp at h0⟩
  | some t0 =>
    simp only
    have hd := s.get?_disj hn hg
    split
    · exact ⟨s.filter _ (not_root_handle hn) rfl, fun t1 h1 => by cases h1; exact hd⟩
    · exact ⟨s.map (replaceBelow h (fun _ => [])) [] (replaceBelow_of_not_mem h _ r hn)
        (replaceBelow_handles h _ [] (fun x a ha => by simp [handlesList] at ha))
        (fun _ _ h => by simp at h) rfl, fun t1 h1 => by cases h1; exact hd⟩

theorem dropSubtree (s : Sep r f) {h : Nat} (hn : h ∉ handles r) : Sep r (f.dropSubtree h) :=
  (s.cut hn).1

theorem addRoot (s : Sep r f) (t0 : HTree) (hd : ∀ a ∈ handles r, a ∉ handles t0) :
    Sep r (f.addRoot t0) :=
  s.appendRoots [t0] (fun t ht => by simp at ht; subst ht; exact hd) rfl

theorem detachRaw (s : Sep r f) {h : Nat} (hn : h ∉ handles r) : Sep r (f.detachRaw h) := by
  unfold Forest.detachRaw
  have hc := s.cut hn
  cases hcut : f.cut h with
  | mk f' o =>
    rw [hcut] at hc
    cases o with
    | none => exact hc.1
    | some t0 => exact hc.1.addRoot t0 (hc.2 t0 rfl)

theorem placeLast (s : Sep r f) {p : Nat} (hn : p ∉ handles r) (t0 : HTree)
    (hd : ∀ a ∈ handles r, a ∉ handles t0) : Sep r (f.placeLast p t0) :=
  s.map (mapAt p (fun n => n.setKids (n.kids ++ [t0]))) (handles t0) (mapAt_of_not_mem p _ r hn)
    (mapAt_handles p _ (handles t0) (fun x a ha => by
      rw [Forest.handles_setKids, handlesList_append, handlesList_singleton] at ha
      cases x with
      | node hx vx kx =>
        simp only [HTree.handle, HTree.kids, List.mem_cons, List.mem_append, handles] at ha ⊢
        rcases ha with y | y | y
        · exact Or.inl (Or.inl y)
        · exact Or.inl (Or.inr y)
        · exact Or.inr y))
    hd rfl

theorem placeFirst (s : Sep r f) {p : Nat} (hn : p ∉ handles r) (t0 : HTree)
    (hd : ∀ a ∈ handles r, a ∉ handles t0) : Sep r (f.placeFirst p t0) :=
  s.map (mapAt p (fun n => n.setKids (t0 :: n.kids))) (handles t0) (mapAt_of_not_mem p _ r hn)
    (mapAt_handles p _ (handles t0) (fun x a ha => by
      rw [Forest.handles_setKids] at ha
      cases x with
      | node hx vx kx =>
        simp only [HTree.handle, HTree.kids, List.mem_cons, List.mem_append, handles, handlesList] at ha ⊢
        rcases ha with y | y | y
        · exact Or.inl (Or.inl y)
        · exact Or.inr y
        · exact Or.inl (Or.inr y)))
    hd rfl

theorem placeAfter (s : Sep r f) {p : Nat} (hn : p ∉ handles r) (t0 : HTree)
    (hd : ∀ a ∈ handles r, a ∉ handles t0) : Sep r (f.placeAfter p t0) :=
  s.map (replaceBelow p (fun x => [x, t0])) (handles t0) (replaceBelow_of_not_mem p _ r hn)
    (replaceBelow_handles p _ (handles t0) (fun x a ha => by
      simp only [handlesList, List.mem_append, List.append_nil] at ha
      exact ha))
    hd rfl

theorem placeBefore (s : Sep r f) {p : Nat} (hn : p ∉ handles r) (t0 : HTree)
    (hd : ∀ a ∈ handles r, a ∉ handles t0) : Sep r (f.placeBefore p t0) :=
  s.map (replaceBelow p (fun x => [t0, x])) (handles t0) (replaceBelow_of_not_mem p _ r hn)
    (replaceBelow_handles p _ (handles t0) (fun x a ha => by
      simp only [handlesList, List.mem_append, List.append_nil] at ha
      exact ha.symm))
    hd rfl

/-- Separation of `r` is kept by every primitive edit at handles outside `r`, whatever the values. -/
theorem closed (r : HTree) : Forest.Closed (· ∉ handles r) (fun _ => True)
    (fun t => ∀ a ∈ handles r, a ∉ handles t) (Sep r) where
  flags := fun s h _ => s.of_roots h
  prevSibling := fun s hn h => s.prevSibling_disj hn h
  nextSibling := fun s hn h => s.nextSibling_disj hn h
  firstChild := fun s hn h => s.firstChild_disj hn h
  lastChild := fun s hn h => s.lastChild_disj hn h
  parent? := fun s hn h => s.parent?_disj hn h
  prependPoint := fun s hn h => s.prependPoint_disj hn h
  mapInsertionPoint := fun s hn h => s.mapInsertionPoint_disj hn h
  mapGetNode := fun s hn h => ⟨s.mapGetNode_disj hn h, trivial⟩
  kids := fun s hn hg k hk => s.kids_disj hn hg k hk _ (handle_mem_handles k)
  descendants := fun s hn hg x hx har => s.get?_disj hn hg x har (descendantsNormal_mem _ x hx)
  value? := fun _ _ => trivial
  cat := fun _ _ => trivial
  setValue := fun s hn _ => s.setValue hn _
  spliceOut := fun s hn => s.spliceOut hn
  cut := fun s hn => s.cut hn
  addRoot := fun s ht => s.addRoot _ ht
  placeLast := fun s hp ht => s.placeLast hp _ ht
  placeFirst := fun s hp ht => s.placeFirst hp _ ht
  placeAfter := fun s hp ht => s.placeAfter hp _ ht
  placeBefore := fun s hp ht => s.placeBefore hp _ ht

end Sep
end XotModel

/-! ## The manipulation functions, through `Sep.closed` -/

namespace XotModel
open HTree

namespace Sep

variable {r : HTree} {f : Forest}

theorem checkedAppend (s : Sep r f) {p c : Nat} (hp : p ∉ handles r) (hc : c ∉ handles r) :
    Sep r (f.checkedAppend p c).1 :=
  (closed r).checkedAppend s hp hc

theorem checkedPrepend (s : Sep r f) {p c : Nat} (hp : p ∉ handles r) (hc : c ∉ handles r) :
    Sep r (f.checkedPrepend p c).1 :=
  (closed r).checkedPrepend s hp hc

theorem checkedInsertAfter (s : Sep r f) {p c : Nat} (hp : p ∉ handles r) (hc : c ∉ handles r) :
    Sep r (f.checkedInsertAfter p c).1 :=
  (closed r).checkedInsertAfter s hp hc

theorem checkedInsertBefore (s : Sep r f) {p c : Nat} (hp : p ∉ handles r) (hc : c ∉ handles r) :
    Sep r (f.checkedInsertBefore p c).1 :=
  (closed r).checkedInsertBefore s hp hc

/-! #### xot's functions -/

theorem append (s : Sep r f) {p c : Nat} (hp : p ∉ handles r) (hc : c ∉ handles r) :
    Sep r (f.append p c).1 :=
  (closed r).append s hp hc

theorem prepend (s : Sep r f) {p c : Nat} (hp : p ∉ handles r) (hc : c ∉ handles r) :
    Sep r (f.prepend p c).1 :=
  (closed r).prepend s hp hc

theorem remove (s : Sep r f) {n : Nat} (hn : n ∉ handles r) : Sep r (f.remove n).1 :=
  (closed r).remove s hn

theorem detach (s : Sep r f) {n : Nat} (hn : n ∉ handles r) : Sep r (f.detach n).1 :=
  (closed r).detach s hn

theorem setText (s : Sep r f) {n : Nat} (hn : n ∉ handles r) (str : Str) : Sep r (f.setText n str).1 :=
  (closed r).setText s hn trivial

theorem setElementName (s : Sep r f) {n : Nat} (hn : n ∉ handles r) (name : Nat) :
    Sep r (f.setElementName n name).1 :=
  (closed r).setElementName s hn trivial

theorem setComment (s : Sep r f) {n : Nat} (hn : n ∉ handles r) (str : Str) :
    Sep r (f.setComment n str).1 :=
  (closed r).setComment s hn trivial

theorem setPiData (s : Sep r f) {n : Nat} (hn : n ∉ handles r) (d : Option Str) :
    Sep r (f.setPiData n d).1 :=
  (closed r).setPiData s hn d (fun _ _ _ => trivial)

end Sep
end XotModel
