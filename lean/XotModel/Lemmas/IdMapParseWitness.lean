/-
  C08 and parsing: kernel-evaluable form of the trace (`parseContentGo` is defined by
  well-founded recursion; `Lemmas/ParseWitness.lean` has the fuel version), for closed examples.
-/
import XotModel.Lemmas.IdMapParseTop
import XotModel.Lemmas.ParseWitnessData

namespace XotModel

def prefixRegsE (pfx : Str) (uri : StrSpan) : List Reg :=
  match parseContentE true uri.start uri.text with
  | .error _ => []
  | .ok u => if reservedDecl pfx u then [] else [.pfx pfx, .ns u]

theorem prefixRegsE_eq (pfx : Str) (uri : StrSpan) : prefixRegsE pfx uri = prefixRegs pfx uri := by
  unfold prefixRegsE prefixRegs
  rw [parseContentE_eq]
  cases parseContentGo true uri.start 0 uri.text <;> rfl

def Builder.stepRegsE (b : Builder) : Token → List Reg
  | .attribute pfx loc value _ =>
    if pfx.bareColon then []
    else if pfx.text == ['x', 'm', 'l', 'n', 's'] then prefixRegsE loc.text value
    else if pfx.text.isEmpty && loc.text == ['x', 'm', 'l', 'n', 's'] then prefixRegsE [] value
    else []
  | t => b.stepRegs t

theorem stepRegsE_eq (b : Builder) (t : Token) : b.stepRegsE t = b.stepRegs t := by
  cases t with
  | «attribute» pfx loc value sp => simp only [Builder.stepRegsE, Builder.stepRegs, prefixRegsE_eq]
  | _ => rfl

def Builder.runRegsE (b : Builder) : List Token → List Reg
  | [] => []
  | t :: ts =>
    b.stepRegsE t ++
      match b.stepE t with
      | .ok b1 => Builder.runRegsE b1 ts
      | _ => []

theorem runRegsE_eq (ts : List Token) : ∀ b : Builder, b.runRegsE ts = b.runRegs ts := by
  induction ts with
  | nil => intro b; rfl
  | cons t ts ih =>
    intro b
    simp only [Builder.runRegsE, Builder.runRegs, stepRegsE_eq, stepE_eq]
    cases b.step t with
    | ok b1 => simp only [ih b1]
    | err e env => rfl
    | panic => rfl

theorem buildRegs_eq_E (env : Env) (ts : List Token) : buildRegs env ts = (Builder.new env).runRegsE ts :=
  (runRegsE_eq ts _).symm

open Witness in
/-- `Xot::new()` seen by the parser model. -/
theorem ofInterner_new : Env.ofInterner Interner.new = Env.fresh := by
  have h1 : Interner.new.namespaceLookup.byId = Env.fresh.namespaces := by decide
  have h2 : Interner.new.prefixLookup.byId = Env.fresh.prefixes := by decide
  have h3 : Interner.new.nameLookup.byId = Env.fresh.names := by decide
  unfold Env.ofInterner
  rw [h1, h2, h3]

open Witness in
theorem goodDoc_regsE : (Builder.new Env.fresh).runRegsE goodDoc =
    [.pfx ['p'], .ns ['u'], .pfx ['p'], .name ['a'] 2, .pfx [], .name ['b'] 0, .pfx ['p'], .name ['a'] 2] := by
  decide +kernel

open Witness in
/-- The calls of `<p:a xmlns:p='u' b='x&#10;y'><!--c-->t&lt;<![CDATA[c]]></p:a>` on a fresh `Xot`:
    the declaration (prefix, URI), the start tag (prefix, name in namespace 2), the attribute
    (empty prefix, name in no namespace), the end tag (prefix, name again). -/
theorem goodDoc_regs : buildRegs Env.fresh goodDoc =
    [.pfx ['p'], .ns ['u'], .pfx ['p'], .name ['a'] 2, .pfx [], .name ['b'] 0, .pfx ['p'], .name ['a'] 2] :=
  (buildRegs_eq_E _ _).trans goodDoc_regsE

end XotModel
