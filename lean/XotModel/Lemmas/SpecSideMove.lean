/-
  The specification's move keeps the C04 invariant (with the local-validity theory of
  `Lemmas/SpecSideLocal.lean`: `stage`, `merge_stage`).

  `move_valid`: a move (cut the node out, put it in, tidy the place left and the place of arrival)
  keeps validity of one strictness at every node and invents no handle, whatever merges of adjacent
  text (`Spec.TextMerge`) do the tidying; the strictness may be the strict one only if the two merges
  leave no adjacent text.  One analysis of where the node comes from (parentless, the same child
  list, another child list) for both readings: `specMove_valid` is the whole-run reading (`mergeRuns`
  at both places), `Finv.specMoveP_inv_off` the pair reading (`pairOpt`, `newOpt`; non-strict).
  `specMove_inv` (the strictness of the invariant: `Forest.Inv` again) and `specMove_normal` (the strict
  one: no adjacent text anywhere) are the two instances of `specMove_valid`; at the end of the file
  what they say of `insert_after` and `prepend`.

  (C04's theorems for the moves of the implementation, `C04_append` …, rest on this file: an accepted
  move is the specification's move by C05, a refused one changes nothing by C06.  So do the construction
  programs of C20.)
-/
import XotModel.Lemmas.BasicFacts
import XotModel.Lemmas.SpecSideLocal
import XotModel.Lemmas.FanyorderMove
import XotModel.Lemmas.FspecFrame

namespace XotModel
namespace Prog
open HTree Spec

theorem stage {f : Forest} {sx sx' : Nat → Bool} {p : Nat} {v : Value} {L : List HTree}
    {g : List HTree → List HTree} (s : SiteAt f p v L) (hv : validXList sx f.roots = true)
    (hother : ∀ h, h ≠ p → sx' h = true → sx h = true)
    (hloc : localOK (sx' p) v (g L) = true) (hmem : validXList sx' (g L) = true) :
    validXList sx' (f.editAt (some p) g).roots = true :=
  validXList_editAt hother hloc hmem f.roots s.nd hv s.kids

theorem localOK_mergeOpt {v : Value} {L : List HTree} (c b : Bool) (keep : Keep)
    (h : localOK false v L = true) (hb : c = false → b = false) :
    localOK b v (mergeOpt c keep L) = true := by
  cases c with
  | true => exact localOK_mono (fun _ => rfl) (localOK_mergeRuns keep h)
  | false => rw [hb rfl]; exact h

theorem validXList_mergeOpt {sx : Nat → Bool} {L : List HTree} (c : Bool) (keep : Keep)
    (h : validXList sx L = true) : validXList sx (mergeOpt c keep L) = true := by
  cases c with
  | true => exact validXList_mergeRuns keep h
  | false => exact h

/-- Edit one child list by `g0` and merge there (when consolidation is on): validity with the
    strictness `sx0`, which may be stricter than `sxY` at `q` only. -/
theorem merge_stage {Y : Forest} {sxY sx0 : Nat → Bool} {q : Nat} {vq : Value} {LY : List HTree}
    {g0 : List HTree → List HTree} (keep : Keep)
    (sY : SiteAt Y q vq LY) (hvY : validXList sxY Y.roots = true)
    (hother : ∀ h, h ≠ q → sx0 h = true → sxY h = true)
    (hstrict : Y.consolidation = false → sx0 q = false)
    (hloc0 : localOK false vq (g0 LY) = true) (hmem0 : validXList sx0 (g0 LY) = true) :
    validXList sx0 (Y.editAt (some q) (mergeOpt Y.consolidation keep ∘ g0)).roots = true := by
  apply stage sY hvY hother
  · exact localOK_mergeOpt _ _ keep hloc0 hstrict
  · exact validXList_mergeOpt _ keep hmem0

theorem site_members {Y : Forest} {sxY sx0 : Nat → Bool} {q : Nat} {vq : Value} {LY : List HTree}
    (sY : SiteAt Y q vq LY) (hvY : validXList sxY Y.roots = true)
    (hother : ∀ h, h ≠ q → sx0 h = true → sxY h = true) :
    localOK false vq LY = true ∧ validXList sx0 LY = true := by
  have hq := validX_findList Y.roots _ hvY sY.kids
  rw [validX_node, Bool.and_eq_true] at hq
  refine ⟨localOK_weaken hq.1, ?_⟩
  obtain ⟨_, hqL⟩ := sY.nodupKids
  exact validXList_mono LY (fun x hx => hother x (fun e => hqL (e ▸ hx))) hq.2

/-- A child `c` has left the child list of `po`: the forest is valid once the no-adjacent-text clause is
    dropped at `po` (the two neighbours of `c` may both be text until the next merge there). -/
theorem valid_dropTop_relaxed {f : Forest} {b : Bool} {po : Nat} {vo : Value} {L : List HTree}
    (s : SiteAt f po vo L) (hv : validXList (fun _ => b) f.roots = true) (c : Nat) :
    validXList (fun h => if h = po then false else b) (f.editAt (some po) (dropTop c)).roots = true := by
  obtain ⟨hlo, hmo⟩ := site_members (sx0 := fun _ => b) s hv (fun _ _ h => h)
  apply stage s hv
  · intro h hh hs
    rwa [if_neg hh] at hs
  · rw [if_pos rfl]
    exact localOK_dropTop _ hlo
  · apply validXList_dropTop
    refine validXList_mono _ (fun x _ hs => ?_) hmo
    split at hs
    · cases hs
    · exact hs

/-- The strictness the invariant asks of every node. -/
def sx0 (f : Forest) : Nat → Bool := fun _ => !f.everOff

theorem valid0 {f : Forest} (inv : f.Inv) : validXList (sx0 f) f.roots = true := by
  show validXList (fun _ => !f.everOff) f.roots = true
  rw [validXList_const]; exact inv.valid

theorem strict0 {f : Forest} (inv : f.Inv) (q : Nat) : f.consolidation = false → sx0 f q = false := by
  intro hc
  rcases inv.consOn with h | h
  · rw [h] at hc; cases hc
  · show (!f.everOff) = false; rw [h]; rfl

theorem inv_of_valid {f g : Forest} (inv : f.Inv)
    (hc : g.consolidation = f.consolidation) (he : g.everOff = f.everOff) (hcor : g.corrupt = f.corrupt)
    (hval : validXList (sx0 f) g.roots = true)
    (hnd : g.allHandles.Nodup) (hbelow : ∀ z ∈ g.allHandles, z < g.next) : g.Inv := by
  refine ⟨by rw [hcor]; exact inv.notCorrupt, hnd, hbelow, ?_, by rw [hc, he]; exact inv.consOn⟩
  rw [he]
  have := hval
  show validList (!f.everOff) _ = true
  rw [← validXList_const]; exact this

theorem inv_of_valid_count {f g : Forest} (inv : f.Inv)
    (hc : g.consolidation = f.consolidation) (he : g.everOff = f.everOff) (hcor : g.corrupt = f.corrupt)
    (hnext : g.next = f.next) (hval : validXList (sx0 f) g.roots = true)
    (hcount : ∀ z, g.allHandles.count z ≤ f.allHandles.count z) : g.Inv := by
  apply inv_of_valid inv hc he hcor hval
  · rw [List.nodup_iff_count]
    intro z
    exact Nat.le_trans (hcount z) ((List.nodup_iff_count.1 inv.nodup) z)
  · intro z hz
    rw [hnext]
    apply inv.below
    have hpos : 0 < g.allHandles.count z := List.count_pos_iff.2 hz
    exact List.count_pos_iff.1 (Nat.lt_of_lt_of_le hpos (hcount z))

theorem check_unpack {f : Forest} {d : Dest} {n : Nat} (nd : f.allHandles.Nodup)
    (h : implCheck f d n = true) :
    ∃ q vq Lq t, SiteAt f q vq Lq ∧ d.site f = some q ∧ f.get? n = some t ∧ q ∉ handles t ∧
      t.value.isNormal = true ∧ t.value.isDocument = false ∧
      (vq.isElement = true ∨ vq.isDocument = true) ∧
      (∀ r, (d = .after r ∨ d = .before r) → ∀ k ∈ Lq, k.handle = r → k.value.isNormal = true) := by
  -- the node the structure check is made against, and the reference node if there is one
  obtain ⟨q, hsc, hsite, hrn⟩ : ∃ q, f.structureCheck (some q) n = true ∧
      (f.isLive q = true → d.site f = some q) ∧
      ∀ r, (d = .after r ∨ d = .before r) → f.isNormalNode r = true := by
    have sib : ∀ r, f.structureCheck (f.parent? r) n = true → f.siblingReferenceCheck r n = true →
        ∃ q, f.parent? r = some q ∧ f.structureCheck (some q) n = true ∧ f.isNormalNode r = true := by
      intro r h1 h2
      cases hp : f.parent? r with
      | none => rw [hp] at h1; cases h1
      | some q =>
        rw [hp] at h1
        simp only [Forest.siblingReferenceCheck, Bool.and_eq_true] at h2
        exact ⟨q, rfl, h1, h2.2⟩
    cases d with
    | lastChildOf p | firstNormalChildOf p =>
      exact ⟨p, h, fun hl => by simp only [Dest.site, hl, if_true],
        fun r hr => by rcases hr with e | e <;> cases e⟩
    | after r | before r =>
      simp only [implCheck, Bool.and_eq_true] at h
      obtain ⟨q, hp, hsc, hrn⟩ := sib r h.1 h.2
      refine ⟨q, hsc, fun _ => hp, fun r' hr' => ?_⟩
      rcases hr' with e | e <;> cases e
      exact hrn
  obtain ⟨vp, Lp, t, hgp, hgc, hpt, hnorm, hndoc, hvp⟩ := Forest.structureCheck_unpack nd hsc
  refine ⟨q, vp, Lp, t, ⟨nd, hgp⟩, hsite (Forest.isLive_of_get? hgp), hgc, hpt, hnorm, hndoc, hvp, ?_⟩
  intro r hr k hk hkr
  obtain ⟨A, B, hAB⟩ := List.append_of_mem hk
  have hg := (show SiteAt f q vp (A ++ k :: B) from hAB ▸ ⟨nd, hgp⟩).getKid
  rw [hkr] at hg
  have := hrn r hr
  simp only [Forest.isNormalNode, Forest.value?, hg, Option.map_some] at this
  simpa using this

theorem kidAllowed_of {vq tv : Value} (hvq : vq.isElement = true ∨ vq.isDocument = true)
    (hn : tv.isNormal = true) (hd : tv.isDocument = false) : kidAllowed vq tv = true := by
  cases vq with
  | element _ => simp [kidAllowed, hd]
  | document => simp [kidAllowed, hn, hd]
  | _ => rcases hvq with h | h <;> cases h

theorem href_map {φ : HTree → HTree} (hφ : KidMap φ) {d : Dest} {Lq : List HTree}
    (href : ∀ r, (d = .after r ∨ d = .before r) → ∀ k ∈ Lq, k.handle = r → k.value.isNormal = true) :
    ∀ r, (d = .after r ∨ d = .before r) → ∀ k ∈ Lq.map φ, k.handle = r → k.value.isNormal = true := by
  intro r hr k hk hkr
  obtain ⟨k0, hk0, e⟩ := List.mem_map.1 hk
  rw [← e, hφ.value]
  rw [← e, hφ.handle] at hkr
  exact href r hr k0 hk0 hkr

theorem specMove_occupied {keep : Keep} {d : Dest} {n : Nat} {f : Forest} (h : d.occupiedBy f n = true) :
    specMove keep d n f = f := by
  unfold specMove; rw [h]; rfl

theorem localOK_of_textMerge {b : Bool} {v : Value} {L L' : List HTree} (hm : TextMerge L L')
    (h : localOK false v L = true) (hs : b = true → noAdjacentText L' = true) : localOK b v L' = true := by
  cases b with
  | false => exact localOK_textMerge hm h
  | true => exact localOK_strict (localOK_textMerge hm h) (hs rfl)

/-- **A move keeps validity and invents no handle**, whatever merges of adjacent text tidy the place left (`Mo`)
    and the place of arrival (`Mn`), for validity of one strictness `b` at every node — strict only if the two
    merges leave no adjacent text.  `R` is the forest after the move: the node cut out, put in at `q`, the old
    place tidied (if the node had a parent), the new place tidied. -/
theorem move_valid {f : Forest} {d : Dest} {n : Nat} {b : Bool} {q : Nat} {vq : Value} {Lq : List HTree} {t : HTree}
    (inv : f.Inv) (hv0 : validXList (fun _ => b) f.roots = true)
    (sq : SiteAt f q vq Lq) (hgc : f.get? n = some t) (hqt : q ∉ handles t)
    (hnorm : t.value.isNormal = true) (hndoc : t.value.isDocument = false)
    (hvq : vq.isElement = true ∨ vq.isDocument = true)
    (href : ∀ r, (d = .after r ∨ d = .before r) → ∀ k ∈ Lq, k.handle = r → k.value.isNormal = true)
    (Mo Mn : List HTree → List HTree) (hMo : ∀ L, TextMerge L (Mo L)) (hMn : ∀ L, TextMerge L (Mn L))
    (hnat : ∀ φ, KidMap φ → NatFor φ Mo)
    (hstrict : b = true → ∀ L, noAdjacentText (Mo L) = true ∧ noAdjacentText (Mn L) = true)
    {R : Forest}
    (hR : match f.parent? n with
      | none => R = ((f.editAt none (dropTop n)).editAt (some q) (d.insert t)).editAt (some q) Mn
      | some po => R = (((f.editAt (some po) (dropTop n)).editAt (some q) (d.insert t)).editAt (some po) Mo).editAt
          (some q) Mn) :
    validXList (fun _ => b) R.roots = true ∧ ∀ z, R.allHandles.count z ≤ f.allHandles.count z := by
  have nd := inv.nodup
  have hvqt := isText_false_of_kind hvq
  have hal := kidAllowed_of hvq hnorm hndoc
  have ht0 : validX (fun _ => b) t = true := validX_findList f.roots t hv0 hgc
  -- the arrival: `t` put into the child list `LY` of `q` in a valid forest `Y`, and that list tidied
  have arrive : ∀ (Y : Forest) (LY : List HTree), SiteAt Y q vq LY → validXList (fun _ => b) Y.roots = true →
      (∀ r, (d = .after r ∨ d = .before r) → ∀ k ∈ LY, k.handle = r → k.value.isNormal = true) →
      validXList (fun _ => b) (Y.editAt (some q) (Mn ∘ d.insert t)).roots = true ∧
      ∀ z, (Y.editAt (some q) (Mn ∘ d.insert t)).allHandles.count z ≤ Y.allHandles.count z + (handles t).count z := by
    intro Y LY sY hvY hrefY
    obtain ⟨hl, hm⟩ := site_members (sx0 := fun _ => b) sY hvY (fun _ _ h => h)
    refine ⟨stage sY hvY (fun _ _ h => h)
      (localOK_of_textMerge (hMn _) (localOK_insert d t hl hal hnorm hrefY) (fun hb => (hstrict hb _).2))
      (validXList_textMerge (hMn _) (validXList_insert d t hm ht0)), fun z => ?_⟩
    have h1 := sY.count (Mn ∘ d.insert t) z
    have h2 := (hMn (d.insert t LY)).handles_sublist.count_le z
    have h3 := count_insert_le z d t LY
    simp only [Function.comp] at h1
    omega
  rcases SiteAt.mover sq hgc with hno | ⟨l, r, hctx, rfl⟩ | ⟨po, vo, l, r, hpq, hctx, so⟩
  · -- the moved node is a parentless tree
    have hroot : f.isRoot n = true := isRoot_of_no_ctx hgc hno
    rw [Forest.parent?_of_no_ctx hno] at hR
    rw [hR, Forest.editAt_editAt]
    obtain ⟨r1, r2⟩ := arrive _ Lq (sq.dropRoot hgc hqt) (validXList_dropTop n hv0) href
    refine ⟨r1, fun z => ?_⟩
    have h1 := r2 z
    have h2 := count_dropTop_root nd hgc hroot z
    have h3 : (f.editAt none (dropTop n)).allHandles.count z = (handlesList (dropTop n f.roots)).count z := rfl
    omega
  · -- within one child list: one edit
    obtain rfl : t.handle = n := (findList?_some f.roots t hgc).1
    obtain ⟨tl, tr⟩ := tops_ne_of_nodup sq.nodupKids.1
    have hdrop : dropTop t.handle (l ++ t :: r) = l ++ r := dropTop_mid rfl tl tr
    rw [show f.parent? t.handle = some q from Forest.parent?_of_ctx? hctx] at hR
    rw [hR, Forest.editAt_editAt, Forest.editAt_editAt, Forest.editAt_editAt]
    obtain ⟨hlo, hmo⟩ := site_members (sx0 := fun _ => b) sq hv0 (fun _ _ h => h)
    have href' : ∀ r', (d = .after r' ∨ d = .before r') → ∀ k' ∈ dropTop t.handle (l ++ t :: r),
        k'.handle = r' → k'.value.isNormal = true := fun r' hr' k' hk' => href r' hr' k' (mem_of_mem_dropTop hk')
    refine ⟨stage sq hv0 (fun _ _ h => h) ?_ ?_, fun z => ?_⟩
    · exact localOK_of_textMerge (hMn _) (localOK_textMerge (hMo _)
        (localOK_insert d t (localOK_dropTop _ hlo) hal hnorm href')) (fun hb => (hstrict hb _).2)
    · exact validXList_textMerge (hMn _) (validXList_textMerge (hMo _)
        (validXList_insert d t (validXList_dropTop _ hmo) ht0))
    · have h1 := sq.count (((Mn ∘ Mo) ∘ d.insert t) ∘ dropTop t.handle) z
      simp only [Function.comp] at h1
      rw [hdrop] at h1
      have h2 := (hMn (Mo (d.insert t (l ++ r)))).handles_sublist.count_le z
      have h3 := (hMo (d.insert t (l ++ r))).handles_sublist.count_le z
      have h4 := count_insert_le z d t (l ++ r)
      have h5 := count_handles_mid z l t r
      omega
  · -- from another child list: the old place is tidied before the node arrives
    obtain rfl : t.handle = n := (findList?_some f.roots t hgc).1
    obtain ⟨tl, tr⟩ := tops_ne_of_nodup so.nodupKids.1
    have hdrop : dropTop t.handle (l ++ t :: r) = l ++ r := dropTop_mid rfl tl tr
    rw [show f.parent? t.handle = some po from Forest.parent?_of_ctx? hctx] at hR
    rw [hR, Forest.editAt_comm _ hpq (hnat _ (kidMap_editAt _ _))
      (natFor_insert (kidMap_editAt _ _) (editAt_of_not_mem t so.not_mem_kid) d), Forest.editAt_editAt,
      Forest.editAt_editAt]
    obtain ⟨hlo, hmo⟩ := site_members (sx0 := fun _ => b) so hv0 (fun _ _ h => h)
    have hvY : validXList (fun _ => b) (f.editAt (some po) (Mo ∘ dropTop t.handle)).roots = true :=
      stage so hv0 (fun _ _ h => h)
        (localOK_of_textMerge (hMo _) (localOK_dropTop _ hlo) (fun hb => (hstrict hb _).1))
        (validXList_textMerge (hMo _) (validXList_dropTop _ hmo))
    have sY := so.after_leave sq inv.valid hpq hqt hvqt Mo (fun L => (hMo L).handles_sublist)
      (fun L h => ((hMo L).leafZ h).2)
    obtain ⟨r1, r2⟩ := arrive _ _ sY hvY (href_map (kidMap_editAt _ _) href)
    refine ⟨r1, fun z => ?_⟩
    have h1 := r2 z
    have h2 := so.count (Mo ∘ dropTop t.handle) z
    simp only [Function.comp] at h2
    rw [hdrop] at h2
    have h3 := (hMo (l ++ r)).handles_sublist.count_le z
    have h4 := count_handles_mid z l t r
    omega

/-- The whole-run reading: both places are tidied by `mergeRuns` when consolidation is on. -/
theorem specMove_valid {f : Forest} {d : Dest} {n : Nat} {b : Bool} (inv : f.Inv)
    (hv0 : validXList (fun _ => b) f.roots = true) (hb : f.consolidation = false → b = false)
    (hck : implCheck f d n = true) (hocc : d.occupiedBy f n = false) :
    validXList (fun _ => b) (specMove (Keep.resident n) d n f).roots = true ∧
      ∀ z, (specMove (Keep.resident n) d n f).allHandles.count z ≤ f.allHandles.count z := by
  obtain ⟨q, vq, Lq, t, sq, hsite, hgc, hqt, hnorm, hndoc, hvq, href⟩ := check_unpack inv.nodup hck
  have hM : ∀ L, TextMerge L (mergeOpt f.consolidation (Keep.resident n) L) := fun L => .of_mergeOpt _ _ L
  refine move_valid inv hv0 sq hgc hqt hnorm hndoc hvq href
    (mergeOpt f.consolidation (Keep.resident n)) (mergeOpt f.consolidation (Keep.resident n)) hM hM
    (fun φ hφ => by
      cases f.consolidation
      · exact natFor_id φ
      · exact natFor_mergeRuns hφ _)
    (fun hbt L => by
      have hc : f.consolidation = true := by
        cases hc : f.consolidation with
        | true => rfl
        | false => rw [hb hc] at hbt; cases hbt
      rw [hc]; exact ⟨noAdj_mergeRuns _ _, noAdj_mergeRuns _ _⟩) ?_
  rw [specMove_unfold hocc hgc hsite]
  cases f.parent? n with
  | none =>
    rw [mergeAt_none, mergeAt_eq_mergeOpt]
    simp only [Forest.editAt_consolidation]
  | some po =>
    rw [mergeAt_eq_mergeOpt, mergeAt_eq_mergeOpt]
    simp only [Forest.editAt_consolidation]

theorem specMove_inv {f : Forest} {d : Dest} {n : Nat} (inv : f.Inv) (norm : f.Normal)
    (hck : implCheck f d n = true) : (specMove (Keep.resident n) d n f).Inv := by
  cases hocc : d.occupiedBy f n with
  | true => rw [specMove_occupied hocc]; exact inv
  | false =>
    obtain ⟨fc, fe, fcor, fnext⟩ := specMove_fields (Keep.resident n) d n f
    obtain ⟨h1, h2⟩ := specMove_valid inv (valid0 inv) (strict0 inv 0) hck hocc
    exact inv_of_valid_count inv fc fe fcor fnext h1 h2

theorem specMove_normal {f : Forest} {d : Dest} {n : Nat} (inv : f.Inv) (norm : f.Normal)
    (hck : implCheck f d n = true) : (specMove (Keep.resident n) d n f).Normal := by
  intro hc
  rw [(specMove_fields (Keep.resident n) d n f).1] at hc
  cases hocc : d.occupiedBy f n with
  | true => rw [specMove_occupied hocc]; exact norm hc
  | false =>
    have := (specMove_valid (b := true) inv (by rw [validXList_const]; exact norm hc)
      (fun h => by rw [hc] at h; cases h) hck hocc).1
    rwa [validXList_const] at this

end Prog

open HTree Spec

/-! ### After a move: distinct handles, no adjacent text (the intermediate forests of `replace`)

  The call is the specification's move, which keeps the invariant and `Forest.Normal`
  (`Prog.specMove_inv`, `Prog.specMove_normal`). -/

theorem Forest.noAdj_of_strict {f : Forest} (h : validList true f.roots = true) {x : Nat} {v : Value} {L : List HTree}
    (e : f.get? x = some (.node x v L)) : noAdjacentText L = true :=
  (validTree_node (findList?_valid _ _ f.roots _ h e)).2.2.1 rfl

theorem insertAfter_implCheck {g : Forest} {p b : Nat} (hok : (g.insertAfter p b).2 = .ok) :
    Prog.implCheck g (.after p) b = true := by
  simp only [Prog.implCheck, Bool.and_eq_true]
  exact insertAfter_ok_checks hok

theorem insertAfter_nodup {g : Forest} {p b : Nat} (inv : g.Inv) (norm : g.Normal)
    (hok : (g.insertAfter p b).2 = .ok) : (g.insertAfter p b).1.allHandles.Nodup := by
  rw [insertAfter_spec inv norm hok]
  exact (Prog.specMove_inv inv norm (insertAfter_implCheck hok)).nodup

theorem insertAfter_noAdj {g : Forest} {p b : Nat} (inv : g.Inv) (norm : g.Normal)
    (hok : (g.insertAfter p b).2 = .ok) :
    g.consolidation = true → ∀ x v L, (g.insertAfter p b).1.get? x = some (.node x v L) →
      noAdjacentText L = true := by
  intro hc x v L e
  rw [insertAfter_spec inv norm hok] at e
  refine Forest.noAdj_of_strict (Prog.specMove_normal inv norm (insertAfter_implCheck hok) ?_) e
  rw [(Prog.specMove_fields _ _ _ g).1]; exact hc

theorem prepend_nodup {g : Forest} {p b : Nat} (inv : g.Inv) (norm : g.Normal)
    (hok : (g.prepend p b).2 = .ok) : (g.prepend p b).1.allHandles.Nodup := by
  rw [prepend_spec inv norm hok]
  exact (Prog.specMove_inv inv norm (d := .firstNormalChildOf p) (prepend_ok_check hok)).nodup

theorem prepend_noAdj {g : Forest} {p b : Nat} (inv : g.Inv) (norm : g.Normal)
    (hok : (g.prepend p b).2 = .ok) :
    g.consolidation = true → ∀ x v L, (g.prepend p b).1.get? x = some (.node x v L) →
      noAdjacentText L = true := by
  intro hc x v L e
  rw [prepend_spec inv norm hok] at e
  refine Forest.noAdj_of_strict
    (Prog.specMove_normal inv norm (d := .firstNormalChildOf p) (prepend_ok_check hok) ?_) e
  rw [(Prog.specMove_fields _ _ _ g).1]; exact hc

end XotModel
