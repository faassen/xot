/-
  `remove_insignificant_whitespace`: what the traversal collects, the loop against the
  specification, and the frame, idempotence and loop-safety facts.
-/
import XotModel.Lemmas.FwsChar
import XotModel.Lemmas.FwsPrune

/-! ## The collection phase gathers exactly the handles the specification deletes, in document order -/

namespace XotModel
namespace Fws
open HTree Fmap

theorem descendantsNormal_eq (t : HTree) :
    Forest.descendantsNormal t =
      (if t.value.isNormal then [t.handle] else []) ++ Forest.descendantsNormalList t.kids := by
  cases t; simp only [Forest.descendantsNormal, HTree.value, HTree.handle, HTree.kids]; split <;> simp [*]

theorem deletable_text {p sig : Bool} {k : HTree} (h : deletable p sig k = true) : ∃ s, k.value = .text s := by
  unfold deletable isWsOnlyText at h
  cases hv : k.value <;> rw [hv] at h <;> simp at h
  exact ⟨_, rfl⟩

theorem collect_node {f : Forest} {b : Bool} (nd : f.allHandles.Nodup) (hv : validList b f.roots = true)
    {t : HTree} {anc : List HTree} (o : Occurs f t anc) :
    (Forest.descendantsNormal t).filter f.isInsignificantWhitespace =
      if topDeleted anc t then [t.handle]
      else (Forest.descendantsNormalList t.kids).filter f.isInsignificantWhitespace := by
  rw [descendantsNormal_eq, List.filter_append]
  by_cases hd : topDeleted anc t = true
  · obtain ⟨s, hs⟩ := deletable_text hd
    have hk : t.kids = [] := text_no_kids (o.valid hv) hs
    simp [hd, hk, hs, Value.isNormal, Value.category, Forest.descendantsNormalList, isInsig_eq nd hv o]
  · simp only [hd]
    by_cases hn : t.value.isNormal = true
    · simp [hn, isInsig_eq nd hv o, hd]
    · simp [hn]

mutual
  theorem collect_tree {f : Forest} {b : Bool} (nd : f.allHandles.Nodup) (hv : validList b f.roots = true) :
      ∀ (t : HTree) (anc : List HTree), Occurs f t anc →
        (Forest.descendantsNormalList t.kids).filter f.isInsignificantWhitespace = specRemoved (chainScope anc) t
    | .node h v ks, anc, o => by
      simp only [HTree.kids, specRemoved]
      exact collect_kids nd hv ks (.node h v ks) anc o (fun k hk => hk)
  theorem collect_kids {f : Forest} {b : Bool} (nd : f.allHandles.Nodup) (hv : validList b f.roots = true) :
      ∀ (ks : List HTree) (p : HTree) (anc : List HTree), Occurs f p anc → (∀ k ∈ ks, k ∈ p.kids) →
        (Forest.descendantsNormalList ks).filter f.isInsignificantWhitespace =
          specRemovedKids (chainScope (p :: anc)) (p.kids.any isOtherText) ks
    | [], _, _, _, _ => by simp [Forest.descendantsNormalList, specRemovedKids]
    | k :: ks, p, anc, o, hsub => by
      have ok : Occurs f k (p :: anc) := .kid o (hsub k List.mem_cons_self)
      simp only [Forest.descendantsNormalList, specRemovedKids, List.filter_append]
      rw [collect_node nd hv ok, collect_tree nd hv k (p :: anc) ok,
        collect_kids nd hv ks p anc o (fun k' hk' => hsub k' (List.mem_cons_of_mem _ hk'))]
      rfl
end

/-- The list collected by the first loop of `remove_insignificant_whitespace`. -/
theorem toRemove_eq {f : Forest} {b : Bool} (nd : f.allHandles.Nodup) (hv : validList b f.roots = true)
    {t : HTree} {anc : List HTree} (o : Occurs f t anc) :
    (Forest.descendantsNormal t).filter f.isInsignificantWhitespace = specTopRemoved anc t := by
  rw [collect_node nd hv o, collect_tree nd hv t anc o]
  rfl

end Fws
end XotModel

/-! ## The removal loop is pruning by the specification's set; the pruned subtree is `specStrip`; what survives -/

namespace XotModel
namespace Fws
open HTree Fmap

/-! ### the collected list -/

theorem collected_text {f : Forest} {n : Nat} (h : f.isInsignificantWhitespace n = true) :
    ∃ k anc, Occurs f k anc ∧ k.handle = n ∧ k.value.isText = true := by
  unfold Forest.isInsignificantWhitespace at h
  cases ht : f.textOf n with
  | none => rw [ht] at h; simp at h
  | some s =>
    unfold Forest.textOf Forest.value? at ht
    cases hg : f.get? n with
    | none => rw [hg] at ht; simp at ht
    | some k =>
      obtain ⟨anc, o⟩ := occurs_of_get? hg
      refine ⟨k, anc, o, Forest.get?_handle hg, ?_⟩
      rw [hg] at ht
      simp only [Option.map_some] at ht
      cases hv : k.value <;> rw [hv] at ht <;> simp [Value.isText] at ht ⊢

theorem pruned_none (f : Forest) : pruned f (fun _ => false) = f := by
  unfold pruned
  rw [pruneTextKids_id _ _ (fun _ _ => rfl)]

/-- The removal loop (consolidation off), started after the handles in `done` have been deleted. -/
theorem fold_remove {f : Forest} {b : Bool} (nd : f.allHandles.Nodup) (hv : validList b f.roots = true)
    (hc : f.consolidation = false) :
    ∀ (L : List Nat) (done : Nat → Bool), L.Nodup → (∀ n ∈ L, done n = false) →
      (∀ n ∈ L, ∃ k anc, Occurs f k anc ∧ k.handle = n ∧ k.value.isText = true) →
      L.foldl (fun acc n => (acc.remove n).1) (pruned f done) = pruned f (fun h => done h || L.contains h)
  | [], done, _, _, _ => by simp
  | n :: L, done, hnd, hdone, htext => by
    obtain ⟨hn, hL⟩ := List.nodup_cons.1 hnd
    obtain ⟨k, anc, o, rfl, hk⟩ := htext n List.mem_cons_self
    have hkeep : (k.value.isText && done k.handle) = false := by
      rw [hdone _ List.mem_cons_self]; simp
    have o' := o.prune done hv hkeep
    have step := remove_text_off (pruned_nodup done nd) (show (pruned f done).consolidation = false from hc) o'
      (by rw [pruneText_value]; exact hk)
    rw [pruneText_handle] at step
    rw [List.foldl_cons, step, pruned_pruned]
    rw [fold_remove nd hv hc L _ hL
      (fun m hm => by
        have : m ≠ k.handle := fun e => hn (e ▸ hm)
        simp [hdone m (List.mem_cons_of_mem _ hm), this])
      (fun m hm => htext m (List.mem_cons_of_mem _ hm))]
    congr 1
    funext h
    simp only [List.contains_cons, Bool.or_assoc]

/-- The forest the loop runs on: consolidation switched off, nothing else changed. -/
def consOff (f : Forest) : Forest := { f with consolidation := false }

theorem pruned_consOff (f : Forest) (S : Nat → Bool) :
    { pruned (consOff f) S with consolidation := f.consolidation } = pruned f S := rfl

/-- `remove_insignificant_whitespace` deletes exactly the specification's set. -/
theorem strip_eq_pruned {f : Forest} {b : Bool} (nd : f.allHandles.Nodup) (hv : validList b f.roots = true)
    {t : HTree} {anc : List HTree} (o : Occurs f t anc) :
    f.removeInsignificantWhitespace t.handle = pruned f (fun h => (specTopRemoved anc t).contains h) := by
  unfold Forest.removeInsignificantWhitespace
  rw [o.get? nd]
  simp only
  have hnd : ((Forest.descendantsNormal t).filter f.isInsignificantWhitespace).Nodup :=
    (List.filter_sublist.trans (descendantsNormal_sublist t)).nodup (o.nodup nd)
  have := fold_remove (f := consOff f) (b := b) nd hv rfl _ (fun _ => false) hnd (fun _ _ => rfl)
    (fun n hn => by
      obtain ⟨k, anc, ok, h1, h2⟩ := collected_text (List.mem_filter.1 hn).2
      exact ⟨k, anc, Occurs.of_roots_eq (f := f) (f' := consOff f) rfl ok, h1, h2⟩)
  rw [pruned_none] at this
  show { List.foldl _ (consOff f) _ with consolidation := f.consolidation } = _
  rw [this, toRemove_eq nd hv o]
  simp only [Bool.false_or]
  exact pruned_consOff f _

/-! ### the specification's set lies below the start node -/

mutual
  theorem specRemoved_subset (p : Bool) : ∀ (t : HTree) (h : Nat), h ∈ specRemoved p t → h ∈ handlesList t.kids
    | .node h' v ks, h, hm => by
      simp only [specRemoved] at hm
      exact specRemovedKids_subset _ _ ks h hm
  theorem specRemovedKids_subset (p sig : Bool) : ∀ (ks : List HTree) (h : Nat),
      h ∈ specRemovedKids p sig ks → h ∈ handlesList ks
    | [], h, hm => by cases hm
    | k :: ks, h, hm => by
      simp only [specRemovedKids, List.mem_append] at hm
      simp only [handlesList, List.mem_append]
      rcases hm with hm | hm
      · refine Or.inl ?_
        split at hm
        · simp only [List.mem_singleton] at hm
          exact hm ▸ handle_mem_handles k
        · rw [handles_eq]
          exact List.mem_cons_of_mem _ (specRemoved_subset p k h hm)
      · exact Or.inr (specRemovedKids_subset p sig ks h hm)
end

theorem specTopRemoved_subset (anc : List HTree) (t : HTree) : ∀ h ∈ specTopRemoved anc t, h ∈ handles t := by
  intro h hm
  unfold specTopRemoved at hm
  split at hm
  · simp only [List.mem_singleton] at hm
    exact hm ▸ handle_mem_handles t
  · rw [handles_eq]
    exact List.mem_cons_of_mem _ (specRemoved_subset _ t h hm)

/-! ### pruning by the specification's set is `specStrip` -/

mutual
  theorem prune_eq_specStrip (p : Bool) (S : Nat → Bool) : ∀ t : HTree, (handles t).Nodup →
      (∀ h ∈ handlesList t.kids, (S h = true ↔ h ∈ specRemoved p t)) → pruneText S t = specStrip p t
    | .node h' v ks, nd, hS => by
      simp only [pruneText, specStrip]
      rw [prune_eq_specStripKids _ _ S ks (nodup_kids (t := .node h' v ks) nd).2 (by simpa [specRemoved, HTree.kids] using hS)]
  theorem prune_eq_specStripKids (p sig : Bool) (S : Nat → Bool) : ∀ ks : List HTree, (handlesList ks).Nodup →
      (∀ h ∈ handlesList ks, (S h = true ↔ h ∈ specRemovedKids p sig ks)) →
      pruneTextKids S ks = specStripKids p sig ks
    | [], _, _ => rfl
    | k :: ks, nd, hS => by
      obtain ⟨ndk, ndks, disj⟩ := nodup_handlesList_cons nd
      have notInRest : ∀ h ∈ handles k, h ∉ specRemovedKids p sig ks :=
        fun h hh hm => disj h hh (specRemovedKids_subset p sig ks h hm)
      simp only [pruneTextKids, specStripKids]
      by_cases hd : deletable p sig k = true
      · obtain ⟨s, hs⟩ := deletable_text hd
        have hSk : S k.handle = true :=
          (hS k.handle (by simp [handlesList, handle_mem_handles])).2 (by simp [specRemovedKids, hd])
        simp only [hd, if_true, hs, Value.isText, hSk, Bool.and_self]
        apply prune_eq_specStripKids p sig S ks ndks
        intro h hh
        rw [hS h (by simp [handlesList, hh])]
        simp only [specRemovedKids, hd, if_true, List.mem_append, List.mem_singleton]
        constructor
        · rintro (rfl | h1)
          · exact absurd hh (disj _ (handle_mem_handles k))
          · exact h1
        · exact Or.inr
      · have hSk : S k.handle = false := by
          rw [Bool.eq_false_iff]
          intro h1
          have := (hS k.handle (by simp [handlesList, handle_mem_handles])).1 h1
          simp only [specRemovedKids, hd, Bool.false_eq_true, if_false, List.mem_append] at this
          rcases this with h2 | h2
          · exact (nodup_kids ndk).1 (specRemoved_subset p k _ h2)
          · exact notInRest _ (handle_mem_handles k) h2
        simp only [hd, Bool.false_eq_true, if_false, hSk, Bool.and_false]
        rw [prune_eq_specStrip p S k ndk (fun h hh => by
            have hk' : h ∈ handles k := by rw [handles_eq]; exact List.mem_cons_of_mem _ hh
            rw [hS h (by simp [handlesList, hk'])]
            simp only [specRemovedKids, hd, Bool.false_eq_true, if_false, List.mem_append]
            exact ⟨fun h1 => h1.resolve_right (notInRest h hk'), Or.inl⟩),
          prune_eq_specStripKids p sig S ks ndks (fun h hh => by
            rw [hS h (by simp [handlesList, hh])]
            simp only [specRemovedKids, hd, Bool.false_eq_true, if_false, List.mem_append]
            refine ⟨fun h1 => h1.resolve_left (fun h2 => ?_), Or.inr⟩
            have : h ∈ handles k := by
              rw [handles_eq]; exact List.mem_cons_of_mem _ (specRemoved_subset p k h h2)
            exact disj h this hh)]
end

/-! ### what the call leaves at the start node -/

theorem topDeleted_text {anc : List HTree} {t : HTree} (h : topDeleted anc t = true) : t.value.isText = true := by
  obtain ⟨s, hs⟩ := deletable_text h
  rw [hs]; rfl

/-- The start node after the call: deleted, or the `specStrip` of the subtree. -/
theorem strip_get? {f : Forest} {b : Bool} (nd : f.allHandles.Nodup) (hv : validList b f.roots = true)
    {t : HTree} {anc : List HTree} (o : Occurs f t anc) :
    (f.removeInsignificantWhitespace t.handle).get? t.handle = specTop anc t := by
  rw [strip_eq_pruned nd hv o]
  unfold specTop
  by_cases hd : topDeleted anc t = true
  · simp only [hd, if_true]
    cases hx : (pruned f (fun h => (specTopRemoved anc t).contains h)).get? t.handle with
    | none => rfl
    | some x =>
      obtain ⟨q, hq, _, hkeep⟩ := pruned_get? _ nd hx
      rw [o.get? nd] at hq
      cases hq
      simp [topDeleted_text hd, specTopRemoved, hd] at hkeep
  · simp only [hd, Bool.false_eq_true, if_false]
    have hnot : t.handle ∉ specRemoved (chainScope anc) t :=
      fun hm => (nodup_kids (o.nodup nd)).1 (specRemoved_subset _ t _ hm)
    have hkeep : (t.value.isText && (specTopRemoved anc t).contains t.handle) = false := by
      simp [specTopRemoved, hd, hnot]
    have o' := o.prune _ hv hkeep
    have := o'.get? (pruned_nodup _ nd)
    rw [pruneText_handle] at this
    rw [this]
    congr 1
    apply prune_eq_specStrip _ _ t (o.nodup nd)
    intro h _
    simp [specTopRemoved, hd]

theorem strip_occurs {f : Forest} {b : Bool} (nd : f.allHandles.Nodup) (hv : validList b f.roots = true)
    {t : HTree} {anc : List HTree} (o : Occurs f t anc) {q : HTree} {ancq : List HTree} (oq : Occurs f q ancq)
    (hq : q.handle ∉ specTopRemoved anc t) :
    let S := fun h => (specTopRemoved anc t).contains h
    Occurs (f.removeInsignificantWhitespace t.handle) (pruneText S q) (ancq.map (pruneText S)) := by
  intro S
  rw [strip_eq_pruned nd hv o]
  exact oq.prune S hv (by simp [S, hq])

end Fws
end XotModel

/-! ## Frame, idempotence, loop safety -/

namespace XotModel
namespace Fws
open HTree Fmap

/-- With consolidation never switched off the invariant gives strict validity. -/
theorem strict_of_inv {f : Forest} (hinv : f.Inv) (hoff : f.everOff = false) :
    validList true f.roots = true := by
  have := hinv.valid
  rw [hoff] at this
  exact this

/-! ### liveness -/

theorem get?_isSome_iff {f : Forest} {h : Nat} : (∃ q, f.get? h = some q) ↔ h ∈ f.allHandles :=
  Option.isSome_iff_exists.symm.trans (findList?_isSome_iff h f.roots)

/-! ### members of the specification's set -/

/-- Every handle of the specification's set is a whitespace-only text node the rule selects. -/
theorem removed_text {f : Forest} {b : Bool} (nd : f.allHandles.Nodup) (hv : validList b f.roots = true)
    {t : HTree} {anc : List HTree} (o : Occurs f t anc) {n : Nat} (hn : n ∈ specTopRemoved anc t) :
    ∃ k ancn, Occurs f k ancn ∧ k.handle = n ∧ k.value.isText = true ∧ topDeleted ancn k = true := by
  rw [← toRemove_eq nd hv o] at hn
  have hi := (List.mem_filter.1 hn).2
  obtain ⟨k, ancn, ok, rfl, hk⟩ := collected_text hi
  rw [isInsig_eq nd hv ok] at hi
  exact ⟨k, ancn, ok, rfl, hk, hi⟩

theorem removed_nodup {f : Forest} {b : Bool} (nd : f.allHandles.Nodup) (hv : validList b f.roots = true)
    {t : HTree} {anc : List HTree} (o : Occurs f t anc) : (specTopRemoved anc t).Nodup := by
  rw [← toRemove_eq nd hv o]
  exact (List.filter_sublist.trans (descendantsNormal_sublist t)).nodup (o.nodup nd)

/-! ### frame -/

/-- The handles after the call, in document order: the old ones minus the specification's set. -/
theorem strip_handles {f : Forest} {b : Bool} (nd : f.allHandles.Nodup) (hv : validList b f.roots = true)
    {t : HTree} {anc : List HTree} (o : Occurs f t anc) :
    (f.removeInsignificantWhitespace t.handle).allHandles =
      f.allHandles.filter (fun h => !(specTopRemoved anc t).contains h) := by
  have e := strip_eq_pruned nd hv o
  apply sublist_eq_filter_of_mem _ (by rw [e]; exact pruned_sublist f _) nd
  intro h
  constructor
  · intro hm
    have hmf : h ∈ f.allHandles := by rw [e] at hm; exact (pruned_sublist f _).subset hm
    refine ⟨hmf, ?_⟩
    obtain ⟨x, hx⟩ := get?_isSome_iff.2 hm
    rw [e] at hx
    obtain ⟨q, hq, _, hkeep⟩ := pruned_get? _ nd hx
    cases hR : (specTopRemoved anc t).contains h with
    | false => rfl
    | true =>
      obtain ⟨k, ancn, ok, rfl, hk, _⟩ := removed_text nd hv o (List.contains_iff_mem.1 hR)
      rw [ok.get? nd] at hq
      cases hq
      rw [hk, hR] at hkeep
      cases hkeep
  · rintro ⟨hmf, hR⟩
    obtain ⟨q, hq⟩ := get?_isSome_iff.2 hmf
    obtain ⟨ancq, oq⟩ := occurs_of_get? hq
    have hh := Forest.get?_handle hq
    have hnot : q.handle ∉ specTopRemoved anc t := by
      rw [hh]; intro hm
      rw [List.contains_iff_mem.2 hm] at hR; cases hR
    have o' := strip_occurs nd hv o oq hnot
    have := o'.sublist.subset (handle_mem_handles _)
    rw [pruneText_handle, hh] at this
    exact this

theorem strip_removed_iff {f : Forest} {b : Bool} (nd : f.allHandles.Nodup) (hv : validList b f.roots = true)
    {t : HTree} {anc : List HTree} (o : Occurs f t anc) {h : Nat} (hl : f.isLive h = true) :
    (f.removeInsignificantWhitespace t.handle).isLive h = false ↔ h ∈ specTopRemoved anc t := by
  have hh := strip_handles nd hv o
  generalize f.removeInsignificantWhitespace t.handle = g at hh ⊢
  have hlf : h ∈ f.allHandles := Forest.mem_allHandles_of_isLive hl
  have hiff : g.isLive h = true ↔ h ∈ g.allHandles := findList?_isSome_iff h g.roots
  constructor
  · intro hg
    have : h ∉ g.allHandles := fun hm => by rw [hiff.2 hm] at hg; cases hg
    rw [hh, List.mem_filter] at this
    cases hc : (specTopRemoved anc t).contains h with
    | true => exact List.contains_iff_mem.1 hc
    | false => exact absurd ⟨hlf, by rw [hc]; rfl⟩ this
  · intro hm
    rw [Bool.eq_false_iff]
    intro hg
    have := hiff.1 hg
    rw [hh, List.mem_filter] at this
    simp only [Bool.not_eq_true', List.contains_eq_mem, decide_eq_false_iff_not] at this
    exact this.2 hm

theorem strip_frame {f : Forest} {b : Bool} (nd : f.allHandles.Nodup) (hv : validList b f.roots = true)
    {t : HTree} {anc : List HTree} (o : Occurs f t anc) {h : Nat} (hR : h ∉ specTopRemoved anc t) :
    (f.removeInsignificantWhitespace t.handle).value? h = f.value? h ∧
    (f.removeInsignificantWhitespace t.handle).parent? h = f.parent? h := by
  have e := strip_eq_pruned nd hv o
  have ndg : (f.removeInsignificantWhitespace t.handle).allHandles.Nodup := by
    rw [e]; exact pruned_nodup _ nd
  cases hq : f.get? h with
  | none =>
    have hnf : h ∉ f.allHandles := not_mem_of_findList?_none h f.roots hq
    have hng : h ∉ (f.removeInsignificantWhitespace t.handle).allHandles := fun hm =>
      hnf (by rw [e] at hm; exact (pruned_sublist f _).subset hm)
    have g1 : (f.removeInsignificantWhitespace t.handle).get? h = none :=
      findList?_none_of_not_mem h _ hng
    have c1 := ctx?_none hnf
    have c2 := ctx?_none hng
    simp [Forest.value?, Forest.parent?, hq, g1, c1, c2]
  | some q =>
    obtain ⟨ancq, oq⟩ := occurs_of_get? hq
    have hh := Forest.get?_handle hq
    have o' := strip_occurs nd hv o oq (by rw [hh]; exact hR)
    have g1 := o'.get? ndg
    rw [pruneText_handle, hh] at g1
    refine ⟨by simp [Forest.value?, hq, g1, pruneText_value], ?_⟩
    cases ancq with
    | nil =>
      have c1 := oq.ctx_root nd
      have c2 := o'.ctx_root ndg
      rw [pruneText_handle] at c2
      rw [hh] at c1 c2
      simp [Forest.parent?, c1, c2]
    | cons p ancq =>
      obtain ⟨_, hkp⟩ := oq.parent
      obtain ⟨l, r, hs⟩ := List.append_of_mem hkp
      have c1 := oq.ctx nd hs
      obtain ⟨_, hkp'⟩ := (show Occurs _ _ (pruneText _ p :: ancq.map _) from o').parent
      obtain ⟨l', r', hs'⟩ := List.append_of_mem hkp'
      have c2 := (show Occurs _ _ (pruneText _ p :: ancq.map _) from o').ctx ndg hs'
      rw [pruneText_handle] at c2
      rw [hh] at c1 c2
      simp [Forest.parent?, c1, c2, pruneText_handle]

theorem Occurs.root_above {f : Forest} {t : HTree} {anc : List HTree} (o : Occurs f t anc) :
    ∃ r ∈ f.roots, ∀ h ∈ handles t, h ∈ handles r := by
  induction o with
  | @root r hr => exact ⟨r, hr, fun _ h => h⟩
  | @kid p k anc _ hk ih =>
    obtain ⟨r, hr, hsub⟩ := ih
    exact ⟨r, hr, fun h hh => hsub h ((handles_kid_sublist hk).subset hh)⟩

theorem strip_other_roots {f : Forest} {b : Bool} (nd : f.allHandles.Nodup) (hv : validList b f.roots = true)
    {t : HTree} {anc : List HTree} (o : Occurs f t anc) {r : HTree} (hr : r ∈ f.roots)
    (hnot : t.handle ∉ handles r) : r ∈ (f.removeInsignificantWhitespace t.handle).roots := by
  rw [strip_eq_pruned nd hv o]
  show r ∈ pruneTextKids _ f.roots
  obtain ⟨r0, hr0, hsub⟩ := o.root_above
  have hS : ∀ h ∈ handles r, (specTopRemoved anc t).contains h = false := by
    intro h hh
    rw [Bool.eq_false_iff]
    intro hc
    have h0 : h ∈ handles r0 := hsub h (specTopRemoved_subset anc t h (List.contains_iff_mem.1 hc))
    obtain ⟨l, rr, hs⟩ := List.append_of_mem hr0
    unfold Forest.allHandles at nd
    rw [hs] at nd hr
    obtain ⟨_, dl, dr⟩ := split_disjoint nd
    rcases List.mem_append.1 hr with hr | hr
    · exact dl r hr h h0 hh
    · rcases List.mem_cons.1 hr with rfl | hr
      · exact hnot (hsub _ (handle_mem_handles t))
      · exact dr r hr h h0 hh
  rw [pruneTextKids_eq]
  refine List.mem_map.2 ⟨r, List.mem_filter.2 ⟨hr, ?_⟩, pruneText_id _ r hS⟩
  rw [hS r.handle (handle_mem_handles r)]; simp

/-! ### idempotence -/

theorem specStrip_value (p : Bool) (t : HTree) : (specStrip p t).value = t.value := by
  cases t; simp [specStrip, HTree.value]

theorem spaceOfKid_congr {a b : HTree} (h : a.value = b.value) : spaceOfKid a = spaceOfKid b := by
  unfold spaceOfKid; rw [h]

theorem isOtherText_congr {a b : HTree} (h : a.value = b.value) : isOtherText a = isOtherText b := by
  unfold isOtherText; rw [h]

theorem deletable_congr {p sig : Bool} {a b : HTree} (h : a.value = b.value) : deletable p sig a = deletable p sig b := by
  unfold deletable isWsOnlyText; rw [h]

theorem spaceOfKid_text {k : HTree} (h : k.value.isText = true) : spaceOfKid k = none := by
  unfold spaceOfKid
  cases hv : k.value <;> rw [hv] at h <;> simp [Value.isText] at h ⊢

theorem deletable_not_other {p sig : Bool} {k : HTree} (h : deletable p sig k = true) : isOtherText k = false := by
  unfold deletable isWsOnlyText at h
  unfold isOtherText
  cases hv : k.value <;> rw [hv] at h <;> simp at h ⊢
  exact h.1.1

theorem findSome_specStripKids (p sig : Bool) : ∀ ks : List HTree,
    (specStripKids p sig ks).findSome? spaceOfKid = ks.findSome? spaceOfKid
  | [] => rfl
  | k :: ks => by
    simp only [specStripKids]
    by_cases hd : deletable p sig k = true
    · obtain ⟨s, hs⟩ := deletable_text hd
      simp only [hd, if_true, List.findSome?_cons, spaceOfKid_text (k := k) (by rw [hs]; rfl)]
      exact findSome_specStripKids p sig ks
    · simp only [hd, Bool.false_eq_true, if_false, List.findSome?_cons,
        spaceOfKid_congr (specStrip_value p k), findSome_specStripKids p sig ks]

theorem any_specStripKids (p sig : Bool) : ∀ ks : List HTree,
    (specStripKids p sig ks).any isOtherText = ks.any isOtherText
  | [] => rfl
  | k :: ks => by
    simp only [specStripKids]
    by_cases hd : deletable p sig k = true
    · simp only [hd, if_true, List.any_cons, deletable_not_other hd, Bool.false_or]
      exact any_specStripKids p sig ks
    · simp only [hd, Bool.false_eq_true, if_false, List.any_cons,
        isOtherText_congr (specStrip_value p k), any_specStripKids p sig ks]

mutual
  /-- The specification is idempotent: after stripping nothing is left to delete. -/
  theorem specRemoved_specStrip (p : Bool) : ∀ t : HTree, specRemoved p (specStrip p t) = []
    | .node h v ks => by
      simp only [specStrip, specRemoved]
      have e1 : scope p (.node h v (specStripKids (scope p (.node h v ks)) (ks.any isOtherText) ks)) =
          scope p (.node h v ks) := by
        simp only [scope, spaceAttr_eq, HTree.kids, findSome_specStripKids]
      rw [e1, any_specStripKids]
      exact specRemovedKids_specStripKids _ _ ks
  theorem specRemovedKids_specStripKids (p sig : Bool) : ∀ ks : List HTree,
      specRemovedKids p sig (specStripKids p sig ks) = []
    | [] => rfl
    | k :: ks => by
      simp only [specStripKids]
      by_cases hd : deletable p sig k = true
      · simp only [hd, if_true]
        exact specRemovedKids_specStripKids p sig ks
      · have hd' : deletable p sig (specStrip p k) = false := by
          rw [deletable_congr (specStrip_value p k)]; simpa using hd
        simp only [hd, Bool.false_eq_true, if_false, specRemovedKids, hd',
          specRemoved_specStrip p k, specRemovedKids_specStripKids p sig ks, List.append_nil]
end

theorem findSome_pruneTextKids (S : Nat → Bool) : ∀ ks : List HTree,
    (pruneTextKids S ks).findSome? spaceOfKid = ks.findSome? spaceOfKid
  | [] => rfl
  | k :: ks => by
    simp only [pruneTextKids]
    by_cases hd : (k.value.isText && S k.handle) = true
    · have ht : k.value.isText = true := by
        simp only [Bool.and_eq_true] at hd; exact hd.1
      simp only [hd, if_true, List.findSome?_cons, spaceOfKid_text ht]
      exact findSome_pruneTextKids S ks
    · simp only [hd, Bool.false_eq_true, if_false, List.findSome?_cons,
        spaceOfKid_congr (pruneText_value S k), findSome_pruneTextKids S ks]

theorem chainScope_prune (S : Nat → Bool) : ∀ anc : List HTree, chainScope (anc.map (pruneText S)) = chainScope anc
  | [] => rfl
  | a :: anc => by
    simp only [List.map_cons, chainScope, scope, spaceAttr_eq, pruneText_kids, findSome_pruneTextKids,
      chainScope_prune S anc]

theorem any_pruneTextKids (S : Nat → Bool) : ∀ ks : List HTree,
    (∀ k ∈ ks, (k.value.isText && S k.handle) = true → isOtherText k = false) →
    (pruneTextKids S ks).any isOtherText = ks.any isOtherText
  | [], _ => rfl
  | k :: ks, h => by
    have ih := any_pruneTextKids S ks (fun k' hk' => h k' (List.mem_cons_of_mem _ hk'))
    simp only [pruneTextKids]
    by_cases hd : (k.value.isText && S k.handle) = true
    · simp only [hd, if_true, List.any_cons, h k List.mem_cons_self hd, Bool.false_or, ih]
    · simp only [hd, Bool.false_eq_true, if_false, List.any_cons, isOtherText_congr (pruneText_value S k), ih]

theorem strip_unfold_none {g : Forest} {n : Nat} (h : g.get? n = none) :
    g.removeInsignificantWhitespace n = g := by
  unfold Forest.removeInsignificantWhitespace; rw [h]

theorem strip_unfold_some {g : Forest} {n : Nat} {t : HTree} (h : g.get? n = some t) :
    g.removeInsignificantWhitespace n =
      { ((Forest.descendantsNormal t).filter g.isInsignificantWhitespace).foldl
          (fun acc n => (acc.remove n).1) (consOff g) with consolidation := g.consolidation } := by
  unfold Forest.removeInsignificantWhitespace; rw [h]; rfl

theorem consOff_restore (g : Forest) : { consOff g with consolidation := g.consolidation } = g := by
  cases g; rfl

theorem specTopRemoved_after (S : Nat → Bool) (anc : List HTree) (t : HTree)
    (hscope : chainScope (anc.map (pruneText S)) = chainScope anc)
    (hsib : otherSibling (anc.map (pruneText S)) = otherSibling anc)
    (hdf : topDeleted anc t = false) (hstrip : pruneText S t = specStrip (chainScope anc) t) :
    specTopRemoved (anc.map (pruneText S)) (pruneText S t) = [] := by
  unfold specTopRemoved topDeleted
  rw [hscope, hsib, deletable_congr (pruneText_value _ t)]
  unfold topDeleted at hdf
  rw [hdf, hstrip]
  simp only [Bool.false_eq_true, if_false]
  exact specRemoved_specStrip _ t

theorem strip_idem {f : Forest} {b : Bool} (nd : f.allHandles.Nodup) (hv : validList b f.roots = true)
    {t : HTree} {anc : List HTree} (o : Occurs f t anc) :
    (f.removeInsignificantWhitespace t.handle).removeInsignificantWhitespace t.handle =
      f.removeInsignificantWhitespace t.handle := by
  have hg := strip_get? nd hv o
  by_cases hd : topDeleted anc t = true
  · -- the start node is gone: the second call does nothing
    simp only [specTop, hd, if_true] at hg
    exact strip_unfold_none hg
  · have e := strip_eq_pruned nd hv o
    have hdf : topDeleted anc t = false := by simpa using hd
    have hnot : t.handle ∉ specTopRemoved anc t := by
      simp only [specTopRemoved, hdf, Bool.false_eq_true, if_false]
      exact fun hm => (nodup_kids (o.nodup nd)).1 (specRemoved_subset _ t _ hm)
    have o' := strip_occurs nd hv o o hnot
    simp only at o'
    have ndg : (f.removeInsignificantWhitespace t.handle).allHandles.Nodup := by
      rw [e]; exact pruned_nodup _ nd
    have hvg : validList b (f.removeInsignificantWhitespace t.handle).roots = true := by
      rw [e]; exact pruned_valid _ hv
    have hstrip : pruneText (fun h => (specTopRemoved anc t).contains h) t = specStrip (chainScope anc) t := by
      apply prune_eq_specStrip _ _ t (o.nodup nd)
      intro h _
      simp [specTopRemoved, hdf]
    -- the second collection is empty
    have hcoll := toRemove_eq ndg hvg o'
    have hscope := chainScope_prune (fun h => (specTopRemoved anc t).contains h) anc
    have hsib : otherSibling (anc.map (pruneText (fun h => (specTopRemoved anc t).contains h))) = otherSibling anc := by
      cases anc with
      | nil => rfl
      | cons p anc =>
        obtain ⟨op, _⟩ := o.parent
        simp only [List.map_cons, otherSibling, pruneText_kids]
        apply any_pruneTextKids
        intro k hk hS
        simp only [Bool.and_eq_true] at hS
        obtain ⟨k', ancn, ok', hh, _, hdel⟩ := removed_text nd hv o (List.contains_iff_mem.1 hS.2)
        have ok : Occurs f k (p :: anc) := .kid op hk
        have : f.get? k.handle = some k' := by rw [← hh]; exact ok'.get? nd
        rw [ok.get? nd] at this
        cases this
        have h1 := isInsig_eq nd hv ok
        have h2 := isInsig_eq nd hv ok'
        rw [h1] at h2
        exact deletable_not_other (h2 ▸ hdel)
    have hempty := specTopRemoved_after _ anc t hscope hsib hdf hstrip
    have hget := o'.get? ndg
    rw [pruneText_handle] at hget
    rw [strip_unfold_some hget, hcoll, hempty]
    exact consOff_restore _

/-! ### safety of the loop -/

/-- After any prefix of the loop (which runs with consolidation off): the state is the pruning
    by that prefix, the next `remove` is a plain `remove_subtree`, and the nodes still to be
    removed are untouched text nodes. -/
theorem strip_safe {f : Forest} {b : Bool} (nd : f.allHandles.Nodup) (hv : validList b f.roots = true)
    {t : HTree} {anc : List HTree} (o : Occurs f t anc) {pre post : List Nat} {n : Nat}
    (hsplit : specTopRemoved anc t = pre ++ n :: post) :
    let g := pre.foldl (fun acc x => (acc.remove x).1) (consOff f)
    g = pruned (consOff f) (fun h => pre.contains h) ∧
    (g.remove n).1 = g.dropSubtree n ∧
    ∀ m ∈ n :: post, g.textOf m = f.textOf m ∧ (f.textOf m).isSome = true := by
  intro g
  have hnd := removed_nodup nd hv o
  rw [hsplit] at hnd
  obtain ⟨ndpre, ndrest, hdisj⟩ := List.nodup_append.1 hnd
  have hmem : ∀ m ∈ pre ++ n :: post, ∃ k ancn, Occurs (consOff f) k ancn ∧ k.handle = m ∧ k.value.isText = true := by
    intro m hm
    obtain ⟨k, ancn, ok, hh, hk, _⟩ := removed_text nd hv o (hsplit ▸ hm)
    exact ⟨k, ancn, Occurs.of_roots_eq (f := f) (f' := consOff f) rfl ok, hh, hk⟩
  have nd0 : (consOff f).allHandles.Nodup := nd
  have hv0 : validList b (consOff f).roots = true := hv
  have hgeq : g = pruned (consOff f) (fun h => pre.contains h) := by
    have := fold_remove nd0 hv0 rfl pre (fun _ => false) ndpre (fun _ _ => rfl)
      (fun m hm => hmem m (List.mem_append_left _ hm))
    rw [pruned_none] at this
    show pre.foldl _ (consOff f) = _
    rw [this]; simp
  have ndg : g.allHandles.Nodup := by rw [hgeq]; exact pruned_nodup _ nd0
  have surv : ∀ m ∈ n :: post, ∃ k ancn, Occurs (consOff f) k ancn ∧ k.handle = m ∧ k.value.isText = true ∧
      Occurs g (pruneText (fun h => pre.contains h) k) (ancn.map (pruneText (fun h => pre.contains h))) := by
    intro m hm
    obtain ⟨k, ancn, ok, hh, hk⟩ := hmem m (List.mem_append_right _ hm)
    refine ⟨k, ancn, ok, hh, hk, ?_⟩
    rw [hgeq]
    apply ok.prune _ hv0
    have : m ∉ pre := fun hp => hdisj m hp m hm rfl
    simp [hh, this]
  refine ⟨hgeq, ?_, ?_⟩
  · exact Forest.remove_consOff (by rw [hgeq]; rfl) n
  · intro m hm
    obtain ⟨k, ancn, ok, hh, hk, og⟩ := surv m hm
    have h1 := textOf_at ndg og
    have h2 := textOf_at nd0 ok
    rw [pruneText_handle, pruneText_value, hh] at h1
    rw [hh] at h2
    have h3 : (consOff f).textOf m = f.textOf m := rfl
    rw [h1, ← h3, h2]
    refine ⟨rfl, ?_⟩
    cases hv' : k.value <;> rw [hv'] at hk <;> simp [Value.isText] at hk ⊢

end Fws
end XotModel
