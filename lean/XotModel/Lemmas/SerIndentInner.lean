/-
  C14_indent_roundtrip_inner: the indenting writer started at an element INSIDE a tree writes
  what it writes for the root of the standalone document of that element (Model/InnerStartSpec.lean).

  * `serNodeO_topRel`, `spellNodeP_topRel`: below the start node the token list `serNodeO` and the indented
    spelling `spellNodeP` see the name stack only through its top frame up to the built-in `xml` binding
    (`TopRel`, Lemmas/InnerStartTokens.lean), and do not look at `inScope` at all.
  * `entryFor_nsLeaves_append` …: namespace nodes put in front of the children of an element change neither
    its `Pretty` stack entry (`has_inline_child`, suppress list, `xml:space`) nor what is written for its content.
  * `serNodeO_standalone`, `spellNodeP_standalone`: the inner element, written as start node with the stack
    `[namespaces_in_scope(node)]`, against the standalone element written below a document node.
-/
import XotModel.Lemmas.SerIndentDoc
import XotModel.Lemmas.InnerStartRoundTrip

namespace XotModel
open Gen XotModel.Repair

variable (env : Env) (pr : TokenParams) (sup : List Nat)

theorem spellAttr_topRel {s1 s2 : FStack} (h : TopRel s1.top s2.top) (a : Nat × Str) :
    spellAttr env s1 a = spellAttr env s2 a := by
  unfold spellAttr
  rw [topRel_attributePrefix (env := env) h a.1]

/-- Below the start node the items of a start tag are the element's own declarations and attributes. -/
theorem spellItems_topRel (i1 i2 : List (Nat × Nat)) {s1 s2 : FStack} (h : TopRel s1.top s2.top) (n : Tree) :
    spellItems env i1 false s1 n = spellItems env i2 false s2 n := by
  simp only [spellItems, writtenDecls, Bool.false_eq_true, if_false, List.nil_append]
  congr 1
  exact List.map_congr_left (fun a _ => spellAttr_topRel env h a)

mutual
theorem spellNodeP_topRel (i1 i2 : List (Nat × Nat)) (cd : Bool) (ps : PStack) (n : Tree) (s1 s2 : FStack)
    (h : TopRel s1.top s2.top) :
    spellNodeP env pr sup i1 false s1 cd ps n = spellNodeP env pr sup i2 false s2 cd ps n := by
  cases n with
  | node v ks =>
    have hk := fun cd' pc gap => spellKidsP_topRel i1 i2 cd' pc gap ks s1 s2 h
    cases v with
    | document => simpa [spellNodeP] using hk false ps []
    | «attribute» a b => simpa [spellNodeP] using hk false ps []
    | «namespace» a b => simpa [spellNodeP] using hk false ps []
    | text str => rw [spellNodeP, spellNodeP, hk]
    | comment str => rw [spellNodeP, spellNodeP, hk]
    | pi target data => rw [spellNodeP, spellNodeP, hk]
    | element name =>
      have ht := topRel_push h (Tree.node (.element name) ks).nsDecls
      have hk' := fun pc gap => spellKidsP_topRel i1 i2 (kidsCd pr (.element name)) pc gap ks _ _ ht
      have he := topRel_elementPrefix (env := env) ht name
      have hi := spellItems_topRel env i1 i2 ht (Tree.node (.element name) ks)
      rw [spellNodeP, spellNodeP]
      simp only [he, hi, hk']

theorem spellKidsP_topRel (i1 i2 : List (Nat × Nat)) (cd : Bool) (pc : PStack) (gap : Str) (ks : List Tree)
    (s1 s2 : FStack) (h : TopRel s1.top s2.top) :
    spellNodeP.spellKidsP env pr sup i1 s1 cd pc gap ks = spellNodeP.spellKidsP env pr sup i2 s2 cd pc gap ks := by
  cases ks with
  | nil => simp [spellNodeP.spellKidsP]
  | cons k ks =>
    rw [spellNodeP.spellKidsP, spellNodeP.spellKidsP, spellNodeP_topRel i1 i2 cd pc k s1 s2 h,
      spellKidsP_topRel i1 i2 cd pc gap ks s1 s2 h]
end

theorem normalKids_nsLeaves_append (v : Value) (X : List (Nat × Nat)) (ks : List Tree) :
    (Tree.node v (nsLeaves X ++ ks)).normalKids = (Tree.node v ks).normalKids := by
  simp only [Tree.normalKids, Tree.kids]
  rw [List.dropWhile_append_of_pos (nsLeaves_abnormal X)]

theorem hasInlineChild_nsLeaves_append (v : Value) (X : List (Nat × Nat)) (ks : List Tree) :
    hasInlineChild (.node v (nsLeaves X ++ ks)) = hasInlineChild (.node v ks) := by
  simp only [hasInlineChild, normalKids_nsLeaves_append]

theorem elementSpace_nsLeaves_append (v : Value) (X : List (Nat × Nat)) (ks : List Tree) :
    elementSpace (.node v (nsLeaves X ++ ks)) = elementSpace (.node v ks) := by
  simp only [elementSpace, Tree.getAttribute, attrs_nsLeaves_append]

theorem entryFor_nsLeaves_append (v : Value) (X : List (Nat × Nat)) (ks : List Tree) :
    entryFor sup (.node v (nsLeaves X ++ ks)) = entryFor sup (.node v ks) := by
  unfold entryFor
  rw [hasInlineChild_nsLeaves_append, elementSpace_nsLeaves_append]
  rfl

theorem spellKidsP_nsLeaves_append (i : List (Nat × Nat)) (s : FStack) (cd : Bool) (pc : PStack) (gap : Str)
    (X : List (Nat × Nat)) (ks : List Tree) :
    spellNodeP.spellKidsP env pr sup i s cd pc gap (nsLeaves X ++ ks) =
      spellNodeP.spellKidsP env pr sup i s cd pc gap ks :=
  nsLeaves_append_unseen _ (fun p ns l => by
    simp [spellNodeP, spellNodeP.spellKidsP, Tree.value, Value.isNormal, Value.category]) X ks

theorem flatMap_spellDecl_filter_keepNB (l : List (Nat × Nat)) :
    (l.filter keepNB).flatMap (spellDecl env) = l.flatMap (spellDecl env) :=
  flatMap_filter_keepNB _ (fun d h2 => by simp [spellDecl, h2]) l

section Standalone

variable (I : List (Nat × Nat)) (name : Nat) (ks : List Tree)

/-- **Indented spelling**: the same two elements are spelled alike by the indenting writer, white space runs
    included, in content with any `Pretty` stack. -/
theorem spellNodeP_standalone (cd cd' : Bool) (ps : PStack) :
    spellNodeP env pr sup I true (FStack.new I) cd ps (.node (.element name) ks) =
      spellNodeP env pr sup basePrefixes false (FStack.new basePrefixes) cd' ps
        (.node (.element name) (nsLeaves (inheritedExtra I (.node (.element name) ks)) ++ ks)) := by
  have ht := topRel_standalone I name ks
  generalize hX : inheritedExtra I (.node (.element name) ks) = X at ht
  have hN : (Tree.node (.element name) (nsLeaves X ++ ks)).nsDecls = X ++ (Tree.node (.element name) ks).nsDecls :=
    nsDecls_nsLeaves_append _ X ks
  have hA := attrs_nsLeaves_append (.element name) X ks
  have hF := firstChild_nsLeaves_append (.element name) X ks
  have hE := entryFor_nsLeaves_append sup (.element name) X ks
  have he := topRel_elementPrefix (env := env) ht name
  have hk : ∀ pc gap, spellNodeP.spellKidsP env pr sup I ((FStack.new I).push (Tree.node (.element name) ks).nsDecls)
        (kidsCd pr (.element name)) pc gap ks =
      spellNodeP.spellKidsP env pr sup basePrefixes
        ((FStack.new basePrefixes).push (Tree.node (.element name) (nsLeaves X ++ ks)).nsDecls)
        (kidsCd pr (.element name)) pc gap (nsLeaves X ++ ks) := by
    intro pc gap
    rw [spellKidsP_nsLeaves_append]
    exact spellKidsP_topRel env pr sup _ _ _ pc gap ks _ _ ht
  have hi : spellItems env I true ((FStack.new I).push (Tree.node (.element name) ks).nsDecls)
        (.node (.element name) ks) =
      spellItems env basePrefixes false
        ((FStack.new basePrefixes).push (Tree.node (.element name) (nsLeaves X ++ ks)).nsDecls)
        (.node (.element name) (nsLeaves X ++ ks)) := by
    simp only [spellItems, writtenDecls, if_true, Bool.false_eq_true, if_false, List.nil_append, hA]
    congr 1
    · rw [hN, List.flatMap_append, List.flatMap_append, ← hX, inheritedExtra_eq, flatMap_spellDecl_filter_keepNB]
    · exact List.map_congr_left (fun a _ => spellAttr_topRel env ht a)
  rw [spellNodeP, spellNodeP]
  simp only [he, hk, hi, hF, hE]

end Standalone

theorem named_base (hx : env.prefixStr Env.xmlPrefix ≠ []) : Named env (FStack.new basePrefixes) :=
  named_initStack env (Tree.node .document []) [] hx rfl

/-- **The indented string of a document holding just one element** (`nodeOK` below it): the rendering of
    `spellNodeP` of the element and one line feed; it fails exactly where `serNodeO` fails. -/
theorem serializePretty_single (hx : env.prefixStr Env.xmlPrefix ≠ []) (e : Tree) (he : e.value.isElement = true)
    (hok : e.allNodes (nodeOK env) = true) :
    serializePretty env pr sup (.node .document [e]) [] =
      (match serNodeO env pr basePrefixes false (FStack.new basePrefixes) false e with
       | .ok _ => .ok (renderTokens (NSNode.tokens.tokensList
            (spellNodeP env pr sup basePrefixes false (FStack.new basePrefixes) false [] e)) ++ ['\n'])
       | .error err => .err err) := by
  have hin := inScope_document_single e he
  have hinit : initStack (.node .document [e]) [] = FStack.new basePrefixes := by
    simp [initStack, namespacesInScope, Tree.ancestorsOrSelf, hin]
  have hgen : genOutputs (.node .document [e]) [] = genNode basePrefixes false [0] e := by
    simp [genOutputs, Tree.at?, namespacesInScope, Tree.ancestorsOrSelf, hin, genNode_document, genNode.genKids]
  have hdoc : e.value.isDocument = false := by
    cases hv : e.value <;> simp [hv, Value.isElement, Value.isDocument] at he ⊢
  have hm : e.value.isMarkup = true := by
    cases hv : e.value <;> simp [hv, Value.isElement, Value.isMarkup] at he ⊢
  have hat : (Tree.node .document [e]).at? [0] = some e := by simp [Tree.at?]
  have hcd : isCdataElement pr ((Tree.node .document [e]).parentAt? [0]) = false := by
    simp [Tree.parentAt?, Tree.at?, isCdataElement, Tree.value]
  rw [show serializePretty env pr sup (.node .document [e]) [] =
    serializePrettyWith xmlEscapers env pr sup (.node .document [e]) [] from rfl,
    serializePretty_runPEvents, hinit, hgen,
    runP_node env pr sup _ basePrefixes false [0] e _ [] hat (named_base env hx) hok hdoc, hcd,
    wrapP_markup [] hm, indOf_nil, nlOf_nil]
  cases serNodeO env pr basePrefixes false (FStack.new basePrefixes) false e <;> rfl

/-- **The indented serialisation of an inner element is the indented serialisation of its standalone
    document** — the same text or the same error — for any token parameters and suppress list; `I` is
    `namespaces_in_scope(element)`.  The tree and the standalone element are `nodeOK` everywhere. -/
theorem serializePretty_inner (henv : envOK env = true) (t : Tree) (q : Path) (name : Nat) (ks : List Tree)
    (I : List (Nat × Nat)) (hat : t.at? q = some (.node (.element name) ks))
    (hsc : namespacesInScope t q = some I) (hok : t.allNodes (nodeOK env) = true)
    (hok' : (Tree.node (.element name)
      (nsLeaves (inheritedExtra I (.node (.element name) ks)) ++ ks)).allNodes (nodeOK env) = true) :
    serializePretty env pr sup t q =
      serializePretty env pr sup (.node .document [.node (.element name)
        (nsLeaves (inheritedExtra I (.node (.element name) ks)) ++ ks)]) [] := by
  have hx : env.prefixStr Env.xmlPrefix ≠ [] := by rw [envOK_xmlPrefix env henv]; simp
  rw [serializePretty_at env pr sup t q _ I hat hsc henv hok rfl, serializePretty_single env pr sup hx _ rfl hok']
  simp only [serTokensAtO, hat, hsc]
  rw [serNodeO_standalone env pr I name ks _ false, spellNodeP_standalone env pr sup I name ks _ false []]
  simp only [wrapP, Tree.value, indOf_nil, nlOf_nil, List.nil_append]
  rfl

theorem serializePretty_standalone (henv : envOK env = true) (t : Tree) (q : Path) (name : Nat) (ks : List Tree)
    (X : List (Nat × Nat)) (hat : t.at? q = some (.node (.element name) ks)) (hok : t.allNodes (nodeOK env) = true)
    (hst : standalone t q = some (.node .document [.node (.element name) (nsLeaves X ++ ks)]))
    (hr : Representable env (.node .document [.node (.element name) (nsLeaves X ++ ks)]) = true) :
    serializePretty env pr sup t q =
      serializePretty env pr sup (.node .document [.node (.element name) (nsLeaves X ++ ks)]) [] := by
  obtain ⟨rest, hchain⟩ := ancestorsOrSelf_of_at? t q _ hat
  have hsc := namespacesInScope_of_chain hchain
  have heq := standalone_eq t q name ks rest hat hchain
  rw [hst, Option.some.injEq] at heq
  rw [heq] at hr ⊢
  obtain ⟨_, _, hn, _⟩ := (representableFragment_iff env _).mp ((representable_iff env _).mp hr).1
  have hok' := allNodes_kid hn (List.mem_singleton.mpr rfl)
  exact serializePretty_inner env pr sup henv t q name ks _ hat hsc hok hok'

/-- Without doctype, with indentation: `serialize_xml_string` is the declaration bytes and the indented body,
    for any start node; it fails as the body fails. -/
theorem xmlString_pretty_eq (p : XmlParams) (t : Tree) (start : Path) (hdt : p.doctype = none)
    (hind : p.indentation = some sup) :
    serializeXmlString env p t start =
      (match serializePretty env p.tokenParams sup t start with
       | .ok body => .ok (p.declBytes ++ body)
       | .err e => .err e
       | .panic => .panic) := by
  rw [show serializeXmlString env p t start = serializeXmlStringWith xmlEscapers env p t start from rfl,
    Ser.serializeXmlString_noDoctype xmlEscapers env p t start hdt, hind]
  show Outcome.prependOk p.declBytes (serializePretty env p.tokenParams sup t start) = _
  cases serializePretty env p.tokenParams sup t start <;> rfl

/-- **C14_indent_roundtrip_inner**: an element anywhere inside a `nodeOK` tree (sane tables, no repeated
    `xml:id` value below it), serialised with indentation (any suppress list, any token parameters, with or
    without XML declaration, no doctype): the call is the same call on the standalone document, and `parse` of
    the text gives `prettyTree sup` of the standalone document. -/
theorem indent_inner_roundtrip (p : XmlParams) (t : Tree) (q : Path) (name : Nat) (ks : List Tree)
    (henv : envOK env = true) (hok : t.allNodes (nodeOK env) = true)
    (hat : t.at? q = some (.node (.element name) ks))
    (hids : (xmlIdValues env (.node (.element name) ks)).Nodup)
    (hdt : p.doctype = none) (hind : p.indentation = some sup) :
    ∃ X, standalone t q = some (.node .document [.node (.element name) (nsLeaves X ++ ks)]) ∧
      Representable env (.node .document [.node (.element name) (nsLeaves X ++ ks)]) = true ∧
      serializeXmlString env p t q =
        serializeXmlString env p (.node .document [.node (.element name) (nsLeaves X ++ ks)]) [] ∧
      ∀ s, (∀ d e, p.declaration = some d → d.encoding = some e → Prolog.isEncName e = true) →
        serializeXmlString env p t q = .ok s →
        ∃ r, parseString .document env s = .ok r ∧
          r.tree = prettyTree sup (.node .document [.node (.element name) (nsLeaves X ++ ks)]) ∧ r.env = env := by
  obtain ⟨X, h1, hr⟩ := standalone_representable henv t q name ks hok hat hids
  have heq : serializeXmlString env p t q =
      serializeXmlString env p (.node .document [.node (.element name) (nsLeaves X ++ ks)]) [] := by
    rw [xmlString_pretty_eq env sup p t q hdt hind, xmlString_pretty_eq env sup p _ [] hdt hind,
      serializePretty_standalone env p.tokenParams sup henv t q name ks X hat hok h1 hr]
  refine ⟨X, h1, hr, heq, ?_⟩
  intro s henc hs
  rw [heq] at hs
  exact indent_decl_roundtrip env sup p hr hdt hind henc hs

end XotModel
