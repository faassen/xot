/-
  Spelling as data at document level WITH namespaces
  (specification side of C02_spelled_ns).

  * `NPNode`  : an abstract document with namespaces: an element has an expanded name
                (namespace URI, local name), the declarations its start tag wrote (prefix, URI) in
                the order written, its attributes ((namespace URI, local name), value) in the order
                written, and children.
  * `NSAttr`  : one item of a start tag as written, `pfx:loc="pieces"`.  Whether it is an ordinary
                attribute or a namespace declaration is decided by its strings exactly as
                `Xot::_parse` decides it (`NSAttr.declares`): prefix `xmlns` declares the prefix
                `loc`, the unprefixed name `xmlns` declares the default namespace, anything else
                (also `p:xmlns`) is an attribute.
  * `NSNode`  : one spelling of a document: prefix and local span of every start / end tag, the
                items of every start tag, pieces per value, CDATA interleaving, `<a/>` vs
                `<a></a>`, every byte position and whole-token span arbitrary (as in `SNode`).
  * `tokens`  : the token list a tokenizer returns for that spelling.
  * `denote`  : the abstract nodes a spelling denotes in a scope, threaded the XML-Namespaces way.
  * `Well`    : what the builder accepts (mirrors the CODE, see the remarks at `NSNode.Well`).
  * `encode`  : the abstract document as an id tree, ids interned in the order the parser meets
                them; `decodeNs` reads an id tree back through the interning tables.
-/
import XotModel.Lemmas.ParseSpellDefs
import XotModel.Lemmas.SharedDefs

namespace XotModel

/-- In-scope namespace bindings as strings (prefix, URI), nearest binding first. -/
abbrev Scope := List (Str × Str)

/-- `http://www.w3.org/XML/1998/namespace` -/
def xmlNsUri : Str :=
  ['h', 't', 't', 'p', ':', '/', '/', 'w', 'w', 'w', '.', 'w', '3', '.', 'o', 'r', 'g', '/', 'X', 'M', 'L', '/',
   '1', '9', '9', '8', '/', 'n', 'a', 'm', 'e', 's', 'p', 'a', 'c', 'e']

theorem xmlNsUri_eq : xmlNsUri = xmlNamespaceUri := rfl

/-- The bindings at the outset (`C02_scope_base`): the empty prefix is bound to no namespace
    (the empty URI), `xml` to the XML namespace. -/
def baseScope : Scope := [([], []), (['x', 'm', 'l'], xmlNsUri)]

/-- The scope inside an element whose start tag wrote `decls` (in that order): a later
    declaration is nearer than an earlier one, all are nearer than the enclosing scope. -/
def Scope.push (scope : Scope) (decls : List (Str × Str)) : Scope := decls.reverse ++ scope

/-- The URI a prefix is bound to (`[]` when unbound; `Well` excludes that case). -/
def Scope.resolve (scope : Scope) (p : Str) : Str := (scope.lookup p).getD []

/-- The namespace of an attribute: an unprefixed attribute is in no namespace. -/
def Scope.attrNs (scope : Scope) (p : Str) : Str := if p = [] then [] else scope.resolve p

/-- Abstract document node with namespaces. `ns = []` is "no namespace". -/
inductive NPNode where
  | elem (ns : Str) (loc : Str) (decls : List (Str × Str)) (attrs : List ((Str × Str) × Str))
      (kids : List NPNode)
  | text (s : Str)
  | comment (s : Str)
  | pi (target : Str) (data : Option Str)
  deriving Repr, Inhabited

/-- One item of a start tag as written: `pfx:loc="pieces"` (`pfx.text = []`: no prefix, no colon). -/
structure NSAttr where
  pfx : StrSpan
  loc : StrSpan
  pieces : List Piece
  vstart : Nat
  junk : StrSpan
  deriving Repr, Inhabited

def xmlnsStr : Str := ['x', 'm', 'l', 'n', 's']

/-- The prefix this item declares, if it is a namespace declaration — the test of the `Attribute`
    arm of `Xot::_parse`. -/
def NSAttr.declares (a : NSAttr) : Option Str :=
  if a.pfx.text == xmlnsStr then some a.loc.text
  else if a.pfx.text.isEmpty && a.loc.text == xmlnsStr then some []
  else none

def NSAttr.isDecl (a : NSAttr) : Bool := a.declares.isSome

/-- A spelled node with prefixes. `junk` fields are the whole-token spans xot never looks at. -/
inductive NSNode where
  /-- `<pfx:loc attrs> kids </cpfx:cloc>` -/
  | elem (pfx loc : StrSpan) (junk : StrSpan) (attrs : List NSAttr) (openSp : StrSpan)
      (kids : List NSNode) (cpfx cloc : StrSpan) (closeSp : StrSpan)
  /-- `<pfx:loc attrs/>` -/
  | empty (pfx loc : StrSpan) (junk : StrSpan) (attrs : List NSAttr) (endSp : StrSpan)
  /-- a maximal run of text and CDATA parts -/
  | chars (parts : List SPart)
  | comment (text : StrSpan) (junk : StrSpan)
  | pi (target : StrSpan) (content : Option StrSpan) (junk : StrSpan)
  deriving Inhabited

def NSAttr.token (a : NSAttr) : Token :=
  .attribute a.pfx a.loc ⟨renderPieces a.pieces, a.vstart⟩ a.junk

/-- The tokens of a spelled node. -/
def NSNode.tokens : NSNode → List Token
  | .elem pfx loc junk attrs openSp kids cpfx cloc closeSp =>
    .elementStart pfx loc junk :: (attrs.map NSAttr.token ++
      (.elementEnd .open openSp :: (tokensList kids ++ [.elementEnd (.close cpfx cloc) closeSp])))
  | .empty pfx loc junk attrs endSp =>
    .elementStart pfx loc junk :: (attrs.map NSAttr.token ++ [.elementEnd .empty endSp])
  | .chars parts => parts.map SPart.token
  | .comment text junk => [.comment text junk]
  | .pi target content junk => [.pi target content junk]
where
  tokensList : List NSNode → List Token
    | [] => []
    | k :: ks => NSNode.tokens k ++ tokensList ks

/-! ### What a spelling denotes -/

/-- The declarations a start tag writes, in order: (prefix, URI decoded as an attribute value —
    `C02_namespace_uri`). -/
def declsOf (attrs : List NSAttr) : List (Str × Str) :=
  attrs.filterMap fun a => a.declares.map fun p => (p, valueOf true a.pieces)

/-- The ordinary attributes of a start tag, in order. -/
def ordinary (attrs : List NSAttr) : List NSAttr := attrs.filter fun a => !a.isDecl

/-- The value of an ordinary attribute in the scope of its element: decoded and normalised as an
    attribute value; the value of an attribute whose EXPANDED name is (XML namespace, `id`) —
    whatever prefix spells it — is moreover normalised as an ID (`open_element`, under
    `name_id == self.xml_id_id`). -/
def NSAttr.value (scope : Scope) (a : NSAttr) : Str :=
  if (scope.attrNs a.pfx.text, a.loc.text) == (xmlNsUri, ['i', 'd']) then normalizeXmlId (valueOf true a.pieces)
  else valueOf true a.pieces

/-- An ordinary attribute in the scope of its element: ((namespace URI, local name), value). -/
def NSAttr.denote (scope : Scope) (a : NSAttr) : (Str × Str) × Str :=
  ((scope.attrNs a.pfx.text, a.loc.text), a.value scope)

def attrsOf (scope : Scope) (attrs : List NSAttr) : List ((Str × Str) × Str) :=
  (ordinary attrs).map (NSAttr.denote scope)

/-- The abstract nodes a spelled node denotes in `scope` (a character-data run without characters
    denotes nothing).  The element's own declarations are in scope for its name, its attributes
    and its content. -/
def NSNode.denote : Scope → NSNode → List NPNode
  | scope, .elem pfx loc _ attrs _ kids _ _ _ =>
    [.elem ((scope.push (declsOf attrs)).resolve pfx.text) loc.text (declsOf attrs)
      (attrsOf (scope.push (declsOf attrs)) attrs) (denoteList (scope.push (declsOf attrs)) kids)]
  | scope, .empty pfx loc _ attrs _ =>
    [.elem ((scope.push (declsOf attrs)).resolve pfx.text) loc.text (declsOf attrs)
      (attrsOf (scope.push (declsOf attrs)) attrs) []]
  | _, .chars parts => if partsValue parts = [] then [] else [.text (partsValue parts)]
  -- line ends are normalised in comments and processing instructions too (XML 1.0, 2.11)
  | _, .comment text _ => [.comment (normalizeLineEnds text.text)]
  | _, .pi target content _ => [.pi target.text (content.map (fun c => normalizeLineEnds c.text))]
where
  denoteList : Scope → List NSNode → List NPNode
    | _, [] => []
    | scope, k :: ks => NSNode.denote scope k ++ denoteList scope ks

/-! ### Well-formedness of a spelling: what the builder accepts -/

def NSNode.isChars : NSNode → Bool
  | .chars _ => true
  | _ => false

/-- No two neighbouring character-data runs (they would be one run). -/
def noAdjCharsNs : List NSNode → Bool
  | a :: b :: rest => !(a.isChars && b.isChars) && noAdjCharsNs (b :: rest)
  | _ => true

/-- The items of a start tag, `scope` being the scope INSIDE the element (own declarations pushed):
    values well spelled, no declaration is a reserved one or a prefixed undeclaration
    (`reservedDecl`, the test of `DocumentBuilder::prefix` on the decoded URI), no prefix declared
    twice (`DocumentBuilder::prefix`), attributes pairwise different by expanded name
    (`open_element`; this implies pairwise different as written, the test of
    `DocumentBuilder::attribute`), every attribute prefix bound; no name is written with a colon
    and nothing in front of it (`check_qname`, /repo a5fafb0: an empty prefix span has offset 0, as
    the tokenizer reports an ABSENT prefix). -/
def attrsWellNs (scope : Scope) (attrs : List NSAttr) : Prop :=
  (∀ a ∈ attrs, WellSpelled a.pieces) ∧
  (∀ d ∈ declsOf attrs, reservedDecl d.1 d.2 = false) ∧
  ((declsOf attrs).map Prod.fst).Nodup ∧
  ((attrsOf scope attrs).map Prod.fst).Nodup ∧
  (∀ a ∈ ordinary attrs, a.pfx.text ≠ [] → (scope.lookup a.pfx.text).isSome = true) ∧
  (∀ a ∈ attrs, a.pfx.bareColon = false)

/-- A spelling is well formed in `scope` (the scope around the node).  This mirrors what the CODE
    accepts; where that is more than Namespaces in XML 1.0 allows it is kept:
    * the prefix `xml` may be bound to any URI, the empty one included (`reservedDecl` exempts it;
      recorded defect C03:xml-prefix-rebound-accepted).  The other
      reserved declarations (prefix `xmlns`, another prefix for the XML namespace name, anything
      for the xmlns namespace name) and `xmlns:p=""` are refused (/repo 6153ddf, a5dcf8e), and so is
      a processing instruction with the target `xml` in any letter case (/repo 002854f).
    An end tag repeats the start tag's name AS WRITTEN, prefix and local name: `close_element`
    compares the name ids and the written prefixes (`open_prefixes`), so another prefix bound to
    the same URI does not close the element.  Every element prefix must be bound (the empty prefix
    always is).  An empty prefix span (start tag, end tag, every item) has offset 0: as of /repo
    a5fafb0 `check_qname` refuses an empty prefix at another offset (the spelling `:local`). -/
def NSNode.Well : Scope → NSNode → Prop
  | scope, .elem pfx loc _ attrs _ kids cpfx cloc _ =>
    attrsWellNs (scope.push (declsOf attrs)) attrs ∧
    ((scope.push (declsOf attrs)).lookup pfx.text).isSome = true ∧
    cpfx.text = pfx.text ∧ cloc.text = loc.text ∧
    noAdjCharsNs kids = true ∧ wellList (scope.push (declsOf attrs)) kids ∧
    pfx.bareColon = false ∧ cpfx.bareColon = false
  | scope, .empty pfx _ _ attrs _ =>
    attrsWellNs (scope.push (declsOf attrs)) attrs ∧
    ((scope.push (declsOf attrs)).lookup pfx.text).isSome = true ∧ pfx.bareColon = false
  | _, .chars parts => ∀ p ∈ parts, p.Well
  | _, .comment _ _ => True
  | _, .pi target _ _ => isReservedPiTarget target.text = false
where
  wellList : Scope → List NSNode → Prop
    | _, [] => True
    | scope, k :: ks => NSNode.Well scope k ∧ wellList scope ks

/-- The values of the attributes with expanded name (XML namespace, `id`) — however the prefix is
    spelled. -/
def attrIds (attrs : List ((Str × Str) × Str)) : List Str :=
  (attrs.filter fun kv => kv.1 == (xmlNsUri, ['i', 'd'])).map Prod.snd

/-- The ID values of a document, in document order: `open_element` rejects a repeated one
    (`seen_ids`). -/
def NPNode.ids : NPNode → List Str
  | .elem _ _ _ attrs kids => attrIds attrs ++ idsList kids
  | _ => []
where
  idsList : List NPNode → List Str
    | [] => []
    | k :: ks => NPNode.ids k ++ idsList ks

/-- A whole spelled text is well formed: every node is, in the base scope; no two neighbouring
    character-data runs; no ID value twice. -/
def WellNsDoc (sns : List NSNode) : Prop :=
  NSNode.Well.wellList baseScope sns ∧ noAdjCharsNs sns = true ∧
  (NPNode.ids.idsList (NSNode.denote.denoteList baseScope sns)).Nodup

/-! ### The abstract document as an id tree -/

/-- Interning a start tag's declarations, in order: prefix, then URI
    (`DocumentBuilder::prefix`: `add_prefix`, `add_namespace`). -/
def declIds : Env → List (Str × Str) → Env × List (Nat × Nat)
  | env, [] => (env, [])
  | env, (p, u) :: rest =>
    let r1 := env.internPrefix p
    let r2 := r1.1.internNamespace u
    let r := declIds r2.1 rest
    (r.1, (r1.2, r2.2) :: r.2)

/-- Namespace leaves for the declarations. -/
def encodeDecls (env : Env) (decls : List (Str × Str)) : Env × List Tree :=
  ((declIds env decls).1, (declIds env decls).2.map fun d => Tree.node (.namespace d.1 d.2) [])

/-- Attribute leaves, names interned in order.  (The namespace URI of a well-formed document is
    already in the table: it was declared, or is one of the two base URIs.) -/
def encodeNsAttrs : Env → List ((Str × Str) × Str) → Env × List Tree
  | env, [] => (env, [])
  | env, ((ns, a), v) :: rest =>
    let rn := env.internNamespace ns
    let r := rn.1.internName a rn.2
    let r2 := encodeNsAttrs r.1 rest
    (r2.1, .node (.attribute r.2 v) [] :: r2.2)

/-- The abstract document as an id tree, ids interned in the order the parser meets them: the
    declarations of a start tag (as their tokens arrive), then — in `open_element` — the element
    name, then the attribute names; then the content.  Namespace nodes come first, then attribute
    nodes, then the children. -/
def NPNode.encode : Env → NPNode → Env × Tree
  | env, .elem ns loc decls attrs kids =>
    let rd := encodeDecls env decls
    let rn := rd.1.internNamespace ns
    let r := rn.1.internName loc rn.2
    let ra := encodeNsAttrs r.1 attrs
    let rk := encodeList ra.1 kids
    (rk.1, .node (.element r.2) (rd.2 ++ (ra.2 ++ rk.2)))
  | env, .text s => (env, .node (.text s) [])
  | env, .comment s => (env, .node (.comment s) [])
  | env, .pi target data =>
    let r := env.internName target Env.noNamespace
    (r.1, .node (.pi r.2 data) [])
where
  encodeList : Env → List NPNode → Env × List Tree
    | env, [] => (env, [])
    | env, k :: ks =>
      let r := NPNode.encode env k
      let r2 := encodeList r.1 ks
      (r2.1, r.2 :: r2.2)

/-! ### Reading an id tree back -/

/-- What one node of an id tree reads back as. -/
inductive NItem where
  | decl (d : Str × Str)
  | attr (a : (Str × Str) × Str)
  | node (n : NPNode)

def NItem.decl? : NItem → Option (Str × Str)
  | .decl d => some d
  | _ => none

def NItem.attr? : NItem → Option ((Str × Str) × Str)
  | .attr a => some a
  | _ => none

def NItem.node? : NItem → Option NPNode
  | .node n => some n
  | _ => none

/-- An id tree read back through the interning tables. -/
def decodeNsTree (env : Env) : Tree → Option NItem
  | .node (.namespace p ns) [] => some (.decl (env.prefixStr p, env.namespaceStr ns))
  | .node (.attribute n v) [] => some (.attr (env.expanded n, v))
  | .node (.element n) ks =>
    match decodeItems ks with
    | some items =>
      some (.node (.elem (env.expanded n).1 (env.expanded n).2 (items.filterMap NItem.decl?)
        (items.filterMap NItem.attr?) (items.filterMap NItem.node?)))
    | none => none
  | .node (.text s) [] => some (.node (.text s))
  | .node (.comment s) [] => some (.node (.comment s))
  | .node (.pi t d) [] => some (.node (.pi (env.localName t) d))
  | _ => none
where
  decodeItems : List Tree → Option (List NItem)
    | [] => some []
    | k :: ks =>
      match decodeNsTree env k, decodeItems ks with
      | some a, some as => some (a :: as)
      | _, _ => none

/-- A list of content nodes (the children of a document node) read back; `none` if one of them is
    not a content node. -/
def decodeNs (env : Env) (ks : List Tree) : Option (List NPNode) :=
  match decodeNsTree.decodeItems env ks with
  | some items => items.mapM NItem.node?
  | none => none

/-! ### The interning tables a parse may start from -/

/-- What `Xot::new` guarantees and interning keeps: the empty prefix / `xml` and the empty URI /
    the XML namespace have ids 0 / 1 (the builder's base bindings refer to these ids), and
    `xml:id` is name 1 and no other name id (the duplicate-ID test compares with that id). -/
structure EnvBaseNs (env : Env) : Prop where
  pfx : ∃ rest, env.prefixes = [] :: ['x', 'm', 'l'] :: rest
  ns : ∃ rest, env.namespaces = [] :: xmlNsUri :: rest
  names : ∃ n0 rest, env.names = n0 :: (['i', 'd'], 1) :: rest ∧ n0 ≠ (['i', 'd'], 1)

end XotModel
