/-
  The spelling that serialisation produces is well formed in the sense of the parser theorems, its
  `xml:id` values are those of the tree, and the two are put together for a document and a fragment.
-/
import XotModel.Lemmas.ParseOps
import XotModel.Lemmas.RoundTripDenote

/-! ### The spelling is well formed

  The spelling of a `nodeOK` tree the serialiser accepts is a spelling the
  builder admits (`NSNode.Well`): values well spelled, declared prefixes pairwise different, attributes
  pairwise different by expanded name, every prefix used bound, the end tag spelled like the start
  tag, no two neighbouring character runs.
-/

namespace XotModel

variable {env : Env}

theorem wellList_append (sc : Scope) (a b : List NSNode) :
    NSNode.Well.wellList sc (a ++ b) ↔ NSNode.Well.wellList sc a ∧ NSNode.Well.wellList sc b := by
  induction a with
  | nil => simp [NSNode.Well.wellList]
  | cons k ks ih => simp [NSNode.Well.wellList, ih, and_assoc]

/-- An item `spellDecl` writes carries a well-spelled value and stands at offset 0. -/
theorem spellDecl_mem (d : Nat × Nat) {a : NSAttr} (ha : a ∈ spellDecl env d) :
    WellSpelled a.pieces ∧ a.pfx.bareColon = false := by
  rcases spellDecl_cases env d with h | ⟨p, l, h⟩
  · rw [h] at ha; cases ha
  · rw [h, List.mem_singleton] at ha
    subst ha
    exact ⟨wellSpelled_attrPieces _, StrSpan.bareColon_zero _⟩

theorem spellItems_pieces (inScope : List (Nat × Nat)) (isTop : Bool) (s' : FStack) (n : Tree) :
    ∀ a ∈ spellItems env inScope isTop s' n, WellSpelled a.pieces := by
  intro a ha
  unfold spellItems at ha
  rcases List.mem_append.mp ha with ha | ha
  · obtain ⟨d, _, hd⟩ := List.mem_flatMap.mp ha
    exact (spellDecl_mem d hd).1
  · obtain ⟨x, _, rfl⟩ := List.mem_map.mp ha
    exact wellSpelled_attrPieces _

namespace PiColon

theorem attrs_expanded_nodup (he : EnvFacts env) {name : Nat} {ks : List Tree}
    (hn : (Tree.node (.element name) ks).allNodes (nodeOK env) = true)
    (hns : ∀ a ∈ (Tree.node (.element name) ks).attrs, env.nsOfName a.1 < env.namespaces.length) :
    (((Tree.node (.element name) ks).attrs.map (attrStr env)).map Prod.fst).Nodup := by
  obtain ⟨hord, _, huniq, _, _⟩ := nodeOK_root hn
  have h1 : ((Tree.node (.element name) ks).attrs.map Prod.fst).Nodup := by
    rw [attrs_eq_kidAttrs _ ks hord, kidAttrs_fst]; exact huniq.1
  have := nodup_map_of_inj_on env.expanded (l := (Tree.node (.element name) ks).attrs.map Prod.fst)
    (fun a ha b hb hab => by
      obtain ⟨x, hx, rfl⟩ := List.mem_map.mp ha
      obtain ⟨y, hy, rfl⟩ := List.mem_map.mp hb
      have hvx := (valueOK_attribute_facts (attrs_valueOK env hn hx)).1
      have hvy := (valueOK_attribute_facts (attrs_valueOK env hn hy)).1
      exact he.expanded_inj (EnvFacts.name_lt_of_ne hvx) (EnvFacts.name_lt_of_ne hvy) (hns x hx) (hns y hy) hab) h1
  simpa [List.map_map, Function.comp_def, attrStr] using this

end PiColon

theorem attrTokens_ns_lt (he : EnvFacts env) {s : FStack} {fs : Frames} {sc : Scope}
    (hrel : ScopeRel env s fs sc) {as : List (Nat × Str)} {ats : List Token}
    (ha : attrTokens env s as = .ok ats) : ∀ a ∈ as, env.nsOfName a.1 < env.namespaces.length := by
  intro a ha'
  obtain ⟨p, hp⟩ := attrTokens_prefixes as ats ha a ha'
  exact (hrel.attribute he hp).2.2.2.2.2

namespace PiColon

/-- The items of the spelled start tag are admitted by the builder (`scope` = the scope inside). -/
theorem spellItems_well (he : EnvFacts env) {s' : FStack} {fs : Frames} {sc : Scope}
    (hrel : ScopeRel env s' fs sc) (inScope : List (Nat × Nat)) {name : Nat} {ks : List Tree}
    (hn : (Tree.node (.element name) ks).allNodes (nodeOK env) = true) {ats : List Token}
    (ha : attrTokens env s' (Tree.node (.element name) ks).attrs = .ok ats) :
    attrsWellNs sc (spellItems env inScope false s' (Tree.node (.element name) ks)) := by
  have hdecls := declsOK_of_nodeOK hn
  have hv : ∀ a ∈ (Tree.node (.element name) ks).attrs, valueOK env (.attribute a.1 a.2) = true :=
    fun a ha' => attrs_valueOK env hn ha'
  have hp := attrTokens_prefixes _ ats ha
  obtain ⟨hdo, hao, hor⟩ := spellItems_facts he hrel inScope (Tree.node (.element name) ks) hdecls hv hp
  refine ⟨spellItems_pieces inScope false s' _, ?_, ?_, ?_, ?_, ?_⟩
  · rw [hdo]; exact hdecls.not_reserved he
  · rw [hdo]; exact hdecls.keys_nodup he
  · rw [hao]; exact attrs_expanded_nodup he hn (attrTokens_ns_lt he hrel ha)
  · intro a ha' hne
    rw [hor] at ha'
    obtain ⟨x, hx, rfl⟩ := List.mem_map.mp ha'
    obtain ⟨q, hq⟩ := hp x hx
    exact (spellAttr_facts he hrel (hv x hx) hq).2.2.2 hne
  · -- every position of the serialiser-side spelling is 0
    intro a ha'
    simp only [spellItems, List.mem_append, List.mem_flatMap, List.mem_map] at ha'
    rcases ha' with ⟨d, _, hd⟩ | ⟨x, _, rfl⟩
    · exact (spellDecl_mem d hd).2
    · exact StrSpan.bareColon_zero _

theorem spellNode_single {n : Tree} (hn : n.allNodes (nodeOK env) = true) (hnormal : n.value.isNormal = true)
    (hdoc : n.value.isDocument = false) (inScope : List (Nat × Nat)) (s : FStack) :
    ∃ x, spellNode env inScope false s n = [x] ∧ x.isChars = n.value.isText := by
  cases n with
  | node v ks =>
    cases v with
    | document => cases hdoc
    | «attribute» a b | «namespace» a b => cases hnormal
    | text str | comment str | pi target data =>
      have hl := allNodes_leaf env hn rfl
      subst hl
      exact ⟨_, rfl, rfl⟩
    | element name =>
      by_cases hfc : (Tree.node (.element name) ks).firstChild?.isNone = true
      · simp only [spellNode, hfc, if_true, spellKids_empty hn hfc]
        exact ⟨_, rfl, rfl⟩
      · simp only [spellNode, hfc, Bool.false_eq_true, if_false]
        exact ⟨_, rfl, rfl⟩

theorem spellNode_abnormal {n : Tree} (hn : n.allNodes (nodeOK env) = true) (hab : n.value.isNormal = false)
    (inScope : List (Nat × Nat)) (s : FStack) : spellNode env inScope false s n = [] := by
  cases n with
  | node v ks =>
    have hl := allNodes_leaf env hn (abnormal_leafKind hab)
    subst hl
    cases v with
    | «attribute» a b | «namespace» a b => rfl
    | _ => cases hab

end PiColon

namespace PiColon

theorem spellKids_noAdj (inScope : List (Nat × Nat)) (s : FStack) (ks : List Tree)
    (hn : ∀ k ∈ ks, k.allNodes (nodeOK env) = true) (hdoc : ∀ k ∈ ks, k.value.isDocument = false)
    (hord : OrderedKids ks) (hadj : noAdjText ks = true) :
    noAdjCharsNs (spellNode.spellKids env inScope s ks) = true := by
  induction ks with
  | nil => rfl
  | cons k ks ih =>
    have ih := ih (fun k' hk' => hn k' (List.mem_cons_of_mem _ hk'))
      (fun k' hk' => hdoc k' (List.mem_cons_of_mem _ hk')) (List.pairwise_cons.mp hord).2
      (noAdjText_tail hadj)
    rw [spellNode.spellKids]
    by_cases hnorm : k.value.isNormal = true
    · obtain ⟨x, hx, hxc⟩ := spellNode_single (hn k List.mem_cons_self) hnorm (hdoc k List.mem_cons_self) inScope s
      rw [hx]
      cases ks with
      | nil => rfl
      | cons k2 ks2 =>
        -- the next child is normal too (the list is ordered), so it spells one node
        have hph := (List.pairwise_cons.mp hord).1 k2 List.mem_cons_self
        have hnorm2 : k2.value.isNormal = true := by
          rw [isNormal_iff_phase] at hnorm ⊢
          have := phase_le_two k2.value
          omega
        have hk2 : k2 ∈ k :: k2 :: ks2 := List.mem_cons_of_mem _ List.mem_cons_self
        obtain ⟨x2, hx2, hxc2⟩ := spellNode_single (hn k2 hk2) hnorm2 (hdoc k2 hk2) inScope s
        rw [spellNode.spellKids, hx2] at ih ⊢
        rw [noAdjText, Bool.and_eq_true] at hadj
        show (!(x.isChars && x2.isChars) && noAdjCharsNs (x2 :: _)) = true
        rw [hxc, hxc2, hadj.1]
        exact ih
    · rw [spellNode_abnormal (hn k List.mem_cons_self) (Bool.not_eq_true _ ▸ hnorm)]
      exact ih

end PiColon

theorem textPieces_ne_nil {str : Str} (h : str ≠ []) : textPieces str ≠ [] := by
  cases str with
  | nil => exact absurd rfl h
  | cons c cs => simp [textPieces]

namespace PiColon

theorem spell_well_rec (he : EnvFacts env) (inScope : List (Nat × Nat)) :
    (∀ (n : Tree) (s : FStack) (fs : Frames) (sc : Scope), ScopeRel env s fs sc →
      n.allNodes (nodeOK env) = true → n.value.isDocument = false →
      ∀ ts, serNode env false inScope false s n = .ok ts →
      NSNode.Well.wellList sc (spellNode env inScope false s n)) ∧
    ∀ (ks : List Tree) (s : FStack) (fs : Frames) (sc : Scope), ScopeRel env s fs sc →
      (∀ k ∈ ks, k.allNodes (nodeOK env) = true) → (∀ k ∈ ks, k.value.isDocument = false) →
      ∀ ts, serNode.serKids env false inScope s ks = .ok ts →
      NSNode.Well.wellList sc (spellNode.spellKids env inScope s ks) := by
  refine tree_induction_both ?_ ?_ ?_
  · intro v ks ih s fs sc hrel hn hdoc ts h
    have hval := allNodes_value env hn
    cases v with
    | document => cases hdoc
    | «attribute» a b | «namespace» a b =>
      have hl := allNodes_leaf env hn rfl
      subst hl
      trivial
    | text str =>
      have hl := allNodes_leaf env hn rfl
      subst hl
      simp only [Tree.value, valueOK, Bool.and_eq_true, Bool.not_eq_true', List.isEmpty_eq_false_iff] at hval
      refine ⟨?_, trivial⟩
      intro p hp
      simp only [List.mem_singleton] at hp
      subst hp
      exact ⟨textPieces_ne_nil hval.1, wellSpelled_textPieces str⟩
    | comment str =>
      have hl := allNodes_leaf env hn rfl
      subst hl
      exact ⟨trivial, trivial⟩
    | pi target data =>
      have hl := allNodes_leaf env hn rfl
      subst hl
      refine ⟨?_, trivial⟩
      -- the target is not `xml` in any letter case (`valueOK`)
      simp only [Tree.value, valueOK, Bool.and_eq_true, bne_iff_ne, ne_eq] at hval
      simpa [NSNode.Well, isReservedPiTarget, sp0] using hval.1.2
    | element name =>
      obtain ⟨p, ats, content, hcheck, hp, ha, hk, _⟩ := serNode_element_ok env h
      obtain ⟨hord, hkinds, _, hnoadj, _⟩ := nodeOK_root hn
      have hdecls := declsOK_of_nodeOK hn
      have hrel' := hrel.push he hdecls
      have hkids := ih _ _ _ hrel' (fun k hk' => allNodes_kid hn hk') hkinds.2.2
        content hk
      obtain ⟨hdo, _, _⟩ := spellItems_facts he hrel' inScope (Tree.node (.element name) ks) hdecls
        (fun a ha' => attrs_valueOK env hn ha') (attrTokens_prefixes _ ats ha)
      have hitems := spellItems_well he hrel' inScope hn ha
      have hres := (hrel'.element he hp hcheck).1
      have hsome : ((sc.push ((Tree.node (.element name) ks).nsDecls.map (declStr env))).lookup
          (prefixText env p)).isSome = true := by rw [hres]; rfl
      simp only [spellNode, hp, okPrefix]
      by_cases hfc : (Tree.node (.element name) ks).firstChild?.isNone = true
      · simp only [hfc, if_true, spellKids_empty hn hfc, NSNode.Well.wellList, NSNode.Well, hdo, sp0, and_true]
        exact ⟨hitems, hsome, StrSpan.bareColon_zero _⟩
      · simp only [hfc, Bool.false_eq_true, if_false, NSNode.Well.wellList, NSNode.Well, hdo, sp0, and_true,
          true_and]
        exact ⟨hitems, hsome,
          spellKids_noAdj inScope _ ks (fun k hk' => allNodes_kid hn hk') hkinds.2.2 hord hnoadj, hkids,
          StrSpan.bareColon_zero _, StrSpan.bareColon_zero _⟩
  · intro s fs sc _ _ _ ts _
    trivial
  · intro k ks ihk ihks s fs sc hrel hn hdoc ts h
    obtain ⟨x, y, hx, hy, _⟩ := serKids_cons_ok env h
    rw [spellNode.spellKids, wellList_append]
    exact ⟨ihk s fs sc hrel (hn k (by simp)) (hdoc k (by simp)) x hx,
      ihks s fs sc hrel (fun k' hk' => hn k' (by simp [hk']))
        (fun k' hk' => hdoc k' (by simp [hk'])) y hy⟩

theorem spellNode_well (he : EnvFacts env) (inScope : List (Nat × Nat)) (n : Tree) (s : FStack)
    (fs : Frames) (sc : Scope) (hrel : ScopeRel env s fs sc) (hn : n.allNodes (nodeOK env) = true)
    (hdoc : n.value.isDocument = false) (ts : List Token)
    (h : serNode env false inScope false s n = .ok ts) :
    NSNode.Well.wellList sc (spellNode env inScope false s n) :=
  (spell_well_rec he inScope).1 n s fs sc hrel hn hdoc ts h

theorem spellKids_well (he : EnvFacts env) (inScope : List (Nat × Nat)) (ks : List Tree) (s : FStack)
    (fs : Frames) (sc : Scope) (hrel : ScopeRel env s fs sc) (hn : ∀ k ∈ ks, k.allNodes (nodeOK env) = true)
    (hdoc : ∀ k ∈ ks, k.value.isDocument = false) (ts : List Token)
    (h : serNode.serKids env false inScope s ks = .ok ts) :
    NSNode.Well.wellList sc (spellNode.spellKids env inScope s ks) :=
  (spell_well_rec he inScope).2 ks s fs sc hrel hn hdoc ts h

end PiColon

theorem spellNode_well (he : EnvFacts env) (inScope : List (Nat × Nat)) (n : Tree) (s : FStack)
    (fs : Frames) (sc : Scope) (hrel : ScopeRel env s fs sc) (hn : n.allNodes (nodeOK env) = true)
    (hdoc : n.value.isDocument = false) (ts : List Token)
    (h : serNode env false inScope false s n = .ok ts) :
    NSNode.Well.wellList sc (spellNode env inScope false s n) :=
  PiColon.spellNode_well he inScope n s fs sc hrel (PiColon.allNodes_of_allNodes env n hn) hdoc ts h

end XotModel

/-! ### The `xml:id` values

  Round trip: (V) the namespaces of the names the serialiser accepts are interned (`nsInterned`: a
  namespace id out of the table's range cannot be declared in a `nodeOK` tree, so the serialiser finds
  no prefix for it), and (ids) the ID values of the abstract document a tree reads back as are, up to
  order, the values of its `xml:id` attributes (`xmlIdValues`) — for the last clause of `WellNsDoc`.
-/

namespace XotModel

variable {env : Env}

/-- The namespaces of an element's name and of its attributes' names are interned. -/
def nsInterned (env : Env) (v : Value) (ks : List Tree) : Bool :=
  match v with
  | .element name =>
    decide (env.nsOfName name < env.namespaces.length) &&
      (kidAttrs ks).all (fun a => decide (env.nsOfName a.1 < env.namespaces.length))
  | _ => true

namespace PiColon

/-- (V) for one node and for a child list, by induction on the tree. -/
theorem ser_nsInterned_rec (he : EnvFacts env) (inScope : List (Nat × Nat)) :
    (∀ (n : Tree) (s : FStack) (fs : Frames) (sc : Scope), ScopeRel env s fs sc →
      n.allNodes (nodeOK env) = true → ∀ ts, serNode env false inScope false s n = .ok ts →
      n.allNodes (nsInterned env) = true) ∧
    ∀ (ks : List Tree) (s : FStack) (fs : Frames) (sc : Scope), ScopeRel env s fs sc →
      (∀ k ∈ ks, k.allNodes (nodeOK env) = true) →
      ∀ ts, serNode.serKids env false inScope s ks = .ok ts →
      ∀ k ∈ ks, k.allNodes (nsInterned env) = true := by
  refine tree_induction_both ?_ ?_ ?_
  · intro v ks ih s fs sc hrel hn ts h
    have hkids : ∀ k ∈ ks, k.allNodes (nodeOK env) = true := fun k hk => allNodes_kid hn hk
    rw [allNodes_node, Bool.and_eq_true, List.all_eq_true]
    cases v with
    | element name =>
      obtain ⟨p, ats, content, hcheck, hp, ha, hk, _⟩ := serNode_element_ok env h
      obtain ⟨hord, _, _, _, _⟩ := nodeOK_root hn
      have hrel' := hrel.push he (declsOK_of_nodeOK hn)
      refine ⟨?_, ih _ _ _ hrel' hkids content hk⟩
      simp only [nsInterned, Bool.and_eq_true, decide_eq_true_eq, List.all_eq_true]
      refine ⟨(hrel'.element he hp hcheck).2, ?_⟩
      rw [← attrs_eq_kidAttrs (.element name) ks hord]
      exact attrTokens_ns_lt he hrel' ha
    | document | «attribute» a b | «namespace» a b =>
      simp only [serNode] at h
      exact ⟨rfl, ih s fs sc hrel hkids ts h⟩
    | text str | comment str =>
      simp only [serNode] at h
      obtain ⟨x, y, _, hy, _⟩ := appendOk_ok h
      exact ⟨rfl, ih s fs sc hrel hkids y hy⟩
    | pi target data =>
      rw [serNode] at h
      split at h
      · cases h
      · obtain ⟨x, y, _, hy, _⟩ := appendOk_ok h
        exact ⟨rfl, ih s fs sc hrel hkids y hy⟩
  · intro s fs sc _ _ ts _ k hk
    cases hk
  · intro k ks ihk ihks s fs sc hrel hn ts h
    obtain ⟨x, y, hx, hy, _⟩ := serKids_cons_ok env h
    intro k' hk'
    rcases List.mem_cons.mp hk' with heq | hk'
    · rw [heq]
      exact ihk s fs sc hrel (hn k (by simp)) x hx
    · exact ihks s fs sc hrel (fun k2 hk2 => hn k2 (by simp [hk2])) y hy k' hk'

theorem serKids_nsInterned (he : EnvFacts env) (inScope : List (Nat × Nat)) (ks : List Tree) (s : FStack)
    (fs : Frames) (sc : Scope) (hrel : ScopeRel env s fs sc) (hn : ∀ k ∈ ks, k.allNodes (nodeOK env) = true)
    (ts : List Token) (h : serNode.serKids env false inScope s ks = .ok ts) :
    ∀ k ∈ ks, k.allNodes (nsInterned env) = true :=
  (ser_nsInterned_rec he inScope).2 ks s fs sc hrel hn ts h

theorem serNode_nsInterned (he : EnvFacts env) (inScope : List (Nat × Nat)) (n : Tree) (s : FStack)
    (fs : Frames) (sc : Scope) (hrel : ScopeRel env s fs sc) (hn : n.allNodes (nodeOK env) = true)
    (ts : List Token) (h : serNode env false inScope false s n = .ok ts) :
    n.allNodes (nsInterned env) = true :=
  (ser_nsInterned_rec he inScope).1 n s fs sc hrel hn ts h

end PiColon

/-- The ID values one item of a child list contributes. -/
def NItem.ids : NItem → List Str
  | .decl _ => []
  | .attr a => attrIds [a]
  | .node d => d.ids

theorem attrIds_cons (a : (Str × Str) × Str) (as : List ((Str × Str) × Str)) :
    attrIds (a :: as) = attrIds [a] ++ attrIds as := by
  unfold attrIds
  rw [← List.map_append, ← List.filter_append]
  rfl

theorem ids_split : ∀ (items : List NItem),
    (attrIds (items.filterMap NItem.attr?) ++ NPNode.ids.idsList (items.filterMap NItem.node?)).Perm
      (items.flatMap NItem.ids)
  | [] => by simp [attrIds, NPNode.ids.idsList]
  | .decl d :: items => by
    simpa [List.filterMap_cons, NItem.attr?, NItem.node?, List.flatMap_cons, NItem.ids] using ids_split items
  | .attr a :: items => by
    simp only [List.filterMap_cons, NItem.attr?, NItem.node?, List.flatMap_cons, NItem.ids]
    rw [attrIds_cons, List.append_assoc]
    exact List.Perm.append_left _ (ids_split items)
  | .node d :: items => by
    simp only [List.filterMap_cons, NItem.attr?, NItem.node?, List.flatMap_cons, NItem.ids, NPNode.ids.idsList]
    rw [← List.append_assoc]
    refine List.Perm.trans (List.Perm.append_right _ List.perm_append_comm) ?_
    rw [List.append_assoc]
    exact List.Perm.append_left _ (ids_split items)

theorem isXmlId_iff (he : EnvFacts env) {name : Nat} (hns : env.nsOfName name < env.namespaces.length) :
    (env.expanded name == (xmlNsUri, ['i', 'd'])) = isXmlIdName env name := by
  rw [Bool.eq_iff_iff]
  simp only [beq_iff_eq, Env.expanded, Prod.mk.injEq, isXmlIdName, Bool.and_eq_true]
  constructor
  · rintro ⟨h1, h2⟩
    exact ⟨he.namespaceStr_inj hns he.xmlNamespace_lt (by rw [h1, he.ns1]), h2⟩
  · rintro ⟨h1, h2⟩
    exact ⟨by rw [h1, he.ns1], h2⟩

theorem idsList_cons (env : Env) (k : Tree) (ks : List Tree) :
    xmlIdValues.idsList env (k :: ks) = xmlIdValues env k ++ xmlIdValues.idsList env ks := rfl

/-- (ids) for one node (not an attribute node) and for a child list, by induction on the tree. -/
theorem decode_ids_rec (he : EnvFacts env) :
    (∀ (n : Tree) (item : NItem), decodeNsTree env n = some item →
      n.allNodes (nsInterned env) = true → (∀ name v, n.value ≠ .attribute name v) →
      item.ids.Perm (xmlIdValues env n)) ∧
    ∀ (ks : List Tree) (items : List NItem), decodeNsTree.decodeItems env ks = some items →
      (∀ k ∈ ks, k.allNodes (nsInterned env) = true) →
      (∀ a ∈ kidAttrs ks, env.nsOfName a.1 < env.namespaces.length) →
      (items.flatMap NItem.ids).Perm (xmlIdValues.idsList env ks) := by
  refine tree_induction_both ?_ ?_ ?_
  · intro v ks ih item hd hv hna
    cases v with
    | document => simp [decodeNsTree] at hd
    | «attribute» a b => exact absurd rfl (hna a b)
    | «namespace» a b =>
      cases ks with
      | nil =>
        simp only [decodeNsTree, Option.some.injEq] at hd
        subst hd
        simp [NItem.ids, xmlIdValues, xmlIdValues.idsList]
      | cons k ks => simp [decodeNsTree] at hd
    | text str | comment str | pi target data =>
      cases ks with
      | nil =>
        simp only [decodeNsTree, Option.some.injEq] at hd
        subst hd
        simp [NItem.ids, NPNode.ids, xmlIdValues, xmlIdValues.idsList]
      | cons k ks => simp [decodeNsTree] at hd
    | element name =>
      obtain ⟨items, hitems, rfl⟩ := decodeNsTree_element hd
      rw [allNodes_node, Bool.and_eq_true, List.all_eq_true] at hv
      have hattr : ∀ a ∈ kidAttrs ks, env.nsOfName a.1 < env.namespaces.length := by
        have := hv.1
        simp only [nsInterned, Bool.and_eq_true, decide_eq_true_eq, List.all_eq_true] at this
        exact this.2
      have hk := ih items hitems hv.2 hattr
      simp only [NItem.ids, NPNode.ids, xmlIdValues, List.nil_append]
      exact (ids_split items).trans hk
  · intro items hd _ _
    simp only [decodeNsTree.decodeItems, Option.some.injEq] at hd
    subst hd
    exact List.Perm.refl _
  · intro k ks ihk ihks items hd hv hattr
    obtain ⟨a, as, hk, hks, rfl⟩ := decodeItems_cons_some hd
    have hattr' : ∀ a ∈ kidAttrs ks, env.nsOfName a.1 < env.namespaces.length := fun a' ha' =>
      hattr a' (mem_kidAttrs_cons k ha')
    have ih := ihks as hks (fun k' hk' => hv k' (by simp [hk'])) hattr'
    rw [List.flatMap_cons, idsList_cons]
    refine List.Perm.append ?_ ih
    cases k with
    | node v kk =>
      by_cases hav : ∃ name val, v = .attribute name val
      · obtain ⟨name, val, rfl⟩ := hav
        cases kk with
        | cons k2 kk2 => simp [decodeNsTree] at hk
        | nil =>
          simp only [decodeNsTree, Option.some.injEq] at hk
          subst hk
          have hlt : env.nsOfName name < env.namespaces.length :=
            hattr (name, val) List.mem_cons_self
          simp only [NItem.ids, attrIds, xmlIdValues, xmlIdValues.idsList, List.append_nil, List.filter_cons,
            List.filter_nil, isXmlId_iff he hlt]
          split <;> simp
      · exact ihk a hk (hv _ (by simp))
          (fun name val hh => hav ⟨name, val, hh⟩)

theorem decode_ids_node (he : EnvFacts env) (n : Tree) (item : NItem) (hd : decodeNsTree env n = some item)
    (hv : n.allNodes (nsInterned env) = true) (hna : ∀ name v, n.value ≠ .attribute name v) :
    item.ids.Perm (xmlIdValues env n) :=
  (decode_ids_rec he).1 n item hd hv hna

theorem decode_ids_kids (he : EnvFacts env) (ks : List Tree) (items : List NItem)
    (hd : decodeNsTree.decodeItems env ks = some items) (hv : ∀ k ∈ ks, k.allNodes (nsInterned env) = true)
    (hattr : ∀ a ∈ kidAttrs ks, env.nsOfName a.1 < env.namespaces.length) :
    (items.flatMap NItem.ids).Perm (xmlIdValues.idsList env ks) :=
  (decode_ids_rec he).2 ks items hd hv hattr

end XotModel

/-! ### Documents and fragments

  Round trip, whole documents: Lemmas B and C for `spellTop` of a `RepresentableFragment` tree the
  serialiser accepts, and the top-level shape (`AbstractTopNs`) of a `Representable` one.
-/

namespace XotModel

variable {env : Env}

theorem kids_normal_none (ks : List Tree) (h : ∀ k ∈ ks, k.value.isNormal = true) :
    kidDecls ks = [] ∧ kidAttrs ks = [] := by
  have key : ∀ v : Value, v.isNormal = true → nsPair v = none ∧ attrPair v = none := by
    intro v hv
    cases v with
    | «attribute» a b => cases hv
    | «namespace» a b => cases hv
    | _ => exact ⟨rfl, rfl⟩
  exact ⟨List.filterMap_eq_nil_iff.mpr fun k hk => (key _ (h k hk)).1,
    List.filterMap_eq_nil_iff.mpr fun k hk => (key _ (h k hk)).2⟩

/-- What `RepresentableFragment` (or its widening `PiColon.RepresentableFragment`) and a successful serialisation
    give, for the tree induction. -/
structure TopFacts (env : Env) (ks : List Tree) (ts : List Token) : Prop where
  he : EnvFacts env
  hkids : ∀ k ∈ ks, k.allNodes (PiColon.nodeOK env) = true
  hord : OrderedKids ks
  hnoadj : noAdjText ks = true
  hnormal : ∀ k ∈ ks, k.value.isNormal = true
  hdocs : ∀ k ∈ ks, k.value.isDocument = false
  hids : (xmlIdValues.idsList env ks).Nodup
  hser : serNode.serKids env false basePrefixes (FStack.new basePrefixes) ks = .ok ts
  hspell : spellTop env (.node .document ks) =
    spellNode.spellKids env basePrefixes (FStack.new basePrefixes) ks

theorem inScope_document (ks : List Tree) (hord : OrderedKids ks) (hnormal : ∀ k ∈ ks, k.value.isNormal = true) :
    namespacesInScopeChain [.node .document ks] = basePrefixes := by
  have h0 : (Tree.node .document ks).nsDecls = [] := by
    rw [nsDecls_eq_kidDecls _ ks hord]; exact (kids_normal_none ks hnormal).1
  simp [namespacesInScopeChain, traverseChain, traverseDecls, h0, basePrefixes]

theorem PiColon.topFacts {t : Tree} (hr : PiColon.RepresentableFragment env t = true) {ts : List Token}
    (h : serTokensTop env t = .ok ts) : ∃ ks, t = .node .document ks ∧ TopFacts env ks ts := by
  obtain ⟨henv, hdocv, hn, hids⟩ := (PiColon.representableFragment_iff env t).mp hr
  obtain ⟨ks, rfl⟩ := Tree.eq_document hdocv
  refine ⟨ks, rfl, ?_⟩
  obtain ⟨hord, hkinds, _, hnoadj, _⟩ := PiColon.nodeOK_root hn
  have hnormal := hkinds.2.1 rfl
  have hin := inScope_document ks hord hnormal
  rw [serTokensTop_document, hin] at h
  refine ⟨envFacts_of_envOK henv, fun k hk => allNodes_kid hn hk, hord, hnoadj, hnormal, hkinds.2.2, ?_, h, ?_⟩
  · simpa [xmlIdValues] using hids
  · simp [spellTop, spellAt, Tree.at?, namespacesInScope, Tree.ancestorsOrSelf, hin, spellNode]

theorem topFacts {t : Tree} (hr : RepresentableFragment env t = true) {ts : List Token}
    (h : serTokensTop env t = .ok ts) : ∃ ks, t = .node .document ks ∧ TopFacts env ks ts :=
  PiColon.topFacts (PiColon.representableFragment_of env t hr) h

theorem mapM_node_of_normal (items : List NItem) (h1 : items.filterMap NItem.decl? = [])
    (h2 : items.filterMap NItem.attr? = []) :
    items.mapM NItem.node? = some (items.filterMap NItem.node?) := by
  induction items with
  | nil => rfl
  | cons a items ih =>
    cases a with
    | decl d => cases h1
    | attr a => cases h2
    | node d =>
      rw [List.mapM_cons, ih h1 h2]
      rfl

/-- For a whole document or fragment: what the spelling denotes in the base scope is what
    the tree reads back as. -/
theorem spellTop_denote {ks : List Tree} {ts : List Token} (hf : TopFacts env ks ts) :
    decodeNs env ks = some (NSNode.denote.denoteList baseScope (spellTop env (.node .document ks))) ∧
      ∃ items, decodeNsTree.decodeItems env ks = some items ∧
        NSNode.denote.denoteList baseScope (spellTop env (.node .document ks)) = items.filterMap NItem.node? ∧
        items.filterMap NItem.attr? = [] := by
  obtain ⟨items, h1, h2, h3, h4⟩ := PiColon.spellKids_denote hf.he basePrefixes ks _ _ _ (ScopeRel.base hf.he)
    hf.hkids hf.hdocs ts hf.hser
  obtain ⟨k1, k2⟩ := kids_normal_none ks hf.hnormal
  rw [k1] at h2
  rw [k2] at h3
  refine ⟨?_, items, h1, by rw [hf.hspell, h4], h3⟩
  unfold decodeNs
  rw [h1, hf.hspell, h4]
  exact mapM_node_of_normal items h2 h3

theorem spellTop_well {ks : List Tree} {ts : List Token} (hf : TopFacts env ks ts) :
    WellNsDoc (spellTop env (.node .document ks)) := by
  have hrel := ScopeRel.base hf.he
  refine ⟨?_, ?_, ?_⟩
  · rw [hf.hspell]
    exact PiColon.spellKids_well hf.he basePrefixes ks _ _ _ hrel hf.hkids hf.hdocs ts hf.hser
  · rw [hf.hspell]
    exact PiColon.spellKids_noAdj basePrefixes _ ks hf.hkids hf.hdocs hf.hord hf.hnoadj
  · obtain ⟨_, items, h1, h2, h3⟩ := spellTop_denote hf
    rw [h2]
    have hv := PiColon.serKids_nsInterned hf.he basePrefixes ks _ _ _ hrel hf.hkids ts hf.hser
    have hperm := decode_ids_kids hf.he ks items h1 hv (by
      rw [(kids_normal_none ks hf.hnormal).2]; intro a ha; cases ha)
    have hsplit := ids_split items
    rw [h3] at hsplit
    simp only [attrIds, List.filter_nil, List.map_nil, List.nil_append] at hsplit
    exact (hsplit.trans hperm).nodup_iff.mpr hf.hids

theorem decode_kind {k : Tree} {d : NPNode} (h : decodeNsTree env k = some (.node d)) :
    d.isElem = k.value.isElement ∧ d.isText = k.value.isText := by
  cases k with
  | node v kk =>
    cases v with
    | document => simp [decodeNsTree] at h
    | «attribute» a b | «namespace» a b => cases kk <;> simp [decodeNsTree] at h
    | text str | comment str | pi target data =>
      cases kk <;> simp [decodeNsTree] at h
      subst h; exact ⟨rfl, rfl⟩
    | element name =>
      obtain ⟨items, _, hx⟩ := decodeNsTree_element h
      cases hx
      exact ⟨rfl, rfl⟩

theorem decodeItems_top (ks : List Tree) (items : List NItem)
    (h : decodeNsTree.decodeItems env ks = some items) (h1 : items.filterMap NItem.decl? = [])
    (h2 : items.filterMap NItem.attr? = []) :
    ((items.filterMap NItem.node?).filter NPNode.isElem).length =
        (ks.filter (fun k => k.value.isElement)).length ∧
      ((∀ k ∈ ks, k.value.isText = false) → ∀ d ∈ items.filterMap NItem.node?, d.isText = false) := by
  induction ks generalizing items with
  | nil =>
    cases (Option.some.inj h : [] = items)
    exact ⟨rfl, fun _ d hd => nomatch hd⟩
  | cons k ks ih =>
    obtain ⟨a, as, hk, hks, rfl⟩ := decodeItems_cons_some h
    cases a with
    | decl d => cases h1
    | attr x => cases h2
    | node d =>
      obtain ⟨i1, i2⟩ := ih as hks h1 h2
      obtain ⟨e1, e2⟩ := decode_kind hk
      constructor
      · show (List.filter NPNode.isElem (d :: as.filterMap NItem.node?)).length = _
        rw [List.filter_cons, List.filter_cons, e1]
        cases k.value.isElement
        · exact i1
        · exact congrArg (· + 1) i1
      · intro hall x hx
        rcases List.mem_cons.mp hx with rfl | hx
        · rw [e2]; exact hall k List.mem_cons_self
        · exact i2 (fun k' hk' => hall k' (List.mem_cons_of_mem _ hk')) x hx

theorem spellTop_abstractTop {ks : List Tree} {ts : List Token} (hf : TopFacts env ks ts)
    (hsingle : singleRoot (.node .document ks) = true) :
    AbstractTopNs (NSNode.denote.denoteList baseScope (spellTop env (.node .document ks))) := by
  obtain ⟨_, items, h1, h2, h3⟩ := spellTop_denote hf
  have hd : items.filterMap NItem.decl? = [] := by
    obtain ⟨items', h1', h2', _, _⟩ := PiColon.spellKids_denote hf.he basePrefixes ks _ _ _ (ScopeRel.base hf.he)
      hf.hkids hf.hdocs ts hf.hser
    rw [h1] at h1'
    cases h1'
    rw [h2', (kids_normal_none ks hf.hnormal).1]; rfl
  obtain ⟨t1, t2⟩ := decodeItems_top ks items h1 hd h3
  obtain ⟨hone, htext⟩ := (singleRoot_iff _).mp hsingle
  rw [h2]
  exact ⟨t1.trans hone, t2 htext⟩

end XotModel
