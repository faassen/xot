/-
  C06: the three clauses of the property for one call, and how the outcome lemmas give them.
-/
import XotModel.Lemmas.FatomMap

namespace XotModel
namespace Forest

/-- C06 for one call with result `r` from state `f`: an error leaves the state as it was, the
    call does not panic, and no indextree primitive was used outside its list semantics. -/
structure C06Clauses (f : Forest) (r : Forest × Res) : Prop where
  atomic : ∀ e, r.2 = .err e → r.1 = f
  noPanic : r.2 ≠ .panic
  notCorrupt : r.1.corrupt = false

theorem OkRes.clauses {f : Forest} {r : Forest × Res} (m : OkRes f r) (hc : f.corrupt = false) :
    C06Clauses f r :=
  ⟨fun e h => (by rw [m.ok] at h; cases h), (by rw [m.ok]; simp), (by rw [m.corrupt, hc])⟩

theorem clauses_refused {f : Forest} (hc : f.corrupt = false) (e : XotError) :
    C06Clauses f (f, .err e) :=
  ⟨fun _ _ => rfl, (by simp), hc⟩

theorem clauses_of_outcome {f : Forest} {r : Forest × Res} (hc : f.corrupt = false)
    (h : r = (f, .err .invalidOperation) ∨ OkRes f r) : C06Clauses f r := by
  rcases h with h | h
  · rw [h]; exact clauses_refused hc _
  · exact h.clauses hc

theorem clauses_of_outcome3 {f : Forest} {r : Forest × Res × Nat} (hc : f.corrupt = false)
    (h : (r.1 = f ∧ r.2.1 = .err .invalidOperation) ∨ OkRes f (r.1, r.2.1)) :
    C06Clauses f (r.1, r.2.1) := by
  rcases h with h | h
  · exact ⟨fun _ _ => h.1, (by rw [h.2]; simp), (by rw [h.1]; exact hc)⟩
  · exact h.clauses hc

theorem MoveOutcome.clauses {f : Forest} {r : Forest × Res} {c : Nat} (m : MoveOutcome f r c)
    (hc : f.corrupt = false) : C06Clauses f r :=
  ⟨fun _ h => m.atomic h, m.noPanic, (by rw [m.corrupt, hc])⟩

/-- From the answer read off the argument checks (`Call.refusal`): an error with nothing changed,
    or carried out. -/
theorem clauses_of_refusal {f : Forest} {r : Forest × Res} {o : Option XotError} (hc : f.corrupt = false)
    (h : match o with
      | some e => r = (f, .err e)
      | none => OkRes f r) : C06Clauses f r := by
  cases o with
  | some e => rw [h]; exact clauses_refused hc e
  | none => exact h.clauses hc

theorem clauses_of_refusal3 {f : Forest} {r : Forest × Res × Nat} {o : Option XotError}
    (hc : f.corrupt = false)
    (h : match o with
      | some e => r.1 = f ∧ r.2.1 = .err e
      | none => OkRes f (r.1, r.2.1)) : C06Clauses f (r.1, r.2.1) := by
  cases o with
  | some e => exact ⟨fun _ _ => h.1, (by rw [h.2]; simp), (by rw [h.1]; exact hc)⟩
  | none => exact h.clauses hc

theorem elementUnwrap_clauses {f : Forest} (hi : f.Inv) (node : Nat) :
    C06Clauses f (f.elementUnwrap node) :=
  clauses_of_outcome hi.notCorrupt (OkRes.outcome_of_refused (elementUnwrap_run hi node))

/-- Element-only accessors: the documented panic (and nothing else happens) exactly when the
    node is not an element; otherwise the three clauses. -/
structure ElementOnly (f : Forest) (node : Nat) (r : Forest × Res) : Prop where
  panics : f.isElement node = false → r = (f, .panic)
  clauses : f.isElement node = true → C06Clauses f r

theorem ElementOnly.panic_iff {f : Forest} {node : Nat} {r : Forest × Res}
    (h : ElementOnly f node r) : r.2 = .panic ↔ f.isElement node = false := by
  constructor
  · intro hp
    cases he : f.isElement node with
    | false => rfl
    | true => exact absurd hp (h.clauses he).noPanic
  · intro he; rw [h.panics he]

theorem ElementOnly.notCorrupt {f : Forest} {node : Nat} {r : Forest × Res}
    (h : ElementOnly f node r) (hc : f.corrupt = false) : r.1.corrupt = false := by
  cases he : f.isElement node with
  | false => rw [h.panics he]; exact hc
  | true => exact (h.clauses he).notCorrupt

theorem elementOnly_of {f : Forest} {node : Nat} {r : Forest × Res} (hc : f.corrupt = false)
    (h : (f.isElement node = false ∧ r = (f, .panic)) ∨ (f.isElement node = true ∧ OkRes f r)) :
    ElementOnly f node r := by
  rcases h with ⟨h1, h2⟩ | ⟨h1, h2⟩
  · exact ⟨fun _ => h2, fun h => (by rw [h1] at h; cases h)⟩
  · exact ⟨fun h => (by rw [h1] at h; cases h), fun _ => h2.clauses hc⟩

end Forest
end XotModel
