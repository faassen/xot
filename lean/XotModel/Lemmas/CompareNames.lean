/-
  C13: the canonical form over expanded-name STRINGS.
  `canon` holds name ids.  With the interning tables duplicate-free (the C08 invariant) an id in
  range stands for exactly one (namespace URI, local name) pair of strings, so resolving every id
  of `canon t` to its strings (`canonStr`) loses nothing.
-/
import XotModel.Lemmas.CompareBasic
import XotModel.Lemmas.IdMap
import XotModel.Lemmas.SharedDefs

namespace XotModel

/-- Canonical value with every id resolved to its string(s). -/
inductive SValue where
  | document
  | element (name : Str × Str) (attrs : List ((Str × Str) × Str))
  | text (s : Str)
  | comment (s : Str)
  | pi (target : Str × Str) (data : Option Str)
  | attribute (name : Str × Str) (value : Str)
  | namespace (pfx : Str) (uri : Str)
  deriving Repr, DecidableEq

inductive SCanon where
  | node (v : SValue) (kids : List SCanon)
  deriving Repr

def resolveAttrs (e : Env) (l : List (Nat × Str)) : List ((Str × Str) × Str) :=
  l.map fun kv => (e.expanded kv.1, kv.2)

def CValue.resolve (e : Env) : CValue → SValue
  | .document => .document
  | .element n attrs => .element (e.expanded n) (resolveAttrs e attrs)
  | .text s => .text s
  | .comment s => .comment s
  | .pi t d => .pi (e.expanded t) d
  | .attribute n v => .attribute (e.expanded n) v
  | .namespace p ns => .namespace (e.prefixStr p) (e.namespaceStr ns)

def Canon.resolve (e : Env) : Canon → SCanon
  | .node v ks => .node (v.resolve e) (resolveList e ks)
where
  resolveList (e : Env) : List Canon → List SCanon
    | [] => []
    | k :: ks => Canon.resolve e k :: resolveList e ks

/-- The canonical form of a subtree over strings: kind, expanded names (namespace URI, local
    name), attributes (in the order of `canon`: sorted by the id their name has in this `Xot`),
    text / comment / PI content, children. -/
def canonStr (e : Env) (t : Tree) : SCanon := (canon t).resolve e

/-- The C08 invariant on the three tables (`by_id` duplicate-free), and every registered name's
    namespace id is an id of the same `Xot`. -/
structure Env.DupFree (e : Env) : Prop where
  names : e.names.Nodup
  namespaces : e.namespaces.Nodup
  prefixes : e.prefixes.Nodup
  nsInRange : ∀ x ∈ e.names, x.2 < e.namespaces.length

/-- The `Env` of an interner state: the three `by_id` vectors. -/
def Env.ofInterner (x : Interner) : Env :=
  { namespaces := x.namespaceLookup.byId, prefixes := x.prefixLookup.byId, names := x.nameLookup.byId }

/-- The three duplicate-freeness clauses are the invariant C08 proves of every reachable
    interner (`C08_inv_reachable`). -/
theorem Env.dupFree_of_inv (x : Interner) (h : Interner.Inv x)
    (hr : ∀ k ∈ x.nameLookup.byId, k.2 < x.namespaceLookup.byId.length) : (Env.ofInterner x).DupFree :=
  ⟨h.nm.nodup, h.ns.nodup, h.pf.nodup, hr⟩

/-! ### An id in range stands for one expanded name -/

theorem getD_mem {α} {l : List α} {i : Nat} (d : α) (h : i < l.length) : l.getD i d ∈ l := by
  rw [List.getD_eq_getElem?_getD, List.getElem?_eq_getElem h]
  exact List.getElem_mem h

theorem Env.expanded_inj {e : Env} (hd : e.DupFree) {n m : Nat} (hn : n < e.names.length) (hm : m < e.names.length)
    (h : e.expanded n = e.expanded m) : n = m := by
  simp only [Env.expanded, Prod.mk.injEq, Env.namespaceStr, Env.nsOfName, Env.localName] at h
  obtain ⟨hns, hl⟩ := h
  have r1 := hd.nsInRange _ (getD_mem ([], 0) hn)
  have r2 := hd.nsInRange _ (getD_mem ([], 0) hm)
  have e2 := (List.getD_inj r1 r2 hd.namespaces).mp hns
  exact (List.getD_inj hn hm hd.names).mp (Prod.ext hl e2)

theorem Env.prefixStr_inj {e : Env} (hd : e.DupFree) {p q : Nat} (hp : p < e.prefixes.length)
    (hq : q < e.prefixes.length) (h : e.prefixStr p = e.prefixStr q) : p = q :=
  (List.getD_inj hp hq hd.prefixes).mp h

theorem Env.namespaceStr_inj {e : Env} (hd : e.DupFree) {p q : Nat} (hp : p < e.namespaces.length)
    (hq : q < e.namespaces.length) (h : e.namespaceStr p = e.namespaceStr q) : p = q :=
  (List.getD_inj hp hq hd.namespaces).mp h

def CValue.idsIn (e : Env) : CValue → Prop
  | .element n attrs => n < e.names.length ∧ ∀ kv ∈ attrs, kv.1 < e.names.length
  | .pi t _ => t < e.names.length
  | .attribute n _ => n < e.names.length
  | .namespace p ns => p < e.prefixes.length ∧ ns < e.namespaces.length
  | _ => True

def Canon.idsIn (e : Env) : Canon → Prop
  | .node v ks => v.idsIn e ∧ idsInList e ks
where
  idsInList (e : Env) : List Canon → Prop
    | [] => True
    | k :: ks => Canon.idsIn e k ∧ idsInList e ks

/-- Every id in the value is an id of this `Xot`. -/
def Value.idsIn (e : Env) : Value → Bool
  | .element n => decide (n < e.names.length)
  | .pi t _ => decide (t < e.names.length)
  | .attribute n _ => decide (n < e.names.length)
  | .namespace p ns => decide (p < e.prefixes.length) && decide (ns < e.namespaces.length)
  | _ => true

/-- … at every node of the tree. -/
def Tree.idsIn (e : Env) : Tree → Bool
  | .node v ks => v.idsIn e && idsInList e ks
where
  idsInList (e : Env) : List Tree → Bool
    | [] => true
    | k :: ks => Tree.idsIn e k && idsInList e ks

theorem idsInList_iff (e : Env) (ks : List Tree) : Tree.idsIn.idsInList e ks = true ↔ ∀ k ∈ ks, k.idsIn e = true := by
  induction ks with
  | nil => simp [Tree.idsIn.idsInList]
  | cons k ks ih => simp [Tree.idsIn.idsInList, ih]

theorem mem_attrPairs {ks : List Tree} {kv : Nat × Str} (h : kv ∈ attrPairs ks) :
    ∃ k ∈ ks, k.value = .attribute kv.1 kv.2 := by
  induction ks with
  | nil => simp [attrPairs] at h
  | cons k ks ih =>
    simp only [attrPairs] at h
    split at h
    · rename_i n v hv
      rcases List.mem_cons.mp h with e | h'
      · subst e; exact ⟨k, List.mem_cons_self, hv⟩
      · obtain ⟨k', hk', e⟩ := ih h'
        exact ⟨k', List.mem_cons_of_mem _ hk', e⟩
    · obtain ⟨k', hk', e⟩ := ih h
      exact ⟨k', List.mem_cons_of_mem _ hk', e⟩

theorem cvalue_idsIn {e : Env} {v : Value} {ks : List Tree} (hv : v.idsIn e = true)
    (hk : ∀ k ∈ ks, k.idsIn e = true) : (cvalue v ks).idsIn e := by
  cases v with
  | element n =>
    refine ⟨of_decide_eq_true (p := n < e.names.length) hv, fun kv hmem => ?_⟩
    -- an attribute of the canonical value is an attribute child, whose own value has its id in range
    obtain ⟨k, hk', hval⟩ := mem_attrPairs ((sortAttrs_perm (attrPairs ks)).subset hmem)
    have := hk k hk'
    obtain ⟨w, js⟩ := k
    simp only [Tree.value] at hval
    subst hval
    simp only [Tree.idsIn, Value.idsIn, Bool.and_eq_true, decide_eq_true_eq] at this
    exact this.1
  | pi t d => exact of_decide_eq_true (p := t < e.names.length) hv
  | «attribute» n s => exact of_decide_eq_true (p := n < e.names.length) hv
  | «namespace» p ns =>
    simp only [Value.idsIn, Bool.and_eq_true, decide_eq_true_eq] at hv
    exact hv
  | _ => trivial

theorem canonList_idsIn {e : Env} {ks : List Tree} (h : ∀ k ∈ ks, (canon k).idsIn e) :
    Canon.idsIn.idsInList e (canon.canonList ks) := by
  induction ks with
  | nil => simp [canon.canonList, Canon.idsIn.idsInList]
  | cons k ks ih =>
    have ih' := ih (fun x hx => h x (List.mem_cons_of_mem _ hx))
    simp only [canon.canonList]
    split
    · exact ⟨h k List.mem_cons_self, ih'⟩
    · exact ih'

theorem canon_idsIn (e : Env) (t : Tree) : t.idsIn e = true → (canon t).idsIn e := by
  induction t using Tree.induct_mem with
  | h v ks ih =>
    intro hi
    simp only [Tree.idsIn, Bool.and_eq_true, idsInList_iff] at hi
    exact ⟨cvalue_idsIn hi.1 hi.2, canonList_idsIn (fun k hk => ih k hk (hi.2 k hk))⟩

/-! ### Resolving is injective on canonical forms with ids in range -/

theorem resolveAttrs_inj {e : Env} (hd : e.DupFree) : ∀ {a b : List (Nat × Str)},
    (∀ kv ∈ a, kv.1 < e.names.length) → (∀ kv ∈ b, kv.1 < e.names.length) →
    resolveAttrs e a = resolveAttrs e b → a = b
  | [], [], _, _, _ => rfl
  | [], _ :: _, _, _, h => by simp [resolveAttrs] at h
  | _ :: _, [], _, _, h => by simp [resolveAttrs] at h
  | (k, v) :: as, (k', v') :: bs, ha, hb, h => by
    simp only [resolveAttrs, List.map_cons, List.cons.injEq, Prod.mk.injEq] at h
    have hk : k = k' := Env.expanded_inj hd (ha (k, v) List.mem_cons_self) (hb (k', v') List.mem_cons_self) h.1.1
    have hrest := resolveAttrs_inj hd (fun x hx => ha x (List.mem_cons_of_mem _ hx))
      (fun x hx => hb x (List.mem_cons_of_mem _ hx)) h.2
    rw [hk, h.1.2, hrest]

theorem CValue.resolve_inj {e : Env} (hd : e.DupFree) {v w : CValue} (hv : v.idsIn e) (hw : w.idsIn e)
    (h : v.resolve e = w.resolve e) : v = w := by
  cases v <;> cases w <;> simp only [CValue.resolve, reduceCtorEq, SValue.element.injEq, SValue.text.injEq,
    SValue.comment.injEq, SValue.pi.injEq, SValue.attribute.injEq, SValue.namespace.injEq] at h <;>
    simp only [CValue.idsIn] at hv hw
  · rfl
  · rw [Env.expanded_inj hd hv.1 hw.1 h.1, resolveAttrs_inj hd hv.2 hw.2 h.2]
  · rw [h]
  · rw [h]
  · rw [Env.expanded_inj hd hv hw h.1, h.2]
  · rw [Env.expanded_inj hd hv hw h.1, h.2]
  · rw [Env.prefixStr_inj hd hv.1 hw.1 h.1, Env.namespaceStr_inj hd hv.2 hw.2 h.2]

mutual
theorem Canon.resolve_inj {e : Env} (hd : e.DupFree) : ∀ (x y : Canon), x.idsIn e → y.idsIn e →
    x.resolve e = y.resolve e → x = y
  | .node v ks, .node w js, hx, hy, h => by
    simp only [Canon.resolve, SCanon.node.injEq] at h
    rw [CValue.resolve_inj hd hx.1 hy.1 h.1, Canon.resolveList_inj hd ks js hx.2 hy.2 h.2]
theorem Canon.resolveList_inj {e : Env} (hd : e.DupFree) : ∀ (xs ys : List Canon),
    Canon.idsIn.idsInList e xs → Canon.idsIn.idsInList e ys →
    Canon.resolve.resolveList e xs = Canon.resolve.resolveList e ys → xs = ys
  | [], [], _, _, _ => rfl
  | [], _ :: _, _, _, h => by simp [Canon.resolve.resolveList] at h
  | _ :: _, [], _, _, h => by simp [Canon.resolve.resolveList] at h
  | x :: xs, y :: ys, hx, hy, h => by
    simp only [Canon.resolve.resolveList, List.cons.injEq] at h
    rw [Canon.resolve_inj hd x y hx.1 hy.1 h.1, Canon.resolveList_inj hd xs ys hx.2 hy.2 h.2]
end

theorem canon_eq_iff_canonStr_eq {e : Env} (hd : e.DupFree) {a b : Tree} (ia : a.idsIn e = true)
    (ib : b.idsIn e = true) : canon a = canon b ↔ canonStr e a = canonStr e b :=
  ⟨fun h => by simp only [canonStr, h],
   fun h => Canon.resolve_inj hd _ _ (canon_idsIn e a ia) (canon_idsIn e b ib) h⟩

/-- A closed duplicate-free table with the same local name in two namespaces (non-vacuity). -/
def envEx : Env :=
  { namespaces := [[], ['u']], prefixes := [[], ['p']], names := [(['a'], 0), (['a'], 1), (['b'], 0)] }

theorem envEx_dupFree : envEx.DupFree := ⟨by decide, by decide, by decide, by decide⟩

end XotModel
