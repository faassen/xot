/-
  The handle-addressed recursions of `Model/Forest.lean` (`find?`, `ctxBelow`, `replaceBelow`,
  `mapAt`) and the one-site edit `editAt` (apply a list function to the child list of one node):
  composition at one site, commutation of edits at two sites, lookups and handles after an edit.
  The primitives `cut`, `setValue`, `spliceOut`, `placeAfter/Before/Last` are edits of one child
  list, on trees and on the forest.
-/
import XotModel.Lemmas.HTreeBasic
import XotModel.Model.FspecSpec

/-! ## The handle-addressed recursions: `handles`, `find?`, `ctxBelow`, `replaceBelow`, `mapAt` -/

namespace XotModel
open HTree

/-! ### Equation lemmas (the model's `match`es are private matchers: state them by cases) -/

theorem ctxBelow_node (h p : Nat) (v : Value) (ks : List HTree) :
    ctxBelow h (.node p v ks) = ctxKids h p [] ks := by simp [ctxBelow]

theorem ctxKids_nil (h p : Nat) (left : List HTree) : ctxKids h p left [] = none := by
  simp [ctxKids]

theorem ctxKids_cons_hit {h p : Nat} {left : List HTree} {k : HTree} {right : List HTree}
    (e : k.handle = h) : ctxKids h p left (k :: right) = some ⟨p, left, k, right⟩ := by
  simp [ctxKids, e]

theorem ctxKids_cons_below {h p : Nat} {left : List HTree} {k : HTree} {right : List HTree}
    {c : Ctx} (e : k.handle ≠ h) (e2 : ctxBelow h k = some c) :
    ctxKids h p left (k :: right) = some c := by
  simp [ctxKids, e, e2]

theorem ctxKids_cons_skip {h p : Nat} {left : List HTree} {k : HTree} {right : List HTree}
    (e : k.handle ≠ h) (e2 : ctxBelow h k = none) :
    ctxKids h p left (k :: right) = ctxKids h p (left ++ [k]) right := by
  simp [ctxKids, e, e2]

theorem mapAt_node (s h : Nat) (G : HTree → HTree) (v : Value) (ks : List HTree) :
    mapAt s G (.node h v ks) = if h = s then G (.node h v ks) else .node h v (mapAtList s G ks) := by
  simp [mapAt]

theorem replaceKids_nil (h : Nat) (F : HTree → List HTree) : replaceKids h F [] = [] := by
  simp [replaceKids]

/-! ### Locality -/

theorem ctxKids_of_not_mem {h : Nat} (p : Nat) : ∀ (left ks : List HTree),
    h ∉ handlesList ks → ctxKids h p left ks = none :=
  fun left ks => ctxKids_none_of_not_mem h p ks left

/-! ### Lookups under distinct handles -/

theorem findList?_mid {l : List HTree} {k : HTree} {r : List HTree}
    (hn : k.handle ∉ handlesList l) : findList? k.handle (l ++ k :: r) = some k := by
  induction l with
  | nil => exact findList?_cons_some (find?_root k)
  | cons a l ih =>
    rw [handlesList_cons] at hn
    simp only [List.mem_append, not_or] at hn
    rw [List.cons_append, findList?_cons_none (find?_none_of_not_mem _ a hn.1)]
    exact ih hn.2

theorem nodup_mid {l : List HTree} {k : HTree} {r : List HTree}
    (nd : (handlesList (l ++ k :: r)).Nodup) :
    (∀ x ∈ handles k, x ∉ handlesList l) ∧ (∀ x ∈ handles k, x ∉ handlesList r) ∧
    (∀ x ∈ handlesList l, x ∉ handlesList r) ∧
    (handlesList l).Nodup ∧ (handles k).Nodup ∧ (handlesList r).Nodup := by
  rw [handlesList_append, handlesList_cons] at nd
  obtain ⟨n1, n2, n3⟩ := List.nodup_append.1 nd
  obtain ⟨n4, n5, n6⟩ := List.nodup_append.1 n2
  refine ⟨fun x hx hl => n3 x hl x (List.mem_append_left _ hx) rfl, fun x hx hr => n6 x hx x hr rfl,
    fun x hl hr => n3 x hl x (List.mem_append_right _ hr) rfl, n1, n4, n5⟩

theorem find?_inside {p x : Nat} : ∀ (t u : HTree), (handles t).Nodup → find? p t = some u →
    x ∈ handles u → find? x t = find? x u := by
  intro t u nd e hx
  rw [← Fmap.findList?_singleton] at e ⊢
  exact findList?_inside [t] u (by simpa [handlesList] using nd) e hx

/-! ### Where a node sits (`ctxBelow`) versus the child list of its parent (`find?`) -/

theorem ctxBelow_find {h : Nat} : ∀ (t : HTree) (c : Ctx), (handles t).Nodup → ctxBelow h t = some c →
    c.self.handle = h ∧ ∃ v, find? c.parent t = some (.node c.parent v (c.left ++ c.self :: c.right)) :=
  fun t c nd e => (ctxBelow_spec h t c nd e).symm

theorem ctxKids_find {h : Nat} (q : Nat) : ∀ (left ks : List HTree) (c : Ctx), (handlesList ks).Nodup →
    ctxKids h q left ks = some c →
    (c.self.handle = h ∧ c.parent = q ∧ left ++ ks = c.left ++ c.self :: c.right) ∨
    (c.self.handle = h ∧ ∃ v, findList? c.parent ks = some (.node c.parent v (c.left ++ c.self :: c.right))) := by
  intro left ks c nd e
  rcases ctxKids_spec h q left ks c nd e with ⟨hp, pre, hl, hks, hh⟩ | ⟨⟨v, hf⟩, hh⟩
  · exact Or.inl ⟨hh, hp, by rw [hl, hks, List.append_assoc]⟩
  · exact Or.inr ⟨hh, v, hf⟩

theorem findList_ctxKids {p : Nat} {v : Value} {l : List HTree} {s : HTree} {r : List HTree} (q : Nat) :
    ∀ (left ks : List HTree), (handlesList ks).Nodup →
    findList? p ks = some (.node p v (l ++ s :: r)) →
    ctxKids s.handle q left ks = some ⟨p, l, s, r⟩ := by
  intro left ks nd e
  obtain ⟨path, L, R, lc⟩ := Loc.of_findList? nd e
  exact (lc.kid rfl).ctxKids_snoc nd q left

end XotModel

/-! ## The algebra of `editAt` -/

namespace XotModel
open HTree

/-- The node-level function behind `editAt`. -/
def kidsFn (g : List HTree → List HTree) : HTree → HTree := fun n => n.setKids (g n.kids)

theorem editAt_def (s : Nat) (g : List HTree → List HTree) : HTree.editAt s g = mapAt s (kidsFn g) := rfl

theorem editAt_node (s : Nat) (g : List HTree → List HTree) (h : Nat) (v : Value) (ks : List HTree) :
    HTree.editAt s g (.node h v ks) =
      if h = s then .node h v (g ks) else .node h v (ks.map (HTree.editAt s g)) := by
  rw [editAt_def, mapAt_node, mapAtList_eq_map]
  simp [kidsFn, HTree.setKids, HTree.kids]

theorem editAt_handle (s : Nat) (g : List HTree → List HTree) (t : HTree) :
    (HTree.editAt s g t).handle = t.handle := by
  cases t with
  | node h v ks => rw [editAt_node]; split <;> rfl

theorem editAt_value (s : Nat) (g : List HTree → List HTree) (t : HTree) :
    (HTree.editAt s g t).value = t.value := by
  cases t with
  | node h v ks => rw [editAt_node]; split <;> rfl

theorem editAt_of_not_mem {s : Nat} {g : List HTree → List HTree} (t : HTree) (hn : s ∉ handles t) :
    HTree.editAt s g t = t := mapAt_of_not_mem _ _ t hn

theorem map_editAt_of_not_mem {s : Nat} {g : List HTree → List HTree} (ks : List HTree)
    (hn : s ∉ handlesList ks) : ks.map (HTree.editAt s g) = ks := by
  rw [editAt_def, ← mapAtList_eq_map]
  exact mapAtList_of_not_mem _ _ ks hn

/-! ### Composition at one site -/

mutual
  theorem editAt_editAt (s : Nat) (g1 g2 : List HTree → List HTree) : ∀ t : HTree,
      HTree.editAt s g2 (HTree.editAt s g1 t) = HTree.editAt s (g2 ∘ g1) t
    | .node h v ks => by
      rw [editAt_node s g1, editAt_node s (g2 ∘ g1)]
      by_cases hh : h = s
      · rw [if_pos hh, if_pos hh, editAt_node, if_pos hh]; rfl
      · rw [if_neg hh, if_neg hh, editAt_node, if_neg hh, editAt_editAt_list s g1 g2 ks]
  theorem editAt_editAt_list (s : Nat) (g1 g2 : List HTree → List HTree) : ∀ ks : List HTree,
      (ks.map (HTree.editAt s g1)).map (HTree.editAt s g2) = ks.map (HTree.editAt s (g2 ∘ g1))
    | [] => rfl
    | k :: ks => by
      simp only [List.map_cons]
      rw [editAt_editAt s g1 g2 k, editAt_editAt_list s g1 g2 ks]
end

/-! ### The identity edit -/

mutual
  theorem editAt_id (s : Nat) : ∀ t : HTree, HTree.editAt s id t = t
    | .node h v ks => by
      rw [editAt_node]
      by_cases hh : h = s
      · rw [if_pos hh]; rfl
      · rw [if_neg hh, editAt_id_list s ks]
  theorem editAt_id_list (s : Nat) : ∀ ks : List HTree, ks.map (HTree.editAt s id) = ks
    | [] => rfl
    | k :: ks => by rw [List.map_cons, editAt_id s k, editAt_id_list s ks]
end

theorem Forest.editAt_id (f : Forest) (s : Option Nat) : f.editAt s id = f := by
  cases s with
  | none => rfl
  | some p => simp only [Forest.editAt]; rw [editAt_id_list]

/-! ### Commutation at two sites -/

/-- `g` commutes with applying `φ` to every child. -/
def NatFor (φ : HTree → HTree) (g : List HTree → List HTree) : Prop :=
  ∀ L, g (L.map φ) = (g L).map φ

mutual
  theorem editAt_comm {s s' : Nat} {g g' : List HTree → List HTree} (hne : s ≠ s')
      (n1 : NatFor (HTree.editAt s' g') g) (n2 : NatFor (HTree.editAt s g) g') : ∀ t : HTree,
      HTree.editAt s g (HTree.editAt s' g' t) = HTree.editAt s' g' (HTree.editAt s g t)
    | .node h v ks => by
      by_cases h1 : h = s
      · have h2 : ¬ h = s' := fun e => hne (h1.symm.trans e)
        rw [editAt_node s' g', if_neg h2, editAt_node s g, if_pos h1, editAt_node s g, if_pos h1,
          editAt_node s' g', if_neg h2, n1 ks]
      · by_cases h2 : h = s'
        · rw [editAt_node s' g', if_pos h2, editAt_node s g, if_neg h1, editAt_node s g, if_neg h1,
            editAt_node s' g', if_pos h2, n2 ks]
        · rw [editAt_node s' g', if_neg h2, editAt_node s g, if_neg h1, editAt_node s g, if_neg h1,
            editAt_node s' g', if_neg h2, editAt_comm_list hne n1 n2 ks]
  theorem editAt_comm_list {s s' : Nat} {g g' : List HTree → List HTree} (hne : s ≠ s')
      (n1 : NatFor (HTree.editAt s' g') g) (n2 : NatFor (HTree.editAt s g) g') : ∀ ks : List HTree,
      (ks.map (HTree.editAt s' g')).map (HTree.editAt s g) =
        (ks.map (HTree.editAt s g)).map (HTree.editAt s' g')
    | [] => rfl
    | k :: ks => by
      simp only [List.map_cons]
      rw [editAt_comm hne n1 n2 k, editAt_comm_list hne n1 n2 ks]
end

/-! ### Lookups after an edit -/

mutual
  theorem find?_editAt_self {s : Nat} {g : List HTree → List HTree} {v : Value} {L : List HTree} :
      ∀ t : HTree, find? s t = some (.node s v L) →
      find? s (HTree.editAt s g t) = some (.node s v (g L))
    | .node h v' ks => by
      intro e
      rw [find?_node] at e
      rw [editAt_node]
      by_cases hh : h = s
      · rw [if_pos hh] at e
        rw [if_pos hh]
        have e' := Option.some.inj e
        injection e' with e1 e2 e3
        subst e2 e3
        rw [find?_node, if_pos hh, hh]
      · rw [if_neg hh] at e
        rw [if_neg hh, find?_node, if_neg hh]
        exact findList?_editAt_self ks e
  theorem findList?_editAt_self {s : Nat} {g : List HTree → List HTree} {v : Value} {L : List HTree} :
      ∀ ks : List HTree, findList? s ks = some (.node s v L) →
      findList? s (ks.map (HTree.editAt s g)) = some (.node s v (g L))
    | [] => by intro e; rw [findList?_nil] at e; cases e
    | k :: ks => by
      intro e
      rw [List.map_cons]
      cases hk : find? s k with
      | some t =>
        rw [findList?_cons_some hk] at e
        have e' := Option.some.inj e
        subst e'
        exact findList?_cons_some (find?_editAt_self k hk)
      | none =>
        rw [findList?_cons_none hk] at e
        have : s ∉ handles k := (find?_none_iff _ k).1 hk
        rw [editAt_of_not_mem k this, findList?_cons_none hk]
        exact findList?_editAt_self ks e
end

mutual
  /-- Any other node `x`, provided the edit does not disturb the lookup of `x` in the edited
      child list: the subtree found is the old one with the edit applied inside it. -/
  theorem find?_editAt_other {s x : Nat} {g : List HTree → List HTree} (hxs : x ≠ s) :
      ∀ t : HTree, (handles t).Nodup →
      (∀ v L, find? s t = some (.node s v L) → findList? x (g L) = findList? x L) →
      find? x (HTree.editAt s g t) = (find? x t).map (HTree.editAt s g)
    | .node h v ks => by
      intro nd hg
      obtain ⟨n1, n2⟩ := nodup_handles_node nd
      rw [editAt_node]
      by_cases hh : h = s
      · rw [if_pos hh]
        have hx : ¬ h = x := fun e => hxs (e.symm.trans hh)
        rw [find?_node, if_neg hx, find?_node, if_neg hx]
        have := hg v ks (by rw [find?_node, if_pos hh, hh])
        rw [this]
        -- the subtree found lies strictly inside `s`, where the edit is the identity
        cases hf : findList? x ks with
        | none => rfl
        | some u =>
          simp only [Option.map_some]
          have hsub := (findList?_some ks u hf).2
          have : s ∉ handles u := fun hm => n1 (hh ▸ hsub s hm)
          rw [editAt_of_not_mem u this]
      · rw [if_neg hh, find?_node, find?_node]
        by_cases hx : h = x
        · rw [if_pos hx, if_pos hx]
          simp only [Option.map_some]
          rw [editAt_node, if_neg hh]
        · rw [if_neg hx, if_neg hx]
          apply findList?_editAt_other hxs ks n2
          intro v' L e
          apply hg v' L
          rw [find?_node, if_neg hh]
          exact e
  theorem findList?_editAt_other {s x : Nat} {g : List HTree → List HTree} (hxs : x ≠ s) :
      ∀ ks : List HTree, (handlesList ks).Nodup →
      (∀ v L, findList? s ks = some (.node s v L) → findList? x (g L) = findList? x L) →
      findList? x (ks.map (HTree.editAt s g)) = (findList? x ks).map (HTree.editAt s g)
    | [] => by intro _ _; simp [findList?]
    | k :: ks => by
      intro nd hg
      obtain ⟨n1, n2, n3⟩ := Fws.nodup_handlesList_cons nd
      rw [List.map_cons]
      by_cases hsk : s ∈ handles k
      · -- the site is inside `k`; the other children are untouched
        have hsn : s ∉ handlesList ks := n3 s hsk
        rw [map_editAt_of_not_mem ks hsn]
        have ih := find?_editAt_other (g := g) hxs k n1 (by
          intro v' L e
          exact hg v' L (findList?_cons_some e))
        cases hk : find? x k with
        | some u =>
          rw [hk] at ih
          rw [findList?_cons_some ih, findList?_cons_some hk]
          rfl
        | none =>
          rw [hk] at ih
          rw [findList?_cons_none ih, findList?_cons_none hk]
          cases hf : findList? x ks with
          | none => rfl
          | some u =>
            simp only [Option.map_some]
            have hsub := (findList?_some ks u hf).2
            have : s ∉ handles u := fun hm => hsn (hsub s hm)
            rw [editAt_of_not_mem u this]
      · rw [editAt_of_not_mem k hsk]
        cases hk : find? x k with
        | some u =>
          rw [findList?_cons_some hk, findList?_cons_some hk]
          simp only [Option.map_some]
          have hsub := (find?_some k u hk).2
          have : s ∉ handles u := fun hm => hsk (hsub s hm)
          rw [editAt_of_not_mem u this]
        | none =>
          rw [findList?_cons_none hk, findList?_cons_none hk]
          apply findList?_editAt_other hxs ks n2
          intro v' L e
          apply hg v' L
          rw [findList?_cons_none (find?_none_of_not_mem _ k hsk)]
          exact e
end

/-! ### Handles after an edit -/

mutual
  theorem handles_editAt_sublist {s : Nat} {g : List HTree → List HTree}
      (hg : ∀ L, (handlesList (g L)).Sublist (handlesList L)) : ∀ t : HTree,
      (handles (HTree.editAt s g t)).Sublist (handles t)
    | .node h v ks => by
      rw [editAt_node]
      by_cases hh : h = s
      · rw [if_pos hh, handles_node, handles_node]
        exact (hg ks).cons_cons h
      · rw [if_neg hh, handles_node, handles_node]
        exact (handlesList_editAt_sublist hg ks).cons_cons h
  theorem handlesList_editAt_sublist {s : Nat} {g : List HTree → List HTree}
      (hg : ∀ L, (handlesList (g L)).Sublist (handlesList L)) : ∀ ks : List HTree,
      (handlesList (ks.map (HTree.editAt s g))).Sublist (handlesList ks)
    | [] => by simp [handlesList]
    | k :: ks => by
      rw [List.map_cons, handlesList_cons, handlesList_cons]
      exact (handles_editAt_sublist hg k).append (handlesList_editAt_sublist hg ks)
end

end XotModel

/-! ## The indextree-level primitives as edits of one child list -/

namespace XotModel
open HTree Spec

/-- `h` is the handle of one of the trees of `L`. -/
def IsTop (h : Nat) (L : List HTree) : Prop := ∃ k ∈ L, k.handle = h

theorem IsTop.mem_handlesList {h : Nat} {L : List HTree} (ht : IsTop h L) : h ∈ handlesList L := by
  obtain ⟨k, hk, e⟩ := ht
  exact e ▸ rootHandle_mem_handlesList hk

theorem replaceTop_nil (h : Nat) (F : HTree → List HTree) : replaceTop h F [] = [] := rfl
theorem replaceTop_cons (h : Nat) (F : HTree → List HTree) (k : HTree) (ks : List HTree) :
    replaceTop h F (k :: ks) = if k.handle = h then F k ++ ks else k :: replaceTop h F ks := rfl

theorem replaceTop_of_not_top {h : Nat} {F : HTree → List HTree} : ∀ L : List HTree,
    (∀ k ∈ L, k.handle ≠ h) → replaceTop h F L = L
  | [] => fun _ => rfl
  | k :: ks => by
    intro hn
    rw [replaceTop_cons, if_neg (hn k (List.mem_cons_self)),
      replaceTop_of_not_top ks (fun k' hk' => hn k' (List.mem_cons_of_mem _ hk'))]

theorem replaceTop_of_not_mem {h : Nat} {F : HTree → List HTree} (L : List HTree)
    (hn : h ∉ handlesList L) : replaceTop h F L = L :=
  replaceTop_of_not_top L (fun _ hk e => hn (e ▸ rootHandle_mem_handlesList hk))

theorem replaceTop_mid {h : Nat} {F : HTree → List HTree} {l : List HTree} {s : HTree} {r : List HTree}
    (hs : s.handle = h) (hl : ∀ k ∈ l, k.handle ≠ h) : replaceTop h F (l ++ s :: r) = l ++ F s ++ r := by
  induction l with
  | nil => simp [replaceTop_cons, hs]
  | cons a l ih =>
    rw [List.cons_append, replaceTop_cons, if_neg (hl a List.mem_cons_self),
      ih (fun k hk => hl k (List.mem_cons_of_mem _ hk))]
    simp

theorem map_editAt_of_loc {ks : List HTree} {p : Nat} {path : List ZipFrame} {L R kids : List HTree} {v : Value}
    (lc : Loc ks p path L (.node p v kids) R) (nd : (handlesList ks).Nodup) (g : List HTree → List HTree) :
    ks.map (HTree.editAt p g) = plug path (L ++ .node p v (g kids) :: R) := by
  rw [show ks.map (HTree.editAt p g) = mapAtList p (fun n => n.setKids (g n.kids)) ks from
    (mapAtList_eq_map p _ ks).symm]
  exact lc.mapAtList_eq nd _

/-- Both sides are evaluated at the location of the child. -/
theorem replaceKids_eq_editAt {p h : Nat} {F : HTree → List HTree} {v : Value} {L : List HTree} :
    ∀ ks : List HTree, (handlesList ks).Nodup → findList? p ks = some (.node p v L) → IsTop h L →
    replaceKids h F ks = ks.map (HTree.editAt p (replaceTop h F)) := by
  intro ks nd e ht
  obtain ⟨k, hk, rfl⟩ := ht
  obtain ⟨path, Lp, Rp, lc⟩ := Loc.of_findList? nd e
  obtain ⟨l, r, rfl⟩ := List.append_of_mem hk
  have lk := lc.kid (l := l) (s := k) (r := r) rfl
  have f := lk.fresh nd
  rw [map_editAt_of_loc lc nd, replaceTop_mid rfl (handle_ne_of_not_mem_handlesList f.left)]
  conv => lhs; rw [lk.eq]
  rw [replaceKids_plug k.handle F _ l k r rfl f.path f.left, plug_append]
  rfl

theorem mapAtList_eq_editAt {p h : Nat} {G : HTree → HTree} {v : Value} {L : List HTree} :
    ∀ ks : List HTree, (handlesList ks).Nodup → findList? p ks = some (.node p v L) → IsTop h L →
    mapAtList h G ks = ks.map (HTree.editAt p (replaceTop h (fun k => [G k]))) := by
  intro ks nd e ht
  obtain ⟨k, hk, rfl⟩ := ht
  obtain ⟨path, Lp, Rp, lc⟩ := Loc.of_findList? nd e
  obtain ⟨l, r, rfl⟩ := List.append_of_mem hk
  have lk := lc.kid (l := l) (s := k) (r := r) rfl
  have f := lk.fresh nd
  rw [map_editAt_of_loc lc nd, replaceTop_mid rfl (handle_ne_of_not_mem_handlesList f.left)]
  conv => lhs; rw [lk.eq]
  rw [mapAtList_plug k.handle G _ l k r rfl f.path f.left f.right, plug_append]
  simp [plug, HTree.value]

end XotModel

/-! ## The same on the forest: the list of parentless trees -/

namespace XotModel
open HTree Spec

theorem findList?_kid {p : Nat} {v : Value} {l : List HTree} {s : HTree} {r : List HTree} (rs : List HTree)
    (nd : (handlesList rs).Nodup) (e : findList? p rs = some (.node p v (l ++ s :: r))) :
    findList? s.handle rs = some s := by
  obtain ⟨path, L, R, lc⟩ := Loc.of_findList? nd e
  exact (lc.kid rfl).findList?_eq nd

namespace Forest

theorem ctx?_eq (f : Forest) (h : Nat) : f.ctx? h = f.roots.findSome? (ctxBelow h) := rfl

theorem editAt_some_roots (f : Forest) (p : Nat) (g : List HTree → List HTree) :
    (f.editAt (some p) g).roots = f.roots.map (HTree.editAt p g) := rfl

theorem map_replaceBelow {f : Forest} {h : Nat} {c : Ctx} (F : HTree → List HTree)
    (nd : f.allHandles.Nodup) (e : f.ctx? h = some c) :
    f.roots.map (replaceBelow h F) = f.roots.map (HTree.editAt c.parent (replaceTop h F)) := by
  obtain ⟨e0, v, e1⟩ := kids_of_ctx nd e
  have hr := isRoot_of_ctx nd e
  unfold isRoot at hr
  rw [List.any_eq_false] at hr
  rw [fi_map_replaceBelow_eq h F f.roots (fun k hk => by simpa using hr k hk)]
  exact replaceKids_eq_editAt f.roots nd e1 ⟨c.self, List.mem_append_right _ List.mem_cons_self, e0⟩

theorem map_mapAt {f : Forest} {h : Nat} {c : Ctx} (G : HTree → HTree)
    (nd : f.allHandles.Nodup) (e : f.ctx? h = some c) :
    f.roots.map (mapAt h G) = f.roots.map (HTree.editAt c.parent (replaceTop h (fun k => [G k]))) := by
  obtain ⟨e0, v, e1⟩ := kids_of_ctx nd e
  rw [← mapAtList_eq_map]
  exact mapAtList_eq_editAt f.roots nd e1 ⟨c.self, List.mem_append_right _ List.mem_cons_self, e0⟩

theorem cut_of_ctx {f : Forest} {n : Nat} {c : Ctx} (nd : f.allHandles.Nodup) (e : f.ctx? n = some c) :
    f.cut n = (f.editAt (some c.parent) (replaceTop n (fun _ => [])), some c.self) := by
  unfold Forest.cut
  rw [get?_of_ctx nd e]
  simp only [isRoot_of_ctx nd e, Bool.false_eq_true, if_false]
  rw [map_replaceBelow _ nd e]
  rfl

theorem setValue_of_ctx {f : Forest} {a : Nat} {c : Ctx} (v : Value) (nd : f.allHandles.Nodup)
    (e : f.ctx? a = some c) :
    f.setValue a v = f.editAt (some c.parent) (replaceTop a (fun k => [k.setValue v])) := by
  unfold Forest.setValue
  rw [map_mapAt _ nd e]
  rfl

theorem spliceOut_of_ctx {f : Forest} {b : Nat} {c : Ctx} (nd : f.allHandles.Nodup)
    (e : f.ctx? b = some c) :
    f.spliceOut b = f.editAt (some c.parent) (replaceTop b (fun k => k.kids)) := by
  unfold Forest.spliceOut
  rw [get?_of_ctx nd e]
  simp only [isRoot_of_ctx nd e, Bool.false_eq_true, if_false]
  rw [map_replaceBelow _ nd e]
  rfl

theorem placeAfter_of_ctx {f : Forest} {r : Nat} {c : Ctx} (t : HTree) (nd : f.allHandles.Nodup)
    (e : f.ctx? r = some c) : f.placeAfter r t = f.editAt (some c.parent) (insertAfterTop r t) := by
  unfold Forest.placeAfter
  rw [map_replaceBelow _ nd e]
  rfl

theorem placeBefore_of_ctx {f : Forest} {r : Nat} {c : Ctx} (t : HTree) (nd : f.allHandles.Nodup)
    (e : f.ctx? r = some c) : f.placeBefore r t = f.editAt (some c.parent) (insertBeforeTop r t) := by
  unfold Forest.placeBefore
  rw [map_replaceBelow _ nd e]
  rfl

theorem placeLast_eq (f : Forest) (p : Nat) (t : HTree) : f.placeLast p t = f.editAt (some p) (insertLast t) := rfl

theorem placeFirst_eq (f : Forest) (p : Nat) (t : HTree) : f.placeFirst p t = f.editAt (some p) (fun ks => t :: ks) := rfl

/-! ### Edits of the forest -/

theorem editAt_editAt (f : Forest) (s : Option Nat) (g1 g2 : List HTree → List HTree) :
    (f.editAt s g1).editAt s g2 = f.editAt s (g2 ∘ g1) := by
  cases s with
  | none => rfl
  | some p =>
    simp only [Forest.editAt]
    rw [editAt_editAt_list]

theorem editAt_comm (f : Forest) {p q : Nat} {g g' : List HTree → List HTree} (hne : p ≠ q)
    (n1 : NatFor (HTree.editAt q g') g) (n2 : NatFor (HTree.editAt p g) g') :
    (f.editAt (some q) g').editAt (some p) g = (f.editAt (some p) g).editAt (some q) g' := by
  simp only [Forest.editAt]
  rw [editAt_comm_list hne n1 n2]

theorem get?_editAt_self {f : Forest} {p : Nat} {v : Value} {L : List HTree} (g : List HTree → List HTree)
    (e : f.get? p = some (.node p v L)) : (f.editAt (some p) g).get? p = some (.node p v (g L)) :=
  findList?_editAt_self f.roots e

/-- `get?` of another node `x`, provided the edit does not disturb the lookup of `x` in the edited
    child list: the old subtree with the edit applied inside it. -/
theorem get?_editAt_other {f : Forest} {p x : Nat} {g : List HTree → List HTree} (hx : x ≠ p)
    (nd : f.allHandles.Nodup)
    (hg : ∀ v L, f.get? p = some (.node p v L) → findList? x (g L) = findList? x L) :
    (f.editAt (some p) g).get? x = (f.get? x).map (HTree.editAt p g) :=
  findList?_editAt_other hx f.roots nd hg

theorem nodup_editAt {f : Forest} {p : Nat} {g : List HTree → List HTree} (nd : f.allHandles.Nodup)
    (hg : ∀ L, (handlesList (g L)).Sublist (handlesList L)) : (f.editAt (some p) g).allHandles.Nodup :=
  (handlesList_editAt_sublist hg f.roots).nodup nd

end Forest
end XotModel
