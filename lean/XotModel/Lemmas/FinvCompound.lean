/-
  The calls built from other calls preserve the invariant.  `anyAppend` and `textContentSet` (from `append`, the
  entry-node calls and a setter); `remove_subtree` unless it leaves two text nodes adjacent in strict mode (`CutOK`),
  hence `replace` where the replaced node does not sit between two text nodes in strict mode; `element_unwrap` of an
  element without normal children; `remove_insignificant_whitespace`; `clone_node`: the replay keeps the invariant and
  leaves the scratch top parentless with at most one child (`cloneTopOK`).
-/
import XotModel.Lemmas.FinvSpecSide
import XotModel.Lemmas.FinvMap
import XotModel.Model.FinvSpec
import XotModel.Lemmas.ManipShape
import XotModel.Lemmas.ForestClosed
import XotModel.Lemmas.FatomCloneNode

/-! ### `anyAppend`, `textContentSet` -/

namespace XotModel
open HTree

namespace Forest

theorem anyAppend_inv {f : Forest} (hi : f.Inv) (parent child : Nat) :
    (f.anyAppend parent child).1.Inv := by
  unfold anyAppend
  split
  · exact appendEntryNode_inv hi _ _ _
  · exact appendEntryNode_inv hi _ _ _
  · exact append_inv hi _ _

theorem textContentSet_inv {f : Forest} (hi : f.Inv) (node : Nat) (s : Str) :
    (f.textContentSet node s).1.Inv := by
  unfold textContentSet
  split
  · rename_i child _
    split
    · exact hi
    · split
      · rename_i ht
        obtain ⟨s0, hv⟩ := value?_of_isText ht
        exact setValue_inv hi hv ⟨rfl, rfl, rfl, rfl⟩ (fun _ => rfl)
      · exact hi
  · split
    · cases hnt : f.newText [] with
      | mk f1 t =>
      have h1 : f1.Inv := by
        have := Fcreation.newNode_inv hi (.text []); unfold newText at hnt; rw [hnt] at this; exact this
      simp only
      cases h3 : f1.append node t with
      | mk f2 r =>
        have hf2 : f2.Inv := by
          have := append_inv h1 node t; rw [h3] at this; exact this
        simp only
        cases r with
        | ok =>
          simp only
          split
          · rename_i c _
            split
            · rename_i ht
              obtain ⟨s0, hv⟩ := value?_of_isText ht
              exact setValue_inv hf2 hv ⟨rfl, rfl, rfl, rfl⟩ (fun _ => rfl)
            · exact hf2
          · exact hf2
        | err e => exact hf2
        | panic => exact hf2
    · exact hi

end Forest
end XotModel

/-! ### `remove_subtree`; `replace` without a text gap; `element_unwrap` without normal children; the replay of `clone_node` -/

namespace XotModel
open HTree

namespace Forest

theorem cutOK_of_textGap {f : Forest} {a : Nat} (h : f.textGap a = false) : f.CutOK a := by
  intro hoff ctx hctx
  unfold textGap at h
  rw [hctx] at h
  simp only [hoff, Bool.not_false, Bool.true_and] at h
  unfold lastText headText lastB headB textFlags
  rw [List.getLast?_map, List.head?_map]
  exact h

theorem dropSubtree_inv {f : Forest} (hi : f.Inv) {a : Nat} (hcut : f.CutOK a) : (f.dropSubtree a).Inv := by
  unfold dropSubtree
  by_cases hm : a ∈ f.allHandles
  · obtain ⟨path, l, k, r, lc⟩ := exists_loc hm
    rw [cut_of_loc lc hi.nodup]
    exact cut_inv hi lc hcut
  · rw [cut_of_not_mem hm]; exact hi

/-- `replace`, when the replaced node does not sit between two text nodes in strict mode: the case of `replace_inv`
    (Lemmas/FinvStep.lean) that goes through `remove_subtree`. -/
theorem replace_inv_of_noGap {f : Forest} (hi : f.Inv) (a b : Nat) (hg : f.textGap a = false) :
    (f.replace a b).1.Inv := by
  refine replace_cases (P := fun x => x.1.Inv) f a b hi (fun parent _ _ _ => ?_)
  unfold replaceBody
  simp only
  split
  · exact remove_inv hi a
  · have h1 := dropSubtree_inv hi (cutOK_of_textGap hg)
    cases f.prevSibling a with
    | none => exact prepend_inv h1 parent b
    | some p =>
      simp only
      have h2 := insertAfter_inv h1 p b
      cases hia : (f.dropSubtree a).insertAfter p b with
      | mk f2 r =>
        rw [hia] at h2
        simp only
        cases r with
        | ok =>
          cases f.nextSibling a with
          | none => exact h2
          | some n => exact removeConsolidate_inv h2 _ _
        | err e => exact h2
        | panic => exact h2

/-- `element_unwrap` of an element without normal children is `remove`. -/
theorem elementUnwrap_inv_of_childless {f : Forest} (hi : f.Inv) (node : Nat)
    (h : f.firstChild node = none) : (f.elementUnwrap node).1.Inv :=
  elementUnwrap_cases (P := fun x => x.1.Inv) f node (fun _ => hi) (fun _ _ => remove_inv hi node)
    (fun first last _ hfc _ _ => by rw [h] at hfc; cases hfc)

theorem elementUnwrap_refused_inv {f : Forest} (hi : f.Inv) (node : Nat)
    (h : f.isElement node = false ∨ f.parent? node = none ∧ (f.firstChild node).isSome = true) :
    (f.elementUnwrap node).1.Inv := by
  refine elementUnwrap_cases (P := fun x => x.1.Inv) f node (fun _ => hi)
    (fun hel hfc => ?_) (fun first last hel _ hpar _ => ?_)
  · rcases h with h | ⟨_, h2⟩
    · rw [h] at hel; cases hel
    · rw [hfc] at h2; cases h2
  · rcases h with h | ⟨h1, _⟩
    · rw [h] at hel; cases hel
    · rw [h1] at hpar; cases hpar

theorem clone_step_inv {f f2 : Forest} (hi : f.Inv) {v : Value} {current : Nat} {r : Res} {n : Nat}
    (heq : (f.newNode v).1.anyAppend current (f.newNode v).2 = (f2, r, n)) : f2.Inv := by
  have h2 := anyAppend_inv (Fcreation.newNode_inv hi v) current (f.newNode v).2
  rw [heq] at h2
  exact h2

theorem cloneInto_inv (current : Nat) (t : HTree) (f f' : Forest) (hi : f.Inv)
    (hc : cloneInto f current t = some f') : f'.Inv :=
  cloneInto_rel (R := fun f f' => f.Inv → f'.Inv) (fun _ h => h) (fun h1 h2 h => h2 (h1 h))
    (fun heq hi => clone_step_inv hi heq) current t f f' hc hi

theorem cloneKids_inv (current : Nat) (ks : List HTree) (f f' : Forest) (hi : f.Inv)
    (hc : cloneKids f current ks = some f') : f'.Inv :=
  cloneKids_rel (R := fun f f' => f.Inv → f'.Inv) (fun _ h => h) (fun h1 h2 h => h2 (h1 h))
    (fun heq hi => clone_step_inv hi heq) current ks f f' hc hi

/-- `clone_node` of anything but an element (document: children replayed under a new document;
    other nodes: one new node). -/
theorem cloneNode_inv_of_not_element {f : Forest} (hi : f.Inv) (node : Nat)
    (hne : f.isElement node = false) : (f.cloneNode node).1.Inv := by
  unfold cloneNode
  cases hg : f.get? node with
  | none => exact hi
  | some src =>
    simp only
    split
    · have h1 : f.newDocument.1.Inv := Fcreation.newNode_inv hi _
      cases hn : f.newDocument with
      | mk f1 top =>
        rw [hn] at h1
        simp only
        cases hc : cloneKids f1 top src.kids with
        | some f2 => exact cloneKids_inv top _ f1 f2 h1 hc
        | none => exact h1
    · rename_i name hsv
      exfalso
      unfold isElement value? at hne
      rw [hg] at hne
      simp [hsv, Value.isElement] at hne
    · exact Fcreation.newNode_inv hi _

end Forest
end XotModel

/-! ### `remove_insignificant_whitespace` -/

namespace XotModel
open HTree

namespace Forest

theorem dropSubtree_withCons (g : Forest) (b : Bool) (n : Nat) :
    ({ g with consolidation := b } : Forest).dropSubtree n = { g.dropSubtree n with consolidation := b } := by
  have e1 : ({ g with consolidation := b } : Forest).get? n = g.get? n := rfl
  have e2 : ({ g with consolidation := b } : Forest).isRoot n = g.isRoot n := rfl
  unfold dropSubtree cut
  rw [e1, e2]
  cases g.get? n with
  | none => rfl
  | some t =>
    simp only
    split <;> rfl

theorem foldl_remove_consOff (xs : List Nat) (g : Forest) :
    xs.foldl (fun acc n => (acc.remove n).1) { g with consolidation := false } =
      { xs.foldl (fun acc n => acc.dropSubtree n) g with consolidation := false } := by
  induction xs generalizing g with
  | nil => rfl
  | cons x xs ih =>
    rw [List.foldl_cons, List.foldl_cons, remove_consOff rfl, dropSubtree_withCons, ih]

theorem consolidation_foldl_dropSubtree (xs : List Nat) (g : Forest) :
    (xs.foldl (fun acc n => acc.dropSubtree n) g).consolidation = g.consolidation := by
  induction xs generalizing g with
  | nil => rfl
  | cons x xs ih => rw [List.foldl_cons, ih, consolidation_dropSubtree]

/-- A text node can always be cut: in strict mode its neighbours are not text. -/
theorem cutOK_of_text {g : Forest} (hi : g.Inv) {n : Nat}
    (ht : ∀ v, g.value? n = some v → v.isText = true) : g.CutOK n := by
  intro hoff ctx hctx
  obtain ⟨init, fr, lc, _⟩ := ctx?_some_loc hi.nodup hctx
  have hself := value?_of_ctx_self hi.nodup hctx
  have K := (hi.kidsOK_snoc lc.eq).1
  have := K.lastText_before_text (by simp [hoff]) (ht _ hself)
  simp [this]

/-- `remove_subtree` does not change the value of what stays. -/
theorem value?_dropSubtree {g : Forest} (hi : g.Inv) (hcut : g.CutOK m) {x : Nat} {v : Value}
    (h : (g.dropSubtree m).value? x = some v) : g.value? x = some v := by
  have hi' := dropSubtree_inv hi hcut
  by_cases hm : m ∈ g.allHandles
  · obtain ⟨path, l, k, r, lc⟩ := exists_loc hm
    rw [value?_eq_some_iff hi'.nodup] at h
    rw [value?_eq_some_iff hi.nodup, lc.eq, mem_hvList_plug]
    unfold dropSubtree at h
    rw [cut_of_loc lc hi.nodup] at h
    simp only at h
    rw [mem_hvList_plug] at h
    rcases h with h | h
    · exact Or.inl h
    · right
      simp only [hvList_append, hvList_cons, List.mem_append] at h ⊢
      rcases h with h | h
      · exact Or.inl h
      · exact Or.inr (Or.inr h)
  · unfold dropSubtree at h
    rw [cut_of_not_mem hm] at h
    exact h

theorem foldl_dropSubtree_text_inv (xs : List Nat) {g : Forest} (hi : g.Inv)
    (ht : ∀ n ∈ xs, ∀ v, g.value? n = some v → v.isText = true) :
    (xs.foldl (fun acc n => acc.dropSubtree n) g).Inv := by
  induction xs generalizing g with
  | nil => exact hi
  | cons x xs ih =>
    rw [List.foldl_cons]
    have hcut := cutOK_of_text hi (ht x (by simp))
    apply ih (dropSubtree_inv hi hcut)
    intro n hn v hv
    exact ht n (by simp [hn]) v (value?_dropSubtree hi hcut hv)

/-- `remove_insignificant_whitespace` preserves the invariant, for every argument. -/
theorem removeInsignificantWhitespace_inv {f : Forest} (hi : f.Inv) (node : Nat) :
    (f.removeInsignificantWhitespace node).Inv := by
  unfold removeInsignificantWhitespace
  cases f.get? node with
  | none => exact hi
  | some t =>
    simp only
    rw [foldl_remove_consOff]
    have key := foldl_dropSubtree_text_inv
      ((descendantsNormal t).filter f.isInsignificantWhitespace) hi (by
        intro n hn v hv
        rw [List.mem_filter] at hn
        have hw := hn.2
        unfold isInsignificantWhitespace at hw
        cases hto : f.textOf n with
        | none => rw [hto] at hw; cases hw
        | some s =>
          rw [textOf_eq_some_iff, hv] at hto
          cases hto; rfl)
    have hc := consolidation_foldl_dropSubtree
      ((descendantsNormal t).filter f.isInsignificantWhitespace) f
    generalize (List.foldl (fun acc n => acc.dropSubtree n) f
      ((descendantsNormal t).filter f.isInsignificantWhitespace)) = g at key hc
    have : ({ ({ g with consolidation := false } : Forest) with consolidation := f.consolidation } : Forest) = g := by
      cases g; simp at hc; simp [hc]
    rw [this]; exact key

end Forest
end XotModel

/-! ### `clone_node` of an element, given `cloneTopOK` -/

namespace XotModel
open HTree

namespace Forest

/-- indextree `remove` of a parentless node with at most one child. -/
theorem spliceOut_root_inv {f : Forest} (hi : f.Inv) {x : Nat} {L : List HTree} {T : HTree} {R : List HTree}
    (lc : Loc f.roots x [] L T R) (hk : T.kids.length ≤ 1) : (f.spliceOut x).Inv := by
  rw [spliceOut_of_loc_nil lc hi.nodup, if_pos hk]
  have hv := hi.valid
  rw [lc.eq] at hv
  simp only [plug_nil, Fmap.validList_append, validList_cons, Bool.and_eq_true] at hv
  have hT := hv.2.1
  rw [validTree_eq, Bool.and_eq_true] at hT
  apply hi.with_roots _ [x]
  · unfold allHandles
    rw [lc.eq]
    simp only [plug_nil, handlesList_append, handlesList_cons, handles_eq T, lc.hk, List.append_assoc,
      List.cons_append]
    refine List.Perm.append_left _ ?_
    -- R ++ (kids ++ [x])  ~  x :: (kids ++ R)
    have : (handlesList R ++ (handlesList T.kids ++ [x])).Perm ([x] ++ (handlesList T.kids ++ handlesList R)) := by
      refine List.Perm.trans ?_ List.perm_append_comm
      rw [← List.append_assoc]
      exact List.Perm.append_right _ List.perm_append_comm
    exact this
  · simp only [Fmap.validList_append, Bool.and_eq_true]
    exact ⟨⟨hv.1, hv.2.2⟩, hT.2⟩

/-- `clone_node`, given `cloneTopOK`: the step of `cloneNode_inv` that removes the scratch top (`cloneTopOK_of_inv`
    is the other). -/
theorem cloneNode_inv_of_topOK {f : Forest} (hi : f.Inv) (node : Nat) (hok : f.cloneTopOK node = true) :
    (f.cloneNode node).1.Inv := by
  by_cases hel : f.isElement node = false
  · exact cloneNode_inv_of_not_element hi node hel
  unfold cloneNode
  unfold cloneTopOK at hok
  cases hg : f.get? node with
  | none => exact hi
  | some src =>
    rw [hg] at hok
    simp only at hok ⊢
    split
    · -- document: not an element
      exfalso
      rename_i hsv
      apply hel
      unfold isElement value?; rw [hg]; simp [hsv, Value.isElement]
    · rename_i name hsv
      rw [hsv] at hok
      simp only at hok
      have h1 : (f.newElement name).1.Inv := Fcreation.newNode_inv hi _
      cases hn : f.newElement name with
      | mk f1 top =>
        rw [hn] at h1 hok
        simp only at hok ⊢
        cases hc : cloneInto f1 top src with
        | none => exact h1
        | some f2 =>
          rw [hc] at hok
          simp only [Bool.and_eq_true] at hok ⊢
          have h2 : f2.Inv := cloneInto_inv top src f1 f2 h1 hc
          cases f2.firstChild top with
          | none => exact h2
          | some c =>
            simp only
            obtain ⟨L, T, R, lc⟩ := exists_loc_of_isRoot hok.1
            have hgt := get?_of_loc lc h2.nodup
            rw [hgt] at hok
            exact spliceOut_root_inv h2 lc (by simpa using hok.2)
    · exact Fcreation.newNode_inv hi _

end Forest
end XotModel

/-! ### `clone_node`: `cloneTopOK` holds under the invariant -/

namespace XotModel
open HTree

namespace Forest

/-- After the replay of an element source under the scratch element `f.next`, the scratch element
    is a root with at most one child: it is the last root, and its child list is the copy of the
    source (`cloneInto_spec`). -/
theorem cloneInto_top_shape {f : Forest} (hi : f.Inv) {n : Nat} {src : HTree} {name : Nat}
    (hg : f.get? n = some src) (hsv : src.value = .element name) {f2 : Forest}
    (hc : cloneInto (f.newNode (.element name)).1 f.next src = some f2) :
    f2.isRoot f.next = true ∧ ∀ t, f2.get? f.next = some t → t.kids.length ≤ 1 := by
  cases src with
  | node h v ks =>
    simp only [HTree.value] at hsv
    subst hsv
    obtain ⟨g2, h2, cl2, _, _⟩ := cloneInto_spec _ (.node h (.element name) ks) _ f.roots []
      f.next (.element name) [] (Cloning.init hi (.element name)) (hi.valid_get hg) (Or.inl rfl)
    rw [hc] at h2
    cases h2
    have hr := cl2.roots
    simp only [copyInto, fcPlug, List.nil_append] at hr
    have htop : f.next ∉ handlesList f.roots := fun hh => Nat.lt_irrefl _ (hi.below _ hh)
    refine ⟨?_, fun t ht => ?_⟩
    · unfold Forest.isRoot; rw [hr]; simp [HTree.handle]
    · rw [top_get? f2 f.roots f.next _ _ hr htop] at ht
      cases ht
      simp [HTree.kids]

theorem cloneTopOK_of_inv {f : Forest} (hi : f.Inv) (node : Nat) : f.cloneTopOK node = true := by
  unfold cloneTopOK
  cases hg : f.get? node with
  | none => rfl
  | some src =>
    simp only
    cases hsv : src.value with
    | element name =>
      simp only
      have e1 : f.newElement name = f.newNode (.element name) := rfl
      have e2 : (f.newNode (.element name)).2 = f.next := rfl
      rw [e1, e2]
      cases hc : cloneInto (f.newNode (.element name)).1 f.next src with
      | none => rfl
      | some f2 =>
        simp only
        obtain ⟨h1, h2⟩ := cloneInto_top_shape hi hg hsv hc
        rw [h1, Bool.true_and]
        cases hgt : f2.get? f.next with
        | none => rfl
        | some t => simpa using h2 t hgt
    | _ => rfl

/-- `clone_node` preserves the invariant, for every argument. -/
theorem cloneNode_inv {f : Forest} (hi : f.Inv) (node : Nat) : (f.cloneNode node).1.Inv :=
  cloneNode_inv_of_topOK hi node (cloneTopOK_of_inv hi node)

end Forest
end XotModel
