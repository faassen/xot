/-
  Round trip: when does serialisation succeed?  `serNode` succeeds exactly when the serialiser's own
  `MissingPrefix` checks pass on every element (`okRec`, Lemmas/RepairOk.lean: the recursive form of
  `namesWritable`, Model/Scope.lean) — provided no processing-instruction target is in a namespace
  (the other error `render_output` can return; excluded by `nodeOK`).
-/
import XotModel.Lemmas.RoundTripEncode

namespace XotModel
open XotModel.Repair

variable {env : Env}

/-- No processing-instruction target has a namespace URI. -/
def piOK (env : Env) (v : Value) (_ : List Tree) : Bool :=
  match v with
  | .pi target _ => (env.namespaceStr (env.nsOfName target)).isEmpty
  | _ => true

theorem exceptIsOk_appendOk (a b : Except XotError (List Token)) :
    exceptIsOk (appendOk a b) = (exceptIsOk a && exceptIsOk b) := by
  cases a <;> cases b <;> rfl

theorem exceptIsOk_elementPrefix (s : FStack) (name : Nat) :
    exceptIsOk (s.elementPrefix env name) = elemOk (env.nsOfName name) s.top :=
  FStack.exceptIsOk_elementPrefix env s name

theorem exceptIsOk_attributePrefix (s : FStack) (name : Nat) :
    exceptIsOk (s.attributePrefix env name) = attrOk (env.nsOfName name) s.top :=
  FStack.exceptIsOk_attributePrefix env s name

theorem exceptIsOk_attrTokens (s : FStack) : ∀ (as : List (Nat × Str)),
    exceptIsOk (attrTokens env s as) = (as.map (·.1)).all (fun a => attrOk (env.nsOfName a) s.top)
  | [] => rfl
  | (name, v) :: rest => by
    have ih := exceptIsOk_attrTokens s rest
    have hp := exceptIsOk_attributePrefix (env := env) s name
    rw [attrTokens]
    cases h1 : s.attributePrefix env name with
    | error e =>
      rw [h1] at hp
      simp only [List.map_cons, List.all_cons, ← hp]
      rfl
    | ok p =>
      rw [h1] at hp
      simp only [List.map_cons, List.all_cons, ← hp, ← ih]
      cases attrTokens env s rest <;> rfl

theorem ser_ok_iff_rec (ugt : Bool) (inScope : List (Nat × Nat)) :
    (∀ (n : Tree) (s : FStack), n.allNodes (piOK env) = true →
      exceptIsOk (serNode env ugt inScope false s n) = okRec env.nsOfName s.top n) ∧
    ∀ (ks : List Tree) (s : FStack), (∀ k ∈ ks, k.allNodes (piOK env) = true) →
      exceptIsOk (serNode.serKids env ugt inScope s ks) = okKids env.nsOfName s.top ks := by
  refine tree_induction_both ?_ ?_ ?_
  · intro v ks ih s hpi
    rw [allNodes_node, Bool.and_eq_true, List.all_eq_true] at hpi
    have hk := ih s hpi.2
    cases v with
    | document | «attribute» a b | «namespace» a b => simpa [serNode, okRec] using hk
    | text str | comment str =>
      rw [serNode, exceptIsOk_appendOk, hk]
      simp [okRec, exceptIsOk]
    | pi target data =>
      have h0 : (env.namespaceStr (env.nsOfName target)).isEmpty = true := hpi.1
      rw [serNode]
      simp only [h0, Bool.not_true, Bool.false_eq_true, if_false]
      rw [exceptIsOk_appendOk, hk]
      simp [okRec, exceptIsOk]
    | element name =>
      have hk' := ih (s.push (Tree.node (.element name) ks).nsDecls) hpi.2
      have he := exceptIsOk_elementPrefix (env := env) (s.push (Tree.node (.element name) ks).nsDecls) name
      have ha := exceptIsOk_attrTokens (env := env) (s.push (Tree.node (.element name) ks).nsDecls)
        (Tree.node (.element name) ks).attrs
      simp only [okRec, elementOkAt, ← top_push, ← hk', ← he, ← ha]
      rw [serNode]
      simp only [hasDefaultNamespace_eq]
      -- the serialiser's checks in its order: the first that fails decides both sides
      by_cases hc : (env.nsOfName name == Env.noNamespace &&
          hasDefault (s.push (Tree.node (.element name) ks).nsDecls).top) = true
      · simp only [hc, if_true]
        rfl
      · have hc' : (env.nsOfName name == Env.noNamespace &&
            hasDefault (s.push (Tree.node (.element name) ks).nsDecls).top) = false := Bool.not_eq_true _ ▸ hc
        simp only [hc', Bool.false_eq_true, if_false]
        cases (s.push (Tree.node (.element name) ks).nsDecls).elementPrefix env name with
        | error e => rfl
        | ok p =>
          cases attrTokens env (s.push (Tree.node (.element name) ks).nsDecls)
              (Tree.node (.element name) ks).attrs with
          | error e => rfl
          | ok ats =>
            cases serNode.serKids env ugt inScope (s.push (Tree.node (.element name) ks).nsDecls) ks with
            | error e => rfl
            | ok content => rfl
  · intro s _
    rfl
  · intro k ks ihk ihks s hpi
    rw [serNode.serKids, exceptIsOk_appendOk, ihk s (hpi k List.mem_cons_self),
      ihks s (fun k' hk' => hpi k' (List.mem_cons_of_mem _ hk'))]
    rfl

theorem serNode_ok_iff (ugt : Bool) (inScope : List (Nat × Nat)) (n : Tree) (s : FStack)
    (hpi : n.allNodes (piOK env) = true) :
    exceptIsOk (serNode env ugt inScope false s n) = okRec env.nsOfName s.top n :=
  (ser_ok_iff_rec ugt inScope).1 n s hpi

theorem serKids_ok_iff (ugt : Bool) (inScope : List (Nat × Nat)) (ks : List Tree) (s : FStack)
    (hpi : ∀ k ∈ ks, k.allNodes (piOK env) = true) :
    exceptIsOk (serNode.serKids env ugt inScope s ks) = okKids env.nsOfName s.top ks :=
  (ser_ok_iff_rec ugt inScope).2 ks s hpi

namespace PiColon

theorem nodeOK_piOK (he : EnvFacts env) (n : Tree) (h : n.allNodes (nodeOK env) = true) :
    n.allNodes (piOK env) = true := by
  refine allNodes_mono ?_ n (allNodes_self n h)
  intro v ks hv
  have hval := allNodes_value env hv
  cases v <;> try rfl
  rename_i target data
  obtain ⟨_, h2⟩ := valueOK_pi_facts hval
  simp only [piOK, h2, he.ns0]
  rfl

theorem serTokensTop_ok_iff {t : Tree} (hr : RepresentableFragment env t = true) :
    exceptIsOk (serTokensTop env t) = true ↔ namesWritable env t [] = some true := by
  obtain ⟨henv, hdocv, hn, _⟩ := (representableFragment_iff env t).mp hr
  have he := envFacts_of_envOK henv
  obtain ⟨ks, rfl⟩ := Tree.eq_document hdocv
  have hpi := nodeOK_piOK he _ hn
  rw [allNodes_node, Bool.and_eq_true, List.all_eq_true] at hpi
  rw [serTokensTop_document, serKids_ok_iff false _ ks _ hpi.2]
  simp [namesWritable, Tree.ancestorsOrSelf, Tree.at?, Repair.namesWritableChain_eq, okRec, FStack.new, FStack.top]

end PiColon

theorem nodeOK_piOK (he : EnvFacts env) (n : Tree) (h : n.allNodes (nodeOK env) = true) :
    n.allNodes (piOK env) = true :=
  PiColon.nodeOK_piOK he n (PiColon.allNodes_of_allNodes env n h)

theorem serTokensTop_ok_iff {t : Tree} (hr : RepresentableFragment env t = true) :
    exceptIsOk (serTokensTop env t) = true ↔ namesWritable env t [] = some true :=
  PiColon.serTokensTop_ok_iff (PiColon.representableFragment_of env t hr)

end XotModel
