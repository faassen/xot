/-
  Relations between the lookups of a forest (`get?`, `ctx?`, `ancestors`), read off the location of a handle
  (`Loc`, Lemmas/HTreeLoc.lean): locate the handle, move along the location, evaluate both lookups there.
  The facts about each function by itself are in Lemmas/HTreeCore.lean.
-/
import XotModel.Lemmas.HTreeLoc

namespace XotModel
open HTree

attribute [local simp] plug_nil plug_cons handles_node handlesList_nil handlesList_cons handlesList_append node_handle node_value node_kids

theorem findList?_inside {p x : Nat} : ∀ (ks : List HTree) (u : HTree), (handlesList ks).Nodup →
    findList? p ks = some u → x ∈ handles u → findList? x ks = find? x u := by
  intro ks u nd e hx
  obtain ⟨path, l, r, lc⟩ := Loc.of_findList? nd e
  obtain ⟨h1, h2⟩ := Loc.fresh_sub (lc.hk ▸ lc) nd hx
  rw [lc.eq, findList?_plug_ctx h1, findList?_append_of_not_mem x l _ h2, findList?_cons]
  cases hu : find? x u with
  | some t => rfl
  | none => have := (find?_isSome_iff x u).2 hx; rw [hu] at this; cases this

/-! ### A context is a decomposition of the parent's child list -/

theorem ctxKids_spec (h p : Nat) : ∀ (acc ks : List HTree) (c : Ctx), (handlesList ks).Nodup →
    ctxKids h p acc ks = some c →
    (c.parent = p ∧ ∃ pre, c.left = acc ++ pre ∧ ks = pre ++ c.self :: c.right ∧ c.self.handle = h) ∨
    ((∃ v, findList? c.parent ks = some (.node c.parent v (c.left ++ c.self :: c.right))) ∧
      c.self.handle = h) := by
  intro acc ks c nd e
  obtain ⟨path, l, k, r, lc⟩ := Loc.exists_of_mem (Fws.ctxKids_support h p acc ks c e)
  rcases fi_nil_or_snoc path with rfl | ⟨rest, fr, rfl⟩
  · rw [lc.ctxKids_nil nd] at e
    cases e
    exact Or.inl ⟨rfl, l, rfl, lc.eq, lc.hk⟩
  · rw [lc.ctxKids_snoc nd] at e
    cases e
    exact Or.inr ⟨⟨fr.v, lc.up.findList?_eq nd⟩, lc.hk⟩

theorem ctxBelow_spec (h : Nat) : ∀ (t : HTree) (c : Ctx), (handles t).Nodup →
    ctxBelow h t = some c →
    (∃ v, find? c.parent t = some (.node c.parent v (c.left ++ c.self :: c.right))) ∧
      c.self.handle = h
  | .node p v ks, c => by
    intro hn
    unfold ctxBelow
    intro e
    unfold handles at hn
    have hn' := List.nodup_cons.1 hn
    rcases ctxKids_spec h p [] ks c hn'.2 e with ⟨hp, pre, hl, hks, hh⟩ | ⟨⟨v', hf⟩, hh⟩
    · refine ⟨⟨v, ?_⟩, hh⟩
      simp only [List.nil_append] at hl
      unfold find?
      simp [hp, hl, hks]
    · refine ⟨⟨v', ?_⟩, hh⟩
      have : c.parent ∈ handlesList ks := mem_of_findList?_some hf
      have hne : p ≠ c.parent := fun e => hn'.1 (e ▸ this)
      unfold find?
      simp [hne, hf]

namespace Forest

theorem loc_of_get? {f : Forest} {h : Nat} {t : HTree} (nd : f.allHandles.Nodup) (e : f.get? h = some t) :
    ∃ path l r, Loc f.roots h path l t r :=
  Loc.of_findList? nd e

theorem kids_of_ctx {f : Forest} {h : Nat} {c : Ctx} (nd : f.allHandles.Nodup) (e : f.ctx? h = some c) :
    c.self.handle = h ∧ ∃ v, f.get? c.parent = some (.node c.parent v (c.left ++ c.self :: c.right)) := by
  obtain ⟨path, l, k, r, lc⟩ := exists_loc (Fws.ctx?_support e)
  rcases fi_nil_or_snoc path with rfl | ⟨rest, fr, rfl⟩
  · rw [ctx?_of_loc_nil lc nd] at e; cases e
  · rw [ctx?_of_loc_snoc lc nd] at e
    cases e
    exact ⟨lc.hk, fr.v, get?_of_loc lc.up nd⟩

theorem ctx_of_kids {f : Forest} {p : Nat} {v : Value} {l : List HTree} {s : HTree} {r : List HTree}
    (nd : f.allHandles.Nodup) (e : f.get? p = some (.node p v (l ++ s :: r))) :
    f.ctx? s.handle = some ⟨p, l, s, r⟩ := by
  obtain ⟨path, L, R, lc⟩ := loc_of_get? nd e
  exact ctx?_of_loc_snoc (lc.kid rfl) nd

theorem get?_of_ctx {f : Forest} {h : Nat} {c : Ctx} (nd : f.allHandles.Nodup) (e : f.ctx? h = some c) :
    f.get? h = some c.self := by
  obtain ⟨e0, v, e1⟩ := kids_of_ctx nd e
  obtain ⟨path, L, R, lc⟩ := loc_of_get? nd e1
  exact e0 ▸ get?_of_loc (lc.kid rfl) nd

theorem isRoot_of_ctx {f : Forest} {h : Nat} {c : Ctx} (nd : f.allHandles.Nodup) (e : f.ctx? h = some c) :
    f.isRoot h = false := by
  obtain ⟨path, l, k, r, lc⟩ := exists_loc (Fws.ctx?_support e)
  cases path with
  | nil => rw [ctx?_of_loc_nil lc nd] at e; cases e
  | cons fr rest => exact isRoot_of_loc_cons lc nd

theorem ancestors_of_not_mem {f : Forest} {r : Nat} (hn : r ∉ f.allHandles) : f.ancestors r = [] := by
  unfold ancestors
  rw [← Fws.ancestorsOfList_eq_findSome?, ancestorsOfList_none_of_not_mem r f.roots hn]
  rfl

theorem ancestors_contains_iff {f : Forest} {r n : Nat} (nd : f.allHandles.Nodup) :
    (f.ancestors r).contains n = true ↔ ∃ u, f.get? n = some u ∧ r ∈ handles u := by
  rw [List.contains_iff_mem]
  constructor
  · intro hn
    by_cases hr : r ∈ f.allHandles
    · obtain ⟨path, l, k, rr, lc⟩ := exists_loc hr
      rw [ancestors_of_loc lc nd, List.mem_cons, List.mem_reverse, List.mem_map] at hn
      rcases hn with rfl | ⟨fr, hfr, rfl⟩
      · exact ⟨k, get?_of_loc lc nd, lc.hk ▸ handle_mem_handles k⟩
      · -- `n` is a frame of the path of `r`: what `get? n` finds is that frame with the rest of the path plugged in
        obtain ⟨p1, p2, rfl⟩ := List.append_of_mem hfr
        refine ⟨_, get?_of_loc lc.split nd, ?_⟩
        rw [handles_node, List.mem_cons, mem_handlesList_plug]
        refine Or.inr (Or.inr ?_)
        rw [handlesList_append, handlesList_cons]
        exact List.mem_append_right _ (List.mem_append_left _ (lc.hk ▸ handle_mem_handles k))
    · rw [ancestors_of_not_mem hr] at hn; cases hn
  · rintro ⟨u, hu, hru⟩
    obtain ⟨p1, l1, r1, lc⟩ := loc_of_get? nd hu
    rw [handles_eq, lc.hk, List.mem_cons] at hru
    rcases hru with rfl | hru
    · rw [ancestors_of_loc lc nd]; exact List.mem_cons_self
    · obtain ⟨p2, l, k, rr, he, hk⟩ := exists_plug_of_mem r u.kids hru
      rw [ancestors_of_loc (lc.comp ⟨he, hk⟩) nd]
      simp

end Forest

theorem mem_ancestorsOfList_iff (r n : Nat) (ks : List HTree) :
    (∃ path, ancestorsOfList r ks = some path ∧ n ∈ path) ↔ n ∈ ({ roots := ks } : Forest).ancestors r := by
  unfold Forest.ancestors
  rw [← Fws.ancestorsOfList_eq_findSome?]
  cases ancestorsOfList r ks <;> simp

theorem ancestorsOfList_complete {r n : Nat} : ∀ (ks : List HTree) (u : HTree), (handlesList ks).Nodup →
    findList? n ks = some u → r ∈ handles u → ∃ path, ancestorsOfList r ks = some path ∧ n ∈ path :=
  fun ks u nd e hr => (mem_ancestorsOfList_iff r n ks).2
    (List.contains_iff_mem.1 ((Forest.ancestors_contains_iff (f := { roots := ks }) nd).2 ⟨u, e, hr⟩))

theorem ancestorsOfList_sound {r n : Nat} : ∀ (ks : List HTree) (path : List Nat), (handlesList ks).Nodup →
    ancestorsOfList r ks = some path → n ∈ path → ∃ u, findList? n ks = some u ∧ r ∈ handles u :=
  fun ks path nd e hn => (Forest.ancestors_contains_iff (f := { roots := ks }) nd).1
    (List.contains_iff_mem.2 ((mem_ancestorsOfList_iff r n ks).1 ⟨path, e, hn⟩))

end XotModel

namespace XotModel.ReplGapNF
open HTree Forest

theorem structureCheck_pack {f : Forest} {p c : Nat} {vp : Value} {Lp : List HTree} {t : HTree}
    (nd : f.allHandles.Nodup) (hgp : f.get? p = some (.node p vp Lp))
    (hvp : vp.isElement = true ∨ vp.isDocument = true) (hgc : f.get? c = some t)
    (hpt : p ∉ handles t) (htn : t.value.isNormal = true) (htd : t.value.isDocument = false) :
    f.structureCheck (some p) c = true := by
  have hanc : (f.ancestors p).contains c = false := by
    cases h : (f.ancestors p).contains c with
    | false => rfl
    | true =>
      obtain ⟨u, hu, hin⟩ := (Forest.ancestors_contains_iff nd).1 h
      rw [hgc] at hu
      cases hu
      exact absurd hin hpt
  have hvc := Prog2.value_of_get hgc
  have hvp' : f.value? p = some vp := by unfold Forest.value?; rw [hgp]; rfl
  simp only [Forest.structureCheck, Forest.isElement, Forest.isDocument, hanc, hvc, hvp', Option.map_some]
  have h1 : (some vp.isElement == some true || some vp.isDocument == some true) = true := by
    cases hvp with
    | inl h => rw [h]; rfl
    | inr h => rw [h]; exact Bool.or_true _
  rw [h1]
  cases hv : t.value with
  | document => rw [hv] at htd; cases htd
  | «attribute» _ _ => rw [hv] at htn; cases htn
  | «namespace» _ _ => rw [hv] at htn; cases htn
  | _ => rfl

end XotModel.ReplGapNF
