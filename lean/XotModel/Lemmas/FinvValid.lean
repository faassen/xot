/-
  Structural validity as a condition on each child list (`kidsOK`, `KidsOK`), how it behaves under `plug`, and the
  edits of one child list that keep it: dropping children, inserting one child, changing a value within its kind;
  leaves stay leaves.  Under distinct handles `f.value? x = some v ↔ (x, v) ∈ hvList f.roots`, which turns "this node
  is still there with the same value" into list membership across an edit.
-/
import XotModel.Lemmas.HTreeLoc
import XotModel.Lemmas.BasicFacts

/-! ## Validity as per-node conditions on child lists, and `plug` -/

namespace XotModel
open HTree

attribute [simp] plug_nil plug_cons handles_node handlesList_nil handlesList_cons handlesList_append node_handle node_value node_kids hv_node hvList_nil hvList_cons hvList_append

/-- The condition `validTree` puts on the child list `ks` of a node with value `v`. -/
def kidsOK (strict : Bool) (v : Value) (ks : List HTree) : Bool :=
  ks.all (fun k => kidAllowed v k.value) &&
  kidsOrdered ks && keysUnique .attribute ks && keysUnique .namespace ks &&
  (!strict || noAdjacentText ks)

theorem fi_validTree_node (s : Bool) (h : Nat) (v : Value) (ks : List HTree) :
    validTree s (.node h v ks) = (kidsOK s v ks && validList s ks) := by
  simp [validTree, kidsOK]

@[simp] theorem validList_nil (s : Bool) : validList s [] = true := by simp [validList]

attribute [simp] validList_cons Fmap.validList_append

theorem validList_mid {s : Bool} {l : List HTree} {k : HTree} {r : List HTree}
    (h : validList s (l ++ k :: r) = true) :
    validList s l = true ∧ validTree s k = true ∧ validList s r = true := by
  simpa only [Fmap.validList_append, validList_cons, Bool.and_eq_true] using h

theorem validTree_eq (s : Bool) (t : HTree) :
    validTree s t = (kidsOK s t.value t.kids && validList s t.kids) := by
  cases t; simp [fi_validTree_node]

/-! ### The components of `kidsOK` as propositions -/

def rankOf (k : HTree) : Nat := k.value.category.rank

def Sorted (ks : List HTree) : Prop := (ks.map rankOf).Pairwise (· ≤ ·)

def KeysU (c : Category) (ks : List HTree) : Prop :=
  ((ks.filter (fun k => k.value.category == c)).map (fun k => Forest.entryKey k.value)).Nodup

def textFlags (ks : List HTree) : List Bool := ks.map (fun k => k.value.isText)

/-- `noAdjacentText` on the flags. -/
def noAdjB : List Bool → Bool
  | [] => true
  | [_] => true
  | a :: b :: rest => !(a && b) && noAdjB (b :: rest)

theorem kidsOrdered_iff (ks : List HTree) : kidsOrdered ks = true ↔ Sorted ks := by
  unfold Sorted
  induction ks with
  | nil => simp [kidsOrdered]
  | cons a as ih =>
    cases as with
    | nil => simp [kidsOrdered]
    | cons b rest =>
      simp only [kidsOrdered, Bool.and_eq_true, decide_eq_true_eq, ih, List.map_cons,
        List.pairwise_cons, List.mem_cons, forall_eq_or_imp]
      constructor
      · intro ⟨h1, h2, h3⟩
        refine ⟨⟨h1, ?_⟩, h2, h3⟩
        intro x hx
        exact Nat.le_trans h1 (h2 x hx)
      · intro ⟨⟨h1, _⟩, h2, h3⟩
        exact ⟨h1, h2, h3⟩

theorem keysUnique_iff (c : Category) (ks : List HTree) : keysUnique c ks = true ↔ KeysU c ks := by
  simp [keysUnique, KeysU]

theorem noAdjacentText_eq (ks : List HTree) : noAdjacentText ks = noAdjB (textFlags ks) := by
  unfold textFlags
  induction ks with
  | nil => simp [noAdjacentText, noAdjB]
  | cons a as ih =>
    cases as with
    | nil => simp [noAdjacentText, noAdjB]
    | cons b rest =>
      simp only [noAdjacentText, noAdjB, List.map_cons]
      rw [ih]
      simp

/-- Is the last / first flag set? -/
def lastB (l : List Bool) : Bool := l.getLast?.getD false
def headB (l : List Bool) : Bool := l.head?.getD false

theorem noAdjB_cons (a : Bool) (l : List Bool) : noAdjB (a :: l) = (!(a && headB l) && noAdjB l) := by
  cases l with
  | nil => simp [noAdjB, headB]
  | cons b rest => simp [noAdjB, headB]

theorem noAdjB_append (a b : List Bool) :
    noAdjB (a ++ b) = (noAdjB a && noAdjB b && !(lastB a && headB b)) := by
  induction a with
  | nil => simp [noAdjB, lastB]
  | cons x xs ih =>
    rw [List.cons_append, noAdjB_cons, noAdjB_cons, ih]
    cases xs with
    | nil => simp [lastB, headB, noAdjB]; cases x <;> cases noAdjB b <;> cases (b.head?.getD false) <;> rfl
    | cons y ys =>
      have e1 : headB (y :: ys ++ b) = y := rfl
      have e2 : headB (y :: ys) = y := rfl
      have e3 : lastB (x :: y :: ys) = lastB (y :: ys) := by simp [lastB, List.getLast?_cons_cons]
      rw [e1, e2, e3]
      generalize noAdjB (y :: ys) = p
      generalize noAdjB b = q
      generalize lastB (y :: ys) = L
      generalize headB b = H
      cases x <;> cases y <;> cases p <;> cases q <;> cases L <;> cases H <;> rfl

/-- `kidsOK` unpacked. -/
structure KidsOK (s : Bool) (v : Value) (ks : List HTree) : Prop where
  allowed : ∀ k ∈ ks, kidAllowed v k.value = true
  sorted : Sorted ks
  attrs : KeysU .attribute ks
  nss : KeysU .namespace ks
  text : s = true → noAdjB (textFlags ks) = true

theorem kidsOK_iff (s : Bool) (v : Value) (ks : List HTree) : kidsOK s v ks = true ↔ KidsOK s v ks := by
  unfold kidsOK
  simp only [Bool.and_eq_true, List.all_eq_true, kidsOrdered_iff, keysUnique_iff, Bool.or_eq_true,
    Bool.not_eq_true', noAdjacentText_eq]
  constructor
  · intro ⟨⟨⟨⟨h1, h2⟩, h3⟩, h4⟩, h5⟩
    refine ⟨h1, h2, h3, h4, ?_⟩
    intro hs
    cases h5 with
    | inl h => rw [hs] at h; cases h
    | inr h => exact h
  · intro ⟨h1, h2, h3, h4, h5⟩
    refine ⟨⟨⟨⟨h1, h2⟩, h3⟩, h4⟩, ?_⟩
    cases s with
    | false => exact Or.inl rfl
    | true => exact Or.inr (h5 rfl)

theorem kidsOK_congr (s : Bool) (v : Value) (ks ks' : List HTree)
    (h : ks.map HTree.value = ks'.map HTree.value) : kidsOK s v ks = kidsOK s v ks' := by
  have hiff : KidsOK s v ks ↔ KidsOK s v ks' := by
    have key : ∀ a b : List HTree, a.map HTree.value = b.map HTree.value → KidsOK s v a → KidsOK s v b := by
      intro a b hab ⟨h1, h2, h3, h4, h5⟩
      have e : ∀ {β : Type} (φ : Value → β), a.map (fun k => φ k.value) = b.map (fun k => φ k.value) := by
        intro β φ
        have := congrArg (List.map φ) hab
        simpa [List.map_map, Function.comp_def] using this
      have ef : ∀ c : Category, (a.filter (fun k => k.value.category == c)).map (fun k => Forest.entryKey k.value)
          = (b.filter (fun k => k.value.category == c)).map (fun k => Forest.entryKey k.value) := by
        intro c
        have h1 : ∀ x : List HTree, (x.filter (fun k => k.value.category == c)).map (fun k => Forest.entryKey k.value)
            = ((x.map HTree.value).filter (fun w => w.category == c)).map Forest.entryKey := by
          intro x; rw [List.filter_map, List.map_map]; rfl
        rw [h1 a, h1 b, hab]
      refine ⟨?_, ?_, ?_, ?_, ?_⟩
      · have := e (fun w => kidAllowed v w)
        intro k hk
        have hm : kidAllowed v k.value ∈ b.map (fun k => kidAllowed v k.value) := List.mem_map.mpr ⟨k, hk, rfl⟩
        rw [← this] at hm
        obtain ⟨k', hk', he⟩ := List.mem_map.mp hm
        rw [← he]; exact h1 k' hk'
      · unfold Sorted rankOf at *
        rw [← e (fun w => w.category.rank)]; exact h2
      · unfold KeysU at *; rw [← ef]; exact h3
      · unfold KeysU at *; rw [← ef]; exact h4
      · unfold textFlags at *
        rw [← e (fun w => w.isText)]; exact h5
    exact ⟨key ks ks' h, key ks' ks h.symm⟩
  cases h1 : kidsOK s v ks with
  | true => exact ((kidsOK_iff s v ks').mpr (hiff.mp ((kidsOK_iff s v ks).mp h1))).symm
  | false =>
    cases h2 : kidsOK s v ks' with
    | false => rfl
    | true => rw [(kidsOK_iff s v ks).mpr (hiff.mpr ((kidsOK_iff s v ks').mp h2))] at h1; cases h1

/-! ### Validity and `plug` -/

/-- Value of the node whose child list has the hole (`none` at root level). -/
def innerValue (path : List ZipFrame) : Option Value := path.getLast?.map (·.v)

def kidsOKopt (s : Bool) : Option Value → List HTree → Bool
  | none, _ => true
  | some v, ks => kidsOK s v ks

@[simp] theorem innerValue_nil : innerValue [] = none := rfl
@[simp] theorem innerValue_snoc (path : List ZipFrame) (fr : ZipFrame) : innerValue (path ++ [fr]) = some fr.v := by
  simp [innerValue]
theorem innerValue_cons_cons (fr fr' : ZipFrame) (rest : List ZipFrame) :
    innerValue (fr :: fr' :: rest) = innerValue (fr' :: rest) := by
  simp [innerValue, List.getLast?_cons_cons]
@[simp] theorem innerValue_singleton (fr : ZipFrame) : innerValue [fr] = some fr.v := rfl

theorem map_value_plug_cons (fr : ZipFrame) (rest : List ZipFrame) (ks ks' : List HTree) :
    (plug (fr :: rest) ks).map HTree.value = (plug (fr :: rest) ks').map HTree.value := by
  simp

theorem valid_plug_inner (s : Bool) (path : List ZipFrame) (ks : List HTree)
    (hv : validList s (plug path ks) = true) :
    kidsOKopt s (innerValue path) ks = true ∧ validList s ks = true := by
  induction path with
  | nil => exact ⟨rfl, hv⟩
  | cons fr rest ih =>
    simp only [plug_cons, Fmap.validList_append, validList_cons, fi_validTree_node, Bool.and_eq_true] at hv
    obtain ⟨_, ⟨h2, h3⟩, _⟩ := hv
    cases rest with
    | nil => exact ⟨h2, h3⟩
    | cons fr' rest' => rw [innerValue_cons_cons]; exact ih h3

theorem valid_plug_replace (s : Bool) (path : List ZipFrame) (ks ks' : List HTree)
    (hv : validList s (plug path ks) = true)
    (hk : kidsOKopt s (innerValue path) ks' = true) (hl : validList s ks' = true) :
    validList s (plug path ks') = true := by
  induction path with
  | nil => exact hl
  | cons fr rest ih =>
    simp only [plug_cons, Fmap.validList_append, validList_cons, fi_validTree_node, Bool.and_eq_true] at hv ⊢
    obtain ⟨h1, ⟨h2, h3⟩, h4⟩ := hv
    refine ⟨h1, ⟨?_, ?_⟩, h4⟩
    · cases rest with
      | nil => exact hk
      | cons fr' rest' =>
        rw [kidsOK_congr s fr.v _ _ (map_value_plug_cons fr' rest' ks' ks)]; exact h2
    · cases rest with
      | nil => exact hl
      | cons fr' rest' => rw [innerValue_cons_cons] at hk; exact ih h3 hk

end XotModel

/-! ## Edits of one child list that keep `KidsOK` -/

namespace XotModel
open HTree

def lastText (l : List HTree) : Bool := lastB (textFlags l)
def headText (r : List HTree) : Bool := headB (textFlags r)

@[simp] theorem textFlags_append (a b : List HTree) : textFlags (a ++ b) = textFlags a ++ textFlags b := by
  simp [textFlags]
@[simp] theorem textFlags_cons (k : HTree) (ks : List HTree) :
    textFlags (k :: ks) = k.value.isText :: textFlags ks := by simp [textFlags]
@[simp] theorem textFlags_nil : textFlags [] = [] := rfl

@[simp] theorem lastText_nil : lastText [] = false := rfl
@[simp] theorem headText_nil : headText [] = false := rfl
@[simp] theorem headText_cons (k : HTree) (ks : List HTree) : headText (k :: ks) = k.value.isText := by
  simp [headText, headB]
@[simp] theorem lastText_concat (l : List HTree) (k : HTree) : lastText (l ++ [k]) = k.value.isText := by
  simp [lastText, lastB]

theorem lastText_append_cons (l : List HTree) (k : HTree) (r : List HTree) :
    lastText (l ++ k :: r) = lastText (k :: r) := by
  simp [lastText, lastB, List.getLast?_append]
  cases h : (k.value.isText :: textFlags r).getLast? with
  | none => simp at h
  | some b => simp

theorem lastText_cons_cons (a b : HTree) (r : List HTree) : lastText (a :: b :: r) = lastText (b :: r) := by
  simp [lastText, lastB, List.getLast?_cons_cons]

theorem headText_append_cons (k : HTree) (l r : List HTree) :
    headText ((k :: l) ++ r) = k.value.isText := by simp

/-! ### Sublists -/

theorem KidsOK.of_sublist {s : Bool} {v : Value} {ks ks' : List HTree} (h : KidsOK s v ks)
    (hs : ks'.Sublist ks) (ht : s = true → noAdjB (textFlags ks') = true) : KidsOK s v ks' := by
  obtain ⟨h1, h2, h3, h4, _⟩ := h
  refine ⟨fun k hk => h1 k (hs.subset hk), ?_, ?_, ?_, ht⟩
  · exact List.Pairwise.sublist (hs.map _) h2
  · exact List.Nodup.sublist ((hs.filter _).map _) h3
  · exact List.Nodup.sublist ((hs.filter _).map _) h4

theorem sublist_remove (l : List HTree) (m r : List HTree) : (l ++ r).Sublist (l ++ m ++ r) := by
  rw [List.append_assoc]
  exact List.Sublist.append_left (List.sublist_append_right m r) l

theorem KidsOK.remove {s : Bool} {v : Value} {l : List HTree} {k : HTree} {r : List HTree}
    (h : KidsOK s v (l ++ k :: r)) (ht : s = true → (lastText l && headText r) = false) :
    KidsOK s v (l ++ r) := by
  refine h.of_sublist (by simpa using sublist_remove l [k] r) ?_
  intro hs
  have h5 := h.text hs
  have ht' := ht hs
  simp only [textFlags_append, textFlags_cons, noAdjB_append, noAdjB_cons, Bool.and_eq_true,
    Bool.not_eq_true'] at h5 ⊢
  unfold lastText headText at ht'
  exact ⟨⟨h5.1.1, h5.1.2.2⟩, ht'⟩

theorem KidsOK.remove_text {s : Bool} {v : Value} {l : List HTree} {k : HTree} {r : List HTree}
    (h : KidsOK s v (l ++ k :: r)) (hk : k.value.isText = true) : KidsOK s v (l ++ r) := by
  apply h.remove
  intro hs
  have h5 := h.text hs
  simp only [textFlags_append, textFlags_cons, noAdjB_append, noAdjB_cons, Bool.and_eq_true,
    Bool.not_eq_true', hk, Bool.true_and, headB, List.head?_cons, Option.getD_some,
    Bool.and_true] at h5
  unfold lastText headText headB
  rw [h5.2]; rfl

/-! ### Same kind -/

/-- Two values that no clause of the invariant can tell apart as children. -/
structure SameKind (a b : Value) : Prop where
  cat : a.category = b.category
  text : a.isText = b.isText
  key : Forest.entryKey a = Forest.entryKey b
  doc : a.isDocument = b.isDocument

theorem SameKind.refl (a : Value) : SameKind a a := ⟨rfl, rfl, rfl, rfl⟩
theorem SameKind.symm {a b : Value} (h : SameKind a b) : SameKind b a :=
  ⟨h.cat.symm, h.text.symm, h.key.symm, h.doc.symm⟩

theorem Forest.sameKind_entryUpdate (old new : Value) :
    SameKind old (Forest.entryUpdate old new) ∧ ∀ x, kidAllowed (Forest.entryUpdate old new) x = kidAllowed old x := by
  unfold Forest.entryUpdate
  split <;> exact ⟨⟨rfl, rfl, rfl, rfl⟩, fun _ => rfl⟩

theorem kidAllowed_sameKind (v : Value) {a b : Value} (h : SameKind a b) :
    kidAllowed v a = kidAllowed v b := by
  cases v <;> simp [kidAllowed, Value.isNormal, h.cat, h.doc]

theorem KidsOK.sameKind {s : Bool} {v : Value} {l : List HTree} {k k' : HTree} {r : List HTree}
    (h : KidsOK s v (l ++ k :: r)) (hk : SameKind k.value k'.value) : KidsOK s v (l ++ k' :: r) := by
  obtain ⟨h1, h2, h3, h4, h5⟩ := h
  have ef : ∀ c : Category,
      ((l ++ k' :: r).filter (fun k => k.value.category == c)).map (fun k => Forest.entryKey k.value)
      = ((l ++ k :: r).filter (fun k => k.value.category == c)).map (fun k => Forest.entryKey k.value) := by
    intro c
    simp only [List.filter_append, List.filter_cons, hk.cat]
    split <;> simp [hk.key]
  refine ⟨?_, ?_, ?_, ?_, ?_⟩
  · intro x hx
    simp only [List.mem_append, List.mem_cons] at hx
    rcases hx with hx | hx | hx
    · exact h1 x (by simp [hx])
    · subst hx; rw [← kidAllowed_sameKind v hk]; exact h1 k (by simp)
    · exact h1 x (by simp [hx])
  · unfold Sorted at *
    have : rankOf k' = rankOf k := by simp [rankOf, hk.cat]
    simpa [this] using h2
  · unfold KeysU at *; rw [ef]; exact h3
  · unfold KeysU at *; rw [ef]; exact h4
  · intro hs; have := h5 hs
    simpa [hk.text] using this

theorem KidsOK.parent {s : Bool} {v v' : Value} {ks : List HTree} (h : KidsOK s v ks)
    (ha : ∀ x, kidAllowed v' x = kidAllowed v x) : KidsOK s v' ks :=
  ⟨fun k hk => by rw [ha]; exact h.allowed k hk, h.sorted, h.attrs, h.nss, h.text⟩

/-! ### Inserting one child -/

theorem KidsOK.insert {s : Bool} {v : Value} {l r : List HTree} {t : HTree}
    (h : KidsOK s v (l ++ r)) (ha : kidAllowed v t.value = true)
    (hl : ∀ x ∈ l, rankOf x ≤ rankOf t) (hr : ∀ x ∈ r, rankOf t ≤ rankOf x)
    (hkey : t.value.category = .normal ∨
      ∀ x ∈ l ++ r, x.value.category = t.value.category → Forest.entryKey x.value ≠ Forest.entryKey t.value)
    (ht : s = true → t.value.isText = true → lastText l = false ∧ headText r = false) :
    KidsOK s v (l ++ t :: r) := by
  obtain ⟨h1, h2, h3, h4, h5⟩ := h
  have keys : ∀ c : Category, c ≠ .normal → KeysU c (l ++ r) → KeysU c (l ++ t :: r) := by
    intro c hc hu
    unfold KeysU at *
    simp only [List.filter_append, List.filter_cons, List.map_append] at hu ⊢
    split
    · rename_i hcat
      simp only [beq_iff_eq] at hcat
      simp only [List.map_cons]
      refine (List.perm_middle.nodup_iff).mpr ?_
      rw [List.nodup_cons]
      refine ⟨?_, hu⟩
      cases hkey with
      | inl hn => rw [hn] at hcat; exact absurd hcat.symm hc
      | inr hk =>
        intro hm
        rw [← List.map_append, ← List.filter_append] at hm
        obtain ⟨x, hx, he⟩ := List.mem_map.mp hm
        rw [List.mem_filter] at hx
        have hxc : x.value.category = c := by simpa using hx.2
        exact hk x hx.1 (by rw [hxc, hcat]) he
    · exact hu
  refine ⟨?_, ?_, keys _ (by decide) h3, keys _ (by decide) h4, ?_⟩
  · intro x hx
    simp only [List.mem_append, List.mem_cons] at hx
    rcases hx with hx | hx | hx
    · exact h1 x (by simp [hx])
    · subst hx; exact ha
    · exact h1 x (by simp [hx])
  · unfold Sorted at *
    simp only [List.map_append, List.map_cons, List.pairwise_append, List.pairwise_cons,
      List.mem_map, List.mem_cons, forall_exists_index, and_imp, forall_apply_eq_imp_iff₂] at h2 ⊢
    obtain ⟨p1, p2, p3⟩ := h2
    refine ⟨p1, ⟨fun x hx => hr x hx, p2⟩, ?_⟩
    intro a ha b hb
    rcases hb with hb | ⟨y, hy, rfl⟩
    · subst hb; exact hl a ha
    · exact p3 a ha y hy
  · intro hs
    have h5' := h5 hs
    simp only [textFlags_append, textFlags_cons, noAdjB_append, noAdjB_cons, Bool.and_eq_true,
      Bool.not_eq_true'] at h5' ⊢
    obtain ⟨⟨q1, q2⟩, q3⟩ := h5'
    cases htt : t.value.isText with
    | false => simp [q1, q2, headB]
    | true =>
      obtain ⟨e1, e2⟩ := ht hs htt
      unfold lastText at e1
      unfold headText at e2
      simp [q1, q2, headB, e1]
      simpa [headB] using e2

theorem validTree_setValue {s : Bool} {t : HTree} {v' : Value} (hv : validTree s t = true)
    (ha : ∀ x, kidAllowed v' x = kidAllowed t.value x) : validTree s (t.setValue v') = true := by
  cases t with
  | node h v ks =>
    simp only [HTree.setValue, fi_validTree_node, Bool.and_eq_true] at hv ⊢
    exact ⟨(kidsOK_iff _ _ _).mpr (((kidsOK_iff _ _ _).mp hv.1).parent ha), hv.2⟩

attribute [simp] setValue_handle setValue_value setValue_kids setValue_handles
@[simp] theorem setKids_handle (t : HTree) (ks : List HTree) : (t.setKids ks).handle = t.handle := by
  cases t; rfl
@[simp] theorem setKids_value (t : HTree) (ks : List HTree) : (t.setKids ks).value = t.value := by
  cases t; rfl
@[simp] theorem setKids_kids (t : HTree) (ks : List HTree) : (t.setKids ks).kids = ks := by
  cases t; rfl

end XotModel

/-! ## Values as membership of (handle, value) pairs -/

namespace XotModel
open HTree

namespace Forest

theorem value?_of_loc {f : Forest} {h : Nat} {path l k r} (lc : Loc f.roots h path l k r)
    (nd : f.allHandles.Nodup) : f.value? h = some k.value := by
  simp [value?, get?_of_loc lc nd]

theorem value_of_loc {f : Forest} {h : Nat} {path l k r} {v : Value} (lc : Loc f.roots h path l k r)
    (nd : f.allHandles.Nodup) (hv : f.value? h = some v) : k.value = v := by
  rw [value?_of_loc lc nd] at hv; exact Option.some.inj hv

theorem value?_eq_some_iff {f : Forest} (nd : f.allHandles.Nodup) (x : Nat) (v : Value) :
    f.value? x = some v ↔ (x, v) ∈ hvList f.roots := by
  constructor
  · intro hv'
    have hl : f.isLive x = true := by
      unfold value? at hv'; unfold isLive
      cases hg : f.get? x with
      | none => rw [hg] at hv'; cases hv'
      | some _ => rfl
    obtain ⟨path, l, k, r, lc⟩ := exists_loc (mem_allHandles_of_isLive hl)
    rw [value?_of_loc lc nd] at hv'
    cases hv'
    rw [lc.eq, mem_hvList_plug]
    refine Or.inr ?_
    simp [hv_eq k, lc.hk]
  · intro hm
    obtain ⟨path, l, k, r, he, hk, hw⟩ := exists_plug_of_mem_hv x v f.roots hm
    rw [value?_of_loc ⟨he, hk⟩ nd, hw]

theorem fi_isLive_iff_mem {f : Forest} (nd : f.allHandles.Nodup) (x : Nat) :
    f.isLive x = true ↔ x ∈ f.allHandles := by
  constructor
  · exact mem_allHandles_of_isLive
  · intro hm
    obtain ⟨path, l, k, r, lc⟩ := exists_loc hm
    exact isLive_of_loc lc nd

theorem isLive_of_value? {f : Forest} {x : Nat} {v : Value} (h : f.value? x = some v) :
    f.isLive x = true := by
  unfold value? at h; unfold isLive
  cases hg : f.get? x with
  | none => rw [hg] at h; cases h
  | some _ => rfl

theorem mem_allHandles_of_value? {f : Forest} {x : Nat} {v : Value} (h : f.value? x = some v) :
    x ∈ f.allHandles := mem_allHandles_of_isLive (isLive_of_value? h)

end Forest
end XotModel
