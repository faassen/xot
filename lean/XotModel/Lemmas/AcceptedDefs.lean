/-
  Vocabulary of "whatever the parser accepts is representable" (C03,
  last sentence).

  The two guards are defined in Model/AcceptedGuard.lean:
  * `NoReservedDecls env t` (decidable, on the TREE): the guard that delimits the known findings
    `C03:xml-prefix-rebound-accepted` / `C03:not-representable-xml-prefix-rebound`: no namespace node
    declares the prefix `xml`.  (The other reserved declarations and `xmlns:p=""` are refused by the
    parser, as of /repo 6153ddf, a5dcf8e: `ValAcc` of a namespace node records `reservedDecl = false`.)
  * `PlainPiTargets env t` (decidable, on the tree): every processing-instruction target is an NCName
    (no colon) — what `Representable` (Model/SerTokens.lean) asks and the tokenizer does NOT check
    (`consume_name`).  (The target `xml` in any letter case is refused, as of /repo 002854f.)
  Defined here:
  * `ValAcc` / `TreeAcc`: what the builder guarantees of every node of an accepted tree, in the scope
    of the declarations of its ancestors (`st`: the builder's namespace stack at that node, `base2` at
    the root), with all ids inside the tables — so that it is monotone in the tables (`EnvApp`,
    Lemmas/ParseNsEnv.lean).  `dataAcc` and `commentAcc` are the lexical classes of PI data and of comment
    text after line-end normalisation.
  * `EnvReach`: the tables after any number of interning steps.
-/
import XotModel.Lemmas.AcceptedLex
import XotModel.Lemmas.RoundTripItems
import XotModel.Lemmas.ParseNsEnv
import XotModel.Model.SerTokens
import XotModel.Model.AcceptedGuard
import XotModel.Model.Parse

namespace XotModel

theorem forallList_imp {p q : Value → List Tree → Prop} (h : ∀ v ks, p v ks → q v ks) :
    ∀ ks : List Tree, Tree.Forall.forallList p ks → Tree.Forall.forallList q ks :=
  Reach.forallList_mono h

namespace Accepted

/-! ### What the builder guarantees -/

/-- The two frames at the bottom of the builder's namespace stack. -/
def base2 : NsStack := [[(Env.emptyPrefix, Env.noNamespace)], [(Env.xmlPrefix, Env.xmlNamespace)]]

def dataAcc : Option Str → Bool
  | none => true
  | some d => !d.isEmpty && !(d.head?.any isXmlSpace) && d.all isXmlChar && !hasInfix ['?', '>'] d &&
    !d.contains '\r'

def commentAcc (s : Str) : Bool :=
  s.all isXmlChar && !hasInfix ['-', '-'] s && s.getLast? != some '-' && !s.contains '\r'

/-- One value, in the scope `st` (the builder's stack: for an element its own declarations on top). -/
def ValAcc (env : Env) (st : NsStack) : Value → Prop
  | .document => True
  | .element name =>
    name < env.names.length ∧ ncNameNE (env.localName name) = true ∧
      ∃ q, lookupPrefix st q = some (env.nsOfName name)
  | .text s => s ≠ [] ∧ s.all isXmlChar = true
  | .comment s => commentAcc s = true
  | .pi target data =>
    target < env.names.length ∧ env.nsOfName target = Env.noNamespace ∧
      nameOK (env.localName target) = true ∧ dataAcc data = true ∧
      isReservedPiTarget (env.localName target) = false
  | .attribute name v =>
    name < env.names.length ∧ ncNameNE (env.localName name) = true ∧ v.all isXmlChar = true ∧
      (name = Env.xmlIdName → normalizeXmlId v = v) ∧
      ((env.nsOfName name = Env.noNamespace ∧ env.localName name ≠ xmlnsName) ∨
        ∃ q, q ≠ Env.emptyPrefix ∧ lookupPrefix st q = some (env.nsOfName name))
  | .namespace p ns =>
    p < env.prefixes.length ∧ ns < env.namespaces.length ∧ ncNameOK (env.prefixStr p) = true ∧
      (env.namespaceStr ns).all isXmlChar = true ∧
      reservedDecl (env.prefixStr p) (env.namespaceStr ns) = false

/-- The scope below a node: an element pushes its declarations. -/
def ctx (v : Value) (ks : List Tree) (st : NsStack) : NsStack :=
  if v.isElement then kidDecls ks :: st else st

mutual
/-- Every node of the subtree, each in its scope. -/
def TreeAcc (env : Env) (st : NsStack) : Tree → Prop
  | .node v ks => ValAcc env (ctx v ks st) v ∧ KidsAcc env (ctx v ks st) ks
def KidsAcc (env : Env) (st : NsStack) : List Tree → Prop
  | [] => True
  | k :: ks => TreeAcc env st k ∧ KidsAcc env st ks
end

theorem kidsAcc_iff (env : Env) (st : NsStack) (ks : List Tree) :
    KidsAcc env st ks ↔ ∀ k ∈ ks, TreeAcc env st k := by
  induction ks with
  | nil => simp [KidsAcc]
  | cons k ks ih => simp [KidsAcc, ih]

theorem treeAcc_node (env : Env) (st : NsStack) (v : Value) (ks : List Tree) :
    TreeAcc env st (.node v ks) ↔ ValAcc env (ctx v ks st) v ∧ ∀ k ∈ ks, TreeAcc env (ctx v ks st) k := by
  rw [TreeAcc, kidsAcc_iff]

theorem treeAcc_leaf {env : Env} {st : NsStack} {v : Value} (hv : v.isElement = false) (h : ValAcc env st v) :
    TreeAcc env st (.node v []) := by
  rw [treeAcc_node]
  simp only [ctx, hv, Bool.false_eq_true, if_false]
  exact ⟨h, fun k hk => by cases hk⟩

/-! ### Monotone in the tables -/

theorem getD_app {α : Type} {l x : List α} {i : Nat} (d : α) (h : i < l.length) :
    (l ++ x).getD i d = l.getD i d := by
  simp [List.getD_eq_getElem?_getD, List.getElem?_append_left h]

theorem EnvApp.localName {e e' : Env} (h : EnvApp e e') {n : Nat} (hn : n < e.names.length) :
    e'.localName n = e.localName n := by
  obtain ⟨_, _, x, hx⟩ := h
  simp only [Env.localName, hx, getD_app _ hn]

theorem EnvApp.nsOfName {e e' : Env} (h : EnvApp e e') {n : Nat} (hn : n < e.names.length) :
    e'.nsOfName n = e.nsOfName n := by
  obtain ⟨_, _, x, hx⟩ := h
  simp only [Env.nsOfName, hx, getD_app _ hn]

theorem EnvApp.prefixStr {e e' : Env} (h : EnvApp e e') {n : Nat} (hn : n < e.prefixes.length) :
    e'.prefixStr n = e.prefixStr n := by
  obtain ⟨⟨x, hx⟩, _, _⟩ := h
  simp only [Env.prefixStr, hx, getD_app _ hn]

theorem EnvApp.namespaceStr {e e' : Env} (h : EnvApp e e') {n : Nat} (hn : n < e.namespaces.length) :
    e'.namespaceStr n = e.namespaceStr n := by
  obtain ⟨_, ⟨x, hx⟩, _⟩ := h
  simp only [Env.namespaceStr, hx, getD_app _ hn]

theorem EnvApp.names_le {e e' : Env} (h : EnvApp e e') : e.names.length ≤ e'.names.length := by
  obtain ⟨_, _, x, hx⟩ := h; rw [hx]; simp

theorem EnvApp.prefixes_le {e e' : Env} (h : EnvApp e e') : e.prefixes.length ≤ e'.prefixes.length := by
  obtain ⟨⟨x, hx⟩, _, _⟩ := h; rw [hx]; simp

theorem EnvApp.namespaces_le {e e' : Env} (h : EnvApp e e') : e.namespaces.length ≤ e'.namespaces.length := by
  obtain ⟨_, ⟨x, hx⟩, _⟩ := h; rw [hx]; simp

theorem ValAcc.mono {e e' : Env} (h : EnvApp e e') {st : NsStack} : ∀ {v : Value}, ValAcc e st v → ValAcc e' st v
  | .document, _ => trivial
  | .element name, ⟨h1, h2, h3⟩ => by
    refine ⟨Nat.lt_of_lt_of_le h1 (EnvApp.names_le h), ?_, ?_⟩
    · rw [EnvApp.localName h h1]; exact h2
    · rw [EnvApp.nsOfName h h1]; exact h3
  | .text _, hv => hv
  | .comment _, hv => hv
  | .pi target data, ⟨h1, h2, h3, h4, h5⟩ => by
    refine ⟨Nat.lt_of_lt_of_le h1 (EnvApp.names_le h), ?_, ?_, h4, ?_⟩
    · rw [EnvApp.nsOfName h h1]; exact h2
    · rw [EnvApp.localName h h1]; exact h3
    · rw [EnvApp.localName h h1]; exact h5
  | .attribute name v, ⟨h1, h2, h3, h4, h5⟩ => by
    refine ⟨Nat.lt_of_lt_of_le h1 (EnvApp.names_le h), ?_, h3, h4, ?_⟩
    · rw [EnvApp.localName h h1]; exact h2
    · rw [EnvApp.nsOfName h h1, EnvApp.localName h h1]; exact h5
  | .namespace p ns, ⟨h1, h2, h3, h4, h5⟩ => by
    refine ⟨Nat.lt_of_lt_of_le h1 (EnvApp.prefixes_le h), Nat.lt_of_lt_of_le h2 (EnvApp.namespaces_le h), ?_, ?_, ?_⟩
    · rw [EnvApp.prefixStr h h1]; exact h3
    · rw [EnvApp.namespaceStr h h2]; exact h4
    · rw [EnvApp.prefixStr h h1, EnvApp.namespaceStr h h2]; exact h5

mutual
theorem TreeAcc.mono {e e' : Env} (h : EnvApp e e') : ∀ {st : NsStack} (t : Tree), TreeAcc e st t → TreeAcc e' st t
  | st, .node v ks, ht => by
    rw [TreeAcc] at ht ⊢
    exact ⟨ValAcc.mono h ht.1, KidsAcc.mono h ks ht.2⟩
theorem KidsAcc.mono {e e' : Env} (h : EnvApp e e') : ∀ {st : NsStack} (ks : List Tree), KidsAcc e st ks → KidsAcc e' st ks
  | _, [], _ => trivial
  | _, k :: ks, hk => ⟨TreeAcc.mono h k hk.1, KidsAcc.mono h ks hk.2⟩
end

/-! ### Interning steps -/

/-- `e'` arises from `e` by interning prefixes, namespaces and names. -/
inductive EnvReach : Env → Env → Prop
  | refl (e : Env) : EnvReach e e
  | pfx {e e' : Env} (p : Str) : EnvReach e e' → EnvReach e (e'.internPrefix p).1
  | ns {e e' : Env} (u : Str) : EnvReach e e' → EnvReach e (e'.internNamespace u).1
  | name {e e' : Env} (a : Str) (n : Nat) : EnvReach e e' → EnvReach e (e'.internName a n).1

theorem EnvReach.trans {a b c : Env} (h1 : EnvReach a b) (h2 : EnvReach b c) : EnvReach a c := by
  induction h2 with
  | refl => exact h1
  | pfx p _ ih => exact .pfx p ih
  | ns u _ ih => exact .ns u ih
  | name x n _ ih => exact .name x n ih

theorem EnvReach.app {e e' : Env} (h : EnvReach e e') : EnvApp e e' := by
  induction h with
  | refl => exact EnvApp.refl _
  | pfx p _ ih => exact ih.trans (internPrefix_app _ p)
  | ns u _ ih => exact ih.trans (internNamespace_app _ u)
  | name x n _ ih => exact ih.trans (internName_app _ x n)

theorem envFacts_app {e e' : Env} (h : EnvFacts e) (hx : EnvApp e e') (h1 : e'.namespaces.Nodup)
    (h2 : e'.prefixes.Nodup) (h3 : e'.names.Nodup) : EnvFacts e' := by
  have l1 := h.noNamespace_lt
  have l2 := h.xmlNamespace_lt
  have l3 := h.emptyPrefix_lt
  have l4 := h.xmlPrefix_lt
  have l5 : Env.xmlIdName < e.names.length := h.names_len
  refine ⟨?_, ?_, ?_, ?_, ?_, h1, h2, h3⟩
  · rw [EnvApp.namespaceStr hx l1]; exact h.ns0
  · rw [EnvApp.namespaceStr hx l2]; exact h.ns1
  · rw [EnvApp.prefixStr hx l3]; exact h.p0
  · rw [EnvApp.prefixStr hx l4]; exact h.p1
  · obtain ⟨_, _, x, hx'⟩ := hx
    rw [hx', getD_app _ l5]; exact h.id1

theorem EnvReach.facts {e e' : Env} (h : EnvReach e e') (hf : EnvFacts e) : EnvFacts e' := by
  induction h with
  | refl => exact hf
  | pfx p _ ih =>
    exact envFacts_app ih (internPrefix_app _ p) ih.nsNodup (internIn_nodup ih.pNodup p) ih.nNodup
  | ns u _ ih =>
    exact envFacts_app ih (internNamespace_app _ u) (internIn_nodup ih.nsNodup u) ih.pNodup ih.nNodup
  | name x n _ ih =>
    exact envFacts_app ih (internName_app _ x n) ih.nsNodup ih.pNodup (internIn_nodup ih.nNodup (x, n))

theorem envOK_of_facts {e : Env} (h : EnvFacts e) : envOK e = true := by
  simp only [envOK, Bool.and_eq_true, beq_iff_eq, decide_eq_true_eq]
  exact ⟨⟨⟨⟨⟨⟨⟨h.ns0, h.ns1⟩, h.p0⟩, h.p1⟩, h.id1⟩, h.nsNodup⟩, h.pNodup⟩, h.nNodup⟩

end Accepted
end XotModel
