/-
  C08 and parsing: the bridge between the two models of `IdMap::get_id_mut` (vector + hash map with the id
  width, against the bare `by_id` lists of the parser model), lifted to single calls (`Reg`) and sequences of
  calls on the three tables; what the ids returned by a sequence of calls mean on the plain tables
  (`Env.Holds`, `Env.regAll_ids_iff`; with `Env.DupFree` of Lemmas/CompareNames.lean an id holds for one value).
-/
import XotModel.Lemmas.BasicFacts
import XotModel.Model.IdMapParse
import XotModel.Lemmas.IdMap
import XotModel.Lemmas.CompareNames
import XotModel.Lemmas.ParseScope

/-! ## The bridge

  `Model/IdMap.lean` has the interning table as the code has it (vector + hash map, the id cut to
  the id width); the parser model (`Model/ParseTypes.lean`) threads the bare `by_id` lists and
  interns with `internIn` (no width).  Under the table invariant (`IdMap.Inv`) both leave the same
  `by_id` vector, at every size, and return the same id as long as the table reached has at most
  `2^bits` entries.
-/

namespace XotModel
namespace IdParse

theorem beq_inst_eq {α : Type} (i1 i2 : BEq α) [h1 : @LawfulBEq α i1] [h2 : @LawfulBEq α i2] : i1 = i2 := by
  cases i1 with | mk f1 => cases i2 with | mk f2 =>
  congr
  funext a b
  by_cases h : a = b
  · subst h
    have e1 : f1 a a = true := @BEq.rfl α ⟨f1⟩ (@LawfulBEq.toReflBEq α ⟨f1⟩ h1) a
    have e2 : f2 a a = true := @BEq.rfl α ⟨f2⟩ (@LawfulBEq.toReflBEq α ⟨f2⟩ h2) a
    rw [e1, e2]
  · have e1 : f1 a b = false := by
      cases hh : f1 a b with
      | false => rfl
      | true => exact absurd (@LawfulBEq.eq_of_beq α ⟨f1⟩ h1 a b hh) h
    have e2 : f2 a b = false := by
      cases hh : f2 a b with
      | false => rfl
      | true => exact absurd (@LawfulBEq.eq_of_beq α ⟨f2⟩ h2 a b hh) h
    rw [e1, e2]

/-- `internIn` does not depend on which (lawful) equality test is used. -/
theorem internIn_inst {α : Type} (i1 i2 : BEq α) [@LawfulBEq α i1] [@LawfulBEq α i2] (l : List α) (v : α) :
    @internIn α i1 l v = @internIn α i2 l v := by
  rw [beq_inst_eq i1 i2]

variable {α : Type} [DecidableEq α]
open IdMap

/-- `get_id_mut` of the interner (hash map + vector, id cut to `bits`) leaves the
    `by_id` vector that `internIn` of the parser model leaves — at every size. -/
theorem getIdMut_byId {bits : Nat} {m : IdMap α} (h : Inv bits m) (v : α) :
    (getIdMut bits m v).1.byId = (internIn m.byId v).1 := by
  by_cases hv : v ∈ m.byId
  · rw [getIdMut_of_mem h hv, internIn_of_mem hv]
  · rw [getIdMut_of_not_mem h hv]
    unfold internIn
    simp [hv]

/-- The ids agree as long as the table reached has at most `2^bits` entries. -/
theorem getIdMut_id_eq {bits : Nat} {m : IdMap α} (h : Inv bits m) (v : α)
    (hb : (internIn m.byId v).1.length ≤ 2 ^ bits) : (getIdMut bits m v).2 = (internIn m.byId v).2 := by
  by_cases hv : v ∈ m.byId
  · rw [getIdMut_of_mem h hv, internIn_of_mem hv]
    rw [internIn_of_mem hv] at hb
    exact toId_of_lt (Nat.lt_of_lt_of_le (List.idxOf_lt_length_of_mem hv) hb)
  · rw [getIdMut_of_not_mem h hv]
    have e : (internIn m.byId v) = (m.byId ++ [v], m.byId.length) := by
      unfold internIn; simp [hv, List.idxOf_eq_length hv]
    rw [e] at hb ⊢
    simp at hb
    exact toId_of_lt (by omega)

theorem internIn_str (l : List Str) (v : Str) :
    internIn l v = @internIn Str instBEqOfDecidableEq l v := internIn_inst _ instBEqOfDecidableEq l v

theorem internIn_key (l : List NameKey) (v : NameKey) :
    internIn l v = @internIn NameKey instBEqOfDecidableEq l v := internIn_inst _ instBEqOfDecidableEq l v

end IdParse

open IdParse IdMap Gen

/-- No table has outgrown its id type: at most `2^bits` entries each (`bits` = the width read off
    the source, 32 today), so that `index as uN` loses nothing. -/
structure Env.Cap (e : Env) : Prop where
  namespaces : e.namespaces.length ≤ 2 ^ namespaceIdBits
  prefixes : e.prefixes.length ≤ 2 ^ prefixIdBits
  names : e.names.length ≤ 2 ^ nameIdBits

/-- Every table of `e'` starts with the table of `e`: every id of `e` is an id of `e'` with the
    same value. -/
structure Env.PrefixOf (e e' : Env) : Prop where
  namespaces : e.namespaces <+: e'.namespaces
  prefixes : e.prefixes <+: e'.prefixes
  names : e.names <+: e'.names

theorem Env.PrefixOf.refl (e : Env) : e.PrefixOf e := ⟨List.prefix_rfl, List.prefix_rfl, List.prefix_rfl⟩

theorem Env.PrefixOf.trans {a b c : Env} (h1 : a.PrefixOf b) (h2 : b.PrefixOf c) : a.PrefixOf c :=
  ⟨h1.namespaces.trans h2.namespaces, h1.prefixes.trans h2.prefixes, h1.names.trans h2.names⟩

theorem Env.Cap.of_prefix {e e' : Env} (h : e.PrefixOf e') (hc : e'.Cap) : e.Cap :=
  ⟨Nat.le_trans h.namespaces.length_le hc.namespaces, Nat.le_trans h.prefixes.length_le hc.prefixes,
   Nat.le_trans h.names.length_le hc.names⟩

namespace IdParse

theorem internIn_prefix {α : Type} [BEq α] (l : List α) (v : α) : l <+: (internIn l v).1 := by
  obtain ⟨ext, h⟩ := internIn_ext l v
  rw [h]; exact List.prefix_append l ext

theorem internIn_length_le_succ {α : Type} [BEq α] (l : List α) (v : α) :
    (internIn l v).1.length ≤ l.length + 1 := by
  unfold internIn
  split <;> simp

end IdParse

theorem Env.reg_prefixOf (e : Env) (r : Reg) : e.PrefixOf (e.reg r).1 := by
  cases r with
  | pfx p => exact ⟨List.prefix_rfl, internIn_prefix _ _, List.prefix_rfl⟩
  | ns u => exact ⟨internIn_prefix _ _, List.prefix_rfl, List.prefix_rfl⟩
  | name l n => exact ⟨List.prefix_rfl, List.prefix_rfl, internIn_prefix _ _⟩

theorem Env.regAll_prefixOf (rs : List Reg) : ∀ (e : Env), e.PrefixOf (e.regAll rs).1 := by
  induction rs with
  | nil => intro e; exact Env.PrefixOf.refl e
  | cons r rs ih => intro e; exact (e.reg_prefixOf r).trans (ih _)

theorem Env.regAll_append (a b : List Reg) : ∀ (e : Env),
    e.regAll (a ++ b) = (((e.regAll a).1.regAll b).1, (e.regAll a).2 ++ ((e.regAll a).1.regAll b).2) := by
  induction a with
  | nil => intro e; rfl
  | cons r rs ih => intro e; simp only [List.cons_append, Env.regAll, ih]

theorem Env.regAll_length (rs : List Reg) : ∀ (e : Env), (e.regAll rs).2.length = rs.length := by
  induction rs with
  | nil => intro e; rfl
  | cons r rs ih => intro e; simp [Env.regAll, ih]

theorem Interner.regAll_append (a b : List Reg) : ∀ (x : Interner),
    x.regAll (a ++ b) = (((x.regAll a).1.regAll b).1, (x.regAll a).2 ++ ((x.regAll a).1.regAll b).2) := by
  induction a with
  | nil => intro x; rfl
  | cons r rs ih => intro x; simp only [List.cons_append, Interner.regAll, ih]

/-! ### One call: interner vs. plain tables -/

theorem Interner.env_eq_ofInterner (x : Interner) : x.env = Env.ofInterner x := rfl

theorem Interner.reg_inv {x : Interner} (h : x.Inv) (r : Reg) : (x.reg r).1.Inv := by
  cases r with
  | pfx p => exact Interner.inv_addPrefix h p
  | ns u => exact Interner.inv_addNamespace h u
  | name l n => exact Interner.inv_addNameNs h l n

/-- One call leaves the same tables, whatever the sizes. -/
theorem Interner.reg_env {x : Interner} (h : x.Inv) (r : Reg) : (x.reg r).1.env = (x.env.reg r).1 := by
  cases r with
  | pfx p =>
    simp only [Interner.reg, Interner.addPrefix, Interner.env, Env.reg, Env.internPrefix]
    rw [getIdMut_byId h.pf, internIn_str]
  | ns u =>
    simp only [Interner.reg, Interner.addNamespace, Interner.env, Env.reg, Env.internNamespace]
    rw [getIdMut_byId h.ns, internIn_str]
  | name l n =>
    simp only [Interner.reg, Interner.addNameNs, Interner.env, Env.reg, Env.internName]
    rw [getIdMut_byId h.nm, internIn_key]

/-- One call returns the same id as long as the table reached is within capacity. -/
theorem Interner.reg_id {x : Interner} (h : x.Inv) (r : Reg) (hc : (x.env.reg r).1.Cap) :
    (x.reg r).2 = (x.env.reg r).2 := by
  cases r with
  | pfx p =>
    have hb := hc.prefixes
    simp only [Env.reg, Env.internPrefix, Interner.env, internIn_str] at hb
    simp only [Interner.reg, Interner.addPrefix, Interner.env, Env.reg, Env.internPrefix, internIn_str]
    exact getIdMut_id_eq h.pf p hb
  | ns u =>
    have hb := hc.namespaces
    simp only [Env.reg, Env.internNamespace, Interner.env, internIn_str] at hb
    simp only [Interner.reg, Interner.addNamespace, Interner.env, Env.reg, Env.internNamespace, internIn_str]
    exact getIdMut_id_eq h.ns u hb
  | name l n =>
    have hb := hc.names
    simp only [Env.reg, Env.internName, Interner.env, internIn_key] at hb
    simp only [Interner.reg, Interner.addNameNs, Interner.env, Env.reg, Env.internName, internIn_key]
    exact getIdMut_id_eq h.nm (l, n) hb

/-- … in particular while the table is below `2^bits` before the call. -/
theorem Interner.addPrefix_id {x : Interner} (h : x.Inv) (p : Str)
    (hb : x.prefixLookup.byId.length < 2 ^ prefixIdBits) : (x.addPrefix p).2 = (x.env.internPrefix p).2 := by
  show (getIdMut prefixIdBits x.prefixLookup p).2 = (internIn x.prefixLookup.byId p).2
  rw [internIn_str]
  apply getIdMut_id_eq h.pf
  have := @internIn_length_le_succ Str instBEqOfDecidableEq x.prefixLookup.byId p
  omega

theorem Interner.addNamespace_id {x : Interner} (h : x.Inv) (u : Str)
    (hb : x.namespaceLookup.byId.length < 2 ^ namespaceIdBits) :
    (x.addNamespace u).2 = (x.env.internNamespace u).2 := by
  show (getIdMut namespaceIdBits x.namespaceLookup u).2 = (internIn x.namespaceLookup.byId u).2
  rw [internIn_str]
  apply getIdMut_id_eq h.ns
  have := @internIn_length_le_succ Str instBEqOfDecidableEq x.namespaceLookup.byId u
  omega

theorem Interner.addNameNs_id {x : Interner} (h : x.Inv) (l : Str) (n : Nat)
    (hb : x.nameLookup.byId.length < 2 ^ nameIdBits) : (x.addNameNs l n).2 = (x.env.internName l n).2 := by
  show (getIdMut nameIdBits x.nameLookup (l, n)).2 = (internIn x.nameLookup.byId (l, n)).2
  rw [internIn_key]
  apply getIdMut_id_eq h.nm
  have := @internIn_length_le_succ NameKey instBEqOfDecidableEq x.nameLookup.byId (l, n)
  omega

/-- The read-only lookup finds what `get_id_mut` just returned. -/
theorem IdMap.getId_getIdMut_self {α : Type} [DecidableEq α] {bits : Nat} {m : IdMap α} (h : IdMap.Inv bits m)
    (v : α) : getId (getIdMut bits m v).1 v = some (getIdMut bits m v).2 := by
  have hi := getIdMut_inv h v
  obtain ⟨h1, h2⟩ := getIdMut_id h v
  unfold getId
  rw [hi.graph v, if_pos h2, h1]

/-- The built-in id fields are never touched. -/
theorem Interner.reg_consts (x : Interner) (r : Reg) :
    (x.reg r).1.noNamespaceId = x.noNamespaceId ∧ (x.reg r).1.emptyPrefixId = x.emptyPrefixId ∧
    (x.reg r).1.xmlNamespaceId = x.xmlNamespaceId ∧ (x.reg r).1.xmlPrefixId = x.xmlPrefixId ∧
    (x.reg r).1.xmlSpaceId = x.xmlSpaceId ∧ (x.reg r).1.xmlIdId = x.xmlIdId := by
  cases r <;> exact ⟨rfl, rfl, rfl, rfl, rfl, rfl⟩

theorem Interner.regAll_inv (rs : List Reg) : ∀ {x : Interner}, x.Inv → (x.regAll rs).1.Inv := by
  induction rs with
  | nil => intro x h; exact h
  | cons r rs ih => intro x h; exact ih (Interner.reg_inv h r)

theorem Interner.regAll_env (rs : List Reg) : ∀ {x : Interner}, x.Inv →
    (x.regAll rs).1.env = (x.env.regAll rs).1 := by
  induction rs with
  | nil => intro x _; rfl
  | cons r rs ih =>
    intro x h
    simp only [Interner.regAll, Env.regAll]
    rw [ih (Interner.reg_inv h r), Interner.reg_env h r]

theorem Interner.regAll_ids (rs : List Reg) : ∀ {x : Interner}, x.Inv → (x.env.regAll rs).1.Cap →
    (x.regAll rs).2 = (x.env.regAll rs).2 := by
  induction rs with
  | nil => intro x _ _; rfl
  | cons r rs ih =>
    intro x h hc
    simp only [Interner.regAll, Env.regAll] at hc ⊢
    have hc1 : (x.env.reg r).1.Cap := Env.Cap.of_prefix (Env.regAll_prefixOf rs _) hc
    rw [Interner.reg_id h r hc1]
    rw [← Interner.reg_env h r] at hc
    rw [ih (Interner.reg_inv h r) hc, Interner.reg_env h r]

theorem Interner.regAll_consts (rs : List Reg) : ∀ (x : Interner),
    (x.regAll rs).1.noNamespaceId = x.noNamespaceId ∧ (x.regAll rs).1.emptyPrefixId = x.emptyPrefixId ∧
    (x.regAll rs).1.xmlNamespaceId = x.xmlNamespaceId ∧ (x.regAll rs).1.xmlPrefixId = x.xmlPrefixId ∧
    (x.regAll rs).1.xmlSpaceId = x.xmlSpaceId ∧ (x.regAll rs).1.xmlIdId = x.xmlIdId := by
  induction rs with
  | nil => intro x; exact ⟨rfl, rfl, rfl, rfl, rfl, rfl⟩
  | cons r rs ih =>
    intro x
    obtain ⟨a1, a2, a3, a4, a5, a6⟩ := ih (x.reg r).1
    obtain ⟨b1, b2, b3, b4, b5, b6⟩ := x.reg_consts r
    exact ⟨a1.trans b1, a2.trans b2, a3.trans b3, a4.trans b4, a5.trans b5, a6.trans b6⟩

end XotModel

/-! ## What the ids mean

  * `Env.Holds e r id`: in `e`, the id `id` of the table `r` goes to stands for the value `r`
    registers.  Every call returns an id that holds in the table it leaves (`Env.reg_holds`), ids
    keep holding as tables grow (`Env.Holds.mono`), so every id of a sequence holds in the tables
    reached (`Env.regAll_holds`).
  * With duplicate-free tables an id holds for one value and a value has one id: two calls of a
    sequence return the same id exactly when they registered the same value (`Env.regAll_ids_iff`).
  * `Env.RegsInRange`: every name registration names a namespace id the table already has; then
    `Env.DupFree` (duplicate-free + every name's namespace id in range) is kept.
-/

namespace XotModel
open IdParse

/-- `id` is an id of the table `r` goes to, and stands for the value `r` registers. -/
def Env.Holds (e : Env) : Reg → Nat → Prop
  | .pfx p, id => e.prefixes[id]? = some p
  | .ns u, id => e.namespaces[id]? = some u
  | .name l n, id => e.names[id]? = some (l, n)

theorem Env.Holds.mono {e e' : Env} (h : e.PrefixOf e') {r : Reg} {id : Nat} (hh : e.Holds r id) :
    e'.Holds r id := by
  cases r with
  | pfx p => exact prefix_getElem? h.prefixes hh
  | ns u => exact prefix_getElem? h.namespaces hh
  | name l n => exact prefix_getElem? h.names hh

theorem Env.reg_holds (e : Env) (r : Reg) : (e.reg r).1.Holds r (e.reg r).2 := by
  cases r with
  | pfx p => exact internIn_get e.prefixes p
  | ns u => exact internIn_get e.namespaces u
  | name l n => exact internIn_get e.names (l, n)

/-- Every id returned along a sequence of calls stands, in the tables reached, for the value that
    call registered. -/
theorem Env.regAll_holds (rs : List Reg) : ∀ (e : Env) (i : Nat) (r : Reg) (id : Nat),
    rs[i]? = some r → (e.regAll rs).2[i]? = some id → (e.regAll rs).1.Holds r id := by
  induction rs with
  | nil => intro e i r id h; simp at h
  | cons r0 rs ih =>
    intro e i r id hr hid
    cases i with
    | zero =>
      simp only [List.getElem?_cons_zero, Option.some.injEq, Env.regAll] at hr hid
      subst hr; subst hid
      exact (e.reg_holds r0).mono (Env.regAll_prefixOf rs _)
    | succ i =>
      simp only [List.getElem?_cons_succ, Env.regAll] at hr hid
      exact ih _ i r id hr hid

theorem Env.Holds.lt {e : Env} {r : Reg} {id : Nat} (h : e.Holds r id) :
    match r with
    | .pfx _ => id < e.prefixes.length
    | .ns _ => id < e.namespaces.length
    | .name _ _ => id < e.names.length := by
  have aux : ∀ {α : Type} {l : List α} {i : Nat} {x : α}, l[i]? = some x → i < l.length := by
    intro α l i x hx
    rcases Nat.lt_or_ge i l.length with h' | h'
    · exact h'
    · rw [List.getElem?_eq_none h'] at hx; cases hx
  cases r with
  | pfx p => exact aux h
  | ns u => exact aux h
  | name l n => exact aux h

/-- Two calls go to the same table. -/
def Reg.sameTable : Reg → Reg → Bool
  | .pfx _, .pfx _ => true
  | .ns _, .ns _ => true
  | .name _ _, .name _ _ => true
  | _, _ => false

/-- One id, one value. -/
theorem Env.Holds.value_eq {e : Env} {r r' : Reg} {id : Nat} (hs : r.sameTable r' = true)
    (h : e.Holds r id) (h' : e.Holds r' id) : r = r' := by
  cases r <;> cases r' <;> simp only [Reg.sameTable, Bool.false_eq_true] at hs <;>
    simp only [Env.Holds] at h h' <;> rw [h] at h' <;> simp only [Option.some.injEq, Prod.mk.injEq] at h'
  · rw [h']
  · rw [h']
  · rw [h'.1, h'.2]

theorem getElem?_inj_of_nodup {α : Type} {l : List α} (hn : l.Nodup) {i j : Nat} {x : α}
    (hi : l[i]? = some x) (hj : l[j]? = some x) : i = j := by
  have aux : ∀ {k : Nat}, l[k]? = some x → k < l.length := by
    intro k hk
    rcases Nat.lt_or_ge k l.length with h' | h'
    · exact h'
    · rw [List.getElem?_eq_none h'] at hk; cases hk
  exact (List.getElem?_inj (aux hi) hn).1 (hi.trans hj.symm)

/-- One value, one id — in duplicate-free tables. -/
theorem Env.Holds.id_eq {e : Env} (hd : e.DupFree) {r : Reg} {id id' : Nat}
    (h : e.Holds r id) (h' : e.Holds r id') : id = id' := by
  cases r with
  | pfx p => exact getElem?_inj_of_nodup hd.prefixes h h'
  | ns u => exact getElem?_inj_of_nodup hd.namespaces h h'
  | name l n => exact getElem?_inj_of_nodup hd.names h h'

/-- C08 on the tables of the parser model: two calls of a sequence, on the same table, return the
    same id exactly when they registered the same value — provided the tables reached are
    duplicate-free. -/
theorem Env.regAll_ids_iff (e : Env) (rs : List Reg) (hd : (e.regAll rs).1.DupFree) {i j : Nat} {r r' : Reg}
    (hi : rs[i]? = some r) (hj : rs[j]? = some r') (hs : r.sameTable r' = true) :
    (e.regAll rs).2[i]? = (e.regAll rs).2[j]? ↔ r = r' := by
  have li : i < (e.regAll rs).2.length := by
    rw [Env.regAll_length]
    rcases Nat.lt_or_ge i rs.length with h' | h'
    · exact h'
    · rw [List.getElem?_eq_none h'] at hi; cases hi
  have lj : j < (e.regAll rs).2.length := by
    rw [Env.regAll_length]
    rcases Nat.lt_or_ge j rs.length with h' | h'
    · exact h'
    · rw [List.getElem?_eq_none h'] at hj; cases hj
  have gi := List.getElem?_eq_getElem li
  have gj := List.getElem?_eq_getElem lj
  have hi' := Env.regAll_holds rs e i r _ hi gi
  have hj' := Env.regAll_holds rs e j r' _ hj gj
  constructor
  · intro h
    rw [gi, gj, Option.some.injEq] at h
    rw [h] at hi'
    exact hi'.value_eq hs hj'
  · intro h
    subst h
    rw [gi, gj, hi'.id_eq hd hj']

/-! ### Namespace ids of registered names stay in range -/

/-- A name registration names a namespace id this table already has. -/
def Reg.NsInRange (e : Env) : Reg → Prop
  | .name _ n => n < e.namespaces.length
  | _ => True

/-- … for every call of the sequence, at the time it is made. -/
def Env.RegsInRange (e : Env) : List Reg → Prop
  | [] => True
  | r :: rs => r.NsInRange e ∧ Env.RegsInRange (e.reg r).1 rs

theorem Env.regsInRange_append (a b : List Reg) : ∀ (e : Env),
    e.RegsInRange (a ++ b) ↔ e.RegsInRange a ∧ (e.regAll a).1.RegsInRange b := by
  induction a with
  | nil => intro e; simp [Env.RegsInRange, Env.regAll]
  | cons r rs ih => intro e; simp only [List.cons_append, Env.RegsInRange, Env.regAll, ih, and_assoc]

theorem Env.reg_dupFree {e : Env} (hd : e.DupFree) (r : Reg) (hr : r.NsInRange e) : (e.reg r).1.DupFree := by
  cases r with
  | pfx p => exact ⟨hd.names, hd.namespaces, internIn_nodup hd.prefixes p, hd.nsInRange⟩
  | ns u =>
    refine ⟨hd.names, internIn_nodup hd.namespaces u, hd.prefixes, ?_⟩
    intro x hx
    exact Nat.lt_of_lt_of_le (hd.nsInRange x hx) (internIn_length_le e.namespaces u)
  | name l n =>
    refine ⟨internIn_nodup hd.names (l, n), hd.namespaces, hd.prefixes, ?_⟩
    intro x hx
    have hx' : x ∈ (internIn e.names (l, n)).1 := hx
    unfold internIn at hx'
    split at hx'
    · exact hd.nsInRange x hx'
    · simp only [List.mem_append, List.mem_singleton] at hx'
      rcases hx' with hx' | rfl
      · exact hd.nsInRange x hx'
      · exact hr

theorem Env.regAll_dupFree (rs : List Reg) : ∀ {e : Env}, e.DupFree → e.RegsInRange rs → (e.regAll rs).1.DupFree := by
  induction rs with
  | nil => intro e hd _; exact hd
  | cons r rs ih => intro e hd hr; exact ih (Env.reg_dupFree hd r hr.1) hr.2

end XotModel
