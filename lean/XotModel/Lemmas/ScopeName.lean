/-
  `prefix_for_name`, `full_name`, `name_ref`, `node_name_ref` against the specification
  (`resolveQName`), with `namespace_prefix` as the first usable entry of `namespaces_in_scope`.
-/
import XotModel.Lemmas.Scope

/-! ### `prefix_for_name` and what rests on it

  `prefix_for_name` (behind `full_name`, `name_ref`, `node_name_ref`)
  characterised against the specification `scopeSpecChain`:

    namespacePrefixChain_sound / _complete / _none_iff   `namespace_prefix(node, ns, non_empty)`
    defaultInScope_iff        `namespace_for_prefix(node, empty_prefix).is_some()`
    prefixForNameChain_cases  the four exits of `prefix_for_name`, each with its exact condition
    resolveQName_*            the reported prefix read back by the rule for the kind of name
-/

namespace XotModel

/-- How `full_name` spells a name with a prefix id: `prefix:local`, or `local` for a prefix whose
    string is empty. -/
def qnameSpelling (env : Env) (p name : Nat) : Str :=
  if (env.prefixStr p).isEmpty then env.localName name
  else env.prefixStr p ++ [':'] ++ env.localName name

theorem fullNameChain_eq (env : Env) (chain : List Tree) (name : Nat) :
    fullNameChain env chain name =
      match nameRefChain env chain name with
      | .ok p => .ok (qnameSpelling env p name)
      | .error e => .error e := by
  unfold fullNameChain nameRefChain qnameSpelling
  cases prefixForNameChain env chain name with
  | error e => rfl
  | ok p => cases h : (env.prefixStr p).isEmpty <;> simp [h]

theorem fullNameChain_ok_iff (env : Env) (chain : List Tree) (name : Nat) (s : Str) :
    fullNameChain env chain name = .ok s ↔
      ∃ p, nameRefChain env chain name = .ok p ∧ s = qnameSpelling env p name := by
  rw [fullNameChain_eq]
  cases nameRefChain env chain name with
  | error e => simp
  | ok p => simp [eq_comm]

theorem fullNameChain_error_iff (env : Env) (chain : List Tree) (name : Nat) (e : XotError) :
    fullNameChain env chain name = .error e ↔ nameRefChain env chain name = .error e := by
  rw [fullNameChain_eq]
  cases nameRefChain env chain name with
  | error e' => simp
  | ok p => simp

/-! ### `namespace_prefix` -/

theorem namespacePrefixChain_sound {chain : List Tree} {ns : Nat} {ne : Bool} {p : Nat}
    (h : namespacePrefixChain chain ns ne = some p) (hns : ns ≠ Env.noNamespace) :
    scopeSpecChain chain p = some ns ∧ pfnUsable ne p = true := by
  rw [namespacePrefixChain_eq] at h
  cases hd : pfnDecls ns ne [] (allDecls chain) with
  | cont s => simp [hd, pfnResult] at h
  | ret r =>
    simp only [hd, pfnResult] at h
    subst h
    obtain ⟨_, h2, h3⟩ := pfnDecls_sound ns ne _ _ _ hd
    exact ⟨scopeSpecChain_of_lookup h2 hns, h3⟩

theorem namespacePrefixChain_complete {chain : List Tree} {ns : Nat} {ne : Bool}
    (h : ∃ q, scopeSpecChain chain q = some ns ∧ pfnUsable ne q = true) :
    ∃ p, namespacePrefixChain chain ns ne = some p := by
  obtain ⟨q, hq, hu⟩ := h
  obtain ⟨p, hp⟩ := pfnDecls_complete ns ne (allDecls chain) []
    ⟨q, by simp, scopeSpecChain_some_lookup hq, hu⟩
  exact ⟨p, by rw [namespacePrefixChain_eq, hp]; rfl⟩

theorem namespacePrefixChain_none_iff {chain : List Tree} {ns : Nat} {ne : Bool}
    (hns : ns ≠ Env.noNamespace) :
    namespacePrefixChain chain ns ne = none ↔
      ∀ q, pfnUsable ne q = true → scopeSpecChain chain q ≠ some ns := by
  constructor
  · intro h q hu hq
    obtain ⟨p, hp⟩ := namespacePrefixChain_complete (ne := ne) ⟨q, hq, hu⟩
    rw [h] at hp
    simp at hp
  · intro h
    cases hp : namespacePrefixChain chain ns ne with
    | none => rfl
    | some p =>
      obtain ⟨h1, h2⟩ := namespacePrefixChain_sound hp hns
      exact absurd h1 (h p h2)

/-- `namespace_for_prefix(node, empty_prefix).is_some()`: a default namespace is in scope. -/
theorem defaultInScope_iff (chain : List Tree) :
    (namespaceForPrefixChain chain Env.emptyPrefix).isSome = true ↔
      ∃ d, scopeSpecChain chain Env.emptyPrefix = some d := by
  rw [namespaceForPrefixChain_eq]
  cases hs : scopeSpecChain chain Env.emptyPrefix with
  | none => simp
  | some d => simp

/-! ### `prefix_for_name` -/

/-- The name is the context node's own element name and a default namespace is in scope there:
    the one situation in which a no-namespace name is refused. -/
def OwnNameUnderDefault (chain : List Tree) (name : Nat) : Prop :=
  elementNameChain chain = some name ∧ ∃ d, scopeSpecChain chain Env.emptyPrefix = some d

/-- The four exits of `prefix_for_name`, each with the exact condition under which it is taken
    (`isAttributeNodeChain chain` decides whether the empty prefix is usable). -/
theorem prefixForNameChain_cases (env : Env) (chain : List Tree) (name : Nat) :
    (env.nsOfName name = Env.noNamespace ∧ OwnNameUnderDefault chain name ∧
      prefixForNameChain env chain name = .error (.missingPrefix Env.noNamespace)) ∨
    (env.nsOfName name = Env.noNamespace ∧ ¬ OwnNameUnderDefault chain name ∧
      prefixForNameChain env chain name = .ok Env.emptyPrefix) ∨
    (env.nsOfName name ≠ Env.noNamespace ∧ ∃ p,
      prefixForNameChain env chain name = .ok p ∧
      scopeSpecChain chain p = some (env.nsOfName name) ∧
      pfnUsable (isAttributeNodeChain chain) p = true) ∨
    (env.nsOfName name ≠ Env.noNamespace ∧
      prefixForNameChain env chain name = .error (.missingPrefix (env.nsOfName name)) ∧
      ∀ q, pfnUsable (isAttributeNodeChain chain) q = true →
        scopeSpecChain chain q ≠ some (env.nsOfName name)) := by
  unfold prefixForNameChain
  by_cases hns : env.nsOfName name = Env.noNamespace
  · have hb : (env.nsOfName name == Env.noNamespace) = true := by simpa using hns
    simp only [hb, ↓reduceIte]
    by_cases hown : OwnNameUnderDefault chain name
    · refine .inl ⟨hns, hown, ?_⟩
      have h1 : (elementNameChain chain == some name) = true := by simp [hown.1]
      have h2 := (defaultInScope_iff chain).2 hown.2
      simp [h1, h2]
    · refine .inr (.inl ⟨hns, hown, ?_⟩)
      have : (elementNameChain chain == some name &&
          (namespaceForPrefixChain chain Env.emptyPrefix).isSome) = false := by
        cases h1 : (elementNameChain chain == some name)
        · rfl
        · cases h2 : (namespaceForPrefixChain chain Env.emptyPrefix).isSome
          · rfl
          · exact absurd ⟨by simpa using h1, (defaultInScope_iff chain).1 h2⟩ hown
      simp [this]
  · have hb : (env.nsOfName name == Env.noNamespace) = false := by simpa using hns
    simp only [hb, Bool.false_eq_true, ↓reduceIte]
    cases hp : namespacePrefixChain chain (env.nsOfName name) (isAttributeNodeChain chain) with
    | some p =>
      obtain ⟨h1, h2⟩ := namespacePrefixChain_sound hp hns
      exact .inr (.inr (.inl ⟨hns, p, rfl, h1, h2⟩))
    | none =>
      exact .inr (.inr (.inr ⟨hns, rfl, (namespacePrefixChain_none_iff hns).1 hp⟩))

/-! ### `name_ref`: when it answers, and with what -/

theorem nameRefChain_ok {env : Env} {chain : List Tree} {name p : Nat}
    (h : nameRefChain env chain name = .ok p) :
    (env.nsOfName name = Env.noNamespace ∧ ¬ OwnNameUnderDefault chain name ∧ p = Env.emptyPrefix) ∨
    (env.nsOfName name ≠ Env.noNamespace ∧ scopeSpecChain chain p = some (env.nsOfName name) ∧
      pfnUsable (isAttributeNodeChain chain) p = true) := by
  unfold nameRefChain at h
  rcases prefixForNameChain_cases env chain name with
    ⟨_, _, hr⟩ | ⟨h0, hn, hr⟩ | ⟨hne, q, hr, hs, hu⟩ | ⟨_, hr, _⟩ <;> rw [hr] at h <;> cases h
  · exact .inl ⟨h0, hn, rfl⟩
  · exact .inr ⟨hne, hs, hu⟩

theorem nameRefChain_error_iff {env : Env} {chain : List Tree} {name : Nat} {e : XotError} :
    nameRefChain env chain name = .error e ↔ e = .missingPrefix (env.nsOfName name) ∧
      ((env.nsOfName name = Env.noNamespace ∧ OwnNameUnderDefault chain name) ∨
       (env.nsOfName name ≠ Env.noNamespace ∧ ∀ q, pfnUsable (isAttributeNodeChain chain) q = true →
          scopeSpecChain chain q ≠ some (env.nsOfName name))) := by
  unfold nameRefChain
  rcases prefixForNameChain_cases env chain name with
    ⟨h0, hown, hr⟩ | ⟨h0, hn, hr⟩ | ⟨hne, q, hr, hs, hu⟩ | ⟨hne, hr, hall⟩ <;> rw [hr]
  · exact ⟨fun h => by cases h; exact ⟨by rw [h0], .inl ⟨h0, hown⟩⟩, fun h => by rw [h.1, h0]⟩
  · exact ⟨fun h => (by cases h), fun h => h.2.elim (fun h => absurd h.2 hn) (fun h => absurd h0 h.1)⟩
  · exact ⟨fun h => (by cases h), fun h => h.2.elim (fun h => absurd h.1 hne) (fun h => absurd hs (h.2 q hu))⟩
  · exact ⟨fun h => by cases h; exact ⟨rfl, .inr ⟨hne, hall⟩⟩, fun h => by rw [h.1]⟩
/-! ### Reading a reported prefix back -/

theorem resolveQName_attribute_empty (chain : List Tree) :
    resolveQName chain true Env.emptyPrefix = some Env.noNamespace := by
  simp [resolveQName]

theorem resolveQName_element_empty (chain : List Tree) :
    resolveQName chain false Env.emptyPrefix =
      some ((scopeSpecChain chain Env.emptyPrefix).getD Env.noNamespace) := by
  simp [resolveQName]

theorem resolveQName_nonempty (chain : List Tree) (isAttribute : Bool) {p : Nat}
    (hp : p ≠ Env.emptyPrefix) : resolveQName chain isAttribute p = scopeSpecChain chain p := by
  have : (p == Env.emptyPrefix) = false := beq_false_of_ne hp
  simp [resolveQName, this]

/-- A prefix bound to `ns` reads back as `ns` by the element rule (the empty prefix included:
    then `ns` is the default namespace). -/
theorem resolveQName_element_of_bound (chain : List Tree) {p ns : Nat}
    (h : scopeSpecChain chain p = some ns) : resolveQName chain false p = some ns := by
  by_cases hp : p = Env.emptyPrefix
  · subst hp; simp [resolveQName_element_empty, h]
  · rw [resolveQName_nonempty chain false hp, h]

/-- A non-empty prefix bound to `ns` reads back as `ns` by the attribute rule. -/
theorem resolveQName_attribute_of_bound (chain : List Tree) {p ns : Nat}
    (h : scopeSpecChain chain p = some ns) (hp : p ≠ Env.emptyPrefix) :
    resolveQName chain true p = some ns := by
  rw [resolveQName_nonempty chain true hp, h]

/-- The unprefixed element name means "no namespace" exactly when no default namespace is in
    scope. -/
theorem resolveQName_element_empty_none_iff (chain : List Tree) :
    resolveQName chain false Env.emptyPrefix = some Env.noNamespace ↔
      ¬ ∃ d, scopeSpecChain chain Env.emptyPrefix = some d := by
  rw [resolveQName_element_empty]
  cases hs : scopeSpecChain chain Env.emptyPrefix with
  | none => simp
  | some d =>
    have hd : d ≠ Env.noNamespace := fun h => scopeSpecChain_empty_ne chain (h ▸ hs)
    simp [hd]

/-- The head of the chain is the node itself. -/
theorem isAttributeNodeChain_of_head {chain : List Tree} {a : Tree} {n : Nat} {v : Str}
    (hh : chain.head? = some a) (hv : a.value = .attribute n v) :
    isAttributeNodeChain chain = true := by
  simp [isAttributeNodeChain, hh, hv, valueIsAttribute]

theorem isAttributeNodeChain_false_of_head {chain : List Tree} {a : Tree}
    (hh : chain.head? = some a) (hv : valueIsAttribute a.value = false) :
    isAttributeNodeChain chain = false := by
  simp [isAttributeNodeChain, hh, hv]

theorem elementNameChain_of_head {chain : List Tree} {a : Tree}
    (hh : chain.head? = some a) : elementNameChain chain = valueElementName a.value := by
  simp [elementNameChain, hh]

/-! ### `name_ref` by kind of context node (proofs of C09_nameref_attribute / _element / _other_name) -/

theorem nameRefChain_attribute (env : Env) (chain : List Tree) (a : Tree) (n : Nat) (v : Str)
    (name : Nat) (hh : chain.head? = some a) (hv : a.value = .attribute n v) :
    (∀ p, nameRefChain env chain name = .ok p →
      (env.nsOfName name ≠ Env.noNamespace → p ≠ Env.emptyPrefix) ∧
      resolveQName chain true p = some (env.nsOfName name)) ∧
    (∀ e, nameRefChain env chain name = .error e ↔
      e = .missingPrefix (env.nsOfName name) ∧ env.nsOfName name ≠ Env.noNamespace ∧
      ∀ q, q ≠ Env.emptyPrefix → scopeSpecChain chain q ≠ some (env.nsOfName name)) ∧
    ((∃ p, nameRefChain env chain name = .ok p) ↔
      env.nsOfName name = Env.noNamespace ∨
      ∃ q, q ≠ Env.emptyPrefix ∧ scopeSpecChain chain q = some (env.nsOfName name)) := by
  have hattr := isAttributeNodeChain_of_head hh hv
  have hnown : ¬ OwnNameUnderDefault chain name := by
    rintro ⟨h, _⟩
    rw [elementNameChain_of_head hh, hv] at h
    cases h
  refine ⟨fun p hp => ?_, fun e => ?_, fun ⟨p, hp⟩ => ?_, fun h => ?_⟩
  · rcases nameRefChain_ok hp with ⟨h0, _, rfl⟩ | ⟨_, hs, hu⟩
    · exact ⟨fun h => absurd h0 h, by rw [resolveQName_attribute_empty, h0]⟩
    · rw [hattr, pfnUsable_true_iff] at hu
      exact ⟨fun _ => hu, resolveQName_attribute_of_bound chain hs hu⟩
  · rw [nameRefChain_error_iff, hattr]
    simp only [pfnUsable_true_iff]
    exact and_congr_right fun _ => ⟨fun h => h.elim (fun h => absurd h.2 hnown) id, .inr⟩
  · rcases nameRefChain_ok hp with ⟨h0, _, _⟩ | ⟨_, hs, hu⟩
    · exact .inl h0
    · rw [hattr, pfnUsable_true_iff] at hu
      exact .inr ⟨p, hu, hs⟩
  · cases hr : nameRefChain env chain name with
    | ok p => exact ⟨p, rfl⟩
    | error e =>
      rcases (nameRefChain_error_iff.1 hr).2 with ⟨_, hown⟩ | ⟨hne, hall⟩
      · exact absurd hown hnown
      · rw [hattr] at hall
        rcases h with h0 | ⟨q, hq, hs⟩
        · exact absurd h0 hne
        · exact absurd hs (hall q ((pfnUsable_true_iff q).2 hq))

theorem nameRefChain_element (env : Env) (chain : List Tree) (e : Tree) (name : Nat)
    (hh : chain.head? = some e) (hv : e.value = .element name) :
    (∀ p, nameRefChain env chain name = .ok p →
      resolveQName chain false p = some (env.nsOfName name)) ∧
    (∀ err, nameRefChain env chain name = .error err ↔
      err = .missingPrefix (env.nsOfName name) ∧
      ((env.nsOfName name ≠ Env.noNamespace ∧
          ∀ q, scopeSpecChain chain q ≠ some (env.nsOfName name)) ∨
       (env.nsOfName name = Env.noNamespace ∧
          ∃ d, scopeSpecChain chain Env.emptyPrefix = some d))) := by
  have hattr : isAttributeNodeChain chain = false :=
    isAttributeNodeChain_false_of_head hh (by simp [hv, valueIsAttribute])
  have hown : elementNameChain chain = some name := by
    rw [elementNameChain_of_head hh, hv]; rfl
  refine ⟨fun p hp => ?_, fun err => ?_⟩
  · rcases nameRefChain_ok hp with ⟨h0, hn, rfl⟩ | ⟨_, hs, _⟩
    · rw [h0]
      exact (resolveQName_element_empty_none_iff chain).2 fun hd => hn ⟨hown, hd⟩
    · exact resolveQName_element_of_bound chain hs
  · rw [nameRefChain_error_iff, hattr]
    simp only [pfnUsable_false, true_implies]
    exact and_congr_right fun _ =>
      ⟨fun h => h.elim (fun h => .inr ⟨h.1, h.2.2⟩) .inl,
       fun h => h.elim .inr (fun h => .inl ⟨h.1, hown, h.2⟩)⟩

theorem nameRefChain_other_name (env : Env) (chain : List Tree) (c : Tree) (name : Nat)
    (hh : chain.head? = some c) (hna : valueIsAttribute c.value = false)
    (hne : c.value ≠ .element name) :
    (env.nsOfName name = Env.noNamespace → nameRefChain env chain name = .ok Env.emptyPrefix) ∧
    (env.nsOfName name ≠ Env.noNamespace →
      (nameRefChain env chain name =
        match prefixForNamespaceChain chain (env.nsOfName name) with
        | some p => .ok p
        | none => .error (.missingPrefix (env.nsOfName name))) ∧
      (∀ p, nameRefChain env chain name = .ok p →
        resolveQName chain false p = some (env.nsOfName name)) ∧
      (∀ e, nameRefChain env chain name = .error e ↔
        e = .missingPrefix (env.nsOfName name) ∧
        ∀ q, scopeSpecChain chain q ≠ some (env.nsOfName name))) := by
  have hattr : isAttributeNodeChain chain = false := isAttributeNodeChain_false_of_head hh hna
  have hnown : ¬ OwnNameUnderDefault chain name := by
    rintro ⟨h, _⟩
    rw [elementNameChain_of_head hh] at h
    apply hne
    cases hc : c.value <;> simp [hc, valueElementName] at h
    rw [h]
  have hexact : env.nsOfName name ≠ Env.noNamespace → nameRefChain env chain name =
      match prefixForNamespaceChain chain (env.nsOfName name) with
      | some p => .ok p
      | none => .error (.missingPrefix (env.nsOfName name)) := by
    intro h
    have hb : (env.nsOfName name == Env.noNamespace) = false := by simpa using h
    simp only [nameRefChain, prefixForNameChain, hb, Bool.false_eq_true, ↓reduceIte, hattr,
      prefixForNamespaceChain]
    cases namespacePrefixChain chain (env.nsOfName name) false <;> rfl
  refine ⟨fun h0 => ?_, fun hne' => ⟨hexact hne', fun p hp => ?_, fun e => ?_⟩⟩
  · cases hr : nameRefChain env chain name with
    | ok p =>
      rcases nameRefChain_ok hr with ⟨_, _, rfl⟩ | ⟨h, _⟩
      · rfl
      · exact absurd h0 h
    | error e =>
      rcases (nameRefChain_error_iff.1 hr).2 with ⟨_, hown⟩ | ⟨h, _⟩
      · exact absurd hown hnown
      · exact absurd h0 h
  · rcases nameRefChain_ok hp with ⟨h0, _⟩ | ⟨_, hs, _⟩
    · exact absurd h0 hne'
    · exact resolveQName_element_of_bound chain hs
  · rw [nameRefChain_error_iff, hattr]
    simp only [pfnUsable_false, true_implies]
    exact and_congr_right fun _ =>
      ⟨fun h => h.elim (fun h => absurd h.2 hnown) (·.2), fun h => .inr ⟨hne', h⟩⟩

end XotModel

/-! ### `namespace_prefix` as a search in `namespaces_in_scope`

  WHICH prefix `namespace_prefix` / `prefix_for_namespace` reports:
  for a real namespace, the first pair `namespaces_in_scope(node)` yields with that namespace
  (and, with `non_empty`, a non-empty prefix): both are one seen-list pass over the same
  declarations, nearest element first, declaration order within an element.
-/

namespace XotModel

theorem pfnDecls_eq_find (ns : Nat) (ne : Bool) (hns : ns ≠ Env.noNamespace) (l : List (Nat × Nat)) :
    ∀ (seen1 seen2 : List Nat), (∀ x, x ∈ seen1 ↔ x ∈ seen2) →
    pfnResult (pfnDecls ns ne seen1 l) =
      ((traverseDecls seen2 l).2.find? (fun kv => kv.2 == ns && pfnUsable ne kv.1)).map Prod.fst := by
  induction l with
  | nil => intro s1 s2 _; simp [pfnDecls_nil, traverseDecls_nil, pfnResult]
  | cons d rest ih =>
    obtain ⟨k, v⟩ := d
    intro s1 s2 hs
    by_cases h : k ∈ s1
    · rw [pfnDecls_cons_seen h, traverseDecls_cons_seen s2 k v rest (List.contains_iff_mem.2 ((hs k).1 h))]
      exact ih s1 s2 hs
    · have h2 : k ∉ s2 := fun hk => h ((hs k).2 hk)
      have hs' : ∀ x, x ∈ k :: s1 ↔ x ∈ s2 ++ [k] := by
        intro x
        rw [List.mem_cons, List.mem_append, List.mem_singleton, hs x]
        exact Or.comm
      rw [traverseDecls_cons_new s2 k v rest (mt List.contains_iff_mem.1 h2)]
      by_cases hh : pfnUsable ne k = true ∧ v = ns
      · obtain ⟨hu, rfl⟩ := hh
        rw [pfnDecls_cons_hit h hu rfl]
        have : ((k == Env.emptyPrefix) && (v == Env.noNamespace)) = false := by
          rw [beq_false_of_ne hns, Bool.and_false]
        simp [this, pfnResult, hu]
      · rw [pfnDecls_cons_pass h hh]
        have hb : (v == ns && pfnUsable ne k) = false := by
          cases hv : v == ns
          · rfl
          · exact Bool.eq_false_iff.2 fun hu => hh ⟨hu, beq_iff_eq.1 hv⟩
        split
        · exact ih _ _ hs'
        · simp only [List.find?_cons, hb]
          exact ih _ _ hs'

/-- `namespace_prefix(node, ns, non_empty)`, `ns` real = the prefix of the first pair of
    `namespaces_in_scope(node)` whose namespace is `ns` (and whose prefix is non-empty, with
    `non_empty`). -/
theorem namespacePrefixChain_eq_find (chain : List Tree) (ns : Nat) (ne : Bool)
    (hns : ns ≠ Env.noNamespace) :
    namespacePrefixChain chain ns ne =
      ((namespacesInScopeChain chain).find? (fun kv => kv.2 == ns && pfnUsable ne kv.1)).map Prod.fst := by
  rw [namespacePrefixChain_eq, namespacesInScopeChain_eq]
  exact pfnDecls_eq_find ns ne hns _ [] [] (fun _ => Iff.rfl)

/-- `prefix_for_namespace(node, ns)`, `ns` real = the prefix of the first pair of
    `namespaces_in_scope(node)` whose namespace is `ns`. -/
theorem prefixForNamespaceChain_eq_find (chain : List Tree) (ns : Nat) (hns : ns ≠ Env.noNamespace) :
    prefixForNamespaceChain chain ns =
      ((namespacesInScopeChain chain).find? (fun kv => kv.2 == ns)).map Prod.fst := by
  rw [prefixForNamespaceChain, namespacePrefixChain_eq_find chain ns false hns]
  simp

end XotModel
