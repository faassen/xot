/-
  `unwrapSites` read on the forest BEFORE the call.  `element_unwrap` reads the previous
  sibling of the wrapper's first child after the wrapper is spliced out; under the invariant that is the
  previous sibling of the wrapper (`removeElement_site` of C05: the wrapper's normal children stand where the
  wrapper stood).
-/
import XotModel.Lemmas.BasicFacts
import XotModel.Lemmas.FinvExact
import XotModel.Lemmas.FspecUnwrap
import XotModel.Lemmas.FatomComposite

namespace XotModel
open HTree Spec

namespace Forest

/-- The wrapper has a parent: its first normal child takes its place, behind the same left siblings. -/
theorem removeElement_prevSibling_first {f : Forest} (hi : f.Inv) {n first : Nat} {c : Ctx}
    (hfc : f.firstChild n = some first) (hctx : f.ctx? n = some c) :
    (f.removeElement n).prevSibling first = f.prevSibling n := by
  obtain ⟨hh, v, s⟩ := SiteAt.of_ctx hi.nodup hctx
  obtain ⟨p, l, self, r⟩ := c
  cases self with
  | node n' vn K =>
    simp only [HTree.handle] at hh
    subst hh
    simp only at s
    have hgn : f.get? n' = some (.node n' vn K) := s.getKid
    rw [Forest.firstChild_of_get hgn] at hfc
    have hwmem : HTree.node n' vn K ∈ l ++ .node n' vn K :: r := List.mem_append_right _ List.mem_cons_self
    have hvp := s.valid hi.valid
    have hvw := validList_all _ _ (validTree_node hvp).2.2.2 _ hwmem
    have hvK := (validTree_node hvw).2.2.2
    have hleafAb : ∀ k ∈ K.takeWhile abn, k.kids = [] := fun k hk =>
      abn_leaf (validList_all _ _ hvK k ((List.takeWhile_sublist _).subset hk)) (takeWhile_abn_all K k hk)
    obtain ⟨_, s1⟩ := Forest.removeElement_site s hleafAb
    cases hd : K.dropWhile abn with
    | nil => rw [hd] at hfc; cases hfc
    | cons a rest =>
      rw [hd] at hfc s1
      have ha : a.handle = first := by simpa using hfc
      have hne : K.dropWhile abn ≠ [] := by rw [hd]; exact List.cons_ne_nil _ _
      have han : abn a = false := by
        have := List.head_dropWhile_not abn hne
        simpa [hd] using this
      have hvn : vn.isNormal = true := by
        cases hvn : vn.isNormal with
        | true => rfl
        | false =>
          have hk : (HTree.node n' vn K).kids = [] := abn_leaf hvw hvn
          simp only [HTree.kids] at hk
          rw [hk] at hd
          cases hd
      have s2 : SiteAt (f.removeElement n') p v (l ++ a :: (rest ++ r)) := by
        have e : l ++ (a :: rest) ++ r = l ++ a :: (rest ++ r) := by simp
        rw [← e]; exact s1
      have hc1 := s2.ctx
      rw [ha] at hc1
      unfold prevSibling
      rw [hc1, hctx]
      simp only
      cases l.getLast? with
      | none => rfl
      | some q =>
        have e1 : a.value.category = .normal := by
          simp only [abn, Bool.not_eq_false', Value.isNormal, beq_iff_eq] at han
          exact han
        have e2 : vn.category = .normal := by
          simp only [Value.isNormal, beq_iff_eq] at hvn
          exact hvn
        simp only [HTree.value] at e1 ⊢
        simp only [e1, e2]

/-- The wrapper is parentless: its normal children become parentless trees - no previous sibling either. -/
theorem removeElement_prevSibling_first_root {f : Forest} (hi : f.Inv) {n first : Nat}
    (hfc : f.firstChild n = some first) (hctx : f.ctx? n = none) :
    (f.removeElement n).prevSibling first = f.prevSibling n := by
  have nd := hi.nodup
  have hp : f.prevSibling n = none := by unfold prevSibling; rw [hctx]
  rw [hp]
  cases hgn0 : f.get? n with
  | none => unfold firstChild at hfc; rw [hgn0] at hfc; cases hfc
  | some t =>
    cases t with
    | node n' vn K =>
      have hh : n' = n := by
        have := findList?_handle n f.roots _ hgn0
        simpa [HTree.handle] using this
      subst hh
      have hgn : f.get? n' = some (.node n' vn K) := hgn0
      have hroot : f.isRoot n' = true := by
        rcases Forest.root_or_ctx hgn with h | ⟨c, hc⟩
        · exact h
        · rw [hctx] at hc; cases hc
      rw [Forest.firstChild_of_get hgn] at hfc
      have s : SiteAt f n' vn K := ⟨nd, hgn⟩
      have hvw := s.valid hi.valid
      have hvK := (validTree_node hvw).2.2.2
      have hleafAb : ∀ k ∈ K.takeWhile abn, k.kids = [] := fun k hk =>
        abn_leaf (validList_all _ _ hvK k ((List.takeWhile_sublist _).subset hk)) (takeWhile_abn_all K k hk)
      have sn : SiteAt f n' vn (K.takeWhile abn ++ K.dropWhile abn) := by
        rw [List.takeWhile_append_dropWhile]; exact s
      have hsubK : (handlesList (K.dropWhile abn)).Sublist (handlesList K) := by
        have : handlesList K = handlesList (K.takeWhile abn ++ K.dropWhile abn) := by
          rw [List.takeWhile_append_dropWhile]
        rw [this, handlesList_append]
        exact List.sublist_append_right _ _
      have e1 : f.removeElement n' = (f.editAt (some n') (fun _ => K.dropWhile abn)).spliceOut n' := by
        unfold Forest.removeElement
        rw [hgn]
        simp only [HTree.kids]
        exact congrArg (fun z => Forest.spliceOut z n') (fs_foldl_spliceOut_leaves _ f hleafAb sn)
      have s1 : SiteAt (f.editAt (some n') (fun _ => K.dropWhile abn)) n' vn (K.dropWhile abn) :=
        s.edit (fun _ => K.dropWhile abn) hsubK
      have hroot1 : (f.editAt (some n') (fun _ => K.dropWhile abn)).isRoot n' = true := by
        rw [← hroot]
        simp only [isRoot, Forest.editAt, List.any_map]
        congr 1
        funext r
        simp only [Function.comp, editAt_handle]
      generalize f.editAt (some n') (fun _ => K.dropWhile abn) = f1 at e1 s1 hroot1
      have hlive := Forest.isLive_of_get? s1.kids
      have nd2 : (f1.spliceOut n').allHandles.Nodup :=
        List.Nodup.sublist (List.sublist_append_left _ _) ((spliceOut_perm s1.nd hlive).symm.nodup s1.nd)
      cases hd : K.dropWhile abn with
      | nil => rw [hd] at hfc; cases hfc
      | cons a rest =>
        rw [hd] at hfc s1
        have ha : a.handle = first := by simpa using hfc
        have hr2 : (f1.spliceOut n').isRoot first = true := by
          unfold spliceOut
          rw [s1.kids]
          simp only [HTree.kids, hroot1, if_true]
          have hite : ∀ (c : Prop) [Decidable c] (A B : Forest), A.isRoot first = true → B.isRoot first = true →
              (if c then A else B).isRoot first = true := by
            intro c _ A B h1 h2; split <;> assumption
          apply hite <;> simp [isRoot, List.any_append, ha]
        rw [e1]
        unfold prevSibling
        rw [ctx_none_of_root nd2 hr2]

/-- **`unwrapSites` on the forest before the call**: the previous sibling of the wrapper's first child, read once
    the wrapper is spliced out, is the previous sibling of the wrapper. -/
theorem removeElement_prevSibling_firstChild {f : Forest} (hi : f.Inv) {n first : Nat}
    (hfc : f.firstChild n = some first) : (f.removeElement n).prevSibling first = f.prevSibling n := by
  cases hctx : f.ctx? n with
  | none => exact removeElement_prevSibling_first_root hi hfc hctx
  | some c => exact removeElement_prevSibling_first hi hfc hctx

theorem unwrapSites_simpl {f : Forest} (hi : f.Inv) (n : Nat) :
    f.unwrapSites n = (f.prevSibling n).toList ++ (f.lastChild n).toList := by
  unfold unwrapSites
  cases hfc : f.firstChild n with
  | some first => simp only; rw [removeElement_prevSibling_firstChild hi hfc]
  | none =>
    simp only
    have : f.lastChild n = none := (lastChild_none_of_firstChild_none hfc).1
    rw [this]; simp

/-! ### `replaceSites` without the guard site -/

/-- `replaceSites` with the plain `insertAfterSites`: the extra site of `insertAfterSitesX` (the previous sibling of
    `b` when the reference node is `b` itself) is dropped. -/
def replaceSites0 (f : Forest) (a b : Nat) : List Nat :=
  match f.parent? a with
  | none => []
  | some parent =>
    if (f.prevSibling a == some b || f.nextSibling a == some b) = true then (f.prevSibling a).toList else
    match f.prevSibling a with
    | none => (f.dropSubtree a).prependSites parent b
    | some p => (f.dropSubtree a).insertAfterSites p b ++
        (match f.nextSibling a with
         | some n => (((f.dropSubtree a).insertAfter p b).1.prevSibling n).toList
         | none => [])

/-- With the subtree `a` taken out the forest still has distinct handles (`Forest.W`), so no node is its own previous
    sibling and the reference node of the `insert_after` is never `b`: the guard site is empty. -/
theorem replaceSites_simpl {f : Forest} (hi : f.Inv) (a b : Nat) : f.replaceSites a b = f.replaceSites0 a b := by
  unfold replaceSites replaceSites0
  cases f.parent? a with
  | none => rfl
  | some parent =>
    simp only
    split
    · rfl
    · rename_i hadj
      cases hps : f.prevSibling a with
      | none => rfl
      | some p =>
        simp only
        have hne : p ≠ b := by
          intro e
          apply hadj
          rw [hps, e]
          simp
        have w := (dropSubtree_spec hi.toW a).1
        unfold insertAfterSitesX
        rw [if_neg (insertAfterRef_ne w hne)]
        simp only [List.append_nil]
        cases f.nextSibling a <;> rfl

end Forest
end XotModel
