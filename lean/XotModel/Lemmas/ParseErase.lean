/-
  "Byte positions do not matter" for the builder (`Model/Parse.lean`): two token lists with the
  same `Token.erase` image give the same tree, interning tables and id map (or both fail).

  Contents: `parseContentGo` modulo positions; the position-free erasure of a builder state
  (`Builder.erase`) and of a step result (`Step.er`); every `DocumentBuilder` operation,
  `Builder.step` and `Builder.run` modulo erasure; the epilogues; `build_erase_lex`,
  `build_erase`, `build_erase_ok`.
-/
import XotModel.Model.Parse
import XotModel.Model.TokenRender
import XotModel.Lemmas.ParseOps
import XotModel.Lemmas.ParseContentConverse

namespace XotModel

/-! ### `parse_content` modulo positions -/

/-- `parse_content` reads `base_position` / the running offset only for error payloads: both fail, or both
    succeed with the same value.  An accepted text is the rendering of well-spelled pieces
    (`parseContentGo_ok_pieces`), and those parse to their value from every position (`parse_pieces`). -/
theorem parseContentGo_cases (attr : Bool) (base base' pos pos' : Nat) (s : Str) :
    (∃ e e', parseContentGo attr base pos s = .error e ∧ parseContentGo attr base' pos' s = .error e') ∨
    (∃ v, parseContentGo attr base pos s = .ok v ∧ parseContentGo attr base' pos' s = .ok v) := by
  cases h1 : parseContentGo attr base pos s with
  | ok v =>
    obtain ⟨ps, hw, rfl⟩ := parseContentGo_ok_pieces h1
    rw [parse_pieces attr base ps pos hw] at h1
    exact .inr ⟨v, rfl, h1 ▸ parse_pieces attr base' ps pos' hw⟩
  | error e =>
    cases h2 : parseContentGo attr base' pos' s with
    | error e' => exact .inl ⟨e, e', rfl, rfl⟩
    | ok v =>
      obtain ⟨ps, hw, rfl⟩ := parseContentGo_ok_pieces h2
      rw [parse_pieces attr base ps pos hw] at h1
      cases h1

/-- `parse_content` reads the positions only for error payloads. -/
theorem parseContentGo_ok_pos {attr : Bool} {base pos : Nat} {s v : Str} (h : parseContentGo attr base pos s = .ok v)
    (base' pos' : Nat) : parseContentGo attr base' pos' s = .ok v := by
  rcases parseContentGo_cases attr base base' pos pos' s with ⟨_, _, h1, _⟩ | ⟨v', h1, h2⟩
  · cases h1.symm.trans h
  · exact (Except.ok.inj (h1.symm.trans h)) ▸ h2

/-! ### The position-free part of a builder state -/

/-- Forget the spans of a pending attribute. -/
def AttributeBuilder.erase (a : AttributeBuilder) : AttributeBuilder :=
  { a with nameSpan := ⟨0, 0⟩, valueSpan := ⟨0, 0⟩, prefixSpan := ⟨0, 0⟩ }

/-- Forget the spans of a pending start tag. -/
def ElementBuilder.erase (e : ElementBuilder) : ElementBuilder :=
  { e with attributes := e.attributes.map AttributeBuilder.erase, prefixSpan := ⟨0, 0⟩, span := ⟨0, 0⟩ }

/-- Forget every position a builder state holds: `SpanInfo` and the spans of the pending tag. -/
def Builder.erase (b : Builder) : Builder :=
  { b with eb := b.eb.map ElementBuilder.erase, spans := [] }

/-- The position-free part of a step result: failures are all alike. -/
def Step.er {α β : Type} (f : α → β) : Step α → Option β
  | .ok a => some (f a)
  | _ => none

@[simp] theorem Step.er_ok {α β : Type} (f : α → β) (a : α) : (Step.ok a).er f = some (f a) := rfl
@[simp] theorem Step.er_err {α β : Type} (f : α → β) (e : ParseErr) (env : Env) :
    (Step.err e env : Step α).er f = none := rfl
@[simp] theorem Step.er_panic {α β : Type} (f : α → β) : (Step.panic : Step α).er f = none := rfl

theorem Step.er_cases {α β : Type} {f : α → β} {r r' : Step α} (h : r.er f = r'.er f) :
    (r.er f = none ∧ r'.er f = none) ∨ (∃ a a', r = .ok a ∧ r' = .ok a' ∧ f a = f a') := by
  cases r <;> cases r' <;> simp_all

theorem Step.er_none {α β : Type} {f : α → β} {r : Step α} (h : r.er f = none) :
    r = .panic ∨ ∃ e env, r = .err e env := by
  cases r <;> first | exact .inl rfl | exact .inr ⟨_, _, rfl⟩ | cases h

/-- `Step.er` forgets failures: two results agree under it as soon as each, if accepted, makes the other accepted
    with the same image. -/
theorem Step.er_eq_of {α β : Type} {f : α → β} {r r' : Step α}
    (h : ∀ a, r = .ok a → ∃ a', r' = .ok a' ∧ f a = f a')
    (h' : ∀ a', r' = .ok a' → ∃ a, r = .ok a ∧ f a' = f a) : r.er f = r'.er f := by
  cases r with
  | ok a =>
    obtain ⟨a', rfl, he⟩ := h a rfl
    exact congrArg some he
  | err e env =>
    cases r' with
    | ok a' => obtain ⟨_, h1, _⟩ := h' a' rfl; cases h1
    | err _ _ => rfl
    | panic => rfl
  | panic =>
    cases r' with
    | ok a' => obtain ⟨_, h1, _⟩ := h' a' rfl; cases h1
    | err _ _ => rfl
    | panic => rfl

theorem Step.er_ok_left {α β : Type} {f : α → β} {r r' : Step α} (h : r.er f = r'.er f) {a : α} (ha : r = .ok a) :
    ∃ a', r' = .ok a' ∧ f a = f a' := by
  subst ha
  cases r' with
  | ok a' => exact ⟨a', rfl, Option.some.inj h⟩
  | err e env => cases h
  | panic => cases h

theorem Builder.erase_eq_iff (b b' : Builder) : b.erase = b'.erase ↔
    b.env = b'.env ∧ b.cur = b'.cur ∧ b.parents = b'.parents ∧ b.nsStack = b'.nsStack ∧
    b.eb.map ElementBuilder.erase = b'.eb.map ElementBuilder.erase ∧
    b.seenIds = b'.seenIds ∧ b.idNodes = b'.idNodes ∧ b.openPrefixes = b'.openPrefixes := by
  obtain ⟨a1, a2, a3, a4, a5, a6, a7, a8, a9⟩ := b
  obtain ⟨b1, b2, b3, b4, b5, b6, b7, b8, b9⟩ := b'
  simp only [Builder.erase, Builder.mk.injEq, true_and]

theorem ElementBuilder.erase_eq_iff (e e' : ElementBuilder) : e.erase = e'.erase ↔
    e.pfx = e'.pfx ∧ e.name = e'.name ∧ e.namespaces = e'.namespaces ∧
    e.attributes.map AttributeBuilder.erase = e'.attributes.map AttributeBuilder.erase := by
  obtain ⟨a1, a2, a3, a4, a5, a6⟩ := e
  obtain ⟨b1, b2, b3, b4, b5, b6⟩ := e'
  simp only [ElementBuilder.erase, ElementBuilder.mk.injEq, and_true]

theorem AttributeBuilder.erase_eq_iff (a a' : AttributeBuilder) : a.erase = a'.erase ↔
    a.pfx = a'.pfx ∧ a.name = a'.name ∧ a.value = a'.value := by
  obtain ⟨a1, a2, a3, a4, a5, a6⟩ := a
  obtain ⟨b1, b2, b3, b4, b5, b6⟩ := a'
  simp only [AttributeBuilder.erase, AttributeBuilder.mk.injEq, and_true]

theorem eb_erase_cases {o o' : Option ElementBuilder}
    (h : o.map ElementBuilder.erase = o'.map ElementBuilder.erase) :
    (o = none ∧ o' = none) ∨ (∃ e e', o = some e ∧ o' = some e' ∧ e.erase = e'.erase) := by
  cases o <;> cases o' <;> simp_all

theorem eb_erase_some {o o' : Option ElementBuilder} (h : o.map ElementBuilder.erase = o'.map ElementBuilder.erase)
    {e : ElementBuilder} (he : o = some e) : ∃ e', o' = some e' ∧ e.erase = e'.erase := by
  rcases eb_erase_cases h with ⟨q1, _⟩ | ⟨e0, e', q1, q2, q3⟩
  · cases q1.symm.trans he
  · cases q1.symm.trans he
    exact ⟨e', q2, q3⟩

/-! ### The operations of `DocumentBuilder` modulo positions

  Each statement is `(b.op …).er Builder.erase = (b'.op …').er Builder.erase` for erasure-equal states and arguments
  with the same texts.  `Step.er` forgets failures, so for `prefix`, `attribute`, the attribute loop, `open_element`
  and `close_element` it is proved as two accepted simulations (`*_erase_ok`: accepted on one side — read through
  the operation's `*_ok_inv` lemma of Lemmas/ParseOps — gives accepted on the other, through its converse there,
  with an erasure-equal state; the hypotheses are symmetric); the short operations (`to_parent`, `leave`,
  `close_element_immediate`, text and CDATA) are compared by running both sides in step.
-/

theorem prefix_erase_ok {b b' : Builder} (hb : b.erase = b'.erase) (pfx : Str) {uri uri' : StrSpan}
    (hu : uri.text = uri'.text) (sp sp' : Span) {b1 : Builder} (h : b.prefix pfx uri sp = .ok b1) :
    ∃ b1', b'.prefix pfx uri' sp' = .ok b1' ∧ b1.erase = b1'.erase := by
  obtain ⟨u, eb, hp, hres, heb, hany, rfl⟩ := Builder.prefix_ok_inv h
  obtain ⟨h1, h2, h3, h4, h5, h6, h7, h8⟩ := (Builder.erase_eq_iff b b').1 hb
  obtain ⟨eb', heb', he⟩ := eb_erase_some h5 heb
  obtain ⟨r1, r2, r3, r4⟩ := (ElementBuilder.erase_eq_iff eb eb').1 he
  refine ⟨_, Builder.prefix_ok_of sp' (hu ▸ parseContentGo_ok_pos hp uri'.start 0) hres heb'
    (by rw [← h1, ← r3]; exact hany), ?_⟩
  rw [Builder.erase_eq_iff]
  simp only [Option.map_some, Option.some.injEq, ElementBuilder.erase_eq_iff, ← h1, ← r3]
  exact ⟨trivial, h2, h3, h4, ⟨r1, r2, trivial, r4⟩, h6, h7, h8⟩

theorem prefix_erase {b b' : Builder} (hb : b.erase = b'.erase) (pfx : Str) {uri uri' : StrSpan}
    (hu : uri.text = uri'.text) (sp sp' : Span) :
    (b.prefix pfx uri sp).er Builder.erase = (b'.prefix pfx uri' sp').er Builder.erase :=
  Step.er_eq_of (fun _ => prefix_erase_ok hb pfx hu sp sp') (fun _ => prefix_erase_ok hb.symm pfx hu.symm sp' sp)

theorem any_attr_erase (l : List AttributeBuilder) (x y : Str) :
    l.any (fun ab => ab.pfx == x && ab.name == y) =
      (l.map AttributeBuilder.erase).any (fun ab => ab.pfx == x && ab.name == y) := by
  rw [List.any_map]; rfl

theorem attribute_erase_ok {b b' : Builder} (hb : b.erase = b'.erase)
    {pfx pfx' loc loc' value value' : StrSpan}
    (hp : pfx.text = pfx'.text) (hl : loc.text = loc'.text) (hv : value.text = value'.text) {b1 : Builder}
    (h : b.attribute pfx loc value = .ok b1) :
    ∃ b1', b'.attribute pfx' loc' value' = .ok b1' ∧ b1.erase = b1'.erase := by
  obtain ⟨eb, v, heb, hany, hpv, rfl⟩ := Builder.attribute_ok_inv h
  obtain ⟨h1, h2, h3, h4, h5, h6, h7, h8⟩ := (Builder.erase_eq_iff b b').1 hb
  obtain ⟨eb', heb', he⟩ := eb_erase_some h5 heb
  obtain ⟨r1, r2, r3, r4⟩ := (ElementBuilder.erase_eq_iff eb eb').1 he
  have hany' : (eb'.attributes.any fun ab => ab.pfx == pfx'.text && ab.name == loc'.text) = false := by
    rw [any_attr_erase, ← r4, ← any_attr_erase, ← hp, ← hl]; exact hany
  refine ⟨_, Builder.attribute_ok_of heb' hany' (hv ▸ parseContentGo_ok_pos hpv value'.start 0), ?_⟩
  rw [Builder.erase_eq_iff]
  simp only [Option.map_some, Option.some.injEq, ElementBuilder.erase_eq_iff, List.map_append, List.map_cons,
    List.map_nil, r4, AttributeBuilder.erase, hp, hl]
  exact ⟨h1, h2, h3, h4, ⟨r1, r2, r3, trivial⟩, h6, h7, h8⟩

theorem attribute_erase {b b' : Builder} (hb : b.erase = b'.erase)
    {pfx pfx' loc loc' value value' : StrSpan}
    (hp : pfx.text = pfx'.text) (hl : loc.text = loc'.text) (hv : value.text = value'.text) :
    (b.attribute pfx loc value).er Builder.erase = (b'.attribute pfx' loc' value').er Builder.erase :=
  Step.er_eq_of (fun _ => attribute_erase_ok hb hp hl hv) (fun _ => attribute_erase_ok hb.symm hp.symm hl.symm hv.symm)

/-- Forget `attribute_spans`. -/
def AttrLoop.erase (st : AttrLoop) : AttrLoop := { st with aspans := [] }

theorem AttrLoop.erase_eq_iff (s s' : AttrLoop) : s.erase = s'.erase ↔
    s.env = s'.env ∧ s.seenIds = s'.seenIds ∧ s.idNodes = s'.idNodes ∧ s.seenNames = s'.seenNames ∧
    s.rkids = s'.rkids := by
  obtain ⟨a1, a2, a3, a4, a5, a6⟩ := s
  obtain ⟨b1, b2, b3, b4, b5, b6⟩ := s'
  simp only [AttrLoop.erase, AttrLoop.mk.injEq, and_true]

/-- The span of the prefix is read only to build an error. -/
theorem elementNameId_ok_span {env : Env} {stack : NsStack} {pfx name : Str} {sp : Span} {r : Env × Nat}
    (h : elementNameId env stack pfx name sp = .ok r) (sp' : Span) : elementNameId env stack pfx name sp' = .ok r := by
  obtain ⟨ns, hns, hr⟩ := BuilderCases.elementNameId_ok (env1 := r.1) (id := r.2) h
  simp only [elementNameId, hns, hr]

theorem attributeNameId_ok_span {env : Env} {stack : NsStack} {pfx name : Str} {sp : Span} {r : Env × Nat}
    (h : attributeNameId env stack pfx name sp = .ok r) (sp' : Span) :
    attributeNameId env stack pfx name sp' = .ok r := by
  rw [attributeNameId_eq] at h ⊢
  split at h
  · next h0 => rw [if_pos h0]; exact h
  · next h0 => rw [if_neg h0]; exact elementNameId_ok_span h sp'

theorem AttrLoop.push_erase {st st' : AttrLoop} (hst : st.erase = st'.erase) (node : Path) (env1 : Env) (nameId : Nat)
    {ab ab' : AttributeBuilder} (hv : ab.value = ab'.value) :
    (st.push node env1 nameId ab).erase = (st'.push node env1 nameId ab').erase := by
  obtain ⟨_, h2, h3, h4, h5⟩ := (AttrLoop.erase_eq_iff st st').1 hst
  rw [AttrLoop.erase_eq_iff]
  simp only [AttrLoop.push, h2, h3, h4, h5, hv, and_self]

/-- The attribute loop, accepted on one side: accepted on the other, with the same state up to `attribute_spans`. -/
theorem addAttributes_erase_ok (stack : NsStack) (node : Path) :
    ∀ (abs abs' : List AttributeBuilder) (st st' s : AttrLoop),
      abs.map AttributeBuilder.erase = abs'.map AttributeBuilder.erase → st.erase = st'.erase →
      addAttributes stack node st abs = .ok s →
      ∃ s', addAttributes stack node st' abs' = .ok s' ∧ s.erase = s'.erase
  | [], [], st, st', s, _, hst, h => ⟨st', rfl, Step.ok.inj h ▸ hst⟩
  | [], _ :: _, _, _, _, ha, _, _ => nomatch ha
  | _ :: _, [], _, _, _, ha, _, _ => nomatch ha
  | ab :: rest, ab' :: rest', st, st', s, ha, hst, h => by
    simp only [List.map_cons, List.cons.injEq, AttributeBuilder.erase_eq_iff] at ha
    obtain ⟨⟨a1, a2, a3⟩, ha⟩ := ha
    obtain ⟨t1, t2, _, t4, _⟩ := (AttrLoop.erase_eq_iff st st').1 hst
    obtain ⟨env1, nameId, hn, _⟩ := addAttributes_cons_ok h
    obtain ⟨h1, h2, h3⟩ := (addAttributes_cons_iff hn).1 h
    obtain ⟨s', hs', he⟩ := addAttributes_erase_ok stack node rest rest' _ _ s ha
      (AttrLoop.push_erase hst node env1 nameId a3) h3
    rw [t1, a1, a2] at hn
    exact ⟨s', (addAttributes_cons_iff (attributeNameId_ok_span hn ab'.prefixSpan)).2
      ⟨t4 ▸ h1, fun hid => a3 ▸ t2 ▸ h2 hid, hs'⟩, he⟩

theorem addAttributes_erase (stack : NsStack) (node : Path) (abs abs' : List AttributeBuilder) (st st' : AttrLoop)
    (ha : abs.map AttributeBuilder.erase = abs'.map AttributeBuilder.erase) (hst : st.erase = st'.erase) :
    (addAttributes stack node st abs).er AttrLoop.erase = (addAttributes stack node st' abs').er AttrLoop.erase :=
  Step.er_eq_of (fun s => addAttributes_erase_ok stack node abs abs' st st' s ha hst)
    (fun s => addAttributes_erase_ok stack node abs' abs st' st s ha.symm hst.symm)

theorem curPath_congr {b b' : Builder} (h : b.parents = b'.parents) : b.curPath = b'.curPath := by
  unfold Builder.curPath; rw [h]

theorem openElement_erase_ok {b b' : Builder} (hb : b.erase = b'.erase) {b1 : Builder} (h : b.openElement = .ok b1) :
    ∃ b1', b'.openElement = .ok b1' ∧ b1.erase = b1'.erase := by
  obtain ⟨h1, h2, h3, h4, h5, h6, h7, h8⟩ := (Builder.erase_eq_iff b b').1 hb
  obtain ⟨eb, env1, nameId, st, heb, hn, hst, rfl⟩ := Builder.openElement_ok_inv h
  obtain ⟨eb', heb', he⟩ := eb_erase_some h5 heb
  obtain ⟨r1, r2, r3, r4⟩ := (ElementBuilder.erase_eq_iff eb eb').1 he
  rw [h1, r3, h4, r1, r2] at hn
  rw [r3, h4, curPath_congr h3, h2, h6, h7] at hst
  obtain ⟨st', hst', hse⟩ := addAttributes_erase_ok _ _ eb.attributes eb'.attributes _ _ st r4 rfl hst
  obtain ⟨t1, t2, t3, _, t5⟩ := (AttrLoop.erase_eq_iff st st').1 hse
  refine ⟨_, Builder.openElement_ok_of heb' (elementNameId_ok_span hn _) hst', ?_⟩
  rw [Builder.erase_eq_iff]
  simp only [t1, t2, t3, t5, h2, h3, h4, h8, r1, r3, Option.map_none, and_self]

theorem openElement_erase {b b' : Builder} (hb : b.erase = b'.erase) :
    b.openElement.er Builder.erase = b'.openElement.er Builder.erase :=
  Step.er_eq_of (fun _ => openElement_erase_ok hb) (fun _ => openElement_erase_ok hb.symm)

theorem addText_erase {b b' : Builder} (hb : b.erase = b'.erase) (c : Str) :
    (b.addText c).1.erase = (b'.addText c).1.erase := by
  obtain ⟨h1, h2, h3, h4, h5, h6, h7, h8⟩ := (Builder.erase_eq_iff b b').1 hb
  unfold Builder.addText
  rw [← h2]
  split <;> (rw [Builder.erase_eq_iff]; exact ⟨h1, rfl, h3, h4, h5, h6, h7, h8⟩)

theorem text_erase {b b' : Builder} (hb : b.erase = b'.erase) {t t' : StrSpan} (ht : t.text = t'.text) :
    (b.text t).er Builder.erase = (b'.text t').er Builder.erase := by
  unfold Builder.text
  rw [← ht]
  rcases parseContentGo_cases false t.start t'.start 0 0 t.text with ⟨e, e', p1, p2⟩ | ⟨v, p1, p2⟩
  · rw [p1, p2]; rfl
  · rw [p1, p2]
    simp only [Step.er_ok, Option.some.injEq]
    exact addText_erase hb v

theorem cdata_erase {b b' : Builder} (hb : b.erase = b'.erase) {t t' : StrSpan} (ht : t.text = t'.text) :
    (b.cdata t).er Builder.erase = (b'.cdata t').er Builder.erase := by
  unfold Builder.cdata
  rw [← ht]
  split
  · simp only [Step.er_ok, hb]
  · simp only [Step.er_ok, Option.some.injEq]
    exact addText_erase hb _

theorem toParent_erase {b b' : Builder} (hb : b.erase = b'.erase) :
    b.toParent.er Builder.erase = b'.toParent.er Builder.erase := by
  obtain ⟨h1, h2, h3, h4, h5, h6, h7, h8⟩ := (Builder.erase_eq_iff b b').1 hb
  unfold Builder.toParent
  rw [← h3, ← h2]
  split
  · rfl
  · simp only [Step.er_ok, Option.some.injEq]
    rw [Builder.erase_eq_iff]
    exact ⟨h1, rfl, rfl, h4, h5, h6, h7, h8⟩

theorem leave_erase {b b' : Builder} (hb : b.erase = b'.erase) (node node' : Path) (sp sp' : StrSpan) :
    (b.leave node sp).er Builder.erase = (b'.leave node' sp').er Builder.erase := by
  have h := toParent_erase hb
  unfold Builder.leave
  rcases Step.er_cases h with ⟨n1, n2⟩ | ⟨c, c', s1, s2, s3⟩
  · rcases Step.er_none n1 with n1 | ⟨_, _, n1⟩ <;> rcases Step.er_none n2 with n2 | ⟨_, _, n2⟩ <;>
      rw [n1, n2] <;> rfl
  · rw [s1, s2]
    simp only [Step.er_ok, Option.some.injEq]
    exact s3

theorem closeImmediate_erase {b b' : Builder} (hb : b.erase = b'.erase) (sp sp' : StrSpan) :
    (b.closeImmediate sp).er Builder.erase = (b'.closeImmediate sp').er Builder.erase := by
  obtain ⟨h1, h2, h3, h4, h5, h6, h7, h8⟩ := (Builder.erase_eq_iff b b').1 hb
  unfold Builder.closeImmediate
  apply leave_erase
  rw [← h2]
  split
  · rw [Builder.erase_eq_iff]; exact ⟨h1, rfl, h3, by simp only [h4], h5, h6, h7, by simp only [h8]⟩
  · exact hb

theorem closeElement_erase_ok {b b' : Builder} (hb : b.erase = b'.erase) {pfx pfx' loc loc' : StrSpan}
    (hp : pfx.text = pfx'.text) (hl : loc.text = loc'.text) (sp sp' : StrSpan) {b1 : Builder}
    (h : b.closeElement pfx loc sp = .ok b1) :
    ∃ b1', b'.closeElement pfx' loc' sp' = .ok b1' ∧ b1.erase = b1'.erase := by
  obtain ⟨h1, h2, h3, h4, h5, h6, h7, h8⟩ := (Builder.erase_eq_iff b b').1 hb
  obtain ⟨env1, nameId, hn, hpar, ⟨hv, hs, hle⟩ | ⟨hv, hle⟩⟩ := Builder.closeElement_ok_inv h
  all_goals
    have hn' : elementNameId b'.env b'.nsStack pfx'.text loc'.text pfx'.span = .ok (env1, nameId) := by
      rw [← h1, ← h4, ← hp, ← hl]; exact elementNameId_ok_span hn _
  · obtain ⟨b1', hle', he⟩ := Step.er_ok_left (leave_erase
      (b' := { b' with env := env1, nsStack := b'.nsStack.tail, openPrefixes := b'.openPrefixes.tail })
      (by rw [Builder.erase_eq_iff]; exact ⟨rfl, h2, h3, by rw [h4], h5, h6, h7, by rw [h8]⟩)
      b.curPath b'.curPath sp sp') hle
    exact ⟨b1', by rw [Builder.closeElement_element hn' (h3 ▸ hpar) (h2 ▸ hv) (h8 ▸ hp ▸ hs)]; exact hle', he⟩
  · obtain ⟨b1', hle', he⟩ := Step.er_ok_left (leave_erase (b' := { b' with env := env1 })
      (by rw [Builder.erase_eq_iff]; exact ⟨rfl, h2, h3, h4, h5, h6, h7, h8⟩) b.curPath b'.curPath sp sp') hle
    exact ⟨b1', by rw [Builder.closeElement_other hn' (h3 ▸ hpar) (h2 ▸ hv)]; exact hle', he⟩

theorem closeElement_erase {b b' : Builder} (hb : b.erase = b'.erase) {pfx pfx' loc loc' : StrSpan}
    (hp : pfx.text = pfx'.text) (hl : loc.text = loc'.text) (sp sp' : StrSpan) :
    (b.closeElement pfx loc sp).er Builder.erase = (b'.closeElement pfx' loc' sp').er Builder.erase :=
  Step.er_eq_of (fun _ => closeElement_erase_ok hb hp hl sp sp')
    (fun _ => closeElement_erase_ok hb.symm hp.symm hl.symm sp' sp)

theorem element_erase {b b' : Builder} (hb : b.erase = b'.erase) {pfx pfx' loc loc' : StrSpan}
    (hp : pfx.text = pfx'.text) (hl : loc.text = loc'.text) :
    (b.element pfx loc).erase = (b'.element pfx' loc').erase := by
  obtain ⟨h1, h2, h3, h4, h5, h6, h7, h8⟩ := (Builder.erase_eq_iff b b').1 hb
  rw [Builder.erase_eq_iff]
  refine ⟨h1, h2, h3, h4, ?_, h6, h7, h8⟩
  simp only [Builder.element, Option.map_some, Option.some.injEq, ElementBuilder.erase_eq_iff,
    ElementBuilder.new, hp, hl, List.map_nil, and_self]

theorem comment_erase {b b' : Builder} (hb : b.erase = b'.erase) {t t' : StrSpan} (ht : t.text = t'.text) :
    (b.comment t).erase = (b'.comment t').erase := by
  obtain ⟨h1, h2, h3, h4, h5, h6, h7, h8⟩ := (Builder.erase_eq_iff b b').1 hb
  rw [Builder.erase_eq_iff]
  simp only [Builder.comment, Builder.addLeaf, ht, h2]
  exact ⟨h1, trivial, h3, h4, h5, h6, h7, h8⟩

theorem pi_erase {b b' : Builder} (hb : b.erase = b'.erase) {t t' : StrSpan} (ht : t.text = t'.text)
    {c c' : Option StrSpan} (hc : c.map (fun x => x.text) = c'.map (fun x => x.text)) :
    (b.processingInstruction t c).erase = (b'.processingInstruction t' c').erase := by
  obtain ⟨h1, h2, h3, h4, h5, h6, h7, h8⟩ := (Builder.erase_eq_iff b b').1 hb
  rw [Builder.erase_eq_iff]
  have hc' : c.map (fun x => normalizeLineEnds x.text) = c'.map (fun x => normalizeLineEnds x.text) := by
    cases c <;> cases c' <;> simp_all
  simp only [Builder.processingInstruction, Builder.addLeaf, ht, h1, h2, hc']
  exact ⟨trivial, trivial, h3, h4, h5, h6, h7, h8⟩

/-! ### One token, the token loop -/

/-- An arm commutes with erasure of the token (and of the state). -/
theorem stepCore_erase1 {b b' : Builder} (hb : b.erase = b'.erase) (t : Token) :
    (b.stepCore t).er Builder.erase = (b'.stepCore t.erase).er Builder.erase := by
  cases t with
  | «attribute» pfx loc value sp =>
    simp only [Token.erase, Builder.stepCore, StrSpan.erase]
    split
    · exact prefix_erase hb _ (by rfl) _ _
    · split
      · exact prefix_erase hb _ (by rfl) _ _
      · exact attribute_erase hb (by rfl) (by rfl) (by rfl)
  | text t => simp only [Token.erase, Builder.stepCore]; exact text_erase hb (by rfl)
  | cdata t sp => simp only [Token.erase, Builder.stepCore]; exact cdata_erase hb (by rfl)
  | elementStart pfx loc sp =>
    simp only [Token.erase, Builder.stepCore, Step.er_ok, Option.some.injEq]
    exact element_erase hb (by rfl) (by rfl)
  | elementEnd e sp =>
    cases e with
    | «open» => simp only [Token.erase, Builder.stepCore]; exact openElement_erase hb
    | close pfx loc => simp only [Token.erase, Builder.stepCore]; exact closeElement_erase hb (by rfl) (by rfl) _ _
    | empty =>
      simp only [Token.erase, Builder.stepCore]
      rcases Step.er_cases (openElement_erase hb) with ⟨n1, n2⟩ | ⟨c, c', s1, s2, s3⟩
      · rcases Step.er_none n1 with n1 | ⟨_, _, n1⟩ <;> rcases Step.er_none n2 with n2 | ⟨_, _, n2⟩ <;>
          rw [n1, n2] <;> rfl
      · rw [s1, s2]
        exact closeImmediate_erase s3 _ _
  | comment t sp =>
    simp only [Token.erase, Builder.stepCore, Step.er_ok, Option.some.injEq]
    exact comment_erase hb (by rfl)
  | pi target content sp =>
    simp only [Token.erase, Builder.stepCore, StrSpan.erase]
    split
    · rfl
    simp only [Step.er_ok, Option.some.injEq]
    refine pi_erase hb (by rfl) ?_
    cases content <;> rfl
  | declaration version enc sa sp =>
    simp only [Token.erase, Builder.stepCore, StrSpan.erase]
    split
    · rfl
    · simp only [Step.er_ok, hb]
  | dtdStart sp | dtdEnd sp | emptyDtd sp | entityDecl sp => rfl

/-- A step commutes with erasure of the token (and of the state), for a token that passes
    `check_qname` (/repo a5fafb0: the one place where xot looks at a byte position - an empty
    prefix at a non-zero offset is a colon with nothing in front of it; the erased token, all
    offsets 0, always passes). -/
theorem step_erase1 {b b' : Builder} (hb : b.erase = b'.erase) (t : Token) (hq : t.prefixOk = true) :
    (b.step t).er Builder.erase = (b'.step t.erase).er Builder.erase := by
  rw [b.step_eq_core hq, b'.step_eq_core (Token.erase_prefixOk t)]
  exact stepCore_erase1 hb t

theorem step_erase {b b' : Builder} (hb : b.erase = b'.erase) {t t' : Token} (ht : t.erase = t'.erase)
    (hq : t.prefixOk = true) (hq' : t'.prefixOk = true) :
    (b.step t).er Builder.erase = (b'.step t').er Builder.erase := by
  rw [step_erase1 hb t hq, ht, ← step_erase1 (rfl : b'.erase = b'.erase) t' hq']

/-- `lexErr` matters only through being there. -/
theorem run_erase : ∀ (ts ts' : List Token) (b b' : Builder) (le le' : Option Nat),
    b.erase = b'.erase → ts.map Token.erase = ts'.map Token.erase → le.isSome = le'.isSome →
    tokensPrefixOk ts = true → tokensPrefixOk ts' = true →
    (b.run ts le).er Builder.erase = (b'.run ts' le').er Builder.erase := by
  intro ts
  induction ts with
  | nil =>
    intro ts' b b' le le' hb hts hle _ _
    cases ts' with
    | cons t' r' => simp at hts
    | nil =>
      cases le <;> cases le' <;> simp at hle
      · simp only [Builder.run]
        obtain ⟨h1, h2, h3, h4, h5, h6, h7, h8⟩ := (Builder.erase_eq_iff b b').1 hb
        rcases eb_erase_cases h5 with ⟨q1, q2⟩ | ⟨e, e', q1, q2, q3⟩
        · rw [q1, q2]; simp only [Step.er_ok, hb]
        · rw [q1, q2]; rfl
      · rfl
  | cons t r ih =>
    intro ts' b b' le le' hb hts hle hq hq'
    cases ts' with
    | nil => simp at hts
    | cons t' r' =>
      simp only [List.map_cons, List.cons.injEq] at hts
      simp only [tokensPrefixOk_cons, Bool.and_eq_true] at hq hq'
      simp only [Builder.run]
      rcases Step.er_cases (step_erase hb hts.1 hq.1 hq'.1) with ⟨n1, n2⟩ | ⟨c, c', s1, s2, s3⟩
      · rcases Step.er_none n1 with n1 | ⟨_, _, n1⟩ <;> rcases Step.er_none n2 with n2 | ⟨_, _, n2⟩ <;>
          rw [n1, n2] <;> rfl
      · rw [s1, s2]
        exact ih r' c c' le le' s3 hts.2 hle hq.2 hq'.2

/-! ### The epilogues and `build` -/

/-- What of a result does not depend on positions. -/
def BuildResult.okPart : BuildResult → Option (Tree × Env × List (Str × Path))
  | .ok p => some (p.tree, p.env, p.ids)
  | _ => none

/-- The success value of an `Outcome`. -/
def Outcome.okOf {ε α : Type} : Outcome ε α → Option α
  | .ok a => some a
  | _ => none

/-- `topLevelScan` consults `SpanInfo` only to build an error. -/
theorem topLevelScan_okOf (sp sp' : SpanMap) : ∀ (ks : List Tree) (i : Nat) (es : List Nat),
    (topLevelScan sp i ks es).okOf = (topLevelScan sp' i ks es).okOf := by
  intro ks
  induction ks with
  | nil => intro i es; rfl
  | cons k rest ih =>
    intro i es
    simp only [topLevelScan]
    cases k.value with
    | element n => exact ih _ _
    | text s =>
      simp only
      cases SpanMap.get sp ⟨[i], .text⟩ <;> cases SpanMap.get sp' ⟨[i], .text⟩ <;> rfl
    | document => exact ih _ _
    | pi t d => exact ih _ _
    | comment s => exact ih _ _
    | «attribute» n v => exact ih _ _
    | «namespace» p n => exact ih _ _

theorem unclosed_okPart (b : Builder) : b.unclosed.okPart = none := by
  unfold Builder.unclosed
  cases b.spans.get ⟨b.curPath, .elementStart⟩ <;> rfl

theorem parsed_okPart {b b' : Builder} (hb : b.erase = b'.erase) :
    (BuildResult.ok b.parsed).okPart = (BuildResult.ok b'.parsed).okPart := by
  obtain ⟨h1, h2, h3, h4, h5, h6, h7, h8⟩ := (Builder.erase_eq_iff b b').1 hb
  simp only [BuildResult.okPart, Builder.parsed, Builder.root, h1, h2, h3, h7]

theorem finishFragment_erase {b b' : Builder} (hb : b.erase = b'.erase) :
    b.finishFragment.okPart = b'.finishFragment.okPart := by
  obtain ⟨h1, h2, h3, h4, h5, h6, h7, h8⟩ := (Builder.erase_eq_iff b b').1 hb
  unfold Builder.finishFragment Builder.isCurrentDocument
  rw [← h2]
  split
  · exact parsed_okPart hb
  · rw [unclosed_okPart, unclosed_okPart]

theorem finishDocument_erase (len len' : Nat) {b b' : Builder} (hb : b.erase = b'.erase) :
    (b.finishDocument len).okPart = (b'.finishDocument len').okPart := by
  obtain ⟨h1, h2, h3, h4, h5, h6, h7, h8⟩ := (Builder.erase_eq_iff b b').1 hb
  have hr : b'.root = b.root := by simp only [Builder.root, h2, h3]
  unfold Builder.finishDocument Builder.isCurrentDocument
  rw [← h2, hr]
  split
  · have hs := topLevelScan_okOf b.spans b'.spans b.root.kids 0 []
    cases s1 : topLevelScan b.spans 0 b.root.kids [] <;>
      cases s2 : topLevelScan b'.spans 0 b.root.kids [] <;>
      simp only [s1, s2, Outcome.okOf, reduceCtorEq, Option.some.injEq] at hs <;> try rfl
    subst hs
    rename_i es
    match es with
    | [] => rfl
    | [_] => exact parsed_okPart hb
    | _ :: second :: _ =>
      simp only
      cases b.spans.get ⟨[second], .elementStart⟩ <;> cases b'.spans.get ⟨[second], .elementStart⟩ <;> rfl
  · rw [unclosed_okPart, unclosed_okPart]

/-- Byte positions (and the length of the source) do not matter for what `build` returns on
    success, nor for whether it succeeds - for token lists that pass `check_qname`, the one test of
    a byte position in xot: no empty prefix at a non-zero offset (`tokensPrefixOk`; a list that does
    not pass is refused, `Builder.step_refused`). The tokenizer error matters only through being
    there. -/
theorem build_erase_lex (mode : Mode) (len len' : Nat) (env : Env) (ts ts' : List Token)
    (le le' : Option Nat) (h : ts.map Token.erase = ts'.map Token.erase) (hle : le.isSome = le'.isSome)
    (hq : tokensPrefixOk ts = true) (hq' : tokensPrefixOk ts' = true) :
    (build mode len env ts le).okPart = (build mode len' env ts' le').okPart := by
  unfold build
  rcases Step.er_cases (run_erase ts ts' _ _ le le' rfl h hle hq hq') with
    ⟨n1, n2⟩ | ⟨c, c', s1, s2, s3⟩
  · rcases Step.er_none n1 with n1 | ⟨_, _, n1⟩ <;> rcases Step.er_none n2 with n2 | ⟨_, _, n2⟩ <;>
      rw [n1, n2] <;> rfl
  · rw [s1, s2]
    cases mode with
    | document => exact finishDocument_erase len len' s3
    | fragment => exact finishFragment_erase s3

theorem build_erase (mode : Mode) (len len' : Nat) (env : Env) (ts ts' : List Token)
    (h : ts.map Token.erase = ts'.map Token.erase)
    (hq : tokensPrefixOk ts = true) (hq' : tokensPrefixOk ts' = true) :
    (build mode len env ts none).okPart = (build mode len' env ts' none).okPart :=
  build_erase_lex mode len len' env ts ts' none none h rfl hq hq'

/-- The erased list decides: `build` on any list that passes `check_qname` is `build` on its
    erasure (which always passes). -/
theorem build_erase_self (mode : Mode) (len len' : Nat) (env : Env) (ts : List Token)
    (hq : tokensPrefixOk ts = true) :
    (build mode len env ts none).okPart = (build mode len' env (ts.map Token.erase) none).okPart :=
  build_erase mode len len' env ts _ (by simp [Token.erase_erase]) hq (tokensPrefixOk_erase ts)

/-- An accepted token list passes `check_qname`. -/
theorem build_ok_prefixOk {mode : Mode} {len : Nat} {env : Env} {ts : List Token} {le : Option Nat}
    {p : Parsed} (hp : build mode len env ts le = .ok p) : tokensPrefixOk ts = true := by
  obtain ⟨b, hr, _, _⟩ := build_ok_parsed hp
  exact Builder.run_ok_prefixOk ts _ b le hr

/-- From an accepted list to any list with the same erasure that passes `check_qname`. -/
theorem build_erase_ok (mode : Mode) (len len' : Nat) (env : Env) (ts ts' : List Token)
    (h : ts.map Token.erase = ts'.map Token.erase) (hq' : tokensPrefixOk ts' = true) (p : Parsed)
    (hp : build mode len env ts none = .ok p) :
    ∃ p', build mode len' env ts' none = .ok p' ∧ p'.tree = p.tree ∧ p'.env = p.env ∧ p'.ids = p.ids := by
  have he := build_erase mode len len' env ts ts' h (build_ok_prefixOk hp) hq'
  rw [hp] at he
  cases hb : build mode len' env ts' none with
  | ok p' =>
    rw [hb] at he
    simp only [BuildResult.okPart, Option.some.injEq, Prod.mk.injEq] at he
    exact ⟨p', rfl, he.1.symm, he.2.1.symm, he.2.2.symm⟩
  | err e v => rw [hb] at he; simp [BuildResult.okPart] at he
  | panic => rw [hb] at he; simp [BuildResult.okPart] at he

end XotModel
