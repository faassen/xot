/-
  Handle trees and lists of them, one function at a time: which handles occur, lookup (`find?`), the edits
  (`mapAt`, `replaceKids`), contexts, ancestors, `erase` and validity; the invariant as a structure of propositions
  (`Forest.Inv`); then the forest operations that are one of these applied to `roots` (`newNode`, `get?`, `value?`,
  text consolidation, `structureCheck`).  How the lookups relate to each other is in Lemmas/HTreeBasic.lean, on top of
  the one-hole contexts of Lemmas/HTreeZipper.lean.
-/
import XotModel.Model.ForestInv
import XotModel.Lemmas.SelfMergeBridge

/-! ## `setValue` keeps the handles; `Forest.Inv` (equivalent to the Boolean `Forest.inv`); strict validity implies non-strict -/

namespace XotModel
open HTree

mutual
  theorem handles_mapAt_setValue (h : Nat) (v : Value) : ∀ t : HTree,
      handles (mapAt h (HTree.setValue v) t) = handles t
    | .node h' v' ks => by
      unfold mapAt
      by_cases hh : h' = h
      · simp [hh, HTree.setValue, handles]
      · simp only [hh, if_false, handles]
        rw [handlesList_mapAtList_setValue h v ks]
  theorem handlesList_mapAtList_setValue (h : Nat) (v : Value) : ∀ ks : List HTree,
      handlesList (mapAtList h (HTree.setValue v) ks) = handlesList ks
    | [] => by simp [mapAtList, handlesList]
    | k :: ks => by
      simp only [mapAtList, handlesList]
      rw [handles_mapAt_setValue h v k, handlesList_mapAtList_setValue h v ks]
end

theorem mapAtList_eq_map (h : Nat) (g : HTree → HTree) (ks : List HTree) :
    mapAtList h g ks = ks.map (mapAt h g) := by
  induction ks with
  | nil => rfl
  | cons k ks ih => simp [mapAtList, ih]

theorem Forest.allHandles_setValue (f : Forest) (h : Nat) (v : Value) :
    (f.setValue h v).allHandles = f.allHandles := by
  unfold Forest.setValue Forest.allHandles
  simp only
  rw [← mapAtList_eq_map, handlesList_mapAtList_setValue]

/-- The invariant, unpacked into propositions. -/
structure Forest.Inv (f : Forest) : Prop where
  notCorrupt : f.corrupt = false
  nodup : f.allHandles.Nodup
  below : ∀ h ∈ f.allHandles, h < f.next
  valid : validList (!f.everOff) f.roots = true
  consOn : f.consolidation = true ∨ f.everOff = true

theorem Forest.inv_iff (f : Forest) : f.inv = true ↔ f.Inv := by
  unfold Forest.inv
  constructor
  · intro h
    simp only [Bool.and_eq_true, Bool.not_eq_true', decide_eq_true_eq, List.all_eq_true,
      Bool.or_eq_true] at h
    obtain ⟨⟨⟨⟨h1, h2⟩, h3⟩, h4⟩, h5⟩ := h
    exact ⟨h1, h2, h3, h4, h5⟩
  · intro ⟨h1, h2, h3, h4, h5⟩
    simp only [Bool.and_eq_true, Bool.not_eq_true', decide_eq_true_eq, List.all_eq_true,
      Bool.or_eq_true]
    exact ⟨⟨⟨⟨h1, h2⟩, h3⟩, h4⟩, h5⟩

mutual
  theorem validTree_weaken : ∀ t : HTree, validTree true t = true → validTree false t = true
    | .node h v ks => by
      intro hv
      simp only [validTree, Bool.and_eq_true] at hv ⊢
      obtain ⟨⟨⟨⟨⟨h1, h2⟩, h3⟩, h4⟩, _⟩, h6⟩ := hv
      exact ⟨⟨⟨⟨⟨h1, h2⟩, h3⟩, h4⟩, by simp⟩, validList_weaken ks h6⟩
  theorem validList_weaken : ∀ ks : List HTree, validList true ks = true → validList false ks = true
    | [] => by simp [validList]
    | k :: ks => by
      intro hv
      simp only [validList, Bool.and_eq_true] at hv ⊢
      exact ⟨validTree_weaken k hv.1, validList_weaken ks hv.2⟩
end

theorem validList_weaken' (b : Bool) (ks : List HTree) (h : validList b ks = true) :
    validList false ks = true := by
  cases b with
  | false => exact h
  | true => exact validList_weaken ks h

end XotModel

/-! ## Handle trees and lists of them, one function at a time -/

/-! ### Handles and handle lists -/

namespace XotModel
open HTree Forest

theorem handles_eq (t : HTree) : handles t = t.handle :: handlesList t.kids := by
  cases t with | node h v ks => simp [handles, HTree.handle, HTree.kids]

theorem handlesList_nil : handlesList [] = [] := by simp [handlesList]

theorem handlesList_cons (k : HTree) (ks : List HTree) :
    handlesList (k :: ks) = handles k ++ handlesList ks := by simp [handlesList]

theorem handles_node (h : Nat) (v : Value) (ks : List HTree) :
    handles (.node h v ks) = h :: handlesList ks := by simp [handles]

theorem nodup_handles_node {h : Nat} {v : Value} {ks : List HTree} (nd : (handles (.node h v ks)).Nodup) :
    h ∉ handlesList ks ∧ (handlesList ks).Nodup := by
  rw [handles_node] at nd
  exact List.nodup_cons.1 nd

theorem handle_mem_handles (t : HTree) : t.handle ∈ handles t := by
  cases t with
  | node h v ks => simp [HTree.handle, handles]

theorem handlesList_append (A B : List HTree) :
    handlesList (A ++ B) = handlesList A ++ handlesList B := by
  induction A with
  | nil => simp [handlesList]
  | cons a A ih => simp [handlesList, ih, List.append_assoc]

theorem handles_subset_handlesList {t : HTree} {L : List HTree} (ht : t ∈ L) :
    ∀ h ∈ handles t, h ∈ handlesList L := by
  induction L with
  | nil => cases ht
  | cons a L ih =>
    intro h hh
    simp only [handlesList, List.mem_append]
    cases ht with
    | head => exact Or.inl hh
    | tail _ ht' => exact Or.inr (ih ht' h hh)

theorem rootHandle_mem_handlesList {t : HTree} {L : List HTree} (ht : t ∈ L) :
    t.handle ∈ handlesList L :=
  handles_subset_handlesList ht _ (handle_mem_handles t)

theorem fhl_getElem?_handles : ∀ (ks : List HTree) (i : Nat) (k : HTree), ks[i]? = some k →
    ∀ x ∈ handles k, x ∈ handlesList ks
  | [], _, _, h, _, _ => by simp at h
  | k' :: ks, 0, k, h, x, hx => by
    simp only [List.getElem?_cons_zero, Option.some.injEq] at h
    subst h; simp [handlesList, hx]
  | k' :: ks, i + 1, k, h, x, hx => by
    simp only [List.getElem?_cons_succ] at h
    simp [handlesList, fhl_getElem?_handles ks i k h x hx]

theorem setValue_handles (v : Value) (t : HTree) : handles (t.setValue v) = handles t := by
  cases t; simp [HTree.setValue, handles]

theorem setValue_handle (v : Value) (t : HTree) : (t.setValue v).handle = t.handle := by
  cases t; rfl

theorem setValue_value (v : Value) (t : HTree) : (t.setValue v).value = v := by
  cases t; rfl

theorem setValue_kids (v : Value) (t : HTree) : (t.setValue v).kids = t.kids := by
  cases t; rfl

end XotModel

namespace XotModel.Fws
open HTree Forest

theorem nodup_handlesList_cons {k : HTree} {ks : List HTree} (h : (handlesList (k :: ks)).Nodup) :
    (handles k).Nodup ∧ (handlesList ks).Nodup ∧ ∀ a ∈ handles k, a ∉ handlesList ks := by
  simp only [handlesList] at h
  obtain ⟨h1, h2, h3⟩ := List.nodup_append.1 h
  exact ⟨h1, h2, fun a ha hb => h3 a ha a hb rfl⟩

theorem mem_handlesList {h : Nat} : ∀ {ks : List HTree}, h ∈ handlesList ks ↔ ∃ k ∈ ks, h ∈ handles k
  | [] => by simp [handlesList]
  | k :: ks => by
    simp only [handlesList, List.mem_append, List.mem_cons, exists_eq_or_imp]
    rw [Fws.mem_handlesList (ks := ks)]

mutual
  theorem descendantsNormal_sublist : ∀ t : HTree, (Forest.descendantsNormal t).Sublist (handles t)
    | .node h v ks => by
      simp only [Forest.descendantsNormal, handles]
      split
      · exact (descendantsNormalList_sublist ks).cons_cons h
      · exact (descendantsNormalList_sublist ks).cons h
  theorem descendantsNormalList_sublist : ∀ ks : List HTree,
      (Forest.descendantsNormalList ks).Sublist (handlesList ks)
    | [] => List.Sublist.refl _
    | k :: ks => by
      simp only [Forest.descendantsNormalList, handlesList]
      exact (descendantsNormal_sublist k).append (descendantsNormalList_sublist ks)
end

end XotModel.Fws

namespace XotModel.Fmap
open HTree Forest

def hv (c : HTree) : Nat × Value := (c.handle, c.value)

/-- A node seen without its grandchildren: its value and its children's handles and values. -/
def shallow (t : HTree) : Value × List (Nat × Value) := (t.value, t.kids.map hv)

theorem handles_sublist_of_mem {k : HTree} : ∀ {ks : List HTree}, k ∈ ks → (handles k).Sublist (handlesList ks)
  | [], h => by cases h
  | a :: ks, h => by
    simp only [handlesList]
    rcases List.mem_cons.1 h with rfl | h'
    · exact List.sublist_append_left _ _
    · exact (Fmap.handles_sublist_of_mem h').trans (List.sublist_append_right _ _)

theorem handles_kid_sublist {p k : HTree} (hk : k ∈ p.kids) : (handles k).Sublist (handles p) := by
  rw [handles_eq p]
  exact (Fmap.handles_sublist_of_mem hk).trans (List.sublist_cons_self _ _)

end XotModel.Fmap

/-! ### `find?` and `findList?` -/

namespace XotModel
open HTree Forest

theorem findList?_cons_none {h : Nat} {k : HTree} {ks : List HTree}
    (e : find? h k = none) : findList? h (k :: ks) = findList? h ks := by
  simp [findList?, e]

theorem findList?_cons_some {h : Nat} {k : HTree} {ks : List HTree} {t : HTree}
    (e : find? h k = some t) : findList? h (k :: ks) = some t := by
  simp [findList?, e]

theorem findList?_cons (x : Nat) (k : HTree) (ks : List HTree) :
    findList? x (k :: ks) = (find? x k).or (findList? x ks) := by
  cases hk : find? x k with
  | some t => rw [findList?_cons_some hk]; rfl
  | none => rw [findList?_cons_none hk]; rfl

theorem findList?_nil (h : Nat) : findList? h [] = none := by simp [findList?]

theorem find?_node (h h' : Nat) (v : Value) (ks : List HTree) :
    find? h (.node h' v ks) = if h' = h then some (.node h' v ks) else findList? h ks := by
  simp [find?]

theorem find?_leaf {a : HTree} {z : Nat} (ha : a.kids = []) (hza : a.handle ≠ z) : find? z a = none := by
  cases a with
  | node h v ks =>
    simp only [HTree.kids] at ha; subst ha
    simp only [HTree.handle] at hza
    rw [find?_node, if_neg hza, findList?_nil]

theorem fc_findList?_root (h : Nat) : ∀ (L : List HTree) (s : HTree), findList? h L = some s →
    ∃ t ∈ L, find? h t = some s
  | [], s => by intro hs; simp [findList?] at hs
  | k :: ks, s => by
    intro hs
    unfold findList? at hs
    cases hk : find? h k with
    | some t =>
      rw [hk] at hs
      cases hs
      exact ⟨k, by simp, hk⟩
    | none =>
      rw [hk] at hs
      obtain ⟨t, ht, h2⟩ := fc_findList?_root h ks s hs
      exact ⟨t, by simp [ht], h2⟩

end XotModel

namespace XotModel.Fmap
open HTree Forest

theorem findList?_singleton (e : Nat) (k : HTree) : findList? e [k] = find? e k := by
  simp only [findList?]
  cases find? e k <;> rfl

theorem findList?_append (e : Nat) (a b : List HTree) :
    findList? e (a ++ b) = (findList? e a).or (findList? e b) := by
  induction a with
  | nil => simp [findList?]
  | cons k a ih =>
    simp only [List.cons_append, findList?]
    cases find? e k with
    | some t => rfl
    | none => exact ih

mutual
  theorem find?_closed {P : HTree → Prop} (hP : ∀ p k, P p → k ∈ p.kids → P k) (h : Nat) :
      ∀ t q : HTree, P t → find? h t = some q → P q
    | .node h' v ks, q, ht, hq => by
      simp only [find?] at hq
      split at hq
      · cases hq; exact ht
      · exact Fmap.findList?_closed hP h ks q (fun k hk => hP _ k ht hk) hq
  theorem findList?_closed {P : HTree → Prop} (hP : ∀ p k, P p → k ∈ p.kids → P k) (h : Nat) :
      ∀ (ks : List HTree) (q : HTree), (∀ k ∈ ks, P k) → findList? h ks = some q → P q
    | [], _, _, hq => by cases hq
    | k :: ks, q, hks, hq => by
      simp only [findList?] at hq
      split at hq
      · rename_i t hk
        cases hq
        exact Fmap.find?_closed hP h k _ (hks k List.mem_cons_self) hk
      · exact Fmap.findList?_closed hP h ks q (fun k' hk' => hks k' (List.mem_cons_of_mem _ hk')) hq
end

end XotModel.Fmap

namespace XotModel
open HTree Forest

theorem fa_find?_sublist (h : Nat) (t t' : HTree) (e : find? h t = some t') : (handles t').Sublist (handles t) :=
  Fmap.find?_closed (P := fun q => (handles q).Sublist (handles t))
    (fun _ _ hp hk => (Fmap.handles_kid_sublist hk).trans hp) h t t' (List.Sublist.refl _) e

theorem findList?_sublist (h : Nat) (ks : List HTree) (t' : HTree) (e : findList? h ks = some t') :
    (handles t').Sublist (handlesList ks) := by
  obtain ⟨t, ht, e'⟩ := fc_findList?_root h ks t' e
  exact (fa_find?_sublist h t t' e').trans (Fmap.handles_sublist_of_mem ht)

theorem findList?_handles_sub (h : Nat) (ks : List HTree) (t' : HTree) (e : findList? h ks = some t') :
    ∀ x ∈ handles t', x ∈ handlesList ks := fun _ hx => (findList?_sublist h ks t' e).subset hx

mutual
  theorem find?_isSome_iff (h : Nat) : ∀ t : HTree, (find? h t).isSome = true ↔ h ∈ handles t
    | .node h' v ks => by
      unfold find? handles
      by_cases hh : h' = h
      · simp [hh]
      · simp only [hh, if_false, List.mem_cons]
        rw [findList?_isSome_iff h ks]
        constructor
        · exact Or.inr
        · rintro (e | e)
          · exact absurd e.symm hh
          · exact e
  theorem findList?_isSome_iff (h : Nat) : ∀ ks : List HTree,
      (findList? h ks).isSome = true ↔ h ∈ handlesList ks
    | [] => by simp [findList?, handlesList]
    | k :: ks => by
      unfold findList? handlesList
      rw [List.mem_append, ← find?_isSome_iff h k, ← findList?_isSome_iff h ks]
      cases hk : find? h k <;> simp
end

theorem find?_none_iff (h : Nat) (t : HTree) : find? h t = none ↔ h ∉ handles t := by
  rw [← find?_isSome_iff]; cases find? h t <;> simp

theorem findList?_none_iff (h : Nat) (ks : List HTree) : findList? h ks = none ↔ h ∉ handlesList ks := by
  rw [← findList?_isSome_iff]; cases findList? h ks <;> simp

theorem find?_none_of_not_mem (h : Nat) : ∀ t : HTree, h ∉ handles t → find? h t = none :=
  fun t => (find?_none_iff h t).2

theorem findList?_none_of_not_mem (h : Nat) : ∀ ks : List HTree, h ∉ handlesList ks → findList? h ks = none :=
  fun ks => (findList?_none_iff h ks).2

theorem find?_root (t : HTree) : find? t.handle t = some t := by
  cases t with
  | node h v ks => simp [find?, HTree.handle]

theorem find?_of_handle {t : HTree} {h : Nat} (e : t.handle = h) : find? h t = some t := by
  rw [← e]; exact find?_root t

mutual
  theorem find?_handle (h : Nat) : ∀ (t t' : HTree), find? h t = some t' → t'.handle = h
    | .node h' v ks, t' => by
      unfold find?
      by_cases hh : h' = h
      · simp only [hh, if_true, Option.some.injEq]
        intro e; subst e; rfl
      · simp only [hh, if_false]
        exact findList?_handle h ks t'
  theorem findList?_handle (h : Nat) : ∀ (ks : List HTree) (t' : HTree),
      findList? h ks = some t' → t'.handle = h
    | [], t' => by simp [findList?]
    | k :: ks, t' => by
      unfold findList?
      cases hk : find? h k with
      | some t => simp only [Option.some.injEq]; intro e; subst e; exact find?_handle h k t hk
      | none => simp only; exact findList?_handle h ks t'
end

theorem find?_some {h : Nat} : ∀ (t u : HTree), find? h t = some u →
    u.handle = h ∧ (∀ x ∈ handles u, x ∈ handles t) :=
  fun t u e => ⟨find?_handle h t u e, fun _ hx => (fa_find?_sublist h t u e).subset hx⟩

theorem findList?_some {h : Nat} : ∀ (ks : List HTree) (u : HTree), findList? h ks = some u →
    u.handle = h ∧ (∀ x ∈ handles u, x ∈ handlesList ks) :=
  fun ks u e => ⟨findList?_handle h ks u e, fun _ hx => (findList?_sublist h ks u e).subset hx⟩

theorem mem_of_findList?_some {h : Nat} {ks : List HTree} {u : HTree} (e : findList? h ks = some u) :
    h ∈ handlesList ks := by
  obtain ⟨e1, e2⟩ := findList?_some ks u e
  exact e1 ▸ e2 _ (handle_mem_handles u)

theorem findList?_cons_of_not_mem (h : Nat) (a : HTree) (B : List HTree) (hn : h ∉ handles a) :
    findList? h (a :: B) = findList? h B := by
  simp only [findList?]
  rw [find?_none_of_not_mem h a hn]

theorem fi_findList?_append_left {h : Nat} {a b : List HTree} {t : HTree} (hs : findList? h a = some t) :
    findList? h (a ++ b) = some t := by
  rw [Fmap.findList?_append, hs]; rfl

theorem find?_some_mem {h : Nat} {t t' : HTree} (e : find? h t = some t') : h ∈ handles t := by
  rw [← find?_isSome_iff, e]; rfl

theorem findList?_append_of_not_mem (h : Nat) (A B : List HTree) (hn : h ∉ handlesList A) :
    findList? h (A ++ B) = findList? h B := by
  rw [Fmap.findList?_append, findList?_none_of_not_mem h A hn]; rfl

end XotModel

namespace XotModel.Fws
open HTree Forest

theorem handle_of_find (h : Nat) : ∀ (t q : HTree), find? h t = some q → q.handle = h :=
  find?_handle h

end XotModel.Fws

namespace XotModel.Fmap
open HTree Forest

theorem findList?_direct (ks : List HTree) (hnd : (handlesList ks).Nodup) :
    ∀ x ∈ ks, findList? x.handle ks = some x := by
  induction ks with
  | nil => simp
  | cons k ks ih =>
    intro x hx
    simp only [handlesList] at hnd
    have hnd' := List.nodup_append.mp hnd
    simp only [findList?]
    rcases List.mem_cons.mp hx with rfl | hx
    · rw [find?_root]
    · have hxm : x.handle ∈ handlesList ks :=
        mem_of_findList?_some (ih hnd'.2.1 x hx)
      have : x.handle ∉ handles k := fun hc => hnd'.2.2 _ hc _ hxm rfl
      rw [find?_none_of_not_mem _ _ this]
      exact ih hnd'.2.1 x hx

end XotModel.Fmap

/-! ### `mapAt` and `mapAtList` -/

namespace XotModel.HTree
open HTree Forest

theorem mapAt_handle (e : Nat) (g : HTree → HTree) (hg : ∀ x, (g x).handle = x.handle) (r : HTree) :
    (mapAt e g r).handle = r.handle := by
  cases r with
  | node h v ks =>
    unfold mapAt
    by_cases hh : h = e
    · simp only [hh, if_true]; rw [hg]
    · simp only [hh, if_false]; rfl

theorem mapAtList_handle (e : Nat) (g : HTree → HTree) (hg : ∀ x, (g x).handle = x.handle) (ks : List HTree) :
    (mapAtList e g ks).map (·.handle) = ks.map (·.handle) := by
  rw [mapAtList_eq_map, List.map_map]
  exact List.map_congr_left fun c _ => mapAt_handle e g hg c

end XotModel.HTree

namespace XotModel
open HTree Forest

theorem mapAtList_append (h : Nat) (g : HTree → HTree) (A B : List HTree) :
    mapAtList h g (A ++ B) = mapAtList h g A ++ mapAtList h g B := by
  simp [mapAtList_eq_map]

mutual
  theorem mapAt_of_not_mem (h : Nat) (g : HTree → HTree) : ∀ t : HTree, h ∉ handles t → mapAt h g t = t
    | .node h' v ks => by
      intro hn
      simp only [handles, List.mem_cons, not_or] at hn
      unfold mapAt
      rw [if_neg (fun e => hn.1 e.symm), mapAtList_of_not_mem h g ks hn.2]
  theorem mapAtList_of_not_mem (h : Nat) (g : HTree → HTree) : ∀ ks : List HTree,
      h ∉ handlesList ks → mapAtList h g ks = ks
    | [] => by intro _; rfl
    | k :: ks => by
      intro hn
      simp only [handlesList, List.mem_append, not_or] at hn
      simp only [mapAtList]
      rw [mapAt_of_not_mem h g k hn.1, mapAtList_of_not_mem h g ks hn.2]
end

theorem mapAt_of_handle {t : HTree} {h : Nat} (g : HTree → HTree) (e : t.handle = h) :
    mapAt h g t = g t := by
  cases t; simp only [HTree.handle] at e; simp [mapAt, e]

mutual
  theorem ff_mapAt_id (h : Nat) (g : HTree → HTree) (hg : ∀ t, g t = t) : ∀ t : HTree, mapAt h g t = t
    | .node h' v ks => by
      unfold mapAt
      split
      · exact hg _
      · rw [ff_mapAtList_id h g hg ks]
  theorem ff_mapAtList_id (h : Nat) (g : HTree → HTree) (hg : ∀ t, g t = t) : ∀ ks : List HTree,
      mapAtList h g ks = ks
    | [] => rfl
    | k :: ks => by simp only [mapAtList]; rw [ff_mapAt_id h g hg k, ff_mapAtList_id h g hg ks]
end

mutual
  theorem mapAt_comp (p : Nat) (g1 g2 : HTree → HTree) (hg : ∀ t, t.handle = p → (g1 t).handle = p) :
      ∀ t : HTree, mapAt p g2 (mapAt p g1 t) = mapAt p (g2 ∘ g1) t
    | .node h v ks => by
      by_cases e : h = p
      · rw [mapAt_of_handle g1 (by simp [HTree.handle, e]),
          mapAt_of_handle g2 (hg _ (by simp [HTree.handle, e])),
          mapAt_of_handle (g2 ∘ g1) (by simp [HTree.handle, e])]
        rfl
      · simp only [mapAt, e, if_false]
        rw [mapAtList_comp p g1 g2 hg ks]
  theorem mapAtList_comp (p : Nat) (g1 g2 : HTree → HTree) (hg : ∀ t, t.handle = p → (g1 t).handle = p) :
      ∀ ks : List HTree, mapAtList p g2 (mapAtList p g1 ks) = mapAtList p (g2 ∘ g1) ks
    | [] => rfl
    | k :: ks => by
      simp only [mapAtList]
      rw [mapAt_comp p g1 g2 hg k, mapAtList_comp p g1 g2 hg ks]
end

theorem mapAt_mapAt_self (p : Nat) (g1 g2 : HTree → HTree) (hg : ∀ t, (g1 t).handle = t.handle) :
    ∀ t : HTree, mapAt p g2 (mapAt p g1 t) = mapAt p (g2 ∘ g1) t :=
  mapAt_comp p g1 g2 fun t e => (hg t).trans e

theorem mapAtList_mapAtList_self (p : Nat) (g1 g2 : HTree → HTree) (hg : ∀ t, (g1 t).handle = t.handle) :
    ∀ ks : List HTree, mapAtList p g2 (mapAtList p g1 ks) = mapAtList p (g2 ∘ g1) ks :=
  mapAtList_comp p g1 g2 fun t e => (hg t).trans e

end XotModel

namespace XotModel.Fmap
open HTree Forest

mutual
  theorem find?_mapAt_self (e : Nat) (g : HTree → HTree) : ∀ (k t : HTree),
      find? e k = some t → (g t).handle = e → find? e (mapAt e g k) = some (g t)
    | .node h' v ks, t => by
      intro hf hg
      simp only [find?] at hf
      simp only [mapAt]
      split at hf
      · rename_i hh
        cases hf
        rw [if_pos hh]
        have := find?_root (g (.node h' v ks))
        rwa [hg] at this
      · rename_i hh
        rw [if_neg hh]
        simp only [find?]
        rw [if_neg hh]
        exact findList?_mapAtList_self e g ks t hf hg
  theorem findList?_mapAtList_self (e : Nat) (g : HTree → HTree) : ∀ (ks : List HTree) (t : HTree),
      findList? e ks = some t → (g t).handle = e →
      findList? e (mapAtList e g ks) = some (g t)
    | [], t => by intro hf; cases hf
    | k :: ks, t => by
      intro hf hg
      simp only [findList?] at hf
      simp only [mapAtList, findList?]
      cases hk : find? e k with
      | some t' =>
        rw [hk] at hf
        cases hf
        rw [find?_mapAt_self e g k _ hk hg]
      | none =>
        rw [hk] at hf
        rw [mapAt_of_not_mem e g k ((find?_none_iff e k).1 hk), hk]
        exact findList?_mapAtList_self e g ks t hf hg
end

end XotModel.Fmap

namespace XotModel
open HTree Forest

theorem ffx_find?_mapAt_self (p : Nat) (g : HTree → HTree) (hg : ∀ t, (g t).handle = t.handle) :
    ∀ t : HTree, find? p (mapAt p g t) = (find? p t).map g := by
  intro t
  cases h : find? p t with
  | none => rw [mapAt_of_not_mem p g t ((find?_none_iff p t).1 h), h]; rfl
  | some u => exact Fmap.find?_mapAt_self p g t u h (by rw [hg, find?_handle p t u h])

theorem ff_findList?_mapAtList_self (p : Nat) (g : HTree → HTree) (hg : ∀ t, (g t).handle = t.handle) :
    ∀ ks : List HTree, findList? p (mapAtList p g ks) = (findList? p ks).map g := by
  intro ks
  cases h : findList? p ks with
  | none => rw [mapAtList_of_not_mem p g ks ((findList?_none_iff p ks).1 h), h]; rfl
  | some u => exact Fmap.findList?_mapAtList_self p g ks u h (by rw [hg, findList?_handle p ks u h])

mutual
  theorem find?_mapAt_setValue (x h : Nat) (v : Value) : ∀ t : HTree,
      (find? x (mapAt h (HTree.setValue v) t)).map HTree.value =
        if x = h then (find? x t).map (fun _ => v) else (find? x t).map HTree.value
    | .node h' v' ks => by
      unfold mapAt
      by_cases hh : h' = h
      · subst hh
        by_cases hx : x = h'
        · subst hx; simp [HTree.setValue, find?, HTree.value]
        · have hx' : ¬ h' = x := fun e => hx e.symm
          simp [HTree.setValue, find?, hx, hx']
      · simp only [hh, if_false]
        unfold find?
        by_cases hx : h' = x
        · subst hx; simp [hh, HTree.value]
        · simp only [hx, if_false]
          exact findList?_mapAtList_setValue x h v ks
  theorem findList?_mapAtList_setValue (x h : Nat) (v : Value) : ∀ ks : List HTree,
      (findList? x (mapAtList h (HTree.setValue v) ks)).map HTree.value =
        if x = h then (findList? x ks).map (fun _ => v) else (findList? x ks).map HTree.value
    | [] => by simp [mapAtList, findList?]
    | k :: ks => by
      simp only [mapAtList, findList?]
      have hk := find?_mapAt_setValue x h v k
      have hks := findList?_mapAtList_setValue x h v ks
      cases h1 : find? x (mapAt h (HTree.setValue v) k) with
      | some t1 =>
        rw [h1] at hk
        cases h2 : find? x k with
        | some t2 => rw [h2] at hk; simpa using hk
        | none => rw [h2] at hk; by_cases hx : x = h <;> simp [hx] at hk
      | none =>
        rw [h1] at hk
        cases h2 : find? x k with
        | some t2 => rw [h2] at hk; by_cases hx : x = h <;> simp [hx] at hk
        | none => simpa using hks
end

theorem handle_mapAt_setValue (h : Nat) (v : Value) (t : HTree) :
    (mapAt h (HTree.setValue v) t).handle = t.handle :=
  HTree.mapAt_handle h _ (setValue_handle v) t

mutual
  theorem mapAt_handles (h : Nat) (g : HTree → HTree) (E : List Nat)
      (hg : ∀ x a, a ∈ handles (g x) → a ∈ handles x ∨ a ∈ E) :
      ∀ (t : HTree) (a : Nat), a ∈ handles (mapAt h g t) → a ∈ handles t ∨ a ∈ E
    | .node h' v ks, a => by
      intro ha
      unfold mapAt at ha
      by_cases e : h' = h
      · rw [if_pos e] at ha
        exact hg _ a ha
      · rw [if_neg e] at ha
        simp only [handles, List.mem_cons] at ha ⊢
        rcases ha with x | x
        · exact Or.inl (Or.inl x)
        · rcases mapAtList_handles h g E hg ks a x with y | y
          · exact Or.inl (Or.inr y)
          · exact Or.inr y
  theorem mapAtList_handles (h : Nat) (g : HTree → HTree) (E : List Nat)
      (hg : ∀ x a, a ∈ handles (g x) → a ∈ handles x ∨ a ∈ E) :
      ∀ (ks : List HTree) (a : Nat), a ∈ handlesList (mapAtList h g ks) → a ∈ handlesList ks ∨ a ∈ E
    | [], a => by intro ha; simp [mapAtList, handlesList] at ha
    | k :: ks, a => by
      intro ha
      simp only [mapAtList, handlesList, List.mem_append] at ha ⊢
      rcases ha with x | x
      · rcases mapAt_handles h g E hg k a x with y | y
        · exact Or.inl (Or.inl y)
        · exact Or.inr y
      · rcases mapAtList_handles h g E hg ks a x with y | y
        · exact Or.inl (Or.inr y)
        · exact Or.inr y
end

theorem map_mapAt_of_not_mem (h : Nat) (g : HTree → HTree) (L : List HTree) (hn : h ∉ handlesList L) :
    L.map (mapAt h g) = L := by
  rw [← mapAtList_eq_map]
  exact mapAtList_of_not_mem h g L hn

end XotModel

/-! ### `replaceKids` and `replaceBelow` -/

namespace XotModel
open HTree Forest

theorem replaceKids_cons (h : Nat) (g : HTree → List HTree) (k : HTree) (ks : List HTree) :
    replaceKids h g (k :: ks) =
      if k.handle = h then g k ++ ks else replaceBelow h g k :: replaceKids h g ks := by
  rw [replaceKids]

mutual
  theorem replaceBelow_of_not_mem (h : Nat) (f : HTree → List HTree) : ∀ t : HTree,
      h ∉ handles t → replaceBelow h f t = t
    | .node h' v ks => by
      intro hn
      simp only [handles, List.mem_cons, not_or] at hn
      unfold replaceBelow
      rw [fc_replaceKids_of_not_mem h f ks hn.2]
  theorem fc_replaceKids_of_not_mem (h : Nat) (f : HTree → List HTree) : ∀ ks : List HTree,
      h ∉ handlesList ks → replaceKids h f ks = ks
    | [] => by intro _; rfl
    | k :: ks => by
      intro hn
      simp only [handlesList, List.mem_append, not_or] at hn
      have hk : k.handle ≠ h := fun e => hn.1 (e ▸ handle_mem_handles k)
      simp only [replaceKids]
      rw [if_neg hk, replaceBelow_of_not_mem h f k hn.1, fc_replaceKids_of_not_mem h f ks hn.2]
end

mutual
  theorem replaceBelow_handles (h : Nat) (f : HTree → List HTree) (E : List Nat)
      (hf : ∀ x a, a ∈ handlesList (f x) → a ∈ handles x ∨ a ∈ E) :
      ∀ (t : HTree) (a : Nat), a ∈ handles (replaceBelow h f t) → a ∈ handles t ∨ a ∈ E
    | .node h' v ks, a => by
      intro ha
      unfold replaceBelow at ha
      simp only [handles, List.mem_cons] at ha ⊢
      rcases ha with x | x
      · exact Or.inl (Or.inl x)
      · rcases replaceKids_handles h f E hf ks a x with y | y
        · exact Or.inl (Or.inr y)
        · exact Or.inr y
  theorem replaceKids_handles (h : Nat) (f : HTree → List HTree) (E : List Nat)
      (hf : ∀ x a, a ∈ handlesList (f x) → a ∈ handles x ∨ a ∈ E) :
      ∀ (ks : List HTree) (a : Nat), a ∈ handlesList (replaceKids h f ks) → a ∈ handlesList ks ∨ a ∈ E
    | [], a => by intro ha; simp [replaceKids, handlesList] at ha
    | k :: ks, a => by
      intro ha
      unfold replaceKids at ha
      by_cases e : k.handle = h
      · rw [if_pos e, handlesList_append, List.mem_append] at ha
        simp only [handlesList, List.mem_append]
        rcases ha with x | x
        · rcases hf k a x with y | y
          · exact Or.inl (Or.inl y)
          · exact Or.inr y
        · exact Or.inl (Or.inr x)
      · rw [if_neg e] at ha
        simp only [handlesList, List.mem_append] at ha ⊢
        rcases ha with x | x
        · rcases replaceBelow_handles h f E hf k a x with y | y
          · exact Or.inl (Or.inl y)
          · exact Or.inr y
        · rcases replaceKids_handles h f E hf ks a x with y | y
          · exact Or.inl (Or.inr y)
          · exact Or.inr y
end

theorem map_replaceBelow_of_not_mem (h : Nat) (f : HTree → List HTree) (L : List HTree)
    (hn : h ∉ handlesList L) : L.map (replaceBelow h f) = L := by
  induction L with
  | nil => rfl
  | cons a L ih =>
    simp only [handlesList, List.mem_append, not_or] at hn
    simp only [List.map_cons]
    rw [replaceBelow_of_not_mem h f a hn.1, ih hn.2]

theorem replaceBelow_id (h : Nat) (F : HTree → List HTree) : ∀ t : HTree,
    h ∉ handlesList t.kids → replaceBelow h F t = t
  | .node _ _ ks, hm => by
    unfold replaceBelow
    rw [fc_replaceKids_of_not_mem h F ks hm]

theorem replaceKids_of_not_mem_ff (h : Nat) (g : HTree → List HTree) : ∀ ks : List HTree,
    h ∉ handlesList ks → replaceKids h g ks = ks :=
  fc_replaceKids_of_not_mem h g

theorem replaceKids_append_of_not_mem (h : Nat) (f : HTree → List HTree) (A B : List HTree)
    (hn : h ∉ handlesList A) : replaceKids h f (A ++ B) = A ++ replaceKids h f B := by
  induction A with
  | nil => rfl
  | cons a A ih =>
    simp only [handlesList, List.mem_append, not_or] at hn
    have hk : a.handle ≠ h := fun e => hn.1 (e ▸ handle_mem_handles a)
    simp only [List.cons_append, replaceKids]
    rw [if_neg hk, replaceBelow_of_not_mem h f a hn.1, ih hn.2]

theorem replaceKids_split (h : Nat) (g : HTree → List HTree) (k1 k2 : List HTree) (r : HTree)
    (hr : r.handle = h) (hn : h ∉ handlesList k1) :
    replaceKids h g (k1 ++ r :: k2) = k1 ++ g r ++ k2 := by
  rw [replaceKids_append_of_not_mem h g k1 _ hn, replaceKids_cons, if_pos hr, List.append_assoc]

end XotModel

/-! ### Contexts: `ctxKids`, `ctxBelow`, `ctx?` -/

namespace XotModel
open HTree Forest

end XotModel

namespace XotModel.Fws
open HTree Forest

mutual
  theorem ctxBelow_support (h : Nat) : ∀ (t : HTree) (c : Ctx), ctxBelow h t = some c → h ∈ handlesList t.kids
    | .node p v ks, c, hc => by
      simp only [ctxBelow] at hc
      exact Fws.ctxKids_support h p [] ks c hc
  theorem ctxKids_support (h p : Nat) : ∀ (left ks : List HTree) (c : Ctx),
      ctxKids h p left ks = some c → h ∈ handlesList ks
    | left, [], c, hc => by cases hc
    | left, k :: ks, c, hc => by
      simp only [ctxKids] at hc
      simp only [handlesList, List.mem_append]
      by_cases e : k.handle = h
      · exact Or.inl (e ▸ handle_mem_handles k)
      · simp only [e, if_false] at hc
        cases hk : ctxBelow h k with
        | some c' =>
          refine Or.inl ?_
          rw [handles_eq]
          exact List.mem_cons_of_mem _ (Fws.ctxBelow_support h k c' hk)
        | none =>
          rw [hk] at hc
          exact Or.inr (Fws.ctxKids_support h p (left ++ [k]) ks c hc)
end

theorem ctxBelow_support' (h : Nat) (t : HTree) (c : Ctx) (hc : ctxBelow h t = some c) : h ∈ handles t := by
  rw [handles_eq]; exact List.mem_cons_of_mem _ (Fws.ctxBelow_support h t c hc)

end XotModel.Fws

namespace XotModel
open HTree Forest

theorem ctxKids_none_of_not_mem (h p : Nat) : ∀ (ks left : List HTree),
    h ∉ handlesList ks → ctxKids h p left ks = none := by
  intro ks left hn
  cases hc : ctxKids h p left ks with
  | none => rfl
  | some c => exact absurd (Fws.ctxKids_support h p left ks c hc) hn

theorem ffx_ctxBelow_none_of_not_mem (h : Nat) : ∀ t : HTree, h ∉ handlesList t.kids → ctxBelow h t = none := by
  intro t hn
  cases hc : ctxBelow h t with
  | none => rfl
  | some c => exact absurd (Fws.ctxBelow_support h t c hc) hn

theorem ctxBelow_none_of_not_mem (h : Nat) : ∀ t : HTree, h ∉ handles t → ctxBelow h t = none :=
  fun t hn => ffx_ctxBelow_none_of_not_mem h t fun hm => hn (by rw [handles_eq]; exact List.mem_cons_of_mem _ hm)

mutual
  theorem ctxBelow_parent_mem (h : Nat) : ∀ (t : HTree) (c : Ctx), ctxBelow h t = some c →
      c.parent ∈ handles t
    | .node p v ks, c => by
      intro hc
      unfold ctxBelow at hc
      rcases ctxKids_parent_mem h p ks [] c hc with e | e
      · simp [handles, e]
      · simp [handles, e]
  theorem ctxKids_parent_mem (h p : Nat) : ∀ (ks left : List HTree) (c : Ctx),
      ctxKids h p left ks = some c → c.parent = p ∨ c.parent ∈ handlesList ks
    | [], left, c => by intro hc; simp [ctxKids] at hc
    | k :: ks, left, c => by
      intro hc
      unfold ctxKids at hc
      by_cases e : k.handle = h
      · rw [if_pos e] at hc
        cases hc
        exact Or.inl rfl
      · rw [if_neg e] at hc
        cases hb : ctxBelow h k with
        | some c' =>
          rw [hb] at hc
          cases hc
          right
          simp [handlesList, ctxBelow_parent_mem h k _ hb]
        | none =>
          rw [hb] at hc
          rcases ctxKids_parent_mem h p ks (left ++ [k]) c hc with x | x
          · exact Or.inl x
          · right; simp [handlesList, x]
end

theorem ffx_ctxKids_none_of_not_mem (h p : Nat) : ∀ (left ks : List HTree), h ∉ handlesList ks →
    ctxKids h p left ks = none :=
  fun left ks => ctxKids_none_of_not_mem h p ks left

end XotModel

namespace XotModel.Forest
open HTree Forest

theorem parent?_of_ctx? {f : Forest} {h : Nat} {c : Ctx} (e : f.ctx? h = some c) :
    f.parent? h = some c.parent := by
  unfold parent?; rw [e]; rfl

theorem ctx?_of_parent? {f : Forest} {h q : Nat} (e : f.parent? h = some q) :
    ∃ c, f.ctx? h = some c ∧ c.parent = q := by
  unfold parent? at e
  cases hc : f.ctx? h with
  | none => rw [hc] at e; cases e
  | some c => rw [hc] at e; exact ⟨c, rfl, by simpa using e⟩

end XotModel.Forest

namespace XotModel.Fws
open HTree Forest

theorem ctx?_support {f : Forest} {h : Nat} {c : Ctx} (hc : f.ctx? h = some c) : h ∈ f.allHandles := by
  unfold Forest.ctx? at hc
  obtain ⟨r, hr, hcr⟩ := List.exists_of_findSome?_eq_some hc
  exact Fws.mem_handlesList.2 ⟨r, hr, Fws.ctxBelow_support' h r c hcr⟩

theorem ctx?_none {f : Forest} {h : Nat} (hn : h ∉ f.allHandles) : f.ctx? h = none := by
  cases hc : f.ctx? h with
  | none => rfl
  | some c => exact absurd (Fws.ctx?_support hc) hn

end XotModel.Fws

/-! ### Ancestors -/

namespace XotModel
open HTree Forest

theorem ancestorsOfList_cons_none {r : Nat} {k : HTree} {ks : List HTree}
    (e : ancestorsOf r k = none) : ancestorsOfList r (k :: ks) = ancestorsOfList r ks := by
  simp [ancestorsOfList, e]

theorem ancestorsOfList_cons_some {r : Nat} {k : HTree} {ks : List HTree} {l : List Nat}
    (e : ancestorsOf r k = some l) : ancestorsOfList r (k :: ks) = some l := by
  simp [ancestorsOfList, e]

theorem ancestorsOfList_nil (r : Nat) : ancestorsOfList r [] = none := by simp [ancestorsOfList]

theorem ancestorsOf_node (r h : Nat) (v : Value) (ks : List HTree) :
    ancestorsOf r (.node h v ks) =
      if h = r then some [h] else (ancestorsOfList r ks).map (fun l => l ++ [h]) := by
  simp only [ancestorsOf]
  split
  · rfl
  · cases ancestorsOfList r ks <;> rfl

mutual
  theorem ancestorsOf_none_of_not_mem (h : Nat) : ∀ t : HTree, h ∉ handles t → ancestorsOf h t = none
    | .node h' v ks => by
      intro hn
      simp only [handles, List.mem_cons, not_or] at hn
      unfold ancestorsOf
      rw [if_neg (fun e => hn.1 e.symm), ancestorsOfList_none_of_not_mem h ks hn.2]
  theorem ancestorsOfList_none_of_not_mem (h : Nat) : ∀ ks : List HTree,
      h ∉ handlesList ks → ancestorsOfList h ks = none
    | [] => by intro _; simp [ancestorsOfList]
    | k :: ks => by
      intro hn
      simp only [handlesList, List.mem_append, not_or] at hn
      unfold ancestorsOfList
      rw [ancestorsOf_none_of_not_mem h k hn.1]
      exact ancestorsOfList_none_of_not_mem h ks hn.2
end

theorem ancestorsOfList_append_of_not_mem (h : Nat) (A B : List HTree) (hn : h ∉ handlesList A) :
    ancestorsOfList h (A ++ B) = ancestorsOfList h B := by
  induction A with
  | nil => rfl
  | cons a A ih =>
    simp only [handlesList, List.mem_append, not_or] at hn
    simp only [List.cons_append, ancestorsOfList]
    rw [ancestorsOf_none_of_not_mem h a hn.1]
    exact ih hn.2

end XotModel

namespace XotModel.Fws
open HTree Forest

theorem ancestorsOf_self (t : HTree) : ancestorsOf t.handle t = some [t.handle] := by
  cases t; simp [ancestorsOf, HTree.handle]

theorem ancestorsOfList_eq_findSome? (h : Nat) :
    ∀ ks : List HTree, ancestorsOfList h ks = ks.findSome? (ancestorsOf h)
  | [] => rfl
  | k :: ks => by
    simp only [ancestorsOfList, List.findSome?_cons]
    rw [Fws.ancestorsOfList_eq_findSome? h ks]
    cases ancestorsOf h k <;> rfl

end XotModel.Fws

/-! ### `erase` -/

namespace XotModel
open HTree Forest

theorem eraseList_map (L : List HTree) : eraseList L = L.map erase := by
  induction L with
  | nil => rfl
  | cons a L ih => simp [eraseList, ih]

theorem eraseList_append (A B : List HTree) : eraseList (A ++ B) = eraseList A ++ eraseList B := by
  induction A with
  | nil => rfl
  | cons a A ih => simp [eraseList, ih]

end XotModel

namespace XotModel.Reach
open HTree Forest

theorem erase_value (t : HTree) : (erase t).value = t.value := by cases t; rfl

theorem eraseList_getElem? (ks : List HTree) (i : Nat) : (eraseList ks)[i]? = ks[i]?.map erase := by
  rw [eraseList_map, List.getElem?_map]

end XotModel.Reach

/-! ### Validity -/

namespace XotModel
open HTree Forest

theorem fc_validList_cons (b : Bool) (k : HTree) (ks : List HTree) (h : validList b (k :: ks) = true) :
    validTree b k = true ∧ validList b ks = true := by
  simpa [validList] using h

theorem fi_rank_le_two (c : Category) : c.rank ≤ 2 := by cases c <;> simp [Category.rank]

theorem fa_rank_normal (c : Category) : 2 ≤ c.rank ↔ c = .normal := by
  cases c <;> simp [Category.rank]

theorem kids_nil_of_valid {b : Bool} {t : HTree} (hv : validTree b t = true)
    (he : t.value.isElement = false) (hd : t.value.isDocument = false) : t.kids = [] := by
  obtain ⟨h, v, ks⟩ := t
  cases ks with
  | nil => rfl
  | cons k ks =>
    have hk : kidAllowed v k.value = true := by
      simp only [validTree, List.all_cons, Bool.and_eq_true] at hv
      exact hv.1.1.1.1.1.1
    cases v <;> contradiction

theorem kids_nil_of_not_normal {b : Bool} {t : HTree} (hv : validTree b t = true)
    (hc : t.value.category ≠ .normal) : t.kids = [] := by
  apply kids_nil_of_valid hv <;> revert hc <;> cases t.value <;> intro hc <;>
    first | rfl | exact absurd rfl hc

theorem kids_nil_of_text {b : Bool} {t : HTree} (hv : validTree b t = true)
    (ht : t.value.isText = true) : t.kids = [] := by
  apply kids_nil_of_valid hv <;> revert ht <;> cases t.value <;> intro ht <;> first | rfl | cases ht

theorem Fatom.kidAllowed_container {v k : Value} (h : kidAllowed v k = true) :
    v.isElement = true ∨ v.isDocument = true := by
  cases v with
  | element n => exact Or.inl rfl
  | document => exact Or.inr rfl
  | _ => cases h

theorem validList_cons (s : Bool) (k : HTree) (ks : List HTree) :
    validList s (k :: ks) = (validTree s k && validList s ks) := by simp [validList]

end XotModel

namespace XotModel.Fmap
open HTree Forest

theorem validTree_leaf (b : Bool) (x : HTree) (h : x.kids = []) : validTree b x = true := by
  cases x with
  | node h' v ks =>
    simp only [HTree.kids] at h
    subst h
    simp [validTree, kidsOrdered, keysUnique, noAdjacentText, validList]

theorem validList_append (b : Bool) (a c : List HTree) :
    validList b (a ++ c) = (validList b a && validList b c) := by
  induction a with
  | nil => simp [validList]
  | cons x a ih => simp [validList, ih, Bool.and_assoc]

end XotModel.Fmap

namespace XotModel
open HTree Forest

theorem validList_all (b : Bool) : ∀ (L : List HTree), validList b L = true → ∀ k ∈ L, validTree b k = true
  | [], _, _, ht => by cases ht
  | k :: L, hv, t, ht => by
    simp only [validList, Bool.and_eq_true] at hv
    rcases List.mem_cons.mp ht with rfl | ht'
    · exact hv.1
    · exact validList_all b L hv.2 t ht'

theorem validTree_kid {b : Bool} {p k : HTree} (hp : validTree b p = true) (hk : k ∈ p.kids) :
    validTree b k = true := by
  cases p with
  | node h v ks =>
    simp only [validTree, Bool.and_eq_true] at hp
    exact validList_all b ks hp.2 k hk

theorem find?_valid (b : Bool) (h : Nat) : ∀ (t t' : HTree), validTree b t = true →
    find? h t = some t' → validTree b t' = true :=
  Fmap.find?_closed (P := fun t => validTree b t = true) (fun _ _ => validTree_kid) h

theorem findList?_valid (b : Bool) (h : Nat) : ∀ (ks : List HTree) (t' : HTree),
    validList b ks = true → findList? h ks = some t' → validTree b t' = true :=
  fun ks t' hv => Fmap.findList?_closed (P := fun t => validTree b t = true) (fun _ _ => validTree_kid) h ks t'
    (validList_all b ks hv)

end XotModel

/-! ### Forest reads and primitives: `get?`, `value?`, `isLive`, `textOf`, `mapChildren`, `newNode`; `next` after `cut` / `spliceOut` -/

namespace XotModel.Forest
open HTree Forest

theorem get?_eq (f : Forest) (h : Nat) : f.get? h = findList? h f.roots := rfl

theorem nle_next_cut (f : Forest) (b : Nat) : (f.cut b).1.next = f.next := by
  unfold Forest.cut
  cases f.get? b with
  | none => rfl
  | some t => simp only; split <;> rfl

theorem textOf_value {f : Forest} {x : Nat} {s : Str} (e : f.textOf x = some s) :
    f.value? x = some (.text s) := by
  unfold textOf at e
  split at e
  · rename_i s' hv; injection e with e; rw [hv, e]
  · cases e

theorem mapChildren_sub (k : MapKind) (t : HTree) : ∀ c ∈ mapChildren k t, c ∈ t.kids := by
  intro c hc
  unfold mapChildren at hc
  cases k with
  | namespaces => exact (List.takeWhile_sublist _).subset hc
  | attributes =>
    exact (List.dropWhile_sublist _).subset ((List.takeWhile_sublist _).subset hc)

theorem nle_next_spliceOut (f : Forest) (h : Nat) : (f.spliceOut h).next = f.next := by
  unfold spliceOut
  cases f.get? h with
  | none => rfl
  | some t =>
    simp only
    split
    · split <;> rfl
    · rfl

theorem get?_handle {f : Forest} {h : Nat} {t : HTree} (e : f.get? h = some t) : t.handle = h :=
  findList?_handle h f.roots t e

theorem value?_of_isElement {f : Forest} {h : Nat} (he : f.isElement h = true) :
    ∃ n, f.value? h = some (.element n) := by
  unfold isElement at he
  cases hv : f.value? h with
  | none => rw [hv] at he; cases he
  | some v =>
    rw [hv] at he
    cases v with
    | element n => exact ⟨n, rfl⟩
    | _ => cases he

theorem get?_of_isLive {f : Forest} {h : Nat} (hl : f.isLive h = true) : ∃ t, f.get? h = some t := by
  unfold isLive at hl
  cases hg : f.get? h with
  | none => rw [hg] at hl; cases hl
  | some t => exact ⟨t, rfl⟩

theorem get?_newNode_of_some {f : Forest} {x : Nat} {t : HTree} (v : Value) (h : f.get? x = some t) :
    (f.newNode v).1.get? x = some t := by
  unfold get? at h ⊢
  exact fi_findList?_append_left h

theorem value?_of_isText {f : Forest} {h : Nat} (he : f.isText h = true) :
    ∃ s, f.value? h = some (.text s) := by
  unfold isText at he
  cases hv : f.value? h with
  | none => rw [hv] at he; cases he
  | some v =>
    rw [hv] at he
    cases v with
    | text s => exact ⟨s, rfl⟩
    | _ => cases he

theorem isLive_of_get? {f : Forest} {h : Nat} {t : HTree} (e : f.get? h = some t) :
    f.isLive h = true := by
  unfold isLive; rw [e]; rfl

theorem textOf_eq_none_of_value {f : Forest} {h : Nat} {v : Value} (hv : f.value? h = some v)
    (ht : v.isText = false) : f.textOf h = none := by
  unfold textOf; rw [hv]; cases v <;> first | rfl | cases ht

end XotModel.Forest

namespace XotModel.Fmap
open HTree Forest

theorem newNode_eq (f : Forest) (v : Value) :
    f.newNode v = ({ f with roots := f.roots ++ [.node f.next v []], next := f.next + 1 }, f.next) := rfl

theorem allHandles_newNode (f : Forest) (v : Value) :
    (f.newNode v).1.allHandles = f.allHandles ++ [f.next] := by
  simp [Fmap.newNode_eq, Forest.allHandles, handlesList_append, handlesList, handles]

end XotModel.Fmap

namespace XotModel.Fcreation
open HTree Forest

theorem newNode_inv {f : Forest} (hi : f.Inv) (v : Value) : (f.newNode v).1.Inv := by
  have hfresh : f.next ∉ f.allHandles := fun hx => Nat.lt_irrefl _ (hi.below _ hx)
  refine ⟨hi.notCorrupt, ?_, ?_, ?_, hi.consOn⟩
  · rw [Fmap.allHandles_newNode]
    apply List.nodup_append.mpr
    refine ⟨hi.nodup, by simp, ?_⟩
    intro a ha b hb hab
    simp only [List.mem_singleton] at hb
    subst hab hb
    exact hfresh ha
  · intro x hx
    rw [Fmap.allHandles_newNode] at hx
    simp only [Fmap.newNode_eq]
    rcases List.mem_append.mp hx with hx | hx
    · exact Nat.lt_succ_of_lt (hi.below x hx)
    · simp only [List.mem_singleton] at hx; omega
  · show validList (!f.everOff) (f.roots ++ [.node f.next v []]) = true
    rw [Fmap.validList_append, Bool.and_eq_true]
    exact ⟨hi.valid, by simp [validList, Fmap.validTree_leaf _ (.node f.next v []) rfl]⟩

end XotModel.Fcreation

namespace XotModel.Fmap
open HTree Forest

theorem newNode_value {f : Forest} (hi : f.Inv) (v : Value) :
    (f.newNode v).1.value? f.next = some v := by
  have hg : (f.newNode v).1.get? f.next = some (.node f.next v []) :=
    Fmap.findList?_direct _ (Fcreation.newNode_inv hi v).nodup (.node f.next v []) (by simp [Fmap.newNode_eq])
  simp [Forest.value?, hg, HTree.value]

end XotModel.Fmap

namespace XotModel.Prog2
open HTree Forest

theorem value_of_get {f : Forest} {n : Nat} {t : HTree} (h : f.get? n = some t) : f.value? n = some t.value := by
  simp [Forest.value?, h]

end XotModel.Prog2

/-! ### Text consolidation; with it off `remove` is `dropSubtree` -/

namespace XotModel.Forest
open HTree Forest

theorem addConsolidate_not_text {f : Forest} {n : Nat} (h : f.textOf n = none) (a b : Option Nat) :
    f.addConsolidate n a b = (f, false) := by
  rw [Forest.addConsolidate_eq_old]; exact Forest.addConsolidateOld_not_text h _ _

theorem addConsolidate_none_none (g : Forest) (node : Nat) :
    g.addConsolidate node none none = (g, false) := by
  rw [Forest.addConsolidate_eq_old, Forest.selfPrev_none, Forest.selfNext_none]
  exact Forest.addConsolidateOld_none_none g node

theorem remove_consOff {g : Forest} (hc : g.consolidation = false) (n : Nat) :
    (g.remove n).1 = g.dropSubtree n := by
  unfold remove removeConsolidate
  have : (g.dropSubtree n).consolidation = false := by
    unfold dropSubtree cut
    cases g.get? n with
    | none => exact hc
    | some t => simp only; split <;> exact hc
  simp [this]

theorem removeConsolidate_none_right (f : Forest) (a : Option Nat) :
    f.removeConsolidate a none = (f, false) := by
  unfold removeConsolidate
  split
  · rfl
  · cases a <;> rfl

theorem removeConsolidate_none_left (f : Forest) (b : Option Nat) :
    f.removeConsolidate none b = (f, false) := by
  unfold removeConsolidate
  split <;> rfl

theorem consolidation_dropSubtree (g : Forest) (n : Nat) : (g.dropSubtree n).consolidation = g.consolidation := by
  unfold dropSubtree cut
  cases g.get? n with
  | none => rfl
  | some t => simp only; split <;> rfl

theorem removeConsolidate_none (f : Forest) : f.removeConsolidate none none = (f, false) := by
  unfold removeConsolidate; split <;> rfl

end XotModel.Forest

/-! ### `structureCheck` -/

namespace XotModel.Forest
open HTree Forest

theorem siblingReferenceCheck_ne {f : Forest} {r n : Nat} (h : f.siblingReferenceCheck r n = true) :
    r ≠ n := by
  unfold siblingReferenceCheck at h
  simp only [Bool.and_eq_true, bne_iff_ne] at h
  exact h.1

/-- What `add_structure_check` asks of a parent and a child. -/
theorem structureCheck_some_iff {f : Forest} {p c : Nat} : f.structureCheck (some p) c = true ↔
    (f.isElement p = true ∨ f.isDocument p = true) ∧ (f.ancestors p).contains c = false ∧
      ∃ cv, f.value? c = some cv ∧ cv.category = .normal ∧ cv.isDocument = false := by
  unfold structureCheck
  simp only [Bool.and_eq_true, Bool.or_eq_true, Bool.not_eq_true', and_assoc]
  refine and_congr_right fun _ => and_congr_right fun _ => ?_
  cases f.value? c with
  | none => exact ⟨fun h => (by cases h), fun ⟨_, e, _⟩ => (by cases e)⟩
  | some cv =>
    cases cv with
    | document => exact ⟨fun h => (by cases h), fun ⟨_, e, _, hd⟩ => (by cases e; cases hd)⟩
    | «attribute» => exact ⟨fun h => (by cases h), fun ⟨_, e, hc, _⟩ => (by cases e; cases hc)⟩
    | «namespace» => exact ⟨fun h => (by cases h), fun ⟨_, e, hc, _⟩ => (by cases e; cases hc)⟩
    | _ => exact ⟨fun _ => ⟨_, rfl, rfl, rfl⟩, fun _ => rfl⟩

end XotModel.Forest

namespace XotModel.HTree

theorem eq_node_element {r : HTree} (h : r.value.isElement = true) :
    ∃ hd name ks, r = .node hd (.element name) ks := by
  obtain ⟨hd, v, ks⟩ := r
  cases v with
  | element name => exact ⟨hd, name, ks, rfl⟩
  | _ => cases h

end XotModel.HTree
