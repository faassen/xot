/-
  The iterator machines `Following`, `preceding` and `ReversePreorder` of access.rs yield exactly the parts of the
  pre-order (the fuel is adequate); hence the axes descendant, ancestor, following, preceding as filters of the
  pre-order, and the partition law.
-/
import XotModel.Lemmas.AxesPreorder
import XotModel.Lemmas.BasicFacts

/-! ## The `Following` iterator machine of access.rs equals its document-order specification. -/

namespace XotModel.Axes

/-! ### Arena links at a known node -/

theorem allChildren_of_at? {t : Tree} {π : Path} {v : Value} {ks : List Tree}
    (h : t.at? π = some (.node v ks)) : allChildren t π = kidPaths π 0 ks := by
  simp [allChildren, subAt_of_at? h, Tree.kids]

theorem internalFirstChild_nil {t : Tree} {π : Path} {v : Value}
    (h : t.at? π = some (.node v [])) : internalFirstChild t π = none := by
  simp [internalFirstChild, allChildren_of_at? h, kidPaths]

theorem internalFirstChild_cons {t : Tree} {π : Path} {v : Value} {k : Tree} {ks : List Tree}
    (h : t.at? π = some (.node v (k :: ks))) : internalFirstChild t π = some (π ++ [0]) := by
  simp [internalFirstChild, allChildren_of_at? h, kidPaths]

theorem internalNextSibling_snoc {t : Tree} {π : Path} {v : Value} {ks : List Tree}
    (h : t.at? π = some (.node v ks)) (i : Nat) :
    internalNextSibling t (π ++ [i]) = if i + 1 < ks.length then some (π ++ [i + 1]) else none := by
  simp [internalNextSibling, subAt_of_at? h, Tree.kids]

@[simp] theorem internalNextSibling_nil (t : Tree) : internalNextSibling t [] = none := by
  simp [internalNextSibling]

@[simp] theorem followingStart_nil (t : Tree) : followingStart t [] = none := by
  simp [followingStart, followingClimb]

theorem followingStart_snoc {t : Tree} {π : Path} {v : Value} {ks : List Tree}
    (h : t.at? π = some (.node v ks)) (i : Nat) :
    followingStart t (π ++ [i]) =
      if i + 1 < ks.length then some (π ++ [i + 1]) else followingStart t π := by
  unfold followingStart
  rw [internalNextSibling_snoc h]
  by_cases hi : i + 1 < ks.length
  · simp [hi]
  · simp [hi, followingClimb]

/-! ### The unfiltered machine walks the pre-order -/

abbrev allF : Path → Bool := fun _ => true

@[simp] theorem followingIter_none (t : Tree) (flt : Path → Bool) (n : Nat) :
    followingIter t flt n none = [] := by
  cases n <;> rfl

/-! ### What a successor function visits

  The iterator machines of access.rs run a successor function on fuel.  What the successor function does on a tree
  is said without fuel; each machine has one lemma that turns it into what the machine yields. -/

/-- From state `a`, following `step` visits exactly the items of `l`, in order, and arrives at `b`.  The state
    arrived at is part of the statement so that two pieces compose (`Visits.append`) without a lemma about the last
    item of the first. -/
inductive Visits {α : Type} (step : α → Option α) : Option α → List α → Option α → Prop
  | nil (a : Option α) : Visits step a [] a
  | cons {a : α} {l : List α} {b : Option α} : Visits step (step a) l b → Visits step (some a) (a :: l) b

theorem Visits.append {α : Type} {step : α → Option α} {a b c : Option α} {l l' : List α}
    (h : Visits step a l b) (h' : Visits step b l' c) : Visits step a (l ++ l') c := by
  induction h with
  | nil a => exact h'
  | cons _ ih => exact .cons (ih h')

theorem Visits.single {α : Type} (step : α → Option α) (a : α) : Visits step (some a) [a] (step a) :=
  .cons (.nil _)

/-- The successor `Following::next` computes. -/
def fwdStep (t : Tree) (node : Path) : Option Path :=
  match internalFirstChild t node with
  | some c => some c
  | none => followingStart t node

/-- The machine yields what its successor function visits; the fuel left over goes on from there. -/
theorem followingIter_visits (t : Tree) {cur b : Option Path} {l : List Path} (h : Visits (fwdStep t) cur l b)
    (f : Nat) : followingIter t allF (l.length + f) cur = l ++ followingIter t allF f b := by
  induction h with
  | nil a => simp
  | cons _ ih =>
    rw [List.length_cons, Nat.add_right_comm]
    simp only [followingIter, allF, Bool.not_true, Bool.false_eq_true, if_false, List.cons_append]
    exact congrArg _ ih

mutual
  /-- From the root of a subtree: the subtree in pre-order, then the node that follows the subtree. -/
  theorem visits_following_sub (t : Tree) : ∀ (s : Tree) (π : Path), t.at? π = some s →
      Visits (fwdStep t) (some π) ((allPre s).map (π ++ ·)) (followingStart t π)
    | .node v [], π, h => by
      have := Visits.single (fwdStep t) π
      rw [show fwdStep t π = followingStart t π by rw [fwdStep, internalFirstChild_nil h]] at this
      simpa [allPre, allPreList] using this
    | .node v (k :: ks), π, h => by
      have ih := visits_following_kids t (k :: ks) π v (k :: ks) 0 h rfl (by simp)
      rw [← show fwdStep t π = some (π ++ [0]) by rw [fwdStep, internalFirstChild_cons h]] at ih
      simpa [allPre] using Visits.cons ih
  theorem visits_following_kids (t : Tree) : ∀ (ks : List Tree) (π : Path) (v : Value) (all : List Tree) (i : Nat),
      t.at? π = some (.node v all) → all.drop i = ks → ks ≠ [] →
      Visits (fwdStep t) (some (π ++ [i])) ((allPreList i ks).map (π ++ ·)) (followingStart t π)
    | [], _, _, _, _, _, _, hne => absurd rfl hne
    | k :: ks, π, v, all, i, h, hd, _ => by
      have hi : all[i]? = some k := by
        have : (all.drop i)[0]? = some k := by rw [hd]; rfl
        simpa using this
      have hd' : all.drop (i + 1) = ks := by
        rw [show all.drop (i + 1) = (all.drop i).drop 1 by simp [List.drop_drop], hd]; rfl
      have hk := visits_following_sub t k (π ++ [i]) (by rw [at?_snoc h, hi])
      rw [followingStart_snoc h] at hk
      have hlen := congrArg List.length hd'
      rw [List.length_drop] at hlen
      simp only [allPreList, List.map_append, List.map_map]
      cases ks with
      | nil =>
        rw [if_neg (by simp at hlen; omega)] at hk
        simpa [allPreList, Function.comp_def] using hk
      | cons k' ks' =>
        rw [if_pos (by simp at hlen; omega)] at hk
        simpa [Function.comp_def] using
          hk.append (visits_following_kids t (k' :: ks') π v all (i + 1) h hd' (by simp))
end

theorem followingIter_root (t : Tree) : followingIter t allF t.size (some []) = allPre t := by
  have := followingIter_visits t (visits_following_sub t t [] (by simp [Tree.at?])) 0
  simpa [length_allPre] using this

theorem followingIter_filter (t : Tree) (flt : Path → Bool) : ∀ (n : Nat) (cur : Option Path),
    followingIter t flt n cur = (followingIter t allF n cur).filter flt
  | 0, _ => by simp [followingIter]
  | n + 1, none => by simp
  | n + 1, some node => by
    simp only [followingIter, allF, Bool.not_true, Bool.false_eq_true, if_false]
    rw [followingIter_filter t flt n, show followingIter t (fun _ => true) = followingIter t allF from rfl]
    cases hf : flt node <;> simp [hf]

/-! ### Started after a node, the machine yields what follows that node -/

theorem visits_following_after (t : Tree) : ∀ (r : List Nat), Valid t r.reverse →
    Visits (fwdStep t) (followingStart t r.reverse) (afterRel t r.reverse) none
  | [], _ => by simpa [afterRel] using Visits.nil (step := fwdStep t) none
  | i :: r, h => by
    simp only [List.reverse_cons] at h ⊢
    have hπ : Valid t r.reverse := valid_prefix h
    have hat := hπ.at?
    rw [tree_eta (subAt t r.reverse)] at hat
    have hi : i < (subAt t r.reverse).kids.length := (valid_snoc_iff hπ i).mp h
    rw [afterRel_snoc t _ _ _ i hat hi, followingStart_snoc hat]
    by_cases hlt : i + 1 < (subAt t r.reverse).kids.length
    · rw [if_pos hlt]
      exact (visits_following_kids t _ _ _ _ (i + 1) hat rfl
        (fun e => by have := congrArg List.length e; simp at this; omega)).append (visits_following_after t r hπ)
    · rw [if_neg hlt, List.drop_eq_nil_of_le (by omega)]
      simpa [allPreList] using visits_following_after t r hπ

theorem length_afterRel_le (t : Tree) (p : Path) (h : Valid t p) : (afterRel t p).length ≤ t.size := by
  have := congrArg List.length (allPre_split t p h)
  rw [length_allPre] at this
  simp at this; omega

/-- `all_following` = the nodes after `p` in document order that are not below `p`. -/
theorem allFollowing_eq {t : Tree} {p : Path} (h : Valid t p) :
    allFollowing t p = (allPre t).filter (fun q => docLt p q && !p.isPrefixOf q) := by
  rw [filter_following_allPre h]
  have hle := length_afterRel_le t p h
  have := followingIter_visits t (visits_following_after t p.reverse (by simpa using h))
    (t.size - (afterRel t p).length)
  simp only [List.reverse_reverse, followingIter_none, List.append_nil] at this
  rw [show (afterRel t p).length + (t.size - (afterRel t p).length) = t.size by omega] at this
  exact this

/-- `following` = the normal nodes after `p` in document order that are not below `p`. -/
theorem following_eq {t : Tree} {p : Path} (h : Valid t p) :
    following t p = (pre t).filter (fun q => docLt p q && !p.isPrefixOf q) := by
  unfold following pre
  rw [followingIter_filter]
  have := allFollowing_eq h
  unfold allFollowing at this
  rw [show followingIter t (fun _ => true) = followingIter t allF from rfl] at this
  rw [this, List.filter_filter, List.filter_filter]
  congr 1; funext q; exact Bool.and_comm _ _

end XotModel.Axes

/-! ## `descendants`, `ancestors` and `preceding` of access.rs equal their document-order specifications. -/

namespace XotModel.Axes

theorem arenaDescendants_eq {t : Tree} {p : Path} (h : Valid t p) :
    arenaDescendants t p = (allPre t).filter (fun q => p.isPrefixOf q) := by
  rw [filter_prefix_allPre h]; rfl

/-- `descendants` = the normal nodes at or below `p`, in document order. -/
theorem descendants_eq {t : Tree} {p : Path} (h : Valid t p) :
    descendants t p = (pre t).filter (fun q => p.isPrefixOf q) := by
  unfold descendants pre
  rw [arenaDescendants_eq h, List.filter_filter, List.filter_filter]
  congr 1; funext q; exact Bool.and_comm _ _

theorem descendants_normal {t : Tree} {p : Path} (hn : isNormalAt t p = true) :
    descendants t p = p :: ((arenaDescendants t p).drop 1).filter (isNormalAt t) := by
  unfold descendants arenaDescendants
  cases subAt t p with
  | node v ks => simp [allPre, hn]

theorem isNormalAt_append {t : Tree} {p : Path} (h : Valid t p) (q : Path) :
    isNormalAt t (p ++ q) = isNormalAt (subAt t p) q := by
  unfold isNormalAt valueAt subAt
  rw [at?_append, h.at?]
  simp [subAt]

theorem internalPreviousSibling_snoc (π : Path) (i : Nat) :
    internalPreviousSibling (π ++ [i]) = if i = 0 then none else some (π ++ [i - 1]) := by
  simp [internalPreviousSibling]

/-- `next_sibling` answers with the raw next sibling, and only if that has the node's category. -/
theorem nextSibling_eq_some {t : Tree} {p s : Path} :
    nextSibling t p = some s ↔ internalNextSibling t p = some s ∧ categoryAt t s = categoryAt t p := by
  unfold nextSibling
  cases internalNextSibling t p with
  | none => simp
  | some s' =>
    by_cases hc : categoryAt t p = categoryAt t s'
    · simp only [hc, bne_self_eq_false, Bool.false_eq_true, if_false, Option.some.injEq]
      exact ⟨fun e => ⟨e, by rw [← e]⟩, fun e => e.1⟩
    · simp only [bne_iff_ne, ne_eq, hc, not_false_eq_true, if_true, Option.some.injEq, false_iff, not_and,
        reduceCtorEq]
      rintro rfl e
      exact hc e.symm

/-- `previous_sibling` answers with the raw previous sibling, and only if that has the node's category. -/
theorem previousSibling_eq_some {t : Tree} {p s : Path} :
    previousSibling t p = some s ↔ internalPreviousSibling p = some s ∧ categoryAt t s = categoryAt t p := by
  unfold previousSibling
  cases internalPreviousSibling p with
  | none => simp
  | some s' =>
    by_cases hc : categoryAt t p = categoryAt t s'
    · simp only [hc, bne_self_eq_false, Bool.false_eq_true, if_false, Option.some.injEq]
      exact ⟨fun e => ⟨e, by rw [← e]⟩, fun e => e.1⟩
    · simp only [bne_iff_ne, ne_eq, hc, not_false_eq_true, if_true, Option.some.injEq, false_iff, not_and,
        reduceCtorEq]
      rintro rfl e
      exact hc e.symm

theorem categoryAt_snoc {t : Tree} {π : Path} {v : Value} {ks : List Tree}
    (h : t.at? π = some (.node v ks)) {i : Nat} {k : Tree} (hk : ks[i]? = some k) :
    categoryAt t (π ++ [i]) = k.value.category := by
  simp [categoryAt, valueAt, subAt, at?_snoc h, hk]

theorem isNormalAt_snoc {t : Tree} {π : Path} {v : Value} {ks : List Tree}
    (h : t.at? π = some (.node v ks)) {i : Nat} {k : Tree} (hk : ks[i]? = some k) :
    isNormalAt t (π ++ [i]) = k.value.isNormal := by
  simp [isNormalAt, valueAt, subAt, at?_snoc h, hk]

theorem category_eq_of_normal {a b : Value} (ha : a.isNormal = true) (hb : b.isNormal = true) :
    a.category = b.category := by
  rw [Value.isNormal, beq_iff_eq] at ha hb
  rw [ha, hb]

/-- `next_sibling` of a normal child of an ordered node: the next raw child, which is normal too. -/
theorem nextSibling_normal_child {t : Tree} {π : Path} {v : Value} {ks : List Tree}
    (h : t.at? π = some (.node v ks)) (hord : kidsOrdered ks = true) {i : Nat} (hi : i < ks.length)
    (hn : ks[i].value.isNormal = true) :
    nextSibling t (π ++ [i]) = if i + 1 < ks.length then some (π ++ [i + 1]) else none := by
  unfold nextSibling
  rw [internalNextSibling_snoc h]
  by_cases hlt : i + 1 < ks.length
  · have hk := List.getElem?_eq_getElem hi
    have hk1 := List.getElem?_eq_getElem hlt
    have hn1 := kidsOrdered_mono ks hord i (i + 1) _ _ (Nat.le_succ i) hk hk1 hn
    simp only [hlt, if_true, categoryAt_snoc h hk, categoryAt_snoc h hk1, category_eq_of_normal hn hn1,
      bne_self_eq_false, Bool.false_eq_true, if_false]
  · simp only [hlt, if_false]

theorem take_succ_allPreList (ks : List Tree) (i : Nat) (k : Tree) (hk : ks[i]? = some k) :
    allPreList 0 (ks.take (i + 1)) = allPreList 0 (ks.take i) ++ (allPre k).map (i :: ·) := by
  have hi : i < ks.length := by
    rcases Nat.lt_or_ge i ks.length with h | h
    · exact h
    · rw [List.getElem?_eq_none h] at hk; cases hk
  rw [List.take_add_one, hk, allPreList_append]
  have : (ks.take i).length = i := by simp; omega
  simp [this, allPreList]

theorem abnormal_prefix_filter {t : Tree} {π : Path} {v : Value} {ks : List Tree}
    (h : t.at? π = some (.node v ks)) (hord : kidsOrdered ks = true) (hwl : wfList ks = true) {i : Nat}
    (hi : i < ks.length) (hab : ks[i].value.isNormal = false) :
    ((allPreList 0 (ks.take (i + 1))).map (π ++ ·)).filter (isNormalAt t) = [] := by
  apply List.filter_eq_nil_iff.mpr
  intro x hx
  obtain ⟨y, hy, rfl⟩ := List.mem_map.mp hx
  obtain ⟨j, q', rfl, _, _, kj, hkj, hq'⟩ := mem_allPreList hy
  obtain ⟨hjab, hleaf⟩ := take_abnormal_leaves hord hwl hi hab kj (List.mem_of_getElem? hkj)
  rw [Nat.sub_zero, List.getElem?_take] at hkj
  split at hkj
  · cases kj with
    | node vj ksj =>
      cases hleaf
      simp only [allPre, allPreList, List.mem_singleton] at hq'
      subst hq'
      rw [isNormalAt_snoc h hkj, hjab]
      exact Bool.false_ne_true
  · cases hkj

/-- The inner loop of `preceding` at child `i` of `π`. -/
theorem precSiblingLoop_eq {t : Tree} {π : Path} {v : Value} {ks : List Tree}
    (h : t.at? π = some (.node v ks)) (hw : wf t = true) : ∀ (i fuel : Nat), i < ks.length → i ≤ fuel →
    precSiblingLoop t fuel (π ++ [i]) =
      (((allPreList 0 (ks.take i)).map (π ++ ·)).filter (isNormalAt t)).reverse
  | 0, fuel, _, _ => by
    cases fuel with
    | zero => simp [precSiblingLoop, allPreList]
    | succ fuel => simp [precSiblingLoop, previousSibling, internalPreviousSibling_snoc, allPreList]
  | i + 1, 0, _, hf => by omega
  | i + 1, fuel + 1, hi, hf => by
    have hi' : i < ks.length := by omega
    have hk1 : ks[i + 1]? = some ks[i + 1] := List.getElem?_eq_getElem hi
    have hk0 : ks[i]? = some ks[i] := List.getElem?_eq_getElem hi'
    simp only [precSiblingLoop, previousSibling, internalPreviousSibling_snoc, Nat.add_one_ne_zero,
      if_false, Nat.add_sub_cancel, categoryAt_snoc h hk1, categoryAt_snoc h hk0]
    by_cases hc : ks[i + 1].value.category = ks[i].value.category
    · simp only [hc, bne_self_eq_false, Bool.false_eq_true, if_false]
      rw [precSiblingLoop_eq h hw i fuel hi' (by omega), take_succ_allPreList ks i _ hk0]
      simp only [List.map_append, List.filter_append, List.reverse_append, List.map_map]
      congr 1
      unfold descendants arenaDescendants
      have : subAt t (π ++ [i]) = ks[i] := by
        simp [subAt, at?_snoc h, hk0]
      rw [this]
      simp [Function.comp_def]
    · have hne : (ks[i + 1].value.category != ks[i].value.category) = true := by simpa using hc
      simp only [hne, if_true]
      -- child i is not normal, else both would be normal
      have hab : ks[i].value.isNormal = false := by
        cases hn : ks[i].value.isNormal
        · rfl
        · exact absurd (category_eq_of_normal
            (kidsOrdered_mono ks (wf_node hw h).1 i (i + 1) _ _ (Nat.le_succ i) hk0 hk1 hn) hn) hc
      rw [abnormal_prefix_filter h (wf_node hw h).1 (wf_node hw h).2 hi' hab]
      rfl

theorem precSiblingLoop_root (t : Tree) (fuel : Nat) : precSiblingLoop t fuel [] = [] := by
  cases fuel <;> simp [precSiblingLoop, previousSibling, internalPreviousSibling]

theorem precedingLoop_eq (t : Tree) (hw : wf t = true) : ∀ (r : List Nat), Valid t r.reverse →
    precedingLoop t r = ((precRel t r.reverse).filter (isNormalAt t)).reverse
  | [], _ => by simp [precedingLoop, precSiblingLoop_root, precRel]
  | i :: r, h => by
    simp only [List.reverse_cons] at h ⊢
    have hπ : Valid t r.reverse := valid_prefix h
    have hat := hπ.at?
    rw [tree_eta (subAt t r.reverse)] at hat
    have hi : i < (subAt t r.reverse).kids.length := (valid_snoc_iff hπ i).mp h
    have hfuel : i ≤ t.size := by
      have h1 := kids_length_lt_size (subAt t r.reverse)
      have h2 := size_at?_le t _ _ hπ.at?
      omega
    simp only [precedingLoop, List.reverse_cons]
    rw [precSiblingLoop_eq hat hw i t.size hi hfuel, precedingLoop_eq t hw r hπ,
      precRel_snoc t _ _ _ i hat hi]
    simp [List.filter_append, List.reverse_append]

/-- `preceding` = the normal nodes before `p` in document order that are not ancestors of `p`,
    nearest first. -/
theorem preceding_eq {t : Tree} {p : Path} (hw : wf t = true) (h : Valid t p) :
    preceding t p = ((pre t).filter (fun q => docLt q p && !q.isPrefixOf p)).reverse := by
  unfold preceding
  rw [precedingLoop_eq t hw p.reverse (by simpa using h), List.reverse_reverse]
  unfold pre
  rw [← filter_preceding_allPre h, List.filter_filter, List.filter_filter]
  congr 2; funext q; exact Bool.and_comm _ _

end XotModel.Axes

/-! ## The four big axes as parts of the pre-order, and the partition law. -/

namespace XotModel.Axes

theorem isNormalAt_of_has_child {t : Tree} (hw : wf t = true) {π : Path} {i : Nat}
    (h : Valid t (π ++ [i])) : isNormalAt t π = true := by
  have hπ : Valid t π := valid_prefix h
  have hi := (valid_snoc_iff hπ i).mp h
  cases hn : isNormalAt t π with
  | true => rfl
  | false =>
    rw [abnormal_leaf_of_wf (wf_at? t π _ hw hπ.at?) hn] at hi
    cases hi

theorem ancRel_normal {t : Tree} (hw : wf t = true) : ∀ (r : List Nat), Valid t r.reverse →
    ∀ q ∈ ancRel r.reverse, isNormalAt t q = true
  | [], _, q, hq => by simp [ancRel] at hq
  | i :: r, h, q, hq => by
    simp only [List.reverse_cons] at h hq
    rw [ancRel_snoc] at hq
    rcases List.mem_append.mp hq with hq | hq
    · exact ancRel_normal hw r (valid_prefix h) q hq
    · simp at hq; subst hq; exact isNormalAt_of_has_child hw h

/-- `axis(Ancestor)`: the proper prefixes of `p`, longest first. -/
theorem axis_ancestor_eq (t : Tree) (p : Path) : axis t .ancestor p = (ancRel p).reverse := by
  rcases path_cases p with rfl | ⟨π, i, rfl⟩
  · simp [axis, ancRel]
  · simp [axis, ancestors_eq, ancRel_snoc]

theorem axis_ancestor_spec {t : Tree} {p : Path} (hw : wf t = true) (h : Valid t p) :
    axis t .ancestor p = ((pre t).filter (fun q => q.isPrefixOf p && q != p)).reverse := by
  rw [axis_ancestor_eq]
  congr 1
  unfold pre
  rw [List.filter_filter]
  have : (allPre t).filter (fun q => (q.isPrefixOf p && q != p) && isNormalAt t q) =
      ((allPre t).filter (fun q => q.isPrefixOf p && q != p)).filter (isNormalAt t) := by
    rw [List.filter_filter]; congr 1; funext q; exact Bool.and_comm _ _
  rw [this, filter_ancestor_allPre h]
  symm
  apply List.filter_eq_self.mpr
  have := ancRel_normal hw p.reverse (by simpa using h)
  simpa using this

/-- `axis(Descendant)` of a normal node: the normal nodes strictly below it. -/
theorem axis_descendant_spec {t : Tree} {p : Path} (h : Valid t p) (hn : isNormalAt t p = true) :
    axis t .descendant p = (pre t).filter (fun q => p.isPrefixOf q && q != p) := by
  simp only [axis]
  rw [descendants_normal hn, List.drop_one, List.tail_cons]
  unfold pre
  rw [List.filter_filter]
  have : (allPre t).filter (fun q => (p.isPrefixOf q && q != p) && isNormalAt t q) =
      (((allPre t).filter (fun q => p.isPrefixOf q)).filter (fun q => q != p)).filter (isNormalAt t) := by
    rw [List.filter_filter, List.filter_filter]; congr 1; funext q
    cases p.isPrefixOf q <;> cases (q != p) <;> cases isNormalAt t q <;> rfl
  rw [this, ← arenaDescendants_eq h]
  congr 1
  unfold arenaDescendants
  cases hs : subAt t p with
  | node v ks =>
    simp only [allPre, List.map_cons, List.append_nil, List.drop_one, List.tail_cons,
      List.filter_cons, bne_self_eq_false, Bool.false_eq_true, if_false]
    symm
    apply List.filter_eq_self.mpr
    intro x hx
    obtain ⟨y, hy, rfl⟩ := List.mem_map.mp hx
    obtain ⟨j, q', rfl, _⟩ := mem_allPreList hy
    simp

/-- `axis(Descendant)` of a namespace or attribute node of a well-formed tree is empty, and so
    is the specification. -/
theorem axis_descendant_abnormal {t : Tree} {p : Path} (hw : wf t = true) (h : Valid t p)
    (hn : isNormalAt t p = false) :
    axis t .descendant p = [] ∧ (pre t).filter (fun q => p.isPrefixOf q) = [] := by
  have hleaf := abnormal_leaf_of_wf (wf_at? t p _ hw h.at?) hn
  have hd : descendants t p = [] := by
    unfold descendants arenaDescendants
    unfold isNormalAt valueAt at hn
    cases hs : subAt t p with
    | node v ks =>
      rw [hs] at hleaf hn
      cases hleaf
      simp [allPre, allPreList, isNormalAt, valueAt, hs, hn]
  constructor
  · simp [axis, hd]
  · rw [← descendants_eq h, hd]

theorem following_eq_after {t : Tree} {p : Path} (h : Valid t p) :
    following t p = (afterRel t p).filter (isNormalAt t) := by
  rw [following_eq h, ← filter_following_allPre h]
  unfold pre
  rw [List.filter_filter, List.filter_filter]
  congr 1; funext q; exact Bool.and_comm _ _

theorem preceding_eq_prec {t : Tree} {p : Path} (hw : wf t = true) (h : Valid t p) :
    preceding t p = ((precRel t p).filter (isNormalAt t)).reverse := by
  unfold preceding
  rw [precedingLoop_eq t hw p.reverse (by simpa using h), List.reverse_reverse]

theorem pre_split {t : Tree} {p : Path} (h : Valid t p) :
    pre t = (beforeRel t p).filter (isNormalAt t) ++ (descendants t p ++ following t p) := by
  unfold pre
  rw [allPre_split t p h, List.filter_append, List.filter_append, following_eq_after h]
  rfl

theorem before_perm {t : Tree} {p : Path} (hw : wf t = true) (h : Valid t p) :
    ((beforeRel t p).filter (isNormalAt t)).Perm (axis t .ancestor p ++ preceding t p) := by
  rw [axis_ancestor_eq, preceding_eq_prec hw h]
  have h1 := (List.filter_append_perm (fun q => q.isPrefixOf p) ((beforeRel t p).filter (isNormalAt t))).symm
  refine h1.trans (List.Perm.append ?_ ?_)
  · rw [List.filter_filter]
    have : (beforeRel t p).filter (fun q => q.isPrefixOf p && isNormalAt t q) =
        ((beforeRel t p).filter (fun q => q.isPrefixOf p)).filter (isNormalAt t) := by
      rw [List.filter_filter]; congr 1; funext q; exact Bool.and_comm _ _
    rw [this, filter_beforeRel_anc t p h]
    have hall := ancRel_normal hw p.reverse (by simpa using h)
    simp only [List.reverse_reverse] at hall
    rw [List.filter_eq_self.mpr hall]
    exact (List.reverse_perm _).symm
  · rw [List.filter_filter]
    have : (beforeRel t p).filter (fun q => (!q.isPrefixOf p) && isNormalAt t q) =
        ((beforeRel t p).filter (fun q => !q.isPrefixOf p)).filter (isNormalAt t) := by
      rw [List.filter_filter]; congr 1; funext q; exact Bool.and_comm _ _
    rw [this, filter_beforeRel_prec]
    exact (List.reverse_perm _).symm

theorem partition_normal {t : Tree} {p : Path} (hw : wf t = true) (h : Valid t p)
    (hn : isNormalAt t p = true) :
    (axis t .ancestor p ++ (p :: axis t .descendant p) ++ axis t .preceding p ++ axis t .following p).Perm
      (pre t) := by
  rw [pre_split h]
  have hd : descendants t p = p :: axis t .descendant p := by
    simp only [axis]; rw [descendants_normal hn]; simp
  rw [hd]
  have hb := (before_perm hw h).symm
  simp only [axis] at hb ⊢
  -- A ++ (p :: D) ++ P ++ F  ~  B ++ ((p :: D) ++ F)   with  A ++ P ~ B
  have : (axis t .ancestor p ++ (p :: (descendants t p).drop 1) ++ preceding t p ++ following t p).Perm
      ((axis t .ancestor p ++ preceding t p) ++ ((p :: (descendants t p).drop 1) ++ following t p)) := by
    simp only [List.append_assoc]
    apply List.Perm.append_left
    rw [← List.append_assoc, ← List.append_assoc]
    exact List.Perm.append_right _ List.perm_append_comm
  simp only [axis] at this
  exact this.trans (List.Perm.append_right _ hb)

/-- Partition law, namespace or attribute node: the node itself is not counted. -/
theorem partition_abnormal {t : Tree} {p : Path} (hw : wf t = true) (h : Valid t p)
    (hn : isNormalAt t p = false) :
    (axis t .ancestor p ++ axis t .descendant p ++ axis t .preceding p ++ axis t .following p).Perm
      (pre t) := by
  rw [pre_split h]
  have hd := axis_descendant_abnormal hw h hn
  rw [descendants_eq h, hd.2, hd.1]
  have hb := (before_perm hw h).symm
  simp only [axis, List.append_nil, List.nil_append] at hb ⊢
  exact List.Perm.append_right _ hb

end XotModel.Axes

/-! ## The `ReversePreorder` iterator machine of access.rs equals its document-order specification. -/

namespace XotModel.Axes

/-! ### `rightmost`: the `while let Some(last_child)` descent -/

theorem rightmostList_eq : ∀ (ks : List Tree) (i : Nat), ks ≠ [] →
    ∃ k, ks[ks.length - 1]? = some k ∧ rightmostList i ks = (i + ks.length - 1) :: rightmost k
  | [], _, h => absurd rfl h
  | [k], i, _ => ⟨k, by simp, by simp [rightmostList]⟩
  | k :: k' :: ks, i, _ => by
    obtain ⟨kl, h1, h2⟩ := rightmostList_eq (k' :: ks) (i + 1) (by simp)
    refine ⟨kl, ?_, ?_⟩
    · simpa using h1
    · simp only [rightmostList, List.isEmpty_cons, Bool.false_eq_true, if_false] at h2 ⊢
      rw [h2]; simp; omega

theorem rightmost_node_nil (v : Value) : rightmost (.node v []) = [] := by simp [rightmost, rightmostList]

theorem rightmost_node {v : Value} {ks : List Tree} (h : ks ≠ []) :
    ∃ k, ks[ks.length - 1]? = some k ∧ rightmost (.node v ks) = (ks.length - 1) :: rightmost k := by
  obtain ⟨k, h1, h2⟩ := rightmostList_eq ks 0 h
  exact ⟨k, h1, by simp [rightmost, h2]⟩

@[simp] theorem revPreStep_nil (t : Tree) : revPreStep t [] = none := by
  simp [revPreStep, internalPreviousSibling]

theorem revPreStep_snoc (t : Tree) (π : Path) (i : Nat) :
    revPreStep t (π ++ [i]) =
      if i = 0 then some π else some ((π ++ [i - 1]) ++ rightmost (subAt t (π ++ [i - 1]))) := by
  unfold revPreStep
  rw [internalPreviousSibling_snoc]
  by_cases hi : i = 0 <;> simp [hi]

@[simp] theorem revPreIter_none (t : Tree) (flt : Path → Bool) (n : Nat) :
    revPreIter t flt n none = [] := by
  cases n <;> rfl

theorem revPreIter_step (t : Tree) (n : Nat) (cur : Path) :
    revPreIter t allF (n + 1) (some cur) = cur :: revPreIter t allF n (revPreStep t cur) := by
  simp [revPreIter, allF]

/-- The machine yields what its successor function visits; the fuel left over goes on from there. -/
theorem revPreIter_visits (t : Tree) {cur b : Option Path} {l : List Path} (h : Visits (revPreStep t) cur l b)
    (f : Nat) : revPreIter t allF (l.length + f) cur = l ++ revPreIter t allF f b := by
  induction h with
  | nil a => simp
  | cons _ ih => rw [List.length_cons, Nat.add_right_comm, revPreIter_step, ih, List.cons_append]

/-- From the rightmost deepest node below child `m` of `π`, back through the children `m..0`
    and `π` itself (`hsub`: from the rightmost deepest node of a child's subtree, that subtree backwards). -/
theorem visits_revPre_kids {t : Tree} {π : Path} {v : Value} {ks : List Tree}
    (h : t.at? π = some (.node v ks))
    (hsub : ∀ k ∈ ks, ∀ ρ, t.at? ρ = some k →
      Visits (revPreStep t) (some (ρ ++ rightmost k)) ((allPre k).map (ρ ++ ·)).reverse (revPreStep t ρ)) :
    ∀ (m : Nat) (hm : m < ks.length),
    Visits (revPreStep t) (some ((π ++ [m]) ++ rightmost ks[m]))
      (((allPreList 0 (ks.take (m + 1))).map (π ++ ·)).reverse ++ [π]) (revPreStep t π)
  | 0, hm => by
    have hk : ks[0]? = some ks[0] := List.getElem?_eq_getElem hm
    have := hsub ks[0] (List.getElem_mem hm) (π ++ [0]) (by rw [at?_snoc h, hk])
    rw [revPreStep_snoc, if_pos rfl] at this
    rw [take_succ_allPreList ks 0 _ hk]
    simpa [allPreList, Function.comp_def] using this.append (Visits.single _ π)
  | m + 1, hm => by
    have hm' : m < ks.length := by omega
    have hk : ks[m + 1]? = some ks[m + 1] := List.getElem?_eq_getElem hm
    have hk' : ks[m]? = some ks[m] := List.getElem?_eq_getElem hm'
    have hsubm : subAt t (π ++ [m]) = ks[m] := by simp [subAt, at?_snoc h, hk']
    have := hsub ks[m + 1] (List.getElem_mem hm) (π ++ [m + 1]) (by rw [at?_snoc h, hk])
    rw [revPreStep_snoc, if_neg (by omega), Nat.add_sub_cancel, hsubm] at this
    rw [take_succ_allPreList ks (m + 1) _ hk]
    simpa [List.map_append, List.reverse_append, Function.comp_def] using
      this.append (visits_revPre_kids h hsub m hm')

theorem take_length_sub_one_succ (ks : List Tree) (h : ks ≠ []) : ks.take (ks.length - 1 + 1) = ks := by
  have : 0 < ks.length := List.length_pos_iff.mpr h
  rw [Nat.sub_add_cancel this]; simp

/-- From the rightmost deepest node of the subtree at `π`: the subtree backwards, then what precedes `π`. -/
theorem visits_revPre_sub (t : Tree) : ∀ (n : Nat) (s : Tree), s.size ≤ n → ∀ (π : Path), t.at? π = some s →
    Visits (revPreStep t) (some (π ++ rightmost s)) ((allPre s).map (π ++ ·)).reverse (revPreStep t π)
  | 0, s, hs => by cases s; simp [Tree.size] at hs
  | n + 1, .node v ks, hs => by
    intro π h
    by_cases hks : ks = []
    · subst hks
      rw [rightmost_node_nil, List.append_nil]
      simpa [allPre, allPreList] using Visits.single (revPreStep t) π
    · obtain ⟨kl, hkl, hr⟩ := rightmost_node (v := v) hks
      have hlen : ks.length - 1 < ks.length := by
        have : 0 < ks.length := List.length_pos_iff.mpr hks
        omega
      have hkl' : ks[ks.length - 1] = kl := by
        have := List.getElem?_eq_getElem hlen
        rw [this] at hkl; exact Option.some.inj hkl
      have := visits_revPre_kids h (fun k hk => visits_revPre_sub t n k (by
        obtain ⟨i, hi, rfl⟩ := List.getElem_of_mem hk
        have := size_getElem?_le ks i _ (List.getElem?_eq_getElem hi)
        simp [Tree.size] at hs; omega)) (ks.length - 1) hlen
      rw [take_length_sub_one_succ ks hks, hkl'] at this
      rw [hr, show π ++ (ks.length - 1) :: rightmost kl = (π ++ [ks.length - 1]) ++ rightmost kl by simp]
      simpa [allPre] using this

/-- After a node, the machine visits everything before the node, last first, and stops. -/
theorem visits_revPre_before (t : Tree) : ∀ (r : List Nat), Valid t r.reverse →
    Visits (revPreStep t) (revPreStep t r.reverse) (beforeRel t r.reverse).reverse none
  | [], _ => by simpa [beforeRel] using Visits.nil (step := revPreStep t) none
  | i :: r, h => by
    simp only [List.reverse_cons] at h ⊢
    have hπ : Valid t r.reverse := valid_prefix h
    have hat := hπ.at?
    rw [tree_eta (subAt t r.reverse)] at hat
    have hi : i < (subAt t r.reverse).kids.length := (valid_snoc_iff hπ i).mp h
    have ih := visits_revPre_before t r hπ
    rw [beforeRel_snoc t _ _ _ i hat hi, revPreStep_snoc]
    by_cases h0 : i = 0
    · subst h0
      simpa [allPreList] using Visits.cons ih
    · have hm : i - 1 < (subAt t r.reverse).kids.length := by omega
      have hkids := visits_revPre_kids hat (fun k _ => visits_revPre_sub t k.size k (Nat.le_refl _)) (i - 1) hm
      rw [Nat.sub_add_cancel (by omega)] at hkids
      rw [if_neg h0, subAt_snoc hπ hm]
      simpa [List.reverse_append] using hkids.append ih

theorem revPreIter_filter (t : Tree) (flt : Path → Bool) : ∀ (n : Nat) (cur : Option Path),
    revPreIter t flt n cur = (revPreIter t allF n cur).filter flt
  | 0, _ => by simp [revPreIter]
  | n + 1, none => by simp
  | n + 1, some node => by
    simp only [revPreIter, allF, Bool.not_true, Bool.false_eq_true, if_false]
    rw [revPreIter_filter t flt n, show revPreIter t (fun _ => true) = revPreIter t allF from rfl]
    cases hf : flt node <;> simp [hf]

theorem filter_upto_allPre {t : Tree} {p : Path} (h : Valid t p) :
    (allPre t).filter (fun q => docLt q p || q == p) = beforeRel t p ++ [p] := by
  rw [allPre_split t p h, List.filter_append, List.filter_append]
  have e1 : (beforeRel t p).filter (fun q => docLt q p || q == p) = beforeRel t p := by
    apply List.filter_eq_self.mpr
    intro x hx; simp [mem_beforeRel t p x hx]
  have e3 : (afterRel t p).filter (fun q => docLt q p || q == p) = [] := by
    apply List.filter_eq_nil_iff.mpr
    intro x hx
    have := mem_afterRel t p x hx
    have hne : x ≠ p := by intro e; subst e; rw [docLt_irrefl] at this; cases this.1
    simp [docLt_asymm this.1, hne]
  have e2 : ((allPre (subAt t p)).map (p ++ ·)).filter (fun q => docLt q p || q == p) = [p] := by
    cases subAt t p with
    | node v ks =>
      simp only [allPre, List.map_cons, List.append_nil, List.filter_cons, docLt_irrefl, beq_self_eq_true,
        Bool.or_true, if_true]
      congr 1
      apply List.filter_eq_nil_iff.mpr
      intro x hx
      obtain ⟨y, hy, rfl⟩ := List.mem_map.mp hx
      obtain ⟨j, q', rfl, _⟩ := mem_allPreList hy
      have hne : p ++ j :: q' ≠ p := by simp
      have : docLt (p ++ j :: q') p = false :=
        docLt_asymm (docLt_of_prefix (by simp) (Ne.symm hne))
      simp [this]
  rw [e1, e2, e3]; simp

/-- `all_reverse_preorder` = all nodes up to and including `p`, last first. -/
theorem allReversePreorder_eq {t : Tree} {p : Path} (h : Valid t p) :
    allReversePreorder t p = ((allPre t).filter (fun q => docLt q p || q == p)).reverse := by
  rw [filter_upto_allPre h]
  have hlen : (beforeRel t p).length + 1 ≤ t.size := by
    have := congrArg List.length (allPre_split t p h)
    rw [length_allPre] at this
    have h1 : 1 ≤ (allPre (subAt t p)).length := by rw [length_allPre]; cases subAt t p; simp [Tree.size]
    simp at this; omega
  unfold allReversePreorder
  obtain ⟨f, hf⟩ : ∃ f, t.size = ((beforeRel t p).length + f) + 1 := ⟨t.size - (beforeRel t p).length - 1, by omega⟩
  rw [hf, show revPreIter t (fun _ => true) = revPreIter t allF from rfl, revPreIter_step]
  have := revPreIter_visits t (visits_revPre_before t p.reverse (by simpa using h)) f
  simp only [List.reverse_reverse, List.length_reverse] at this
  rw [this]; simp

/-- `reverse_preorder` = the normal nodes up to and including `p`, last first. -/
theorem reversePreorder_eq {t : Tree} {p : Path} (h : Valid t p) :
    reversePreorder t p = ((pre t).filter (fun q => docLt q p || q == p)).reverse := by
  unfold reversePreorder pre
  rw [revPreIter_filter]
  have := allReversePreorder_eq h
  unfold allReversePreorder at this
  rw [show revPreIter t (fun _ => true) = revPreIter t allF from rfl] at this
  rw [this, ← List.filter_reverse, List.filter_filter, List.filter_filter, List.filter_reverse]
  congr 2; funext q; exact Bool.and_comm _ _

end XotModel.Axes
