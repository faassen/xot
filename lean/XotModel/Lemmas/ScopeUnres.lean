/-
  `unresolved_namespaces(node)` as ONE path-indexed statement.

  `unresolvedRec` (ScopeWalk) is chained along paths: a namespace is reported iff some element of
  the subtree (at a raw path `q`, `Tree.at?`) carries a name that needs it and the declarations of
  the elements on the way from the start node to that element (both inclusive), read by the
  nearest-declaration rule from an EMPTY frame, give it no usable prefix.
-/
import XotModel.Lemmas.ScopeWalk

namespace XotModel
open ScopePath

/-- Declaration lists of the ELEMENTS of a chain (nearest first): the frames the name stack of
    `unresolved_namespaces` / the serialisers has pushed when it stands at the chain's head. -/
def elementFrames (chain : List Tree) : List (List (Nat × Nat)) :=
  (chain.filter (fun a => a.value.isElement)).map Tree.nsDecls

/-- Node `e` is an element one of whose names is in namespace `ns` (real, not the XML namespace)
    and cannot be written in the scope `sc`: the element name when no prefix at all is bound to
    `ns`, an attribute name when no NON-EMPTY prefix is. -/
def NeedsNs (env : Env) (sc : Nat → Option Nat) (e : Tree) (ns : Nat) : Prop :=
  ∃ name, e.value = .element name ∧ ns ≠ Env.noNamespace ∧ ns ≠ Env.xmlNamespace ∧
    ((env.nsOfName name = ns ∧ ∀ p, sc p ≠ some ns) ∨
     (∃ a ∈ e.attrs.map (·.1), env.nsOfName a = ns ∧ ∀ p, p ≠ Env.emptyPrefix → sc p ≠ some ns))

/-- Some element of `t` (at path `q`) needs `ns` in the nearest-declaration scope of the
    declarations on the way from `t` to it, on top of the frames `frames`. -/
def UnresolvedIn (env : Env) (frames : List (List (Nat × Nat))) (t : Tree) (ns : Nat) : Prop :=
  ∃ q chain e, t.ancestorsOrSelf q = some chain ∧ t.at? q = some e ∧
    NeedsNs env (scopeOf (elementFrames chain ++ frames)) e ns

/-- No element of the tree declares a prefix twice (always true of trees built through the API:
    the namespace view is a map). -/
def UniqueDeclsBelow (t : Tree) : Prop :=
  ∀ q e, t.at? q = some e → e.value.isElement = true → (e.nsDecls.map Prod.fst).Nodup

theorem UniqueDeclsBelow.kid {v : Value} {ks : List Tree} (h : UniqueDeclsBelow (.node v ks))
    {i : Nat} {k : Tree} (hk : ks[i]? = some k) : UniqueDeclsBelow k := by
  intro q e hq he
  exact h (i :: q) e (by simp [Tree.at?, hk, hq]) he

theorem UniqueDeclsBelow.self {t : Tree} (h : UniqueDeclsBelow t) (he : t.value.isElement = true) :
    (t.nsDecls.map Prod.fst).Nodup := h [] t rfl he

theorem UniqueDeclsBelow.at {t : Tree} (h : UniqueDeclsBelow t) {q : Path} {e : Tree}
    (hq : t.at? q = some e) : UniqueDeclsBelow e := by
  induction q generalizing t with
  | nil => simp only [Tree.at?, Option.some.injEq] at hq; subst hq; exact h
  | cons i q ih =>
    obtain ⟨v, ks⟩ := t
    obtain ⟨k, hk, hq⟩ := at?_cons_eq_some.1 hq
    exact ih (h.kid hk) hq

theorem elementFrames_append (c1 c2 : List Tree) :
    elementFrames (c1 ++ c2) = elementFrames c1 ++ elementFrames c2 := by
  simp [elementFrames]

theorem elementFrames_element (t : Tree) (h : t.value.isElement = true) :
    elementFrames [t] = [t.nsDecls] := by simp [elementFrames, h]

theorem elementFrames_other (t : Tree) (h : t.value.isElement = false) :
    elementFrames [t] = [] := by simp [elementFrames, h]

theorem unresolvedIn_node (env : Env) (frames : List (List (Nat × Nat))) (v : Value) (ks : List Tree)
    (ns : Nat) :
    UnresolvedIn env frames (.node v ks) ns ↔
      NeedsNs env (scopeOf (elementFrames [.node v ks] ++ frames)) (.node v ks) ns ∨
      ∃ (i : Nat) (k : Tree), ks[i]? = some k ∧ UnresolvedIn env (elementFrames [.node v ks] ++ frames) k ns := by
  constructor
  · rintro ⟨q, chain, e, hc, he, hn⟩
    cases q with
    | nil =>
      simp only [Tree.ancestorsOrSelf, Option.some.injEq] at hc
      simp only [Tree.at?, Option.some.injEq] at he
      subst hc he
      exact .inl hn
    | cons i q =>
      obtain ⟨k, c, hk, hc', rfl⟩ := ancestorsOrSelf_cons_eq_some.1 hc
      obtain ⟨k', hk', he'⟩ := at?_cons_eq_some.1 he
      cases hk.symm.trans hk'
      refine .inr ⟨i, k, hk', q, c, e, hc', he', ?_⟩
      simpa [elementFrames_append, List.append_assoc] using hn
  · rintro (hn | ⟨i, k, hk, q, c, e, hc, he, hn⟩)
    · exact ⟨[], [.node v ks], .node v ks, rfl, rfl, hn⟩
    · refine ⟨i :: q, c ++ [.node v ks], e, ancestorsOrSelf_cons_eq_some.2 ⟨k, c, hk, hc, rfl⟩,
        at?_cons_eq_some.2 ⟨k, hk, he⟩, ?_⟩
      simpa [elementFrames_append, List.append_assoc] using hn

/-- What one element contributes (the lemma behind `C09_unresolved_element`). -/
theorem mem_unresolvedOfElement_gen (env : Env) (top : List (Nat × Nat)) (frames : List (List (Nat × Nat)))
    (h : FrameInv top frames) (t : Tree) (name ns : Nat) :
    ns ∈ unresolvedOfElement env top t name ↔
      (env.nsOfName name = ns ∧ ns ≠ Env.noNamespace ∧ ns ≠ Env.xmlNamespace ∧
        ∀ p, scopeOf frames p ≠ some ns) ∨
      (∃ a ∈ t.attrs.map (·.1), env.nsOfName a = ns ∧ ns ≠ Env.noNamespace ∧
        ns ≠ Env.xmlNamespace ∧ ∀ p, p ≠ Env.emptyPrefix → scopeOf frames p ≠ some ns) := by
  have hk : ∀ n, knownIn top n = false ↔ ∀ p, scopeOf frames p ≠ some n := by
    intro n
    rw [Bool.eq_false_iff, Ne, knownIn_iff]
    constructor
    · intro hne p hp; exact hne ⟨p, (h.mem p n).2 hp⟩
    · rintro hall ⟨p, hp⟩; exact hall p ((h.mem p n).1 hp)
  have ha : ∀ n, attrKnownIn top n = false ↔ ∀ p, p ≠ Env.emptyPrefix → scopeOf frames p ≠ some n := by
    intro n
    rw [Bool.eq_false_iff, Ne, attrKnownIn_iff]
    constructor
    · intro hne p hp0 hp; exact hne ⟨p, hp0, (h.mem p n).2 hp⟩
    · rintro hall ⟨p, hp0, hp⟩; exact hall p hp0 ((h.mem p n).1 hp)
  simp only [mem_unresolvedOfElement_iff, hk, ha]

theorem mem_unresolvedOfElement (env : Env) (top : List (Nat × Nat)) (frames : List (List (Nat × Nat)))
    (h : FrameInv top frames) (ks : List Tree) (name ns : Nat) :
    ns ∈ unresolvedOfElement env top (.node (.element name) ks) name ↔
      NeedsNs env (scopeOf frames) (.node (.element name) ks) ns := by
  rw [mem_unresolvedOfElement_gen env top frames h]
  simp only [NeedsNs, Tree.value, Value.element.injEq, exists_eq_left']
  constructor
  · rintro (⟨h1, h2, h3, h4⟩ | ⟨a, ha, h1, h2, h3, h4⟩)
    · exact ⟨h2, h3, .inl ⟨h1, h4⟩⟩
    · exact ⟨h2, h3, .inr ⟨a, ha, h1, h4⟩⟩
  · rintro ⟨h2, h3, ⟨h1, h4⟩ | ⟨a, ha, h1, h4⟩⟩
    · exact .inl ⟨h1, h2, h3, h4⟩
    · exact .inr ⟨a, ha, h1, h2, h3, h4⟩

theorem needsNs_other (env : Env) (sc : Nat → Option Nat) (v : Value) (ks : List Tree) (ns : Nat)
    (h : v.isElement = false) : ¬ NeedsNs env sc (.node v ks) ns := by
  rintro ⟨name, hv, _⟩
  simp only [Tree.value] at hv
  subst hv
  simp [Value.isElement] at h

theorem FrameInv.pushTop {top : List (Nat × Nat)} {frames : List (List (Nat × Nat))}
    (h : FrameInv top frames) (decls : List (Nat × Nat)) (hd : (decls.map Prod.fst).Nodup) :
    FrameInv (pushTop top decls) (decls :: frames) := by
  have := FrameInv.push (s := [top]) (by simpa [FStack.top] using h) decls hd
  rwa [FStack.top_push] at this

mutual
theorem mem_unresolvedRec (env : Env) (ns : Nat) : ∀ (t : Tree) (top : List (Nat × Nat))
    (frames : List (List (Nat × Nat))), FrameInv top frames → UniqueDeclsBelow t →
    (ns ∈ unresolvedRec env top t ↔ UnresolvedIn env frames t ns)
  | .node v ks => by
    intro top frames hinv hu
    rw [unresolvedIn_node]
    cases hv : v.isElement with
    | false =>
      rw [unresolvedRec_other env top v ks hv, elementFrames_other _ (by simpa [Tree.value] using hv)]
      simp only [List.nil_append]
      rw [mem_unresolvedRecList env ns ks top frames hinv (fun i k hk => hu.kid hk)]
      simp [needsNs_other env _ v ks ns hv]
    | true =>
      obtain ⟨name, rfl⟩ : ∃ name, v = .element name := by
        cases v <;> simp [Value.isElement] at hv
        exact ⟨_, rfl⟩
      rw [elementFrames_element _ (by simp [Tree.value, Value.isElement])]
      simp only [List.singleton_append]
      have hinv' := hinv.pushTop (Tree.node (.element name) ks).nsDecls
        (hu.self (by simp [Tree.value, Value.isElement]))
      simp only [unresolvedRec, List.mem_append]
      rw [mem_unresolvedOfElement env _ _ hinv' ks name ns,
        mem_unresolvedRecList env ns ks _ _ hinv' (fun i k hk => hu.kid hk)]
theorem mem_unresolvedRecList (env : Env) (ns : Nat) : ∀ (ks : List Tree) (top : List (Nat × Nat))
    (frames : List (List (Nat × Nat))), FrameInv top frames →
    (∀ (i : Nat) (k : Tree), ks[i]? = some k → UniqueDeclsBelow k) →
    (ns ∈ unresolvedRec.unresolvedRecList env top ks ↔
      ∃ (i : Nat) (k : Tree), ks[i]? = some k ∧ UnresolvedIn env frames k ns)
  | [] => by
    intro top frames _ _
    simp [unresolvedRec.unresolvedRecList]
  | k :: ks => by
    intro top frames hinv hu
    simp only [unresolvedRec.unresolvedRecList, List.mem_append]
    rw [mem_unresolvedRec env ns k top frames hinv (hu 0 k rfl),
      mem_unresolvedRecList env ns ks top frames hinv (fun i k' hk => hu (i + 1) k' hk)]
    constructor
    · rintro (h | ⟨i, k', hk, h⟩)
      · exact ⟨0, k, rfl, h⟩
      · exact ⟨i + 1, k', hk, h⟩
    · rintro ⟨i, k', hk, h⟩
      cases i with
      | zero => cases hk; exact .inl h
      | succ i => exact .inr ⟨i, k', hk, h⟩
end

theorem FrameInv.nil : FrameInv [] [] := ⟨by simp, fun p ns => by simp [scopeOf]⟩

/-- `unresolved_namespaces` for the subtree `sub`, all at once. -/
theorem mem_unresolvedNamespacesSub (env : Env) (sub : Tree) (hu : UniqueDeclsBelow sub) (ns : Nat) :
    ns ∈ unresolvedNamespacesSub env sub ↔ UnresolvedIn env [] sub ns := by
  rw [unresolvedNamespacesSub_eq]
  exact mem_unresolvedRec env ns sub [] [] FrameInv.nil hu

/-! ### A checker for `UniqueDeclsBelow` (closed examples) -/

def uniqueDeclsB : Tree → Bool
  | .node v ks =>
    (!v.isElement || decide ((Tree.node v ks).nsDecls.map Prod.fst).Nodup) && uniqueDeclsBList ks
where
  uniqueDeclsBList : List Tree → Bool
    | [] => true
    | k :: ks => uniqueDeclsB k && uniqueDeclsBList ks

mutual
theorem uniqueDeclsB_sound : ∀ (t : Tree), uniqueDeclsB t = true → UniqueDeclsBelow t
  | .node v ks, h => by
    simp only [uniqueDeclsB, Bool.and_eq_true, Bool.or_eq_true, Bool.not_eq_true', decide_eq_true_eq] at h
    intro q e hq he
    cases q with
    | nil =>
      cases hq
      rcases h.1 with h1 | h1
      · simp [Tree.value, h1] at he
      · exact h1
    | cons i q =>
      obtain ⟨k, hk, hq⟩ := at?_cons_eq_some.1 hq
      exact uniqueDeclsBList_sound ks h.2 i k hk q e hq he
theorem uniqueDeclsBList_sound : ∀ (ks : List Tree), uniqueDeclsB.uniqueDeclsBList ks = true →
    ∀ (i : Nat) (k : Tree), ks[i]? = some k → UniqueDeclsBelow k
  | [] => by
    intro _ i k hk
    simp at hk
  | k0 :: ks => by
    intro h i k hk
    simp only [uniqueDeclsB.uniqueDeclsBList, Bool.and_eq_true] at h
    cases i with
    | zero => cases hk; exact uniqueDeclsB_sound _ h.1
    | succ i => exact uniqueDeclsBList_sound ks h.2 i k hk
end

end XotModel
