/-
  Tokenizer and builder composed: what the reference tokenizer guarantees of its output on every string
  (`LexFacts`), the recorded spans as slices of the source, decoding the source slice of a text node
  (`decodeRun`), and `NodeSliced`: for every node of an accepted text, which token made it, what its spans
  slice to and that its value is the decoding of that slice (`parseString_sliced`).
-/
import XotModel.Lemmas.SpanDesc
import XotModel.Lemmas.SpanSliceRun
import XotModel.Model.ParseString
import XotModel.Lemmas.ParseErase

/-! ## Spans as slices -/

namespace XotModel

/-- What the builder-side theorems need of the token list of a source `s`. -/
structure LexFacts (s : Str) (ts : List Token) : Prop where
  slices : ∀ t ∈ ts, t.All (StrSpan.SliceOf s)
  spelled : ∀ t ∈ ts, t.Spelled s
  adj : AdjChain CharAdj ts
  tags : TagsOk false ts

theorem lexMode_facts (m : Mode) (s : Str) : LexFacts s (lexMode m s).1 := by
  cases m with
  | document =>
    exact ⟨lexDocument_sliceOf s, (lexDocument_spelled s).1, (lexDocument_spelled s).2, lexDocument_tagsOk s⟩
  | fragment =>
    exact ⟨lexFragment_sliceOf s, (lexFragment_spelled s).1, (lexFragment_spelled s).2, lexFragment_tagsOk s⟩

theorem Token.wholeSpan_all {q : StrSpan → Prop} : ∀ (t : Token), t.All q → q t.wholeSpan
  | .declaration _ _ _ _, h => h.2.2
  | .pi _ _ _, h => h.2.2
  | .comment _ _, h => h.2
  | .dtdStart _, h => h
  | .emptyDtd _, h => h
  | .entityDecl _, h => h
  | .dtdEnd _, h => h
  | .elementStart _ _ _, h => h.2.2
  | .attribute _ _ _ _, h => h.2.2.2
  | .elementEnd (.close _ _) _, h => h.2.2
  | .elementEnd .open _, h => h
  | .elementEnd .empty _, h => h
  | .text _, h => h
  | .cdata _ _, h => h.2

/-- A span that is a slice of the source, as `str::get`. -/
theorem slice_of_span {s : Str} {sp : StrSpan} (h : sp.SliceOf s) :
    sliceBytes s sp.span.start sp.span.stop = some sp.text := sliceBytes_of_sliceOf h

/-- The recorded name span slices to the qualified name as written. -/
theorem NameSlice.sliceBytes {s : Str} {p l : StrSpan} (h : NameSlice s p l) :
    sliceBytes s (Span.fromPrefixName p l).start (Span.fromPrefixName p l).stop = some (tokQName p.text l.text) := by
  have := slice_of_span h.slice
  rw [h.span] at this
  exact this

/-- The text of a node: the run behind it is made of character-data tokens, and the recorded span
    slices the source to `runSlice run`. -/
theorem TextFacts.slice {s : Str} {ts : List Token} {g : SpanKey → Option Span} {path : Path} {v : Str}
    (hl : LexFacts s ts) (h : TextFacts ts g path v) :
    ∃ run sp, run <:+: ts ∧ run ≠ [] ∧ (∀ t ∈ run, t.isCharData = true ∧ t.Spelled s) ∧ AdjChain CharAdj run ∧
      RunOk run sp ∧ runValue run = some v ∧ g ⟨path, .text⟩ = some sp ∧
      sliceBytes s sp.start sp.stop = some (runSlice run) := by
  obtain ⟨run, sp, hin, hok, hv, hg⟩ := h
  have hchain := (AdjChain.and hl.adj (tagsOk_adj ts false hl.tags)).infix hin
  have hmem : ∀ t ∈ run, t ∈ ts := fun t ht => hin.subset ht
  obtain ⟨pre, tl, l, hrun, hreal, _, _⟩ := hok.last
  have hcd := run_charData run hchain hok.toks ⟨tl, by rw [hrun]; simp, Token.isCharData_of_isReal hreal⟩
  have hadj := hl.adj.infix hin
  have hall : ∀ t ∈ run, t.isCharData = true ∧ t.Spelled s ∧ t.wholeSpan.SliceOf s :=
    fun t ht => ⟨hcd t ht, hl.spelled t (hmem t ht), Token.wholeSpan_all t (hl.slices t (hmem t ht))⟩
  obtain ⟨hsl, hstop⟩ := run_slice hall hadj hok
  refine ⟨run, sp, hin, ?_, fun t ht => ⟨(hall t ht).1, (hall t ht).2.1⟩, hadj, hok, hv, hg, ?_⟩
  · rw [hrun]; simp
  · have := sliceBytes_of_sliceOf hsl
    simp only [StrSpan.stop] at this
    rw [hstop]
    exact this

/-- `parse_content` does not depend on the base position it reports errors with. -/
theorem parseContentGo_base {attr : Bool} {base : Nat} {txt v : Str}
    (h : parseContentGo attr base 0 txt = .ok v) : parseContent attr txt = .ok v := by
  unfold parseContent
  rcases parseContentGo_cases attr base 0 0 0 txt with ⟨e, e', p1, _⟩ | ⟨w, p1, p2⟩
  · rw [h] at p1; cases p1
  · rw [h] at p1
    cases p1
    exact p2

end XotModel

/-! ## Decoding the slice of a text node

  Decoding the source slice of a text node.

  `decodeRun inCdata s` reads `s` the way an XML reader reads character data that may contain CDATA
  sections, starting inside a section when `inCdata` (the `Text` span of a node whose first part is
  a CDATA section begins after its `<![CDATA[`): text up to the next `<` is decoded by `parse_text`
  (`parseText`), then `<![CDATA[` must follow; inside a section everything up to the first `]]>`
  (or to the end of `s`: the `]]>` of a last part lies outside the span) is taken literally with
  CR LF / CR → LF.  `decodeRun_runSlice`: on the slice of a run it gives the run's value.
-/

namespace XotModel

open XotModel.Lex

/-- Split at the first `]]>`: the text before it and the text after it. -/
def splitCdataEnd : Str → Option (Str × Str)
  | [] => none
  | c :: cs =>
    if litCdataClose.isPrefixOf (c :: cs) then some ([], (c :: cs).drop 3)
    else (splitCdataEnd cs).map (fun r => (c :: r.1, r.2))

theorem splitCdataEnd_length (s : Str) : ∀ (c r : Str), splitCdataEnd s = some (c, r) → r.length < s.length := by
  fun_induction splitCdataEnd s with
  | case1 => exact nofun
  | case2 x xs _ =>
    intro c r h
    cases h
    rw [List.length_drop, List.length_cons]
    omega
  | case3 x xs _ ih =>
    intro c r h
    obtain ⟨⟨c', r'⟩, h', he⟩ := Option.map_eq_some_iff.mp h
    cases he
    have : r'.length < xs.length := ih c' r' h'
    exact Nat.lt_succ_of_lt this

/-- Decode a slice made of text pieces and CDATA sections. -/
def decodeRun (inCdata : Bool) (s : Str) : Option Str :=
  if inCdata then
    match h : splitCdataEnd s with
    | none => some (replaceCr (replaceCrLf s))
    | some (c, rest) => (decodeRun false rest).map (fun w => replaceCr (replaceCrLf c) ++ w)
  else
    match parseText (s.takeWhile (fun c => c != '<')) with
    | .error _ => none
    | .ok v =>
      if hr : (s.dropWhile (fun c => c != '<')).isEmpty then some v
      else if litCdataOpen.isPrefixOf (s.dropWhile (fun c => c != '<')) then
        (decodeRun true ((s.dropWhile (fun c => c != '<')).drop 9)).map (fun w => v ++ w)
      else none
termination_by s.length
decreasing_by
  · exact splitCdataEnd_length s c rest h
  · have h1 := (List.dropWhile_suffix (l := s) (fun c => c != '<')).length_le
    have h2 : (s.dropWhile (fun c => c != '<')).length ≠ 0 := by
      intro h0
      exact hr (by rw [List.isEmpty_iff, ← List.length_eq_zero_iff]; exact h0)
    simp only [List.length_drop]
    omega

/-! ### The two splitters on the source of a run -/

theorem isPrefixOf_append_left {p a : Str} (b : Str) (h : p.isPrefixOf a = true) : p.isPrefixOf (a ++ b) = true := by
  rw [List.isPrefixOf_iff_prefix] at h ⊢
  exact h.trans (List.prefix_append a b)

/-- Inside the content of a CDATA section no `]]>` is found … -/
theorem splitCdataEnd_none : ∀ (t : Str), NoCloseInside t → splitCdataEnd t = none := by
  intro t
  induction t with
  | nil => intro _; rfl
  | cons c cs ih =>
    intro h
    have h0 := h 0 (by simp)
    simp only [List.drop_zero] at h0
    have hnot : litCdataClose.isPrefixOf (c :: cs) = false := by
      cases hp : litCdataClose.isPrefixOf (c :: cs) with
      | false => rfl
      | true => rw [isPrefixOf_append_left litCdataClose hp] at h0; cases h0
    simp only [splitCdataEnd, hnot, Bool.false_eq_true, if_false]
    rw [ih (fun j hj => by
      have := h (j + 1) (by simp only [List.length_cons]; omega)
      simpa using this)]
    rfl

/-- … and followed by `]]>` the first one found is that one. -/
theorem splitCdataEnd_close : ∀ (t y : Str), NoCloseInside t →
    splitCdataEnd (t ++ litCdataClose ++ y) = some (t, y) := by
  intro t
  induction t with
  | nil => intro y _; simp [splitCdataEnd, litCdataClose, List.isPrefixOf]
  | cons c cs ih =>
    intro y h
    have h0 := h 0 (by simp)
    simp only [List.drop_zero] at h0
    have hnot : litCdataClose.isPrefixOf (c :: (cs ++ litCdataClose ++ y)) = false := by
      have e : c :: (cs ++ litCdataClose ++ y) = ((c :: cs) ++ litCdataClose) ++ y := by simp
      rw [e, Lex.Slice.isPrefixOf_close_append _ _ (by simp [litCdataClose])]
      exact h0
    simp only [List.cons_append, splitCdataEnd, hnot, Bool.false_eq_true, if_false]
    rw [ih y (fun j hj => by
      have := h (j + 1) (by simp only [List.length_cons]; omega)
      simpa using this)]
    rfl

theorem takeWhile_text (t x : Str) (ht : '<' ∉ t) (hx : x = [] ∨ x.head? = some '<') :
    (t ++ x).takeWhile (fun c => c != '<') = t ∧ (t ++ x).dropWhile (fun c => c != '<') = x := by
  induction t with
  | nil =>
    rcases hx with rfl | hx
    · exact ⟨rfl, rfl⟩
    · cases x with
      | nil => cases hx
      | cons d ds =>
        simp only [List.head?_cons, Option.some.injEq] at hx
        subst hx
        simp
  | cons c cs ih =>
    simp only [List.mem_cons, not_or] at ht
    have hc : (c != '<') = true := by simpa using fun h => ht.1 h.symm
    obtain ⟨h1, h2⟩ := ih ht.2
    simp only [List.cons_append, List.takeWhile_cons, List.dropWhile_cons, hc, if_true]
    exact ⟨by rw [h1], h2⟩

/-! ### What `decodeRun` does on the two forms of source a run has -/

/-- Inside the last section: everything to the end, literally. -/
theorem decodeRun_cdata_end {t : Str} (h : NoCloseInside t) :
    decodeRun true t = some (replaceCr (replaceCrLf t)) := by
  rw [decodeRun]
  simp only [↓reduceIte]
  split
  · rfl
  · next c r hs => rw [splitCdataEnd_none t h] at hs; cases hs

/-- Inside a section that is closed: its content literally, then text mode behind the `]]>`. -/
theorem decodeRun_cdata_close {t : Str} (h : NoCloseInside t) (y : Str) :
    decodeRun true (t ++ litCdataClose ++ y) =
      (decodeRun false y).map (fun w => replaceCr (replaceCrLf t) ++ w) := by
  rw [decodeRun]
  simp only [↓reduceIte]
  split
  · next hs => rw [splitCdataEnd_close t y h] at hs; cases hs
  · next c r hs =>
    rw [splitCdataEnd_close t y h] at hs
    obtain ⟨rfl, rfl⟩ := Prod.mk.inj (Option.some.inj hs)
    rfl

/-- Text to the end of the source. -/
theorem decodeRun_text_end {t : Str} (ht : '<' ∉ t) :
    decodeRun false t = (parseText t).toOption := by
  obtain ⟨e1, e2⟩ := takeWhile_text t [] ht (.inl rfl)
  rw [List.append_nil] at e1 e2
  rw [decodeRun]
  simp only [Bool.false_eq_true, if_false, e1, e2, List.isEmpty_nil, dite_true]
  cases parseText t <;> rfl

/-- Text, then a section opens. -/
theorem decodeRun_text_open {t : Str} (ht : '<' ∉ t) (y : Str) :
    decodeRun false (t ++ (litCdataOpen ++ y)) =
      (parseText t).toOption.bind (fun v => (decodeRun true y).map (fun w => v ++ w)) := by
  obtain ⟨e1, e2⟩ := takeWhile_text t (litCdataOpen ++ y) ht (.inr rfl)
  have hpre : litCdataOpen.isPrefixOf (litCdataOpen ++ y) = true := by
    rw [List.isPrefixOf_iff_prefix]; exact List.prefix_append _ _
  have hne : (litCdataOpen ++ y).isEmpty = false := rfl
  have hdrop : (litCdataOpen ++ y).drop 9 = y := rfl
  rw [decodeRun]
  simp only [Bool.false_eq_true, if_false, e1, e2, hne, dite_false, hpre, if_true, hdrop]
  cases parseText t <;> rfl

theorem runValue_text_ok {t : StrSpan} {v : Str} (h : parseContentGo false t.start 0 t.text = .ok v) :
    parseText t.text = .ok v := parseContentGo_base h

theorem parseText_nil : parseText [] = .ok [] := by simp [parseText, parseContent, parseContentGo]

theorem parseText_toOption (t : StrSpan) :
    (parseText t.text).toOption = (parseContentGo false t.start 0 t.text).toOption := by
  unfold parseText parseContent
  rcases parseContentGo_cases false t.start 0 0 0 t.text with ⟨e, e', p1, p2⟩ | ⟨w, p1, p2⟩
  · rw [p1, p2]; rfl
  · rw [p1, p2]

/-! ### Correctness on the source of a run -/

/-- The hypotheses on a run (what `TextFacts.slice` delivers). -/
structure RunSpelled (s : Str) (run : List Token) : Prop where
  toks : ∀ t ∈ run, t.isCharData = true ∧ t.Spelled s
  adj : AdjChain CharAdj run

theorem RunSpelled.tail {s : Str} {a : Token} {rest : List Token} (h : RunSpelled s (a :: rest)) : RunSpelled s rest :=
  ⟨fun t ht => h.toks t (by simp [ht]), AdjChain.tail h.adj⟩

/-- Whether the run starts inside a CDATA section. -/
def startsInCdata : List Token → Bool
  | .cdata _ _ :: _ => true
  | _ => false

/-- On the source of a run the decoder returns the run's value; it is started inside a section
    (`inCdata`) only when the run begins with one. -/
theorem decodeRun_run {s : Str} : ∀ (run : List Token), RunSpelled s run → ∀ (inCdata : Bool),
    (inCdata = true → startsInCdata run = true) →
    decodeRun inCdata (runSliceAux inCdata run) = runValue run := by
  intro run
  induction run with
  | nil =>
    intro _ inCdata hb
    cases inCdata with
    | true => cases hb rfl
    | false =>
      show decodeRun false [] = some []
      rw [decodeRun_text_end (by simp), parseText_nil]
      rfl
  | cons a rest ih =>
    intro h inCdata hb
    have ih := ih h.tail
    have ha := h.toks a (by simp)
    cases a with
    | text t =>
      have hin : inCdata = false := by
        cases inCdata with
        | false => rfl
        | true => cases hb rfl
      subst hin
      obtain ⟨_, hlt⟩ := ha.2
      -- what follows a text token is nothing or a CDATA section
      cases rest with
      | nil =>
        simp only [runSliceAux, List.append_nil, runValue]
        rw [decodeRun_text_end hlt, parseText_toOption]
        cases parseContentGo false t.start 0 t.text <;> simp [Except.toOption]
      | cons b r =>
        have hb' := (h.toks b (by simp)).1
        cases b with
        | cdata t' sp' =>
          have hopen : runSliceAux false (Token.cdata t' sp' :: r) =
              litCdataOpen ++ runSliceAux true (Token.cdata t' sp' :: r) := by
            simp [runSliceAux]
          rw [runSliceAux, hopen, decodeRun_text_open hlt, ih true (fun _ => rfl), parseText_toOption, runValue]
          cases parseContentGo false t.start 0 t.text <;> cases runValue (Token.cdata t' sp' :: r) <;> rfl
        | text t' =>
          have := (h.adj.1 rfl).2.2 rfl
          simp [Token.isTextTok] at this
        | _ => simp [Token.isCharData] at hb'
    | cdata t sp =>
      obtain ⟨_, _, hno⟩ := ha.2
      have hcd : decodeRun true (runSliceAux true (Token.cdata t sp :: rest)) =
          runValue (Token.cdata t sp :: rest) := by
        cases rest with
        | nil =>
          have e : runSliceAux true [Token.cdata t sp] = t.text := by simp [runSliceAux]
          rw [e, decodeRun_cdata_end hno]
          simp [runValue]
        | cons b r =>
          have e : runSliceAux true (Token.cdata t sp :: b :: r) =
              t.text ++ litCdataClose ++ runSliceAux false (b :: r) := by simp [runSliceAux]
          rw [e, decodeRun_cdata_close hno, ih false (fun hh => by cases hh), runValue]
      cases inCdata with
      | true => exact hcd
      | false =>
        -- text mode in front of `<![CDATA[`: an empty text
        have hopen : runSliceAux false (Token.cdata t sp :: rest) =
            [] ++ (litCdataOpen ++ runSliceAux true (Token.cdata t sp :: rest)) := by
          simp [runSliceAux]
        rw [hopen, decodeRun_text_open (t := []) (by simp), hcd, parseText_nil]
        cases runValue (Token.cdata t sp :: rest) <;> rfl
    | _ => simp [Token.isCharData] at ha

theorem decodeRun_runSlice {s : Str} {run : List Token} (h : RunSpelled s run) :
    decodeRun (startsInCdata run) (runSlice run) = runValue run := by
  have h1 := decodeRun_run run h (startsInCdata run) id
  cases run with
  | nil => exact h1
  | cons a rest =>
    have ha := (h.toks a (by simp)).1
    cases a with
    | cdata t sp => exact h1
    | text t => exact h1
    | _ => simp [Token.isCharData] at ha

end XotModel

/-! ## Node by node

  `NodeFacts` (which token made the node, which spans are recorded)
  read on the source text: every recorded span SLICES the source to the item's spelling, and the
  node's value is the decoding of that slice.  `NodeSliced` collects the statements per node kind;
  Props/C17.lean restates them one by one.
-/

namespace XotModel

/-- The recorded span under `key` slices the source to `txt`. -/
def SlicesTo (s : Str) (g : SpanKey → Option Span) (key : SpanKey) (txt : Str) : Prop :=
  ∃ sp, g key = some sp ∧ sliceBytes s sp.start sp.stop = some txt

/-- An attribute child `(n, v)` of the element at `q`. -/
def AttrSliced (s : Str) (ts : List Token) (g : SpanKey → Option Span) (env : Env) (scope : NsStack) (q : Path)
    (n : Nat) (v : Str) : Prop :=
  ∃ pfx loc val wsp, Token.attribute pfx loc val wsp ∈ ts ∧
    SlicesTo s g ⟨q, .attributeName n⟩ (tokQName pfx.text loc.text) ∧
    (∃ sp, g ⟨q, .attributeValue n⟩ = some sp ∧ sliceBytes s sp.start sp.stop = some val.text ∧
      ∃ a b qc, (qc = '"' ∨ qc = '\'') ∧ s = a ++ qc :: (val.text ++ qc :: b) ∧ sp.start = strLen a + 1) ∧
    (∃ raw, parseAttribute val.text = .ok raw ∧
      v = if n == Env.xmlIdName then normalizeXmlId raw else raw) ∧
    pfx.text ∈ env.prefixes ∧
    ∃ ns, env.names[n]? = some (loc.text, ns) ∧
      if env.prefixes.idxOf pfx.text = Env.emptyPrefix then ns = Env.noNamespace
      else lookupPrefix scope (env.prefixes.idxOf pfx.text) = some ns

/-- The element `id` at `q`. -/
def ElementSliced (s : Str) (ts : List Token) (g : SpanKey → Option Span) (env : Env) (scope : NsStack) (q : Path)
    (id : Nat) : Prop :=
  (∃ pfx loc wsp, Token.elementStart pfx loc wsp ∈ ts ∧
    SlicesTo s g ⟨q, .elementStart⟩ (tokQName pfx.text loc.text) ∧
    pfx.text ∈ env.prefixes ∧
    ∃ ns, env.names[id]? = some (loc.text, ns) ∧
      lookupPrefix scope (env.prefixes.idxOf pfx.text) = some ns) ∧
  ∃ e esp, Token.elementEnd e esp ∈ ts ∧ e ≠ .open ∧ SlicesTo s g ⟨q, .elementEnd⟩ esp.text ∧
    (esp.text = ['/', '>'] ∨ ∃ mid, esp.text = '<' :: '/' :: (mid ++ ['>']))

/-- The text node with value `v` at `q`. -/
def TextSliced (s : Str) (ts : List Token) (g : SpanKey → Option Span) (q : Path) (v : Str) : Prop :=
  ∃ run, run <:+: ts ∧ run ≠ [] ∧ (∀ t ∈ run, t.isCharData = true) ∧
    SlicesTo s g ⟨q, .text⟩ (runSlice run) ∧ runValue run = some v ∧
    decodeRun (startsInCdata run) (runSlice run) = some v

/-- The comment with value `v` at `q`: the span slices to the body AS WRITTEN (`w`), the value is its
    line-end normalisation (CR LF / CR → LF). -/
def CommentSliced (s : Str) (g : SpanKey → Option Span) (q : Path) (v : Str) : Prop :=
  ∃ w, SlicesTo s g ⟨q, .comment⟩ w ∧ v = normalizeLineEnds w

/-- The PI `id` with data `d` at `q`: the target as written is the name (not `xml` in any letter
    case); the content span slices to the data AS WRITTEN, the data is its line-end normalisation. -/
def PiSliced (s : Str) (g : SpanKey → Option Span) (env : Env) (q : Path) (id : Nat) (d : Option Str) : Prop :=
  ∃ target, SlicesTo s g ⟨q, .piTarget⟩ target ∧ isReservedPiTarget target = false ∧
    env.names[id]? = some (target, Env.noNamespace) ∧
    ∀ c, d = some c → ∃ w, SlicesTo s g ⟨q, .piContent⟩ w ∧ c = normalizeLineEnds w

def NodeSliced (s : Str) (ts : List Token) (g : SpanKey → Option Span) (env : Env) (scope : NsStack) (q : Path)
    (v : Value) (ks : List Tree) : Prop :=
  match v with
  | .element id => ElementSliced s ts g env scope q id ∧
      ∀ k ∈ ks, ∀ n w, k.value = .attribute n w → AttrSliced s ts g env scope q n w
  | .text w => TextSliced s ts g q w
  | .comment w => CommentSliced s g q w
  | .pi id d => PiSliced s g env q id d
  | _ => True

theorem slicesTo_span {s : Str} {g : SpanKey → Option Span} {key : SpanKey} {sp : StrSpan}
    (hg : g key = some sp.span) (hs : sp.SliceOf s) : SlicesTo s g key sp.text :=
  ⟨sp.span, hg, slice_of_span hs⟩

theorem attrFacts_sliced {s : Str} {ts : List Token} {g : SpanKey → Option Span} {env : Env} {scope : NsStack}
    {q : Path} {n : Nat} {v : Str} (hl : LexFacts s ts) (h : AttrFacts ts g env scope q n v) :
    AttrSliced s ts g env scope q n v := by
  obtain ⟨p, l, val, sp, hm, h1, h2, ⟨raw, hr, hv⟩, hpm, ns, hn, hif⟩ := h
  obtain ⟨hsp, qc, pre, hq, htext, hstart⟩ : NameSlice s p l ∧ _ := hl.spelled _ hm
  have hsl := hl.slices _ hm
  obtain ⟨a0, b0, hsrc, hst0⟩ := hsl.2.2.2
  refine ⟨p, l, val, sp, hm, ⟨_, h1, hsp.sliceBytes⟩,
    ⟨val.span, h2, slice_of_span hsl.2.2.1, a0 ++ pre, b0, qc, hq, ?_, ?_⟩,
    ⟨raw, parseContentGo_base hr, hv⟩, hpm, ns, hn, ?_⟩
  · rw [hsrc, htext]; simp
  · show val.start = strLen (a0 ++ pre) + 1
    rw [hstart, hst0, Lex.strLen_app]
  · simpa using hif

theorem nodeFacts_sliced {s : Str} {ts : List Token} {g : SpanKey → Option Span} {env : Env} {scope : NsStack}
    {q : Path} {v : Value} {ks : List Tree} (hl : LexFacts s ts) (h : NodeFacts ts g env scope q v ks) :
    NodeSliced s ts g env scope q v ks := by
  cases v with
  | element id =>
    obtain ⟨⟨⟨p, l, sp, hm, h1, hpm, ns, hn, hif⟩, hattrs⟩, e, esp, hem, hne, h2, _⟩ := h
    have hsp : NameSlice s p l := hl.spelled _ hm
    refine ⟨⟨⟨p, l, sp, hm, ⟨_, h1, hsp.sliceBytes⟩, hpm, ns, hn, by simpa using hif⟩, e, esp, hem, hne, ?_, ?_⟩,
      fun k hk n w hkv => attrFacts_sliced hl (hattrs k hk n w hkv)⟩
    · exact slicesTo_span h2 (Token.wholeSpan_all _ (hl.slices _ hem))
    · have := hl.spelled _ hem
      cases e with
      | «open» => exact absurd rfl hne
      | empty => exact .inl this
      | close p' l' => exact .inr this.2
  | text w =>
    obtain ⟨run, sp, hin, hne, hall, hadj, hok, hv, hg, hsl⟩ := TextFacts.slice hl h
    refine ⟨run, hin, hne, fun t ht => (hall t ht).1, ⟨sp, hg, hsl⟩, hv, ?_⟩
    rw [decodeRun_runSlice ⟨hall, hadj⟩, hv]
  | comment w =>
    obtain ⟨t, sp, hm, hg, rfl⟩ := h
    exact ⟨t.text, slicesTo_span hg (hl.slices _ hm).1, rfl⟩
  | pi id d =>
    obtain ⟨tg, c, sp, hm, h1, h2, h3, h4, h5⟩ := h
    have hsl := hl.slices _ hm
    refine ⟨tg.text, slicesTo_span h1 hsl.1, h5, h2, fun c' hc' => ?_⟩
    subst h3
    cases c with
    | none => cases hc'
    | some cs =>
      simp only [Option.map_some, Option.some.injEq] at hc'
      subst hc'
      exact ⟨cs.text, slicesTo_span (h4 cs rfl) (hsl.2.1 cs rfl), rfl⟩
  | _ => trivial

/-! ### `str::get` backwards: a slice is a piece of the text -/

theorem dropBytes_split (n : Nat) (s : Str) : ∀ r, dropBytes n s = some r → ∃ a, s = a ++ r ∧ n = strLen a := by
  fun_induction dropBytes n s with
  | case1 => intro r h; cases h; exact ⟨[], rfl, rfl⟩
  | case2 => intro r h; cases h
  | case3 => intro r h; cases h; exact ⟨[], rfl, rfl⟩
  | case4 n c cs h0 hle ih =>
    intro r h
    obtain ⟨a, ha, hn⟩ := ih r h
    exact ⟨c :: a, by rw [ha]; rfl, by rw [strLen]; omega⟩
  | case5 => intro r h; cases h

theorem takeBytes_split (n : Nat) (s : Str) : ∀ w, takeBytes n s = some w → ∃ b, s = w ++ b ∧ n = strLen w := by
  fun_induction takeBytes n s with
  | case1 => intro w h; cases h; exact ⟨[], rfl, rfl⟩
  | case2 => intro w h; cases h
  | case3 c cs => intro w h; cases h; exact ⟨c :: cs, rfl, rfl⟩
  | case4 n c cs h0 hle ih =>
    intro w h
    obtain ⟨w', ht, rfl⟩ := Option.map_eq_some_iff.mp h
    obtain ⟨b, hb, hn⟩ := ih w' ht
    exact ⟨b, by rw [hb]; rfl, by rw [strLen]; omega⟩
  | case5 => intro w h; cases h

/-- `s.get(i..j) == Some(w)`: `w` stands in `s` at byte `i` and ends at byte `j`. -/
theorem sliceBytes_split {s w : Str} {i j : Nat} (h : sliceBytes s i j = some w) :
    ∃ a b, s = a ++ w ++ b ∧ i = strLen a ∧ j = i + strLen w := by
  unfold sliceBytes at h
  split at h
  · next hle =>
    cases hd : dropBytes i s with
    | none => rw [hd] at h; cases h
    | some r =>
      rw [hd] at h
      simp only [Option.bind_some] at h
      obtain ⟨a, ha, hi⟩ := dropBytes_split i s r hd
      obtain ⟨b, hb, hj⟩ := takeBytes_split _ r w h
      exact ⟨a, b, by rw [ha, hb, List.append_assoc], hi, by omega⟩
  · cases h

/-- Every character of `s.get(a..b)` is a character of `s`. -/
theorem sliceBytes_subset {s w : Str} {a b : Nat} (h : sliceBytes s a b = some w) : ∀ c ∈ w, c ∈ s := by
  obtain ⟨x, y, rfl, _, _⟩ := sliceBytes_split h
  exact fun c hc => List.mem_append_left _ (List.mem_append_right _ hc)

/-- In a source without carriage return the written text IS the value. -/
theorem SlicesTo.normalized_of_noCr {s : Str} {g : SpanKey → Option Span} {key : SpanKey} {w : Str}
    (hcr : '\r' ∉ s) (h : SlicesTo s g key w) : SlicesTo s g key (normalizeLineEnds w) := by
  obtain ⟨sp, hg, hs⟩ := h
  rw [normalizeLineEnds_noCr _ (fun hw => hcr (sliceBytes_subset hs _ hw))]
  exact ⟨sp, hg, hs⟩

/-- Every node of a tree accepted by `parse` / `parse_fragment` is described by the tokens of the text. -/
theorem parseString_nodeFacts {m : Mode} {env : Env} {s : Str} {p : Parsed} (h : parseString m env s = .ok p)
    {q : Path} {v : Value} {ks : List Tree} (hat : p.tree.at? q = some (.node v ks)) :
    NodeFacts (lexMode m s).1 p.spans.get p.env (scopeAt p.tree baseStack q) q v ks := by
  have := desc_at q p.tree baseStack [] v ks (build_desc h) hat
  rwa [List.nil_append] at this

theorem parseString_sliced {m : Mode} {env : Env} {s : Str} {p : Parsed} (h : parseString m env s = .ok p)
    {q : Path} {v : Value} {ks : List Tree} (hat : p.tree.at? q = some (.node v ks)) :
    NodeSliced s (lexMode m s).1 p.spans.get p.env (scopeAt p.tree baseStack q) q v ks :=
  nodeFacts_sliced (lexMode_facts m s) (parseString_nodeFacts h hat)

end XotModel
