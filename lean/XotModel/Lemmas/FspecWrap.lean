/-
  C05 for `element_wrap`: exactly one new element (handle `f.next`) appears at the
  place of the node, with the node as its only child.
-/
import XotModel.Lemmas.FspecSurvivor
import XotModel.Lemmas.FspecChildList
import XotModel.Lemmas.ManipShape

namespace XotModel
open HTree Spec

theorem Forest.ext' {a b : Forest} (h1 : a.roots = b.roots) (h2 : a.next = b.next)
    (h3 : a.consolidation = b.consolidation) (h4 : a.everOff = b.everOff) (h5 : a.corrupt = b.corrupt) :
    a = b := by
  cases a; cases b; simp_all

/-! ### `specWrap` on a parentless tree and on a child -/

theorem specWrap_root {f : Forest} {n name : Nat} {t : HTree} (hg : f.get? n = some t) (hp : f.parent? n = none) :
    specWrap n name f = { (f.editAt none (dropTop n)).editAt none (insertLast (.node f.next (.element name) [t])) with
      next := f.next + 1 } := by
  unfold specWrap; rw [hg, hp]

theorem specWrap_kid {f : Forest} {n name p : Nat} {t : HTree} (hg : f.get? n = some t) (hp : f.parent? n = some p) :
    specWrap n name f = { f.editAt (some p) (replaceTop n (fun k => [.node f.next (.element name) [k]])) with
      next := f.next + 1 } := by
  unfold specWrap; rw [hg, hp]

/-! ### A forest with one more parentless tree -/

namespace Forest

theorem addRoot_roots (X : Forest) (e : HTree) : (X.addRoot e).roots = X.roots ++ [e] := rfl

theorem addRoot_allHandles (X : Forest) (e : HTree) : (X.addRoot e).allHandles = X.allHandles ++ handles e := by
  unfold Forest.allHandles
  rw [addRoot_roots, handlesList_append, handlesList_cons, handlesList_nil, List.append_nil]

/-- A leaf with an unused handle as a new parentless tree (the store after `new_element`, `new_text`). -/
theorem addRoot_leaf_nodup {X : Forest} (nd : X.allHandles.Nodup) {h : Nat} (hf : h ∉ X.allHandles) (v : Value) :
    (X.addRoot (.node h v [])).allHandles.Nodup := by
  rw [addRoot_allHandles, handles_node, handlesList_nil]
  exact List.nodup_append.2 ⟨nd, by simp, fun a ha b hb e => hf (List.mem_singleton.1 hb ▸ e ▸ ha)⟩

theorem addRoot_get_left {X : Forest} {x : Nat} {u : HTree} (e : HTree) (h : X.get? x = some u) :
    (X.addRoot e).get? x = some u :=
  fi_findList?_append_left h

theorem addRoot_get_new {X : Forest} {x : Nat} (e : HTree) (h : x ∉ X.allHandles) :
    (X.addRoot e).get? x = find? x e := by
  rw [Forest.get?_eq, addRoot_roots, Fmap.findList?_append, findList?_none_of_not_mem _ X.roots h, findList?_cons, findList?_nil]
  cases find? x e <;> rfl

theorem addRoot_site {X : Forest} {q : Nat} {v : Value} {L : List HTree} (e : HTree) (s : SiteAt X q v L)
    (nd : (X.addRoot e).allHandles.Nodup) : SiteAt (X.addRoot e) q v L :=
  ⟨nd, addRoot_get_left e s.kids⟩

theorem addRoot_isRoot (X : Forest) (e : HTree) : (X.addRoot e).isRoot e.handle = true := by
  unfold Forest.isRoot
  rw [addRoot_roots, List.any_append]
  simp

theorem addRoot_no_ctx {X : Forest} (e : HTree) (nd : (X.addRoot e).allHandles.Nodup) :
    (X.addRoot e).ctx? e.handle = none :=
  ctx_none_of_root nd (addRoot_isRoot X e)

theorem addRoot_editAt_old (X : Forest) (e : HTree) (q : Nat) (g : List HTree → List HTree) (h : q ∉ handles e) :
    (X.addRoot e).editAt (some q) g = (X.editAt (some q) g).addRoot e := by
  simp only [Forest.editAt, Forest.addRoot, List.map_append, List.map_cons, List.map_nil]
  rw [editAt_of_not_mem e h]

theorem addRoot_editAt_new (X : Forest) (e : HTree) (q : Nat) (g : List HTree → List HTree) (h : q ∉ X.allHandles) :
    (X.addRoot e).editAt (some q) g = X.addRoot (HTree.editAt q g e) := by
  simp only [Forest.editAt, Forest.addRoot, List.map_append, List.map_cons, List.map_nil]
  rw [map_editAt_of_not_mem X.roots h]

theorem addRoot_drop (X : Forest) (e : HTree) (h : e.handle ∉ X.allHandles) :
    (X.addRoot e).editAt none (dropTop e.handle) = X := by
  refine Forest.ext' ?_ rfl rfl rfl rfl
  show dropTop e.handle (X.roots ++ [e]) = X.roots
  rw [dropTop_append, dropTop_cons, if_pos rfl, dropTop_nil, List.append_nil]
  exact dropTop_of_not_top X.roots (fun k hk hke => h (hke ▸ rootHandle_mem_handlesList hk))

end Forest

/-! ### The three moves of `element_wrap`, each on a parentless tree -/

theorem textOf_of_value {Z : Forest} {x : Nat} {u : HTree} (h : Z.get? x = some u) (hv : u.value.isText = false) :
    Z.textOf x = none := by
  rw [Forest.textOf_of_get h]
  cases hd : textData u with
  | none => rfl
  | some s => rw [isText_iff_textData.2 ⟨s, hd⟩] at hv; cases hv

namespace Forest

theorem append_root_noLast {Z : Forest} {w n : Nat} {vw : Value} {L : List HTree} {t : HTree}
    (nd : Z.allHandles.Nodup) (hgw : Z.get? w = some (.node w vw L)) (hl : lastOf L = none)
    (hgn : Z.get? n = some t) (hroot : Z.isRoot n = true) (hsc : Z.structureCheck (some w) n = true) :
    Z.append w n = ((Z.editAt none (dropTop n)).editAt (some w) (insertLast t), .ok) := by
  have hno := Forest.ctx_none_of_root nd hroot
  have hlast : Z.lastChild w = none := by rw [Forest.lastChild_of_get hgw]; exact hl
  obtain ⟨vp, Lp, t', hgp, hgc, hpt, _, _, _⟩ := structureCheck_unpack nd hsc
  have et : t' = t := by rw [hgn] at hgc; exact (Option.some.inj hgc).symm
  subst et
  have hwn : w ≠ n := by
    intro e
    apply hpt
    rw [e, ← (findList?_some Z.roots t' hgn).1]
    exact handle_mem_handles t'
  have hanc : (Z.ancestors w).contains n = false := by
    cases h : (Z.ancestors w).contains n with
    | false => rfl
    | true =>
      obtain ⟨u, hu, hwu⟩ := (ancestors_contains_iff nd).1 h
      rw [hgn] at hu
      have := Option.some.inj hu
      subst this
      exact absurd hwu hpt
  have hca : Z.checkedAppend w n = ((Z.editAt none (dropTop n)).editAt (some w) (insertLast t'), true) := by
    unfold Forest.checkedAppend
    have hcond : (decide (w = n) || (Z.ancestors w).contains n) = false := by
      rw [hanc]; simp [hwn]
    rw [hcond]
    simp only [Bool.false_eq_true, if_false]
    rw [cut_any nd hgn, Forest.parent?_of_no_ctx hno]
    rfl
  have hlc : (Z.lastChild w == some n) = false := by rw [hlast]; rfl
  rw [Forest.append_eq]
  simp only [hsc, hlc, Bool.not_true, Bool.false_eq_true, if_false]
  refine Forest.moveTail_of_placed (Forest.afterOldSite_of_no_ctx hno) ?_ hca
  rw [hlast]
  exact Forest.addConsolidate_none_none Z n

end Forest

/-- `append(wrapper, node)` when the wrapper has no children and the node is a parentless tree. -/
theorem append_fresh {Z : Forest} {w n : Nat} {vw : Value} {t : HTree} (nd : Z.allHandles.Nodup)
    (hgw : Z.get? w = some (.node w vw [])) (hgn : Z.get? n = some t) (hroot : Z.isRoot n = true)
    (hok : (Z.append w n).2 = .ok) :
    (Z.append w n).1 = (Z.editAt none (dropTop n)).editAt (some w) (insertLast t) := by
  rw [Forest.append_root_noLast nd hgw rfl hgn hroot (Forest.append_ok_check hok)]

/-- The indextree insertion of the parentless tree `w` after the child `a` of `p`. -/
theorem place_root_after {Z : Forest} {w p : Nat} {v : Value} {l' : List HTree} {a : HTree} {r : List HTree}
    {wt : HTree} (sq : SiteAt Z p v (l' ++ a :: r)) (hgw : Z.get? w = some wt) (hroot : Z.isRoot w = true)
    (hq : p ∉ handles wt) (hne : a.handle ≠ w) :
    Z.checkedInsertAfter a.handle w =
      ((Z.editAt none (dropTop w)).editAt (some p) (insertAfterTop a.handle wt), true) := by
  have hno := Forest.ctx_none_of_root sq.nd hroot
  rw [Forest.checkedInsertAfter_ok hgw sq hq hne, Forest.parent?_of_no_ctx hno]
  have s' := sq.dropRoot hgw hq
  rw [Forest.placeAfter_of_ctx wt s'.nd s'.ctx]

/-- `insert_after(previous, wrapper)` for a parentless wrapper that is not a text node. -/
theorem insertAfter_root {Z : Forest} {w p : Nat} {v : Value} {l' : List HTree} {a : HTree} {r : List HTree}
    {wt : HTree} (sq : SiteAt Z p v (l' ++ a :: r)) (hgw : Z.get? w = some wt) (hroot : Z.isRoot w = true)
    (hq : p ∉ handles wt) (hne : a.handle ≠ w) (hr : ∀ k ∈ r, k.handle ≠ w) (hnt : wt.value.isText = false)
    (hok : (Z.insertAfter a.handle w).2 = .ok) :
    (Z.insertAfter a.handle w).1 =
      (Z.editAt none (dropTop w)).editAt (some p) (insertAfterTop a.handle wt) := by
  have hno := Forest.ctx_none_of_root sq.nd hroot
  obtain ⟨hsc, hsr⟩ := insertAfter_ok_checks hok
  have hnx : (Z.nextSibling a.handle == some w) = false := by
    cases h : Z.nextSibling a.handle == some w with
    | false => rfl
    | true =>
      rw [Forest.nextSibling_of_ctx sq.ctx] at h
      obtain ⟨kb, B2, e, ekb, _⟩ := nextOf_eq_some (by simpa using h)
      exact absurd ekb (hr kb (by rw [e]; exact List.mem_cons_self))
  have href : Z.insertAfterRef a.handle w = a.handle := by
    unfold Forest.insertAfterRef
    simp only [Forest.prevSibling_of_no_ctx hno, Forest.removeConsolidate_none_left, Bool.false_and,
      Bool.false_eq_true, if_false]
  rw [Forest.insertAfter_eq]
  simp only [hsc, hsr, hnx, href, Bool.not_true, Bool.false_eq_true, if_false]
  rw [Forest.moveTail_of_placed (Forest.afterOldSite_of_no_ctx hno)
    (Forest.addConsolidate_not_text (textOf_of_value hgw hnt) _ _) (place_root_after sq hgw hroot hq hne)]

/-- `prepend(parent, wrapper)` for a parentless wrapper that is not a text node. -/
theorem prepend_root {Z : Forest} {w p : Nat} {v : Value} {L : List HTree} {wt : HTree}
    (sq : SiteAt Z p v L) (hgw : Z.get? w = some wt) (hroot : Z.isRoot w = true)
    (hq : p ∉ handles wt) (hL : ∀ k ∈ L, k.handle ≠ w) (hnt : wt.value.isText = false)
    (hok : (Z.prepend p w).2 = .ok) :
    (Z.prepend p w).1 = (Z.editAt none (dropTop w)).editAt (some p) (insertFirstNormal wt) := by
  have hno := Forest.ctx_none_of_root sq.nd hroot
  have hsc := prepend_ok_check hok
  have hfc : (Z.firstChild p == some w) = false := by
    cases h : Z.firstChild p == some w with
    | false => rfl
    | true =>
      rw [Forest.firstChild_of_get sq.kids] at h
      cases hd : (L.dropWhile abn).head? with
      | none => rw [hd] at h; simp at h
      | some k =>
        rw [hd] at h
        have hk : k ∈ L := (List.dropWhile_sublist abn).subset (List.mem_of_head? hd)
        exact absurd (by simpa using h) (hL k hk)
  have s' := sq.dropRoot hgw hq
  rw [Forest.prepend_eq] at hok ⊢
  simp only [hsc, hfc, Bool.not_true, Bool.false_eq_true, if_false] at hok ⊢
  obtain ⟨h2, h1⟩ := Forest.moveTail_placed (Forest.afterOldSite_of_no_ctx hno)
    (Forest.addConsolidate_not_text (textOf_of_value hgw hnt) _ _) hok
  rw [h1]
  exact congrArg Prod.fst (prepend_place hgw (by rw [Forest.parent?_of_no_ctx hno]) hq sq s' rfl
    (fun k hk => hL k ((List.takeWhile_sublist _).subset hk)) h2)

/-! ### `element_wrap` unfolded -/

/-- The store after `new_element`, with the counter already advanced. -/
def Forest.bump (f : Forest) : Forest := { f with next := f.next + 1 }

theorem Forest.newElement_eq (f : Forest) (name : Nat) :
    f.newElement name = (f.bump.addRoot (.node f.next (.element name) []), f.next) := rfl

theorem elementWrap_guards {f : Forest} {n name : Nat} (hok : (f.elementWrap n name).2.1 = .ok) :
    f.isDocument n = false ∧ f.isNormalNode n = true ∧
      (f.hasDocumentParent n && !f.isDocumentElement n) = false := by
  rcases Forest.elementWrap_shape f n name with ⟨_, e⟩ | ⟨_, h1, h2, h3, _⟩
  · rw [e] at hok; cases hok
  · exact ⟨h1, h2, h3⟩

theorem elementWrap_root_eq {f : Forest} {n name : Nat} (h1 : f.isDocument n = false) (h2 : f.isNormalNode n = true)
    (h3 : (f.hasDocumentParent n && !f.isDocumentElement n) = false) (hp : f.parent? n = none) :
    f.elementWrap n name =
      (((f.bump.addRoot (.node f.next (.element name) [])).append f.next n).1,
       ((f.bump.addRoot (.node f.next (.element name) [])).append f.next n).2, f.next) := by
  unfold Forest.elementWrap
  rw [h1, h2, h3, hp]
  simp only [Bool.false_eq_true, if_false, Bool.not_true, Forest.newElement_eq]

/-- The store of `element_wrap` after `append(wrapper, node)` (node with a parent). -/
def Forest.wrapMid (f : Forest) (n name : Nat) : Forest × Res :=
  ((f.bump.addRoot (.node f.next (.element name) [])).detachRaw n).append f.next n

/-- `element_wrap` of a node with a parent: `append(wrapper, node)` has succeeded, and the wrapper goes behind
    the node's previous sibling, or to the front of the parent's normal children. -/
theorem elementWrap_kid {f : Forest} {n name p : Nat} (hp : f.parent? n = some p)
    (hok : (f.elementWrap n name).2.1 = .ok) :
    (f.wrapMid n name).2 = .ok ∧ f.elementWrap n name =
      (match f.prevSibling n with
        | some q => (((f.wrapMid n name).1.insertAfter q f.next).1, ((f.wrapMid n name).1.insertAfter q f.next).2, f.next)
        | none => (((f.wrapMid n name).1.prepend p f.next).1, ((f.wrapMid n name).1.prepend p f.next).2, f.next)) := by
  obtain ⟨h1, h2, h3⟩ := elementWrap_guards hok
  unfold Forest.elementWrap at hok ⊢
  rw [h1, h2, h3, hp] at hok ⊢
  simp only [Bool.false_eq_true, if_false, Bool.not_true, Forest.newElement_eq] at hok ⊢
  unfold Forest.wrapMid
  generalize ((f.bump.addRoot (.node f.next (.element name) [])).detachRaw n).append f.next n = x at hok ⊢
  obtain ⟨f3, r3⟩ := x
  have hr : r3 = .ok := by cases r3 <;> simp_all
  subst hr
  exact ⟨rfl, by cases f.prevSibling n <;> rfl⟩

/-! ### Facts about the store after `new_element` -/

theorem get_of_isNormalNode {f : Forest} {n : Nat} (h : f.isNormalNode n = true) :
    ∃ t, f.get? n = some t ∧ t.value.isNormal = true := by
  unfold Forest.isNormalNode Forest.value? at h
  cases hg : f.get? n with
  | none => rw [hg] at h; simp at h
  | some t => rw [hg] at h; exact ⟨t, rfl, by simpa using h⟩

theorem isRoot_addRoot_left {X : Forest} {x : Nat} (e : HTree) (h : X.isRoot x = true) :
    (X.addRoot e).isRoot x = true := by
  unfold Forest.isRoot at h ⊢
  rw [Forest.addRoot_roots, List.any_append, h]
  rfl

theorem ctx_none_of_parent_none {f : Forest} {n : Nat} (h : f.parent? n = none) : f.ctx? n = none := by
  unfold Forest.parent? at h
  cases hc : f.ctx? n with
  | none => rfl
  | some c => rw [hc] at h; cases h

/-- **wrap**, for a parentless tree: the wrapper is a new parentless tree (listed last). -/
theorem wrap_spec_root {f : Forest} {n name : Nat} (inv : f.Inv) (hpar : f.parent? n = none)
    (hok : (f.elementWrap n name).2.1 = .ok) :
    (f.elementWrap n name).1 = specWrap n name f ∧ (f.elementWrap n name).2.2 = f.next := by
  obtain ⟨h1, h2, h3⟩ := elementWrap_guards hok
  obtain ⟨t, hg, _⟩ := get_of_isNormalNode h2
  have nd := inv.nodup
  have hno := ctx_none_of_parent_none hpar
  have hroot : f.isRoot n = true := by
    rcases Forest.root_or_ctx hg with h | ⟨c, hc⟩
    · exact h
    · rw [hno] at hc; cases hc
  have hw : f.next ∉ f.bump.allHandles := fun h => Nat.lt_irrefl _ (inv.below _ h)
  have hnw : n ≠ f.next := fun e => hw (e ▸ mem_of_findList?_some hg)
  have ndZ : (f.bump.addRoot (.node f.next (.element name) [])).allHandles.Nodup :=
    Forest.addRoot_leaf_nodup (X := f.bump) nd hw _
  have hgw : (f.bump.addRoot (.node f.next (.element name) [])).get? f.next =
      some (.node f.next (.element name) []) := by
    rw [Forest.addRoot_get_new _ hw, find?_node, if_pos rfl]
  have hgn : (f.bump.addRoot (.node f.next (.element name) [])).get? n = some t :=
    Forest.addRoot_get_left (X := f.bump) _ hg
  have hrootZ : (f.bump.addRoot (.node f.next (.element name) [])).isRoot n = true :=
    isRoot_addRoot_left (X := f.bump) _ hroot
  rw [elementWrap_root_eq h1 h2 h3 hpar] at hok ⊢
  refine ⟨?_, rfl⟩
  simp only at hok ⊢
  rw [append_fresh ndZ hgw hgn hrootZ hok]
  rw [specWrap_root hg hpar]
  refine Forest.ext' ?_ rfl rfl rfl rfl
  show (dropTop n (f.roots ++ [.node f.next (.element name) []])).map (HTree.editAt f.next (insertLast t)) =
    dropTop n f.roots ++ [.node f.next (.element name) [t]]
  have hsub : f.next ∉ handlesList (dropTop n f.roots) :=
    fun h => hw ((handlesList_dropTop_sublist n f.roots).subset h)
  rw [dropTop_append, dropTop_cons, if_neg (fun (e : (HTree.node f.next (Value.element name) []).handle = n) => hnw e.symm), dropTop_nil, List.map_append,
    map_editAt_of_not_mem _ hsub, List.map_cons, List.map_nil, editAt_node, if_pos rfl]
  rfl

/-! ### The node has a parent -/

/-- The new element before / after it received the node. -/
def wrapNew (f : Forest) (name : Nat) : HTree := .node f.next (.element name) []
def wrapTree (f : Forest) (name : Nat) (t : HTree) : HTree := .node f.next (.element name) [t]

/-- The store with the node cut out of its parent's child list. -/
def cutSite (f : Forest) (p n : Nat) : Forest := f.bump.editAt (some p) (replaceTop n (fun _ => []))

/-- What is known after `new_element`, the raw detach and `append(wrapper, node)`. -/
structure WrapMid (f : Forest) (p : Nat) (v : Value) (l : List HTree) (t : HTree) (r : List HTree) (name : Nat) :
    Prop where
  mid : (f.wrapMid t.handle name).1 = (cutSite f p t.handle).addRoot (wrapTree f name t)
  site : SiteAt ((cutSite f p t.handle).addRoot (wrapTree f name t)) p v (l ++ r)
  getw : ((cutSite f p t.handle).addRoot (wrapTree f name t)).get? f.next = some (wrapTree f name t)
  hq : p ∉ handles (wrapTree f name t)
  fresh : ∀ k ∈ l ++ r, k.handle ≠ f.next
  drop : ((cutSite f p t.handle).addRoot (wrapTree f name t)).editAt none (dropTop f.next) = cutSite f p t.handle

theorem wrapMid_spec {f : Forest} {p : Nat} {v : Value} {l : List HTree} {t : HTree} {r : List HTree} {name : Nat}
    (inv : f.Inv) (s : SiteAt f p v (l ++ t :: r)) (hmid : (f.wrapMid t.handle name).2 = .ok) :
    WrapMid f p v l t r name := by
  have nd := inv.nodup
  have sF : SiteAt f.bump p v (l ++ t :: r) := ⟨s.nd, s.kids⟩
  obtain ⟨ndL, hpL⟩ := s.nodupKids
  obtain ⟨tl, tr⟩ := tops_ne_of_nodup ndL
  have hgL : replaceTop t.handle (fun _ => []) (l ++ t :: r) = l ++ r := by
    rw [replaceTop_mid rfl tl]; simp
  have hw : f.next ∉ f.bump.allHandles := fun h => Nat.lt_irrefl _ (inv.below _ h)
  have hpin : p ∈ f.allHandles := mem_of_findList?_some s.kids
  have hpw : p ≠ f.next := fun e => hw (e ▸ hpin)
  have hpt : p ∉ handles t := s.not_mem_kid
  -- the cut
  have sc : SiteAt (cutSite f p t.handle) p v (l ++ r) := by
    have := sF.edit (replaceTop t.handle (fun _ => [])) (by
      rw [hgL]
      simp only [handlesList_append, handlesList_cons]
      exact (List.Sublist.refl _).append (List.sublist_append_right _ _))
    rw [hgL] at this
    exact this
  have hperm : ((cutSite f p t.handle).allHandles ++ handles t).Perm f.allHandles :=
    handlesList_editAt_perm (g := replaceTop t.handle (fun _ => [])) (E := handles t)
      (by
        rw [hgL]
        simp only [handlesList_append, handlesList_cons]
        rw [List.append_assoc]
        exact List.Perm.append_left _ List.perm_append_comm) f.roots nd s.kids
  -- with the new handle in front, the handles of the store are those of `f`, rearranged
  have hfresh : ∀ {X : List Nat}, (X.Perm (f.next :: ((cutSite f p t.handle).allHandles ++ handles t))) → X.Nodup :=
    fun h => (h.trans (hperm.cons _)).nodup_iff.2 (List.nodup_cons.2 ⟨hw, nd⟩)
  have hwc : f.next ∉ (cutSite f p t.handle).allHandles := fun h => hw (hperm.subset (List.mem_append_left _ h))
  have hwt : f.next ∉ handles t := fun h => hw (hperm.subset (List.mem_append_right _ h))
  have hnc : t.handle ∉ (cutSite f p t.handle).allHandles := fun h =>
    (List.nodup_append.1 (hperm.nodup_iff.2 nd)).2.2 _ h _ (handle_mem_handles t) rfl
  have hnw : t.handle ≠ f.next := fun e => hwt (e ▸ handle_mem_handles t)
  -- after `new_element`
  have ndZ1 : (f.bump.addRoot (wrapNew f name)).allHandles.Nodup :=
    Forest.addRoot_leaf_nodup (X := f.bump) nd hw _
  have s1 : SiteAt (f.bump.addRoot (wrapNew f name)) p v (l ++ t :: r) := Forest.addRoot_site _ sF ndZ1
  have hpw0 : p ∉ handles (wrapNew f name) := by
    rw [wrapNew, handles_node, handlesList_nil]; simpa using hpw
  -- the raw detach
  have hdet : (f.bump.addRoot (wrapNew f name)).detachRaw t.handle =
      ((cutSite f p t.handle).addRoot (wrapNew f name)).addRoot t := by
    unfold Forest.detachRaw
    rw [Forest.cut_of_ctx s1.nd s1.ctx]
    simp only
    rw [Forest.addRoot_editAt_old _ _ _ _ hpw0]
    rfl
  have hZ1h : ((cutSite f p t.handle).addRoot (wrapNew f name)).allHandles =
      (cutSite f p t.handle).allHandles ++ [f.next] := by
    rw [Forest.addRoot_allHandles, wrapNew, handles_node, handlesList_nil]
  have nd2 : (((cutSite f p t.handle).addRoot (wrapNew f name)).addRoot t).allHandles.Nodup := by
    rw [Forest.addRoot_allHandles, hZ1h, List.append_assoc, List.singleton_append]
    exact hfresh List.perm_middle
  have hgw2 : (((cutSite f p t.handle).addRoot (wrapNew f name)).addRoot t).get? f.next =
      some (.node f.next (.element name) []) := by
    apply Forest.addRoot_get_left
    rw [Forest.addRoot_get_new _ hwc, wrapNew, find?_node, if_pos rfl]
  have hnZ : t.handle ∉ ((cutSite f p t.handle).addRoot (wrapNew f name)).allHandles := by
    rw [hZ1h]
    intro h
    cases List.mem_append.1 h with
    | inl h => exact hnc h
    | inr h => exact hnw (by simpa using h)
  have hgn2 : (((cutSite f p t.handle).addRoot (wrapNew f name)).addRoot t).get? t.handle = some t := by
    rw [Forest.addRoot_get_new _ hnZ, find?_root]
  unfold Forest.wrapMid at hmid
  have hmid' : (f.wrapMid t.handle name).1 =
      (cutSite f p t.handle).addRoot (wrapTree f name t) := by
    unfold Forest.wrapMid
    change ((f.bump.addRoot (wrapNew f name)).detachRaw t.handle |>.append f.next t.handle).2 = .ok at hmid
    change ((f.bump.addRoot (wrapNew f name)).detachRaw t.handle |>.append f.next t.handle).1 = _
    rw [hdet] at hmid ⊢
    rw [append_fresh nd2 hgw2 hgn2 (Forest.addRoot_isRoot _ t) hmid, Forest.addRoot_drop _ t hnZ,
      Forest.addRoot_editAt_new _ _ _ _ hwc, wrapNew, editAt_node, if_pos rfl]
    rfl
  have nd3 : ((cutSite f p t.handle).addRoot (wrapTree f name t)).allHandles.Nodup := by
    rw [Forest.addRoot_allHandles, wrapTree, handles_node, handlesList_cons, handlesList_nil, List.append_nil]
    exact hfresh List.perm_middle
  refine ⟨hmid', Forest.addRoot_site _ sc nd3, ?_, ?_, ?_, ?_⟩
  · rw [Forest.addRoot_get_new _ hwc, wrapTree, find?_node, if_pos rfl]
  · rw [wrapTree, handles_node, handlesList_cons, handlesList_nil, List.append_nil]
    intro h
    cases List.mem_cons.1 h with
    | inl h => exact hpw h
    | inr h => exact hpt h
  · intro k hk e
    apply hw
    have hk' : k ∈ l ++ t :: r := fs_mem_mid_of_mem _ hk
    have : k.handle ∈ handlesList (l ++ t :: r) := rootHandle_mem_handlesList hk'
    rw [← e]
    exact (findList?_some f.roots _ s.kids).2 _ (by rw [handles_node]; exact List.mem_cons_of_mem _ this)
  · exact Forest.addRoot_drop _ (wrapTree f name t) hwc

/-- **wrap**, for a node with a parent: the wrapper takes the node's place in the child list. -/
theorem wrap_spec_kid {f : Forest} {n name p : Nat} (inv : f.Inv) (hpar : f.parent? n = some p)
    (hok : (f.elementWrap n name).2.1 = .ok) :
    (f.elementWrap n name).1 = specWrap n name f ∧ (f.elementWrap n name).2.2 = f.next := by
  have nd := inv.nodup
  obtain ⟨_, h2, _⟩ := elementWrap_guards hok
  obtain ⟨t0, hg, hnorm⟩ := get_of_isNormalNode h2
  cases hc : f.ctx? n with
  | none => rw [Forest.parent?_of_no_ctx hc] at hpar; cases hpar
  | some c =>
  obtain ⟨e0, v, s⟩ := SiteAt.of_ctx nd hc
  have hself : c.self = t0 := by
    have := Forest.get?_of_ctx nd hc
    rw [hg] at this
    exact (Option.some.inj this).symm
  have hpp : c.parent = p := by
    rw [Forest.parent?_of_ctx? hc] at hpar
    exact Option.some.inj hpar
  have hprev := Forest.prevSibling_of_ctx hc
  obtain ⟨p', l, t, r⟩ := c
  simp only at e0 s hself hpp hprev
  subst hself hpp e0
  obtain ⟨hmid, heq⟩ := elementWrap_kid hpar hok
  have W := wrapMid_spec inv s hmid
  have sF : SiteAt f.bump p' v (l ++ t :: r) := ⟨s.nd, s.kids⟩
  obtain ⟨ndL, _⟩ := s.nodupKids
  obtain ⟨tl, _⟩ := tops_ne_of_nodup ndL
  have hspec : specWrap t.handle name f =
      f.bump.editAt (some p') (replaceTop t.handle (fun k => [wrapTree f name k])) := specWrap_kid hg hpar
  have hG : replaceTop t.handle (fun k => [wrapTree f name k]) (l ++ t :: r) = l ++ wrapTree f name t :: r := by
    rw [replaceTop_mid rfl tl]; simp
  have hgL : replaceTop t.handle (fun _ => []) (l ++ t :: r) = l ++ r := by
    rw [replaceTop_mid rfl tl]; simp
  have hroot : ((cutSite f p' t.handle).addRoot (wrapTree f name t)).isRoot f.next = true :=
    Forest.addRoot_isRoot (cutSite f p' t.handle) (wrapTree f name t)
  rw [hspec]
  cases hpv : prevOf l t with
  | some q =>
    obtain ⟨l', a, el, ea, _⟩ := prevOf_eq_some hpv
    subst el ea
    rw [hprev.trans hpv] at heq
    rw [heq] at hok ⊢
    refine ⟨?_, rfl⟩
    simp only at hok ⊢
    rw [W.mid] at hok ⊢
    have sq : SiteAt ((cutSite f p' t.handle).addRoot (wrapTree f name t)) p' v (l' ++ a :: r) := by
      have := W.site; simpa using this
    rw [insertAfter_root sq W.getw hroot W.hq (W.fresh a (by simp)) (fun k hk => W.fresh k (by simp [hk])) rfl hok,
      W.drop]
    unfold cutSite
    rw [Forest.editAt_editAt]
    apply sF.congr
    simp only [Function.comp]
    rw [hG, hgL]
    have : (l' ++ [a]) ++ r = l' ++ a :: r := by simp
    rw [this, insertAfterTop_mid _ (tops_ne_of_nodup sq.nodupKids.1).1]
    simp
  | none =>
    rw [hprev.trans hpv] at heq
    rw [heq] at hok ⊢
    refine ⟨?_, rfl⟩
    simp only at hok ⊢
    rw [W.mid] at hok ⊢
    rw [prepend_root W.site W.getw hroot W.hq W.fresh rfl hok, W.drop]
    unfold cutSite
    rw [Forest.editAt_editAt]
    apply sF.congr
    simp only [Function.comp]
    have hord := (validTree_node (s.valid inv.valid)).2.1
    obtain ⟨hl, hr⟩ := split_of_no_prev hord hnorm hpv
    rw [hG, hgL, insertFirstNormal_split _ l r hl hr]

set_option linter.unusedVariables false in
/-- **wrap**: `element_wrap` does what `specWrap` says, and returns the new handle. (`norm` is not
    needed: the wrapper is not a text node, so no merge can happen.) -/
theorem wrap_spec {f : Forest} {n name : Nat} (inv : f.Inv) (norm : f.Normal)
    (hok : (f.elementWrap n name).2.1 = .ok) :
    (f.elementWrap n name).1 = specWrap n name f ∧ (f.elementWrap n name).2.2 = f.next := by
  cases hpar : f.parent? n with
  | none => exact wrap_spec_root inv hpar hok
  | some p => exact wrap_spec_kid inv hpar hok

end XotModel
