/-
  Lexical layout as data (C02: "either quote style; arbitrary in-tag
  white space; optional XML declaration or BOM").

  `LToken` = a token plus the layout freedom the XML grammar leaves when writing it:
      lead    white space written BEFORE the token
                attribute         before the name (at least one character)
                `>` / `/>`        before it (any)
                comment, PI, the root's start tag at the TOP LEVEL OF A DOCUMENT: the white space
                                  between top-level items, which the tokenizer skips without a token
                anywhere else     must be empty (white space in content is character data)
      ws1     attribute: before `=`;  end tag: between the name and `>`;
              PI: between target and content (at least one character), or before `?>`
      ws2     attribute: after `=`
      single  attribute: `'…'` instead of `"…"`
  White space = blank, TAB, LF, CR (`isXmlSpace`; the tokenizer does not normalise line ends, a raw
  CR inside a tag is white space like the others).  `text`, `cdata`, `comment` and start-tag names
  have no freedom.  The canonical spelling (`renderTokens`) is the instance: lead = one blank for
  attributes, ws1 = one blank for PIs with content, everything else empty, double quotes.

  A document (`LDoc`) adds: an optional BOM, an optional XML declaration with its own layout
  (`LDecl`), white space after the last top-level item.

  `LexOKL` / `LDoc.ok` = `LexOK` with the quote-dependent value condition (no `<`, not the quote
  actually used) and the conditions on the layout strings.
-/
import XotModel.Model.LexStream
import XotModel.Lemmas.LexCanonDefs

namespace XotModel

open XotModel.Lex.Canon

/-- A string of XML white space (blank, TAB, LF, CR), possibly empty. -/
def isWs (w : Str) : Bool := w.all isXmlSpace

/-- The quote character of an attribute value / pseudo-attribute. -/
def quoteChar (single : Bool) : Char := if single then '\'' else '"'

/-- A token with its layout. Fields that have no meaning for the token kind are ignored. -/
structure LToken where
  token : Token
  lead : Str := []
  ws1 : Str := []
  ws2 : Str := []
  single : Bool := false
  deriving Repr, DecidableEq, Inhabited

/-- The token as written, without the white space in front of it. -/
def LToken.body (lt : LToken) : Str :=
  match lt.token with
  | .attribute p l v _ =>
    tokQName p.text l.text ++
      (lt.ws1 ++ '=' :: (lt.ws2 ++ quoteChar lt.single :: (v.text ++ [quoteChar lt.single])))
  | .elementEnd (.close p l) _ => '<' :: '/' :: (tokQName p.text l.text ++ (lt.ws1 ++ ['>']))
  | .pi t none _ => '<' :: '?' :: (t.text ++ (lt.ws1 ++ ['?', '>']))
  | .pi t (some c) _ => '<' :: '?' :: (t.text ++ (lt.ws1 ++ (c.text ++ ['?', '>'])))
  | t => renderToken t

/-- One token as written. -/
def renderLT (lt : LToken) : Str := lt.lead ++ lt.body

/-- A token list as written with the given layout. -/
def renderL (lts : List LToken) : Str := lts.flatMap renderLT

/-- Per-token side conditions: `Token.lexOK` with the value condition for the quote actually used,
    plus: the layout strings are white space, a PI with content has white space in front of the
    content, `<?xml` followed by white space is not a PI. -/
def LToken.okL (lt : LToken) : Bool :=
  isWs lt.lead &&
  (match lt.token with
   | .attribute p l v _ =>
     qnameOK p.text l.text && isWs lt.ws1 && isWs lt.ws2 &&
       v.text.all (fun c => isXmlChar c && c != quoteChar lt.single && c != '<')
   | .elementEnd (.close p l) _ => qnameOK p.text l.text && isWs lt.ws1
   | .pi t none _ => nameOK t.text && isWs lt.ws1 && (lt.ws1.isEmpty || t.text != ['x', 'm', 'l'])
   | .pi t (some c) sp => (Token.pi t (some c) sp).lexOK && isWs lt.ws1 && !lt.ws1.isEmpty
   | t => t.lexOK)

/-- Where white space in front of a token is allowed / required. -/
def leadOK : LexCtx → LToken → Bool
  | .inTag _, lt => (match lt.token with | .attribute _ _ _ _ => !lt.lead.isEmpty | _ => true)
  | .content _, lt => lt.lead.isEmpty
  | .prolog, _ => true
  | .after, _ => true

def leadsOK (frag : Bool) : LexCtx → List LToken → Bool
  | _, [] => true
  | ctx, lt :: rest => leadOK ctx lt && leadsOK frag (ctxStep frag ctx lt.token) rest

/-- White space after the last token: only at the top level of a document. -/
def trailOK (frag : Bool) (ctx : LexCtx) (ts : List Token) (trail : Str) : Bool :=
  isWs trail &&
    (trail.isEmpty || (match ctxAfter frag ctx ts with | .prolog => true | .after => true | _ => false))

/-- The lexical side conditions on a token list with layout (`frag = true`: `parse_fragment`). -/
def LexOKL (frag : Bool) (lts : List LToken) : Bool :=
  lts.all LToken.okL && lexNest frag (LexCtx.init frag) (lts.map LToken.token) &&
    leadsOK frag (LexCtx.init frag) lts

def Mode.isFragment : Mode → Bool
  | .fragment => true
  | .document => false

/-! ### The XML declaration and the document -/

/-- The layout of `name = "value"` inside the XML declaration. -/
structure EqLayout where
  before : Str := []
  after : Str := []
  single : Bool := false
  deriving Repr, DecidableEq, Inhabited

def EqLayout.render (L : EqLayout) (val : Str) : Str :=
  L.before ++ '=' :: (L.after ++ quoteChar L.single :: (val ++ [quoteChar L.single]))

def EqLayout.ok (L : EqLayout) : Bool := isWs L.before && isWs L.after

/-- `<?xml version="1.N" [encoding="…"] [standalone="yes|no"] ?>` with its layout: `w0` after
    `<?xml `, `wEnc` / `wSa` in front of `encoding` / `standalone` (at least one character each),
    `wEnd` in front of `?>`. -/
structure LDecl where
  /-- the digits after `1.` -/
  minor : Str := ['0']
  encoding : Option Str := none
  standalone : Option Bool := none
  w0 : Str := []
  vEq : EqLayout := {}
  wEnc : Str := [' ']
  eEq : EqLayout := {}
  wSa : Str := [' ']
  sEq : EqLayout := {}
  wEnd : Str := []
  deriving Repr, DecidableEq, Inhabited

def yesNo (b : Bool) : Str := if b then ['y', 'e', 's'] else ['n', 'o']

/-- What follows the `encoding` part (or the version, when there is none). -/
def LDecl.saPart (d : LDecl) : Str :=
  match d.standalone with
  | some b =>
    d.wSa ++ (['s', 't', 'a', 'n', 'd', 'a', 'l', 'o', 'n', 'e'] ++ (d.sEq.render (yesNo b) ++ (d.wEnd ++ ['?', '>'])))
  | none => d.wEnd ++ ['?', '>']

def LDecl.encPart (d : LDecl) : Str :=
  match d.encoding with
  | some e => d.wEnc ++ (['e', 'n', 'c', 'o', 'd', 'i', 'n', 'g'] ++ (d.eEq.render e ++ d.saPart))
  | none => d.saPart

def LDecl.render (d : LDecl) : Str :=
  ['<', '?', 'x', 'm', 'l', ' '] ++ (d.w0 ++ (['v', 'e', 'r', 's', 'i', 'o', 'n'] ++
    (d.vEq.render ('1' :: '.' :: d.minor) ++ d.encPart)))

/-- The `Declaration` token the tokenizer makes of it (positions forgotten). -/
def LDecl.token (d : LDecl) : Token :=
  .declaration ⟨'1' :: '.' :: d.minor, 0⟩ (d.encoding.map (fun e => ⟨e, 0⟩)) d.standalone ⟨[], 0⟩

/-- The characters `parse_encoding_decl` takes for an encoding name. -/
def isEncChar (c : Char) : Bool :=
  Lex.isXmlLetter c || Lex.isXmlDigit c || c == '.' || c == '-' || c == '_'

def LDecl.ok (d : LDecl) : Bool :=
  d.minor.all Lex.isXmlDigit && isWs d.w0 && d.vEq.ok &&
    (match d.encoding with
     | some e => e.all isEncChar && isWs d.wEnc && !d.wEnc.isEmpty && d.eEq.ok
     | none => true) &&
    (match d.standalone with
     | some _ => isWs d.wSa && !d.wSa.isEmpty && d.sEq.ok
     | none => true) &&
    isWs d.wEnd

/-- A document as written: optional BOM, optional XML declaration, the tokens with their layout
    (top-level white space is the `lead` of the top-level tokens), white space at the very end. -/
structure LDoc where
  bom : Bool := false
  decl : Option LDecl := none
  items : List LToken
  trail : Str := []
  deriving Repr, DecidableEq, Inhabited

/-- The XML declaration as written (nothing when there is none). -/
def LDoc.declText (d : LDoc) : Str := match d.decl with | some x => x.render | none => []

def LDoc.render (d : LDoc) : Str :=
  (if d.bom then ['\uFEFF'] else []) ++ (d.declText ++ (renderL d.items ++ d.trail))

/-- The tokens the document stands for. -/
def LDoc.tokens (d : LDoc) : List Token :=
  (match d.decl with | some x => [x.token] | none => []) ++ d.items.map LToken.token

def LDoc.ok (d : LDoc) : Bool :=
  (match d.decl with | some x => x.ok | none => true) && LexOKL false d.items &&
    trailOK false .prolog (d.items.map LToken.token) d.trail

end XotModel
