/-
  What one step of a history establishes (`StepOK`), the move of an entry node between two
  elements, `step_all` for every `MapOp2`, and what chains of `KNStep` give.
-/
import XotModel.Lemmas.FmapTouch
import XotModel.Model.FmapNodes

/-! ## The move of an entry node between two elements; `StepOK`

The move is a detachment followed by a placement (`move_steps`, `move_node`).  `StepOK`: from a forest satisfying
the invariant whose views agree with a reference family `F`, an update whose side conditions hold returns `ok` and
reaches a forest satisfying the invariant whose views agree with `specStep F op`; elements stay elements, the
(key, node) list of every view of every node changes by `KNStep` only, a view that gains an entry (`Grows`) gets it
carried by the node the update gives, and `next` moves by the number of nodes made. -/

namespace XotModel
namespace Fmap
open HTree
open Forest (MapKind entryKey mapChildren MapEntry)

/-- The views of the forest are the maps of the family. -/
def Agree (f : Forest) (F : Fam) : Prop := ∀ x k, abs k f x = F x k

/-- What one step of a history establishes: the invariant; the views are those of the reference
    family `F'`; elements stay elements; every (key, node) list changes by `KNStep`, and where one
    gains an entry the node `given` carries it; `made` nodes have been created. -/
structure StepOK (f f' : Forest) (F' : Fam) (given made : Nat) : Prop where
  inv : f'.Inv
  agree : Agree f' F'
  elem : ∀ x, f'.isElement x = f.isElement x
  kn : ∀ x k, KNStep (absKN k f x) (absKN k f' x)
  carrier : ∀ x k p, Grows f f' x k p → p.2 = given
  next : f'.next = f.next + made

theorem StepOK.refl {f : Forest} {F : Fam} (hi : f.Inv) (hF : Agree f F) {given : Nat} :
    StepOK f f F given 0 :=
  ⟨hi, hF, fun _ => rfl, fun _ _ => KNStep.refl _, fun _ _ _ h => (h.absurd_of_kn rfl).elim, rfl⟩

/-- A `Change` of view `k` of `e` as a step: only that view can have gained an entry. -/
theorem Change.stepOK {f f' : Forest} {F : Fam} {e : Nat} {k : MapKind}
    {g : OMap Payload → OMap Payload} {given made : Nat}
    (t : Change f f' e k (g (abs k f e)) given made) (hF : Agree f F)
    (he : f.isElement e = true) : StepOK f f' (F.upd e k g) given made := by
  refine ⟨t.inv, ?_, ?_, ?_, ?_, t.next⟩
  · intro x k'
    unfold Fam.upd Fam.set
    by_cases hx : x = e
    · subst hx
      by_cases hk : k' = k
      · subst hk
        rw [if_pos ⟨rfl, rfl⟩, t.same, hF]
      · rw [if_neg (fun h => hk h.2), t.abs_other hk, hF]
    · rw [if_neg (fun h => hx h.1), (t.frame x hx).abs, hF]
  · intro x
    by_cases hx : x = e
    · subst hx; rw [t.elem, he]
    · exact (t.frame x hx).elem
  · intro x k'
    by_cases hx : x = e
    · subst hx
      by_cases hk : k' = k
      · subst hk; exact t.kn
      · apply KNStep.of_eq
        rw [absKN_of_absHV, absKN_of_absHV, t.other k' hk]
    · exact KNStep.of_eq ((t.frame x hx).kn k')
  · intro x k' p hg
    by_cases hx : x = e
    · subst hx
      by_cases hk : k' = k
      · subst hk; exact t.carrier p hg
      · exact (hg.absurd_of_kn (by rw [absKN_of_absHV, absKN_of_absHV, t.other k' hk])).elim
    · exact (hg.absurd_of_kn ((t.frame x hx).kn k')).elim

/-! ### Own node, foreign node -/

theorem getNode_mem_sec {f : Forest} {e nm : Nat} {N A S : List HTree} (h : MInv f e nm N A S)
    (k : MapKind) (key : Nat) (n : HTree) (hn : f.mapGetNode k e key = some n) :
    n ∈ Sect.sec k N A := by
  rw [h.getNode k] at hn
  exact List.mem_of_find?_eq_some hn

theorem getNode_value {f : Forest} (hi : f.Inv) (k : MapKind) (e key : Nat) (n : HTree)
    (he : f.isElement e = true) (hn : f.mapGetNode k e key = some n) :
    f.value? n.handle = some n.value ∧ k.matches n.value = true ∧ entryKey n.value = key := by
  obtain ⟨nm, N, A, S, h⟩ := minv_of_inv f e hi he
  have hs := getNode_mem_sec h k key n hn
  have hnk : n ∈ N ++ A ++ S := by
    cases k
    · exact List.mem_append_left _ (List.mem_append_right _ hs)
    · exact List.mem_append_left _ (List.mem_append_left _ hs)
  obtain ⟨hc, hk⟩ := getNode_cat hi k e key n he hn
  exact ⟨by simp [Forest.value?, h.loc.childFound n hnk], (matches_iff_cat k _).mpr hc, hk⟩

theorem appendOwn_eq {f : Forest} (hi : f.Inv) (k : MapKind) (e key : Nat) (n : HTree)
    (he : f.isElement e = true) (hn : f.mapGetNode k e key = some n) :
    f.appendEntryNode k e n.handle = (f, .ok, n.handle) := by
  obtain ⟨nm, N, A, S, h⟩ := minv_of_inv f e hi he
  exact appendEntryNode_own h k n (getNode_mem_sec h k key n hn)

theorem appendEntryNode_moved {f : Forest} (hi : f.Inv) (k : MapKind) (e e2 key : Nat) (n : HTree)
    (he : f.isElement e = true) (he2 : f.isElement e2 = true) (hne : e ≠ e2)
    (hn : f.mapGetNode k e2 key = some n) (habs : f.mapGetNode k e (entryKey n.value) = none) :
    f.appendEntryNode k e n.handle = (f.detach n.handle).1.appendEntryNode k e n.handle := by
  obtain ⟨nm, N, A, S, h⟩ := minv_of_inv f e hi he
  obtain ⟨nm2, N2, A2, S2, h2⟩ := minv_of_inv f e2 hi he2
  have hs2 := getNode_mem_sec h2 k key n hn
  obtain ⟨_, s1, s2, hs, _⟩ := getNode_of_mem h2 k n hs2
  have hncat : n.value.category = kindCat k := h2.sect.sec_cat k n hs2
  have hmv : k.matches n.value = true := (matches_iff_cat k _).mpr hncat
  have hloc2 : Located f e2 (.element nm2) ((preK k N2 ++ s1) ++ n :: (s2 ++ postK k A2 S2)) := by
    rw [← kids_around k N2 A2 S2 s1 s2 n hs]; exact h2.loc
  have a : Attached f e2 (.element nm2) (preK k N2 ++ s1) (s2 ++ postK k A2 S2) n :=
    ⟨hloc2, h2.leaf k n hs2⟩
  have hdet := detach_child hloc2 (by rw [hncat]; exact kindCat_ne_normal k)
  have hfd : (f.detach n.handle).1 = a.fd := by rw [hdet]; rfl
  rw [hfd]
  exact appendEntryNode_attached_eq h a hne k hmv habs

/-- The move of the entry node `n` of `e2` to `e ≠ e2`, which lacks its key, in two steps:
    `detach` of the node (a `Change` of `e2`), then the placement of the now parentless node at the
    end of the view (a `Change` of `e`). -/
theorem move_steps {f : Forest} (hi : f.Inv) (k : MapKind) (e e2 key : Nat) (n : HTree)
    (he : f.isElement e = true) (he2 : f.isElement e2 = true) (hne : e ≠ e2)
    (hn : f.mapGetNode k e2 key = some n) (habs : f.mapGetNode k e key = none) :
    f.appendEntryNode k e n.handle = (f.detach n.handle).1.appendEntryNode k e n.handle ∧
    Change f (f.detach n.handle).1 e2 k (omRemove (abs k f e2) key) n.handle 0 ∧
    ((f.detach n.handle).1.appendEntryNode k e n.handle).2 = (.ok, n.handle) ∧
    Change (f.detach n.handle).1 ((f.detach n.handle).1.appendEntryNode k e n.handle).1 e k
      (omInsert (abs k (f.detach n.handle).1 e) key (payloadOf n.value)) n.handle 0 ∧
    absKN k ((f.detach n.handle).1.appendEntryNode k e n.handle).1 e =
      absKN k (f.detach n.handle).1 e ++ [(key, n.handle)] := by
  obtain ⟨nm2, N2, A2, S2, h2⟩ := minv_of_inv f e2 hi he2
  obtain ⟨_, t2, hroot, hmv, hkey⟩ := change_detach hi h2 k key n hn n.handle
  subst hkey
  have s2 := t2.frame e hne
  have hefd : (f.detach n.handle).1.isElement e = true := by rw [s2.elem]; exact he
  obtain ⟨nm, N, A, S, h⟩ := minv_of_inv _ e t2.inv hefd
  have habs2 : (f.detach n.handle).1.mapGetNode k e (entryKey n.value) = none := by
    rw [getNode_none_iff, s2.abs k, ← getNode_none_iff]; exact habs
  obtain ⟨hr, t1, hkn⟩ := change_place t2.inv h k n.handle n.value hmv hroot habs2
  exact ⟨appendEntryNode_moved hi k e e2 _ n he he2 hne hn habs, t2, hr, t1, hkn⟩

/-- Moving an entry node `n` of view `k` of `e2` to another element `e` whose view lacks the key:
    `e` gains the entry at the end (carried by the same node), `e2` loses it, nothing else
    changes in the two elements' views, the invariant is kept. -/
theorem move_node (f : Forest) (hi : f.Inv) (k : MapKind) (e e2 hd : Nat)
    (he : f.isElement e = true) (he2 : f.isElement e2 = true) (hne : e ≠ e2)
    (hm : hd ∈ absNodes k f e2) :
    ∃ n, f.mapGetNode k e2 (keyOf n) = some n ∧ n.handle = hd ∧
      (f.mapGetNode k e (keyOf n) = none →
        (f.appendEntryNode k e hd).2 = (.ok, hd) ∧
        abs k (f.appendEntryNode k e hd).1 e = omInsert (abs k f e) (keyOf n) (payloadOf n.value) ∧
        absNodes k (f.appendEntryNode k e hd).1 e = absNodes k f e ++ [hd] ∧
        abs k (f.appendEntryNode k e hd).1 e2 = omRemove (abs k f e2) (keyOf n) ∧
        (∀ k', k' ≠ k → abs k' (f.appendEntryNode k e hd).1 e = abs k' f e ∧
          abs k' (f.appendEntryNode k e hd).1 e2 = abs k' f e2) ∧
        (f.appendEntryNode k e hd).1.Inv) := by
  obtain ⟨nm2, N2, A2, S2, h2⟩ := minv_of_inv f e2 hi he2
  rw [h2.absNodes_eq k] at hm
  obtain ⟨n, hn, hh⟩ := List.mem_map.mp hm
  obtain ⟨hg2, _⟩ := getNode_of_mem h2 k n hn
  refine ⟨n, hg2, hh, fun habs => ?_⟩
  subst hh
  obtain ⟨heq, t2, hr, t1, hkn⟩ := move_steps hi k e e2 (keyOf n) n he he2 hne hg2 habs
  rw [heq]
  have s2 := t2.frame e hne
  have s1 := t1.frame e2 (fun hx => hne hx.symm)
  refine ⟨hr, ?_, ?_, ?_, ?_, t1.inv⟩
  · rw [t1.same, s2.abs k]
  · rw [absNodes_of_absKN, hkn, s2.kn k, List.map_append, ← absNodes_of_absKN]; rfl
  · rw [s1.abs k, t2.same]
  · intro k' hk'
    constructor
    · rw [abs_of_absHV, t1.other k' hk', ← abs_of_absHV, s2.abs k']
    · rw [s1.abs k', abs_of_absHV, t2.other k' hk', ← abs_of_absHV]

/-- `get_node(key)` as a handle is the lookup in the (key, node) list. -/
theorem lookup_absKN (f : Forest) (k : MapKind) (e key : Nat) :
    (absKN k f e).lookup key = (f.mapGetNode k e key).map (·.handle) := by
  unfold Forest.mapGetNode absKN
  cases f.get? e with
  | none => rfl
  | some t => exact lookup_map_key (·.handle) _ key

/-- The move: `e` lacks the key, the entry node of `e2` goes to the end of `e`'s view. -/
theorem stepOK_move {f : Forest} {F : Fam} (hi : f.Inv) (hF : Agree f F) (k : MapKind)
    (e e2 key : Nat) (n : HTree) (he : f.isElement e = true) (he2 : f.isElement e2 = true)
    (hne : e ≠ e2) (hn : f.mapGetNode k e2 key = some n) (habs : f.mapGetNode k e key = none) :
    (f.appendEntryNode k e n.handle).2 = (.ok, n.handle) ∧
    StepOK f (f.appendEntryNode k e n.handle).1
      ((F.upd e2 k (fun m => omRemove m key)).upd e k
        (fun m => omInsert m key (payloadOf n.value))) n.handle 0 := by
  obtain ⟨heq, t2, hr, t1, hkn⟩ := move_steps hi k e e2 key n he he2 hne hn habs
  rw [heq]
  have s2 : StepOK f (f.detach n.handle).1 _ n.handle 0 :=
    t2.stepOK (g := fun m => omRemove m key) hF he2
  have hefd : (f.detach n.handle).1.isElement e = true := by rw [s2.elem]; exact he
  have s1 : StepOK (f.detach n.handle).1 _ _ n.handle 0 :=
    t1.stepOK (g := fun m => omInsert m key (payloadOf n.value)) s2.agree hefd
  -- `e` is not touched by the first step, every other node not by the second
  have h1 : ∀ k', absKN k' (f.detach n.handle).1 e = absKN k' f e := fun k' => (t2.frame e hne).kn k'
  have h2 : ∀ x, x ≠ e → ∀ k', absKN k' ((f.detach n.handle).1.appendEntryNode k e n.handle).1 x =
      absKN k' (f.detach n.handle).1 x := fun x hx k' => (t1.frame x hx).kn k'
  refine ⟨hr, s1.inv, s1.agree, fun x => (s1.elem x).trans (s2.elem x), ?_, ?_,
    by rw [s1.next, s2.next]⟩
  · intro x k'
    by_cases hx : x = e
    · subst hx; rw [← h1 k']; exact s1.kn x k'
    · rw [h2 x hx k']; exact s2.kn x k'
  · intro x k' p hg
    unfold Grows at hg
    by_cases hx : x = e
    · subst hx; rw [← h1 k'] at hg; exact s1.carrier x k' p hg
    · rw [h2 x hx k'] at hg; exact s2.carrier x k' p hg

/-- `append_*_node(e, get_node of (e2, key))` for `e2 ≠ e`, all cases: the outcome, the node
    returned, the step. -/
theorem stepOK_appendEntryOf {f : Forest} {F : Fam} (hi : f.Inv) (hF : Agree f F) (k : MapKind)
    (e e2 key : Nat) (he : f.isElement e = true) (he2 : f.isElement e2 = true) (hne : e ≠ e2) :
    let r : Forest × Res := match f.mapGetNode k e2 key with
      | some n => res3 (f.appendEntryNode k e n.handle)
      | none => (f, .ok)
    r.2 = .ok ∧
    (f.mapGetNode k e2 key).map (fun n => (f.appendEntryNode k e n.handle).2.2) =
      carrierOf F (nodeView f) k e e2 key ∧
    StepOK f r.1 (specAppendEntryOf F k e e2 key) (((absKN k f e2).lookup key).getD f.next) 0 := by
  intro r
  have hne' : ¬ e2 = e := fun h => hne h.symm
  unfold specAppendEntryOf carrierOf
  rw [if_neg hne', if_neg hne', ← hF e2 k, ← hF e k]
  cases hn : f.mapGetNode k e2 key with
  | none =>
    have hg := get_none_of_not_contains _ _ ((getNode_none_iff f k e2 key).mp hn)
    simp only [r, hn, hg]
    exact ⟨trivial, rfl, StepOK.refl hi hF⟩
  | some n =>
    have hg := getNode_payload f k e2 key n hn
    obtain ⟨hval, hmv, hkey⟩ := getNode_value hi k e2 key n he2 hn
    have hgv : ((absKN k f e2).lookup key).getD f.next = n.handle := by rw [lookup_absKN, hn]; rfl
    rw [hgv]
    simp only [r, hn, hg, res3, Option.map_some]
    cases hn0 : f.mapGetNode k e key with
    | some n0 =>
      simp only [contains_of_getNode hn0, if_true]
      obtain ⟨nm, N, A, S, h⟩ := minv_of_inv f e hi he
      have hn0' : f.mapGetNode k e (entryKey n.value) = some n0 := by rw [hkey]; exact hn0
      obtain ⟨_, _, heq, _, _⟩ := appendEntryNode_existing h k n.handle n.value hval hmv n0 hn0'
      rw [heq]
      exact ⟨rfl, (getN_some hn0).symm, (change_setValue hi h k key n0 n.value hmv hn0 n.handle).stepOK
        (g := fun m => omInsert m key (payloadOf n.value)) hF he⟩
    | none =>
      simp only [(getNode_none_iff f k e key).mp hn0, Bool.false_eq_true, if_false]
      obtain ⟨hr, st⟩ := stepOK_move hi hF k e e2 key n he he2 hne hn hn0
      exact ⟨by rw [hr], by rw [hr]; exact (getN_some hn).symm, st⟩

/-- The same for `e2 = e` or not, as `any_append` / `append_*_node` of `get_node(e2, key)`. -/
theorem stepOK_appendRef {f : Forest} {F : Fam} (hi : f.Inv) (hF : Agree f F) (k : MapKind)
    (e e2 key : Nat) (he : f.isElement e = true) (he2 : f.isElement e2 = true) :
    let r : Forest × Res := match f.mapGetNode k e2 key with
      | some n => res3 (f.appendEntryNode k e n.handle)
      | none => (f, .ok)
    r.2 = .ok ∧
    (f.mapGetNode k e2 key).map (fun n => (f.appendEntryNode k e n.handle).2.2) =
      carrierOf F (nodeView f) k e e2 key ∧
    StepOK f r.1 (specAppendEntryOf F k e e2 key) (((absKN k f e2).lookup key).getD f.next) 0 := by
  by_cases hne : e = e2
  · subst hne
    intro r
    unfold specAppendEntryOf carrierOf
    rw [if_pos rfl, if_pos rfl]
    cases hn : f.mapGetNode k e key with
    | none => simp only [r, hn]; exact ⟨trivial, (getN_none hn).symm, StepOK.refl hi hF⟩
    | some n =>
      simp only [r, hn, res3, Option.map_some]
      rw [appendOwn_eq hi k e key n he hn]
      exact ⟨rfl, (getN_some hn).symm, StepOK.refl hi hF⟩
  · exact stepOK_appendEntryOf hi hF k e e2 key he he2 hne

theorem kindOf_matches (v : Value) (k : MapKind) (h : kindOf? v = some k) : k.matches v = true := by
  cases v <;> simp [kindOf?] at h <;> subst h <;> rfl

theorem isDetachedEntry_root {f : Forest} (hi : f.Inv) (k : MapKind) (nd : Nat) (v : Value)
    (h : isDetachedEntry f k nd v = true) : HTree.node nd v [] ∈ f.roots ∧ k.matches v = true ∧
      f.value? nd = some v := by
  simp only [isDetachedEntry, Bool.and_eq_true, beq_iff_eq] at h
  exact ⟨leafRoot_of_inv f hi k nd v h.1.1 h.1.2 h.2, h.2, h.1.2⟩

/-- `any_append` of a node made on the spot is `append_*_node` on the view its value belongs to. -/
theorem anyAppend_new {f : Forest} (hi : f.Inv) (e : Nat) (v : Value)
    (hok : (MapOp2.anyAppend e (.new v)).ok f = true) :
    ∃ k, kindOf? v = some k ∧ f.isElement e = true ∧ k.matches v = true ∧
      (f.newNode v).1.anyAppend e f.next = (f.newNode v).1.appendEntryNode k e f.next := by
  simp only [MapOp2.ok, Bool.and_eq_true] at hok
  cases hk : kindOf? v with
  | none => rw [hk] at hok; cases hok.2
  | some k =>
    have hm := kindOf_matches v k hk
    exact ⟨k, rfl, hok.1, hm, anyAppend_entry _ k e f.next v (newNode_value hi v) hm⟩

/-- `any_append` of a parentless entry node likewise. -/
theorem anyAppend_detached {f : Forest} (hi : f.Inv) (e nd : Nat) (v : Value)
    (hok : (MapOp2.anyAppend e (.detached nd v)).ok f = true) :
    ∃ k, kindOf? v = some k ∧ f.isElement e = true ∧ k.matches v = true ∧
      HTree.node nd v [] ∈ f.roots ∧ f.anyAppend e nd = f.appendEntryNode k e nd := by
  simp only [MapOp2.ok, Bool.and_eq_true] at hok
  cases hk : kindOf? v with
  | none => rw [hk] at hok; cases hok.2
  | some k =>
    rw [hk] at hok
    obtain ⟨hroot, hm, hval⟩ := isDetachedEntry_root hi k nd v hok.2
    exact ⟨k, rfl, hok.1, hm, hroot, anyAppend_entry _ k e nd v hval hm⟩

end Fmap
end XotModel

/-! ## `step_all`; chains of `KNStep`

An entry that is present throughout keeps its node and its position relative to every other such entry. -/

namespace XotModel
namespace Fmap
open HTree
open Forest (MapKind entryKey mapChildren MapEntry)

theorem run_anyAppend_entry {f : Forest} (hi : f.Inv) (k : MapKind) (e e2 key : Nat)
    (he2 : f.isElement e2 = true) :
    (MapOp2.anyAppend e (.entry k e2 key)).run f = (MapOp2.appendAttachedNode k e e2 key).run f := by
  show (match f.mapGetNode k e2 key with
      | some n => res3 (f.anyAppend e n.handle)
      | none => (f, .ok)) =
    (match f.mapGetNode k e2 key with
      | some n => res3 (f.appendEntryNode k e n.handle)
      | none => (f, .ok))
  cases hn : f.mapGetNode k e2 key with
  | none => rfl
  | some n =>
    obtain ⟨hval, hmv, _⟩ := getNode_value hi k e2 key n he2 hn
    simp only
    rw [anyAppend_entry f k e n.handle n.value hval hmv]

/-- One step of a history: every `MapOp2` whose side conditions hold answers `ok` and is a `StepOK`
    towards the reference family after it, with the node the reference names as carrier of a new
    entry (`MapOp2.given`) and the reference's count of nodes made (`MapOp2.creates`). -/
theorem step_all {f : Forest} {F : Fam} (hi : f.Inv) (hF : Agree f F) (op : MapOp2)
    (hok : op.ok f = true) :
    (op.run f).2 = .ok ∧
    StepOK f (op.run f).1 (specStep F op) (op.given (nfamOf f) f.next) (op.creates F) := by
  -- the family can only be the forest's own: what the reference counts and what `Change` counts
  -- are then the same expressions
  obtain rfl : F = famOf f := funext fun x => funext fun k => (hF x k).symm
  cases op with
  | insert k e v =>
    simp only [MapOp2.ok, Bool.and_eq_true] at hok
    exact (change_mapInsert hi k e v hok.1 hok.2).imp_right (·.stepOK hF hok.1)
  | remove k e key =>
    exact (change_mapRemove hi k e key hok f.next).imp_right
      (·.stepOK (g := fun m => omRemove m key) hF hok)
  | clear k e =>
    obtain ⟨nm, N, A, S, h⟩ := minv_of_inv f e hi hok
    exact (change_clear hi h k f.next).imp_right (·.stepOK (g := omClear) hF hok)
  | getMutSet k e key new =>
    simp only [MapOp2.ok, Bool.and_eq_true] at hok
    exact (change_getMutSet hi k e key new hok.1 hok.2 f.next).imp_right
      (·.stepOK (g := fun m => omModify m key (fun _ => payloadOf new)) hF hok.1)
  | entryOrInsert k e d =>
    simp only [MapOp2.ok, Bool.and_eq_true] at hok
    exact (change_entryOrInsert hi k e d hok.1 hok.2).imp_right (·.stepOK hF hok.1)
  | entryOrDefault e name =>
    exact (change_entryOrInsert hi .attributes e (.attribute name []) hok rfl).imp_right
      (·.stepOK hF hok)
  | entryAndModify k e key g =>
    exact (change_entryAndModify hi k e key (liftP k g) hok (fun v _ => liftP_matches k g v)
      f.next).imp_right (·.stepOK (g := fun m => omModify m key (modP k key g)) hF hok)
  | entryAndModifyOrInsert k e d g =>
    simp only [MapOp2.ok, Bool.and_eq_true] at hok
    exact (change_entryAndModifyOrInsert hi k e d (liftP k g) hok.1 hok.2
      (fun v _ => liftP_matches k g v)).imp_right (·.stepOK (g := opModifyOrInsert k d g) hF hok.1)
  | entryInsert k e v =>
    simp only [MapOp2.ok, Bool.and_eq_true] at hok
    exact (change_entryInsert hi k e v hok.1 hok.2).imp_right (·.stepOK hF hok.1)
  | occupiedInsert k e v =>
    simp only [MapOp2.ok, Bool.and_eq_true] at hok
    exact (change_occupiedInsert hi k e v hok.1 hok.2).imp_right (·.stepOK hF hok.1)
  | vacantInsert k e v =>
    simp only [MapOp2.ok, Bool.and_eq_true] at hok
    exact (change_vacantInsert hi k e v hok.1 hok.2).imp_right (·.stepOK hF hok.1)
  | entryRemove k e key =>
    exact (change_entryRemove hi k e key hok f.next).imp_right
      (·.stepOK (g := fun m => omRemove m key) hF hok)
  | setAttribute e name value =>
    exact (change_mapInsert hi .attributes e (.attribute name value) hok rfl).imp_right
      (·.stepOK hF hok)
  | removeAttribute e name =>
    exact (change_mapRemove hi .attributes e name hok f.next).imp_right
      (·.stepOK (g := fun m => omRemove m name) hF hok)
  | setNamespace e pfx ns =>
    exact (change_mapInsert hi .namespaces e (.namespace pfx ns) hok rfl).imp_right
      (·.stepOK hF hok)
  | removeNamespace e pfx =>
    exact (change_mapRemove hi .namespaces e pfx hok f.next).imp_right
      (·.stepOK (g := fun m => omRemove m pfx) hF hok)
  | appendNewNode k e v =>
    simp only [MapOp2.ok, Bool.and_eq_true] at hok
    exact ⟨(change_appendNew hi k e v hok.1 hok.2).1,
      (change_appendNew hi k e v hok.1 hok.2).2.2.stepOK hF hok.1⟩
  | appendDetachedNode k e nd v =>
    simp only [MapOp2.ok, Bool.and_eq_true] at hok
    obtain ⟨hroot, hm, _⟩ := isDetachedEntry_root hi k nd v hok.2
    exact ⟨(change_appendLeafRoot hi k e nd v hok.1 hm hroot).1,
      (change_appendLeafRoot hi k e nd v hok.1 hm hroot).2.2.stepOK hF hok.1⟩
  | appendOwnNode k e key =>
    -- the forest stays as it is: no view gains an entry, so any node will do as the carrier
    show (match f.mapGetNode k e key with
      | some n => res3 (f.appendEntryNode k e n.handle)
      | none => (f, .ok)).2 = .ok ∧ StepOK f (match f.mapGetNode k e key with
      | some n => res3 (f.appendEntryNode k e n.handle)
      | none => (f, .ok)).1 (famOf f) f.next 0
    cases hn : f.mapGetNode k e key with
    | none => exact ⟨rfl, StepOK.refl hi hF⟩
    | some n =>
      simp only [res3]
      rw [appendOwn_eq hi k e key n hok hn]
      exact ⟨rfl, StepOK.refl hi hF⟩
  | appendAttachedNode k e e2 key =>
    simp only [MapOp2.ok, Bool.and_eq_true] at hok
    exact ⟨(stepOK_appendRef hi hF k e e2 key hok.1.1 hok.1.2).1,
      (stepOK_appendRef hi hF k e e2 key hok.1.1 hok.1.2).2.2⟩
  | anyAppend e r =>
    cases r with
    | new v =>
      obtain ⟨k, hk, he, hm, heq⟩ := anyAppend_new hi e v hok
      show (res3 ((f.newNode v).1.anyAppend e f.next)).2 = .ok ∧
        StepOK f (res3 ((f.newNode v).1.anyAppend e f.next)).1
          (specStep (famOf f) (.anyAppend e (.new v))) f.next 1
      simp only [specStep, hk, heq]
      exact ⟨(change_appendNew hi k e v he hm).1, (change_appendNew hi k e v he hm).2.2.stepOK hF he⟩
    | detached nd v =>
      obtain ⟨k, hk, he, hm, hroot, heq⟩ := anyAppend_detached hi e nd v hok
      show (res3 (f.anyAppend e nd)).2 = .ok ∧
        StepOK f (res3 (f.anyAppend e nd)).1 (specStep (famOf f) (.anyAppend e (.detached nd v))) nd 0
      simp only [specStep, hk, heq]
      exact ⟨(change_appendLeafRoot hi k e nd v he hm hroot).1,
        (change_appendLeafRoot hi k e nd v he hm hroot).2.2.stepOK hF he⟩
    | entry k e2 key =>
      simp only [MapOp2.ok, Bool.and_eq_true] at hok
      rw [run_anyAppend_entry hi k e e2 key hok.2]
      exact ⟨(stepOK_appendRef hi hF k e e2 key hok.1 hok.2).1,
        (stepOK_appendRef hi hF k e e2 key hok.1 hok.2).2.2⟩
  | detachEntryNode k e key =>
    exact (change_detachEntry hi k e key hok f.next).imp_right
      (·.stepOK (g := fun m => omRemove m key) hF hok)
  | removeEntryNode k e key =>
    exact (change_removeEntry hi k e key hok f.next).imp_right
      (·.stepOK (g := fun m => omRemove m key) hF hok)

/-! ### Histories -/

/-- Every view of every node changes by `KNStep`. -/
def Stable (f f' : Forest) : Prop := ∀ x k, KNStep (absKN k f x) (absKN k f' x)

/-- Consecutive states of a trace are `Stable`. -/
def StableTrace : List Forest → Prop
  | a :: b :: rest => Stable a b ∧ StableTrace (b :: rest)
  | _ => True

/-! ### Entries that stay keep their relative position -/

theorem sublist_eq_filter {α : Type} [DecidableEq α] {a b : List α} (h : a.Sublist b)
    (hnd : b.Nodup) : a = b.filter (fun x => decide (x ∈ a)) :=
  sublist_eq_filter_of_mem _ h hnd (fun x => by
    rw [decide_eq_true_eq]; exact ⟨fun hx => ⟨h.subset hx, hx⟩, fun hx => hx.2⟩)

theorem sublist_pair_iff {α : Type} [DecidableEq α] {a b : List α} (h : a.Sublist b)
    (hnd : b.Nodup) (p q : α) (hp : p ∈ a) (hq : q ∈ a) :
    [p, q].Sublist b ↔ [p, q].Sublist a := by
  constructor
  · intro hpq
    have := List.Sublist.filter (fun x => decide (x ∈ a)) hpq
    rw [← sublist_eq_filter h hnd] at this
    simpa [List.filter_cons, hp, hq] using this
  · intro hpq
    exact hpq.trans h

theorem knstep_pair_iff {old new : List (Nat × Nat)} (h : KNStep old new) (ho : old.Nodup)
    (hn : new.Nodup) (p q : Nat × Nat) (hpo : p ∈ old) (hqo : q ∈ old) (hpn : p ∈ new)
    (hqn : q ∈ new) : [p, q].Sublist old ↔ [p, q].Sublist new := by
  rcases h with h | ⟨r, h⟩
  · exact sublist_pair_iff h ho p q hpn hqn
  · have hs : old.Sublist new := by rw [h]; exact List.sublist_append_left _ _
    exact (sublist_pair_iff hs hn p q hpo hqo).symm

theorem absKN_nodup {f : Forest} (hi : f.Inv) (k : MapKind) (x : Nat) : (absKN k f x).Nodup := by
  have := unique_keys_of_inv f hi k x
  unfold omWf omKeys at this
  rw [abs_of_absHV, List.map_map] at this
  rw [absKN_of_absHV]
  have h2 : ((absHV k f x).map (fun p => (entryKey p.2, p.1))).map (·.1) =
      (absHV k f x).map ((·.1) ∘ fun p => (entryKey p.2, payloadOf p.2)) := by
    rw [List.map_map]; rfl
  rw [← h2] at this
  exact List.Pairwise.of_map (·.1) (fun a b hab heq => hab (by rw [heq])) this

/-- Along a trace of `Stable` steps between forests satisfying the invariant, two (key, node)
    pairs that are in the view `k` of `x` in every state have the same relative order in every
    state as in the first. -/
theorem kept_order : ∀ (tr : List Forest) (f : Forest), StableTrace (f :: tr) →
    (∀ g ∈ f :: tr, g.Inv) → ∀ (x : Nat) (k : MapKind) (p q : Nat × Nat),
    (∀ g ∈ f :: tr, p ∈ absKN k g x ∧ q ∈ absKN k g x) →
    ∀ g ∈ f :: tr, ([p, q].Sublist (absKN k f x) ↔ [p, q].Sublist (absKN k g x))
  | [], f => by
    intro _ _ x k p q _ g hg
    simp only [List.mem_singleton] at hg
    rw [hg]
  | b :: tr, f => by
    intro hst hinv x k p q hall g hg
    rcases List.mem_cons.mp hg with hg | hg
    · rw [hg]
    · have hfb : [p, q].Sublist (absKN k f x) ↔ [p, q].Sublist (absKN k b x) :=
        knstep_pair_iff (hst.1 x k) (absKN_nodup (hinv f List.mem_cons_self) k x)
          (absKN_nodup (hinv b (List.mem_cons_of_mem _ List.mem_cons_self)) k x) p q
          (hall f List.mem_cons_self).1 (hall f List.mem_cons_self).2
          (hall b (List.mem_cons_of_mem _ List.mem_cons_self)).1
          (hall b (List.mem_cons_of_mem _ List.mem_cons_self)).2
      have ih := kept_order tr b hst.2 (fun g hg => hinv g (List.mem_cons_of_mem _ hg)) x k p q
        (fun g hg => hall g (List.mem_cons_of_mem _ hg)) g hg
      exact hfb.trans ih

end Fmap
end XotModel
