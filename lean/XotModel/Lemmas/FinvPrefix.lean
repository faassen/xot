/-
  `create_missing_prefixes` and `deduplicate_namespaces` preserve the
  invariant: they are sequences of `namespaces_mut(..).insert` / `remove` calls (Model/FatomSpec2;
  `deduplicate_namespaces` one such sequence per pass),
  each of which does (`call_inv`: every constructor of `Forest.Call`).
-/
import XotModel.Lemmas.FinvStep
import XotModel.Model.FatomSpec2
import XotModel.Lemmas.FhistBasic

namespace XotModel
open HTree

namespace Forest

/-- The one side condition of C04 on calls as data: a map insertion carries an entry of the map's
    kind (the Rust API builds the entry from key and value, so it always does). -/
def Call.wellKinded : Call → Prop
  | .mapInsert k _ e => k.matches e = true
  | _ => True

/-- Every call of `Forest.Call` preserves the invariant, whatever its arguments and outcome. -/
theorem call_inv {f : Forest} (hi : f.Inv) (c : Call) (hw : c.wellKinded) : (c.run f).1.Inv := by
  cases c with
  | append p c => exact step_inv hi (.append p c) rfl
  | prepend p c => exact step_inv hi (.prepend p c) rfl
  | insertAfter a b => exact step_inv hi (.insertAfter a b) rfl
  | insertBefore a b => exact step_inv hi (.insertBefore a b) rfl
  | detach n => exact step_inv hi (.detach n) rfl
  | remove n => exact step_inv hi (.remove n) rfl
  | replace a b => exact step_inv hi (.replace a b) rfl
  | elementWrap n name => exact step_inv hi (.elementWrap n name) rfl
  | elementUnwrap n => exact step_inv hi (.elementUnwrap n) rfl
  | cloneNode n => exact step_inv hi (.cloneNode n) rfl
  | anyAppend p c => exact step_inv hi (.anyAppend p c) rfl
  | appendEntryNode k p c =>
    cases k with
    | attributes => exact step_inv hi (.appendAttributeNode p c) rfl
    | namespaces => exact step_inv hi (.appendNamespaceNode p c) rfl
  | mapInsert k p e => exact mapInsert_inv hi k p e hw
  | mapRemove k p key => exact mapRemove_inv hi k p key
  | mapClear k p => exact mapClear_inv hi k p
  | setElementName n name => exact step_inv hi (.setElementName n name) rfl
  | setText n s => exact step_inv hi (.setText n s) rfl
  | setComment n s => exact step_inv hi (.setComment n s) rfl
  | setPiData n d => exact step_inv hi (.setPiData n d) rfl
  | textContentSet n s => exact step_inv hi (.textContentSet n s) rfl

theorem runCalls_inv (cs : List Call) {f : Forest} (hi : f.Inv) (hw : ∀ c ∈ cs, c.wellKinded) :
    (f.runCalls cs).1.Inv :=
  Closed.runCalls_keeps (P := Forest.Inv) (ok := Call.wellKinded) (fun c hp hc => call_inv hp c hc) cs hi hw

theorem repairCalls_wellKinded {env env' : Env} {f : Forest} {node : Nat} {cs : List Call}
    (h : f.repairCalls env node = some (env', cs)) : ∀ c ∈ cs, c.wellKinded := by
  intro c hc
  rcases mem_repairCalls h hc with ⟨d, rfl⟩ | ⟨_, _, _, _, _, rfl⟩ <;> rfl

theorem repairElementF_inv {f : Forest} (hi : f.Inv) (env : Env) (node : Nat) :
    (f.repairElementF env node).1.Inv :=
  Closed.repairElementF_keeps (P := Forest.Inv) (ok := Call.wellKinded) (fun c hp hc => call_inv hp c hc) hi
    (fun _ _ h => repairCalls_wellKinded h)

theorem repairElementsF_inv (es : List Nat) (env : Env) {f : Forest} (hi : f.Inv) :
    (repairElementsF es env f).1.Inv :=
  Closed.repairElementsF_keeps (P := Forest.Inv) (A := fun _ => True)
    (fun env e hp _ => repairElementF_inv hp env e) es env hi (fun _ _ => trivial)

theorem createMissingPrefixes_inv {f : Forest} (hi : f.Inv) (env : Env) (node : Nat) :
    (f.createMissingPrefixes env node).1.Inv :=
  Closed.createMissingPrefixes_keeps (P := Forest.Inv) (A := fun _ => True)
    (fun env e hp _ => repairElementF_inv hp env e) hi trivial (fun _ _ _ _ => trivial)

theorem dedupCalls_wellKinded (env : Env) (f : Forest) (node : Nat) :
    ∀ c ∈ f.dedupCalls env node, c.wellKinded := by
  intro c hc
  obtain ⟨_, _, _, _, _, -, -, -, -, -, rfl⟩ := mem_dedupCalls hc
  trivial

theorem dedupLoop_inv (env : Env) (node : Nat) (fuel : Nat) {f : Forest} (hi : f.Inv) :
    (dedupLoop env node fuel f).1.Inv :=
  Closed.dedupLoop_keeps (P := Forest.Inv) (ok := Call.wellKinded) (fun c hp hc => call_inv hp c hc) env node
    (fun {f} _ => dedupCalls_wellKinded env f node) fuel hi

theorem deduplicateNamespaces_inv {f : Forest} (hi : f.Inv) (env : Env) (node : Nat) :
    (f.deduplicateNamespaces env node).1.Inv :=
  dedupLoop_inv env node _ hi

end Forest
end XotModel
