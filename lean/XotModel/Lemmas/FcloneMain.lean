/-
  Facts about the structural copy itself (every handle is new; forgetting the handles gives the
  source with adjacent text merged) and `cloneNode_full`, the statement the C12 theorems are read
  off; on a strictly valid source the expected clone is the source (`expectedClone_strict`).
-/
import XotModel.Lemmas.FcloneReplay

/-! ## The structural copy

Forgetting the handles gives the source with adjacent text merged when consolidation is on, the source itself when
it is off. -/

namespace XotModel
open HTree

/-! ### handles -/

mutual
  theorem copyInto_handles (cons : Bool) : ∀ (t : HTree) (K : List HTree) (n : Nat),
      n ≤ (copyInto cons K n t).2 ∧
      ∀ h ∈ handlesList (copyInto cons K n t).1,
        h ∈ handlesList K ∨ (n ≤ h ∧ h < (copyInto cons K n t).2)
    | .node h0 v ks, K, n => by
      by_cases hd : v = .document
      · subst hd
        simpa [copyInto] using copyKids_handles cons ks K n
      · by_cases hel : v.isElement = true
        · cases v with
          | element e =>
            obtain ⟨h1, h2⟩ := copyKids_handles cons ks [] (n + 1)
            simp only [copyInto]
            refine ⟨by omega, ?_⟩
            intro h hh
            simp only [handlesList_append, handlesList_singleton, handles, List.mem_append,
              List.mem_cons] at hh
            rcases hh with hK | rfl | hr
            · exact Or.inl hK
            · exact Or.inr ⟨Nat.le_refl _, by omega⟩
            · rcases h2 h hr with h3 | h3
              · simp [handlesList] at h3
              · exact Or.inr ⟨by omega, h3.2⟩
          | _ => simp [Value.isElement] at hel
        · have hel' : v.isElement = false := by simpa using hel
          have hd' : v.isDocument = false := by cases v <;> simp_all [Value.isDocument]
          rw [copyInto_leaf _ _ _ _ _ _ hel' hd']
          refine ⟨by simp, ?_⟩
          intro h hh
          rcases handlesList_snocClone cons K n v with e | e
          · rw [e] at hh
            simp only [List.mem_append, List.mem_singleton] at hh
            rcases hh with hK | rfl
            · exact Or.inl hK
            · exact Or.inr ⟨Nat.le_refl _, by simp⟩
          · rw [e] at hh; exact Or.inl hh
  theorem copyKids_handles (cons : Bool) : ∀ (ks : List HTree) (K : List HTree) (n : Nat),
      n ≤ (copyKids cons K n ks).2 ∧
      ∀ h ∈ handlesList (copyKids cons K n ks).1,
        h ∈ handlesList K ∨ (n ≤ h ∧ h < (copyKids cons K n ks).2)
    | [], K, n => by
      simp only [copyKids]
      exact ⟨Nat.le_refl _, fun h hh => Or.inl hh⟩
    | k :: ks, K, n => by
      obtain ⟨a1, a2⟩ := copyInto_handles cons k K n
      obtain ⟨b1, b2⟩ := copyKids_handles cons ks (copyInto cons K n k).1 (copyInto cons K n k).2
      simp only [copyKids]
      refine ⟨by omega, ?_⟩
      intro h hh
      rcases b2 h hh with h1 | h1
      · rcases a2 h h1 with h2 | h2
        · exact Or.inl h2
        · exact Or.inr ⟨h2.1, by omega⟩
      · exact Or.inr ⟨by omega, h1.2⟩
end

theorem copyRoot_handles (cons : Bool) (n : Nat) (src : HTree) :
    ∀ h ∈ handles (copyRoot cons n src).1, n ≤ h ∧ h < (copyRoot cons n src).2 := by
  cases src with
  | node h0 v ks =>
    cases v with
    | document =>
      obtain ⟨h1, h2⟩ := copyKids_handles cons ks [] (n + 1)
      intro h hh
      simp only [copyRoot, handles, List.mem_cons] at hh ⊢
      rcases hh with rfl | hr
      · omega
      · rcases h2 h hr with h3 | h3
        · simp [handlesList] at h3
        · omega
    | element e =>
      obtain ⟨h1, h2⟩ := copyKids_handles cons ks [] (n + 2)
      intro h hh
      simp only [copyRoot, handles, List.mem_cons] at hh ⊢
      rcases hh with rfl | hr
      · omega
      · rcases h2 h hr with h3 | h3
        · simp [handlesList] at h3
        · omega
    | _ => intro h hh; simp [copyRoot, handles, handlesList] at hh ⊢; omega

/-! ### erase -/

theorem snocMerge_nil (t : Tree) : snocMerge [] t = [t] := by
  unfold snocMerge
  split
  · next h => cases h
  · rfl

theorem snocMerge_nontext (A : List Tree) (t : Tree) (h : t.value.isText = false) :
    snocMerge A t = A ++ [t] := by
  unfold snocMerge
  split
  · exact absurd h (by simp [Tree.value, Value.isText])
  · rfl

theorem snocMerge_merge (A : List Tree) (ps s : Str) (pk k : List Tree) :
    snocMerge (A ++ [.node (.text ps) pk]) (.node (.text s) k) = A ++ [.node (.text (ps ++ s)) pk] := by
  simp [snocMerge]

theorem snocMerge_last_nontext (A : List Tree) (x t : Tree) (h : x.value.isText = false) :
    snocMerge (A ++ [x]) t = A ++ [x, t] := by
  unfold snocMerge
  split
  · next hl =>
    rw [List.getLast?_concat] at hl
    cases hl
    exact absurd h (by simp [Tree.value, Value.isText])
  · rw [List.append_assoc]
    rfl

theorem erase_snocClone_on (K : List HTree) (n : Nat) (v : Value) :
    eraseList (snocClone true K (.node n v [])) = snocMerge (eraseList K) (.node v []) := by
  rcases List.eq_nil_or_concat K with rfl | ⟨K', x, rfl⟩
  · rw [snocClone_nomerge _ _ _ (by intro K' x h; simp at h)]
    simp [eraseList, erase, snocMerge_nil]
  · rw [List.concat_eq_append]
    cases x with
    | node m vm mk =>
      by_cases hx : vm.isText = true
      · cases vm with
        | text ps =>
          by_cases hv : v.isText = true
          · cases v with
            | text s =>
              rw [snocClone_merge]
              simp [eraseList_append, eraseList, erase, snocMerge_merge]
            | _ => simp [Value.isText] at hv
          · have hv' : v.isText = false := by simpa using hv
            rw [snocClone_nontext _ _ _ (by simpa [HTree.value] using hv'),
              snocMerge_nontext _ _ (by simpa [Tree.value] using hv')]
            simp [eraseList_append, eraseList, erase]
        | _ => simp [Value.isText] at hx
      · have hx' : vm.isText = false := by simpa using hx
        rw [snocClone_nomerge]
        · have e1 : eraseList (K' ++ [HTree.node m vm mk]) = eraseList K' ++ [Tree.node vm (eraseList mk)] := by
            simp [eraseList_append, eraseList, erase]
          rw [eraseList_append, e1,
            snocMerge_last_nontext (eraseList K') (Tree.node vm (eraseList mk)) _ (by simpa [Tree.value] using hx')]
          simp [eraseList, erase]
        · intro K'' y hy
          have := List.append_inj_right' hy rfl
          cases this
          simpa [HTree.value] using hx'

theorem erase_snocClone_off (K : List HTree) (n : Nat) (v : Value) :
    eraseList (snocClone false K (.node n v [])) = eraseList K ++ [.node v []] := by
  rw [snocClone_off]
  simp [eraseList_append, eraseList, erase]

theorem valid_kids_not_document (b : Bool) (h : Nat) (v : Value) (ks : List HTree)
    (hv : validTree b (.node h v ks) = true) : ∀ k ∈ ks, k.value.isDocument = false := by
  simp only [validTree, Bool.and_eq_true, List.all_eq_true] at hv
  exact fun k hk => (fc_kidAllowed_cases (hv.1.1.1.1.1 k hk)).1

mutual
  theorem erase_copyInto_on (b : Bool) : ∀ (t : HTree) (K : List HTree) (n : Nat),
      validTree b t = true → t.value.isDocument = false →
      eraseList (copyInto true K n t).1 = snocMerge (eraseList K) (mergeAdjacentText (erase t))
    | .node h0 v ks, K, n, hv, hd => by
      by_cases hel : v.isElement = true
      · cases v with
        | element e =>
          have hkd := valid_kids_not_document b h0 _ ks hv
          have ih := erase_copyKids_on b ks [] (n + 2 - 1) (validTree_kids b h0 _ ks hv) hkd
          simp only [copyInto, eraseList_append, eraseList, erase, mergeAdjacentText]
          rw [snocMerge_nontext _ _ rfl]
          have : n + 2 - 1 = n + 1 := by omega
          rw [this] at ih
          rw [ih]
          rfl
        | _ => simp [Value.isElement] at hel
      · have hel' : v.isElement = false := by simpa using hel
        have hd' : v.isDocument = false := by simpa [HTree.value] using hd
        have hk : ks = [] := kids_nil_of_valid hv hel' hd'
        subst hk
        rw [copyInto_leaf _ _ _ _ _ _ hel' hd', erase_snocClone_on]
        simp [erase, eraseList, mergeAdjacentText, mergeInto]
  theorem erase_copyKids_on (b : Bool) : ∀ (ks : List HTree) (K : List HTree) (n : Nat),
      validList b ks = true → (∀ k ∈ ks, k.value.isDocument = false) →
      eraseList (copyKids true K n ks).1 = mergeInto (eraseList K) (eraseList ks)
    | [], K, n, _, _ => by simp [copyKids, eraseList, mergeInto]
    | k :: ks, K, n, hv, hd => by
      obtain ⟨h1, h2⟩ := fc_validList_cons b k ks hv
      simp only [copyKids, eraseList, mergeInto]
      rw [erase_copyKids_on b ks _ _ h2 (fun x hx => hd x (List.mem_cons_of_mem _ hx)),
        erase_copyInto_on b k K n h1 (hd k List.mem_cons_self)]
end

mutual
  theorem erase_copyInto_off (b : Bool) : ∀ (t : HTree) (K : List HTree) (n : Nat),
      validTree b t = true → t.value.isDocument = false →
      eraseList (copyInto false K n t).1 = eraseList K ++ [erase t]
    | .node h0 v ks, K, n, hv, hd => by
      by_cases hel : v.isElement = true
      · cases v with
        | element e =>
          have hkd := valid_kids_not_document b h0 _ ks hv
          have ih := erase_copyKids_off b ks [] (n + 1) (validTree_kids b h0 _ ks hv) hkd
          simp only [copyInto, eraseList_append, eraseList, erase]
          rw [ih]
          rfl
        | _ => simp [Value.isElement] at hel
      · have hel' : v.isElement = false := by simpa using hel
        have hd' : v.isDocument = false := by simpa [HTree.value] using hd
        have hk : ks = [] := kids_nil_of_valid hv hel' hd'
        subst hk
        rw [copyInto_leaf _ _ _ _ _ _ hel' hd', erase_snocClone_off]
        simp [erase, eraseList]
  theorem erase_copyKids_off (b : Bool) : ∀ (ks : List HTree) (K : List HTree) (n : Nat),
      validList b ks = true → (∀ k ∈ ks, k.value.isDocument = false) →
      eraseList (copyKids false K n ks).1 = eraseList K ++ eraseList ks
    | [], K, n, _, _ => by simp [copyKids, eraseList]
    | k :: ks, K, n, hv, hd => by
      obtain ⟨h1, h2⟩ := fc_validList_cons b k ks hv
      simp only [copyKids, eraseList]
      rw [erase_copyKids_off b ks _ _ h2 (fun x hx => hd x (List.mem_cons_of_mem _ hx)),
        erase_copyInto_off b k K n h1 (hd k List.mem_cons_self)]
      simp
end

theorem erase_copyRoot (b cons : Bool) (n : Nat) (src : HTree) (hv : validTree b src = true) :
    erase (copyRoot cons n src).1 = expectedClone cons (erase src) := by
  cases src with
  | node h v ks =>
    have hkd := valid_kids_not_document b h v ks hv
    have hks := validTree_kids b h v ks hv
    cases cons with
    | true =>
      simp only [expectedClone, if_true]
      cases v with
      | document =>
        simp only [copyRoot, erase, mergeAdjacentText]
        rw [erase_copyKids_on b ks [] _ hks hkd]; rfl
      | element e =>
        simp only [copyRoot, erase, mergeAdjacentText]
        rw [erase_copyKids_on b ks [] _ hks hkd]; rfl
      | _ => have : ks = [] := kids_nil_of_valid hv rfl rfl; subst this; rfl
    | false =>
      simp only [expectedClone, Bool.false_eq_true, if_false]
      cases v with
      | document =>
        simp only [copyRoot, erase]
        rw [erase_copyKids_off b ks [] _ hks hkd]; rfl
      | element e =>
        simp only [copyRoot, erase]
        rw [erase_copyKids_off b ks [] _ hks hkd]; rfl
      | _ => have : ks = [] := kids_nil_of_valid hv rfl rfl; subst this; rfl

end XotModel

/-! ## Everything about `clone_node` in one statement. -/

namespace XotModel
open HTree

theorem Forest.isLive_iff (f : Forest) (h : Nat) : f.isLive h = true ↔ ∃ t, f.get? h = some t := by
  unfold Forest.isLive
  cases f.get? h <;> simp

/-- `clone_node(node)` on a live node of a forest satisfying the invariant: no panic; the result
    is one new last root `C`; all its handles are new; forgetting handles, `C` is the source with
    adjacent text merged (consolidation on) or the source (off); nothing else changes. -/
theorem cloneNode_full (f : Forest) (inv : f.Inv) (node : Nat) (src : HTree)
    (hsrc : f.get? node = some src) :
    ∃ (C : HTree) (f' : Forest), f.cloneNode node = (f', some C.handle) ∧
      f'.roots = f.roots ++ [C] ∧ f'.get? C.handle = some C ∧
      (∀ h ∈ handles C, f.next ≤ h ∧ h < f'.next) ∧ f.next ≤ f'.next ∧
      erase C = expectedClone f.consolidation (erase src) ∧
      f'.consolidation = f.consolidation ∧ f'.everOff = f.everOff ∧ f'.corrupt = f.corrupt ∧
      f'.allHandles.Nodup := by
  obtain ⟨f', h1, h2, h3, ⟨h4, h5, h6⟩, h7⟩ := cloneNode_spec f inv node src hsrc
  have hh := copyRoot_handles f.consolidation f.next src
  have hroot := hh _ (handle_mem_handles _)
  refine ⟨(copyRoot f.consolidation f.next src).1, f', h1, h2, ?_, ?_, ?_, ?_, h4, h5, h6, ?_⟩
  · unfold Forest.get?
    rw [h2, findList?_append_of_not_mem]
    · simp only [findList?, find?_root]
    · intro hm
      have := inv.below _ hm
      omega
  · intro h hm
    rw [h3]
    exact hh h hm
  · rw [h3]; omega
  · exact erase_copyRoot _ _ _ _ (inv.valid_get hsrc)
  · unfold Forest.allHandles
    rw [h2, handlesList_append, handlesList_singleton]
    exact h7

end XotModel

/-! ## On a strictly valid source the clone is the source

A strictly valid tree (no adjacent text nodes anywhere: every forest in which consolidation was never switched
off) is a fixed point of `mergeAdjacentText`. -/

namespace XotModel
open HTree

theorem snocMerge_plain (A : List Tree) (t : Tree)
    (h : ∀ A' x, A = A' ++ [x] → (x.value.isText && t.value.isText) = false) :
    snocMerge A t = A ++ [t] := by
  rcases List.eq_nil_or_concat A with rfl | ⟨A', x, rfl⟩
  · exact snocMerge_nil t
  · rw [List.concat_eq_append]
    have := h A' x (by rw [List.concat_eq_append])
    by_cases hx : x.value.isText = true
    · have ht : t.value.isText = false := by simpa [hx] using this
      exact snocMerge_nontext _ _ ht
    · have hx' : x.value.isText = false := by simpa using hx
      rw [snocMerge_last_nontext _ _ _ hx']
      simp

mutual
  theorem mergeAdjacentText_strict : ∀ t : HTree, validTree true t = true →
      mergeAdjacentText (erase t) = erase t
    | .node h v ks => by
      intro hv
      have hk := validTree_kids true h v ks hv
      have hna : noAdjacentText ks = true := by
        simp only [validTree, Bool.and_eq_true] at hv
        simpa using hv.1.2
      simp only [erase, mergeAdjacentText]
      rw [mergeInto_strict ks [] hk hna (by intro A' x k ks' h; simp at h)]
      rfl
  theorem mergeInto_strict : ∀ (ks : List HTree) (A : List Tree), validList true ks = true →
      noAdjacentText ks = true →
      (∀ A' x k ks', A = A' ++ [x] → ks = k :: ks' → (x.value.isText && k.value.isText) = false) →
      mergeInto A (eraseList ks) = A ++ eraseList ks
    | [], A, _, _, _ => by simp [eraseList, mergeInto]
    | k :: ks, A, hv, hna, hj => by
      obtain ⟨h1, h2⟩ := fc_validList_cons true k ks hv
      simp only [eraseList, mergeInto]
      rw [mergeAdjacentText_strict k h1]
      rw [snocMerge_plain A (erase k) (by
        intro A' x hA
        rw [Reach.erase_value]
        exact hj A' x k ks hA rfl)]
      have hna' : noAdjacentText ks = true := by
        cases ks with
        | nil => rfl
        | cons b rest =>
          simp only [noAdjacentText, Bool.and_eq_true] at hna
          exact hna.2
      rw [mergeInto_strict ks (A ++ [erase k]) h2 hna' (by
        intro A' x k' ks' hA hks
        have hx : x = erase k := by
          have := List.append_inj_right' hA rfl
          simpa using this.symm
        subst hx
        subst hks
        rw [Reach.erase_value]
        simp only [noAdjacentText, Bool.and_eq_true, Bool.not_eq_true'] at hna
        exact hna.1)]
      simp
end

/-- With consolidation never switched off the expected clone is the source itself. -/
theorem expectedClone_strict (cons : Bool) (t : HTree) (hv : validTree true t = true) :
    expectedClone cons (erase t) = erase t := by
  unfold expectedClone
  cases cons
  · rfl
  · simp [mergeAdjacentText_strict t hv]

end XotModel
