/-
  Reach: the structural hypotheses of the namespace theorems (C09, C10, C15) —
  `UniqueDeclsBelow` (no element declares a prefix twice; C09 / C15), `UniqueBelow` (the same, in the
  vocabulary of the serialiser's frames; C10), `OnlyElementsDeclare` (C15) — follow from
  `Reach.Structural`, hence hold of the erasure of every root of a forest with the invariant.
-/
import XotModel.Lemmas.ReachNode
import XotModel.Lemmas.ScopeUnres
import XotModel.Lemmas.DedupSerialise
import XotModel.Lemmas.Trace

namespace XotModel.Reach
open XotModel

theorem nsDecls_fst_sublist (v : Value) (ks : List Tree) :
    ((Tree.node v ks).nsDecls.map Prod.fst).Sublist (nsPrefixes ks) := by
  have h1 : (Tree.node v ks).nsDecls.map Prod.fst =
      nsPrefixes (ks.takeWhile (fun k => k.value.category == .namespace)) := by
    unfold Tree.nsDecls Tree.namespaceNodes nsPrefixes
    simp only [Tree.kids]
    rw [List.map_filterMap]
    congr 1
    funext k
    cases k.value <;> rfl
  rw [h1]
  exact (List.takeWhile_sublist _).filterMap _

/-- No element of a structurally valid tree declares a prefix twice (C09 / C15 vocabulary). -/
theorem uniqueDeclsBelow_of_structural {t : Tree} (h : Structural t) : UniqueDeclsBelow t := by
  intro q e hq _
  cases e with
  | node v ks =>
    exact (Tree.forall_at? _ t q _ h.unique hq).2.sublist (nsDecls_fst_sublist v ks)

/-- The same in the vocabulary of the serialiser's frames (C10). -/
theorem uniqueBelow_of_structural {t : Tree} (h : Structural t) : UniqueBelow t := by
  intro rel n' hn
  cases n' with
  | node v ks =>
    have hu := (Tree.forall_at? _ t rel _ h.unique hn).2.sublist (nsDecls_fst_sublist v ks)
    unfold frameOf
    simp only [Tree.value]
    split
    · exact hu
    · exact List.nodup_nil

/-- Only elements carry namespace nodes (C15). -/
theorem onlyElementsDeclare_of_structural {t : Tree} (h : Structural t) : OnlyElementsDeclare t := by
  unfold OnlyElementsDeclare
  refine forall_mono (fun v ks hk hne => ?_) t h.kinds
  unfold Tree.nsDecls Tree.namespaceNodes
  simp only [Tree.kids]
  cases ks with
  | nil => rfl
  | cons k ks =>
    have hn := hk.2.1 hne k (List.mem_cons_self ..)
    have : (k.value.category == Category.namespace) = false := by
      rw [Value.isNormal, beq_iff_eq] at hn; rw [hn]; rfl
    simp [this]

/-- **No element of any root of a forest with the invariant declares a prefix twice**, nor does any
    element of any subtree `sub` of it (the form the C09 theorems take the hypothesis in). -/
theorem uniqueDeclsBelow_root {f : Forest} (hi : f.Inv) {r : HTree} (hr : r ∈ f.roots) {p : Path} {sub : Tree}
    (hs : r.erase.at? p = some sub) : UniqueDeclsBelow sub :=
  uniqueDeclsBelow_of_structural ((structural_root hi hr).sub hs)

theorem uniqueBelow_root {f : Forest} (hi : f.Inv) {r : HTree} (hr : r ∈ f.roots) : UniqueBelow r.erase :=
  uniqueBelow_of_structural (structural_root hi hr)

theorem onlyElementsDeclare_root {f : Forest} (hi : f.Inv) {r : HTree} (hr : r ∈ f.roots) :
    OnlyElementsDeclare r.erase :=
  onlyElementsDeclare_of_structural (structural_root hi hr)

end XotModel.Reach
