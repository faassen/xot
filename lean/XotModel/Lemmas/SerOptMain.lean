/-
  C14_options: for a representable document and ANY token parameters (`unescaped_gt`, CDATA-section elements)
  the serialised string parses back to the original tree, with or without an XML declaration; `parse_fragment`
  rejects a declaration at position 0.
-/
import XotModel.Lemmas.SerOptResp
import XotModel.Lemmas.RoundTripEncode
import XotModel.Lemmas.RoundTripSerialises
import XotModel.Lemmas.RoundTripDeepEqual
import XotModel.Lemmas.LexCanon
import XotModel.Lemmas.LexFreeTop
import XotModel.Model.ParseString
import XotModel.Lemmas.LexDecl
import XotModel.Lemmas.XmlDeclRest
import XotModel.Lemmas.Prolog

/-! ## Tree level and strings

  The serialised string is the canonical rendering of a token list that meets the tokenizer contract, and the
  builder turns that list into the ORIGINAL tree — the default round trip (C01, Lemmas/RoundTrip*.lean)
  transported along "same spelling up to the character data runs".
-/

namespace XotModel

variable (env : Env) (pr : TokenParams)

/-- What the serialisation of a representable fragment under any token parameters stands for. -/
structure OptFacts (t : Tree) (ts ts' : List Token) : Prop where
  /-- the default serialisation succeeds as well -/
  hts : serTokensTop env t = .ok ts
  /-- the tokens differ from the default ones by the spelling of the text nodes only -/
  hrel : TokRel ts ts'
  /-- they are the tokens of a spelling the builder admits … -/
  htok : NSNode.tokens.tokensList (spellAtO env pr t []) = ts'
  hwell : WellNsDoc (spellAtO env pr t [])
  /-- … which denotes what the default spelling denotes -/
  hden : NSNode.denote.denoteList baseScope (spellAtO env pr t []) =
    NSNode.denote.denoteList baseScope (spellTop env t)

theorem optFacts {t : Tree} (hr : RepresentableFragment env t = true) {ts' : List Token}
    (h : serTokensAtO env pr t [] = .ok ts') : ∃ ts, OptFacts env pr t ts ts' := by
  have htok := spellAtO_tokens env pr t [] ts' h
  obtain ⟨ts, hts⟩ := serTokensAtO_ok_default env pr h
  obtain ⟨_, _, hn, _⟩ := (representableFragment_iff env t).mp hr
  have hresp := spellAt_resp env pr t [] hn
  obtain ⟨ks, rfl, hf⟩ := topFacts hr hts
  have hrel := respList_tokRel _ _ hresp
  rw [htok, spellAt_tokens env _ [] ts hts] at hrel
  exact ⟨ts, hts, hrel, htok, respList_wellNsDoc hresp (spellTop_well hf), (respList_denote _ _ _ hresp).symm⟩

theorem serializeString_ok_representable {t : Tree} (hr : RepresentableFragment env t = true) (start : Path)
    {s : Str} (hs : serializeString env pr t start = .ok s) :
    ∃ ts', serTokensAtO env pr t start = .ok ts' ∧ s = renderTokens ts' := by
  obtain ⟨henv, _, hn, _⟩ := (representableFragment_iff env t).mp hr
  have := serializeString_serTokensAtO env pr t start (by rw [envOK_xmlPrefix env henv]; simp)
    (nodeOK_declsNamed env t hn)
  rw [show serializeString env pr t start = serializeStringWith xmlEscapers env pr t start from rfl, this] at hs
  cases hts : serTokensAtO env pr t start with
  | ok ts => rw [hts] at hs; cases hs; exact ⟨ts, rfl, rfl⟩
  | error e => rw [hts] at hs; cases hs

theorem options_lexOK {t : Tree} (hr : Representable env t = true) {ts' : List Token}
    (h : serTokensAtO env pr t [] = .ok ts') : LexOK false ts' = true := by
  have hfrag := ((representable_iff env _).mp hr).1
  obtain ⟨ts, hf⟩ := optFacts env pr hfrag h
  exact tokRel_lexOK false hf.hrel (lexOK_document env t hr ts hf.hts)

theorem options_lexOK_fragment {t : Tree} (hr : RepresentableFragment env t = true) {ts' : List Token}
    (h : serTokensAtO env pr t [] = .ok ts') : LexOK true ts' = true := by
  obtain ⟨ts, hf⟩ := optFacts env pr hr h
  exact tokRel_lexOK true hf.hrel (lexOK_fragment env t hr ts hf.hts)

/-- The builder on the tokens of any parameter set returns the original tree (`parse`). -/
theorem options_build {t : Tree} (hr : Representable env t = true) {ts' : List Token}
    (h : serTokensAtO env pr t [] = .ok ts') (len : Nat) :
    ∃ p, build .document len env ts' none = .ok p ∧ p.tree = t ∧ p.env = env := by
  obtain ⟨hfrag, hsingle⟩ := (representable_iff env _).mp hr
  obtain ⟨ts, hf⟩ := optFacts env pr hfrag h
  obtain ⟨ks, rfl, htf⟩ := topFacts hfrag hf.hts
  obtain ⟨p0, hb, ht, he⟩ := build_document_spelled_ns htf.he.envBaseNs len
    (spellAtO env pr (.node .document ks) []) hf.hwell
    (by rw [hf.hden]; exact wellFormedTop_of_abstractNs (spellTop_abstractTop htf hsingle))
  rw [hf.htok] at hb
  rw [hf.hden, spellTop_encode htf] at ht he
  exact ⟨p0, hb, ht, he⟩

theorem options_build_fragment {t : Tree} (hr : RepresentableFragment env t = true) {ts' : List Token}
    (h : serTokensAtO env pr t [] = .ok ts') (len : Nat) :
    ∃ p, build .fragment len env ts' none = .ok p ∧ p.tree = t ∧ p.env = env := by
  obtain ⟨ts, hf⟩ := optFacts env pr hr h
  obtain ⟨ks, rfl, htf⟩ := topFacts hr hf.hts
  obtain ⟨p0, hb, ht, he⟩ := build_fragment_spelled_ns htf.he.envBaseNs len
    (spellAtO env pr (.node .document ks) []) hf.hwell
  rw [hf.htok] at hb
  rw [hf.hden, spellTop_encode htf] at ht he
  exact ⟨p0, hb, ht, he⟩

/-- **The closed loop under any token parameters** (`parse`): the serialised STRING parses back to the
    original tree, tables unchanged. -/
theorem options_roundtrip {t : Tree} (hr : Representable env t = true) {s : Str}
    (hs : serializeString env pr t [] = .ok s) :
    ∃ p, parseString .document env s = .ok p ∧ p.tree = t ∧ p.env = env := by
  have hfrag := ((representable_iff env _).mp hr).1
  obtain ⟨ts', hser, rfl⟩ := serializeString_ok_representable env pr hfrag [] hs
  obtain ⟨ts, hl, her⟩ := lexDocument_render_erase ts' (options_lexOK env pr hr hser)
  obtain ⟨p0, hb, ht, he⟩ := options_build env pr hr hser 0
  obtain ⟨p, hp, h1, h2, _⟩ := parseString_of_lex .document env _ ts' 0 p0
    (by rw [show lexMode .document _ = _ from hl]; exact ⟨her, rfl⟩) hb
  exact ⟨p, hp, h1.trans ht, h2.trans he⟩

theorem options_roundtrip_fragment {t : Tree} (hr : RepresentableFragment env t = true) {s : Str}
    (hs : serializeString env pr t [] = .ok s) :
    ∃ p, parseString .fragment env s = .ok p ∧ p.tree = t ∧ p.env = env := by
  obtain ⟨ts', hser, rfl⟩ := serializeString_ok_representable env pr hr [] hs
  obtain ⟨ts, hl, her⟩ := lexFragment_render_erase ts' (options_lexOK_fragment env pr hr hser)
  obtain ⟨p0, hb, ht, he⟩ := options_build_fragment env pr hr hser 0
  obtain ⟨p, hp, h1, h2, _⟩ := parseString_of_lex .fragment env _ ts' 0 p0
    (by rw [show lexMode .fragment _ = _ from hl]; exact ⟨her, rfl⟩) hb
  exact ⟨p, hp, h1.trans ht, h2.trans he⟩

/-- **When does it succeed?**  Exactly when the default serialisation does: iff every namespaced name has a
    usable prefix in scope (`namesWritable`, C01_serialises). -/
theorem options_serialises {t : Tree} (hr : RepresentableFragment env t = true) :
    (∃ s, serializeString env pr t [] = .ok s) ↔ namesWritable env t [] = some true := by
  obtain ⟨henv, _, hn, _⟩ := (representableFragment_iff env t).mp hr
  have hren := serializeString_serTokensAtO env pr t [] (by rw [envOK_xmlPrefix env henv]; simp)
    (nodeOK_declsNamed env t hn)
  rw [← serTokensTop_ok_iff hr]
  constructor
  · rintro ⟨s, hs⟩
    obtain ⟨ts', h1, _⟩ := serializeString_ok_representable env pr hr [] hs
    obtain ⟨ts, h2⟩ := serTokensAtO_ok_default env pr h1
    simp [serTokensTop, h2, exceptIsOk]
  · intro h
    cases h0 : serTokensTop env t with
    | error e => simp [h0, exceptIsOk] at h
    | ok ts0 =>
      obtain ⟨ts, h1⟩ := serTokensAtO_of_default env pr t [] ts0 h0
      refine ⟨renderTokens ts, ?_⟩
      rw [show serializeString env pr t [] = serializeStringWith xmlEscapers env pr t [] from rfl, hren, h1]

/-- A representable tree is `deep_equal` to itself (the crate's own comparison). -/
theorem deepEqual_self_representable {t : Tree} (hr : RepresentableFragment env t = true) :
    deepEqual t t = true := by
  obtain ⟨_, _, hn, _⟩ := (representableFragment_iff env t).mp hr
  have hv := valid_of_nodeOK t hn
  exact (deepEqual_iff_canon t t hv hv).mpr rfl

end XotModel

/-! ## With an XML declaration

  `serialize_xml_string` with a declaration (any encoding that is an `EncName`, any standalone), no doctype
  (xot refuses to parse one), no indentation.
-/

namespace XotModel
open XotModel.Lex.Canon

/-- Every `EncName` consists of characters `parse_encoding_decl` accepts. -/
theorem isEncName_encChar {e : Str} (h : Prolog.isEncName e = true) : e.all isEncChar = true := by
  have key : ∀ c, (Prolog.isAsciiLetter c || Prolog.isAsciiDigit c || c == '.' || c == '_' || c == '-') = true →
      isEncChar c = true := by
    intro c hc
    simp only [Bool.or_eq_true, beq_iff_eq] at hc
    rcases hc with (((h | h) | h) | h) | h
    · have : Lex.isXmlLetter c = true := by
        simp only [Prolog.isAsciiLetter, Prolog.inRange, Bool.or_eq_true, Bool.and_eq_true,
          decide_eq_true_eq] at h
        simp only [Lex.isXmlLetter, Bool.or_eq_true, Bool.and_eq_true, decide_eq_true_eq]
        omega
      simp [isEncChar, this]
    · have : Lex.isXmlDigit c = true := by
        simp only [Prolog.isAsciiDigit, Prolog.inRange, Bool.and_eq_true, decide_eq_true_eq] at h
        simp only [Lex.isXmlDigit, Bool.and_eq_true, decide_eq_true_eq]
        omega
      simp [isEncChar, this]
    · subst h; decide
    · subst h; decide
    · subst h; decide
  cases e with
  | nil => simp [Prolog.isEncName] at h
  | cons c cs =>
    simp only [Prolog.isEncName, Bool.and_eq_true, List.all_eq_true] at h
    simp only [List.all_cons, Bool.and_eq_true, List.all_eq_true]
    exact ⟨key c (by simp [h.1]), fun d hd => key d (h.2 d hd)⟩

variable (env : Env)

/-- Without doctype and indentation the output is the declaration bytes and then the output of
    `serialize_xml_string` with the token parameters alone. -/
theorem xmlString_decl_body (p : XmlParams) (t : Tree) (start : Path) (hdt : p.doctype = none)
    (hind : p.indentation = none) (s : Str) (hs : serializeXmlString env p t start = .ok s) :
    ∃ body, serializeString env p.tokenParams t start = .ok body ∧ s = p.declBytes ++ body := by
  rw [show serializeXmlString env p t start = serializeXmlStringWith xmlEscapers env p t start from rfl,
    Ser.serializeXmlString_noDoctype xmlEscapers env p t start hdt, hind] at hs
  exact Outcome.prependOk_eq_ok hs

/-- **C14_options_decl** (`parse`): with or without an XML declaration, any token parameters. -/
theorem options_decl_roundtrip (p : XmlParams) {t : Tree} (hr : Representable env t = true)
    (hdt : p.doctype = none) (hind : p.indentation = none)
    (henc : ∀ d e, p.declaration = some d → d.encoding = some e → Prolog.isEncName e = true)
    {s : Str} (hs : serializeXmlString env p t [] = .ok s) :
    ∃ q, parseString .document env s = .ok q ∧ q.tree = t ∧ q.env = env := by
  obtain ⟨body, hb, rfl⟩ := xmlString_decl_body env p t [] hdt hind s hs
  cases hd : p.declaration with
  | none =>
    simp only [XmlParams.declBytes, hd, List.nil_append]
    exact options_roundtrip env p.tokenParams hr hb
  | some d =>
    simp only [XmlParams.declBytes, hd]
    have hfrag := ((representable_iff env _).mp hr).1
    obtain ⟨ts', hser, rfl⟩ := serializeString_ok_representable env p.tokenParams hfrag [] hb
    obtain ⟨v, e, sa, sp, ts, hl, her⟩ := lexDocument_declaration_erase d ts'
      (options_lexOK env p.tokenParams hr hser) (fun e he => isEncName_encChar (henc d e hd he))
    obtain ⟨p0, hb0, ht, he⟩ := options_build env p.tokenParams hr hser 0
    obtain ⟨q, hq, h1, h2, _⟩ := parseString_of_lex .document env _ (.declaration ⟨['1', '.', '0'], v⟩ e sa sp :: ts') 0 p0
      (by rw [show lexMode .document _ = _ from hl]; exact ⟨.cons ⟨rfl, rfl⟩ her, rfl⟩)
      (by rw [build_declaration _ _ _ _ _ _ _ _ _ rfl]; exact hb0)
    exact ⟨q, hq, h1.trans ht, h2.trans he⟩

/-- **Fragment start / `parse_fragment`**: a declaration in front makes `parse_fragment` fail, with the
    tokenizer error at position 0, whatever follows (mirrors xmlparser: `<?xml ` inside element content). -/
theorem options_decl_fragment_rejected (d : Declaration) (r : Str) :
    parseString .fragment env (d.bytes ++ r) = .err (.xmlParser 0) env := by
  simp [parseString, lexMode, lexFragment_declaration, build, Builder.run, Builder.new]

end XotModel
