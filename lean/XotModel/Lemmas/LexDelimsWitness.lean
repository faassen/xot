/-
  A REJECTED text whose tokens carry every delimiter clause of
  `Token.Delims` / `TextAdj` (used by the non-vacuity example of C17_token_delims_document).
-/
import XotModel.Lemmas.LexDelims
import XotModel.Lemmas.LexCanon

namespace XotModel.Witness

/-- `<a><!--k--><?pi d?>x</b>`: well-formed for the tokenizer, refused by the builder (the end tag names `b`). -/
def delimsRejected : List Token :=
  [.elementStart ⟨[], 0⟩ ⟨['a'], 0⟩ ⟨[], 0⟩, .elementEnd .open ⟨[], 0⟩, .comment ⟨['k'], 0⟩ ⟨[], 0⟩,
   .pi ⟨['p', 'i'], 0⟩ (some ⟨['d'], 0⟩) ⟨[], 0⟩, .text ⟨['x'], 0⟩,
   .elementEnd (.close ⟨[], 0⟩ ⟨['b'], 0⟩) ⟨[], 0⟩]

end XotModel.Witness
