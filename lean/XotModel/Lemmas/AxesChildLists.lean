/-
  The accessors that hand out the nodes of ONE raw child list (Model/AxesChildLists.lean: `all_children`,
  `abnormal_children`, `namespaces(node).nodes()`, `attributes(node).nodes()`; Model/Axes.lean:
  `attribute_nodes`, `children`): what holds on every tree (`all_children` = `abnormal_children` ++
  `children`, namespace nodes ++ attribute nodes is a prefix of it, no node twice, document order) and what
  holds under the `StructValid` ordering `kidsSorted` (the partition `all_children` = namespace nodes ++
  attribute nodes ++ children, each list = the raw children of its category).
-/
import XotModel.Lemmas.BasicFacts
import XotModel.Lemmas.AxesValid

namespace XotModel.Axes

section Sorted
variable {α : Type} (r : α → Nat)

theorem split_zero_one_rest (l : List α) :
    l = l.takeWhile (fun x => r x == 0) ++ (l.dropWhile (fun x => r x == 0)).takeWhile (fun x => r x == 1) ++
      (l.dropWhile (fun x => r x == 0)).dropWhile (fun x => r x == 1) := by
  rw [List.append_assoc, List.takeWhile_append_dropWhile, List.takeWhile_append_dropWhile]

end Sorted

theorem allChildrenPaths_eq (t : Tree) (p : Path) : allChildrenPaths t p = rawChildPaths t p :=
  allChildren_paths t p

/-- `all_children` = `abnormal_children` ++ `children` (`take_while` / `skip_while` of one predicate). -/
theorem allChildrenPaths_split (t : Tree) (p : Path) :
    allChildrenPaths t p = abnormalChildrenPaths t p ++ children t p := by
  unfold allChildrenPaths abnormalChildrenPaths children abnormalChildren normalChildren
  rw [← List.map_append, List.takeWhile_append_dropWhile]

/-- `attributes(node).nodes()` is `attribute_nodes(node)`: nodemap/attribute.rs repeats the code. -/
theorem attributesNodes_eq (t : Tree) (p : Path) : attributesNodes t p = attributeNodes t p := rfl

/-- Namespace nodes, then attribute nodes: a prefix of the raw child list, on every tree. -/
theorem nsAttr_prefix (t : Tree) (p : Path) :
    namespaceNodes t p ++ attributeNodes t p <+: allChildrenPaths t p := by
  refine ⟨(((allChildren t p).dropWhile (fun x => itemCategory x == .namespace)).dropWhile
    (fun x => itemCategory x == .attribute)).map (·.1), ?_⟩
  unfold namespaceNodes attributeNodes allChildrenPaths
  rw [← List.map_append, ← List.map_append, List.append_assoc, List.takeWhile_append_dropWhile,
    List.takeWhile_append_dropWhile]

theorem rawChildPaths_nodup (t : Tree) (p : Path) : (rawChildPaths t p).Nodup := by
  unfold rawChildPaths List.Nodup
  rw [List.pairwise_map]
  exact (List.nodup_range (n := (subAt t p).kids.length)).imp (fun hab h => hab (by simpa using h))

theorem allChildrenPaths_spec {t : Tree} {p : Path} (h : Valid t p) :
    allChildrenPaths t p = (allPre t).filter (fun q => parent q == some p) := by
  rw [allChildrenPaths_eq, filter_parent_allPre h]

theorem rawChildPaths_sorted {t : Tree} {p : Path} (h : Valid t p) :
    (rawChildPaths t p).Pairwise (fun a b => docLt a b = true) := by
  rw [← filter_parent_allPre h]; exact (allPre_sorted t).filter _

/-- Without any ordering assumption: everything `namespaces(node).nodes()` yields is a namespace child. -/
theorem namespaceNodes_sound {t : Tree} {p : Path} (h : Valid t p) {q : Path}
    (hq : q ∈ namespaceNodes t p) : categoryAt t q = .namespace ∧ parent q = some p ∧ Valid t q := by
  unfold namespaceNodes at hq
  obtain ⟨x, hx, rfl⟩ := List.mem_map.mp hq
  exact item_sound h ((List.takeWhile_sublist _).subset hx) (by simpa using mem_takeWhile_imp _ _ _ hx)

/-! ### Under the `StructValid` ordering of the children -/

theorem itemNormal_eq (x : Path × Tree) : itemNormal x = (catRank (itemCategory x) == 2) := by
  unfold itemNormal itemCategory; exact (catRank_eq_two _).symm

/-- **The partition of the raw child list**: namespace nodes, attribute nodes, children. -/
theorem allChildrenPaths_partition {t : Tree} {p : Path} (hs : kidsSorted (subAt t p).kids) :
    allChildrenPaths t p = namespaceNodes t p ++ attributeNodes t p ++ children t p := by
  have hsorted := allChildren_sorted hs
  have e := dropWhile_zero_one_eq (fun x : Path × Tree => catRank (itemCategory x)) _ hsorted
    (fun y _ => catRank_le_two _)
  have sp := split_zero_one_rest (fun x : Path × Tree => catRank (itemCategory x)) (allChildren t p)
  rw [e] at sp
  simp only [catRank_eq_zero, catRank_eq_one, ← itemNormal_eq] at sp
  unfold allChildrenPaths namespaceNodes attributeNodes children normalChildren
  rw [← List.map_append, ← List.map_append]
  exact congrArg (List.map (·.1)) sp

/-- `abnormal_children` = namespace nodes ++ attribute nodes. -/
theorem abnormalChildrenPaths_eq {t : Tree} {p : Path} (hs : kidsSorted (subAt t p).kids) :
    abnormalChildrenPaths t p = namespaceNodes t p ++ attributeNodes t p := by
  have h1 := allChildrenPaths_split t p
  rw [allChildrenPaths_partition hs] at h1
  exact (List.append_cancel_right h1).symm

theorem namespaceNodes_eq {t : Tree} {p : Path} (h : Valid t p) (hs : kidsSorted (subAt t p).kids) :
    namespaceNodes t p = (rawChildPaths t p).filter (fun q => categoryAt t q == .namespace) := by
  unfold namespaceNodes
  have e := takeWhile_zero_eq_filter (fun x : Path × Tree => catRank (itemCategory x)) _ (allChildren_sorted hs)
  simp only [catRank_eq_zero] at e
  rw [e]
  exact filter_items h (fun k => k.value.category == .namespace)

/-- `children` under `kidsSorted` alone: the normal ones among the raw children, in order. -/
theorem children_eq_sorted {t : Tree} {p : Path} (h : Valid t p) (hs : kidsSorted (subAt t p).kids) :
    children t p = (rawChildPaths t p).filter (isNormalAt t) :=
  children_eq_of_ordered h (kidsOrdered_of_kidsSorted hs)

end XotModel.Axes
