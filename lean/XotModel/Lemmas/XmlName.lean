/-
  Lemmas for the name types (Model/XmlName.lean): splitting a written name at its first colon, finding
  an interned value again, and that the harness's element-rule lookup resolves the prefix `name_ref`
  reports.
-/
import XotModel.Model.XmlName
import XotModel.Lemmas.ScopeName

namespace XotModel

theorem splitFullName_nocolon (l : Str) (h : ':' ∉ l) : splitFullName l = ([], l) := by
  unfold splitFullName
  have hall : ∀ c ∈ l, (c != ':') = true := by
    intro c hc
    have : c ≠ ':' := fun e => h (e ▸ hc)
    simpa using this
  have : l.dropWhile (· != ':') = [] := by
    have h2 := List.dropWhile_append_of_pos (l₂ := ([] : Str)) hall
    simpa using h2
  rw [this]

theorem splitFullName_prefixed (p l : Str) (h : ':' ∉ p) : splitFullName (p ++ [':'] ++ l) = (p, l) := by
  unfold splitFullName
  have hall : ∀ c ∈ p, (c != ':') = true := by
    intro c hc
    have : c ≠ ':' := fun e => h (e ▸ hc)
    simpa using this
  have hd : (p ++ [':'] ++ l).dropWhile (· != ':') = ':' :: l := by
    rw [List.append_assoc, List.dropWhile_append_of_pos hall]
    simp
  have ht : (p ++ [':'] ++ l).takeWhile (· != ':') = p := by
    rw [List.append_assoc, List.takeWhile_append_of_pos hall]
    simp
  rw [hd, ht]

/-- `OwnedName::full_name` of `to_owned()` is the spelling `full_name` writes. -/
theorem toOwned_fullName (env : Env) (name p : Nat) :
    (RefName.toOwned env ⟨name, p⟩).fullName = qnameSpelling env p name := by
  unfold OwnedName.fullName RefName.toOwned qnameSpelling
  cases (env.prefixStr p).isEmpty <;> simp

theorem findIdx?_getElem_of_nodup {α : Type} [BEq α] [LawfulBEq α] :
    ∀ (l : List α) (i : Nat) (h : i < l.length), l.Nodup → l.findIdx? (· == l[i]) = some i := by
  intro l
  induction l with
  | nil => intro i h; simp at h
  | cons a rest ih =>
    intro i h hn
    cases i with
    | zero => simp [List.findIdx?_cons]
    | succ j =>
      have hj : j < rest.length := by simpa using h
      have hne : (a == rest[j]) = false := by
        have : a ≠ rest[j] := fun e => (List.nodup_cons.mp hn).1 (e ▸ List.getElem_mem hj)
        simpa using this
      simp only [List.getElem_cons_succ, List.findIdx?_cons, hne]
      rw [ih j hj (List.nodup_cons.mp hn).2]
      simp

/-- The element-rule lookup on the prefix `name_ref` reports for a name in a real namespace is that
    namespace (soundness of `namespace_prefix`, C09_prefix_sound), provided the prefix string is found
    again under its id. -/
theorem elementLookup_of_nameRef (env : Env) (chain : List Tree) (name p : Nat)
    (hp : nameRefChain env chain name = .ok p) (hns : env.nsOfName name ≠ Env.noNamespace)
    (hfound : env.prefixId? (env.prefixStr p) = some p) :
    elementLookup env chain (env.prefixStr p) = some (env.nsOfName name) := by
  unfold nameRefChain prefixForNameChain at hp
  have hne : (env.nsOfName name == Env.noNamespace) = false := by simpa using hns
  simp only [hne, Bool.false_eq_true, if_false] at hp
  cases hq : namespacePrefixChain chain (env.nsOfName name) (isAttributeNodeChain chain) with
  | none => simp [hq] at hp
  | some q =>
    simp only [hq, Except.ok.injEq] at hp
    subst hp
    have hs := (namespacePrefixChain_sound hq hns).1
    simp only [elementLookup, hfound, namespaceForPrefixChain_eq, hs]

theorem nameRef_noNamespace (env : Env) (chain : List Tree) (name p : Nat)
    (hp : nameRefChain env chain name = .ok p) (hns : env.nsOfName name = Env.noNamespace) :
    p = Env.emptyPrefix := by
  unfold nameRefChain prefixForNameChain at hp
  simp only [hns, beq_self_eq_true, if_true] at hp
  split at hp
  · simp at hp
  · simpa using hp.symm

end XotModel
