/-
  `Frame f f' S`: outside `S` every node keeps its parent and its value up to text content, hence liveness, kind,
  ancestor chain and root-ness; and what `cut` and `spliceOut` do under `W` (the subtree returned, `W` kept, handle
  counts, the frame).
-/
import XotModel.Lemmas.FatomEdit

/-! ## Frames: outside `S` every node keeps its parent and its value up to text content -/

namespace XotModel
open HTree

namespace Forest

/-- A value up to text content (consolidation rewrites the content of text nodes only). -/
def _root_.XotModel.Value.shape : Value → Value
  | .text _ => .text []
  | v => v

/-- Outside `P` every node keeps its parent and its value up to text content (hence its
    liveness and kind); the flags are untouched and no handle is given back. -/
structure Frame (f f' : Forest) (P : List Nat) : Prop where
  parent : ∀ x, x ∉ P → f'.parent? x = f.parent? x
  shape : ∀ x, x ∉ P → (f'.value? x).map Value.shape = (f.value? x).map Value.shape
  corrupt : f'.corrupt = f.corrupt
  consolidation : f'.consolidation = f.consolidation
  next_le : f.next ≤ f'.next

theorem Frame.refl (f : Forest) (P : List Nat) : Frame f f P :=
  ⟨fun _ _ => rfl, fun _ _ => rfl, rfl, rfl, Nat.le_refl _⟩

theorem Frame.trans {f f' f'' : Forest} {P P' : List Nat} (a : Frame f f' P)
    (b : Frame f' f'' P') : Frame f f'' (P ++ P') :=
  ⟨fun x hx => by
      rw [List.mem_append, not_or] at hx
      rw [b.parent x hx.2, a.parent x hx.1],
   fun x hx => by
      rw [List.mem_append, not_or] at hx
      rw [b.shape x hx.2, a.shape x hx.1],
   by rw [b.corrupt, a.corrupt], by rw [b.consolidation, a.consolidation],
   Nat.le_trans a.next_le b.next_le⟩

theorem Frame.mono {f f' : Forest} {P P' : List Nat} (a : Frame f f' P)
    (hP : ∀ x ∈ P, x ∈ P') : Frame f f' P' :=
  ⟨fun x hx => a.parent x (fun h' => hx (hP x h')), fun x hx => a.shape x (fun h' => hx (hP x h')),
   a.corrupt, a.consolidation, a.next_le⟩

theorem Frame.live {f f' : Forest} {P : List Nat} (a : Frame f f' P) (x : Nat) (hx : x ∉ P) :
    f'.isLive x = f.isLive x := by
  rw [isLive_iff_value?, isLive_iff_value?]
  have := a.shape x hx
  cases h1 : f'.value? x <;> cases h2 : f.value? x <;> simp [h1, h2] at this ⊢

theorem Frame.isRoot {f f' : Forest} {P : List Nat} (a : Frame f f' P) (w : f.W) (w' : f'.W)
    {x : Nat} (hx : x ∉ P) : f'.isRoot x = f.isRoot x := by
  have h1 := isRoot_iff w x
  have h2 := isRoot_iff w' x
  rw [a.live x hx, a.parent x hx] at h2
  cases h : f.isRoot x with
  | true => exact h2.2 (h1.1 h)
  | false =>
    cases h' : f'.isRoot x with
    | false => rfl
    | true => rw [h1.2 (h2.1 h')] at h; cases h

theorem shape_isElement (v : Value) : v.shape.isElement = v.isElement := by cases v <;> rfl
theorem shape_isDocument (v : Value) : v.shape.isDocument = v.isDocument := by cases v <;> rfl
theorem shape_isText (v : Value) : v.shape.isText = v.isText := by cases v <;> rfl
theorem shape_category (v : Value) : v.shape.category = v.category := by cases v <;> rfl
theorem shape_isNormal (v : Value) : v.shape.isNormal = v.isNormal := by cases v <;> rfl

theorem Frame.viaShape {f f' : Forest} {P : List Nat} (a : Frame f f' P) {x : Nat} (hx : x ∉ P)
    {β : Type} (g : Value → β) (hg : ∀ v, g v.shape = g v) :
    (f'.value? x).map g = (f.value? x).map g := by
  have := a.shape x hx
  cases h1 : f'.value? x <;> cases h2 : f.value? x <;> simp [h1, h2] at this ⊢
  rw [← hg, this, hg]

theorem Frame.isElement {f f' : Forest} {P : List Nat} (a : Frame f f' P) {x : Nat} (hx : x ∉ P) :
    f'.isElement x = f.isElement x := by
  unfold Forest.isElement; rw [a.viaShape hx _ shape_isElement]

theorem Frame.isDocument {f f' : Forest} {P : List Nat} (a : Frame f f' P) {x : Nat} (hx : x ∉ P) :
    f'.isDocument x = f.isDocument x := by
  unfold Forest.isDocument; rw [a.viaShape hx _ shape_isDocument]

theorem Frame.isText {f f' : Forest} {P : List Nat} (a : Frame f f' P) {x : Nat} (hx : x ∉ P) :
    f'.isText x = f.isText x := by
  unfold Forest.isText; rw [a.viaShape hx _ shape_isText]

theorem Frame.isNormalNode {f f' : Forest} {P : List Nat} (a : Frame f f' P) {x : Nat}
    (hx : x ∉ P) : f'.isNormalNode x = f.isNormalNode x := by
  unfold Forest.isNormalNode; rw [a.viaShape hx _ shape_isNormal]

theorem Frame.category {f f' : Forest} {P : List Nat} (a : Frame f f' P) {x : Nat} (hx : x ∉ P) :
    (f'.value? x).map Value.category = (f.value? x).map Value.category :=
  a.viaShape hx _ shape_category

theorem textOf_isSome (f : Forest) (x : Nat) : (f.textOf x).isSome = f.isText x := by
  unfold Forest.textOf Forest.isText
  cases h : f.value? x with
  | none => rfl
  | some v => cases v <;> rfl

theorem Frame.textOf_isSome {f f' : Forest} {P : List Nat} (a : Frame f f' P) {x : Nat}
    (hx : x ∉ P) : (f'.textOf x).isSome = (f.textOf x).isSome := by
  rw [Forest.textOf_isSome, Forest.textOf_isSome, a.isText hx]

theorem Frame.ancestors {f f' : Forest} {P : List Nat} (a : Frame f f' P) (w : f.W) (w' : f'.W) :
    ∀ (l : List Nat) (x : Nat), f.ancestors x = l → f.isLive x = true → (∀ y ∈ l, y ∉ P) →
      f'.ancestors x = l
  | [], x, e, hl, _ => by
    have := self_mem_ancestors w hl
    rw [e] at this; cases this
  | y :: l, x, e, hl, hS => by
    have hxS : x ∉ P := by
      apply hS
      have := self_mem_ancestors w hl
      rwa [e] at this
    have hl' : f'.isLive x = true := by rw [a.live x hxS]; exact hl
    cases hp : f.parent? x with
    | none =>
      have hp' : f'.parent? x = none := by rw [a.parent x hxS]; exact hp
      rw [(ancestors_root w' hl' hp').1, ← e, (ancestors_root w hl hp).1]
    | some q =>
      have hp' : f'.parent? x = some q := by rw [a.parent x hxS]; exact hp
      rw [ancestors_step w hp] at e
      rw [ancestors_step w' hp']
      have hy : x = y := by injection e
      have hq : f.ancestors q = l := by injection e
      rw [Frame.ancestors a w w' l q hq (parent?_live hp).2 (fun z hz => hS z (List.mem_cons_of_mem _ hz)), hy]

theorem Frame.ancestors' {f f' : Forest} {P : List Nat} (a : Frame f f' P) (w : f.W) (w' : f'.W)
    {x : Nat} (hl : f.isLive x = true) (hS : ∀ y ∈ f.ancestors x, y ∉ P) :
    f'.ancestors x = f.ancestors x :=
  Frame.ancestors a w w' _ x rfl hl hS

theorem setValue_frame_text (f : Forest) {h : Nat} {a : Str} (ht : f.textOf h = some a) (s : Str) :
    Frame f (f.setValue h (.text s)) [] :=
  ⟨fun x _ => setValue_parent? f h _ x,
   fun x _ => by
     rw [setValue_value?]
     by_cases hx : x = h
     · subst hx
       unfold Forest.textOf at ht
       split at ht
       · next s' hv => rw [if_pos rfl, hv]; rfl
       · cases ht
     · simp [hx],
   rfl, rfl, Nat.le_refl _⟩

theorem ancestors_proper_kids {f : Forest} (w : f.W) : ∀ (l : List Nat) (x a : Nat),
    f.ancestors x = l → a ∈ l → a ≠ x → ∃ t, f.get? a = some t ∧ t.kids ≠ []
  | [], x, a, _, ha, _ => by cases ha
  | y :: l, x, a, e, ha, hne => by
    cases hl : f.isLive x with
    | false => rw [ancestors_dead hl] at e; cases e
    | true =>
      cases hp : f.parent? x with
      | none =>
        rw [(ancestors_root w hl hp).1] at e
        injection e with e1 e2
        subst e1 e2
        simp at ha; exact absurd ha hne
      | some q =>
        rw [ancestors_step w hp] at e
        injection e with e1 e2
        subst e1
        rcases List.mem_cons.1 ha with h' | h'
        · exact absurd h' hne
        · by_cases hq : a = q
          · subst hq
            obtain ⟨c, hc, hcp⟩ := ctx?_of_parent? hp
            obtain ⟨⟨v, hg⟩, _⟩ := ctx?_spec w hc
            rw [hcp] at hg
            exact ⟨_, hg, by simp [HTree.kids]⟩
          · exact ancestors_proper_kids w l q a e2 h' hq

theorem leaf_not_ancestor {f : Forest} (w : f.W) {n x : Nat} {t : HTree} (hg : f.get? n = some t)
    (hk : t.kids = []) (hne : n ≠ x) : n ∉ f.ancestors x := by
  intro hm
  obtain ⟨t', hg', hk'⟩ := ancestors_proper_kids w _ x n rfl hm hne
  rw [hg] at hg'
  injection hg' with e
  subst e
  exact hk' hk

end Forest
end XotModel

/-! ## `cut` (indextree `detach`, first half) and `spliceOut` (indextree `remove`) at forest level -/

namespace XotModel
open HTree

theorem rootsFilter (h : Nat) : ∀ (rs : List HTree) (t : HTree), (handlesList rs).Nodup →
    rs.any (fun r => r.handle = h) = true → findList? h rs = some t →
    (∀ a, (handlesList (rs.filter (fun r => r.handle != h))).count a + (handles t).count a =
        (handlesList rs).count a) ∧
    (∀ x, x ∉ handles t → (rs.filter (fun r => r.handle != h)).findSome? (parentBelow x) =
        rs.findSome? (parentBelow x)) ∧
    (∀ x, x ∉ handles t → findList? x (rs.filter (fun r => r.handle != h)) = findList? x rs) ∧
    (leafOkList rs = true → leafOkList (rs.filter (fun r => r.handle != h)) = true ∧ leafOk t = true) := by
  intro rs t nd hany e
  -- the root stands between `l` and `r`, and the filter takes exactly it out
  obtain ⟨l, T, r, lc⟩ := Forest.exists_loc_of_isRoot (f := { roots := rs }) hany
  have hT : T = t := Option.some.inj ((lc.findList?_eq nd).symm.trans e)
  subst hT
  have hfil : rs.filter (fun r => r.handle != h) = l ++ r := Forest.filter_ne_of_loc_nil (f := { roots := rs }) lc nd
  have hrs : rs = l ++ T :: r := lc.eq
  rw [hfil, hrs]
  refine ⟨?_, ?_, ?_, ?_⟩
  · intro a
    simp only [handlesList_append, handlesList_cons, List.count_append]
    omega
  · intro x hx
    rw [List.findSome?_append, List.findSome?_append, List.findSome?_cons, parentBelow_none_of_not_mem hx]
  · intro x hx
    rw [fa_findList?_append, fa_findList?_append, findList?_cons, (find?_none_iff _ _).2 hx]
    rfl
  · intro hl
    rw [leafOkList_append] at hl ⊢
    simp only [leafOkList, Bool.and_eq_true] at hl ⊢
    exact ⟨⟨hl.1, hl.2.2⟩, hl.2.1⟩

theorem nodup_of_count_le {l l' : List Nat} (hn : l.Nodup) (h : ∀ a, l'.count a ≤ l.count a) :
    l'.Nodup := by
  rw [List.nodup_iff_count] at hn ⊢
  intro a; exact Nat.le_trans (h a) (hn a)

namespace Forest

theorem isLive_of_count {f f' : Forest} (w : f.W) {L : List Nat}
    (hc : ∀ a, f'.allHandles.count a + L.count a = f.allHandles.count a) (x : Nat) :
    f'.isLive x = true ↔ f.isLive x = true ∧ x ∉ L := by
  rw [isLive_iff_mem, isLive_iff_mem, ← List.count_pos_iff, ← List.count_pos_iff,
    ← List.count_eq_zero]
  have h1 := hc x
  have h2 := (List.nodup_iff_count.1 w.nodup) x
  omega

theorem isLive_eq_of_count {f f' : Forest} (w : f.W) {L : List Nat}
    (hc : ∀ a, f'.allHandles.count a + L.count a = f.allHandles.count a) {x : Nat} (hx : x ∉ L) :
    f'.isLive x = f.isLive x := by
  rw [Bool.eq_iff_iff, isLive_of_count w hc x]
  exact ⟨fun h => h.1, fun h => ⟨h, hx⟩⟩

theorem isLive_eq_of_count2 {f f' : Forest} {A B : List Nat}
    (hc : ∀ a, f'.allHandles.count a + A.count a = f.allHandles.count a + B.count a) {x : Nat}
    (hA : x ∉ A) (hB : x ∉ B) : f'.isLive x = f.isLive x := by
  rw [Bool.eq_iff_iff, isLive_iff_mem, isLive_iff_mem, ← List.count_pos_iff, ← List.count_pos_iff]
  have h1 := hc x
  rw [← List.count_eq_zero] at hA hB
  omega

theorem below_of_count_le {f f' : Forest} (w : f.W) (hn : f.next ≤ f'.next)
    (h : ∀ a, f'.allHandles.count a ≤ f.allHandles.count a) : ∀ x ∈ f'.allHandles, x < f'.next := by
  intro x hx
  have h1 := List.count_pos_iff.2 hx
  have h2 := h x
  exact Nat.lt_of_lt_of_le (w.below x (List.count_pos_iff.1 (by omega))) hn

theorem replaceRoots_spec {f : Forest} (w : f.W) {h : Nat} {t : HTree} (F : HTree → List HTree)
    (hg : f.get? h = some t) (hr : f.isRoot h = false)
    (hF : ∀ k, leafOk k = true → leafOkList (F k) = true) :
    let f' : Forest := { f with roots := f.roots.map (replaceBelow h F) }
    (∀ a, f'.allHandles.count a + (handles t).count a =
        f.allHandles.count a + (handlesList (F t)).count a) ∧
    leafOkList f'.roots = true ∧
    (f'.W → Frame f f' (handles t ++ handlesList (F t))) := by
  intro f'
  have hroots : f'.roots = replaceKids h F f.roots := map_replaceBelow_eq h F f.roots hr
  have hcount : ∀ a, f'.allHandles.count a + (handles t).count a =
      f.allHandles.count a + (handlesList (F t)).count a := by
    intro a
    show (handlesList f'.roots).count a + _ = _
    rw [hroots]
    exact replaceKids_count h F f.roots t w.nodup hg a
  refine ⟨hcount, ?_, ?_⟩
  · rw [hroots]; exact leafOkList_replaceKids h F hF f.roots w.leaves
  · intro w'
    refine ⟨?_, ?_, rfl, rfl, Nat.le_refl _⟩
    · intro x hx
      rw [List.mem_append, not_or] at hx
      cases hxr : f.isRoot x with
      | true =>
        have hxr' : f'.isRoot x = true := by
          unfold isRoot; rw [hroots, any_handle_replaceKids_of_any h x F f.roots hr]; exact hxr
        rw [isRoot_noParent w hxr, isRoot_noParent w' hxr']
      | false =>
        have hxr' : f'.roots.any (fun r => r.handle = x) = false := by
          rw [hroots, any_handle_replaceKids_of_any h x F f.roots hr]; exact hxr
        rw [parent?_eq, parent?_eq, ← parentKids_eq_findSome x 0 _ hxr',
          ← parentKids_eq_findSome x 0 _ hxr, hroots]
        exact replaceKids_parent h x 0 F f.roots t w.nodup hg hx.1 hx.2
    · intro x hx
      rw [List.mem_append, not_or] at hx
      have : f'.value? x = f.value? x := by
        unfold value? get?
        rw [hroots]
        exact replaceKids_value h x F f.roots t w.nodup hg hx.1 hx.2
      rw [this]

theorem W_of_count_le {f f' : Forest} (w : f.W) (hn : f.next ≤ f'.next)
    (hc : ∀ a, f'.allHandles.count a ≤ f.allHandles.count a) (hl : leafOkList f'.roots = true) :
    f'.W :=
  ⟨nodup_of_count_le w.nodup hc, hl, below_of_count_le w hn hc⟩

theorem cut_spec {f : Forest} (w : f.W) {h : Nat} {t : HTree} (hg : f.get? h = some t) :
    (f.cut h).2 = some t ∧ (f.cut h).1.W ∧
    (∀ a, (f.cut h).1.allHandles.count a + (handles t).count a = f.allHandles.count a) ∧
    Frame f (f.cut h).1 (handles t) ∧ leafOk t = true := by
  have hlt : leafOk t = true := findList?_leafOk h f.roots t w.leaves hg
  cases hr : f.isRoot h with
  | true =>
    have hc : f.cut h = ({ f with roots := f.roots.filter (fun r => r.handle != h) }, some t) := by
      unfold cut; rw [hg, hr]; rfl
    rw [hc]
    obtain ⟨i1, i2, i3, i4⟩ := rootsFilter h f.roots t w.nodup hr hg
    have w' : Forest.W { f with roots := f.roots.filter (fun r => r.handle != h) } :=
      W_of_count_le w (Nat.le_refl _) (fun a => by
        exact Nat.le.intro (i1 a))
        (i4 w.leaves).1
    refine ⟨rfl, w', i1, ⟨?_, ?_, rfl, rfl, Nat.le_refl _⟩, hlt⟩
    · intro x hx; rw [parent?_eq, parent?_eq]; exact i2 x hx
    · intro x hx
      have : Forest.value? { f with roots := f.roots.filter (fun r => r.handle != h) } x =
          f.value? x := congrArg (Option.map HTree.value) (i3 x hx)
      rw [this]
  | false =>
    have hc : f.cut h = ({ f with roots := f.roots.map (replaceBelow h (fun _ => [])) }, some t) := by
      unfold cut; rw [hg, hr]; rfl
    rw [hc]
    obtain ⟨j1, j2, j3⟩ := replaceRoots_spec w (fun _ => []) hg hr (fun _ _ => rfl)
    simp only [handlesList, List.count_nil, Nat.add_zero, List.append_nil] at j1 j3
    have w' : Forest.W { f with roots := f.roots.map (replaceBelow h (fun _ => [])) } :=
      W_of_count_le w (Nat.le_refl _) (fun a => by
        exact Nat.le.intro (j1 a)) j2
    exact ⟨rfl, w', j1, j3 w', hlt⟩

theorem cut_dead {f : Forest} {h : Nat} (hg : f.get? h = none) : f.cut h = (f, none) := by
  unfold cut; rw [hg]

theorem spliceOut_spec {f : Forest} (w : f.W) {h : Nat} {t : HTree} (hg : f.get? h = some t)
    (hk : f.isRoot h = true → t.kids.length ≤ 1) :
    (f.spliceOut h).W ∧
    (∀ a, (f.spliceOut h).allHandles.count a + [h].count a = f.allHandles.count a) ∧
    Frame f (f.spliceOut h) (handles t) := by
  have hlt : leafOk t = true := findList?_leafOk h f.roots t w.leaves hg
  have hth : t.handle = h := get?_handle hg
  have hlk : leafOkList t.kids = true := by
    cases t with | node a v ks => simp only [leafOk, Bool.and_eq_true] at hlt; exact hlt.2
  cases hr : f.isRoot h with
  | true =>
    have hs : f.spliceOut h = { f with roots := f.roots.filter (fun r => r.handle != h) ++ t.kids } := by
      unfold spliceOut; rw [hg]; simp only [hr, if_true, hk hr]
    rw [hs]
    obtain ⟨i1, i2, i3, i4⟩ := rootsFilter h f.roots t w.nodup hr hg
    have hcount : ∀ a, (handlesList (f.roots.filter (fun r => r.handle != h) ++ t.kids)).count a +
        [h].count a = f.allHandles.count a := by
      intro a
      have := i1 a
      rw [handles_eq, hth] at this
      simp only [List.count_cons, List.count_nil] at this ⊢
      rw [handlesList_append, List.count_append]
      unfold allHandles; omega
    have w' : Forest.W { f with roots := f.roots.filter (fun r => r.handle != h) ++ t.kids } :=
      W_of_count_le w (Nat.le_refl _) (fun a => by
        exact Nat.le.intro (hcount a))
        (by show leafOkList (_ ++ _) = true; rw [leafOkList_append, (i4 w.leaves).1, hlk]; rfl)
    refine ⟨w', hcount, ⟨?_, ?_, rfl, rfl, Nat.le_refl _⟩⟩
    · intro x hx
      rw [parent?_eq, parent?_eq]
      simp only [List.findSome?_append]
      rw [i2 x hx]
      have : x ∉ handlesList t.kids := by
        intro h'; apply hx; rw [handles_eq]; exact List.mem_cons_of_mem _ h'
      rw [rootsParent_none_of_not_mem this]
      cases List.findSome? (parentBelow x) f.roots <;> rfl
    · intro x hx
      have hxk : x ∉ handlesList t.kids := by
        intro h'; apply hx; rw [handles_eq]; exact List.mem_cons_of_mem _ h'
      have : Forest.value? { f with roots := f.roots.filter (fun r => r.handle != h) ++ t.kids } x =
          f.value? x := by
        show (findList? x (_ ++ _)).map HTree.value = _
        rw [fa_findList?_append]
        have h3 := congrArg (Option.map HTree.value) (i3 x hx)
        unfold value? get?
        cases h1 : findList? x (f.roots.filter (fun r => r.handle != h)) with
        | some b => rw [h1] at h3; exact h3
        | none => rw [h1] at h3; rw [(findList?_none_iff _ _).2 hxk]; exact h3
      rw [this]
  | false =>
    have hs : f.spliceOut h = { f with roots := f.roots.map (replaceBelow h (fun n => n.kids)) } := by
      unfold spliceOut; rw [hg]; simp only [hr, Bool.false_eq_true, if_false]
    rw [hs]
    obtain ⟨j1, j2, j3⟩ := replaceRoots_spec w (fun n => n.kids) hg hr (fun k hk' => by
      cases k with | node a v ks => simp only [leafOk, Bool.and_eq_true] at hk'; exact hk'.2)
    have hcount : ∀ a, (handlesList (f.roots.map (replaceBelow h (fun n => n.kids)))).count a +
        [h].count a = f.allHandles.count a := by
      intro a
      have := j1 a
      rw [handles_eq, hth] at this
      simp only [List.count_cons, List.count_nil] at this ⊢
      unfold allHandles at this; unfold allHandles; simp only at this; omega
    have w' : Forest.W { f with roots := f.roots.map (replaceBelow h (fun n => n.kids)) } :=
      W_of_count_le w (Nat.le_refl _) (fun a => by
        exact Nat.le.intro (hcount a)) j2
    have hsub : ∀ x ∈ handles t ++ handlesList t.kids, x ∈ handles t := by
      intro x hx
      rcases List.mem_append.1 hx with h' | h'
      · exact h'
      · rw [handles_eq]; exact List.mem_cons_of_mem _ h'
    exact ⟨w', hcount, (j3 w').mono hsub⟩

theorem spliceOut_dead {f : Forest} {h : Nat} (hg : f.get? h = none) : f.spliceOut h = f := by
  unfold spliceOut; rw [hg]

end Forest
end XotModel
