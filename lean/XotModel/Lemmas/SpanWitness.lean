/-
  Closed inputs for the non-vacuity `example`s of Props/C17.lean (`namespace Witness`): an end tag with white
  space between the name and `>`, through the reference tokenizer step by step, and closed token lists whose
  spans are filled in by `placeTokens`.
-/
import XotModel.Model.ParseString
import XotModel.Lemmas.ParseWitness

/-! ## An end tag with white space

  `<a></a ␣⏎>`; the non-vacuity `example` of C17_slice_element_end_name in Props/C17.lean rests on it.
-/

namespace XotModel.Witness
open XotModel XotModel.Lex

/-- `<a></a` space line-feed `>` (9 bytes). -/
def wsEndTagText : Str := ['<', 'a', '>', '<', '/', 'a', ' ', '\n', '>']

def wsEndTagTokens : List Token :=
  [.elementStart ⟨[], 0⟩ ⟨['a'], 1⟩ ⟨['<', 'a'], 0⟩, .elementEnd .open ⟨['>'], 2⟩,
   .elementEnd (.close ⟨[], 0⟩ ⟨['a'], 5⟩) ⟨['<', '/', 'a', ' ', '\n', '>'], 3⟩]

theorem lex_wsEndTag : lexDocument wsEndTagText = (wsEndTagTokens, none) := by decide +kernel

/-- Accepted; `ElementStart` = 1..2 (`a`), `ElementEnd` = 3..9 (`</a ␣⏎>`). -/
def wsEndTagCheck (r : BuildResult) : Bool :=
  match r with
  | .ok p =>
    (match p.tree.at? [0] with | some (.node (.element _) _) => true | _ => false) &&
    p.spans.get ⟨[0], .elementStart⟩ == some ⟨1, 2⟩ && p.spans.get ⟨[0], .elementEnd⟩ == some ⟨3, 9⟩
  | _ => false

end XotModel.Witness

/-! ## Closed token lists

  Spans set to 0 are filled in by `placeTokens`; see the examples of Props/C17.lean for the texts.
-/

namespace XotModel.Witness

/-- `<p:a b="1">x<!--c--></p:a>`. -/
def lexWitness : List Token :=
  [.elementStart ⟨['p'], 0⟩ ⟨['a'], 0⟩ ⟨[], 0⟩, .attribute ⟨[], 0⟩ ⟨['b'], 0⟩ ⟨['1'], 0⟩ ⟨[], 0⟩,
   .elementEnd .open ⟨[], 0⟩, .text ⟨['x'], 0⟩, .comment ⟨['c'], 0⟩ ⟨[], 0⟩,
   .elementEnd (.close ⟨['p'], 0⟩ ⟨['a'], 0⟩) ⟨[], 0⟩]

/-- `<p:a xmlns:p="u" b="x&#10;y">t&lt;<![CDATA[c]]><!--k--><?pi d?></p:a>`. -/
def sliceWitness : List Token :=
  [.elementStart ⟨['p'], 0⟩ ⟨['a'], 0⟩ ⟨[], 0⟩,
   .attribute ⟨['x', 'm', 'l', 'n', 's'], 0⟩ ⟨['p'], 0⟩ ⟨['u'], 0⟩ ⟨[], 0⟩,
   .attribute ⟨[], 0⟩ ⟨['b'], 0⟩ ⟨['x', '&', '#', '1', '0', ';', 'y'], 0⟩ ⟨[], 0⟩,
   .elementEnd .open ⟨[], 0⟩, .text ⟨['t', '&', 'l', 't', ';'], 0⟩, .cdata ⟨['c'], 0⟩ ⟨[], 0⟩,
   .comment ⟨['k'], 0⟩ ⟨[], 0⟩, .pi ⟨['p', 'i'], 0⟩ (some ⟨['d'], 0⟩) ⟨[], 0⟩,
   .elementEnd (.close ⟨['p'], 0⟩ ⟨['a'], 0⟩) ⟨[], 0⟩]

/-- What is looked at in the parse result (a `Bool`, so that the kernel can evaluate it). -/
def sliceWitnessCheck (r : BuildResult) : Bool :=
  match r with
  | .ok p =>
    (match p.tree.at? [0] with
     | some (.node (.element _) ks) =>
       ks.any (fun k => match k.value with | .attribute _ v => v == ['x', '\n', 'y'] | _ => false)
     | _ => false) &&
    (match p.tree.at? [0, 2] with | some (.node (.text v) _) => v == ['t', '<', 'c'] | _ => false) &&
    (match p.tree.at? [0, 3] with | some (.node (.comment v) _) => v == ['k'] | _ => false) &&
    (match p.tree.at? [0, 4] with | some (.node (.pi _ d) _) => d == some ['d'] | _ => false) &&
    p.spans.get ⟨[0], .elementStart⟩ == some ⟨1, 4⟩ && p.spans.get ⟨[0, 2], .text⟩ == some ⟨29, 44⟩
  | _ => false

/-- The spans around which Props/C17.lean shows the delimiters, on the same text: `ElementEnd` = `</p:a>`
    (63..69), the comment body `k` (51..52), the PI target `pi` (57..59) and data `d` (60..61). -/
def delimWitnessCheck (r : BuildResult) : Bool :=
  match r with
  | .ok p =>
    p.spans.get ⟨[0], .elementEnd⟩ == some ⟨63, 69⟩ && p.spans.get ⟨[0, 3], .comment⟩ == some ⟨51, 52⟩ &&
    p.spans.get ⟨[0, 4], .piTarget⟩ == some ⟨57, 59⟩ && p.spans.get ⟨[0, 4], .piContent⟩ == some ⟨60, 61⟩
  | _ => false

/-- `<a><![CDATA[c]]>t</a>`: a text node whose run starts with a CDATA section. -/
def cdataFirstWitness : List Token :=
  [.elementStart ⟨[], 0⟩ ⟨['a'], 0⟩ ⟨[], 0⟩, .elementEnd .open ⟨[], 0⟩, .cdata ⟨['c'], 0⟩ ⟨[], 0⟩,
   .text ⟨['t'], 0⟩, .elementEnd (.close ⟨[], 0⟩ ⟨['a'], 0⟩) ⟨[], 0⟩]

def cdataFirstCheck (r : BuildResult) : Bool :=
  match r with
  | .ok p =>
    (match p.tree.at? [0, 0] with | some (.node (.text v) _) => v == ['c', 't'] | _ => false) &&
    p.spans.get ⟨[0, 0], .text⟩ == some ⟨12, 17⟩
  | _ => false

/-- `<?XmL d?><a/>` (13 bytes) and `<a xmlns:p=""/>` (15 bytes), with their positions. -/
def xmlPiDoc : List Token :=
  [.pi ⟨['X', 'm', 'L'], 2⟩ (some ⟨['d'], 6⟩) ⟨['<', '?', 'X', 'm', 'L', ' ', 'd', '?', '>'], 0⟩,
   .elementStart ⟨[], 0⟩ ⟨['a'], 10⟩ ⟨['<', 'a'], 9⟩, .elementEnd .empty ⟨['/', '>'], 11⟩]

def undeclDoc : List Token :=
  [.elementStart ⟨[], 0⟩ ⟨['a'], 1⟩ ⟨['<', 'a'], 0⟩,
   .attribute ⟨['x', 'm', 'l', 'n', 's'], 3⟩ ⟨['p'], 9⟩ ⟨[], 12⟩ ⟨['x', 'm', 'l', 'n', 's', ':', 'p', '=', '"', '"'], 3⟩,
   .elementEnd .empty ⟨['/', '>'], 13⟩]

/-- `<a><!--x\r\ny--><?p u\rv?></a>`. -/
def crWitness : List Token :=
  [.elementStart ⟨[], 0⟩ ⟨['a'], 0⟩ ⟨[], 0⟩, .elementEnd .open ⟨[], 0⟩,
   .comment ⟨['x', '\r', '\n', 'y'], 0⟩ ⟨[], 0⟩, .pi ⟨['p'], 0⟩ (some ⟨['u', '\r', 'v'], 0⟩) ⟨[], 0⟩,
   .elementEnd (.close ⟨[], 0⟩ ⟨['a'], 0⟩) ⟨[], 0⟩]

def crWitnessCheck (r : BuildResult) : Bool :=
  match r with
  | .ok p =>
    (match p.tree.at? [0, 0] with | some (.node (.comment v) _) => v == ['x', '\n', 'y'] | _ => false) &&
    (match p.tree.at? [0, 1] with | some (.node (.pi _ d) _) => d == some ['u', '\n', 'v'] | _ => false) &&
    p.spans.get ⟨[0, 0], .comment⟩ == some ⟨7, 11⟩ && p.spans.get ⟨[0, 1], .piTarget⟩ == some ⟨16, 17⟩ &&
    p.spans.get ⟨[0, 1], .piContent⟩ == some ⟨18, 21⟩
  | _ => false

end XotModel.Witness
