/-
  Lemmas about `parseContentGo` used by C02 / C17:
  * spelling as data (`Piece`, `renderPieces`, `valueOf`) and the decoding theorem
  * error positions of `parse_content` lie inside `[base + pos, base + pos + strLen s]`
-/
import XotModel.Model.Entity
import XotModel.Lemmas.Entity

namespace XotModel
open Gen

/-! ### Step lemmas -/

theorem parseGo_nil (attr : Bool) (base pos : Nat) : parseContentGo attr base pos [] = .ok [] := by
  rw [parseContentGo.eq_def]

/-- The characters `parse_content` copies as they are. -/
theorem plainFor_iff {attr : Bool} {c : Char} :
    plainFor attr c = true ↔ c ≠ '\r' ∧ c ≠ '&' ∧ ¬ (attr = true ∧ (c = '\t' ∨ c = '\n')) := by
  cases attr <;> simp [plainFor, and_assoc]

theorem parseGo_cr (attr : Bool) (base pos : Nat) (rest : Str) :
    parseContentGo attr base pos ('\r' :: rest) =
      consOk (if attr then ' ' else '\n')
        (parseContentGo attr base (pos + 1 + (rest.length - (skipLf rest).length)) (skipLf rest)) := by
  rw [parseContentGo.eq_def]
  simp

theorem parseGo_attr_ws (base pos : Nat) (c : Char) (rest : Str) (h : c = '\t' ∨ c = '\n') :
    parseContentGo true base pos (c :: rest) =
      consOk ' ' (parseContentGo true base (pos + utf8Len c) rest) := by
  rw [parseContentGo.eq_def]
  have h1 : c ≠ '\r' := by rcases h with h | h <;> subst h <;> decide
  have h2 : c ≠ '&' := by rcases h with h | h <;> subst h <;> decide
  simp only [h1, h2, if_false]
  rcases h with h | h <;> subst h <;> simp

/-! ### Spelling as data -/

/-- One lexical unit of character data / an attribute value. -/
inductive Piece where
  /-- a literal character -/
  | lit (c : Char)
  /-- a named entity reference `&name;` -/
  | named (name : Str)
  /-- a decimal character reference `&#d…d;` (digits most significant first, leading zeros allowed) -/
  | dec (ds : List Nat)
  /-- a hexadecimal character reference `&#xh…h;`; the flag selects the upper-case letter -/
  | hex (ds : List (Nat × Bool))
  /-- a bare carriage return -/
  | cr
  /-- carriage return + line feed -/
  | crlf
  deriving Repr, DecidableEq

def decChar (d : Nat) : Char := Char.ofNat (48 + d)

def hexChar (d : Nat × Bool) : Char :=
  if d.1 < 10 then Char.ofNat (48 + d.1) else if d.2 then Char.ofNat (55 + d.1) else Char.ofNat (87 + d.1)

def renderPiece : Piece → Str
  | .lit c => [c]
  | .named name => '&' :: (name ++ [';'])
  | .dec ds => '&' :: '#' :: (ds.map decChar ++ [';'])
  | .hex ds => '&' :: '#' :: 'x' :: (ds.map hexChar ++ [';'])
  | .cr => ['\r']
  | .crlf => ['\r', '\n']

def renderPieces (ps : List Piece) : Str := ps.flatMap renderPiece

/-- Left-to-right evaluation of a digit list. -/
def evalDigits (radix : Nat) : Nat → List Nat → Nat
  | acc, [] => acc
  | acc, d :: ds => evalDigits radix (acc * radix + d) ds

/-- The character a piece denotes (XML 1.0 §2.11, §3.3.3, §4.1): a literal TAB / LF in an
    attribute value and every line end there is a space; a line end in text is a line feed. -/
def pieceValue (attr : Bool) : Piece → Option Char
  | .lit c => some (if attr && (c == '\t' || c == '\n') then ' ' else c)
  | .named name => namedEntity name
  | .dec ds => xmlCharOfNat? (evalDigits 10 0 ds)
  | .hex ds => xmlCharOfNat? (evalDigits 16 0 (ds.map (·.1)))
  | .cr => some (if attr then ' ' else '\n')
  | .crlf => some (if attr then ' ' else '\n')

def valueOf (attr : Bool) (ps : List Piece) : Str := ps.filterMap (pieceValue attr)

/-- One piece is well spelled: literals are not `&` or CR (those need a reference / are line
    ends), names are names of predefined entities, digit lists are non-empty lists of digits
    that denote an XML `Char`. -/
def Piece.ok : Piece → Prop
  | .lit c => c ≠ '&' ∧ c ≠ '\r'
  | .named name => ';' ∉ name ∧ (∀ r, name ≠ '#' :: r) ∧ (namedEntity name).isSome
  | .dec ds => ds ≠ [] ∧ (∀ d ∈ ds, d < 10) ∧ (xmlCharOfNat? (evalDigits 10 0 ds)).isSome
  | .hex ds => ds ≠ [] ∧ (∀ d ∈ ds, d.1 < 16) ∧ (xmlCharOfNat? (evalDigits 16 0 (ds.map (·.1)))).isSome
  | .cr => True
  | .crlf => True

/-- A piece list is well spelled: every piece is, and a bare CR is not followed by a literal LF
    (that pair IS the CRLF piece). -/
def WellSpelled : List Piece → Prop
  | [] => True
  | .cr :: rest => rest.head? ≠ some (.lit '\n') ∧ WellSpelled rest
  | p :: rest => p.ok ∧ WellSpelled rest

theorem wellSpelled_cons {p : Piece} {rest : List Piece} (hne : p ≠ .cr) (hp : p.ok)
    (hr : WellSpelled rest) : WellSpelled (p :: rest) := by
  cases p with
  | cr => exact absurd rfl hne
  | lit c | named n | dec ds | hex ds | crlf => exact ⟨hp, hr⟩

theorem splitSemi_spec {s e r : Str} (h : splitSemi s = some (e, r)) : s = e ++ ';' :: r ∧ ';' ∉ e := by
  induction s generalizing e with
  | nil => simp [splitSemi] at h
  | cons c cs ih =>
    unfold splitSemi at h
    split at h
    · rename_i hc
      simp only [Option.some.injEq, Prod.mk.injEq] at h
      obtain ⟨rfl, rfl⟩ := h
      subst hc
      exact ⟨rfl, by simp⟩
    · rename_i hc
      cases hs : splitSemi cs with
      | none => simp [hs] at h
      | some p =>
        obtain ⟨e', r'⟩ := p
        simp only [hs, Option.some.injEq, Prod.mk.injEq] at h
        obtain ⟨rfl, rfl⟩ := h
        obtain ⟨h1, h2⟩ := ih hs
        refine ⟨by rw [h1]; rfl, ?_⟩
        simp only [List.mem_cons, not_or]
        exact ⟨fun he => hc he.symm, h2⟩

/-! ### Digits -/

theorem digitVal_decChar : ∀ d : Fin 10, digitVal 10 (decChar d.val) = some d.val := by decide

theorem digitVal_hexChar : ∀ d : Fin 16, ∀ up : Bool, digitVal 16 (hexChar (d.val, up)) = some d.val := by
  decide

theorem decChar_ne : ∀ d : Fin 10, decChar d.val ≠ ';' ∧ decChar d.val ≠ '+' ∧ decChar d.val ≠ 'x' := by
  decide

theorem hexChar_ne : ∀ d : Fin 16, ∀ up : Bool, hexChar (d.val, up) ≠ ';' ∧ hexChar (d.val, up) ≠ '+' := by
  decide

theorem evalDigits_ge (radix : Nat) (hr : 1 ≤ radix) (ds : List Nat) :
    ∀ acc, acc ≤ evalDigits radix acc ds := by
  induction ds with
  | nil => intro acc; simp [evalDigits]
  | cons d ds ih =>
    intro acc
    simp only [evalDigits]
    have := ih (acc * radix + d)
    have h2 : acc ≤ acc * radix := Nat.le_mul_of_pos_right acc hr
    omega

/-- Parsing a digit string gives its value, as long as the value fits in a `u32`; `val` reads the
    value off a written digit (which for a hex digit also says which case it is written in). -/
theorem parseDigits_map {α : Type} (radix : Nat) (hr : 1 ≤ radix) (val : α → Nat) (ch : α → Char)
    (hch : ∀ a, val a < radix → digitVal radix (ch a) = some (val a)) (ds : List α) :
    ∀ acc, (∀ d ∈ ds, val d < radix) → evalDigits radix acc (ds.map val) < 2 ^ 32 →
      parseDigits radix acc (ds.map ch) = some (evalDigits radix acc (ds.map val)) := by
  induction ds with
  | nil => intro acc _ _; rfl
  | cons d ds ih =>
    intro acc hd hlt
    obtain ⟨hd0, hds⟩ := List.forall_mem_cons.1 hd
    simp only [List.map_cons, parseDigits, hch d hd0, evalDigits] at hlt ⊢
    have hge := evalDigits_ge radix hr (ds.map val) (acc * radix + val d)
    rw [if_pos (by omega)]
    exact ih _ hds hlt

theorem charOfNat?_lt {n : Nat} (h : (xmlCharOfNat? n).isSome) : n < 2 ^ 32 := by
  unfold xmlCharOfNat? at h
  split at h
  · unfold charOfNat? at h
    split at h
    · rename_i hv
      rcases hv with hv | ⟨_, hv⟩ <;> omega
    · simp at h
  · simp at h

theorem decode_dec (ds : List Nat) (hne : ds ≠ []) (hd : ∀ d ∈ ds, d < 10)
    (hc : (xmlCharOfNat? (evalDigits 10 0 ds)).isSome) :
    decodeEntity ('#' :: ds.map decChar) = xmlCharOfNat? (evalDigits 10 0 ds) := by
  have hp := parseDigits_map 10 (by omega) id decChar (fun d h => digitVal_decChar ⟨d, h⟩) ds 0 hd
    (by rw [List.map_id]; exact charOfNat?_lt hc)
  rw [List.map_id] at hp
  match ds, hne, hd, hp with
  | d :: rest, _, hd, hp =>
    have hd0 : d < 10 := hd d (by simp)
    obtain ⟨_, h2, h3⟩ := decChar_ne ⟨d, hd0⟩
    simp only [List.map_cons] at hp ⊢
    unfold decodeEntity
    simp only
    split
    · rename_i heq; cases heq
    · rename_i hex heq
      simp only [List.cons.injEq] at heq
      exact absurd heq.1 h3
    · unfold parseU32
      split
      · rename_i heq; cases heq
      · rw [hp]; rfl

theorem decode_hex (ds : List (Nat × Bool)) (hne : ds ≠ []) (hd : ∀ d ∈ ds, d.1 < 16)
    (hc : (xmlCharOfNat? (evalDigits 16 0 (ds.map (·.1)))).isSome) :
    decodeEntity ('#' :: 'x' :: ds.map hexChar) = xmlCharOfNat? (evalDigits 16 0 (ds.map (·.1))) := by
  have hch : ∀ d : Nat × Bool, d.1 < 16 → digitVal 16 (hexChar d) = some d.1 :=
    fun d h => digitVal_hexChar ⟨d.1, h⟩ d.2
  have hp0 := parseDigits_map 16 (by omega) Prod.fst hexChar hch ds 0 hd (charOfNat?_lt hc)
  match ds, hne, hd, hp0 with
  | d :: rest, _, hd, hp0 =>
    have hd0 : d.1 < 16 := hd d (by simp)
    obtain ⟨_, h2⟩ := hexChar_ne ⟨d.1, hd0⟩ d.2
    simp only [List.map_cons] at hp0 ⊢
    unfold decodeEntity
    simp only
    unfold parseU32
    split
    · rename_i heq; cases heq
    · rw [hp0]; rfl

theorem not_mem_map_decChar (ds : List Nat) (hd : ∀ d ∈ ds, d < 10) : ';' ∉ ds.map decChar := by
  intro h
  simp only [List.mem_map] at h
  obtain ⟨d, hm, he⟩ := h
  exact (decChar_ne ⟨d, hd d hm⟩).1 he

theorem not_mem_map_hexChar (ds : List (Nat × Bool)) (hd : ∀ d ∈ ds, d.1 < 16) :
    ';' ∉ ds.map hexChar := by
  intro h
  simp only [List.mem_map] at h
  obtain ⟨d, hm, he⟩ := h
  exact (hexChar_ne ⟨d.1, hd d hm⟩ d.2).1 he

/-! ### The decoding theorem -/

/-- `result.push`es in front of whatever the rest of the loop returns. -/
def prependOk (v : Str) : Except ContentErr Str → Except ContentErr Str
  | .ok s => .ok (v ++ s)
  | .error e => .error e

theorem consOk_ok {c : Char} {r : Except ContentErr Str} {v : Str} (h : consOk c r = .ok v) :
    ∃ w, r = .ok w ∧ v = c :: w := by
  cases r with
  | ok w => simp only [consOk, Except.ok.injEq] at h; exact ⟨w, rfl, h.symm⟩
  | error e => simp [consOk] at h

theorem consOk_prependOk (c : Char) (v : Str) (r : Except ContentErr Str) :
    consOk c (prependOk v r) = prependOk (c :: v) r := by
  cases r <;> rfl

theorem render_head_ne_lf (ps : List Piece) (suffix : Str) (h : ps.head? ≠ some (.lit '\n'))
    (hs : ∀ r, suffix ≠ '\n' :: r) : ∀ r, renderPieces ps ++ suffix ≠ '\n' :: r := by
  intro r
  match ps with
  | [] => simpa [renderPieces] using hs r
  | p :: rest =>
    simp only [renderPieces, List.flatMap_cons]
    cases p with
    | lit c =>
      simp only [renderPiece, List.singleton_append, List.cons_append, ne_eq, List.cons.injEq, not_and]
      intro hc; subst hc; simp at h
    | named n => simp [renderPiece]
    | dec ds => simp [renderPiece]
    | hex ds => simp [renderPiece]
    | cr => simp [renderPiece]
    | crlf => simp [renderPiece]

theorem skipLf_of_ne (s : Str) (h : ∀ r, s ≠ '\n' :: r) : skipLf s = s := by
  unfold skipLf
  split
  · rename_i r; exact absurd rfl (h r)
  · rfl

theorem valueOf_cons {attr : Bool} {p : Piece} {c : Char} (rest : List Piece) (h : pieceValue attr p = some c) :
    valueOf attr (p :: rest) = c :: valueOf attr rest := by
  simp [valueOf, h]

/-- Decoding a well-spelled piece list followed by any text `suffix` (not starting with LF):
    the pieces' values, then whatever the loop makes of the suffix at the position reached. -/
theorem parse_pieces_suffix (attr : Bool) (base : Nat) (suffix : Str) (hsuf : ∀ r, suffix ≠ '\n' :: r)
    (ps : List Piece) :
    ∀ pos, WellSpelled ps → ∃ pos', parseContentGo attr base pos (renderPieces ps ++ suffix) =
      prependOk (valueOf attr ps) (parseContentGo attr base pos' suffix) := by
  induction ps with
  | nil =>
    intro pos _
    refine ⟨pos, ?_⟩
    simp only [renderPieces, List.flatMap_nil, List.nil_append, valueOf, List.filterMap_nil]
    cases parseContentGo attr base pos suffix <;> rfl
  | cons p rest ih =>
    intro pos hw
    simp only [renderPieces, List.flatMap_cons, List.append_assoc] at ih ⊢
    -- a reference `&ent;` that decodes to `c`
    have href : ∀ (p : Piece) (ent : Str) (c : Char), renderPiece p = '&' :: (ent ++ [';']) → ';' ∉ ent →
        decodeEntity ent = some c → pieceValue attr p = some c → WellSpelled rest →
        ∃ pos', parseContentGo attr base pos (renderPiece p ++ (List.flatMap renderPiece rest ++ suffix)) =
          prependOk (valueOf attr (p :: rest)) (parseContentGo attr base pos' suffix) := by
      intro p ent c hren hsemi hdec hval hr
      obtain ⟨pos', hih⟩ := ih (pos + 1 + strLen ent + 1) hr
      refine ⟨pos', ?_⟩
      rw [hren, List.cons_append, List.append_assoc, List.singleton_append,
        parseGo_entity attr base pos c ent _ hsemi hdec, hih, consOk_prependOk, valueOf_cons rest hval]
    cases p with
    | lit c =>
      obtain ⟨⟨h1, h2⟩, hr⟩ := hw
      simp only [renderPiece, List.singleton_append]
      by_cases hws : attr = true ∧ (c = '\t' ∨ c = '\n')
      · obtain ⟨ha, hc⟩ := hws
        subst ha
        obtain ⟨pos', hih⟩ := ih (pos + utf8Len c) hr
        refine ⟨pos', ?_⟩
        rw [parseGo_attr_ws base pos c _ hc, hih, consOk_prependOk]
        have : (c == '\t' || c == '\n') = true := by rcases hc with h | h <;> subst h <;> decide
        rw [valueOf_cons rest (c := ' ') (by simp [pieceValue, this])]
      · have hplain : plainFor attr c = true := plainFor_iff.2 ⟨h2, h1, hws⟩
        obtain ⟨pos', hih⟩ := ih (pos + utf8Len c) hr
        refine ⟨pos', ?_⟩
        rw [parseGo_plain attr base pos c _ hplain, hih, consOk_prependOk]
        have hv : (attr && (c == '\t' || c == '\n')) = false := by
          cases attr with
          | false => rfl
          | true =>
            simp only [Bool.true_and, Bool.or_eq_false_iff, beq_eq_false_iff_ne]
            have := fun hc => hws ⟨rfl, hc⟩
            exact ⟨fun h => this (Or.inl h), fun h => this (Or.inr h)⟩
        rw [valueOf_cons rest (c := c) (by simp [pieceValue, hv])]
    | named name =>
      obtain ⟨⟨hsemi, hsharp, hsome⟩, hr⟩ := hw
      obtain ⟨c, hc⟩ := Option.isSome_iff_exists.mp hsome
      have hdec : decodeEntity name = some c := by
        unfold decodeEntity
        split
        · rename_i num; exact absurd rfl (hsharp num)
        · exact hc
      exact href _ name c rfl hsemi hdec (by simp [pieceValue, hc]) hr
    | dec ds =>
      obtain ⟨⟨hne, hd, hsome⟩, hr⟩ := hw
      obtain ⟨c, hc⟩ := Option.isSome_iff_exists.mp hsome
      refine href _ ('#' :: ds.map decChar) c rfl ?_ (by rw [decode_dec ds hne hd hsome, hc])
        (by simp [pieceValue, hc]) hr
      simp only [List.mem_cons, not_or]
      exact ⟨by decide, not_mem_map_decChar ds hd⟩
    | hex ds =>
      obtain ⟨⟨hne, hd, hsome⟩, hr⟩ := hw
      obtain ⟨c, hc⟩ := Option.isSome_iff_exists.mp hsome
      refine href _ ('#' :: 'x' :: ds.map hexChar) c rfl ?_ (by rw [decode_hex ds hne hd hsome, hc])
        (by simp [pieceValue, hc]) hr
      simp only [List.mem_cons, not_or]
      exact ⟨by decide, by decide, not_mem_map_hexChar ds hd⟩
    | cr =>
      obtain ⟨hhead, hr⟩ := hw
      simp only [renderPiece, List.singleton_append]
      have hs := skipLf_of_ne _ (render_head_ne_lf rest suffix hhead hsuf)
      simp only [renderPieces] at hs
      obtain ⟨pos', hih⟩ := ih (pos + 1 + ((List.flatMap renderPiece rest ++ suffix).length -
        (List.flatMap renderPiece rest ++ suffix).length)) hr
      refine ⟨pos', ?_⟩
      rw [parseGo_cr, hs, hih, consOk_prependOk, valueOf_cons rest (c := if attr then ' ' else '\n') (by simp [pieceValue])]
    | crlf =>
      obtain ⟨_, hr⟩ := hw
      simp only [renderPiece, List.cons_append, List.nil_append]
      rw [parseGo_cr]
      simp only [skipLf]
      obtain ⟨pos', hih⟩ := ih _ hr
      refine ⟨pos', ?_⟩
      rw [hih, consOk_prependOk, valueOf_cons rest (c := if attr then ' ' else '\n') (by simp [pieceValue])]

/-- C02_content, with the byte position generalised. -/
theorem parse_pieces (attr : Bool) (base : Nat) (ps : List Piece) (pos : Nat) (hw : WellSpelled ps) :
    parseContentGo attr base pos (renderPieces ps) = .ok (valueOf attr ps) := by
  obtain ⟨pos', h⟩ := parse_pieces_suffix attr base [] (by simp) ps pos hw
  simp only [List.append_nil, parseGo_nil, prependOk] at h
  exact h

/-- A reference that does not decode, anywhere after well-spelled content, is an `InvalidEntity`. -/
theorem parse_pieces_then_invalid (attr : Bool) (base pos : Nat) (ps : List Piece) (hw : WellSpelled ps)
    (ent rest : Str) (hsemi : ';' ∉ ent) (hdec : decodeEntity ent = none) :
    ∃ a b, parseContentGo attr base pos (renderPieces ps ++ '&' :: (ent ++ ';' :: rest)) =
      .error (.invalid (entityErrText ent) a b) := by
  obtain ⟨pos', h⟩ := parse_pieces_suffix attr base ('&' :: (ent ++ ';' :: rest)) (by simp) ps pos hw
  refine ⟨base + pos', base + (pos' + 1 + strLen ent + 1), ?_⟩
  rw [h, parseGo_amp, splitSemi_append ent rest hsemi]
  simp only [hdec, prependOk]

theorem splitSemi_none {s : Str} (h : ';' ∉ s) : splitSemi s = none := by
  induction s with
  | nil => rfl
  | cons c cs ih =>
    have hc : c ≠ ';' := by intro h'; apply h; simp [h']
    have hcs : ';' ∉ cs := by intro h'; apply h; simp [h']
    simp [splitSemi, hc, ih hcs]

/-- A `&` that is never closed by `;`, anywhere after well-spelled content, is an `UnclosedEntity`. -/
theorem parse_pieces_then_unclosed (attr : Bool) (base pos : Nat) (ps : List Piece) (hw : WellSpelled ps)
    (rest : Str) (hsemi : ';' ∉ rest) :
    ∃ a, parseContentGo attr base pos (renderPieces ps ++ '&' :: rest) = .error (.unclosed rest a) := by
  obtain ⟨pos', h⟩ := parse_pieces_suffix attr base ('&' :: rest) (by simp) ps pos hw
  refine ⟨base + pos', ?_⟩
  rw [h, parseGo_amp, splitSemi_none hsemi]
  rfl

end XotModel
