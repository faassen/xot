/-
  The invariant under a change of roots, value updates within the kind,
  removal of a text leaf, and the two text-consolidation helpers of manipulation.rs
  (`remove_consolidate_text_nodes`, `add_consolidate_text_nodes`): they preserve the invariant
  for all arguments.
-/
import XotModel.Lemmas.FinvValid
import XotModel.Lemmas.ManipShape

namespace XotModel
open HTree

namespace Forest

/-- New roots whose handles, together with some dropped handles `X`, are the old handles. -/
theorem Inv.with_roots {f : Forest} (hi : f.Inv) (roots' : List HTree) (X : List Nat)
    (hp : (handlesList roots' ++ X).Perm f.allHandles)
    (hv : validList (!f.everOff) roots' = true) : ({ f with roots := roots' } : Forest).Inv := by
  obtain ⟨h1, h2, h3, _, h5⟩ := hi
  refine ⟨h1, ?_, ?_, hv, h5⟩
  · have := hp.symm.nodup h2
    exact List.Nodup.sublist (List.sublist_append_left _ _) this
  · intro h hh
    exact h3 h (hp.subset (List.mem_append_left _ hh))

theorem Inv.edit {f : Forest} (hi : f.Inv) {path : List ZipFrame} {ks ks' : List HTree} (X : List Nat)
    (he : f.roots = plug path ks) (hp : (handlesList ks' ++ X).Perm (handlesList ks))
    (hk : kidsOKopt (!f.everOff) (innerValue path) ks' = true)
    (hl : validList (!f.everOff) ks' = true) : ({ f with roots := plug path ks' } : Forest).Inv := by
  apply hi.with_roots _ X
  · unfold allHandles
    rw [he]
    refine ((handlesList_plug_perm path ks').append_right X).trans
      (List.Perm.trans ?_ (handlesList_plug_perm path ks).symm)
    rw [List.append_assoc]
    exact List.Perm.append_left _ hp
  · have := hi.valid
    rw [he] at this
    exact valid_plug_replace _ path ks ks' this hk hl

theorem Inv.kids_at {f : Forest} (hi : f.Inv) {path : List ZipFrame} {ks : List HTree}
    (he : f.roots = plug path ks) :
    kidsOKopt (!f.everOff) (innerValue path) ks = true ∧ validList (!f.everOff) ks = true := by
  have := hi.valid
  rw [he] at this
  exact valid_plug_inner _ path ks this

theorem Inv.kidsOK_snoc {f : Forest} (hi : f.Inv) {init : List ZipFrame} {fr : ZipFrame} {ks : List HTree}
    (he : f.roots = plug (init ++ [fr]) ks) :
    KidsOK (!f.everOff) fr.v ks ∧ validList (!f.everOff) ks = true := by
  obtain ⟨k1, k2⟩ := hi.kids_at he
  rw [innerValue_snoc] at k1
  exact ⟨(kidsOK_iff _ _ _).mp k1, k2⟩

theorem Inv.validTree_of_loc {f : Forest} (hi : f.Inv) {h path l k r} (lc : Loc f.roots h path l k r) :
    validTree (!f.everOff) k = true :=
  (validList_mid (hi.kids_at lc.eq).2).2.1

theorem textOf_eq_some_iff (f : Forest) (h : Nat) (s : Str) :
    f.textOf h = some s ↔ f.value? h = some (.text s) := by
  unfold textOf
  cases hv : f.value? h with
  | none => simp
  | some v => cases v <;> simp

/-! ### Value updates within the kind -/

theorem setValue_of_not_mem {f : Forest} {h : Nat} (hn : h ∉ f.allHandles) (v : Value) :
    f.setValue h v = f := by
  unfold setValue
  rw [← mapAtList_eq_map, mapAtList_of_not_mem h _ _ hn]

theorem setValue_inv {f : Forest} (hi : f.Inv) {h : Nat} {v v' : Value} (hv : f.value? h = some v)
    (hk : SameKind v v') (ha : ∀ x, kidAllowed v' x = kidAllowed v x) : (f.setValue h v').Inv := by
  obtain ⟨path, l, k, r, lc⟩ := exists_loc (mem_allHandles_of_value? hv)
  have hkv : k.value = v := by
    have := value?_of_loc lc hi.nodup; rw [hv] at this; cases this; rfl
  rw [setValue_of_loc v' lc hi.nodup]
  obtain ⟨k1, k2⟩ := hi.kids_at lc.eq
  apply hi.edit [] lc.eq
  · simp
  · cases hiv : innerValue path with
    | none => rfl
    | some pv =>
      rw [hiv] at k1
      exact (kidsOK_iff _ _ _).mpr (((kidsOK_iff _ _ _).mp k1).sameKind (by simpa [hkv] using hk))
  · simp only [Fmap.validList_append, validList_cons, Bool.and_eq_true] at k2 ⊢
    exact ⟨k2.1, validTree_setValue k2.2.1 (by simpa [hkv] using ha), k2.2.2⟩

theorem value?_setValue_ne {f : Forest} (nd : f.allHandles.Nodup) {p x : Nat} (hne : x ≠ p) (v' : Value) :
    (f.setValue p v').value? x = f.value? x := by
  by_cases hp : p ∈ f.allHandles
  · obtain ⟨path, l, k, r, lc⟩ := exists_loc hp
    have nd' : (f.setValue p v').allHandles.Nodup := by rw [allHandles_setValue]; exact nd
    apply Option.ext
    intro w
    rw [value?_eq_some_iff nd', value?_eq_some_iff nd, setValue_of_loc v' lc nd, lc.eq]
    simp only [mem_hvList_plug, hvList_append, hvList_cons, List.mem_append, hv_eq k,
      hv_eq (k.setValue v'), setValue_handle, setValue_value, setValue_kids, List.mem_cons,
      Prod.mk.injEq, lc.hk]
    constructor <;> intro hh <;> rcases hh with hh | hh | (hh | hh) | hh
    all_goals first
      | exact absurd hh.1 hne
      | exact Or.inl hh
      | exact Or.inr (Or.inl hh)
      | exact Or.inr (Or.inr (Or.inl (Or.inr hh)))
      | exact Or.inr (Or.inr (Or.inr hh))
  · rw [setValue_of_not_mem hp]

theorem value?_setValue_self {f : Forest} (nd : f.allHandles.Nodup) {p : Nat} (hp : p ∈ f.allHandles)
    (v' : Value) : (f.setValue p v').value? p = some v' := by
  obtain ⟨path, l, k, r, lc⟩ := exists_loc hp
  have nd' : (f.setValue p v').allHandles.Nodup := by rw [allHandles_setValue]; exact nd
  have lc' : Loc (f.setValue p v').roots p path l (k.setValue v') r := by
    refine ⟨?_, by simp [lc.hk]⟩
    rw [setValue_of_loc v' lc nd]
  rw [value?_of_loc lc' nd']; simp

/-! ### Removing a text leaf -/

theorem spliceOut_text_inv {f : Forest} (hi : f.Inv) {n : Nat} {s : Str} (ht : f.textOf n = some s) :
    (f.spliceOut n).Inv := by
  rw [textOf_eq_some_iff] at ht
  obtain ⟨path, l, k, r, lc⟩ := exists_loc (mem_allHandles_of_value? ht)
  have hkv : k.value = .text s := value_of_loc lc hi.nodup ht
  have hkt : k.value.isText = true := by rw [hkv]; rfl
  have hkids : k.kids = [] := kids_nil_of_text (hi.validTree_of_loc lc) hkt
  obtain ⟨k1, k2⟩ := hi.kids_at lc.eq
  have key : ({ f with roots := plug path (l ++ r) } : Forest).Inv := by
    apply hi.edit [n] lc.eq
    · simp only [handlesList_append, handlesList_cons, handles_eq k, hkids, lc.hk, handlesList_nil,
        List.append_assoc]
      exact List.Perm.append_left _ List.perm_append_comm
    · cases hiv : innerValue path with
      | none => rfl
      | some pv =>
        rw [hiv] at k1
        exact (kidsOK_iff _ _ _).mpr (((kidsOK_iff _ _ _).mp k1).remove_text hkt)
    · simp only [Fmap.validList_append, validList_cons, Bool.and_eq_true] at k2 ⊢
      exact ⟨k2.1, k2.2.2⟩
  cases path with
  | nil =>
    rw [spliceOut_of_loc_nil lc hi.nodup, hkids]
    simpa using key
  | cons fr rest =>
    rw [spliceOut_of_loc_cons lc hi.nodup, hkids]
    simpa using key

/-- `set p to text; remove the text node n`, the common core of both consolidation helpers. -/
theorem merge_inv {f : Forest} (hi : f.Inv) {p n : Nat} {ps ns : Str} (s : Str)
    (hp : f.textOf p = some ps) (hn : f.textOf n = some ns) :
    ((f.setValue p (.text s)).spliceOut n).Inv := by
  rw [textOf_eq_some_iff] at hp
  have h1 : (f.setValue p (.text s)).Inv :=
    setValue_inv hi hp ⟨rfl, rfl, rfl, rfl⟩ (fun x => rfl)
  by_cases hpn : n = p
  · subst hpn
    have : (f.setValue n (.text s)).textOf n = some s := by
      rw [textOf_eq_some_iff]
      exact value?_setValue_self hi.nodup (mem_allHandles_of_value? hp) _
    exact spliceOut_text_inv h1 this
  · have : (f.setValue p (.text s)).textOf n = some ns := by
      rw [textOf_eq_some_iff, value?_setValue_ne hi.nodup hpn]
      exact (textOf_eq_some_iff _ _ _).mp hn
    exact spliceOut_text_inv h1 this

/-- `remove_consolidate_text_nodes` preserves the invariant, whatever its arguments. -/
theorem removeConsolidate_inv {f : Forest} (hi : f.Inv) (prev next : Option Nat) :
    (f.removeConsolidate prev next).1.Inv := by
  rcases f.removeConsolidate_outcome prev next with e | ⟨p, n, ps, ns, _, _, _, hp, hn, e⟩
  · rw [e]; exact hi
  · rw [e]; exact merge_inv hi _ hp hn

/-- The helper with the neighbours taken as given (`addConsolidateOld`, Lemmas/SelfMergeBridge.lean) preserves the
    invariant. -/
theorem addConsolidateOld_inv {f : Forest} (hi : f.Inv) (node : Nat) (prev next : Option Nat) :
    (f.addConsolidateOld node prev next).1.Inv := by
  rcases f.addConsolidateOld_outcome node prev next with
    e | ⟨added, _, ha, ⟨p, ps, _, hp, e⟩ | ⟨n, ns, _, hn, e⟩⟩
  · rw [e]; exact hi
  · rw [e]; exact merge_inv hi _ hp ha
  · rw [e]; exact merge_inv hi _ hn ha

/-- `add_consolidate_text_nodes` (/repo eccbbb7: a neighbour that is the node itself is read as the
    node's own sibling) preserves the invariant, whatever its arguments. -/
theorem addConsolidate_inv {f : Forest} (hi : f.Inv) (node : Nat) (prev next : Option Nat) :
    (f.addConsolidate node prev next).1.Inv := by
  rw [addConsolidate_eq_old]; exact addConsolidateOld_inv hi _ _ _

theorem addConsolidate_false {f f' : Forest} {node : Nat} {prev next : Option Nat}
    (h : f.addConsolidate node prev next = (f', false)) : f' = f := by
  rw [addConsolidate_eq_old] at h
  rcases f.addConsolidateOld_outcome node (f.selfPrev node prev) (f.selfNext node next) with
    e | ⟨_, _, _, ⟨_, _, _, _, e⟩ | ⟨_, _, _, _, e⟩⟩
  · rw [e] at h; cases h; rfl
  · rw [e] at h; cases h
  · rw [e] at h; cases h

theorem removeConsolidate_false {f f' : Forest} {prev next : Option Nat}
    (h : f.removeConsolidate prev next = (f', false)) : f' = f := by
  rcases f.removeConsolidate_outcome prev next with e | ⟨_, _, _, _, _, _, _, _, _, e⟩
  · rw [e] at h; cases h; rfl
  · rw [e] at h; cases h

/-- With consolidation on and a text `node`, a text `prev` makes `add_consolidate_text_nodes` merge. -/
theorem addConsolidate_prev_true {f : Forest} {node p : Nat} {a ps : Str} (next : Option Nat)
    (hc : f.consolidation = true) (hn : f.textOf node = some a) (hp : f.textOf p = some ps)
    (hne : p ≠ node) :
    (f.addConsolidate node (some p) next).2 = true := by
  rw [addConsolidate_eq_old, selfPrev_of_ne (by simpa using hne)]
  unfold addConsolidateOld
  simp [hc, hn, hp]

/-- With consolidation on and a text `node`, a text `next` makes `add_consolidate_text_nodes` merge. -/
theorem addConsolidate_next_true {f : Forest} {node n : Nat} {a ns : Str} (prev : Option Nat)
    (hc : f.consolidation = true) (hn : f.textOf node = some a) (hx : f.textOf n = some ns)
    (hne : n ≠ node) :
    (f.addConsolidate node prev (some n)).2 = true := by
  rw [addConsolidate_eq_old, selfNext_of_ne (by simpa using hne)]
  generalize f.selfPrev node prev = prev
  unfold addConsolidateOld
  simp only [hc, Bool.not_true, Bool.false_eq_true, if_false, hn, hx]
  cases prev with
  | none => rfl
  | some p =>
    simp only
    cases f.textOf p <;> rfl

theorem textOf_of_value? {f : Forest} {x : Nat} {v : Value} (hv : f.value? x = some v)
    (ht : v.isText = true) : ∃ s, f.textOf x = some s := by
  obtain ⟨s, rfl⟩ := exists_text_of_isText ht
  exact ⟨s, (textOf_eq_some_iff _ _ _).mpr hv⟩

end Forest
end XotModel
