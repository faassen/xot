/-
  The frame of the pair reading (`specRemoveP`, `specMoveP`) for every forest with the invariant,
  and with the pair theorems the frame theorems of `remove`, `append`, `prepend`, `insert_after`,
  `insert_before` without `Forest.Normal`.  `specRemoveP = specRemove`, `specDetachP = specDetach`,
  and `specMoveP = specMove` from xot's argument checks, on forests without adjacent text nodes.
-/
import XotModel.Lemmas.FspecPairReplace
import XotModel.Lemmas.FspecPairAppend
import XotModel.Lemmas.FspecPairBefore
import XotModel.Lemmas.BasicFacts

/-! ## The frame of `specRemoveP` and `specMoveP` -/

namespace XotModel
open HTree Spec

namespace PairAll

/-! ### The optional merges (consolidation on / off) as list functions -/

theorem _root_.XotModel.Spec.TextMerge.of_newOpt (c : Bool) (n : Nat) (L : List HTree) : TextMerge L (newOpt c n L) := by
  unfold newOpt
  split
  · exact TextMerge.of_mergeNew n L
  · exact TextMerge.refl L

theorem newOpt_sublist (c : Bool) (n : Nat) (L : List HTree) :
    (handlesList (newOpt c n L)).Sublist (handlesList L) :=
  (TextMerge.of_newOpt c n L).handles_sublist

theorem leafZ_pairOpt {z : Nat} (c : Bool) (nb : Option Nat × Option Nat) {M : List HTree} (h : LeafZ z M) :
    LeafZ z (pairOpt c nb M) :=
  ((TextMerge.of_pairOpt c nb M).leafZ h).1

theorem findList?_newOpt {z : Nat} (c : Bool) (n : Nat) {L : List HTree} (h : LeafZ z L) :
    findList? z (newOpt c n L) = findList? z L :=
  ((TextMerge.of_newOpt c n L).leafZ h).2

theorem leafZ_insert {z : Nat} {dest : Dest} {t : HTree} {L : List HTree} (h : LeafZ z L)
    (ht : t.value.isText = true → t.kids = [] ∧ t.handle ≠ z) : LeafZ z (dest.insert t L) := by
  intro k hk hkt
  cases mem_insert hk with
  | inl e => rw [e] at hkt ⊢; exact ht hkt
  | inr e => exact h k e hkt

theorem leafZ_of_site {f : Forest} {p : Nat} {v : Value} {L : List HTree} (s : SiteAt f p v L) {b : Bool}
    (hv : validList b f.roots = true) {x : Nat} {cx : Ctx} (hx : f.ctx? x = some cx) : LeafZ cx.parent L := by
  intro k hk hkt
  have hkl := s.leaf hv k hk hkt
  exact ⟨hkl, not_text_leaf_of_parent s.nd hx (PairAfter.site_getKid s hk) hkl⟩

end PairAll

open PairAll

/-! ### remove -/

theorem specRemoveP_root {f : Forest} {n : Nat} (h : f.parent? n = none) :
    specRemoveP n f = f.editAt none (dropTop n) := by
  unfold specRemoveP; rw [h]; rfl

theorem specRemoveP_kid {f : Forest} {n p : Nat} (h : f.parent? n = some p) :
    specRemoveP n f = f.editAt (some p) (pairOpt f.consolidation (f.nbOf n) ∘ dropTop n) := by
  unfold specRemoveP
  rw [h]
  simp only
  rw [mergeLeftAt_eq_pairOpt, Forest.editAt_consolidation, Forest.editAt_editAt]

theorem count_specRemoveP {f : Forest} {n : Nat} {t : HTree} (nd : f.allHandles.Nodup)
    (hg : f.get? n = some t) (z : Nat) :
    (specRemoveP n f).allHandles.count z + (handles t).count z ≤ f.allHandles.count z := by
  obtain rfl : t.handle = n := (findList?_some f.roots t hg).1
  rcases PairAll.root_or_site nd hg with hroot | ⟨p, v, l, r, hctx, so⟩
  · rw [specRemoveP_root (Forest.parent?_of_no_ctx (Forest.ctx_none_of_root nd hroot))]
    exact Nat.le_of_eq (count_dropTop_root nd hg hroot z)
  · have hpar : f.parent? t.handle = some p := Forest.parent?_of_ctx? hctx
    rw [specRemoveP_kid hpar]
    obtain ⟨ndL, _⟩ := so.nodupKids
    obtain ⟨tl, tr⟩ := tops_ne_of_nodup ndL
    have h1 := so.count (pairOpt f.consolidation (f.nbOf t.handle) ∘ dropTop t.handle) z
    simp only [Function.comp] at h1
    rw [dropTop_mid rfl tl tr] at h1
    have h2 := (pairOpt_sublist f.consolidation (f.nbOf t.handle) (l ++ r)).count_le z
    have h3 := count_handles_mid z l t r
    omega

/-- The text children of the node `p` are not `z`. -/
def TextFree (f : Forest) (z : Nat) (p : Option Nat) : Prop :=
  ∀ q v L, p = some q → f.get? q = some (.node q v L) → ∀ k ∈ L, k.value.isText = true → k.handle ≠ z

theorem leafZ_of_textFree {f : Forest} {z p : Nat} {v : Value} {L : List HTree} {b : Bool} (so : SiteAt f p v L)
    (hv : validList b f.roots = true) (h : TextFree f z (some p)) : LeafZ z L :=
  fun k hk hkt => ⟨so.leaf hv k hk hkt, h p v L rfl so.kids k hk hkt⟩

/-- A node with a child is not a text child of anything. -/
theorem textFree_of_ctx {f : Forest} (inv : f.Inv) {x : Nat} {cx : Ctx} (hx : f.ctx? x = some cx)
    (p : Option Nat) : TextFree f cx.parent p := by
  intro q v L e hg k hk hkt hkz
  subst e
  exact (leafZ_of_site ⟨inv.nodup, hg⟩ inv.valid hx k hk hkt).2 hkz

/-- **`specRemoveP` leaves alone** every node that is not the parent of `n`, not a text child of it and
    not inside the subtree of `n`. -/
theorem nodeFrame_specRemoveP {f : Forest} {n : Nat} {t : HTree} (inv : f.Inv)
    (hg : f.get? n = some t) {z : Nat}
    (h1 : some z ≠ f.parent? n) (hT : TextFree f z (f.parent? n)) (h3 : z ∉ handles t) :
    NodeFrame f (specRemoveP n f) z := by
  have nd := inv.nodup
  obtain rfl : t.handle = n := (findList?_some f.roots t hg).1
  rcases PairAll.root_or_site nd hg with hroot | ⟨p, v, l, r, hctx, so⟩
  · rw [specRemoveP_root (Forest.parent?_of_no_ctx (Forest.ctx_none_of_root nd hroot))]
    intro u hu
    refine ⟨u, ?_, rfl⟩
    show findList? z (dropTop t.handle f.roots) = some u
    rw [findList?_dropTop f.roots (by
      intro k hk hkn
      rw [root_is nd hg k hk hkn]; exact h3)]
    exact hu
  · have hpar : f.parent? t.handle = some p := Forest.parent?_of_ctx? hctx
    rw [hpar] at h1 hT
    have hne : z ≠ p := fun e => h1 (by rw [e])
    rw [specRemoveP_kid hpar]
    obtain ⟨ndL, _⟩ := so.nodupKids
    have hLZ := leafZ_of_textFree so inv.valid hT
    apply so.nodeFrame _ hne
    simp only [Function.comp]
    rw [findList?_pairOpt, findList?_dropTop]
    · intro k' hk' hkc
      rw [PairAfter.eq_of_handle ndL hk' (by simp) hkc]
      exact h3
    · exact fun k' hk' => hLZ k' (mem_of_mem_dropTop hk')

theorem nodup_specRemoveP {f : Forest} {n : Nat} {t : HTree} (nd : f.allHandles.Nodup)
    (hg : f.get? n = some t) : (specRemoveP n f).allHandles.Nodup :=
  List.nodup_iff_count.2 (fun z =>
    Nat.le_trans (Nat.le_trans (Nat.le_add_right _ _) (count_specRemoveP nd hg z)) (List.nodup_iff_count.1 nd z))

/-- Frame of `specRemoveP` (and of the first half of a move). -/
theorem frame_specRemoveP {f : Forest} {n : Nat} {t : HTree} (inv : f.Inv)
    (hg : f.get? n = some t) {x : Nat} {cx : Ctx} (hx : f.ctx? x = some cx)
    (h1 : some cx.parent ≠ f.parent? n) (h3 : cx.parent ∉ handles t) (_h4 : x ∉ handles t) :
    ∃ cx', (specRemoveP n f).ctx? x = some cx' ∧ cx'.shape = cx.shape :=
  (nodeFrame_specRemoveP inv hg h1 (textFree_of_ctx inv hx _) h3).ctxShape inv.nodup
    (nodup_specRemoveP inv.nodup hg) hx

/-! ### moves -/

/-- The second half of a move: `t` is put into the child list of `q` in `Y` and merged with a neighbour. -/
theorem nodeFrame_insert_stepP {Y : Forest} {dest : Dest} {t : HTree} {q : Nat} {vq : Value} (c : Nat)
    {LY : List HTree} (sY : SiteAt Y q vq LY) {z : Nat} (hne : z ≠ q)
    (hleaf : LeafZ z LY)
    (hleaft : t.value.isText = true → t.kids = [] ∧ t.handle ≠ z)
    (hpt : z ∉ handles t) :
    NodeFrame Y ((Y.editAt (some q) (dest.insert t)).mergeNewAt q c) z := by
  rw [mergeNewAt_eq_newOpt, Forest.editAt_consolidation, Forest.editAt_editAt]
  apply sY.nodeFrame _ hne
  simp only [Function.comp]
  rw [findList?_newOpt _ _ (leafZ_insert hleaf hleaft), findList?_insert hpt]

theorem nodup_insert_stepP {Y : Forest} {dest : Dest} {t : HTree} {q : Nat} {vq : Value} (c : Nat)
    {LY : List HTree} (sY : SiteAt Y q vq LY)
    (hcount : ∀ z, Y.allHandles.count z + (handles t).count z ≤ 1) :
    ((Y.editAt (some q) (dest.insert t)).mergeNewAt q c).allHandles.Nodup := by
  rw [mergeNewAt_eq_newOpt, Forest.editAt_consolidation, Forest.editAt_editAt]
  apply sY.nodup_of_count
  intro z
  simp only [Function.comp]
  have h1 := (newOpt_sublist Y.consolidation c (dest.insert t LY)).count_le z
  have h2 := count_insert_le z dest t LY
  have h3 := hcount z
  omega

/-- **A move, pair reading**, for every forest with the invariant: the handles stay distinct, and every
    node that is neither of the two parents, not a text child of either and not inside the moved
    subtree is left alone. -/
theorem specMoveP_nodeFrame {f : Forest} {dest : Dest} {c : Nat} {t : HTree} {q : Nat} {vq : Value}
    {Lq : List HTree} (inv : f.Inv) (hgc : f.get? c = some t) (sq : SiteAt f q vq Lq) (hqt : q ∉ handles t)
    (hvq : vq.isText = false) (hsite : dest.site f = some q) :
    (specMoveP dest c f).allHandles.Nodup ∧
    ∀ {z : Nat}, z ≠ q → some z ≠ f.parent? c → z ∉ handles t → TextFree f z (some q) →
      TextFree f z (f.parent? c) → NodeFrame f (specMoveP dest c f) z := by
  have nd := inv.nodup
  cases hocc : dest.occupiedBy f c with
  | true =>
    rw [specMoveP_occupied hocc]
    exact ⟨nd, fun _ _ _ _ _ => .refl f _⟩
  | false =>
  rw [specMoveP_unfold hocc hgc hsite]
  obtain rfl : t.handle = c := (findList?_some f.roots t hgc).1
  have hleaft : ∀ {z : Nat}, z ∉ handles t → t.value.isText = true → t.kids = [] ∧ t.handle ≠ z :=
    fun h3 ht => ⟨leaf_of_text inv.valid hgc ht, fun e => h3 (e ▸ handle_mem_handles t)⟩
  -- cut and graft in different child lists: the frame of the cut, then that of the graft
  have far : ∀ LY, SiteAt (specRemoveP t.handle f) q vq LY →
      (((specRemoveP t.handle f).editAt (some q) (dest.insert t)).mergeNewAt q t.handle).allHandles.Nodup ∧
      ∀ {z : Nat}, z ≠ q → some z ≠ f.parent? t.handle → z ∉ handles t → TextFree f z (f.parent? t.handle) →
        LeafZ z LY →
        NodeFrame f (((specRemoveP t.handle f).editAt (some q) (dest.insert t)).mergeNewAt q t.handle) z := by
    intro LY sY
    refine ⟨nodup_insert_stepP (dest := dest) t.handle sY (fun z => ?_), fun h1 h2 h3 hTo hLY =>
      (nodeFrame_specRemoveP inv hgc h2 hTo h3).trans
        (nodeFrame_insert_stepP (dest := dest) t.handle sY h1 hLY (hleaft h3) h3)⟩
    have := count_specRemoveP nd hgc z
    have := (List.nodup_iff_count.1 nd) z
    omega
  rcases SiteAt.mover sq hgc with hno | ⟨l, r, hctx, rfl⟩ | ⟨po, vo, l, r, hpq, hctx, so⟩
  · have hpar := Forest.parent?_of_no_ctx hno
    rw [hpar, Forest.nbOf_root hpar, Forest.mergeLeftAt_none, ← specRemoveP_root hpar]
    obtain ⟨n1, fr⟩ := far Lq (by rw [specRemoveP_root hpar]; exact sq.dropRoot hgc hqt)
    exact ⟨n1, fun h1 h2 h3 hTq hTo => fr h1 (hpar ▸ h2) h3 (hpar ▸ hTo) (leafZ_of_textFree sq inv.valid hTq)⟩
  · -- one child list: one edit
    obtain ⟨ndL, _⟩ := sq.nodupKids
    obtain ⟨tl, tr⟩ := tops_ne_of_nodup ndL
    have hdrop : dropTop t.handle (l ++ t :: r) = l ++ r := dropTop_mid rfl tl tr
    rw [Forest.parent?_of_ctx? hctx, mergeLeftAt_eq_pairOpt, mergeNewAt_eq_newOpt]
    simp only [Forest.editAt_consolidation]
    rw [Forest.editAt_editAt, Forest.editAt_editAt, Forest.editAt_editAt]
    constructor
    · apply sq.nodup_of_count
      intro z
      simp only [Function.comp]
      rw [hdrop]
      have c1 := (newOpt_sublist f.consolidation t.handle
        (pairOpt f.consolidation (f.nbOf t.handle) (dest.insert t (l ++ r)))).count_le z
      have c2 := (pairOpt_sublist f.consolidation (f.nbOf t.handle) (dest.insert t (l ++ r))).count_le z
      have c3 := count_insert_le z dest t (l ++ r)
      have c4 := count_handles_mid z l t r
      have c5 := (List.nodup_iff_count.1 nd) z
      omega
    · intro z h1 _ h3 hTq _
      have hleafq : LeafZ z (l ++ t :: r) := leafZ_of_textFree sq inv.valid hTq
      apply sq.nodeFrame _ h1
      simp only [Function.comp]
      rw [hdrop]
      have hLZ1 : LeafZ z (dest.insert t (l ++ r)) :=
        leafZ_insert (fun k' hk' => hleafq k' (fs_mem_mid_of_mem _ hk')) (hleaft h3)
      rw [findList?_newOpt _ _ (leafZ_pairOpt _ _ hLZ1), findList?_pairOpt _ _ hLZ1, findList?_insert h3,
        ← hdrop, findList?_dropTop]
      intro k' hk' hkc
      rw [PairAfter.eq_of_handle ndL hk' (by simp) hkc]
      exact h3
  · -- another child list: the old-place merge moved in front of the graft
    have hpar := Forest.parent?_of_ctx? hctx
    have hkm := kidMap_editAt po (pairOpt f.consolidation (f.nbOf t.handle) ∘ dropTop t.handle)
    rw [hpar, mergeLeftAt_eq_pairOpt]
    simp only [Forest.editAt_consolidation]
    rw [Forest.editAt_comm _ hpq (natFor_pairOpt (kidMap_editAt _ _) _ _)
      (natFor_insert (kidMap_editAt _ _) (editAt_of_not_mem t so.not_mem_kid) dest), Forest.editAt_editAt,
      ← specRemoveP_kid hpar]
    have sY := site_after_leave so sq inv.valid hpq hqt hvq f.consolidation (f.nbOf t.handle)
    rw [← specRemoveP_kid hpar] at sY
    obtain ⟨n1, fr⟩ := far _ sY
    refine ⟨n1, fun {z} h1 h2 h3 hTq hTo => fr h1 (hpar ▸ h2) h3 (hpar ▸ hTo) (fun k' hk' hkt => ?_)⟩
    have hleafq : LeafZ z Lq := leafZ_of_textFree sq inv.valid hTq
    obtain ⟨k0, hk0, e⟩ := List.mem_map.1 hk'
    subst e
    rw [hkm.value] at hkt
    obtain ⟨hl0, hz0⟩ := hleafq k0 hk0 hkt
    exact ⟨ReplGapNF.editAt_kids_leaf hl0 (PairAfter.leaf_ne_site so (PairAfter.site_getKid sq hk0) hl0),
      by rw [hkm.handle]; exact hz0⟩

/-- **Frame of a move, pair reading**: for every forest with the invariant. -/
theorem frame_specMoveP {f : Forest} {dest : Dest} {c : Nat} {t : HTree} {q : Nat} {vq : Value}
    {Lq : List HTree} (inv : f.Inv) (hgc : f.get? c = some t) (sq : SiteAt f q vq Lq) (hqt : q ∉ handles t)
    (hvq : vq.isText = false) (hsite : dest.site f = some q)
    {x : Nat} {cx : Ctx} (hx : f.ctx? x = some cx)
    (h1 : cx.parent ≠ q) (h2 : some cx.parent ≠ f.parent? c) (h3 : cx.parent ∉ handles t) (h4 : x ∉ handles t) :
    ∃ cx', (specMoveP dest c f).ctx? x = some cx' ∧ cx'.shape = cx.shape := by
  obtain ⟨nd', fr⟩ := specMoveP_nodeFrame (dest := dest) inv hgc sq hqt hvq hsite
  exact (fr h1 h2 h3 (textFree_of_ctx inv hx _) (textFree_of_ctx inv hx _)).ctxShape inv.nodup nd' hx

end XotModel

/-! ## The calls -/

namespace XotModel
open HTree Spec

/-- The frame of a move that passes `add_structure_check` for the destination parent `q`,
    whatever the place among the children of `q`. -/
theorem move_frame_all {f : Forest} {dest : Dest} {q c : Nat} {t : HTree} (inv : f.Inv)
    (hsite : f.isLive q = true → dest.site f = some q) (hsc : f.structureCheck (some q) c = true)
    (hgc : f.get? c = some t) {x : Nat} {cx : Ctx} (hx : f.ctx? x = some cx)
    (h1 : cx.parent ≠ q) (h2 : some cx.parent ≠ f.parent? c) (h3 : cx.parent ∉ handles t) (h4 : x ∉ handles t) :
    ∃ cx', (specMoveP dest c f).ctx? x = some cx' ∧ cx'.shape = cx.shape := by
  obtain ⟨vq, Lq, t', hgq, hgc', hqt, _, _, hvq⟩ := Forest.structureCheck_unpack inv.nodup hsc
  rw [hgc] at hgc'
  cases hgc'
  exact frame_specMoveP inv hgc ⟨inv.nodup, hgq⟩ hqt (isText_false_of_kind hvq)
    (hsite (Forest.isLive_of_get? hgq)) hx h1 h2 h3 h4

theorem append_frame_all {f : Forest} {p c : Nat} {t : HTree} (inv : f.Inv)
    (hok : (f.append p c).2 = .ok) (hgc : f.get? c = some t)
    {x : Nat} {cx : Ctx} (hx : f.ctx? x = some cx)
    (h1 : cx.parent ≠ p) (h2 : some cx.parent ≠ f.parent? c) (h3 : cx.parent ∉ handles t) (h4 : x ∉ handles t) :
    ∃ cx', (f.append p c).1.ctx? x = some cx' ∧ cx'.shape = cx.shape := by
  rw [append_pair inv hok]
  rw [Forest.append_eq] at hok
  exact move_frame_all (dest := .lastChildOf p) inv (fun hl => if_pos hl) (check_of_ok hok) hgc hx h1 h2 h3 h4

theorem prepend_frame_all {f : Forest} {p c : Nat} {t : HTree} (inv : f.Inv)
    (hok : (f.prepend p c).2 = .ok) (hgc : f.get? c = some t)
    {x : Nat} {cx : Ctx} (hx : f.ctx? x = some cx)
    (h1 : cx.parent ≠ p) (h2 : some cx.parent ≠ f.parent? c) (h3 : cx.parent ∉ handles t) (h4 : x ∉ handles t) :
    ∃ cx', (f.prepend p c).1.ctx? x = some cx' ∧ cx'.shape = cx.shape := by
  rw [prepend_pair inv hok]
  rw [Forest.prepend_eq] at hok
  exact move_frame_all (dest := .firstNormalChildOf p) inv (fun hl => if_pos hl) (check_of_ok hok) hgc hx h1 h2 h3 h4

theorem insertAfter_frame_all {f : Forest} {r c q : Nat} {t : HTree} (inv : f.Inv)
    (hok : (f.insertAfter r c).2 = .ok) (hgc : f.get? c = some t) (hq : f.parent? r = some q)
    {x : Nat} {cx : Ctx} (hx : f.ctx? x = some cx)
    (h1 : cx.parent ≠ q) (h2 : some cx.parent ≠ f.parent? c) (h3 : cx.parent ∉ handles t) (h4 : x ∉ handles t) :
    ∃ cx', (f.insertAfter r c).1.ctx? x = some cx' ∧ cx'.shape = cx.shape := by
  rw [insertAfter_pair inv hok]
  rw [Forest.insertAfter_eq, hq] at hok
  exact move_frame_all (dest := .after r) inv (fun _ => hq) (check_of_ok hok) hgc hx h1 h2 h3 h4

theorem insertBefore_frame_all {f : Forest} {r c q : Nat} {t : HTree} (inv : f.Inv)
    (hok : (f.insertBefore r c).2 = .ok) (hgc : f.get? c = some t) (hq : f.parent? r = some q)
    {x : Nat} {cx : Ctx} (hx : f.ctx? x = some cx)
    (h1 : cx.parent ≠ q) (h2 : some cx.parent ≠ f.parent? c) (h3 : cx.parent ∉ handles t) (h4 : x ∉ handles t) :
    ∃ cx', (f.insertBefore r c).1.ctx? x = some cx' ∧ cx'.shape = cx.shape := by
  rw [insertBefore_pair inv hok]
  rw [Forest.insertBefore_eq, hq] at hok
  exact move_frame_all (dest := .before r) inv (fun _ => hq) (check_of_ok hok) hgc hx h1 h2 h3 h4

theorem remove_frame_all {f : Forest} {n : Nat} {t : HTree} (inv : f.Inv)
    (hg : f.get? n = some t) {x : Nat} {cx : Ctx} (hx : f.ctx? x = some cx)
    (h1 : some cx.parent ≠ f.parent? n) (h3 : cx.parent ∉ handles t) (h4 : x ∉ handles t) :
    ∃ cx', (f.remove n).1.ctx? x = some cx' ∧ cx'.shape = cx.shape := by
  rw [remove_pair inv (Forest.isLive_of_get? hg)]
  exact frame_specRemoveP inv hg hx h1 h3 h4

end XotModel

/-! ## `specRemoveP = specRemove` on forests without adjacent text -/

namespace XotModel
open HTree Spec PairAll

/-- The two readings of `remove` agree on forests without adjacent text nodes (any survivor rule
    that keeps a node other than the removed one when it is the earlier one). -/
theorem specRemoveP_eq_specRemove {f : Forest} {n : Nat} {keep : Keep} {t : HTree} (inv : f.Inv) (norm : f.Normal)
    (hkeep : ∀ a b, a ≠ n → keep a b = true) (hg : f.get? n = some t) :
    specRemoveP n f = specRemove keep n f := by
  have nd := inv.nodup
  rcases PairAll.root_or_site nd hg with hroot | ⟨p, v, l, r, hctx, so⟩
  · have hp := Forest.parent?_of_no_ctx (Forest.ctx_none_of_root nd hroot)
    rw [specRemoveP_root hp, specRemove_root hp]
  · obtain rfl : t.handle = n := (findList?_some f.roots t hg).1
    have hpar : f.parent? t.handle = some p := Forest.parent?_of_ctx? hctx
    rw [specRemoveP_kid hpar, specRemove_kid hpar]
    exact cut_pairOpt_eq_mergeOpt norm so hkeep

end XotModel

/-! ## `specMoveP = specMove` from the argument checks of the four moves -/

namespace XotModel
open HTree Spec PairAll

/-- A move below a parent (`append` / `prepend`) that passes `add_structure_check`. -/
theorem specMoveP_eq_specMove_under {f : Forest} {p c : Nat} (inv : f.Inv) (norm : f.Normal)
    (hsc : f.structureCheck (some p) c = true) :
    specMoveP (.lastChildOf p) c f = specMove (Keep.resident c) (.lastChildOf p) c f ∧
    specMoveP (.firstNormalChildOf p) c f = specMove (Keep.resident c) (.firstNormalChildOf p) c f := by
  have nd := inv.nodup
  obtain ⟨vp, Lp, t, hgp, hgc, hpt, _, _, hvp⟩ := Forest.structureCheck_unpack nd hsc
  have hvq := isText_false_of_kind hvp
  have h := fun dest hs hr => specMoveP_eq_specMove (dest := dest) inv norm hgc ⟨nd, hgp⟩ hpt hvq hs hr
  exact ⟨h _ (by simp [Dest.site, Forest.isLive_of_get? hgp]) (fun x h => by rcases h with h | h <;> cases h),
    h _ (by simp [Dest.site, Forest.isLive_of_get? hgp]) (fun x h => by rcases h with h | h <;> cases h)⟩

/-- A move next to a reference node (`insert_after` / `insert_before`) that passes
    `add_structure_check` and `sibling_reference_check`. -/
theorem specMoveP_eq_specMove_beside {f : Forest} {r c : Nat} (inv : f.Inv) (norm : f.Normal)
    (hsc : f.structureCheck (f.parent? r) c = true) (hsr : f.siblingReferenceCheck r c = true) :
    specMoveP (.after r) c f = specMove (Keep.resident c) (.after r) c f ∧
    specMoveP (.before r) c f = specMove (Keep.resident c) (.before r) c f := by
  have nd := inv.nodup
  obtain ⟨q, vq, A, kr, B, t, sq, ekr, _, hrc, hgc, hqt, _, _, hvq⟩ := sibling_checks_unpack nd hsc hsr
  subst ekr
  have hq : f.parent? kr.handle = some q := Forest.parent?_of_ctx? sq.ctx
  have h := fun dest hs hr => specMoveP_eq_specMove (dest := dest) inv norm hgc sq hqt hvq hs hr
  exact ⟨h _ hq (fun x h => by
        rcases h with h | h
        · injection h with h; rw [← h]; exact hrc
        · cases h),
    h _ hq (fun x h => by
        rcases h with h | h
        · cases h
        · injection h with h; rw [← h]; exact hrc)⟩

end XotModel

/-! ## `specDetachP = specDetach` on forests without adjacent text -/

namespace XotModel
open HTree Spec PairAll

theorem specDetachP_eq_specDetach {f : Forest} {n : Nat} {keep : Keep} {t : HTree} (inv : f.Inv) (norm : f.Normal)
    (hkeep : ∀ a b, a ≠ n → keep a b = true) (hg : f.get? n = some t) :
    specDetachP n f = specDetach keep n f := by
  have nd := inv.nodup
  unfold specDetachP specDetach
  rw [hg]
  simp only
  rcases PairAll.root_or_site nd hg with hroot | ⟨p, v, l, r, hctx, so⟩
  · have hp := Forest.parent?_of_no_ctx (Forest.ctx_none_of_root nd hroot)
    rw [hp]
    rfl
  · obtain rfl : t.handle = n := (findList?_some f.roots t hg).1
    have hpar : f.parent? t.handle = some p := Forest.parent?_of_ctx? hctx
    rw [hpar]
    obtain ⟨ndL, _⟩ := so.nodupKids
    obtain ⟨tl, tr⟩ := tops_ne_of_nodup ndL
    rw [mergeLeftAt_eq_pairOpt, mergeAt_eq_mergeOpt]
    apply so.detached.congr
    exact pairOpt_eq_mergeOpt norm so hkeep

end XotModel
