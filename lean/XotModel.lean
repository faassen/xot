-- Umbrella: models and drivers only. Lemma and property modules are built per property
-- (`lake build XotModel.Props.Cxx`).  Helper lemma names are unique across all lemma files (since the
-- end-to-end theorems of Props/C01, C10, C15 import the forest and the text families together): one
-- module can import all twenty Props files.
import XotModel.Generated
import XotModel.Driver.Arena
import XotModel.Driver.ArenaRefine
import XotModel.Driver.Axes
import XotModel.Driver.Codec
import XotModel.Driver.Compare
import XotModel.Driver.Entity
import XotModel.Driver.Fanyorder
import XotModel.Driver.Fanyorder2
import XotModel.Driver.Fanyorder3
import XotModel.Driver.Fclone
import XotModel.Driver.Fidx
import XotModel.Driver.Ffixed
import XotModel.Driver.Fmap
import XotModel.Driver.Forest
import XotModel.Driver.Fprefix
import XotModel.Driver.Fspec
import XotModel.Driver.Html5
import XotModel.Driver.IdMap
import XotModel.Driver.Output
import XotModel.Driver.Parse
import XotModel.Driver.Repair
import XotModel.Driver.Scope
import XotModel.Driver.SerTokens
import XotModel.Driver.Accepted
import XotModel.Driver.Tree
import XotModel.Driver.TreeCodec
import XotModel.Model.Arena
import XotModel.Model.ArenaIter
import XotModel.Model.ArenaOps
import XotModel.Model.ArenaWf
import XotModel.Model.Axes
import XotModel.Model.ValueAccess
import XotModel.Model.AxesChildLists
import XotModel.Model.Basic
import XotModel.Model.Compare
import XotModel.Model.Entity
import XotModel.Model.Env
import XotModel.Model.FanyorderSpec
import XotModel.Model.FanyorderSpec2
import XotModel.Model.FanyorderSpec3
import XotModel.Model.FatomSpec
import XotModel.Model.FatomSpec2
import XotModel.Model.FrefusalSpec
import XotModel.Model.FcloneModel
import XotModel.Model.FidIndex
import XotModel.Model.FcloneSpec
import XotModel.Model.FinvSpec
import XotModel.Model.FlocalSpec
import XotModel.Model.FhistSpec
import XotModel.Model.FparseHist
import XotModel.Model.Fixed
import XotModel.Model.Fcreation
import XotModel.Driver.Fcreation
import XotModel.Model.FmapEntry
import XotModel.Model.FmapSpec
import XotModel.Model.FmapSpec2
import XotModel.Model.FmapMixSpec
import XotModel.Model.FframeSpec
import XotModel.Model.FmapRet
import XotModel.Model.FmapNodes
import XotModel.Model.Forest
import XotModel.Model.ForestInv
import XotModel.Model.FspecSpec
import XotModel.Model.FspecSpec2
import XotModel.Model.FspecSpec3
import XotModel.Model.FspecSpec4
import XotModel.Model.FwsSpec
import XotModel.Model.Html5
import XotModel.Model.IdMap
import XotModel.Model.IdMapParse
import XotModel.Model.LexOK
import XotModel.Model.Manip
import XotModel.Model.Manip2
import XotModel.Model.Names
import XotModel.Model.Output
import XotModel.Model.OutputTypes
import XotModel.Model.Writer
import XotModel.Model.WriterBytes
import XotModel.Model.Parse
import XotModel.Model.ParseTypes
import XotModel.Model.Pretty
import XotModel.Model.Repair
import XotModel.Model.Scope
import XotModel.Model.XmlName
import XotModel.Model.SerTokens
import XotModel.Model.InnerStartSpec
import XotModel.Model.AcceptedGuard
import XotModel.Model.TokenShape
import XotModel.Model.TokenRender
import XotModel.Model.LexStream
import XotModel.Model.LexParse
import XotModel.Model.LexProgress
import XotModel.Model.Lex
import XotModel.Driver.Lex
import XotModel.Model.Tree
import XotModel.Model.Valid
import XotModel.Model.ValidDoc
import XotModel.Driver.ValidDoc
import XotModel.Model.XmlDecl
import XotModel.Model.Normalizer
import XotModel.Lemmas.NormalizerXml
import XotModel.Lemmas.NormalizerHtml
import XotModel.Lemmas.Writer
import XotModel.Lemmas.WriterXml
import XotModel.Lemmas.WriterHtml
import XotModel.Lemmas.WriterBytes
import XotModel.Lemmas.NormalizerFullwidth
import XotModel.Model.ParseString
import XotModel.Lemmas.LexCanonDefs
import XotModel.Lemmas.LexFreeStep
import XotModel.Lemmas.LexCanonParse
import XotModel.Lemmas.LexCanonStep
import XotModel.Lemmas.LexFree
import XotModel.Lemmas.LexCanon
import XotModel.Lemmas.LexSlice
import XotModel.Lemmas.LexReject
import XotModel.Lemmas.LexSliceOrder
import XotModel.Model.BytesLabels
import XotModel.Model.Bytes
import XotModel.Driver.Bytes
import XotModel.Lemmas.BytesCodec
import XotModel.Lemmas.BytesDecl
import XotModel.Lemmas.BytesDecode
import XotModel.Lemmas.BytesBait
import XotModel.Lemmas.ParseOps
import XotModel.Lemmas.IdMapParseTrace
import XotModel.Lemmas.ColonWitness
import XotModel.Model.FtravSpec
import XotModel.Model.FparseRouteSpec
